/-
  MODEL of the string encoders of `py_gql/lang/printer.py` (with the fixes C03-R1-R3, C03-R2, both in /repo):
  `print_string_value` (→ `json.dumps(value, ensure_ascii=False)` / `_block_string`), `_indent`,
  `_block_string` (with the `is_description` form that `_with_desc` of `Print.lean` calls).
-/
import PyGqlModel.Token

namespace PyGql.PrintString

def hexDigitLower (n : Nat) : Nat := if n < 10 then 48 + n else 87 + n

/-- one character of `json.dumps(s, ensure_ascii=False)`: `ESCAPE = [\x00-\x1f\\"\b\f\n\r\t]` -/
def jsonEscapeChar (c : Nat) : Text :=
  if c = 34 then [92, 34]
  else if c = 92 then [92, 92]
  else if c = 10 then [92, 110]
  else if c = 13 then [92, 114]
  else if c = 9 then [92, 116]
  else if c = 8 then [92, 98]
  else if c = 12 then [92, 102]
  else if c < 32 then [92, 117, 48, 48, hexDigitLower (c / 16), hexDigitLower (c % 16)]
  else [c]

def jsonEscape : Text → Text
  | [] => []
  | c :: t => jsonEscapeChar c ++ jsonEscape t

/-- `json.dumps(value, ensure_ascii=False)` -/
def jsonDumps (value : Text) : Text := 34 :: (jsonEscape value ++ [34])

/-- `value.replace('"""', '\\"""')` (leftmost, non-overlapping); `k > 0` = inside a replaced `"""` -/
def escapeTQAux : Nat → Text → Text
  | _, [] => []
  | k + 1, c :: t => c :: escapeTQAux k t
  | 0, c :: t =>
    if [34, 34, 34].isPrefixOf (c :: t) then 92 :: c :: escapeTQAux 2 t
    else c :: escapeTQAux 0 t

def escapeTripleQuotes (value : Text) : Text := escapeTQAux 0 value

/-- `s.replace("\n", "\n" + indent)` -/
def replaceLF (indent : Text) : Text → Text
  | [] => []
  | c :: t => if c = 10 then 10 :: (indent ++ replaceLF indent t) else c :: replaceLF indent t

/-- `_indent(maybe_string, indent)` -/
def indentText (s indent : Text) : Text :=
  if s.isEmpty then [] else indent ++ replaceLF indent s

/-- `_block_string(value, indent, is_description)` -/
def blockString (value indent : Text) (isDescription : Bool := false) : Text :=
  let escaped := escapeTripleQuotes value
  let tq : Text := [34, 34, 34]
  let startsBlank : Bool := match value with
    | c :: _ => c == 32 || c == 9
    | [] => false
  if startsBlank && !(value.contains 10) then
    let escaped :=
      if escaped.getLast? == some 34 || escaped.getLast? == some 92 then escaped ++ [10] else escaped
    tq ++ escaped ++ tq
  else
    tq ++ 10 :: ((if isDescription then escaped else indentText escaped indent) ++ 10 :: tq)

/-- `print_string_value(node)` -/
def printStringValue (value : Text) (block : Bool) (indent : Text) : Text :=
  if block then blockString value indent else jsonDumps value

/-- enclosing layout: `_indent` applied `k` times (selection sets / field blocks around the string) -/
def indentN (indent : Text) : Nat → Text → Text
  | 0, s => s
  | k + 1, s => indentText (indentN indent k s) indent

end PyGql.PrintString
