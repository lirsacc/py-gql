/-
  C19 — MODEL of `_nesting_levels` after proposed_fixes/C19-H3.patch (utilities/max_depth.py).

  The loop keeps ONE list of selections per level (the sub-selections of every field collected at the level, every
  selection node once) instead of one frontier entry per distinct tuple of merged sub-selections:

      levels = 0; level_selections = list(selections)
      while level_selections:
          if budget <= 0: raise ExpansionBudgetExhausted()
          collected = collect_fields_untyped(level_selections, …, _budget=budget)
          if not collected: break
          next_selections = [the selections of every field.selection_set of every group, each node once (by id)]
          levels += 1; budget -= 1; level_selections = next_selections
      return levels

  The `id`-deduplication is not modelled (the model's selections have no identity; a node listed twice is collected into
  the same group twice, which changes no maximum). No import from outside the project.
-/
import PyGqlModel.Depth

namespace PyGql.Depth

/-- `[selection for fields in collected.values() for field in fields if field.selection_set is not None
      for selection in field.selection_set.selections]` -/
def nextSelections (G : Grouped) : List Sel := G.flatMap fun kv => kv.2.flatMap (·.sub)

/-- the loop of `_nesting_levels` (C19-H3), strict `_skip_selection`; arguments: budget, levels so far, level selections -/
def nestingLevelsM (frags : List Frag) (vars : Vars) : Nat → Nat → List Sel → Except Err Nat
  | _, levels, [] => .ok levels                          -- `while level_selections:`
  | 0, _, _ :: _ => .error .recursion                    -- `if budget <= 0: raise ExpansionBudgetExhausted()`
  | b + 1, levels, s :: ss =>
    match collectFieldsUntyped (b + 1) (s :: ss) frags vars [] with
    | .error e => .error e
    | .ok ([], _) => .ok levels                          -- `if not collected: break`
    | .ok (kv :: G, _) => nestingLevelsM frags vars b (levels + 1) (nextSelections (kv :: G))

/-- … with `collect_fields_untyped(..., skip_selection=skipFn)` -/
def nestingLevelsMG (skipFn : Dirs → Vars → Except Err Bool) (frags : List Frag) (vars : Vars) :
    Nat → Nat → List Sel → Except Err Nat
  | _, levels, [] => .ok levels
  | 0, _, _ :: _ => .error .recursion
  | b + 1, levels, s :: ss =>
    match collectFieldsUntypedG skipFn (b + 1) (s :: ss) frags vars [] with
    | .error e => .error e
    | .ok ([], _) => .ok levels
    | .ok (kv :: G, _) => nestingLevelsMG skipFn frags vars b (levels + 1) (nextSelections (kv :: G))

/-- `depth = max(0, _nesting_levels(op.selection_set.selections, fragments, op_variables, budget) - 1)` -/
def depthFixedMG (skipFn : Dirs → Vars → Except Err Bool) (budget : Nat) (op : Op) (frags : List Frag) (vars : Vars) :
    Except Err Nat :=
  match nestingLevelsMG skipFn frags vars budget 0 op.sels with
  | .error e => .error e
  | .ok n => .ok (n - 1)

/-- `except ExpansionBudgetExhausted` / `except RecursionError`: the operation is reported as unbounded -/
def depthFixedMB (budget : Nat) (op : Op) (frags : List Frag) (vars : Vars) : Except Err (Option Nat) :=
  match depthFixedMG skipSelectionT budget op frags vars with
  | .ok d => .ok (some d)
  | .error .recursion => .ok none
  | .error e => .error e

/-- `MaxDepthValidationRule(limit, operation_name=filter)(schema, doc, raw)` after C19-H3.patch -/
def ruleM (limit : Nat) (filter : Option String) (doc : Doc) (defs : List (List VarDefR)) (raw : RawVars) :
    Except Err (List (Nat × Option Nat)) :=
  ruleLoopB (fun i op => depthFixedMB doc.budget op doc.frags (effectiveVarsR (defs.getD i []) raw))
    limit filter 0 doc.ops

end PyGql.Depth
