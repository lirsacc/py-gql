/-
  C10 — the sites of `null_error_bijection` are pairwise distinct, each is
  null in `data`, hence every site is matched by EXACTLY ONE error and every error by a site.
-/
import PyGqlModel.Response
import PyGqlModel.Spec.NullSites
import PyGqlModel.Props.C10_bijection
import PyGqlModel.Lemmas.ResponseCapture

namespace PyGql.Props.C10
open PyGql PyGql.Response PyGql.Spec.NullSites PyGql.Lemmas.ResponseCapture

mutual
private theorem list_shape (it : Ty) : ∀ (i : Nat) (items : OutList) (p : Path), p ∈ sitesList it i items →
    ∃ j q, i ≤ j ∧ p = Seg.idx j :: q
  | i, .nil, p, h => by simp [sitesList] at h
  | i, .cons o rest, p, h => by
    rw [sitesList, List.mem_append] at h
    rcases h with h | h
    · simp only [List.mem_map] at h
      obtain ⟨q, _, rfl⟩ := h
      exact ⟨i, q, Nat.le_refl _, rfl⟩
    · obtain ⟨j, q, hj, rfl⟩ := list_shape it (i + 1) rest p h
      exact ⟨j, q, by omega, rfl⟩
end

mutual
private theorem fields_shape : ∀ (fs : FldList) (p : Path), p ∈ sitesFields fs →
    ∃ k q, k ∈ keysOf fs ∧ p = Seg.key k :: q
  | .nil, p, h => by simp [sitesFields] at h
  | .cons key ty nodes o rest, p, h => by
    rw [sitesFields, List.mem_append] at h
    rcases h with h | h
    · simp only [List.mem_map] at h
      obtain ⟨q, _, rfl⟩ := h
      exact ⟨key, q, by simp [keysOf], rfl⟩
    · obtain ⟨k, q, hk, rfl⟩ := fields_shape rest p h
      exact ⟨k, q, by simp [keysOf, hk], rfl⟩
end

private theorem inner_ne_nil (t : Ty) (o : Out) (p : Path) (h : p ∈ sitesInner t o) : p ≠ [] := by
  cases o with
  | null => simp [sitesInner] at h
  | leaf v => simp [sitesInner] at h
  | raised m e => simp [sitesInner] at h
  | list items =>
    cases t with
    | list it =>
      simp only [sitesInner] at h
      obtain ⟨j, q, _, rfl⟩ := list_shape it 0 items p h
      simp
    | named n => simp [sitesInner] at h
    | nonNull u => simp [sitesInner] at h
  | obj fields =>
    simp only [sitesInner] at h
    obtain ⟨k, q, _, rfl⟩ := fields_shape fields p h
    simp

/-- the sites of one child (those below it, then the child itself when flagged), under the child's segment `s`, in
    front of the sites `R` of the later children, none of which starts with `s` -/
private theorem nodup_child (s : Seg) (l R : List Path) (c : Bool) (hl : l.Nodup) (hne : ∀ p ∈ l, p ≠ [])
    (hR : R.Nodup) (hd : ∀ q, s :: q ∉ R) : ((l ++ if c then [[]] else []).map (s :: ·) ++ R).Nodup := by
  rw [List.nodup_append]
  refine ⟨?_, hR, ?_⟩
  · refine (List.pairwise_map.2 ?_ : List.Nodup _)
    have : (l ++ if c then [[]] else []).Nodup := by
      cases c with
      | false => simpa using hl
      | true => exact List.nodup_append.2 ⟨hl, List.pairwise_singleton _ _, fun a ha b hb => List.mem_singleton.1 hb ▸ hne a ha⟩
    exact this.imp fun h hc => h (List.cons.inj hc).2
  · intro a ha b hb hab
    obtain ⟨q, _, rfl⟩ := List.mem_map.1 ha
    exact hd q (hab ▸ hb)

mutual
private theorem nodup_inner (t : Ty) : ∀ (o : Out), keysDistinct o = true → (sitesInner t o).Nodup
  | .null, _ => List.nodup_nil
  | .leaf _, _ => List.nodup_nil
  | .raised _ _, _ => List.nodup_nil
  | .list items, h => by
    cases t with
    | list it => exact nodup_list it 0 items h
    | named n => exact List.nodup_nil
    | nonNull u => exact List.nodup_nil
  | .obj fields, h => by
    simp only [keysDistinct, Bool.and_eq_true, decide_eq_true_eq] at h
    exact nodup_fields fields h.1 h.2

private theorem nodup_list (it : Ty) : ∀ (i : Nat) (items : OutList), keysDistinctList items = true →
    (sitesList it i items).Nodup
  | i, .nil, _ => List.nodup_nil
  | i, .cons o rest, h => by
    simp only [keysDistinctList, Bool.and_eq_true] at h
    refine nodup_child _ _ _ _ (nodup_inner (innerTy it) o h.1) (inner_ne_nil _ _) (nodup_list it (i + 1) rest h.2) fun q hq => ?_
    obtain ⟨j, q', hj, hc⟩ := list_shape it (i + 1) rest _ hq
    cases hc
    omega

private theorem nodup_fields : ∀ (fs : FldList), (keysOf fs).Nodup → keysDistinctFields fs = true →
    (sitesFields fs).Nodup
  | .nil, _, _ => List.nodup_nil
  | .cons key ty nodes o rest, hk, h => by
    simp only [keysDistinctFields, Bool.and_eq_true] at h
    simp only [keysOf, List.nodup_cons] at hk
    refine nodup_child _ _ _ _ (nodup_inner (innerTy ty) o h.1) (inner_ne_nil _ _) (nodup_fields rest hk.2 h.2) fun q hq => ?_
    obtain ⟨k, q', hk', hc⟩ := fields_shape rest _ hq
    cases hc
    exact hk.1 hk'
end

/-- the executed root selection has pairwise distinct response keys at every level (the executor
    groups fields by response key; observed by the correspondence on every tree) -/
def RootKeysDistinct (root : FldList) : Prop := (keysOf root).Nodup ∧ keysDistinctFields root = true

theorem null_sites_nodup (root : FldList) (h : RootKeysDistinct root) : (sitesFields root).Nodup :=
  nodup_fields root h.1 h.2

private theorem child_null {b : Bool} {t : Ty} {ns : List Nat} {p : Path} {o : Out} {v : J} {es : List Err}
    (hi : completeInner b t ns p o = some (v, es)) {c : Bool} (hc : c = true → completesNull o = true)
    (ih : ∀ q ∈ sitesInner t o, dataAt v q = some .null) :
    ∀ q ∈ sitesInner t o ++ (if c then [[]] else []), dataAt v q = some .null := by
  intro q hq
  rcases List.mem_append.1 hq with h | h
  · exact ih q h
  · cases c with
    | false => cases h
    | true =>
      obtain rfl := List.mem_singleton.1 h
      rw [isNull_eq v (by rw [inner_null_iff hi]; exact hc rfl)]
      rfl

/-- below a completed node every site is a null of the completed value (an item site `i + k` is looked up at `k`) -/
private theorem data_all :
    (∀ b t ns p o v es, completeInner b t ns p o = some (v, es) → keysDistinct o = true →
      ∀ q ∈ sitesInner t o, dataAt v q = some .null) ∧
    (∀ it ns p i items vs es, completeList it ns p i items = some (vs, es) → keysDistinctList items = true →
      ∀ q ∈ sitesList it i items, ∃ k q', q = Seg.idx (i + k) :: q' ∧ dataAt (.arr vs) (Seg.idx k :: q') = some .null) ∧
    (∀ p fs kvs es, executeFields p fs = some (kvs, es) → (keysOf fs).Nodup → keysDistinctFields fs = true →
      ∀ q ∈ sitesFields fs, dataAt (.obj kvs) q = some .null) := by
  refine capture_induction
    { null := fun b t ns p _ q hq => by cases hq
      raised := fun t ns p m x _ q hq => by cases hq
      leaf := fun b n ns p x _ q hq => by cases hq
      list := ?_
      obj := ?_
      lnil := fun it ns p i _ q hq => by cases hq
      lcons := ?_
      fnil := fun p _ _ q hq => by cases hq
      fcons := ?_ }
  · intro b it ns p items vs es ih hk q hq
    obtain ⟨k, q', rfl, h⟩ := ih hk q hq
    rwa [Nat.zero_add]
  · intro b n ns p fs kvs es ih hk
    simp only [keysDistinct, Bool.and_eq_true, decide_eq_true_eq] at hk
    exact ih hk.1 hk.2
  · intro it ns p i o rest v es vs es' hi ih1 ih2 hk q hq
    simp only [keysDistinctList, Bool.and_eq_true] at hk
    rw [sitesList, List.mem_append] at hq
    rcases hq with hq | hq
    · obtain ⟨q', hq', rfl⟩ := List.mem_map.1 hq
      exact ⟨0, q', rfl, child_null hi (fun c => (Bool.and_eq_true_iff.1 c).2) (ih1 hk.1) q' hq'⟩
    · obtain ⟨k, q', rfl, h⟩ := ih2 hk.2 q hq
      exact ⟨k + 1, q', by rw [Nat.add_assoc, Nat.add_comm 1 k], h⟩
  · intro p key ty ns o rest v es kvs es' hi ih1 ih2 hn hk q hq
    simp only [keysDistinctFields, Bool.and_eq_true] at hk
    simp only [keysOf, List.nodup_cons] at hn
    rw [sitesFields, List.mem_append] at hq
    rcases hq with hq | hq
    · obtain ⟨q', hq', rfl⟩ := List.mem_map.1 hq
      have := child_null hi (fun c => (Bool.or_eq_true_iff.1 c).elim completesNull_of_raised
        fun h => (Bool.and_eq_true_iff.1 h).2) (ih1 hk.1) q' hq'
      simpa [dataAt] using this
    · obtain ⟨k, q', hk', rfl⟩ := fields_shape rest q hq
      have hne : (key == k) = false := beq_eq_false_iff_ne.2 fun hc => hn.1 (hc ▸ hk')
      have := ih2 hn.2 hk.2 _ hq
      simpa [dataAt, List.find?, hne] using this

private theorem data_inner (b : Bool) (t : Ty) (nodes : List Nat) (path : Path) :
    ∀ (o : Out) (v : J) (es : List Err), completeInner b t nodes path o = some (v, es) → keysDistinct o = true →
      ∀ p ∈ sitesInner t o, dataAt v p = some .null :=
  data_all.1 b t nodes path

theorem null_sites_are_null (root : FldList) (data : J) (errs : List Err)
    (h : execute root = some (data, errs)) (hk : RootKeysDistinct root) :
    ∀ p ∈ sitesFields root, dataAt data p = some .null := by
  obtain ⟨kvs, h1, rfl⟩ := execute_eq_some h
  exact data_all.2.2 [] root kvs errs h1 hk.1 hk.2

private theorem exactly_one_of_map {α β : Type} (f : α → Option β) (s : List β) (l : List α)
    (hm : l.map f = s.map some) (hn : s.Nodup) (p : β) (hp : p ∈ s) :
    ∃ l1 e l2, l = l1 ++ e :: l2 ∧ f e = some p ∧ ∀ e' ∈ l1 ++ l2, f e' ≠ some p := by
  -- split `s` at `p`, and `l` with it
  obtain ⟨s1, s2, rfl⟩ := List.append_of_mem hp
  rw [List.map_append, List.map_cons, List.map_eq_append_iff] at hm
  obtain ⟨l1, r, rfl, h1, hr⟩ := hm
  obtain ⟨e, l2, rfl, he, h2⟩ := List.map_eq_cons_iff.1 hr
  refine ⟨l1, e, l2, rfl, he, fun e' he' hc => ?_⟩
  have : some p ∈ (s1 ++ s2).map some := by
    rw [List.map_append, ← h1, ← h2, ← List.map_append, ← hc]
    exact List.mem_map_of_mem he'
  obtain ⟨q, hq, hqp⟩ := List.mem_map.1 this
  obtain rfl := Option.some.inj hqp
  rw [List.nodup_append] at hn
  rcases List.mem_append.1 hq with h | h
  · exact hn.2.2 q h q (List.mem_cons_self ..) rfl
  · exact (List.nodup_cons.1 hn.2.1).1 h

/-- `null_error_bijection`, exactly one: in every completed execution with distinct response
    keys: (1) each site the statement names — a field whose resolver raised the resolver error (or
    whose arguments failed to coerce), a null at a non-null position — is a null in `data` and is
    matched by EXACTLY ONE error carrying its path; (2) every collected error carries the path of
    such a site. -/
theorem exactly_one_error_per_site (root : FldList) (data : J) (errs : List Err)
    (h : execute root = some (data, errs)) (hk : RootKeysDistinct root) :
    (∀ p ∈ sitesFields root, dataAt data p = some .null ∧
        ∃ l1 e l2, errs = l1 ++ e :: l2 ∧ e.path? = some p ∧ ∀ e' ∈ l1 ++ l2, e'.path? ≠ some p) ∧
    (∀ e ∈ errs, ∃ p ∈ sitesFields root, e.path? = some p) := by
  have hb := null_error_bijection root data errs h
  refine ⟨fun p hp => ⟨null_sites_are_null root data errs h hk p hp,
    exactly_one_of_map Err.path? _ errs hb (null_sites_nodup root hk) p hp⟩, ?_⟩
  intro e he
  have : e.path? ∈ errs.map Err.path? := List.mem_map_of_mem he
  rw [hb] at this
  simp only [List.mem_map] at this
  obtain ⟨p, hp, hpe⟩ := this
  exact ⟨p, hp, hpe.symm⟩

/-- non-vacuity: `{ os { w id } }` over two items, `w` failing for both (the shape on which the seeded
    change /verif/seeded/C10-1 shows: one error per item, paths `os[0].w` and `os[1].w`, not twice the last one) -/
private def twoItems : FldList :=
  .cons "os" (.list (.nonNull (.named "Obj"))) [21]
    (.list (.cons (.obj (.cons "w" (.named "Int") [26] (.raised "x must not be null" none) (.cons "id" (.nonNull (.named "ID")) [35] (.leaf (.str "1")) .nil)))
           (.cons (.obj (.cons "w" (.named "Int") [26] (.raised "x must not be null" none) (.cons "id" (.nonNull (.named "ID")) [35] (.leaf (.str "2")) .nil))) .nil))) .nil

example : RootKeysDistinct twoItems ∧
    sitesFields twoItems = [[.key "os", .idx 0, .key "w"], [.key "os", .idx 1, .key "w"]] ∧
    (execute twoItems).map (fun r => r.2.map Err.path?) =
      some [some [.key "os", .idx 0, .key "w"], some [.key "os", .idx 1, .key "w"]] := by
  refine ⟨⟨by decide +kernel, by decide +kernel⟩, by decide +kernel, by decide +kernel⟩

end PyGql.Props.C10
