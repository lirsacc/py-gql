/-
  C06 - property theorems: the function of the memo theorems is the chain the driver runs.

  The theorems about the memoised overlap rule (`Props/C06_overlap_memo*.lean`, `C06_head_memo.lean`) are stated about
  `overlapMemoRun` (the memoised search folded over the typed enumeration of the document). The model that is COMPARED
  with the real validator is the chain `runM` (`Validate/ChainPar.lean`: `ChainedVisitor` + `TypeInfoVisitor` with the
  memoised search inside). `runM_alone_eq`: run with the overlap rule alone - the configuration in which the rule's
  theorems are stated, `default_validator(validators=[OverlappingFieldsCanBeMergedChecker])` on the real side - the
  chain returns exactly the error count of `overlapMemoRun`, and never a crash, on every document with pairwise
  distinct selection-set identities. (Proof: the generic typed relational walk, for the parametrised chain,
  `Lemmas/ValidateTyped.lean`; the rule state advances by one `find_conflicts_within_selection_set` per selection
  set, under `TypeInfoVisitor.parent_type` = the static view; termination keeps the exception flag unset.)
-/
import PyGqlModel.Props.C06_overlap_memo_complete
import PyGqlModel.Lemmas.ValidateOverlapMemoChain
import PyGqlModel.Lemmas.ValidateChainParEq
namespace PyGql.Props.C06
open PyGql PyGql.Validate PyGql.Validate.Spec

private theorem countOf_replicate_append (errs : List Rule) (r : Rule) :
    ∀ n, countOf (List.replicate n r ++ errs) r = n + countOf errs r
  | 0 => by simp [countOf]
  | n + 1 => by
    have ih := countOf_replicate_append errs r n
    simp only [countOf, List.replicate_succ, List.cons_append, List.filter_cons, beq_self_eq_true, ↓reduceIte,
      List.length_cons] at ih ⊢
    omega

/-- the step function of `overlapMemoRun` -/
def memoFoldFn (s : SchemaD) (fx : Fixes) (d : Doc) (acc : Nat × OCtx) (p : Node × View) : Nat × OCtx :=
  match p.1 with
  | .selectionSet i sels =>
    if acc.2.crash.isSome then acc else
    let r := withinSelectionSetM s fx (memoFuel d) p.2.parent i sels acc.2
    (acc.1 + r.1, r.2)
  | _ => acc

theorem overlapMemoRun_fold (s : SchemaD) (fx : Fixes) (d : Doc) :
    overlapMemoRun s fx d = (typedNodes s d).foldl (memoFoldFn s fx d) (0, ({ frags := fragTable d } : OCtx)) := rfl

/-- one node: the rule state of the chain, seen as (errors of the overlap rule, search context), moves as the fold of
    `overlapMemoRun` does - the memoised search does not crash (`withinM_terminates`), so neither skips the node -/
private theorem stepRS_memo (s : SchemaD) (fx : Fixes) (h7 : fx.v7 = true) (d : Doc) (hw : WfIds d) (q : Node × View)
    (hq : q ∈ typedNodes s d) (rs : RS) (h1 : rs.crash = none) (h2 : rs.octx.crash = none)
    (h3 : rs.octx.frags = fragTable d) :
    (stepRS s fx (memoFuel d) q rs).crash = none ∧ (stepRS s fx (memoFuel d) q rs).octx.crash = none ∧
    (stepRS s fx (memoFuel d) q rs).octx.frags = fragTable d ∧
    memoFoldFn s fx d (countOf rs.errs ovRule, rs.octx) q =
      (countOf (stepRS s fx (memoFuel d) q rs).errs ovRule, (stepRS s fx (memoFuel d) q rs).octx) := by
  obtain ⟨n, v⟩ := q
  cases n with
  | selectionSet i sels =>
    have g := withinM_terminates s fx d _ _ (rankSyn_of_check s d _ _ (rankSynB_of_wfIds s d hw)) h7 (memoFuel d)
      (Nat.le_refl _) v.parent i sels rs.octx h3 (selSet_of_typed hq)
    simp only [stepRS, stepSel, memoFoldFn, h2, Option.isSome_none, Bool.false_eq_true, ↓reduceIte]
    generalize withinSelectionSetM s fx (memoFuel d) v.parent i sels rs.octx = r at g ⊢
    have hcr : r.2.crash = none := g.2.2.2.trans h2
    simp only [hcr, RS.errN, countOf_replicate_append, Nat.add_comm r.1]
    exact ⟨h1, trivial, g.1.trans h3, trivial⟩
  | _ => exact ⟨h1, h2, h3, rfl⟩

private theorem advance_memo (s : SchemaD) (fx : Fixes) (h7 : fx.v7 = true) (d : Doc) (hw : WfIds d) :
    ∀ (l : List (Node × View)), (∀ q ∈ l, q ∈ typedNodes s d) → ∀ rs : RS, rs.crash = none → rs.octx.crash = none →
      rs.octx.frags = fragTable d →
      (advance s fx (memoFuel d) l rs).crash = none ∧ (advance s fx (memoFuel d) l rs).octx.crash = none ∧
      l.foldl (memoFoldFn s fx d) (countOf rs.errs ovRule, rs.octx) =
        (countOf (advance s fx (memoFuel d) l rs).errs ovRule, (advance s fx (memoFuel d) l rs).octx)
  | [], _, rs, h1, h2, _ => ⟨h1, h2, rfl⟩
  | q :: l, hm, rs, h1, h2, h3 => by
    obtain ⟨a1, a2, a3, a4⟩ := stepRS_memo s fx h7 d hw q (hm q (List.mem_cons_self ..)) rs h1 h2 h3
    have ih := advance_memo s fx h7 d hw l (fun p hp => hm p (List.mem_cons_of_mem _ hp)) _ a1 a2 a3
    simp only [advance, List.foldl_cons] at ih ⊢
    rw [a4]
    exact ih

theorem visitDocumentPar_ov (s : SchemaD) (fx : Fixes) (fuel : Nat) (d : Doc) :
    (visitDocumentPar (enterRuleM fuel) ⟨s, fx, [ovRule]⟩ d {}).rs =
      advance s fx fuel (typedNodes s d) { ({} : RS) with octx := { ({} : OCtx) with frags := fragTable d } } := by
  have he : enterPar (enterRuleM fuel) ⟨s, fx, [ovRule]⟩ (.document d) {} =
      (({ ti := {}, rs := { ({} : RS) with octx := { ({} : OCtx) with frags := fragTable d } } } : St), false) := by
    rw [enterPar_ov]; simp [enterRuleM, enterRule, tiEnter, fragTable]
  rw [visitDocumentPar, visitNodePar_false (by rw [he]), leavePar_ov, he]
  have hw := visitDefsRP (om_alg s fx fuel) d.defs
    ({ ti := {}, rs := { ({} : RS) with octx := { ({} : OCtx) with frags := fragTable d } } } : St) rfl
  exact hw.2

/-- **the chain with the memoised search, run with the overlap rule alone, IS `overlapMemoRun`**: same number of errors,
    and no crash, on every document with pairwise distinct selection-set identities -/
theorem runM_alone_eq (s : SchemaD) (fx : Fixes) (h7 : fx.v7 = true) (d : Doc) (hw : WfIds d) :
    runM (memoFuel d) ⟨s, fx, [ovRule]⟩ d = .errors [(ovRule, (overlapMemoRun s fx d).1)] := by
  have hrs := visitDocumentPar_ov s fx (memoFuel d) d
  obtain ⟨a1, _, a3⟩ := advance_memo s fx h7 d hw (typedNodes s d) (fun _ h => h)
    { ({} : RS) with octx := { ({} : OCtx) with frags := fragTable d } } rfl rfl rfl
  unfold runM
  simp only [hrs, a1, List.map_cons, List.map_nil]
  rw [overlapMemoRun_fold]
  have : countOf ({ ({} : RS) with octx := { ({} : OCtx) with frags := fragTable d } } : RS).errs ovRule = 0 := rfl
  rw [this] at a3
  rw [a3]

/-- **the parametrised chain is the chain of the theorems** when given the rules' own enter function: the only
    difference between the model the driver runs (`runM`) and the chain the per-rule theorems are stated about (`run`) is
    the overlap rule's search -/
theorem chain_par_is_chain (c : Cfg) (d : Doc) : visitDocumentPar enterRule c d {} = visitDocument c d {} :=
  visitDocumentPar_eq c d {}

end PyGql.Props.C06
