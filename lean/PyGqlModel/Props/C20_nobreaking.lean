/-
  C20 — "whenever no breaking change is reported, every operation valid against the old schema is
  valid against the new one": the schema-shape half, as preservation theorems on the diff model.
  Each is the contrapositive of "this edit is reported" (`C20_edits.lean`) for a class the severity table makes
  BREAKING (`absurd_of_breaking`, `absurd_of_required`).
-/
import PyGqlModel.Props.C20_edits

set_option linter.unusedSimpArgs false

namespace PyGql.Props.C20
open PyGql PyGql.Differ PyGql.Diff PyGql.Generated.Differ

/-- **Types are kept**: with no BREAKING change, every type of the old schema still exists. -/
theorem nobreaking_types_kept (o n : SchemaD) (h : diffSchema o n 2 = [])
    (t : TypeD) (ht : t ∈ o.types) : (n.findType t.name).isSome = true := by
  cases hf : n.findType t.name with
  | some _ => rfl
  | none =>
    have := removed_type_reported o n t 2 (Nat.le_refl _) ht hf
    rw [h] at this
    exact absurd this List.not_mem_nil

/-- **Kinds are kept**: with no BREAKING change, a type keeps its kind (object stays object, …). -/
theorem nobreaking_kinds_kept (o n : SchemaD) (h : diffSchema o n 2 = [])
    (t t' : TypeD) (ht : t ∈ o.types) (hf : n.findType t.name = some t') : t.kind = t'.kind := by
  by_cases hk : t.kind = t'.kind
  · exact hk
  · exact (absurd_of_breaking h (kind_change_reported o n t t' ht hf hk) (by simp [mustBeBreaking])).elim

private theorem nonNull_of_safeIn (a b : Ty) (hs : safeIn a b = true) (hb : b.isNonNull = true) : a.isNonNull = true := by
  rw [safeIn_eq_sub] at hs
  cases b with
  | nonNull b' =>
    obtain ⟨a', rfl, _⟩ := sub_nonNull_right hs
    rfl
  | named _ => cases hb
  | list _ => cases hb

/-- under a safe type change an element can only become required by losing its default value -/
private theorem becameRequired_defaultChanged (a b : ArgD) (h : becameRequired a b = true)
    (hs : safeIn a.type b.type = true) : defaultChanged a b = true := by
  unfold becameRequired ArgD.required at h
  simp only [Bool.and_eq_true, Bool.not_eq_true'] at h
  have hbn := h.1.1
  have han := nonNull_of_safeIn a.type b.type hs hbn
  unfold defaultChanged
  cases ha : a.hasDefault <;> cases hb : b.hasDefault <;> simp_all

/-- what operations may rely on after a comparison of two argument / input-field lists that reported nothing BREAKING:
    every old element is found again (first match by name), its type change is classified safe and it did not
    become required (repair G3) -/
def ArgsKept (olds news : List ArgD) : Prop :=
  (∀ a ∈ olds, ∃ b, news.find? (·.name == a.name) = some b ∧ safeIn a.type b.type = true ∧ becameRequired a b = false)
  ∧ (∀ b ∈ news, olds.find? (·.name == b.name) = none → ArgD.required b = false)

/-- the one argument behind every statement about arguments, directive arguments and input fields: each way of
    violating `ArgsKept` makes `diffArgs` produce a change that the severity table classifies BREAKING -/
theorem nobreaking_diffArgs {o n : SchemaD} (h : diffSchema o n 2 = []) {removed changed dflt added : String}
    {kOld kNew : ArgD → List (String × String)} {kPair : ArgD → ArgD → List (String × String)} {olds news : List ArgD}
    (hsub : ∀ c ∈ diffArgs removed changed dflt added kOld kNew kPair olds news, c ∈ diffSchema o n 0)
    (hr : removed ∈ mustBeBreaking) (hc : changed ∈ mustBeBreaking) (hd : dflt ∈ breakingWhenRequired)
    (ha : added ∈ breakingWhenRequired) : ArgsKept olds news := by
  constructor
  · intro a ham
    cases hb : news.find? (·.name == a.name) with
    | none => exact (absurd_of_breaking h (hsub _ (mem_diffArgs_removed ham hb)) hr).elim
    | some b =>
      have hs : safeIn a.type b.type = true := by
        cases hs : safeIn a.type b.type with
        | true => rfl
        | false => exact (absurd_of_breaking h (hsub _ (mem_diffArgs_changed ham hb hs)) hc).elim
      refine ⟨b, rfl, hs, ?_⟩
      cases hq : becameRequired a b with
      | false => rfl
      | true =>
        have := hsub _ (mem_diffArgs_default (dflt := dflt) ham hb hs (becameRequired_defaultChanged a b hq hs))
        rw [hq] at this
        exact (absurd_of_required h this hd).elim
  · intro b hbm hnew
    cases hq : ArgD.required b with
    | false => rfl
    | true =>
      have := hsub _ (mem_diffArgs_added (added := added) (kNew := kNew) hbm hnew)
      rw [hq] at this
      exact (absurd_of_required h this ha).elim

theorem nobreaking_fieldArgs (o n : SchemaD) (h : diffSchema o n 2 = []) (ot nt : TypeD) (hp : FieldHost o n ot nt)
    (f g : FieldD) (hf : f ∈ ot.fields) (hg : nt.fields.find? (·.name == f.name) = some g) : ArgsKept f.args g.args :=
  nobreaking_diffArgs h (fun c hc => of_field_args hp hf hg (diffFieldArguments_eq _ f g ▸ hc))
    (by simp [mustBeBreaking]) (by simp [mustBeBreaking]) (by simp [breakingWhenRequired]) (by simp [breakingWhenRequired])

theorem nobreaking_directiveArgs (o n : SchemaD) (h : diffSchema o n 2 = []) (d e : DirectiveD) (hd : d ∈ o.directives)
    (he : n.directives.find? (·.name == d.name) = some e) : ArgsKept d.args e.args :=
  nobreaking_diffArgs h (fun c hc => of_directive_args hd he (diffDirectiveArguments_eq d e ▸ hc))
    (by simp [mustBeBreaking]) (by simp [mustBeBreaking]) (by simp [breakingWhenRequired]) (by simp [breakingWhenRequired])

theorem nobreaking_inputFields (o n : SchemaD) (h : diffSchema o n 2 = []) (ot nt : TypeD)
    (hp : (ot, nt) ∈ matchingPairs o n .input) : ArgsKept ot.inputFields nt.inputFields :=
  nobreaking_diffArgs h (fun c hc => of_input_fields hp hc)
    (by simp [mustBeBreaking]) (by simp [mustBeBreaking]) (by simp [breakingWhenRequired]) (by simp [breakingWhenRequired])

/-- `ArgsKept` in the semantic form of the statements below -/
theorem ArgsKept.inCompat {olds news : List ArgD} (k : ArgsKept olds news) :
    (∀ a ∈ olds, ∃ b, news.find? (·.name == a.name) = some b ∧ InCompat a.type b.type)
    ∧ (∀ b ∈ news, olds.find? (·.name == b.name) = none → ArgD.required b = false) :=
  ⟨fun a ha => let ⟨b, hb, hs, _⟩ := k.1 a ha; ⟨b, hb, safeIn_sound _ _ hs⟩, k.2⟩

theorem ArgsKept.not_becameRequired {olds news : List ArgD} (k : ArgsKept olds news) {a b : ArgD} (ha : a ∈ olds)
    (hb : news.find? (·.name == a.name) = some b) : becameRequired a b = false := by
  obtain ⟨b', hb', _, hq⟩ := k.1 a ha
  rw [hb] at hb'
  rw [Option.some.inj hb']
  exact hq

/-- **Arguments of object AND interface fields**: with no BREAKING change every argument of a kept field is
    kept, accepts every value it accepted before, and no required argument is added. -/
theorem nobreaking_field_arguments_any (o n : SchemaD) (h : diffSchema o n 2 = []) (ot nt : TypeD)
    (hp : FieldHost o n ot nt) (f g : FieldD) (hf : f ∈ ot.fields) (hg : nt.fields.find? (·.name == f.name) = some g) :
    (∀ a ∈ f.args, ∃ b, g.args.find? (·.name == a.name) = some b ∧ InCompat a.type b.type)
    ∧ (∀ b ∈ g.args, f.args.find? (·.name == b.name) = none → ArgD.required b = false) :=
  (nobreaking_fieldArgs o n h ot nt hp f g hf hg).inCompat

/-- **No breaking change ⇒ output positions at least as strict**, lists included, for every field of an object or
    interface type whose retyping is outside the G1 class. (Replaces the list-free hypothesis of
    `nobreaking_fields_strict_partial` / `nobreaking_fields_strict_any_partial` by the explicit exclusion.) -/
theorem nobreaking_fields_strict_outside_G1 (o n : SchemaD) (h : diffSchema o n 2 = []) (ot nt : TypeD)
    (hp : FieldHost o n ot nt) (f g : FieldD) (hf : f ∈ ot.fields) (hg : nt.fields.find? (·.name == f.name) = some g)
    (wf : f.type.wf = true) (wg : g.type.wf = true) (hx : g1Pair f.type g.type = false) :
    OutCompat f.type g.type := by
  apply (safeOut_iff_outside_G1 f.type g.type wf wg hx).mp
  cases hs : safeOut f.type g.type with
  | true => rfl
  | false => exact (absurd_of_breaking h (retyped_field_reported_any o n ot nt f g hp hf hg hs) (by simp [mustBeBreaking])).elim

/-- the list-free statement is an instance -/
theorem nobreaking_fields_strict_listFree (o n : SchemaD) (h : diffSchema o n 2 = []) (ot nt : TypeD)
    (hp : FieldHost o n ot nt) (f g : FieldD) (hf : f ∈ ot.fields) (hg : nt.fields.find? (·.name == f.name) = some g)
    (wf : f.type.wf = true) (wg : g.type.wf = true) (lf : listFree f.type = true) : OutCompat f.type g.type :=
  nobreaking_fields_strict_outside_G1 o n h ot nt hp f g hf hg wf wg (g1Pair_listFree _ _ lf)

/-- **Output positions of object AND interface fields** — PARTIAL like `nobreaking_fields_strict_partial`
    (list-free types; the list-item case is finding G1). -/
theorem nobreaking_fields_strict_any_partial (o n : SchemaD) (h : diffSchema o n 2 = []) (ot nt : TypeD)
    (hp : FieldHost o n ot nt) (f g : FieldD) (hf : f ∈ ot.fields) (hg : nt.fields.find? (·.name == f.name) = some g)
    (wf : f.type.wf = true) (wg : g.type.wf = true) (lf : listFree f.type = true) (lg : listFree g.type = true) :
    OutCompat f.type g.type :=
  nobreaking_fields_strict_listFree o n h ot nt hp f g hf hg wf wg lf

/-- **Directives**: with no BREAKING change every directive is kept with all its locations, every argument is
    kept and accepts every value it accepted before, and no required argument is added (directive applications
    in operations stay valid). -/
theorem nobreaking_directives (o n : SchemaD) (h : diffSchema o n 2 = []) (d : DirectiveD) (hd : d ∈ o.directives) :
    ∃ e, n.directives.find? (·.name == d.name) = some e
      ∧ (∀ l ∈ d.locations, l ∈ e.locations)
      ∧ (∀ a ∈ d.args, ∃ b, e.args.find? (·.name == a.name) = some b ∧ InCompat a.type b.type)
      ∧ (∀ b ∈ e.args, d.args.find? (·.name == b.name) = none → ArgD.required b = false) := by
  cases he : n.directives.find? (·.name == d.name) with
  | none => exact (absurd_of_breaking h (removed_directive_reported o n d hd he) (by simp [mustBeBreaking])).elim
  | some e =>
    refine ⟨e, rfl, ?_, (nobreaking_directiveArgs o n h d e hd he).inCompat⟩
    intro l hl
    by_cases hm : l ∈ e.locations
    · exact hm
    · exact (absurd_of_breaking h (removed_location_reported o n d e l hd he hl hm) (by simp [mustBeBreaking])).elim

/-- **No argument becomes required**: with no BREAKING change, an argument of a kept field that operations could
    omit (nullable, or with a default) can still be omitted. -/
theorem nobreaking_no_argument_becomes_required (o n : SchemaD) (h : diffSchema o n 2 = []) (ot nt : TypeD)
    (hp : FieldHost o n ot nt) (f g : FieldD) (hf : f ∈ ot.fields) (hg : nt.fields.find? (·.name == f.name) = some g)
    (a b : ArgD) (ha : a ∈ f.args) (hb : g.args.find? (·.name == a.name) = some b) :
    becameRequired a b = false :=
  (nobreaking_fieldArgs o n h ot nt hp f g hf hg).not_becameRequired ha hb

theorem nobreaking_no_input_field_becomes_required (o n : SchemaD) (h : diffSchema o n 2 = []) (ot nt : TypeD)
    (hp : (ot, nt) ∈ matchingPairs o n .input) (f g : ArgD) (hf : f ∈ ot.inputFields)
    (hg : nt.inputFields.find? (·.name == f.name) = some g) : becameRequired f g = false :=
  (nobreaking_inputFields o n h ot nt hp).not_becameRequired hf hg

theorem nobreaking_no_directive_argument_becomes_required (o n : SchemaD) (h : diffSchema o n 2 = []) (d e : DirectiveD)
    (hd : d ∈ o.directives) (he : n.directives.find? (·.name == d.name) = some e) (a b : ArgD) (ha : a ∈ d.args)
    (hb : e.args.find? (·.name == a.name) = some b) : becameRequired a b = false :=
  (nobreaking_directiveArgs o n h d e hd he).not_becameRequired ha hb

/-- **Fields are kept**: with no BREAKING change, every field of an object type present in both
    schemas still exists (so `FieldsOnCorrectType` keeps holding for operations valid on the old schema). -/
theorem nobreaking_fields_kept (o n : SchemaD) (h : diffSchema o n 2 = [])
    (ot nt : TypeD) (hp : (ot, nt) ∈ matchingPairs o n .object) (f : FieldD) (hf : f ∈ ot.fields) :
    (nt.fields.find? (·.name == f.name)).isSome = true := by
  cases hn : nt.fields.find? (·.name == f.name) with
  | some _ => rfl
  | none =>
    exact (absurd_of_breaking h (removed_field_reported_any o n ot nt f (.inl hp) hf hn) (by simp [mustBeBreaking])).elim

/-- **Arguments are kept**: with no BREAKING change, every argument of a kept field still exists
    (`KnownArgumentNames` keeps holding). -/
theorem nobreaking_arguments_kept (o n : SchemaD) (h : diffSchema o n 2 = [])
    (ot nt : TypeD) (hp : (ot, nt) ∈ matchingPairs o n .object)
    (f g : FieldD) (hf : f ∈ ot.fields) (hg : nt.fields.find? (·.name == f.name) = some g)
    (a : ArgD) (ha : a ∈ f.args) : (g.args.find? (·.name == a.name)).isSome = true := by
  obtain ⟨b, hb, _⟩ := (nobreaking_field_arguments_any o n h ot nt (.inl hp) f g hf hg).1 a ha
  rw [hb]
  rfl

/-- **No new required argument**: with no BREAKING change, an argument added to a kept field is not
    required (`ProvidedRequiredArguments` keeps holding). -/
theorem nobreaking_no_new_required_argument (o n : SchemaD) (h : diffSchema o n 2 = [])
    (ot nt : TypeD) (hp : (ot, nt) ∈ matchingPairs o n .object)
    (f g : FieldD) (hf : f ∈ ot.fields) (hg : nt.fields.find? (·.name == f.name) = some g)
    (b : ArgD) (hb : b ∈ g.args) (hnew : f.args.find? (·.name == b.name) = none) :
    ArgD.required b = false :=
  (nobreaking_field_arguments_any o n h ot nt (.inl hp) f g hf hg).2 b hb hnew

/-- **No breaking change ⇒ argument positions at least as permissive** (semantic, all type
    expressions): if `diff_schema(old, new, min_severity=BREAKING)` is empty then for every object
    type present in both, every field present in both and every argument present in both, each value
    the old argument type accepts is accepted by the new one. -/
theorem nobreaking_args_permissive (o n : SchemaD) (h : diffSchema o n 2 = [])
    (ot nt : TypeD) (hp : (ot, nt) ∈ matchingPairs o n .object)
    (f g : FieldD) (hf : f ∈ ot.fields) (hg : nt.fields.find? (·.name == f.name) = some g)
    (a b : ArgD) (ha : a ∈ f.args) (hb : g.args.find? (·.name == a.name) = some b) :
    InCompat a.type b.type := by
  obtain ⟨b', hb', hc⟩ := (nobreaking_field_arguments_any o n h ot nt (.inl hp) f g hf hg).1 a ha
  rw [hb] at hb'
  rw [Option.some.inj hb']
  exact hc

/-- **No breaking change ⇒ output positions at least as strict** — PARTIAL: proved for list-free
    field types (the full statement fails today at list items: finding G1, `safeOut_full_fails_today`). -/
theorem nobreaking_fields_strict_partial (o n : SchemaD) (h : diffSchema o n 2 = [])
    (ot nt : TypeD) (hp : (ot, nt) ∈ matchingPairs o n .object)
    (f g : FieldD) (hf : f ∈ ot.fields) (hg : nt.fields.find? (·.name == f.name) = some g)
    (wf : f.type.wf = true) (wg : g.type.wf = true)
    (lf : listFree f.type = true) (lg : listFree g.type = true) :
    OutCompat f.type g.type :=
  nobreaking_fields_strict_any_partial o n h ot nt (.inl hp) f g hf hg wf wg lf lg

/-- **Enum values are kept**: with no BREAKING change, every value of an enum present in both schemas
    still exists (enum literals in operations stay valid). -/
theorem nobreaking_enum_values_kept (o n : SchemaD) (h : diffSchema o n 2 = [])
    (oe ne : TypeD) (hp : (oe, ne) ∈ matchingPairs o n .enum) (v : EnumValD) (hv : v ∈ oe.values) :
    (ne.values.find? (·.name == v.name)).isSome = true := by
  cases hn : ne.values.find? (·.name == v.name) with
  | some _ => rfl
  | none => exact (absurd_of_breaking h (removed_enum_value_reported o n oe ne v hp hv hn) (by simp [mustBeBreaking])).elim

/-- **Union members are kept**: fragments on a member type stay possible. -/
theorem nobreaking_union_members_kept (o n : SchemaD) (h : diffSchema o n 2 = [])
    (ou nu : TypeD) (hp : (ou, nu) ∈ matchingPairs o n .union) (m : String) (hm : m ∈ ou.members) :
    nu.members.contains m = true := by
  by_cases hc : m ∈ nu.members
  · exact List.contains_iff_mem.mpr hc
  · exact (absurd_of_breaking h (removed_union_member_reported o n ou nu m hp hm hc) (by simp [mustBeBreaking])).elim

/-- implemented interfaces are kept: an object type stays a possible type of its interfaces -/
theorem nobreaking_interfaces_kept (o n : SchemaD) (h : diffSchema o n 2 = [])
    (ot nt : TypeD) (hp : (ot, nt) ∈ matchingPairs o n .object) (i : String) (hi : i ∈ ot.interfaces) :
    i ∈ nt.interfaces := by
  by_cases hc : i ∈ nt.interfaces
  · exact hc
  · exact (absurd_of_breaking h (removed_implementation_reported o n ot nt i hp hi hc) (by simp [mustBeBreaking])).elim

/-- **Input fields**: with no BREAKING change, every input field is kept with an at-least-as-permissive
    type, and no required input field is added (input object literals and variables stay valid). -/
theorem nobreaking_input_fields (o n : SchemaD) (h : diffSchema o n 2 = [])
    (ot nt : TypeD) (hp : (ot, nt) ∈ matchingPairs o n .input) :
    (∀ f ∈ ot.inputFields, ∃ g, nt.inputFields.find? (·.name == f.name) = some g ∧ InCompat f.type g.type)
    ∧ (∀ g ∈ nt.inputFields, ot.inputFields.find? (·.name == g.name) = none → ArgD.required g = false) :=
  (nobreaking_inputFields o n h ot nt hp).inCompat

theorem nobreaking_matching (o n : SchemaD) (h : diffSchema o n 2 = []) (t : TypeD) (ht : t ∈ o.types) :
    ∃ t', n.findType t.name = some t' ∧ t'.kind = t.kind ∧ (t, t') ∈ matchingPairs o n t.kind := by
  have hs := nobreaking_types_kept o n h t ht
  cases hn : n.findType t.name with
  | none => rw [hn] at hs; simp at hs
  | some t' =>
    have hkk := nobreaking_kinds_kept o n h t t' ht hn
    exact ⟨t', rfl, hkk.symm, matching_of_find o n t t' t.kind ht hn rfl hkk.symm⟩

theorem nobreaking_findType (o n : SchemaD) (h : diffSchema o n 2 = []) (x : String) (t : TypeD)
    (ho : o.findType x = some t) : ∃ t', n.findType x = some t' ∧ t'.kind = t.kind := by
  obtain ⟨htm, htn⟩ := mem_of_findType ho
  obtain ⟨t', hn, hkk, _⟩ := nobreaking_matching o n h t htm
  exact ⟨t', by rw [← htn]; exact hn, hkk⟩

/-- a field of an object / interface type of the old schema is found again in the type's namesake, the two types
    host fields together, and the change of the field's type is classified safe -/
theorem nobreaking_hostField (o n : SchemaD) (h : diffSchema o n 2 = []) (x : String) (t : TypeD)
    (ho : o.findType x = some t) (hk : t.kind = .object ∨ t.kind = .interface) (fd : FieldD) (hf : fd ∈ t.fields) :
    ∃ t' g, n.findType x = some t' ∧ t'.kind = t.kind ∧ FieldHost o n t t'
      ∧ t'.fields.find? (·.name == fd.name) = some g ∧ safeOut fd.type g.type = true := by
  obtain ⟨htm, htn⟩ := mem_of_findType ho
  obtain ⟨t', hn, hkk, hp⟩ := nobreaking_matching o n h t htm
  have hhost : FieldHost o n t t' := by
    rcases hk with hk | hk
    · exact .inl (hk ▸ hp)
    · exact .inr (hk ▸ hp)
  cases hg : t'.fields.find? (·.name == fd.name) with
  | none => exact (absurd_of_breaking h (removed_field_reported_any o n t t' fd hhost hf hg) (by simp [mustBeBreaking])).elim
  | some g =>
    refine ⟨t', g, by rw [← htn]; exact hn, hkk, hhost, hg, ?_⟩
    cases hso : safeOut fd.type g.type with
    | true => rfl
    | false => exact (absurd_of_breaking h (retyped_field_reported_any o n t t' fd g hhost hf hg hso) (by simp [mustBeBreaking])).elim

theorem nobreaking_rootOf (o n : SchemaD) (h : diffSchema o n 2 = []) (op a : String)
    (ho : rootOf o op = some a) : rootOf n op = some a := by
  have hop := rootOf_op ho
  cases hn : rootOf n op with
  | none => exact (absurd_of_breaking h (root_type_removed_reported o n op a hop ho hn) (by simp [mustBeBreaking])).elim
  | some b =>
    by_cases hb : a = b
    · rw [hb]
    · exact (absurd_of_breaking h (root_type_changed_reported o n op a b hop ho hn hb) (by simp [mustBeBreaking])).elim

end PyGql.Props.C20
