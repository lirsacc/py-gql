/-
  C18 — `identity_noop` WITH TOTALITY: the converse of `coverage_partial`.

  `identity_noop` / `coverage_partial` speak about a visit that COMPLETED.  Here: whenever the visitor-free walk of the
  implemented child relation (`Spec.implEvents`, a computable function of table and tree, no visitor in it) completes,
  the visit of EVERY visitor that changes nothing completes too — no `TypeError` / `AttributeError` from a dispatch or an
  attribute access — returns the very node, leaves it untouched in place, and makes exactly those calls.
  So "the identity visit of this document completes and changes nothing, for all observers and all their states" is
  decided by one evaluation (`identity_total_witnesses`: the witness documents of both dialects, holding every node kind).
-/
import PyGqlModel.Props.C18_table

namespace PyGql.Props.C18
open PyGql.Visit PyGql.Generated.VisitTable

variable {σ : Type}

/-- If the visitor-free walk of the implemented child relation completes on `t`, then the visit of
    every visitor that changes nothing, from every state, completes: it returns `t` itself, leaves it untouched in place
    and makes exactly the calls of the walk. (`coverage_partial` is the converse.) -/
theorem identity_total (T : Table) (v : Visitor σ) (hv : Observer v) (fuel : Nat) (t : Node) (s : σ) (tr : List Ev)
    (h : Spec.implEvents T fuel t = .ok tr) :
    ∃ o, visit T v fuel t s = .ok o ∧ o.ret = some t ∧ o.orig = t ∧ o.tr = tr :=
  ⟨same v t s tr, by rw [visit_observer T v hv, h]; rfl, rfl, rfl, rfl⟩

theorem identity_completes_iff (T : Table) (v : Visitor σ) (hv : Observer v) (fuel : Nat) (t : Node) (s : σ) :
    (∃ o, visit T v fuel t s = .ok o) ↔ (∃ tr, Spec.implEvents T fuel t = .ok tr) :=
  ⟨fun ⟨o, h⟩ => ⟨o.tr, coverage_partial T v hv fuel t s o h⟩,
   fun ⟨tr, h⟩ => let ⟨o, ho, _⟩ := identity_total T v hv fuel t s tr h; ⟨o, ho⟩⟩

private def walkOk (t : Node) : Bool := match Spec.implEvents table 64 t with | .ok _ => true | _ => false

/-- the walk completes wherever the identity visit of the stateless observer does (`coverage_partial`) -/
private theorem walkOk_of_implKeys (t : Node) (h : (implKeys 64 t).isSome = true) : walkOk t = true := by
  unfold implKeys at h
  cases hv : visit table observer 64 t () with
  | ok o => simp [walkOk, coverage_partial table observer observer_is_observer 64 t () o hv]
  | err e => simp [hv] at h
  | fuel => simp [hv] at h

/-- today's table on the witness documents of both dialects (every node kind occurs): the walk completes, hence the
    identity visit of every observer does, and changes nothing -/
theorem identity_total_witnesses : walkOk witnessExec = true ∧ walkOk witnessSdl = true ∧ walkOk witnessSmall = true :=
  have h := witness_calls_today
  ⟨walkOk_of_implKeys _ h.2.1.1, walkOk_of_implKeys _ h.2.2, walkOk_of_implKeys _ (by rw [h.1]; rfl)⟩

/-- instance: every observer, every state, on the executable witness document -/
example (v : Visitor σ) (hv : Observer v) (s : σ) :
    ∃ o, visit table v 64 witnessExec s = .ok o ∧ o.ret = some witnessExec ∧ o.orig = witnessExec := by
  have h : ∀ t, walkOk t = true → ∃ tr, Spec.implEvents table 64 t = .ok tr := by
    intro t h
    unfold walkOk at h
    split at h
    · exact ⟨_, ‹_›⟩
    · cases h
  obtain ⟨tr, htr⟩ := h _ identity_total_witnesses.1
  obtain ⟨o, ho, h1, h2, _⟩ := identity_total table v hv 64 witnessExec s tr htr
  exact ⟨o, ho, h1, h2⟩

end PyGql.Props.C18
