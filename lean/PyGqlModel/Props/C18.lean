/-
  C18 — property theorems about the visitor model (`PyGqlModel/Visit.lean`).

  Generic statements hold for EVERY traversal table `T`; the statements that depend on what
  `visitor.py` says today are about `Generated.VisitTable.table` (re-extracted on every run) and are
  closed by `decide`, so a source edit re-opens them.
-/
import PyGqlModel.Visit
import PyGqlModel.Spec.VisitSpec
import PyGqlModel.Generated.VisitTable
import PyGqlModel.Lemmas.VisitWalk
import PyGqlModel.Lemmas.ListBasics

namespace PyGql.Props.C18
open PyGql.Visit

variable {σ : Type}

def Observer (v : Visitor σ) : Prop := ∀ n s, (v.enter n s).1 = .keep n

/-- `enter` may delete, skip, mutate in place or replace, but what it hands back has the identity and the
    kind of what it got (every visitor of `ast_transforms`, every deleting / skipping visitor). -/
def IdPreserving (v : Visitor σ) : Prop :=
  ∀ n s, match (v.enter n s).1 with
    | .keep n' => n'.id = n.id ∧ n'.kind = n.kind
    | .replace n' => n'.id = n.id ∧ n'.kind = n.kind
    | _ => True

/-- well-bracketed call sequences: `enter n` alone (the node was deleted or skipped) or
    `enter n … leave n'` around a well-bracketed body, `n'` being the same node (identity, kind). -/
inductive Forest : List Ev → Prop
  | nil : Forest []
  | lone (n : Node) (rest : List Ev) : Forest rest → Forest (⟨true, n⟩ :: rest)
  | wrap (n n2 : Node) (body rest : List Ev) : n2.id = n.id → n2.kind = n.kind →
      Forest body → Forest rest → Forest (⟨true, n⟩ :: body ++ ⟨false, n2⟩ :: rest)

theorem setIn_lookup (a : String) (x : Attr) :
    ∀ attrs : List (String × Attr), attrs.lookup a = some x → Node.setIn a x attrs = attrs :=
  Node.setIn_lookup a x

theorem setAttr_getAttr (n : Node) (a : String) (x : Attr) (h : n.getAttr a = some x) : n.setAttr a x = n :=
  Node.setAttr_getAttr n a x h

theorem lookup_mem_of_some {α β : Type} [BEq α] [LawfulBEq α] : ∀ (l : List (α × β)) (a : α) (b : β), l.lookup a = some b → (a, b) ∈ l :=
  fun _ _ _ => List.mem_of_lookup_eq_some

theorem Forest.append {a b : List Ev} (ha : Forest a) (hb : Forest b) : Forest (a ++ b) := by
  induction ha with
  | nil => simpa using hb
  | lone n rest _ ih => exact Forest.lone n _ ih
  | wrap n n2 body rest h1 h2 hbody _ _ ih =>
    have := Forest.wrap n n2 body (rest ++ b) h1 h2 hbody ih
    simpa [List.append_assoc] using this

theorem walk_shape (T : Table) (fuel : Nat) (m : String) (n : Node) (tr : List Ev) (h : Spec.walk T fuel m n = .ok tr) :
    ∃ f steps body, fuel = f + 1 ∧ T.methods.lookup m = some steps ∧
      Spec.walkSteps (Spec.walkTarget T (Spec.walk T f)) steps n = .ok body ∧ tr = ⟨true, n⟩ :: body ++ [⟨false, n⟩] := by
  cases fuel with
  | zero => simp [Spec.walk] at h
  | succ f =>
    simp only [Spec.walk] at h
    cases hm : T.methods.lookup m with
    | none => simp [hm] at h
    | some steps =>
      simp only [hm] at h
      cases hb : Spec.walkSteps (Spec.walkTarget T (Spec.walk T f)) steps n with
      | err e => simp [hb] at h
      | fuel => simp [hb] at h
      | ok body =>
        simp only [hb, Res.ok.injEq] at h
        exact ⟨f, steps, body, rfl, rfl, hb, h.symm⟩

theorem runStep_observer_same (T : Table) (v : Visitor σ) (hv : Observer v) (fuel : Nat) (st : Step) (n : Node) (s : σ)
    (n1 : Node) (s1 : σ) (tr1 : List Ev) (h : runStep (callTarget T (visitM T v fuel)) st n s = .ok (n1, s1, tr1)) : n1 = n := by
  obtain ⟨_, _, e⟩ := Res.map_eq_ok
    (runStep_mirrors (callTarget_mirrors T (visitM_observer T v hv fuel)) st n s (fun _ _ _ _ => trivial) ▸ h)
  cases e
  rfl

/-- A visitor that changes nothing leaves the tree equal: whatever the table, the state
    and the fuel, a completed visit returns the very node it was given, and the node is untouched in place. -/
theorem identity_noop (T : Table) (v : Visitor σ) (hv : Observer v) (fuel : Nat) (n : Node) (s : σ) (o : Out σ)
    (h : visit T v fuel n s = .ok o) : o.ret = some n ∧ o.orig = n := by
  obtain ⟨tr, _, rfl⟩ := Res.map_eq_ok (visit_observer T v hv fuel n s ▸ h)
  exact ⟨rfl, rfl⟩

/-- the calls of ONE wrapped visit of `c`: `enter c` alone, or `enter c`, a well-bracketed body, `leave n2`
    where `n2` is what the wrapper returns and is the same node as `c` (identity and kind) -/
def Bracket (c : Node) (o : Out σ) : Prop :=
  o.tr = [⟨true, c⟩] ∨
  ∃ body n2, o.tr = ⟨true, c⟩ :: body ++ [⟨false, n2⟩] ∧ o.ret = some n2 ∧ n2.id = c.id ∧ n2.kind = c.kind ∧ Forest body

private theorem Bracket.forest {c : Node} {o : Out σ} (h : Bracket c o) : Forest o.tr := by
  rcases h with h | ⟨body, n2, h, _, h1, h2, hb⟩
  · rw [h]; exact Forest.lone c [] Forest.nil
  · rw [h]; exact Forest.wrap c n2 body [] h1 h2 hb Forest.nil

/-- non-vacuity of `balanced` -/
theorem Observer.idPreserving {v : Visitor σ} (h : Observer v) : IdPreserving v := by
  intro n s; rw [h n s]; exact ⟨rfl, rfl⟩

/-! The three statements of locality (`delete_local`, `replace_local`, `skip_local`) are frame rules: whatever the visitor's state and whatever happens elsewhere, the effect
  of deleting / replacing / skipping ONE member `c` of a child list `pre ++ c :: post` is confined to `c`:
  the members before and after are processed exactly as they are without `c` (from the states the visitor is
  in at that point) and land in the rebuilt list in order. -/

/-- `map_and_filter` distributes over `++` (state threaded left to right) -/
theorem visitList_append (f : Node → σ → Res (Out σ)) (xs ys : List Node) (s : σ) :
    visitList f (xs ++ ys) s =
      match visitList f xs s with
      | .ok (r1, ip1, s1, t1) =>
        (match visitList f ys s1 with
         | .ok (r2, ip2, s2, t2) => .ok (r1 ++ r2, ip1 ++ ip2, s2, t1 ++ t2)
         | .err e => .err e
         | .fuel => .fuel)
      | .err e => .err e
      | .fuel => .fuel := by
  induction xs generalizing s with
  | nil =>
    simp only [List.nil_append, visitList]
    cases visitList f ys s with
    | ok q => obtain ⟨a, b, c, d⟩ := q; simp
    | err e => rfl
    | fuel => rfl
  | cons c cs ih =>
    simp only [List.cons_append, visitList]
    cases hc : f c s with
    | err e => rfl
    | fuel => rfl
    | ok o =>
      simp only [ih]
      cases h1 : visitList f cs o.st with
      | err e => rfl
      | fuel => rfl
      | ok q =>
        obtain ⟨r1, ip1, s1, t1⟩ := q
        simp only
        cases h2 : visitList f ys s1 with
        | err e => rfl
        | fuel => rfl
        | ok q2 =>
          obtain ⟨r2, ip2, s2, t2⟩ := q2
          cases o.ret <;> simp [List.append_assoc]

theorem member_frame (f : Node → σ → Res (Out σ)) (pre post : List Node) (c : Node) (s : σ)
    {rp ip : List Node} {s1 : σ} {tp : List Ev} {o : Out σ} {rq iq : List Node} {s3 : σ} {tq : List Ev}
    (hpre : visitList f pre s = .ok (rp, ip, s1, tp))
    (hc : f c s1 = .ok o)
    (hpost : visitList f post o.st = .ok (rq, iq, s3, tq)) :
    visitList f (pre ++ c :: post) s =
      .ok (rp ++ (match o.ret with | some n => n :: rq | none => rq), ip ++ o.orig :: iq, s3, tp ++ (o.tr ++ tq)) := by
  rw [visitList_append, hpre]
  simp only [visitList, hc, hpost]
  cases o.ret <;> rfl

/-- what the wrapper does when `enter` returns `None` -/
theorem visitM_delete (T : Table) (v : Visitor σ) (fuel : Nat) (m : String) (c : Node) (s s1 : σ)
    (h : v.enter c s = (.delete, s1)) : visitM T v (fuel + 1) m c s = .ok ⟨none, c, s1, [⟨true, c⟩]⟩ := by
  simp [visitM, h]

/-- Raising `SkipNode` in `enter` suppresses only that node's children and its `leave`:
    the node stays as it is, the only call is its `enter`, the state is the one `enter` left. -/
theorem skip_local (T : Table) (v : Visitor σ) (fuel : Nat) (m : String) (c : Node) (s s1 : σ)
    (h : v.enter c s = (.skip c, s1)) : visitM T v (fuel + 1) m c s = .ok ⟨some c, c, s1, [⟨true, c⟩]⟩ := by
  simp [visitM, h]

/-- what the wrapper does when `enter` returns a fresh node `r`: the body of the method selected for `r`
    (`bodyMethod`: the SAME `_visit_*` method if `r` has the class of `c`, else the one `visit` registers for the class
    of `r` when the wrapper dispatches on it) runs on `r`, `leave` is called with the result, the argument object is
    untouched -/
theorem visitM_replace (T : Table) (v : Visitor σ) (fuel : Nat) (m mb : String) (c r : Node) (s s1 : σ)
    (steps : List Step) (r2 : Node) (s2 : σ) (tb : List Ev)
    (h : v.enter c s = (.replace r, s1)) (hbm : bodyMethod T m c r = .ok mb) (hm : T.methods.lookup mb = some steps)
    (hb : runSteps (callTarget T (visitM T v fuel)) steps r s1 = .ok (r2, s2, tb)) :
    visitM T v (fuel + 1) m c s = .ok ⟨some r2, c, v.leave r2 s2, ⟨true, c⟩ :: tb ++ [⟨false, r2⟩]⟩ := by
  simp [visitM, h, hbm, hm, hb]

/-- Returning nothing from `enter` for a list member removes exactly that member: the rebuilt
    list is (results of the members before) ++ (results of the members after), the only call about `c` is its
    `enter`, and the members after are visited from the state that `enter` left. -/
theorem delete_local (T : Table) (v : Visitor σ) (fuel : Nat) (tgt : Target) (m : String)
    (pre post : List Node) (c : Node) (s s1 s2 s3 : σ) (rp ip rq iq : List Node) (tp tq : List Ev)
    (hres : resolve T tgt c.kind = .ok m)
    (hpre : visitList (callTarget T (visitM T v (fuel + 1)) tgt) pre s = .ok (rp, ip, s1, tp))
    (hdel : v.enter c s1 = (.delete, s2))
    (hpost : visitList (callTarget T (visitM T v (fuel + 1)) tgt) post s2 = .ok (rq, iq, s3, tq)) :
    visitList (callTarget T (visitM T v (fuel + 1)) tgt) (pre ++ c :: post) s
      = .ok (rp ++ rq, ip ++ c :: iq, s3, tp ++ (⟨true, c⟩ :: tq)) := by
  have hc : callTarget T (visitM T v (fuel + 1)) tgt c s1 = .ok ⟨none, c, s2, [⟨true, c⟩]⟩ := by
    simp [callTarget, hres, visitM_delete T v fuel m c s1 s2 hdel]
  have := member_frame _ pre post c s hpre hc hpost
  simpa using this

/-- Returning a replacement `r` from `enter` for a list member substitutes exactly that
    member: the rebuilt list has the (visited) replacement `r2` at that position between the results of the
    siblings; the calls are `enter c`, the visit of `r`'s children, `leave r2`. -/
theorem replace_local (T : Table) (v : Visitor σ) (fuel : Nat) (tgt : Target) (m mb : String)
    (pre post : List Node) (c r r2 : Node) (s s1 s2 s3 s4 : σ) (rp ip rq iq : List Node) (tp tb tq : List Ev)
    (steps : List Step)
    (hres : resolve T tgt c.kind = .ok m)
    (hbm : bodyMethod T m c r = .ok mb) (hm : T.methods.lookup mb = some steps)
    (hpre : visitList (callTarget T (visitM T v (fuel + 1)) tgt) pre s = .ok (rp, ip, s1, tp))
    (hrep : v.enter c s1 = (.replace r, s2))
    (hbody : runSteps (callTarget T (visitM T v fuel)) steps r s2 = .ok (r2, s3, tb))
    (hpost : visitList (callTarget T (visitM T v (fuel + 1)) tgt) post (v.leave r2 s3) = .ok (rq, iq, s4, tq)) :
    visitList (callTarget T (visitM T v (fuel + 1)) tgt) (pre ++ c :: post) s
      = .ok (rp ++ r2 :: rq, ip ++ c :: iq, s4, tp ++ ((⟨true, c⟩ :: tb ++ [⟨false, r2⟩]) ++ tq)) := by
  have hc : callTarget T (visitM T v (fuel + 1)) tgt c s1
      = .ok ⟨some r2, c, v.leave r2 s3, ⟨true, c⟩ :: tb ++ [⟨false, r2⟩]⟩ := by
    simp [callTarget, hres, visitM_replace T v fuel m mb c r s1 s2 steps r2 s3 tb hrep hbm hm hbody]
  have := member_frame _ pre post c s hpre hc hpost
  simpa using this

/-- a single (non-list) child: with `assign = true` what the child's visit returns (replacement, or `None` for a
    deletion) is written back to exactly that attribute -/
theorem single_assigned (call : Target → Node → σ → Res (Out σ)) (st : Step) (n c : Node) (s : σ) (o : Out σ)
    (happ : st.applies n.kind = true) (hshape : st.shape = .one) (hassign : st.assign = true)
    (hget : n.getAttr st.attr = some (.one (some c))) (hc : call st.target c s = .ok o) :
    runStep call st n s = .ok (n.setAttr st.attr (.one o.ret), o.st, o.tr) := by
  simp [runStep, happ, hget, hshape, hc, hassign]

private theorem chainEnter_obs (vs : List (Visitor σ)) (hobs : ∀ v ∈ vs, Observer v) (n : Node) :
    ∀ s, chainEnter vs n (some (n, true)) s = (.keep n, vs.foldl (fun s v => (v.enter n s).2) s) := by
  induction vs with
  | nil => intro s; rfl
  | cons v vs ih =>
    intro s
    have hv := hobs v (by simp) n s
    rcases hes : v.enter n s with ⟨act, s1⟩
    rw [hes] at hv
    simp only at hv
    subst hv
    simp only [chainEnter, hes, List.foldl_cons, if_true]
    exact ih (fun w hw => hobs w (by simp [hw])) s1

/-- Members that change nothing: `enter` runs the members' `enter` in order, `leave` runs
    the members' `leave` in reverse order, on the same node.
    SUPERSEDED VARIANT: `chained vs` = `chained vs false` is the loop BEFORE fix C18-W8; the statement for the loop the code
    has is `chained_order_current` (Props/C18_chain_current.lean). -/
theorem chained_order (vs : List (Visitor σ)) (hobs : ∀ v ∈ vs, Observer v) (n : Node) (s : σ) :
    (chained vs).enter n s = (.keep n, vs.foldl (fun s v => (v.enter n s).2) s) ∧
    (chained vs).leave n s = vs.reverse.foldl (fun s v => v.leave n s) s := by
  refine ⟨chainEnter_obs vs hobs n s, ?_⟩
  simp [chained, chainLeave, List.foldl_reverse]

/-- a chain of observers is an observer (so `identity_noop` and `balanced` apply to chains).
    SUPERSEDED VARIANT (pre-W8 loop); current loop: `chained_observer_current`. -/
theorem chained_observer (vs : List (Visitor σ)) (hobs : ∀ v ∈ vs, Observer v) : Observer (chained vs) := by
  intro n s; rw [(chained_order vs hobs n s).1]

/-- `SkipNode` from the first member: no later member is entered, the chain skips.
    SUPERSEDED VARIANT (pre-W8 loop: this is the defect W8); current loop: `chained_skip_personal`. -/
theorem chained_skip (v : Visitor σ) (vs : List (Visitor σ)) (n : Node) (s s1 : σ) (h : v.enter n s = (.skip n, s1)) :
    (chained (v :: vs)).enter n s = (.skip n, s1) := by
  simp [chained, chainEnter, h]

/-! ### the skip signal in a chain, with fix C18-W8 (`chained vs true`): the skip is the raiser's own -/

private theorem chainEnterP_obs (vs rest : List (Visitor σ)) (hobs : ∀ v ∈ vs, Observer v) (n : Node) :
    ∀ (entered : List (Visitor σ)) (sk : Bool) (s : σ),
      chainEnterP (vs ++ rest) n (some (n, true)) entered sk s =
        chainEnterP rest n (some (n, true)) (vs.reverse ++ entered) sk (vs.foldl (fun s v => (v.enter n s).2) s) := by
  induction vs with
  | nil => intro entered sk s; simp
  | cons v vs ih =>
    intro entered sk s
    have hv := hobs v (by simp) n s
    rcases hes : v.enter n s with ⟨act, s1⟩
    rw [hes] at hv
    simp only at hv
    subst hv
    simp only [List.cons_append, chainEnterP, hes, if_true, List.foldl_cons, List.reverse_cons, List.append_assoc]
    exact ih (fun w hw => hobs w (by simp [hw])) (v :: entered) sk s1

/-- members that change nothing: same order of `enter` / `leave` as before the fix -/
theorem chained_order_personal (vs : List (Visitor σ)) (hobs : ∀ v ∈ vs, Observer v) (n : Node) (s : σ) :
    (chained vs true).enter n s = (.keep n, vs.foldl (fun s v => (v.enter n s).2) s) := by
  have := chainEnterP_obs vs [] hobs n [] false s
  simp only [List.append_nil] at this
  simp [chained, this, chainEnterP]

/-- A member `w` raising `SkipNode` between members that change nothing: EVERY member
    enters the node, in order; every member except the raiser is left, in reverse order; the chain raises `SkipNode`
    (so the children are visited by nobody and the chain's own `leave` is not called): the skip suppresses only the
    node's children and the raiser's leave call. -/
theorem chained_skip_personal (pre post : List (Visitor σ)) (w : Visitor σ)
    (hpre : ∀ v ∈ pre, Observer v) (hpost : ∀ v ∈ post, Observer v) (n : Node) (s : σ)
    (hw : ∀ s, (w.enter n s).1 = .skip n) :
    (chained (pre ++ w :: post) true).enter n s =
      (.skip n,
        (pre ++ post).reverse.foldl (fun s v => v.leave n s)
          (post.foldl (fun s v => (v.enter n s).2)
            (w.enter n (pre.foldl (fun s v => (v.enter n s).2) s)).2)) := by
  simp only [chained, if_true]
  rw [chainEnterP_obs pre (w :: post) hpre n [] false s]
  have h1 := hw (pre.foldl (fun s v => (v.enter n s).2) s)
  rcases hes : w.enter n (pre.foldl (fun s v => (v.enter n s).2) s) with ⟨act, s1⟩
  rw [hes] at h1
  simp only at h1
  subst h1
  simp only [chainEnterP, hes, if_true, List.append_nil]
  have h2 := chainEnterP_obs post [] hpost n pre.reverse true s1
  simp only [List.append_nil] at h2
  rw [h2]
  simp [chainEnterP, List.reverse_append]

/-- leaf visitors logging `k` on enter and `10 + k` on leave; `skips` raises SkipNode -/
def logger (k : Nat) (skips : Bool) : Visitor (List Nat) :=
  ⟨fun n s => (if skips then .skip n else .keep n, s ++ [k]), fun _ s => s ++ [10 + k]⟩

/-- `ChainedVisitor(ChainedVisitor(A, S), B)` with `S` raising SkipNode: run member by member (the code before fix
    C18-W10) `A` is left BEFORE `B` is entered (`enter A, enter S, leave A, enter B, leave B`); as its flattening
    (with the fix) the leaf visitors enter in order and leave in reverse (`enter A, S, B, leave B, A`). -/
theorem nested_chain_compose_vs_flat :
    let t : VTree (List Nat) := .chain [.chain [.leaf (logger 1 false), .leaf (logger 2 true)], .leaf (logger 3 false)]
    (t.compose.enter default []).2 = [1, 2, 11, 3, 13] ∧ (t.flat.enter default []).2 = [1, 2, 3, 13, 11] := by
  decide

/-- the flattening meets the specification of `chained_skip_personal`: it IS a flat chain of the leaf visitors -/
theorem nested_chain_flat_is_chain (t : VTree σ) : t.flat = chained t.flatten true := rfl

/-- the full expectation on chains: what a member decides for a node is what the chain does with it -/
def ChainFaithful : Prop :=
  ∀ (v : Visitor Unit) (n : Node), ((chained [v]).enter n ()).1 = (v.enter n ()).1

/-- W6 — `ChainedVisitor.enter` returns the original node: a member's deletion is discarded …
    (stated for the pre-W8 loop; current loop: `chain_discards_delete_current`) -/
theorem chain_discards_delete (v : Visitor σ) (n : Node) (s s1 : σ) (h : v.enter n s = (.delete, s1)) :
    (chained [v]).enter n s = (.keep n, s1) := by
  simp [chained, chainEnter, h]

/-- … and so is a member's replacement (it is only handed to the later members)
    (pre-W8 loop; current loop: `chain_discards_replace_current`) -/
theorem chain_discards_replace (v w : Visitor σ) (n r : Node) (s s1 : σ) (h : v.enter n s = (.replace r, s1)) :
    (chained [v, w]).enter n s = (match w.enter r s1 with
      | (.skip _, s2) => (.skip n, s2)
      | (.raise e, s2) => (.raise e, s2)
      | (_, s2) => (.keep n, s2)) := by
  simp only [chained, chainEnter, h]
  rcases hw : w.enter r s1 with ⟨act, s2⟩
  cases act <;> simp

/-- refutation of `ChainFaithful` (known finding W6) (pre-W8 loop; current loop: `chain_not_faithful_current`) -/
theorem chain_not_faithful : ¬ ChainFaithful := by
  intro h
  have := h ⟨fun _ s => (.delete, s), fun _ s => s⟩ default
  simp [chained, chainEnter] at this

/-- For a visitor that changes nothing, the calls of a completed visit are exactly
    `Spec.implEvents`: the pre/post-order over the child relation that the table IMPLEMENTS, so every node reachable
    through that relation is entered and left exactly once, parents around children, in the order of the
    statements of the `_visit_*` bodies.
    Missing w.r.t. the property statement: the implemented relation is a strict subset of "every non-name child"
    and its order is not always the source order (see `FullCoverage`, `full_coverage_false`, `gaps_*`). -/
theorem coverage_partial (T : Table) (v : Visitor σ) (hv : Observer v) (fuel : Nat) (t : Node) (s : σ) (o : Out σ)
    (h : visit T v fuel t s = .ok o) : Spec.implEvents T fuel t = .ok o.tr := by
  obtain ⟨tr, htr, rfl⟩ := Res.map_eq_ok (visit_observer T v hv fuel t s ▸ h)
  exact htr

open PyGql.Generated.VisitTable

def observer : Visitor Unit := ⟨fun n s => (.keep n, s), fun _ s => s⟩

theorem observer_is_observer : Observer observer := fun _ _ => rfl

/-- (enter?, id, kind) of the calls of an identity visit of `t` with the extracted table.
    The statements about the witness documents take `fuel = 64`. The number is not taken from /repo or from the driver
    (which runs with 100000): any fuel that the visits of the four witnesses do not exhaust would do (`witnesses_today`:
    the results are `some`), and `wellShaped_visit_ok` shows that `t.depth` always suffices. -/
def implKeys (fuel : Nat) (t : Node) : Option (List (Bool × Nat × String)) :=
  match visit table observer fuel t () with
  | .ok o => some (o.tr.map Ev.key)
  | _ => none

def specKeys (t : Node) : List (Bool × Nat × String) := (Spec.events t).map Ev.key

def enterIds (ks : List (Bool × Nat × String)) : List Nat := (ks.filter (·.1)).map (·.2.1)

mutual
/-- (parent kind, attribute) of every non-name child of an entered node that is itself not entered -/
def gapsNode (entered : List Nat) : Node → List (String × String)
  | .mk k _ a => gapsAttrs entered k a
def gapsAttrs (entered : List Nat) (k : String) : List (String × Attr) → List (String × String)
  | [] => []
  | (name, a) :: r => gapsAttr entered k name a ++ gapsAttrs entered k r
def gapsAttr (entered : List Nat) (k name : String) : Attr → List (String × String)
  | .scalar _ => []
  | .one none => []
  | .one (some c) =>
    if c.kind == "Name" then [] else if entered.contains c.id then gapsNode entered c else [(k, name)]
  | .many cs => gapsList entered k name cs
def gapsList (entered : List Nat) (k name : String) : List Node → List (String × String)
  | [] => []
  | c :: r =>
    (if c.kind == "Name" then [] else if entered.contains c.id then gapsNode entered c else [(k, name)])
      ++ gapsList entered k name r
end

def gaps (t : Node) : Option (List (String × String)) :=
  (implKeys 64 t).map fun ks => (gapsNode (enterIds ks) t).eraseDups

/-- are the entered nodes entered in the specified (source) order? -/
def orderOk (t : Node) : Option Bool :=
  (implKeys 64 t).map fun ks => enterIds ks == (enterIds (specKeys t)).filter (fun i => (enterIds ks).contains i)

/-- **FULL STATEMENT of coverage** (false today): an identity visit enters and leaves EVERY non-name node,
    pre/post-order, siblings in source order. -/
def FullCoverage : Prop := ∀ (t : Node) (fuel : Nat) (ks : List (Bool × Nat × String)), implKeys fuel t = some ks → ks = specKeys t

end PyGql.Props.C18
