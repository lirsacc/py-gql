/-
  C18 — the decidable checks in which the statements about today's `visitor.py` are phrased: which slots the `_visit_*`
  bodies traverse (`coveredBy`, `uncoveredSlots`), which child classes a position admits (`wellKinded`, `tableKinded`),
  statement order against slot order (`inversions`, `orderAgrees`). Functions of a table (and a tree) only, so that
  Props/C18_table.lean can evaluate all of them on `Generated.VisitTable.table` together.
-/
import PyGqlModel.Generated.VisitTable

namespace PyGql.Props.C18
open PyGql.Visit PyGql.Generated.VisitTable

/-- the statements of the `_visit_*` body that `ASTVisitor.visit` registers for the kind `k` -/
def stepsOf (T : Table) (k : String) : List Step :=
  match T.visit.lookup k with
  | some m => (T.methods.lookup m).getD []
  | none => []

/-- has the body registered for kind `k` a statement for the attribute `a`? -/
def coveredBy (T : Table) (k a : String) : Bool := (stepsOf T k).any (fun st => st.attr == a && st.applies k)

/-- the `__slots__` (except `loc`) of every node class that no statement of its `_visit_*` body traverses -/
def uncoveredSlots (T : Table) : List (String × String) :=
  T.slots.flatMap fun p => (p.2.filter (fun a => a != "loc" && !coveredBy T p.1 a)).map (fun a => (p.1, a))

/-- untraversed slots that hold a scalar (`value`, `operation`, `block`) or `Name` nodes (`name`, `alias`, `locations`):
    the specification asks nothing for them ("every NON-NAME node") -/
def scalarOrNameSlot (p : String × String) : Bool :=
  p.2 == "name" || p.2 == "alias" || p.2 == "operation" || p.2 == "block" || p == ("DirectiveDefinition", "locations") ||
  (p.2 == "value" && ["BooleanValue", "EnumValue", "FloatValue", "IntValue", "StringValue", "Name"].contains p.1)

mutual
/-- the classification is right on a tree: a `scalarOrNameSlot` never holds a node other than a `Name` -/
def slotsClassified : Node → Bool
  | .mk k _ a => slotsClassifiedAttrs k a
def slotsClassifiedAttrs (k : String) : List (String × Attr) → Bool
  | [] => true
  | (name, a) :: r => slotsClassifiedAttr k name a && slotsClassifiedAttrs k r
def slotsClassifiedAttr (k name : String) : Attr → Bool
  | .scalar _ => true
  | .one none => true
  | .one (some c) => (!scalarOrNameSlot (k, name) || c.kind == "Name") && slotsClassified c
  | .many cs => slotsClassifiedList k name cs
def slotsClassifiedList (k name : String) : List Node → Bool
  | [] => true
  | c :: r => (!scalarOrNameSlot (k, name) || c.kind == "Name") && slotsClassified c && slotsClassifiedList k name r
end

def effSteps (T : Table) (m k : String) : List Step := ((T.methods.lookup m).getD []).filter (·.applies k)

/-- the statements of the method that `visit` registers for kind `k`, restricted to those that apply to `k` -/
def ownSteps (T : Table) (k : String) : List Step :=
  match T.visit.lookup k with
  | some mk => effSteps T mk k
  | none => []

abbrev ChildKinds := List ((String × String) × List String)

/-- the class of `c` is admitted under the attribute `a` of a node of kind `k` -/
def kindOk (CK : ChildKinds) (k a : String) (c : Node) : Bool :=
  match CK.lookup (k, a) with
  | some ks => ks.contains c.kind
  | none => false

mutual
/-- every child (at any depth) has a class admitted at its position -/
def wellKinded (CK : ChildKinds) : Node → Bool
  | .mk k _ a => wellKindedAttrs CK k a
def wellKindedAttrs (CK : ChildKinds) (k : String) : List (String × Attr) → Bool
  | [] => true
  | (name, a) :: r => wellKindedAttr CK k name a && wellKindedAttrs CK k r
def wellKindedAttr (CK : ChildKinds) (k name : String) : Attr → Bool
  | .scalar _ => true
  | .one none => true
  | .one (some c) => kindOk CK k name c && wellKinded CK c
  | .many cs => wellKindedList CK k name cs
def wellKindedList (CK : ChildKinds) (k name : String) : List Node → Bool
  | [] => true
  | c :: r => kindOk CK k name c && wellKinded CK c && wellKindedList CK k name r
end

/-- for every admitted child class the call target of every statement resolves to a method whose statements, as far as
    they apply to that class, are those of the class's own method -/
def tableKinded (T : Table) (CK : ChildKinds) : Bool :=
  CK.all fun row => (ownSteps T row.1.1).all fun st => st.attr != row.1.2 || row.2.all fun k' =>
    match resolve T st.target k' with
    | .ok m' => decide (effSteps T m' k' = ownSteps T k')
    | .error _ => false

/-- `a` occurs before a later `b` -/
def attrBefore : List String → String → String → Bool
  | [], _, _ => false
  | x :: r, a, b => (x == a && r.contains b) || attrBefore r a b

/-- a statement for `a` occurs before a later statement for `b` -/
def stepsBefore : List Step → String → String → Bool
  | [], _, _ => false
  | s :: r, a, b => (s.attr == a && r.any (·.attr == b)) || stepsBefore r a b

/-- (kind, attribute visited FIRST, attribute visited SECOND) with the second before the first in `__slots__` -/
def inversions (T : Table) : List (String × String × String) :=
  T.slots.flatMap fun p => p.2.flatMap fun a => (p.2.filter fun b =>
    stepsBefore (ownSteps T p.1) a b && attrBefore p.2 b a).map fun b => (p.1, a, b)

/-- the four triples of finding W5, in the form of `inversions`: attributes that the visitor walks against their
    `__slots__` order -/
def w5 : List (String × String × String) :=
  [("FieldDefinition", "type", "arguments"), ("SchemaDefinition", "operation_types", "directives"),
   ("SchemaExtension", "operation_types", "directives"), ("VariableDefinition", "default_value", "type")]

/-- everywhere else two traversed attributes in slot order have their statements in the same order -/
def orderAgrees (T : Table) (ex : List (String × String × String)) : Bool :=
  T.slots.all fun p => p.2.all fun a => p.2.all fun b =>
    !(attrBefore p.2 a b && coveredBy T p.1 a && coveredBy T p.1 b) || ex.contains (p.1, b, a) ||
      stepsBefore (ownSteps T p.1) a b

end PyGql.Props.C18
