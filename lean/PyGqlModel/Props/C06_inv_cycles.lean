/-
  C06 - invariance of `NoFragmentCyclesChecker` and `PossibleFragmentSpreadsChecker` under `Tr` (selection order,
  argument order, injective fragment renaming) and under reordering of definitions. Route for the cycles rule: the rule
  theorem `rule_no_fragment_cycles_iff` (documents with unique, non-empty fragment names; fix V11) + invariance of the
  clause `Spec.noFragmentCycles`: the spread graph of the transformed document is the image of the spread graph. For
  PossibleFragmentSpreads: the fragment-type table of the transformed document at a renamed name (`fragTypes_tr`).
-/
import PyGqlModel.Props.C06_inv_tr_partial
import PyGqlModel.Props.C06_frags_reachable
import PyGqlModel.Lemmas.ValidateOverlapSimTr
namespace PyGql.Props.C06
open PyGql PyGql.Validate PyGql.Validate.Spec

theorem tr_sels_nil (T : Tr) : T.sels [] = [] := List.Perm.eq_nil (T.sels_perm [])

theorem mem_directSpreads_tr (T : Tr) (sels : List Sel) (x : String) :
    x ∈ Spec.directSpreads (T.sels (T.selList sels)) ↔ ∃ a ∈ Spec.directSpreads sels, x = T.frag a := by
  rw [mem_directSpreads]
  constructor
  · rintro ⟨ds, h⟩
    have := (selsTop_tr T sels).mem_iff.mp h
    obtain ⟨n, hn, e⟩ := List.mem_map.mp this
    cases n <;> simp [Tr.node] at e
    rename_i a ds'
    exact ⟨a, mem_directSpreads.mpr ⟨ds', hn⟩, e.1.symm⟩
  · rintro ⟨a, ha, rfl⟩
    obtain ⟨ds, h⟩ := mem_directSpreads.mp ha
    exact ⟨ds.map T.dir, (selsTop_tr T sels).mem_iff.mpr (List.mem_map.mpr ⟨_, h, rfl⟩)⟩

theorem fragSels_tr (T : Tr) (hinj : ∀ a b, T.frag a = T.frag b → a = b) (d : Doc) (a : String) :
    Spec.fragSels (T.doc d) (T.frag a) = T.sels (T.selList (Spec.fragSels d a)) := by
  obtain ⟨ds⟩ := d
  simp only [Spec.fragSels, Tr.doc]
  induction ds with
  | nil => exact (tr_sels_nil T).symm
  | cons x xs ih =>
    cases x with
    | frag n on dirs i sels =>
      simp only [List.map_cons, Tr.defn, List.findSome?_cons]
      by_cases h : n = a
      · subst h; simp
      · have hb : (T.frag n == T.frag a) = false := by simpa using fun e => h (hinj _ _ e)
        have hb2 : (n == a) = false := by simpa using h
        simp only [hb, hb2, Bool.false_eq_true, ↓reduceIte]
        exact ih
    | op k n v dd i ss => simpa only [List.map_cons, Tr.defn, List.findSome?_cons] using ih
    | ts p q => simpa only [List.map_cons, Tr.defn, List.findSome?_cons] using ih

theorem reach_tr_of (T : Tr) (hinj : ∀ a b, T.frag a = T.frag b → a = b) (d : Doc) {a b : String}
    (h : Spec.Reach d a b) : Spec.Reach (T.doc d) (T.frag a) (T.frag b) := by
  induction h with
  | step h =>
    refine .step ?_
    rw [fragSels_tr T hinj]
    exact (mem_directSpreads_tr T _ _).mpr ⟨_, h, rfl⟩
  | trans _ _ ih1 ih2 => exact .trans ih1 ih2

theorem reach_of_tr (T : Tr) (hinj : ∀ a b, T.frag a = T.frag b → a = b) (d : Doc) {x y : String}
    (h : Spec.Reach (T.doc d) x y) : ∀ a, x = T.frag a → ∃ b, y = T.frag b ∧ Spec.Reach d a b := by
  induction h with
  | step h =>
    intro a e
    subst e
    rw [fragSels_tr T hinj] at h
    obtain ⟨b, hb, rfl⟩ := (mem_directSpreads_tr T _ _).mp h
    exact ⟨b, rfl, .step hb⟩
  | trans _ _ ih1 ih2 =>
    intro a e
    obtain ⟨b, rfl, h1⟩ := ih1 a e
    obtain ⟨c, rfl, h2⟩ := ih2 b rfl
    exact ⟨c, rfl, .trans h1 h2⟩

theorem no_fragment_cycles_spec_tr (T : Tr) (hinj : ∀ a b, T.frag a = T.frag b → a = b) (d : Doc) :
    Spec.noFragmentCycles (T.doc d) ↔ Spec.noFragmentCycles d := by
  unfold Spec.noFragmentCycles
  rw [fragNames_tr]
  constructor
  · intro h f hf hr
    exact h (T.frag f) (List.mem_map_of_mem hf) (reach_tr_of T hinj d hr)
  · intro h f hf hr
    obtain ⟨a, ha, rfl⟩ := List.mem_map.mp hf
    obtain ⟨b, e, hr'⟩ := reach_of_tr T hinj d hr a rfl
    rw [← hinj _ _ e] at hr'
    exact h a ha hr'

/-- **perm_selections / perm_arguments / alpha_fragments for `NoFragmentCyclesChecker`**: documents with unique
    fragment names that are non-empty before and after the renaming; code with fix V11 -/
theorem tr_invariance_no_fragment_cycles (T : Tr) (hinj : ∀ a b, T.frag a = T.frag b → a = b) (s : SchemaD) (fx : Fixes)
    (hv : fx.v11 = true) (d : Doc) (hnd : Spec.uniqueFragmentNames d) (hne : NamesNonEmpty d)
    (hne' : NamesNonEmpty (T.doc d)) :
    Silent s fx .noFragmentCycles (T.doc d) ↔ Silent s fx .noFragmentCycles d := by
  have hnd' : (Spec.fragNames (T.doc d)).Nodup := (spec_tr T hinj s d .uniqueFragmentNames (by decide +kernel) (by decide +kernel)).mpr hnd
  rw [rule_no_fragment_cycles_iff s fx hv _ hnd' hne', rule_no_fragment_cycles_iff s fx hv d hnd hne]
  exact no_fragment_cycles_spec_tr T hinj d

/-- selection / argument reordering only (no renaming): non-emptiness of the names carries over -/
theorem perm_selections_arguments_no_fragment_cycles (πs : List Sel → List Sel) (πa : List Arg → List Arg)
    (hs : ∀ l, (πs l).Perm l) (ha : ∀ l, (πa l).Perm l) (s : SchemaD) (fx : Fixes) (hv : fx.v11 = true) (d : Doc)
    (hnd : Spec.uniqueFragmentNames d) (hne : NamesNonEmpty d) :
    Silent s fx .noFragmentCycles ((Tr.mk πs πa id hs ha).doc d) ↔ Silent s fx .noFragmentCycles d := by
  refine tr_invariance_no_fragment_cycles _ (fun _ _ e => e) s fx hv d hnd hne ?_
  intro f hf
  rw [fragNames_tr] at hf
  simp only [List.map_id_fun, id_eq] at hf
  exact hne f hf

theorem fragsOf_perm {ds ds' : List Def} (h : ds.Perm ds') : (fragsOf ds).Perm (fragsOf ds') := h.filterMap _

theorem fragSels_perm {d d' : Doc} (h : d.defs.Perm d'.defs) (hnd : Spec.uniqueFragmentNames d) (a : String) :
    Spec.fragSels d a = Spec.fragSels d' a := by
  have hp := fragsOf_perm h
  have hnd1 : ((fragsOf d.defs).map (·.1)).Nodup := by rw [← fragNames_eq_fragsOf]; exact hnd
  have hnd2 : ((fragsOf d'.defs).map (·.1)).Nodup := (hp.map _).nodup_iff.mp hnd1
  by_cases hm : a ∈ (fragsOf d.defs).map (·.1)
  · obtain ⟨p, hp1, rfl⟩ := List.mem_map.mp hm
    have e1 := fragSels_of_mem d.defs p.1 p.2 hnd1 hp1
    have e2 := fragSels_of_mem d'.defs p.1 p.2 hnd2 (hp.mem_iff.mp hp1)
    exact e1.trans e2.symm
  · have hm' : a ∉ (fragsOf d'.defs).map (·.1) := fun h' => hm ((hp.map _).mem_iff.mpr h')
    exact (fragSels_not_mem d.defs a hm).trans (fragSels_not_mem d'.defs a hm').symm

theorem reach_perm {d d' : Doc} (h : d.defs.Perm d'.defs) (hnd : Spec.uniqueFragmentNames d) {a b : String}
    (hr : Spec.Reach d a b) : Spec.Reach d' a b := by
  induction hr with
  | step hs => exact .step (by rw [← fragSels_perm h hnd]; exact hs)
  | trans _ _ ih1 ih2 => exact .trans ih1 ih2

theorem fragNames_perm {d d' : Doc} (h : d.defs.Perm d'.defs) : (Spec.fragNames d).Perm (Spec.fragNames d') :=
  h.filterMap _

/-- **perm_definitions for `NoFragmentCyclesChecker`** (unique, non-empty fragment names; fix V11) -/
theorem perm_definitions_no_fragment_cycles (s : SchemaD) (fx : Fixes) (hv : fx.v11 = true) {d d' : Doc}
    (h : d.defs.Perm d'.defs) (hnd : Spec.uniqueFragmentNames d) (hne : NamesNonEmpty d) :
    Silent s fx .noFragmentCycles d ↔ Silent s fx .noFragmentCycles d' := by
  have hfp := fragNames_perm h
  have hnd' : Spec.uniqueFragmentNames d' := hfp.nodup_iff.mp hnd
  have hne' : NamesNonEmpty d' := fun f hf => hne f (hfp.mem_iff.mpr hf)
  rw [rule_no_fragment_cycles_iff s fx hv d hnd hne, rule_no_fragment_cycles_iff s fx hv d' hnd' hne']
  unfold Spec.noFragmentCycles
  constructor
  · intro H f hf hr
    exact H f (hfp.mem_iff.mpr hf) (reach_perm h.symm hnd' hr)
  · intro H f hf hr
    exact H f (hfp.mem_iff.mp hf) (reach_perm h hnd hr)

/-- how `Tr` acts on the entries of `fragDefs` -/
def trFragDef (T : Tr) (f : String × String × Nat × List Sel) : String × String × Nat × List Sel :=
  (T.frag f.1, f.2.1, f.2.2.1, T.sels (T.selList f.2.2.2))

theorem fragDefs_tr (T : Tr) (d : Doc) : fragDefs (T.doc d) = (fragDefs d).map (trFragDef T) :=
  (T.docMap d).fragDefs_eq

theorem fragTypes_as_pairs (s : SchemaD) (d : Doc) :
    fragTypes s d = (((fragDefs d).filter fun f => (typeFromAst s (.named f.2.1)).isSome).map fun f => (f.1, f.2.1)).foldl
      (fun acc f => AL.set acc f.1 f.2) [] := by
  unfold fragTypes
  rw [List.foldl_map]

theorem fragTypes_tr (T : Tr) (hinj : ∀ a b, T.frag a = T.frag b → a = b) (s : SchemaD) (d : Doc) (name : String) :
    AL.get? (fragTypes s (T.doc d)) (T.frag name) = AL.get? (fragTypes s d) name := by
  rw [fragTypes_as_pairs, fragTypes_as_pairs, fragDefs_tr, List.filter_map, List.map_map]
  have e : (fun f : String × String × Nat × List Sel => (f.1, f.2.1)) ∘ trFragDef T =
      fun f => (T.frag f.1, f.2.1) := rfl
  have e2 : ((fun f : String × String × Nat × List Sel => (typeFromAst s (.named f.2.1)).isSome) ∘ trFragDef T) =
      fun f => (typeFromAst s (.named f.2.1)).isSome := rfl
  rw [e, e2]
  have := get?_foldl_set_image T.frag hinj id name
    (((fragDefs d).filter fun f => (typeFromAst s (.named f.2.1)).isSome).map fun f => (f.1, f.2.1)) [] [] rfl
  simpa only [List.foldl_map, id_eq, Option.map_id_fun, id_eq] using this

theorem possible_fragment_spreads_spec_tr (T : Tr) (hinj : ∀ a b, T.frag a = T.frag b → a = b) (s : SchemaD) (fx : Fixes)
    (d : Doc) : Spec.possibleFragmentSpreads s fx (T.doc d) ↔ Spec.possibleFragmentSpreads s fx d := by
  simp only [Spec.possibleFragmentSpreads, viewNodes, forall_gnDoc_tr T (View.enter s) (view_enter_tr T s),
    T.forall_node_spread, T.forall_node_inline, fragTypes_tr T hinj]

/-- **perm_selections / perm_arguments / alpha_fragments for `PossibleFragmentSpreadsChecker`** (no hypothesis on the
    document or the fixes) -/
theorem tr_invariance_possible_fragment_spreads (T : Tr) (hinj : ∀ a b, T.frag a = T.frag b → a = b) (s : SchemaD)
    (fx : Fixes) (d : Doc) :
    Silent s fx .possibleFragmentSpreads (T.doc d) ↔ Silent s fx .possibleFragmentSpreads d := by
  rw [rule_possible_fragment_spreads_iff, rule_possible_fragment_spreads_iff]
  exact possible_fragment_spreads_spec_tr T hinj s fx d

theorem fragTypes_perm (s : SchemaD) {d d' : Doc} (h : d.defs.Perm d'.defs) (hnd : Spec.uniqueFragmentNames d) (k : String) :
    AL.get? (fragTypes s d) k = AL.get? (fragTypes s d') k := by
  rw [fragTypes_as_pairs, fragTypes_as_pairs]
  have hp : (fragDefs d).Perm (fragDefs d') := h.filterMap _
  refine get?_foldl_set_perm ((hp.filter _).map _) ?_ k
  rw [List.map_map]
  have e : ((fun f : String × String => f.1) ∘ fun f : String × String × Nat × List Sel => (f.1, f.2.1)) = (·.1) := rfl
  rw [e]
  have hs : (((fragDefs d).filter fun f => (typeFromAst s (.named f.2.1)).isSome).map (·.1)).Sublist ((fragDefs d).map (·.1)) :=
    (List.filter_sublist).map _
  rw [fragDefs_names] at hs
  exact hs.nodup hnd

/-- **perm_definitions for `PossibleFragmentSpreadsChecker`**, on documents with unique fragment names (with two
    definitions of a name the visitor reads the type condition of the LAST one: the verdict depends on the order) -/
theorem perm_definitions_possible_fragment_spreads (s : SchemaD) (fx : Fixes) {d d' : Doc} (h : d.defs.Perm d'.defs)
    (hnd : Spec.uniqueFragmentNames d) :
    Silent s fx .possibleFragmentSpreads d ↔ Silent s fx .possibleFragmentSpreads d' := by
  rw [rule_possible_fragment_spreads_iff, rule_possible_fragment_spreads_iff]
  unfold Spec.possibleFragmentSpreads viewNodes
  have hg : ∀ q, q ∈ gnDoc (View.enter s) {} d ↔ q ∈ gnDoc (View.enter s) {} d' := fun q => (h.flatMap_right _).mem_iff
  simp only [hg, fragTypes_perm s h hnd]

end PyGql.Props.C06
