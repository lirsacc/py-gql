/-
  C12 — the THIRD clause of the property: "serialising the rebuilt schema reproduces the same text"
  (`print (build (parse (print s))) = print s`); audit 3 F8.

  `text_roundtrip` gives `build ∘ parse ∘ print = printOrder` on the schemas of `printTextWF ∧ printBuildWF`, and the
  printer does not see the order of the registries (`printSchemaT_order_independent`), so the printed text is a FIXPOINT of
  print → parse → build → print.  Stated for
    * the Text model without applied directives (`print_fixpoint_text`),
    * the Text model with applied directives (`print_fixpoint_text_custom`: the rebuilt schema's nodes are the nodes of
      the parsed document, i.e. the same assignment `apps`),
    * the String model of the history correspondence (`print_fixpoint_string`),
    * in the form: ANY schema a document builds that equals `printOrder s` re-prints the text
      (`reprint_of_build`).
  EXCLUSIONS (named): the schemas outside `printTextWF o s` (lexical: H5 empty / trailing-newline / trailing-backslash /
  control-character descriptions, H12 lines wider than 120 − indent, enum values `true/false/null`, `descriptions = false`
  — for that see `print_fixpoint_text_nodesc` in `C12_nodesc.lean`) and outside `printBuildWF s` (structural: H2 omitted
  defaulted input fields, H6 empty deprecation reason, H8 non-canonical floats, Python-valued enums, resolvers).
  `C12_valid.lean` ties both predicates to C13's `ValidSchema`.

  All four public theorems are property theorems.
-/
import PyGqlModel.Props.C12_text
import PyGqlModel.Props.C12_models
namespace PyGql.Props.C12
open PyGql PyGql.Sdl PyGql.SdlPrint PyGql.SdlText

/-- the clause at text level: the printed text parses, the parsed document builds a schema, and printing THAT schema gives
    the same text again (and the rebuilt schema is again inside the domain of the theorem, so the round trip can be
    iterated) -/
def PrintFixpointStatement : Prop :=
  ∀ (o : SdlPrintT.OptsT) (s : SchemaD), printTextWF o s = true → printBuildWF s = true →
    ∃ (d : Ast.Document) (doc : Doc) (s' : SchemaD), parseSdlTextT (SdlPrintT.printSchemaT o s) = some d ∧
      docToAst doc = some d ∧ build doc = .ok s' ∧
      SdlPrintT.printSchemaT o s' = SdlPrintT.printSchemaT o s ∧ printTextWF o s' = true ∧ printBuildWF s' = true

theorem print_fixpoint_text : PrintFixpointStatement := by
  intro o s hwf hb
  have hu := namesUnique_of_wf o s hwf
  obtain ⟨d, doc, h1, h2, h3⟩ := text_roundtrip o s hwf (printBuildWF_printOrder s hb)
  exact ⟨d, doc, printOrder s, h1, h2, h3, printSchemaT_order_independent o s hu,
    by rw [printTextWF_order_independent o s hu]; exact hwf, printBuildWF_printOrder s hb⟩

/-- whatever document builds the printing order of `s` (the document the text parses to does, by `text_roundtrip`),
    re-printing the built schema gives the text of `s` -/
theorem reprint_of_build (o : SdlPrintT.OptsT) (s : SchemaD) (hwf : printTextWF o s = true) (doc : Doc) (s' : SchemaD)
    (hdoc : build doc = .ok s') (hsame : build doc = .ok (printOrder s)) :
    SdlPrintT.printSchemaT o s' = SdlPrintT.printSchemaT o s := by
  have e : s' = printOrder s := by rw [hdoc] at hsame; exact Except.ok.inj hsame
  rw [e]; exact printSchemaT_order_independent o s (namesUnique_of_wf o s hwf)

/-- with applied directives (`include_custom_schema_directives` on / whitelist): the document — applications included —
    builds `s'`, and printing `s'` with the same directive nodes gives the same text -/
theorem print_fixpoint_text_custom (c : SdlPrintTA.OptsA) (s : SchemaD) (apps : Apps)
    (hwf : SdlPrintTA.printTextWFA c s apps = true) (hb : printBuildWF s = true) :
    ∃ (d : Ast.Document) (doc : Doc) (s' : SchemaD), parseSdlTextT (SdlPrintTA.printSchemaTA c s apps) = some d ∧
      docToAst doc = some d ∧ doc = SdlPrintTA.printedDocA s c apps ∧ build doc = .ok s' ∧
      SdlPrintTA.printSchemaTA c s' apps = SdlPrintTA.printSchemaTA c s apps ∧ SdlPrintTA.printTextWFA c s' apps = true := by
  have hu := namesUnique_of_wfA c s apps hwf
  obtain ⟨d, doc, h1, h2, h3, h4⟩ := text_roundtrip_custom_build c s apps hwf hb
  exact ⟨d, doc, printOrder s, h1, h2, h3, h4, printSchemaTA_order_independent c s apps hu,
    by rw [printTextWFA_printOrder c s apps hu]; exact hwf⟩

/-- the same about the String model (the model of `print_pure` and of the history correspondence), in the state of the
    fixed code -/
theorem print_fixpoint_string (o : Opts) (s : SchemaD) (apps : Apps)
    (hwf : SdlPrintTA.printTextWFA (SdlModels.optsA o) s apps = true) (hb : printBuildWF s = true) :
    ∃ (d : Ast.Document) (doc : Doc) (s' : SchemaD),
      parseSdlTextT (SdlPrintT.T (printSchema o s apps initialCollection).1) = some d ∧ docToAst doc = some d ∧
      build doc = .ok s' ∧ (printSchema o s' apps initialCollection).1 = (printSchema o s apps initialCollection).1 := by
  obtain ⟨d, doc, s', h1, h2, _, h4, h5, h6⟩ := print_fixpoint_text_custom (SdlModels.optsA o) s apps hwf hb
  refine ⟨d, doc, s', ?_, h2, h4, ?_⟩
  · rw [printSchemaTA_eq_printSchema_of_wfa o s apps hwf]; exact h1
  · have e1 := printSchemaTA_eq_printSchema_of_wfa o s apps hwf
    have e2 := printSchemaTA_eq_printSchema_of_wfa o s' apps h6
    have : SdlPrintT.T (printSchema o s' apps initialCollection).1 = SdlPrintT.T (printSchema o s apps initialCollection).1 := by
      rw [e1, e2, h5]
    exact SdlModels.T_inj.mp this

/-! ### non-vacuity -/

example : ∃ d doc s', parseSdlTextT (SdlPrintT.printSchemaT {} shop) = some d ∧ docToAst doc = some d ∧ build doc = .ok s' ∧
    SdlPrintT.printSchemaT {} s' = SdlPrintT.printSchemaT {} shop ∧ printTextWF {} s' = true ∧ printBuildWF s' = true :=
  print_fixpoint_text {} shop shop_textWF shop_wf
example : ∃ d doc s', parseSdlTextT (SdlPrintT.printSchemaT { indent := [9] } descShop) = some d ∧ docToAst doc = some d ∧
    build doc = .ok s' ∧ SdlPrintT.printSchemaT { indent := [9] } s' = SdlPrintT.printSchemaT { indent := [9] } descShop ∧
    printTextWF { indent := [9] } s' = true ∧ printBuildWF s' = true :=
  print_fixpoint_text _ descShop descShop_textWF_tab descShop_wf

end PyGql.Props.C12
