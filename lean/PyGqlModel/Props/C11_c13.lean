/-
  C11 ∩ C13 — "the specification's type-system rules" of the C11 statement are, for the KIND rules, the rules that
  `Schema.validate` implements and C13 specifies (`Spec/SchemaValidSpec.lean: ValidSchema`, `validate_iff`).

  `kindRules_of_validSchema`: a schema that satisfies C13's `ValidSchema` satisfies the `KindRules` premise of
  `build_exact_spec` — for the types of the document, whatever specified / introspection types the registry holds
  besides them.  So a document whose DECLARED content passes schema validation never meets the circular-reference
  guard of the builder (`noEagerCycle_of_validSchema`), and `build_exact_valid` states `build_exact` with C13's predicate
  in place of the kind rules.
-/
import PyGqlModel.Props.C11_valid
import PyGqlModel.Spec.SchemaValidSpec
import PyGqlModel.Props.C13


namespace PyGql.Props.C11
open PyGql PyGql.Sdl PyGql.SdlSpec

private theorem kindAt_append_eq (types more : List TypeD) (n : String) :
    kindAt (types ++ more) n = (kindAt types n).or (kindAt more n) := by
  unfold kindAt
  rw [List.find?_append]
  cases types.find? (·.name == n) <;> rfl

theorem kindAt_append (types more : List TypeD) (n : String) (k : Kind) (h : kindAt (types ++ more) n = some k) :
    kindAt types n = some k ∨ kindAt types n = none := by
  rw [kindAt_append_eq] at h
  cases hk : kindAt types n with
  | none => exact Or.inr rfl
  | some k' =>
    rw [hk] at h
    exact Or.inl h

theorem compositeOut_append (types more : List TypeD) (n : String) (h : compositeOut (kindAt (types ++ more) n) = false) :
    compositeOut (kindAt types n) = false := by
  rw [kindAt_append_eq] at h
  cases hk : kindAt types n with
  | none => rfl
  | some k =>
    rw [hk] at h
    exact h

private theorem isInput_composite (s : SchemaD) (t : Ty) (h : SchemaValid.isInputType s t = true) :
    compositeOut (kindAt s.types t.base) = false := by
  unfold SchemaValid.isInputType SchemaValid.kindOf SchemaD.findType at h
  unfold kindAt
  cases hk : (s.types.find? (·.name == t.base)).map (·.kind) with
  | none => rfl
  | some k => rw [hk] at h; cases k <;> simp_all [compositeOut]

/-- **C13 ⇒ the kind rules of C11**: if the registry `types ++ more` (`more`: the specified scalars and introspection
    types, or anything else) with its roots and directives satisfies `ValidSchema`, the types `types` satisfy `KindRules` -/
theorem kindRules_of_validSchema (s : SchemaD) (rv : Bool) (types more : List TypeD) (hs : s.types = types ++ more)
    (h : SchemaValidSpec.ValidSchema s rv) : KindRules types := by
  obtain ⟨_, hT, _⟩ := h
  refine ⟨?_, ?_, ?_⟩
  · intro t ht hk i hi
    have hok := (hT t (by rw [hs]; exact List.mem_append_left _ ht)).2
    simp only [hk] at hok
    obtain ⟨it, hit, hik, _⟩ := hok.2.1 i hi
    have : kindAt (types ++ more) i = some .interface := by
      rw [← hs]; unfold kindAt; unfold SchemaD.findType at hit; rw [hit]; simp [hik]
    exact kindAt_append types more i _ this
  · intro t ht hk m hm
    have hok := (hT t (by rw [hs]; exact List.mem_append_left _ ht)).2
    simp only [hk] at hok
    have := hok.2.1 m hm
    have : kindAt (types ++ more) m = some .object := by rw [← hs]; exact this
    exact kindAt_append types more m _ this
  · intro t ht hk f hf a ha
    have hok := (hT t (by rw [hs]; exact List.mem_append_left _ ht)).2
    have hF : SchemaValidSpec.FieldsOK s rv t := by
      rcases hk with hk | hk <;> simp only [hk] at hok
      · exact hok.1
      · exact hok
    have hin := ((hF.2.1 f hf).2.2.1.1 a ha).2.1
    have := isInput_composite s a.type hin
    rw [hs] at this
    exact compositeOut_append types more _ this

theorem noEagerCycle_of_validSchema (s : SchemaD) (rv : Bool) (types more : List TypeD) (hs : s.types = types ++ more)
    (h : SchemaValidSpec.ValidSchema s rv) : hasEagerCycle types = false :=
  noEagerCycle_of_kinds types (kindRules_of_validSchema s rv types more hs h)

/-- **build_exact with C13's predicate**: `SdlValid` (Spec/SdlSpec.lean), the declared content — completed with any list
    `more` of specified types — valid for `Schema.validate` (`ValidSchema`, C13), the root operations well-formed, and the
    S8 / S1b residue: the document builds exactly its declared content. -/
theorem build_exact_valid (doc : Doc) (d : SchemaD) (more : List TypeD) (rv : Bool)
    (valid : SdlValid doc) (declares : Declared doc = some d)
    (valid13 : SchemaValidSpec.ValidSchema { d with types := d.types ++ more } rv)
    (noSpecified : d.directives.any (fun x => specifiedDirectives.contains x.name) = false)
    (schemaOps : ∀ sd, (schemaDefs doc).head? = some sd →
      (sd.ops.map (·.1)).Nodup ∧ ∀ o ∈ sd.ops, (Env.of (typeDefs doc)).resolves o.2 = true)
    (extOps : ((schemaExtensions doc).flatMap (·.ops)).map (·.1) |>.Nodup)
    (extOpsNew : ∀ o ∈ (schemaExtensions doc).flatMap (·.ops),
      (baseRoots doc d.types).get o.1 = none ∧ (isDefaultName o.2 || d.types.any (·.name == o.2)) = true)
    (x : Residue doc) : build doc = .ok d :=
  build_exact_final doc d (sdlOK_of_rules doc d
    { valid := valid, declares := declares, kinds := kindRules_of_validSchema _ rv d.types more rfl valid13,
      noSpecified := noSpecified, schemaOps := schemaOps, extOps := extOps, extOpsNew := extOpsNew } x)

/-! ### non-vacuity: a document with an interface, a union, an input argument, an extension — its declared content,
completed with the two specified scalars it uses, passes C13's validator (`validate_iff`, evaluated) -/

def vDoc : Doc := [
  .type { kind := .interface, name := "N", fields := [{ name := "id", type := .named "ID" }] },
  .type { kind := .object, name := "T", interfaces := ["N"], fields := [{ name := "id", type := .named "ID" }] },
  .type { kind := .union, name := "U", members := ["T"] },
  .type { kind := .input, name := "I", inputFields := [{ name := "x", type := .named "Int" }] },
  .type { kind := .object, name := "Query", fields := [{ name := "u", type := .named "U", args := [{ name := "i", type := .named "I" }] }] },
  .ext { kind := .object, name := "Query", fields := [{ name := "n", type := .named "N" }] }]

def vMore : List TypeD := [{ kind := .scalar, name := "Int", builtin := true }, { kind := .scalar, name := "ID", builtin := true }]

/-- what is evaluated on `vDoc`, once: it declares a content, and that content, completed with `vMore`, passes the validator -/
private theorem v_facts : ∃ hs : (Declared vDoc).isSome = true,
    PyGql.SchemaValid.validate { (Declared vDoc).get hs with types := ((Declared vDoc).get hs).types ++ vMore } true = [] := by decide +kernel

theorem vDeclares : (Declared vDoc).isSome = true := v_facts.elim fun h _ => h

theorem vDoc_valid13 : SchemaValidSpec.ValidSchema { (Declared vDoc).get vDeclares with types := ((Declared vDoc).get vDeclares).types ++ vMore } true :=
  v_facts.elim fun _ h => (PyGql.Props.C13.validate_iff _ _).1 h

-- the schema is given: left to unification, `rfl` makes the elaborator evaluate `Declared vDoc`
example : KindRules ((Declared vDoc).get vDeclares).types :=
  kindRules_of_validSchema { (Declared vDoc).get vDeclares with types := _ } true _ vMore rfl vDoc_valid13

example : build vDoc = .ok ((Declared vDoc).get vDeclares) :=
  -- the evaluated premises are decided together: the kernel evaluates the document and `Declared vDoc` once
  have ⟨valid, noSpecified, schemaOps, extOps, extOpsNew, baseDefaultsB, noThunkCycle⟩ : _ ∧ _ ∧ _ ∧ _ ∧ _ ∧ _ ∧ _ := by
    decide +kernel
  build_exact_valid vDoc _ vMore true valid (Option.some_get _).symm vDoc_valid13 noSpecified schemaOps extOps extOpsNew
    { baseDefaults := baseDefaults_of_B _ baseDefaultsB,
      selfDefaults := by
        intro t ht
        by_cases hk : t.kind = .input
        · exact selfDefaults_of_noDefaults _ _ _ _ _ (by rw [(mergeDef_spec _ t).1]; exact hk) (by revert t; decide +kernel)
        · exact selfDefaults_of_kind _ _ t _ hk,
      noThunkCycle }

end PyGql.Props.C11
