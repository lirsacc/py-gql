/-
  C14 — closedness, for the accumulated-flag variant of `_replace_types_and_directives` (the one /repo has): `fix_type_references`,
  `visitor.on_schema(schema)` of every modelled visitor, `Schema.clone()` and `transform_schema(source, *visitors)` terminate within two
  heal rounds and return closed, well-formed schemas.
-/
import PyGqlModel.Lemmas.HeapHealExact
import PyGqlModel.Lemmas.HeapCloneClosed
import PyGqlModel.Lemmas.HeapExtMembers
import PyGqlModel.Props.C14_frames


namespace PyGql.Props.C14
open PyGql.Heap PyGql.Heap.Own

theorem wfs_of_wfB {h : Heap} {s : Schema} (hw : wfB h s = true) : WFs (fun _ => true) h s := by
  simp only [wfB, shapeB, namesNodup, Bool.and_eq_true, List.all_eq_true, decide_eq_true_eq] at hw
  exact ⟨hw.1.1.1.1.1.1.1, hw.1.1.1.1.1.1.2, hw.1.1.2, hw.1.2, hw.2⟩

theorem wfs_of_closedB {h : Heap} {s : Schema} (hc : closedB h s = true) (hw : wfB h s = true) : WFs (refOK s.types) h s := by
  have w := wfs_of_wfB hw
  simp only [closedB, shapeB, Bool.and_eq_true, List.all_eq_true] at hc
  exact ⟨hc.1.1.1.1.1, hc.1.1.1.1.2, w.names, w.prot, w.nodup⟩

theorem wfB_of_wfs {chk : Ref → Bool} {h : Heap} {s : Schema} (w : WFs chk h s) : wfB h s = true := by
  have w' := w.mono (chk' := fun _ => true) (fun _ _ => rfl)
  simp only [wfB, shapeB, namesNodup, Bool.and_eq_true, List.all_eq_true, decide_eq_true_eq]
  have root : ∀ r : Option Ref, rootOK (fun _ => true) r = true := fun r => by cases r <;> rfl
  exact ⟨⟨⟨⟨⟨⟨⟨w'.types, w'.dirs⟩, root _⟩, root _⟩, root _⟩, w'.names⟩, w'.prot⟩, w'.nodup⟩

theorem healLoop_fuel_ge (cfg : Cfg) (k : Nat) (s : Schema) (h : Heap) (r : Heap × Schema) (e : healLoop cfg k s h = some r) :
    ∀ n, healLoop cfg (k + n) s h = some r := by
  intro n
  induction n with
  | zero => exact e
  | succ n ih => exact healLoop_fuel_mono cfg (k + n) s h r ih

/-- the witness is well-formed (non-vacuity of the hypotheses below) -/
example : wfB h0 s0 = true ∧ closedB h0 s0 = true := ⟨s0_wf, s0_closed⟩

/-- FULL, with FUEL SUFFICIENCY: for every well-formed schema (references may point anywhere),
    `fix_type_references` terminates — fuel 2 is enough, more fuel changes nothing — in a closed, well-formed schema -/
theorem heal_closed (cfg : Cfg) (hacc : cfg.accumulateBusted = true) (s : Schema) (h : Heap) (hw : wfB h s = true) (fuel : Nat) :
    ∃ h' s', healLoop cfg (2 + fuel) s h = some (h', s') ∧ closedB h' s' = true ∧ wfB h' s' = true := by
  have w := wfs_of_wfB hw
  have h2 := healLoop_two cfg s h w
  cases e : healLoop cfg 2 s h with
  | none => simp [e] at h2
  | some r =>
    obtain ⟨h', s'⟩ := r
    obtain ⟨c, w'⟩ := healLoop_closed cfg hacc 2 s h h' s' w e
    exact ⟨h', s', healLoop_fuel_ge cfg 2 s h _ e fuel, c, wfB_of_wfs w'⟩

/-- FULL: an in-place `visitor.on_schema(schema)` (heal / visibility / camel-case / drop-wrap, arbitrary predicates and
    renamings) on a closed well-formed schema terminates and gives a closed well-formed schema -/
theorem visitor_closed (cfg : Cfg) (hacc : cfg.accumulateBusted = true) (v : Visitor) (s : Schema) (h : Heap)
    (hc : closedB h s = true) (hw : wfB h s = true) (fuel : Nat) :
    ∃ h' s', onSchema cfg (2 + fuel) v s h = some (h', s') ∧ closedB h' s' = true ∧ wfB h' s' = true := by
  have w := wfs_of_closedB hc hw
  have hex : ∃ r, onSchema cfg (2 + fuel) v s h = some r := by
    simp only [onSchema, replaceTD]
    split
    · obtain ⟨h', s', e, _, _⟩ := heal_closed cfg hacc _ _ (wfB_of_wfs (round_wf cfg v s h _ (compat_refOK v s.types) w)) fuel
      exact ⟨_, e⟩
    · exact ⟨_, rfl⟩
  obtain ⟨⟨h', s'⟩, e⟩ := hex
  obtain ⟨c, w'⟩ := onSchema_closed cfg hacc (2 + fuel) v s h h' s' w e
  exact ⟨h', s', e, c, wfB_of_wfs w'⟩

/-- FULL: any list of visitors applied one after the other (`for t in transforms: updated = t.on_schema(updated)`) -/
theorem visitors_closed (cfg : Cfg) (hacc : cfg.accumulateBusted = true) (fuel : Nat) : ∀ (vs : List Visitor) (s : Schema) (h : Heap),
    closedB h s = true → wfB h s = true →
      ∃ h' s', transformFrom cfg (2 + fuel) vs (h, s) = some (h', s') ∧ closedB h' s' = true ∧ wfB h' s' = true := by
  intro vs
  induction vs with
  | nil => intro s h hc hw; exact ⟨h, s, rfl, hc, hw⟩
  | cons v vs ih =>
    intro s h hc hw
    obtain ⟨h1, s1, e1, c1, w1⟩ := visitor_closed cfg hacc v s h hc hw fuel
    obtain ⟨h2, s2, e2, c2, w2⟩ := ih s1 h1 c1 w1
    exact ⟨h2, s2, by simp only [transformFrom, e1]; exact e2, c2, w2⟩

def CloneClosedWF (cfg : Cfg) : Prop :=
  ∀ fuel s h h' s', closedB h s = true → wfB h s = true → clone cfg fuel s h = some (h', s') → closedB h' s' = true ∧ wfB h' s' = true

/-- FULL: for the variant /repo has (members copied, all types kept, accumulated flag), `Schema.clone()` of
    a closed well-formed schema is closed and well-formed — for every heap and schema, whatever is reachable or not -/
theorem clone_closed (cfg : Cfg) (hd : cfg.deepClone = true) (hk : cfg.keepAllTypes = true) (hacc : cfg.accumulateBusted = true) :
    CloneClosedWF cfg := by
  intro fuel s h h' s' hc hw e
  obtain ⟨c, w⟩ := clone_closed_wfs cfg hd hk hacc fuel s h h' s' hc (wfs_of_closedB hc hw) e
  exact ⟨c, wfB_of_wfs w⟩

/-- … and it exists as soon as there is fuel for two rounds -/
theorem clone_total (cfg : Cfg) (hd : cfg.deepClone = true) (s : Schema) (h : Heap) (hc : closedB h s = true) (hw : wfB h s = true)
    (fuel : Nat) : (clone cfg (2 + fuel) s h).isSome = true := by
  have w0 := clone_start_wfs cfg hd s h hc (wfs_of_closedB hc hw)
  have h2 := healLoop_two cfg _ _ w0
  have hex : ∃ r, replaceTD cfg (2 + fuel) { types := cloneRegistry cfg s h, dirs := [], query := s.query, mutation := s.mutation, subscription := s.subscription, dres := none } (cloneDirs cfg (cloneTypes cfg h s.types).1 s.dirs).1 (cloneTypes cfg h s.types).2 (cloneDirs cfg (cloneTypes cfg h s.types).1 s.dirs).2 = some r := by
    simp only [replaceTD]
    split
    · obtain ⟨r, e2⟩ := Option.isSome_iff_exists.mp h2
      exact ⟨r, healLoop_fuel_ge cfg 2 _ _ r e2 fuel⟩
    · exact ⟨_, rfl⟩
  obtain ⟨r, hr⟩ := hex
  simp only [clone, hr]
  rfl

/-- FULL: `transform_schema(source, *visitors)` of a closed well-formed source — clone, then any list of
    heal / visibility / camel-case / drop-wrap visitors with arbitrary predicates and renamings — is closed and well-formed -/
theorem transform_closed (cfg : Cfg) (hd : cfg.deepClone = true) (hk : cfg.keepAllTypes = true) (hacc : cfg.accumulateBusted = true)
    (fuel : Nat) (vs : List Visitor) (s : Schema) (h h' : Heap) (s' : Schema) (hc : closedB h s = true) (hw : wfB h s = true)
    (e : transform cfg (2 + fuel) vs s h = some (h', s')) : closedB h' s' = true ∧ wfB h' s' = true := by
  obtain ⟨h1, s1, hr, e⟩ := transform_some e
  obtain ⟨c1, w1⟩ := clone_closed cfg hd hk hacc (2 + fuel) s h h1 s1 hc hw hr
  obtain ⟨h2, s2, e2, c2, w2⟩ := visitors_closed cfg hacc fuel vs s1 h1 c1 w1
  rw [e2] at e; cases e
  exact ⟨c2, w2⟩

/-- FULL, with termination: fuel for two rounds is always enough for `transform_schema` on a closed well-formed source -/
theorem transform_closed_total (cfg : Cfg) (hd : cfg.deepClone = true) (hk : cfg.keepAllTypes = true) (hacc : cfg.accumulateBusted = true)
    (vs : List Visitor) (s : Schema) (h : Heap) (hc : closedB h s = true) (hw : wfB h s = true) (fuel : Nat) :
    ∃ h' s', transform cfg (2 + fuel) vs s h = some (h', s') ∧ closedB h' s' = true ∧ wfB h' s' = true := by
  obtain ⟨⟨h1, s1⟩, e1⟩ := Option.isSome_iff_exists.mp (clone_total cfg hd s h hc hw fuel)
  obtain ⟨c1, w1⟩ := clone_closed cfg hd hk hacc (2 + fuel) s h h1 s1 hc hw e1
  obtain ⟨h2, s2, e2, c2, w2⟩ := visitors_closed cfg hacc fuel vs s1 h1 c1 w1
  exact ⟨h2, s2, by simp only [transform, e1]; exact e2, c2, w2⟩

theorem s0_transform_total (vs : List Visitor) : (transform Cfg.fixed 8 vs s0 h0).isSome = true :=
  let ⟨_, _, e, _⟩ := transform_closed_total Cfg.fixed rfl rfl rfl vs s0 h0 s0_closed s0_wf 6
  Option.isSome_iff_exists.mpr ⟨_, e⟩

theorem current_transform_closed
    (vs : List Visitor) (s : Schema) (h h' : Heap) (s' : Schema) (hc : closedB h s = true) (hw : wfB h s = true)
    (e : transform PyGql.Generated.HeapCfg.currentCfg 2 vs s h = some (h', s')) : closedB h' s' = true :=
  (transform_closed _ cur_deepClone cur_keepAllTypes cur_accumulateBusted 0 vs s h h' s' hc hw e).1

/-- T3 stays refuted for the overwritten flag: `heal_closed`'s conclusion fails for `_replace_types_and_directives` of `Cfg.legacy`
    (`replace_closed_refuted_legacy`); the hypothesis `accumulateBusted` is necessary. -/
theorem current_heal_closed (s : Schema) (h : Heap)
    (hw : wfB h s = true) : ∃ h' s', healLoop PyGql.Generated.HeapCfg.currentCfg 2 s h = some (h', s') ∧ closedB h' s' = true :=
  let ⟨h', s', e, c, _⟩ := heal_closed _ cur_accumulateBusted s h hw 0
  ⟨h', s', e, c⟩

/-- PARTIAL (member level, at the rebuild functions; the full statement is `untouched_preserved_extend`, Props/C14_extend.lean, which
    composes this with the frame part): every field `_extend_field` builds is a copy of a source field that keeps
    name, description, deprecation reason, resolver, (re-pointed) type and — as far as the constructor passes them —
    subscription resolver and python name (`FieldKept cfg`); each of its arguments is a copy of a source argument keeping
    name, default, description, (re-pointed) type and python name (`ArgKept`). For all heaps, all member lists whose
    objects exist. Not covered here: that the rest of `extend_schema` (other types' members, the writes to the
    placeholders) leaves these member objects alone. -/
theorem untouched_preserved_extend_members_partial (cfg : Cfg) (N : List (String × Addr)) (as : List Addr) (h : Heap)
    (hlt : ∀ a, a ∈ as → a < h.size) (hargs : ∀ a f, a ∈ as → h.readField a = some f → ∀ x, x ∈ f.args → x < h.size) :
    ∀ c, c ∈ (extendFields cfg N h as).2 → ∃ a f f', a ∈ as ∧ h.readField a = some f ∧
      (extendFields cfg N h as).1.readField c = some f' ∧ FieldKept cfg N f f' ∧
      ∀ x, x ∈ f'.args → ∃ y g g', y ∈ f.args ∧ h.readArg y = some g ∧
        (extendFields cfg N h as).1.readArg x = some g' ∧ ArgKept cfg.extArgPy N g g' :=
  extendFields_kept cfg N as h h (FrameX.refl _ h) hlt hargs

/-- PARTIAL: the same for input fields / directive arguments (`_extend_argument`, the `InputField(...)` rebuild); the full statements
    are `untouched_preserved_extend` / `untouched_preserved_extend_directives`. -/
theorem untouched_preserved_extend_args_partial (k : Bool) (N : List (String × Addr)) (as : List Addr) (h : Heap)
    (hlt : ∀ a, a ∈ as → a < h.size) :
    ∀ c, c ∈ (extendArgs k N h as).2 → ∃ a g g', a ∈ as ∧ h.readArg a = some g ∧
      (extendArgs k N h as).1.readArg c = some g' ∧ ArgKept k N g g' :=
  extendArgs_kept k N as h h (FrameX.refl _ h) hlt

/-- FRAME PART at member level (for all heaps / schemas / extension documents; used by the full `untouched_preserved_extend`,
    Props/C14_extend.lean): whatever `extend_schema` still does after some point (`extendRest`: the remaining registered types `l`,
    the new types, all directives) writes placeholder addresses only — every object allocated after the placeholders, i.e. every
    rebuilt field, argument and input field, reads the same at the end of `extend_schema`. -/
theorem untouched_preserved_extend_members_frame (cfg : Cfg) (ext : Ext) (s : Schema) (h : Heap) (N Nin : List (String × Addr))
    (l : List (String × Addr)) (hl : (l.map (·.1)).Nodup) (hmid : Heap)
    (hsz : (allocPlaceholders h ((s.types.filter fun e => !isProtected e.1).map (·.1) ++ ext.newTypes.map (·.1))).1.size ≤ hmid.size)
    (c : Addr) (hc1 : (allocPlaceholders h ((s.types.filter fun e => !isProtected e.1).map (·.1) ++ ext.newTypes.map (·.1))).1.size ≤ c)
    (hc2 : c < hmid.size) :
    (extendRest cfg ext N Nin (allocPlaceholders h ((s.types.filter fun e => !isProtected e.1).map (·.1) ++ ext.newTypes.map (·.1))).2
      h s l hmid).read c = hmid.read c :=
  extendRest_read cfg ext N Nin _ h s _
    (fun n x hx => (allocPlaceholders_lookup _ h n x hx).2) l hmid c hc1 hc2

theorem fieldKept_fixed (N : List (String × Addr)) (f f' : FieldO) (k : FieldKept Cfg.fixed N f f') :
    f'.name = f.name ∧ f'.desc = f.desc ∧ f'.depr = f.depr ∧ f'.res = f.res ∧ f'.sub = f.sub ∧ f'.py = f.py := by
  obtain ⟨h1, h2, h3, h4, _, h6, h7⟩ := k
  exact ⟨h1, h2, h3, h4, by simpa [Cfg.fixed] using h6, by simpa [Cfg.fixed] using h7⟩

end PyGql.Props.C14
