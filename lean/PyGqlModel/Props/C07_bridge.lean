/-
  C07 — the hypothesis `VarsFit` of `literal_sound` / `arguments_sound` is what
  `coerce_variable_values` (theorem `variables_sound`) and the validation rule VariablesInAllowedPosition establish.
-/
import PyGqlModel.Props.C07_args
import PyGqlModel.Props.C07_trace


namespace PyGql.Props.C07
open PyGql PyGql.Coerce

private theorem conforms_none_iff {reg : Reg} {t : Ty} (h : Conforms reg (.nonNull t) .none) : False := by
  cases h with
  | null h0 => simp [Ty.isNonNull] at h0
  | nonNull hn _ => simp [PV.isNone] at hn

theorem isSubtype_conforms {reg : Reg} : ∀ (a b : Ty) (pv : PV), isSubtype a b = true → Conforms reg a pv → Conforms reg b pv := by
  intro a
  induction a with
  | named n =>
    intro b pv h hc
    simp [isSubtype] at h; subst h; exact hc
  | list a ih =>
    intro b pv h hc
    simp only [isSubtype, Bool.or_eq_true, beq_iff_eq] at h
    rcases h with h | h
    · subst h; exact hc
    · cases b with
      | list b' =>
        simp only at h
        cases hc with
        | null _ => exact .null rfl
        | list hall => exact .list (fun x hx => ih b' x h (hall x hx))
      | named _ => simp at h
      | nonNull _ => simp at h
  | nonNull a ih =>
    intro b pv h hc
    simp only [isSubtype, Bool.or_eq_true, beq_iff_eq] at h
    rcases h with h | h
    · subst h; exact hc
    · cases hc with
      | null h0 => simp [Ty.isNonNull] at h0
      | nonNull hn hc' =>
        cases b with
        | nonNull b' => simp only at h; exact .nonNull hn (ih b' pv h hc')
        | named m => simp only at h; exact ih _ pv h hc'
        | list b' => simp only at h; exact ih _ pv h hc'

private theorem strip_conforms {reg : Reg} {t : Ty} {pv : PV} (h : Conforms reg t pv) : Conforms reg (stripNN t) pv ∨ pv.isNone = true := by
  cases t with
  | nonNull t' =>
    cases h with
    | null h0 => simp [Ty.isNonNull] at h0
    | nonNull _ h' => exact .inl h'
  | named n => exact .inl h
  | list t' => exact .inl h

/-- one allowed usage: a non-None value of the variable's declared type fits the position -/
theorem allowed_conforms {reg : Reg} {vt lt : Ty} {b1 b2 : Bool} {pv : PV} (h : allowedUsage vt b1 lt b2 = true)
    (hc : Conforms reg vt pv) (hn : pv.isNone = false) : Conforms reg (stripNN lt) pv := by
  unfold allowedUsage at h
  split at h
  · simp only [Bool.and_eq_true] at h
    exact isSubtype_conforms _ _ _ h.2 hc
  · have := isSubtype_conforms _ _ _ h hc
    rcases strip_conforms this with h' | h'
    · exact h'
    · simp [hn] at h'

private theorem lookupLast_mem {α : Type} (k : String) : ∀ (l : List (String × α)) (v : α), lookupLast k l = some v → (k, v) ∈ l := by
  intro l
  induction l with
  | nil => intro v h; simp [lookupLast] at h
  | cons p rest ih =>
    intro v h
    obtain ⟨k', v'⟩ := p
    simp only [lookupLast] at h
    split at h
    · rename_i r hr; cases h; exact List.mem_cons_of_mem _ (ih _ hr)
    · split at h
      · rename_i hk; cases h; simp at hk; subst hk; exact List.mem_cons_self
      · cases h

/-- If the environment is what `coerce_variable_values` produces (every bound variable conforms to
    the type of a definition of that name — `variables_sound`) and the validator has accepted every variable usage in the
    literal (`VarsAllowed`), then the literal's variables fit their positions (`VarsFit`). -/
theorem varsFit_of_allowed {reg : Reg} {defs : List VarDef} {env : List (String × PV)}
    (henv : ∀ p, p ∈ env → ∃ d, d ∈ defs ∧ d.name = p.1 ∧ Conforms reg d.type p.2) :
    ∀ {ty : Ty} {b : Bool} {l : Lit}, VarsAllowed reg defs ty b l → VarsFit reg (some env) ty l := by
  intro ty b l h
  induction h with
  | var hall =>
    rename_i ty' b' x
    refine .var (fun vs v hvs hv hn => ?_)
    cases hvs
    obtain ⟨d, hd, hname, hc⟩ := henv _ (lookupLast_mem x _ v hv)
    exact allowed_conforms (hall d hd hname) hc hn
  | leaf hl => exact .leaf hl
  | listItems hs _ ih => exact .listItems hs ih
  | listSingle hs _ ih => exact .listSingle hs ih
  | obj hs hk _ ih => exact .obj hs hk ih
  | scalarPos hs hk hnv => exact .scalarPos hs hk hnv

/-- Variables coerced by `coerce_variable_values`, usages accepted by the validator
    ⇒ the keyword arguments of every field conform. No assumption about the variable VALUES is left. -/
theorem validated_arguments_sound {reg : Reg} (hreg : RegOK reg) (fuel : Nat) (defs : List VarDef) (variables : List (String × JV))
    (hwf : ∀ d, d ∈ defs → d.type.wf = true) (env : List (String × PV))
    (henv : coerceVariableValues reg fuel variables defs = .ok env)
    (args : List (String × Lit)) (adefs : List InField) (hok : ArgsOK reg adefs)
    (hval : ∀ d, d ∈ adefs → ∀ l, lookupLast d.name args = some l → VarsAllowed reg defs d.type d.default.isSome l)
    (kw : List (String × PV)) (h : coerceArgumentValues reg fuel env args adefs = .ok kw) :
    ConformsFields reg adefs kw :=
  arguments_sound hreg fuel env args adefs kw hok
    (fun d hd l hl => varsFit_of_allowed (variables_sound hreg fuel variables defs env hwf henv) (hval d hd l hl)) h

/-- The end-to-end statement over the executor trace with only checked hypotheses:
    well-formed registry and argument definitions, well-formed variable types, usages accepted by the validator. -/
theorem every_validated_call_conforms {reg : Reg} (hreg : RegOK reg) (fuel : Nat) (defs : List VarDef)
    (variables : List (String × JV)) (sels : List FieldSel)
    (hwf : ∀ d, d ∈ defs → d.type.wf = true)
    (hargs : ∀ sel, sel ∈ sels → ArgsOK reg sel.defs)
    (hval : ∀ sel, sel ∈ sels → ∀ d, d ∈ sel.defs → ∀ l, lookupLast d.name sel.args = some l →
        VarsAllowed reg defs d.type d.default.isSome l) :
    ∀ key kw, Ev.call key kw ∈ executeOp reg fuel defs variables sels →
      ∃ sel, sel ∈ sels ∧ sel.key = key ∧ ConformsFields reg sel.defs kw :=
  every_call_conforms hreg fuel defs variables sels hargs
    (fun env henv sel hs d hd l hl =>
      varsFit_of_allowed (variables_sound hreg fuel variables defs env hwf henv) (hval sel hs d hd l hl))

end PyGql.Props.C07
