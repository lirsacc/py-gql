/-
  C08 — finding E2r (callback bodies of `gather_futures` racing on two workers) as a THEOREM PAIR.
  STATUS: the `gather_nonatomic_*` / `gather_terminates_nonatomic_refuted` theorems are about the machine /repo had BEFORE fix
  6013951; the code as shipped is `RuntimeRaceShipped.lean` / `Props/C08_race_shipped.lean` (variant re-extracted on every run).

  With the read-modify-write of `done += 1` split into LOAD and STORE on two workers there is an interleaving after which BOTH
  `on_finish` callbacks have returned, `done = 1 < target_count = 2`, and the aggregate Future was never set — `gather_futures`
  never completes although every resolver completed. With an ATOMIC increment (the TEST still separate and interleaved
  arbitrarily), or with the non-atomic micro-steps under a lock held from LOAD to STORE, for EVERY number of workers and EVERY
  schedule: once all callbacks have returned the aggregate has been set, exactly once.
-/
import PyGqlModel.RuntimeRace
import PyGqlModel.Lemmas.ExecRaceCount


namespace PyGql.Props.C08
open PyGql.AsyncExec.Race

/-- "execution always completes once all resolvers have completed", at the level of `gather_futures`'
    callbacks running concurrently with NON-atomic `done += 1`. -/
def GatherTerminatesNonAtomic : Prop :=
  ∀ (plain n : Nat) (sched : List Nat),
    (run (St.init plain n) sched).allFinished = true → (run (St.init plain n) sched).outerSet = true

/-- Refutation witness. Two pending futures, workers 0 and 1:
    `LOAD₀ LOAD₁ STORE₀ STORE₁ TEST₀ TEST₁`. Both callbacks return, one increment is lost
    (`done = 1`, `target = 2`) and `outer.set_result` was never called. -/
theorem gather_nonatomic_lost_update :
    let s := run (St.init 0 2) [0, 1, 0, 1, 0, 1]
    s.allFinished = true ∧ s.done = 1 ∧ s.target = 2 ∧ s.sets = 0 ∧ s.outerSet = false := by
  decide +kernel

/-- The interleaving that `probe_gather_lost_update` (harness/corr/C08.py)
    forces on the REAL `gather_futures` with an opcode tracer: worker 0 is preempted between its LOAD and its STORE,
    worker 1 runs its whole callback in between (`LOAD₀ | LOAD₁ STORE₁ TEST₁ | STORE₀ TEST₀`). Same outcome. -/
theorem gather_nonatomic_lost_update_preempted :
    let s := run (St.init 0 2) [0, 1, 1, 1, 0, 0]
    s.allFinished = true ∧ s.done = 1 ∧ s.target = 2 ∧ s.outerSet = false := by
  decide +kernel

/-- under the lock the same schedule makes worker 1 wait (its steps are no-ops until the lock is released); retried
    afterwards, nothing is lost -/
example : (lrun (St.init 0 2) [0, 1, 1, 1, 0, 0, 1, 1, 1]).outerSet = true := by decide +kernel

/-- the same with a plain (non-future) entry in the source list and three workers: two updates lost -/
theorem gather_nonatomic_lost_update_3 :
    let s := run (St.init 1 3) [0, 1, 2, 0, 1, 2, 0, 1, 2]
    s.allFinished = true ∧ s.done = 2 ∧ s.target = 4 ∧ s.outerSet = false := by
  decide +kernel

/-- `gather_terminates` is FALSE once callback bodies interleave
    between the LOAD and the STORE of `done += 1`. -/
theorem gather_terminates_nonatomic_refuted : ¬ GatherTerminatesNonAtomic := by
  intro h
  have := h 0 2 [0, 1, 0, 1, 0, 1] (by decide)
  exact absurd this (by decide)

/-- the sequential interleaving (what the atomic model of `Runtime.lean` describes) does set the aggregate:
    the refutation is about the interleaving, not about the machine -/
example : (run (St.init 0 2) [0, 0, 0, 1, 1, 1]).outerSet = true ∧ (run (St.init 0 2) [0, 0, 0, 1, 1, 1]).sets = 1 := by
  decide +kernel

def countStart : List PC → Nat
  | [] => 0
  | .start :: r => countStart r + 1
  | _ :: r => countStart r

private theorem countStart_additive : Additive countStart :=
  ⟨rfl, fun a r => by cases a <;> simp only [countStart] <;> omega⟩

private theorem countStart_single (x : PC) (hx : x ≠ .start) : countStart [x] = 0 := by
  cases x <;> first | rfl | exact absurd rfl hx

private theorem countStart_set_start (l : List PC) (i : Nat) (x : PC) (hx : x ≠ .start) (h : l[i]? = some .start) :
    countStart (l.set i x) + 1 = countStart l := by
  have := countStart_additive.set x h
  rw [countStart_single x hx] at this
  exact this

private theorem countStart_set_other (l : List PC) (i : Nat) (x y : PC) (hx : x ≠ .start) (hy : y ≠ .start)
    (h : l[i]? = some y) : countStart (l.set i x) = countStart l := by
  have := countStart_additive.set x h
  rw [countStart_single x hx, countStart_single y hy] at this
  exact this

private theorem all_finished {l : List PC} (h : l.all (· == .finished) = true) : ∀ a ∈ l, a = .finished :=
  fun a ha => eq_of_beq (List.all_eq_true.mp h a ha)

private theorem countStart_zero_of_all_finished (l : List PC) (h : l.all (· == .finished) = true) :
    countStart l = 0 ∧ PC.stored ∉ l :=
  ⟨countStart_additive.eq_zero fun a ha => by rw [all_finished h a ha]; rfl, fun hm => nomatch all_finished h _ hm⟩

/-- the end of both arguments: when every callback has returned, nobody is at `start` or before its TEST, so the counter
    is full, the aggregate has been set (`progress`), and only once -/
private theorem sets_outer_of_finished (s : St) (hfin : s.allFinished = true) (hcount : s.done + countStart s.pcs = s.target)
    (hprogress : s.sets ≠ 0 ∨ PC.stored ∈ s.pcs ∨ s.done < s.target) (honce : s.sets ≤ 1) :
    s.outerSet = true ∧ s.sets = 1 ∧ s.done = s.target := by
  obtain ⟨hz, hns⟩ := countStart_zero_of_all_finished s.pcs (by simpa [St.allFinished] using hfin)
  have hsets : s.sets ≠ 0 := by
    rcases hprogress with hp | hp | hp
    · exact hp
    · exact absurd hp hns
    · omega
  refine ⟨by simp [St.outerSet, hsets], by omega, by omega⟩

/-- invariant of the atomic machine: (1) `done` counts exactly the workers that have incremented;
    (2) no worker is between LOAD and STORE; (3) the aggregate is set, or some worker still has to run its
    TEST, or not everybody has incremented yet; (4) the aggregate is set at most once. -/
structure AInv (s : St) : Prop where
  count : s.done + countStart s.pcs = s.target
  noLoaded : ∀ t, PC.loaded t ∉ s.pcs
  progress : s.sets ≠ 0 ∨ PC.stored ∈ s.pcs ∨ s.done < s.target
  once : s.sets ≤ 1

private theorem ainv_init (plain n : Nat) (hn : 0 < n) : AInv (St.init plain n) := by
  have hc : ∀ n, countStart (List.replicate n PC.start) = n := fun n =>
    (countStart_additive.replicate n .start).trans (Nat.mul_one n)
  refine ⟨?_, ?_, ?_, ?_⟩
  · simp [St.init, hc]
  · intro t h; simp [St.init, List.mem_replicate] at h
  · right; right; simp [St.init]; omega
  · simp [St.init]

private theorem test_fields (s : St) :
    s.test.done = s.done ∧ s.test.target = s.target ∧ s.test.pcs = s.pcs ∧ s.sets ≤ s.test.sets
      ∧ (s.sets ≤ 1 → s.test.sets ≤ 1) ∧ (s.done = s.target → s.test.sets ≠ 0) := by
  unfold St.test
  by_cases h1 : s.done = s.target <;> by_cases h2 : s.sets = 0 <;> simp [h1, h2] <;> omega

private theorem ainv_astep (s : St) (i : Nat) (h : AInv s) : AInv (astep s i) := by
  unfold astep
  cases hp : s.pcs[i]? with
  | none => simpa using h
  | some pc =>
    have hlt : i < s.pcs.length := (List.getElem?_eq_some_iff.mp hp).1
    have hmem : pc ∈ s.pcs := List.mem_of_getElem? hp
    cases pc with
    | start =>
      have hc := countStart_set_start s.pcs i .stored (by simp) hp
      refine ⟨?_, ?_, ?_, ?_⟩
      · simp; have := h.count; omega
      · intro t hm
        simp at hm
        rcases List.mem_or_eq_of_mem_set hm with hm | hm
        · exact h.noLoaded t hm
        · cases hm
      · right; left; simpa using List.mem_set hlt PC.stored
      · simpa using h.once
    | loaded t => exact absurd hmem (h.noLoaded t)
    | stored =>
      obtain ⟨hd, ht, hpc, hmono, honce, hset⟩ := test_fields s
      have hc := countStart_set_other s.pcs i .finished .stored (by simp) (by simp) hp
      refine ⟨?_, ?_, ?_, ?_⟩
      · simp [hd, ht, hc]; exact h.count
      · intro t hm
        simp at hm
        rcases List.mem_or_eq_of_mem_set hm with hm | hm
        · exact h.noLoaded t hm
        · cases hm
      · simp only [hd, ht]
        by_cases hdt : s.done = s.target
        · left; exact hset hdt
        · right; right; have := h.count; omega
      · simpa using honce h.once
    | finished => simpa [hp] using h

private theorem ainv_arun (sched : List Nat) (s : St) (h : AInv s) : AInv (arun s sched) := by
  induction sched generalizing s with
  | nil => simpa [arun] using h
  | cons i rest ih => simp only [arun]; exact ih _ (ainv_astep s i h)

/-- With an ATOMIC `done += 1` (LOAD and STORE one indivisible step — a lock
    around the statement, or the whole callback serialised), for every number `n > 0` of pending futures,
    every number of plain entries and EVERY interleaving of the increments and the `done == target_count`
    tests of the `n` workers: once all callbacks have returned, `outer.set_result` has succeeded exactly
    once and `done = target_count`. (`n = 0`: `gather_futures` returns the list itself, no Future.) -/
theorem gather_atomic_sets_outer (plain n : Nat) (hn : 0 < n) (sched : List Nat)
    (hfin : (arun (St.init plain n) sched).allFinished = true) :
    (arun (St.init plain n) sched).outerSet = true ∧ (arun (St.init plain n) sched).sets = 1
      ∧ (arun (St.init plain n) sched).done = (arun (St.init plain n) sched).target := by
  have h := ainv_arun sched _ (ainv_init plain n hn)
  exact sets_outer_of_finished _ hfin h.count h.progress h.once

/-- non-vacuity: three workers, increments and tests interleaved (both orders mixed) -/
example : (arun (St.init 1 3) [2, 0, 2, 1, 0, 1]).allFinished = true := by decide +kernel

/-- the atomic machine on the very interleaving that loses an update above (each worker's LOAD/STORE pair
    collapses into its first step; the extra indices are no-ops or tests) sets the aggregate -/
example : (arun (St.init 0 2) [0, 1, 0, 1, 0, 1]).outerSet = true := by decide +kernel

def countLoaded : List PC → Nat
  | [] => 0
  | p :: r => p.isLoaded.toNat + countLoaded r

private theorem countLoaded_additive : Additive countLoaded :=
  ⟨rfl, fun _ _ => rfl⟩

private theorem countLoaded_set (l : List PC) (i : Nat) (x y : PC) (h : l[i]? = some y) :
    countLoaded (l.set i x) + y.isLoaded.toNat = countLoaded l + x.isLoaded.toNat :=
  countLoaded_additive.set x h

private theorem countLoaded_zero_of_unlocked (l : List PC) (h : l.any PC.isLoaded = false) : countLoaded l = 0 :=
  countLoaded_additive.eq_zero fun a ha => by
    have : a.isLoaded = false := Bool.eq_false_iff.mpr (List.any_eq_false.mp h a ha)
    simp only [countLoaded, this, Bool.toNat_false]

private theorem no_loaded_of_count_zero (l : List PC) (h : countLoaded l = 0) : ∀ t, PC.loaded t ∉ l := by
  induction l with
  | nil => simp
  | cons a r ih =>
    intro t hm
    simp [countLoaded] at h
    rcases List.mem_cons.mp hm with hm | hm
    · subst hm; simp [PC.isLoaded] at h
    · exact ih h.2 t hm

private theorem mem_set_of_ne (l : List PC) (i : Nat) (a x y : PC) (ha : a ∈ l) (h : l[i]? = some y) (hne : a ≠ y) :
    a ∈ l.set i x := by
  obtain ⟨j, hj⟩ := List.mem_iff_getElem?.mp ha
  have hij : i ≠ j := by
    intro e
    subst e
    rw [h] at hj
    exact hne (Option.some.inj hj).symm
  exact List.mem_iff_getElem?.mpr ⟨j, (List.getElem?_set_ne hij).trans hj⟩

private theorem counts_zero_of_all_finished (l : List PC) (h : l.all (· == .finished) = true) : countLoaded l = 0 :=
  countLoaded_additive.eq_zero fun a ha => by rw [all_finished h a ha]; rfl

structure LInv (s : St) : Prop where
  count : s.done + countStart s.pcs + countLoaded s.pcs = s.target
  val : ∀ t, PC.loaded t ∈ s.pcs → t = s.done
  one : countLoaded s.pcs ≤ 1
  progress : s.sets ≠ 0 ∨ PC.stored ∈ s.pcs ∨ s.done < s.target
  once : s.sets ≤ 1

private theorem linv_init (plain n : Nat) (hn : 0 < n) : LInv (St.init plain n) := by
  have hc : ∀ n, countStart (List.replicate n PC.start) = n := fun n =>
    (countStart_additive.replicate n .start).trans (Nat.mul_one n)
  have hl : ∀ n, countLoaded (List.replicate n PC.start) = 0 := fun n =>
    (countLoaded_additive.replicate n .start).trans (Nat.mul_zero n)
  refine ⟨?_, ?_, ?_, ?_, ?_⟩
  · simp [St.init, hc, hl]
  · intro t h; simp [St.init, List.mem_replicate] at h
  · simp [St.init, hl]
  · right; right; simp [St.init]; omega
  · simp [St.init]

private theorem linv_lstep (s : St) (i : Nat) (h : LInv s) : LInv (lstep s i) := by
  unfold lstep
  cases hp : s.pcs[i]? with
  | none => simpa [step, hp] using h
  | some pc =>
    have hlt : i < s.pcs.length := (List.getElem?_eq_some_iff.mp hp).1
    have hmem : pc ∈ s.pcs := List.mem_of_getElem? hp
    cases pc with
    | start =>
      simp only
      by_cases hlk : s.locked = true
      · simpa [hlk] using h
      · have hlk' : s.locked = false := by simpa using hlk
        simp only [hlk', Bool.false_eq_true, if_false, step, hp]
        have hz := countLoaded_zero_of_unlocked s.pcs (by simpa [St.locked] using hlk')
        have hcs := countStart_set_start s.pcs i (.loaded s.done) (by simp) hp
        have hcl := countLoaded_set s.pcs i (.loaded s.done) .start hp
        simp [PC.isLoaded] at hcl
        refine ⟨?_, ?_, ?_, ?_, ?_⟩
        · simp; have := h.count; omega
        · intro t hm
          simp at hm
          rcases List.mem_or_eq_of_mem_set hm with hm | hm
          · exact h.val t hm
          · cases hm; rfl
        · simp; omega
        · rcases h.progress with hq | hq | hq
          · exact .inl hq
          · right; left; simpa using mem_set_of_ne s.pcs i .stored (.loaded s.done) .start hq hp (by simp)
          · exact .inr (.inr hq)
        · simpa using h.once
    | loaded t =>
      have ht : t = s.done := h.val t hmem
      subst ht
      simp only [step, hp]
      have hcs := countStart_set_other s.pcs i .stored (.loaded s.done) (by simp) (by simp) hp
      have hcl := countLoaded_set s.pcs i .stored (.loaded s.done) hp
      simp [PC.isLoaded] at hcl
      have hone := h.one
      have hz : countLoaded (s.pcs.set i .stored) = 0 := by omega
      refine ⟨?_, ?_, ?_, ?_, ?_⟩
      · simp [hcs, hz]; have := h.count; omega
      · intro t hm; exact absurd hm (no_loaded_of_count_zero _ hz t)
      · simp [hz]
      · right; left; simpa using List.mem_set hlt PC.stored
      · simpa using h.once
    | stored =>
      simp only [step, hp]
      obtain ⟨hd, ht, hpc, hmono, honce, hset⟩ := test_fields s
      have hcs := countStart_set_other s.pcs i .finished .stored (by simp) (by simp) hp
      have hcl := countLoaded_set s.pcs i .finished .stored hp
      simp [PC.isLoaded] at hcl
      refine ⟨?_, ?_, ?_, ?_, ?_⟩
      · simp [hd, ht, hcs, hcl]; exact h.count
      · intro t hm
        simp at hm
        rcases List.mem_or_eq_of_mem_set hm with hm | hm
        · simpa [hd] using h.val t hm
        · cases hm
      · simp [hcl]; exact h.one
      · simp only [hd, ht]
        by_cases hdt : s.done = s.target
        · left; exact hset hdt
        · right; right; have := h.count; omega
      · simpa using honce h.once
    | finished => simpa [step, hp] using h

private theorem linv_lrun (sched : List Nat) (s : St) (h : LInv s) : LInv (lrun s sched) := by
  induction sched generalizing s with
  | nil => simpa [lrun] using h
  | cons i rest ih => simp only [lrun]; exact ih _ (linv_lstep s i h)

/-- The NON-atomic micro-steps (LOAD, STORE, TEST) of `n > 0` workers under a lock
    held from LOAD to STORE, EVERY interleaving (including workers that spin on the taken lock): once all callbacks
    have returned no update was lost (`done = target_count`) and `outer.set_result` has succeeded exactly once —
    the lost-update trace of `gather_nonatomic_lost_update` cannot happen. -/
theorem gather_locked_sets_outer (plain n : Nat) (hn : 0 < n) (sched : List Nat)
    (hfin : (lrun (St.init plain n) sched).allFinished = true) :
    (lrun (St.init plain n) sched).outerSet = true ∧ (lrun (St.init plain n) sched).sets = 1
      ∧ (lrun (St.init plain n) sched).done = (lrun (St.init plain n) sched).target := by
  have h := linv_lrun sched _ (linv_init plain n hn)
  have hl := counts_zero_of_all_finished _ (by simpa [St.allFinished] using hfin)
  have hc := h.count
  rw [hl, Nat.add_zero] at hc
  exact sets_outer_of_finished _ hfin hc h.progress h.once

/-- non-vacuity: the very schedule that loses an update without the lock — worker 1's LOAD finds the lock taken
    and is retried later — runs both callbacks to the end -/
example : (lrun (St.init 0 2) [0, 1, 0, 1, 0, 1, 1, 1]).allFinished = true
    ∧ (lrun (St.init 0 2) [0, 1, 0, 1, 0, 1, 1, 1]).done = 2 := by decide +kernel

end PyGql.Props.C08
