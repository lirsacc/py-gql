/-
  C06 - property theorems: `UniqueInputFieldNamesChecker` (5.6.3). The rule keeps a stack of name sets,
  one per enclosing object literal; its state only changes INSIDE input values, which are handled by a dedicated
  induction over `Value`; everything above values goes through the generic skeleton `WalkAlgV`.
-/
import PyGqlModel.Props.C06_names
import PyGqlModel.Lemmas.ValidateWalkG
namespace PyGql.Props.C06
open PyGql PyGql.Validate PyGql.Validate.Spec

private abbrev cU (s : SchemaD) (fx : Fixes) : Cfg := ⟨s, fx, [.uniqueInputFieldNames]⟩

def fObjDup : Node → Nat
  | .value (.obj fs) => dupCount [] (fs.map (·.name))
  | _ => 0

/-- the stack of name sets is restored, and the errors added are the duplicates of every object literal visited -/
def QU (ns : List Node) (st st' : St) : Prop :=
  st'.rs.uifStack = st.rs.uifStack ∧ E st' = E st + total fObjDup (fun _ => 0) ns

/-- the nodes the rule reacts to -/
def Node.isObjish : Node → Bool
  | .value (.obj _) | .objField _ => true
  | _ => false

private theorem objish_of_valueish (n : Node) (h : n.isValueish = false) : Node.isObjish n = false := by
  cases n with
  | value | objField => cases h
  | _ => rfl

/-- away from object literals and their fields the rule does nothing and there is nothing to count -/
private theorem idleU (s : SchemaD) (fx : Fixes) (n : Node) (hq : Node.isObjish n = false) :
    (∀ ti rs, enterRule s fx .uniqueInputFieldNames n ti rs = (rs, false)) ∧
    (∀ ti rs, leaveRule s fx .uniqueInputFieldNames n ti rs = rs) ∧ fObjDup n = 0 := by
  cases n with
  | value v =>
    cases v with
    | obj fs => cases hq
    | _ => exact ⟨fun _ _ => rfl, fun _ _ => rfl, rfl⟩
  | objField nm => cases hq
  | _ => exact ⟨fun _ _ => rfl, fun _ _ => rfl, rfl⟩

theorem QU.nil (st : St) : QU [] st st := ⟨rfl, rfl⟩

private theorem quietU (s : SchemaD) (fx : Fixes) (n : Node) (body : St → St) (ns : List Node) (st : St)
    (hq : Node.isObjish n = false) (hb : ∀ st1, QU ns st1 (body st1)) :
    QU (n :: ns) st (visitNode (cU s fx) n body st) := by
  obtain ⟨he, hl, hf⟩ := idleU s fx n hq
  have he' : enter (cU s fx) n st = ({ ti := tiEnter s n st.ti, rs := st.rs }, false) := by
    rw [enter_single, he]
  rw [visitNode_noskip _ _ _ _ _ he', leave_single, hl]
  obtain ⟨b1, b2⟩ := hb { ti := tiEnter s n st.ti, rs := st.rs }
  refine ⟨b1, b2.trans ?_⟩
  rw [total_cons, hf]
  exact congrArg _ (Nat.zero_add _).symm

mutual
private theorem valueU (s : SchemaD) (fx : Fixes) : ∀ (v : Value) (st : St), QU (valueNodes v) st (visitValue (cU s fx) v st)
  | .obj fs, st => by
    rw [visitValue, valueNodes]
    have he : enter (cU s fx) (.value (.obj fs)) st =
        ({ ti := tiEnter s (.value (.obj fs)) st.ti, rs := { st.rs with uifStack := [] :: st.rs.uifStack } }, false) := by
      rw [enter_single]; rfl
    rw [visitNode_noskip _ _ _ _ _ he, leave_single]
    obtain ⟨b1, b2⟩ := objFieldsU s fx fs
      { ti := tiEnter s (.value (.obj fs)) st.ti, rs := { st.rs with uifStack := [] :: st.rs.uifStack } } [] st.rs.uifStack rfl
    refine ⟨by dsimp only [leaveRule]; rw [b1]; rfl, b2.trans ?_⟩
    rw [total_cons]
    simp only [fObjDup, E]; omega
  | .list vs, st => by
    rw [visitValue, valueNodes]
    exact quietU s fx _ _ _ st rfl (fun st => valuesU s fx vs st)
  | .var x, st => by rw [visitValue]; exact quietU s fx _ _ [] st rfl QU.nil
  | .int x, st => by rw [visitValue]; exact quietU s fx _ _ [] st rfl QU.nil
  | .float x, st => by rw [visitValue]; exact quietU s fx _ _ [] st rfl QU.nil
  | .str x, st => by rw [visitValue]; exact quietU s fx _ _ [] st rfl QU.nil
  | .bool x, st => by rw [visitValue]; exact quietU s fx _ _ [] st rfl QU.nil
  | .null, st => by rw [visitValue]; exact quietU s fx _ _ [] st rfl QU.nil
  | .enum x, st => by rw [visitValue]; exact quietU s fx _ _ [] st rfl QU.nil
private theorem valuesU (s : SchemaD) (fx : Fixes) : ∀ (vs : List Value) (st : St), QU (valuesNodes vs) st (visitValues (cU s fx) vs st)
  | [], st => by rw [visitValues, valuesNodes]; exact QU.nil st
  | v :: vs, st => by
    rw [visitValues, valuesNodes]
    obtain ⟨a1, a2⟩ := valueU s fx v st
    obtain ⟨b1, b2⟩ := valuesU s fx vs (visitValue (cU s fx) v st)
    exact ⟨b1.trans a1, by rw [b2, a2, total_append]; omega⟩
private theorem objFieldU (s : SchemaD) (fx : Fixes) : ∀ (f : ObjField) (st : St) (names : List String) (rest : List (List String)),
    st.rs.uifStack = names :: rest →
    (visitObjField (cU s fx) f st).rs.uifStack = (f.name :: names) :: rest ∧
    E (visitObjField (cU s fx) f st) = E st + (if names.contains f.name then 1 else 0) + total fObjDup (fun _ => 0) (objFieldNodes f)
  | .mk n v, st, names, rest, hs => by
    rw [visitObjField, objFieldNodes, total_cons]
    have he : enter (cU s fx) (.objField n) st =
        ({ ti := tiEnter s (.objField n) st.ti,
           rs := { (if names.contains n then st.rs.err .uniqueInputFieldNames else st.rs) with
                   uifStack := (n :: names) :: rest } }, false) := by
      rw [enter_single]; dsimp only [enterRule]; rw [hs]
    rw [visitNode_noskip _ _ _ _ _ he, leave_single]
    obtain ⟨b1, b2⟩ := valueU s fx v
      { ti := tiEnter s (.objField n) st.ti,
        rs := { (if names.contains n then st.rs.err .uniqueInputFieldNames else st.rs) with
                uifStack := (n :: names) :: rest } }
    refine ⟨b1, b2.trans ?_⟩
    have hE : (if names.contains n then st.rs.err .uniqueInputFieldNames else st.rs).errs.length =
        E st + if names.contains n then 1 else 0 := by split <;> rfl
    exact (congrArg (· + _) hE).trans (congrArg _ (Nat.zero_add _).symm)
private theorem objFieldsU (s : SchemaD) (fx : Fixes) : ∀ (fs : List ObjField) (st : St) (names : List String) (rest : List (List String)),
    st.rs.uifStack = names :: rest →
    (visitObjFields (cU s fx) fs st).rs.uifStack = ((fs.map (·.name)).reverse ++ names) :: rest ∧
    E (visitObjFields (cU s fx) fs st) = E st + dupCount names (fs.map (·.name)) + total fObjDup (fun _ => 0) (objFieldsNodes fs)
  | [], st, names, rest, hs => by
    rw [visitObjFields, objFieldsNodes]; simp [dupCount, total_nil, hs]
  | f :: fs, st, names, rest, hs => by
    rw [visitObjFields, objFieldsNodes, total_append]
    obtain ⟨a1, a2⟩ := objFieldU s fx f st names rest hs
    obtain ⟨b1, b2⟩ := objFieldsU s fx fs (visitObjField (cU s fx) f st) (f.name :: names) rest a1
    refine ⟨by rw [b1]; simp, ?_⟩
    rw [b2, a2]
    simp only [List.map_cons, dupCount]
    omega
end

private theorem algU (s : SchemaD) (fx : Fixes) : WalkAlgV (cU s fx) QU where
  nil := QU.nil
  append h1 h2 := ⟨h2.1.trans h1.1, by rw [h2.2, h1.2, total_append]; omega⟩
  node n body ns st _ hq hb := quietU s fx n body ns st (objish_of_valueish n hq) hb
  value := valueU s fx

/-- **5.6.3 Input object field uniqueness** -/
theorem rule_unique_input_field_names_iff (s : SchemaD) (fx : Fixes) (d : Doc) :
    Silent s fx .uniqueInputFieldNames d ↔ Spec.uniqueInputFieldNames d := by
  unfold Silent alone
  have hw := visitDefsG (algU s fx) (fun n body ns st _ hq hb => quietU s fx n body ns st (objish_of_valueish n hq) hb) d.defs
  have hd := quietU s fx (.document d) (fun st => d.defs.foldl (fun st x => visitDef (cU s fx) x st) st)
    (d.defs.flatMap defNodes) ({} : St) rfl (fun st => hw st)
  rw [visitDocument]
  have h2 := hd.2
  have h0 : E ({} : St) = 0 := rfl
  rw [h0, Nat.zero_add] at h2
  show E (visitNode (cU s fx) (.document d) _ {}) = 0 ↔ _
  rw [h2, ← nodes, total_zero_iff_g0]
  unfold Spec.uniqueInputFieldNames
  constructor
  · intro h n hn fs e
    have := h n hn; subst e
    simpa [fObjDup, dupCount_nil_zero_iff] using this
  · intro h n hn
    cases n <;> simp only [fObjDup]
    rename_i v
    cases v <;> simp only [fObjDup]
    rename_i fs
    exact (dupCount_nil_zero_iff _).mpr (h _ hn fs rfl)

end PyGql.Props.C06
