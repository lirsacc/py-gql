/-
  C20 — "no breaking change reported ⇒ operations stay valid", INPUT side: what an empty BREAKING report gives
  about the look-ups that ValuesOfCorrectType (5.6.1) and VariablesInAllowedPosition (5.8.5) make
  (`argPos`, `objFieldPos`, `inputFields`, `enumHas` of Spec/ValidSpecVars.lean / ValidSpecValues.lean):
  every argument / input field found on the old schema is found on the new one with a type that is AT LEAST AS
  PERMISSIVE (`sub old new`, i.e. `_is_safe_input_type_change`), it did not become required, and a default it had at
  a non-null position is still there. `C20_rules_values.lean` / `C20_rules_vars.lean` lift this to documents.
-/
import PyGqlModel.Props.C20_rules_doc
import PyGqlModel.Spec.ValidSpecValues

set_option linter.unusedSimpArgs false

namespace PyGql.Props.C20
open PyGql PyGql.Differ PyGql.Diff PyGql.Validate PyGql.Validate.Spec

/-- every argument / input field of the old list is found in the new one (first match by name, as the validator
    looks it up), its type is at least as permissive, and it did not become required -/
def ArgsRelS (as bs : List ArgD) : Prop :=
  ∀ a ∈ as, ∃ b, bs.find? (·.name == a.name) = some b ∧ sub a.type b.type = true ∧ becameRequired a b = false

private theorem becameRequired_self (a : ArgD) : becameRequired a a = false := by
  unfold becameRequired; cases Diff.ArgD.required a <;> rfl

theorem ArgsKept.argsRelS {as bs : List ArgD} (k : ArgsKept as bs) : ArgsRelS as bs := by
  intro a ha
  obtain ⟨b, hb, hs, hq⟩ := k.1 a ha
  exact ⟨b, hb, by rw [← safeIn_eq_sub]; exact hs, hq⟩

theorem fieldHost_argsRelS (o n : SchemaD) (h : diffSchema o n 2 = []) (ot nt : TypeD) (hp : FieldHost o n ot nt)
    (f g : FieldD) (hf : f ∈ ot.fields) (hg : nt.fields.find? (·.name == f.name) = some g) :
    ArgsRelS f.args g.args :=
  (nobreaking_fieldArgs o n h ot nt hp f g hf hg).argsRelS

/-- **fields (validator look-up), input side**: the arguments of a kept field -/
theorem nobreaking_V_fieldOf_in (o n : SchemaD) (h : diffSchema o n 2 = [])
    (p name : String) (fd fd' : FieldD) (hf : fieldOf o p name = some fd) (hn : fieldOf n p name = some fd') :
    ArgsRelS fd.args fd'.args := by
  obtain ⟨t, t', g, hhost, _, hfm, hg, hn', _⟩ := nobreaking_V_fieldOf_host o n h p name fd hf
  rw [hn] at hn'
  rw [Option.some.inj hn']
  exact fieldHost_argsRelS o n h t t' hhost fd g hfm hg

/-- **`_get_field_def`, input side** (meta fields included) -/
theorem nobreaking_V_getFieldDef_in (o n : SchemaD) (h : diffSchema o n 2 = []) (wo : OldWf o)
    (p name : String) (hp : isComposite o p = true) (fd fd' : FieldD)
    (hf : getFieldDef o p name = some fd) (hn : getFieldDef n p name = some fd') : ArgsRelS fd.args fd'.args := by
  rcases getFieldDef_kept o n h wo p name hp fd hf with ⟨hn', hm⟩ | ⟨hfo, hn'⟩
  · -- a meta field, the same on both sides: `__type(name: String!)` is the only one with an argument
    rw [hn] at hn'
    cases hn'
    rcases hm with rfl | rfl | rfl
    · intro a ha; simp [schemaField] at ha
    · intro a ha
      simp only [typeField, List.mem_singleton] at ha
      subst ha
      exact ⟨_, by simp [typeField], sub_refl_in _, becameRequired_self _⟩
    · intro a ha; simp [typenameField] at ha
  · rw [hn'] at hn
    exact nobreaking_V_fieldOf_in o n h p name fd fd' hfo hn

/-- **directives (validator look-up), input side** -/
theorem nobreaking_V_findDirective_in (o n : SchemaD) (h : diffSchema o n 2 = [])
    (name : String) (dd dd' : DirectiveD) (hd : findDirective o name = some dd)
    (hn : findDirective n name = some dd') : ArgsRelS dd.args dd'.args := by
  unfold findDirective at hd hn
  have hdm : dd ∈ o.directives := List.mem_of_find?_eq_some hd
  have hdn : dd.name = name := by simpa using List.find?_some hd
  rw [← hdn] at hn
  exact (nobreaking_directiveArgs o n h dd dd' hdm hn).argsRelS

theorem inputFields_kept (o n : SchemaD) (h : diffSchema o n 2 = []) (x : String) (hi : isInputObject o x = true) :
    isInputObject n x = true ∧ ArgsKept (inputFields o x) (inputFields n x) := by
  have hk : kindOf o x = some .input := by unfold isInputObject at hi; simpa using hi
  have hkn := nobreaking_V_kindOf o n h x _ hk
  cases ho : o.findType x with
  | none => unfold kindOf at hk; rw [ho] at hk; simp at hk
  | some t =>
    obtain ⟨htm, htn⟩ := mem_of_findType ho
    obtain ⟨t', hn', hkk, hp⟩ := nobreaking_matching o n h t htm
    have htk : t.kind = .input := by unfold kindOf at hk; rw [ho] at hk; simpa using hk
    rw [htn] at hn'
    rw [htk] at hp
    have eo : inputFields o x = t.inputFields := by unfold inputFields; rw [ho]; simp [htk]
    have en : inputFields n x = t'.inputFields := by unfold inputFields; rw [hn']; simp [hkk, htk]
    rw [eo, en]
    exact ⟨by unfold isInputObject; rw [hkn]; simp, nobreaking_inputFields o n h t t' hp⟩

/-- **input object types (validator look-up)**: the type stays an input object, its fields are kept with at least as
    permissive types and none becomes required, and every field that is new is optional -/
theorem nobreaking_V_inputFields (o n : SchemaD) (h : diffSchema o n 2 = []) (x : String)
    (hi : isInputObject o x = true) :
    isInputObject n x = true ∧ ArgsRelS (inputFields o x) (inputFields n x) ∧
      (∀ g ∈ inputFields n x, (inputFields o x).find? (·.name == g.name) = none → Validate.ArgD.required g = false) :=
  let ⟨hin, k⟩ := inputFields_kept o n h x hi
  ⟨hin, k.argsRelS, k.2⟩

/-- **enum values (validator look-up)** are kept -/
theorem nobreaking_V_enumHas (o n : SchemaD) (h : diffSchema o n 2 = []) (x v : String)
    (he : isEnum o x = true) (hv : enumHas o x v = true) : enumHas n x v = true := by
  have hk : kindOf o x = some .enum := by unfold isEnum at he; simpa using he
  cases ho : o.findType x with
  | none => unfold kindOf at hk; rw [ho] at hk; simp at hk
  | some t =>
    obtain ⟨htm, htn⟩ := mem_of_findType ho
    obtain ⟨t', hn', hkk, hp⟩ := nobreaking_matching o n h t htm
    have htk : t.kind = .enum := by unfold kindOf at hk; rw [ho] at hk; simpa using hk
    rw [htn] at hn'
    rw [htk] at hp
    unfold enumHas at hv ⊢
    rw [ho] at hv
    rw [hn']
    simp only [List.any_eq_true] at hv ⊢
    obtain ⟨ev, hev, hevn⟩ := hv
    have hs := nobreaking_enum_values_kept o n h t t' hp ev hev
    cases hf : t'.values.find? (·.name == ev.name) with
    | none => rw [hf] at hs; simp at hs
    | some w =>
      refine ⟨w, List.mem_of_find?_eq_some hf, ?_⟩
      have hw : w.name = ev.name := by simpa using List.find?_some hf
      rw [hw]; exact hevn

end PyGql.Props.C20
