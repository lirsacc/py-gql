/-
  C06 - **the VERDICT of the chain /repo runs under reordering of definitions**
  (`perm_definitions_verdict_invariance_memo`), which completes the verdict-level invariance under the six
  transformations of the statement (`tr_verdict_invariance_memo`: selections, arguments, fragment names;
  `alpha_aliases_verdict_invariance_memo`; `alpha_variables_verdict_invariance_memo`), and the six together:
  `six_transformations_verdict_memo`.

  At the level of single rules `perm_definitions_all26` needs unique fragment names, unique operation keys, unique variable
  names ("the last definition wins" otherwise) and `ParentsAgree`; at the level of the verdict none of them is a
  hypothesis: each is the clause of a rule of the same chain (`uniqueOpKeys_of_clauses`: UniqueOperationNames +
  LoneAnonymousOperation), available on whichever side accepts.
-/
import PyGqlModel.Props.C06_inv_aliases_all26
namespace PyGql.Props.C06
open PyGql PyGql.Validate PyGql.Validate.Spec

/-- operation keys (`""` for the anonymous operation) are pairwise different in a document that satisfies the clauses of
    UniqueOperationNames and LoneAnonymousOperation -/
theorem uniqueOpKeys_of_clauses {d : Doc} (h1 : Spec.uniqueOperationNames d) (h2 : Spec.loneAnonymousOperation d) :
    Spec.uniqueOpKeys d := by
  unfold Spec.uniqueOpKeys
  by_cases ha : ∃ x ∈ d.defs, ∃ k vs ds i ss, x = Def.op k none vs ds i ss
  · -- an anonymous operation is the only operation: at most one key
    have hop : (fun x : Def => x.opKey?.isSome) = (·.isOp) := funext fun x => by cases x <;> rfl
    have hle : (d.defs.filterMap Def.opKey?).length ≤ 1 := by
      rw [List.length_filterMap_eq_countP, List.countP_eq_length_filter, hop]
      exact h2 ha
    match d.defs.filterMap Def.opKey?, hle with
    | [], _ => exact List.nodup_nil
    | [a], _ => exact List.pairwise_singleton _ a
    | _ :: _ :: _, h => exact absurd h (by simp only [List.length_cons]; omega)
  · -- all operations are named: the keys are the names
    have key : ∀ l : List Def, (∀ x ∈ l, x ∈ d.defs) → l.filterMap Def.opKey? =
        l.filterMap fun | .op kind name .. => some (name.getD kind) | _ => none := by
      intro l
      induction l with
      | nil => intro _; rfl
      | cons x xs ih =>
        intro hsub
        have hx := hsub x (List.mem_cons_self ..)
        have ih' := ih fun y hy => hsub y (List.mem_cons_of_mem _ hy)
        cases x with
        | op k nm vs ds i ss =>
          cases nm with
          | none => exact absurd ⟨_, hx, k, vs, ds, i, ss, rfl⟩ ha
          | some n => simp only [List.filterMap_cons, Def.opKey?, Option.getD_some, ih']
        | frag => simp only [List.filterMap_cons, Def.opKey?, ih']
        | ts => simp only [List.filterMap_cons, Def.opKey?, ih']
    have : d.defs.filterMap Def.opKey? = Spec.opNames d := key d.defs fun _ h => h
    rw [this]; exact h1

theorem docOkM_perm {s : SchemaD} {d d' : Doc} (h : d.defs.Perm d'.defs) (hd : DocOkM s d) : DocOkM s d' := by
  refine ⟨⟨(wfIdsB_iff d').mpr (wfIds_perm h ((wfIdsB_iff d).mp hd.checks.ids)), ?_⟩, ?_⟩
  · have h0 := hd.checks.noMeta
    unfold noMetaSubsB nodes at h0 ⊢
    rw [List.all_cons] at h0 ⊢
    rw [Bool.and_eq_true] at h0 ⊢
    exact ⟨rfl, by rw [← (h.flatMap_right _).all_eq]; exact h0.2⟩
  · intro f hf
    exact hd.names f ((h.filterMap _).mem_iff.mpr hf)

/-- one direction: an accepted document stays accepted when its definitions are reordered -/
theorem perm_definitions_accepted_memo (s : SchemaD) (fx : Fixes) (hfx : HeadVars fx) (hs : SchemaOutputs s) {d d' : Doc}
    (h : d.defs.Perm d'.defs) (hd : DocOkM s d) (hacc : ∀ r ∈ Rule.all, SilentM s fx r d) :
    ∀ r ∈ Rule.all, SilentM s fx r d' := by
  have hsil : ∀ r ∈ Rule.all, r ≠ .overlappingFieldsCanBeMerged → Silent s fx r d := fun r hr ho =>
    (silentM_of_ne ho).mp (hacc r hr)
  obtain ⟨hnd, _, hpa⟩ := clauses_of_silent25 s fx hfx hs d hd hsil
  have hk : Spec.uniqueOpKeys d :=
    uniqueOpKeys_of_clauses ((rule_unique_operation_names_iff s fx d).mp (hsil .uniqueOperationName (by decide +kernel) (by decide +kernel)))
      ((rule_lone_anonymous_operation_iff s fx d).mp (hsil .loneAnonymousOperation (by decide +kernel) (by decide +kernel)))
  have hv : Spec.uniqueVariableNames d :=
    (rule_unique_variable_names_iff s fx d).mp (hsil .uniqueVariableNames (by decide +kernel) (by decide +kernel))
  have hw : WfIds d := (wfIdsB_iff d).mp hd.checks.ids
  exact fun r hr => (perm_definitions_all26 s fx hfx h hnd hd.names hk hv hpa hw r hr).mp (hacc r hr)

/-- **the VERDICT of the chain /repo runs does not depend on the order of the definitions** (hypotheses on the document:
    those of the headline theorems only)
    [conjunction of the 26 alone runs, `SilentM`; the chain itself: `chainM_six_transformations`] -/
theorem perm_definitions_verdict_invariance_memo (s : SchemaD) (fx : Fixes) (hfx : HeadVars fx) (hs : SchemaOutputs s)
    {d d' : Doc} (h : d.defs.Perm d'.defs) (hd : DocOkM s d) :
    (∀ r ∈ Rule.all, SilentM s fx r d) ↔ (∀ r ∈ Rule.all, SilentM s fx r d') :=
  ⟨perm_definitions_accepted_memo s fx hfx hs h hd,
   perm_definitions_accepted_memo s fx hfx hs h.symm (docOkM_perm h hd)⟩

/-- **verdict unchanged under the six transformations of the statement, for the chain /repo runs** (one theorem, the four
    verdict-level statements side by side): reordering definitions, reordering selections and arguments + injective
    renaming of fragments (no empty name produced), renaming of aliases injective on response keys, injective renaming
    of variables. `Accepts s fx d` = every one of the 26 rule visitors is silent, the overlap rule being the memoised one.
    [conjunction of the 26 alone runs, `SilentM`; the chain itself: `chainM_six_transformations`] -/
theorem six_transformations_verdict_memo (s : SchemaD) (fx : Fixes) (hfx : HeadVars fx) (hs : SchemaOutputs s) (d : Doc)
    (hd : DocOkM s d) :
    let Accepts := fun d => ∀ r ∈ Rule.all, SilentM s fx r d
    (∀ d', d.defs.Perm d'.defs → (Accepts d ↔ Accepts d')) ∧
    (∀ T : Tr, (∀ a b, T.frag a = T.frag b → a = b) → NamesNonEmpty (T.doc d) → (Accepts (T.doc d) ↔ Accepts d)) ∧
    (∀ (A : Al) (ρ : String → String), A.Renames ρ → (∀ a b, ρ a = ρ b → a = b) → A.RenamesOn ρ d →
      (Accepts (A.doc d) ↔ Accepts d)) ∧
    (∀ V : Vr, (∀ a b, V.var a = V.var b → a = b) → (Accepts (V.doc d) ↔ Accepts d)) :=
  ⟨fun _ h => perm_definitions_verdict_invariance_memo s fx hfx hs h hd,
   fun T hinj hne' => tr_verdict_invariance_memo T hinj s fx hfx hs d hd hne',
   fun A ρ hA hρ hA' => alpha_aliases_verdict_invariance_memo A ρ hA hρ s fx hfx hs d hd hA',
   fun V hinj => alpha_variables_verdict_invariance_memo V hinj s fx hfx hs d hd⟩

/-! non-vacuity: the two-fragment document satisfies `DocOkM`, and `oSchema` has output-typed fields -/
example : DocOkM oSchema (oDocFrag "a") := ⟨⟨by decide +kernel, by decide +kernel⟩, by unfold NamesNonEmpty; decide +kernel⟩
example : SchemaOutputs oSchema := schemaOutputs_of_check oSchema (by decide +kernel)
/-- the verdict on the two-fragment document and on its image under "reverse every selection and argument list, rename
    the fragments" -/
example : (∀ r ∈ Rule.all, SilentM oSchema Fixes.all r (revRenameTr.doc (oDocFrag "a"))) ↔
    (∀ r ∈ Rule.all, SilentM oSchema Fixes.all r (oDocFrag "a")) :=
  tr_verdict_invariance_memo revRenameTr revRenameTr_inj oSchema Fixes.all headVars_all
    (schemaOutputs_of_check oSchema (by decide +kernel)) (oDocFrag "a")
    ⟨⟨by decide +kernel, by decide +kernel⟩, by unfold NamesNonEmpty; decide +kernel⟩ (by unfold NamesNonEmpty; decide +kernel)

end PyGql.Props.C06
