/-
  C20 — `operations_stay_valid_rules` is not vacuous, and its hypothesis `OpsRooted` cannot be dropped.
  The eight rules are checked on concrete documents through an executable form (`rulesB`, sound by
  `rules_of_rulesB`), so that the hypotheses of the theorem are established by evaluation.
-/
import PyGqlModel.Props.C20_rules_doc

set_option linter.unusedSimpArgs false

namespace PyGql.Props.C20
open PyGql PyGql.Differ PyGql.Diff PyGql.Validate PyGql.Validate.Spec

/-- executable form of FieldsOnCorrectType, ScalarLeafs, KnownArgumentNames, ProvidedRequiredArguments at one node -/
def nodeOkB (s : SchemaD) (p : Node × View) : Bool :=
  match p.1 with
  | .field _ args _ hs =>
    (!p.2.parent.isSome || p.2.field.isSome) &&
    (match p.2.type with
      | some t => (!isLeaf s t.base || !hs) && (!isComposite s t.base || hs)
      | none => true) &&
    (match p.2.field with
      | some fd => args.all (fun a => fd.args.any (fun ad => ad.name == a.name)) &&
          fd.args.all (fun ad => !Validate.ArgD.required ad || args.any (fun a => a.name == ad.name))
      | none => true)
  | .directive dr =>
    (match p.2.directive with
      | some dd => dr.args.all (fun a => dd.args.any (fun ad => ad.name == a.name)) &&
          dd.args.all (fun ad => !Validate.ArgD.required ad || dr.args.any (fun a => a.name == ad.name))
      | none => true)
  | _ => true

/-- executable form of KnownTypeNames, VariablesAreInputTypes, FragmentsOnCompositeTypes at one node -/
def plainOkB (s : SchemaD) (x : Node) : Bool :=
  match x with
  | .typeNode t => (s.findType t.base).isSome
  | .varDef v => (match typeFromAst s v.type with | some t => isInputTy s t | none => false)
  | .inline (some on) _ => isComposite s on
  | .fragmentDef _ on _ => isComposite s on
  | _ => true

/-- executable form of `OpsRooted` -/
def rootedB (s : SchemaD) (d : Doc) : Bool :=
  (nodes d).all fun x => match x with
    | .operation kind .. => (rootType s kind).isSome
    | _ => true

theorem rooted_of_rootedB (s : SchemaD) (d : Doc) (h : rootedB s d = true) : OpsRooted s d := by
  unfold rootedB at h
  simp only [List.all_eq_true] at h
  intro x hx kind name vars dirs sels e; subst e; simpa using h _ hx

/-- executable form of FieldsOnCorrectType, complete -/
def fieldsB (s : SchemaD) (d : Doc) : Bool :=
  (typedNodes s d).all fun p => match p.1 with
    | .field .. => !p.2.parent.isSome || p.2.field.isSome
    | _ => true

theorem fieldsB_of (s : SchemaD) (d : Doc) (h : fieldsOnCorrectType s d) : fieldsB s d = true := by
  unfold fieldsB
  simp only [List.all_eq_true]
  intro p hp
  obtain ⟨nd, v⟩ := p
  cases nd <;> try rfl
  rename_i name args dirs hs
  have := h _ hp name args dirs hs rfl
  simp only at this ⊢
  cases hpar : v.parent with
  | none => rfl
  | some q => rw [hpar] at this; simpa using this rfl

/-- executable form of KnownDirectives at one node -/
def dirOkB (s : SchemaD) (p : Node × List Anc) : Bool :=
  match p.1 with
  | .directive dr =>
    (match findDirective s dr.name with
      | some sd => (match p.2 with | a :: _ => sd.locations.contains a.location | [] => true)
      | none => false)
  | _ => true

def rulesB (s : SchemaD) (d : Doc) : Bool :=
  (typedNodes s d).all (nodeOkB s) && (nodes d).all (plainOkB s) && (gnDoc ancDown [] d).all (dirOkB s)

/-- the argument part of `nodeOkB`, read back: every given argument is defined, every required one is given -/
private theorem argsOk_of (given : List Arg) (defs : List ArgD)
    (h : (given.all (fun a => defs.any (fun ad => ad.name == a.name)) &&
      defs.all (fun ad => !Validate.ArgD.required ad || given.any (fun a => a.name == ad.name))) = true) :
    (∀ a ∈ given, ∃ ad ∈ defs, ad.name = a.name) ∧
      (∀ ad ∈ defs, Validate.ArgD.required ad = true → ∃ a ∈ given, a.name = ad.name) := by
  simp only [Bool.and_eq_true, List.all_eq_true, List.any_eq_true, beq_iff_eq, Bool.or_eq_true,
    Bool.not_eq_true'] at h
  refine ⟨h.1, fun ad had hreq => ?_⟩
  rcases h.2 ad had with h4 | h4
  · rw [hreq] at h4; cases h4
  · exact h4

/-- `nodeOkB` at a field node, read back -/
private theorem nodeOkB_field {s : SchemaD} {name : String} {args : List Arg} {dirs : List Dir} {hs : Bool} {v : View}
    (h : nodeOkB s (.field name args dirs hs, v) = true) :
    (v.parent.isSome = true → v.field.isSome = true) ∧
    (∀ t, v.type = some t → (isLeaf s t.base = true → hs = false) ∧ (isComposite s t.base = true → hs = true)) ∧
    (∀ fd, v.field = some fd → (∀ a ∈ args, ∃ ad ∈ fd.args, ad.name = a.name) ∧
      (∀ ad ∈ fd.args, Validate.ArgD.required ad = true → ∃ a ∈ args, a.name = ad.name)) := by
  simp only [nodeOkB, Bool.and_eq_true, Bool.or_eq_true, Bool.not_eq_true'] at h
  obtain ⟨⟨h1, h2⟩, h3⟩ := h
  refine ⟨fun hpar => ?_, fun t ht => ?_, fun fd hfd => ?_⟩
  · rcases h1 with h1 | h1
    · rw [hpar] at h1; cases h1
    · exact h1
  · rw [ht] at h2
    simp only [Bool.and_eq_true, Bool.or_eq_true, Bool.not_eq_true'] at h2
    constructor
    · intro hl; rcases h2.1 with h4 | h4
      · rw [hl] at h4; cases h4
      · exact h4
    · intro hc; rcases h2.2 with h4 | h4
      · rw [hc] at h4; cases h4
      · exact h4
  · rw [hfd] at h3
    exact argsOk_of args fd.args h3

theorem rules_of_rulesB (s : SchemaD) (d : Doc) (h : rulesB s d = true) : SchemaRules s d := by
  unfold rulesB at h
  simp only [Bool.and_eq_true, List.all_eq_true] at h
  obtain ⟨⟨hT, hP⟩, hD⟩ := h
  have hField : ∀ p ∈ typedNodes s d, ∀ name args dirs hs, p.1 = Node.field name args dirs hs →
      nodeOkB s (.field name args dirs hs, p.2) = true := fun p hp name args dirs hs e => e ▸ hT p hp
  have hDir : ∀ p ∈ typedNodes s d, ∀ dr, p.1 = Node.directive dr → ∀ dd, p.2.directive = some dd →
      (∀ a ∈ dr.args, ∃ ad ∈ dd.args, ad.name = a.name) ∧
      (∀ ad ∈ dd.args, Validate.ArgD.required ad = true → ∃ a ∈ dr.args, a.name = ad.name) := by
    intro p hp dr e dd hdd
    have h3 := hT p hp
    simp only [nodeOkB, e, hdd] at h3
    exact argsOk_of dr.args dd.args h3
  refine ⟨?_, ?_, ⟨?_, ?_⟩, ?_, ?_, ⟨?_, ?_⟩, ⟨?_, ?_⟩, ?_⟩
  · intro x hx t e; subst e; simpa [plainOkB] using hP _ hx
  · intro x hx v e; subst e
    have := hP _ hx
    simp only [plainOkB] at this
    cases ht : typeFromAst s v.type with
    | none => rw [ht] at this; cases this
    | some t => rw [ht] at this; exact ⟨t, rfl, this⟩
  · intro x hx on dirs e; subst e; simpa [plainOkB] using hP _ hx
  · intro x hx name on dirs e; subst e; simpa [plainOkB] using hP _ hx
  · intro p hp name args dirs hs e
    exact (nodeOkB_field (hField p hp name args dirs hs e)).1
  · intro p hp name args dirs hs e
    exact (nodeOkB_field (hField p hp name args dirs hs e)).2.1
  · intro p hp name args dirs hs e fd hfd
    exact ((nodeOkB_field (hField p hp name args dirs hs e)).2.2 fd hfd).1
  · intro p hp dr e dd hdd
    exact (hDir p hp dr e dd hdd).1
  · intro p hp name args dirs hs e fd hfd
    exact ((nodeOkB_field (hField p hp name args dirs hs e)).2.2 fd hfd).2
  · intro p hp dr e dd hdd
    exact (hDir p hp dr e dd hdd).2
  · intro p hp dr e
    obtain ⟨nd, anc⟩ := p
    simp only at e; subst e
    have h3 := hD _ hp
    simp only [dirOkB] at h3
    cases hf : findDirective s dr.name with
    | none => rw [hf] at h3; cases h3
    | some sd =>
      rw [hf] at h3
      refine ⟨sd, rfl, ?_⟩
      intro a rest er
      simp only at er
      rw [er] at h3
      simpa using h3

/-- executable form of PossibleFragmentSpreads -/
def spreadsB (s : SchemaD) (fx : Fixes) (d : Doc) : Bool :=
  (viewNodes s d).all fun q =>
    match q.1 with
    | .spread name _ =>
      (match AL.get? (fragTypes s d) name, spreadParent fx q.2 with
        | some ft, some p => !isComposite s ft || !isComposite s p || typesOverlap s ft p
        | _, _ => true)
    | .inline _ _ =>
      (match q.2.type, q.2.parent with
        | some (.named t), some p => !isComposite s t || !isComposite s p || typesOverlap s t p
        | _, _ => true)
    | _ => true

theorem spreads_of_spreadsB (s : SchemaD) (fx : Fixes) (d : Doc) (h : spreadsB s fx d = true) :
    possibleFragmentSpreads s fx d := by
  unfold spreadsB at h
  simp only [List.all_eq_true] at h
  intro q hq
  obtain ⟨nd, v⟩ := q
  constructor
  · intro name dirs e ft p hget hpar hcf hcp
    simp only at e; subst e
    have := h _ hq
    simp only [hget, hpar, hcf, hcp, Bool.not_true, Bool.false_or] at this
    exact this
  · intro on dirs e t p htype hpar hct hcp
    simp only at e; subst e
    have := h _ hq
    simp only at htype hpar
    simp only [htype, hpar, hct, hcp, Bool.not_true, Bool.false_or] at this
    exact this

/-! ### a concrete compatible evolution -/

private def builtins : List TypeD :=
  [{ kind := .scalar, name := "Int" }, { kind := .scalar, name := "String" }, { kind := .scalar, name := "Boolean" },
   { kind := .object, name := "__Schema" }, { kind := .object, name := "__Type" }]

private def skipD : DirectiveD :=
  { name := "skip", locations := ["FIELD", "FRAGMENT_SPREAD", "INLINE_FRAGMENT"],
    args := [{ name := "if", type := .nonNull (.named "Boolean") }] }

private def rO : SchemaD :=
  { query := some "Query", directives := [skipD],
    types := builtins ++
      [{ kind := .object, name := "Query",
         fields := [{ name := "pet", type := .named "Pet", args := [{ name := "id", type := .nonNull (.named "Int") }] },
                    { name := "n", type := .named "Int" }] },
       { kind := .interface, name := "Pet", fields := [{ name := "name", type := .named "String" }] },
       { kind := .object, name := "Dog", interfaces := ["Pet"],
         fields := [{ name := "name", type := .named "String" }, { name := "bark", type := .named "Int" }] }] }

private def rNTypes : List TypeD :=
  builtins ++
      [{ kind := .object, name := "Query",
         fields := [{ name := "pet", type := .named "Pet",
                      args := [{ name := "id", type := .named "Int" }, { name := "strict", type := .named "Boolean" }] },
                    { name := "n", type := .nonNull (.named "Int") }] },
       { kind := .interface, name := "Pet", fields := [{ name := "name", type := .named "String" }] },
       { kind := .object, name := "Dog", interfaces := ["Pet"],
         fields := [{ name := "name", type := .named "String" }, { name := "bark", type := .named "Int" }] },
       { kind := .object, name := "Mutation", fields := [{ name := "m", type := .named "Int" }] }]

/-- new schema: an optional argument added, the required one relaxed, an output type made non-null, a type added -/
private def rN : SchemaD := { query := some "Query", directives := [skipD], types := rNTypes }

/-- the same, with the added type made the mutation root -/
private def rNM : SchemaD := { query := some "Query", mutation := some "Mutation", directives := [skipD], types := rNTypes }

/-- `query ($i: Int!) { n pet(id: $i) { name @skip(if: true) ... on Dog { bark } ...F } }  fragment F on Pet { __typename }` -/
private def rDoc : Doc :=
  { defs := [.op "query" none [{ name := "i", type := .nonNull (.named "Int"), default := none }] [] 0
      [.field none "n" [] [] false 0 [],
       .field none "pet" [{ name := "id", value := .var "i" }] [] true 1
         [.field none "name" [] [{ name := "skip", args := [{ name := "if", value := .bool true }] }] false 0 [],
          .inline (some "Dog") [] 2 [.field none "bark" [] [] false 0 []],
          .spread "F" []]],
     .frag "F" "Pet" [] 3 [.field none "__typename" [] [] false 0 []]] }

/-- `mutation { foo }` -/
private def rMut : Doc := { defs := [.op "mutation" none [] [] 0 [.field none "foo" [] [] false 0 []]] }

private theorem rO_wf : OldWf rO :=
  ⟨rfl, by decide +kernel, by decide +kernel⟩

private theorem rN_wf : NewWf rN := .of_nodup (by decide +kernel)
private theorem rNM_wf : NewWf rNM := .of_nodup (by decide +kernel)

private theorem rDiff : diffSchema rO rN 2 = [] := by decide +kernel
private theorem rRooted : OpsRooted rO rDoc := rooted_of_rootedB rO rDoc (by decide +kernel)
private theorem rRules : SchemaRules rO rDoc := rules_of_rulesB rO rDoc (by decide +kernel)

example : diffSchema rO rN 2 = [] ∧ (diffSchema rO rN 0).length = 4 := ⟨rDiff, by decide +kernel⟩
example : rulesB rO rDoc = true := by decide +kernel

/-- the hypotheses of `operations_stay_valid_rules` are met by a non-trivial instance, and the conclusion follows -/
example : SchemaRules rN rDoc :=
  operations_stay_valid_rules rO rN rDiff rO_wf rN_wf rDoc rRooted rRules

/-- the same instance for PossibleFragmentSpreads (the document spreads `F on Pet` and `... on Dog` inside `pet: Pet`) -/
example : possibleFragmentSpreads rN {} rDoc :=
  nobreaking_possibleFragmentSpreads rO rN rDiff rO_wf rN_wf rDoc {} rfl rRooted rRules
    (spreads_of_spreadsB rO {} rDoc (by decide +kernel))

/-- **`OpsRooted` cannot be dropped (finding G6).** `mutation { foo }` satisfies every rule on a schema without a
    mutation type (no rule looks at an operation whose root type does not exist); adding the mutation type is not a
    BREAKING change (`RootTypeAdded`, `TypeAdded`: COMPATIBLE); on the new schema FieldsOnCorrectType fails. -/
theorem unrooted_operation_refutes :
    ∃ (o n : SchemaD) (d : Doc), diffSchema o n 2 = [] ∧ OldWf o ∧ NewWf n ∧ SchemaRules o d
      ∧ ¬ fieldsOnCorrectType n d := by
  exact ⟨rO, rNM, rMut, by decide +kernel, rO_wf, rNM_wf, rules_of_rulesB rO rMut (by decide +kernel),
    fun hF => absurd (fieldsB_of rNM rMut hF) (by decide +kernel)⟩

/-- the same pair of schemas: the operation has no root type on the old schema -/
example : rootedB rO rMut = false := by decide +kernel

end PyGql.Props.C20
