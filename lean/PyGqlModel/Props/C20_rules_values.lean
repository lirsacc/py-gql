/-
  C20 — "no breaking change reported ⇒ operations stay valid": the static INPUT contexts (`IView`: expected input type
  of a position and of the enclosing position, Spec/ValidSpecValues.lean) of every node stay compatible, and
  **ValuesOfCorrectType (5.6.1, as implemented)** is preserved: `nobreaking_valuesOfCorrectType`.

  The invariant (`IInv`): the output views are compatible (`VInv`, C20_rules_doc.lean), the arguments of the enclosing
  field / directive are kept with at-least-as-permissive types (`ArgsRelS`), and the expected input type is unknown
  on both sides or known on both sides with `sub old new` (`InRel`: input positions only get MORE permissive).

  Facts about the two schema descriptions used as hypotheses (beyond `OldWf` / `NewWf`); like those they follow from
  `Schema.validate()` having passed, which `diff_schema` runs on both schemas first:
  * `OldWfIn o`: the types of arguments and input fields are well-formed type expressions (no `T!!`) over defined
    types (the type map is closed);
  * `NewWfIn n`: input field names are unique per input object type.
  `fx.v9 = true`: the tree has fix V9 (`parent_input_type` looks through list / non-null). WITHOUT it the statement
  is false: `f(a: In!)` → `f(a: In)` is safe, yet `{ f(a: {unknown: 1}) }` (accepted: the unknown field of a WRAPPED
  input object was not looked at) is rejected afterwards.
-/
import PyGqlModel.Lemmas.C20InputViews

set_option linter.unusedSimpArgs false

namespace PyGql.Props.C20
open PyGql PyGql.Differ PyGql.Diff PyGql.Validate PyGql.Validate.Spec

/-- at every node of a document in order on the old schema, the old and the new INPUT view are compatible -/
theorem inputViews_compatible (o n : SchemaD) (h : diffSchema o n 2 = []) (wo : OldWf o) (wn : NewWf n)
    (woi : OldWfIn o) (fx : Fixes) (hv9 : fx.v9 = true) (d : Doc) (hR : OpsRooted o d) (hv : SchemaRules o d)
    (hval : valuesOfCorrectType o fx d) : ∀ p ∈ pairNodesI o n d, IInv o p.2 :=
  gnDoc_inv (pdI o n) (IInv o) (OldOkI o fx) (fun nd x hi hk => pdI_step o n h wo wn woi fx hv9 nd x hi hk) d
    ({}, {}) (iinv_root o) (oldOkI_all o n fx d hv hR hval)

private theorem kind_eq_of_in (o n : SchemaD) (h : diffSchema o n 2 = []) {t t' : Ty} (hl : TyLoose t t')
    (hi : isInputTy o t = true) : kindOf n t'.base = kindOf o t.base := by
  rw [sub_base _ _ hl.1]
  exact nobreaking_kindOf_eq o n h _ (kind_of_in hi)

private theorem scalarLiteral_kept (o n : SchemaD) (h : diffSchema o n 2 = []) (w w' : IView) (v : Value)
    (hin : InRel o w.input w'.input) (hold : scalarLiteralOk o w v) : scalarLiteralOk n w' v := by
  intro it' hi'
  obtain ⟨t, hx, hl, hi⟩ := hin.of_new hi'
  obtain ⟨h1, h2⟩ := hold t hx
  have hk := kind_eq_of_in o n h hl hi
  refine ⟨?_, ?_⟩
  · unfold isScalar at h1 ⊢; rw [hk]; exact h1
  · rw [sub_base _ _ hl.1]; exact h2

/-- **ValuesOfCorrectType (5.6.1, as implemented) is preserved**: with no BREAKING change reported, every literal of a
    document that satisfies the schema-dependent rules on the old schema is still of the type its position expects. -/
theorem nobreaking_valuesOfCorrectType (o n : SchemaD) (h : diffSchema o n 2 = []) (wo : OldWf o) (wn : NewWf n)
    (woi : OldWfIn o) (wni : NewWfIn n) (fx : Fixes) (hv9 : fx.v9 = true) (d : Doc) (hR : OpsRooted o d)
    (hv : SchemaRules o d) (hval : valuesOfCorrectType o fx d) : valuesOfCorrectType n fx d := by
  -- node by node on the paired walk: the expected input type of the new view is at least as permissive as the old one
  -- (`InRel`, from `inputViews_compatible`), and each kind of literal is accepted at a more permissive type of the same base
  have hinv := inputViews_compatible o n h wo wn woi fx hv9 d hR hv hval
  intro q hq
  obtain ⟨p, hp, rfl⟩ := ofI_new (o := o) hq
  have iv := hinv p hp
  have hold := hval _ (memI_old hp)
  obtain ⟨nd, w, w'⟩ := p
  show valueNodeOk n fx nd w'
  have hold : valueNodeOk o fx nd w := hold
  have hin : InRel o w.input w'.input := iv.input
  cases nd with
  | value v =>
    cases v with
    | int x => exact scalarLiteral_kept o n h w w' _ hin hold
    | float x => exact scalarLiteral_kept o n h w w' _ hin hold
    | str x => exact scalarLiteral_kept o n h w w' _ hin hold
    | bool x => exact scalarLiteral_kept o n h w w' _ hin hold
    | var x => trivial
    | list vs => trivial
    | null =>
      intro c hc
      have hold : ∀ t, w.input ≠ some (.nonNull t) := hold
      obtain ⟨t, hx, hl, _⟩ := hin.of_new hc
      obtain ⟨a, ha, _⟩ := sub_nonNull_right hl.1
      exact hold a (by rw [hx, ha])
    | enum x =>
      intro it' hi'
      have hold : ∀ it, w.input = some it →
        (isEnum o it.base = true → enumHas o it.base x = true) ∧
        (isEnum o it.base = false → isScalar o it.base = true ∧ scalarAccepts it.base (.enum x) = true) := hold
      obtain ⟨t, hx, hl, hi⟩ := hin.of_new hi'
      obtain ⟨h1, h2⟩ := hold t hx
      have hk := kind_eq_of_in o n h hl hi
      have hb := sub_base _ _ hl.1
      have he : isEnum n it'.base = isEnum o t.base := by unfold isEnum; rw [hk]
      refine ⟨fun hen => ?_, fun hen => ?_⟩
      · rw [he] at hen; rw [hb]; exact nobreaking_V_enumHas o n h _ x hen (h1 hen)
      · rw [he] at hen
        obtain ⟨h3, h4⟩ := h2 hen
        exact ⟨by unfold isScalar at h3 ⊢; rw [hk]; exact h3, by rw [hb]; exact h4⟩
    | obj fs =>
      intro it' hi'
      have hold : ∀ it, w.input = some it →
        (isInputObject o it.base = true ∧
          ∀ fd ∈ inputFields o it.base, Validate.ArgD.required fd = true → fd.name ∈ fs.map (·.name)) ∨
        (isInputObject o it.base = false ∧ isScalar o it.base = true ∧ scalarAccepts it.base (.obj fs) = true) := hold
      obtain ⟨t, hx, hl, hi⟩ := hin.of_new hi'
      have hk := kind_eq_of_in o n h hl hi
      have hb := sub_base _ _ hl.1
      rcases hold t hx with ⟨hio, hreq⟩ | ⟨hio, hsc, hacc⟩
      · left
        obtain ⟨hin', hK⟩ := inputFields_kept o n h t.base hio
        rw [hb]
        refine ⟨hin', fun g hg hgr => ?_⟩
        -- a field required now was required before: it did not become required, and no required field is new
        obtain ⟨f, hfm, hfn, hfr⟩ := (hK.argsRel (inputFields_uniq wni t.base)).2 g hg hgr
        rw [← hfn]
        exact hreq f hfm hfr
      · right
        rw [hb]
        refine ⟨?_, ?_, hacc⟩
        · unfold isInputObject at hio ⊢; rw [← hb, hk]; exact hio
        · unfold isScalar at hsc ⊢; rw [← hb, hk]; exact hsc
  | objField nm =>
    intro hnone
    have hold : w.input = none → w.outerObject o fx = none := hold
    have hwn : w.input = none := by
      rcases hin with ⟨hx, _⟩ | ⟨t, t', _, hy, _, _⟩
      · exact hx
      · rw [hy] at hnone; cases hnone
    have hoo := hold hwn
    rw [outerObject_v9 o fx hv9] at hoo
    rw [outerObject_v9 n fx hv9]
    rcases iv.outer with ⟨_, hy⟩ | ⟨t, t', hx, hy, hl, hi⟩
    · rw [show w'.outer = none from hy]
    · rw [show w'.outer = some t' from hy]
      rw [show w.outer = some t from hx] at hoo
      have hk := kind_eq_of_in o n h hl hi
      have : isInputObject n t'.base = isInputObject o t.base := by unfold isInputObject; rw [hk]
      simp only [this]
      by_cases hio : isInputObject o t.base = true
      · simp [hio] at hoo
      · simp [hio]
  | document d => trivial
  | tsDef => trivial
  | typeNode t => trivial
  | spread nm ds => trivial
  | selectionSet i sels => trivial
  | operation kind name vars dirs sels => trivial
  | fragmentDef name on dirs => trivial
  | inline on dirs => trivial
  | directive dr => trivial
  | field name args dirs hs => trivial
  | varDef v => trivial
  | argument a => trivial

end PyGql.Props.C20
