/-
  C20 — the two extra hypotheses of the input-side preservation theorems cannot be dropped (machine-checked witnesses):

  * `fix_v9_necessary`: on the validator WITHOUT fix V9 (`parent_input_type` only looked at an UNWRAPPED input object)
    ValuesOfCorrectType is not preserved: `f(a: In!)` → `f(a: In)` is a safe change, `{ f(a: {nope: true}) }` was
    accepted (the unknown field of the wrapped `In!` was not looked at) and is rejected afterwards.
  * `values_rule_necessary`: VariablesInAllowedPosition alone is not preserved; ValuesOfCorrectType on the old schema
    is needed: `query ($v: String) { f(a: {nope: $v}) }` passes 5.8.5 on the old schema (the position of `$v` has no
    known type), an OPTIONAL input field `nope: Int` is added (not breaking), and `$v: String` is then at an `Int`
    position.
-/
import PyGqlModel.Props.C20_rules_all

set_option linter.unusedSimpArgs false

namespace PyGql.Props.C20
open PyGql PyGql.Differ PyGql.Diff PyGql.Validate PyGql.Validate.Spec

private def nb : List TypeD :=
  [{ kind := .scalar, name := "Int" }, { kind := .scalar, name := "String" }, { kind := .scalar, name := "Boolean" },
   { kind := .object, name := "__Schema" }, { kind := .object, name := "__Type" }]

private def nSchema (argTy : Ty) (fields : List ArgD) : SchemaD :=
  { query := some "Query",
    types := nb ++
      [{ kind := .input, name := "In", inputFields := fields },
       { kind := .object, name := "Query",
         fields := [{ name := "f", type := .named "Int", args := [{ name := "a", type := argTy }] }] }] }

private def inX : List ArgD := [{ name := "x", type := .named "Int" }]

/-- `f(a: In!)` -/
private def v9Old : SchemaD := nSchema (.nonNull (.named "In")) inX
/-- `f(a: In)` -/
private def v9New : SchemaD := nSchema (.named "In") inX
/-- `{ f(a: {nope: true}) }` -/
private def v9Doc : Doc :=
  { defs := [.op "query" none [] [] 0
      [.field none "f" [{ name := "a", value := .obj [.mk "nope" (.bool true)] }] [] false 0 []]] }

private def noV9 : Fixes := { v9 := false }

/-- **fix V9 is necessary** for `nobreaking_valuesOfCorrectType` -/
theorem fix_v9_necessary :
    ∃ (o n : SchemaD) (d : Doc) (fx : Fixes), diffSchema o n 2 = [] ∧ OldWf o ∧ NewWf n ∧ OldWfIn o ∧ NewWfIn n ∧
      OpsRooted o d ∧ SchemaRules o d ∧ valuesOfCorrectType o fx d ∧ ¬ valuesOfCorrectType n fx d := by
  refine ⟨v9Old, v9New, v9Doc, noV9, by decide +kernel, ⟨rfl, by decide +kernel, by decide +kernel⟩,
    .of_nodup (by decide +kernel), ?_, .of_nodup (by decide +kernel), rooted_of_rootedB _ _ (by decide +kernel),
    rules_of_rulesB _ _ (by decide +kernel), ?_, ?_⟩
  · refine ⟨?_, ?_, ?_⟩ <;> unfold ArgsWf <;> decide +kernel
  · exact (PyGql.Props.C06.rule_values_of_correct_type_iff v9Old noV9 v9Doc).mp
      (by unfold PyGql.Props.C06.Silent; decide +kernel)
  · intro h
    exact absurd ((PyGql.Props.C06.rule_values_of_correct_type_iff v9New noV9 v9Doc).mpr h)
      (by unfold PyGql.Props.C06.Silent; decide +kernel)

/-- `input In { x: Int }`, `f(a: In)` -/
private def vrOld : SchemaD := nSchema (.named "In") inX
/-- the same with an optional input field `nope: Int` added -/
private def vrNew : SchemaD := nSchema (.named "In") (inX ++ [{ name := "nope", type := .named "Int" }])
/-- `query ($v: String) { f(a: {nope: $v}) }` -/
private def vrDoc : Doc :=
  { defs := [.op "query" none [{ name := "v", type := .named "String", default := none }] [] 0
      [.field none "f" [{ name := "a", value := .obj [.mk "nope" (.var "v")] }] [] false 0 []]] }

/-- **ValuesOfCorrectType on the old schema is necessary** for `nobreaking_variablesInAllowedPosition` -/
theorem values_rule_necessary :
    ∃ (o n : SchemaD) (d : Doc), diffSchema o n 2 = [] ∧ OldWf o ∧ NewWf n ∧ OldWfIn o ∧
      OpsRooted o d ∧ SchemaRules o d ∧ variablesInAllowedPosition o d ∧ ¬ variablesInAllowedPosition n d ∧
      ¬ valuesOfCorrectType o {} d := by
  refine ⟨vrOld, vrNew, vrDoc, by decide +kernel, ⟨rfl, by decide +kernel, by decide +kernel⟩,
    .of_nodup (by decide +kernel), ?_, rooted_of_rootedB _ _ (by decide +kernel),
    rules_of_rulesB _ _ (by decide +kernel), ?_, ?_, ?_⟩
  · refine ⟨?_, ?_, ?_⟩ <;> unfold ArgsWf <;> decide +kernel
  · exact (PyGql.Props.C06.rule_variables_in_allowed_position_iff vrOld {} rfl rfl vrDoc).mp
      (by unfold PyGql.Props.C06.Silent; decide +kernel)
  · intro h
    exact absurd ((PyGql.Props.C06.rule_variables_in_allowed_position_iff vrNew {} rfl rfl vrDoc).mpr h)
      (by unfold PyGql.Props.C06.Silent; decide +kernel)
  · intro h
    exact absurd ((PyGql.Props.C06.rule_values_of_correct_type_iff vrOld {} vrDoc).mpr h)
      (by unfold PyGql.Props.C06.Silent; decide +kernel)

end PyGql.Props.C20
