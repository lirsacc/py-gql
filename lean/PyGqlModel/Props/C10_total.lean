/-
  C10 — the executor model is TOTAL on well-typed outcome trees. `executed_response_wellformed`
  and `response_wellformed_pipeline` assume `execute root = some …` ("the executor model completes the tree": `none` stands
  for a value that is not a value of the field's type — a programming error that propagates by design). Here that assumption
  is replaced by a decidable condition on the tree itself: `typedFields` (a leaf or an object under a named type, a list
  under a list type, a raised error only directly at a field), and the two are shown EQUIVALENT (`execute_some_iff_typed`).
-/
import PyGqlModel.Props.C10_stages

namespace PyGql.Props.C10
open PyGql PyGql.Response PyGql.Spec.Response PyGql.Spec.TreeOk PyGql.Generated.ResponseKeys PyGql.Lemmas.ResponseCapture

private theorem wrap_some (isNN : Bool) (nodes : List Nat) (p : Path) (r : J × List Err) :
    ∃ r', nonNullWrap isNN nodes p (some r) = some r' := by
  obtain ⟨v, es⟩ := r
  by_cases c : (isNN && v.isNull) = true
  · exact ⟨(v, es ++ [Err.resolver (nonNullMessage p) (nodes.map some) (some p) none]), by simp only [nonNullWrap, c, if_true]⟩
  · exact ⟨(v, es), by simp only [nonNullWrap, c]; rfl⟩

mutual
private theorem inner_total (b : Bool) (t : Ty) (nodes : List Nat) (path : Path) :
    ∀ (o : Out), typedInner b t o = true → (completeInner b t nodes path o).isSome = true
  | .null, _ => rfl
  | .raised m ext, h => by
    obtain rfl : b = true := h
    rfl
  | .leaf x, h => by
    cases t with
    | named n => rfl
    | _ => cases h
  | .list items, h => by
    cases t with
    | list it =>
      rw [completeInner, Option.isSome_map]
      exact list_total it nodes path 0 items h
    | _ => cases h
  | .obj fields, h => by
    cases t with
    | named n =>
      rw [completeInner, Option.isSome_map]
      exact fields_total path fields h
    | _ => cases h

private theorem list_total (it : Ty) (nodes : List Nat) (path : Path) :
    ∀ (i : Nat) (items : OutList), typedList it items = true → (completeList it nodes path i items).isSome = true
  | i, .nil, _ => rfl
  | i, .cons o rest, h => by
    simp only [typedList, Bool.and_eq_true] at h
    obtain ⟨r1, h1⟩ := Option.isSome_iff_exists.mp (inner_total false (innerTy it) nodes (path ++ [Seg.idx i]) o h.1)
    obtain ⟨r1', h1'⟩ := wrap_some it.isNonNull nodes (path ++ [Seg.idx i]) r1
    obtain ⟨r2, h2⟩ := Option.isSome_iff_exists.mp (list_total it nodes path (i + 1) rest h.2)
    simp only [completeList, h1, h1', h2]
    rfl

private theorem fields_total (path : Path) :
    ∀ (fs : FldList), typedFields fs = true → (executeFields path fs).isSome = true
  | .nil, _ => rfl
  | .cons key ty nodes o rest, h => by
    simp only [typedFields, Bool.and_eq_true] at h
    obtain ⟨r1, h1⟩ := Option.isSome_iff_exists.mp (inner_total true (innerTy ty) nodes (path ++ [Seg.key key]) o h.1)
    obtain ⟨r1', h1'⟩ := wrap_some (ty.isNonNull && !o.isRaised) nodes (path ++ [Seg.key key]) r1
    obtain ⟨r2, h2⟩ := Option.isSome_iff_exists.mp (fields_total path rest h.2)
    simp only [executeFields, h1, h1', h2]
    rfl
end

private theorem typed_all :
    (∀ b t ns p o v es, completeInner b t ns p o = some (v, es) → typedInner b t o = true) ∧
    (∀ it ns p i items vs es, completeList it ns p i items = some (vs, es) → typedList it items = true) ∧
    (∀ p fs kvs es, executeFields p fs = some (kvs, es) → typedFields fs = true) :=
  capture_induction
    { null := fun _ _ _ _ => rfl
      raised := fun _ _ _ _ _ => rfl
      leaf := fun _ _ _ _ _ => rfl
      list := fun _ _ _ _ _ _ _ ih => ih
      obj := fun _ _ _ _ _ _ _ ih => ih
      lnil := fun _ _ _ _ => rfl
      lcons := fun _ _ _ _ _ _ _ _ _ _ _ ih1 ih2 => by rw [typedList, ih1, ih2]; rfl
      fnil := fun _ => rfl
      fcons := fun _ _ _ _ _ _ _ _ _ _ _ ih1 ih2 => by rw [typedFields, ih1, ih2]; rfl }

private theorem list_typed (it : Ty) (nodes : List Nat) (path : Path) :
    ∀ (i : Nat) (items : OutList) (r : List J × List Err), completeList it nodes path i items = some r → typedList it items = true :=
  fun i items r h => typed_all.2.1 it nodes path i items r.1 r.2 h

/-- **the executor model answers exactly on well-typed outcome trees**: `execute root` is defined iff every outcome is a
    value of the type of its position and errors are raised only directly at fields. -/
theorem execute_some_iff_typed (root : FldList) : (∃ ex, execute root = some ex) ↔ typedFields root = true := by
  unfold execute
  constructor
  · rintro ⟨ex, h⟩
    simp only [Option.map_eq_some_iff] at h
    obtain ⟨r, hr, _⟩ := h
    exact typed_all.2.2 [] root r.1 r.2 hr
  · intro h
    obtain ⟨r, hr⟩ := Option.isSome_iff_exists.mp (fields_total [] root h)
    exact ⟨(J.obj r.1, r.2), by simp [hr]⟩

/-- the same for a whole request (a root-collection failure is always an answer) -/
theorem execute_request_total (rc : Option (String × List (Option Nat))) (root : FldList) (h : typedFields root = true) :
    ∃ ex, executeRequest rc root = some ex := by
  cases rc with
  | some mn => exact ⟨_, rfl⟩
  | none => exact (execute_some_iff_typed root).mpr h

/-- `response_wellformed_pipeline` without the assumption that the executor model
    completes the tree: for ANY request text, any later outcomes satisfying `LaterOk` and any WELL-TYPED outcome tree the
    response exists, is well-formed up to the extracted key of syntax-error locations, strict JSON, and satisfies section 7.1
    as written when the text parses. -/
theorem response_wellformed_pipeline_total (fl : Parse.Flags) (render : Parse.TextErr → String) (text : Text) (l : Later)
    (h : LaterOk text l) (ht : typedFields l.root = true) :
    ∃ ex, executeRequest l.rootCollect l.root = some ex ∧
      ∃ j, (processQuery (stagesOf fl render text l ex)).response text = some j ∧ WellFormedK syntaxColKey text j ∧
        ((∃ d, Parse.parseTextE fl text = .ok d) → WellFormed text j) := by
  obtain ⟨ex, hx⟩ := execute_request_total l.rootCollect l.root ht
  exact ⟨ex, hx, response_wellformed_pipeline fl render text l ex hx h⟩

/-- non-vacuity: the tree of `executed_response_wellformed`'s example is well-typed; a list under a named type is not -/
example : typedFields
    (.cons "os" (.list (.nonNull (.named "Obj"))) [2]
      (.list (.cons (.obj (.cons "w" (.named "Int") [7] (.raised "boom" (some [("code", .num 1)]))
                          (.cons "v" (.nonNull (.named "Float")) [9] (.leaf (.obj [("$float", .str "1.5")])) .nil)))
             (.cons (.obj (.cons "w" (.named "Int") [7] .null (.cons "v" (.nonNull (.named "Float")) [9] .null .nil))) .nil))) .nil) = true
    ∧ typedFields (.cons "a" (.named "Int") [2] (.list .nil) .nil) = false := by
  decide +kernel

end PyGql.Props.C10
