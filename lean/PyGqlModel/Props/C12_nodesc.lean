/-
  C12 at TEXT level with `include_descriptions=False` (audit 3 F8): `printTextWF` demands `o.descriptions = true`; this
  file covers the other value of the option.

  With descriptions off the printer writes exactly what it writes, descriptions on, for the schema WITHOUT its
  descriptions (`printSchemaT_strip`, `Lemmas/SdlTextStrip.lean`: every function of the printer; default values do not look
  at descriptions).  So the text theorems transfer, with the predicates asked of `stripSchema s` (whose description clauses
  — NoH5, NoH12 — are vacuous: a schema with ANY descriptions is covered):
    * `print_schema_text_parses_nodesc` — the text is accepted by lexer and parser and parses to the tree of the printed
      document of `stripSchema s`;
    * `print_fixpoint_text_nodesc` — that document builds `stripSchema s` up to the order of definitions (the descriptions
      are lost, as they must be), and re-printing the rebuilt schema with the same options gives the same text.

  The property theorems of this file: `printSchemaT_descriptions_off`, `print_schema_text_parses_nodesc`,
  `print_fixpoint_text_nodesc`.  Steps: `stripSchema_idem`, `printSchemaT_off_strip`.
-/
import PyGqlModel.Lemmas.SdlTextStrip
import PyGqlModel.Props.C12_fixpoint
namespace PyGql.Props.C12
open PyGql PyGql.Sdl PyGql.SdlPrint PyGql.SdlText

/-- `to_string(include_descriptions=False)` prints what `to_string()` prints for the schema without its descriptions; no
    hypothesis on the schema -/
theorem printSchemaT_descriptions_off (o : SdlPrintT.OptsT) (hoff : o.descriptions = false) (s : SchemaD) :
    SdlPrintT.printSchemaT o s = SdlPrintT.printSchemaT { o with descriptions := true } (stripSchema s) :=
  (printSchemaT_strip o hoff s).symm

theorem print_schema_text_parses_nodesc (o : SdlPrintT.OptsT) (hoff : o.descriptions = false) (s : SchemaD)
    (hwf : printTextWF { o with descriptions := true } (stripSchema s) = true) :
    parseSdlTextT (SdlPrintT.printSchemaT o s) = docToAst (printedDoc (stripSchema s)) := by
  rw [printSchemaT_descriptions_off o hoff s]
  exact print_schema_text_parses _ _ hwf

private theorem stripArgs_idem (l : List ArgD) : (l.map stripArg).map stripArg = l.map stripArg := by
  rw [List.map_map]; exact List.map_congr_left (fun _ _ => rfl)

private theorem stripField_idem (f : FieldD) : stripField (stripField f) = stripField f := by
  simp only [stripField, stripArgs_idem]

private theorem stripType_idem (t : TypeD) : stripType (stripType t) = stripType t := by
  have h1 : (t.fields.map stripField).map stripField = t.fields.map stripField := by
    rw [List.map_map]; exact List.map_congr_left (fun f _ => stripField_idem f)
  have h2 : (t.values.map stripEnumVal).map stripEnumVal = t.values.map stripEnumVal := by
    rw [List.map_map]; exact List.map_congr_left (fun _ _ => rfl)
  simp only [stripType, h1, h2, stripArgs_idem]

private theorem stripDirective_idem (d : DirectiveD) : stripDirective (stripDirective d) = stripDirective d := by
  simp only [stripDirective, stripArgs_idem]

theorem stripSchema_idem (s : SchemaD) : stripSchema (stripSchema s) = stripSchema s := by
  have h1 : (s.types.map stripType).map stripType = s.types.map stripType := by
    rw [List.map_map]; exact List.map_congr_left (fun t _ => stripType_idem t)
  have h2 : (s.directives.map stripDirective).map stripDirective = s.directives.map stripDirective := by
    rw [List.map_map]; exact List.map_congr_left (fun d _ => stripDirective_idem d)
  simp only [stripSchema, h1, h2]

theorem printSchemaT_off_strip (o : SdlPrintT.OptsT) (hoff : o.descriptions = false) (s : SchemaD) :
    SdlPrintT.printSchemaT o (stripSchema s) = SdlPrintT.printSchemaT o s := by
  rw [printSchemaT_descriptions_off o hoff s, printSchemaT_descriptions_off o hoff (stripSchema s), stripSchema_idem]

/-- the round trip and the fixpoint clause for `include_descriptions=False`: the parsed document builds the
    description-free schema (up to the order of definitions), and printing the rebuilt schema with the same options gives
    the same text -/
theorem print_fixpoint_text_nodesc (o : SdlPrintT.OptsT) (hoff : o.descriptions = false) (s : SchemaD)
    (hwf : printTextWF { o with descriptions := true } (stripSchema s) = true) (hb : printBuildWF (stripSchema s) = true) :
    ∃ (d : Ast.Document) (doc : Doc) (s' : SchemaD), parseSdlTextT (SdlPrintT.printSchemaT o s) = some d ∧
      docToAst doc = some d ∧ build doc = .ok s' ∧ SameUpToOrder s' (stripSchema s) ∧
      SdlPrintT.printSchemaT o s' = SdlPrintT.printSchemaT o s := by
  have hu := namesUnique_of_wf _ _ hwf
  obtain ⟨d, doc, h1, h2, h3⟩ := text_roundtrip _ (stripSchema s) hwf (printBuildWF_printOrder _ hb)
  refine ⟨d, doc, printOrder (stripSchema s), ?_, h2, h3, ⟨types_perm _, directives_perm _, rfl, rfl, rfl, rfl⟩, ?_⟩
  · rw [printSchemaT_descriptions_off o hoff s]; exact h1
  · rw [printSchemaT_order_independent o (stripSchema s) hu, printSchemaT_off_strip o hoff s]

/-! ### non-vacuity: `descShop` carries descriptions in every layout (one of them is irrelevant here: all are dropped) -/

private theorem descShop_strip_textWF : printTextWF { descriptions := true } (stripSchema descShop) = true := by decide +kernel
example : printTextWF { descriptions := true } (stripSchema descShop) = true := descShop_strip_textWF
example : parseSdlTextT (SdlPrintT.printSchemaT { descriptions := false } descShop) = docToAst (printedDoc (stripSchema descShop)) :=
  print_schema_text_parses_nodesc { descriptions := false } rfl descShop descShop_strip_textWF
example : ∃ d doc s', parseSdlTextT (SdlPrintT.printSchemaT { descriptions := false } shop) = some d ∧ docToAst doc = some d ∧
    build doc = .ok s' ∧ SameUpToOrder s' (stripSchema shop) ∧
    SdlPrintT.printSchemaT { descriptions := false } s' = SdlPrintT.printSchemaT { descriptions := false } shop :=
  print_fixpoint_text_nodesc { descriptions := false } rfl shop (by decide +kernel) (by decide +kernel)

end PyGql.Props.C12
