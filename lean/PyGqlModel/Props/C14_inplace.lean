/-
  C14 — HISTORIES WITH IN-PLACE STEPS: per-schema ownership.

  `history_closed_framed` (Props/C14_history.lean) covers trees of clone / transform / extend derivations: every step allocates a
  new schema and writes nothing that existed. A `SchemaVisitor` applied to a RESULT without clone (`visitor.on_schema(result)`,
  `fix_type_references(result)`, a schema directive applied in place) WRITES objects that exist — those of the result it works on.
  This file proves that it writes nothing else, whatever else lives on the heap, schemas derived LATER included.

  `FootSet h s a`: `a` is a non-protected type object `s` registers, a member of one (field of an object / interface type, input
  field), an argument of such a field, a directive object or one of its arguments — what closedness / well-formedness of `s`
  read, minus the shared specified scalars.
  `Sep b h srcs ds ω` (the separation invariant): `srcs` (the sources, below `b`) and `ds` (the derived schemas) are closed and
  well-formed in `h`; `ω` maps every object of the footprint of `ds[k]` to `k` (so footprints are pairwise disjoint and above
  `b`); the specified scalars every schema shares lie below `b`.
  `ReachI cfg fuel srcs allowed`: histories of `transform_schema(x, *visitors)` / `clone()` / `extend_schema(x, doc)` (`extendO`: with
  the document's `implements` clauses and the code's dict order) steps applied
  to a source or to ANY derived schema, and IN-PLACE visitor steps (any modelled visitor: visibility, camel-case, drop/wrap
  directive visitor, heal) applied to a derived schema `ds[j]` with `allowed j`.
  `history_inplace_closed_framed` (FULL, induction over the history): from `Sep`, after any such history
  * `Sep` holds again: EVERY schema — sources, results produced before or after, the ones worked on in place — is closed and
    well-formed, footprints still separate;
  * no object below `b` (none of any source, no specified scalar) was written;
  * every derived schema `ds[k]` that no in-place step was allowed on is STILL THE SAME registry and every object of its
    footprint is unwritten — an in-place step on a result keeps every other schema closed, well-formed and unwritten.
  `inplace_step_separate` is the single step. `sep_init`: any list of closed well-formed sources starts a history.
-/
import PyGqlModel.Lemmas.HeapOwnP
import PyGqlModel.Lemmas.HeapProt
import PyGqlModel.Lemmas.HeapLocal
import PyGqlModel.Lemmas.HeapExtOwn
import PyGqlModel.Lemmas.HeapCopyView
import PyGqlModel.Props.C14_history
import PyGqlModel.Props.C14_extend_order


namespace PyGql.Props.C14
open PyGql.Heap PyGql.Heap.Own PyGql.Heap.Local PyGql.Heap.Prot

def FootSet (h : Heap) (s : Schema) (a : Addr) : Prop :=
  (∃ e, e ∈ s.types ∧ isProtected e.1 = false ∧
     (a = e.2 ∨ ∃ t, h.readType e.2 = some t ∧ ∃ c, c ∈ typeKids t ∧ (a = c ∨ ∃ f, h.readField c = some f ∧ a ∈ f.args))) ∨
  (∃ e, e ∈ s.dirs ∧ (a = e.2 ∨ ∃ d, h.readDir e.2 = some d ∧ a ∈ d.args))

private theorem wf_type {h : Heap} {s : Schema} (hw : wfB h s = true) {e : String × Addr} (he : e ∈ s.types) :
    ∃ t, h.readType e.2 = some t ∧ MembersReadable h t ∧ (isProtected e.1 = true → t.kind = Kind.scalar) := by
  have w := wfs_of_wfB hw
  obtain ⟨t, hrt, hm⟩ := typeShape_readable (w.types e he)
  exact ⟨t, hrt, hm, fun hprot => protLeaf_scalar (w.prot e he) hprot hrt⟩

private theorem kid_sort {h : Heap} {t : TypeO} (hm : MembersReadable h t) {c : Addr} (hc : c ∈ typeKids t) :
    (∃ f, h.readField c = some f ∧ ∀ g, g ∈ f.args → ∃ x, h.readArg g = some x) ∨ (∃ g, h.readArg c = some g) := by
  exact (((membersReadable_iff.mp hm).and (typeKids_byKind t)).imp (fun ⟨hm, e⟩ => Or.inl (hm c (e ▸ hc))) (fun ⟨hm, e⟩ => Or.inr (hm c (e ▸ hc)))
    fun ⟨_, e⟩ => nomatch e ▸ hc).elim

private theorem field_not_arg {h : Heap} {c : Addr} {f : FieldO} {g : ArgO} (hf : h.readField c = some f) (hg : h.readArg c = some g) : False := by
  have h1 := readField_read hf
  have h2 := readArg_read hg
  rw [h1] at h2
  cases h2

/-- a well-formed schema can be worked on in place: its footprint (with everything not yet allocated) is an ownership region -/
theorem inv_of_wfB {h : Heap} {s : Schema} (hw : wfB h s = true) : OwnP.Inv (fun a => FootSet h s a ∨ h.size ≤ a) h := by
  refine ⟨fun a ha => Or.inr ha, ?_⟩
  -- `o`, the object at `a`, is what the typed read of `a` in each case returns
  intro a o pa hr c hc
  rcases pa with pa | pa
  case inr => exact absurd (read_lt h a o hr) (Nat.not_lt.mpr pa)
  left
  rcases pa with ⟨e, he, hnp, pa⟩ | ⟨e, he, pa⟩
  · obtain ⟨t, hrt, hm, _⟩ := wf_type hw he
    rcases pa with rfl | ⟨t', ht', c0, hc0, pa⟩
    · cases Option.some.inj (hr.symm.trans (readType_read hrt))
      exact Or.inl ⟨e, he, hnp, Or.inr ⟨t, hrt, c, hc, Or.inl rfl⟩⟩
    · rw [hrt] at ht'
      cases ht'
      rcases pa with rfl | ⟨f, hf, hg⟩
      · rcases kid_sort hm hc0 with ⟨f, hf, _⟩ | ⟨g, hg⟩
        · cases Option.some.inj (hr.symm.trans (readField_read hf))
          exact Or.inl ⟨e, he, hnp, Or.inr ⟨t, hrt, a, hc0, Or.inr ⟨f, hf, hc⟩⟩⟩
        · cases Option.some.inj (hr.symm.trans (readArg_read hg))
          cases hc
      · rcases kid_sort hm hc0 with ⟨f', hf', hargs⟩ | ⟨g, hg'⟩
        · rw [hf] at hf'
          cases hf'
          obtain ⟨x, hx⟩ := hargs a hg
          cases Option.some.inj (hr.symm.trans (readArg_read hx))
          cases hc
        · exact absurd (field_not_arg hf hg') id
  · obtain ⟨d, hrd, hargs⟩ := dirShape_readable ((wfs_of_wfB hw).dirs e he)
    rcases pa with rfl | ⟨d', hd', hg⟩
    · cases Option.some.inj (hr.symm.trans (readDir_read hrd))
      exact Or.inr ⟨e, he, Or.inr ⟨d, hrd, hc⟩⟩
    · rw [hrd] at hd'
      cases hd'
      obtain ⟨x, hx⟩ := hargs a hg
      cases Option.some.inj (hr.symm.trans (readArg_read hx))
      cases hc

theorem regFresh_footSet (h : Heap) (s : Schema) : OwnP.RegFresh (fun a => FootSet h s a ∨ h.size ≤ a) s := by
  refine ⟨fun e he => ?_, fun e he => Or.inl (Or.inr ⟨e, he, Or.inl rfl⟩)⟩
  cases hp : isProtected e.1
  · exact Or.inr (Or.inl (Or.inl ⟨e, he, hp, Or.inl rfl⟩))
  · exact Or.inl rfl

/-- the footprint of a schema lies inside every kid-closed region that holds its registered objects -/
theorem footSet_sub {P : Addr → Prop} {h : Heap} {s : Schema} (i : OwnP.Inv P h) (r : OwnP.RegFresh P s) : ∀ a, FootSet h s a → P a := by
  intro a fa
  rcases fa with ⟨e, he, hnp, pa⟩ | ⟨e, he, pa⟩
  · have pe : P e.2 := by
      rcases r.1 e he with h1 | h1
      · rw [hnp] at h1; cases h1
      · exact h1
    rcases pa with rfl | ⟨t, ht, c, hc, pa⟩
    · exact pe
    · have pc : P c := i.2 e.2 (.type t) pe (readType_read ht) c (hc)
      rcases pa with rfl | ⟨f, hf, hg⟩
      · exact pc
      · exact i.2 c (.field f) pc (readField_read hf) a (hg)
  · have pe := r.2 e he
    rcases pa with rfl | ⟨d, hd, hg⟩
    · exact pe
    · exact i.2 e.2 (.dir d) pe (readDir_read hd) a (hg)

/-- everything closedness / well-formedness read is the footprint or a shared specified scalar -/
theorem foot_of_footSet {h : Heap} {s : Schema} (hw : wfB h s = true) (B : Addr → Prop)
    (hB : ∀ e, e ∈ s.types → isProtected e.1 = true → B e.2) : Foot (fun a => FootSet h s a ∨ B a) h s := by
  refine ⟨fun e he => ?_, fun e he => ?_⟩
  · cases hp : isProtected e.1 with
    | true =>
      refine ⟨Or.inr (hB e he hp), fun t ht c hc => ?_⟩
      obtain ⟨t', ht', _, hk⟩ := wf_type hw he
      rw [ht] at ht'
      cases ht'
      simp [typeKids, hk hp] at hc
    | false =>
      exact ⟨Or.inl (Or.inl ⟨e, he, hp, Or.inl rfl⟩), fun t ht c hc =>
        ⟨Or.inl (Or.inl ⟨e, he, hp, Or.inr ⟨t, ht, c, hc, Or.inl rfl⟩⟩),
         fun f hf g hg => Or.inl (Or.inl ⟨e, he, hp, Or.inr ⟨t, ht, c, hc, Or.inr ⟨f, hf, hg⟩⟩⟩)⟩⟩
  · exact ⟨Or.inl (Or.inr ⟨e, he, Or.inl rfl⟩), fun d hd c hc => Or.inl (Or.inr ⟨e, he, Or.inr ⟨d, hd, hc⟩⟩)⟩

theorem footSet_agree {Q : Addr → Prop} {h h' : Heap} {s : Schema} (ag : Agree Q h h') (hq : ∀ a, FootSet h s a → Q a) :
    ∀ a, FootSet h' s a → FootSet h s a := by
  intro a fa
  rcases fa with ⟨e, he, hnp, pa⟩ | ⟨e, he, pa⟩
  · have qe : Q e.2 := hq _ (Or.inl ⟨e, he, hnp, Or.inl rfl⟩)
    rcases pa with rfl | ⟨t, ht, c, hc, pa⟩
    · exact Or.inl ⟨e, he, hnp, Or.inl rfl⟩
    · rw [readType_agree ag qe] at ht
      have qc : Q c := hq _ (Or.inl ⟨e, he, hnp, Or.inr ⟨t, ht, c, hc, Or.inl rfl⟩⟩)
      rcases pa with rfl | ⟨f, hf, hg⟩
      · exact Or.inl ⟨e, he, hnp, Or.inr ⟨t, ht, a, hc, Or.inl rfl⟩⟩
      · rw [readField_agree ag qc] at hf
        exact Or.inl ⟨e, he, hnp, Or.inr ⟨t, ht, c, hc, Or.inr ⟨f, hf, hg⟩⟩⟩
  · have qe : Q e.2 := hq _ (Or.inr ⟨e, he, Or.inl rfl⟩)
    rcases pa with rfl | ⟨d, hd, hg⟩
    · exact Or.inr ⟨e, he, Or.inl rfl⟩
    · rw [readDir_agree ag qe] at hd
      exact Or.inr ⟨e, he, Or.inr ⟨d, hd, hg⟩⟩

theorem footSet_lt {h : Heap} {s : Schema} (hw : wfB h s = true) : ∀ a, FootSet h s a → a < h.size := by
  have f := foot_of_wfB hw
  intro a fa
  rcases fa with ⟨e, he, hnp, pa⟩ | ⟨e, he, pa⟩
  · rcases pa with rfl | ⟨t, ht, c, hc, pa⟩
    · exact (f.1 e he).1
    · rcases pa with rfl | ⟨fl, hf, hg⟩
      · exact ((f.1 e he).2 t ht a hc).1
      · exact ((f.1 e he).2 t ht c hc).2 fl hf a hg
  · rcases pa with rfl | ⟨d, hd, hg⟩
    · exact (f.2 e he).1
    · exact (f.2 e he).2 d hd a hg

/-- the objects allocated between heap sizes `lo` and `hi` now belong to derived schema `k` -/
def claim (lo hi k : Nat) (ω : Addr → Option Nat) : Addr → Option Nat := fun a => if lo ≤ a ∧ a < hi then some k else ω a

structure Sep (b : Nat) (h : Heap) (srcs ds : List Schema) (ω : Addr → Option Nat) : Prop where
  base : b ≤ h.size
  bound : ∀ a k, ω a = some k → b ≤ a ∧ a < h.size ∧ k < ds.length
  src : ∀ s, s ∈ srcs → closedB h s = true ∧ wfB h s = true ∧ Foot (fun a => a < b) h s
  der : ∀ k d, ds[k]? = some d → closedB h d = true ∧ wfB h d = true ∧ (∀ a, FootSet h d a → ω a = some k) ∧
    (∀ e, e ∈ d.types → isProtected e.1 = true → e.2 < b)

private theorem Sep.unowned {b : Nat} {h : Heap} {srcs ds : List Schema} {ω : Addr → Option Nat} (g : Sep b h srcs ds ω) {a : Addr} (ha : a < b)
    (k : Nat) : ¬ ω a = some k :=
  fun ho => absurd (g.bound a k ho).1 (Nat.not_le.mpr ha)

theorem sep_init (h : Heap) (srcs : List Schema) (g : AllGood h srcs) : Sep h.size h srcs [] (fun _ => none) where
  base := Nat.le_refl _
  bound := fun a k hk => by cases hk
  src := fun s hs => ⟨(g s hs).1, (g s hs).2, foot_of_wfB (g s hs).2⟩
  der := fun k d hk => by simp at hk

private theorem keep_src {b : Nat} {h h' : Heap} {s : Schema} {Q : Addr → Prop} (ag : Agree Q h h') (hq : ∀ a, a < b → Q a)
    (g : closedB h s = true ∧ wfB h s = true ∧ Foot (fun a => a < b) h s) :
    closedB h' s = true ∧ wfB h' s = true ∧ Foot (fun a => a < b) h' s := by
  have ag' : Agree (fun a => a < b) h h' := fun x hx => ag x (hq x hx)
  exact ⟨by rw [closedB_agree ag' g.2.2]; exact g.1, by rw [wfB_agree ag' g.2.2]; exact g.2.1, g.2.2.keep ag'⟩

private theorem claim_old {lo hi k : Nat} {ω : Addr → Option Nat} {a : Addr} (ha : a < lo) : claim lo hi k ω a = ω a := by
  simp only [claim]
  rw [if_neg (fun hx => absurd hx.1 (Nat.not_le.mpr ha))]

private theorem claim_new {lo hi k : Nat} {ω : Addr → Option Nat} {a : Addr} (h1 : lo ≤ a) (h2 : a < hi) : claim lo hi k ω a = some k := by
  simp only [claim, h1, h2, and_self, if_true]

/-- the new claim lies inside the heap and goes to an existing schema; older claims are as before -/
private theorem claim_bound {b lo hi j n n' : Nat} {ω : Addr → Option Nat} (hb : b ≤ lo) (hlh : lo ≤ hi) (hj : j < n') (hn : n ≤ n')
    (bd : ∀ a k, ω a = some k → b ≤ a ∧ a < lo ∧ k < n) : ∀ a k, claim lo hi j ω a = some k → b ≤ a ∧ a < hi ∧ k < n' := by
  intro a k hk
  simp only [claim] at hk
  split at hk
  · rename_i hx
    cases hk
    exact ⟨Nat.le_trans hb hx.1, hx.2, hj⟩
  · obtain ⟨x, y, z⟩ := bd a k hk
    exact ⟨x, Nat.lt_of_lt_of_le y hlh, Nat.lt_of_lt_of_le z hn⟩

/-- a derived schema `k` whose objects (all older than `lo`) the step leaves alone keeps everything `Sep.der` says about it -/
private theorem keep_der {b k lo hi j : Nat} {h h' : Heap} {d : Schema} {ω : Addr → Option Nat} {Q : Addr → Prop} (ag : Agree Q h h')
    (hq : ∀ a, a < b → Q a) (hqo : ∀ a, ω a = some k → Q a) (hlo : ∀ a, ω a = some k → a < lo)
    (g : closedB h d = true ∧ wfB h d = true ∧ (∀ a, FootSet h d a → ω a = some k) ∧ (∀ e, e ∈ d.types → isProtected e.1 = true → e.2 < b)) :
    closedB h' d = true ∧ wfB h' d = true ∧ (∀ a, FootSet h' d a → claim lo hi j ω a = some k) ∧
      (∀ e, e ∈ d.types → isProtected e.1 = true → e.2 < b) := by
  have F := foot_of_footSet g.2.1 (fun a => a < b) g.2.2.2
  have ag' : Agree (fun a => FootSet h d a ∨ a < b) h h' := by
    intro x hx
    rcases hx with hx | hx
    · exact ag x (hqo x (g.2.2.1 x hx))
    · exact ag x (hq x hx)
  refine ⟨by rw [closedB_agree ag' F]; exact g.1, by rw [wfB_agree ag' F]; exact g.2.1, fun a fa => ?_, g.2.2.2⟩
  have own := g.2.2.1 a (footSet_agree ag (fun a fa => hqo a (g.2.2.1 a fa)) a fa)
  rw [claim_old (hlo a own)]
  exact own

private theorem kids'_sub {o : Obj} {c : Addr} (hc : c ∈ OwnP.kids' o) : c ∈ kids o := by
  cases o with
  | type t => exact OwnP.typeKids_sub hc
  | field f => exact hc
  | arg g => exact hc
  | dir d => exact hc

private theorem invP_of_inv {n : Nat} {h : Heap} (i : Inv n h) : OwnP.Inv (fun a => n ≤ a) h :=
  ⟨fun _ ha => Nat.le_trans i.1 ha, fun a o pa hr c hc => i.2 a o pa hr c (kids'_sub hc)⟩

/-- a DERIVATION step (`transform_schema`, `clone`, `extend_schema`): the result joins the derived schemas and owns what the step
    allocated -/
theorem derive_step_separate {b : Nat} {h : Heap} {srcs ds : List Schema} {ω : Addr → Option Nat} (g : Sep b h srcs ds ω)
    {s : Schema} (hprot : ∀ e, e ∈ s.types → isProtected e.1 = true → e.2 < b) {h' : Heap} {r : Schema} (f : Frame h h')
    (hc : closedB h' r = true) (hw : wfB h' r = true) (i : Inv h.size h') (rf : RegFresh h.size r) (ps : ProtSub s.types r.types) :
    Sep b h' srcs (ds ++ [r]) (claim h.size h'.size ds.length ω) where
  base := Nat.le_trans g.base f.1
  bound := claim_bound g.base f.1 (by simp) (by simp) g.bound
  src := fun s0 hs => keep_src (Q := fun a => a < h.size) (fun x hx => f.2 x hx) (fun a ha => Nat.lt_of_lt_of_le ha g.base) (g.src s0 hs)
  der := by
    intro k d hk
    by_cases hlt : k < ds.length
    · rw [List.getElem?_append_left hlt] at hk
      exact keep_der (Q := fun a => a < h.size) (fun x hx => f.2 x hx) (fun a ha => Nat.lt_of_lt_of_le ha g.base)
        (fun a ha => (g.bound a k ha).2.1) (fun a ha => (g.bound a k ha).2.1) (g.der k d hk)
    · have hge : ds.length ≤ k := Nat.le_of_not_lt hlt
      rw [List.getElem?_append_right hge] at hk
      have hk0 : k - ds.length = 0 := by
        cases hx : k - ds.length with
        | zero => rfl
        | succ m => rw [hx] at hk; simp at hk
      rw [hk0] at hk
      simp only [List.getElem?_cons_zero, Option.some.injEq] at hk
      subst hk
      have hkk : k = ds.length := by omega
      subst hkk
      refine ⟨hc, hw, fun a fa => ?_, fun e he hp => hprot e (ps e he hp) hp⟩
      exact claim_new (footSet_sub (invP_of_inv i) ⟨fun e he => rf.1 e he, fun e he => rf.2 e he⟩ a fa) (footSet_lt hw a fa)

private theorem Derived.sep {b : Nat} {h : Heap} {srcs ds : List Schema} {ω : Addr → Option Nat} {s : Schema} {h1 : Heap} {s1 : Schema}
    (d : Derived h s h1 s1) (g : Sep b h srcs ds ω) (hprot : ∀ e, e ∈ s.types → isProtected e.1 = true → e.2 < b) :
    Sep b h1 srcs (ds ++ [s1]) (claim h.size h1.size ds.length ω) :=
  derive_step_separate g hprot d.frame d.closed d.wf d.pres.1 d.fresh d.prot

/-- AN IN-PLACE STEP on the derived schema `ds[j]`: separation is kept, and every object that is neither owned by `ds[j]` nor new
    is unwritten -/
theorem inplace_step_separate (cfg : Cfg) (hacc : cfg.accumulateBusted = true) {b : Nat} {h : Heap} {srcs ds : List Schema}
    {ω : Addr → Option Nat} (g : Sep b h srcs ds ω) (fuel : Nat) (j : Nat) (v : Visitor) (d : Schema) (h' : Heap) (d' : Schema)
    (hj : ds[j]? = some d) (e : onSchema cfg (2 + fuel) v d h = some (h', d')) :
    Sep b h' srcs (ds.set j d') (claim h.size h'.size j ω) ∧ Agree (fun a => ¬ (ω a = some j) ∧ a < h.size) h h' := by
  obtain ⟨hc, hw, hown, hprot⟩ := g.der j d hj
  have hjl : j < ds.length := (List.getElem?_eq_some_iff.1 hj).1
  obtain ⟨h2, d2, e2, hc', hw'⟩ := visitor_closed cfg hacc v d h hc hw fuel
  rw [e] at e2
  cases e2
  obtain ⟨p, rf'⟩ := OwnP.onSchema_ok _ cfg (2 + fuel) v d h h' d' (inv_of_wfB hw) (regFresh_footSet h d) e
  have ag : Agree (fun a => ¬ (ω a = some j) ∧ a < h.size) h h' := by
    intro x hx
    apply p.2.2 x
    intro hp
    rcases hp with hp | hp
    · exact hx.1 (hown x hp)
    · exact absurd hx.2 (Nat.not_lt.mpr hp)
  refine ⟨?_, ag⟩
  have hq : ∀ a, a < b → ¬ (ω a = some j) ∧ a < h.size := fun a ha => ⟨g.unowned ha j, Nat.lt_of_lt_of_le ha g.base⟩
  refine ⟨Nat.le_trans g.base p.2.1, claim_bound g.base p.2.1 (by simpa using hjl) (by simp) g.bound,
    fun s0 hs => keep_src ag hq (g.src s0 hs), ?_⟩
  · intro k d0 hk
    by_cases hkj : k = j
    · subst hkj
      rw [List.getElem?_set_self hjl] at hk
      cases hk
      refine ⟨hc', hw', fun a fa => ?_, fun x hx hp => hprot x (onSchema_prot cfg (2 + fuel) v d h h' _ e x hx hp) hp⟩
      rcases footSet_sub p.1 rf' a fa with hp | hp
      · have := hown a hp
        rw [claim_old (g.bound a k this).2.1]
        exact this
      · exact claim_new hp (footSet_lt hw' a fa)
    · rw [List.getElem?_set_ne (fun hx => hkj hx.symm)] at hk
      exact keep_der ag hq (fun a ha => ⟨fun hx => hkj (by rw [ha] at hx; cases hx; rfl), (g.bound a k ha).2.1⟩)
        (fun a ha => (g.bound a k ha).2.1) (g.der k d0 hk)

inductive ReachI (cfg : Cfg) (fuel : Nat) (srcs : List Schema) (allowed : Nat → Prop) :
    Heap → List Schema → (Addr → Option Nat) → Heap → List Schema → (Addr → Option Nat) → Prop
  | done (h : Heap) (ds : List Schema) (ω : Addr → Option Nat) : ReachI cfg fuel srcs allowed h ds ω h ds ω
  | transform {h : Heap} {ds : List Schema} {ω : Addr → Option Nat} {h' : Heap} {ds' : List Schema} {ω' : Addr → Option Nat}
      (i : Nat) (vs : List Visitor) (s : Schema) (r : Heap × Schema) :
      (srcs ++ ds)[i]? = some s → transform cfg (2 + fuel) vs s h = some r →
      ReachI cfg fuel srcs allowed r.1 (ds ++ [r.2]) (claim h.size r.1.size ds.length ω) h' ds' ω' →
      ReachI cfg fuel srcs allowed h ds ω h' ds' ω'
  | extend {h : Heap} {ds : List Schema} {ω : Addr → Option Nat} {h' : Heap} {ds' : List Schema} {ω' : Addr → Option Nat}
      (i : Nat) (ext : Ext) (s : Schema) :
      (srcs ++ ds)[i]? = some s → ExtOK s ext → (∀ e, e ∈ ext.newTypes → isProtected e.1 = false) →
      ReachI cfg fuel srcs allowed (extendO cfg ext s h).1 (ds ++ [(extendO cfg ext s h).2])
        (claim h.size (extendO cfg ext s h).1.size ds.length ω) h' ds' ω' →
      ReachI cfg fuel srcs allowed h ds ω h' ds' ω'
  | inplace {h : Heap} {ds : List Schema} {ω : Addr → Option Nat} {h' : Heap} {ds' : List Schema} {ω' : Addr → Option Nat}
      (j : Nat) (v : Visitor) (d : Schema) (r : Heap × Schema) :
      allowed j → ds[j]? = some d → onSchema cfg (2 + fuel) v d h = some r →
      ReachI cfg fuel srcs allowed r.1 (ds.set j r.2) (claim h.size r.1.size j ω) h' ds' ω' →
      ReachI cfg fuel srcs allowed h ds ω h' ds' ω'

/-- a parent of a derivation step — a source or a derived schema — is closed, well-formed and shares its specified scalars -/
private theorem parent_good {b : Nat} {h : Heap} {srcs ds : List Schema} {ω : Addr → Option Nat} (g : Sep b h srcs ds ω) {i : Nat} {s : Schema}
    (hi : (srcs ++ ds)[i]? = some s) :
    closedB h s = true ∧ wfB h s = true ∧ ∀ e, e ∈ s.types → isProtected e.1 = true → e.2 < b := by
  by_cases hlt : i < srcs.length
  · rw [List.getElem?_append_left hlt] at hi
    obtain ⟨c, w, f⟩ := g.src s (List.mem_of_getElem? hi)
    exact ⟨c, w, fun e he _ => (f.1 e he).1⟩
  · rw [List.getElem?_append_right (Nat.le_of_not_lt hlt)] at hi
    obtain ⟨c, w, _, p⟩ := g.der _ s hi
    exact ⟨c, w, p⟩

/-- what a history keeps of the derived schemas no in-place step was allowed on -/
def Untouched (allowed : Nat → Prop) (h : Heap) (ds : List Schema) (ω : Addr → Option Nat) (h' : Heap) (ds' : List Schema)
    (ω' : Addr → Option Nat) : Prop :=
  ∀ k d, ds[k]? = some d → ¬ allowed k → ds'[k]? = some d ∧ ∀ a, ω a = some k → ω' a = some k ∧ h'.read a = h.read a

/-- a derivation step (framing `h`, its result appended and owning what was allocated) followed by the rest of the history -/
private theorem after_derive {allowed : Nat → Prop} {b : Nat} {h h1 h' : Heap} {srcs ds ds' : List Schema} {ω ω' : Addr → Option Nat}
    {s1 : Schema} (g : Sep b h srcs ds ω) (f1 : Frame h h1)
    (rest : Sep b h' srcs ds' ω' ∧ (∀ x, x < b → h'.read x = h1.read x) ∧ (ds ++ [s1]).length ≤ ds'.length ∧
      Untouched allowed h1 (ds ++ [s1]) (claim h.size h1.size ds.length ω) h' ds' ω') :
    Sep b h' srcs ds' ω' ∧ (∀ x, x < b → h'.read x = h.read x) ∧ ds.length ≤ ds'.length ∧ Untouched allowed h ds ω h' ds' ω' := by
  obtain ⟨g2, a2, l2, u2⟩ := rest
  refine ⟨g2, fun x hx => by rw [a2 x hx, f1.2 x (Nat.lt_of_lt_of_le hx g.base)], by simp at l2; omega, ?_⟩
  intro k d hk hna
  have hkl : k < ds.length := (List.getElem?_eq_some_iff.1 hk).1
  obtain ⟨q1, q2⟩ := u2 k d (by rw [List.getElem?_append_left hkl]; exact hk) hna
  refine ⟨q1, fun a ha => ?_⟩
  -- an object owned by `ds[k]` is older than the step: its owner is unchanged and the step did not write it
  have hal := (g.bound a k ha).2.1
  obtain ⟨q3, q4⟩ := q2 a (by rw [claim_old hal]; exact ha)
  exact ⟨q3, by rw [q4, f1.2 a hal]⟩

/-- FULL (see the header) -/
theorem history_inplace_closed_framed (cfg : Cfg) (hd : cfg.deepClone = true) (hk : cfg.keepAllTypes = true) (hacc : cfg.accumulateBusted = true)
    (hx : cfg.extKeepAll = true) (hin : cfg.extInputFieldExtended = true) (fuel : Nat) (srcs : List Schema) (allowed : Nat → Prop) (b : Nat)
    (h : Heap) (ds : List Schema) (ω : Addr → Option Nat) (h' : Heap) (ds' : List Schema) (ω' : Addr → Option Nat)
    (r : ReachI cfg fuel srcs allowed h ds ω h' ds' ω') (g : Sep b h srcs ds ω) :
    Sep b h' srcs ds' ω' ∧ (∀ x, x < b → h'.read x = h.read x) ∧ ds.length ≤ ds'.length ∧ Untouched allowed h ds ω h' ds' ω' := by
  induction r with
  | done h ds ω => exact ⟨g, fun _ _ => rfl, Nat.le_refl _, fun k d hk _ => ⟨hk, fun a ha => ⟨ha, rfl⟩⟩⟩
  | @transform h ds ω h' ds' ω' i vs s r hi e _ ih =>
    obtain ⟨hc, hw, hp⟩ := parent_good g hi
    have d := transform_derived hc hw hd hk hacc e
    exact after_derive g d.frame (ih (d.sep g hp))
  | @extend h ds ω h' ds' ω' i ext s hi hok hnp _ ih =>
    obtain ⟨hc, hw, hp⟩ := parent_good g hi
    have d := extendO_derived hc hw hx hin hok hnp
    exact after_derive g d.frame (ih (d.sep g hp))
  | @inplace h ds ω h' ds' ω' j v d r haj hj e _ ih =>
    obtain ⟨h1, d1⟩ := r
    obtain ⟨g1, ag⟩ := inplace_step_separate cfg hacc g fuel j v d h1 d1 hj e
    obtain ⟨g2, a2, l2, u2⟩ := ih g1
    refine ⟨g2, fun x hx => ?_, by simp at l2; omega, ?_⟩
    · rw [a2 x hx]
      exact ag x ⟨g.unowned hx j, Nat.lt_of_lt_of_le hx g.base⟩
    · intro k d0 hk hna
      have hkj : k ≠ j := fun hx => hna (hx ▸ haj)
      obtain ⟨q1, q2⟩ := u2 k d0 (by rw [List.getElem?_set_ne (fun hx => hkj hx.symm)]; exact hk) hna
      refine ⟨q1, fun a ha => ?_⟩
      have hal := (g.bound a k ha).2.1
      obtain ⟨q3, q4⟩ := q2 a (by rw [claim_old hal]; exact ha)
      refine ⟨q3, ?_⟩
      rw [q4]
      exact ag a ⟨fun ho => hkj (by rw [ha] at ho; cases ho; rfl), hal⟩

/-- from any list of closed well-formed sources: every schema of every history with in-place steps on results stays closed and
    well-formed, no source object is written, and the results not worked on in place are unwritten -/
theorem history_inplace_from_sources (cfg : Cfg) (hd : cfg.deepClone = true) (hk : cfg.keepAllTypes = true) (hacc : cfg.accumulateBusted = true)
    (hx : cfg.extKeepAll = true) (hin : cfg.extInputFieldExtended = true) (fuel : Nat) (srcs : List Schema) (allowed : Nat → Prop)
    (h : Heap) (h' : Heap) (ds' : List Schema) (ω' : Addr → Option Nat)
    (r : ReachI cfg fuel srcs allowed h [] (fun _ => none) h' ds' ω') (g : AllGood h srcs) :
    Frame h h' ∧ AllGood h' (srcs ++ ds') := by
  obtain ⟨g2, a2, _, _⟩ := history_inplace_closed_framed cfg hd hk hacc hx hin fuel srcs allowed h.size h [] _ h' ds' ω' r (sep_init h srcs g)
  refine ⟨⟨g2.base, a2⟩, fun s hs => ?_⟩
  rcases List.mem_append.mp hs with hs | hs
  · exact ⟨(g2.src s hs).1, (g2.src s hs).2.1⟩
  · obtain ⟨k, hk'⟩ := List.getElem?_of_mem hs
    exact ⟨(g2.der k s hk').1, (g2.der k s hk').2.1⟩

/-- non-vacuity: on the witness, two clones of the source, then `Dog` hidden IN PLACE in the first clone (the second one, created
    later, is among the schemas that stay closed, well-formed and unwritten) -/
example : AllGood h0 [s0] ∧ ∃ h' ds' ω', ReachI Cfg.fixed 6 [s0] (fun k => k = 0) h0 [] (fun _ => none) h' ds' ω' ∧ ds'.length = 2 := by
  have g0 : AllGood h0 [s0] := fun s hs => by obtain rfl := List.mem_singleton.1 hs; exact ⟨s0_closed, s0_wf⟩
  refine ⟨g0, ?_⟩
  obtain ⟨h1, s1, e1, c1, w1⟩ := transform_closed_total Cfg.fixed rfl rfl rfl [] s0 h0 s0_closed s0_wf 6
  have f1 := clone_frames_source Cfg.fixed rfl (2 + 6) [] s0 h0 h1 s1 s0_closed e1
  have c0 := closedB_frame f1 s0 s0_closed
  obtain ⟨h2, s2, e2, c2, w2⟩ := transform_closed_total Cfg.fixed rfl rfl rfl [] s0 h1 c0 (wfB_frame f1 s0 s0_wf) 6
  have f2 := clone_frames_source Cfg.fixed rfl (2 + 6) [] s0 h1 h2 s2 c0 e2
  obtain ⟨h3, s3, e3, _, _⟩ := visitor_closed Cfg.fixed rfl (.vis hideDog) s1 h2 (closedB_frame f2 s1 c1) (wfB_frame f2 s1 w1) 6
  exact ⟨h3, _, _, ReachI.transform 0 [] s0 (h1, s1) rfl e1 (ReachI.transform 0 [] s0 (h2, s2) rfl e2
    (ReachI.inplace 0 (.vis hideDog) s1 (h3, s3) rfl rfl e3 (ReachI.done _ _ _))), rfl⟩

theorem current_history_inplace_closed_framed
    (fuel : Nat) (srcs : List Schema) (allowed : Nat → Prop) (h : Heap) (h' : Heap) (ds' : List Schema) (ω' : Addr → Option Nat)
    (r : ReachI PyGql.Generated.HeapCfg.currentCfg fuel srcs allowed h [] (fun _ => none) h' ds' ω') (g : AllGood h srcs) :
    Frame h h' ∧ AllGood h' (srcs ++ ds') :=
  history_inplace_from_sources _ cur_deepClone cur_keepAllTypes cur_accumulateBusted cur_extKeepAll cur_extInputFieldExtended fuel srcs allowed h h' ds' ω' r g

end PyGql.Props.C14
