/-
  C19 — a directive that DECIDES next to one that cannot be evaluated (outside probe C19-1 of the unchanged tree).

      query A { a }
      query B($b: Boolean!) { a  q @skip(if: true) @include(if: $b) { q { q { q { a } } } } }

  B has depth 0 for EVERY value of `$b`, but when the rule has no value for `$b` (no variables given, operation-name filter,
  the request executes A) the hook `_skip_unless_unknown` of C19-Q1vars2 (`skipSelectionT`) wraps both directive evaluations in
  ONE `try`: the unavailable `$b` hides the decisive `@skip(if: true)`, the selection is kept and B is reported with depth 4 — also through
  `graphql_blocking`, which then refuses the flat operation A.

  `decisive_directive_kept_today` (the name is from before fix C19-H4 went into /repo, 0a31e37): the rule with the frontier loop
  and that hook (`ruleF`) reports B, while its specified depth is 0 under both valuations (`hunter_depth_zero`): the "upper bound
  over the unknown condition" that the hook documents is 0, not 4. Fix C19-H4 evaluates the two directives on their own
  (`skipSelectionT3`, DepthSeparate.lean): nothing is reported, and the frontier loop with that hook measures `depthK3`, the
  specified depth of the document in which each unevaluable directive is dropped ON ITS OWN (`flags_iff_final_separate`).

  `max_depth.py` of /repo is the MERGED loop with this hook: `ruleM3`. Of `ruleM3` only the instance in
  `decisive_directive_skipped_repaired` is stated; its closed form follows as the one of `ruleF3` below, with `depthFixedMG_eq_G`
  (Props/C19_merged.lean) in place of `depthFixedFG_eq_G`, from `measuredG_map` and `ruleLoopB_of_some` (Props/C19.lean).
-/
import PyGqlModel.Lemmas.DepthSeparate
import PyGqlModel.Props.C19_frontier

namespace PyGql.Props.C19.Sep
open PyGql.Depth PyGql.DepthSpec
open PyGql.Depth.Lemmas hiding eraseD eraseSel eraseL eraseFrag eraseFrags eraseOp eraseDoc eraseSel_mapDirs erase_mapDirs
  eraseL_mapDirs eraseL_cons eraseL_eq_map dirsBound_erase eraseD_id skipT_eq nestingLevels_sim potL_erase
  pot_erase boundL_erase boundSel_erase eraseL_id eraseSel_id weights_erase acyclic_erase fuel_erase
open PyGql.Depth.Lemmas.Sep
open PyGql.Props.C19 (Valid depthK expected ruleLoopB_of_some flags_of_expected valid_map measuredG_map depthFixedFG_eq_G
  nestingLevelsF_map nestingLevelsFS fld)

def opA : Op := ⟨some "A", [fld "a"]⟩
def opB : Op := ⟨some "B", [fld "a",
  .field none "q" ⟨some (.lit true), some (.var "b")⟩ [fld "q" [fld "q" [fld "q" [fld "a"]]]]]⟩
def hunterDoc : Doc := ⟨[opA, opB], []⟩
def hunterDefs : List (List VarDefR) := [[], [⟨"b", .boolean, true, none⟩]]

/-- the specified depth of B is 0 whatever `$b` is -/
theorem hunter_depth_zero : ∀ b : Bool, depth hunterDoc [("b", b)] opB = 0 := by decide +kernel

/-- the rule with the frontier loop and the hook `skipSelectionT` (`ruleF`) reports B (depth 4) at limit 1 when no variables
    are given, under the operation-name filter "B", and for a request whose variables are A's (none) -/
theorem decisive_directive_kept_today :
    ruleF 1 none hunterDoc hunterDefs [] = .ok [(1, some 4)] ∧
    ruleF 1 (some "B") hunterDoc hunterDefs [] = .ok [(1, some 4)] := by decide +kernel

/-- with the hook of C19-H4 nothing is reported, in the three situations -/
theorem decisive_directive_skipped_repaired :
    ruleF3 1 none hunterDoc hunterDefs [] = .ok [] ∧ ruleF3 1 (some "B") hunterDoc hunterDefs [] = .ok [] ∧
    ruleM3 1 none hunterDoc hunterDefs [] = .ok [] ∧
    -- `@include(if: false) @skip(if: $s)`, the other order
    ruleF3 0 none ⟨[⟨none, [.field none "q" ⟨some (.var "s"), some (.lit false)⟩ [fld "q" [fld "a"]]]⟩], []⟩ [[]] [] = .ok [] := by
  decide +kernel

/-- when both conditions can be evaluated the two hooks agree (and are the strict `_skip_selection`) -/
theorem skipT3_eq_T_of_bound (v : Vars) (d : Dirs) (h : dirsBound v d = true) :
    skipSelectionT3 d v = skipSelectionT d v := by
  rw [skipT_eq, PyGql.Depth.Lemmas.skipT_eq, eraseD_id v d h]
  simp [PyGql.Depth.Lemmas.eraseD, h]

/-- whatever `skipSelectionT` skips the hook of C19-H4 skips: the fix only removes KEPT selections -/
theorem skipT3_skips_more (v : Vars) (d : Dirs) (h : skipSelectionT d v = .ok true) : skipSelectionT3 d v = .ok true := by
  cases hb : dirsBound v d with
  | true => rw [skipT3_eq_T_of_bound v d hb]; exact h
  | false =>
    obtain ⟨e, he⟩ := PyGql.Depth.Lemmas.skipSelection_err hb
    simp [skipSelectionT, he] at h

/-- specified depth with each unevaluable directive dropped on its own -/
def depthK3 (doc : Doc) (v : Vars) (op : Op) : Nat := depth (eraseDoc v doc) v (eraseOp v op)

def depthRK3 (doc : Doc) (defs : List (List VarDefR)) (raw : RawVars) (i : Nat) (op : Op) : Nat :=
  depthK3 doc (effectiveVarsR (defs.getD i []) raw) op

theorem valid_erase3 (doc : Doc) (v : Vars) (hu : UniqueNames doc.frags) (ha : Acyclic doc.frags) :
    Valid (eraseDoc v doc) v :=
  valid_map (eraseL_mapDirs v) (dirsBound_erase v) doc hu ha

theorem nestingLevelsF_sim3 (v : Vars) (frags : List Frag) : ∀ (b lv : Nat) (fr : List (List Sel)),
    nestingLevelsFS (eraseFrags v frags) v b lv (fr.map (eraseL v)) = nestingLevelsF skipSelectionT3 frags v b lv fr :=
  nestingLevelsF_map (eraseL_mapDirs v) (skipT_eq v) frags

/-- unique, acyclic fragments, ANY request variables, any budget ≥ the fuel of the document: the
    frontier loop with the hook of C19-H4 measures `depthK3` -/
theorem measuredF3_eq_depthK3 (doc : Doc) (hu : UniqueNames doc.frags) (ha : Acyclic doc.frags) (v : Vars)
    (op : Op) (hop : op ∈ doc.ops) (fuel : Nat) (hfuel : doc.fuel ≤ fuel) :
    depthFixedFG skipSelectionT3 fuel op doc.frags v = .ok (depthK3 doc v op) := by
  rw [depthFixedFG_eq_G (eraseL_mapDirs v) (skipT_eq v) (dirsBound_erase v) doc hu ha op hop fuel hfuel]
  exact measuredG_map (eraseL_mapDirs v) (dirsBound_erase v) (skipT_eq v) doc hu ha op hop fuel hfuel

/-- `flags_iff_final` for the rule with the frontier loop and the hook of C19-H4 (`ruleF3`): reported ⇔ selected
    and `depthRK3 > limit`, with that depth; never "unbounded" -/
theorem flags_iff_final_separate (doc : Doc) (defs : List (List VarDefR)) (raw : RawVars)
    (hu : UniqueNames doc.frags) (ha : Acyclic doc.frags) (limit : Nat) (filter : Option String) :
    ∃ errs, ruleF3 limit filter doc defs raw = .ok errs ∧
      ∀ (i : Nat) (op : Op), doc.ops[i]? = some op →
        ((∃ d, (i, d) ∈ errs) ↔ (opSelected filter op = true ∧ depthRK3 doc defs raw i op > limit)) ∧
        (∀ d, (i, d) ∈ errs → d = some (depthRK3 doc defs raw i op)) := by
  have hB : ruleF3 limit filter doc defs raw =
      .ok ((expected (depthRK3 doc defs raw) limit filter 0 doc.ops).map fun p => (p.1, some p.2)) := by
    unfold ruleF3
    apply ruleLoopB_of_some _ (depthRK3 doc defs raw) limit filter doc.ops 0
    intro j op hop
    simp only [Nat.zero_add]
    have := measuredF3_eq_depthK3 doc hu ha (effectiveVarsR (defs.getD j []) raw) op (List.mem_of_getElem? hop)
      doc.budget (fuel_le_budget doc)
    simp only [depthFixedFB3, this]
    rfl
  exact ⟨_, hB, flags_of_expected _ limit filter doc.ops⟩

/-- on the reported document the repaired measure is 0 for B without any variable -/
example : depthK3 hunterDoc [] opB = 0 := by decide +kernel

/-- … while the measure of `ruleB` (both directives dropped together) is 4 -/
example : depthK hunterDoc [] opB = 4 := by decide +kernel

end PyGql.Props.C19.Sep
