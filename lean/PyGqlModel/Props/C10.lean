/-
  C10 — locations (`index_to_loc`), presence of `data`,
  the staged `process_graphql_query`.

  Stated about `PyGqlModel/Response.lean` (hand model, tied by the correspondence) and
  `Generated/ResponseKeys.lean` (re-extracted from the source on every run).
-/
import PyGqlModel.Response
import PyGqlModel.Spec.ResponseSpec
import PyGqlModel.Lemmas.LocBounds
import PyGqlModel.Lemmas.LexBlockString
import PyGqlModel.Lemmas.ResponseCapture

namespace PyGql.Props.C10
open PyGql PyGql.Response PyGql.Spec.Response PyGql.Generated.ResponseKeys PyGql.Lemmas.ResponseCapture

/-- `index_to_loc` raises (`IndexError`) exactly for positions beyond the end of the text:
    `to_dict()` of a located error is total for every position ≤ len. -/
theorem index_to_loc_total_iff (text : Text) (pos : Nat) :
    (indexToLoc text pos).isSome ↔ pos ≤ text.length := by
  unfold indexToLoc
  by_cases h : (text.isEmpty && pos == 0) = true
  · simp only [h, if_true, Option.isSome_some, true_iff]
    simp_all
  · by_cases h2 : pos > text.length
    · simp [h, h2]
    · simp [h, h2]; omega

/-- For every text and every position `≤ len`, `index_to_loc` returns a 1-based
    `(line, column)` INSIDE the document: `1 ≤ line ≤ #lines` and `1 ≤ column ≤ length of that line + 1`,
    lines being delimited by LF, CR or CRLF. -/
theorem loc_bounds (text : Text) (pos : Nat) (h : pos ≤ text.length) :
    ∃ line col, indexToLoc text pos = some (line, col) ∧ InsideDocument text line col := by
  unfold indexToLoc
  by_cases h0 : (text.isEmpty && pos == 0) = true
  · refine ⟨1, 1, by simp [h0], ?_⟩
    have : text = [] := by simp at h0; exact h0.1
    subst this
    simp [InsideDocument, splitLines]
  · obtain ⟨d, h1, h2, h3, h4⟩ := Lemmas.LocBounds.loop_bounds text pos 0 0
    refine ⟨d + 1, (indexToLocLoop text pos 0 0).2, ?_, by omega, by omega, h3, by simpa using h4⟩
    simp only [h0, Nat.not_lt.mpr h, if_false]
    exact congrArg some (Prod.ext (by omega) rfl)

/-- non-vacuity: a three-line text with CRLF, a lone CR and a non-ASCII character; the position of
    `x` (offset 7) is line 3, column 2 -/
example : indexToLoc [97, 13, 10, 233, 13, 98, 120] 6 = some (3, 2) ∧
    splitLines [97, 13, 10, 233, 13, 98, 120] = [[97], [233], [98, 120]] := by decide +kernel

/-! ### only LF, CR and CRLF end a line

No other character does for `index_to_loc` (the seeded change /verif/seeded/C10-12 made U+2028 / U+2029 / U+0085 do so). -/

private theorem loop_no_terminator (text : Text) (p lines cols : Nat) (hp : p ≤ text.length)
    (hc : ∀ c ∈ text, c ≠ 10 ∧ c ≠ 13) : indexToLocLoop text p lines cols = (lines + 1, cols + p + 1) := by
  induction text generalizing p cols with
  | nil =>
    obtain rfl : p = 0 := Nat.le_zero.1 hp
    rfl
  | cons c rest ih =>
    cases p with
    | zero => rfl
    | succ p =>
      obtain ⟨h1, h2⟩ := hc c (List.mem_cons_self ..)
      rw [indexToLocLoop, if_neg h1, if_neg h2,
        ih p (cols + 1) (Nat.le_of_succ_le_succ hp) fun x hx => hc x (List.mem_cons_of_mem _ hx)]
      congr 1
      omega

private theorem splitLines_no_terminator (text : Text) (hc : ∀ c ∈ text, c ≠ 10 ∧ c ≠ 13) : splitLines text = [text] := by
  rw [← BlockString.splitLines_eq]
  exact BlockString.splitLines_joinLF text [] fun x hx => by cases List.mem_singleton.1 hx; exact hc

/-- A text without LF and CR is ONE line, whatever else it contains — U+2028, U+2029, U+0085, VT, FF,
    FS, GS, RS (the characters `str.splitlines` also breaks on) have width 1 and end no line: every position `p ≤ len` is reported
    as line 1, column `p + 1`. -/
theorem only_lf_cr_end_lines (text : Text) (h : ∀ c ∈ text, c ≠ 10 ∧ c ≠ 13) (p : Nat) (hp : p ≤ text.length) :
    indexToLoc text p = some (1, p + 1) ∧ splitLines text = [text] := by
  refine ⟨?_, splitLines_no_terminator text h⟩
  unfold indexToLoc
  by_cases h0 : (text.isEmpty && p == 0) = true
  · have : p = 0 := by simp at h0; exact h0.2
    subst this
    simp only [h0, if_true]
  · have : ¬ p > text.length := by omega
    simp only [h0, this, if_false, Bool.false_eq_true]
    rw [loop_no_terminator text p 0 0 hp h]
    simp

/-- non-vacuity: `{ a(s: "x<U+2028>y<U+0085><VT>") zz }` — the error at `zz` (offset 16) is on line 1, column 17 -/
example : indexToLoc [123, 32, 97, 40, 115, 58, 32, 34, 120, 0x2028, 121, 0x85, 0x0B, 34, 41, 32, 122, 122, 32, 125] 16 = some (1, 17) := by decide +kernel


/-- The response of `process_graphql_query` has no `data` entry exactly when
    the document failed to parse or failed validation. (Operation-selection and variable-coercion
    failures answer `"data": null`: that is what the `_abort(data=None, …)` calls of the source do —
    re-extracted on every run.) -/
theorem data_omitted_iff (s : Stages) :
    (processQuery s).data = none ↔ s.documentRejected = true := by
  unfold Stages.documentRejected
  rcases processQuery_cases s with ⟨_, _, hp, he⟩ | ⟨hp, hv, he⟩ | ⟨hp, hv, _, _, he⟩ | ⟨hp, hv, _, _, he⟩ | ⟨hp, hv, _, _, he⟩ <;>
    rw [he, hp]
  · simp [abort, abortSyntaxPassesData]
  · simp [abort, abortValidationPassesData, hv]
  · simp [abort, abortExecutionPassesData, hv]
  · simp [abort, abortCoercionPassesData, hv]
  · simp [hv]

/-- the same on the response dictionary: the key `data` is absent iff the document was rejected -/
theorem response_data_key_iff (text : Text) (s : Stages) (r : J)
    (h : (processQuery s).response text = some r) :
    r.get? "data" = none ↔ s.documentRejected = true := by
  rw [← data_omitted_iff]
  unfold Result.response at h
  cases he : List.mapM (Err.toDict text) (processQuery s).errors with
  | none => simp [he] at h
  | some errs =>
    simp only [he, processQuery_extensions, Option.some.injEq] at h
    subst h
    cases (processQuery s).data <;> by_cases hE : errs.isEmpty = true <;> simp [hE, J.get?]

/-- non-vacuity: each of the five stage outcomes is reachable and only the first two omit `data` -/
example :
    (processQuery { parse := some ("m", 0), validate := [], getOp := none, coerce := [], exec := (.null, []) }).data = none ∧
    (processQuery { parse := none, validate := [.located "v" [some 2] none], getOp := none, coerce := [], exec := (.null, []) }).data = none ∧
    (processQuery { parse := none, validate := [], getOp := some "no operation", coerce := [], exec := (.null, []) }).data = some .null ∧
    (processQuery { parse := none, validate := [], getOp := none, coerce := [.located "c" [some 7] none], exec := (.null, []) }).data = some .null ∧
    (processQuery { parse := none, validate := [], getOp := none, coerce := [], exec := (.obj [("a", .num 1)], []) }).data = some (.obj [("a", .num 1)]) := by
  refine ⟨rfl, rfl, rfl, rfl, rfl⟩

/-- machine-checked witness of finding X1: today's column key of syntax-error locations is not
    `"column"` (`Generated.ResponseKeys.syntaxColKey` is re-extracted from `exc.py` on every run) -/
theorem syntax_column_key_is_misspelt : syntaxColKey ≠ "column" := by decide +kernel

/-- … while every other location uses the spec's keys -/
theorem located_keys_are_spec : locatedLineKey = "line" ∧ locatedColKey = "column" ∧ syntaxLineKey = "line" := by decide +kernel

end PyGql.Props.C10
