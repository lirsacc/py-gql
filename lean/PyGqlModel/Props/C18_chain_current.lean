/-
  C18 — the chain statements for the variant the code HAS (`chained vs true`: fix C18-W8, flag `chainPersonalSkip = true`
  re-extracted on every run: `table_chain_personal_skip`).

  `chained_order`, `chained_observer`, `chained_skip`, `chain_discards_delete`, `chain_discards_replace`,
  `chain_not_faithful` (Props/C18.lean) are about `chained vs` = `chained vs false`, the loop BEFORE the fix (a member's
  `SkipNode` aborts it). Here the same statements for `chained vs true`: a chain of observers is an observer, so
  `identity_noop`, `balanced`, `once`, `coverage_partial`, `wellShaped_visit_ok`, … apply to chains of the current code, and
  finding W6 holds for the current loop as well (`ChainedVisitor.enter` still returns the ORIGINAL node).
-/
import PyGqlModel.Props.C18_table

namespace PyGql.Props.C18
open PyGql.Visit PyGql.Generated.VisitTable

variable {σ : Type}

/-- the variant the correspondence runs is the one these theorems are about -/
theorem current_chain_is_personal : chainPersonalSkip = true := table_chain_personal_skip

/-- Members that change nothing, CURRENT loop: `enter` runs the members' `enter` in order, `leave`
    runs the members' `leave` in reverse order, on the same node -/
theorem chained_order_current (vs : List (Visitor σ)) (hobs : ∀ v ∈ vs, Observer v) (n : Node) (s : σ) :
    (chained vs true).enter n s = (.keep n, vs.foldl (fun s v => (v.enter n s).2) s) ∧
    (chained vs true).leave n s = vs.reverse.foldl (fun s v => v.leave n s) s := by
  refine ⟨chained_order_personal vs hobs n s, ?_⟩
  simp [chained, chainLeave, List.foldl_reverse]

theorem chained_leave_reverse (vs : List (Visitor σ)) (personal : Bool) (n : Node) (s : σ) :
    (chained vs personal).leave n s = vs.reverse.foldl (fun s v => v.leave n s) s := by
  simp [chained, chainLeave, List.foldl_reverse]

theorem chained_observer_current (vs : List (Visitor σ)) (hobs : ∀ v ∈ vs, Observer v) : Observer (chained vs true) := by
  intro n s; rw [(chained_order_current vs hobs n s).1]

/-- W6, current loop — a member's deletion is discarded: the chain returns the ORIGINAL node (later members are not
    entered for it, every member's `leave` is still called by the wrapper) -/
theorem chain_discards_delete_current (v : Visitor σ) (vs : List (Visitor σ)) (n : Node) (s s1 : σ)
    (h : v.enter n s = (.delete, s1)) : (chained (v :: vs) true).enter n s = (.keep n, s1) := by
  cases vs <;> simp [chained, chainEnterP, h]

/-- W6, current loop — a member's replacement is handed to the later members but NOT substituted in the tree -/
theorem chain_discards_replace_current (v w : Visitor σ) (hw : Observer w) (n r : Node) (s s1 : σ)
    (h : v.enter n s = (.replace r, s1)) : (chained [v, w] true).enter n s = (.keep n, (w.enter r s1).2) := by
  have he := hw r s1
  rcases hes : w.enter r s1 with ⟨act, s2⟩
  rw [hes] at he
  simp only at he
  subst he
  simp [chained, chainEnterP, h, hes]

/-- the expectation "what a member decides for a node is what the chain does with it", for the current loop -/
def ChainFaithfulCurrent : Prop :=
  ∀ (v : Visitor Unit) (n : Node), ((chained [v] true).enter n ()).1 = (v.enter n ()).1

/-- refutation (known finding W6) for the loop the code has -/
theorem chain_not_faithful_current : ¬ ChainFaithfulCurrent := by
  intro h
  have := h ⟨fun _ s => (.delete, s), fun _ s => s⟩ default
  simp [chained, chainEnterP] at this

/-- `identity_noop` for a chain of observers of the current loop -/
example (vs : List (Visitor σ)) (hobs : ∀ v ∈ vs, Observer v) (fuel : Nat) (t : Node) (s : σ) (o : Out σ)
    (h : visit table (chained vs true) fuel t s = .ok o) : o.ret = some t ∧ o.orig = t :=
  identity_noop table (chained vs true) (chained_observer_current vs hobs) fuel t s o h

end PyGql.Props.C18
