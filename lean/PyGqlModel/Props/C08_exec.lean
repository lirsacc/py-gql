/-
  C08 — the generic `Executor` on a deferred runtime, for EVERY schedule,
  against the `BlockingExecutor` (through the data specification `Spec/AsyncExecSpec.lean`).
-/
import PyGqlModel.Lemmas.ExecErr
import PyGqlModel.Lemmas.ExecLive
import PyGqlModel.Lemmas.ExecRun


namespace PyGql.Props.C08
open PyGql.AsyncExec

private theorem runBlocking_outcome (op : Op) :
    match denFlds op.fields with
    | some kvs => (runBlocking op).outcome = .ok (.obj kvs) (errsFlds [] op.fields)
    | none => ∃ e, (runBlocking op).outcome = .failed e := by
  have h := blockFields_den op.fields [] {}
  unfold runBlocking
  cases hr : blockFields [] op.fields {} with
  | mk r s =>
    rw [hr] at h
    cases r with
    | exc e => simp [resOpt] at h; rw [← h]; exact ⟨_, rfl⟩
    | ok kvs =>
      simp [resOpt] at h; rw [← h]
      have := blockFields_errs op.fields [] {} kvs s hr
      simp only [this]; simp

/-- Failing and unfinished runs included. For every operation,
    every assignment of resolvers to {sync, deferred, nested-deferred, already-finished} and EVERY schedule
    (any list of indices into the queue of outstanding tasks — complete or not): whenever the generic
    executor has produced the overall result, the blocking executor produces a result with the SAME data;
    whenever it has failed, the blocking executor fails too; and it never produces a malformed result.
    (The error lists are the subject of `async_eq_blocking`.) -/
theorem async_outcome_agrees (op : Op) (schedule : List Nat) :
    match (runAsync op schedule).outcome with
    | .ok v _ => ∃ errs', (runBlocking op).outcome = .ok v errs'
    | .failed _ => ∃ e', (runBlocking op).outcome = .failed e'
    | .pending => True
    | .junk => False := by
  have ha := runAsync_spec op schedule
  have hb := runBlocking_outcome op
  cases ho : (runAsync op schedule).outcome with
  | ok v errs =>
    rw [ho] at ha
    simp only at ha ⊢
    cases hd : denFlds op.fields with
    | none => simp [hd] at ha
    | some kvs => rw [hd] at hb ha; simp at ha; subst ha; exact ⟨_, hb⟩
  | failed e =>
    rw [ho] at ha
    simp only at ha ⊢
    rw [ha] at hb; exact hb
  | pending => trivial
  | junk => rw [ho] at ha; exact ha

/-- Full strength of C08's first sentence on the model. For every operation, every
    assignment of resolvers to {sync, deferred, nested-deferred, already-finished} and EVERY schedule:
    when the generic executor on a deferred runtime has produced its result `(data, errors)`, the
    blocking executor produces the SAME data and its error list is a PERMUTATION of `errors`. -/
theorem async_eq_blocking (op : Op) (schedule : List Nat) (v : V) (errs : List Err)
    (h : (runAsync op schedule).outcome = .ok v errs) :
    ∃ errs', (runBlocking op).outcome = .ok v errs' ∧ errs.Perm errs' := by
  have ha := runAsync_spec op schedule
  rw [h] at ha
  simp only at ha
  cases hd : denFlds op.fields with
  | none => simp [hd] at ha
  | some kvs =>
    simp [hd] at ha; subst ha
    have hb := runBlocking_outcome op
    rw [hd] at hb
    refine ⟨errsFlds [] op.fields, hb, ?_⟩
    have hden : denFlds op.fields ≠ none := by simp [hd]
    have hinv := execute_inv op {}
    have herr := execute_errs op {} hden
    unfold runAsync at h
    cases hr : execute op {} with
    | mk r s =>
      rw [hr] at hinv herr h
      cases r with
      | exc e => exact absurd herr id
      | ok top =>
        simp only at hinv herr h
        have hnf : (opSpec op).isFail = false := by simp [opSpec, hd, denToEv, EvR.isFail]
        have hE : ErrInv top s (errsFlds [] op.fields) := by
          intro e; have := herr e; simpa [cnt] using this
        have hfin := runSched_errs (errsFlds [] op.fields) (opSpec op) hnf schedule top s [] hinv hE
        have htop := runSched_inv (opSpec op) schedule top s [] hinv
        generalize (runSched top s [] schedule).top = t at hfin htop h
        generalize (runSched top s [] schedule).st = st at hfin h
        have hf := htop.isFlat
        apply List.perm_iff_count.mpr
        intro e
        have := hfin e
        cases t with
        | val x => cases x <;> simp [outcomeOf] at h; obtain ⟨_, he⟩ := h; subst he; simpa [pend, cnt] using this
        | done r =>
          cases r with
          | val x => cases x <;> simp [outcomeOf] at h; obtain ⟨_, he⟩ := h; subst he; simpa [pend, cnt] using this
          | _ => simp [flat] at hf
        | _ => simp [outcomeOf] at h

/-- Two schedules that both produce the overall result produce the same data. -/
theorem schedule_independent (op : Op) (s1 s2 : List Nat) (v1 v2 : V) (e1 e2 : List Err)
    (h1 : (runAsync op s1).outcome = .ok v1 e1) (h2 : (runAsync op s2).outcome = .ok v2 e2) :
    (denFlds op.fields).map V.obj = some v1 ∧ (denFlds op.fields).map V.obj = some v2 := by
  have a1 := runAsync_spec op s1
  have a2 := runAsync_spec op s2
  rw [h1] at a1; rw [h2] at a2
  exact ⟨a1, a2⟩

/-- If the specification says the operation fails (an unexpected resolver
    exception, or a value `complete_value` rejects, somewhere in it — `denFlds … = none`), then the blocking
    executor fails, and under EVERY schedule the generic executor never returns a result: its overall
    outcome is `failed` or still `pending` (the latter is excluded once no task is outstanding — see
    `always_terminates`), never `ok`, never malformed. Conversely a failure only comes from such an exception. -/
theorem unexpected_surfaces (op : Op) (schedule : List Nat) :
    (denFlds op.fields = none →
      (∃ e, (runBlocking op).outcome = .failed e) ∧
      (match (runAsync op schedule).outcome with
       | .failed _ => True
       | .pending => True
       | _ => False)) ∧
    (∀ e, (runAsync op schedule).outcome = .failed e → denFlds op.fields = none) := by
  have ha := runAsync_spec op schedule
  have hb := runBlocking_outcome op
  constructor
  · intro hd
    rw [hd] at hb
    refine ⟨hb, ?_⟩
    cases ho : (runAsync op schedule).outcome <;> rw [ho] at ha <;> simp_all
  · intro e he
    rw [he] at ha; exact ha

/-- The termination statement of C08 on the model: whenever no task is outstanding any more, the
    overall result is there (not pending) — for every operation and every schedule. -/
def AlwaysTerminatesFull : Prop :=
  ∀ (op : Op) (schedule : List Nat),
    match execute op {} with
    | (.exc _, _) => True
    | (.ok top, s) =>
      (runSched top s [] schedule).st.queue = [] →
      (runSched top s [] schedule).top.finished = true

/-- ASSUMPTION shared by every executor-level theorem of this file: a completion and the callbacks it triggers are ONE step
    (`deliver`). For the counter of `gather_futures` this is what the lock of fix 6013951 provides (`gather_shipped_sets_outer_once`,
    every interleaving of COUNT / TEST steps); for the other callback bodies (`chain`, `unwrap_future`, the executor's closures)
    it holds on one worker and is an assumption beyond. `always_terminates` is deadlock-freedom (`queue = [] → finished`); that the
    queue empties within `weight op` completions is `terminates_within_bound` (Props/C08_progress.lean). -/
def executorTheoremsAssumeAtomicCallbacks : Unit := ()

/-- For every operation, every assignment of resolver modes and EVERY schedule:
    in every reachable state a pending overall result implies an outstanding task — every pending Future
    in the tree waits (through exact `gather` counters `done = #finished < target`) for a task that is
    still in the queue. Hence once all resolver tasks have completed, the execution has completed
    (measure: outstanding tasks). Together with `unexpected_surfaces`: it has then either returned the
    blocking data or failed with an unexpected resolver exception — never left pending. -/
theorem always_terminates : AlwaysTerminatesFull := by
  intro op schedule
  have hinv := execute_inv op {}
  have hlive := execute_live op {}
  cases hr : execute op {} with
  | mk r s =>
    rw [hr] at hinv hlive
    cases r with
    | exc e => trivial
    | ok top =>
      simp only at hinv hlive ⊢
      intro hq
      have hl := runSched_live _ schedule top s [] hinv hlive
      rw [hq] at hl
      cases hf : (runSched top s [] schedule).top.finished with
      | true => rfl
      | false =>
        obtain ⟨id, hid⟩ := live_pending [] _ hl hf
        simp at hid

/-- non-vacuity: `{ a: deferred→[exc] b: deferred→1 }`, `b` completes first, then `a` — the result fails;
    and with `a` fine the data is the blocking data although `b` completed first. -/
example : (match (runAsync ⟨.query, .cons "a" .deferred .exc (.cons "b" .deferred (.ok (.leaf 1)) .nil)⟩ [1, 0]).outcome with
    | .failed .boom => true | _ => false) = true := by decide +kernel
example : (match (runAsync ⟨.query, .cons "a" .deferred (.ok (.leaf 7)) (.cons "b" .nested (.ok (.leaf 1)) .nil)⟩ [1, 0, 0]).outcome with
    | .ok (.obj [("a", .leaf 7), ("b", .leaf 1)]) [] => true | _ => false) = true := by decide +kernel

end PyGql.Props.C08
