/-
  C06 - property theorems: discharging `OverlapHyps` (`Props/C06_overlap_hyps_side.lean`), the parent types and the crash observation.

  `parentsAgree_of_rules`: `Spec.ParentsAgree` follows from the CLAUSES of two other rules - FragmentsOnCompositeTypes
      and ScalarLeafs -, from "every field of the schema has an output type" (`SchemaWf.outputs` of C05), from well-formed
      identities, and from `NoMetaSubs d`: no `__schema` / `__type` / `__typename` selection WITH a sub-selection (for
      those the search derives the sub-selection's parent type through `fieldOf`, which does not know the meta fields,
      whereas `TypeInfoVisitor` uses `_get_field_def`: the routes genuinely differ, the statement is false for them).
      `NoMetaSubs` is computable (`Validate/WfMeta.lean: noMetaSubsB`).
  `NoCrash` is an OBSERVATION of the same run as `Silent` (the rule alone on the document); it is computable
      (`Validate/OverlapRun.lean: overlapNoCrashB`), so the driver can report it with every document, like `wfIdsB`.
      Fuel sufficiency (a static bound on the document under which the model's fuel is never exhausted) is
      `noCrash_of_ranks` of `Props/C06_overlap_hyps_ranks.lean`.
  `overlapHyps_of_wf`: all of `OverlapHyps` from these; `rule_overlapping_fields_can_be_merged_iff_wf`: the equivalence
  with only checkable / other-rule hypotheses.
  An EARLIER FORM (un-memoised search, `DocChecks` with the run observation): superseded in its hypotheses by `…_iff_ranked`
  (`Props/C06_overlap_hyps_ranks.lean`, all checks static) and, for the search /repo runs, by
  `rule_overlapping_fields_memo_iff_wf` (`Props/C06_overlap_memo_complete.lean`), the strongest form.
-/
import PyGqlModel.Props.C06_overlap_hyps_side
import PyGqlModel.Lemmas.ValidateOverlapParentsAgree
import PyGqlModel.Validate.OverlapRun
namespace PyGql.Props.C06
open PyGql PyGql.Validate PyGql.Validate.Spec

/-- the routes to the parent type of a selection set agree, given the clauses of FragmentsOnCompositeTypes and
    ScalarLeafs -/
theorem parentsAgree_of_rules (s : SchemaD) (d : Doc)
    (hout : ∀ T name fd, fieldOf s T name = some fd → isOutputTy s fd.type = true)
    (hsl : Spec.scalarLeafs s d) (hfc : Spec.fragmentsOnCompositeTypes s d) (hnm : NoMetaSubs d) (hw : WfIds d) :
    Spec.ParentsAgree s d :=
  parentsAgree_of hout hsl hfc hnm hw

theorem overlapNoCrashB_iff (s : SchemaD) (fx : Fixes) (d : Doc) : overlapNoCrashB s fx d = true ↔ NoCrash s fx d := by
  unfold overlapNoCrashB NoCrash alone
  cases (visitDocument ⟨s, fx, [.overlappingFieldsCanBeMerged]⟩ d {}).rs.crash <;> simp

/-- what the driver checks on a document (all computable) -/
structure DocChecks (s : SchemaD) (fx : Fixes) (d : Doc) : Prop where
  ids : wfIdsB d = true
  noMeta : noMetaSubsB d = true
  noCrash : overlapNoCrashB s fx d = true

/-- `OverlapHyps` from the driver's checks, the parser's guarantee on fragment names, the schema's
    output-typed fields, and the clauses of UniqueFragmentNames, NoFragmentCycles, ScalarLeafs and
    FragmentsOnCompositeTypes -/
theorem overlapHyps_of_wf (s : SchemaD) (fx : Fixes) (d : Doc) (hck : DocChecks s fx d) (hne : NamesNonEmpty d)
    (hout : ∀ T name fd, fieldOf s T name = some fd → isOutputTy s fd.type = true)
    (hnd : Spec.uniqueFragmentNames d) (hac : Spec.noFragmentCycles d)
    (hsl : Spec.scalarLeafs s d) (hfc : Spec.fragmentsOnCompositeTypes s d) : OverlapHyps s fx d :=
  ⟨parentsAgree_of_rules s d hout hsl hfc ((noMetaSubsB_iff d).mp hck.noMeta) ((wfIdsB_iff d).mp hck.ids),
   overlapSide_of_wfB s d hck.ids hne hnd hac,
   (overlapNoCrashB_iff s fx d).mp hck.noCrash⟩

/-- 5.3.2, the equivalence with checkable hypotheses only -/
theorem rule_overlapping_fields_can_be_merged_iff_wf (s : SchemaD) (fx : Fixes) (h7 : fx.v7 = true) (d : Doc)
    (hck : DocChecks s fx d) (hne : NamesNonEmpty d)
    (hout : ∀ T name fd, fieldOf s T name = some fd → isOutputTy s fd.type = true)
    (hnd : Spec.uniqueFragmentNames d) (hac : Spec.noFragmentCycles d)
    (hsl : Spec.scalarLeafs s d) (hfc : Spec.fragmentsOnCompositeTypes s d) :
    Silent s fx .overlappingFieldsCanBeMerged d ↔ Spec.overlappingFieldsCanBeMerged s d := by
  obtain ⟨hpa, hsc, hnc⟩ := overlapHyps_of_wf s fx d hck hne hout hnd hac hsl hfc
  exact rule_overlapping_fields_can_be_merged_iff_partial s fx h7 d hpa hsc hnc

/-! non-vacuity: the checks hold, by evaluation, on the document with two fragments of
    `Props/C06_overlap_examples.lean`; a document selecting `__schema { … }` fails `noMetaSubsB` -/
example : DocChecks oSchema Fixes.all (oDocFrag "a") := ⟨by decide, by decide, by decide +kernel⟩
example : ¬ noMetaSubsB ⟨[opV [] 1 [.field none "__schema" [] [] true 2 [fld none "x"]]]⟩ = true := by decide

end PyGql.Props.C06
