/-
  C04 — "the result does not depend on requests previously served": a model of what the CODE keeps between requests
  and the theorem that none of it can influence a response.

  What survives a request in py-gql (read off the anchored sources):
    * the `Schema` object with its caches `_possible_types` (and `_literal_types_cache`, a pure memo of `get_type`)
      — modelled by `PCache`, answered through `getPossibleTypesC`;
    * the parsed `Document` objects the application keeps and passes again — the executor only READS them (modelled:
      `serve` returns the document store unchanged; tied to the code by the `to_dict()` before/after oracle of
      `harness/corr/C04.py: run_shared`, see TRUSTED there);
    * nothing else: `Executor`/`ResolutionContext` (with `_grouped_fields`, `_field_defs`, `_argument_values`,
      `_resolver_cache`, `_errors`) is constructed per request by `execute` — modelled by the memo table that `serve`
      creates EMPTY for each request (`memo_sound` says such a table is transparent while it lives).
-/
import PyGqlModel.Props.C04


namespace PyGql.Props.C04
open PyGql PyGql.Exec

/-- what persists between requests -/
structure Server where
  pcache : PCache          -- `Schema._possible_types`
  docs : List Doc          -- parsed documents the application reuses

structure Request where
  doc : Nat                -- which stored document
  vars : Vars
  world : World
  op : Option String
  fuel : Nat
  cf : Nat
  lookups : List String    -- the abstract types whose possible types this request consults, in order (any list)

/-- serving one request: the response is computed from the stored document; the schema cache absorbs the lookups; the
    document store is not written -/
def serve (s : SchemaD) (σ : Server) (r : Request) : Response × Server :=
  (match σ.docs[r.doc]? with
   | some d => execute s d r.vars r.world r.op r.fuel r.cf
   | none => .abort "no-document",
   { σ with pcache := afterHistory s σ.pcache r.lookups })

/-- serving a history; returns the responses in order and the final state -/
def serveAll (s : SchemaD) : Server → List Request → List Response × Server
  | σ, [] => ([], σ)
  | σ, r :: rs =>
    let (resp, σ1) := serve s σ r
    let (rest, σ2) := serveAll s σ1 rs
    (resp :: rest, σ2)

theorem serve_docs_unchanged (s : SchemaD) (σ : Server) (r : Request) : (serve s σ r).2.docs = σ.docs := rfl

theorem serveAll_docs_unchanged (s : SchemaD) (σ : Server) (h : List Request) : (serveAll s σ h).2.docs = σ.docs := by
  induction h generalizing σ with
  | nil => rfl
  | cons r rs ih => simp only [serveAll]; rw [ih]; rfl

theorem serve_cache_ok (s : SchemaD) (σ : Server) (r : Request) (h : CacheOk s σ.pcache) : CacheOk s (serve s σ r).2.pcache :=
  afterHistory_ok s σ.pcache r.lookups h

theorem serveAll_cache_ok (s : SchemaD) (σ : Server) (hist : List Request) (h : CacheOk s σ.pcache) :
    CacheOk s (serveAll s σ hist).2.pcache := by
  induction hist generalizing σ with
  | nil => exact h
  | cons r rs ih => simp only [serveAll]; exact ih _ (serve_cache_ok s σ r h)

/-- after ANY history, the schema cache answers every possible-type question exactly as the stateless function -/
theorem possible_types_after_history (s : SchemaD) (σ : Server) (hist : List Request) (h : CacheOk s σ.pcache) (abstract obj : String) :
    (isPossibleTypeC s (serveAll s σ hist).2.pcache abstract obj).1 = isPossibleType s abstract obj := by
  have hc := serveAll_cache_ok s σ hist h
  unfold isPossibleTypeC isPossibleType
  by_cases hk : kindOf s obj = some .object
  · simp [hk, (cache_step s _ abstract hc).1]
  · have : (kindOf s obj == some Kind.object) = false := by simpa using hk
    simp [this]

/-- The response to a request served after ANY history of other requests — on the same schema
    object and on the same shared parsed documents, with whatever variables and worlds — is the response of that
    request served alone by a fresh server holding the same documents.
    TRUE BY CONSTRUCTION: `serve` computes the response with `execute`, which has no cache parameter, so the
    persisted `pcache` is never read by the response component; the content of this file is `possible_types_after_history`
    (a cache filled only through `getPossibleTypesC` equals the stateless function). The tie of "the result does not depend
    on requests previously served by the same schema object" to the code is the correspondence's HISTORY STREAM (k earlier
    requests on the same `Schema` object and the same parsed documents before the compared one, `ctx.later` re-runs). -/
theorem history_independent (s : SchemaD) (σ : Server) (hist : List Request) (r : Request) :
    (serve s (serveAll s σ hist).2 r).1 = (serve s { pcache := [], docs := σ.docs } r).1 := by
  simp only [serve, serveAll_docs_unchanged]

/-- … in particular the k-th response of a history is the single-request response -/
theorem kth_response (s : SchemaD) (σ : Server) (pre : List Request) (r : Request) (post : List Request) :
    (serveAll s σ (pre ++ r :: post)).1[pre.length]? = some (serve s { pcache := [], docs := σ.docs } r).1 := by
  induction pre generalizing σ with
  | nil => simp [serveAll, serve]
  | cons p ps ih =>
    simp only [List.cons_append, serveAll, List.length_cons, List.getElem?_cons_succ]
    rw [ih]
    simp [serve]

/-! ### the per-request memo tables of `ResolutionContext` -/

/-- a memo table for `collect_fields`, keyed as the code keys `_grouped_fields` (parent type name, the selections);
    `same` is the key comparison (identity of the selection tuple in Python: it implies equality) -/
abbrev Memo := List ((String × List Sel) × R (Grouped × List String))

def memoCollect (s : SchemaD) (doc : Doc) (vars : Vars) (cf : Nat) (same : String × List Sel → String × List Sel → Bool)
    (m : Memo) (obj : String) (sels : List Sel) : R (Grouped × List String) × Memo :=
  match m.find? (fun e => same e.1 (obj, sels)) with
  | some e => (e.2, m)
  | none =>
    let r := collectFields s doc vars cf obj sels []
    (r, m ++ [((obj, sels), r)])

/-- every entry was computed for THIS request (document, variables) -/
def MemoOk (s : SchemaD) (doc : Doc) (vars : Vars) (cf : Nat) (m : Memo) : Prop :=
  ∀ e ∈ m, e.2 = collectFields s doc vars cf e.1.1 e.1.2 []

/-- a table created empty for a request and filled only by that request is transparent -/
theorem memo_sound (s : SchemaD) (doc : Doc) (vars : Vars) (cf : Nat) (same : String × List Sel → String × List Sel → Bool)
    (hsame : ∀ a b, same a b = true → a = b) (m : Memo) (hm : MemoOk s doc vars cf m) (obj : String) (sels : List Sel) :
    (memoCollect s doc vars cf same m obj sels).1 = collectFields s doc vars cf obj sels [] ∧
    MemoOk s doc vars cf (memoCollect s doc vars cf same m obj sels).2 := by
  unfold memoCollect
  cases hf : m.find? (fun e => same e.1 (obj, sels)) with
  | some e =>
    have hmem := List.mem_of_find?_eq_some hf
    have hk := hsame _ _ (by simpa using List.find?_some hf)
    refine ⟨?_, hm⟩
    simp only []
    rw [hm e hmem, hk]
  | none =>
    refine ⟨rfl, ?_⟩
    intro e he
    simp at he
    rcases he with he | rfl
    · exact hm e he
    · rfl

theorem memo_empty_ok (s : SchemaD) (doc : Doc) (vars : Vars) (cf : Nat) : MemoOk s doc vars cf [] := by
  intro e he; simp at he

/-- a table that SURVIVED a request with other variables is not transparent: the reason the executor must be per
    request (witness: `{ a @skip(if: $v) }` collected for v = true, then looked up for v = false) -/
theorem memo_across_requests_unsound :
    let sels := [Sel.field "a" "a" 2 [⟨"skip", .var "v"⟩] [] false []]
    let d : Doc := { ops := [], frags := [] }
    let s : SchemaD := { types := [] }
    let stale := (memoCollect s d [("v", .bool true)] 3 (fun _ _ => true) [] "Query" sels).2
    (match (memoCollect s d [("v", .bool false)] 3 (fun _ _ => true) stale "Query" sels).1,
           collectFields s d [("v", .bool false)] 3 "Query" sels [] with
     | .ok (g1, _), .ok (g2, _) => g1.length != g2.length
     | _, _ => false) = true := by decide

/-- source position of the first selection when it is a field (the identity of the LEADING node) -/
def leadingLoc : List Sel → Option Nat
  | .field _ _ loc _ _ _ _ :: _ => some loc
  | _ => none

/-- keying the table by (parent type, LEADING node) instead of (parent type, all selections) is NOT transparent even
    within one request (`hsame` of `memo_sound` fails): the merged sub-selection of a response key is a function of the
    whole node list. Witness = seeded change C05-12 / C04-11: `pets { owner { name } ... on Dog { owner { phone } } }` -
    for a Cat the key `owner` merges `[name]`, for a Dog `[name, phone]`; both lists start with the same node. After the
    Cat, the Dog is served the Cat's grouped fields (one key instead of two). -/
theorem memo_by_leading_node_unsound :
    let nameSel := Sel.field "name" "name" 17 [] [] false []
    let phoneSel := Sel.field "phone" "phone" 52 [] [] false []
    let d : Doc := { ops := [], frags := [] }
    let s : SchemaD := { types := [] }
    let same : String × List Sel → String × List Sel → Bool := fun a b => a.1 == b.1 && leadingLoc a.2 == leadingLoc b.2
    let afterCat := (memoCollect s d [] 3 same [] "Owner" [nameSel]).2
    (match (memoCollect s d [] 3 same afterCat "Owner" [nameSel, phoneSel]).1, collectFields s d [] 3 "Owner" [nameSel, phoneSel] [] with
     | .ok (g1, _), .ok (g2, _) => (g1.length, g2.length) == (1, 2)
     | _, _ => false) = true := by decide

end PyGql.Props.C04
