/-
  C14 — the DICT ORDER of `extend_schema`'s result (`extendO`, HeapExt.lean).

  `extend` registers the rebuilt types in the order it rebuilt them (specified scalars, source order, the document's new types);
  the code's `Schema.__init__` registers them in the order a depth-first walk from that list meets them. `extendO` is `extend`
  with the `types` dict in that order (`extendOrder`); the driver runs it and the harness compares the order of every extension
  result — and of everything derived from one — with the live `schema.types` (`corr:registry-order`).
  The `types` list of `extendO` has exactly the ENTRIES of `extend`'s, with distinct names: a re-ordering, whatever the walk reaches;
  the heap is `extend`'s plus the `interfaces` of the object types the DOCUMENT defines (`type Zed implements Pet {…}`:
  `Ext.newIfaces`, `setNewIfaces` — resolved by name through the result's registry, written on objects the call allocated). So every
  statement about `extend` that does not depend on the position of an entry transfers (`closed_wf_reorder` for any re-ordering).
-/
import PyGqlModel.Lemmas.HeapCloneClosed
import PyGqlModel.Lemmas.HeapExtOwn
import PyGqlModel.Props.C14_extend_closed


namespace PyGql.Props.C14
open PyGql.Heap PyGql.Heap.Own

theorem extendOrder_nodup (s : Schema) (newNames : List String) (h : Heap) (r : Schema) :
    (regNames (extendOrder s newNames h r)).Nodup := by
  simp only [extendOrder]
  exact foldl_setdefault_nodup _ [] (by simp [regNames])

theorem extendOrder_mem (s : Schema) (newNames : List String) (h : Heap) (r : Schema) (hn : (regNames r.types).Nodup) (e : String × Addr) :
    e ∈ extendOrder s newNames h r ↔ e ∈ r.types := by
  have hsub : ∀ x, x ∈ extendOrder s newNames h r → x ∈ r.types := by
    intro x hx
    simp only [extendOrder] at hx
    rcases foldl_setdefault_mem _ [] x hx with h1 | h1
    · cases h1
    · simp only [List.mem_append, List.mem_filter, List.mem_filterMap] at h1
      rcases h1 with (h1 | ⟨y, _, hy⟩) | h1
      · exact h1.1
      · simp only [Option.map_eq_some_iff] at hy
        obtain ⟨a, ha, rfl⟩ := hy
        exact lookup_mem' ha
      · exact h1
  refine ⟨hsub e, fun he => ?_⟩
  have hname : e.1 ∈ regNames (extendOrder s newNames h r) := by
    simp only [extendOrder]
    exact (foldl_setdefault_names _ []).2 e (by simp [he])
  simp only [regNames, List.mem_map] at hname
  obtain ⟨x, hx, hxe⟩ := hname
  have hxr := hsub x hx
  have h1 := lookup_of_mem_nodup hn hxr
  have h2 := lookup_of_mem_nodup hn he
  rw [hxe, h2] at h1
  have : x = e := Prod.ext hxe (Option.some.inj h1).symm
  rw [← this]; exact hx

private theorem lookup_reorder {T T' : List (String × Addr)} (hn : (regNames T).Nodup) (hn' : (regNames T').Nodup)
    (hm : ∀ e, e ∈ T' ↔ e ∈ T) (n : String) : lookup T' n = lookup T n := by
  cases hl : lookup T n with
  | some a =>
    have := lookup_of_mem_nodup hn' ((hm (n, a)).mpr (lookup_mem' hl))
    exact this
  | none =>
    cases hl' : lookup T' n with
    | none => rfl
    | some a =>
      have := lookup_of_mem_nodup hn ((hm (n, a)).mp (lookup_mem' hl'))
      simp only at this
      rw [hl] at this
      cases this

theorem closed_wf_reorder {h : Heap} {s s' : Schema} (hd : s'.dirs = s.dirs) (hq : s'.query = s.query) (hmu : s'.mutation = s.mutation)
    (hsu : s'.subscription = s.subscription) (hn' : (regNames s'.types).Nodup) (hm : ∀ e, e ∈ s'.types ↔ e ∈ s.types)
    (hc : closedB h s = true) (hw : wfB h s = true) : closedB h s' = true ∧ wfB h s' = true := by
  have hn : (regNames s.types).Nodup := (wfs_of_wfB hw).nodup
  have hchk : refOK s'.types = refOK s.types := by
    funext r
    simp only [refOK, lookup_reorder hn hn' hm]
  simp only [closedB, wfB, shapeB, Bool.and_eq_true, List.all_eq_true, namesNodup, decide_eq_true_eq] at hc hw ⊢
  rw [hd, hq, hmu, hsu, hchk]
  obtain ⟨⟨⟨⟨⟨c1, c2⟩, c3⟩, c4⟩, c5⟩, c6⟩ := hc
  obtain ⟨⟨⟨⟨⟨⟨⟨w1, w2⟩, w3⟩, w4⟩, w5⟩, w6⟩, w7⟩, w8⟩ := hw
  exact ⟨⟨⟨⟨⟨⟨fun e he => c1 e ((hm e).mp he), c2⟩, c3⟩, c4⟩, c5⟩, fun e he => c6 e ((hm e).mp he)⟩,
    ⟨⟨⟨⟨⟨⟨fun e he => w1 e ((hm e).mp he), w2⟩, w3⟩, w4⟩, w5⟩, fun e he => w6 e ((hm e).mp he)⟩, fun e he => w7 e ((hm e).mp he)⟩, hn'⟩

theorem setNewIfaces_step (reg : List (String × Addr)) (nn : List String) : ∀ (l : List (String × List String)) (h : Heap),
    StepImp (refOK reg) h (setNewIfaces reg nn h l) := by
  intro l
  induction l with
  | nil => intro h; exact StepImp.refl _ h
  | cons e rest ih =>
    intro h
    obtain ⟨n, ms⟩ := e
    simp only [setNewIfaces]
    split
    · split
      · split
        · rename_i na hl _ t ht
          exact (write_type_ifaces (refOK reg) h na t _ ht (healedRefs_ok reg _)).trans (ih _)
        · exact ih h
      · exact ih h
    · exact ih h

theorem setNewIfaces_frame (reg : List (String × Addr)) (nn : List String) (b : Nat)
    (hb : ∀ n na, nn.contains n = true → lookup reg n = some na → b ≤ na) : ∀ (l : List (String × List String)) (h : Heap),
    (setNewIfaces reg nn h l).size = h.size ∧ ∀ x, x < b → (setNewIfaces reg nn h l).read x = h.read x := by
  intro l
  induction l with
  | nil => intro h; exact ⟨rfl, fun _ _ => rfl⟩
  | cons e rest ih =>
    intro h
    obtain ⟨n, ms⟩ := e
    simp only [setNewIfaces]
    split
    · rename_i hc
      split
      · rename_i na hl
        split
        · obtain ⟨k1, k2⟩ := ih (h.write na (.type _))
          refine ⟨by rw [k1, size_write], fun x hx => ?_⟩
          rw [k2 x hx]
          exact read_write_other h na x _ (fun e => absurd (e ▸ hb n na hc hl) (Nat.not_le.mpr hx))
        · exact ih h
      · exact ih h
    · exact ih h

/-- same directives, roots, schema-level resolver; the same registry entries, re-ordered; the heap differs from `extend`'s only in
    the `interfaces` of the object types the document defines (`setNewIfaces`) — not at all when it declares none -/
theorem extendO_same (cfg : Cfg) (ext : Ext) (s : Schema) (h : Heap) (hn : (regNames (extend cfg ext s h).2.types).Nodup) :
    (extendO cfg ext s h).2.dirs = (extend cfg ext s h).2.dirs ∧
    (extendO cfg ext s h).2.query = (extend cfg ext s h).2.query ∧ (extendO cfg ext s h).2.mutation = (extend cfg ext s h).2.mutation ∧
    (extendO cfg ext s h).2.subscription = (extend cfg ext s h).2.subscription ∧ (extendO cfg ext s h).2.dres = (extend cfg ext s h).2.dres ∧
    (regNames (extendO cfg ext s h).2.types).Nodup ∧
    (∀ e, e ∈ (extendO cfg ext s h).2.types ↔ e ∈ (extend cfg ext s h).2.types) ∧
    (ext.newIfaces = [] → (extendO cfg ext s h).1 = (extend cfg ext s h).1) :=
  ⟨rfl, rfl, rfl, rfl, rfl, extendOrder_nodup _ _ _ _, extendOrder_mem _ _ _ _ hn, fun he => by simp only [extendO, he, setNewIfaces]⟩

/-- FULL: no object of the source heap is written (the interfaces are written on objects the call allocated) -/
theorem extendO_frames_source (cfg : Cfg) (hk : cfg.extKeepAll = true) (ext : Ext) (s : Schema) (h : Heap)
    (hnp : ∀ e, e ∈ ext.newTypes → isProtected e.1 = false) : Frame h (extendO cfg ext s h).1 := by
  have f := extend_frames_source cfg ext s h
  obtain ⟨_, rf⟩ := extend_ok cfg hk ext s h
  have hb : ∀ n na, (ext.newTypes.map (·.1)).contains n = true → lookup (extend cfg ext s h).2.types n = some na → h.size ≤ na := by
    intro n na hc hl
    rcases rf.1 (n, na) (lookup_mem' hl) with hp | hp
    · simp only [List.contains_iff_mem, List.mem_map] at hc
      obtain ⟨e, he, rfl⟩ := hc
      rw [hnp e he] at hp
      cases hp
    · exact hp
  obtain ⟨k1, k2⟩ := setNewIfaces_frame (extend cfg ext s h).2.types (ext.newTypes.map (·.1)) h.size hb ext.newIfaces (extend cfg ext s h).1
  refine ⟨?_, fun a ha => ?_⟩
  · show h.size ≤ (setNewIfaces _ _ _ _).size
    rw [k1]; exact f.1
  · show (setNewIfaces _ _ _ _).read a = h.read a
    rw [k2 a ha]; exact f.2 a ha

/-- FULL: the extension result as the code builds it — the document's `implements` clauses and the dict order included — is
    closed and well-formed (same hypotheses as `extend_closed_wf`; interface names that are not registered are dropped by the
    model where the code raises) -/
theorem extendO_closed_wf (cfg : Cfg) (hk : cfg.extKeepAll = true) (hin : cfg.extInputFieldExtended = true) (ext : Ext) (s : Schema) (h : Heap)
    (hc : closedB h s = true) (hw : wfB h s = true) (hok : ExtOK s ext) (hnp : ∀ e, e ∈ ext.newTypes → isProtected e.1 = false) :
    closedB (extendO cfg ext s h).1 (extendO cfg ext s h).2 = true ∧ wfB (extendO cfg ext s h).1 (extendO cfg ext s h).2 = true := by
  obtain ⟨c, w⟩ := extend_closed_wf cfg hk hin ext s h hc hw hok hnp
  have hn : (regNames (extend cfg ext s h).2.types).Nodup := (wfs_of_wfB w).nodup
  have ws := (wfs_of_closedB c w).keep
    (setNewIfaces_step (extend cfg ext s h).2.types (ext.newTypes.map (·.1)) ext.newIfaces (extend cfg ext s h).1)
  have hroots := c
  simp only [closedB, shapeB, Bool.and_eq_true] at hroots
  have c2 : closedB (extendO cfg ext s h).1 (extend cfg ext s h).2 = true :=
    closedB_of_wfs _ _ ws hroots.1.1.1.2 hroots.1.1.2 hroots.1.2
  have w2 : wfB (extendO cfg ext s h).1 (extend cfg ext s h).2 = true := wfB_of_wfs ws
  obtain ⟨e2, e3, e4, e5, _, e7, e8, _⟩ := extendO_same cfg ext s h hn
  exact closed_wf_reorder (s := (extend cfg ext s h).2) e2 e3 e4 e5 e7 e8 c2 w2

/-- the Dog / Pet witness with its types listed as String, Query, Dog, Pet -/
def sW : Schema := { s0 with types := [("String", 0), ("Query", 5), ("Dog", 3), ("Pet", 1)] }

private theorem order_witness :
    (extend Cfg.fixed zed sW h0).2.types.map (·.1) = ["String", "Query", "Dog", "Pet", "Zed"] ∧
    (extendO Cfg.fixed zed sW h0).2.types.map (·.1) = ["String", "Query", "Pet", "Dog", "Zed"] := by decide +kernel

/-- `extend_schema(sW, "type Zed { z: String }").types`: String, Query, Pet, Dog, Zed — `Pet` (the type of `Query.pet`) before `Dog` -/
theorem extendO_order_witness : (extendO Cfg.fixed zed sW h0).2.types.map (·.1) = ["String", "Query", "Pet", "Dog", "Zed"] := order_witness.2

/-- … while the types were REBUILT in the source's order -/
theorem extend_order_differs : (extend Cfg.fixed zed sW h0).2.types.map (·.1) = ["String", "Query", "Dog", "Pet", "Zed"] := order_witness.1

/-- `extend_schema(s0, "type Zed implements Pet { name: String }")` -/
def zedPet : Ext := { newTypes := [("Zed", [{ name := "name", ty := .named "String", args := [] }])], fields := [], inputFields := [],
                      members := [], values := [], newDirs := [], newIfaces := [("Zed", ["Pet"])] }

/-- the new object type declares the interface: its `interfaces` list holds THE `Pet` object registered in the result, the result
    is closed and well-formed, and the source heap is untouched -/
theorem extendO_ifaces_witness :
    closedB (extendO Cfg.fixed zedPet s0 h0).1 (extendO Cfg.fixed zedPet s0 h0).2 = true ∧
    wfB (extendO Cfg.fixed zedPet s0 h0).1 (extendO Cfg.fixed zedPet s0 h0).2 = true ∧
    ((lookup (extendO Cfg.fixed zedPet s0 h0).2.types "Zed").bind fun a => ((extendO Cfg.fixed zedPet s0 h0).1.readType a).map fun t =>
      t.ifaces.map fun r => (r.name, lookup (extendO Cfg.fixed zedPet s0 h0).2.types r.name == some r.addr)) = some [("Pet", true)] := by
  decide +kernel

/-- non-vacuity: the re-listed witness is closed and well-formed -/
example : closedB h0 sW = true ∧ wfB h0 sW = true := by decide +kernel

end PyGql.Props.C14
