/-
  C05 — `validated_no_internal_error` through the whole executor.

  Side conditions, and which internal-error branch each one closes:
    ValidDoc.opsOk / fragsOk (selOk)   `KeyError` of `fragments[name]`, `UnknownType` of `get_type_from_literal`
                                        (type conditions)  — collect_fields;
                                        `UnboundLocalError` of `field_definition` (no `__schema`/`__type` off the root)
    (no premise)                       `CoercionError` of `_skip_selection` (a condition that is not a Boolean at run time:
                                        list literal, nullable variable with a default bound to null) is not an
                                        exception: `ResolutionContext.collect_fields` converts it (/repo fix 4e87d3d) — `NoIntC` at
                                        collect level, `noInt_catchDirective` at `execute_fields` level
    KeyConsistent                      all nodes of one response key name the SAME field, so the sub-selections merged
                                        for a runtime type are all well-typed for it (else: unknown fragments/types
                                        reached through an ill-typed sub-selection)
    SchemaOk.cov (interface covariance) a field selected on an interface exists on every possible object type with a
                                        sub-type result: sub-selections stay well-typed for the runtime type
    SchemaOk.kinds                     `TypeError("Invalid field type")` (unknown / input type at an output position)
    WorldTyped + Conforms              `RuntimeError` (not iterable; leaf not serialisable; unknown enum value;
                                        abstract type resolved to a non-object / non-possible type), `UnknownType` of
                                        `resolve_type`, and the "unexpected exception" outcome of a resolver; iterables and
                                        `resolve_type`s that raise `ResolverError` CONFORM (field errors: /repo fix 7b8e151)
-/
import PyGqlModel.Exec
import PyGqlModel.Spec.ValidDoc
import PyGqlModel.Props.C04
import PyGqlModel.Props.C04_fuel
import PyGqlModel.Props.C05
import PyGqlModel.Lemmas.C04Raise

set_option linter.unusedSimpArgs false

namespace PyGql.Props.C05
open PyGql PyGql.Exec PyGql.Spec PyGql.Props.C04 PyGql.Lemmas.C04Raise

def NoInt {α} (r : R α) : Prop := ∀ cls, r ≠ .error (.internal cls)

/-- `collect_fields` level: no internal error other than the `CoercionError` of a directive condition that is not a
    Boolean at run time — which `ResolutionContext.collect_fields` converts into a field error (`Exec.catchDirective`) -/
def NoIntC {α} (r : R α) : Prop := ∀ cls, r = .error (.internal cls) → cls = "CoercionError"

theorem noIntC_skip {α} {vars : Vars} {dirs : List Dir} {e : Fail} (hb : skipSelection vars dirs = .error e) :
    NoIntC (Except.error e : R α) :=
  fun _ h => skipErr hb h

theorem noInt_catchDirective {α} (r : R α) (h : NoIntC r) : NoInt (catchDirective r) := by
  intro cls hh
  obtain ⟨h1, h2⟩ := (catchDirective_internal r cls).mp hh
  exact h2 (h cls h1)

theorem noInt_ok {α} (a : α) : NoInt (.ok a : R α) :=
  fun _ h => nomatch h

theorem noInt_bind {α β} {x : R α} {f : α → R β} (hx : NoInt x) (hf : ∀ a, x = .ok a → NoInt (f a)) : NoInt (x >>= f) := by
  cases x with
  | error e => exact fun cls h => hx cls (by cases h; rfl)
  | ok a => exact hf a rfl

theorem noInt_keepErrs {α} (e : List Err) {r : R α} (h : NoInt r) : NoInt (keepErrs e r) := by
  cases r with
  | ok a => exact noInt_ok a
  | error f =>
    intro cls hh
    cases f with
    | internal c => exact h c rfl
    | _ => cases hh

def Under (s : SchemaD) (rt T : String) : Prop := rt = T ∨ isPossibleType s T rt = true

structure SchemaOk (s : SchemaD) : Prop where
  /-- objects implement their interfaces covariantly -/
  cov : ∀ I O f fd, isPossibleType s I O = true → fieldOf s I f = some fd →
    ∃ fd', fieldOf s O f = some fd' ∧ ∀ rt', Under s rt' fd'.type.base → Under s rt' fd.type.base
  /-- every field has a known output type -/
  kinds : ∀ T f fd, fieldOf s T f = some fd → ∃ k, kindOf s fd.type.base = some k ∧ k ≠ .input

/-- a resolver value of the declared type -/
def Conforms (s : SchemaD) : Ty → RVal → Bool
  | .nonNull t, v => Conforms s t v
  | .list _, .null => true
  | .list t, .list vs => vs.all (Conforms s t)
  | .list t, .raise vs _ _ => vs.all (Conforms s t)      -- a lazy iterable that raises ResolverError after these items
  | .list _, _ => false
  | .named _, .null => true
  | .named n, .leaf j => (match kindOf s n with
      | some .scalar | some .enum => (serializeLeaf s n j).isSome
      | some .object => true
      | _ => false)
  | .named n, .list _ => (match kindOf s n with | some .object => true | _ => false)
  | .named n, .obj rt => (match kindOf s n with
      | some .object => true
      | some .interface | some .union => kindOf s rt == some .object && isPossibleType s n rt
      | _ => false)
  | .named n, .raise _ _ _ => (match kindOf s n with        -- `resolve_type` raises ResolverError
      | some .object | some .interface | some .union => true
      | _ => false)

/-- typed world: values of the declared types or `ResolverError`s, never another exception -/
def WorldTyped (s : SchemaD) (w : World) : Prop :=
  ∀ parent field path args fd, fieldOf s parent field = some fd →
    match w parent field path args with
    | .val v => Conforms s fd.type v = true
    | .err _ _ => True
    | .boom => False

abbrev FSet := List (String × String × Bool)

def GroupOk (P : FNode → Prop) (g : Grouped) : Prop := ∀ kv ∈ g, kv.2 ≠ [] ∧ ∀ n ∈ kv.2, P n

theorem extend_groupOk (P : FNode → Prop) (g : Grouped) (k : String) (ns : List FNode) (hg : GroupOk P g)
    (hne : ns ≠ []) (hn : ∀ n ∈ ns, P n) : GroupOk P (g.extend k ns) := by
  induction g with
  | nil => intro kv hkv; simp [Grouped.extend] at hkv; subst hkv; exact ⟨hne, hn⟩
  | cons kv rest ih =>
    obtain ⟨k', ms⟩ := kv
    simp only [Grouped.extend]
    by_cases h : k' = k
    · subst h
      simp only [beq_self_eq_true, if_true]
      intro kv hkv
      simp at hkv
      rcases hkv with rfl | hkv
      · refine ⟨by simp [hne], ?_⟩
        intro n hn'
        simp at hn'
        rcases hn' with h1 | h1
        · exact (hg (k', ms) (by simp)).2 n h1
        · exact hn n h1
      · exact hg kv (by simp [hkv])
    · have h' : (k' == k) = false := by simpa using h
      simp only [h', Bool.false_eq_true, if_false]
      intro kv hkv
      simp at hkv
      rcases hkv with rfl | hkv
      · exact hg (k', ms) (by simp)
      · exact ih (fun kv hkv => hg kv (by simp [hkv])) kv hkv

theorem mergeInto_groupOk (P : FNode → Prop) (src into : Grouped) (hs : GroupOk P src) (hi : GroupOk P into) :
    GroupOk P (src.mergeInto into) := by
  unfold Grouped.mergeInto
  induction src generalizing into with
  | nil => simpa
  | cons kv rest ih =>
    simp only [List.foldl_cons]
    exact ih _ (fun kv' hkv => hs kv' (by simp [hkv])) (extend_groupOk P _ _ _ hi (hs kv (by simp)).1 (hs kv (by simp)).2)

theorem fieldOf_name (s : SchemaD) (T f : String) (fd : FieldD) (h : fieldOf s T f = some fd) : fd.name = f := by
  unfold fieldOf at h
  cases hft : s.findType T with
  | none => simp [hft] at h
  | some t =>
    simp only [hft] at h
    have hk := List.find?_some h
    simpa using hk

theorem selsFields_mem (sels : List Sel) : ∀ sel ∈ sels, ∀ x ∈ selFields sel, x ∈ selsFields sels := by
  induction sels with
  | nil => intro sel h; simp at h
  | cons y ys ih =>
    intro sel hm x hx
    simp only [selsFields, List.mem_append]
    simp at hm
    rcases hm with rfl | hm
    · exact Or.inl hx
    · exact Or.inr (ih sel hm x hx)

theorem applies_ok (s : SchemaD) (obj c : String) (h : isComposite s c = true) :
    ∃ b, fragmentTypeApplies s obj (some c) = .ok b ∧ (b = true → Under s obj c) := by
  refine ⟨_, fragmentTypeApplies_composite obj h, fun hb => ?_⟩
  rw [Bool.or_eq_true, Bool.and_eq_true, beq_iff_eq] at hb
  exact hb.imp Eq.symm And.right

theorem fragment_ok (s : SchemaD) (doc : Doc) (vars : Vars) (hf : fragsOk s doc vars = true) (name : String) (fr : Frag)
    (h : doc.fragment? name = some fr) :
    isComposite s fr.on = true ∧ selsOk s doc vars fr.on fr.sels = true ∧ ∀ x ∈ selsFields fr.sels, x ∈ docFields doc := by
  obtain ⟨hc, hok⟩ := fragsOk_fragment hf h
  refine ⟨hc, hok, fun x hx => ?_⟩
  unfold docFields
  simp only [List.mem_append, List.mem_flatMap]
  exact Or.inr ⟨fr, fragment_mem h, hx⟩

/-- what `selOk` says of a field selected on `T`: `__typename` without a sub-selection, or a field of `T` whose sub-selection,
    if there is one, is well-typed at the field's base type, a composite type -/
theorem selOk_field {s : SchemaD} {doc : Doc} {vars : Vars} {T key name : String} {loc : Nat} {dirs : List Dir}
    {args : List (String × Option String)} {hs : Bool} {sub : List Sel}
    (h : selOk s doc vars T (.field key name loc dirs args hs sub) = true) :
    (name = "__typename" ∧ hs = false) ∨
    (isMeta name = false ∧ ∃ fd, fieldOf s T name = some fd ∧
      (hs = true → isComposite s fd.type.base = true ∧ selsOk s doc vars fd.type.base sub = true)) := by
  simp only [selOk, Bool.and_eq_true] at h
  have h2 := h.2
  by_cases hn : name = "__typename"
  · subst hn; simp at h2; exact Or.inl ⟨rfl, h2⟩
  · have hn' : (name == "__typename") = false := by simpa using hn
    simp only [hn', Bool.false_eq_true, if_false] at h2
    by_cases hm : isMeta name
    · simp [hm] at h2
    · simp only [hm, Bool.false_eq_true, if_false] at h2
      refine Or.inr ⟨by simpa using hm, ?_⟩
      cases hfo : fieldOf s T name with
      | none => simp [hfo] at h2
      | some fd =>
        refine ⟨fd, rfl, ?_⟩
        intro hsub
        simp only [hfo] at h2
        unfold isComposite
        cases hk : kindOf s fd.type.base with
        | none => simp [hk] at h2
        | some k =>
          cases k <;> simp [hk] at h2 <;> first | exact ⟨rfl, h2.2⟩ | exact absurd hsub (by simp [h2])

theorem completeList_noInt (f : Path → RVal → R (Data × List Err)) (P : RVal → Prop)
    (hf : ∀ p v, P v → NoInt (f p v)) (path : Path) :
    ∀ (vs : List RVal) (i : Nat), (∀ v ∈ vs, P v) → NoInt (completeList f path i vs) := by
  intro vs
  induction vs with
  | nil => intro i _ cls h; simp [completeList] at h
  | cons v rest ih =>
    intro i hp
    rw [completeList]
    refine noInt_bind (hf _ v (hp v List.mem_cons_self)) fun p _ => ?_
    obtain ⟨d, e⟩ := p
    exact noInt_bind (noInt_keepErrs e (ih (i + 1) fun v hv => hp v (List.mem_cons_of_mem _ hv))) fun q _ => noInt_ok _

private theorem conforms_named {s : SchemaD} {n : String} {v : RVal} {k : Kind} (hk : kindOf s n = some k) (hi : k ≠ .input)
    (hc : Conforms s (.named n) v = true) : ∀ c, namedAct s n v ≠ .internal c := by
  intro c h
  -- per value `hc` is the row of `Conforms`, `h` the row of `namedAct`; per kind one of the two is absurd
  cases v with
  | null => cases h
  | leaf j =>
    simp only [Conforms, hk] at hc
    simp only [namedAct, hk] at h
    cases k with
    | input => exact hi rfl
    | object => cases h
    | interface | union => cases hc
    | scalar | enum =>
      dsimp only at hc h
      cases hs : serializeLeaf s n j with
      | none => rw [hs] at hc; cases hc
      | some r => rw [hs] at h; cases h
  | list vs =>
    simp only [Conforms, hk] at hc
    simp only [namedAct, hk] at h
    cases k with
    | object => cases h
    | _ => cases hc
  | raise vs msg ext =>
    simp only [Conforms, hk] at hc
    simp only [namedAct, hk] at h
    cases k with
    | object | interface | union => cases h
    | _ => cases hc
  | obj rt =>
    simp only [Conforms, hk] at hc
    simp only [namedAct, hk] at h
    cases k with
    | input => exact hi rfl
    | object => cases h
    | scalar | enum => cases hc
    | interface | union =>
      simp only [Bool.and_eq_true, beq_iff_eq] at hc
      simp only [hc.1, hc.2, if_true] at h
      cases h

theorem completeValue_noInt (s : SchemaD) (execSub : String → Path → List Sel → R (Data × List Err)) (nodes : List FNode) :
    ∀ (t : Ty) (path : Path) (v : RVal), (∃ k, kindOf s t.base = some k ∧ k ≠ .input) → Conforms s t v = true →
      (∀ rt' p, kindOf s rt' = some .object → Under s rt' t.base → NoInt (execSub rt' p (mergedSelections nodes))) →
      NoInt (completeValue s execSub nodes t path v) := by
  intro t
  induction t with
  | nonNull t ih =>
    intro path v hk hc he
    rw [completeValue_nonNull]
    exact noInt_bind (ih path v hk hc he) fun p _ => noInt_ok _
  | list t ih =>
    intro path v hk hc he
    have items : ∀ vs, vs.all (Conforms s t) = true → NoInt (completeList (completeValue s execSub nodes t) path 0 vs) :=
      fun vs hvs => completeList_noInt _ (fun v => Conforms s t v = true) (fun p v hv => ih p v hk hv he) path vs 0
        (List.all_eq_true.mp hvs)
    rw [completeValue_list]
    cases v with
    | null => exact noInt_ok _
    | leaf j => cases hc
    | obj rt => cases hc
    | raise vs msg ext =>
      intro cls h
      rcases raiseAfter_eq_error h with h | ⟨_, _, _, h⟩
      · exact items vs hc cls h
      · cases h
    | list vs => exact noInt_bind (items vs hc) fun p _ => noInt_ok _
  | named n =>
    intro path v ⟨k, hk, hi⟩ hc he
    rw [completeValue_named]
    have hs := namedAct_spec s n v
    have hn := conforms_named (n := n) hk hi hc
    generalize namedAct s n v = a at hs hn
    cases a with
    | internal c => exact absurd rfl (hn c)
    | sub rt => exact he rt path hs.2.1 (hs.2.2.imp_right And.right)
    | _ => exact nofun

/-- one response key always denotes one field -/
def KeyConsistent (F : FSet) : Prop := ∀ a ∈ F, ∀ b ∈ F, a.1 = b.1 → a.2.1 = b.2.1

theorem keyConsistent_of_bool (doc : Doc) (h : keyConsistentB doc = true) : KeyConsistent (docFields doc) := by
  intro a ha b hb hab
  unfold keyConsistentB at h
  simp only [List.all_eq_true] at h
  have := h a ha b hb
  simp at this
  rcases this with h1 | h1
  · exact absurd hab h1
  · exact h1

/-- the loop over the groups raises no internal error if every group is non-empty, headed by `__typename` or by a
    non-meta name, and — when that name is a field of the runtime type — the recursive executions on the merged
    sub-selections of the group raise none (the resolver's value conforms to the field's type: `WorldTyped`) -/
theorem executeGroups_noInt_of (s : SchemaD) (hs : SchemaOk s) (w : World) (hw : WorldTyped s w)
    (execSub : String → Path → List Sel → R (Data × List Err)) (rt : String) (path : Path) :
    ∀ g : Grouped,
      (∀ kv ∈ g, ∃ node more, kv.2 = node :: more ∧ (isMeta node.name = true → node.name = "__typename") ∧
        ∀ fd, isMeta node.name = false → fieldOf s rt node.name = some fd → ∀ rt' p, kindOf s rt' = some .object →
          Under s rt' fd.type.base → NoInt (execSub rt' p (mergedSelections kv.2))) →
      NoInt (executeGroups s w execSub rt path g) := by
  intro g
  induction g with
  | nil => exact fun _ => noInt_ok _
  | cons kv rest ih =>
    intro hg
    have ihr := ih fun kv hkv => hg kv (List.mem_cons_of_mem _ hkv)
    obtain ⟨node, more, hnm, hmeta, hsub⟩ := hg kv List.mem_cons_self
    have hsp := groupAct_spec (s := s) (parent := rt) kv.2
    rw [executeGroups_cons]
    refine noInt_bind (fun cls h => ?_) fun a ha => ?_
    · -- the lookup fails on an empty group or a meta field other than `__typename`
      rw [h] at hsp
      obtain ⟨hm, hne⟩ := hsp.2 node more hnm
      exact hne (hmeta hm)
    · cases a with
      | skip => exact ihr
      | typename => exact noInt_bind ihr fun _ _ => noInt_ok _
      | field fd =>
        obtain ⟨node', more', hn', hm, hfo⟩ := groupAct_field ha
        rw [hnm] at hn'
        cases hn'
        refine noInt_bind ?_ fun _ _ => noInt_bind ihr fun _ _ => noInt_ok _
        rw [hnm, resolveField_cons]
        have hfs := fieldAct_spec w rt fd (path ++ [Seg.key kv.1]) node
        have hwt := fun a => hw rt fd.name (path ++ [Seg.key kv.1]) a fd (by rw [fieldOf_name s rt node.name fd hfo]; exact hfo)
        cases hfa : fieldAct w rt fd (path ++ [Seg.key kv.1]) node with
        | nullWith k => exact noInt_ok _
        | boom =>
          rw [hfa] at hfs
          obtain ⟨a, ha⟩ := hfs
          have := hwt a
          rw [ha] at this
          exact this.elim
        | complete v =>
          rw [hfa] at hfs
          obtain ⟨a, ha⟩ := hfs
          have hc := hwt a
          rw [ha] at hc
          intro cls h
          rw [catchField_internal] at h
          exact completeValue_noInt s execSub (node :: more) fd.type _ v (hs.kinds rt node.name fd hfo) hc
            (hnm ▸ hsub fd hm hfo) cls h

theorem getOperation_mem (doc : Doc) (opname : Option String) (o : Op) (h : getOperation doc opname = some o) : o ∈ doc.ops :=
  C04.getOperation_mem h

/-! ### non-vacuity: a schema with an interface, a covariant implementation, and a typed world -/
def exS : SchemaD :=
  { types := [{ kind := .object, name := "Query", fields := [{ name := "n", type := .named "Node" }] },
              { kind := .interface, name := "Node", fields := [{ name := "id", type := .named "ID" }] },
              { kind := .object, name := "Ob", interfaces := ["Node"], fields := [{ name := "id", type := .nonNull (.named "ID") }] }] }

example : Conforms exS (.named "Node") (.obj "Ob") = true := by decide +kernel
example : Conforms exS (.named "Node") (.obj "Query") = false := by decide +kernel
example : Conforms exS (.list (.nonNull (.named "ID"))) (.list [.leaf (.str "a"), .null]) = true := by decide +kernel

end PyGql.Props.C05
