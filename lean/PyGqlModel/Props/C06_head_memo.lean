/-
  C06 - property theorems: the headline statements for the validator /repo runs (memoised overlap search).

  `Props/C06_head.lean` states `verdict_iff_all` / `accepted_spec_valid_all` with the overlap rule's UN-memoised search
  (the code before fix 7e75356) and therefore needs the static rank check `rankOkB` among `DocOk` (fuel sufficiency:
  nesting through fragment spreads below ~100 levels, acyclic). With `Props/C06_overlap_memo_complete.lean` the same
  statements hold for the chain whose overlap rule is the memoised one (`SilentM`), with fewer hypotheses:
  `DocOkM` = selection-set identities pairwise distinct (`wfIdsB`), no `__schema` / `__type` / `__typename` selection with
  a sub-selection (`noMetaSubsB`), non-empty fragment names - no ranks at all (the syntactic ranks the termination
  proof needs exist for every such document: `rankSynB_of_wfIds`). What remains, precisely:
    * `wfIdsB`, `NamesNonEmpty`: guaranteed by the parser / the harness encoding, not derivable inside the model (`Doc`
      carries identities and names as data);
    * `noMetaSubsB`: for `__schema { … }` / `__type { … }` the search derives the sub-selection's parent type through
      `parent_type.field_map`, which does not know the meta fields, `TypeInfoVisitor` through `_get_field_def`:
      `ParentsAgree` is FALSE for such documents (counted, not compared on the clause);
    * `SchemaOutputs s`: every field of the schema has an output type (schema validation).
  Of `OverlapHyps`: ParentsAgree is DERIVED (from the clauses of ScalarLeafs and FragmentsOnCompositeTypes - available on
  both sides of the equivalence); "the `ssid == fid` shortcut is not taken" and NoCrash are NOT NEEDED for the memoised
  search (`Props/C06_overlap_memo_complete.lean`: the shortcut may be taken, the search terminates on every document).
  `verdict_iff_all_memo` (through `rule_overlapping_fields_memo_iff_wf`) is the CURRENT lone-run headline; `verdict_iff_all` of
  `Props/C06_head.lean` is the earlier form (more hypotheses, the code before the fix); the statement about the chain
  `validate_ast` runs is `verdictM_iff_spec` (`Props/C06_chain.lean`), proved from `verdict_iff_all_memo`.
-/
import PyGqlModel.Props.C06_head
import PyGqlModel.Props.C06_overlap_memo_complete
import PyGqlModel.Props.C06_overlap_memo_modes
namespace PyGql.Props.C06
open PyGql PyGql.Validate PyGql.Validate.Spec

/-- "the rule reports nothing", the overlap rule being the one /repo runs (memoised search) -/
def SilentM (s : SchemaD) (fx : Fixes) (r : Rule) (d : Doc) : Prop :=
  if r = .overlappingFieldsCanBeMerged then (overlapMemoRun s fx d).1 = 0 else Silent s fx r d

theorem silentM_of_ne {s : SchemaD} {fx : Fixes} {r : Rule} {d : Doc} (h : r ≠ .overlappingFieldsCanBeMerged) :
    SilentM s fx r d ↔ Silent s fx r d := by
  unfold SilentM; rw [if_neg h]

theorem silentM_overlap {s : SchemaD} {fx : Fixes} {d : Doc} :
    SilentM s fx .overlappingFieldsCanBeMerged d ↔ (overlapMemoRun s fx d).1 = 0 := by
  unfold SilentM; rw [if_pos rfl]

/-- what the statements below assume of a document -/
structure DocOkM (s : SchemaD) (d : Doc) : Prop where
  checks : DocChecksMemo s d
  names : NamesNonEmpty d

/-- `DocOk` (with the rank check of the un-memoised search) is stronger -/
theorem docOkM_of_docOk {s : SchemaD} {d : Doc} (h : DocOk s d) : DocOkM s d :=
  ⟨⟨h.checks.ids, h.checks.noMeta⟩, h.names⟩

/-- accepted ⇒ valid by all 26 clauses, the overlap rule being the memoised one (alone runs, recorded errors only: see `Silent`;
    the chain `validate_ast` runs, exception flag included: `chainM_accepted_spec_valid`, `Props/C06_chain.lean`) -/
theorem accepted_spec_valid_all_memo (s : SchemaD) (fx : Fixes) (hfx : HeadVars fx) (hs : SchemaOutputs s) (d : Doc)
    (hd : DocOkM s d) (h : ∀ r ∈ Rule.all, SilentM s fx r d) : ∀ r ∈ Rule.all, SpecAll r s fx d := by
  have hsil : ∀ r ∈ Rule.all, r ≠ .overlappingFieldsCanBeMerged → Silent s fx r d := fun r hr ho =>
    (silentM_of_ne ho).mp (h r hr)
  have hnd : (Spec.fragNames d).Nodup :=
    (rule_unique_fragment_names_iff s fx d).mp (hsil .uniqueFragmentNames (by decide) (by decide))
  have h25 : ∀ r ∈ Rule.all, r ≠ .overlappingFieldsCanBeMerged → SpecAll r s fx d := fun r hr ho =>
    (rule_iff_nonoverlap s fx hfx d hd.names hnd r (provedAll_complete r hr) ho).mp (hsil r hr ho)
  intro r hr
  by_cases ho : r = .overlappingFieldsCanBeMerged
  · subst ho
    exact (rule_overlapping_fields_memo_iff_wf s fx hfx.2.2.2 d hd.checks hd.names hs
      (h25 .scalarLeafs (by decide) (by decide)) (h25 .fragmentsOnCompositeTypes (by decide) (by decide))).mp
      (silentM_overlap.mp (h _ hr))
  · exact h25 r hr ho

/-- valid by all 26 clauses ⇒ accepted, no side condition of the merge rule at all (alone runs: see `Silent`; the chain
    `validate_ast` runs: `spec_valid_chainM_accepts`, `Props/C06_chain.lean`; that the lone memoised overlap run raises nothing:
    `overlap_memo_run_no_crash`) -/
theorem spec_valid_accepted_all_memo (s : SchemaD) (fx : Fixes) (hfx : HeadVars fx) (d : Doc) (hne : NamesNonEmpty d)
    (h : ∀ r ∈ Rule.all, SpecAll r s fx d) : ∀ r ∈ Rule.all, SilentM s fx r d := by
  intro r hr
  by_cases ho : r = .overlappingFieldsCanBeMerged
  · subst ho
    exact silentM_overlap.mpr (overlap_memo_no_false_alarm s fx hfx.2.2.2 d (h _ hr))
  · exact (silentM_of_ne ho).mpr (spec_valid_accepted_all s fx hfx d hne h r hr)

/-- the equivalence for the 26 rules, the overlap rule as /repo runs it (alone runs: see `Silent`; the chain `validate_ast`
    runs, exception flag included: `chainM_silent_iff_spec`, `verdictM_iff_spec` of `Props/C06_chain.lean`, proved FROM this
    theorem and `chainM_silent_iff_alone`) -/
theorem verdict_iff_all_memo (s : SchemaD) (fx : Fixes) (hfx : HeadVars fx) (hs : SchemaOutputs s) (d : Doc)
    (hd : DocOkM s d) : (∀ r ∈ Rule.all, SilentM s fx r d) ↔ (∀ r ∈ Rule.all, SpecAll r s fx d) :=
  ⟨accepted_spec_valid_all_memo s fx hfx hs d hd, spec_valid_accepted_all_memo s fx hfx d hd.names⟩

/-- the same for the code of /repo HEAD -/
theorem verdict_iff_all_memo_head (s : SchemaD) (hs : SchemaOutputs s) (d : Doc) (hd : DocOkM s d) :
    (∀ r ∈ Rule.all, SilentM s Fixes.all r d) ↔ (∀ r ∈ Rule.all, SpecAll r s Fixes.all d) :=
  verdict_iff_all_memo s Fixes.all headVars_all hs d hd

/-- with 5.5.1.4 proper for NoUnusedFragments -/
theorem verdict_iff_all_memo_std (s : SchemaD) (fx : Fixes) (hfx : HeadVars fx) (hs : SchemaOutputs s) (d : Doc)
    (hd : DocOkM s d) : (∀ r ∈ Rule.all, SilentM s fx r d) ↔ (∀ r ∈ Rule.all, SpecStd r s fx d) :=
  (verdict_iff_all_memo s fx hfx hs d hd).trans (specStd_all_iff s fx d).symm

/-- the memo is verdict-neutral for the whole chain: on documents covered by both headline theorems (`DocOk`: within the
    rank bound of the un-memoised search) the chain /repo runs and the chain of `Props/C06_head.lean` accept the same
    documents - cyclic fragment graphs and duplicate fragment names included (there both chains reject) -/
theorem verdict_memo_neutral (s : SchemaD) (fx : Fixes) (hfx : HeadVars fx) (hs : SchemaOutputs s) (d : Doc)
    (hd : DocOk s d) : (∀ r ∈ Rule.all, SilentM s fx r d) ↔ (∀ r ∈ Rule.all, Silent s fx r d) :=
  (verdict_iff_all_memo s fx hfx hs d (docOkM_of_docOk hd)).trans (verdict_iff_all s fx hfx hs d hd).symm

/-- attribution, the overlap rule being the memoised one (on the rules run ALONE: "that rule alone reports, the others
    alone are silent"; that the CHAIN then records an error OF THAT RULE is `chainM_attribution`,
    `Props/C06_chain.lean`): if the clause of exactly one rule fails, that rule
    reports and no other does (same visible exception as `attribution_all`) -/
theorem attribution_all_memo (s : SchemaD) (fx : Fixes) (hfx : HeadVars fx) (hs : SchemaOutputs s) (d : Doc)
    (hd : DocOkM s d) (r : Rule) (hr : r ∈ Rule.all) (hbad : ¬ SpecAll r s fx d)
    (hothers : ∀ r' ∈ Rule.all, r' ≠ r → SpecAll r' s fx d) :
    ¬ SilentM s fx r d ∧
      ∀ r' ∈ Rule.all, r' ≠ r → ¬ (r = .uniqueFragmentNames ∧ r' = .noFragmentCycles) → SilentM s fx r' d := by
  constructor
  · intro hsil
    apply hbad
    by_cases ho : r = .overlappingFieldsCanBeMerged
    · subst ho
      exact (rule_overlapping_fields_memo_iff_wf s fx hfx.2.2.2 d hd.checks hd.names hs
        (hothers .scalarLeafs (by decide) (by decide)) (hothers .fragmentsOnCompositeTypes (by decide) (by decide))).mp
        (silentM_overlap.mp hsil)
    · have hsil' := (silentM_of_ne ho).mp hsil
      by_cases hu : r = .uniqueFragmentNames
      · subst hu
        exact (rule_unique_fragment_names_iff s fx d).mp hsil'
      · have hnd : (Spec.fragNames d).Nodup := hothers .uniqueFragmentNames (by decide) (fun e => hu e.symm)
        exact (rule_iff_nonoverlap s fx hfx d hd.names hnd r (provedAll_complete r hr) ho).mp hsil'
  · intro r' hr' hdiff hex
    by_cases ho : r' = .overlappingFieldsCanBeMerged
    · subst ho
      exact silentM_overlap.mpr (overlap_memo_no_false_alarm s fx hfx.2.2.2 d (hothers _ hr' hdiff))
    · refine (silentM_of_ne ho).mpr ?_
      by_cases hu : r = .uniqueFragmentNames
      · subst hu
        have hc : r' ≠ .noFragmentCycles := fun e => hex ⟨rfl, e⟩
        exact (rule_iff_names_free s fx hfx d r' (provedAll_complete r' hr') hc ho).mpr (hothers r' hr' hdiff)
      · have hnd : (Spec.fragNames d).Nodup := hothers .uniqueFragmentNames (by decide) (fun e => hu e.symm)
        exact (rule_iff_nonoverlap s fx hfx d hd.names hnd r' (provedAll_complete r' hr') ho).mpr (hothers r' hr' hdiff)

/-! non-vacuity: the hypotheses hold, by evaluation, on the example schema and document of
    `Props/C06_overlap_examples.lean`; a document nested deeper than the un-memoised rank bound is `DocOkM` but not
    `DocOk` -/
example : DocOkM oSchema (oDocFrag "a") :=
  ⟨⟨by decide, by decide⟩, fun f hf => by
    simp only [Spec.fragNames, oDocFrag] at hf
    revert f; decide⟩

/-- `o { o { … { a } … } }`, `n` levels, selection-set identities `k+1 … k+n+1` -/
def deepSels : Nat → Nat → List Sel
  | 0, _ => [fld none "a"]
  | n + 1, k => [.field none "o" [] [] true (k + 1) (deepSels n (k + 1))]

private theorem selsNodes_deepSels_succ (n k : Nat) : selsNodes (deepSels (n + 1) k) =
    .field "o" [] [] true :: .selectionSet (k + 1) (deepSels n (k + 1)) :: selsNodes (deepSels n (k + 1)) := by
  simp only [deepSels, selsNodes, selNodes, argsNodes, dirsNodes, List.flatMap_nil, List.nil_append, if_true,
    List.append_nil]

private theorem nodes_deepSels (n k : Nat) : nodes ⟨[opV [] k (deepSels n k)]⟩ =
    .document ⟨[opV [] k (deepSels n k)]⟩ :: .operation "query" none [] [] (deepSels n k) ::
      .selectionSet k (deepSels n k) :: selsNodes (deepSels n k) := by
  simp only [nodes, opV, defNodes, dirsNodes, List.flatMap_cons, List.flatMap_nil, List.nil_append, List.append_nil]

/-- every level of nesting costs two ranks: whatever `ρ`, if the rank check passes on `n` nested selection sets then
    `ρ` of the outermost is at least `2 * n + 2` -/
private theorem deepSels_rank (s : SchemaD) (d : Doc) (ρ : Nat → Nat) : ∀ n k,
    (∀ m ∈ Node.selectionSet k (deepSels n k) :: selsNodes (deepSels n k), nodeRankOk s d ρ m = true) →
    2 * n + 2 ≤ ρ k
  | 0, k, h => by
    have h0 := h _ (List.mem_cons_self ..)
    simp only [nodeRankOk, Bool.and_eq_true, decide_eq_true_eq] at h0
    exact h0.1.1.1
  | n + 1, k, h => by
    rw [selsNodes_deepSels_succ] at h
    have ih := deepSels_rank s d ρ n (k + 1) fun m hm => h m (List.mem_cons_of_mem _ (List.mem_cons_of_mem _ hm))
    have h0 := h _ (List.mem_cons_self ..)
    have hr : (collectSels s none (deepSels (n + 1) k) ([], [])).1 =
        [("o", [{ parent := none, name := "o", args := [], hasSub := true, ssid := k + 1, sub := deepSels n (k + 1),
                  fdef := none }])] := rfl
    simp only [nodeRankOk, hr, Bool.and_eq_true, decide_eq_true_eq, List.all_cons, List.all_nil, Bool.and_true,
      entryRank, if_true] at h0
    omega

/-- ... and twice the rank has to stay within the fuel: no assignment of ranks passes beyond ~100 levels -/
theorem deepSels_rank_fails (s : SchemaD) (ρ : Nat → Nat) (n k : Nat) (hn : overlapFuel < 4 * n + 6) :
    rankOkB s ⟨[opV [] k (deepSels n k)]⟩ ρ = false := by
  refine Bool.eq_false_iff.mpr fun h => ?_
  rw [rankOkB, nodes_deepSels, List.all_cons, List.all_cons, Bool.and_eq_true, Bool.and_eq_true] at h
  have hall := List.all_eq_true.mp h.2.2
  have h1 := deepSels_rank s _ ρ n k hall
  have h0 := hall _ (List.mem_cons_self ..)
  simp only [nodeRankOk, Bool.and_eq_true, decide_eq_true_eq] at h0
  omega

private theorem deepSels_noMeta : ∀ n k, (selsNodes (deepSels n k)).all nodeNoMetaSub = true
  | 0, _ => rfl
  | n + 1, k => by
    rw [selsNodes_deepSels_succ, List.all_cons, List.all_cons, deepSels_noMeta n (k + 1)]
    rfl

private theorem deepSels_ids : ∀ n k, idsOf (selsNodes (deepSels n k)) = List.range' (k + 1) n
  | 0, _ => rfl
  | n + 1, k => by
    rw [selsNodes_deepSels_succ, List.range'_succ, ← deepSels_ids n (k + 1)]
    rfl

/-- the two checks of the memoised statements hold at every depth -/
theorem deepSels_checks (s : SchemaD) (n k : Nat) : DocChecksMemo s ⟨[opV [] k (deepSels n k)]⟩ := by
  constructor
  · rw [wfIdsB_iff, WfIds, selSetIds, nodes_deepSels]
    show (k :: idsOf (selsNodes (deepSels n k))).Nodup
    rw [deepSels_ids, ← List.range'_succ]
    exact List.nodup_range' ..
  · rw [noMetaSubsB, nodes_deepSels]
    exact deepSels_noMeta n k

/-- 120 nested selection sets: beyond the rank bound of the un-memoised search (`DocOk` fails: `rankOkB` false),
    within the hypotheses of the memoised statements -/
example : let dd : Doc := ⟨[opV [] 1 (deepSels 120 1)]⟩
    rankOkB oSchema dd (rankOf (computeRanks dd)) = false ∧ DocChecksMemo oSchema dd :=
  ⟨deepSels_rank_fails _ _ 120 1 (by decide), deepSels_checks _ 120 1⟩

/-- non-vacuity on a document WITH sub-selections, a fragment spread below fields and mutually exclusive parents (the
    memo-modes document of `Props/C06_overlap_memo_modes.lean`): every hypothesis of `rule_overlapping_fields_memo_iff_wf`
    holds (the clauses of the four other rules through their own `rule_*_iff` theorems, by evaluating the model) -/
example : (overlapMemoRun pSchema Fixes.all (pDoc pF1 pF2 pF3)).1 = 0 ↔
    Spec.overlappingFieldsCanBeMerged pSchema (pDoc pF1 pF2 pF3) := by
  have hne : NamesNonEmpty (pDoc pF1 pF2 pF3) := fun f hf => by
    simp only [Spec.fragNames, pDoc] at hf
    revert f; decide
  exact rule_overlapping_fields_memo_iff_wf pSchema Fixes.all rfl _ ⟨by decide, by decide⟩ hne
    (schemaOutputs_of_check _ (by decide))
    ((rule_scalar_leafs_iff pSchema Fixes.all _).mp (by unfold Silent; decide +kernel))
    ((rule_fragments_on_composite_types_iff pSchema Fixes.all _).mp (by unfold Silent; decide +kernel))

/-- non-vacuity on a CYCLIC document, where `_conflicts_between_fields_and_fragment` takes the
    `field_map is fragment_field_map` shortcut and the un-memoised search exhausts its fuel
    (`hunt_doc_crashes_unmemoised`): `{ ...F } fragment F on Query { q { q { ...F } ...F } }` - every hypothesis of
    `rule_overlapping_fields_memo_iff_wf` holds, the memoised rule is silent, so the clause of 5.3.2 holds (the document's
    only violation is the fragment cycle) -/
example : Spec.overlappingFieldsCanBeMerged hSchema hDoc := by
  have hne : NamesNonEmpty hDoc := fun f hf => by
    simp only [Spec.fragNames, hDoc] at hf
    revert f; decide
  exact (rule_overlapping_fields_memo_iff_wf hSchema Fixes.all rfl _ ⟨by decide, by decide⟩ hne
    (schemaOutputs_of_check _ (by decide))
    ((rule_scalar_leafs_iff hSchema Fixes.all _).mp (by unfold Silent; decide +kernel))
    ((rule_fragments_on_composite_types_iff hSchema Fixes.all _).mp (by unfold Silent; decide +kernel))).mp
    (by decide +kernel)

/-- ... and with a conflict inside the cycle (`… a: b a: q`) the memoised rule reports and the clause fails -/
example : let dc : Doc := ⟨[opV [] 1 [.spread "F" []],
      .frag "F" "Query" [] 2 [.field none "q" [] [] true 3 [.field none "q" [] [] true 4 [.spread "F" []], .spread "F" []],
        .field (some "a") "b" [] [] false 0 [], .field (some "a") "q" [] [] false 0 []]]⟩
    ¬ Spec.overlappingFieldsCanBeMerged hSchema dc := by
  intro dc H
  have := overlap_memo_no_false_alarm hSchema Fixes.all rfl dc H
  revert this
  decide +kernel

end PyGql.Props.C06
