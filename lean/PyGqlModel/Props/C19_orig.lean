/-
  C19 — calibration, non-vacuity examples, and the machine-checked refutations:
  the model of the UNCHANGED `MaxDepthValidationRule.__call__` (`ruleOrig`, through
  `selected_fields`) falsifies `flags_iff`, `no_raise` and `wrap_*_ge` (defect Q1); the rule after
  C19-Q1.patch (`rule`) still raises on raw variables that omit a defaulted directive variable (finding Q1-vars).
  Every witness below is also a replay on the implementation (harness/corr/C19.py, corpus/C19).
-/
import PyGqlModel.Props.C19_wrap

namespace PyGql.Props.C19
open PyGql.Depth PyGql.DepthSpec PyGql.Depth.Lemmas

/-- `name { sub }` without alias or directives -/
def fld (n : String) (sub : List Sel := []) : Sel := .field none n {} sub
def ali (a n : String) (sub : List Sel := []) : Sel := .field (some a) n {} sub
def anon (sels : List Sel) : Op := ⟨none, sels⟩
def one (sels : List Sel) (frags : List Frag := []) : Doc := ⟨[anon sels], frags⟩

/-! ### calibration: the docstring example of `max_depth.py` has depth 4 -/

def docstringOp : Op := anon [fld "hero" [fld "name", fld "friends" [.spread "friendsData" {}]]]
def docstringDoc : Doc :=
  ⟨[docstringOp], [⟨"friendsData", [fld "friends" [fld "name", fld "friends" [fld "name"]]]⟩]⟩

theorem docstring_depth : depth docstringDoc [] docstringOp = 4 := by decide +kernel

/-- the unchanged and the fixed rule agree with it (limit 3 flags with depth 4, limit 4 does not) -/
theorem docstring_rule :
    rule docstringDoc.fuel 3 none docstringDoc [] = .ok [(0, 4)] ∧
    rule docstringDoc.fuel 4 none docstringDoc [] = .ok [] ∧
    ruleOrig docstringDoc.fuel 3 none docstringDoc [] = .ok [(0, 4)] ∧
    ruleOrig docstringDoc.fuel 4 none docstringDoc [] = .ok [] := by decide +kernel

private theorem valid_of_checks (doc : Doc) (vars : Vars) (h1 : acyclic doc.frags = true)
    (h2 : doc.ops.all (fun op => boundL vars op.sels) = true)
    (h3 : doc.frags.all (fun f => boundL vars f.sels) = true) : Valid doc vars := by
  simp only [List.all_eq_true] at h2 h3
  exact ⟨h1, h2, h3⟩

example : Valid docstringDoc [] := valid_of_checks _ _ (by decide +kernel) (by decide +kernel) (by decide +kernel)

/-- two operations, nested fragments, a variable-steered directive at the top of an operation -/
def richDoc : Doc :=
  ⟨[⟨some "A", [.inline {} [.spread "F" { skip := some (.var "v") }], fld "c"]⟩,
    ⟨some "B", [fld "a" [ali "x" "a" [fld "c"], ali "x" "a" [fld "b" [fld "d"]]]]⟩],
   [⟨"F", [fld "a" [.spread "G" {}]]⟩, ⟨"G", [fld "b" [fld "c"]]⟩]⟩

example : Valid richDoc [("v", false)] := valid_of_checks _ _ (by decide +kernel) (by decide +kernel) (by decide +kernel)
example : rule richDoc.fuel 1 none richDoc [("v", false)] = .ok [(0, 2), (1, 3)] := by decide +kernel
example : rule richDoc.fuel 1 none richDoc [("v", true)] = .ok [(1, 3)] := by decide +kernel
example : rule richDoc.fuel 1 (some "A") richDoc [("v", false)] = .ok [(0, 2)] := by decide +kernel
example : rule richDoc.fuel 1 (some "Nope") richDoc [("v", false)] = .ok [] := by decide +kernel

/-- a flat operation: valid, depth 0, nothing reported, nothing raised -/
example : Valid (one [fld "c"]) [] := valid_of_checks _ _ (by decide +kernel) (by decide +kernel) (by decide +kernel)
example : rule (one [fld "c"]).fuel 0 none (one [fld "c"]) [] = .ok [] := by decide +kernel

/-- instances of the wrapping relations -/
example : WrapInline [fld "a" [fld "b" [fld "c"], fld "c"]] [fld "a" [.inline {} [fld "b" [fld "c"]], fld "c"]] :=
  .field [] [] none "a" {} _ _ (.here [] [fld "b" [fld "c"]] [fld "c"])
example : WrapSpread "F" [fld "a" [fld "c"]] [fld "a" [fld "c"], fld "d"] [.spread "F" {}, fld "d"] :=
  .here [] [fld "d"]

/-- `wrap_spread_ge` instantiated: `{ a { c } d }` → `{ ...F d }  fragment F { a { c } }` (all hypotheses hold) -/
example : ∃ d d', depthFixed (one [fld "a" [fld "c"], fld "d"]).fuel (anon [fld "a" [fld "c"], fld "d"]) [] [] = .ok d ∧
    depthFixed (Doc.fuel ⟨[anon [.spread "F" {}, fld "d"]], [⟨"F", [fld "a" [fld "c"]]⟩]⟩)
      ⟨none, [.spread "F" {}, fld "d"]⟩ [⟨"F", [fld "a" [fld "c"]]⟩] [] = .ok d' ∧ d ≤ d' ∧
    d' = depth (one [fld "a" [fld "c"], fld "d"]) [] (anon [fld "a" [fld "c"], fld "d"]) :=
  wrap_spread_ge (one [fld "a" [fld "c"], fld "d"]) ⟨[anon [.spread "F" {}, fld "d"]], [⟨"F", [fld "a" [fld "c"]]⟩]⟩ []
    (valid_of_checks _ _ (by decide +kernel) (by decide +kernel) (by decide +kernel)) (anon [fld "a" [fld "c"], fld "d"]) (by simp [one])
    "F" [fld "a" [fld "c"]] [.spread "F" {}, fld "d"] (.here [] [fld "d"]) rfl
    (by intro f hf; cases hf) (by intro f hf; cases hf) (by decide +kernel) (by simp [anon])

/-- the declarative validity is inhabited by the same documents -/
example : ValidDecl richDoc [("v", false)] :=
  ⟨by unfold UniqueNames; decide, acyclic_sound _ (by decide +kernel), (valid_of_checks richDoc [("v", false)] (by decide +kernel) (by decide +kernel) (by decide +kernel)).2⟩

/-- the pipeline at limit 0 (the falsy limit): a flat request is executed, a depth-1 request is rejected, a
    request the default validator rejects is rejected without a depth error; nothing raises -/
example : pipeline 5 0 none (one [fld "c"]) [[]] [] 0 = .executed := by decide +kernel
example : pipeline 5 0 none (one [fld "a" [fld "c"]]) [[]] [] 0 = .rejected [(0, 1)] 0 := by decide +kernel
example : (pipeline 5 0 none (one [fld "c"]) [[]] [] 2).depthRejected = false := by decide +kernel
example : (pipeline 5 0 (some "Nope") (one [fld "a" [fld "c"]]) [[]] [] 0) = .executed := by decide +kernel

/-! ### refutations on the unchanged rule (defect Q1) -/

/-- the full statements, for an arbitrary implementation `r` of the rule -/
def NoRaise (r : Nat → Nat → Option String → Doc → Vars → Except Err (List (Nat × Nat))) : Prop :=
  ∀ doc vars limit filter, Valid doc vars → ∃ errs, r doc.fuel limit filter doc vars = .ok errs

def FlagsIff (r : Nat → Nat → Option String → Doc → Vars → Except Err (List (Nat × Nat))) : Prop :=
  ∀ doc vars limit, Valid doc vars → ∀ errs, r doc.fuel limit none doc vars = .ok errs →
    ∀ i op, doc.ops[i]? = some op → ((∃ d, (i, d) ∈ errs) ↔ depth doc vars op > limit)

/-- measured depth never decreases when `sels` is replaced by an inline-wrapped version -/
def WrapInlineGe (dp : Nat → Op → List Frag → Vars → Except Err Nat) : Prop :=
  ∀ (frags : List Frag) (vars : Vars) (sels sels' : List Sel), Valid ⟨[anon sels], frags⟩ vars → WrapInline sels sels' →
    ∀ d d', dp (Doc.fuel ⟨[anon sels], frags⟩) (anon sels) frags vars = .ok d →
      dp (Doc.fuel ⟨[anon sels'], frags⟩) (anon sels') frags vars = .ok d' → d ≤ d'

/-- the fixed rule satisfies the full statements -/
theorem fixed_no_raise : NoRaise rule := fun doc vars limit filter hv => no_raise doc vars hv limit filter

theorem fixed_flags_iff : FlagsIff rule := by
  intro doc vars limit hv errs he i op hi
  obtain ⟨errs', he', h⟩ := flags_iff doc vars hv limit none
  rw [he] at he'
  cases he'
  rw [(h i op hi).1]
  simp [opSelected]

theorem fixed_wrap_inline_ge : WrapInlineGe depthFixed := by
  intro frags vars sels sels' hv hw d d' hd hd'
  obtain ⟨e, e', h1, h2, h3, _⟩ := wrap_inline_ge ⟨[anon sels], frags⟩ ⟨[anon sels'], frags⟩ vars hv (anon sels)
    (by simp) sels' hw rfl (by simp [anon])
  simp only [anon] at h1 h2 hd hd'
  rw [hd] at h1; rw [hd'] at h2
  cases h1; cases h2
  exact h3

/-- Q1a — a flat query makes the unchanged rule raise `ValueError` (`max()` of nothing) -/
theorem orig_flat_raises : ruleOrig (one [fld "c"]).fuel 0 none (one [fld "c"]) [] = .error .value := by decide +kernel

theorem orig_no_raise_refuted : ¬ NoRaise ruleOrig := by
  intro h
  obtain ⟨errs, he⟩ := h (one [fld "c"]) [] 0 none (valid_of_checks _ _ (by decide +kernel) (by decide +kernel) (by decide +kernel))
  rw [orig_flat_raises] at he
  cases he

/-- Q1b — a top-level fragment is invisible: `{ ... { a { a { c } } } }` raises, and
    `{ a { c } ... { a { a { a { c } } } } }` (depth 3) passes a limit of 1 -/
def topInline : Doc := one [fld "a" [fld "c"], .inline {} [ali "y" "a" [fld "a" [fld "a" [fld "c"]]]]]

theorem orig_top_fragment_raises :
    ruleOrig (one [.inline {} [fld "a" [fld "a" [fld "c"]]]]).fuel 0 none (one [.inline {} [fld "a" [fld "a" [fld "c"]]]]) []
      = .error .value := by decide +kernel

theorem orig_top_fragment_ignored :
    depth topInline [] (anon [fld "a" [fld "c"], .inline {} [ali "y" "a" [fld "a" [fld "a" [fld "c"]]]]]) = 3 ∧
    ruleOrig topInline.fuel 1 none topInline [] = .ok [] ∧
    rule topInline.fuel 1 none topInline [] = .ok [(0, 3)] := by decide +kernel

/-- Q1c — of several fields with the same response key only the first sub-selection is measured -/
def sameKey : Doc := one [fld "a" [ali "x" "a" [fld "c"], ali "x" "a" [fld "a" [fld "a" [fld "c"]]]]]

theorem orig_same_key_first_only :
    depth sameKey [] (anon [fld "a" [ali "x" "a" [fld "c"], ali "x" "a" [fld "a" [fld "a" [fld "c"]]]]]) = 4 ∧
    ruleOrig sameKey.fuel 2 none sameKey [] = .ok [] ∧
    rule sameKey.fuel 2 none sameKey [] = .ok [(0, 4)] := by decide +kernel

theorem orig_flags_iff_refuted : ¬ FlagsIff ruleOrig := by
  intro h
  have := h sameKey [] 2 (valid_of_checks _ _ (by decide +kernel) (by decide +kernel) (by decide +kernel)) [] orig_same_key_first_only.2.1 0 _ rfl
  have hd := orig_same_key_first_only.1
  rw [hd] at this
  simp at this

/-- Q1d — `@skip/@include` on a root field is ignored by the unchanged rule -/
theorem orig_top_directive_ignored :
    ruleOrig 5 0 none ⟨[anon [.field none "a" { skip := some (.lit true) } [fld "c"]]], []⟩ [] = .ok [(0, 1)] ∧
    rule 5 0 none ⟨[anon [.field none "a" { skip := some (.lit true) } [fld "c"]]], []⟩ [] = .ok [] := by decide +kernel

/-- wrapping LOWERS the depth measured by the unchanged rule: `{ a { a { c } } }` measures 2,
    `{ a { c } ... }`-style wrapping of the deep root field hides it -/
theorem orig_wrap_inline_refuted : ¬ WrapInlineGe depthOrig := by
  intro h
  have hw : WrapInline [fld "c", fld "a" [fld "a" [fld "c"]], fld "b" [fld "c"]]
      [fld "c", .inline {} [fld "a" [fld "a" [fld "c"]]], fld "b" [fld "c"]] :=
    .here [fld "c"] [fld "a" [fld "a" [fld "c"]]] [fld "b" [fld "c"]]
  have := h [] [] _ _ (valid_of_checks _ _ (by decide +kernel) (by decide +kernel) (by decide +kernel)) hw 2 1 (by decide +kernel) (by decide +kernel)
  omega

/-! ### raw variables (finding Q1-vars) -/

/-- validators receive the RAW request variables: a directive variable that is omitted (legal when the
    operation declares a default) makes the rule — unchanged or fixed — raise `CoercionError` -/
theorem raw_variables_raise :
    rule 5 0 none ⟨[anon [.field none "a" { skip := some (.var "v") } [fld "c"]]], []⟩ [] = .error .coercion ∧
    ruleOrig 5 0 none ⟨[anon [fld "a" [.field none "a" { skip := some (.var "v") } [fld "c"]]]], []⟩ [] = .error .coercion := by
  decide +kernel

/-- after C19-Q1vars.patch the same request is fine: the declared default `true` skips the field (depth 0),
    a default `false` keeps it (depth 1 > 0), and a required variable that is provided is used -/
theorem defaulted_variable_ok :
    ruleV 5 0 none ⟨[anon [.field none "a" { skip := some (.var "v") } [fld "c"]]], []⟩ [[⟨"v", false, some true⟩]] [] = .ok [] ∧
    ruleV 5 0 none ⟨[anon [.field none "a" { skip := some (.var "v") } [fld "c"]]], []⟩ [[⟨"v", false, some false⟩]] [] = .ok [(0, 1)] ∧
    ruleV 5 0 none ⟨[anon [.field none "a" { skip := some (.var "v") } [fld "c"]]], []⟩ [[⟨"v", true, none⟩]] [("v", true)] = .ok [] := by
  decide +kernel

example : ValidV ⟨[anon [.field none "a" { skip := some (.var "v") } [fld "c"]]], []⟩ [[⟨"v", false, some true⟩]] [] := by
  refine ⟨by decide, ?_⟩
  intro i op hi
  cases i with
  | zero => simp at hi; subst hi; exact ⟨by decide, by intro f hf; cases hf⟩
  | succ i => simp at hi

/-- `query A($n: Int!) { a { a { a { c } } } w: d } query B { c }`: the deep operation `A` is reported whether
    `$n` is missing, `null`, of the wrong kind, or fine — an uncoercible operation is never skipped -/
def uncoDoc : Doc := ⟨[⟨some "A", [fld "a" [fld "a" [fld "a" [fld "c"]]], ali "w" "d"]⟩, ⟨some "B", [fld "c"]⟩], []⟩
def uncoDefs : List (List VarDefR) := [[⟨"n", .int, true, none⟩], []]

theorem uncoercible_still_measured :
    ruleR uncoDoc.fuel 1 none uncoDoc uncoDefs [] = .ok [(0, 3)] ∧
    ruleR uncoDoc.fuel 1 none uncoDoc uncoDefs [("n", .null)] = .ok [(0, 3)] ∧
    ruleR uncoDoc.fuel 1 none uncoDoc uncoDefs [("n", .list true)] = .ok [(0, 3)] ∧
    ruleR uncoDoc.fuel 1 none uncoDoc uncoDefs [("n", .int 3)] = .ok [(0, 3)] ∧
    coerceRaw [⟨"n", .int, true, none⟩] [] = none ∧ coerceRaw [⟨"n", .int, true, none⟩] [("n", .list true)] = none ∧
    coerceRaw [⟨"n", .int, true, none⟩] [("n", .null)] = none := by decide +kernel

/-- a Boolean directive variable given a JSON array does not coerce: the raw value steers the directive by
    truthiness (`[1]` skips, `[]` does not) -/
theorem uncoercible_raw_truthiness :
    ruleR 5 0 none ⟨[⟨some "A", [.field none "a" { skip := some (.var "v") } [fld "a" [fld "c"]]]⟩], []⟩
      [[⟨"v", .boolean, true, none⟩]] [("v", .list true)] = .ok [] ∧
    ruleR 5 0 none ⟨[⟨some "A", [.field none "a" { skip := some (.var "v") } [fld "a" [fld "c"]]]⟩], []⟩
      [[⟨"v", .boolean, true, none⟩]] [("v", .list false)] = .ok [(0, 2)] := by decide +kernel

/-- finding Q1-vars2: when the directive variable itself is unavailable (missing, or `null`) in the
    mapping the rule falls back to, `coerce_argument_values` raises `CoercionError` out of the rule — also for a
    VALID request that executes another operation of the document -/
theorem unavailable_directive_variable_raises :
    ruleR 5 3 none ⟨[⟨some "A", [.field none "a" { skip := some (.var "v") } [fld "c"]]⟩, ⟨some "B", [fld "c"]⟩], []⟩
      [[⟨"v", .boolean, true, none⟩], []] [] = .error .coercion ∧
    ruleR 5 3 none ⟨[⟨some "A", [.field none "a" { skip := some (.var "v") } [fld "c"]]⟩], []⟩
      [[⟨"v", .boolean, true, none⟩]] [("v", .null)] = .error .coercion := by decide +kernel

/-- after C19-Q1vars2.patch (`ruleRT`) the same requests no longer raise: the guarded selection is KEPT when its
    condition cannot be evaluated (depth 1 ≤ 3: nothing reported; at limit 0 it is reported), and a request
    whose variables are all available is measured exactly as before -/
theorem unavailable_directive_variable_kept :
    ruleRT 5 3 none ⟨[⟨some "A", [.field none "a" { skip := some (.var "v") } [fld "c"]]⟩, ⟨some "B", [fld "c"]⟩], []⟩
      [[⟨"v", .boolean, true, none⟩], []] [] = .ok [] ∧
    ruleRT 5 0 none ⟨[⟨some "A", [.field none "a" { skip := some (.var "v") } [fld "c"]]⟩, ⟨some "B", [fld "c"]⟩], []⟩
      [[⟨"v", .boolean, true, none⟩], []] [] = .ok [(0, 1)] ∧
    ruleRT 5 0 none ⟨[⟨some "A", [.field none "a" { skip := some (.var "v") } [fld "c"]]⟩], []⟩
      [[⟨"v", .boolean, true, none⟩]] [("v", .null)] = .ok [(0, 1)] ∧
    ruleRT 5 0 none ⟨[⟨some "A", [.field none "a" { skip := some (.var "v") } [fld "c"]]⟩], []⟩
      [[⟨"v", .boolean, true, none⟩]] [("v", .bool true)] = .ok [] := by decide +kernel

/-! ### cyclic documents (hunt finding C19/1) -/

def cycSelf : Doc := ⟨[anon [.spread "A" {}]], [⟨"A", [fld "s", .spread "A" {}]⟩]⟩
def cycIndirect : Doc := ⟨[anon [.spread "A" {}]], [⟨"A", [fld "s", .spread "B" {}]⟩, ⟨"B", [.spread "A" {}]⟩]⟩
def cycField : Doc := ⟨[anon [.spread "A" {}]], [⟨"A", [fld "a" [.spread "A" {}]]⟩]⟩
/-- the cycle is there but the operation does not select it (`@skip(if: true)`) -/
def cycSkipped : Doc :=
  ⟨[anon [fld "a" [fld "c"], .spread "A" { skip := some (.lit true) }]], [⟨"A", [fld "a" [.spread "A" {}]]⟩]⟩

/-- before C19-Q2.patch the traversal has no end on these documents: whatever the fuel (here the generous
    `budget`), it is used up — Python: `RecursionError` out of the rule -/
theorem cyclic_unrepaired_raises :
    ruleRT cycSelf.budget 3 none cycSelf [[]] [] = .error .recursion ∧
    ruleRT cycIndirect.budget 3 none cycIndirect [[]] [] = .error .recursion ∧
    ruleRT cycField.budget 3 none cycField [[]] [] = .error .recursion := by decide +kernel

/-- after it: the operation is reported as unbounded, at every limit; a cycle that is not selected does not matter -/
theorem cyclic_repaired_reports :
    ruleB 3 none cycSelf [[]] [] = .ok [(0, none)] ∧
    ruleB 3 none cycIndirect [[]] [] = .ok [(0, none)] ∧
    ruleB 3 none cycField [[]] [] = .ok [(0, none)] ∧
    ruleB 1000000 none cycField [[]] [] = .ok [(0, none)] ∧
    ruleB 0 none cycSkipped [[]] [] = .ok [(0, some 1)] ∧
    ruleB 1 none cycSkipped [[]] [] = .ok [] := by decide +kernel

/-- ACYCLIC chains through fragments are measured exactly, whatever their depth (general statement:
    `flags_iff_final`, which has no bound on the depth; the implementation's interpreter stack is the named
    divergence, removed for the depth by C19-Q3.patch). A small instance: three fragments of two levels each. -/
def chainDoc : Doc :=
  ⟨[anon [.spread "F0" {}]],
   [⟨"F0", [fld "a" [fld "a" [.spread "F1" {}]]]⟩, ⟨"F1", [fld "a" [fld "a" [.spread "F2" {}]]]⟩,
    ⟨"F2", [fld "a" [fld "a" [fld "c"]]]⟩]⟩

theorem acyclic_chain_exact :
    ruleB 5 none chainDoc [[]] [] = .ok [(0, some 6)] ∧ ruleB 6 none chainDoc [[]] [] = .ok [] ∧
    ruleB 100000 none chainDoc [[]] [] = .ok [] := by decide +kernel

end PyGql.Props.C19
