/-
  C18 — the success premise `visit … = .ok o` discharged from a SHAPE check.

  Every C18 theorem speaks about a visit that completed. The model's `visit` has error branches (`TypeError` from a
  dispatch miss, `AttributeError`, `ShapeError`, `NoneNode` for an unguarded `None` child, `NoMethod`). Here:

  * `wellShapedM T fuel m t` — a decidable check that reads ONLY shapes (it never builds a trace): the method exists; for every
    statement that applies to the node's kind the attribute is present and holds what the statement expects (one optional
    child / a list; `None` only under a guard); every child's class is resolved by the call target to a method for which the
    child is well-shaped in turn. `WellShaped T t` = the check at the method `visit` registers for the root, fuel `t.depth`;
  * `wellShaped_walk_ok`, `wellShaped_visit_ok` — a well-shaped tree is visited to completion by EVERY visitor that changes
    nothing, from every state: the premise of `identity_noop`, `balanced`, `once`, `coverage_partial`,
    `all_covered_children_visited`, `siblings_in_source_order_today`, … holds;
  * `witnesses_well_shaped` — the documents parsed by the real parser (both dialects, every node kind) pass it.

  PARTIAL (named): there is no Lean encoding `Ast.Document → Visit.Node` with `WellShaped table (encode d)` for every document
  the parser model produces; the link to parser-produced documents is the witnesses here plus, on every run, the driver
  evaluating `WellShaped` on every document of the correspondence (`shape` of the answer to `visit` requests).
-/
import PyGqlModel.VisitShape
import PyGqlModel.Props.C18_identity
import PyGqlModel.Props.C18_total

namespace PyGql.Props.C18
open PyGql.Visit PyGql.Generated.VisitTable

/-- decidable; computed from the (generated) table and the tree only -/
def WellShaped (T : Table) (t : Node) : Prop := wellShapedAt T t.depth t = true

instance (T : Table) (t : Node) : Decidable (WellShaped T t) := by unfold WellShaped; infer_instance

private def IsOk {α : Type} : Res α → Prop
  | .ok _ => True
  | _ => False

private theorem walkAll_ok_of {α : Type} (g : α → Res (List Ev)) : ∀ l : List α, (∀ a ∈ l, IsOk (g a)) → IsOk (walkAll g l) := by
  intro l
  induction l with
  | nil => exact fun _ => trivial
  | cons a l ih =>
    intro h
    have h1 := h a (by simp)
    have h2 := ih (fun x hx => h x (by simp [hx]))
    simp only [walkAll]
    cases hg : g a with
    | err e => simp [hg, IsOk] at h1
    | fuel => simp [hg, IsOk] at h1
    | ok t1 =>
      cases hl : walkAll g l with
      | err e => simp [hl, IsOk] at h2
      | fuel => simp [hl, IsOk] at h2
      | ok t2 => trivial

private theorem walkStep_ok_of (T : Table) (rec : String → Node → Bool) (w : String → Node → Res (List Ev))
    (hrec : ∀ m c, rec m c = true → IsOk (w m c)) (st : Step) (n : Node) (h : stepShaped T rec st n = true) :
    IsOk (Spec.walkStep (Spec.walkTarget T w) st n) := by
  have hchild : ∀ c, childShaped T rec st.target c = true → IsOk (Spec.walkTarget T w st.target c) := by
    intro c hc
    unfold childShaped at hc
    unfold Spec.walkTarget
    cases hr : resolve T st.target c.kind with
    | error e => simp [hr] at hc
    | ok m' => simp only [hr] at hc ⊢; exact hrec m' c hc
  unfold stepShaped at h
  unfold Spec.walkStep
  cases ha : st.applies n.kind with
  | false => simp [IsOk]
  | true =>
    simp only [ha, Bool.not_true, Bool.false_or, Bool.false_eq_true, if_false] at h ⊢
    cases hg : n.getAttr st.attr with
    | none => simp [hg] at h
    | some a =>
      simp only [hg] at h ⊢
      cases a with
      | scalar v => cases hs : st.shape <;> simp [hs] at h
      | one oc =>
        cases oc with
        | none =>
          cases hs : st.shape with
          | many => simp [hs] at h
          | one =>
            simp only [hs] at h ⊢
            have : (st.guard == Guard.always) = false := by simpa using h
            simp [this, IsOk]
        | some c =>
          cases hs : st.shape with
          | many => simp [hs] at h
          | one => simp only [hs] at h ⊢; exact hchild c h
      | many cs =>
        cases hs : st.shape with
        | one => simp [hs] at h
        | many =>
          simp only [hs] at h ⊢
          exact walkList_eq_walkAll _ cs ▸ walkAll_ok_of _ cs (fun c hc => hchild c (List.all_eq_true.1 h c hc))

theorem wellShaped_walk_ok (T : Table) : ∀ (fuel : Nat) (m : String) (n : Node), wellShapedM T fuel m n = true →
    ∃ tr, Spec.walk T fuel m n = .ok tr := by
  intro fuel
  induction fuel with
  | zero => intro m n h; simp [wellShapedM] at h
  | succ f ih =>
    intro m n h
    simp only [wellShapedM] at h
    simp only [Spec.walk]
    cases hm : T.methods.lookup m with
    | none => simp [hm] at h
    | some steps =>
      simp only [hm] at h ⊢
      have hsteps := walkSteps_eq_walkAll _ n steps ▸ walkAll_ok_of _ steps (fun st hst =>
        walkStep_ok_of T (wellShapedM T f) (Spec.walk T f)
          (fun m' c hc => by obtain ⟨tr, htr⟩ := ih m' c hc; simp [htr, IsOk]) st n (List.all_eq_true.1 h st hst))
      cases hb : Spec.walkSteps (Spec.walkTarget T (Spec.walk T f)) steps n with
      | err e => simp [hb, IsOk] at hsteps
      | fuel => simp [hb, IsOk] at hsteps
      | ok body => exact ⟨_, rfl⟩

/-- Every table, every visitor that changes nothing, every state: the visit of a well-shaped tree
    COMPLETES (no `TypeError`, `AttributeError`, `ShapeError`, `NoneNode`, and the fuel `t.depth` suffices); it returns the tree
    itself, leaves it untouched in place, and its calls are the walk of the implemented child relation. -/
theorem wellShaped_visit_ok {σ : Type} (T : Table) (v : Visitor σ) (hv : Observer v) (t : Node) (s : σ)
    (h : WellShaped T t) : ∃ o, visit T v t.depth t s = .ok o ∧ o.ret = some t ∧ o.orig = t := by
  unfold WellShaped wellShapedAt at h
  cases hl : T.visit.lookup t.kind with
  | none => simp [hl] at h
  | some m =>
    simp only [hl] at h
    obtain ⟨tr, htr⟩ := wellShaped_walk_ok T t.depth m t h
    have hi : Spec.implEvents T t.depth t = .ok tr := by simp [Spec.implEvents, hl, htr]
    obtain ⟨o, ho, h1, h2, _⟩ := identity_total T v hv t.depth t s tr hi
    exact ⟨o, ho, h1, h2⟩

/-- today's table on the documents parsed by the real parser (both dialects, every node kind, variable definitions with
    defaults and directives, fragment variables, descriptions, extensions of the schema kitchen sink are in the corpus) -/
theorem witnesses_well_shaped : WellShaped table witnessExec ∧ WellShaped table witnessSdl ∧ WellShaped table witnessSmall ∧
    WellShaped table witnessDup :=
  witnesses_today.2.2.2.2

/-- the premise of the C18 theorems holds for EVERY observer on the executable witness: nothing is assumed about the visit -/
example {σ : Type} (v : Visitor σ) (hv : Observer v) (s : σ) :
    ∃ o, visit table v witnessExec.depth witnessExec s = .ok o ∧ o.ret = some witnessExec ∧ o.orig = witnessExec :=
  wellShaped_visit_ok table v hv witnessExec s witnesses_well_shaped.1

/-- a node whose list attribute holds a scalar is NOT well-shaped (and its visit raises) -/
example : ¬ WellShaped table (.mk "Document" 0 [("definitions", .scalar "x")]) := by
  unfold WellShaped; decide +kernel

end PyGql.Props.C18
