/-
  C07 — the fuel disappears. `fuelFor reg ty (size of the value)` always suffices
  ("out of fuel" is unreachable), any larger budget gives the same result, and the headline theorems are restated
  for the fuel-free functions `coerceValueT` / `valueFromAstT`.
-/
import PyGqlModel.Lemmas.CoerceFuel
import PyGqlModel.Props.C07_args


namespace PyGql.Props.C07
open PyGql PyGql.Coerce PyGql.Generated.Scalars

/-- Variable route: with `fuelFor reg ty (size of v)` — or any larger budget — `coerce_value`
    never reports "out of fuel". -/
theorem coerceValue_fuel_sufficient (reg : Reg) : ∀ (fuel : Nat) (ty : Ty) (v : JV),
    fuelFor reg ty (sizeOf v) ≤ fuel → NoFuel (coerceValue reg fuel ty v) := by
  intro fuel ty v
  rw [coerceValue_eq]
  refine gCoerce_noFuel (size := sizeOf) ?_ ?_ (fun n k v h => ?_) (fun h => by cases h) (fun h => by cases h) reg fuel ty v
  · intro v l x hl hx
    cases v <;> cases hl
    rw [JV.list.sizeOf_spec]
    have := List.sizeOf_lt_of_mem hx
    omega
  · intro v kvs k x hm hx
    cases v <;> cases hm
    rw [JV.obj.sizeOf_spec]
    have := sizeOf_lookupLast _ _ _ hx
    omega
  · rcases leafJ_error h with hc | ⟨hc, _⟩ <;> cases hc

/-- the same on the literal route -/
theorem valueFromAst_fuel_sufficient (reg : Reg) (vars : Option (List (String × PV))) : ∀ (fuel : Nat) (ty : Ty) (l : Lit),
    fuelFor reg ty (sizeOf l) ≤ fuel → NoFuel (valueFromAst reg vars fuel ty l) := by
  intro fuel ty l
  rw [valueFromAst_eq]
  refine gCoerce_noFuel (size := sizeOf) ?_ ?_ (fun n k v h => ?_) (fun h => by cases h) ?_ reg fuel ty l
  · intro v l x hl hx
    cases v <;> cases hl
    rw [Lit.list.sizeOf_spec]
    have := List.sizeOf_lt_of_mem hx
    omega
  · intro v kvs k x hm hx
    cases v <;> cases hm
    rw [Lit.obj.sizeOf_spec]
    have := sizeOf_lookupLast _ _ _ hx
    omega
  · rcases leafL_error h with hc | hc <;> cases hc
  · intro ty v r h
    cases v <;> cases h
    exact extractVariable_noFuel _ _ _

theorem total_noFuel (reg : Reg) (vars : Option (List (String × PV))) (ty : Ty) :
    (∀ v, coerceValueT reg ty v ≠ .error .fuel) ∧ (∀ l, valueFromAstT reg vars ty l ≠ .error .fuel) :=
  ⟨fun v => coerceValue_fuel_sufficient reg _ ty v (Nat.le_refl _),
   fun l => valueFromAst_fuel_sufficient reg vars _ ty l (Nat.le_refl _)⟩

theorem coerceValue_eq_total (reg : Reg) (fuel : Nat) (ty : Ty) (v : JV) (h : fuelFor reg ty (sizeOf v) ≤ fuel) :
    coerceValue reg fuel ty v = coerceValueT reg ty v := by
  obtain ⟨k, rfl⟩ := Nat.exists_eq_add_of_le h
  unfold coerceValueT
  rw [coerceValue_eq, coerceValue_eq]
  exact gCoerce_stable_add _ reg _ k ty v (coerceValue_eq reg _ ▸ coerceValue_fuel_sufficient reg _ ty v (Nat.le_refl _))

theorem valueFromAst_eq_total (reg : Reg) (vars : Option (List (String × PV))) (fuel : Nat) (ty : Ty) (l : Lit)
    (h : fuelFor reg ty (sizeOf l) ≤ fuel) : valueFromAst reg vars fuel ty l = valueFromAstT reg vars ty l := by
  obtain ⟨k, rfl⟩ := Nat.exists_eq_add_of_le h
  unfold valueFromAstT
  rw [valueFromAst_eq, valueFromAst_eq]
  exact gCoerce_stable_add _ reg _ k ty l (valueFromAst_eq reg vars _ ▸ valueFromAst_fuel_sufficient reg vars _ ty l (Nat.le_refl _))

theorem variable_sound_total {reg : Reg} (hreg : RegOK reg) (ty : Ty) (v : JV) (pv : PV) (hwf : ty.wf = true)
    (h : coerceValueT reg ty v = .ok pv) : Conforms reg ty pv :=
  variable_sound hreg _ ty v pv hwf h

theorem literal_sound_total {reg : Reg} (hreg : RegOK reg) (vars : Option (List (String × PV))) (ty : Ty) (l : Lit) (pv : PV)
    (hwf : ty.wf = true) (hfit : vars = none ∨ VarsFit reg vars ty l) (h : valueFromAstT reg vars ty l = .ok pv) :
    Conforms reg ty pv :=
  literal_sound hreg vars _ ty l pv hwf hfit h

end PyGql.Props.C07
