/-
  C14 — property theorems about the object-heap model (`PyGqlModel/Heap.lean`, `HeapExt.lean`).

  Specification: `Frame h h'` — no object of `h` was written (identities included) and none disappeared; `closedB h s` — every
  reference reachable through fields, arguments, input fields, interfaces, union members, directive arguments and root operations is
  THE object registered under its name; intactness — the result registers every name of the source (minus what the operation hid);
  preservation — resolvers, default / type resolvers, python names, defaults, descriptions, deprecations.

  The full statements are `def … : Prop`. For the code before the repairs (`Cfg.legacy`: /repo at snapshot 2541ded) they are refuted on
  the Dog / Pet witness (T1, T2, T3, S2); the same witness is evaluated for the repaired code (`Cfg.fixed`, the variant /repo has:
  `config_fixed`, Props/C14_config.lean). Proved here for all heaps, schemas and extension documents: what the heal visitor writes,
  the `busted_cache` flag (T3), and that `extend_schema` never writes an object of the source.
  `Frame` is the lemma layer's `Own.FrameX` with the empty write set (`frame_iff`, Lemmas/HeapMembersClone.lean); `FrameX W`, the
  ownership frames `Own.Pres n` / `Region.Pres K P` and their lemmas are in Lemmas/HeapOwn.lean.
-/
import PyGqlModel.Heap
import PyGqlModel.HeapExt
import PyGqlModel.Lemmas.HeapExtStages
import PyGqlModel.Lemmas.HeapCloneClosed
import PyGqlModel.Lemmas.HeapVisHook
import PyGqlModel.Generated.HeapCfg
import PyGqlModel.Props.C14_config


namespace PyGql.Props.C14
open PyGql.Heap

def Frame (h h' : Heap) : Prop := h.size ≤ h'.size ∧ ∀ a, a < h.size → h'.read a = h.read a

def names (s : Schema) : List String := s.types.map (·.1)

/-- FULL statement (T2): cloning / clone-based transforms never write an object of the source heap -/
def CloneFramesSource (cfg : Cfg) : Prop :=
  ∀ fuel vs s h h' s', transform cfg fuel vs s h = some (h', s') → Frame h h'

/-- FULL statement (T1 + closedness): a clone is closed and registers exactly the names of its (closed) source -/
def CloneClosedIntact (cfg : Cfg) : Prop :=
  ∀ fuel s h h' s', closedB h s = true → clone cfg fuel s h = some (h', s') →
    closedB h' s' = true ∧ ∀ n, n ∈ names s → n ∈ names s'

/-- FULL statement (T3): after `_replace_types_and_directives` on a closed schema the schema is closed -/
def ReplaceClosed (cfg : Cfg) : Prop :=
  ∀ fuel s h ut h' s', closedB h s = true → replaceTD cfg fuel s h ut [] = some (h', s') → closedB h' s' = true

/-- FULL statement (S2, type resolvers): extension keeps `resolve_type` of every registered interface / union -/
def ExtendKeepsTypeResolvers (cfg : Cfg) : Prop :=
  ∀ ext s h n a t, (n, a) ∈ s.types → h.readType a = some t →
    ∃ a' t', lookup (extend cfg ext s h).2.types n = some a' ∧ (extend cfg ext s h).1.readType a' = some t' ∧ t'.rtype = t.rtype

private theorem alloc_addr (h : Heap) (o : Obj) : (h.alloc o).2 = h.size := rfl

theorem Frame.refl (h : Heap) : Frame h h := ⟨Nat.le_refl _, fun _ _ => rfl⟩

theorem Frame.trans {h1 h2 h3 : Heap} (a : Frame h1 h2) (b : Frame h2 h3) : Frame h1 h3 :=
  ⟨Nat.le_trans a.1 b.1, fun x hx => by rw [b.2 x (Nat.lt_of_lt_of_le hx a.1), a.2 x hx]⟩

theorem alloc_frame (h : Heap) (o : Obj) : Frame h (h.alloc o).1 :=
  ⟨by rw [Own.size_alloc]; omega, fun a ha => Own.read_alloc_old h o a ha⟩

theorem write_fresh_frame {h0 h : Heap} (f : Frame h0 h) (a : Addr) (o : Obj) (ha : h0.size ≤ a) : Frame h0 (h.write a o) :=
  ⟨by rw [Own.size_write]; exact f.1, fun x hx => by rw [Own.read_write_other h a x o (Nat.ne_of_gt (Nat.lt_of_lt_of_le hx ha))]; exact f.2 x hx⟩

/-- `_healed`: the re-pointed reference IS the object registered under the (unchanged) name -/
theorem healed_registered (reg : List (String × Addr)) (t t' : TRef) (ht : healed reg t = some t') :
    refOK reg t'.base = true ∧ t'.base.name = t.base.name := by
  induction t generalizing t' with
  | named r =>
    simp only [healed, Option.map_eq_some_iff] at ht
    obtain ⟨a, ha, rfl⟩ := ht
    simp [TRef.base, refOK, ha]
  | list t ih =>
    simp only [healed, Option.map_eq_some_iff] at ht
    obtain ⟨u, hu, rfl⟩ := ht
    simpa [TRef.base] using ih u hu
  | nonNull t ih =>
    simp only [healed, Option.map_eq_some_iff] at ht
    obtain ⟨u, hu, rfl⟩ := ht
    simpa [TRef.base] using ih u hu

/-- `map_and_filter(self._healed, interfaces / union members)` -/
theorem healedRefs_registered (reg : List (String × Addr)) (rs : List Ref) :
    ∀ r, r ∈ healedRefs reg rs → refOK reg r = true := by
  intro r hr
  simp only [healedRefs, List.mem_filterMap, Option.map_eq_some_iff] at hr
  obtain ⟨r0, _, a, ha, rfl⟩ := hr
  simp [refOK, ha]

/-- a reference whose name is not registered any more is dropped by the heal visitor (hidden types take their users along) -/
theorem healed_unregistered (reg : List (String × Addr)) (t : TRef) (h : lookup reg t.base.name = none) : healed reg t = none := by
  induction t with
  | named r => simpa [healed, TRef.base] using h
  | list t ih => simp [healed, ih (by simpa [TRef.base] using h)]
  | nonNull t ih => simp [healed, ih (by simpa [TRef.base] using h)]

example : healed [("String", 0), ("Pet", 7)] (.list (.named ⟨"Pet", 1⟩)) = some (.list (.named ⟨"Pet", 7⟩)) := by decide +kernel

/-- T3, fixed variant (`busted_cache` accumulates): once an entry replaced a registered type by a different object, the flag stays set -/
theorem busted_accumulates (cfg : Cfg) (hc : cfg.accumulateBusted = true) (reg : List (String × Addr))
    (ut : List (String × Option Addr)) : (replaceTypes cfg reg true ut).2 = true := by
  induction ut generalizing reg with
  | nil => simp [replaceTypes]
  | cons e rest ih =>
    obtain ⟨n, new⟩ := e
    simp only [replaceTypes]
    split
    · exact ih reg
    · cases new <;> simp [hc, ih]

theorem busted_of_change (cfg : Cfg) (hc : cfg.accumulateBusted = true) (reg : List (String × Addr)) (b : Bool)
    (n : String) (new : Option Addr) (orig : Addr) (rest : List (String × Option Addr))
    (hl : lookup reg n = some orig) (hne : new ≠ some orig) : (replaceTypes cfg reg b ((n, new) :: rest)).2 = true := by
  simp only [replaceTypes, hl]
  have : (new != some orig) = true := by simpa using hne
  cases new <;> simp [hc, this, busted_accumulates cfg hc]

private theorem copyArgs_frame (h : Heap) (as : List Addr) : Frame h (copyArgs h as).1 :=
  (Own.copyArgs_ok h.size as h (Own.inv_self h)).1.2

private theorem copyFields_frame (h : Heap) (as : List Addr) : Frame h (copyFields h as).1 :=
  (Own.copyFields_ok h.size as h (Own.inv_self h)).1.2

private theorem cloneType_frame (cfg : Cfg) (h : Heap) (t : TypeO) : Frame h (cloneType cfg h t).1 := by
  simp only [cloneType]
  split
  · split
    · exact (copyArgs_frame h _).trans (alloc_frame _ _)
    · exact (copyFields_frame h _).trans (alloc_frame _ _)
  · exact alloc_frame h _

private theorem cloneDir_frame (cfg : Cfg) (h : Heap) (d : DirO) : Frame h (cloneDir cfg h d).1 := by
  simp only [cloneDir]
  split
  · exact (copyArgs_frame h _).trans (alloc_frame _ _)
  · exact alloc_frame h _

private theorem cloneTypes_frame (cfg : Cfg) (h : Heap) (l : List (String × Addr)) : Frame h (cloneTypes cfg h l).1 :=
  (Own.cloneTypes_out cfg (R := Frame) (Pre := fun _ _ => True) Frame.refl (fun _ _ _ => Frame.trans) (fun _ _ _ _ _ => trivial)
    (fun h _ t _ _ => cloneType_frame cfg h t) l h (fun _ _ _ => trivial)).1

private theorem cloneDirs_frame (cfg : Cfg) (h : Heap) (l : List (String × Addr)) : Frame h (cloneDirs cfg h l).1 := by
  induction l generalizing h with
  | nil => exact Frame.refl h
  | cons e rest ih =>
    obtain ⟨n, a⟩ := e
    simp only [cloneDirs]
    split
    · exact (cloneDir_frame cfg h _).trans (ih _)
    · exact ih h

/-- PARTIAL form of `CloneFramesSource` (the full statement is `clone_frames_source`, Props/C14_frames.lean): the copying phase of
    `Schema.clone` (`copy.copy` / `_clone_type` of every type and directive) writes no object of the source, in both variants of the
    code. Not covered here: the heal round that follows (`_replace_types_and_directives` → `fix_type_references`), which writes only
    objects owned by the clone for `deepClone` and writes the source without it (`clone_frames_source_refuted_legacy`). -/
theorem clone_copy_frames_source_partial (cfg : Cfg) (s : Schema) (h : Heap) :
    Frame h (cloneDirs cfg (cloneTypes cfg h s.types).1 s.dirs).1 :=
  (cloneTypes_frame cfg h _).trans (cloneDirs_frame cfg _ _)

/-- FULL: `extend_schema` leaves every object of the source schema (and of every other schema on the heap) unwritten —
    for every variant of the code, every extension document, every heap. The source can therefore be extended,
    cloned, transformed, queried and printed again any number of times (`extend_sequence_frames_source`). -/
theorem extend_frames_source (cfg : Cfg) (ext : Ext) (s : Schema) (h : Heap) : Frame h (extend cfg ext s h).1 := by
  -- the placeholders are allocated; from then on `extend_schema` allocates, and writes placeholders only: all of them fresh addresses
  obtain ⟨f0, f1, f2, f3, f4⟩ := Own.ext_frames cfg ext s h
  have f : Own.FrameX (Own.IsPH ext s h) h (extend cfg ext s h).1 := ((((f0 _).trans f1).trans f2).trans (f3 _)).trans (f4 _)
  exact ⟨f.1, fun a ha => f.2 a ha fun ph => Nat.not_le.mpr ha ph.1⟩

theorem extend_sequence_frames_source (cfg : Cfg) (ops : List (Ext × Schema)) (h0 : Heap) :
    Frame h0 (ops.foldl (fun h e => (extend cfg e.1 e.2 h).1) h0) := by
  suffices ∀ h, Frame h0 h → Frame h0 (ops.foldl (fun h e => (extend cfg e.1 e.2 h).1) h) from this h0 (Frame.refl h0)
  induction ops with
  | nil => intro h f; exact f
  | cons e rest ih => intro h f; exact ih _ (f.trans (extend_frames_source cfg e.1 e.2 h))

/-- PARTIAL form of `visibility_hides` (full: `visibility_hides_type`, `visibility_hides_type_transform`, Props/C14_transform.lean):
    a type the predicate hides is reported as `None` by `on_schema`'s dispatch, for every kind of type, so
    `_replace_types_and_directives` deletes its registry entry (`lookup_regErase`); `healed_unregistered` then removes every field /
    argument / input field of that type. -/
theorem visibility_hides_type_partial (p : VisP) (reg : List (String × Addr)) (h : Heap) (a : Addr) (t : TypeO)
    (ht : h.readType a = some t) (hid : p.isTypeVisible t.name = false) : (onType (.vis p) reg h a).2 = none := by
  have e := Own.onType_vis_snd p reg ht
  rw [hid] at e
  exact Option.isNone_iff_eq_none.mp (Option.isSome_eq_false_iff.mp e)

theorem lookup_regErase (reg : List (String × Addr)) (n : String) : lookup (regErase reg n) n = none := by
  simp only [lookup, regErase, Option.map_eq_none_iff, List.find?_eq_none]
  intro e he
  simp only [List.mem_filter] at he
  simpa using he.2

/-! ### the Dog / Pet witness: `interface Pet {name}`, `type Dog implements Pet {name}`, `type Query {pet: Pet}` -/

def sStr : TRef := .named ⟨"String", 0⟩

def h0 : Heap := ⟨[
  .type { kind := .scalar, name := "String", desc := none, fields := [], ifaces := [], members := [], dres := none, rtype := none, values := [], prot := true },
  .type { kind := .interface, name := "Pet", desc := none, fields := [2], ifaces := [], members := [], dres := none, rtype := some 7, values := [], prot := false },
  .field { name := "name", ty := sStr, args := [], desc := none, depr := none, res := some 1, sub := none, py := "name" },
  .type { kind := .object, name := "Dog", desc := none, fields := [4], ifaces := [⟨"Pet", 1⟩], members := [], dres := some 5, rtype := none, values := [], prot := false },
  .field { name := "name", ty := sStr, args := [], desc := none, depr := none, res := none, sub := none, py := "name" },
  .type { kind := .object, name := "Query", desc := none, fields := [6], ifaces := [], members := [], dres := none, rtype := none, values := [], prot := false },
  .field { name := "pet", ty := .named ⟨"Pet", 1⟩, args := [], desc := none, depr := none, res := none, sub := some 9, py := "py_pet" }]⟩

def s0 : Schema :=
  { types := [("String", 0), ("Pet", 1), ("Dog", 3), ("Query", 5)], dirs := [], query := some ⟨"Query", 5⟩,
    mutation := none, subscription := none, dres := some 3 }

/-- `extend_schema(s0, "type Zed { z: String }")` -/
def zed : Ext := { newTypes := [("Zed", [{ name := "z", ty := .named "String", args := [] }])], fields := [], inputFields := [],
                   members := [], values := [], newDirs := [] }

theorem s0_closed : closedB h0 s0 = true := by decide +kernel

theorem s0_wf : wfB h0 s0 = true := by decide +kernel

/-- the witness is a closed schema (non-vacuity of every hypothesis `closedB h s = true` below) -/
example : closedB h0 s0 = true := s0_closed

private theorem transform_nil (cfg : Cfg) (fuel : Nat) (s : Schema) (h : Heap) : transform cfg fuel [] s h = clone cfg fuel s h := by
  simp only [transform]
  cases clone cfg fuel s h <;> rfl

private theorem clone_witness_legacy :
    (clone Cfg.legacy 8 s0 h0).map (fun r => (r.1.read 6 == h0.read 6, decide ("Dog" ∈ names r.2))) = some (false, false) := by decide +kernel

/-- `Cfg.legacy`: `clone()` WRITES the source's field object 6 (`Query.pet` now points to the clone's `Pet`) -/
theorem legacy_clone_writes_source : ∃ r, transform Cfg.legacy 8 [] s0 h0 = some r ∧ r.1.read 6 ≠ h0.read 6 := by
  obtain ⟨r, hr, hne⟩ := Option.map_eq_some_iff.1 clone_witness_legacy
  exact ⟨r, (transform_nil ..).trans hr, by simpa using (Prod.mk.inj hne).1⟩

/-- T2 for `Cfg.legacy` -/
theorem clone_frames_source_refuted_legacy : ¬ CloneFramesSource Cfg.legacy := by
  intro hf
  obtain ⟨r, hr, hne⟩ := legacy_clone_writes_source
  exact hne ((hf 8 [] s0 h0 r.1 r.2 hr).2 6 (by decide +kernel))

private theorem clone_witness_fixed :
    (clone Cfg.fixed 8 s0 h0).map (fun r => (closedB r.1 r.2, wfB r.1 r.2, names r.2, (List.range h0.size).all fun a => r.1.read a == h0.read a))
      = some (true, true, ["String", "Query", "Pet", "Dog"], true) := by decide +kernel

/-- the same clone by the repaired code (`Cfg.fixed`) leaves all 7 objects of the source untouched -/
theorem clone_frames_source_witness_fixed :
    (transform Cfg.fixed 8 [] s0 h0).map (fun r => (List.range h0.size).all fun a => r.1.read a == h0.read a) = some true := by
  rw [transform_nil]
  have := congrArg (Option.map fun x => x.2.2.2) clone_witness_fixed
  rwa [Option.map_map] at this

/-- T1 for `Cfg.legacy`: `Dog` (reachable only as implementer of `Pet`) is not registered in the clone -/
theorem clone_intact_refuted_legacy : ¬ CloneClosedIntact Cfg.legacy := by
  intro hf
  obtain ⟨r, hr, hne⟩ := Option.map_eq_some_iff.1 clone_witness_legacy
  have := (hf 8 s0 h0 r.1 r.2 s0_closed hr).2 "Dog" (by decide +kernel)
  simp [this] at hne

/-- by the repaired code (`Cfg.fixed`) the clone of the witness is closed and registers the same names -/
theorem clone_closed_witness_fixed :
    (clone Cfg.fixed 8 s0 h0).map (fun r => (closedB r.1 r.2, names r.2)) = some (true, ["String", "Query", "Pet", "Dog"]) := by
  have := congrArg (Option.map fun x => (x.1, x.2.2.1)) clone_witness_fixed
  rwa [Option.map_map] at this

/-- the clone of the witness is closed and well-formed (instance of `CloneClosedWF`, Props/C14_closed.lean, for the fixed variant) -/
theorem clone_closed_wf_witness_fixed :
    (clone Cfg.fixed 8 s0 h0).map (fun r => (closedB r.1 r.2, wfB r.1 r.2)) = some (true, true) := by
  have := congrArg (Option.map fun x => (x.1, x.2.1)) clone_witness_fixed
  rwa [Option.map_map] at this

/-- `copy.copy(Pet)` allocated at address 7 -/
def h1 : Heap := (h0.alloc (.type { kind := .interface, name := "Pet", desc := none, fields := [2], ifaces := [], members := [], dres := none, rtype := some 7, values := [], prot := false })).1

/-- T3 for `Cfg.legacy`: `{Pet: <copy>, Query: <same object>}` leaves `Query.pet` pointing to the OLD `Pet` -/
theorem replace_closed_refuted_legacy : ¬ ReplaceClosed Cfg.legacy := by
  intro hf
  have e : (replaceTD Cfg.legacy 8 s0 h1 [("Pet", some 7), ("Query", some 5)] []).map (fun r => closedB r.1 r.2) = some false := by
    decide +kernel
  obtain ⟨r, hr, hne⟩ := Option.map_eq_some_iff.1 e
  rw [hf 8 s0 h1 _ r.1 r.2 (by decide +kernel) hr] at hne
  cases hne

/-- the same replacement with the accumulated flag heals the schema -/
theorem replace_closed_witness_fixed :
    (replaceTD Cfg.fixed 8 s0 h1 [("Pet", some 7), ("Query", some 5)] []).map (fun r => closedB r.1 r.2) = some true := by decide +kernel

private theorem extend_witness_legacy :
    let r := extend Cfg.legacy zed s0 h0
    (names r.2 = ["String", "Zed", "Query", "Pet"] ∧ r.2.dres = none ∧
      (((lookup r.2.types "Query").bind r.1.readType).bind fun t => (t.fields.head?.bind r.1.readField).map fun f => (f.sub, f.py))
        = some (none, "pet")) ∧
    ((lookup r.2.types "Pet").bind r.1.readType).map (·.rtype) = some none := by decide +kernel

/-- S2 for `Cfg.legacy`: `extend_schema(s0, "type Zed {z: String}")` loses `Pet.resolve_type` -/
theorem extend_keeps_type_resolvers_refuted_legacy : ¬ ExtendKeepsTypeResolvers Cfg.legacy := by
  intro hf
  have hp : (h0.readType 1).map (·.rtype) = some (some 7) := by decide +kernel
  obtain ⟨t, ht, hr⟩ := Option.map_eq_some_iff.1 hp
  obtain ⟨a', t', h1, h2, h3⟩ := hf zed s0 h0 "Pet" 1 t (by decide +kernel) ht
  have e := extend_witness_legacy.2
  rw [h1, Option.bind_some, h2, Option.map_some, h3, hr] at e
  cases e

/-- `Cfg.fixed` (the C11 fixes): the extension of the witness keeps every attribute: resolve_type, default_resolver,
    subscription_resolver, python_name, the schema-level default resolver; the result is closed and keeps `Dog` -/
theorem extend_preserves_witness_fixed :
    let r := extend Cfg.fixed zed s0 h0
    closedB r.1 r.2 = true ∧ names r.2 = ["String", "Pet", "Dog", "Query", "Zed"] ∧ r.2.dres = some 3 ∧
    ((lookup r.2.types "Pet").bind r.1.readType).map (·.rtype) = some (some 7) ∧
    ((lookup r.2.types "Dog").bind r.1.readType).map (·.dres) = some (some 5) ∧
    (((lookup r.2.types "Query").bind r.1.readType).bind fun t => (t.fields.head?.bind r.1.readField).map fun f => (f.sub, f.py))
      = some (some 9, "py_pet") := by decide +kernel

/-- `Cfg.legacy`: the same extension loses all of them, and drops `Dog` (T1 for `extend_schema`) -/
theorem extend_loses_witness_legacy :
    let r := extend Cfg.legacy zed s0 h0
    names r.2 = ["String", "Zed", "Query", "Pet"] ∧ r.2.dres = none ∧
    (((lookup r.2.types "Query").bind r.1.readType).bind fun t => (t.fields.head?.bind r.1.readField).map fun f => (f.sub, f.py))
      = some (none, "pet") := extend_witness_legacy.1

/-- a visibility transform on the witness (hide `Dog`, `Cfg.fixed`): closed, `Dog` gone, source untouched -/
theorem visibility_witness_fixed :
    (transform Cfg.fixed 8 [.vis { typeVis := fun n => n != "Dog", fieldVis := fun _ _ => true, inputVis := fun _ _ => true,
                                   dirVis := fun _ => true }] s0 h0).map
      (fun r => (closedB r.1 r.2, names r.2, (List.range h0.size).all fun a => r.1.read a == h0.read a))
      = some (true, ["String", "Query", "Pet"], true) := by decide +kernel

/-- `extend_frames_source` at the variant of the code in the working tree (`currentCfg`, re-extracted on every run) -/
theorem current_extend_frames_source (ext : Ext) (s : Schema) (h : Heap) :
    Frame h (extend PyGql.Generated.HeapCfg.currentCfg ext s h).1 := extend_frames_source _ ext s h

end PyGql.Props.C14
