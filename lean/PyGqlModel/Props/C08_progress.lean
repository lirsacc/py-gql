/-
  C08 — what `always_terminates` (deadlock-freedom: `queue = [] → finished`) leaves open: a run reports `pending` ONLY when
  the schedule was consumed entirely, one completion per entry, and tasks are still outstanding; and TERMINATION with a bound:
  `weight op` (one per deferred resolver, two per nested one) bounds the number of tasks an operation can ever submit, so every
  schedule of at least that length yields a non-pending outcome (the potential `queue length + tasks still to be submitted`
  never increases under `deliver`, every completion removes a task).
-/
import PyGqlModel.Props.C08_exec
import PyGqlModel.Lemmas.ExecBound
import PyGqlModel.Lemmas.ExecRun


namespace PyGql.Props.C08
open PyGql.AsyncExec

private theorem runSched_consumes : ∀ (schedule : List Nat) (top : Node) (s : ExecSt) (sizes : List Nat),
    (runSched top s sizes schedule).top.finished = false → (runSched top s sizes schedule).st.queue ≠ [] →
    (runSched top s sizes schedule).sizes.length = sizes.length + schedule.length
  | [], top, s, sizes, _, _ => by simp [runSched]
  | i :: rest, top, s, sizes, hf, hq => by
    by_cases hc : (top.finished || s.queue.isEmpty) = true
    · simp only [runSched, hc, if_true] at hf hq
      simp only [Bool.or_eq_true, List.isEmpty_iff] at hc
      rcases hc with hc | hc
      · simp [hf] at hc
      · exact absurd hc hq
    · have hc' : (top.finished || s.queue.isEmpty) = false := by simpa using hc
      simp only [runSched, hc', Bool.false_eq_true, if_false] at hf hq ⊢
      have ih := runSched_consumes rest _ _ _ hf hq
      simp only [ih, List.length_append, List.length_cons, List.length_nil]
      omega

/-- a run that ends pending: `execute` returned a node, and after the schedule it has not finished and tasks are outstanding -/
private theorem pending_run (op : Op) (schedule : List Nat)
    (h : (match (runAsync op schedule).outcome with | .pending => true | _ => false) = true) :
    ∃ top s, execute op {} = (.ok top, s) ∧ (runSched top s [] schedule).top.finished = false ∧
      (runSched top s [] schedule).st.queue ≠ [] ∧ (runAsync op schedule).sizes = (runSched top s [] schedule).sizes := by
  have hterm := always_terminates op schedule
  revert h
  refine runAsync_cases (P := fun r => (match r.outcome with | .pending => true | _ => false) = true →
    ∃ top s, execute op {} = (.ok top, s) ∧ (runSched top s [] schedule).top.finished = false ∧
      (runSched top s [] schedule).st.queue ≠ [] ∧ r.sizes = (runSched top s [] schedule).sizes) op schedule ?_ ?_
  · intro e s _ h; cases h
  · intro top s hr h
    rw [hr] at hterm
    have hf : (runSched top s [] schedule).top.finished = false := by
      rw [← outcomeOf_pending_iff _ (runSched top s [] schedule).st]
      revert h
      cases outcomeOf (runSched top s [] schedule).top (runSched top s [] schedule).st <;> intro h <;> first | rfl | cases h
    exact ⟨top, s, hr, hf, fun hq => by rw [hterm hq] at hf; exact Bool.noConfusion hf, rfl⟩

/-- For every operation and every schedule: if the run ends with the overall result
    still pending, then every entry of the schedule was used for one completion (the run did not stop early) and at least one
    task is still outstanding — the schedule was too short, nothing is stuck. -/
theorem pending_only_if_schedule_exhausted (op : Op) (schedule : List Nat)
    (h : (match (runAsync op schedule).outcome with | .pending => true | _ => false) = true) :
    (runAsync op schedule).sizes.length = schedule.length := by
  obtain ⟨top, s, _, hf, hq, hsz⟩ := pending_run op schedule h
  rw [hsz]
  simpa using runSched_consumes schedule top s [] hf hq

/-- non-vacuity: two deferred fields, a schedule with one entry: pending, the one entry was used -/
example : (match (runAsync ⟨.query, .cons "a" .deferred (.ok (.leaf 1)) (.cons "b" .deferred (.ok (.leaf 2)) .nil)⟩ [0]).outcome with
    | .pending => true | _ => false) = true := by decide +kernel


/-- the number of tasks an operation can ever submit -/
def weight (op : Op) : Nat := wFlds op.fields

private theorem removeAt_length {α : Type} : ∀ (l : List α) (j : Nat), j < l.length → (removeAt l j).length + 1 = l.length
  | [], j, h => by simp at h
  | x :: xs, 0, _ => by simp [removeAt]
  | x :: xs, j + 1, h => by
    have := removeAt_length xs j (by simpa using h)
    simp [removeAt]; omega

private theorem stepSched_pot (top : Node) (s : ExecSt) (i : Nat) (hq : s.queue ≠ []) :
    (stepSched top s i).2.queue.length + pot (stepSched top s i).1 + 1 ≤ s.queue.length + pot top := by
  unfold stepSched
  have hlen : 0 < s.queue.length := List.length_pos_iff.mpr hq
  have hj : i % s.queue.length < s.queue.length := Nat.mod_lt _ hlen
  simp only
  rw [List.getElem?_eq_getElem hj]
  simp only
  have h1 := deliver_pot top (s.queue[i % s.queue.length]) { s with queue := removeAt s.queue (i % s.queue.length) }
  have h2 := removeAt_length s.queue _ hj
  simp only at h1
  omega

private theorem runSched_pot : ∀ (schedule : List Nat) (top : Node) (s : ExecSt) (sizes : List Nat),
    (runSched top s sizes schedule).sizes.length
        + ((runSched top s sizes schedule).st.queue.length + pot (runSched top s sizes schedule).top)
      ≤ sizes.length + (s.queue.length + pot top)
  | [], top, s, sizes => by simp [runSched]
  | i :: rest, top, s, sizes => by
    by_cases hc : (top.finished || s.queue.isEmpty) = true
    · simp [runSched, hc]
    · have hc' : (top.finished || s.queue.isEmpty) = false := by simpa using hc
      simp only [runSched, hc', Bool.false_eq_true, if_false]
      have hq : s.queue ≠ [] := by
        intro h; simp [h] at hc'
      have h1 := stepSched_pot top s i hq
      have ih := runSched_pot rest (stepSched top s i).1 (stepSched top s i).2 (sizes ++ [s.queue.length])
      simp only [List.length_append, List.length_cons, List.length_nil] at ih
      omega

/-- For every operation and EVERY schedule with at least `weight op` entries (one per deferred
    resolver, two per nested one): the run ends with a result — a response or a failure, never `pending`. With
    `async_eq_blocking` / `unexpected_surfaces`: the result is then the BlockingExecutor's data, or the failure. -/
theorem terminates_within_bound (op : Op) (schedule : List Nat) (hlen : weight op ≤ schedule.length) :
    (match (runAsync op schedule).outcome with | .pending => false | _ => true) = true := by
  cases hpend : (match (runAsync op schedule).outcome with | .pending => false | _ => true) with
  | true => rfl
  | false =>
    exfalso
    have hp : (match (runAsync op schedule).outcome with | .pending => true | _ => false) = true := by
      cases ho : (runAsync op schedule).outcome <;> simp [ho] at hpend ⊢
    have hsz := pending_only_if_schedule_exhausted op schedule hp
    obtain ⟨top, s, hr, hf, hq, hsz'⟩ := pending_run op schedule hp
    have hex : (execute op {}).2.queue.length + potRes (execute op {}).1 ≤ weight op :=
      Nat.le_trans (execute_pot op {}) (Nat.le_of_eq (Nat.zero_add _))
    rw [hr] at hex
    have hqpos : 0 < (runSched top s [] schedule).st.queue.length := List.length_pos_iff.mpr hq
    have hb := runSched_pot schedule top s []
    rw [hsz'] at hsz
    simp only [List.length_nil, potRes] at hb hex
    unfold weight at hlen hex
    omega

/-- non-vacuity: `{ a: nested→1  b: deferred→{ c: deferred→2 } }` has weight 4; every schedule of length ≥ 4 completes it -/
example : weight ⟨.query, .cons "a" .nested (.ok (.leaf 1))
    (.cons "b" .deferred (.ok (.obj (.cons "c" .deferred (.ok (.leaf 2)) .nil))) .nil)⟩ = 4 := by decide +kernel

end PyGql.Props.C08
