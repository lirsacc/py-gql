/-
  C14 — CamelCaseSchemaTransform, PER SCHEMA and EXACT: "camel-casing alone drops no member".

  `transform_preserves_untouched_members` relates every type of a transform result to its source type by the SUB-LIST relation
  `Sub2` (what visibility needs: members can be missing). For camel-casing alone the relation is exact:
  `camel_case_exact` (FULL): for `transform_schema(source, CamelCaseSchemaTransform())` on a closed well-formed source, every
  name the source registers is registered by the result, and every type the result registers has — for the source type `e0` of
  the same name — the BY-NAME VIEW (`typeV`: the type's attributes, interfaces / union members by name, and IN ORDER the views of
  its fields with the views of their arguments, or of its input fields)
      `typeV h' e'.2 = (typeV h e0.2).map (renV ren)`
  i.e. exactly the source's view with every field / argument / input-field NAME converted by `ren` (`renV`; `ren` stands for
  `snakecase_to_camelcase`, arbitrary here): no member dropped, none added, order kept, python names, defaults, descriptions,
  deprecations, resolvers, subscription resolvers, types by name, enum values, type resolvers unchanged.
  `camel_case_drops_no_member` reads the counts off it; `camel_inplace_exact` is the same for the visitor applied in place.
  Proof: clone is exact (`clone_types_view`), the visitor round rebuilds every member (Lemmas/HeapCamelView.lean), and the
  healing that follows the replacement is exact because every mentioned name is still registered (`healLoop_exact`).
-/
import PyGqlModel.Lemmas.HeapCamelView
import PyGqlModel.Props.C14_refine
import PyGqlModel.Props.C14_frames


namespace PyGql.Props.C14
open PyGql.Heap PyGql.Heap.Own

private theorem nameIn_of_mem {reg : List (String × Addr)} {n : String} (hn : n ∈ regNames reg) : nameIn reg n := by
  simp only [regNames, List.mem_map] at hn
  obtain ⟨e, he, rfl⟩ := hn
  simp only [nameIn, lookup, Option.isSome_map, List.find?_isSome]
  exact ⟨e, he, by simp⟩

/-- FULL: the camel-case visitor applied IN PLACE to a closed well-formed schema: exact by-name view of every registered type -/
theorem camel_inplace_exact (cfg : Cfg) (fuel : Nat) (ren : String → String) (s : Schema) (h h' : Heap) (s' : Schema)
    (hc : closedB h s = true) (hw : wfB h s = true) (e : onSchema cfg fuel (.camel ren) s h = some (h', s')) :
    ∀ e', e' ∈ s'.types → ∃ e0, e0 ∈ s.types ∧ e0.1 = e'.1 ∧ typeV h' e'.2 = (typeV h e0.2).map (renV ren) := by
  have w := wfs_of_closedB hc hw
  have hread : ∀ e, e ∈ s.types → TypeReadable h e.2 := fun e he => typeShape_readable (w.types e he)
  obtain ⟨gT, cT, dT⟩ := visitTypes_camel_view ren s.types s.types h (fun e he _ => hread e he)
  have gD : Frame (visitTypes (.camel ren) s.types h s.types).1 (visitDirs (.camel ren) s.types (visitTypes (.camel ren) s.types h s.types).1 s.dirs).1 :=
    visitDirs_camel_grow ren s.types s.dirs _ (fun e he => by
      obtain ⟨d, hd, ha⟩ := dirShape_readable (w.dirs e he)
      exact ⟨d, gT.readDir hd, fun x hx => by obtain ⟨q, hq⟩ := ha x hx; exact ⟨q, gT.readArg hq⟩⟩)
  -- the registry after the replacement loop
  have hP : ∀ e', e' ∈ (replaceCore cfg s (visitAll (.camel ren) s h).2.1 (visitAll (.camel ren) s h).2.2).1.types →
      ∃ e0, e0 ∈ s.types ∧ e0.1 = e'.1 ∧ typeV (visitAll (.camel ren) s h).1 e'.2 = (typeV h e0.2).map (renV ren) := by
    simp only [replaceCore, visitAll]
    apply replaceTypes_pred cfg (fun e' => ∃ e0, e0 ∈ s.types ∧ e0.1 = e'.1 ∧
      typeV (visitDirs (.camel ren) s.types (visitTypes (.camel ren) s.types h s.types).1 s.dirs).1 e'.2 = (typeV h e0.2).map (renV ren))
    · intro x hx a' ea
      obtain ⟨a'', e1, e0, he0, hn0, _, hv⟩ := cT x hx
      rw [ea] at e1
      cases e1
      exact ⟨e0, he0, hn0, typeV_ren_grow gD (hread e0 he0) hv⟩
    · intro e0 he0
      by_cases hp : isProtected e0.1 = true
      · left
        refine ⟨e0, he0, rfl, ?_⟩
        obtain ⟨t0, ht0, hm0⟩ := hread e0 he0
        have hpl := protLeaf_scalar (w.prot e0 he0) hp ht0
        rw [typeV_keep_readable (gT.trans gD) (hread e0 he0), typeV_of_read ht0]
        simp [tview, hpl, renV]
      · have hnp : isProtected e0.1 = false := by simpa using hp
        rcases dT e0 he0 hnp with ⟨x, hx, hxe⟩ | hv
        · exact Or.inr (List.mem_map.mpr ⟨x, hx, hxe⟩)
        · exact Or.inl ⟨e0, he0, rfl, typeV_ren_grow gD (hread e0 he0) hv⟩
  -- the healing that follows is exact
  have wOut := round_wf_out cfg (.camel ren) s h (refOK s.types) (compat_refOK _ _) w
  have hsome : ∀ x, x ∈ (visitAll (.camel ren) s h).2.1 → x.2 ≠ none := by
    intro x hx
    simp only [visitAll] at hx
    obtain ⟨a', e1, _⟩ := cT x hx
    rw [e1]; simp
  have hready : HealReady (visitAll (.camel ren) s h).1 (replaceCore cfg s (visitAll (.camel ren) s h).2.1 (visitAll (.camel ren) s h).2.2).1 := by
    apply healReady_of_wfs wOut
    intro r hr
    have h1 := out_refOK (.camel ren) s.types r hr
    simp only [refOK, beq_iff_eq] at h1
    have hmem : r.name ∈ regNames s.types := List.mem_map.mpr ⟨(r.name, r.addr), lookup_mem' h1, rfl⟩
    apply nameIn_of_mem
    simp only [replaceCore]
    exact replaceTypes_names cfg _ s.types false hsome r.name hmem
  simp only [onSchema, replaceTD] at e
  split at e
  · cases fuel with
    | zero => simp [healLoop] at e
    | succ k =>
      obtain ⟨h3, e3, n3⟩ := healLoop_exact cfg k _ _ hready
      rw [e3] at e
      cases e
      intro e' he'
      obtain ⟨e0, k1, k2, k3⟩ := hP e' (by simpa [healedRoots] using he')
      exact ⟨e0, k1, k2, by rw [typeV_nveq n3]; exact k3⟩
  · cases e
    exact hP

/-- FULL (see the header): `transform_schema(source, CamelCaseSchemaTransform())` -/
theorem camel_case_exact (cfg : Cfg) (hd : cfg.deepClone = true) (hk : cfg.keepAllTypes = true) (hacc : cfg.accumulateBusted = true)
    (fuel : Nat) (ren : String → String) (s : Schema) (h h' : Heap) (s' : Schema) (hc : closedB h s = true) (hw : wfB h s = true)
    (e : transform cfg (2 + fuel) [.camel ren] s h = some (h', s')) :
    (∀ n, n ∈ names s → n ∈ names s') ∧
    ∀ e', e' ∈ s'.types → ∃ e0, e0 ∈ s.types ∧ e0.1 = e'.1 ∧ typeV h' e'.2 = (typeV h e0.2).map (renV ren) := by
  refine ⟨transform_intact cfg hd hk (2 + fuel) [.camel ren] (fun v hv => by simp only [List.mem_singleton] at hv; subst hv; trivial) s h h' s' e, ?_⟩
  obtain ⟨h1, s1, hr, hr2⟩ := transform_single_some e
  obtain ⟨c1, w1⟩ := clone_closed cfg hd hk hacc (2 + fuel) s h h1 s1 hc hw hr
  have v1 := clone_types_view cfg hd hk (2 + fuel) s h h1 s1 hc hw hr
  intro e' he'
  obtain ⟨e1, k1, k2, k3⟩ := camel_inplace_exact cfg (2 + fuel) ren s1 h1 h' s' c1 w1 hr2 e' he'
  obtain ⟨e0, j1, j2, j3⟩ := v1 e1 k1
  exact ⟨e0, j1, j2.trans k2, by rw [k3, j3]⟩

/-- "camel-casing alone drops no member": the member counts (fields, input fields) of every type are those of the source type,
    and so are the argument counts of every field (position by position) -/
theorem camel_case_drops_no_member (ren : String → String)
    (v0 : TypeO × List (Option (FieldO × List (Option ArgO))) × List (Option ArgO)) :
    (renV ren v0).2.1.length = v0.2.1.length ∧ (renV ren v0).2.2.length = v0.2.2.length ∧
    (renV ren v0).2.1.map (fun o => o.map (fun p => p.2.length)) = v0.2.1.map (fun o => o.map (fun p => p.2.length)) ∧
    (renV ren v0).1 = v0.1 := by
  refine ⟨by simp [renV], by simp [renV], ?_, rfl⟩
  simp only [renV, List.map_map]
  apply List.map_congr_left
  intro o _
  cases o <;> simp [renF]

/-- … and python names, defaults, descriptions, resolvers of the members are kept: the only attribute `renA` / `renF` change is
    the GraphQL name -/
theorem renA_keeps (ren : String → String) (g : ArgO) :
    (renA ren g).py = g.py ∧ (renA ren g).dflt = g.dflt ∧ (renA ren g).desc = g.desc ∧ (renA ren g).ty = g.ty ∧ (renA ren g).name = ren g.name :=
  ⟨rfl, rfl, rfl, rfl, rfl⟩

theorem renF_keeps (ren : String → String) (p : FieldO × List (Option ArgO)) :
    (renF ren p).1.py = p.1.py ∧ (renF ren p).1.res = p.1.res ∧ (renF ren p).1.sub = p.1.sub ∧ (renF ren p).1.desc = p.1.desc ∧
    (renF ren p).1.depr = p.1.depr ∧ (renF ren p).1.ty = p.1.ty ∧ (renF ren p).1.name = ren p.1.name :=
  ⟨rfl, rfl, rfl, rfl, rfl, rfl, rfl⟩

/-- non-vacuity on the witness: the source is closed and well-formed and the camel-case transform of it succeeds -/
example : closedB h0 s0 = true ∧ wfB h0 s0 = true ∧ (transform Cfg.fixed (2 + 6) [.camel (fun n => n ++ "X")] s0 h0).isSome = true :=
  ⟨s0_closed, s0_wf, s0_transform_total _⟩

theorem current_camel_case_exact
    (fuel : Nat) (ren : String → String) (s : Schema) (h h' : Heap) (s' : Schema) (hc : closedB h s = true) (hw : wfB h s = true)
    (e : transform PyGql.Generated.HeapCfg.currentCfg (2 + fuel) [.camel ren] s h = some (h', s')) :
    (∀ n, n ∈ names s → n ∈ names s') ∧
    ∀ e', e' ∈ s'.types → ∃ e0, e0 ∈ s.types ∧ e0.1 = e'.1 ∧ typeV h' e'.2 = (typeV h e0.2).map (renV ren) :=
  camel_case_exact _ cur_deepClone cur_keepAllTypes cur_accumulateBusted fuel ren s h h' s' hc hw e

end PyGql.Props.C14
