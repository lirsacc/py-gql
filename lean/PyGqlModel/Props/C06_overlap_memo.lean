/-
  C06 / C05 - property theorems: the memoised overlap search terminates on every document
  (finding hunt2 C05/1; fix 7e75356 in /repo = proposed_fixes/C05-overlap-fields-fragment-memo.patch).

  The finding: `{ ...F } fragment F on Query { q { q { ...F } ...F } }` made `_conflicts_between_fields_and_fragment`
  compare the same (field map, fragment) pair forever - `_conflicts_between_subselections` starts every comparison
  with a fresh `compared_fragments` set. The fuelled model of the search WITHOUT the memo exhausts its fuel on this document
  (`hunt_doc_crashes_unmemoised`), and the theorems about that search (`noCrash_of_ranks`, `verdict_iff_all`) do not speak
  of it: they assume `rankOkB`, which needs ACYCLIC spreads (`hunt_doc_not_ranked`).

  `Validate/OverlapMemo.lean` models the search WITH the memo of the fix; `overlap_memo_terminates`: on every
  document with well-formed identities (`WfIds`; the syntactic ranks `rankSynB` the proof uses - nesting of selection sets
  only, NO condition on fragment spreads - exist for every such document: `rankSynB_of_wfIds`; general form `*_ranked`), a
  recursion budget of
      fuelBound d R = (#sets·#fragments·2 + #fragments²·2) · (2R+7) + 2R+7      (R = maximal rank)
  frames suffices for `find_conflicts_within_selection_set` at EVERY selection set, in every context reached: the
  exception flag stays unset. Measure: triples not yet in the two memos (`mu`), times `2R+7`, plus the syntactic nesting
  left (`Lemmas/ValidateOverlapMemo.lean`).
  The driver (`Validate/ChainMemo.lean: runMemo`) runs the chain with the un-memoised search (`run`) AND the chain with the
  memoised one (`runM`); where the former exhausts its fuel or the document is unranked the model's verdict comes from the
  latter, so cyclic documents are COMPARED with the real validator as well. About `overlapMemoRun`: `overlap_memo_run_no_crash` (never
  crashes), `overlap_memo_no_false_alarm` (clause ⇒ silent, on every document, no side condition),
  `overlap_memo_neutral_partial` (un-memoised silent ⇒ memoised silent, under `OverlapHyps`).
  "The memo never LOSES a report" is PROVED in `Props/C06_overlap_memo_complete.lean` (`overlap_memo_complete`,
  `overlap_memo_never_loses`: under `ParentsAgree`, no fragment named "", `WfIds` - cyclic fragment graphs included);
  `OverlapMemoNeutralStatement` as a whole under the side conditions of the un-memoised theorem
  (`overlap_memo_neutral_side`); what stays open is "un-memoised silent ⇒ memoised silent" outside them, and the
  correspondence cross-checks it on every generated document (`memo:crosscheck`, evidence key `outside_model`).
-/
import PyGqlModel.Lemmas.ValidateOverlapMemo
import PyGqlModel.Lemmas.ValidateOverlapMemoSound
import PyGqlModel.Lemmas.ValidateOverlapWalk
import PyGqlModel.Lemmas.ValidateOverlapRankCheck
import PyGqlModel.Props.C06_overlap_hyps_ranks
import PyGqlModel.Lemmas.ValidateOverlapSynRank
namespace PyGql.Props.C06
open PyGql PyGql.Validate PyGql.Validate.Spec

theorem rankSyn_of_check (s : SchemaD) (d : Doc) (ρ : Nat → Nat) (R : Nat) (h : rankSynB s d ρ R = true) :
    RankSyn s d ρ R := by
  have key : ∀ i sels, SelSet d i sels → 2 ≤ ρ i ∧ ρ i ≤ R ∧
      (∀ q ∈ (collectSels s none sels ([], [])).1, ∀ e ∈ q.2, entryRank ρ e + 2 ≤ ρ i) := by
    intro i sels hs
    have := List.all_eq_true.mp h _ hs
    simp only [nodeRankSyn, Bool.and_eq_true, decide_eq_true_eq, List.all_eq_true] at this
    exact ⟨this.1.1, this.1.2, this.2⟩
  refine ⟨fun i sels hs => (key i sels hs).1, fun i sels hs => (key i sels hs).2.1, ?_⟩
  intro i sels p rn e hs hc
  obtain ⟨e', h1, h2, h3⟩ := collD_reparent hc none
  have hm := collectSels_complete s none sels ([], []) rn e' (Or.inr h1)
  have hr : entryRank ρ e = entryRank ρ e' := by simp only [entryRank, h2, h3]
  rw [hr]
  rcases AL.getD_cases (collectSels s none sels ([], [])).1 rn [] with h0 | h0
  · rw [h0] at hm; cases hm
  · exact (key i sels hs).2.2 _ h0 e' hm

/-- the memoised search run at every selection set of the document, one after the other on the same context (as the
    rule does), with a recursion budget of `fuel` frames: the exception flag at the end -/
def overlapMemoCrash (s : SchemaD) (fx : Fixes) (fuel : Nat) (d : Doc) : Option String :=
  ((nodes d).foldl (fun c n =>
    match n with
    | .selectionSet i sels => (withinSelectionSetM s fx fuel none i sels c).2
    | _ => c) ({ frags := fragTable d } : OCtx)).crash

/-- the general form of `overlap_memo_terminates`: ANY syntactic ranking `ρ` with bound `R` (checked: `rankSynB`) gives the
    fuel bound `fuelBound d R` -/
theorem overlap_memo_terminates_ranked (s : SchemaD) (fx : Fixes) (h7 : fx.v7 = true) (d : Doc) (ρ : Nat → Nat) (R : Nat)
    (hρ : rankSynB s d ρ R = true) (fuel : Nat) (hfuel : fuelBound d R ≤ fuel) :
    overlapMemoCrash s fx fuel d = none := by
  have hR := rankSyn_of_check s d ρ R hρ
  unfold overlapMemoCrash
  have key : ∀ (l : List Node), (∀ n ∈ l, n ∈ nodes d) → ∀ c : OCtx, Good ({ frags := fragTable d } : OCtx) c →
      Good ({ frags := fragTable d } : OCtx) (l.foldl (fun c n =>
        match n with
        | .selectionSet i sels => (withinSelectionSetM s fx fuel none i sels c).2
        | _ => c) c) := by
    intro l
    induction l with
    | nil => intro _ c hc; exact hc
    | cons n ns ih =>
      intro hsub c hc
      rw [List.foldl_cons]
      apply ih (fun m hm => hsub m (List.mem_cons_of_mem _ hm))
      cases n with
      | selectionSet i sels =>
        exact hc.trans (withinM_terminates s fx d ρ R hR h7 fuel hfuel none i sels c hc.1
          (hsub _ (List.mem_cons_self ..)))
      | _ => exact hc
  exact (key (nodes d) (fun _ h => h) _ (Good.refl _)).2.2.2

/-- **the memoised overlap search terminates on every document**: no `RecursionError` (nor any other exception) with a
    budget of `fuelBound d R` frames, `R` the maximal syntactic rank - cyclic fragment graphs included. The only
    hypothesis is `WfIds d` (selection-set identities pairwise distinct: every parsed document); the syntactic ranks
    the proof needs exist for every such document (`rankSynB_of_wfIds`). -/
theorem overlap_memo_terminates (s : SchemaD) (fx : Fixes) (h7 : fx.v7 = true) (d : Doc) (hw : WfIds d) (fuel : Nat)
    (hfuel : fuelBound d (maxRank (synRanks d)) ≤ fuel) : overlapMemoCrash s fx fuel d = none :=
  overlap_memo_terminates_ranked s fx h7 d _ _ (rankSynB_of_wfIds s d hw) fuel hfuel

/-- general form of `within_memo_terminates` (any checked syntactic ranking) -/
theorem within_memo_terminates_ranked (s : SchemaD) (fx : Fixes) (h7 : fx.v7 = true) (d : Doc) (ρ : Nat → Nat) (R : Nat)
    (hρ : rankSynB s d ρ R = true) (fuel : Nat) (hfuel : fuelBound d R ≤ fuel) (p : Option String) (i : Nat)
    (sels : List Sel) (c : OCtx) (hc : c.frags = fragTable d) (h1 : SelSet d i sels) :
    (withinSelectionSetM s fx fuel p i sels c).2.crash = c.crash :=
  (withinM_terminates s fx d ρ R (rankSyn_of_check s d ρ R hρ) h7 fuel hfuel p i sels c hc h1).2.2.2

/-- in every context reached, at every selection set, under any parent type (`WfIds d` only) -/
theorem within_memo_terminates (s : SchemaD) (fx : Fixes) (h7 : fx.v7 = true) (d : Doc) (hw : WfIds d) (fuel : Nat)
    (hfuel : fuelBound d (maxRank (synRanks d)) ≤ fuel) (p : Option String) (i : Nat)
    (sels : List Sel) (c : OCtx) (hc : c.frags = fragTable d) (h1 : SelSet d i sels) :
    (withinSelectionSetM s fx fuel p i sels c).2.crash = c.crash :=
  within_memo_terminates_ranked s fx h7 d _ _ (rankSynB_of_wfIds s d hw) fuel hfuel p i sels c hc h1

/-! ### the memoised RULE as the driver runs it (`Validate/ChainMemo.lean: overlapMemoRun`, `runMemo`) -/

/-- `overlap_memo_run_no_crash` with the computable check of the syntactic ranks as its hypothesis (the driver reports the
    check as `syn_rank`) -/
theorem overlap_memo_run_no_crash_ranked (s : SchemaD) (fx : Fixes) (h7 : fx.v7 = true) (d : Doc)
    (hρ : rankSynB s d (rankOf (synRanks d)) (maxRank (synRanks d)) = true) :
    (overlapMemoRun s fx d).2.crash = none := by
  have hR := rankSyn_of_check s d _ _ hρ
  rw [overlapMemoRun_eq]
  refine (sumLoop_good (typedNodes s d) _ _ (fun q hq c g => ?_)).2.2.2
  obtain ⟨n, v⟩ := q
  cases n with
  | selectionSet i sels =>
    exact withinM_terminates s fx d _ _ hR h7 (memoFuel d) (Nat.le_refl _) v.parent i sels c g.1 (selSet_of_typed hq)
  | _ => exact Good.refl c

/-- **the memoised rule never crashes**, on any document with well-formed identities (every parsed document), cyclic
    fragment graphs and any nesting depth included -/
theorem overlap_memo_run_no_crash (s : SchemaD) (fx : Fixes) (h7 : fx.v7 = true) (d : Doc) (hw : WfIds d) :
    (overlapMemoRun s fx d).2.crash = none :=
  overlap_memo_run_no_crash_ranked s fx h7 d (rankSynB_of_wfIds s d hw)

/-- **no false alarm, memoised, on EVERY document** (no side condition at all): where the clause of 5.3.2 holds the
    memoised rule reports nothing -/
theorem overlap_memo_no_false_alarm (s : SchemaD) (fx : Fixes) (h7 : fx.v7 = true) (d : Doc)
    (H : Spec.overlappingFieldsCanBeMerged s d) : (overlapMemoRun s fx d).1 = 0 := by
  rw [overlapMemoRun_eq]
  have key := sumLoop_spec (typedNodes s d) (memoStep s fx (memoFuel d)) (CI s d) (fun _ => False) (fun q hq c hc => ?_)
    ({ frags := fragTable d } : OCtx) ⟨rfl, fun _ h => nomatch h⟩
  · exact Nat.eq_zero_of_not_pos (fun h => (key.2 h).elim (fun _ hx => hx.2))
  · obtain ⟨n, v⟩ := q
    cases n with
    | selectionSet i sels =>
      have hs := selSet_of_typed hq
      obtain ⟨w1, w2⟩ := withinM_sound s fx d h7 (memoFuel d) v.parent i sels c hc hs (Adm.walk hq)
      refine ⟨w1, fun h0 => ?_⟩
      obtain ⟨p', rn, e1, e2, z1, z2, z3, z4⟩ := w2 h0
      exact H i sels hs p' z1 rn e1 e2 z2 z3 z4
    | _ => exact ⟨hc, fun h => absurd h (Nat.lt_irrefl 0)⟩

/-- verdict-neutrality of the memo: the memoised rule and the un-memoised rule (the one of the theorems) give the
    same verdict. OPEN in this generality (only `NoCrash`); proved with `ParentsAgree`, `OverlapSide`, `WfIds` added:
    `overlap_memo_neutral_side` (`Props/C06_overlap_memo_complete.lean`); the per-run cross-check `memo:crosscheck` of the
    correspondence covers the rest -/
def OverlapMemoNeutralStatement : Prop :=
  ∀ (s : SchemaD) (fx : Fixes) (d : Doc), fx.v7 = true → NoCrash s fx d →
    ((overlapMemoRun s fx d).1 = 0 ↔ Silent s fx .overlappingFieldsCanBeMerged d)

/-- **verdict-neutrality, the half "the memo never ADDS a report"**: under the side conditions of the rule's
    equivalence (`OverlapHyps`: parents agree, well-formed spreads, the un-memoised run does not crash - all three
    follow from the driver's static checks on ranked documents, `overlapHyps_of_wf_ranked`), if the un-memoised rule is
    silent so is the memoised one. (The other half - the memo never LOSES a report - is `overlap_memo_never_loses` of
    `Props/C06_overlap_memo_complete.lean`: the certificate argument redone over both memos.) -/
theorem overlap_memo_neutral_partial (s : SchemaD) (fx : Fixes) (h7 : fx.v7 = true) (d : Doc)
    (hpa : Spec.ParentsAgree s d) (hsc : OverlapSide s d) (hnc : NoCrash s fx d)
    (hsil : Silent s fx .overlappingFieldsCanBeMerged d) : (overlapMemoRun s fx d).1 = 0 :=
  overlap_memo_no_false_alarm s fx h7 d
    ((rule_overlapping_fields_can_be_merged_iff_partial s fx h7 d hpa hsc hnc).mp hsil)

/-- consequently: a report of the memoised rule is a genuine violation of 5.3.2, and (under the side conditions) is
    also reported by the un-memoised rule -/
theorem overlap_memo_report_genuine (s : SchemaD) (fx : Fixes) (h7 : fx.v7 = true) (d : Doc)
    (h : 0 < (overlapMemoRun s fx d).1) : ¬ Spec.overlappingFieldsCanBeMerged s d := fun H => by
  have := overlap_memo_no_false_alarm s fx h7 d H
  omega

/-- `type Query { q: Query b: Int }` -/
def hSchema : SchemaD :=
  { types := [
      { kind := .scalar, name := "Int" }, { kind := .scalar, name := "String" }, { kind := .scalar, name := "Boolean" },
      { kind := .object, name := "Query", fields := [
          { name := "q", type := .named "Query" }, { name := "b", type := .named "Int" }] }],
    query := some "Query",
    directives := [] }

/-- `{ ...F } fragment F on Query { q { q { ...F } ...F } }` -/
def hDoc : Doc :=
  ⟨[opV [] 1 [.spread "F" []],
    .frag "F" "Query" [] 2 [.field none "q" [] [] true 3 [.field none "q" [] [] true 4 [.spread "F" []], .spread "F" []]]]⟩

/-- the un-memoised search exhausts the model's fuel on it: the model's form of the `RecursionError` of the finding -/
theorem hunt_doc_crashes_unmemoised : overlapNoCrashB hSchema Fixes.all hDoc = false := by decide +kernel
/-- it has no ranks (the fragment spreads itself): the theorems that assume `rankOkB` do not speak of it -/
theorem hunt_doc_not_ranked : rankOkB hSchema hDoc (rankOf (computeRanks hDoc)) = false := by decide +kernel
/-- it has syntactic ranks, like every document -/
theorem hunt_doc_syn_ranked : rankSynB hSchema hDoc (rankOf (synRanks hDoc)) (maxRank (synRanks hDoc)) = true := by
  decide +kernel
/-- so the memoised search terminates on it, within the bound (by the theorem, and - for the model's fuel 400 - by
    evaluation) -/
example : overlapMemoCrash hSchema Fixes.all (fuelBound hDoc (maxRank (synRanks hDoc))) hDoc = none :=
  overlap_memo_terminates hSchema Fixes.all rfl hDoc (by rw [← wfIdsB_iff]; decide +kernel) _ (Nat.le_refl _)
example : overlapMemoCrash hSchema Fixes.all (fuelBound hDoc (maxRank (synRanks hDoc))) hDoc = none :=
  overlap_memo_terminates_ranked hSchema Fixes.all rfl hDoc _ _ hunt_doc_syn_ranked _ (Nat.le_refl _)
example : fuelBound hDoc (maxRank (synRanks hDoc)) ≤ overlapFuel ∧ overlapMemoCrash hSchema Fixes.all overlapFuel hDoc = none := by
  decide +kernel

/-- the memoised RULE on `hDoc`: no crash, no error (its only violation is the fragment cycle) -/
example : (overlapMemoRun hSchema Fixes.all hDoc).1 = 0 ∧ (overlapMemoRun hSchema Fixes.all hDoc).2.crash = none := by
  decide +kernel
/-- a conflict inside the cycle (`... ...F a: b a: q }`) is still found -/
example : let dc : Doc := ⟨[opV [] 1 [.spread "F" []],
      .frag "F" "Query" [] 2 [.field none "q" [] [] true 3 [.field none "q" [] [] true 4 [.spread "F" []], .spread "F" []],
        .field (some "a") "b" [] [] false 0 [], .field (some "a") "q" [] [] false 0 []]]⟩
    0 < (overlapMemoRun hSchema Fixes.all dc).1 ∧ (overlapMemoRun hSchema Fixes.all dc).2.crash = none := by
  decide +kernel

end PyGql.Props.C06
