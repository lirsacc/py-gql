/-
  C06 - the ten node-by-node and name rules (`Proved`), their specification predicates
  (`SpecOf`), the uniform equivalence `rule_iff`, attribution, and INVARIANCE of their verdict under the
  transformations of the statement: reordering definitions (`perm_definitions`), reordering selections
  (`perm_selections`), reordering arguments (`perm_arguments`) and injective renaming of fragments
  (`alpha_fragments`) - proved on the specification predicates (they only talk about membership in
  `Spec.nodes`) and transported through `rule_iff`.
-/
import PyGqlModel.Props.C06_doc
import PyGqlModel.Props.C06_names
import PyGqlModel.Lemmas.ValidateCtxTr
namespace PyGql.Props.C06
open PyGql PyGql.Validate PyGql.Validate.Spec

/-- the ten node-by-node and name rules -/
def Proved : List Rule :=
  [.executableDefinitions, .loneAnonymousOperation, .singleFieldSubscriptions, .knownTypeNames,
   .variablesAreInputTypes, .knownFragmentNames, .uniqueDirectivesPerLocation, .uniqueArgumentNames,
   .uniqueFragmentNames, .uniqueOperationName]

def SpecOf (r : Rule) (s : SchemaD) (d : Doc) : Prop :=
  match r with
  | .executableDefinitions => Spec.executableDefinitions d
  | .loneAnonymousOperation => Spec.loneAnonymousOperation d
  | .singleFieldSubscriptions => Spec.singleFieldSubscriptions d
  | .knownTypeNames => Spec.knownTypeNames s d
  | .variablesAreInputTypes => Spec.variablesAreInputTypes s d
  | .knownFragmentNames => Spec.knownFragmentNames d
  | .uniqueDirectivesPerLocation => Spec.uniqueDirectivesPerLocation d
  | .uniqueArgumentNames => Spec.uniqueArgumentNames d
  | .uniqueFragmentNames => Spec.uniqueFragmentNames d
  | .uniqueOperationName => Spec.uniqueOperationNames d
  | _ => True

/-- **rule_k_iff**, uniformly: the rule visitor run alone reports nothing ⇔ its specification predicate holds -/
theorem rule_iff (s : SchemaD) (fx : Fixes) (d : Doc) (r : Rule) (hr : r ∈ Proved) :
    Silent s fx r d ↔ SpecOf r s d := by
  simp only [Proved, List.mem_cons, List.not_mem_nil, or_false] at hr
  rcases hr with rfl | rfl | rfl | rfl | rfl | rfl | rfl | rfl | rfl | rfl
  · exact rule_executable_definitions_iff s fx d
  · exact rule_lone_anonymous_operation_iff s fx d
  · exact rule_single_field_subscriptions_iff s fx d
  · exact rule_known_type_names_iff s fx d
  · exact rule_variables_are_input_types_iff s fx d
  · exact rule_known_fragment_names_iff s fx d
  · exact rule_unique_directives_per_location_iff s fx d
  · exact rule_unique_argument_names_iff s fx d
  · exact rule_unique_fragment_names_iff s fx d
  · exact rule_unique_operation_names_iff s fx d

/-- **verdict_iff** for the conjunction of the rules proved -/
theorem verdict_iff_partial (s : SchemaD) (fx : Fixes) (d : Doc) :
    (∀ r ∈ Proved, Silent s fx r d) ↔ (∀ r ∈ Proved, SpecOf r s d) :=
  forall_congr' fun r => forall_congr' fun hr => rule_iff s fx d r hr

/-- **attribution** (for the rules proved; on the rule run alone - that the chain's verdict is the conjunction
    of the rules run alone: `chainM_silent_iff_alone`, `chainM_attribution`, Props/C06_chain.lean): a document that breaks
    the specification rule of `r` and no other proved rule gets an error from the visitor of `r`, and the
    visitors of the other proved rules hold no error -/
theorem attribution_partial (s : SchemaD) (fx : Fixes) (d : Doc) (r : Rule) (hr : r ∈ Proved)
    (hbad : ¬ SpecOf r s d) (hothers : ∀ r' ∈ Proved, r' ≠ r → SpecOf r' s d) :
    0 < E (alone s fx r d) ∧ ∀ r' ∈ Proved, r' ≠ r → E (alone s fx r' d) = 0 := by
  refine ⟨Nat.pos_of_ne_zero fun h0 => hbad ((rule_iff s fx d r hr).mp h0), fun r' hr' hne => ?_⟩
  exact (rule_iff s fx d r' hr').mpr (hothers r' hr' hne)

private theorem tr_dir_names (T : Tr) (dirs : List Dir) : (dirs.map T.dir).map (·.name) = dirs.map (·.name) := by
  simp [List.map_map, Function.comp_def, Tr.dir]

private theorem tr_sels_length (T : Tr) (sels : List Sel) : (T.sels (T.selList sels)).length = sels.length := by
  rw [(T.sels_perm _).length_eq, Tr.selList_eq_map, List.length_map]

theorem fragNames_tr (T : Tr) (d : Doc) : Spec.fragNames (T.doc d) = (Spec.fragNames d).map T.frag :=
  T.fragNames_doc d

theorem spec_tr (T : Tr) (hinj : ∀ a b, T.frag a = T.frag b → a = b) (s : SchemaD) (d : Doc) (r : Rule)
    (hr : r ∈ Proved) (hns : r ≠ .singleFieldSubscriptions) : SpecOf r s (T.doc d) ↔ SpecOf r s d := by
  simp only [Proved, List.mem_cons, List.not_mem_nil, or_false] at hr
  rcases hr with rfl | rfl | rfl | rfl | rfl | rfl | rfl | rfl | rfl | rfl
  · -- executable definitions
    simp only [SpecOf, Spec.executableDefinitions, Tr.doc, List.forall_mem_map]
    exact forall_congr' fun x => forall_congr' fun _ => by cases x <;> exact Iff.rfl
  · -- lone anonymous operation: `T.defn` keeps the kind and the name of an operation
    have hop : Def.isOp ∘ T.defn = Def.isOp := funext fun x => by cases x <;> rfl
    have hanon : (∃ x ∈ d.defs.map T.defn, ∃ k vs ds i ss, x = Def.op k none vs ds i ss) ↔
        ∃ x ∈ d.defs, ∃ k vs ds i ss, x = Def.op k none vs ds i ss := by
      constructor
      · rintro ⟨_, hy, k, vs, ds, i, ss, e⟩
        obtain ⟨x, hx, rfl⟩ := List.mem_map.mp hy
        cases x with
        | op => cases e; exact ⟨_, hx, _, _, _, _, _, rfl⟩
        | _ => cases e
      · rintro ⟨_, hx, k, vs, ds, i, ss, rfl⟩
        exact ⟨_, List.mem_map_of_mem hx, _, _, _, _, _, rfl⟩
    simp only [SpecOf, Spec.loneAnonymousOperation, Spec.operations, Tr.doc, hanon, List.filter_map, List.length_map, hop]
  · -- single field subscriptions: excluded; its clause (the collected response keys, 5.2.3.1) is treated in C06_inv_tr_subscriptions.lean
    exact absurd rfl hns
  · -- known type names
    simp only [SpecOf, Spec.knownTypeNames, forall_nodes_tr, T.node_eq_typeNode]
  · -- variables are input types
    simp only [SpecOf, Spec.variablesAreInputTypes, forall_nodes_tr, T.forall_node_varDef]
    exact Iff.rfl
  · -- known fragment names
    simp only [SpecOf, Spec.knownFragmentNames, forall_nodes_tr, T.forall_node_spread, fragNames_tr]
    refine forall_congr' fun m => forall_congr' fun _ => forall_congr' fun name => forall_congr' fun _ =>
      forall_congr' fun _ => ?_
    exact ⟨fun h => by obtain ⟨a, ha, e⟩ := List.mem_map.mp h; rwa [← hinj _ _ e], List.mem_map_of_mem⟩
  · -- unique directives per location
    have hd (m : Node) : Spec.uniqueDirectivesPerLocation.Node.dirsOf? (T.node m) =
        (Spec.uniqueDirectivesPerLocation.Node.dirsOf? m).map (List.map T.dir) := by cases m <;> rfl
    simp only [SpecOf, Spec.uniqueDirectivesPerLocation, forall_nodes_tr, hd, Option.map_eq_some_iff,
      forall_exists_index, and_imp, forall_apply_eq_imp_iff₂, tr_dir_names]
  · -- unique argument names
    have hnd (a : List Arg) : ((T.args a).map (·.name)).Nodup ↔ (a.map (·.name)).Nodup :=
      ((T.args_perm a).map _).nodup_iff
    simp only [SpecOf, Spec.uniqueArgumentNames, forall_nodes_tr, T.forall_node_field, T.forall_node_directive,
      Tr.dir, hnd]
  · -- unique fragment names
    simp only [SpecOf, Spec.uniqueFragmentNames, fragNames_tr]
    unfold List.Nodup
    rw [List.pairwise_map]
    exact ⟨fun h => h.imp (fun {a b} hne (e : a = b) => hne (congrArg T.frag e)),
      fun h => h.imp (fun {a b} hne (e : T.frag a = T.frag b) => hne (hinj _ _ e))⟩
  · -- unique operation names
    have : Spec.opNames (T.doc d) = Spec.opNames d := by
      simp only [Spec.opNames, Tr.doc, List.filterMap_map]
      congr 1
      funext x
      cases x <;> rfl
    simp only [SpecOf, Spec.uniqueOperationNames, this]

theorem spec_perm_definitions (s : SchemaD) {d d' : Doc} (h : d.defs.Perm d'.defs) (r : Rule) (hr : r ∈ Proved)
    (hns : r ≠ .singleFieldSubscriptions) :
    SpecOf r s d ↔ SpecOf r s d' := by
  have hfr : ∀ x, x ∈ Spec.fragNames d ↔ x ∈ Spec.fragNames d' := fun x => (h.filterMap _).mem_iff
  have hnodes : ∀ (P : Node → Prop), (∀ d, P (.document d)) → ((∀ n ∈ nodes d, P n) ↔ (∀ n ∈ nodes d', P n)) := by
    intro P hP
    simp only [nodes, List.mem_cons, List.mem_flatMap, forall_eq_or_imp]
    constructor
    · rintro ⟨_, H⟩; exact ⟨hP _, fun n ⟨x, hx, hm⟩ => H n ⟨x, h.mem_iff.mpr hx, hm⟩⟩
    · rintro ⟨_, H⟩; exact ⟨hP _, fun n ⟨x, hx, hm⟩ => H n ⟨x, h.mem_iff.mp hx, hm⟩⟩
  simp only [Proved, List.mem_cons, List.not_mem_nil, or_false] at hr
  rcases hr with rfl | rfl | rfl | rfl | rfl | rfl | rfl | rfl | rfl | rfl
  · simp only [SpecOf, Spec.executableDefinitions]
    exact ⟨fun H x hx => H x (h.mem_iff.mpr hx), fun H x hx => H x (h.mem_iff.mp hx)⟩
  · simp only [SpecOf, Spec.loneAnonymousOperation, Spec.operations]
    rw [(h.filter _).length_eq]
    exact imp_congr ⟨fun ⟨x, hx, e⟩ => ⟨x, h.mem_iff.mp hx, e⟩, fun ⟨x, hx, e⟩ => ⟨x, h.mem_iff.mpr hx, e⟩⟩ Iff.rfl
  · exact absurd rfl hns
  · exact hnodes _ (fun _ => by simp)
  · exact hnodes _ (fun _ => by simp)
  · simp only [SpecOf, Spec.knownFragmentNames]
    rw [hnodes (fun n => ∀ name dirs, n = Node.spread name dirs → name ∈ Spec.fragNames d) (fun _ => by simp)]
    exact forall_congr' fun n => forall_congr' fun _ => forall_congr' fun name => forall_congr' fun _ =>
      forall_congr' fun _ => hfr name
  · exact hnodes _ (fun _ => by simp [Spec.uniqueDirectivesPerLocation.Node.dirsOf?])
  · simp only [SpecOf, Spec.uniqueArgumentNames]
    exact and_congr (hnodes _ (fun _ => by simp)) (hnodes _ (fun _ => by simp))
  · simp only [SpecOf, Spec.uniqueFragmentNames, Spec.fragNames]
    exact (h.filterMap _).nodup_iff
  · simp only [SpecOf, Spec.uniqueOperationNames, Spec.opNames]
    exact (h.filterMap _).nodup_iff

/-! ### transported to the rule visitors

  The `_partial` theorems below are the invariance part of C06 for the rules in `Proved`. The `FullStatement_*`
  definitions (here, in C06_inv_aliases.lean and C06_inv_variables.lean) keep the statements of the property visible as they
  read for `verdict { schema := s }`: the chain with the UN-memoised overlap search (the code before fix 7e75356) and every
  other fix, every schema and every document of the model, no side condition. In that form none of them is proved or refuted in these files. What is
  proved is the same statement for the chain /repo runs (memoised search) under the hypotheses of the headline theorems,
  named in each docstring. For the code before the fix commits the full statements are FALSE
  (`perm_selections_refuted_unfixed`, `perm_definitions_refuted_unfixed` in C06_witness.lean). -/

/-- full statement: reordering definitions never changes the verdict of the chain (for the chain /repo runs:
    `perm_definitions_verdict_invariance_memo`, Props/C06_inv_verdict.lean; `chainM_six_transformations`) -/
def FullStatement_perm_definitions : Prop :=
  ∀ (s : SchemaD) (d d' : Doc), d.defs.Perm d'.defs → verdict { schema := s } d = verdict { schema := s } d'

/-- full statement: reordering selections / arguments and renaming fragments injectively never changes the
    verdict of the chain (for the chain /repo runs, under the hypotheses of the headline theorems: `Props/C06_chain.lean:
    chainM_six_transformations`; per rule, all 26: `tr_invariance_all26`; renaming of aliases: `Al`, Props/C06_inv_aliases.lean, C06_inv_aliases_all26.lean; of variables: `Vr`,
    Props/C06_inv_variables.lean, C06_inv_variables_collector.lean, C06_inv_variables_all26.lean) -/
def FullStatement_tr_invariance : Prop :=
  ∀ (T : Tr), (∀ a b, T.frag a = T.frag b → a = b) → ∀ (s : SchemaD) (d : Doc),
    verdict { schema := s } (T.doc d) = verdict { schema := s } d

/-- full statement of the equivalence with the specification, for a specification predicate per rule (for the chain
    /repo runs, under the hypotheses of the headline theorems and with the exception flag as an explicit conjunct:
    `Props/C06_chain.lean: verdictM_iff_spec`, `verdict_chain_iff`; for `verdict` itself under `DocOk`: `verdict_iff_spec`) -/
def FullStatement_verdict_iff (SpecAll : Rule → SchemaD → Doc → Prop) : Prop :=
  ∀ (s : SchemaD) (d : Doc), verdict { schema := s } d = some true ↔ ∀ r ∈ Rule.all, SpecAll r s d

/-- **perm_definitions**: reordering the definitions of the document does not change the verdict of any proved rule -/
theorem perm_definitions_partial (s : SchemaD) (fx : Fixes) {d d' : Doc} (h : d.defs.Perm d'.defs) (r : Rule) (hr : r ∈ Proved)
    (hns : r ≠ .singleFieldSubscriptions) : Silent s fx r d ↔ Silent s fx r d' := by
  rw [rule_iff s fx d r hr, rule_iff s fx d' r hr]; exact spec_perm_definitions s h r hr hns

/-- general form: any `Tr` with an injective fragment renaming -/
theorem tr_invariance_partial (T : Tr) (hinj : ∀ a b, T.frag a = T.frag b → a = b) (s : SchemaD) (fx : Fixes) (d : Doc)
    (r : Rule) (hr : r ∈ Proved) (hns : r ≠ .singleFieldSubscriptions) : Silent s fx r (T.doc d) ↔ Silent s fx r d := by
  rw [rule_iff s fx _ r hr, rule_iff s fx d r hr]; exact spec_tr T hinj s d r hr hns

/-- **perm_selections**: `π` re-orders every selection list of the document (at every depth) -/
theorem perm_selections_partial (π : List Sel → List Sel) (hπ : ∀ l, (π l).Perm l) (s : SchemaD) (fx : Fixes) (d : Doc)
    (r : Rule) (hr : r ∈ Proved) (hns : r ≠ .singleFieldSubscriptions) :
    Silent s fx r ((Tr.mk π id id hπ (fun _ => List.Perm.refl _)).doc d) ↔ Silent s fx r d :=
  tr_invariance_partial _ (fun _ _ e => e) s fx d r hr hns

/-- **perm_arguments**: `π` re-orders the arguments of every field and every directive -/
theorem perm_arguments_partial (π : List Arg → List Arg) (hπ : ∀ l, (π l).Perm l) (s : SchemaD) (fx : Fixes) (d : Doc)
    (r : Rule) (hr : r ∈ Proved) (hns : r ≠ .singleFieldSubscriptions) :
    Silent s fx r ((Tr.mk id π id (fun _ => List.Perm.refl _) hπ).doc d) ↔ Silent s fx r d :=
  tr_invariance_partial _ (fun _ _ e => e) s fx d r hr hns

/-- **alpha_fragments**: `ρ` renames fragments injectively (definitions and spreads consistently) -/
theorem alpha_fragments_partial (ρ : String → String) (hρ : ∀ a b, ρ a = ρ b → a = b) (s : SchemaD) (fx : Fixes) (d : Doc)
    (r : Rule) (hr : r ∈ Proved) (hns : r ≠ .singleFieldSubscriptions) :
    Silent s fx r ((Tr.mk id id ρ (fun _ => List.Perm.refl _) (fun _ => List.Perm.refl _)).doc d) ↔ Silent s fx r d :=
  tr_invariance_partial _ hρ s fx d r hr hns

/-- non-vacuity: a genuine reordering of selections is an instance (`List.reverse`) -/
example (s : SchemaD) (fx : Fixes) (d : Doc) (r : Rule) (hr : r ∈ Proved) (hns : r ≠ .singleFieldSubscriptions) :
    Silent s fx r ((Tr.mk List.reverse id id (fun l => l.reverse_perm) (fun _ => List.Perm.refl _)).doc d) ↔
      Silent s fx r d := perm_selections_partial List.reverse (fun l => l.reverse_perm) s fx d r hr hns

end PyGql.Props.C06
