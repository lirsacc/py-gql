/-
  C07 — "input objects are dictionaries … with declared defaults FILLED IN": what about the declared defaults themselves?

  The model hands a declared default over AS DECLARED (`coerceArg`, `coerceInputObject`, `extractInputObject`:
  `some v => .ok (some v)` — the code's `copy_containers(field.default_value)`), and the soundness theorems assume
  `RegOK.defaultsConform` / `ArgsOK.defaultsConform`: every declared default `Conforms` to its type, which for an input object
  includes "defaulted fields present". A schema built from SDL establishes that premise (defaults are literals coerced by
  `value_from_ast`, which fills the nested defaults in). A schema built with the PYTHON API does not have to: schema validation
  (`_default_value_error`, /repo 7cadcb0) checks the values found under the fields' python names and deliberately leaves missing
  keys to the author. `DeclaredOK` is that weaker check; this file shows the gap between the two is exactly finding A11:

    * `incomplete_default_validated`       the witness registry (code-first `Outer.inner: Inner = {}`, `Inner.x: Int = 3`)
                                           passes the validator's check (`DeclaredOK`),
    * `incomplete_default_reaches_resolver` yet `{ f(o: {}) }` hands the resolver `{'inner': {}}`, while `{ f(o: {inner: {}}) }`
                                           hands it `{'inner': {'x': 3}}`,
    * `incomplete_default_not_conforming`  and `{'inner': {}}` does not conform to `Outer`,
    * `incomplete_default_not_regOK`       so the registry is outside `RegOK` (the theorems do not speak about it), and
    * `defaults_filled_statement_refuted`  the statement with the validator's premise in place of `RegOK` is FALSE of the code.

  Reproduced on the real code by the named probe `default-shapes` of harness/corr/C07.py (known finding A11).
-/
import PyGqlModel.Props.C07_args

namespace PyGql.Props.C07
open PyGql PyGql.Coerce

mutual
/-- what `_default_value_error` accepts: like `Conforms`, except that a mapping at an input-object position may omit any field
    (only the values found under a field's python name are checked) -/
inductive DeclaredOK (reg : Reg) : Ty → PV → Prop
  | null {t : Ty} : t.isNonNull = false → DeclaredOK reg t .none
  | nonNull {t : Ty} {pv : PV} : pv.isNone = false → DeclaredOK reg t pv → DeclaredOK reg (.nonNull t) pv
  | list {t : Ty} {l : List PV} : (∀ x, x ∈ l → DeclaredOK reg t x) → DeclaredOK reg (.list t) (.list l)
  | leaf {n : String} {pv : PV} : (∀ fs, reg.get? n ≠ some (.input fs)) → Conforms reg (.named n) pv → DeclaredOK reg (.named n) pv
  | input {n : String} {fs : List InField} {kvs : List (String × PV)} :
      reg.get? n = some (.input fs) → DeclaredFields reg fs kvs → DeclaredOK reg (.named n) (.dict kvs)
inductive DeclaredFields (reg : Reg) : List InField → List (String × PV) → Prop
  | nil : DeclaredFields reg [] []
  | present {f : InField} {fs : List InField} {pv : PV} {kvs : List (String × PV)} :
      DeclaredOK reg f.type pv → DeclaredFields reg fs kvs → DeclaredFields reg (f :: fs) ((f.pyName, pv) :: kvs)
  | omitted {f : InField} {fs : List InField} {kvs : List (String × PV)} :
      DeclaredFields reg fs kvs → DeclaredFields reg (f :: fs) kvs
end

/-- the premise schema validation establishes for a code-first registry: `RegOK` with `DeclaredOK` for the defaults -/
structure RegDeclaredOK (reg : Reg) : Prop where
  fieldWf : ∀ n fs, reg.get? n = some (.input fs) → ∀ f, f ∈ fs → f.type.wf = true
  defaultsDeclared : ∀ n fs, reg.get? n = some (.input fs) → ∀ f, f ∈ fs → ∀ d, f.default = some d → DeclaredOK reg f.type d
  enumNotNone : ∀ n vs, reg.get? n = some (.enum vs) → ∀ p, p ∈ vs → p.2.isNone = false
  pyNamesDistinct : ∀ n fs, reg.get? n = some (.input fs) → (fs.map (fun f => f.pyName)).Nodup

namespace A11
def innerFields : List InField := [{ name := "x", pyName := "x", type := .named "Int", default := some (.int 3) }]
def innerField : InField := { name := "inner", pyName := "inner", type := .named "Inner", default := some (.dict []) }
def outerFields : List InField := [innerField, { name := "k", pyName := "k", type := .named "Int", default := none }]
/-- `Inner = InputObjectType("Inner", [InputField("x", Int, default_value=3)])`,
    `Outer = InputObjectType("Outer", [InputField("inner", Inner, default_value={}), InputField("k", Int)])` -/
def reg : Reg := Reg.ofTypes [("Int", .int), ("Inner", .input innerFields), ("Outer", .input outerFields)]
/-- `f(o: Outer)` -/
def argDefs : List InField := [{ name := "o", pyName := "o", type := .named "Outer", default := none }]

private theorem get_int : reg.get? "Int" = some .int := rfl
private theorem get_inner : reg.get? "Inner" = some (.input innerFields) := rfl
private theorem get_outer : reg.get? "Outer" = some (.input outerFields) := rfl

private theorem get_input {n : String} {fs : List InField} (h : reg.get? n = some (.input fs)) :
    (n = "Inner" ∧ fs = innerFields) ∨ (n = "Outer" ∧ fs = outerFields) := by
  simpa [reg, Reg.ofTypes] using mem_of_get? h
end A11

theorem conforms_input_inv {reg : Reg} {n : String} {fs : List InField} (hn : reg.get? n = some (.input fs)) :
    ∀ pv, Conforms reg (.named n) pv → pv = .none ∨ ∃ kvs, pv = .dict kvs ∧ ConformsFields reg fs kvs := by
  intro pv h
  cases h with
  | null _ => exact .inl rfl
  | int hg _ => rw [hn] at hg; cases hg
  | float hg => rw [hn] at hg; cases hg
  | string hg => rw [hn] at hg; cases hg
  | boolean hg => rw [hn] at hg; cases hg
  | id hg => rw [hn] at hg; cases hg
  | custom hg _ => rw [hn] at hg; cases hg
  | enum hg _ => rw [hn] at hg; cases hg
  | input hg hf =>
    rw [hn] at hg
    cases hg
    exact .inr ⟨_, rfl, hf⟩

open A11 in
theorem empty_not_inner : ¬ Conforms A11.reg (.named "Inner") (.dict []) := by
  intro h
  rcases conforms_input_inv get_inner _ h with h0 | ⟨kvs, hk, hf⟩
  · cases h0
  · cases hk
    cases hf with
    | absent hd _ _ => simp at hd

open A11 in
/-- **finding A11, resolver side.** With the code-first declaration above, the request `{ f(o: {}) }` hands the resolver
    `o = {'inner': {}}` — the declared default of `Outer.inner`, as declared — while `{ f(o: {inner: {}}) }` hands it
    `o = {'inner': {'x': 3}}`: the declared default of `Inner.x` is filled in only when the mapping is written in the request. -/
theorem incomplete_default_reaches_resolver :
    coerceArgumentValues A11.reg 10 [] [("o", .obj [])] A11.argDefs = .ok [("o", .dict [("inner", .dict [])])] ∧
    coerceArgumentValues A11.reg 10 [] [("o", .obj [("inner", .obj [])])] A11.argDefs = .ok [("o", .dict [("inner", .dict [("x", .int 3)])])] := by
  decide +kernel

open A11 in
theorem incomplete_default_not_conforming : ¬ Conforms A11.reg (.named "Outer") (.dict [("inner", .dict [])]) := by
  intro h
  rcases conforms_input_inv get_outer _ h with h0 | ⟨kvs, hk, hf⟩
  · cases h0
  · cases hk
    cases hf with
    | present h1 _ => exact empty_not_inner h1
    | absent hd _ _ => simp [innerField] at hd

open A11 in
theorem incomplete_default_not_regOK : ¬ RegOK A11.reg := fun h =>
  empty_not_inner (h.defaultsConform "Outer" outerFields get_outer innerField (by simp [outerFields]) (.dict []) rfl)

open A11 in
theorem incomplete_default_validated : RegDeclaredOK A11.reg := by
  refine ⟨?_, ?_, ?_, ?_⟩
  · intro n fs h f hf
    rcases get_input h with ⟨_, rfl⟩ | ⟨_, rfl⟩
    · simp [innerFields] at hf; subst hf; rfl
    · simp [outerFields] at hf; rcases hf with rfl | rfl <;> rfl
  · intro n fs h f hf d hd
    rcases get_input h with ⟨_, rfl⟩ | ⟨_, rfl⟩
    · simp [innerFields] at hf; subst hf
      simp at hd; subst hd
      refine .leaf (fun fs h => ?_) (.int get_int (by decide))
      rw [get_int] at h; cases h
    · simp [outerFields] at hf
      rcases hf with rfl | rfl <;> simp [innerField] at hd
      subst hd
      exact .input get_inner (.omitted .nil)
  · intro n vs h p _
    simpa [reg, Reg.ofTypes] using mem_of_get? h
  · intro n fs h
    rcases get_input h with ⟨_, rfl⟩ | ⟨_, rfl⟩ <;> decide +kernel

/-- THE STATEMENT with the premise that code-first schemas actually satisfy (what `Schema.validate()` checks) in place of
    `RegOK`: every accepted argument list conforms, declared defaults filled in. -/
def DefaultsFilledStatement : Prop :=
  ∀ (reg : Reg) (fuel : Nat) (args : List (String × Lit)) (defs : List InField) (kw : List (String × PV)),
    RegDeclaredOK reg → (∀ d, d ∈ defs → d.default = none ∧ d.type.wf = true) →
    (∀ d, d ∈ defs → ∀ l, lookupLast d.name args = some l → VarsFit reg (some []) d.type l) →
    coerceArgumentValues reg fuel [] args defs = .ok kw → ConformsFields reg defs kw

open A11 in
/-- **REFUTED (finding A11)**: witness `{ f(o: {}) }` on the code-first registry above. With `RegOK` in place
    of `RegDeclaredOK` the statement is `arguments_sound`. -/
theorem defaults_filled_statement_refuted : ¬ DefaultsFilledStatement := by
  intro h
  have hc := h A11.reg 10 [("o", .obj [])] argDefs _ incomplete_default_validated
    (by intro d hd; simp [argDefs] at hd; subst hd; exact ⟨rfl, rfl⟩)
    (by
      intro d hd l hl
      simp [argDefs] at hd; subst hd
      simp [lookupLast] at hl; subst hl
      exact .obj (n := "Outer") (fs := outerFields) rfl get_outer (fun f _ l hl => by simp [lookupLast] at hl))
    incomplete_default_reaches_resolver.1
  cases hc with
  | present h1 _ => exact incomplete_default_not_conforming h1
  | absent _ _ hrest => cases hrest

end PyGql.Props.C07
