/-
  C01 (lexical part): the lexer accepts exactly the tiled texts and returns the tiling (`lex_sound`, `lex_render`,
  `lexAll_ok_iff`), so ignored characters are insignificant (`lex_ignored_invariant`); the number look-ahead restriction
  (finding LA1); where error positions lie (`error_in_range_partial`), that every error can be rendered (`render_total`),
  and the extracted tables = the character classes of the specification.
-/
import PyGqlModel.Lex
import PyGqlModel.StringUtils
import PyGqlModel.Lemmas.LexRange
import PyGqlModel.Lemmas.LexRender
import PyGqlModel.Lemmas.LexChars
import PyGqlModel.Lemmas.LexTiles
import PyGqlModel.Lemmas.LexComplete
import PyGqlModel.Lemmas.LexCompleteBlock
import PyGqlModel.Lemmas.LexLookahead
import PyGqlModel.Lemmas.LexWrap
import PyGqlModel.Lemmas.LexOpenEscape
import PyGqlModel.Lemmas.TextPipeline

namespace PyGql.Props.C01
open PyGql.Lex PyGql.StringUtils
open PyGql.Spec.Lexical (Tiles IgnRun Lexeme Follow)

/-- the fuel `len(source) + 1` of `lexAll` is always enough — the model's `fuel` error never
    occurs, so fuel does not appear in any statement about `lexAll`. -/
theorem lex_fuel_sufficient (s : Text) (e : SynErr) (h : lexAll s = .error e) : e.kind ≠ .fuel := by
  rcases lexAll_error_cases s e h with hi | ⟨rfl, _⟩
  · exact hi.2
  · exact fun h => nomatch h

/-- whenever the lexer accepts a text, the text is TILED by its tokens: it is the concatenation of
    ignored runs (BOM, white space, line terminators, commas, maximal comments) and lexemes, in order; each lexeme is a
    complete lexeme of its token's kind according to the recognisers of Spec/Lexical.lean (Punctuator, Name, IntValue,
    FloatValue, StringValue, block StringValue) and the token carries the lexeme's span and its value (verbatim text for
    names and numbers, the decoded semantic value for strings, `BlockStringValue` for block strings); what follows each
    lexeme obeys maximal munch and the number look-ahead (`Follow`). -/
theorem lex_sound (s : Text) (toks : List Tok) (h : lexAll s = .ok toks) :
    ∃ body, toks = sofTok :: body ∧ Tiles s.length s body :=
  have ⟨body, e, hr⟩ := lexAll_ok_run h
  ⟨body, e, hr.tiles rfl⟩

/-- non-vacuity of `lex_sound`: `{a,1.5e05 #c<LF><BOM>"\\n" ...}` (comma, comment, BOM) is accepted -/
example : (lexAll [123, 97, 44, 49, 46, 53, 101, 48, 53, 32, 35, 99, 10, 65279, 34, 92, 110, 34, 32, 46, 46, 46, 125]).toOption.map (·.map (·.kind)) =
    some [.sof, .curlyL, .name, .float, .string, .ellip, .curlyR, .eof] := by decide +kernel

/-- THE FULL STATEMENT `lex_render`: every tiling of a text by ignored runs and complete lexemes (each followed by
    something its kind allows) is what the lexer returns — so the choice of ignored runs is irrelevant.
    `lex_render` proves it. -/
def LexRenderStatement : Prop :=
  ∀ (s : Text) (body : List Tok), Tiles s.length s body → lexAll s = .ok (sofTok :: body)

private theorem lexeme_tokenStart (k : TokKind) (lex v rest : Text) (hl : Lexeme k lex v) : tokenStart (lex ++ rest) := by
  cases k with
  | sof => exact absurd hl (by simp [Lexeme])
  | eof => exact absurd hl (by simp [Lexeme])
  | int => exact tokenStart_integerPart rest hl.1
  | float =>
    obtain ⟨ip, frac, exp, rfl, hip, _⟩ := floatShape_of_isFloatValue lex hl.1
    rw [List.append_assoc]; exact tokenStart_integerPart _ hip
  | name =>
    cases lex with
    | nil => simp [Lexeme, Spec.Lexical.isName] at hl
    | cons c t =>
      simp only [Lexeme, Spec.Lexical.isName, Bool.and_eq_true] at hl
      exact tokenStart_nameStart _ hl.1.1
  | string =>
    cases lex with
    | nil => simp [Lexeme, Spec.Lexical.stringValue] at hl
    | cons c t =>
      have hc : c = 34 := by
        simp only [Lexeme] at hl
        unfold Spec.Lexical.stringValue at hl
        split at hl
        · rename_i t' heq; simp only [List.cons.injEq] at heq; exact heq.1
        · cases hl
      subst hc; exact tokenStart_quote _
  | blockString =>
    simp only [Lexeme, Option.map_eq_some_iff] at hl
    obtain ⟨raw, hraw, _⟩ := hl
    unfold Spec.Lexical.blockStringRaw at hraw
    split at hraw
    · rename_i hp
      obtain ⟨u, rfl⟩ := tq_prefix_eq lex hp
      exact tokenStart_quote _
    · cases hraw
  | ellip | bang | dollar | parenL | parenR | bracketL | bracketR | curlyL | curlyR | colon | equals | atSign | pipe | amp =>
    obtain ⟨h, _⟩ := hl
    cases h
    exact tokenStart_cons _ _ (by decide)

/-- one call of `__next__` on an ignored run followed by a complete lexeme that obeys its follow restriction (public: used by
    `Props/C01_errors_iff.lean`) -/
theorem next_complete (n : Nat) (ign lex rest v : Text) (k : TokKind)
    (hrun : IgnRun (lex ++ rest) ign) (hl : Lexeme k lex v) (hf : Follow k lex rest) :
    next n (ign ++ (lex ++ rest)) = .ok (tokAt n k lex rest v, some rest) := by
  have punct : ∀ c, Spec.Lexical.punctuator k = some [c] → lex = [c] → v = [c] →
      next n (ign ++ (lex ++ rest)) = .ok (tokAt n k lex rest v, some rest) := by
    intro c hp hlex hv
    subst hlex; subst hv
    exact next_punct n ign rest c k ((symbolKind_spec c k).mpr hp) hrun
  have hX := lexeme_tokenStart k lex v rest hl
  cases k with
  | sof => exact absurd hl (by simp [Lexeme])
  | eof => exact absurd hl (by simp [Lexeme])
  | int =>
    obtain ⟨h1, h2⟩ := hl
    subst h2
    rw [next_skip n ign _ hrun hX, next_int_value n _ rest h1 hf]
    rfl
  | float =>
    obtain ⟨h1, h2⟩ := hl
    subst h2
    rw [next_skip n ign _ hrun hX,
      next_float_shape n _ rest (floatShape_of_isFloatValue _ h1) hf]
    rfl
  | blockString =>
    simp only [Lexeme, Option.map_eq_some_iff] at hl
    obtain ⟨raw, hraw, hv⟩ := hl
    rw [next_skip n ign _ hrun hX, next_block_lexeme n lex rest raw hraw,
      PyGql.Props.C02.block_string_spec, hv]
    rfl
  | name =>
    obtain ⟨h1, h2⟩ := hl
    subst h2
    exact next_name n ign _ rest h1 hf hrun
  | string => exact next_string n ign lex rest v hl hf hrun
  | ellip =>
    obtain ⟨h, rfl⟩ := hl
    cases h
    exact next_ellip n ign rest hrun
  | bang | dollar | parenL | parenR | bracketL | bracketR | curlyL | curlyR | colon | equals | atSign | pipe | amp =>
    obtain ⟨h, rfl⟩ := hl
    cases h
    exact punct _ rfl rfl rfl

private theorem run_of_tiles (n : Nat) (s : Text) (toks : List Tok) (h : Tiles n s toks) : Run n s toks none := by
  induction h with
  | eof ign hrun =>
    refine .eof ?_
    have := readOverWhitespace_complete [] ign hrun rfl
    rw [List.append_nil] at this
    unfold next; rw [this]; rfl
  | tok ign lex rest k v toks hrun hl hfo _ ih => exact .tok (next_complete n ign lex rest v k hrun hl hfo) ih

/-- FULL, all token kinds: for every tiling of a text — lexemes that are complete Punctuators, Names,
    IntValues, FloatValues, StringValues or block StringValues according to Spec/Lexical.lean, each followed by something
    its kind allows (`Follow`: maximal munch, number look-ahead, `""` not before `"`), separated by ANY ignored runs
    (white space, line terminators LF / CR / CRLF, commas, BOMs, maximal comments) — `lexAll` returns exactly the
    tiling's tokens: kinds, spans and values. -/
theorem lex_render (s : Text) (body : List Tok) (h : Tiles s.length s body) : lexAll s = .ok (sofTok :: body) :=
  (run_of_tiles _ _ _ h).lexAll

theorem lex_render_statement : LexRenderStatement := lex_render

/-- `lexAll` accepts exactly the tiled texts, and returns the tiling: soundness and completeness together.
    This is the lexical half of "text accepted ⇔ text derives from the grammar". -/
theorem lexAll_ok_iff (s : Text) (toks : List Tok) :
    lexAll s = .ok toks ↔ ∃ body, toks = sofTok :: body ∧ Tiles s.length s body :=
  ⟨lex_sound s toks, fun ⟨body, e, h⟩ => e ▸ lex_render s body h⟩

/-- kind and value of a token (what is left when positions are forgotten) -/
def kv (t : Tok) : TokKind × Text := (t.kind, t.value)

/-- FULL: ignored characters are insignificant. If the lexer accepts `s₁`, then every other
    text `s₂` tiled by lexemes with the same kinds and values (i.e. `s₁` with its ignored runs replaced by any other
    admissible ignored runs — white space, commas, comments, BOMs, any line-terminator convention) is accepted with the
    same token kinds and values. -/
theorem lex_ignored_invariant (s₁ s₂ : Text) (toks₁ body₂ : List Tok) (h₁ : lexAll s₁ = .ok toks₁)
    (h₂ : Tiles s₂.length s₂ body₂) (hsame : toks₁.tail.map kv = body₂.map kv) :
    ∃ toks₂, lexAll s₂ = .ok toks₂ ∧ toks₂.map kv = toks₁.map kv := by
  obtain ⟨body₁, rfl, _⟩ := lex_sound s₁ toks₁ h₁
  refine ⟨sofTok :: body₂, lex_render s₂ body₂ h₂, ?_⟩
  simp only [List.tail_cons] at hsame
  simp [hsame]

/-- non-vacuity: `{a 1.5}` and ` { ,a #c<CR>1.5}` have the same tokens up to positions -/
example : ((lexAll [123, 97, 32, 49, 46, 53, 125]).toOption.map (·.map kv)) =
    ((lexAll [32, 123, 32, 44, 97, 32, 35, 99, 13, 49, 46, 53, 125]).toOption.map (·.map kv)) := by decide +kernel

/-! ### the number look-ahead restriction (known finding LA1: not in the June-2018 lexical grammar, pinned by
    tests/test_lang/test_lexer.py::test_useful_number_errors — `1.2e3e`, `0xF1`, `0b10`, `123abc`, `1_234`, `1.23f`, `1.234_5`)

    The specification side of `lex_sound` / `lex_render` carries the restriction EXPLICITLY: it is the `isNameStart` clause
    of `Spec.Lexical.Follow` for `.int` / `.float`. The two theorems below isolate it. -/

/-- what the June-2018 grammar read literally would give: a number lexeme directly followed by a name lexes like the same
    text with a space in between (IntValue / FloatValue have no look-ahead restriction before October 2021) -/
def June2018GluedNumberStatement : Prop :=
  ∀ (lex : Text) (c : Nat) (t : Text) (toks : List Tok),
    (Spec.Lexical.isIntValue lex = true ∨ Spec.Lexical.isFloatValue lex = true) →
    Spec.Lexical.isNameStart c = true → c ≠ 101 → c ≠ 69 →
    lexAll (lex ++ 32 :: c :: t) = .ok toks →
    ∃ toks', lexAll (lex ++ c :: t) = .ok toks' ∧ toks'.map kv = toks.map kv

/-- on today's code EVERY IntValue / FloatValue lexeme directly followed by a NameStart
    character (other than an exponent indicator `e` / `E`) is rejected, with `UnexpectedCharacter` at that character —
    never lexed as number + name. -/
theorem number_lookahead_pinned (lex : Text) (c : Nat) (t : Text)
    (hl : Spec.Lexical.isIntValue lex = true ∨ Spec.Lexical.isFloatValue lex = true)
    (hc : Spec.Lexical.isNameStart c = true) (he : c ≠ 101 ∧ c ≠ 69) :
    lexAll (lex ++ c :: t) = .error ⟨.unexpectedCharacter, lex.length⟩ := by
  have h := next_number_glued (lex ++ c :: t).length lex c t (numShape_of_number lex hl) hc he
  rw [lexAll_first_error h]
  simp [posAt]

/-- refutation of the literal June-2018 reading, witness `1a` vs `1 a` (replay: `parse_value("[1a]")`) -/
theorem june2018_glued_number_refuted : ¬ June2018GluedNumberStatement := by
  intro h
  obtain ⟨toks', h', _⟩ := h [49] 97 [] _ (Or.inl (by decide)) (by decide) (by decide) (by decide)
    (show lexAll [49, 32, 97] = .ok [sofTok, ⟨.int, 0, 1, [49]⟩, ⟨.name, 2, 3, [97]⟩, eofTok 3] by decide +kernel)
  have : lexAll [49, 97] = .error ⟨.unexpectedCharacter, 1⟩ := by decide +kernel
  simp only [List.cons_append, List.nil_append] at h'
  rw [this] at h'
  cases h'

/-- THE FULL STATEMENT of the property's error clause for the lexer: every syntax error reports a
    position inside the submitted text. It is FALSE on the code as it is (see `error_in_range_refuted`). -/
def ErrorInRangeStatement : Prop := ∀ (s : Text) (e : SynErr), lexAll s = .error e → e.pos ≤ s.length

/-- every error position is ≤ len(text), EXCEPT the `NonTerminatedString` raised when the
    text ends inside an escape sequence, which is at len(text) + 1. Missing for the full statement: exactly that case
    (ledger L6; the value len+1 is pinned by tests/test_lang/test_lexer.py, so the code is modelled as it is).
    WHICH texts are excluded: exactly those that end inside an open quoted string with a truncated escape (`OpenEscape`,
    `Props/C01_errors_iff.lean: error_position_iff_open_escape`); `Props/C01_errors_exact.lean` has the coarser class "the
    last characters are `\` or `\u` + at most three hex digits" (`EndsInEscape`, `error_in_range_except_truncated_escape`). -/
theorem error_in_range_partial (s : Text) (e : SynErr) (h : lexAll s = .error e) :
    e.pos ≤ s.length ∨ (e.pos = s.length + 1 ∧ e.kind = .nonTerminatedString) :=
  (lexAll_error_cases s e h).imp (·.1) fun ⟨he, _⟩ => he ▸ ⟨rfl, rfl⟩

/-- refutation witness of the full statement: the two-character text `"\` (also the replay on the implementation) -/
theorem error_in_range_refuted : ¬ ErrorInRangeStatement := by
  intro h
  have := h [34, 92] ⟨.nonTerminatedString, 3⟩ (by decide +kernel)
  simp at this

/-- non-vacuity of `error_in_range_partial`: both alternatives occur -/
example : lexAll [34, 92, 117, 49] = .error ⟨.nonTerminatedString, 5⟩ := by decide +kernel
example : lexAll [49, 46] = .error ⟨.unexpectedEOF, 2⟩ := by decide +kernel
example : lexAll [123, 0] = .error ⟨.invalidCharacter, 2⟩ := by decide +kernel

/-- for EVERY source and EVERY reported position (also the len+1 of L6), `str()` /
    `.highlighted` and `.to_dict()` of the syntax error succeed — `index_to_loc` and every `lines[...]`
    subscript of `highlight_location` are in range (fix C01-L6, in /repo: `GraphQLSyntaxError._render_position` clamps the position for rendering). -/
theorem render_total (source : Text) (position : Nat) :
    (highlighted source position).isSome = true ∧ (toDict source position).isSome = true := by
  have hp : renderPosition source position ≤ source.length := Nat.min_le_right _ _
  have h1 := highlightLocation_isSome source _ hp
  refine ⟨h1, ?_⟩
  obtain ⟨l, c, hloc, _, _⟩ := indexToLoc_isSome source _ hp
  unfold toDict
  cases hh : highlighted source position with
  | none => rw [highlighted, ] at hh; rw [hh] at h1; exact absurd h1 (by simp)
  | some hl => simp [bind, Option.bind, hloc]

/-- `index_to_loc` is total exactly on `0 ≤ position ≤ len(body)` (and raises `IndexError` beyond) -/
theorem index_to_loc_total_iff (body : Text) (p : Nat) : (indexToLoc body p).isSome = true ↔ p ≤ body.length := by
  constructor
  · intro h
    unfold indexToLoc Response.indexToLoc at h
    split at h
    · rename_i hc; simp at hc; omega
    · split at h
      · simp at h
      · omega
  · intro h
    obtain ⟨l, c, hloc, _, _⟩ := indexToLoc_isSome body p h
    simp [hloc]

/-- without the clamp the rendering of the L6 position fails: `index_to_loc("\"\\", 3)` raises `IndexError` -/
example : highlightLocation [34, 92] 3 = none := by decide +kernel
example : (highlighted [34, 92] 3).isSome = true := by decide +kernel
example : indexToLoc [97, 10, 98] 3 = some (2, 2) := by decide +kernel
/-- fix X4: CRLF is ONE line break, a lone CR is one too -/
example : indexToLoc [97, 13, 10, 98, 13, 99] 6 = some (3, 2) := by decide +kernel

/-! ### the extracted tables denote the specification's character classes
    (re-proved against `Generated/LexTables.lean` on every run) -/

theorem ignored_table_spec (c : Nat) : isIgnored c = Spec.Lexical.isIgnoredChar c := isIgnored_spec c
theorem digit_table_spec (c : Nat) : isDigit c = Spec.Lexical.isDigit c := isDigit_spec c
theorem name_tables_spec (c : Nat) :
    isNameStart c = Spec.Lexical.isNameStart c ∧ isNameChar c = Spec.Lexical.isNameCont c :=
  ⟨isNameStart_spec c, isNameChar_spec c⟩
theorem symbols_table_spec (c : Nat) (k : TokKind) :
    symbolKind c = some k ↔ Spec.Lexical.punctuator k = some [c] := symbolKind_spec c k
theorem comment_char_spec (c : Nat) : isCommentChar c = Spec.Lexical.isCommentChar c := isCommentChar_spec c

end PyGql.Props.C01
