/-
  C14 — REFINEMENT: `Schema.clone()` of a closed schema is, BY NAME, the same schema.

  * `heal_exact` / `clone_is_copy_then_exact_heal`: healing a heap whose objects only mention registered names drops no member,
    rebuilds nothing and stops after one round; so `clone()` = the copying phase + re-pointing of references.
  * `clone_members_exact`: the member-level statements that are sub-list relations for visitor transforms (`Sub2`, `MRel`, `TRel`)
    are EQUALITIES for clone: every type object of the clone holds exactly the member list the copying phase gave it.
  * `clone_refines`: for EVERY function `F` of the by-name view of a type (object attributes — description, resolver ids,
    default reprs, enum value strings, class tag —, interfaces / members by name, fields and arguments in order with their types
    by name) — in particular for every dump into `SchemaD` under any interpretation of resolver ids / default reprs / enum value
    strings — `dumpAt F (clone s) n = dumpAt F s n` for every type name `n`: what C20 / C15 / C12 establish about a schema
    description transfers to its clones.
  Directives: `clone_refines_directives_partial` (the healing part); the full statement — same names, same ORDER, same views — is
  `clone_refines_directives` in Props/C14_order.lean, with the order theorems of the `types` dict.
-/
import PyGqlModel.Lemmas.HeapCopyView
import PyGqlModel.Props.C14_closed


namespace PyGql.Props.C14
open PyGql.Heap PyGql.Heap.Own

/-- healing when every mentioned name is registered: nothing replaced, one round, same heap up to reference addresses -/
theorem heal_exact (cfg : Cfg) (fuel : Nat) (s : Schema) (h : Heap) (r : HealReady h s) :
    ∃ h', healLoop cfg (fuel + 1) s h = some (h', healedRoots s) ∧ NVeq h h' := healLoop_exact cfg fuel s h r

/-- `clone()` of a closed schema = copying phase (`cloneStart`) + an exact healing -/
theorem clone_is_copy_then_exact_heal (cfg : Cfg) (hd : cfg.deepClone = true) (hk : cfg.keepAllTypes = true) (fuel : Nat)
    (s : Schema) (h h' : Heap) (s' : Schema) (hc : closedB h s = true) (hw : wfB h s = true) (e : clone cfg fuel s h = some (h', s')) :
    s'.types = (cloneStart cfg s h).2.types ∧ s'.dirs = (cloneStart cfg s h).2.dirs ∧ NVeq (cloneStart cfg s h).1 h' :=
  clone_exact cfg fuel s h h' s' (cloneStart_ready cfg hd hk s h hc (wfs_of_closedB hc hw)) e

/-- EXACT member lists: the type object registered in the clone has the very member list (same addresses, same order, none
    dropped) of the copy made by `_clone_type`, the same kind, name, and the same interfaces / members BY NAME -/
theorem clone_members_exact (cfg : Cfg) (hd : cfg.deepClone = true) (hk : cfg.keepAllTypes = true) (fuel : Nat)
    (s : Schema) (h h' : Heap) (s' : Schema) (hc : closedB h s = true) (hw : wfB h s = true) (e : clone cfg fuel s h = some (h', s'))
    (a : Addr) (t : TypeO) (ht : (cloneStart cfg s h).1.readType a = some t) :
    ∃ t', h'.readType a = some t' ∧ t'.fields = t.fields ∧ t'.kind = t.kind ∧ t'.name = t.name ∧
      eraseRefs t'.ifaces = eraseRefs t.ifaces ∧ eraseRefs t'.members = eraseRefs t.members := by
  obtain ⟨_, _, n⟩ := clone_is_copy_then_exact_heal cfg hd hk fuel s h h' s' hc hw e
  obtain ⟨t', h1, h2, h3, h4, h5, h6⟩ := nveq_type n ht
  exact ⟨t', h1, h4, h2, h3, h5, h6⟩

/-- … and every field keeps exactly its argument list -/
theorem clone_arguments_exact (cfg : Cfg) (hd : cfg.deepClone = true) (hk : cfg.keepAllTypes = true) (fuel : Nat)
    (s : Schema) (h h' : Heap) (s' : Schema) (hc : closedB h s = true) (hw : wfB h s = true) (e : clone cfg fuel s h = some (h', s'))
    (a : Addr) (f : FieldO) (hf : (cloneStart cfg s h).1.readField a = some f) :
    ∃ f', h'.readField a = some f' ∧ f'.args = f.args ∧ eraseT f'.ty = eraseT f.ty := by
  obtain ⟨_, _, n⟩ := clone_is_copy_then_exact_heal cfg hd hk fuel s h h' s' hc hw e
  obtain ⟨f', h1, h2, h3⟩ := nveq_field n hf
  exact ⟨f', h1, h3, h2⟩

/-- the registry the copying phase hands to the heal round: the clone registry with every copied type re-registered -/
private theorem cloneStart_types (cfg : Cfg) (s : Schema) (h : Heap) :
    (cloneStart cfg s h).2.types = (replaceTypes cfg (cloneRegistry cfg s h) false (cloneTypes cfg h s.types).2).1 := rfl

/-- every registered type of the clone has the by-name view of the source's type of the same name -/
theorem clone_types_view (cfg : Cfg) (hd : cfg.deepClone = true) (hk : cfg.keepAllTypes = true) (fuel : Nat)
    (s : Schema) (h h' : Heap) (s' : Schema) (hc : closedB h s = true) (hw : wfB h s = true) (e : clone cfg fuel s h = some (h', s')) :
    ∀ e', e' ∈ s'.types → ∃ e0, e0 ∈ s.types ∧ e0.1 = e'.1 ∧ typeV h' e'.2 = typeV h e0.2 := by
  have w := wfs_of_closedB hc hw
  obtain ⟨et, _, n⟩ := clone_is_copy_then_exact_heal cfg hd hk fuel s h h' s' hc hw e
  rw [et]
  obtain ⟨pt, vt, st, nt⟩ := cloneTypes_ok h.size cfg hd s.types h (inv_self h)
  have growT : Frame h (cloneTypes cfg h s.types).1 := Frame.of_pres pt
  have growD : Frame (cloneTypes cfg h s.types).1 (cloneDirs cfg (cloneTypes cfg h s.types).1 s.dirs).1 :=
    Frame.of_pres (cloneDirs_ok _ cfg hd s.dirs _ (inv_self _)).1
  have hsub := cloneRegistry_sub cfg s h hc
  have hreadable : ∀ e, e ∈ s.types → ∃ t, h.readType e.2 = some t := fun e he =>
    let ⟨t, ht, _⟩ := typeShape_readable (w.types e he); ⟨t, ht⟩
  have hmr : ∀ e, e ∈ s.types → ∀ t, h.readType e.2 = some t → MembersReadable h t :=
    fun e he t ht => membersReadable_of_shape _ h e.2 t ht (w.types e he)
  have hP : ∀ e', e' ∈ (cloneStart cfg s h).2.types → ∃ e0, e0 ∈ s.types ∧ e0.1 = e'.1 ∧ typeV (cloneStart cfg s h).1 e'.2 = typeV h e0.2 := by
    simp only [cloneStart, replaceCore]
    apply replaceTypes_pred cfg (fun e' => ∃ e0, e0 ∈ s.types ∧ e0.1 = e'.1 ∧
      typeV (cloneDirs cfg (cloneTypes cfg h s.types).1 s.dirs).1 e'.2 = typeV h e0.2)
    · intro x hx a' ea
      obtain ⟨e0, he0, hn0, hv⟩ := cloneTypes_view cfg hd h s.types h (Frame.refl h) hmr x hx a' ea
      obtain ⟨t0, ht0⟩ := hreadable e0 he0
      obtain ⟨v1, v2⟩ := hv t0 ht0
      exact ⟨e0, he0, hn0, by rw [typeV_of_read ht0]; exact typeV_grow growD v1 v2⟩
    · intro e0 he0
      have hes := hsub e0 he0
      by_cases hp : isProtected e0.1 = true
      · left
        refine ⟨e0, hes, rfl, ?_⟩
        obtain ⟨t0, ht0⟩ := hreadable e0 hes
        have hpl := protLeaf_scalar (w.prot e0 hes) hp ht0
        rw [typeV_of_read ht0]
        exact typeV_grow (growT.trans growD) (typeV_of_read ht0) ⟨by simp [tview, hpl], by simp [tview, hpl]⟩
      · right
        have hnp : isProtected e0.1 = false := by simpa using hp
        obtain ⟨t0, ht0⟩ := hreadable e0 hes
        exact nt e0.1 e0.2 hes hnp (readType_lt' ht0) (by simp [ht0])
  intro e' he'
  obtain ⟨e0, h1, h2, h3⟩ := hP e' he'
  exact ⟨e0, h1, h2, by rw [typeV_nveq n]; exact h3⟩

/-- the value at type name `n` of a by-name dump of the schema: ANY function `F` of the by-name view of the registered type -/
def dumpAt {α : Type} (F : TypeO × List (Option (FieldO × List (Option ArgO))) × List (Option ArgO) → α) (h : Heap) (s : Schema) (n : String) : Option α :=
  (lookup s.types n).bind fun a => (typeV h a).map F

/-- REFINEMENT: a clone and its source have the same by-name dump at every type name, for every interpretation `F` -/
theorem clone_refines {α : Type} (F : TypeO × List (Option (FieldO × List (Option ArgO))) × List (Option ArgO) → α)
    (cfg : Cfg) (hd : cfg.deepClone = true) (hk : cfg.keepAllTypes = true) (fuel : Nat)
    (s : Schema) (h h' : Heap) (s' : Schema) (hc : closedB h s = true) (hw : wfB h s = true) (e : clone cfg fuel s h = some (h', s'))
    (n : String) : dumpAt F h' s' n = dumpAt F h s n := by
  have w := wfs_of_closedB hc hw
  obtain ⟨et, _, _⟩ := clone_is_copy_then_exact_heal cfg hd hk fuel s h h' s' hc hw e
  have hview := clone_types_view cfg hd hk fuel s h h' s' hc hw e
  simp only [dumpAt]
  cases hl' : lookup s'.types n with
  | some a' =>
    obtain ⟨e0, h1, h2, h3⟩ := hview (n, a') (lookup_mem' hl')
    have hl : lookup s.types n = some e0.2 := by
      have := lookup_of_mem_nodup w.nodup h1
      rw [h2] at this; exact this
    simp only [hl, Option.bind_some, h3]
  | none =>
    -- a name the source registers is registered by the copying phase, and healing keeps the registry
    have hl : lookup s.types n = none := by
      refine Option.eq_none_iff_forall_ne_some.2 fun a hl => ?_
      have hin : n ∈ regNames s'.types := by
        rw [et, cloneStart_types]
        exact replaceTypes_names cfg _ _ _ (cloneTypes_some cfg s.types h) n
          (lookup_isSome_name (cloneRegistry_lookup cfg hk s h hc w.nodup n a hl))
      have := lookup_isSome_of_name hin
      simp [hl'] at this
    simp only [hl, Option.bind_none]

theorem current_clone_refines {α : Type} (F : TypeO × List (Option (FieldO × List (Option ArgO))) × List (Option ArgO) → α) (fuel : Nat)
    (s : Schema) (h h' : Heap) (s' : Schema) (hc : closedB h s = true) (hw : wfB h s = true)
    (e : clone PyGql.Generated.HeapCfg.currentCfg fuel s h = some (h', s')) (n : String) : dumpAt F h' s' n = dumpAt F h s n :=
  clone_refines F _ cur_deepClone cur_keepAllTypes fuel s h h' s' hc hw e n

/-- DIRECTIVES, PARTIAL (the full statement — same names, same order, same views — is `clone_refines_directives`, Props/C14_order.lean):
    the directive objects registered in the clone have the by-name view the copying phase gave them (healing changes nothing by
    name). Not covered here: that `_clone_directive`'s copy has the view of its source. -/
theorem clone_refines_directives_partial (cfg : Cfg) (hd : cfg.deepClone = true) (hk : cfg.keepAllTypes = true) (fuel : Nat)
    (s : Schema) (h h' : Heap) (s' : Schema) (hc : closedB h s = true) (hw : wfB h s = true) (e : clone cfg fuel s h = some (h', s')) :
    s'.dirs = (cloneStart cfg s h).2.dirs ∧ ∀ a, dirV h' a = dirV (cloneStart cfg s h).1 a := by
  obtain ⟨_, ed, n⟩ := clone_is_copy_then_exact_heal cfg hd hk fuel s h h' s' hc hw e
  exact ⟨ed, fun a => dirV_nveq n a⟩

/-- non-vacuity on the witness schema: it is closed and well-formed, and the clone exists -/
example : (clone Cfg.fixed 8 s0 h0).isSome = true ∧ closedB h0 s0 = true ∧ wfB h0 s0 = true :=
  ⟨Option.isSome_map.symm.trans (congrArg Option.isSome clone_closed_witness_fixed), s0_closed, s0_wf⟩

end PyGql.Props.C14
