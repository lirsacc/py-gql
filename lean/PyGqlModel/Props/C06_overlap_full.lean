/-
  C06 - `OverlappingFieldsCanBeMergedChecker` (5.3.2), SOUNDNESS WITH FRAGMENT SPREADS and
  the equivalence. The search is followed with its compared-pairs memo (a key is inserted BEFORE the pair is
  compared): every call leaves a tree-shaped certificate (`Cert`) that refers to the memo only through "this pair of
  fragments is covered" (`Cov`), every key of the final memo is CLOSED (`KeyObl`, established by the call that
  inserted it, stated relative to the final memo), the per-traversal set of compared fragments likewise; a
  conflict derivation (finite) is then refuted by induction on its height, fragment pairs being chased through the
  memo by induction on the lengths of the spread paths (`Lemmas/ValidateOverlapCert*.lean`, `…Post*.lean`).

  Side conditions (`OverlapSide`), beyond "validation does not raise" and "the routes to the parent types agree":
  (1) no fragment is named "" (the code never compares a fragment named "" with another fragment);
  (2) no fragment body is the sub-selection node of a field, and (3) no fragment reachable from a spread of a selection
  set has that very set as its body - so that the shortcut `if ssid == fid` of
  `_conflicts_between_fields_and_fragment` is never taken. Every document produced by the PARSER whose fragment
  spreads are acyclic satisfies them (names are non-empty; selection-set nodes are identified by their start offset);
  the model's `Doc` type is larger. `OverlapFullStatement` of `Props/C06_overlap.lean` omits them and is therefore not
  what is proved here.
-/
import PyGqlModel.Props.C06_overlap_sound
import PyGqlModel.Lemmas.ValidateOverlapPostWalk
namespace PyGql.Props.C06
open PyGql PyGql.Validate PyGql.Validate.Spec

/-- side conditions of the soundness theorem (see the header) -/
structure OverlapSide (s : SchemaD) (d : Doc) : Prop where
  /-- no fragment named "" -/
  noEmptyName : AL.get? (fragTable d) "" = none
  /-- the sub-selection node of a collected field is not the body of a fragment -/
  subsNotBodies : ∀ e, Ent s d e → e.hasSub = true → NotBody d e.ssid
  /-- no fragment reachable from a spread of a selection set has that set as its body -/
  spreadsApart : ∀ i sels, SelSet d i sels → ∀ g, SpreadD sels g → Apart d i g

/-- **5.3.2 soundness (PARTIAL only in its side conditions)**: if the rule, run alone, reports nothing and validation
    does not raise, then no selection set of the document contains two conflicting fields - documents WITH fragment
    spreads included -/
theorem rule_overlapping_fields_sound_partial (s : SchemaD) (fx : Fixes) (h7 : fx.v7 = true) (d : Doc)
    (hpa : Spec.ParentsAgree s d) (hsc : OverlapSide s d) (hnc : NoCrash s fx d) :
    Silent s fx .overlappingFieldsCanBeMerged d → Spec.overlappingFieldsCanBeMerged s d := by
  intro hs
  exact ov_document_sound s fx d h7 hpa hsc.noEmptyName hsc.subsNotBodies hsc.spreadsApart hs hnc

/-- **5.3.2, the equivalence** under the side conditions -/
theorem rule_overlapping_fields_can_be_merged_iff_partial (s : SchemaD) (fx : Fixes) (h7 : fx.v7 = true) (d : Doc)
    (hpa : Spec.ParentsAgree s d) (hsc : OverlapSide s d) (hnc : NoCrash s fx d) :
    Silent s fx .overlappingFieldsCanBeMerged d ↔ Spec.overlappingFieldsCanBeMerged s d :=
  ⟨rule_overlapping_fields_sound_partial s fx h7 d hpa hsc hnc,
   rule_overlapping_fields_can_be_merged_no_false_alarm_partial s fx h7 d⟩

/-- the statement with its side conditions visible -/
def OverlapStatementWithSide : Prop :=
  ∀ (s : SchemaD) (fx : Fixes) (d : Doc), fx.v7 = true → NoCrash s fx d → Spec.ParentsAgree s d → OverlapSide s d →
    (Silent s fx .overlappingFieldsCanBeMerged d ↔ Spec.overlappingFieldsCanBeMerged s d)

theorem overlap_statement_with_side : OverlapStatementWithSide :=
  fun s fx d h7 hnc hpa hsc => rule_overlapping_fields_can_be_merged_iff_partial s fx h7 d hpa hsc hnc

theorem overlapSide_flat (f1 f2 : Sel) (h1 : ∃ al n, f1 = fld al n) (h2 : ∃ al n, f2 = fld al n) :
    OverlapSide oSchema ⟨[opV [] 1 [f1, f2]]⟩ := by
  obtain ⟨al1, n1, rfl⟩ := h1
  obtain ⟨al2, n2, rfl⟩ := h2
  refine ⟨by simp [fragTable, fragDefs, opV, AL.get?_nil], ?_, ?_⟩
  · rintro e ⟨i, sels, p, rn, hs, _, hc⟩ hsub
    rw [twoFields_selSet hs] at hc
    rw [twoFields_noSub hc] at hsub
    cases hsub
  · intro i sels hs g hg
    rw [twoFields_selSet hs] at hg
    cases hg with
    | spread hm => simp [fld] at hm
    | inline hm _ => simp [fld] at hm

/-! non-vacuity (schema and documents of `Props/C06_overlap_sound.lean`) -/
example : Spec.overlappingFieldsCanBeMerged oSchema oDocOk :=
  (rule_overlapping_fields_can_be_merged_iff_partial oSchema Fixes.all rfl oDocOk
    (parentsAgree_twoFields _ _ ⟨_, _, rfl⟩ ⟨_, _, rfl⟩) (overlapSide_flat _ _ ⟨_, _, rfl⟩ ⟨_, _, rfl⟩)
    (by unfold NoCrash; decide +kernel)).mp (by unfold Silent; decide +kernel)
example : ¬ Spec.overlappingFieldsCanBeMerged oSchema oDocBad := fun h =>
  absurd ((rule_overlapping_fields_can_be_merged_iff_partial oSchema Fixes.all rfl oDocBad
    (parentsAgree_twoFields _ _ ⟨_, _, rfl⟩ ⟨_, _, rfl⟩) (overlapSide_flat _ _ ⟨_, _, rfl⟩ ⟨_, _, rfl⟩)
    (by unfold NoCrash; decide +kernel)).mpr h) (by unfold Silent; decide +kernel)

end PyGql.Props.C06
