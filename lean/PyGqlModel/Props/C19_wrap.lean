/-
  C19 — wrapping never lowers the depth, operation level: the two edits (`WrapInline`: a block of selections, at any nesting
  level, wrapped in a directive-free inline fragment; `WrapSpread`: moved into a fresh named fragment and spread), what they
  do to the canonical levels (`wrapInline_cL`, `wrapSpread_cL`; `cL_sim`, `cL_frame`: two fragment environments compared),
  to bound variables and to free names, and `wrap_inline_ge`, `wrap_spread_ge`. Inside fragment bodies, and for the rule the
  tree runs: Props/C19_wrapfrag.lean, C19_wrapvalid.lean.
-/
import PyGqlModel.Props.C19

namespace PyGql.Props.C19
open PyGql.Depth PyGql.DepthSpec PyGql.Depth.Lemmas

/-- `sels'` is `sels` with one contiguous block of selections, at any nesting level, wrapped in a
    directive-free inline fragment -/
inductive WrapInline : List Sel → List Sel → Prop
  | here (pre mid post : List Sel) : WrapInline (pre ++ mid ++ post) (pre ++ [.inline {} mid] ++ post)
  | field (pre post : List Sel) (a n d) (sub sub' : List Sel) : WrapInline sub sub' →
      WrapInline (pre ++ [.field a n d sub] ++ post) (pre ++ [.field a n d sub'] ++ post)
  | inline (pre post : List Sel) (d) (ss ss' : List Sel) : WrapInline ss ss' →
      WrapInline (pre ++ [.inline d ss] ++ post) (pre ++ [.inline d ss'] ++ post)

theorem skipped_none (vars : Vars) : skipped vars {} = false := by simp [skipped]

private theorem boundSel_inline_none (vars : Vars) (mid : List Sel) :
    boundSel vars (.inline {} mid) = boundL vars mid := by
  simp [boundSel, dirsBound, optBound]

theorem wrapInline_cL (frags : List Frag) (vars : Vars) (w : String → Nat) (hc : Consistent frags w)
    {s s' : List Sel} (h : WrapInline s s') : cL frags vars w s' = cL frags vars w s := by
  induction h with
  | here pre mid post =>
    simp only [cL_append, cL_cons, cL_nil, cLv_inline frags vars w hc, skipped_none, Bool.false_eq_true, if_false,
      Nat.max_zero]
  | field pre post a n d sub sub' _ ih =>
    simp only [cL_append, cL_cons, cLv_field frags vars w hc, ih]
  | inline pre post d ss ss' _ ih =>
    simp only [cL_append, cL_cons, cLv_inline frags vars w hc, ih]

theorem wrapInline_bound (vars : Vars) {s s' : List Sel} (h : WrapInline s s') :
    boundL vars s' = boundL vars s := by
  induction h with
  | here pre mid post => simp [boundL_append, boundSel_inline_none, boundL]
  | field pre post a n d sub sub' _ ih => simp [boundL_append, boundL_cons, boundSel, ih]
  | inline pre post d ss ss' _ ih => simp [boundL_append, boundL_cons, boundSel, ih]

/-- wrapping selections of an operation (at the top or at any nesting level) in an
    inline fragment never lowers the depth the rule measures (in fact it leaves it unchanged).
    `doc'` is any document with the same fragments that contains the wrapped operation.
    SUPERSEDED VARIANT: about `depthFixed`, the model of an intermediate patch state /repo no longer contains; for `ruleB` see `wrap_inline_final`. -/
theorem wrap_inline_ge (doc doc' : Doc) (vars : Vars) (hv : Valid doc vars) (op : Op) (hop : op ∈ doc.ops)
    (sels' : List Sel) (hw : WrapInline op.sels sels') (hfr : doc'.frags = doc.frags)
    (hop' : (⟨op.name, sels'⟩ : Op) ∈ doc'.ops) :
    ∃ d d', depthFixed doc.fuel op doc.frags vars = .ok d ∧
      depthFixed doc'.fuel ⟨op.name, sels'⟩ doc'.frags vars = .ok d' ∧ d ≤ d' ∧ d' = depth doc vars op := by
  have hcl : cL doc'.frags vars (wt doc') sels' = cL doc.frags vars (wt doc) op.sels := by
    unfold wt
    rw [hfr]
    exact wrapInline_cL doc.frags vars (wt doc) (acyclic_consistent doc.frags hv.1) hw
  obtain ⟨d, d', h1, h2, h3, h4, _⟩ := measured_of_levels doc doc' vars hv (hfr ▸ hv.1) (hfr ▸ hv.2.2) op ⟨op.name, sels'⟩
    hop hop' ((wrapInline_bound vars hw).trans (hv.2.1 op hop)) hcl
  exact ⟨d, d', h1, h2, h3, h4⟩

/-- `sels'` is `sels` with one contiguous block `body`, at any nesting level, replaced by a
    directive-free spread of the fragment `nm` -/
inductive WrapSpread (nm : String) (body : List Sel) : List Sel → List Sel → Prop
  | here (pre post : List Sel) : WrapSpread nm body (pre ++ body ++ post) (pre ++ [.spread nm {}] ++ post)
  | field (pre post : List Sel) (a n d) (sub sub' : List Sel) : WrapSpread nm body sub sub' →
      WrapSpread nm body (pre ++ [.field a n d sub] ++ post) (pre ++ [.field a n d sub'] ++ post)
  | inline (pre post : List Sel) (d) (ss ss' : List Sel) : WrapSpread nm body ss ss' →
      WrapSpread nm body (pre ++ [.inline d ss] ++ post) (pre ++ [.inline d ss'] ++ post)

theorem freeL_cons (nm : String) (s ss) : freeL nm (s :: ss) = (freeSel nm s && freeL nm ss) := by
  simp [freeL]

theorem freeL_eq_all (nm : String) (l : List Sel) : freeL nm l = l.all (freeSel nm) := by
  induction l with
  | nil => rfl
  | cons x xs ih => rw [freeL_cons, ih, List.all_cons]

theorem freeL_append (nm : String) (a b : List Sel) : freeL nm (a ++ b) = (freeL nm a && freeL nm b) := by
  rw [freeL_eq_all, freeL_eq_all, freeL_eq_all, List.all_append]

theorem freeL_mem (nm : String) : ∀ (l : List Sel) (s : Sel), freeL nm l = true → s ∈ l → freeSel nm s = true :=
  fun l s h hs => List.all_eq_true.mp ((freeL_eq_all nm l) ▸ h) s hs

theorem lookup_extended (frags : List Frag) (nm : String) (body : List Sel) (n : String) :
    lookupFrag (frags ++ [⟨nm, body⟩]) n = if nm == n then some ⟨nm, body⟩ else lookupFrag frags n := by
  simp [lookupFrag, List.find?_cons]
  split <;> simp_all

private theorem cL_congr' (frags frags' : List Frag) (vars : Vars) (w w' : String → Nat) (l : List Sel)
    (h : ∀ c ∈ l, cLv frags' vars w' c = cLv frags vars w c) : cL frags' vars w' l = cL frags vars w l := by
  unfold cL
  congr 1
  exact List.map_congr_left h

/-- two fragment environments in which every fragment that a selection of the class `S` can reach has a body with the
    same canonical levels (measured in the SECOND environment) give every such selection the same levels -/
theorem cLv_sim (frags frags' : List Frag) (vars : Vars) (w w' : String → Nat)
    (hc : Consistent frags w) (hc' : Consistent frags' w') (S : Sel → Prop)
    (hSf : ∀ a n d sub, S (.field a n d sub) → ∀ c ∈ sub, S c)
    (hSi : ∀ d ss, S (.inline d ss) → ∀ c ∈ ss, S c)
    (hSs : ∀ n d, S (.spread n d) →
      (lookupFrag frags n = none ∧ lookupFrag frags' n = none) ∨
      ∃ f f', lookupFrag frags n = some f ∧ lookupFrag frags' n = some f' ∧
        cL frags' vars w' f'.sels = cL frags' vars w' f.sels ∧ ∀ c ∈ f.sels, S c) :
    ∀ s : Sel, S s → cLv frags' vars w' s = cLv frags vars w s := by
  refine unfold_induction hc ?_ ?_ ?_
  · intro a n d sub ih hS
    rw [cLv_field _ vars w' hc', cLv_field _ vars w hc,
      cL_congr' frags frags' vars w w' sub fun c hcm => ih c hcm (hSf a n d sub hS c hcm)]
  · intro d ss ih hS
    rw [cLv_inline _ vars w' hc', cLv_inline _ vars w hc,
      cL_congr' frags frags' vars w w' ss fun c hcm => ih c hcm (hSi d ss hS c hcm)]
  · intro n d ih hS
    rw [cLv_spread _ vars w' hc', cLv_spread _ vars w hc]
    rcases hSs n d hS with ⟨h0, h0'⟩ | ⟨f, f', h1, h1', hb, hSb⟩
    · simp [fragLv, h0, h0']
    · have : cL frags' vars w' f.sels = cL frags vars w f.sels :=
        cL_congr' frags frags' vars w w' f.sels fun c hcm => ih f h1 c hcm (hSb c hcm)
      simp [fragLv, h1, h1', hb, this]

theorem cL_sim (frags frags' : List Frag) (vars : Vars) (w w' : String → Nat)
    (hc : Consistent frags w) (hc' : Consistent frags' w') (S : Sel → Prop)
    (hSf : ∀ a n d sub, S (.field a n d sub) → ∀ c ∈ sub, S c)
    (hSi : ∀ d ss, S (.inline d ss) → ∀ c ∈ ss, S c)
    (hSs : ∀ n d, S (.spread n d) →
      (lookupFrag frags n = none ∧ lookupFrag frags' n = none) ∨
      ∃ f f', lookupFrag frags n = some f ∧ lookupFrag frags' n = some f' ∧
        cL frags' vars w' f'.sels = cL frags' vars w' f.sels ∧ ∀ c ∈ f.sels, S c)
    (l : List Sel) (hl : ∀ c ∈ l, S c) : cL frags' vars w' l = cL frags vars w l :=
  cL_congr' frags frags' vars w w' l fun c hcm => cLv_sim frags frags' vars w w' hc hc' S hSf hSi hSs c (hl c hcm)

/-- frame: selections that do not mention `nm` have the same levels with and without the new fragment -/
theorem cL_frame (frags : List Frag) (vars : Vars) (nm : String) (body : List Sel)
    (w w' : String → Nat) (hc : Consistent frags w) (hc' : Consistent (frags ++ [⟨nm, body⟩]) w')
    (hfree : ∀ f ∈ frags, freeL nm f.sels = true) (l : List Sel) (hl : freeL nm l = true) :
    cL (frags ++ [⟨nm, body⟩]) vars w' l = cL frags vars w l := by
  refine cL_sim frags (frags ++ [⟨nm, body⟩]) vars w w' hc hc' (fun s => freeSel nm s = true)
    (fun a n d sub h c hcm => freeL_mem nm sub c h hcm)
    (fun d ss h c hcm => freeL_mem nm ss c h hcm) ?_ l (fun c hcm => freeL_mem nm l c hl hcm)
  -- a spread other than `nm` finds the same fragment in both environments
  intro n d hS
  have hne : (nm == n) = false := by
    simp only [freeSel, bne_iff_ne, ne_eq] at hS
    simp; exact fun h => hS h.symm
  rw [lookup_extended, hne]
  cases hq : lookupFrag frags n with
  | none => exact .inl ⟨rfl, rfl⟩
  | some x =>
    exact .inr ⟨x, x, rfl, rfl, rfl, fun c hcm => freeL_mem nm x.sels c (hfree x (lookupFrag_some hq).1) hcm⟩

theorem wrapSpread_cL_ctx (frags : List Frag) (vars : Vars) (w : String → Nat) (hc : Consistent frags w)
    (nm : String) (body : List Sel) (hl : lookupFrag frags nm = some ⟨nm, body⟩)
    {s s' : List Sel} (h : WrapSpread nm body s s') : cL frags vars w s' = cL frags vars w s := by
  induction h with
  | here pre post =>
    have hlk : fragLv frags vars w nm = cL frags vars w body := by simp only [fragLv, hl]
    simp only [cL_append, cL_cons, cL_nil, cLv_spread frags vars w hc, skipped_none, Bool.false_eq_true, if_false,
      Nat.max_zero, hlk]
  | field pre post a n d sub sub' _ ih =>
    simp only [cL_append, cL_cons, cLv_field frags vars w hc, ih]
  | inline pre post d ss ss' _ ih =>
    simp only [cL_append, cL_cons, cLv_inline frags vars w hc, ih]

theorem wrapSpread_cL (frags : List Frag) (vars : Vars) (nm : String) (body : List Sel)
    (w w' : String → Nat) (hc : Consistent frags w) (hc' : Consistent (frags ++ [⟨nm, body⟩]) w')
    (hfree : ∀ f ∈ frags, freeL nm f.sels = true)
    {s s' : List Sel} (h : WrapSpread nm body s s') (hs : freeL nm s = true) :
    cL (frags ++ [⟨nm, body⟩]) vars w' s' = cL frags vars w s :=
  (wrapSpread_cL_ctx _ vars w' hc' nm body (by rw [lookup_extended]; simp) h).trans
    (cL_frame frags vars nm body w w' hc hc' hfree s hs)

theorem wrapSpread_bound (vars : Vars) (nm : String) (body : List Sel) {s s' : List Sel}
    (h : WrapSpread nm body s s') (hb : boundL vars s = true) : boundL vars s' = true ∧ boundL vars body = true := by
  induction h with
  | here pre post =>
    simp only [boundL_append, boundSel, dirsBound, optBound, boundL, Bool.and_eq_true,
      Bool.and_true] at hb ⊢
    exact ⟨⟨hb.1.1, hb.2⟩, hb.1.2⟩
  | field pre post a n d sub sub' _ ih =>
    simp only [boundL_append, boundSel, boundL, Bool.and_eq_true, Bool.and_true] at hb ⊢
    have := ih hb.1.2.2
    exact ⟨⟨⟨hb.1.1, hb.1.2.1, this.1⟩, hb.2⟩, this.2⟩
  | inline pre post d ss ss' _ ih =>
    simp only [boundL_append, boundSel, boundL, Bool.and_eq_true, Bool.and_true] at hb ⊢
    have := ih hb.1.2.2
    exact ⟨⟨⟨hb.1.1, hb.1.2.1, this.1⟩, hb.2⟩, this.2⟩

theorem wrapSpread_free_body (nm : String) (body : List Sel) {s s' : List Sel}
    (h : WrapSpread nm body s s') (hs : freeL nm s = true) : freeL nm body = true := by
  induction h with
  | here pre post =>
    simp only [freeL_append, Bool.and_eq_true] at hs
    exact hs.1.2
  | field pre post a n d sub sub' _ ih =>
    simp only [freeL_append, freeSel, freeL, Bool.and_eq_true, Bool.and_true] at hs
    exact ih hs.1.2
  | inline pre post d ss ss' _ ih =>
    simp only [freeL_append, freeSel, freeL, Bool.and_eq_true, Bool.and_true] at hs
    exact ih hs.1.2

/-- moving selections of an operation (at the top or at any nesting level) into a
    new named fragment `nm` and spreading it never lowers the depth the rule measures.
    `nm` is fresh: not defined, and not spread in the operation or in any fragment body. (That the wrapped
    document still passes the acyclicity check is proved: `Lemmas.acyclic_extend`.)
    SUPERSEDED VARIANT: about `depthFixed`, the model of an intermediate patch state /repo no longer contains; for `ruleB` see `wrap_spread_final`. -/
theorem wrap_spread_ge (doc doc' : Doc) (vars : Vars) (hv : Valid doc vars) (op : Op) (hop : op ∈ doc.ops)
    (nm : String) (body sels' : List Sel) (hw : WrapSpread nm body op.sels sels')
    (hfr : doc'.frags = doc.frags ++ [⟨nm, body⟩]) (hfresh : ∀ f ∈ doc.frags, f.name ≠ nm)
    (hfree : ∀ f ∈ doc.frags, freeL nm f.sels = true) (hfreeop : freeL nm op.sels = true)
    (hop' : (⟨op.name, sels'⟩ : Op) ∈ doc'.ops) :
    ∃ d d', depthFixed doc.fuel op doc.frags vars = .ok d ∧
      depthFixed doc'.fuel ⟨op.name, sels'⟩ doc'.frags vars = .ok d' ∧ d ≤ d' ∧ d' = depth doc vars op := by
  have ha' : acyclic doc'.frags = true := by
    rw [hfr]
    exact acyclic_extend doc.frags nm body hv.1 hfree hfresh (wrapSpread_free_body nm body hw hfreeop)
  have hbb := wrapSpread_bound vars nm body hw (hv.2.1 op hop)
  have hfb' : ∀ f ∈ doc'.frags, boundL vars f.sels = true := by
    intro f hf
    rw [hfr] at hf
    rcases List.mem_append.mp hf with hf | hf
    · exact hv.2.2 f hf
    · obtain rfl := List.mem_singleton.mp hf
      exact hbb.2
  have hcl : cL doc'.frags vars (wt doc') sels' = cL doc.frags vars (wt doc) op.sels := by
    have hc' := acyclic_consistent doc'.frags ha'
    unfold wt at hc' ⊢
    rw [hfr] at hc' ⊢
    exact wrapSpread_cL doc.frags vars nm body (wt doc) _ (acyclic_consistent doc.frags hv.1) hc' hfree hw hfreeop
  obtain ⟨d, d', h1, h2, h3, h4, _⟩ := measured_of_levels doc doc' vars hv ha' hfb' op ⟨op.name, sels'⟩ hop hop' hbb.1 hcl
  exact ⟨d, d', h1, h2, h3, h4⟩

end PyGql.Props.C19
