/-
  C10 — "… a path of keys and indices for field errors, with resolver-supplied extensions passed through":
  what `ResolverError.to_dict` does with the extensions, exactly.
-/
import PyGqlModel.Props.C10_wellformed

namespace PyGql.Props.C10
open PyGql PyGql.Response PyGql.Spec.Response PyGql.Generated.ResponseKeys PyGql.Lemmas.ResponseCapture

/-- the entries of a located error's dictionary are `message`, `locations`, `path` — never `extensions` -/
private theorem locatedDict_no_ext (text : Text) (msg : String) (ns : List (Option Nat)) (path : Option Path) (kvs : List (String × J))
    (h : locatedDict text msg ns path = some kvs) : (kvs.all fun kv => kv.1 != "extensions") = true := by
  unfold locatedDict at h
  cases hm : (ns.filterMap id).mapM (indexToLoc text) with
  | none => simp [hm] at h
  | some locs =>
    simp only [hm, Option.some.injEq] at h
    subst h
    simp only [List.all_append, Bool.and_eq_true]
    refine ⟨⟨?_, ?_⟩, ?_⟩
    · split <;> simp
    · split <;> simp
    · split <;> simp

/-- what the application supplied, as it must appear: non-empty extensions as a map, otherwise no entry -/
def suppliedExt : Option (List (String × J)) → Option J
  | some (e :: es) => some (J.obj (e :: es))
  | _ => none

/-- Whenever a resolver error renders (`to_dict` does not raise): non-empty resolver-supplied
    extensions appear in the error map under `"extensions"` UNCHANGED (same keys, same values, same order), and an error without
    (or with empty) extensions has no `"extensions"` entry — nothing is invented. -/
theorem extensions_passed_through (text : Text) (msg : String) (ns : List (Option Nat)) (path : Option Path)
    (ext : Option (List (String × J))) (j : J) (h : Err.toDict text (.resolver msg ns path ext) = some j) :
    j.get? "extensions" = suppliedExt ext := by
  simp only [Err.toDict, Option.map_eq_some_iff] at h
  obtain ⟨kvs, hk, hj⟩ := h
  have hno := locatedDict_no_ext text msg ns path kvs hk
  have hr : resolverExtKey = "extensions" := rfl
  cases ext with
  | none => subst hj; exact get_ext_none kvs hno
  | some es =>
    cases es with
    | nil => subst hj; exact get_ext_none kvs hno
    | cons e0 es =>
      subst hj
      show (J.obj (kvs ++ [("extensions", J.obj (e0 :: es))])).get? "extensions" = _
      exact get_ext_append kvs _ hno

/-- errors of the other classes never carry `extensions` -/
theorem no_extensions_invented (text : Text) (e : Err) (j : J) (hne : ∀ m ns p x, e ≠ .resolver m ns p x)
    (h : e.toDict text = some j) : j.get? "extensions" = none := by
  cases e with
  | «syntax» msg p =>
    simp only [Err.toDict] at h
    cases hl : indexToLoc text p with
    | none => simp [hl] at h
    | some lc => simp [hl] at h; subst h; simp [J.get?]
  | located msg ns path =>
    simp only [Err.toDict, Option.map_eq_some_iff] at h
    obtain ⟨kvs, hk, hj⟩ := h
    subst hj
    exact get_ext_none kvs (locatedDict_no_ext text msg ns path kvs hk)
  | resolver m ns p x => exact absurd rfl (hne m ns p x)
  | execution msg => simp [Err.toDict] at h; subst h; simp [J.get?]

/-- non-vacuity: a field error at offset 2 with path `["a"]` and extensions `{code: 1, tags: []}` -/
example : (Err.toDict [123, 32, 97, 32, 125] (.resolver "boom" [some 2] (some [.key "a"]) (some [("code", .num 1), ("tags", .arr [])]))).bind (·.get? "extensions")
    = some (.obj [("code", .num 1), ("tags", .arr [])]) := by rfl

end PyGql.Props.C10
