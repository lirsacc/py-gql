/-
  C04 — `exec_refines_spec` for ALL documents whose fragments can be ranked (no fragment cycle), named fragment
  spreads included: whenever the model produces a response, the specification produces the SAME ordered data and an
  error list that agrees error by error on path and kind; the only residue is that the location list of a model
  error is the specification's location list plus REPEATS of locations already in it (`Rep`), which is what the
  `_seen_fragments` rebinding of `collect_fields` causes (a node collected twice into its group).
-/
import PyGqlModel.Lemmas.C04Sim
import PyGqlModel.Lemmas.C04Raise
import PyGqlModel.Props.C04_refine


namespace PyGql.Props.C04
open PyGql PyGql.Exec PyGql.Spec PyGql.Lemmas.C04Raise

/-- On selection lists equal up to repeated selections, if the model's `collect_fields`
    succeeds then so does the specification's `CollectFields`, with the same response keys in the same order and, key
    by key, the model's node list = the specification's node list plus repeats of nodes already in the group. -/
theorem collect_refines_spec (s : SchemaD) (doc : Doc) (vars : Vars) (rk ek : String → Nat) (B : Nat) (hrk : Ranked doc rk ek B)
    (n : Nat) (obj : String) (selsS selsM : List Sel) (hrep : Rep selsS selsM) (gM : Grouped) (seen' : List String)
    (h : collectFields s doc vars n obj selsM [] = .ok (gM, seen')) :
    ∃ gS v', collectFieldsS s doc vars n obj selsS [] = .ok (gS, v') ∧ GRel gS gM := by
  have hsim := sim_top (s := s) (vars := vars) hrk n obj hrep
  rw [collectFields_eq_mseq] at h
  rw [collectFieldsS_eq_sseq]
  cases hm : mseq s doc vars n obj selsM [] with
  | error e => rw [hm] at h; cases h
  | ok p =>
    rw [hm] at h hsim
    cases h
    obtain ⟨qS, V', hs, hr, _⟩ := hsim
    exact ⟨_, V', by rw [hs]; rfl, GRel_of_rep hr⟩

/-- On selection lists equal up to repeated selections, if the model's `collect_fields`
    fails with the `CoercionError` of a directive condition that cannot be evaluated (a list literal, a variable bound to
    null), then so does the specification's `CollectFields` — named fragment spreads included. -/
theorem collect_refines_spec_fail (s : SchemaD) (doc : Doc) (vars : Vars) (rk ek : String → Nat) (B : Nat) (hrk : Ranked doc rk ek B)
    (n : Nat) (obj : String) (selsS selsM : List Sel) (hrep : Rep selsS selsM)
    (h : collectFields s doc vars n obj selsM [] = .error (.internal "CoercionError")) :
    collectFieldsS s doc vars n obj selsS [] = .error (.internal "CoercionError") := by
  have hsim := sim_top (s := s) (vars := vars) hrk n obj hrep
  rw [collectFields_eq_mseq] at h
  rw [collectFieldsS_eq_sseq]
  cases hm : mseq s doc vars n obj selsM [] with
  | ok p => rw [hm] at h; cases h
  | error e =>
    rw [hm] at h hsim
    cases h
    rw [hsim rfl]
    rfl

/-- the same error up to repeated locations -/
def ErrSim (eS eM : Err) : Prop := eS.path = eM.path ∧ eS.kind = eM.kind ∧ Rep eS.locs eM.locs

inductive ErrsSim : List Err → List Err → Prop
  | nil : ErrsSim [] []
  | cons {a b as bs} : ErrSim a b → ErrsSim as bs → ErrsSim (a :: as) (b :: bs)

theorem ErrsSim.append {a1 b1 a2 b2 : List Err} (h1 : ErrsSim a1 b1) (h2 : ErrsSim a2 b2) : ErrsSim (a1 ++ a2) (b1 ++ b2) := by
  induction h1 with
  | nil => simpa
  | cons h _ ih => exact .cons h ih

theorem ErrsSim.refl (es : List Err) : ErrsSim es es := by
  induction es with
  | nil => exact .nil
  | cons e es ih => exact .cons ⟨rfl, rfl, Rep.refl _⟩ ih

abbrev ExecFn := String → Path → List Sel → R (Data × List Err)

/-- the model's recursive executor is simulated by the specification's on inputs equal up to repeats: a `ResolverError`
    of its own (its selection set cannot be collected) is the specification's, and its results are the specification's -/
def ExecSim (e eS : ExecFn) : Prop :=
  ∀ rt p selsS selsM, Rep selsS selsM →
    (∀ k l i, e rt p selsM = .error (.raised k l i) → eS rt p selsS = .error (.raised k l i)) ∧
    ∀ d es, e rt p selsM = .ok (d, es) → ∃ esS, eS rt p selsS = .ok (d, esS) ∧ ErrsSim esS es

/-- the same value with the same errors up to repeated locations (specification first) -/
private def VSim {δ : Type} (pS p : δ × List Err) : Prop := pS.1 = p.1 ∧ ErrsSim pS.2 p.2

/-- the specification's outcome, given the model's, for both ways a step can end: the same value up to `Rv`; a
    travelling `ResolverError` is the same and carries the same errors up to repeated locations; other failures of the
    model are not compared -/
private def ResSim {α : Type} (Rv : α → α → Prop) : R α → R α → Prop
  | .ok a, rS => ∃ aS, rS = .ok aS ∧ Rv aS a
  | .error (.raised k l i), rS => ∃ iS, rS = .error (.raised k l iS) ∧ ErrsSim iS i
  | .error _, _ => True

private theorem ResSim.bind {α β : Type} {Rα : α → α → Prop} {Rβ : β → β → Prop} {x xS : R α} {f fS : α → R β}
    (hx : ResSim Rα x xS) (hf : ∀ a aS, Rα aS a → ResSim Rβ (f a) (fS aS)) : ResSim Rβ (x.bind f) (xS.bind fS) := by
  cases x with
  | ok a =>
    obtain ⟨aS, rfl, hr⟩ := hx
    exact hf a aS hr
  | error e =>
    cases e with
    | raised k l i =>
      obtain ⟨iS, rfl, hr⟩ := hx
      exact ⟨iS, rfl, hr⟩
    | _ => trivial

private theorem ResSim.keepErrs {α : Type} {Rv : α → α → Prop} {r rS : R α} {e eS : List Err} (h : ResSim Rv r rS)
    (he : ErrsSim eS e) : ResSim Rv (keepErrs e r) (keepErrs eS rS) := by
  cases r with
  | ok a =>
    obtain ⟨aS, rfl, hr⟩ := h
    exact ⟨aS, rfl, hr⟩
  | error f =>
    cases f with
    | raised k l i =>
      obtain ⟨iS, rfl, hr⟩ := h
      exact ⟨eS ++ iS, rfl, he.append hr⟩
    | _ => trivial

private theorem ResSim.catchField {r rS : R (Data × List Err)} (path : Path) (loc : Nat) (h : ResSim VSim r rS) :
    ResSim VSim (catchField path loc r) (catchField path loc rS) := by
  cases r with
  | ok a =>
    obtain ⟨aS, rfl, hr⟩ := h
    exact ⟨aS, rfl, hr⟩
  | error f =>
    cases f with
    | raised k l i =>
      obtain ⟨iS, rfl, hr⟩ := h
      exact ⟨_, rfl, rfl, hr.append (ErrsSim.refl _)⟩
    | _ => trivial

private theorem ExecSim.res {e eS : ExecFn} (he : ExecSim e eS) (rt : String) (p : Path) {selsS selsM : List Sel}
    (hr : Rep selsS selsM) : ResSim VSim (e rt p selsM) (eS rt p selsS) := by
  obtain ⟨h1, h2⟩ := he rt p selsS selsM hr
  cases hm : e rt p selsM with
  | ok a =>
    obtain ⟨esS, hs, hrr⟩ := h2 a.1 a.2 hm
    exact ⟨_, hs, rfl, hrr⟩
  | error f =>
    cases f with
    | raised k l i => exact ⟨i, h1 k l i hm, ErrsSim.refl _⟩
    | _ => trivial

private theorem completeList_sim (f fS : Path → RVal → R (Data × List Err)) (hf : ∀ p v, ResSim VSim (f p v) (fS p v)) (path : Path) :
    ∀ (vs : List RVal) (i : Nat), ResSim VSim (completeList f path i vs) (completeList fS path i vs) := by
  intro vs
  induction vs with
  | nil => exact fun i => ⟨_, rfl, rfl, .nil⟩
  | cons v rest ih =>
    intro i
    simp only [completeList]
    exact (hf _ _).bind fun a aS hr => ((ih _).keepErrs hr.2).bind fun b bS hb =>
      ⟨_, rfl, by rw [hr.1, hb.1], hr.2.append hb.2⟩

/-- `complete_value` on node lists equal up to repeats: completed, or interrupted by a `ResolverError` (a lazy iterable
    or `resolve_type` raising), the specification ends the same way and keeps the same errors -/
private theorem completeValue_sim (s : SchemaD) (e eS : ExecFn) (he : ExecSim e eS) (nodesS nodesM : List FNode)
    (hn : Rep nodesS nodesM) :
    ∀ (t : Ty) (path : Path) (v : RVal), ResSim VSim (completeValue s e nodesM t path v) (completeValue s eS nodesS t path v) := by
  have hmerged : Rep (mergedSelections nodesS) (mergedSelections nodesM) := by
    unfold mergedSelections
    exact hn.flatMap _
  intro t
  induction t with
  | nonNull t ih =>
    intro path v
    rw [completeValue_nonNull, completeValue_nonNull]
    refine (ih path v).bind fun a aS hr => ?_
    obtain ⟨d, es⟩ := a
    obtain ⟨dS, esS⟩ := aS
    obtain ⟨rfl, hr⟩ := hr
    simp only [nonNullWrap]
    split
    · exact ⟨_, rfl, rfl, hr.append (.cons ⟨rfl, rfl, hn.map _⟩ .nil)⟩
    · exact ⟨_, rfl, rfl, hr⟩
  | list t ih =>
    intro path v
    have hl := completeList_sim _ _ ih path
    rw [completeValue_list, completeValue_list]
    cases listAct v with
    | null => exact ⟨_, rfl, rfl, .nil⟩
    | items vs => exact (hl vs 0).bind fun a aS hr => ⟨_, rfl, by rw [hr.1], hr.2⟩
    | raising vs msg ext =>
      have := hl vs 0
      dsimp only
      cases hm : completeList (completeValue s e nodesM t) path 0 vs with
      | ok a =>
        rw [hm] at this
        obtain ⟨aS, hs, hr⟩ := this
        rw [hs]
        exact ⟨_, rfl, hr.2⟩
      | error f =>
        rw [hm] at this
        cases f with
        | raised k l i =>
          obtain ⟨iS, hs, hr⟩ := this
          rw [hs]
          exact ⟨_, rfl, hr⟩
        | _ => trivial
    | _ => trivial
  | named n =>
    intro path v
    rw [completeValue_named, completeValue_named]
    cases namedAct s n v with
    | sub rt => exact he.res rt path hmerged
    | null => exact ⟨_, rfl, rfl, .nil⟩
    | leaf r => exact ⟨_, rfl, rfl, .nil⟩
    | raised msg ext => exact ⟨_, rfl, .nil⟩
    | _ => trivial

private theorem resolveField_sim (s : SchemaD) (w : World) (e eS : ExecFn) (he : ExecSim e eS) (parent : String) (path : Path)
    (node : FNode) (moreS more : List FNode) (hr : Rep (node :: moreS) (node :: more)) (fd : FieldD) :
    ResSim VSim (resolveField s w e parent path (node :: more) fd) (resolveField s w eS parent path (node :: moreS) fd) := by
  rw [resolveField_cons, resolveField_cons]
  cases fieldAct w parent fd path node with
  | nullWith k => exact ⟨_, rfl, rfl, ErrsSim.refl _⟩
  | boom => trivial
  | complete v => exact (completeValue_sim s e eS he _ _ hr fd.type path v).catchField path node.loc

private theorem executeGroups_sim (s : SchemaD) (w : World) (e eS : ExecFn) (he : ExecSim e eS) (parent : String) (path : Path) :
    ∀ (gS gM : Grouped), GRel gS gM → ResSim VSim (executeGroups s w e parent path gM) (executeGroups s w eS parent path gS) := by
  intro gS gM hrel
  induction hrel with
  | nil => exact ⟨_, rfl, rfl, .nil⟩
  | @cons key ss ms gS' gM' hr hrest ih =>
    cases ms with
    | nil => trivial
    | cons node more =>
      cases ss with
      | nil => exact absurd (Rep.nil_right hr) (by simp)
      | cons nodeS moreS =>
        obtain ⟨ys, hys⟩ := Rep.head hr
        cases hys
        rw [executeGroups_cons, executeGroups_cons]
        -- the decision looks at the first node only
        show ResSim VSim ((groupAct s parent (node :: more)).bind _) ((groupAct s parent (node :: more)).bind _)
        cases groupAct s parent (node :: more) with
        | error x =>
          cases x with
          | raised k l i => exact ⟨i, rfl, ErrsSim.refl _⟩
          | _ => trivial
        | ok a =>
          cases a with
          | skip => exact ih
          | typename => exact ih.bind fun b bS hb => ⟨_, rfl, by rw [hb.1], hb.2⟩
          | field fd =>
            exact (resolveField_sim s w e eS he parent _ node moreS more hr fd).bind fun a aS ha =>
              ih.bind fun b bS hb => ⟨_, rfl, by rw [ha.1, hb.1], ha.2.append hb.2⟩

theorem executeFields_sim (s : SchemaD) (doc : Doc) (vars : Vars) (w : World) (rk ek : String → Nat) (B : Nat) (hrk : Ranked doc rk ek B)
    (cf : Nat) : ∀ fuel : Nat, ExecSim (executeFields s doc vars w cf fuel) (executeSelectionSetS s doc vars w cf fuel) := by
  intro fuel
  induction fuel with
  | zero =>
    intro rt p selsS selsM _
    exact ⟨by intro k l i h; simp [executeFields] at h, by intro d es h; simp [executeFields] at h⟩
  | succ n ih =>
    intro rt p selsS selsM hrep
    refine ⟨?_, ?_⟩
    · -- the selection set cannot be collected: a directive condition that cannot be evaluated, on both sides
      intro k l i h
      obtain ⟨rfl, rfl, rfl, hc⟩ := executeFields_raised s doc vars w cf (n + 1) rt p selsM k l i h
      have hs := collect_refines_spec_fail s doc vars rk ek B hrk cf rt selsS selsM hrep hc
      simp [executeSelectionSetS, bind, Except.bind, hs, Fail.directive]
    · intro d es h
      simp only [executeFields] at h
      obtain ⟨⟨gM, seen'⟩, h1, h⟩ := bind_eq_ok h
      obtain ⟨⟨kvs, es2⟩, h2, h⟩ := bind_eq_ok h
      cases h
      obtain ⟨gS, v', hsS, hrel⟩ :=
        collect_refines_spec s doc vars rk ek B hrk cf rt selsS selsM hrep gM seen' ((catchDirective_eq_ok _ _).1 h1)
      have hG := executeGroups_sim s w _ _ ih rt p gS gM hrel
      rw [h2] at hG
      obtain ⟨aS, hsG, hkv, hrr⟩ := hG
      exact ⟨aS.2, by simp [executeSelectionSetS, executeGroupsS_eq, bind, Except.bind, pure, Except.pure, hsS, hsG, hkv], hrr⟩

/-- The refinement statement for ALL documents (named fragment spreads included): same ordered data; errors agree one
    by one on response path and kind; model locations = specification locations plus repeats. -/
def ExecRefinesSpecUpToLocations (s : SchemaD) (doc : Doc) (vars : Vars) (w : World) (cf fuel : Nat) (root : String) (path : Path)
    (sels : List Sel) : Prop :=
  ∀ d es, executeFields s doc vars w cf fuel root path sels = .ok (d, es) →
    ∃ es', executeSelectionSetS s doc vars w cf fuel root path sels = .ok (d, es') ∧ ErrsSim es' es

/-- For every schema, every document whose fragments can be ranked (no fragment cycle — implied
    by the certificate `rankedB`, `ranked_of_rankedB`), every variables, every world — including iterables and
    `resolve_type`s that raise `ResolverError` while a value is completed (/repo fix 7b8e151) — every fuel and every selection set
    (fields, aliases, directives, inline fragments AND named fragment spreads; `@skip`/`@include` conditions that cannot be
    evaluated at run time included: model and specification fail at the same selection set with the same single error,
    `collect_refines_spec_fail`): the executor model refines the specification's algorithm. Residue, stated exactly by
    `ErrSim`: the `locations` of an error may repeat locations already listed. -/
theorem exec_refines_spec (s : SchemaD) (doc : Doc) (vars : Vars) (w : World) (rk ek : String → Nat) (B : Nat) (hrk : Ranked doc rk ek B)
    (cf fuel : Nat) (root : String) (path : Path) (sels : List Sel) :
    ExecRefinesSpecUpToLocations s doc vars w cf fuel root path sels :=
  fun d es h => ((executeFields_sim s doc vars w rk ek B hrk cf fuel) root path sels sels (Rep.refl _)).2 d es h

/-- the ROOT selection set: when the model answers `data = null` with the single directive error, so does the specification -/
theorem exec_refines_spec_root_failure (s : SchemaD) (doc : Doc) (vars : Vars) (w : World) (rk ek : String → Nat) (B : Nat)
    (hrk : Ranked doc rk ek B) (cf fuel : Nat) (root : String) (path : Path) (sels : List Sel) (k : ErrKind) (l : Option (List Nat))
    (i : List Err) (h : executeFields s doc vars w cf fuel root path sels = .error (.raised k l i)) :
    executeSelectionSetS s doc vars w cf fuel root path sels = .error (.raised k l i) :=
  ((executeFields_sim s doc vars w rk ek B hrk cf fuel) root path sels sels (Rep.refl _)).1 k l i h


/-- the same, from the decidable certificate that the driver evaluates on every accepted document -/
theorem exec_refines_spec_certified (s : SchemaD) (doc : Doc) (vars : Vars) (w : World) (h : rankedB doc = true)
    (cf fuel : Nat) (root : String) (path : Path) (sels : List Sel) :
    ExecRefinesSpecUpToLocations s doc vars w cf fuel root path sels :=
  exec_refines_spec s doc vars w _ _ _ (ranked_of_rankedB doc h).1 cf fuel root path sels

/-- non-vacuity: the quirk witness `{ ... on Query { ...F } ...F }  fragment F on Query { a }` is certified, the model
    DOES respond on it, and the theorem applies -/
example : rankedB qDoc = true := by decide
example : (match executeFields qSchema qDoc [] constWorld 5 5 "Query" []
    [.inline (some "Query") [] [.spread "F" []], .spread "F" []] with | .ok _ => true | .error _ => false) = true := by decide

end PyGql.Props.C04
