/-
  C15 — `default_parses`, stated against the VERIFIED lexer / parser model and at the VALUE level.

  `default_parses_partial` (Props/C15_defaults.lean) concludes `readLit text = some l`, where `readLit` is a reader private to
  IntrospectPrims.lean and `l` is the literal the formatter itself computed. `readLit` is LAXER than the June-2018 grammar
  (`readLit_laxer_than_grammar`), so `readLit … = some _` must not be read as "is GraphQL syntax". What the property says is:

   (G) the reported text is accepted by the grammar — `Parse.parseValueText` = `Lex.lexAll` (C01) then `Parse.parseValue` (C02),
       the model of `py_gql.lang.parser.parse_value` — and denotes the literal form (`astOf l`);
   (V) that literal coerces back to the declared default `dv` through `value_from_ast` (C07's `Coerce.valueFromAst`, on the
       registry `Exec.regOfSchema s` of the same schema description).

  State of the proofs: (G) and (V) are stated in full generality as `DefaultParsesGrammarStatement` /
  `DefaultValueRoundTripStatement`; PROVED here are only INSTANCES (every literal kind, nesting, escapes, an enum whose internal
  value differs from its name, `ID`, an input object) — the general induction over `printLit` against the fuelled lexer is OPEN.
  (V) in full generality is FALSE of today's code: a NUMBER default at an SDL custom scalar is reported as `5` and reads back,
  through the stand-in scalar's `_untyped_literal`, as the text `"5"` (C07's finding A10 seen from introspection):
  `default_value_roundtrip_refuted_custom_scalar`.
-/
import PyGqlModel.Props.C15_defaults
import PyGqlModel.ParseText
import PyGqlModel.ExecArgs
import PyGqlModel.Lemmas.AstDecEq
import PyGqlModel.Lemmas.Coerce


namespace PyGql.Props.C15
open PyGql PyGql.Introspect PyGql.Generated.Introspection

/-- characters → code points (the lexer model reads `Text = List Nat`) -/
def T (cs : Chars) : Text := cs.map Char.toNat

/-- `parse_value(text, no_location=True)` -/
def FL : Parse.Flags := { noLocation := true }

mutual
/-- the AST the parser builds for a literal (no locations): `IntValue` / `FloatValue` keep their TEXT, a `StringValue` its
    decoded content, an enum value and an object key their name -/
def astOf : Lit → Ast.Value
  | .null => .null none
  | .bool b => .boolean b none
  | .int n => .int (T (showInt n)) none
  | .float t => .float (T t) none
  | .str s => .string { value := T s, block := false, loc := none }
  | .enum n => .enum (T n) none
  | .list xs => .list (astsOf xs) none
  | .obj fs => .object (astFieldsOf fs) none
def astsOf : List Lit → List Ast.Value
  | [] => []
  | x :: xs => astOf x :: astsOf xs
def astFieldsOf : List (Chars × Lit) → List Ast.ObjectField
  | [] => []
  | (k, v) :: fs => .mk { value := T k, loc := none } (astOf v) none :: astFieldsOf fs
end

/-- **(G), full statement — OPEN.** Every well-formed literal, printed, is accepted by the verified lexer + parser model and
    denotes itself. Proved below on instances only. -/
def DefaultParsesGrammarStatement : Prop :=
  ∀ l : Lit, wfLit l = true → Parse.parseValueText FL (T (printLit l)) = some (astOf l)

/-- (G) for the text `_format_default_value` reports -/
def FormatDefaultParsesGrammarStatement : Prop :=
  ∀ (s : SchemaD) (ty : Ty) (dv : J) (l : Lit), litOfStrict s 64 ty dv = some l → wfLit l = true →
    (∀ x, dv = .str x → Prims.baseIsOneOf ty ["String", "ID"] = true → l = .str x.toList ∧ x.toList.all topCharOk = true) →
    ∃ text, formatDefaultValue s true dv ty = some text ∧ Parse.parseValueText FL (T text) = some (astOf l)

/-- **the private reader is laxer than the grammar**: `1.e+-` and `{a:1.}` are read by `readLit` and
    refused by the lexer model — `readLit t = some _` does not mean "t is GraphQL syntax". -/
theorem readLit_laxer_than_grammar :
    (readLit "1.e+-".toList).isSome = true ∧ Parse.parseValueText FL (T "1.e+-".toList) = none ∧
    (readLit "{a:1.}".toList).isSome = true ∧ Parse.parseValueText FL (T "{a:1.}".toList) = none := by decide +kernel

/-- (G) for one literal -/
def GOK (l : Lit) : Prop := Parse.parseValueText FL (T (printLit l)) = some (astOf l)

/-- (G) on one instance per literal kind and per nesting form (PARTIAL: instances
    only; the full statement is `DefaultParsesGrammarStatement`): null, booleans, integers (zero, negative, MAX_INT), floats
    (fraction, exponent, signed exponent), enum names, strings (empty, blank, escaped quote / backslash / LF TAB / FORM FEED as
    `\u000c` inside a list, non-ASCII), lists, nested lists, objects, nested objects. -/
theorem default_parses_grammar_instances_partial :
    (GOK .null ∧ GOK (.bool true) ∧ GOK (.bool false) ∧ GOK (.int 0) ∧ GOK (.int 7) ∧ GOK (.int (-12)) ∧ GOK (.int 2147483647)) ∧
    (GOK (.float "1.5".toList) ∧ GOK (.float "-2.5e3".toList) ∧ GOK (.float "1e+16".toList) ∧ GOK (.enum "B".toList) ∧ GOK (.enum "RED_2".toList)) ∧
    (GOK (.str []) ∧ GOK (.str "x y".toList) ∧ GOK (.str "a\"b".toList) ∧ GOK (.str "\\".toList) ∧ GOK (.str "\n\t".toList) ∧
     GOK (.list [.str [Char.ofNat 12]]) ∧ GOK (.str "é".toList)) ∧
    (GOK (.list []) ∧ GOK (.list [.int 1]) ∧ GOK (.list [.int 1, .null]) ∧ GOK (.list [.list [], .list [.enum "A".toList]]) ∧ GOK (.obj []) ∧
     GOK (.obj [("a".toList, .int 3)]) ∧ GOK (.obj [("a".toList, .int 3), ("e".toList, .list [.enum "B".toList, .enum "A".toList])]) ∧
     GOK (.obj [("o".toList, .obj [("s".toList, .str "x".toList)])])) := by
  simp only [GOK]
  decide +kernel

/-- (G) on the formatter's own output for declared defaults of the witness schema: an Int, the enum member whose internal value
    is `1` (reported by NAME), a list of enum values, an input object, a string with a line feed (the `_STRING_ESCAPES` branch) -/
theorem format_default_parses_grammar_instances_partial :
    (∀ p ∈ [((.named "Int" : Ty), J.num 3), (.named "E", .num 1), (.list (.named "E"), .arr [.num 1, .str "A"]),
            (.named "I", .obj [("a", .num 3), ("e", .arr [.num 1])]), (.named "String", .str "x\ny"), (.named "I", .null)],
      ∃ text l, formatDefaultValue witnessSchema true p.2 p.1 = some text ∧ litOfStrict witnessSchema 64 p.1 p.2 = some l ∧
        Parse.parseValueText FL (T text) = some (astOf l)) := by
  intro p hp
  simp only [List.mem_cons, List.not_mem_nil, or_false] at hp
  rcases hp with rfl | rfl | rfl | rfl | rfl | rfl <;> exact ⟨_, _, rfl, rfl, by decide +kernel⟩

def intOfText (t : Text) : Int :=
  let nat (ds : Text) : Nat := ds.foldl (fun a c => a * 10 + (c - 48)) 0
  match t with
  | 45 :: r => - (nat r : Int)
  | r => (nat r : Int)
def strOfText (t : Text) : String := String.ofList (t.map Char.ofNat)

mutual
/-- the parser's AST as the literal C07's `value_from_ast` model reads (`IntValue` → `int(node.value)`) -/
def coerceLitOf : Ast.Value → Coerce.Lit
  | .var v => .var (strOfText v.name.value)
  | .int t _ => .int (intOfText t)
  | .float t _ => .float (strOfText t)
  | .string s => .str (strOfText s.value)
  | .boolean b _ => .bool b
  | .null _ => .null
  | .enum t _ => .enum (strOfText t)
  | .list vs _ => .list (coerceLitsOf vs)
  | .object fs _ => .obj (coerceFieldsOf fs)
def coerceLitsOf : List Ast.Value → List Coerce.Lit
  | [] => []
  | v :: vs => coerceLitOf v :: coerceLitsOf vs
def coerceFieldsOf : List Ast.ObjectField → List (String × Coerce.Lit)
  | [] => []
  | .mk n v _ :: fs => (strOfText n.value, coerceLitOf v) :: coerceFieldsOf fs
end

/-- the reported default of (`ty`, `dv`) in schema `s`, parsed by the verified parser model and coerced by C07's
    `value_from_ast` model on the registry of the same schema: `none` = not reported or not GraphQL syntax -/
def readBack (s : SchemaD) (fuel : Nat) (ty : Ty) (dv : J) : Option Coerce.R :=
  match formatDefaultValue s true dv ty with
  | none => none
  | some text =>
    match Parse.parseValueText FL (T text) with
    | none => none
    | some v => some (Coerce.valueFromAst (Exec.regOfSchema s) none fuel ty (coerceLitOf v))

/-- **(V), full statement — FALSE of today's code** (below): every reported default reads back to the declared default -/
def DefaultValueRoundTripStatement : Prop :=
  ∀ (s : SchemaD) (ty : Ty) (dv : J) (text : Chars), formatDefaultValue s true dv ty = some text →
    ∃ fuel, readBack s fuel ty dv = some (.ok (Exec.pvOfJ dv))

/-- (V) on instances: the declared default comes back as a VALUE — the enum
    member `B` as its internal value `1`, `[B, A]` as `[1, "A"]`, the input object as the dict with the internal value inside,
    the string with its line feed, an `ID` default, `null`. -/
theorem default_value_roundtrip_instances_partial :
    ∀ p ∈ [((.named "Int" : Ty), J.num 3), (.named "E", .num 1), (.list (.named "E"), .arr [.num 1, .str "A"]),
           (.named "I", .obj [("a", .num 3), ("e", .arr [.num 1])]), (.named "String", .str "x\ny"), (.named "ID", .str "7"),
           (.named "I", .null)],
      readBack witnessSchema 8 p.1 p.2 = some (.ok (Exec.pvOfJ p.2)) := by
  decide +kernel

/-- the witness schema plus `scalar J` (a stand-in scalar: `default_scalar("J")`) -/
def witnessSchemaJ : SchemaD := { types := witnessSchema.types ++ [{ kind := .scalar, name := "J" }] }

/-- a NUMBER default at the stand-in scalar (`Argument("x", default_scalar("J"), default_value=5)`) is reported as `5`, which IS
    GraphQL syntax, and reads back — through `_untyped_literal`, which keeps a number literal's source text — as the STRING "5" -/
theorem default_number_at_stand_in_scalar_reads_back_as_text :
    formatDefaultValue witnessSchemaJ true (.num 5) (.named "J") = some ['5'] ∧
    (∀ fuel, readBack witnessSchemaJ (fuel + 1) (.named "J") (.num 5) = some (.ok (.str "5"))) ∧
    Exec.pvOfJ (.num 5) = .int 5 := ⟨rfl, fun _ => rfl, rfl⟩

/-- **REFUTED on today's code** (C07's known finding A10 seen from introspection; reproduced on the real code by the probe
    `stand-in-number-default` of harness/corr/C15.py): the value-level statement fails at a stand-in scalar with a number default.
    Non-number defaults at the stand-in scalar DO round-trip (`default_value_roundtrip_stand_in_non_number`). -/
theorem default_value_roundtrip_refuted_custom_scalar : ¬ DefaultValueRoundTripStatement := by
  intro h
  obtain ⟨fuel, hf⟩ := h witnessSchemaJ (.named "J") (.num 5) ['5'] rfl
  cases fuel with
  | zero =>
    have h0 : readBack witnessSchemaJ 0 (.named "J") (.num 5) = some (.error .fuel) := rfl
    rw [h0] at hf
    injection hf with hf
    cases hf
  | succ n =>
    rw [default_number_at_stand_in_scalar_reads_back_as_text.2.1 n] at hf
    injection hf with hf
    injection hf with hf
    cases hf

theorem default_value_roundtrip_stand_in_non_number :
    ∀ dv ∈ [J.str "s", .bool true, .arr [.bool true, .str "k"], .null],
      readBack witnessSchemaJ 8 (.named "J") dv = some (.ok (Exec.pvOfJ dv)) := by
  decide +kernel

end PyGql.Props.C15
