/-
  C12 — **THE TWO PRINTER MODELS ARE ONE**: the String-level model `SdlPrint.printSchema` (state threaded, the model of
  `print_pure` and of the history correspondence) and the Text-level model `SdlPrintTA.printSchemaTA` (the model of the
  text theorems `print_schema_text_parses(_custom)`, `text_roundtrip_*`) print the same code points.  (The
  correspondence also ties them: driver ops `printT` / `printTA` compare both with the real text.)

  PROVED (`printSchemaTA_eq_printSchema`): for every option set `o` (indent, descriptions, custom directives on / off /
  whitelist), every schema and every assignment of directive nodes, in the state of the fixed code (H1),
      `T (printSchema o s apps st).1 = printSchemaTA (optsA o) s apps`        (`T` = the code points of a `String`)
  under ONE hypothesis `appsLexOK` — the PRINTED directive applications consist of lexemes (a sub-conjunction of
  `printTextWFA`) — which is needed: the String model writes an application with its own `dirAppText`, the Text model (as
  the real printer) with the language printer of C03, whose `_join` drops empty entries (`models_differ_on_empty_lexeme`).
  Without applied directives (`include_custom_schema_directives` falsy) there is NO hypothesis (`printSchemaT_eq_printSchema`):
  descriptions in every layout, re-wrapped lines (`wrapped_lines`), `json.dumps`, defaults, `strip`.
  COMPOSED: `print_schema_text_parses_string` / `text_roundtrip_string` — the text theorems speak about the model the
  history correspondence compares; `runHistory_texts` — every output of every call history is the Text model's text.
  The String model is total and list-based (`litText` structural, `splitLines`, `escTriple`): no `partial def`, no
  `String.splitOn / replace / endsWith`.

  The property theorems of this file: `printSchemaTA_eq_printSchema`, `printSchemaXTA_eq_printSchemaX`, `printSchemaT_eq_printSchema`,
  `runHistory_texts`, `runHistoryX_texts`, `print_schema_text_parses_string`, `text_roundtrip_string` and the counterexample
  `models_differ_on_empty_lexeme`.  Corollaries: `printSchemaTA_eq_printSchema_of_wfa`, `printSchemaXTA_eq_printSchemaX_default`,
  `printSchemaXTA_off`.
-/
import PyGqlModel.Lemmas.SdlModelsDefs
import PyGqlModel.Props.C12_custom_build
import PyGqlModel.Props.C12_h5
namespace PyGql.Props.C12
open PyGql PyGql.Sdl PyGql.SdlPrint PyGql.SdlModels
open PyGql.SdlText hiding T
open PyGql.SdlPrintT (T)

def ModelsAgreeStatement : Prop :=
  ∀ (o : Opts) (s : SchemaD) (apps : Apps), appsLexOK (optsA o) s apps = true →
    T (printSchema o s apps initialCollection).1 = SdlPrintTA.printSchemaTA (optsA o) s apps

theorem printSchemaTA_eq_printSchema : ModelsAgreeStatement :=
  fun o s apps h => (printSchema_rel o s apps h).2

/-- for every schema the text theorems are about (`printTextWFA` contains `appsLexOK`) -/
theorem printSchemaTA_eq_printSchema_of_wfa (o : Opts) (s : SchemaD) (apps : Apps)
    (h : SdlPrintTA.printTextWFA (optsA o) s apps = true) :
    T (printSchema o s apps initialCollection).1 = SdlPrintTA.printSchemaTA (optsA o) s apps :=
  printSchemaTA_eq_printSchema o s apps (appsLexOK_of_wfa _ s apps h)

private theorem appsOKAt_off (c : SdlPrintTA.OptsA) (hc : c.custom = false) (apps : Apps) (path : String) :
    SdlPrintTA.appsOKAt c apps path = true := by
  simp [SdlPrintTA.appsOKAt, SdlPrintTA.keptAt, SdlPrintTA.nodesAt, hc]

private theorem appsLexOK_off (c : SdlPrintTA.OptsA) (hc : c.custom = false) (s : SchemaD) (apps : Apps) : appsLexOK c s apps = true := by
  simp [appsLexOK, SdlPrintTA.typeAppsOK, SdlPrintTA.fieldAppsOK, SdlPrintTA.argAppsOK, SdlPrintTA.directiveAppsOK, appsOKAt_off c hc]

/-- without applied directives (the default) the String model prints exactly the text of `printSchemaT`, for EVERY schema, no
    hypothesis: descriptions in every layout, re-wrapped long lines included -/
theorem printSchemaT_eq_printSchema (o : Opts) (hc : o.custom = false) (s : SchemaD) (apps : Apps) :
    T (printSchema o s apps initialCollection).1 = SdlPrintT.printSchemaT (optsT o) s := by
  rw [printSchemaTA_eq_printSchema o s apps (appsLexOK_off _ hc s apps)]
  exact printSchemaTA_off (c := optsA o) hc s apps

/-- every output of EVERY history of `to_string` calls in one process is the text of the Text model for that call (with
    `print_pure`: the state never leaves the initial collection) -/
theorem runHistory_texts : ∀ (calls : List (Opts × SchemaD × Apps)),
    (∀ c ∈ calls, appsLexOK (optsA c.1) c.2.1 c.2.2 = true) →
    (runHistory initialCollection calls).map T = calls.map (fun c => SdlPrintTA.printSchemaTA (optsA c.1) c.2.1 c.2.2)
  | [], _ => rfl
  | c :: rest, h => by
    have hr := printSchema_rel c.1 c.2.1 c.2.2 (h c (by simp))
    have ih := runHistory_texts rest (fun x hx => h x (by simp [hx]))
    have h1 : (printSchema c.1 c.2.1 c.2.2 initialCollection).2 = initialCollection := hr.1
    simp only [runHistory, List.map_cons, h1, ih, hr.2]

/-- `print_schema_text_parses_custom` about the String model: the text the model of the history correspondence prints is
    accepted by lexer and parser and parses to the tree of the printed document -/
theorem print_schema_text_parses_string (o : Opts) (s : SchemaD) (apps : Apps)
    (hwf : SdlPrintTA.printTextWFA (optsA o) s apps = true) :
    parseSdlTextT (T (printSchema o s apps initialCollection).1) = docToAst (SdlPrintTA.printedDocA s (optsA o) apps) := by
  rw [printSchemaTA_eq_printSchema_of_wfa o s apps hwf]
  exact print_schema_text_parses_custom (optsA o) s apps hwf

/-- the text-level round trip about the String model: its text parses to a document that, applied directives included, builds
    a schema equal to `s` up to the order of definitions -/
theorem text_roundtrip_string (o : Opts) (s : SchemaD) (apps : Apps)
    (hwf : SdlPrintTA.printTextWFA (optsA o) s apps = true) (hb : printBuildWF s = true) :
    ∃ (d : Ast.Document) (doc : Doc) (s' : SchemaD), parseSdlTextT (T (printSchema o s apps initialCollection).1) = some d ∧
      docToAst doc = some d ∧ build doc = .ok s' ∧ SameUpToOrder s' s := by
  rw [printSchemaTA_eq_printSchema_of_wfa o s apps hwf]
  exact text_roundtrip_custom_final (optsA o) s apps hwf hb


/-- the whole option space (`SdlPrintTA.printSchemaXTA` is the Text-level `printSchemaX`) -/
def ModelsAgreeXStatement : Prop :=
  ∀ (o : Opts) (intro : Bool) (b : Builtins) (s : SchemaD) (apps : Apps), appsLexOKX (optsA o) intro b s apps = true →
    T (printSchemaX o intro b s apps initialCollection).1 = SdlPrintTA.printSchemaXTA (optsA o) intro b s apps

theorem printSchemaXTA_eq_printSchemaX : ModelsAgreeXStatement :=
  fun o intro b s apps h => (printSchemaX_rel o intro b s apps h).2

private theorem appsLexOKX_off (c : SdlPrintTA.OptsA) (hc : c.custom = false) (intro : Bool) (b : Builtins) (s : SchemaD) (apps : Apps) :
    appsLexOKX c intro b s apps = true := by
  simp [appsLexOKX, SdlPrintTA.typeAppsOK, SdlPrintTA.fieldAppsOK, SdlPrintTA.argAppsOK, SdlPrintTA.directiveAppsOK, appsOKAt_off c hc]

/-- with `include_custom_schema_directives` falsy (the default) there is no hypothesis at all: for every schema, every library
    constant and `include_introspection` on or off the two models print the same text — in particular the library's own long
    descriptions, re-wrapped by `wrapped_lines` -/
theorem printSchemaXTA_eq_printSchemaX_default (o : Opts) (hc : o.custom = false) (intro : Bool) (b : Builtins) (s : SchemaD) (apps : Apps) :
    T (printSchemaX o intro b s apps initialCollection).1 = SdlPrintTA.printSchemaXTA (optsA o) intro b s apps :=
  printSchemaXTA_eq_printSchemaX o intro b s apps (appsLexOKX_off _ hc intro b s apps)

theorem printSchemaXTA_off (c : SdlPrintTA.OptsA) (b : Builtins) (s : SchemaD) (apps : Apps) :
    SdlPrintTA.printSchemaXTA c false b s apps = SdlPrintTA.printSchemaTA c s apps := by
  simp only [SdlPrintTA.printSchemaXTA, SdlPrintTA.printSchemaTA, Bool.false_eq_true, if_false, List.map_nil, List.append_nil,
    List.nil_append, List.cons_append]

/-- every output of every history of calls with all four options (the histories of `print_pure_all_options`) is the text of
    the Text model for that call -/
theorem runHistoryX_texts : ∀ (calls : List (Opts × Bool × Builtins × SchemaD × Apps)),
    (∀ c ∈ calls, appsLexOKX (optsA c.1) c.2.1 c.2.2.1 c.2.2.2.1 c.2.2.2.2 = true) →
    (runHistoryX initialCollection calls).map T =
      calls.map (fun c => SdlPrintTA.printSchemaXTA (optsA c.1) c.2.1 c.2.2.1 c.2.2.2.1 c.2.2.2.2)
  | [], _ => rfl
  | c :: rest, h => by
    have hr := printSchemaX_rel c.1 c.2.1 c.2.2.1 c.2.2.2.1 c.2.2.2.2 (h c (by simp))
    have ih := runHistoryX_texts rest (fun x hx => h x (by simp [hx]))
    have h1 : (printSchemaX c.1 c.2.1 c.2.2.1 c.2.2.2.1 c.2.2.2.2 initialCollection).2 = initialCollection := hr.1
    simp only [runHistoryX, List.map_cons, h1, ih, hr.2]

/-- a stand-in for the library's constants: one specified directive with a described argument, one introspection type
    whose description has an over-long line -/
def demoBuiltins : Builtins :=
  { specified := [{ name := "skip", locations := ["FIELD"], args := [{ name := "if", type := .nonNull (.named "Boolean"), desc := some "Skipped when true." }] }],
    introspection := [{ kind := .enum, name := "__TypeKind", desc := some longLine, values := [{ name := "SCALAR", value := .str "SCALAR" }] }] }

set_option maxRecDepth 100000 in
example : T (printSchemaX {} true demoBuiltins plainShop [] initialCollection).1 =
    SdlPrintTA.printSchemaXTA (optsA {}) true demoBuiltins plainShop [] :=
  printSchemaXTA_eq_printSchemaX _ _ _ _ _ (by decide +kernel)

/-! ### non-vacuity, and why the hypothesis is there -/

private theorem shopApps_lexOK : appsLexOK (optsA { custom := true }) plainShop shopApps = true := by decide +kernel
example : appsLexOK (optsA { custom := true }) plainShop shopApps = true := shopApps_lexOK
example : T (printSchema { custom := true } plainShop shopApps initialCollection).1 =
    SdlPrintTA.printSchemaTA (optsA { custom := true }) plainShop shopApps :=
  printSchemaTA_eq_printSchema _ _ _ shopApps_lexOK
example : T (printSchema { custom := true, whitelist := some ["other"], indent := "\t" } plainShop shopApps initialCollection).1 =
    SdlPrintTA.printSchemaTA (optsA { custom := true, whitelist := some ["other"], indent := "\t" }) plainShop shopApps :=
  printSchemaTA_eq_printSchema _ _ _ (by decide +kernel)
/-- a description with a line of 130 characters (re-wrapped by `wrapped_lines`): no hypothesis needed -/
example (d : String) : T (printSchema {} { types := [{ kind := .scalar, name := "S", desc := some d }] } [] initialCollection).1 =
    SdlPrintT.printSchemaT (optsT {}) { types := [{ kind := .scalar, name := "S", desc := some d }] } :=
  printSchemaT_eq_printSchema {} rfl _ _

/-- an application whose argument is the list literal `[<empty enum lexeme>, A]` (not producible by the parser): the
    String model writes `[, A]`, the language printer drops the empty entry and writes `[A]` -/
def emptyLexemeApps : Apps := [("S", [{ name := "tag", args := [("xs", .list [.enum "", .enum "A"])] }])]
def scalarS : SchemaD := { types := [{ kind := .scalar, name := "S" }] }

/-- the hypothesis `appsLexOK` cannot be dropped -/
theorem models_differ_on_empty_lexeme :
    appsLexOK (optsA { custom := true }) scalarS emptyLexemeApps = false ∧
    T (printSchema { custom := true } scalarS emptyLexemeApps initialCollection).1 ≠
      SdlPrintTA.printSchemaTA (optsA { custom := true }) scalarS emptyLexemeApps := by
  decide +kernel

end PyGql.Props.C12
