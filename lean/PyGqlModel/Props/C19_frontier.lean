/-
  C19 — the FRONTIER loop of `_nesting_levels` (the code after C19-Q3) measures what the recursive model
  measures. `Depth.nestingLevelsF` (DepthFrontier.lean) is the loop as written: a frontier of selection lists per level, every
  entry collected with the level's budget, the non-empty merged sub-selection lists of all groups forming the next frontier.
  The strict loop returns `levels so far + max over the frontier of the canonical levels` (`nestingLevelsFS_ok`), hence the
  value of the recursive `nestingLevels`; the loop with the tolerant hook is the strict loop on the erased document; so the
  rule with the loop AS WRITTEN returns what `ruleB` returns (`ruleF_eq_ruleB`), and it never raises.
-/
import PyGqlModel.Lemmas.DepthLevels
import PyGqlModel.Props.C19_orig

namespace PyGql.Props.C19
open PyGql.Depth PyGql.DepthSpec PyGql.Depth.Lemmas

/-- strict counterparts (proof devices): `collect_fields_untyped` with the strict `_skip_selection` -/
def frontierLevelS (budget : Nat) (frags : List Frag) (vars : Vars) :
    List (List Sel) → Except Err (Bool × List (List Sel))
  | [] => .ok (false, [])
  | e :: rest =>
    match collectFieldsUntyped budget e frags vars [] with
    | .error err => .error err
    | .ok (G, _) =>
      match frontierLevelS budget frags vars rest with
      | .error err => .error err
      | .ok (found, nxt) => .ok (!G.isEmpty || found, groupSubs G ++ nxt)

def nestingLevelsFS (frags : List Frag) (vars : Vars) : Nat → Nat → List (List Sel) → Except Err Nat
  | _, levels, [] => .ok levels
  | 0, _, _ :: _ => .error .recursion
  | b + 1, levels, e :: es =>
    match frontierLevelS (b + 1) frags vars (e :: es) with
    | .error err => .error err
    | .ok (false, _) => .ok levels
    | .ok (true, nxt) => nestingLevelsFS frags vars b (levels + 1) nxt

section
variable (frags : List Frag) (vars : Vars) (w : String → Nat)

def frontLv (fr : List (List Sel)) : Nat := maxL (fr.map (cL frags vars w))

private theorem frontLv_nil : frontLv frags vars w [] = 0 := by simp [frontLv, maxL]

private theorem frontLv_eq_flatten (fr : List (List Sel)) : frontLv frags vars w fr = cL frags vars w fr.flatten := by
  induction fr with
  | nil => rfl
  | cons e rest ih => rw [List.flatten_cons, cL_append, ← ih]; rfl

theorem frontLv_groupSubs (P : Fld → Prop) : ∀ (G : Grouped), GInv P G → G ≠ [] →
    1 + frontLv frags vars w (groupSubs G) = gMax (fLv frags vars w) G := by
  intro G hg hne
  rw [frontLv_eq_flatten, groupSubs_flatten]
  exact gMax_fLv frags vars w G (fun kv h => (hg kv h).1) hne

private theorem frontierLevelS_flat (hc : Consistent frags w) (hfb : ∀ f ∈ frags, boundL vars f.sels = true) (K : Nat)
    (fr : List (List Sel)) : (∀ e ∈ fr, potL w e ≤ K ∧ boundL vars e = true) →
      ∃ found nxt, frontierLevelS (K + 1) frags vars fr = .ok (found, nxt) ∧
        cL frags vars w fr.flatten = (if found = true then 1 + cL frags vars w nxt.flatten else 0) ∧
        (found = false → nxt = []) ∧ (∀ e' ∈ nxt, potL w e' + 1 ≤ K ∧ boundL vars e' = true) := by
  induction fr with
  | nil => exact fun _ => ⟨false, [], rfl, rfl, fun _ => rfl, fun _ h => nomatch h⟩
  | cons e rest ih =>
    intro hfr
    obtain ⟨hp, hb⟩ := hfr e (List.mem_cons_self ..)
    obtain ⟨G, S', eq, hcl, c4⟩ := collect_top frags vars w hc hfb K e hp hb
    obtain ⟨found', nxt', eq', i1, i2, i3⟩ := ih fun x hx => hfr x (List.mem_cons_of_mem _ hx)
    refine ⟨!G.isEmpty || found', groupSubs G ++ nxt', by simp only [frontierLevelS, eq, eq'], ?_, ?_, fun e' he' => ?_⟩
    · rw [List.flatten_cons, cL_append, hcl, i1, List.flatten_append, cL_append, groupSubs_flatten]
      cases G with
      | nil => exact Nat.zero_max _
      | cons kv G' =>
        rw [← gMax_fLv frags vars w _ (fun kv h => (c4 kv h).1) (List.cons_ne_nil kv G')]
        cases found' with
        | true => exact (Nat.add_max_add_left ..)
        | false =>
          rw [i2 rfl]
          show max (1 + _) 0 = 1 + max _ 0
          rw [Nat.max_zero, Nat.max_zero]
    · cases G with
      | nil => exact i2
      | cons kv G' => exact fun h => nomatch h
    · rcases List.mem_append.mp he' with h | h
      · exact groupSubs_ok vars w K G c4 e' h
      · exact i3 e' h

theorem frontierLevelS_ok (hc : Consistent frags w) (hfb : ∀ f ∈ frags, boundL vars f.sels = true) (K : Nat) :
    ∀ (fr : List (List Sel)), (∀ e ∈ fr, potL w e ≤ K ∧ boundL vars e = true) →
      ∃ found nxt, frontierLevelS (K + 1) frags vars fr = .ok (found, nxt) ∧
        (found = false → nxt = [] ∧ frontLv frags vars w fr = 0) ∧
        (found = true → 1 + frontLv frags vars w nxt = frontLv frags vars w fr) ∧
        (∀ e' ∈ nxt, potL w e' + 1 ≤ K ∧ boundL vars e' = true) := by
  intro fr hfr
  obtain ⟨found, nxt, eq, i1, i2, i3⟩ := frontierLevelS_flat frags vars w hc hfb K fr hfr
  rw [← frontLv_eq_flatten, ← frontLv_eq_flatten] at i1
  exact ⟨found, nxt, eq, fun h => ⟨i2 h, by rw [i1, h]; rfl⟩, fun h => by rw [i1, h]; rfl, i3⟩

theorem nestingLevelsFS_ok (hc : Consistent frags w) (hfb : ∀ f ∈ frags, boundL vars f.sels = true) :
    ∀ (K : Nat) (fr : List (List Sel)) (lv : Nat), (∀ e ∈ fr, potL w e ≤ K ∧ boundL vars e = true) →
      nestingLevelsFS frags vars (K + 1) lv fr = .ok (lv + frontLv frags vars w fr) := by
  -- stated for the fuel itself, so that the empty frontier at fuel 0 and the step are one induction
  have main : ∀ (K : Nat) (fr : List (List Sel)) (lv : Nat), (∀ e ∈ fr, potL w e + 1 ≤ K ∧ boundL vars e = true) →
      nestingLevelsFS frags vars K lv fr = .ok (lv + frontLv frags vars w fr) := by
    intro K
    induction K with
    | zero =>
      intro fr lv hfr
      cases fr with
      | nil => simp [nestingLevelsFS, frontLv_nil]
      | cons e es => exact absurd (hfr e (List.mem_cons_self ..)).1 (Nat.not_succ_le_zero _)
    | succ K ih =>
      intro fr lv hfr
      cases fr with
      | nil => simp [nestingLevelsFS, frontLv_nil]
      | cons e es =>
        obtain ⟨found, nxt, eq, i1, i2, i3⟩ := frontierLevelS_ok frags vars w hc hfb K (e :: es)
          fun x hx => ⟨Nat.le_of_succ_le_succ (hfr x hx).1, (hfr x hx).2⟩
        simp only [nestingLevelsFS, eq]
        cases found with
        | false => simp [(i1 rfl).2]
        | true =>
          simp only []
          rw [ih nxt (lv + 1) i3, ← i2 rfl, Nat.add_assoc]
  intro K fr lv hfr
  exact main (K + 1) fr lv fun e he => ⟨Nat.succ_le_succ (hfr e he).1, (hfr e he).2⟩

/-- started on `[selections]`, the frontier loop returns what the recursive model returns -/
theorem frontier_eq_recursive (hc : Consistent frags w) (hfb : ∀ f ∈ frags, boundL vars f.sels = true)
    (K : Nat) (sels : List Sel) (hp : potL w sels ≤ K) (hb : boundL vars sels = true) :
    nestingLevelsFS frags vars (K + 1) 0 [sels] = nestingLevels (K + 1) sels frags vars := by
  rw [nestingLevelsFS_ok frags vars w hc hfb K [sels] 0 (by intro e he; simp at he; subst he; exact ⟨hp, hb⟩),
    nestingLevels_ok frags vars w hc hfb K sels hp hb]
  simp [frontLv, maxL]

end

private def mapNextL (L : List Sel → List Sel) :
    Except Err (Bool × List (List Sel)) → Except Err (Bool × List (List Sel))
  | .error e => .error e
  | .ok (f, nxt) => .ok (f, nxt.map L)

section
variable {L : List Sel → List Sel} {e : Dirs → Dirs} (hL : L = mapDirsL e)
  {v : Vars} {skipA : Dirs → Vars → Except Err Bool} (hsk : ∀ d, skipA d v = skipSelection (e d) v)
include hL

private theorem groupSubs_map (G : Grouped) : groupSubs (mapG L G) = (groupSubs G).map L := by
  induction G with
  | nil => rfl
  | cons kv rest ih =>
    obtain ⟨k, fs⟩ := kv
    have hg : mapG L ((k, fs) :: rest) = (k, fs.map (mapFld L)) :: mapG L rest := rfl
    rw [hg, groupSubs_cons, groupSubs_cons, flatMap_sub_map hL, ih]
    subst hL
    cases fs.flatMap (·.sub) <;> rfl

include hsk

theorem frontierLevel_map (frags : List Frag) (b : Nat) (fr : List (List Sel)) :
    frontierLevelS b (mapFrags L frags) v (fr.map L) = mapNextL L (frontierLevel skipA b frags v fr) := by
  induction fr with
  | nil => rfl
  | cons x rest ih =>
    simp only [List.map_cons, frontierLevelS, frontierLevel, collect_mapDirs hL hsk frags b x [], ih]
    cases collectFieldsUntypedG skipA b x frags v [] with
    | error err => rfl
    | ok r =>
      have hE : (mapG L r.1).isEmpty = r.1.isEmpty := List.isEmpty_map
      cases frontierLevel skipA b frags v rest with
      | error err => rfl
      | ok q => simp [mapSt, mapNextL, groupSubs_map hL, hE]

theorem nestingLevelsF_map (frags : List Frag) : ∀ (b lv : Nat) (fr : List (List Sel)),
    nestingLevelsFS (mapFrags L frags) v b lv (fr.map L) = nestingLevelsF skipA frags v b lv fr := by
  intro b
  induction b with
  | zero => intro lv fr; cases fr <;> rfl
  | succ b ih =>
    intro lv fr
    cases fr with
    | nil => rfl
    | cons x xs =>
      have hs := frontierLevel_map hL hsk frags (b + 1) (x :: xs)
      simp only [List.map_cons] at hs
      simp only [List.map_cons, nestingLevelsFS, nestingLevelsF, hs]
      cases frontierLevel skipA (b + 1) frags v (x :: xs) with
      | error err => rfl
      | ok q =>
        obtain ⟨f, nxt⟩ := q
        cases f with
        | false => rfl
        | true => exact ih (lv + 1) nxt

theorem depthFixedFG_eq_G (he : ∀ d, dirsBound v (e d) = true) (doc : Doc) (hu : UniqueNames doc.frags)
    (ha : Acyclic doc.frags) (op : Op) (hop : op ∈ doc.ops) (fuel : Nat) (hfuel : doc.fuel ≤ fuel) :
    depthFixedFG skipA fuel op doc.frags v = depthFixedG skipA fuel op doc.frags v := by
  obtain ⟨K, rfl, hc, hfb, hp, hb⟩ := map_env hL he doc hu ha op hop fuel hfuel
  have hM := frontier_eq_recursive (mapFrags L doc.frags) v _ hc hfb K (L op.sels) hp hb
  rw [← List.map_singleton, nestingLevelsF_map hL hsk, nestingLevels_mapDirs hL hsk] at hM
  unfold depthFixedFG depthFixedG
  rw [hM]
  rfl

end

private def mapNext (v : Vars) : Except Err (Bool × List (List Sel)) → Except Err (Bool × List (List Sel))
  | .error e => .error e
  | .ok (f, nxt) => .ok (f, nxt.map (eraseL v))

theorem frontierLevel_sim (v : Vars) (frags : List Frag) (b : Nat) : ∀ (fr : List (List Sel)),
    frontierLevelS b (eraseFrags v frags) v (fr.map (eraseL v)) = mapNext v (frontierLevel skipSelectionT b frags v fr) :=
  frontierLevel_map (eraseL_mapDirs v) (skipT_eq v) frags b

theorem nestingLevelsF_sim (v : Vars) (frags : List Frag) : ∀ (b lv : Nat) (fr : List (List Sel)),
    nestingLevelsFS (eraseFrags v frags) v b lv (fr.map (eraseL v)) = nestingLevelsF skipSelectionT frags v b lv fr :=
  nestingLevelsF_map (eraseL_mapDirs v) (skipT_eq v) frags

/-- unique, acyclic fragments, ANY request variables, any budget ≥ the fuel of the document: the
    frontier loop measures `depthK` -/
theorem measuredF_eq_depthK (doc : Doc) (hu : UniqueNames doc.frags) (ha : Acyclic doc.frags) (v : Vars)
    (op : Op) (hop : op ∈ doc.ops) (fuel : Nat) (hfuel : doc.fuel ≤ fuel) :
    depthFixedFG skipSelectionT fuel op doc.frags v = .ok (depthK doc v op) := by
  rw [depthFixedFG_eq_G (eraseL_mapDirs v) (skipT_eq v) (dirsBound_erase v) doc hu ha op hop fuel hfuel]
  exact measuredT_eq_depthK doc hu ha v op hop fuel hfuel

/-- on documents with unique, acyclic fragments the rule with the loop AS WRITTEN returns exactly what
    the recursive model of the rule returns, for every limit, filter and request variables -/
theorem ruleF_eq_ruleB (doc : Doc) (defs : List (List VarDefR)) (raw : RawVars)
    (hu : UniqueNames doc.frags) (ha : Acyclic doc.frags) (limit : Nat) (filter : Option String) :
    ruleF limit filter doc defs raw = ruleB limit filter doc defs raw := by
  rw [ruleB_eq_expected doc defs raw hu ha limit filter]
  unfold ruleF
  apply ruleLoopB_of_some _ (depthRK doc defs raw) limit filter doc.ops 0
  intro j op hj
  have := measuredF_eq_depthK doc hu ha (effectiveVarsR (defs.getD (0 + j) []) raw) op (List.mem_of_getElem? hj)
    doc.budget (fuel_le_budget doc)
  simp only [depthFixedFB, this]
  rfl

/-- `flags_iff_final` for the frontier loop as written -/
theorem flags_iff_final_frontier (doc : Doc) (defs : List (List VarDefR)) (raw : RawVars)
    (hu : UniqueNames doc.frags) (ha : Acyclic doc.frags) (limit : Nat) (filter : Option String) :
    ∃ errs, ruleF limit filter doc defs raw = .ok errs ∧
      ∀ (i : Nat) (op : Op), doc.ops[i]? = some op →
        ((∃ d, (i, d) ∈ errs) ↔ (opSelected filter op = true ∧ depthRK doc defs raw i op > limit)) ∧
        (∀ d, (i, d) ∈ errs → d = some (depthRK doc defs raw i op)) := by
  rw [ruleF_eq_ruleB doc defs raw hu ha limit filter]
  exact flags_iff_final doc defs raw hu ha limit filter

private theorem frontierLevel_err (frags : List Frag) (vars : Vars) (b : Nat) : ∀ (fr : List (List Sel)) (e : Err),
    frontierLevel skipSelectionT b frags vars fr = .error e → e = .recursion
  | [], e, h => by simp [frontierLevel] at h
  | x :: rest, e, h => by
    simp only [frontierLevel] at h
    cases hc : collectFieldsUntypedG skipSelectionT b x frags vars [] with
    | error e' =>
      simp only [hc] at h
      cases h
      exact collectG_err frags vars _ _ _ _ hc
    | ok r =>
      obtain ⟨G, S'⟩ := r
      simp only [hc] at h
      cases hr : frontierLevel skipSelectionT b frags vars rest with
      | error e' =>
        simp only [hr] at h
        cases h
        exact frontierLevel_err frags vars b rest _ hr
      | ok q => obtain ⟨f, nxt⟩ := q; simp [hr] at h

private theorem nestingF_err (frags : List Frag) (vars : Vars) : ∀ (b lv : Nat) (fr : List (List Sel)) (e : Err),
    nestingLevelsF skipSelectionT frags vars b lv fr = .error e → e = .recursion := by
  intro b
  induction b with
  | zero =>
    intro lv fr e h
    cases fr with
    | nil => simp [nestingLevelsF] at h
    | cons x xs => simp [nestingLevelsF] at h; exact h.symm
  | succ b ih =>
    intro lv fr e h
    cases fr with
    | nil => simp [nestingLevelsF] at h
    | cons x xs =>
      simp only [nestingLevelsF] at h
      cases hl : frontierLevel skipSelectionT (b + 1) frags vars (x :: xs) with
      | error e' =>
        simp only [hl] at h
        cases h
        exact frontierLevel_err frags vars _ _ _ hl
      | ok q =>
        obtain ⟨f, nxt⟩ := q
        simp only [hl] at h
        cases f with
        | false => simp at h
        | true => exact ih _ _ e h

theorem depthFixedFB_total (budget : Nat) (op : Op) (frags : List Frag) (vars : Vars) :
    ∃ r, depthFixedFB budget op frags vars = .ok r :=
  depth_or_unbounded (nestingF_err frags vars budget 0 [op.sels])

/-- NO hypotheses: the rule with the loop as written returns a list of errors -/
theorem ruleF_never_raises (doc : Doc) (defs : List (List VarDefR)) (raw : RawVars) (limit : Nat)
    (filter : Option String) : ∃ errs, ruleF limit filter doc defs raw = .ok errs := by
  unfold ruleF
  exact ruleLoopB_total _ (fun i op => depthFixedFB_total _ _ _ _) limit filter doc.ops 0

example : depthFixedFG skipSelectionT docstringDoc.budget docstringOp docstringDoc.frags [] = .ok 4 := by decide +kernel

/-- a selected fragment cycle is reported as unbounded, not raised -/
example : ruleF 3 none cycSelf [[]] [] = .ok [(0, none)] := by decide +kernel

/-- an empty operation after `@skip`: `frontier = [selections]`, nothing found, depth 0 -/
example : ruleF 0 none ⟨[⟨none, [.field none "a" ⟨some (.lit true), none⟩ [.field none "c" {} []]]⟩], []⟩ [[]] [] = .ok [] := by
  decide +kernel

end PyGql.Props.C19
