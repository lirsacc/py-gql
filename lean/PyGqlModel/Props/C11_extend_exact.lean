/-
  C11 — the public `extend_schema` merges exactly what `build_schema` merges.

  `extend_eq_build`: let `base` be a document without extension blocks (it stands for the definitions the schema being
  extended was built from — the MERGED definitions, if that schema had extensions of its own), `live` the schema
  `build_schema` builds from it, and `B` a pure extension document (type extensions, `extend schema`, executable
  definitions).  Then `extend_schema(live, B, strict=False)` returns a schema iff `build_schema(base ++ B)` does, and it
  is the same schema.  With `build_exact_final` for `base ++ B` (`extend_exact`): it is exactly the content that `base`
  and `B` declare together — every extension block of `B` merged into its target in document order, every default
  evaluated in the extended types.  Strict mode: `extend_exact_strict_agrees`.
-/
import PyGqlModel.Props.C11_extend


namespace PyGql.Props.C11
open PyGql PyGql.Sdl PyGql.SdlSpec

/-- only type extensions, schema extensions and executable definitions -/
def PureExt (B : Doc) : Prop := typeDefs B = [] ∧ dirDefs B = [] ∧ schemaDefs B = []
/-- no extension block -/
def NoExt (base : Doc) : Prop := typeExts base = [] ∧ schemaExtensions base = []

theorem collect_pureExt : ∀ (B : Doc), PureExt B → ∀ acc, B.foldlM collectStep acc = .ok acc := by
  intro B
  induction B with
  | nil => intro _ acc; rfl
  | cons d ds ih =>
    intro h acc
    obtain ⟨h1, h2, h3⟩ := h
    -- a definition contradicts `PureExt`; anything else is passed over, and is in none of the three lists
    cases d with
    | type t => cases h1
    | directive t => cases h2
    | schema t => cases h3
    | ext e => exact ih ⟨h1, h2, h3⟩ acc
    | schemaExt e => exact ih ⟨h1, h2, h3⟩ acc
    | other => exact ih ⟨h1, h2, h3⟩ acc
theorem collectDefinitions_append (base B : Doc) (h : PureExt B) : collectDefinitions (base ++ B) = collectDefinitions base := by
  unfold collectDefinitions
  rw [List.foldlM_append]
  cases base.foldlM collectStep {} with
  | error e => rfl
  | ok c => simp only [bind, Except.bind]; exact collect_pureExt B h c

theorem directiveDefs_eq (doc : Doc) : directiveDefs doc = dirDefs doc := rfl

/-- a definition that is built (its name is not a specified one, no supplied type has it): `build_type` is `_build_<kind>_type` -/
theorem buildType_ok_inv (env : Env) (t : TypeDef) (o : Option TypeD) (hN : isDefaultName t.name = false)
    (hA : env.findAdditional t.name = none) (h : buildType env t = .ok o) : ∃ bt, buildTypeDef env t = .ok bt ∧ o = some bt := by
  unfold buildType at h
  rw [if_neg (Bool.eq_false_iff.mp hN), hA] at h
  obtain ⟨bt, hbt, h2⟩ := bind_ok _ _ _ h
  cases h2
  exact ⟨bt, hbt, rfl⟩

theorem buildCollected_knows (c : Collected) (env : Env) (live : Live) (h : buildCollected c [] = .ok (env, live)) :
    env = Env.of c.types [] ∧ (∀ t ∈ c.types, live.hasType t.name = true) ∧ (∀ d ∈ c.directives, live.hasDirective d.name = true) := by
  obtain ⟨dirs, built, henv, _, hdirs, hbuilt, _, _, _, htypes, hld⟩ := (Run.buildCollected_ok_iff c [] env live).mp h
  subst henv
  refine ⟨rfl, fun t ht => ?_, fun d hd => ?_⟩
  · rw [Live.hasType]
    by_cases hdn : isDefaultName t.name = true
    · rw [hdn, Bool.true_or]
    ·
      obtain ⟨r, hr, hb⟩ := all₂_mem_left _ _ _ (mapM_forall₂ _ _ _ hbuilt) t ht
      obtain ⟨bt, hbt, rfl⟩ := buildType_ok_inv _ t r (Bool.eq_false_iff.mpr hdn) rfl hb
      rw [htypes, Bool.or_eq_true, List.any_eq_true]
      exact Or.inr ⟨bt, List.mem_append_left _ (List.mem_filterMap.mpr ⟨some bt, hr, rfl⟩), beq_iff_eq.mpr (buildTypeDef_name _ _ _ hbt)⟩
  · have hn := mapM_names _ DirDef.name DirectiveD.name (buildDirective_name _) _ _ hdirs
    have : d.name ∈ dirs.map (·.name) := hn ▸ List.mem_map_of_mem hd
    obtain ⟨x, hx, hxn⟩ := List.mem_map.mp this
    rw [Live.hasDirective, hld, Bool.or_eq_true, List.any_eq_true]
    exact Or.inr ⟨x, hx, beq_iff_eq.mpr hxn⟩

private theorem typeExtensions_noext (live : Live) (doc : Doc) (h : typeExts doc = []) : typeExtensions live doc = [] := by
  rw [typeExtensions_eq_filter, h]; rfl

/-- **`extend_schema(build_schema(base), B, strict=False)` = `build_schema(base ++ B)`** for a pure extension document `B`:
    one returns a schema iff the other does, and it is the same schema. -/
theorem extend_eq_build (base B : Doc) (hb : NoExt base) (hB : PureExt B) (env : Env) (live : Live)
    (hbuild : buildIgnoringExtensions base [] = .ok (env, live)) (s : SchemaD) :
    build (base ++ B) = .ok s ↔
      ∃ r, extendSchemaPublic (typeDefs base) (directiveDefs base) live B false = .ok r ∧ toSchemaD r = s := by
  unfold buildIgnoringExtensions at hbuild
  obtain ⟨c, hc, hcol⟩ := bind_ok _ _ _ hbuild
  obtain ⟨hct, hcd⟩ := collect_exact base c hc
  obtain ⟨henv, hT, hD⟩ := buildCollected_knows c env live hcol
  -- `D`: the joint document; it has the definitions of `base` and the extension blocks of `B`
  have hcoll := collectDefinitions_append base B hB
  generalize hD' : base ++ B = D at hcoll ⊢
  have hdefs : typeDefs D = typeDefs base := by rw [← hD', typeDefs_append, hB.1, List.append_nil]
  have hdd : dirDefs D = dirDefs base := by rw [← hD', dirDefs_append, hB.2.1, List.append_nil]
  have hdirs : directiveDefs D = directiveDefs base := by rw [directiveDefs_eq, hdd, ← directiveDefs_eq]
  have hTD : ∀ t ∈ typeDefs D, live.hasType t.name = true := by
    intro t ht; rw [hdefs, ← hct] at ht; exact hT t ht
  have hDD : ∀ d ∈ dirDefs D, live.hasDirective d.name = true := by
    intro d hd; rw [hdd, ← hcd] at hd; exact hD d hd
  have hTB : ∀ t ∈ typeDefs B, live.hasType t.name = true := by intro t ht; rw [hB.1] at ht; cases ht
  have hDB : ∀ d ∈ dirDefs B, live.hasDirective d.name = true := by intro d hd; rw [hB.2.1] at hd; cases hd
  -- the public function reads the document through `_collect_extensions` only
  have hsame : extendSchemaPublic (typeDefs base) (directiveDefs base) live D false
      = extendSchemaPublic (typeDefs base) (directiveDefs base) live B false := by
    unfold extendSchemaPublic
    rw [collect_lax_self live D hTD hDD, collect_lax_self live B hTB hDB, ← hD',
      schemaExtensions_append, hb.2, List.nil_append, typeExtensions_append, typeExtensions_noext live base hb.1, List.nil_append]
  have hpub := fun r => extendSchema_is_public D live r hTD hDD
  rw [hdefs] at hpub
  rw [hdirs, hsame] at hpub
  have henv' : env = Env.of (typeDefs base) := by rw [henv, hct]
  -- `build D`: the same first pass, then the extension pass on the whole document
  have hfirst : buildIgnoringExtensions D [] = .ok (env, live) := by
    unfold buildIgnoringExtensions
    rw [hcoll, hc]
    exact hcol
  rw [Run.build_ok_iff, hfirst, henv']
  simp only [Run.ok_ok_iff, Prod.mk.injEq, Bool.false_eq_true, if_false, eq_comm (a := s)]
  exact ⟨fun ⟨_, _, ⟨rfl, rfl⟩, r, hr, hs⟩ => ⟨r, (hpub r).1 hr, hs⟩, fun ⟨r, hr, hs⟩ => ⟨_, _, ⟨rfl, rfl⟩, r, (hpub r).2 hr, hs⟩⟩

/-- if the concatenated document is valid (`SdlOK`), extending the schema built from `base` with `B`
    gives exactly the content `base` and `B` declare together -/
theorem extend_exact (base B : Doc) (hb : NoExt base) (hB : PureExt B) (env : Env) (live : Live)
    (hbuild : buildIgnoringExtensions base [] = .ok (env, live)) (d : SchemaD) (v : SdlOK (base ++ B) d) :
    ∃ r, extendSchemaPublic (typeDefs base) (directiveDefs base) live B false = .ok r ∧ toSchemaD r = d :=
  (extend_eq_build base B hb hB env live hbuild d).1 (build_exact_final _ _ v)

/-- … and when the strict call returns a schema at all, it is that one -/
theorem extend_exact_strict_agrees (base B : Doc) (hb : NoExt base) (hB : PureExt B) (env : Env) (live r : Live)
    (hbuild : buildIgnoringExtensions base [] = .ok (env, live)) (d : SchemaD) (v : SdlOK (base ++ B) d)
    (hs : extendSchemaPublic (typeDefs base) (directiveDefs base) live B true = .ok r) : toSchemaD r = d := by
  obtain ⟨r', hr', hd⟩ := extend_exact base B hb hB env live hbuild d v
  have := extend_strict_refines _ _ _ _ _ hs
  rw [this] at hr'
  cases hr'
  exact hd

/-! ### the function the correspondence runs (`buildThenExtend`, driver op `extend`) -/

private theorem map_mergeExt_nil (l : List TypeDef) : l.map (mergeExt []) = l := by
  induction l with
  | nil => rfl
  | cons t ts ih => simp only [List.map_cons, ih]; rfl

theorem buildThenExtend_noext (A B : Doc) (strict : Bool) (hA : NoExt A) (env : Env) (live : Live)
    (h : buildIgnoringExtensions A [] = .ok (env, live)) :
    buildThenExtend A B strict = .ok ((extendSchemaPublic (typeDefs A) (directiveDefs A) live B strict).map toSchemaD) := by
  unfold buildIgnoringExtensions at h
  obtain ⟨c, hc, hcol⟩ := bind_ok _ _ _ h
  obtain ⟨hct, hcd⟩ := collect_exact A c hc
  have hx : extendSchema env live A [] = .ok live := by
    unfold extendSchema
    simp [typeExtensions_noext live A hA.1, hA.2, pure, Except.pure]
  unfold buildThenExtend
  simp only [hc, hcol, hx, bind, Except.bind, pure, Except.pure, typeExtensions_noext live A hA.1, map_mergeExt_nil, hct, hcd]
  rfl

/-- **what the driver computes for `extend_schema(build_schema(A), B, strict=False)` is what it computes for
    `build_schema(A ++ B)`** (A without extension blocks, B a pure extension document) -/
theorem buildThenExtend_eq_build (A B : Doc) (hA : NoExt A) (hB : PureExt B) (env : Env) (live : Live)
    (h : buildIgnoringExtensions A [] = .ok (env, live)) (s : SchemaD) :
    buildThenExtend A B false = .ok (.ok s) ↔ build (A ++ B) = .ok s := by
  rw [buildThenExtend_noext A B false hA env live h, extend_eq_build A B hA hB env live h s]
  constructor
  · intro hh
    have := ok_inj hh
    cases hr : extendSchemaPublic (typeDefs A) (directiveDefs A) live B false with
    | error e => rw [hr] at this; cases this
    | ok r => rw [hr] at this; exact ⟨r, rfl, ok_inj this⟩
  · rintro ⟨r, hr, rfl⟩
    rw [hr]; rfl

def extBase : Doc := [.type exQuery, .type { kind := .enum, name := "E", values := [{ name := "A" }] },
  .type { kind := .object, name := "M", fields := [{ name := "m", type := .named "E" }] }]
def extB : Doc := [.ext exExt, .ext { kind := .enum, name := "E", values := [{ name := "B" }] }, .schemaExt { ops := [("mutation", "M")] }, .other]

example : NoExt extBase ∧ PureExt extB := by
  refine ⟨⟨rfl, rfl⟩, rfl, rfl, rfl⟩
private theorem extBase_builds : (buildIgnoringExtensions extBase []).toBool = true := by decide +kernel
example : (buildIgnoringExtensions extBase []).toBool = true := extBase_builds
theorem extBothDeclares : (Declared (extBase ++ extB)).isSome = true := by decide +kernel

theorem extBoth_ok : SdlOK (extBase ++ extB) ((Declared (extBase ++ extB)).get extBothDeclares) :=
  have ⟨uniqueTypes, uniqueDirectives, oneSchema, noBuiltinNames, extTargets, membersUnique, noThunkCycle, noEagerCycle,
      noSpecified, schemaOps, extOps, extOpsNew⟩ : _ ∧ _ ∧ _ ∧ _ ∧ _ ∧ _ ∧ _ ∧ _ ∧ _ ∧ _ ∧ _ ∧ _ := by decide +kernel
  { uniqueTypes, uniqueDirectives, oneSchema, noBuiltinNames, extTargets, declares := by simp,
    baseDefaults := baseDefaults_of_noDefaults _ (by decide +kernel) (by decide +kernel),
    selfDefaults := by
      intro t ht
      have hk : t.kind ≠ .input := by revert t; decide +kernel
      exact selfDefaults_of_kind _ _ t _ hk,
    membersUnique, noThunkCycle, noEagerCycle, noSpecified, schemaOps, extOps, extOpsNew }

/-- the schema built from the three definitions, extended with the three extension blocks, is the declared content of
    the six together (`Query` has the fields a, b; `E` the values A, B; the mutation root is `M`) -/
example : ∃ env live r, buildIgnoringExtensions extBase [] = .ok (env, live) ∧
    extendSchemaPublic (typeDefs extBase) (directiveDefs extBase) live extB false = .ok r ∧
    toSchemaD r = (Declared (extBase ++ extB)).get extBothDeclares := by
  cases h : buildIgnoringExtensions extBase [] with
  | error e => exact nomatch h ▸ extBase_builds
  | ok p =>
    obtain ⟨env, live⟩ := p
    obtain ⟨r, hr, hd⟩ := extend_exact extBase extB ⟨rfl, rfl⟩ ⟨rfl, rfl, rfl⟩ env live h _ extBoth_ok
    exact ⟨env, live, r, rfl, hr, hd⟩

end PyGql.Props.C11
