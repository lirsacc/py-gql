/-
  C06 - property theorems: the headline statements without `_partial`.

  The side conditions of the merge rule (`OverlapHyps`) follow (`Props/C06_overlap_hyps*.lean`) from
    * three COMPUTABLE checks on the document, `DocChecksStatic s d (computeRanks d)`: selection-set identities pairwise
      distinct (`wfIdsB`), no `__schema` / `__type` / `__typename` selection with a sub-selection (`noMetaSubsB`), the
      static rank check (`rankOkB`, fuel sufficiency). The driver `Driver/C06.lean` evaluates the three with every answer
      and `harness/corr/C06_model.py` counts them (a false `wfIdsB` on a parsed document is a correspondence failure;
      documents on which one of the other two is false are counted: the statements below do not apply to them);
    * the parser's guarantee that fragment names are not empty (`NamesNonEmpty`);
    * the schema condition `SchemaOutputs s` (= `SchemaWf.outputs` of `Props/C05_bridge.lean`, which is downstream of
      this file; computable: `schemaOutputsB`, reported by the driver with every request);
    * the CLAUSES of UniqueFragmentNames, NoFragmentCycles, ScalarLeafs, FragmentsOnCompositeTypes.
  The clauses are available on both sides of the verdict equivalence (from "all rules silent" through the theorems of
  those four rules, none of which needs a side condition of the merge rule), so for such documents and schemas

      `verdict_iff_all` :  (every rule visitor alone is silent)  ↔  (the clause of every one of the 26 rules holds)

  has no hypothesis left that a parsed document on a validated schema could fail, except the two counted ones
  (introspection sub-selections; nesting deeper than the rank bound ≈ 100 levels through spreads).
  These are the statements for the UN-memoised overlap search (the hypotheses of `rule_overlapping_fields_can_be_merged_iff_ranked`, bundle
  `DocOk`); the current ones, for the validator /repo runs, are `verdict_iff_all_memo` (`Props/C06_head_memo.lean`, bundle
  `DocOkM`: no rank check) and `verdictM_iff_spec` (`Props/C06_chain.lean`).
-/
import PyGqlModel.Props.C06_overlap_hyps_ranks
import PyGqlModel.Validate.WfSchema
import PyGqlModel.Props.C06_frags_reachable
namespace PyGql.Props.C06
open PyGql PyGql.Validate PyGql.Validate.Spec

/-- every field of the schema has an output type (`SchemaWf.outputs` of C05) -/
def SchemaOutputs (s : SchemaD) : Prop := ∀ T name fd, fieldOf s T name = some fd → isOutputTy s fd.type = true

theorem schemaOutputs_of_check (s : SchemaD) (h : schemaOutputsB s = true) : SchemaOutputs s := by
  intro T name fd hf
  unfold fieldOf at hf
  split at hf
  · cases hft : s.findType T with
    | none => rw [hft] at hf; cases hf
    | some t =>
      rw [hft] at hf
      have ht : t ∈ s.types := List.mem_of_find?_eq_some hft
      have hfd : fd ∈ t.fields := List.mem_of_find?_eq_some hf
      unfold schemaOutputsB at h
      rw [List.all_eq_true] at h
      have := h t ht
      rw [List.all_eq_true] at this
      exact this fd hfd
  · cases hf

/-- what the statements below assume of a document: the three static checks of the driver on the ranks it computes,
    and the parser's guarantee on fragment names -/
structure DocOk (s : SchemaD) (d : Doc) : Prop where
  checks : DocChecksStatic s d (computeRanks d)
  names : NamesNonEmpty d

/-- `OverlapHyps` from the clauses of the OTHER rules -/
theorem overlapHyps_of_clauses (s : SchemaD) (fx : Fixes) (hfx : HeadVars fx) (hs : SchemaOutputs s) (d : Doc)
    (hd : DocOk s d) (h : ∀ r ∈ Rule.all, r ≠ .overlappingFieldsCanBeMerged → SpecAll r s fx d) : OverlapHyps s fx d :=
  overlapHyps_of_wf_ranked s fx hfx.2.2.2 d _ hd.checks hd.names hs
    (h .uniqueFragmentNames (by decide) (by decide)) (h .noFragmentCycles (by decide) (by decide))
    (h .scalarLeafs (by decide) (by decide)) (h .fragmentsOnCompositeTypes (by decide) (by decide))

/-- accepted ⇒ valid by all 26 clauses (every rule visitor, run alone, silent - see `Silent` - ⇒ the clause of every rule
    holds), with the UN-memoised overlap search, which /repo does not run (the memoised one: `Props/C06_head_memo.lean`; the
    chain `validate_ast` runs, exception flag included: `chainM_accepted_spec_valid`, `Props/C06_chain.lean`) -/
theorem accepted_spec_valid_all (s : SchemaD) (fx : Fixes) (hfx : HeadVars fx) (hs : SchemaOutputs s) (d : Doc)
    (hd : DocOk s d) (h : ∀ r ∈ Rule.all, Silent s fx r d) : ∀ r ∈ Rule.all, SpecAll r s fx d := by
  have hnd : (Spec.fragNames d).Nodup := (rule_unique_fragment_names_iff s fx d).mp (h _ (by decide))
  have h25 : ∀ r ∈ Rule.all, r ≠ .overlappingFieldsCanBeMerged → SpecAll r s fx d := fun r hr ho =>
    (rule_iff_nonoverlap s fx hfx d hd.names hnd r (provedAll_complete r hr) ho).mp (h r hr)
  have hov := overlapHyps_of_clauses s fx hfx hs d hd h25
  intro r hr
  by_cases ho : r = .overlappingFieldsCanBeMerged
  · subst ho
    exact (rule_overlapping_fields_can_be_merged_iff_partial s fx hfx.2.2.2 d hov.1 hov.2.1 hov.2.2).mp (h _ hr)
  · exact h25 r hr ho

/-- on a schema whose fields have output types and a document that passes the driver's static checks, every rule visitor
    (run alone) is silent iff the clause of every rule holds. About the 26 ALONE runs, not about `verdict` (the chain:
    `Props/C06_chain.lean: verdict_iff_alone` reduces `verdict ⟨s, fx, Rule.all⟩ d = some true` to this, exception flag included) -/
theorem verdict_iff_all (s : SchemaD) (fx : Fixes) (hfx : HeadVars fx) (hs : SchemaOutputs s) (d : Doc) (hd : DocOk s d) :
    (∀ r ∈ Rule.all, Silent s fx r d) ↔ (∀ r ∈ Rule.all, SpecAll r s fx d) :=
  ⟨accepted_spec_valid_all s fx hfx hs d hd, spec_valid_accepted_all s fx hfx d hd.names⟩

/-- the same for the code of /repo HEAD -/
theorem verdict_iff_all_head (s : SchemaD) (hs : SchemaOutputs s) (d : Doc) (hd : DocOk s d) :
    (∀ r ∈ Rule.all, Silent s Fixes.all r d) ↔ (∀ r ∈ Rule.all, SpecAll r s Fixes.all d) :=
  verdict_iff_all s Fixes.all headVars_all hs d hd

/-- attribution over the 26 rules (on the rules run ALONE; see `attribution_partial`). NOTE: with `r = noFragmentCycles` the
    hypotheses are contradictory - `DocOk` contains the rank check `rankOkB`, which only acyclic documents pass, and `hothers`
    gives unique fragment names - so this theorem says nothing about fragment cycles; `attribution_all_memo` (`DocOkM`, no
    ranks) does: if the clause of exactly one
    rule `r` fails, `r` reports and no other rule does.
    ONE PAIR is excepted, visibly, in the conclusion: when the violated rule is UniqueFragmentNames, nothing is said
    about NoFragmentCycles - with two definitions of a fragment name the visitor records the spreads of one of them and
    `Spec.Reach` reads another, `rule_no_fragment_cycles_iff` is proved for unique names only. -/
theorem attribution_all (s : SchemaD) (fx : Fixes) (hfx : HeadVars fx) (hs : SchemaOutputs s) (d : Doc) (hd : DocOk s d)
    (r : Rule) (hr : r ∈ Rule.all) (hbad : ¬ SpecAll r s fx d)
    (hothers : ∀ r' ∈ Rule.all, r' ≠ r → SpecAll r' s fx d) :
    0 < E (alone s fx r d) ∧
      ∀ r' ∈ Rule.all, r' ≠ r → ¬ (r = .uniqueFragmentNames ∧ r' = .noFragmentCycles) → E (alone s fx r' d) = 0 := by
  have hpos : 0 < E (alone s fx r d) := by
    refine Nat.pos_of_ne_zero fun h0 => hbad ?_
    by_cases ho : r = .overlappingFieldsCanBeMerged
    · subst ho
      have hov := overlapHyps_of_clauses s fx hfx hs d hd hothers
      exact (rule_overlapping_fields_can_be_merged_iff_partial s fx hfx.2.2.2 d hov.1 hov.2.1 hov.2.2).mp h0
    · by_cases hu : r = .uniqueFragmentNames
      · subst hu
        exact (rule_unique_fragment_names_iff s fx d).mp h0
      · have hnd : (Spec.fragNames d).Nodup := hothers .uniqueFragmentNames (by decide) (fun e => hu e.symm)
        exact (rule_iff_nonoverlap s fx hfx d hd.names hnd r (provedAll_complete r hr) ho).mp h0
  refine ⟨hpos, fun r' hr' hdiff hex => ?_⟩
  by_cases ho : r' = .overlappingFieldsCanBeMerged
  · subst ho
    exact rule_overlapping_fields_can_be_merged_no_false_alarm_partial s fx hfx.2.2.2 d (hothers _ hr' hdiff)
  · by_cases hu : r = .uniqueFragmentNames
    · -- names are not unique: every rule except NoFragmentCycles has a theorem that does not need uniqueness
      subst hu
      have hc : r' ≠ .noFragmentCycles := fun e => hex ⟨rfl, e⟩
      exact (rule_iff_names_free s fx hfx d r' (provedAll_complete r' hr') hc ho).mpr (hothers r' hr' hdiff)
    · have hnd : (Spec.fragNames d).Nodup := hothers .uniqueFragmentNames (by decide) (fun e => hu e.symm)
      exact (rule_iff_nonoverlap s fx hfx d hd.names hnd r' (provedAll_complete r' hr') ho).mpr (hothers r' hr' hdiff)

/-- attribution without exception when the violated rule is not UniqueFragmentNames -/
theorem attribution_all_unique_names (s : SchemaD) (fx : Fixes) (hfx : HeadVars fx) (hs : SchemaOutputs s) (d : Doc)
    (hd : DocOk s d) (r : Rule) (hr : r ∈ Rule.all) (hru : r ≠ .uniqueFragmentNames) (hbad : ¬ SpecAll r s fx d)
    (hothers : ∀ r' ∈ Rule.all, r' ≠ r → SpecAll r' s fx d) :
    0 < E (alone s fx r d) ∧ ∀ r' ∈ Rule.all, r' ≠ r → E (alone s fx r' d) = 0 := by
  obtain ⟨h1, h2⟩ := attribution_all s fx hfx hs d hd r hr hbad hothers
  exact ⟨h1, fun r' hr' hdiff => h2 r' hr' hdiff (fun h => hru h.1)⟩


/-! ### with the clause of 5.5.1.4 itself for NoUnusedFragments

`SpecAll .noUnusedFragments` is the clause the visitor implements (`everyFragmentSpreadSomewhere`, ledger V6). In the
conjunction of all clauses it can be replaced by 5.5.1.4 proper (`Spec.noUnusedFragments`: every fragment is reachable
from an operation): the two agree when fragment names are unique and spreads acyclic
(`no_unused_fragments_spec_iff_implemented`, Props/C06_frags_reachable.lean), and both are among the clauses. -/

/-- the clauses with 5.5.1.4 as the specification states it -/
def SpecStd (r : Rule) (s : SchemaD) (fx : Fixes) (d : Doc) : Prop :=
  match r with
  | .noUnusedFragments => Spec.noUnusedFragments d
  | r => SpecAll r s fx d

theorem specStd_of_ne {r : Rule} (s : SchemaD) (fx : Fixes) (d : Doc) (h : r ≠ .noUnusedFragments) :
    SpecStd r s fx d = SpecAll r s fx d := by
  cases r <;> first | rfl | exact absurd rfl h

theorem specStd_all_iff (s : SchemaD) (fx : Fixes) (d : Doc) :
    (∀ r ∈ Rule.all, SpecStd r s fx d) ↔ (∀ r ∈ Rule.all, SpecAll r s fx d) := by
  constructor
  · intro h r hr
    by_cases hn : r = .noUnusedFragments
    · subst hn
      exact no_unused_implies_spread_somewhere d (h .noUnusedFragments hr)
    · rw [← specStd_of_ne s fx d hn]; exact h r hr
  · intro h r hr
    by_cases hn : r = .noUnusedFragments
    · subst hn
      exact spread_somewhere_implies_no_unused d (h .uniqueFragmentNames (by decide)) (h .noFragmentCycles (by decide))
        (h .noUnusedFragments hr)
    · rw [specStd_of_ne s fx d hn]; exact h r hr

/-- the equivalence for the 26 rules with 5.5.1.4 proper -/
theorem verdict_iff_all_std (s : SchemaD) (fx : Fixes) (hfx : HeadVars fx) (hs : SchemaOutputs s) (d : Doc) (hd : DocOk s d) :
    (∀ r ∈ Rule.all, Silent s fx r d) ↔ (∀ r ∈ Rule.all, SpecStd r s fx d) :=
  (verdict_iff_all s fx hfx hs d hd).trans (specStd_all_iff s fx d).symm

/-! non-vacuity: the hypotheses hold, by evaluation, on the example schema and documents of
    `Props/C06_overlap_examples.lean` -/
example : SchemaOutputs oSchema := schemaOutputs_of_check _ (by decide)
example : DocOk oSchema (oDocFrag "a") :=
  ⟨⟨by decide, by decide, by decide +kernel⟩, fun f hf => by
    simp only [Spec.fragNames, oDocFrag] at hf
    revert f; decide⟩

end PyGql.Props.C06
