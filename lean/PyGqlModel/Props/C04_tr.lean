/-
  C04 / C05: the executor model's `skipSelection` and `fragmentTypeApplies` (`PyGqlModel/Exec.lean`) EQUAL the definitions the
  translator derives on every run from `utilities/collect_fields.py` (`Generated/TrCollect.lean`), instantiated with the
  model's environment: `directive_arguments(D, node, variables)` is `dirIf vars dirs <name of D>`, the schema lookups are
  `kindOf` / `isAbstract` / `isPossibleType`, types are referred to by name.
-/
import PyGqlModel.Exec
import PyGqlModel.Lemmas.TrCollect

namespace PyGql.Props.C04
open PyGql PyGql.Exec PyGql.Generated

/-- `schema.get_type_from_literal(type_condition)` in the by-name model: the name itself if the schema knows it
    (`UnknownType` otherwise); it is never called with `None` (`_fragment_type_applies` returns before) -/
def getTypeFromLiteral (s : SchemaD) : Option String → R String
  | none => .error (.internal "AttributeError")
  | some c => match kindOf s c with
    | none => .error (.internal "UnknownType")
    | some _ => .ok c

/-- **`_skip_selection`: model = source.** -/
theorem skip_selection_model_eq_source (vars : Vars) (dirs : List Dir) :
    skipSelection vars dirs
      = Tr._skip_selection Fail.internal (fun name ds vs => dirIf vs ds name) dirs vars := by
  rw [Tr._skip_selection_eq]
  unfold skipSelection
  cases dirIf vars dirs "skip" with
  | error e => rfl
  | ok sk => cases dirIf vars dirs "include" <;> rfl

/-- **`_fragment_type_applies`: model = source.** -/
theorem fragment_type_applies_model_eq_source (s : SchemaD) (obj : String) (cond : Option String) :
    fragmentTypeApplies s obj cond
      = Tr._fragment_type_applies Fail.internal (getTypeFromLiteral s) (isAbstract s) (isPossibleType s) obj cond := by
  unfold fragmentTypeApplies Tr._fragment_type_applies getTypeFromLiteral
  cases cond with
  | none => rfl
  | some c =>
    simp only [Option.isSome_some, Bool.not_true, Bool.false_eq_true, if_false]
    cases kindOf s c <;> rfl

end PyGql.Props.C04
