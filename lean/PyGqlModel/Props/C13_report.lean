/-
  C13 — "reporting all violations together": the report of the validator is EXACTLY the set of
  violation instances of the schema (`SchemaValidSpec.Violation`, one constructor per rule).
-/
import PyGqlModel.SchemaValid
import PyGqlModel.Spec.SchemaValidSpec
import PyGqlModel.Props.C13

set_option linter.unusedSimpArgs false

namespace PyGql.Props.C13
open PyGql PyGql.SchemaValid PyGql.SchemaValidSpec

private theorem mem_checkValidName (n : String) (e : Err) :
    e ∈ checkValidName n ↔ isValidName n = false ∧ e = ⟨.invalidName, [n]⟩ := by
  unfold checkValidName
  cases isValidName n <;> simp

private theorem fx1 : Config.fixed.maskTypeName = false := rfl
private theorem fx2 : Config.fixed.maskDuplicate = false := rfl
private theorem fx3 : Config.fixed.maskImplType = false := rfl
private theorem fx4 : Config.fixed.preciseResolver = true := rfl
private theorem fx5 : Config.fixed.extraArgRequired = true := rfl
private theorem fx6 : Config.fixed.subscriptionChecked = true := rfl
private theorem fx7 : Config.fixed.ifaceResolverChecked = false := rfl
private theorem fx8 : Config.fixed.notCallableReported = true := rfl
private theorem fx9 : Config.fixed.defaultsChecked = true := rfl
private theorem fx10 : Config.fixed.enumNoneReported = true := rfl

private theorem mem_notInputErr (s : SchemaD) (r d : Rule) (o : String) (a : ArgD) (e : Err) :
    e ∈ notInputErr Config.fixed s r d o a ↔
      (isInputType s a.type = false ∧ e = ⟨r, [a.name, o, a.type.render]⟩) ∨
      (isInputType s a.type = true ∧ a.hasDefault = true ∧ defaultBad s defaultFuel a.type a.default = true ∧
        e = ⟨d, [a.name, o]⟩) := by
  unfold notInputErr defaultErr
  cases isInputType s a.type <;> cases a.hasDefault <;> cases defaultBad s defaultFuel a.type a.default <;> simp [fx9]

private theorem any_key_bool {α} (key : α → String) (pre : List α) (k : String) :
    (pre.any (fun y => true && key y == k) = true) ↔ k ∈ pre.map key := by
  simp only [Bool.true_and, List.any_eq_true, List.mem_map, beq_iff_eq]

private theorem mem_ifEmpty {α} (xs : List α) (err e : Err) :
    e ∈ (if xs.isEmpty then [err] else []) ↔ xs = [] ∧ e = err := by
  cases xs <;> simp

/-- The "name / duplicate / body" loop of arguments, fields and input fields: every element is examined for its
    name and its body, every later occurrence of a key is a duplicate as well. -/
private theorem mem_keyedLoop {α} (key : α → String) (nameErrs body : α → List Err) (dupErr : α → Err)
    (mask : Bool) (hm : mask = false) (xs : List α) (e : Err) :
    e ∈ forSeen key (fun x dup =>
        (nameErrs x ++ (if dup then [dupErr x] else []) ++ (if dup && mask then [] else body x), true)) xs [] ↔
      ∃ pre x, At xs pre x ∧ (e ∈ nameErrs x ∨ (key x ∈ pre.map key ∧ e = dupErr x) ∨ e ∈ body x) := by
  subst hm
  rw [mem_forSeen key _ (fun _ _ _ h => Bool.noConfusion h)]
  simp only [List.contains_iff_mem, Bool.and_false, Bool.false_eq_true, if_false, List.mem_append, or_assoc,
    List.mem_ite_nil_right, List.mem_singleton]

private theorem mem_validateArguments (s : SchemaD) (r1 r2 r3 : Rule) (owner : String) (args : List ArgD) (e : Err) :
    e ∈ validateArguments s r1 r2 r3 owner args ↔ ArgViol s r1 r2 r3 owner args e := by
  unfold validateArguments validateArgumentsWith
  simp only [mem_keyedLoop ArgD.name _ _ _ _ fx2, mem_checkValidName, mem_notInputErr]
  constructor
  · rintro ⟨pre, a, hat, ⟨hn, rfl⟩ | ⟨hm, rfl⟩ | ⟨hi, rfl⟩ | ⟨hi, hd, hb, rfl⟩⟩
    · exact .name hat hn
    · exact .dup hat hm
    · exact .notInput hat hi
    · exact .badDefault hat hi hd hb
  · intro h
    cases h with
    | @name pre a hat hn => exact ⟨pre, a, hat, .inl ⟨hn, rfl⟩⟩
    | @dup pre a hat hm => exact ⟨pre, a, hat, .inr (.inl ⟨hm, rfl⟩)⟩
    | @notInput pre a hat hi => exact ⟨pre, a, hat, .inr (.inr (.inl ⟨hi, rfl⟩))⟩
    | @badDefault pre a hat hi hd hb => exact ⟨pre, a, hat, .inr (.inr (.inr ⟨hi, hd, hb, rfl⟩))⟩

private theorem mem_ite_iff {α} (c : Prop) [Decidable c] (l m : List α) (e : α) :
    e ∈ (if c then l else m) ↔ (c ∧ e ∈ l) ∨ (¬ c ∧ e ∈ m) := by
  split <;> simp [*]

private theorem mem_resolverArgErr (path : String) (ps : List ParamD) (varKw : Bool) (a : ArgD) (e : Err) :
    e ∈ resolverArgErr path ps varKw a ↔
      (∃ p, keywordParam ps a.pythonName = some p ∧ p.hasDefault = false ∧ a.hasDefault = false ∧ argRequired a = false ∧
          e = ⟨.resNeedsDefault, [a.name, path]⟩) ∨
      (keywordParam ps a.pythonName = none ∧
        ((∃ cl, findParam ps a.pythonName = some cl ∧ (leadingNames ps).contains cl.name = true ∧ cl.kind = .posOrKw ∧
            e = ⟨.resCollides, [a.name, path]⟩) ∨
         (∃ cl, findParam ps a.pythonName = some cl ∧ ¬ ((leadingNames ps).contains cl.name = true ∧ cl.kind = .posOrKw) ∧
            cl.kind = .posOnly ∧ varKw = false ∧ e = ⟨.resPosOnly, [a.name, path]⟩) ∨
         ((∀ cl, findParam ps a.pythonName = some cl →
              ¬ ((leadingNames ps).contains cl.name = true ∧ cl.kind = .posOrKw) ∧ cl.kind ≠ .posOnly) ∧
            varKw = false ∧ e = ⟨.resMissingParam, [a.name, path]⟩))) := by
  unfold resolverArgErr
  cases keywordParam ps a.pythonName with
  | some p =>
    simp only [Bool.and_eq_true, Bool.not_eq_true', and_assoc, List.mem_ite_nil_right, List.mem_singleton,
      Option.some.injEq, exists_eq_left', reduceCtorEq, false_and, or_false]
  | none =>
    cases hf : findParam ps a.pythonName with
    | none =>
      simp only [Bool.not_eq_true', List.mem_ite_nil_right, List.mem_singleton, reduceCtorEq, false_and, exists_false,
        false_implies, implies_true, true_and, false_or]
    | some cl =>
      -- both sides become the same cascade of the three tests of the code
      simp only [mem_ite_iff, Bool.and_eq_true, Bool.not_eq_true', beq_iff_eq, List.mem_singleton, List.not_mem_nil,
        and_false, or_false, Option.some.injEq, forall_eq', exists_eq_left', reduceCtorEq, false_and, exists_false,
        false_or, true_and]
      by_cases hv : varKw = false <;> simp [hv, and_assoc, and_or_left]

private theorem mem_validateResolverArguments (path : String) (args : List ArgD) (r : ResolverD)
    (hc : r.callable = true) (hi : r.inspectable = true) (e : Err) :
    e ∈ validateResolverArguments path args r ↔ ResolverViol path args r e := by
  unfold validateResolverArguments validateResolverArgumentsWith resolverErrs
  simp only [hc, hi, Bool.not_true, Bool.false_eq_true, if_false, fx4, if_true, List.mem_append, List.mem_flatMap,
    mem_resolverArgErr]
  constructor
  · rintro ((h | ⟨a, ha, h⟩) | ⟨p, hp, h⟩)
    · split at h
      · rename_i hc
        simp only [List.mem_singleton] at h; subst h
        simp only [Bool.and_eq_true, Bool.not_eq_true', decide_eq_true_eq] at hc
        exact .positional hc.1 hc.2
      · simp at h
    · rcases h with ⟨p, h1, h2, h3, h4, rfl⟩ | ⟨hk, ⟨cl, h1, h2, h3, rfl⟩ | ⟨cl, h1, h2, h3, h4, rfl⟩ | ⟨h1, h2, rfl⟩⟩
      · exact .needsDefault ha h1 h2 h3 h4
      · exact .collides ha hk h1 h2 h3
      · exact .posOnly ha hk h1 h2 h3 h4
      · exact .missingParam ha hk h1 h2
    · cases hd : p.hasDefault with
      | true => rw [hd] at h; simp at h
      | false => rw [hd] at h; simp only [Bool.false_eq_true, if_false, List.mem_singleton] at h; subst h; exact .extraRequired hp hd
  · intro h
    cases h with
    | positional h1 h2 => exact Or.inl (Or.inl (by simp [h1, h2]))
    | @needsDefault a p ha h1 h2 h3 h4 => exact Or.inl (Or.inr ⟨a, ha, Or.inl ⟨p, h1, h2, h3, h4, rfl⟩⟩)
    | @collides a cl ha hk h1 h2 h3 => exact Or.inl (Or.inr ⟨a, ha, Or.inr ⟨hk, Or.inl ⟨cl, h1, h2, h3, rfl⟩⟩⟩)
    | @posOnly a cl ha hk h1 h2 h3 h4 => exact Or.inl (Or.inr ⟨a, ha, Or.inr ⟨hk, Or.inr (Or.inl ⟨cl, h1, h2, h3, h4, rfl⟩)⟩⟩)
    | @missingParam a ha hk h1 h2 => exact Or.inl (Or.inr ⟨a, ha, Or.inr ⟨hk, Or.inr (Or.inr ⟨h1, h2, rfl⟩)⟩⟩)
    | @extraRequired p hp hd => exact Or.inr ⟨p, hp, by simp [hd]⟩

private theorem mem_resolverPart (rv : Bool) (path : String) (args : List ArgD) (o : Option ResolverD) (e : Err) :
    e ∈ resolverPart Config.fixed rv path args o ↔
      ∃ r, o = some r ∧ rv = true ∧
        ((r.callable = false ∧ e = ⟨.resNotCallable, [path]⟩) ∨
         (r.callable = true ∧ r.inspectable = true ∧ ResolverViol path args r e)) := by
  unfold resolverPart
  cases o with
  | none => simp
  | some r =>
    cases rv with
    | false => simp
    | true =>
      cases hc : r.callable with
      | false => simp [validateResolverArgumentsWith, hc, fx8]
      | true =>
        cases hi : r.inspectable with
        | true =>
          have := mem_validateResolverArguments path args r hc hi e
          unfold validateResolverArguments at this
          simp [this, hi, hc]
        | false => simp [validateResolverArgumentsWith, hi, hc]

private theorem mem_resolversOfField (s : SchemaD) (rv : Bool) (t : TypeD) (f : FieldD) (e : Err) :
    e ∈ resolversOfField Config.fixed s rv t f ↔
      ∃ r, (pickResolver s t f = some r ∨ f.subscriptionResolver = some r) ∧ rv = true ∧
        ((r.callable = false ∧ e = ⟨.resNotCallable, [t.name ++ "." ++ f.name]⟩) ∨
         (r.callable = true ∧ r.inspectable = true ∧ ResolverViol (t.name ++ "." ++ f.name) f.args r e)) := by
  unfold resolversOfField
  simp only [List.mem_append, fx6, if_true, mem_resolverPart]
  constructor
  · rintro (⟨r, h1, h2⟩ | ⟨r, h1, h2⟩)
    · exact ⟨r, Or.inl h1, h2⟩
    · exact ⟨r, Or.inr h1, h2⟩
  · rintro ⟨r, h1 | h1, h2⟩
    · exact Or.inl ⟨r, h1, h2⟩
    · exact Or.inr ⟨r, h1, h2⟩

private theorem mem_fieldBody (s : SchemaD) (rv : Bool) (t : TypeD) (f : FieldD) (e : Err) :
    e ∈ fieldBody s rv t f ↔
      (isOutputType s f.type = false ∧ e = ⟨.fieldNotOutput, [f.name, t.name, f.type.render]⟩) ∨
      ArgViol s .dupArg .argNotInput .argDefault (t.name ++ "." ++ f.name) f.args e ∨
      (t.kind = .object ∧ ∃ r, (pickResolver s t f = some r ∨ f.subscriptionResolver = some r) ∧ rv = true ∧
        ((r.callable = false ∧ e = ⟨.resNotCallable, [t.name ++ "." ++ f.name]⟩) ∨
         (r.callable = true ∧ r.inspectable = true ∧ ResolverViol (t.name ++ "." ++ f.name) f.args r e))) := by
  have ha := mem_validateArguments s .dupArg .argNotInput .argDefault (t.name ++ "." ++ f.name) f.args e
  unfold validateArguments at ha
  unfold fieldBody fieldBodyWith
  simp only [List.mem_append, ha, fx7, Bool.or_false, or_assoc]
  refine or_congr ?_ (or_congr Iff.rfl ?_)
  · cases isOutputType s f.type <;> simp
  · by_cases hk : t.kind = .object
    · have hk' : (t.kind == Kind.object) = true := by simp [hk]
      simp only [hk', if_true, mem_resolversOfField]
      simp only [hk, true_and]
    · have hk' : (t.kind == Kind.object) = false := by simpa using hk
      simp [hk', hk]

private theorem mem_validateFields (s : SchemaD) (rv : Bool) (t : TypeD) (e : Err) :
    e ∈ validateFields s rv t ↔ (t.fields = [] ∧ e = ⟨.noFields, [t.name]⟩) ∨ FieldViol s rv t e := by
  have hb := mem_fieldBody s rv t
  unfold fieldBody at hb
  unfold validateFields validateFieldsWith
  simp only [List.mem_append, mem_ifEmpty, mem_keyedLoop FieldD.name _ _ _ _ fx2, mem_checkValidName, hb]
  refine or_congr Iff.rfl ⟨?_, ?_⟩
  · rintro ⟨pre, f, hat, ⟨hn, rfl⟩ | ⟨hm, rfl⟩ | ⟨ho, rfl⟩ | ha | ⟨hk, r, h1, h2, ⟨h3, rfl⟩ | ⟨h3, h4, h5⟩⟩⟩
    · exact .name hat hn
    · exact .dup hat hm
    · exact .notOutput hat ho
    · exact .arg hat ha
    · exact .notCallable hat hk h1 h2 h3
    · rcases h1 with h1 | h1
      · exact .resolver hat hk h1 h2 h3 h4 h5
      · exact .subscription hat hk h1 h2 h3 h4 h5
  · intro h
    cases h with
    | @name pre f hat hn => exact ⟨pre, f, hat, .inl ⟨hn, rfl⟩⟩
    | @dup pre f hat hm => exact ⟨pre, f, hat, .inr (.inl ⟨hm, rfl⟩)⟩
    | @notOutput pre f hat ho => exact ⟨pre, f, hat, .inr (.inr (.inl ⟨ho, rfl⟩))⟩
    | @arg pre f e hat ha => exact ⟨pre, f, hat, .inr (.inr (.inr (.inl ha)))⟩
    | @resolver pre f r e hat hk h1 h2 h3 h4 h5 =>
      exact ⟨pre, f, hat, .inr (.inr (.inr (.inr ⟨hk, r, .inl h1, h2, .inr ⟨h3, h4, h5⟩⟩)))⟩
    | @subscription pre f r e hat hk h1 h2 h3 h4 h5 =>
      exact ⟨pre, f, hat, .inr (.inr (.inr (.inr ⟨hk, r, .inr h1, h2, .inr ⟨h3, h4, h5⟩⟩)))⟩
    | @notCallable pre f r hat hk h1 h2 h3 =>
      exact ⟨pre, f, hat, .inr (.inr (.inr (.inr ⟨hk, r, h1, h2, .inl ⟨h3, rfl⟩⟩)))⟩

private theorem mem_ifaceArgErr (ip op : String) (o : FieldD) (a : ArgD) (e : Err) :
    e ∈ ifaceArgErr ip op o a ↔
      (argMap o a.name = none ∧ e = ⟨.ifaceArgMissing, [ip, a.name, op]⟩) ∨
      (∃ oa, argMap o a.name = some oa ∧ a.type ≠ oa.type ∧
        e = ⟨.ifaceArgType, [ip, a.name, a.type.render, op, a.name, oa.type.render]⟩) := by
  unfold ifaceArgErr
  cases argMap o a.name with
  | none => simp
  | some oa => by_cases h : a.type = oa.type <;> simp [h]

private theorem mem_extraArgErr (ip op : String) (f : FieldD) (a : ArgD) (e : Err) :
    e ∈ extraArgErr ip op f a ↔
      (argMap f a.name = none ∧ argRequired a = true ∧ e = ⟨.extraRequiredArg, [op, a.name, a.type.render, ip]⟩) := by
  unfold extraArgErr extraArgErrWith extraArgBlocks
  cases argMap f a.name with
  | none => cases argRequired a <;> simp [fx5]
  | some _ => simp

private theorem mem_validateImplementation (s : SchemaD) (t it : TypeD) (e : Err) :
    e ∈ validateImplementation s t it ↔ ImplViol s t it e := by
  have hx := mem_extraArgErr
  unfold extraArgErr at hx
  unfold validateImplementation validateImplementationWith
  simp only [List.mem_flatMap]
  constructor
  · rintro ⟨f, hf, h⟩
    unfold implFieldErrWith at h
    cases hm : fieldMap t f.name with
    | none => rw [hm] at h; simp only [List.mem_singleton] at h; subst h; exact .fieldMissing hf hm
    | some o =>
      rw [hm] at h
      simp only [fx3, Bool.and_false, Bool.false_eq_true, if_false, List.mem_append, implArgErrsWith, List.mem_flatMap,
        mem_ifaceArgErr, hx] at h
      rcases h with h | ⟨a, ha, ⟨h1, rfl⟩ | ⟨oa, h1, h2, rfl⟩⟩ | ⟨a, ha, h1, h2, rfl⟩
      · cases hs : isSubtype s o.type f.type with
        | false =>
          rw [hs] at h; simp only [Bool.not_false, if_true, List.mem_singleton] at h; subst h
          exact .fieldType hf hm (fun hsub => by rw [(subtype_iff s _ _).2 hsub] at hs; exact absurd hs (by simp))
        | true => rw [hs] at h; simp at h
      · exact .argMissing hf hm ha h1
      · exact .argType hf hm ha h1 h2
      · exact .extraRequired hf hm ha h1 h2
  · intro h
    cases h with
    | @fieldMissing f hf hm => exact ⟨f, hf, by simp [implFieldErrWith, hm]⟩
    | @fieldType f o hf hm hns =>
      refine ⟨f, hf, ?_⟩
      have : isSubtype s o.type f.type = false := by
        cases hs : isSubtype s o.type f.type with
        | false => rfl
        | true => exact absurd ((subtype_iff s _ _).1 hs) hns
      simp [implFieldErrWith, hm, this]
    | @argMissing f o a hf hm ha h1 =>
      refine ⟨f, hf, ?_⟩
      simp only [implFieldErrWith, hm, fx3, Bool.and_false, Bool.false_eq_true, if_false, List.mem_append, implArgErrsWith,
        List.mem_flatMap, mem_ifaceArgErr, hx]
      exact Or.inr (Or.inl ⟨a, ha, Or.inl ⟨h1, rfl⟩⟩)
    | @argType f o a oa hf hm ha h1 h2 =>
      refine ⟨f, hf, ?_⟩
      simp only [implFieldErrWith, hm, fx3, Bool.and_false, Bool.false_eq_true, if_false, List.mem_append, implArgErrsWith,
        List.mem_flatMap, mem_ifaceArgErr, hx]
      exact Or.inr (Or.inl ⟨a, ha, Or.inr ⟨oa, h1, h2, rfl⟩⟩)
    | @extraRequired f o a hf hm ha h1 h2 =>
      refine ⟨f, hf, ?_⟩
      simp only [implFieldErrWith, hm, fx3, Bool.and_false, Bool.false_eq_true, if_false, List.mem_append, implArgErrsWith,
        List.mem_flatMap, mem_ifaceArgErr, hx]
      exact Or.inr (Or.inr ⟨a, ha, h1, h2, rfl⟩)

private theorem mem_interfaceStep (s : SchemaD) (t : TypeD) (i : String) (dup : Bool) (e : Err) :
    e ∈ (interfaceStepWith Config.fixed s t i dup).1 ↔
      (isIface s i = false ∧ e = ⟨.notInterface, [t.name, i]⟩) ∨
      (isIface s i = true ∧ dup = true ∧ e = ⟨.dupInterface, [t.name, i]⟩) ∨
      (∃ it, s.findType i = some it ∧ it.kind = .interface ∧ dup = false ∧ e ∈ validateImplementation s t it) := by
  unfold interfaceStepWith isIface
  cases s.findType i with
  | none => simp
  | some it =>
    by_cases hk : it.kind = .interface
    · cases dup <;> simp [hk]
    · simp [hk]

private theorem mem_validateInterfaces (s : SchemaD) (t : TypeD) (e : Err) :
    e ∈ validateInterfaces s t ↔ IfaceViol s t e := by
  have hv := mem_validateImplementation s t
  unfold validateInterfaces validateInterfacesWith
  rw [mem_forSeen id (interfaceStepWith Config.fixed s t)]
  · simp only [mem_interfaceStep, hv, id, List.map_id, List.contains_eq_mem, decide_eq_true_eq, decide_eq_false_iff_not]
    constructor
    · rintro ⟨pre, i, hat, ⟨hn, rfl⟩ | ⟨hi, hd, rfl⟩ | ⟨it, hf, hk, hd, h⟩⟩
      · exact .notInterface hat hn
      · exact .dup hat hi hd
      · exact .impl hat hf hk hd h
    · intro h
      cases h with
      | @notInterface pre i hat hn => exact ⟨pre, i, hat, .inl ⟨hn, rfl⟩⟩
      | @dup pre i hat hi hd => exact ⟨pre, i, hat, .inr (.inl ⟨hi, hd, rfl⟩)⟩
      | @impl pre i it e hat hf hk hd h => exact ⟨pre, i, hat, .inr (.inr ⟨it, hf, hk, hd, h⟩)⟩
  · exact interfaceStep_keep _ s t

private theorem mem_memberStep (s : SchemaD) (t : TypeD) (m : String) (dup : Bool) (e : Err) :
    e ∈ (memberStep s t m dup).1 ↔
      (kindOf s m ≠ some .object ∧ e = ⟨.unionMemberNotObject, [t.name, m]⟩) ∨
      (kindOf s m = some .object ∧ dup = true ∧ e = ⟨.unionDup, [t.name, m]⟩) := by
  unfold memberStep
  by_cases hk : kindOf s m = some .object
  · cases dup <;> simp [hk]
  · simp [hk]
private theorem mem_validateUnionMembers (s : SchemaD) (t : TypeD) (e : Err) :
    e ∈ validateUnionMembers s t ↔ UnionViol s t e := by
  unfold validateUnionMembers
  rw [List.mem_append, mem_ifEmpty, mem_forSeen id (memberStep s t)]
  · simp only [mem_memberStep, id, List.map_id, List.contains_eq_mem, decide_eq_true_eq]
    constructor
    · rintro (⟨hm, rfl⟩ | ⟨pre, m, hat, ⟨hk, rfl⟩ | ⟨hk, hd, rfl⟩⟩)
      · exact .empty hm
      · exact .notObject hat hk
      · exact .dup hat hk hd
    · intro h
      cases h with
      | empty hm => exact .inl ⟨hm, rfl⟩
      | @notObject pre m hat hk => exact .inr ⟨pre, m, hat, .inl ⟨hk, rfl⟩⟩
      | @dup pre m hat hk hd => exact .inr ⟨pre, m, hat, .inr ⟨hk, hd, rfl⟩⟩
  · exact memberStep_keep s t

private theorem mem_validateEnumValues (t : TypeD) (e : Err) : e ∈ validateEnumValues t ↔ EnumViol t e := by
  unfold validateEnumValues validateEnumValuesWith
  simp only [List.mem_append, List.mem_flatMap, mem_checkValidName, fx10, Bool.true_and]
  constructor
  · rintro (h | ⟨v, hv, ⟨hn, rfl⟩ | h⟩)
    · cases hm : t.values with
      | nil => rw [hm] at h; simp only [List.isEmpty_nil, if_true, List.mem_singleton] at h; subst h; exact .empty hm
      | cons a as => rw [hm] at h; simp at h
    · exact .name hv hn
    · cases hb : isNone v.value with
      | false => rw [hb] at h; simp at h
      | true => rw [hb] at h; simp only [if_true, List.mem_singleton] at h; subst h; exact .noneValue hv hb
  · intro h
    cases h with
    | empty hm => exact Or.inl (by simp [hm])
    | @name v hv hn => exact Or.inr ⟨v, hv, Or.inl ⟨hn, rfl⟩⟩
    | @noneValue v hv hb => exact Or.inr ⟨v, hv, Or.inr (by simp [hb])⟩

/-- the loop over input fields is the argument loop, with its own three rules -/
private theorem mem_validateInputFields (s : SchemaD) (t : TypeD) (e : Err) :
    e ∈ validateInputFields s t ↔ InputViol s t e := by
  have ha := mem_validateArguments s .dupField .inputFieldNotInput .inputFieldDefault t.name t.inputFields e
  unfold validateArguments validateArgumentsWith at ha
  unfold validateInputFields validateInputFieldsWith
  rw [List.mem_append, mem_ifEmpty, ha]
  constructor
  · rintro (⟨hm, rfl⟩ | h)
    · exact .empty hm
    · cases h with
      | name hat hn => exact .name hat hn
      | dup hat hm => exact .dup hat hm
      | notInput hat hi => exact .notInput hat hi
      | badDefault hat hi hd hb => exact .badDefault hat hi hd hb
  · intro h
    cases h with
    | empty hm => exact .inl ⟨hm, rfl⟩
    | name hat hn => exact .inr (.name hat hn)
    | dup hat hm => exact .inr (.dup hat hm)
    | notInput hat hi => exact .inr (.notInput hat hi)
    | badDefault hat hi hd hb => exact .inr (.badDefault hat hi hd hb)

private theorem mem_typeBody (s : SchemaD) (rv : Bool) (t : TypeD) (e : Err) :
    e ∈ typeBodyWith Config.fixed s rv t ↔
      ((t.kind = .object ∨ t.kind = .interface) ∧ ((t.fields = [] ∧ e = ⟨.noFields, [t.name]⟩) ∨ FieldViol s rv t e)) ∨
      (t.kind = .object ∧ IfaceViol s t e) ∨ (t.kind = .union ∧ UnionViol s t e) ∨
      (t.kind = .enum ∧ EnumViol t e) ∨ (t.kind = .input ∧ InputViol s t e) := by
  have h1 := mem_validateFields s rv t e
  have h2 := mem_validateInterfaces s t e
  have h3 := mem_validateInputFields s t e
  unfold validateFields at h1; unfold validateInterfaces at h2; unfold validateInputFields at h3
  unfold typeBodyWith
  have h4 := mem_validateEnumValues t e
  unfold validateEnumValues at h4
  cases hk : t.kind <;> simp [h1, h2, h3, h4, mem_validateUnionMembers]

private theorem mem_validateType (s : SchemaD) (rv : Bool) (t : TypeD) (e : Err) :
    e ∈ validateType s rv t ↔ TypeViol s rv t e := by
  unfold validateType validateTypeWith typeNameErr
  simp only [fx1, Bool.and_false, Bool.false_eq_true, if_false, List.mem_append, mem_typeBody]
  constructor
  · rintro (h | ⟨hk, ⟨hf, rfl⟩ | h⟩ | ⟨hk, h⟩ | ⟨hk, h⟩ | ⟨hk, h⟩ | ⟨hk, h⟩)
    · cases hx : (t.builtin || isValidName t.name) with
      | true => rw [hx] at h; simp at h
      | false => rw [hx] at h; simp only [Bool.false_eq_true, if_false, List.mem_singleton] at h; subst h; exact .typeName hx
    · exact .noFields hk hf
    · exact .field hk h
    · exact .iface hk h
    · exact .union hk h
    · exact .enum hk h
    · exact .input hk h
  · intro h
    cases h with
    | typeName hx => exact Or.inl (by simp [hx])
    | noFields hk hf => exact Or.inr (Or.inl ⟨hk, Or.inl ⟨hf, rfl⟩⟩)
    | field hk h => exact Or.inr (Or.inl ⟨hk, Or.inr h⟩)
    | iface hk h => exact Or.inr (Or.inr (Or.inl ⟨hk, h⟩))
    | union hk h => exact Or.inr (Or.inr (Or.inr (Or.inl ⟨hk, h⟩)))
    | enum hk h => exact Or.inr (Or.inr (Or.inr (Or.inr (Or.inl ⟨hk, h⟩))))
    | input hk h => exact Or.inr (Or.inr (Or.inr (Or.inr (Or.inr ⟨hk, h⟩))))

private theorem mem_rootErr (s : SchemaD) (r : Rule) (o : Option String) (e : Err) :
    e ∈ rootErr s r o ↔ ∃ n, o = some n ∧ kindOf s n ≠ some .object ∧ e = ⟨r, [n]⟩ := by
  unfold rootErr
  cases o with
  | none => simp
  | some n => by_cases h : kindOf s n = some .object <;> simp [h]

private theorem mem_validateRootTypes (s : SchemaD) (e : Err) : e ∈ validateRootTypes s ↔ RootViol s e := by
  unfold validateRootTypes
  simp only [List.mem_append, mem_rootErr]
  constructor
  · rintro (((h | ⟨n, h1, h2, rfl⟩) | ⟨n, h1, h2, rfl⟩) | ⟨n, h1, h2, rfl⟩)
    · cases hq : s.query with
      | none => rw [hq] at h; simp only [Option.isNone_none, if_true, List.mem_singleton] at h; subst h; exact .noQuery hq
      | some q => rw [hq] at h; simp at h
    · exact .query h1 h2
    · exact .mutation h1 h2
    · exact .subscription h1 h2
  · intro h
    cases h with
    | noQuery hq => exact Or.inl (Or.inl (Or.inl (by simp [hq])))
    | @query n h1 h2 => exact Or.inl (Or.inl (Or.inr ⟨n, h1, h2, rfl⟩))
    | @mutation n h1 h2 => exact Or.inl (Or.inr ⟨n, h1, h2, rfl⟩)
    | @subscription n h1 h2 => exact Or.inr ⟨n, h1, h2, rfl⟩

private theorem mem_validateDirectives (s : SchemaD) (e : Err) : e ∈ validateDirectives s ↔ DirViol s e := by
  have ha := mem_validateArguments s .dirDupArg .dirArgNotInput .dirArgDefault
  unfold validateArguments at ha
  unfold validateDirectives validateDirectivesWith
  simp only [List.mem_flatMap, List.mem_append, mem_checkValidName, ha]
  constructor
  · rintro ⟨d, hd, ⟨hn, rfl⟩ | h⟩
    · exact .name hd hn
    · exact .arg hd h
  · intro h
    cases h with
    | @name d hd hn => exact ⟨d, hd, Or.inl ⟨hn, rfl⟩⟩
    | @arg d e hd ha => exact ⟨d, hd, Or.inr ha⟩

/-- **All violations together, literally.** An error is in the report of `SchemaValidator` if and only if
    it is the error of a violation instance of the schema (`Violation`: one constructor per rule, each
    naming the position that breaks the rule). In particular every violated rule instance has its own
    error, whatever else is wrong with the schema, and nothing else is reported. -/
theorem violation_iff (s : SchemaD) (rv : Bool) (e : Err) : e ∈ validate s rv ↔ Violation s rv e := by
  have h1 := mem_validateType s rv
  have h2 := mem_validateDirectives s e
  unfold validateType at h1; unfold validateDirectives at h2
  rw [validate_eq]
  unfold validateFixed validateWith
  simp only [List.mem_append, List.mem_flatMap, mem_validateRootTypes, h1, h2]
  constructor
  · rintro ((h | ⟨t, ht, h⟩) | h)
    · exact .root h
    · exact .type ht h
    · exact .directive h
  · intro h
    cases h with
    | root h => exact Or.inl (Or.inl h)
    | @type t e ht h => exact Or.inl (Or.inr ⟨t, ht, h⟩)
    | directive h => exact Or.inr h

/-- every violated rule instance is reported (the direction the property states) -/
theorem reports_every_violation (s : SchemaD) (rv : Bool) (e : Err) (h : Violation s rv e) : e ∈ validate s rv :=
  (violation_iff s rv e).2 h

theorem valid_iff_no_violation (s : SchemaD) (rv : Bool) : ValidSchema s rv ↔ ∀ e, ¬ Violation s rv e := by
  rw [← validate_iff]
  constructor
  · intro h e hv; have := (violation_iff s rv e).2 hv; rw [h] at this; exact absurd this (by simp)
  · intro h
    cases hv : validate s rv with
    | nil => rfl
    | cons e es => exact absurd ((violation_iff s rv e).1 (by rw [hv]; exact List.mem_cons_self ..)) (h e)

/-! ### with the `continue`s that fixes C13-H4-H5-H6 took out (`Config.maskTypeName`, `Config.maskDuplicate`), NOT every
    violation is reported -/

private def lInt : TypeD := { kind := .scalar, name := "Int", builtin := true }
private def lBadType : TypeD := { kind := .object, name := "Bad-Name" }
private def lQ : TypeD := { kind := .object, name := "Query", fields := [{ name := "a", type := .named "Bad-Name" }] }
private def lSchema : SchemaD := { types := [lInt, lQ, lBadType] }
private def lMasked : Config := { Config.fixed with maskTypeName := true }

/-- `maskTypeName`: with the `continue` after "Invalid type name", the empty type `Bad-Name` only gets the
    name error: the violation instance "must define at least one field" is not reported. -/
theorem legacy_type_name_masks :
    Violation lSchema true ⟨.noFields, ["Bad-Name"]⟩ ∧ (⟨.noFields, ["Bad-Name"]⟩ : Err) ∉ validateWith lMasked lSchema true := by
  refine ⟨.type (t := lBadType) (by simp [lSchema]) (.noFields (Or.inl rfl) rfl), by decide +kernel⟩

private def lF1 : FieldD := { name := "a", type := .named "Int" }
private def lF2 : FieldD := { name := "a", type := .named "In" }
private def lDupQ : TypeD := { kind := .object, name := "Query", fields := [lF1, lF2] }
private def lIn : TypeD := { kind := .input, name := "In", inputFields := [{ name := "i", type := .named "Int" }] }
private def lSchema2 : SchemaD := { types := [lInt, lIn, lDupQ] }

/-- `maskDuplicate`: with the `continue` after a duplicate, a repeated field is reported as a duplicate only; its own
    input/output-position violation is withheld. -/
theorem legacy_duplicate_masks :
    Violation lSchema2 true ⟨.fieldNotOutput, ["a", "Query", "In"]⟩ ∧
      (⟨.fieldNotOutput, ["a", "Query", "In"]⟩ : Err) ∉ validateWith { Config.fixed with maskDuplicate := true } lSchema2 true := by
  refine ⟨.type (t := lDupQ) (by simp [lSchema2])
    (.field (Or.inl rfl) (.notOutput (pre := [lF1]) (f := lF2) ⟨[], rfl⟩ (by decide))), by decide +kernel⟩

/-! ### non-vacuity: three violations of three different rules in one schema, each with its own error -/

private def exInt' : TypeD := { kind := .scalar, name := "Int", builtin := true }
private def exBadF : FieldD := { name := "__a", type := .named "Int" }
private def exQ : TypeD := { kind := .object, name := "Query", fields := [{ name := "a", type := .named "Int" }, exBadF] }
private def exU : TypeD := { kind := .union, name := "U", members := ["Query", "Int", "Query"] }
private def exBad : SchemaD := { types := [exInt', exQ, exU] }

example : Violation exBad true ⟨.invalidName, ["__a"]⟩ :=
  .type (t := exQ) (by simp [exBad]) (.field (Or.inl rfl)
    (.name (pre := [{ name := "a", type := .named "Int" }]) (f := exBadF) ⟨[], rfl⟩ (by decide)))
example : Violation exBad true ⟨.unionMemberNotObject, ["U", "Int"]⟩ :=
  .type (t := exU) (by simp [exBad]) (.union rfl (.notObject (pre := ["Query"]) ⟨["Query"], rfl⟩ (by decide)))
example : Violation exBad true ⟨.unionDup, ["U", "Query"]⟩ :=
  .type (t := exU) (by simp [exBad]) (.union rfl (.dup (pre := ["Query", "Int"]) ⟨[], rfl⟩ (by decide) (by decide)))
example : (validate exBad true).map (·.rule) = [.invalidName, .unionMemberNotObject, .unionDup] := by decide +kernel

end PyGql.Props.C13
