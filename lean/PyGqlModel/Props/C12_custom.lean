/-
  C12 at TEXT level WITH APPLIED SCHEMA DIRECTIVES (`include_custom_schema_directives` = `True` or a whitelist).

  `SdlPrintTA.printSchemaTA` is the total `Text` model of `ASTSchemaPrinter` including `print_directives` at every position
  (schema block, the six kinds of types, fields, arguments, input fields, enum values, directive arguments), compared on
  every run with the real printer and with the first model (`corr/C12_text.py`, driver op `printTA`).
  `printedDocA` is the document the text denotes (applied directives after `@deprecated`, the `schema` block also when only
  a directive node forces it), `printTextWFA` = `printTextWF` + every PRINTED application consists of lexemes.

  PROVED, in full: `print_schema_text_parses_custom` — for every option set, every schema (lists in any order), every
  assignment of directive nodes to schema elements, `printTextWFA` ⟹ the printed text is accepted by lexer and parser and
  parses to the tree of `printedDocA` — including the quirk that an element whose nodes are all filtered out prints a lone
  space (`type T  {`, `scalar S `, an otherwise implied `schema  {…}` block).  Custom directive DEFINITIONS are part of
  `print_schema_text_parses`; this theorem adds their applications.
  COMPOSED: `text_roundtrip_custom` — the parsed document, its applied custom directives erased (`eraseCustom`), is the
  document of the directive-free printer (with the `schema` block also when only a directive node forces it) and builds to
  the schema (`print_build_roundtrip_block`); hypotheses `printTextWFA` and `printBuildWF s` only.
  WITHOUT ERASURE (`Props/C12_custom_build.lean`): `print_build_roundtrip_custom` — `build (schemaToDocA s c apps) = ok s`,
  since every environment-reading function of the builder model (`value_from_ast`, the thunk guard, `build_*`) agrees
  under "same definitions up to custom applications" — and `text_roundtrip_custom_build`, the text-level round trip whose
  built document is the parsed one.  `build doc = build (doc.map eraseCustom)` for ARBITRARY documents (extensions included,
  `BuildIgnoresCustomStatement`) is proved in `Props/C12_erase_all.lean`; it is also evaluated by the driver on every printed document.

  The property theorems of this file: `print_schema_text_parses_custom`, `text_roundtrip_custom`.  Re-exports of a `Lemmas/`
  statement under the name the documents use: `print_schema_text_parses_custom_ordered` (= `SdlText.parse_printSchemaTA_full`),
  `printSchemaTA_order_independent` (= `printSchemaTA_printOrder`), `custom_directives_erased` (= `erase_schemaToDocA`),
  `printSchemaTA_conservative` (= `printSchemaTA_off`).  Steps: `erased_eq_schemaToDocB`, `keepP_never_specified`; example fact:
  `shopApps_textWF_other`.
-/
import PyGqlModel.Lemmas.SdlTextAErase
import PyGqlModel.Props.C12_text
namespace PyGql.Props.C12
open PyGql PyGql.Ast PyGql.Sdl PyGql.SdlPrint PyGql.SdlText

def PrintSchemaTextParsesCustomStatement : Prop :=
  ∀ (c : SdlPrintTA.OptsA) (s : SchemaD) (apps : Apps), SdlPrintTA.printTextWFA c s apps = true →
    parseSdlTextT (SdlPrintTA.printSchemaTA c s apps) = docToAst (SdlPrintTA.printedDocA s c apps)

theorem print_schema_text_parses_custom_ordered (c : SdlPrintTA.OptsA) (s : SchemaD) (apps : Apps) (hs : InPrintOrder s)
    (hwf : SdlPrintTA.printTextWFA c s apps = true) :
    parseSdlTextT (SdlPrintTA.printSchemaTA c s apps) = docToAst (SdlPrintTA.schemaToDocA s c apps) :=
  parse_printSchemaTA_full c s apps hs hwf

theorem printSchemaTA_order_independent (c : SdlPrintTA.OptsA) (s : SchemaD) (apps : Apps) (h : namesUnique s = true) :
    SdlPrintTA.printSchemaTA c (printOrder s) apps = SdlPrintTA.printSchemaTA c s apps := printSchemaTA_printOrder c s apps h

theorem print_schema_text_parses_custom : PrintSchemaTextParsesCustomStatement := by
  intro c s apps hwf
  have hu := namesUnique_of_wfA c s apps hwf
  rw [← printSchemaTA_printOrder c s apps hu]
  exact parse_printSchemaTA_full c (printOrder s) apps (inPrintOrder_printOrder s hu)
    (by rw [printTextWFA_printOrder c s apps hu]; exact hwf)

/-- erasing the applied custom directives from the denoted document gives the document of the directive-free printer, with
    the `schema` block under the directive printer's condition -/
theorem custom_directives_erased (s : SchemaD) (c : SdlPrintTA.OptsA) (apps : Apps) :
    (SdlPrintTA.schemaToDocA s c apps).map SdlPrintTA.eraseCustom =
      (if SdlPrintTA.needsSchemaBlockA s c apps then [.schema { ops := rootOps s }] else []) ++
      s.directives.map (fun d => .directive (directiveToDef s d)) ++ s.types.map (fun t => .type (typeToDef s t)) :=
  erase_schemaToDocA s c apps

/-- the text-level round trip with applied directives: the text parses to the tree of a document whose erasure builds to
    the schema (lists in printing order) -/
def TextRoundtripCustom (c : SdlPrintTA.OptsA) (s : SchemaD) (apps : Apps) : Prop :=
  ∃ (d : Document) (doc : Doc), parseSdlTextT (SdlPrintTA.printSchemaTA c s apps) = some d ∧ docToAst doc = some d ∧
    doc = SdlPrintTA.printedDocA s c apps ∧ build (doc.map SdlPrintTA.eraseCustom) = .ok (printOrder s)

theorem erased_eq_schemaToDocB (s : SchemaD) (c : SdlPrintTA.OptsA) (apps : Apps) :
    (SdlPrintTA.schemaToDocA s c apps).map SdlPrintTA.eraseCustom = schemaToDocB s (!(SdlPrintTA.nodesAt c apps "").isEmpty) := by
  rw [erase_schemaToDocA]; rfl

/-- hypotheses on `s`, `apps` only: the lexical predicate and the structural predicate of `print_build_roundtrip`.  A
    `schema` block written ONLY because of a schema-level directive node names the implied roots explicitly and builds the
    same schema (`print_build_roundtrip_block`). -/
theorem text_roundtrip_custom (c : SdlPrintTA.OptsA) (s : SchemaD) (apps : Apps) (hwf : SdlPrintTA.printTextWFA c s apps = true)
    (hb : printBuildWF s = true) : TextRoundtripCustom c s apps := by
  have hd := docToAst_schemaToDocA (printOrder s) c apps
  refine ⟨_, SdlPrintTA.printedDocA s c apps, ?_, hd, rfl, ?_⟩
  · rw [print_schema_text_parses_custom c s apps hwf]; exact hd
  · have he : (SdlPrintTA.printedDocA s c apps).map SdlPrintTA.eraseCustom =
        schemaToDocB (printOrder s) (!(SdlPrintTA.nodesAt c apps "").isEmpty) := erased_eq_schemaToDocB (printOrder s) c apps
    rw [he]; exact print_build_roundtrip_block _ _ (printBuildWF_printOrder s hb)

/-- `@deprecated`, `@skip`, `@include` are never printed as custom directives (fix H1 state) -/
theorem keepP_never_specified (wl : Option (List String)) (d : DirApp) (h : specifiedDirectives.contains d.name = true) :
    SdlPrintTA.keepP wl d = false := by
  simp only [SdlPrintTA.keepP, h, Bool.not_true, Bool.false_and]

/-! ### non-vacuity -/

/-- applications at every kind of site of `plainShop`: the schema block, types of four kinds, a field next to `@deprecated`,
    an argument, an input field with a list-valued argument, an enum value, a directive argument -/
def shopApps : Apps :=
  [("", [{ name := "tag", args := [("name", .str "schema \"s\"")] }]),
   ("Item", [{ name := "tag" }, { name := "other", args := [("xs", .list [.int "1" "1.0", .int "2" "2.0"]), ("flag", .bool true)] }]),
   ("Item.name", [{ name := "deprecated" }, { name := "tag", args := [("e", .enum "RED"), ("o", .obj [("k", .null)])] }]),
   ("Item.name.upper", [{ name := "tag" }]),
   ("Filter", [{ name := "other" }]),
   ("Filter.tags", [{ name := "tag", args := [("f", .float "1.5" "1.5")] }]),
   ("Color", [{ name := "tag" }]),
   ("Color.GREEN", [{ name := "deprecated", args := [("reason", .str "old")] }, { name := "other" }]),
   ("Thing", [{ name := "tag" }]),
   ("Node", [{ name := "other" }]),
   ("@tag.name", [{ name := "other" }])]

private theorem shopApps_textWF : SdlPrintTA.printTextWFA {} plainShop shopApps = true :=
  printTextWFA_of _ _ _ plainShop_textWF (by decide +kernel)
example : SdlPrintTA.printTextWFA {} plainShop shopApps = true := shopApps_textWF
example : TextRoundtripCustom {} plainShop shopApps := text_roundtrip_custom {} plainShop shopApps shopApps_textWF plainShop_wf
theorem shopApps_textWF_other : SdlPrintTA.printTextWFA { whitelist := some ["other"] } plainShop shopApps = true :=
  printTextWFA_of _ _ _ plainShop_textWF (by decide +kernel)
/-- a whitelist: `@other` only — `Item.name` and `Color`, `Thing` print the lone space of the quirk -/
example : TextRoundtripCustom { whitelist := some ["other"] } plainShop shopApps :=
  text_roundtrip_custom _ plainShop shopApps shopApps_textWF_other plainShop_wf
/-- tab indentation, a whitelist that keeps nothing -/
example : TextRoundtripCustom { base := { indent := [9] }, whitelist := some ["nope"] } plainShop shopApps :=
  text_roundtrip_custom _ plainShop shopApps (by decide +kernel) plainShop_wf
/-- `shop` (not in printing order, descriptions, defaults) with applications; its roots are implied and the schema-level
    node forces the block: the round trip holds through `print_build_roundtrip_block` -/
example : TextRoundtripCustom {} shop [("", [{ name := "tag" }]), ("Query", [{ name := "tag" }])] :=
  text_roundtrip_custom {} shop _ (printTextWFA_of _ _ _ shop_textWF (by decide +kernel)) shop_wf
example : SdlPrintTA.needsSchemaBlockA shop {} [("", [{ name := "tag" }])] ≠ needsSchemaBlock shop := by decide +kernel
example : build (schemaToDocB shop true) = .ok shop := print_build_roundtrip_block shop true shop_wf

/-- with a falsy `include_custom_schema_directives` the model with directives prints exactly what the directive-free model
    `printSchemaT` prints: `print_schema_text_parses` is the `custom = false` instance -/
theorem printSchemaTA_conservative (c : SdlPrintTA.OptsA) (hc : c.custom = false) (s : SchemaD) (apps : Apps) :
    SdlPrintTA.printSchemaTA c s apps = SdlPrintT.printSchemaT c.base s := printSchemaTA_off hc s apps

example : SdlPrintTA.printSchemaTA { custom := false } plainShop shopApps = SdlPrintT.printSchemaT {} plainShop :=
  printSchemaTA_conservative _ rfl _ _

/-- the quirk, as text: nodes present but none printed ⇒ a lone space -/
example : SdlPrintTA.printType plainShop { whitelist := some ["nope"] } shopApps
    { kind := .scalar, name := "Item" } = SdlPrintT.T "scalar Item " := by decide +kernel

end PyGql.Props.C12
