/-
  C19 — the level-merged `_nesting_levels` of fix C19-H3 (in /repo: 52984c0) measures what the recursive measure does.
  `Depth.nestingLevelsM` / `nestingLevelsMG` (DepthMerged.lean) model the loop after C19-H3.patch: one list of selections per
  level. With consistent fragment weights the strict loop returns `levels so far + canonical levels of the selections`
  (`nestingLevelsM_ok`), the value of the recursive `nestingLevels`; with the tolerant hook it is the strict loop on the erased
  document; so the rule with the merged loop reports exactly what `ruleB` reports (`ruleM_eq_ruleB`:
  `flags_iff_final` carries over), and it never raises: on cyclic documents the only failure of the loop is the exhausted
  budget, reported as "unbounded".
-/
import PyGqlModel.Lemmas.DepthLevels
import PyGqlModel.Props.C19_orig

namespace PyGql.Props.C19
open PyGql.Depth PyGql.DepthSpec PyGql.Depth.Lemmas

section
variable (frags : List Frag) (vars : Vars) (w : String → Nat)

theorem cL_nextSelections (P : Fld → Prop) : ∀ (G : Grouped), GInv P G → G ≠ [] →
    1 + cL frags vars w (nextSelections G) = gMax (fLv frags vars w) G :=
  fun G hg hne => gMax_fLv frags vars w G (fun kv h => (hg kv h).1) hne

theorem nestingLevelsM_ok (hc : Consistent frags w) (hfb : ∀ f ∈ frags, boundL vars f.sels = true) :
    ∀ (K : Nat) (sels : List Sel) (lv : Nat), potL w sels ≤ K → boundL vars sels = true →
      nestingLevelsM frags vars (K + 1) lv sels = .ok (lv + cL frags vars w sels) := by
  -- one level, given what the loop does on the next level's selections with one unit of budget less
  have step : ∀ K, (∀ G lv', GInv (FldOk vars w K) G → G ≠ [] →
        nestingLevelsM frags vars K lv' (nextSelections G) = .ok (lv' + cL frags vars w (nextSelections G))) →
      ∀ sels lv, potL w sels ≤ K → boundL vars sels = true →
        nestingLevelsM frags vars (K + 1) lv sels = .ok (lv + cL frags vars w sels) := by
    intro K next sels lv hp hb
    cases sels with
    | nil => simp [nestingLevelsM, cL_nil]
    | cons s ss =>
      obtain ⟨G, S', e, hcl, c4⟩ := collect_top frags vars w hc hfb K (s :: ss) hp hb
      simp only [nestingLevelsM, e]
      cases G with
      | nil => rw [hcl]; rfl
      | cons kv G' =>
        simp only []
        rw [next _ (lv + 1) c4 (List.cons_ne_nil _ _), hcl,
          ← cL_nextSelections frags vars w _ (kv :: G') c4 (List.cons_ne_nil _ _), Nat.add_assoc]
  intro K
  induction K with
  | zero =>
    -- no field fits a budget of 0
    refine step 0 fun G lv' hG hne => ?_
    obtain ⟨kv, G', rfl⟩ := List.exists_cons_of_ne_nil hne
    have hh := hG kv (List.mem_cons_self ..)
    obtain ⟨f, fs, hf⟩ := List.exists_cons_of_ne_nil hh.1
    exact absurd (hh.2 f (by simp [hf])).1 (Nat.not_succ_le_zero _)
  | succ K ih =>
    exact step (K + 1) fun G lv' hG hne =>
      have ⟨h1, h2⟩ := next_ok vars w (K + 1) G hG hne
      ih (nextSelections G) lv' (Nat.le_of_succ_le_succ h1) h2

/-- same value as the recursive measure -/
theorem merged_eq_recursive (hc : Consistent frags w) (hfb : ∀ f ∈ frags, boundL vars f.sels = true)
    (K : Nat) (sels : List Sel) (hp : potL w sels ≤ K) (hb : boundL vars sels = true) :
    nestingLevelsM frags vars (K + 1) 0 sels = nestingLevels (K + 1) sels frags vars := by
  rw [nestingLevelsM_ok frags vars w hc hfb K sels 0 hp hb, nestingLevels_ok frags vars w hc hfb K sels hp hb]
  simp

end

section
variable {L : List Sel → List Sel} {e : Dirs → Dirs} (hL : L = mapDirsL e)
  {v : Vars} {skipA : Dirs → Vars → Except Err Bool} (hsk : ∀ d, skipA d v = skipSelection (e d) v)
include hL

private theorem nextSelections_map (G : Grouped) : nextSelections (mapG L G) = L (nextSelections G) := by
  induction G with
  | nil => subst hL; rfl
  | cons kv rest ih =>
    have hg : mapG L (kv :: rest) = (kv.1, kv.2.map (mapFld L)) :: mapG L rest := rfl
    rw [hg]
    simp only [nextSelections, List.flatMap_cons] at ih ⊢
    rw [flatMap_sub_map hL, ih]
    subst hL
    exact (mapDirsL_append e _ _).symm

include hsk

theorem nestingLevelsM_map (frags : List Frag) : ∀ (b lv : Nat) (sels : List Sel),
    nestingLevelsM (mapFrags L frags) v b lv (L sels) = nestingLevelsMG skipA frags v b lv sels := by
  have hcons : ∀ s ss, L (s :: ss) = mapDirsSel e s :: L ss := by subst hL; exact fun _ _ => rfl
  have hnil : L [] = [] := by subst hL; rfl
  intro b
  induction b with
  | zero =>
    intro lv sels
    cases sels with
    | nil => rw [hnil]; rfl
    | cons s ss => rw [hcons]; rfl
  | succ b ih =>
    intro lv sels
    cases sels with
    | nil => rw [hnil]; rfl
    | cons s ss =>
      have hc := collect_mapDirs hL hsk frags (b + 1) (s :: ss) []
      rw [hcons] at hc ⊢
      simp only [nestingLevelsM, nestingLevelsMG, hc]
      cases collectFieldsUntypedG skipA (b + 1) (s :: ss) frags v [] with
      | error err => rfl
      | ok r =>
        obtain ⟨G, S'⟩ := r
        cases G with
        | nil => rfl
        | cons kv G' =>
          have hg : mapG L (kv :: G') = (kv.1, kv.2.map (mapFld L)) :: mapG L G' := rfl
          simp only [mapSt, hg]
          rw [← hg, nextSelections_map hL, ih]

theorem depthFixedMG_eq_G (he : ∀ d, dirsBound v (e d) = true) (doc : Doc) (hu : UniqueNames doc.frags)
    (ha : Acyclic doc.frags) (op : Op) (hop : op ∈ doc.ops) (fuel : Nat) (hfuel : doc.fuel ≤ fuel) :
    depthFixedMG skipA fuel op doc.frags v = depthFixedG skipA fuel op doc.frags v := by
  obtain ⟨K, rfl, hc, hfb, hp, hb⟩ := map_env hL he doc hu ha op hop fuel hfuel
  have hM := merged_eq_recursive (mapFrags L doc.frags) v _ hc hfb K (L op.sels) hp hb
  rw [nestingLevelsM_map hL hsk, nestingLevels_mapDirs hL hsk] at hM
  unfold depthFixedMG depthFixedG
  rw [hM]
  rfl

end

theorem nestingLevelsM_sim (v : Vars) (frags : List Frag) : ∀ (b lv : Nat) (sels : List Sel),
    nestingLevelsM (eraseFrags v frags) v b lv (eraseL v sels) = nestingLevelsMG skipSelectionT frags v b lv sels :=
  nestingLevelsM_map (eraseL_mapDirs v) (skipT_eq v) frags

/-- unique, acyclic fragments, ANY request variables, any budget ≥ the fuel of the document (the
    rule's budget is: `fuel_le_budget`): the merged loop measures `depthK` -/
theorem measuredM_eq_depthK (doc : Doc) (hu : UniqueNames doc.frags) (ha : Acyclic doc.frags) (v : Vars)
    (op : Op) (hop : op ∈ doc.ops) (fuel : Nat) (hfuel : doc.fuel ≤ fuel) :
    depthFixedMG skipSelectionT fuel op doc.frags v = .ok (depthK doc v op) := by
  rw [depthFixedMG_eq_G (eraseL_mapDirs v) (skipT_eq v) (dirsBound_erase v) doc hu ha op hop fuel hfuel]
  exact measuredT_eq_depthK doc hu ha v op hop fuel hfuel

/-- on documents with unique, acyclic fragments the rule with the level-merged loop (C19-H3) returns
    exactly what `ruleB` returns, for every limit, filter and request variables -/
theorem ruleM_eq_ruleB (doc : Doc) (defs : List (List VarDefR)) (raw : RawVars)
    (hu : UniqueNames doc.frags) (ha : Acyclic doc.frags) (limit : Nat) (filter : Option String) :
    ruleM limit filter doc defs raw = ruleB limit filter doc defs raw := by
  rw [ruleB_eq_expected doc defs raw hu ha limit filter]
  unfold ruleM
  apply ruleLoopB_of_some _ (depthRK doc defs raw) limit filter doc.ops 0
  intro j op hj
  have := measuredM_eq_depthK doc hu ha (effectiveVarsR (defs.getD (0 + j) []) raw) op (List.mem_of_getElem? hj)
    doc.budget (fuel_le_budget doc)
  simp only [depthFixedMB, this]
  rfl

/-- `flags_iff_final` for the rule after C19-H3 -/
theorem flags_iff_final_merged (doc : Doc) (defs : List (List VarDefR)) (raw : RawVars)
    (hu : UniqueNames doc.frags) (ha : Acyclic doc.frags) (limit : Nat) (filter : Option String) :
    ∃ errs, ruleM limit filter doc defs raw = .ok errs ∧
      ∀ (i : Nat) (op : Op), doc.ops[i]? = some op →
        ((∃ d, (i, d) ∈ errs) ↔ (opSelected filter op = true ∧ depthRK doc defs raw i op > limit)) ∧
        (∀ d, (i, d) ∈ errs → d = some (depthRK doc defs raw i op)) := by
  rw [ruleM_eq_ruleB doc defs raw hu ha limit filter]
  exact flags_iff_final doc defs raw hu ha limit filter

private theorem nestingMG_err (frags : List Frag) (vars : Vars) : ∀ (b lv : Nat) (sels : List Sel) (e : Err),
    nestingLevelsMG skipSelectionT frags vars b lv sels = .error e → e = .recursion := by
  intro b
  induction b with
  | zero =>
    intro lv sels e h
    cases sels with
    | nil => simp [nestingLevelsMG] at h
    | cons s ss => simp [nestingLevelsMG] at h; exact h.symm
  | succ b ih =>
    intro lv sels e h
    cases sels with
    | nil => simp [nestingLevelsMG] at h
    | cons s ss =>
      simp only [nestingLevelsMG] at h
      cases hc : collectFieldsUntypedG skipSelectionT (b + 1) (s :: ss) frags vars [] with
      | error e' =>
        simp only [hc] at h
        cases h
        exact collectG_err frags vars _ _ _ _ hc
      | ok r =>
        obtain ⟨G, S'⟩ := r
        simp only [hc] at h
        cases G with
        | nil => simp at h
        | cons kv G' => exact ih _ _ e h

theorem depthFixedMB_total (budget : Nat) (op : Op) (frags : List Frag) (vars : Vars) :
    ∃ r, depthFixedMB budget op frags vars = .ok r :=
  depth_or_unbounded (nestingMG_err frags vars budget 0 op.sels)

/-- NO hypotheses (cyclic fragments, duplicate names, any JSON variables): the rule with the
    level-merged loop returns a list of errors -/
theorem ruleM_never_raises (doc : Doc) (defs : List (List VarDefR)) (raw : RawVars) (limit : Nat)
    (filter : Option String) : ∃ errs, ruleM limit filter doc defs raw = .ok errs := by
  unfold ruleM
  exact ruleLoopB_total _ (fun i op => depthFixedMB_total _ _ _ _) limit filter doc.ops 0

/-- the docstring example measures 4 with the merged loop too -/
example : depthFixedMG skipSelectionT docstringDoc.budget docstringOp docstringDoc.frags [] = .ok 4 := by decide +kernel

/-- key merging across levels (`p: a {…} q: a {…}`): same verdict as `ruleB` -/
private def mergeDoc : Doc :=
  ⟨[⟨none, [.spread "F01" {}]⟩],
   [⟨"F01", [.field (some "p") "a" {} [.spread "F12" {}], .field (some "q") "a" {} [.spread "F12" {}, .spread "F11" {}]]⟩,
    ⟨"F11", [.field none "c" {} []]⟩, ⟨"F12", [.field none "c" {} []]⟩]⟩

example : ruleM 0 none mergeDoc [[]] [] = .ok [(0, some 1)] ∧ ruleB 0 none mergeDoc [[]] [] = .ok [(0, some 1)] := by
  decide +kernel

/-- a selected fragment cycle is reported as unbounded, not raised -/
example : ruleM 3 none cycSelf [[]] [] = .ok [(0, none)] := by decide +kernel

/-- hypotheses of `flags_iff_final_merged` on `mergeDoc` -/
example : UniqueNames mergeDoc.frags ∧ Acyclic mergeDoc.frags :=
  ⟨by unfold UniqueNames; decide +kernel, acyclic_sound _ (by decide +kernel)⟩

end PyGql.Props.C19
