/-
  C05 — the SCHEMA hypotheses of the soundness chain from computable checks (`Spec/SchemaChecks.lean`), which the driver
  evaluates on every schema of every request: `SchemaOk`, `SchemaWf`, `RootsAreObjects` (C05) and `TypesWf` (C04's
  `null_error_bijection`) hold whenever `schemaChecksB s = true`. With them `accepted_cannot_go_wrong_checked` has no
  schema hypothesis left that is not evaluated at run time.
-/
import PyGqlModel.Props.C05_bridge
import PyGqlModel.Props.C04_nulls
import PyGqlModel.Props.C06_head
import PyGqlModel.Spec.SchemaChecks

set_option linter.unusedSimpArgs false

namespace PyGql.Props.C05
open PyGql PyGql.Exec PyGql.Spec

private theorem findType_name (s : SchemaD) (n : String) (t : TypeD) (h : s.findType n = some t) : t.name = n ∧ t ∈ s.types := by
  unfold SchemaD.findType at h
  exact ⟨by simpa using List.find?_some h, List.mem_of_find?_eq_some h⟩

private theorem fieldOf_mem (s : SchemaD) (T f : String) (fd : FieldD) (h : fieldOf s T f = some fd) :
    ∃ t, t ∈ s.types ∧ t.name = T ∧ fd ∈ t.fields ∧ fd.name = f := by
  unfold fieldOf at h
  cases ht : s.findType T with
  | none => simp [ht] at h
  | some t =>
    simp only [ht] at h
    obtain ⟨hn, hm⟩ := findType_name s T t ht
    exact ⟨t, hm, hn, List.mem_of_find?_eq_some h, by simpa using List.find?_some h⟩

private theorem under_of_B (s : SchemaD) (rt T : String) (h : underB s rt T = true) : Under s rt T := by
  unfold underB at h
  simp only [Bool.or_eq_true, beq_iff_eq] at h
  exact h

private theorem subUnder_sound (s : SchemaD) (B' B : String) (h : subUnderB s B' B = true) :
    ∀ rt, Under s rt B' → Under s rt B := by
  unfold subUnderB at h
  simp only [Bool.and_eq_true, List.all_eq_true] at h
  intro rt hrt
  rcases hrt with rfl | hp
  · exact under_of_B s _ _ h.1
  · have : rt ∈ possibleTypes s B' := by
      unfold isPossibleType at hp
      simp only [Bool.and_eq_true] at hp
      simpa using hp.2
    exact under_of_B s _ _ (h.2 rt this)

theorem schemaOk_of_checks (s : SchemaD) (hk : schemaKindsB s = true) (hc : schemaCovB s = true) : SchemaOk s where
  cov := by
    intro I O f fd hp hf
    obtain ⟨t, ht, hn, hfd, hfn⟩ := fieldOf_mem s I f fd hf
    have hO : O ∈ possibleTypes s I := by
      unfold isPossibleType at hp
      simp only [Bool.and_eq_true] at hp
      simpa using hp.2
    unfold schemaCovB at hc
    simp only [List.all_eq_true] at hc
    have := hc t ht O (by rw [hn]; exact hO) fd hfd
    rw [hfn] at this
    cases hO' : fieldOf s O f with
    | none => simp [hO'] at this
    | some fd' =>
      simp only [hO'] at this
      exact ⟨fd', rfl, subUnder_sound s _ _ this⟩
  kinds := by
    intro T f fd hf
    obtain ⟨t, ht, _, hfd, _⟩ := fieldOf_mem s T f fd hf
    unfold schemaKindsB at hk
    simp only [List.all_eq_true] at hk
    have := hk t ht fd hfd
    cases hkk : kindOf s fd.type.base with
    | none => simp [hkk] at this
    | some k => exact ⟨k, rfl, by simpa [hkk] using this⟩

theorem rootsAreObjects_of_check (s : SchemaD) (h : rootsObjectsB s = true) : RootsAreObjects s := by
  intro k r hr
  unfold rootsObjectsB at h
  simp only [List.all_cons, List.all_nil, Bool.and_true, Bool.and_eq_true] at h
  unfold Exec.rootType at hr
  split at hr
  · have := h.1; simpa [hr] using this
  · split at hr
    · have := h.2.1; simpa [hr] using this
    · split at hr
      · have := h.2.2; simpa [hr] using this
      · cases hr

theorem schemaWf_of_checks (s : SchemaD) (ho : Validate.schemaOutputsB s = true) (hs : Validate.isLeaf s "String" = true) : SchemaWf s :=
  ⟨C06.schemaOutputs_of_check s ho, hs⟩

theorem typesWf_of_check (s : SchemaD) (h : typesWfB s = true) : C04.TypesWf s := by
  intro parent name fd hf
  obtain ⟨t, ht, _, hfd, _⟩ := fieldOf_mem s parent name fd hf
  unfold typesWfB at h
  simp only [List.all_eq_true] at h
  exact h t ht fd hfd

theorem schemaChecks_sound (s : SchemaD) (h : schemaChecksB s = true) : SchemaWf s ∧ SchemaOk s ∧ RootsAreObjects s := by
  unfold schemaChecksB at h
  simp only [Bool.and_eq_true] at h
  obtain ⟨⟨⟨⟨⟨hk, hc⟩, hr⟩, ho⟩, hs⟩, _⟩ := h
  exact ⟨schemaWf_of_checks s ho hs, schemaOk_of_checks s hk hc, rootsAreObjects_of_check s hr⟩

/-- `accepted_cannot_go_wrong` with the three schema hypotheses replaced by ONE
    computable check that the driver evaluates on the schema of every request (`schema_checks` in its answers; the
    harness reports a generated schema on which it is false as a correspondence failure). -/
theorem accepted_cannot_go_wrong_checked (s : SchemaD) (hchk : schemaChecksB s = true)
    (fx : Validate.Fixes) (hv11 : fx.v11 = true) (env : Exec.ArgEnv) (d : Validate.Doc) (vars : Exec.Vars)
    (hacc : ∀ r ∈ Validate.Rule.all, C06.Silent s fx r d)
    (hne : ∀ f ∈ Validate.Spec.fragNames d, f ≠ "") (hni : NoIntrospection s d) (hm : MergeSafe s (eDoc s env d))
    (w : Exec.World) (hw : WorldTyped s w) :
    ∀ (op : Option String) (fuel cf : Nat) (cls : String), Exec.execute s (eDoc s env d) vars w op fuel cf ≠ .failed (.internal cls) := by
  obtain ⟨hwf, hok, hro⟩ := schemaChecks_sound s hchk
  exact accepted_cannot_go_wrong s hwf hok hro fx hv11 env d vars hacc hne hni hm w hw

/-- non-vacuity: the bridge's example schema (with a root) passes all checks -/
example : schemaChecksB brSchemaQ = true := by decide +kernel

end PyGql.Props.C05
