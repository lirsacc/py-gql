/-
  C03 (document part): printing a parsed tree and parsing the text again is the identity.

  `print c t` is the MODEL of `ASTPrinter(indent, include_descriptions)(t)` (`Print.lean`, tied to the code by the
  correspondence of corr/C03_print.py: text → Lean lexer → Lean parser → Lean printer  vs  `print_ast(parse(text))`,
  exact strings); the lexer is `Lex.lexAll`, the parser `Parse.parseType / parseValue / parseDocument` with the
  theorems of C01.  "Up to positions" = on location-free trees (`no_location=True`, the flag the oracle also uses):
  the printer never reads `loc`, and a re-parsed text has other positions by construction.
-/
import PyGqlModel.Lemmas.PrintTokens
import PyGqlModel.Lemmas.PrintLexFloat
import PyGqlModel.Lemmas.PrintTokensDir
import PyGqlModel.Lemmas.PrintLayExec
import PyGqlModel.Lemmas.PrintMatchExec
import PyGqlModel.Lemmas.PrintBlockLay
import PyGqlModel.Lemmas.PrintStrip
import PyGqlModel.Lemmas.PrintDocMatch
import PyGqlModel.Lemmas.PrintBlockForms
import PyGqlModel.Lemmas.PrintBridgeOk
import PyGqlModel.Lemmas.PrintBridgeNoLoc
import PyGqlModel.Props.C02_spans
import PyGqlModel.Props.C01_parse
namespace PyGql.Props.C03
open PyGql PyGql.Ast PyGql.Parse PyGql.Spec PyGql.Print PyGql.PrintLex PyGql.PrintMatch PyGql.PrintTokens PyGql.Lex

private theorem cls_sof : cls sofTok = (.sof, []) := by decide +kernel
private theorem cls_eof (n : Nat) : cls (eofTok n) = (.eof, []) := by simp [cls, eofTok, hasValue]

/-- the printed type lexes to SOF, exactly the canonical yield of the type, EOF — for every type
    whose names are `Name` lexemes (nothing else is needed: a type has no other content). -/
theorem print_tokens_type (t : TypeRef) (hl : lexOkType t = true) :
    ∃ toks, lexAll (printType t) = .ok (sofTok :: toks ++ [eofTok (printType t).length]) ∧ classes toks = yieldType t := by
  have := lexesTo_of_lay (lay_type t hl) [] [] safe_nil lexesTo_nil
  simp only [List.append_nil] at this
  exact lexAll_of_lexesTo this

/-- for every well-formed, location-free type whose names are `Name` lexemes,
    `parse_type(print(t), no_location=True) = t`, under every flag combination with `no_location`. -/
theorem print_parse_type (fl : Flags) (hnl : fl.noLocation = true) (t : TypeRef) (hl : lexOkType t = true)
    (hn : noLocType t = true) (hw : wfType t = true) :
    ∃ toks, lexAll (printType t) = .ok toks ∧ parseType fl toks = .ok t := by
  obtain ⟨toks, h1, h2⟩ := print_tokens_type t hl
  refine ⟨_, h1, ?_⟩
  apply C01.parseType_complete fl _ t hw
  show matchesAll fl _ _ = true
  apply matchesAll_of_yield fl hnl
  · simp [plainAll, plain, plain_typeV t hn]
  · simp [classes, Item.yieldAll, Item.yield, cls_sof, cls_eof, yieldType] at h2 ⊢
    exact h2

/-- non-vacuity: `[[A!]]!` -/
example : ∃ toks, lexAll (printType (.nonNull (.list (.list (.nonNull (.named ⟨⟨[65], none⟩, none⟩) none) none) none) none)) = .ok toks ∧
    parseType { noLocation := true } toks = .ok (.nonNull (.list (.list (.nonNull (.named ⟨⟨[65], none⟩, none⟩) none) none) none) none) :=
  print_parse_type _ rfl _ (by decide +kernel) (by decide +kernel) (by decide +kernel)


/-- for every value (all 9 kinds, nested lists and objects, variables) whose leaves are lexemes of
    their class (`lexOkValue`: names and enum values `Name` lexemes, integers `IntValue` lexemes — the recognisers of
    `Spec/Lexical.lean` —, quoted strings ARBITRARY code-point lists (`quoted_roundtrip` with a rest), floats and
    depth-0 block strings one token by the string-level statement) and every indent configuration, the printed text
    lexes to SOF, exactly the canonical yield of the value, EOF. -/
theorem print_tokens_value (c : Cfg) (v : Value) (hl : lexOkValue c.indent v) :
    ∃ toks, lexAll (printValue c v) = .ok (sofTok :: toks ++ [eofTok (printValue c v).length]) ∧
      classes toks = yieldValue v := by
  have := lexesTo_value c v hl [] [] safe_nil lexesTo_nil
  simp only [List.append_nil] at this
  exact lexAll_of_lexesTo this

private theorem parseValue_of_classes (fl : Flags) (hnl : fl.noLocation = true) (v : Value) (hn : noLocValue v = true)
    (hw : wfValue false v = true) (n : Nat) (toks : List Tok) (h : classes toks = yieldValue v) :
    parseValue fl (sofTok :: toks ++ [eofTok n]) = .ok v := by
  apply C01.parseValue_complete fl _ v hw
  show matchesAll fl _ _ = true
  apply matchesAll_of_yield fl hnl
  · simp [plainAll, plain, plain_valueV v hn]
  · simp [classes, Item.yieldAll, Item.yield, cls_sof, cls_eof, yieldValue] at h ⊢
    exact h

/-- `parse_value(print(v), no_location=True) = v` for every such well-formed value (variables
    allowed: `parse_value` parses `Value[~Const]`), under every flag combination with `no_location`. -/
theorem print_parse_value (fl : Flags) (hnl : fl.noLocation = true) (c : Cfg) (v : Value)
    (hl : lexOkValue c.indent v) (hn : noLocValue v = true) (hw : wfValue false v = true) :
    ∃ toks, lexAll (printValue c v) = .ok toks ∧ parseValue fl toks = .ok v := by
  obtain ⟨toks, h1, h2⟩ := print_tokens_value c v hl
  exact ⟨_, h1, parseValue_of_classes fl hnl v hn hw _ toks h2⟩


/-- non-vacuity: `[1, "a\"😀", true, null, E, $v, {k: [-2]}]` satisfies every hypothesis -/
private def exV : Value :=
  .list [.int [49] none, .string ⟨[97, 34, 0x1F600], false, none⟩, .boolean true none, .null none, .enum [69] none,
         .var ⟨⟨[118], none⟩, none⟩, .object [.mk ⟨[107], none⟩ (.list [.int [45, 50] none] none) none] none] none
example : ∃ toks, lexAll (printValue (mkCfg (.width 2)) exV) = .ok toks ∧ parseValue { noLocation := true } toks = .ok exV :=
  print_parse_value _ rfl _ exV
    (by simp only [exV, lexOkValue, lexOkValues, lexOkField, lexOkFields, Bool.false_eq_true, false_implies, true_and, and_true]; decide +kernel) (by decide +kernel) (by decide +kernel)
example : printValue (mkCfg (.width 2)) exV = textOfString "[1, \"a\\\"😀\", true, null, E, $v, {k: [-2]}]" := by
  rw [textOfString_ofList]
  decide +kernel

/-- the hypothesis `FloatLexeme` of `lexOkValue` holds for EVERY FloatValue lexeme of the
    specification (`Spec.Lexical.isFloatValue`: IntegerPart FractionalPart? ExponentPart?, not both absent): followed by
    a delimiter it is read by `_read_number` as one Float token with that value.  With it `print_parse_value` is
    unconditional for every value without block strings. -/
theorem float_lexeme_spec (w : Text) (h : Spec.Lexical.isFloatValue w = true) : FloatLexeme w :=
  floatLexeme_of_isFloatValue w h

/-- non-vacuity with floats: `{x: [-1.5e-3, 0.0, 2E+1]}` -/
private def exF : Value :=
  .object [.mk ⟨[120], none⟩ (.list [.float [45, 49, 46, 53, 101, 45, 51] none, .float [48, 46, 48] none,
    .float [50, 69, 43, 49] none] none) none] none
example : ∃ toks, lexAll (printValue (mkCfg (.str [9])) exF) = .ok toks ∧ parseValue { noLocation := true } toks = .ok exF :=
  print_parse_value _ rfl _ exF
    (by
      simp only [exF, lexOkValue, lexOkValues, lexOkField, lexOkFields, and_true]
      exact ⟨by decide +kernel, float_lexeme_spec _ (by decide +kernel), float_lexeme_spec _ (by decide +kernel), float_lexeme_spec _ (by decide +kernel)⟩)
    (by decide +kernel) (by decide +kernel)

/-- one layer above values — a printed directive list `@a(x: 1, y: [$v]) @b` (arguments
    with arbitrary values, as in `print_tokens_value`) lexes to exactly the canonical yield of `Directives`
    (`@ Name ( Name : Value … )` per directive).  There is no parser entry point for directives alone, so this is the
    token-level half; it is the building block for fields, operations and type-system definitions. -/
theorem print_tokens_directives (c : Cfg) (ds : List Directive) (h : lexOkDirectives c.indent ds) :
    ∃ toks, lexAll (printDirectives c ds) = .ok (sofTok :: toks ++ [eofTok (printDirectives c ds).length]) ∧
      classes toks = Item.yieldAll (directivesV ds) := by
  have := lexesTo_directives c ds h [] [] safe_nil lexesTo_nil
  simp only [List.append_nil] at this
  exact lexAll_of_lexesTo this

/-- non-vacuity: `@a(x: 1, y: [$v]) @b` -/
example : ∃ toks, lexAll (printDirectives (mkCfg (.width 2))
      [⟨⟨[97], none⟩, [⟨⟨[120], none⟩, .int [49] none, none⟩, ⟨⟨[121], none⟩, .list [.var ⟨⟨[118], none⟩, none⟩] none, none⟩], none⟩,
       ⟨⟨[98], none⟩, [], none⟩]) = .ok toks :=
  let ⟨toks, h, _⟩ := print_tokens_directives (mkCfg (.width 2)) _
    (by simp only [lexOkDirectives, lexOkDirective, lexOkArguments, lexOkArgument, lexOkValue, lexOkValues, and_true]; decide +kernel)
  ⟨_, h⟩

/-- `print_stable` for types and values: printing the re-parsed tree reproduces the same text -/
theorem print_stable_type (fl : Flags) (hnl : fl.noLocation = true) (t : TypeRef) (hl : lexOkType t = true)
    (hn : noLocType t = true) (hw : wfType t = true) :
    ∃ toks t', lexAll (printType t) = .ok toks ∧ parseType fl toks = .ok t' ∧ printType t' = printType t := by
  obtain ⟨toks, h1, h2⟩ := print_parse_type fl hnl t hl hn hw
  exact ⟨toks, t, h1, h2, rfl⟩

theorem print_stable_value (fl : Flags) (hnl : fl.noLocation = true) (c : Cfg) (v : Value)
    (hl : lexOkValue c.indent v) (hn : noLocValue v = true) (hw : wfValue false v = true) :
    ∃ toks v', lexAll (printValue c v) = .ok toks ∧ parseValue fl toks = .ok v' ∧ printValue c v' = printValue c v := by
  obtain ⟨toks, h1, h2⟩ := print_parse_value fl hnl c v hl hn hw
  exact ⟨toks, v, h1, h2, rfl⟩

/-- the output of the model printer always ends with the final newline of `print_document`.
    NOTE: the proof is `⟨_, rfl⟩` and carries no more content than that. "Printing never raises" is NOT a theorem
    of this development: the model printer (`Print.lean`) is a total Lean function WITHOUT an error branch, so totality holds
    by construction of the model and says nothing about the implementation; likewise "printing is deterministic" (a Lean
    function). That the real printer raises nothing and returns the same text on parser-produced trees is tied ONLY by the
    correspondence and the direct oracle (outcome `internal:<Class>`, repeated calls), with the known exception R7
    (RecursionError on trees nested a few hundred levels deep; `print_deep_list` shows what the model prints there). -/
theorem print_total (c : Cfg) (d : Document) : ∃ s, printDocument c d = s ++ [10] := ⟨_, rfl⟩

/-- an indentation setting of the statement: spaces and tabs only -/
def IndentOK (c : Cfg) : Prop := ∀ ch ∈ c.indent, ch = 32 ∨ ch = 9

/-- THE FULL STATEMENT `print_parse` (C03): for every text the parser accepts (any flags with `no_location`), every
    indentation setting, descriptions on — the printed tree is accepted and parses to the SAME tree. -/
def PrintParseStatement : Prop :=
  ∀ (fl : Flags) (c : Cfg) (x : Text) (toks : List Tok) (d : Document),
    fl.noLocation = true → c.includeDescriptions = true → IndentOK c →
    lexAll x = .ok toks → parseDocument fl toks = .ok d →
    ∃ toks', lexAll (printDocument c d) = .ok toks' ∧ parseDocument fl toks' = .ok d

/-- THE STATEMENT MODULO MEMBER DESCRIPTIONS (what holds on today's code according to the correspondence and the direct
    oracle: every difference the oracle sees is a dropped member description) -/
def PrintParseModuloMembersStatement : Prop :=
  ∀ (fl : Flags) (c : Cfg) (x : Text) (toks : List Tok) (d : Document),
    fl.noLocation = true → c.includeDescriptions = true → IndentOK c →
    lexAll x = .ok toks → parseDocument fl toks = .ok d →
    ∃ toks', lexAll (printDocument c d) = .ok toks' ∧ parseDocument fl toks' = .ok (stripMemberDescriptions d)

/-- THE FULL STATEMENT `print_stable` for documents -/
def PrintStableStatement : Prop :=
  ∀ (fl : Flags) (c : Cfg) (x : Text) (toks : List Tok) (d : Document),
    fl.noLocation = true → IndentOK c → lexAll x = .ok toks → parseDocument fl toks = .ok d →
    ∃ toks' d', lexAll (printDocument c d) = .ok toks' ∧ parseDocument fl toks' = .ok d' ∧
      printDocument c d' = printDocument c d

/-- the hypothesis `BlockLay` (the printed block string is ONE BlockString token with the same
    value under EVERY enclosing `_indent`, i.e. at every nesting depth) is DISCHARGED for every value that the printer
    lays out in the multi-line form `"""⏎ … ⏎"""` (every value that does not start with a blank, and every value with
    a line break) and that has the shape `BlockStringValue` produces: lines without CR/LF made of block-string
    characters, first and last line not blank, smallest indentation of the non-blank lines 0.
    Ingredients: the lexer's scan inverts the escaping (`readBlockBody_escape`), the escaping
    commutes with `_indent` (`escape_replaceLF`), and the three layout lemmas of the string part compose
    (`parseBlockString_layout`).  NOT covered: the one-line form (`"""  x"""`, values starting with a blank and without a
    line break) and the empty value — see `block_lay_canon`. -/
theorem block_lay_multiline (ind l : Text) (ls : List Text) (hind : ∀ ch ∈ ind, ch = 32 ∨ ch = 9)
    (hlines : ∀ x ∈ l :: ls, BlockString.IsLine x) (hchars : ∀ ch ∈ BlockString.joinLF (l :: ls), blockChar ch = true)
    (hfirst : Spec.onlyWhiteSpace l = false) (hlast : Spec.onlyWhiteSpace ((l :: ls).getLast (by simp)) = false)
    (hmin : (l :: ls).foldl BlockString.indentStep none = some 0)
    (hml : multiLineForm (BlockString.joinLF (l :: ls)) = true) :
    BlockLay ind (BlockString.joinLF (l :: ls)) :=
  blockLay_of_reads fun P hP => readsBlock_multiline ind P l ls hind hP hlines hchars hfirst hlast hmin hml

/-- `print_parse_value` with every leaf condition given by the SPECIFICATION recognisers
    (names, integers, floats) and block strings by `BlockLay` (discharged above for the multi-line form). -/
theorem print_parse_value_spec (fl : Flags) (hnl : fl.noLocation = true) (c : Cfg) (v : Value)
    (hl : okValue c.indent v) (hn : noLocValue v = true) (hw : wfValue false v = true) :
    ∃ toks, lexAll (printValue c v) = .ok toks ∧ parseValue fl toks = .ok v := by
  have hlx := lexesTo_of_lay (lay_value c v hl) [] [] safe_nil lexesTo_nil
  simp only [List.append_nil] at hlx
  obtain ⟨toks, h1, h2⟩ := lexAll_of_lexesTo hlx
  exact ⟨_, h1, parseValue_of_classes fl hnl v hn hw _ toks h2⟩

/-- for every executable document (operations in long and short form, variable definitions
    with defaults and directives, fields with aliases / arguments / directives, fragment spreads, inline fragments,
    selection sets nested to ANY depth through `_block` / `_indent`, fragment definitions with fragment variables) whose
    leaves are lexemes of their class by the specification recognisers (`okExecDefinitions`), and every indentation
    string over {space, tab}: the printed document lexes to SOF, exactly the canonical yield of its definitions, EOF.
    Block strings (any depth) enter through the string-level hypothesis `BlockLay`. -/
theorem print_tokens_executable (c : Cfg) (hind : IndentOK c) (d : Document)
    (hok : okExecDefinitions c.indent d.definitions) :
    ∃ toks, lexAll (printDocument c d) = .ok (sofTok :: toks ++ [eofTok (printDocument c d).length]) ∧
      classes toks = Item.yieldAll (d.definitions.map definitionV) :=
  lexAll_of_lexesTo (lexesTo_execDocument c hind d hok)

/-- `parse(print(d), no_location=True) = d` for every such well-formed, location-free
    executable document, every indentation setting and every flag combination with `no_location`
    (uses `parse_complete_document` of C01). -/
theorem print_parse_executable (fl : Flags) (hnl : fl.noLocation = true) (c : Cfg) (hind : IndentOK c) (d : Document)
    (hok : okExecDefinitions c.indent d.definitions) (hn : noLocExecDocument d = true) (hw : wfDocument fl d = true) :
    ∃ toks, lexAll (printDocument c d) = .ok toks ∧ parseDocument fl toks = .ok d := by
  obtain ⟨toks, h1, h2⟩ := print_tokens_executable c hind d hok
  refine ⟨_, h1, ?_⟩
  apply C01.parse_complete_document fl _ d hw
  exact matches_execDocument fl hnl c hind d hok hn sofTok (eofTok _) cls_sof (cls_eof _) toks h2

theorem print_stable_executable (fl : Flags) (hnl : fl.noLocation = true) (c : Cfg) (hind : IndentOK c) (d : Document)
    (hok : okExecDefinitions c.indent d.definitions) (hn : noLocExecDocument d = true) (hw : wfDocument fl d = true) :
    ∃ toks d', lexAll (printDocument c d) = .ok toks ∧ parseDocument fl toks = .ok d' ∧
      printDocument c d' = printDocument c d := by
  obtain ⟨toks, h1, h2⟩ := print_parse_executable fl hnl c hind d hok hn hw
  exact ⟨toks, d, h1, h2, rfl⟩

/-- non-vacuity: `query Q($v: Int = 1 @d) @live { a: b(x: "s") { ...F ... on T @e { c } } }  fragment F on T { d }  { e }` -/
private def nm (s : String) : Name := ⟨textOfString s, none⟩
private def exDoc : Document :=
  ⟨[.operation ⟨K.query, some (nm "Q"),
      [⟨⟨nm "v", none⟩, .named ⟨nm "Int", none⟩, some (.int [49] none), [⟨nm "d", [], none⟩], none⟩],
      [⟨nm "live", [], none⟩],
      .mk [.field (some (nm "a")) (nm "b") [⟨nm "x", .string ⟨[115], false, none⟩, none⟩] []
            (some (.mk [.fragmentSpread (nm "F") [] none,
                        .inlineFragment (some ⟨nm "T", none⟩) [⟨nm "e", [], none⟩] (.mk [.field none (nm "c") [] [] none none] none) none] none)) none] none,
      none⟩,
    .fragment ⟨nm "F", [], ⟨nm "T", none⟩, [], .mk [.field none (nm "d") [] [] none none] none, none⟩,
    .operation ⟨K.query, none, [], [], .mk [.field none (nm "e") [] [] none none] none, none⟩], none⟩

example : ∃ toks, lexAll (printDocument (mkCfg (.str [32, 9])) exDoc) = .ok toks ∧
    parseDocument { noLocation := true } toks = .ok exDoc :=
  print_parse_executable _ rfl _ (by intro ch hc; simp [mkCfg] at hc; omega) exDoc
    (by
      simp only [exDoc, okExecDefinitions, okExecDefinition, okOperation, okFragment, okVarDefs, okVarDef, okDirectives,
        okDirective, okArguments, okArgument, okSelectionSet, okSelections, okSelection, okOptSelectionSet, okValue,
        lexOkType, nm]
      repeat' apply And.intro
      all_goals first | decide +kernel | simp)
    (by decide +kernel) (by decide +kernel)

/-- non-vacuity: the block string `a"""⏎  b\` (embedded triple quote, an indented second line, trailing backslash)
    as an argument two selection sets deep, TAB indentation: `{ f { g(x: """…""") } }` -/
private def exBlockLines : List Text := [[97, 34, 34, 34], [32, 32, 98, 92]]
private def exBlockDoc : Document :=
  ⟨[.operation ⟨K.query, none, [], [],
      .mk [.field none ⟨[102], none⟩ [] [] (some (.mk [.field none ⟨[103], none⟩
        [⟨⟨[120], none⟩, .string ⟨BlockString.joinLF exBlockLines, true, none⟩, none⟩] [] none none] none)) none] none,
      none⟩], none⟩

example : ∃ toks, lexAll (printDocument (mkCfg (.str [9])) exBlockDoc) = .ok toks ∧
    parseDocument { noLocation := true } toks = .ok exBlockDoc := by
  have hb : BlockLay [9] (BlockString.joinLF exBlockLines) :=
    block_lay_multiline [9] _ _ (by decide +kernel)
      (by intro x hx; simp at hx; rcases hx with rfl | rfl <;> (intro ch hc; simp at hc; omega))
      (by decide +kernel) (by decide +kernel) (by decide +kernel) (by decide +kernel) (by decide +kernel)
  refine print_parse_executable _ rfl _ (by intro ch hc; simp [mkCfg] at hc; omega) exBlockDoc ?_ (by decide +kernel) (by decide +kernel)
  simp only [exBlockDoc, okExecDefinitions, okExecDefinition, okOperation, okVarDefs, okDirectives, okArguments, okArgument,
    okSelectionSet, okSelections, okSelection, okOptSelectionSet, okValue, mkCfg]
  repeat' apply And.intro
  all_goals first | decide +kernel | (intro _; exact hb) | simp

/-! ### R4: the refutation witness of `PrintParseStatement` (also the replay on the implementation) -/

/-- `enum E {"" A}` -/
def r4Text : Text := [101, 110, 117, 109, 32, 69, 32, 123, 34, 34, 32, 65, 125]
def r4Flags : Flags := { noLocation := true, allowTypeSystem := true }
def r4Doc (desc : Option StringValue) : Document :=
  ⟨[.enumTypeDefinition none ⟨[69], none⟩ [] [⟨desc, ⟨[65], none⟩, [], none⟩] none], none⟩

/-- the parser accepts the text: the enum value carries the (empty, quoted) description -/
theorem r4_parse : ∃ toks, lexAll r4Text = .ok toks ∧ parseDocument r4Flags toks = .ok (r4Doc (some ⟨[], false, none⟩)) :=
  ⟨_, rfl, rfl⟩

/-- the printer drops it: `enum E {⏎  A⏎}⏎` -/
theorem r4_print : printDocument (mkCfg (.width 2)) (r4Doc (some ⟨[], false, none⟩)) =
    [101, 110, 117, 109, 32, 69, 32, 123, 10, 32, 32, 65, 10, 125, 10] := by decide +kernel

/-- … and the printed text parses to the tree WITHOUT the description -/
theorem r4_reparse : ∃ toks, lexAll (printDocument (mkCfg (.width 2)) (r4Doc (some ⟨[], false, none⟩))) = .ok toks ∧
    parseDocument r4Flags toks = .ok (r4Doc none) := by
  rw [r4_print]; exact ⟨_, rfl, rfl⟩

/-- R4 (KNOWN FINDING — pinned by test_schema_kitchen_sink): the full statement is false on
    today's code; descriptions of fields, arguments, input fields and enum values are lost. -/
theorem print_parse_refuted : ¬ PrintParseStatement := by
  intro h
  obtain ⟨toks, hl, hp⟩ := r4_parse
  obtain ⟨toks', h1, h2⟩ := h r4Flags (mkCfg (.width 2)) r4Text toks _ rfl rfl (by intro ch hc; simp [mkCfg] at hc; exact Or.inl hc) hl hp
  obtain ⟨toks'', h3, h4⟩ := r4_reparse
  rw [h1] at h3
  cases h3
  rw [h2] at h4
  simp [r4Doc] at h4

/-- the loss is exactly a member description: the witness satisfies the statement modulo member descriptions -/
example : stripMemberDescriptions (r4Doc (some ⟨[], false, none⟩)) = r4Doc none := rfl


private theorem printIV_strip (c : Cfg) : printInputValueDefinition c ∘ stripIV = printInputValueDefinition c := rfl
private theorem printFD_strip (c : Cfg) : printFieldDefinition c ∘ stripFD = printFieldDefinition c := by
  funext d
  simp [printFieldDefinition, stripFD, printArgumentDefinitions, List.map_map, printIV_strip]
private theorem printEV_strip (c : Cfg) : printEnumValueDefinition c ∘ stripEV = printEnumValueDefinition c := rfl

private theorem printDefinition_strip (c : Cfg) (d : Definition) : printDefinition c (stripDef d) = printDefinition c d := by
  cases d <;> simp [stripDef, printDefinition, List.map_map, printFD_strip, printEV_strip, printIV_strip,
    printArgumentDefinitions]

private theorem documentEntries_strip (c : Cfg) (ds : List Definition) (acc : List Text) :
    documentEntries c acc (ds.map stripDef) = documentEntries c acc ds := by
  induction ds generalizing acc with
  | nil => rfl
  | cons d ds ih => simp only [List.map_cons, documentEntries, printDefinition_strip, ih]

/-- the printed text does not depend on the descriptions of fields, arguments,
    input fields and enum values (finding R4 stated positively) — hence `print(parse(print t)) = print t` is not
    disturbed by their loss. -/
theorem print_ignores_member_descriptions (c : Cfg) (d : Document) :
    printDocument c (stripMemberDescriptions d) = printDocument c d := by
  simp [printDocument, stripMemberDescriptions, documentEntries_strip]

theorem print_stable_of_modulo (h : PrintParseModuloMembersStatement) :
    ∀ (fl : Flags) (c : Cfg) (x : Text) (toks : List Tok) (d : Document),
      fl.noLocation = true → c.includeDescriptions = true → IndentOK c → lexAll x = .ok toks → parseDocument fl toks = .ok d →
      ∃ toks' d', lexAll (printDocument c d) = .ok toks' ∧ parseDocument fl toks' = .ok d' ∧
        printDocument c d' = printDocument c d := by
  intro fl c x toks d h1 h2 h3 h4 h5
  obtain ⟨toks', a, b⟩ := h fl c x toks d h1 h2 h3 h4 h5
  exact ⟨toks', _, a, b, print_ignores_member_descriptions c d⟩

/-- for EVERY document — executable definitions, type-system definitions and extensions, mixed
    — whose leaves are lexemes of their class (`okDefinition`), every indentation string over {space, tab}, descriptions
    on: the printed document lexes to SOF, the token classes of its entries, EOF.  The classes of an entry are the
    canonical yield of the definition WITHOUT member descriptions (finding R4: the printer does not print them), preceded by
    the keyword `query` exactly where the R6 guard of `print_document` adds it. -/
theorem print_tokens_document (c : Cfg) (hdesc : c.includeDescriptions = true) (hind : IndentOK c) (d : Document)
    (hok : ∀ x ∈ d.definitions, okDefinition c.indent x) :
    ∃ toks, lexAll (printDocument c d) = .ok (sofTok :: toks ++ [eofTok (printDocument c d).length]) ∧
      classes toks = (entryPairs c none d.definitions).flatMap Prod.snd :=
  lexAll_of_lexesTo (lexesTo_document c d (fun x hx => gfacts c hdesc hind x (hok x hx)))

/-- the statement of C03 modulo finding R4, for ALL documents:
    `parse(print(d), no_location=True)` is `d` without the descriptions of fields, arguments, input fields and enum values
    — for every well-formed, location-free document (operations, fragments, all 15 kinds of type-system definitions and
    extensions, mixed documents including the query shorthand after a block-less definition: R6), every indentation
    setting over {space, tab}, every flag combination with `no_location`.  Top-level descriptions, default values,
    directives and every string content are preserved (block strings through `BlockLay` / `DescLay`). -/
theorem print_parse_document_modulo_members (fl : Flags) (hnl : fl.noLocation = true) (c : Cfg)
    (hdesc : c.includeDescriptions = true) (hind : IndentOK c) (d : Document)
    (hok : ∀ x ∈ d.definitions, okDefinition c.indent x) (hn : noLocDocument d = true) (hw : wfDocument fl d = true) :
    ∃ toks, lexAll (printDocument c d) = .ok toks ∧ parseDocument fl toks = .ok (stripMemberDescriptions d) := by
  obtain ⟨toks, h1, h2⟩ := print_tokens_document c hdesc hind d hok
  refine ⟨_, h1, ?_⟩
  apply C01.parse_complete_document fl _ _ (by rw [wfDocument_strip]; exact hw)
  exact matches_document fl hnl c d (fun x hx => gfacts c hdesc hind x (hok x hx)) hn sofTok (eofTok _) cls_sof (cls_eof _) toks h2

/-- all documents: printing the re-parsed tree reproduces the same text — the loss of member
    descriptions (R4) is invisible to the printer (`print_ignores_member_descriptions`). -/
theorem print_stable_document (fl : Flags) (hnl : fl.noLocation = true) (c : Cfg)
    (hdesc : c.includeDescriptions = true) (hind : IndentOK c) (d : Document)
    (hok : ∀ x ∈ d.definitions, okDefinition c.indent x) (hn : noLocDocument d = true) (hw : wfDocument fl d = true) :
    ∃ toks d', lexAll (printDocument c d) = .ok toks ∧ parseDocument fl toks = .ok d' ∧
      printDocument c d' = printDocument c d := by
  obtain ⟨toks, h1, h2⟩ := print_parse_document_modulo_members fl hnl c hdesc hind d hok hn hw
  exact ⟨toks, _, h1, h2, print_ignores_member_descriptions c d⟩

/-- a document without member descriptions round-trips EXACTLY -/
theorem print_parse_document_exact (fl : Flags) (hnl : fl.noLocation = true) (c : Cfg)
    (hdesc : c.includeDescriptions = true) (hind : IndentOK c) (d : Document)
    (hok : ∀ x ∈ d.definitions, okDefinition c.indent x) (hn : noLocDocument d = true) (hw : wfDocument fl d = true)
    (hm : stripMemberDescriptions d = d) :
    ∃ toks, lexAll (printDocument c d) = .ok toks ∧ parseDocument fl toks = .ok d := by
  have := print_parse_document_modulo_members fl hnl c hdesc hind d hok hn hw
  rwa [hm] at this

/-- the hypotheses `BlockLay` (block-string values at any depth) and `DescLay` (block descriptions)
    hold for EVERY canonical value (`CanonBlock`: empty, or lines of block-string characters without CR/LF, first and last
    line not blank, smallest indentation 0 unless printed in the one-line form) — the multi-line form, the one-line form
    `"""  x"""` (with the extra line feed after a trailing `"` or `\`: defect R3) and the empty string `"""⏎⏎"""`
    (defect R1), under every indentation string over {space, tab} and every enclosing `_indent`. -/
theorem block_lay_canon (ind : Text) (hind : ∀ ch ∈ ind, ch = 32 ∨ ch = 9) (v : Text) (h : CanonBlock v) :
    BlockLay ind v ∧ DescLay ind v :=
  ⟨blockLay_canon ind hind v h, descLay_canon ind v h⟩

/-- `parse_value(print(v), no_location=True) = v` for EVERY value whose leaves satisfy the
    specification (`specValue`: names / integers / floats by the lexical recognisers, quoted strings arbitrary, block
    strings canonical) — with no hypothesis about the lexer or the printer. -/
theorem print_parse_value_full (fl : Flags) (hnl : fl.noLocation = true) (c : Cfg) (hind : IndentOK c) (v : Value)
    (hs : specValue v) (hn : noLocValue v = true) (hw : wfValue false v = true) :
    ∃ toks, lexAll (printValue c v) = .ok toks ∧ parseValue fl toks = .ok v :=
  print_parse_value_spec fl hnl c v (okValue_of_spec c.indent hind v hs) hn hw

/-- non-vacuity: `[""" x"""", """""", """a⏎ b"""]` — one-line form ending in a quote, empty, multi-line -/
example : ∃ toks, lexAll (printValue (mkCfg (.width 2))
      (.list [.string ⟨[32, 120, 34], true, none⟩, .string ⟨[], true, none⟩, .string ⟨[97, 10, 32, 98], true, none⟩] none)) = .ok toks ∧
    parseValue { noLocation := true } toks =
      .ok (.list [.string ⟨[32, 120, 34], true, none⟩, .string ⟨[], true, none⟩, .string ⟨[97, 10, 32, 98], true, none⟩] none) := by
  refine print_parse_value_full _ rfl _ (by intro ch hc; simp [mkCfg] at hc; exact Or.inl hc) _ ?_ (by decide +kernel) (by decide +kernel)
  simp only [specValue, specValues, and_true]
  refine ⟨fun _ => Or.inr ⟨[32, 120, 34], [], rfl, ?_, by decide +kernel, by decide +kernel, by decide +kernel, by decide +kernel⟩, fun _ => Or.inl rfl,
    fun _ => Or.inr ⟨[97], [[32, 98]], rfl, ?_, by decide +kernel, by decide +kernel, by decide +kernel, fun _ => by decide +kernel⟩⟩
  · intro x hx; simp at hx; subst hx; intro ch hc; simp at hc; omega
  · intro x hx; simp at hx; rcases hx with rfl | rfl <;> (intro ch hc; simp at hc; omega)

/-- non-vacuity of `print_parse_document_modulo_members`: a MIXED document with a quoted top-level description, a
    member description that is lost (R4), `implements A & B`, a union, an argument default, and the query shorthand
    after a block-less type definition (R6 guard):
    `"d" type T implements A & B @x  { q }  enum E { "m" V }  union U = A | B  extend type T { f(a: Int = 1): [T!] }` -/
private def nm' (s : String) : Name := ⟨textOfString s, none⟩
private def exMixed : Document :=
  ⟨[.objectTypeDefinition (some ⟨[100], false, none⟩) (nm' "T") [⟨nm' "A", none⟩, ⟨nm' "B", none⟩] [⟨nm' "x", [], none⟩] [] none,
    .operation ⟨K.query, none, [], [], .mk [.field none (nm' "q") [] [] none none] none, none⟩,
    .enumTypeDefinition none (nm' "E") [] [⟨some ⟨[109], false, none⟩, nm' "V", [], none⟩] none,
    .unionTypeDefinition none (nm' "U") [] [⟨nm' "A", none⟩, ⟨nm' "B", none⟩] none,
    .objectTypeExtension (nm' "T") [] []
      [⟨none, nm' "f", [⟨none, nm' "a", .named ⟨nm' "Int", none⟩, some (.int [49] none), [], none⟩],
        .list (.nonNull (.named ⟨nm' "T", none⟩) none) none, [], none⟩] none], none⟩

example : ∃ toks, lexAll (printDocument (mkCfg (.width 2)) exMixed) = .ok toks ∧
    parseDocument { noLocation := true, allowTypeSystem := true } toks = .ok (stripMemberDescriptions exMixed) := by
  refine print_parse_document_modulo_members _ rfl _ rfl (by intro ch hc; simp [mkCfg] at hc; exact Or.inl hc) exMixed ?_
    (by decide +kernel) (by decide +kernel)
  intro x hx
  simp only [exMixed, List.mem_cons, List.not_mem_nil, or_false] at hx
  rcases hx with rfl | rfl | rfl | rfl | rfl <;>
    simp only [okDefinition, isExecDef, ↓reduceIte, Bool.false_eq_true, okTSDefinition, okExecDefinition, okOperation, okDesc,
      okNamedTypes, okDirectives, okDirective, okArguments, okMembers, okFieldDef, okEnumValue, okInputValues, okInputValue,
      okVarDefs, okSelectionSet, okSelections, okSelection, okOptSelectionSet, okValue, lexOkType, nm',
      List.mem_cons, forall_eq_or_imp, List.not_mem_nil, false_imp_iff, implies_true, and_true] <;>
    (repeat' apply And.intro) <;> first | decide +kernel | simp
set_option maxRecDepth 8000 in
/-- the printed text of the mixed document: the description is kept in its quoted form (R5), `query` is added (R6),
    the enum value's description is gone (R4) -/
example : printDocument (mkCfg (.width 2)) exMixed = textOfString
    "\"d\"\ntype T implements A & B @x\n\nquery {\n  q\n}\n\nenum E {\n  V\n}\n\nunion U = A | B\n\nextend type T {\n  f(a: Int = 1): [T!]\n}\n" := by
  rw [textOfString_ofList]
  decide +kernel

/-- THE BRIDGE between trees and texts: every tree the parser returns for a lexed text (under `no_location`) has leaves
    that are lexemes of their class — names / numbers by `lex_sound`, block strings canonical (the range of
    `BlockStringValue`) — and carries no positions.  This is a statement about the LEXER and the PARSER only (C01/C02); it
    is exercised on every accepted document of the correspondence, and is what the text-level statement needs besides the
    tree-level theorems (`parser_output_ok`). -/
def ParserOutputOK : Prop :=
  ∀ (fl : Flags) (c : Cfg) (x : Text) (toks : List Tok) (d : Document), fl.noLocation = true → IndentOK c →
    lexAll x = .ok toks → parseDocument fl toks = .ok d →
    (∀ y ∈ d.definitions, okDefinition c.indent y) ∧ noLocDocument d = true

/-- `PrintParseModuloMembersStatement` (the text-level statement of C03 modulo
    finding R4) FOLLOWS from `print_parse_document_modulo_members` + `parse_sound_document` (C01) + the bridge. -/
theorem print_parse_modulo_members_of_bridge (hb : ParserOutputOK) : PrintParseModuloMembersStatement := by
  intro fl c x toks d hnl hdesc hind hlex hparse
  obtain ⟨hok, hn⟩ := hb fl c x toks d hnl hind hlex hparse
  have hw := (C01.parse_sound_document fl toks d hparse).1
  exact print_parse_document_modulo_members fl hnl c hdesc hind d hok hn hw

theorem print_stable_of_bridge (hb : ParserOutputOK) :
    ∀ (fl : Flags) (c : Cfg) (x : Text) (toks : List Tok) (d : Document),
      fl.noLocation = true → c.includeDescriptions = true → IndentOK c → lexAll x = .ok toks → parseDocument fl toks = .ok d →
      ∃ toks' d', lexAll (printDocument c d) = .ok toks' ∧ parseDocument fl toks' = .ok d' ∧
        printDocument c d' = printDocument c d :=
  print_stable_of_modulo (print_parse_modulo_members_of_bridge hb)

/-- THE BRIDGE: every tree the parser returns for a lexed text under `no_location` satisfies
    the leaf conditions of the printer theorems and carries no positions.  Ingredients: `lex_sound` (every token is a
    lexeme of the specification, C01), `block_string_spec` + `parseBlockString_range` (block-string values are canonical,
    C02), `parse_sound_document` (the tree's leaves are the matched tokens and the tree is well-formed, C01) and
    `noloc_erasure` (C02). -/
theorem parser_output_ok : ParserOutputOK := by
  intro fl c x toks d hnl hind hlex hparse
  obtain ⟨hw, hm⟩ := C01.parse_sound_document fl toks d hparse
  have hleaf := yield_classOK fl [documentV d] toks hm (classOK_of_lexAll x toks hlex)
  constructor
  · intro y hy
    have hly : LeafOK (definitionV y).yield := by
      intro cl hcl
      apply hleaf
      simp only [Item.yieldAll, documentV, Item.yield, Parse.yieldAll_append, List.append_nil, List.mem_append,
        List.mem_cons]
      right; left
      rw [yieldAll_map]
      exact List.mem_flatMap.2 ⟨y, hy, hcl⟩
    have hwy : wfDefinition fl y = true := by
      simp only [wfDocument, Bool.and_eq_true, List.all_eq_true] at hw
      exact (hw.2 y hy).1
    exact okDefinition_of_leaf c.indent hind fl y hly hwy
  · have he := C02.noloc_erasure fl toks
    have hfl : { fl with noLocation := true } = fl := by cases fl; simp at hnl; subst hnl; rfl
    rw [hfl, hparse] at he
    simp only [Except.map, Except.ok.injEq] at he
    rw [he]
    exact noLocDocument_erase d

/-- text level, the statement of C03 modulo finding R4: for every text the lexer and parser accept (any flags with
    `no_location`), every indentation setting over {space, tab}, descriptions on — the printed tree is accepted and parses to the same tree without the descriptions of
    fields, arguments, input fields and enum values. -/
theorem print_parse_modulo_members : PrintParseModuloMembersStatement :=
  print_parse_modulo_members_of_bridge parser_output_ok

/-- text level, descriptions on: printing the re-parsed tree reproduces the same text -/
theorem print_stable :
    ∀ (fl : Flags) (c : Cfg) (x : Text) (toks : List Tok) (d : Document),
      fl.noLocation = true → c.includeDescriptions = true → IndentOK c → lexAll x = .ok toks → parseDocument fl toks = .ok d →
      ∃ toks' d', lexAll (printDocument c d) = .ok toks' ∧ parseDocument fl toks' = .ok d' ∧
        printDocument c d' = printDocument c d :=
  print_stable_of_bridge parser_output_ok

/-- text level, exact: a text whose tree has no member descriptions round-trips to the SAME tree -/
theorem print_parse_exact (fl : Flags) (c : Cfg) (x : Text) (toks : List Tok) (d : Document)
    (hnl : fl.noLocation = true) (hdesc : c.includeDescriptions = true) (hind : IndentOK c)
    (hlex : lexAll x = .ok toks) (hparse : parseDocument fl toks = .ok d) (hm : stripMemberDescriptions d = d) :
    ∃ toks', lexAll (printDocument c d) = .ok toks' ∧ parseDocument fl toks' = .ok d := by
  have := print_parse_modulo_members fl c x toks d hnl hdesc hind hlex hparse
  rwa [hm] at this

/-! ### depth (finding R7)

The model printer is a total function of the tree; the implementation is recursive Python and raises RecursionError on
trees nested a few hundred levels deep that the parser still produces (known finding R7, boundary measured on every run).
The two theorems below state what the model prints at EVERY depth, so that the finding is a divergence of the
implementation from the model and not a property of the specification. -/

/-- `[[[ … 1 … ]]]`, `n` levels -/
def nestList : Nat → Value
  | 0 => .int [49] none
  | n + 1 => .list [nestList n] none

/-- `[[[ … Int … ]]]`, `n` levels -/
def nestListType : Nat → TypeRef
  | 0 => .named ⟨⟨[73, 110, 116], none⟩, none⟩
  | n + 1 => .list (nestListType n) none

private theorem replicate_snoc (k a : Nat) : List.replicate k a ++ [a] = a :: List.replicate k a := by
  induction k with
  | zero => rfl
  | succ j ih => simp [List.replicate_succ, ih]

theorem print_deep_list (c : Cfg) (n : Nat) :
    printValue c (nestList n) = List.replicate n 91 ++ [49] ++ List.replicate n 93 := by
  induction n with
  | zero => simp [nestList, printValue]
  | succ k ih =>
    have hne : (printValue c (nestList k)).isEmpty = false := by rw [ih]; cases k <;> simp [List.replicate_succ]
    simp only [nestList, printValue, printValues, join, List.filter, hne, Bool.not_false, joinSep]
    rw [ih]
    simp [List.replicate_succ, List.append_assoc, replicate_snoc]

theorem print_deep_list_type (n : Nat) :
    printType (nestListType n) = List.replicate n 91 ++ [73, 110, 116] ++ List.replicate n 93 := by
  induction n with
  | zero => simp [nestListType, printType, printNamedType]
  | succ k ih =>
    simp only [nestListType, printType, ih]
    simp [List.replicate_succ, List.append_assoc, replicate_snoc]

/-- the composite for types and values under the conditions `lexOkType` / `lexOkValue`.  The full results are `print_parse_type`, `print_parse_value_full`,
    `print_parse_executable`, `print_parse_document_modulo_members` / `print_parse_document_exact`, `print_stable_document`, the
    refutation `print_parse_refuted` (R4) and, at text level, `print_parse_modulo_members`, `print_stable`, `print_parse_exact`.
    NOT covered: documents printed with `include_descriptions=False` (not part of the statement). -/
theorem print_parse_partial (fl : Flags) (hnl : fl.noLocation = true) (c : Cfg) :
    (∀ t, lexOkType t = true → noLocType t = true → wfType t = true →
      ∃ toks, lexAll (printType t) = .ok toks ∧ parseType fl toks = .ok t) ∧
    (∀ v, lexOkValue c.indent v → noLocValue v = true → wfValue false v = true →
      ∃ toks, lexAll (printValue c v) = .ok toks ∧ parseValue fl toks = .ok v) :=
  ⟨fun t a b d => print_parse_type fl hnl t a b d, fun v a b d => print_parse_value fl hnl c v a b d⟩

end PyGql.Props.C03
