/-
  C12 — finding H12 at TEXT level: descriptions with OVER-LONG lines (`wrapped_lines`).

  `print_description` passes the lines of a description through `_string_utils.wrapped_lines(lines, 120 - len(indent))`:
  a line that is too long is split at the word boundaries space / `-` / `_` (`_split_words_with_boundaries`) and
  re-assembled greedily; a space that would start a piece is dropped, the other boundary characters are kept.  Both printer
  models contain it exactly (`SdlPrint.wrappedLines` = `SdlPrintT.wrappedLines`: `SdlModels.wrappedLines_map`; the loop
  was compared with the source line by line — also the corner that an unbreakable word longer than the width yields an
  EMPTY piece before it).  The library's own descriptions (7 introspection types, `@deprecated(reason:)`) have such lines;
  `descTextOK` excludes them by its width clause.

  PROVED (`wrapped_description_lexes`): for every indentation over {space, tab}, every depth and position, a description
  that satisfies `descWrapOK` — `descTextOK` WITHOUT the width clause, its shape conditions asked of the wrapped lines — is
  printed as text that the lexer model reads as exactly ONE BlockString token, whose value is the wrapped lines joined by
  line feeds (`wrappedOf`).  So the PARSE half of the property holds for re-wrapped descriptions; the VALUE half does not:
  `h12_value_differs` — for a 121-character line with one space the value read back has a line feed (and keeps the space
  before it) where the description had a space: that is finding H12, stated on the model.  `descWrapOK_extends`: the predicate
  contains `descTextOK`, where the value IS the description (`wrapped_short_value`).

  The property theorems of this file: `wrapped_description_lexes` (the statement; its proof is `SdlText.wrapped_lexes`),
  `wrapped_description_lexes_string`, `h12_value_differs`.  Re-exports: `descWrapOK_extends` (= `descWrapOK_of_descTextOK`),
  `wrapped_short_value`; `T_h12Replay` is a step.
-/
import PyGqlModel.Lemmas.SdlTextWrap
import PyGqlModel.Lemmas.SdlModelsDesc
import PyGqlModel.Props.C12_h5
namespace PyGql.Props.C12
open PyGql PyGql.Sdl PyGql.SdlText PyGql.PrintLex PyGql.Lex PyGql.BlockString PyGql.Spec

/-- a description with over-long lines is still printed as one block string; its value is the re-joined wrapped lines -/
def WrappedDescriptionLexesStatement : Prop :=
  ∀ (o : SdlPrintT.OptsT), Blank o.indent → o.descriptions = true → ∀ (x : String) (depth : Nat) (first : Bool),
    descWrapOK (depth * o.indent.length) x = true →
    ∃ toks, lexAll (SdlPrintT.printDescription o (some x) depth first) =
        .ok (sofTok :: toks ++ [eofTok (SdlPrintT.printDescription o (some x) depth first).length]) ∧
      classes toks = [(.blockString, joinLF (wrappedOf (depth * o.indent.length) x))]

theorem wrapped_description_lexes : WrappedDescriptionLexesStatement :=
  fun o hind hdesc x depth first h => wrapped_lexes o hind hdesc x depth first h

/-- … and about the String-level model (the one with `include_introspection`, `printSchemaX`): same text -/
theorem wrapped_description_lexes_string (o : SdlPrint.Opts) (hind : Blank (SdlPrintT.T o.indent)) (hdesc : o.descriptions = true)
    (x : String) (depth : Nat) (first : Bool) (h : descWrapOK (depth * o.indent.length) x = true) :
    ∃ toks, lexAll (SdlPrintT.T (SdlPrint.printDescription o (some x) depth first)) =
        .ok (sofTok :: toks ++ [eofTok (SdlPrintT.T (SdlPrint.printDescription o (some x) depth first)).length]) ∧
      classes toks = [(.blockString, joinLF (wrappedOf (depth * o.indent.length) x))] := by
  rw [SdlModels.T_printDescription]
  have hl : (SdlModels.optsT o).indent.length = o.indent.length := SdlModels.T_length _
  have := wrapped_lexes (SdlModels.optsT o) hind hdesc x depth first (by rw [hl]; exact h)
  rw [hl] at this
  exact this

theorem descWrapOK_extends (w : Nat) (d : String) (h : descTextOK w d = true) : descWrapOK w d = true :=
  descWrapOK_of_descTextOK w d h

theorem wrapped_short_value (w : Nat) (d : String) (h : ∀ l ∈ SdlPrintT.splitLF (T d), l.length ≤ 120 - w) :
    joinLF (wrappedOf w d) = T d := by
  rw [wrappedOf_short w d h, joinLF_splitLF]

/-- the replay of finding H12 in `known_findings.json`: `'short\n' + 'y'*125 + ' z'` -/
def h12Replay : String := "short\n" ++ String.ofList (List.replicate 125 'y') ++ " z"

theorem T_h12Replay : T h12Replay = T "short\n" ++ (List.replicate 125 'y').map Char.toNat ++ T " z" := by
  simp only [h12Replay, T, SdlModels.T_append, SdlModels.T_ofList]

/-- finding H12 on the model: the 121-character line `w…w v…v` (outside `descTextOK`, inside `descWrapOK`) is printed as a
    block string whose value is NOT the description: the wrapped lines are `w…w␠` and `v…v`.  The same for the replay of the
    known finding, whose unbreakable 125-character word also gets an empty line before it. -/
theorem h12_value_differs :
    descTextOK 0 longLine = false ∧ descWrapOK 0 longLine = true ∧
    wrappedOf 0 longLine = [T (String.ofList (List.replicate 60 'w' ++ [' '])), T (String.ofList (List.replicate 60 'v'))] ∧
    joinLF (wrappedOf 0 longLine) ≠ T longLine ∧
    descWrapOK 0 h12Replay = true ∧ (wrappedOf 0 h12Replay).length = 4 ∧ joinLF (wrappedOf 0 h12Replay) ≠ T h12Replay := by
  simp only [descTextOK, descWrapOK, wrappedOf, ← SdlModels.T_isEmpty, T_longLine, T_h12Replay, SdlModels.T_ofList]
  decide +kernel

/-- non-vacuity of `wrapped_description_lexes`: the two H12 descriptions at depth 0 and, with a tab as indentation, at depth 2 -/
example : ∃ toks, lexAll (SdlPrintT.printDescription {} (some longLine) 0 true) =
      .ok (sofTok :: toks ++ [eofTok (SdlPrintT.printDescription {} (some longLine) 0 true).length]) ∧
    classes toks = [(.blockString, joinLF (wrappedOf 0 longLine))] :=
  wrapped_description_lexes {} (by intro c hc; simp at hc; exact Or.inl hc) rfl longLine 0 true h12_value_differs.2.1
set_option maxRecDepth 1000000 in
example : descWrapOK (2 * 1) h12Replay = true := by
  simp only [descWrapOK, wrappedOf, ← SdlModels.T_isEmpty, T_h12Replay]
  decide +kernel

set_option maxRecDepth 1000000 in
/-- outside the predicate: a single unbreakable word longer than the width is printed after an EMPTY first line (the block
    string drops it again: the value happens to be the description) -/
example : (wrappedOf 0 (String.ofList (List.replicate 125 'y'))).head? = some [] ∧
    descWrapOK 0 (String.ofList (List.replicate 125 'y')) = false := by
  simp only [descWrapOK, wrappedOf, ← SdlModels.T_isEmpty, SdlModels.T_ofList]
  decide +kernel

end PyGql.Props.C12
