/-
  C06 - **perm_selections / perm_arguments / alpha_fragments for OverlappingFieldsCanBeMerged
  as /repo runs it** (memoised search) - the rule that `tr_invariance_25_partial` leaves out - and therefore for ALL 26
  RULES (`tr_invariance_all26`, `perm_selections_all26`, `perm_arguments_all26`, `alpha_fragments_all26`) and for the
  verdict of the whole chain (`tr_verdict_invariance_memo`).

  Route (as `perm_definitions_overlap_memo`): `rule_overlapping_fields_memo_iff` + invariance of the clause of 5.3.2.
  `Tr` changes the selection lists themselves, so `SameDoc` does not apply; `Lemmas/ValidateOverlapSim.lean` transports
  the clause along a SIMULATION of documents (`OvSim`: maps on selection lists, fragment names, response names and
  collected fields; same node identities, same type conditions, same parent types shown by TypeInfoVisitor), and
  `Lemmas/ValidateOverlapSimTr.lean` shows that `T.doc d` simulates `d`.

  Hypotheses of the rule-level statement, each needed:
    * `Spec.uniqueArgumentNames d` - `_same_arguments` sorts the two argument lists by name with a STABLE sort; with a
      repeated name the outcome depends on the order (`perm_arguments_overlap_needs_unique_argument_names`). In the
      verdict-level statement it is not a hypothesis: it is the clause of another rule of the same chain;
    * the renaming is injective and produces no fragment named "" (the code never compares a fragment named "");
    * `ParentsAgree`, `WfIds`, non-empty names: the side conditions of `rule_overlapping_fields_memo_iff`.
-/
import PyGqlModel.Props.C06_inv_tr_subscriptions
import PyGqlModel.Props.C06_inv_permdefs
import PyGqlModel.Props.C06_inv_aliases
import PyGqlModel.Props.C06_overlap_perm
import PyGqlModel.Props.C06_head_memo
import PyGqlModel.Lemmas.ValidateOverlapSimTr
namespace PyGql.Props.C06
open PyGql PyGql.Validate PyGql.Validate.Spec

theorem overlapMemo_iff_of_sim {s : SchemaD} {fx : Fixes} {d d' : Doc} (S : OvSim s d d') (h7 : fx.v7 = true)
    (hpa : Spec.ParentsAgree s d) (hne : NamesNonEmpty d) (hne' : NamesNonEmpty d') (hw : WfIds d) (hw' : WfIds d') :
    (overlapMemoRun s fx d').1 = 0 ↔ (overlapMemoRun s fx d).1 = 0 := by
  rw [rule_overlapping_fields_memo_iff s fx h7 d hpa (noEmptyName_of hne) hw,
    rule_overlapping_fields_memo_iff s fx h7 d' (S.parentsAgree hpa) (noEmptyName_of hne') hw']
  exact S.clause_iff.symm

theorem all26_of {s : SchemaD} {fx : Fixes} {d d' : Doc}
    (h25 : ∀ r, r ≠ .overlappingFieldsCanBeMerged → (Silent s fx r d' ↔ Silent s fx r d))
    (hov : (overlapMemoRun s fx d').1 = 0 ↔ (overlapMemoRun s fx d).1 = 0) :
    ∀ r ∈ Rule.all, (SilentM s fx r d' ↔ SilentM s fx r d) := by
  intro r _
  by_cases ho : r = .overlappingFieldsCanBeMerged
  · subst ho
    rw [silentM_overlap, silentM_overlap]
    exact hov
  · rw [silentM_of_ne ho, silentM_of_ne ho]
    exact h25 r ho

theorem overlap_clause_tr (T : Tr) (hinj : ∀ a b, T.frag a = T.frag b → a = b) (s : SchemaD) (d : Doc)
    (hu : Spec.uniqueArgumentNames d) :
    Spec.overlappingFieldsCanBeMerged s (T.doc d) ↔ Spec.overlappingFieldsCanBeMerged s d :=
  (T.ovSim hinj s d hu).clause_iff.symm

theorem namesNonEmpty_tr (T : Tr) (d : Doc) (h : ∀ f ∈ Spec.fragNames d, T.frag f ≠ "") : NamesNonEmpty (T.doc d) := by
  intro f hf
  rw [T.fragNames_doc] at hf
  obtain ⟨g, hg, rfl⟩ := List.mem_map.mp hf
  exact h g hg

/-- **perm_selections / perm_arguments / alpha_fragments for `OverlappingFieldsCanBeMergedChecker` as /repo runs it** -/
theorem tr_invariance_overlap_memo (T : Tr) (hinj : ∀ a b, T.frag a = T.frag b → a = b) (s : SchemaD) (fx : Fixes)
    (h7 : fx.v7 = true) (d : Doc) (hu : Spec.uniqueArgumentNames d) (hpa : Spec.ParentsAgree s d)
    (hne : NamesNonEmpty d) (hne' : NamesNonEmpty (T.doc d)) (hw : WfIds d) :
    (overlapMemoRun s fx (T.doc d)).1 = 0 ↔ (overlapMemoRun s fx d).1 = 0 :=
  overlapMemo_iff_of_sim (T.ovSim hinj s d hu) h7 hpa hne hne' hw ((T.wfIds d).mpr hw)

/-- the statement for the whole chain as /repo runs it, rule by rule -/
def FullStatement_tr_invariance_all26 (T : Tr) (s : SchemaD) (fx : Fixes) (d : Doc) : Prop :=
  ∀ r ∈ Rule.all, (SilentM s fx r (T.doc d) ↔ SilentM s fx r d)

/-- **perm_selections / perm_arguments / alpha_fragments for ALL 26 RULES**, each rule alone, the overlap rule being the
    memoised one /repo runs. The hypotheses of `tr_invariance_25_partial` (unique fragment names, non-empty before and
    after the renaming) plus those of the overlap rule (see the header).
    [alone-run statement, see `Silent`; the chain: `chainM_six_transformations`] -/
theorem tr_invariance_all26 (T : Tr) (hinj : ∀ a b, T.frag a = T.frag b → a = b) (s : SchemaD) (fx : Fixes)
    (hfx : HeadVars fx) (d : Doc) (hnd : Spec.uniqueFragmentNames d) (hne : NamesNonEmpty d)
    (hne' : NamesNonEmpty (T.doc d)) (hu : Spec.uniqueArgumentNames d) (hpa : Spec.ParentsAgree s d) (hw : WfIds d) :
    FullStatement_tr_invariance_all26 T s fx d :=
  all26_of (tr_invariance_25_partial T hinj s fx hfx d hnd hne hne')
    (tr_invariance_overlap_memo T hinj s fx hfx.2.2.2 d hu hpa hne hne' hw)

/-- **perm_selections, all 26 rules** -/
theorem perm_selections_all26 (π : List Sel → List Sel) (hπ : ∀ l, (π l).Perm l) (s : SchemaD) (fx : Fixes)
    (hfx : HeadVars fx) (d : Doc) (hnd : Spec.uniqueFragmentNames d) (hne : NamesNonEmpty d)
    (hu : Spec.uniqueArgumentNames d) (hpa : Spec.ParentsAgree s d) (hw : WfIds d) :
    FullStatement_tr_invariance_all26 (Tr.mk π id id hπ (fun _ => List.Perm.refl _)) s fx d :=
  tr_invariance_all26 _ (fun _ _ e => e) s fx hfx d hnd hne (namesNonEmpty_tr _ d hne) hu hpa hw

/-- **perm_arguments, all 26 rules** (argument names pairwise different: necessary, see the header) -/
theorem perm_arguments_all26 (π : List Arg → List Arg) (hπ : ∀ l, (π l).Perm l) (s : SchemaD) (fx : Fixes)
    (hfx : HeadVars fx) (d : Doc) (hnd : Spec.uniqueFragmentNames d) (hne : NamesNonEmpty d)
    (hu : Spec.uniqueArgumentNames d) (hpa : Spec.ParentsAgree s d) (hw : WfIds d) :
    FullStatement_tr_invariance_all26 (Tr.mk id π id (fun _ => List.Perm.refl _) hπ) s fx d :=
  tr_invariance_all26 _ (fun _ _ e => e) s fx hfx d hnd hne (namesNonEmpty_tr _ d hne) hu hpa hw

/-- **alpha_fragments, all 26 rules** (injective renaming that produces no empty name) -/
theorem alpha_fragments_all26 (ρ : String → String) (hρ : ∀ a b, ρ a = ρ b → a = b) (s : SchemaD) (fx : Fixes)
    (hfx : HeadVars fx) (d : Doc) (hnd : Spec.uniqueFragmentNames d) (hne : NamesNonEmpty d)
    (hne' : ∀ f ∈ Spec.fragNames d, ρ f ≠ "")
    (hu : Spec.uniqueArgumentNames d) (hpa : Spec.ParentsAgree s d) (hw : WfIds d) :
    FullStatement_tr_invariance_all26 (Tr.mk id id ρ (fun _ => List.Perm.refl _) (fun _ => List.Perm.refl _)) s fx d :=
  tr_invariance_all26 _ hρ s fx hfx d hnd hne (namesNonEmpty_tr _ d hne') hu hpa hw

/-- what the silence of the 25 other rules gives to the overlap rule: unique fragment names, the clause of every one of
    them, `ParentsAgree` -/
theorem clauses_of_silent25 (s : SchemaD) (fx : Fixes) (hfx : HeadVars fx) (hs : SchemaOutputs s) (d : Doc)
    (hd : DocOkM s d) (hsil : ∀ r ∈ Rule.all, r ≠ .overlappingFieldsCanBeMerged → Silent s fx r d) :
    (Spec.fragNames d).Nodup ∧ (∀ r ∈ Rule.all, r ≠ .overlappingFieldsCanBeMerged → SpecAll r s fx d) ∧
      Spec.ParentsAgree s d := by
  have hnd : (Spec.fragNames d).Nodup :=
    (rule_unique_fragment_names_iff s fx d).mp (hsil .uniqueFragmentNames (by decide +kernel) (by decide +kernel))
  have hc : ∀ r ∈ Rule.all, r ≠ .overlappingFieldsCanBeMerged → SpecAll r s fx d := fun r hr ho =>
    (rule_iff_nonoverlap s fx hfx d hd.names hnd r (provedAll_complete r hr) ho).mp (hsil r hr ho)
  exact ⟨hnd, hc, parentsAgree_of_rules s d hs (hc .scalarLeafs (by decide +kernel) (by decide +kernel))
    (hc .fragmentsOnCompositeTypes (by decide +kernel) (by decide +kernel)) ((noMetaSubsB_iff d).mp hd.checks.noMeta)
    ((wfIdsB_iff d).mp hd.checks.ids)⟩

/-- the verdicts on two documents agree if the 25 other rules agree on them and, where these are silent, so does the
    overlap rule: the hypotheses the overlap rule needs are clauses of the other rules, available on whichever side accepts -/
theorem verdict_iff_of_rules {s : SchemaD} {fx : Fixes} {d d' : Doc}
    (h25 : ∀ r ∈ Rule.all, r ≠ .overlappingFieldsCanBeMerged → (Silent s fx r d' ↔ Silent s fx r d))
    (key : (∀ r ∈ Rule.all, r ≠ .overlappingFieldsCanBeMerged → Silent s fx r d) →
      ((overlapMemoRun s fx d').1 = 0 ↔ (overlapMemoRun s fx d).1 = 0)) :
    (∀ r ∈ Rule.all, SilentM s fx r d') ↔ (∀ r ∈ Rule.all, SilentM s fx r d) := by
  constructor
  · intro h
    have hsil : ∀ r ∈ Rule.all, r ≠ .overlappingFieldsCanBeMerged → Silent s fx r d := fun r hr ho =>
      (h25 r hr ho).mp ((silentM_of_ne ho).mp (h r hr))
    intro r hr
    by_cases ho : r = .overlappingFieldsCanBeMerged
    · subst ho; exact silentM_overlap.mpr ((key hsil).mp (silentM_overlap.mp (h _ hr)))
    · exact (silentM_of_ne ho).mpr (hsil r hr ho)
  · intro h
    have hsil : ∀ r ∈ Rule.all, r ≠ .overlappingFieldsCanBeMerged → Silent s fx r d := fun r hr ho =>
      (silentM_of_ne ho).mp (h r hr)
    intro r hr
    by_cases ho : r = .overlappingFieldsCanBeMerged
    · subst ho; exact silentM_overlap.mpr ((key hsil).mpr (silentM_overlap.mp (h _ hr)))
    · exact (silentM_of_ne ho).mpr ((h25 r hr ho).mpr (hsil r hr ho))

/-- **the VERDICT of the chain /repo runs is invariant under `Tr`** - "every one of the 26 rule visitors is silent" holds
    for `T.doc d` iff it holds for `d`. No hypothesis about argument names, fragment names being unique or parent types:
    they are clauses of other rules of the same chain, available on whichever side accepts. What remains is what the
    headline theorems assume (`DocOkM`: `wfIdsB`, `noMetaSubsB`, non-empty names; `SchemaOutputs`) and that the
    renaming is injective and produces no empty name.
    [conjunction of the 26 alone runs, `SilentM`; the chain itself: `chainM_six_transformations`] -/
theorem tr_verdict_invariance_memo (T : Tr) (hinj : ∀ a b, T.frag a = T.frag b → a = b) (s : SchemaD) (fx : Fixes)
    (hfx : HeadVars fx) (hs : SchemaOutputs s) (d : Doc) (hd : DocOkM s d) (hne' : NamesNonEmpty (T.doc d)) :
    (∀ r ∈ Rule.all, SilentM s fx r (T.doc d)) ↔ (∀ r ∈ Rule.all, SilentM s fx r d) := by
  have hufn : Silent s fx .uniqueFragmentNames (T.doc d) ↔ Silent s fx .uniqueFragmentNames d :=
    tr_invariance_all_partial T hinj s fx d _ (by decide +kernel) (by decide +kernel)
  by_cases hu : Silent s fx .uniqueFragmentNames d
  · have hnd : (Spec.fragNames d).Nodup := (rule_unique_fragment_names_iff s fx d).mp hu
    refine verdict_iff_of_rules (fun r _ ho => tr_invariance_25_partial T hinj s fx hfx d hnd hd.names hne' r ho)
      fun hsil => ?_
    obtain ⟨_, hc, hpa⟩ := clauses_of_silent25 s fx hfx hs d hd hsil
    exact tr_invariance_overlap_memo T hinj s fx hfx.2.2.2 d
      ((rule_unique_argument_names_iff s fx d).mp (hsil .uniqueArgumentNames (by decide +kernel) (by decide +kernel))) hpa hd.names hne'
      ((wfIdsB_iff d).mp hd.checks.ids)
  · -- fragment names not unique: rejected on both sides
    exact ⟨fun h => absurd (hufn.mp ((silentM_of_ne (by decide +kernel)).mp (h .uniqueFragmentNames (by decide +kernel)))) hu,
      fun h => absurd ((silentM_of_ne (by decide +kernel)).mp (h .uniqueFragmentNames (by decide +kernel))) hu⟩

/-! non-vacuity: `{ ...A ...B } fragment A on Query { x: a } fragment B on Query { x: a }` with every selection list
    reversed and the fragments renamed `A ↦ A_`, `B ↦ B_` -/
def revRenameTr : Tr := Tr.mk List.reverse List.reverse (· ++ "_") (fun l => l.reverse_perm) (fun l => l.reverse_perm)

theorem revRenameTr_inj : ∀ a b : String, revRenameTr.frag a = revRenameTr.frag b → a = b := suffix_inj

example : (overlapMemoRun oSchema Fixes.all (revRenameTr.doc (oDocFrag "a"))).1 = 0 ↔
    (overlapMemoRun oSchema Fixes.all (oDocFrag "a")).1 = 0 :=
  tr_invariance_overlap_memo revRenameTr revRenameTr_inj oSchema Fixes.all rfl (oDocFrag "a")
    ((rule_unique_argument_names_iff oSchema Fixes.all _).mp (by unfold Silent; decide +kernel))
    (parentsAgree_frag "a") (by unfold NamesNonEmpty; decide +kernel) (by unfold NamesNonEmpty; decide +kernel)
    (by rw [← wfIdsB_iff]; decide +kernel)

/-- all 26 rules at once on the same instance (unique fragment names, non-empty before and after the renaming) -/
example : FullStatement_tr_invariance_all26 revRenameTr oSchema Fixes.all (oDocFrag "a") :=
  tr_invariance_all26 revRenameTr revRenameTr_inj oSchema Fixes.all headVars_all (oDocFrag "a")
    (by unfold Spec.uniqueFragmentNames; decide +kernel) (by unfold NamesNonEmpty; decide +kernel) (by unfold NamesNonEmpty; decide +kernel)
    ((rule_unique_argument_names_iff oSchema Fixes.all _).mp (by unfold Silent; decide +kernel))
    (parentsAgree_frag "a") (by rw [← wfIdsB_iff]; decide +kernel)

/-- the transformed document really is another one (the spreads are swapped and renamed) -/
example : (revRenameTr.doc (oDocFrag "a")).defs.head? = some (opV [] 1 [sp "B_", sp "A_"]) := by
  simp [revRenameTr, Tr.doc, oDocFrag, Tr.defn, Tr.selList, Tr.sel, opV, sp, fragQ]

/-- the statement for the whole chain as /repo runs it, rule by rule -/
def FullStatement_perm_definitions_all26 (s : SchemaD) (fx : Fixes) (d d' : Doc) : Prop :=
  ∀ r ∈ Rule.all, (SilentM s fx r d ↔ SilentM s fx r d')

/-- **perm_definitions for ALL 26 RULES** (`perm_definitions_all25_partial` + `perm_definitions_overlap_memo`): the
    hypotheses of the former (each needed: "the last definition wins") and the side conditions of the overlap theorem
    [alone-run statement, see `Silent`; the chain: `chainM_six_transformations`] -/
theorem perm_definitions_all26 (s : SchemaD) (fx : Fixes) (hfx : HeadVars fx) {d d' : Doc}
    (h : d.defs.Perm d'.defs) (hnd : Spec.uniqueFragmentNames d) (hne : NamesNonEmpty d) (hk : Spec.uniqueOpKeys d)
    (hv : Spec.uniqueVariableNames d) (hpa : Spec.ParentsAgree s d) (hw : WfIds d) :
    FullStatement_perm_definitions_all26 s fx d d' :=
  all26_of (perm_definitions_all25_partial s fx hfx h hnd hne hk hv)
    (perm_definitions_overlap_memo s fx hfx.2.2.2 h hnd hpa (noEmptyName_of hne) hw)

example : FullStatement_perm_definitions_all26 oSchema Fixes.all (oDocFrag "a") ⟨(oDocFrag "a").defs.reverse⟩ :=
  perm_definitions_all26 oSchema Fixes.all headVars_all (List.reverse_perm _).symm
    (by unfold Spec.uniqueFragmentNames; decide +kernel) (by unfold NamesNonEmpty; decide +kernel) (by unfold Spec.uniqueOpKeys; decide +kernel)
    (by
      intro x hx k n vs ds i ss e
      simp only [oDocFrag, opV, fragQ, List.mem_cons, List.not_mem_nil, or_false] at hx
      rcases hx with rfl | rfl | rfl
      · simp only [Def.op.injEq] at e; obtain ⟨_, _, rfl, _⟩ := e; decide +kernel
      · cases e
      · cases e)
    (parentsAgree_frag "a") (by rw [← wfIdsB_iff]; decide +kernel)

end PyGql.Props.C06
