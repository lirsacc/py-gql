/-
  C14 — MIXED runs: "all sequences of clone / transform / extend operations applied to the same source".

  `runOps` applies any sequence of `transform_schema(source, *visitors)` (`[]` = `clone()`) and `extend_schema(source, ext)` to ONE
  source and keeps every result. `run_ops_untouched_preserved` (FULL, induction over the sequence): at the end of the run
  * no object of the source was written; the source is still closed and well-formed;
  * every TRANSFORM result is still closed, well-formed and `TRel` to the source (`ResultIntact`, Props/C14_sequence.lean);
  * every EXTENSION result still registers, under the name of every non-protected source type, a rebuilt object that keeps the
    type's attributes (`TypeKept`) and whose member list is — in order — a fresh rebuilt copy of every source member
    (`MembersRel`: field / argument / input-field attributes as far as the constructors pass them on, all of them for the
    variant of /repo) followed by what the extension adds (`ExtIntact`): exactly the conclusion of `untouched_preserved_extend`,
    now read in the FINAL heap and against the source as it was when the run started; and it is still closed and well-formed
    (`extend_closed_wf`; the documents only use defined names and define new, non-reserved, distinct type names: `ExtOK`).
  Closedness and well-formedness of the extension results, and operations applied to the RESULT of any earlier step, are
  `extend_closed_wf` (Props/C14_extend_closed.lean) and `history_closed_framed` (Props/C14_history.lean).
-/
import PyGqlModel.Props.C14_sequence
import PyGqlModel.Props.C14_extend_closed


namespace PyGql.Props.C14
open PyGql.Heap PyGql.Heap.Own

inductive Op where
  | transform (vs : List Visitor)
  | extend (ext : Ext)

inductive Res where
  | transformed (vs : List Visitor) (s' : Schema)
  | extended (ext : Ext) (s' : Schema)

/-- the run: every operation applied to the SAME source `s`; the final heap and all results, in order -/
def runOps (cfg : Cfg) (fuel : Nat) (s : Schema) : List Op → Heap → Option (Heap × List Res)
  | [], h => some (h, [])
  | .transform vs :: rest, h =>
    match transform cfg fuel vs s h with
    | none => none
    | some r =>
      match runOps cfg fuel s rest r.1 with
      | none => none
      | some rr => some (rr.1, .transformed vs r.2 :: rr.2)
  | .extend ext :: rest, h =>
    match runOps cfg fuel s rest (extend cfg ext s h).1 with
    | none => none
    | some rr => some (rr.1, .extended ext (extend cfg ext s h).2 :: rr.2)

/-- what `untouched_preserved_extend` says about an extension result `s'` of source `(h0, s)`, read in heap `hN` -/
def ExtIntact (cfg : Cfg) (ext : Ext) (h0 : Heap) (s : Schema) (hN : Heap) (s' : Schema) : Prop :=
  ∀ n a t, (n, a) ∈ s.types → isProtected n = false → h0.readType a = some t →
    ∃ N a' t' kept added, lookup s'.types n = some a' ∧ hN.readType a' = some t' ∧ TypeKept cfg t t' ∧ t'.fields = kept ++ added ∧
      MembersRel cfg N h0 hN h0.size t kept ∧ (assocD ext.fields t.name = [] → assocD ext.inputFields t.name = [] → added = [])

def OpOK (s : Schema) : Op → Prop
  | .transform vs => ∀ v, v ∈ vs → NoWrap v
  | .extend ext => ExtOK s ext ∧ ∀ e, e ∈ ext.newTypes → isProtected e.1 = false

def ResIntact (cfg : Cfg) (h0 : Heap) (s : Schema) (hN : Heap) : Res → Prop
  | .transformed vs s' => ResultIntact h0 s hN (vs, s')
  | .extended ext s' => ExtIntact cfg ext h0 s hN s' ∧ closedB hN s' = true ∧ wfB hN s' = true

private theorem argRelB_source_frame {k : Bool} {N : List (String × Addr)} {h0 h hout : Heap} (f : Frame h0 h) {a c : Addr}
    (hr : ∃ g, h0.readArg a = some g) (r : ArgRelB k N h hout h.size a c) : ArgRelB k N h0 hout h0.size a c := by
  obtain ⟨g0, hg0⟩ := hr
  obtain ⟨hlo, g, g', h1, h2, hk⟩ := r
  rw [f.readArg hg0] at h1
  cases h1
  exact ⟨Nat.le_trans f.1 hlo, g0, g', hg0, h2, hk⟩

private theorem fieldRelB_source_frame {cfg : Cfg} {N : List (String × Addr)} {h0 h hout : Heap} (f : Frame h0 h) {a c : Addr}
    (hr : ∃ f0, h0.readField a = some f0 ∧ ∀ x, x ∈ f0.args → ∃ g, h0.readArg x = some g) (r : FieldRelB cfg N h hout h.size a c) :
    FieldRelB cfg N h0 hout h0.size a c := by
  obtain ⟨f0, hf0, hargs⟩ := hr
  obtain ⟨hlo, fs, f', h1, h2, hk, ha⟩ := r
  rw [f.readField hf0] at h1
  cases h1
  exact ⟨Nat.le_trans f.1 hlo, f0, f', hf0, h2, hk, ha.imp_mem fun x hx c' rc => argRelB_source_frame f (hargs x hx) rc⟩

/-- the SOURCE side of `MembersRel` may be read in the heap the source was created in -/
theorem membersRel_source_frame {cfg : Cfg} {N : List (String × Addr)} {h0 h hout : Heap} (f : Frame h0 h) {t : TypeO} {kept : List Addr}
    (hm : MembersReadable h0 t) (r : MembersRel cfg N h hout h.size t kept) : MembersRel cfg N h0 hout h0.size t kept := by
  exact membersRel_iff.mpr (((membersReadable_iff.mp hm).and (membersRel_iff.mp r)).imp
    (fun ⟨hm, r⟩ => r.imp_mem fun x hx c rc => fieldRelB_source_frame f (hm x hx) rc)
    (fun ⟨hm, r⟩ => r.imp_mem fun x hx c rc => argRelB_source_frame f (hm x hx) rc) fun ⟨_, r⟩ => r)

theorem ExtIntact.frame {cfg : Cfg} {ext : Ext} {h0 : Heap} {s : Schema} {h1 h2 : Heap} {s' : Schema} (f : Frame h1 h2)
    (i : ExtIntact cfg ext h0 s h1 s') : ExtIntact cfg ext h0 s h2 s' := by
  intro n a t hm hp ht
  obtain ⟨N, a', t', kept, added, g1, g2, g3, g4, g5, g6⟩ := i n a t hm hp ht
  refine ⟨N, a', t', kept, added, g1, ?_, g3, g4, ?_, g6⟩
  · exact f.readType g2
  · exact g5.keep ⟨f.1, fun c hc _ => f.2 c hc⟩

theorem ResIntact.frame {cfg : Cfg} {h0 : Heap} {s : Schema} {h1 h2 : Heap} (f : Frame h1 h2) {r : Res}
    (i : ResIntact cfg h0 s h1 r) : ResIntact cfg h0 s h2 r := by
  cases r with
  | transformed vs s' => exact ResultIntact.frame f i
  | extended ext s' => exact ⟨ExtIntact.frame f i.1, closedB_frame f s' i.2.1, wfB_frame f s' i.2.2⟩

/-- general form (the source lives in `h0`, the run starts in a later heap `h` that frames it) -/
theorem runOps_intact (cfg : Cfg) (hd : cfg.deepClone = true) (hk : cfg.keepAllTypes = true) (hacc : cfg.accumulateBusted = true)
    (hx : cfg.extKeepAll = true) (hin : cfg.extInputFieldExtended = true) (fuel : Nat) (s : Schema) (h0 : Heap) (hc0 : closedB h0 s = true) (hw0 : wfB h0 s = true) :
    ∀ (ops : List Op), (∀ o, o ∈ ops → OpOK s o) → ∀ (h hN : Heap) (rs : List Res),
      Frame h0 h → runOps cfg (2 + fuel) s ops h = some (hN, rs) →
      Frame h hN ∧ rs.length = ops.length ∧ ∀ r, r ∈ rs → ResIntact cfg h0 s hN r := by
  intro ops
  induction ops with
  | nil =>
    intro _ h hN rs _ e
    simp only [runOps, Option.some.injEq, Prod.mk.injEq] at e
    obtain ⟨rfl, rfl⟩ := e
    exact ⟨Frame.refl h, rfl, by simp⟩
  | cons o rest ih =>
    intro hv h hN rs f0 e
    have hc : closedB h s = true := closedB_frame f0 s hc0
    have hw : wfB h s = true := wfB_frame f0 s hw0
    have hvr : ∀ o', o' ∈ rest → OpOK s o' := fun o' ho' => hv o' (List.mem_cons_of_mem _ ho')
    -- the result `r0` of this operation, as it stands in the heap `h1` right after it, carried through the rest of the run
    have step : ∀ (h1 : Heap) (r0 : Res), Frame h h1 → ResIntact cfg h0 s h1 r0 → ∀ rr, runOps cfg (2 + fuel) s rest h1 = some rr →
        Frame h rr.1 ∧ (r0 :: rr.2).length = (o :: rest).length ∧ ∀ r, r ∈ r0 :: rr.2 → ResIntact cfg h0 s rr.1 r := by
      intro h1 r0 f1 i0 rr hrr
      obtain ⟨f2, e2, i2⟩ := ih hvr h1 rr.1 rr.2 (f0.trans f1) hrr
      refine ⟨f1.trans f2, by simp [e2], fun r hrm => ?_⟩
      rcases List.mem_cons.1 hrm with rfl | hrm
      · exact i0.frame f2
      · exact i2 r hrm
    cases o with
    | transform vs =>
      have hvs : ∀ v, v ∈ vs → NoWrap v := hv (.transform vs) (by simp)
      simp only [runOps] at e
      split at e
      · cases e
      · rename_i r hr
        split at e
        · cases e
        · rename_i rr hrr
          cases e
          exact step r.1 (.transformed vs r.2) (clone_frames_source cfg hd (2 + fuel) vs s h r.1 r.2 hc hr)
            (transform_resultIntact cfg hd hk hacc fuel s h0 hc0 hw0 hvs f0 hr) rr hrr
    | extend ext =>
      obtain ⟨hok, hnp⟩ : ExtOK s ext ∧ ∀ e, e ∈ ext.newTypes → isProtected e.1 = false := hv (.extend ext) (by simp)
      simp only [runOps] at e
      split at e
      · cases e
      · rename_i rr hrr
        cases e
        refine step _ (.extended ext (extend cfg ext s h).2) (extend_frames_source cfg ext s h)
          ⟨fun n a t hm hp ht0 => ?_, extend_closed_wf cfg hx hin ext s h hc hw hok hnp⟩ rr hrr
        obtain ⟨N, a', t', kept, added, g1, g2, g3, g4, g5, g6⟩ :=
          untouched_preserved_extend cfg hx ext s h hw hok.2.2 n a t hm hp (f0.readType ht0)
        exact ⟨N, a', t', kept, added, g1, g2, g3, g4,
          membersRel_source_frame f0 (membersReadable_of_shape _ h0 a t ht0 ((wfs_of_wfB hw0).types (n, a) hm)) g5, g6⟩

/-- FULL `untouched_preserved` over a whole MIXED run of transforms and extensions of one source (see the header) -/
theorem run_ops_untouched_preserved (cfg : Cfg) (hd : cfg.deepClone = true) (hk : cfg.keepAllTypes = true)
    (hacc : cfg.accumulateBusted = true) (hx : cfg.extKeepAll = true) (hin : cfg.extInputFieldExtended = true) (fuel : Nat) (s : Schema) (h : Heap)
    (hc : closedB h s = true) (hw : wfB h s = true) (ops : List Op) (hv : ∀ o, o ∈ ops → OpOK s o) (hN : Heap) (rs : List Res)
    (e : runOps cfg (2 + fuel) s ops h = some (hN, rs)) :
    Frame h hN ∧ closedB hN s = true ∧ wfB hN s = true ∧ rs.length = ops.length ∧ ∀ r, r ∈ rs → ResIntact cfg h s hN r := by
  obtain ⟨f, e1, i⟩ := runOps_intact cfg hd hk hacc hx hin fuel s h hc hw ops hv h hN rs (Frame.refl h) e
  exact ⟨f, closedB_frame f s hc, wfB_frame f s hw, e1, i⟩

theorem runOps_total (cfg : Cfg) (hd : cfg.deepClone = true) (hk : cfg.keepAllTypes = true) (hacc : cfg.accumulateBusted = true)
    (fuel : Nat) (s : Schema) : ∀ (ops : List Op) (h : Heap), closedB h s = true → wfB h s = true →
      (runOps cfg (2 + fuel) s ops h).isSome = true := by
  intro ops
  induction ops with
  | nil => intro h _ _; rfl
  | cons o rest ih =>
    intro h hc hw
    cases o with
    | transform vs =>
      obtain ⟨h1, s1, e1, _, _⟩ := transform_closed_total cfg hd hk hacc vs s h hc hw fuel
      have f1 := clone_frames_source cfg hd (2 + fuel) vs s h h1 s1 hc e1
      obtain ⟨rr, hrr⟩ := Option.isSome_iff_exists.mp (ih h1 (closedB_frame f1 s hc) (wfB_frame f1 s hw))
      simp [runOps, e1, hrr]
    | extend ext =>
      have f1 := extend_frames_source cfg ext s h
      obtain ⟨rr, hrr⟩ := Option.isSome_iff_exists.mp (ih _ (closedB_frame f1 s hc) (wfB_frame f1 s hw))
      simp [runOps, hrr]

private theorem extOK_zed' : ExtOK s0 zed := zed_extOK

/-- non-vacuity on the witness: transform, extend, clone, extend again — all from the same source -/
example : closedB h0 s0 = true ∧ wfB h0 s0 = true ∧ OpOK s0 (.transform [.vis hideDog, .camel id]) ∧ OpOK s0 (.extend zed) ∧
    ((runOps Cfg.fixed (2 + 6) s0 [.transform [.vis hideDog, .camel id], .extend zed, .transform [], .extend zed] h0).map
      fun r => r.2.length) = some 4 := by
  have ok1 : OpOK s0 (.transform [.vis hideDog, .camel id]) := fun v hv => by
    simp only [List.mem_cons, List.not_mem_nil, or_false] at hv
    rcases hv with rfl | rfl <;> trivial
  have ok2 : OpOK s0 (.extend zed) := ⟨extOK_zed', by decide +kernel⟩
  refine ⟨s0_closed, s0_wf, ok1, ok2, ?_⟩
  have hv : ∀ o, o ∈ [Op.transform [.vis hideDog, .camel id], .extend zed, .transform [], .extend zed] → OpOK s0 o := by
    intro o ho
    simp only [List.mem_cons, List.not_mem_nil, or_false] at ho
    rcases ho with rfl | rfl | rfl | rfl
    · exact ok1
    · exact ok2
    · exact fun _ hv => nomatch hv
    · exact ok2
  -- the run succeeds (`runOps_total`) and keeps one result per operation
  obtain ⟨⟨hN, rs⟩, e⟩ := Option.isSome_iff_exists.mp (runOps_total Cfg.fixed rfl rfl rfl 6 s0 _ h0 s0_closed s0_wf)
  rw [e]
  exact congrArg some (run_ops_untouched_preserved Cfg.fixed rfl rfl rfl rfl rfl 6 s0 h0 s0_closed s0_wf _ hv hN rs e).2.2.2.1

end PyGql.Props.C14
