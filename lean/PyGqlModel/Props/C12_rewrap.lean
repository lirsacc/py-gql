/-
  C12 — finding H12, the two classes the check reports (`H12:description-rewrapped:changed` / `:not-a-fixpoint`), on the
  model.  The description read back from the printed text is `rewrapS` (the wrapped lines joined by line feeds,
  `wrapped_description_lexes`).  PROVED (`rewrapped_description_fixpoint`): when the wrapped lines FIT the width, printing
  the re-wrapped description gives exactly the text of the original — the printed text is a fixpoint from the first round
  although the description changed.  REFUTED without the premise (`h12_not_a_fixpoint`): an unbreakable word longer than the
  width (the replay of the known finding) is wrapped AGAIN — an empty line appears before it — and the second text differs.

  The property theorems of this file: `rewrapped_description_fixpoint`, `h12_not_a_fixpoint`, `printSchemaT_rewrap_invariant`,
  `print_schema_text_parses_rewrapped`, `text_roundtrip_rewrapped`.  `rewrapS_value` re-exports `SdlText.T_rewrapS`.
-/
import PyGqlModel.Lemmas.SdlTextRewrapPrint
import PyGqlModel.Props.C12_wrap
import PyGqlModel.Props.C12_text
namespace PyGql.Props.C12
open PyGql PyGql.Sdl PyGql.SdlText PyGql.BlockString PyGql.SdlPrint

/-- For every space/tab-or-not indent, depth and position: a description inside `descWrapOK` whose wrapped lines fit
    the width is printed exactly like its re-wrapped form (`printDescription_rewrap` of `Lemmas/SdlTextRewrap.lean`) -/
theorem rewrapped_description_fixpoint (o : SdlPrintT.OptsT) (hdesc : o.descriptions = true) (x : String) (depth : Nat) (first : Bool)
    (h : descWrapOK (depth * o.indent.length) x = true)
    (hfit : ∀ l ∈ wrappedOf (depth * o.indent.length) x, l.length ≤ 120 - depth * o.indent.length) :
    SdlPrintT.printDescription o (some (rewrapS (depth * o.indent.length) x)) depth first =
      SdlPrintT.printDescription o (some x) depth first :=
  printDescription_rewrap o hdesc x depth first h hfit

theorem rewrapS_value (w : Nat) (d : String) : T (rewrapS w d) = joinLF (wrappedOf w d) := T_rewrapS w d

/-- The premise "the wrapped lines fit" is needed: the replay of the known finding has a
    125-character word; its re-wrapped form is printed differently (the word is wrapped again) -/
theorem h12_not_a_fixpoint :
    ¬ (∀ l ∈ wrappedOf 0 h12Replay, l.length ≤ 120) ∧
    SdlPrintT.printDescription {} (some (rewrapS 0 h12Replay)) 0 true ≠ SdlPrintT.printDescription {} (some h12Replay) 0 true := by
  simp only [SdlPrintT.printDescription, ← SdlModels.T_isEmpty, T_rewrapS, wrappedOf, T_h12Replay]
  decide +kernel

set_option maxRecDepth 1000000 in
/-- non-vacuity: the 121-character line with one space — changed (`h12_value_differs`), but a text fixpoint -/
example : SdlPrintT.printDescription {} (some (rewrapS 0 longLine)) 0 true = SdlPrintT.printDescription {} (some longLine) 0 true :=
  rewrapped_description_fixpoint {} rfl longLine 0 true h12_value_differs.2.1 <| by
    show ∀ l ∈ wrappedOf 0 longLine, l.length ≤ 120
    simp only [h12_value_differs.2.2.1, SdlModels.T_ofList]
    decide +kernel

/-! ### the whole schema: the text theorems WITHOUT the width clause

`rewrapSchema i s` is `s` with every description replaced by what is read back from its printed form (type and directive
descriptions at width 0, field / enum value / input field / directive argument descriptions at one indent, field
argument descriptions at two).  `schemaRewrapOK` asks `descWrapOK` and "the wrapped lines fit" of every description. -/

/-- The printer cannot tell a schema from its re-wrapped form: same text (`printSchemaT_rewrap` of
    `Lemmas/SdlTextRewrapPrint.lean`) -/
theorem printSchemaT_rewrap_invariant (o : SdlPrintT.OptsT) (s : SchemaD) (h : schemaRewrapOK o.indent.length s = true) :
    SdlPrintT.printSchemaT o (rewrapSchema o.indent.length s) = SdlPrintT.printSchemaT o s :=
  printSchemaT_rewrap o s h

/-- `print_schema_text_parses` beyond its width clause: the printed text of a schema
    with over-long description lines is accepted by lexer and parser and parses to the tree of the document of the
    RE-WRAPPED schema (the lexical predicate is asked of the re-wrapped schema, whose lines fit) -/
theorem print_schema_text_parses_rewrapped (o : SdlPrintT.OptsT) (s : SchemaD) (hr : schemaRewrapOK o.indent.length s = true)
    (hwf : printTextWF o (rewrapSchema o.indent.length s) = true) :
    parseSdlTextT (SdlPrintT.printSchemaT o s) = docToAst (printedDoc (rewrapSchema o.indent.length s)) := by
  rw [← printSchemaT_rewrap o s hr]
  exact print_schema_text_parses o _ hwf

/-- Finding H12 at the level of the property: the printed text of `s` parses to a document
    that builds the RE-WRAPPED schema (up to the order of definitions) — and, by `printSchemaT_rewrap_invariant`, printing
    that schema gives the same text again -/
theorem text_roundtrip_rewrapped (o : SdlPrintT.OptsT) (s : SchemaD) (hr : schemaRewrapOK o.indent.length s = true)
    (hwf : printTextWF o (rewrapSchema o.indent.length s) = true) (hb : printBuildWF (rewrapSchema o.indent.length s) = true) :
    ∃ (d : Ast.Document) (doc : Doc) (s' : SchemaD), parseSdlTextT (SdlPrintT.printSchemaT o s) = some d ∧ docToAst doc = some d ∧
      build doc = .ok s' ∧ SameUpToOrder s' (rewrapSchema o.indent.length s) ∧
      SdlPrintT.printSchemaT o (rewrapSchema o.indent.length s) = SdlPrintT.printSchemaT o s := by
  obtain ⟨d, doc, s', h1, h2, h3, h4⟩ := text_roundtrip_final o (rewrapSchema o.indent.length s) hwf hb
  rw [printSchemaT_rewrap o s hr] at h1
  exact ⟨d, doc, s', h1, h2, h3, h4, printSchemaT_rewrap o s hr⟩

/-- a schema with the 121-character description on a type, a field and an argument -/
def longDescSchema : SchemaD :=
  { types := [{ kind := .object, name := "Query", desc := some longLine,
                fields := [{ name := "f", type := .named "Int", desc := some longLine,
                             args := [{ name := "a", type := .named "Int", desc := some longLine }] }] }],
    query := some "Query" }

/-- what is read back from `longLine` at the three indentations of `longDescSchema` -/
private theorem rewrapS_longLine : ∀ w ∈ [0, 4, 8],
    rewrapS w longLine = String.ofList (List.replicate 60 'w' ++ [' ', '\n'] ++ List.replicate 60 'v') := by
  intro w hw
  refine SdlModels.T_inj.1 ?_
  simp only [T_rewrapS, wrappedOf, T_longLine, SdlModels.T_ofList]
  revert w
  decide +kernel

set_option maxRecDepth 1000000 in
example : schemaRewrapOK 4 longDescSchema = true ∧ printTextWF {} longDescSchema = false ∧
    printTextWF {} (rewrapSchema 4 longDescSchema) = true ∧ printBuildWF (rewrapSchema 4 longDescSchema) = true := by
  have hne : longLine.isEmpty = false := by simp only [← SdlModels.T_isEmpty, T_longLine]; rfl
  simp only [longDescSchema, rewrapSchema, rewrapType, rewrapField, rewrapArg, rewrapOpt, List.map_cons, List.map_nil,
    Option.map_some, hne, Bool.false_eq_true, if_false, rewrapS_longLine 0 (by decide), rewrapS_longLine 4 (by decide),
    rewrapS_longLine (2 * 4) (by decide)]
  -- the text-level predicates are unfolded down to the descriptions, which are then given as code points
  simp only [schemaRewrapOK, typeRewrapOK, fieldRewrapOK, argRewrapOK, descRewrapOK, List.all_cons, List.all_nil, printTextWF,
    typeOKT, fieldOKT, argOKT, descOKT, descTextOK, descWrapOK, wrappedOf, ← SdlModels.T_isEmpty, T_longLine, SdlModels.T_ofList]
  decide +kernel

end PyGql.Props.C12
