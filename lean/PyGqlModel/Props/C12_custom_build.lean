/-
  C12 — the builder ignores the applied custom directives of the document the printer denotes:
  `build (schemaToDocA s c apps) = .ok s` (no erasure).  The document and its erasure build the same
  (`build_ignores_custom`), and the erasure is the directive-free document with the printer's `schema` block
  (`erased_eq_schemaToDocB`, `print_build_roundtrip_block`): that is the proof of `print_build_roundtrip_custom`.
  The section before it states, function by function of the builder model (`value_from_ast`, the thunk guard, `build_*`),
  that the two environments `docEnvA` / `docEnv` ("same definitions up to custom applications") give the same result; each
  is the instance of its `EnvErase` lemma (`Lemmas/SdlEraseEnv.lean`), and the headline does not go through them.

  The property theorems of this file: `print_build_roundtrip_custom`, `text_roundtrip_custom_build`, `text_roundtrip_custom_final`.
-/
import PyGqlModel.Props.C12_erase_all
import PyGqlModel.Props.C12_custom
namespace PyGql.Props.C12
open PyGql PyGql.Sdl PyGql.SdlSpec PyGql.SdlPrint PyGql.SdlText PyGql.SdlPrintTA PyGql.Props.C11

section
variable (s : SchemaD) (c : OptsA) (apps : Apps)

/-- what the builder sees when it reads the document WITH applied directives -/
def docEnvA : Env := Env.of (s.types.map (typeToDefA s c apps))

theorem docEnvA_findAdditional (n : String) : (docEnvA s c apps).findAdditional n = none := rfl

theorem docEnvA_findDef (n : String) : (docEnvA s c apps).findDef n = (s.findType n).map (typeToDefA s c apps) :=
  List.find?_map

/-- `docEnv s` is the erased view of `docEnvA s c apps`, so the congruences of `Lemmas/SdlEraseEnv.lean` apply: every
    statement of this section is one of them, read from right to left, at a definition of the printer's document. -/
private theorem envErase_docEnvA : EnvErase (docEnv s) (docEnvA s c apps) := by
  have h := envErase_of (s.types.map (typeToDefA s c apps)) []
  rwa [List.map_map, funext (eraseType_typeToDefA s c apps) (f := eraseType ∘ _)] at h

private theorem map_eraseIV_argToDefA (path : String) (l : List ArgD) : (l.map (argToDefA s c apps path)).map eraseIV = l.map (argToDef s) := by
  rw [List.map_map, funext (eraseIV_argToDefA s c apps path) (f := eraseIV ∘ _)]

theorem resolvesA (n : String) : (docEnvA s c apps).resolves n = (docEnv s).resolves n :=
  (resolves_erase (envErase_docEnvA s c apps) n).symm

theorem names_valuesA (t : TypeD) (v : String) :
    (t.values.map (enumValToDefA c apps t.name)).any (·.name == v) = (t.values.map enumValToDef).any (·.name == v) := by
  simp [List.any_map, Function.comp_def, enumValToDefA, enumValToDef]

theorem names_inputsA (path : String) (l : List ArgD) :
    (l.map (argToDefA s c apps path)).map (·.name) = (l.map (argToDef s)).map (·.name) := by
  simp [List.map_map, Function.comp_def, argToDefA, argToDef]

theorem valueFromAst_congrA : ∀ fuel : Nat,
    (∀ lit ty, valueFromAst (docEnvA s c apps) fuel lit ty = valueFromAst (docEnv s) fuel lit ty) ∧
    (∀ items t, coerceItems (docEnvA s c apps) fuel items t = coerceItems (docEnv s) fuel items t) ∧
    (∀ given path (l : List ArgD), coerceDefFields (docEnvA s c apps) fuel given (l.map (argToDefA s c apps path)) =
      coerceDefFields (docEnv s) fuel given (l.map (argToDef s))) ∧
    (∀ given l, coerceLiveFields (docEnvA s c apps) fuel given l = coerceLiveFields (docEnv s) fuel given l) := by
  intro fuel
  obtain ⟨h1, h2, h3, h4⟩ := valueFromAst_erase (envErase_docEnvA s c apps) fuel
  refine ⟨fun lit ty => (h1 lit ty).symm, fun items t => (h2 items t).symm, fun given path l => ?_, fun given l => (h4 given l).symm⟩
  rw [← h3, map_eraseIV_argToDefA]

theorem mapM_map_congr {α β γ} (f g : α → β) (F G : β → R γ) : ∀ (l : List α), (∀ a ∈ l, F (f a) = G (g a)) →
    (l.map f).mapM F = (l.map g).mapM G := by
  intro l h
  rw [List.mapM_map, List.mapM_map]
  exact Except.mapM_congr_mem h

theorem defaultValueA (lit : Lit) (ty : Ty) : defaultValue (docEnvA s c apps) lit ty = defaultValue (docEnv s) lit ty :=
  (defaultValue_erase (envErase_docEnvA s c apps) lit ty).symm

theorem resolvesA_fun : (docEnvA s c apps).resolves = (docEnv s).resolves := funext (resolvesA s c apps)

theorem checkRefA (t : Ty) : checkRef (docEnvA s c apps) t = checkRef (docEnv s) t :=
  (checkRef_erase (envErase_docEnvA s c apps) t).symm

theorem buildArgumentA (path : String) (a : ArgD) :
    buildArgument (docEnvA s c apps) (argToDefA s c apps path a) = buildArgument (docEnv s) (argToDef s a) := by
  rw [← eraseIV_argToDefA s c apps path a, buildArgument_eraseEnv (envErase_docEnvA s c apps)]

theorem deprecationReason_kept (r : Option String) (path : String) :
    deprecationReason (deprDirs r ++ keptAt c apps path) = deprecationReason (deprDirs r) := by
  rw [← deprecationReason_erase (deprDirs r ++ keptAt c apps path), List.filter_append, filter_kept, isSpec_depr, List.append_nil]

theorem buildFieldA (tname : String) (f : FieldD) :
    buildField (docEnvA s c apps) (fieldToDefA s c apps tname f) = buildField (docEnv s) (fieldToDef s f) := by
  rw [← eraseField_fieldToDefA s c apps tname f, buildField_eraseEnv (envErase_docEnvA s c apps)]

theorem buildEnumValueA (tname : String) (v : EnumValD) : buildEnumValue (enumValToDefA c apps tname v) = buildEnumValue (enumValToDef v) := by
  rw [← eraseEnumVal_enumValToDefA c apps tname v, buildEnumValue_erase]

theorem buildTypeDefA (t : TypeD) :
    buildTypeDef (docEnvA s c apps) (typeToDefA s c apps t) = buildTypeDef (docEnv s) (typeToDef s t) := by
  rw [← eraseType_typeToDefA s c apps t, buildTypeDef_eraseEnv (envErase_docEnvA s c apps)]

theorem buildDirectiveA (d : DirectiveD) :
    buildDirective (docEnvA s c apps) (directiveToDefA s c apps d) = buildDirective (docEnv s) (directiveToDef s d) := by
  have e : eraseDir (directiveToDefA s c apps d) = directiveToDef s d := by
    simp only [eraseDir, directiveToDefA, directiveToDef, map_eraseIV_argToDefA]
  rw [← e, buildDirective_eraseEnv (envErase_docEnvA s c apps)]


theorem thunkNeeds_congrA : ∀ fuel : Nat,
    (∀ lit ty, thunkNeeds (docEnvA s c apps) fuel lit ty = thunkNeeds (docEnv s) fuel lit ty) ∧
    (∀ items t, thunkNeedsList (docEnvA s c apps) fuel items t = thunkNeedsList (docEnv s) fuel items t) ∧
    (∀ given path (l : List ArgD), thunkNeedsFields (docEnvA s c apps) fuel given (l.map (argToDefA s c apps path)) =
      thunkNeedsFields (docEnv s) fuel given (l.map (argToDef s))) := by
  intro fuel
  obtain ⟨h1, h2, h3⟩ := thunkNeeds_erase (envErase_docEnvA s c apps) fuel
  refine ⟨fun lit ty => (h1 lit ty).symm, fun items t => (h2 items t).symm, fun given path l => ?_⟩
  rw [← h3, map_eraseIV_argToDefA]

theorem thunkEdgesA (t : TypeD) : thunkEdges (docEnvA s c apps) (typeToDefA s c apps t) = thunkEdges (docEnv s) (typeToDef s t) := by
  rw [← eraseType_typeToDefA s c apps t, thunkEdges_erase (envErase_docEnvA s c apps)]

theorem thunkReachA (target : String) : ∀ (fuel : Nat) (n : String),
    thunkReach (docEnvA s c apps) target fuel n = thunkReach (docEnv s) target fuel n :=
  fun fuel n => (thunkReach_erase (envErase_docEnvA s c apps) target fuel n).symm

theorem hasThunkCycleA : hasThunkCycle (docEnvA s c apps) (s.types.map (typeToDefA s c apps)) =
    hasThunkCycle (docEnv s) (s.types.map (typeToDef s)) := by
  rw [← hasThunkCycle_erase (envErase_docEnvA s c apps), List.map_map, funext (eraseType_typeToDefA s c apps) (f := eraseType ∘ _)]


private theorem schemaToDocA_eq : schemaToDocA s c apps = docOf (needsSchemaBlockA s c apps) { ops := rootOps s, dirs := keptAt c apps "" }
    (s.directives.map (directiveToDefA s c apps)) (s.types.map (typeToDefA s c apps)) := by
  simp only [schemaToDocA, docOf, List.map_map, Function.comp_def]

theorem typeDefs_A : typeDefs (schemaToDocA s c apps) = s.types.map (typeToDefA s c apps) := by
  rw [schemaToDocA_eq, typeDefs_docOf]

theorem dirDefs_A : dirDefs (schemaToDocA s c apps) = s.directives.map (directiveToDefA s c apps) := by
  rw [schemaToDocA_eq, dirDefs_docOf]

theorem typeExts_A : typeExts (schemaToDocA s c apps) = [] := by
  rw [schemaToDocA_eq, typeExts_docOf]

theorem schemaExtensions_A : schemaExtensions (schemaToDocA s c apps) = [] := by
  rw [schemaToDocA_eq, schemaExtensions_docOf]

theorem schemaDefs_A : schemaDefs (schemaToDocA s c apps) =
    if needsSchemaBlockA s c apps then [{ ops := rootOps s, dirs := keptAt c apps "" }] else [] := by
  rw [schemaToDocA_eq, schemaDefs_docOf]


theorem declared_schemaToDocA (h : printBuildWF s = true) : Declared (schemaToDocA s c apps) = some s := by
  simp only [printBuildWF, Bool.and_eq_true, List.all_eq_true, Bool.not_eq_true'] at h
  obtain ⟨⟨⟨⟨⟨⟨⟨hty, hdi⟩, _⟩, _⟩, hro⟩, _⟩, _⟩, hres⟩ := h
  rw [schemaToDocA_eq]
  refine declared_docOf s _ _ _ _ ?_ ?_ rfl (fun hn => (Bool.or_eq_false_iff.mp hn).1) hro (by simpa using hres)
  · show (s.types.map (typeToDefA s c apps)).mapM (buildTypeDef (docEnvA s c apps)) = _
    rw [mapM_map_congr (typeToDefA s c apps) (typeToDef s) _ (buildTypeDef (docEnv s)) s.types (fun t _ => buildTypeDefA s c apps t)]
    exact mapM_to_doc _ _ _ (fun t ht => type_to_doc_build s t (hty t ht))
  · show (s.directives.map (directiveToDefA s c apps)).mapM (buildDirective (docEnvA s c apps)) = _
    rw [mapM_map_congr (directiveToDefA s c apps) (directiveToDef s) _ (buildDirective (docEnv s)) s.directives
      (fun d _ => buildDirectiveA s c apps d)]
    exact mapM_to_doc _ _ _ (fun d hd => directive_to_doc_build s d (hdi d hd))

/-- building the document the printer denotes WITH its applied custom directives gives back exactly the schema: the
    builder ignores applications of non-specified directives on every element. -/
theorem print_build_roundtrip_custom (h : printBuildWF s = true) : build (schemaToDocA s c apps) = .ok s := by
  rw [build_ignores_custom (schemaToDocA s c apps), erased_eq_schemaToDocB]
  exact print_build_roundtrip_block s _ h
end

/-- the text-level round trip with applied directives, no erasure: for every option set, every schema and every assignment
    of directive nodes that satisfy the lexical predicate `printTextWFA` and the structural predicate `printBuildWF`, the
    text `to_string(include_custom_schema_directives=…)` prints is accepted by the lexer and the parser, and the document it
    parses to — applied directives included — builds the schema (lists in printing order). -/
theorem text_roundtrip_custom_build (c : OptsA) (s : SchemaD) (apps : Apps) (hwf : printTextWFA c s apps = true)
    (hb : printBuildWF s = true) :
    ∃ (d : Ast.Document) (doc : Doc), parseSdlTextT (printSchemaTA c s apps) = some d ∧ docToAst doc = some d ∧
      doc = printedDocA s c apps ∧ build doc = .ok (printOrder s) := by
  have hd := docToAst_schemaToDocA (printOrder s) c apps
  refine ⟨_, printedDocA s c apps, ?_, hd, rfl, ?_⟩
  · rw [print_schema_text_parses_custom c s apps hwf]; exact hd
  · exact print_build_roundtrip_custom (printOrder s) c apps (printBuildWF_printOrder s hb)

/-- non-vacuity -/
example : build (schemaToDocA plainShop {} shopApps) = .ok plainShop := print_build_roundtrip_custom plainShop {} shopApps plainShop_wf
example : ∃ d doc, parseSdlTextT (printSchemaTA { whitelist := some ["other"] } plainShop shopApps) = some d ∧ docToAst doc = some d ∧
    doc = printedDocA plainShop { whitelist := some ["other"] } shopApps ∧ build doc = .ok (printOrder plainShop) :=
  text_roundtrip_custom_build _ plainShop shopApps shopApps_textWF_other plainShop_wf
example : build (schemaToDocA shop {} [("", [{ name := "tag" }]), ("Query", [{ name := "tag" }])]) = .ok shop :=
  print_build_roundtrip_custom shop {} _ shop_wf

/-- the same with the rebuilt schema stated up to the order of its definitions (the printer sorts them), as
    `text_roundtrip_final` -/
theorem text_roundtrip_custom_final (c : OptsA) (s : SchemaD) (apps : Apps) (hwf : printTextWFA c s apps = true)
    (hb : printBuildWF s = true) :
    ∃ (d : Ast.Document) (doc : Doc) (s' : SchemaD), parseSdlTextT (printSchemaTA c s apps) = some d ∧ docToAst doc = some d ∧
      build doc = .ok s' ∧ SameUpToOrder s' s := by
  obtain ⟨d, doc, h1, h2, _, h4⟩ := text_roundtrip_custom_build c s apps hwf hb
  exact ⟨d, doc, printOrder s, h1, h2, h4, types_perm s, directives_perm s, rfl, rfl, rfl, rfl⟩

example : ∃ d doc s', parseSdlTextT (printSchemaTA {} shop [("Query", [{ name := "tag" }])]) = some d ∧ docToAst doc = some d ∧
    build doc = .ok s' ∧ SameUpToOrder s' shop := text_roundtrip_custom_final {} shop _ (printTextWFA_of _ _ _ shop_textWF (by decide +kernel)) shop_wf

end PyGql.Props.C12
