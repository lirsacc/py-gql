/-
  C17 — fault sequences: source errors mid-stream, events whose processing raises an unexpected exception,
  and a consumer that goes on reading.  Model: `PyGqlModel/SubscribeFaults.lean`.
-/
import PyGqlModel.SubscribeFaults


namespace PyGql.Props.C17
open PyGql.Subscribe PyGql.Instr

/-- draining the faulty stream with enough calls is the plain recursion over the source; ONE source pull per
    `__anext__` call (plus the final one that stops) -/
theorem drain_eq_pullsOf (clear : Bool) : ∀ (fuel : Nat) (s : XStream), s.source.length < fuel →
    (XStream.drain clear fuel s).1 = pullsOf clear s.st s.k s.source
    ∧ (XStream.drain clear fuel s).2.pulls = s.pulls + s.source.length + 1 := by
  intro fuel
  induction fuel with
  | zero => exact fun s h => absurd h (Nat.not_lt_zero _)
  | succ fuel ih =>
    intro s h
    obtain ⟨src, st, k, pulls⟩ := s
    cases src with
    | nil => simp [XStream.drain, XStream.next, pullsOf]
    | cons it rest =>
      -- one pull, then the rest of the source from the state that pull leaves
      have step : ∀ s' : XStream, s'.source = rest → s'.pulls = pulls + 1 →
          (XStream.drain clear fuel s').2.pulls = pulls + (rest.length + 1) + 1 := by
        intro s' hs hp
        rw [(ih s' (hs ▸ Nat.lt_of_succ_lt_succ h)).2, hs, hp]
        omega
      cases it with
      | srcRaise =>
        exact ⟨congrArg _ (ih ⟨rest, st, k, pulls + 1⟩ (Nat.lt_of_succ_lt_succ h)).1, step _ rfl rfl⟩
      | crash e =>
        exact ⟨congrArg _ (ih ⟨rest, _, k + 1, pulls + 1⟩ (Nat.lt_of_succ_lt_succ h)).1, step _ rfl rfl⟩
      | ev e =>
        exact ⟨congrArg _ (ih ⟨rest, _, k + 1, pulls + 1⟩ (Nat.lt_of_succ_lt_succ h)).1, step _ rfl rfl⟩

/-- Per-event isolation under fault sequences. Whatever the shared executor held
    when the stream started, wherever the source raises and whichever events crash mid-processing (leaving
    their partial errors in the shared executor): what the consumer sees is the state-free specification —
    each surviving event's result is the execution of the selection with THAT event on a FRESH executor, in
    source order; a source error consumes no event; a crashed event consumes its index and yields no result.
    (As for `kth_result_is_exec_of_kth_event`: the specification side is the same model function on a fresh executor; the content is that nothing of a crashed or failed event survives `clear_errors`, for every fault sequence.) -/
theorem faults_do_not_leak (st : ExecState) (k : Nat) (items : List Item) :
    pullsOf true st k items = specPulls k items := by
  induction items generalizing st k with
  | nil => rfl
  | cons it rest ih =>
    cases it with
    | srcRaise => simp [pullsOf, specPulls, ih]
    | crash e => simp [pullsOf, specPulls, ih]
    | ev e =>
      simp only [pullsOf, specPulls, ih]
      rfl

/-- One pull per source item, in source order: a result exactly at the positions of
    the surviving events, an exception exactly at the faulty positions (hence same length). -/
theorem one_pull_per_item (k : Nat) (items : List Item) :
    (specPulls k items).map Pull.isResult = items.map Item.isEv := by
  induction items generalizing k with
  | nil => rfl
  | cons it rest ih => cases it <;> simp [specPulls, Pull.isResult, Item.isEv, ih]

/-- What `clear_errors` is for under faults: an event crashes after
    `root.x` raised a ResolverError; WITHOUT `executor.clear_errors()` the NEXT event's (clean) result carries
    that error. -/
theorem crash_leaks_without_clear_errors :
    let crashed : Event := [.mk "root" false (.obj [.mk "x" true .null])]
    let clean : Event := [.mk "root" false (.obj [.mk "x" false (.leaf 2)])]
    (pullsOf false ⟨[]⟩ 0 [.crash crashed, .ev clean]).map (fun p => match p with | .result r => r.errors | _ => [])
        = [[], [⟨0, [.key "root", .key "x"]⟩]]
    ∧ (pullsOf true ⟨[]⟩ 0 [.crash crashed, .ev clean]).map (fun p => match p with | .result r => r.errors | _ => [])
        = [[], []] := by
  decide +kernel

/-- `async for` over a source `evs ++ fault :: rest` (fault = the source
    raises, or an event crashes): exactly the results of `evs` (each = fresh execution of its event), then the
    exception; the source has been pulled `|evs| + 1` times — nothing behind the fault is consumed. -/
theorem async_for_stops_at_first_fault (st : ExecState) (k pulls : Nat) (evs : List Event) (fault : Item)
    (hf : fault.isEv = false) (rest : List Item) (fuel : Nat) (hfuel : evs.length < fuel) :
    let out := XStream.asyncFor true fuel ⟨evs.map Item.ev ++ fault :: rest, st, k, pulls⟩
    out.1 = (List.range evs.length).zipWith (fun j e => (executeSubscriptionEvent true ⟨[]⟩ (k + j) e).2) evs
    ∧ out.2.1 = true ∧ out.2.2.pulls = pulls + evs.length + 1 ∧ out.2.2.source = rest := by
  induction evs generalizing st k pulls fuel with
  | nil =>
    cases fuel with
    | zero => simp at hfuel
    | succ f =>
      cases fault with
      | ev e => simp [Item.isEv] at hf
      | crash e => simp [XStream.asyncFor, XStream.next]
      | srcRaise => simp [XStream.asyncFor, XStream.next]
  | cons e es ih =>
    cases fuel with
    | zero => simp at hfuel
    | succ f =>
      have := ih (executeSubscriptionEvent true st k e).1 (k + 1) (pulls + 1) f (by simp at hfuel ⊢; omega)
      simp only [List.map_cons, List.cons_append, XStream.asyncFor, XStream.next]
      simp only at this
      obtain ⟨h1, h2, h3, h4⟩ := this
      refine ⟨?_, h2, by rw [h3]; simp; omega, h4⟩
      rw [h1]
      simp only [List.length_cons, List.range_succ_eq_map, List.zipWith_cons_cons, List.zipWith_map_left]
      have hfun : (fun (j : Nat) (e : Event) => (executeSubscriptionEvent true ⟨[]⟩ (k + 1 + j) e).2)
          = (fun (a : Nat) (b : Event) => (executeSubscriptionEvent true ⟨[]⟩ (k + a.succ) b).2) := by
        funext j e
        have : k + 1 + j = k + j.succ := by omega
        rw [this]
      rw [hfun]
      rfl

/-- non-vacuity: the source raises between two events, the consumer reads on; the second event's result is its
    own (index 1), errors only its own -/
example :
    let e0 : Event := [.mk "root" false (.obj [.mk "x" true .null])]
    let e1 : Event := [.mk "root" false (.obj [.mk "x" false (.leaf 2)])]
    (XStream.drain true 5 ⟨[.ev e0, .srcRaise, .ev e1], ⟨[]⟩, 0, 0⟩).1.map
        (fun p => match p with | .result r => some r.errors | _ => none)
      = [some [⟨0, [.key "root", .key "x"]⟩], none, some []] := by
  decide +kernel

end PyGql.Props.C17
