/-
  C14 — "removed elements are unreachable": hidden FIELDS and INPUT FIELDS (`visibility_hides_type` covers hidden TYPES).

  `MembersNamed Q QI h a`: every member the (object / interface) type object at `a` lists IS a field object whose name
  `Q typeName fieldName` accepts; every member an input object type lists is an input field object `QI typeName fieldName` accepts.
  * `visibility_hides_members` (FULL): after `VisibilitySchemaTransform.on_schema` (arbitrary predicates; types may be hidden as
    well; the healing rounds that follow included) on a closed well-formed schema, EVERY type the result registers only lists
    fields with `is_field_visible(type, field)` and input fields with `is_input_field_visible(type, field)`. With closedness
    (`visitor_closed`) the hidden members are unreachable: everything reachable from the result is reached through these lists.
  * `visibility_hides_members_transform`: the same for `transform_schema(source, VisibilitySchemaTransform())`.
  Proof: the visitor round establishes the property on every type object it returns (`visitTypes_named`); the healing that follows
  only lists copies, under the same name, of a sub-list of those members (`healLoop_mem`, the state after the round as source).
  Non-vacuity: `hideName` hides the FIELD `Dog.name` and nothing else; the result still registers `Dog`, with no field
  (`visibility_field_witness`).
  * `visibility_hides_directives` (FULL): every directive object the result registers has `is_directive_visible(name)`
    (`visibility_directive_witness`: `hideLim` removes the directive `lim`).
  * `directive_drops_fields` (FULL): after a drop/wrap schema-directive visitor (healing included) no registered type lists a
    field the directive dropped (`MembersNamed (fun t f => !drop t f)`).
  `visitor_members_named` is the generic statement behind the field-level theorems (any visitor whose type-level hook returns
  objects listing accepted members only: `NamingHook`). Arguments cannot be hidden individually by the modelled visitors (they
  disappear with their type: `visibility_hides_type` + closedness).
-/
import PyGqlModel.Lemmas.HeapCamelView
import PyGqlModel.Lemmas.HeapVisHook
import PyGqlModel.Props.C14_members
import PyGqlModel.Props.C14_order


namespace PyGql.Props.C14
open PyGql.Heap PyGql.Heap.Own

def MembersNamed (Q QI : String → String → Bool) (h : Heap) (a : Addr) : Prop :=
  ∀ t, h.readType a = some t →
    ((t.kind = Kind.object ∨ t.kind = Kind.interface) → ∀ c, c ∈ t.fields → ∃ f, h.readField c = some f ∧ Q t.name f.name = true) ∧
    (t.kind = Kind.input → ∀ c, c ∈ t.fields → ∃ g, h.readArg c = some g ∧ QI t.name g.name = true)

theorem named_of_step {Q QI : String → String → Bool} {h hh : Heap} (st : StepImp chkT h hh) {a' : Addr} {t' : TypeO}
    (ht' : hh.readType a' = some t') (nm : String) (hn : t'.name = nm)
    (hF : (t'.kind = Kind.object ∨ t'.kind = Kind.interface) → ∀ c, c ∈ t'.fields → ∃ f, h.readField c = some f ∧ Q nm f.name = true)
    (hI : t'.kind = Kind.input → ∀ c, c ∈ t'.fields → ∃ g, h.readArg c = some g ∧ QI nm g.name = true) : MembersNamed Q QI hh a' := by
  intro t ht
  rw [ht'] at ht
  cases ht
  refine ⟨fun hk c hc => ?_, fun hk c hc => ?_⟩
  · obtain ⟨f, hf, hq⟩ := hF hk c hc
    obtain ⟨f', hf', hd, _⟩ := st.readField hf
    exact ⟨f', hf', by rw [hn, hd.1]; exact hq⟩
  · obtain ⟨g, hg, hq⟩ := hI hk c hc
    obtain ⟨g', hg', hd, _⟩ := st.readArg hg
    exact ⟨g', hg', by rw [hn, hd.1]; exact hq⟩

theorem MembersNamed.keep {Q QI : String → String → Bool} {h h' : Heap} (st : StepImp chkT h h') {a : Addr}
    (r : MembersNamed Q QI h a) {t0 : TypeO} (ht0 : h.readType a = some t0) : MembersNamed Q QI h' a := by
  obtain ⟨t', ht', hd, hsub, _⟩ := st.readType ht0
  obtain ⟨r1, r2⟩ := r t0 ht0
  exact named_of_step st ht' t0.name hd.2.1
    (fun hkd c hc => r1 (by rw [← hd.1]; exact hkd) c (hsub.subset hc))
    (fun hkd c hc => r2 (by rw [← hd.1]; exact hkd) c (hsub.subset hc))

theorem onArgument_vis_id (p : VisP) (reg : List (String × Addr)) (h : Heap) (a : Addr) : onArgument (.vis p) reg h a = (h, some a) :=
  onArgument_vis p reg h a

theorem mapFilter_id {f : Heap → Addr → Heap × Option Addr} (hf : ∀ h a, f h a = (h, some a)) :
    ∀ (as : List Addr) (h : Heap), mapFilter f h as = (h, as) :=
  mapFilter_same hf

theorem onField_vis_id (p : VisP) (reg : List (String × Addr)) (tn : String) (h : Heap) (c : Addr) :
    onField (.vis p) reg tn h c = (h, some c) :=
  onField_vis p reg tn h c

theorem compositeRest_vis_eq (p : VisP) (reg : List (String × Addr)) (a : Addr) (h : Heap) (t : TypeO) :
    compositeRest (.vis p) reg a h t = (h, some a) :=
  compositeRest_vis p reg a h t

theorem mapFilter_sub {f : Heap → Addr → Heap × Option Addr}
    (hf : ∀ h a, (f h a).1 = h ∧ ((f h a).2 = some a ∨ (f h a).2 = none)) :
    ∀ (as : List Addr) (h : Heap), (mapFilter f h as).1 = h ∧ List.Sublist (mapFilter f h as).2 as := by
  intro as h
  -- such a hook keeps or drops: `mapFilter` is the filter by "kept"
  rw [mapFilter_filter (q := fun h a => (f h a).2.isSome) (fun h a => by
    obtain ⟨h1, h2 | h2⟩ := hf h a <;> exact Prod.ext h1 (by rw [h2]; rfl))]
  exact ⟨rfl, List.filter_sublist⟩

theorem onInputField_vis_sub (p : VisP) (reg : List (String × Addr)) (h : Heap) (c : Addr) :
    (onInputField (.vis p) reg h c).1 = h ∧ ((onInputField (.vis p) reg h c).2 = some c ∨ (onInputField (.vis p) reg h c).2 = none) := by
  rw [onInputField_vis]
  cases inputTypeVis p h c
  · exact ⟨rfl, Or.inr rfl⟩
  · exact ⟨rfl, Or.inl rfl⟩

private theorem named_of_kept {p : VisP} {h hh : Heap} {t t' : TypeO} {a' : Addr} (hm : MembersReadable h t) (st : StepImp chkT h hh)
    (ht' : hh.readType a' = some t') (hn : t'.name = t.name) (hk : t'.kind = t.kind) (hs : ∀ c, c ∈ t'.fields → c ∈ visKept p h t) :
    MembersNamed p.fieldVis p.inputVis hh a' ∧ ∃ t', hh.readType a' = some t' := by
  refine ⟨named_of_step st ht' t.name hn (fun hc c hc' => ?_) (fun hc c hc' => ?_), t', ht'⟩
  · rw [hk] at hc
    obtain ⟨f, hf, _⟩ := hm.fields hc c ((visKept_sublist p h t).subset (hs c hc'))
    exact ⟨f, hf, visKept_field p hc (hs c hc') hf⟩
  · rw [hk] at hc
    obtain ⟨g, hg⟩ := hm.inputs hc c ((visKept_sublist p h t).subset (hs c hc'))
    exact ⟨g, hg, visKept_input p hc (hs c hc') hg⟩

/-- what `on_object` / `on_interface` / `on_input_object` / … of the visibility visitor return lists visible members only -/
theorem onType_vis_named (p : VisP) (reg : List (String × Addr)) (h : Heap) (a : Addr) (r : TypeReadable h a) :
    ∀ a', (onType (.vis p) reg h a).2 = some a' →
      MembersNamed p.fieldVis p.inputVis (onType (.vis p) reg h a).1 a' ∧ ∃ t', (onType (.vis p) reg h a).1.readType a' = some t' := by
  obtain ⟨t, ht, hm⟩ := r
  have st := setFields_step ht _ (visKept_sublist p h t)
  have hr := setFields_readType ht (visKept p h t)
  intro a' e
  -- a hidden type is dropped: what is returned is visible
  have hv : p.isTypeVisible t.name = true := by rw [← onType_vis_snd p reg ht, e]; rfl
  rw [onType_vis p reg ht] at e ⊢
  by_cases hki : t.kind = Kind.input
  · -- input object: the filtered object itself, or a rebuilt one listing a sub-list of its members
    rw [if_pos hki, inputRest_vis, if_pos hv] at e ⊢
    cases e
    simp only [rebuiltOrSame]
    split
    · exact named_of_kept hm (st.trans (step_alloc chkT _ _)) (readType_alloc_new _ _) rfl rfl fun c hc => (List.mem_filter.mp hc).1
    · exact named_of_kept hm st hr rfl rfl fun c hc => hc
  · rw [if_neg hki, if_pos hv] at e ⊢
    cases e
    exact named_of_kept hm st hr rfl rfl fun c hc => hc

def Good (Q QI : String → String → Bool) (h : Heap) (a : Addr) : Prop := MembersNamed Q QI h a ∧ ∃ t, h.readType a = some t

def NamingHook (v : Visitor) (Q QI : String → String → Bool) : Prop :=
  ∀ (reg : List (String × Addr)) (h : Heap) (a : Addr), TypeReadable h a → ∀ a', (onType v reg h a).2 = some a' → Good Q QI (onType v reg h a).1 a'

theorem Good.keep {Q QI : String → String → Bool} {h h' : Heap} (st : StepImp chkT h h') {a : Addr} (g : Good Q QI h a) : Good Q QI h' a := by
  obtain ⟨m, t, ht⟩ := g
  obtain ⟨t', ht', _⟩ := readType_keep st a t ht
  exact ⟨m.keep st ht, t', ht'⟩

theorem TypeReadable.keepStep {h h' : Heap} (st : StepImp chkT h h') {a : Addr} (r : TypeReadable h a) : TypeReadable h' a :=
  r.step st

theorem visitTypes_named (v : Visitor) (Q QI : String → String → Bool) (hook : NamingHook v Q QI) (reg : List (String × Addr)) :
    ∀ (l : List (String × Addr)) (h : Heap), (∀ e, e ∈ l → isProtected e.1 = false → TypeReadable h e.2) →
      (∀ x, x ∈ (visitTypes v reg h l).2 → ∀ a', x.2 = some a' → Good Q QI (visitTypes v reg h l).1 a') ∧
      (∀ e, e ∈ l → isProtected e.1 = false →
        (∃ x, x ∈ (visitTypes v reg h l).2 ∧ x.1 = e.1) ∨ Good Q QI (visitTypes v reg h l).1 e.2) := by
  intro l h hin
  -- each entry is visited in some intermediate heap `h1` in which it is still readable; what the hook returns there lists good members,
  -- and keeps doing so in every later heap of the loop
  obtain ⟨_, visited, reported⟩ := visitTypes_out v reg (R := StepImp chkT) (Pre := fun h e => TypeReadable h e.2) (StepImp.refl chkT)
    (fun _ _ _ => StepImp.trans) (fun _ _ _ st r => TypeReadable.keepStep st r) (fun h e _ => onType_step v reg h e.2 chkT (compat_true _ reg)) l h hin
  refine ⟨fun x hx a' ea => ?_, fun e he hq => ?_⟩
  · obtain ⟨e, h1, _, _, r1, _, st, rfl, _⟩ := reported x hx
    exact Good.keep st (hook reg h1 e.2 r1 a' ea)
  · obtain ⟨h1, r1, _, st, same | rep⟩ := visited e he hq
    · exact Or.inr (Good.keep st (hook reg h1 e.2 r1 e.2 same))
    · exact Or.inl ⟨_, rep, rfl⟩

theorem visGood_of_trel {Q QI : String → String → Bool} {h0 h : Heap} {t0 : TypeO} {a0 a' : Addr} (ht0 : h0.readType a0 = some t0)
    (g : MembersNamed Q QI h0 a0) (r : TRel id h0 h t0 a') : MembersNamed Q QI h a' := by
  obtain ⟨t', ht', hat, hm⟩ := r
  have hkind := hat.kind
  have hname : t'.name = t0.name := by simp only [TAttr, SameHead] at hat; exact hat.2.1
  obtain ⟨g1, g2⟩ := g t0 ht0
  intro t ht
  rw [ht'] at ht
  cases ht
  refine ⟨fun hk c hc => ?_, fun hk c hc => ?_⟩
  · have hk0 : t0.kind = Kind.object ∨ t0.kind = Kind.interface := by rw [← hkind]; exact hk
    have hm' : Sub2 (FRel id h0 h) t0.fields t'.fields := by rcases hk0 with hk0 | hk0 <;> simpa [MRel, hk0] using hm
    obtain ⟨c0, hc0, f0, f', hf0, hf', hattr, _⟩ := Sub2.mem_right hm' c hc
    obtain ⟨f1, hf1, hq⟩ := g1 hk0 c0 hc0
    rw [hf0] at hf1
    cases hf1
    exact ⟨f', hf', by rw [hname, hattr.1]; exact hq⟩
  · have hk0 : t0.kind = Kind.input := by rw [← hkind]; exact hk
    have hm' : Sub2 (ARel id h0 h) t0.fields t'.fields := by simpa [MRel, hk0] using hm
    obtain ⟨c0, hc0, g0, g', hg0, hg', hattr⟩ := Sub2.mem_right hm' c hc
    obtain ⟨g3, hg3, hq⟩ := g2 hk0 c0 hc0
    rw [hg0] at hg3
    cases hg3
    exact ⟨g', hg', by rw [hname, hattr.1]; exact hq⟩

theorem memOrigin_refl {chk : Ref → Bool} {h : Heap} {s : Schema} (w : WFs chk h s) : MemOrigin id h s.types h s.types :=
  fun e' he' => Or.inr ⟨e', he', rfl, fun t0 ht0 => TRel.refl ht0 (membersReadable_of_shape _ h e'.2 t0 ht0 (w.types e' he'))⟩

/-- generic: a visitor whose type-level hook returns objects listing `Q` / `QI`-members only (and that does not wrap: the healing
    that follows lists copies under the same names) leaves a schema in which EVERY registered type lists such members only -/
theorem visitor_members_named (cfg : Cfg) (hacc : cfg.accumulateBusted = true) (fuel : Nat) (v : Visitor) (Q QI : String → String → Bool)
    (hook : NamingHook v Q QI) (s : Schema) (h h' : Heap) (s' : Schema)
    (hc : closedB h s = true) (hw : wfB h s = true) (e : onSchema cfg fuel v s h = some (h', s')) :
    ∀ e', e' ∈ s'.types → MembersNamed Q QI h' e'.2 := by
  have w := wfs_of_closedB hc hw
  have hread : ∀ e, e ∈ s.types → TypeReadable h e.2 := fun e he => typeShape_readable (w.types e he)
  obtain ⟨f1, f2⟩ := visitTypes_named v Q QI hook s.types s.types h (fun e he _ => hread e he)
  have stD := visitDirs_step v s.types s.dirs (visitTypes v s.types h s.types).1 chkT (compat_true _ s.types)
  have stT := visitTypes_step v s.types s.types h chkT (compat_true _ s.types)
  -- after the round: every entry lists visible members only, or is a specified scalar
  have hP : ∀ e2, e2 ∈ (replaceCore cfg s (visitAll v s h).2.1 (visitAll v s h).2.2).1.types →
      isProtected e2.1 = true ∨ Good Q QI (visitAll v s h).1 e2.2 := by
    simp only [replaceCore, visitAll]
    apply replaceTypes_pred cfg (fun e2 => isProtected e2.1 = true ∨
      Good Q QI (visitDirs v s.types (visitTypes v s.types h s.types).1 s.dirs).1 e2.2)
    · intro x hx a' ea
      exact Or.inr (Good.keep stD (f1 x hx a' ea))
    · intro e0 he0
      by_cases hp : isProtected e0.1 = true
      · exact Or.inl (Or.inl hp)
      · have hnp : isProtected e0.1 = false := by simpa using hp
        rcases f2 e0 he0 hnp with ⟨x, hx, hxe⟩ | hg
        · exact Or.inr (List.mem_map.mpr ⟨x, hx, hxe⟩)
        · exact Or.inl (Or.inr (Good.keep stD hg))
  have w2 := round_wf cfg v s h (refOK s.types) (compat_refOK _ _) w
  -- the protected entries are scalars: nothing to list
  have hprot : ∀ (hh : Heap) (ss : Schema), WFs (fun _ => true) hh ss → ∀ e2, e2 ∈ ss.types → isProtected e2.1 = true →
      MembersNamed Q QI hh e2.2 := by
    intro hh ss ws e2 he2 hp t ht
    have hpl := protLeaf_scalar (ws.prot e2 he2) hp ht
    exact ⟨fun hk => by rcases hk with hk | hk <;> simp [hpl] at hk, fun hk => by simp [hpl] at hk⟩
  simp only [onSchema, replaceTD] at e
  split at e
  · -- the healing rounds: copies, under the same names, of sub-lists
    have ho := healLoop_mem cfg id _ _ fuel _ _ h' s' (memOrigin_refl w2) e
    obtain ⟨_, w'⟩ := healLoop_closed cfg hacc fuel _ _ h' s' w2 e
    intro e' he'
    rcases ho e' he' with hp | ⟨e0, he0, _, hr0⟩
    · exact hprot h' s' (w'.mono (fun _ _ => rfl)) e' he' hp
    · rcases hP e0 he0 with hp0 | ⟨g0, t0, ht0⟩
      · obtain ⟨t0, ht0, _⟩ := (typeShape_iff _ _ e0.2).mp (w2.types e0 he0)
        exact visGood_of_trel ht0 (hprot _ _ w2 e0 he0 hp0) (hr0 t0 ht0)
      · exact visGood_of_trel ht0 g0 (hr0 t0 ht0)
  · cases e
    intro e' he'
    rcases hP e' he' with hp | hg
    · exact hprot _ _ w2 e' he' hp
    · exact hg.1

/-- FULL (see the header): hidden fields and input fields are in no member list of the result -/
theorem visibility_hides_members (cfg : Cfg) (hacc : cfg.accumulateBusted = true) (fuel : Nat) (p : VisP) (s : Schema) (h h' : Heap) (s' : Schema)
    (hc : closedB h s = true) (hw : wfB h s = true) (e : onSchema cfg fuel (.vis p) s h = some (h', s')) :
    ∀ e', e' ∈ s'.types → MembersNamed p.fieldVis p.inputVis h' e'.2 :=
  visitor_members_named cfg hacc fuel (.vis p) p.fieldVis p.inputVis (fun reg h a r a' ea => onType_vis_named p reg h a r a' ea) s h h' s' hc hw e

/-- … for `transform_schema(source, VisibilitySchemaTransform())` -/
theorem visibility_hides_members_transform (cfg : Cfg) (hd : cfg.deepClone = true) (hk : cfg.keepAllTypes = true) (hacc : cfg.accumulateBusted = true)
    (fuel : Nat) (p : VisP) (s : Schema) (h h' : Heap) (s' : Schema) (hc : closedB h s = true) (hw : wfB h s = true)
    (e : transform cfg fuel [.vis p] s h = some (h', s')) : ∀ e', e' ∈ s'.types → MembersNamed p.fieldVis p.inputVis h' e'.2 := by
  obtain ⟨h1, s1, hr, hr2⟩ := transform_single_some e
  obtain ⟨c1, w1⟩ := clone_closed cfg hd hk hacc fuel s h h1 s1 hc hw hr
  exact visibility_hides_members cfg hacc fuel p s1 h1 _ _ c1 w1 hr2

/-- hides the FIELD `Dog.name` and nothing else -/
def hideName : VisP := { typeVis := fun _ => true, fieldVis := fun t f => !(t == "Dog" && f == "name"), inputVis := fun _ _ => true, dirVis := fun _ => true }

/-- non-vacuity with a predicate that hides something: the transform of the witness succeeds, the result still registers `Dog`
    and `Dog` lists NO field any more, while `Pet.name` is still there -/
theorem visibility_field_witness :
    closedB h0 s0 = true ∧ wfB h0 s0 = true ∧
    (((transform Cfg.fixed 8 [.vis hideName] s0 h0).map fun r =>
      ((lookup r.2.types "Dog").bind fun a => (r.1.readType a).map fun t => t.fields.length,
       (lookup r.2.types "Pet").bind fun a => (r.1.readType a).map fun t => t.fields.length)) = some (some 0, some 1)) :=
  ⟨s0_closed, s0_wf, by decide +kernel⟩

theorem onArgument_sdir_id (d : String → String → Bool) (w : String → String → Option Nat) (reg : List (String × Addr)) (h : Heap) (a : Addr) :
    onArgument (.sdir d w) reg h a = (h, some a) := by
  simp only [onArgument]
  split <;> rfl

theorem onInputField_sdir_id (d : String → String → Bool) (w : String → String → Option Nat) (reg : List (String × Addr)) (h : Heap) (a : Addr) :
    onInputField (.sdir d w) reg h a = (h, some a) := by
  simp only [onInputField]
  split <;> rfl

/-- `on_field` of the drop/wrap directive visitor: what it returns is a field object, under the same name, that is not dropped -/
theorem onField_sdir_named (d : String → String → Bool) (w : String → String → Option Nat) (reg : List (String × Addr)) (tn : String)
    (h : Heap) (c : Addr) (f : FieldO) (hf : h.readField c = some f) :
    ∀ c', (onField (.sdir d w) reg tn h c).2 = some c' →
      ∃ f', (onField (.sdir d w) reg tn h c).1.readField c' = some f' ∧ (!d tn f'.name) = true := by
  intro c' e
  simp only [onField, hf] at e ⊢
  cases hd : d tn f.name with
  | true => simp [hd] at e
  | false =>
    simp only [hd, Bool.false_eq_true, if_false] at e ⊢
    cases hw : w tn f.name with
    | some id =>
      simp only [hw, onFieldBase, mapFilter_id (onArgument_sdir_id d w reg), bne_self_eq_false, Bool.false_eq_true, if_false,
        Option.some.injEq] at e ⊢
      subst e
      exact ⟨_, readField_alloc_new _ _, by simp [hd]⟩
    | none =>
      simp only [hw, onFieldBase, mapFilter_id (onArgument_sdir_id d w reg), bne_self_eq_false, Bool.false_eq_true, if_false,
        Option.some.injEq] at e ⊢
      subst e
      exact ⟨f, hf, by simp [hd]⟩

theorem mapFilter_fields_good {f : Heap → Addr → Heap × Option Addr} (G : FieldO → Prop)
    (hstep : ∀ h a, StepImp chkT h (f h a).1)
    (hest : ∀ h a fl, h.readField a = some fl → ∀ a', (f h a).2 = some a' → ∃ f', (f h a).1.readField a' = some f' ∧ G f')
    (hG : ∀ f f' : FieldO, f'.name = f.name → G f → G f') :
    ∀ (as : List Addr) (h : Heap), (∀ a, a ∈ as → ∃ fl, h.readField a = some fl) →
      StepImp chkT h (mapFilter f h as).1 ∧ ∀ c, c ∈ (mapFilter f h as).2 → ∃ f', (mapFilter f h as).1.readField c = some f' ∧ G f' := by
  intro as h hall
  have st : ∀ (as : List Addr) (h : Heap), StepImp chkT h (mapFilter f h as).1 := by
    intro as
    induction as with
    | nil => intro h; exact StepImp.refl chkT h
    | cons a as ih => intro h; exact (hstep h a).trans (ih _)
  refine ⟨st as h, fun c hc => ?_⟩
  -- every address of the list is a field object; what the hook returns for it is a `G`-field, and stays one (same name) later
  have s := mapFilter_sub2 (Rin := fun h _ c => ∃ fl, h.readField c = some fl) (Rout := fun h _ c => ∃ f', h.readField c = some f' ∧ G f')
    (fun _ _ _ _ st ⟨_, hfl⟩ => let ⟨f', hf', _⟩ := st.readField hfl; ⟨f', hf'⟩)
    (fun _ _ _ _ st ⟨f1, hf1, g⟩ => let ⟨f', hf', hd, _⟩ := st.readField hf1; ⟨f', hf', hG f1 f' hd.1 g⟩)
    hstep (fun h _ a ⟨fl, hfl⟩ a' ea => hest h a fl hfl a' ea) as as h (Sub2.refl as hall)
  obtain ⟨_, _, r⟩ := s.mem_right c hc
  exact r

theorem onType_sdir_named (d : String → String → Bool) (w : String → String → Option Nat) :
    NamingHook (.sdir d w) (fun t f => !d t f) (fun _ _ => true) := by
  intro reg h a r a' e
  obtain ⟨t, ht, hm⟩ := r
  have compositeCase : (t.kind = Kind.object ∨ t.kind = Kind.interface) → ∀ a', (onComposite (.sdir d w) reg h a t).2 = some a' →
      Good (fun t f => !d t f) (fun _ _ => true) (onComposite (.sdir d w) reg h a t).1 a' := by
    intro hk a' e
    have notInput : t.kind ≠ Kind.input := fun hki => by rcases hk with hk | hk <;> rw [hk] at hki <;> cases hki
    have hm' : ∀ c, c ∈ t.fields → ∃ fl, h.readField c = some fl :=
      fun c hc => let ⟨fl, hfl, _⟩ := hm.fields hk c hc; ⟨fl, hfl⟩
    obtain ⟨st, good⟩ := mapFilter_fields_good (f := onField (.sdir d w) reg t.name) (fun fl => (!d t.name fl.name) = true)
      (fun h a => onField_stepT _ reg t.name h a)
      (fun h a fl hfl a' ea => onField_sdir_named d w reg t.name h a fl hfl a' ea)
      (fun f f' hn hg => by rw [hn]; exact hg) t.fields h hm'
    simp only [onComposite, compositeRest, rebuiltOrSame] at e ⊢
    split at e
    · rename_i hne
      simp only [hne, if_true] at e ⊢
      cases e
      have hr := readType_alloc_new (mapFilter (onField (.sdir d w) reg t.name) h t.fields).1 { t with fields := (mapFilter (onField (.sdir d w) reg t.name) h t.fields).2 }
      exact ⟨named_of_step (step_alloc chkT _ _) hr t.name rfl (fun _ c hc => good c hc) (fun hki => (notInput hki).elim), _, hr⟩
    · rename_i hne
      have heq := bne_false_eq hne
      simp only [hne] at e ⊢
      cases e
      obtain ⟨t', ht', hd, hsub, _⟩ := st.readType ht
      exact ⟨named_of_step (StepImp.refl chkT _) ht' t.name hd.2.1 (fun _ c hc => good c (by rw [heq]; exact hsub.subset hc))
        (fun hki => (notInput (hd.1 ▸ hki)).elim), _, ht'⟩
  rcases onType_cases (.sdir d w) reg ht with ⟨hk, e1⟩ | ⟨hk, e1⟩ | ⟨hk, ⟨_, hv, _⟩ | ⟨_, e1⟩ | ⟨hv, _⟩⟩
  · rw [e1] at e ⊢
    exact compositeCase hk a' e
  · -- input object: untouched
    rw [e1] at e ⊢
    simp only [onInputObject, inputRest, mapFilter_id (onInputField_sdir_id d w reg), rebuiltOrSame, bne_self_eq_false, Bool.false_eq_true,
      if_false] at e ⊢
    cases e
    exact ⟨named_of_step (StepImp.refl chkT h) ht t.name rfl (fun hk' => by rcases hk' with hk' | hk' <;> simp [hk] at hk')
      (fun _ c hc => let ⟨g, hg⟩ := hm.inputs hk c hc; ⟨g, hg, rfl⟩), _, ht⟩
  · cases hv
  · -- union, enum, scalar: the object itself, which has no members of either sort
    rw [e1] at e ⊢
    cases e
    exact ⟨named_of_step (StepImp.refl chkT h) ht t.name rfl
      (fun hk' => by rcases hk with hk | hk | hk <;> rcases hk' with hk' | hk' <;> simp [hk] at hk')
      (fun hk' => by rcases hk with hk | hk | hk <;> simp [hk] at hk'), _, ht⟩
  · cases hv

/-- FULL: after a drop/wrap schema-directive visitor (healing included) no registered type lists a field the directive dropped -/
theorem directive_drops_fields (cfg : Cfg) (hacc : cfg.accumulateBusted = true) (fuel : Nat) (d : String → String → Bool)
    (w : String → String → Option Nat) (s : Schema) (h h' : Heap) (s' : Schema)
    (hc : closedB h s = true) (hw : wfB h s = true) (e : onSchema cfg fuel (.sdir d w) s h = some (h', s')) :
    ∀ e', e' ∈ s'.types → MembersNamed (fun t f => !d t f) (fun _ _ => true) h' e'.2 :=
  visitor_members_named cfg hacc fuel (.sdir d w) _ _ (onType_sdir_named d w) s h h' s' hc hw e

def DirNamed (N : String → Bool) (h : Heap) (a : Addr) : Prop := ∃ d, h.readDir a = some d ∧ N d.name = true

theorem DirNamed.keep {N : String → Bool} {h h' : Heap} (st : StepImp chkT h h') {a : Addr} (g : DirNamed N h a) : DirNamed N h' a := by
  obtain ⟨d, hd, hn⟩ := g
  obtain ⟨o', hr', hh, _, _⟩ := st a _ (readDir_read hd)
  cases o' with
  | dir d' => exact ⟨d', readDir_of_read hr', by rw [hh.1]; exact hn⟩
  | type _ => exact hh.elim
  | field _ => exact hh.elim
  | arg _ => exact hh.elim

/-- `on_directive` of any visitor: what it returns is a directive object under the same name, and the visitor does not hide it -/
theorem onDirective_named (v : Visitor) (N : String → Bool) (reg : List (String × Addr)) (h : Heap) (a : Addr) (g : DirNamed N h a) :
    ∀ a', (onDirective v reg h a).2 = some a' → DirNamed (fun nm => N nm && !dirHidden v nm) (onDirective v reg h a).1 a' := by
  obtain ⟨d, hd, hn⟩ := g
  have hstep := mapFilter_step (onArgument_step v reg) d.args h chkT (compat_true v reg)
  rcases onDirective_cases v reg hd with ⟨_, e⟩ | ⟨hh, _, e⟩ | ⟨hh, _, e⟩ <;> rw [e] <;> intro a' e' <;> cases e'
  · exact ⟨_, readDir_alloc_new _ _, by simp [hn, hh]⟩
  · exact DirNamed.keep hstep ⟨d, hd, by simp [hn, hh]⟩

theorem visitDirs_named (v : Visitor) (N : String → Bool) (reg : List (String × Addr)) :
    ∀ (l : List (String × Addr)) (h : Heap), (∀ e, e ∈ l → DirNamed N h e.2) →
      (∀ x, x ∈ (visitDirs v reg h l).2 → ∀ a', x.2 = some a' → DirNamed (fun nm => N nm && !dirHidden v nm) (visitDirs v reg h l).1 a') ∧
      (∀ e, e ∈ l → (∃ x, x ∈ (visitDirs v reg h l).2 ∧ x.1 = e.1) ∨ DirNamed (fun nm => N nm && !dirHidden v nm) (visitDirs v reg h l).1 e.2) := by
  intro l h hin
  -- each directive is visited in an intermediate heap `h1` in which it is still an `N`-directive; what the hook returns there is not
  -- hidden, and stays so in every later heap of the loop
  obtain ⟨_, visited, reported⟩ := visitDirs_out v reg (R := StepImp chkT) (Pre := fun h e => DirNamed N h e.2) (StepImp.refl chkT)
    (fun _ _ _ => StepImp.trans) (fun _ _ _ st g => DirNamed.keep st g) (fun h e _ => onDirective_step v reg h e.2 chkT (compat_true v reg)) l h hin
  refine ⟨fun x hx a' ea => ?_, fun e he => ?_⟩
  · obtain ⟨e, h1, _, g1, _, st, rfl, _⟩ := reported x hx
    exact DirNamed.keep st (onDirective_named v N reg h1 e.2 g1 a' ea)
  · obtain ⟨h1, g1, _, st, same | rep⟩ := visited e he
    · exact Or.inr (DirNamed.keep st (onDirective_named v N reg h1 e.2 g1 e.2 same))
    · exact Or.inl ⟨_, rep, rfl⟩

/-- one `on_schema` round: every directive the schema registers afterwards is named by `N` and not hidden by the visitor -/
theorem round_dirs_named (cfg : Cfg) (v : Visitor) (N : String → Bool) (s : Schema) (h : Heap) (hin : ∀ e, e ∈ s.dirs → DirNamed N h e.2) :
    ∀ e, e ∈ (replaceCore cfg s (visitAll v s h).2.1 (visitAll v s h).2.2).1.dirs →
      DirNamed (fun nm => N nm && !dirHidden v nm) (visitAll v s h).1 e.2 := by
  have stT := visitTypes_step v s.types s.types h chkT (compat_true v s.types)
  obtain ⟨f1, f2⟩ := visitDirs_named v N s.types s.dirs (visitTypes v s.types h s.types).1 (fun e he => DirNamed.keep stT (hin e he))
  simp only [replaceCore, visitAll]
  apply replaceDirs_pred (fun e => DirNamed (fun nm => N nm && !dirHidden v nm) (visitDirs v s.types (visitTypes v s.types h s.types).1 s.dirs).1 e.2)
  · intro x hx a' ea
    exact f1 x hx a' ea
  · intro e he
    rcases f2 e he with ⟨x, hx, hxe⟩ | hg
    · exact Or.inr (List.mem_map.mpr ⟨x, hx, hxe⟩)
    · exact Or.inl hg

/-- a heal round hides no directive -/
private theorem healRound_dirs_named (cfg : Cfg) (N : String → Bool) (s : Schema) (h : Heap) (hin : ∀ e, e ∈ s.dirs → DirNamed N h e.2) :
    ∀ e, e ∈ (replaceCore cfg s (visitAll .heal s h).2.1 (visitAll .heal s h).2.2).1.dirs → DirNamed N (visitAll .heal s h).1 e.2 :=
  fun e he =>
    let ⟨d, hd, hn⟩ := round_dirs_named cfg .heal N s h hin e he
    ⟨d, hd, by simpa [dirHidden] using hn⟩

theorem healLoop_dirs_named (cfg : Cfg) (N : String → Bool) : ∀ (fuel : Nat) (s : Schema) (h h' : Heap) (s' : Schema),
    (∀ e, e ∈ s.dirs → DirNamed N h e.2) → healLoop cfg fuel s h = some (h', s') → ∀ e, e ∈ s'.dirs → DirNamed N h' e.2 :=
  healLoop_ind cfg (J := fun h s => ∀ e, e ∈ s.dirs → DirNamed N h e.2) (healRound_dirs_named cfg N)

/-- FULL: after `VisibilitySchemaTransform.on_schema` (healing included) every directive object the result registers has
    `is_directive_visible(name)`: the hidden directives are gone from `schema.directives` -/
theorem visibility_hides_directives (cfg : Cfg) (fuel : Nat) (p : VisP) (s : Schema) (h h' : Heap) (s' : Schema)
    (hw : wfB h s = true) (e : onSchema cfg fuel (.vis p) s h = some (h', s')) :
    ∀ e', e' ∈ s'.dirs → ∃ d, h'.readDir e'.2 = some d ∧ p.dirVis d.name = true := by
  have hin : ∀ e, e ∈ s.dirs → DirNamed (fun _ => true) h e.2 := fun e he =>
    let ⟨d, hd, _⟩ := dirShape_readable ((wfs_of_wfB hw).dirs e he)
    ⟨d, hd, rfl⟩
  -- the visitor's round leaves visible directives only, and every heal round keeps them
  refine onSchema_ind cfg fuel (.vis p) (J := fun h s => ∀ e, e ∈ s.dirs → DirNamed p.dirVis h e.2) (fun x hx => ?_)
    (healRound_dirs_named cfg p.dirVis) e
  obtain ⟨d, hd, hn⟩ := round_dirs_named cfg (.vis p) (fun _ => true) s h hin x hx
  exact ⟨d, hd, by simpa [dirHidden] using hn⟩

/-- hides the directive `lim` (and nothing else) -/
def hideLim : VisP := { typeVis := fun _ => true, fieldVis := fun _ _ => true, inputVis := fun _ _ => true, dirVis := fun n => n != "lim" }

/-- non-vacuity with a predicate that hides a directive: the source registers `lim`, the transform result registers none -/
theorem visibility_directive_witness :
    closedB hDir sDir = true ∧ wfB hDir sDir = true ∧ sDir.dirs.map (·.1) = ["lim"] ∧
    ((transform Cfg.fixed 8 [.vis hideLim] sDir hDir).map fun r => r.2.dirs.map (·.1)) = some [] := by decide +kernel

end PyGql.Props.C14
