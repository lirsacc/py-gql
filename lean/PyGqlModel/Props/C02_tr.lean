/-
  C02: the hand-written model of `_string_utils.parse_block_string` (`PyGqlModel/BlockString.lean`, about which
  `block_string_spec` is proved) EQUALS the definition the translator derives from the source text on every run
  (`Generated/TrBlockString.lean`): the line split, the `common_indent` loop, the in-place dedent loop with item assignment,
  the two `while … pop` loops (translated with explicit fuel: the equation shows the fuel never runs out and no
  `IndexError` is reachable) and the join. The only hypothesis: every line is shorter than `sys.maxsize`, the sentinel
  the source starts `common_indent` from (the model uses `none` instead).
-/
import PyGqlModel.BlockString
import PyGqlModel.Generated.TrBlockString
import PyGqlModel.Lemmas.TrBasics

namespace PyGql.Props.C02
open PyGql PyGql.BlockString PyGql.Generated

private theorem lineSepSplitAux_eq (b : Bool) (t : Text) : Py.lineSepSplitAux b t = splitLinesAux b t := by
  induction t generalizing b with
  | nil => rfl
  | cons c t ih =>
    simp only [Py.lineSepSplitAux, splitLinesAux, ih]
    cases splitLinesAux false t <;> rfl

private theorem lstrip_eq (l : Text) : Py.lstrip l [32, 9] = lstrip l := by
  have : (fun c : Nat => [32, 9].contains c) = isBlankChar := by
    funext c
    by_cases h1 : c = 32 <;> by_cases h2 : c = 9 <;> simp [isBlankChar, h1, h2]
  unfold Py.lstrip lstrip
  rw [this]

/-! ### the `common_indent` loop -/

/-- `sys.maxsize` -/
def maxsize : Int := 9223372036854775807

/-- the model's accumulator (`none` = still the sentinel) as the source's integer -/
def encIndent : Option Nat → Int
  | none => maxsize
  | some k => k

private theorem lstrip_len_le (l : Text) : (lstrip l).length ≤ l.length := by
  unfold lstrip; exact (List.dropWhile_suffix _).length_le

/-- the accumulator stays below the sentinel -/
private def Small (acc : Option Nat) : Prop := ∀ k, acc = some k → (k : Int) < maxsize

/-- one turn of the translated loop is one `indentStep` of the model -/
private theorem loop1_step (lines : List Text) (l : Text) (ls : List Text) (acc : Option Nat)
    (hl : (l.length : Int) < maxsize) (hacc : Small acc) :
    Tr.parse_block_string.loop1 lines (l :: ls) (encIndent acc) =
      Tr.parse_block_string.loop1 lines ls (encIndent (indentStep acc l)) ∧ Small (indentStep acc l) := by
  have hle := lstrip_len_le l
  rw [Tr.parse_block_string.loop1]
  simp only [lstrip_eq, Py.len, Int.ofNat_eq_natCast]
  by_cases h0 : (lstrip l).length = 0
  · have hstep : indentStep acc l = acc := by simp [indentStep, h0]
    rw [hstep]
    exact ⟨by simp [h0], hacc⟩
  · have hne : ((((lstrip l).length : Nat) : Int) != 0) = true := by rw [bne_iff_ne]; omega
    rw [if_pos hne, Py.imin_eq_min]
    cases acc with
    | none =>
      have e1 : indentStep none l = some (l.length - (lstrip l).length) := by simp [indentStep, h0]
      rw [e1]
      refine ⟨congrArg _ ?_, fun k hk => ?_⟩
      · show min maxsize _ = ((l.length - (lstrip l).length : Nat) : Int); omega
      · cases hk; omega
    | some m =>
      have e1 : indentStep (some m) l = some (min m (l.length - (lstrip l).length)) := by simp [indentStep, h0]
      have := hacc m rfl
      rw [e1]
      refine ⟨congrArg _ ?_, fun k hk => ?_⟩
      · show min (m : Int) _ = ((min m (l.length - (lstrip l).length) : Nat) : Int); omega
      · cases hk; omega

private theorem loop1_eq (lines : List Text) : ∀ (ls : List Text) (acc : Option Nat),
    (∀ l ∈ ls, (l.length : Int) < maxsize) → Small acc →
    Tr.parse_block_string.loop1 lines ls (encIndent acc) = .fall (encIndent (ls.foldl indentStep acc))
      ∧ Small (ls.foldl indentStep acc)
  | [], acc, _, hacc => ⟨by rw [Tr.parse_block_string.loop1]; rfl, hacc⟩
  | l :: ls, acc, hls, hacc => by
    obtain ⟨e, hs⟩ := loop1_step lines l ls acc (hls l (List.mem_cons_self ..)) hacc
    rw [e, List.foldl_cons]
    exact loop1_eq lines ls _ (fun x hx => hls x (List.mem_cons_of_mem _ hx)) hs

/-! ### the dedent loop (`lines[i + 1] = line[common_indent:]`) -/

private theorem loop2_eq (k : Nat) : ∀ (todo done : List Text) (i : Int), i + 1 = (done.length : Int) →
    Tr.parse_block_string.loop2 (k : Int) (Py.enumerateFrom i todo) (done ++ todo)
      = .fall (done ++ todo.map (fun l => l.drop k))
  | [], done, i, _ => by simp [Py.enumerateFrom, Tr.parse_block_string.loop2]
  | t :: ts, done, i, hi => by
    rw [Py.enumerateFrom, Tr.parse_block_string.loop2, hi, Py.setItem_at, Py.sliceFrom_natCast]
    have := loop2_eq k ts (done ++ [t.drop k]) (i + 1) (by simp; omega)
    rw [hi] at this
    simpa using this

/-! ### the two `while … pop` loops -/

private theorem while3_eq : ∀ (fuel : Nat) (lines : List Text), lines.length < fuel →
    Tr.parse_block_string.while3 fuel lines = .fall (popLeading lines)
  | 0, _, h => by omega
  | fuel + 1, [], _ => by simp [Tr.parse_block_string.while3, popLeading]
  | fuel + 1, l :: ls, h => by
    rw [Tr.parse_block_string.while3, popLeading]
    simp only [Py.getItem_zero, lstrip_eq, List.isEmpty_cons, Bool.not_false, if_true, Py.pop0]
    by_cases hb : (lstrip l).isEmpty = true
    · simp only [hb, Bool.not_true, Bool.not_false, if_true]
      exact while3_eq fuel ls (by simp at h; omega)
    · simp [hb]

private theorem popTrailing_snoc (xs : List Text) (x : Text) :
    popTrailing (xs ++ [x]) = if (lstrip x).isEmpty then popTrailing xs else xs ++ [x] := by
  induction xs with
  | nil => simp [popTrailing]
  | cons y ys ih =>
    rw [List.cons_append, popTrailing, ih]
    by_cases hb : (lstrip x).isEmpty = true
    · simp only [hb, if_true]; rw [popTrailing]
    · simp only [hb, Bool.false_eq_true, if_false]
      cases ys <;> simp

private theorem while4_eq : ∀ (fuel : Nat) (lines : List Text), lines.length < fuel →
    Tr.parse_block_string.while4 fuel lines = .fall (popTrailing lines)
  | 0, _, h => by omega
  | fuel + 1, lines, h => by
    rcases List.eq_nil_or_concat lines with rfl | ⟨xs, x, rfl⟩
    · simp [Tr.parse_block_string.while4, popTrailing]
    · rw [List.concat_eq_append] at h ⊢
      rw [Tr.parse_block_string.while4, popTrailing_snoc]
      have hne : (xs ++ [x]).isEmpty = false := by simp
      simp only [Py.getItem_last, Py.popLast_snoc, lstrip_eq, hne, Bool.not_false, if_true]
      by_cases hb : (lstrip x).isEmpty = true
      · simp only [hb, Bool.not_true, Bool.not_false, if_true]
        exact while4_eq fuel xs (by simp at h; omega)
      · simp [hb]

private theorem join_eq : ∀ ls : List Text, Py.join [10] ls = joinLF ls
  | [] => rfl
  | [l] => rfl
  | l :: m :: ls => by simp [Py.join, joinLF, join_eq (m :: ls)]

/-- `parse_block_string`, model = source, for every raw string whose lines are shorter than `sys.maxsize`:
    the translated function returns (never raises, never runs out of fuel) exactly the model's result. -/
theorem parse_block_string_model_eq_source (raw : Text) (h : ∀ l ∈ splitLines raw, (l.length : Int) < maxsize) :
    Tr.parse_block_string raw = .ok (parseBlockString raw) := by
  unfold Tr.parse_block_string parseBlockString commonIndent
  have hsplit : Py.lineSepSplit raw = splitLines raw := lineSepSplitAux_eq false raw
  have hdrop : ∀ L : List Text, Py.sliceFrom L (1 : Int) = L.drop 1 := fun L => Py.sliceFrom_natCast L 1
  simp only [hsplit, hdrop]
  generalize splitLines raw = L at h ⊢
  obtain ⟨h1, h1b⟩ := loop1_eq L (L.drop 1) none (fun l hl => h l (List.mem_of_mem_drop hl)) (fun _ hk => nomatch hk)
  have hm : (9223372036854775807 : Int) = encIndent none := rfl
  rw [hm, h1]
  simp only []
  cases hci : List.foldl indentStep none (List.drop 1 L) with
  | none =>
    have : ¬ (encIndent none < encIndent none) := by omega
    simp only [this, decide_false, Bool.false_eq_true, if_false]
    rw [while3_eq _ _ (by simp [Py.len] <;> omega)]
    simp only []
    rw [while4_eq _ _ (by simp [Py.len] <;> omega)]
    simp only [join_eq]
  | some k =>
    have hk : encIndent (some k) < encIndent none := h1b k hci
    simp only [hk, decide_true, if_true]
    cases L with
    | nil => simp at hci
    | cons l0 rest =>
      have h2 := loop2_eq k rest [l0] 0 (by simp)
      simp only [List.singleton_append] at h2
      simp only [List.drop_succ_cons, List.drop_zero, Py.enumerate, encIndent, h2]
      rw [while3_eq _ _ (by simp [Py.len] <;> omega)]
      simp only []
      rw [while4_eq _ _ (by simp [Py.len] <;> omega)]
      simp [join_eq]

private theorem splitLinesAux_len : ∀ (t : Text) (b : Bool), ∀ l ∈ splitLinesAux b t, l.length ≤ t.length
  | [], b, l, hl => by simp [splitLinesAux] at hl; simp [hl]
  | c :: t, b, l, hl => by
    have ihf := splitLinesAux_len t false
    have iht := splitLinesAux_len t true
    rw [splitLinesAux] at hl
    by_cases h10 : c = 10
    · simp only [h10, if_true] at hl
      cases b with
      | true => simp only [if_true] at hl; have := ihf l hl; simp; omega
      | false =>
        simp only [Bool.false_eq_true, if_false, List.mem_cons] at hl
        rcases hl with rfl | hl
        · simp
        · have := ihf l hl; simp; omega
    · simp only [h10, if_false] at hl
      by_cases h13 : c = 13
      · simp only [h13, if_true, List.mem_cons] at hl
        rcases hl with rfl | hl
        · simp
        · have := iht l hl; simp; omega
      · simp only [h13, if_false] at hl
        cases hs : splitLinesAux false t with
        | nil => simp only [hs, List.mem_singleton] at hl; subst hl; simp
        | cons l0 ls =>
          simp only [hs, List.mem_cons] at hl
          rcases hl with rfl | hl
          · have := ihf l0 (by simp [hs]); simp; omega
          · have := ihf l (by simp [hs, hl]); simp; omega

/-- `parse_block_string`, model = source, for every raw string shorter than `sys.maxsize` = 2^63 − 1 code points
    (no longer string fits in memory): the hypothesis on the lines follows from the length of the input. -/
theorem parse_block_string_model_eq_source_of_length (raw : Text) (h : (raw.length : Int) < maxsize) :
    Tr.parse_block_string raw = .ok (parseBlockString raw) :=
  parse_block_string_model_eq_source raw (fun l hl => by
    have := splitLinesAux_len raw false l hl
    omega)

/-- the hypothesis is satisfiable by a non-trivial input (indented second line, blank first and last lines) … -/
example : ∀ l ∈ splitLines [10, 32, 32, 97, 13, 10, 32, 32, 32, 98, 10, 9], (l.length : Int) < maxsize := by decide +kernel
/-- … on which the translated source computes the dedented text `a\n b` -/
example : Tr.parse_block_string [10, 32, 32, 97, 13, 10, 32, 32, 32, 98, 10, 9] = .ok [97, 10, 32, 98] := by rfl

end PyGql.Props.C02
