/-
  C14 — `untouched_preserved` for `extend_schema`, at full strength, per schema:

  for EVERY heap, schema (well-formed: a Python schema), extension document (not redefining a registered type) and every
  variant of the code that rebuilds all registered types (`extKeepAll`), the result registers
  * under the name of every source type a REBUILT object keeping name, kind, description, default resolver, type resolver,
    enum values (`TypeKept`), whose member list is — in order — a fresh rebuilt copy of every old field / input field
    (`FieldKept` / `ArgKept`: name, description, deprecation, resolver, subscription resolver, python name, default, type by
    name; each field's arguments likewise, in order), followed by exactly the members the extension adds (none when the
    extension does not name the type);
  * every specified scalar unchanged (the same object);
  * under the name of every directive a rebuilt copy with the same name, locations, description and rebuilt arguments;
  * the same root operation type names and (variant permitting) the schema-level default resolver.
  "As far as the constructors pass them on" is what `Cfg.ext*` (re-extracted from the source on every run) says; for
  `Cfg.fixed` all of them are equalities (`typeKept_fixed`, `fieldKept_fixed`, `argKept_fixed`).
  These theorems are about `extend` (HeapExt.lean). `extend_schema` as the code performs it is `extendO`: `extend` plus the `implements`
  clauses of the types the document defines and the dict order of `Schema.__init__`; it registers the same entries (`extendO_same`,
  Props/C14_extend_order.lean).
-/
import PyGqlModel.Lemmas.HeapExtMembers
import PyGqlModel.Props.C14_closed


namespace PyGql.Props.C14
open PyGql.Heap PyGql.Heap.Own

/-- FULL, types and their members -/
theorem untouched_preserved_extend (cfg : Cfg) (hk : cfg.extKeepAll = true) (ext : Ext) (s : Schema) (h : Heap)
    (hw : wfB h s = true) (hnew : ∀ e, e ∈ ext.newTypes → e.1 ∉ names s)
    (n : String) (a : Addr) (t : TypeO) (hm : (n, a) ∈ s.types) (hp : isProtected n = false) (ht : h.readType a = some t) :
    ∃ N a' t' kept added, lookup (extend cfg ext s h).2.types n = some a' ∧ (extend cfg ext s h).1.readType a' = some t' ∧
      TypeKept cfg t t' ∧ t'.fields = kept ++ added ∧ MembersRel cfg N h (extend cfg ext s h).1 h.size t kept ∧
      (assocD ext.fields t.name = [] → assocD ext.inputFields t.name = [] → added = []) := by
  have w := wfs_of_wfB hw
  exact extend_type_full cfg hk ext s h w.nodup hnew n a t hm hp ht
    (membersReadable_of_shape _ h a t ht (w.types (n, a) hm))

/-- … the specified scalars stay the very same objects -/
theorem untouched_preserved_extend_protected (cfg : Cfg) (hk : cfg.extKeepAll = true) (ext : Ext) (s : Schema) (h : Heap)
    (hw : wfB h s = true) (n : String) (a : Addr) (hm : (n, a) ∈ s.types) (hp : isProtected n = true) :
    lookup (extend cfg ext s h).2.types n = some a ∧ (extend cfg ext s h).1.read a = h.read a := by
  have w := wfs_of_wfB hw
  refine ⟨?_, ?_⟩
  · simp only [extend, hk, if_true]
    apply lookup_append_left'
    have hnd : ((s.types.filter fun e => isProtected e.1).map (·.1)).Nodup :=
      List.Nodup.sublist (List.Sublist.map _ List.filter_sublist) w.nodup
    exact lookup_of_mem_nodup hnd (e := (n, a)) (List.mem_filter.mpr ⟨hm, hp⟩)
  · obtain ⟨t, ht, _⟩ := (typeShape_iff _ h a).mp (w.types (n, a) hm)
    exact (extend_frames_source cfg ext s h).2 a (read_lt h a _ (readType_read ht))

/-- … every directive -/
theorem untouched_preserved_extend_directives (cfg : Cfg) (ext : Ext) (s : Schema) (h : Heap) (hw : wfB h s = true)
    (hnd : (s.dirs.map (·.1)).Nodup) (e : String × Addr) (he : e ∈ s.dirs) :
    ∃ N a', lookup (extend cfg ext s h).2.dirs e.1 = some a' ∧ DirRelB cfg N h (extend cfg ext s h).1 h.size e (e.1, a') := by
  have w := wfs_of_wfB hw
  exact extend_dir_full cfg ext s h w.nodup hnd (fun e' he' => dirShape_readable (w.dirs e' he')) e he

/-- … the root operation types (by name: the rebuilt object registered under the same name) and the schema-level default resolver -/
theorem untouched_preserved_extend_schema_level (cfg : Cfg) (hk : cfg.extKeepAll = true) (ext : Ext) (s : Schema) (h : Heap) :
    (extend cfg ext s h).2.query = reRoot (extend cfg ext s h).2.types s.query ∧
    (extend cfg ext s h).2.mutation = reRoot (extend cfg ext s h).2.types s.mutation ∧
    (extend cfg ext s h).2.subscription = reRoot (extend cfg ext s h).2.types s.subscription ∧
    (extend cfg ext s h).2.dres = (if cfg.extSchemaDres then s.dres else none) := by
  simp [extend, hk]

theorem argKept_fixed (N : List (String × Addr)) (g g' : ArgO) (k : ArgKept true N g g') :
    g'.name = g.name ∧ g'.dflt = g.dflt ∧ g'.desc = g.desc ∧ g'.py = g.py := by
  obtain ⟨h1, h2, h3, _, h5⟩ := k
  exact ⟨h1, h2, h3, by simpa using h5⟩

theorem repoint_base_name (N : List (String × Addr)) (t : TRef) : (repoint N t).base.name = t.base.name := by
  induction t with
  | named r => simp [repoint, TRef.base]
  | list t ih => simpa [repoint, TRef.base] using ih
  | nonNull t ih => simpa [repoint, TRef.base] using ih

/-- non-vacuity on the witness: `Pet` after `extend … "type Zed {z: String}"` -/
example : wfB h0 s0 = true ∧ (∀ e, e ∈ zed.newTypes → e.1 ∉ names s0) ∧ (("Pet", 1) ∈ s0.types) ∧ isProtected "Pet" = false :=
  ⟨s0_wf, by decide +kernel, by decide +kernel, by decide +kernel⟩

/-! ### T9: the BEHAVIOUR of a leaf type (the class of a `ScalarType` / `EnumType` subclass instance) -/

/-- FULL statement: after `extend_schema` every custom scalar / enum of the source is registered under its name as an object of
    the same Python class — `class Upper(ScalarType)` overriding `serialize` / `parse` keeps serializing upper-case -/
def ExtendKeepsLeafClass (cfg : Cfg) : Prop :=
  ∀ (ext : Ext) (s : Schema) (h : Heap), wfB h s = true → (∀ e, e ∈ ext.newTypes → e.1 ∉ names s) →
    ∀ (n : String) (a : Addr) (t : TypeO), (n, a) ∈ s.types → isProtected n = false → h.readType a = some t →
      (t.kind = Kind.scalar ∨ t.kind = Kind.enum) →
      ∃ a' t', lookup (extend cfg ext s h).2.types n = some a' ∧ (extend cfg ext s h).1.readType a' = some t' ∧ t'.cls = t.cls

theorem extend_keeps_leaf_class (cfg : Cfg) (hk : cfg.extKeepAll = true) (hc : cfg.extLeafCopied = true) : ExtendKeepsLeafClass cfg := by
  intro ext s h hw hnew n a t hm hp ht hl
  obtain ⟨N, a', t', kept, added, h1, h2, h3, _⟩ := untouched_preserved_extend cfg hk ext s h hw hnew n a t hm hp ht
  refine ⟨a', t', h1, h2, ?_⟩
  have h8 := h3.2.2.2.2.2.2.2
  rcases hl with hl | hl <;> simpa [hl, hc] using h8

/-- a schema with one custom scalar `Upper` that is an instance of a `ScalarType` subclass (class #1) -/
def hUp : Heap := ⟨[
  .type { kind := .scalar, name := "Upper", desc := none, fields := [], ifaces := [], members := [], dres := none, rtype := none, values := [], prot := false, cls := some 1 },
  .type { kind := .object, name := "Query", desc := none, fields := [2], ifaces := [], members := [], dres := none, rtype := none, values := [], prot := false },
  .field { name := "up", ty := .named ⟨"Upper", 0⟩, args := [], desc := none, depr := none, res := some 1, sub := none, py := "up" }]⟩
def sUp : Schema := { types := [("Upper", 0), ("Query", 1)], dirs := [], query := some ⟨"Query", 1⟩, mutation := none, subscription := none, dres := none }
/-- `extend type Query { other: Int }` seen from `Upper`: an extension that does not name it -/
def extOther : Ext := { newTypes := [], fields := [("Query", [{ name := "other", ty := .named "Upper", args := [] }])], inputFields := [],
                        members := [], values := [], newDirs := [] }

/-- T9, REFUTATION for the code that rebuilds a plain `ScalarType(...)`: the class is lost by an unrelated extension -/
theorem extend_keeps_leaf_class_refuted : ¬ ExtendKeepsLeafClass { Cfg.fixed with extLeafCopied := false } := by
  intro hf
  have hu : (hUp.readType 0).map (fun t => (t.kind, t.cls)) = some (Kind.scalar, some 1) := by decide +kernel
  obtain ⟨t, ht, hr⟩ := Option.map_eq_some_iff.1 hu
  obtain ⟨hk, hc⟩ := Prod.mk.inj hr
  obtain ⟨a', t', h1, h2, h3⟩ := hf extOther sUp hUp (by decide +kernel) (by decide +kernel) "Upper" 0 t (by decide +kernel) (by decide +kernel) ht (Or.inl hk)
  have e : ((lookup (extend { Cfg.fixed with extLeafCopied := false } extOther sUp hUp).2.types "Upper").bind
      (extend { Cfg.fixed with extLeafCopied := false } extOther sUp hUp).1.readType).map (·.cls) = some none := by decide +kernel
  rw [h1, Option.bind_some, h2, Option.map_some, h3, hc] at e
  cases e

/-- … and kept by the copying variant (`copy.copy`), on the same history -/
theorem extend_keeps_leaf_class_witness_fixed :
    ((lookup (extend Cfg.fixed extOther sUp hUp).2.types "Upper").bind (extend Cfg.fixed extOther sUp hUp).1.readType).map (·.cls)
      = some (some 1) := by decide +kernel

theorem current_extend_keeps_leaf_class : ExtendKeepsLeafClass PyGql.Generated.HeapCfg.currentCfg :=
  extend_keeps_leaf_class _ cur_extKeepAll cur_extLeafCopied

end PyGql.Props.C14
