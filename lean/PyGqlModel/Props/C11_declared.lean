/-
  C11 — the declared content meets the INDEPENDENT specification `DeclaredSpec` (Spec/SdlDeclared.lean): what each member
  builder returns satisfies the attribute-by-attribute relation (name, type, description, deprecation reason, default,
  locations, member lists, nothing else), hence `Declared doc = some c → DeclaredSpec doc c`.  The relation is not loose:
  two contents that satisfy it are EQUAL (`spec_determines`), so a builder that dropped a description, mis-read
  `@deprecated(reason:)`, lost a location or reordered members would falsify `declared_meets_spec`.
  Defaults go through the shared coercion `CoercesTo` (= `valueFromAst`); roots: the fold of `Roots.set` is the last
  binding of each operation (`DeclaresRoot`).
-/
import PyGqlModel.Spec.SdlDeclared
import PyGqlModel.Props.C11_rules
import PyGqlModel.Props.C11_valid


namespace PyGql.Props.C11
open PyGql PyGql.Sdl PyGql.SdlSpec

theorem mapM_forall2 {α β} (f : α → R β) (P : α → β → Prop) (hP : ∀ x y, f x = .ok y → P x y) :
    ∀ (l : List α) (rs : List β), l.mapM f = .ok rs → Each₂ P l rs := by
  intro l
  induction l with
  | nil => intro rs h; cases h; exact Each₂.nil
  | cons x xs ih =>
    intro rs h
    obtain ⟨b, bs, hb, hbs, rfl⟩ := Run.mapM_cons_ok_iff.mp h
    exact Each₂.cons (hP x b hb) (ih bs hbs)

theorem deprecationReason_spec (ds : List DirApp) (r : Option String) (h : deprecationReason ds = .ok r) : DeclaresDeprecation ds r := by
  unfold deprecationReason at h
  cases hf : ds.find? (·.name == "deprecated") with
  | none => rw [hf] at h; have := ok_inj h; subst this; exact .absent hf
  | some d =>
    rw [hf] at h
    simp only [] at h
    cases hl : lookupLast d.args "reason" with
    | none => rw [hl] at h; have := ok_inj h; subst this; exact .byDefault d hf hl
    | some l =>
      rw [hl] at h
      cases l <;> simp only [] at h
      case null => have := ok_inj h; subst this; exact .null d hf hl
      case str s => have := ok_inj h; subst this; exact .reason d s hf hl
      all_goals (simp [sdlErr] at h)

theorem defaultValue_spec (env : Env) (l : Lit) (ty : Ty) (v : J) (h : defaultValue env l ty = .ok v) : CoercesTo env ty l v := by
  unfold defaultValue at h
  unfold CoercesTo
  cases hv : valueFromAst env coerceFuel l ty with
  | none => rw [hv] at h; cases h
  | some o =>
    rw [hv] at h
    cases o with
    | none => simp [sdlErr] at h
    | some w => have := ok_inj h; subst this; rfl

theorem buildArgument_spec (env : Env) (a : InputValDef) (r : ArgD) (h : buildArgument env a = .ok r) : DeclaresArg env a r := by
  unfold buildArgument at h
  obtain ⟨_, _, h⟩ := bind_ok _ _ _ h
  cases hd : a.default with
  | none =>
    rw [hd] at h
    have := ok_inj h; subst this
    exact ⟨rfl, rfl, rfl, rfl, fun _ => ⟨rfl, rfl⟩, fun l hl => (by rw [hd] at hl; cases hl)⟩
  | some l =>
    rw [hd] at h
    simp only [] at h
    obtain ⟨v, hv, h⟩ := bind_ok _ _ _ h
    have := ok_inj h; subst this
    exact ⟨rfl, rfl, rfl, rfl, fun hn => (by rw [hd] at hn; cases hn), fun l' hl' => (by rw [hd] at hl'; cases hl'; exact ⟨rfl, defaultValue_spec env l a.type v hv⟩)⟩

theorem fieldDeprecation_eq (r : Option String) : fieldDeprecation r = fieldReason r := by
  unfold fieldDeprecation fieldReason
  rfl

theorem buildField_spec (env : Env) (f : FieldDef) (r : FieldD) (h : buildField env f = .ok r) : DeclaresField env f r := by
  unfold buildField at h
  obtain ⟨_, _, h⟩ := bind_ok _ _ _ h
  obtain ⟨args, hargs, h⟩ := bind_ok _ _ _ h
  obtain ⟨reason, hr, h⟩ := bind_ok _ _ _ h
  have := ok_inj h; subst this
  exact ⟨rfl, rfl, rfl, mapM_forall2 _ _ (buildArgument_spec env) _ _ hargs,
    ⟨reason, deprecationReason_spec _ _ hr, fieldDeprecation_eq reason⟩, rfl, rfl⟩

theorem buildEnumValue_spec (v : EnumValDef) (r : EnumValD) (h : buildEnumValue v = .ok r) : DeclaresEnumValue v r := by
  unfold buildEnumValue at h
  obtain ⟨_, _, h⟩ := bind_ok _ _ _ h
  obtain ⟨reason, hr, h⟩ := bind_ok _ _ _ h
  have := ok_inj h; subst this
  exact ⟨rfl, rfl, rfl, deprecationReason_spec _ _ hr⟩

private theorem ite_imp {c A A' B : Prop} [Decidable c] (h : if c then A else B) (f : A → A') : if c then A' else B := by
  split <;> rename_i hc
  · exact f ((if_pos hc).mp h)
  · exact (if_neg hc).mp h

private theorem ite_eq {α} {c : Prop} [Decidable c] {x a b : α} (h : if c then x = a else x = b) : x = if c then a else b := by
  split <;> rename_i hc
  · exact (if_pos hc).mp h
  · exact (if_neg hc).mp h

/-- **what `_build_<kind>_type` returns is the declared content of the definition** -/
theorem buildTypeDef_spec (env : Env) (d : TypeDef) (r : TypeD) (h : buildTypeDef env d = .ok r) : DeclaresType env d r := by
  rw [← buildTypeDefX_none env env fun _ => rfl] at h
  obtain ⟨hn, hk, hf, hi, hm, hv, hx, hd, hp⟩ := buildTypeDefX_lists env env none d r h
  rw [buildFieldX_none env env fun _ => rfl] at hf
  rw [buildArgumentX_none env env fun _ => rfl] at hx
  -- each member list the kind has is built member by member, and every member is the declared one
  exact ⟨hn, hk, hd, ⟨ite_imp hf (mapM_forall2 _ _ (buildField_spec env) _ _), ite_eq hi, ite_eq hm,
    ite_imp hv (mapM_forall2 _ _ buildEnumValue_spec _ _), ite_imp hx (mapM_forall2 _ _ (buildArgument_spec env) _ _)⟩, hp⟩

theorem buildDirective_spec (env : Env) (d : DirDef) (r : DirectiveD) (h : buildDirective env d = .ok r) : DeclaresDirective env d r := by
  unfold buildDirective at h
  obtain ⟨args, hargs, h⟩ := bind_ok _ _ _ h
  have := ok_inj h; subst this
  exact ⟨rfl, rfl, rfl, mapM_forall2 _ _ (buildArgument_spec env) _ _ hargs⟩

def RootOp (op : String) : Prop := op = "query" ∨ op = "mutation" ∨ op = "subscription"

theorem get_set_eq (r : Roots) (op ty : String) (h : RootOp op) : (r.set op ty).get op = some ty := by
  rcases h with rfl | rfl | rfl <;> simp [Roots.set, Roots.get]

theorem lastBinding_cons (o : String × String) (os : List (String × String)) (op : String) :
    lastBinding (o :: os) op = match lastBinding os op with | some ty => some ty | none => if o.1 == op then some o.2 else none := by
  unfold lastBinding
  rw [List.reverse_cons, List.find?_append]
  cases h : os.reverse.find? (·.1 == op) with
  | some x => simp
  | none =>
    simp only [Option.none_or, List.find?_cons, List.find?_nil, Option.map_none]
    by_cases hc : (o.1 == op) = true
    · simp [hc]
    · simp [hc]

theorem foldSet_get (op : String) (h : RootOp op) : ∀ (ops : List (String × String)) (r0 : Roots),
    (ops.foldl (fun r (o : String × String) => r.set o.1 o.2) r0).get op =
      match lastBinding ops op with | some ty => some ty | none => r0.get op := by
  intro ops
  induction ops with
  | nil => intro r0; rfl
  | cons o os ih =>
    intro r0
    rw [List.foldl_cons, ih, lastBinding_cons]
    cases lastBinding os op with
    | some ty => rfl
    | none =>
      simp only []
      by_cases hc : (o.1 == op) = true
      · have : o.1 = op := by simpa using hc
        simp only [hc, if_true]; rw [this, get_set_eq _ _ _ h]
      · have hne : op ≠ o.1 := fun e => hc (by simp [e])
        simp only [hc]; exact get_set_ne _ _ _ _ hne

theorem foldBlocks_flat (f : Roots → String × String → Roots) : ∀ (blocks : List SchemaDef) (r0 : Roots),
    blocks.foldl (fun r se => se.ops.foldl f r) r0 = (blocks.flatMap (·.ops)).foldl f r0 := by
  intro blocks
  induction blocks with
  | nil => intro _; rfl
  | cons b bs ih => intro r0; rw [List.foldl_cons, ih, List.flatMap_cons, List.foldl_append]

theorem setFun_eq : (fun (r : Roots) (x : String × String) => match x with | (op, ty) => r.set op ty) = (fun r o => r.set o.1 o.2) := by
  funext r x; cases x; rfl

theorem declaredRoots_get (doc : Doc) (types : List TypeD) (op : String) (h : RootOp op) :
    (declaredRoots doc types).get op = match lastBinding (declaredOps doc) op with
      | some ty => some ty
      | none => match schemaDefs doc with | _ :: _ => none | [] => (defaultRoots types).get op := by
  unfold declaredRoots declaredOps
  simp only []
  rw [setFun_eq, foldBlocks_flat]
  cases hs : schemaDefs doc with
  | nil =>
    simp only [List.nil_append]
    rw [foldSet_get op h]
  | cons sd rest =>
    simp only []
    rw [← List.foldl_append, foldSet_get op h]
    cases lastBinding (sd.ops ++ (schemaExtensions doc).flatMap (·.ops)) op with
    | some ty => rfl
    | none => exact empty_get op

theorem pick_spec (types : List TypeD) (dflt : String) (r : Option String)
    (hr : r = if types.any (fun t => t.name == dflt && t.kind == .object) then some dflt else none) :
    ((∃ t ∈ types, t.name = dflt ∧ t.kind = .object) → r = some dflt) ∧
    ((¬ ∃ t ∈ types, t.name = dflt ∧ t.kind = .object) → r = none) := by
  have hiff : types.any (fun t => t.name == dflt && t.kind == .object) = true ↔ ∃ t ∈ types, t.name = dflt ∧ t.kind = .object := by
    simp [List.any_eq_true]
  constructor
  · intro h; rw [hr, if_pos (hiff.mpr h)]
  · intro h; rw [hr, if_neg (fun c => h (hiff.mp c))]

theorem declaresRoot_of_get (doc : Doc) (types : List TypeD) (op dflt : String) (h : RootOp op)
    (hd : (defaultRoots types).get op = if types.any (fun t => t.name == dflt && t.kind == .object) then some dflt else none) :
    DeclaresRoot doc types op dflt ((declaredRoots doc types).get op) := by
  unfold DeclaresRoot
  rw [declaredRoots_get doc types op h]
  cases lastBinding (declaredOps doc) op with
  | some ty => rfl
  | none =>
    simp only []
    cases hs : schemaDefs doc with
    | nil => exact pick_spec types dflt _ hd
    | cons _ _ => rfl

theorem declaredRoots_spec (doc : Doc) (types : List TypeD) :
    DeclaresRoot doc types "query" "Query" (declaredRoots doc types).query ∧
    DeclaresRoot doc types "mutation" "Mutation" (declaredRoots doc types).mutation ∧
    DeclaresRoot doc types "subscription" "Subscription" (declaredRoots doc types).subscription :=
  ⟨declaresRoot_of_get doc types "query" "Query" (Or.inl rfl) rfl,
   declaresRoot_of_get doc types "mutation" "Mutation" (Or.inr (Or.inl rfl)) rfl,
   declaresRoot_of_get doc types "subscription" "Subscription" (Or.inr (Or.inr rfl)) rfl⟩

/-- **`Declared` meets the independent specification**: every registered type / directive is, attribute by attribute,
    what the merged definition says. -/
theorem declared_meets_spec (doc : Doc) (c : SchemaD) (h : Declared doc = some c) : DeclaredSpec doc c := by
  unfold Declared at h
  simp only [] at h
  cases h1 : (merged doc).mapM (buildTypeDef (Env.of (merged doc))) with
  | error e => rw [h1] at h; simp at h
  | ok ts =>
    cases h2 : (dirDefs doc).mapM (buildDirective (Env.of (merged doc))) with
    | error e => rw [h1, h2] at h; simp at h
    | ok ds =>
      rw [h1, h2] at h
      simp only [Option.some.injEq] at h
      subst h
      obtain ⟨rq, rm, rs⟩ := declaredRoots_spec doc ts
      exact ⟨mapM_forall2 _ _ (buildTypeDef_spec _) _ _ h1, mapM_forall2 _ _ (buildDirective_spec _) _ _ h2, rq, rm, rs, rfl⟩

/-- **build_exact against the independent specification**: a document that satisfies `SdlOK` builds, and what is built
    is, attribute by attribute, the content the document declares. -/
theorem build_exact_final_spec (doc : Doc) (d : SchemaD) (v : SdlOK doc d) : build doc = .ok d ∧ DeclaredSpec doc d :=
  ⟨build_exact_final doc d v, declared_meets_spec doc d v.declares⟩

theorem build_exact_spec_independent (doc : Doc) (d : SchemaD) (r : SdlRules doc d) (x : Residue doc) :
    ∃ s, build doc = .ok s ∧ DeclaredSpec doc s :=
  ⟨d, build_exact_final doc d (sdlOK_of_rules doc d r x), declared_meets_spec doc d r.declares⟩

theorem deprecationReason_of_declares (ds : List DirApp) (r : Option String) (h : DeclaresDeprecation ds r) : deprecationReason ds = .ok r := by
  unfold deprecationReason
  cases h with
  | absent hf => rw [hf]; rfl
  | byDefault d hf hl => rw [hf]; simp only [hl]; rfl
  | null d hf hl => rw [hf]; simp only [hl]; rfl
  | reason d s hf hl => rw [hf]; simp only [hl]; rfl

theorem declaresDeprecation_unique (ds : List DirApp) (r r' : Option String) (h : DeclaresDeprecation ds r) (h' : DeclaresDeprecation ds r') :
    r = r' :=
  ok_inj ((deprecationReason_of_declares ds r h).symm.trans (deprecationReason_of_declares ds r' h'))

theorem forall2_unique {α β} (P : α → β → Prop) (hP : ∀ a b b', P a b → P a b' → b = b') :
    ∀ (l : List α) (r r' : List β), Each₂ P l r → Each₂ P l r' → r = r' := by
  intro l r r' h
  induction h generalizing r' with
  | nil => intro h'; cases h'; rfl
  | cons p _ ih => intro h'; cases h' with | cons p' t' => rw [hP _ _ _ p p', ih _ t']

theorem declaresArg_unique (env : Env) (a : InputValDef) (r r' : ArgD) (h : DeclaresArg env a r) (h' : DeclaresArg env a r') : r = r' := by
  obtain ⟨n, t, d, p, nd, df⟩ := h
  obtain ⟨n', t', d', p', nd', df'⟩ := h'
  cases r; cases r'
  simp only [ArgD.mk.injEq]
  simp only [] at n t d p nd df n' t' d' p' nd' df'
  cases hd : a.default with
  | none =>
    obtain ⟨a1, a2⟩ := nd hd
    obtain ⟨b1, b2⟩ := nd' hd
    exact ⟨n.trans n'.symm, t.trans t'.symm, a1.trans b1.symm, a2.trans b2.symm, d.trans d'.symm, p.trans p'.symm⟩
  | some l =>
    obtain ⟨a1, a2⟩ := df l hd
    obtain ⟨b1, b2⟩ := df' l hd
    unfold CoercesTo at a2 b2
    rw [a2] at b2
    simp only [Option.some.injEq] at b2
    exact ⟨n.trans n'.symm, t.trans t'.symm, a1.trans b1.symm, b2, d.trans d'.symm, p.trans p'.symm⟩

theorem declaresField_unique (env : Env) (f : FieldDef) (r r' : FieldD) (h : DeclaresField env f r) (h' : DeclaresField env f r') : r = r' := by
  obtain ⟨n, t, d, a, ⟨x, hx, dx⟩, r1, r2⟩ := h
  obtain ⟨n', t', d', a', ⟨x', hx', dx'⟩, r1', r2'⟩ := h'
  have := declaresDeprecation_unique _ _ _ hx hx'; subst this
  have ha := forall2_unique _ (declaresArg_unique env) _ _ _ a a'
  cases r; cases r'
  simp only [FieldD.mk.injEq]
  simp only [] at n t d dx r1 r2 n' t' d' dx' r1' r2' ha
  exact ⟨n.trans n'.symm, t.trans t'.symm, ha, dx.trans dx'.symm, d.trans d'.symm, r1.trans r1'.symm, r2.trans r2'.symm⟩

theorem declaresEnumValue_unique (v : EnumValDef) (r r' : EnumValD) (h : DeclaresEnumValue v r) (h' : DeclaresEnumValue v r') : r = r' := by
  obtain ⟨n, t, d, x⟩ := h
  obtain ⟨n', t', d', x'⟩ := h'
  have hx := declaresDeprecation_unique _ _ _ x x'
  cases r; cases r'
  simp only [EnumValD.mk.injEq]
  simp only [] at n t d hx n' t' d'
  exact ⟨n.trans n'.symm, t.trans t'.symm, hx, d.trans d'.symm⟩

theorem declaresType_unique (env : Env) (d : TypeDef) (r r' : TypeD) (h : DeclaresType env d r) (h' : DeclaresType env d r') : r = r' := by
  obtain ⟨n, k, ds, ⟨f, i, m, v, inp⟩, p1, p2⟩ := h
  obtain ⟨n', k', ds', ⟨f', i', m', v', inp'⟩, p1', p2'⟩ := h'
  have hf : r.fields = r'.fields := by
    by_cases c : d.kind = .object ∨ d.kind = .interface
    · rw [if_pos c] at f f'; exact forall2_unique _ (declaresField_unique env) _ _ _ f f'
    · rw [if_neg c] at f f'; rw [f, f']
  have hv : r.values = r'.values := by
    by_cases c : d.kind = .enum
    · rw [if_pos c] at v v'; exact forall2_unique _ declaresEnumValue_unique _ _ _ v v'
    · rw [if_neg c] at v v'; rw [v, v']
  have hi : r.inputFields = r'.inputFields := by
    by_cases c : d.kind = .input
    · rw [if_pos c] at inp inp'; exact forall2_unique _ (declaresArg_unique env) _ _ _ inp inp'
    · rw [if_neg c] at inp inp'; rw [inp, inp']
  cases r; cases r'
  simp only [TypeD.mk.injEq]
  simp only [] at n k ds i m p1 p2 n' k' ds' i' m' p1' p2' hf hv hi
  exact ⟨k.trans k'.symm, n.trans n'.symm, ds.trans ds'.symm, i.trans i'.symm, hf, m.trans m'.symm, hv, hi, p1.trans p1'.symm, p2.trans p2'.symm⟩

theorem declaresDirective_unique (env : Env) (d : DirDef) (r r' : DirectiveD) (h : DeclaresDirective env d r) (h' : DeclaresDirective env d r') : r = r' := by
  obtain ⟨n, l, ds, a⟩ := h
  obtain ⟨n', l', ds', a'⟩ := h'
  have ha := forall2_unique _ (declaresArg_unique env) _ _ _ a a'
  cases r; cases r'
  simp only [DirectiveD.mk.injEq]
  simp only [] at n l ds n' l' ds' ha
  exact ⟨n.trans n'.symm, l.trans l'.symm, ha, ds.trans ds'.symm⟩

theorem declaresRoot_unique (doc : Doc) (types : List TypeD) (op dflt : String) (r r' : Option String)
    (h : DeclaresRoot doc types op dflt r) (h' : DeclaresRoot doc types op dflt r') : r = r' := by
  unfold DeclaresRoot at h h'
  cases hl : lastBinding (declaredOps doc) op with
  | some ty => rw [hl] at h h'; exact h.trans h'.symm
  | none =>
    rw [hl] at h h'
    simp only [] at h h'
    cases hs : schemaDefs doc with
    | cons _ _ => rw [hs] at h h'; exact h.trans h'.symm
    | nil =>
      rw [hs] at h h'
      by_cases c : ∃ t ∈ types, t.name = dflt ∧ t.kind = .object
      · exact (h.1 c).trans (h'.1 c).symm
      · exact (h.2 c).trans (h'.2 c).symm

/-- **the specification determines the content**: two schema descriptions that satisfy `DeclaredSpec doc` are equal.
    With `declared_meets_spec`: `DeclaredSpec doc c ↔ Declared doc = some c` whenever the document declares anything. -/
theorem spec_determines (doc : Doc) (c c' : SchemaD) (h : DeclaredSpec doc c) (h' : DeclaredSpec doc c') : c = c' := by
  obtain ⟨t, d, q, m, s, r⟩ := h
  obtain ⟨t', d', q', m', s', r'⟩ := h'
  have ht := forall2_unique _ (declaresType_unique _) _ _ _ t t'
  have hd := forall2_unique _ (declaresDirective_unique _) _ _ _ d d'
  cases c; cases c'
  simp only [SchemaD.mk.injEq]
  simp only [] at q m s r q' m' s' r' ht hd
  subst ht
  exact ⟨rfl, hd, declaresRoot_unique _ _ _ _ _ _ q q', declaresRoot_unique _ _ _ _ _ _ m m', declaresRoot_unique _ _ _ _ _ _ s s', r.trans r'.symm⟩

theorem declaredSpec_iff (doc : Doc) (c₀ : SchemaD) (h₀ : Declared doc = some c₀) (c : SchemaD) : DeclaredSpec doc c ↔ Declared doc = some c :=
  ⟨fun h => by rw [h₀, spec_determines doc c c₀ h (declared_meets_spec doc c₀ h₀)], declared_meets_spec doc c⟩

/-! ### non-vacuity, and what the specification excludes -/

example : ∃ c, Declared extDoc = some c ∧ DeclaredSpec extDoc c :=
  ⟨(Declared extDoc).get extDeclares, by simp, declared_meets_spec _ _ (by simp)⟩

/-- `@deprecated(reason: "old")` declares the reason "old" and nothing else; without `reason:` the default text -/
example : DeclaresDeprecation [{ name := "deprecated", args := [("reason", .str "old")] }] (some "old") := .reason _ "old" rfl rfl
example : ¬ DeclaresDeprecation [{ name := "deprecated", args := [("reason", .str "old")] }] none :=
  fun h => by have := declaresDeprecation_unique _ _ _ h (.reason _ "old" rfl rfl); cases this
example : DeclaresDeprecation [{ name := "deprecated" }] (some "No longer supported") := .byDefault _ rfl rfl

/-- a field built WITHOUT its description does not meet the specification -/
example : ¬ DeclaresField (Env.of []) { name := "a", desc := some "doc", type := .named "Int" } { name := "a", type := .named "Int" } :=
  fun h => by have := h.desc; cases this

end PyGql.Props.C11
