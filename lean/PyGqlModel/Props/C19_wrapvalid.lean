/-
  C19 — the wrapped document IS valid: `Valid doc'` is derived, not assumed.
  `wrap_inline_in_fragment_ge` / `wrap_spread_in_fragment_ge` (Props/C19_wrapfrag.lean) take the validity of the wrapped
  document as a hypothesis. Valid documents have unique fragment names; with that, wrapping a block of a fragment body in an
  inline fragment, or moving it into a new fragment whose name is FRESH (not defined, not spread anywhere), keeps the document
  valid: unique names, acyclic (a rank for the new fragment set is given explicitly), directive variables bound. So the wrap
  theorems hold without that hypothesis (`wrap_*_in_fragment`; `wrap_*_in_fragment_final_derived` for the live measure
  `depthK`), and `wrap_spread_final` is the operation-level spread case under the live measure.
-/
import PyGqlModel.Props.C19_wrapfrag

namespace PyGql.Props.C19
open PyGql.Depth PyGql.DepthSpec PyGql.Depth.Lemmas

private theorem spreadsL_append (a b : List Sel) : spreadsL (a ++ b) = spreadsL a ++ spreadsL b := by
  induction a with
  | nil => simp [spreadsL]
  | cons x xs ih => simp [spreadsL, ih, List.append_assoc]

private theorem spreadsL_cons (s : Sel) (ss : List Sel) : spreadsL (s :: ss) = spreadsSel s ++ spreadsL ss := by
  simp [spreadsL]

theorem wrapInline_spreads {s s' : List Sel} (h : WrapInline s s') : spreadsL s' = spreadsL s := by
  induction h with
  | here pre mid post => simp [spreadsL_append, spreadsSel, spreadsL]
  | field pre post a n d sub sub' _ ih => simp [spreadsL_append, spreadsSel, spreadsL, ih]
  | inline pre post d ss ss' _ ih => simp [spreadsL_append, spreadsSel, spreadsL, ih]

/-- one selection `x` of a list replaced by `x'`, whose spreads are those of `x` and possibly `nm` -/
private theorem spreads_replace (nm : String) (pre post : List Sel) (x x' : Sel) (body : List Sel)
    (h : (∀ g ∈ spreadsSel x', g = nm ∨ g ∈ spreadsSel x) ∧ (∀ g ∈ spreadsL body, g ∈ spreadsSel x)) :
    (∀ g ∈ spreadsL (pre ++ [x'] ++ post), g = nm ∨ g ∈ spreadsL (pre ++ [x] ++ post)) ∧
    (∀ g ∈ spreadsL body, g ∈ spreadsL (pre ++ [x] ++ post)) := by
  constructor
  · intro g hg
    simp only [spreadsL_append, spreadsL, List.mem_append, List.append_nil] at hg ⊢
    rcases hg with (hg | hg) | hg
    · exact .inr (.inl (.inl hg))
    · rcases h.1 g hg with h | h
      · exact .inl h
      · exact .inr (.inl (.inr h))
    · exact .inr (.inr hg)
  · intro g hg
    simp only [spreadsL_append, spreadsL, List.mem_append, List.append_nil]
    exact .inl (.inr (h.2 g hg))

theorem wrapSpread_spreads (nm : String) (body : List Sel) {s s' : List Sel} (h : WrapSpread nm body s s') :
    (∀ g ∈ spreadsL s', g = nm ∨ g ∈ spreadsL s) ∧ (∀ g ∈ spreadsL body, g ∈ spreadsL s) := by
  induction h with
  | here pre post =>
    constructor
    · intro g hg
      simp only [spreadsL_append, spreadsSel, spreadsL, List.mem_append, List.mem_singleton,
        List.append_nil] at hg ⊢
      rcases hg with (hg | hg) | hg
      · exact .inr (.inl (.inl hg))
      · exact .inl hg
      · exact .inr (.inr hg)
    · intro g hg
      simp only [spreadsL_append, List.mem_append]
      exact .inl (.inr hg)
  -- the spreads of a field or an inline fragment are those of its selections
  | field pre post a n d sub sub' _ ih => exact spreads_replace nm pre post (.field a n d sub) (.field a n d sub') body ih
  | inline pre post d ss ss' _ ih => exact spreads_replace nm pre post (.inline d ss) (.inline d ss') body ih

theorem freeSel_not_spread (nm : String) : ∀ s : Sel, freeSel nm s = true → nm ∉ spreadsSel s :=
  (free_not_spread nm).1

theorem freeL_not_spread (nm : String) : ∀ l : List Sel, freeL nm l = true → nm ∉ spreadsL l :=
  (free_not_spread nm).2

theorem wrap_inline_in_fragment_acyclic (frags frags' pre post : List Frag) (f : Frag) (sels' : List Sel)
    (hw : WrapInline f.sels sels') (hfr : frags = pre ++ [f] ++ post) (hfr' : frags' = pre ++ [⟨f.name, sels'⟩] ++ post)
    (hu : UniqueNames frags) (ha : Acyclic frags) : UniqueNames frags' ∧ Acyclic frags' := by
  have hnames : frags'.map (·.name) = frags.map (·.name) := by rw [hfr, hfr']; simp
  refine ⟨by unfold UniqueNames; rw [hnames]; exact hu, ?_⟩
  obtain ⟨r, hr⟩ := ha
  refine ⟨r, ?_⟩
  intro f' hf' g hg hdef
  have hdef0 : ∃ f0 ∈ frags, f0.name = g := by
    obtain ⟨f1, hf1, e⟩ := hdef
    have : g ∈ frags'.map (·.name) := List.mem_map.2 ⟨f1, hf1, e⟩
    rw [hnames] at this
    obtain ⟨f0, hf0, e0⟩ := List.mem_map.1 this
    exact ⟨f0, hf0, e0⟩
  rw [hfr'] at hf'
  simp only [List.mem_append, List.mem_singleton] at hf'
  rcases hf' with (hf' | hf') | hf'
  · exact hr f' (by rw [hfr]; simp [hf']) g hg hdef0
  · subst hf'
    simp only [wrapInline_spreads hw] at hg
    exact hr f (by rw [hfr]; simp) g hg hdef0
  · exact hr f' (by rw [hfr]; simp [hf']) g hg hdef0

theorem wrap_spread_in_fragment_acyclic (frags frags' pre post : List Frag) (f : Frag) (nm : String)
    (body sels' : List Sel) (hw : WrapSpread nm body f.sels sels') (hfr : frags = pre ++ [f] ++ post)
    (hfr' : frags' = (pre ++ [⟨f.name, sels'⟩] ++ post) ++ [⟨nm, body⟩])
    (hfresh : ∀ g ∈ frags, g.name ≠ nm) (hfree : ∀ g ∈ frags, freeL nm g.sels = true)
    (hu : UniqueNames frags) (ha : Acyclic frags) : UniqueNames frags' ∧ Acyclic frags' := by
  have hf : f ∈ frags := by rw [hfr]; simp
  have hnames : frags'.map (·.name) = frags.map (·.name) ++ [nm] := by rw [hfr, hfr']; simp
  have hsp := wrapSpread_spreads nm body hw
  have hbodyfree : freeL nm body = true := wrapSpread_free_body nm body hw (hfree f hf)
  constructor
  · unfold UniqueNames
    rw [hnames]
    refine List.nodup_append.2 ⟨hu, by simp, ?_⟩
    intro a ha b hb
    simp only [List.mem_singleton] at hb
    subst hb
    obtain ⟨f0, hf0, e0⟩ := List.mem_map.1 ha
    intro e
    exact hfresh f0 hf0 (e0.trans e)
  · obtain ⟨r, hr⟩ := ha
    refine ⟨fun x => if x = nm then 2 * r f.name + 1 else 2 * r x + 2, ?_⟩
    -- a spread other than `nm` that is defined in `frags'` is defined in `frags`
    have hdef0 : ∀ g, g ≠ nm → (∃ f1 ∈ frags', f1.name = g) → ∃ f0 ∈ frags, f0.name = g := by
      intro g hne hdef
      obtain ⟨f1, hf1, e⟩ := hdef
      have : g ∈ frags'.map (·.name) := List.mem_map.2 ⟨f1, hf1, e⟩
      rw [hnames] at this
      simp only [List.mem_append, List.mem_singleton] at this
      rcases this with h | h
      · obtain ⟨f0, hf0, e0⟩ := List.mem_map.1 h
        exact ⟨f0, hf0, e0⟩
      · exact absurd h hne
    -- an old fragment: its body does not mention `nm`
    have hold : ∀ f' ∈ frags, ∀ g ∈ spreadsL f'.sels, (∃ f1 ∈ frags', f1.name = g) →
        (if g = nm then 2 * r f.name + 1 else 2 * r g + 2) < (if f'.name = nm then 2 * r f.name + 1 else 2 * r f'.name + 2) := by
      intro f' hf' g hg hdef
      have hgne : g ≠ nm := fun e => freeL_not_spread nm f'.sels (hfree f' hf') (e ▸ hg)
      have := hr f' hf' g hg (hdef0 g hgne hdef)
      simp only [hgne, hfresh f' hf', if_false]
      omega
    intro f' hf' g hg hdef
    rw [hfr'] at hf'
    simp only [List.mem_append, List.mem_singleton] at hf'
    rcases hf' with ((hf' | hf') | hf') | hf'
    · exact hold f' (by rw [hfr]; simp [hf']) g hg hdef
    · subst hf'
      simp only [] at hg ⊢
      rcases hsp.1 g hg with e | hg0
      · subst e
        simp only [hfresh f hf, if_true, if_false]
        omega
      · exact hold f hf g hg0 hdef
    · exact hold f' (by rw [hfr]; simp [hf']) g hg hdef
    · subst hf'
      simp only [] at hg ⊢
      have hgne : g ≠ nm := fun e => freeL_not_spread nm body hbodyfree (e ▸ hg)
      have := hr f hf g (hsp.2 g hg) (hdef0 g hgne hdef)
      simp only [hgne, if_true, if_false]
      omega

/-- the document obtained by wrapping a block of a fragment body in an inline
    fragment is valid (acyclicity check passes, directive variables bound) whenever the original is and has unique
    fragment names -/
theorem wrap_inline_in_fragment_valid (doc doc' : Doc) (vars : Vars) (hv : Valid doc vars) (hu : UniqueNames doc.frags)
    (pre post : List Frag) (f : Frag) (sels' : List Sel) (hw : WrapInline f.sels sels')
    (hfr : doc.frags = pre ++ [f] ++ post) (hfr' : doc'.frags = pre ++ [⟨f.name, sels'⟩] ++ post)
    (hops : doc'.ops = doc.ops) : Valid doc' vars ∧ UniqueNames doc'.frags := by
  obtain ⟨hu', ha'⟩ := wrap_inline_in_fragment_acyclic doc.frags doc'.frags pre post f sels' hw hfr hfr' hu
    (acyclic_sound _ hv.1)
  refine ⟨⟨acyclic_complete _ hu' ha', ?_, ?_⟩, hu'⟩
  · intro op hop
    rw [hops] at hop
    exact hv.2.1 op hop
  · intro g hg
    rw [hfr'] at hg
    simp only [List.mem_append, List.mem_singleton] at hg
    rcases hg with (hg | hg) | hg
    · exact hv.2.2 g (by rw [hfr]; simp [hg])
    · subst hg
      show boundL vars sels' = true
      rw [wrapInline_bound vars hw]
      exact hv.2.2 f (by rw [hfr]; simp)
    · exact hv.2.2 g (by rw [hfr]; simp [hg])

/-- … or by moving the block into a new fragment with a FRESH name -/
theorem wrap_spread_in_fragment_valid (doc doc' : Doc) (vars : Vars) (hv : Valid doc vars) (hu : UniqueNames doc.frags)
    (pre post : List Frag) (f : Frag) (nm : String) (body sels' : List Sel) (hw : WrapSpread nm body f.sels sels')
    (hfr : doc.frags = pre ++ [f] ++ post)
    (hfr' : doc'.frags = (pre ++ [⟨f.name, sels'⟩] ++ post) ++ [⟨nm, body⟩])
    (hfresh : ∀ g ∈ doc.frags, g.name ≠ nm) (hfree : ∀ g ∈ doc.frags, freeL nm g.sels = true)
    (hops : doc'.ops = doc.ops) : Valid doc' vars ∧ UniqueNames doc'.frags := by
  obtain ⟨hu', ha'⟩ := wrap_spread_in_fragment_acyclic doc.frags doc'.frags pre post f nm body sels' hw hfr hfr'
    hfresh hfree hu (acyclic_sound _ hv.1)
  have hb := wrapSpread_bound vars nm body hw (hv.2.2 f (by rw [hfr]; simp))
  refine ⟨⟨acyclic_complete _ hu' ha', ?_, ?_⟩, hu'⟩
  · intro op hop
    rw [hops] at hop
    exact hv.2.1 op hop
  · intro g hg
    rw [hfr'] at hg
    simp only [List.mem_append, List.mem_singleton] at hg
    rcases hg with ((hg | hg) | hg) | hg
    · exact hv.2.2 g (by rw [hfr]; simp [hg])
    · subst hg; exact hb.1
    · exact hv.2.2 g (by rw [hfr]; simp [hg])
    · subst hg; exact hb.2

/-- `wrap_inline_in_fragment_ge` for every valid document with unique fragment names:
    the wrapped document is valid too, and every operation keeps its measured depth (= the specified one). -/
theorem wrap_inline_in_fragment (doc doc' : Doc) (vars : Vars) (hv : Valid doc vars) (hu : UniqueNames doc.frags)
    (pre post : List Frag) (f : Frag) (sels' : List Sel) (hw : WrapInline f.sels sels')
    (hfr : doc.frags = pre ++ [f] ++ post) (hfr' : doc'.frags = pre ++ [⟨f.name, sels'⟩] ++ post)
    (hops : doc'.ops = doc.ops) (op : Op) (hop : op ∈ doc.ops) :
    Valid doc' vars ∧
    ∃ d d', depthFixed doc.fuel op doc.frags vars = .ok d ∧ depthFixed doc'.fuel op doc'.frags vars = .ok d' ∧
      d ≤ d' ∧ d' = depth doc vars op ∧ d' = depth doc' vars op :=
  have hv' := (wrap_inline_in_fragment_valid doc doc' vars hv hu pre post f sels' hw hfr hfr' hops).1
  ⟨hv', wrap_inline_in_fragment_ge doc doc' vars hv hv' pre post f sels' hw hfr hfr' hops op hop⟩

/-- `wrap_spread_in_fragment_ge` with the validity of the wrapped document derived from
    the freshness of the new fragment name. -/
theorem wrap_spread_in_fragment (doc doc' : Doc) (vars : Vars) (hv : Valid doc vars) (hu : UniqueNames doc.frags)
    (pre post : List Frag) (f : Frag) (nm : String) (body sels' : List Sel) (hw : WrapSpread nm body f.sels sels')
    (hfr : doc.frags = pre ++ [f] ++ post)
    (hfr' : doc'.frags = (pre ++ [⟨f.name, sels'⟩] ++ post) ++ [⟨nm, body⟩])
    (hfresh : ∀ g ∈ doc.frags, g.name ≠ nm) (hfree : ∀ g ∈ doc.frags, freeL nm g.sels = true)
    (hops : doc'.ops = doc.ops) (op : Op) (hop : op ∈ doc.ops) (hfreeop : freeL nm op.sels = true) :
    Valid doc' vars ∧
    ∃ d d', depthFixed doc.fuel op doc.frags vars = .ok d ∧ depthFixed doc'.fuel op doc'.frags vars = .ok d' ∧
      d ≤ d' ∧ d' = depth doc vars op ∧ d' = depth doc' vars op :=
  have hv' := (wrap_spread_in_fragment_valid doc doc' vars hv hu pre post f nm body sels' hw hfr hfr' hfresh hfree hops).1
  ⟨hv', wrap_spread_in_fragment_ge doc doc' vars hv hv' pre post f nm body sels' hw hfr hfr' hfresh hfree hops op hop
    hfreeop⟩

/-- the live measure, any request variables; nothing assumed about `doc'`
    beyond its construction -/
theorem wrap_inline_in_fragment_final_derived (doc doc' : Doc) (v : Vars)
    (hu : UniqueNames doc.frags) (ha : Acyclic doc.frags)
    (pre post : List Frag) (f : Frag) (sels' : List Sel) (hw : WrapInline f.sels sels')
    (hfr : doc.frags = pre ++ [f] ++ post) (hfr' : doc'.frags = pre ++ [⟨f.name, sels'⟩] ++ post)
    (hops : doc'.ops = doc.ops) (op : Op) (hop : op ∈ doc.ops) :
    UniqueNames doc'.frags ∧ Acyclic doc'.frags ∧ depthK doc' v op = depthK doc v op := by
  obtain ⟨hu', ha'⟩ := wrap_inline_in_fragment_acyclic doc.frags doc'.frags pre post f sels' hw hfr hfr' hu ha
  exact ⟨hu', ha', wrap_inline_in_fragment_final doc doc' v hu ha hu' ha' pre post f sels' hw hfr hfr' hops op hop⟩

/-- the same for a block moved into a fresh named fragment -/
theorem wrap_spread_in_fragment_final_derived (doc doc' : Doc) (v : Vars)
    (hu : UniqueNames doc.frags) (ha : Acyclic doc.frags)
    (pre post : List Frag) (f : Frag) (nm : String) (body sels' : List Sel) (hw : WrapSpread nm body f.sels sels')
    (hfr : doc.frags = pre ++ [f] ++ post)
    (hfr' : doc'.frags = (pre ++ [⟨f.name, sels'⟩] ++ post) ++ [⟨nm, body⟩])
    (hfresh : ∀ g ∈ doc.frags, g.name ≠ nm) (hfree : ∀ g ∈ doc.frags, freeL nm g.sels = true)
    (hops : doc'.ops = doc.ops) (op : Op) (hop : op ∈ doc.ops) (hfreeop : freeL nm op.sels = true) :
    UniqueNames doc'.frags ∧ Acyclic doc'.frags ∧ depthK doc' v op = depthK doc v op := by
  obtain ⟨hu', ha'⟩ := wrap_spread_in_fragment_acyclic doc.frags doc'.frags pre post f nm body sels' hw hfr hfr'
    hfresh hfree hu ha
  exact ⟨hu', ha', wrap_spread_in_fragment_final doc doc' v hu ha hu' ha' pre post f nm body sels' hw hfr hfr' hfresh
    hfree hops op hop hfreeop⟩

/-- for `ruleB` and ANY request variables: moving a block of selections of an
    OPERATION (at the top or at any nesting level) into a new named fragment `nm` (fresh: not defined, not spread in the
    operation or in any fragment body) and spreading it there leaves the depth the rule compares with the limit (`depthK`)
    unchanged. -/
theorem wrap_spread_final (doc doc' : Doc) (v : Vars) (hu : UniqueNames doc.frags) (ha : Acyclic doc.frags)
    (op : Op) (hop : op ∈ doc.ops) (nm : String) (body sels' : List Sel) (hw : WrapSpread nm body op.sels sels')
    (hfr : doc'.frags = doc.frags ++ [⟨nm, body⟩]) (hfresh : ∀ f ∈ doc.frags, f.name ≠ nm)
    (hfree : ∀ f ∈ doc.frags, freeL nm f.sels = true) (hfreeop : freeL nm op.sels = true)
    (hop' : (⟨op.name, sels'⟩ : Op) ∈ doc'.ops) :
    depthK doc' v ⟨op.name, sels'⟩ = depthK doc v op := by
  have hv := valid_erase doc v hu ha
  have hfr_e : (eraseDoc v doc').frags = (eraseDoc v doc).frags ++ [⟨nm, eraseL v body⟩] := by
    simp [eraseDoc, eraseFrags, eraseFrag, hfr]
  have hfresh_e : ∀ f ∈ (eraseDoc v doc).frags, f.name ≠ nm := by
    intro g hg
    simp only [eraseDoc, eraseFrags, List.mem_map] at hg
    obtain ⟨g0, hg0, rfl⟩ := hg
    exact hfresh g0 hg0
  have hfree_e : ∀ f ∈ (eraseDoc v doc).frags, freeL nm f.sels = true := by
    intro g hg
    simp only [eraseDoc, eraseFrags, List.mem_map] at hg
    obtain ⟨g0, hg0, rfl⟩ := hg
    simp only [eraseFrag, freeL_erase]
    exact hfree g0 hg0
  have hfreeop_e : freeL nm (eraseOp v op).sels = true := by simp only [eraseOp, freeL_erase]; exact hfreeop
  have hopE' : (⟨(eraseOp v op).name, eraseL v sels'⟩ : Op) ∈ (eraseDoc v doc').ops :=
    List.mem_map_of_mem (f := eraseOp v) hop'
  obtain ⟨d, d', h1, h2, _, e⟩ := wrap_spread_ge (eraseDoc v doc) (eraseDoc v doc') v hv (eraseOp v op)
    (List.mem_map_of_mem (f := eraseOp v) hop) nm (eraseL v body) (eraseL v sels') (wrapSpread_erase v nm body hw)
    hfr_e hfresh_e hfree_e hfreeop_e hopE'
  -- the wrapped (erased) document is valid: the new fragment is appended to an acyclic set, freshly named
  have ha' : acyclic (eraseDoc v doc').frags = true := by
    rw [hfr_e]
    exact acyclic_extend _ nm (eraseL v body) hv.1 hfree_e hfresh_e
      (wrapSpread_free_body nm (eraseL v body) (wrapSpread_erase v nm body hw) hfreeop_e)
  have hv' : Valid (eraseDoc v doc') v := ⟨ha', varsBound_map (eraseL_mapDirs v) (dirsBound_erase v) doc'⟩
  have h3 := measured_eq_depth (eraseDoc v doc') v hv' ⟨(eraseOp v op).name, eraseL v sels'⟩ hopE' _ (Nat.le_refl _)
  rw [h2] at h3
  unfold depthK
  have : (eraseOp v ⟨op.name, sels'⟩ : Op) = ⟨(eraseOp v op).name, eraseL v sels'⟩ := rfl
  rw [this]
  cases h3
  exact e

private def fA' : Sel := .field none "a" {} [.field none "c" {} []]
private def fD' : Sel := .field none "d" {} []
private def opF' : Op := ⟨none, [.spread "F" {}]⟩
private def e0 : Doc := ⟨[opF'], [⟨"F", [fA', fD']⟩]⟩
/-- `fragment F { ...G d }  fragment G { a { c } }` -/
private def e2 : Doc := ⟨[opF'], [⟨"F", [.spread "G" {}, fD']⟩, ⟨"G", [fA']⟩]⟩

private theorem e0_valid : Valid e0 [] := by
  refine ⟨by decide, ?_, ?_⟩
  · intro op hop; simp [e0] at hop; subst hop; decide
  · intro f hf; simp [e0] at hf; subst hf; decide

/-- `{ ...F } fragment F { a { c } d }` → `fragment F { ...G d } fragment G { a { c } }`: validity of the second document
    is a CONCLUSION -/
example : Valid e2 [] ∧ ∃ d d', depthFixed e0.fuel opF' e0.frags [] = .ok d ∧ depthFixed e2.fuel opF' e2.frags [] = .ok d' ∧
    d ≤ d' ∧ d' = depth e0 [] opF' ∧ d' = depth e2 [] opF' :=
  wrap_spread_in_fragment e0 e2 [] e0_valid (by unfold UniqueNames; decide +kernel) [] [] ⟨"F", [fA', fD']⟩ "G" [fA']
    [.spread "G" {}, fD'] (.here [] [fD']) rfl rfl (by decide +kernel) (by decide +kernel) rfl opF' (by simp [e0]) (by decide +kernel)

/-- `{ a { c } d }` → `{ ...G d } fragment G { a { c } }` with an unknown variable in the view -/
private def o0 : Op := ⟨none, [fA', fD']⟩
private def g0 : Doc := ⟨[o0], []⟩
private def g1 : Doc := ⟨[⟨none, [.spread "G" {}, fD']⟩], [⟨"G", [fA']⟩]⟩

example : depthK g1 [("unused", true)] ⟨none, [.spread "G" {}, fD']⟩ = depthK g0 [("unused", true)] o0 :=
  wrap_spread_final g0 g1 _ (by unfold UniqueNames; decide +kernel) (acyclic_sound _ (by decide +kernel)) o0 (by simp [g0]) "G" [fA']
    [.spread "G" {}, fD'] (.here [] [fD']) rfl (by decide +kernel) (by decide +kernel) (by decide +kernel) (by simp [g1, o0])

end PyGql.Props.C19
