/-
  C06 - machine-checked witnesses on the model: for the UNFIXED code (`Fixes` all false: /repo before the fix commits
  of ledger V3, V4, V7, V11) the verdict is not invariant under the transformations of the statement: the full
  invariance statements are FALSE of that code; with the fixes the same witnesses validate consistently.
  The same documents are replayed on the real code by corpus/C06/ledger.json.
-/
import PyGqlModel.Validate.Chain
namespace PyGql.Props.C06
open PyGql PyGql.Validate

def wSchema : SchemaD :=
  { types := [
      { kind := .scalar, name := "Int" }, { kind := .scalar, name := "String" }, { kind := .scalar, name := "Boolean" },
      { kind := .object, name := "Ob", fields := [{ name := "s", type := .named "String" }, { name := "n", type := .named "Int" }] },
      { kind := .object, name := "Query", fields := [
          { name := "a", type := .named "Int",
            args := [{ name := "x", type := .named "Int" }, { name := "l", type := .list (.named "Int") }] },
          { name := "o", type := .named "Ob" }] }],
    directives := [] }

def fld (alias : Option String) (name : String) (args : List Arg := []) : Sel := .field alias name args [] false 0 []
def argV (n v : String) : Arg := { name := n, value := .var v }
def opV (vars : List VarDef) (id : Nat) (sels : List Sel) : Def := .op "query" none vars [] id sels
def vInt : VarDef := { name := "v", type := .named "Int", default := none }

/-- `query($v:Int){ x: a(l:$v) y: a(x:$v) }` -/
def v3a : Doc := ⟨[opV [vInt] 1 [fld (some "x") "a" [argV "l" "v"], fld (some "y") "a" [argV "x" "v"]]]⟩
/-- the same with the two selections swapped -/
def v3b : Doc := ⟨[opV [vInt] 1 [fld (some "y") "a" [argV "x" "v"], fld (some "x") "a" [argV "l" "v"]]]⟩

def fragQ (name : String) (id : Nat) (sels : List Sel) : Def := .frag name "Query" [] id sels
def sp (n : String) : Sel := .spread n []

def v4ops : Def := opV [vInt] 1 [sp "A"]
def fA := fragQ "A" 2 [sp "B"]
def fB := fragQ "B" 3 [sp "C"]
def fC := fragQ "C" 4 [fld none "a" [argV "x" "v"]]
/-- definitions in the order op, C, B, A -/
def v4a : Doc := ⟨[v4ops, fC, fB, fA]⟩
/-- definitions in the order op, A, B, C -/
def v4b : Doc := ⟨[v4ops, fA, fB, fC]⟩

/-- verdict of the single rule visitor that decides the witness (chain = TypeInfoVisitor + that rule) -/
def aloneVerdict (fx : Fixes) (r : Rule) (d : Doc) : Option Bool := verdict { schema := wSchema, fixes := fx, rules := [r] } d

/-- V3: reordering two selections changes the verdict of the unfixed `VariablesInAllowedPositionChecker`
    (`perm_selections` is FALSE of the unfixed code); with fix V3 both orders are rejected -/
theorem perm_selections_refuted_unfixed :
    aloneVerdict Fixes.unfixed .variablesInAllowedPosition v3a = some true ∧ aloneVerdict Fixes.unfixed .variablesInAllowedPosition v3b = some false ∧
    aloneVerdict Fixes.all .variablesInAllowedPosition v3a = some false ∧
    aloneVerdict Fixes.all .variablesInAllowedPosition v3b = some false := by decide +kernel

/-- V4: reordering definitions changes the verdict of the unfixed `NoUnusedVariablesChecker`
    (`perm_definitions` is FALSE of the unfixed code); with fix V4 both orders are accepted -/
theorem perm_definitions_refuted_unfixed :
    aloneVerdict Fixes.unfixed .noUnusedVariables v4a = some false ∧ aloneVerdict Fixes.unfixed .noUnusedVariables v4b = some true ∧
    aloneVerdict Fixes.all .noUnusedVariables v4a = some true ∧
    aloneVerdict Fixes.all .noUnusedVariables v4b = some true := by decide +kernel

end PyGql.Props.C06
