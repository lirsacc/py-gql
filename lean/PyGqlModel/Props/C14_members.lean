/-
  C14 — `transform_preserves_untouched_members` (FULL): member-level preservation through clone-based transforms.

  For `transform_schema(source, *visitors)` with any list of VisibilitySchemaTransform (arbitrary predicates),
  CamelCaseSchemaTransform (arbitrary renaming) and heal visitors, on a closed well-formed source, every non-protected type
  the result registers is — for the source type `t0` of the same name — `TRel ρ h h' t0 a'`:
  * a type object with exactly `t0`'s kind, name, description, default resolver, type resolver and ENUM VALUES (`TAttr`);
  * whose FIELDS (object / interface) are, IN ORDER, copies of a sub-list of `t0`'s fields and nothing else (`Sub2`): each
    copy has the source field's description, deprecation, resolver, subscription resolver, python name, the same type by
    name, and the name `ρ name` (`FAttr`; `ρ` = the composition of the camel-case renamings applied, `renAll`; the identity
    for visibility); its ARGUMENTS are in turn, in order, copies of a sub-list of the source field's arguments with the same
    python name, default, description and type by name (`AAttr`);
  * whose INPUT FIELDS (input object) are likewise copies of a sub-list of `t0`'s.
  This is an UPPER bound (the members are copies of a SUB-list: nothing is added, nothing renamed otherwise, nothing reordered).
  The LOWER bounds — what is not targeted IS there — are separate theorems: identity visitor / clone `clone_members_exact`,
  `clone_refines`; camel-casing `camel_case_exact` (Props/C14_camel.lean: exact by-name view up to the renaming, none dropped);
  visibility without hidden types `visibility_members_exact` (Props/C14_visible.lean: every member list is the source's FILTERED by
  the predicate); what the predicates hide is absent: `visibility_hides_members`, `visibility_hides_directives`,
  `directive_drops_fields` (Props/C14_hidden.lean). OPEN (named `VisibleMembersKept`, Props/C14_visible.lean): when TYPES are
  hidden too, that every member not mentioning a hidden type survives the healing rounds is not proved.
  With `clone_frames_source`, `transform_closed`, `visibility_hides_type_transform` and `transform_preserves_untouched`
  this covers "never mutates its source, and yields a schema in which everything the transform did not touch is preserved".
-/
import PyGqlModel.Lemmas.HeapMembersClone
import PyGqlModel.Props.C14_transform


namespace PyGql.Props.C14
open PyGql.Heap PyGql.Heap.Own

theorem transform_preserves_untouched_members (cfg : Cfg) (hd : cfg.deepClone = true) (fuel : Nat) (vs : List Visitor)
    (hv : ∀ v, v ∈ vs → NoWrap v) (s : Schema) (h h' : Heap) (s' : Schema) (hc : closedB h s = true) (hw : wfB h s = true)
    (e : transform cfg fuel vs s h = some (h', s')) :
    ∀ e', e' ∈ s'.types → isProtected e'.1 = true ∨
      ∃ e0, e0 ∈ s.types ∧ e0.1 = e'.1 ∧ ∀ t0, h.readType e0.2 = some t0 → TRel (renAll vs id) h h' t0 e'.2 := by
  obtain ⟨h1, s1, hr, e⟩ := transform_some e
  have hm := clone_mem cfg hd fuel s h h1 s1 hc (wfs_of_closedB hc hw) hr
  exact transformFrom_mem cfg fuel h s.types vs hv id h1 s1 h' s' hm e

/-- the same for an in-place visitor on a schema (no clone): provenance relative to the schema before the visitor ran -/
theorem visitor_preserves_untouched_members (cfg : Cfg) (fuel : Nat) (v : Visitor) (hv : NoWrap v) (s : Schema) (h h' : Heap) (s' : Schema)
    (hw : wfB h s = true) (e : onSchema cfg fuel v s h = some (h', s')) :
    ∀ e', e' ∈ s'.types → isProtected e'.1 = true ∨
      ∃ e0, e0 ∈ s.types ∧ e0.1 = e'.1 ∧ ∀ t0, h.readType e0.2 = some t0 → TRel (renAfter v id) h h' t0 e'.2 := by
  have w := wfs_of_wfB hw
  apply onSchema_mem cfg fuel v hv id h s.types s h h' s' _ e
  intro e' he'
  right
  exact ⟨e', he', rfl, fun t0 ht0 => TRel.refl ht0 (membersReadable_of_shape _ h e'.2 t0 ht0 (w.types e' he'))⟩

/-- instances: visibility keeps names, camel-casing converts them -/
theorem renAll_vis (p : VisP) : renAll [.vis p] id = id := rfl
theorem renAll_camel (ren : String → String) : renAll [.camel ren] id = ren := rfl
theorem renAll_vis_camel (p : VisP) (ren : String → String) : renAll [.vis p, .camel ren] id = ren := rfl

/-- reading the relation: the fields of an object / interface type of the result -/
theorem trel_fields {ρ : String → String} {h0 h : Heap} {t0 : TypeO} {a' : Addr} (r : TRel ρ h0 h t0 a')
    (hk : t0.kind = Kind.object ∨ t0.kind = Kind.interface) :
    ∃ t', h.readType a' = some t' ∧ SameHead (.type t0) (.type t') ∧ Sub2 (FRel ρ h0 h) t0.fields t'.fields := by
  obtain ⟨t', ht', hat, hm⟩ := r
  refine ⟨t', ht', hat, ?_⟩
  rcases hk with hk | hk <;> simpa [MRel, hk] using hm

/-- … and the input fields of an input object type -/
theorem trel_input_fields {ρ : String → String} {h0 h : Heap} {t0 : TypeO} {a' : Addr} (r : TRel ρ h0 h t0 a') (hk : t0.kind = Kind.input) :
    ∃ t', h.readType a' = some t' ∧ SameHead (.type t0) (.type t') ∧ Sub2 (ARel ρ h0 h) t0.fields t'.fields := by
  obtain ⟨t', ht', hat, hm⟩ := r
  exact ⟨t', ht', hat, by simpa [MRel, hk] using hm⟩

/-- non-vacuity on the witness -/
example : closedB h0 s0 = true ∧ wfB h0 s0 = true ∧ (transform Cfg.fixed 8 [.vis hideDog, .camel id] s0 h0).isSome = true ∧
    NoWrap (.vis hideDog) ∧ NoWrap (.camel id) := ⟨s0_closed, s0_wf, s0_transform_total _, trivial, trivial⟩

end PyGql.Props.C14
