/-
  C14 — PER-SCHEMA COMPOSITION over operation sequences: `untouched_preserved` for a whole run.

  `runAll` applies, one after the other, any number of clone-based transforms (each any list of visibility / camel-case /
  heal visitors; `[]` = `clone()`) to ONE source and keeps every result. `transform_sequence_untouched_preserved` (FULL, induction
  over the operation sequence): at the END of the run, in the final heap,
  * no object of the source was written and the source is still closed and well-formed (so the run can be continued);
  * EVERY result produced along the way — the first as well as the last — is still closed and well-formed, and every
    non-protected type it registers is `TRel` to the source's type of that name: same kind, name, description, default / type
    resolver, enum values; its fields (with description, deprecation, resolver, subscription resolver, python name, type by name)
    and their arguments / its input fields (python name, default, description, type by name) are, in order, copies of a
    sub-list of the source's, names converted by the renamings of ITS OWN transform only.
  The single-transform theorem (`transform_preserves_untouched_members`) speaks about the heap right after that transform; what is
  added here is that later operations on the same source do not disturb earlier results (they only write objects they created
  themselves: `clone_frames_source` applied to the heap that already contains the earlier results).
-/
import PyGqlModel.Props.C14_members


namespace PyGql.Props.C14
open PyGql.Heap PyGql.Heap.Own

/-- the run: every transform of `ops` applied to the SAME source `s`; the final heap and all results, in order -/
def runAll (cfg : Cfg) (fuel : Nat) (s : Schema) : List (List Visitor) → Heap → Option (Heap × List (List Visitor × Schema))
  | [], h => some (h, [])
  | vs :: rest, h =>
    match transform cfg fuel vs s h with
    | none => none
    | some r =>
      match runAll cfg fuel s rest r.1 with
      | none => none
      | some rr => some (rr.1, (vs, r.2) :: rr.2)

theorem runAll_heap (cfg : Cfg) (fuel : Nat) (s : Schema) : ∀ (ops : List (List Visitor)) (h : Heap),
    (runAll cfg fuel s ops h).map (·.1) = applyAll cfg fuel s ops h := by
  intro ops
  induction ops with
  | nil => intro h; rfl
  | cons vs rest ih =>
    intro h
    simp only [runAll, applyAll]
    cases transform cfg fuel vs s h with
    | none => rfl
    | some r =>
      simp only
      rw [← ih r.1]
      cases runAll cfg fuel s rest r.1 <;> rfl

theorem wfB_frame {h h' : Heap} (f : Frame h h') (s : Schema) (hw : wfB h s = true) : wfB h' s = true := by
  exact wfB_of_wfs ((wfs_of_wfB hw).keep (f.stepImp _))

/-- the relation "copy of the source's type" only reads objects of the result: it survives every later operation that frames them -/
theorem trel_frame {ρ : String → String} {h0 h h' : Heap} (f : Frame h h') {t0 : TypeO} {a' : Addr} (r : TRel ρ h0 h t0 a') :
    TRel ρ h0 h' t0 a' := r.keep (f.stepImp chkT)

/-- the SOURCE side of the relation may be read in the heap the source was created in -/
private theorem arel_source_frame {ρ : String → String} {h0 h h1 : Heap} (f : Frame h0 h) {a c : Addr} (hr : ∃ g, h0.readArg a = some g)
    (r : ARel ρ h h1 a c) : ARel ρ h0 h1 a c := by
  obtain ⟨g0, hg0⟩ := hr
  obtain ⟨g, g', h1', h2', k⟩ := r
  rw [f.readArg hg0] at h1'
  cases h1'
  exact ⟨g0, g', hg0, h2', k⟩

private theorem frel_source_frame {ρ : String → String} {h0 h h1 : Heap} (f : Frame h0 h) {a c : Addr}
    (hr : ∃ f0, h0.readField a = some f0 ∧ ∀ x, x ∈ f0.args → ∃ g, h0.readArg x = some g) (r : FRel ρ h h1 a c) : FRel ρ h0 h1 a c := by
  obtain ⟨f0, hf0, hargs⟩ := hr
  obtain ⟨fs, f', h1', h2', k, hs⟩ := r
  rw [f.readField hf0] at h1'
  cases h1'
  exact ⟨f0, f', hf0, h2', k, Sub2.imp_mem hs fun x hx c' rc => arel_source_frame f (hargs x hx) rc⟩

private theorem trel_source_frame {ρ : String → String} {h0 h h1 : Heap} (f : Frame h0 h) {t0 : TypeO} {a' : Addr} (hm : MembersReadable h0 t0)
    (r : TRel ρ h h1 t0 a') : TRel ρ h0 h1 t0 a' := by
  obtain ⟨t', ht', hat, hrel⟩ := r
  exact ⟨t', ht', hat, mRel_iff.mpr (((membersReadable_iff.mp hm).and (mRel_iff.mp hrel)).imp
    (fun ⟨hm, hrel⟩ => Sub2.imp_mem hrel fun x hx c rc => frel_source_frame f (hm x hx) rc)
    (fun ⟨hm, hrel⟩ => Sub2.imp_mem hrel fun x hx c rc => arel_source_frame f (hm x hx) rc) fun _ => trivial)⟩

/-- what `untouched_preserved` says about ONE result `(vs, s')` of a run from source `(h, s)`, read in heap `hN` -/
def ResultIntact (h : Heap) (s : Schema) (hN : Heap) (r : List Visitor × Schema) : Prop :=
  closedB hN r.2 = true ∧ wfB hN r.2 = true ∧
  ∀ e', e' ∈ r.2.types → isProtected e'.1 = true ∨
    ∃ e0, e0 ∈ s.types ∧ e0.1 = e'.1 ∧ ∀ t0, h.readType e0.2 = some t0 → TRel (renAll r.1 id) h hN t0 e'.2

theorem ResultIntact.frame {h : Heap} {s : Schema} {h1 h2 : Heap} (f : Frame h1 h2) {r : List Visitor × Schema}
    (i : ResultIntact h s h1 r) : ResultIntact h s h2 r := by
  obtain ⟨c, w, m⟩ := i
  refine ⟨closedB_frame f r.2 c, wfB_frame f r.2 w, ?_⟩
  intro e' he'
  rcases m e' he' with hp | ⟨e0, h1', h2', h3⟩
  · exact Or.inl hp
  · exact Or.inr ⟨e0, h1', h2', fun t0 ht0 => trel_frame f (h3 t0 ht0)⟩

private theorem readType_frame {h h' : Heap} (f : Frame h h') {a : Addr} {t : TypeO} (ht : h'.readType a = some t) (ha : a < h.size) :
    h.readType a = some t := by
  simp only [Heap.readType, f.2 a ha] at ht
  exact ht

/-- one transform of the source, run in a later heap `h` that frames the source's heap `h0`: what the single-transform theorems
    say about the result, with the source side read in `h0` -/
theorem transform_resultIntact (cfg : Cfg) (hd : cfg.deepClone = true) (hk : cfg.keepAllTypes = true) (hacc : cfg.accumulateBusted = true)
    (fuel : Nat) (s : Schema) (h0 : Heap) (hc0 : closedB h0 s = true) (hw0 : wfB h0 s = true) {vs : List Visitor}
    (hv : ∀ v, v ∈ vs → NoWrap v) {h h1 : Heap} {s1 : Schema} (f0 : Frame h0 h)
    (hr : transform cfg (2 + fuel) vs s h = some (h1, s1)) : ResultIntact h0 s h1 (vs, s1) := by
  have hc : closedB h s = true := closedB_frame f0 s hc0
  have hw : wfB h s = true := wfB_frame f0 s hw0
  obtain ⟨c1, w1⟩ := transform_closed cfg hd hk hacc fuel vs s h h1 s1 hc hw hr
  refine ⟨c1, w1, fun e' he' => ?_⟩
  rcases transform_preserves_untouched_members cfg hd (2 + fuel) vs hv s h h1 s1 hc hw hr e' he' with hp | ⟨e0, g1, g2, g3⟩
  · exact Or.inl hp
  · refine Or.inr ⟨e0, g1, g2, fun t0 ht0 => ?_⟩
    exact trel_source_frame f0 (membersReadable_of_shape _ h0 e0.2 t0 ht0 ((wfs_of_wfB hw0).types e0 g1)) (g3 t0 (f0.readType ht0))

/-- general form (the source lives in `h0`, the run starts in a later heap `h` that frames it) -/
theorem runAll_intact (cfg : Cfg) (hd : cfg.deepClone = true) (hk : cfg.keepAllTypes = true) (hacc : cfg.accumulateBusted = true)
    (fuel : Nat) (s : Schema) (h0 : Heap) (hc0 : closedB h0 s = true) (hw0 : wfB h0 s = true) :
    ∀ (ops : List (List Visitor)), (∀ vs, vs ∈ ops → ∀ v, v ∈ vs → NoWrap v) → ∀ (h hN : Heap) (rs : List (List Visitor × Schema)),
      Frame h0 h → runAll cfg (2 + fuel) s ops h = some (hN, rs) →
      Frame h hN ∧ rs.map (·.1) = ops ∧ ∀ r, r ∈ rs → ResultIntact h0 s hN r := by
  intro ops
  induction ops with
  | nil =>
    intro _ h hN rs _ e
    simp only [runAll, Option.some.injEq, Prod.mk.injEq] at e
    obtain ⟨rfl, rfl⟩ := e
    exact ⟨Frame.refl h, rfl, by simp⟩
  | cons vs rest ih =>
    intro hv h hN rs f0 e
    simp only [runAll] at e
    split at e
    · cases e
    · rename_i r hr
      obtain ⟨h1, s1⟩ := r
      split at e
      · cases e
      · rename_i rr hrr
        obtain ⟨hN', rs'⟩ := rr
        simp only [Option.some.injEq, Prod.mk.injEq] at e
        obtain ⟨rfl, rfl⟩ := e
        have f1 : Frame h h1 := clone_frames_source cfg hd (2 + fuel) vs s h h1 s1 (closedB_frame f0 s hc0) hr
        obtain ⟨f2, e2, i2⟩ := ih (fun vs' hvs' => hv vs' (List.mem_cons_of_mem _ hvs')) h1 hN' rs' (f0.trans f1) hrr
        refine ⟨f1.trans f2, by simp [e2], ?_⟩
        intro r hrm
        rcases List.mem_cons.1 hrm with rfl | hrm
        · -- the result of THIS transform, carried through the rest of the run
          exact (transform_resultIntact cfg hd hk hacc fuel s h0 hc0 hw0 (hv vs (by simp)) f0 hr).frame f2
        · exact i2 r hrm

/-- FULL `untouched_preserved` composed over a whole run (see the header) -/
theorem transform_sequence_untouched_preserved (cfg : Cfg) (hd : cfg.deepClone = true) (hk : cfg.keepAllTypes = true)
    (hacc : cfg.accumulateBusted = true) (fuel : Nat) (s : Schema) (h : Heap) (hc : closedB h s = true) (hw : wfB h s = true)
    (ops : List (List Visitor)) (hv : ∀ vs, vs ∈ ops → ∀ v, v ∈ vs → NoWrap v) (hN : Heap) (rs : List (List Visitor × Schema))
    (e : runAll cfg (2 + fuel) s ops h = some (hN, rs)) :
    Frame h hN ∧ closedB hN s = true ∧ wfB hN s = true ∧ rs.map (·.1) = ops ∧ ∀ r, r ∈ rs → ResultIntact h s hN r := by
  obtain ⟨f, e1, i⟩ := runAll_intact cfg hd hk hacc fuel s h hc hw ops hv h hN rs (Frame.refl h) e
  exact ⟨f, closedB_frame f s hc, wfB_frame f s hw, e1, i⟩

/-- TOTALITY of a run: on a closed well-formed source every transform of every sequence succeeds (fuel for two heal rounds is
    always enough), so the theorem above is never vacuous -/
theorem runAll_total (cfg : Cfg) (hd : cfg.deepClone = true) (hk : cfg.keepAllTypes = true) (hacc : cfg.accumulateBusted = true)
    (fuel : Nat) (s : Schema) : ∀ (ops : List (List Visitor)) (h : Heap), closedB h s = true → wfB h s = true →
      (runAll cfg (2 + fuel) s ops h).isSome = true := by
  intro ops
  induction ops with
  | nil => intro h _ _; rfl
  | cons vs rest ih =>
    intro h hc hw
    obtain ⟨h1, s1, e1, _, _⟩ := transform_closed_total cfg hd hk hacc vs s h hc hw fuel
    have f1 := clone_frames_source cfg hd (2 + fuel) vs s h h1 s1 hc e1
    have := ih h1 (closedB_frame f1 s hc) (wfB_frame f1 s hw)
    obtain ⟨rr, hrr⟩ := Option.isSome_iff_exists.mp this
    simp [runAll, e1, hrr]

/-- reading `ResultIntact` at one field: for a field `c` of a type of ANY result of the run there is a field of the source's type
    of the same name with the same resolver, subscription resolver, python name, description and deprecation -/
theorem resultIntact_field {h : Heap} {s : Schema} {hN : Heap} {r : List Visitor × Schema} (i : ResultIntact h s hN r)
    (e' : String × Addr) (he' : e' ∈ r.2.types) (hp : isProtected e'.1 = false) (t' : TypeO) (ht' : hN.readType e'.2 = some t')
    (hk : t'.kind = Kind.object ∨ t'.kind = Kind.interface) (c : Addr) (hc : c ∈ t'.fields) :
    ∃ e0, e0 ∈ s.types ∧ e0.1 = e'.1 ∧ ∀ t0, h.readType e0.2 = some t0 → ∃ a f f', a ∈ t0.fields ∧ h.readField a = some f ∧
      hN.readField c = some f' ∧ f'.name = renAll r.1 id f.name ∧ f'.res = f.res ∧ f'.sub = f.sub ∧ f'.py = f.py ∧ f'.desc = f.desc ∧ f'.depr = f.depr := by
  rcases i.2.2 e' he' with hp' | ⟨e0, h1, h2, h3⟩
  · simp [hp] at hp'
  · refine ⟨e0, h1, h2, fun t0 ht0 => ?_⟩
    obtain ⟨t'', ht'', hat, hm⟩ := h3 t0 ht0
    rw [ht'] at ht''; cases ht''
    have hk0 : t0.kind = Kind.object ∨ t0.kind = Kind.interface := by
      have : t'.kind = t0.kind := hat.1
      rw [← this]; exact hk
    have hs : Sub2 (FRel (renAll r.1 id) h hN) t0.fields t'.fields := by
      rcases hk0 with hk0 | hk0 <;> simpa [MRel, hk0] using hm
    obtain ⟨a, ha, f, f', hf, hf', k, _⟩ := Sub2.mem_right hs c hc
    exact ⟨a, f, f', ha, hf, hf', k.1, k.2.2.2.1, k.2.2.2.2.1, k.2.2.2.2.2.1, k.2.1, k.2.2.1⟩

/-- non-vacuity on the witness: three successive operations on the SAME source — hide `Dog`; camel-case; plain `clone()` -/
example : closedB h0 s0 = true ∧ wfB h0 s0 = true ∧
    ((runAll Cfg.fixed (2 + 6) s0 [[.vis hideDog], [.camel id], []] h0).map fun r => r.2.map fun x => names x.2)
      = some [["String", "Query", "Pet"], ["String", "Query", "Pet", "Dog"], ["String", "Query", "Pet", "Dog"]] :=
  ⟨s0_closed, s0_wf, by decide +kernel⟩

theorem current_transform_sequence_untouched_preserved
    (fuel : Nat) (s : Schema) (h : Heap) (hc : closedB h s = true) (hw : wfB h s = true)
    (ops : List (List Visitor)) (hv : ∀ vs, vs ∈ ops → ∀ v, v ∈ vs → NoWrap v) :
    ∃ hN rs, runAll PyGql.Generated.HeapCfg.currentCfg (2 + fuel) s ops h = some (hN, rs) ∧
      Frame h hN ∧ closedB hN s = true ∧ wfB hN s = true ∧ rs.map (·.1) = ops ∧ ∀ r, r ∈ rs → ResultIntact h s hN r := by
  obtain ⟨⟨hN, rs⟩, e⟩ := Option.isSome_iff_exists.mp (runAll_total _ cur_deepClone cur_keepAllTypes cur_accumulateBusted fuel s ops h hc hw)
  exact ⟨hN, rs, e, transform_sequence_untouched_preserved _ cur_deepClone cur_keepAllTypes cur_accumulateBusted fuel s h hc hw ops hv hN rs e⟩

end PyGql.Props.C14
