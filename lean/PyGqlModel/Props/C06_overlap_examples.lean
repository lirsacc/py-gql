/-
  C06 - non-vacuity of the overlap equivalence ON DOCUMENTS WITH FRAGMENT SPREADS: all hypotheses of
  `rule_overlapping_fields_can_be_merged_iff_partial` are discharged for
  `{ ...A ...B } fragment A on Query { x: a } fragment B on Query { x: <a or b> }`.
-/
import PyGqlModel.Props.C06_overlap_full
namespace PyGql.Props.C06
open PyGql PyGql.Validate PyGql.Validate.Spec

/-- `{ ...A ...B } fragment A on Query { x: a } fragment B on Query { x: n }` -/
def oDocFrag (n : String) : Doc :=
  ⟨[opV [] 1 [sp "A", sp "B"], fragQ "A" 2 [fld (some "x") "a"], fragQ "B" 3 [fld (some "x") n]]⟩

/-- `{ ...A ...g } fragment A on Query { x: a } fragment g on Query { x: n }`: the shape of `oDocFrag` (`g = "B"`) and
    of the witness with a fragment named `""` (`Props/C06_overlap_refute.lean`) -/
def oDocTwo (g n : String) : Doc :=
  ⟨[opV [] 1 [sp "A", sp g], fragQ "A" 2 [fld (some "x") "a"], fragQ g 3 [fld (some "x") n]]⟩

theorem two_table (g n : String) (hg : g ≠ "A") :
    fragTable (oDocTwo g n) = [("A", ("Query", 2, [fld (some "x") "a"])), (g, ("Query", 3, [fld (some "x") n]))] := by
  -- `g` is a new key: the second `AL.set` appends
  have h : AL.has [("A", ("Query", 2, [fld (some "x") "a"]))] g = false := by
    show (("A" == g) || false) = false
    rw [Bool.or_false, beq_eq_false_iff_ne]
    exact Ne.symm hg
  show AL.set [("A", ("Query", 2, [fld (some "x") "a"]))] g ("Query", 3, [fld (some "x") n]) = _
  rw [AL.set, h]
  rfl

theorem two_get (g n : String) (hg : g ≠ "A") (m : String) (v : String × Nat × List Sel)
    (h : AL.get? (fragTable (oDocTwo g n)) m = some v) :
    (m = "A" ∧ v = ("Query", 2, [fld (some "x") "a"])) ∨ (m = g ∧ v = ("Query", 3, [fld (some "x") n])) := by
  rw [two_table g n hg, AL.get?_cons, AL.get?_cons, AL.get?_nil] at h
  by_cases h1 : "A" = m
  · rw [if_pos h1] at h; cases h; exact Or.inl ⟨h1.symm, rfl⟩
  · rw [if_neg h1] at h
    by_cases h2 : g = m
    · rw [if_pos h2] at h; cases h; exact Or.inr ⟨h2.symm, rfl⟩
    · rw [if_neg h2] at h; cases h

theorem two_getA (g n : String) (hg : g ≠ "A") :
    AL.get? (fragTable (oDocTwo g n)) "A" = some ("Query", 2, [fld (some "x") "a"]) := by
  rw [two_table g n hg, AL.get?_cons, if_pos rfl]

theorem two_getG (g n : String) (hg : g ≠ "A") :
    AL.get? (fragTable (oDocTwo g n)) g = some ("Query", 3, [fld (some "x") n]) := by
  rw [two_table g n hg, AL.get?_cons, if_neg (Ne.symm hg), AL.get?_cons, if_pos rfl]

theorem two_selSet_root (g n : String) : SelSet (oDocTwo g n) 1 [sp "A", sp g] :=
  List.mem_cons_of_mem _ (List.mem_cons_of_mem _ (List.mem_cons_self ..))

theorem two_selSet (g n : String) (i : Nat) (sels : List Sel) (h : SelSet (oDocTwo g n) i sels) :
    (i = 1 ∧ sels = [sp "A", sp g]) ∨ (i = 2 ∧ sels = [fld (some "x") "a"]) ∨ (i = 3 ∧ sels = [fld (some "x") n]) := by
  simp [SelSet, nodes, oDocTwo, opV, fragQ, sp, fld, defNodes, selsNodes, selNodes, argsNodes, dirsNodes] at h
  rcases h with h | h | h
  · exact Or.inl h
  · exact Or.inr (Or.inl h)
  · exact Or.inr (Or.inr h)

theorem two_noSub (g n : String) {i : Nat} {sels : List Sel} {p : Option String} {rn : String} {e : FEntry}
    (hs : SelSet (oDocTwo g n) i sels) (hc : CollD oSchema p sels rn e) : e.hasSub = false := by
  rcases two_selSet g n i sels hs with ⟨_, rfl⟩ | ⟨_, rfl⟩ | ⟨_, rfl⟩
  · cases hc with
    | field hm => simp [sp] at hm
    | inline hm _ => simp [sp] at hm
  · cases hc with
    | field hm => simp only [fld, List.mem_singleton, Sel.field.injEq] at hm; obtain ⟨_, _, _, _, rfl, _⟩ := hm; rfl
    | inline hm _ => simp [fld] at hm
  · cases hc with
    | field hm => simp only [fld, List.mem_singleton, Sel.field.injEq] at hm; obtain ⟨_, _, _, _, rfl, _⟩ := hm; rfl
    | inline hm _ => simp [fld] at hm

theorem two_adm (g n : String) (hg : g ≠ "A") {i : Nat} {p : Option String} (h : Adm oSchema (oDocTwo g n) i p) :
    p = some "Query" := by
  refine adm_const ?_ ?_ ?_ h
  · intro i sels v hm
    simp only [typedNodes, oDocTwo, opV, fragQ, sp, fld, tnDef, tnSels, tnSel, tnDirs, withView, argsNodes,
      List.flatMap_cons, List.flatMap_nil, List.map_nil, List.append_nil, List.nil_append, Bool.false_eq_true,
      ↓reduceIte, List.mem_cons, Prod.mk.injEq, reduceCtorEq, false_and, false_or, List.not_mem_nil, or_false,
      List.mem_append, List.cons_append] at hm
    rcases hm with ⟨_, rfl⟩ | ⟨_, rfl⟩ | ⟨_, rfl⟩
    · show compositeBase oSchema ((rootType oSchema "query").map Ty.named) = some "Query"; decide
    · show compositeBase oSchema (TI.outOnly oSchema (typeFromAst oSchema (.named "Query"))) = some "Query"; decide
    · show compositeBase oSchema (TI.outOnly oSchema (typeFromAst oSchema (.named "Query"))) = some "Query"; decide
  · intro name on i sels hf
    rcases two_get g n hg _ _ hf with ⟨_, hv⟩ | ⟨_, hv⟩ <;> (cases hv; decide)
  · intro i sels rn e hs hc hsub
    rw [two_noSub g n hs hc] at hsub
    cases hsub

theorem parentsAgree_two (g n : String) (hg : g ≠ "A") : Spec.ParentsAgree oSchema (oDocTwo g n) :=
  parentsAgree_of_const fun _ _ => two_adm g n hg

theorem two_admRoot (g n : String) (hg : g ≠ "A") : Adm oSchema (oDocTwo g n) 1 (some "Query") := by
  obtain ⟨v, hm⟩ := selSet_typed (s := oSchema) (two_selSet_root g n)
  have h := Adm.walk hm
  rwa [two_adm g n hg h] at h

theorem overlapSide_frag (n : String) : OverlapSide oSchema (oDocFrag n) := by
  refine ⟨by rw [show oDocFrag n = oDocTwo "B" n from rfl, two_table "B" n (by decide)]; simp [AL.get?_cons, AL.get?_nil], ?_, ?_⟩
  · rintro e ⟨i, sels, p, rn, hs, _, hc⟩ hsub
    rw [two_noSub "B" n hs hc] at hsub; cases hsub
  · intro i sels hs g hg
    rcases two_selSet "B" n i sels hs with ⟨rfl, rfl⟩ | ⟨_, rfl⟩ | ⟨_, rfl⟩
    · intro m _ on fid fsels ht
      rcases two_get "B" n (by decide) m _ ht with ⟨_, hv⟩ | ⟨_, hv⟩ <;> (cases hv; decide)
    · cases hg with
      | spread hm => simp [fld] at hm
      | inline hm _ => simp [fld] at hm
    · cases hg with
      | spread hm => simp [fld] at hm
      | inline hm _ => simp [fld] at hm

theorem parentsAgree_frag (n : String) : Spec.ParentsAgree oSchema (oDocFrag n) :=
  parentsAgree_two "B" n (by decide)

/-- `{ ...A ...B }` with `A { x: a }`, `B { x: a }`: every hypothesis holds, the rule is silent, the clause holds -/
example : Spec.overlappingFieldsCanBeMerged oSchema (oDocFrag "a") :=
  (rule_overlapping_fields_can_be_merged_iff_partial oSchema Fixes.all rfl (oDocFrag "a")
    (parentsAgree_frag "a") (overlapSide_frag "a") (by unfold NoCrash; decide +kernel)).mp
    (by unfold Silent; decide +kernel)

/-- with `B { x: b }` the two fragments conflict: the rule reports (through `_conflicts_between_fragments`) and the
    clause fails -/
example : ¬ Spec.overlappingFieldsCanBeMerged oSchema (oDocFrag "b") := fun h =>
  absurd ((rule_overlapping_fields_can_be_merged_iff_partial oSchema Fixes.all rfl (oDocFrag "b")
    (parentsAgree_frag "b") (overlapSide_frag "b") (by unfold NoCrash; decide +kernel)).mpr h)
    (by unfold Silent; decide +kernel)

end PyGql.Props.C06
