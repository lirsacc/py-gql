/-
  C05 ∘ C06 — BRIDGE: documents on which the MODEL of the validation rules is silent satisfy the clauses of `ValidDoc`
  that the proved `rule_*_iff` theorems of C06 give; the remaining clauses are named and stay hypotheses (they rest on
  the run-time tie "validate_ast accepted ⇒ ValidDoc" of harness/corr/C05.py).

  From C06 (proved equivalences, Props/C06*.lean):
    FieldsOnCorrectTypeChecker      → every selected field is defined on its static parent type       (`selOk`, field clause)
    ScalarLeafsChecker              → leaf ⇔ no sub-selection, composite ⇔ sub-selection              (`selOk`, kind clause)
    FragmentsOnCompositeTypesChecker→ type conditions are known composite types                        (`selOk` inline, `fragsOk`)
    KnownFragmentNamesChecker       → spread fragments exist                                           (`selOk` spread)
    UniqueFragmentNamesChecker      → `fragsUnique`
    NoFragmentCyclesChecker         → `fragsAcyclic` (the rank computation is complete: `Lemmas/C05Acyclic.lean`)
  The translation `eDoc s env` gives every field node its MODEL-COMPUTED argument table (`Exec.argsTable`: C07's
  `coerceArgumentValues` on the node's argument literals under the environment of coerced variables): the chain speaks
  about documents WITH arguments; a rejected argument is a field error of the executor model (`bridge_rejected_argument`).
  NOT a premise: the `@skip/@include` conditions. A condition that is not a Boolean at run time (`if: [true]`,
  which ValuesOfCorrectType lets through — V8; a nullable variable with a default bound to `null`) is a modelled outcome
  (/repo fix 4e87d3d): a field error at the enclosing field, `data = null` for the root selection set.
  On the run-time tie (`RuntimeTie`): operations have a root object type; no `__schema` / `__type` selections
  (introspection is C15's). `MergeSafe` (OverlappingFieldsCanBeMerged) is a hypothesis of the theorems of this file;
  `Props/C05_overlap.lean` derives it from the silent overlap rule.
  TWO variable environments occur and are quantified INDEPENDENTLY: `vars : Exec.Vars` (JSON; what `@skip` / `@include`
  read at run time) and `env.vars` (coerced values; what argument coercion reads when `eDoc s env d` builds the argument
  tables). The theorems hold for every pair, in particular for the pair a request gives; no theorem here ties `env.vars` to
  `coerceVariableValues` of the request.
-/
import PyGqlModel.Spec.ValidDoc
import PyGqlModel.Props.C06_all
import PyGqlModel.Props.C05_merge
import PyGqlModel.ExecArgs
import PyGqlModel.ExecOfValidate
import PyGqlModel.Props.C04_acyclic
import PyGqlModel.Lemmas.C05Acyclic
import PyGqlModel.Lemmas.C05Doc

set_option linter.unusedSimpArgs false

namespace PyGql.Props.C05
open PyGql
open PyGql.Validate (Node)
open PyGql.Validate.Spec (tnSel tnSels tnDef typedNodes View selNodes selsNodes defNodes nodes fragNames compositeBase)

theorem kindOf_compat (s : SchemaD) (n : String) (k : Kind) (h : Validate.kindOf s n = some k) : Exec.kindOf s n = some k := by
  unfold Validate.kindOf at h
  unfold Exec.kindOf
  cases hf : s.findType n with
  | none => simp [hf] at h
  | some t => simp [hf] at h ⊢; exact h

theorem isComposite_compat (s : SchemaD) (n : String) (h : Validate.isComposite s n = true) : Spec.isComposite s n = true := by
  unfold Validate.isComposite at h
  unfold Spec.isComposite
  cases hk : Validate.kindOf s n with
  | none => simp [hk] at h
  | some k => rw [kindOf_compat s n k hk]; cases k <;> simp_all

theorem fieldOf_compat (s : SchemaD) (T name : String) (fd : FieldD) (h : Validate.fieldOf s T name = some fd) :
    Exec.fieldOf s T name = some fd := by
  unfold Validate.fieldOf at h
  unfold Exec.fieldOf
  split at h
  · cases hf : s.findType T with
    | none => simp [hf] at h
    | some t => simpa [hf] using h
  · simp at h

/-- what FieldsOnCorrectType + ScalarLeafs say at one (node, static context), plus "no introspection root field" -/
def TLocal (s : SchemaD) (p : Node × View) : Prop :=
  ∀ name args dirs hs, p.1 = Node.field name args dirs hs →
    (p.2.parent.isSome = true → p.2.field.isSome = true) ∧
    (∀ t, p.2.type = some t → (Validate.isLeaf s t.base = true → hs = false) ∧ (Validate.isComposite s t.base = true → hs = true)) ∧
    name ≠ "__schema" ∧ name ≠ "__type"

/-- what FragmentsOnCompositeTypes + KnownFragmentNames say at one node -/
def NLocal (s : SchemaD) (d : Validate.Doc) (n : Node) : Prop :=
  (∀ on dirs, n = Node.inline (some on) dirs → Validate.isComposite s on = true) ∧
  (∀ name dirs, n = Node.spread name dirs → name ∈ fragNames d)

/-- schema facts the validator's model takes from a valid schema dumped WITH the built-in scalars -/
structure SchemaWf (s : SchemaD) : Prop where
  outputs : ∀ T name fd, Validate.fieldOf s T name = some fd → Validate.isOutputTy s fd.type = true
  string : Validate.isLeaf s "String" = true

private theorem outOnly_of_output (s : SchemaD) (t : Ty) (h : Validate.isOutputTy s t = true) : Validate.TI.outOnly s (some t) = some t := by
  simp [Validate.TI.outOnly, h]

private theorem compositeBase_some (s : SchemaD) (t : Ty) (h : Validate.isComposite s t.base = true) : compositeBase s (some t) = some t.base := by
  simp [compositeBase, h]

private theorem output_of_composite (s : SchemaD) (t : Ty) (h : Validate.isComposite s t.base = true) : Validate.isOutputTy s t = true := by
  unfold Validate.isComposite at h
  unfold Validate.isOutputTy
  cases hk : Validate.kindOf s t.base with
  | none => simp [hk] at h
  | some k => cases k <;> simp_all

private theorem output_of_leaf (s : SchemaD) (t : Ty) (h : Validate.isLeaf s t.base = true) : Validate.isOutputTy s t = true := by
  unfold Validate.isLeaf at h
  unfold Validate.isOutputTy
  cases hk : Validate.kindOf s t.base with
  | none => simp [hk] at h
  | some k => cases k <;> simp_all

private theorem compositeBase_eq_some {s : SchemaD} {ot : Option Ty} {T : String} (h : compositeBase s ot = some T) :
    ∃ t, ot = some t ∧ Validate.isComposite s t.base = true ∧ t.base = T := by
  cases ot with
  | none => simp [compositeBase] at h
  | some t =>
    simp only [compositeBase, Option.map, Option.bind] at h
    split at h
    · rename_i hcomp; simp at h; exact ⟨t, rfl, hcomp, h⟩
    · simp at h

private theorem compositeBase_outOnly (s : SchemaD) (t : Ty) (h : Validate.isComposite s t.base = true) :
    compositeBase s (Validate.TI.outOnly s (some t)) = some t.base := by
  rw [outOnly_of_output s t (output_of_composite s t h), compositeBase_some s t h]

private theorem compositeBase_named (s : SchemaD) (c : String) (h : Validate.isComposite s c = true) :
    compositeBase s (Validate.TI.outOnly s (Validate.typeFromAst s (.named c))) = some c := by
  have hfound : (s.findType c).isSome = true := by
    unfold Validate.isComposite Validate.kindOf at h
    cases hf : s.findType c with
    | none => simp [hf] at h
    | some _ => rfl
  have : Validate.typeFromAst s (.named c) = some (.named c) := by simp [Validate.typeFromAst, Ty.base, hfound]
  rw [this]
  exact compositeBase_outOnly s (.named c) h

mutual
/-- selections whose (node, context) pairs satisfy the local conditions are `selOk` -/
private theorem eSel_ok (s : SchemaD) (env : Exec.ArgEnv) (hs : SchemaWf s) (d : Validate.Doc) (docE : Exec.Doc) (vars : Exec.Vars)
    (hfr : ∀ name ∈ fragNames d, (docE.fragment? name).isSome = true) :
    ∀ (x : Validate.Sel) (v : View) (T : String), v.parent = some T → compositeBase s v.type = some T →
      (∀ p ∈ tnSel s v x, TLocal s p) → (∀ n ∈ selNodes x, NLocal s d n) → Spec.selOk s docE vars T (eSel s env x) = true
  | .field alias name args dirs hsub ssid sub, v, T, hp, hc, hT, hN => by
    have hdirs : Spec.dirsOk vars (dirs.map eDir) = true := rfl
    have hnode := hT (Node.field name args dirs hsub, View.enter s (Node.field name args dirs hsub) v) (by simp [tnSel])
      name args dirs hsub rfl
    obtain ⟨hfield, hleaf, hns, hnt⟩ := hnode
    have hpar : (View.enter s (Node.field name args dirs hsub) v).parent = some T := by simp [View.enter, hp]
    have hfd := hfield (by simp [hpar])
    simp only [View.enter, hp, Option.bind] at hfd hleaf
    simp only [eSel, Spec.selOk, hdirs, Bool.true_and]
    have hTcomp : Validate.isComposite s T = true := by
      obtain ⟨t, _, htc, rfl⟩ := compositeBase_eq_some hc
      exact htc
    by_cases hty : name = "__typename"
    · subst hty
      simp only [beq_self_eq_true, if_true]
      have hgd : Validate.getFieldDef s T "__typename" = some Validate.typenameField := by
        simp [Validate.getFieldDef, hTcomp]
      have hout := output_of_leaf s (Ty.nonNull (.named "String")) hs.string
      have := (hleaf (Ty.nonNull (.named "String")) (by simp [hgd, Validate.typenameField, Validate.TI.outOnly, hout])).1
        (by simpa [Ty.base] using hs.string)
      simp [this]
    · have hty' : (name == "__typename") = false := by simpa using hty
      have hmeta : Exec.isMeta name = false := by simp [Exec.isMeta, hns, hnt, hty]
      simp only [hty', Bool.false_eq_true, if_false, hmeta]
      have hgd : Validate.getFieldDef s T name = Validate.fieldOf s T name := by
        simp [Validate.getFieldDef, hns, hnt, hty]
      rw [hgd] at hfd hleaf
      cases hfo : Validate.fieldOf s T name with
      | none => simp [hfo] at hfd
      | some fd =>
        rw [fieldOf_compat s T name fd hfo]
        have hout := hs.outputs T name fd hfo
        simp only [hfo, Option.map, outOnly_of_output s fd.type hout] at hleaf
        obtain ⟨hl, hcmp⟩ := hleaf fd.type rfl
        simp only []
        cases hk : Validate.kindOf s fd.type.base with
        | none => unfold Validate.isOutputTy at hout; simp [hk] at hout
        | some k =>
          rw [kindOf_compat s _ k hk]
          have leafCase : Validate.isLeaf s fd.type.base = true → (!hsub) = true := fun h => by simp [hl h]
          have compCase : Validate.isComposite s fd.type.base = true →
              (hsub && Spec.selsOk s docE vars fd.type.base (if hsub then eSels s env sub else [])) = true := by
            intro hcb
            have hh := hcmp hcb
            subst hh
            simp only [Bool.true_and, if_true]
            have h1 : compositeBase s (View.enter s (Node.field name args dirs true) v).type = some fd.type.base := by
              simp only [View.enter, hp, Option.bind_some, hgd, hfo, Option.map_some]
              exact compositeBase_outOnly s fd.type hcb
            exact eSels_ok s env hs d docE vars hfr sub (View.enter s (Node.selectionSet ssid sub) _) fd.type.base h1 h1
              (fun p hp' => hT p (by
                rw [tnSel, if_pos rfl]
                exact List.mem_cons_of_mem _ (List.mem_append_right _ (List.mem_cons_of_mem _ hp'))))
              (fun n hn => hN n (by
                rw [selNodes, if_pos rfl]
                exact List.mem_cons_of_mem _ (List.mem_append_right _ (List.mem_cons_of_mem _ hn))))
          cases k with
          | scalar => exact leafCase (by simp [Validate.isLeaf, hk])
          | enum => exact leafCase (by simp [Validate.isLeaf, hk])
          | object => exact compCase (by simp [Validate.isComposite, hk])
          | interface => exact compCase (by simp [Validate.isComposite, hk])
          | union => exact compCase (by simp [Validate.isComposite, hk])
          | input => unfold Validate.isOutputTy at hout; simp [hk] at hout
  | .spread name dirs, v, T, hp, hc, hT, hN => by
    have hdirs : Spec.dirsOk vars (dirs.map eDir) = true := rfl
    have := (hN (Node.spread name dirs) (by simp [selNodes])).2 name dirs rfl
    simp [eSel, Spec.selOk, hdirs, hfr name this]
  | .inline on dirs ssid sub, v, T, hp, hc, hT, hN => by
    have hdirs : Spec.dirsOk vars (dirs.map eDir) = true := rfl
    simp only [eSel, Spec.selOk, hdirs, Bool.true_and]
    have sub_mem : ∀ p, p ∈ tnSels s (View.enter s (Node.selectionSet ssid sub) (View.enter s (Node.inline on dirs) v)) sub →
        p ∈ tnSel s v (.inline on dirs ssid sub) := fun p hp' => by
      rw [tnSel]
      exact List.mem_cons_of_mem _ (List.mem_append_right _ (List.mem_cons_of_mem _ hp'))
    have sub_node : ∀ n, n ∈ selsNodes sub → n ∈ selNodes (.inline on dirs ssid sub) := fun n hn => by
      rw [selNodes]
      exact List.mem_cons_of_mem _ (List.mem_append_right _ (List.mem_cons_of_mem _ hn))
    cases on with
    | none =>
      obtain ⟨t, hvt, htc, rfl⟩ := compositeBase_eq_some hc
      have h1 : compositeBase s (View.enter s (Node.inline none dirs) v).type = some t.base := by
        simp only [View.enter, hvt]
        exact compositeBase_outOnly s t htc
      exact eSels_ok s env hs d docE vars hfr sub (View.enter s (Node.selectionSet ssid sub) (View.enter s (Node.inline none dirs) v))
        t.base h1 h1 (fun p hp' => hT p (sub_mem p hp')) (fun n hn => hN n (sub_node n hn))
    | some c =>
      have hcc := (hN (Node.inline (some c) dirs) (by simp [selNodes])).1 c dirs rfl
      simp only [isComposite_compat s c hcc, Bool.true_and]
      have h1 := compositeBase_named s c hcc
      exact eSels_ok s env hs d docE vars hfr sub (View.enter s (Node.selectionSet ssid sub) (View.enter s (Node.inline (some c) dirs) v))
        c h1 h1 (fun p hp' => hT p (sub_mem p hp')) (fun n hn => hN n (sub_node n hn))
private theorem eSels_ok (s : SchemaD) (env : Exec.ArgEnv) (hs : SchemaWf s) (d : Validate.Doc) (docE : Exec.Doc) (vars : Exec.Vars)
    (hfr : ∀ name ∈ fragNames d, (docE.fragment? name).isSome = true) :
    ∀ (xs : List Validate.Sel) (v : View) (T : String), v.parent = some T → compositeBase s v.type = some T →
      (∀ p ∈ tnSels s v xs, TLocal s p) → (∀ n ∈ selsNodes xs, NLocal s d n) → Spec.selsOk s docE vars T (eSels s env xs) = true
  | [], _, _, _, _, _, _ => by simp [eSels, Spec.selsOk]
  | x :: xs, v, T, hp, hc, hT, hN => by
    simp only [eSels, Spec.selsOk, Bool.and_eq_true]
    exact ⟨eSel_ok s env hs d docE vars hfr x v T hp hc (fun p h => hT p (by simp [tnSels, h])) (fun n h => hN n (by simp [selsNodes, h])),
           eSels_ok s env hs d docE vars hfr xs v T hp hc (fun p h => hT p (by simp [tnSels, h])) (fun n h => hN n (by simp [selsNodes, h]))⟩
end


/-- the clauses of `ValidDoc` for which C06 has no proved rule equivalence: they remain hypotheses of the bridge and rest
    on the run-time tie of harness/corr/C05.py (`validate_ast` accepted ⇒ `ValidDoc`, checked on every accepted document) -/
structure RuntimeTie (s : SchemaD) (d : Validate.Doc) (vars : Exec.Vars) : Prop where
  /-- every operation has a root object type (`get_operation_with_type`) -/
  roots : ∀ x ∈ d.defs, ∀ k n vs ds i ss, x = Validate.Def.op k n vs ds i ss → ∃ r, Validate.rootType s k = some r
  /-- no `__schema` / `__type` selections (introspection belongs to C15) -/
  noIntrospection : ∀ p ∈ typedNodes s d, ∀ name args dirs hs, p.1 = Node.field name args dirs hs → name ≠ "__schema" ∧ name ≠ "__type"

def RuntimeTieClauses : List String :=
  ["operations have a root object type", "no __schema/__type selections",
   "MergeSafe (OverlappingFieldsCanBeMerged, declarative; `mergeSafeB` evaluated by the driver on every accepted document) — separate hypothesis of validated_no_internal_error"]

/-- schema fact (schema validation, C13): the root operation types the schema names are object types -/
def RootsAreObjects (s : SchemaD) : Prop := ∀ k r, Exec.rootType s k = some r → Validate.isObject s r = true

/-- the clause of `RuntimeTie` that `ValidDocR` needs besides the rules: the executor model does not execute `__schema` /
    `__type` (introspection is C15's model) -/
def NoIntrospection (s : SchemaD) (d : Validate.Doc) : Prop :=
  ∀ p ∈ typedNodes s d, ∀ name args dirs hs, p.1 = Node.field name args dirs hs → name ≠ "__schema" ∧ name ≠ "__type"

private theorem frags_names (s : SchemaD) (env : Exec.ArgEnv) (d : Validate.Doc) : (eDoc s env d).frags.map (·.name) = fragNames d := by
  simp only [eDoc, fragNames, List.map_filterMap]
  congr 1
  funext x
  cases x <;> rfl

private theorem fragment_isSome (s : SchemaD) (env : Exec.ArgEnv) (d : Validate.Doc) (name : String) (h : name ∈ fragNames d) :
    ((eDoc s env d).fragment? name).isSome = true := by
  rw [← frags_names s env] at h
  obtain ⟨fr, hfr, hn⟩ := List.mem_map.mp h
  unfold Exec.Doc.fragment?
  rw [List.find?_isSome]
  exact ⟨fr, by simpa using hfr, by simp [hn]⟩

private theorem rootType_eq (s : SchemaD) (k : String) :
    Validate.rootType s k = (Exec.rootType s k).bind fun n => if Validate.isObject s n then some n else none := by
  unfold Validate.rootType Exec.rootType
  split
  · rfl
  · rfl
  · rfl
  · rename_i h1 h2 h3
    rw [if_neg (by simpa using h1), if_neg (by simpa using h2), if_neg (by simpa using h3)]

private theorem rootType_compat (s : SchemaD) (k r : String) (h : Validate.rootType s k = some r) :
    Exec.rootType s k = some r ∧ Validate.isObject s r = true := by
  rw [rootType_eq] at h
  cases he : Exec.rootType s k with
  | none => simp [he] at h
  | some q =>
    simp only [he, Option.bind_some] at h
    split at h
    · cases h
      exact ⟨rfl, by assumption⟩
    · cases h

theorem rootType_compat_rev (s : SchemaD) (k r : String) (h : Exec.rootType s k = some r)
    (ho : Validate.isObject s r = true) : Validate.rootType s k = some r := by
  rw [rootType_eq, h, Option.bind_some, if_pos ho]

theorem composite_of_object (s : SchemaD) (r : String) (h : Validate.isObject s r = true) : Validate.isComposite s r = true := by
  unfold Validate.isObject at h
  unfold Validate.isComposite
  cases hk : Validate.kindOf s r with
  | none => simp [hk] at h
  | some k => simp [hk] at h; subst h; rfl

mutual
private theorem eSel_spreads (s : SchemaD) (env : Exec.ArgEnv) : ∀ x : Validate.Sel, Spec.selSpreads (eSel s env x) = C06.selSpreads x
  | .field al name args dirs true id sub => by simp [eSel, Spec.selSpreads, C06.selSpreads, eSels_spreads s env sub]
  | .field al name args dirs false id sub => by simp [eSel, Spec.selSpreads, Spec.selsSpreads, C06.selSpreads]
  | .spread n dirs => by simp [eSel, Spec.selSpreads, C06.selSpreads]
  | .inline on dirs id sub => by simp [eSel, Spec.selSpreads, C06.selSpreads, eSels_spreads s env sub]
private theorem eSels_spreads (s : SchemaD) (env : Exec.ArgEnv) : ∀ xs : List Validate.Sel,
    Spec.selsSpreads (eSels s env xs) = C06.selSpreads.selsSpreads xs
  | [] => by simp [eSels, Spec.selsSpreads, C06.selSpreads.selsSpreads]
  | x :: xs => by simp [eSels, Spec.selsSpreads, C06.selSpreads.selsSpreads, eSel_spreads s env x, eSels_spreads s env xs]
end

private theorem edge_inv (s : SchemaD) (env : Exec.ArgEnv) (d : Validate.Doc) (f g : String) (h : Spec.Edge (eDoc s env d) f g) :
    ∃ sels, (f, sels) ∈ C06.fragsOf d.defs ∧ g ∈ Validate.Spec.directSpreads sels := by
  obtain ⟨fr, hfr, hn, hg⟩ := h
  obtain ⟨name, on, ds, ssid, sels, hx, rfl⟩ := mem_eDoc_frags hfr
  subst hn
  refine ⟨sels, ?_, ?_⟩
  · unfold C06.fragsOf
    simp only [List.mem_filterMap]
    exact ⟨_, hx, rfl⟩
  · rw [C06.directSpreads_eq, ← eSels_spreads s env]; exact hg

private theorem fragsAcyclic_of_rule (s : SchemaD) (env : Exec.ArgEnv) (d : Validate.Doc)
    (g3 : Validate.Spec.knownFragmentNames d) (g5 : (fragNames d).Nodup) (g6 : Validate.Spec.noFragmentCycles d) :
    Spec.fragsAcyclic (eDoc s env d) = true := by
  have hnd : ((C06.fragsOf d.defs).map (·.1)).Nodup := by rw [← C06.fragNames_eq_fragsOf]; exact g5
  have hstep : ∀ f g, Spec.Edge (eDoc s env d) f g → Validate.Spec.Reach d f g ∧ f ∈ fragNames d := by
    intro f g h
    obtain ⟨sels, hm, hg⟩ := edge_inv s env d f g h
    have hfs : Validate.Spec.fragSels d f = sels := C06.fragSels_of_mem d.defs f sels hnd hm
    refine ⟨.step (by rw [hfs]; exact hg), ?_⟩
    rw [C06.fragNames_eq_fragsOf]
    exact List.mem_map.mpr ⟨(f, sels), hm, rfl⟩
  have hreach : ∀ a b, Spec.Reaches (eDoc s env d) a b → Validate.Spec.Reach d a b ∧ a ∈ fragNames d := by
    intro a b h
    induction h with
    | step he => exact hstep _ _ he
    | trans _ _ ih1 ih2 => exact ⟨.trans ih1.1 ih2.1, ih1.2⟩
  apply Spec.fragsAcyclic_of_noCycles
  · intro f g h
    obtain ⟨sels, hm, hg⟩ := edge_inv s env d f g h
    unfold Validate.Spec.directSpreads at hg
    simp only [List.mem_filterMap] at hg
    obtain ⟨n, hn, hsome⟩ := hg
    have hmem : n ∈ nodes d := by
      unfold C06.fragsOf at hm
      simp only [List.mem_filterMap] at hm
      obtain ⟨x, hx, hxe⟩ := hm
      cases x with
      | frag name on ds ssid sels' =>
        cases hxe
        exact mem_nodes_of_def hx (List.mem_cons_of_mem _ (List.mem_append_right _ (List.mem_cons_of_mem _ hn)))
      | op => cases hxe
      | ts => cases hxe
    unfold Spec.Defined
    rw [frags_names s env]
    cases n with
    | spread name dirs => simp at hsome; subst hsome; exact g3 _ hmem name dirs rfl
    | _ => simp at hsome
  · intro f h
    obtain ⟨hr, hf⟩ := hreach f f h
    exact g6 f hf hr

/-- the bridge, core form: `ValidDocR` (no "the operation has a root type" clause) from the silent rules; `hroot` says
    that a root type the EXECUTOR finds for an operation of the document is the one the VALIDATOR's type walk starts from -/
private theorem rules_accept_validDocR_core (s : SchemaD) (hs : SchemaWf s) (fx : Validate.Fixes) (hv11 : fx.v11 = true) (env : Exec.ArgEnv)
    (d : Validate.Doc) (vars : Exec.Vars)
    (h1 : C06.Silent s fx .fieldsOnCorrectType d) (h2 : C06.Silent s fx .scalarLeafs d)
    (h3 : C06.Silent s fx .knownFragmentNames d) (h4 : C06.Silent s fx .fragmentsOnCompositeTypes d)
    (h5 : C06.Silent s fx .uniqueFragmentNames d) (h6 : C06.Silent s fx .noFragmentCycles d)
    (hne : ∀ f ∈ fragNames d, f ≠ "")
    (hroot : ∀ x ∈ d.defs, ∀ k n vs ds i ss, x = Validate.Def.op k n vs ds i ss → ∀ r, Exec.rootType s k = some r → Validate.rootType s k = some r)
    (hni : NoIntrospection s d) :
    Spec.ValidDocR s (eDoc s env d) vars := by
  have g1 := (C06.rule_fields_on_correct_type_iff s fx d).mp h1
  have g2 := (C06.rule_scalar_leafs_iff s fx d).mp h2
  have g3 := (C06.rule_known_fragment_names_iff s fx d).mp h3
  have g4 := (C06.rule_fragments_on_composite_types_iff s fx d).mp h4
  have g5 := (C06.rule_unique_fragment_names_iff s fx d).mp h5
  have g6 := (C06.rule_no_fragment_cycles_iff s fx hv11 d g5 hne).mp h6
  have hT : ∀ p ∈ typedNodes s d, TLocal s p := by
    intro p hp name args dirs hsub e
    exact ⟨g1 p hp name args dirs hsub e, g2 p hp name args dirs hsub e, hni p hp name args dirs hsub e⟩
  have hN : ∀ n ∈ nodes d, NLocal s d n := fun n hn => ⟨fun on dirs e => g4.1 n hn on dirs e, fun name dirs e => g3 n hn name dirs e⟩
  have hfr := fragment_isSome s env d
  refine validDocR_iff.2 ⟨?_, ?_, fragsAcyclic_of_rule s env d g3 g5 g6, ?_⟩
  · -- operations
    unfold Spec.opsOkR
    rw [List.all_eq_true]
    intro o ho
    obtain ⟨kind, name, vs, ds, ssid, sels, hx, rfl⟩ := mem_eDoc_ops.1 ho
    cases hre : Exec.rootType s kind with
    | none => rfl
    | some r =>
      have hr := hroot _ hx kind name vs ds ssid sels rfl r hre
      obtain ⟨_, hobj⟩ := rootType_compat s kind r hr
      have h1 : compositeBase s (View.enter s (Node.operation kind name vs ds sels) {}).type = some r := by
        simp only [View.enter, hr, Option.map_some]
        exact compositeBase_some s (Ty.named r) (composite_of_object s r hobj)
      -- the (typed) nodes of the selection set, behind the operation node, its variable definitions and directives
      exact eSels_ok s env hs d (eDoc s env d) vars hfr sels
        (View.enter s (Node.selectionSet ssid sels) (View.enter s (Node.operation kind name vs ds sels) {})) r h1 h1
        (fun p hp => hT p (mem_typedNodes_of_def hx
          (List.mem_cons_of_mem _ (List.mem_append_right _ (List.mem_cons_of_mem _ hp)))))
        (fun n hn => hN n (mem_nodes_of_def hx
          (List.mem_cons_of_mem _ (List.mem_append_right _ (List.mem_cons_of_mem _ hn)))))
  · -- fragment definitions
    unfold Spec.fragsOk
    rw [List.all_eq_true]
    intro f hf
    obtain ⟨name, on, ds, ssid, sels, hx, rfl⟩ := mem_eDoc_frags hf
    have hcc := g4.2 _ (mem_nodes_of_def hx List.mem_cons_self) name on ds rfl
    have h1 := compositeBase_named s on hcc
    rw [Bool.and_eq_true]
    exact ⟨isComposite_compat s on hcc, eSels_ok s env hs d (eDoc s env d) vars hfr sels
      (View.enter s (Node.selectionSet ssid sels) (View.enter s (Node.fragmentDef name on ds) {})) on h1 h1
      (fun p hp => hT p (mem_typedNodes_of_def hx
        (List.mem_cons_of_mem _ (List.mem_append_right _ (List.mem_cons_of_mem _ hp)))))
      (fun n hn => hN n (mem_nodes_of_def hx
        (List.mem_cons_of_mem _ (List.mem_append_right _ (List.mem_cons_of_mem _ hn)))))⟩
  · -- unique fragment names
    unfold Spec.fragsUnique
    simp only [decide_eq_true_eq]
    rw [frags_names s env]
    exact g5


/-- The bridge from what validation really guarantees. If the MODEL of the validator
    (Validate/*.lean, proved equivalent to the specification rule by rule in Props/C06*.lean) reports nothing for
    FieldsOnCorrectType, ScalarLeafs, KnownFragmentNames, FragmentsOnCompositeTypes, UniqueFragmentNames and
    NoFragmentCycles, then the executor-side translation of the document is `ValidDocR`. The `RuntimeTie` clause
    "every operation has a root object type" is NOT used (the validator does not guarantee it: `mutation { a }` on a schema
    without a mutation type is accepted); the schema fact `RootsAreObjects` (schema validation) is. Of the run-time tie:
    `NoIntrospection` only. -/
theorem rules_accept_validDocR (s : SchemaD) (hs : SchemaWf s) (hro : RootsAreObjects s) (fx : Validate.Fixes) (hv11 : fx.v11 = true)
    (env : Exec.ArgEnv) (d : Validate.Doc) (vars : Exec.Vars)
    (h1 : C06.Silent s fx .fieldsOnCorrectType d) (h2 : C06.Silent s fx .scalarLeafs d)
    (h3 : C06.Silent s fx .knownFragmentNames d) (h4 : C06.Silent s fx .fragmentsOnCompositeTypes d)
    (h5 : C06.Silent s fx .uniqueFragmentNames d) (h6 : C06.Silent s fx .noFragmentCycles d)
    (hne : ∀ f ∈ fragNames d, f ≠ "") (hni : NoIntrospection s d) :
    Spec.ValidDocR s (eDoc s env d) vars :=
  rules_accept_validDocR_core s hs fx hv11 env d vars h1 h2 h3 h4 h5 h6 hne
    (fun _ _ k _ _ _ _ _ _ r hre => rootType_compat_rev s k r hre (hro k r hre)) hni

/-- The bridge. If the MODEL of the validator (Validate/*.lean, proved equivalent to the
    specification rule by rule in Props/C06*.lean) reports nothing for FieldsOnCorrectType, ScalarLeafs,
    KnownFragmentNames, FragmentsOnCompositeTypes, UniqueFragmentNames and NoFragmentCycles, then — with the `RuntimeTie` clauses — the
    executor-side translation of the document is `ValidDoc`; hence `validated_no_internal_error`, `validDoc_responds`
    and `exec_refines_spec` apply to it. (`rules_accept_validDocR` is the form without the root-type clause.) -/
theorem rules_accept_validDoc (s : SchemaD) (hs : SchemaWf s) (fx : Validate.Fixes) (hv11 : fx.v11 = true) (env : Exec.ArgEnv)
    (d : Validate.Doc) (vars : Exec.Vars)
    (h1 : C06.Silent s fx .fieldsOnCorrectType d) (h2 : C06.Silent s fx .scalarLeafs d)
    (h3 : C06.Silent s fx .knownFragmentNames d) (h4 : C06.Silent s fx .fragmentsOnCompositeTypes d)
    (h5 : C06.Silent s fx .uniqueFragmentNames d) (h6 : C06.Silent s fx .noFragmentCycles d)
    (hne : ∀ f ∈ fragNames d, f ≠ "") (rt : RuntimeTie s d vars) :
    Spec.ValidDoc s (eDoc s env d) vars := by
  have hroot : ∀ x ∈ d.defs, ∀ k n vs ds i ss, x = Validate.Def.op k n vs ds i ss → ∀ r, Exec.rootType s k = some r →
      Validate.rootType s k = some r := by
    intro x hx k n vs ds i ss e r hre
    obtain ⟨r', hr'⟩ := rt.roots x hx k n vs ds i ss e
    have := (rootType_compat s k r' hr').1
    rw [hre] at this
    cases this
    exact hr'
  refine validDoc_of_validDocR s _ vars
    (rules_accept_validDocR_core s hs fx hv11 env d vars h1 h2 h3 h4 h5 h6 hne hroot rt.noIntrospection) ?_
  unfold Spec.opsRooted
  rw [List.all_eq_true]
  intro o ho
  obtain ⟨kind, name, vs, ds, ssid, sels, hx, rfl⟩ := mem_eDoc_ops.1 ho
  obtain ⟨r, hr⟩ := rt.roots _ hx kind name vs ds ssid sels rfl
  simp [(rootType_compat s kind r hr).1]

/-- The soundness chain from the validator MODEL to the executor model, for documents
    WITH arguments — silent rules (FieldsOnCorrectType, ScalarLeafs, KnownFragmentNames, FragmentsOnCompositeTypes,
    UniqueFragmentNames, NoFragmentCycles; + the two remaining `RuntimeTie` clauses and `MergeSafe`, the declarative form
    of OverlappingFieldsCanBeMerged), a schema whose objects implement their interfaces covariantly, a typed world ⇒
    no request on the document ends in an internal exception, for every environment of coerced variables (the argument
    tables are computed by C07's `coerceArgumentValues`: a rejected argument is a field error, `bridge_rejected_argument`),
    every operation name and fuel. -/
theorem rules_accept_cannot_go_wrong (s : SchemaD) (hs : SchemaWf s) (hso : SchemaOk s) (fx : Validate.Fixes) (hv11 : fx.v11 = true)
    (env : Exec.ArgEnv) (d : Validate.Doc) (vars : Exec.Vars)
    (h1 : C06.Silent s fx .fieldsOnCorrectType d) (h2 : C06.Silent s fx .scalarLeafs d)
    (h3 : C06.Silent s fx .knownFragmentNames d) (h4 : C06.Silent s fx .fragmentsOnCompositeTypes d)
    (h5 : C06.Silent s fx .uniqueFragmentNames d) (h6 : C06.Silent s fx .noFragmentCycles d)
    (hne : ∀ f ∈ fragNames d, f ≠ "") (rt : RuntimeTie s d vars) (hm : MergeSafe s (eDoc s env d))
    (w : Exec.World) (hw : WorldTyped s w) :
    ∀ (op : Option String) (fuel cf : Nat) (cls : String), Exec.execute s (eDoc s env d) vars w op fuel cf ≠ .failed (.internal cls) :=
  validated_no_internal_error s hso (eDoc s env d) vars (rules_accept_validDoc s hs fx hv11 env d vars h1 h2 h3 h4 h5 h6 hne rt) hm w hw

/-- every such document RESPONDS and is refined by the specification's algorithm: `ValidDoc` comes entirely from the rules,
    so the C04 theorems apply to what the validator model accepts -/
theorem rules_accept_responds (s : SchemaD) (hs : SchemaWf s) (fx : Validate.Fixes) (hv11 : fx.v11 = true)
    (env : Exec.ArgEnv) (d : Validate.Doc) (vars : Exec.Vars)
    (h1 : C06.Silent s fx .fieldsOnCorrectType d) (h2 : C06.Silent s fx .scalarLeafs d)
    (h3 : C06.Silent s fx .knownFragmentNames d) (h4 : C06.Silent s fx .fragmentsOnCompositeTypes d)
    (h5 : C06.Silent s fx .uniqueFragmentNames d) (h6 : C06.Silent s fx .noFragmentCycles d)
    (hne : ∀ f ∈ fragNames d, f ≠ "") (rt : RuntimeTie s d vars) (w : Exec.World) (op : Option String) :
    ∃ r, C04.RespondsWith s (eDoc s env d) vars w op r :=
  C04.validDoc_responds s (eDoc s env d) vars w (rules_accept_validDoc s hs fx hv11 env d vars h1 h2 h3 h4 h5 h6 hne rt) op

/-- The soundness chain WITHOUT "every operation has a root type" (which
    validation does not guarantee). Hypotheses that remain, and where each comes from:
      * `SchemaWf`, `SchemaOk`, `RootsAreObjects` — facts of a VALID SCHEMA (schema validation, C13), not of the document;
      * `fx.v11` — the code of /repo HEAD (fix commit of V11), checked by the harness on the tree under test;
      * six `Silent` clauses — part of `validate_ast(schema, doc) == []`;
      * `hne` — the parser never produces an empty name;
      * `NoIntrospection` — scope of the executor MODEL (`__schema` / `__type` are C15's);
      * `MergeSafe` — the declarative OverlappingFieldsCanBeMerged on the executor's document (derived from the silent
        overlap rule in `Props/C05_overlap.lean`: `mergeSafe_of_silent`, `accepted_cannot_go_wrong_merged`; the driver also
        evaluates `mergeSafeB` on every accepted document, `mergeSafeB_sound`);
      * `WorldTyped` — part of the property statement ("resolver results of the declared types"). -/
theorem rules_accept_cannot_go_wrong_rootless (s : SchemaD) (hs : SchemaWf s) (hso : SchemaOk s) (hro : RootsAreObjects s)
    (fx : Validate.Fixes) (hv11 : fx.v11 = true) (env : Exec.ArgEnv) (d : Validate.Doc) (vars : Exec.Vars)
    (h1 : C06.Silent s fx .fieldsOnCorrectType d) (h2 : C06.Silent s fx .scalarLeafs d)
    (h3 : C06.Silent s fx .knownFragmentNames d) (h4 : C06.Silent s fx .fragmentsOnCompositeTypes d)
    (h5 : C06.Silent s fx .uniqueFragmentNames d) (h6 : C06.Silent s fx .noFragmentCycles d)
    (hne : ∀ f ∈ fragNames d, f ≠ "") (hni : NoIntrospection s d) (hm : MergeSafe s (eDoc s env d))
    (w : Exec.World) (hw : WorldTyped s w) :
    ∀ (op : Option String) (fuel cf : Nat) (cls : String), Exec.execute s (eDoc s env d) vars w op fuel cf ≠ .failed (.internal cls) :=
  validated_no_internal_error_rootless s hso (eDoc s env d) vars
    (rules_accept_validDocR s hs hro fx hv11 env d vars h1 h2 h3 h4 h5 h6 hne hni) hm w hw

/-- The same with the premise in the shape of the property statement — the validator's
    list of errors is EMPTY, i.e. every one of the 26 rule visitors is silent. -/
theorem accepted_cannot_go_wrong (s : SchemaD) (hs : SchemaWf s) (hso : SchemaOk s) (hro : RootsAreObjects s)
    (fx : Validate.Fixes) (hv11 : fx.v11 = true) (env : Exec.ArgEnv) (d : Validate.Doc) (vars : Exec.Vars)
    (hacc : ∀ r ∈ Validate.Rule.all, C06.Silent s fx r d)
    (hne : ∀ f ∈ fragNames d, f ≠ "") (hni : NoIntrospection s d) (hm : MergeSafe s (eDoc s env d))
    (w : Exec.World) (hw : WorldTyped s w) :
    ∀ (op : Option String) (fuel cf : Nat) (cls : String), Exec.execute s (eDoc s env d) vars w op fuel cf ≠ .failed (.internal cls) :=
  rules_accept_cannot_go_wrong_rootless s hs hso hro fx hv11 env d vars
    (hacc _ (by decide +kernel)) (hacc _ (by decide +kernel)) (hacc _ (by decide +kernel)) (hacc _ (by decide +kernel)) (hacc _ (by decide +kernel)) (hacc _ (by decide +kernel))
    hne hni hm w hw

/-- A document on which KnownFragmentNames, UniqueFragmentNames and NoFragmentCycles are silent
    translates to a RANKED executor document — the only hypothesis of C04's `exec_refines_spec` / `responds` -/
theorem rules_accept_ranked (s : SchemaD) (fx : Validate.Fixes) (hv11 : fx.v11 = true) (env : Exec.ArgEnv) (d : Validate.Doc)
    (h3 : C06.Silent s fx .knownFragmentNames d) (h5 : C06.Silent s fx .uniqueFragmentNames d)
    (h6 : C06.Silent s fx .noFragmentCycles d) (hne : ∀ f ∈ fragNames d, f ≠ "") :
    C04.Ranked (eDoc s env d) (Spec.docRk (eDoc s env d)) (Spec.docEk (eDoc s env d)) (Spec.docBound (eDoc s env d)) := by
  have g3 := (C06.rule_known_fragment_names_iff s fx d).mp h3
  have g5 := (C06.rule_unique_fragment_names_iff s fx d).mp h5
  have g6 := (C06.rule_no_fragment_cycles_iff s fx hv11 d g5 hne).mp h6
  exact C04.acyclic_ranked _ (by rw [frags_names s env]; exact g5) (fragsAcyclic_of_rule s env d g3 g5 g6)

/-- C04's headline from VALIDATION instead of a rank certificate: on every document the
    validator model accepts (only the three fragment rules are needed; no schema hypothesis, no `RuntimeTie`, no
    `MergeSafe`), for every variables, world, fuel and selection set: the executor model refines the specification's
    algorithm (same ordered data; errors agree one by one on path and kind; locations up to repeats). -/
theorem rules_accept_refines_spec (s : SchemaD) (fx : Validate.Fixes) (hv11 : fx.v11 = true) (env : Exec.ArgEnv) (d : Validate.Doc)
    (h3 : C06.Silent s fx .knownFragmentNames d) (h5 : C06.Silent s fx .uniqueFragmentNames d)
    (h6 : C06.Silent s fx .noFragmentCycles d) (hne : ∀ f ∈ fragNames d, f ≠ "")
    (vars : Exec.Vars) (w : Exec.World) (cf fuel : Nat) (root : String) (path : Exec.Path) (sels : List Exec.Sel) :
    C04.ExecRefinesSpecUpToLocations s (eDoc s env d) vars w cf fuel root path sels :=
  C04.exec_refines_spec s _ vars w _ _ _ (rules_accept_ranked s fx hv11 env d h3 h5 h6 hne) cf fuel root path sels

/-- the table of a translated field node is C07's coercion of ITS argument nodes, one entry per object type defining the
    field (`C04.argsTable_mem`, `C04.argsEntry_some_iff` / `argsEntry_none_iff` read the entries) -/
theorem bridge_field_args (s : SchemaD) (env : Exec.ArgEnv) (alias : Option String) (name : String) (args : List Validate.Arg)
    (dirs : List Validate.Dir) (hs : Bool) (ssid : Nat) (sub : List Validate.Sel) :
    ∃ key loc ds sub', eSel s env (.field alias name args dirs hs ssid sub)
      = .field key name loc ds (Exec.argsTable s env name (eArgs args)) hs sub' :=
  ⟨_, _, _, _, rfl⟩

set_option linter.unusedVariables false in
/-- a rejected argument (C07: `coerceArgumentValues` fails) of a translated field is a FIELD ERROR of the executor model:
    `null`, one `coercion` error at the field, the resolver world is not consulted. `ht`, `hk`, `hf`, `hnode` say where the
    table entry `hfirst` comes from (`C04.argsTable_mem`); the equation itself needs `hfirst` and `hrej` only. -/
theorem bridge_rejected_argument (s : SchemaD) (env : Exec.ArgEnv) (w : Exec.World) (execSub) (path : Exec.Path)
    (t : TypeD) (f fd : FieldD) (name : String) (args : List Validate.Arg) (node : Exec.FNode) (more : List Exec.FNode)
    (ht : t ∈ s.types) (hk : t.kind = .object) (hf : t.fields.find? (·.name == name) = some f)
    (hnode : node.args = Exec.argsTable s env name (eArgs args))
    (hfirst : (node.args.find? (·.1 == t.name)) = some (t.name, Exec.argsEntry env (f.args.map Exec.inFieldOfArg) (eArgs args)))
    (hrej : Exec.argsEntry env (f.args.map Exec.inFieldOfArg) (eArgs args) = none) :
    Exec.resolveField s w execSub t.name path (node :: more) fd
      = .ok (.null, [{ path := path, locs := [node.loc], kind := .coercion }]) := by
  simp [Exec.resolveField, hfirst, hrej]

/-! non-vacuity: a document of the validator's AST with a fragment, an inline fragment, a directive and ARGUMENTS -/
def brSchema : SchemaD :=
  { types := [{ kind := .scalar, name := "String" }, { kind := .scalar, name := "Int" },
              { kind := .object, name := "Query", fields := [{ name := "a", type := .named "Int", args := [{ name := "n", type := .named "Int" }] },
                                                             { name := "o", type := .named "Ob" }] },
              { kind := .object, name := "Ob", fields := [{ name := "x", type := .list (.named "String") }] }] }
def brEnv : Exec.ArgEnv := { reg := Exec.regOfSchema brSchema, fuel := 50, vars := [("v", .int 7)] }
def brDoc : Validate.Doc :=
  { defs := [.op "query" none [] [] 1
               [.field none "a" [⟨"n", .int "3"⟩] [⟨"skip", [⟨"if", .bool false⟩]⟩] false 0 [], .spread "F" [],
                .inline (some "Query") [] 2 [.field (some "k") "o" [] [] true 3 [.field none "x" [] [] false 0 [], .field none "__typename" [] [] false 0 []]]],
             .frag "F" "Query" [] 4 [.field (some "b") "a" [⟨"n", .var "v"⟩] [] false 0 [], .field (some "c") "a" [⟨"n", .str "no"⟩] [] false 0 []]] }
example : Spec.ValidDoc brSchema (eDoc brSchema brEnv brDoc) [] := by unfold Spec.ValidDoc; decide +kernel

/-- the tables: an argument given through a variable is accepted, the literal `"no"` for `Int` is rejected (field error) -/
example : (Exec.argsTable brSchema brEnv "a" (eArgs [⟨"n", .var "v"⟩])).map (fun e => (e.1, e.2.isSome)) = [("Query", true)] := by decide +kernel
example : Exec.argsTable brSchema brEnv "a" (eArgs [⟨"n", .str "no"⟩]) = [("Query", none)] := by decide +kernel

/-- non-vacuity of the rootless chain: `mutation { a }` on `brSchema` (no mutation type): every rule is silent — the
    validator accepts — the `roots` clause of `RuntimeTie` FAILS, `RootsAreObjects` and `NoIntrospection` hold -/
def brMutation : Validate.Doc := { defs := [.op "mutation" none [] [] 1 [.field none "a" [] [] false 0 []]] }
def brSchemaQ : SchemaD := { brSchema with query := some "Query" }
example : ∀ r ∈ Validate.Rule.all, C06.Silent brSchemaQ Validate.Fixes.all r brMutation := by
  unfold C06.Silent; decide +kernel
example : Validate.rootType brSchemaQ "mutation" = none := by decide +kernel
example : RootsAreObjects brSchemaQ := by
  intro k r h
  unfold Exec.rootType at h
  simp [brSchemaQ, brSchema] at h
  obtain ⟨_, rfl⟩ := h
  decide +kernel
example : Spec.ValidDocR brSchemaQ (eDoc brSchemaQ brEnv brMutation) [] := by unfold Spec.ValidDocR; decide +kernel

end PyGql.Props.C05
