/-
  C07 — literal / variable equivalence, fuel-free (`coerceValueT` / `valueFromAstT`): for agreeing custom scalars, and with the
  hypothesis at exactly the reachable positions (`literal_variable_equiv_at`, Props/C07_equiv.lean) — the form closest to the
  property's last sentence: "supplying a value inline or through a variable of the same type gives the resolver the same
  arguments"; and the converse `customAgree_necessary`: at a custom scalar the equivalence IS the agreement of the scalar's own
  two parsers, so the hypothesis cannot be weakened.
-/
import PyGqlModel.Props.C07_fuel
import PyGqlModel.Props.C07_equiv


namespace PyGql.Props.C07
open PyGql PyGql.Coerce PyGql.Generated.Scalars

/-- fuel-free: `value_from_ast(astOfJson j)` and `coerce_value(j)` yield the same value or both raise -/
theorem literal_variable_equiv_total (reg : Reg) (hagree : CustomAgree reg) (vars : Option (List (String × PV))) (ty : Ty) (j : JV) (l : Lit)
    (h : AstOfJson reg ty j l) : (valueFromAstT reg vars ty l).toOption = (coerceValueT reg ty j).toOption := by
  have hm := literal_variable_equiv reg hagree vars (max (fuelFor reg ty (sizeOf l)) (fuelFor reg ty (sizeOf j))) ty j l h
  rwa [valueFromAst_eq_total reg vars _ ty l (Nat.le_max_left _ _), coerceValue_eq_total reg _ ty j (Nat.le_max_right _ _)] at hm

/-- fuel-free; only the custom scalars that are positions of `ty` have to agree -/
theorem literal_variable_equiv_total_at (reg : Reg) (ty : Ty) (hagree : CustomAgreeOn reg (Reach reg ty))
    (vars : Option (List (String × PV))) (j : JV) (l : Lit) (h : AstOfJson reg ty j l) :
    (valueFromAstT reg vars ty l).toOption = (coerceValueT reg ty j).toOption := by
  have hm := literal_variable_equiv_at reg ty hagree vars (max (fuelFor reg ty (sizeOf l)) (fuelFor reg ty (sizeOf j))) j l h
  rwa [valueFromAst_eq_total reg vars _ ty l (Nat.le_max_left _ _), coerceValue_eq_total reg _ ty j (Nat.le_max_right _ _)] at hm

/-- UNCONDITIONAL for types without custom-scalar positions — the resolver receives `pv` for the
    inline spelling iff it receives `pv` for the same value sent through a variable (and one route rejects iff the other does). -/
theorem same_arguments_builtin (reg : Reg) (ty : Ty) (hno : NoCustomAt reg ty)
    (vars : Option (List (String × PV))) (j : JV) (l : Lit) (h : AstOfJson reg ty j l) (pv : PV) :
    valueFromAstT reg vars ty l = .ok pv ↔ coerceValueT reg ty j = .ok pv :=
  ok_iff_of_toOption_eq (literal_variable_equiv_total_at reg ty (fun n _ _ _ hS hk _ => absurd hk (hno n hS)) vars j l h) pv

/-- The hypothesis of `literal_variable_equiv_at` cannot be weakened at the base position: if inline and
    variable agree on every natural-kind value at a custom scalar `n`, then the scalar's own two parsers agree on every JSON scalar
    and its spelling (with the request's variables). So `CustomAgreeOn` at the reachable custom scalars is exactly what the
    equivalence amounts to there — an obligation of the scalar's author, not of the library. -/
theorem customAgree_necessary (reg : Reg) (n : String) (hk : reg.get? n = some .custom) (vars : Option (List (String × PV)))
    (h : ∀ j l, AstOfJson reg (.named n) j l → (valueFromAst reg vars 1 (.named n) l).toOption = (coerceValue reg 1 (.named n) j).toOption) :
    ∀ j l, LeafSpell j l → (reg.customParseLiteral n (vars.getD []) l).toR.toOption = (reg.customParse n j).toR.toOption := by
  intro j l hs
  have := h j l (.custom hk hs)
  cases hs <;> simpa [valueFromAst, coerceValue, vfaCore, coerceCore, Lit.isNull, JV.isNull, hk, isScalarLit, litAdmitted, Ty.base, Ty.isNonNull, stripNN] using this

/-- non-vacuity of the necessity direction: the library's own stand-in scalar (`default_scalar`) does NOT give the same
    arguments inline and through a variable — `5` inline is the text "5", through a variable the int 5 (finding A10) -/
theorem default_scalar_routes_differ :
    ¬ (∀ j l, AstOfJson (Reg.ofTypes [("Any", .custom)]) (.named "Any") j l →
        (valueFromAst (Reg.ofTypes [("Any", .custom)]) none 1 (.named "Any") l).toOption
          = (coerceValue (Reg.ofTypes [("Any", .custom)]) 1 (.named "Any") j).toOption) := by
  intro h
  have h5 := customAgree_necessary (Reg.ofTypes [("Any", .custom)]) "Any" rfl none h (.int 5) (.int 5) .int
  simp [Reg.ofTypes, defaultScalarParse, defaultScalarParseLiteral, untypedLiteral, ParseOut.toR, Except.toOption, pvOfJson, jvAllFinite] at h5

end PyGql.Props.C07
