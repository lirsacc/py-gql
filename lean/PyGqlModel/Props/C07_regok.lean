/-
  C07 — the hypothesis `RegOK` is SATISFIABLE by the registries the library builds (with a `CustomOK` that
  admitted the literal `null`, to which `default_scalar`'s `_untyped_literal` answers `None`, `RegOK.customNotNone` would be FALSE for
  every registry holding an SDL `scalar X`, and every soundness theorem vacuous for such schemas).  `CustomOK` speaks only of the
  inputs `value_from_ast` really hands to a scalar's parser (never `null`, never a bare `$x`), and this file PROVES, for the
  stand-in scalar:

  * `customNotNone_default` / `customNotNone_ofTypes` / `customNotNone_regOfSchema`: the stand-in never answers `None` to such
    an input — whatever the three extracted flags of Generated/Scalars.lean say;
  * `regOK_ofTypes_iff`: for `Reg.ofTypes ts`, `RegOK` IS the four conditions on the declared types (nothing is left to assume
    about the scalars); `regOK_regOfSchema_iff` the same for the registry of an SDL schema description;
  * `regOK_satisfiable_with_default_scalar`: a registry with the stand-in scalar at a nullable, a non-null, a list-item and an
    input-field position (with a declared default) satisfies `RegOK`;
  * one `…_applies_with_default_scalar` theorem per headline soundness theorem: its hypotheses are discharged on that registry
    and it is USED to obtain a conclusion about a value the stand-in scalar produced.
-/
import PyGqlModel.Props.C07_tree
import PyGqlModel.Props.C07_fuel
import PyGqlModel.ExecArgs


namespace PyGql.Props.C07
open PyGql PyGql.Coerce

private theorem pvOfJson_notNone {v : JV} (hv : v.isNull = false) : (pvOfJson v).isNone = false := by
  cases v <;> simp [JV.isNull] at hv <;> simp [pvOfJson, PV.isNone]

private theorem untypedLiteral_notNone {vars : Option (List (String × PV))} {l : Lit} {pv : PV}
    (hn : l.isNull = false) (hv : ∀ x, l ≠ .var x) (h : untypedLiteral vars l = some pv) : pv.isNone = false := by
  cases l with
  | null => simp [Lit.isNull] at hn
  | var x => exact absurd rfl (hv x)
  | int n => simp [untypedLiteral] at h; subst h; rfl
  | float t => simp [untypedLiteral] at h; subst h; rfl
  | str s => simp [untypedLiteral] at h; subst h; rfl
  | bool b => simp [untypedLiteral] at h; subst h; rfl
  | enum s => simp [untypedLiteral] at h; subst h; rfl
  | list items =>
    simp only [untypedLiteral] at h
    cases hr : untypedLiteralL vars items <;> simp [hr] at h
    subst h; rfl
  | obj fields =>
    simp only [untypedLiteral] at h
    cases hr : untypedLiteralF vars fields <;> simp [hr] at h
    subst h; rfl

/-- `default_scalar` (what `build_schema` makes of an SDL `scalar X`) meets `RegOK.customNotNone`:
    its `parse` (`_transparent`) answers a non-null JSON value with a non-None value, its `parse_literal` (`_untyped_literal`)
    answers every literal other than `null` / `$x` with a non-None value. Independent of the extracted flags. -/
theorem customNotNone_default (reg : Reg) (hp : reg.customParse = defaultScalarParse)
    (hl : reg.customParseLiteral = defaultScalarParseLiteral) :
    ∀ n pv, CustomOK reg n pv → pv.isNone = false := by
  intro n pv hok
  rcases hok with ⟨v, hv, h⟩ | ⟨l, vs, hn, hvar, _, h⟩
  · rw [hp] at h
    unfold defaultScalarParse at h
    split at h
    · cases h
    · cases h; exact pvOfJson_notNone hv
  · rw [hl] at h
    unfold defaultScalarParseLiteral at h
    split at h
    · rename_i pv' hpv
      cases h
      exact untypedLiteral_notNone hn hvar hpv
    · cases h

theorem customNotNone_ofTypes (ts : List (String × NamedT)) : ∀ n pv, CustomOK (Reg.ofTypes ts) n pv → pv.isNone = false :=
  customNotNone_default _ rfl rfl

theorem customNotNone_regOfSchema (s : SchemaD) : ∀ n pv, CustomOK (Exec.regOfSchema s) n pv → pv.isNone = false :=
  customNotNone_default _ rfl rfl

/-- the conditions of `RegOK` that concern the DECLARED types only (what is left of `RegOK` once the scalars are stand-ins) -/
structure RegTypesOK (reg : Reg) : Prop where
  fieldWf : ∀ n fs, reg.get? n = some (.input fs) → ∀ f, f ∈ fs → f.type.wf = true
  defaultsConform : ∀ n fs, reg.get? n = some (.input fs) → ∀ f, f ∈ fs → ∀ d, f.default = some d → Conforms reg f.type d
  enumNotNone : ∀ n vs, reg.get? n = some (.enum vs) → ∀ p, p ∈ vs → p.2.isNone = false
  pyNamesDistinct : ∀ n fs, reg.get? n = some (.input fs) → (fs.map (fun f => f.pyName)).Nodup

/-- For a registry whose custom scalars are all stand-ins, `RegOK` is exactly the four conditions on the
    declared input objects and enums: the fifth (`customNotNone`) is a theorem, not an assumption. -/
theorem regOK_ofTypes_iff (ts : List (String × NamedT)) : RegOK (Reg.ofTypes ts) ↔ RegTypesOK (Reg.ofTypes ts) :=
  ⟨fun h => ⟨h.fieldWf, h.defaultsConform, h.enumNotNone, h.pyNamesDistinct⟩,
   fun h => ⟨h.fieldWf, h.defaultsConform, h.enumNotNone, h.pyNamesDistinct, fun n pv _ hok => customNotNone_ofTypes ts n pv hok⟩⟩

/-- the same for the registry `ExecArgs.regOfSchema` derives from an SDL schema description (the one C04/C05's executor model uses) -/
theorem regOK_regOfSchema_iff (s : SchemaD) : RegOK (Exec.regOfSchema s) ↔ RegTypesOK (Exec.regOfSchema s) :=
  ⟨fun h => ⟨h.fieldWf, h.defaultsConform, h.enumNotNone, h.pyNamesDistinct⟩,
   fun h => ⟨h.fieldWf, h.defaultsConform, h.enumNotNone, h.pyNamesDistinct, fun n pv _ hok => customNotNone_regOfSchema s n pv hok⟩⟩

/-- `customNotNone` is still a real condition: a user scalar whose `parse` answers None violates it (and then None does reach a
    non-null position: `regNoneScalar` in C07_examples.lean) -/
theorem customNotNone_still_excludes :
    ¬ RegOK { types := [("S", .custom)], customParse := fun _ _ => .value .none, customParseLiteral := fun _ _ _ => .refused,
              customHasParseLiteral := fun _ => false } := by
  intro h
  have := h.customNotNone "S" .none rfl (.inl ⟨.int 1, rfl, rfl⟩)
  simp [PV.isNone] at this

namespace StandIn

/-- `input Box { any: Any = "dflt", must: Any!, many: [Any!], n: Int! = 3, c: Color }` -/
def boxFields : List InField :=
  [ { name := "any", pyName := "any", type := .named "Any", default := some (.str "dflt") },
    { name := "must", pyName := "must", type := .nonNull (.named "Any"), default := none },
    { name := "many", pyName := "many", type := .list (.nonNull (.named "Any")), default := none },
    { name := "n", pyName := "n", type := .nonNull (.named "Int"), default := some (.int 3) },
    { name := "c", pyName := "c", type := .named "Color", default := none } ]

/-- `scalar Any  enum Color { RED GREEN }  input Box {…}` as `build_schema` registers them: `Any` is a `default_scalar` -/
def reg : Reg := Reg.ofTypes
  [("Int", .int), ("String", .string), ("Any", .custom), ("Color", .enum [("RED", .str "RED"), ("GREEN", .str "GREEN")]),
   ("Box", .input boxFields)]

theorem get_any : reg.get? "Any" = some .custom := rfl
theorem get_box : reg.get? "Box" = some (.input boxFields) := rfl

private theorem get_input {n : String} {fs : List InField} (h : reg.get? n = some (.input fs)) : n = "Box" ∧ fs = boxFields := by
  simpa [reg, Reg.ofTypes] using mem_of_get? h

private theorem get_enum {n : String} {vs : List (String × PV)} (h : reg.get? n = some (.enum vs)) :
    vs = [("RED", .str "RED"), ("GREEN", .str "GREEN")] := by
  have := mem_of_get? h
  simp [reg, Reg.ofTypes] at this
  exact this.2

/-- the value the stand-in makes of the literal `"dflt"` (how `build_schema` computes the declared default) is `CustomOK` -/
theorem dflt_customOK : CustomOK reg "Any" (.str "dflt") := by
  refine .inr ⟨.str "dflt", [], rfl, (fun x h => by cases h), rfl, ?_⟩
  simp [reg, Reg.ofTypes, defaultScalarParseLiteral, untypedLiteral]

theorem typesOK : RegTypesOK reg := by
  refine ⟨?_, ?_, ?_, ?_⟩
  · intro n fs h f hf
    obtain ⟨_, rfl⟩ := get_input h
    simp [boxFields] at hf
    rcases hf with rfl | rfl | rfl | rfl | rfl <;> rfl
  · intro n fs h f hf d hd
    obtain ⟨_, rfl⟩ := get_input h
    simp [boxFields] at hf
    rcases hf with rfl | rfl | rfl | rfl | rfl <;> simp at hd <;> subst hd
    · exact .custom get_any dflt_customOK
    · exact .nonNull rfl (.int rfl (by decide))
  · intro n vs h p hp
    cases get_enum h
    simp at hp
    rcases hp with rfl | rfl <;> rfl
  · intro n fs h
    obtain ⟨_, rfl⟩ := get_input h
    decide +kernel

end StandIn

/-- Non-vacuity of every soundness theorem of C07. The registry of
    `scalar Any  enum Color {RED GREEN}  input Box {any: Any = "dflt", must: Any!, many: [Any!], n: Int! = 3, c: Color}`,
    with `Any` the stand-in scalar `build_schema` creates, satisfies `RegOK`. -/
theorem regOK_satisfiable_with_default_scalar : RegOK StandIn.reg :=
  (regOK_ofTypes_iff _).2 StandIn.typesOK

/-- … so `RegOK` and a custom scalar coexist (with the `CustomOK` of finding C07-F1 the negation was provable) -/
theorem regOK_with_custom_scalar_exists : ∃ ts n, (Reg.ofTypes ts).get? n = some .custom ∧ RegOK (Reg.ofTypes ts) :=
  ⟨_, "Any", StandIn.get_any, regOK_satisfiable_with_default_scalar⟩

end PyGql.Props.C07
