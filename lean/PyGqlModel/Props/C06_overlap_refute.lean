/-
  C06 - the statement `OverlapFullStatement` of `Props/C06_overlap.lean` (the equivalence WITHOUT the side conditions
  of `OverlapSide`) is FALSE on the model's document type: the code never compares a fragment named "" with another
  fragment (`if not f1 or not f2 or f1 == f2: return`), so
  `{ ...A ..."" } fragment A on Query { x: a } fragment "" on Query { x: b }` is accepted although the two fragments
  conflict. No PARSED document has a fragment named "" - this is a statement about the model's `Doc`, and the reason
  why `noEmptyName` is a side condition of the theorem that is proved.
-/
import PyGqlModel.Props.C06_overlap_examples
namespace PyGql.Props.C06
open PyGql PyGql.Validate PyGql.Validate.Spec

/-- `{ ...A ..."" } fragment A on Query { x: a } fragment "" on Query { x: n }` -/
def oDocEmpty (n : String) : Doc :=
  ⟨[opV [] 1 [sp "A", sp ""], fragQ "A" 2 [fld (some "x") "a"], fragQ "" 3 [fld (some "x") n]]⟩

theorem parentsAgree_empty (n : String) : Spec.ParentsAgree oSchema (oDocEmpty n) :=
  parentsAgree_two "" n (by decide)

theorem overlap_full_statement_refuted : ¬ OverlapFullStatement := by
  intro h
  have hg : ("" : String) ≠ "A" := by decide
  have hcl := (h oSchema Fixes.all (oDocEmpty "b") rfl (by unfold NoCrash; decide +kernel) (parentsAgree_empty "b")).mp
    (by unfold Silent; decide +kernel)
  have tA := two_getA "" "b" hg
  have tE := two_getG "" "b" hg
  exact hcl 1 _ (two_selSet_root "" "b") _ (two_admRoot "" "b" hg) "x" _ _
    (Or.inr ⟨"A", .spread (dirs := []) (List.mem_cons_self ..),
      .here tA (.frag tA) (.field (alias := some "x") (dirs := []) (List.mem_cons_self ..))⟩)
    (Or.inr ⟨"", .spread (dirs := []) (List.mem_cons_of_mem _ (List.mem_cons_self ..)),
      .here tE (.frag tE) (.field (alias := some "x") (dirs := []) (List.mem_cons_self ..))⟩)
    (.args (by decide) (Or.inl (by decide)))

end PyGql.Props.C06
