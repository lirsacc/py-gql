/-
  C19 — depth limiting flags exactly the operations deeper than the limit.

  LAYERS. Every `rule*` of the model is one state of `max_depth.py`: `ruleOrig` (unchanged), `rule` (C19-Q1), `ruleV` (Q1vars),
  `ruleR` (raw request variables), `ruleRT` (Q1vars2), `ruleB` (Q2: nesting budget, the recursive measure, hook `skipSelectionT`),
  `ruleF` (Q3: the frontier loop), `ruleM` (H3: one list per level), `ruleF3` / `ruleM3` (H4: the hook `skipSelectionT3`).
  `max_depth.py` of /repo is the merged loop with the hook of H4 (`Generated/DepthVariant`: levelMerged, separateDirectives),
  i.e. `ruleM3`; that is what Driver/C19.lean runs as the current rule. The theorems named `_final` are about `ruleB`:
  `no_raise_all`, `pipelineB_never_raises`, `ruleB_eq_expected`, `flags_iff_final`, `unbounded_only_if_invalid`,
  `measuredT_eq_depthK` here; `name_filter_final`, `pipeline_rejects_iff_final` (Props/C19_current.lean);
  `flags_iff_final_available`, `wrap_inline_final`, `wrap_spread_final`, `wrap_*_in_fragment_final(_derived)`
  (Props/C19_wrapfrag.lean, C19_wrapvalid.lean). The two loops are tied to `ruleB` on documents with unique, acyclic fragments
  (`ruleF_eq_ruleB`, `ruleM_eq_ruleB`); the hook of H4 is treated with the frontier loop (Props/C19_separate.lean).
  Everything stated about `rule` (after C19-Q1.patch), `ruleV` (after C19-Q1vars), `ruleR` (raw request variables), `ruleRT`
  (after C19-Q1vars2) and `depthFixed` concerns INTERMEDIATE patch states that /repo no longer contains: these theorems are the
  layers the final ones are built from (each says so in its doc comment). The model of the UNCHANGED rule (`ruleOrig`, through
  `selected_fields`) falsifies `flags_iff`, `no_raise` and `wrap_*_ge`: machine-checked witnesses in Props/C19_orig.lean (defect Q1).

  "valid document" is used through exactly two consequences of validity:
    * `acyclic doc.frags` — the decidable check that the computed fragment weights dominate
      the potential of every fragment body (NoFragmentCycles; compared with the real
      validator on every generated document);
    * `VarsBound`       — every variable used in an `@skip/@include` condition has a value
      (NoUndefinedVariables + coerced variables).
-/
import PyGqlModel.Lemmas.DepthCollect
import PyGqlModel.Lemmas.DepthAcyclic
import PyGqlModel.Lemmas.DepthTolerant
import PyGqlModel.Lemmas.DepthBudget

namespace PyGql.Props.C19
open PyGql.Depth PyGql.DepthSpec PyGql.Depth.Lemmas

def VarsBound (vars : Vars) (doc : Doc) : Prop :=
  (∀ op ∈ doc.ops, boundL vars op.sels = true) ∧ (∀ f ∈ doc.frags, boundL vars f.sels = true)

def Valid (doc : Doc) (vars : Vars) : Prop := acyclic doc.frags = true ∧ VarsBound vars doc

abbrev wt (doc : Doc) : String → Nat := wOf (weights doc.frags)

theorem acyclic_consistent (frags : List Frag) (h : acyclic frags = true) :
    Consistent frags (wOf (weights frags)) := by
  intro f hf
  simp only [acyclic, List.all_eq_true, decide_eq_true_eq] at h
  exact h f hf

theorem fuel_ok (doc : Doc) (op : Op) (h : op ∈ doc.ops) : potL (wt doc) op.sels + 1 ≤ doc.fuel := by
  unfold Doc.fuel
  have : potL (wt doc) op.sels ∈ doc.ops.map (fun op => potL (wOf (weights doc.frags)) op.sels) :=
    List.mem_map_of_mem (f := fun op => potL (wOf (weights doc.frags)) op.sels) h
  have := le_maxList' this
  omega

private theorem depthFixed_eq (frags : List Frag) (vars : Vars) (w : String → Nat) (hc : Consistent frags w)
    (hfb : ∀ f ∈ frags, boundL vars f.sels = true) (op : Op) (hb : boundL vars op.sels = true)
    (fuel : Nat) (hfuel : potL w op.sels + 1 ≤ fuel) :
    depthFixed fuel op frags vars = .ok (cL frags vars w op.sels - 1) := by
  obtain ⟨K, rfl⟩ : ∃ K, fuel = K + 1 := ⟨fuel - 1, by omega⟩
  simp only [depthFixed, nestingLevels_ok frags vars w hc hfb K op.sels (by omega) hb]

/-- On acyclic documents every fuel ≥ `doc.fuel` ("fragments + nesting + 1") gives the same depth:
    the specification is well defined. -/
theorem depth_fuel_irrelevant (doc : Doc) (vars : Vars) (op : Op) (ha : acyclic doc.frags = true)
    (hop : op ∈ doc.ops) (k : Nat) (hk : doc.fuel ≤ k) :
    depthWith k doc vars op = depth doc vars op := by
  have hc := acyclic_consistent doc.frags ha
  have hf := fuel_ok doc op hop
  unfold depth depthWith
  rw [levels_eq_cL doc.frags vars (wt doc) hc k op.sels (by omega),
      levels_eq_cL doc.frags vars (wt doc) hc doc.fuel op.sels (by omega)]

theorem depth_eq_cL (doc : Doc) (vars : Vars) (op : Op) (ha : acyclic doc.frags = true)
    (hop : op ∈ doc.ops) : depth doc vars op = cL doc.frags vars (wt doc) op.sels - 1 := by
  have hc := acyclic_consistent doc.frags ha
  have hf := fuel_ok doc op hop
  unfold depth depthWith
  rw [levels_eq_cL doc.frags vars (wt doc) hc doc.fuel op.sels (by omega)]

/-- **measured = specified**, per operation: only this operation's selections (and the fragments) need bound variables -/
theorem measured_eq_depth_op (doc : Doc) (vars : Vars) (ha : acyclic doc.frags = true)
    (hfb : ∀ f ∈ doc.frags, boundL vars f.sels = true) (op : Op) (hop : op ∈ doc.ops)
    (hb : boundL vars op.sels = true) (fuel : Nat) (hfuel : doc.fuel ≤ fuel) :
    depthFixed fuel op doc.frags vars = .ok (depth doc vars op) := by
  have hc := acyclic_consistent doc.frags ha
  have hf := fuel_ok doc op hop
  rw [depth_eq_cL doc vars op ha hop]
  exact depthFixed_eq doc.frags vars (wt doc) hc hfb op hb fuel (by omega)

/-- **measured = specified**: the fixed rule measures exactly the specified depth of every operation
    of a valid document, with the driver's fuel and with any larger one. -/
theorem measured_eq_depth (doc : Doc) (vars : Vars) (hv : Valid doc vars) (op : Op) (hop : op ∈ doc.ops)
    (fuel : Nat) (hfuel : doc.fuel ≤ fuel) :
    depthFixed fuel op doc.frags vars = .ok (depth doc vars op) :=
  measured_eq_depth_op doc vars hv.1 hv.2.2 op hop (hv.2.1 op hop) fuel hfuel

theorem measured_of_levels (doc doc' : Doc) (vars : Vars) (hv : Valid doc vars) (ha' : acyclic doc'.frags = true)
    (hfb' : ∀ f ∈ doc'.frags, boundL vars f.sels = true) (op op' : Op) (hop : op ∈ doc.ops) (hop' : op' ∈ doc'.ops)
    (hb' : boundL vars op'.sels = true)
    (hcl : cL doc'.frags vars (wt doc') op'.sels = cL doc.frags vars (wt doc) op.sels) :
    ∃ d d', depthFixed doc.fuel op doc.frags vars = .ok d ∧ depthFixed doc'.fuel op' doc'.frags vars = .ok d' ∧
      d ≤ d' ∧ d' = depth doc vars op ∧ d' = depth doc' vars op' := by
  have e : depth doc' vars op' = depth doc vars op := by
    rw [depth_eq_cL doc vars op hv.1 hop, depth_eq_cL doc' vars op' ha' hop', hcl]
  exact ⟨_, _, measured_eq_depth doc vars hv op hop doc.fuel (Nat.le_refl _),
    measured_eq_depth_op doc' vars ha' hfb' op' hop' hb' doc'.fuel (Nat.le_refl _), Nat.le_of_eq e.symm, e, rfl⟩

/-- the errors the rule must report, as a pure function of the per-operation depths -/
def expected (D : Nat → Op → Nat) (limit : Nat) (filter : Option String) : Nat → List Op → List (Nat × Nat)
  | _, [] => []
  | i, op :: rest =>
    if opSelected filter op && decide (D i op > limit) then (i, D i op) :: expected D limit filter (i + 1) rest
    else expected D limit filter (i + 1) rest

private theorem ruleLoop_eq (depthOf : Nat → Op → Except Err Nat) (D : Nat → Op → Nat) (limit : Nat) (filter : Option String) :
    ∀ (ops : List Op) (i : Nat), (∀ j op, ops[j]? = some op → depthOf (i + j) op = .ok (D (i + j) op)) →
      ruleLoop depthOf limit filter i ops = .ok (expected D limit filter i ops) := by
  intro ops
  induction ops with
  | nil => intro i _; rfl
  | cons op rest ih =>
    intro i h
    have h1 : depthOf i op = .ok (D i op) := h 0 op rfl
    have h2 := ih (i + 1) (fun j o ho => by
      have := h (j + 1) o ho
      rwa [← Nat.add_assoc, Nat.add_right_comm] at this)
    simp only [ruleLoop, expected, h1, h2]
    cases opSelected filter op with
    | false => rfl
    | true => simp

/-- the entry the rule reports for the operation `p.1` at position `p.2`, if any -/
private def flag (D : Nat → Op → Nat) (limit : Nat) (filter : Option String) (p : Op × Nat) : Option (Nat × Nat) :=
  if opSelected filter p.1 && decide (D p.2 p.1 > limit) then some (p.2, D p.2 p.1) else none

private theorem expected_eq_filterMap (D : Nat → Op → Nat) (limit : Nat) (filter : Option String) :
    ∀ (ops : List Op) (i : Nat), expected D limit filter i ops = (ops.zipIdx i).filterMap (flag D limit filter) := by
  intro ops
  induction ops with
  | nil => intro i; rfl
  | cons op rest ih =>
    intro i
    rw [expected, List.zipIdx_cons, List.filterMap_cons, ih, flag]
    cases opSelected filter op && decide (D i op > limit) <;> rfl

private theorem flag_eq_some {D : Nat → Op → Nat} {limit : Nat} {filter : Option String} {op : Op} {i j d : Nat} :
    flag D limit filter (op, i) = some (j, d) ↔ j = i ∧ opSelected filter op = true ∧ D j op > limit ∧ d = D j op := by
  unfold flag
  split
  · rename_i h
    rw [Bool.and_eq_true, decide_eq_true_eq] at h
    simp only [Option.some.injEq, Prod.mk.injEq]
    exact ⟨fun ⟨h1, h2⟩ => by subst h1; exact ⟨rfl, h.1, h.2, h2.symm⟩, fun ⟨h1, _, _, h2⟩ => by subst h1; exact ⟨rfl, h2.symm⟩⟩
  · rename_i h
    rw [Bool.and_eq_true, decide_eq_true_eq] at h
    exact ⟨fun h' => (nomatch h'), fun ⟨h1, h2, h3, _⟩ => absurd (h1 ▸ ⟨h2, h3⟩) h⟩

theorem mem_expected (D : Nat → Op → Nat) (limit : Nat) (filter : Option String) :
    ∀ (ops : List Op) (i0 j d : Nat), (j, d) ∈ expected D limit filter i0 ops ↔
      ∃ op, i0 ≤ j ∧ ops[j - i0]? = some op ∧ opSelected filter op = true ∧ D j op > limit ∧ d = D j op := by
  intro ops i0 j d
  rw [expected_eq_filterMap, List.mem_filterMap]
  constructor
  · rintro ⟨⟨op, i⟩, hm, hf⟩
    obtain ⟨rfl, r⟩ := flag_eq_some.mp hf
    have ⟨h1, h2⟩ := List.mem_zipIdx_iff_le_and_getElem?_sub.mp hm
    exact ⟨op, h1, h2, r⟩
  · rintro ⟨op, h1, h2, r⟩
    exact ⟨(op, j), List.mem_zipIdx_iff_le_and_getElem?_sub.mpr ⟨h1, h2⟩, flag_eq_some.mpr ⟨rfl, r⟩⟩

theorem mem_expected_iff (D : Nat → Op → Nat) (limit : Nat) (filter : Option String) (ops : List Op)
    (i : Nat) (op : Op) (hi : ops[i]? = some op) :
    ((∃ d, (i, d) ∈ expected D limit filter 0 ops) ↔ (opSelected filter op = true ∧ D i op > limit)) ∧
    (∀ d, (i, d) ∈ expected D limit filter 0 ops → d = D i op) := by
  have hm : ∀ d, (i, d) ∈ expected D limit filter 0 ops ↔
      (opSelected filter op = true ∧ D i op > limit ∧ d = D i op) := by
    intro d
    rw [mem_expected]
    exact ⟨fun ⟨o, _, ho, r⟩ => by rw [Nat.sub_zero, hi] at ho; cases ho; exact r, fun r => ⟨op, Nat.zero_le _, hi, r⟩⟩
  exact ⟨⟨fun ⟨d, hd⟩ => ⟨((hm d).mp hd).1, ((hm d).mp hd).2.1⟩, fun ⟨h3, h4⟩ => ⟨_, (hm _).mpr ⟨h3, h4, rfl⟩⟩⟩,
    fun d hd => ((hm d).mp hd).2.2⟩

/-- SUPERSEDED VARIANT: about `rule`, the model of an intermediate patch state /repo no longer contains; for `ruleB` see `ruleB_eq_expected`. -/
theorem rule_eq_expected (doc : Doc) (vars : Vars) (hv : Valid doc vars) (limit : Nat) (filter : Option String)
    (fuel : Nat) (hfuel : doc.fuel ≤ fuel) :
    rule fuel limit filter doc vars = .ok (expected (fun _ => depth doc vars) limit filter 0 doc.ops) := by
  unfold rule
  exact ruleLoop_eq _ (fun _ => depth doc vars) limit filter doc.ops 0
    (fun j op hop => measured_eq_depth doc vars hv op (List.mem_of_getElem? hop) fuel hfuel)

/-! ### after C19-Q1vars.patch: variables coerced per operation (`ruleV`) -/

/-- validity as `ruleV` needs it: for every operation, the variables IT sees (coerced with its own
    definitions and defaults; raw if they do not coerce) bind the directive variables -/
def ValidV (doc : Doc) (defs : List (List VarDef)) (vars : Vars) : Prop :=
  acyclic doc.frags = true ∧ ∀ i op, doc.ops[i]? = some op →
    boundL (effectiveVars (defs.getD i []) vars) op.sels = true ∧
    ∀ f ∈ doc.frags, boundL (effectiveVars (defs.getD i []) vars) f.sels = true

/-- specified depth of the i-th operation under the variables execution would give it -/
def depthV (doc : Doc) (defs : List (List VarDef)) (vars : Vars) (i : Nat) (op : Op) : Nat :=
  depth doc (effectiveVars (defs.getD i []) vars) op

/-- SUPERSEDED VARIANT: about `ruleV`, the model of an intermediate patch state /repo no longer contains; for `ruleB` see `ruleB_eq_expected`. -/
theorem ruleV_eq_expected (doc : Doc) (defs : List (List VarDef)) (vars : Vars) (hv : ValidV doc defs vars)
    (limit : Nat) (filter : Option String) (fuel : Nat) (hfuel : doc.fuel ≤ fuel) :
    ruleV fuel limit filter doc defs vars = .ok (expected (depthV doc defs vars) limit filter 0 doc.ops) := by
  unfold ruleV
  apply ruleLoop_eq _ (depthV doc defs vars) limit filter doc.ops 0
  intro j op hop
  simp only [Nat.zero_add]
  have h := hv.2 j op hop
  exact measured_eq_depth_op doc _ hv.1 h.2 op (List.mem_of_getElem? hop) h.1 fuel hfuel

/-- `flags_iff` for the rule that coerces the request variables per operation:
    reported ⇔ selected by the filter and deeper than the limit under the operation's coerced variables
    (declared defaults applied); nothing raised.
    SUPERSEDED VARIANT: about `ruleV`, the model of an intermediate patch state /repo no longer contains; for `ruleB` see `flags_iff_final`. -/
theorem flags_iff_v (doc : Doc) (defs : List (List VarDef)) (vars : Vars) (hv : ValidV doc defs vars)
    (limit : Nat) (filter : Option String) :
    ∃ errs, ruleV doc.fuel limit filter doc defs vars = .ok errs ∧
      ∀ (i : Nat) (op : Op), doc.ops[i]? = some op →
        ((∃ d, (i, d) ∈ errs) ↔ (opSelected filter op = true ∧ depthV doc defs vars i op > limit)) := by
  exact ⟨_, ruleV_eq_expected doc defs vars hv limit filter doc.fuel (Nat.le_refl _),
    fun i op hi => (mem_expected_iff _ limit filter doc.ops i op hi).1⟩

/-- total on every valid request, defaulted variables that are omitted included
    SUPERSEDED VARIANT: about `ruleV`, the model of an intermediate patch state /repo no longer contains; for `ruleB` see `no_raise_all`. -/
theorem no_raise_v (doc : Doc) (defs : List (List VarDef)) (vars : Vars) (hv : ValidV doc defs vars)
    (limit : Nat) (filter : Option String) :
    ∃ errs, ruleV doc.fuel limit filter doc defs vars = .ok errs :=
  ⟨_, ruleV_eq_expected doc defs vars hv limit filter doc.fuel (Nat.le_refl _)⟩

/-- UniqueFragmentNames + NoFragmentCycles (a rank decreasing along spreads of defined fragments) +
    NoUndefinedVariables/coercion (every directive variable has a value). No computed check, no fuel. -/
def ValidDecl (doc : Doc) (vars : Vars) : Prop :=
  UniqueNames doc.frags ∧ Acyclic doc.frags ∧ VarsBound vars doc

theorem valid_of_decl {doc : Doc} {vars : Vars} (h : ValidDecl doc vars) : Valid doc vars :=
  ⟨acyclic_complete doc.frags h.1 h.2.1, h.2.2⟩

theorem valid_iff_decl (doc : Doc) (vars : Vars) (hu : UniqueNames doc.frags) : Valid doc vars ↔ ValidDecl doc vars :=
  ⟨fun h => ⟨hu, acyclic_sound doc.frags h.1, h.2⟩, valid_of_decl⟩

def ValidDeclV (doc : Doc) (defs : List (List VarDef)) (vars : Vars) : Prop :=
  UniqueNames doc.frags ∧ Acyclic doc.frags ∧ ∀ i op, doc.ops[i]? = some op →
    boundL (effectiveVars (defs.getD i []) vars) op.sels = true ∧
    ∀ f ∈ doc.frags, boundL (effectiveVars (defs.getD i []) vars) f.sels = true

theorem validV_of_decl {doc : Doc} {defs : List (List VarDef)} {vars : Vars} (h : ValidDeclV doc defs vars) :
    ValidV doc defs vars :=
  ⟨acyclic_complete doc.frags h.1 h.2.1, h.2.2⟩

private theorem expected_eq_nil (D : Nat → Op → Nat) (n : Nat) (filter : Option String) (ops : List Op) :
    expected D n filter 0 ops = [] ↔ ∀ i op, ops[i]? = some op → opSelected filter op = true → D i op ≤ n := by
  rw [List.eq_nil_iff_forall_not_mem]
  constructor
  · intro h i op hi hs
    exact Nat.le_of_not_gt fun hd => h (i, D i op) ((mem_expected D n filter ops 0 i _).mpr ⟨op, Nat.zero_le _, hi, hs, hd, rfl⟩)
  · rintro h ⟨j, d⟩ hm
    obtain ⟨op, _, h2, h3, h4, _⟩ := (mem_expected D n filter ops 0 j d).mp hm
    exact Nat.not_le_of_gt h4 (h j op h2 h3)

private theorem depthRejected_ok (errs : List (Nat × Nat)) (k : Nat) :
    (outcomeOf (.ok errs) k).depthRejected = true ↔ errs ≠ [] := by
  cases errs with
  | nil => simp only [outcomeOf]; split <;> simp [Outcome.depthRejected]
  | cons x xs => simp [outcomeOf, Outcome.depthRejected]

theorem outcome_generic (ops : List Op) (D : Nat → Op → Nat) (n : Nat) (filter : Option String)
    (r : Except Err (List (Nat × Nat))) (he : r = .ok (expected D n filter 0 ops)) (defaultErrors : Nat) :
    (∀ e, outcomeOf r defaultErrors ≠ .raised e) ∧
    ((outcomeOf r defaultErrors).depthRejected = true ↔
      ∃ i op, ops[i]? = some op ∧ opSelected filter op = true ∧ D i op > n) ∧
    (outcomeOf r defaultErrors = .executed ↔
      defaultErrors = 0 ∧ ∀ i op, ops[i]? = some op → opSelected filter op = true → D i op ≤ n) := by
  subst he
  have hempty := expected_eq_nil D n filter ops
  refine ⟨fun e => ?_, ?_, ?_⟩
  · simp only [outcomeOf]
    split <;> exact fun h => nomatch h
  · rw [depthRejected_ok, ne_eq, hempty]
    constructor
    · intro h
      apply Classical.byContradiction
      intro hex
      exact h fun i op hi hs => Nat.le_of_not_gt fun hd => hex ⟨i, op, hi, hs, hd⟩
    · rintro ⟨i, op, hi, hs, hd⟩ h
      exact Nat.not_le_of_gt hd (h i op hi hs)
  · rw [← hempty]
    simp only [outcomeOf]
    split
    · rename_i hc; exact ⟨fun _ => hc, fun _ => rfl⟩
    · rename_i hc; exact ⟨fun h => (nomatch h), fun h => absurd h hc⟩

/-- `graphql_blocking(schema, doc, variables, validators=[default_validator,
    MaxDepthValidationRule(n, operation_name=filter)])` on a validated request: nothing is raised, and the
    request is rejected with a depth error IFF some operation selected by the filter has a specified depth,
    under ITS coerced variables, greater than `n` — for every `n ≥ 0` (0 included), every filter, whatever
    the default validator reports.
    SUPERSEDED VARIANT: about `ruleV (pipeline)`, the model of an intermediate patch state /repo no longer contains; for `ruleB` see `pipeline_rejects_iff_final`. -/
theorem pipeline_rejects_iff (doc : Doc) (defs : List (List VarDef)) (vars : Vars) (hv : ValidDeclV doc defs vars)
    (n : Nat) (filter : Option String) (defaultErrors : Nat) :
    (∀ e, pipeline doc.fuel n filter doc defs vars defaultErrors ≠ .raised e) ∧
    ((pipeline doc.fuel n filter doc defs vars defaultErrors).depthRejected = true ↔
      ∃ i op, doc.ops[i]? = some op ∧ opSelected filter op = true ∧ depthV doc defs vars i op > n) ∧
    (pipeline doc.fuel n filter doc defs vars defaultErrors = .executed ↔
      defaultErrors = 0 ∧ ∀ i op, doc.ops[i]? = some op → opSelected filter op = true → depthV doc defs vars i op ≤ n) :=
  outcome_generic doc.ops (depthV doc defs vars) n filter _
    (ruleV_eq_expected doc defs vars (validV_of_decl hv) n filter doc.fuel (Nat.le_refl _)) defaultErrors

/-! ### arbitrary JSON request variables — including requests whose variables do NOT coerce -/

/-- what `ruleR` needs: for every operation, the view of the variables the rule evaluates its directives with
    (the coerced ones, or the RAW request variables when they do not coerce for that operation) makes every
    directive variable available -/
def ValidDeclR (doc : Doc) (defs : List (List VarDefR)) (raw : RawVars) : Prop :=
  UniqueNames doc.frags ∧ Acyclic doc.frags ∧ ∀ i op, doc.ops[i]? = some op →
    boundL (effectiveVarsR (defs.getD i []) raw) op.sels = true ∧
    ∀ f ∈ doc.frags, boundL (effectiveVarsR (defs.getD i []) raw) f.sels = true

/-- specified depth of the i-th operation under the variables the rule evaluates it with -/
def depthR (doc : Doc) (defs : List (List VarDefR)) (raw : RawVars) (i : Nat) (op : Op) : Nat :=
  depth doc (effectiveVarsR (defs.getD i []) raw) op

/-- SUPERSEDED VARIANT: about `ruleR`, the model of an intermediate patch state /repo no longer contains; for `ruleB` see `ruleB_eq_expected`. -/
theorem ruleR_eq_expected (doc : Doc) (defs : List (List VarDefR)) (raw : RawVars) (hv : ValidDeclR doc defs raw)
    (limit : Nat) (filter : Option String) (fuel : Nat) (hfuel : doc.fuel ≤ fuel) :
    ruleR fuel limit filter doc defs raw = .ok (expected (depthR doc defs raw) limit filter 0 doc.ops) := by
  unfold ruleR
  apply ruleLoop_eq _ (depthR doc defs raw) limit filter doc.ops 0
  intro j op hop
  simp only [Nat.zero_add]
  have h := hv.2.2 j op hop
  exact measured_eq_depth_op doc _ (acyclic_complete doc.frags hv.1 hv.2.1) h.2 op (List.mem_of_getElem? hop) h.1 fuel hfuel

/-- arbitrary JSON request variables, coercible for some operations and not for others:
    nothing raised, and the i-th operation is reported iff it is selected and deeper than the limit under the
    variables the rule evaluates it with.
    SUPERSEDED VARIANT: about `ruleR`, the model of an intermediate patch state /repo no longer contains; for `ruleB` see `flags_iff_final_available`. -/
theorem flags_iff_raw (doc : Doc) (defs : List (List VarDefR)) (raw : RawVars) (hv : ValidDeclR doc defs raw)
    (limit : Nat) (filter : Option String) :
    ∃ errs, ruleR doc.fuel limit filter doc defs raw = .ok errs ∧
      ∀ (i : Nat) (op : Op), doc.ops[i]? = some op →
        ((∃ d, (i, d) ∈ errs) ↔ (opSelected filter op = true ∧ depthR doc defs raw i op > limit)) := by
  exact ⟨_, ruleR_eq_expected doc defs raw hv limit filter doc.fuel (Nat.le_refl _),
    fun i op hi => (mem_expected_iff _ limit filter doc.ops i op hi).1⟩

/-- an operation whose variables do NOT coerce
    (`coerce_variable_values` raises) is still measured — with the RAW request variables (by truthiness) — and is
    reported iff selected and deeper than the limit under them. It is never skipped.
    SUPERSEDED VARIANT: about `ruleR`, the model of an intermediate patch state /repo no longer contains; for `ruleB` see `flags_iff_final`. -/
theorem flags_uncoercible (doc : Doc) (defs : List (List VarDefR)) (raw : RawVars) (hv : ValidDeclR doc defs raw)
    (limit : Nat) (filter : Option String) (i : Nat) (op : Op) (hi : doc.ops[i]? = some op)
    (hfail : coerceRaw (defs.getD i []) raw = none) :
    ∃ errs, ruleR doc.fuel limit filter doc defs raw = .ok errs ∧
      ((∃ d, (i, d) ∈ errs) ↔ (opSelected filter op = true ∧ depth doc (viewOf raw) op > limit)) := by
  obtain ⟨errs, he, h⟩ := flags_iff_raw doc defs raw hv limit filter
  refine ⟨errs, he, ?_⟩
  have hd : depthR doc defs raw i op = depth doc (viewOf raw) op := by
    unfold depthR effectiveVarsR
    rw [hfail]
    rfl
  rw [h i op hi, hd]

/-- `pipeline_rejects_iff` for arbitrary JSON request variables (requests whose
    variables do not coerce for some or all operations included): nothing raised; rejected with a depth error iff a
    selected operation is too deep under the variables the rule evaluates it with.
    SUPERSEDED VARIANT: about `ruleR (pipelineR)`, the model of an intermediate patch state /repo no longer contains; for `ruleB` see `pipeline_rejects_iff_final`. -/
theorem pipeline_rejects_iff_raw (doc : Doc) (defs : List (List VarDefR)) (raw : RawVars) (hv : ValidDeclR doc defs raw)
    (n : Nat) (filter : Option String) (defaultErrors : Nat) :
    (∀ e, pipelineR doc.fuel n filter doc defs raw defaultErrors ≠ .raised e) ∧
    ((pipelineR doc.fuel n filter doc defs raw defaultErrors).depthRejected = true ↔
      ∃ i op, doc.ops[i]? = some op ∧ opSelected filter op = true ∧ depthR doc defs raw i op > n) ∧
    (pipelineR doc.fuel n filter doc defs raw defaultErrors = .executed ↔
      defaultErrors = 0 ∧ ∀ i op, doc.ops[i]? = some op → opSelected filter op = true → depthR doc defs raw i op ≤ n) :=
  outcome_generic doc.ops (depthR doc defs raw) n filter _
    (ruleR_eq_expected doc defs raw hv n filter doc.fuel (Nat.le_refl _)) defaultErrors

/-- an error is reported for the operation at index `i` exactly when it is selected
    by the `operation_name` filter and its specified depth exceeds the limit; the reported number
    is that depth; nothing is raised. (With `filter = none` every operation is selected.)
    SUPERSEDED VARIANT: about `rule`, the model of an intermediate patch state /repo no longer contains; for `ruleB` see `flags_iff_final / flags_iff_final_frontier`. -/
theorem flags_iff (doc : Doc) (vars : Vars) (hv : Valid doc vars) (limit : Nat) (filter : Option String) :
    ∃ errs, rule doc.fuel limit filter doc vars = .ok errs ∧
      ∀ (i : Nat) (op : Op), doc.ops[i]? = some op →
        ((∃ d, (i, d) ∈ errs) ↔ (opSelected filter op = true ∧ depth doc vars op > limit)) ∧
        (∀ d, (i, d) ∈ errs → d = depth doc vars op) := by
  exact ⟨_, rule_eq_expected doc vars hv limit filter doc.fuel (Nat.le_refl _), mem_expected_iff _ limit filter doc.ops⟩

/-- the rule is total on every valid document (flat operations, operations that are
    empty after `@skip/@include`, top-level fragments included), for every limit and filter.
    SUPERSEDED VARIANT: about `rule`, the model of an intermediate patch state /repo no longer contains; for `ruleB` see `no_raise_all / ruleF_never_raises`. -/
theorem no_raise (doc : Doc) (vars : Vars) (hv : Valid doc vars) (limit : Nat) (filter : Option String) :
    ∃ errs, rule doc.fuel limit filter doc vars = .ok errs :=
  ⟨_, rule_eq_expected doc vars hv limit filter doc.fuel (Nat.le_refl _)⟩

/-- with `operation_name = n` (non-empty) only operations named `n` are ever
    reported, and an operation named `n` is reported iff it is too deep.
    SUPERSEDED VARIANT: about `rule`, the model of an intermediate patch state /repo no longer contains; for `ruleB` see `name_filter_final`. -/
theorem name_filter (doc : Doc) (vars : Vars) (hv : Valid doc vars) (limit : Nat) (n : String) (hn : n ≠ "") :
    ∃ errs, rule doc.fuel limit (some n) doc vars = .ok errs ∧
      ∀ (i : Nat) (op : Op), doc.ops[i]? = some op →
        ((∃ d, (i, d) ∈ errs) ↔ (op.name = some n ∧ depth doc vars op > limit)) := by
  obtain ⟨errs, he, h⟩ := flags_iff doc vars hv limit (some n)
  refine ⟨errs, he, ?_⟩
  intro i op hi
  rw [(h i op hi).1]
  simp [opSelected, hn]

/-- the filter `none` (and `""`, which Python treats as falsy) selects every operation -/
theorem no_filter_selects_all (op : Op) : opSelected none op = true ∧ opSelected (some "") op = true := by
  simp [opSelected]

/-- `flags_iff` / `no_raise` with the declarative hypothesis only
    SUPERSEDED VARIANT: about `rule`, the model of an intermediate patch state /repo no longer contains; for `ruleB` see `flags_iff_final`. -/
theorem flags_iff_validated (doc : Doc) (vars : Vars) (hv : ValidDecl doc vars) (limit : Nat) (filter : Option String) :
    ∃ errs, rule doc.fuel limit filter doc vars = .ok errs ∧
      ∀ (i : Nat) (op : Op), doc.ops[i]? = some op →
        ((∃ d, (i, d) ∈ errs) ↔ (opSelected filter op = true ∧ depth doc vars op > limit)) := by
  obtain ⟨errs, he, h⟩ := flags_iff doc vars (valid_of_decl hv) limit filter
  exact ⟨errs, he, fun i op hi => (h i op hi).1⟩

/-- SUPERSEDED VARIANT: about `ruleV`, the model of an intermediate patch state /repo no longer contains; for `ruleB` see `flags_iff_final`. -/
theorem flags_iff_v_validated (doc : Doc) (defs : List (List VarDef)) (vars : Vars) (hv : ValidDeclV doc defs vars)
    (limit : Nat) (filter : Option String) :
    ∃ errs, ruleV doc.fuel limit filter doc defs vars = .ok errs ∧
      ∀ (i : Nat) (op : Op), doc.ops[i]? = some op →
        ((∃ d, (i, d) ∈ errs) ↔ (opSelected filter op = true ∧ depthV doc defs vars i op > limit)) :=
  flags_iff_v doc defs vars (validV_of_decl hv) limit filter

/-! ### after C19-Q1vars2.patch: conditions that cannot be evaluated keep the selection (`ruleRT`)

  No availability hypothesis any more: the rule never raises, for ANY JSON request variables. The depth it
  measures is the specified depth of the document in which every `@skip/@include` that cannot be evaluated
  with the operation's variables is dropped (`eraseDoc`): an upper bound over the unknown condition. -/

/-- specified depth under the kept-when-unknown reading of `@skip/@include` for the variable view `v` -/
def depthK (doc : Doc) (v : Vars) (op : Op) : Nat := depth (eraseDoc v doc) v (eraseOp v op)

/-- … of the i-th operation, for the variables the rule evaluates it with -/
def depthRK (doc : Doc) (defs : List (List VarDefR)) (raw : RawVars) (i : Nat) (op : Op) : Nat :=
  depthK doc (effectiveVarsR (defs.getD i []) raw) op

/-! A lenient hook `skipA` is the strict `_skip_selection` after a directive map `e` that leaves only evaluable
    directives (Lemmas/DepthTolerant.lean): it measures the specified depth of the rewritten document. -/
section
variable {L : List Sel → List Sel} {e : Dirs → Dirs} (hL : L = mapDirsL e) {v : Vars}
  (he : ∀ d, dirsBound v (e d) = true)
include hL he

theorem varsBound_map (doc : Doc) : VarsBound v (mapDoc L doc) := by
  have hb : ∀ l, boundL v (L l) = true := by subst hL; exact boundL_mapDirs he
  constructor
  · intro op hop
    obtain ⟨o, _, rfl⟩ := List.mem_map.mp hop
    exact hb o.sels
  · intro f hf
    obtain ⟨g, _, rfl⟩ := List.mem_map.mp hf
    exact hb g.sels

theorem valid_map (doc : Doc) (hu : UniqueNames doc.frags) (ha : Acyclic doc.frags) : Valid (mapDoc L doc) v :=
  ⟨(acyclic_map hL doc.frags).trans (acyclic_complete doc.frags hu ha), varsBound_map hL he doc⟩

/-- what the strict loops need of the rewritten document, for a budget that covers the fuel of the original:
    consistent weights, bound variables, and the potential of the operation below the budget -/
theorem map_env (doc : Doc) (hu : UniqueNames doc.frags) (ha : Acyclic doc.frags) (op : Op) (hop : op ∈ doc.ops)
    (fuel : Nat) (hfuel : doc.fuel ≤ fuel) :
    ∃ K, fuel = K + 1 ∧ Consistent (mapFrags L doc.frags) (wOf (weights (mapFrags L doc.frags))) ∧
      (∀ f ∈ mapFrags L doc.frags, boundL v f.sels = true) ∧
      potL (wOf (weights (mapFrags L doc.frags))) (L op.sels) ≤ K ∧ boundL v (L op.sels) = true := by
  have hv := valid_map hL he doc hu ha
  have hop' : mapOp L op ∈ (mapDoc L doc).ops := List.mem_map_of_mem hop
  have hpot := fuel_ok (mapDoc L doc) (mapOp L op) hop'
  rw [fuel_map hL] at hpot
  cases fuel with
  | zero => exact absurd (Nat.le_trans hpot hfuel) (Nat.not_succ_le_zero _)
  | succ K =>
    exact ⟨K, rfl, acyclic_consistent _ hv.1, hv.2.2, Nat.le_of_succ_le_succ (Nat.le_trans hpot hfuel), hv.2.1 _ hop'⟩

theorem measuredG_map {skipA : Dirs → Vars → Except Err Bool} (hsk : ∀ d, skipA d v = skipSelection (e d) v)
    (doc : Doc) (hu : UniqueNames doc.frags) (ha : Acyclic doc.frags) (op : Op) (hop : op ∈ doc.ops)
    (fuel : Nat) (hfuel : doc.fuel ≤ fuel) :
    depthFixedG skipA fuel op doc.frags v = .ok (depth (mapDoc L doc) v (mapOp L op)) := by
  have hm := measured_eq_depth (mapDoc L doc) v (valid_map hL he doc hu ha) (mapOp L op)
    (List.mem_map_of_mem hop) fuel (by rw [fuel_map hL]; exact hfuel)
  unfold depthFixed at hm
  unfold depthFixedG
  rw [← nestingLevels_mapDirs hL hsk doc.frags fuel op.sels]
  exact hm

end

theorem measuredT_eq_depthK (doc : Doc) (hu : UniqueNames doc.frags) (ha : Acyclic doc.frags) (v : Vars)
    (op : Op) (hop : op ∈ doc.ops) (fuel : Nat) (hfuel : doc.fuel ≤ fuel) :
    depthFixedG skipSelectionT fuel op doc.frags v = .ok (depthK doc v op) :=
  measuredG_map (eraseL_mapDirs v) (dirsBound_erase v) (skipT_eq v) doc hu ha op hop fuel hfuel

/-- SUPERSEDED VARIANT: about `ruleRT`, the model of an intermediate patch state /repo no longer contains; for `ruleB` see `ruleB_eq_expected`. -/
theorem ruleRT_eq_expected (doc : Doc) (defs : List (List VarDefR)) (raw : RawVars)
    (hu : UniqueNames doc.frags) (ha : Acyclic doc.frags)
    (limit : Nat) (filter : Option String) (fuel : Nat) (hfuel : doc.fuel ≤ fuel) :
    ruleRT fuel limit filter doc defs raw = .ok (expected (depthRK doc defs raw) limit filter 0 doc.ops) := by
  unfold ruleRT
  apply ruleLoop_eq _ (depthRK doc defs raw) limit filter doc.ops 0
  intro j op hop
  simp only [Nat.zero_add]
  exact measuredT_eq_depthK doc hu ha _ op (List.mem_of_getElem? hop) fuel hfuel

/-- the repaired rule never raises: for every document with unique, acyclic fragments
    (what validation guarantees), EVERY JSON request variables, every limit and filter. No hypothesis on the
    variables at all.
    SUPERSEDED VARIANT: about `ruleRT`, the model of an intermediate patch state /repo no longer contains; for `ruleB` see `no_raise_all`. -/
theorem no_raise_repaired (doc : Doc) (defs : List (List VarDefR)) (raw : RawVars)
    (hu : UniqueNames doc.frags) (ha : Acyclic doc.frags) (limit : Nat) (filter : Option String) :
    ∃ errs, ruleRT doc.fuel limit filter doc defs raw = .ok errs :=
  ⟨_, ruleRT_eq_expected doc defs raw hu ha limit filter doc.fuel (Nat.le_refl _)⟩

/-- reported ⇔ selected and deeper than the limit under the kept-when-unknown reading
    SUPERSEDED VARIANT: about `ruleRT`, the model of an intermediate patch state /repo no longer contains; for `ruleB` see `flags_iff_final`. -/
theorem flags_iff_repaired (doc : Doc) (defs : List (List VarDefR)) (raw : RawVars)
    (hu : UniqueNames doc.frags) (ha : Acyclic doc.frags) (limit : Nat) (filter : Option String) :
    ∃ errs, ruleRT doc.fuel limit filter doc defs raw = .ok errs ∧
      ∀ (i : Nat) (op : Op), doc.ops[i]? = some op →
        ((∃ d, (i, d) ∈ errs) ↔ (opSelected filter op = true ∧ depthRK doc defs raw i op > limit)) := by
  exact ⟨_, ruleRT_eq_expected doc defs raw hu ha limit filter doc.fuel (Nat.le_refl _),
    fun i op hi => (mem_expected_iff _ limit filter doc.ops i op hi).1⟩

/-- the pipeline with the repaired rule, for ANY JSON request variables
    SUPERSEDED VARIANT: about `ruleRT (pipelineRT)`, the model of an intermediate patch state /repo no longer contains; for `ruleB` see `pipeline_rejects_iff_final`. -/
theorem pipeline_rejects_iff_repaired (doc : Doc) (defs : List (List VarDefR)) (raw : RawVars)
    (hu : UniqueNames doc.frags) (ha : Acyclic doc.frags) (n : Nat) (filter : Option String) (defaultErrors : Nat) :
    (∀ e, pipelineRT doc.fuel n filter doc defs raw defaultErrors ≠ .raised e) ∧
    ((pipelineRT doc.fuel n filter doc defs raw defaultErrors).depthRejected = true ↔
      ∃ i op, doc.ops[i]? = some op ∧ opSelected filter op = true ∧ depthRK doc defs raw i op > n) ∧
    (pipelineRT doc.fuel n filter doc defs raw defaultErrors = .executed ↔
      defaultErrors = 0 ∧ ∀ i op, doc.ops[i]? = some op → opSelected filter op = true → depthRK doc defs raw i op ≤ n) :=
  outcome_generic doc.ops (depthRK doc defs raw) n filter _
    (ruleRT_eq_expected doc defs raw hu ha n filter doc.fuel (Nat.le_refl _)) defaultErrors

/-- when every directive variable is available nothing is dropped: the kept-when-unknown depth IS the depth
    (so on `ValidDeclR` requests the repaired rule reports exactly what the unrepaired one reports) -/
theorem depthK_eq_depth (doc : Doc) (v : Vars) (op : Op) (hb : boundL v op.sels = true)
    (hfb : ∀ f ∈ doc.frags, boundL v f.sels = true) : depthK doc v op = depth doc v op := by
  have hfr : eraseFrags v doc.frags = doc.frags := by
    unfold eraseFrags
    have : ∀ f ∈ doc.frags, eraseFrag v f = f := by
      intro f hf
      unfold eraseFrag
      rw [eraseL_id v f.sels (hfb f hf)]
    rw [List.map_congr_left this, List.map_id']
  unfold depthK depth depthWith
  rw [fuel_erase]
  show levels (eraseFrags v doc.frags) v doc.fuel (eraseL v op.sels) - 1 = _
  rw [hfr, eraseL_id v op.sels hb]

/-! ### after C19-Q2.patch: a nesting budget — the rule is total on EVERY document, cyclic ones included (`ruleB`) -/

/-- no hypothesis at all: for every document (cyclic fragments, duplicate names, undefined
    spreads …), every JSON request variables, every limit and filter, the rule returns a list of errors. -/
theorem no_raise_all (doc : Doc) (defs : List (List VarDefR)) (raw : RawVars) (limit : Nat) (filter : Option String) :
    ∃ errs, ruleB limit filter doc defs raw = .ok errs := by
  unfold ruleB
  exact ruleLoopB_total _ (fun i op => depthFixedB_total _ _ _ _) limit filter doc.ops 0

/-- … and so the validation pipeline never lets an exception of the depth rule escape -/
theorem pipelineB_never_raises (doc : Doc) (defs : List (List VarDefR)) (raw : RawVars) (n : Nat)
    (filter : Option String) (defaultErrors : Nat) (e : Err) :
    pipelineB n filter doc defs raw defaultErrors ≠ .raised e := by
  obtain ⟨errs, he⟩ := no_raise_all doc defs raw n filter
  simp only [pipelineB, he, outcomeOf]
  split <;> simp

theorem ruleLoopB_of_some (depthOf : Nat → Op → Except Err (Option Nat)) (D : Nat → Op → Nat)
    (limit : Nat) (filter : Option String) :
    ∀ (ops : List Op) (i : Nat), (∀ j op, ops[j]? = some op → depthOf (i + j) op = .ok (some (D (i + j) op))) →
      ruleLoopB depthOf limit filter i ops = .ok ((expected D limit filter i ops).map fun p => (p.1, some p.2)) := by
  intro ops
  induction ops with
  | nil => intro i _; rfl
  | cons op rest ih =>
    intro i h
    have h1 : depthOf i op = .ok (some (D i op)) := h 0 op rfl
    have h2 := ih (i + 1) (fun j o ho => by
      have := h (j + 1) o ho
      rwa [← Nat.add_assoc, Nat.add_right_comm] at this)
    simp only [ruleLoopB, expected, h1, h2]
    cases opSelected filter op with
    | false => rfl
    | true => by_cases hd : D i op > limit <;> simp [hd]

/-- closed form of the current rule on documents with unique, acyclic fragments -/
theorem ruleB_eq_expected (doc : Doc) (defs : List (List VarDefR)) (raw : RawVars)
    (hu : UniqueNames doc.frags) (ha : Acyclic doc.frags) (limit : Nat) (filter : Option String) :
    ruleB limit filter doc defs raw =
      .ok ((expected (depthRK doc defs raw) limit filter 0 doc.ops).map fun p => (p.1, some p.2)) := by
  unfold ruleB
  apply ruleLoopB_of_some _ (depthRK doc defs raw) limit filter doc.ops 0
  intro j op hop
  simp only [Nat.zero_add]
  have := measuredT_eq_depthK doc hu ha (effectiveVarsR (defs.getD j []) raw) op (List.mem_of_getElem? hop)
    doc.budget (fuel_le_budget doc)
  simp only [depthFixedB, this]
  rfl

theorem flags_of_expected (D : Nat → Op → Nat) (limit : Nat) (filter : Option String) (ops : List Op)
    (i : Nat) (op : Op) (hi : ops[i]? = some op) :
    ((∃ d, (i, d) ∈ (expected D limit filter 0 ops).map fun p => (p.1, some p.2)) ↔
      (opSelected filter op = true ∧ D i op > limit)) ∧
    (∀ d, (i, d) ∈ (expected D limit filter 0 ops).map (fun p => (p.1, some p.2)) → d = some (D i op)) := by
  have h := mem_expected_iff D limit filter ops i op hi
  -- an entry of the mapped list is an entry of `expected` with `some` around its depth
  have hm : ∀ d, (i, d) ∈ (expected D limit filter 0 ops).map (fun p => (p.1, some p.2)) ↔
      ∃ n, (i, n) ∈ expected D limit filter 0 ops ∧ d = some n := by
    intro d
    simp only [List.mem_map, Prod.mk.injEq]
    constructor
    · rintro ⟨⟨j, n⟩, hjn, rfl, rfl⟩
      exact ⟨n, hjn, rfl⟩
    · rintro ⟨n, hn, rfl⟩
      exact ⟨(i, n), hn, rfl, rfl⟩
  constructor
  · rw [← h.1]
    constructor
    · rintro ⟨d, hd⟩
      obtain ⟨n, hn, _⟩ := (hm d).mp hd
      exact ⟨n, hn⟩
    · rintro ⟨n, hn⟩
      exact ⟨some n, (hm _).mpr ⟨n, hn, rfl⟩⟩
  · intro d hd
    obtain ⟨n, hn, rfl⟩ := (hm d).mp hd
    rw [h.2 n hn]

/-- on documents with unique, acyclic fragments the budget changes nothing: reported ⇔ selected
    and deeper than the limit (kept-when-unknown reading), with that depth as the reported number; never
    "unbounded". -/
theorem flags_iff_final (doc : Doc) (defs : List (List VarDefR)) (raw : RawVars)
    (hu : UniqueNames doc.frags) (ha : Acyclic doc.frags) (limit : Nat) (filter : Option String) :
    ∃ errs, ruleB limit filter doc defs raw = .ok errs ∧
      ∀ (i : Nat) (op : Op), doc.ops[i]? = some op →
        ((∃ d, (i, d) ∈ errs) ↔ (opSelected filter op = true ∧ depthRK doc defs raw i op > limit)) ∧
        (∀ d, (i, d) ∈ errs → d = some (depthRK doc defs raw i op)) :=
  ⟨_, ruleB_eq_expected doc defs raw hu ha limit filter, flags_of_expected _ limit filter doc.ops⟩

/-- an operation is reported as "unbounded" only on documents validation rejects (a fragment cycle, or duplicate
    fragment names) -/
theorem unbounded_only_if_invalid (doc : Doc) (defs : List (List VarDefR)) (raw : RawVars) (limit : Nat)
    (filter : Option String) (errs : List (Nat × Option Nat)) (he : ruleB limit filter doc defs raw = .ok errs)
    (i : Nat) (hi : (i, none) ∈ errs) : ¬ (UniqueNames doc.frags ∧ Acyclic doc.frags) := by
  rintro ⟨hu, ha⟩
  -- every entry of the closed form carries `some` depth
  rw [ruleB_eq_expected doc defs raw hu ha limit filter] at he
  cases he
  simp only [List.mem_map, Prod.mk.injEq] at hi
  obtain ⟨_, _, _, h⟩ := hi
  cases h

end PyGql.Props.C19
