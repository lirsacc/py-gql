/-
  C05, first sentence ("validation terminates and returns its list of errors without raising") — STATE OF THE PROOF.

  FULL STATEMENT (`ValidateNeverCrashes`, NOT proved): the validator chain /repo runs — all 26 rules, the memoised overlap
  search inside the chain (`Validate.runM`) — never ends in `Outcome.crash` on a document with distinct selection-set
  identities (what the parser's start offsets give).

  The model has exactly FIVE places that set the crash flag:
    (1) ValuesOfCorrectType `_check_scalar` when `parse_literal` lets another exception escape   (`RS.addOpt … none`)
    (2) KnownDirectives on an empty ancestor stack                                              (IndexError)
    (3) UniqueInputFieldNames on an empty stack of field-name sets                              (IndexError)
    (4) NoFragmentCycles `leave_document` on an empty recorded path                             (IndexError)
    (5) the OverlappingFieldsCanBeMerged search                                               (RecursionError / AttributeError)
  Proved here: (1) is DEAD CODE of the model (`check_scalar_never_raises`: since the V7 repair `_check_scalar` answers for
  every literal) and (4) cannot fire when no fragment is recorded as spreading itself (`cycle_report_never_raises`; direct
  self-spreads are reported when met and never recorded: `C06_cycles` derives `NoSelf` for the rule alone). (5), for the
  rule ALONE, is `C06.overlap_memo_run_never_crashes` (under `WfIds`).
  MISSING for the full statement: the stack invariants for (2) and (3) along the chain traversal (directives are only
  visited below a node that pushed an ancestor; object fields only below an object value; `SkipNode` raised by another
  member leaves the entered members at once, so both stacks stay balanced), `NoSelf` as an invariant of the chain's
  state, and (5) inside the chain (`runM`: a rule raising `SkipNode` hides selection sets from the search; the memo
  lemma is stated for the rule alone). Until then "validation never raises" is tied to the code by the correspondence only
  (`validate-raises:*` oracle of corr/C05.py on every generated, mutated and fixed document; known findings H13a, H2 are
  its scale limits).
-/
import PyGqlModel.Lemmas.ValidateCycles
import PyGqlModel.Validate.ChainMemo

set_option linter.unusedSimpArgs false

namespace PyGql.Props.C05
open PyGql PyGql.Validate

/-- FULL STATEMENT — open (see the header for what is missing) -/
def ValidateNeverCrashes : Prop :=
  ∀ (s : SchemaD) (d : Validate.Doc), WfIds d → ∀ cls, runM (memoFuel d) ⟨s, Fixes.all, Rule.all⟩ d ≠ .crash cls

/-- crash site (1) is dead: `parse_literal` of the model never lets another exception escape … -/
theorem parse_literal_answers (scalar : String) (v : Value) : (parseLiteralFails scalar v).isSome = true := by
  unfold parseLiteralFails
  split
  · rfl
  · cases v <;> rfl

/-- … hence `_check_scalar` always answers (0 or 1 errors) and `RS.addOpt` never sets the crash flag for it -/
theorem check_scalar_never_raises (s : SchemaD) (ti : TI) (v : Value) (r : Rule) (st : RS) :
    (RS.addOpt r (checkScalar s ti v) st).crash = st.crash := by
  have hsome : (checkScalar s ti v).isSome = true := by
    unfold checkScalar
    split
    · rfl
    · split
      · rfl
      · have := parse_literal_answers ‹Ty›.base v
        cases hp : parseLiteralFails ‹Ty›.base v with
        | none => simp [hp] at this
        | some b => cases b <;> rfl
  cases hc : checkScalar s ti v with
  | none => simp [hc] at hsome
  | some n => simp [RS.addOpt, RS.errN]

private theorem cycStep_flag (fx : Fixes) (hv : fx.v11 = true) (ff : Cyc.G) (hns : Cyc.NoSelf ff) (st : Nat × List String × Bool)
    (outer : String) : (cycStep fx ff st outer).2.2 = st.2.2 := by
  unfold cycStep
  simp only
  cases hq : AL.get? (cycSearch fx ff (cycFuel ff) outer [] []) outer with
  | none => rfl
  | some path =>
    simp only
    have hg := (Cyc.search_top fx hv ff (cycFuel ff) (Cyc.cycFuel_ge ff) outer).2 outer path hq
    rcases hg with ⟨_, hself⟩ | ⟨u, hu, _⟩
    · exact absurd hself (hns outer)
    · simp only [hu]
      split <;> rfl

/-- crash site (4): **the cycle report of NoFragmentCycles never raises** when no fragment is recorded as spreading
    itself (the code of /repo HEAD: `fx.v11`) -/
theorem cycle_report_never_raises (fx : Fixes) (hv : fx.v11 = true) (ff : Cyc.G) (hns : Cyc.NoSelf ff) :
    (cycErrors fx ff).2 = false := by
  unfold cycErrors
  simp only
  suffices H : ∀ (ks : List String) (st : Nat × List String × Bool), (ks.foldl (cycStep fx ff) st).2.2 = st.2.2 from H _ _
  intro ks
  induction ks with
  | nil => intro st; rfl
  | cons k ks ih => intro st; rw [List.foldl_cons, ih, cycStep_flag fx hv ff hns]

/-! non-vacuity: `F → G → F` recorded (no self-spread): the report counts the cycle and does not raise; with the
    self-spread recorded (which the rule never does) the model's report WOULD raise — the hypothesis is needed -/
example : Cyc.NoSelf [("F", ["G"]), ("G", ["F"])] := by
  intro f hf
  simp only [Cyc.succ, AL.getD, AL.get?] at hf
  by_cases h1 : f = "F"
  · subst h1; simp at hf
  · by_cases h2 : f = "G"
    · subst h2; simp at hf
    · have e1 : (("F" : String) == f) = false := by simpa using fun e => h1 e.symm
      have e2 : (("G" : String) == f) = false := by simpa using fun e => h2 e.symm
      simp [List.find?, e1, e2] at hf
example : cycErrors Fixes.all [("F", ["G"]), ("G", ["F"])] = (1, false) := by decide +kernel
example : (cycErrors Fixes.all [("F", ["F"])]).2 = true := by decide +kernel

end PyGql.Props.C05
