/-
  C07 — around the two coercers: `coerce_variable_values` and `coerce_argument_values` hand on conforming values; an omitted
  argument stays omitted, an explicit `null` is None, a single value at a list position is wrapped.
-/
import PyGqlModel.Props.C07


namespace PyGql.Props.C07
open PyGql PyGql.Coerce PyGql.Generated.Scalars

private theorem coerceVariable_sound {reg : Reg} (hreg : RegOK reg) {fuel : Nat} {variables : List (String × JV)}
    {d : VarDef} {pv : PV} (hwf : d.type.wf = true)
    (h : coerceVariable reg fuel variables d = .ok (some pv)) : Conforms reg d.type pv := by
  unfold coerceVariable at h
  split at h
  · cases h                                  -- unknown type
  · split at h
    · split at h                             -- no value sent: the default literal, if any
      · split at h
        · cases h
        · rename_i pv' hpv
          cases h
          exact literal_sound hreg none fuel d.type _ _ hwf (.inl rfl) hpv
      · split at h <;> cases h               -- no default: an error, or the variable stays unbound
    · split at h                             -- a value was sent
      · cases h                              -- null for a non-null variable
      · split at h
        · cases h                            -- out of fuel, reported as a rejection
        · cases h                            -- any other error
        · rename_i pv' hpv
          cases h
          exact variable_sound hreg fuel d.type _ _ hwf hpv

/-- Every coerced variable value conforms to the type its definition declares
    (provided JSON value, or the definition's default literal when the variable is absent). -/
theorem variables_sound {reg : Reg} (hreg : RegOK reg) (fuel : Nat) (variables : List (String × JV)) :
    ∀ (defs : List VarDef) (env : List (String × PV)), (∀ d, d ∈ defs → d.type.wf = true) →
      coerceVariableValues reg fuel variables defs = .ok env →
      ∀ p, p ∈ env → ∃ d, d ∈ defs ∧ d.name = p.1 ∧ Conforms reg d.type p.2 := by
  intro defs
  induction defs with
  | nil => intro env _ h p hp; simp [coerceVariableValues] at h; subst h; cases hp
  | cons d ds ih =>
    intro env hwf h p hp
    simp only [coerceVariableValues] at h
    split at h
    · split at h <;> cases h
    · cases h
    · rename_i o ho
      split at h
      · cases h
      · rename_i r hr
        have ih' := ih r (fun d' hd' => hwf d' (List.mem_cons_of_mem _ hd')) hr
        split at h
        · rename_i pv
          cases h
          cases hp with
          | head => exact ⟨d, List.mem_cons_self, rfl, coerceVariable_sound hreg (hwf d List.mem_cons_self) ho⟩
          | tail _ hm =>
            obtain ⟨d', hd', h1, h2⟩ := ih' p hm
            exact ⟨d', List.mem_cons_of_mem _ hd', h1, h2⟩
        · cases h
          obtain ⟨d', hd', h1, h2⟩ := ih' p hp
          exact ⟨d', List.mem_cons_of_mem _ hd', h1, h2⟩

private theorem coerceArg_sound {reg : Reg} (hreg : RegOK reg) {fuel : Nat} {vars : List (String × PV)}
    {args : List (String × Lit)} {d : InField} (hwf : d.type.wf = true)
    (hdef : ∀ v, d.default = some v → Conforms reg d.type v)
    (hfit : ∀ l, lookupLast d.name args = some l → VarsFit reg (some vars) d.type l) :
    ∀ o, coerceArg reg fuel vars args d = .ok o →
      match o with
      | some pv => Conforms reg d.type pv
      | none => d.default = none ∧ d.type.isNonNull = false := by
  intro o h
  unfold coerceArg at h
  split at h
  · -- argument not supplied
    split at h
    · rename_i v hv; cases h; exact hdef v hv      -- the declared default
    · rename_i hv
      split at h
      · cases h                                    -- required
      · rename_i hnn; cases h; exact ⟨hv, by simpa using hnn⟩
  · -- argument bound to a variable
    rename_i x hx
    split at h
    · rename_i v hv                                -- the variable has a value
      split at h
      · cases h                                    -- `None` at a non-null argument (fix A3)
      · rename_i hc
        cases h
        have hx' : extractVariable (some vars) d.type x = .ok v := by
          simp only [extractVariable, hv]
          have : (d.type.isNonNull && v.isNone) = false := by
            cases h1 : d.type.isNonNull <;> cases h2 : v.isNone <;> simp_all
          simp [this]
        exact literal_sound hreg (some vars) 1 d.type (.var x) v hwf (.inr (hfit _ hx)) (by simpa [valueFromAst] using hx')
    · split at h                                   -- the variable has no value: as if the argument were not supplied
      · rename_i v hv; cases h; exact hdef v hv
      · rename_i hv
        split at h
        · cases h
        · rename_i hnn; cases h; exact ⟨hv, by simpa using hnn⟩
  · -- argument given as a literal
    rename_i l hnv hl
    split at h
    · cases h
    · rename_i pv hpv
      cases h
      exact literal_sound hreg (some vars) fuel d.type l pv hwf (.inr (hfit _ hl)) hpv

/-- The keyword arguments assembled for a resolver conform to the field's argument
    definitions: in definition order, keyed by python names, each supplied / defaulted value conforming to the
    argument's type, an argument absent only if it has no default and a nullable type — whether it was given
    inline, through a variable, or inside a list / object literal. -/
theorem arguments_sound {reg : Reg} (hreg : RegOK reg) (fuel : Nat) (vars : List (String × PV)) (args : List (String × Lit)) :
    ∀ (defs : List InField) (kw : List (String × PV)), ArgsOK reg defs →
      (∀ d, d ∈ defs → ∀ l, lookupLast d.name args = some l → VarsFit reg (some vars) d.type l) →
      coerceArgumentValues reg fuel vars args defs = .ok kw → ConformsFields reg defs kw := by
  intro defs
  induction defs with
  | nil => intro kw _ _ h; simp [coerceArgumentValues] at h; subst h; exact .nil
  | cons d ds ih =>
    intro kw hok hfit h
    simp only [coerceArgumentValues] at h
    split at h
    · cases h
    · rename_i o ho
      split at h
      · cases h
      · rename_i r hr
        have ih' := ih r ⟨fun d' hd' => hok.wf d' (List.mem_cons_of_mem _ hd'),
                          fun d' hd' => hok.defaultsConform d' (List.mem_cons_of_mem _ hd'),
                          (List.nodup_cons.1 (by simpa using hok.pyNamesDistinct)).2⟩
                        (fun d' hd' => hfit d' (List.mem_cons_of_mem _ hd')) hr
        have hs := coerceArg_sound hreg (hok.wf d List.mem_cons_self) (hok.defaultsConform d List.mem_cons_self)
          (hfit d List.mem_cons_self) o ho
        split at h
        · cases h; exact .present hs ih'
        · cases h; exact .absent hs.1 hs.2 ih'

/-- An optional argument without default that is not supplied — or is bound to a
    variable that has no value — contributes no keyword argument … -/
theorem omitted_stays_omitted (reg : Reg) (fuel : Nat) (vars : List (String × PV)) (args : List (String × Lit)) (d : InField)
    (hd : d.default = none) (hn : d.type.isNonNull = false)
    (h : lookupLast d.name args = none ∨ ∃ x, lookupLast d.name args = some (.var x) ∧ lookupLast x vars = none) :
    coerceArg reg fuel vars args d = .ok none := by
  unfold coerceArg
  cases h with
  | inl h => simp [h, hd, hn]
  | inr h => obtain ⟨x, h1, h2⟩ := h; simp [h1, h2, hd, hn]

/-- … and the remaining arguments are assembled as if it were not declared at all. -/
theorem omitted_not_in_kwargs (reg : Reg) (fuel : Nat) (vars : List (String × PV)) (args : List (String × Lit))
    (d : InField) (ds : List InField) (h : coerceArg reg fuel vars args d = .ok none) :
    coerceArgumentValues reg fuel vars args (d :: ds) = coerceArgumentValues reg fuel vars args ds := by
  simp only [coerceArgumentValues, h]
  cases coerceArgumentValues reg fuel vars args ds <;> rfl

/-- the same for input-object fields: an absent nullable field without default leaves no key -/
theorem omitted_field_stays_omitted {α : Type} (get : String → Option α) (rec : Ty → α → R) (f : InField) (fs : List InField)
    (hg : get f.name = none) (hd : f.default = none) (hn : f.type.isNonNull = false) :
    fieldLoop get rec (f :: fs) = fieldLoop get rec fs := by
  simp [fieldLoop, hg, hd, hn]

/-- a supplied argument's default is NOT used: explicit `null` for a nullable argument reaches the resolver as None -/
theorem explicit_null_is_none (reg : Reg) (fuel : Nat) (vars : List (String × PV)) (args : List (String × Lit)) (d : InField)
    (hn : d.type.isNonNull = false) (h : lookupLast d.name args = some .null) :
    coerceArg reg (fuel + 1) vars args d = .ok (some .none) := by
  simp [coerceArg, h, valueFromAst, hn, vfaCore, Lit.isNull]

/-- Variable route: a non-null, non-array JSON value at a list position is coerced
    against the item type and wrapped in a one-element list (errors of the item are the errors of the list). -/
theorem single_value_wrapped (reg : Reg) (fuel : Nat) (t : Ty) (v : JV) (hv : v.isNull = false) (hl : ∀ l, v ≠ .list l) :
    coerceValue reg (fuel + 1) (.list t) v = (coerceValue reg fuel t v).map (fun x => .list [x]) :=
  (coerceCore_eq reg _ _ v).trans (gCore_single hv (srcJ_items_none hl))

/-- the same on the literal route -/
theorem single_literal_wrapped (reg : Reg) (vars : Option (List (String × PV))) (fuel : Nat) (t : Ty) (l : Lit)
    (hv : l.isNull = false) (hl : ∀ items, l ≠ .list items) (hx : ∀ x, l ≠ .var x) :
    valueFromAst reg vars (fuel + 1) (.list t) l = (valueFromAst reg vars fuel t l).map (fun x => .list [x]) :=
  (valueFromAst_succ hx).trans ((vfaCore_eq reg vars _ _ l).trans (gCore_single hv (srcL_items_none hl)))

end PyGql.Props.C07
