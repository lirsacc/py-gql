/-
  C12 — `print_build_roundtrip`: building the document the schema printer denotes (`schemaToDoc`) gives the schema
  back, for every schema description satisfying the explicit, decidable well-formedness predicate `PrintBuildWF`.
  This file: values — the literal written for a default value is read back, over the printed document's own
  environment (`docEnv`), as the same value.

  The property theorem of this file: `default_roundtrip_doc` (all input types, over `docEnv`; `print_build_roundtrip` rests on
  it).  Everything else public is a step of its proof.
-/
import PyGqlModel.Props.C12_roundtrip
import PyGqlModel.Props.C11_merge
import Std.Data.String.ToInt

namespace PyGql.Props.C12
open PyGql PyGql.Sdl PyGql.SdlPrint PyGql.Props.C11

/-- what the builder sees when it reads the printed document: the printed definitions, by name -/
def docEnv (s : SchemaD) : Env := Env.of (s.types.map (typeToDef s))

theorem docEnv_findAdditional (s : SchemaD) (n : String) : (docEnv s).findAdditional n = none := rfl

theorem docEnv_findDef (s : SchemaD) (n : String) : (docEnv s).findDef n = (s.findType n).map (typeToDef s) :=
  List.find?_map

/-- **NoH8 / Float**: the float with repr `r` is finite and prints to a literal that denotes it (`-0.0` prints as `0`) -/
def floatOK (r : String) : Bool :=
  finiteRepr r && (match floatLit r with | .float _ f => f == r | .int _ f => f == r | _ => false)

/-- canonical NON-NULL value of the named leaf type `nm` -/
def leafOK (s : SchemaD) (nm : String) (v : J) : Bool :=
  if nm == "Boolean" then (match v with | .bool _ => true | _ => false)
  else if nm == "Int" then (match v with | .num k => decide (MIN_INT ≤ k) && decide (k ≤ MAX_INT) | _ => false)
  else if nm == "String" then (match v with | .str _ => true | _ => false)
  else if nm == "ID" then (match v with | .str _ => true | _ => false)
  else if nm == "Float" then (match v with | .obj [("$float", .str r)] => floatOK r | _ => false)
  else match s.findType nm with
    | none => false
    | some t =>
      match t.kind with
      | .scalar => (match v with | .bool _ => true | .str _ => true | _ => false)
      | .enum =>
        (match v with
         | .str x => (match t.values.find? (fun ev => jEq ev.value (.str x)) with | some ev => ev.name == x | none => false)
         | _ => false)
      | _ => false

private theorem toInt_toString (k : Int) : (toString k).toInt? = some k := by
  simp

theorem leaf_roundtrip_doc (s : SchemaD) (nm : String) (v : J) (h : leafOK s nm v = true) (fuel : Nat) :
    ∃ lit, valueLit s (fuel+1) v (.named nm) = some lit ∧ valueFromAst (docEnv s) (fuel+1) lit (.named nm) = some (some v) ∧ lit ≠ .null := by
  unfold leafOK at h
  by_cases h1 : (nm == "Boolean") = true
  · have e : nm = "Boolean" := by simpa using h1
    subst e
    cases v <;> simp at h
    exact bool_roundtrip s _ fuel _
  by_cases h2 : (nm == "Int") = true
  · have e : nm = "Int" := by simpa using h2
    subst e
    cases v <;> simp at h
    exact int_roundtrip s _ fuel _ h.1 h.2
  by_cases h3 : (nm == "String") = true
  · have e : nm = "String" := by simpa using h3
    subst e
    cases v <;> simp at h
    exact string_roundtrip s _ fuel _
  by_cases h4 : (nm == "ID") = true
  · have e : nm = "ID" := by simpa using h4
    subst e
    cases v <;> simp at h
    exact id_roundtrip s _ fuel _
  have n1 : nm ≠ "Boolean" := by simpa using h1
  have n2 : nm ≠ "Int" := by simpa using h2
  have n3 : nm ≠ "String" := by simpa using h3
  have n4 : nm ≠ "ID" := by simpa using h4
  simp only [h1, h2, h3, h4, Bool.false_eq_true, if_false] at h
  by_cases h5 : (nm == "Float") = true
  · have e : nm = "Float" := by simpa using h5
    subst e
    simp only [h5, if_true] at h
    split at h
    · rename_i r
      simp only [floatOK, Bool.and_eq_true] at h
      obtain ⟨hfin, hc⟩ := h
      cases hl : floatLit r with
      | float a f =>
        rw [hl] at hc
        have ef : f = r := by simpa using hc
        subst ef
        refine ⟨.float a f, by simp [valueLit, builtinScalars, builtinLit, hl], ?_, by simp⟩
        simp [valueFromAst, builtinScalars, scalarLiteral, pure, hfin, floatJ]
      | int a f =>
        rw [hl] at hc
        have ef : f = r := by simpa using hc
        subst ef
        refine ⟨.int a f, by simp [valueLit, builtinScalars, builtinLit, hl], ?_, by simp⟩
        simp [valueFromAst, builtinScalars, scalarLiteral, pure, hfin, floatJ]
      | null => rw [hl] at hc; simp at hc
      | str _ => rw [hl] at hc; simp at hc
      | bool _ => rw [hl] at hc; simp at hc
      | «enum» _ => rw [hl] at hc; simp at hc
      | list _ => rw [hl] at hc; simp at hc
      | obj _ => rw [hl] at hc; simp at hc
    · simp at h
  have n5 : nm ≠ "Float" := by simpa using h5
  have hnb : nm ∉ builtinScalars := by simp [builtinScalars, n1, n2, n3, n4, n5]
  simp only [h5, Bool.false_eq_true, if_false] at h
  cases ht : s.findType nm with
  | none => simp [ht] at h
  | some t =>
    simp only [ht] at h
    have hdef : (docEnv s).findDef nm = some (typeToDef s t) := by rw [docEnv_findDef, ht]; rfl
    have hadd := docEnv_findAdditional s nm
    cases hk : t.kind <;> simp only [hk] at h <;> try (simp at h)
    · -- custom scalar
      have hdk : (typeToDef s t).kind = .scalar := hk
      cases v <;> simp at h
      · rename_i b
        exact ⟨.bool b, by simp [valueLit, hnb, ht, hk, customLit],
          by simp [valueFromAst, hnb, hadd, hdef, hdk, scalarLiteral, pure], by simp⟩
      · rename_i x
        by_cases hx : isIntText x = true
        · exact ⟨.int x (x ++ ".0"), by simp [valueLit, hnb, ht, hk, customLit, hx],
            by simp [valueFromAst, hnb, hadd, hdef, hdk, scalarLiteral, pure], by simp⟩
        · by_cases hfr : isFloatRepr x = true
          · exact ⟨.float x x, by simp [valueLit, hnb, ht, hk, customLit, hx, hfr],
              by simp [valueFromAst, hnb, hadd, hdef, hdk, scalarLiteral, pure], by simp⟩
          · exact ⟨.str x, by simp [valueLit, hnb, ht, hk, customLit, hx, hfr],
              by simp [valueFromAst, hnb, hadd, hdef, hdk, scalarLiteral, pure], by simp⟩
    · -- enum
      have hdk : (typeToDef s t).kind = .enum := hk
      cases v <;> simp at h
      rename_i x
      cases hf : t.values.find? (fun ev => jEq ev.value (.str x)) with
      | none => simp [hf] at h
      | some ev =>
        simp only [hf] at h
        have en : ev.name = x := by simpa using h
        have hmem := List.mem_of_find?_eq_some hf
        have hany : (typeToDef s t).values.any (·.name == x) = true := by
          simp only [typeToDef, List.any_map, List.any_eq_true]
          exact ⟨ev, hmem, by simp [enumValToDef, en]⟩
        refine ⟨.enum ev.name, by simp [valueLit, hnb, ht, hk, hf], ?_, by simp⟩
        rw [en]
        simp [valueFromAst, hnb, hadd, hdef, hdk, pure, hany]

/-- **NoH2** (with "required fields are present"): a field may be ABSENT from an input-object value only if it has no
    default and is nullable. A value that omits a defaulted field prints without it and is read back with it. -/
def skippable (f : ArgD) : Bool := !f.hasDefault && !f.type.isNonNull

mutual
/-- canonical value `v` of type `ty` (what `build_schema` stores for a default of that type), fuel-indexed like the
    printer and the builder -/
def wtB (s : SchemaD) : Nat → J → Ty → Bool
  | 0, _, _ => false
  | n+1, v, .nonNull t => (match v with | .null => false | _ => true) && wtB s n v t
  | n+1, v, .list t =>
    match v with
    | .null => true
    | .arr items => wtsB s n items t
    | _ => false
  | n+1, v, .named nm =>
    match v with
    | .null => true
    | _ =>
      if builtinScalars.contains nm then leafOK s nm v
      else match s.findType nm with
        | none => false
        | some t =>
          if t.kind == .input then
            (match v with
             | .obj kvs => !hasDup (t.inputFields.map (·.name)) && wtF s n t.inputFields kvs
             | _ => false)
          else leafOK s nm v
def wtsB (s : SchemaD) : Nat → List J → Ty → Bool
  | 0, _, _ => false
  | _+1, [], _ => true
  | n+1, x :: xs, t => wtB s n x t && wtsB s n xs t
/-- the keys of an input-object value are exactly the fields that are present, in the order of the type -/
def wtF (s : SchemaD) : Nat → List ArgD → List (String × J) → Bool
  | 0, _, _ => false
  | _+1, [], [] => true
  | _+1, [], _ :: _ => false
  | n+1, f :: fs, [] => skippable f && wtF s n fs []
  | n+1, f :: fs, (k, v) :: rest =>
    if k == f.name then wtB s n v f.type && wtF s n fs rest
    else skippable f && wtF s n fs ((k, v) :: rest)
end

theorem lookupLast_notin (L : List (String × Lit)) (g : String) (h : g ∉ L.map (·.1)) : lookupLast L g = none := by
  simp only [lookupLast, Option.map_eq_none_iff, List.find?_eq_none, List.mem_reverse]
  intro x hx
  simp only [beq_iff_eq]
  intro e
  exact h (List.mem_map.mpr ⟨x, hx, e⟩)

theorem lookupLast_cons_ne (L : List (String × Lit)) (k g : String) (l : Lit) (h : k ≠ g) :
    lookupLast ((k, l) :: L) g = lookupLast L g := by
  simp only [lookupLast, List.reverse_cons, List.find?_append]
  cases hf : L.reverse.find? (fun x => x.1 == g) with
  | some x => simp
  | none => simp [h]

theorem lookupLast_cons_self (L : List (String × Lit)) (k : String) (l : Lit) (h : k ∉ L.map (·.1)) :
    lookupLast ((k, l) :: L) k = some l := by
  have hn := lookupLast_notin L k h
  simp only [lookupLast, Option.map_eq_none_iff] at hn
  simp only [lookupLast, List.reverse_cons, List.find?_append, hn]
  simp

theorem hasDup_false_iff (l : List String) : hasDup l = false ↔ l.Nodup := by
  induction l with
  | nil => simp [hasDup]
  | cons x xs ih =>
    simp only [hasDup, Bool.or_eq_false_iff, List.nodup_cons, ih]
    simp

theorem fieldsLit_skip (s : SchemaD) (k : String) (v : J) : ∀ (fs : List ArgD) (n : Nat) (kvs : List (String × J)),
    k ∉ fs.map (·.name) → fieldsLit s n ((k, v) :: kvs) fs = fieldsLit s n kvs fs := by
  intro fs
  induction fs with
  | nil => intro n kvs _; cases n <;> simp [fieldsLit]
  | cons f fs ih =>
    intro n kvs h
    simp only [List.map_cons, List.mem_cons, not_or] at h
    cases n with
    | zero => simp [fieldsLit]
    | succ n =>
      have hne : (k == f.name) = false := by simpa using h.1
      simp only [fieldsLit, ih n kvs h.2, List.find?_cons, hne]

theorem coerceDefFields_skip (env : Env) (k : String) (l : Lit) : ∀ (ds : List InputValDef) (n : Nat) (L : List (String × Lit)),
    k ∉ ds.map (·.name) → coerceDefFields env n ((k, l) :: L) ds = coerceDefFields env n L ds := by
  intro ds
  induction ds with
  | nil => intro n L _; cases n <;> simp [coerceDefFields]
  | cons d ds ih =>
    intro n L h
    simp only [List.map_cons, List.mem_cons, not_or] at h
    cases n with
    | zero => simp [coerceDefFields]
    | succ n =>
      simp only [coerceDefFields, ih n L h.2, lookupLast_cons_ne L k d.name l h.1]

theorem wtF_keys (s : SchemaD) : ∀ (n : Nat) (fs : List ArgD) (kvs : List (String × J)), wtF s n fs kvs = true →
    ∀ k ∈ kvs.map (·.1), k ∈ fs.map (·.name) := by
  intro n
  induction n with
  | zero => intro fs kvs h; simp [wtF] at h
  | succ n ih =>
    intro fs kvs h k hk
    cases fs with
    | nil => cases kvs with
      | nil => simp at hk
      | cons _ _ => simp [wtF] at h
    | cons f fs =>
      cases kvs with
      | nil => simp at hk
      | cons kv rest =>
        obtain ⟨k0, v0⟩ := kv
        simp only [wtF] at h
        by_cases hm : (k0 == f.name) = true
        · simp only [hm, if_true, Bool.and_eq_true] at h
          have e : k0 = f.name := by simpa using hm
          simp only [List.map_cons, List.mem_cons] at hk ⊢
          rcases hk with rfl | hk
          · exact Or.inl e
          · exact Or.inr (ih fs rest h.2 k hk)
        · simp only [hm, Bool.false_eq_true, if_false, Bool.and_eq_true] at h
          simp only [List.map_cons, List.mem_cons]
          exact Or.inr (ih fs ((k0, v0) :: rest) h.2 k hk)

private theorem find_none_notin (kvs : List (String × J)) (g : String) (h : g ∉ kvs.map (·.1)) :
    kvs.find? (fun x => x.1 == g) = none := by
  rw [List.find?_eq_none]
  intro x hx
  simp only [beq_iff_eq]
  intro e
  exact h (List.mem_map.mpr ⟨x, hx, e⟩)

/-- the joint statement for values, item lists and field lists (one induction on the fuel) -/
private def RT (s : SchemaD) (n : Nat) : Prop :=
  (∀ v ty, wtB s n v ty = true → ReadsBack s (docEnv s) n v ty) ∧
  (∀ items t, wtsB s n items t = true → ItemsReadBack s (docEnv s) n items t) ∧
  (∀ fs kvs, (fs.map (·.name)).Nodup → wtF s n fs kvs = true → ∃ L, fieldsLit s n kvs fs = some L ∧
      coerceDefFields (docEnv s) n L (fs.map (argToDef s)) = some (some (.obj kvs)) ∧ L.map (·.1) = kvs.map (·.1))

private theorem rt_values (s : SchemaD) (n : Nat) (ih : RT s n) :
    ∀ v ty, wtB s (n+1) v ty = true → ReadsBack s (docEnv s) (n+1) v ty := by
  obtain ⟨ihv, ihs, ihf⟩ := ih
  intro v ty h
  cases ty with
  | nonNull t =>
    simp only [wtB, Bool.and_eq_true] at h
    exact .nonNull (fun e => by rw [e] at h; exact absurd h.1 Bool.false_ne_true) (ihv v t h.2)
  | list t =>
    simp only [wtB] at h
    split at h
    · exact .null_list
    · exact .list (ihs _ t h)
    · cases h
  | named nm =>
    simp only [wtB] at h
    split at h
    · exact .null_named nm
    by_cases hb : builtinScalars.contains nm = true
    · rw [if_pos hb] at h
      exact .of_leaf (leaf_roundtrip_doc s nm v h n)
    rw [if_neg hb] at h
    have hnb : nm ∉ builtinScalars := by simpa using hb
    cases ht : s.findType nm with
    | none => simp [ht] at h
    | some t =>
      simp only [ht] at h
      by_cases hk : (t.kind == .input) = true
      · -- an input object
        have hk' : t.kind = .input := by simpa using hk
        rw [if_pos hk] at h
        split at h
        · rename_i kvs _
          simp only [Bool.and_eq_true, Bool.not_eq_true'] at h
          obtain ⟨hnd, hwf⟩ := h
          obtain ⟨L, hL1, hL2, hL3⟩ := ihf t.inputFields kvs ((hasDup_false_iff _).mp hnd) hwf
          have hdef : (docEnv s).findDef nm = some (typeToDef s t) := by rw [docEnv_findDef, ht]; rfl
          have hdk : (typeToDef s t).kind = .input := hk'
          have hall : allDefined L ((typeToDef s t).inputFields.map (·.name)) = true := by
            simp only [allDefined, List.all_eq_true]
            intro g hg
            have hgk : g.1 ∈ kvs.map (·.1) := by rw [← hL3]; exact List.mem_map_of_mem hg
            have := wtF_keys s n t.inputFields kvs hwf g.1 hgk
            simpa [typeToDef, argToDef, List.map_map, Function.comp] using this
          refine ⟨.obj L, by simp [valueLit, hnb, ht, hk', hL1], ?_, by simp⟩
          have hL2' : coerceDefFields (docEnv s) n L (typeToDef s t).inputFields = some (some (.obj kvs)) := hL2
          simp [valueFromAst, hnb, docEnv_findAdditional s nm, hdef, hdk, hL2', hall, bind, Option.bind, pure]
        · cases h
      · rw [if_neg hk] at h
        exact .of_leaf (leaf_roundtrip_doc s nm v h n)

private theorem rt_items (s : SchemaD) (n : Nat) (ih : RT s n) :
    ∀ items t, wtsB s (n+1) items t = true → ItemsReadBack s (docEnv s) (n+1) items t := by
  obtain ⟨ihv, ihs, _⟩ := ih
  intro items t h
  cases items with
  | nil => exact .nil
  | cons x xs =>
    simp only [wtsB, Bool.and_eq_true] at h
    exact .cons (ihv x t h.1) (ihs xs t h.2)

private theorem rt_fields (s : SchemaD) (n : Nat) (ih : RT s n) :
    ∀ fs kvs, (fs.map (·.name)).Nodup → wtF s (n+1) fs kvs = true → ∃ L, fieldsLit s (n+1) kvs fs = some L ∧
      coerceDefFields (docEnv s) (n+1) L (fs.map (argToDef s)) = some (some (.obj kvs)) ∧ L.map (·.1) = kvs.map (·.1) := by
  obtain ⟨ihv, _, ihf⟩ := ih
  intro fs kvs hnd h
  cases fs with
  | nil =>
    cases kvs with
    | nil => exact ⟨[], by simp [fieldsLit], by simp [coerceDefFields, pure], rfl⟩
    | cons _ _ => simp [wtF] at h
  | cons f fs =>
    simp only [List.map_cons, List.nodup_cons] at hnd
    obtain ⟨hfn, hnd'⟩ := hnd
    have hdn : (argToDef s f).name = f.name := rfl
    have hdt : (argToDef s f).type = f.type := rfl
    have hnames : (fs.map (argToDef s)).map (·.name) = fs.map (·.name) := by simp [List.map_map, Function.comp, argToDef]
    cases kvs with
    | nil =>
      simp only [wtF, Bool.and_eq_true] at h
      obtain ⟨hsk, hw⟩ := h
      obtain ⟨L0, a, b, c⟩ := ihf fs [] hnd' hw
      have hL0 : L0 = [] := by simpa using c
      subst hL0
      simp only [skippable, Bool.and_eq_true, Bool.not_eq_true'] at hsk
      have hdd : (argToDef s f).default = none := by simp [argToDef, hsk.1]
      refine ⟨[], ?_, ?_, rfl⟩
      · simp [fieldsLit, a, hsk.1, hsk.2]
      · simp [coerceDefFields, b, lookupLast, hdd, hdt, hsk.2, bind, Option.bind, pure]
    | cons kv rest =>
      obtain ⟨k, v⟩ := kv
      simp only [wtF] at h
      by_cases hm : (k == f.name) = true
      · -- the field is present
        have e : k = f.name := by simpa using hm
        subst e
        simp only [hm, if_true, Bool.and_eq_true] at h
        obtain ⟨hwv, hwr⟩ := h
        obtain ⟨lit, hl1, hl2, _⟩ := ihv v f.type hwv
        obtain ⟨L0, a, b, c⟩ := ihf fs rest hnd' hwr
        have hkL0 : f.name ∉ L0.map (·.1) := by
          rw [c]; intro hin; exact hfn (wtF_keys s n fs rest hwr _ hin)
        refine ⟨(f.name, lit) :: L0, ?_, ?_, by simp [c]⟩
        · simp [fieldsLit, fieldsLit_skip s f.name v fs n rest hfn, a, hl1]
        · have hskip := coerceDefFields_skip (docEnv s) f.name lit (fs.map (argToDef s)) n L0 (by rw [hnames]; exact hfn)
          simp [coerceDefFields, hskip, b, hdn, hdt, lookupLast_cons_self L0 f.name lit hkL0, hl2, bind, Option.bind, pure]
      · -- the field is absent
        simp only [hm, Bool.false_eq_true, if_false, Bool.and_eq_true] at h
        obtain ⟨hsk, hw⟩ := h
        obtain ⟨L0, a, b, c⟩ := ihf fs ((k, v) :: rest) hnd' hw
        simp only [skippable, Bool.and_eq_true, Bool.not_eq_true'] at hsk
        have hdd : (argToDef s f).default = none := by simp [argToDef, hsk.1]
        have hkeys : f.name ∉ ((k, v) :: rest).map (·.1) := fun hin => hfn (wtF_keys s n fs _ hw _ hin)
        have hkL0 : f.name ∉ L0.map (·.1) := by rw [c]; exact hkeys
        refine ⟨L0, ?_, ?_, c⟩
        · simp [fieldsLit, a, find_none_notin _ _ hkeys, hsk.1, hsk.2]
        · simp [coerceDefFields, b, hdn, hdt, lookupLast_notin L0 f.name hkL0, hdd, hsk.2, bind, Option.bind, pure]

private theorem rt_all (s : SchemaD) : ∀ n, RT s n := by
  intro n
  induction n with
  | zero => exact ⟨fun v ty h => by simp [wtB] at h, fun items t h => by simp [wtsB] at h, fun fs kvs _ h => by simp [wtF] at h⟩
  | succ n ih => exact ⟨rt_values s n ih, rt_items s n ih, rt_fields s n ih⟩

/-- for every canonical value `v` of ANY input type — the specified and custom scalars, enums, input objects (nested,
    recursive), `null`, non-null and list wrappers of any depth — the literal the schema printer writes for `v` is read
    back by the builder, over the printed document, as `v` itself.
    Excluded, each by a named predicate inside `wtB`: input-object values that omit a defaulted field (`skippable`,
    finding H2 — refuted by `print_build_roundtrip_needs_NoH2`, `Props/C12_examples.lean`), non-canonical floats (`floatOK`, H8). (Finding H3 — float-looking custom-scalar
    strings — is fixed in /repo 889f979 and needs no exclusion.) -/
theorem default_roundtrip_doc (s : SchemaD) (n : Nat) (v : J) (ty : Ty) (h : wtB s n v ty = true) :
    ∃ lit, valueLit s n v ty = some lit ∧ valueFromAst (docEnv s) n lit ty = some (some v) :=
  ((rt_all s n).1 v ty h).elim

end PyGql.Props.C12
