/-
  C06 - property theorems: `ValuesOfCorrectTypeChecker` (5.6.1). The rule reads the INPUT side of
  `TypeInfoVisitor` and raises `SkipNode` at an object literal that does not stand at an input-object position -
  without any error when the position's type is unknown. Proved through the context walk `Q.defsC`
  (`Lemmas/ValidateCtx.lean`) against the static input contexts of `Spec/ValidSpecValues.lean`.
  Next to it: the clause of the SPECIFICATION (every literal is coercible to the expected type) is refuted for
  the code as it is (ledger V8: list literals are never checked).
-/
import PyGqlModel.Props.C06_names
import PyGqlModel.Props.C06_witness
import PyGqlModel.Lemmas.ValidateValues
namespace PyGql.Props.C06
open PyGql PyGql.Validate PyGql.Validate.Spec

/-- **5.6.1 Values of correct type, as implemented**: `ValuesOfCorrectTypeChecker` run alone reports nothing ⇔
    every literal of the document is acceptable in its static input context (`Spec.valueNodeOk`): scalar literals
    are accepted by the expected scalar, `null` does not stand at a non-null position, enum literals are values
    of the expected enum, object literals stand at input-object positions and give all required fields, every
    field of such a literal is defined; LIST literals are not checked and their items are checked against the
    ITEM type of the expected list type (`TI.itemOf`; ledger V8) -/
theorem rule_values_of_correct_type_iff (s : SchemaD) (fx : Fixes) (d : Doc) :
    Silent s fx .valuesOfCorrectType d ↔ Spec.valuesOfCorrectType s fx d := by
  unfold Silent alone
  have he : enter ⟨s, fx, [.valuesOfCorrectType]⟩ (.document d) {} = (({} : St), false) := by
    rw [enter_single]
    rfl
  have hl : ∀ st, E (leave ⟨s, fx, [.valuesOfCorrectType]⟩ (.document d) st) = E st := by
    intro st
    rw [leave_single, voc_leave]
    rfl
  rw [visitDocument, visitNode_noskip _ _ _ _ _ he, hl]
  have hw := (Q.defsC (ctxValues s fx) d.defs ({} : St) trivial rfl).1
  have h0 : E ({} : St) = 0 := rfl
  rw [h0] at hw
  rw [hw]
  unfold Spec.valuesOfCorrectType inputNodes
  have hmap := forall_gnDoc_map TI.iview (tiEnter s) (IView.enter s) (iview_enter s) d ({} : TI)
    (fun q => valueNodeOk s fx q.1 q.2)
  rw [iview_empty] at hmap
  rw [hmap]
  show (∀ p ∈ gnDoc (tiEnter s) ({} : TI) d, Q.okP (ctxValues s fx) p) ↔ _
  refine forall_congr' fun p => forall_congr' fun _ => ?_
  rw [okP_ctxValues]
  exact okT_iff s fx p.1 p.2

/-! non-vacuity (string literals only: `Int` literals go through `String.toInt?`, which the kernel cannot evaluate) -/

/-- `type Query { s(f: String, l: [String!]): String }` -/
def vSchema : SchemaD :=
  { types := [
      { kind := .scalar, name := "Int" }, { kind := .scalar, name := "String" }, { kind := .scalar, name := "Boolean" },
      { kind := .object, name := "Query", fields := [
          { name := "s", type := .named "String",
            args := [{ name := "f", type := .named "String" }, { name := "l", type := .list (.nonNull (.named "String")) }] }] }],
    query := some "Query",
    directives := [] }

/-- `{ s(f: "x") }` -/
example : Spec.valuesOfCorrectType vSchema Fixes.all ⟨[opV [] 1 [fld none "s" [⟨"f", .str "x"⟩]]]⟩ :=
  (rule_values_of_correct_type_iff vSchema Fixes.all _).mp (by unfold Silent; decide +kernel)
/-- `{ s(f: true) }` is reported -/
example : ¬ Spec.valuesOfCorrectType vSchema Fixes.all ⟨[opV [] 1 [fld none "s" [⟨"f", .bool true⟩]]]⟩ := fun h =>
  absurd ((rule_values_of_correct_type_iff vSchema Fixes.all _).mpr h) (by unfold Silent; decide +kernel)
/-- `{ s(unknown: {k: "x"}) }`: the position of the object literal has no known type; the rule is silent (with fix
    C06-H5 it does not raise `SkipNode` there: `skip_reports`), and the clause holds -/
example : Spec.valuesOfCorrectType vSchema Fixes.all
    ⟨[opV [] 1 [fld none "s" [⟨"unknown", .obj [.mk "k" (.str "x")]⟩]]]⟩ :=
  (rule_values_of_correct_type_iff vSchema Fixes.all _).mp (by unfold Silent; decide +kernel)

/-- computable form of `Spec.valuesCoercible` -/
def valuesCoercibleB (s : SchemaD) (d : Doc) : Bool :=
  (typedNodes s d).all fun p =>
    match p.1 with
    | .argument a =>
      match (argPos s p.2 a.name).inputType with
      | some t => coercible s t a.value
      | none => true
    | _ => true

theorem valuesCoercibleB_iff (s : SchemaD) (d : Doc) : valuesCoercibleB s d = true ↔ Spec.valuesCoercible s d := by
  unfold valuesCoercibleB Spec.valuesCoercible
  rw [List.all_eq_true]
  refine forall_congr' fun p => forall_congr' fun _ => ?_
  obtain ⟨n, w⟩ := p
  cases n with
  | argument a =>
    simp only [Node.argument.injEq, forall_eq']
    cases (argPos s w a.name).inputType <;> simp
  | _ => exact ⟨fun _ _ e => (nomatch e), fun _ => rfl⟩

/-- "silent ⇒ every literal argument value is coercible to the argument's type" - the soundness half of the
    specification's 5.6.1 for this rule -/
def ValuesSpecClauseStatement : Prop :=
  ∀ (s : SchemaD) (d : Doc), Silent s Fixes.all .valuesOfCorrectType d → Spec.valuesCoercible s d

/-- `{ s(f: ["x"]) }` with `f: String`: a list literal at a non-list position is accepted (known finding V8, whose
    replay on the real code is `{ a(x: [1]) }` with `x: Int`) -/
def v8doc : Doc := ⟨[opV [] 1 [fld none "s" [⟨"f", .list [.str "x"]⟩]]]⟩
/-- `{ s(l: [null]) }` with `l: [String!]`: the second form of V8 (a null item accepted); since
    fix fd410d8 (in /repo) the items are checked against the item type `String!` -/
def v8doc2 : Doc := ⟨[opV [] 1 [fld none "s" [⟨"l", .list [.null]⟩]]]⟩

/-- **the specification's clause is FALSE of the code** (known finding V8), witness `{ s(f: ["x"]) }` -/
theorem values_spec_clause_refuted : ¬ ValuesSpecClauseStatement := fun h =>
  absurd ((valuesCoercibleB_iff vSchema v8doc).mpr (h vSchema v8doc (by unfold Silent; decide +kernel)))
    (by decide +kernel)

/-- on the same witness the clause the code implements holds: the two clauses differ exactly there -/
example : Spec.valuesOfCorrectType vSchema Fixes.all v8doc ∧ ¬ Spec.valuesCoercible vSchema v8doc :=
  ⟨(rule_values_of_correct_type_iff vSchema Fixes.all _).mp (by unfold Silent; decide +kernel),
   fun h => absurd ((valuesCoercibleB_iff vSchema v8doc).mpr h) (by decide +kernel)⟩
/-- with that patch the null item of a `[String!]` literal is reported -/
example : ¬ Silent vSchema Fixes.all .valuesOfCorrectType v8doc2 ∧ ¬ Spec.valuesCoercible vSchema v8doc2 :=
  ⟨by unfold Silent; decide +kernel, fun h => absurd ((valuesCoercibleB_iff vSchema v8doc2).mpr h) (by decide +kernel)⟩

end PyGql.Props.C06
