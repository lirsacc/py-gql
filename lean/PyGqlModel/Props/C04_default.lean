/-
  C04 — the default resolver: documented lookup order, and "a Mapping parent lacking the key gives null at that
  position with no error", whatever the field is called.
-/
import PyGqlModel.DefaultResolver
import PyGqlModel.Props.C04


namespace PyGql.Props.C04
open PyGql PyGql.Exec

/-- For a Mapping parent the result is the stored value (also when it is None) or None
    when the key is absent — never an attribute or a bound method of the mapping, for EVERY field name
    (`items`, `keys`, `values`, `get`, `copy`, `pop`, `update`, `setdefault`, … included). -/
theorem default_resolver_mapping (kvs : List (String × PVal)) (name : String) :
    defaultResolver (.dict kvs) name = .value ((assoc kvs name).getD .none) := rfl

theorem default_resolver_mapping_absent (kvs : List (String × PVal)) (name : String) (h : assoc kvs name = none) :
    defaultResolver (.dict kvs) name = .value .none := by simp [defaultResolver, h]

/-- For objects: a plain attribute wins; else a callable of that name is called and
    its result (or its ResolverError) is the outcome; else None. -/
theorem default_resolver_lookup_order (attrs calls : List (String × PVal)) (raises : List (String × String)) (name : String) :
    defaultResolver (.obj attrs calls raises) name =
      match assoc attrs name, assoc calls name, assoc raises name with
      | some v, _, _ => .value v
      | none, some v, _ => .value v
      | none, none, some m => .raised m
      | none, none, none => .value .none := by
  simp only [defaultResolver]
  cases h1 : assoc attrs name <;> cases h2 : assoc calls name <;> cases h3 : assoc raises name <;> simp

/-- anything that is neither a Mapping nor an object with that attribute resolves to None -/
theorem default_resolver_other (name : String) : defaultResolver .none name = .value .none := rfl

/-- Executing with default resolvers over data, a nullable field whose parent is a
    Mapping lacking the key completes to `null` with NO error (the request goes on; siblings are untouched by
    `siblings_undisturbed`). -/
theorem absent_key_null_no_error (s : SchemaD) (root : PVal) (execSub) (parent : String) (path : Path) (key : String)
    (node : FNode) (more : List FNode) (fd : FieldD) (a : String) (kvs : List (String × PVal))
    (ha : (node.args.find? (·.1 == parent)).map (·.2) = some (some a))
    (hp : PVal.at root path = some (.dict kvs)) (habs : assoc kvs fd.name = none) (hn : fd.type.isNonNull = false) :
    resolveField s (dataWorld root) execSub parent (path ++ [.key key]) (node :: more) fd = .ok (.null, []) := by
  have hw : dataWorld root parent fd.name (path ++ [.key key]) a = .val .null := by
    simp [dataWorld, hp, defaultResolver, habs, toRVal]
  simp only [resolveField, ha, hw]
  rw [nullable_null_no_error s execSub (node :: more) fd.type _ hn]
  rfl

/-- the same for a key that is present with the value None -/
theorem present_none_null_no_error (s : SchemaD) (root : PVal) (execSub) (parent : String) (path : Path) (key : String)
    (node : FNode) (more : List FNode) (fd : FieldD) (a : String) (kvs : List (String × PVal))
    (ha : (node.args.find? (·.1 == parent)).map (·.2) = some (some a))
    (hp : PVal.at root path = some (.dict kvs)) (hpres : assoc kvs fd.name = some .none) (hn : fd.type.isNonNull = false) :
    resolveField s (dataWorld root) execSub parent (path ++ [.key key]) (node :: more) fd = .ok (.null, []) := by
  have hw : dataWorld root parent fd.name (path ++ [.key key]) a = .val .null := by
    simp [dataWorld, hp, defaultResolver, hpres, toRVal]
  simp only [resolveField, ha, hw]
  rw [nullable_null_no_error s execSub (node :: more) fd.type _ hn]
  rfl

/-! non-vacuity: a dict lacking `items`, an object with an attribute and a callable of other names -/
example : defaultResolver (.dict [("keys", .leaf (.str "k"))]) "items" = .value .none := by
  simp [defaultResolver, assoc]
example : (match defaultResolver (.obj [("a", .leaf (.num 1))] [("items", .leaf (.num 2))] []) "items" with
    | .value (.leaf (.num 2)) => true | _ => false) = true := by decide

end PyGql.Props.C04
