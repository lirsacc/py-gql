/-
  C17 — subscriptions map each source event to one isolated result, in order.
  Theorems about the model `PyGqlModel/Subscribe.lean` (tied to /repo by harness/corr/C17.py).
-/
import PyGqlModel.Subscribe


namespace PyGql.Props.C17
open PyGql.Subscribe PyGql.Instr

/-- draining the `AsyncMap` with enough calls is the plain map over the source; the source is
    pulled once per event plus the final pull that ends the stream -/
theorem collect_eq_responses (clear : Bool) : ∀ (fuel : Nat) (s : Stream), s.source.length < fuel →
    (Stream.collect clear fuel s).1 = responses clear s.st s.k s.source
    ∧ (Stream.collect clear fuel s).2.pulls = s.pulls + s.source.length + 1
    ∧ (Stream.collect clear fuel s).2.source = [] := by
  intro fuel
  induction fuel with
  | zero => exact fun s h => absurd h (Nat.not_lt_zero _)
  | succ fuel ih =>
    intro s h
    obtain ⟨src, st, k, pulls⟩ := s
    cases src with
    | nil => exact ⟨rfl, rfl, rfl⟩
    | cons e es =>
      obtain ⟨h1, h2, h3⟩ := ih ⟨es, (executeSubscriptionEvent clear st k e).1, k + 1, pulls + 1⟩ (Nat.lt_of_succ_lt_succ h)
      refine ⟨congrArg _ h1, h2.trans ?_, h3⟩
      simp only [List.length_cons]
      omega

/-- Exactly one result per source event (same length; order is
    `kth_result_is_exec_of_kth_event`), and the response stream ends when the source ends: the
    call after the last result pulls the exhausted source once and stops.
    (The statement is the length equation on the pure recursion; that the stream ends exactly when the source ends - `pulls`, `source = []` - is `collect_eq_responses`.) -/
theorem one_result_per_event (clear : Bool) (st : ExecState) (k : Nat) (evs : List Event) :
    (responses clear st k evs).length = evs.length := by
  induction evs generalizing st k with
  | nil => rfl
  | cons e es ih => simp [responses, ih]


/-- the result of executing the selection with `ev` as root value on a FRESH executor -/
def freshExec (k : Nat) (ev : Event) : Result := (executeSubscriptionEvent true ⟨[]⟩ k ev).2

private theorem clear_forgets (st : ExecState) (k : Nat) (ev : Event) :
    (executeSubscriptionEvent true st k ev).2 = freshExec k ev := rfl

/-- Whatever state the shared executor is in when the
    stream starts, the j-th result is exactly what a fresh execution of the selection with the
    j-th event as root value yields (results come in source order).
    WHAT THIS SAYS: `freshExec k e` IS `executeSubscriptionEvent true ⟨[]⟩ k e` - the same function of the model run on an empty executor (`clear_forgets` is `rfl`), and an `Event` is already the outcome tree of the selection (which fields raise, leaf values) over Subscribe.lean's own synchronous mini-executor. The content is therefore exactly: THE ERROR LIST IS RESET BEFORE EACH EVENT, so the k-th result does not depend on the history (necessary: `errors_not_isolated_without_clear_errors`). That the k-th result equals an execution of the selection on the C04/C08 executor models is NOT stated here; it is what the direct oracle checks on the real code (k-th response = graphql_blocking of the twin schema on event k). -/
theorem kth_result_is_exec_of_kth_event (st : ExecState) (k : Nat) (evs : List Event) (j : Nat) :
    (responses true st k evs)[j]? = evs[j]?.map (freshExec (k + j)) := by
  induction evs generalizing st k j with
  | nil => simp [responses]
  | cons e es ih =>
    cases j with
    | zero => simp [responses, clear_forgets]
    | succ j =>
      simp only [responses, List.getElem?_cons_succ, ih]
      congr 2; omega

mutual
private theorem errsField (k : Nat) : ∀ (path : Path) (n : ENode) (errs : List Err),
    ∀ x ∈ (resolveField k path n errs).2, x ∈ errs ∨ x.event = k
  | path, .mk key raises c, errs => by
    intro x hx
    cases raises with
    | true =>
      rcases List.mem_append.1 hx with h | h
      · exact .inl h
      · exact .inr (List.mem_singleton.1 h ▸ rfl)
    | false => exact errsComp k _ c errs x hx
private theorem errsComp (k : Nat) : ∀ (p : Path) (c : EComp) (errs : List Err),
    ∀ x ∈ (completeValue k p c errs).2, x ∈ errs ∨ x.event = k
  | _, .leaf _, _ => fun _ hx => .inl hx
  | _, .null, _ => fun _ hx => .inl hx
  | p, .obj fs, errs => fun x hx => errsFields k p fs errs x hx
  | p, .list items, errs => fun x hx => errsItems k p 0 items errs x hx
private theorem errsFields (k : Nat) : ∀ (p : Path) (fs : List ENode) (errs : List Err),
    ∀ x ∈ (executeFields k p fs errs).2, x ∈ errs ∨ x.event = k
  | _, [], _ => fun _ hx => .inl hx
  | p, n :: ns, errs => fun x hx =>
    (errsFields k p ns _ x hx).elim (errsField k p n errs x) .inr
private theorem errsItems (k : Nat) : ∀ (p : Path) (i : Nat) (cs : List EComp) (errs : List Err),
    ∀ x ∈ (completeItems k p i cs errs).2, x ∈ errs ∨ x.event = k
  | _, _, [], _ => fun _ hx => .inl hx
  | p, i, c :: cs, errs => fun x hx =>
    (errsItems k p (i + 1) cs _ x hx).elim (errsComp k _ c errs x) .inr
end

/-- invariant over the event index: after processing event `k` (with `clear_errors` first) the
    shared error list only holds errors raised while processing event `k` -/
theorem executor_errors_after_event (st : ExecState) (k : Nat) (ev : Event) :
    ∀ x ∈ (executeSubscriptionEvent true st k ev).1.errors, x.event = k := by
  intro x hx
  rcases errsFields k [] ev [] x (by simpa [executeSubscriptionEvent] using hx) with h | h
  · simp at h
  · exact h

/-- The error list of the j-th result contains only errors raised while
    processing the j-th event, for every stream, every failure pattern and whatever the shared
    executor held before.
    (The tag `event := k` is stamped by the model's own mini-executor: together with `errors_not_isolated_without_clear_errors` the content is that `clear_errors` runs first.) -/
theorem errors_isolated (st : ExecState) (k : Nat) (evs : List Event) (j : Nat) (r : Result)
    (h : (responses true st k evs)[j]? = some r) : ∀ x ∈ r.errors, x.event = k + j := by
  rw [kth_result_is_exec_of_kth_event] at h
  cases he : evs[j]? with
  | none => simp [he] at h
  | some e =>
    simp only [he, Option.map_some, Option.some.injEq] at h
    subst h
    intro x hx
    exact executor_errors_after_event ⟨[]⟩ (k + j) e x (by simpa [freshExec, executeSubscriptionEvent] using hx)

/-- non-vacuity: two events, the first one fails at `root.x`, the second one is clean -/
private def evFail : Event := [.mk "root" false (.obj [.mk "x" true .null, .mk "y" false (.leaf 1)])]
private def evOk : Event := [.mk "root" false (.obj [.mk "x" false (.leaf 2), .mk "y" false (.leaf 3)])]
example : ((responses true ⟨[]⟩ 0 [evFail, evOk]).map (·.errors)) = [[⟨0, [.key "root", .key "x"]⟩], []] := by decide +kernel

/-- What `clear_errors` is for, machine-checked: on the same executor WITHOUT the
    `executor.clear_errors()` step the second result still carries the first event's error —
    isolation fails. (This is the mutation the correspondence must catch.) -/
theorem errors_not_isolated_without_clear_errors :
    ∃ (evs : List Event) (j : Nat),
      ∃ x ∈ (((responses false ⟨[]⟩ 0 evs).map (·.errors))[j]?).getD [], x.event ≠ j :=
  ⟨[evFail, evOk], 1, ⟨0, [.key "root", .key "x"]⟩, by decide +kernel, by decide +kernel⟩

mutual
/-- the response keys written anywhere in a root selection (through fragments), skipped ones dropped -/
def flatKeysSel : RSel → List String
  | .field none => []
  | .field (some k) => [k]
  | .spread ss => flatKeys ss
def flatKeys : List RSel → List String
  | [] => []
  | s :: ss => flatKeysSel s ++ flatKeys ss
end

mutual
private theorem collectSel_spec : ∀ (s : RSel) (acc : List String), acc.Nodup →
    (collectSel s acc).Nodup ∧ ∀ k, k ∈ collectSel s acc ↔ k ∈ acc ∨ k ∈ flatKeysSel s
  | .field none, acc, h => by simp [collectSel, flatKeysSel, h]
  | .field (some k), acc, h => by
    by_cases hk : k ∈ acc
    · simp only [collectSel, hk, if_true, flatKeysSel, List.mem_singleton]
      exact ⟨h, fun x => ⟨.inl, fun hx => hx.elim id (fun e => e ▸ hk)⟩⟩
    · simp only [collectSel, hk, if_false, flatKeysSel]
      refine ⟨?_, fun x => by simp [List.mem_append]⟩
      rw [List.nodup_append]
      refine ⟨h, by simp, ?_⟩
      intro a ha b hb
      simp at hb
      subst hb
      exact fun e => hk (e ▸ ha)
  | .spread ss, acc, h => by simpa [collectSel, flatKeysSel] using collectSels_spec ss acc h
private theorem collectSels_spec : ∀ (ss : List RSel) (acc : List String), acc.Nodup →
    (collectSels ss acc).Nodup ∧ ∀ k, k ∈ collectSels ss acc ↔ k ∈ acc ∨ k ∈ flatKeys ss
  | [], acc, h => by simp [collectSels, flatKeys, h]
  | s :: ss, acc, h => by
    have h1 := collectSel_spec s acc h
    have h2 := collectSels_spec ss (collectSel s acc) h1.1
    refine ⟨by simpa [collectSels] using h2.1, fun k => ?_⟩
    simp only [collectSels, h2.2 k, h1.2 k, flatKeys, List.mem_append]
    exact or_assoc
end

/-- **the single-root-field rule is about the COLLECTED fields, not about how they are written**:
    the collected root keys are exactly the distinct response keys reachable through fragment
    spreads and inline fragments (skipped fields dropped), each once. -/
theorem collected_root_fields (root : List RSel) :
    (collectSels root []).Nodup ∧ ∀ k, k ∈ collectSels root [] ↔ k ∈ flatKeys root := by
  have := collectSels_spec root [] List.nodup_nil
  exact ⟨this.1, fun k => by simpa using this.2 k⟩

/-- two spellings of the root selection that reach the same set of response keys are treated
    alike by the rule (same number of collected fields) -/
theorem root_rule_spelling_independent (r1 r2 : List RSel) (h : ∀ k, k ∈ flatKeys r1 ↔ k ∈ flatKeys r2) :
    (collectSels r1 []).length = (collectSels r2 []).length := by
  have a := collected_root_fields r1
  have b := collected_root_fields r2
  exact ((List.perm_ext_iff_of_nodup a.1 b.1).2 (fun k => by rw [a.2, b.2, h])).length_eq

/-- one top-level selection that EXPANDS to two root fields is two fields; one field written
    twice (or through a fragment, or next to a skipped field) is one field -/
example : (collectSels [.spread [.field (some "counter"), .field (some "doubled")]] []).length = 2 := by decide +kernel
example : (collectSels [.spread [.field (some "a"), .spread [.field (some "b")]]] []).length = 2 := by decide +kernel
example : (collectSels [.field (some "counter"), .field (some "counter")] []).length = 1 := by decide +kernel
example : (collectSels [.spread [.field (some "counter")], .field none, .field (some "counter")] []).length = 1 := by decide +kernel

/-- A failure of operation selection, a non-subscription operation (refused as such
    BEFORE its variables are looked at), a failure of variable coercion, a runtime without stream support, a root selection that does not COLLECT to
    exactly one field (however it is spelled), an undefined field, a field without subscription
    resolver are refused with the exception class the code documents, in that order of
    precedence, and in every refusal neither the subscription resolver was called nor a single
    event pulled from a source. Everything else is accepted.
    WHAT THIS SAYS: `subscribe` in the model is the if-chain of the code over the flags of `SubRequest`, and every refused branch is the literal `.refused exc false 0`; this theorem (and `refused_before_variables`, `refusals_uncomputable`) is a case split over that chain: it pins WHICH exception class each condition yields and the ORDER of the checks. `subResolverCalled = false` / `pulls = 0` are constants of the refused branches, not derived from a step relation: the model has no step at which the subscription resolver is called or the source iterator is pulled, so 'before any event is consumed' is checked on the REAL code only (instrumented source: no `__aiter__` / `__anext__` / resolver call on any refusal, every runtime class). The non-definitional part of the root rule is `collected_root_fields` / `root_rule_spelling_independent`. -/
theorem refusals (r : SubRequest) :
    (r.opselOk = false → subscribe r = .refused "InvalidOperationError" false 0)
    ∧ (r.opselOk = true → r.operation ≠ .subscription → subscribe r = .refused "RuntimeError" false 0)
    ∧ (r.opselOk = true → r.operation = .subscription → r.streamRuntime = true → r.varsOk = false →
        subscribe r = .refused "VariablesCoercionError" false 0)
    ∧ (r.opselOk = true → r.varsOk = true → (r.operation ≠ .subscription ∨ r.streamRuntime = false) →
        subscribe r = .refused "RuntimeError" false 0)
    ∧ (r.opselOk = true → r.varsOk = true → r.operation = .subscription → r.streamRuntime = true →
        r.rootCollectOk = true →
        (collectSels r.root []).length ≠ 1 → subscribe r = .refused "ExecutionError" false 0)
    ∧ (r.opselOk = true → r.varsOk = true → r.operation = .subscription → r.streamRuntime = true →
        r.rootCollectOk = true →
        (collectSels r.root []).length = 1 → (r.fieldDefined = false ∨ r.hasSubResolver = false) →
        subscribe r = .refused "RuntimeError" false 0)
    ∧ (r.opselOk = true → r.varsOk = true → r.operation = .subscription → r.streamRuntime = true →
        r.rootCollectOk = true → r.argsOk = true →
        (collectSels r.root []).length = 1 → r.fieldDefined = true → r.hasSubResolver = true →
        subscribe r = .stream (responses true ⟨[]⟩ 0 r.events) (r.events.length + 1)) := by
  refine ⟨?_, ?_, ?_, ?_, ?_, ?_, ?_⟩
  · intro h; simp [subscribe, h]
  · intro h1 h2; simp [subscribe, h1, h2]
  · intro h1 h2 h3 h4; simp [subscribe, h1, h2, h3, h4]
  · rintro h1 _ (h | h) <;> simp [subscribe, h1, h]
  · intro h1 h2 h3 h4 hc h5; simp [subscribe, h1, h2, h3, h4, hc, h5]
  · intro h1 h2 h3 h4 hc h5 h6
    rcases h6 with h | h <;> simp [subscribe, h1, h2, h3, h4, hc, h5, h]
  · intro h1 h2 h3 h4 hc ha h5 h6 h7
    have := collect_eq_responses true (r.events.length + 1) ⟨r.events, ⟨[]⟩, 0, 0⟩ (Nat.lt_succ_self _)
    simp [subscribe, h1, h2, h3, h4, hc, ha, h5, h6, h7, this]

/-- the refusals that do not depend on the request's variables come before variable coercion: a non-subscription
    operation and a runtime without stream support are refused with the documented `RuntimeError` WHATEVER the variables are
    (missing, wrongly typed, …) -/
theorem refused_before_variables (r : SubRequest) (h1 : r.opselOk = true)
    (h : r.operation ≠ .subscription ∨ r.streamRuntime = false) :
    subscribe r = .refused "RuntimeError" false 0 := by
  rcases h with h | h <;> simp [subscribe, h1, h]

/-- **refusals, conditions that cannot be evaluated** — a subscription whose root `@skip` / `@include`
    condition, or whose subscription-field argument, cannot be coerced (a defaulted nullable variable sent
    as `null` at a non-null position: the document validates and the variables are accepted) is refused
    with `ExecutionError` — the class `subscribe` uses to refuse a request — and neither the subscription
    resolver is called nor an event pulled. -/
theorem refusals_uncomputable (r : SubRequest)
    (h1 : r.opselOk = true) (h2 : r.varsOk = true) (h3 : r.operation = .subscription) (h4 : r.streamRuntime = true) :
    (r.rootCollectOk = false → subscribe r = .refused "ExecutionError" false 0)
    ∧ (r.rootCollectOk = true → (collectSels r.root []).length = 1 → r.fieldDefined = true → r.hasSubResolver = true →
        r.argsOk = false → subscribe r = .refused "ExecutionError" false 0) := by
  refine ⟨?_, ?_⟩
  · intro h; simp [subscribe, h1, h2, h3, h4, h]
  · intro a b c d e; simp [subscribe, h1, h2, h3, h4, a, b, c, d, e]

/-- an accepted subscription: one result per event, in order, each the fresh execution of its
    event, errors isolated, source pulled `n + 1` times (the stream ends with the source) -/
theorem accepted_stream (r : SubRequest) (rs : List Result) (pulls : Nat) (h : subscribe r = .stream rs pulls) :
    rs.length = r.events.length ∧ pulls = r.events.length + 1
    ∧ (∀ j, rs[j]? = r.events[j]?.map (freshExec j))
    ∧ (∀ (j : Nat) (res : Result), rs[j]? = some res → ∀ x ∈ res.errors, x.event = j) := by
  have R := refusals r
  by_cases c0 : r.opselOk = true
  case neg => rw [R.1 (by simpa using c0)] at h; cases h
  by_cases c1 : r.operation = .subscription
  case neg => rw [R.2.1 c0 c1] at h; cases h
  by_cases c2 : r.streamRuntime = true
  case neg => rw [refused_before_variables r c0 (.inr (by simpa using c2))] at h; cases h
  by_cases c0' : r.varsOk = true
  case neg => rw [R.2.2.1 c0 c1 c2 (by simpa using c0')] at h; cases h
  have U := refusals_uncomputable r c0 c0' c1 c2
  by_cases cc : r.rootCollectOk = true
  case neg => rw [U.1 (by simpa using cc)] at h; cases h
  by_cases c3 : (collectSels r.root []).length = 1
  case neg => rw [R.2.2.2.2.1 c0 c0' c1 c2 cc c3] at h; cases h
  by_cases c4 : r.fieldDefined = true
  case neg => rw [R.2.2.2.2.2.1 c0 c0' c1 c2 cc c3 (.inl (by simpa using c4))] at h; cases h
  by_cases c5 : r.hasSubResolver = true
  case neg => rw [R.2.2.2.2.2.1 c0 c0' c1 c2 cc c3 (.inr (by simpa using c5))] at h; cases h
  by_cases ca : r.argsOk = true
  case neg => rw [U.2 cc c3 c4 c5 (by simpa using ca)] at h; cases h
  rw [R.2.2.2.2.2.2 c0 c0' c1 c2 cc ca c3 c4 c5] at h
  injection h with h1 h2
  subst h1 h2
  refine ⟨one_result_per_event _ _ _ _, rfl, ?_, ?_⟩
  · intro j; simpa using kth_result_is_exec_of_kth_event ⟨[]⟩ 0 r.events j
  · intro j res hj; simpa using errors_isolated ⟨[]⟩ 0 r.events j res hj

example : ∃ rs pulls, subscribe ⟨true, true, .subscription, [.field (some "root"), .spread [.field (some "root")]], true, true, true, true, true,
    [evFail, evOk, evFail]⟩ = .stream rs pulls ∧ rs.length = 3 :=
  ⟨_, _, rfl, by decide +kernel⟩

example : subscribe ⟨true, true, .subscription, [.field (some "tick")], true, true, true, true, false, [evOk]⟩
    = .refused "ExecutionError" false 0 := rfl

/-- the spelling the seeded change /verif/seeded/C17-2 let through: one fragment spread that expands to two fields -/
example : subscribe ⟨true, true, .subscription, [.spread [.field (some "counter"), .field (some "doubled")]], true, true, true, true, true, [evOk]⟩
    = .refused "ExecutionError" false 0 := rfl

end PyGql.Props.C17
