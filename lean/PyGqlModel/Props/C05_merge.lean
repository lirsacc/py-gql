/-
  C05 — `validated_no_internal_error` under the premise the validator actually guarantees.

  `MergeSafe` (declarative form of OverlappingFieldsCanBeMerged, June-2018 §5.3.2): in every selection-set SCOPE (a
  selection list with the fragments spread into it, each field tagged with the static parent type it is selected on),
  two fields with the same response key
    * whose parent types can OVERLAP (some object type belongs to both: same type, or one of them abstract and
      containing the other …) have the same field name and the same (coerced) arguments, and their sub-selections, merged, are again `MergeSafe`;
    * in any case have return types of the same SHAPE (`SameShape`: same list / non-null structure, equal leaf types or
      both composite).
  The executor groups by response key PER RUNTIME OBJECT TYPE after applying type conditions: two nodes end in one
  group only if the runtime type belongs to both parent types — i.e. the parents overlap — so the overlap clause is
  exactly what the no-internal-error argument needs. `KeyConsistent` (one key ↔ one field in the whole document) is not
  assumed: `{ pet { ... on Dog { v: bark } ... on Cat { v: lives } } }` is `MergeSafe`.
-/
import PyGqlModel.Props.C05_exec
import PyGqlModel.Props.C05
import PyGqlModel.Spec.MergeSafe
import PyGqlModel.Spec.ValidDocR
import PyGqlModel.Lemmas.C04Met

set_option linter.unusedSimpArgs false

namespace PyGql.Props.C05
open PyGql PyGql.Exec PyGql.Spec PyGql.Props.C04

theorem tag_map_snd (T : String) (sels : List Sel) : (tag T sels).map (·.2) = sels := by
  simp [tag, Function.comp_def]

theorem mem_tag {T T' : String} {x : Sel} {sels : List Sel} (h : (T', x) ∈ tag T sels) : T' = T ∧ x ∈ sels := by
  obtain ⟨y, hy, he⟩ := List.mem_map.1 h
  cases he
  exact ⟨rfl, hy⟩

/-- the fields of a scope, with the static parent type of each -/
inductive InScope (doc : Doc) : TSels → String × FNode → Prop
  | field {L T key name loc dirs args hs sub} : (T, Sel.field key name loc dirs args hs sub) ∈ L →
      InScope doc L (T, { key := key, name := name, loc := loc, args := args, hasSub := hs, sub := sub })
  | inline {L T on dirs sub x} : (T, Sel.inline on dirs sub) ∈ L → InScope doc (tag (on.getD T) sub) x → InScope doc L x
  | spread {L T name dirs fr x} : (T, Sel.spread name dirs) ∈ L → doc.fragment? name = some fr →
      InScope doc (tag fr.on fr.sels) x → InScope doc L x

theorem InScope.mono {doc : Doc} {A B : TSels} {x : String × FNode} (h : InScope doc A x) (hab : ∀ y ∈ A, y ∈ B) : InScope doc B x := by
  cases h with
  | field hm => exact .field (hab _ hm)
  | inline hm hr => exact .inline (hab _ hm) hr
  | spread hm hf hr => exact .spread (hab _ hm) hf hr

theorem inScope_nil {doc : Doc} {x : String × FNode} (h : InScope doc [] x) : False := by
  cases h with
  | field hm => exact List.not_mem_nil hm
  | inline hm _ => exact List.not_mem_nil hm
  | spread hm _ _ => exact List.not_mem_nil hm

theorem InScope.append_split {doc : Doc} {A B : TSels} {x : String × FNode} (h : InScope doc (A ++ B) x) :
    InScope doc A x ∨ InScope doc B x := by
  cases h with
  | field hm =>
    rcases List.mem_append.mp hm with h1 | h1
    · exact Or.inl (.field h1)
    · exact Or.inr (.field h1)
  | inline hm hr =>
    rcases List.mem_append.mp hm with h1 | h1
    · exact Or.inl (.inline h1 hr)
    · exact Or.inr (.inline h1 hr)
  | spread hm hf hr =>
    rcases List.mem_append.mp hm with h1 | h1
    · exact Or.inl (.spread h1 hf hr)
    · exact Or.inr (.spread h1 hf hr)

def Overlap (s : SchemaD) (P1 P2 : String) : Prop := ∃ rt, Under s rt P1 ∧ Under s rt P2

/-- distinct object types never overlap: `Overlap` implies the rule's "not mutually exclusive" -/
theorem overlap_not_exclusive (s : SchemaD) (P1 P2 : String) (h : Overlap s P1 P2)
    (h1 : possibleTypes s P1 = []) (h2 : possibleTypes s P2 = []) : P1 = P2 := by
  obtain ⟨rt, u1, u2⟩ := h
  rcases u1 with rfl | u1
  · rcases u2 with rfl | u2
    · rfl
    · simp [isPossibleType, h2] at u2
  · simp [isPossibleType, h1] at u1

/-- merge safety of a scope. Clause 1: same-key fields under OVERLAPPING parents are the same call. Clause 2: their merged
    sub-selections are merge-safe again (this is where the predicate recurses: only sub-selections that can meet in one
    response object are merged). Clause 3 (`SameResponseShape` on the declared types): ALL same-key fields of the scope,
    also under mutually exclusive parents, declare types of one shape class — used by `same_key_one_shape` /
    `same_key_value_unambiguous` below. For exclusive pairs it is stated at this level only: their sub-selections are never
    merged into one response object, so nothing the executor does depends on a deeper comparison (the validation rule
    compares them further; that part constrains what clients can assume across different runtime types, not execution). -/
inductive MS (s : SchemaD) (doc : Doc) : TSels → Prop
  | intro {L : TSels} :
      (∀ x y, InScope doc L x → InScope doc L y → x.2.key = y.2.key → Overlap s x.1 y.1 → x.2.name = y.2.name ∧ x.2.args = y.2.args) →
      (∀ x y, InScope doc L x → InScope doc L y → x.2.key = y.2.key → Overlap s x.1 y.1 →
          MS s doc (typedSub s x.1 x.2 ++ typedSub s y.1 y.2)) →
      (∀ x y t u, InScope doc L x → InScope doc L y → x.2.key = y.2.key →
          fieldTy s x.1 x.2 = some t → fieldTy s y.1 y.2 = some u → sameShape s t u = true) →
      MS s doc L

/-- the selection set of every operation is a merge-safe scope (fragment bodies enter through the scopes
    they are spread into; unused fragments are never executed) -/
def MergeSafe (s : SchemaD) (doc : Doc) : Prop :=
  ∀ o ∈ doc.ops, ∀ root, rootType s o.kind = some root → MS s doc (tag root o.sels)

theorem ms_of_cover (s : SchemaD) (doc : Doc) (L : TSels)
    (h : ∀ x y, InScope doc L x → InScope doc L y → ∃ A, MS s doc A ∧ InScope doc A x ∧ InScope doc A y) : MS s doc L := by
  refine .intro ?_ ?_ ?_
  · intro x y hx hy hk ho
    obtain ⟨A, hA, ax, ay⟩ := h x y hx hy
    cases hA with
    | intro h1 _ _ => exact h1 x y ax ay hk ho
  · intro x y hx hy hk ho
    obtain ⟨A, hA, ax, ay⟩ := h x y hx hy
    cases hA with
    | intro _ h2 _ => exact h2 x y ax ay hk ho
  · intro x y t u hx hy hk ht hu
    obtain ⟨A, hA, ax, ay⟩ := h x y hx hy
    cases hA with
    | intro _ _ h3 => exact h3 x y t u ax ay hk ht hu

/-- what the soundness proof asks of a predicate `M` on scopes to carry it through the recursion: same-key fields under
    overlapping parents name one field, and a scope every two members of which come from the merged sub-selections of
    such a pair satisfies `M` again. `MS` is one such predicate (`mergeable_ms`); "the fields of the scope are fields of
    a document in which one response key denotes one field" is another (`mergeable_keyConsistent`). -/
structure Mergeable (s : SchemaD) (doc : Doc) (M : TSels → Prop) : Prop where
  name : ∀ {L}, M L → ∀ x y, InScope doc L x → InScope doc L y → x.2.key = y.2.key → Overlap s x.1 y.1 → x.2.name = y.2.name
  sub : ∀ {L}, M L → ∀ L', (∀ x y, InScope doc L' x → InScope doc L' y → ∃ a b, InScope doc L a ∧ InScope doc L b ∧
      a.2.key = b.2.key ∧ Overlap s a.1 b.1 ∧
      InScope doc (typedSub s a.1 a.2 ++ typedSub s b.1 b.2) x ∧ InScope doc (typedSub s a.1 a.2 ++ typedSub s b.1 b.2) y) → M L'

theorem mergeable_ms (s : SchemaD) (doc : Doc) : Mergeable s doc (MS s doc) where
  name := fun hms x y hx hy hk ho => by
    cases hms with
    | intro h1 _ _ => exact (h1 x y hx hy hk ho).1
  sub := fun hms L' hcov => ms_of_cover s doc L' fun x y hx hy => by
    obtain ⟨a, b, ha, hb, hk, ho, hxa, hya⟩ := hcov x y hx hy
    cases hms with
    | intro _ h2 _ => exact ⟨_, h2 a b ha hb hk ho, hxa, hya⟩

theorem inScope_docFields {doc : Doc} {L : TSels} {x : String × FNode} (h : InScope doc L x)
    (hL : ∀ y ∈ selsFields (L.map (·.2)), y ∈ docFields doc) :
    (x.2.key, x.2.name, x.2.hasSub) ∈ docFields doc ∧ ∀ y ∈ selsFields x.2.sub, y ∈ docFields doc := by
  induction h with
  | field hm =>
    have hF := fun y hy => hL y (selsFields_mem _ _ (List.mem_map_of_mem hm) y hy)
    exact ⟨hF _ (by simp [selFields]), fun y hy => hF y (by simp [selFields, hy])⟩
  | inline hm _ ih =>
    refine ih fun y hy => hL y (selsFields_mem _ _ (List.mem_map_of_mem hm) y ?_)
    simpa [selFields, tag_map_snd] using hy
  | spread hm hf _ ih =>
    refine ih fun y hy => ?_
    rw [tag_map_snd] at hy
    unfold docFields
    simp only [List.mem_append, List.mem_flatMap]
    exact Or.inr ⟨_, fragment_mem hf, hy⟩

theorem mergeable_keyConsistent (s : SchemaD) (doc : Doc) (hF : KeyConsistent (docFields doc)) :
    Mergeable s doc fun L => ∀ x, InScope doc L x →
      (x.2.key, x.2.name, x.2.hasSub) ∈ docFields doc ∧ ∀ y ∈ selsFields x.2.sub, y ∈ docFields doc where
  name := fun hL x y hx hy hk _ => hF _ (hL x hx).1 _ (hL y hy).1 hk
  sub := fun hL L' hcov x hx => by
    obtain ⟨a, b, ha, hb, _, _, hxa, _⟩ := hcov x x hx hx
    have sub : ∀ c, InScope doc _ c → InScope doc (typedSub s c.1 c.2) x → _ := fun c hc h =>
      inScope_docFields h fun y hy => (hL c hc).2 y (by
        unfold typedSub at hy
        split at hy
        · rwa [tag_map_snd] at hy
        · simp [selsFields] at hy)
    exact hxa.append_split.elim (sub a ha) (sub b hb)

def SelsUnderT (s : SchemaD) (doc : Doc) (vars : Vars) (rt : String) (L : TSels) : Prop :=
  ∀ x ∈ L, Under s rt x.1 ∧ selOk s doc vars x.1 x.2 = true

/-- a collected node: a field of the scope whose parent contains the runtime type, well-typed under that parent -/
def NodeOkT (s : SchemaD) (doc : Doc) (vars : Vars) (L : TSels) (rt : String) (n : FNode) : Prop :=
  ∃ P, InScope doc L (P, n) ∧ Under s rt P ∧
    ((n.name = "__typename" ∧ n.hasSub = false) ∨
     (isMeta n.name = false ∧ ∃ fd, fieldOf s P n.name = some fd ∧ (n.hasSub = true → selsOk s doc vars fd.type.base n.sub = true)))

theorem selsUnderT_tag {s : SchemaD} {doc : Doc} {vars : Vars} {rt c : String} {sub : List Sel} (hc : Under s rt c)
    (hok : selsOk s doc vars c sub = true) : SelsUnderT s doc vars rt (tag c sub) := by
  intro x hx
  simp only [tag, List.mem_map] at hx
  obtain ⟨y, hy, rfl⟩ := hx
  exact ⟨hc, selsOk_forall s doc vars c sub hok y hy⟩

theorem NodeOkT.mono {s : SchemaD} {doc : Doc} {vars : Vars} {A B : TSels} {rt : String} {n : FNode}
    (h : NodeOkT s doc vars A rt n) (hab : ∀ y, InScope doc A y → InScope doc B y) : NodeOkT s doc vars B rt n := by
  obtain ⟨P, hi, hu, hc⟩ := h
  exact ⟨P, hab _ hi, hu, hc⟩

theorem under_of_applies {s : SchemaD} {obj c : String} (h : fragmentTypeApplies s obj (some c) = .ok true) : Under s obj c := by
  simp only [fragmentTypeApplies] at h
  split at h
  · cases h
  · simp only [Except.ok.injEq, Bool.or_eq_true, Bool.and_eq_true, beq_iff_eq] at h
    exact h.imp Eq.symm And.right

/-- every selection met in the expansion of a well-typed tagged list is well-typed under a tag the runtime type belongs
    to (if it belongs to the tags of the list), and the node it yields is a field of the scope of the list -/
theorem met_scope {s : SchemaD} {doc : Doc} {vars : Vars} {obj : String} (hf : fragsOk s doc vars = true) {sels : List Sel} {x : Sel}
    (hm : Met s doc vars obj sels x) :
    ∀ L : TSels, L.map (·.2) = sels → (∀ y ∈ L, selOk s doc vars y.1 y.2 = true) →
      ∃ T, selOk s doc vars T x = true ∧ ((∀ y ∈ L, Under s obj y.1) → Under s obj T) ∧
        ∀ n, Yields vars x n → InScope doc L (T, n) := by
  induction hm with
  | here hx =>
    intro L hL hok
    subst hL
    obtain ⟨⟨T, x⟩, hy, rfl⟩ := List.mem_map.1 hx
    exact ⟨T, hok _ hy, fun hu => hu _ hy, fun n hn => by cases hn; exact .field hy⟩
  | @under _ _ sub name y hx ho _ ih =>
    intro L hL hok
    subst hL
    obtain ⟨⟨T0, x0⟩, hy, rfl⟩ := List.mem_map.1 hx
    -- the scope that `x0` opens: its selections are well-typed under its tag, to which the runtime type belongs
    have opened : ∀ c : String, selsOk s doc vars c sub = true → ((∀ z ∈ L, Under s obj z.1) → Under s obj c) →
        (∀ z, InScope doc (tag c sub) z → InScope doc L z) →
        ∃ T, selOk s doc vars T y = true ∧ ((∀ z ∈ L, Under s obj z.1) → Under s obj T) ∧
          ∀ n, Yields vars y n → InScope doc L (T, n) := fun c hsub hc hin => by
      obtain ⟨T, hsel, hu, hn⟩ := ih (tag c sub) (tag_map_snd c sub)
        (fun z hz => (mem_tag hz).1 ▸ selsOk_forall s doc vars c sub hsub z.2 (mem_tag hz).2)
      exact ⟨T, hsel, fun hU => hu fun z hz => (mem_tag hz).1 ▸ hc hU, fun n hy => hin _ (hn n hy)⟩
    cases ho with
    | @inline on _ _ hs ha =>
      refine opened _ (selOk_inline (hok _ hy)).1 (fun hU => ?_) fun z hz => .inline hy hz
      cases on with
      | none => exact hU _ hy
      | some c => exact under_of_applies ha
    | spread hs hfr ha =>
      exact opened _ (fragsOk_fragment hf hfr).2 (fun _ => under_of_applies ha) fun z hz => .spread hy hfr hz

theorem headErr_typed {s : SchemaD} {doc : Doc} {vars : Vars} {obj : String} (hf : fragsOk s doc vars = true) {T : String} {x : Sel}
    {e : Fail} (hsel : selOk s doc vars T x = true) (h : HeadErr s doc vars obj x e) : e = .internal "CoercionError" := by
  rcases h with h | ⟨on, dirs, sub, rfl, _, h⟩ | ⟨nm, dirs, fr, rfl, _, hfr, h⟩ | ⟨nm, dirs, rfl, hfr, _⟩
  · exact Lemmas.C04Raise.skipSelection_err _ _ _ h
  · cases on with
    | none => cases h
    | some c => rw [fragmentTypeApplies_composite obj ((selOk_inline hsel).2 c rfl)] at h; cases h
  · rw [fragmentTypeApplies_composite obj (fragsOk_fragment hf hfr).1] at h; cases h
  · obtain ⟨fr, hfr'⟩ := selOk_spread hsel
    rw [hfr] at hfr'
    cases hfr'

private theorem collect_error {s : SchemaD} {doc : Doc} {vars : Vars} (hf : fragsOk s doc vars = true) {fuel : Nat} {obj : String}
    {L : TSels} {seen : List String} (hok : ∀ y ∈ L, selOk s doc vars y.1 y.2 = true) :
    NoIntC (collectFields s doc vars fuel obj (L.map (·.2)) seen) := by
  intro cls he
  have hs := mseq_sound (s := s) (doc := doc) (vars := vars) fuel obj (L.map (·.2)) seen
  rw [collectFields_eq_mseq] at he
  cases hm : mseq s doc vars fuel obj (L.map (·.2)) seen with
  | ok p => rw [hm] at he; cases he
  | error e =>
    rw [hm] at hs he
    cases he
    rcases hs with hs | ⟨x, hx, he⟩
    · cases hs
    · obtain ⟨T, hsel, _⟩ := met_scope hf hx L rfl hok
      exact Fail.internal.inj (headErr_typed hf hsel he)

theorem groupOk_addSeq {P : FNode → Prop} {g : Grouped} {q : List FNode} (hg : GroupOk P g) (hq : ∀ n ∈ q, P n) :
    GroupOk P (addSeq g q) := by
  induction q generalizing g with
  | nil => exact hg
  | cons n q ih =>
    exact ih (extend_groupOk P g n.key [n] hg (List.cons_ne_nil _ _) fun m hm => by
      cases List.mem_singleton.1 hm; exact hq n List.mem_cons_self) fun m hm => hq m (List.mem_cons_of_mem _ hm)

private theorem collect_soundT (s : SchemaD) (doc : Doc) (vars : Vars) (hf : fragsOk s doc vars = true) (fuel : Nat) (obj : String)
    (L : TSels) (seen : List String) (hsu : SelsUnderT s doc vars obj L) :
    NoIntC (collectFields s doc vars fuel obj (L.map (·.2)) seen) ∧
    ∀ g seen', collectFields s doc vars fuel obj (L.map (·.2)) seen = .ok (g, seen') → GroupOk (NodeOkT s doc vars L obj) g := by
  refine ⟨collect_error hf fun y hy => (hsu y hy).2, fun g seen' h => ?_⟩
  obtain ⟨q, rfl, hq⟩ := collected h
  refine groupOk_addSeq (fun _ hkv => nomatch hkv) fun n hn => ?_
  obtain ⟨x, hx, hy⟩ := hq n hn
  obtain ⟨T, hsel, hu, hin⟩ := met_scope hf hx L rfl fun y hy => (hsu y hy).2
  refine ⟨T, hin n hy, hu fun y hy => (hsu y hy).1, ?_⟩
  cases hy with
  | field _ => exact (selOk_field hsel).imp_right fun ⟨hm, fd, hfo, hsub⟩ => ⟨hm, fd, hfo, fun h => (hsub h).2⟩

/-- **validated_no_internal_error** (collection): on a document whose fragment definitions are well-typed, collecting
    any well-typed selection set for ANY runtime object type, any `_seen_fragments` set and ANY fuel never takes the
    `KeyError` branch of `fragments[name]` nor the `UnknownType` branch of `get_type_from_literal` (the crash sites
    behind finding V1 once validation lets a document through). The one remaining failure is the `CoercionError` of
    `_skip_selection` on a condition that is not a Boolean at run time (`@skip(if: [true])`, a nullable variable with a
    default bound to `null`): validation cannot exclude it, and `ResolutionContext.collect_fields` (/repo fix 4e87d3d)
    converts it into a field error (`Exec.catchDirective`, `Lemmas.C04Raise.executeFields_raised`). -/
theorem collect_no_internal_error (s : SchemaD) (doc : Doc) (vars : Vars) (hf : fragsOk s doc vars = true) :
    ∀ (fuel : Nat) (obj T : String) (sels : List Sel) (seen : List String), selsOk s doc vars T sels = true →
      NoInternal (collectFields s doc vars fuel obj sels seen) := by
  intro fuel obj T sels seen hok
  have := collect_error (fuel := fuel) (obj := obj) (L := tag T sels) (seen := seen) hf
    fun y hy => (mem_tag hy).1 ▸ selsOk_forall s doc vars T sels hok y.2 (mem_tag hy).2
  rwa [tag_map_snd] at this

/-- all nodes of a group lie in the scope `L` with parents containing `rt`, have the same field name, and `fd` is the
    definition of that field on `rt`: the merged sub-selections form a tagged list well-typed for every runtime type
    under the result type, covered pairwise by the merge-safe scopes of the pairs of nodes -/
private theorem merged_tagged (s : SchemaD) (hs : SchemaOk s) (doc : Doc) (vars : Vars) (L : TSels) (rt name : String)
    (fd : FieldD) (hfd : fieldOf s rt name = some fd) (rt' : String) (hu : Under s rt' fd.type.base) :
    ∀ (nodes : List FNode), (∀ n ∈ nodes, NodeOkT s doc vars L rt n ∧ n.name = name ∧ isMeta name = false) →
      ∃ L' : TSels, L'.map (·.2) = mergedSelections nodes ∧ SelsUnderT s doc vars rt' L' ∧
        ∀ x, InScope doc L' x → ∃ n ∈ nodes, ∃ P, InScope doc L (P, n) ∧ Under s rt P ∧ InScope doc (typedSub s P n) x := by
  intro nodes
  induction nodes with
  | nil => intro _; exact ⟨[], by simp [mergedSelections], by intro x hx; simp at hx, fun x hx => (inScope_nil hx).elim⟩
  | cons n rest ih =>
    intro hn
    obtain ⟨L2, hm2, hsu2, hcov2⟩ := ih (fun m hm => hn m (by simp [hm]))
    obtain ⟨⟨P, hin, hP, hcase⟩, hname, hmeta⟩ := hn n (by simp)
    refine ⟨typedSub s P n ++ L2, ?_, ?_, ?_⟩
    · simp only [List.map_append, hm2, mergedSelections, List.flatMap_cons]
      congr 1
      unfold typedSub
      by_cases hhs : n.hasSub
      · simp [hhs, tag_map_snd]
      · simp [hhs]
    · intro x hx
      rcases List.mem_append.mp hx with hx | hx
      · unfold typedSub at hx
        by_cases hhs : n.hasSub
        · rcases hcase with ⟨htn, _⟩ | ⟨_, fdP, hfP, hok⟩
          · rw [hname] at htn; subst htn; simp [isMeta] at hmeta
          · have hb : subBase s P n = fdP.type.base := by simp [subBase, hfP]
            rw [if_pos hhs, hb] at hx
            refine selsUnderT_tag ?_ (hok hhs) x hx
            rw [hname] at hfP
            rcases hP with rfl | hposs
            · rw [hfd] at hfP; cases hfP; exact hu
            · obtain ⟨fd', hf', hcov⟩ := hs.cov P rt name fdP hposs hfP
              rw [hfd] at hf'; cases hf'
              exact hcov rt' hu
        · simp [hhs] at hx
      · exact hsu2 x hx
    · intro x hx
      rcases hx.append_split with hx | hx
      · exact ⟨n, by simp, P, hin, hP, hx⟩
      · obtain ⟨m, hm, Q, h1, h2, h3⟩ := hcov2 x hx
        exact ⟨m, by simp [hm], Q, h1, h2, h3⟩

private theorem executeGroups_noIntT (s : SchemaD) (hs : SchemaOk s) (doc : Doc) (vars : Vars) {M : TSels → Prop}
    (hM : Mergeable s doc M) (L : TSels) (hms : M L)
    (w : World) (hw : WorldTyped s w) (execSub : String → Path → List Sel → R (Data × List Err))
    (he : ∀ rt' p (L' : TSels), SelsUnderT s doc vars rt' L' → M L' → NoInt (execSub rt' p (L'.map (·.2))))
    (rt : String) (path : Path) (g : Grouped) (hg : GroupOk (NodeOkT s doc vars L rt) g) (hk : KeysOk g) :
    NoInt (executeGroups s w execSub rt path g) := by
  refine executeGroups_noInt_of s hs w hw execSub rt path g fun kv hkv => ?_
  obtain ⟨key, nodes⟩ := kv
  cases nodes with
  | nil => exact absurd rfl (hg _ hkv).1
  | cons node more =>
    have hnode := (hg _ hkv).2 node (by simp)
    refine ⟨node, more, rfl, fun hm => ?_, fun fd hm hfo rt' p hobj hu => ?_⟩
    · obtain ⟨P0, _, _, hc0⟩ := hnode
      rcases hc0 with ⟨htn, _⟩ | ⟨hnm, _⟩
      · exact htn
      · simp [hm] at hnm
    · -- all nodes of the group name the same field: their parents overlap at `rt`
      have hnodes : ∀ n ∈ node :: more, NodeOkT s doc vars L rt n ∧ n.name = node.name ∧ isMeta node.name = false := by
        intro n hn
        have hno := (hg _ hkv).2 n hn
        refine ⟨hno, ?_, hm⟩
        obtain ⟨P, hin, hP, _⟩ := hno
        obtain ⟨P0, hin0, hP0, _⟩ := hnode
        have hkn := hk _ hkv n hn
        have hk0 := hk _ hkv node (by simp)
        exact hM.name hms (P, n) (P0, node) hin hin0 (by simp [hkn, hk0]) ⟨rt, hP, hP0⟩
      obtain ⟨L', hmap, hsu', hcov⟩ := merged_tagged s hs doc vars L rt node.name fd hfo rt' hu (node :: more) hnodes
      rw [← hmap]
      refine he rt' p L' hsu' (hM.sub hms L' ?_)
      intro x y hx hy
      obtain ⟨n1, hn1, P1, hi1, hu1, hs1⟩ := hcov x hx
      obtain ⟨n2, hn2, P2, hi2, hu2, hs2⟩ := hcov y hy
      have hk1 := hk _ hkv n1 hn1
      have hk2 := hk _ hkv n2 hn2
      exact ⟨(P1, n1), (P2, n2), hi1, hi2, by simp [hk1, hk2], ⟨rt, hu1, hu2⟩,
        hs1.mono (by intro z hz; simp [hz]), hs2.mono (by intro z hz; simp [hz])⟩

private theorem executeFields_noIntT (s : SchemaD) (hs : SchemaOk s) (doc : Doc) (vars : Vars) (hf : fragsOk s doc vars = true)
    {M : TSels → Prop} (hM : Mergeable s doc M) (w : World) (hw : WorldTyped s w) (cf : Nat) :
    ∀ (fuel : Nat) (rt : String) (path : Path) (L : TSels), SelsUnderT s doc vars rt L → M L →
      NoInt (executeFields s doc vars w cf fuel rt path (L.map (·.2))) := by
  intro fuel
  induction fuel with
  | zero => intro rt path L _ _ cls h; simp [executeFields] at h
  | succ n ih =>
    intro rt path L hsu hms
    obtain ⟨hni, hgo⟩ := collect_soundT s doc vars hf cf rt L [] hsu
    rw [executeFields]
    refine noInt_bind (noInt_catchDirective _ hni) fun p1 h1 => ?_
    obtain ⟨g, seen'⟩ := p1
    rw [catchDirective_eq_ok] at h1
    have hk := (alias_merge s doc vars cf rt _ [] g seen' h1).2
    exact noInt_bind (executeGroups_noIntT s hs doc vars hM L hms w hw _ (fun rt' p L' hsu' hms' => ih rt' p L' hsu' hms')
      rt path g (hgo g seen' h1) hk) fun p2 _ => noInt_ok _

theorem validDocR_of_validDoc (s : SchemaD) (doc : Doc) (vars : Vars) (h : ValidDoc s doc vars) : ValidDocR s doc vars := by
  obtain ⟨hops, hrest⟩ := validDoc_iff.1 h
  refine validDocR_iff.2 ⟨?_, hrest⟩
  unfold opsOk at hops
  unfold opsOkR
  rw [List.all_eq_true] at hops ⊢
  intro o ho
  have := hops o ho
  cases hr : rootType s o.kind with
  | none => rw [hr] at this
  | some r => rwa [hr] at this

theorem validDoc_of_validDocR (s : SchemaD) (doc : Doc) (vars : Vars) (h : ValidDocR s doc vars) (hr : opsRooted s doc = true) :
    ValidDoc s doc vars := by
  obtain ⟨hops, hrest⟩ := validDocR_iff.1 h
  refine validDoc_iff.2 ⟨?_, hrest⟩
  unfold opsRooted at hr
  unfold opsOk
  rw [List.all_eq_true] at hr ⊢
  intro o ho
  have h2 := hr o ho
  cases hrt : rootType s o.kind with
  | none => rw [hrt] at h2; cases h2
  | some r => exact opsOkR_op hops ho hrt

theorem execute_noInt_of (s : SchemaD) (hs : SchemaOk s) (doc : Doc) (vars : Vars) (hv : ValidDocR s doc vars)
    {M : TSels → Prop} (hM : Mergeable s doc M)
    (hm : ∀ o ∈ doc.ops, ∀ root, rootType s o.kind = some root → M (tag root o.sels)) (w : World) (hw : WorldTyped s w) :
    ∀ (op : Option String) (fuel cf : Nat) (cls : String), execute s doc vars w op fuel cf ≠ .failed (.internal cls) := by
  intro op fuel cf cls
  obtain ⟨hops, hfr, _, _⟩ := validDocR_iff.1 hv
  unfold execute
  cases hgo : getOperation doc op with
  | none => simp
  | some o =>
    have hmem := getOperation_mem doc op o hgo
    simp only []
    cases hroot : rootType s o.kind with
    | none => simp
    | some root =>
      simp only []
      split
      · simp
      · have hsu : SelsUnderT s doc vars root (tag root o.sels) := selsUnderT_tag (Or.inl rfl) (opsOkR_op hops hmem hroot)
        have := executeFields_noIntT s hs doc vars hfr hM w hw cf fuel root [] (tag root o.sels) hsu (hm o hmem root hroot)
        rw [tag_map_snd] at this
        cases hr : executeFields s doc vars w cf fuel root [] o.sels with
        | ok p => simp
        | error f =>
          cases f with
          | internal c => exact absurd hr (this c)
          | _ => simp

/-- The soundness theorem from what `validate_ast(...) == []` really gives:
    `ValidDocR` does NOT assume that the operation's kind has a root type in the schema (the validator does not check it:
    `mutation { a }` is accepted on a schema without a mutation type). Such a request ends in the modelled failure
    "Schema doesn't support mutation operation", never in an internal exception. Everything else as in
    `validated_no_internal_error` below (a corollary). -/
theorem validated_no_internal_error_rootless (s : SchemaD) (hs : SchemaOk s) (doc : Doc) (vars : Vars) (hv : ValidDocR s doc vars)
    (hm : MergeSafe s doc) (w : World) (hw : WorldTyped s w) :
    ∀ (op : Option String) (fuel cf : Nat) (cls : String), execute s doc vars w op fuel cf ≠ .failed (.internal cls) :=
  execute_noInt_of s hs doc vars hv (mergeable_ms s doc) hm w hw

/-- non-vacuity and the point of the `R`: `mutation { a }` on a schema without a mutation type is `ValidDocR` (the real
    validator accepts it) but not `ValidDoc` -/
example : ValidDocR exSchema { ops := [{ kind := "mutation", name := none, sels := [.field "a" "a" 11 [] [] false []] }], frags := [] } []
    ∧ ¬ ValidDoc exSchema { ops := [{ kind := "mutation", name := none, sels := [.field "a" "a" 11 [] [] false []] }], frags := [] } [] := by
  unfold ValidDocR ValidDoc; decide +kernel

/-- Under the premise the validator guarantees. For every schema whose objects
    implement their interfaces covariantly and whose fields have known output types, every document satisfying the
    declarative `ValidDoc` and `MergeSafe` (OverlappingFieldsCanBeMerged; NOT the stronger `KeyConsistent`), EVERY variable
    assignment (`ValidDoc` does not constrain the `@skip`/`@include` conditions: a condition that is not a Boolean at run
    time — `if: [true]`, a nullable variable with a default bound to `null` — is a field error (/repo fix 4e87d3d), see
    `Lemmas.C04Raise.executeFields_raised`), every typed world (including iterables and `resolve_type`s that raise
    `ResolverError`), every operation name and every fuel: the request never ends in an internal exception.
    (Corollary of `validated_no_internal_error_rootless`, which drops the clause "the operation has a root type".) -/
theorem validated_no_internal_error (s : SchemaD) (hs : SchemaOk s) (doc : Doc) (vars : Vars) (hv : ValidDoc s doc vars)
    (hm : MergeSafe s doc) (w : World) (hw : WorldTyped s w) :
    ∀ (op : Option String) (fuel cf : Nat) (cls : String), execute s doc vars w op fuel cf ≠ .failed (.internal cls) :=
  validated_no_internal_error_rootless s hs doc vars (validDocR_of_validDoc s doc vars hv) hm w hw


/-- (`validated_no_internal_error` assumes the weaker `MergeSafe`.) For every schema whose objects implement their interfaces covariantly and whose
    fields have known output types, every document satisfying the declarative `ValidDoc` and `KeyConsistent`, every
    variable assignment under which `ValidDoc` holds, every TYPED world (values of the declared types, `ResolverError`s,
    nulls anywhere), every operation name and EVERY fuel: the request never ends in an internal exception — it
    produces a response (data + field errors) or the documented operation error. (Running out of fuel is the
    separate `outOfFuel` outcome; `Props/C04_fuel.lean` shows results do not depend on the fuel once it suffices.) -/
theorem validated_no_internal_error_keyConsistent (s : SchemaD) (hs : SchemaOk s) (doc : Doc) (vars : Vars) (hv : ValidDoc s doc vars)
    (hk : keyConsistentB doc = true) (w : World) (hw : WorldTyped s w) :
    ∀ (op : Option String) (fuel cf : Nat) (cls : String), execute s doc vars w op fuel cf ≠ .failed (.internal cls) := by
  refine execute_noInt_of s hs doc vars (validDocR_of_validDoc s doc vars hv) (mergeable_keyConsistent s doc (keyConsistent_of_bool doc hk))
    (fun o ho root _ x hx => inScope_docFields hx fun y hy => ?_) w hw
  rw [tag_map_snd] at hy
  unfold docFields
  simp only [List.mem_append, List.mem_flatMap]
  exact Or.inl ⟨o, ho, hy⟩

theorem inScope_cons {doc : Doc} {T : String} {sel : Sel} {rest : TSels} {x : String × FNode} (h : InScope doc ((T, sel) :: rest) x) :
    InScope doc rest x ∨
    match sel with
    | .field key name loc _ args hs sub => x = (T, { key := key, name := name, loc := loc, args := args, hasSub := hs, sub := sub })
    | .inline on _ sub => InScope doc (tag (on.getD T) sub) x
    | .spread name _ => ∃ fr, doc.fragment? name = some fr ∧ InScope doc (tag fr.on fr.sels) x := by
  cases h with
  | field hm =>
    rcases List.mem_cons.mp hm with he | hm
    · cases he; exact Or.inr rfl
    · exact Or.inl (.field hm)
  | inline hm hr =>
    rcases List.mem_cons.mp hm with he | hm
    · cases he; exact Or.inr hr
    · exact Or.inl (.inline hm hr)
  | spread hm hf hr =>
    rcases List.mem_cons.mp hm with he | hm
    · cases he; exact Or.inr ⟨_, hf, hr⟩
    · exact Or.inl (.spread hm hf hr)

private theorem scopeStep_complete (doc : Doc) (rec : TSels → Option (List (String × FNode)))
    (hrec : ∀ L xs, rec L = some xs → ∀ x, InScope doc L x → x ∈ xs) :
    ∀ (L : TSels) (xs : List (String × FNode)), scopeStep doc rec L = some xs → ∀ x, InScope doc L x → x ∈ xs := by
  intro L
  induction L with
  | nil => intro xs _ x hx; exact (inScope_nil hx).elim
  | cons tx rest ih =>
    intro xs h x hx
    obtain ⟨T, sel⟩ := tx
    have hx := inScope_cons hx
    cases sel with
    | field key name loc dirs args hs sub =>
      simp only [scopeStep] at h
      cases hr : scopeStep doc rec rest with
      | none => simp [hr] at h
      | some r =>
        simp [hr] at h
        subst h
        rcases hx with h1 | h1
        · exact List.mem_cons_of_mem _ (ih r hr x h1)
        · exact h1 ▸ List.mem_cons_self
    | inline on dirs sub =>
      simp only [scopeStep] at h
      cases ha : rec (tag (on.getD T) sub) with
      | none => simp [ha] at h
      | some a =>
        cases hr : scopeStep doc rec rest with
        | none => simp [ha, hr] at h
        | some r =>
          simp [ha, hr] at h
          subst h
          rcases hx with h1 | h1
          · exact List.mem_append_right _ (ih r hr x h1)
          · exact List.mem_append_left _ (hrec _ _ ha x h1)
    | spread name dirs =>
      simp only [scopeStep] at h
      cases hfr : doc.fragment? name with
      | none =>
        rcases hx with h1 | ⟨_, hf', _⟩
        · exact ih xs (by simpa [hfr] using h) x h1
        · rw [hfr] at hf'; cases hf'
      | some fr =>
        simp only [hfr] at h
        cases ha : rec (tag fr.on fr.sels) with
        | none => simp [ha] at h
        | some a =>
          cases hr : scopeStep doc rec rest with
          | none => simp [ha, hr] at h
          | some r =>
            simp [ha, hr] at h
            subst h
            rcases hx with h1 | ⟨_, hf', h1⟩
            · exact List.mem_append_right _ (ih r hr x h1)
            · rw [hfr] at hf'
              cases hf'
              exact List.mem_append_left _ (hrec _ _ ha x h1)

theorem scopeOf_complete (doc : Doc) : ∀ (n : Nat) (L : TSels) (xs : List (String × FNode)),
    scopeOf doc n L = some xs → ∀ x, InScope doc L x → x ∈ xs := by
  intro n
  induction n with
  | zero => intro L xs h; simp [scopeOf] at h
  | succ n ih => intro L xs h; simp only [scopeOf] at h; exact scopeStep_complete doc _ ih L xs h

theorem overlapB_complete (s : SchemaD) (P1 P2 : String) (h : Overlap s P1 P2) : overlapB s P1 P2 = true := by
  obtain ⟨rt, u1, u2⟩ := h
  unfold overlapB
  rcases u1 with rfl | u1
  · rcases u2 with rfl | u2
    · simp
    · simp [u2]
  · rcases u2 with rfl | u2
    · simp [u1]
    · have hm : rt ∈ possibleTypes s P1 := by
        unfold isPossibleType at u1; simp at u1; exact u1.2
      simp only [Bool.or_eq_true, List.any_eq_true]
      exact Or.inr ⟨rt, hm, by simp [u1, u2]⟩

theorem ms_dup (s : SchemaD) (doc : Doc) (A : TSels) (h : MS s doc A) : MS s doc (A ++ A) :=
  ms_of_cover s doc _ (fun _ _ hx hy => ⟨A, h, (hx.append_split).elim id id, (hy.append_split).elim id id⟩)

theorem msB_sound (s : SchemaD) (doc : Doc) (sf : Nat) : ∀ (n : Nat) (L : TSels), msB s doc sf n L = true → MS s doc L := by
  intro n
  induction n with
  | zero => intro L h; simp [msB] at h
  | succ n ih =>
    intro L h
    simp only [msB] at h
    cases hsc : scopeOf doc sf L with
    | none => simp [hsc] at h
    | some xs =>
      simp only [hsc, List.all_eq_true, List.mem_range] at h
      have hmem := scopeOf_complete doc sf L xs hsc
      have pair : ∀ x y, InScope doc L x → InScope doc L y → ∃ same, pairOk s (msB s doc sf n) same x y = true ∧ (same = true → x = y) := by
        intro x y hx hy
        obtain ⟨i, hi, hxi⟩ := List.mem_iff_getElem.mp (hmem x hx)
        obtain ⟨j, hj, hyj⟩ := List.mem_iff_getElem.mp (hmem y hy)
        have := h i hi j hj
        simp only [List.getElem?_eq_getElem hi, List.getElem?_eq_getElem hj, hxi, hyj] at this
        refine ⟨i == j, this, ?_⟩
        intro he
        have : i = j := by simpa using he
        subst this
        rw [← hxi, ← hyj]
      refine .intro ?_ ?_ ?_
      · intro x y hx hy hk ho
        obtain ⟨same, hp, _⟩ := pair x y hx hy
        simp only [pairOk, hk, beq_self_eq_true, if_true, overlapB_complete s _ _ ho, Bool.and_eq_true] at hp
        have h3 := hp.2.1
        simp only [beq_iff_eq] at h3
        exact h3
      · intro x y hx hy hk ho
        obtain ⟨same, hp, hsame⟩ := pair x y hx hy
        simp only [pairOk, hk, beq_self_eq_true, if_true, overlapB_complete s _ _ ho, Bool.and_eq_true] at hp
        have h4 := hp.2.2
        cases same with
        | false => simpa using ih _ (by simpa using h4)
        | true =>
          have hxy := hsame rfl
          subst hxy
          exact ms_dup s doc _ (ih _ (by simpa using h4))
      · intro x y t u hx hy hk ht hu
        obtain ⟨same, hp, _⟩ := pair x y hx hy
        simp only [pairOk, hk, beq_self_eq_true, if_true, ht, hu, Bool.and_eq_true] at hp
        exact hp.1

/-- what the driver checks on every accepted document implies the declarative `MergeSafe` -/
theorem mergeSafeB_sound (s : SchemaD) (doc : Doc) (h : mergeSafeB s doc = true) : MergeSafe s doc := by
  intro o ho root hroot
  unfold mergeSafeB at h
  simp only [List.all_eq_true] at h
  have := h o ho
  simp only [hroot] at this
  exact msB_sound s doc _ _ _ this

def petSchema : SchemaD :=
  { types := [{ kind := .object, name := "Query", fields := [{ name := "pet", type := .named "Pet" }, { name := "x", type := .named "Int" },
                                                             { name := "y", type := .named "Int" }, { name := "sub", type := .named "Query" }] },
              { kind := .interface, name := "Pet", fields := [{ name := "name", type := .named "String" }] },
              { kind := .object, name := "Dog", interfaces := ["Pet"], fields := [{ name := "name", type := .named "String" }, { name := "bark", type := .named "Int" }] },
              { kind := .object, name := "Cat", interfaces := ["Pet"], fields := [{ name := "name", type := .named "String" }, { name := "lives", type := .named "Int" }] }] }

/-- `{ pet { ... on Dog { v: bark } ... on Cat { v: lives } } }` -/
def exclusiveDoc : Doc :=
  { ops := [{ kind := "query", name := none, sels := [.field "pet" "pet" 2 [] [] true
      [.inline (some "Dog") [] [.field "v" "bark" 20 [] [] false []], .inline (some "Cat") [] [.field "v" "lives" 40 [] [] false []]]] }],
    frags := [] }

/-- `{ a: x  sub { a: y } }` -/
def levelsDoc : Doc :=
  { ops := [{ kind := "query", name := none, sels := [.field "a" "x" 2 [] [] false [], .field "sub" "sub" 8 [] [] true [.field "a" "y" 14 [] [] false []]] }],
    frags := [] }

theorem exclusive_doc_mergeSafe_not_keyConsistent :
    MergeSafe petSchema exclusiveDoc ∧ keyConsistentB exclusiveDoc = false ∧ ValidDoc petSchema exclusiveDoc [] :=
  ⟨mergeSafeB_sound _ _ (by decide +kernel), by decide +kernel, by unfold ValidDoc; decide +kernel⟩

theorem levels_doc_mergeSafe_not_keyConsistent :
    MergeSafe petSchema levelsDoc ∧ keyConsistentB levelsDoc = false ∧ ValidDoc petSchema levelsDoc [] :=
  ⟨mergeSafeB_sound _ _ (by decide +kernel), by decide +kernel, by unfold ValidDoc; decide +kernel⟩

/-- and a genuinely ambiguous document is rejected by the evaluator: `{ pet { v: name ... on Dog { v: bark } } }` -/
example : mergeSafeB petSchema { ops := [{ kind := "query", name := none, sels := [.field "pet" "pet" 2 [] [] true
    [.field "v" "name" 10 [] [] false [], .inline (some "Dog") [] [.field "v" "bark" 30 [] [] false []]]] }], frags := [] } = false := by decide +kernel


/-- "one unambiguous value per response key" — two nodes that the executor can put into one
    group for a runtime type (both lie in the scope with parents containing that type, same response key) denote the same
    field call: equal field name and equal coerced arguments. Which of them comes first does not matter. -/
theorem same_group_same_call (s : SchemaD) (doc : Doc) (vars : Vars) (L : TSels) (hms : MS s doc L) (rt : String) (n1 n2 : FNode)
    (h1 : NodeOkT s doc vars L rt n1) (h2 : NodeOkT s doc vars L rt n2) (hk : n1.key = n2.key) :
    n1.name = n2.name ∧ n1.args = n2.args := by
  obtain ⟨P1, hi1, hu1, _⟩ := h1
  obtain ⟨P2, hi2, hu2, _⟩ := h2
  cases hms with
  | intro h _ _ => exact h (P1, n1) (P2, n2) hi1 hi2 hk ⟨rt, hu1, hu2⟩

theorem shapeOk_leaf_composite (s : SchemaD) (n : String) (j : J) (h : isComposite s n = true) : shapeOk s (.named n) (.leaf j) = false := by
  unfold isComposite at h
  simp only [shapeOk]
  cases hk : kindOf s n with
  | none => rfl
  | some k => cases k <;> simp_all

theorem sameShape_shapeOk (s : SchemaD) : ∀ (t u : Ty), sameShape s t u = true → ∀ d, shapeOk s t d = shapeOk s u d := by
  intro t
  induction t with
  | nonNull a ih =>
    intro u h d
    cases u with
    | nonNull b => simp only [sameShape] at h; simpa [shapeOk] using ih b h d
    | list b => simp [sameShape] at h
    | named b => simp [sameShape] at h
  | list a ih =>
    intro u h d
    cases u with
    | list b =>
      simp only [sameShape] at h
      have hf : shapeOk s a = shapeOk s b := funext (ih b h)
      cases d <;> simp [shapeOk, hf]
    | nonNull b => simp [sameShape] at h
    | named b => simp [sameShape] at h
  | named a =>
    intro u h d
    cases u with
    | named b =>
      simp only [sameShape, Bool.or_eq_true, Bool.and_eq_true, beq_iff_eq] at h
      rcases h with rfl | ⟨ha, hb⟩
      · rfl
      · cases d with
        | null => simp [shapeOk]
        | list l => simp [shapeOk]
        | obj kvs => simp [shapeOk, ha, hb]
        | leaf j => rw [shapeOk_leaf_composite s a j ha, shapeOk_leaf_composite s b j hb]
    | nonNull b => simp [sameShape] at h
    | list b => simp [sameShape] at h

/-- in a merge-safe scope, all selections with one response key — including those under
    MUTUALLY EXCLUSIVE parent types, which never meet in one response object and may name different fields — declare
    types that admit the same response values: the shape found under a response key can be read off ANY of them. -/
theorem same_key_one_shape (s : SchemaD) (doc : Doc) (L : TSels) (hms : MS s doc L) (x y : String × FNode)
    (hx : InScope doc L x) (hy : InScope doc L y) (hk : x.2.key = y.2.key) (t u : Ty)
    (ht : fieldTy s x.1 x.2 = some t) (hu : fieldTy s y.1 y.2 = some u) : ∀ d, shapeOk s t d = shapeOk s u d := by
  cases hms with
  | intro _ _ h3 => exact sameShape_shapeOk s t u (h3 x y t u hx hy hk ht hu)

/-- "one unambiguous value per response key", shape part — whatever value the executor
    produces for a field (of ANY parent object type, with any nodes) has the shape declared by EVERY selection of the
    merge-safe scope that carries the same response key and whose type is `sameShape`-related to the field's; so the
    order in which same-key selections appear, and which of them applies at run time, cannot change the response shape. -/
theorem same_key_value_unambiguous (s : SchemaD) (doc : Doc) (vars : Vars) (w : World) (cf n : Nat) (L : TSels) (hms : MS s doc L)
    (x y : String × FNode) (hx : InScope doc L x) (hy : InScope doc L y) (hk : x.2.key = y.2.key)
    (fd : FieldD) (u : Ty) (ht : fieldTy s x.1 x.2 = some fd.type) (hu : fieldTy s y.1 y.2 = some u)
    (parent : String) (path : Path) (nodes : List FNode) (d : Data) (es : List Err)
    (h : resolveField s w (executeFields s doc vars w cf n) parent path nodes fd = .ok (d, es)) : shapeOk s u d = true := by
  rw [← same_key_one_shape s doc L hms x y hx hy hk fd.type u ht hu d]
  exact validated_shape_field s doc vars w cf n parent path nodes fd d es h

/-- non-vacuity: in `exclusiveDoc` the key `v` is `bark : Int` under `Dog` and `lives : Int` under `Cat` — same shape;
    and the evaluator rejects `{ pet { ... on Dog { v: bark } ... on Cat { v: name } } }` (`Int` against `String`) -/
example : sameShape petSchema (.named "Int") (.named "Int") = true := by decide +kernel
example : mergeSafeB petSchema { ops := [{ kind := "query", name := none, sels := [.field "pet" "pet" 2 [] [] true
    [.inline (some "Dog") [] [.field "v" "bark" 20 [] [] false []], .inline (some "Cat") [] [.field "v" "name" 40 [] [] false []]]] }], frags := [] } = false := by decide +kernel

end PyGql.Props.C05
