/-
  C15 — property theorems.  Stated about the model `PyGqlModel/Introspect.lean`, whose default-value
  formatter, type-kind table and meta-field chain are RE-EXTRACTED from
  `schema/introspection.py` / `execution/wrappers.py` on every run (`Generated/Introspection.lean`).
-/
import PyGqlModel.Spec.Introspect


namespace PyGql.Props.C15
open PyGql PyGql.Introspect PyGql.Introspect.Spec PyGql.Generated.Introspection

/-- With `disable_introspection` every meta field (`__schema`, `__type`, `__typename`)
    has NO definition, below every parent type — the executor skips the selection (no key, no error). -/
theorem disabled_hides_all (s : SchemaD) (p : TypeD) (n : String) (h : isMeta n = true) :
    fieldDefinition s true p n = .ok none := by
  simp [fieldDefinition, h, metaChain, walkChain]

/-- executor level: with the switch on, `_iterate_fields` never raises and yields ordinary fields only. -/
theorem disabled_hides_all_exec (s : SchemaD) (p : TypeD) (sel : List (String × String)) :
    ∃ l, iterateFields s true p sel = some l ∧ ∀ kd ∈ l, ∃ f, kd.2 = FieldDef.ordinary f ∧ isMeta f.name = false := by
  induction sel with
  | nil => exact ⟨[], rfl, by simp⟩
  | cons kn rest ih =>
    obtain ⟨l, hl, hall⟩ := ih
    obtain ⟨key, name⟩ := kn
    by_cases hm : isMeta name = true
    · refine ⟨l, ?_, hall⟩
      simp [iterateFields, disabled_hides_all s p name hm, hl]
    · have hm' : isMeta name = false := by simpa using hm
      cases hf : p.fields.find? (·.name == name) with
      | none =>
        refine ⟨l, ?_, hall⟩
        simp [iterateFields, fieldDefinition, hm', hf, hl]
      | some f =>
        refine ⟨(key, .ordinary f) :: l, ?_, ?_⟩
        · simp [iterateFields, fieldDefinition, hm', hf, hl]
        · intro kd hkd
          rcases List.mem_cons.mp hkd with h | h
          · subst h
            have hn : f.name = name := by
              have := List.find?_some hf
              simpa using this
            exact ⟨f, rfl, by rw [hn]; exact hm'⟩
          · exact hall kd h

/-- Lookup level: the switch does not touch the definition of any ordinary field. -/
theorem disabled_keeps_ordinary_lookup (s : SchemaD) (p : TypeD) (n : String) (h : isMeta n = false) (d : Bool) :
    fieldDefinition s d p n = .ok ((p.fields.find? (·.name == n)).map .ordinary) := by
  simp [fieldDefinition, h]

/-- Executor level: executing a selection with introspection disabled visits exactly
    the entries (same keys, same definitions, same order) that executing it WITHOUT its meta-field selections
    visits when introspection is enabled. -/
theorem disabled_keeps_ordinary (s : SchemaD) (p : TypeD) (sel : List (String × String)) :
    iterateFields s true p sel = iterateFields s false p (sel.filter fun kn => !isMeta kn.2) := by
  induction sel with
  | nil => rfl
  | cons kn rest ih =>
    obtain ⟨key, name⟩ := kn
    by_cases hm : isMeta name = true
    · simp [iterateFields, disabled_hides_all s p name hm, hm, ih]
    · have hm' : isMeta name = false := by simpa using hm
      simp [iterateFields, hm', disabled_keeps_ordinary_lookup s p name hm', ih]

/-- non-vacuity: a selection with all three meta fields and one ordinary field. -/
example : let q : TypeD := { kind := .object, name := "Query", fields := [{ name := "a", type := .named "Int" }] }
    let s : SchemaD := { types := [q] }
    (iterateFields s true q [("__typename", "__typename"), ("x", "a"), ("__schema", "__schema")]).map (·.map (·.1)) = some ["x"]
    ∧ (iterateFields s false q [("__typename", "__typename"), ("x", "a"), ("__schema", "__schema")]).map (·.map (·.1))
        = some ["__typename", "x", "__schema"] := by
  decide +kernel

/-- introspection ENABLED, `__schema` / `__type` selected below a type that is not the query type: no branch of the
    if/elif chain applies and the lookup answers `None` — "not a field of this type", the executor's ordinary
    unknown-field handling (`field_def = None` is set before the chain, commit c907521; without it nothing is
    assigned and Python raises `UnboundLocalError`). Validation rejects such documents first; recorded because
    `execute` can be called on its own. -/
theorem meta_below_non_query_not_a_field (s : SchemaD) (p : TypeD) (h : (s.query == some p.name) = false) :
    fieldDefinition s false p "__schema" = .ok none ∧ fieldDefinition s false p "__type" = .ok none := by
  simp [fieldDefinition, isMeta, metaFieldNames, metaChain, walkChain, metaTarget, h]

/-- ... while `__typename` is a field of EVERY type -/
theorem typename_everywhere (s : SchemaD) (p : TypeD) :
    fieldDefinition s false p "__typename" = .ok (some .typenameField) := by
  simp [fieldDefinition, isMeta, metaFieldNames, metaChain, walkChain, metaTarget]

def hideDep (t : TypeD) : TypeD :=
  { t with fields := t.fields.filter (fun f => f.deprecated.isNone), values := t.values.filter (fun v => v.deprecated.isNone) }

theorem hideDep_fields (t : TypeD) (f : FieldD) : f ∈ (hideDep t).fields ↔ f ∈ t.fields ∧ f.deprecated = none := by
  simp [hideDep, List.mem_filter]

theorem hideDep_values (t : TypeD) (v : EnumValD) : v ∈ (hideDep t).values ↔ v ∈ t.values ∧ v.deprecated = none := by
  simp [hideDep, List.mem_filter]

private theorem vis_false_fields (fs : List FieldD) : visibleFields false fs = fs.filter (fun f => f.deprecated.isNone) := by
  unfold visibleFields; congr 1; funext f; cases f.deprecated <;> simp
private theorem vis_false_values (vs : List EnumValD) : visibleValues false vs = vs.filter (fun v => v.deprecated.isNone) := by
  unfold visibleValues; congr 1; funext f; cases f.deprecated <;> simp
private theorem vis_true_filter_fields (fs : List FieldD) :
    visibleFields true (fs.filter (fun f => f.deprecated.isNone)) = fs.filter (fun f => f.deprecated.isNone) := by
  simp [visibleFields]
private theorem vis_true_filter_values (vs : List EnumValD) :
    visibleValues true (vs.filter (fun v => v.deprecated.isNone)) = vs.filter (fun v => v.deprecated.isNone) := by
  simp [visibleValues]

/-- with `includeDeprecated: true` nothing is filtered -/
theorem deprecated_shown (fs : List FieldD) (vs : List EnumValD) : visibleFields true fs = fs ∧ visibleValues true vs = vs := by
  simp [visibleFields, visibleValues]

/-- For one type: what is reported without deprecated members is exactly what is reported,
    deprecated members included, for the type with its deprecated fields / enum values removed — the same kind,
    name, description, interfaces, possible types, input fields, and every remaining member unchanged. -/
theorem deprecated_hidden_type (s : SchemaD) (t : TypeD) : fullType s false t = fullType s true (hideDep t) := by
  simp only [fullType, vis_false_fields, vis_false_values, hideDep, vis_true_filter_fields, vis_true_filter_values, possibleTypes]
  rfl

/-- The whole result with `includeDeprecated: false` is the standard result of the same
    schema in which every type is replaced by `hideDep` of it; root types, directives, order are untouched. -/
theorem deprecated_hidden (s : SchemaD) :
    introspect s false = .obj [("__schema", .obj [
      ("queryType", rootRef s.query), ("mutationType", rootRef s.mutation), ("subscriptionType", rootRef s.subscription),
      ("types", .arr ((sortBy (·.name) s.types).map (fun t => fullType s true (hideDep t)))),
      ("directives", .arr ((sortBy (·.name) s.directives).map (directiveJ s)))])] := by
  have h : fullType s false = fun t => fullType s true (hideDep t) := funext (deprecated_hidden_type s)
  simp only [introspect, schemaJ, h]

/-- non-vacuity: one deprecated and one live enum value -/
example : (hideDep { kind := .enum, name := "E", values := [{ name := "A", deprecated := some "old" }, { name := "B" }] }).values.map (·.name)
    = ["B"] := by decide +kernel

end PyGql.Props.C15
