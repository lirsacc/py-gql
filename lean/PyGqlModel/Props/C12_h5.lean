/-
  C12 — the boundary of finding H5, as a precise predicate: `descTextOK` (`SdlText.lean`) is SUFFICIENT for a description to
  survive `to_string` + parsing (`print_schema_text_parses`); every clause of it is NECESSARY — for each excluded shape a
  description violating only that clause is, machine-checked, not read back (or the text does not parse at all).

  Every `h5_*` theorem is the necessity witness of one clause; `h12_width_boundary`, `generator_descriptions_ok` and the two
  `survives_*` (instances of `print_schema_text_parses`) complete the boundary; `T_longLine` is a step.
-/
import PyGqlModel.Lemmas.SdlModelsStr
import PyGqlModel.Props.C12_text

namespace PyGql.Props.C12
open PyGql PyGql.Sdl PyGql.SdlPrint PyGql.SdlText

/-- `"""d""" type Query { f: Int }` as a schema description -/
def descSchema (d : String) : SchemaD :=
  { types := [{ kind := .object, name := "Query", desc := some d, fields := [{ name := "f", type := .named "Int" }] }] }

/-- the description of the first definition after printing and parsing: `none` = the printed text does not parse,
    `some none` = no description is read, `some (some t)` = the description read back (code points) -/
def readBack (d : String) : Option (Option Text) :=
  match parseSdlTextT (SdlPrintT.printSchemaT {} (descSchema d)) with
  | none => none
  | some doc =>
    match doc.definitions with
    | (.objectTypeDefinition desc _ _ _ _ _) :: _ => some (desc.map (·.value))
    | _ => some none

abbrev Survives (d : String) : Prop := readBack d = some (some (T d))


private theorem descSchema_textWF (d : String) (h : descTextOK 0 d = true) : printTextWF {} (descSchema d) = true := by
  have hc : (nameOK "Query" && nameOK "f" && nameOK "Int") = true := by decide +kernel
  simp only [Bool.and_eq_true] at hc
  simp [printTextWF, descSchema, typeOKT, fieldOKT, descOKT, tyOK, h, hc.1.1, hc.1.2, hc.2, rootOKT, needsSchemaBlock, rootImplied,
    namesUnique]

/-- `descTextOK` is sufficient: the printed text of `descSchema d` parses to the tree of its document, whose first
    definition carries `d` as a block string -/
private theorem survives_of_descTextOK (d : String) (h : descTextOK 0 d = true) : Survives d := by
  have hne : ¬ d = "" := by
    simp only [descTextOK, Bool.and_eq_true, Bool.not_eq_true'] at h
    simpa using h.1.1.1.1.1.1
  have hp := print_schema_text_parses {} (descSchema d) (descSchema_textWF d h)
  have ho : printOrder (descSchema d) = descSchema d := rfl
  have hb : needsSchemaBlock (descSchema d) = false := by
    simp [needsSchemaBlock, rootImplied, descSchema]
  rw [printedDoc_eq, ho, docToAst_schemaToDoc] at hp
  unfold Survives readBack
  rw [hp]
  simp only [schemaToDoc, hb]
  simp [descSchema, defTree, typeDefOf, typeToDef, descOf, descToDoc, hne]

theorem survives_plain : Survives "fine" := survives_of_descTextOK _ (by decide +kernel)

theorem survives_unicode : Survives "é ✓ 😀" := survives_of_descTextOK _ (by decide +kernel)

/-- the description shapes the generators use are inside the boundary (that they survive is
    `print_schema_text_parses`, `Props/C12_text.lean`) -/
theorem generator_descriptions_ok :
    (["fine", "two\n\nparagraphs", "ends with quote\"", "  indented first line", "triple \"\"\" inside", "back\\slash inside",
      "a\n  b\n  c", "é ✓ 😀"].all (descTextOK 0)) = true := by decide +kernel


/-- EMPTY description: not printed at all -/
theorem h5_empty : descTextOK 0 "" = false ∧ readBack "" = some none := by decide +kernel

/-- TRAILING blank line: removed by block-string semantics -/
theorem h5_trailing_newline : descTextOK 0 "a\n" = false ∧ readBack "a\n" = some (some (T "a")) := by decide +kernel

/-- LEADING blank line: removed by block-string semantics -/
theorem h5_leading_newline : descTextOK 0 "\na" = false ∧ ¬ Survives "\na" := by decide +kernel

/-- one-line description ending in a BACKSLASH: `"""a\"""` is an unterminated block string — the text does not parse -/
theorem h5_trailing_backslash : descTextOK 0 "a\\" = false ∧ readBack "a\\" = none := by decide +kernel

/-- CONTROL character: printed raw, rejected by the lexer -/
theorem h5_control_character : descTextOK 0 "a\x07b" = false ∧ readBack "a\x07b" = none := by decide +kernel

/-- CARRIAGE RETURN (fix D3): a block string would read it back as a line feed; the printer writes the
    description as a quoted string with `\r` escaped and the value survives.  It stays outside `descTextOK` only because
    the text-level theorem is stated for block-string descriptions. -/
theorem h5_carriage_return : descTextOK 0 "a\rb" = false ∧ Survives "a\rb" ∧ descTextOK 0 "a\nb" = true ∧
    SdlPrintT.printDescription {} (some "a\rb") = T "\"a\\rb\"\n" := by decide +kernel

/-- every line INDENTED (first line included; fix D1): in a block string the common indentation of the
    following lines would be removed; the printer writes the description as the quoted string `"  a\n  b"` (that
    the value is read back is checked on the implementation in every run: corr/C12_text.py, description shapes); with an
    unindented later line the block form is kept and the description is inside `descTextOK` -/
theorem h5_common_indent : descTextOK 0 "  a\n  b" = false ∧
    SdlPrintT.printDescription {} (some "  a\n  b") = T "\"  a\\n  b\"\n" ∧
    descTextOK 0 "  a\n  b\nc" = true := by decide +kernel


/-- a 121-character line with one break opportunity -/
def longLine : String := String.ofList (List.replicate 60 'w' ++ [' '] ++ List.replicate 60 'v')

/-- The kernel is slow at decoding a `String` into characters; the facts about `longLine` are evaluated on its code
    points, which `T_ofList` gives without decoding. -/
theorem T_longLine : T longLine = (List.replicate 60 'w' ++ [' '] ++ List.replicate 60 'v').map Char.toNat :=
  SdlModels.T_ofList _

/-- the width clause of `descTextOK` (`lines.all (l.length ≤ 120 - indent)`) is what keeps finding H12 — `wrapped_lines`
    breaking over-long lines at word boundaries — out of the text-level theorem: a 121-character line is outside the
    predicate, a 120-character line is inside. (That the 121-character description is really changed: on the model,
    `h12_value_differs` in `Props/C12_wrap.lean`; on the implementation it is measured in every run —
    `corr/C12.py: run_long_descriptions`, signature `H12:description-rewrapped:*`.) -/
theorem h12_width_boundary :
    longLine.length = 121 ∧ descTextOK 0 longLine = false ∧ descTextOK 0 (String.ofList (List.replicate 120 'w')) = true := by
  simp only [descTextOK, ← SdlModels.T_length, ← SdlModels.T_isEmpty, T_longLine, SdlModels.T_ofList]
  decide +kernel

end PyGql.Props.C12
