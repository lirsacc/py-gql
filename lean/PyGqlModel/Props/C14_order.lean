/-
  C14 — the REGISTRIES of a clone as LISTS (Python dicts keep insertion order).

  * `clone_refines_directives` (FULL; `clone_refines_directives_partial` is its healing part): the `directives` dict of `clone()` lists, IN THE
    SOURCE'S ORDER, under the same names, directive objects with the by-name view of the source's (name, locations, description,
    arguments in order with name, type by name, python name, default, description).
  * `clone_types_perm` (FULL): the `types` dict of the clone, as a list of (name, by-name view), is a PERMUTATION of the source's.
  * `clone_types_order` (FULL): its exact order is the order of `Schema.__init__`'s type map: specified scalars, then the types
    in the order `_build_type_map` meets them from the root operation types, then (`setdefault`) the remaining ones in the source's
    order (`cloneRegistry`).
  * `clone_types_order_refuted`: "the clone lists its types in the source's order" is FALSE of the code, in every variant (witness: the
    Dog / Pet schema built from `interface Pet … type Dog … type Query`: the clone lists Query, Pet, Dog) — and it is not part of
    the property (nothing observable by name depends on it: printing sorts by name); it is `clone_types_order_fixpoint_witness`
    that a clone of a clone keeps the order.
-/
import PyGqlModel.Lemmas.HeapDirView
import PyGqlModel.Props.C14_refine
import PyGqlModel.Lemmas.ListBasics


namespace PyGql.Props.C14
open PyGql.Heap PyGql.Heap.Own

/-- FULL `clone_refines` for DIRECTIVES: same names, same order, same by-name views -/
theorem clone_refines_directives (cfg : Cfg) (hd : cfg.deepClone = true) (hk : cfg.keepAllTypes = true) (fuel : Nat)
    (s : Schema) (h h' : Heap) (s' : Schema) (hc : closedB h s = true) (hw : wfB h s = true) (hnd : (s.dirs.map (·.1)).Nodup)
    (e : clone cfg fuel s h = some (h', s')) :
    s'.dirs.map (fun c => (c.1, dirV h' c.2)) = s.dirs.map (fun e => (e.1, dirV h e.2)) := by
  have w := wfs_of_closedB hc hw
  obtain ⟨ed, hv⟩ := clone_refines_directives_partial cfg hd hk fuel s h h' s' hc hw e
  obtain ⟨pt, _⟩ := cloneTypes_ok h.size cfg hd s.types h (inv_self h)
  have growT : Frame h (cloneTypes cfg h s.types).1 := Frame.of_pres pt
  obtain ⟨_, cs, e2, v2⟩ := cloneDirs_view cfg hd h s.dirs (cloneTypes cfg h s.types).1 growT (fun e he => dirShape_readable (w.dirs e he))
  have hnames : cs.map (·.1) = s.dirs.map (·.1) := by
    have := congrArg (List.map Prod.fst) v2
    simpa [List.map_map, Function.comp_def] using this
  have hdirs : s'.dirs = cs := by
    rw [ed]
    simp only [cloneStart, replaceCore]
    rw [e2, replaceDirs_append cs [] (by rw [hnames]; exact hnd) (fun _ _ => rfl)]
    rfl
  rw [hdirs, ← v2]
  apply List.map_congr_left
  intro c _
  rw [hv c.2]
  rfl

/-- by name: the directive registered under `n` in the clone has the view of the one registered under `n` in the source -/
theorem clone_refines_directive_at (cfg : Cfg) (hd : cfg.deepClone = true) (hk : cfg.keepAllTypes = true) (fuel : Nat)
    (s : Schema) (h h' : Heap) (s' : Schema) (hc : closedB h s = true) (hw : wfB h s = true) (hnd : (s.dirs.map (·.1)).Nodup)
    (e : clone cfg fuel s h = some (h', s')) :
    s'.dirs.map (·.1) = s.dirs.map (·.1) ∧
    ∀ e0, e0 ∈ s.dirs → ∃ a', lookup s'.dirs e0.1 = some a' ∧ dirV h' a' = dirV h e0.2 := by
  have hl := clone_refines_directives cfg hd hk fuel s h h' s' hc hw hnd e
  have hnames : s'.dirs.map (·.1) = s.dirs.map (·.1) := by
    have := congrArg (List.map Prod.fst) hl
    simpa [List.map_map, Function.comp_def] using this
  refine ⟨hnames, ?_⟩
  intro e0 he0
  have hm : (e0.1, dirV h e0.2) ∈ s'.dirs.map (fun c => (c.1, dirV h' c.2)) := by
    rw [hl]; exact List.mem_map.mpr ⟨e0, he0, rfl⟩
  obtain ⟨c, hc', hq⟩ := List.mem_map.mp hm
  simp only [Prod.mk.injEq] at hq
  refine ⟨c.2, ?_, hq.2⟩
  rw [← hq.1]
  exact lookup_of_mem_nodup (by rw [hnames]; exact hnd) hc'

/-- a directive with an argument, for the non-vacuity of the directive theorems: `directive @lim(n: String) on FIELD` -/
def hDir : Heap := ⟨h0.objs ++ [
  .arg { name := "n", ty := sStr, py := "py_n", dflt := some "'x'", desc := some "d" },
  .dir { name := "lim", args := [7], locs := ["FIELD"], desc := some "limit" }]⟩
def sDir : Schema := { s0 with dirs := [("lim", 8)] }

/-- on the witness: the clone's directive is a NEW object (address ≠ 8) with the same view -/
theorem clone_refines_directives_witness :
    (clone Cfg.fixed 8 sDir hDir).map (fun r => (r.2.dirs.map (·.1), r.2.dirs.all (fun c => c.2 != 8),
      r.2.dirs.map (fun c => dirV r.1 c.2) == sDir.dirs.map (fun e => dirV hDir e.2))) = some (["lim"], true, true) := by decide +kernel

example : closedB hDir sDir = true ∧ wfB hDir sDir = true ∧ (sDir.dirs.map (·.1)).Nodup ∧ (clone Cfg.fixed 8 sDir hDir).isSome = true := by
  have src : closedB hDir sDir = true ∧ wfB hDir sDir = true ∧ (sDir.dirs.map (·.1)).Nodup := by decide +kernel
  exact ⟨src.1, src.2.1, src.2.2, Option.isSome_map.symm.trans (congrArg Option.isSome clone_refines_directives_witness)⟩

/-- FULL: the exact order of the clone's `types` dict is that of `Schema.__init__`'s type map (`cloneRegistry`) -/
theorem clone_types_order (cfg : Cfg) (hd : cfg.deepClone = true) (hk : cfg.keepAllTypes = true) (fuel : Nat)
    (s : Schema) (h h' : Heap) (s' : Schema) (hc : closedB h s = true) (hw : wfB h s = true) (e : clone cfg fuel s h = some (h', s')) :
    names s' = (cloneRegistry cfg s h).map (·.1) := by
  obtain ⟨et, _, _⟩ := clone_is_copy_then_exact_heal cfg hd hk fuel s h h' s' hc hw e
  simp only [names, et, cloneStart, replaceCore]
  exact replaceTypes_order cfg _ _ _ (cloneTypes_some cfg s.types h)

/-- FULL: as a list of (name, by-name view of the registered object) the clone's `types` is a permutation of the source's -/
theorem clone_types_perm (cfg : Cfg) (hd : cfg.deepClone = true) (hk : cfg.keepAllTypes = true) (fuel : Nat)
    (s : Schema) (h h' : Heap) (s' : Schema) (hc : closedB h s = true) (hw : wfB h s = true) (e : clone cfg fuel s h = some (h', s')) :
    (s'.types.map (fun c => (c.1, typeV h' c.2))).Perm (s.types.map (fun e => (e.1, typeV h e.2))) := by
  have w := wfs_of_closedB hc hw
  have hview := clone_types_view cfg hd hk fuel s h h' s' hc hw e
  have hnd' : (s'.types.map (·.1)).Nodup := by
    have := clone_types_order cfg hd hk fuel s h h' s' hc hw e
    simp only [names] at this
    rw [this]
    exact cloneRegistry_nodup cfg s h w.nodup
  have nd1 : (s'.types.map (fun c => (c.1, typeV h' c.2))).Nodup := by
    apply List.nodup_of_nodup_map Prod.fst
    simpa [List.map_map, Function.comp_def] using hnd'
  have nd2 : (s.types.map (fun e => (e.1, typeV h e.2))).Nodup := by
    apply List.nodup_of_nodup_map Prod.fst
    simpa [List.map_map, Function.comp_def] using w.nodup
  rw [List.perm_ext_iff_of_nodup nd1 nd2]
  intro p
  constructor
  · intro hp
    obtain ⟨c, hcm, rfl⟩ := List.mem_map.mp hp
    obtain ⟨e0, h1, h2, h3⟩ := hview c hcm
    exact List.mem_map.mpr ⟨e0, h1, by rw [h2, h3]⟩
  · intro hp
    obtain ⟨e0, he0, rfl⟩ := List.mem_map.mp hp
    have hn : e0.1 ∈ names s' := clone_intact cfg hd hk fuel s h h' s' e e0.1 (List.mem_map.mpr ⟨e0, he0, rfl⟩)
    obtain ⟨c, hcm, hcn⟩ := List.mem_map.mp hn
    obtain ⟨e1, h1, h2, h3⟩ := hview c hcm
    have l0 := lookup_of_mem_nodup w.nodup he0
    have l1 := lookup_of_mem_nodup w.nodup h1
    rw [h2, hcn, l0] at l1
    simp only [Option.some.injEq] at l1
    exact List.mem_map.mpr ⟨c, hcm, by rw [hcn, h3, ← l1]⟩

def CloneKeepsTypesOrder (cfg : Cfg) : Prop :=
  ∀ fuel s h h' s', closedB h s = true → wfB h s = true → clone cfg fuel s h = some (h', s') → names s' = names s

/-- REFUTED for `Cfg.fixed` (and every other variant): `Schema.__init__` re-collects the types from the roots. Witness: Dog / Pet -/
theorem clone_types_order_refuted : ¬ CloneKeepsTypesOrder Cfg.fixed := by
  intro hf
  obtain ⟨r, hr, hn⟩ := Option.map_eq_some_iff.1 clone_closed_witness_fixed
  have := hf 8 s0 h0 r.1 r.2 s0_closed s0_wf hr
  rw [(Prod.mk.inj hn).2] at this
  exact absurd this (by decide +kernel)

/-- … while the clone OF A CLONE keeps the order (the order of `Schema.__init__` is a fixpoint), on the witness -/
theorem clone_types_order_fixpoint_witness :
    ((clone Cfg.fixed 8 s0 h0).bind fun r => (clone Cfg.fixed 8 r.2 r.1).map fun r2 => (names r.2, names r2.2))
      = some (["String", "Query", "Pet", "Dog"], ["String", "Query", "Pet", "Dog"]) := by decide +kernel

theorem current_clone_refines_directives (fuel : Nat)
    (s : Schema) (h h' : Heap) (s' : Schema) (hc : closedB h s = true) (hw : wfB h s = true) (hnd : (s.dirs.map (·.1)).Nodup)
    (e : clone PyGql.Generated.HeapCfg.currentCfg fuel s h = some (h', s')) :
    s'.dirs.map (fun c => (c.1, dirV h' c.2)) = s.dirs.map (fun e => (e.1, dirV h e.2)) :=
  clone_refines_directives _ cur_deepClone cur_keepAllTypes fuel s h h' s' hc hw hnd e

end PyGql.Props.C14
