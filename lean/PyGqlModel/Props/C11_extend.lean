/-
  C11 — theorems about the model of the PUBLIC `extend_schema(schema, document, strict)` (PyGqlModel/SdlExtend.lean):
  `strict=True` only ADDS `ExtensionError`s and drops nothing of the document; a document without type-system definitions
  returns the schema unchanged; the extension pass of `build_schema` is this function (non-strict, same document).
  The rejections (`extend_rejects`, `collectExtensions_rejects`) are in Props/C11_rejects.lean, next to the lemmas they use.
-/
import PyGqlModel.SdlExtend
import PyGqlModel.Props.C11_flags


namespace PyGql.Props.C11
open PyGql PyGql.Sdl PyGql.SdlSpec

theorem typeDefs_append (a b : Doc) : typeDefs (a ++ b) = typeDefs a ++ typeDefs b := List.filterMap_append
theorem dirDefs_append (a b : Doc) : dirDefs (a ++ b) = dirDefs a ++ dirDefs b := List.filterMap_append
theorem directiveDefs_append (a b : Doc) : directiveDefs (a ++ b) = directiveDefs a ++ directiveDefs b :=
  List.filterMap_append
theorem typeExts_append (a b : Doc) : typeExts (a ++ b) = typeExts a ++ typeExts b := List.filterMap_append
theorem schemaExtensions_append (a b : Doc) : schemaExtensions (a ++ b) = schemaExtensions a ++ schemaExtensions b :=
  List.filterMap_append
theorem typeExtensions_append (live : Live) (a b : Doc) : typeExtensions live (a ++ b) = typeExtensions live a ++ typeExtensions live b :=
  List.filterMap_append
theorem schemaDefs_append (a b : Doc) : schemaDefs (a ++ b) = schemaDefs a ++ schemaDefs b := List.filterMap_append

theorem foldl_strict (ht hd : String → Bool) : ∀ (doc : Doc) (acc c : ExtCollected),
    doc.foldlM (collectExtStep ht hd true) acc = .ok c → doc.foldlM (collectExtStep ht hd false) acc = .ok c :=
  fun doc acc c h => (Run.collectExt_ok_iff ht hd false doc acc c).mpr
    ⟨fun h' => (nomatch h'), ((Run.collectExt_ok_iff ht hd true doc acc c).mp h).2⟩

theorem collectExtStep_strict (ht hd : String → Bool) (acc acc' : ExtCollected) (d : Def)
    (h : collectExtStep ht hd true acc d = .ok acc') : collectExtStep ht hd false acc d = .ok acc' :=
  Run.foldlM_singleton_ok_iff.mp (foldl_strict ht hd [d] acc acc' (Run.foldlM_singleton_ok_iff.mpr h))

theorem filterTargets_strict (ht : String → Bool) (nd : List TypeDef) : ∀ (es r : List TypeDef),
    filterTargets ht true nd es = .ok r → filterTargets ht false nd es = .ok r :=
  fun es r h => (Run.filterTargets_ok_iff ht false nd es r).mpr ⟨fun h' => (nomatch h'), ((Run.filterTargets_ok_iff ht true nd es r).mp h).2⟩

/-- **strict=True only adds ExtensionErrors** (collection): what the strict call keeps, the non-strict call keeps -/
theorem strict_refines (live : Live) (doc : Doc) (c : ExtCollected) (h : collectExtensions live doc true = .ok c) :
    collectExtensions live doc false = .ok c :=
  (Run.collectExtensions_ok_iff live doc false c).mpr ⟨fun h' => (nomatch h'), ((Run.collectExtensions_ok_iff live doc true c).mp h).2⟩

/-- **strict=True only adds ExtensionErrors** (the whole call): if `extend_schema(s, doc, strict=True)` returns a schema,
    `extend_schema(s, doc, strict=False)` returns the same schema -/
theorem extend_strict_refines (baseDefs : List TypeDef) (baseDirs : List DirDef) (live r : Live) (doc : Doc)
    (h : extendSchemaPublic baseDefs baseDirs live doc true = .ok r) : extendSchemaPublic baseDefs baseDirs live doc false = .ok r :=
  let ⟨c, hc, h2⟩ := (Run.extendSchemaPublic_ok_iff ..).mp h
  (Run.extendSchemaPublic_ok_iff ..).mpr ⟨c, strict_refines live doc c hc, h2⟩

/-- … and a failure of the strict call that the non-strict call does not share is an `ExtensionError` of the collection -/
theorem extend_strict_only_ext (baseDefs : List TypeDef) (baseDirs : List DirDef) (live r : Live) (doc : Doc) (e : Err)
    (hs : extendSchemaPublic baseDefs baseDirs live doc true = .error e)
    (hl : extendSchemaPublic baseDefs baseDirs live doc false = .ok r) : e = .lib .ext := by
  unfold extendSchemaPublic at hs hl
  cases hc : collectExtensions live doc true with
  | error e' =>
    rw [hc] at hs
    cases hs
    exact collectExtensions_rejects live doc true _ hc
  | ok c =>
    rw [strict_refines live doc c hc] at hl
    rw [hc, bind_of_ok] at hs
    rw [bind_of_ok, hs] at hl
    cases hl

theorem foldl_strict_exact (ht hd : String → Bool) : ∀ (doc : Doc) (acc c : ExtCollected),
    doc.foldlM (collectExtStep ht hd true) acc = .ok c →
    c.typeDefs = acc.typeDefs ++ typeDefs doc ∧ c.dirDefs = acc.dirDefs ++ dirDefs doc ∧
    c.typeExts = acc.typeExts ++ typeExts doc ∧ c.schemaExts = acc.schemaExts ++ schemaExtensions doc ∧
    schemaDefs doc = [] ∧ (∀ t ∈ typeDefs doc, ht t.name = false) ∧ (∀ x ∈ dirDefs doc, hd x.name = false) := by
  intro doc acc c h
  obtain ⟨h0, h1, h2, h3, h4⟩ := (Run.collectExt_ok_iff ht hd true doc acc c).mp h
  obtain ⟨h5, h6, h7⟩ := h0 rfl
  -- nothing is skipped: every definition is new
  rw [List.filter_eq_self.mpr fun t ht' => by rw [h6 t ht']; rfl] at h1
  rw [List.filter_eq_self.mpr fun x hx => by rw [h7 x hx]; rfl] at h2
  exact ⟨appendNew_ok _ _ _ _ _ h1, appendNew_ok _ _ _ _ _ h2, h3, h4, h5, h6, h7⟩

theorem step_strict_exact (ht hd : String → Bool) (acc acc' : ExtCollected) (d : Def)
    (h : collectExtStep ht hd true acc d = .ok acc') :
    acc'.typeDefs = acc.typeDefs ++ typeDefs [d] ∧ acc'.dirDefs = acc.dirDefs ++ dirDefs [d] ∧
    acc'.typeExts = acc.typeExts ++ typeExts [d] ∧ acc'.schemaExts = acc.schemaExts ++ schemaExtensions [d] ∧
    schemaDefs [d] = [] ∧ (∀ t ∈ typeDefs [d], ht t.name = false) ∧ (∀ x ∈ dirDefs [d], hd x.name = false) :=
  foldl_strict_exact ht hd [d] acc acc' (Run.foldlM_singleton_ok_iff.mpr h)

theorem filterTargets_strict_all (ht : String → Bool) (nd : List TypeDef) : ∀ (es r : List TypeDef),
    filterTargets ht true nd es = .ok r → r = es :=
  fun es r h => let ⟨h1, h2⟩ := (Run.filterTargets_ok_iff ht true nd es r).mp h
    h2.trans (List.filter_eq_self.mpr (h1 rfl))

/-- **strict mode drops nothing**: when the strict collection succeeds it keeps EVERY type definition, directive
    definition, type extension and schema extension of the document, in document order; the document has no `schema`
    block and none of its definitions takes the name of a type or directive of the schema. -/
theorem collect_strict_exact (live : Live) (doc : Doc) (c : ExtCollected) (h : collectExtensions live doc true = .ok c) :
    c.typeDefs = typeDefs doc ∧ c.dirDefs = dirDefs doc ∧ c.typeExts = typeExts doc ∧ c.schemaExts = schemaExtensions doc ∧
    schemaDefs doc = [] ∧ (∀ t ∈ typeDefs doc, live.hasType t.name = false) ∧ (∀ x ∈ dirDefs doc, live.hasDirective x.name = false) := by
  obtain ⟨h0, h1, h2, h3, h4⟩ := (Run.collectExtensions_ok_iff live doc true c).mp h
  obtain ⟨⟨h5, h6, h7⟩, h8⟩ := h0 rfl
  rw [List.filter_eq_self.mpr fun t ht' => by rw [h6 t ht']; rfl] at h1
  rw [List.filter_eq_self.mpr fun x hx => by rw [h7 x hx]; rfl] at h2
  exact ⟨appendNew_ok _ _ _ _ _ h1, appendNew_ok _ _ _ _ _ h2, h3.trans (List.filter_eq_self.mpr h8), h4, h5, h6, h7⟩

/-- `extend_schema(schema, "{ a }")` returns the schema itself -/
theorem extend_noop (baseDefs : List TypeDef) (baseDirs : List DirDef) (live : Live) (strict : Bool) (n : Nat) :
    extendSchemaPublic baseDefs baseDirs live (List.replicate n .other) strict = .ok live := by
  have hf : ∀ acc, (List.replicate n Def.other).foldlM (collectExtStep live.hasType live.hasDirective strict) acc = .ok acc := by
    induction n with
    | zero => intro acc; rfl
    | succ k ih => intro acc; rw [List.replicate_succ, List.foldlM_cons]; exact ih acc
  unfold extendSchemaPublic collectExtensions
  rw [hf]
  rfl

theorem typeExtensions_eq_filter (live : Live) (doc : Doc) :
    typeExtensions live doc = (typeExts doc).filter (fun e => live.hasType e.name) :=
  typeExtensions_eq live doc

theorem filterTargets_lax (ht : String → Bool) (nd : List TypeDef) : ∀ (es : List TypeDef),
    filterTargets ht false nd es = .ok (es.filter fun e => nd.any (·.name == e.name) || ht e.name) :=
  fun es => (Run.filterTargets_ok_iff ht false nd es _).mpr ⟨fun h' => (nomatch h'), rfl⟩

theorem collect_lax_self (live : Live) (doc : Doc)
    (hT : ∀ t ∈ typeDefs doc, live.hasType t.name = true) (hD : ∀ d ∈ dirDefs doc, live.hasDirective d.name = true) :
    collectExtensions live doc false
      = .ok { schemaExts := schemaExtensions doc, typeDefs := [], dirDefs := [], typeExts := typeExtensions live doc } := by
  refine (Run.collectExtensions_ok_iff live doc false _).mpr ⟨fun h' => (nomatch h'), ?_, ?_, typeExtensions_eq_filter live doc, rfl⟩
  · rw [List.filter_eq_nil_iff.mpr fun t ht' => by rw [hT t ht']; exact Bool.false_ne_true]
    rfl
  · rw [List.filter_eq_nil_iff.mpr fun x hx => by rw [hD x hx]; exact Bool.false_ne_true]
    rfl

/-- **the extension pass of `build_schema` is the public `extend_schema(schema, document, strict=False)`** on the same
    document (as in the code, where `build_schema` calls `extend_schema`): one returns a schema iff the other does, and
    it is the same schema.  (Only the ORDER in which the two models meet a rejection differs.) -/
theorem extendSchema_is_public (doc : Doc) (live r : Live)
    (hT : ∀ t ∈ typeDefs doc, live.hasType t.name = true) (hD : ∀ d ∈ dirDefs doc, live.hasDirective d.name = true) :
    extendSchema (Env.of (typeDefs doc)) live doc [] = .ok r ↔
    extendSchemaPublic (typeDefs doc) (directiveDefs doc) live doc false = .ok r := by
  rw [Run.extendSchema_ok_iff, Run.extendSchemaPublic_ok_iff]
  simp only [collect_lax_self live doc hT hD, Run.ok_ok_iff, exists_eq_left', List.isEmpty_nil, Bool.and_true,
    Bool.and_comm (typeExtensions live doc).isEmpty, Run.publicRun_nothing_new, List.append_nil]
  by_cases hE : ((schemaExtensions doc).isEmpty && (typeExtensions live doc).isEmpty) = true
  · rw [if_pos hE, if_pos hE]
  · rw [if_neg hE, if_neg hE]
    -- both sides are the pass on the types of the schema; no supplied type is registered
    constructor
    · rintro ⟨ts, ds, ro, hp, hd, rfl⟩
      exact ⟨(List.append_nil ts).symm ▸ hp, hd⟩
    · rintro ⟨hp, hd⟩
      exact ⟨r.types, r.directives, r.roots, hp, hd, congrArg (Live.mk · r.directives r.roots) (List.append_nil r.types).symm⟩

/-- non-vacuity of `extendSchema_is_public`: `type Query { a: Int }` + two extension blocks, against the schema of the
    definition alone: the hypotheses hold and both sides return a schema (with the fields a, b, c) -/
def liveQ : Live := { types := [{ kind := .object, name := "Query", fields := [{ name := "a", type := .named "Int" }] }],
                      directives := [], roots := { query := some "Query" } }
example : (∀ t ∈ typeDefs twoExt, liveQ.hasType t.name = true) ∧ (∀ d ∈ dirDefs twoExt, liveQ.hasDirective d.name = true) := by
  decide +kernel
example : ((extendSchemaPublic (typeDefs twoExt) (directiveDefs twoExt) liveQ twoExt false).toOption.map
    fun l => l.types.map fun t => t.fields.map (·.name)) = some [["a", "b", "c"]] := by decide +kernel

def exA : Doc := [.type exQuery, .type { kind := .enum, name := "E", values := [{ name := "A" }] },
  .type { kind := .input, name := "I", inputFields := [{ name := "x", type := .named "Int" }] },
  .ext { kind := .object, name := "Query", fields := [{ name := "f", type := .named "Int", args := [{ name := "i", type := .named "I", default := some (.obj []) }] }] }]

/-- new type + extension BEFORE its definition + extension of old types (a new input field with a default, which
    completes the old default `{}` of `Query.f(i:)`) + a new root -/
def exB : Doc := [
  .ext { kind := .object, name := "M", fields := [{ name := "e", type := .named "E" }] },
  .type { kind := .object, name := "M", fields := [{ name := "m", type := .named "Int" }] },
  .ext { kind := .input, name := "I", inputFields := [{ name := "y", type := .named "E", default := some (.enum "B") }] },
  .ext { kind := .enum, name := "E", values := [{ name := "B" }] },
  .schemaExt { ops := [("mutation", "M")] }]

/-- everything a schema records except the VALUES of the defaults (their presence is kept) -/
def digest (s : SchemaD) : List (String × List String) :=
  (s.types.map fun t => (t.name, t.interfaces ++ t.members ++ t.values.map (·.name)
      ++ (t.fields.flatMap fun f => f.name :: f.type.render :: f.args.flatMap fun a => [a.name, a.type.render, toString a.hasDefault])
      ++ t.inputFields.flatMap fun a => [a.name, a.type.render, toString a.hasDefault]))
  ++ (s.directives.map fun d => ("@" ++ d.name, d.args.map (·.name)))
  ++ [("roots", s.query.toList ++ "/" :: s.mutation.toList ++ "/" :: s.subscription.toList)]

/-- the completed default of `Query.f(i:)` -/
def fDefault (s : SchemaD) : Option J :=
  (s.types.find? (·.name == "Query")).bind fun q => (q.fields.find? (·.name == "f")).bind fun f => f.args.head?.map (·.default)

/-- `{y: "B"}`: the old default `{}` completed with the default of the field an extension block of B adds, whose
    value `B` is itself added to `E` by B -/
def isYB : Option J → Bool
  | some (.obj [(k, .str v)]) => k == "y" && v == "B"
  | _ => false

def sameSchema (a : R (R SchemaD)) (b : R SchemaD) : Bool :=
  match a, b with
  | .ok (.ok s), .ok s' => digest s == digest s' && isYB (fDefault s) && isYB (fDefault s')
  | _, _ => false

/-- strict refuses a redefinition, non-strict ignores it and applies the rest -/
def exBredef : Doc := .type exQuery :: exB

-- decided together: `build (exA ++ exB)` is evaluated once
private theorem exAB_same : sameSchema (buildThenExtend exA exB true) (build (exA ++ exB)) = true ∧
    sameSchema (buildThenExtend exA exB false) (build (exA ++ exB)) = true ∧
    sameSchema (buildThenExtend exA exBredef false) (build (exA ++ exB)) = true := by decide +kernel

example : sameSchema (buildThenExtend exA exB true) (build (exA ++ exB)) = true := exAB_same.1
example : sameSchema (buildThenExtend exA exB false) (build (exA ++ exB)) = true := exAB_same.2.1
example : (match buildThenExtend exA exBredef true with | .ok (.error (.lib .ext)) => true | _ => false) = true := by decide +kernel
example : sameSchema (buildThenExtend exA exBredef false) (build (exA ++ exB)) = true := exAB_same.2.2

/-- non-vacuity of `collect_strict_exact` / `strict_refines`: the strict collection of `exB` succeeds -/
example : (collectExtensions { types := [{ kind := .enum, name := "E" }, { kind := .input, name := "I" }], directives := [], roots := {} } exB true).toBool = true := by decide +kernel

end PyGql.Props.C11
