/-
  C11 — what `strict=False` "silently ignores", exactly.

  `lax_is_strict_on_kept`: the non-strict collection of a document `B` IS the strict collection of `laxKeep live B` — `B`
  without its `schema` blocks, without the definitions of types / directives the schema already has, and without the
  extension blocks whose target is neither a type of the schema nor a new definition.  Same result, or the same
  `ExtensionError` (a new name defined twice).  Hence (`extend_lax_is_strict_on_kept`) the non-strict `extend_schema` is the
  strict one on the kept part, and `extend_exact_strict` describes its result: the content declared by the base
  definitions and the KEPT part of `B`.
-/
import PyGqlModel.Props.C11_extend_general


namespace PyGql.Props.C11
open PyGql PyGql.Sdl PyGql.SdlSpec

/-- first loop of `_collect_extensions`, non-strict: what is not skipped -/
def laxKeepDef (live : Live) : Def → Bool
  | .schema _ => false
  | .type t => !live.hasType t.name
  | .directive d => !live.hasDirective d.name
  | _ => true

/-- second loop: the target is a new definition or a type of the schema -/
def laxKnown (live : Live) (B1 : Doc) (n : String) : Bool := (typeDefs B1).any (·.name == n) || live.hasType n

def laxKeepExt (live : Live) (B1 : Doc) : Def → Bool
  | .ext e => laxKnown live B1 e.name
  | _ => true

/-- the part of `B` a non-strict `extend_schema` does not ignore -/
def laxKeep (live : Live) (B : Doc) : Doc :=
  (B.filter (laxKeepDef live)).filter (laxKeepExt live (B.filter (laxKeepDef live)))

theorem step_kept (live : Live) (acc : ExtCollected) (d : Def) (hk : laxKeepDef live d = true) :
    collectExtStep live.hasType live.hasDirective false acc d = collectExtStep live.hasType live.hasDirective true acc d := by
  cases d <;> simp only [laxKeepDef, Bool.not_eq_true'] at hk <;> simp only [collectExtStep, hk, Bool.false_eq_true, if_false]

theorem step_dropped (live : Live) (acc : ExtCollected) (d : Def) (hk : laxKeepDef live d = false) :
    collectExtStep live.hasType live.hasDirective false acc d = .ok acc := by
  cases d <;> simp only [laxKeepDef, Bool.not_eq_false'] at hk <;> first
    | (simp only [collectExtStep, hk, if_true, Bool.false_eq_true, if_false]; rfl)
    | cases hk

theorem foldl_lax_drop (live : Live) : ∀ (B : Doc) (acc : ExtCollected),
    B.foldlM (collectExtStep live.hasType live.hasDirective false) acc
      = (B.filter (laxKeepDef live)).foldlM (collectExtStep live.hasType live.hasDirective true) acc := by
  intro B
  induction B with
  | nil => intro acc; rfl
  | cons d ds ih =>
    intro acc
    rw [List.foldlM_cons, List.filter_cons]
    cases hk : laxKeepDef live d with
    | false =>
      rw [step_dropped live acc d hk]
      simp only [bind, Except.bind, Bool.false_eq_true, if_false]
      exact ih acc
    | true =>
      simp only [if_true]
      rw [List.foldlM_cons, step_kept live acc d hk]
      cases collectExtStep live.hasType live.hasDirective true acc d with
      | error e => rfl
      | ok a => simp only [bind, Except.bind]; exact ih a

/-- equal up to the list of extension blocks -/
def SameBut (a b : ExtCollected) : Prop := a.schemaExts = b.schemaExts ∧ a.typeDefs = b.typeDefs ∧ a.dirDefs = b.dirDefs

/-- `y` fails as `x` does, or both succeed, with collections that agree up to the extension blocks -/
def SameButR (x y : R ExtCollected) : Prop :=
  (∀ e, x = .error e → y = .error e) ∧ (∀ a, x = .ok a → ∃ a', y = .ok a' ∧ SameBut a a')

theorem SameButR.error (e : Err) : SameButR (.error e) (.error e) := ⟨fun _ h => h, fun _ h => (nomatch h)⟩

theorem SameButR.ok {c c' : ExtCollected} (h : SameBut c c') : SameButR (.ok c) (.ok c') :=
  ⟨fun _ h => (nomatch h), fun a ha => by cases ha; exact ⟨c', rfl, h⟩⟩

theorem SameButR.ite {p : Prop} [Decidable p] {x x' y y' : R ExtCollected} (hx : SameButR x x') (hy : SameButR y y') :
    SameButR (if p then x else y) (if p then x' else y') := by
  split
  · exact hx
  · exact hy

theorem SameButR.bind {x x' : R ExtCollected} {f f' : ExtCollected → R ExtCollected} (hx : SameButR x x')
    (hf : ∀ a a', SameBut a a' → SameButR (f a) (f' a')) : SameButR (x >>= f) (x' >>= f') := by
  cases x with
  | error e =>
    rw [hx.1 e rfl]
    exact .error e
  | ok a =>
    obtain ⟨a', ha', hs⟩ := hx.2 a rfl
    rw [ha']
    exact hf a a' hs

theorem step_congr (ht hd : String → Bool) (acc acc' : ExtCollected) (h : SameBut acc acc') (d : Def) :
    (∀ e, collectExtStep ht hd true acc d = .error e → collectExtStep ht hd true acc' d = .error e) ∧
    (∀ a, collectExtStep ht hd true acc d = .ok a → ∃ a', collectExtStep ht hd true acc' d = .ok a' ∧ SameBut a a') := by
  -- the step reads the new definitions collected so far, never the extension blocks
  obtain ⟨s, ts, ds, x⟩ := acc
  obtain ⟨s', ts', ds', x'⟩ := acc'
  obtain ⟨rfl, rfl, rfl⟩ := h
  show SameButR _ _
  cases d with
  | schema _ => exact .error _
  | type t => exact .ite (.error _) (.ite (.error _) (.ok ⟨rfl, rfl, rfl⟩))
  | directive t => exact .ite (.error _) (.ite (.error _) (.ok ⟨rfl, rfl, rfl⟩))
  | ext _ => exact .ok ⟨rfl, rfl, rfl⟩
  | schemaExt _ => exact .ok ⟨rfl, rfl, rfl⟩
  | other => exact .ok ⟨rfl, rfl, rfl⟩
theorem foldl_drop_exts (ht hd : String → Bool) (keep : Def → Bool) (hkeep : ∀ d, keep d = false → ∃ e, d = .ext e) :
    ∀ (B : Doc) (acc acc' : ExtCollected), SameBut acc acc' →
      (∀ e, B.foldlM (collectExtStep ht hd true) acc = .error e → (B.filter keep).foldlM (collectExtStep ht hd true) acc' = .error e) ∧
      (∀ c, B.foldlM (collectExtStep ht hd true) acc = .ok c →
        ∃ c', (B.filter keep).foldlM (collectExtStep ht hd true) acc' = .ok c' ∧ SameBut c c') := by
  intro B
  induction B with
  | nil => exact fun _ _ h => SameButR.ok h
  | cons d ds ih =>
    intro acc acc' h
    rw [List.foldlM_cons, List.filter_cons]
    cases hk : keep d with
    | false =>
      obtain ⟨e, rfl⟩ := hkeep d hk
      rw [if_neg Bool.false_ne_true]
      exact ih _ acc' h
    | true =>
      rw [if_pos rfl, List.foldlM_cons]
      exact SameButR.bind (step_congr ht hd acc acc' h d) ih

theorem filterTargets_strict_filtered (ht : String → Bool) (nd : List TypeDef) : ∀ (es : List TypeDef),
    filterTargets ht true nd (es.filter fun e => nd.any (·.name == e.name) || ht e.name)
      = .ok (es.filter fun e => nd.any (·.name == e.name) || ht e.name) :=
  fun _ => (Run.filterTargets_ok_iff ht true nd _ _).mpr
    ⟨fun _ _ he => (List.mem_filter.mp he).2, (List.filter_eq_self.mpr fun _ he => (List.mem_filter.mp he).2).symm⟩

theorem typeExts_filter_keepDef (live : Live) (B : Doc) : typeExts (B.filter (laxKeepDef live)) = typeExts B := by
  unfold typeExts
  rw [List.filterMap_filter]
  congr 1
  funext d
  cases d with
  | type t => exact ite_self _
  | directive x => exact ite_self _
  | _ => rfl

theorem typeExts_filter_keepExt (live : Live) (B0 B1 : Doc) :
    typeExts (B1.filter (laxKeepExt live B0)) = (typeExts B1).filter (fun e => laxKnown live B0 e.name) := by
  unfold typeExts
  rw [List.filterMap_filter, List.filter_filterMap]
  congr 1
  funext d
  cases d <;> rfl
/-- **non-strict = strict on what is kept** (collection) -/
theorem lax_is_strict_on_kept (live : Live) (B : Doc) :
    collectExtensions live B false = collectExtensions live (laxKeep live B) true := by
  unfold collectExtensions
  rw [foldl_lax_drop live B {}]
  have hkeep : ∀ d, laxKeepExt live (B.filter (laxKeepDef live)) d = false → ∃ e, d = .ext e := by
    intro d hd; cases d <;> simp [laxKeepExt] at hd ⊢
  obtain ⟨herr, hok⟩ := foldl_drop_exts live.hasType live.hasDirective _ hkeep (B.filter (laxKeepDef live)) {} {} ⟨rfl, rfl, rfl⟩
  cases h1 : (B.filter (laxKeepDef live)).foldlM (collectExtStep live.hasType live.hasDirective true) {} with
  | error e =>
    have := herr e h1
    unfold laxKeep
    rw [this]
    rfl
  | ok c =>
    obtain ⟨c', hc', hs1, hs2, hs3⟩ := hok c h1
    unfold laxKeep
    rw [hc']
    simp only [bind, Except.bind]
    obtain ⟨e1, _, e3, _⟩ := foldl_strict_exact _ _ _ _ c h1
    obtain ⟨_, _, e3', _⟩ := foldl_strict_exact _ _ _ _ c' hc'
    simp only [List.nil_append] at e1 e3 e3'
    have hknown : (fun e : TypeDef => laxKnown live (B.filter (laxKeepDef live)) e.name)
        = fun e : TypeDef => c.typeDefs.any (·.name == e.name) || live.hasType e.name := by
      funext e; simp only [laxKnown, e1]
    rw [filterTargets_lax, e3, e3', typeExts_filter_keepExt, hknown, ← hs2, filterTargets_strict_filtered]
    simp only [pure, Except.pure, hs1, hs2, hs3]

/-- **non-strict `extend_schema` = strict `extend_schema` on what is kept** -/
theorem extend_lax_is_strict_on_kept (baseDefs : List TypeDef) (baseDirs : List DirDef) (live : Live) (B : Doc) :
    extendSchemaPublic baseDefs baseDirs live B false = extendSchemaPublic baseDefs baseDirs live (laxKeep live B) true := by
  unfold extendSchemaPublic
  rw [lax_is_strict_on_kept]

/-- **exactness of the non-strict call, for EVERY document `B`**: what `extend_schema(schema, B, strict=False)` returns is the
    content declared by the base definitions and the part of `B` it does not ignore (`laxKeep`) — provided that part is
    accepted by the strict collection (no new name defined twice) and valid together with the base. -/
theorem extend_exact_lax_general (base B : Doc) (hb : NoExt base) (env : Env) (live : Live)
    (hbuild : buildIgnoringExtensions base [] = .ok (env, live))
    (c : ExtCollected) (hc : collectExtensions live (laxKeep live B) true = .ok c)
    (d : SchemaD) (v : SdlOK (base ++ laxKeep live B) d)
    (hroot : schemaDefs base ≠ [] ∨ ∀ t ∈ typeDefs (laxKeep live B), t.name ≠ "Query" ∧ t.name ≠ "Mutation" ∧ t.name ≠ "Subscription") :
    ∃ r, extendSchemaPublic (typeDefs base) (directiveDefs base) live B false = .ok r ∧ toSchemaD r = d := by
  rw [extend_lax_is_strict_on_kept]
  exact extend_exact_strict base (laxKeep live B) hb env live hbuild c hc d v hroot

/-- two orderings of one extension document (the extension blocks of each target in the same relative
    order — an extension block may stand BEFORE the definition it extends) give schemas with the same content. -/
theorem extend_perm (base B₁ B₂ : Doc) (hb : NoExt base) (env : Env) (live : Live)
    (hbuild : buildIgnoringExtensions base [] = .ok (env, live))
    (c₁ c₂ : ExtCollected) (hc₁ : collectExtensions live B₁ true = .ok c₁) (hc₂ : collectExtensions live B₂ true = .ok c₂)
    (d₁ : SchemaD) (v : SdlOK (base ++ B₁) d₁) (hp : B₁.Perm B₂)
    (hx : SameExtOrder B₁ B₂) (hsx : schemaExtensions B₁ = schemaExtensions B₂)
    (hroot : schemaDefs base ≠ [] ∨ ∀ t ∈ typeDefs B₁, t.name ≠ "Query" ∧ t.name ≠ "Mutation" ∧ t.name ≠ "Subscription") :
    ∃ r₁ r₂, extendSchemaPublic (typeDefs base) (directiveDefs base) live B₁ true = .ok r₁ ∧
      extendSchemaPublic (typeDefs base) (directiveDefs base) live B₂ true = .ok r₂ ∧ SameContent (toSchemaD r₁) (toSchemaD r₂) := by
  have hp' : (base ++ B₁).Perm (base ++ B₂) := hp.append_left base
  have hx' : SameExtOrder (base ++ B₁) (base ++ B₂) := by
    intro n; rw [typeExts_append, typeExts_append, List.filter_append, List.filter_append, hx n]
  have hsx' : schemaExtensions (base ++ B₁) = schemaExtensions (base ++ B₂) := by
    rw [schemaExtensions_append, schemaExtensions_append, hsx]
  obtain ⟨d₂, v₂, hT, hD, hq, hm, hs⟩ := sdlOK_perm _ _ d₁ v hp' hx' hsx'
  have hroot₂ : schemaDefs base ≠ [] ∨ ∀ t ∈ typeDefs B₂, t.name ≠ "Query" ∧ t.name ≠ "Mutation" ∧ t.name ≠ "Subscription" := by
    rcases hroot with h | h
    · exact Or.inl h
    · exact Or.inr (fun t ht => h t ((typeDefs_perm hp).mem_iff.mpr ht))
  obtain ⟨r₁, hr₁, e₁⟩ := extend_exact_strict base B₁ hb env live hbuild c₁ hc₁ d₁ v hroot
  obtain ⟨r₂, hr₂, e₂⟩ := extend_exact_strict base B₂ hb env live hbuild c₂ hc₂ d₂ v₂ hroot₂
  refine ⟨r₁, r₂, hr₁, hr₂, ?_⟩
  rw [e₁, e₂]
  exact ⟨hq, hm, hs, fun t => hT.mem_iff, fun d => hD.mem_iff⟩

/-- when no type is extended twice, EVERY reordering keeps the per-target order of the extension blocks -/
theorem filter_name_le_one (l : List TypeDef) (h : (l.map (·.name)).Nodup) (n : String) : (l.filter (·.name == n)).length ≤ 1 := by
  induction l with
  | nil => simp
  | cons x xs ih =>
    simp only [List.map_cons, List.nodup_cons] at h
    rw [List.filter_cons]
    by_cases hx : (x.name == n) = true
    · simp only [hx, if_true, List.length_cons]
      have : xs.filter (·.name == n) = [] := by
        rw [List.filter_eq_nil_iff]
        intro y hy hyn
        have e1 : x.name = n := by simpa using hx
        have e2 : y.name = n := by simpa using hyn
        exact h.1 (by rw [e1, ← e2]; exact List.mem_map_of_mem hy)
      rw [this]; simp
    · simp only [hx, Bool.false_eq_true, if_false]; exact ih h.2

theorem sameExtOrder_of_nodup (B₁ B₂ : Doc) (hp : B₁.Perm B₂) (h : ((typeExts B₁).map (·.name)).Nodup) : SameExtOrder B₁ B₂ :=
  fun n => perm_short ((typeExts_perm hp).filter _) (filter_name_le_one _ h n)

/-- non-vacuity of `extend_perm`: `gB` (new type extended before its definition, new directive, extensions of three old
    types, new root) and its reversal -/
example : ∃ env live r₁ r₂, buildIgnoringExtensions gBase [] = .ok (env, live) ∧
    extendSchemaPublic (typeDefs gBase) (directiveDefs gBase) live gB true = .ok r₁ ∧
    extendSchemaPublic (typeDefs gBase) (directiveDefs gBase) live gB.reverse true = .ok r₂ ∧ SameContent (toSchemaD r₁) (toSchemaD r₂) := by
  have hcb : (match buildIgnoringExtensions gBase [] with
              | .ok (_, l) => (collectExtensions l gB true).toBool && (collectExtensions l gB.reverse true).toBool
              | .error _ => false) = true := by decide +kernel
  cases h : buildIgnoringExtensions gBase [] with
  | error e => rw [h] at hcb; cases hcb
  | ok p =>
    obtain ⟨env, live⟩ := p
    rw [h] at hcb
    simp only [Bool.and_eq_true] at hcb
    cases hc₁ : collectExtensions live gB true with
    | error e => rw [hc₁] at hcb; cases hcb.1
    | ok c₁ =>
      cases hc₂ : collectExtensions live gB.reverse true with
      | error e => rw [hc₂] at hcb; cases hcb.2
      | ok c₂ =>
        have hp : gB.Perm gB.reverse := (List.reverse_perm gB).symm
        obtain ⟨r₁, r₂, h1, h2, h3⟩ := extend_perm gBase gB gB.reverse ⟨rfl, rfl⟩ env live h c₁ c₂ hc₁ hc₂ _ gBoth_ok hp
          (sameExtOrder_of_nodup _ _ hp (by decide +kernel)) rfl (Or.inr (by decide +kernel))
        exact ⟨env, live, r₁, r₂, rfl, h1, h2, h3⟩

/-! ### an evaluated instance: a redefinition, a `schema` block, an extension of an unknown type and a redefined
specified directive are dropped; the new type, its extension and the extension of an old type are kept -/

def lxLive : Live := { types := [{ kind := .object, name := "Query", fields := [{ name := "a", type := .named "Int" }] }],
                       directives := [], roots := { query := some "Query" } }

def lxB : Doc := [
  .type exQuery,
  .schema { ops := [("query", "Query")] },
  .ext { kind := .object, name := "Nope", fields := [{ name := "x", type := .named "Int" }] },
  .directive { name := "skip", locations := ["FIELD"] },
  .ext { kind := .object, name := "A", fields := [{ name := "b", type := .named "Int" }] },
  .type { kind := .object, name := "A", fields := [{ name := "a", type := .named "Int" }] },
  .ext exExt]

def defTag : Def → String
  | .type t => "type " ++ t.name | .ext t => "extend " ++ t.name | .directive d => "@" ++ d.name
  | .schema _ => "schema" | .schemaExt _ => "extend schema" | .other => "other"

example : (laxKeep lxLive lxB).map defTag = ["extend A", "type A", "extend Query"] := by decide +kernel
example : (collectExtensions lxLive lxB true).toBool = false := by decide +kernel
example : ((collectExtensions lxLive lxB false).toOption.map fun c => (c.typeDefs.map (·.name), c.typeExts.map (·.name)))
    = some (["A"], ["A", "Query"]) := by decide +kernel

end PyGql.Props.C11
