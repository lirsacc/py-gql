/-
  C09 — the LOOP form of `execute_fields_serially` (the code of /repo, `AsyncExecLoop.lean`) against the RECURSIVE form
  (`AsyncExec.serialNext`, the one `serial_order`, `serial_queue_invariant`, … are proved about).

  `serial_loop_eq_recursive_call`: called on the same queue, the same accumulated fields and the same executor state,
  the two produce the SAME executor state (trace of resolver calls, errors, outstanding tasks) and the same Future up to
  `unwrap_future` (`flat`): the recursion wraps the rest of a run that follows an already finished Future in that
  Future's `chain` target (`done rest`, an exception of the rest stored in it), the loop returns the rest itself / lets
  the exception propagate — `execute` applies `unwrap_value` to the result at once, and an exception raised out of
  `execute` and a failed Future are the same outcome (`runAsync`).
-/
import PyGqlModel.Lemmas.ExecLoop

namespace PyGql.Props.C09
open PyGql.AsyncExec PyGql.AsyncExec.Loop

/-- what `unwrap_future` makes of the result of `_next()` (an exception raised synchronously = a failed Future) -/
def flat : Res Node → Node
  | .exc e => .failed e
  | .ok n => unwrapCb n

private theorem flat_done (x : Node) : flat (.ok (.done x)) = flat (.ok x) := by
  cases x <;> rfl

/-- `flat` of a `_next` result while the chain is waiting: `unwrap (chain field cb)` with nothing serial below -/
private def MidShape (N : Node) : Prop :=
  SFree N = true ∨ ∃ f p key res args, N = .unwrap (.chain f (.serialCb p key res args)) ∧ SFree f = true

/-- the root Future of `execute` -/
private def TopShape (T : Node) : Prop :=
  SFree T = true ∨ ∃ f p key res args, T = .chain (.unwrap (.chain f (.serialCb p key res args))) .onFinish ∧ SFree f = true

/-- an outcome of the loop form against the outcome of the recursive form: the same Future up to `unwrap_future`, which is
    free of serial callbacks or waits behind one, and the same executor state -/
private def LoopOK (rl rn : Res Node × ExecSt) : Prop :=
  flat rl.1 = flat rn.1 ∧ rl.2 = rn.2 ∧ MidShape (flat rn.1)

/-- The two forms of `_next` are the same `match` on what `resolve_field` returned, up to the branch of a finished Future. -/
private theorem serialNext_loopOK (path : Path) : ∀ (args : Flds) (resolved : List (String × V)) (s : ExecSt),
    LoopOK (serialLoop path resolved args s) (serialNext path resolved args s)
  | .nil, _, _ => ⟨rfl, rfl, .inl rfl⟩
  | .cons key mode out args, resolved, s => by
    have ih := serialNext_loopOK path args
    have hs := resolveField_sfree out (path ++ [.key key]) mode s
    rw [serialLoop, serialNext]
    generalize resolveField (path ++ [.key key]) mode out s = x at hs ⊢
    obtain ⟨n | e, s1⟩ := x
    · have parked : LoopOK (.ok (.chain n (.serialCb path key resolved args)), s1)
          (.ok (.chain n (.serialCb path key resolved args)), s1) := ⟨rfl, rfl, .inr ⟨_, _, _, _, _, rfl, hs⟩⟩
      cases n with
      | val x =>
        cases x with
        | data v => exact ih _ s1
        | _ => exact ⟨rfl, rfl, .inl rfl⟩
      | failed e => exact ⟨rfl, rfl, .inl rfl⟩
      | done r =>
        cases r with
        | val x =>
          cases x with
          | data v =>
            -- the recursion stores the rest of the run in the target Future of the chain; `flat` looks through it
            have h := ih (resolved ++ [(key, v)]) s1
            dsimp only
            generalize serialNext path (resolved ++ [(key, v)]) args s1 = y at h ⊢
            obtain ⟨m | e, s2⟩ := y
            · exact ⟨h.1.trans (flat_done m).symm, h.2.1, flat_done m ▸ h.2.2⟩
            · exact h
          | _ => exact parked
        | _ => exact parked
      | _ => exact parked
    · exact ⟨rfl, rfl, .inl rfl⟩

theorem serial_loop_eq_recursive_call (path : Path) : ∀ (args : Flds) (resolved : List (String × V)) (s : ExecSt),
    flat (serialLoop path resolved args s).1 = flat (serialNext path resolved args s).1
      ∧ (serialLoop path resolved args s).2 = (serialNext path resolved args s).2 :=
  fun args resolved s => ⟨(serialNext_loopOK path args resolved s).1, (serialNext_loopOK path args resolved s).2.1⟩

private theorem serialCb_loopOK (p : Path) (key : String) (res : List (String × V)) (args : Flds) (r : Res Val) (s : ExecSt) :
    LoopOK (applyContL (.serialCb p key res args) r s) (applyCont (.serialCb p key res args) r s) := by
  cases r with
  | ok x =>
    cases x with
    | data v => exact serialNext_loopOK p args _ s
    | _ => exact ⟨rfl, rfl, .inl rfl⟩
  | exc e => exact ⟨rfl, rfl, .inl rfl⟩

/-- `chain.on_finish` parks the callback, or stores what it makes of the source's outcome — whatever interprets the callback -/
private theorem chainOnFinish_cases (src : Node) (k : Cont) (s : ExecSt) :
    (∀ ap, chainOnFinish ap src k s = (.chain src k, s)) ∨ ∀ ap, chainOnFinish ap src k s = settle (ap k (srcRes src) s) := by
  cases src with
  | failed e => exact .inr fun ap => chainOnFinish_eq ap _ k s
  | done r => exact .inr fun ap => chainOnFinish_eq ap _ k s
  | _ => exact .inl fun _ => rfl

private theorem flat_settle (r : Res Node × ExecSt) : flat (.ok (settle r).1) = flat r.1 ∧ (settle r).2 = r.2 := by
  obtain ⟨x | e, s⟩ := r
  · exact ⟨flat_done x, rfl⟩
  · exact ⟨rfl, rfl⟩

private theorem loopOK_settle {rl rn : Res Node × ExecSt} (h : LoopOK rl rn) :
    LoopOK (.ok (settle rl).1, (settle rl).2) (.ok (settle rn).1, (settle rn).2) := by
  unfold LoopOK
  rw [(flat_settle rl).1, (flat_settle rl).2, (flat_settle rn).1, (flat_settle rn).2]
  exact h

/-- the serial callback fires (or not) on the delivered field node, then `unwrap_future`'s callback: same node, same
    state under both readings of `_next` -/
private theorem inner_step (f' : Node) (p : Path) (key : String) (res : List (String × V)) (args : Flds) (s1 : ExecSt)
    (hf' : SFree f' = true) :
    LoopOK (.ok (chainOnFinish applyContL f' (.serialCb p key res args) s1).1, (chainOnFinish applyContL f' (.serialCb p key res args) s1).2)
      (.ok (chainOnFinish applyCont f' (.serialCb p key res args) s1).1, (chainOnFinish applyCont f' (.serialCb p key res args) s1).2) := by
  rcases chainOnFinish_cases f' (.serialCb p key res args) s1 with h | h <;> rw [h, h]
  · exact ⟨rfl, rfl, .inr ⟨_, _, _, _, _, rfl, hf'⟩⟩
  · exact loopOK_settle (serialCb_loopOK p key res args _ s1)

private theorem outer_step (N : Node) (s : ExecSt) (hN : MidShape N) :
    chainOnFinish applyContL N .onFinish s = chainOnFinish applyCont N .onFinish s
      ∧ TopShape (chainOnFinish applyCont N .onFinish s).1 := by
  refine ⟨chainOnFinish_congr N .onFinish rfl s, ?_⟩
  cases hN with
  | inl h => exact Or.inl (chainOnFinish_sfree applyCont .onFinish (applyCont_sfree .onFinish rfl) rfl N s h)
  | inr h =>
    obtain ⟨f, p, key, res, args, rfl, hf⟩ := h
    exact Or.inr ⟨f, p, key, res, args, rfl, hf⟩

private theorem deliver_top (T : Node) (t : Nat) (s : ExecSt) (hT : TopShape T) :
    deliver applyContL t T s = deliver applyCont t T s ∧ TopShape (deliver applyCont t T s).1 := by
  cases hT with
  | inl h => exact ⟨deliver_congr T t s h, Or.inl (deliver_sfree T t s h)⟩
  | inr h =>
    obtain ⟨f, p, key, res, args, rfl, hf⟩ := h
    have hf' := deliver_sfree f t s hf
    simp only [deliver, deliver_congr f t s hf]
    generalize deliver applyCont t f s = x at hf' ⊢
    obtain ⟨f', s1⟩ := x
    obtain ⟨h1, h2, hm⟩ := inner_step f' p key res args s1 hf'
    simp only [flat] at h1 h2
    simp only [h1, h2]
    exact outer_step _ _ hm

private theorem runSched_eq : ∀ (schedule : List Nat) (top : Node) (s : ExecSt) (sizes : List Nat), TopShape top →
    Loop.runSched top s sizes schedule = AsyncExec.runSched top s sizes schedule
  | [], top, s, sizes, _ => rfl
  | i :: rest, top, s, sizes, hT => by
    simp only [Loop.runSched, AsyncExec.runSched]
    split
    · rfl
    · simp only [Loop.stepSched, AsyncExec.stepSched]
      cases hq : s.queue[i % s.queue.length]? with
      | none => simp only; exact runSched_eq rest top s _ hT
      | some t =>
        simp only
        obtain ⟨he, hs⟩ := deliver_top top t { s with queue := removeAt s.queue (i % s.queue.length) } hT
        rw [he]
        exact runSched_eq rest _ _ _ hs

private theorem runSched_finished (schedule : List Nat) (top : Node) (s : ExecSt) (h : top.finished = true) :
    AsyncExec.runSched top s [] schedule = ⟨top, s, []⟩ := by
  cases schedule with
  | nil => rfl
  | cons i rest => simp [AsyncExec.runSched, h]

private theorem runSchedL_finished (schedule : List Nat) (top : Node) (s : ExecSt) (h : top.finished = true) :
    Loop.runSched top s [] schedule = ⟨top, s, []⟩ := by
  cases schedule with
  | nil => rfl
  | cons i rest => simp [Loop.runSched, h]

/-- what a run under `schedule` makes of the outcome of `execute`, `rs` being the run loop -/
private def finish (rs : Node → ExecSt → List Nat → List Nat → RunOut) (schedule : List Nat) : Res Node × ExecSt → Result
  | (.exc e, s) => ⟨.failed e, s.trace, []⟩
  | (.ok top, s) =>
    let r := rs top s [] schedule
    ⟨outcomeOf r.top r.st, r.st.trace, r.sizes⟩

private theorem outcomeOf_done_val (x : Val) (s : ExecSt) : outcomeOf (.done (.val x)) s = outcomeOf (.val x) s := by
  cases x <;> rfl

/-- For the result of a run it makes no difference whether `_next` raised or returned a failed Future, returned a plain value
    or a Future holding it: `execute` may as well run `_on_finish` on `flat` of what `_next` returned. -/
private theorem finish_flat {rs : Node → ExecSt → List Nat → List Nat → RunOut} {schedule : List Nat}
    (hfin : ∀ top s, top.finished = true → rs top s [] schedule = ⟨top, s, []⟩) (r : Res Node × ExecSt) :
    finish rs schedule (chainRes applyCont .onFinish (nowOf r))
      = finish rs schedule (.ok (chainOnFinish applyCont (flat r.1) .onFinish r.2).1, (chainOnFinish applyCont (flat r.1) .onFinish r.2).2) := by
  obtain ⟨n | e, s1⟩ := r
  · have fut := congrArg (finish rs schedule) (mapValue_future applyCont .onFinish (unwrapCb_isFuture n) s1)
    cases n with
    | val x =>
      show finish rs schedule (.ok (.val x), s1) = finish rs schedule (.ok (.done (.val x)), s1)
      simp only [finish, hfin (.val x) s1 rfl, hfin (.done (.val x)) s1 rfl, outcomeOf_done_val]
    | _ => exact fut
  · show (⟨.failed e, s1.trace, []⟩ : Result) = finish rs schedule (.ok (.failed e), s1)
    simp only [finish, hfin (.failed e) s1 rfl]
    rfl

/-- what `Loop.execute` runs before `unwrap_value` and `_on_finish` -/
private def rootL (op : Op) (s : ExecSt) : Res Node × ExecSt :=
  match op.kind with
  | .query => completeValue [] (.obj op.fields) s
  | .mutation => serialLoop [] [] op.fields s

private theorem executeL_eq (op : Op) (s : ExecSt) : Loop.execute op s = chainRes applyCont .onFinish (nowOf (rootL op s)) := by
  unfold Loop.execute rootL
  cases op.kind <;> simp only [executeFields_eq]
  · generalize completeValue [] (.obj op.fields) s = x
    obtain ⟨n | e, s1⟩ := x
    · exact mapValue_congr _ .onFinish rfl s1
    · rfl
  · generalize serialLoop [] [] op.fields s = x
    obtain ⟨n | e, s1⟩ := x
    · exact mapValue_congr _ .onFinish rfl s1
    · rfl

private theorem flat_sfree (r : Res Node) (h : ResSFree r = true) : SFree (flat r) = true := by
  cases r with
  | exc e => rfl
  | ok n => exact unwrapCb_sfree n h

/-- For EVERY operation (query or mutation) and EVERY completion order, the executor with
    the LOOP form of `execute_fields_serially` that /repo has and the executor with the RECURSIVE form produce the same result:
    same outcome (data and error list, in the same order), same trace of resolver call/done events, same queue lengths
    at every completion. Every theorem proved about `runAsync` (`serial_order`, `serial_queue_invariant`,
    `async_eq_blocking`, `always_terminates`, …) therefore holds of the loop form. -/
theorem serial_loop_eq_recursive_run (op : Op) (schedule : List Nat) :
    Loop.runAsync op schedule = AsyncExec.runAsync op schedule := by
  have h : LoopOK (rootL op {}) (execRoot op {}) := by
    unfold rootL execRoot
    cases op.kind with
    | query => exact ⟨rfl, rfl, .inl (flat_sfree _ (completeValue_sfree _ _ _))⟩
    | mutation => exact serialNext_loopOK [] op.fields [] {}
  show finish Loop.runSched schedule (Loop.execute op {}) = finish AsyncExec.runSched schedule (AsyncExec.execute op {})
  rw [executeL_eq, execute_eq, finish_flat (runSchedL_finished schedule), finish_flat (runSched_finished schedule), h.1, h.2.1]
  simp only [finish, runSched_eq schedule _ _ _ (outer_step _ _ h.2.2).2]

/-- non-vacuity: a mutation whose first field arrives as an already FINISHED Future (`ready`) followed by a synchronous
    field that raises — the corner where the two forms differ as functions (the recursion stores the exception in the
    chain's Future, the loop lets it propagate out of `execute`): same `Result`. -/
example : Loop.runAsync ⟨.mutation, .cons "a" .ready (.ok (.leaf 1)) (.cons "b" .sync .exc .nil)⟩ []
    = AsyncExec.runAsync ⟨.mutation, .cons "a" .ready (.ok (.leaf 1)) (.cons "b" .sync .exc .nil)⟩ [] :=
  serial_loop_eq_recursive_run _ _
example : (match (Loop.serialLoop [] [] (.cons "a" .ready (.ok (.leaf 1)) (.cons "b" .sync .exc .nil)) {}).1,
                 (serialNext [] [] (.cons "a" .ready (.ok (.leaf 1)) (.cons "b" .sync .exc .nil)) {}).1 with
    | .exc .boom, .ok (.failed .boom) => true | _, _ => false) = true := by rfl

end PyGql.Props.C09
