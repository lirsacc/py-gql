/-
  C12 at TEXT level — EVERY pre-image: audit 3, finding F9.

  `TextRoundtrip` / `text_roundtrip_final` say `∃ doc, docToAst doc = some d ∧ build doc = …` where `d` is the parsed
  tree.  `docToAst` is not injective (it drops `f = repr(float(text))` of the number literals, which `build` USES for
  `Float` defaults, and the member lists that are not of a definition's kind), so those theorems speak about SOME
  pre-image of the tree — the printer's own.  Here:

  * `SdlText.astToDoc ρ` (model file `SdlAstToDoc.lean`) is the conversion tree → document as a FUNCTION of the tree,
    with `ρ` for Python's `repr(float(·))` (a parameter: the theorems hold for every `ρ` that agrees with the printer
    on the printed numerals — hypothesis `CanonDoc ρ (printedDoc s)`, reduced to the printed default literals by
    `canonDoc_schemaToDoc`);
  * `docToAst_left_inverse`: `astToDoc ρ (docToAst doc) = reDoc ρ doc` — so `docToAst` drops NOTHING but what the
    normaliser `reDoc ρ` overwrites (`docToAst_drops_only`), and it is INJECTIVE on the documents that are canonical for
    `ρ` (`docToAst_injective_on_canon`);
  * `text_roundtrip_every_preimage` (+ `_custom`): the printed text parses to a tree `d`; the document the conversion makes
    of `d` — and EVERY canonical document whose tree is `d` — builds the schema.  No existential over documents is left;
  * `print_fixpoint_every_preimage`: … and re-printing what that document builds gives the same text.
  What is still assumed: `ρ` itself (`repr ∘ float`) is not modelled; `CanonDoc ρ (printedDoc s)` asks `ρ v = f` for ALL
  printed numerals, including those at `ID` / custom-scalar positions where `build` does not read `f` (there `f = v ++ ".0"`,
  which Python's `repr(float(v))` is only for |v| < 2^53 / 1e16).

  The property theorems of this file: `docToAst_injective_on_canon`, `text_roundtrip_every_preimage`,
  `text_roundtrip_custom_every_preimage`, `print_fixpoint_every_preimage`.  `docToAst_left_inverse` re-exports
  `SdlText.astToDoc_docToAst`; `docToAst_drops_only`, `litsCanon_of_wf`, `canonDoc_schemaToDoc` are steps.
-/
import PyGqlModel.Lemmas.SdlAstToDocInv
import PyGqlModel.Props.C12_fixpoint
namespace PyGql.Props.C12
open PyGql PyGql.Sdl PyGql.SdlPrint PyGql.SdlText

/-- the conversion tree → document inverts `docToAst` up to the normaliser: what a document's tree is converted to is
    the document with every `f` replaced by `ρ v` and only the member lists of each kind kept -/
theorem docToAst_left_inverse (ρ : String → String) (doc : Doc) (d : Ast.Document) (h : docToAst doc = some d) :
    astToDoc ρ d = reDoc ρ doc := astToDoc_docToAst ρ doc d h

theorem docToAst_drops_only (ρ : String → String) (doc₁ doc₂ : Doc) (d : Ast.Document) (h₁ : docToAst doc₁ = some d)
    (h₂ : docToAst doc₂ = some d) : reDoc ρ doc₁ = reDoc ρ doc₂ := by
  rw [← astToDoc_docToAst ρ doc₁ d h₁, ← astToDoc_docToAst ρ doc₂ d h₂]

theorem docToAst_injective_on_canon (ρ : String → String) (doc₁ doc₂ : Doc) (d : Ast.Document) (h₁ : docToAst doc₁ = some d)
    (h₂ : docToAst doc₂ = some d) (c₁ : CanonDoc ρ doc₁) (c₂ : CanonDoc ρ doc₂) : doc₁ = doc₂ := by
  have := docToAst_drops_only ρ doc₁ doc₂ d h₁ h₂
  rwa [c₁, c₂] at this

/-- finding F9: for every `ρ` that agrees with the printer on the printed document, the text parses to a tree whose
    conversion builds the schema; and so does every canonical document with that tree -/
def TextRoundtripEveryPreimage (o : SdlPrintT.OptsT) (s : SchemaD) : Prop :=
  ∀ ρ : String → String, CanonDoc ρ (printedDoc s) →
    ∃ d : Ast.Document, parseSdlTextT (SdlPrintT.printSchemaT o s) = some d ∧ build (astToDoc ρ d) = .ok (printOrder s) ∧
      ∀ doc : Doc, docToAst doc = some d → CanonDoc ρ doc → build doc = .ok (printOrder s)

theorem text_roundtrip_every_preimage (o : SdlPrintT.OptsT) (s : SchemaD) (hwf : printTextWF o s = true)
    (hb : printBuildWF s = true) : TextRoundtripEveryPreimage o s := by
  intro ρ hc
  obtain ⟨d, doc, h1, h2, h3⟩ := text_roundtrip o s hwf (printBuildWF_printOrder s hb)
  have hp : docToAst (printedDoc s) = some d := by
    rw [← print_schema_text_parses o s hwf]; exact h1
  have hbuild : build (printedDoc s) = .ok (printOrder s) := print_build_roundtrip _ (printBuildWF_printOrder s hb)
  refine ⟨d, h1, ?_, ?_⟩
  · rw [astToDoc_docToAst ρ _ d hp, hc]; exact hbuild
  · intro doc' hd' hc'
    rw [docToAst_injective_on_canon ρ doc' (printedDoc s) d hd' hp hc' hc]; exact hbuild

theorem text_roundtrip_custom_every_preimage (c : SdlPrintTA.OptsA) (s : SchemaD) (apps : Apps)
    (hwf : SdlPrintTA.printTextWFA c s apps = true) (hb : printBuildWF s = true)
    (ρ : String → String) (hc : CanonDoc ρ (SdlPrintTA.printedDocA s c apps)) :
    ∃ d : Ast.Document, parseSdlTextT (SdlPrintTA.printSchemaTA c s apps) = some d ∧
      build (astToDoc ρ d) = .ok (printOrder s) ∧
      ∀ doc : Doc, docToAst doc = some d → CanonDoc ρ doc → build doc = .ok (printOrder s) := by
  obtain ⟨d, doc, h1, h2, h3, h4⟩ := text_roundtrip_custom_build c s apps hwf hb
  subst h3
  refine ⟨d, h1, ?_, ?_⟩
  · rw [astToDoc_docToAst ρ _ d h2, hc]; exact h4
  · intro doc' hd' hc'
    rw [docToAst_injective_on_canon ρ doc' _ d hd' h2 hc' hc]; exact h4

/-- the third clause of the property without an existential over documents: print → parse → convert → build → print
    is the identity on the printed text -/
theorem print_fixpoint_every_preimage (o : SdlPrintT.OptsT) (s : SchemaD) (hwf : printTextWF o s = true)
    (hb : printBuildWF s = true) (ρ : String → String) (hc : CanonDoc ρ (printedDoc s)) :
    ∃ (d : Ast.Document) (s' : SchemaD), parseSdlTextT (SdlPrintT.printSchemaT o s) = some d ∧
      build (astToDoc ρ d) = .ok s' ∧ SdlPrintT.printSchemaT o s' = SdlPrintT.printSchemaT o s ∧ SameUpToOrder s' s := by
  obtain ⟨d, h1, h2, _⟩ := text_roundtrip_every_preimage o s hwf hb ρ hc
  exact ⟨d, printOrder s, h1, h2, printSchemaT_order_independent o s (namesUnique_of_wf o s hwf),
    types_perm s, directives_perm s, rfl, rfl, rfl, rfl⟩


/-- `ρ` agrees with the printer: every printed default literal is canonical for `ρ` (`f = ρ v` on its numerals) -/
def LitsCanon (ρ : String → String) (s : SchemaD) : Prop :=
  ∀ a ∈ allArgs s, a.hasDefault = true → ∀ l, valueLit s valueFuel a.default a.type = some l → reLit ρ l = l

/-- the decidable form `SdlText.litsCanonWF` (evaluated by the driver with Python's `repr(float(·))`) implies it -/
theorem litsCanon_of_wf (ρ : String → String) (s : SchemaD) (h : litsCanonWF ρ s = true) : LitsCanon ρ s := by
  intro a ha hd l hl
  have := List.all_eq_true.mp h a ha
  simp only [hd, hl, Bool.not_true, Bool.false_or] at this
  exact reLit_of_canonB ρ l this

private theorem map_eq_self {α} (f : α → α) : ∀ l : List α, (∀ x ∈ l, f x = x) → l.map f = l :=
  fun _ h => (List.map_congr_left h).trans (List.map_id _)

private theorem reDir_deprDirs (ρ : String → String) (r : Option String) : (deprDirs r).map (reDir ρ) = deprDirs r := by
  cases r with
  | none => rfl
  | some x => by_cases h : (x.isEmpty || x == DEFAULT_DEPRECATION) = true <;> simp [deprDirs, h, reDir, reArg, reLit]

private theorem reInputVal_argToDef (ρ : String → String) (s : SchemaD) (a : ArgD)
    (h : a.hasDefault = true → ∀ l, valueLit s valueFuel a.default a.type = some l → reLit ρ l = l) :
    reInputVal ρ (argToDef s a) = argToDef s a := by
  by_cases hd : a.hasDefault = true
  · cases hl : valueLit s valueFuel a.default a.type with
    | none => simp [reInputVal, argToDef, hd, hl]
    | some l => simp [reInputVal, argToDef, hd, hl, h hd l hl]
  · simp [reInputVal, argToDef, hd]

private theorem reField_fieldToDef (ρ : String → String) (s : SchemaD) (f : FieldD)
    (h : ∀ a ∈ f.args, a.hasDefault = true → ∀ l, valueLit s valueFuel a.default a.type = some l → reLit ρ l = l) :
    reField ρ (fieldToDef s f) = fieldToDef s f := by
  have e : (f.args.map (argToDef s)).map (reInputVal ρ) = f.args.map (argToDef s) := by
    rw [List.map_map]; exact List.map_congr_left (fun a ha => reInputVal_argToDef ρ s a (h a ha))
  simp only [reField, fieldToDef, e, reDir_deprDirs]

private theorem reEnumVal_enumValToDef (ρ : String → String) (v : EnumValD) : reEnumVal ρ (enumValToDef v) = enumValToDef v := by
  simp only [reEnumVal, enumValToDef, reDir_deprDirs]

/-- the document the printer denotes is canonical for `ρ` as soon as every type populates the member lists of its kind
    only (`shapeOK`, a conjunct of `printBuildWF`) and `ρ` agrees with the printer on the printed default literals -/
theorem canonDoc_schemaToDoc (ρ : String → String) (s : SchemaD) (hs : ∀ t ∈ s.types, shapeOK t = true)
    (hl : LitsCanon ρ s) : CanonDoc ρ (schemaToDoc s) := by
  unfold CanonDoc reDoc schemaToDoc
  simp only [List.map_append, List.map_map]
  have hblock : (if needsSchemaBlock s then [Def.schema { ops := rootOps s }] else []).map (reDef ρ) =
      (if needsSchemaBlock s then [Def.schema { ops := rootOps s }] else []) := by
    split <;> simp [reDef]
  have hdirs : s.directives.map (reDef ρ ∘ fun d => Def.directive (directiveToDef s d)) =
      s.directives.map (fun d => Def.directive (directiveToDef s d)) := by
    apply List.map_congr_left
    intro d hd
    have e : (d.args.map (argToDef s)).map (reInputVal ρ) = d.args.map (argToDef s) := by
      rw [List.map_map]
      exact List.map_congr_left (fun a ha => reInputVal_argToDef ρ s a
        (hl a (by simp only [allArgs, List.mem_append, List.mem_flatMap]; exact Or.inl ⟨d, hd, ha⟩)))
    simp only [Function.comp, reDef, directiveToDef, e]
  have htypes : s.types.map (reDef ρ ∘ fun t => Def.type (typeToDef s t)) = s.types.map (fun t => Def.type (typeToDef s t)) := by
    apply List.map_congr_left
    intro t ht
    have hsh := hs t ht
    have ef : (t.fields.map (fieldToDef s)).map (reField ρ) = t.fields.map (fieldToDef s) := by
      rw [List.map_map]
      exact List.map_congr_left (fun f hf => reField_fieldToDef ρ s f (fun a ha => hl a (by
        simp only [allArgs, List.mem_append, List.mem_flatMap]
        exact Or.inr ⟨t, ht, Or.inl ⟨f, hf, ha⟩⟩)))
    have ei : (t.inputFields.map (argToDef s)).map (reInputVal ρ) = t.inputFields.map (argToDef s) := by
      rw [List.map_map]
      exact List.map_congr_left (fun a ha => reInputVal_argToDef ρ s a (hl a (by
        simp only [allArgs, List.mem_append, List.mem_flatMap]
        exact Or.inr ⟨t, ht, Or.inr ha⟩)))
    have ev : (t.values.map enumValToDef).map (reEnumVal ρ) = t.values.map enumValToDef := by
      rw [List.map_map]; exact List.map_congr_left (fun v _ => reEnumVal_enumValToDef ρ v)
    simp only [Function.comp, reDef]
    congr 1
    cases hk : t.kind <;>
      simp only [shapeOK, hk, Bool.and_eq_true, List.isEmpty_iff] at hsh <;>
      simp [reType, typeToDef, hk, ef, ei, ev, hsh]
  rw [hblock, hdirs, htypes]

/-! ### non-vacuity -/

/-- a `ρ` that is `repr(float(·))` on the numerals `shop` prints (`1.5`; integers) -/
def demoRepr (v : String) : String := if v == "1.5" then "1.5" else v ++ ".0"

example : CanonDoc demoRepr (printedDoc shop) :=
  canonDoc_schemaToDoc demoRepr (printOrder shop) (by decide +kernel) (litsCanon_of_wf _ _ (by decide +kernel))

example : TextRoundtripEveryPreimage {} shop := text_roundtrip_every_preimage {} shop shop_textWF shop_wf
/-- … and a `ρ` that does NOT agree with the printer (`repr(float("1.5"))` wrong) is outside: the hypothesis is not vacuous -/
example : litsCanonWF (fun v => v ++ ".0") shop = false := by decide +kernel

end PyGql.Props.C12
