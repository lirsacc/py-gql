/-
  C20 ⟵ C13: the well-formedness hypotheses of the "operations stay valid" theorems (`OldWf`, `NewWf`, `OldWfIn`,
  `NewWfIn`) are CONSEQUENCES of C13's `ValidSchema` - the predicate `Schema.validate()` decides (`validate_iff`) and
  that `diff_schema` establishes for both schemas before comparing anything - plus three facts about DUMPS that no
  validation rule states:
  * `DumpShape`: only object / interface types carry `fields`, only input object types carry `inputFields` (the dump of
    a live schema is built that way);
  * the dump lists `String`, `__Schema`, `__Type` (built-in and introspection types are part of `Schema.types`);
  * argument / input field types are well-formed type expressions (no `T!!`).
  `operations_stay_valid_of_valid`: the 25-rule statement with `ValidSchema old` / `ValidSchema new` as hypotheses.
-/
import PyGqlModel.Props.C20_rules_all
import PyGqlModel.Lemmas.C13TypeOK
import PyGqlModel.Lemmas.ListEqv

set_option linter.unusedSimpArgs false

namespace PyGql.Props.C20
open PyGql PyGql.Differ PyGql.Diff PyGql.SchemaValidSpec

/-- only object / interface types carry fields, only input object types carry input fields -/
def DumpShape (s : SchemaD) : Prop :=
  ∀ t ∈ s.types, ((t.kind ≠ .object ∧ t.kind ≠ .interface) → t.fields = []) ∧ (t.kind ≠ .input → t.inputFields = [])

/-- argument and input field types are well-formed type expressions -/
def ArgTypesWf (s : SchemaD) : Prop :=
  (∀ t ∈ s.types, ∀ f ∈ t.fields, ∀ a ∈ f.args, a.type.wf = true) ∧
  (∀ d ∈ s.directives, ∀ a ∈ d.args, a.type.wf = true) ∧
  (∀ t ∈ s.types, ∀ a ∈ t.inputFields, a.type.wf = true)

private theorem uniq_of_nodup {l : List ArgD} (h : (l.map (·.name)).Nodup) : Uniq ArgD.name l :=
  fun x hx => PyGql.ListEqv.nodup_uniq (name := ArgD.name) h x hx

private theorem fieldsOK_of {s : SchemaD} {rv : Bool} (V : ValidSchema s rv) (sh : DumpShape s) (t : TypeD)
    (ht : t ∈ s.types) (hne : t.fields ≠ []) : FieldsOK s rv t := by
  by_cases ho : t.kind = .object
  · exact (V.2.1 t ht).fieldsOK (.inl ho)
  · by_cases hi : t.kind = .interface
    · exact (V.2.1 t ht).fieldsOK (.inr hi)
    · exact absurd ((sh t ht).1 ⟨ho, hi⟩) hne

private theorem inputOK_of {s : SchemaD} {rv : Bool} (V : ValidSchema s rv) (sh : DumpShape s) (t : TypeD)
    (ht : t ∈ s.types) (hne : t.inputFields ≠ []) : InputOK s t := by
  by_cases hi : t.kind = .input
  · exact (V.2.1 t ht).inputOK hi
  · exact absurd ((sh t ht).2 hi) hne

private theorem known_of_input {s : SchemaD} {ty : Ty} (h : SchemaValid.isInputType s ty = true) :
    (Validate.kindOf s ty.base).isSome = true := by
  unfold SchemaValid.isInputType at h
  show ((s.findType ty.base).map (·.kind)).isSome = true
  cases hk : SchemaValid.kindOf s ty.base with
  | none => rw [hk] at h; simp at h
  | some k => unfold SchemaValid.kindOf at hk; rw [hk]; rfl

private theorem known_of_output {s : SchemaD} {ty : Ty} (h : SchemaValid.isOutputType s ty = true) :
    (Validate.kindOf s ty.base).isSome = true := by
  unfold SchemaValid.isOutputType at h
  show ((s.findType ty.base).map (·.kind)).isSome = true
  cases hk : SchemaValid.kindOf s ty.base with
  | none => rw [hk] at h; simp at h
  | some k => unfold SchemaValid.kindOf at hk; rw [hk]; rfl

/-- **`NewWf` / `NewWfIn` from validity**: argument and input field names are unique -/
theorem newWf_of_valid (s : SchemaD) (rv : Bool) (V : ValidSchema s rv) (sh : DumpShape s) : NewWf s ∧ NewWfIn s := by
  refine ⟨⟨?_, ?_⟩, ⟨?_⟩⟩
  · intro t ht f hf
    have hfo := fieldsOK_of V sh t ht (List.ne_nil_of_mem hf)
    exact uniq_of_nodup (hfo.2.1 f hf).2.2.1.2
  · intro d hd
    exact uniq_of_nodup (V.2.2 d hd).2.2
  · intro t ht
    by_cases hne : t.inputFields = []
    · rw [hne]; intro x hx; cases hx
    · exact uniq_of_nodup (inputOK_of V sh t ht hne).2.2

/-- **`OldWf` from validity** (and the presence of the built-in / introspection types in the dump) -/
theorem oldWf_of_valid (s : SchemaD) (rv : Bool) (V : ValidSchema s rv) (sh : DumpShape s)
    (metas : (Validate.kindOf s "String").isSome = true ∧ (Validate.kindOf s "__Schema").isSome = true
      ∧ (Validate.kindOf s "__Type").isSome = true) : OldWf s := by
  refine ⟨?_, ?_, metas⟩
  · have := V.1.1
    cases hq : s.query with
    | none => exact absurd hq this
    | some _ => rfl
  · intro t ht f hf
    have hfo := fieldsOK_of V sh t ht (List.ne_nil_of_mem hf)
    exact known_of_output (hfo.2.1 f hf).2.1

/-- **`OldWfIn` from validity** (and well-formed argument types) -/
theorem oldWfIn_of_valid (s : SchemaD) (rv : Bool) (V : ValidSchema s rv) (sh : DumpShape s) (tw : ArgTypesWf s) :
    OldWfIn s := by
  refine ⟨?_, ?_, ?_⟩
  · intro t ht f hf a ha
    have hfo := fieldsOK_of V sh t ht (List.ne_nil_of_mem hf)
    exact ⟨tw.1 t ht f hf a ha, known_of_input ((hfo.2.1 f hf).2.2.1.1 a ha).2.1⟩
  · intro d hd a ha
    exact ⟨tw.2.1 d hd a ha, known_of_input (((V.2.2 d hd).2.1) a ha).2.1⟩
  · intro t ht a ha
    have hio := inputOK_of V sh t ht (List.ne_nil_of_mem ha)
    exact ⟨tw.2.2 t ht a ha, known_of_input (hio.2.1 a ha).2.1⟩

/-- **Operations stay valid, from the validity of the two schemas** (what `diff_schema` checks first): 25 of the 26
    rules of the C06 specification. -/
theorem operations_stay_valid_of_valid (o n : SchemaD) (rv : Bool) (h : diffSchema o n 2 = [])
    (Vo : ValidSchema o rv) (Vn : ValidSchema n rv) (sho : DumpShape o) (shn : DumpShape n) (two : ArgTypesWf o)
    (metas : (Validate.kindOf o "String").isSome = true ∧ (Validate.kindOf o "__Schema").isSome = true
      ∧ (Validate.kindOf o "__Type").isSome = true)
    (fx : Validate.Fixes) (hv9 : fx.v9 = true) (hv10 : fx.v10 = true) (d : Validate.Doc) (hR : OpsRooted o d)
    (hv : SchemaRulesAll o fx d) : SchemaRulesAll n fx d :=
  operations_stay_valid_rules_all o n h (oldWf_of_valid o rv Vo sho metas) (newWf_of_valid n rv Vn shn).1
    (oldWfIn_of_valid o rv Vo sho two) (newWf_of_valid n rv Vn shn).2 fx hv9 hv10 d hR hv

/-! non-vacuity: Props/C13_c20_bridge.lean (two schema descriptions on which C13's `validate` returns no error) -/

end PyGql.Props.C20
