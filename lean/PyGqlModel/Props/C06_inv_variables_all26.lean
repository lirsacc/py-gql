/-
  C06 - **alpha_variables for OverlappingFieldsCanBeMerged as /repo runs it**, hence for ALL 26
  RULES (`alpha_variables_all26`) and for the verdict of the whole chain (`alpha_variables_verdict_invariance_memo`).
  Route as for `Tr` (Props/C06_inv_tr_all26.lean): `rule_overlapping_fields_memo_iff` + the clause of 5.3.2 along a simulation
  (`Lemmas/ValidateOverlapSimVr.lean`: `V.doc d` simulates `d`). The overlap rule reads variable names in one place,
  `_same_value` on two `Variable` nodes; injectivity of the renaming is exactly what keeps its outcome
  (`alpha_variables_overlap_needs_injectivity`: merging `$a` and `$b` hides a conflict).
-/
import PyGqlModel.Props.C06_inv_tr_all26
import PyGqlModel.Props.C06_inv_variables_collector
import PyGqlModel.Lemmas.ValidateOverlapSimVr
namespace PyGql.Props.C06
open PyGql PyGql.Validate PyGql.Validate.Spec

theorem overlap_clause_vr (V : Vr) (hinj : ∀ a b, V.var a = V.var b → a = b) (s : SchemaD) (d : Doc) :
    Spec.overlappingFieldsCanBeMerged s (V.doc d) ↔ Spec.overlappingFieldsCanBeMerged s d :=
  (V.ovSim hinj s d).clause_iff.symm

theorem namesNonEmpty_vr (V : Vr) (d : Doc) : NamesNonEmpty (V.doc d) ↔ NamesNonEmpty d := by
  unfold NamesNonEmpty; rw [V.fragNames_doc]

/-- **alpha_variables for `OverlappingFieldsCanBeMergedChecker` as /repo runs it** -/
theorem alpha_variables_overlap_memo (V : Vr) (hinj : ∀ a b, V.var a = V.var b → a = b) (s : SchemaD) (fx : Fixes)
    (h7 : fx.v7 = true) (d : Doc) (hpa : Spec.ParentsAgree s d) (hne : NamesNonEmpty d) (hw : WfIds d) :
    (overlapMemoRun s fx (V.doc d)).1 = 0 ↔ (overlapMemoRun s fx d).1 = 0 :=
  overlapMemo_iff_of_sim (V.ovSim hinj s d) h7 hpa hne ((namesNonEmpty_vr V d).mpr hne) hw ((V.wfIds d).mpr hw)

/-- the statement for the whole chain as /repo runs it, rule by rule -/
def FullStatement_alpha_variables_all26 (V : Vr) (s : SchemaD) (fx : Fixes) (d : Doc) : Prop :=
  ∀ r ∈ Rule.all, (SilentM s fx r (V.doc d) ↔ SilentM s fx r d)

/-- **alpha_variables for ALL 26 RULES**, each rule alone, the overlap rule being the memoised one /repo runs: injective
    renaming; the side conditions of `rule_overlapping_fields_memo_iff` are the only hypotheses on the document
    [alone-run statement, see `Silent`; the chain: `chainM_six_transformations`] -/
theorem alpha_variables_all26 (V : Vr) (hinj : ∀ a b, V.var a = V.var b → a = b) (s : SchemaD) (fx : Fixes)
    (hfx : HeadVars fx) (d : Doc) (hpa : Spec.ParentsAgree s d) (hne : NamesNonEmpty d) (hw : WfIds d) :
    FullStatement_alpha_variables_all26 V s fx d :=
  all26_of (alpha_variables_all25_partial V hinj s fx hfx.1 hfx.2.1 d)
    (alpha_variables_overlap_memo V hinj s fx hfx.2.2.2 d hpa hne hw)

/-- **the VERDICT of the chain /repo runs is invariant under an injective renaming of variables** (hypotheses: those of
    the headline theorems only)
    [conjunction of the 26 alone runs, `SilentM`; the chain itself: `chainM_six_transformations`] -/
theorem alpha_variables_verdict_invariance_memo (V : Vr) (hinj : ∀ a b, V.var a = V.var b → a = b) (s : SchemaD)
    (fx : Fixes) (hfx : HeadVars fx) (hs : SchemaOutputs s) (d : Doc) (hd : DocOkM s d) :
    (∀ r ∈ Rule.all, SilentM s fx r (V.doc d)) ↔ (∀ r ∈ Rule.all, SilentM s fx r d) := by
  refine verdict_iff_of_rules (fun r _ ho => alpha_variables_all25_partial V hinj s fx hfx.1 hfx.2.1 d r ho) fun hsil => ?_
  obtain ⟨_, _, hpa⟩ := clauses_of_silent25 s fx hfx hs d hd hsil
  exact alpha_variables_overlap_memo V hinj s fx hfx.2.2.2 d hpa hd.names ((wfIdsB_iff d).mp hd.checks.ids)

/-- `ParentsAgree` from computable checks (the route of the headline theorems, for concrete documents) -/
theorem parentsAgree_of_checks (s : SchemaD) (d : Doc) (ho : schemaOutputsB s = true)
    (h1 : Silent s Fixes.all .scalarLeafs d) (h2 : Silent s Fixes.all .fragmentsOnCompositeTypes d)
    (h3 : noMetaSubsB d = true) (h4 : wfIdsB d = true) : Spec.ParentsAgree s d :=
  parentsAgree_of_rules s d (schemaOutputs_of_check s ho) ((rule_scalar_leafs_iff s _ d).mp h1)
    ((rule_fragments_on_composite_types_iff s _ d).mp h2) ((noMetaSubsB_iff d).mp h3) ((wfIdsB_iff d).mp h4)

/-- `query($a: Int, $b: Int) { a(x: $a) a(x: <$a or $b>) }` -/
def vrDoc (second : String) : Doc :=
  ⟨[opV [{ name := "a", type := .named "Int", default := none }, { name := "b", type := .named "Int", default := none }] 1
    [fld none "a" [argV "x" "a"], fld none "a" [argV "x" second]]]⟩

example : (overlapMemoRun wSchema Fixes.all (suffixVr.doc (vrDoc "a"))).1 = 0 ↔
    (overlapMemoRun wSchema Fixes.all (vrDoc "a")).1 = 0 :=
  alpha_variables_overlap_memo suffixVr suffix_inj wSchema Fixes.all rfl (vrDoc "a")
    (parentsAgree_of_checks wSchema (vrDoc "a") (by decide +kernel) (by unfold Silent; decide +kernel)
      (by unfold Silent; decide +kernel) (by decide +kernel) (by decide +kernel))
    (by unfold NamesNonEmpty; decide +kernel) (by rw [← wfIdsB_iff]; decide +kernel)

example : FullStatement_alpha_variables_all26 suffixVr wSchema Fixes.all (vrDoc "a") :=
  alpha_variables_all26 suffixVr suffix_inj wSchema Fixes.all headVars_all (vrDoc "a")
    (parentsAgree_of_checks wSchema (vrDoc "a") (by decide +kernel) (by unfold Silent; decide +kernel)
      (by unfold Silent; decide +kernel) (by decide +kernel) (by decide +kernel))
    (by unfold NamesNonEmpty; decide +kernel) (by rw [← wfIdsB_iff]; decide +kernel)

/-- injectivity is needed: `{ a(x: $a) a(x: $b) }` is reported ("different arguments"); renaming both variables to `$c`
    hides the conflict -/
theorem alpha_variables_overlap_needs_injectivity :
    0 < (overlapMemoRun wSchema Fixes.all (vrDoc "b")).1 ∧
    (overlapMemoRun wSchema Fixes.all ((⟨fun _ => "c"⟩ : Vr).doc (vrDoc "b"))).1 = 0 := by
  decide +kernel

end PyGql.Props.C06
