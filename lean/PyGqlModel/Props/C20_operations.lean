/-
  C20 — "Whenever no breaking change is reported, every operation valid against the old schema is valid
  against the new one", for the declarative validity predicate `Spec.ValidDoc` (the one the executor's
  soundness theorem `validated_no_internal_error` of C05 assumes: fields exist on the static parent type,
  leaf ⇔ no sub-selection, type conditions name composite types, spreads are defined, fragments are
  well-typed, acyclic and uniquely named, every operation kind has its root type).

  `operations_stay_valid`: if `diff_schema(old, new, min_severity=BREAKING)` is empty then every document
  that is `ValidDoc` on the old schema is `ValidDoc` on the new one, under the same variables.
  The hypotheses on the two schema descriptions are facts about every dump of a `Schema` object: type names
  are unique (the type map is a dictionary), only object and interface types carry fields, and the new
  schema does not re-define a built-in scalar name as a non-scalar.
-/
import PyGqlModel.Spec.ValidDoc
import PyGqlModel.Props.C20_nobreaking

set_option linter.unusedSimpArgs false

namespace PyGql.Props.C20
open PyGql PyGql.Differ PyGql.Diff PyGql.Generated.Differ PyGql.Exec PyGql.Spec

/-- facts about schema descriptions that hold for every dump of a `Schema` object -/
structure DumpWf (s : SchemaD) : Prop where
  uniq : Uniq TypeD.name s.types
  /-- only object and interface types list fields -/
  fieldsOn : ∀ t ∈ s.types, t.fields ≠ [] → t.kind = .object ∨ t.kind = .interface
  /-- a type carrying the name of a built-in scalar is a scalar -/
  builtins : ∀ t ∈ s.types, builtinScalars.contains t.name = true → t.kind = .scalar

private theorem findType_of_mem {s : SchemaD} (u : Uniq TypeD.name s.types) {t : TypeD} (h : t ∈ s.types) :
    s.findType t.name = some t := by
  unfold SchemaD.findType
  exact u t h

theorem nobreaking_kindOf (o n : SchemaD) (h : diffSchema o n 2 = []) (wn : DumpWf n)
    (x : String) (k : Kind) (hk : kindOf o x = some k) : kindOf n x = some k := by
  unfold kindOf at hk ⊢
  cases ho : o.findType x with
  | some t =>
    rw [ho] at hk
    obtain ⟨t', hn, hkk⟩ := nobreaking_findType o n h x t ho
    rw [hn]
    simp only [Option.some.injEq] at hk ⊢
    rw [hkk]; exact hk
  | none =>
    rw [ho] at hk
    by_cases hb : builtinScalars.contains x = true
    · rw [if_pos hb] at hk
      cases hn : n.findType x with
      | none =>
        show (if builtinScalars.contains x = true then some Kind.scalar else none) = some k
        rw [if_pos hb]; exact hk
      | some t' =>
        obtain ⟨htm, htn⟩ := mem_of_findType hn
        have := wn.builtins t' htm (by rw [htn]; exact hb)
        show some t'.kind = some k
        rw [this]; exact hk
    · rw [if_neg hb] at hk; cases hk

theorem nobreaking_fieldOf (o n : SchemaD) (h : diffSchema o n 2 = []) (wo : DumpWf o)
    (T name : String) (fd : FieldD) (hf : fieldOf o T name = some fd) :
    ∃ fd', fieldOf n T name = some fd' ∧ fd'.type.base = fd.type.base := by
  unfold fieldOf at hf ⊢
  cases ho : o.findType T with
  | none => rw [ho] at hf; simp at hf
  | some t =>
    rw [ho] at hf
    have hfm : fd ∈ t.fields := List.mem_of_find?_eq_some hf
    have hfn : fd.name = name := by simpa using List.find?_some hf
    have hne : t.fields ≠ [] := by intro e; rw [e] at hfm; simp at hfm
    obtain ⟨t', g, hn, _, _, hg, hso⟩ :=
      nobreaking_hostField o n h T t ho (wo.fieldsOn t (mem_of_findType ho).1 hne) fd hfm
    rw [hn, ← hfn]
    exact ⟨g, hg, (safeOut_base _ _ hso).symm⟩

private theorem rootType_eq_rootOf (s : SchemaD) (kind : String) : rootType s kind = rootOf s kind := by
  unfold rootOf
  split <;> simp_all [rootType]

theorem nobreaking_rootType (o n : SchemaD) (h : diffSchema o n 2 = []) (kind r : String)
    (hr : rootType o kind = some r) : rootType n kind = some r := by
  rw [rootType_eq_rootOf] at hr ⊢
  exact nobreaking_rootOf o n h kind r hr

private theorem isComposite_kept (o n : SchemaD) (h : diffSchema o n 2 = []) (wn : DumpWf n) (c : String)
    (hc : isComposite o c = true) : isComposite n c = true := by
  unfold isComposite at hc ⊢
  cases hk : kindOf o c with
  | none => simp [hk] at hc
  | some k =>
    rw [nobreaking_kindOf o n h wn c k hk]
    rw [hk] at hc
    exact hc

mutual
private theorem selOk_kept (o n : SchemaD) (h : diffSchema o n 2 = []) (wo : DumpWf o) (wn : DumpWf n)
    (doc : Doc) (vars : Vars) : ∀ (T : String) (x : Sel), selOk o doc vars T x = true → selOk n doc vars T x = true
  | T, .field key name loc dirs args hasSub sub, hx => by
    simp only [selOk, Bool.and_eq_true] at hx ⊢
    refine ⟨hx.1, ?_⟩
    have h2 := hx.2
    by_cases hn : name == "__typename"
    · simpa [hn] using h2
    · simp only [hn] at h2 ⊢
      by_cases hm : isMeta name
      · simp [hm] at h2
      · simp only [hm] at h2 ⊢
        cases hf : fieldOf o T name with
        | none => simp [hf] at h2
        | some fd =>
          obtain ⟨fd', hf', hb⟩ := nobreaking_fieldOf o n h wo T name fd hf
          simp only [hf, hf'] at h2 ⊢
          rw [hb]
          cases hk : kindOf o fd.type.base with
          | none => simp [hk] at h2
          | some k =>
            rw [nobreaking_kindOf o n h wn _ k hk]
            rw [hk] at h2
            cases k with
            | object | interface | union =>
              have h3 := Bool.and_eq_true_iff.mp (show (hasSub && selsOk o doc vars fd.type.base sub) = true from h2)
              exact Bool.and_eq_true_iff.mpr ⟨h3.1, selsOk_kept o n h wo wn doc vars _ sub h3.2⟩
            | _ => exact h2
  | T, .inline on dirs sub, hx => by
    simp only [selOk, Bool.and_eq_true] at hx ⊢
    refine ⟨hx.1, ?_⟩
    cases on with
    | none => exact selsOk_kept o n h wo wn doc vars T sub hx.2
    | some c =>
      have h2 := hx.2
      simp only [Bool.and_eq_true] at h2 ⊢
      exact ⟨isComposite_kept o n h wn c h2.1, selsOk_kept o n h wo wn doc vars c sub h2.2⟩
  | T, .spread name dirs, hx => by
    simpa [selOk] using hx
private theorem selsOk_kept (o n : SchemaD) (h : diffSchema o n 2 = []) (wo : DumpWf o) (wn : DumpWf n)
    (doc : Doc) (vars : Vars) : ∀ (T : String) (xs : List Sel), selsOk o doc vars T xs = true → selsOk n doc vars T xs = true
  | _, [], _ => by simp [selsOk]
  | T, x :: xs, hx => by
    simp only [selsOk, Bool.and_eq_true] at hx ⊢
    exact ⟨selOk_kept o n h wo wn doc vars T x hx.1, selsOk_kept o n h wo wn doc vars T xs hx.2⟩
end

/-- **Operations stay valid - STRUCTURAL validity only (PARTIAL).**
    If no BREAKING change is reported between `o` and `n`, every document that satisfies `ValidDoc` on `o` satisfies it
    on `n`, for all documents and variables. `ValidDoc` is the structural predicate of C05 (Spec/ValidDoc.lean): fields
    exist on their parent type, leaf ⇔ no sub-selection, type conditions composite, spreads defined, fragments
    acyclic, operations rooted. It OMITS arguments, argument values, variable positions, directives and
    OverlappingFieldsCanBeMerged. The clause as worded is `OperationsStayValidFull` (Props/C20_full.lean), REFUTED by
    `operations_stay_valid_full_refuted` (findings G4, G6); what holds of the validator model is
    `operations_stay_valid_all_but_overlap_partial`. -/
theorem operations_stay_valid (o n : SchemaD) (h : diffSchema o n 2 = []) (wo : DumpWf o) (wn : DumpWf n)
    (doc : Doc) (vars : Vars) (hv : ValidDoc o doc vars) : ValidDoc n doc vars := by
  unfold ValidDoc validDocB at hv ⊢
  simp only [Bool.and_eq_true] at hv ⊢
  obtain ⟨⟨⟨hops, hfr⟩, hac⟩, hun⟩ := hv
  refine ⟨⟨⟨?_, ?_⟩, hac⟩, hun⟩
  · unfold opsOk at hops ⊢
    rw [List.all_eq_true] at hops ⊢
    intro op hop
    have := hops op hop
    cases hr : rootType o op.kind with
    | none => simp [hr] at this
    | some r =>
      rw [nobreaking_rootType o n h op.kind r hr]
      rw [hr] at this
      exact selsOk_kept o n h wo wn doc vars r op.sels this
  · unfold fragsOk at hfr ⊢
    rw [List.all_eq_true] at hfr ⊢
    intro f hf
    have := hfr f hf
    simp only [Bool.and_eq_true] at this ⊢
    exact ⟨isComposite_kept o n h wn f.on this.1, selsOk_kept o n h wo wn doc vars f.on f.sels this.2⟩

/-! ### non-vacuity: a concrete compatible evolution and a document that uses fragments and abstract types -/

private def exOld : SchemaD :=
  { types := [{ kind := .object, name := "Query",
                fields := [{ name := "pet", type := .named "Pet" }, { name := "n", type := .named "Int" }] },
              { kind := .interface, name := "Pet", fields := [{ name := "name", type := .named "String" }] },
              { kind := .object, name := "Dog", interfaces := ["Pet"],
                fields := [{ name := "name", type := .named "String" }, { name := "bark", type := .named "Int" }] }] }

/-- new schema: a field added, an output type made non-null, a type added -/
private def exNew : SchemaD :=
  { types := [{ kind := .object, name := "Query",
                fields := [{ name := "pet", type := .named "Pet" }, { name := "n", type := .nonNull (.named "Int") },
                           { name := "extra", type := .named "Boolean" }] },
              { kind := .interface, name := "Pet", fields := [{ name := "name", type := .named "String" }] },
              { kind := .object, name := "Dog", interfaces := ["Pet"],
                fields := [{ name := "name", type := .named "String" }, { name := "bark", type := .named "Int" }] },
              { kind := .object, name := "Cat", interfaces := ["Pet"], fields := [{ name := "name", type := .named "String" }] }] }

/-- `{ n pet { name ... on Dog { bark } ...F } } fragment F on Pet { __typename }` -/
private def exDoc : Doc :=
  { ops := [{ kind := "query", name := none,
              sels := [.field "n" "n" 0 [] [] false [],
                       .field "pet" "pet" 0 [] [] true
                         [.field "name" "name" 0 [] [] false [],
                          .inline (some "Dog") [] [.field "bark" "bark" 0 [] [] false []],
                          .spread "F" []]] }],
    frags := [{ name := "F", on := "Pet", sels := [.field "__typename" "__typename" 0 [] [] false []] }] }

example : diffSchema exOld exNew 2 = [] ∧ (diffSchema exOld exNew 0).length = 3 := by decide +kernel
example : ValidDoc exOld exDoc [] := by unfold ValidDoc; decide +kernel
private theorem exOld_wf : DumpWf exOld :=
  ⟨ListEqv.nodup_uniq (by decide +kernel), by decide +kernel, by decide +kernel⟩
private theorem exNew_wf : DumpWf exNew :=
  ⟨ListEqv.nodup_uniq (by decide +kernel), by decide +kernel, by decide +kernel⟩
example : DumpWf exOld ∧ DumpWf exNew := ⟨exOld_wf, exNew_wf⟩
/-- the conclusion, obtained through the theorem -/
example : ValidDoc exNew exDoc [] :=
  operations_stay_valid exOld exNew (by decide +kernel) exOld_wf exNew_wf exDoc [] (by unfold ValidDoc; decide +kernel)
/-- and the hypothesis matters: after a BREAKING change (field removed) the same document is no longer valid -/
example : diffSchema exNew exOld 2 ≠ [] := by decide +kernel

end PyGql.Props.C20
