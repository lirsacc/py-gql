/-
  C20 — property theorems (type level). Stated about the definitions TRANSLATED
  from `src/py_gql/schema/differ/__init__.py` on every run.
-/
import PyGqlModel.Differ
import PyGqlModel.Lemmas.C20Sub

set_option linter.unusedSimpArgs false

namespace PyGql.Props.C20
open PyGql PyGql.Differ PyGql.Generated.Differ

/-- `_is_safe_output_type_change` with the recursion written out: non-null wrappers are peeled in step, an added
    non-null is peeled from the new type, and the items of two lists are compared by the INPUT rule `sub` -/
def subOut : Ty → Ty → Bool
  | .named a, .named b => a == b
  | .named a, .nonNull b => subOut (.named a) b
  | .named _, .list _ => false
  | .list a, .list b => sub a b
  | .list a, .nonNull b => subOut (.list a) b
  | .list _, .named _ => false
  | .nonNull a, .nonNull b => subOut a b
  | .nonNull _, .named _ => false
  | .nonNull _, .list _ => false

/-- with enough fuel the two closed step functionals are `sub` and `subOut`; every other fact about `safeIn` /
    `safeOut` is then a structural induction -/
theorem iter_eq (k : Nat) : ∀ o n : Ty, o.size + n.size ≤ k →
    (iter k).1 o n = sub o n ∧ (iter k).2 o n = subOut o n := by
  induction k with
  | zero => intro o n h; have := o.size_pos; omega
  | succ k ih =>
    intro o n h
    cases o <;> cases n <;> simp only [Ty.size] at h <;>
      simp [iter, safeInStep, safeOutStep, Ty.isNamed, Ty.isList, Ty.isNonNull, Ty.inner, Ty.name, sub, subOut]
    -- what is left are the recursive calls, each on a pair of smaller total size
    · exact (ih _ _ (by simp [Ty.size]; omega)).2
    · exact (ih _ _ (by omega)).1
    · exact (ih _ _ (by simp [Ty.size]; omega)).2
    · exact (ih _ _ (by simp [Ty.size]; omega)).1
    · exact (ih _ _ (by simp [Ty.size]; omega)).1
    · exact ih _ _ (by omega)

theorem safeOut_eq_subOut (o n : Ty) : safeOut o n = subOut o n := (iter_eq _ o n (Nat.le_refl _)).2

theorem sub_refl_in (t : Ty) : sub t t = true := by
  induction t <;> simp_all [sub]

theorem sub_base (t t' : Ty) (h : sub t t' = true) : t'.base = t.base := by
  fun_induction sub t t' <;> simp_all [Ty.base]

theorem subOut_base (o n : Ty) (h : subOut o n = true) : o.base = n.base := by
  fun_induction subOut o n <;> simp_all [Ty.base]
  exact (sub_base _ _ h).symm

/-- a non-null witness value of every type -/
private def wit : Ty → Val
  | .named n => .leaf n
  | .list _ => .list []
  | .nonNull t => wit t

private theorem acc_wit (t : Ty) : acc t (wit t) = true := by
  induction t with
  | named n => simp [wit, acc]
  | list t _ => simp [wit, acc]
  | nonNull t ih =>
    cases h : wit t with
    | null => simp [wit, h] at ih ⊢; cases t <;> simp_all [wit, acc]
    | leaf m => simp [wit, h, acc] at ih ⊢; exact ih
    | list vs => simp [wit, h, acc] at ih ⊢; exact ih

private theorem acc_nonNull (t : Ty) (v : Val) : acc (.nonNull t) v = (acc t v && match v with | .null => false | _ => true) := by
  cases v <;> simp [acc]

private theorem acc_list_mono (t u : Ty) (h : ∀ v, acc t v = true → acc u v = true) (v : Val)
    (hv : acc (.list t) v = true) : acc (.list u) v = true := by
  cases v with
  | null => rfl
  | leaf m => cases hv
  | list vs =>
    simp only [acc, List.all_eq_true] at hv ⊢
    exact fun x hx => h x (hv x hx)

private theorem sub_sound : ∀ a b : Ty, sub a b = true → ∀ v, acc a v = true → acc b v = true :=
  sub_sound_of acc (fun t v => by rw [acc_nonNull]; cases v <;> simp) acc_list_mono

private theorem acc_null_of_not_nonNull (u : Ty) (h : u.isNonNull = false) : acc u .null = true := by
  cases u <;> simp_all [acc, Ty.isNonNull]

private theorem sub_complete : ∀ a b : Ty, a.wf = true → b.wf = true →
    (∀ v, acc a v = true → acc b v = true) → sub a b = true := by
  intro a
  induction a with
  | named x =>
    intro b _ _ h
    cases b with
    | named y =>
      have := h (.leaf x) (by simp [acc])
      simp [acc] at this; simp [sub, this]
    | list u => have := h (.leaf x) (by simp [acc]); simp [acc] at this
    | nonNull u => have := h .null (by simp [acc]); simp [acc] at this
  | list t ih =>
    intro b wa wb h
    cases b with
    | named y => have := h (.list []) (by simp [acc]); simp [acc] at this
    | nonNull u => have := h .null (by simp [acc]); simp [acc] at this
    | list u =>
      simp only [sub]
      apply ih u (by simpa [Ty.wf] using wa) (by simpa [Ty.wf] using wb)
      intro v hv
      have := h (.list [v]) (by simp [acc, hv])
      simpa [acc] using this
  | nonNull t ih =>
    intro b wa wb h
    have wt : t.wf = true ∧ t.isNonNull = false := by
      simp [Ty.wf] at wa; exact ⟨wa.2, wa.1⟩
    cases b with
    | nonNull u =>
      have wu : u.wf = true ∧ u.isNonNull = false := by
        simp [Ty.wf] at wb; exact ⟨wb.2, wb.1⟩
      simp only [sub]; apply ih u wt.1 wu.1
      intro v hv
      cases v with
      | null => exact acc_null_of_not_nonNull u wu.2
      | leaf m => have := h (.leaf m) (by simpa [acc] using hv); simpa [acc] using this
      | list vs => have := h (.list vs) (by simpa [acc] using hv); simpa [acc] using this
    | named y =>
      simp only [sub]; apply ih _ wt.1 wb; intro v hv
      cases v with
      | null => simp [acc]
      | leaf m => exact h _ (by simpa [acc] using hv)
      | list vs => exact h _ (by simpa [acc] using hv)
    | list u =>
      simp only [sub]; apply ih _ wt.1 wb; intro v hv
      cases v with
      | null => simp [acc]
      | leaf m => exact h _ (by simpa [acc] using hv)
      | list vs => exact h _ (by simpa [acc] using hv)


theorem safeIn_eq_sub (o n : Ty) : safeIn o n = sub o n :=
  (iter_eq _ o n (Nat.le_refl _)).1

theorem safeIn_refl (t : Ty) : safeIn t t = true := by rw [safeIn_eq_sub]; exact sub_refl_in t
theorem safeOut_refl (t : Ty) : safeOut t t = true := by
  rw [safeOut_eq_subOut]
  induction t <;> simp_all [subOut, sub_refl_in]

/-- an output type change classified safe never changes the named type a field finally returns -/
theorem safeOut_base (o n : Ty) (h : safeOut o n = true) : o.base = n.base :=
  subOut_base o n (by rw [← safeOut_eq_subOut]; exact h)

theorem safeIn_base (o n : Ty) (h : safeIn o n = true) : o.base = n.base :=
  (sub_base o n (by rw [← safeIn_eq_sub]; exact h)).symm

/-- **Input positions (sound, all type expressions).** A change the differ classifies as safe
    for an argument / input field keeps every previously accepted value acceptable. -/
theorem safeIn_sound (o n : Ty) (h : safeIn o n = true) : InCompat o n := by
  rw [safeIn_eq_sub] at h; exact sub_sound o n h

/-- **Input positions (exact for `InCompat`, i.e. type expressions read WITHOUT list input coercion).** On well-formed
    type expressions the differ reports an input type change as safe *exactly* when the new type accepts every value
    the old one did, a single value NOT counting as a one-element list. With list coercion the predicate is sound but
    conservative: `Int` → `[Int]` is called unsafe (`safeIn_sound_coercion`, `safeIn_not_exact_with_list_coercion`,
    Props/C20_coercion.lean; `diff_schema` reports it BREAKING - and a variable `$v: Int` at that position does break). -/
theorem safeIn_iff (o n : Ty) (wo : o.wf = true) (wn : n.wf = true) :
    safeIn o n = true ↔ InCompat o n := by
  rw [safeIn_eq_sub]
  exact ⟨sub_sound o n, sub_complete o n wo wn⟩

/-- The full-strength statement for output positions (kept visible; NOT a theorem today). -/
def SafeOutFull : Prop :=
  ∀ o n : Ty, o.wf = true → n.wf = true → (safeOut o n = true ↔ OutCompat o n)

/-- Finding G1, machine-checked: `[Int!]` → `[Int]` is classified safe in output position although
    the new type can produce `[null]`, which the old type excludes. -/
theorem safeOut_full_fails_today : ¬ SafeOutFull := by
  intro h
  have h1 := (h (.list (.nonNull (.named "Int"))) (.list (.named "Int")) (by decide +kernel) (by decide +kernel)).1
    (by decide +kernel)
  have := h1 (.list [.null]) (by decide +kernel)
  exact absurd this (by decide +kernel)

/-- **the G1 class**: following `_is_safe_output_type_change` down the two type expressions (non-null wrappers are
    peeled in step, an added non-null is peeled from the new type), a list is met on both sides whose ITEM types are
    strictly comparable: they differ, and one is at least as strict as the other (they "differ only in nullability
    somewhere"). E.g. `[Int!]` / `[Int]`, `[[Int!]]!` / `[[Int]]`. Exactly there the code applies the input rule to an
    output position. -/
def g1Pair : Ty → Ty → Bool
  | .named _, .named _ => false
  | .named a, .nonNull b => g1Pair (.named a) b
  | .named _, .list _ => false
  | .list a, .list b => sub a b != sub b a
  | .list a, .nonNull b => g1Pair (.list a) b
  | .list _, .named _ => false
  | .nonNull a, .nonNull b => g1Pair a b
  | .nonNull _, .named _ => false
  | .nonNull _, .list _ => false

/-- **The translated output predicate, exactly**: it is the strictness order read backwards (`sub new old`: the
    new type is at least as strict as the old one) with the verdict FLIPPED on the G1 class, on all type expressions. -/
theorem safeOut_eq (o n : Ty) : safeOut o n = (sub n o != g1Pair o n) := by
  rw [safeOut_eq_subOut]
  fun_induction subOut o n <;> simp [sub, g1Pair, *]
  · exact Bool.beq_comm
  · rename_i a b
    cases sub a b <;> cases sub b a <;> rfl

/-- **Output positions (exact) outside the G1 class**, lists included: the differ reports an output type change
    as safe exactly when the new type only produces values legal for the old type. -/
theorem safeOut_iff_outside_G1 (o n : Ty) (wo : o.wf = true) (wn : n.wf = true) (hg : g1Pair o n = false) :
    safeOut o n = true ↔ OutCompat o n := by
  rw [safeOut_eq, hg]
  have : (sub n o != false) = sub n o := by cases sub n o <;> rfl
  rw [this, ← safeIn_eq_sub]
  exact safeIn_iff n o wn wo

/-- **...and the exclusion is tight**: on every pair of the G1 class the verdict is wrong (either an unsafe change is
    classified safe, `[Int!]` -> `[Int]`, or a safe one is reported as BREAKING, `[Int]` -> `[Int!]`). -/
theorem safeOut_wrong_on_G1 (o n : Ty) (wo : o.wf = true) (wn : n.wf = true) (hg : g1Pair o n = true) :
    ¬ (safeOut o n = true ↔ OutCompat o n) := by
  intro h
  have e : (safeOut o n = true) ↔ ¬ (sub n o = true) := by
    rw [safeOut_eq, hg]; cases sub n o <;> simp
  have c : OutCompat o n ↔ sub n o = true := by
    rw [← safeIn_eq_sub]; exact (safeIn_iff n o wn wo).symm
  rw [e, c] at h
  by_cases hs : sub n o = true
  · exact (h.mpr hs) hs
  · exact hs (h.mp hs)

/-- list-free pairs are outside the G1 class (so `safeOut_iff_partial` is an instance of `safeOut_iff_outside_G1`) -/
theorem g1Pair_listFree (o n : Ty) (lo : listFree o = true) : g1Pair o n = false := by
  induction n generalizing o with
  | named b => cases o <;> simp [g1Pair]
  | list b _ => cases o <;> simp_all [g1Pair, listFree]
  | nonNull b ih =>
    cases o with
    | named a => simp only [g1Pair]; exact ih _ lo
    | list a => simp [listFree] at lo
    | nonNull a => simp only [g1Pair]; exact ih _ (by simpa [listFree] using lo)

/-- **Output positions, list-free types (exact).** Without list wrappers the output predicate is
    exactly "the new type only produces values legal for the old type".
    PARTIAL: the full statement (`SafeOutFull`) is false on today's tree — finding G1. -/
theorem safeOut_iff_partial (o n : Ty) (wo : o.wf = true) (wn : n.wf = true)
    (lo : listFree o = true) (ln : listFree n = true) :
    safeOut o n = true ↔ OutCompat o n :=
  safeOut_iff_outside_G1 o n wo wn (g1Pair_listFree o n lo)

/-! non-vacuity: pairs with lists outside the class, and both kinds of wrong verdict inside it -/
example : g1Pair (.list (.named "Int")) (.nonNull (.list (.named "Int"))) = false
    ∧ safeOut (.list (.named "Int")) (.nonNull (.list (.named "Int"))) = true := by decide +kernel
example : g1Pair (.list (.nonNull (.named "Int"))) (.list (.named "Int")) = true
    ∧ safeOut (.list (.nonNull (.named "Int"))) (.list (.named "Int")) = true := by decide +kernel
example : g1Pair (.list (.named "Int")) (.list (.nonNull (.named "Int"))) = true
    ∧ safeOut (.list (.named "Int")) (.list (.nonNull (.named "Int"))) = false := by decide +kernel
example : g1Pair (.list (.named "Int")) (.list (.named "String")) = false := by decide +kernel

/-- classes whose edit removes a client-visible element or narrows a contract -/
def mustBeBreaking : List String :=
  ["TypeChangedKind", "TypeRemoved", "TypeRemovedFromUnion", "TypeRemovedFromInterface",
   "EnumValueRemoved", "DirectiveRemoved", "DirectiveLocationRemoved", "DirectiveArgumentRemoved",
   "DirectiveArgumentChangedType", "FieldArgumentRemoved", "FieldArgumentChangedType",
   "FieldChangedType", "FieldRemoved", "InputFieldRemoved", "InputFieldChangedType",
   "RootTypeChanged", "RootTypeRemoved"]

def breakingWhenRequired : List String :=
  ["DirectiveArgumentAdded", "FieldArgumentAdded", "InputFieldAdded",
   -- `required` = the element BECOMES required because its default value was removed (repair G3)
   "DirectiveArgumentDefaultValueChange", "FieldArgumentDefaultValueChange", "InputFieldDefaultValueChange"]

def severityTableOk : Bool :=
  mustBeBreaking.all (fun c => severityOf c false == some sevBreaking && severityOf c true == some sevBreaking)
  && breakingWhenRequired.all (fun c => severityOf c true == some sevBreaking)

/-- **Severity table** (extracted from `changes.py` on every run): every change class that removes
    or narrows something a client can depend on is BREAKING; adding a *required* argument or input
    field is BREAKING. -/
theorem severity_table : severityTableOk = true := by decide +kernel

/-- the table read as a function: the classes of `mustBeBreaking` are BREAKING in both columns -/
theorem severityOf_mustBeBreaking {c : String} (h : c ∈ mustBeBreaking) (r : Bool) :
    severityOf c r = some sevBreaking := by
  have := severity_table
  simp only [severityTableOk, Bool.and_eq_true, List.all_eq_true, beq_iff_eq] at this
  cases r
  · exact (this.1 c h).1
  · exact (this.1 c h).2

/-- ...and those of `breakingWhenRequired` in the `required` column -/
theorem severityOf_breakingWhenRequired {c : String} (h : c ∈ breakingWhenRequired) :
    severityOf c true = some sevBreaking := by
  have := severity_table
  simp only [severityTableOk, Bool.and_eq_true, List.all_eq_true, beq_iff_eq] at this
  exact this.2 c h

/-! ### non-vacuity -/
example : safeIn (.nonNull (.named "Int")) (.named "Int") = true := by decide +kernel
example : safeIn (.named "Int") (.nonNull (.named "Int")) = false := by decide +kernel
example : (Ty.list (.nonNull (.named "Int"))).wf = true ∧ InCompat (.nonNull (.named "A")) (.named "A") :=
  ⟨by decide +kernel, safeIn_sound _ _ (by decide +kernel)⟩
example : safeOut (.named "Int") (.nonNull (.named "Int")) = true := by decide +kernel

end PyGql.Props.C20
