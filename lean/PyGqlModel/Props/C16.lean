/-
  C16 — instrumentation and middlewares see every field exactly once, properly nested.
  Theorems about the model `PyGqlModel/Instr.lean` (tied to /repo by harness/corr/C16.py).
-/
import PyGqlModel.Instr

set_option linter.unusedSimpArgs false

namespace PyGql.Props.C16
open PyGql.Instr

/-- `apply_middlewares`: one call of the wrapped resolver enters every middleware exactly once,
    the LAST middleware of the list first (outermost), then runs the wrapped function once, then
    leaves the middlewares in list order — for every function and every list. -/
theorem middleware_once_in_order (func : Callable) (mws : List Nat) (p : Path) :
    applyMiddlewares func mws p
      = mws.reverse.map (fun i => Ev.mwEnter i p) ++ func p ++ mws.map (fun i => Ev.mwExit i p) := by
  unfold applyMiddlewares
  induction mws generalizing func with
  | nil => simp
  | cons m ms ih =>
    rw [List.foldl_cons, ih]
    simp [middleware, List.append_assoc]

example : applyMiddlewares (resolverBody .returns) [0, 1, 2] [.key "a"]
    = [.mwEnter 2 [.key "a"], .mwEnter 1 [.key "a"], .mwEnter 0 [.key "a"], .call [.key "a"], .ret [.key "a"],
       .mwExit 0 [.key "a"], .mwExit 1 [.key "a"], .mwExit 2 [.key "a"]] := by decide +kernel

/-- the members of `l` that override the method `h` goes to, as recorded events -/
def recordedBy (l : List (Nat × List Nat)) (h : Hook) : List REv :=
  (l.filter (fun x => sees x.2 h)).map (fun x => REv.hook x.1 h)

private theorem recordedBy_append (a b : List (Nat × List Nat)) (h : Hook) :
    recordedBy (a ++ b) h = recordedBy a h ++ recordedBy b h := by
  simp [recordedBy, List.filter_append]

private theorem recordedBy_reverse_append (a b : List (Nat × List Nat)) (h : Hook) :
    recordedBy (a ++ b).reverse h = recordedBy b.reverse h ++ recordedBy a.reverse h := by
  simp [recordedBy, List.filter_append]

mutual
private theorem emit_eq : ∀ (t : Instr) (h : Hook),
    t.emit h = recordedBy (if h.isStart then t.leaves else t.leaves.reverse) h
  | .leaf i m, h => by
    cases hs : sees m h <;> simp [Instr.emit, Instr.leaves, recordedBy, hs]
  | .multi cs, h => by
    cases hs : h.isStart
    · simp [Instr.emit, Instr.leaves, hs, emitAllRev_eq cs h hs]
    · simp [Instr.emit, Instr.leaves, hs, emitAll_eq cs h hs]
private theorem emitAll_eq : ∀ (cs : List Instr) (h : Hook), h.isStart = true →
    emitAll cs h = recordedBy (leavesAll cs) h
  | [], h, _ => by simp [emitAll, leavesAll, recordedBy]
  | c :: cs, h, hs => by simp [emitAll, leavesAll, emit_eq c h, emitAll_eq cs h hs, hs, recordedBy_append]
private theorem emitAllRev_eq : ∀ (cs : List Instr) (h : Hook), h.isStart = false →
    emitAllRev cs h = recordedBy (leavesAll cs).reverse h
  | [], h, _ => by simp [emitAllRev, leavesAll, recordedBy]
  | c :: cs, h, hs => by
    simp [emitAllRev, leavesAll, emit_eq c h, emitAllRev_eq cs h hs, hs, recordedBy_append]
end

/-- Combined instrumentations, nested to any depth, members overriding ANY subset of the ten
    methods: a start hook reaches, in order, exactly the recording members that override it; an
    end hook reaches, in exactly the reverse order, exactly the members that override it — each
    once, independently of which OTHER methods a member overrides. -/
theorem multi_order (t : Instr) (h : Hook) :
    t.emit h = recordedBy (if h.isStart then t.leaves else t.leaves.reverse) h :=
  emit_eq t h

example : (Instr.multi [.leaf 0 allKinds, .multi [.leaf 1 [9], .leaf 2 allKinds]]).emit (.field [] false)
    = [.hook 2 (.field [] false), .hook 1 (.field [] false), .hook 0 (.field [] false)] := by decide +kernel
/-- an end-only member is skipped by the start hook and reached by the end hook -/
example : (Instr.multi [.leaf 0 allKinds, .leaf 1 [9]]).emit (.field [] true) = [.hook 0 (.field [] true)] := by decide +kernel

def seenBy (i : Nat) : List REv → List Hook
  | [] => []
  | .hook j h :: es => if j = i then h :: seenBy i es else seenBy i es
  | .other _ :: es => seenBy i es

def hooksOf : List Ev → List Hook
  | [] => []
  | .hook h :: es => h :: hooksOf es
  | _ :: es => hooksOf es

private theorem seenBy_append (i : Nat) (a b : List REv) : seenBy i (a ++ b) = seenBy i a ++ seenBy i b := by
  induction a with
  | nil => rfl
  | cons e es ih =>
    cases e with
    | hook j h => by_cases hj : j = i <;> simp [seenBy, hj, ih]
    | other e => simp [seenBy, ih]

private theorem seenBy_absent (i : Nat) (h : Hook) : ∀ (l : List (Nat × List Nat)), (l.map (·.1)).count i = 0 →
    seenBy i (recordedBy l h) = []
  | [], _ => rfl
  | (j, mj) :: l, hc => by
    have hj : j ≠ i := by intro e; subst e; simp at hc
    have hc' : (l.map (·.1)).count i = 0 := by
      have : (j == i) = false := by simp [hj]
      simpa [List.count_cons, this] using hc
    have ih := seenBy_absent i h l hc'
    simp only [recordedBy] at ih ⊢
    cases hs : sees mj h <;> simp [List.filter_cons, hs, seenBy, hj, ih]

private theorem seenBy_member (i : Nat) (m : List Nat) (h : Hook) : ∀ (l : List (Nat × List Nat)),
    (l.map (·.1)).count i = 1 → (i, m) ∈ l →
    seenBy i (recordedBy l h) = if sees m h then [h] else []
  | [], hc, _ => by simp at hc
  | (j, mj) :: l, hc, hm => by
    by_cases hj : j = i
    · subst hj
      have hc' : (l.map (·.1)).count j = 0 := by simpa [List.count_cons] using hc
      have hnot : (j, m) ∉ l := by
        intro hin
        have : j ∈ l.map (·.1) := List.mem_map_of_mem (f := (·.1)) hin
        exact (List.count_eq_zero.1 hc') this
      have hmj : mj = m := by
        rcases List.mem_cons.1 hm with e | e
        · exact (Prod.mk.inj e).2.symm
        · exact absurd e hnot
      subst hmj
      have ih := seenBy_absent j h l hc'
      simp only [recordedBy] at ih ⊢
      cases hs : sees mj h <;> simp [List.filter_cons, hs, seenBy, ih]
    · have hc' : (l.map (·.1)).count i = 1 := by
        have : (j == i) = false := by simp [hj]
        simpa [List.count_cons, this] using hc
      have hm' : (i, m) ∈ l := by
        rcases List.mem_cons.1 hm with e | e
        · exact absurd (Prod.mk.inj e).1.symm hj
        · exact e
      have ih := seenBy_member i m h l hc' hm'
      simp only [recordedBy] at ih ⊢
      cases hs : sees mj h <;> simp [List.filter_cons, hs, seenBy, hj, ih]

/-- Every recording instrumentation that occurs once in a stack,
    whatever subset `m` of the methods it overrides and whatever the other members override,
    sees exactly the hook sequence it would see if it were passed directly: the hooks of the
    single-instrumentation trace that go to a method it overrides, in the same order. Stacking
    neither drops, duplicates nor reorders the hooks of one member. (So `stages_nested` and
    `field_hooks_once` hold per member.) -/
theorem multi_member_sees_all (t : Instr) (i : Nat) (m : List Nat)
    (hi : (t.leaves.map (·.1)).count i = 1) (hm : (i, m) ∈ t.leaves) (tr : List Ev) :
    seenBy i (expand t tr) = (hooksOf tr).filter (sees m) := by
  induction tr with
  | nil => rfl
  | cons e es ih =>
    cases e with
    | hook h =>
      simp only [expand, hooksOf, seenBy_append, ih, multi_order]
      have key : seenBy i (recordedBy (if h.isStart then t.leaves else t.leaves.reverse) h)
          = if sees m h then [h] else [] := by
        cases h.isStart
        · exact seenBy_member i m h _ (by simp only [Bool.false_eq_true, if_false, List.map_reverse, List.count_reverse]; exact hi) (by simpa using hm)
        · exact seenBy_member i m h _ hi hm
      rw [key]
      cases hs : sees m h <;> simp [List.filter_cons, hs]
    | _ => simp [expand, hooksOf, seenBy, ih]

/-- passed directly (no `MultiInstrumentation`), the same instance sees the same hooks -/
theorem direct_sees (i : Nat) (m : List Nat) (tr : List Ev) :
    seenBy i (expand (.leaf i m) tr) = (hooksOf tr).filter (sees m) :=
  multi_member_sees_all (.leaf i m) i m (by simp [Instr.leaves]) (by simp [Instr.leaves]) tr

example : ((Instr.multi [.leaf 0 allKinds, .multi [.leaf 1 [9], .leaf 2 [0, 8]]]).leaves.map (·.1)).count 1 = 1 := by decide +kernel

structure Resolved where
  path : Path
  o : OutKind
  deriving DecidableEq, Repr

mutual
/-- the fields that get resolved, in document (pre-)order -/
def nodesOfNode (path : Path) : Node → List Resolved
  | .mk key _ o c =>
    ⟨path ++ [.key key], o⟩ :: (match o with
      | .returns => nodesOfComp (path ++ [.key key]) c
      | _ => [])
def nodesOfComp (p : Path) : Comp → List Resolved
  | .leaf => []
  | .null => []
  | .obj fs => nodesOfFields p fs
  | .list items => nodesOfItems p 0 items
def nodesOfFields (p : Path) : List Node → List Resolved
  | [] => []
  | n :: ns => nodesOfNode p n ++ nodesOfFields p ns
def nodesOfItems (p : Path) (i : Nat) : List Comp → List Resolved
  | [] => []
  | c :: cs => nodesOfComp (p ++ [.idx i]) c ++ nodesOfItems p (i + 1) cs
end

/-- THE event block of one resolved field: start hook with its path; unless argument coercion
    failed, every middleware entered once (last one outermost), the resolver invoked once and
    returning or raising, the middlewares left; end hook with its path. -/
def chunk (cfg : Cfg) (n : Resolved) : List Ev :=
  [Ev.hook (.field n.path true)] ++
  (if n.o = .argError then []
   else cfg.mws.reverse.map (fun i => Ev.mwEnter i n.path)
        ++ [Ev.call n.path, if n.o = .raises then Ev.raise n.path else Ev.ret n.path]
        ++ cfg.mws.map (fun i => Ev.mwExit i n.path)) ++
  [Ev.hook (.field n.path false)]

private theorem resolveField_eq (cfg : Cfg) (path : Path) (key : String) (d : Bool) (o : OutKind) (c : Comp) :
    blockingResolveField cfg path (.mk key d o c)
      = chunk cfg ⟨path ++ [.key key], o⟩ ++
        (match o with | .returns => blockingComplete cfg (path ++ [.key key]) c | _ => []) := by
  cases o <;>
    simp [blockingResolveField, chunk, fieldStart, fieldEnd, fieldResolver, middleware_once_in_order, resolverBody,
      List.append_assoc]

mutual
private theorem bField (cfg : Cfg) : ∀ (path : Path) (n : Node),
    blockingResolveField cfg path n = (nodesOfNode path n).flatMap (chunk cfg)
  | path, .mk key d o c => by
    rw [resolveField_eq]
    cases o with
    | returns => simp [nodesOfNode, bComp cfg (path ++ [Seg.key key]) c]
    | _ => simp [nodesOfNode]
private theorem bComp (cfg : Cfg) : ∀ (p : Path) (c : Comp),
    blockingComplete cfg p c = (nodesOfComp p c).flatMap (chunk cfg)
  | p, .leaf => by simp [blockingComplete, nodesOfComp]
  | p, .null => by simp [blockingComplete, nodesOfComp]
  | p, .obj fs => by simp [blockingComplete, nodesOfComp, bFields cfg p fs]
  | p, .list items => by simp [blockingComplete, nodesOfComp, bItems cfg p 0 items]
private theorem bFields (cfg : Cfg) : ∀ (p : Path) (fs : List Node),
    blockingFields cfg p fs = (nodesOfFields p fs).flatMap (chunk cfg)
  | p, [] => by simp [blockingFields, nodesOfFields]
  | p, n :: ns => by simp [blockingFields, nodesOfFields, bField cfg p n, bFields cfg p ns]
private theorem bItems (cfg : Cfg) : ∀ (p : Path) (i : Nat) (cs : List Comp),
    blockingItems cfg p i cs = (nodesOfItems p i cs).flatMap (chunk cfg)
  | p, i, [] => by simp [blockingItems, nodesOfItems]
  | p, i, c :: cs => by simp [blockingItems, nodesOfItems, bComp cfg (p ++ [Seg.idx i]) c, bItems cfg p (i + 1) cs]
end

/-- `BlockingExecutor`: the trace of the execution stage is the concatenation, in document
    order, of one `chunk` per resolved field — i.e. for every resolved field exactly one start
    and one end hook with its path, start before the resolver is invoked, end after it returned
    or raised, and every middleware exactly once around the call in the documented nesting. -/
theorem field_hooks_once_blocking (cfg : Cfg) (fs : List Node) :
    blockingFields cfg [] fs = (nodesOfFields [] fs).flatMap (chunk cfg) := bFields cfg [] fs


/-- what an outstanding task still has to emit if everything after it ran sequentially -/
def taskSeq (cfg : Cfg) (t : Task) : List Ev :=
  resolverBody t.o t.path ++ fieldEnd t.path ++
  (match t.o with | .returns => blockingComplete cfg t.path t.c | _ => [])

private theorem count_mw (func : Callable) (mws : List Nat) (p : Path) (e : Ev) :
    List.count e (applyMiddlewares func mws p)
      = List.count e (mws.reverse.map (fun i => Ev.mwEnter i p)) + List.count e (func p)
        + List.count e (mws.map (fun i => Ev.mwExit i p)) := by
  rw [middleware_once_in_order]; simp only [List.count_append]

mutual
private theorem aField (cfg : Cfg) (e : Ev) : ∀ (path : Path) (n : Node),
    List.count e (startField cfg path n).1 + List.count e ((startField cfg path n).2.flatMap (taskSeq cfg))
      = List.count e (blockingResolveField cfg path n)
    ∧ poolSize (startField cfg path n).2 ≤ sizeNode n
  | path, .mk key d o c => by
    cases o with
    | argError => simp [startField, blockingResolveField, poolSize]
    | raises =>
      cases d <;>
        simp [startField, blockingResolveField, poolSize, taskSeq, fieldResolver, count_mw, submitOnly,
          List.count_append, Task.size, sizeNode] <;> omega
    | returns =>
      have ih := aComp cfg e (path ++ [Seg.key key]) c
      cases d
      · simp only [startField, blockingResolveField, Bool.false_eq_true, if_false, List.count_append, sizeNode]
        omega
      · simp [startField, blockingResolveField, poolSize, taskSeq, fieldResolver, count_mw, submitOnly,
          List.count_append, Task.size, sizeNode]
        omega
private theorem aComp (cfg : Cfg) (e : Ev) : ∀ (p : Path) (c : Comp),
    List.count e (startComplete cfg p c).1 + List.count e ((startComplete cfg p c).2.flatMap (taskSeq cfg))
      = List.count e (blockingComplete cfg p c)
    ∧ poolSize (startComplete cfg p c).2 ≤ sizeComp c
  | p, .leaf => by simp [startComplete, blockingComplete, poolSize]
  | p, .null => by simp [startComplete, blockingComplete, poolSize]
  | p, .obj fs => by simpa [startComplete, blockingComplete, sizeComp] using aFields cfg e p fs
  | p, .list items => by simpa [startComplete, blockingComplete, sizeComp] using aItems cfg e p 0 items
private theorem aFields (cfg : Cfg) (e : Ev) : ∀ (p : Path) (fs : List Node),
    List.count e (startFields cfg p fs).1 + List.count e ((startFields cfg p fs).2.flatMap (taskSeq cfg))
      = List.count e (blockingFields cfg p fs)
    ∧ poolSize (startFields cfg p fs).2 ≤ sizeNodes fs
  | p, [] => by simp [startFields, blockingFields, poolSize]
  | p, n :: ns => by
    have h1 := aField cfg e p n
    have h2 := aFields cfg e p ns
    simp only [poolSize] at h1 h2
    simp only [startFields, blockingFields, List.count_append, List.flatMap_append, poolSize, List.map_append,
      List.sum_append, sizeNodes]
    omega
private theorem aItems (cfg : Cfg) (e : Ev) : ∀ (p : Path) (i : Nat) (cs : List Comp),
    List.count e (startItems cfg p i cs).1 + List.count e ((startItems cfg p i cs).2.flatMap (taskSeq cfg))
      = List.count e (blockingItems cfg p i cs)
    ∧ poolSize (startItems cfg p i cs).2 ≤ sizeItems cs
  | p, i, [] => by simp [startItems, blockingItems, poolSize]
  | p, i, c :: cs => by
    have h1 := aComp cfg e (p ++ [Seg.idx i]) c
    have h2 := aItems cfg e p (i + 1) cs
    simp only [poolSize] at h1 h2
    simp only [startItems, blockingItems, List.count_append, List.flatMap_append, poolSize, List.map_append,
      List.sum_append, sizeItems]
    omega
end


private theorem runTask_count (cfg : Cfg) (e : Ev) (t : Task) :
    List.count e (runTask cfg t).1 + List.count e ((runTask cfg t).2.flatMap (taskSeq cfg))
      = List.count e (taskSeq cfg t)
    ∧ poolSize (runTask cfg t).2 + 1 ≤ t.size := by
  cases t with
  | mk p o c =>
    cases o with
    | returns =>
      have := aComp cfg e p c
      simp only [runTask, taskSeq, List.count_append, Task.size]
      omega
    | _ => simp [runTask, taskSeq, poolSize, Task.size]

private theorem perm_getElem_cons_eraseIdx {α} : ∀ (l : List α) (i : Nat) (h : i < l.length), l.Perm (l[i] :: l.eraseIdx i)
  | a :: l, 0, _ => .refl _
  | a :: l, i + 1, h => ((perm_getElem_cons_eraseIdx l i (by simpa using h)).cons a).trans (.swap _ _ _)

/-- draining a pool of outstanding tasks: one of them runs - its events, and the tasks it leaves behind join the
    others - until none is left -/
private inductive Drains (cfg : Cfg) : List Task → List Ev → Prop
  | done : Drains cfg [] []
  | step {pool rest : List Task} {t : Task} {evs : List Ev} : pool.Perm (t :: rest) →
      Drains cfg (rest ++ (runTask cfg t).2) evs → Drains cfg pool ((runTask cfg t).1 ++ evs)

private theorem drain_drains (cfg : Cfg) : ∀ (fuel : Nat) (pool : List Task) (sched : List Nat),
    poolSize pool ≤ fuel → Drains cfg pool (drain cfg fuel pool sched).1
  | 0, pool, sched, h => by
    cases pool with
    | nil => exact .done
    | cons t ts => simp [poolSize, Task.size] at h
  | fuel + 1, [], sched, _ => .done
  | fuel + 1, t0 :: rest, sched, h => by
    have hi : sched.headD 0 % (t0 :: rest).length < (t0 :: rest).length := Nat.mod_lt _ (by simp)
    simp only [drain]
    generalize sched.headD 0 % (t0 :: rest).length = i at hi ⊢
    have hget : (t0 :: rest).getD i t0 = (t0 :: rest)[i] := by
      simp [List.getD, List.getElem?_eq_getElem hi]
    rw [hget]
    have hp := perm_getElem_cons_eraseIdx (t0 :: rest) i hi
    refine .step hp (drain_drains cfg fuel _ sched.tail ?_)
    have hsz := (runTask_count cfg (.call []) (t0 :: rest)[i]).2
    have hs := (hp.map Task.size).sum_nat
    simp only [poolSize, List.map_append, List.sum_append, List.map_cons, List.sum_cons] at h hsz hs ⊢
    omega

private theorem Drains.count {cfg : Cfg} (e : Ev) {pool : List Task} {evs : List Ev} (h : Drains cfg pool evs) :
    List.count e evs = List.count e (pool.flatMap (taskSeq cfg)) := by
  induction h with
  | done => rfl
  | @step pool rest t evs hp _ ih =>
    have hr := (runTask_count cfg e t).1
    rw [List.count_append, ih, (hp.flatMap_right (taskSeq cfg)).count_eq, List.flatMap_append, List.flatMap_cons,
      List.count_append, List.count_append]
    omega


private theorem execParallel_count (cfg : Cfg) (e : Ev) (fs : List Node) (sched : List Nat) :
    List.count e (execParallel cfg fs sched) = List.count e (blockingFields cfg [] fs) := by
  have h := aFields cfg e [] fs
  simp only [execParallel, List.count_append, (drain_drains cfg _ _ sched h.2).count e]
  exact h.1

private theorem execSerial_count (cfg : Cfg) (e : Ev) : ∀ (fs : List Node) (sched : List Nat),
    List.count e (execSerial cfg fs sched) = List.count e (blockingFields cfg [] fs)
  | [], sched => by simp [execSerial, blockingFields]
  | n :: ns, sched => by
    have h := aField cfg e [] n
    simp only [execSerial, blockingFields, List.count_append, (drain_drains cfg _ _ sched h.2).count e,
      execSerial_count cfg e ns]
    omega

/-- **Every executor, every runtime, every completion order**: the events of the execution
    stage are, up to the order in which deferred resolvers complete, exactly one `chunk` per
    resolved field. Hence for every resolved field: exactly one start hook and one end hook
    with its path, exactly one resolver invocation, exactly one entry and exit of every
    configured middleware — never more, never fewer, whatever the schedule. -/
theorem field_hooks_once (cfg : Cfg) (r : Request) :
    (execBody cfg r).Perm ((nodesOfFields [] r.fields).flatMap (chunk cfg)) := by
  rw [← field_hooks_once_blocking, List.perm_iff_count]
  intro e
  unfold execBody
  split
  · rfl
  · split
    · exact execSerial_count cfg e _ _
    · exact execParallel_count cfg e _ _

/-- for every request (deferred resolvers or not), `Executor` and `BlockingExecutor` produce the
    same number of every event on its field tree -/
theorem executor_count_eq_blocking (cfg : Cfg) (r : Request) (e : Ev) :
    List.count e (execBody cfg r) = List.count e (blockingFields cfg [] r.fields) := by
  rw [field_hooks_once_blocking]; exact (field_hooks_once cfg r).count_eq e

/-- non-vacuity: a tree with a deferred object field, a failing deferred leaf and a list;
    LIFO completion really reorders the trace, the multiset of events is unchanged -/
private def demoFields : List Node :=
  [.mk "a" true .returns (.obj [.mk "x" true .returns .leaf, .mk "y" false .raises .null]),
   .mk "b" true .raises .null,
   .mk "c" false .returns (.list [.obj [.mk "z" true .returns .leaf], .null])]
private def demoReq (sched : List Nat) : Request :=
  { docIsText := true, syntaxError := false, valid := true, opselOk := true, varsOk := true, subscriptionOp := false, rootCollectFails := false, serial := false,
    blockingExecutor := false, fields := demoFields, sched := sched }
example : execBody ⟨[0]⟩ (demoReq [2, 1, 0]) ≠ execBody ⟨[0]⟩ (demoReq [0, 0, 0]) := by decide +kernel
example : (nodesOfFields [] demoFields).length = 6 := by decide +kernel

def stageOf : Ev → Option (Stage × Bool)
  | .hook (.stage s b) => some (s, b)
  | _ => none

/-- the stage hooks of a trace, in order (`(s, true)` = `on_s_start`) -/
def stageEvents (tr : List Ev) : List (Stage × Bool) := tr.filterMap stageOf

/-- stack discipline: every end closes the innermost open stage, nothing stays open -/
def bracket : List Stage → List (Stage × Bool) → Bool
  | stack, [] => stack.isEmpty
  | stack, (s, true) :: es => bracket (s :: stack) es
  | [], (_, false) :: _ => false
  | top :: stack, (s, false) :: es => decide (s = top) && bracket stack es

private theorem chunk_no_stage (cfg : Cfg) (n : Resolved) : ∀ e ∈ chunk cfg n, stageOf e = none := by
  intro e he
  simp only [chunk, List.mem_append, List.mem_cons, List.mem_map, List.not_mem_nil, or_false] at he
  rcases he with (rfl | he) | rfl
  · rfl
  · split at he
    · simp at he
    · simp only [List.mem_append, List.mem_map, List.mem_cons, List.not_mem_nil, or_false] at he
      rcases he with (⟨i, _, rfl⟩ | rfl | rfl) | ⟨i, _, rfl⟩ <;> first | rfl | (split <;> rfl)
  · rfl

theorem body_has_no_stage_event (cfg : Cfg) (r : Request) : stageEvents (execBody cfg r) = [] := by
  rw [stageEvents, List.filterMap_eq_nil_iff]
  intro e he
  rw [(field_hooks_once cfg r).mem_iff, List.mem_flatMap] at he
  obtain ⟨n, _, hn⟩ := he
  exact chunk_no_stage cfg n e hn

/-- the stage hooks of a request, as a function of the stage outcomes only -/
def stageShape (r : Request) : List (Stage × Bool) :=
  [(.query, true)] ++
  (if r.docIsText && r.syntaxError then [(.parsing, true), (.parsing, false)]
   else (if r.docIsText then [(.parsing, true), (.parsing, false)] else []) ++
        [(.validation, true), (.validation, false)] ++
        (if r.valid && r.opselOk && r.varsOk && !r.subscriptionOp then [(.execution, true), (.execution, false)] else [])) ++
  [(.query, false)]

theorem stageEvents_append (a b : List Ev) : stageEvents (a ++ b) = stageEvents a ++ stageEvents b :=
  List.filterMap_append

private theorem stageEvents_execute (cfg : Cfg) (r : Request) :
    (execute cfg r).map stageEvents =
      if r.opselOk && r.varsOk && !r.subscriptionOp then some [(.execution, true), (.execution, false)] else none := by
  have hb : stageEvents (execBody cfg r) = [] := body_has_no_stage_event cfg r
  unfold execute
  cases r.opselOk <;> cases r.varsOk <;> cases r.subscriptionOp <;> try rfl
  cases r.rootCollectFails <;> simp [stageEvents_append, hb] <;> rfl

theorem stage_events_eq (cfg : Cfg) (r : Request) : stageEvents (pipeline false cfg r) = stageShape r := by
  have he := stageEvents_execute cfg r
  unfold pipeline stageShape
  cases r.docIsText <;> cases r.syntaxError <;> cases r.valid <;> try rfl
  all_goals
    cases hx : execute cfg r <;> cases hg : (r.opselOk && r.varsOk && !r.subscriptionOp) <;>
      simp [hx, hg] at he
    all_goals simp [stageEvents_append, he, hg] <;> rfl

/-- For every request, every outcome of every stage, every executor, runtime and completion
    order: the query, parsing, validation and execution hooks are well bracketed (an end hook only
    ever closes the innermost open stage, and every started stage is ended — also when the stage
    reported errors), each hook fires at most once, and everything lies inside
    `on_query_start … on_query_end`.
    SCOPE: stated for `pipeline false`, which is /repo's pipeline since fix N1
    (`stages_not_nested_before_fix_N1` is about the code before it); over `stageEvents` only: that
    field / middleware / resolver events lie between `execution+` and `execution-` is
    `field_events_inside_execution` (`Props/C16_inside.lean`) - on the real code it is what the oracle
    checks (`field-hook-outside-execution-stage`), with the known exceptions N4 (thread pool,
    sibling in flight at abort) and N7. `OutKind` has no unexpected-exception and no request-abort
    outcome: processing that RAISES leaves stages open on the real code (known finding N3). -/
theorem stages_nested (cfg : Cfg) (r : Request) :
    bracket [] (stageEvents (pipeline false cfg r)) = true
    ∧ (stageEvents (pipeline false cfg r)).Nodup
    ∧ (stageEvents (pipeline false cfg r)).head? = some (.query, true)
    ∧ (stageEvents (pipeline false cfg r)).getLast? = some (.query, false) := by
  rw [stage_events_eq]
  unfold stageShape
  -- five shapes: which of them depends on three tests only
  cases r.docIsText <;> cases r.syntaxError <;> cases (r.valid && r.opselOk && r.varsOk && !r.subscriptionOp) <;> decide

/-- the stage hooks of a stage that reported errors are still paired: syntax error, validation
    errors, operation / variable errors (execution never starts) -/
example : stageShape { docIsText := true, syntaxError := true, valid := true, opselOk := true, varsOk := true, subscriptionOp := false, rootCollectFails := false,
                       serial := false, blockingExecutor := true, fields := [], sched := [] }
    = [(.query, true), (.parsing, true), (.parsing, false), (.query, false)] := by decide +kernel

private def emptyRootReq (rcf serial blocking : Bool) : Request :=
  { docIsText := false, syntaxError := false, valid := true, opselOk := true, varsOk := true,
    subscriptionOp := false, rootCollectFails := rcf, serial := serial, blockingExecutor := blocking,
    fields := [], sched := [] }

/-- a root selection set that collects to NOTHING (every field excluded by `@skip` / `@include`), and one whose
    directive condition cannot be evaluated: the execution stage is started AND ended, inside the query stage -/
example : stageEvents (pipeline false ⟨[0]⟩ (emptyRootReq false false false))
    = [(.query, true), (.validation, true), (.validation, false), (.execution, true), (.execution, false), (.query, false)] := by decide +kernel
example : stageEvents (pipeline false ⟨[0]⟩ (emptyRootReq true true true))
    = [(.query, true), (.validation, true), (.validation, false), (.execution, true), (.execution, false), (.query, false)] := by decide +kernel

/-- Defect N1, machine-checked on the model of the UNFIXED `_graphql.py` (`return _abort(...)`
    inside `except`, before the `finally`): on a syntax error the trace is
    `query+ parsing+ query- parsing-`, which is not well bracketed. -/
theorem stages_not_nested_before_fix_N1 :
    ∃ (cfg : Cfg) (r : Request), bracket [] (stageEvents (pipeline true cfg r)) = false :=
  ⟨⟨[]⟩, { docIsText := true, syntaxError := true, valid := true, opselOk := true, varsOk := true, subscriptionOp := false, rootCollectFails := false,
           serial := false, blockingExecutor := true, fields := [], sched := [] }, by decide +kernel⟩


/-- the events of a field in the order the statement requires: start hook, middlewares entered
    (last one first), resolver invoked, resolver returned / raised, end hook -/
def order (cfg : Cfg) (n : Resolved) : List Ev :=
  [Ev.hook (.field n.path true)] ++
  (if n.o = .argError then []
   else cfg.mws.reverse.map (fun i => Ev.mwEnter i n.path)
        ++ [Ev.call n.path, if n.o = .raises then Ev.raise n.path else Ev.ret n.path]) ++
  [Ev.hook (.field n.path false)]

mutual
/-- no resolver of the tree is deferred by the runtime -/
def syncNode : Node → Bool
  | .mk _ d _ c => !d && syncComp c
def syncComp : Comp → Bool
  | .leaf => true
  | .null => true
  | .obj fs => syncNodes fs
  | .list items => syncItems items
def syncNodes : List Node → Bool
  | [] => true
  | n :: ns => syncNode n && syncNodes ns
def syncItems : List Comp → Bool
  | [] => true
  | c :: cs => syncComp c && syncItems cs
end

mutual
private theorem sField (cfg : Cfg) : ∀ (path : Path) (n : Node), syncNode n = true →
    startField cfg path n = (blockingResolveField cfg path n, [])
  | path, .mk key d o c, h => by
    simp only [syncNode, Bool.and_eq_true, Bool.not_eq_true'] at h
    obtain ⟨hd, hc⟩ := h
    subst hd
    cases o with
    | returns => simp [startField, blockingResolveField, sComp cfg (path ++ [Seg.key key]) c hc]
    | _ => simp [startField, blockingResolveField]
private theorem sComp (cfg : Cfg) : ∀ (p : Path) (c : Comp), syncComp c = true →
    startComplete cfg p c = (blockingComplete cfg p c, [])
  | p, .leaf, _ => by simp [startComplete, blockingComplete]
  | p, .null, _ => by simp [startComplete, blockingComplete]
  | p, .obj fs, h => by simpa [startComplete, blockingComplete] using sFields cfg p fs (by simpa [syncComp] using h)
  | p, .list items, h => by
    simpa [startComplete, blockingComplete] using sItems cfg p 0 items (by simpa [syncComp] using h)
private theorem sFields (cfg : Cfg) : ∀ (p : Path) (fs : List Node), syncNodes fs = true →
    startFields cfg p fs = (blockingFields cfg p fs, [])
  | p, [], _ => by simp [startFields, blockingFields]
  | p, n :: ns, h => by
    simp only [syncNodes, Bool.and_eq_true] at h
    simp [startFields, blockingFields, sField cfg p n h.1, sFields cfg p ns h.2]
private theorem sItems (cfg : Cfg) : ∀ (p : Path) (i : Nat) (cs : List Comp), syncItems cs = true →
    startItems cfg p i cs = (blockingItems cfg p i cs, [])
  | p, i, [], _ => by simp [startItems, blockingItems]
  | p, i, c :: cs, h => by
    simp only [syncItems, Bool.and_eq_true] at h
    simp [startItems, blockingItems, sComp cfg (p ++ [Seg.idx i]) c h.1, sItems cfg p (i + 1) cs h.2]
end

private theorem drain_nil (cfg : Cfg) (fuel : Nat) (sched : List Nat) : drain cfg fuel [] sched = ([], sched) := by
  cases fuel <;> simp [drain]

private theorem execSerial_sync (cfg : Cfg) : ∀ (fs : List Node) (sched : List Nat), syncNodes fs = true →
    execSerial cfg fs sched = blockingFields cfg [] fs
  | [], sched, _ => by simp [execSerial, blockingFields]
  | n :: ns, sched, h => by
    simp only [syncNodes, Bool.and_eq_true] at h
    simp [execSerial, blockingFields, sField cfg [] n h.1, drain_nil, execSerial_sync cfg ns sched h.2]

/-- when the runtime defers no resolver (`BlockingRuntime`, or only synchronous resolvers on
    asyncio), `Executor` produces exactly the trace of `BlockingExecutor`, event for event -/
theorem executor_eq_blocking_when_not_deferred (cfg : Cfg) (r : Request) (h : syncNodes r.fields = true) :
    execBody cfg r = blockingFields cfg [] r.fields := by
  unfold execBody
  split
  · rfl
  · split
    · exact execSerial_sync cfg _ _ h
    · simp [execParallel, sFields cfg [] r.fields h, drain_nil]

/-- ordering statement for ARBITRARY completion orders (proved below: `field_hooks_ordered`):
    the events of every resolved field occur in the required order as a subsequence of the
    trace, whatever the schedule. -/
def FieldOrderAllSchedules : Prop :=
  ∀ (cfg : Cfg) (r : Request) (n : Resolved), n ∈ nodesOfFields [] r.fields → (order cfg n).Sublist (execBody cfg r)

/-- the full statement on an instance with three deferred fields, for ALL 27 schedules of length 3 -/
example : ∀ a ∈ [0, 1, 2], ∀ b ∈ [0, 1, 2], ∀ c ∈ [0, 1, 2], ∀ n ∈ nodesOfFields [] demoFields,
    (order ⟨[0]⟩ n).Sublist (execBody ⟨[0]⟩ (demoReq [a, b, c])) := by decide +kernel

/-- **field order, sequential configurations** (stronger than `field_hooks_ordered` there):
    `BlockingExecutor`, and `Executor` whenever no resolver is deferred: the block of every
    resolved field occurs CONTIGUOUSLY in the trace: start hook, middlewares in (last one
    outermost), resolver invoked, returned / raised, middlewares out, end hook — nothing of
    another field in between. -/
theorem field_hooks_contiguous_sequential (cfg : Cfg) (r : Request)
    (h : r.blockingExecutor = true ∨ syncNodes r.fields = true)
    (n : Resolved) (hn : n ∈ nodesOfFields [] r.fields) :
    chunk cfg n <:+: execBody cfg r := by
  have : execBody cfg r = blockingFields cfg [] r.fields := by
    rcases h with h | h
    · simp [execBody, h]
    · exact executor_eq_blocking_when_not_deferred cfg r h
  rw [this, field_hooks_once_blocking, List.flatMap_def]
  exact List.infix_of_mem_flatten (List.mem_map_of_mem hn)


def taskNode (t : Task) : Resolved := ⟨t.path, t.o⟩
/-- the fields below an outstanding task (resolved once it completes) -/
def taskDesc (t : Task) : List Resolved :=
  match t.o with
  | .returns => nodesOfComp t.path t.c
  | _ => []

/-- what the start phase of a field emits for it: start hook, middlewares entered -/
def pre (cfg : Cfg) (n : Resolved) : List Ev :=
  [Ev.hook (.field n.path true)] ++ cfg.mws.reverse.map (fun i => Ev.mwEnter i n.path)
/-- what the completion of a field emits for it: invoked, returned / raised, end hook -/
def post (n : Resolved) : List Ev :=
  [Ev.call n.path, if n.o = .raises then Ev.raise n.path else Ev.ret n.path, Ev.hook (.field n.path false)]

private theorem order_eq (cfg : Cfg) (n : Resolved) (h : n.o ≠ .argError) : order cfg n = pre cfg n ++ post n := by
  simp [order, pre, post, h]

/-- state of a field after a start phase: fully done in `evs`, or started in `evs` and
    waiting as a task, or not started yet below a waiting task -/
def Covered (cfg : Cfg) (evs : List Ev) (ts : List Task) (n : Resolved) : Prop :=
  (order cfg n).Sublist evs
  ∨ (∃ t ∈ ts, (taskNode t) = n ∧ n.o ≠ .argError ∧ (pre cfg n).Sublist evs)
  ∨ (∃ t ∈ ts, n ∈ (taskDesc t))

private theorem Covered.mono {cfg : Cfg} {evs evs' : List Ev} {ts ts' : List Task} {n : Resolved}
    (h : Covered cfg evs ts n) (he : evs.Sublist evs') (ht : ∀ t ∈ ts, t ∈ ts') : Covered cfg evs' ts' n := by
  rcases h with h | ⟨t, ht1, h1, h2, h3⟩ | ⟨t, ht1, h1⟩
  · exact Or.inl (h.trans he)
  · exact Or.inr (Or.inl ⟨t, ht t ht1, h1, h2, h3.trans he⟩)
  · exact Or.inr (Or.inr ⟨t, ht t ht1, h1⟩)

private theorem order_sub_sync (cfg : Cfg) (p : Path) (o : OutKind) (h : o ≠ .argError) (rest : List Ev) :
    (order cfg ⟨p, o⟩).Sublist (fieldStart p ++ fieldResolver cfg false o p ++ fieldEnd p ++ rest) := by
  simp only [order, h, if_false, fieldStart, fieldResolver, middleware_once_in_order, resolverBody, fieldEnd,
    Bool.false_eq_true, List.append_assoc]
  refine (List.Sublist.refl _).append ((List.Sublist.refl _).append ((List.Sublist.refl _).append ?_))
  exact (List.sublist_append_left _ _).trans (List.sublist_append_right _ _)

private theorem pre_sub_deferred (cfg : Cfg) (p : Path) (o : OutKind) :
    (pre cfg ⟨p, o⟩).Sublist (fieldStart p ++ fieldResolver cfg true o p) := by
  simp only [pre, fieldStart, fieldResolver, middleware_once_in_order, submitOnly, if_true, List.append_assoc]
  exact (List.Sublist.refl _).append (List.sublist_append_left _ _)

mutual
private theorem cField (cfg : Cfg) : ∀ (path : Path) (nd : Node), ∀ n ∈ nodesOfNode path nd,
    Covered cfg (startField cfg path nd).1 (startField cfg path nd).2 n
  | path, .mk key d o c => by
    intro n hn
    cases o with
    | argError =>
      simp only [nodesOfNode, List.mem_cons, List.not_mem_nil, or_false] at hn
      subst hn
      exact Or.inl (by simp [order, startField, fieldStart, fieldEnd])
    | raises =>
      simp only [nodesOfNode, List.mem_cons, List.not_mem_nil, or_false] at hn
      subst hn
      cases d
      · refine Or.inl ?_
        have := order_sub_sync cfg (path ++ [Seg.key key]) .raises (by simp) []
        simpa [startField] using this
      · refine Or.inr (Or.inl ⟨⟨path ++ [Seg.key key], .raises, c⟩, by simp [startField], rfl, by simp, ?_⟩)
        simpa [startField] using pre_sub_deferred cfg (path ++ [Seg.key key]) .raises
    | returns =>
      simp only [nodesOfNode, List.mem_cons] at hn
      cases d
      · rcases hn with rfl | hn
        · refine Or.inl ?_
          simpa [startField] using order_sub_sync cfg (path ++ [Seg.key key]) .returns (by simp) _
        · have ih := cComp cfg (path ++ [Seg.key key]) c n hn
          refine ih.mono ?_ (fun t ht => by simpa [startField] using ht)
          simp only [startField, Bool.false_eq_true, if_false]
          exact List.sublist_append_right _ _
      · rcases hn with rfl | hn
        · refine Or.inr (Or.inl ⟨⟨path ++ [Seg.key key], .returns, c⟩, by simp [startField], rfl, by simp, ?_⟩)
          simpa [startField] using pre_sub_deferred cfg (path ++ [Seg.key key]) .returns
        · exact Or.inr (Or.inr ⟨⟨path ++ [Seg.key key], .returns, c⟩, by simp [startField], by simpa [taskDesc] using hn⟩)
private theorem cComp (cfg : Cfg) : ∀ (p : Path) (c : Comp), ∀ n ∈ nodesOfComp p c,
    Covered cfg (startComplete cfg p c).1 (startComplete cfg p c).2 n
  | p, .leaf => by intro n hn; simp [nodesOfComp] at hn
  | p, .null => by intro n hn; simp [nodesOfComp] at hn
  | p, .obj fs => by intro n hn; simpa [startComplete] using cFields cfg p fs n (by simpa [nodesOfComp] using hn)
  | p, .list items => by intro n hn; simpa [startComplete] using cItems cfg p 0 items n (by simpa [nodesOfComp] using hn)
private theorem cFields (cfg : Cfg) : ∀ (p : Path) (fs : List Node), ∀ n ∈ nodesOfFields p fs,
    Covered cfg (startFields cfg p fs).1 (startFields cfg p fs).2 n
  | p, [] => by intro n hn; simp [nodesOfFields] at hn
  | p, nd :: nds => by
    intro n hn
    simp only [nodesOfFields, List.mem_append] at hn
    simp only [startFields]
    rcases hn with hn | hn
    · exact (cField cfg p nd n hn).mono (List.sublist_append_left _ _) (fun t ht => List.mem_append_left _ ht)
    · exact (cFields cfg p nds n hn).mono (List.sublist_append_right _ _) (fun t ht => List.mem_append_right _ ht)
private theorem cItems (cfg : Cfg) : ∀ (p : Path) (i : Nat) (cs : List Comp), ∀ n ∈ nodesOfItems p i cs,
    Covered cfg (startItems cfg p i cs).1 (startItems cfg p i cs).2 n
  | p, i, [] => by intro n hn; simp [nodesOfItems] at hn
  | p, i, c :: cs => by
    intro n hn
    simp only [nodesOfItems, List.mem_append] at hn
    simp only [startItems]
    rcases hn with hn | hn
    · exact (cComp cfg (p ++ [Seg.idx i]) c n hn).mono (List.sublist_append_left _ _) (fun t ht => List.mem_append_left _ ht)
    · exact (cItems cfg p (i + 1) cs n hn).mono (List.sublist_append_right _ _) (fun t ht => List.mem_append_right _ ht)
end

private theorem covered_done (cfg : Cfg) (evs dtr : List Ev) (ts : List Task) (n : Resolved)
    (hc : Covered cfg evs ts n)
    (h1 : ∀ t ∈ ts, (post (taskNode t)).Sublist dtr)
    (h2 : ∀ t ∈ ts, ∀ m ∈ (taskDesc t), (order cfg m).Sublist dtr) :
    (order cfg n).Sublist (evs ++ dtr) := by
  rcases hc with h | ⟨t, ht, hn, ho, hp⟩ | ⟨t, ht, hn⟩
  · exact h.trans (List.sublist_append_left _ _)
  · rw [order_eq cfg n ho]
    exact hp.append (hn ▸ h1 t ht)
  · exact (h2 t ht n hn).trans (List.sublist_append_right _ _)

private theorem Drains.ordered {cfg : Cfg} {pool : List Task} {evs : List Ev} (h : Drains cfg pool evs) :
    (∀ t ∈ pool, (post (taskNode t)).Sublist evs) ∧ (∀ t ∈ pool, ∀ m ∈ (taskDesc t), (order cfg m).Sublist evs) := by
  induction h with
  | done => exact ⟨nofun, nofun⟩
  | @step pool rest T evs hp _ ih =>
    obtain ⟨ih1, ih2⟩ := ih
    have hpost : (post (taskNode T)).Sublist (runTask cfg T).1 := by
      obtain ⟨p, o, c⟩ := T
      cases o <;> simp [runTask, post, taskNode, resolverBody, fieldEnd]
    have hdesc : ∀ m ∈ (taskDesc T), (order cfg m).Sublist ((runTask cfg T).1 ++ evs) := by
      intro m hm
      obtain ⟨p, o, c⟩ := T
      cases o with
      | returns =>
        have hc := cComp cfg p c m (by simpa [taskDesc] using hm)
        have := covered_done cfg _ evs _ m hc
          (fun t ht => ih1 t (List.mem_append_right _ (by simpa [runTask] using ht)))
          (fun t ht => ih2 t (List.mem_append_right _ (by simpa [runTask] using ht)))
        simp only [runTask, List.append_assoc]
        exact this.trans ((List.sublist_append_right _ _).trans (List.sublist_append_right _ _))
      | _ => simp [taskDesc] at hm
    refine ⟨fun t ht => ?_, fun t ht m hm => ?_⟩
    · rcases List.mem_cons.1 (hp.mem_iff.1 ht) with rfl | h'
      · exact hpost.trans (List.sublist_append_left _ _)
      · exact (ih1 t (List.mem_append_left _ h')).trans (List.sublist_append_right _ _)
    · rcases List.mem_cons.1 (hp.mem_iff.1 ht) with rfl | h'
      · exact hdesc m hm
      · exact (ih2 t (List.mem_append_left _ h') m hm).trans (List.sublist_append_right _ _)

private theorem execSerial_order (cfg : Cfg) : ∀ (fs : List Node) (sched : List Nat), ∀ n ∈ nodesOfFields [] fs,
    (order cfg n).Sublist (execSerial cfg fs sched)
  | [], sched => by intro n hn; simp [nodesOfFields] at hn
  | nd :: nds, sched => by
    intro n hn
    simp only [nodesOfFields, List.mem_append] at hn
    simp only [execSerial]
    rcases hn with hn | hn
    · have hsz := (aField cfg (.call []) [] nd).2
      have hd := (drain_drains cfg (sizeNode nd) (startField cfg [] nd).2 sched hsz).ordered
      exact (covered_done cfg _ _ _ n (cField cfg [] nd n hn) hd.1 hd.2).trans (List.sublist_append_left _ _)
    · exact (execSerial_order cfg nds _ n hn).trans (List.sublist_append_right _ _)

/-- **field order, every executor, every runtime, EVERY completion order**: for every resolved
    field the events `start hook, middlewares entered (last one first), resolver invoked,
    returned / raised, end hook` (all with its path) occur in this order in the trace. Together
    with `field_hooks_once` (each of them occurs exactly once): the start hook fires before the
    resolver is invoked and the end hook after it returned or raised, whatever the schedule.
    NOTE: `order` lists start hook, middleware ENTRIES, call, return, end hook - it omits the
    middleware EXITS. For a deferred resolver the model (like the code:
    `apply_middlewares(runtime.wrap_callable(resolver))`) emits `field+ mw>… mw<… call ret field-`:
    every middleware has exited before the resolver runs (known finding N8, probe
    `middleware-deferred`); the NESTING `mw> call ret mw<` is proved for synchronous resolvers only
    (`field_hooks_contiguous_sequential`). -/
theorem field_hooks_ordered : FieldOrderAllSchedules := by
  intro cfg r n hn
  unfold execBody
  split
  · rw [field_hooks_once_blocking, List.flatMap_def]
    have hc : (order cfg n).Sublist (chunk cfg n) := by
      simp only [order, chunk, List.append_assoc]
      refine (List.Sublist.refl _).append ?_
      split
      · exact List.Sublist.refl _
      · simp only [List.append_assoc]
        refine (List.Sublist.refl _).append ((List.Sublist.refl _).append ?_)
        exact List.sublist_append_right _ _
    exact hc.trans (List.infix_of_mem_flatten (List.mem_map_of_mem hn)).sublist
  · split
    · exact execSerial_order cfg _ _ n hn
    · have hsz := (aFields cfg (.call []) [] r.fields).2
      have hd := (drain_drains cfg (sizeNodes r.fields) (startFields cfg [] r.fields).2 r.sched hsz).ordered
      exact covered_done cfg _ _ _ n (cFields cfg [] r.fields n hn) hd.1 hd.2


def Node.key : Node → String
  | .mk k _ _ _ => k

mutual
/-- sibling response keys are distinct in every selection set of the tree (what
    `collect_fields`, which groups by response key, guarantees) -/
def wfNode : Node → Bool
  | .mk _ _ _ c => wfComp c
def wfComp : Comp → Bool
  | .leaf => true
  | .null => true
  | .obj fs => decide ((keysOf fs).Nodup) && wfNodes fs
  | .list items => wfItems items
def wfNodes : List Node → Bool
  | [] => true
  | n :: ns => wfNode n && wfNodes ns
def wfItems : List Comp → Bool
  | [] => true
  | c :: cs => wfComp c && wfItems cs
def keysOf : List Node → List String
  | [] => []
  | n :: ns => Node.key n :: keysOf ns
end

private theorem prefix_same_len {q a b : Path} (ha : a <+: q) (hb : b <+: q) (hl : a.length = b.length) : a = b := by
  obtain ⟨x, rfl⟩ := ha
  obtain ⟨y, hy⟩ := hb
  exact ((List.append_inj hy.symm hl)).1

private theorem ext_ne {p q : Path} {s : Seg} (h : p ++ [s] <+: q) : q ≠ p := by
  intro e
  have := h.length_le
  simp [e] at this
  omega

private def pathsOf (l : List Resolved) : List Path := l.map (·.path)

mutual
private theorem uNode : ∀ (path : Path) (n : Node), wfNode n = true →
    (pathsOf (nodesOfNode path n)).Nodup ∧ ∀ q ∈ pathsOf (nodesOfNode path n), path ++ [.key (Node.key n)] <+: q
  | path, .mk key d o c, h => by
    have hc := uComp (path ++ [Seg.key key]) c (by simpa [wfNode] using h)
    cases o with
    | returns =>
      simp only [nodesOfNode, pathsOf, List.map_cons, List.nodup_cons, List.mem_cons, Node.key]
      refine ⟨⟨fun hm => ?_, hc.1⟩, fun q hq => ?_⟩
      · obtain ⟨s, hs⟩ := hc.2 _ hm
        exact ext_ne hs rfl
      · rcases hq with rfl | hq
        · exact List.prefix_refl _
        · obtain ⟨s, hs⟩ := hc.2 q hq
          exact (List.prefix_append _ _).trans hs
    | _ => simp [nodesOfNode, pathsOf, Node.key]
private theorem uComp : ∀ (p : Path) (c : Comp), wfComp c = true →
    (pathsOf (nodesOfComp p c)).Nodup ∧ ∀ q ∈ pathsOf (nodesOfComp p c), ∃ s, p ++ [s] <+: q
  | p, .leaf, _ => by simp [nodesOfComp, pathsOf]
  | p, .null, _ => by simp [nodesOfComp, pathsOf]
  | p, .obj fs, h => by
    simp only [wfComp, Bool.and_eq_true, decide_eq_true_eq] at h
    have := uFields p fs h.2 h.1
    exact ⟨by simpa [nodesOfComp] using this.1, fun q hq => by
      obtain ⟨k, _, hk⟩ := this.2 q (by simpa [nodesOfComp] using hq); exact ⟨_, hk⟩⟩
  | p, .list items, h => by
    have := uItems p 0 items (by simpa [wfComp] using h)
    exact ⟨by simpa [nodesOfComp] using this.1, fun q hq => by
      obtain ⟨j, _, hj⟩ := this.2 q (by simpa [nodesOfComp] using hq); exact ⟨_, hj⟩⟩
private theorem uFields : ∀ (p : Path) (fs : List Node), wfNodes fs = true → (keysOf fs).Nodup →
    (pathsOf (nodesOfFields p fs)).Nodup ∧ ∀ q ∈ pathsOf (nodesOfFields p fs), ∃ k ∈ keysOf fs, p ++ [.key k] <+: q
  | p, [], _, _ => by simp [nodesOfFields, pathsOf]
  | p, n :: ns, h, hk => by
    simp only [wfNodes, Bool.and_eq_true] at h
    simp only [keysOf, List.nodup_cons] at hk
    have h1 := uNode p n h.1
    have h2 := uFields p ns h.2 hk.2
    simp only [nodesOfFields, pathsOf, List.map_append] at h1 h2 ⊢
    refine ⟨List.nodup_append.2 ⟨h1.1, h2.1, fun a ha b hb e => ?_⟩, fun q hq => ?_⟩
    · subst e
      obtain ⟨k, hk', hkp⟩ := h2.2 a hb
      have := prefix_same_len (h1.2 a ha) hkp (by simp)
      simp at this
      exact hk.1 (this ▸ hk')
    · rcases List.mem_append.1 hq with hq | hq
      · exact ⟨_, by simp [keysOf], h1.2 q hq⟩
      · obtain ⟨k, hk', hkp⟩ := h2.2 q hq
        exact ⟨k, by simp [keysOf, hk'], hkp⟩
private theorem uItems : ∀ (p : Path) (i : Nat) (cs : List Comp), wfItems cs = true →
    (pathsOf (nodesOfItems p i cs)).Nodup ∧ ∀ q ∈ pathsOf (nodesOfItems p i cs), ∃ j, i ≤ j ∧ p ++ [.idx j] <+: q
  | p, i, [], _ => by simp [nodesOfItems, pathsOf]
  | p, i, c :: cs, h => by
    simp only [wfItems, Bool.and_eq_true] at h
    have h1 := uComp (p ++ [Seg.idx i]) c h.1
    have h2 := uItems p (i + 1) cs h.2
    simp only [nodesOfItems, pathsOf, List.map_append] at h1 h2 ⊢
    have hpre : ∀ q ∈ List.map (fun x => x.path) (nodesOfComp (p ++ [Seg.idx i]) c), p ++ [Seg.idx i] <+: q := by
      intro q hq
      obtain ⟨s, hs⟩ := h1.2 q hq
      exact (List.prefix_append _ _).trans hs
    refine ⟨List.nodup_append.2 ⟨h1.1, h2.1, fun a ha b hb e => ?_⟩, fun q hq => ?_⟩
    · subst e
      obtain ⟨j, hj, hjp⟩ := h2.2 a hb
      have := prefix_same_len (hpre a ha) hjp (by simp)
      simp at this
      omega
    · rcases List.mem_append.1 hq with hq | hq
      · exact ⟨i, Nat.le_refl _, hpre q hq⟩
      · obtain ⟨j, hj, hjp⟩ := h2.2 q hq
        exact ⟨j, by omega, hjp⟩
end

/-- **a response path identifies a resolved field**: when sibling response keys are distinct
    (everywhere in the tree), no two resolved fields share a path — so "exactly once per field"
    in `field_hooks_once` is "exactly once per path". -/
theorem field_paths_unique (fs : List Node) (hk : (keysOf fs).Nodup) (hw : wfNodes fs = true) :
    ((nodesOfFields [] fs).map (·.path)).Nodup :=
  (uFields [] fs hw hk).1

example : (keysOf demoFields).Nodup ∧ wfNodes demoFields = true := by decide +kernel


private theorem sum_indicator (p : Path) : ∀ (l : List Resolved),
    (l.map (fun m => if m.path = p then 1 else 0)).sum = List.count p (l.map (·.path))
  | [] => rfl
  | m :: l => by
    by_cases h : m.path = p <;> simp [h, sum_indicator p l, List.count_cons] <;> omega

private theorem count_hook_chunk (cfg : Cfg) (p : Path) (b : Bool) (m : Resolved) :
    List.count (Ev.hook (.field p b)) (chunk cfg m) = if m.path = p then 1 else 0 := by
  have hmid : ∀ (mid : List Ev), (∀ e ∈ mid, ∀ h, e ≠ Ev.hook h) →
      List.count (Ev.hook (.field p b)) ([Ev.hook (.field m.path true)] ++ mid ++ [Ev.hook (.field m.path false)])
        = if m.path = p then 1 else 0 := by
    intro mid hm
    have h0 : List.count (Ev.hook (.field p b)) mid = 0 := List.count_eq_zero.2 (fun hin => hm _ hin _ rfl)
    by_cases hp : m.path = p <;> cases b <;> simp [List.count_append, List.count_cons, h0, hp]
  unfold chunk
  apply hmid
  intro e he h
  split at he
  · simp at he
  · simp only [List.mem_append, List.mem_map, List.mem_cons, List.not_mem_nil, or_false] at he
    rcases he with (⟨i, _, rfl⟩ | rfl | rfl) | ⟨i, _, rfl⟩ <;> first | (intro e; cases e) | (split <;> intro e <;> cases e)

/-- When sibling keys are distinct, for every resolved field and
    whatever the executor, runtime and completion order: the start hook with its path fires
    exactly once in the whole execution, and so does the end hook with its path. -/
theorem field_hooks_exactly_once_per_path (cfg : Cfg) (r : Request)
    (hk : (keysOf r.fields).Nodup) (hw : wfNodes r.fields = true)
    (n : Resolved) (hn : n ∈ nodesOfFields [] r.fields) (b : Bool) :
    List.count (Ev.hook (.field n.path b)) (execBody cfg r) = 1 := by
  rw [(field_hooks_once cfg r).count_eq, List.count_flatMap]
  have : (List.count (Ev.hook (.field n.path b)) ∘ chunk cfg) = fun m => if m.path = n.path then 1 else 0 := by
    funext m; exact count_hook_chunk cfg n.path b m
  rw [this, sum_indicator]
  rw [(field_paths_unique r.fields hk hw).count, if_pos (List.mem_map_of_mem hn)]

end PyGql.Props.C16
