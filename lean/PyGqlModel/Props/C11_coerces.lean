/-
  C11 — what the shared coercion relation `CoercesTo` (Spec/SdlRules.lean; = the model's `valueFromAst` at the builder's
  fuel) says on the LEAF cases, as fuel-free clauses that can be read against the GraphQL specification's input coercion:
  `null` (nullable / non-null), `Int` (32-bit range), `String`, an enum defined in the document.  The default-value
  clauses of `DeclaredSpec` (`DeclaresArg.default`) and of the rules (`ArgOK`) are stated through `CoercesTo`; list /
  input-object / custom-scalar literals and the link to C07's declarative coercion remain behind the shared function.
-/
import PyGqlModel.Props.C11_declared


namespace PyGql.Props.C11
open PyGql PyGql.Sdl PyGql.SdlSpec

theorem coercesTo_step (env : Env) (ty : Ty) (l : Lit) (v : J) : CoercesTo env ty l v ↔ valueFromAst env (199+1) l ty = some (some v) := Iff.rfl

theorem coerces_null_named (env : Env) (n : String) : CoercesTo env (.named n) .null .null := rfl

theorem coerces_null_list (env : Env) (t : Ty) : CoercesTo env (.list t) .null .null := rfl

theorem not_coerces_null_nonNull (env : Env) (t : Ty) (v : J) : ¬ CoercesTo env (.nonNull t) .null v := by
  intro h
  cases h

/-- a literal other than `null` is a constant of a specified scalar exactly when its `parse_literal` accepts it -/
theorem coerces_builtin (env : Env) (n : String) (lit : Lit) (j : J) (hb : builtinScalars.contains n = true) (hl : lit ≠ .null) :
    CoercesTo env (.named n) lit j ↔ scalarLiteral n false lit = some j := by
  rw [coercesTo_step, valueFromAst, if_pos hb]
  · exact Option.some_inj
  · exact hl

theorem coerces_int_iff (env : Env) (v f : String) (j : J) :
    CoercesTo env (.named "Int") (.int v f) j ↔ ∃ n, v.toInt? = some n ∧ MIN_INT ≤ n ∧ n ≤ MAX_INT ∧ j = .num n := by
  rw [coerces_builtin env _ _ j (by decide +kernel) Lit.noConfusion]
  show (match v.toInt? with
    | some n => if MIN_INT ≤ n && n ≤ MAX_INT then some (J.num n) else none
    | none => none) = some j ↔ _
  cases v.toInt? with
  | none => exact iff_of_false (fun h => nomatch h) (fun ⟨_, h, _⟩ => nomatch h)
  | some n =>
    simp only [Option.ite_none_right_eq_some, Bool.and_eq_true, decide_eq_true_eq, Option.some.injEq]
    constructor
    · exact fun ⟨hr, e⟩ => ⟨n, rfl, hr.1, hr.2, e.symm⟩
    · rintro ⟨m, hm, h1, h2, e⟩
      cases hm
      exact ⟨⟨h1, h2⟩, e.symm⟩

theorem coerces_string_iff (env : Env) (s : String) (j : J) : CoercesTo env (.named "String") (.str s) j ↔ j = .str s := by
  rw [coerces_builtin env _ _ j (by decide +kernel) Lit.noConfusion]
  show some (J.str s) = some j ↔ _
  rw [Option.some.injEq]
  exact eq_comm

theorem not_coerces_int_as_string (env : Env) (v f : String) (j : J) : ¬ CoercesTo env (.named "String") (.int v f) j := by
  rw [coerces_builtin env _ _ j (by decide +kernel) Lit.noConfusion]
  intro h
  cases h

theorem coerces_enum_iff (env : Env) (n : String) (d : TypeDef) (v : String) (j : J)
    (hb : builtinScalars.contains n = false) (ha : env.findAdditional n = none) (hd : env.findDef n = some d) (hk : d.kind = .enum) :
    CoercesTo env (.named n) (.enum v) j ↔ v ∈ d.values.map (·.name) ∧ j = .str v := by
  rw [coercesTo_step]
  simp only [valueFromAst, hb, Bool.false_eq_true, if_false, ha, hd, hk, pure]
  by_cases hm : d.values.any (·.name == v) = true
  · simp only [hm, if_true]
    have : v ∈ d.values.map (·.name) := by
      obtain ⟨x, hx, hxv⟩ := List.any_eq_true.mp hm
      exact List.mem_map.mpr ⟨x, hx, by simpa using hxv⟩
    constructor
    · intro h; cases h; exact ⟨this, rfl⟩
    · rintro ⟨_, rfl⟩; rfl
  · simp only [hm]
    constructor
    · intro h; cases h
    · rintro ⟨hmem, _⟩
      obtain ⟨x, hx, hxv⟩ := List.mem_map.mp hmem
      exact absurd (List.any_eq_true.mpr ⟨x, hx, by simp [hxv]⟩) hm

/-! ### non-vacuity of `coerces_enum_iff` -/

def enumE : TypeDef := { kind := .enum, name := "E", values := [{ name := "A" }, { name := "B" }] }

example : CoercesTo (Env.of [enumE]) (.named "E") (.enum "B") (.str "B") :=
  (coerces_enum_iff (Env.of [enumE]) "E" enumE "B" _ (by decide +kernel) rfl rfl rfl).mpr ⟨by decide +kernel, rfl⟩

example : ∀ j, ¬ CoercesTo (Env.of [enumE]) (.named "E") (.enum "C") j := fun j h =>
  absurd ((coerces_enum_iff (Env.of [enumE]) "E" enumE "C" j (by decide +kernel) rfl rfl rfl).mp h).1 (by decide +kernel)

end PyGql.Props.C11
