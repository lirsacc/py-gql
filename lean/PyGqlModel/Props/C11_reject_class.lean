/-
  C11 — the ERROR CLASS of the member rules (sharpens `Rejected` of Props/C11_reject_complete.lean for the rules that are
  checked in the first pass, `build_schema_ignoring_extensions`): a type / directive definition that breaks one of its
  rules (`TypeDefOK` / `DirDefOK`, Spec/SdlRules.lean) makes `build` fail with `SDLError` — or with the RecursionError of
  finding S1b, which the model raises before any definition is built — whatever the rest of the document, the flags and
  the supplied types.
-/
import PyGqlModel.Props.C11_reject_complete


namespace PyGql.Props.C11
open PyGql PyGql.Sdl PyGql.SdlSpec

/-- `SDLError`, or the RecursionError of finding S1b -/
def SdlOrRec (e : Err) : Prop := e = .lib .sdl ∨ e = .internal "RecursionError"

theorem collect_fails (doc : Doc) : FailsWith SdlOrRec (collectDefinitions doc) :=
  fun e h => Or.inl (collect_rejects_sdl doc e h)

theorem buildDirectives_fails (env : Env) (l : List DirDef) : FailsWith SdlOrRec (l.mapM (buildDirective env)) :=
  .mapM (buildDirective_fails (Or.inl rfl) (Or.inr rfl) env) l

theorem buildTypes_fails (env : Env) (l : List TypeDef) : FailsWith SdlOrRec (l.mapM (buildType env)) :=
  .mapM (buildType_fails (Or.inl rfl) (Or.inr rfl) env) l

/-- the first pass up to the member builders: if a directive definition or a type definition does not build, `build` fails
    with `SDLError` or the RecursionError of S1b — whatever comes later in the document, the flags, the supplied types -/
theorem build_member_failure_class (doc : Doc) (ie : Bool) (add : List TypeD)
    (h : (∃ d ∈ dirDefs doc, ¬ Ok (buildDirective (Env.of (typeDefs doc) add) d)) ∨
         (∃ t ∈ typeDefs doc, ¬ Ok (buildType (Env.of (typeDefs doc) add) t))) :
    ∃ e, build doc ie add = .error e ∧ SdlOrRec e := by
  show FailsIn SdlOrRec (build doc ie add)
  unfold build buildIgnoringExtensions
  refine .bind_left _ (.bind (collect_fails doc) fun c hc => ?_)
  obtain ⟨hT, hD⟩ := collect_exact doc c hc
  unfold buildCollected
  rw [hT, hD]
  -- the guard against re-entrant thunks, then the directives, then the types: the failing member stops the pass there
  refine .bind (.failIf (Or.inr rfl)) fun _ _ => ?_
  rcases h with ⟨d, hd, hn⟩ | ⟨t, ht, hn⟩
  · exact .bind_left _ (.of_not_ok (buildDirectives_fails _ _) fun ⟨_, hdirs⟩ => hn (mapM_all_ok _ _ _ hdirs d hd))
  · exact .bind (buildDirectives_fails _ _) fun _ _ =>
      .bind_left _ (.of_not_ok (buildTypes_fails _ _) fun ⟨_, hts⟩ => hn (mapM_all_ok _ _ _ hts t ht))

/-- **the class of the member rules**: a type definition that breaks one of its rules makes `build` fail with `SDLError`
    (or the RecursionError of S1b), never with another class — sharpens `build_rejects_invalid_type_def`. -/
theorem build_rejects_invalid_type_def_class (doc : Doc) (ie : Bool) (add : List TypeD) (t : TypeDef) (ht : t ∈ typeDefs doc)
    (hadd : t.name ∉ add.map (·.name)) (h : ¬ TypeDefOK (Env.of (typeDefs doc) add) t) :
    ∃ e, build doc ie add = .error e ∧ SdlOrRec e := by
  by_cases hN : isDefaultName t.name = true
  · exact ⟨_, build_rejects_specified_name doc ie add t ht hN, Or.inl rfl⟩
  refine build_member_failure_class doc ie add (Or.inr ⟨t, ht, fun ⟨o, ho⟩ => h ?_⟩)
  obtain ⟨bt, hbt, _⟩ := buildType_ok_inv _ t o (Bool.eq_false_iff.mpr hN) (findAdditional_none (typeDefs doc) add t.name hadd) ho
  exact (buildTypeDef_ok_iff _ t).mp ⟨bt, hbt⟩

theorem build_rejects_invalid_directive_def_class (doc : Doc) (ie : Bool) (add : List TypeD) (d : DirDef) (hd : d ∈ dirDefs doc)
    (h : ¬ DirDefOK (Env.of (typeDefs doc) add) d) : ∃ e, build doc ie add = .error e ∧ SdlOrRec e :=
  build_member_failure_class doc ie add (Or.inl ⟨d, hd, fun hok => h ((buildDirective_ok_iff _ d).mp hok)⟩)

example : ∃ e, build unknownRefDoc false [] = .error e ∧ SdlOrRec e :=
  build_rejects_invalid_type_def_class unknownRefDoc false [] unknownRefType (List.Mem.head _) (by simp) (by
    intro ok
    have ok' : (∀ f ∈ unknownRefType.fields, FieldOK (Env.of (typeDefs unknownRefDoc) []) f) ∧ _ := ok
    rcases (ok'.1 _ (List.Mem.head _)).1 with h1 | ⟨t, h1⟩ | ⟨d, h1⟩
    · revert h1; decide +kernel
    · cases h1
    · have hnone : (Env.of (typeDefs unknownRefDoc) []).findDef (Ty.named "Nope").base = none := by decide +kernel
      rw [show ({ name := "a", type := Ty.named "Nope" } : FieldDef).type.base = (Ty.named "Nope").base from rfl, hnone] at h1
      cases h1)

theorem addOps_sdl (res : String → Bool) : ∀ (ops : List (String × String)) (r : Roots) (e : Err),
    addOps res (.lib .sdl) r ops = .error e → e = .lib .sdl
  | [], r => FailsWith.pure (P := (· = .lib .sdl)) r
  | (op, ty) :: os, r => by
    show FailsWith (· = .lib .sdl) _
    rw [addOps]
    exact .ite (.error rfl) (.ite (.error rfl) (addOps_sdl res os _))

/-- **a `schema` block that names an unknown type: `SDLError`** (or the RecursionError of S1b) — sharpens
    `build_rejects_unknown_root` -/
theorem build_rejects_unknown_root_class (doc : Doc) (ie : Bool) (add : List TypeD) (sd : SchemaDef) (hsd : (schemaDefs doc).head? = some sd)
    (o : String × String) (ho : o ∈ sd.ops) (h : ¬ KnownIn (typeDefs doc) add o.2) : ∃ e, build doc ie add = .error e ∧ SdlOrRec e := by
  show FailsIn SdlOrRec (build doc ie add)
  unfold build buildIgnoringExtensions
  refine .bind_left _ (.bind (collect_fails doc) fun c hc => ?_)
  obtain ⟨hT, hD⟩ := collect_exact doc c hc
  obtain ⟨hr1, hr2, hr3, hr4⟩ := collect_ok_rules doc c hc
  obtain ⟨c', hc', _, _, hS⟩ := collect_ok doc hr1 hr2 hr3 hr4
  cases hc.symm.trans hc'
  unfold buildCollected
  rw [hS, hsd]
  -- every step up to the roots fails with these classes only, and the roots cannot be built
  refine .bind (.failIf (Or.inr rfl)) fun _ _ => .bind (buildDirectives_fails _ _) fun _ _ => .bind (buildTypes_fails _ _) fun _ _ =>
    .bind (.failIf (Or.inl rfl)) fun _ _ => .bind_left _ (.of_not_ok (fun e he => Or.inl (addOps_sdl _ _ _ e he)) fun ⟨_, hro⟩ => h ?_)
  have := addOps_ok_resolves _ _ _ _ _ hro o ho
  rw [hT] at this
  exact (known_of_iff _ _ _).mp ((resolves_iff _ _).mp this)

example : ∃ e, build unknownRootDoc false [] = .error e ∧ SdlOrRec e :=
  build_rejects_unknown_root_class unknownRootDoc false [] { ops := [("query", "Nope")] } rfl ("query", "Nope") (List.Mem.head _)
    (by unfold KnownIn; decide +kernel)

end PyGql.Props.C11
