/-
  C13 — what the default-value rule MEANS, independently of the model's function: `Conforms s ty v`, a declarative
  relation "the (coerced, Python-side) default value `v` is a legal value of type `ty`" written from the type system
  (non-null: not None; list: a list of conforming items; Int: a 32-bit integer; enum: one of the enum's own values;
  input object: a mapping whose entries conform to the fields they name; `None` conforms to every nullable type;
  custom scalars and unknown types are not examined).

  `default_error_sound`: whenever `_default_value_error` (`defaultBad`) reports a default, the default does NOT
  conform - at every fuel, so in particular for the `DefaultOK` clause of `validate_iff` / `violation_iff`
  (`reported_default_does_not_conform`); and a conforming default satisfies `DefaultOK` (`defaultOK_of_conforms`).
  The converse - every non-conforming default is reported - holds within the fuel of the model (`Fits`: 64 levels of
  wrappers / items / mapping entries): `default_error_complete`, `defaultOK_iff_conforms`. Without the bound it is
  `DefaultExact` below, which is NOT a theorem of the model (the real `_default_value_error` is bounded by Python's
  recursion limit instead).
-/
import PyGqlModel.SchemaValid
import PyGqlModel.Spec.SchemaValidSpec

set_option linter.unusedSimpArgs false

namespace PyGql.Props.C13
open PyGql PyGql.SchemaValid PyGql.SchemaValidSpec

inductive Conforms (s : SchemaD) : Ty → J → Prop
  | nonNull {t : Ty} {v : J} : isNone v = false → Conforms s t v → Conforms s (.nonNull t) v
  | nullList {t : Ty} : Conforms s (.list t) .null
  | nullNamed {n : String} : Conforms s (.named n) .null
  | list {t : Ty} {xs : List J} : (∀ x ∈ xs, Conforms s t x) → Conforms s (.list t) (.arr xs)
  | unknown {n : String} {v : J} : s.findType n = none → Conforms s (.named n) v
  | scalar {n : String} {td : TypeD} {v : J} : s.findType n = some td → td.kind = .scalar →
      (td.builtin && n == "Int") = false → Conforms s (.named n) v
  | int {n : String} {td : TypeD} {i : Int} : s.findType n = some td → td.kind = .scalar →
      -2147483648 ≤ i → i ≤ 2147483647 → Conforms s (.named n) (.num i)
  | enum {n : String} {td : TypeD} {v : J} : s.findType n = some td → td.kind = .enum →
      (∃ ev ∈ td.values, (ev.value == v) = true) → Conforms s (.named n) v
  | input {n : String} {td : TypeD} {kvs : List (String × J)} : s.findType n = some td → td.kind = .input →
      (∀ f ∈ td.inputFields, ∀ x, lookupKey kvs f.pythonName = some x → Conforms s f.type x) →
      Conforms s (.named n) (.obj kvs)
  | other {n : String} {td : TypeD} {v : J} : s.findType n = some td → td.kind ≠ .scalar → td.kind ≠ .enum →
      td.kind ≠ .input → Conforms s (.named n) v

/-- without fuel nothing is reported, so a claim "never reported" only has to be shown for positive fuel -/
private theorem notBad_of_succ {s : SchemaD} {ty : Ty} {v : J} (h : ∀ n, defaultBad s (n + 1) ty v = false) :
    ∀ n, defaultBad s n ty v = false
  | 0 => rfl
  | n + 1 => h n

/-- **a reported default does not conform**: `defaultBad` never flags a conforming value, whatever the fuel -/
theorem default_error_sound (s : SchemaD) {ty : Ty} {v : J} (h : Conforms s ty v) :
    ∀ n, defaultBad s n ty v = false := by
  induction h with
  | nonNull hn _ ih => exact notBad_of_succ fun n => by simp only [defaultBad, hn]; exact ih n
  | nullList => exact notBad_of_succ fun n => by simp only [defaultBad]
  | nullNamed => exact notBad_of_succ fun n => by simp only [defaultBad]
  | list _ ih =>
    refine notBad_of_succ fun n => ?_
    simp only [defaultBad]
    rw [List.any_eq_false]
    intro x hx; simp [ih x hx n]
  | @unknown nm v hf => exact notBad_of_succ fun n => by cases v <;> simp only [defaultBad, hf]
  | @scalar nm td v hf hk hb => exact notBad_of_succ fun n => by cases v <;> simp [defaultBad, hf, hk, hb]
  | int hf hk h1 h2 => exact notBad_of_succ fun n => by simp [defaultBad, hf, hk, h1, h2]
  | @enum nm td v hf hk hex =>
    refine notBad_of_succ fun n => ?_
    obtain ⟨ev, hev, he⟩ := hex
    have hany : td.values.any (fun x => x.value == v) = true := List.any_eq_true.mpr ⟨ev, hev, he⟩
    cases v <;> simp [defaultBad, hf, hk, hany]
  | input hf hk _ ih =>
    refine notBad_of_succ fun n => ?_
    simp only [defaultBad, hf, hk]
    simp only [show (Kind.input == Kind.scalar) = false from rfl, show (Kind.input == Kind.enum) = false from rfl,
      show (Kind.input == Kind.input) = true from rfl, Bool.false_eq_true, if_false, if_true]
    rw [List.any_eq_false]
    intro f hf'
    cases hl : lookupKey _ f.pythonName with
    | none => simp
    | some x => simp [ih f hf' x hl n]
  | @other nm td v hf h1 h2 h3 =>
    refine notBad_of_succ fun n => ?_
    have e1 : (td.kind == Kind.scalar) = false := by simpa using h1
    have e2 : (td.kind == Kind.enum) = false := by simpa using h2
    have e3 : (td.kind == Kind.input) = false := by simpa using h3
    cases v <;> simp [defaultBad, hf, e1, e2, e3]

/-- a default reported by the rule (clause `DefaultOK` of `validate_iff`, errors `argDefault` / `dirArgDefault` /
    `inputFieldDefault` of `violation_iff`) is a default that does not conform to its type -/
theorem reported_default_does_not_conform (s : SchemaD) (a : ArgD)
    (h : defaultBad s defaultFuel a.type a.default = true) : ¬ Conforms s a.type a.default := fun hc => by
  rw [default_error_sound s hc defaultFuel] at h; cases h

/-- a conforming default passes the rule -/
theorem defaultOK_of_conforms (s : SchemaD) (a : ArgD) (h : a.hasDefault = true → Conforms s a.type a.default) :
    DefaultOK s a := fun hd => default_error_sound s (h hd) defaultFuel

/-- the converse WITHOUT the fuel bound (kept visible, not proved: beyond 64 levels the model stops looking; the real
    `_default_value_error` has no such bound other than Python's recursion limit). Within the bound:
    `defaultOK_iff_conforms`. -/
def DefaultExact : Prop :=
  ∀ (s : SchemaD) (a : ArgD), DefaultOK s a → a.hasDefault = true → Conforms s a.type a.default

/-- the fuel `n` suffices for `defaultBad` to look at every level of `v` against `ty` (structural in the fuel: type
    wrappers, list items and the entries of input object mappings each use one unit) -/
def Fits (s : SchemaD) : Nat → Ty → J → Prop
  | 0, _, _ => False
  | n+1, .nonNull t, v => Fits s n t v
  | n+1, .list t, .arr xs => ∀ x ∈ xs, Fits s n t x
  | n+1, .named nm, .obj kvs =>
    ∀ td, s.findType nm = some td → td.kind = .input →
      ∀ f ∈ td.inputFields, ∀ x, lookupKey kvs f.pythonName = some x → Fits s n f.type x
  | _+1, _, _ => True

/-- **the converse, within the fuel**: a default the rule does not report conforms to its type -/
theorem default_error_complete (s : SchemaD) : ∀ (n : Nat) (ty : Ty) (v : J), Fits s n ty v →
    defaultBad s n ty v = false → Conforms s ty v := by
  intro n
  induction n with
  | zero => intro ty v hf; simp [Fits] at hf
  | succ n ih =>
    intro ty v hf hb
    cases ty with
    | nonNull t =>
      simp only [defaultBad] at hb
      cases hn : isNone v with
      | true => rw [hn] at hb; simp at hb
      | false =>
        rw [hn] at hb; simp only [Bool.false_eq_true, if_false] at hb
        exact .nonNull hn (ih t v (by simpa [Fits] using hf) hb)
    | list t =>
      cases v with
      | null => exact .nullList
      | arr xs =>
        simp only [defaultBad] at hb
        rw [List.any_eq_false] at hb
        have hf' : ∀ x ∈ xs, Fits s n t x := by simpa [Fits] using hf
        exact .list fun x hx => ih t x (hf' x hx) (by simpa using hb x hx)
      | _ => simp [defaultBad] at hb
    | named nm =>
      cases hft : s.findType nm with
      | none => exact .unknown hft
      | some td =>
        cases hk : td.kind with
        | scalar =>
          cases hbi : (td.builtin && nm == "Int") with
          | false => exact .scalar hft hk hbi
          | true =>
            cases v with
            | null => exact .nullNamed
            | num i =>
              simp [defaultBad, hft, hk, hbi] at hb
              exact .int hft hk hb.1 hb.2
            | _ => simp [defaultBad, hft, hk, hbi] at hb
        | enum =>
          cases v with
          | null => exact .nullNamed
          | _ =>
            simp [defaultBad, hft, hk] at hb
            obtain ⟨ev, hev, he⟩ := hb
            exact .enum hft hk ⟨ev, hev, by simpa using he⟩
        | input =>
          cases v with
          | null => exact .nullNamed
          | obj kvs =>
            simp only [defaultBad, hft, hk] at hb
            simp only [show (Kind.input == Kind.scalar) = false from rfl, show (Kind.input == Kind.enum) = false from rfl,
              show (Kind.input == Kind.input) = true from rfl, Bool.false_eq_true, if_false, if_true] at hb
            rw [List.any_eq_false] at hb
            have hf' : ∀ td', s.findType nm = some td' → td'.kind = .input →
                ∀ f ∈ td'.inputFields, ∀ x, lookupKey kvs f.pythonName = some x → Fits s n f.type x := by
              simpa [Fits] using hf
            refine .input hft hk fun f hfm x hl => ih f.type x (hf' td hft hk f hfm x hl) ?_
            have := hb f hfm
            rw [hl] at this
            simpa using this
          | _ => simp [defaultBad, hft, hk] at hb
        | _ => exact .other hft (by rw [hk]; decide) (by rw [hk]; decide) (by rw [hk]; decide)

/-- **the default rule is exact within the fuel**: for a default whose nesting the model's fuel covers, `DefaultOK`
    (what `validate_iff` says the validator checks) ⇔ the default conforms to its type -/
theorem defaultOK_iff_conforms (s : SchemaD) (a : ArgD) (hfit : Fits s defaultFuel a.type a.default) :
    DefaultOK s a ↔ (a.hasDefault = true → Conforms s a.type a.default) :=
  ⟨fun h hd => default_error_complete s defaultFuel a.type a.default hfit (h hd), defaultOK_of_conforms s a⟩

/-! non-vacuity: `[Int!]` takes `[1, 2]`, not `[1, null]`, and the rule says so -/
private def dS : SchemaD := { types := [{ kind := .scalar, name := "Int", builtin := true }] }

example : Conforms dS (.list (.nonNull (.named "Int"))) (.arr [.num 1, .num 2]) :=
  .list fun x hx => by
    simp only [List.mem_cons, List.mem_singleton, List.not_mem_nil, or_false] at hx
    rcases hx with rfl | rfl
    · exact .nonNull rfl (.int (td := { kind := .scalar, name := "Int", builtin := true }) rfl rfl (by decide) (by decide))
    · exact .nonNull rfl (.int (td := { kind := .scalar, name := "Int", builtin := true }) rfl rfl (by decide) (by decide))

example : ¬ Conforms dS (.list (.nonNull (.named "Int"))) (.arr [.num 1, .null]) :=
  reported_default_does_not_conform dS { name := "a", type := .list (.nonNull (.named "Int")), default := .arr [.num 1, .null] }
    (by decide +kernel)

/-- the fuel covers the example (hypothesis of `defaultOK_iff_conforms`) -/
example : Fits dS defaultFuel (.list (.nonNull (.named "Int"))) (.arr [.num 1, .null]) := by
  simp [Fits, defaultFuel]

end PyGql.Props.C13
