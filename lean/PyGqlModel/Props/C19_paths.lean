/-
  C19 — `selected_fields` (the mechanism the property anchors name; public API, also
  `ResolveInfo.selected_fields`) under a theorem of its own.

  `selected_fields_complete`: on a valid document every selected field path of the field's selection set —
  through inline fragments and named fragments, `@skip/@include` honoured, at most `maxdepth` components
  (`0`/`None` = unbounded), matching `pattern` — is listed, and nothing is raised. Aliases of the same
  field and several fields under one response key included. Model = `_selected_paths` AFTER
  proposed_fixes/C19-Q1sf.patch; the unchanged code (descends into `fields[0]` only) refutes it
  (`selected_fields_orig_incomplete`).

  Validity is used through: `acyclic`, `VarsBound`-style boundness, and `keysL nm` — a response key
  determines the field name (what OverlappingFieldsCanBeMerged guarantees inside one merged scope; taken
  here in its global form: one `nm` for the selection and all fragments).
-/
import PyGqlModel.Props.C19_orig
import PyGqlModel.Lemmas.DepthPaths

namespace PyGql.Props.C19
open PyGql.Depth PyGql.DepthSpec PyGql.Depth.Lemmas

private theorem pathsLoop_total (vars : Vars) (w : String → Nat) (K md : Nat) (pat : List String → Bool)
    (path : List String) (rec : List Sel → List String → Except Err (List (List String)))
    (hrec : ∀ ss q, potL w ss + 1 ≤ K → boundL vars ss = true → ∃ out, rec ss q = .ok out) :
    ∀ (G : Grouped) (acc : List (List String)), GInv (FldOk vars w K) G →
      ∃ out, pathsLoop rec md pat path acc G = .ok out := by
  intro G
  induction G with
  | nil => intro acc _; exact ⟨acc, rfl⟩
  | cons kv rest ih =>
    intro acc hg
    obtain ⟨k, fields⟩ := kv
    have hhead := hg (k, fields) (by simp)
    have hrest : GInv (FldOk vars w K) rest := fun kv h => hg kv (by simp [h])
    cases fields with
    | nil => exact absurd rfl hhead.1
    | cons child more =>
      rw [pathsLoop_cons]
      by_cases hd : descend md path.length = true
      · rw [if_pos hd]
        have ⟨hp, hb⟩ := subs_ok vars w K (child :: more) hhead.1 hhead.2
        obtain ⟨sub, hs⟩ := hrec _ (path ++ [child.name]) hp hb
        rw [hs]
        exact ih _ hrest
      · rw [if_neg hd]
        exact ih _ hrest

private theorem selectedPaths_total (frags : List Frag) (vars : Vars) (w : String → Nat) (hc : Consistent frags w)
    (hfb : ∀ f ∈ frags, boundL vars f.sels = true) (md : Nat) (pat : List String → Bool) :
    ∀ (K : Nat) (sels : List Sel) (path : List String), potL w sels ≤ K → boundL vars sels = true →
      ∃ out, selectedPaths (K + 1) sels frags vars md pat path = .ok out := by
  have step : ∀ K, (∀ ss q, potL w ss + 1 ≤ K → boundL vars ss = true →
        ∃ out, selectedPaths K ss frags vars md pat q = .ok out) →
      ∀ sels path, potL w sels ≤ K → boundL vars sels = true →
        ∃ out, selectedPaths (K + 1) sels frags vars md pat path = .ok out := by
    intro K hrec sels path hp hb
    obtain ⟨G, S', e, _, _, _, c4⟩ := collect_ok frags vars w hc hfb K sels [] hp hb
    rw [selectedPaths_succ, e]
    exact pathsLoop_total vars w K md pat path _ hrec G [] c4
  intro K
  induction K with
  | zero => exact step 0 fun ss q h => absurd h (Nat.not_succ_le_zero _)
  | succ K ih => exact step (K + 1) fun ss q h hb' => ih ss q (Nat.le_of_succ_le_succ h) hb'

/-- the listed paths are EXACTLY the selected
    field paths (through fragments, `@skip/@include` honoured) with at most `maxdepth` components
    (`0`/`None` = unbounded) that match the pattern — as sets; for every selection, fragment set,
    variables, `maxdepth` and pattern. -/
theorem selected_fields_exact (frags : List Frag) (vars : Vars) (ha : acyclic frags = true)
    (hfb : ∀ f ∈ frags, boundL vars f.sels = true) (nm : String → String)
    (hfk : ∀ f ∈ frags, keysL nm f.sels = true)
    (sub : List Sel) (hb : boundL vars sub = true) (hk : keysL nm sub = true)
    (fuel : Nat) (hfuel : potL (wOf (weights frags)) sub + 1 ≤ fuel) (md : Nat) (pat : List String → Bool) :
    ∃ out, selectedFields fuel sub frags vars md pat [] = .ok out ∧
      ∀ q, q ∈ out ↔ (IsPath frags vars sub q ∧ (md = 0 ∨ q.length ≤ md) ∧ pat q = true) := by
  have hc := acyclic_consistent frags ha
  obtain ⟨K, rfl⟩ := Nat.exists_eq_add_one_of_ne_zero (Nat.ne_of_gt (Nat.lt_of_lt_of_le (Nat.succ_pos _) hfuel))
  cases sub with
  | nil =>
    refine ⟨[], rfl, fun q => ⟨fun h => (nomatch h), fun ⟨hp, _⟩ => ?_⟩⟩
    cases hp with
    | leaf hr => obtain ⟨s, hs, _⟩ := hr; cases hs
    | step hr _ => obtain ⟨s, hs, _⟩ := hr; cases hs
  | cons s ss =>
    obtain ⟨out, ho⟩ := selectedPaths_total frags vars _ hc hfb md pat K (s :: ss) [] (Nat.le_of_succ_le_succ hfuel) hb
    have hpre : md = 0 ∨ ([] : List String).length < md := (Nat.eq_zero_or_pos md)
    refine ⟨out, ho, fun q => ?_⟩
    rw [selectedPaths_exact frags vars nm md pat hfk (K + 1) (s :: ss) [] out ho hk hpre q]
    exact ⟨fun ⟨p, hq, h⟩ => by rw [List.nil_append] at hq; exact hq ▸ h, fun h => ⟨q, (List.nil_append q).symm, h⟩⟩

/-- general form: for a selection set `sub` (the field's `selection_set`) over
    acyclic fragments, bound directive variables and key-consistent names, with any sufficient fuel:
    `selected_fields` returns a list, and every selected path within `maxdepth` that matches the pattern is in it. -/
theorem selected_fields_complete (frags : List Frag) (vars : Vars) (ha : acyclic frags = true)
    (hfb : ∀ f ∈ frags, boundL vars f.sels = true) (nm : String → String)
    (hfk : ∀ f ∈ frags, keysL nm f.sels = true)
    (sub : List Sel) (hb : boundL vars sub = true) (hk : keysL nm sub = true)
    (fuel : Nat) (hfuel : potL (wOf (weights frags)) sub + 1 ≤ fuel) (md : Nat) (pat : List String → Bool) :
    ∃ out, selectedFields fuel sub frags vars md pat [] = .ok out ∧
      ∀ p, IsPath frags vars sub p → (md = 0 ∨ p.length ≤ md) → pat p = true → p ∈ out := by
  obtain ⟨out, ho, hex⟩ := selected_fields_exact frags vars ha hfb nm hfk sub hb hk fuel hfuel md pat
  exact ⟨out, ho, fun p hp hmd hpat => (hex p).mpr ⟨hp, hmd, hpat⟩⟩

/-- soundness alone: every listed path is a selected path of the reference semantics -/
theorem selected_fields_sound (frags : List Frag) (vars : Vars) (ha : acyclic frags = true)
    (hfb : ∀ f ∈ frags, boundL vars f.sels = true) (nm : String → String)
    (hfk : ∀ f ∈ frags, keysL nm f.sels = true)
    (sub : List Sel) (hb : boundL vars sub = true) (hk : keysL nm sub = true)
    (fuel : Nat) (hfuel : potL (wOf (weights frags)) sub + 1 ≤ fuel) (md : Nat) (pat : List String → Bool)
    (out : List (List String)) (ho : selectedFields fuel sub frags vars md pat [] = .ok out) :
    ∀ q ∈ out, IsPath frags vars sub q ∧ (md = 0 ∨ q.length ≤ md) ∧ pat q = true := by
  obtain ⟨out', ho', hex⟩ := selected_fields_exact frags vars ha hfb nm hfk sub hb hk fuel hfuel md pat
  rw [ho] at ho'
  cases ho'
  exact fun q hq => (hex q).mp hq

/-! #### since /repo 4c46ee1 the look-ahead helper is LENIENT (`skip_selection=_skip_unless_unevaluable`) -/

private theorem keys_erase (vars : Vars) (nm : String → String) :
    (∀ s, keysSel nm (eraseSel vars s) = keysSel nm s) ∧ ∀ l, keysL nm (eraseL vars l) = keysL nm l := by
  refine sel_induction ?_ ?_ ?_ rfl ?_
  · intro a n d sub ih; simp only [eraseSel, keysSel, ih]
  · intro d ss ih; simp only [eraseSel, keysSel, ih]
  · intro n d; rfl
  · intro s ss h1 h2; rw [eraseL_cons, keysL_cons, keysL_cons, h1, h2]

private theorem keysSel_erase (vars : Vars) (nm : String → String) : ∀ s : Sel, keysSel nm (eraseSel vars s) = keysSel nm s :=
  (keys_erase vars nm).1

private theorem keysL_erase (vars : Vars) (nm : String → String) : ∀ l : List Sel, keysL nm (eraseL vars l) = keysL nm l :=
  (keys_erase vars nm).2

/-- the lenient `selected_fields` (a `@skip/@include` that cannot be
    evaluated keeps the selection; it never raises `CoercionError`): NO hypothesis on the variables. The listed paths
    are exactly the selected paths of the selection in which the unevaluable directives are dropped, within
    `maxdepth`, matching the pattern. -/
theorem selected_fields_exact_lenient (frags : List Frag) (vars : Vars) (ha : acyclic frags = true)
    (nm : String → String) (hfk : ∀ f ∈ frags, keysL nm f.sels = true)
    (sub : List Sel) (hk : keysL nm sub = true)
    (fuel : Nat) (hfuel : potL (wOf (weights frags)) sub + 1 ≤ fuel) (md : Nat) (pat : List String → Bool) :
    ∃ out, selectedFieldsG skipSelectionT fuel sub frags vars md pat [] = .ok out ∧
      ∀ q, q ∈ out ↔ (IsPath (eraseFrags vars frags) vars (eraseL vars sub) q ∧ (md = 0 ∨ q.length ≤ md) ∧ pat q = true) := by
  rw [← selectedFields_sim]
  apply selected_fields_exact (eraseFrags vars frags) vars (by rw [acyclic_erase]; exact ha)
  · intro f hf
    simp only [eraseFrags, List.mem_map] at hf
    obtain ⟨g, _, rfl⟩ := hf
    exact boundL_erase vars g.sels
  · intro f hf
    simp only [eraseFrags, List.mem_map] at hf
    obtain ⟨g, hg, rfl⟩ := hf
    show keysL nm (eraseL vars g.sels) = true
    rw [keysL_erase]; exact hfk g hg
  · exact boundL_erase vars sub
  · rw [keysL_erase]; exact hk
  · rw [weights_erase, potL_erase]; exact hfuel

/-- when every directive variable is available the lenient helper lists exactly what the strict one lists -/
theorem selected_fields_lenient_eq_strict (frags : List Frag) (vars : Vars)
    (hfb : ∀ f ∈ frags, boundL vars f.sels = true) (sub : List Sel) (hb : boundL vars sub = true)
    (fuel md : Nat) (pat : List String → Bool) (path : List String) :
    selectedFieldsG skipSelectionT fuel sub frags vars md pat path = selectedFields fuel sub frags vars md pat path := by
  rw [← selectedFields_sim, eraseL_id vars sub hb]
  have : eraseFrags vars frags = frags := by
    unfold eraseFrags
    have h : ∀ f ∈ frags, eraseFrag vars f = f := by
      intro f hf
      unfold eraseFrag
      rw [eraseL_id vars f.sels (hfb f hf)]
    rw [List.map_congr_left h, List.map_id']
  rw [this]

/-- the strict helper raised on an unavailable variable (the behaviour before 4c46ee1); the lenient one keeps the
    selection -/
theorem selected_fields_unavailable :
    selectedFields 9 [.field none "a" { skip := some (.var "v") } [fld "c"]] [] [] 0 (fun _ => true) [] = .error .coercion ∧
    selectedFieldsG skipSelectionT 9 [.field none "a" { skip := some (.var "v") } [fld "c"]] [] [] 0 (fun _ => true) []
      = .ok [["a"], ["a", "c"]] := by decide +kernel

/-- the same for a direct field of an operation of a valid document, with the driver's fuel — the call
    `selected_fields(field, fragments=doc.fragments, variables=vars, maxdepth=md, pattern=pat)` -/
theorem selected_fields_complete_op (doc : Doc) (vars : Vars) (hv : Valid doc vars) (nm : String → String)
    (hfk : ∀ f ∈ doc.frags, keysL nm f.sels = true) (op : Op) (hop : op ∈ doc.ops)
    (hok : keysL nm op.sels = true) (a n d sub) (hf : Sel.field a n d sub ∈ op.sels)
    (md : Nat) (pat : List String → Bool) :
    ∃ out, selectedFields doc.fuel sub doc.frags vars md pat [] = .ok out ∧
      ∀ p, IsPath doc.frags vars sub p → (md = 0 ∨ p.length ≤ md) → pat p = true → p ∈ out := by
  have hb := boundL_mem vars op.sels _ (hv.2.1 op hop) hf
  have hk := keysL_mem nm op.sels _ hok hf
  simp only [boundSel, keysSel, Bool.and_eq_true] at hb hk
  have hp := pot_le_potL (wOf (weights doc.frags)) op.sels _ hf
  rw [pot_field] at hp
  have hfu : potL (wOf (weights doc.frags)) op.sels + 1 ≤ doc.fuel := fuel_ok doc op hop
  exact selected_fields_complete doc.frags vars hv.1 hv.2.2 nm hfk sub hb.2 hk.2 doc.fuel (by omega) md pat

/-- aliases of the same field: BOTH are descended into (the path `a` is listed twice, `a/a/c` is found) -/
example : selectedFields 9 [ali "x" "a" [fld "c"], ali "y" "a" [fld "a" [fld "c"]]] [] [] 0 (fun _ => true) []
    = .ok [["a"], ["a", "c"], ["a"], ["a", "a"], ["a", "a", "c"]] := by decide +kernel

/-- maxdepth and pattern -/
example : selectedFields 9 [ali "x" "a" [fld "c"], ali "y" "a" [fld "a" [fld "c"]]] [] [] 2 (fun p => p.length == 2) []
    = .ok [["a", "c"], ["a", "a"]] := by decide +kernel

def sameKeySub : List Sel := [ali "x" "a" [fld "c"], ali "x" "a" [fld "d" [fld "e"]]]

/-- `a/d` is a selected path of `{ x: a { c } x: a { d { e } } }` … -/
theorem sameKey_path : IsPath [] [] sameKeySub ["a", "d"] :=
  .step (f := ⟨some "x", "a", [fld "d" [fld "e"]]⟩)
    ⟨.field (some "x") "a" {} [fld "d" [fld "e"]], by simp [sameKeySub, ali], .field (some "x") "a" {} _ (by decide +kernel)⟩
    (.leaf (f := ⟨none, "d", [fld "e"]⟩)
      ⟨.field none "d" {} [fld "e"], by simp [fld], .field none "d" {} _ (by decide +kernel)⟩)

/-- … the fixed `selected_fields` lists it, the unchanged one (first field of the group only) does not -/
theorem selected_fields_orig_incomplete :
    selectedFields 9 sameKeySub [] [] 0 (fun _ => true) [] = .ok [["a"], ["a", "c"], ["a", "d"], ["a", "d", "e"]] ∧
    selectedFieldsOrig 9 sameKeySub [] [] 0 [] = .ok [["a"], ["a", "c"]] := by decide +kernel

/-- the full statement for an arbitrary implementation, and its refutation for the unchanged code -/
def SelectedFieldsComplete (sf : Nat → List Sel → List Frag → Vars → Nat → List String → Except Err (List (List String))) : Prop :=
  ∀ (sub : List Sel) (nm : String → String), keysL nm sub = true → boundL [] sub = true →
    ∀ out, sf (potL (wOf (weights [])) sub + 1) sub [] [] 0 [] = .ok out → ∀ p, IsPath [] [] sub p → p ∈ out

theorem selected_fields_orig_refuted : ¬ SelectedFieldsComplete selectedFieldsOrig := by
  intro h
  have := h sameKeySub (fun k => if k == "x" then "a" else k) (by decide +kernel) (by decide +kernel)
    [["a"], ["a", "c"]] (by decide +kernel) ["a", "d"] sameKey_path
  simp at this

end PyGql.Props.C19
