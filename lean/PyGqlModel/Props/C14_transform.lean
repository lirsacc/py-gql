/-
  C14 — what a transform removes and what it keeps.

  `visibility_hides_type` (FULL): after `VisibilitySchemaTransform` (in place or through `transform_schema`) on a closed
  well-formed schema, every registered type name is visible, the schema is closed, hence EVERY reference anywhere in it
  (field, argument, input field, interface, union member, directive argument, root) names a visible registered type: a hidden
  type cannot be reached from queries or introspection.
-/
import PyGqlModel.Lemmas.HeapOrigin
import PyGqlModel.Props.C14_closed


namespace PyGql.Props.C14
open PyGql.Heap PyGql.Heap.Own

/-- FULL, in place -/
theorem visibility_hides_type (cfg : Cfg) (hacc : cfg.accumulateBusted = true) (fuel : Nat) (p : VisP) (s : Schema) (h h' : Heap) (s' : Schema)
    (hc : closedB h s = true) (hw : wfB h s = true) (e : onSchema cfg fuel (.vis p) s h = some (h', s')) :
    (∀ n, n ∈ names s' → p.isTypeVisible n = true ∧ n ∈ names s) ∧ closedB h' s' = true ∧
    (∀ r, refOK s'.types r = true → p.isTypeVisible r.name = true) := by
  have w := wfs_of_closedB hc hw
  have hn := onSchema_vis_names cfg fuel p s h h' s' w.nodup w.names e
  obtain ⟨c', _⟩ := onSchema_closed cfg hacc fuel (.vis p) s h h' s' w e
  refine ⟨hn, c', ?_⟩
  intro r hr
  exact (hn r.name (name_of_lookup (refOK_lookup hr))).1

/-- FULL, for `transform_schema(source, VisibilitySchemaTransform())` -/
theorem visibility_hides_type_transform (cfg : Cfg) (hd : cfg.deepClone = true) (hk : cfg.keepAllTypes = true) (hacc : cfg.accumulateBusted = true)
    (fuel : Nat) (p : VisP) (s : Schema) (h h' : Heap) (s' : Schema) (hc : closedB h s = true) (hw : wfB h s = true)
    (e : transform cfg fuel [.vis p] s h = some (h', s')) :
    (∀ n, n ∈ names s' → p.isTypeVisible n = true) ∧ closedB h' s' = true ∧
    (∀ r, refOK s'.types r = true → p.isTypeVisible r.name = true) := by
  obtain ⟨h1, s1, hr, hr2⟩ := transform_single_some e
  obtain ⟨c1, w1⟩ := clone_closed cfg hd hk hacc fuel s h h1 s1 hc hw hr
  obtain ⟨a, b, c⟩ := visibility_hides_type cfg hacc fuel p s1 h1 _ _ c1 w1 hr2
  exact ⟨fun n hn => (a n hn).1, b, c⟩

def hideDog : VisP := { typeVis := fun n => n != "Dog", fieldVis := fun _ _ => true, inputVis := fun _ _ => true, dirVis := fun _ => true }

/-- non-vacuity: hiding `Dog` on the witness -/
example : (transform Cfg.fixed 8 [.vis hideDog] s0 h0).isSome = true ∧ closedB h0 s0 = true ∧ wfB h0 s0 = true :=
  ⟨s0_transform_total _, s0_closed, s0_wf⟩

/-- FULL, every modelled visitor, in place: every object that existed before `visitor.on_schema(schema)` still exists afterwards,
    is of the same sort and has ALL its non-reference attributes (`SameHead`: for a type kind, name, description, default
    resolver, type resolver, enum values; for a field name, description, deprecation, resolver, subscription resolver, python
    name; for an argument / input field name, python name, default, description; for a directive name, locations,
    description); its type references keep their shape and the names at their base (only re-pointed); its member list can
    only shrink. In particular a type / field / argument the visitor "returns unchanged" is preserved. -/
theorem visitor_keeps_existing_objects (cfg : Cfg) (fuel : Nat) (v : Visitor) (s : Schema) (h h' : Heap) (s' : Schema)
    (e : onSchema cfg fuel v s h = some (h', s')) :
    ∀ a o, h.read a = some o → ∃ o', h'.read a = some o' ∧ SameHead o o' ∧ List.Sublist (kids o') (kids o) := by
  intro a o hr
  obtain ⟨o', hr', hd, hk, _⟩ := onSchema_stepT cfg fuel v s h h' s' e a o hr
  exact ⟨o', hr', hd, hk⟩

/-- FULL (type level), for `transform_schema(source, *visitors)` with any list of the modelled
    visitors — VisibilitySchemaTransform with arbitrary predicates, CamelCaseSchemaTransform with an arbitrary renaming, the
    drop/wrap directive visitor, the heal visitor: every type the result registers is registered under the same name in the
    source and carries exactly the source type's kind, name, description, default resolver, type resolver, enum values
    (identities differ: the result's objects are copies). Together with `visibility_hides_type_transform` (which names
    disappear) and `transform_intact` (none for non-deleting visitors) this is the type level of "everything the operation
    did not target is preserved". -/
theorem transform_preserves_untouched (cfg : Cfg) (hd : cfg.deepClone = true) (fuel : Nat) (vs : List Visitor) (s : Schema) (h h' : Heap)
    (s' : Schema) (hc : closedB h s = true) (e : transform cfg fuel vs s h = some (h', s')) :
    ∀ e', e' ∈ s'.types → ∃ e0, e0 ∈ s.types ∧ e0.1 = e'.1 ∧
      ∀ t, h.readType e0.2 = some t → ∃ t', h'.readType e'.2 = some t' ∧ SameHead (.type t) (.type t') := by
  obtain ⟨h1, s1, hr, e⟩ := transform_some e
  exact transformFrom_origin cfg fuel h s.types vs h1 s1 h' s' (clone_origin cfg hd fuel s h h1 s1 hc hr) e

/-- the same for an in-place visitor (no clone): provenance of the registry entries -/
theorem visitor_preserves_untouched (cfg : Cfg) (fuel : Nat) (v : Visitor) (s : Schema) (h h' : Heap) (s' : Schema)
    (e : onSchema cfg fuel v s h = some (h', s')) :
    ∀ e', e' ∈ s'.types → ∃ e0, e0 ∈ s.types ∧ e0.1 = e'.1 ∧
      ∀ t, h.readType e0.2 = some t → ∃ t', h'.readType e'.2 = some t' ∧ SameHead (.type t) (.type t') :=
  onSchema_origin cfg fuel v h s.types s h h' s' (regOrigin_refl h s.types) e

/-- CamelCaseSchemaTransform, member level: the argument / input field it returns is a copy with the converted name and
    every other attribute (python name, default, description, type) unchanged -/
theorem camel_case_argument_kept (ren : String → String) (reg : List (String × Addr)) (h : Heap) (a : Addr) (g : ArgO)
    (hg : h.readArg a = some g) :
    ∃ a', (onArgument (.camel ren) reg h a).2 = some a' ∧
      (onArgument (.camel ren) reg h a).1.readArg a' = some { g with name := ren g.name } := by
  simp only [onArgument, hg]
  exact ⟨_, rfl, readArg_alloc_new _ _⟩

/-- … and the field it returns is a copy with the converted name and the same description, deprecation, resolver,
    subscription resolver, python name and type (its arguments are the converted copies) -/
theorem camel_case_field_kept (ren : String → String) (reg : List (String × Addr)) (tn : String) (h : Heap) (a : Addr) (f : FieldO)
    (hf : h.readField a = some f) :
    ∃ a' f', (onField (.camel ren) reg tn h a).2 = some a' ∧ (onField (.camel ren) reg tn h a).1.readField a' = some f' ∧
      f'.name = ren f.name ∧ f'.desc = f.desc ∧ f'.depr = f.depr ∧ f'.res = f.res ∧ f'.sub = f.sub ∧ f'.py = f.py ∧ sameNames f.ty f'.ty := by
  simp only [onField, hf, onFieldBase]
  split
  · exact ⟨_, _, rfl, readField_alloc_new _ _, rfl, rfl, rfl, rfl, rfl, rfl, sameNames_refl _⟩
  · have hstep := mapFilter_step (onArgument_step (.camel ren) reg) f.args (h.alloc (.field { f with name := ren f.name })).1 chkT
      (compat_true _ reg)
    obtain ⟨o', hr', hd, _, _⟩ := hstep _ _ (readField_read (readField_alloc_new h { f with name := ren f.name }))
    cases o' with
    | field f' =>
      simp only [SameHead] at hd
      exact ⟨_, f', rfl, readField_of_read hr', hd.1, hd.2.1, hd.2.2.1, hd.2.2.2.1, hd.2.2.2.2.1, hd.2.2.2.2.2.1, hd.2.2.2.2.2.2⟩
    | type _ => simp [SameHead] at hd
    | arg _ => simp [SameHead] at hd
    | dir _ => simp [SameHead] at hd

end PyGql.Props.C14
