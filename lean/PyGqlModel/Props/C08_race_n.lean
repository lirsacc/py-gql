/-
  C08 — the lost update of the NON-atomic `done += 1` in `gather_futures.on_finish` (the PRE-FIX machine: /repo takes the
  increment under a lock since 6013951, see Props/C08_race_shipped.lean) for EVERY number of workers
  (`Props/C08_race.lean` has the witnesses for n = 2 and n = 3 by `decide`).

  Schedule: every worker LOADs, then every worker STOREs, then every worker TESTs
  (`List.range n ++ List.range n ++ List.range n`). All n workers read the same `done`, all write `done + 1`:
  n - 1 increments are lost, every callback returns, `done = plain + 1 < plain + n = target_count`, and the
  aggregate Future is never set.
-/
import PyGqlModel.RuntimeRace
import PyGqlModel.Lemmas.ListBasics


namespace PyGql.Props.C08
open PyGql.AsyncExec.Race

private theorem run_append (s : St) (a b : List Nat) : run s (a ++ b) = run (run s a) b := by
  induction a generalizing s with
  | nil => rfl
  | cons i r ih => simp [run, ih]

private theorem load_phase (d tg st sw : Nat) : ∀ (m : Nat) (pre : List PC),
    run ⟨d, tg, st, sw, pre ++ List.replicate m .start⟩ (List.range' pre.length m)
      = ⟨d, tg, st, sw, pre ++ List.replicate m (.loaded d)⟩
  | 0, pre => by simp [run]
  | m + 1, pre => by
    have ih := load_phase d tg st sw m (pre ++ [.loaded d])
    simp only [List.replicate_succ, List.range'_succ, run, step, List.getElem?_append_cons_length, List.set_append_cons_length]
    rw [List.append_cons pre (.loaded d)]
    simpa using ih

private theorem store_phase (t tg st sw : Nat) : ∀ (m : Nat) (d : Nat) (pre : List PC),
    run ⟨d, tg, st, sw, pre ++ List.replicate m (.loaded t)⟩ (List.range' pre.length m)
      = ⟨if m = 0 then d else t + 1, tg, st, sw, pre ++ List.replicate m .stored⟩
  | 0, d, pre => by simp [run]
  | m + 1, d, pre => by
    have ih := store_phase t tg st sw m (t + 1) (pre ++ [.stored])
    simp only [List.replicate_succ, List.range'_succ, run, step, List.getElem?_append_cons_length, List.set_append_cons_length]
    rw [List.append_cons pre .stored]
    have : (if m = 0 then t + 1 else t + 1) = t + 1 := by split <;> rfl
    simp only [this] at ih
    simpa using ih

private theorem test_phase (d tg st sw : Nat) (hne : (d == tg) = false) : ∀ (m : Nat) (pre : List PC),
    run ⟨d, tg, st, sw, pre ++ List.replicate m .stored⟩ (List.range' pre.length m)
      = ⟨d, tg, st, sw, pre ++ List.replicate m .finished⟩
  | 0, pre => by simp [run]
  | m + 1, pre => by
    have ih := test_phase d tg st sw hne m (pre ++ [.finished])
    simp only [List.replicate_succ, List.range'_succ, run, step, List.getElem?_append_cons_length, List.set_append_cons_length, St.test, hne]
    rw [List.append_cons pre .finished]
    simpa using ih

/-- For EVERY number `n ≥ 2` of pending futures (and every number of plain
    entries): all LOADs, then all STOREs, then all TESTs. Every `on_finish` callback has returned, `n - 1` increments
    are lost and `outer.set_result` was never called. -/
theorem gather_nonatomic_lost_update_general (plain n : Nat) (hn : 2 ≤ n) :
    let s := run (St.init plain n) (List.range n ++ List.range n ++ List.range n)
    s.allFinished = true ∧ s.done = plain + 1 ∧ s.target = plain + n ∧ s.sets = 0 ∧ s.outerSet = false := by
  have h1 := load_phase plain (plain + n) 0 0 n []
  have h2 := store_phase plain (plain + n) 0 0 n plain []
  have hne : ((plain + 1 == plain + n) = false) := by simp; omega
  have h3 := test_phase (plain + 1) (plain + n) 0 0 hne n []
  have hn0 : (if n = 0 then plain else plain + 1) = plain + 1 := by split <;> omega
  simp only [List.length_nil, List.nil_append, hn0] at h1 h2 h3
  have hinit : St.init plain n = ⟨plain, plain + n, 0, 0, List.replicate n .start⟩ := rfl
  simp only [List.range_eq_range', run_append, hinit, h1, h2, h3]
  simp [St.allFinished, St.outerSet]

/-- the general form of `gather_terminates_nonatomic_refuted`: for EVERY `n ≥ 2` there is an interleaving after which
    all callbacks have returned and the aggregate Future is not set -/
theorem gather_terminates_nonatomic_refuted_every_n (plain n : Nat) (hn : 2 ≤ n) :
    ∃ sched : List Nat, (run (St.init plain n) sched).allFinished = true ∧ (run (St.init plain n) sched).outerSet = false :=
  ⟨_, (gather_nonatomic_lost_update_general plain n hn).1, (gather_nonatomic_lost_update_general plain n hn).2.2.2.2⟩

/-- non-vacuity / agreement with the `decide` witness for n = 3, one plain entry -/
example : (run (St.init 1 3) (List.range 3 ++ List.range 3 ++ List.range 3)).done = 2 :=
  (gather_nonatomic_lost_update_general 1 3 (by omega)).2.1

/-- n = 1 is the boundary: a single worker cannot lose its own update -/
example : (run (St.init 0 1) (List.range 1 ++ List.range 1 ++ List.range 1)).outerSet = true := by decide +kernel

end PyGql.Props.C08
