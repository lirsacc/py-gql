/-
  C06 - property theorems: WHERE EXACTLY the verdict-neutrality of the overlap memo
  (`OverlapMemoNeutralStatement`, `Props/C06_overlap_memo.lean`) is open.

  `overlap_memo_neutral_side` needs `OverlapSide` for the half "un-memoised silent ⇒ memoised silent", and
  `overlapSide_of_wf` derives `OverlapSide` from unique fragment names + `Spec.noFragmentCycles`. Here the derivation is
  EXACT: for a document with well-formed identities (every parsed document),

      `OverlapSide s d  ↔  no fragment named ""  ∧  TableAcyclic d`        (`overlapSide_iff_tableAcyclic`)

  where `TableAcyclic` = the fragment TABLE (`ctx.fragments`: the last definition of a name) has no cycle of bare
  spreads (through inline fragments, NOT through sub-selections of fields). Consequences:
    * DUPLICATE fragment names are inside the neutrality theorem (`overlap_memo_neutral_tableAcyclic`: the memoised
      and the un-memoised rule give the same verdict on them, under `NoCrash`, `ParentsAgree`, `WfIds`);
    * what stays open is exactly: documents whose fragment table has a cycle of bare spreads on which the un-memoised
      search does not exhaust its fuel (`OverlapMemoNeutralOpenRegion`). Those are rejected by NoFragmentCycles in any
      case (`verdict_memo_neutral` is unaffected); for the rule alone the per-document cross-check `memo:crosscheck`
      of the correspondence covers them.
-/
import PyGqlModel.Props.C06_overlap_memo_complete
import PyGqlModel.Props.C06_head
namespace PyGql.Props.C06
open PyGql PyGql.Validate PyGql.Validate.Spec

def TableAcyclic (d : Doc) : Prop := ∀ n g, SprF d n g → ¬ ReachF d g n

/-- `spreadsApart` from well-formed identities and an acyclic fragment table - fragment names need not be unique -/
theorem spreadsApart_of_tableAcyclic {d : Doc} (hw : WfIds d) (hac : TableAcyclic d) :
    ∀ i sels, SelSet d i sels → ∀ g, SpreadD sels g → Apart d i g := by
  intro i sels hs g hg n hr on fid fsels ht hfi
  subst hfi
  have hsame : sels = fsels := wf_selSet_unique hw hs (fragTable_selSet ht)
  subst hsame
  exact hac n g ⟨on, fid, sels, ht, hg⟩ hr

/-- **`OverlapSide`, exactly** (documents with well-formed identities) -/
theorem overlapSide_iff_tableAcyclic (s : SchemaD) (d : Doc) (hw : WfIds d) :
    OverlapSide s d ↔ (AL.get? (fragTable d) "" = none ∧ TableAcyclic d) := by
  constructor
  · intro h
    refine ⟨h.noEmptyName, ?_⟩
    rintro n g ⟨on, fid, fsels, ht, hg⟩ hr
    exact h.spreadsApart fid fsels (fragTable_selSet ht) g hg n hr on fid fsels ht rfl
  · rintro ⟨h1, h2⟩
    exact ⟨h1, subsNotBodies_of hw, spreadsApart_of_tableAcyclic hw h2⟩

/-- **verdict-neutrality of the memo without unique fragment names**: same verdict of the memoised and the un-memoised
    rule on every document whose fragment table has no cycle of bare spreads -/
theorem overlap_memo_neutral_tableAcyclic (s : SchemaD) (fx : Fixes) (h7 : fx.v7 = true) (d : Doc)
    (hnc : NoCrash s fx d) (hpa : Spec.ParentsAgree s d) (hw : WfIds d) (hne : AL.get? (fragTable d) "" = none)
    (hac : TableAcyclic d) :
    (overlapMemoRun s fx d).1 = 0 ↔ Silent s fx .overlappingFieldsCanBeMerged d :=
  overlap_memo_neutral_side s fx d h7 hnc hpa ((overlapSide_iff_tableAcyclic s d hw).mpr ⟨hne, hac⟩) hw

/-- the region in which `OverlapMemoNeutralStatement` is open, as a statement: a cycle of bare spreads in the
    fragment table that the un-memoised search survives, on which it is silent although the memoised rule reports.
    (One half is closed everywhere: `overlap_memo_silent_plain_silent`.) -/
def OverlapMemoNeutralOpenRegion : Prop :=
  ∃ (s : SchemaD) (fx : Fixes) (d : Doc), fx.v7 = true ∧ NoCrash s fx d ∧ Spec.ParentsAgree s d ∧ WfIds d ∧
    AL.get? (fragTable d) "" = none ∧ ¬ TableAcyclic d ∧
    Silent s fx .overlappingFieldsCanBeMerged d ∧ 0 < (overlapMemoRun s fx d).1

/-- **`OverlapMemoNeutralStatement` restricted to the side conditions `ParentsAgree`, `WfIds`, no empty name fails ONLY
    inside the open region** -/
theorem overlap_memo_neutral_or_open (s : SchemaD) (fx : Fixes) (h7 : fx.v7 = true) (d : Doc)
    (hnc : NoCrash s fx d) (hpa : Spec.ParentsAgree s d) (hw : WfIds d) (hne : AL.get? (fragTable d) "" = none) :
    ((overlapMemoRun s fx d).1 = 0 ↔ Silent s fx .overlappingFieldsCanBeMerged d) ∨ OverlapMemoNeutralOpenRegion := by
  by_cases hac : TableAcyclic d
  · exact Or.inl (overlap_memo_neutral_tableAcyclic s fx h7 d hnc hpa hw hne hac)
  · by_cases hsil : Silent s fx .overlappingFieldsCanBeMerged d
    · by_cases h0 : (overlapMemoRun s fx d).1 = 0
      · exact Or.inl ⟨fun _ => hsil, fun _ => h0⟩
      · exact Or.inr ⟨s, fx, d, h7, hnc, hpa, hw, hne, hac, hsil, Nat.pos_of_ne_zero h0⟩
    · exact Or.inl ⟨fun h0 => overlap_memo_silent_plain_silent s fx h7 d hpa hne hw h0,
        fun h => absurd h hsil⟩

/-! non-vacuity: DUPLICATE fragment names - `{ ...A ...B }` with `A` defined twice (the last definition wins) and `B`;
    the table is acyclic, the document is outside `overlapSide_of_wf` (names not unique) and inside the theorem above -/
def dupDoc : Doc :=
  ⟨[opV [] 1 [sp "A", sp "B"], fragQ "A" 2 [fld (some "x") "b"], fragQ "A" 3 [fld (some "x") "a"],
    fragQ "B" 4 [fld (some "x") "a"]]⟩

example : ¬ (Spec.fragNames dupDoc).Nodup := by decide +kernel
example : wfIdsB dupDoc = true := by decide +kernel

theorem dupDoc_table : fragTable dupDoc =
    [("A", ("Query", 3, [fld (some "x") "a"])), ("B", ("Query", 4, [fld (some "x") "a"]))] := rfl

theorem dupDoc_tableAcyclic : TableAcyclic dupDoc := by
  rintro n g ⟨on, fid, fsels, ht, hg⟩ _
  rw [dupDoc_table, AL.get?_cons, AL.get?_cons, AL.get?_nil] at ht
  have hf : fsels = [fld (some "x") "a"] := by
    by_cases h1 : "A" = n
    · rw [if_pos h1] at ht; cases ht; rfl
    · rw [if_neg h1] at ht
      by_cases h2 : "B" = n
      · rw [if_pos h2] at ht; cases ht; rfl
      · rw [if_neg h2] at ht; cases ht
  subst hf
  cases hg with
  | spread hm => simp [fld] at hm
  | inline hm _ => simp [fld] at hm

example : OverlapSide oSchema dupDoc :=
  (overlapSide_iff_tableAcyclic oSchema dupDoc (by rw [← wfIdsB_iff]; decide +kernel)).mpr
    ⟨by rw [dupDoc_table]; decide, dupDoc_tableAcyclic⟩

/-- every hypothesis of `overlap_memo_neutral_tableAcyclic` on the document with a duplicate fragment name -/
example : (overlapMemoRun oSchema Fixes.all dupDoc).1 = 0 ↔ Silent oSchema Fixes.all .overlappingFieldsCanBeMerged dupDoc :=
  overlap_memo_neutral_tableAcyclic oSchema Fixes.all rfl dupDoc (by unfold NoCrash; decide +kernel)
    (parentsAgree_of_rules oSchema dupDoc (schemaOutputs_of_check oSchema (by decide +kernel))
      ((rule_scalar_leafs_iff oSchema Fixes.all dupDoc).mp (by unfold Silent; decide +kernel))
      ((rule_fragments_on_composite_types_iff oSchema Fixes.all dupDoc).mp (by unfold Silent; decide +kernel))
      ((noMetaSubsB_iff dupDoc).mp (by decide +kernel)) ((wfIdsB_iff dupDoc).mp (by decide +kernel)))
    ((wfIdsB_iff dupDoc).mp (by decide +kernel)) (by rw [dupDoc_table]; decide +kernel) dupDoc_tableAcyclic

end PyGql.Props.C06
