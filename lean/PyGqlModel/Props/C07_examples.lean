/-
  C07 — non-vacuity: a concrete registry with an enum (internal values ≠ names) and a RECURSIVE input object
  with defaults and python names satisfies `RegOK`; the hypotheses of the theorems are inhabited; the model
  computes the expected values on it (kernel evaluation, no fuel tricks).
-/
import PyGqlModel.Props.C07_args
import PyGqlModel.Props.C07_rejects
import PyGqlModel.Props.C07_equiv
import PyGqlModel.Props.C07_bridge
import PyGqlModel.Props.C07_fuel

namespace PyGql.Props.C07.Examples
open PyGql PyGql.Coerce

def recFields : List InField :=
  [ { name := "v", pyName := "val", type := .named "Int", default := some (.int 1) },
    { name := "e", pyName := "enum_val", type := .nonNull (.named "E"), default := some (.int 10) },
    { name := "next", pyName := "next", type := .named "Rec", default := none },
    { name := "kids", pyName := "children", type := .list (.nonNull (.named "Rec")), default := none } ]

def reg : Reg :=
  Reg.ofTypes [("Int", .int), ("String", .string), ("Boolean", .boolean),
               ("E", .enum [("A", .int 10), ("B", .str "bee")]),
               ("Rec", .input recFields)]

private theorem get_input {n : String} {fs : List InField} (h : reg.get? n = some (.input fs)) : fs = recFields := by
  have := mem_of_get? h
  simp [reg, Reg.ofTypes] at this
  exact this.2

private theorem get_enum {n : String} {vs : List (String × PV)} (h : reg.get? n = some (.enum vs)) :
    vs = [("A", .int 10), ("B", .str "bee")] := by
  have := mem_of_get? h
  simp [reg, Reg.ofTypes] at this
  exact this.2

private theorem no_custom {n : String} (h : reg.get? n = some .custom) : False := by
  simpa [reg, Reg.ofTypes] using mem_of_get? h

theorem regOK : RegOK reg := by
  refine ⟨?_, ?_, ?_, ?_, fun n pv h _ => (no_custom h).elim⟩
  · intro n fs h f hf
    cases get_input h
    simp [recFields] at hf
    rcases hf with rfl | rfl | rfl | rfl <;> rfl
  · intro n fs h f hf d hd
    cases get_input h
    simp [recFields] at hf
    rcases hf with rfl | rfl | rfl | rfl <;> simp at hd <;> subst hd
    · exact .int rfl (by decide)
    · exact .nonNull rfl (Conforms.enum (vs := [("A", .int 10), ("B", .str "bee")]) (p := ("A", .int 10)) rfl (by simp))
  · intro n vs h p hp
    cases get_enum h
    simp at hp
    rcases hp with rfl | rfl <;> rfl
  · intro n fs h
    cases get_input h
    decide +kernel

def reg2 : Reg := Reg.ofTypes [("Int", .int), ("Float", .float)]

/-- through a variable: nested recursive object, defaults filled (fix A2), enum name → internal value,
    single value wrapped into the list, python names as keys -/
example :
    coerceValue reg 10 (.named "Rec")
      (.obj [("e", .str "B"), ("kids", .obj [("v", .int 2147483647)])]) =
    .ok (.dict [("val", .int 1), ("enum_val", .str "bee"),
                ("children", .list [.dict [("val", .int 2147483647), ("enum_val", .int 10)]])]) := by decide +kernel

/-- the same value written inline gives the same result (an instance of `literal_variable_equiv`) -/
example :
    (valueFromAst reg none 10 (.named "Rec")
      (.obj [("e", .enum "B"), ("kids", .obj [("v", .int 2147483647)])])).toOption =
    (coerceValue reg 10 (.named "Rec")
      (.obj [("e", .str "B"), ("kids", .obj [("v", .int 2147483647)])])).toOption :=
  literal_variable_equiv reg (fun n _ _ _ h _ => (no_custom h).elim) none 10 _ _ _
    (.obj (fs := recFields) rfl
      (.cons (fun f hf hn => by
          simp [recFields] at hf
          rcases hf with rfl | rfl | rfl | rfl <;> simp at hn
          exact .nonNull rfl (.enum (vs := [("A", .int 10), ("B", .str "bee")]) rfl))
        (.cons (fun f hf hn => by
            simp [recFields] at hf
            rcases hf with rfl | rfl | rfl | rfl <;> simp at hn
            exact .single (by intro js h; cases h)
              (.nonNull rfl (.obj (fs := recFields) rfl
                (.cons (fun f hf hn => by
                    simp [recFields] at hf
                    rcases hf with rfl | rfl | rfl | rfl <;> simp at hn
                    exact .intInt rfl) .nil))))
          .nil)))

/-- `VarsFit` is inhabited by a literal with a variable nested in a list inside an object -/
example : VarsFit reg (some [("v", .dict [("val", .int 1), ("enum_val", .int 10)])]) (.named "Rec")
    (.obj [("kids", .list [.var "v"])]) :=
  .obj (n := "Rec") (fs := recFields) rfl rfl (fun f hf l hl => by
    simp [recFields] at hf
    rcases hf with rfl | rfl | rfl | rfl <;> simp [lookupLast] at hl
    subst hl
    refine .listItems (t' := .nonNull (.named "Rec")) rfl (fun i hi => ?_)
    simp at hi; subst hi
    refine .var (fun vs v hvs hv _ => ?_)
    cases hvs
    simp [lookupLast] at hv; subst hv
    exact .input (fs := recFields) rfl
      (.present (.int rfl (by decide))
        (.present (.nonNull rfl (Conforms.enum (vs := [("A", .int 10), ("B", .str "bee")]) (p := ("A", .int 10)) rfl (by simp)))
          (.absent rfl rfl (.absent rfl rfl .nil)))))

/-- the boundaries are accepted, their neighbours are not (fix A1; `int_full_range` instantiated) -/
example : coerceValue reg 1 (.named "Int") (.int (-2147483648)) = .ok (.int (-2147483648)) := by decide +kernel
example : coerceValue reg 1 (.named "Int") (.int 2147483648) = .error .coercion := by decide +kernel
example : valueFromAst reg none 1 (.named "Int") (.int 2147483647) = .ok (.int 2147483647) := by decide +kernel

/-- fix A3: `query($o: Int = 1) { f(x: $o) }` with `{"o": null}` at `x: Int!` is an error, not `x=None` -/
example : coerceArgumentValues reg 5 [("o", .none)] [("x", .var "o")]
    [{ name := "x", pyName := "x", type := .nonNull (.named "Int"), default := none }] = .error .coercion := by decide +kernel

/-- fix A4 / A5: structurally wrong JSON for Boolean, unknown field in a literal -/
example : coerceValue reg 3 (.named "Boolean") (.list [.int 1]) = .error .coercion := by decide +kernel
example : valueFromAst reg none 3 (.nonNull (.named "Rec")) (.obj [("zzz", .int 1)]) = .error .coercion := by decide +kernel

/-- fix X2: non-finite floats are refused at Float on both routes; a finite one passes; `int(inf)` inside `coerce_int` is caught and refused (fix A6) -/
example : coerceValue reg2 1 (.named "Float") (.float "inf") = .error .coercion := by decide +kernel
example : coerceValue reg2 1 (.named "Float") (.str "nan") = .error .coercion := by decide +kernel
example : valueFromAst reg2 none 1 (.named "Float") (.float "1e999") = .error .coercion := by decide +kernel
example : coerceValue reg2 1 (.named "Float") (.float "1.5") = .ok (.float (.text "1.5")) := by decide +kernel
example : coerceValue reg2 1 (.named "Int") (.float "inf") = .error .coercion := by decide +kernel
/-- a collected CoercionError does not hide a later escaping exception (`_coerce_list_value` goes on): here the recursion budget -/
example : coerceValue reg 2 (.list (.named "Rec")) (.list [.str "x", .obj [("next", .obj [])]]) = .error .fuel := by decide +kernel
/-- fix A7: for a VARIABLE, "nested too deeply" is an invalid value, not an escaping RecursionError -/
example : coerceVariable reg 1 [("v", .obj [("next", .obj [])])] { name := "v", type := .named "Rec", default := none } = .error .coercion := by decide +kernel

/-! #### the two side conditions are needed, and what the code does without them -/

/-- python names that collide: both fields write the same key — the later value wins at the earlier position, and no
    dict can hold both fields (this is why `RegOK.pyNamesDistinct` is a hypothesis; the model follows the collision). -/
def regClash : Reg :=
  Reg.ofTypes [("Int", .int),
               ("C", .input [ { name := "a", pyName := "k", type := .named "Int", default := none },
                              { name := "b", pyName := "k", type := .named "Int", default := none } ])]
example : coerceValue regClash 3 (.named "C") (.obj [("a", .int 1), ("b", .int 2)]) = .ok (.dict [("k", .int 2)]) := by decide +kernel
example : dictOfAssignments [("x", .int 1), ("y", .int 2), ("x", .int 3)] = [("x", .int 3), ("y", .int 2)] := by decide +kernel

/-- an enum whose internal value is `None` (the suite has one: `EnumValue("NULL", None)`) puts `None` at a non-null
    position — accepted by the code, not conforming: `RegOK.enumNotNone` cannot be dropped from `variable_sound`. -/
def regNoneEnum : Reg := Reg.ofTypes [("E", .enum [("NULL", .none)])]
example : coerceValue regNoneEnum 2 (.nonNull (.named "E")) (.str "NULL") = .ok .none := by decide +kernel
example : ¬ Conforms regNoneEnum (.nonNull (.named "E")) .none := by
  intro h
  cases h with
  | null h0 => simp [Ty.isNonNull] at h0
  | nonNull hn _ => simp [PV.isNone] at hn

/-! #### custom scalars: the parser is a parameter -/

/-- a custom scalar `Even` whose own parser accepts even integers (and hands the resolver the half), refuses everything
    else, and whose `parse_literal` does the same on `IntValue`s -/
def evenParse (_ : String) (v : JV) : ParseOut :=
  match v with
  | .int k => if k % 2 == 0 then .value (.int (k / 2)) else .refused
  | _ => .refused
def evenParseLiteral (_ : String) (_ : List (String × PV)) (l : Lit) : ParseOut :=
  match l with
  | .int k => if k % 2 == 0 then .value (.int (k / 2)) else .refused
  | _ => .refused
def regEven : Reg := { types := [("Even", .custom)], customParse := evenParse, customParseLiteral := evenParseLiteral,
                       customHasParseLiteral := fun _ => true }

example : coerceValue regEven 2 (.list (.nonNull (.named "Even"))) (.list [.int 10, .int 4]) = .ok (.list [.int 5, .int 2]) := by decide +kernel
example : coerceValue regEven 2 (.named "Even") (.int 7) = .error .coercion := by decide +kernel
/-- the value handed on is one the scalar's own parser accepted: that is all `Conforms` says about a custom scalar -/
example : Conforms regEven (.named "Even") (.int 5) := .custom rfl (.inl ⟨.int 10, rfl, rfl⟩)
/-- this scalar's two parsers agree, so literal/variable equivalence holds for it … -/
example : CustomAgree regEven := by
  intro n vs j l _ hs
  cases hs <;> simp [regEven, evenParse, evenParseLiteral]
/-- … whereas `default_scalar` does not meet `CustomAgree` on numbers: `5` inline is the text "5", through a variable the int 5 -/
example : ¬ CustomAgree (Reg.ofTypes [("Any", .custom)]) := by
  intro h
  have := h "Any" [] (.int 5) (.int 5) rfl .int
  simp [Reg.ofTypes, defaultScalarParse, defaultScalarParseLiteral, untypedLiteral, ParseOut.toR, Except.toOption, pvOfJson, jvAllFinite] at this
/-- `customNotNone` cannot be dropped: a parser answering None puts None at a non-null position -/
def regNoneScalar : Reg := { types := [("S", .custom)], customParse := fun _ _ => .value .none, customParseLiteral := fun _ _ _ => .refused,
                             customHasParseLiteral := fun _ => false }
example : coerceValue regNoneScalar 2 (.nonNull (.named "S")) (.int 1) = .ok .none := by decide +kernel

/-- the stand-in scalar of `build_schema` converts a structured literal transparently (`_untyped_literal`): numbers keep their
    source text, an enum value its name; the same JSON through a variable keeps its numbers — so inline ≠ variable for it
    whenever a number occurs (`¬ CustomAgree` above), equal otherwise -/
def regAny : Reg := Reg.ofTypes [("Any", .custom)]
example : valueFromAst regAny none 2 (.named "Any") (.list [.int 1, .str "a", .enum "RED", .null, .obj [("k", .float "1.5"), ("k", .bool true)]]) =
    .ok (.list [.str "1", .str "a", .str "RED", .none, .dict [("k", .bool true)]]) := by decide +kernel
example : coerceValue regAny 2 (.named "Any") (.list [.int 1, .str "a"]) = .ok (.list [.int 1, .str "a"]) := by decide +kernel
/-- fix C06-H7: a variable inside a structured literal at the stand-in scalar stands for its value, and for None when it has none
    (a missing variable is NOT an omitted key / item here: the stand-in scalar has no fields to default - compare known finding A9) -/
example : valueFromAst regAny (some [("v", .int 3)]) 2 (.named "Any") (.obj [("a", .var "v"), ("b", .list [.var "w"])]) =
    .ok (.dict [("a", .int 3), ("b", .list [.none])]) := by decide +kernel
/-- a custom scalar WITHOUT its own parse_literal stays restricted to scalar literals -/
example : valueFromAst { regAny with customHasParseLiteral := fun _ => false } none 2 (.named "Any") (.list [.int 1]) = .error .coercion := by decide +kernel

/-- argument definitions satisfying `ArgsOK` -/
example : ArgsOK reg [ { name := "x", pyName := "x_py", type := .nonNull (.named "Int"), default := some (.int 3) },
                       { name := "r", pyName := "r", type := .named "Rec", default := none } ] :=
  ⟨by intro d hd; simp at hd; rcases hd with rfl | rfl <;> rfl,
   by
    intro d hd v hv
    simp at hd
    rcases hd with rfl | rfl <;> simp at hv
    subst hv
    exact .nonNull rfl (.int rfl (by decide)),
   by decide +kernel⟩

/-- the validator's condition is inhabited: `$v: Int = 1` may be used at `x: Int!` (A3's situation), `$v: [Int]` may not be used at `[Int!]` -/
example : allowedUsage (.named "Int") true (.nonNull (.named "Int")) false = true := by decide +kernel
example : allowedUsage (.list (.named "Int")) false (.list (.nonNull (.named "Int"))) false = false := by decide +kernel
example : VarsAllowed reg [{ name := "v", type := .named "Int", default := some (.int 1) }] (.nonNull (.named "Int")) false (.var "v") :=
  .var (fun d hd hn => by simp at hd; subst hd; rfl)

/-- the fuel bound on a concrete recursive value, and "out of fuel" below it -/
example : fuelFor reg (.named "Rec") 3 = 1 + (3 + 1) * 3 := by decide +kernel
example : coerceValue reg 1 (.named "Rec") (.obj [("next", .obj [])]) = .error .fuel := by decide +kernel

/-- the trace of `query($o: Int = 1) { a: f(x: $o) b: f }` with `{"o": null}`, `f(x: Int!)` / `f(x: Int = 7)`:
    the first selection yields a field error and NO call, its sibling still runs -/
example : executeOp reg 5 [{ name := "o", type := .named "Int", default := some (.int 1) }] [("o", .null)]
    [ { key := "a", defs := [{ name := "x", pyName := "x", type := .nonNull (.named "Int"), default := none }], args := [("x", .var "o")] },
      { key := "b", defs := [{ name := "x", pyName := "x_py", type := .named "Int", default := some (.int 7) }], args := [] } ]
    = [.fieldError "a", .call "b" [("x_py", .int 7)]] := by rfl

/-- defect A1: a strict comparison in place of the source's `MIN_INT <= numeric <= MAX_INT` (scalars.py) refuses both boundaries -/
example : ¬ (∀ n : Int, (decide (Generated.Scalars.MIN_INT < n) && decide (n < Generated.Scalars.MAX_INT)) = true ↔ InRange32 n) := by
  intro h
  have := (h 2147483647).2 (by decide)
  revert this; decide

end PyGql.Props.C07.Examples
