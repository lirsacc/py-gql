/-
  C08 — the counter of `gather_futures` AS SHIPPED (fix 6013951: increment and local copy under a lock, the last-one test
  on the local copy; `RuntimeRaceShipped.lean`): for EVERY number of workers and EVERY interleaving, once all callbacks have
  returned the aggregate Future has been set exactly once, by the worker that counted `target_count`, and no callback hit
  InvalidStateError. The variant is re-extracted from the source (`Generated/GatherLock.lean`): `gather_shipped_variant`
  stops compiling when the tree loses the lock or tests the shared counter again.
  (The refutations in `Props/C08_race.lean` / `C08_race_n.lean` are about the PRE-FIX machine.)
-/
import PyGqlModel.RuntimeRaceShipped
import PyGqlModel.Generated.GatherLock
import PyGqlModel.Lemmas.ExecRaceCount


namespace PyGql.Props.C08
open PyGql.AsyncExec.RaceShipped

/-- the tree has the locked increment with a local copy (re-extracted on every run) -/
theorem gather_shipped_variant :
    PyGql.Generated.GatherLock.gatherCounterLocked = true ∧ PyGql.Generated.GatherLock.testsLocalCount = true := by decide +kernel

def cntStart : List PC → Nat
  | [] => 0
  | .start :: r => cntStart r + 1
  | _ :: r => cntStart r

/-- workers holding the count `t` that have not run their TEST yet -/
def cntHold (t : Nat) : List PC → Nat
  | [] => 0
  | .counted c :: r => (if c = t then 1 else 0) + cntHold t r
  | _ :: r => cntHold t r

private theorem cntStart_additive : Additive cntStart :=
  ⟨rfl, fun a r => by cases a <;> simp only [cntStart] <;> omega⟩

private theorem cntHold_additive (t : Nat) : Additive (cntHold t) :=
  ⟨rfl, fun a r => by cases a <;> simp only [cntHold, Nat.zero_add, Nat.add_zero]⟩

private theorem set_start (t : Nat) (l : List PC) (i : Nat) (x : PC) (h : l[i]? = some .start) :
    cntStart (l.set i x) + 1 = cntStart l + cntStart [x] ∧ cntHold t (l.set i x) = cntHold t l + cntHold t [x] :=
  ⟨cntStart_additive.set x h, (cntHold_additive t).set x h⟩

private theorem set_counted (t c : Nat) (l : List PC) (i : Nat) (h : l[i]? = some (.counted c)) :
    cntStart (l.set i .finished) = cntStart l ∧ cntHold t (l.set i .finished) + (if c = t then 1 else 0) = cntHold t l :=
  ⟨cntStart_additive.set .finished h, (cntHold_additive t).set .finished h⟩

/-- invariant: (1) `done` counts exactly the workers that have incremented; (2) the aggregate is set, or exactly one
    worker holds the count `target_count` — iff everybody has incremented; (3) no InvalidStateError. -/
structure SInv (s : St) : Prop where
  count : s.done + cntStart s.pcs = s.target
  last : s.sets + cntHold s.target s.pcs = (if s.done = s.target then 1 else 0)
  quiet : s.swallowed = 0

private theorem sinv_init (plain n : Nat) (hn : 0 < n) : SInv (St.init plain n) := by
  have hc : ∀ n, cntStart (List.replicate n PC.start) = n := fun n =>
    (cntStart_additive.replicate n .start).trans (Nat.mul_one n)
  have hh : ∀ t n, cntHold t (List.replicate n PC.start) = 0 := fun t n =>
    ((cntHold_additive t).replicate n .start).trans (Nat.mul_zero n)
  refine ⟨by simp [St.init, hc], ?_, rfl⟩
  simp only [St.init, hh]
  have : plain ≠ plain + n := by omega
  simp; omega

private theorem sinv_step (s : St) (i : Nat) (h : SInv s) : SInv (step s i) := by
  obtain ⟨hc, hl, hq⟩ := h
  unfold step
  cases hp : s.pcs[i]? with
  | none => exact ⟨hc, hl, hq⟩
  | some pc =>
    cases pc with
    | finished => exact ⟨hc, hl, hq⟩
    | start =>
      obtain ⟨h1, h2⟩ := set_start s.target s.pcs i (.counted (s.done + 1)) hp
      simp only [cntStart, cntHold] at h1 h2
      refine ⟨by simp only; omega, ?_, hq⟩
      simp only [h2]
      have hlt : s.done ≠ s.target := by omega
      simp only [hlt, if_false] at hl
      by_cases hd : s.done + 1 = s.target
      · simp [hd]; omega
      · simp [hd]; omega
    | counted c =>
      obtain ⟨h1, h2⟩ := set_counted s.target c s.pcs i hp
      by_cases hct : c = s.target
      · have hct' : (c == s.target) = true := by simp [hct]
        simp only [hct', if_true]
        simp only [hct, if_true] at h2
        have hs0 : s.sets = 0 := by
          by_cases hd : s.done = s.target <;> simp [hd] at hl <;> omega
        have hs0' : (s.sets == 0) = true := by simp [hs0]
        simp only [hs0', if_true]
        refine ⟨by simp only [h1]; exact hc, ?_, hq⟩
        simp only
        omega
      · have hct' : (c == s.target) = false := by simp [hct]
        simp only [hct', Bool.false_eq_true, if_false]
        simp only [hct, if_false, Nat.add_zero] at h2
        exact ⟨by simp only [h1]; exact hc, by simp only [h2]; exact hl, hq⟩

private theorem sinv_run (sched : List Nat) : ∀ s, SInv s → SInv (run s sched) := by
  induction sched with
  | nil => intro s h; exact h
  | cons i rest ih => intro s h; exact ih _ (sinv_step s i h)

private theorem zero_of_all_finished (t : Nat) (l : List PC) (h : l.all (· == .finished) = true) :
    cntStart l = 0 ∧ cntHold t l = 0 := by
  have hf : ∀ a ∈ l, a = .finished := fun a ha => eq_of_beq (List.all_eq_true.mp h a ha)
  exact ⟨cntStart_additive.eq_zero fun a ha => by rw [hf a ha]; rfl,
    (cntHold_additive t).eq_zero fun a ha => by rw [hf a ha]; rfl⟩

/-- `gather_futures` as shipped, `n > 0` pending futures, callbacks on any number of
    workers, EVERY interleaving of their COUNT and TEST steps: once all callbacks have returned, no update was lost, the
    aggregate Future has been set exactly once and no callback raised InvalidStateError. -/
theorem gather_shipped_sets_outer_once (plain n : Nat) (hn : 0 < n) (sched : List Nat)
    (hfin : (run (St.init plain n) sched).allFinished = true) :
    (run (St.init plain n) sched).sets = 1 ∧ (run (St.init plain n) sched).swallowed = 0
      ∧ (run (St.init plain n) sched).done = (run (St.init plain n) sched).target := by
  have h := sinv_run sched _ (sinv_init plain n hn)
  generalize run (St.init plain n) sched = s at h hfin
  obtain ⟨z1, z2⟩ := zero_of_all_finished s.target s.pcs (by simpa [St.allFinished] using hfin)
  have hc := h.count
  have hl := h.last
  rw [z1] at hc
  rw [z2] at hl
  have hd : s.done = s.target := by omega
  simp [hd] at hl
  exact ⟨hl, h.quiet, hd⟩

/-- non-vacuity: three workers, COUNTs first then TESTs in reverse order -/
example : (run (St.init 1 3) [0, 1, 2, 2, 1, 0]).allFinished = true ∧ (run (St.init 1 3) [0, 1, 2, 2, 1, 0]).sets = 1 := by decide +kernel

end PyGql.Props.C08
