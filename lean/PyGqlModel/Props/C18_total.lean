/-
  C18 — the MODEL traversal is total at every depth: for a visitor that changes nothing, fuel = depth of the tree
  suffices, whatever the table. (The implementation is not: on documents the parser accepts, nested a few hundred
  levels deep, `ASTVisitor.visit` raises RecursionError — known finding W9.)
-/
import PyGqlModel.Props.C18

namespace PyGql.Props.C18
open PyGql.Visit

variable {σ : Type}

/-- The model traversal of a visitor that changes nothing never runs out of fuel when the fuel is
    the depth of the tree: it is total at EVERY nesting depth (it may still report an error for a tree that does not
    fit the table, never "out of fuel"). -/
theorem model_total (T : Table) (v : Visitor σ) (hv : Observer v) :
    ∀ (fuel : Nat) (m : String) (t : Node) (s : σ), t.depth ≤ fuel → visitM T v fuel m t s ≠ .fuel := by
  intro fuel m t s h
  rw [visitM_observer T v hv fuel m t s trivial]
  exact Res.map_ne_fuel (walk_nofuel T fuel m t h)

/-- at the level of `ASTVisitor.visit`: with fuel = depth, a visit of ANY tree completes or reports an error -/
theorem visit_never_out_of_fuel (T : Table) (v : Visitor σ) (hv : Observer v) (t : Node) (s : σ) :
    visit T v t.depth t s ≠ .fuel := by
  rw [visit_observer T v hv]
  refine Res.map_ne_fuel ?_
  unfold Spec.implEvents
  cases T.visit.lookup t.kind with
  | none => exact fun h => nomatch h
  | some m => exact walk_nofuel T _ m t (Nat.le_refl _)

end PyGql.Props.C18
