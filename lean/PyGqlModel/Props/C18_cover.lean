/-
  C18 — coverage, read as "ALL children EXCEPT an explicit finite list of (kind, attribute) pairs".

  `coverage_partial` (Props/C18.lean) says the calls of an identity visit are the pre/post-order over the child relation the
  table IMPLEMENTS.  Here that relation is made explicit:

  * `Entered` — reached from the root through attributes for which the `_visit_*` body of the parent's kind has a statement,
    every child being dispatched to the method of its own kind; such a node is entered and left
    (`covered_children_visited`, Props/C18_reach.lean), exactly once (`once_today`);
  * `missed_children_today`   — the attributes of the node classes of `lang/ast.py` (`__slots__`, re-extracted on every
    run) that NO statement traverses and that hold nodes other than `Name`: exactly the 15 pairs of W1–W4
    (5 in executable documents, the 10 descriptions) — closed by kernel evaluation on the generated table;
  * `uncovered_partition`     — every other untraversed slot is a scalar or holds `Name` nodes (explicit list), and
    `witness_slots_classified`: the classification is right on the witness documents parsed by the real parser.
-/
import PyGqlModel.Props.C18_table

namespace PyGql.Props.C18
open PyGql.Visit PyGql.Generated.VisitTable

def Holds : Option Attr → Node → Prop
  | some (.one (some c')), c => c' = c
  | some (.many cs), c => c ∈ cs
  | _, _ => False

/-- `c` is reached from the root `t` through attributes that the body of the parent's kind traverses, every child being
    dispatched to the method of its own kind -/
inductive Entered (T : Table) (t : Node) : Node → Prop
  | root : Entered T t t
  | child {p c : Node} {st : Step} {m' : String} : Entered T t p → st ∈ stepsOf T p.kind → st.applies p.kind = true →
      Holds (p.getAttr st.attr) c → resolve T st.target c.kind = .ok m' → T.visit.lookup c.kind = some m' → Entered T t c

/-- The (kind, attribute) pairs whose NODE children no `_visit_*` statement traverses:
    W1 `VariableDefinition.variable`, W2 the inner type of `ListType` / `NonNullType`, W3 the type condition of inline
    fragments and fragment definitions, W4 the description of the ten describable definitions. Nothing else. -/
theorem missed_children_today : (uncoveredSlots table).filter (fun p => !scalarOrNameSlot p) =
    [("DirectiveDefinition", "description"), ("EnumTypeDefinition", "description"), ("EnumValueDefinition", "description"),
     ("FieldDefinition", "description"), ("FragmentDefinition", "type_condition"), ("InlineFragment", "type_condition"),
     ("InputObjectTypeDefinition", "description"), ("InputValueDefinition", "description"),
     ("InterfaceTypeDefinition", "description"), ("ListType", "type"), ("NonNullType", "type"),
     ("ObjectTypeDefinition", "description"), ("ScalarTypeDefinition", "description"),
     ("UnionTypeDefinition", "description"), ("VariableDefinition", "variable")] := table_today.2.2.1

/-- whatever the table: a slot other than `loc` that no statement traverses and that is not a scalar / `Name` slot is, by
    definition, one of the `uncoveredSlots` that the filter keeps -/
theorem uncoveredSlots_partition (T : Table) : T.slots.all (fun p => p.2.all fun a =>
    a == "loc" || coveredBy T p.1 a || scalarOrNameSlot (p.1, a) ||
      ((uncoveredSlots T).filter (fun q => !scalarOrNameSlot q)).contains (p.1, a)) = true := by
  simp only [List.all_eq_true]
  intro p hp a ha
  cases h1 : a == "loc" with
  | true => rfl
  | false =>
    cases h2 : coveredBy T p.1 a with
    | true => rfl
    | false =>
      cases h3 : scalarOrNameSlot (p.1, a) with
      | true => rfl
      | false =>
        have hm : (p.1, a) ∈ uncoveredSlots T :=
          List.mem_flatMap.2 ⟨p, hp, List.mem_map.2 ⟨a, List.mem_filter.2 ⟨ha, by simp [bne, h1, h2]⟩, rfl⟩⟩
        simpa [h3] using hm

/-- every slot of every node class is `loc`, traversed, one of the 15 missed pairs, or a scalar / `Name` slot -/
theorem uncovered_partition : table.slots.all (fun p => p.2.all fun a =>
    a == "loc" || coveredBy table p.1 a || scalarOrNameSlot (p.1, a) ||
      ((uncoveredSlots table).filter (fun q => !scalarOrNameSlot q)).contains (p.1, a)) = true :=
  uncoveredSlots_partition table

/-- every registry entry of every dispatcher sends a kind to the method `visit` registers for that kind: a child is
    traversed by the body of ITS kind (the last premise of `Entered.child`) whenever a dispatcher is the call target -/
theorem dispatchers_agree_with_visit : table.dispatchers.all (fun d => d.2.registry.all fun q =>
    table.visit.lookup q.1 == some q.2) = true := table_today.2.1.2.2

/-- … on the witness documents produced by the real parser (all node kinds of both dialects occur in them) -/
theorem witness_slots_classified : slotsClassified witnessExec = true ∧ slotsClassified witnessSdl = true :=
  witnesses_today.2.2.1

/-! non-vacuity of `covered_children_visited`: `{ }`-shaped skeleton `Document → OperationDefinition → SelectionSet` -/
private def ssN : Node := .mk "SelectionSet" 2 [("selections", .many [])]
private def opN : Node :=
  .mk "OperationDefinition" 1 [("variable_definitions", .many []), ("directives", .many []), ("selection_set", .one (some ssN))]
private def docN : Node := .mk "Document" 0 [("definitions", .many [opN])]

/-- the identity visit of that skeleton completes (that the statements for `definitions` and `selection_set` are in the bodies
    registered for the parents' kinds, and the children's kinds registered with the methods the call targets resolve to,
    is part of `table_today`) -/
private theorem docN_today :
    (match visit table observer 8 docN () with | .ok o => o.tr.length | _ => 0) = 6 := by decide +kernel

example : Entered table docN ssN := by
  obtain ⟨⟨hd, hvd⟩, hs, hvs⟩ := skeleton_steps_today
  have h1 : Entered table docN opN :=
    .child .root hd rfl (by simp [Holds, docN, Node.getAttr, Node.attrs]) rfl hvd
  exact .child h1 hs rfl (by simp [Holds, opN, Node.getAttr, Node.attrs, List.lookup]) rfl hvs

example : (match visit table observer 8 docN () with | .ok o => o.tr.length | _ => 0) = 6 := docN_today

end PyGql.Props.C18
