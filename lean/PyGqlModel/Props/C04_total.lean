/-
  C04 / C05 — fuel SUFFICIENCY: on a document whose fragments can be ranked (no fragment cycle) every request
  RESPONDS (never the out-of-fuel artefact), so with `response_unique` the response is a total function of
  (schema, document, variables, world, operation name) and the theorems stated "for every fuel" are statements
  about documents.
-/
import PyGqlModel.Props.C04_fuel
import PyGqlModel.Lemmas.C04Met
import PyGqlModel.Lemmas.C04Measure
import PyGqlModel.Spec.ValidDoc


namespace PyGql.Props.C04
open PyGql PyGql.Exec PyGql.Spec

/-- declarative acyclicity: fragment names can be ranked so that ranks decrease along spreads — `rk` for the nesting
    of `collect_fields` calls, `ek` for the nesting of `execute_fields` levels; `B` bounds every selection list. -/
structure Ranked (doc : Doc) (rk ek : String → Nat) (B : Nat) : Prop where
  collect : ∀ name fr, doc.fragment? name = some fr → selsNeed rk fr.sels ≤ rk name
  exec : ∀ name fr, doc.fragment? name = some fr → selsDepth ek fr.sels ≤ ek name
  bounded : ∀ name fr, doc.fragment? name = some fr → selsBounded rk B fr.sels = true

private theorem collectStep_fueled (s : SchemaD) (doc : Doc) (vars : Vars) (rk ek : String → Nat) (B : Nat) (hr : Ranked doc rk ek B)
    (rec : String → List Sel → List String → R (Grouped × List String)) (n : Nat)
    (hrec : ∀ obj sels seen, selsNeed rk sels < n → Fueled (rec obj sels seen)) (obj : String) :
    ∀ (sels : List Sel) (seen : List String) (g : Grouped), selsNeed rk sels ≤ n →
      Fueled (collectStep s doc vars rec obj sels seen g) := by
  intro sels
  induction sels with
  | nil => intro seen g _ h; simp [collectStep] at h
  | cons sel rest ih =>
    intro seen g hn
    simp only [selsNeed, Nat.max_le] at hn
    obtain ⟨hsel, hrest⟩ := hn
    rw [collectStep_cons]
    refine Fueled.bind (fun h => ?_) (fun a ha => ?_)
    · obtain ⟨c, hc⟩ := headAct_err h
      cases hc
    cases a with
    | drop => exact ih _ _ hrest
    | keep n => exact ih _ _ hrest
    | expand sels name =>
      refine Fueled.bind (hrec _ _ _ ?_) (fun p _ => ih _ _ hrest)
      rcases headAct_expand ha with ⟨on, dirs, rfl, _⟩ | ⟨nm, dirs, fr, rfl, _, hfr, rfl, _⟩
      · simp only [selNeed] at hsel
        omega
      · have := hr.collect nm fr hfr
        simp only [selNeed] at hsel
        omega

/-- with ranked fragments, `collect_fields` does not run out of fuel as soon as the fuel
    exceeds the rank-measure of the selection set -/
theorem collect_fuel_sufficient (s : SchemaD) (doc : Doc) (vars : Vars) (rk ek : String → Nat) (B : Nat) (hr : Ranked doc rk ek B) :
    ∀ (n : Nat) (obj : String) (sels : List Sel) (seen : List String), selsNeed rk sels < n →
      Fueled (collectFields s doc vars n obj sels seen) := by
  intro n
  induction n with
  | zero => intro obj sels seen h; omega
  | succ n ih =>
    intro obj sels seen h
    simp only [collectFields]
    exact collectStep_fueled s doc vars rk ek B hr _ n ih obj sels seen [] (by omega)


/-- what is known of a collected node: its sub-selection is strictly shallower than `D` and bounded -/
def NodeFuel (rk ek : String → Nat) (B D : Nat) (n : FNode) : Prop := selsDepth ek n.sub < D ∧ selsBounded rk B n.sub = true

/-- the selections handed to one `collect_fields` pass -/
def SelsFuel (rk ek : String → Nat) (B D : Nat) (sels : List Sel) : Prop :=
  selsDepth ek sels ≤ D ∧ selsBoundedIn rk B sels = true

private theorem selsFuel_mem {rk ek : String → Nat} {B D : Nat} {sels : List Sel} (h : SelsFuel rk ek B D sels) {x : Sel} (hx : x ∈ sels) :
    selDepth ek x ≤ D ∧ selBounded rk B x = true :=
  ⟨Nat.le_trans (selDepth_le_of_mem ek hx) h.1, selBounded_of_mem rk B h.2 hx⟩

/-- the bounds of a selection list hold of every selection met in its expansion -/
private theorem met_fuel {s : SchemaD} {doc : Doc} {vars : Vars} {rk ek : String → Nat} {B D : Nat} (hr : Ranked doc rk ek B)
    {obj : String} {sels : List Sel} {x : Sel} (hm : Met s doc vars obj sels x) (h : SelsFuel rk ek B D sels) :
    selDepth ek x ≤ D ∧ selBounded rk B x = true := by
  induction hm with
  | here hx => exact selsFuel_mem h hx
  | under hx ho _ ih =>
    obtain ⟨hd, hb⟩ := selsFuel_mem h hx
    refine ih ?_
    cases ho with
    | inline _ _ =>
      simp only [selDepth] at hd
      simp only [selBounded, Bool.and_eq_true] at hb
      exact ⟨hd, hb.2⟩
    | spread _ hf _ =>
      have h1 := hr.exec _ _ hf
      have h2 := hr.bounded _ _ hf
      simp only [selDepth] at hd
      simp only [selsBounded, Bool.and_eq_true] at h2
      exact ⟨by omega, h2.2⟩

private theorem collect_nodeFuel {s : SchemaD} {doc : Doc} {vars : Vars} {rk ek : String → Nat} {B D : Nat} (hr : Ranked doc rk ek B)
    {fuel : Nat} {obj : String} {sels : List Sel} {seen : List String} {g : Grouped} {seen' : List String}
    (hq : SelsFuel rk ek B D sels) (h : collectFields s doc vars fuel obj sels seen = .ok (g, seen')) :
    GroupAll (fun _ => NodeFuel rk ek B D) g :=
  groupAll_collected h fun x n hx hy => by
    obtain ⟨hd, hb⟩ := met_fuel hr hx hq
    cases hy with
    | field _ =>
      simp only [selDepth] at hd
      dsimp only [NodeFuel]
      exact ⟨by omega, by simpa [selBounded, selsBounded] using hb⟩

private theorem completeList_fueled (f : Path → RVal → R (Data × List Err)) (hf : ∀ p v, Fueled (f p v)) (path : Path) :
    ∀ (vs : List RVal) (i : Nat), Fueled (completeList f path i vs) := by
  intro vs
  induction vs with
  | nil => intro i h; cases h
  | cons v rest ih =>
    intro i
    simp only [completeList]
    refine Fueled.bind (hf _ _) (fun p _ => Fueled.bind (fun h => ?_) (fun q _ h => by cases h))
    exact ih _ ((keepErrs_outOfFuel _ _).1 h)

private theorem completeValue_fueled (s : SchemaD) (execSub : String → Path → List Sel → R (Data × List Err)) (nodes : List FNode)
    (he : ∀ rt p, Fueled (execSub rt p (mergedSelections nodes))) :
    ∀ (t : Ty) (path : Path) (v : RVal), Fueled (completeValue s execSub nodes t path v) := by
  intro t
  induction t with
  | nonNull t ih =>
    intro path v
    rw [completeValue_nonNull]
    exact Fueled.bind (ih path v) (fun _ _ => nofun)
  | list t ih =>
    intro path v
    have hl := completeList_fueled _ ih path
    rw [completeValue_list]
    cases listAct v with
    | items vs => exact Fueled.bind (hl vs 0) (fun _ _ => nofun)
    | raising vs msg ext =>
      intro h
      rcases raiseAfter_eq_error h with h | ⟨_, _, _, h⟩
      · exact hl vs 0 h
      · cases h
    | _ => exact nofun
  | named n =>
    intro path v
    rw [completeValue_named]
    cases namedAct s n v with
    | sub rt => exact he _ _
    | _ => intro h; cases h

private theorem merged_fuel (rk ek : String → Nat) (B D : Nat) (nodes : List FNode) (hn : ∀ n ∈ nodes, NodeFuel rk ek B D n)
    (hD : 0 < D) : selsDepth ek (mergedSelections nodes) < D ∧ selsBounded rk B (mergedSelections nodes) = true := by
  induction nodes with
  | nil => simp [mergedSelections, selsDepth, selsBounded, selsNeed, selsBoundedIn, hD]
  | cons n rest ih =>
    obtain ⟨h1, h2⟩ := ih (fun m hm => hn m (by simp [hm]))
    obtain ⟨hd, hb⟩ := hn n (by simp)
    simp only [selsBounded, Bool.and_eq_true, decide_eq_true_eq] at h2 hb ⊢
    simp only [mergedSelections, List.flatMap_cons] at h1 h2 ⊢
    rw [selsDepth_append, selsNeed_append, selsBoundedIn_append]
    by_cases hs : n.hasSub
    · simp only [hs, if_true]
      exact ⟨Nat.max_lt.2 ⟨hd, h1⟩, Nat.max_le.2 ⟨hb.1, h2.1⟩, by simp [hb.2, h2.2]⟩
    · simp only [hs, Bool.false_eq_true, if_false, selsDepth, selsNeed, selsBoundedIn]
      exact ⟨Nat.max_lt.2 ⟨hD, h1⟩, Nat.max_le.2 ⟨Nat.zero_le _, h2.1⟩, by simp [h2.2]⟩

private theorem executeGroups_fueled (s : SchemaD) (w : World) (execSub : String → Path → List Sel → R (Data × List Err))
    (rk ek : String → Nat) (B D : Nat)
    (he : ∀ rt p sels, selsDepth ek sels < D → selsBounded rk B sels = true → Fueled (execSub rt p sels))
    (parent : String) (path : Path) :
    ∀ g : Grouped, GroupAll (fun _ => NodeFuel rk ek B D) g → Fueled (executeGroups s w execSub parent path g) := by
  intro g
  induction g with
  | nil => intro _ h; simp [executeGroups] at h
  | cons kv rest ih =>
    intro hg
    obtain ⟨key, nodes⟩ := kv
    have ihr := ih (fun kv hkv => hg kv (by simp [hkv]))
    rw [executeGroups_cons]
    refine Fueled.bind (fun h => ?_) (fun a ha => ?_)
    · rcases groupAct_err h with hx | ⟨c, hx⟩ <;> cases hx
    cases a with
    | skip => exact ihr
    | typename => exact Fueled.bind ihr (fun _ _ h => by cases h)
    | field fd =>
      obtain ⟨node, more, rfl, _, _⟩ := groupAct_field ha
      have hnodes : ∀ n ∈ node :: more, NodeFuel rk ek B D n := fun n hn => hg (key, node :: more) (by simp) n hn
      have hD : 0 < D := by have := (hnodes node (by simp)).1; omega
      obtain ⟨hm1, hm2⟩ := merged_fuel rk ek B D (node :: more) hnodes hD
      refine Fueled.bind (fun h => ?_) (fun _ _ => Fueled.bind ihr (fun _ _ h => by cases h))
      rw [resolveField_cons] at h
      generalize fieldAct w parent fd (path ++ [Seg.key key]) node = a at h
      cases a with
      | complete v =>
        exact completeValue_fueled s execSub _ (fun rt p => he rt p _ hm1 hm2) fd.type _ _ ((catchField_outOfFuel _ _ _).1 h)
      | _ => cases h

/-- with ranked fragments the executor does not run out of fuel once the executor fuel exceeds
    the field-nesting depth of the selection set and the collect fuel exceeds the bound `B` of the document. -/
theorem exec_fuel_sufficient (s : SchemaD) (doc : Doc) (vars : Vars) (w : World) (rk ek : String → Nat) (B : Nat)
    (hr : Ranked doc rk ek B) (cf : Nat) (hcf : B < cf) :
    ∀ (n : Nat) (rt : String) (path : Path) (sels : List Sel), selsDepth ek sels < n → selsBounded rk B sels = true →
      Fueled (executeFields s doc vars w cf n rt path sels) := by
  intro n
  induction n with
  | zero => intro rt path sels h; omega
  | succ n ih =>
    intro rt path sels hd hb
    simp only [selsBounded, Bool.and_eq_true, decide_eq_true_eq] at hb
    simp only [executeFields]
    refine Fueled.bind (fun h => ?_) (fun p hp => ?_)
    · exact collect_fuel_sufficient s doc vars rk ek B hr cf rt sels [] (by omega) ((catchDirective_outOfFuel _).1 h)
    · obtain ⟨g, seen'⟩ := p
      have hg := collect_nodeFuel (D := n) hr ⟨by omega, hb.2⟩ ((catchDirective_eq_ok _ _).1 hp)
      exact Fueled.bind (executeGroups_fueled s w _ rk ek B n ih rt path g hg) (fun _ _ h => by cases h)

/-- on a document with ranked fragments whose operations are bounded, every request RESPONDS — with
    `response_unique` the response is a total function of (schema, document, variables, world, operation name). -/
theorem responds (s : SchemaD) (doc : Doc) (vars : Vars) (w : World) (rk ek : String → Nat) (B : Nat) (hr : Ranked doc rk ek B)
    (hops : ∀ o ∈ doc.ops, selsBounded rk B o.sels = true) (op : Option String) :
    ∃ r, RespondsWith s doc vars w op r := by
  rcases execute_cases s doc vars w op with ha | ⟨o, hmem, root, hx⟩
  · exact ⟨.abort "operation", 0, 0, ha 0 0, by simp⟩
  · have hf := exec_fuel_sufficient s doc vars w rk ek B hr (B + 1) (by omega) (selsDepth ek o.sels + 1) root [] o.sels
      (by omega) (hops o hmem)
    refine ⟨_, selsDepth ek o.sels + 1, B + 1, rfl, ?_⟩
    rw [hx]
    cases hr' : executeFields s doc vars w (B + 1) (selsDepth ek o.sels + 1) root [] o.sels with
    | ok p => simp [respond]
    | error f =>
      cases f with
      | outOfFuel => exact absurd hr' hf
      | _ => simp [respond]


/-! ### a checkable certificate: the ranks computed by `Spec.rankedB` (evaluated by the driver on every accepted document) -/

private theorem fragment_mem (doc : Doc) (name : String) (fr : Frag) (h : doc.fragment? name = some fr) :
    fr ∈ doc.frags ∧ fr.name = name := by
  unfold Doc.fragment? at h
  have hm := List.mem_of_find?_eq_some h
  have hk := List.find?_some h
  simp at hm hk
  exact ⟨hm, hk⟩

theorem ranked_of_rankedB (doc : Doc) (h : rankedB doc = true) :
    Ranked doc (docRk doc) (docEk doc) (docBound doc) ∧ ∀ o ∈ doc.ops, selsBounded (docRk doc) (docBound doc) o.sels = true := by
  unfold rankedB at h
  simp only [Bool.and_eq_true, List.all_eq_true, decide_eq_true_eq] at h
  obtain ⟨hfr, hops⟩ := h
  refine ⟨⟨?_, ?_, ?_⟩, hops⟩
  · intro name fr hf
    obtain ⟨hm, rfl⟩ := fragment_mem doc name fr hf
    exact (hfr fr hm).1.1
  · intro name fr hf
    obtain ⟨hm, rfl⟩ := fragment_mem doc name fr hf
    exact (hfr fr hm).1.2
  · intro name fr hf
    obtain ⟨hm, rfl⟩ := fragment_mem doc name fr hf
    exact (hfr fr hm).2

/-- every document that passes the (decidable) rank certificate responds to every request -/
theorem responds_certified (s : SchemaD) (doc : Doc) (vars : Vars) (w : World) (h : rankedB doc = true) (op : Option String) :
    ∃ r, RespondsWith s doc vars w op r :=
  responds s doc vars w _ _ _ (ranked_of_rankedB doc h).1 (ranked_of_rankedB doc h).2 op

/-- non-vacuity: nested fragments, inline fragments, sub-selections -/
def totDoc : Doc :=
  { ops := [{ kind := "query", name := none,
              sels := [.field "a" "a" 2 [] [] true [.spread "F" [], .inline none [] [.spread "G" []]], .spread "G" []] }],
    frags := [{ name := "F", on := "Ob", sels := [.field "x" "x" 30 [] [] true [.spread "G" []]] },
              { name := "G", on := "Ob", sels := [.field "y" "y" 50 [] [] false []] }] }
example : rankedB totDoc = true := by decide
/-- a cyclic document has no certificate -/
example : rankedB { ops := [], frags := [{ name := "A", on := "T", sels := [.spread "A" []] }] } = false := by decide

end PyGql.Props.C04
