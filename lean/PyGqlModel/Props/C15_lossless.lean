/-
  C15 — what the standard introspection query returns, read back.

  One decoder reads every entry of the standard result (`Spec.decodeAll`):

      decodeAll (introspect s true) = (norm s, implementers s)

  for EVERY schema description whose type references fit the query's 8 `TypeRef` levels (`DepthOk`; the bound is tight:
  `typeRef_truncates_beyond_query_depth`, `end_to_end_needs_depth`) — in particular for every VALID one: validity (C13's
  `ValidSchema`) is not needed as a hypothesis and is deliberately not imported (a source edit that breaks C13's generated
  configuration must not take C15's theorems down).  Its two halves are `introspect_lossless` (`Spec.LosslessStatement`) and
  `interface_possible_types_exact` (the decoded schema description has no slot for the `possibleTypes` of INTERFACES: they
  are derived data, the objects that declare the interface).  The same decoder is also run on the REAL server's answer on
  every run (driver op `decodeReal`, compared with `norm` of the dumped schema).  A directive is reported in the June-2018
  shape the standard query of this library asks for (no `isRepeatable`): `directive_keys_june2018`.
-/
import PyGqlModel.Props.C15


namespace PyGql.Props.C15
open PyGql PyGql.Introspect PyGql.Introspect.Spec PyGql.Generated.Introspection

/-! Looking up a key of an object that is written out; an absent description, reason or default is written as `null` and read
back as absent; a component list that does not apply to the kind of a type is written as `null` and read back as empty. -/

private theorem strD_obj (kvs : List (String × J)) (k : String) : (J.obj kvs).strD k = (((J.obj kvs).get? k).bind J.asStr?).getD "" := rfl
private theorem getD_obj (kvs : List (String × J)) (k : String) : (J.obj kvs).getD k = ((J.obj kvs).get? k).getD .null := rfl
private theorem arrD_obj (kvs : List (String × J)) (k : String) : (J.obj kvs).arrD k = (((J.obj kvs).get? k).bind J.asArr?).getD [] := rfl
private theorem boolD_obj (kvs : List (String × J)) (k : String) : (J.obj kvs).boolD k = (((J.obj kvs).get? k).bind J.asBool?).getD false := rfl
private theorem asStr?_str (x : String) : (J.str x).asStr? = some x := rfl
private theorem asArr?_arr (l : List J) : (J.arr l).asArr? = some l := rfl
private theorem asBool?_bool (b : Bool) : (J.bool b).asBool? = some b := rfl
private theorem asStr?_jOptStr (o : Option String) : (jOptStr o).asStr? = o := by cases o <;> rfl
private theorem isNull_jChars (o : Option Chars) : (jChars o).isNull = !o.isSome := by cases o <;> rfl
private theorem reason_of_isSome (o : Option String) : (if o.isSome = true then o else none) = o := by cases o <;> rfl
private theorem arr_or_null (c : Prop) [Decidable c] (l : List J) : ((if c then J.arr l else .null).asArr?).getD [] = if c then l else [] := by
  split <;> rfl
private theorem filterMap_asStr? (l : List String) : l.filterMap (J.asStr? ∘ J.str) = l := by
  simp [Function.comp_def, asStr?_str]

/-- what `_resolve_type_kind` reports for a named type decodes to its kind, and is neither of the two wrapper kinds -/
private theorem kindString_read (k : Kind) :
    kindOfString (((kindString k).asStr?).getD "") = k ∧ ((kindString k).asStr?).getD "" ≠ "LIST" ∧ ((kindString k).asStr?).getD "" ≠ "NON_NULL" := by
  cases k <;> decide +kernel

private theorem strD_kind (a b : J) (rest : List (String × J)) : (J.obj (("kind", a) :: ("name", b) :: rest)).strD "kind" = (a.asStr?).getD "" := by
  simp [J.strD, J.get?]
private theorem strD_name (a b : J) (rest : List (String × J)) : (J.obj (("kind", a) :: ("name", b) :: rest)).strD "name" = (b.asStr?).getD "" := by
  simp [J.strD, J.get?]
private theorem getD_ofType (a b c : J) : (J.obj [("kind", a), ("name", b), ("ofType", c)]).getD "ofType" = c := by
  simp [J.getD, J.get?]

/-- every level reports `kind` and `name` first; all but the innermost have `ofType` after them -/
private theorem typeRef_succ (s : SchemaD) (k : Nat) (t : Ty) :
    ∃ rest, typeRef s (k+1) t = .obj (("kind", refKind s t) :: ("name", refName t) :: rest) := by
  cases k <;> exact ⟨_, rfl⟩

private theorem refKind_named (s : SchemaD) (n : String) : ((refKind s (.named n)).asStr?).getD "" ≠ "LIST" ∧ ((refKind s (.named n)).asStr?).getD "" ≠ "NON_NULL" := by
  simp only [refKind]
  cases s.findType n with
  | none => decide
  | some td => exact (kindString_read td.kind).2

private theorem tyOfRef_named (k : Nat) (j : J) (h1 : j.strD "kind" ≠ "LIST") (h2 : j.strD "kind" ≠ "NON_NULL") :
    tyOfRef (k+1) j = .named (j.strD "name") := by
  rw [tyOfRef]; simp [h1, h2]
private theorem tyOfRef_list (k : Nat) (j : J) (h : j.strD "kind" = "LIST") : tyOfRef (k+1) j = .list (tyOfRef k (j.getD "ofType")) := by
  rw [tyOfRef]; simp [h]
private theorem tyOfRef_nonNull (k : Nat) (j : J) (h : j.strD "kind" = "NON_NULL") : tyOfRef (k+1) j = .nonNull (tyOfRef k (j.getD "ofType")) := by
  rw [tyOfRef]; simp [h]

/-- type references are reported losslessly: a type expression of at most `k` levels (the standard query asks for
    8) is recovered exactly from its `TypeRef` JSON — list / non-null nesting, the named type at the bottom. -/
theorem typeRef_lossless (s : SchemaD) : ∀ (k : Nat) (t : Ty), t.size ≤ k → tyOfRef k (typeRef s k t) = t := by
  intro k
  induction k with
  | zero => intro t h; have := t.size_pos; omega
  | succ k ih =>
    intro t h
    cases t with
    | named n =>
      obtain ⟨rest, hr⟩ := typeRef_succ s k (.named n)
      have := refKind_named s n
      rw [hr, tyOfRef_named _ _ (by rw [strD_kind]; exact this.1) (by rw [strD_kind]; exact this.2), strD_name]
      rfl
    | list u =>
      have := u.size_pos
      simp only [Ty.size] at h
      obtain ⟨k, rfl⟩ : ∃ k', k = k' + 1 := ⟨k - 1, by omega⟩
      rw [typeRef, tyOfRef_list _ _ (by rw [strD_kind]; simp [refKind, kindOfTag, typeKindTable, J.asStr?]), getD_ofType]
      simp [ih u (by omega)]
    | nonNull u =>
      have := u.size_pos
      simp only [Ty.size] at h
      obtain ⟨k, rfl⟩ : ∃ k', k = k' + 1 := ⟨k - 1, by omega⟩
      rw [typeRef, tyOfRef_nonNull _ _ (by rw [strD_kind]; simp [refKind, kindOfTag, typeKindTable, J.asStr?]), getD_ofType]
      simp [ih u (by omega)]

/-- the depth bound is tight: with 8 wrappers around a named type the standard query's answer no longer
    determines the type (the QUERY truncates, whatever the server does). -/
theorem typeRef_truncates_beyond_query_depth :
    let t9 : Ty := .list (.list (.list (.list (.list (.list (.list (.list (.named "Int"))))))))
    tyOfRef typeRefLevels (typeRef { types := [{ kind := .scalar, name := "Int" }] } typeRefLevels t9) ≠ t9 := by
  decide +kernel

private theorem insertBy_perm {α} (key : α → String) (x : α) (l : List α) : (insertBy key x l).Perm (x :: l) := by
  induction l with
  | nil => exact List.Perm.refl _
  | cons y ys ih =>
    simp only [insertBy]
    split
    · exact List.Perm.refl _
    · exact (List.Perm.cons y ih).trans (List.Perm.swap x y ys)

/-- listing sorted by name loses and invents nothing -/
theorem sortBy_perm {α} (key : α → String) (l : List α) : (sortBy key l).Perm l := by
  induction l with
  | nil => exact List.Perm.refl _
  | cons x xs ih => exact (insertBy_perm key x _).trans (List.Perm.cons x ih)

private theorem optStr_j (o : Option String) (k : String) (pre post : List (String × J)) (h : pre.find? (·.1 == k) = none) :
    optStr (.obj (pre ++ (k, jOptStr o) :: post)) k = o := by
  simp [optStr, J.get?, List.find?_append, h, asStr?_jOptStr]

private theorem argOf_inputValue (s : SchemaD) (a : ArgD) (h : a.type.size ≤ typeRefLevels) : argOf (inputValue s a) = normArg s a := by
  simp [argOf, inputValue, normArg, strD_obj, getD_obj, J.get?, asStr?_str, typeRef_lossless s typeRefLevels a.type h, optStr, asStr?_jOptStr,
    isNull_jChars]

private theorem argsOf_inputValues (s : SchemaD) (as : List ArgD) (h : argsFit as = true) :
    as.map (argOf ∘ inputValue s) = as.map (normArg s) := by
  simp only [argsFit, List.all_eq_true, decide_eq_true_eq] at h
  exact List.map_congr_left fun a hm => argOf_inputValue s a (h a hm)

private theorem fieldOf_fieldJ (s : SchemaD) (f : FieldD) (h : f.type.size ≤ typeRefLevels) (ha : argsFit f.args = true) :
    fieldOf (fieldJ s f) = normField s f := by
  simp [fieldOf, fieldJ, normField, strD_obj, getD_obj, J.get?, asStr?_str, arrD_obj, asArr?_arr, boolD_obj, asBool?_bool, optStr, asStr?_jOptStr,
    typeRef_lossless s typeRefLevels f.type h, reason_of_isSome, argsOf_inputValues s f.args ha]

private theorem enumValOf_enumValueJ (v : EnumValD) : enumValOf (enumValueJ v) = normEnumVal v := by
  simp [enumValOf, enumValueJ, normEnumVal, strD_obj, J.get?, asStr?_str, boolD_obj, asBool?_bool, optStr, asStr?_jOptStr, reason_of_isSome]

private theorem directiveOf_directiveJ (s : SchemaD) (d : DirectiveD) (ha : argsFit d.args = true) :
    directiveOf (directiveJ s d) = normDirective s d := by
  simp [directiveOf, directiveJ, normDirective, strD_obj, J.get?, asStr?_str, arrD_obj, asArr?_arr, optStr, asStr?_jOptStr,
    filterMap_asStr?, argsOf_inputValues s d.args ha]

private theorem name_of_namedRef (s : SchemaD) (n : String) : (typeRef s typeRefLevels (.named n)).strD "name" = n := by
  simp [typeRef, typeRefLevels, strD_obj, J.get?, asStr?_str, refName]

private theorem map_names (s : SchemaD) (l : List String) :
    l.map ((fun j => j.strD "name") ∘ fun n => typeRef s typeRefLevels (.named n)) = l := by
  simp [Function.comp_def, name_of_namedRef]

private theorem typeOf_fullType (s : SchemaD) (t : TypeD)
    (hf : ∀ f ∈ t.fields, f.type.size ≤ typeRefLevels ∧ argsFit f.args = true) (hi : argsFit t.inputFields = true) :
    typeOf (fullType s true t) = normType s t := by
  have hfields : t.fields.map (fieldOf ∘ fieldJ s) = t.fields.map (normField s) :=
    List.map_congr_left fun f hm => fieldOf_fieldJ s f (hf f hm).1 (hf f hm).2
  have hvals : t.values.map (enumValOf ∘ enumValueJ) = t.values.map normEnumVal :=
    List.map_congr_left fun v _ => enumValOf_enumValueJ v
  simp [typeOf, fullType, normType, strD_obj, J.get?, asStr?_str, arrD_obj, optStr, asStr?_jOptStr, kindString_read,
    arr_or_null, apply_ite (List.map _), List.map_map, hfields, argsOf_inputValues s t.inputFields hi, map_names, hvals,
    fun fs => (deprecated_shown fs []).1, fun vs => (deprecated_shown [] vs).2]
  split
  · simp [possibleTypes, *]
  · rfl

private theorem name_of_fullType (s : SchemaD) (b : Bool) (t : TypeD) : (fullType s b t).strD "name" = t.name := by
  simp [fullType, strD_obj, J.get?, asStr?_str]

private theorem kind_of_fullType (s : SchemaD) (b : Bool) (t : TypeD) : kindOfString ((fullType s b t).strD "kind") = t.kind := by
  simp [fullType, strD_obj, J.get?, kindString_read]

private theorem decode_introspect (s : SchemaD) (incl : Bool) : schemaOfIntrospection (introspect s incl) =
    { types := (sortBy (·.name) s.types).map (typeOf ∘ fullType s incl),
      directives := (sortBy (·.name) s.directives).map (directiveOf ∘ directiveJ s),
      query := s.query, mutation := s.mutation, subscription := s.subscription } := by
  have hq : ∀ o : Option String, rootOf (rootRef o) = o := by
    intro o; cases o <;> simp [rootOf, rootRef, strD_obj, J.get?, asStr?_str]
  simp [schemaOfIntrospection, introspect, schemaJ, getD_obj, J.get?, arrD_obj, asArr?_arr, List.map_map, hq]

/-- corollary in elementary terms (no `norm`): decoding the standard result gives back
    (1) the root operation types, (2) exactly the schema's types by name — a permutation: none missing, none
    invented —, (3) exactly the directives by name with their locations, and (4) every type reference of up to
    8 levels (`typeRef_lossless`). The record-by-record equality is `introspect_lossless` below. -/
theorem introspect_lossless_names (s : SchemaD) :
    (schemaOfIntrospection (introspect s true)).query = s.query
    ∧ (schemaOfIntrospection (introspect s true)).mutation = s.mutation
    ∧ (schemaOfIntrospection (introspect s true)).subscription = s.subscription
    ∧ ((schemaOfIntrospection (introspect s true)).types.map (·.name)).Perm (s.types.map (·.name))
    ∧ ((schemaOfIntrospection (introspect s true)).directives.map (fun d => (d.name, d.locations))).Perm
        (s.directives.map (fun d => (d.name, d.locations))) := by
  rw [decode_introspect]
  refine ⟨rfl, rfl, rfl, ?_, ?_⟩
  · have : ((sortBy (·.name) s.types).map (typeOf ∘ fullType s true)).map (·.name) = (sortBy (·.name) s.types).map (·.name) := by
      simp [typeOf, name_of_fullType]
    exact this ▸ (sortBy_perm _ _).map _
  · have : ((sortBy (·.name) s.directives).map (directiveOf ∘ directiveJ s)).map (fun d => (d.name, d.locations))
        = (sortBy (·.name) s.directives).map (fun d => (d.name, d.locations)) := by
      simp [directiveOf, directiveJ, strD_obj, arrD_obj, J.get?, asStr?_str, asArr?_arr, filterMap_asStr?]
    exact this ▸ (sortBy_perm _ _).map _

/-- FULL statement `Spec.LosslessStatement`: for every schema description whose type
    references fit the 8 `TypeRef` levels of the standard query, decoding the standard introspection result gives
    back the schema's normal form `Spec.norm s` — every type with kind, name, description, fields (arguments, type
    references, deprecation reasons), input fields, interfaces, enum values, union members; every directive with
    locations and arguments; the three root types. Nothing missing, nothing invented; `norm` spells out the only
    things not observable (listing order by name, enum internal values, defaults as their printed text). -/
theorem introspect_lossless : LosslessStatement := by
  intro s h
  simp only [DepthOk, Bool.and_eq_true, List.all_eq_true, decide_eq_true_eq] at h
  have htypes : (sortBy (·.name) s.types).map (typeOf ∘ fullType s true) = (sortBy (·.name) s.types).map (normType s) :=
    List.map_congr_left fun t hm =>
      have ht := h.1 t ((sortBy_perm _ _).mem_iff.mp hm)
      typeOf_fullType s t ht.1 ht.2
  have hdirs : (sortBy (·.name) s.directives).map (directiveOf ∘ directiveJ s) = (sortBy (·.name) s.directives).map (normDirective s) :=
    List.map_congr_left fun d hm => directiveOf_directiveJ s d (h.2 d ((sortBy_perm _ _).mem_iff.mp hm))
  rw [decode_introspect, htypes, hdirs]
  rfl

/-- non-vacuity: a description with nested type references satisfies `DepthOk`, and a 9-level one does not -/
example : DepthOk { types := [ { kind := .object, name := "Query", fields := [{ name := "f", type := .nonNull (.list (.named "Int")), args := [{ name := "a", type := .list (.named "Int") }] }] } ] } = true := by
  decide +kernel

/-- non-vacuity of the depth hypothesis and of the decoder on a concrete description -/
example : tyOfRef typeRefLevels (typeRef { types := [{ kind := .scalar, name := "Int" }] } typeRefLevels (.nonNull (.list (.nonNull (.named "Int")))))
    = .nonNull (.list (.nonNull (.named "Int"))) := by decide +kernel

def reportedPossible (j : J) : List String := (j.arrD "possibleTypes").map (·.strD "name")
def reportedInterfaces (j : J) : List String := (j.arrD "interfaces").map (·.strD "name")

/-- For an interface type, with or without deprecated members: the reported `possibleTypes`
    are (a permutation-free, sorted listing of) EXACTLY the object types of the schema that declare the interface. -/
theorem interface_possible_types_exact (s : SchemaD) (incl : Bool) (t : TypeD) (hk : t.kind = .interface) :
    reportedPossible (fullType s incl t) = sortBy id ((s.types.filter fun o => o.kind == .object && o.interfaces.contains t.name).map (·.name))
    ∧ ∀ n, n ∈ reportedPossible (fullType s incl t) ↔ ∃ o ∈ s.types, o.kind = .object ∧ t.name ∈ o.interfaces ∧ o.name = n := by
  have h1 : reportedPossible (fullType s incl t) = possibleTypes s t := by
    simp [reportedPossible, fullType, hk, arrD_obj, J.get?, asArr?_arr, map_names]
  have h2 : possibleTypes s t = sortBy id ((s.types.filter fun o => o.kind == .object && o.interfaces.contains t.name).map (·.name)) := by
    simp [possibleTypes, hk]
  refine ⟨h1.trans h2, ?_⟩
  intro n
  rw [h1, h2, (sortBy_perm id _).mem_iff]
  simp only [List.mem_map, List.mem_filter, Bool.and_eq_true, beq_iff_eq, List.contains_iff_mem]
  constructor
  · rintro ⟨o, ⟨ho, hko, hi⟩, hn⟩; exact ⟨o, ho, hko, hi, hn⟩
  · rintro ⟨o, ho, hko, hi, hn⟩; exact ⟨o, ⟨ho, hko, hi⟩, hn⟩

/-- an object type reports exactly its declared interfaces, in declaration order -/
theorem object_interfaces_exact (s : SchemaD) (incl : Bool) (o : TypeD) (hk : o.kind = .object) :
    reportedInterfaces (fullType s incl o) = o.interfaces := by
  simp [reportedInterfaces, fullType, hk, arrD_obj, J.get?, asArr?_arr, map_names]

/-- `interfaces` and `possibleTypes` tell the same story: object `o` of the schema lists
    interface `t` among its `interfaces` iff `t` lists `o` among its `possibleTypes`. -/
theorem interfaces_possible_types_dual (s : SchemaD) (incl : Bool) (t o : TypeD) (ht : t.kind = .interface) (ho : o.kind = .object)
    (hmem : o ∈ s.types) (huniq : ∀ o' ∈ s.types, o'.name = o.name → o' = o) :
    t.name ∈ reportedInterfaces (fullType s incl o) ↔ o.name ∈ reportedPossible (fullType s incl t) := by
  rw [object_interfaces_exact s incl o ho, (interface_possible_types_exact s incl t ht).2]
  constructor
  · intro h; exact ⟨o, hmem, ho, h, rfl⟩
  · rintro ⟨o', hm', _, hi, hn⟩
    have := huniq o' hm' hn
    subst this
    exact hi

/-- kinds that are neither union nor interface report `possibleTypes: null`; kinds other than object report `interfaces: null` -/
theorem possible_types_null_elsewhere (s : SchemaD) (incl : Bool) (t : TypeD) (h1 : t.kind ≠ .union) (h2 : t.kind ≠ .interface) :
    (fullType s incl t).getD "possibleTypes" = .null := by
  simp [fullType, getD_obj, J.get?, h1, h2]

/-- non-vacuity: interface `Node` implemented by `A` and `C` (not by `B`), declared in the order C, B, A -/
example :
    let node : TypeD := { kind := .interface, name := "Node", fields := [{ name := "id", type := .named "ID" }] }
    let mk (n : String) (is : List String) : TypeD := { kind := .object, name := n, interfaces := is, fields := [{ name := "id", type := .named "ID" }] }
    let s : SchemaD := { types := [mk "C" ["Node"], mk "B" [], mk "A" ["Other", "Node"], node] }
    reportedPossible (fullType s true node) = ["A", "C"] ∧ reportedInterfaces (fullType s true (mk "A" ["Other", "Node"])) = ["Other", "Node"] := by
  decide +kernel

def J.keys : J → List String | .obj kvs => kvs.map (·.1) | _ => []

/-- Every directive is reported with exactly these four entries (no `isRepeatable`), every field
    with name / description / args / type / isDeprecated / deprecationReason, every enum value with name / description /
    isDeprecated / deprecationReason. -/
theorem directive_keys_june2018 (s : SchemaD) (d : DirectiveD) (f : FieldD) (v : EnumValD) :
    J.keys (directiveJ s d) = ["name", "description", "locations", "args"]
    ∧ J.keys (fieldJ s f) = ["name", "description", "args", "type", "isDeprecated", "deprecationReason"]
    ∧ J.keys (enumValueJ v) = ["name", "description", "isDeprecated", "deprecationReason"] := by
  refine ⟨rfl, rfl, rfl⟩

/-- A member is reported deprecated iff it declares a reason, and the reported reason is the
    declared one (for fields and for enum values). -/
theorem deprecation_reason_exact (s : SchemaD) (f : FieldD) (v : EnumValD) :
    ((fieldJ s f).boolD "isDeprecated" = f.deprecated.isSome ∧ optStr (fieldJ s f) "deprecationReason" = f.deprecated)
    ∧ ((enumValueJ v).boolD "isDeprecated" = v.deprecated.isSome ∧ optStr (enumValueJ v) "deprecationReason" = v.deprecated) := by
  simp [fieldJ, enumValueJ, boolD_obj, J.get?, asBool?_bool, optStr, asStr?_jOptStr]

private theorem filter_map_fullType (s : SchemaD) (b : Bool) (l : List TypeD) :
    (l.map (fullType s b)).filter (fun j => kindOfString (j.strD "kind") == .interface)
      = (l.filter fun t => t.kind == .interface).map (fullType s b) := by
  induction l with
  | nil => rfl
  | cons t l ih =>
    simp only [List.map_cons, List.filter_cons, kind_of_fullType]
    split <;> simp [ih]

/-- **the possible types of every interface, decoded**: per reported interface, exactly the object types that declare it
    (no depth hypothesis; deprecated members shown or hidden) -/
theorem interface_possible_types_decoded (s : SchemaD) (incl : Bool) : interfacePossibleOf (introspect s incl) = implementers s := by
  have h0 : ((introspect s incl).getD "__schema").arrD "types" = (sortBy (·.name) s.types).map (fullType s incl) := by
    simp [introspect, schemaJ, getD_obj, J.get?, arrD_obj, asArr?_arr]
  unfold interfacePossibleOf implementers
  rw [h0, filter_map_fullType, List.map_map]
  apply List.map_congr_left
  intro t ht
  have hk : t.kind = .interface := by
    have := (List.mem_filter.mp ht).2
    simpa using this
  have := (interface_possible_types_exact s incl t hk).1
  simp only [reportedPossible] at this
  simp [name_of_fullType, this]

/-- FULL. Decoding EVERYTHING the standard introspection query returns gives back the
    schema: its observable normal form `norm s` (types with kind, name, description, fields, arguments, input fields, enum
    values, interfaces, union members; directives with locations and arguments; root types; deprecation reasons; defaults as
    their printed text) and, for every interface, exactly its implementing object types. Nothing missing, nothing invented. -/
theorem introspect_lossless_end_to_end (s : SchemaD) (h : DepthOk s = true) :
    decodeAll (introspect s true) = (norm s, implementers s) := by
  unfold decodeAll
  rw [introspect_lossless s h, interface_possible_types_decoded]

private def nine : Ty := .list (.list (.list (.list (.list (.list (.list (.list (.named "Int"))))))))
private def deepSchema : SchemaD := { types := [{ kind := .object, name := "Q", fields := [{ name := "f", type := nine }] }] }

/-- the depth hypothesis cannot be dropped from the end-to-end statement either: a reference of nine levels is cut -/
theorem end_to_end_needs_depth :
    ∃ s : SchemaD, DepthOk s = false ∧ (decodeAll (introspect s true)).1 ≠ norm s := by
  refine ⟨deepSchema, by decide +kernel, ?_⟩
  intro h
  have := congrArg (fun d => (d.types.map fun t => t.fields.map fun f => f.type.base)) h
  revert this
  decide +kernel

/-- non-vacuity: interface `Node` implemented by `A` and `C`, a union, a deprecated field -/
example :
    let node : TypeD := { kind := .interface, name := "Node", fields := [{ name := "id", type := .named "ID" }] }
    let mk (n : String) (is : List String) : TypeD := { kind := .object, name := n, interfaces := is, fields := [{ name := "id", type := .named "ID", deprecated := some "old" }] }
    let s : SchemaD := { types := [mk "C" ["Node"], mk "B" [], mk "A" ["Node"], node, { kind := .union, name := "U", members := ["C", "A"] }], query := some "A" }
    DepthOk s = true ∧ (decodeAll (introspect s true)).2 = [("Node", ["A", "C"])] := by
  decide +kernel

end PyGql.Props.C15
