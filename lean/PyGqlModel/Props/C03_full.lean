/-
  C03 — the statement `print ∘ parse = id` with its ONE exclusion stated as an explicit predicate.

  What keeps `print_parse` partial on today's code, exactly:
    * R4 (pinned by test_schema_kitchen_sink): the printer never prints the descriptions of fields, arguments, input
      fields and enum values.  `HasMemberDescription d` is the predicate "`d` carries such a description".
    * nothing else at the level of the model: `print_parse` below is the FULL statement for every accepted text, every
      flag combination with `no_location`, every indentation over {space, tab}, for all trees without a member description,
      and `print_parse_iff` shows the exclusion is EXACT — a parsed tree round-trips if and only if it has no member
      description (so no second hidden class of losses exists in the model).
    * R7 (RecursionError on trees nested a few hundred levels deep) is a divergence of the recursive Python implementation
      from the total model (`print_deep_list`), not a failure of the statement for the model; it stays a known finding.
    * `include_descriptions = False` is outside the statement (the property says "include_descriptions on").
-/
import PyGqlModel.Props.C03_print
namespace PyGql.Props.C03
open PyGql PyGql.Ast PyGql.Parse PyGql.Spec PyGql.Print PyGql.Lex

/-- the pinned finding R4 as a predicate on trees: some field, argument, input field or enum value of a type-system
    definition (or some argument of a directive definition) carries a description -/
def HasMemberDescription (d : Document) : Prop := stripMemberDescriptions d ≠ d

/-- THE STATEMENT OF C03 EXCEPT THE PINNED FINDING: every accepted text whose tree has no member description -/
def PrintParseExceptR4Statement : Prop :=
  ∀ (fl : Flags) (c : Cfg) (x : Text) (toks : List Tok) (d : Document),
    fl.noLocation = true → c.includeDescriptions = true → IndentOK c →
    lexAll x = .ok toks → parseDocument fl toks = .ok d → ¬ HasMemberDescription d →
    ∃ toks', lexAll (printDocument c d) = .ok toks' ∧ parseDocument fl toks' = .ok d

/-- the full statement for everything except the pinned finding R4 -/
theorem print_parse : PrintParseExceptR4Statement := by
  intro fl c x toks d hnl hdesc hind hlex hparse hm
  exact print_parse_exact fl c x toks d hnl hdesc hind hlex hparse (Classical.not_not.1 hm)

/-- the exclusion is exact: a parsed tree is reproduced by print + parse IF AND ONLY IF it has no
    member description -/
theorem print_parse_iff (fl : Flags) (c : Cfg) (x : Text) (toks : List Tok) (d : Document)
    (hnl : fl.noLocation = true) (hdesc : c.includeDescriptions = true) (hind : IndentOK c)
    (hlex : lexAll x = .ok toks) (hparse : parseDocument fl toks = .ok d) :
    (∃ toks', lexAll (printDocument c d) = .ok toks' ∧ parseDocument fl toks' = .ok d) ↔ ¬ HasMemberDescription d := by
  obtain ⟨t0, h0, p0⟩ := print_parse_modulo_members fl c x toks d hnl hdesc hind hlex hparse
  constructor
  · rintro ⟨t1, h1, p1⟩ hm
    rw [h0] at h1
    cases h1
    rw [p0] at p1
    exact hm (Except.ok.inj p1)
  · intro hm
    exact print_parse fl c x toks d hnl hdesc hind hlex hparse hm

/-- what is lost is only that: the re-parsed tree is the original without member descriptions, and printing it again gives
    the same text (`print_stable`) -/
theorem print_parse_loss (fl : Flags) (c : Cfg) (x : Text) (toks : List Tok) (d : Document)
    (hnl : fl.noLocation = true) (hdesc : c.includeDescriptions = true) (hind : IndentOK c)
    (hlex : lexAll x = .ok toks) (hparse : parseDocument fl toks = .ok d) :
    ∃ toks', lexAll (printDocument c d) = .ok toks' ∧ parseDocument fl toks' = .ok (stripMemberDescriptions d) ∧
      printDocument c (stripMemberDescriptions d) = printDocument c d :=
  let ⟨t, a, b⟩ := print_parse_modulo_members fl c x toks d hnl hdesc hind hlex hparse
  ⟨t, a, b, print_ignores_member_descriptions c d⟩

/-! ### "every indentation setting": the `indent` ARGUMENT of `ASTPrinter` / `print_ast`

The theorems above quantify over every configuration `c` with `IndentOK c` (an indent STRING over {space, tab}).  The
argument of the Python API is an int or a string; `mkCfg` is `ASTPrinter.__init__` (`indent * " "` for an int — the empty
string for a negative one).  `print_parse_every_indent_arg` instantiates the statement for EVERY int and every string over
{space, tab}; `indent_content_refuted` shows the restriction on strings is needed: any other character is content. -/

def IndentArgOK : IndentArg → Prop
  | .width _ => True
  | .str s => ∀ ch ∈ s, ch = 32 ∨ ch = 9

/-- `ASTPrinter.__init__` turns every admissible argument into a layout-only indent string -/
theorem indentOK_of_arg (ind : IndentArg) (desc : Bool) (h : IndentArgOK ind) : IndentOK (mkCfg ind desc) := by
  intro ch hc
  cases ind with
  | width n => simp only [mkCfg, List.mem_replicate] at hc; exact Or.inl hc.2
  | str s => exact h ch hc

/-- `print_parse` for every value of the `indent` argument: ALL ints (negative ones
    print like 0) and all strings over {space, tab} -/
theorem print_parse_every_indent_arg (fl : Flags) (ind : IndentArg) (hind : IndentArgOK ind) (x : Text) (toks : List Tok)
    (d : Document) (hnl : fl.noLocation = true) (hlex : lexAll x = .ok toks) (hparse : parseDocument fl toks = .ok d)
    (hm : ¬ HasMemberDescription d) :
    ∃ toks', lexAll (printDocument (mkCfg ind) d) = .ok toks' ∧ parseDocument fl toks' = .ok d :=
  print_parse fl (mkCfg ind) x toks d hnl rfl (indentOK_of_arg ind true hind) hlex hparse hm

/-- … and the same for the statement modulo member descriptions and for stability -/
theorem print_parse_loss_every_indent_arg (fl : Flags) (ind : IndentArg) (hind : IndentArgOK ind) (x : Text) (toks : List Tok)
    (d : Document) (hnl : fl.noLocation = true) (hlex : lexAll x = .ok toks) (hparse : parseDocument fl toks = .ok d) :
    ∃ toks', lexAll (printDocument (mkCfg ind) d) = .ok toks' ∧ parseDocument fl toks' = .ok (stripMemberDescriptions d) ∧
      printDocument (mkCfg ind) (stripMemberDescriptions d) = printDocument (mkCfg ind) d :=
  print_parse_loss fl (mkCfg ind) x toks d hnl rfl (indentOK_of_arg ind true hind) hlex hparse

/-- `{a}` -/
def fieldAText : Text := [123, 97, 125]

/-- the domain of "every indentation setting" cannot be larger: with the indent string `x`
    the document `{a}` is printed as `{⏎xa⏎}⏎` and read back as the field `xa` -/
theorem indent_content_refuted :
    ∃ toks d, lexAll fieldAText = .ok toks ∧ parseDocument r4Flags toks = .ok d ∧
      ∃ toks' d', lexAll (printDocument (mkCfg (.str [120])) d) = .ok toks' ∧ parseDocument r4Flags toks' = .ok d' ∧ d' ≠ d :=
  ⟨_, _, rfl, rfl, _, _, rfl, rfl, fun h => absurd (congrArg (printDocument (mkCfg (.width 0))) h) (by decide +kernel)⟩

example : IndentArgOK (.width (-3)) ∧ IndentArgOK (.width 0) ∧ IndentArgOK (.width 17) ∧ IndentArgOK (.str [32, 9, 32]) :=
  ⟨trivial, trivial, trivial, by intro ch hc; simp at hc; rcases hc with h | h | h <;> simp [h]⟩
example : (mkCfg (.width (-3))).indent = [] ∧ (mkCfg (.width 3)).indent = [32, 32, 32] := ⟨rfl, rfl⟩

/-- `enum E {A}`: accepted, no member description — the statement applies -/
def plainEnumText : Text := [101, 110, 117, 109, 32, 69, 32, 123, 65, 125]

example : ∃ toks, lexAll plainEnumText = .ok toks ∧ parseDocument r4Flags toks = .ok (r4Doc none) := ⟨_, rfl, rfl⟩
example : ¬ HasMemberDescription (r4Doc none) := fun h => h rfl
example : ∃ toks', lexAll (printDocument (mkCfg (.width 2)) (r4Doc none)) = .ok toks' ∧ parseDocument r4Flags toks' = .ok (r4Doc none) :=
  print_parse r4Flags (mkCfg (.width 2)) plainEnumText _ _ rfl rfl (by intro ch hc; simp [mkCfg] at hc; exact Or.inl hc) rfl rfl
    (fun h => h rfl)
/-- … and the R4 witness is excluded by the predicate, as it must be -/
example : HasMemberDescription (r4Doc (some ⟨[], false, none⟩)) := by
  intro h; simp [stripMemberDescriptions, stripDef, stripEV, r4Doc] at h

end PyGql.Props.C03
