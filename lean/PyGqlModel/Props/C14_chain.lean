/-
  C14 — CHAINS: successive transforms, each applied to the RESULT of the previous one
  (`transform_schema(transform_schema(transform_schema(source, A), B), C)` — camel-case then visibility, a clone of a clone, …).

  `transform_chain_untouched_preserved` (FULL, induction over the chain): for a closed well-formed source and any number of
  clone-based transforms (visibility / camel-case / heal visitors, arbitrary predicates and renamings) applied in a chain,
  * the source is not written (nor is any intermediate result once it exists) and the final result is closed and well-formed;
  * every non-protected type of the FINAL result is `TRel` to the ORIGINAL source's type of that name: same attributes; its
    fields / arguments / input fields are, in order, copies of a sub-list of the original's with resolver, subscription resolver,
    python name, default, description, deprecation, type by name unchanged and the name converted by the composition of all
    renamings of the chain (`chainRen`).
  The relation composes (`TRel.comp`): copies of copies are copies.
-/
import PyGqlModel.Lemmas.C14Derived
import PyGqlModel.Props.C14_sequence


namespace PyGql.Props.C14
open PyGql.Heap PyGql.Heap.Own

/-- `transform_schema` applied to the result of the previous `transform_schema` -/
def chain (cfg : Cfg) (fuel : Nat) : List (List Visitor) → Heap × Schema → Option (Heap × Schema)
  | [], r => some r
  | vs :: rest, (h, s) =>
    match transform cfg fuel vs s h with
    | none => none
    | some r => chain cfg fuel rest r

/-- the renaming of member names along a chain, first transform first -/
def chainRen : List (List Visitor) → String → String
  | [] => id
  | vs :: rest => fun n => chainRen rest (renAll vs id n)

private theorem arel_comp {ρ σ : String → String} {h0 h1 h2 : Heap} {a b c : Addr} (r1 : ARel ρ h0 h1 a b) (r2 : ARel σ h1 h2 b c) :
    ARel (fun n => σ (ρ n)) h0 h2 a c := by
  obtain ⟨g, g', e1, e2, k1, k2, k3, k4, k5⟩ := r1
  obtain ⟨g2, g3, e3, e4, m1, m2, m3, m4, m5⟩ := r2
  rw [e2] at e3; cases e3
  exact ⟨g, g3, e1, e4, by rw [m1, k1], m2.trans k2, m3.trans k3, m4.trans k4, sameNames_trans k5 m5⟩

private theorem frel_comp {ρ σ : String → String} {h0 h1 h2 : Heap} {a b c : Addr} (r1 : FRel ρ h0 h1 a b) (r2 : FRel σ h1 h2 b c) :
    FRel (fun n => σ (ρ n)) h0 h2 a c := by
  obtain ⟨f, f', e1, e2, ⟨k1, k2, k3, k4, k5, k6, k7⟩, ka⟩ := r1
  obtain ⟨f2, f3, e3, e4, ⟨m1, m2, m3, m4, m5, m6, m7⟩, ma⟩ := r2
  rw [e2] at e3; cases e3
  refine ⟨f, f3, e1, e4, ⟨by rw [m1, k1], m2.trans k2, m3.trans k3, m4.trans k4, m5.trans k5, m6.trans k6, sameNames_trans k7 m7⟩, ?_⟩
  exact (ka.comp ma).imp fun x z ⟨y, rxy, ryz⟩ => arel_comp rxy ryz

/-- copies of copies are copies: the relation to the source composes along a chain -/
theorem TRel.comp {ρ σ : String → String} {h0 h1 h2 : Heap} {t0 t1 : TypeO} {a1 a2 : Addr}
    (r1 : TRel ρ h0 h1 t0 a1) (ht1 : h1.readType a1 = some t1) (r2 : TRel σ h1 h2 t1 a2) : TRel (fun n => σ (ρ n)) h0 h2 t0 a2 := by
  obtain ⟨t1', e1, at1, m1⟩ := r1
  rw [ht1] at e1; cases e1
  obtain ⟨t2, e2, at2, m2⟩ := r2
  rw [show t1.kind = t0.kind from at1.1] at m2
  exact ⟨t2, e2, at1.trans at2, mRel_iff.mpr (((mRel_iff.mp m1).and (mRel_iff.mp m2)).imp
    (fun ⟨a, b⟩ => (a.comp b).imp fun x z ⟨y, rxy, ryz⟩ => frel_comp rxy ryz)
    (fun ⟨a, b⟩ => (a.comp b).imp fun x z ⟨y, rxy, ryz⟩ => arel_comp rxy ryz) fun _ => trivial)⟩

/-- FULL `untouched_preserved` along a chain of transforms (see the header) -/
theorem transform_chain_untouched_preserved (cfg : Cfg) (hd : cfg.deepClone = true) (hk : cfg.keepAllTypes = true)
    (hacc : cfg.accumulateBusted = true) (fuel : Nat) :
    ∀ (ops : List (List Visitor)), (∀ vs, vs ∈ ops → ∀ v, v ∈ vs → NoWrap v) → ∀ (s : Schema) (h h' : Heap) (s' : Schema),
      closedB h s = true → wfB h s = true → chain cfg (2 + fuel) ops (h, s) = some (h', s') →
      Frame h h' ∧ closedB h' s' = true ∧ wfB h' s' = true ∧
      ∀ e', e' ∈ s'.types → isProtected e'.1 = true ∨
        ∃ e0, e0 ∈ s.types ∧ e0.1 = e'.1 ∧ ∀ t0, h.readType e0.2 = some t0 → TRel (chainRen ops) h h' t0 e'.2 := by
  intro ops
  induction ops with
  | nil =>
    intro _ s h h' s' hc hw e
    simp only [chain, Option.some.injEq, Prod.mk.injEq] at e
    obtain ⟨rfl, rfl⟩ := e
    refine ⟨Frame.refl h, hc, hw, ?_⟩
    intro e' he'
    by_cases hp : isProtected e'.1 = true
    · exact Or.inl hp
    · refine Or.inr ⟨e', he', rfl, fun t0 ht0 => ?_⟩
      exact TRel.refl ht0 (membersReadable_of_shape _ h e'.2 t0 ht0 ((wfs_of_wfB hw).types e' he'))
  | cons vs rest ih =>
    intro hv s h h' s' hc hw e
    simp only [chain] at e
    split at e
    · cases e
    · rename_i r hr
      obtain ⟨h1, s1⟩ := r
      have d := transform_derived hc hw hd hk hacc hr
      have m1 := transform_preserves_untouched_members cfg hd (2 + fuel) vs (hv vs (by simp)) s h h1 s1 hc hw hr
      obtain ⟨f2, c2, w2, m2⟩ := ih (fun vs' hvs' => hv vs' (List.mem_cons_of_mem _ hvs')) s1 h1 h' s' d.closed d.wf e
      refine ⟨d.frame.trans f2, c2, w2, ?_⟩
      intro e' he'
      rcases m2 e' he' with hp | ⟨e1, g1, g2, g3⟩
      · exact Or.inl hp
      · rcases m1 e1 g1 with hp | ⟨e0, k1, k2, k3⟩
        · exact Or.inl (by rw [← g2]; exact hp)
        · refine Or.inr ⟨e0, k1, k2.trans g2, fun t0 ht0 => ?_⟩
          have r1 := k3 t0 ht0
          obtain ⟨t1, ht1, _, _⟩ := r1
          show TRel (fun n => chainRen rest (renAll vs id n)) h h' t0 e'.2
          exact TRel.comp (ρ := renAll vs id) (σ := chainRen rest) (k3 t0 ht0) ht1 (g3 t1 ht1)

theorem chain_total (cfg : Cfg) (hd : cfg.deepClone = true) (hk : cfg.keepAllTypes = true) (hacc : cfg.accumulateBusted = true) (fuel : Nat) :
    ∀ (ops : List (List Visitor)) (s : Schema) (h : Heap), closedB h s = true → wfB h s = true →
      (chain cfg (2 + fuel) ops (h, s)).isSome = true := by
  intro ops
  induction ops with
  | nil => intro s h _ _; rfl
  | cons vs rest ih =>
    intro s h hc hw
    obtain ⟨h1, s1, e1, c1, w1⟩ := transform_closed_total cfg hd hk hacc vs s h hc hw fuel
    simp only [chain, e1]
    exact ih s1 h1 c1 w1

/-- non-vacuity on the witness: camel-case, then hide `Dog`, then a plain clone — each applied to the previous result -/
example : closedB h0 s0 = true ∧ wfB h0 s0 = true ∧
    ((chain Cfg.fixed (2 + 6) [[.camel id], [.vis hideDog], []] (h0, s0)).map fun r => (names r.2, closedB r.1 r.2))
      = some (["String", "Query", "Pet"], true) := ⟨s0_closed, s0_wf, by decide +kernel⟩

end PyGql.Props.C14
