/-
  C07 — coercion of ANY JSON value never raises anything but a coercion error.
  `.error .internal` is the model's "an exception other than CoercionError / InvalidValue escapes"; `.error .fuel` is
  RecursionError. For every JSON value whatsoever (±inf, NaN, integers of any size, arbitrary strings, arrays and objects of
  any shape and depth): `coerce_value` yields a value, a rejection, or — only when the recursion budget is exceeded — a
  RecursionError, which `coerce_variable_values` reports as an invalid variable (fix A7). So the variable stage of a request
  ends in coerced variables or a `VariablesCoercionError`, never in a crash.
  Hypotheses: the registry declares the types it mentions (`RegClosed`, what `Schema.validate` guarantees) and the custom
  scalars' own parsers raise nothing but ValueError / TypeError (`CustomNeverRaises`: user code, recorded in TRUSTED).
-/
import PyGqlModel.Props.C07_numbers
import PyGqlModel.Props.C07_fuel


namespace PyGql.Props.C07
open PyGql PyGql.Coerce

/-- every input field's named type is declared -/
def RegClosed (reg : Reg) : Prop :=
  ∀ n fs, reg.get? n = some (.input fs) → ∀ f, f ∈ fs → (reg.get? f.type.base).isSome = true

/-- the custom scalars' own `parse` functions raise only ValueError / TypeError -/
def CustomNeverRaises (reg : Reg) : Prop := ∀ n v, reg.customParse n v ≠ .raised

private theorem base_strip (ty : Ty) : (stripNN ty).base = ty.base := by
  cases ty <;> rfl

private theorem call_known {α : Type} {S : Src α} {reg : Reg} (hc : RegClosed reg) {ty t' : Ty} {v x : α} (h : Call S reg ty v t' x)
    (ht : (reg.get? ty.base).isSome = true) : (reg.get? t'.base).isSome = true := by
  rw [← base_strip] at ht
  cases h with
  | item hst _ _ => rwa [hst] at ht
  | single _ hst _ => rwa [hst] at ht
  | field _ hk hf _ _ => exact hc _ _ hk _ hf

/-- For every fuel, type expression over declared types and JSON value: `coerce_value` does
    not let an exception other than `CoercionError` escape (it may only run out of recursion budget). -/
theorem coerce_value_never_raises {reg : Reg} (hc : RegClosed reg) (hn : CustomNeverRaises reg) :
    ∀ (fuel : Nat) (ty : Ty) (v : JV), (reg.get? ty.base).isSome = true → coerceValue reg fuel ty v ≠ .error .internal := by
  intro fuel
  induction fuel with
  | zero => intro ty v _ h; cases h
  | succ fuel ih =>
    intro ty v ht h
    rw [coerceValue_eq] at h
    rcases gStep_error h with he | he | ⟨n, hst, hl⟩ | hnn | ⟨t', x, hcall, hx⟩
    · cases he
    · cases he
    · rcases leafJ_error hl with he | ⟨_, hu | hr⟩
      · cases he
      · rw [← base_strip, hst, show (Ty.named n).base = n from rfl, hu] at ht
        cases ht
      · exact hn _ _ hr
    · cases hnn
    · exact ih t' x (call_known hc hcall ht) (coerceValue_eq reg fuel ▸ hx)

/-- with enough fuel (always available: `coerceValueT`) the outcome is a value or a rejection — nothing else -/
theorem coerce_value_value_or_rejection {reg : Reg} (hc : RegClosed reg) (hn : CustomNeverRaises reg) (ty : Ty) (v : JV)
    (ht : (reg.get? ty.base).isSome = true) : (∃ pv, coerceValueT reg ty v = .ok pv) ∨ coerceValueT reg ty v = .error .coercion := by
  have h1 := coerce_value_never_raises hc hn (fuelFor reg ty (sizeOf v)) ty v ht
  have h2 := (total_noFuel reg none ty).1 v
  unfold coerceValueT at *
  cases h : coerceValue reg (fuelFor reg ty (sizeOf v)) ty v with
  | ok pv => exact .inl ⟨pv, rfl⟩
  | error e => cases e <;> simp_all

private theorem coerceVariable_outcome {reg : Reg} (hc : RegClosed reg) (hn : CustomNeverRaises reg) (fuel : Nat)
    (variables : List (String × JV)) (d : VarDef) (hd : d.default = none) :
    (∃ o, coerceVariable reg fuel variables d = .ok o) ∨ coerceVariable reg fuel variables d = .error .coercion := by
  unfold coerceVariable
  split
  · exact .inr rfl
  · rename_i hknown
    split
    · simp only [hd]
      split
      · exact .inr rfl
      · exact .inl ⟨none, rfl⟩
    · rename_i v _
      split
      · exact .inr rfl
      · have := coerce_value_never_raises hc hn fuel d.type v (by cases hg : reg.get? d.type.base <;> simp_all)
        cases hcv : coerceValue reg fuel d.type v with
        | ok pv => exact .inl ⟨some pv, by simp⟩
        | error e => cases e <;> simp_all

/-- (Fixes A6 + A7.) Whatever JSON object is sent as `variables`, the variable stage of a request
    ends with coerced variables or with a rejection (`VariablesCoercionError`): no other exception, for any recursion budget
    (definitions without default literal; a default is a literal and goes through `value_from_ast`). -/
theorem variables_never_raise {reg : Reg} (hc : RegClosed reg) (hn : CustomNeverRaises reg) (fuel : Nat) (variables : List (String × JV)) :
    ∀ (defs : List VarDef), (∀ d, d ∈ defs → d.default = none) →
      (∃ env, coerceVariableValues reg fuel variables defs = .ok env) ∨ coerceVariableValues reg fuel variables defs = .error .coercion := by
  intro defs
  induction defs with
  | nil => intro _; exact .inl ⟨[], rfl⟩
  | cons d ds ih =>
    intro hd
    have ih' := ih (fun d' h' => hd d' (List.mem_cons_of_mem _ h'))
    simp only [coerceVariableValues]
    rcases coerceVariable_outcome hc hn fuel variables d (hd d List.mem_cons_self) with ⟨o, ho⟩ | he
    · rw [ho]
      rcases ih' with ⟨env, henv⟩ | herr
      · rw [henv]; cases o <;> simp
      · rw [herr]; simp
    · rw [he]
      rcases ih' with ⟨env, henv⟩ | herr
      · rw [henv]; simp
      · rw [herr]; simp

end PyGql.Props.C07
