/-
  C05 — the parser guarantees behind the hypotheses "no fragment is named \"\"" (`hne`) and "no alias is \"\""
  (`AliasesNonEmpty`) of the soundness chain: in every document `parse(text)` returns (lexer model ∘ parser model, all
  flag combinations), the name of every fragment definition, every alias, every field name and every spread name is a
  NON-EMPTY text.

  Proof: `lex_sound` (every token of the lexer is a complete lexeme; a `Name` lexeme is its own value and is not empty)
  and `parse_sound_document` (the token list is matched by the view of the returned document: every `Name` leaf of the
  view is the class of a token).

  What stays outside Lean: the validator's and executor's documents (`Validate.Doc`, strings) are built by the harness
  from the REAL parser's tree (`harness/corr/C06_model.py`), and the parser model is tied to the real parser by C01 /
  C02's correspondence; the transport of this fact along that translation (Text ↦ String) is not a Lean statement.
-/
import PyGqlModel.Props.C01_text

set_option linter.unusedSimpArgs false

namespace PyGql.Props.C05
open PyGql PyGql.Parse PyGql.Ast PyGql.Spec
open PyGql.Props.C01 (Matches matches_iff parse_sound_document lex_sound)

def NameToksOk (ts : List Tok) : Prop := ∀ t ∈ ts, t.kind = .name → t.value ≠ []

mutual
/-- every `Name` token leaf of the item carries a non-empty text -/
def namesOk : Item → Bool
  | .tok k v => if k = .name then decide (v ≠ []) else true
  | .optTok _ _ => true
  | .nla _ => true
  | .node _ is => namesOkAll is
def namesOkAll : List Item → Bool
  | [] => true
  | i :: is => namesOk i && namesOkAll is
end

private theorem namesOkAll_append : ∀ (a b : List Item), namesOkAll (a ++ b) = (namesOkAll a && namesOkAll b)
  | [], b => by simp [namesOkAll]
  | i :: is, b => by simp [namesOkAll, namesOkAll_append is b, Bool.and_assoc]

mutual
private theorem check_names (fl : Flags) : ∀ (i : Item) (l l' : Tok) (ts rest : List Tok), NameToksOk ts →
    i.check fl l ts = some (l', rest) → namesOk i = true ∧ NameToksOk rest
  | .tok k v, l, l', ts, rest, hts, h => by
    rw [check_tok] at h
    obtain ⟨t, rfl, hc, _⟩ := h
    refine ⟨?_, fun u hu => hts u (by simp [hu])⟩
    simp only [namesOk]
    split
    · rename_i hk
      subst hk
      simp only [cls, Prod.mk.injEq] at hc
      obtain ⟨hk, hv⟩ := hc
      simp only [hk, hasValue, if_true] at hv
      rw [← hv]
      simpa using hts t (by simp) hk
    · rfl
  | .optTok k v, l, l', ts, rest, hts, h => by
    rw [check_optTok] at h
    refine ⟨rfl, ?_⟩
    rcases h with ⟨t, rfl, _, _⟩ | ⟨_, rfl, _⟩
    · exact fun u hu => hts u (by simp [hu])
    · exact hts
  | .nla k, l, l', ts, rest, hts, h => by
    rw [check_nla] at h
    obtain ⟨_, rfl, _⟩ := h
    exact ⟨rfl, hts⟩
  | .node loc is, l, l', ts, rest, hts, h => by
    rw [check_node] at h
    obtain ⟨f, tl, rfl, hall, _⟩ := h
    have := checkAll_names fl is l l' (f :: tl) rest hts hall
    exact ⟨by simpa [namesOk] using this.1, this.2⟩
private theorem checkAll_names (fl : Flags) : ∀ (is : List Item) (l l' : Tok) (ts rest : List Tok), NameToksOk ts →
    Item.checkAll fl is l ts = some (l', rest) → namesOkAll is = true ∧ NameToksOk rest
  | [], l, l', ts, rest, hts, h => by
    simp only [Item.checkAll, Option.some.injEq, Prod.mk.injEq] at h
    obtain ⟨_, rfl⟩ := h
    exact ⟨rfl, hts⟩
  | i :: is, l, l', ts, rest, hts, h => by
    rw [checkAll_cons] at h
    obtain ⟨l1, ts1, h1, h2⟩ := h
    obtain ⟨a1, a2⟩ := check_names fl i l l1 ts ts1 hts h1
    obtain ⟨b1, b2⟩ := checkAll_names fl is l1 l' ts1 rest a2 h2
    exact ⟨by simp [namesOkAll, a1, b1], b2⟩
end

theorem lexed_names_nonempty (s : Text) (toks : List Tok) (h : Lex.lexAll s = .ok toks) : NameToksOk toks := by
  obtain ⟨body, rfl, hT⟩ := lex_sound s toks h
  have key : ∀ (n : Nat) (s : Text) (body : List Tok), Spec.Lexical.Tiles n s body → NameToksOk body := by
    intro n s body ht
    induction ht with
    | eof ign _ =>
      intro t ht hk
      simp only [List.mem_singleton] at ht
      subst ht
      cases hk
    | tok ign lex rest k v toks _ hl _ _ ih =>
      intro t ht hk
      simp only [List.mem_cons] at ht
      rcases ht with rfl | ht
      · simp only at hk
        subst hk
        simp only [Spec.Lexical.Lexeme] at hl
        obtain ⟨hn, rfl⟩ := hl
        simp only
        intro he
        subst he
        simp [Spec.Lexical.isName] at hn
      · exact ih t ht hk
  intro t ht hk
  simp only [List.mem_cons] at ht
  rcases ht with rfl | ht
  · simp [Lex.sofTok] at hk
  · exact key _ _ _ hT t ht hk

mutual
def selNames : Selection → List Text
  | .field alias_ name _ _ ss _ => (match alias_ with | none => [] | some a => [a.value]) ++ name.value :: optSsNames ss
  | .fragmentSpread name _ _ => [name.value]
  | .inlineFragment _ _ ss _ => ssNames ss
def ssNames : SelectionSet → List Text
  | .mk sels _ => selsNames sels
def optSsNames : Option SelectionSet → List Text
  | none => []
  | some ss => ssNames ss
def selsNames : List Selection → List Text
  | [] => []
  | s :: ss => selNames s ++ selsNames ss
end

def defNames : Definition → List Text
  | .operation d => ssNames d.selectionSet
  | .fragment d => d.name.value :: ssNames d.selectionSet
  | _ => []

private theorem namesOkAll_mem : ∀ (is : List Item) (i : Item), namesOkAll is = true → i ∈ is → namesOk i = true
  | [], _, _, h => by simp at h
  | j :: js, i, h, hm => by
    simp only [namesOkAll, Bool.and_eq_true] at h
    simp only [List.mem_cons] at hm
    rcases hm with rfl | hm
    · exact h.1
    · exact namesOkAll_mem js i h.2 hm

private theorem nameV_ok (n : Name) (h : namesOk (nameV n) = true) : n.value ≠ [] := by
  simpa [nameV, namesOk, namesOkAll] using h

mutual
private theorem sel_names_ok : ∀ (x : Selection), namesOk (selectionV x) = true → ∀ n ∈ selNames x, n ≠ []
  | .field alias_ name args dirs ss loc, h, n, hn => by
    simp only [selectionV, namesOk] at h
    simp only [selNames, List.mem_append, List.mem_cons] at hn
    rcases hn with hn | rfl | hn
    · cases alias_ with
      | none => simp at hn
      | some a =>
        simp only [List.mem_singleton] at hn
        subst hn
        exact nameV_ok a (namesOkAll_mem _ _ h (by simp))
    · exact nameV_ok name (namesOkAll_mem _ _ h (by simp))
    · cases ss with
      | none => simp [optSsNames] at hn
      | some s =>
        exact ss_names_ok s (namesOkAll_mem _ _ h (by simp [optSelectionSetV])) n (by simpa [optSsNames] using hn)
  | .fragmentSpread name dirs loc, h, n, hn => by
    simp only [selectionV, namesOk] at h
    simp only [selNames, List.mem_singleton] at hn
    subst hn
    exact nameV_ok name (namesOkAll_mem _ _ h (by simp))
  | .inlineFragment tc dirs ss loc, h, n, hn => by
    simp only [selectionV, namesOk] at h
    exact ss_names_ok ss (namesOkAll_mem _ _ h (by simp)) n (by simpa [selNames] using hn)
private theorem ss_names_ok : ∀ (x : SelectionSet), namesOk (selectionSetV x) = true → ∀ n ∈ ssNames x, n ≠ []
  | .mk sels loc, h, n, hn => by
    simp only [selectionSetV, namesOk, namesOkAll, namesOkAll_append, Bool.and_eq_true] at h
    exact sels_names_ok sels h.2.1 n (by simpa [ssNames] using hn)
private theorem sels_names_ok : ∀ (xs : List Selection), namesOkAll (selectionsV xs) = true → ∀ n ∈ selsNames xs, n ≠ []
  | [], _, n, hn => by simp [selsNames] at hn
  | x :: xs, h, n, hn => by
    simp only [selectionsV, namesOkAll, Bool.and_eq_true] at h
    simp only [selsNames, List.mem_append] at hn
    rcases hn with hn | hn
    · exact sel_names_ok x h.1 n hn
    · exact sels_names_ok xs h.2 n hn
end

/-- In the document `parse(text)` returns (any flags), no fragment definition is named by
    the empty text, and no alias, field name or spread name is empty: the parser-side guarantee behind the hypotheses
    `hne` and `AliasesNonEmpty` of `accepted_cannot_go_wrong_merged`. -/
theorem parsed_names_nonempty (fl : Flags) (s : Text) (d : Document) (h : parseText fl s = some d) :
    ∀ x ∈ d.definitions, ∀ n ∈ defNames x, n ≠ [] := by
  unfold parseText at h
  cases hl : Lex.lexAll s with
  | error e => simp [hl] at h
  | ok toks =>
    simp only [hl] at h
    cases hp : parseDocument fl toks with
    | error e => simp [hp, Except.toOption] at h
    | ok d' =>
      simp only [hp, Except.toOption, Option.some.injEq] at h
      subst h
      obtain ⟨l', hm⟩ := (matches_iff _ _ _).1 (parse_sound_document fl toks d' hp).2
      have hall := (checkAll_names fl _ _ _ _ _ (lexed_names_nonempty s toks hl) hm).1
      simp only [namesOkAll, documentV, namesOk, namesOkAll_append, Bool.and_eq_true] at hall
      have hdefs := hall.1.2.1
      intro x hx n hn
      have hx' := namesOkAll_mem _ _ hdefs (List.mem_map.mpr ⟨x, hx, rfl⟩)
      cases x with
      | operation o =>
        simp only [defNames] at hn
        simp only [definitionV, operationV] at hx'
        split at hx'
        · simp only [namesOk] at hx'
          exact ss_names_ok _ (namesOkAll_mem _ _ hx' (by simp)) n hn
        · simp only [namesOk] at hx'
          exact ss_names_ok _ (namesOkAll_mem _ _ hx' (by simp)) n hn
      | fragment f =>
        simp only [defNames, List.mem_cons] at hn
        simp only [definitionV, fragmentV, namesOk] at hx'
        rcases hn with rfl | hn
        · exact nameV_ok f.name (namesOkAll_mem _ _ hx' (by simp))
        · exact ss_names_ok _ (namesOkAll_mem _ _ hx' (by simp)) n hn
      | _ => simp [defNames] at hn

/-! non-vacuity: `{ x: a ...F } fragment F on Q { b }` parses; its names are `x`, `a`, `F`, `F`, `b` -/
example : ((parseText {} (textOfString "{ x: a ...F } fragment F on Q { b }")).map fun d => d.definitions.map defNames)
    = some [[textOfString "x", textOfString "a", textOfString "F"], [textOfString "F", textOfString "b"]] := by decide +kernel

end PyGql.Props.C05
