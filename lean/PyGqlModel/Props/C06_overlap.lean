/-
  C06 - property theorems: `OverlappingFieldsCanBeMergedChecker` (5.3.2), PARTIAL.

  Proved: the rule never raises a false alarm - on a document in which no selection set contains two conflicting
  fields (`Spec.overlappingFieldsCanBeMerged`: the specification's FieldsInSetCanMerge / SameResponseShape over the
  collected fields with their parent types, `Spec/ValidSpecOverlap.lean`) the rule, run alone, reports nothing.
  The search is followed through its five mutually recursive functions (`Lemmas/ValidateOverlapSearch.lean`):
  fuel, the compared-pairs memo, the compared-fragments set and the parent-type cache only make it report less,
  or (the cache) look at a selection set under another ADMISSIBLE parent type.

  The converse (a silent run implies the clause), i.e. that the search is COMPLETE in spite of its memo (a pair of
  fragments is skipped when it was - or is being - compared under the same exclusivity flag), its per-traversal set of
  compared fragments, its cache of the first parent type, and the fuel standing for Python's recursion limit: the full
  statement is `OverlapFullStatement` below; it is REFUTED as it stands (`Props/C06_overlap_refute.lean`: a fragment
  named "") and PROVED with side conditions in `Props/C06_overlap_sound.lean` (no spreads) and
  `Props/C06_overlap_full.lean` (`OverlapSide`): for every key of the final memo the obligations "all direct fields
  compared, all nested fragment pairs covered by the memo" are established by the call that inserted the key and are
  monotone in the memo - then a conflict derivation (`Spec.Conf`, finite) is chased through the memo to a call of
  `_find_conflict` that returned true.

  THE EQUIVALENCE OF 5.3.2 IS KEPT IN FIVE FORMS. Un-memoised search (the code before fix 7e75356):
  `rule_overlapping_fields_can_be_merged_iff_partial` (`Props/C06_overlap_full.lean`, under `OverlapHyps`), then `…_iff_wf`
  (`Props/C06_overlap_hyps_parents.lean`: `OverlapHyps` discharged, one check an observation of the run), then `…_iff_ranked`
  (`Props/C06_overlap_hyps_ranks.lean`: all checks static) - `verdict_iff_all` has its hypotheses (`overlapHyps_of_wf_ranked`).
  Memoised search (what /repo runs):
  `rule_overlapping_fields_memo_iff` (`Props/C06_overlap_memo_complete.lean`, under `ParentsAgree`), then
  `rule_overlapping_fields_memo_iff_wf` (same file: `ParentsAgree` discharged) - the CURRENT and strongest form, fewest
  hypotheses, the one `verdict_iff_all_memo` and the chain statements of `Props/C06_chain.lean` use.
-/
import PyGqlModel.Props.C06_names
import PyGqlModel.Props.C06_witness
import PyGqlModel.Lemmas.ValidateOverlapWalk
namespace PyGql.Props.C06
open PyGql PyGql.Validate PyGql.Validate.Spec

/-- **5.3.2, one half (PARTIAL)**: if no selection set of the document contains two conflicting fields, then
    `OverlappingFieldsCanBeMergedChecker` run alone reports nothing. (`fx.v7`: the fixed step (G) of
    `_conflicts_between_fragments`, ledger V7; `Fixes.all` = /repo HEAD has it.) -/
theorem rule_overlapping_fields_can_be_merged_no_false_alarm_partial (s : SchemaD) (fx : Fixes) (h7 : fx.v7 = true)
    (d : Doc) : Spec.overlappingFieldsCanBeMerged s d → Silent s fx .overlappingFieldsCanBeMerged d := by
  intro H
  unfold Silent alone
  exact ov_document s fx d h7 H

/-- the same, contrapositive: **an error of the rule is attributable to two conflicting fields of one selection
    set** of the document -/
theorem rule_overlapping_fields_reported_conflict_partial (s : SchemaD) (fx : Fixes) (h7 : fx.v7 = true) (d : Doc)
    (h : ¬ Silent s fx .overlappingFieldsCanBeMerged d) :
    ¬ (∀ i sels, SelSet d i sels → ∀ p, Adm s d i p → ∀ rn e1 e2, Coll s d p sels rn e1 → Coll s d p sels rn e2 →
      ¬ Conf s d false e1 e2) :=
  fun H => h (rule_overlapping_fields_can_be_merged_no_false_alarm_partial s fx h7 d H)

/-- validation did not raise (no `RecursionError` - the model's fuel -, no `AttributeError`) -/
def NoCrash (s : SchemaD) (fx : Fixes) (d : Doc) : Prop := (alone s fx .overlappingFieldsCanBeMerged d).rs.crash = none

/-- **the full statement** (refuted as it stands, `Props/C06_overlap_refute.lean`): for the fixed code, when validation does not raise and the three routes
    to the parent type of a selection set agree, the rule is silent EXACTLY when the clause holds -/
def OverlapFullStatement : Prop :=
  ∀ (s : SchemaD) (fx : Fixes) (d : Doc), fx.v7 = true → NoCrash s fx d → Spec.ParentsAgree s d →
    (Silent s fx .overlappingFieldsCanBeMerged d ↔ Spec.overlappingFieldsCanBeMerged s d)
-- the `←` half is `rule_overlapping_fields_can_be_merged_no_false_alarm_partial` and needs none of the side conditions

private theorem typesConflict_irrefl (s : SchemaD) : ∀ t : Ty, typesConflict s t t = false
  | .named a => by simp [typesConflict]
  | .list a => by rw [typesConflict]; exact typesConflict_irrefl s a
  | .nonNull a => by rw [typesConflict]; exact typesConflict_irrefl s a

/-- `{ a }` (schema of `Props/C06_witness.lean`) satisfies the clause: its only selection set holds one field, which
    does not conflict with itself whatever parent type it is looked at -/
example : Spec.overlappingFieldsCanBeMerged wSchema ⟨[opV [] 1 [fld none "a"]]⟩ := by
  intro i sels hsel p _ rn e1 e2 h1 h2 hcf
  have hsels : sels = [fld none "a"] := by
    simp only [SelSet, nodes, opV, fld, defNodes, selsNodes, selNodes, argsNodes, dirsNodes, List.flatMap_cons,
      List.flatMap_nil, List.mem_cons, reduceCtorEq, false_or, List.append_nil, List.nil_append, Bool.false_eq_true,
      ↓reduceIte, Node.selectionSet.injEq, List.not_mem_nil, or_false] at hsel
    exact hsel.2
  subst hsels
  have hent : ∀ rn e, Coll wSchema ⟨[opV [] 1 [fld none "a"]]⟩ p [fld none "a"] rn e →
      e = { parent := p, name := "a", args := [], hasSub := false, ssid := 0, sub := [],
            fdef := p.bind fun q => ovFieldOf wSchema q "a" } := by
    intro rn e h
    rcases h with h | ⟨g, hg, _⟩
    · cases h with
      | field hm => simp only [fld, List.mem_singleton, Sel.field.injEq] at hm; obtain ⟨_, rfl, rfl, _, rfl, rfl, rfl⟩ := hm; rfl
      | inline hm _ => simp [fld] at hm
    · cases hg with
      | spread hm => simp [fld] at hm
      | inline hm _ => simp [fld] at hm
  rw [hent rn e1 h1, hent rn e2 h2] at hcf
  cases hcf with
  | args _ h => rcases h with h | h
                · exact h rfl
                · have h0 : sameArguments [] [] = some true := by decide
                  simp only at h; rw [h0] at h; cases h
  | types h1 h2 h3 =>
    simp only at h1 h2
    rw [h1] at h2; cases h2
    rw [typesConflict_irrefl] at h3; cases h3
  | sub h => cases h
  | subSwap h => cases h

/-- `{ x: a  x: o { s } }`: the two fields named `x` conflict (different field names); the rule reports, so the
    clause fails -/
example : ¬ Spec.overlappingFieldsCanBeMerged wSchema
    ⟨[opV [] 1 [fld (some "x") "a", .field (some "x") "o" [] [] true 2 [fld none "s"]]]⟩ := fun h =>
  absurd (rule_overlapping_fields_can_be_merged_no_false_alarm_partial wSchema Fixes.all rfl _ h)
    (by unfold Silent; decide +kernel)

end PyGql.Props.C06
