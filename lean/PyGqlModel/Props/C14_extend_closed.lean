/-
  C14 — `extend_closed` (FULL): closedness of `extend_schema`'s result.

  `extend_closed`: for every heap, every closed well-formed source and every extension document that only uses defined names and
  defines new, distinct type names (`ExtOK`), the result of `extend_schema` is CLOSED: every type the result registers — the
  specified scalars, the rebuilt object of every source type WITH the fields / input fields / union members the document adds, the
  object types the document defines — and every directive — rebuilt or defined by the document — only holds references that are
  THE objects registered under their names in the result; the root operation types too. For the variant of the code that rebuilds
  every registered type (`extKeepAll`) and builds added input fields against the extended registry (`extInputFieldExtended`,
  C11-S1 fixed) — the variant of /repo (`current_extend_closed`).
  `extend_closed_kept_partial` (+ `extend_closed_source_directives`, `extend_closed_roots`) is the part taken over from the source;
  it needs neither `ExtOK` nor `extInputFieldExtended` and is SUBSUMED by `extend_closed` where that applies.
-/
import PyGqlModel.Lemmas.HeapExtClosed
import PyGqlModel.Props.C14_extend


namespace PyGql.Props.C14
open PyGql.Heap PyGql.Heap.Own

/-- the document only uses defined names (of the source or of the document itself: `ExtUses`, Lemmas/HeapExtClosed.lean — every
    type expression of an added field / argument / input field, of a field / argument of a defined type, of an argument of a
    defined directive, every added union member); the types it defines are new and distinct -/
def ExtOK (s : Schema) (ext : Ext) : Prop :=
  ExtUses (fun x => x ∈ names s ∨ x ∈ ext.newTypes.map (·.1)) ext ∧ (ext.newTypes.map (·.1)).Nodup ∧
  ∀ e, e ∈ ext.newTypes → e.1 ∉ names s

/-- FULL statement: extension results are closed -/
def ExtendClosed (cfg : Cfg) : Prop :=
  ∀ (ext : Ext) (s : Schema) (h : Heap), closedB h s = true → wfB h s = true → ExtOK s ext →
    closedB (extend cfg ext s h).1 (extend cfg ext s h).2 = true

def KeptClosed (h : Heap) (reg : List (String × Addr)) (k : Kind) (kept : List Addr) : Prop :=
  match k with
  | .input => ∀ c, c ∈ kept → argClosed h reg c = true
  | .object | .interface => ∀ c, c ∈ kept → fieldClosed h reg c = true
  | _ => True

private theorem keptClosed_iff {h : Heap} {reg : List (String × Addr)} {k : Kind} {kept : List Addr} :
    KeptClosed h reg k kept ↔ ByKind k (∀ c, c ∈ kept → fieldClosed h reg c = true) (∀ c, c ∈ kept → argClosed h reg c = true) := by
  cases k <;> exact Iff.rfl

private theorem argRelB_closed {k : Bool} {N : List (String × Addr)} {h0 hout : Heap} {lo : Nat} {chk0 : Ref → Bool}
    (hreg : ∀ r, chk0 r = true → (lookup N r.name).isSome = true) {a c : Addr} (ha : argShape chk0 h0 a = true)
    (r : ArgRelB k N h0 hout lo a c) : argClosed hout N c = true := by
  obtain ⟨_, g, g', e1, e2, _, _, _, hty, _⟩ := r
  obtain ⟨g0, hg0, hc0⟩ := (argShape_iff chk0 h0 a).mp ha
  rw [e1] at hg0; cases hg0
  simp only [argClosed]
  exact (argShape_iff _ hout c).mpr ⟨g', e2, by rw [hty]; exact refOK_repoint N g.ty (hreg _ hc0)⟩

private theorem all2_argRelB_closed {k : Bool} {N : List (String × Addr)} {h0 hout : Heap} {lo : Nat} {chk0 : Ref → Bool}
    (hreg : ∀ r, chk0 r = true → (lookup N r.name).isSome = true) {as cs : List Addr} (hs : ∀ a, a ∈ as → argShape chk0 h0 a = true)
    (r : All2 (ArgRelB k N h0 hout lo) as cs) : ∀ c, c ∈ cs → argClosed hout N c = true := by
  intro c hc
  obtain ⟨a, ha, rac⟩ := All2.mem_right r c hc
  exact argRelB_closed hreg (hs a ha) rac

private theorem fieldRelB_closed {cfg : Cfg} {N : List (String × Addr)} {h0 hout : Heap} {lo : Nat} {chk0 : Ref → Bool}
    (hreg : ∀ r, chk0 r = true → (lookup N r.name).isSome = true) {a c : Addr} (ha : fieldShape chk0 h0 a = true)
    (r : FieldRelB cfg N h0 hout lo a c) : fieldClosed hout N c = true := by
  obtain ⟨_, f, f', e1, e2, ⟨_, _, _, _, hty, _, _⟩, hargs⟩ := r
  obtain ⟨f0, hf0, hc0, ha0⟩ := (fieldShape_iff chk0 h0 a).mp ha
  rw [e1] at hf0; cases hf0
  simp only [fieldClosed]
  refine (fieldShape_iff _ hout c).mpr ⟨f', e2, by rw [hty]; exact refOK_repoint N f.ty (hreg _ hc0), ?_⟩
  exact all2_argRelB_closed hreg ha0 hargs

/-- PARTIAL form of `ExtendClosed` (see the header): the part of the result that is rebuilt from the source is closed. It holds for
    EVERY variant that rebuilds all types (no `extInputFieldExtended`, no `ExtOK`: also for documents using undefined names); for the
    variant of /repo the full `extend_closed` covers it. -/
theorem extend_closed_kept_partial (cfg : Cfg) (hk : cfg.extKeepAll = true) (ext : Ext) (s : Schema) (h : Heap)
    (hc : closedB h s = true) (hw : wfB h s = true) (hnew : ∀ e, e ∈ ext.newTypes → e.1 ∉ names s)
    (n : String) (a : Addr) (t : TypeO) (hm : (n, a) ∈ s.types) (hp : isProtected n = false) (ht : h.readType a = some t) :
    ∃ a' t' kept added more, lookup (extend cfg ext s h).2.types n = some a' ∧ (extend cfg ext s h).1.readType a' = some t' ∧
      t'.name = n ∧ t'.kind = t.kind ∧ t'.fields = kept ++ added ∧ kept.length = (typeKids t).length ∧
      KeptClosed (extend cfg ext s h).1 (extend cfg ext s h).2.types t.kind kept ∧
      (t.kind = Kind.object → ∀ r, r ∈ t'.ifaces → refOK (extend cfg ext s h).2.types r = true) ∧
      (t.kind = Kind.union → ∃ old, t'.members = old ++ more ∧ old.length = t.members.length ∧
        ∀ r, r ∈ old → refOK (extend cfg ext s h).2.types r = true) := by
  have w := wfs_of_closedB hc hw
  have hreg : ∀ r, refOK s.types r = true → (lookup (extend cfg ext s h).2.types r.name).isSome = true := fun r hr =>
    extend_registers_source_names cfg hk ext s h w.nodup r.name (name_of_lookup (refOK_lookup hr))
  obtain ⟨t0, ht0, hrefs, hmem⟩ := (typeShape_iff _ h a).mp (w.types (n, a) hm)
  rw [ht] at ht0; cases ht0
  obtain ⟨a', t', kept, added, g1, g2, g3, g4, g5, g6, more, g7⟩ :=
    extend_type_full_reg cfg hk ext s h w.nodup hnew n a t hm hp ht (membersReadable_of_shape _ h a t ht (w.types (n, a) hm))
  have hname : t.name = n := by
    have := w.names (n, a) hm
    simpa [nameOK, ht] using this
  refine ⟨a', t', kept, added, more, g1, g2, g3.1.trans hname, g3.2.1, g4, ?_, ?_, ?_, ?_⟩
  · exact (((membersRel_iff.mp g5).and (typeKids_byKind t)).imp (fun ⟨r, e⟩ => e ▸ r.length_eq.symm) (fun ⟨r, e⟩ => e ▸ r.length_eq.symm)
      fun ⟨r, e⟩ => by rw [r, e]).elim
  · exact keptClosed_iff.mpr (((membersRel_iff.mp g5).and (typeMembersOK_byKind.mp hmem)).imp
      (fun ⟨g5, hmem⟩ c hcm => let ⟨x, hx, rxc⟩ := All2.mem_right g5 c hcm; fieldRelB_closed hreg (hmem x hx) rxc)
      (fun ⟨g5, hmem⟩ => all2_argRelB_closed hreg hmem g5) fun _ => trivial)
  · intro hko r hr
    rw [g6] at hr
    apply refOK_repointRefs _ t.ifaces _ r hr
    intro r0 hr0
    simp only [typeRefs, hko, List.all_eq_true] at hrefs
    exact hreg r0 (hrefs r0 hr0)
  · intro hku
    refine ⟨repointRefs (extend cfg ext s h).2.types t.members, g7, by simp [repointRefs], ?_⟩
    apply refOK_repointRefs
    intro r0 hr0
    simp only [typeRefs, hku, List.all_eq_true] at hrefs
    exact hreg r0 (hrefs r0 hr0)

/-- … every directive of the source: the result registers under its name a rebuilt directive whose argument type references are
    the registered objects -/
theorem extend_closed_source_directives (cfg : Cfg) (hk : cfg.extKeepAll = true) (ext : Ext) (s : Schema) (h : Heap)
    (hc : closedB h s = true) (hw : wfB h s = true) (hnd : (s.dirs.map (·.1)).Nodup) (e : String × Addr) (he : e ∈ s.dirs) :
    ∃ a', lookup (extend cfg ext s h).2.dirs e.1 = some a' ∧
      dirClosed (extend cfg ext s h).1 (extend cfg ext s h).2.types a' = true := by
  have w := wfs_of_closedB hc hw
  have hreg : ∀ r, refOK s.types r = true → (lookup (extend cfg ext s h).2.types r.name).isSome = true := fun r hr =>
    extend_registers_source_names cfg hk ext s h w.nodup r.name (name_of_lookup (refOK_lookup hr))
  obtain ⟨a', h1, _, _, d, d', r1, r2, _, _, _, hargs⟩ :=
    extend_dir_full_reg cfg hk ext s h w.nodup hnd (fun e' he' => dirShape_readable (w.dirs e' he')) e he
  refine ⟨a', h1, ?_⟩
  have hs := w.dirs e he
  simp only [dirShape, r1, List.all_eq_true] at hs
  simp only [dirClosed, dirShape, r2, List.all_eq_true]
  exact all2_argRelB_closed hreg hs hargs

/-- … and the root operation references are the registered objects (by construction: `reRoot` of the result's registry) -/
theorem extend_closed_roots (cfg : Cfg) (hk : cfg.extKeepAll = true) (ext : Ext) (s : Schema) (h : Heap) :
    rootOK (refOK (extend cfg ext s h).2.types) (extend cfg ext s h).2.query = true ∧
    rootOK (refOK (extend cfg ext s h).2.types) (extend cfg ext s h).2.mutation = true ∧
    rootOK (refOK (extend cfg ext s h).2.types) (extend cfg ext s h).2.subscription = true := by
  have key : ∀ (reg : List (String × Addr)) (r : Option Ref), rootOK (refOK reg) (reRoot reg r) = true := by
    intro reg r
    cases r with
    | none => rfl
    | some r =>
      simp only [reRoot, Option.bind_some]
      cases hl : lookup reg r.name with
      | none => rfl
      | some a => simp [rootOK, refOK, hl]
  obtain ⟨q, m, su, _⟩ := untouched_preserved_extend_schema_level cfg hk ext s h
  rw [q, m, su]
  exact ⟨key _ _, key _ _, key _ _⟩


private theorem extUses_mono {R R' : String → Prop} (hr : ∀ x, R x → R' x) {ext : Ext} (u : ExtUses R ext) : ExtUses R' ext :=
  ⟨fun nm f hf => ⟨hr _ (u.fields nm f hf).1, fun g hg => hr _ ((u.fields nm f hf).2 g hg)⟩,
   fun nm g hg => hr _ (u.inputs nm g hg), fun nm m hm => hr _ (u.members nm m hm),
   fun e f he hf => ⟨hr _ (u.newTypes e f he hf).1, fun g hg => hr _ ((u.newTypes e f he hf).2 g hg)⟩,
   fun e g he hg => hr _ (u.newDirs e g he hg)⟩

theorem extend_registers_new_names (cfg : Cfg) (hk : cfg.extKeepAll = true) (ext : Ext) (s : Schema) (h : Heap) (n : String)
    (hn : n ∈ ext.newTypes.map (·.1)) : (lookup (extend cfg ext s h).2.types n).isSome = true := by
  simp only [extend, hk, if_true]
  apply lookup_append_isSome_right
  obtain ⟨x, hx⟩ := allocPlaceholders_some ((s.types.filter fun e => !isProtected e.1).map (·.1) ++ ext.newTypes.map (·.1)) h n
    (List.mem_append.mpr (Or.inr hn))
  rw [hx]; rfl

theorem extend_closed (cfg : Cfg) (hk : cfg.extKeepAll = true) (hin : cfg.extInputFieldExtended = true) : ExtendClosed cfg := by
  intro ext s h hc hw hok
  have w := wfs_of_closedB hc hw
  obtain ⟨hu, hnd, hnew⟩ := hok
  refine extend_closed_all cfg hk hin ext s h w hnd hnew (extUses_mono ?_ hu) (extend_frames_source cfg ext s h).2
  intro x hx
  rcases hx with hx | hx
  · exact extend_registers_source_names cfg hk ext s h w.nodup x hx
  · exact extend_registers_new_names cfg hk ext s h x hx

theorem wfB_of_closedB {h : Heap} {s : Schema} (hc : closedB h s = true) (hp : ∀ e, e ∈ s.types → protLeaf h e = true)
    (hn : (s.types.map (·.1)).Nodup) : wfB h s = true := by
  simp only [closedB, shapeB, Bool.and_eq_true, List.all_eq_true] at hc
  exact wfB_of_wfs (chk := refOK s.types) ⟨hc.1.1.1.1.1, hc.1.1.1.1.2, hc.2, hp, hn⟩

/-- FULL: … and well-formed (distinct names, specified scalars untouched), so that it can itself be extended, cloned and
    transformed (`history_closed_framed`, Props/C14_history.lean); the document must not define a type under the name of a
    specified scalar -/
theorem extend_closed_wf (cfg : Cfg) (hk : cfg.extKeepAll = true) (hin : cfg.extInputFieldExtended = true) (ext : Ext) (s : Schema) (h : Heap)
    (hc : closedB h s = true) (hw : wfB h s = true) (hok : ExtOK s ext) (hnp : ∀ e, e ∈ ext.newTypes → isProtected e.1 = false) :
    closedB (extend cfg ext s h).1 (extend cfg ext s h).2 = true ∧ wfB (extend cfg ext s h).1 (extend cfg ext s h).2 = true := by
  have c := extend_closed cfg hk hin ext s h hc hw hok
  obtain ⟨p, n⟩ := extend_prot_nodup cfg hk ext s h (wfs_of_closedB hc hw) hok.2.1 hok.2.2 hnp (extend_frames_source cfg ext s h).2
  exact ⟨c, wfB_of_closedB c p n⟩

theorem current_extend_closed : ExtendClosed PyGql.Generated.HeapCfg.currentCfg :=
  extend_closed _ cur_extKeepAll cur_extInputFieldExtended

/-- `extend type Query { dogs(first: String): Dog }  extend interface Pet { age: String }  type Zed { z: Pet }` -/
def extMore : Ext :=
  { newTypes := [("Zed", [{ name := "z", ty := .named "Pet", args := [] }])],
    fields := [("Query", [{ name := "dogs", ty := .list (.named "Dog"), args := [{ name := "first", ty := .named "String" }] }]),
               ("Pet", [{ name := "age", ty := .named "String", args := [] }])],
    inputFields := [], members := [], values := [], newDirs := [("lim", [{ name := "n", ty := .named "Zed" }], ["FIELD"])] }

/-- non-vacuity of `ExtOK`, and the instance -/
example : closedB (extend Cfg.fixed extMore s0 h0).1 (extend Cfg.fixed extMore s0 h0).2 = true := by decide +kernel

/-- `type Zed { z: String }` only uses `String`, which the witness registers -/
theorem zed_extOK : ExtOK s0 zed := by
  refine ⟨⟨?_, ?_, ?_, ?_, ?_⟩, by decide +kernel, by decide +kernel⟩
  · intro nm f hf; cases hf
  · intro nm g hg; cases hg
  · intro nm m hm; cases hm
  · intro e f he hf
    obtain rfl := List.mem_singleton.1 he
    obtain rfl := List.mem_singleton.1 hf
    exact ⟨Or.inl (by decide +kernel), fun g hg => nomatch hg⟩
  · intro e g he hg; cases he

/-- non-vacuity of the hypotheses of `extend_closed`: the witness schema and `type Zed { z: String }` -/
example : closedB h0 s0 = true ∧ wfB h0 s0 = true ∧ ExtOK s0 zed := ⟨s0_closed, s0_wf, zed_extOK⟩

/-! ### the hypothesis `extInputFieldExtended` is needed (C11-S1) -/

/-- `enum E`, `input In { a: String }`, `type Query { f(x: In): String }` -/
def hIn : Heap := ⟨[
  .type { kind := .scalar, name := "String", desc := none, fields := [], ifaces := [], members := [], dres := none, rtype := none, values := [], prot := true },
  .type { kind := .enum, name := "E", desc := none, fields := [], ifaces := [], members := [], dres := none, rtype := none, values := ["A|None|None"], prot := false },
  .type { kind := .input, name := "In", desc := none, fields := [3], ifaces := [], members := [], dres := none, rtype := none, values := [], prot := false },
  .arg { name := "a", ty := sStr, py := "a", dflt := none, desc := none },
  .type { kind := .object, name := "Query", desc := none, fields := [5], ifaces := [], members := [], dres := none, rtype := none, values := [], prot := false },
  .field { name := "f", ty := sStr, args := [6], desc := none, depr := none, res := none, sub := none, py := "f" },
  .arg { name := "x", ty := .named ⟨"In", 2⟩, py := "x", dflt := none, desc := none }]⟩
def sIn : Schema := { types := [("String", 0), ("E", 1), ("In", 2), ("Query", 4)], dirs := [], query := some ⟨"Query", 4⟩,
                      mutation := none, subscription := none, dres := none }
/-- `extend input In { e: E }` -/
def extInE : Ext := { newTypes := [], fields := [], inputFields := [("In", [{ name := "e", ty := .named "E" }])], members := [], values := [], newDirs := [] }

private theorem extOK_inE : ExtOK sIn extInE := by
  refine ⟨⟨?_, ?_, ?_, ?_, ?_⟩, by decide +kernel, by decide +kernel⟩
  · intro nm f hf; cases hf
  · intro nm g hg
    simp only [extInE, assocD, List.find?_cons, List.find?_nil] at hg
    split at hg
    · obtain rfl := List.mem_singleton.1 hg
      exact Or.inl (by decide +kernel)
    · cases hg
  · intro nm m hm; cases hm
  · intro e f he hf; cases he
  · intro e g he hg; cases he

/-- REFUTATION for the code before C11-S1 was fixed (added input fields built against the registry of the schema being
    extended): the added input field `In.e` references the SOURCE's `E`, not the rebuilt `E` the result registers -/
theorem extend_closed_refuted_unextended_inputs : ¬ ExtendClosed { Cfg.fixed with extInputFieldExtended := false } := by
  intro hf
  have e : closedB (extend { Cfg.fixed with extInputFieldExtended := false } extInE sIn hIn).1
      (extend { Cfg.fixed with extInputFieldExtended := false } extInE sIn hIn).2 = false := by decide +kernel
  rw [hf extInE sIn hIn (by decide +kernel) (by decide +kernel) extOK_inE] at e
  cases e

/-- … and closed with the fix, on the same history -/
theorem extend_closed_witness_fixed : closedB (extend Cfg.fixed extInE sIn hIn).1 (extend Cfg.fixed extInE sIn hIn).2 = true := by decide +kernel

/-- non-vacuity on the witness (`Dog implements Pet` keeps its interface reference closed through `type Zed {z: String}`) -/
example : closedB h0 s0 = true ∧ wfB h0 s0 = true ∧ (∀ e, e ∈ zed.newTypes → e.1 ∉ names s0) ∧ (("Dog", 3) ∈ s0.types) ∧
    closedB (extend Cfg.fixed zed s0 h0).1 (extend Cfg.fixed zed s0 h0).2 = true :=
  ⟨s0_closed, s0_wf, zed_extOK.2.2, by decide +kernel, extend_preserves_witness_fixed.1⟩

end PyGql.Props.C14
