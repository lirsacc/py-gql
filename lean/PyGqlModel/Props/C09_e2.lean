/-
  C09 — finding E2 for mutations as a THEOREM PAIR (model: `AsyncExecE2.lean`, `executeSerial`; tied to the real code by
  the mutation half of the stage `e2-model`, every completion order on the manual executor).

  `mutation { m1 { a } m2 }`, `m1`'s iterable yields one object (sub-field `a` deferred) and then raises ResolverError:
  `m1` is null + error AT ONCE, the serial chain invokes `m2`'s resolver while `m1[0].a` is still outstanding.
  * `e2_serial_overlap_witness` — the trace of the generic Executor: `call m2` comes before `done m1[0].a`;
  * `e2_blocking_serial_witness` — BlockingExecutor: strictly serial;
  * `serial_order_e2_refuted` — the statement of `serial_order` (proved for the operation form WITHOUT failing completions)
    is FALSE once a list completion may raise after sub-resolvers were started.
-/
import PyGqlModel.AsyncExecE2
import PyGqlModel.Lemmas.ExecSerial

namespace PyGql.Props.C09
open PyGql.AsyncExec

def e2SerialWitness : E2.Op :=
  { before := .nil, key := "m1",
    items := .cons (.obj (.cons "a" .deferred (.ok (.leaf 1)) .nil)) .nil,
    after := .cons "m2" .sync (.ok (.leaf 5)) .nil }

/-- the generic Executor: `m2` is invoked (and finishes) while `m1[0].a` has been called and is not done -/
theorem e2_serial_overlap_witness :
    (E2.runAsyncSerial e2SerialWitness []).trace
      = [.call [.key "m1"], .done [.key "m1"], .call [.key "m1", .idx 0, .key "a"],
         .call [.key "m2"], .done [.key "m2"]] := by decide +kernel

/-- … and the response is already assembled: `m1[0].a` never contributes -/
theorem e2_serial_overlap_outcome :
    (E2.runAsyncSerial e2SerialWitness []).outcome
      = .ok (.obj [("m1", .null), ("m2", .leaf 5)]) [⟨[.key "m1"], .resolver⟩] := by rfl

/-- BlockingExecutor on the same operation: strictly serial -/
theorem e2_blocking_serial_witness :
    (E2.runBlocking e2SerialWitness).trace
      = [.call [.key "m1"], .done [.key "m1"], .call [.key "m1", .idx 0, .key "a"], .done [.key "m1", .idx 0, .key "a"],
         .call [.key "m2"], .done [.key "m2"]] := by decide +kernel

/-- the statement of `serial_order` transported to mutations whose first field is a failing list completion -/
def SerialOrderE2Statement : Prop :=
  ∀ (key : String) (items : Comps) (after : Flds) (schedule : List Nat) (pre post : List Ev) (k : String),
    (E2.runAsyncSerial ⟨.nil, key, items, after⟩ schedule).trace = pre ++ Ev.call [.key k] :: post →
    ncalls pre = ndones pre

/-- FALSE on the code of /repo (finding E2): at `call m2` two resolvers have been invoked and one has finished. -/
theorem serial_order_e2_refuted : ¬ SerialOrderE2Statement := by
  intro h
  have := h "m1" e2SerialWitness.items e2SerialWitness.after []
    [.call [.key "m1"], .done [.key "m1"], .call [.key "m1", .idx 0, .key "a"]] [.done [.key "m2"]] "m2" rfl
  revert this
  decide +kernel

/-- the deferred variant: `m2` deferred too; whatever completes first, `m2` was CALLED before `m1[0].a` was done -/
example :
    ((E2.runAsyncSerial ⟨.nil, "m1", e2SerialWitness.items, .cons "m2" .deferred (.ok (.leaf 5)) .nil⟩ [0, 0]).trace.take 4)
      = [.call [.key "m1"], .done [.key "m1"], .call [.key "m1", .idx 0, .key "a"], .call [.key "m2"]] := by decide +kernel

end PyGql.Props.C09
