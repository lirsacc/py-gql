/-
  C20 — "whenever no breaking change is reported, every operation valid against the old schema is valid against the
  new one": ALL schema-dependent rules of the C06 specification except OverlappingFieldsCanBeMerged (which is FALSE:
  finding G4), in one statement: `operations_stay_valid_rules_all`.

  25 of the 26 rules: the 14 that do not read the schema (their verdict cannot change), the 8 of
  `operations_stay_valid_rules`, PossibleFragmentSpreads (`nobreaking_possibleFragmentSpreads`),
  ValuesOfCorrectType (`nobreaking_valuesOfCorrectType`) and VariablesInAllowedPosition
  (`nobreaking_variablesInAllowedPosition`). Hypotheses: `OpsRooted` (necessary: finding G6), the well-formedness
  facts `OldWf` / `NewWf` / `OldWfIn` / `NewWfIn` that `Schema.validate()` guarantees, and the fixes V9 / V10 of
  /repo HEAD (`fx.v9`, `fx.v10`: both necessary, see C20_rules_values.lean).

  Non-vacuity: an evolution that relaxes an argument (`In!` → `In`), adds an optional input field and an enum value,
  relaxes a list item (`[Int!]` → `[Int]`), and a document that uses variables inside list and object literals.
-/
import PyGqlModel.Props.C20_rules_vars
import PyGqlModel.Props.C20_rules_ex
import PyGqlModel.Props.C06_values
import PyGqlModel.Props.C06_vars

set_option linter.unusedSimpArgs false

namespace PyGql.Props.C20
open PyGql PyGql.Differ PyGql.Diff PyGql.Validate PyGql.Validate.Spec

/-- every schema-dependent rule of the C06 specification except OverlappingFieldsCanBeMerged -/
structure SchemaRulesAll (s : SchemaD) (fx : Fixes) (d : Doc) : Prop where
  rules : SchemaRules s d
  possibleFragmentSpreads : possibleFragmentSpreads s fx d
  valuesOfCorrectType : valuesOfCorrectType s fx d
  variablesInAllowedPosition : variablesInAllowedPosition s d

/-- **Operations stay valid: 25 of the 26 rules** (specification predicates; PARTIAL with respect to the clause as worded,
    `OperationsStayValidFull` of Props/C20_full.lean: OverlappingFieldsCanBeMerged is omitted - it is false, G4 - and
    `OpsRooted` is assumed - necessary, G6; the same statement on the validator model is
    `operations_stay_valid_all_but_overlap_partial`). -/
theorem operations_stay_valid_rules_all (o n : SchemaD) (h : diffSchema o n 2 = []) (wo : OldWf o) (wn : NewWf n)
    (woi : OldWfIn o) (wni : NewWfIn n) (fx : Fixes) (hv9 : fx.v9 = true) (hv10 : fx.v10 = true) (d : Doc)
    (hR : OpsRooted o d) (hv : SchemaRulesAll o fx d) : SchemaRulesAll n fx d :=
  ⟨operations_stay_valid_rules o n h wo wn d hR hv.rules,
   nobreaking_possibleFragmentSpreads o n h wo wn d fx hv10 hR hv.rules hv.possibleFragmentSpreads,
   nobreaking_valuesOfCorrectType o n h wo wn woi wni fx hv9 d hR hv.rules hv.valuesOfCorrectType,
   nobreaking_variablesInAllowedPosition o n h wo wn woi fx hv9 d hR hv.rules hv.valuesOfCorrectType
     hv.variablesInAllowedPosition⟩

/-! ### a concrete compatible evolution of input positions -/

private def builtinsI : List TypeD :=
  [{ kind := .scalar, name := "Int" }, { kind := .scalar, name := "String" }, { kind := .scalar, name := "Boolean" },
   { kind := .object, name := "__Schema" }, { kind := .object, name := "__Type" }]

private def iO : SchemaD :=
  { query := some "Query",
    types := builtinsI ++
      [{ kind := .enum, name := "Color", values := [{ name := "RED" }] },
       { kind := .input, name := "In",
         inputFields := [{ name := "x", type := .nonNull (.named "Int") },
                         { name := "ys", type := .list (.nonNull (.named "Int")) },
                         { name := "sub", type := .named "In" }] },
       { kind := .object, name := "Query",
         fields := [{ name := "f", type := .named "Int",
                      args := [{ name := "a", type := .nonNull (.named "In") },
                               { name := "c", type := .named "Color" },
                               { name := "k", type := .nonNull (.named "String") }] }] }] }

/-- new schema: `a: In!` → `a: In`, `ys: [Int!]` → `[Int]`, `x: Int!` → `Int`, an optional input field and an enum value
    added -/
private def iN : SchemaD :=
  { query := some "Query",
    types := builtinsI ++
      [{ kind := .enum, name := "Color", values := [{ name := "RED" }, { name := "BLUE" }] },
       { kind := .input, name := "In",
         inputFields := [{ name := "x", type := .named "Int" },
                         { name := "ys", type := .list (.named "Int") },
                         { name := "sub", type := .named "In" },
                         { name := "extra", type := .named "String" }] },
       { kind := .object, name := "Query",
         fields := [{ name := "f", type := .named "Int",
                      args := [{ name := "a", type := .named "In" },
                               { name := "c", type := .named "Color" },
                               { name := "k", type := .nonNull (.named "String") }] }] }] }

/-- `query ($v: Int!, $w: String = "d", $i: In!) { f(a: {x: $v, ys: [$v, $v], sub: $i}, c: RED, k: $w) }`
    (`$w: String = "d"` at `k: String!`: allowed because the variable has a non-null default) -/
private def iDoc : Doc :=
  { defs := [.op "query" none
      [{ name := "v", type := .nonNull (.named "Int"), default := none },
       { name := "w", type := .named "String", default := some (.str "d") },
       { name := "i", type := .nonNull (.named "In"), default := none }] [] 0
      [.field none "f"
        [{ name := "a", value := .obj [.mk "x" (.var "v"), .mk "ys" (.list [.var "v", .var "v"]), .mk "sub" (.var "i")] },
         { name := "c", value := .enum "RED" },
         { name := "k", value := .var "w" }] [] false 0 []]] }

private theorem iO_wf : OldWf iO :=
  ⟨rfl, by decide +kernel, by decide +kernel⟩

private theorem iN_wf : NewWf iN := .of_nodup (by decide +kernel)

private theorem iO_wfIn : OldWfIn iO := by
  refine ⟨?_, ?_, ?_⟩ <;> unfold ArgsWf <;> decide +kernel

private theorem iN_wfIn : NewWfIn iN := .of_nodup (by decide +kernel)

private theorem iDiff : diffSchema iO iN 2 = [] := by decide +kernel
example : (diffSchema iO iN 0).length = 5 := by decide +kernel

private theorem iDoc_all : SchemaRulesAll iO {} iDoc :=
  ⟨rules_of_rulesB iO iDoc (by decide +kernel), spreads_of_spreadsB iO {} iDoc (by decide +kernel),
   (PyGql.Props.C06.rule_values_of_correct_type_iff iO {} iDoc).mp (by unfold PyGql.Props.C06.Silent; decide +kernel),
   (PyGql.Props.C06.rule_variables_in_allowed_position_iff iO {} rfl rfl iDoc).mp (by unfold PyGql.Props.C06.Silent; decide +kernel)⟩

/-- the hypotheses of `operations_stay_valid_rules_all` are met by a non-trivial instance -/
example : SchemaRulesAll iN {} iDoc :=
  operations_stay_valid_rules_all iO iN iDiff iO_wf iN_wf iO_wfIn iN_wfIn {} rfl rfl iDoc
    (rooted_of_rootedB iO iDoc (by decide +kernel)) iDoc_all

/-- ...and the document really has usages inside list and object literals at relaxed positions -/
example : (defUsages iN (iDoc.defs.headD (.ts false ""))).length = 5 := by decide +kernel

end PyGql.Props.C20
