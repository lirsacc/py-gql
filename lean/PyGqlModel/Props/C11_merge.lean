/-
  C11 — extensions: `_extend_<kind>_type` applied to a built type equals building the MERGED definition
  (definition followed by its extension blocks in document order), for every kind of type.
-/
import PyGqlModel.Props.C11_exact
import PyGqlModel.Lemmas.ListEqv


namespace PyGql.Props.C11
open PyGql PyGql.Sdl PyGql.SdlSpec

/-- the fold of `_extend_object_type` / `_extend_union_type` over names (interfaces, union members) -/
theorem names_merge_exact (env : Env) (sel : TypeDef → List String) :
    ∀ (exts : List TypeDef) (base : List String),
      (∀ e ∈ exts, checkNames env (sel e) = .ok ()) → (base ++ exts.flatMap sel).Nodup →
      exts.foldlM (fun acc e => do checkNames env (sel e); appendNew (.lib .ext) id acc (sel e)) base = .ok (base ++ exts.flatMap sel) := by
  intro exts base hb hn
  rw [← List.map_id (base ++ exts.flatMap sel)] at hn
  exact merge_fold_exact (.lib .ext) id (fun e => checkNames env (sel e)) (fun _ e => sel e) exts base sel
    (fun e he => ⟨(), hb e he, rfl⟩) hn

theorem extend_scalar_exact (env envX : Env) (hide : Option String) (exts : List TypeDef) (t : TypeD) (hk : t.kind = .scalar)
    (hkinds : ∀ e ∈ exts, e.name = t.name → e.kind = .scalar) : extendTypeX env envX hide exts t = .ok t := by
  have hmine := kinds_ok exts t .scalar hkinds
  unfold extendTypeX
  simp only [hmine, failIf, Bool.false_eq_true, if_false, hk]
  rfl

theorem extend_interface_exact (env envX : Env) (hide : Option String) (exts : List TypeDef) (t : TypeD) (hk : t.kind = .interface)
    (hkinds : ∀ e ∈ exts, e.name = t.name → e.kind = .interface) (news : TypeDef → List FieldD)
    (hb : ∀ e ∈ exts.filter (·.name == t.name), e.fields.mapM (buildFieldX env envX hide) = .ok (news e))
    (hn : ((t.fields ++ (exts.filter (·.name == t.name)).flatMap news).map (·.name)).Nodup) :
    extendTypeX env envX hide exts t = .ok { t with fields := t.fields ++ (exts.filter (·.name == t.name)).flatMap news } := by
  have hmine := kinds_ok exts t .interface hkinds
  have := extension_merge_exact (.lib .ext) (buildFieldX env envX hide) FieldD.name TypeDef.fields _ _ news hb hn
  unfold extendTypeX
  simp only [hmine, failIf, Bool.false_eq_true, if_false, hk]
  rw [this]
  rfl

theorem extend_input_exact (env envX : Env) (hide : Option String) (exts : List TypeDef) (t : TypeD) (hk : t.kind = .input)
    (hkinds : ∀ e ∈ exts, e.name = t.name → e.kind = .input) (news : TypeDef → List ArgD)
    (hb : ∀ e ∈ exts.filter (·.name == t.name), e.inputFields.mapM (buildArgumentX env envX hide) = .ok (news e))
    (hn : ((t.inputFields ++ (exts.filter (·.name == t.name)).flatMap news).map (·.name)).Nodup) :
    extendTypeX env envX hide exts t = .ok { t with inputFields := t.inputFields ++ (exts.filter (·.name == t.name)).flatMap news } := by
  have hmine := kinds_ok exts t .input hkinds
  have := extension_merge_exact (.lib .ext) (buildArgumentX env envX hide) ArgD.name TypeDef.inputFields _ _ news hb hn
  unfold extendTypeX
  simp only [hmine, failIf, Bool.false_eq_true, if_false, hk]
  rw [this]
  rfl

theorem extend_union_exact (env envX : Env) (hide : Option String) (exts : List TypeDef) (t : TypeD) (hk : t.kind = .union)
    (hkinds : ∀ e ∈ exts, e.name = t.name → e.kind = .union)
    (hb : ∀ e ∈ exts.filter (·.name == t.name), checkNames env e.members = .ok ())
    (hn : (t.members ++ (exts.filter (·.name == t.name)).flatMap (·.members)).Nodup) :
    extendTypeX env envX hide exts t = .ok { t with members := t.members ++ (exts.filter (·.name == t.name)).flatMap (·.members) } := by
  have hmine := kinds_ok exts t .union hkinds
  have := names_merge_exact env TypeDef.members _ _ hb hn
  unfold extendTypeX
  simp only [hmine, failIf, Bool.false_eq_true, if_false, hk]
  rw [this]
  rfl

theorem extend_object_exact (env envX : Env) (hide : Option String) (exts : List TypeDef) (t : TypeD) (hk : t.kind = .object)
    (hkinds : ∀ e ∈ exts, e.name = t.name → e.kind = .object) (news : TypeDef → List FieldD)
    (hb : ∀ e ∈ exts.filter (·.name == t.name), e.fields.mapM (buildFieldX env envX hide) = .ok (news e))
    (hn : ((t.fields ++ (exts.filter (·.name == t.name)).flatMap news).map (·.name)).Nodup)
    (hbi : ∀ e ∈ exts.filter (·.name == t.name), checkNames env e.interfaces = .ok ())
    (hni : (t.interfaces ++ (exts.filter (·.name == t.name)).flatMap (·.interfaces)).Nodup) :
    extendTypeX env envX hide exts t = .ok { t with fields := t.fields ++ (exts.filter (·.name == t.name)).flatMap news,
                                                    interfaces := t.interfaces ++ (exts.filter (·.name == t.name)).flatMap (·.interfaces) } := by
  have hmine := kinds_ok exts t .object hkinds
  have h1 := extension_merge_exact (.lib .ext) (buildFieldX env envX hide) FieldD.name TypeDef.fields _ _ news hb hn
  have h2 := names_merge_exact env TypeDef.interfaces _ _ hbi hni
  unfold extendTypeX
  simp only [hmine, failIf, Bool.false_eq_true, if_false, hk]
  rw [h1, h2]
  rfl

theorem mapM_append_inv {α β} (f : α → R β) : ∀ (l₁ l₂ : List α) (r : List β), (l₁ ++ l₂).mapM f = .ok r →
    ∃ r₁ r₂, l₁.mapM f = .ok r₁ ∧ l₂.mapM f = .ok r₂ ∧ r = r₁ ++ r₂ :=
  fun _ _ _ => Run.mapM_append_ok_iff.mp

/-- the built members of each block, read off the (successful) build of all blocks' members -/
def newsOf {E α β} (f : α → R β) (sel : E → List α) (e : E) : List β :=
  match (sel e).mapM f with | .ok r => r | .error _ => []

theorem flatMap_mapM_inv {E α β} (f : α → R β) (sel : E → List α) : ∀ (es : List E) (all : List β),
    (es.flatMap sel).mapM f = .ok all → (∀ e ∈ es, (sel e).mapM f = .ok (newsOf f sel e)) ∧ all = es.flatMap (newsOf f sel) := by
  intro es
  induction es with
  | nil => intro all h; simp [pure, Except.pure] at h; subst h; simp
  | cons e es ih =>
    intro all h
    rw [List.flatMap_cons] at h
    obtain ⟨r₁, r₂, h1, h2, h3⟩ := mapM_append_inv f _ _ _ h
    obtain ⟨ih1, ih2⟩ := ih r₂ h2
    have hn : newsOf f sel e = r₁ := by simp [newsOf, h1]
    refine ⟨?_, ?_⟩
    · intro e' he'
      rcases List.mem_cons.mp he' with rfl | hm
      · rw [hn]; exact h1
      · exact ih1 e' hm
    · rw [List.flatMap_cons, hn, h3, ih2]

theorem checkNames_ok_iff (env : Env) (ns : List String) : checkNames env ns = .ok () ↔ ns.all env.resolves = true := by
  unfold checkNames
  by_cases h : ns.all env.resolves = true
  · rw [if_pos h]
    exact iff_of_true rfl h
  · rw [if_neg h]
    exact iff_of_false (fun e => nomatch e) h

theorem checkNames_append_inv (env : Env) (a b : List String) (h : checkNames env (a ++ b) = .ok ()) :
    checkNames env a = .ok () ∧ checkNames env b = .ok () := by
  rw [checkNames_ok_iff, List.all_append, Bool.and_eq_true] at h
  exact ⟨(checkNames_ok_iff env a).mpr h.1, (checkNames_ok_iff env b).mpr h.2⟩

theorem checkNames_flatMap_inv (env : Env) (sel : TypeDef → List String) (es : List TypeDef)
    (h : checkNames env (es.flatMap sel) = .ok ()) : ∀ e ∈ es, checkNames env (sel e) = .ok () := by
  intro e he
  rw [checkNames_ok_iff] at h ⊢
  rw [List.all_eq_true] at h ⊢
  intro x hx
  exact h x (List.mem_flatMap.mpr ⟨e, he, hx⟩)

/-! ### the link: the extension step accepts what the merged definition declares, and the extended type IS the
built merged definition (fix C14-T15: defaults are evaluated in the extended types) -/

theorem mapM_of_ok {α β} (f g : α → R β) (hfg : ∀ x r, f x = .ok r → g x = .ok r) : ∀ (l : List α) (rs : List β),
    l.mapM f = .ok rs → l.mapM g = .ok rs := by
  intro l
  induction l with
  | nil => intro rs h; exact h
  | cons x xs ih =>
    intro rs h
    obtain ⟨b, bs, hb, hbs, rfl⟩ := Run.mapM_cons_ok_iff.mp h
    exact Run.mapM_cons_ok_iff.mpr ⟨_, _, hfg x b hb, ih bs hbs, rfl⟩

theorem defaultValueX_of_ok (eB eX : Env) (l : Lit) (ty : Ty) (v : J) (h : defaultValue eX l ty = .ok v) :
    defaultValueX eB eX none l ty = .ok v := h

theorem buildArgumentX_of_ok (eB eX : Env) (hres : ∀ n, eX.resolves n = eB.resolves n) (a : InputValDef) (r : ArgD)
    (h : buildArgument eX a = .ok r) : buildArgumentX eB eX none a = .ok r := by
  rw [buildArgumentX_none eB eX hres]
  exact h

theorem buildFieldX_of_ok (eB eX : Env) (hres : ∀ n, eX.resolves n = eB.resolves n) (f : FieldDef) (r : FieldD)
    (h : buildField eX f = .ok r) : buildFieldX eB eX none f = .ok r := by
  rw [buildFieldX_none eB eX hres]
  exact h

theorem buildTypeDefX_of_ok (eB eX : Env) (hres : ∀ n, eX.resolves n = eB.resolves n) (d : TypeDef) (r : TypeD)
    (h : buildTypeDef eX d = .ok r) : buildTypeDefX eB eX none d = .ok r := by
  rw [buildTypeDefX_none eB eX hres]
  exact h

theorem buildDirectiveX_of_ok (eB eX : Env) (hres : ∀ n, eX.resolves n = eB.resolves n) (d : DirDef) (r : DirectiveD)
    (h : buildDirective eX d = .ok r) : buildDirectiveX eB eX d = .ok r := by
  rw [buildDirectiveX_none eB eX hres]
  exact h

theorem mapM_names {α β γ} (f : α → R β) (na : α → γ) (nb : β → γ) (hf : ∀ x y, f x = .ok y → nb y = na x) :
    ∀ (l : List α) (r : List β), l.mapM f = .ok r → r.map nb = l.map na := by
  intro l
  induction l with
  | nil => intro r h; cases h; rfl
  | cons x xs ih =>
    intro r h
    obtain ⟨b, bs, hb, hbs, rfl⟩ := Run.mapM_cons_ok_iff.mp h
    rw [List.map_cons, List.map_cons, hf _ _ hb, ih bs hbs]

theorem buildArgumentX_name_type (eB eX : Env) (hide : Option String) (a : InputValDef) (r : ArgD)
    (h : buildArgumentX eB eX hide a = .ok r) : r.name = a.name ∧ r.type = a.type := by
  unfold buildArgumentX at h
  obtain ⟨_, _, h⟩ := bind_ok _ _ _ h
  cases hd : a.default with
  | none =>
    rw [hd] at h
    cases h
    exact ⟨rfl, rfl⟩
  | some l =>
    rw [hd] at h
    obtain ⟨_, _, h⟩ := bind_ok _ _ _ h
    cases h
    exact ⟨rfl, rfl⟩

theorem buildArgumentX_name (eB eX : Env) (hide : Option String) (a : InputValDef) (r : ArgD) (h : buildArgumentX eB eX hide a = .ok r) : r.name = a.name :=
  (buildArgumentX_name_type eB eX hide a r h).1

theorem buildArgument_name (env : Env) (a : InputValDef) (r : ArgD) (h : buildArgument env a = .ok r) : r.name = a.name := by
  rw [← buildArgumentX_none env env fun _ => rfl] at h
  exact buildArgumentX_name env env none a r h

theorem buildFieldX_name_args (eB eX : Env) (hide : Option String) (f : FieldDef) (r : FieldD) (h : buildFieldX eB eX hide f = .ok r) :
    r.name = f.name ∧ f.args.mapM (buildArgumentX eB eX hide) = .ok r.args := by
  unfold buildFieldX at h
  obtain ⟨_, _, h⟩ := bind_ok _ _ _ h
  obtain ⟨args, hargs, h⟩ := bind_ok _ _ _ h
  obtain ⟨_, _, h⟩ := bind_ok _ _ _ h
  cases h
  exact ⟨rfl, hargs⟩

theorem buildFieldX_name (eB eX : Env) (hide : Option String) (f : FieldDef) (r : FieldD) (h : buildFieldX eB eX hide f = .ok r) : r.name = f.name :=
  (buildFieldX_name_args eB eX hide f r h).1

theorem buildField_name (env : Env) (f : FieldDef) (r : FieldD) (h : buildField env f = .ok r) : r.name = f.name := by
  rw [← buildFieldX_none env env fun _ => rfl] at h
  exact buildFieldX_name env env none f r h

theorem buildEnumValue_name (v : EnumValDef) (r : EnumValD) (h : buildEnumValue v = .ok r) : r.name = v.name := by
  unfold buildEnumValue at h
  obtain ⟨_, _, h2⟩ := bind_ok _ _ _ h
  obtain ⟨_, _, h3⟩ := bind_ok _ _ _ h2
  have := ok_inj h3; subst this; rfl

theorem buildTypeDefX_lists (eB eX : Env) (hide : Option String) (d : TypeDef) (r : TypeD)
    (h : buildTypeDefX eB eX hide d = .ok r) : r.name = d.name ∧ r.kind = d.kind ∧
    (if d.kind = .object ∨ d.kind = .interface then d.fields.mapM (buildFieldX eB eX hide) = .ok r.fields else r.fields = []) ∧
    (if d.kind = .object then r.interfaces = d.interfaces else r.interfaces = []) ∧
    (if d.kind = .union then r.members = d.members else r.members = []) ∧
    (if d.kind = .enum then d.values.mapM buildEnumValue = .ok r.values else r.values = []) ∧
    (if d.kind = .input then d.inputFields.mapM (buildArgumentX eB eX hide) = .ok r.inputFields else r.inputFields = []) ∧
    r.desc = d.desc ∧ r.defaultResolver = none ∧ r.builtin = false := by
  unfold buildTypeDefX at h
  cases hk : d.kind <;> rw [hk] at h
  case scalar =>
    cases h
    exact ⟨rfl, rfl, rfl, rfl, rfl, rfl, rfl, rfl, rfl, rfl⟩
  case object =>
    obtain ⟨fs, hfs, h⟩ := bind_ok _ _ _ h
    obtain ⟨_, _, h⟩ := bind_ok _ _ _ h
    cases h
    exact ⟨rfl, rfl, hfs, rfl, rfl, rfl, rfl, rfl, rfl, rfl⟩
  case interface =>
    obtain ⟨fs, hfs, h⟩ := bind_ok _ _ _ h
    cases h
    exact ⟨rfl, rfl, hfs, rfl, rfl, rfl, rfl, rfl, rfl, rfl⟩
  case union =>
    obtain ⟨_, _, h⟩ := bind_ok _ _ _ h
    cases h
    exact ⟨rfl, rfl, rfl, rfl, rfl, rfl, rfl, rfl, rfl, rfl⟩
  case enum =>
    obtain ⟨_, _, h⟩ := bind_ok _ _ _ h
    obtain ⟨vs, hvs, h⟩ := bind_ok _ _ _ h
    cases h
    exact ⟨rfl, rfl, rfl, rfl, rfl, hvs, rfl, rfl, rfl, rfl⟩
  case input =>
    obtain ⟨fs, hfs, h⟩ := bind_ok _ _ _ h
    cases h
    exact ⟨rfl, rfl, rfl, rfl, rfl, rfl, hfs, rfl, rfl, rfl⟩

theorem buildTypeDef_name (env : Env) (t : TypeDef) (bt : TypeD) (h : buildTypeDef env t = .ok bt) : bt.name = t.name := by
  rw [← buildTypeDefX_none env env fun _ => rfl] at h
  exact (buildTypeDefX_lists env env none t bt h).1

theorem buildTypeDef_kind (env : Env) (t : TypeDef) (bt : TypeD) (h : buildTypeDef env t = .ok bt) : bt.kind = t.kind := by
  rw [← buildTypeDefX_none env env fun _ => rfl] at h
  exact (buildTypeDefX_lists env env none t bt h).2.1

theorem buildDirective_name (env : Env) (dd : DirDef) (r : DirectiveD) (h : buildDirective env dd = .ok r) : r.name = dd.name := by
  unfold buildDirective at h
  obtain ⟨_, _, h2⟩ := bind_ok _ _ _ h
  have := ok_inj h2; subst this; rfl

/-! The extension step looks at a live type only through its SKELETON: name, kind and member names. Types that
`buildTypeDef` built over the environment of the extension step have it, and so have the types the public
`extend_schema` extends: built earlier over the definitions of another document, or new and built with `buildTypeDefX`. -/

/-- `bt` has the name, the kind and the member NAMES of the definition `t` -/
structure Skel (t : TypeDef) (bt : TypeD) : Prop where
  name : bt.name = t.name
  kind : bt.kind = t.kind
  fields : (t.kind = .object ∨ t.kind = .interface) → bt.fields.map (·.name) = t.fields.map (·.name)
  interfaces : t.kind = .object → bt.interfaces = t.interfaces
  members : t.kind = .union → bt.members = t.members
  values : t.kind = .enum → bt.values.map (·.name) = t.values.map (·.name)
  inputFields : t.kind = .input → bt.inputFields.map (·.name) = t.inputFields.map (·.name)

theorem skel_of_buildX (eB eX : Env) (hide : Option String) (d : TypeDef) (r : TypeD) (h : buildTypeDefX eB eX hide d = .ok r) : Skel d r := by
  obtain ⟨hname, hkind, hf, hi, hm, hv, hx, _⟩ := buildTypeDefX_lists eB eX hide d r h
  exact ⟨hname, hkind,
    fun hk => mapM_names _ _ _ (buildFieldX_name eB eX hide) _ _ ((if_pos hk).mp hf),
    fun hk => (if_pos hk).mp hi,
    fun hk => (if_pos hk).mp hm,
    fun hk => mapM_names _ _ _ buildEnumValue_name _ _ ((if_pos hk).mp hv),
    fun hk => mapM_names _ _ _ (buildArgumentX_name eB eX hide) _ _ ((if_pos hk).mp hx)⟩

theorem skel_of_build (env : Env) (d : TypeDef) (r : TypeD) (h : buildTypeDef env d = .ok r) : Skel d r :=
  skel_of_buildX env env none d r (buildTypeDefX_none env env (fun _ => rfl) ▸ h)

theorem members_skel {α β} (bfX : α → R β) (na : α → String) (nb : β → String)
    (hbfX : ∀ x y, bfX x = .ok y → nb y = na x)
    (sel : TypeDef → List α) (base : List α) (es : List TypeDef) (cur all : List β)
    (hcur : cur.map nb = base.map na) (hall : (base ++ es.flatMap sel).mapM bfX = .ok all) (hn : (all.map nb).Nodup) :
    (∀ e ∈ es, (sel e).mapM bfX = .ok (newsOf bfX sel e)) ∧ ((cur ++ es.flatMap (newsOf bfX sel)).map nb).Nodup := by
  obtain ⟨r₁, r₂, h1, h2, h3⟩ := mapM_append_inv _ _ _ _ hall
  obtain ⟨hnews, hflat⟩ := flatMap_mapM_inv bfX sel es r₂ h2
  refine ⟨hnews, ?_⟩
  have e2 := mapM_names bfX na nb hbfX _ _ h1
  rw [h3, hflat, List.map_append, e2, ← hcur, ← List.map_append] at hn
  exact hn

theorem link_members {α β} (bf bfX : α → R β) (na : α → String) (nb : β → String)
    (hbf : ∀ x y, bf x = .ok y → nb y = na x) (hbfX : ∀ x y, bfX x = .ok y → nb y = na x)
    (sel : TypeDef → List α) (base : List α) (es : List TypeDef) (fs all : List β)
    (hfs : base.mapM bf = .ok fs) (hall : (base ++ es.flatMap sel).mapM bfX = .ok all) (hn : (all.map nb).Nodup) :
    (∀ e ∈ es, (sel e).mapM bfX = .ok (newsOf bfX sel e)) ∧ ((fs ++ es.flatMap (newsOf bfX sel)).map nb).Nodup :=
  members_skel bfX na nb hbfX sel base es fs all (mapM_names bf na nb hbf _ _ hfs) hall hn

theorem extend_accepts (eB eX : Env) (hide : Option String) (X : List TypeDef) (t : TypeDef) (bt r : TypeD)
    (hs : Skel t bt) (hm : buildTypeDefX eB eX hide (mergeDef X t) = .ok r)
    (hk : ∀ e ∈ X, e.name = t.name → e.kind = t.kind)
    (hnf : (t.kind = .object ∨ t.kind = .interface) → (r.fields.map (·.name)).Nodup)
    (hnx : t.kind = .input → (r.inputFields.map (·.name)).Nodup) (hnv : t.kind = .enum → (r.values.map (·.name)).Nodup)
    (hnm : t.kind = .union → r.members.Nodup) (hni : t.kind = .object → r.interfaces.Nodup) :
    ∃ c, extendTypeX eB eX hide X bt = .ok c ∧ c.name = t.name ∧ c.kind = t.kind := by
  obtain ⟨s1, s2, s3, s4, s5, s6, s7, s8⟩ := mergeDef_spec X t
  rw [← hs.name] at s4 s5 s6 s7 s8
  have hkinds : ∀ k, t.kind = k → ∀ e ∈ X, e.name = bt.name → e.kind = k :=
    fun k hkk e he hne => (hk e he (hne.trans hs.name)).trans hkk
  unfold buildTypeDefX at hm
  rw [s1] at hm
  cases hkk : t.kind <;> simp only [hkk] at hm
  ·
    have hbk : bt.kind = .scalar := hs.kind.trans hkk
    exact ⟨_, extend_scalar_exact eB eX hide X bt hbk (hkinds _ hkk), hs.name, hbk⟩
  ·
    have hbk : bt.kind = .object := hs.kind.trans hkk
    obtain ⟨fs', hfs', hm1⟩ := bind_ok _ _ _ hm
    obtain ⟨_, hc, hm2⟩ := bind_ok _ _ _ hm1
    rw [s4] at hfs'
    rw [s5] at hc
    have hc2 := checkNames_flatMap_inv eB TypeDef.interfaces _ (checkNames_append_inv eB _ _ hc).2
    cases hm2
    obtain ⟨hnews, hnd⟩ := members_skel _ _ _ (buildFieldX_name eB eX hide) TypeDef.fields _ _ _ _ (hs.fields (Or.inl hkk)) hfs' (hnf (Or.inl hkk))
    have hni' : (bt.interfaces ++ (mineOf X bt.name).flatMap (·.interfaces)).Nodup := by
      have := hni hkk; simp only [] at this; rw [s5] at this; rw [hs.interfaces hkk]; exact this
    exact ⟨_, extend_object_exact eB eX hide X bt hbk (hkinds _ hkk)
      (newsOf (buildFieldX eB eX hide) (·.fields)) hnews hnd hc2 hni', hs.name, hbk⟩
  ·
    have hbk : bt.kind = .interface := hs.kind.trans hkk
    obtain ⟨fs', hfs', hm2⟩ := bind_ok _ _ _ hm
    rw [s4] at hfs'
    cases hm2
    obtain ⟨hnews, hnd⟩ := members_skel _ _ _ (buildFieldX_name eB eX hide) TypeDef.fields _ _ _ _ (hs.fields (Or.inr hkk)) hfs' (hnf (Or.inr hkk))
    exact ⟨_, extend_interface_exact eB eX hide X bt hbk (hkinds _ hkk)
      (newsOf (buildFieldX eB eX hide) (·.fields)) hnews hnd, hs.name, hbk⟩
  ·
    have hbk : bt.kind = .union := hs.kind.trans hkk
    obtain ⟨_, hc, hm2⟩ := bind_ok _ _ _ hm
    rw [s6] at hc
    have hc2 := checkNames_flatMap_inv eB TypeDef.members _ (checkNames_append_inv eB _ _ hc).2
    cases hm2
    have hnm' : (bt.members ++ (mineOf X bt.name).flatMap (·.members)).Nodup := by
      have := hnm hkk; simp only [] at this; rw [s6] at this; rw [hs.members hkk]; exact this
    exact ⟨_, extend_union_exact eB eX hide X bt hbk (hkinds _ hkk) hc2 hnm', hs.name, hbk⟩
  ·
    have hbk : bt.kind = .enum := hs.kind.trans hkk
    obtain ⟨_, _, hm1⟩ := bind_ok _ _ _ hm
    obtain ⟨fs', hfs', hm2⟩ := bind_ok _ _ _ hm1
    rw [s7] at hfs'
    cases hm2
    obtain ⟨hnews, hnd⟩ := members_skel _ _ _ buildEnumValue_name TypeDef.values _ _ _ _ (hs.values hkk) hfs' (hnv hkk)
    exact ⟨_, extend_enum_exact eB eX hide X bt hbk (hkinds _ hkk)
      (newsOf buildEnumValue (·.values)) hnews hnd, hs.name, hbk⟩
  ·
    have hbk : bt.kind = .input := hs.kind.trans hkk
    obtain ⟨fs', hfs', hm2⟩ := bind_ok _ _ _ hm
    rw [s8] at hfs'
    cases hm2
    obtain ⟨hnews, hnd⟩ := members_skel _ _ _ (buildArgumentX_name eB eX hide) TypeDef.inputFields _ _ _ _ (hs.inputFields hkk) hfs' (hnx hkk)
    exact ⟨_, extend_input_exact eB eX hide X bt hbk (hkinds _ hkk)
      (newsOf (buildArgumentX eB eX hide) (·.inputFields)) hnews hnd, hs.name, hbk⟩

theorem extend_accepts_skel (eB eX : Env) (hide : Option String) (X : List TypeDef) (t : TypeDef) (bt r : TypeD)
    (hs : Skel t bt) (hm : buildTypeDefX eB eX hide (mergeDef X t) = .ok r)
    (hk : ∀ e ∈ X, e.name = t.name → e.kind = t.kind)
    (hn : (r.fields.map (·.name)).Nodup ∧ (r.inputFields.map (·.name)).Nodup ∧ (r.values.map (·.name)).Nodup ∧
          r.members.Nodup ∧ r.interfaces.Nodup) :
    ∃ c, extendTypeX eB eX hide X bt = .ok c ∧ c.name = t.name ∧ c.kind = t.kind :=
  extend_accepts eB eX hide X t bt r hs hm hk (fun _ => hn.1) (fun _ => hn.2.1) (fun _ => hn.2.2.1)
    (fun _ => hn.2.2.2.1) (fun _ => hn.2.2.2.2)

theorem extend_accepts_merge (eB eX : Env) (hide : Option String) (X : List TypeDef) (t : TypeDef) (bt r : TypeD)
    (hb : buildTypeDef eB t = .ok bt) (hm : buildTypeDefX eB eX hide (mergeDef X t) = .ok r)
    (hk : ∀ e ∈ X, e.name = t.name → e.kind = t.kind)
    (hn : (r.fields.map (·.name)).Nodup ∧ (r.inputFields.map (·.name)).Nodup ∧ (r.values.map (·.name)).Nodup ∧
          r.members.Nodup ∧ r.interfaces.Nodup) :
    ∃ c, extendTypeX eB eX hide X bt = .ok c ∧ c.name = t.name ∧ c.kind = t.kind :=
  extend_accepts_skel eB eX hide X t bt r (skel_of_build eB t bt hb) hm hk hn

theorem link_interface (eB eX : Env) (hide : Option String) (X : List TypeDef) (t : TypeDef) (bt r : TypeD) (hkk : t.kind = .interface)
    (hb : buildTypeDef eB t = .ok bt) (hm : buildTypeDefX eB eX hide (mergeDef X t) = .ok r)
    (hk : ∀ e ∈ X, e.name = t.name → e.kind = t.kind) (hn : (r.fields.map (·.name)).Nodup) :
    ∃ c, extendTypeX eB eX hide X bt = .ok c ∧ c.name = t.name ∧ c.kind = t.kind :=
  extend_accepts eB eX hide X t bt r (skel_of_build eB t bt hb) hm hk (fun _ => hn) (fun h => nomatch hkk.symm.trans h)
    (fun h => nomatch hkk.symm.trans h) (fun h => nomatch hkk.symm.trans h) (fun h => nomatch hkk.symm.trans h)

theorem link_input (eB eX : Env) (hide : Option String) (X : List TypeDef) (t : TypeDef) (bt r : TypeD) (hkk : t.kind = .input)
    (hb : buildTypeDef eB t = .ok bt) (hm : buildTypeDefX eB eX hide (mergeDef X t) = .ok r)
    (hk : ∀ e ∈ X, e.name = t.name → e.kind = t.kind) (hn : (r.inputFields.map (·.name)).Nodup) :
    ∃ c, extendTypeX eB eX hide X bt = .ok c ∧ c.name = t.name ∧ c.kind = t.kind :=
  extend_accepts eB eX hide X t bt r (skel_of_build eB t bt hb) hm hk (fun h => h.elim (nomatch hkk.symm.trans ·) (nomatch hkk.symm.trans ·))
    (fun _ => hn) (fun h => nomatch hkk.symm.trans h) (fun h => nomatch hkk.symm.trans h) (fun h => nomatch hkk.symm.trans h)

theorem link_enum (eB eX : Env) (hide : Option String) (X : List TypeDef) (t : TypeDef) (bt r : TypeD) (hkk : t.kind = .enum)
    (hb : buildTypeDef eB t = .ok bt) (hm : buildTypeDefX eB eX hide (mergeDef X t) = .ok r)
    (hk : ∀ e ∈ X, e.name = t.name → e.kind = t.kind) (hn : (r.values.map (·.name)).Nodup) :
    ∃ c, extendTypeX eB eX hide X bt = .ok c ∧ c.name = t.name ∧ c.kind = t.kind :=
  extend_accepts eB eX hide X t bt r (skel_of_build eB t bt hb) hm hk (fun h => h.elim (nomatch hkk.symm.trans ·) (nomatch hkk.symm.trans ·))
    (fun h => nomatch hkk.symm.trans h) (fun _ => hn) (fun h => nomatch hkk.symm.trans h) (fun h => nomatch hkk.symm.trans h)

theorem link_union (eB eX : Env) (hide : Option String) (X : List TypeDef) (t : TypeDef) (bt r : TypeD) (hkk : t.kind = .union)
    (hb : buildTypeDef eB t = .ok bt) (hm : buildTypeDefX eB eX hide (mergeDef X t) = .ok r)
    (hk : ∀ e ∈ X, e.name = t.name → e.kind = t.kind) (hn : r.members.Nodup) :
    ∃ c, extendTypeX eB eX hide X bt = .ok c ∧ c.name = t.name ∧ c.kind = t.kind :=
  extend_accepts eB eX hide X t bt r (skel_of_build eB t bt hb) hm hk (fun h => h.elim (nomatch hkk.symm.trans ·) (nomatch hkk.symm.trans ·))
    (fun h => nomatch hkk.symm.trans h) (fun h => nomatch hkk.symm.trans h) (fun _ => hn) (fun h => nomatch hkk.symm.trans h)

theorem link_scalar (eB eX : Env) (hide : Option String) (X : List TypeDef) (t : TypeDef) (bt : TypeD) (hkk : t.kind = .scalar)
    (hb : buildTypeDef eB t = .ok bt) (hk : ∀ e ∈ X, e.name = t.name → e.kind = t.kind) :
    ∃ c, extendTypeX eB eX hide X bt = .ok c ∧ c.name = t.name ∧ c.kind = t.kind := by
  have hs := skel_of_build eB t bt hb
  have hbk : bt.kind = .scalar := hs.kind.trans hkk
  exact ⟨_, extend_scalar_exact eB eX hide X bt hbk fun e he hne => (hk e he (hne.trans hs.name)).trans hkk, hs.name, hs.kind⟩

theorem link_object (eB eX : Env) (hide : Option String) (X : List TypeDef) (t : TypeDef) (bt r : TypeD) (hkk : t.kind = .object)
    (hb : buildTypeDef eB t = .ok bt) (hm : buildTypeDefX eB eX hide (mergeDef X t) = .ok r)
    (hk : ∀ e ∈ X, e.name = t.name → e.kind = t.kind) (hn : (r.fields.map (·.name)).Nodup) (hni : r.interfaces.Nodup) :
    ∃ c, extendTypeX eB eX hide X bt = .ok c ∧ c.name = t.name ∧ c.kind = t.kind :=
  extend_accepts eB eX hide X t bt r (skel_of_build eB t bt hb) hm hk (fun _ => hn) (fun h => nomatch hkk.symm.trans h)
    (fun h => nomatch hkk.symm.trans h) (fun h => nomatch hkk.symm.trans h) (fun _ => hni)

theorem mapM_congr_mem {α β} (f g : α → R β) : ∀ (l : List α), (∀ x ∈ l, f x = g x) → l.mapM f = l.mapM g :=
  fun _ => Except.mapM_congr_mem

theorem mapM_map_eq {α β γ} (g : α → β) (f : β → R γ) : ∀ (l : List α), (l.map g).mapM f = l.mapM (fun x => f (g x)) :=
  fun _ => List.mapM_map

inductive All₂ {α β} (P : α → β → Prop) : List α → List β → Prop
  | nil : All₂ P [] []
  | cons {a b as bs} : P a b → All₂ P as bs → All₂ P (a :: as) (b :: bs)

theorem mapM_forall₂ {α β} (f : α → R β) : ∀ (l : List α) (r : List β), l.mapM f = .ok r → All₂ (fun x y => f x = .ok y) l r := by
  intro l
  induction l with
  | nil => intro r h; cases h; exact All₂.nil
  | cons x xs ih =>
    intro r h
    obtain ⟨b, bs, hb, hbs, rfl⟩ := Run.mapM_cons_ok_iff.mp h
    exact All₂.cons hb (ih bs hbs)

theorem all₂_length {α β} (P : α → β → Prop) : ∀ (l : List α) (r : List β), All₂ P l r → l.length = r.length := by
  intro l r h
  induction h with
  | nil => rfl
  | cons _ _ ih => rw [List.length_cons, List.length_cons, ih]

theorem all₂_mem_left {α β} (P : α → β → Prop) : ∀ (l : List α) (rs : List β), All₂ P l rs → ∀ x ∈ l, ∃ r ∈ rs, P x r := by
  intro l rs h
  induction h with
  | nil => intro x hx; cases hx
  | @cons a b as bs p _ ih =>
    intro x hx
    rcases List.mem_cons.mp hx with rfl | hmem
    · exact ⟨b, List.mem_cons_self, p⟩
    · obtain ⟨r, hr, hp⟩ := ih x hmem
      exact ⟨r, List.mem_cons_of_mem _ hr, hp⟩

theorem all₂_imp {α β} (P Q : α → β → Prop) (hpq : ∀ a b, P a b → Q a b) : ∀ (l : List α) (r : List β), All₂ P l r → All₂ Q l r := by
  intro l r h
  induction h with
  | nil => exact All₂.nil
  | cons p _ ih => exact All₂.cons (hpq _ _ p) ih

theorem all₂_join {α β γ} (P : α → β → Prop) (Q : α → γ → Prop) (S : β → γ → Prop) (hs : ∀ a b c, P a b → Q a c → S b c) :
    ∀ (l : List α) (bs : List β) (cs : List γ), All₂ P l bs → All₂ Q l cs → All₂ S bs cs := by
  intro l bs cs h1
  induction h1 generalizing cs with
  | nil => intro h2; cases h2; exact All₂.nil
  | cons p _ ih => intro h2; cases h2 with | cons q t2 => exact All₂.cons (hs _ _ _ p q) (ih _ t2)

theorem mapM_link {α β γ} (P : α → β → Prop) (Q : α → γ → Prop) (h : β → R γ) :
    ∀ (l : List α) (bs : List β) (rs : List γ), All₂ P l bs → All₂ Q l rs →
      (∀ a b r, a ∈ l → r ∈ rs → P a b → Q a r → h b = .ok r) → bs.mapM h = .ok rs := by
  intro l
  induction l with
  | nil => intro bs rs h1 h2 _; cases h1; cases h2; rfl
  | cons a as ih =>
    intro bs rs h1 h2 hl
    cases h1 with
    | cons p1 t1 =>
      cases h2 with
      | cons q1 t2 =>
        rw [List.mapM_cons, hl a _ _ (by simp) (by simp) p1 q1]
        rw [ih _ _ t1 t2 (fun a' b r ha hr => hl a' b r (by simp [ha]) (by simp [hr]))]
        rfl

theorem typeExtensions_all (live : Live) : ∀ (doc : Doc),
    (∀ e ∈ typeExts doc, live.types.any (·.name == e.name) = true) → typeExtensions live doc = typeExts doc := by
  intro doc h
  rw [typeExtensions_eq, List.filter_eq_self]
  intro e he
  rw [h e he, Bool.or_true]

theorem nodup_map_inj {α} (f : α → String) : ∀ (l : List α), (l.map f).Nodup → ∀ x ∈ l, ∀ y ∈ l, f x = f y → x = y :=
  fun _ hn _ hx _ hy e => List.inj_of_nodup_map hn hx hy e

theorem find_name_of_mem {α} (name : α → String) : ∀ (l : List α), (l.map name).Nodup → ∀ t ∈ l,
    l.find? (fun x => name x == name t) = some t :=
  fun _ hn => ListEqv.nodup_uniq hn

theorem mapM_link_ex {α β γ} (P : α → β → Prop) (Q : α → γ → Prop) (h : β → R γ) :
    ∀ (l : List α) (bs : List β), All₂ P l bs → (∀ a b, a ∈ l → P a b → ∃ c, h b = .ok c ∧ Q a c) →
      ∃ cs, bs.mapM h = .ok cs ∧ All₂ Q l cs := by
  intro l bs h1
  induction h1 with
  | nil => intro _; exact ⟨[], rfl, All₂.nil⟩
  | @cons a b as bs p _ ih =>
    intro hl
    obtain ⟨c, hc, hq⟩ := hl a b (by simp) p
    obtain ⟨cs, hcs, hqs⟩ := ih (fun a' b' ha' hp' => hl a' b' (by simp [ha']) hp')
    exact ⟨c :: cs, by rw [List.mapM_cons, hc, hcs]; rfl, All₂.cons hq hqs⟩

theorem any_map_name {α} (name : α → String) (p : String → Bool) (l : List α) : l.any (fun x => p (name x)) = (l.map name).any p :=
  List.any_map.symm

/-- The rules for a document WITH extensions. `baseBuilds` / `baseDirectives` are what is left of **NoS8** after fix
    C14-T15: the definitions and the directive definitions build ON THEIR OWN, i.e. no default value written in a
    DEFINITION needs a member that only an `extend` block of the same document declares (such a document is still
    refused by the first pass of `build_schema`; a default written in an extension block may use such members, and
    every default is evaluated in the extended types). -/
structure ValidExt (doc : Doc) (d : SchemaD) (bts : List TypeD) : Prop where
  uniqueTypes : ((typeDefs doc).map (·.name)).Nodup
  uniqueDirectives : ((dirDefs doc).map (·.name)).Nodup
  oneSchema : (schemaDefs doc).length ≤ 1
  noBuiltinNames : ∀ t ∈ typeDefs doc, isDefaultName t.name = false
  /-- every extension extends a defined type of its own kind -/
  extTargets : ∀ e ∈ typeExts doc, ∃ t ∈ typeDefs doc, t.name = e.name ∧ t.kind = e.kind
  declares : Declared doc = some d
  baseBuilds : (typeDefs doc).mapM (buildTypeDef (Env.of (typeDefs doc))) = .ok bts
  baseDirectives : ∃ bds, (dirDefs doc).mapM (buildDirective (Env.of (typeDefs doc))) = .ok bds
  /-- the other thing fix C14-T15 leaves: the fields of an input type are extended while the type itself is "in
      progress", so a default of one of ITS OWN fields which needs the type again is not evaluated in the extended
      types. Excluded: hiding the type changes nothing (trivially so for the other kinds, `selfDefaults_of_kind`,
      and for input types without such defaults, `selfDefaults_of_noDefaults`). -/
  selfDefaults : ¬ ((typeExts doc).isEmpty && (schemaExtensions doc).isEmpty) = true → ∀ t ∈ typeDefs doc,
      buildTypeDefX (Env.of (typeDefs doc)) ((Env.of (typeDefs doc)).extended (typeExts doc)) (hideFor t.kind t.name) (mergeDef (typeExts doc) t)
        = buildTypeDefX (Env.of (typeDefs doc)) ((Env.of (typeDefs doc)).extended (typeExts doc)) none (mergeDef (typeExts doc) t)
  /-- no member name is repeated among a definition and its extensions -/
  membersUnique : ∀ r ∈ d.types, (r.fields.map (·.name)).Nodup ∧ (r.inputFields.map (·.name)).Nodup ∧ (r.values.map (·.name)).Nodup ∧
      r.members.Nodup ∧ r.interfaces.Nodup
  noThunkCycle : hasThunkCycle (Env.of (typeDefs doc)) (typeDefs doc) = false
  noEagerCycleBase : hasEagerCycle bts = false
  noEagerCycle : hasEagerCycle d.types = false
  noSpecified : d.directives.any (fun x => specifiedDirectives.contains x.name) = false
  /-- operations of the `schema` block and of the `extend schema` blocks are distinct and name known types -/
  rootsOk : ∃ r0, buildRoots (Env.of (typeDefs doc)) (schemaDefs doc).head? bts = .ok r0 ∧
      (schemaExtensions doc).foldlM (fun r se => addOps (fun n => isDefaultName n || d.types.any (·.name == n)) (.lib .ext) r se.ops) r0
        = .ok ⟨d.query, d.mutation, d.subscription⟩

theorem ext_types_skel (defs X : List TypeDef) (cur rs : List TypeD)
    (uniqueTypes : (defs.map (·.name)).Nodup)
    (extTargets : ∀ e ∈ X, ∃ t ∈ defs, t.name = e.name ∧ t.kind = e.kind)
    (hcur : All₂ Skel defs cur)
    (hrs : defs.mapM (fun t => buildTypeDefX (Env.of defs) ((Env.of defs).extended X) (hideFor t.kind t.name) (mergeDef X t)) = .ok rs)
    (membersUnique : ∀ r ∈ rs, (r.fields.map (·.name)).Nodup ∧ (r.inputFields.map (·.name)).Nodup ∧ (r.values.map (·.name)).Nodup ∧
      r.members.Nodup ∧ r.interfaces.Nodup) :
    ∃ cs, cur.mapM (fun t => extendTypeX (Env.of defs) ((Env.of defs).extended X) (hideFor t.kind t.name) X t) = .ok cs ∧
      cs.mapM (fun t => reDefault (Env.of defs) ((Env.of defs).extended X) (hideFor t.kind t.name) X t) = .ok rs := by
  have hQ := mapM_forall₂ _ _ _ hrs
  -- pair each definition with its current type and its declared type
  have hacc : ∃ cs, cur.mapM (fun t => extendTypeX (Env.of defs) ((Env.of defs).extended X) (hideFor t.kind t.name) X t) = .ok cs ∧
      All₂ (fun t (c : TypeD) => c.name = t.name ∧ c.kind = t.kind) defs cs := by
    refine mapM_link_ex _ _ _ _ _ hcur ?_
    intro t bt ht hs
    obtain ⟨r, hr, hm⟩ := all₂_mem_left _ _ _ hQ t ht
    show ∃ c, extendTypeX _ _ (hideFor bt.kind bt.name) _ bt = .ok c ∧ _
    rw [hs.name, hs.kind]
    refine extend_accepts_skel _ _ _ _ t bt r hs hm ?_ (membersUnique r hr)
    intro e he hne
    obtain ⟨t', ht', hn', hk'⟩ := extTargets e he
    have : t' = t := nodup_map_inj TypeDef.name _ uniqueTypes t' ht' t ht (hn'.trans hne)
    rw [← hk', this]
  obtain ⟨cs, hcs, hnames⟩ := hacc
  refine ⟨cs, hcs, ?_⟩
  refine mapM_link _ _ _ _ _ _ hnames hQ ?_
  intro t c r ht _ hc hm
  show reDefault _ _ (hideFor c.kind c.name) _ c = .ok r
  unfold reDefault
  have hfa : (Env.of defs).findAdditional c.name = none := by simp [Env.of]
  have hfd : (Env.of defs).findDef c.name = some t := by
    rw [hc.1]; exact find_name_of_mem TypeDef.name _ uniqueTypes t ht
  rw [hfa, hfd, hc.1, hc.2]
  exact hm

theorem extPass_exact (defs X : List TypeDef) (sexts : List SchemaDef) (cur rs : List TypeD) (r0 r : Roots)
    (uniqueTypes : (defs.map (·.name)).Nodup) (noBuiltinNames : ∀ t ∈ defs, isDefaultName t.name = false)
    (extTargets : ∀ e ∈ X, ∃ t ∈ defs, t.name = e.name ∧ t.kind = e.kind)
    (hcur : All₂ Skel defs cur)
    (hrs : defs.mapM (fun t => buildTypeDefX (Env.of defs) ((Env.of defs).extended X) (hideFor t.kind t.name) (mergeDef X t)) = .ok rs)
    (membersUnique : ∀ r ∈ rs, (r.fields.map (·.name)).Nodup ∧ (r.inputFields.map (·.name)).Nodup ∧ (r.values.map (·.name)).Nodup ∧
      r.members.Nodup ∧ r.interfaces.Nodup)
    (hcyc : hasEagerCycle rs = false)
    (hroots : sexts.foldlM (fun r se => addOps (fun n => isDefaultName n || rs.any (·.name == n)) (.lib .ext) r se.ops) r0 = .ok r) :
    Run.ExtPass (Env.of defs) ((Env.of defs).extended X) X sexts cur rs r0 r := by
  refine ⟨List.any_eq_false.mpr fun e he => ?_, ext_types_skel defs X cur rs uniqueTypes extTargets hcur hrs membersUnique, hcyc, hroots⟩
  -- no extension targets a specified type: every target is a definition
  obtain ⟨t, ht, hn, _⟩ := extTargets e he
  rw [← hn, noBuiltinNames t ht]
  exact Bool.false_ne_true

theorem directives_exact (eB eX : Env) (hres : ∀ n, eX.resolves n = eB.resolves n) (defs : List DirDef) (cur ds : List DirectiveD)
    (unique : (defs.map (·.name)).Nodup) (hcur : All₂ (fun (dd : DirDef) (ld : DirectiveD) => ld.name = dd.name) defs cur)
    (hds : defs.mapM (buildDirective eX) = .ok ds) : cur.mapM (reDefaultDirectiveIn eB eX defs) = .ok ds := by
  refine mapM_link _ _ _ _ _ _ hcur (mapM_forall₂ _ _ _ hds) ?_
  intro dd ld r hdd _ hname hm
  unfold reDefaultDirectiveIn
  rw [hname, find_name_of_mem DirDef.name _ unique dd hdd]
  exact buildDirectiveX_of_ok _ _ hres dd r hm

theorem merged_buildX (doc : Doc) (d : SchemaD) (declares : Declared doc = some d)
    (selfDefaults : ∀ t ∈ typeDefs doc,
      buildTypeDefX (Env.of (typeDefs doc)) ((Env.of (typeDefs doc)).extended (typeExts doc)) (hideFor t.kind t.name) (mergeDef (typeExts doc) t)
        = buildTypeDefX (Env.of (typeDefs doc)) ((Env.of (typeDefs doc)).extended (typeExts doc)) none (mergeDef (typeExts doc) t)) :
    (typeDefs doc).mapM (fun t => buildTypeDefX (Env.of (typeDefs doc)) ((Env.of (typeDefs doc)).extended (typeExts doc))
      (hideFor t.kind t.name) (mergeDef (typeExts doc) t)) = .ok d.types := by
  rw [mapM_congr_mem _ _ _ selfDefaults, ← mapM_map_eq, buildTypeDefX_none _ _ (extended_resolves _ _), extended_eq]
  exact (declared_parts doc d declares).1

theorem ext_types (doc : Doc) (d : SchemaD) (bts : List TypeD)
    (uniqueTypes : ((typeDefs doc).map (·.name)).Nodup)
    (extTargets : ∀ e ∈ typeExts doc, ∃ t ∈ typeDefs doc, t.name = e.name ∧ t.kind = e.kind)
    (declares : Declared doc = some d)
    (baseBuilds : (typeDefs doc).mapM (buildTypeDef (Env.of (typeDefs doc))) = .ok bts)
    (selfDefaults : ∀ t ∈ typeDefs doc,
      buildTypeDefX (Env.of (typeDefs doc)) ((Env.of (typeDefs doc)).extended (typeExts doc)) (hideFor t.kind t.name) (mergeDef (typeExts doc) t)
        = buildTypeDefX (Env.of (typeDefs doc)) ((Env.of (typeDefs doc)).extended (typeExts doc)) none (mergeDef (typeExts doc) t))
    (membersUnique : ∀ r ∈ d.types, (r.fields.map (·.name)).Nodup ∧ (r.inputFields.map (·.name)).Nodup ∧ (r.values.map (·.name)).Nodup ∧
      r.members.Nodup ∧ r.interfaces.Nodup) :
    ∃ cs, bts.mapM (fun t => extendTypeX (Env.of (typeDefs doc)) ((Env.of (typeDefs doc)).extended (typeExts doc)) (hideFor t.kind t.name)
        (typeExts doc) t) = .ok cs ∧
      cs.mapM (fun t => reDefault (Env.of (typeDefs doc)) ((Env.of (typeDefs doc)).extended (typeExts doc)) (hideFor t.kind t.name)
        (typeExts doc) t) = .ok d.types :=
  ext_types_skel _ _ bts d.types uniqueTypes extTargets
    (all₂_imp _ _ (fun t bt => skel_of_build _ t bt) _ _ (mapM_forall₂ _ _ _ baseBuilds)) (merged_buildX doc d declares selfDefaults)
    membersUnique

/-- a valid document WITH extensions whose DEFINITIONS build on their own (what is left of
    finding S8) builds, and the schema is exactly the declared content: every extension merged into its target in
    document order, every default value evaluated in the extended types.
    OMITS (closed elsewhere): `ValidExt` takes the built definitions `bts` and three facts about them (`baseBuilds`,
    `noEagerCycleBase`, `rootsOk`) as premises — derived in `build_exact_of_baseDefaults` / `build_exact_final`
    (`SdlOK`), and from the rules of the specification alone + the S8/S1b residue in `build_exact_spec`
    (Props/C11_valid.lean; each residue premise necessary: `residue_necessary`); the flags — `ignore_extensions=True` is
    `build_exact_ignoreExtensions` (Props/C11_flags.lean); supplied types (`additional_types`) — `build_exact_additional_noext`
    (Props/C11_additional.lean: documents without extension blocks; with them `build_exact_additional_refuted`, about `buildA`). -/
theorem build_exact_partial (doc : Doc) (d : SchemaD) (bts : List TypeD) (v : ValidExt doc d bts) : build doc = .ok d := by
  obtain ⟨hts, hds, hd⟩ := declared_parts doc d v.declares
  obtain ⟨r0, hr0, hrx⟩ := v.rootsOk
  obtain ⟨bds, hdirs⟩ := v.baseDirectives
  have hres := extended_resolves (Env.of (typeDefs doc)) (typeExts doc)
  have hbdn : bds.map (·.name) = (dirDefs doc).map (·.name) := mapM_names _ DirDef.name DirectiveD.name (buildDirective_name _) _ _ hdirs
  have hddn : d.directives.map (·.name) = (dirDefs doc).map (·.name) := mapM_names _ DirDef.name DirectiveD.name (buildDirective_name _) _ _ hds
  have hspec0 : bds.any (fun x => specifiedDirectives.contains x.name) = false := by
    rw [any_map_name (fun x : DirectiveD => x.name) (fun n => specifiedDirectives.contains n), hbdn, ← hddn, ← any_map_name]
    exact v.noSpecified
  have htexts : typeExtensions { types := bts, directives := bds, roots := r0 } doc = typeExts doc := by
    refine typeExtensions_all _ doc fun e he => ?_
    obtain ⟨t, ht, hn, _⟩ := v.extTargets e he
    obtain ⟨bt, hbt, hb⟩ := all₂_mem_left _ _ _ (mapM_forall₂ _ _ _ v.baseBuilds) t ht
    exact List.any_eq_true.mpr ⟨bt, hbt, beq_iff_eq.mpr ((buildTypeDef_name _ _ _ hb).trans hn)⟩
  refine (Run.build_ok_iff ..).mpr ⟨_, _, buildIgnoringExtensions_ok doc bts bds r0 v.uniqueTypes v.uniqueDirectives v.oneSchema
    v.noBuiltinNames v.noThunkCycle hdirs v.baseBuilds v.noEagerCycleBase hr0 hspec0, ?_⟩
  simp only [Bool.false_eq_true, if_false, Run.extendSchema_ok_iff, htexts]
  by_cases hE : ((typeExts doc).isEmpty && (schemaExtensions doc).isEmpty) = true
  · -- no extension at all: the early return of extend_schema
    refine ⟨_, (if_pos hE).mpr rfl, ?_⟩
    rw [Bool.and_eq_true, List.isEmpty_iff, List.isEmpty_iff] at hE
    rw [hE.2] at hrx
    rw [merged_noext doc hE.1, v.baseBuilds] at hts
    rw [merged_noext doc hE.1, hdirs] at hds
    rw [ok_inj hts, ok_inj hrx, ok_inj hds]
    exact hd
  · -- the pass registers the declared types; argument defaults of the directives are evaluated in the extended types
    refine ⟨_, (if_neg hE).mpr ⟨d.types, d.directives, ⟨d.query, d.mutation, d.subscription⟩,
      extPass_exact _ _ _ bts d.types r0 _ v.uniqueTypes v.noBuiltinNames v.extTargets
        (all₂_imp _ _ (fun t bt => skel_of_build _ t bt) _ _ (mapM_forall₂ _ _ _ v.baseBuilds))
        (merged_buildX doc d v.declares (v.selfDefaults hE)) v.membersUnique v.noEagerCycle hrx,
      directives_exact _ _ hres (dirDefs doc) bds d.directives v.uniqueDirectives
        (all₂_imp _ _ (fun dd bd => buildDirective_name _ dd bd) _ _ (mapM_forall₂ _ _ _ hdirs)) (extended_eq _ _ ▸ hds), rfl⟩, ?_⟩
    -- no supplied type is registered
    rw [show referencedAdditional [] d.types d.directives ⟨d.query, d.mutation, d.subscription⟩ = [] from rfl, List.append_nil]
    exact hd

/-- non-vacuity of `ValidExt`: every extension-free valid document (e.g. `exDoc` of `C11_exact.lean`) whose members
    have unique names satisfies it; the generated documents of the correspondence are the instances with
    extensions (`baseBuilds`/`baseDirectives` are exactly what the check's S8 classification tests). -/
theorem validExt_of_noext (doc : Doc) (d : SchemaD) (v : ValidNoExt doc d)
    (hu : ∀ r ∈ d.types, (r.fields.map (·.name)).Nodup ∧ (r.inputFields.map (·.name)).Nodup ∧ (r.values.map (·.name)).Nodup ∧
      r.members.Nodup ∧ r.interfaces.Nodup) : ValidExt doc d d.types := by
  have hm := merged_noext doc v.noTypeExt
  obtain ⟨hts, hds, _⟩ := declared_parts doc d v.declares
  rw [hm] at hts hds
  exact
    { uniqueTypes := v.uniqueTypes, uniqueDirectives := v.uniqueDirectives, oneSchema := v.oneSchema,
      noBuiltinNames := v.noBuiltinNames,
      extTargets := by intro e he; rw [v.noTypeExt] at he; simp at he,
      declares := v.declares, baseBuilds := hts,
      baseDirectives := ⟨_, hds⟩,
      selfDefaults := by intro h; exact absurd (by simp [v.noTypeExt, v.noSchemaExt]) h,
      membersUnique := hu, noThunkCycle := v.noThunkCycle, noEagerCycleBase := v.noEagerCycle, noEagerCycle := v.noEagerCycle,
      noSpecified := v.noSpecified,
      rootsOk := ⟨_, v.rootsOk, by rw [v.noSchemaExt]; rfl⟩ }

/-- two valid documents with the same definitions in a different ORDER — the extension blocks of
    every target (and the `extend schema` blocks) keeping their relative order — build schemas with the same
    content: the same types with the same members in the same member order, the same directive definitions and
    the same root operation types. -/
theorem build_perm (doc₁ doc₂ : Doc) (d₁ d₂ : SchemaD) (b₁ b₂ : List TypeD) (v₁ : ValidExt doc₁ d₁ b₁) (v₂ : ValidExt doc₂ d₂ b₂)
    (hp : doc₁.Perm doc₂) (hx : typeExts doc₁ = typeExts doc₂) (hsx : schemaExtensions doc₁ = schemaExtensions doc₂) :
    build doc₁ = .ok d₁ ∧ build doc₂ = .ok d₂ ∧ d₁.types.Perm d₂.types ∧ d₁.directives.Perm d₂.directives ∧
      d₁.query = d₂.query ∧ d₁.mutation = d₂.mutation ∧ d₁.subscription = d₂.subscription :=
  ⟨build_exact_partial doc₁ d₁ b₁ v₁, build_exact_partial doc₂ d₂ b₂ v₂,
    declared_perm doc₁ doc₂ d₁ d₂ v₁.declares v₂.declares hp hx hsx v₁.uniqueTypes v₁.oneSchema⟩

end PyGql.Props.C11
