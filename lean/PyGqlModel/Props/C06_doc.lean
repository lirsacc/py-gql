/-
  C06 - property theorems: rules with document-level behaviour
  (`ExecutableDefinitionsChecker`, `LoneAnonymousOperationChecker` raise `SkipNode` at the document;
  `KnownFragmentNamesChecker` collects the fragment names at the document and uses them below).
-/
import PyGqlModel.Props.C06
import PyGqlModel.Lemmas.ValidateWalkI
namespace PyGql.Props.C06
open PyGql PyGql.Validate PyGql.Validate.Spec

theorem visitNode_skip_single (s : SchemaD) (fx : Fixes) (r : Rule) (n : Node) (body : St → St) (st : St)
    (h : (enterRule s fx r n (tiEnter s n st.ti) st.rs).2 = true) :
    visitNode ⟨s, fx, [r]⟩ n body st =
      { ti := tiLeave n (tiEnter s n st.ti), rs := (enterRule s fx r n (tiEnter s n st.ti) st.rs).1 } :=
  visitNode_one_skip s fx r n body st h

/-- single-rule chain: `CFI` from facts about `enterRule` / `leaveRule` under an invariant on the rule state -/
theorem cfi_of (s : SchemaD) (fx : Fixes) (r : Rule) (lvl : Node → Bool) (I : RS → Prop) (f g : Node → Nat)
    (hin : ∀ n, n.isTop = false → lvl n = false)
    (hE : ∀ n ti rs, lvl n = false → I rs → (enterRule s fx r n ti rs).2 = false ∧
      (enterRule s fx r n ti rs).1.errs.length = rs.errs.length + f n ∧ I (enterRule s fx r n ti rs).1)
    (hL : ∀ n ti rs, lvl n = false → I rs → (leaveRule s fx r n ti rs).errs.length = rs.errs.length + g n ∧
      I (leaveRule s fx r n ti rs)) :
    CFI ⟨s, fx, [r]⟩ lvl (fun st => I st.rs) f g where
  inner := hin
  noskip n st hn hi := by rw [enter_single]; exact (hE n _ _ hn hi).1
  enterE n st hn hi := by rw [enter_single]; exact (hE n _ _ hn hi).2.1
  enterI n st hn hi := by rw [enter_single]; exact (hE n _ _ hn hi).2.2
  leaveE n st hn hi := by rw [leave_single]; exact (hL n _ _ hn hi).1
  leaveI n st hn hi := by rw [leave_single]; exact (hL n _ _ hn hi).2

/-- the document node of a single-rule chain, when the rule does not skip there -/
theorem document_noskip (s : SchemaD) (fx : Fixes) (r : Rule) (d : Doc) {Inv : St → Prop} {f g : Node → Nat}
    (h : CFI ⟨s, fx, [r]⟩ Node.isDoc Inv f g)
    (hs : (enterRule s fx r (.document d) {} {}).2 = false)
    (hi : Inv { ti := {}, rs := (enterRule s fx r (.document d) {} {}).1 }) :
    ∃ st2, Post Inv f g (d.defs.flatMap defNodes) { ti := {}, rs := (enterRule s fx r (.document d) {} {}).1 } st2 ∧
      alone s fx r d = leave ⟨s, fx, [r]⟩ (.document d) st2 := by
  refine ⟨_, visitDefsI h (fun n hn => hn) d.defs _ hi, ?_⟩
  unfold alone
  rw [visitDocument]
  unfold visitNode
  have e : enter ⟨s, fx, [r]⟩ (.document d) {} = ({ ti := {}, rs := (enterRule s fx r (.document d) {} {}).1 },
      (enterRule s fx r (.document d) {} {}).2) := enter_single ..
  rw [e, hs]
  rfl

theorem document_skip (s : SchemaD) (fx : Fixes) (r : Rule) (d : Doc)
    (hs : (enterRule s fx r (.document d) {} {}).2 = true) :
    alone s fx r d = { ti := {}, rs := (enterRule s fx r (.document d) {} {}).1 } := by
  unfold alone
  rw [visitDocument, visitNode_skip_single s fx r (.document d) _ {} hs]
  rfl

theorem total_zero (ns : List Node) : total (fun _ => 0) (fun _ => 0) ns = 0 := by
  induction ns with
  | nil => rfl
  | cons a as ih => rw [total_cons, ih]

/-- a rule that does nothing below the document: whether or not it raises `SkipNode` at the document node, the
    errors of the run are those recorded on entering the document -/
theorem errors_doc_only (s : SchemaD) (fx : Fixes) (r : Rule) (d : Doc)
    (hE : ∀ n ti rs, n.isDoc = false → enterRule s fx r n ti rs = (rs, false))
    (hL : ∀ n ti rs, leaveRule s fx r n ti rs = rs) :
    E (alone s fx r d) = (enterRule s fx r (.document d) {} {}).1.errs.length :=
  congrArg (·.errs.length) (visitDocument_rs (fun n hn => ⟨fun ti rs => hE n ti rs hn, hL n⟩) d (hL _) {})

/-- **5.1.1 Executable definitions** -/
theorem rule_executable_definitions_iff (s : SchemaD) (fx : Fixes) (d : Doc) :
    Silent s fx .executableDefinitions d ↔ Spec.executableDefinitions d := by
  unfold Silent
  rw [errors_doc_only s fx _ d
    (fun n _ _ hn => by
      cases n with
      | document => cases hn
      | _ => rfl)
    (leaveRule_id s fx _ (by decide))]
  dsimp only [enterRule]
  rw [errN_length]
  simp [Spec.executableDefinitions, List.filter_eq_nil_iff]

/-- **5.2.2.1 Lone anonymous operation** -/
theorem rule_lone_anonymous_operation_iff (s : SchemaD) (fx : Fixes) (d : Doc) :
    Silent s fx .loneAnonymousOperation d ↔ Spec.loneAnonymousOperation d := by
  have hanon : (∃ x ∈ d.defs, ∃ k vs ds i ss, x = Def.op k none vs ds i ss) ↔
      ((d.defs.filter (·.isOp)).any (·.isAnonOp)) = true := by
    simp only [List.any_eq_true, List.mem_filter]
    constructor
    · rintro ⟨x, hx, k, vs, ds, i, ss, rfl⟩
      exact ⟨_, ⟨hx, rfl⟩, rfl⟩
    · rintro ⟨x, ⟨hx, _⟩, h⟩
      cases x with
      | op k nm vs ds i ss =>
        cases nm with
        | none => exact ⟨_, hx, k, vs, ds, i, ss, rfl⟩
        | some _ => cases h
      | frag => cases h
      | ts => cases h
  unfold Silent Spec.loneAnonymousOperation Spec.operations
  rw [errors_doc_only s fx _ d
    (fun n _ _ hn => by
      cases n with
      | document => cases hn
      | _ => rfl)
    (leaveRule_id s fx _ (by decide)), hanon]
  dsimp only [enterRule]
  split
  · rename_i hc
    simp only [Bool.and_eq_true, decide_eq_true_eq] at hc
    simp only [RS.err, List.length_cons]
    constructor
    · intro h; omega
    · intro h; have := h hc.1; omega
  · rename_i hc
    simp only [Bool.and_eq_true, decide_eq_true_eq, not_and, Nat.not_lt] at hc
    exact ⟨fun _ => hc, fun _ => rfl⟩

theorem fragDefs_names (d : Doc) : (fragDefs d).map (·.1) = Spec.fragNames d := by
  unfold fragDefs Spec.fragNames
  induction d.defs with
  | nil => rfl
  | cons x xs ih => cases x <;> simp only [List.filterMap_cons, List.map_cons, ih]

/-- a rule that prepares its state at the document node (`I` holds of it from then on), records `f n` errors on
    entering a node `n` below and is otherwise idle -/
theorem silent_iff_nodes_below (s : SchemaD) (fx : Fixes) (r : Rule) (I : RS → Prop) (f : Node → Nat) (d : Doc)
    (hs : (enterRule s fx r (.document d) {} {}).2 = false)
    (h0 : (enterRule s fx r (.document d) {} {}).1.errs = [])
    (hi : I (enterRule s fx r (.document d) {} {}).1)
    (hE : ∀ n ti rs, n.isDoc = false → I rs → enterRule s fx r n ti rs = (rs.errN r (f n), false))
    (hI : ∀ rs k, I rs → I (rs.errN r k))
    (hL : ∀ n ti rs, leaveRule s fx r n ti rs = rs)
    (hf : f (.document d) = 0) :
    Silent s fx r d ↔ ∀ n ∈ nodes d, f n = 0 := by
  have hc : CFI ⟨s, fx, [r]⟩ Node.isDoc (fun st => I st.rs) f (fun _ => 0) :=
    cfi_of s fx r Node.isDoc I _ _ (fun _ => isDoc_of_isTop)
      (fun n ti rs hn hi => by rw [hE n ti rs hn hi]; exact ⟨rfl, errN_length .., hI _ _ hi⟩)
      (fun n ti rs _ hi => by rw [hL]; exact ⟨rfl, hi⟩)
  obtain ⟨st2, hp, he⟩ := document_noskip s fx r d hc hs hi
  have hE2 : E st2 = total f (fun _ => 0) (nodes d) := by
    rw [hp.2, nodes, total_cons, hf]
    show (enterRule s fx r (.document d) {} {}).1.errs.length + _ = _
    rw [h0]
    rfl
  unfold Silent
  rw [he, leave_single, hL, ← total_zero_iff_g0, ← hE2]
  exact Iff.rfl

def fKnownFrags (K : List String) : Node → Nat
  | .spread name _ => if K.contains name then 0 else 1
  | _ => 0

/-- **5.5.2.1 Fragment spread target defined** -/
theorem rule_known_fragment_names_iff (s : SchemaD) (fx : Fixes) (d : Doc) :
    Silent s fx .knownFragmentNames d ↔ Spec.knownFragmentNames d := by
  rw [silent_iff_nodes_below s fx .knownFragmentNames (fun rs => rs.knownFrags = Spec.fragNames d)
    (fKnownFrags (Spec.fragNames d)) d rfl rfl (fragDefs_names d)
    (fun n ti rs hn hi => by
      cases n with
      | document d => cases hn
      | spread name dirs =>
        dsimp only [enterRule, fKnownFrags]
        rw [hi]
        split <;> rfl
      | _ => rfl)
    (fun _ _ h => h) (leaveRule_id s fx _ (by decide)) rfl]
  unfold Spec.knownFragmentNames
  constructor
  · intro h n hn name dirs e
    have := h n hn; subst e
    simp only [fKnownFrags] at this
    split at this
    · rename_i hm; simpa using hm
    · simp at this
  · intro h n hn
    cases n <;> simp only [fKnownFrags]
    rename_i name dirs
    simp [h _ hn name dirs rfl]

def fSingleSub (frs : AL (List Sel)) (fuel : Nat) : Node → Nat
  | .operation kind _ _ _ sels => if kind == "subscription" && (rootKeys frs fuel sels).length != 1 then 1 else 0
  | _ => 0

/-- **5.2.3.1 Single root field**: the collected response keys of a subscription's root selection set (through inline
    fragments and fragment spreads) are exactly one -/
theorem rule_single_field_subscriptions_iff (s : SchemaD) (fx : Fixes) (d : Doc) :
    Silent s fx .singleFieldSubscriptions d ↔ Spec.singleFieldSubscriptions d := by
  rw [silent_iff_nodes_below s fx .singleFieldSubscriptions
    (fun rs => rs.sfsFrags = sfsTable d ∧ rs.sfsFuel = sfsBound d)
    (fSingleSub (sfsTable d) (sfsBound d)) d rfl rfl ⟨rfl, rfl⟩
    (fun n ti rs hn hi => by
      cases n with
      | document d => cases hn
      | operation kind name vars dirs sels =>
        dsimp only [enterRule, fSingleSub]
        rw [hi.1, hi.2]
        exact congrArg (·, false) (errN_ite ..).symm
      | _ => rfl)
    (fun _ _ h => h) (leaveRule_id s fx _ (by decide)) rfl]
  unfold Spec.singleFieldSubscriptions
  constructor
  · intro h n hn name vars dirs sels e
    have := h n hn; subst e
    simpa [fSingleSub] using this
  · intro h n hn
    cases n <;> simp only [fSingleSub]
    rename_i kind name vars dirs sels
    by_cases hk : kind = "subscription"
    · subst hk; have := h _ hn _ _ _ _ rfl; simp [this]
    · simp [hk]

end PyGql.Props.C06
