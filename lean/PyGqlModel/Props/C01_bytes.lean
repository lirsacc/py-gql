/-
  C01 quantifies over `str` AND UTF-8 `bytes` sources.  The `bytes` path (`ensure_unicode` in `Lexer.__init__`, fix C01-B8) is
  modelled in `Utf8.lean` / `ParseBytes.lean`:

  `decode_encode`            the UTF-8 encoding of a text of scalar values decodes to the text
  `parse_bytes_eq_text`      so `parse(text.encode("utf8"))` IS `parse(text)` — same tree, same error — for `parse`,
                             `parse_value`, `parse_type` and all flags: every theorem about texts holds for their bytes
  `decode_ok_iff`            and the decoder accepts ONLY such encodings: it is the inverse of `encode` (strict UTF-8)
  `parse_bytes_accepts_iff`  a bytes source is accepted exactly when it is the encoding of an accepted text, with the same tree
  `decode_error_in_range`    a source that is not valid UTF-8 is rejected at a character offset within the source
  `parse_bytes_total`        and never with anything but a syntax error (the model has no other outcome: stated as the shape
                             of the result)
-/
import PyGqlModel.ParseBytes
import PyGqlModel.Lemmas.Utf8Roundtrip
namespace PyGql.Props.C01
open PyGql PyGql.Parse PyGql.Ast PyGql.Utf8

/-- `text.encode("utf8").decode("utf8") == text` for every text of Unicode scalar values -/
theorem decode_encode (t : Text) (ht : t.all isScalar = true) : decode (encode t) = .ok t := by
  unfold decode
  rw [feed_encode t ht []]; rfl

/-- `bytes` sources: `parse(text.encode("utf8"), **flags)` is `parse(text, **flags)` — the same tree or the same syntax
    error — and likewise `parse_value`, `parse_type`. -/
theorem parse_bytes_eq_text (fl : Flags) (t : Text) (ht : t.all isScalar = true) :
    parseBytesE fl (encode t) = parseTextE fl t ∧ parseValueBytesE fl (encode t) = parseValueTextE fl t ∧
      parseTypeBytesE fl (encode t) = parseTypeTextE fl t := by
  simp [parseBytesE, parseValueBytesE, parseTypeBytesE, onBytes, decode_encode t ht]

private theorem feed_error_le (st : St) (bs : List Nat) (p : Nat) (h : feed st bs = .error p) :
    p ≤ st.out.length + bs.length := by
  fun_induction feed st bs
  case case1 => cases h
  -- the three ways to stop: in the middle of a sequence, at a bad first byte, at a bad continuation byte
  case case2 | case7 | case10 =>
    cases h
    exact Nat.le_add_right _ _
  case case3 ih | case4 ih | case5 ih | case6 ih | case8 ih | case9 ih =>
    have := ih h
    simp only [List.length_cons] at this ⊢
    omega

/-- an undecodable source is rejected at a character offset no larger than its length in bytes — hence within the text
    the error carries (the source with every undecodable byte shown as U+FFFD has at least as many characters as
    undecodable sequences start before) -/
theorem decode_error_in_range (bs : List Nat) (p : Nat) (h : decode bs = .error p) : p ≤ bs.length := by
  have := feed_error_le {} bs p h
  simpa using this

/-- a `bytes` source is either decoded and handled as its text, or rejected with `InvalidCharacter` (a syntax error) -/
theorem parse_bytes_total (fl : Flags) (bs : List Nat) :
    (∃ t, decode bs = .ok t ∧ parseBytesE fl bs = parseTextE fl t) ∨
    (∃ p, p ≤ bs.length ∧ parseBytesE fl bs = .error (.lex ⟨.invalidCharacter, p⟩)) := by
  cases h : decode bs with
  | ok t => exact .inl ⟨t, rfl, by simp [parseBytesE, onBytes, h]⟩
  | error p => exact .inr ⟨p, decode_error_in_range bs p h, by simp [parseBytesE, onBytes, h]⟩

/-- the decoder accepts EXACTLY the UTF-8 encodings of texts of Unicode scalar values (shortest form, no
    surrogates, at most U+10FFFF) and returns the text: `bytes.decode("utf8")` is the inverse of `str.encode("utf8")`. -/
theorem decode_ok_iff (bs : List Nat) (t : Text) : decode bs = .ok t ↔ (t.all isScalar = true ∧ encode t = bs) := by
  constructor
  · intro h
    obtain ⟨u, e, hu, hb⟩ := feed_sound bs.length bs [] t (Nat.le_refl _) h
    simp only [List.reverse_nil, List.nil_append] at e
    subst e
    exact ⟨hu, hb⟩
  · rintro ⟨ht, rfl⟩
    exact decode_encode t ht

/-- a `bytes` source is accepted EXACTLY WHEN it is the UTF-8 encoding of a text (of scalar values)
    that `parse` accepts, and the tree is that text's tree — so "text accepted ⇔ derives from the grammar"
    (`parse_text_accepts_iff`, stated for `parseText`; `parseText fl t = some d ↔ parseTextE fl t = .ok d`:
    `Lemmas/TextPipeline.lean: parseText_eq_ok`) carries over to bytes sources. -/
theorem parse_bytes_accepts_iff (fl : Flags) (bs : List Nat) (d : Document) :
    parseBytesE fl bs = .ok d ↔ ∃ t, t.all isScalar = true ∧ encode t = bs ∧ parseTextE fl t = .ok d := by
  constructor
  · intro h
    simp only [parseBytesE, onBytes] at h
    split at h
    · rename_i t ht
      obtain ⟨h1, h2⟩ := (decode_ok_iff bs t).1 ht
      exact ⟨t, h1, h2, h⟩
    · cases h
  · rintro ⟨t, ht, rfl, hp⟩
    rw [(parse_bytes_eq_text fl t ht).1]; exact hp

/-- `é`, `€`, U+1F600 and a lone-surrogate-free text round-trip -/
example : encode [0xE9, 0x20AC, 0x1F600, 97] = [0xC3, 0xA9, 0xE2, 0x82, 0xAC, 0xF0, 0x9F, 0x98, 0x80, 97] := by decide +kernel
example : decode [0xC3, 0xA9, 0xE2, 0x82, 0xAC, 0xF0, 0x9F, 0x98, 0x80, 97] = .ok [0xE9, 0x20AC, 0x1F600, 97] := by rfl
/-- overlong, surrogate, > U+10FFFF, lone continuation, truncated: rejected at the right character offset -/
example : decode [0xC0, 0x80] = .error 0 := by rfl
example : decode [97, 0xED, 0xA0, 0x80] = .error 1 := by rfl
example : decode [0xF4, 0x90, 0x80, 0x80] = .error 0 := by rfl
example : decode [0xC3, 0xA9, 0x80] = .error 1 := by rfl
example : decode [123, 32, 97, 32, 125, 0xE2, 0x82] = .error 5 := by rfl
/-- `parse(b"{ a }\xff")` is InvalidCharacter at 5 -/
example : (parseBytesE {} [123, 32, 97, 32, 125, 0xFF]).toOption.isNone = true ∧
    (match parseBytesE {} [123, 32, 97, 32, 125, 0xFF] with | .error e => e.pos | .ok _ => 0) = 5 := by decide +kernel

end PyGql.Props.C01
