/-
  C20 — the G1 class (`g1Pair`, Props/C20.lean) on the diff model. "Every output position is at least as strict as
  before" holds on ALL type expressions outside the class (`nobreaking_fields_strict_outside_G1`,
  Props/C20_nobreaking.lean: fields of object and interface types); here the converse for the class itself:
  a retyping of the G1 class that loosens the output is NOT reported as breaking (the defect, stated on the
  diff model), one that tightens it IS reported although it is safe (over-reporting).
-/
import PyGqlModel.Props.C20_nobreaking

set_option linter.unusedSimpArgs false

namespace PyGql.Props.C20
open PyGql PyGql.Differ PyGql.Diff PyGql.Generated.Differ

/-- The full statement (kept visible; false today: G1). -/
def NobreakingFieldsStrictFull : Prop :=
  ∀ (o n : SchemaD), diffSchema o n 2 = [] → ∀ (ot nt : TypeD), FieldHost o n ot nt → ∀ (f g : FieldD), f ∈ ot.fields →
    nt.fields.find? (·.name == f.name) = some g → f.type.wf = true → g.type.wf = true → OutCompat f.type g.type

private def fS : FieldD := { name := "xs", type := .list (.nonNull (.named "Int")) }
private def fL : FieldD := { name := "xs", type := .list (.named "Int") }
private def fN : FieldD := { name := "xs", type := .nonNull (.list (.named "Int")) }
private def tS : TypeD := { kind := .object, name := "Query", fields := [fS] }
private def tL : TypeD := { kind := .object, name := "Query", fields := [fL] }
private def tN : TypeD := { kind := .object, name := "Query", fields := [fN] }
private def sS : SchemaD := { types := [tS] }
private def sL : SchemaD := { types := [tL] }
private def sN : SchemaD := { types := [tN] }

/-- Finding G1 on the diff model: `Query.xs: [Int!]` -> `[Int]` yields no BREAKING change, yet the new field can
    produce `[null]`. -/
theorem nobreaking_fields_strict_full_fails_today : ¬ NobreakingFieldsStrictFull := by
  intro hfull
  have hc := hfull sS sL (by decide +kernel) tS tL (Or.inl (by simp [matchingPairs, sS, sL, tS, tL]))
    fS fL (by simp [tS]) (by simp [tL, fS, fL]) (by decide +kernel) (by decide +kernel)
  have := hc (.list [.null]) (by decide +kernel)
  exact absurd this (by decide +kernel)

/-! non-vacuity of `nobreaking_fields_strict_outside_G1` with a list type: `[Int]` -> `[Int]!` -/
example : OutCompat (.list (.named "Int")) (.nonNull (.list (.named "Int"))) :=
  nobreaking_fields_strict_outside_G1 sL sN (by decide +kernel) tL tN (Or.inl (by simp [matchingPairs, sL, sN, tL, tN]))
    fL fN (by simp [tL]) (by simp [tN, fL, fN]) (by decide +kernel) (by decide +kernel) (by decide +kernel)

end PyGql.Props.C20
