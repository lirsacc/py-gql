/-
  C01 renders syntax-error positions with the same `index_to_loc` (`StringUtils.indexToLoc` IS `Response.indexToLoc`):
  the equation model = translated source proved in `Props/C10_tr.lean` is an obligation of C01 as well.
  Here: the same kind of equation for the readers of the lexer (`_read_name`, `_read_over_digits`, `_read_over_integer`,
  `_read_over_whitespace`, `_read_ellipsis`, `_read_number`) against their translation in `Generated/TrLexer.lean`.
-/
import PyGqlModel.StringUtils
import PyGqlModel.Lex
import PyGqlModel.Generated.TrLexer
import PyGqlModel.Props.C10_tr
import PyGqlModel.Lemmas.LexSoundNum
import PyGqlModel.Lemmas.TrBasics

namespace PyGql.Props.C01
open PyGql PyGql.Generated

theorem index_to_loc_model_eq_source (body : Text) (position : Nat) :
    Tr.index_to_loc body (position : Int) = C10.locOfModel (StringUtils.indexToLoc body position) :=
  C10.index_to_loc_model_eq_source body position

/-! ### `Lexer._read_name`: the index-based `while True / try / except IndexError / break` loop of the source against the
    suffix-based `takeWhile` / `dropWhile` of the model -/

private theorem len_sub_suffix {α} (pre l r : List α) :
    (((pre ++ (l ++ r)).length - r.length : Nat) : Int) = (((pre ++ l).length : Nat) : Int) := by
  simp only [← List.append_assoc, List.length_append (bs := r), Nat.add_sub_cancel]

private theorem nameChar_eq (c : Nat) :
    ((c == 95) || ((([97, 98, 99, 100, 101, 102, 103, 104, 105, 106, 107, 108, 109, 110, 111, 112, 113, 114, 115, 116, 117, 118, 119, 120, 121, 122, 65, 66, 67, 68, 69, 70, 71, 72, 73, 74, 75, 76, 77, 78, 79, 80, 81, 82, 83, 84, 85, 86, 87, 88, 89, 90] : List Nat).contains c) || (([48, 49, 50, 51, 52, 53, 54, 55, 56, 57] : List Nat).contains c)))
      = Lex.isNameChar c := by
  unfold Lex.isNameChar Lex.isLetter Lex.isDigit Generated.LexTables.asciiLetters Generated.LexTables.digits
  rw [Bool.or_assoc]

private theorem read_name_while : ∀ (fuel : Nat) (pre s : List Nat), s.length < fuel →
    Tr.Lexer._read_name.while1 (pre ++ s) fuel (pre.length : Int)
      = .fall ((((pre ++ s.takeWhile Lex.isNameChar).length : Nat)) : Int)
  | 0, _, _, h => by omega
  | fuel + 1, pre, [], _ => by
    rw [Tr.Lexer._read_name.while1]
    simp [Py.getItem_end]
  | fuel + 1, pre, c :: t, h => by
    rw [Tr.Lexer._read_name.while1]
    simp only [Py.getItem_at, nameChar_eq, if_true, List.takeWhile_cons]
    by_cases hc : Lex.isNameChar c = true
    · have ih := read_name_while fuel (pre ++ [c]) t (by simp at h; omega)
      rw [← List.append_cons, Py.snoc_len, ← List.append_cons] at ih
      simp only [hc, if_true, ih]
    · simp [hc]

private theorem take_takeWhile {α} (p : α → Bool) : ∀ s : List α, s.take (s.takeWhile p).length = s.takeWhile p
  | [] => rfl
  | a :: l => by rw [List.takeWhile_cons]; split <;> simp [take_takeWhile p l]

/-- **`Lexer._read_name`: model = source.** With `pre` already consumed and `s` unread, the translated method returns the
    `Name` token the model's `readName` builds (same start, end, text) and leaves `_position` at the token's end; it never
    raises and its loop never runs out of fuel. -/
theorem read_name_model_eq_source (pre s : Text) :
    Tr.Lexer._read_name (pre ++ s) (pre.length : Int)
      = .ok ((((Lex.readName (pre ++ s).length s).1.start : Int), ((Lex.readName (pre ++ s).length s).1.stop : Int),
              (Lex.readName (pre ++ s).length s).1.value), ((Lex.readName (pre ++ s).length s).1.stop : Int)) := by
  have hlen : (s.takeWhile Lex.isNameChar).length + (s.dropWhile Lex.isNameChar).length = s.length := by
    rw [← List.length_append, List.takeWhile_append_dropWhile]
  unfold Tr.Lexer._read_name
  rw [read_name_while _ pre s (by simp [Py.len]; omega), List.length_append (bs := s.takeWhile Lex.isNameChar)]
  have hstart : Lex.posAt (pre ++ s).length s = pre.length := by simp [Lex.posAt]
  have hstop : Lex.posAt (pre ++ s).length (s.dropWhile Lex.isNameChar) = pre.length + (s.takeWhile Lex.isNameChar).length := by
    simp [Lex.posAt]; omega
  have hsl := Py.slice_mid pre s (s.takeWhile Lex.isNameChar).length
  simp only [Lex.readName, hstart, hstop, Py.tok3, hsl, take_takeWhile]

private theorem digit_eq (c : Nat) : (([48, 49, 50, 51, 52, 53, 54, 55, 56, 57] : List Nat).contains c) = Lex.isDigit c := by
  unfold Lex.isDigit Generated.LexTables.digits; rfl

private theorem read_digits_while : ∀ (fuel : Nat) (pre : List Nat) (c : Nat) (t : List Nat), t.length + 1 < fuel →
    ∃ ch, Tr.Lexer._read_over_digits.while1 (pre ++ c :: t) fuel (pre.length : Int) c
      = .fall (((((pre ++ (c :: t).takeWhile Lex.isDigit).length : Nat)) : Int), ch)
  | 0, _, _, _, h => by omega
  | fuel + 1, pre, c, t, h => by
    rw [Tr.Lexer._read_over_digits.while1]
    simp only [digit_eq, Bool.true_and, if_true, List.takeWhile_cons]
    by_cases hc : Lex.isDigit c = true
    · simp only [hc, if_true]
      cases t with
      | nil =>
        rw [← Py.snoc_len pre c, Py.getItem_end]
        exact ⟨c, by simp⟩
      | cons d t' =>
        rw [← Py.snoc_len pre c, List.append_cons pre c (d :: t'), Py.getItem_at]
        obtain ⟨ch, ih⟩ := read_digits_while fuel (pre ++ [c]) d t' (by simp at h; omega)
        exact ⟨ch, by simp only [ih, List.append_cons pre c (List.takeWhile Lex.isDigit (d :: t'))]⟩
    · exact ⟨c, by simp [hc]⟩

/-- the exception class of a model error -/
def excName : Lex.ErrKind → String
  | .unexpectedEOF => "UnexpectedEOF"
  | .unexpectedCharacter => "UnexpectedCharacter"
  | .invalidCharacter => "InvalidCharacter"
  | .nonTerminatedString => "NonTerminatedString"
  | .invalidEscapeSequence => "InvalidEscapeSequence"
  | .fuel => "OutOfFuel"

/-- **`Lexer._read_over_digits`: model = source.** Same exception class on the same inputs (end of input, a non-digit), and
    otherwise `_position` ends where the model's unread suffix starts. -/
theorem read_over_digits_model_eq_source (pre s : Text) :
    Tr.Lexer._read_over_digits (pre ++ s) (pre.length : Int)
      = match Lex.readOverDigits (pre ++ s).length s with
        | .ok rest => .ok ((), (((pre ++ s).length - rest.length : Nat) : Int))
        | .error e => .error (excName e.kind) := by
  unfold Tr.Lexer._read_over_digits Lex.readOverDigits
  cases s with
  | nil => simp [Py.getItem_end, excName]
  | cons c t =>
    simp only [Py.getItem_at, digit_eq]
    by_cases hc : Lex.isDigit c = true
    · obtain ⟨ch, hw⟩ := read_digits_while (((Py.len (pre ++ c :: t) - (pre.length : Int)) + 1).toNat) pre c t
        (by simp [Py.len]; omega)
      have hpos := len_sub_suffix pre (c :: t.takeWhile Lex.isDigit) (t.dropWhile Lex.isDigit)
      rw [List.cons_append, List.takeWhile_append_dropWhile] at hpos
      simp only [hc, Bool.not_true, Bool.false_eq_true, if_false, if_true, hw, List.takeWhile_cons, hpos]
    · rw [Bool.not_eq_true] at hc
      rw [hc]
      rfl

theorem read_over_integer_model_eq_source (pre s : Text) :
    Tr.Lexer._read_over_integer (pre ++ s) (pre.length : Int)
      = match Lex.readOverInteger (pre ++ s).length s with
        | .ok rest => .ok ((), (((pre ++ s).length - rest.length : Nat) : Int))
        | .error e => .error (excName e.kind) := by
  unfold Tr.Lexer._read_over_integer Lex.readOverInteger
  cases s with
  | nil => simp [Py.getItem_end, excName]
  | cons c t =>
    simp only [Py.getItem_at]
    by_cases h0 : c = 48
    · subst h0
      cases t with
      | nil =>
        simp only [beq_self_eq_true, if_true, ← Py.snoc_len pre 48, Py.getItem_end]
        rfl
      | cons d t' =>
        simp only [beq_self_eq_true, if_true, ← Py.snoc_len pre 48, List.append_cons pre 48 (d :: t'), Py.getItem_at, digit_eq]
        cases Lex.isDigit d with
        | true => rfl
        | false => simp only [Bool.false_eq_true, if_false, List.length_append (bs := d :: t'), Nat.add_sub_cancel]
    · have hb : (c == 48) = false := by simp [h0]
      simp only [hb, Bool.false_eq_true, if_false, h0]
      rw [read_over_digits_model_eq_source pre (c :: t)]
      cases Lex.readOverDigits (pre ++ c :: t).length (c :: t) <;> rfl

private theorem commentChar_eq (c : Nat) :
    (((decide (c ≥ 32)) || (c == 9)) && (!([10, 13] : List Nat).contains c)) = Lex.isCommentChar c := by
  unfold Lex.isCommentChar Lex.isPrintable
  by_cases h1 : c = 10 <;> by_cases h2 : c = 13 <;> simp [h1, h2, GE.ge]

private theorem ignored_eq (c : Nat) : (([10, 13, 65279, 9, 32, 44] : List Nat).contains c) = Lex.isIgnored c := by
  unfold Lex.isIgnored Generated.LexTables.ignoredChars; rfl

private theorem row_comment : ∀ s : Text,
    Lex.readOverWhitespace true s = Lex.readOverWhitespace false (s.dropWhile Lex.isCommentChar)
  | [] => by simp [Lex.readOverWhitespace]
  | c :: t => by
    by_cases hc : Lex.isCommentChar c = true
    · rw [Lex.readOverWhitespace, List.dropWhile_cons]
      simp only [hc, Bool.and_self, if_true]
      exact row_comment t
    · rw [List.dropWhile_cons]
      simp only [hc, Bool.false_eq_true, if_false]
      rw [Lex.readOverWhitespace, Lex.readOverWhitespace]
      simp [hc]

private theorem row_len : ∀ (s : Text) (b : Bool), (Lex.readOverWhitespace b s).length ≤ s.length
  | s, b => by
    obtain ⟨ign, hs, _⟩ := Lex.readOverWhitespace_sound b s
    have := congrArg List.length hs
    rw [List.length_append] at this
    omega

private theorem ws_inner : ∀ (fuel : Nat) (pre s : List Nat) (ch : Nat), s.length < fuel →
    ∃ ch', Tr.Lexer._read_over_whitespace.while2 (pre ++ s) fuel ch (pre.length : Int)
      = .fall (ch', (((pre ++ s.takeWhile Lex.isCommentChar).length : Nat) : Int))
  | 0, _, _, _, h => by omega
  | fuel + 1, pre, [], ch, _ => by
    rw [Tr.Lexer._read_over_whitespace.while2]
    exact ⟨ch, by simp [Py.getItem_end]⟩
  | fuel + 1, pre, c :: t, ch, h => by
    rw [Tr.Lexer._read_over_whitespace.while2]
    simp only [Py.getItem_at, commentChar_eq, if_true, List.takeWhile_cons]
    by_cases hc : Lex.isCommentChar c = true
    · obtain ⟨ch', ih⟩ := ws_inner fuel (pre ++ [c]) t c (by simp at h; omega)
      rw [← List.append_cons, Py.snoc_len, ← List.append_cons] at ih
      exact ⟨ch', by simp only [hc, if_true, ih]⟩
    · exact ⟨c, by simp [hc]⟩

private theorem ws_outer : ∀ (fuel : Nat) (pre s : List Nat), s.length < fuel →
    Tr.Lexer._read_over_whitespace.while1 (pre ++ s) fuel (pre.length : Int)
      = .fall ((((pre ++ s).length - (Lex.readOverWhitespace false s).length : Nat)) : Int)
  | 0, _, _, h => by omega
  | fuel + 1, pre, [], _ => by
    rw [Tr.Lexer._read_over_whitespace.while1]
    simp [Py.getItem_end, Lex.readOverWhitespace]
  | fuel + 1, pre, c :: t, h => by
    have hlt : t.length < fuel := by simp at h; omega
    rw [Tr.Lexer._read_over_whitespace.while1, Lex.readOverWhitespace]
    simp only [Py.getItem_at, ignored_eq, if_true, Bool.false_and, Bool.false_eq_true, if_false]
    by_cases hi : Lex.isIgnored c = true
    · have ih := ws_outer fuel (pre ++ [c]) t hlt
      rw [← List.append_cons, Py.snoc_len] at ih
      simp only [hi, if_true, ih]
    · simp only [hi, Bool.false_eq_true, if_false]
      by_cases h35 : c = 35
      · subst h35
        simp only [beq_self_eq_true, if_true]
        obtain ⟨ch', hin⟩ := ws_inner ((((Py.len (pre ++ 35 :: t)) - ((pre.length : Int) + 1)) + 1).toNat) (pre ++ [35]) t 35
          (by simp [Py.len]; omega)
        rw [← List.append_cons, Py.snoc_len] at hin
        rw [hin]
        simp only []
        -- the outer loop goes on behind the comment, where the model (`row_comment`) goes on too
        have hlen := (List.dropWhile_suffix Lex.isCommentChar (l := t)).length_le
        have ih := ws_outer fuel (pre ++ [35] ++ t.takeWhile Lex.isCommentChar) (t.dropWhile Lex.isCommentChar) (by omega)
        rw [List.append_assoc (pre ++ [35]), List.takeWhile_append_dropWhile, ← List.append_cons] at ih
        rw [ih, row_comment t]
      · have hb : (c == 35) = false := by simp [h35]
        simp [hb, h35]

theorem read_over_whitespace_model_eq_source (pre s : Text) :
    Tr.Lexer._read_over_whitespace (pre ++ s) (pre.length : Int)
      = .ok ((), (((pre ++ s).length - (Lex.readOverWhitespace false s).length : Nat) : Int)) := by
  unfold Tr.Lexer._read_over_whitespace
  simp only []
  rw [ws_outer _ pre s (by simp [Py.len]; omega)]

private theorem ellipsis_loop (n : Nat) : ∀ (it : List Int) (pre s : Text),
    Tr.Lexer._read_ellipsis.loop1 (pre ++ s) it (pre.length : Int)
      = match Lex.readDots n it.length s with
        | .ok rest => .fall ((((pre ++ s).length - rest.length : Nat)) : Int)
        | .error e => .raise (excName e.kind)
  | [], pre, s => by simp [Tr.Lexer._read_ellipsis.loop1, Lex.readDots]
  | _ :: it, pre, [] => by
    rw [Tr.Lexer._read_ellipsis.loop1]
    simp [Py.getItem_end, Lex.readDots, excName]
  | _ :: it, pre, c :: t => by
    rw [Tr.Lexer._read_ellipsis.loop1]
    simp only [Py.getItem_at, List.length_cons, Lex.readDots]
    by_cases hc : c = 46
    · subst hc
      have ih := ellipsis_loop n it (pre ++ [46]) t
      rw [← List.append_cons, Py.snoc_len] at ih
      simp [ih]
    · simp [hc, excName]

theorem read_ellipsis_model_eq_source (pre s : Text) :
    Tr.Lexer._read_ellipsis (pre ++ s) (pre.length : Int)
      = match Lex.readEllipsis (pre ++ s).length s with
        | .ok (tok, _) => .ok (((tok.start : Int), (tok.stop : Int)), (tok.stop : Int))
        | .error e => .error (excName e.kind) := by
  unfold Tr.Lexer._read_ellipsis Lex.readEllipsis
  have hr : (Py.range (0 : Int) (3 : Int)).length = 3 := by simp [Py.range]
  have := ellipsis_loop (pre ++ s).length (Py.range (0 : Int) (3 : Int)) pre s
  rw [hr] at this
  simp only [this]
  cases Lex.readDots (pre ++ s).length 3 s with
  | error e => rfl
  | ok rest => simp [Py.tok2, Lex.posAt]

/-! ### `Lexer._read_number` (calls the translated `_read_over_integer` / `_read_over_digits`; join points `.kN`) -/

abbrev NumRes := Except String ((Bool × Int × Int × List Nat) × Int)

private theorem gi_end {α} (pre : List α) : Py.getItem (pre ++ []) (pre.length : Int) = .error "IndexError" := by
  rw [List.append_nil, Py.getItem_end]

/-- `T7 … T2`: what the join points `.k7 … .k2` of the translated `_read_number` compute, written with the MODEL's readers on the
    unread suffix (`T2`: from `_read_over_integer` on; `T3`: the fraction; `T5`: the exponent; `TD`: the digits behind the
    exponent sign; `T6`: the look-ahead; `T7`: the token) -/
def T7 (src : Text) (start : Int) (isf : Bool) (s4 : Text) : NumRes :=
  .ok ((isf, start, ((src.length - s4.length : Nat) : Int), Py.slice src start ((src.length - s4.length : Nat) : Int)),
       ((src.length - s4.length : Nat) : Int))
def T6 (src : Text) (start : Int) (isf : Bool) (s4 : Text) : NumRes :=
  match Lex.numberLookahead src.length s4 with
  | .ok () => T7 src start isf s4
  | .error e => .error (excName e.kind)
def TD (src : Text) (start : Int) (isf : Bool) (u : Text) : NumRes :=
  match Lex.readOverDigits src.length u with
  | .error e => .error (excName e.kind)
  | .ok r => T6 src start isf r
def T5 (src : Text) (start : Int) (isf : Bool) (s3 : Text) : NumRes :=
  match Lex.readExponent src.length s3 with
  | .error e => .error (excName e.kind)
  | .ok (f2, s4) => T6 src start (isf || f2) s4
def T3 (src : Text) (start : Int) (isf : Bool) (s2 : Text) : NumRes :=
  match Lex.readFraction src.length s2 with
  | .error e => .error (excName e.kind)
  | .ok (f1, s3) => T5 src start (isf || f1) s3
def T2 (src : Text) (start : Int) (s1 : Text) : NumRes :=
  match Lex.readOverInteger src.length s1 with
  | .error e => .error (excName e.kind)
  | .ok s2 => T3 src start false s2

private theorem digits_suffix {n : Nat} {s r : Text} (h : Lex.readOverDigits n s = .ok r) : ∃ l, s = l ++ r :=
  have ⟨d, ds, hs, _⟩ := Lex.readOverDigits_sound n s r h
  ⟨d :: ds, hs⟩

private theorem integer_suffix {n : Nat} {s r : Text} (h : Lex.readOverInteger n s = .ok r) : ∃ l, s = l ++ r :=
  have ⟨d, ds, hs, _⟩ := Lex.readOverInteger_sound n s r h
  ⟨d :: ds, hs⟩

private theorem l7 (pre s4 : Text) (start : Int) (isf : Bool) :
    Tr.Lexer._read_number.k7 (pre ++ s4) (pre.length : Int) start isf = T7 (pre ++ s4) start isf s4 := by
  have : (pre ++ s4).length - s4.length = pre.length := by simp
  unfold Tr.Lexer._read_number.k7 T7
  rw [this]
  cases isf <;> rfl

private theorem nameStart_eq (c : Nat) :
    ((c == 95) || (([97, 98, 99, 100, 101, 102, 103, 104, 105, 106, 107, 108, 109, 110, 111, 112, 113, 114, 115, 116, 117, 118, 119, 120, 121, 122, 65, 66, 67, 68, 69, 70, 71, 72, 73, 74, 75, 76, 77, 78, 79, 80, 81, 82, 83, 84, 85, 86, 87, 88, 89, 90] : List Nat).contains c))
      = Lex.isNameStart c := by
  unfold Lex.isNameStart Lex.isLetter Generated.LexTables.asciiLetters; rfl

private theorem l6 (pre s4 : Text) (start : Int) (isf : Bool) :
    Tr.Lexer._read_number.k6 (pre ++ s4) start (pre.length : Int) isf = T6 (pre ++ s4) start isf s4 := by
  unfold Tr.Lexer._read_number.k6 T6 Lex.numberLookahead
  cases s4 with
  | nil =>
    have := l7 pre [] start isf
    simp only [gi_end]; simpa using this
  | cons c t =>
    simp only [Py.getItem_at, nameStart_eq]
    cases Lex.isNameStart c with
    | true => rfl
    | false => exact l7 pre (c :: t) start isf

private theorem l9 (pre u : Text) (start : Int) (isf : Bool) :
    Tr.Lexer._read_number.k9 (pre ++ u) start isf (pre.length : Int) = TD (pre ++ u) start isf u := by
  unfold Tr.Lexer._read_number.k9 TD
  rw [read_over_digits_model_eq_source pre u]
  cases h : Lex.readOverDigits (pre ++ u).length u with
  | error e => rfl
  | ok r =>
    obtain ⟨l, rfl⟩ := digits_suffix h
    simp only [len_sub_suffix]
    rw [← List.append_assoc, l6]


private theorem signs_eq (x : Nat) : (([43, 45] : List Nat).contains x) = decide (x = 43 ∨ x = 45) := by
  simp

private theorem l8 (pre t : Text) (start : Int) (isf : Bool) :
    Tr.Lexer._read_number.k8 (pre ++ t) (pre.length : Int) start isf t.head? = TD (pre ++ t) start isf (Lex.skipSign t) := by
  unfold Tr.Lexer._read_number.k8
  cases t with
  | nil =>
    have := l9 pre [] start isf
    simpa [Lex.skipSign] using this
  | cons x u =>
    simp only [List.head?_cons, Option.isSome_some, Bool.true_and, signs_eq, Lex.skipSign]
    by_cases hx : x = 43 ∨ x = 45
    · simp only [hx, decide_true, if_true]
      rw [← Py.snoc_len pre x, List.append_cons pre x u, l9]
    · simp only [hx, decide_false, Bool.false_eq_true, if_false]
      exact l9 pre (x :: u) start isf

private theorem exps_eq (x : Nat) : (([101, 69] : List Nat).contains x) = decide (x = 101 ∨ x = 69) := by
  simp

private theorem l5 (pre s3 : Text) (start : Int) (isf : Bool) :
    Tr.Lexer._read_number.k5 (pre ++ s3) (pre.length : Int) start isf s3.head? = T5 (pre ++ s3) start isf s3 := by
  unfold Tr.Lexer._read_number.k5 T5 Lex.readExponent
  cases s3 with
  | nil =>
    have := l6 pre [] start isf
    simpa using this
  | cons c t =>
    simp only [List.head?_cons, Option.isSome_some, Bool.true_and, exps_eq]
    by_cases hc : c = 101 ∨ c = 69
    · simp only [hc, decide_true, if_true]
      rw [← Py.snoc_len pre c, List.append_cons pre c t]
      have h8 := l8 (pre ++ [c]) t start true
      cases t with
      | nil =>
        simp only [gi_end]
        simp only [List.head?_nil] at h8
        simp only [beq_self_eq_true, if_true, h8, TD]
        cases Lex.readOverDigits (pre ++ [c] ++ []).length (Lex.skipSign []) <;> simp [Except.map]
      | cons x u =>
        simp only [Py.getItem_at]
        simp only [List.head?_cons] at h8
        simp only [h8, TD]
        cases Lex.readOverDigits (pre ++ [c] ++ x :: u).length (Lex.skipSign (x :: u)) <;> simp [Except.map]
    · simp only [hc, decide_false, Bool.false_eq_true, if_false]
      have := l6 pre (c :: t) start isf
      simpa using this

private theorem l4 (pre s3 : Text) (start : Int) (ch : Option Nat) (isf : Bool) :
    Tr.Lexer._read_number.k4 (pre ++ s3) start ch (pre.length : Int) isf = T5 (pre ++ s3) start isf s3 := by
  unfold Tr.Lexer._read_number.k4
  have h5 := l5 pre s3 start isf
  cases s3 with
  | nil => simp only [gi_end]; simpa using h5
  | cons c t => simp only [Py.getItem_at]; simpa using h5

private theorem l3 (pre s2 : Text) (start : Int) (isf : Bool) :
    Tr.Lexer._read_number.k3 (pre ++ s2) (pre.length : Int) start isf s2.head? = T3 (pre ++ s2) start isf s2 := by
  unfold Tr.Lexer._read_number.k3 T3 Lex.readFraction
  cases s2 with
  | nil =>
    have := l4 pre [] start none isf
    simpa using this
  | cons c t =>
    by_cases hc : c = 46
    · subst hc
      simp only [List.head?_cons, beq_self_eq_true, if_true]
      rw [← Py.snoc_len pre 46, List.append_cons pre 46 t, read_over_digits_model_eq_source (pre ++ [46]) t]
      cases h : Lex.readOverDigits (pre ++ [46] ++ t).length t with
      | error e => simp [Except.map]
      | ok r =>
        obtain ⟨l, rfl⟩ := digits_suffix h
        simp only [len_sub_suffix, Except.map]
        rw [← List.append_assoc (pre ++ [46]), l4]
        simp
    · have hb : (some c == some 46) = false := by simp [hc]
      simp only [List.head?_cons, hb, Bool.false_eq_true, if_false, hc]
      have := l4 pre (c :: t) start (some c) isf
      simpa using this

private theorem l2 (pre s1 : Text) (start : Int) (ch : Option Nat) :
    Tr.Lexer._read_number.k2 (pre ++ s1) start false ch (pre.length : Int) = T2 (pre ++ s1) start s1 := by
  unfold Tr.Lexer._read_number.k2 T2
  rw [read_over_integer_model_eq_source pre s1]
  cases h : Lex.readOverInteger (pre ++ s1).length s1 with
  | error e => rfl
  | ok r =>
    obtain ⟨l, rfl⟩ := integer_suffix h
    simp only [len_sub_suffix]
    rw [← List.append_assoc]
    have h3 := l3 (pre ++ l) r start false
    cases r with
    | nil => simp only [gi_end]; simpa using h3
    | cons c t => simp only [Py.getItem_at]; simpa using h3

private theorem l1 (pre s : Text) (start : Int) :
    Tr.Lexer._read_number.k1 (pre ++ s) (pre.length : Int) start false s.head? = T2 (pre ++ s) start (Lex.skipMinus s) := by
  unfold Tr.Lexer._read_number.k1
  cases s with
  | nil =>
    have := l2 pre [] start none
    simpa [Lex.skipMinus] using this
  | cons c t =>
    by_cases hc : c = 45
    · subst hc
      simp only [List.head?_cons, beq_self_eq_true, if_true, Lex.skipMinus]
      rw [← Py.snoc_len pre 45, List.append_cons pre 45 t, l2]
    · have hb : (some c == some 45) = false := by simp [hc]
      simp only [List.head?_cons, hb, Bool.false_eq_true, if_false, Lex.skipMinus, hc]
      exact l2 pre (c :: t) start (some c)

private theorem read_number_stage (pre s : Text) :
    Tr.Lexer._read_number (pre ++ s) (pre.length : Int) = T2 (pre ++ s) (pre.length : Int) (Lex.skipMinus s) := by
  unfold Tr.Lexer._read_number
  have h1 := l1 pre s (pre.length : Int)
  cases s with
  | nil => simp only [gi_end]; simpa using h1
  | cons c t => simp only [Py.getItem_at]; simpa using h1

/-- `Float(...)` rather than `Integer(...)` -/
def isFloatKind : TokKind → Bool
  | .float => true
  | _ => false

/-- **`Lexer._read_number`: model = source.** The translated method (which calls the translated `_read_over_integer` /
    `_read_over_digits`) returns the token the model's `readNumber` builds — Float or Integer, same start, end and text —
    and leaves `_position` at its end, or raises the same exception class. -/
theorem read_number_model_eq_source (pre s : Text) :
    Tr.Lexer._read_number (pre ++ s) (pre.length : Int)
      = match Lex.readNumber (pre ++ s).length s with
        | .ok (tok, _) => .ok ((isFloatKind tok.kind, (tok.start : Int), (tok.stop : Int), tok.value), (tok.stop : Int))
        | .error e => .error (excName e.kind) := by
  rw [read_number_stage]
  unfold T2 Lex.readNumber
  cases Lex.readOverInteger (pre ++ s).length (Lex.skipMinus s) with
  | error e => rfl
  | ok s2 =>
    simp only [bind, Except.bind]
    unfold T3
    cases Lex.readFraction (pre ++ s).length s2 with
    | error e => rfl
    | ok p3 =>
      obtain ⟨f1, s3⟩ := p3
      simp only []
      unfold T5
      cases Lex.readExponent (pre ++ s).length s3 with
      | error e => rfl
      | ok p4 =>
        obtain ⟨f2, s4⟩ := p4
        simp only []
        unfold T6
        cases Lex.numberLookahead (pre ++ s).length s4 with
        | error e => rfl
        | ok u =>
          have hstart : (pre ++ s).length - s.length = pre.length := by simp
          simp only [T7, Py.slice_suffix, pure, Except.pure, Lex.posAt, hstart]
          cases f1 <;> cases f2 <;> rfl

end PyGql.Props.C01
