/-
  C06 - property theorems: VARIABLES INSIDE LIST LITERALS (fix fd410d8, in /repo). The position of the items of a list literal has the ITEM type of the
  list type expected (`TI.itemOf`: one non-null wrapper and one list level removed), not its named type.
  `itemOf` on the shapes that matter, and the verdicts of the model of `VariablesInAllowedPositionChecker` on the
  documents of the finding, by evaluation; the clause of 5.8.5 (`Spec.variablesInAllowedPosition`, through
  `rule_variables_in_allowed_position_iff`) agrees.
-/
import PyGqlModel.Props.C06_vars
namespace PyGql.Props.C06
open PyGql PyGql.Validate PyGql.Validate.Spec

theorem itemOf_list (t : Ty) : TI.itemOf (.list t) = t := rfl
theorem itemOf_nonNull_list (t : Ty) : TI.itemOf (.nonNull (.list t)) = t := rfl
/-- at a non-list position the (nullable) type of the position is kept -/
theorem itemOf_named (n : String) : TI.itemOf (.named n) = .named n ∧ TI.itemOf (.nonNull (.named n)) = .named n := ⟨rfl, rfl⟩
/-- the item position keeps the remaining list levels and the nullability of the items -/
example : TI.itemOf (.list (.list (.named "Int"))) = .list (.named "Int") ∧
    TI.itemOf (.list (.nonNull (.named "Int"))) = .nonNull (.named "Int") := ⟨rfl, rfl⟩

/-- `input G { rows: [[Int]] }  type Query { f(ll: [[Int]], nl: [Int!], g: G): Int }` -/
def liSchema : SchemaD :=
  { types := [
      { kind := .scalar, name := "Int" }, { kind := .scalar, name := "String" }, { kind := .scalar, name := "Boolean" },
      { kind := .input, name := "G", inputFields := [{ name := "rows", type := .list (.list (.named "Int")) }] },
      { kind := .object, name := "Query", fields := [
          { name := "f", type := .named "Int",
            args := [{ name := "ll", type := .list (.list (.named "Int")) },
                     { name := "nl", type := .list (.nonNull (.named "Int")) },
                     { name := "g", type := .named "G" }] }] }],
    query := some "Query",
    directives := [] }

def liDoc (vt : Ty) (arg : String) (val : Value) : Doc :=
  ⟨[opV [{ name := "v", type := vt, default := none }] 1 [fld none "f" [⟨arg, val⟩]]]⟩

/-- C06/1: `query ($v: [Int]) { f(ll: [$v]) }` is VALID and accepted (before fix fd410d8: rejected); also below an object field -/
example : Silent liSchema Fixes.all .variablesInAllowedPosition (liDoc (.list (.named "Int")) "ll" (.list [.var "v"])) := by
  unfold Silent; decide +kernel
example : Silent liSchema Fixes.all .variablesInAllowedPosition
    (liDoc (.list (.named "Int")) "g" (.obj [.mk "rows" (.list [.var "v"])])) := by
  unfold Silent; decide +kernel
/-- depth 2: `query ($v: Int) { f(ll: [[$v]]) }` is valid -/
example : Silent liSchema Fixes.all .variablesInAllowedPosition (liDoc (.named "Int") "ll" (.list [.list [.var "v"]])) := by
  unfold Silent; decide +kernel
/-- C06/2 (and C07/1): `query ($v: Int) { f(ll: [$v]) }` - too shallow - is reported (before fix fd410d8: accepted) -/
example : ¬ Silent liSchema Fixes.all .variablesInAllowedPosition (liDoc (.named "Int") "ll" (.list [.var "v"])) := by
  unfold Silent; decide +kernel
/-- C06/2: `query ($v: Int) { f(nl: [$v]) }` - nullable variable at a non-null item position - is reported -/
example : ¬ Silent liSchema Fixes.all .variablesInAllowedPosition (liDoc (.named "Int") "nl" (.list [.var "v"])) := by
  unfold Silent; decide +kernel
example : Silent liSchema Fixes.all .variablesInAllowedPosition
    (liDoc (.nonNull (.named "Int")) "nl" (.list [.var "v"])) := by
  unfold Silent; decide +kernel
/-- the clause of 5.8.5 says the same of the too-shallow document -/
example : ¬ Spec.variablesInAllowedPosition liSchema (liDoc (.named "Int") "ll" (.list [.var "v"])) := fun h =>
  absurd ((rule_variables_in_allowed_position_iff liSchema Fixes.all rfl rfl _).mpr h) (by unfold Silent; decide +kernel)

end PyGql.Props.C06
