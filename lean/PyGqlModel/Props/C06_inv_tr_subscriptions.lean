/-
  C06 - `SingleFieldSubscriptionsChecker` (5.2.3.1) under `Tr` (perm_selections / perm_arguments / alpha_fragments).
  The clause of the rule is an ALGORITHM (`CollectFields` restricted to response keys, with its visited set and the fuel
  the rule passes). Lemmas/ValidateRootKeysFuel.lean proves what it computes: exactly the response keys REACHABLE from the root
  selection set through inline fragments and fragment spreads (`KA`), each once - the fuel `sfsBound d` always suffices.
  Reachability does not depend on the order of selections and is transported by an injective renaming of fragments.
-/
import PyGqlModel.Props.C06_inv_tr_vars
import PyGqlModel.Lemmas.ValidateOverlapSimTr
namespace PyGql.Props.C06
open PyGql PyGql.Validate PyGql.Validate.Spec

/-- **5.2.3.1, declaratively**: the rule is silent ⇔ every subscription operation has exactly one reachable response key
    (no fuel, no visited set, no order) -/
theorem rule_single_field_subscriptions_declarative_iff (s : SchemaD) (fx : Fixes) (d : Doc) :
    Silent s fx .singleFieldSubscriptions d ↔
      ∀ nm vs dr i sels, Def.op "subscription" nm vs dr i sels ∈ d.defs →
        ∃ key, ∀ k, KA (sfsTable d) [] sels k ↔ k = key :=
  (rule_single_field_subscriptions_iff s fx d).trans (singleFieldSubscriptions_iff_ka d)

/-- **perm_selections / perm_arguments / alpha_fragments for `SingleFieldSubscriptionsChecker`** -/
theorem tr_invariance_single_field_subscriptions (T : Tr) (hinj : ∀ a b, T.frag a = T.frag b → a = b) (s : SchemaD)
    (fx : Fixes) (d : Doc) :
    Silent s fx .singleFieldSubscriptions (T.doc d) ↔ Silent s fx .singleFieldSubscriptions d := by
  rw [rule_single_field_subscriptions_iff, rule_single_field_subscriptions_iff]
  exact (T.docMap d).sfs_iff hinj (ρ := id) (fun _ _ => rfl) fun _ _ h => h

/-- **perm_selections / perm_arguments / alpha_fragments for all 25 rules of `ProvedTrAll`** (all but
    OverlappingFieldsCanBeMerged; SingleFieldSubscriptions included): code of /repo HEAD, documents with unique
    fragment names that are non-empty before and after the renaming (needed by NoFragmentCycles only)
    [alone-run statement, see `Silent`; the chain: `chainM_six_transformations`] -/
theorem tr_invariance_25_partial (T : Tr) (hinj : ∀ a b, T.frag a = T.frag b → a = b) (s : SchemaD) (fx : Fixes)
    (hfx : HeadVars fx) (d : Doc) (hnd : Spec.uniqueFragmentNames d) (hne : NamesNonEmpty d)
    (hne' : NamesNonEmpty (T.doc d)) (r : Rule) (hr : r ≠ .overlappingFieldsCanBeMerged) :
    Silent s fx r (T.doc d) ↔ Silent s fx r d := by
  by_cases h : r = .singleFieldSubscriptions
  · subst h; exact tr_invariance_single_field_subscriptions T hinj s fx d
  · refine tr_invariance_all25_partial T hinj s fx hfx d hnd hne hne' r ?_ h
    rcases (by decide +kernel : ∀ r ∈ Rule.all, r ∈ ProvedTrAll ∨ r = .overlappingFieldsCanBeMerged) r
      (Rule.mem_all r) with h1 | h1
    · exact h1
    · exact absurd h1 hr

/-- instance: reversing every selection list of a subscription document -/
example (s : SchemaD) (fx : Fixes) (d : Doc) :
    Silent s fx .singleFieldSubscriptions ((Tr.mk List.reverse id id (fun l => l.reverse_perm)
      (fun _ => List.Perm.refl _)).doc d) ↔ Silent s fx .singleFieldSubscriptions d :=
  tr_invariance_single_field_subscriptions _ (fun _ _ e => e) s fx d

end PyGql.Props.C06
