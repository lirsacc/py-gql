/-
  C10 — `null_error_bijection` on the model of the executor's
  error capture (`resolve_field` / `complete_value` / `_handle_non_nullable_value`).
-/
import PyGqlModel.Response
import PyGqlModel.Spec.NullSites
import PyGqlModel.Lemmas.ResponseCapture

namespace PyGql.Props.C10
open PyGql PyGql.Response PyGql.Spec.NullSites

open PyGql.Lemmas.ResponseCapture

/-- the paths of the registered errors are the sites below the node, in order (the first entry: the field itself, when
    its resolver raised) -/
private theorem paths_all :
    (∀ b t ns p o v es, completeInner b t ns p o = some (v, es) →
      es.map Err.path? = (if o.isRaised then [some p] else []) ++ (sitesInner t o).map (fun q => some (p ++ q))) ∧
    (∀ it ns p i items vs es, completeList it ns p i items = some (vs, es) →
      es.map Err.path? = (sitesList it i items).map (fun q => some (p ++ q))) ∧
    (∀ p fs kvs es, executeFields p fs = some (kvs, es) →
      es.map Err.path? = (sitesFields fs).map (fun q => some (p ++ q))) := by
  refine capture_induction
    { null := fun b t ns p => rfl
      raised := fun t ns p m x => rfl
      leaf := fun b n ns p x => rfl
      list := fun b it ns p items vs es ih => by simpa [sitesInner, Out.isRaised] using ih
      obj := fun b n ns p fs kvs es ih => by simpa [sitesInner, Out.isRaised] using ih
      lnil := fun it ns p i => rfl
      lcons := ?_
      fnil := fun p => rfl
      fcons := ?_ }
  · intro it ns p i o rest v es vs es' hi ih1 ih2
    simp only [sitesList, List.map_append, List.map_map, map_path_nullErrs, ih1, ih2, not_raised_of_item hi]
    cases it.isNonNull && completesNull o <;> simp [Function.comp_def]
  · intro p key ty ns o rest v es kvs es' hi ih1 ih2
    simp only [sitesFields, List.map_append, List.map_map, map_path_nullErrs, ih1, ih2]
    cases hr : o.isRaised with
    | true => simp [sitesInner_of_raised hr]
    | false => cases hc : ty.isNonNull && completesNull o <;> simp [Function.comp_def, hc]

private theorem inner_paths (b : Bool) (t : Ty) (nodes : List Nat) (path : Path) :
    ∀ (o : Out) (v : J) (es : List Err), completeInner b t nodes path o = some (v, es) →
      es.map Err.path? = (if o.isRaised then [some path] else []) ++ (sitesInner t o).map (fun p => some (path ++ p)) :=
  paths_all.1 b t nodes path

private theorem list_paths (it : Ty) (nodes : List Nat) (path : Path) :
    ∀ (i : Nat) (items : OutList) (vs : List J) (es : List Err), completeList it nodes path i items = some (vs, es) →
      es.map Err.path? = (sitesList it i items).map (fun p => some (path ++ p)) :=
  paths_all.2.1 it nodes path

/-- For every typed outcome tree of a root selection that the
    executor completes, the list of the paths of the collected errors IS the list of the sites the
    statement names — fields whose resolver raised the resolver error and non-null positions whose
    value is null — in execution order: each site has its error, each error its site. -/
theorem null_error_bijection (root : FldList) (data : J) (errs : List Err)
    (h : execute root = some (data, errs)) :
    errs.map Err.path? = (sitesFields root).map some := by
  obtain ⟨kvs, h1, _⟩ := execute_eq_some h
  simpa using paths_all.2.2 [] root kvs errs h1

/-- non-vacuity: `{ a b l o { id v } }` with `a` raising, `b: String!` null, `l: [Int!]!` = `[1, null]`,
    `o.id` raising and `o.v: Float!` null: five errors, at exactly the five sites, each null in `data`. -/
private def exampleRoot : FldList :=
  .cons "a" (.named "Int") [2] (.raised "boom" none) <|
  .cons "b" (.nonNull (.named "String")) [4] .null <|
  .cons "l" (.nonNull (.list (.nonNull (.named "Int")))) [6] (.list (.cons (.leaf (.num 1)) (.cons .null .nil))) <|
  .cons "o" (.named "Obj") [8]
    (.obj (.cons "id" (.nonNull (.named "ID")) [12] (.raised "" (some [("code", .num 7)]))
          (.cons "v" (.nonNull (.named "Float")) [15] .null .nil))) .nil

example : sitesFields exampleRoot =
    [[.key "a"], [.key "b"], [.key "l", .idx 1], [.key "o", .key "id"], [.key "o", .key "v"]] := by decide +kernel

example : ∃ data errs, execute exampleRoot = some (data, errs) ∧ errs.length = 5 ∧
    errs.map Err.path? = (sitesFields exampleRoot).map some ∧
    (sitesFields exampleRoot).all (fun p => (dataAt data p).map J.isNull == some true) = true := by
  refine ⟨_, _, rfl, ?_, ?_, ?_⟩ <;> decide +kernel

end PyGql.Props.C10
