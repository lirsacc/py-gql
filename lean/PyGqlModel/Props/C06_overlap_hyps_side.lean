/-
  C06 - property theorems: discharging the side conditions of the equivalence for
  `OverlappingFieldsCanBeMergedChecker` (`OverlapHyps` of `Props/C06_all.lean`).

  `overlapSide_of_wf`: `OverlapSide` follows from
      * `WfIds d` - the selection-set nodes of the document have pairwise different identities. The harness uses the
        START OFFSET of the `SelectionSet` node (`corr/C06_model.py: _sub`), so every parsed document satisfies it; it
        is COMPUTABLE (`Validate/WfIds.lean: wfIdsB`, `wfIdsB_iff`) so that the driver can check it on every document
        it is sent;
      * fragment names non-empty (`NamesNonEmpty`, guaranteed by the parser) and pairwise distinct (the clause of
        UniqueFragmentNames);
      * fragment spreads acyclic (`Spec.noFragmentCycles`, the clause of NoFragmentCycles).
  Which form of the equivalence is current: header of `Props/C06_overlap.lean` (these side conditions are those of the UN-memoised
  search; the memoised one needs none of them).
-/
import PyGqlModel.Props.C06_all
import PyGqlModel.Lemmas.ValidateOverlapWf
import PyGqlModel.Props.C06_overlap_examples
namespace PyGql.Props.C06
open PyGql PyGql.Validate PyGql.Validate.Spec

/-- the side conditions about node identities and fragment names, from well-formed identities, non-empty
    unique fragment names and acyclic fragment spreads -/
theorem overlapSide_of_wf (s : SchemaD) (d : Doc) (hw : WfIds d) (hne : NamesNonEmpty d)
    (hnd : (Spec.fragNames d).Nodup) (hac : Spec.noFragmentCycles d) : OverlapSide s d :=
  ⟨noEmptyName_of hne, subsNotBodies_of hw, spreadsApart_of hw hnd hac⟩

theorem overlapSide_of_wfB (s : SchemaD) (d : Doc) (hw : wfIdsB d = true) (hne : NamesNonEmpty d)
    (hnd : (Spec.fragNames d).Nodup) (hac : Spec.noFragmentCycles d) : OverlapSide s d :=
  overlapSide_of_wf s d ((wfIdsB_iff d).mp hw) hne hnd hac

/-! non-vacuity: the documents of `Props/C06_overlap_examples.lean` have well-formed identities (checked by
    evaluation), non-empty distinct fragment names and no cycles -/
example : wfIdsB (oDocFrag "a") = true := by decide
example : ¬ wfIdsB ⟨[opV [] 1 [.field none "o" [] [] true 1 [fld none "s"]]]⟩ = true := by decide

end PyGql.Props.C06
