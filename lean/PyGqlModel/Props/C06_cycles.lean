/-
  C06 - property theorems: `NoFragmentCyclesChecker` (5.5.2.2).
  Walk: inside a fragment definition the rule records the distinct names spread (at any depth), a spread of the
  fragment itself is reported at once (SkipNode) and not recorded. `leave_document` then searches the recorded graph
  (`Lemmas/ValidateCycles.lean`: the search is reachability).
  What is recorded (`recorded d`, `recorded_spec`): one entry per fragment definition with the distinct names it spreads,
  itself excluded; self-spreads counted as errors.
  The rule theorem: for documents whose fragment names are unique and not empty (what the parser produces; uniqueness is
  rule 5.5.1.1), with the fix `continue` (874f2dd), the rule reports nothing  ⇔  no fragment reaches itself through
  fragment spreads (5.5.2.2).
-/
import PyGqlModel.Props.C06_frags_collected
import PyGqlModel.Lemmas.ValidateCycles
namespace PyGql.Props.C06
open PyGql PyGql.Validate PyGql.Validate.Spec

private abbrev cC (s : SchemaD) (fx : Fixes) : Cfg := ⟨s, fx, [.noFragmentCycles]⟩

/-- effect of one spread `...nm` inside fragment `f` -/
def spreadStep (f nm : String) (rs : RS) : RS :=
  if nm == f then rs.err .noFragmentCycles
  else if (AL.getD rs.cycSpreads f []).contains nm then rs
  else { rs with cycSpreads := AL.modify rs.cycSpreads f [] (· ++ [nm]) }

def spreadSteps (f : String) (names : List String) (rs : RS) : RS := names.foldl (fun rs nm => spreadStep f nm rs) rs

theorem spreadSteps_append (f : String) (a b : List String) (rs : RS) :
    spreadSteps f (a ++ b) rs = spreadSteps f b (spreadSteps f a rs) := by simp [spreadSteps, List.foldl_append]

theorem spreadStep_cur (f nm : String) (rs : RS) : (spreadStep f nm rs).cycCurrent = rs.cycCurrent := by
  unfold spreadStep; split <;> (try split) <;> rfl

theorem spreadSteps_cur (f : String) (names : List String) (rs : RS) : (spreadSteps f names rs).cycCurrent = rs.cycCurrent := by
  induction names generalizing rs with
  | nil => rfl
  | cons a as ih => simp only [spreadSteps, List.foldl_cons] at ih ⊢; rw [ih, spreadStep_cur]

def Node.isCycNode : Node → Bool
  | .spread .. | .fragmentDef .. | .document _ => true
  | _ => false

/-- everywhere else the rule is idle -/
private theorem cyc_idle (s : SchemaD) (fx : Fixes) {n : Node} (h : Node.isCycNode n = false) :
    IdleAt s fx .noFragmentCycles n := by
  cases n with
  | spread | fragmentDef | document => cases h
  | _ => exact ⟨fun _ _ => rfl, fun _ _ => rfl⟩

/-- a spread inside fragment `f` (`_current` is `f`; the empty name counts as "no current fragment" in the code) -/
private theorem cyc_enter_spread (s : SchemaD) (fx : Fixes) (nm : String) (dirs : List Dir) (ti : TI) (rs : RS) (f : String)
    (hc : rs.cycCurrent = some f) (hf : f ≠ "") :
    enterRule s fx .noFragmentCycles (.spread nm dirs) ti rs = (spreadStep f nm rs, nm == f) := by
  have hf' : (f != "") = true := bne_iff_ne.mpr hf
  dsimp only [enterRule, spreadStep]
  rw [hc]
  dsimp only
  rw [hf', Bool.true_and]
  cases nm == f
  · simp only [Bool.false_eq_true, if_false]
    split <;> rfl
  · rfl

theorem argsNodes_inert (as : List Arg) : ∀ n ∈ argsNodes as, Node.isCycNode n = false := by
  intro n hn
  simp only [argsNodes, List.mem_flatMap] at hn
  obtain ⟨a, _, hn⟩ := hn
  simp only [argNodes, List.mem_cons] at hn
  rcases hn with rfl | hn
  · rfl
  · have := valueNodes_kinds _ n hn
    cases n with
    | spread | fragmentDef | document => cases this
    | _ => rfl

theorem dirsNodes_inert (ds : List Dir) : ∀ n ∈ dirsNodes ds, Node.isCycNode n = false := by
  intro n hn
  simp only [dirsNodes, List.mem_flatMap] at hn
  obtain ⟨d, _, hn⟩ := hn
  simp only [dirNodes, List.mem_cons] at hn
  rcases hn with rfl | hn
  · rfl
  · exact argsNodes_inert _ n hn

private theorem args_inert (s : SchemaD) (fx : Fixes) (as : List Arg) (st : St) : (visitArguments (cC s fx) as st).rs = st.rs :=
  visitArgumentsG (idle_alg s fx _).toV as st fun n hn => cyc_idle s fx (argsNodes_inert as n hn)
private theorem dirs_inert (s : SchemaD) (fx : Fixes) (ds : List Dir) (st : St) : (visitDirectives (cC s fx) ds st).rs = st.rs :=
  visitDirectivesG (idle_alg s fx _).toV ds st fun n hn => cyc_idle s fx (dirsNodes_inert ds n hn)

def selSpreads : Sel → List String
  | .field _ _ _ _ hs _ sub => if hs then selsSpreads sub else []
  | .spread name _ => [name]
  | .inline _ _ _ sub => selsSpreads sub
where
  selsSpreads : List Sel → List String
    | [] => []
    | x :: xs => selSpreads x ++ selsSpreads xs


private theorem visitNode_inert (s : SchemaD) (fx : Fixes) (n : Node) (h : Node.isCycNode n = false) (body : St → St) (st : St) :
    (visitNode (cC s fx) n body st).rs = (body { ti := tiEnter s n st.ti, rs := st.rs }).rs := by
  obtain ⟨hE, hL⟩ := cyc_idle s fx h
  rw [visitNode_one_noskip s fx _ n body st (by rw [hE]), leave_one_rule, hL, hE]

mutual
theorem sel_cyc (s : SchemaD) (fx : Fixes) (f : String) (hf : f ≠ "") : ∀ (x : Sel) (st : St), st.rs.cycCurrent = some f →
    (visitSel (cC s fx) x st).rs = spreadSteps f (selSpreads x) st.rs
  | .field al name args dirs true ssid sub, st, hc => by
    rw [visitSel, visitNode_inert s fx _ rfl]
    simp only [↓reduceIte, selSpreads]
    rw [visitNode_inert s fx _ rfl, sels_cyc s fx f hf sub _ (by simp only [dirs_inert, args_inert]; exact hc)]
    simp only [dirs_inert, args_inert]
  | .field al name args dirs false ssid sub, st, hc => by
    rw [visitSel, visitNode_inert s fx _ rfl]
    simp only [Bool.false_eq_true, ↓reduceIte, selSpreads, dirs_inert, args_inert, spreadSteps, List.foldl_nil]
  | .spread nm dirs, st, hc => by
    have he : enter (cC s fx) (.spread nm dirs) st =
        ({ ti := tiEnter s (.spread nm dirs) st.ti, rs := spreadStep f nm st.rs }, nm == f) := by
      rw [enter_single, cyc_enter_spread s fx nm dirs _ st.rs f hc hf]
    rw [visitSel]
    show (visitNode _ _ _ _).rs = spreadStep f nm st.rs
    cases h : nm == f
    · rw [h] at he
      rw [visitNode_noskip _ _ _ _ _ he, leave_single]
      exact dirs_inert s fx dirs _
    · rw [h] at he
      rw [visitNode_skip _ _ _ _ _ he]
  | .inline on dirs ssid sub, st, hc => by
    rw [visitSel, visitNode_inert s fx _ rfl]
    simp only [selSpreads]
    rw [visitNode_inert s fx _ rfl, sels_cyc s fx f hf sub _ (by simp only [dirs_inert]; exact hc)]
    simp only [dirs_inert]
theorem sels_cyc (s : SchemaD) (fx : Fixes) (f : String) (hf : f ≠ "") : ∀ (xs : List Sel) (st : St), st.rs.cycCurrent = some f →
    (visitSels (cC s fx) xs st).rs = spreadSteps f (selSpreads.selsSpreads xs) st.rs
  | [], st, _ => by rw [visitSels]; rfl
  | x :: xs, st, hc => by
    rw [visitSels, selSpreads.selsSpreads, spreadSteps_append,
      sels_cyc s fx f hf xs _ (by rw [sel_cyc s fx f hf x st hc, spreadSteps_cur]; exact hc), sel_cyc s fx f hf x st hc]
end


/-- outside fragment definitions (`_current is None`) nothing below a definition changes the rule state -/
def QO (_ : List Node) (st st' : St) : Prop := st.rs.cycCurrent = none → st'.rs = st.rs

private theorem algO (s : SchemaD) (fx : Fixes) : WalkAlg (cC s fx) QO where
  nil st := fun _ => rfl
  append h1 h2 := fun h => by rw [h2 (by rw [h1 h]; exact h), h1 h]
  node n body ns st hn hb := fun h => by
    have hen : enterRule s fx .noFragmentCycles n (tiEnter s n st.ti) st.rs = (st.rs, false) := by
      cases n with
      | document | operation | fragmentDef | tsDef => cases hn
      | spread nm dirs =>
        dsimp only [enterRule]
        rw [h]
      | _ => rfl
    have hle : ∀ ti rs, leaveRule s fx .noFragmentCycles n ti rs = rs := by
      intro ti rs
      cases n with
      | document | fragmentDef => cases hn
      | _ => rfl
    have he : (enter (cC s fx) n st).2 = false := by rw [enter_single, hen]
    rw [visitNode_false he, leave_single, hle, enter_single, hen]
    exact hb _ h

def fragEffect (f : String) (sels : List Sel) (rs : RS) : RS :=
  { spreadSteps f (selSpreads.selsSpreads sels) { rs with cycCurrent := some f, cycSpreads := AL.set rs.cycSpreads f [] } with
    cycCurrent := none }

def defEffect : Def → RS → RS
  | .frag f _ _ _ sels => fragEffect f sels
  | _ => id

theorem defEffect_cur (x : Def) (rs : RS) (h : rs.cycCurrent = none) : (defEffect x rs).cycCurrent = none := by
  cases x <;> simp [defEffect, fragEffect, h]

theorem visitDef_cyc (s : SchemaD) (fx : Fixes) (x : Def) (st : St) (hc : st.rs.cycCurrent = none)
    (hne : ∀ f on dirs id sels, x = Def.frag f on dirs id sels → f ≠ "") :
    (visitDef (cC s fx) x st).rs = defEffect x st.rs := by
  cases x with
  | op kind name vars dirs ssid sels =>
    rw [visitDef, visitNode_inert s fx _ rfl]
    exact opBodyG (algO s fx).toV vars dirs ssid sels _ hc
  | frag f on dirs ssid sels =>
    have hf := hne f on dirs ssid sels rfl
    have he : enter (cC s fx) (.fragmentDef f on dirs) st =
        ({ ti := tiEnter s (.fragmentDef f on dirs) st.ti,
           rs := { st.rs with cycCurrent := some f, cycSpreads := AL.set st.rs.cycSpreads f [] } }, false) := by
      rw [enter_single]; rfl
    rw [visitDef, visitNode_noskip _ _ _ _ _ he, leave_single, visitNode_inert s fx _ rfl,
      sels_cyc s fx f hf sels _ (by simp only [dirs_inert])]
    simp only [dirs_inert, defEffect, fragEffect]
    rfl
  | ts a b =>
    rw [visitDef, visitNode_inert s fx _ rfl]; rfl

theorem visitDefs_cyc (s : SchemaD) (fx : Fixes) : ∀ (ds : List Def) (st : St), st.rs.cycCurrent = none →
    (∀ x ∈ ds, ∀ f on dirs id sels, x = Def.frag f on dirs id sels → f ≠ "") →
    (ds.foldl (fun st x => visitDef (cC s fx) x st) st).rs = ds.foldl (fun rs x => defEffect x rs) st.rs
  | [], st, _, _ => rfl
  | x :: xs, st, hc, hne => by
    rw [List.foldl_cons, List.foldl_cons,
      visitDefs_cyc s fx xs _ (by rw [visitDef_cyc s fx x st hc (hne x (List.mem_cons_self ..))]; exact defEffect_cur x _ hc)
        (fun y hy => hne y (List.mem_cons_of_mem _ hy)),
      visitDef_cyc s fx x st hc (hne x (List.mem_cons_self ..))]

/-- the recorded state after all definitions -/
def recorded (d : Doc) : RS := d.defs.foldl (fun rs x => defEffect x rs) {}

/-- errors of the rule run alone = self-spreads met during the walk + errors of the search in `leave_document` -/
theorem cyc_alone_errors (s : SchemaD) (fx : Fixes) (d : Doc)
    (hne : ∀ x ∈ d.defs, ∀ f on dirs id sels, x = Def.frag f on dirs id sels → f ≠ "") :
    E (alone s fx .noFragmentCycles d) = (recorded d).errs.length + (cycErrors fx (recorded d).cycSpreads).1 := by
  unfold alone
  have he : enter (cC s fx) (.document d) {} = (({} : St), false) := by
    rw [enter_single]; rfl
  rw [visitDocument, visitNode_noskip _ _ _ _ _ he, leave_single]
  dsimp only [E, leaveRule]
  rw [visitDefs_cyc s fx d.defs ({} : St) rfl hne]
  split <;> exact errN_length ..

theorem spreadStep_errs (f nm : String) (rs : RS) :
    (spreadStep f nm rs).errs.length = rs.errs.length + (if nm == f then 1 else 0) := by
  unfold spreadStep
  split
  · simp [RS.err]
  · split <;> simp

theorem spreadSteps_errs (f : String) (names : List String) (rs : RS) :
    (spreadSteps f names rs).errs.length = rs.errs.length + (names.filter (· == f)).length := by
  induction names generalizing rs with
  | nil => rfl
  | cons a as ih =>
    simp only [spreadSteps, List.foldl_cons] at ih ⊢
    rw [ih, spreadStep_errs, List.filter_cons]
    split <;> simp <;> omega

theorem spreadStep_other (f nm g : String) (rs : RS) (hg : g ≠ f) :
    AL.get? (spreadStep f nm rs).cycSpreads g = AL.get? rs.cycSpreads g := by
  unfold spreadStep
  split
  · rfl
  · split
    · rfl
    · simp only [AL.modify, AL.get?_set, hg, ↓reduceIte]

theorem spreadSteps_other (f : String) (names : List String) (g : String) (rs : RS) (hg : g ≠ f) :
    AL.get? (spreadSteps f names rs).cycSpreads g = AL.get? rs.cycSpreads g := by
  induction names generalizing rs with
  | nil => rfl
  | cons a as ih => simp only [spreadSteps, List.foldl_cons] at ih ⊢; rw [ih, spreadStep_other f a g rs hg]

theorem spreadStep_mem (f nm x : String) (rs : RS) :
    x ∈ AL.getD (spreadStep f nm rs).cycSpreads f [] ↔ x ∈ AL.getD rs.cycSpreads f [] ∨ (x = nm ∧ nm ≠ f) := by
  unfold spreadStep
  by_cases h1 : nm = f
  · subst h1; simp [RS.err]
  · have h1' : (nm == f) = false := by simpa using h1
    simp only [h1', Bool.false_eq_true, ↓reduceIte]
    by_cases h2 : (AL.getD rs.cycSpreads f []).contains nm = true
    · simp only [h2, ↓reduceIte]
      constructor
      · exact Or.inl
      · rintro (h | ⟨rfl, _⟩)
        · exact h
        · simpa using h2
    · simp only [h2, Bool.false_eq_true, ↓reduceIte, AL.getD_modify, List.mem_append, List.mem_singleton]
      constructor
      · rintro (h | rfl)
        · exact Or.inl h
        · exact Or.inr ⟨rfl, h1⟩
      · rintro (h | ⟨rfl, _⟩)
        · exact Or.inl h
        · exact Or.inr rfl

theorem spreadSteps_mem (f : String) (names : List String) (x : String) (rs : RS) :
    x ∈ AL.getD (spreadSteps f names rs).cycSpreads f [] ↔ x ∈ AL.getD rs.cycSpreads f [] ∨ (x ∈ names ∧ x ≠ f) := by
  induction names generalizing rs with
  | nil => simp [spreadSteps]
  | cons a as ih =>
    simp only [spreadSteps, List.foldl_cons] at ih ⊢
    rw [ih, spreadStep_mem]
    simp only [List.mem_cons]
    constructor
    · rintro ((h | ⟨rfl, h⟩) | ⟨h1, h2⟩)
      · exact Or.inl h
      · exact Or.inr ⟨Or.inl rfl, h⟩
      · exact Or.inr ⟨Or.inr h1, h2⟩
    · rintro (h | ⟨rfl | h1, h2⟩)
      · exact Or.inl (Or.inl h)
      · exact Or.inl (Or.inr ⟨rfl, h2⟩)
      · exact Or.inr ⟨h1, h2⟩

theorem spreadStep_has (f nm g : String) (rs : RS) (hf : AL.has rs.cycSpreads f = true) :
    AL.has (spreadStep f nm rs).cycSpreads g = AL.has rs.cycSpreads g := by
  unfold spreadStep
  split
  · rfl
  · split
    · rfl
    · simp only [AL.modify, AL.has_set]
      by_cases e : g = f
      · subst e; simp [hf]
      · simp [e]

theorem spreadSteps_has (f : String) (names : List String) (g : String) (rs : RS) (hf : AL.has rs.cycSpreads f = true) :
    AL.has (spreadSteps f names rs).cycSpreads g = AL.has rs.cycSpreads g := by
  induction names generalizing rs with
  | nil => rfl
  | cons a as ih =>
    simp only [spreadSteps, List.foldl_cons] at ih ⊢
    rw [ih _ (by rw [spreadStep_has f a f rs hf]; exact hf), spreadStep_has f a g rs hf]


def fragsOf (ds : List Def) : List (String × List Sel) :=
  ds.filterMap fun | .frag f _ _ _ sels => some (f, sels) | _ => none

def selfCount (p : String × List Sel) : Nat := ((selSpreads.selsSpreads p.2).filter (· == p.1)).length

theorem fragEffect_errs (f : String) (sels : List Sel) (rs : RS) :
    (fragEffect f sels rs).errs.length = rs.errs.length + selfCount (f, sels) := by
  simp only [fragEffect, spreadSteps_errs, selfCount]

theorem fragEffect_has (f : String) (sels : List Sel) (rs : RS) (g : String) :
    AL.has (fragEffect f sels rs).cycSpreads g = (AL.has rs.cycSpreads g || decide (g = f)) := by
  simp only [fragEffect]
  rw [spreadSteps_has _ _ _ _ (by simp [AL.has_set])]
  simp [AL.has_set]

theorem fragEffect_other (f : String) (sels : List Sel) (rs : RS) (g : String) (hg : g ≠ f) :
    AL.get? (fragEffect f sels rs).cycSpreads g = AL.get? rs.cycSpreads g := by
  simp only [fragEffect]
  rw [spreadSteps_other _ _ _ _ hg]
  simp [AL.get?_set, hg]

theorem fragEffect_mem (f : String) (sels : List Sel) (rs : RS) (x : String) :
    x ∈ AL.getD (fragEffect f sels rs).cycSpreads f [] ↔ x ∈ selSpreads.selsSpreads sels ∧ x ≠ f := by
  simp only [fragEffect]
  rw [spreadSteps_mem]
  simp [AL.getD_set]

structure RecSpec (fs : List (String × List Sel)) (rs R : RS) : Prop where
  errs : R.errs.length = rs.errs.length + (fs.map selfCount).sum
  has : ∀ g, AL.has R.cycSpreads g = (AL.has rs.cycSpreads g || decide (g ∈ fs.map (·.1)))
  mem : ∀ p ∈ fs, ∀ x, x ∈ AL.getD R.cycSpreads p.1 [] ↔ x ∈ selSpreads.selsSpreads p.2 ∧ x ≠ p.1
  other : ∀ g, g ∉ fs.map (·.1) → AL.get? R.cycSpreads g = AL.get? rs.cycSpreads g

theorem recorded_spec : ∀ (ds : List Def) (rs : RS), ((fragsOf ds).map (·.1)).Nodup →
    RecSpec (fragsOf ds) rs (ds.foldl (fun rs x => defEffect x rs) rs)
  | [], rs, _ => ⟨rfl, fun g => (Bool.or_false _).symm, fun p hp => (nomatch hp), fun _ _ => rfl⟩
  | .frag f on dirs ssid sels :: xs, rs, hnd => by
    have hnd' : f ∉ (fragsOf xs).map (·.1) ∧ ((fragsOf xs).map (·.1)).Nodup := List.nodup_cons.mp hnd
    have ih := recorded_spec xs (fragEffect f sels rs) hnd'.2
    show RecSpec ((f, sels) :: fragsOf xs) rs (List.foldl (fun rs x => defEffect x rs) (fragEffect f sels rs) xs)
    refine ⟨?_, ?_, ?_, ?_⟩
    · rw [ih.errs, fragEffect_errs, List.map_cons, List.sum_cons, Nat.add_assoc]
    · intro g
      simp only [ih.has g, fragEffect_has, List.map_cons, List.mem_cons, Bool.decide_or, Bool.or_assoc]
    · intro p hp x
      rcases List.mem_cons.mp hp with rfl | hp
      · simp only [AL.getD, ih.other f hnd'.1]
        exact fragEffect_mem f sels rs x
      · exact ih.mem p hp x
    · intro g hg
      have hg' : ¬ (g = f ∨ g ∈ (fragsOf xs).map (·.1)) := fun e => hg (List.mem_cons.mpr e)
      rw [ih.other g (fun e => hg' (Or.inr e)), fragEffect_other f sels rs g (fun e => hg' (Or.inl e))]
  | .op .. :: xs, rs, hnd => recorded_spec xs rs hnd
  | .ts .. :: xs, rs, hnd => recorded_spec xs rs hnd

theorem fragNames_eq_fragsOf (d : Doc) : Spec.fragNames d = (fragsOf d.defs).map (·.1) := by
  unfold Spec.fragNames fragsOf
  induction d.defs with
  | nil => rfl
  | cons x xs ih => cases x <;> simp only [List.filterMap_cons, List.map_cons, ih]

/-- spreads among the nodes of argument / directive lists: none -/
theorem filterMap_spread_inert (ns : List Node) (h : ∀ n ∈ ns, Node.isCycNode n = false) :
    ns.filterMap (fun | .spread n _ => some n | _ => none) = [] := by
  induction ns with
  | nil => rfl
  | cons a as ih =>
    have ha := h a (List.mem_cons_self ..)
    rw [List.filterMap_cons, ih (fun n hn => h n (List.mem_cons_of_mem _ hn))]
    cases a with
    | spread n dirs => cases ha
    | _ => rfl

mutual
theorem selNodes_spreads : ∀ x : Sel, (selNodes x).filterMap (fun | .spread n _ => some n | _ => none) = selSpreads x
  | .field al name args dirs true id sub => by
    simp only [selNodes, ↓reduceIte, List.filterMap_cons, List.filterMap_append,
      filterMap_spread_inert _ (argsNodes_inert args), filterMap_spread_inert _ (dirsNodes_inert dirs), List.nil_append,
      selSpreads, selsNodes_spreads sub]
  | .field al name args dirs false id sub => by
    simp only [selNodes, Bool.false_eq_true, ↓reduceIte, List.filterMap_cons, List.filterMap_append, List.append_nil,
      filterMap_spread_inert _ (argsNodes_inert args), filterMap_spread_inert _ (dirsNodes_inert dirs), selSpreads]
  | .spread n dirs => by
    simp only [selNodes, List.filterMap_cons, filterMap_spread_inert _ (dirsNodes_inert dirs), selSpreads]
  | .inline on dirs id sub => by
    simp only [selNodes, List.filterMap_cons, List.filterMap_append, filterMap_spread_inert _ (dirsNodes_inert dirs),
      List.nil_append, selSpreads, selsNodes_spreads sub]
theorem selsNodes_spreads : ∀ xs : List Sel,
    (selsNodes xs).filterMap (fun | .spread n _ => some n | _ => none) = selSpreads.selsSpreads xs
  | [] => rfl
  | x :: xs => by
    simp only [selsNodes, List.filterMap_append, selSpreads.selsSpreads, selNodes_spreads x, selsNodes_spreads xs]
end

theorem directSpreads_eq (sels : List Sel) : Spec.directSpreads sels = selSpreads.selsSpreads sels :=
  selsNodes_spreads sels

theorem fragSels_cons_frag (g on : String) (dirs : List Dir) (id : Nat) (ss : List Sel) (xs : List Def) (f : String) :
    Spec.fragSels ⟨.frag g on dirs id ss :: xs⟩ f = if g = f then ss else Spec.fragSels ⟨xs⟩ f := by
  unfold Spec.fragSels
  rw [List.findSome?_cons]
  by_cases e : g = f
  · simp only [e, beq_self_eq_true, if_true, Option.getD_some]
  · simp only [e, beq_iff_eq, if_false]

theorem fragSels_of_mem : ∀ (ds : List Def) (f : String) (sels : List Sel), ((fragsOf ds).map (·.1)).Nodup →
    (f, sels) ∈ fragsOf ds → Spec.fragSels ⟨ds⟩ f = sels
  | [], f, sels, _, h => nomatch h
  | .frag g on dirs id ss :: xs, f, sels, hnd, h => by
    have hnd' : g ∉ (fragsOf xs).map (·.1) ∧ ((fragsOf xs).map (·.1)).Nodup := List.nodup_cons.mp hnd
    rw [fragSels_cons_frag]
    rcases List.mem_cons.mp h with e | h'
    · cases e
      exact if_pos rfl
    · have hne : g ≠ f := fun e => hnd'.1 (by rw [e]; exact List.mem_map_of_mem h')
      rw [if_neg hne, fragSels_of_mem xs f sels hnd'.2 h']
  | .op .. :: xs, f, sels, hnd, h => fragSels_of_mem xs f sels hnd h
  | .ts .. :: xs, f, sels, hnd, h => fragSels_of_mem xs f sels hnd h

theorem fragSels_not_mem : ∀ (ds : List Def) (f : String), f ∉ (fragsOf ds).map (·.1) → Spec.fragSels ⟨ds⟩ f = []
  | [], f, _ => rfl
  | .frag g on dirs id ss :: xs, f, h => by
    have h' : ¬ (f = g ∨ f ∈ (fragsOf xs).map (·.1)) := fun e => h (List.mem_cons.mpr e)
    rw [fragSels_cons_frag, if_neg (fun e => h' (Or.inl e.symm)), fragSels_not_mem xs f (fun e => h' (Or.inr e))]
  | .op .. :: xs, f, h => fragSels_not_mem xs f h
  | .ts .. :: xs, f, h => fragSels_not_mem xs f h


theorem vcReach_trans {ff : AL (List String)} {a b c : String} (h1 : VC.Reach ff a b) (h2 : VC.Reach ff b c) :
    VC.Reach ff a c := by
  induction h1 with
  | refl _ => exact h2
  | step h _ ih => exact .step h (ih h2)

theorem selfCount_zero_iff (p : String × List Sel) : selfCount p = 0 ↔ p.1 ∉ selSpreads.selsSpreads p.2 := by
  simp only [selfCount, List.length_eq_zero_iff, List.filter_eq_nil_iff, beq_iff_eq]
  exact ⟨fun h hm => h _ hm rfl, fun h x hx e => h (e ▸ hx)⟩

theorem sum_eq_zero_iff (l : List Nat) : l.sum = 0 ↔ ∀ x ∈ l, x = 0 := by
  induction l with
  | nil => simp
  | cons a as ih => simp only [List.sum_cons, Nat.add_eq_zero_iff, ih, List.mem_cons, forall_eq_or_imp]

/-- **5.5.2.2 Fragment spreads must not form cycles** (`search_top` + the walk): for documents with
    unique, non-empty fragment names and the fixed search (`continue`), `NoFragmentCyclesChecker` reports nothing ⇔ no
    fragment reaches itself through fragment spreads -/
theorem rule_no_fragment_cycles_iff (s : SchemaD) (fx : Fixes) (hv : fx.v11 = true) (d : Doc)
    (hnd : (Spec.fragNames d).Nodup) (hne : ∀ f ∈ Spec.fragNames d, f ≠ "") :
    Silent s fx .noFragmentCycles d ↔ Spec.noFragmentCycles d := by
  have hnames := fragNames_eq_fragsOf d
  rw [hnames] at hnd hne
  have hne' : ∀ x ∈ d.defs, ∀ f on dirs id sels, x = Def.frag f on dirs id sels → f ≠ "" := by
    intro x hx f on dirs id sels e
    subst e
    apply hne
    simp only [fragsOf, List.mem_map, List.mem_filterMap]
    exact ⟨(f, sels), ⟨_, hx, rfl⟩, rfl⟩
  unfold Silent
  rw [cyc_alone_errors s fx d hne']
  have sp := recorded_spec d.defs ({} : RS) hnd
  -- the recorded graph is the graph of direct spreads without the self spreads (those are reported during the walk)
  have hfs : ∀ p ∈ fragsOf d.defs, Spec.directSpreads (Spec.fragSels d p.1) = selSpreads.selsSpreads p.2 := fun p hp => by
    rw [fragSels_of_mem d.defs p.1 p.2 hnd hp, directSpreads_eq]
  have hnil : ∀ a, a ∉ (fragsOf d.defs).map (·.1) → Spec.directSpreads (Spec.fragSels d a) = [] := fun a ha => by
    rw [fragSels_not_mem d.defs a ha]
    rfl
  have hS : ∀ a x, x ∈ Cyc.succ (recorded d).cycSpreads a ↔ x ∈ Spec.directSpreads (Spec.fragSels d a) ∧ x ≠ a := by
    intro a x
    by_cases ha : a ∈ (fragsOf d.defs).map (·.1)
    · obtain ⟨p, hp, rfl⟩ := List.mem_map.mp ha
      rw [hfs p hp]
      exact sp.mem p hp x
    · have hnone : AL.get? (recorded d).cycSpreads a = none := sp.other a ha
      rw [hnil a ha]
      simp only [Cyc.succ, AL.getD, hnone]
      exact ⟨fun h => (nomatch h), fun h => (nomatch h.1)⟩
  have hns : Cyc.NoSelf (recorded d).cycSpreads := fun f hf => ((hS f f).mp hf).2 rfl
  have hE : (recorded d).errs.length = 0 ↔ ∀ a, a ∉ Spec.directSpreads (Spec.fragSels d a) := by
    rw [show (recorded d).errs.length = ((fragsOf d.defs).map selfCount).sum from sp.errs.trans (Nat.zero_add _),
      sum_eq_zero_iff, List.forall_mem_map]
    constructor
    · intro h a ha
      by_cases hm : a ∈ (fragsOf d.defs).map (·.1)
      · obtain ⟨p, hp, rfl⟩ := List.mem_map.mp hm
        exact (selfCount_zero_iff p).mp (h p hp) (hfs p hp ▸ ha)
      · exact nomatch hnil a hm ▸ ha
    · intro h p hp
      exact (selfCount_zero_iff p).mpr (hfs p hp ▸ h p.1)
  have hK : ∀ f, f ∈ AL.keys (recorded d).cycSpreads ↔ f ∈ (fragsOf d.defs).map (·.1) := by
    intro f
    rw [AL.mem_keys, show AL.has (recorded d).cycSpreads f = _ from sp.has f]
    simp [AL.has]
  rw [Nat.add_eq_zero_iff, hE, Cyc.cycErrors_zero_iff fx hv _ hns]
  unfold Spec.noFragmentCycles
  rw [hnames]
  -- a path of direct spreads is a path in the recorded graph unless it passes through a self spread
  have L2 : ∀ a x b, x ∈ Spec.directSpreads (Spec.fragSels d a) → VC.Reach (recorded d).cycSpreads x b → Spec.Reach d a b := by
    intro a x b hx hr
    induction hr generalizing a with
    | refl _ => exact .step hx
    | step hy _ ih => exact .trans (.step hx) (ih _ ((hS _ _).mp hy).1)
  have L1 : ∀ a b, Spec.Reach d a b →
      (∃ g, g ∈ Spec.directSpreads (Spec.fragSels d g)) ∨ Cyc.ReachPlus (recorded d).cycSpreads a b := by
    intro a b h
    induction h with
    | step hb =>
      rename_i a b
      by_cases e : b = a
      · subst e; exact Or.inl ⟨_, hb⟩
      · exact Or.inr ⟨b, (hS a b).mpr ⟨hb, e⟩, .refl _⟩
    | trans _ _ ih1 ih2 =>
      rcases ih1 with h1 | ⟨x, hx, hr1⟩
      · exact Or.inl h1
      · rcases ih2 with h2 | ⟨y, hy, hr2⟩
        · exact Or.inl h2
        · exact Or.inr ⟨x, hx, vcReach_trans hr1 (.step hy hr2)⟩
  constructor
  · rintro ⟨hself, hcyc⟩ f hf hr
    rcases L1 f f hr with ⟨g, hg⟩ | hrp
    · exact hself g hg
    · exact hcyc f ((hK f).mpr hf) hrp
  · intro h
    refine ⟨fun a hx => ?_, fun f hf ⟨x, hx, hr⟩ => h f ((hK f).mp hf) (L2 f x f ((hS f x).mp hx).1 hr)⟩
    by_cases ha : a ∈ (fragsOf d.defs).map (·.1)
    · exact h a ha (.step hx)
    · exact nomatch hnil a ha ▸ hx

end PyGql.Props.C06
