/-
  C01 — the SPEC-EDITION READINGS of the lexical grammar, isolated (known findings LA1, LA3, LA4; LA2 concerns the
  syntactic grammar and is the `nla` item of `Spec/Grammar.lean`).

  `follow_int_clauses` / `follow_float_clauses` / `follow_string_clause`
        `Spec.Lexical.Follow` (the side condition of `lex_sound` / `lex_render` / `lexAll_ok_iff`) is EXACTLY maximal munch
        plus the named clauses of `Spec/LexicalReadings.lean` — nothing else is assumed about what may follow a lexeme.
  LA3   `triple_quote_pinned`    three quotes always open a block string: a text starting with `"""` never yields the empty
                                 string token; `""""` is NonTerminatedString at 4 (the pinned test value)
        `june2018_adjacent_strings_refuted`   … so `""` directly followed by a string does NOT lex like `""` `"…"`
  LA4   `leading_zero_pinned`    `0` / `-0` directly followed by a digit is UnexpectedCharacter at that digit
        `june2018_split_number_refuted`       … so `00` does NOT lex like `0` `0`
  (LA1: `number_lookahead_pinned`, `june2018_glued_number_refuted` in `Props/C01_lex.lean`.)
-/
import PyGqlModel.Props.C01_lex
import PyGqlModel.Spec.LexicalReadings
namespace PyGql.Props.C01
open PyGql.Lex
open PyGql.Spec.Lexical (Follow startsWith NumberLookahead EmptyStringLookahead ZeroLookahead DigitsMaximal NoFractionFollows)

/-- what may follow an IntValue: maximal munch of its digits, LA4, no fraction, LA1 — and nothing else -/
theorem follow_int_clauses (lex rest : Text) :
    Follow .int lex rest ↔
      DigitsMaximal lex rest ∧ ZeroLookahead lex rest ∧ NoFractionFollows rest ∧ NumberLookahead rest := by
  have e : Follow .int lex rest ↔ startsWith (fun c => (Spec.Lexical.isDigit c || Spec.Lexical.isNameStart c) || c == 46) rest = false :=
    Iff.rfl
  rw [e, startsWith_or, startsWith_or]
  unfold DigitsMaximal ZeroLookahead NoFractionFollows NumberLookahead
  constructor
  · rintro ⟨⟨hd, hn⟩, hf⟩; exact ⟨fun _ => hd, fun _ => hd, hf, hn⟩
  · rintro ⟨h1, h2, hf, hn⟩
    refine ⟨⟨?_, hn⟩, hf⟩
    by_cases hz : Spec.Lexical.stripNegativeSign lex = [48]
    · exact h2 hz
    · exact h1 hz

/-- what may follow a FloatValue: maximal munch of its last digit sequence and LA1 -/
theorem follow_float_clauses (lex rest : Text) :
    Follow .float lex rest ↔ startsWith Spec.Lexical.isDigit rest = false ∧ NumberLookahead rest := by
  have e : Follow .float lex rest ↔ startsWith (fun c => Spec.Lexical.isDigit c || Spec.Lexical.isNameStart c) rest = false :=
    Iff.rfl
  rw [e, startsWith_or]; rfl

/-- what may follow a quoted StringValue: only LA3 -/
theorem follow_string_clause (lex rest : Text) : Follow .string lex rest ↔ EmptyStringLookahead lex rest := Iff.rfl

/-- LA3: whatever follows, a text that starts with three quotes is never lexed as the empty string `""`
    followed by something: if it is accepted at all, its first token is a block string starting at 0. -/
theorem triple_quote_pinned (t : Text) (toks : List Tok) (h : lexAll (34 :: 34 :: 34 :: t) = .ok toks) :
    ∃ tok more, toks = sofTok :: tok :: more ∧ tok.kind = .blockString ∧ tok.start = 0 := by
  obtain ⟨tok, rest, more, hr, rfl⟩ := lexAll_first h (next_tq _ t)
  refine ⟨tok, more, rfl, ?_⟩
  unfold readBlockString at hr
  split at hr
  · cases hr
  · cases hr; exact ⟨rfl, Nat.sub_self _⟩

/-- the pinned value: `""""` is NonTerminatedString at position 4 (tests/test_lang/test_lexer.py::test_useful_string_errors) -/
theorem four_quotes_rejected : lexAll [34, 34, 34, 34] = .error ⟨.nonTerminatedString, 4⟩ := by decide +kernel

/-- the literal June-2018 reading (no look-ahead restriction on `""`): an empty string directly followed by another string
    lexes like the same text with a space in between -/
def June2018AdjacentStringsStatement : Prop :=
  ∀ (t : Text) (toks : List Tok), lexAll (34 :: 34 :: 32 :: 34 :: t) = .ok toks →
    ∃ toks', lexAll (34 :: 34 :: 34 :: t) = .ok toks' ∧ toks'.map kv = toks.map kv

/-- refutation, witness `"" ""` vs `""""` (replay: `parse_value('[""""]')`) -/
theorem june2018_adjacent_strings_refuted : ¬ June2018AdjacentStringsStatement := by
  intro h
  obtain ⟨toks', h', _⟩ := h [34] _
    (show lexAll [34, 34, 32, 34, 34] = .ok [sofTok, ⟨.string, 0, 2, []⟩, ⟨.string, 3, 5, []⟩, eofTok 5] by decide +kernel)
  rw [four_quotes_rejected] at h'
  cases h'

/-- LA4: `0` (or `-0`) directly followed by a digit is rejected with UnexpectedCharacter AT THAT DIGIT —
    never lexed as `0` followed by another number. -/
theorem leading_zero_pinned (d : Nat) (t : Text) (hd : Spec.Lexical.isDigit d = true) :
    lexAll (48 :: d :: t) = .error ⟨.unexpectedCharacter, 1⟩ ∧
    lexAll (45 :: 48 :: d :: t) = .error ⟨.unexpectedCharacter, 2⟩ := by
  have hd' : isDigit d = true := by rw [isDigit_spec]; exact hd
  constructor
  · refine lexAll_first_error ?_
    rw [next_number _ 48 _ (.inr (by decide +kernel))]
    simp [readNumber, skipMinus, readOverInteger, hd', Except.map, bind, Except.bind, posAt]
  · refine lexAll_first_error ?_
    rw [next_number _ 45 _ (.inl rfl)]
    simp [readNumber, skipMinus, readOverInteger, hd', Except.map, bind, Except.bind, posAt]

/-- the literal June-2018 reading with plain maximal munch: `0` directly followed by a number lexes like the same text with
    a space in between (`00` = `0` `0`, `-007` = `-0` `0` `7`, `00.5` = `0` `0.5`) -/
def June2018SplitNumberStatement : Prop :=
  ∀ (d : Nat) (t : Text) (toks : List Tok), Spec.Lexical.isDigit d = true → lexAll (48 :: 32 :: d :: t) = .ok toks →
    ∃ toks', lexAll (48 :: d :: t) = .ok toks' ∧ toks'.map kv = toks.map kv

/-- refutation, witness `0 0` vs `00` (replay: `parse_value("[00]")`) -/
theorem june2018_split_number_refuted : ¬ June2018SplitNumberStatement := by
  intro h
  obtain ⟨toks', h', _⟩ := h 48 [] _ (by decide)
    (show lexAll [48, 32, 48] = .ok [sofTok, ⟨.int, 0, 1, [48]⟩, ⟨.int, 2, 3, [48]⟩, eofTok 3] by decide +kernel)
  rw [(leading_zero_pinned 48 [] (by decide)).1] at h'
  cases h'

example : lexAll [34, 34, 34, 97, 34, 34, 34] = .ok [sofTok, ⟨.blockString, 0, 7, [97]⟩, eofTok 7] := by decide +kernel
/-- `"a"""` IS accepted (`"a"` then `""`): the restriction only concerns the EMPTY string -/
example : (lexAll [34, 97, 34, 34, 34]).toOption.map (·.map kv) =
    some [kv sofTok, (.string, [97]), (.string, []), kv (eofTok 5)] := by decide +kernel
example : lexAll [45, 48, 48, 55] = .error ⟨.unexpectedCharacter, 2⟩ := by decide +kernel
example : lexAll [48, 48, 46, 53] = .error ⟨.unexpectedCharacter, 1⟩ := by decide +kernel
example : EmptyStringLookahead [34, 34] [32, 34] := fun _ => rfl
example : ¬ EmptyStringLookahead [34, 34] [34, 34] := fun h => by simpa [startsWith] using h rfl
example : ¬ ZeroLookahead [45, 48] [48, 55] := fun h => by
  have := h rfl
  simp [startsWith, Spec.Lexical.isDigit] at this

end PyGql.Props.C01
