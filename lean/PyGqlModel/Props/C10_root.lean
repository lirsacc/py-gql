/-
  C10 — the stage outcome "the ROOT selection set cannot be collected"
  (invalid `@skip` / `@include` condition at run time): `data` null, one error, no path.

  How the bijection treats it: the site is the ROOT, whose response path is EMPTY; it is null in
  `data` (`dataAt data [] = null`) and matched by exactly one error; that error has no `path` entry
  (`path? = none`, rendered without the key), which is the empty path.
-/
import PyGqlModel.Props.C10_wellformed
import PyGqlModel.Props.C10_unique

namespace PyGql.Props.C10
open PyGql PyGql.Response PyGql.Spec.Response PyGql.Spec.NullSites PyGql.Generated.ResponseKeys

/-- the path an error is matched on: an absent `path` is the empty path (the root) -/
def Err.sitePath (e : Err) : Path := e.path?.getD []

/-- **root failure: bijection.** `data` is null, the only site is the root (empty path), it is null in
    `data`, and there is exactly one error, whose path is absent. -/
theorem root_failure_bijection (msg : String) (nodes : List (Option Nat)) (root : FldList) (data : J) (errs : List Err)
    (h : executeRequest (some (msg, nodes)) root = some (data, errs)) :
    data = .null ∧ dataAt data [] = some .null ∧ errs.map Err.sitePath = [[]] ∧ errs.map Err.path? = [none] := by
  simp only [executeRequest, Option.some.injEq, Prod.mk.injEq] at h
  obtain ⟨rfl, rfl⟩ := h
  simp [dataAt, Err.sitePath, Err.path?]

/-- **root failure: response.** The response is defined, well-formed (modulo X1), has `"data": null` and its single
    error has a message, the directive's locations inside the text, and NO `path` key. -/
theorem root_failure_wellformed (text : Text) (msg : String) (nodes : List (Option Nat))
    (hn : ∀ n ∈ nodes.filterMap id, n ≤ text.length) :
    ∃ j e, (processQuery { parse := none, validate := [], getOp := none, coerce := [],
                           exec := (J.null, [Err.resolver msg nodes none none]) }).response text = some j ∧
      WellFormedK syntaxColKey text j ∧ j.get? "data" = some .null ∧
      j.get? "errors" = some (.arr [e]) ∧ e.get? "path" = none ∧ e.get? "message" = some (.str msg) := by
  have hs : StagesOk text { parse := none, validate := [], getOp := none, coerce := [],
                            exec := (J.null, [Err.resolver msg nodes none none]) } :=
    ⟨by simp, by simp, by simp, by
      intro e he
      simp only [List.mem_singleton] at he
      subst he
      exact ⟨hn, by simp⟩, by simp [strict]⟩
  obtain ⟨j, hj, hw⟩ := response_wellformed_partial text _ hs
  -- the response is defined, so the locations are; compute it explicitly
  have hj0 := hj
  simp only [processQuery, Result.response, List.isEmpty_nil, Bool.not_true, Bool.false_eq_true, if_false,
    List.mapM_cons, List.mapM_nil, Err.toDict, locatedDict, locatedKeepsEmptyMessage, Bool.or_true, if_true] at hj
  cases hl : (nodes.filterMap id).mapM (indexToLoc text) with
  | none => simp [hl] at hj
  | some locs =>
    simp only [hl] at hj
    cases locs with
    | nil =>
      simp at hj
      refine ⟨j, .obj [("message", .str msg)], hj0, hw, ?_, ?_, ?_, ?_⟩ <;> (subst hj; simp [J.get?])
    | cons lc rest =>
      simp at hj
      refine ⟨j, .obj [("message", .str msg), ("locations",
        .arr (locJ locatedLineKey locatedColKey lc :: List.map (locJ locatedLineKey locatedColKey) rest))], hj0, hw, ?_, ?_, ?_, ?_⟩ <;>
        (subst hj; simp [J.get?])

/-- the two outcomes of `execute` together: either the root selection set could not be collected (one
    error, empty path, `data` null) or the field-level bijection of `exactly_one_error_per_site` applies -/
theorem request_bijection (rc : Option (String × List (Option Nat))) (root : FldList) (data : J) (errs : List Err)
    (h : executeRequest rc root = some (data, errs)) (hk : RootKeysDistinct root) :
    (rc.isSome = true ∧ data = .null ∧ errs.map Err.sitePath = [[]]) ∨
    (rc = none ∧ errs.map Err.path? = (sitesFields root).map some ∧ (sitesFields root).Nodup ∧
      ∀ p ∈ sitesFields root, dataAt data p = some .null) := by
  cases rc with
  | some mn =>
    obtain ⟨h1, _, h3, _⟩ := root_failure_bijection mn.1 mn.2 root data errs h
    exact Or.inl ⟨rfl, h1, h3⟩
  | none =>
    simp only [executeRequest] at h
    exact Or.inr ⟨rfl, null_error_bijection root data errs h, null_sites_nodup root hk,
      null_sites_are_null root data errs h hk⟩

end PyGql.Props.C10
