/-
  C05 (execution half) — validated operations cannot go wrong: theorems against the declarative `ValidDoc`
  (`PyGqlModel/Spec/ValidDoc.lean`).
-/
import PyGqlModel.Exec
import PyGqlModel.Spec.ValidDoc
import PyGqlModel.Lemmas.C04Raise
import PyGqlModel.Lemmas.C05Steps

set_option linter.unusedSimpArgs false

namespace PyGql.Props.C05
open PyGql PyGql.Exec PyGql.Spec PyGql.Props.C04 PyGql.Lemmas.C04Raise

private theorem applies_ok (s : SchemaD) (obj c : String) (h : isComposite s c = true) :
    ∃ b, fragmentTypeApplies s obj (some c) = .ok b :=
  ⟨_, fragmentTypeApplies_composite obj h⟩

/-- no internal error other than the (converted, see `Exec.executeFields`) `CoercionError` of a directive condition -/
def NoInternal {α} (r : R α) : Prop := ∀ cls, r = .error (.internal cls) → cls = "CoercionError"

theorem fragment_mem {doc : Doc} {name : String} {fr : Frag} (h : doc.fragment? name = some fr) : fr ∈ doc.frags :=
  List.mem_reverse.mp (List.mem_of_find?_eq_some h)

private theorem fragment_ok (s : SchemaD) (doc : Doc) (vars : Vars) (hf : fragsOk s doc vars = true) (name : String) (fr : Frag)
    (h : doc.fragment? name = some fr) : isComposite s fr.on = true ∧ selsOk s doc vars fr.on fr.sels = true :=
  fragsOk_fragment hf h

theorem skipErr {α} {vars : Vars} {dirs : List Dir} {e : Fail} {cls : String} (hb : skipSelection vars dirs = .error e)
    (h : (Except.error e : R α) = .error (.internal cls)) : cls = "CoercionError" := by
  have := skipSelection_err _ _ _ hb
  subst this
  simp at h
  exact h.symm

theorem selsOk_forall (s : SchemaD) (doc : Doc) (vars : Vars) (T : String) :
    ∀ sels, selsOk s doc vars T sels = true → ∀ sel ∈ sels, selOk s doc vars T sel = true := by
  intro sels
  induction sels with
  | nil => intro _ sel h; simp at h
  | cons x xs ih =>
    intro h sel hm
    simp only [selsOk, Bool.and_eq_true] at h
    simp at hm
    rcases hm with rfl | hm
    · exact h.1
    · exact ih h.2 sel hm

/-- the shape a response value must have for a schema type: lists where list types are declared, objects exactly
    at composite types, leaves at scalar/enum types (null anywhere: nullability is `C04`'s null/error statement) -/
def shapeOk (s : SchemaD) : Ty → Data → Bool
  | .nonNull t, d => shapeOk s t d
  | .list _, .null => true
  | .list t, .list ds => ds.all (shapeOk s t)
  | .list _, _ => false
  | .named _, .null => true
  | .named n, .leaf _ => (match kindOf s n with | some .scalar | some .enum => true | _ => false)
  | .named n, .obj _ => isComposite s n
  | .named _, .list _ => false

def IsObj : Data → Prop
  | .obj _ => True
  | _ => False

private theorem completeList_shape (s : SchemaD) (t : Ty) (f : Path → RVal → R (Data × List Err))
    (hf : ∀ p v d es, f p v = .ok (d, es) → shapeOk s t d = true) (path : Path) :
    ∀ (vs : List RVal) (i : Nat) (ds : List Data) (es : List Err), completeList f path i vs = .ok (ds, es) → ds.all (shapeOk s t) = true := by
  intro vs
  induction vs with
  | nil => intro i ds es h; cases h; rfl
  | cons v rest ih =>
    intro i ds es h
    obtain ⟨⟨d1, e1⟩, h1, h⟩ := bind_eq_ok h
    obtain ⟨⟨ds2, e2⟩, h2, h⟩ := bind_eq_ok h
    cases h
    have h2' : completeList f path (i + 1) rest = .ok (ds2, e2) := by
      cases hc : completeList f path (i + 1) rest with
      | error e => rw [hc] at h2; cases e <;> cases h2
      | ok p => rw [hc] at h2; exact h2
    simp only [List.all_cons, hf _ _ _ _ h1, ih _ _ _ h2', Bool.and_self]

/-- (One level, hence every level.) Whenever `complete_value` returns, the value has the shape of
    the field's declared type — a list exactly where a list type is declared (items recursively), an object exactly
    at object/interface/union types (provided by the recursive `execute_fields`, which always builds an object),
    a leaf at scalar/enum types — or `null`. No hypothesis on the document or the world is needed: ill-shaped
    resolver values end in an internal error, never in ill-shaped data. -/
theorem validated_shape (s : SchemaD) (execSub : String → Path → List Sel → R (Data × List Err))
    (hsub : ∀ rt p sels d es, execSub rt p sels = .ok (d, es) → IsObj d) (nodes : List FNode) :
    ∀ (t : Ty) (path : Path) (v : RVal) (d : Data) (es : List Err),
      completeValue s execSub nodes t path v = .ok (d, es) → shapeOk s t d = true := by
  intro t
  induction t with
  | nonNull t ih =>
    intro path v d es h
    rw [completeValue_nonNull] at h
    obtain ⟨⟨d1, e1⟩, h1, h⟩ := bind_eq_ok h
    have := ih _ _ _ _ h1
    simp only [nonNullWrap] at h
    split at h <;> cases h <;> exact this
  | list t ih =>
    intro path v d es h
    rw [completeValue_list] at h
    generalize listAct v = a at h
    cases a with
    | null => cases h; rfl
    | items vs =>
      obtain ⟨⟨ds, e1⟩, h1, h⟩ := bind_eq_ok h
      cases h
      exact completeList_shape s t _ ih path vs 0 _ _ h1
    | raising vs msg ext => exact absurd h raiseAfter_ne_ok
    | _ => cases h
  | named n =>
    intro path v d es h
    rw [completeValue_named] at h
    have hs := namedAct_spec s n v
    generalize namedAct s n v = a at h hs
    cases a with
    | null => cases h; rfl
    | leaf r =>
      cases h
      rcases hs with hk | hk <;> simp only [shapeOk, hk]
    | sub rt =>
      -- `execute_fields` builds an object, and the type is composite
      have := hsub _ _ _ _ _ h
      cases d <;> first | exact this.elim | exact hs.1
    | _ => cases h

/-- the recursive executor always builds an object: the hypothesis of `validated_shape` holds for the real recursion -/
theorem executeFields_isObj (s : SchemaD) (doc : Doc) (vars : Vars) (w : World) (cf fuel : Nat) (rt : String) (p : Path)
    (sels : List Sel) (d : Data) (es : List Err) (h : executeFields s doc vars w cf fuel rt p sels = .ok (d, es)) : IsObj d := by
  cases fuel with
  | zero => cases h
  | succ n =>
    rw [executeFields] at h
    obtain ⟨_, _, h⟩ := bind_eq_ok h
    obtain ⟨_, _, h⟩ := bind_eq_ok h
    cases h
    trivial

/-- closed form: every field value computed anywhere in a request has the shape of its declared type -/
theorem validated_shape_field (s : SchemaD) (doc : Doc) (vars : Vars) (w : World) (cf n : Nat) (parent : String) (path : Path)
    (nodes : List FNode) (fd : FieldD) (d : Data) (es : List Err)
    (h : resolveField s w (executeFields s doc vars w cf n) parent path nodes fd = .ok (d, es)) : shapeOk s fd.type d = true := by
  have nullShape : ∀ t : Ty, shapeOk s t .null = true := by
    intro t
    induction t with
    | named n => rfl
    | list t _ => rfl
    | nonNull t ih => exact ih
  cases nodes with
  | nil => cases h
  | cons node more =>
    rw [resolveField_cons] at h
    generalize fieldAct w parent fd path node = a at h
    cases a with
    | nullWith k => cases h; exact nullShape _
    | boom => cases h
    | complete v =>
      rcases catchField_eq_ok _ _ _ _ _ h with h | ⟨k, l, i, _, rfl, _⟩
      · exact validated_shape s _ (executeFields_isObj s doc vars w cf n) _ _ _ _ _ _ h
      · exact nullShape _

/-- Statement of C05's soundness at request level. It is PROVED in full in `Props/C05_merge.lean`
    (`validated_no_internal_error_keyConsistent`), with the typing side-conditions made precise (`SchemaOk`, `WorldTyped`). -/
def ValidatedNoInternalError (s : SchemaD) (doc : Doc) (vars : Vars) (w : World) (typed : Prop) : Prop :=
  ValidDoc s doc vars → keyConsistentB doc = true → typed →
    ∀ op fuel cf cls, execute s doc vars w op fuel cf ≠ .failed (.internal cls)

/-! ### non-vacuity -/
def exSchema : SchemaD :=
  { types := [{ kind := .object, name := "Query", fields := [{ name := "a", type := .named "Int" }, { name := "o", type := .named "Ob" }] },
              { kind := .object, name := "Ob", fields := [{ name := "x", type := .list (.named "String") }] }] }
def exDoc : Doc :=
  { ops := [{ kind := "query", name := none,
              sels := [.field "a" "a" 2 [⟨"skip", .var "v"⟩] [] false [], .spread "F" [], .inline (some "Query") [] [.field "o" "o" 9 [] [] true [.field "x" "x" 13 [] [] false []]]] }],
    frags := [{ name := "F", on := "Query", sels := [.field "k" "a" 40 [] [] false []] }] }

example : ValidDoc exSchema exDoc [("v", .bool false)] := by unfold ValidDoc; decide +kernel
example : keyConsistentB exDoc = true := by decide +kernel
/-- V1 at execution level: a type condition on an unknown type is NOT `ValidDoc`, and the model raises `UnknownType` -/
example : validDocB exSchema { ops := [{ kind := "query", name := none, sels := [.inline (some "Unknown") [] [.field "a" "a" 2 [] [] false []]] }], frags := [] } [] = false := by decide +kernel
example : (collectFields exSchema { ops := [], frags := [] } [] 3 "Query" [.inline (some "Unknown") [] []] []) = .error (.internal "UnknownType") := by
  simp [collectFields, collectStep, skipSelection, dirIf, fragmentTypeApplies, kindOf, SchemaD.findType, exSchema, builtinScalars, bind, Except.bind, pure, Except.pure]

end PyGql.Props.C05
