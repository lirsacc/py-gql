/-
  C07 — the rejection classes. "Rejected" = no amount of fuel yields a value:
  `∀ pv, … ≠ .ok pv`. In the executor the arguments are coerced before the resolver is called
  (`resolve_field`: `coerced_args = self.argument_values(...)` precedes `resolver(...)`), so a rejected input
  never reaches a resolver; the pipeline oracle of harness/corr/C07.py checks exactly that on the real code.
-/
import PyGqlModel.Props.C07


namespace PyGql.Props.C07
open PyGql PyGql.Coerce PyGql.Generated.Scalars

def IsSpecifiedScalar : NamedT → Prop
  | .int | .float | .string | .boolean | .id => True
  | _ => False

/-- Null for non-null — as a JSON value, as a literal, through a variable inside a literal, and
    through a variable bound to None at a non-null ARGUMENT (fix A3). -/
theorem rejects_null_for_nonnull (reg : Reg) (vars : Option (List (String × PV))) (fuel : Nat) (t : Ty) (pv : PV) :
    coerceValue reg fuel (.nonNull t) .null ≠ .ok pv ∧
    valueFromAst reg vars fuel (.nonNull t) .null ≠ .ok pv ∧
    (∀ x vs, vars = some vs → lookupLast x vs = some .none → valueFromAst reg vars fuel (.nonNull t) (.var x) ≠ .ok pv) := by
  cases fuel with
  | zero => simp [coerceValue, valueFromAst]
  | succ fuel =>
    refine ⟨by simp [coerceValue, Ty.isNonNull, JV.isNull], by simp [valueFromAst, Ty.isNonNull, Lit.isNull], ?_⟩
    intro x vs hv hx
    simp [valueFromAst, extractVariable, hv, hx, Ty.isNonNull, PV.isNone]

theorem rejects_null_argument (reg : Reg) (fuel : Nat) (vars : List (String × PV)) (args : List (String × Lit)) (d : InField)
    (x : String) (hn : d.type.isNonNull = true) (ha : lookupLast d.name args = some (.var x))
    (hx : lookupLast x vars = some .none) (o : Option PV) : coerceArg reg fuel vars args d ≠ .ok o := by
  simp [coerceArg, ha, hx, hn, PV.isNone]

theorem rejects_null_variable (reg : Reg) (fuel : Nat) (variables : List (String × JV)) (d : VarDef)
    (hn : d.type.isNonNull = true) (hx : lookupLast d.name variables = some .null) (o : Option PV) :
    coerceVariable reg fuel variables d ≠ .ok o := by
  unfold coerceVariable
  split
  · simp
  · simp [hx, hn, JV.isNull]

/-- a rejected list item rejects the list; a rejected supplied field rejects the object (rejections propagate outwards) -/
theorem rejects_propagate_list {α β : Type} (f : α → Except Err β) (l : List α) (r : List β) (h : mapE f l = .ok r) :
    ∀ x, x ∈ l → ∃ y, f x = .ok y :=
  mapEB_ok_mem (mapE_eq f l ▸ h)

theorem rejects_propagate_field {α : Type} (get : String → Option α) (rec : Ty → α → R) (fs : List InField)
    (r : List (String × PV)) (h : fieldLoop get rec fs = .ok r) :
    ∀ f, f ∈ fs → (∀ v, get f.name = some v → ∃ pv, rec f.type v = .ok pv) ∧
                  (get f.name = none → f.default = none → f.type.isNonNull = false) := by
  intro f hf
  obtain ⟨os, hos, _⟩ := entries_ok (fieldLoop_eq get rec fs ▸ h)
  obtain ⟨o, ho⟩ := mapEB_ok_mem hos f hf
  exact fieldStep_ok ho

/-- one step at an input object type, for any source: the object is taken apart, the field loop runs, unknown keys are refused -/
private theorem gCoerce_object {α : Type} {S : Src α} {reg : Reg} {n : String} {fs : List InField} (hn : reg.get? n = some (.input fs))
    {fuel : Nat} {v : α} {kvs : List (String × α)} (he : S.early (.named n) v = none) (hv : S.isNull v = false)
    (hm : S.members v = some kvs) {pv : PV} (h : gCoerce S reg fuel (.named n) v = .ok pv) :
    allKnown fs kvs = true ∧ ∃ os, mapEB S.collect (fieldStep (fun k => lookupLast k kvs) (gCoerce S reg (fuel - 1))) fs = .ok os := by
  cases fuel with
  | zero => cases h
  | succ fuel =>
    simp only [gCoerce, gStep, he, Ty.isNonNull, Bool.false_and, Bool.false_eq_true, if_false, stripNN, gCore, hv, hn, hm] at h
    split at h
    · cases h
    · rename_i r hr
      obtain ⟨os, hos, _⟩ := entries_ok hr
      split at h
      · exact ⟨‹_›, os, hos⟩
      · cases h

/-- a missing required field (non-null, no default) — both routes -/
theorem rejects_missing_required {reg : Reg} {n : String} {fs : List InField} (hn : reg.get? n = some (.input fs))
    (vars : Option (List (String × PV))) (fuel : Nat) (f : InField) (hf : f ∈ fs)
    (hreq : f.type.isNonNull = true) (hd : f.default = none) (pv : PV) :
    (∀ kvs, lookupLast f.name kvs = none → coerceValue reg fuel (.named n) (.obj kvs) ≠ .ok pv) ∧
    (∀ lkvs, lookupLast f.name lkvs = none → valueFromAst reg vars fuel (.named n) (.obj lkvs) ≠ .ok pv) := by
  have key : ∀ {α : Type} (S : Src α) (v : α) (kvs : List (String × α)), S.early (.named n) v = none → S.isNull v = false →
      S.members v = some kvs → lookupLast f.name kvs = none → gCoerce S reg fuel (.named n) v ≠ .ok pv := by
    intro α S v kvs he hv hm hk h
    obtain ⟨_, os, hos⟩ := gCoerce_object hn he hv hm h
    obtain ⟨o, ho⟩ := mapEB_ok_mem hos f hf
    exact Bool.noConfusion (hreq.symm.trans ((fieldStep_ok ho).2 hk hd))
  rw [coerceValue_eq, valueFromAst_eq]
  exact ⟨fun kvs => key _ (.obj kvs) kvs rfl rfl rfl, fun lkvs => key _ (.obj lkvs) lkvs rfl rfl rfl⟩

/-- an unknown input field — both routes (the literal route by fix A5) -/
theorem rejects_unknown_field {reg : Reg} {n : String} {fs : List InField} (hn : reg.get? n = some (.input fs))
    (vars : Option (List (String × PV))) (fuel : Nat) (pv : PV) :
    (∀ kvs, allKnown fs kvs = false → coerceValue reg fuel (.named n) (.obj kvs) ≠ .ok pv) ∧
    (∀ lkvs, allKnown fs lkvs = false → valueFromAst reg vars fuel (.named n) (.obj lkvs) ≠ .ok pv) := by
  rw [coerceValue_eq, valueFromAst_eq]
  exact ⟨fun kvs hk h => absurd (gCoerce_object (S := srcJ reg) (v := .obj kvs) hn rfl rfl rfl h).1 (hk ▸ Bool.false_ne_true),
    fun lkvs hk h => absurd (gCoerce_object (S := srcL reg vars) (v := .obj lkvs) hn rfl rfl rfl h).1 (hk ▸ Bool.false_ne_true)⟩

/-- an unknown enum name — both routes -/
theorem rejects_unknown_enum {reg : Reg} {n : String} {vs : List (String × PV)} (hn : reg.get? n = some (.enum vs))
    (vars : Option (List (String × PV))) (fuel : Nat) (s : String) (hs : ∀ p, p ∈ vs → p.1 ≠ s) (pv : PV) :
    coerceValue reg fuel (.named n) (.str s) ≠ .ok pv ∧
    valueFromAst reg vars fuel (.named n) (.enum s) ≠ .ok pv := by
  cases fuel with
  | zero => simp [coerceValue, valueFromAst]
  | succ fuel =>
    constructor
    · simp [coerceValue, Ty.isNonNull, stripNN, coerceCore, JV.isNull, hn, getValue_unknown hs]
    · simp [valueFromAst, Ty.isNonNull, stripNN, vfaCore, Lit.isNull, hn, getValue_unknown hs]

/-- Structurally wrong JSON — an array or object where a specified scalar is expected (fix A4 for
    Boolean / String / ID), a non-string where an enum is expected, a non-object where an input object is expected. -/
theorem rejects_structurally_wrong_json {reg : Reg} {n : String} (fuel : Nat) (pv : PV) :
    (∀ k, reg.get? n = some k → IsSpecifiedScalar k →
        (∀ l, coerceValue reg fuel (.named n) (.list l) ≠ .ok pv) ∧ (∀ kvs, coerceValue reg fuel (.named n) (.obj kvs) ≠ .ok pv)) ∧
    (∀ vs, reg.get? n = some (.enum vs) → ∀ v, v.isNull = false → (∀ s, v ≠ .str s) →
        coerceValue reg fuel (.named n) v ≠ .ok pv) ∧
    (∀ fs, reg.get? n = some (.input fs) → ∀ v, v.isNull = false → (∀ kvs, v ≠ .obj kvs) →
        coerceValue reg fuel (.named n) v ≠ .ok pv) := by
  cases fuel with
  | zero => simp [coerceValue]
  | succ fuel =>
    refine ⟨?_, ?_, ?_⟩
    · intro k hk hs
      cases k <;> simp [IsSpecifiedScalar] at hs <;>
        simp [coerceValue, Ty.isNonNull, stripNN, coerceCore, JV.isNull, hk, coerceInt, coerceFloat, parseString, parseBool, parseId]
    · intro vs hk v hv hns h
      -- `simp` reduces `match v with | .str s => … | _ => …` to its last branch by `hns` (likewise `hno` below)
      simp only [coerceValue, Ty.isNonNull, Bool.false_and, stripNN, coerceCore, hv, hk, Bool.false_eq_true, if_false] at h
      cases h
    · intro fs hk v hv hno h
      simp only [coerceValue, Ty.isNonNull, Bool.false_and, stripNN, coerceCore, hv, hk, coerceInputObject, Bool.false_eq_true,
        if_false] at h
      cases h

/-- Non-finite Float (fix X2) — the infinities and NaN are refused at a `Float` position on both routes:
    a JSON float (`json.loads` admits `Infinity` / `NaN`), a JSON string that `float()` maps to a non-finite value
    (`"inf"`, `"nan"`, `"1e999"`), and an overflowing literal (`1e999`) — "non-finite" as the lexeme model `PyNum.pyFloat`
    computes it. Stated about the finiteness guard re-extracted from `coerce_float` on every run. -/
theorem rejects_non_finite_float {reg : Reg} {n : String} (hn : reg.get? n = some .float)
    (vars : Option (List (String × PV))) (fuel : Nat) (t : String) (d : PyNum.Dbl) (ht : PyNum.pyFloat t = some d)
    (hc : clsOf d ≠ .finite) (pv : PV) :
    coerceValue reg fuel (.named n) (.float t) ≠ .ok pv ∧
    coerceValue reg fuel (.named n) (.str t) ≠ .ok pv ∧
    valueFromAst reg vars fuel (.named n) (.float t) ≠ .ok pv := by
  have hg : floatGuardRejects (clsOf d) = true := (floatGuard_spec _).2 hc
  cases fuel with
  | zero => simp [coerceValue, valueFromAst]
  | succ fuel =>
    refine ⟨?_, ?_, ?_⟩
    · simp [coerceValue, Ty.isNonNull, stripNN, coerceCore, JV.isNull, hn, coerceFloat, ht, floatChecked, hg]
    · simp only [coerceValue, Ty.isNonNull, Bool.false_and, stripNN, coerceCore, JV.isNull, hn, coerceFloat, ht, floatChecked, hg]
      simp
    · simp only [valueFromAst, Ty.isNonNull, Bool.false_and, stripNN, vfaCore, Lit.isNull, hn, isScalarLit, parseLiteral, ht, floatChecked, hg]
      simp

example : PyNum.pyFloat "inf" = some (.inf false) ∧ PyNum.pyFloat "-Infinity" = some (.inf true) ∧ PyNum.pyFloat "nan" = some .nan ∧
    PyNum.pyFloat "1e999" = some (.inf false) ∧ PyNum.pyFloat "-1e999" = some (.inf true) := by decide +kernel

/-- finite floats are still accepted unchanged (the guard refuses nothing else) -/
theorem accepts_finite_float {reg : Reg} {n : String} (hn : reg.get? n = some .float) (fuel : Nat) (t : String)
    (neg : Bool) (m : Nat) (e : Int) (ht : PyNum.pyFloat t = some (.finite neg m e)) :
    coerceValue reg (fuel + 1) (.named n) (.float t) = .ok (.float (.text t)) := by
  simp [coerceValue, Ty.isNonNull, stripNN, coerceCore, JV.isNull, hn, coerceFloat, ht, clsOf, floatChecked_finite]

/-- A structurally wrong literal — a list / object / enum literal where a specified scalar, or a custom scalar
    WITHOUT its own `parse_literal`, is expected (a custom scalar with its own `parse_literal` is handed every literal: its
    business), anything but an enum value where an enum is expected, anything but an object where an input object is expected. -/
theorem rejects_structurally_wrong_literal {reg : Reg} {n : String} (vars : Option (List (String × PV))) (fuel : Nat) (pv : PV) :
    (∀ k, reg.get? n = some k → (IsSpecifiedScalar k ∨ (k = .custom ∧ reg.customHasParseLiteral n = false)) →
        ∀ l, l.isNull = false → isScalarLit l = false →
        (∀ x, l ≠ .var x) → valueFromAst reg vars fuel (.named n) l ≠ .ok pv) ∧
    (∀ vs, reg.get? n = some (.enum vs) → ∀ l, l.isNull = false → (∀ s, l ≠ .enum s) → (∀ x, l ≠ .var x) →
        valueFromAst reg vars fuel (.named n) l ≠ .ok pv) ∧
    (∀ fs, reg.get? n = some (.input fs) → ∀ l, l.isNull = false → (∀ lkvs, l ≠ .obj lkvs) → (∀ x, l ≠ .var x) →
        valueFromAst reg vars fuel (.named n) l ≠ .ok pv) := by
  cases fuel with
  | zero => simp [valueFromAst]
  | succ fuel =>
    refine ⟨?_, ?_, ?_⟩
    · intro k hk hs l hl hsc hx h
      rw [valueFromAst_succ hx] at h
      simp only [Ty.isNonNull, Bool.false_and, stripNN, vfaCore, hl, hk, Bool.false_eq_true, if_false] at h
      rcases hs with hs | ⟨rfl, hs⟩
      · cases k <;> first | exact hs | simp [hsc] at h
      · simp [litAdmitted, hsc, hs] at h
    · intro vs hk l hl hne hx h
      rw [valueFromAst_succ hx] at h
      -- `simp` reduces `match l with | .enum name => … | _ => …` to its last branch by `hne` (likewise `hno` below)
      simp only [Ty.isNonNull, Bool.false_and, stripNN, vfaCore, hl, hk, Bool.false_eq_true, if_false] at h
      cases h
    · intro fs hk l hl hno hx h
      rw [valueFromAst_succ hx] at h
      simp only [Ty.isNonNull, Bool.false_and, stripNN, vfaCore, hl, hk, Bool.false_eq_true, if_false] at h
      cases h
end PyGql.Props.C07
