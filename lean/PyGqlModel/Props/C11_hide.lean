/-
  C11 — the `hide` approximation ("the input type whose fields are being extended is in progress") is IRRELEVANT outside
  recursive input types: a syntactic sufficient condition for the residue premise `SelfDefaults` of `build_exact_spec`.

  `defaultValueX eB eX (some h) lit ty` keeps the value over the un-extended types when the evaluation of `lit` at `ty`
  over the extended types resolves the type `h` in progress (`needsHidden`: `ty.base = h`, or `touches`).  `touches` only
  follows the field types of INPUT OBJECT definitions: `touches_reach` — if it answers `true`, `h` is reachable from
  `ty.base` in the graph "input object ⟶ base type of one of its (merged) fields" (`InReach`).  Hence
  (`selfDefaults_of_noSelfReach`) in a document where no input object type reaches ITSELF in that graph the hidden type
  is never needed, `SelfDefaults` holds, and `build_exact_acyclic_inputs` states `build_exact_spec` with the residue
  reduced to `BaseDefaults` (finding S8) — `noThunkCycle` (finding S1b) also follows: a re-entrant field thunk is a cycle
  of that graph restricted to the definitions.

  The real builder keeps a SET of types in progress (every type on the stack of `extend_type` calls), not one: the by-name
  model under-approximates it (known finding C11/H4-1, probe `finding-H4-defaulted-backref`).  Every hit of that set —
  like every hit of `hide` — needs an input object type that reaches itself, so under the premise of this file model and
  code have nothing to differ on.
-/
import PyGqlModel.Props.C11_valid


namespace PyGql.Props.C11
open PyGql PyGql.Sdl PyGql.SdlSpec

/-- reachability between type names through the fields of input object definitions (as `env` sees them) -/
inductive InReach (env : Env) : String → String → Prop
  | step {n : String} {d : TypeDef} {f : InputValDef} : env.findDef n = some d → d.kind = .input → f ∈ d.inputFields → InReach env n f.type.base
  | trans {a b c : String} : InReach env a b → InReach env b c → InReach env a c

/-- `touches` follows edges of `InReach` only -/
theorem touches_reach (env : Env) (h : String) : ∀ (fuel : Nat),
    (∀ lit ty, touches env h fuel lit ty = true → InReach env ty.base h) ∧
    (∀ items ty, touchesItems env h fuel items ty = true → InReach env ty.base h) ∧
    (∀ given (fs : List InputValDef), touchesFields env h fuel given fs = true → ∃ f ∈ fs, f.type.base = h ∨ InReach env f.type.base h) := by
  intro fuel
  induction fuel with
  | zero =>
    refine ⟨?_, ?_, ?_⟩
    · intro lit ty ht; cases ht
    · intro items ty ht; cases ht
    · intro given fs ht; cases ht
  | succ k ih =>
    obtain ⟨ih1, ih2, ih3⟩ := ih
    refine ⟨?_, ?_, ?_⟩
    · intro lit ty ht
      rw [touches.eq_def] at ht
      simp only [] at ht
      split at ht
      · split at ht
        · cases ht
        · exact (ih1 _ _ ht :)
      · split at ht
        · cases ht
        · exact (ih2 _ _ ht :)
        · exact (ih1 _ _ ht :)
      · -- a named type: only an object literal at an input object DEFINITION goes on, into its fields
        split at ht
        · split at ht
          · cases ht
          · split at ht
            · rename_i n _ _ _ _ _ d hd
              split at ht
              · rename_i hk
                obtain ⟨f, hf, hor⟩ := ih3 _ _ ht
                have hs : InReach env n f.type.base := InReach.step hd (beq_iff_eq.mp hk) hf
                rcases hor with he | hr
                · exact he ▸ hs
                · exact InReach.trans hs hr
              · cases ht
            · cases ht
        · cases ht
    · intro items ty ht
      cases items with
      | nil => cases ht
      | cons x xs =>
        rw [touchesItems, Bool.or_eq_true] at ht
        exact ht.elim (ih1 _ _) (ih2 _ _)
    · intro given fs ht
      cases fs with
      | nil => cases ht
      | cons f fs =>
        rw [touchesFields, Bool.or_eq_true] at ht
        rcases ht with h1 | h2
        · refine ⟨f, List.mem_cons_self, ?_⟩
          split at h1
          · rw [Bool.or_eq_true, beq_iff_eq] at h1
            exact h1.imp id (ih1 _ _)
          · split at h1
            · cases h1
            · exact Or.inl (beq_iff_eq.mp h1)
        · obtain ⟨g, hg, hor⟩ := ih3 _ _ h2
          exact ⟨g, List.mem_cons_of_mem _ hg, hor⟩

theorem needsHidden_false_of_noSelfReach (eX : Env) (d : TypeDef) (n : String) (hfd : eX.findDef n = some d) (hk : d.kind = .input)
    (hno : ¬ InReach eX n n) (a : InputValDef) (ha : a ∈ d.inputFields) (l : Lit) :
    needsHidden eX (some n) l a.type = false := by
  have hs : InReach eX n a.type.base := InReach.step hfd hk ha
  unfold needsHidden
  simp only [Bool.or_eq_false_iff, beq_eq_false_iff_ne, ne_eq]
  constructor
  · intro he
    rw [he] at hs
    exact hno hs
  · cases ht : touches eX n coerceFuel l a.type with
    | false => rfl
    | true => exact absurd (InReach.trans hs ((touches_reach eX n coerceFuel).1 l a.type ht)) hno

theorem findDef_extended_of_mem (defs X : List TypeDef) (hu : (defs.map (·.name)).Nodup) (t : TypeDef) (ht : t ∈ defs) :
    ((Env.of defs).extended X).findDef t.name = some (mergeDef X t) := by
  show (defs.find? (·.name == t.name)).map (mergeExt X) = some (mergeDef X t)
  rw [find_name_of_mem TypeDef.name defs hu t ht]
  rfl

theorem findDef_extended_inv (defs X : List TypeDef) (n : String) (d : TypeDef)
    (h : ((Env.of defs).extended X).findDef n = some d) : ∃ t ∈ defs, t.name = n ∧ mergeDef X t = d := by
  obtain ⟨t, hq, ht⟩ := Option.map_eq_some_iff.mp h
  have hq : defs.find? (·.name == n) = some t := hq
  have hn : (t.name == n) = true := List.find?_some (p := fun x : TypeDef => x.name == n) hq
  exact ⟨t, List.mem_of_find?_eq_some hq, beq_iff_eq.mp hn, ht⟩

/-! ### recursive input objects are fine as long as the types that carry DEFAULTS are off the cycles

An in-progress hit — of `hide` in the model, of the set `_in_progress` in the code — happens while the default of a field
of some input object `T` is completed and the completion comes back to a type on the stack, all of which lead to `T`: it
needs a cycle through `T`.  So only the input objects that HAVE a defaulted field matter. -/

def hasDefaulted (t : TypeDef) : Prop := ∃ f ∈ t.inputFields, f.default.isSome = true

theorem selfDefaults_of_defaultsOffCycles (doc : Doc) (hu : ((typeDefs doc).map (·.name)).Nodup)
    (hno : ∀ t ∈ typeDefs doc, t.kind = .input → hasDefaulted (mergeDef (typeExts doc) t) →
      ¬ InReach ((Env.of (typeDefs doc)).extended (typeExts doc)) t.name t.name) :
    SelfDefaults doc := by
  intro t ht
  by_cases hk : t.kind = .input
  · have hkm : (mergeDef (typeExts doc) t).kind = .input := by rw [(mergeDef_spec _ t).1]; exact hk
    by_cases hd : hasDefaulted (mergeDef (typeExts doc) t)
    · have hfd := findDef_extended_of_mem (typeDefs doc) (typeExts doc) hu t ht
      unfold buildTypeDefX
      simp only [hkm]
      have : (mergeDef (typeExts doc) t).inputFields.mapM
            (buildArgumentX (Env.of (typeDefs doc)) ((Env.of (typeDefs doc)).extended (typeExts doc)) (hideFor t.kind t.name))
          = (mergeDef (typeExts doc) t).inputFields.mapM
            (buildArgumentX (Env.of (typeDefs doc)) ((Env.of (typeDefs doc)).extended (typeExts doc)) none) := by
        apply mapM_congr_mem
        intro a ha
        have hh : hideFor t.kind t.name = some t.name := by simp [hideFor, hk]
        unfold buildArgumentX
        cases hdl : a.default with
        | none => rfl
        | some l =>
          simp only [defaultValueX, hh, needsHidden_false_of_noSelfReach _ _ _ hfd hkm (hno t ht hk hd) a ha l]
          rfl
      rw [this]
    · apply selfDefaults_of_noDefaults _ _ _ _ _ hkm
      intro a ha
      cases hdl : a.default with
      | none => rfl
      | some l => exact absurd ⟨a, ha, by simp [hdl]⟩ hd
  · exact selfDefaults_of_kind _ _ t _ hk

/-- **`SelfDefaults` from a rule about the document**: if no input object type of the document reaches itself through
    the (merged) fields of input object types, the type in progress is never needed and `hide` changes nothing. -/
theorem selfDefaults_of_noSelfReach (doc : Doc) (hu : ((typeDefs doc).map (·.name)).Nodup)
    (hno : ∀ t ∈ typeDefs doc, t.kind = .input → ¬ InReach ((Env.of (typeDefs doc)).extended (typeExts doc)) t.name t.name) :
    SelfDefaults doc :=
  selfDefaults_of_defaultsOffCycles doc hu fun t ht hk _ => hno t ht hk

/-! ### a checkable form: a rank that every edge decreases -/

theorem reach_rank_lt (env : Env) (rank : String → Nat)
    (hedge : ∀ n d, env.findDef n = some d → d.kind = .input → ∀ f ∈ d.inputFields, rank f.type.base < rank n) :
    ∀ a b, InReach env a b → rank b < rank a := by
  intro a b h
  induction h with
  | step hfd hk hf => exact hedge _ _ hfd hk _ hf
  | trans _ _ ih1 ih2 => omega

theorem noSelfReach_of_rank (env : Env) (rank : String → Nat)
    (hedge : ∀ n d, env.findDef n = some d → d.kind = .input → ∀ f ∈ d.inputFields, rank f.type.base < rank n) (n : String) :
    ¬ InReach env n n := fun h => Nat.lt_irrefl _ (reach_rank_lt env rank hedge n n h)

theorem edges_of_merged (doc : Doc) (rank : String → Nat)
    (h : ∀ t ∈ merged doc, t.kind = .input → ∀ f ∈ t.inputFields, rank f.type.base < rank t.name) :
    ∀ n d, ((Env.of (typeDefs doc)).extended (typeExts doc)).findDef n = some d → d.kind = .input →
      ∀ f ∈ d.inputFields, rank f.type.base < rank n := by
  intro n d hfd hk f hf
  obtain ⟨t, ht, rfl, rfl⟩ := findDef_extended_inv _ _ n d hfd
  have := h _ (List.mem_map_of_mem ht) hk f hf
  rwa [(mergeDef_spec _ t).2.1] at this

/-! ### re-entrant field thunks (finding S1b) are cycles of the same graph, over the definitions alone -/

/-- what `thunkNeeds` lists are input object types reachable from the type of the literal (or that type itself) -/
theorem thunkNeeds_reach (env : Env) : ∀ (fuel : Nat),
    (∀ lit ty m, m ∈ thunkNeeds env fuel lit ty →
      (m = ty.base ∨ InReach env ty.base m) ∧ ∃ d, env.findDef m = some d ∧ d.kind = .input) ∧
    (∀ items ty m, m ∈ thunkNeedsList env fuel items ty →
      (m = ty.base ∨ InReach env ty.base m) ∧ ∃ d, env.findDef m = some d ∧ d.kind = .input) ∧
    (∀ given (fs : List InputValDef) m, m ∈ thunkNeedsFields env fuel given fs →
      (∃ f ∈ fs, m = f.type.base ∨ InReach env f.type.base m) ∧ ∃ d, env.findDef m = some d ∧ d.kind = .input) := by
  intro fuel
  induction fuel with
  | zero =>
    refine ⟨?_, ?_, ?_⟩
    · intro lit ty m hm; cases hm
    · intro items ty m hm; cases hm
    · intro given fs m hm; cases hm
  | succ k ih =>
    obtain ⟨ih1, ih2, ih3⟩ := ih
    refine ⟨?_, ?_, ?_⟩
    · intro lit ty m hm
      rw [thunkNeeds.eq_def] at hm
      simp only [] at hm
      split at hm
      · exact (ih1 _ _ m hm :)
      · split at hm
        · exact (ih2 _ _ m hm :)
        · exact (ih1 _ _ m hm :)
      · -- a named type: only an object literal at an input object DEFINITION lists anything: the type, then its fields
        split at hm
        · rename_i n _ _ _ _ d _ hd
          split at hm
          · rename_i hc
            have hk : d.kind = .input := beq_iff_eq.mp (Bool.and_eq_true_iff.mp hc).1
            rcases List.mem_cons.mp hm with e | hmem
            · exact ⟨Or.inl e, d, e ▸ hd, hk⟩
            · obtain ⟨⟨f, hf, hor⟩, hex⟩ := ih3 _ _ m hmem
              have hs : InReach env n f.type.base := InReach.step hd hk hf
              refine ⟨Or.inr ?_, hex⟩
              rcases hor with e | r
              · exact e ▸ hs
              · exact InReach.trans hs r
          · cases hm
        · cases hm
    · intro items ty m hm
      cases items with
      | nil => cases hm
      | cons x xs =>
        rw [thunkNeedsList, List.mem_append] at hm
        exact hm.elim (ih1 _ _ m) (ih2 _ _ m)
    · intro given fs m hm
      cases fs with
      | nil => cases hm
      | cons f fs =>
        rw [thunkNeedsFields, List.mem_append] at hm
        rcases hm with h1 | h2
        · split at h1
          · obtain ⟨hor, hex⟩ := ih1 _ _ m h1
            exact ⟨⟨f, List.mem_cons_self, hor⟩, hex⟩
          · cases h1
        · obtain ⟨⟨g, hg, hor⟩, hex⟩ := ih3 _ _ m h2
          exact ⟨⟨g, List.mem_cons_of_mem _ hg, hor⟩, hex⟩

theorem thunkEdges_reach (env : Env) (n : String) (d : TypeDef) (hfd : env.findDef n = some d) (hk : d.kind = .input) (m : String)
    (hm : m ∈ thunkEdges env d) : InReach env n m ∧ ∃ d', env.findDef m = some d' ∧ d'.kind = .input := by
  unfold thunkEdges at hm
  obtain ⟨f, hf, hm⟩ := List.mem_flatMap.mp hm
  split at hm
  · obtain ⟨hor, hex⟩ := (thunkNeeds_reach env coerceFuel).1 _ _ m hm
    have hs : InReach env n f.type.base := InReach.step hfd hk hf
    refine ⟨?_, hex⟩
    rcases hor with e | r
    · rw [e]; exact hs
    · exact InReach.trans hs r
  · simp at hm

theorem thunkReach_reach (env : Env) (target : String) : ∀ (fuel : Nat) (n : String),
    (∃ d, env.findDef n = some d ∧ d.kind = .input) → thunkReach env target fuel n = true → InReach env n target := by
  intro fuel
  induction fuel with
  | zero => intro n _ h; simp [thunkReach] at h
  | succ k ih =>
    intro n ⟨d, hfd, hk⟩ h
    simp only [thunkReach, hfd, List.any_eq_true, Bool.or_eq_true, beq_iff_eq] at h
    obtain ⟨m, hm, hor⟩ := h
    obtain ⟨hr, hex⟩ := thunkEdges_reach env n d hfd hk m hm
    rcases hor with e | r
    · rw [← e]; exact hr
    · exact InReach.trans hr (ih m hex r)

/-- a re-entrant field thunk is a cycle of the graph over the definitions, through an input object type one of whose
    fields has a default (the first edge of the cycle comes from that literal) -/
theorem thunkCycle_reach (defs : List TypeDef) (hu : (defs.map (·.name)).Nodup) (h : hasThunkCycle (Env.of defs) defs = true) :
    ∃ d ∈ defs, d.kind = .input ∧ InReach (Env.of defs) d.name d.name ∧ ∃ f ∈ d.inputFields, f.default.isSome = true := by
  unfold hasThunkCycle at h
  obtain ⟨d, hd, hc⟩ := List.any_eq_true.mp h
  simp only [Bool.and_eq_true, beq_iff_eq] at hc
  have hk : d.kind = .input := hc.1.1.1
  have hfd : (Env.of defs).findDef d.name = some d := find_name_of_mem TypeDef.name defs hu d hd
  refine ⟨d, hd, hk, thunkReach_reach _ _ _ _ ⟨d, hfd, hk⟩ hc.2, ?_⟩
  have hr := hc.2
  cases hl : defs.length with
  | zero => rw [hl] at hr; cases hr
  | succ k =>
    rw [hl] at hr
    simp only [thunkReach, hfd, List.any_eq_true] at hr
    obtain ⟨m, hm, _⟩ := hr
    obtain ⟨f, hf, hm⟩ := List.mem_flatMap.mp hm
    refine ⟨f, hf, ?_⟩
    cases hdl : f.default with
    | none => rw [hdl] at hm; cases hm
    | some l => rfl

theorem noThunkCycle_of_noSelfReach (defs : List TypeDef) (hu : (defs.map (·.name)).Nodup)
    (hno : ∀ t ∈ defs, t.kind = .input → ¬ InReach (Env.of defs) t.name t.name) : hasThunkCycle (Env.of defs) defs = false :=
  Bool.eq_false_iff.mpr fun h =>
    let ⟨d, hd, hk, hr, _⟩ := thunkCycle_reach defs hu h
    hno d hd hk hr

theorem edges_of_base (doc : Doc) (rank : String → Nat)
    (h : ∀ t ∈ merged doc, t.kind = .input → ∀ f ∈ t.inputFields, rank f.type.base < rank t.name) :
    ∀ n d, (Env.of (typeDefs doc)).findDef n = some d → d.kind = .input → ∀ f ∈ d.inputFields, rank f.type.base < rank n := by
  intro n d hfd hk f hf
  have hq : (typeDefs doc).find? (·.name == n) = some d := hfd
  have htm : d ∈ typeDefs doc := List.mem_of_find?_eq_some hq
  have hn : d.name = n := by simpa using List.find?_some hq
  obtain ⟨s1, s2, _, _, _, _, _, s8⟩ := mergeDef_spec (typeExts doc) d
  have hm : mergeDef (typeExts doc) d ∈ merged doc := List.mem_map_of_mem htm
  have := h _ hm (by rw [s1]; exact hk) f (by rw [s8]; exact List.mem_append_left _ hf)
  rw [s2, hn] at this
  exact this

/-- **build_exact for documents whose input object types are not recursive**: the rules of the specification,
    `BaseDefaults` (finding S8) and a RANK that every field of a (merged) input object definition strictly decreases —
    no `SelfDefaults`, no `noThunkCycle`: nothing about what the builder computes while types are in progress. -/
theorem build_exact_acyclic_inputs (doc : Doc) (d : SchemaD) (r : SdlRules doc d) (hb : BaseDefaults doc) (rank : String → Nat)
    (hrank : ∀ t ∈ merged doc, t.kind = .input → ∀ f ∈ t.inputFields, rank f.type.base < rank t.name) :
    ∃ s d', build doc = .ok s ∧ Declared doc = some d' ∧ SameContent s d' :=
  build_exact_spec doc d r
    { baseDefaults := hb,
      noThunkCycle := noThunkCycle_of_noSelfReach _ r.valid.uniqueTypes
        (fun t _ _ => noSelfReach_of_rank _ rank (edges_of_base doc rank hrank) t.name),
      selfDefaults := selfDefaults_of_noSelfReach doc r.valid.uniqueTypes
        (fun t _ _ => noSelfReach_of_rank _ rank (edges_of_merged doc rank hrank) t.name) }

theorem inReach_extended (defs X : List TypeDef) : ∀ a b, InReach (Env.of defs) a b → InReach ((Env.of defs).extended X) a b := by
  intro a b h
  induction h with
  | @step n d f hfd hk hf =>
    have hfd' : ((Env.of defs).extended X).findDef n = some (mergeDef X d) := by
      show (defs.find? (·.name == n)).map (mergeExt X) = some (mergeDef X d)
      have : defs.find? (·.name == n) = some d := hfd
      rw [this]; rfl
    obtain ⟨s1, _, _, _, _, _, _, s8⟩ := mergeDef_spec X d
    exact InReach.step hfd' (by rw [s1]; exact hk) (by rw [s8]; exact List.mem_append_left _ hf)
  | trans _ _ ih1 ih2 => exact InReach.trans ih1 ih2

theorem noThunkCycle_of_defaultsOffCycles (defs X : List TypeDef) (hu : (defs.map (·.name)).Nodup)
    (hno : ∀ t ∈ defs, t.kind = .input → hasDefaulted (mergeDef X t) → ¬ InReach ((Env.of defs).extended X) t.name t.name) :
    hasThunkCycle (Env.of defs) defs = false :=
  Bool.eq_false_iff.mpr fun h => by
    obtain ⟨d, hd, hk, hr, f, hf, hdef⟩ := thunkCycle_reach defs hu h
    obtain ⟨_, _, _, _, _, _, _, inputFieldsEq⟩ := mergeDef_spec X d
    have hf' : f ∈ (mergeDef X d).inputFields := by
      rw [inputFieldsEq]
      exact List.mem_append_left _ hf
    exact hno d hd hk ⟨f, hf', hdef⟩ (inReach_extended defs X _ _ hr)

/-- **build_exact when the input objects that carry defaults are off the cycles** (recursive input objects allowed):
    the rules of the specification and `BaseDefaults` (finding S8); the premise is about the document only. -/
theorem build_exact_defaults_off_cycles (doc : Doc) (d : SchemaD) (r : SdlRules doc d) (hb : BaseDefaults doc)
    (hno : ∀ t ∈ typeDefs doc, t.kind = .input → hasDefaulted (mergeDef (typeExts doc) t) →
      ¬ InReach ((Env.of (typeDefs doc)).extended (typeExts doc)) t.name t.name) :
    ∃ s d', build doc = .ok s ∧ Declared doc = some d' ∧ SameContent s d' :=
  build_exact_spec doc d r
    { baseDefaults := hb,
      noThunkCycle := noThunkCycle_of_defaultsOffCycles _ _ r.valid.uniqueTypes hno,
      selfDefaults := selfDefaults_of_defaultsOffCycles doc r.valid.uniqueTypes hno }

theorem noReach_of_noEdgeInto (env : Env) (p : String)
    (h : ∀ n d, env.findDef n = some d → d.kind = .input → ∀ f ∈ d.inputFields, f.type.base ≠ p) : ∀ a b, InReach env a b → b ≠ p := by
  intro a b hr
  induction hr with
  | step hfd hk hf => exact h _ _ hfd hk _ hf
  | trans _ _ _ ih2 => exact ih2

/-! ### non-vacuity, and the boundary -/

/-- `input Range { min: Int }  extend input Range { max: String = "m" }  input Filter { range: Range = {} }
    type Query { f(x: Filter = {range: {}}): Int }` (nested input objects with defaults, extended; not recursive) -/
def nestedDoc : Doc := [
  .type { kind := .input, name := "Range", inputFields := [{ name := "min", type := .named "String" }] },
  .ext { kind := .input, name := "Range", inputFields := [{ name := "max", type := .named "String", default := some (.str "m") }] },
  .type { kind := .input, name := "Filter", inputFields := [{ name := "range", type := .named "Range", default := some (.obj []) }] },
  .type { kind := .object, name := "Query", fields := [{ name := "f", type := .named "Int", args := [{ name := "x", type := .named "Filter", default := some (.obj [("range", .obj [])]) }] }] }]

def nestedRank : String → Nat
  | "Filter" => 2 | "Range" => 1 | _ => 0

/-- what is evaluated on `nestedDoc`, once: it declares a content that meets the rules, its defaults coerce over the
    definitions, and `nestedRank` goes down along every field of a merged input object -/
private theorem nested_facts : ∃ hs : (Declared nestedDoc).isSome = true, SdlRules nestedDoc ((Declared nestedDoc).get hs) ∧
    baseDefaultsB nestedDoc = true ∧
    ∀ t ∈ merged nestedDoc, t.kind = .input → ∀ f ∈ t.inputFields, nestedRank f.type.base < nestedRank t.name :=
  have h : ∃ hs : (Declared nestedDoc).isSome = true, (_ ∧ _ ∧ _ ∧ _ ∧ _ ∧ _ ∧ _ ∧ _) ∧ baseDefaultsB nestedDoc = true ∧
      ∀ t ∈ merged nestedDoc, t.kind = .input → ∀ f ∈ t.inputFields, nestedRank f.type.base < nestedRank t.name := by decide +kernel
  h.elim fun hs ⟨⟨k1, k2, k3, noSpecified, extOpsNew, valid, schemaOps, extOps⟩, rest⟩ =>
    ⟨hs, { valid, declares := (Option.some_get _).symm, kinds := ⟨k1, k2, k3⟩, noSpecified, schemaOps, extOps, extOpsNew }, rest⟩

theorem nestedDeclares : (Declared nestedDoc).isSome = true := nested_facts.elim fun h _ => h

theorem nested_rules : SdlRules nestedDoc ((Declared nestedDoc).get nestedDeclares) := nested_facts.elim fun _ h => h.1

example : ∃ s d', build nestedDoc = .ok s ∧ Declared nestedDoc = some d' ∧ SameContent s d' :=
  nested_facts.elim fun _ h => build_exact_acyclic_inputs _ _ h.1 (baseDefaults_of_B _ h.2.1) nestedRank h.2.2

/-- `input Node { next: Node  v: String }  extend input Node { w: String }
    input Page { first: Node = {v: "a"}  size: String = "s" }  type Query { f(p: Page = {}): Int }`:
    `Node` is recursive and carries no default; the defaults sit on `Page`, which nothing points to.
    (With `extend input Node { w: String = "w" }` the premise fails for `Node`, as it should: its own fields are
    extended while it is in progress.) -/
def recDoc : Doc := [
  .type { kind := .input, name := "Node", inputFields := [{ name := "next", type := .named "Node" }, { name := "v", type := .named "String" }] },
  .ext { kind := .input, name := "Node", inputFields := [{ name := "w", type := .named "String" }] },
  .type { kind := .input, name := "Page", inputFields := [{ name := "first", type := .named "Node", default := some (.obj [("v", .str "a")]) },
                                                        { name := "size", type := .named "String", default := some (.str "s") }] },
  .type { kind := .object, name := "Query", fields := [{ name := "f", type := .named "Int", args := [{ name := "p", type := .named "Page", default := some (.obj []) }] }] }]

/-- what is evaluated on `recDoc`, once: it declares a content that meets the rules, and its defaults coerce over the definitions -/
private theorem rec_facts : ∃ hs : (Declared recDoc).isSome = true, SdlRules recDoc ((Declared recDoc).get hs) ∧ baseDefaultsB recDoc = true :=
  have h : ∃ hs : (Declared recDoc).isSome = true, (_ ∧ _ ∧ _ ∧ _ ∧ _ ∧ _ ∧ _ ∧ _) ∧ baseDefaultsB recDoc = true := by decide +kernel
  h.elim fun hs ⟨⟨k1, k2, k3, noSpecified, extOpsNew, valid, schemaOps, extOps⟩, rest⟩ =>
    ⟨hs, { valid, declares := (Option.some_get _).symm, kinds := ⟨k1, k2, k3⟩, noSpecified, schemaOps, extOps, extOpsNew }, rest⟩

theorem recDeclares : (Declared recDoc).isSome = true := rec_facts.elim fun h _ => h

theorem rec_rules : SdlRules recDoc ((Declared recDoc).get recDeclares) := rec_facts.elim fun _ h => h.1

/-- a RECURSIVE input object (`Node`), defaults on a type nothing points to (`Page`): exact -/
example : ∃ s d', build recDoc = .ok s ∧ Declared recDoc = some d' ∧ SameContent s d' := by
  obtain ⟨_, hrules, hB⟩ := rec_facts
  refine build_exact_defaults_off_cycles _ _ hrules (baseDefaults_of_B _ hB) ?_
  intro t ht hk hd
  -- the only input object with a defaulted field is `Page`, and no field has type `Page`
  have hP : ∀ t ∈ typeDefs recDoc, t.kind = .input → hasDefaulted (mergeDef (typeExts recDoc) t) → t.name = "Page" := by
    unfold hasDefaulted
    decide +kernel
  rw [hP t ht hk hd]
  intro hr
  exact noReach_of_noEdgeInto _ "Page" (by
    intro n d hfd hk f hf
    obtain ⟨t0, ht0, _, rfl⟩ := findDef_extended_inv _ _ n d hfd
    have hall : ∀ d ∈ merged recDoc, ∀ f ∈ d.inputFields, f.type.base ≠ "Page" := by decide +kernel
    exact hall _ (List.mem_map_of_mem ht0) f hf) _ _ hr rfl

end PyGql.Props.C11
