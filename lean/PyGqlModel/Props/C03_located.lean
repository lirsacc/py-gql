/-
  C03 for trees parsed WITH source positions (the default).

  The round-trip theorems of `Props/C03_print.lean` / `C03_full.lean` are stated for flags with `no_location`, where "the
  same tree" is plain equality.  The property says "equal to the original UP TO SOURCE POSITIONS", i.e. it is about located
  trees.  Two facts carry the theorems over:
    * `printDocument_erase` (Lemmas/PrintErase.lean): the printer ignores `loc` — `print(d) = print(erase d)`;
    * C02's `noloc_erasure`: parsing with `no_location` is parsing followed by erasure.
-/
import PyGqlModel.Props.C03_full
import PyGqlModel.Lemmas.PrintErase
import PyGqlModel.Props.C02_spans
namespace PyGql.Props.C03
open PyGql PyGql.Ast PyGql.Parse PyGql.Spec PyGql.Print PyGql.Lex

/-- the printer ignores source positions: a tree and its erasure print to the same text, for every configuration -/
theorem print_erase (c : Cfg) (d : Document) : printDocument c d.erase = printDocument c d := printDocument_erase c d

private theorem parse_of_erased (fl : Flags) (toks : List Tok) (e : Document)
    (h : parseDocument { fl with noLocation := true } toks = .ok e) : ∃ d', parseDocument fl toks = .ok d' ∧ d'.erase = e := by
  rw [PyGql.Props.C02.noloc_erasure] at h
  cases hq : parseDocument fl toks with
  | error err => rw [hq] at h; cases h
  | ok d' => rw [hq] at h; exact ⟨d', rfl, by simpa [Except.map] using h⟩

/-- for every text the parser accepts under ANY flags (positions on or off), every indentation
    over {space, tab}, descriptions on: the printed tree is accepted under the same flags and parses to a tree that equals
    the original UP TO SOURCE POSITIONS, without the descriptions of fields, arguments, input fields and enum values (R4). -/
theorem print_parse_located (fl : Flags) (c : Cfg) (x : Text) (toks : List Tok) (d : Document)
    (hdesc : c.includeDescriptions = true) (hind : IndentOK c) (hlex : lexAll x = .ok toks)
    (hparse : parseDocument fl toks = .ok d) :
    ∃ toks' d', lexAll (printDocument c d) = .ok toks' ∧ parseDocument fl toks' = .ok d' ∧
      d'.erase = stripMemberDescriptions d.erase := by
  have h1 : parseDocument { fl with noLocation := true } toks = .ok d.erase := by
    rw [PyGql.Props.C02.noloc_erasure, hparse]; rfl
  obtain ⟨toks', hl, hp⟩ := print_parse_modulo_members { fl with noLocation := true } c x toks d.erase rfl hdesc hind hlex h1
  rw [print_erase] at hl
  obtain ⟨d', hd', he⟩ := parse_of_erased fl toks' _ hp
  exact ⟨toks', d', hl, hd', he⟩

/-- the exclusion is exact for located trees: the re-parsed tree equals the original up to
    source positions IF AND ONLY IF the original carries no member description -/
theorem print_parse_located_iff (fl : Flags) (c : Cfg) (x : Text) (toks : List Tok) (d : Document)
    (hdesc : c.includeDescriptions = true) (hind : IndentOK c) (hlex : lexAll x = .ok toks)
    (hparse : parseDocument fl toks = .ok d) :
    (∃ toks' d', lexAll (printDocument c d) = .ok toks' ∧ parseDocument fl toks' = .ok d' ∧ d'.erase = d.erase) ↔
      ¬ HasMemberDescription d.erase := by
  obtain ⟨t0, d0, h0, p0, e0⟩ := print_parse_located fl c x toks d hdesc hind hlex hparse
  constructor
  · rintro ⟨t1, d1, h1, p1, e1⟩ hm
    rw [h0] at h1
    cases h1
    rw [p0] at p1
    cases p1
    exact hm (e0.symm.trans e1)
  · intro hm
    exact ⟨t0, d0, h0, p0, e0.trans (Classical.not_not.1 hm)⟩

/-- a text whose (located) tree carries no member description round-trips to a tree EQUAL UP
    TO SOURCE POSITIONS: the statement of C03 as written, for the default way of parsing, outside the pinned finding R4 -/
theorem print_parse_located_exact (fl : Flags) (c : Cfg) (x : Text) (toks : List Tok) (d : Document)
    (hdesc : c.includeDescriptions = true) (hind : IndentOK c) (hlex : lexAll x = .ok toks)
    (hparse : parseDocument fl toks = .ok d) (hm : ¬ HasMemberDescription d) :
    ∃ toks' d', lexAll (printDocument c d) = .ok toks' ∧ parseDocument fl toks' = .ok d' ∧ d'.erase = d.erase := by
  obtain ⟨t0, d0, h0, p0, e0⟩ := print_parse_located fl c x toks d hdesc hind hlex hparse
  refine ⟨t0, d0, h0, p0, ?_⟩
  rw [e0, stripMemberDescriptions_erase, Classical.not_not.1 hm]

/-- … and in general what is lost is exactly the member descriptions, before or after erasing positions -/
theorem print_parse_located_loss (fl : Flags) (c : Cfg) (x : Text) (toks : List Tok) (d : Document)
    (hdesc : c.includeDescriptions = true) (hind : IndentOK c) (hlex : lexAll x = .ok toks)
    (hparse : parseDocument fl toks = .ok d) :
    ∃ toks' d', lexAll (printDocument c d) = .ok toks' ∧ parseDocument fl toks' = .ok d' ∧
      d'.erase = (stripMemberDescriptions d).erase := by
  obtain ⟨t0, d0, h0, p0, e0⟩ := print_parse_located fl c x toks d hdesc hind hlex hparse
  exact ⟨t0, d0, h0, p0, by rw [e0, stripMemberDescriptions_erase]⟩

/-- printing the re-parsed (located) tree reproduces the same text -/
theorem print_stable_located (fl : Flags) (c : Cfg) (x : Text) (toks : List Tok) (d : Document)
    (hdesc : c.includeDescriptions = true) (hind : IndentOK c) (hlex : lexAll x = .ok toks)
    (hparse : parseDocument fl toks = .ok d) :
    ∃ toks' d', lexAll (printDocument c d) = .ok toks' ∧ parseDocument fl toks' = .ok d' ∧
      printDocument c d' = printDocument c d := by
  have h1 : parseDocument { fl with noLocation := true } toks = .ok d.erase := by
    rw [PyGql.Props.C02.noloc_erasure, hparse]; rfl
  obtain ⟨toks', e', hl, hp, hs⟩ := print_stable { fl with noLocation := true } c x toks d.erase rfl hdesc hind hlex h1
  rw [print_erase] at hl hs
  obtain ⟨d', hd', he⟩ := parse_of_erased fl toks' _ hp
  refine ⟨toks', d', hl, hd', ?_⟩
  rw [← print_erase c d', he]; exact hs

/-! ### non-vacuity: `enum E {A}` parsed WITH positions -/
private def locFlags : Flags := { noLocation := false, allowTypeSystem := true }

example : (parseDocument locFlags ((lexAll plainEnumText).toOption.getD [])).toOption.map (·.loc) = some (some (0, 10)) := by
  decide +kernel
/-- the hypotheses of `print_parse_located` hold for a tree WITH positions (its Document spans (0,10)) -/
example : ∃ toks d, lexAll plainEnumText = .ok toks ∧ parseDocument locFlags toks = .ok d ∧ d.loc = some (0, 10) :=
  ⟨_, _, rfl, rfl, rfl⟩
/-- … whose erasure is the position-free tree of `Props/C03_full.lean`, without member description -/
example : ¬ HasMemberDescription (r4Doc none).erase := fun h => h rfl

end PyGql.Props.C03
