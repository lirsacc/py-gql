/-
  C06 - invariance of the four VARIABLE rules (5.8.1, 5.8.3, 5.8.4, 5.8.5) under `Tr`
  (selection order, argument order, injective fragment renaming). Route: the rule theorems (Props/C06_vars.lean, code
  with the fixes of V3 / V4) + invariance of the clauses of `Spec/ValidSpecVars.lean`: variable definitions and
  operation keys are untouched by `Tr`, the usages of a definition are the same up to order, and the spread graph of
  the transformed document is the image of the spread graph.
-/
import PyGqlModel.Props.C06_inv_cycles
import PyGqlModel.Lemmas.ValidateVarRenameSpec
namespace PyGql.Props.C06
open PyGql PyGql.Validate PyGql.Validate.Spec

theorem opKey_tr (T : Tr) (x : Def) : (T.defn x).opKey? = x.opKey? := by cases x <;> rfl
theorem vars_tr (T : Tr) (x : Def) : (T.defn x).vars = x.vars.map T.varDef := by cases x <;> rfl
theorem varDef_names_tr (T : Tr) (vs : List VarDef) : (vs.map T.varDef).map (·.name) = vs.map (·.name) := by
  simp [List.map_map, Function.comp_def, Tr.varDef]
theorem vars_names_tr (T : Tr) (x : Def) : (T.defn x).vars.map (·.name) = x.vars.map (·.name) := by
  rw [vars_tr, varDef_names_tr]
theorem fragName_tr (T : Tr) (x : Def) : (T.defn x).fragName? = x.fragName?.map T.frag := by cases x <;> rfl

def argUses : Node → List String | .argument a => varsOfValue a.value | _ => []
def spreadNames : Node → List String | .spread f _ => [f] | _ => []

theorem defVarUses_eq (x : Def) : defVarUses x = (defNodes x).flatMap argUses := by
  unfold defVarUses; congr 1
theorem defSpreads_eq (x : Def) : defSpreads x = (defNodes x).flatMap spreadNames := by
  unfold defSpreads; congr 1

theorem argUses_tr (T : Tr) (n : Node) : argUses (T.node n) = argUses n := by cases n <;> rfl
theorem spreadNames_tr (T : Tr) (n : Node) : spreadNames (T.node n) = (spreadNames n).map T.frag := by cases n <;> rfl

theorem mem_defVarUses_tr (T : Tr) (df : Def) (x : String) : x ∈ defVarUses (T.defn df) ↔ x ∈ defVarUses df := by
  simp only [defVarUses_eq, List.mem_flatMap]
  constructor
  · rintro ⟨n, hn, hx⟩
    obtain ⟨m, hm, rfl⟩ := List.mem_map.mp ((defNodes_tr T df).mem_iff.mp hn)
    exact ⟨m, hm, by rwa [argUses_tr] at hx⟩
  · rintro ⟨m, hm, hx⟩
    exact ⟨T.node m, (defNodes_tr T df).mem_iff.mpr (List.mem_map_of_mem hm), by rwa [argUses_tr]⟩

theorem mem_defSpreads_tr (T : Tr) (df : Def) (g' : String) :
    g' ∈ defSpreads (T.defn df) ↔ ∃ g ∈ defSpreads df, g' = T.frag g := by
  simp only [defSpreads_eq, List.mem_flatMap]
  constructor
  · rintro ⟨n, hn, hx⟩
    obtain ⟨m, hm, rfl⟩ := List.mem_map.mp ((defNodes_tr T df).mem_iff.mp hn)
    rw [spreadNames_tr] at hx
    obtain ⟨g, hg, rfl⟩ := List.mem_map.mp hx
    exact ⟨g, ⟨m, hm, hg⟩, rfl⟩
  · rintro ⟨g, ⟨m, hm, hg⟩, rfl⟩
    exact ⟨T.node m, (defNodes_tr T df).mem_iff.mpr (List.mem_map_of_mem hm), by
      rw [spreadNames_tr]; exact List.mem_map_of_mem hg⟩

theorem defMap_tr (T : Tr) : DefMap T.defn T.frag id T.varDef where
  opKey := opKey_tr T
  fragName := fragName_tr T
  vars := vars_tr T
  name := fun _ => rfl
  varUses := fun x y' => (mem_defVarUses_tr T x y').trans exists_eq_right'.symm
  spreads := mem_defSpreads_tr T

theorem nodeUsages_tr (T : Tr) (s : SchemaD) (q : Node × View) : nodeUsages s (T.node q.1, q.2) = nodeUsages s q := by
  obtain ⟨n, v⟩ := q
  cases n <;> rfl

theorem tnDef_tr (T : Tr) (s : SchemaD) (df : Def) : (tnDef s (T.defn df)).Perm ((tnDef s df).map (trP T)) := by
  rw [← gnDef_view, ← gnDef_view]
  exact gnDef_tr T (View.enter s) (view_enter_tr T s) df {}

theorem mem_defUsages_tr (T : Tr) (s : SchemaD) (df : Def) (p : String × Usage) :
    p ∈ defUsages s (T.defn df) ↔ p ∈ defUsages s df := by
  simp only [defUsages, List.mem_flatMap]
  constructor
  · rintro ⟨q, hq, hp⟩
    obtain ⟨m, hm, rfl⟩ := List.mem_map.mp ((tnDef_tr T s df).mem_iff.mp hq)
    exact ⟨m, hm, by rwa [trP, nodeUsages_tr] at hp⟩
  · rintro ⟨m, hm, hp⟩
    exact ⟨trP T m, (tnDef_tr T s df).mem_iff.mpr (List.mem_map_of_mem hm), by rwa [trP, nodeUsages_tr]⟩

section
variable (T : Tr) (d : Doc)

theorem mem_defs_tr (P : Def → Prop) : (∃ df ∈ (T.doc d).defs, P df) ↔ ∃ a ∈ d.defs, P (T.defn a) :=
  DefMap.exists_mem d P

theorem definedIn_tr (o x : String) : DefinedIn (T.doc d) o x ↔ DefinedIn d o x :=
  ((defMap_tr T).definedIn d o x).trans exists_eq_left'

theorem usedDirectly_tr (o x : String) : UsedDirectly (T.doc d) o x ↔ UsedDirectly d o x :=
  ((defMap_tr T).usedDirectly d o x).trans exists_eq_left'

theorem fragName_tr_some {x : Def} {f' : String} :
    (T.defn x).fragName? = some f' ↔ ∃ f, f' = T.frag f ∧ x.fragName? = some f :=
  (defMap_tr T).fragName_some

theorem fragUses_tr (f' x : String) : FragUses (T.doc d) f' x ↔ ∃ f, f' = T.frag f ∧ FragUses d f x :=
  ((defMap_tr T).fragUses d f' x).trans
    ⟨fun ⟨f, _, ef, e, h⟩ => ⟨f, ef, by rw [e]; exact h⟩, fun ⟨f, ef, h⟩ => ⟨f, x, ef, rfl, h⟩⟩

theorem opSpreads_tr (o g' : String) : OpSpreads (T.doc d) o g' ↔ ∃ g, g' = T.frag g ∧ OpSpreads d o g :=
  (defMap_tr T).opSpreads d o g'

theorem fragSpreads_tr (f' g' : String) :
    FragSpreads (T.doc d) f' g' ↔ ∃ f g, f' = T.frag f ∧ g' = T.frag g ∧ FragSpreads d f g :=
  (defMap_tr T).fragSpreads d f' g'

variable (hinj : ∀ a b, T.frag a = T.frag b → a = b)
include hinj

omit hinj in
theorem fragReach_tr_of {f h : String} (hr : FragReach d f h) : FragReach (T.doc d) (T.frag f) (T.frag h) :=
  (defMap_tr T).fragReach_fwd d hr

theorem fragReach_of_tr {f' h' : String} (hr : FragReach (T.doc d) f' h') :
    ∀ f, f' = T.frag f → ∃ h, h' = T.frag h ∧ FragReach d f h :=
  (defMap_tr T).fragReach_bwd d hinj hr

theorem opReaches_tr (o f' : String) : OpReaches (T.doc d) o f' ↔ ∃ f, f' = T.frag f ∧ OpReaches d o f :=
  (defMap_tr T).opReaches d hinj o f'

theorem usedIn_tr (o x : String) : UsedIn (T.doc d) o x ↔ UsedIn d o x :=
  ((defMap_tr T).usedIn d hinj o x).trans exists_eq_left'

theorem usedAt_tr (s : SchemaD) (o x : String) (u : Usage) : UsedAt s (T.doc d) o x u ↔ UsedAt s d o x u :=
  ((defMap_tr T).usedAt d hinj (fun a y' u => (mem_defUsages_tr T s a (y', u)).trans
    ⟨fun h => ⟨y', rfl, h⟩, fun ⟨_, e, h⟩ => e ▸ h⟩) o x u).trans exists_eq_left'

omit hinj in
theorem varDefFor_tr (o x : String) : varDefFor (T.doc d) o x = (varDefFor d o x).map T.varDef :=
  (defMap_tr T).varDefFor_map d (fun _ _ e => e) o x

omit hinj in
theorem usageAllowed_tr (s : SchemaD) (vd : VarDef) (u : Usage) : usageAllowed s (T.varDef vd) u ↔ usageAllowed s vd u :=
  Iff.rfl

end

theorem unique_variable_names_spec_tr (T : Tr) (d : Doc) : Spec.uniqueVariableNames (T.doc d) ↔ Spec.uniqueVariableNames d :=
  (defMap_tr T).uniqueVariableNames d fun _ _ e => e

theorem no_undefined_variables_spec_tr (T : Tr) (hinj : ∀ a b, T.frag a = T.frag b → a = b) (d : Doc) :
    Spec.noUndefinedVariables (T.doc d) ↔ Spec.noUndefinedVariables d :=
  (defMap_tr T).noUndefinedVariables d hinj fun _ _ e => e

theorem no_unused_variables_spec_tr (T : Tr) (hinj : ∀ a b, T.frag a = T.frag b → a = b) (d : Doc) :
    Spec.noUnusedVariables (T.doc d) ↔ Spec.noUnusedVariables d :=
  (defMap_tr T).noUnusedVariables d hinj fun _ _ e => e

theorem variables_in_allowed_position_spec_tr (T : Tr) (hinj : ∀ a b, T.frag a = T.frag b → a = b) (s : SchemaD) (d : Doc) :
    Spec.variablesInAllowedPosition s (T.doc d) ↔ Spec.variablesInAllowedPosition s d :=
  (defMap_tr T).variablesInAllowedPosition d hinj (fun _ _ e => e)
    (fun a y' u => (mem_defUsages_tr T s a (y', u)).trans ⟨fun h => ⟨y', rfl, h⟩, fun ⟨_, e, h⟩ => e ▸ h⟩) fun _ _ => Iff.rfl

def ProvedTrVars : List Rule :=
  [.uniqueVariableNames, .noUndefinedVariables, .noUnusedVariables, .variablesInAllowedPosition]

/-- **perm_selections / perm_arguments / alpha_fragments for the four variable rules** (code with the fixes of V3 and
    V4, as the rule theorems) -/
theorem tr_invariance_variables (T : Tr) (hinj : ∀ a b, T.frag a = T.frag b → a = b) (s : SchemaD) (fx : Fixes)
    (h3 : fx.v3 = true) (h4 : fx.v4 = true) (d : Doc) (r : Rule) (hr : r ∈ ProvedTrVars) :
    Silent s fx r (T.doc d) ↔ Silent s fx r d := by
  simp only [ProvedTrVars, List.mem_cons, List.not_mem_nil, or_false] at hr
  rcases hr with rfl | rfl | rfl | rfl
  · rw [rule_unique_variable_names_iff, rule_unique_variable_names_iff]
    exact unique_variable_names_spec_tr T d
  · rw [rule_no_undefined_variables_iff s fx h4, rule_no_undefined_variables_iff s fx h4]
    exact no_undefined_variables_spec_tr T hinj d
  · rw [rule_no_unused_variables_iff s fx h4, rule_no_unused_variables_iff s fx h4]
    exact no_unused_variables_spec_tr T hinj d
  · rw [rule_variables_in_allowed_position_iff s fx h3 h4, rule_variables_in_allowed_position_iff s fx h3 h4]
    exact variables_in_allowed_position_spec_tr T hinj s d

def ProvedTrAll : List Rule := ProvedTr ++ [.possibleFragmentSpreads, .noFragmentCycles] ++ ProvedTrVars

example : ProvedTrAll.length = 25 := by decide +kernel
example : ∀ r ∈ Rule.all, r ∈ ProvedTrAll ∨ r = .overlappingFieldsCanBeMerged := by decide +kernel

/-- the statement for the whole chain (kept visible; for OverlappingFieldsCanBeMerged it is proved with the memoised rule
    /repo runs: `tr_invariance_all26`, Props/C06_inv_tr_all26.lean) -/
def FullStatement_tr_invariance_all (T : Tr) (s : SchemaD) (fx : Fixes) (d : Doc) : Prop :=
  ∀ r ∈ Rule.all, (Silent s fx r (T.doc d) ↔ Silent s fx r d)

/-- **perm_selections / perm_arguments / alpha_fragments for 24 rules** (the 25 of `ProvedTrAll` without
    SingleFieldSubscriptions, whose clause - the collected response keys, C06-H6 - is shown invariant in
    Props/C06_inv_tr_subscriptions.lean: `tr_invariance_single_field_subscriptions`, `tr_invariance_25_partial`): code of /repo HEAD, documents with unique
    fragment names that are non-empty before and after the renaming (needed by NoFragmentCycles only)
    [alone-run statement, see `Silent`; the chain: `chainM_six_transformations`] -/
theorem tr_invariance_all25_partial (T : Tr) (hinj : ∀ a b, T.frag a = T.frag b → a = b) (s : SchemaD) (fx : Fixes)
    (hfx : HeadVars fx) (d : Doc) (hnd : Spec.uniqueFragmentNames d) (hne : NamesNonEmpty d)
    (hne' : NamesNonEmpty (T.doc d)) (r : Rule) (hr : r ∈ ProvedTrAll) (hns : r ≠ .singleFieldSubscriptions) :
    Silent s fx r (T.doc d) ↔ Silent s fx r d := by
  simp only [ProvedTrAll, List.mem_append, List.mem_cons, List.not_mem_nil, or_false] at hr
  rcases hr with (hr | rfl | rfl) | hr
  · exact tr_invariance_all_partial T hinj s fx d r hr hns
  · exact tr_invariance_possible_fragment_spreads T hinj s fx d
  · exact tr_invariance_no_fragment_cycles T hinj s fx hfx.2.2.1 d hnd hne hne'
  · exact tr_invariance_variables T hinj s fx hfx.1 hfx.2.1 d r hr

/-! ### reordering of definitions, three of the variable rules (5.8.5 reads the LAST definition of a variable of an
    operation key, `varDefFor`: with duplicate operation names or variable names it depends on the order; under
    uniqueness hypotheses: Props/C06_inv_permdefs.lean) -/

section
variable {d d' : Doc} (h : d.defs.Perm d'.defs)
include h

theorem mem_defs_perm (P : Def → Prop) : (∃ df ∈ d.defs, P df) ↔ ∃ df ∈ d'.defs, P df :=
  ⟨fun ⟨a, ha, hp⟩ => ⟨a, h.mem_iff.mp ha, hp⟩, fun ⟨a, ha, hp⟩ => ⟨a, h.mem_iff.mpr ha, hp⟩⟩

theorem fragReach_perm {f g : String} (hr : FragReach d f g) : FragReach d' f g := by
  induction hr with
  | refl f => exact .refl f
  | step hs _ ih => exact .step ((mem_defs_perm h _).mp hs) ih

theorem usedIn_perm (h2 : d'.defs.Perm d.defs) (o x : String) : UsedIn d o x ↔ UsedIn d' o x := by
  unfold UsedIn UsedDirectly OpReaches OpSpreads FragUses
  refine or_congr (mem_defs_perm h _) ?_
  constructor
  · rintro ⟨f, ⟨g, hg, hr⟩, hu⟩
    exact ⟨f, ⟨g, (mem_defs_perm h _).mp hg, fragReach_perm h hr⟩, (mem_defs_perm h _).mp hu⟩
  · rintro ⟨f, ⟨g, hg, hr⟩, hu⟩
    exact ⟨f, ⟨g, (mem_defs_perm h _).mpr hg, fragReach_perm h2 hr⟩, (mem_defs_perm h _).mpr hu⟩

end

/-- **perm_definitions for UniqueVariableNames, NoUndefinedVariables, NoUnusedVariables** (fix V4) -/
theorem perm_definitions_variables_partial (s : SchemaD) (fx : Fixes) (h4 : fx.v4 = true) {d d' : Doc}
    (h : d.defs.Perm d'.defs) (r : Rule)
    (hr : r ∈ [Rule.uniqueVariableNames, Rule.noUndefinedVariables, Rule.noUnusedVariables]) :
    Silent s fx r d ↔ Silent s fx r d' := by
  simp only [List.mem_cons, List.not_mem_nil, or_false] at hr
  have hdef : ∀ o x, DefinedIn d o x ↔ DefinedIn d' o x := fun o x => mem_defs_perm h _
  rcases hr with rfl | rfl | rfl
  · rw [rule_unique_variable_names_iff, rule_unique_variable_names_iff]
    unfold Spec.uniqueVariableNames
    exact ⟨fun H x hx => H x (h.mem_iff.mpr hx), fun H x hx => H x (h.mem_iff.mp hx)⟩
  · rw [rule_no_undefined_variables_iff s fx h4, rule_no_undefined_variables_iff s fx h4]
    unfold Spec.noUndefinedVariables
    simp only [usedIn_perm h h.symm, hdef]
  · rw [rule_no_unused_variables_iff s fx h4, rule_no_unused_variables_iff s fx h4]
    unfold Spec.noUnusedVariables
    simp only [usedIn_perm h h.symm, hdef]

end PyGql.Props.C06
