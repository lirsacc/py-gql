/-
  C06 - property theorems: discharging `OverlapHyps`, fuel sufficiency.

  `noCrash_of_ranks`: the run of `OverlappingFieldsCanBeMergedChecker` alone does not crash (`NoCrash`: neither the
  `RecursionError` of an exhausted fuel - the model's fuel is `overlapFuel` = 400 frames - nor the `AttributeError` of
  ledger V2, fixed at the head) on every document that passes the STATIC rank check `rankOkB s d ρ`
  (`Validate/OverlapRank.lean`): every selection set has a rank ≥ 2, at least 2 above the ranks of the sub-selections
  of its fields (those of its inline fragments included) and of the bodies of the fragments it spreads, and
  `2·rank + 2 ≤ overlapFuel`. The ranks `ρ` are arbitrary - only the check is trusted; `computeRanks d` proposes
  them (nesting / spread depth, times 2). Such ranks exist exactly for documents whose fragment spreads are acyclic and
  whose nesting depth (through spreads) stays below 100; no run of the search is needed to establish `NoCrash`.

  Proof: potentials for the five mutually recursive search functions
     find(f1,f2)         rank f1 + rank f2 + 5        sub(A,B)      rank A + rank B + 4
     between(fm1,fm2)    max fm1 + max fm2 + 6        fields/frag   max fm + rank (body g) + 6
     frag/frag           rank (body g1) + rank (body g2) + 6
  each call made with fuel `n` has potential ≤ `n`, and every callee's potential is smaller by at least 1
  (`Lemmas/ValidateOverlapFuel.lean`, `…NoCrash.lean`, `…RankCheck.lean`; the compared-pairs memo and the compared-fragments set only cut calls).

  `overlapHyps_of_wf_ranked`, `rule_overlapping_fields_can_be_merged_iff_ranked`: `OverlapHyps` and the equivalence of
  5.3.2 with the static checks `wfIdsB`, `noMetaSubsB`, `rankOkB` in place of the run observation `overlapNoCrashB`.
  `…_iff_ranked` is the LAST form for the un-memoised search (`…_iff_partial`, `…_iff_wf` are the steps to it;
  `verdict_iff_all` has its hypotheses, through `overlapHyps_of_wf_ranked`); the current form, for the search /repo runs, is `rule_overlapping_fields_memo_iff_wf`
  (`Props/C06_overlap_memo_complete.lean`: no rank check).
-/
import PyGqlModel.Props.C06_overlap_hyps_parents
import PyGqlModel.Lemmas.ValidateOverlapNoCrash
import PyGqlModel.Lemmas.ValidateOverlapRankCheck
namespace PyGql.Props.C06
open PyGql PyGql.Validate PyGql.Validate.Spec

/-- fuel sufficiency: a document that passes the rank check never crashes the rule -/
theorem noCrash_of_ranks (s : SchemaD) (fx : Fixes) (h7 : fx.v7 = true) (d : Doc) (ρ : Nat → Nat)
    (h : rankOkB s d ρ = true) : NoCrash s fx d :=
  ov_document_nocrash s fx d ρ (rankOk_of_check s d ρ h) h7

/-- the static checks of the driver: identities, meta fields, ranks (given as a table) -/
structure DocChecksStatic (s : SchemaD) (d : Doc) (ranks : List (Nat × Nat)) : Prop where
  ids : wfIdsB d = true
  noMeta : noMetaSubsB d = true
  ranked : rankOkB s d (rankOf ranks) = true

/-- `OverlapHyps` with no run of the search among the hypotheses -/
theorem overlapHyps_of_wf_ranked (s : SchemaD) (fx : Fixes) (h7 : fx.v7 = true) (d : Doc) (ranks : List (Nat × Nat))
    (hck : DocChecksStatic s d ranks) (hne : NamesNonEmpty d)
    (hout : ∀ T name fd, fieldOf s T name = some fd → isOutputTy s fd.type = true)
    (hnd : Spec.uniqueFragmentNames d) (hac : Spec.noFragmentCycles d)
    (hsl : Spec.scalarLeafs s d) (hfc : Spec.fragmentsOnCompositeTypes s d) : OverlapHyps s fx d :=
  ⟨parentsAgree_of_rules s d hout hsl hfc ((noMetaSubsB_iff d).mp hck.noMeta) ((wfIdsB_iff d).mp hck.ids),
   overlapSide_of_wfB s d hck.ids hne hnd hac,
   noCrash_of_ranks s fx h7 d _ hck.ranked⟩

/-- 5.3.2, the equivalence with static checks only -/
theorem rule_overlapping_fields_can_be_merged_iff_ranked (s : SchemaD) (fx : Fixes) (h7 : fx.v7 = true) (d : Doc)
    (ranks : List (Nat × Nat)) (hck : DocChecksStatic s d ranks) (hne : NamesNonEmpty d)
    (hout : ∀ T name fd, fieldOf s T name = some fd → isOutputTy s fd.type = true)
    (hnd : Spec.uniqueFragmentNames d) (hac : Spec.noFragmentCycles d)
    (hsl : Spec.scalarLeafs s d) (hfc : Spec.fragmentsOnCompositeTypes s d) :
    Silent s fx .overlappingFieldsCanBeMerged d ↔ Spec.overlappingFieldsCanBeMerged s d := by
  obtain ⟨hpa, hsc, hnc⟩ := overlapHyps_of_wf_ranked s fx h7 d ranks hck hne hout hnd hac hsl hfc
  exact rule_overlapping_fields_can_be_merged_iff_partial s fx h7 d hpa hsc hnc

/-! non-vacuity: the proposed ranks pass the check, by evaluation, on the documents of `Props/C06_overlap_examples.lean` (a flat
    one, one with two fragments) and on a nested selection; a fragment spreading itself has no ranks: the proposal fails the check -/
example : DocChecksStatic oSchema oDocOk (computeRanks oDocOk) := ⟨by decide, by decide, by decide +kernel⟩
example : DocChecksStatic oSchema (oDocFrag "a") (computeRanks (oDocFrag "a")) := ⟨by decide, by decide, by decide +kernel⟩
example : NoCrash oSchema Fixes.all (oDocFrag "a") :=
  noCrash_of_ranks oSchema Fixes.all rfl _ (rankOf (computeRanks (oDocFrag "a"))) (by decide +kernel)
example : let dc : Doc := ⟨[opV [] 1 [.field none "o" [] [] true 2 [.field none "o" [] [] true 3 [fld none "a"]]]]⟩
    computeRanks dc = [(1, 6), (2, 4), (3, 2)] ∧ rankOkB oSchema dc (rankOf (computeRanks dc)) = true := by decide +kernel
example : let dc : Doc := ⟨[.frag "F" "Query" [] 1 [.spread "F" []]]⟩
    rankOkB oSchema dc (rankOf (computeRanks dc)) = false := by decide +kernel

end PyGql.Props.C06
