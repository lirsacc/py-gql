/-
  C02 — the re-parse-in-context theorems of `Props/C02_reparse_ctx.lean` in CLOSED FORM for executable documents: no
  side hypothesis about the node.  `Definition.sels` / `.ssets` / `.dirs` / `.args` (`Lemmas/SpanSels.lean`) enumerate
  EVERY selection (field, fragment spread, inline fragment), selection set, directive (of the definition, of its variable
  definitions, of its selections) and argument (of fields and of directives) of an operation or fragment definition, at any
  depth; each of them is what `parse` returns for its spanned text inside the minimal context, modulo the offset.
  For TYPE-SYSTEM definitions and extensions: `Definition.tdirs` / `.descs` (`Lemmas/SpanDirsTS.lean`) enumerate every
  directive (with its arguments) and every description; `Definition.fdefs` / `.ivdefs` / `.evdefs` every field definition,
  input value definition (input fields, argument definitions) and enum value definition.
-/
import PyGqlModel.Props.C02_reparse_ctx
import PyGqlModel.Lemmas.SpanSels
import PyGqlModel.Lemmas.SpanDirsTS
namespace PyGql.Props.C02
open PyGql PyGql.Ast PyGql.Parse PyGql.Spec PyGql.Props.C01
open PyGql.Spec.Lexical (slice)

private theorem wf_of_mem (fl : Flags) (s : Text) (d : Document) (h : parseText fl s = some d) (x : Definition)
    (hx : x ∈ d.definitions) : wfDefinition fl x = true :=
  (parseText_wf h hx).1

/-- every selection of every operation and fragment definition: `{ σ⏎}` parses to the shorthand query holding it -/
theorem span_reparse_selection_all (fl : Flags) (s : Text) (d : Document) (h : parseText fl s = some d) :
    ∀ x ∈ d.definitions, ∀ sel ∈ x.sels, ∀ a b, sel.loc = some (a, b) →
      a ≤ b ∧ b ≤ s.length ∧
      parseText fl ([123, 32] ++ slice s a b ++ [10, 125]) =
        some (shorthandDoc [(sel.mapLoc (locDown a)).mapLoc (locUp 2)] (b - a + 4)) := by
  intro x hx sel hsel a b hloc
  obtain ⟨hs, hwf⟩ := definition_sels fl x sel hsel
  exact span_reparse_selection fl s d h x hx sel hs (hwf (wf_of_mem fl s d h x hx)) a b hloc

/-- every selection set of every operation and fragment definition: its text is the query shorthand -/
theorem span_reparse_selection_set_all (fl : Flags) (s : Text) (d : Document) (h : parseText fl s = some d) :
    ∀ x ∈ d.definitions, ∀ ss ∈ x.ssets, ∀ a b, ss.loc = some (a, b) →
      a ≤ b ∧ b ≤ s.length ∧
      parseText fl (slice s a b) =
        some ⟨[.operation ⟨K.query, none, [], [], ss.mapLoc (locDown a), some (0, b - a)⟩], some (0, b - a)⟩ := by
  intro x hx ss hss a b hloc
  obtain ⟨hs, hwf⟩ := definition_ssets fl x ss hss
  exact span_reparse_selection_set fl s d h x hx ss hs (hwf (wf_of_mem fl s d h x hx)) a b hloc

/-- every directive of every operation and fragment definition (also those of variable definitions): `{ a σ⏎}` -/
theorem span_reparse_directive_all (fl : Flags) (s : Text) (d : Document) (h : parseText fl s = some d) :
    ∀ x ∈ d.definitions, ∀ dir ∈ x.dirs, ∀ a b, dir.loc = some (a, b) →
      a ≤ b ∧ b ≤ s.length ∧
      parseText fl ([123, 32, 97, 32] ++ slice s a b ++ [10, 125]) =
        some (shorthandDoc [.field none ⟨[97], some (2, 3)⟩ [] [(dir.mapLoc (locDown a)).mapLoc (locUp 4)] none
          (some (2, b - a + 4))] (b - a + 6)) := by
  intro x hx dir hdir a b hloc
  obtain ⟨hs, hwf⟩ := definition_dirs fl x dir hdir
  obtain ⟨c, hc⟩ := hwf (wf_of_mem fl s d h x hx)
  exact span_reparse_directive fl s d h x hx dir hs c hc a b hloc

/-- every argument of every field and of every directive of every operation and fragment definition: `{ a(σ⏎)}` -/
theorem span_reparse_argument_all (fl : Flags) (s : Text) (d : Document) (h : parseText fl s = some d) :
    ∀ x ∈ d.definitions, ∀ arg ∈ x.args, ∀ a b, arg.loc = some (a, b) →
      a ≤ b ∧ b ≤ s.length ∧
      parseText fl ([123, 32, 97, 40] ++ slice s a b ++ [10, 41, 125]) =
        some (shorthandDoc [.field none ⟨[97], some (2, 3)⟩ [(arg.mapLoc (locDown a)).mapLoc (locUp 4)] [] none
          (some (2, b - a + 6))] (b - a + 7)) := by
  intro x hx arg harg a b hloc
  obtain ⟨hs, hwf⟩ := definition_args fl x arg harg
  obtain ⟨c, hc⟩ := hwf (wf_of_mem fl s d h x hx)
  exact span_reparse_argument fl s d h x hx arg hs c hc a b hloc

/-- every variable definition of every operation (and fragment, with `experimental_fragment_variables`): `query(σ⏎){a}` -/
theorem span_reparse_variable_definition_all (fl : Flags) (s : Text) (d : Document) (h : parseText fl s = some d) :
    ∀ x ∈ d.definitions, ∀ vd ∈ x.vdefs, ∀ a b, vd.loc = some (a, b) →
      a ≤ b ∧ b ≤ s.length ∧
      parseText fl ([113, 117, 101, 114, 121, 40] ++ slice s a b ++ [10, 41, 123, 97, 125]) =
        some (queryDoc ((vd.mapLoc (locDown a)).mapLoc (locUp 6)) (b - a)) := by
  intro x hx vd hvd a b hloc
  obtain ⟨hs, hwf⟩ := definition_vdefs fl x vd hvd
  exact span_reparse_variable_definition fl s d h x hx vd hs (hwf (wf_of_mem fl s d h x hx)) a b hloc

/-- every directive of every type-system definition / extension (`Definition.tdirs`: on the definition, on its field
    definitions, argument definitions, enum values and input fields): `{ a σ⏎}` -/
theorem span_reparse_directive_ts (fl : Flags) (s : Text) (d : Document) (h : parseText fl s = some d) :
    ∀ x ∈ d.definitions, ∀ dir ∈ x.tdirs, ∀ a b, dir.loc = some (a, b) →
      a ≤ b ∧ b ≤ s.length ∧
      parseText fl ([123, 32, 97, 32] ++ slice s a b ++ [10, 125]) =
        some (shorthandDoc [.field none ⟨[97], some (2, 3)⟩ [] [(dir.mapLoc (locDown a)).mapLoc (locUp 4)] none
          (some (2, b - a + 4))] (b - a + 6)) := by
  intro x hx dir hdir a b hloc
  obtain ⟨hs, hwf⟩ := definition_tdirs fl x dir hdir
  exact span_reparse_directive fl s d h x hx dir hs true (hwf (wf_of_mem fl s d h x hx)) a b hloc

/-- every argument of every such directive: `{ a(σ⏎)}` -/
theorem span_reparse_argument_ts (fl : Flags) (s : Text) (d : Document) (h : parseText fl s = some d) :
    ∀ x ∈ d.definitions, ∀ dir ∈ x.tdirs, ∀ arg ∈ dir.arguments, ∀ a b, arg.loc = some (a, b) →
      a ≤ b ∧ b ≤ s.length ∧
      parseText fl ([123, 32, 97, 40] ++ slice s a b ++ [10, 41, 125]) =
        some (shorthandDoc [.field none ⟨[97], some (2, 3)⟩ [(arg.mapLoc (locDown a)).mapLoc (locUp 4)] [] none
          (some (2, b - a + 6))] (b - a + 7)) := by
  intro x hx dir hdir arg harg a b hloc
  obtain ⟨hs, hwf⟩ := definition_tdirs fl x dir hdir
  obtain ⟨hs2, hwf2⟩ := directive_arguments true dir arg harg
  exact span_reparse_argument fl s d h x hx arg (hs2.trans hs) true (hwf2 (hwf (wf_of_mem fl s d h x hx))) a b hloc

private theorem ts_flag (fl : Flags) (s : Text) (d : Document) (h : parseText fl s = some d) (x : Definition)
    (hx : x ∈ d.definitions) (hts : isTypeSystem x = true) : fl.allowTypeSystem = true := by
  have := (parseText_wf h hx).2
  rw [hts] at this
  simpa using this

/-- a definition with a member of a kind that executable definitions lack is a type-system definition -/
private theorem isTypeSystem_of_mem {α} (e : Definition → List α) (ho : ∀ d, e (.operation d) = [])
    (hf : ∀ d, e (.fragment d) = []) {x : Definition} {w : α} (h : w ∈ e x) : isTypeSystem x = true := by
  cases x with
  | operation d => rw [ho] at h; cases h
  | fragment d => rw [hf] at h; cases h
  | _ => rfl

/-- every FIELD DEFINITION of every object / interface type definition or extension: `type A {σ⏎}` -/
theorem span_reparse_field_definition_all (fl : Flags) (s : Text) (d : Document) (h : parseText fl s = some d) :
    ∀ x ∈ d.definitions, ∀ fd ∈ x.fdefs, ∀ a b, fd.loc = some (a, b) →
      a ≤ b ∧ b ≤ s.length ∧
      parseText fl (K.type_ ++ [32, 65, 32, 123] ++ slice s a b ++ [10, 125]) =
        some ⟨[.objectTypeDefinition none ⟨[65], some (5, 6)⟩ [] [] [(fd.mapLoc (locDown a)).mapLoc (locUp 8)]
          (some (0, b - a + 4 + 6))], some (0, b - a + 4 + 6)⟩ := by
  intro x hx fd hfd a b hloc
  obtain ⟨hs, hwf⟩ := definition_fdefs fl x fd hfd
  have hts := isTypeSystem_of_mem Definition.fdefs (fun _ => rfl) (fun _ => rfl) hfd
  exact span_reparse_field_definition fl (ts_flag fl s d h x hx hts) s d h x hx fd hs (hwf (wf_of_mem fl s d h x hx)) a b hloc

/-- every ENUM VALUE DEFINITION of every enum type definition or extension: `enum A {σ⏎}` -/
theorem span_reparse_enum_value_definition_all (fl : Flags) (s : Text) (d : Document) (h : parseText fl s = some d) :
    ∀ x ∈ d.definitions, ∀ ev ∈ x.evdefs, ∀ a b, ev.loc = some (a, b) →
      a ≤ b ∧ b ≤ s.length ∧
      parseText fl (K.enum_ ++ [32, 65, 32, 123] ++ slice s a b ++ [10, 125]) =
        some ⟨[.enumTypeDefinition none ⟨[65], some (5, 6)⟩ [] [(ev.mapLoc (locDown a)).mapLoc (locUp 8)]
          (some (0, b - a + 4 + 6))], some (0, b - a + 4 + 6)⟩ := by
  intro x hx ev hev a b hloc
  obtain ⟨hs, hwf⟩ := definition_evdefs fl x ev hev
  have hts := isTypeSystem_of_mem Definition.evdefs (fun _ => rfl) (fun _ => rfl) hev
  exact span_reparse_enum_value_definition fl (ts_flag fl s d h x hx hts) s d h x hx ev hs (hwf (wf_of_mem fl s d h x hx)) a b hloc

/-- every INPUT VALUE DEFINITION (input fields, arguments of field definitions and of directive definitions): `input A {σ⏎}` -/
theorem span_reparse_input_value_definition_all (fl : Flags) (s : Text) (d : Document) (h : parseText fl s = some d) :
    ∀ x ∈ d.definitions, ∀ iv ∈ x.ivdefs, ∀ a b, iv.loc = some (a, b) →
      a ≤ b ∧ b ≤ s.length ∧
      parseText fl (K.input ++ [32, 65, 32, 123] ++ slice s a b ++ [10, 125]) =
        some ⟨[.inputObjectTypeDefinition none ⟨[65], some (6, 7)⟩ [] [(iv.mapLoc (locDown a)).mapLoc (locUp 9)]
          (some (0, b - a + 5 + 6))], some (0, b - a + 5 + 6)⟩ := by
  intro x hx iv hiv a b hloc
  obtain ⟨hs, hwf⟩ := definition_ivdefs fl x iv hiv
  have hts := isTypeSystem_of_mem Definition.ivdefs (fun _ => rfl) (fun _ => rfl) hiv
  exact span_reparse_input_value_definition fl (ts_flag fl s d h x hx hts) s d h x hx iv hs (hwf (wf_of_mem fl s d h x hx)) a b hloc

/-- every DESCRIPTION of every type-system definition (its own, and those of its field definitions, argument definitions,
    enum values, input fields), quoted or block string: `σ⏎scalar A` parses to the scalar `A` carrying exactly that
    description — no hypothesis (a document with a description was parsed with `allow_type_system`) -/
theorem span_reparse_description_all (fl : Flags) (s : Text) (d : Document) (h : parseText fl s = some d) :
    ∀ x ∈ d.definitions, ∀ sv ∈ x.descs, ∀ a b, sv.loc = some (a, b) →
      a ≤ b ∧ b ≤ s.length ∧
      parseText fl (slice s a b ++ 10 :: [115, 99, 97, 108, 97, 114, 32, 65]) =
        some ⟨[.scalarTypeDefinition (some (sv.mapLoc (locDown a))) ⟨[65], some (b - a + 8, b - a + 9)⟩ []
          (some (0, b - a + 9))], some (0, b - a + 9)⟩ := by
  intro x hx sv hsv a b hloc
  have hts := isTypeSystem_of_mem Definition.descs (fun _ => rfl) (fun _ => rfl) hsv
  exact span_reparse_description fl (ts_flag fl s d h x hx hts) s d h x hx sv (definition_descs x sv hsv) a b hloc

/-! ### non-vacuity: the enumerations of `query($v:I @k){a(x:[1]) @d ...{b}}` -/
private def qdoc : Text := [113, 117, 101, 114, 121, 40, 36, 118, 58, 73, 32, 64, 107, 41, 123, 97, 40, 120, 58, 91, 49, 93,
  41, 32, 64, 100, 32, 46, 46, 46, 123, 98, 125, 125]
/-- what `parse` makes of `qdoc`: the spans of the members of the five enumerations (the kernel evaluates the parse once
    per theorem, hence the conjunctions) -/
private theorem qdoc_sels :
    (parseText {} qdoc).map (fun d => d.definitions.map (fun x => x.sels.map Selection.loc)) =
      some [[some (15, 26), some (27, 33), some (31, 32)]] ∧
    (parseText {} qdoc).map (fun d => d.definitions.map (fun x => x.ssets.map SelectionSet.loc)) =
      some [[some (14, 34), some (30, 33)]] := by decide +kernel
private theorem qdoc_dirs :
    (parseText {} qdoc).map (fun d => d.definitions.map (fun x => x.dirs.map (·.loc))) =
      some [[some (11, 13), some (24, 26)]] ∧
    (parseText {} qdoc).map (fun d => d.definitions.map (fun x => x.vdefs.map (·.loc))) = some [[some (6, 13)]] ∧
    (parseText {} qdoc).map (fun d => d.definitions.map (fun x => x.args.map (·.loc))) = some [[some (17, 22)]] := by
  decide +kernel

example : (parseText {} qdoc).map (fun d => d.definitions.map (fun x => x.sels.map Selection.loc)) =
    some [[some (15, 26), some (27, 33), some (31, 32)]] := qdoc_sels.1
example : (parseText {} qdoc).map (fun d => d.definitions.map (fun x => x.ssets.map SelectionSet.loc)) =
    some [[some (14, 34), some (30, 33)]] := qdoc_sels.2
example : (parseText {} qdoc).map (fun d => d.definitions.map (fun x => x.dirs.map (·.loc))) =
    some [[some (11, 13), some (24, 26)]] := qdoc_dirs.1
example : (parseText {} qdoc).map (fun d => d.definitions.map (fun x => x.vdefs.map (·.loc))) =
    some [[some (6, 13)]] := qdoc_dirs.2.1
example : (parseText {} qdoc).map (fun d => d.definitions.map (fun x => x.args.map (·.loc))) =
    some [[some (17, 22)]] := qdoc_dirs.2.2

/-- `"T" type T @k(x:1){"d" f("q" a:I @m):I @n}`: directives, their arguments and descriptions of a type definition -/
private def tdoc2 : Text := [34, 84, 34, 32, 116, 121, 112, 101, 32, 84, 32, 64, 107, 40, 120, 58, 49, 41, 123, 34, 100, 34, 32, 102,
  40, 34, 113, 34, 32, 97, 58, 73, 32, 64, 109, 41, 58, 73, 32, 64, 110, 125]
private def tsFl2 : Flags := { allowTypeSystem := true }

private theorem tdoc2_parsed :
    (parseText tsFl2 tdoc2).map (fun d => d.definitions.map (fun x => x.tdirs.map (·.loc))) =
      some [[some (11, 18), some (33, 35), some (39, 41)]] ∧
    (parseText tsFl2 tdoc2).map (fun d => d.definitions.map (fun x => x.descs.map (·.loc))) =
      some [[some (0, 3), some (19, 22), some (25, 28)]] := by decide +kernel

example : (parseText tsFl2 tdoc2).map (fun d => d.definitions.map (fun x => x.tdirs.map (·.loc))) =
    some [[some (11, 18), some (33, 35), some (39, 41)]] := tdoc2_parsed.1
example : (parseText tsFl2 tdoc2).map (fun d => d.definitions.map (fun x => x.descs.map (·.loc))) =
    some [[some (0, 3), some (19, 22), some (25, 28)]] := tdoc2_parsed.2

/-- members of `"T" type T @k(x:1){"d" f("q" a:I @m):I @n}`: the field definition (19,41), its argument definition (25,35) -/
example : (parseText tsFl2 tdoc2).map (fun d => d.definitions.map (fun x => (x.fdefs.map (·.loc), x.ivdefs.map (·.loc)))) =
    some [([some (19, 41)], [some (25, 35)])] := by decide +kernel
/-- `type A {"d" f("q" a:I @m):I @n⏎}` is the type `A` with that field definition at (8,30) -/
example : (parseText tsFl2 (K.type_ ++ [32, 65, 32, 123] ++ slice tdoc2 19 41 ++ [10, 125])).map
    (fun d => d.definitions.map (fun x => (x.fdefs.map (·.loc), Definition.loc x))) =
    some [([some (8, 30)], some (0, 32))] := by decide +kernel

end PyGql.Props.C02
