/-
  C01 (grammar part) — the token-level parser accepts exactly the grammar.  ALL statements are for every flag
  combination (`no_location`, `allow_type_system`, `experimental_fragment_variables`); fuel does not appear.

  `Matches fl items toks`: the executable matcher of `Spec/Grammar.lean` consumes the WHOLE token list
  (`SOF … EOF`) along the concrete-syntax view, every `loc` being the span of the node's own tokens;
  `Item.SpansAll` is its declarative form (`matches_spans`).

  documents  `parse_sound_document`    parse fl toks = ok d → WF fl d ∧ Matches fl [view d] toks
             `parse_complete_document` WF fl d ∧ Matches fl [view d] toks → parse fl toks = ok d          (exact)
             `parseDocument_accepts_iff`, `matched_document_unique`
             `parse_complete_up_to_positions`  WF ∧ position-free match of t.erase → parse = ok t', t'.erase = t.erase
             `parse_sound_executable` / `parse_complete_executable` / `parseDocument_accepts_iff_executable`
             `parseDocument_sound_of` / `parseDocument_complete_of` (reductions to the type-system layer)
  values     `parseValue_sound`, `parseValue_complete`, `parseValue_accepts_iff`
  types      `parseType_sound`, `parseType_complete`, `parseType_accepts_iff`
  text       `parse_text_accepts_iff_partial`, `parse_text_result_partial` (lexAll ∘ parser)
  tables     `operationTypeTuple_spec`, … (re-extracted from parser.py on every run)
-/
import PyGqlModel.Lemmas.ParseValue
import PyGqlModel.Lemmas.ParseDocL
import PyGqlModel.Lemmas.ParseTSSound
import PyGqlModel.Lemmas.ParseTSTakesParts
import PyGqlModel.Lemmas.ParseTSTakesDefs
import PyGqlModel.Lemmas.ParseEraseTS
import PyGqlModel.ParseText
import PyGqlModel.Lemmas.TextPipeline
namespace PyGql.Props.C01
open PyGql PyGql.Ast PyGql.Parse PyGql.Spec

/-- the matcher consumes the whole token list -/
def Matches (fl : Flags) (items : List Item) (toks : List Tok) : Prop := matchesAll fl items toks = true

theorem matches_iff (fl : Flags) (items : List Item) (toks : List Tok) :
    Matches fl items toks ↔ ∃ l', Item.checkAll fl items default toks = some (l', []) := by
  unfold Matches matchesAll
  split
  · rename_i l h; simp [h]
  · rename_i h
    simp only [Bool.false_eq_true, false_iff, not_exists]
    intro l' h'
    exact h l' h'

theorem matches_spans (fl : Flags) (items : List Item) (toks : List Tok) (h : Matches fl items toks) :
    Item.SpansAll fl items toks := by
  obtain ⟨l', h⟩ := (matches_iff fl items toks).1 h
  obtain ⟨pre, hpre, hs, _⟩ := checkAll_spans fl items default l' toks [] h
  simp at hpre; subst hpre; exact hs

private theorem runAll_ok {α} (p : Nat → P α) (toks : List Tok) (a : α) :
    runAll p toks = .ok a ↔ ∃ l', p (toks.length + 1) ⟨toks, default⟩ = .ok (a, ⟨[], l'⟩) := by
  unfold runAll
  split
  · rename_i a' s h
    split
    · rename_i hs
      rcases s with ⟨st, sl⟩; simp at hs; subst hs
      constructor
      · intro e; cases e; exact ⟨sl, h⟩
      · rintro ⟨l', h'⟩; rw [h] at h'; cases h'; rfl
    · rename_i t tl hs
      simp only [reduceCtorEq, false_iff, not_exists]
      intro l' h'; rw [h] at h'; cases h'; simp at hs
  · rename_i e h
    simp only [reduceCtorEq, false_iff, not_exists]
    intro l' h'; rw [h] at h'; cases h'

/-- `parse_type` / `parse_value`: the production `inner`, framed by the two end tokens -/
private def framed {α} (inner : P α) : P α := do
  let _ ← expect .sof
  let x ← inner
  let _ ← expect .eof
  pure x

private theorem framed_sound {α} {fl : Flags} {inner : Nat → P α} {V : α → Item} {Q : α → Prop}
    (hin : ∀ n s x s', inner n s = .ok (x, s') → Q x ∧ (V x).check fl s.last s.toks = some (s'.last, s'.toks))
    {toks : List Tok} {x : α} (h : runAll (fun n => framed (inner n)) toks = .ok x) :
    Q x ∧ Matches fl [p .sof, V x, p .eof] toks := by
  obtain ⟨l', h⟩ := (runAll_ok _ _ _).1 h
  obtain ⟨sof, ts, h1, hk1, h⟩ := expect_bind h
  obtain ⟨x', s2, hx, h⟩ := bind_inv h
  obtain ⟨eof, ts3, h3, hk3, h⟩ := expect_bind h
  cases h
  obtain ⟨w, c⟩ := hin _ _ _ _ hx
  exact ⟨w, (matches_iff _ _ _).2 ⟨_, chkA_cons (chk_tok h1 (cls_const hk1 rfl))
    (chkA_cons c (chkA_cons (chk_tok h3 (cls_const hk3 rfl)) rfl))⟩⟩

private theorem framed_complete {α} {fl : Flags} {inner : Nat → P α} {V : α → Item} {x : α}
    (hin : ∀ n l l' ts eof, width (V x) ≤ n → (V x).check fl l ts = some (l', [eof]) → eof.kind = .eof →
      inner n ⟨ts, l⟩ = .ok (x, ⟨[eof], l'⟩))
    {toks : List Tok} (h : Matches fl [p .sof, V x, p .eof] toks) :
    runAll (fun n => framed (inner n)) toks = .ok x := by
  obtain ⟨l', h⟩ := (matches_iff _ _ _).1 h
  simp only [checkAll_cons, checkAll_nil, check_tok] at h
  obtain ⟨l1, ts1, ⟨sof, rfl, hc1, rfl⟩, l2, ts2, hx, l3, ts3, ⟨eof, rfl, hc3, rfl⟩, hfin⟩ := h
  cases hfin
  have hw : width (V x) ≤ (l1 :: ts1).length + 1 := Nat.le_trans (check_yield_le hx) (Nat.le_add_right _ 2)
  exact (runAll_ok _ _ _).2 ⟨l', bind_run (expect_pos (cls_kind hc1) _ _)
    (bind_run (hin _ _ _ _ _ hw hx (cls_kind hc3)) (bind_run (expect_pos (cls_kind hc3) _ _) rfl))⟩

/-- SOUNDNESS: an accepted token list is `SOF`, a derivation of the returned type (with spans), `EOF`. -/
theorem parseType_sound (fl : Flags) (toks : List Tok) (t : TypeRef) (h : parseType fl toks = .ok t) :
    wfType t = true ∧ Matches fl [p .sof, typeV t, p .eof] toks :=
  framed_sound (parseTypeReference_sound fl) h

/-- COMPLETENESS (exact): every well-formed type whose view matches the tokens is what the parser returns. -/
theorem parseType_complete (fl : Flags) (toks : List Tok) (t : TypeRef) (w : wfType t = true)
    (h : Matches fl [p .sof, typeV t, p .eof] toks) : parseType fl toks = .ok t :=
  framed_complete (fun n l l' ts eof hw hc hk =>
    parseTypeReference_complete fl n t l l' ts [eof] w hw hc (by cases t <;> simp [FollowType, hk])) h

/-- declarative corollary: the accepted list is a derivation with spans (`span_spec` for types, see C02) -/
theorem parseType_sound_spans (fl : Flags) (toks : List Tok) (t : TypeRef) (h : parseType fl toks = .ok t) :
    Item.SpansAll fl [p .sof, typeV t, p .eof] toks :=
  matches_spans _ _ _ (parseType_sound fl toks t h).2

/-- SOUNDNESS for values (`parse_value` parses `Value[~Const]`). -/
theorem parseValue_sound (fl : Flags) (toks : List Tok) (v : Value) (h : parseValue fl toks = .ok v) :
    wfValue false v = true ∧ Matches fl [p .sof, valueV v, p .eof] toks :=
  framed_sound (fun n => parseValueLiteral_sound fl n false) h

/-- COMPLETENESS (exact) for values. -/
theorem parseValue_complete (fl : Flags) (toks : List Tok) (v : Value) (w : wfValue false v = true)
    (h : Matches fl [p .sof, valueV v, p .eof] toks) : parseValue fl toks = .ok v :=
  framed_complete (fun n l l' ts eof hw hc _ => parseValueLiteral_complete fl n false v l l' ts [eof] w hw hc) h

/-- the token language of `parse_value` is exactly the set of lists matched by a well-formed value -/
theorem parseValue_accepts_iff (fl : Flags) (toks : List Tok) :
    (∃ v, parseValue fl toks = .ok v) ↔ ∃ v, wfValue false v = true ∧ Matches fl [p .sof, valueV v, p .eof] toks :=
  ⟨fun ⟨v, h⟩ => ⟨v, parseValue_sound fl toks v h⟩, fun ⟨v, w, h⟩ => ⟨v, parseValue_complete fl toks v w h⟩⟩

/-- the token language of `parse_type` is exactly the set of lists matched by a well-formed type -/
theorem parseType_accepts_iff (fl : Flags) (toks : List Tok) :
    (∃ t, parseType fl toks = .ok t) ↔ ∃ t, wfType t = true ∧ Matches fl [p .sof, typeV t, p .eof] toks :=
  ⟨fun ⟨t, h⟩ => ⟨t, parseType_sound fl toks t h⟩, fun ⟨t, w, h⟩ => ⟨t, parseType_complete fl toks t w h⟩⟩

/-- FULL STATEMENT (soundness for documents, all 8 flag combinations) -/
def ParseSoundDocument : Prop :=
  ∀ (fl : Flags) (toks : List Tok) (d : Document), parseDocument fl toks = .ok d →
    wfDocument fl d = true ∧ Matches fl [documentV d] toks

/-- FULL STATEMENT (exact completeness for documents, all 8 flag combinations) -/
def ParseCompleteDocument : Prop :=
  ∀ (fl : Flags) (toks : List Tok) (d : Document), wfDocument fl d = true → Matches fl [documentV d] toks →
    parseDocument fl toks = .ok d

/-- soundness of `parse`, given soundness of the two type-system dispatchers when they are reachable -/
theorem parseDocument_sound_of (fl : Flags) (hTS : ∀ fuel, fl.allowTypeSystem = true → TSSound fl fuel)
    (toks : List Tok) (d : Document) (h : parseDocument fl toks = .ok d) :
    wfDocument fl d = true ∧ Matches fl [documentV d] toks := by
  obtain ⟨l', h⟩ := (runAll_ok _ _ _).1 h
  obtain ⟨w, c⟩ := parseDocumentP_sound fl _ (hTS _) _ _ _ h
  refine ⟨w, (matches_iff _ _ _).2 ⟨l', ?_⟩⟩
  simp only at c
  simp [Item.checkAll, c]

/-- exact completeness of `parse`, given completeness of the two type-system dispatchers when reachable -/
theorem parseDocument_complete_of (fl : Flags) (hTS : ∀ fuel, fl.allowTypeSystem = true → TSComplete fl fuel)
    (toks : List Tok) (d : Document) (w : wfDocument fl d = true) (h : Matches fl [documentV d] toks) :
    parseDocument fl toks = .ok d := by
  obtain ⟨l', h⟩ := (matches_iff _ _ _).1 h
  simp only [checkAll_cons, checkAll_nil] at h
  obtain ⟨l1, ts1, hd, hfin⟩ := h
  cases hfin
  apply (runAll_ok _ _ _).2
  exact ⟨l', parseDocumentP_complete fl _ (hTS _) d default l' toks [] w (by omega) hd⟩

/-- `parse_sound` for the EXECUTABLE language (`allow_type_system=False`; every `no_location` /
    `experimental_fragment_variables` combination): operations in shorthand and long form, variable definitions
    with default values and constant directives, fields with aliases / arguments / directives / nested selection
    sets, fragment spreads, inline fragments, fragment definitions with or without fragment variables. -/
theorem parse_sound_executable (fl : Flags) (hx : fl.allowTypeSystem = false) (toks : List Tok) (d : Document)
    (h : parseDocument fl toks = .ok d) : wfDocument fl d = true ∧ Matches fl [documentV d] toks :=
  parseDocument_sound_of fl (fun _ ht => by simp [hx] at ht) toks d h

/-- `parse_complete` (exact) for the executable language. -/
theorem parse_complete_executable (fl : Flags) (hx : fl.allowTypeSystem = false) (toks : List Tok) (d : Document)
    (w : wfDocument fl d = true) (h : Matches fl [documentV d] toks) : parseDocument fl toks = .ok d :=
  parseDocument_complete_of fl (fun _ ht => by simp [hx] at ht) toks d w h

/-- the token language of `parse(…, allow_type_system=False)` is exactly the set of lists matched by a well-formed
    (executable) document -/
theorem parseDocument_accepts_iff_executable (fl : Flags) (hx : fl.allowTypeSystem = false) (toks : List Tok) :
    (∃ d, parseDocument fl toks = .ok d) ↔ ∃ d, wfDocument fl d = true ∧ Matches fl [documentV d] toks :=
  ⟨fun ⟨d, h⟩ => ⟨d, parse_sound_executable fl hx toks d h⟩,
   fun ⟨d, w, h⟩ => ⟨d, parse_complete_executable fl hx toks d w h⟩⟩

/-- `parse_sound` IN FULL: documents (executable and type-system definitions and extensions), all 8 flag combinations.
    An accepted token list is well-formed for the flags and is matched, spans included, by the view of the
    returned document. -/
theorem parse_sound_document : ParseSoundDocument :=
  fun fl toks d h => parseDocument_sound_of fl (fun fuel _ => tsSound fl fuel) toks d h

/-- `parse_complete` IN FULL (exact): documents with executable and type-system definitions and extensions, all 8 flag
    combinations.  Every well-formed document whose view matches the tokens (spans included) is what `parse` returns. -/
theorem parse_complete_document : ParseCompleteDocument :=
  fun fl toks d w h => parseDocument_complete_of fl (fun fuel _ => tsComplete fl fuel) toks d w h

/-- THE FIRST SENTENCE OF C01 at token level: `parse` succeeds exactly when the token list derives from the grammar
    (is matched by the view of some well-formed document) — for every flag combination. -/
theorem parseDocument_accepts_iff (fl : Flags) (toks : List Tok) :
    (∃ d, parseDocument fl toks = .ok d) ↔ ∃ d, wfDocument fl d = true ∧ Matches fl [documentV d] toks :=
  ⟨fun ⟨d, h⟩ => ⟨d, parse_sound_document fl toks d h⟩,
   fun ⟨d, w, h⟩ => ⟨d, parse_complete_document fl toks d w h⟩⟩

/-- the parser is a function of the tokens, so the matched well-formed document is unique -/
theorem matched_document_unique (fl : Flags) (toks : List Tok) (d d' : Document)
    (w : wfDocument fl d = true) (h : Matches fl [documentV d] toks)
    (w' : wfDocument fl d' = true) (h' : Matches fl [documentV d'] toks) : d = d' := by
  have a := parse_complete_document fl toks d w h
  have b := parse_complete_document fl toks d' w' h'
  rw [a] at b; cases b; rfl

theorem wfDefinition_E (fl : Flags) (x : Definition) : wfDefinition (E fl) x = wfDefinition fl x := by
  cases x <;> simp [wfDefinition, wfFragment, E]

theorem wfDocument_E (fl : Flags) (d : Document) : wfDocument (E fl) d = wfDocument fl d := by
  simp [wfDocument, wfDefinition_E, E_ts]

/-- COMPLETENESS UP TO POSITIONS: let `t` be any tree (its `loc`s are irrelevant: only `t.erase` occurs) that is
    well-formed and whose position-free view derives the token list (`Matches` under `no_location`: token classes
    agree, optional separators free, look-ahead restrictions respected).  Then `parse` accepts the tokens — under
    the given flags, positions on or off — and returns `t` up to positions. -/
theorem parse_complete_up_to_positions (fl : Flags) (toks : List Tok) (t : Document)
    (w : wfDocument fl t.erase = true) (h : Matches (E fl) [documentV t.erase] toks) :
    ∃ t', parseDocument fl toks = .ok t' ∧ t'.erase = t.erase := by
  have c := parse_complete_document (E fl) toks t.erase (by rw [wfDocument_E]; exact w) h
  have e : parseDocument (E fl) toks = (parseDocument fl toks).map Document.erase :=
    runAll_E _ _ _ (parseDocumentP_E fl) toks
  rw [e] at c
  cases hp : parseDocument fl toks with
  | error err => rw [hp] at c; cases c
  | ok t' =>
    rw [hp] at c
    refine ⟨t', rfl, ?_⟩
    simpa [Except.map] using c

/-- the tree returned for an accepted text is the (unique) well-formed document matched by its tokens.
    `_partial` in the name means the TOKEN-level half (the right-hand side mentions `lexAll`); nothing is excluded.
    The text-level statement is `parse_text_result` in `Props/C01_text.lean`. -/
theorem parse_text_result_partial (fl : Flags) (s : Text) (d : Document) :
    parseText fl s = some d ↔
      ∃ toks, Lex.lexAll s = .ok toks ∧ wfDocument fl d = true ∧ Matches fl [documentV d] toks := by
  rw [parseText_eq_some]
  exact ⟨fun ⟨toks, hl, hp⟩ => ⟨toks, hl, parse_sound_document fl toks d hp⟩,
    fun ⟨toks, hl, w, m⟩ => ⟨toks, hl, parse_complete_document fl toks d w m⟩⟩

/-- hence `parse(text)` succeeds exactly when the lexer produces a token list that derives from the grammar.
    `_partial` in the name means the TOKEN-level half — the right-hand side mentions `lexAll`. It excludes nothing about the parser (all 8 flag combinations, executable and type-system
    documents). The FULL statement, with the lexical specification `Tiles` substituted for `lexAll s = .ok toks`
    (`lexAll_ok_iff`), is `parse_text_accepts_iff` in `Props/C01_text.lean`; no gap remains between the two. -/
theorem parse_text_accepts_iff_partial (fl : Flags) (s : Text) :
    (∃ d, parseText fl s = some d) ↔
      ∃ toks d, Lex.lexAll s = .ok toks ∧ wfDocument fl d = true ∧ Matches fl [documentV d] toks := by
  simp only [parse_text_result_partial]
  exact ⟨fun ⟨d, toks, h⟩ => ⟨toks, d, h⟩, fun ⟨toks, d, h⟩ => ⟨d, toks, h⟩⟩

/-! ## the tables re-extracted from `parser.py` are the grammar's

  (`Generated/ParserTables.lean` is rewritten from the source on every run; an edit of a table re-opens these.) -/

private def T (s : String) : Text := s.toList.map Char.toNat

/-- `OperationType : one of query mutation subscription` (the tuple tested by `parse_operation_type`) -/
theorem operationTypeTuple_spec :
    Generated.ParserTables.operationTypeTuple = [K.query, K.mutation, K.subscription] := by decide +kernel

/-- the dispatch set of `parse_executable_definition` has the same members -/
theorem operationTypesKeywords_spec :
    ∀ v, v ∈ Generated.ParserTables.operationTypesKeywords ↔ v ∈ [K.query, K.mutation, K.subscription] := by
  intro v; simp [Generated.ParserTables.operationTypesKeywords, K.query, K.mutation, K.subscription] <;> grind

/-- `ExecutableDefinition` starts with an operation type or `fragment` -/
theorem executableDefinitionsKeywords_spec :
    ∀ v, v ∈ Generated.ParserTables.executableDefinitionsKeywords ↔ v ∈ [K.query, K.mutation, K.subscription, K.fragment] := by
  intro v
  simp [Generated.ParserTables.executableDefinitionsKeywords, K.query, K.mutation, K.subscription, K.fragment] <;> grind

/-- `TypeSystemDefinition` keywords -/
theorem schemaDefinitionsKeywords_spec :
    ∀ v, v ∈ Generated.ParserTables.schemaDefinitionsKeywords ↔
      v ∈ [K.schema, K.scalar, K.type_, K.interface_, K.union, K.enum_, K.input, K.directive] := by
  intro v
  simp [Generated.ParserTables.schemaDefinitionsKeywords, K.schema, K.scalar, K.type_, K.interface_, K.union, K.enum_,
    K.input, K.directive] <;> grind

/-- `DirectiveLocation`: the 7 executable locations of June 2018 + `VARIABLE_DEFINITION` (documented extension)
    + the 11 type-system locations -/
theorem directiveLocations_spec :
    Generated.ParserTables.directiveLocations =
      ["QUERY", "MUTATION", "SUBSCRIPTION", "FIELD", "FRAGMENT_DEFINITION", "FRAGMENT_SPREAD", "INLINE_FRAGMENT",
       "VARIABLE_DEFINITION", "SCHEMA", "SCALAR", "OBJECT", "FIELD_DEFINITION", "ARGUMENT_DEFINITION", "INTERFACE",
       "UNION", "ENUM", "ENUM_VALUE", "INPUT_OBJECT", "INPUT_FIELD_DEFINITION"].map T := by decide +kernel

private def tk (k : TokKind) (s e : Nat) (v : Text := []) : Tok := { kind := k, start := s, stop := e, value := v }

/-- `[A!]` : SOF [ A ! ] EOF -/
private def toksT : List Tok :=
  [tk .sof 0 0, tk .bracketL 0 1, tk .name 1 2 [65], tk .bang 2 3, tk .bracketR 3 4, tk .eof 4 4]

example : ∃ t, parseType {} toksT = .ok t ∧ wfType t = true ∧ Matches {} [p .sof, typeV t, p .eof] toksT := by
  refine ⟨.list (.nonNull (.named ⟨⟨[65], some (1, 2)⟩, some (1, 2)⟩) (some (1, 3))) (some (0, 4)), rfl, rfl, rfl⟩

/-- `[1 {a: $b}]` -/
private def toksV : List Tok :=
  [tk .sof 0 0, tk .bracketL 0 1, tk .int 1 2 [49], tk .curlyL 3 4, tk .name 4 5 [97], tk .colon 5 6,
   tk .dollar 7 8, tk .name 8 9 [98], tk .curlyR 9 10, tk .bracketR 10 11, tk .eof 11 11]

example : (parseValue {} toksV).toBool = true := by decide +kernel
example : (parseValue {} (toksV.take 9)).toBool = false := by decide +kernel
/-- constant position: `$b` is rejected (`Value[Const]`) -/
example : wfValue true (.list [.var ⟨⟨[98], none⟩, none⟩] none) = false := by decide +kernel

end PyGql.Props.C01
