/-
  C12 — **`build_ignores_custom`**: `BuildIgnoresCustomStatement` PROVED, for arbitrary documents.

  The builder model reads the directive applications of a document only through `_deprecation_reason` (`@deprecated` on
  fields and enum values).  Hence erasing every application of a non-specified directive — on the `schema` block and
  its extensions, on type definitions AND type extensions of all six kinds, on fields, arguments, input fields, enum
  values and directive-definition arguments — changes nothing in the result of `build_schema`: the same schema or the
  same error, for EVERY document (valid or not, with extensions, several blocks), with and without `ignore_extensions`,
  and for any supplied `additional_types`.  Proof: `_collect_definitions` commutes with the erasure
  (`collectDefinitions_erase`); the environment of the erased definitions is the erased view of the environment
  (`EnvErase`), over which `value_from_ast`, the thunk guard, `touches`, `build_*`, `build*X`, `extend_*` and
  `_extended_default_value` agree (`Lemmas/SdlEraseEnv.lean`, `Lemmas/SdlEraseExt.lean`).
  The driver also evaluates the statement on printed documents (op `printTA`, key `buildErased`).

  The property theorems of this file: `build_ignores_custom_full`, `build_ignores_custom`; `build_printed_eq_build_erased` is
  its instance at the printed document.
-/
import PyGqlModel.Lemmas.SdlEraseExt
namespace PyGql.Props.C12
open PyGql PyGql.Sdl PyGql.SdlPrintTA

/-- the statement with the two other parameters of `build_schema` -/
def BuildIgnoresCustomFullStatement : Prop :=
  ∀ (doc : Doc) (ignoreExtensions : Bool) (additional : List TypeD),
    build (doc.map eraseCustom) ignoreExtensions additional = build doc ignoreExtensions additional

private theorem buildCollected_env (c : Collected) (additional : List TypeD) (p : Env × Live)
    (hp : buildCollected c additional = .ok p) : p.1 = Env.of c.types additional := by
  unfold buildCollected at hp
  simp only [bind, Except.bind] at hp
  split at hp; · cases hp
  split at hp; · cases hp
  split at hp; · cases hp
  split at hp; · cases hp
  split at hp; · cases hp
  split at hp; · cases hp
  simp only [pure, Except.pure] at hp
  cases hp
  rfl

theorem build_ignores_custom_full : BuildIgnoresCustomFullStatement := by
  intro doc ign additional
  unfold build buildIgnoringExtensions
  rw [collectDefinitions_erase]
  cases collectDefinitions doc with
  | error e => rfl
  | ok c =>
    have hc := buildCollected_erase c additional
    simp only [Except.map, bind, Except.bind] at hc ⊢
    rw [hc]
    cases hbc : buildCollected c additional with
    | error e => rfl
    | ok p =>
      have henv := buildCollected_env c additional p hbc
      obtain ⟨env, live⟩ := p
      simp only at henv
      subst henv
      simp only [pure, Except.pure]
      cases ign with
      | true => rfl
      | false =>
        simp only [Bool.false_eq_true, if_false]
        rw [extendSchema_erase (envErase_of c.types additional) live doc additional]

theorem build_ignores_custom : BuildIgnoresCustomStatement := fun doc => (build_ignores_custom_full doc false []).symm

theorem build_printed_eq_build_erased (s : SchemaD) (c : OptsA) (apps : SdlPrint.Apps) :
    build (printedDocA s c apps) = build ((printedDocA s c apps).map eraseCustom) := build_ignores_custom _

/-! ### non-vacuity: a document WITH extensions, custom applications everywhere, and a rejected one -/

def extDoc : Doc :=
  [.schema { ops := [("query", "Q")], dirs := [{ name := "tag" }] },
   .type { kind := .object, name := "Q", dirs := [{ name := "tag", args := [("n", .int "1" "1.0")] }],
           fields := [{ name := "a", type := .named "Int", dirs := [{ name := "tag" }, { name := "deprecated" }],
                        args := [{ name := "x", type := .named "In", default := some (.obj []), dirs := [{ name := "other" }] }] }] },
   .type { kind := .input, name := "In", inputFields := [{ name := "k", type := .named "E", default := some (.enum "A"), dirs := [{ name := "tag" }] }] },
   .type { kind := .enum, name := "E", values := [{ name := "A", dirs := [{ name := "other" }] }] },
   .ext { kind := .enum, name := "E", dirs := [{ name := "tag" }],
          values := [{ name := "B", dirs := [{ name := "tag" }, { name := "deprecated", args := [("reason", .str "old")] }] }] },
   .ext { kind := .object, name := "Q", fields := [{ name := "b", type := .named "E", dirs := [{ name := "other" }] }] },
   .schemaExt { ops := [("mutation", "Q")], dirs := [{ name := "other" }] }]

/-- the erasure really removes something, and the document builds (to a schema with the extension's members) -/
example : (extDoc.map eraseCustom).length = 7 ∧
    (match (extDoc.map eraseCustom)[1]? with | some (Def.type t) => t.dirs.length == 0 | _ => false) = true := by decide +kernel
example : (match build extDoc with | .ok s => s.types.length == 3 && s.mutation == some "Q" | .error _ => false) = true := by decide +kernel
example : build (extDoc.map eraseCustom) = build extDoc := build_ignores_custom_full extDoc false []
/-- a rejected document (unknown type) is rejected with the same error after erasure -/
example : (match build [.type { kind := .object, name := "Q", fields := [{ name := "a", type := .named "Nope", dirs := [{ name := "tag" }] }] }]
    with | .error (.lib .sdl) => true | _ => false) = true := by decide +kernel

end PyGql.Props.C12
