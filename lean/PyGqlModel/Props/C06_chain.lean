/-
  C06 - property theorems: **THE VERDICT OF THE CHAIN IS THE CONJUNCTION OF THE RULES RUN ALONE.**

  The headline statements of C06 (`verdict_iff_all_memo`, `accepted_spec_valid_all_memo`, attribution, the invariance
  theorems) are about "every rule visitor, run ALONE (chain = TypeInfoVisitor + the rule), is silent". `validate_ast` runs
  ONE chain of all 26 visitors, with `ChainedVisitor`'s `SkipNode` handling: a node a member skips is hidden from every
  member. This file relates the two:

    * `framed_enterRule`, `framed_enterRuleM`: every rule reads and writes only its own part of the rule state
      (`RS.own`), prepends only errors of its own to the shared list (`Lemmas/ValidateChainFrame.lean`, 26 rules x 14
      node kinds), and a rule that raises `SkipNode` has just reported (`skip_reports`);
    * `chain_silent_iff_alone` (the chain with the un-memoised overlap search, `visitDocument`) and
      `chainM_silent_iff_alone` (the chain with the MEMOISED overlap search, what /repo runs; `SilentM`): the chain records
      no error iff every member alone records none - any list of pairwise different rules. Proof
      (`Lemmas/ValidateChainFramed.lean`, `Lemmas/ValidateChainSilent.lean`): as long as one side adds no error nobody skips (on the chain side by
      `skip_reports`, on the lone side because the flags are the same), and without skips the chain state and each lone
      state stay related node by node;
    * consequently the headline theorems become statements about the chain itself: `chainM_silent_iff_spec` (the chain
      /repo runs records no error iff the clauses of all 26 rules hold), `verdict_iff_alone` (`verdict = some true`),
      `chainM_six_transformations` (its verdict is invariant under the six transformations).
-/
import PyGqlModel.Props.C06_skipreports
import PyGqlModel.Props.C06_inv_verdict
import PyGqlModel.Props.C06_overlap_memo_chain
import PyGqlModel.Lemmas.ValidateChainAttribution
import PyGqlModel.Lemmas.ValidateChainParCongr
import PyGqlModel.Lemmas.ValidateChainParEq
namespace PyGql.Props.C06
open PyGql PyGql.Validate PyGql.Validate.Spec

/-- **the frame property of the 26 rule visitors** (the first of the two facts the note in `Props/C06_balanced.lean` names) -/
theorem framed_enterRule : Framed enterRule := enterRule_framed

theorem enterRuleM_eq_of_ne (fuel : Nat) (s : SchemaD) (fx : Fixes) (r : Rule) (hr : r ≠ ovRule) (n : Node) (ti : TI)
    (a : RS) : enterRuleM fuel s fx r n ti a = enterRule s fx r n ti a := by
  cases r <;> first | rfl | exact absurd rfl hr

/-- the same with the memoised overlap search: `enterRuleM` differs from `enterRule` in one entry of the table -/
theorem framed_enterRuleM (fuel : Nat) : Framed (enterRuleM fuel) where
  flag s fx r n ti a := (enterRuleM_step fuel s fx ti a r n).2.1
  own s fx r n ti a := (enterRuleM_step fuel s fx ti a r n).1.own
  errs s fx r n ti a := (enterRuleM_step fuel s fx ti a r n).1.errs
  mine s fx r n ti a := (enterRuleM_step fuel s fx ti a r n).1.2
  put s fx r n ti a := (enterRuleM_step fuel s fx ti a r n).1.put
  skip s fx r n ti a := (enterRuleM_step fuel s fx ti a r n).skip_lt

theorem rule_all_nodup : Rule.all.Nodup := by decide

/-- **the chain of the theorems records no error iff every member, run alone, is silent** -/
theorem chain_silent_iff_alone (s : SchemaD) (fx : Fixes) (rules : List Rule) (hnd : rules.Nodup) (d : Doc) :
    E (visitDocument ⟨s, fx, rules⟩ d {}) = 0 ↔ ∀ r ∈ rules, Silent s fx r d := by
  rw [← visitDocumentPar_eq, chainPar_silent_iff framed_enterRule ⟨s, fx, rules⟩ hnd d]
  constructor
  · intro h r hr
    unfold Silent alone
    rw [← visitDocumentPar_eq]
    exact h r hr
  · intro h r hr
    have := h r hr
    unfold Silent alone at this
    rw [← visitDocumentPar_eq] at this
    exact this

theorem chain_errs_in_rules (s : SchemaD) (fx : Fixes) (rules : List Rule) (d : Doc) :
    ∀ x ∈ (visitDocument ⟨s, fx, rules⟩ d {}).rs.errs, x ∈ rules := by
  have := (good_document framed_enterRule d).errsIn ⟨s, fx, rules⟩ {} (fun x hx => by cases hx)
  simp only [visitDocumentPar_eq] at this
  exact this

private theorem errs_nil_of_counts {errs : List Rule} {rules : List Rule} (hin : ∀ x ∈ errs, x ∈ rules)
    (h0 : ∀ r ∈ rules, countOf errs r = 0) : errs = [] := by
  cases errs with
  | nil => rfl
  | cons x xs =>
    exfalso
    have := h0 x (hin x (List.mem_cons_self ..))
    simp [countOf] at this

/-- the verdict read off a final rule state whose errors all belong to members: accepted iff no exception and no error -/
private theorem accepted_iff (rules : List Rule) (rs : RS) (hin : ∀ x ∈ rs.errs, x ∈ rules) :
    (match (match rs.crash with
        | some e => Outcome.crash e
        | none => .errors (rules.map fun r => (r, countOf rs.errs r))) with
      | .crash _ => none
      | .errors l => some (l.all fun p => p.2 == 0)) = some true ↔ rs.crash = none ∧ rs.errs.length = 0 := by
  cases hc : rs.crash with
  | some e => simp
  | none =>
    simp only [Option.some.injEq, List.all_eq_true, List.mem_map, forall_exists_index, and_imp, true_and]
    constructor
    · intro h
      have : rs.errs = [] := errs_nil_of_counts hin fun r hr => by
        have := h (r, countOf rs.errs r) r hr rfl
        simpa using this
      simp [this]
    · intro h p r _ e
      subst e
      simp [List.length_eq_zero_iff.mp h, countOf]

/-- **`verdict = some true` (what `validate_ast` returning no error means) iff no exception and every member alone is
    silent** -/
theorem verdict_iff_alone (s : SchemaD) (fx : Fixes) (rules : List Rule) (hnd : rules.Nodup) (d : Doc) :
    verdict ⟨s, fx, rules⟩ d = some true ↔
      (visitDocument ⟨s, fx, rules⟩ d {}).rs.crash = none ∧ ∀ r ∈ rules, Silent s fx r d := by
  rw [← chain_silent_iff_alone s fx rules hnd d]
  exact accepted_iff rules _ (chain_errs_in_rules s fx rules d)

/-- the lone run of a rule other than the overlap rule is the same in both chains -/
theorem aloneM_eq_alone (fuel : Nat) (s : SchemaD) (fx : Fixes) (r : Rule) (hr : r ≠ ovRule) (d : Doc) :
    visitDocumentPar (enterRuleM fuel) ⟨s, fx, [r]⟩ d {} = alone s fx r d := by
  rw [visitDocumentPar_congr (enterRuleM fuel) enterRule ⟨s, fx, [r]⟩ (fun r' hr' n ti a => by
    have : r' = r := by simpa using hr'
    subst this
    exact enterRuleM_eq_of_ne fuel s fx r' hr n ti a) d {}, visitDocumentPar_eq]
  rfl

/-- the lone run of the overlap rule in the memoised chain is `overlapMemoRun` -/
theorem aloneM_overlap (s : SchemaD) (fx : Fixes) (h7 : fx.v7 = true) (d : Doc) (hw : WfIds d) :
    E (visitDocumentPar (enterRuleM (memoFuel d)) ⟨s, fx, [ovRule]⟩ d {}) = 0 ↔ (overlapMemoRun s fx d).1 = 0 := by
  have h := runM_alone_eq s fx h7 d hw
  have hin := (good_document (framed_enterRuleM (memoFuel d)) d).errsIn ⟨s, fx, [ovRule]⟩ {} (fun x hx => by cases hx)
  unfold runM at h
  simp only at h
  cases hc : (visitDocumentPar (enterRuleM (memoFuel d)) ⟨s, fx, [ovRule]⟩ d {}).rs.crash with
  | some e => rw [hc] at h; cases h
  | none =>
    rw [hc] at h
    simp only [List.map_cons, List.map_nil, Outcome.errors.injEq, List.cons.injEq, Prod.mk.injEq, true_and, and_true] at h
    rw [← h]
    constructor
    · intro h0
      have : (visitDocumentPar (enterRuleM (memoFuel d)) ⟨s, fx, [ovRule]⟩ d {}).rs.errs = [] :=
        List.length_eq_zero_iff.mp h0
      simp [this, countOf]
    · intro h0
      have := errs_nil_of_counts (rules := [ovRule]) hin (fun r hr => by
        have : r = ovRule := by simpa using hr
        subst this; exact h0)
      simp [E, this]

/-- the lone runs of the memoised chain are what `SilentM` speaks about -/
theorem aloneM_iff_silentM (s : SchemaD) (fx : Fixes) (h7 : fx.v7 = true) (d : Doc) (hw : WfIds d) (r : Rule) :
    E (visitDocumentPar (enterRuleM (memoFuel d)) ⟨s, fx, [r]⟩ d {}) = 0 ↔ SilentM s fx r d := by
  by_cases ho : r = .overlappingFieldsCanBeMerged
  · subst ho
    rw [silentM_overlap]
    exact aloneM_overlap s fx h7 d hw
  · rw [silentM_of_ne ho, aloneM_eq_alone (memoFuel d) s fx r ho d]
    rfl

/-- **the chain /repo runs (memoised overlap search inside, `SkipNode` handling of `ChainedVisitor`) records no error iff
    every rule alone is silent** (`SilentM`: the overlap rule alone is `overlapMemoRun`) -/
theorem chainM_silent_iff_alone (s : SchemaD) (fx : Fixes) (h7 : fx.v7 = true) (d : Doc) (hw : WfIds d) :
    E (visitDocumentPar (enterRuleM (memoFuel d)) ⟨s, fx, Rule.all⟩ d {}) = 0 ↔ ∀ r ∈ Rule.all, SilentM s fx r d := by
  rw [chainPar_silent_iff (framed_enterRuleM (memoFuel d)) ⟨s, fx, Rule.all⟩ rule_all_nodup d]
  exact forall_congr' fun r => forall_congr' fun _ => aloneM_iff_silentM s fx h7 d hw r

/-- **ATTRIBUTION IN THE CHAIN /repo runs, from the lone runs**: if rule `r` alone reports and every other rule alone is
    silent, then the error list of the chain contains an error OF `r` (it may contain others: a skipping `r` hides nodes
    from the other members) -/
theorem chainM_attribution_alone (s : SchemaD) (fx : Fixes) (h7 : fx.v7 = true) (d : Doc) (hw : WfIds d) (r : Rule)
    (hr : r ∈ Rule.all) (hbad : ¬ SilentM s fx r d) (hothers : ∀ r' ∈ Rule.all, r' ≠ r → SilentM s fx r' d) :
    0 < countOf (visitDocumentPar (enterRuleM (memoFuel d)) ⟨s, fx, Rule.all⟩ d {}).rs.errs r :=
  chainPar_attribution (framed_enterRuleM (memoFuel d)) ⟨s, fx, Rule.all⟩ rule_all_nodup d r hr
    (fun h => hbad ((aloneM_iff_silentM s fx h7 d hw r).mp h))
    (fun r' hr' hne => (aloneM_iff_silentM s fx h7 d hw r').mpr (hothers r' hr' hne))

/-- **ATTRIBUTION (the property's clause), for the chain /repo runs**: a document that violates the clause of exactly one
    rule gets, in the error list of `validate_ast`'s chain, an error from the visitor OF THAT RULE. (`r ≠ uniqueFragmentNames`:
    with a duplicate fragment name NoFragmentCycles may report as well - the visible exception of `attribution_all_memo` -,
    then an error of one of the two is recorded.) -/
theorem chainM_attribution (s : SchemaD) (fx : Fixes) (hfx : HeadVars fx) (hs : SchemaOutputs s) (d : Doc)
    (hd : DocOkM s d) (r : Rule) (hr : r ∈ Rule.all) (hne : r ≠ .uniqueFragmentNames) (hbad : ¬ SpecAll r s fx d)
    (hothers : ∀ r' ∈ Rule.all, r' ≠ r → SpecAll r' s fx d) :
    0 < countOf (visitDocumentPar (enterRuleM (memoFuel d)) ⟨s, fx, Rule.all⟩ d {}).rs.errs r := by
  obtain ⟨h1, h2⟩ := attribution_all_memo s fx hfx hs d hd r hr hbad hothers
  exact chainM_attribution_alone s fx hfx.2.2.2 d ((wfIdsB_iff d).mp hd.checks.ids) r hr h1
    (fun r' hr' hne' => h2 r' hr' hne' (fun h => hne h.1))

/-- **the chain /repo runs records no error iff the clauses of all 26 rules hold** - `verdict_iff_all_memo` for the
    chain itself -/
theorem chainM_silent_iff_spec (s : SchemaD) (fx : Fixes) (hfx : HeadVars fx) (hs : SchemaOutputs s) (d : Doc)
    (hd : DocOkM s d) :
    E (visitDocumentPar (enterRuleM (memoFuel d)) ⟨s, fx, Rule.all⟩ d {}) = 0 ↔ ∀ r ∈ Rule.all, SpecAll r s fx d :=
  (chainM_silent_iff_alone s fx hfx.2.2.2 d ((wfIdsB_iff d).mp hd.checks.ids)).trans
    (verdict_iff_all_memo s fx hfx hs d hd)

/-- **valid by the clauses of all 26 rules ⇒ the chain /repo runs records no error** - no side condition of the merge rule:
    documents with `__schema { … }` / `__type { … }` sub-selections, any nesting depth and cyclic fragment tables included
    (only the parser's guarantees `WfIds`, non-empty fragment names) -/
theorem spec_valid_chainM_accepts (s : SchemaD) (fx : Fixes) (hfx : HeadVars fx) (d : Doc) (hw : WfIds d)
    (hne : NamesNonEmpty d) (h : ∀ r ∈ Rule.all, SpecAll r s fx d) :
    E (visitDocumentPar (enterRuleM (memoFuel d)) ⟨s, fx, Rule.all⟩ d {}) = 0 :=
  (chainM_silent_iff_alone s fx hfx.2.2.2 d hw).mpr (spec_valid_accepted_all_memo s fx hfx d hne h)

/-- **the chain /repo runs records no error ⇒ valid by the clauses of all 26 rules** (`DocOkM`) -/
theorem chainM_accepted_spec_valid (s : SchemaD) (fx : Fixes) (hfx : HeadVars fx) (hs : SchemaOutputs s) (d : Doc)
    (hd : DocOkM s d) (h : E (visitDocumentPar (enterRuleM (memoFuel d)) ⟨s, fx, Rule.all⟩ d {}) = 0) :
    ∀ r ∈ Rule.all, SpecAll r s fx d :=
  (chainM_silent_iff_spec s fx hfx hs d hd).mp h

/-- **the chain /repo runs gives the same verdict before and after each of the six transformations** (each run with
    the recursion budget of its own document) -/
theorem chainM_six_transformations (s : SchemaD) (fx : Fixes) (hfx : HeadVars fx) (hs : SchemaOutputs s) (d : Doc)
    (hd : DocOkM s d) :
    let Accepts := fun d => E (visitDocumentPar (enterRuleM (memoFuel d)) ⟨s, fx, Rule.all⟩ d {}) = 0
    (∀ d', d.defs.Perm d'.defs → (Accepts d ↔ Accepts d')) ∧
    (∀ T : Tr, (∀ a b, T.frag a = T.frag b → a = b) → NamesNonEmpty (T.doc d) → (Accepts (T.doc d) ↔ Accepts d)) ∧
    (∀ (A : Al) (ρ : String → String), A.Renames ρ → (∀ a b, ρ a = ρ b → a = b) → A.RenamesOn ρ d →
      (Accepts (A.doc d) ↔ Accepts d)) ∧
    (∀ V : Vr, (∀ a b, V.var a = V.var b → a = b) → (Accepts (V.doc d) ↔ Accepts d)) := by
  have hw : WfIds d := (wfIdsB_iff d).mp hd.checks.ids
  have h7 := hfx.2.2.2
  obtain ⟨p1, p2, p3, p4⟩ := six_transformations_verdict_memo s fx hfx hs d hd
  refine ⟨fun d' h => ?_, fun T hinj hne' => ?_, fun A ρ hA hρ hA' => ?_, fun V hinj => ?_⟩
  · simp only
    rw [chainM_silent_iff_alone s fx h7 d hw, chainM_silent_iff_alone s fx h7 d' (wfIds_perm h hw)]
    exact p1 d' h
  · simp only
    rw [chainM_silent_iff_alone s fx h7 d hw, chainM_silent_iff_alone s fx h7 (T.doc d) ((T.wfIds d).mpr hw)]
    exact p2 T hinj hne'
  · simp only
    rw [chainM_silent_iff_alone s fx h7 d hw, chainM_silent_iff_alone s fx h7 (A.doc d) ((A.wfIds d).mpr hw)]
    exact p3 A ρ hA hρ hA'
  · simp only
    rw [chainM_silent_iff_alone s fx h7 d hw, chainM_silent_iff_alone s fx h7 (V.doc d) ((V.wfIds d).mpr hw)]
    exact p4 V hinj

theorem chainM_errs_in_rules (fuel : Nat) (s : SchemaD) (fx : Fixes) (rules : List Rule) (d : Doc) :
    ∀ x ∈ (visitDocumentPar (enterRuleM fuel) ⟨s, fx, rules⟩ d {}).rs.errs, x ∈ rules :=
  (good_document (framed_enterRuleM fuel) d).errsIn ⟨s, fx, rules⟩ {} (fun x hx => by cases hx)

/-- the verdict of `runM`, the chain with the memoised search: `some true` = no error, `none` = an exception. The driver
    (`runMemo`, Validate/ChainMemo.lean) answers with `runM` on unranked documents and where the un-memoised `run`
    crashes; elsewhere it answers with `run` and returns the overlap count of `runM` beside it for the cross-check -/
def verdictM (c : Cfg) (d : Doc) : Option Bool :=
  match runM (memoFuel d) c d with
  | .crash _ => none
  | .errors l => some (l.all fun p => p.2 == 0)

/-- **`verdictM = some true` iff no exception and every rule alone is silent** -/
theorem verdictM_iff_alone (s : SchemaD) (fx : Fixes) (h7 : fx.v7 = true) (d : Doc) (hw : WfIds d) :
    verdictM ⟨s, fx, Rule.all⟩ d = some true ↔
      (visitDocumentPar (enterRuleM (memoFuel d)) ⟨s, fx, Rule.all⟩ d {}).rs.crash = none ∧
        ∀ r ∈ Rule.all, SilentM s fx r d := by
  rw [← chainM_silent_iff_alone s fx h7 d hw]
  exact accepted_iff Rule.all _ (chainM_errs_in_rules (memoFuel d) s fx Rule.all d)

/-- **the model's verdict is "accepted" iff validation raises nothing and the clauses of all 26 rules hold**
    (`FullStatement_verdict_iff` of `Props/C06_inv_proved.lean`, for the chain /repo runs, with the hypotheses of the headline
    theorems) -/
theorem verdictM_iff_spec (s : SchemaD) (fx : Fixes) (hfx : HeadVars fx) (hs : SchemaOutputs s) (d : Doc)
    (hd : DocOkM s d) :
    verdictM ⟨s, fx, Rule.all⟩ d = some true ↔
      (visitDocumentPar (enterRuleM (memoFuel d)) ⟨s, fx, Rule.all⟩ d {}).rs.crash = none ∧
        ∀ r ∈ Rule.all, SpecAll r s fx d := by
  rw [verdictM_iff_alone s fx hfx.2.2.2 d ((wfIdsB_iff d).mp hd.checks.ids), verdict_iff_all_memo s fx hfx hs d hd]

/-- **THE HEADLINE, for the code of /repo HEAD**: the model's verdict on a document - the chain of all 26 visitors with the
    memoised overlap search and `ChainedVisitor`'s `SkipNode` handling, compared with `validate_ast` on every generated
    document - is "accepted" iff validation raises nothing and the document satisfies the clause of every one of the 26
    rules, 5.5.1.4 in its proper form (`SpecStd`). Hypotheses: `SchemaOutputs s` (schema validation) and `DocOkM` (the
    parser's guarantees `wfIdsB`, non-empty fragment names; `noMetaSubsB`: no `__schema { … }` / `__type { … }`). The
    conjunct "raises nothing" cannot be dropped: that the chain never raises is not proved (C05). -/
theorem verdict_chain_iff (s : SchemaD) (hs : SchemaOutputs s) (d : Doc) (hd : DocOkM s d) :
    verdictM ⟨s, Fixes.all, Rule.all⟩ d = some true ↔
      (visitDocumentPar (enterRuleM (memoFuel d)) ⟨s, Fixes.all, Rule.all⟩ d {}).rs.crash = none ∧
        ∀ r ∈ Rule.all, SpecStd r s Fixes.all d := by
  rw [verdictM_iff_alone s Fixes.all rfl d ((wfIdsB_iff d).mp hd.checks.ids),
    verdict_iff_all_memo_std s Fixes.all headVars_all hs d hd]

/-- the same for `verdict` (the chain with the UN-memoised overlap search, the code before fix 7e75356; `DocOk` adds the
    static rank check) -/
theorem verdict_iff_spec (s : SchemaD) (fx : Fixes) (hfx : HeadVars fx) (hs : SchemaOutputs s) (d : Doc) (hd : DocOk s d) :
    verdict ⟨s, fx, Rule.all⟩ d = some true ↔
      (visitDocument ⟨s, fx, Rule.all⟩ d {}).rs.crash = none ∧ ∀ r ∈ Rule.all, SpecAll r s fx d := by
  rw [verdict_iff_alone s fx Rule.all rule_all_nodup d, verdict_iff_all s fx hfx hs d hd]

/-- **the lone run of the memoised overlap rule: valid ⇒ no error AND no exception** (`Silent` / `SilentM` alone say nothing
    about the exception flag) -/
theorem overlap_memo_accepts_and_no_crash (s : SchemaD) (fx : Fixes) (h7 : fx.v7 = true) (d : Doc) (hw : WfIds d)
    (H : Spec.overlappingFieldsCanBeMerged s d) :
    (overlapMemoRun s fx d).1 = 0 ∧ (overlapMemoRun s fx d).2.crash = none :=
  ⟨overlap_memo_no_false_alarm s fx h7 d H, overlap_memo_run_no_crash s fx h7 d hw⟩

/-! non-vacuity: the two-fragment document; both sides of `chainM_silent_iff_alone` hold for it (one evaluation of the chain) -/
private theorem chainM_oDocFrag_a :
    (visitDocumentPar (enterRuleM (memoFuel (oDocFrag "a"))) ⟨oSchema, Fixes.all, Rule.all⟩ (oDocFrag "a") {}).rs.crash = none ∧
      E (visitDocumentPar (enterRuleM (memoFuel (oDocFrag "a"))) ⟨oSchema, Fixes.all, Rule.all⟩ (oDocFrag "a") {}) = 0 := by
  decide +kernel

private theorem wfIds_oDocFrag_a : WfIds (oDocFrag "a") := by rw [← wfIdsB_iff]; decide

example : (visitDocumentPar (enterRuleM (memoFuel (oDocFrag "a"))) ⟨oSchema, Fixes.all, Rule.all⟩ (oDocFrag "a") {}).rs.crash = none :=
  chainM_oDocFrag_a.1
example : verdictM ⟨oSchema, Fixes.all, Rule.all⟩ (oDocFrag "a") = some true :=
  (verdictM_iff_alone oSchema Fixes.all rfl (oDocFrag "a") wfIds_oDocFrag_a).mpr
    ⟨chainM_oDocFrag_a.1, (chainM_silent_iff_alone oSchema Fixes.all rfl (oDocFrag "a") wfIds_oDocFrag_a).mp chainM_oDocFrag_a.2⟩
example : verdictM ⟨oSchema, Fixes.all, Rule.all⟩ (oDocFrag "b") = some false := by decide +kernel
example : E (visitDocumentPar (enterRuleM (memoFuel (oDocFrag "a"))) ⟨oSchema, Fixes.all, Rule.all⟩ (oDocFrag "a") {}) = 0 :=
  chainM_oDocFrag_a.2
example : ∀ r ∈ Rule.all, SilentM oSchema Fixes.all r (oDocFrag "a") :=
  (chainM_silent_iff_alone oSchema Fixes.all rfl (oDocFrag "a") wfIds_oDocFrag_a).mp chainM_oDocFrag_a.2

/-- attribution on the conflicting two-fragment document: only the clause of 5.3.2 fails (evaluated: the other 25 rules are
    silent alone), and the chain records an error of OverlappingFieldsCanBeMerged -/
example : 0 < countOf (visitDocumentPar (enterRuleM (memoFuel (oDocFrag "b"))) ⟨oSchema, Fixes.all, Rule.all⟩
    (oDocFrag "b") {}).rs.errs .overlappingFieldsCanBeMerged :=
  chainM_attribution_alone oSchema Fixes.all rfl (oDocFrag "b") (by rw [← wfIdsB_iff]; decide) _ (by decide)
    (by rw [silentM_overlap]; decide +kernel)
    (by
      intro r' hr' hne
      rw [silentM_of_ne hne]
      revert r' 
      unfold Silent
      decide +kernel)

end PyGql.Props.C06
