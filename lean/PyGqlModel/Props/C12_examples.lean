/-
  C12 — `print_build_roundtrip`: ordinary schemas satisfy the decidable well-formedness predicate (kernel-evaluated),
  and the H2 shape is excluded for a reason (machine-checked refutation witness).

  Property-level: `print_build_roundtrip_needs_NoH2` (the NoH2 clause of `printBuildWF` is necessary) and
  `custom_structured_roundtrip`.  The rest are facts about the example schemas (`*_wf`, `*_needs_block`, `*_roundtrip`) and
  `jEq_refl` with its two companions.
-/
import PyGqlModel.Props.C12_print_build

namespace PyGql.Props.C12
open PyGql PyGql.Sdl PyGql.SdlPrint

def fl (r : String) : J := .obj [("$float", .str r)]

def shop : SchemaD :=
  { types := [
      { kind := .enum, name := "Color", desc := some "A colour",
        values := [{ name := "RED", value := .str "RED" }, { name := "GREEN", value := .str "GREEN", deprecated := some "old", desc := some "not red" }] },
      { kind := .input, name := "Filter",
        inputFields := [{ name := "color", type := .named "Color", hasDefault := true, default := .str "RED" },
                        { name := "tags", type := .list (.nonNull (.named "String")), hasDefault := true, default := .arr [.str "a"] },
                        { name := "nested", type := .named "Filter" },
                        { name := "limit", type := .named "Int", hasDefault := true, default := .num 10, desc := some "how many" }] },
      { kind := .interface, name := "Node", fields := [{ name := "id", type := .nonNull (.named "ID") }] },
      { kind := .object, name := "Item", interfaces := ["Node"],
        fields := [{ name := "id", type := .nonNull (.named "ID") },
                   { name := "name", type := .named "String", deprecated := some "No longer supported",
                     args := [{ name := "upper", type := .named "Boolean", hasDefault := true, default := .bool false }] }] },
      { kind := .union, name := "Thing", members := ["Item"] },
      { kind := .scalar, name := "Date", desc := some "A date" },
      { kind := .object, name := "Query",
        fields := [{ name := "items", type := .nonNull (.list (.nonNull (.named "Item"))),
                     args := [{ name := "filter", type := .named "Filter", hasDefault := true,
                                default := .obj [("color", .str "GREEN"), ("tags", .arr []), ("limit", .num 5)] },
                              { name := "ratio", type := .named "Float", hasDefault := true, default := fl "1.5" },
                              { name := "ids", type := .list (.named "ID"), hasDefault := true, default := .arr [.str "7", .str "x", .null] }] },
                   { name := "thing", type := .named "Thing" }] },
      { kind := .object, name := "Mutation",
        fields := [{ name := "touch", type := .named "Item", args := [{ name := "at", type := .named "Date", hasDefault := true, default := .str "2020" }] }] }],
    directives := [{ name := "tag", locations := ["FIELD"], desc := some "tagging",
                     args := [{ name := "name", type := .named "String", hasDefault := true, default := .str "x" }] }],
    query := some "Query", mutation := some "Mutation" }

/-- an ordinary schema — all six kinds, defaults of every input kind (enum, list, Int, Boolean, Float, ID, custom
    scalar, a nested input object that omits only a non-defaulted nullable field), descriptions, deprecations, a
    directive definition, conventional roots (no `schema` block) — is well-formed … -/
theorem shop_wf : printBuildWF shop = true := by decide +kernel

/-- … so printing it and building the printed document gives it back. -/
theorem shop_roundtrip : build (schemaToDoc shop) = .ok shop := print_build_roundtrip shop shop_wf

/-- the same with root types whose names differ from the conventional ones only by case: the `schema { … }` block
    is written and read back -/
def shopLower : SchemaD :=
  { types := [{ kind := .object, name := "query", fields := [{ name := "a", type := .named "Int" }] },
              { kind := .object, name := "Query", fields := [{ name := "b", type := .named "query" }] },
              { kind := .object, name := "MUTATION", fields := [{ name := "m", type := .named "Query" }] }],
    query := some "query", mutation := some "MUTATION" }

theorem shopLower_wf : printBuildWF shopLower = true := by decide +kernel
theorem shopLower_needs_block : needsSchemaBlock shopLower = true := by decide +kernel
theorem shopLower_roundtrip : build (schemaToDoc shopLower) = .ok shopLower := print_build_roundtrip shopLower shopLower_wf

/-- finding H9 (fixed in /repo 6d6998f): a type NAMED `Mutation` that is not the mutation root. The schema is
    well-formed, the printer writes the `schema` block, and the round trip holds — no hypothesis excludes the shape. -/
def h9Schema : SchemaD :=
  { types := [{ kind := .object, name := "Query", fields := [{ name := "a", type := .named "Int" }] },
              { kind := .object, name := "Mutation", fields := [{ name := "m", type := .named "Int" }] },
              { kind := .scalar, name := "Subscription" }],
    query := some "Query" }

theorem h9_wf : printBuildWF h9Schema = true := by decide +kernel
theorem h9_needs_block : needsSchemaBlock h9Schema = true := by decide +kernel
theorem h9_roundtrip : build (schemaToDoc h9Schema) = .ok h9Schema := print_build_roundtrip h9Schema h9_wf

/-! ### finding H2: the exclusion `skippable` is needed -/

mutual
theorem jEq_refl : ∀ v : J, jEq v v = true
  | .null => rfl
  | .bool b => by simp [jEq]
  | .num n => by simp [jEq]
  | .str x => by simp [jEq]
  | .arr a => by simp [jEq, jEqList_refl a]
  | .obj o => by simp [jEq, jEqObj_refl o]
theorem jEqList_refl : ∀ l : List J, jEqList l l = true
  | [] => rfl
  | x :: xs => by simp [jEqList, jEq_refl x, jEqList_refl xs]
theorem jEqObj_refl : ∀ l : List (String × J), jEqObj l l = true
  | [] => rfl
  | (k, x) :: xs => by simp [jEqObj, jEq_refl x, jEqObj_refl xs]
end

/-- code-built `f(i: I = {"e": "B"})` where `I` has a defaulted field `s`: the default OMITS the defaulted field -/
def h2Schema : SchemaD :=
  { types := [{ kind := .enum, name := "E", values := [{ name := "A", value := .str "A" }, { name := "B", value := .str "B" }] },
              { kind := .input, name := "I",
                inputFields := [{ name := "e", type := .named "E" },
                                { name := "s", type := .named "String", hasDefault := true, default := .str "dflt" }] },
              { kind := .object, name := "Query",
                fields := [{ name := "f", type := .named "Int",
                             args := [{ name := "i", type := .named "I", hasDefault := true, default := .obj [("e", .str "B")] }] }] }] }

/-- the default value of `Query.f(i:)` -/
def h2Default (s : SchemaD) : J :=
  match s.types.find? (·.name == "Query") with
  | some t => (match t.fields with | f :: _ => (match f.args with | a :: _ => a.default | [] => .null) | [] => .null)
  | none => .null

/-- `h2Schema` violates only the NoH2 clause … -/
theorem h2_not_wf : printBuildWF h2Schema = false := by decide +kernel

/-- … and the round trip really fails on it: the printed document builds, but to a DIFFERENT schema (the default is
    read back as `{e: "B", s: "dflt"}`) — finding H2, replay `H2:code-default-omits-defaulted-field`. -/
theorem print_build_roundtrip_needs_NoH2 : ∃ s', build (schemaToDoc h2Schema) = .ok s' ∧ s' ≠ h2Schema := by
  have hb : (match build (schemaToDoc h2Schema) with
             | .ok s' => !(jEq (h2Default s') (h2Default h2Schema)) | .error _ => false) = true := by decide +kernel
  cases hr : build (schemaToDoc h2Schema) with
  | error e => rw [hr] at hb; simp at hb
  | ok s' =>
    rw [hr] at hb
    refine ⟨s', rfl, ?_⟩
    intro e
    simp only [e, jEq_refl] at hb
    simp at hb

/-! ### structured values of a JSON-like custom scalar (fixes I7 + C11-1) -/

/-- `{a: "1", b: [true, "x", null, "FOO"], c: {}}` as the default of a custom scalar -/
def jsonValue : J := .obj [("a", .str "1"), ("b", .arr [.bool true, .str "x", .null, .str "FOO"]), ("c", .obj [])]

/-- the printer writes it as an object literal (`{a: 1, b: [true, "x", null, "FOO"], c: {}}`) and the transparent
    scalar reads that literal back as the same value -/
theorem custom_structured_roundtrip :
    (match customLit jsonValue with | some lit => jEq (untypedLit lit) jsonValue | none => false) = true := by decide +kernel

/-! ### schemas for the text level (`Props/C12_text.lean`) -/

/-- a schema without descriptions and default values: object with arguments and `implements`, interface, union, enum with a
    deprecated value, input object, directive definition, non-conventional roots (the `schema` block is printed), already in
    printing order -/
def plainShop : SchemaD :=
  { types := [
      { kind := .enum, name := "Color", values := [{ name := "RED", value := .str "RED" }, { name := "GREEN", value := .str "GREEN", deprecated := some "old" }] },
      { kind := .input, name := "Filter", inputFields := [{ name := "color", type := .named "Color" }, { name := "tags", type := .list (.nonNull (.named "String")) }] },
      { kind := .object, name := "Item", interfaces := ["Node"],
        fields := [{ name := "id", type := .nonNull (.named "ID") },
                   { name := "name", type := .named "String", deprecated := some "No longer supported", args := [{ name := "upper", type := .named "Boolean" }] }] },
      { kind := .interface, name := "Node", fields := [{ name := "id", type := .nonNull (.named "ID") }] },
      { kind := .object, name := "Root", fields := [{ name := "items", type := .nonNull (.list (.nonNull (.named "Item"))), args := [{ name := "filter", type := .named "Filter" }] }] },
      { kind := .union, name := "Thing", members := ["Item"] }],
    directives := [{ name := "tag", locations := ["FIELD", "QUERY"], args := [{ name := "name", type := .named "String" }] }],
    query := some "Root" }

/-- descriptions in the three layouts of `print_description` (one line; several lines; a first line that starts with white
    space), a description that ends with a quote, described arguments (one argument per line), tab indentation -/
def descShop : SchemaD :=
  { types := [
      { kind := .object, name := "Query", desc := some "The root.\n\n  indented line\nlast line",
        fields := [{ name := "a", type := .named "Int", desc := some "  leads with blanks",
                     args := [{ name := "x", type := .named "Int", desc := some "the \"x\"", hasDefault := true, default := .num 3 },
                              { name := "y", type := .named "String" }] },
                   { name := "b", type := .named "String", desc := some "say \"\"\"hi\"\"\" twice\nover" }] }],
    directives := [{ name := "tag", locations := ["FIELD"], args := [{ name := "n", type := .named "Int", desc := some "how many" }] }],
    query := some "Query" }

end PyGql.Props.C12
