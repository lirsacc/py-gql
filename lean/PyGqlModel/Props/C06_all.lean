/-
  C06 - property theorems: all proved rules together (`ProvedAll` = `Proved` of C06_inv_proved.lean, the
  node-by-node and name rules, + the four type-dependent rules of C06_typed.lean): uniform equivalence,
  verdict, attribution and invariance under reordering of definitions - each about the rules run ALONE (the chain:
  `Props/C06_chain.lean`). (Invariance under `Tr` - selections, arguments, fragment names -: `Props/C06_inv*.lean`, all 26
  rules in `Props/C06_inv_tr_all26.lean`.)
-/
import PyGqlModel.Props.C06_inv_proved
import PyGqlModel.Props.C06_typed
import PyGqlModel.Props.C06_skip
import PyGqlModel.Props.C06_input
import PyGqlModel.Props.C06_ctx
import PyGqlModel.Props.C06_spreads
import PyGqlModel.Props.C06_vars
import PyGqlModel.Props.C06_frags_collected
import PyGqlModel.Props.C06_cycles
import PyGqlModel.Props.C06_values
import PyGqlModel.Props.C06_overlap
import PyGqlModel.Props.C06_overlap_full
namespace PyGql.Props.C06
open PyGql PyGql.Validate PyGql.Validate.Spec

def ProvedTyped : List Rule :=
  [.fieldsOnCorrectType, .scalarLeafs, .knownArgumentNames, .providedRequiredArguments, .fragmentsOnCompositeTypes,
   .uniqueInputFieldNames, .knownDirectives, .noUnusedFragments]
/-- rules whose specification predicate depends on the ORDER of definitions when fragment names are not unique
    (the last definition of a name wins) -/
def ProvedOrder : List Rule := [.possibleFragmentSpreads]
/-- the variable rules (Props/C06_vars.lean): proved for the code with the fix commits of V3 / V4 -/
def ProvedVars : List Rule :=
  [.uniqueVariableNames, .noUndefinedVariables, .noUnusedVariables, .variablesInAllowedPosition]
def ProvedPermDefs : List Rule := Proved ++ ProvedTyped
/-- proved for documents with unique, non-empty fragment names -/
def ProvedCyc : List Rule := [.noFragmentCycles]
/-- Props/C06_values.lean (the clause the code implements; V8 is the gap to 5.6.1) -/
def ProvedValues : List Rule := [.valuesOfCorrectType]
/-- Props/C06_overlap_full.lean: under `OverlapHyps` -/
def ProvedOverlap : List Rule := [.overlappingFieldsCanBeMerged]
def ProvedAll : List Rule := ProvedPermDefs ++ ProvedOrder ++ ProvedVars ++ ProvedCyc ++ ProvedValues ++ ProvedOverlap

/-- side conditions of the soundness half of 5.3.2: the routes to the parent type of a selection set agree, no
    fragment is named "", the `field_map is fragment_field_map` shortcut is never taken, and the search does not raise
    (the model's fuel = Python's `RecursionError`). They can fail only for documents with fragment CYCLES (reported by
    `NoFragmentCyclesChecker`) or duplicate / unknown fragment definitions; they are not derived here from the other
    clauses, hence the `_partial` suffix of the theorems that take them. (They ARE derived, for documents passing the
    driver's static checks, in `Props/C06_overlap_hyps_{side,parents,ranks}.lean`; the suffix-free statements are in
    `Props/C06_head.lean`: `verdict_iff_all`, `accepted_spec_valid_all`, `attribution_all`.) -/
def OverlapHyps (s : SchemaD) (fx : Fixes) (d : Doc) : Prop := Spec.ParentsAgree s d ∧ OverlapSide s d ∧ NoCrash s fx d

/-- the variants of the validator the uniform theorems speak about: the variable collector of /repo HEAD
    (fix commit 160f78c). `Fixes.all` satisfies it; the harness checks on every run that the tree under test does -/
def HeadVars (fx : Fixes) : Prop := fx.v3 = true ∧ fx.v4 = true ∧ fx.v11 = true ∧ fx.v7 = true

theorem headVars_all : HeadVars Fixes.all := ⟨rfl, rfl, rfl, rfl⟩

/-- what the parser guarantees and no rule checks: fragment names are not empty -/
def NamesNonEmpty (d : Doc) : Prop := ∀ f ∈ Spec.fragNames d, f ≠ ""

def SpecAll (r : Rule) (s : SchemaD) (fx : Fixes) (d : Doc) : Prop :=
  match r with
  | .fieldsOnCorrectType => Spec.fieldsOnCorrectType s d
  | .scalarLeafs => Spec.scalarLeafs s d
  | .knownArgumentNames => Spec.knownArgumentNames s d
  | .providedRequiredArguments => Spec.providedRequiredArguments s d
  | .fragmentsOnCompositeTypes => Spec.fragmentsOnCompositeTypes s d
  | .uniqueInputFieldNames => Spec.uniqueInputFieldNames d
  | .knownDirectives => Spec.knownDirectives s d
  | .noUnusedFragments => Spec.everyFragmentSpreadSomewhere d
  | .possibleFragmentSpreads => Spec.possibleFragmentSpreads s fx d
  | .uniqueVariableNames => Spec.uniqueVariableNames d
  | .noUndefinedVariables => Spec.noUndefinedVariables d
  | .noUnusedVariables => Spec.noUnusedVariables d
  | .variablesInAllowedPosition => Spec.variablesInAllowedPosition s d
  | .noFragmentCycles => Spec.noFragmentCycles d
  | .valuesOfCorrectType => Spec.valuesOfCorrectType s fx d
  | .overlappingFieldsCanBeMerged => Spec.overlappingFieldsCanBeMerged s d
  | r => SpecOf r s d

/-- the rules of `ProvedPermDefs` need no hypothesis on `fx` -/
theorem rule_iff_permdefs (s : SchemaD) (fx : Fixes) (d : Doc) (r : Rule) (hr : r ∈ ProvedPermDefs) :
    Silent s fx r d ↔ SpecAll r s fx d := by
  simp only [ProvedPermDefs, List.mem_append] at hr
  rcases hr with hr | hr
  · have := rule_iff s fx d r hr
    simp only [Proved, List.mem_cons, List.not_mem_nil, or_false] at hr
    rcases hr with rfl | rfl | rfl | rfl | rfl | rfl | rfl | rfl | rfl | rfl <;> exact this
  · simp only [ProvedTyped, List.mem_cons, List.not_mem_nil, or_false] at hr
    rcases hr with rfl | rfl | rfl | rfl | rfl | rfl | rfl | rfl
    · exact rule_fields_on_correct_type_iff s fx d
    · exact rule_scalar_leafs_iff s fx d
    · exact rule_known_argument_names_iff s fx d
    · exact rule_provided_required_arguments_iff s fx d
    · exact rule_fragments_on_composite_types_iff s fx d
    · exact rule_unique_input_field_names_iff s fx d
    · exact rule_known_directives_iff s fx d
    · exact rule_no_unused_fragments_iff_implemented s fx d

/-- the 24 rules whose theorem needs neither unique fragment names nor a side condition of the merge search -/
theorem rule_iff_names_free (s : SchemaD) (fx : Fixes) (hfx : HeadVars fx) (d : Doc) (r : Rule) (hr : r ∈ ProvedAll)
    (hc : r ≠ .noFragmentCycles) (ho : r ≠ .overlappingFieldsCanBeMerged) : Silent s fx r d ↔ SpecAll r s fx d := by
  simp only [ProvedAll, List.mem_append] at hr
  rcases hr with ((((hr | hr) | hr) | hr) | hr) | hr
  · exact rule_iff_permdefs s fx d r hr
  · simp only [ProvedOrder, List.mem_cons, List.not_mem_nil, or_false] at hr
    subst hr
    exact rule_possible_fragment_spreads_iff s fx d
  · simp only [ProvedVars, List.mem_cons, List.not_mem_nil, or_false] at hr
    rcases hr with rfl | rfl | rfl | rfl
    · exact rule_unique_variable_names_iff s fx d
    · exact rule_no_undefined_variables_iff s fx hfx.2.1 d
    · exact rule_no_unused_variables_iff s fx hfx.2.1 d
    · exact rule_variables_in_allowed_position_iff s fx hfx.1 hfx.2.1 d
  · simp only [ProvedCyc, List.mem_cons, List.not_mem_nil, or_false] at hr
    exact absurd hr hc
  · simp only [ProvedValues, List.mem_cons, List.not_mem_nil, or_false] at hr
    subst hr
    exact rule_values_of_correct_type_iff s fx d
  · simp only [ProvedOverlap, List.mem_cons, List.not_mem_nil, or_false] at hr
    exact absurd hr ho

/-- the 25 rules other than `OverlappingFieldsCanBeMerged`: no side condition of the merge search -/
theorem rule_iff_nonoverlap (s : SchemaD) (fx : Fixes) (hfx : HeadVars fx) (d : Doc) (hne : NamesNonEmpty d)
    (hnd : (Spec.fragNames d).Nodup) (r : Rule) (hr : r ∈ ProvedAll) (ho : r ≠ .overlappingFieldsCanBeMerged) :
    Silent s fx r d ↔ SpecAll r s fx d := by
  by_cases hc : r = .noFragmentCycles
  · subst hc
    exact rule_no_fragment_cycles_iff s fx hfx.2.2.1 d hnd hne
  · exact rule_iff_names_free s fx hfx d r hr hc ho

theorem rule_iff_all (s : SchemaD) (fx : Fixes) (hfx : HeadVars fx) (d : Doc) (hne : NamesNonEmpty d)
    (hov : OverlapHyps s fx d) (hnd : (Spec.fragNames d).Nodup) (r : Rule) (hr : r ∈ ProvedAll) :
    Silent s fx r d ↔ SpecAll r s fx d := by
  by_cases ho : r = .overlappingFieldsCanBeMerged
  · subst ho
    exact rule_overlapping_fields_can_be_merged_iff_partial s fx hfx.2.2.2 d hov.1 hov.2.1 hov.2.2
  · exact rule_iff_nonoverlap s fx hfx d hne hnd r hr ho

/-- **verdict_iff** for the conjunction of the 26 rules, GENERAL FORM (`_partial`: the side conditions of the overlap rule
    `OverlapHyps` are a hypothesis; discharged in `verdict_iff_all` / `verdict_iff_all_memo`) (about the rules run ALONE, see `Silent`; for the chain `validate_ast` runs: `Props/C06_chain.lean`: `chainM_silent_iff_spec`, `verdictM_iff_spec`) -/
theorem verdict_iff_all_partial (s : SchemaD) (fx : Fixes) (hfx : HeadVars fx) (d : Doc) (hne : NamesNonEmpty d)
    (hov : OverlapHyps s fx d) :
    (∀ r ∈ ProvedAll, Silent s fx r d) ↔ (∀ r ∈ ProvedAll, SpecAll r s fx d) := by
  have huf : Rule.uniqueFragmentNames ∈ ProvedAll := by decide
  constructor
  · intro h
    have hnd : (Spec.fragNames d).Nodup := (rule_unique_fragment_names_iff s fx d).mp (h _ huf)
    exact fun r hr => (rule_iff_all s fx hfx d hne hov hnd r hr).mp (h r hr)
  · intro h
    have hnd : (Spec.fragNames d).Nodup := h _ huf
    exact fun r hr => (rule_iff_all s fx hfx d hne hov hnd r hr).mpr (h r hr)

theorem provedAll_complete : ∀ r ∈ Rule.all, r ∈ ProvedAll := by decide +kernel
theorem provedAll_sub : ∀ r ∈ ProvedAll, r ∈ Rule.all := by decide +kernel

/-- **valid by the specification clauses ⇒ accepted, for ALL 26 rules, without side conditions** (about the rules run ALONE, see `Silent`; for the chain `validate_ast` runs: `Props/C06_chain.lean`: `spec_valid_chainM_accepts`; here the overlap rule is the UN-memoised search, which may have exhausted its fuel (`NoCrash` is not concluded)): if the clause of
    every rule holds, NO rule visitor reports (only `HeadVars` = the code of /repo HEAD, and non-empty fragment names) -/
theorem spec_valid_accepted_all (s : SchemaD) (fx : Fixes) (hfx : HeadVars fx) (d : Doc) (hne : NamesNonEmpty d)
    (h : ∀ r ∈ Rule.all, SpecAll r s fx d) : ∀ r ∈ Rule.all, Silent s fx r d := by
  have hnd : (Spec.fragNames d).Nodup := h .uniqueFragmentNames (by decide)
  intro r hr
  by_cases ho : r = .overlappingFieldsCanBeMerged
  · subst ho
    exact rule_overlapping_fields_can_be_merged_no_false_alarm_partial s fx hfx.2.2.2 d (h _ hr)
  · -- the other 25 rules need no overlap side condition
    exact (rule_iff_nonoverlap s fx hfx d hne hnd r (provedAll_complete r hr) ho).mpr (h r hr)

/-- **accepted ⇒ valid by all 26 clauses**, under the side conditions of the overlap rule (`_partial`: `OverlapHyps` is a
    hypothesis) (about the rules run ALONE, see `Silent`; for the chain `validate_ast` runs: `Props/C06_chain.lean`: `chainM_accepted_spec_valid`) -/
theorem accepted_spec_valid_all_partial (s : SchemaD) (fx : Fixes) (hfx : HeadVars fx) (d : Doc) (hne : NamesNonEmpty d)
    (hov : OverlapHyps s fx d) (h : ∀ r ∈ Rule.all, Silent s fx r d) : ∀ r ∈ Rule.all, SpecAll r s fx d := fun r hr =>
  (verdict_iff_all_partial s fx hfx d hne hov).mp (fun r' hr' => h r' (provedAll_sub r' hr')) r (provedAll_complete r hr)

/-- **attribution** over the 26 rules (on the rules run ALONE; see `attribution_partial`; `_partial`: `OverlapHyps` is a
    hypothesis; for the chain, where a skipping member hides nodes from the others: `chainM_attribution`,
    `Props/C06_chain.lean`) -/
theorem attribution_all_partial (s : SchemaD) (fx : Fixes) (hfx : HeadVars fx) (d : Doc) (hne : NamesNonEmpty d)
    (hov : OverlapHyps s fx d) (hnd : (Spec.fragNames d).Nodup) (r : Rule) (hr : r ∈ ProvedAll)
    (hbad : ¬ SpecAll r s fx d) (hothers : ∀ r' ∈ ProvedAll, r' ≠ r → SpecAll r' s fx d) :
    0 < E (alone s fx r d) ∧ ∀ r' ∈ ProvedAll, r' ≠ r → E (alone s fx r' d) = 0 := by
  refine ⟨Nat.pos_of_ne_zero fun h0 => hbad ((rule_iff_all s fx hfx d hne hov hnd r hr).mp h0), fun r' hr' hdiff => ?_⟩
  exact (rule_iff_all s fx hfx d hne hov hnd r' hr').mpr (hothers r' hr' hdiff)

theorem typedNodes_perm (s : SchemaD) {d d' : Doc} (h : d.defs.Perm d'.defs) (p : Node × View) :
    p ∈ typedNodes s d ↔ p ∈ typedNodes s d' := (h.flatMap_right _).mem_iff

/-- **perm_definitions** for 17 of the 26 rules (not `SingleFieldSubscriptions`, whose clause reads the fragment table; `PossibleFragmentSpreads` reads the type condition of the LAST
    definition of a fragment name, so with duplicate fragment names its predicate depends on the order). The other
    rules, under the uniqueness hypotheses they need: Props/C06_inv_cycles.lean, C06_inv_tr_vars.lean, C06_inv_permdefs.lean
    (`perm_definitions_all25_partial`: 25 of 26). (about the rules run ALONE, see `Silent`; for the verdict of the chain `validate_ast` runs: `Props/C06_chain.lean: chainM_six_transformations`) -/
theorem perm_definitions_all_partial (s : SchemaD) (fx : Fixes) {d d' : Doc} (h : d.defs.Perm d'.defs) (r : Rule)
    (hr : r ∈ ProvedPermDefs) (hns : r ≠ .singleFieldSubscriptions) : Silent s fx r d ↔ Silent s fx r d' := by
  rw [rule_iff_permdefs s fx d r hr, rule_iff_permdefs s fx d' r hr]
  simp only [ProvedPermDefs, List.mem_append] at hr
  rcases hr with hr | hr
  · have := spec_perm_definitions s h r hr hns
    simp only [Proved, List.mem_cons, List.not_mem_nil, or_false] at hr
    rcases hr with rfl | rfl | rfl | rfl | rfl | rfl | rfl | rfl | rfl | rfl <;> exact this
  · have hm := typedNodes_perm s h
    simp only [ProvedTyped, List.mem_cons, List.not_mem_nil, or_false] at hr
    have hnodes : ∀ (P : Node → Prop), (∀ d, P (.document d)) → ((∀ n ∈ nodes d, P n) ↔ (∀ n ∈ nodes d', P n)) := by
      intro P hP
      simp only [nodes, List.mem_cons, List.mem_flatMap, forall_eq_or_imp]
      constructor
      · rintro ⟨_, H⟩; exact ⟨hP _, fun n ⟨x, hx, hm⟩ => H n ⟨x, h.mem_iff.mpr hx, hm⟩⟩
      · rintro ⟨_, H⟩; exact ⟨hP _, fun n ⟨x, hx, hm⟩ => H n ⟨x, h.mem_iff.mp hx, hm⟩⟩
    have hg : ∀ {X : Type} (down : Node → X → X) (x0 : X) (p : Node × X), p ∈ gnDoc down x0 d ↔ p ∈ gnDoc down x0 d' :=
      fun down x0 p => (h.flatMap_right _).mem_iff
    rcases hr with rfl | rfl | rfl | rfl | rfl | rfl | rfl | rfl
    · simp only [SpecAll, Spec.fieldsOnCorrectType, hm]
    · simp only [SpecAll, Spec.scalarLeafs, hm]
    · simp only [SpecAll, Spec.knownArgumentNames, hm]
    · simp only [SpecAll, Spec.providedRequiredArguments, hm]
    · simp only [SpecAll, Spec.fragmentsOnCompositeTypes]
      exact and_congr (hnodes _ (fun _ => by simp)) (hnodes _ (fun _ => by simp))
    · exact hnodes _ (fun _ => by simp)
    · simp only [SpecAll, Spec.knownDirectives, hg]
    · simp only [SpecAll, Spec.everyFragmentSpreadSomewhere]
      -- fragment definitions and spreads lie below the document node, where the two node lists agree
      have hmem : ∀ n, n.isDoc = false → (n ∈ nodes d ↔ n ∈ nodes d') := fun n hn => by
        simp only [nodes, List.mem_cons, (h.flatMap_right defNodes).mem_iff]
        constructor <;> rintro (rfl | h0) <;> first | cases hn | exact Or.inr h0
      constructor
      · intro H n hn name on dirs e
        subst e
        obtain ⟨m, hm', ds, rfl⟩ := H _ ((hmem _ rfl).mpr hn) name on dirs rfl
        exact ⟨_, (hmem _ rfl).mp hm', ds, rfl⟩
      · intro H n hn name on dirs e
        subst e
        obtain ⟨m, hm', ds, rfl⟩ := H _ ((hmem _ rfl).mp hn) name on dirs rfl
        exact ⟨_, (hmem _ rfl).mpr hm', ds, rfl⟩

theorem proved_all_or_listed : ∀ r ∈ Rule.all, r ∈ ProvedAll ∨ r.name ∈ Spec.Unproved := by decide +kernel

theorem unproved_empty : Spec.Unproved = [] := rfl

end PyGql.Props.C06
