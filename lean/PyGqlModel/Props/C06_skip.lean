/-
  C06 - property theorems: a rule that raises `SkipNode` below the document:
  `FragmentsOnCompositeTypesChecker`. A skip always comes with an error, so a silent run never skips and has
  seen every node (`Lemmas/ValidateWalkS.lean`).
-/
import PyGqlModel.Props.C06_names
import PyGqlModel.Lemmas.ValidateWalkS
namespace PyGql.Props.C06
open PyGql PyGql.Validate PyGql.Validate.Spec

/-- the node carries a type condition that is not a composite type (unknown types included) -/
def badFragType (s : SchemaD) : Node → Bool
  | .inline (some on) _ => !isComposite s on
  | .fragmentDef _ on _ => !isComposite s on
  | _ => false

private theorem focLeave (s : SchemaD) (fx : Fixes) : ∀ n ti rs, leaveRule s fx .fragmentsOnCompositeTypes n ti rs = rs :=
  leaveRule_id s fx .fragmentsOnCompositeTypes (by decide)

/-- what the rule does at a node: it reports and raises `SkipNode` exactly at a type condition that is not composite -/
private theorem foc_enter (s : SchemaD) (fx : Fixes) (n : Node) (ti : TI) (rs : RS) :
    enterRule s fx .fragmentsOnCompositeTypes n ti rs =
      (if badFragType s n then rs.err .fragmentsOnCompositeTypes else rs, badFragType s n) := by
  cases n with
  | inline on dirs =>
    cases on with
    | none => rfl
    | some on => by_cases h : isComposite s on = true <;> simp [enterRule, badFragType, h]
  | fragmentDef name on dirs => by_cases h : isComposite s on = true <;> simp [enterRule, badFragType, h]
  | _ => rfl

private theorem foc_scf (s : SchemaD) (fx : Fixes) :
    SCF ⟨s, fx, [.fragmentsOnCompositeTypes]⟩ (badFragType s) (fun _ => 0) (fun _ => 0) where
  skipE n st hn hb := by
    have hf : (enter ⟨s, fx, [.fragmentsOnCompositeTypes]⟩ n st).2 = true := by
      simp only [enter, enterRules_one, foc_enter, hb]
    refine ⟨hf, ?_⟩
    rw [leaveSkipped_enter_single s fx _ n st hf]
    simp [E, foc_enter, hb, RS.err]
  noskip n st hn hb := by
    simp only [enter, enterRules_one, foc_enter, hb]
  enterE n st hn hb := by
    simp [enter, enterRules_one, E, foc_enter, hb]
  leaveE n st _ := by
    simp only [leave, E, List.reverse_cons, List.reverse_nil, List.nil_append, List.foldl_cons, List.foldl_nil, focLeave]
    rfl

/-- **5.5.1.2 / 5.5.1.3 Fragment type conditions exist and are composite** -/
theorem rule_fragments_on_composite_types_iff (s : SchemaD) (fx : Fixes) (d : Doc) :
    Silent s fx .fragmentsOnCompositeTypes d ↔ Spec.fragmentsOnCompositeTypes s d := by
  unfold Silent alone
  have he : enter ⟨s, fx, [.fragmentsOnCompositeTypes]⟩ (.document d) {} = (({} : St), false) := by
    simp only [enter, enterRules_one, enterRule, tiEnter]
  rw [visitDocument, visitNode_noskip _ _ _ _ _ he]
  have hw := visitDefsS (foc_scf s fx) d.defs ({} : St)
  have hl : E (leave ⟨s, fx, [.fragmentsOnCompositeTypes]⟩ (.document d)
      (d.defs.foldl (fun st x => visitDef ⟨s, fx, [.fragmentsOnCompositeTypes]⟩ x st) {})) =
      E (d.defs.foldl (fun st x => visitDef ⟨s, fx, [.fragmentsOnCompositeTypes]⟩ x st) ({} : St)) := by
    simp only [leave, E, List.reverse_cons, List.reverse_nil, List.nil_append, List.foldl_cons, List.foldl_nil, focLeave]
  rw [hl]
  have hw2 := hw.2
  have h0 : E ({} : St) = 0 := rfl
  rw [h0] at hw2
  rw [hw2]
  unfold Spec.fragmentsOnCompositeTypes
  simp only [nodes, List.mem_cons, forall_eq_or_imp, reduceCtorEq, false_implies, implies_true, true_and, okNode, and_true]
  constructor
  · intro h
    refine ⟨fun n hn on dirs e => ?_, fun n hn name on dirs e => ?_⟩
    · have := h n hn; subst e; simpa [badFragType] using this
    · have := h n hn; subst e; simpa [badFragType] using this
  · rintro ⟨h1, h2⟩ n hn
    cases n <;> simp only [badFragType]
    · rename_i name on dirs; simp [h2 _ hn name on dirs rfl]
    · rename_i on dirs
      cases on with
      | none => rfl
      | some o => simp [h1 _ hn o dirs rfl]

end PyGql.Props.C06
