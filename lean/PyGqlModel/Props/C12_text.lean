/-
  C12 at TEXT level: `build (parse (to_string s)) = s`.

  `print_build_roundtrip` is about the DOCUMENT the printer denotes (`schemaToDoc s : Sdl.Doc`).  Here the printed
  TEXT is connected with the language front end of C01–C03 (`Lex.lexAll`, `Parse.parseDocument`):

  * `SdlPrintT.printSchemaT` is a second, total, `Text`-based model of `ASTSchemaPrinter` (`include_custom_schema_directives
    = False`), compared on every run with the real printer's text and with the first model (`corr/C12_text.py`);
  * `docToAst` is the tree an SDL document of the C11/C12 model denotes (descriptions are block strings);
  * `printTextWF` is the ONE decidable lexical well-formedness predicate;
  * the statement `PrintSchemaTextParsesStatement`: the printed text of EVERY schema that satisfies `printTextWF` is accepted
    by lexer and parser and parses to the tree of the document in printing order (`printedDoc s`);  the composition with
    `print_build_roundtrip` is `TextRoundtrip`.
  PROVED: the statement in full (`print_schema_text_parses`: all six kinds of types, arguments in both layouts of
  `print_arguments`, descriptions in every position and in the three layouts of `print_description`, default values,
  `@deprecated`, directive definitions, the `schema` block, every indentation over {space, tab}; lists of types and
  directives in any order — `sortBy` is idempotent on distinct names, `valueLit` looks types up by name) and its composition
  `text_roundtrip`; with `printBuildWF_printOrder` (`Props/C12_order.lean`) the hypotheses are on `s` itself
  (`text_roundtrip_final`).  The statement is also evaluated by the driver on every generated schema that satisfies
  `printTextWF` (op `printT`).

  The property theorems of this file: `print_schema_text_parses`, `text_roundtrip`, `text_roundtrip_final`.  Re-exports of a
  `Lemmas/` statement under the name the documents use: `print_schema_text_parses_ordered` (= `SdlText.parse_printSchemaT_full`),
  `printOrder_inPrintOrder` (= `inPrintOrder_printOrder`), `printSchemaT_order_independent` (= `printSchemaT_printOrder`),
  `printTextWF_order_independent` (= `printTextWF_printOrder`).  `shop_textWF`, `plainShop_wf`, `descShop_wf`,
  `descShop_textWF_tab` are facts about the example schemas.
-/
import PyGqlModel.Lemmas.SdlTextFull
import PyGqlModel.Lemmas.SdlTextPrintOrder
import PyGqlModel.Props.C12_print_build
import PyGqlModel.Props.C12_examples
import PyGqlModel.Props.C12_order
import PyGqlModel.Lemmas.SdlShopFacts
namespace PyGql.Props.C12
open PyGql PyGql.Ast PyGql.Sdl PyGql.SdlPrint PyGql.SdlText

theorem printedDoc_eq (s : SchemaD) : printedDoc s = schemaToDoc (printOrder s) := rfl

/-- for every printer configuration and EVERY schema (lists in any order) that satisfies the lexical well-formedness
    predicate `printTextWF`, the printed text is accepted by the lexer and the parser (`allow_type_system`, `no_location`)
    and parses to the tree of the document the printer denotes (`printedDoc s`: schema block, directive definitions by
    name, type definitions by name). -/
def PrintSchemaTextParsesStatement : Prop :=
  ∀ (o : SdlPrintT.OptsT) (s : SchemaD), printTextWF o s = true →
    parseSdlTextT (SdlPrintT.printSchemaT o s) = docToAst (printedDoc s)

/-- the text-level round trip: the text parses to a tree `d` which is the tree of a document `doc` (the wire image the
    builder consumes) that builds to the schema, its lists in printing order -/
def TextRoundtrip (o : SdlPrintT.OptsT) (s : SchemaD) : Prop :=
  ∃ (d : Document) (doc : Doc), parseSdlTextT (SdlPrintT.printSchemaT o s) = some d ∧ docToAst doc = some d ∧
    build doc = .ok (printOrder s)

theorem print_schema_text_parses_ordered (o : SdlPrintT.OptsT) (s : SchemaD) (hs : InPrintOrder s)
    (hwf : printTextWF o s = true) : parseSdlTextT (SdlPrintT.printSchemaT o s) = docToAst (schemaToDoc s) :=
  parse_printSchemaT_full o s hs hwf

/-- sorting is idempotent on lists with pairwise distinct names -/
theorem printOrder_inPrintOrder (s : SchemaD) (h : namesUnique s = true) : InPrintOrder (printOrder s) :=
  inPrintOrder_printOrder s h

/-- the printed text does not depend on the order of `s.types` / `s.directives` (the printer sorts them; default values
    look types up by name) -/
theorem printSchemaT_order_independent (o : SdlPrintT.OptsT) (s : SchemaD) (h : namesUnique s = true) :
    SdlPrintT.printSchemaT o (printOrder s) = SdlPrintT.printSchemaT o s := printSchemaT_printOrder o s h

/-- neither does the predicate -/
theorem printTextWF_order_independent (o : SdlPrintT.OptsT) (s : SchemaD) (h : namesUnique s = true) :
    printTextWF o (printOrder s) = printTextWF o s := printTextWF_printOrder o s h

theorem print_schema_text_parses : PrintSchemaTextParsesStatement := by
  intro o s hwf
  have hu := namesUnique_of_wf o s hwf
  rw [← printSchemaT_printOrder o s hu, printedDoc_eq]
  exact parse_printSchemaT_full o (printOrder s) (inPrintOrder_printOrder s hu) (by rw [printTextWF_printOrder o s hu]; exact hwf)

/-- `build (parse (to_string s)) = s` at TEXT level, composed with `print_build_roundtrip`: for a schema that satisfies the
    lexical predicate `printTextWF` and whose printing order satisfies `printBuildWF`, the printed text is accepted by lexer
    and parser and the document it parses to builds to the schema (lists in printing order) -/
theorem text_roundtrip (o : SdlPrintT.OptsT) (s : SchemaD) (hwf : printTextWF o s = true)
    (hb : printBuildWF (printOrder s) = true) : TextRoundtrip o s := by
  have hd := docToAst_schemaToDoc (printOrder s)
  exact ⟨_, printedDoc s, by rw [print_schema_text_parses o s hwf, printedDoc_eq, hd], hd, print_build_roundtrip _ hb⟩

theorem printOrder_of_ordered (s : SchemaD) (hs : InPrintOrder s) : printOrder s = s := by
  unfold printOrder; rw [hs.1, hs.2]

/-! ### non-vacuity -/

/-- the example schemas of `C12_examples` satisfy the lexical predicate (default printer options) -/
theorem shop_textWF : printTextWF {} shop = true := by decide +kernel
private theorem shopLower_textWF : printTextWF {} shopLower = true := by decide +kernel
example : printTextWF {} shop = true := shop_textWF
example : printTextWF {} shopLower = true := shopLower_textWF

theorem plainShop_wf : printBuildWF plainShop = true := by decide +kernel
private theorem plainShop_ordered : printOrder plainShop = plainShop := printOrder_of_ordered plainShop ⟨by rfl, by rfl⟩

example : TextRoundtrip {} plainShop := text_roundtrip {} plainShop plainShop_textWF (plainShop_ordered ▸ plainShop_wf)
example : build (printedDoc plainShop) = .ok plainShop := by
  have := print_build_roundtrip (printOrder plainShop) (plainShop_ordered ▸ plainShop_wf)
  rwa [plainShop_ordered] at this

/-- `shop` (NOT in printing order; descriptions on types, enum values, input fields and a directive; default values of every
    input kind) and `shopLower` (the `schema` block is printed) -/
example : TextRoundtrip {} shop := text_roundtrip {} shop shop_textWF (printBuildWF_printOrder shop shop_wf)
example : TextRoundtrip {} shopLower := text_roundtrip {} shopLower shopLower_textWF (printBuildWF_printOrder shopLower shopLower_wf)

theorem descShop_wf : printBuildWF descShop = true := by decide +kernel
private theorem descShop_ordered : printOrder descShop = descShop := printOrder_of_ordered descShop ⟨by rfl, by rfl⟩

example : TextRoundtrip {} descShop := text_roundtrip {} descShop descShop_textWF (descShop_ordered ▸ descShop_wf)
theorem descShop_textWF_tab : printTextWF { indent := [9] } descShop = true := by decide +kernel
example : TextRoundtrip { indent := [9] } descShop :=
  text_roundtrip _ descShop descShop_textWF_tab (descShop_ordered ▸ descShop_wf)


def SameUpToOrder (a b : SchemaD) : Prop :=
  a.types.Perm b.types ∧ a.directives.Perm b.directives ∧ a.query = b.query ∧ a.mutation = b.mutation ∧
  a.subscription = b.subscription ∧ a.defaultResolver = b.defaultResolver

/-- C12 at TEXT level, hypotheses on `s` only: if a schema description satisfies the lexical
    predicate `printTextWF` (`SdlText.lean`) and the structural predicate `printBuildWF`, then the text `to_string` prints is
    accepted by the lexer and the parser, and the document it parses to builds a schema that is `s` up to the order of
    its definitions (the printer sorts them by name). -/
theorem text_roundtrip_final (o : SdlPrintT.OptsT) (s : SchemaD) (hwf : printTextWF o s = true) (hb : printBuildWF s = true) :
    ∃ (d : Ast.Document) (doc : Doc) (s' : SchemaD), parseSdlTextT (SdlPrintT.printSchemaT o s) = some d ∧
      docToAst doc = some d ∧ build doc = .ok s' ∧ SameUpToOrder s' s := by
  obtain ⟨d, doc, h1, h2, h3⟩ := text_roundtrip o s hwf (printBuildWF_printOrder s hb)
  exact ⟨d, doc, printOrder s, h1, h2, h3, types_perm s, directives_perm s, rfl, rfl, rfl, rfl⟩

/-- non-vacuity: the example schemas satisfy both predicates -/
example : ∃ d doc s', parseSdlTextT (SdlPrintT.printSchemaT {} shop) = some d ∧ docToAst doc = some d ∧ build doc = .ok s' ∧
    SameUpToOrder s' shop := text_roundtrip_final {} shop shop_textWF shop_wf

end PyGql.Props.C12
