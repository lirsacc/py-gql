/-
  C11 — `build_rejects`: every rejection of the model is one of the library's schema/SDL errors, or the stack
  overflow of finding S1b — proved by going through every function of the builder (not by the shape of the
  error type: `Err.internal` carries an arbitrary class name).
-/
import PyGqlModel.Sdl
import PyGqlModel.SdlExtend
import PyGqlModel.SdlAdditional
import PyGqlModel.SdlInProgress
import PyGqlModel.Props.C11


namespace PyGql.Props.C11
open PyGql PyGql.Sdl

def Good (e : Err) : Prop := (∃ l, e = .lib l) ∨ e = .internal "RecursionError"

theorem good_lib (l : LibErr) : Good (.lib l) := Or.inl ⟨l, rfl⟩
theorem good_rec : Good (.internal "RecursionError") := Or.inr rfl

section firstPass
variable {P : Err → Prop} (hs : P (.lib .sdl)) (hr : P (.internal "RecursionError"))
include hs

theorem checkRef_fails (env : Env) (t : Ty) : FailsWith P (checkRef env t) := .ite (.pure _) (.error hs)

theorem checkNames_fails (env : Env) (ns : List String) : FailsWith P (checkNames env ns) := .ite (.pure _) (.error hs)

theorem deprecationReason_fails (ds : List DirApp) : FailsWith P (deprecationReason ds) := by
  unfold deprecationReason
  split
  · exact .pure _
  · split
    · exact .pure _
    · exact .pure _
    · exact .pure _
    · exact .error hs

theorem buildEnumValue_fails (v : EnumValDef) : FailsWith P (buildEnumValue v) :=
  .bind (.failIf hs) fun _ => .bind (deprecationReason_fails hs _) fun _ => .pure _

include hr

theorem defaultValue_fails (env : Env) (l : Lit) (t : Ty) : FailsWith P (defaultValue env l t) := by
  unfold defaultValue
  split
  · exact .error hr
  · exact .pure _
  · exact .error hs

theorem defaultValueX_fails (eB eX : Env) (hide : Option String) (l : Lit) (t : Ty) : FailsWith P (defaultValueX eB eX hide l t) :=
  .ite (defaultValue_fails hs hr _ _ _) (defaultValue_fails hs hr _ _ _)

theorem buildArgumentX_fails (eB eX : Env) (hide : Option String) (a : InputValDef) : FailsWith P (buildArgumentX eB eX hide a) := by
  refine .bind (checkRef_fails hs _ _) fun _ => ?_
  split
  · exact .pure _
  · exact .bind (defaultValueX_fails hs hr _ _ _ _ _) fun _ => .pure _

theorem buildFieldX_fails (eB eX : Env) (hide : Option String) (f : FieldDef) : FailsWith P (buildFieldX eB eX hide f) :=
  .bind (checkRef_fails hs _ _) fun _ => .bind (.mapM (buildArgumentX_fails hs hr eB eX hide) _) fun _ =>
    .bind (deprecationReason_fails hs _) fun _ => .pure _

theorem buildTypeDefX_fails (eB eX : Env) (hide : Option String) (d : TypeDef) : FailsWith P (buildTypeDefX eB eX hide d) := by
  unfold buildTypeDefX
  split
  · exact .pure _
  · exact .bind (.mapM (buildFieldX_fails hs hr eB eX hide) _) fun _ => .bind (checkNames_fails hs _ _) fun _ => .pure _
  · exact .bind (.mapM (buildFieldX_fails hs hr eB eX hide) _) fun _ => .pure _
  · exact .bind (checkNames_fails hs _ _) fun _ => .pure _
  · exact .bind (.failIf hs) fun _ => .bind (.mapM (buildEnumValue_fails hs) _) fun _ => .pure _
  · exact .bind (.mapM (buildArgumentX_fails hs hr eB eX hide) _) fun _ => .pure _

theorem buildDirectiveX_fails (eB eX : Env) (d : DirDef) : FailsWith P (buildDirectiveX eB eX d) :=
  .bind (.mapM (buildArgumentX_fails hs hr eB eX none) _) fun _ => .pure _

/-! The builders of the first pass are those of the extension pass with nothing extended and no type in progress. -/

theorem buildTypeDef_fails (env : Env) (d : TypeDef) : FailsWith P (buildTypeDef env d) :=
  buildTypeDefX_none env env (fun _ => rfl) ▸ buildTypeDefX_fails hs hr env env none d

theorem buildType_fails (env : Env) (d : TypeDef) : FailsWith P (buildType env d) := by
  unfold buildType
  refine .ite (.pure _) ?_
  split
  · exact .pure _
  · exact .bind (buildTypeDef_fails hs hr env d) fun _ => .pure _

theorem buildDirective_fails (env : Env) (d : DirDef) : FailsWith P (buildDirective env d) :=
  buildDirectiveX_none env env (fun _ => rfl) ▸ buildDirectiveX_fails hs hr env env d

end firstPass

private theorem addOps_err (res : String → Bool) (l : LibErr) : ∀ (ops : List (String × String)) (r : Roots),
    FailsWith Good (addOps res (.lib l) r ops)
  | [], r => .pure r
  | (op, ty) :: os, r => by
    rw [addOps]
    exact .ite (.error (good_lib _)) (.ite (.error (good_lib _)) (addOps_err res l os _))

private theorem buildRoots_err (env : Env) (sd : Option SchemaDef) (ts : List TypeD) : FailsWith Good (buildRoots env sd ts) := by
  unfold buildRoots
  split
  · exact .pure _
  · exact addOps_err _ _ _ _

private theorem buildCollected_err (c : Collected) (add : List TypeD) : FailsWith Good (buildCollected c add) :=
  .bind (.failIf good_rec) fun _ => .bind (.mapM (buildDirective_fails (good_lib _) good_rec _) _) fun _ =>
    .bind (.mapM (buildType_fails (good_lib _) good_rec _) _) fun _ => .bind (.failIf (good_lib _)) fun _ =>
    .bind (buildRoots_err _ _ _) fun _ => .bind (.failIf (good_lib _)) fun _ => .pure _

private theorem appendNew_good {α} (l : LibErr) (name : α → String) (xs acc : List α) : FailsWith Good (appendNew (.lib l) name acc xs) :=
  fun e h => appendNew_error _ name xs acc e h ▸ good_lib _

/-- the two merge loops of `_extend_<kind>_type`: members that are built first, and names that are checked first -/
private theorem mergeFold_err {α β} {bf : α → R β} (hbf : ∀ x, FailsWith Good (bf x)) (name : β → String) (sel : TypeDef → List α)
    (es : List TypeDef) (init : List β) :
    FailsWith Good (es.foldlM (fun acc e => do let new ← (sel e).mapM bf; appendNew (.lib .ext) name acc new) init) :=
  .foldlM (fun _ _ => .bind (.mapM hbf _) fun _ => appendNew_good _ name _ _) _ _

private theorem namesFold_err (env : Env) (sel : TypeDef → List String) (es : List TypeDef) (init : List String) :
    FailsWith Good (es.foldlM (fun acc e => do checkNames env (sel e); appendNew (.lib .ext) id acc (sel e)) init) :=
  .foldlM (fun _ _ => .bind (checkNames_fails (good_lib _) _ _) fun _ => appendNew_good _ id _ _) _ _

private theorem extendTypeX_err (env envX : Env) (hide : Option String) (exts : List TypeDef) (t : TypeD) :
    FailsWith Good (extendTypeX env envX hide exts t) := by
  unfold extendTypeX
  refine .bind (.failIf (good_lib _)) fun _ => ?_
  split
  · exact .pure _
  · exact .bind (mergeFold_err (buildFieldX_fails (good_lib _) good_rec env envX hide) _ _ _ _) fun _ => .bind (namesFold_err env _ _ _) fun _ => .pure _
  · exact .bind (mergeFold_err (buildFieldX_fails (good_lib _) good_rec env envX hide) _ _ _ _) fun _ => .pure _
  · exact .bind (namesFold_err env _ _ _) fun _ => .pure _
  · exact .bind (mergeFold_err (buildEnumValue_fails (good_lib _)) _ _ _ _) fun _ => .pure _
  · exact .bind (mergeFold_err (buildArgumentX_fails (good_lib _) good_rec env envX hide) _ _ _ _) fun _ => .pure _

private theorem reDefault_err (env envX : Env) (hide : Option String) (X : List TypeDef) (t : TypeD) : FailsWith Good (reDefault env envX hide X t) := by
  unfold reDefault
  split
  · exact buildTypeDefX_fails (good_lib _) good_rec env envX hide _
  · exact .pure _

private theorem reDefaultDirective_err (env envX : Env) (doc : Doc) (d : DirectiveD) : FailsWith Good (reDefaultDirective env envX doc d) := by
  unfold reDefaultDirective
  split
  · exact buildDirectiveX_fails (good_lib _) good_rec env envX _
  · exact .pure _

private theorem extendSchema_err (env : Env) (live : Live) (doc : Doc) (add : List TypeD) : FailsWith Good (extendSchema env live doc add) := by
  unfold extendSchema
  exact .ite (.pure _) <| .bind (.failIf (good_lib _)) fun _ => .bind (.mapM (fun _ => extendTypeX_err _ _ _ _ _) _) fun _ =>
    .bind (.mapM (fun _ => reDefault_err _ _ _ _ _) _) fun _ => .bind (.mapM (reDefaultDirective_err _ _ _) _) fun _ =>
    .bind (.failIf (good_lib _)) fun _ => .bind (.foldlM (fun _ _ => addOps_err _ _ _ _) _ _) fun _ => .pure _

private theorem collect_err (doc : Doc) : FailsWith Good (collectDefinitions doc) := fun e h => collect_rejects_sdl doc e h ▸ good_lib _

/-- Whatever the document, the flags and the supplied types, if the builder does not return a
    schema it fails with `SDLError`, `ExtensionError` or `SchemaError` — or with the `RecursionError` of finding
    S1b (an object-literal default that needs the field list of the input type being built). No function of the
    model has another failure branch: with fix C11-S1 the builder raises no bare `ValueError`, `CoercionError`,
    `InvalidValue`, `TypeError`, `KeyError` or the like. -/
theorem build_rejects (doc : Doc) (ie : Bool) (add : List TypeD) (e : Err) (h : build doc ie add = .error e) :
    (∃ l, e = .lib l) ∨ e = .internal "RecursionError" := by
  revert e
  show FailsWith Good (build doc ie add)
  unfold build buildIgnoringExtensions
  exact .bind (.bind (collect_err doc) fun _ => buildCollected_err _ _) fun _ =>
    .ite (.pure _) (.bind (extendSchema_err _ _ _ _) fun _ => .pure _)

private theorem buildCollectedA_err (c : Collected) (add : List TypeD) : FailsWith Good (buildCollectedA c add) :=
  .bind (.failIf good_rec) fun _ => .bind (.mapM (buildDirective_fails (good_lib _) good_rec _) _) fun _ =>
    .bind (.mapM (buildType_fails (good_lib _) good_rec _) _) fun _ => .bind (.failIf (good_lib _)) fun _ =>
    .bind (buildRoots_err _ _ _) fun _ => .bind (.failIf (good_lib _)) fun _ => .bind (.failIf (good_lib _)) fun _ => .pure _

private theorem extendSchemaA_err (env : Env) (live : Live) (doc : Doc) (add : List TypeD) : FailsWith Good (extendSchemaA env live doc add) := by
  unfold extendSchemaA
  exact .ite (.pure _) <| .bind (.failIf (good_lib _)) fun _ => .bind (.mapM (fun _ => extendTypeX_err _ _ _ _ _) _) fun _ =>
    .bind (.mapM (fun _ => reDefault_err _ _ _ _ _) _) fun _ => .bind (.mapM (reDefaultDirective_err _ _ _) _) fun _ =>
    .bind (.failIf (good_lib _)) fun _ => .bind (.foldlM (fun _ _ => addOps_err _ _ _ _) _ _) fun _ =>
    .bind (.failIf (good_lib _)) fun _ => .pure _

/-- The same for the refined model of `additional_types` (`buildA`: same-name supplied types, transitive
    registry closure, supplied types shadowing specified ones, extended supplied enums / input objects): whatever the
    document, the flags and the supplied types, a rejection is `SDLError`, `ExtensionError`, `SchemaError` or the
    `RecursionError` of finding S1b. -/
theorem buildA_rejects (doc : Doc) (ie : Bool) (add : List TypeD) (e : Err) (h : buildA doc ie add = .error e) :
    (∃ l, e = .lib l) ∨ e = .internal "RecursionError" := by
  revert e
  show FailsWith Good (buildA doc ie add)
  unfold buildA
  exact .bind (collect_err doc) fun _ => .bind (buildCollectedA_err _ _) fun _ =>
    .ite (.pure _) (.bind (extendSchemaA_err _ _ _ _) fun _ => .pure _)

/-- The same for the model with the builder's real in-progress bookkeeping (`buildP`, PyGqlModel/SdlInProgress.lean):
    a rejection is a library error or the `RecursionError` of finding S1b. -/
theorem buildP_rejects (doc : Doc) (ie : Bool) (add : List TypeD) (e : Err) (h : buildP doc ie add = .error e) :
    (∃ l, e = .lib l) ∨ e = .internal "RecursionError" := by
  revert e
  show FailsWith Good (buildP doc ie add)
  unfold buildP
  refine .bind (collect_err doc) fun _ => .bind (buildCollectedA_err _ _) fun _ =>
    .ite (.pure _) (.bind (extendSchemaA_err _ _ _ _) fun _ => ?_)
  split
  · exact .error (good_lib _)
  · exact .pure _

/-- `input A { a: A = {a: null} }  type Query { f(a: A): Int }` (finding S1b) -/
def s1bDoc : Doc := [
  .type { kind := .input, name := "A", inputFields := [{ name := "a", type := .named "A", default := some (.obj [("a", .null)]) }] },
  .type { kind := .object, name := "Query", fields := [{ name := "f", type := .named "Int", args := [{ name := "a", type := .named "A" }] }] }]

/-- The `RecursionError` disjunct of `build_rejects` is needed: the full statement `BuildRejectsStatement` ("library
    errors only") is FALSE on the fixed code, witness `s1bDoc` — replay: corpus/C11 `S1b-self-default`. -/
theorem build_rejects_full_refuted : ¬ BuildRejectsStatement := by
  intro h
  have hb : (match build s1bDoc with | .error (.internal "RecursionError") => true | _ => false) = true := by decide +kernel
  cases hr : build s1bDoc with
  | ok s => rw [hr] at hb; simp at hb
  | error e =>
    obtain ⟨l, hl⟩ := h s1bDoc false [] e hr
    subst hl
    rw [hr] at hb
    simp at hb

theorem collectExtStep_err (ht hd : String → Bool) (strict : Bool) (acc : ExtCollected) (d : Def) (e : Err)
    (h : collectExtStep ht hd strict acc d = .error e) : e = .lib .ext := by
  revert e
  show FailsWith (· = .lib .ext) _
  cases d with
  | schema s => exact .ite (.error rfl) (.pure _)
  | type t => exact .ite (.ite (.error rfl) (.pure _)) (.ite (.error rfl) (.pure _))
  | directive x => exact .ite (.ite (.error rfl) (.pure _)) (.ite (.error rfl) (.pure _))
  | ext x => exact .pure _
  | schemaExt s => exact .pure _
  | other => exact .pure _

theorem filterTargets_err (ht : String → Bool) (strict : Bool) (nd : List TypeDef) : ∀ (es : List TypeDef) (e : Err),
    filterTargets ht strict nd es = .error e → e = .lib .ext
  | [] => FailsWith.pure (P := (· = .lib .ext)) _
  | x :: xs => by
    show FailsWith (· = .lib .ext) _
    rw [filterTargets]
    exact .ite (.bind (filterTargets_err ht strict nd xs) fun _ => .pure _) (.ite (.error rfl) (filterTargets_err ht strict nd xs))

/-- `_collect_extensions` fails with `ExtensionError` only, whatever the schema, the document and `strict` -/
theorem collectExtensions_rejects (live : Live) (doc : Doc) (strict : Bool) (e : Err)
    (h : collectExtensions live doc strict = .error e) : e = .lib .ext := by
  revert e
  show FailsWith (· = .lib .ext) _
  exact .bind (.foldlM (collectExtStep_err _ _ _) _ _) fun _ => .bind (filterTargets_err _ _ _ _) fun _ => .pure _

private theorem reDefaultDirectiveIn_err (env envX : Env) (defs : List DirDef) (d : DirectiveD) :
    FailsWith Good (reDefaultDirectiveIn env envX defs d) := by
  unfold reDefaultDirectiveIn
  split
  · exact buildDirectiveX_fails (good_lib _) good_rec env envX _
  · exact .pure _

/-- Whatever the schema (built from SDL), the extension document and `strict`, if the public
    `extend_schema` does not return a schema it fails with `SDLError`, `ExtensionError` or `SchemaError` — or with the
    `RecursionError` of finding S1b.  No other branch. -/
theorem extend_rejects (baseDefs : List TypeDef) (baseDirs : List DirDef) (live : Live) (doc : Doc) (strict : Bool) (e : Err)
    (h : extendSchemaPublic baseDefs baseDirs live doc strict = .error e) : Good e := by
  revert e
  show FailsWith Good _
  unfold extendSchemaPublic
  exact .bind (fun e h => collectExtensions_rejects _ _ _ e h ▸ good_lib _) fun _ => .ite (.pure _) <|
    .bind (.mapM (reDefaultDirectiveIn_err _ _ _) _) fun _ => .bind (.mapM (buildDirectiveX_fails (good_lib _) good_rec _ _) _) fun _ =>
    .bind (.failIf (good_lib _)) fun _ => .bind (.mapM (fun _ => extendTypeX_err _ _ _ _ _) _) fun _ =>
    .bind (.mapM (fun _ => reDefault_err _ _ _ _ _) _) fun _ => .bind (.mapM (fun _ => buildTypeDefX_fails (good_lib _) good_rec _ _ _ _) _) fun _ =>
    .bind (.mapM (fun _ => extendTypeX_err _ _ _ _ _) _) fun _ => .bind (.mapM (fun _ => reDefault_err _ _ _ _ _) _) fun _ =>
    .bind (.failIf (good_lib _)) fun _ => .bind (.foldlM (fun _ _ => addOps_err _ _ _ _) _ _) fun _ =>
    .bind (.failIf (good_lib _)) fun _ => .pure _

end PyGql.Props.C11
