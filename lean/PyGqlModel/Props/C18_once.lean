/-
  C18 — `once`: no node is entered twice (by identity), for trees whose nodes have distinct identities and tables
  whose `_visit_*` bodies never traverse the same attribute twice (true of today's table: `table_steps_distinct`).
-/
import PyGqlModel.Props.C18

namespace PyGql.Props.C18
open PyGql.Visit

mutual
/-- identities of all nodes of a tree (names included), pre-order -/
def idsNode : Node → List Nat
  | .mk _ i a => i :: idsAttrs a
def idsAttrs : List (String × Attr) → List Nat
  | [] => []
  | (_, a) :: r => idsAttr a ++ idsAttrs r
def idsAttr : Attr → List Nat
  | .scalar _ => []
  | .one none => []
  | .one (some c) => idsNode c
  | .many cs => idsList cs
def idsList : List Node → List Nat
  | [] => []
  | c :: r => idsNode c ++ idsList r
end

theorem idsList_eq_flatMap (cs : List Node) : idsList cs = cs.flatMap idsNode := by
  induction cs with
  | nil => rfl
  | cons c r ih => rw [idsList, ih, List.flatMap_cons]

theorem idsAttrs_eq_flatMap (attrs : List (String × Attr)) : idsAttrs attrs = attrs.flatMap fun p => idsAttr p.2 := by
  induction attrs with
  | nil => rfl
  | cons p r ih => rw [idsAttrs, ih, List.flatMap_cons]

/-- identities handed to `enter`, in order -/
def entered (tr : List Ev) : List Nat := (tr.filter (·.enter)).map (·.node.id)

private theorem entered_append (a b : List Ev) : entered (a ++ b) = entered a ++ entered b := by
  simp [entered]

/-- "`tr` enters only nodes of `L`, each at most once" (when `L` has no duplicates) -/
private def Q (tr : List Ev) (L : List Nat) : Prop := L.Nodup → (entered tr).Nodup ∧ ∀ i ∈ entered tr, i ∈ L

private theorem Q_nil (L : List Nat) : Q [] L := by intro _; simp [entered]

private theorem Q_append {a b : List Ev} {La Lb : List Nat} (ha : Q a La) (hb : Q b Lb) : Q (a ++ b) (La ++ Lb) := by
  intro hnd
  rw [List.nodup_append] at hnd
  obtain ⟨h1, h2, h3⟩ := hnd
  have ⟨a1, a2⟩ := ha h1
  have ⟨b1, b2⟩ := hb h2
  rw [entered_append]
  refine ⟨?_, ?_⟩
  · rw [List.nodup_append]
    exact ⟨a1, b1, fun x hx y hy => h3 x (a2 x hx) y (b2 y hy)⟩
  · intro i hi
    rw [List.mem_append] at hi ⊢
    rcases hi with hi | hi
    · exact Or.inl (a2 i hi)
    · exact Or.inr (b2 i hi)

private theorem Q_mono {a : List Ev} {L L' : List Nat} (h : Q a L) (hsub : ∀ i ∈ L, i ∈ L') (hnd : L'.Nodup → L.Nodup) : Q a L' := by
  intro hn
  have ⟨h1, h2⟩ := h (hnd hn)
  exact ⟨h1, fun i hi => hsub i (h2 i hi)⟩

private theorem walkAll_Q {g : Node → Res (List Ev)} (hg : ∀ c tr, g c = .ok tr → Q tr (idsNode c)) :
    ∀ cs tr, walkAll g cs = .ok tr → Q tr (idsList cs) := by
  intro cs
  induction cs with
  | nil => intro _ h; cases h; exact Q_nil _
  | cons c cs ih =>
    intro _ h
    obtain ⟨t1, t2, h1, h2, rfl⟩ := walkAll_cons_ok.1 h
    exact Q_append (hg c t1 h1) (ih t2 h2)

theorem lookup_ids_mem (a : String) (x : Attr) :
    ∀ attrs : List (String × Attr), attrs.lookup a = some x → ∀ i ∈ idsAttr x, i ∈ idsAttrs attrs :=
  fun attrs h _ hi => idsAttrs_eq_flatMap attrs ▸ List.mem_flatMap.2 ⟨(a, x), lookup_mem_of_some attrs a x h, hi⟩

theorem lookup_ids_nodup (a : String) (x : Attr) :
    ∀ attrs : List (String × Attr), attrs.lookup a = some x → (idsAttrs attrs).Nodup → (idsAttr x).Nodup := by
  intro attrs h hnd
  rw [idsAttrs_eq_flatMap, List.Nodup, List.pairwise_flatMap] at hnd
  exact hnd.1 (a, x) (lookup_mem_of_some attrs a x h)

private theorem pairwise_of_mem_ne {α : Type} {R : α → α → Prop} (hs : ∀ a b, R a b → R b a) :
    ∀ {l : List α}, l.Pairwise R → ∀ {a b : α}, a ∈ l → b ∈ l → a ≠ b → R a b := by
  intro l
  induction l with
  | nil => intro _ _ _ ha; cases ha
  | cons x l ih =>
    intro h a b ha hb hab
    rw [List.pairwise_cons] at h
    rcases List.mem_cons.1 ha with ea | ha <;> rcases List.mem_cons.1 hb with eb | hb
    · exact absurd (ea.trans eb.symm) hab
    · exact ea ▸ h.1 b hb
    · exact eb ▸ hs _ _ (h.1 a ha)
    · exact ih h.2 ha hb hab

theorem lookup_ids_disjoint (a b : String) (x y : Attr) (hab : a ≠ b) :
    ∀ attrs : List (String × Attr), attrs.lookup a = some x → attrs.lookup b = some y → (idsAttrs attrs).Nodup →
      ∀ i, i ∈ idsAttr x → i ∈ idsAttr y → False := by
  intro attrs hx hy hnd i hix hiy
  rw [idsAttrs_eq_flatMap, List.Nodup, List.pairwise_flatMap] at hnd
  exact pairwise_of_mem_ne (fun _ _ h u hu w hw e => h w hw u hu e.symm) hnd.2 (lookup_mem_of_some attrs a x hx)
    (lookup_mem_of_some attrs b y hy) (fun e => hab (congrArg Prod.fst e)) i hix i hiy rfl

private def stepIds (n : Node) (st : Step) : List Nat :=
  match n.getAttr st.attr with
  | some x => idsAttr x
  | none => []

private theorem walkStep_Q {call : Target → Node → Res (List Ev)} (hc : ∀ t c tr, call t c = .ok tr → Q tr (idsNode c))
    (st : Step) (n : Node) (tr : List Ev) (h : Spec.walkStep call st n = .ok tr) : Q tr (stepIds n st) := by
  rcases walkStep_ok h with ⟨rfl, _⟩ | ⟨_, _, c, hg, h⟩ | ⟨_, _, cs, hg, h⟩
  · exact Q_nil _
  · simpa only [stepIds, hg, idsAttr] using hc _ _ _ h
  · simpa only [stepIds, hg, idsAttr] using walkAll_Q (hc _) _ _ (walkList_eq_walkAll _ cs ▸ h)

private theorem stepIds_disjoint {n : Node} (hnd : (idsAttrs n.attrs).Nodup) {st st2 : Step} (hne : st.attr ≠ st2.attr) {i : Nat}
    (h1 : i ∈ stepIds n st) (h2 : i ∈ stepIds n st2) : False := by
  unfold stepIds at h1 h2
  cases hg1 : n.getAttr st.attr with
  | none => simp [hg1] at h1
  | some x =>
    cases hg2 : n.getAttr st2.attr with
    | none => simp [hg2] at h2
    | some y =>
      simp only [hg1] at h1
      simp only [hg2] at h2
      exact lookup_ids_disjoint _ _ x y hne _ hg1 hg2 hnd i h1 h2

/-- the statement of `once` for the visitor-free walk of one method body -/
private theorem walkSteps_Q {call : Target → Node → Res (List Ev)} (hc : ∀ t c tr, call t c = .ok tr → Q tr (idsNode c))
    (n : Node) (hnd : (idsAttrs n.attrs).Nodup) :
    ∀ (steps : List Step) (tr : List Ev), (steps.map (·.attr)).Nodup →
      walkAll (fun st => Spec.walkStep call st n) steps = .ok tr →
      (entered tr).Nodup ∧ ∀ i ∈ entered tr, ∃ st ∈ steps, i ∈ stepIds n st := by
  intro steps
  induction steps with
  | nil => intro _ _ h; cases h; simp [entered]
  | cons st rest ih =>
    intro _ hd h
    obtain ⟨t1, t2, h1, h2, rfl⟩ := walkAll_cons_ok.1 h
    simp only [List.map_cons, List.nodup_cons] at hd
    have ⟨r1, r2⟩ := ih t2 hd.2 h2
    have hsn : (stepIds n st).Nodup := by
      unfold stepIds
      cases hg : n.getAttr st.attr with
      | none => simp
      | some x => exact lookup_ids_nodup _ _ _ hg hnd
    have ⟨q1, q2⟩ := walkStep_Q hc st n t1 h1 hsn
    rw [entered_append]
    refine ⟨List.nodup_append.2 ⟨q1, r1, ?_⟩, ?_⟩
    · intro i hi j hj hij
      subst hij
      obtain ⟨st2, hst2, hmem2⟩ := r2 i hj
      exact stepIds_disjoint (st := st) (st2 := st2) hnd (fun he => hd.1 (he ▸ List.mem_map.mpr ⟨st2, hst2, rfl⟩)) (q2 i hi) hmem2
    · intro i hi
      rcases List.mem_append.1 hi with hi | hi
      · exact ⟨st, by simp, q2 i hi⟩
      · obtain ⟨st2, hst2, hm⟩ := r2 i hi
        exact ⟨st2, by simp [hst2], hm⟩

private theorem stepIds_sub (n : Node) (st : Step) : ∀ i ∈ stepIds n st, i ∈ idsAttrs n.attrs := by
  intro i hi
  unfold stepIds at hi
  cases hg : n.getAttr st.attr with
  | none => simp [hg] at hi
  | some x => simp only [hg] at hi; exact lookup_ids_mem _ _ _ hg i hi

/-- table hypothesis: no method body traverses the same attribute twice -/
def StepsDistinct (T : Table) : Prop := ∀ m steps, T.methods.lookup m = some steps → (steps.map (·.attr)).Nodup

private theorem walk_Q (T : Table) (hT : StepsDistinct T) :
    ∀ fuel m n tr, Spec.walk T fuel m n = .ok tr → Q tr (idsNode n) := by
  intro fuel
  induction fuel with
  | zero => intro m n tr h; simp [Spec.walk] at h
  | succ fuel ih =>
    intro m n tr h hnd
    obtain ⟨f, steps, body, hf, hm, hb, rfl⟩ := walk_shape T _ m n tr h
    cases hf
    cases n with
    | mk k i attrs =>
      simp only [idsNode, List.nodup_cons] at hnd
      have hcall : ∀ t c tr, Spec.walkTarget T (Spec.walk T fuel) t c = .ok tr → Q tr (idsNode c) := fun t c tr hc =>
        let ⟨m', _, h'⟩ := walkTarget_ok hc
        ih m' c tr h'
      have ⟨b1, b2⟩ := walkSteps_Q hcall (.mk k i attrs) (by simpa [Node.attrs] using hnd.2) steps body (hT m steps hm)
        (walkSteps_eq_walkAll _ _ steps ▸ hb)
      have hsub : ∀ j ∈ entered body, j ∈ idsAttrs attrs := by
        intro j hj
        obtain ⟨st, _, hm⟩ := b2 j hj
        simpa [Node.attrs] using stepIds_sub (.mk k i attrs) st j hm
      have he : entered (⟨true, .mk k i attrs⟩ :: body ++ [⟨false, .mk k i attrs⟩]) = i :: entered body := by
        simp [entered, Node.id]
      rw [he]
      refine ⟨List.nodup_cons.2 ⟨fun hmem => hnd.1 (hsub i hmem), b1⟩, ?_⟩
      intro j hj
      simp only [idsNode, List.mem_cons] at hj ⊢
      exact hj.imp_right (hsub j)

/-- A visitor that changes nothing never enters a node twice: if the nodes of the tree have distinct
    identities (alias-free tree) and no `_visit_*` body traverses the same attribute twice, the identities handed
    to `enter` during a completed visit are pairwise distinct, and all belong to the tree. -/
theorem once (T : Table) (hT : StepsDistinct T) (v : Visitor σ) (hv : Observer v) (fuel : Nat) (t : Node) (s : σ)
    (o : Out σ) (h : visit T v fuel t s = .ok o) (hnd : (idsNode t).Nodup) :
    (entered o.tr).Nodup ∧ ∀ i ∈ entered o.tr, i ∈ idsNode t := by
  obtain ⟨m0, _, hw⟩ := visit_ok_walk T v hv fuel t s o h
  exact walk_Q T hT fuel m0 t o.tr hw hnd

end PyGql.Props.C18
