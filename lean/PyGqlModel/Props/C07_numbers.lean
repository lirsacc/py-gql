/-
  C07 — WHICH JSON inputs the built-in numeric scalars accept, decided inside the model; the full
  signed 32-bit range of `Int` on both routes (`int_full_range`, with fuel and fuel-free).
  The number lexemes (`int(s, 10)`, `float(s)` with correct rounding, `is_integer`, `int(f)`) are modelled in
  PyGqlModel/PyNum.lean; the branch structure of `coerce_int` and the finiteness guard of `coerce_float` come from
  Generated/Scalars.lean (`coerceInt_branches_spec`, `floatGuard_spec`, `intInRange_iff` re-open when the source changes).
-/
import PyGqlModel.Props.C07_args


namespace PyGql.Props.C07
open PyGql PyGql.Coerce PyGql.PyNum

/-- A JSON value is accepted at an `Int` position exactly when it denotes an integer — a JSON integer,
    a boolean (Python: `bool ⊂ int`), a float whose double is integral (`1.0`, `1e3`), a string that `int(s, 10)` reads or
    whose `float(s)` is integral — and that integer lies in the closed signed 32-bit interval. Arrays, objects, non-integral
    and non-finite numbers (`1e999`, NaN: fix A6), other strings are REFUSED (see `builtin_scalars_never_raise`). -/
theorem int_accepts_iff (v : JV) : (∃ pv, coerceInt v = .ok pv) ↔ ∃ k, intDenoted v = some k ∧ InRange32 k := by
  rw [coerceInt_eq]
  cases intDenoted v with
  | none => exact ⟨fun ⟨_, h⟩ => (nomatch h), fun ⟨_, h, _⟩ => (nomatch h)⟩
  | some k =>
    simp only [rangeChecked_eq]
    by_cases hk : InRange32 k
    · rw [if_pos hk]
      exact ⟨fun _ => ⟨k, rfl, hk⟩, fun _ => ⟨_, rfl⟩⟩
    · rw [if_neg hk]
      exact ⟨fun ⟨_, h⟩ => (nomatch h), fun ⟨_, h, hk'⟩ => absurd (Option.some.inj h ▸ hk') hk⟩

private theorem float_accepts (v : JV) : (∃ pv, coerceFloat v = .ok pv) ↔ ∃ f, floatDenoted v = some (.finite, f) := by
  rw [coerceFloat_eq]
  cases floatDenoted v with
  | none => exact ⟨fun ⟨_, h⟩ => (nomatch h), fun ⟨_, h⟩ => (nomatch h)⟩
  | some p =>
    obtain ⟨c, f⟩ := p
    simp only [floatChecked_eq]
    by_cases hc : c = .finite
    · rw [if_pos hc, hc]
      exact ⟨fun _ => ⟨f, rfl⟩, fun _ => ⟨_, rfl⟩⟩
    · rw [if_neg hc]
      exact ⟨fun ⟨_, h⟩ => (nomatch h), fun ⟨_, h⟩ => absurd (congrArg Prod.fst (Option.some.inj h)) hc⟩

private theorem denotes_finite (o : Option Dbl) (t : String) :
    (∃ f, (o.map fun d => (clsOf d, Flt.text t)) = some (FCls.finite, f)) ↔ ∃ neg m e, o = some (.finite neg m e) := by
  cases o with
  | none => exact ⟨fun ⟨_, h⟩ => (nomatch h), fun ⟨_, _, _, h⟩ => (nomatch h)⟩
  | some d => cases d <;> simp [clsOf]

/-- At a `Float` position: booleans and integers always; a float lexeme / a string exactly when
    `float()` reads it and the double is finite (fix X2). -/
theorem float_accepts_iff (v : JV) :
    (∃ pv, coerceFloat v = .ok pv) ↔
      match v with
      | .bool _ => True
      | .int n => intFitsDouble n = true           -- an integer too large for a double (≥ 2^1024 − 2^970) is refused (fix A6)
      | .float t => ∃ neg m e, pyFloat t = some (.finite neg m e)
      | .str s => s ≠ "" ∧ ∃ neg m e, pyFloat s = some (.finite neg m e)
      | _ => False := by
  rw [float_accepts]
  cases v with
  | bool b => exact ⟨fun _ => trivial, fun _ => ⟨_, rfl⟩⟩
  | int n =>
    simp only [floatDenoted]
    cases intFitsDouble n
    · exact ⟨fun ⟨_, h⟩ => (nomatch h), fun h => (nomatch h)⟩
    · exact ⟨fun _ => rfl, fun _ => ⟨_, rfl⟩⟩
  | float t =>
    simp only [floatDenoted]
    exact denotes_finite _ t
  | str s =>
    simp only [floatDenoted]
    by_cases hs : s = ""
    · rw [hs]
      exact ⟨fun ⟨_, h⟩ => (nomatch h), fun h => absurd rfl h.1⟩
    · rw [if_neg (by simpa using hs), denotes_finite]
      exact ⟨fun h => ⟨hs, h⟩, fun h => h.2⟩
  | _ => exact ⟨fun ⟨_, h⟩ => (nomatch h), False.elim⟩

/-- Whatever the JSON value (±inf, NaN, integers of any size, any string, arrays,
    objects), `coerce_int`, `coerce_float`, `_parse_string`, `_parse_bool`, `_parse_id` either return a value or raise the
    `ValueError` / `TypeError` that `ScalarType.parse` turns into a rejection — no other exception (fix A6: `int(inf)`,
    `float(10**400)`). Stated about the branches re-extracted from scalars.py. -/
theorem builtin_scalars_never_raise (v : JV) :
    coerceInt v ≠ .error .internal ∧ coerceFloat v ≠ .error .internal ∧ parseString v ≠ .error .internal ∧
    parseBool v ≠ .error .internal ∧ parseId v ≠ .error .internal :=
  ⟨fun h => Err.noConfusion (coerceInt_error h), fun h => Err.noConfusion (coerceFloat_error h), fun h => Err.noConfusion (parseString_error h),
   fun h => Err.noConfusion (parseBool_error h), fun h => Err.noConfusion (parseId_error h)⟩

/-! #### the table, evaluated by the kernel on the lexeme model (rows with long mantissas — `2147483647.0`, `1.0000000000000000001`,
     `1.7976931348623157e308`, `5e-324` — are checked against Python by the compiled `pynum` stream instead) -/

example : coerceInt (.float "1.0") = .ok (.int 1) := by decide +kernel
example : coerceInt (.float "1e+16") = .error .coercion := by decide +kernel           -- integral, outside the 32-bit range
example : coerceInt (.float "1.5") = .error .coercion := by decide +kernel
example : coerceInt (.float "-0.0") = .ok (.int 0) := by decide +kernel
example : coerceInt (.float "nan") = .error .coercion := by decide +kernel
example : coerceInt (.float "inf") = .error .coercion := by decide +kernel             -- int(inf): OverflowError caught (fix A6)
example : coerceInt (.bool true) = .ok (.int 1) := by decide +kernel                    -- accepted (known finding A8), as the integer 1
example : coerceInt (.str "12") = .ok (.int 12) := by decide +kernel
example : coerceInt (.str " 7 ") = .ok (.int 7) := by decide +kernel
example : coerceInt (.str "1_0") = .ok (.int 10) := by decide +kernel
example : coerceInt (.str "1e3") = .ok (.int 1000) := by decide +kernel
example : coerceInt (.str "1.5") = .error .coercion := by decide +kernel
example : coerceInt (.str "abc") = .error .coercion := by decide +kernel
example : coerceInt (.str "") = .error .coercion := by decide +kernel
example : coerceInt (.str "inf") = .error .coercion := by decide +kernel
example : coerceFloat (.str "1e400") = .error .coercion := by decide +kernel            -- overflows to inf: refused (X2)
example : coerceFloat (.str "x") = .error .coercion := by decide +kernel
example : pyFloat "0.1" = some (.finite false 7205759403792794 (-56)) := by decide +kernel
example : pyInt10 "+-5" = none ∧ pyInt10 "007" = some 7 ∧ pyInt10 "1__0" = none := by decide +kernel

section
open PyGql.Generated.Scalars

/-- An integer is accepted at an `Int` position — as a JSON variable value and as an
    inline literal — exactly when it lies in the closed interval [−2³¹, 2³¹−1], and then it is passed unchanged.
    Stated about the range test TRANSLATED from `coerce_int` on every run. -/
theorem int_full_range {reg : Reg} {n : String} (hn : reg.get? n = some .int) (vars : Option (List (String × PV)))
    (fuel : Nat) (k : Int) :
    (coerceValue reg (fuel + 1) (.named n) (.int k) = .ok (.int k) ↔ InRange32 k) ∧
    (valueFromAst reg vars (fuel + 1) (.named n) (.int k) = .ok (.int k) ↔ InRange32 k) ∧
    (¬ InRange32 k → coerceValue reg (fuel + 1) (.named n) (.int k) = .error .coercion ∧
                      valueFromAst reg vars (fuel + 1) (.named n) (.int k) = .error .coercion) := by
  have hadm : admits .int (.int k) = true := by
    simp only [admits, kindName, litKind]; decide
  have e1 : coerceValue reg (fuel + 1) (.named n) (.int k) = rangeChecked k (.int k) := by
    simp [coerceValue, Ty.isNonNull, stripNN, coerceCore, JV.isNull, hn, coerceInt]
  have e2 : valueFromAst reg vars (fuel + 1) (.named n) (.int k) = rangeChecked k (.int k) := by
    simp [valueFromAst, Ty.isNonNull, stripNN, vfaCore, Lit.isNull, hn, isScalarLit, parseLiteral, hadm]
  rw [e1, e2, rangeChecked_eq]
  by_cases hk : InRange32 k <;> simp [hk]

theorem int_full_range_total {reg : Reg} {n : String} (hn : reg.get? n = some .int) (vars : Option (List (String × PV))) (k : Int) :
    (coerceValueT reg (.named n) (.int k) = .ok (.int k) ↔ InRange32 k) ∧
    (valueFromAstT reg vars (.named n) (.int k) = .ok (.int k) ↔ InRange32 k) := by
  have h1 : fuelFor reg (.named n) (sizeOf (JV.int k)) = (fuelFor reg (.named n) (sizeOf (JV.int k)) - 1) + 1 := by
    simp only [fuelFor, Ty.size]; omega
  have h2 : fuelFor reg (.named n) (sizeOf (Lit.int k)) = (fuelFor reg (.named n) (sizeOf (Lit.int k)) - 1) + 1 := by
    simp only [fuelFor, Ty.size]; omega
  unfold coerceValueT valueFromAstT
  rw [h1, h2]
  exact ⟨(int_full_range hn vars _ k).1, (int_full_range hn vars _ k).2.1⟩

end

end PyGql.Props.C07
