/-
  C06 - property theorems: the memo is keyed on the TRIPLE (field map, fragment, mutually exclusive).

  Seeded change C06-11 replaces the set of triples by a map (field map, fragment) ↦ exclusivity with an inverted
  coverage test, so that a comparison made under MUTUALLY EXCLUSIVE parents (response shapes only) hides a later one under
  OVERLAPPING parents (names and arguments too). The model `Validate/OverlapMemo.lean` tests `(ssid, name, me) ∈ c.ffp`
  - the triple, like the code - and `overlap_memo_complete` is proved for exactly that key. The document of the seeded
  change, in all six orders of its three same-key selections:

      { pet { ... on Dog { owner { label } }  ... on Cat { owner { ...Y } }  ... on Dog { owner { ...Y } } } }
      fragment Y on Human { label: nickname }

  `memo_modes_reported`: the memoised rule reports in every order (by evaluation); `memo_modes_invalid`: hence the
  clause of 5.3.2 fails in every order (`overlap_memo_report_genuine`). The correspondence runs the same family on the
  real validator on every run (`corr/C06.py: memo_mode_table`, 152 documents).
-/
import PyGqlModel.Props.C06_overlap_memo
import PyGqlModel.Validate.OverlapMemoPairKeyed
namespace PyGql.Props.C06
open PyGql PyGql.Validate PyGql.Validate.Spec

/-- `type Query { pet: Pet } interface Pet { owner: Human } type Human { label: String nickname: String }
    type Dog implements Pet { owner: Human } type Cat implements Pet { owner: Human }` -/
def pSchema : SchemaD :=
  { types := [
      { kind := .scalar, name := "Int" }, { kind := .scalar, name := "String" }, { kind := .scalar, name := "Boolean" },
      { kind := .object, name := "Query", fields := [{ name := "pet", type := .named "Pet" }] },
      { kind := .interface, name := "Pet", fields := [{ name := "owner", type := .named "Human" }] },
      { kind := .object, name := "Human", fields := [
          { name := "label", type := .named "String" }, { name := "nickname", type := .named "String" }] },
      { kind := .object, name := "Dog", interfaces := ["Pet"], fields := [{ name := "owner", type := .named "Human" }] },
      { kind := .object, name := "Cat", interfaces := ["Pet"], fields := [{ name := "owner", type := .named "Human" }] }],
    query := some "Query",
    directives := [] }

def pF1 : Sel := .inline (some "Dog") [] 10 [.field none "owner" [] [] true 11 [fld none "label"]]
def pF2 : Sel := .inline (some "Cat") [] 20 [.field none "owner" [] [] true 21 [sp "Y"]]
def pF3 : Sel := .inline (some "Dog") [] 30 [.field none "owner" [] [] true 31 [sp "Y"]]

def pDoc (a b c : Sel) : Doc :=
  ⟨[opV [] 1 [.field none "pet" [] [] true 2 [a, b, c]], .frag "Y" "Human" [] 40 [fld (some "label") "nickname"]]⟩

/-- the six orders -/
def pDocs : List Doc :=
  [pDoc pF1 pF2 pF3, pDoc pF1 pF3 pF2, pDoc pF2 pF1 pF3, pDoc pF2 pF3 pF1, pDoc pF3 pF1 pF2, pDoc pF3 pF2 pF1]

/-- **the memoised rule reports the conflict in every order of the selections** - in particular in the three orders
    in which (owner{label}, Y) is first compared under the mutually exclusive pair Dog / Cat -/
theorem memo_modes_reported : ∀ dd ∈ pDocs, 0 < (overlapMemoRun pSchema Fixes.all dd).1 := by decide +kernel

/-- hence the document violates 5.3.2 in every order -/
theorem memo_modes_invalid : ∀ dd ∈ pDocs, ¬ Spec.overlappingFieldsCanBeMerged pSchema dd := fun dd hd =>
  overlap_memo_report_genuine pSchema Fixes.all rfl dd (memo_modes_reported dd hd)

/-- the valid twin (third selection under a third, mutually exclusive, object type - here: Cat twice, Dog once with the
    plain field) is silent: `... on Dog { owner { label } } ... on Cat { owner { ...Y } } ... on Cat { owner { ...Y } }` -/
example : (overlapMemoRun pSchema Fixes.all
    (pDoc pF1 pF2 (.inline (some "Cat") [] 30 [.field none "owner" [] [] true 31 [sp "Y"]]))).1 = 0 := by decide +kernel

/-! ### why the flag belongs to the key

`Validate/OverlapMemoPairKeyed.lean` is the search with the memo of seeded change C06-11 (pair-keyed map with the coverage
test `previous or not mutually_exclusive`). On the same six documents it is SILENT in exactly the three orders in which
the Cat selection precedes the second Dog selection - the verdict depends on the order of the selections, and an invalid
document is accepted; the triple-keyed search of /repo reports in all six (`memo_modes_reported`). -/

/-- the pair-keyed variant accepts the (invalid) document in three of the six orders -/
theorem pair_keyed_memo_loses_report :
    pDocs.map (fun dd => decide ((overlapPairRun pSchema Fixes.all dd).1 = 0)) = [true, false, true, true, false, false] := by
  decide +kernel

/-- ... so it is not verdict-neutral, and not invariant under reordering selections: witness orders f1 f2 f3 / f1 f3 f2 -/
theorem pair_keyed_memo_order_dependent :
    (overlapPairRun pSchema Fixes.all (pDoc pF1 pF2 pF3)).1 = 0 ∧ 0 < (overlapPairRun pSchema Fixes.all (pDoc pF1 pF3 pF2)).1 ∧
    0 < (overlapMemoRun pSchema Fixes.all (pDoc pF1 pF2 pF3)).1 := by
  have h := pair_keyed_memo_loses_report
  injection h with h1 h
  injection h with h2 _
  exact ⟨of_decide_eq_true h1, Nat.pos_of_ne_zero (of_decide_eq_false h2), memo_modes_reported _ (List.mem_cons_self ..)⟩

end PyGql.Props.C06
