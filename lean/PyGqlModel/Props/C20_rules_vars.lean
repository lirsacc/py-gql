/-
  C20 — "no breaking change reported ⇒ operations stay valid": **VariablesInAllowedPosition (5.8.5, as implemented)**
  is preserved: `nobreaking_variablesInAllowedPosition`.

  Every usage `($x, position)` of the document on the NEW schema corresponds to a usage of the same variable in the
  same definition on the OLD schema whose position expects an at-least-as-strict type (`URel`: `sub old new`, and a
  default that made a non-null position optional is kept) — through argument positions (`argPos_rel`), list items
  (`listItemPos_rel`) and input object fields (`objFieldPos_rel`), at any nesting depth (`usesValue_rel`).
  At an input position `Schema.is_subtype` is the structural strictness order (`isSubtype_eq_sub`: scalars, enums and
  input objects have no subtypes), which is transitive: `vt ≤ old ≤ new`.

  Besides the hypotheses of `nobreaking_valuesOfCorrectType`, the statement needs ValuesOfCorrectType ITSELF on the
  old schema: an object literal with an UNDEFINED field `{ f(a: {nope: $v}) }` has no expected type for `$v`
  (nothing is checked); adding an optional input field `nope` is not breaking, and then `$v` is checked against it.
-/
import PyGqlModel.Lemmas.C20VarUsages

set_option linter.unusedSimpArgs false

namespace PyGql.Props.C20
open PyGql PyGql.Differ PyGql.Diff PyGql.Validate PyGql.Validate.Spec

private theorem varDefFor_node (d : Doc) (op x : String) (vd : VarDef) (hvd : varDefFor d op x = some vd) :
    Node.varDef vd ∈ nodes d := by
  unfold varDefFor at hvd
  have hm := List.mem_of_find?_eq_some hvd
  rw [List.mem_reverse] at hm
  obtain ⟨df, hdf, hin⟩ := List.mem_flatMap.mp hm
  unfold nodes
  apply List.mem_cons_of_mem
  apply List.mem_flatMap.mpr
  refine ⟨df, hdf, ?_⟩
  by_cases hk : df.opKey? = some op
  · rw [if_pos hk] at hin
    cases df with
    | op kind name vars dirs ssid sels =>
      have hin' : vd ∈ vars := hin
      unfold defNodes
      apply List.mem_cons_of_mem
      apply List.mem_append_left
      apply List.mem_append_left
      exact List.mem_flatMap.mpr ⟨vd, hin', by unfold varDefNodes; exact List.mem_cons_self⟩
    | frag name on dirs ssid sels => simp [Def.vars] at hin
    | ts a b => simp [Def.vars] at hin
  · rw [if_neg hk] at hin; simp at hin

/-- **VariablesInAllowedPosition (5.8.5, as implemented) is preserved**: with no BREAKING change reported, every
    variable usage of a document valid on the old schema is still allowed at its position. -/
theorem nobreaking_variablesInAllowedPosition (o n : SchemaD) (h : diffSchema o n 2 = []) (wo : OldWf o)
    (wn : NewWf n) (woi : OldWfIn o) (fx : Fixes) (hv9 : fx.v9 = true) (d : Doc) (hR : OpsRooted o d)
    (hv : SchemaRules o d) (hval : valuesOfCorrectType o fx d) (hpos : variablesInAllowedPosition o d) :
    variablesInAllowedPosition n d := by
  intro op x u' vd hused hvd
  -- the corresponding usage on the old schema
  have hex : ∃ u, UsedAt o d op x u ∧ URel o u u' := by
    rcases hused with ⟨df, hdf, hk, hm⟩ | ⟨f, hreach, df, hdf, hk, hm⟩
    · obtain ⟨u, hu, hrel⟩ := defUsages_rel o n h wo wn woi fx hv9 d hR hv hval df hdf x u' hm
      exact ⟨u, Or.inl ⟨df, hdf, hk, hu⟩, hrel⟩
    · obtain ⟨u, hu, hrel⟩ := defUsages_rel o n h wo wn woi fx hv9 d hR hv hval df hdf x u' hm
      exact ⟨u, Or.inr ⟨f, hreach, df, hdf, hk, hu⟩, hrel⟩
  obtain ⟨u, hu, hin, hloc⟩ := hex
  have hold := hpos op x u vd hu hvd
  -- the declared type exists on both schemas
  obtain ⟨t, ht, _⟩ := hv.variablesAreInputTypes _ (varDefFor_node d op x vd hvd) vd rfl
  have hto : typeFromAst o vd.type = some vd.type := by
    unfold typeFromAst at ht ⊢
    by_cases hf : (o.findType vd.type.base).isSome = true
    · rw [if_pos hf]
    · rw [if_neg hf] at ht; cases ht
  intro it' hit' vt hvt
  have hvt' : vt = vd.type := by
    unfold typeFromAst at hvt
    by_cases hf : (n.findType vd.type.base).isSome = true
    · rw [if_pos hf] at hvt; exact (Option.some.inj hvt).symm
    · rw [if_neg hf] at hvt; cases hvt
  subst hvt'
  obtain ⟨it, hx, hl, hi⟩ := hin.of_new hit'
  have hold' := hold it hx vd.type hto
  cases hnn : vd.type.isNonNull with
  | true =>
    -- a non-null variable: plain subtype test on both sides
    have hs : isSubtype o vd.type it = true := by
      cases it with
      | nonNull inner => simpa [hnn] using hold'
      | named a => simpa using hold'
      | list a => simpa using hold'
    have hs' := isSubtype_transport o n h vd.type it _ hl hi hs
    cases it' with
    | nonNull inner' => simpa [hnn] using hs'
    | named a => simpa using hs'
    | list a => simpa using hs'
  | false =>
    cases it with
    | nonNull inner =>
      have ho : (vd.hasNonNullDefault = true ∨ u.locDefault = true) ∧ isSubtype o vd.type inner = true := by
        simpa [hnn] using hold'
      have hi2 : isInputTy o inner = true := hi
      cases it' with
      | nonNull inner' =>
        have hl2 : TyLoose inner inner' := by
          refine ⟨by simpa [sub] using hl.1, ?_⟩
          rcases hl.2 with e | hw
          · left; injection e
          · right; simp [Ty.wf] at hw; exact hw.2
        have hs' := isSubtype_transport o n h vd.type inner inner' hl2 hi2 ho.2
        have hd : vd.hasNonNullDefault = true ∨ u'.locDefault = true := by
          rcases ho.1 with hd | hd
          · exact Or.inl hd
          · exact Or.inr (hloc inner' hit' hd)
        simpa [hnn] using And.intro hd hs'
      | named a =>
        have hl2 : TyLoose inner (.named a) := by
          refine ⟨by simpa [sub] using hl.1, ?_⟩
          rcases hl.2 with e | hw
          · cases e
          · right; simp [Ty.wf] at hw; exact hw.2
        have hs' := isSubtype_transport o n h vd.type inner _ hl2 hi2 ho.2
        simpa using hs'
      | list a =>
        have hl2 : TyLoose inner (.list a) := by
          refine ⟨by simpa [sub] using hl.1, ?_⟩
          rcases hl.2 with e | hw
          · cases e
          · right; simp [Ty.wf] at hw; exact hw.2
        have hs' := isSubtype_transport o n h vd.type inner _ hl2 hi2 ho.2
        simpa using hs'
    | named a =>
      have hs : isSubtype o vd.type (.named a) = true := by simpa using hold'
      have hs' := isSubtype_transport o n h vd.type _ _ hl hi hs
      cases it' with
      | nonNull inner' => have := hl.1; simp [sub] at this
      | named b => simpa using hs'
      | list b => simpa using hs'
    | list a =>
      have hs : isSubtype o vd.type (.list a) = true := by simpa using hold'
      have hs' := isSubtype_transport o n h vd.type _ _ hl hi hs
      cases it' with
      | nonNull inner' => have := hl.1; simp [sub] at this
      | named b => simpa using hs'
      | list b => simpa using hs'

end PyGql.Props.C20
