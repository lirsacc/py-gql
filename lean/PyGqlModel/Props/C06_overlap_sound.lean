/-
  C06 - `OverlappingFieldsCanBeMergedChecker` (5.3.2), the SOUNDNESS half (a silent run implies the clause) on
  documents WITHOUT FRAGMENT SPREADS (inline fragments allowed).
  Side conditions: validation does not raise (`NoCrash`: no `RecursionError` = the model's fuel, no
  `AttributeError`), and the three routes along which the code computes the parent type of a selection set agree
  (`Spec.ParentsAgree`; the code caches the first one). Together with `Props/C06_overlap.lean` this gives the full
  equivalence on such documents. Documents with fragment spreads (the compared-pairs memo and the compared-fragments
  set): `Props/C06_overlap_full.lean`.
-/
import PyGqlModel.Props.C06_overlap
import PyGqlModel.Lemmas.ValidateOverlapPostWalk
namespace PyGql.Props.C06
open PyGql PyGql.Validate PyGql.Validate.Spec

/-- **5.3.2 soundness, spread-free documents (PARTIAL)**: if the rule, run alone, reports nothing and validation does
    not raise, then no selection set of the document contains two conflicting fields -/
theorem rule_overlapping_fields_sound_spreadfree_partial (s : SchemaD) (fx : Fixes) (h7 : fx.v7 = true) (d : Doc)
    (hns : Spec.NoSpreads d) (hpa : Spec.ParentsAgree s d) (hnc : NoCrash s fx d) :
    Silent s fx .overlappingFieldsCanBeMerged d → Spec.overlappingFieldsCanBeMerged s d := by
  intro hs
  exact ov_document_sound_sf s fx d h7 hns hpa hs hnc

/-- **5.3.2 on spread-free documents: the full equivalence** (`OverlapFullStatement` restricted to `NoSpreads`) -/
theorem rule_overlapping_fields_iff_spreadfree_partial (s : SchemaD) (fx : Fixes) (h7 : fx.v7 = true) (d : Doc)
    (hns : Spec.NoSpreads d) (hpa : Spec.ParentsAgree s d) (hnc : NoCrash s fx d) :
    Silent s fx .overlappingFieldsCanBeMerged d ↔ Spec.overlappingFieldsCanBeMerged s d :=
  ⟨rule_overlapping_fields_sound_spreadfree_partial s fx h7 d hns hpa hnc,
   rule_overlapping_fields_can_be_merged_no_false_alarm_partial s fx h7 d⟩

/-- `type Query { a: Int  b: String }`, query root `Query` -/
def oSchema : SchemaD :=
  { types := [
      { kind := .scalar, name := "Int" }, { kind := .scalar, name := "String" },
      { kind := .object, name := "Query", fields := [{ name := "a", type := .named "Int" }, { name := "b", type := .named "String" }] }],
    query := some "Query",
    directives := [] }

/-- `{ a  y: a }` -/
def oDocOk : Doc := ⟨[opV [] 1 [fld none "a", fld (some "y") "a"]]⟩
/-- `{ x: a  x: b }` -/
def oDocBad : Doc := ⟨[opV [] 1 [fld (some "x") "a", fld (some "x") "b"]]⟩

private theorem noSpreads_two (f1 f2 : Sel) (h1 : ∃ al n, f1 = fld al n) (h2 : ∃ al n, f2 = fld al n) :
    Spec.NoSpreads ⟨[opV [] 1 [f1, f2]]⟩ := by
  obtain ⟨al1, n1, rfl⟩ := h1
  obtain ⟨al2, n2, rfl⟩ := h2
  intro n hn name dirs e
  subst e
  simp [nodes, opV, fld, defNodes, selsNodes, selNodes, argsNodes, dirsNodes] at hn

/-- the only selection set of `{ f1 f2 }` is the operation's -/
theorem twoFields_selSet {al1 al2 : Option String} {n1 n2 : String} {i : Nat} {sels : List Sel}
    (hs : SelSet ⟨[opV [] 1 [fld al1 n1, fld al2 n2]]⟩ i sels) : sels = [fld al1 n1, fld al2 n2] := by
  simp [SelSet, nodes, opV, fld, defNodes, selsNodes, selNodes, argsNodes, dirsNodes] at hs
  exact hs.2

/-- ... and neither field has a sub-selection -/
theorem twoFields_noSub {s : SchemaD} {al1 al2 : Option String} {n1 n2 : String} {p : Option String} {rn : String}
    {e : FEntry} (hc : CollD s p [fld al1 n1, fld al2 n2] rn e) : e.hasSub = false := by
  cases hc with
  | field hm =>
    simp only [fld, List.mem_cons, Sel.field.injEq, List.not_mem_nil, or_false] at hm
    rcases hm with ⟨_, _, _, _, rfl, _⟩ | ⟨_, _, _, _, rfl, _⟩ <;> rfl
  | inline hm _ => simp [fld] at hm

theorem parentsAgree_twoFields (f1 f2 : Sel) (h1 : ∃ al n, f1 = fld al n) (h2 : ∃ al n, f2 = fld al n) :
    Spec.ParentsAgree oSchema ⟨[opV [] 1 [f1, f2]]⟩ := by
  obtain ⟨al1, n1, rfl⟩ := h1
  obtain ⟨al2, n2, rfl⟩ := h2
  refine parentsAgree_of_const (T := some "Query") fun i p h => adm_const ?_ ?_ ?_ h
  · intro i sels v hm
    simp only [typedNodes, opV, fld, tnDef, tnSels, tnSel, tnDirs, withView, argsNodes, List.flatMap_cons,
      List.flatMap_nil, List.map_nil, List.append_nil, List.nil_append, Bool.false_eq_true, ↓reduceIte, List.mem_cons,
      Prod.mk.injEq, reduceCtorEq, false_and, false_or, List.not_mem_nil, or_false, List.mem_append] at hm
    obtain ⟨_, rfl⟩ := hm
    show compositeBase oSchema ((rootType oSchema "query").map Ty.named) = some "Query"
    decide
  · intro name on i sels hg
    simp [fragTable, fragDefs, opV, AL.get?_nil] at hg
  · intro i sels rn e hs hc hsub
    rw [twoFields_selSet hs] at hc
    rw [twoFields_noSub hc] at hsub
    cases hsub

/-- `{ a  y: a }`: the hypotheses hold, the rule is silent, and so the clause holds -/
example : Spec.overlappingFieldsCanBeMerged oSchema oDocOk :=
  rule_overlapping_fields_sound_spreadfree_partial oSchema Fixes.all rfl oDocOk
    (noSpreads_two _ _ ⟨_, _, rfl⟩ ⟨_, _, rfl⟩) (parentsAgree_twoFields _ _ ⟨_, _, rfl⟩ ⟨_, _, rfl⟩)
    (by unfold NoCrash; decide +kernel) (by unfold Silent; decide +kernel)

/-- `{ x: a  x: b }`: the hypotheses hold, the rule reports, and the clause fails -/
example : ¬ Spec.overlappingFieldsCanBeMerged oSchema oDocBad := fun h =>
  absurd ((rule_overlapping_fields_iff_spreadfree_partial oSchema Fixes.all rfl oDocBad
    (noSpreads_two _ _ ⟨_, _, rfl⟩ ⟨_, _, rfl⟩) (parentsAgree_twoFields _ _ ⟨_, _, rfl⟩ ⟨_, _, rfl⟩)
    (by unfold NoCrash; decide +kernel)).mpr h) (by unfold Silent; decide +kernel)

end PyGql.Props.C06
