/-
  C09 — top-level mutation fields run strictly one after another in document order.
  Theorems about `executeFieldsSerially` / `serialNext` (the `args` queue + `resolved_fields` state machine
  of `Executor.execute_fields_serially`) under EVERY schedule, and about the blocking executor.
-/
import PyGqlModel.Lemmas.ExecSerial
import PyGqlModel.Lemmas.ExecRun

namespace PyGql.Props.C09
open PyGql.AsyncExec

private theorem denFlds_keys : ∀ (fs : Flds) (kvs : List (String × V)), denFlds fs = some kvs → kvs.map (·.1) = fs.keys
  | .nil, kvs, h => by simp [denFlds] at h; subst h; simp [Flds.keys]
  | .cons key m out rest, kvs, h => by
    simp only [denFlds] at h
    cases ho : denOut out with
    | none => simp [ho] at h
    | some v =>
      cases hr : denFlds rest with
      | none => simp [ho, hr] at h
      | some kvs' => simp [ho, hr] at h; subst h; simp [Flds.keys, denFlds_keys rest kvs' hr]

private theorem mutation_spec (op : Op) (schedule : List Nat) (v : V) (errs : List Err)
    (h : (runAsync op schedule).outcome = .ok v errs) : (denFlds op.fields).map V.obj = some v := by
  have := runAsync_spec op schedule
  rwa [h] at this

/-- Under EVERY schedule and every assignment of resolver modes: when the serial (and
    equally the parallel) executor has produced its result, the response object lists exactly the
    top-level response keys, in document order. -/
theorem keys_in_order (op : Op) (schedule : List Nat) (v : V) (errs : List Err)
    (h : (runAsync op schedule).outcome = .ok v errs) :
    ∃ kvs, v = .obj kvs ∧ kvs.map (·.1) = op.fields.keys := by
  have := mutation_spec op schedule v errs h
  cases hd : denFlds op.fields with
  | none => simp [hd] at this
  | some kvs => simp [hd] at this; exact ⟨kvs, this.symm, denFlds_keys _ _ hd⟩

/-- A top-level field whose resolver raises `ResolverError` — synchronously or
    when its deferred task completes, at any position (`resolved` / `args` arbitrary) — is recorded as
    `null` with an error and the serial routine goes on with the remaining fields `args`; and in the
    specification (hence, by `keys_in_order`/C08, in every result) the later fields keep their values. -/
theorem failure_does_not_stop (path : Path) (key : String) (resolved : List (String × V)) (args : Flds) (s : ExecSt) :
    -- synchronous resolver
    serialNext path resolved (.cons key .sync .rerr args) s
      = serialNext path (resolved ++ [(key, .null)]) args
          (((s.emit (.call (path ++ [.key key]))).emit (.done (path ++ [.key key]))).addError (path ++ [.key key]) .resolver)
    -- deferred resolver: when its task `t` completes with the error, the callback chain continues with `args`
    ∧ (∀ t, (deliver applyCont t
          (.chain (.unwrap (.chain (.unwrap (.task t (path ++ [.key key]) false .rerr)) (.complete (path ++ [.key key]))))
            (.serialCb path key resolved args)) s)
        = (match serialNext path (resolved ++ [(key, .null)]) args
                  ((s.emit (.done (path ++ [.key key]))).addError (path ++ [.key key]) .resolver) with
           | (.ok x, s') => (.done x, s')
           | (.exc e, s') => (.failed e, s')))
    -- specification: the failed field is null, the others are unaffected
    ∧ (∀ m, denFlds (.cons key m .rerr args) = (denFlds args).map ((key, .null) :: ·)) := by
  refine ⟨?_, ?_, ?_⟩
  · simp [serialNext, resolveField, failField]
  · intro t
    simp [deliver, finishTask, unwrapCb, chainOnFinish, applyCont, failField, Node.plain]
    generalize serialNext path _ args _ = q
    rcases q with ⟨r, s'⟩
    cases r <;> rfl
  · intro m
    simp only [denFlds, denOut]; cases denFlds args <;> rfl

/-- The statement on traces: in the trace of EVERY schedule of every mutation, when the resolver of a
    top-level field is invoked, every resolver invoked before (all of them belong to earlier top-level
    fields and their sub-selections) has finished: calls = dones in the prefix. -/
def SerialOrderFull : Prop :=
  ∀ (fields : Flds) (schedule : List Nat) (pre post : List Ev) (k : String),
    (runAsync ⟨.mutation, fields⟩ schedule).trace = pre ++ Ev.call [.key k] :: post →
    ncalls pre = ndones pre

/-- For every mutation, every assignment of resolver modes (sync, deferred, nested
    deferred, already finished), every outcome (values, resolver errors, unexpected exceptions) and EVERY
    schedule: at the position of each top-level `call` in the event trace, the number of resolver
    invocations before it equals the number of resolver completions before it — the resolver of a
    top-level field is never invoked while any resolver of an earlier field or of its sub-selection is
    still outstanding.
    Proof: the balance invariant `calls = dones + |task leaves of the tree|` holds as long as no node has
    literally failed with an unexpected exception (then no further top-level call happens); the serial
    callback fires only when the current field's node has finished, where the tree holds no task. -/
theorem serial_order : SerialOrderFull := by
  intro fields schedule pre post k htrace
  have hx := execute_serial fields
  unfold runAsync at htrace
  cases hr : execute ⟨.mutation, fields⟩ {} with
  | mk r s =>
    rw [hr] at hx htrace
    cases r with
    | exc e => exact hx pre k post htrace
    | ok top =>
      simp only at hx htrace
      exact runSched_serial schedule top s [] hx pre k post htrace

/-- State-machine form, a readable companion of `serial_order`:
    (1) while the node of the current top-level field is pending, completing any task leaves the serial
    callback un-fired; (2) a finished field node (executor built: `flat`) holds NO outstanding task;
    (3) the callback then runs `_next` on `args`, whose head is the next field in document order. -/
theorem serial_order_tree (path : Path) (key : String) (resolved : List (String × V)) (args : Flds)
    (src : Node) (s : ExecSt) :
    (src.isPending = true →
        chainOnFinish applyCont src (.serialCb path key resolved args) s
          = (.chain src (.serialCb path key resolved args), s))
    ∧ (src.finished = true → flat src = true → ntasks src = 0)
    ∧ (∀ v, applyCont (.serialCb path key resolved args) (.ok (.data v)) s
          = serialNext path (resolved ++ [(key, v)]) args s) := by
  refine ⟨?_, ?_, ?_⟩
  · intro h; cases src <;> simp_all [chainOnFinish, Node.isPending, Node.finished]
  · intro hfin hflat
    rcases flat_finished src hflat hfin with ⟨x, rfl⟩ | ⟨x, rfl⟩ | ⟨e, rfl⟩ <;> simp [ntasks]
  · intro v; simp [applyCont]

/-- `BlockingExecutor.execute_fields_serially` is `execute_fields`: field `j+1` is
    resolved in exactly the state that the complete evaluation of field `j` (resolver and whole
    sub-selection) returned — sequential composition, document order. -/
theorem blocking_serial (path : Path) (key : String) (mode : Mode) (out : ROut) (rest : Flds) (s : ExecSt) :
    blockFields path (.cons key mode out rest) s =
      (match blockField (path ++ [.key key]) out s with
       | (.exc e, s1) => (.exc e, s1)
       | (.ok v, s1) =>
         match blockFields path rest s1 with
         | (.exc e, s2) => (.exc e, s2)
         | (.ok kvs, s2) => (.ok ((key, v) :: kvs), s2)) := by
  simp [blockFields]
  generalize blockField _ out s = q
  rcases q with ⟨r, s1⟩
  cases r with
  | exc e => rfl
  | ok v =>
    simp only []
    generalize blockFields path rest s1 = q2
    rcases q2 with ⟨r2, s2⟩
    cases r2 <;> rfl

/-- non-vacuity: `mutation { m1 { c d } m2 }` with `m1`, `c`, `d` deferred and `d` completing before `c`:
    events (is-call, path length) — `m2` (the last call of depth 1) is invoked only after both
    sub-fields of `m1` are done. -/
example :
    let sub := Comp.obj (.cons "c" .deferred (.ok (.leaf 1)) (.cons "d" .deferred (.ok (.leaf 2)) .nil))
    let op : Op := ⟨.mutation, .cons "m1" .deferred (.ok sub) (.cons "m2" .sync (.ok (.leaf 5)) .nil)⟩
    ((runAsync op [0, 1, 0]).trace.map fun e => match e with
        | .call p => (true, p.length) | .done p => (false, p.length))
      = [(true, 1), (false, 1), (true, 2), (true, 2), (false, 2), (false, 2), (true, 1), (false, 1)] := by
  decide +kernel

end PyGql.Props.C09
