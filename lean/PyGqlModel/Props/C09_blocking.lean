/-
  C09 — the trace-level statement of `serial_order` for the BlockingExecutor (`blocking_serial` is the definition unfolded).
  `BlockingExecutor` emits `call p, done p` ADJACENT for every resolver (it returns before anything else happens), so its
  trace is a sequence of such pairs: at every resolver invocation - in particular at every top-level one - everything invoked
  before has finished (`blocking_serial_order`, the same statement as `SerialOrderFull`).
-/
import PyGqlModel.Lemmas.ExecSerial

namespace PyGql.Props.C09
open PyGql.AsyncExec

def pairs : List Path → List Ev
  | [] => []
  | p :: ps => .call p :: .done p :: pairs ps

private theorem pairs_append (a b : List Path) : pairs (a ++ b) = pairs a ++ pairs b := by
  induction a with
  | nil => rfl
  | cons p r ih => simp [pairs, ih]

private theorem pairs_seq {t0 t1 t2 : List Ev} {ps1 ps2 : List Path} (h1 : t1 = t0 ++ pairs ps1) (h2 : t2 = t1 ++ pairs ps2) :
    t2 = t0 ++ pairs (ps1 ++ ps2) := by
  rw [h2, h1, pairs_append, List.append_assoc]

private theorem emit_pair (p : Path) (s : ExecSt) : ((s.emit (.call p)).emit (.done p)).trace = s.trace ++ pairs [p] :=
  List.append_assoc ..

mutual
private theorem blockComp_pairs : ∀ (c : Comp) (path : Path) (s : ExecSt),
    ∃ ps, (blockComp path c s).2.trace = s.trace ++ pairs ps
  | .null, path, s => ⟨[], (List.append_nil _).symm⟩
  | .leaf v, path, s => ⟨[], (List.append_nil _).symm⟩
  | .bad, path, s => ⟨[], (List.append_nil _).symm⟩
  | .nonNull c, path, s => by
    obtain ⟨ps, h⟩ := blockComp_pairs c path s
    refine ⟨ps, ?_⟩
    unfold blockComp
    generalize blockComp path c s = x at h ⊢
    obtain ⟨v | e, s1⟩ := x
    · dsimp only
      split <;> exact h
    · exact h
  | .list items, path, s => by
    obtain ⟨ps, h⟩ := blockItems_pairs items path 0 s
    refine ⟨ps, ?_⟩
    unfold blockComp
    generalize blockItems path 0 items s = x at h ⊢
    obtain ⟨vs | e, s1⟩ := x <;> exact h
  | .obj fields, path, s => by
    obtain ⟨ps, h⟩ := blockFields_pairs fields path s
    refine ⟨ps, ?_⟩
    unfold blockComp
    generalize blockFields path fields s = x at h ⊢
    obtain ⟨kvs | e, s1⟩ := x <;> exact h
private theorem blockItems_pairs : ∀ (cs : Comps) (path : Path) (i : Nat) (s : ExecSt),
    ∃ ps, (blockItems path i cs s).2.trace = s.trace ++ pairs ps
  | .nil, path, i, s => ⟨[], (List.append_nil _).symm⟩
  | .cons c cs, path, i, s => by
    obtain ⟨ps1, h1⟩ := blockComp_pairs c (path ++ [.idx i]) s
    unfold blockItems
    generalize blockComp (path ++ [.idx i]) c s = x at h1 ⊢
    obtain ⟨v | e, s1⟩ := x
    · dsimp only
      obtain ⟨ps2, h2⟩ := blockItems_pairs cs path (i + 1) s1
      generalize blockItems path (i + 1) cs s1 = y at h2 ⊢
      obtain ⟨vs | e, s2⟩ := y <;> exact ⟨ps1 ++ ps2, pairs_seq h1 h2⟩
    · exact ⟨ps1, h1⟩
private theorem blockFields_pairs : ∀ (fs : Flds) (path : Path) (s : ExecSt),
    ∃ ps, (blockFields path fs s).2.trace = s.trace ++ pairs ps
  | .nil, path, s => ⟨[], (List.append_nil _).symm⟩
  | .cons key mode out rest, path, s => by
    obtain ⟨ps1, h1⟩ := blockField_pairs out (path ++ [.key key]) s
    unfold blockFields
    generalize blockField (path ++ [.key key]) out s = x at h1 ⊢
    obtain ⟨v | e, s1⟩ := x
    · dsimp only
      obtain ⟨ps2, h2⟩ := blockFields_pairs rest path s1
      generalize blockFields path rest s1 = y at h2 ⊢
      obtain ⟨kvs | e, s2⟩ := y <;> exact ⟨ps1 ++ ps2, pairs_seq h1 h2⟩
    · exact ⟨ps1, h1⟩
private theorem blockField_pairs : ∀ (out : ROut) (p : Path) (s : ExecSt),
    ∃ ps, (blockField p out s).2.trace = s.trace ++ pairs ps
  | .rerr, p, s => ⟨[p], emit_pair p s⟩
  | .exc, p, s => ⟨[p], emit_pair p s⟩
  | .ok c, p, s => by
    obtain ⟨ps, h⟩ := blockComp_pairs c p ((s.emit (.call p)).emit (.done p))
    exact ⟨[p] ++ ps, pairs_seq (emit_pair p s) h⟩
end

/-- in a sequence of `call p, done p` pairs every `call` is preceded by whole pairs only -/
private theorem pairs_split : ∀ (ps : List Path) (pre post : List Ev) (q : Path),
    pairs ps = pre ++ Ev.call q :: post → ncalls pre = ndones pre
  | [], pre, post, q, h => by simp [pairs] at h
  | p :: ps, pre, post, q, h => by
    cases pre with
    | nil => simp
    | cons e1 pre1 =>
      simp only [pairs, List.cons_append, List.cons.injEq] at h
      obtain ⟨he1, h⟩ := h
      cases pre1 with
      | nil => simp at h
      | cons e2 pre2 =>
        simp only [List.cons_append, List.cons.injEq] at h
        obtain ⟨he2, h⟩ := h
        have ih := pairs_split ps pre2 post q h
        subst he1 he2
        simp [ncalls, ndones, List.filter_cons, isCall, isDone] at ih ⊢
        exact ih

/-- `BlockingExecutor` (queries and mutations alike, `execute_fields_serially` aliases
    `execute_fields`): at every resolver invocation of the trace - in particular at every top-level one - every resolver
    invoked before has finished. -/
theorem blocking_serial_order (kind : OpKind) (fields : Flds) (pre post : List Ev) (q : Path)
    (h : (runBlocking ⟨kind, fields⟩).trace = pre ++ Ev.call q :: post) : ncalls pre = ndones pre := by
  obtain ⟨ps, hp⟩ := blockFields_pairs fields [] {}
  unfold runBlocking at h
  cases hr : blockFields [] fields {} with
  | mk r s =>
    rw [hr] at hp h
    have ht : s.trace = pairs ps := by simpa using hp
    cases r <;> (simp only at h; rw [ht] at h; exact pairs_split ps pre post q h)

/-- non-vacuity: `mutation { m1 { c } m2 }` -/
example : (runBlocking ⟨.mutation, .cons "m1" .deferred (.ok (.obj (.cons "c" .deferred (.ok (.leaf 1)) .nil)))
      (.cons "m2" .sync (.ok (.leaf 5)) .nil)⟩).trace
    = [.call [.key "m1"], .done [.key "m1"], .call [.key "m1", .key "c"], .done [.key "m1", .key "c"],
       .call [.key "m2"], .done [.key "m2"]] := by decide +kernel

end PyGql.Props.C09
