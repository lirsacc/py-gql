/-
  C02, last clause at CHARACTER level THROUGH THE `parse` ENTRY POINT, for the node kinds that have no entry point of
  their own (selection sets, fields / fragment spreads / inline fragments, arguments, directives, descriptions):
  `span_reparse_node` covers them at grammar level; here the spanned text, wrapped in the MINIMAL CONTEXT that makes it
  a document, is accepted by `parse` under the same flags and the document returned contains the node, moved by the
  offset of the context ("equal modulo offset": `mapLoc (locDown a)` then `mapLoc (locUp k)`, `k` = length of the prefix).

      selection set   σ                      the text itself is the query shorthand
      selection       `{ σ⏎}`                field, fragment spread or inline fragment
      directive       `{ a σ⏎}`              a directive of the field `a`
      argument        `{ a(σ⏎)}`             an argument of the field `a`
      description     `σ⏎scalar A`           the description of the scalar `A` (flags with `allow_type_system`)
      object field    `{ σ⏎}`                through `parse_value`: a field of an input-object literal
      variable def.   `query(σ⏎){a}`         a variable definition of the query
      field def. / input value def. / enum value def.   `type A {σ⏎}` / `input A {σ⏎}` / `enum A {σ⏎}`
      operation type def.   `schema {σ⏎}`    name   `{ σ⏎}` (the field of that name)

  `⏎` is a line feed: the spanned text ends with its last token, and a line feed satisfies every follow restriction of
  the lexical grammar (a space would do as well; ignored characters are insignificant — `lex_ignored_invariant`).
  The side hypotheses `wf… = true` hold for every node of a parsed document (`parse_sound_document`); they are
  hypotheses only because the concrete-syntax view cannot tell e.g. the ill-formed enum value `true` from the boolean
  (as in `span_reparse_doc_value`).
-/
import PyGqlModel.Props.C02_reparse_doc
import PyGqlModel.Lemmas.SpanCtx
namespace PyGql.Props.C02
open PyGql PyGql.Ast PyGql.Parse PyGql.Spec PyGql.Props.C01
open PyGql.Spec.Lexical (Tiles TilesAt slice eofT)

private theorem locOf_eq (fl : Flags) (hnl : fl.noLocation = false) (f l : Tok) : locOf fl f l = some (f.start, l.stop) := by
  simp [locOf, hnl]

/-- the core with the matcher freed from its surroundings: `j0`, the node moved down to offset 0, then moved in any way,
    derives the tokens of the slice moved likewise, whatever precedes and follows -/
private theorem doc_ctx (fl : Flags) (s : Text) (d : Document) (h : parseText fl s = some d)
    (x : Definition) (hx : x ∈ d.definitions) (j : Item) (hs : Item.Sub j (definitionV x))
    (a b : Nat) (is : List Item) (hj : j = .node (some (a, b)) is)
    (j0 : Item) (h0 : j0 = j.mapLoc (locDown a)) (hr : j.rigid = true) :
    a ≤ b ∧ b ≤ s.length ∧ fl.noLocation = false ∧ (slice s a b).length = b - a ∧
      ∃ (seg : List Tok) (f : Tok) (tl : List Tok) (l1 : Tok), Tiles (b - a) (slice s a b) (seg ++ [eofT (b - a)]) ∧ seg = f :: tl ∧
        f.start = 0 ∧ l1.stop = b - a ∧
        ∀ {g : Loc → Loc} {τ : Tok → Tok}, Moves fl g τ → ∀ l rest2,
          (j0.mapLoc g).check fl l (seg.map τ ++ rest2) = some (τ l1, rest2) := by
  obtain ⟨h1, h2, hnl, hlen, hf⟩ := doc_slice h hx hs hj
  subst hj h0
  obtain ⟨f, tl, l1, htl, hl0, hck⟩ := Framed.free (loc := locDown a (some (a, b))) (is := Item.mapLocAll (locDown a) is) hf
    ((solid_mapLoc ..).trans (solid_sub hs (definitionV_solid x))) ((plain_mapLoc ..).trans (plain_of_rigid hr))
  rw [hlen] at htl
  rw [locOf_eq fl hnl] at hl0
  simp only [locDown, Option.some.injEq, Prod.mk.injEq] at hl0
  exact ⟨h1, h2, hnl, hlen, _, f, tl, l1, htl, rfl, by omega, by omega, hck⟩

/-- The context as a parameter.  A rigid node `j` with span `(a, b)` below a definition of an accepted document; a context
    `txt` whose tokens `toks n seg` are known from the tokens `seg` of the text put into it; a well-formed document `D`
    derived by the tokens of the context around the spanned text, given that `j` — moved to offset 0, then in any way —
    derives its own tokens whatever precedes and follows: `parse` returns `D` for the spanned text in the context. -/
private theorem doc_in_ctx {fl : Flags} {s : Text} {d : Document} (h : parseText fl s = some d) {x : Definition}
    (hx : x ∈ d.definitions) {j : Item} (hs : Item.Sub j (definitionV x)) {a b : Nat} {is : List Item}
    (hj : j = .node (some (a, b)) is) (hr : j.rigid = true) {j0 : Item} (h0 : j0 = j.mapLoc (locDown a))
    {txt : Text → Text} {toks : Nat → List Tok → List Tok}
    (htiles : ∀ {n : Nat} {σ : Text} {seg : List Tok}, σ.length = n → Tiles n σ (seg ++ [eofT n]) →
      TilesAt 0 (txt σ) (toks n seg))
    {D : Document} (hwf : wfDocument fl D = true)
    (hm : fl.noLocation = false → ∀ (f : Tok) (tl : List Tok) (l1 : Tok), f.start = 0 → l1.stop = b - a →
      (∀ {g : Loc → Loc} {τ : Tok → Tok}, Moves fl g τ → ∀ l rest2,
        (j0.mapLoc g).check fl l ((f :: tl).map τ ++ rest2) = some (τ l1, rest2)) →
      Matches fl [documentV D] (Lex.sofTok :: toks (b - a) (f :: tl))) :
    a ≤ b ∧ b ≤ s.length ∧ parseText fl (txt (slice s a b)) = some D := by
  obtain ⟨h1, h2, hnl, hlen, seg, f, tl, l1, htl, rfl, hstart, hstop, hck⟩ := doc_ctx fl s d h x hx j hs a b is hj j0 h0 hr
  exact ⟨h1, h2, (parse_text_result fl _ _).2 ⟨_, TilesAt.tiles_zero (htiles hlen htl), hwf, hm hnl f tl l1 hstart hstop hck⟩⟩

private theorem checkAll_step {fl : Flags} {i : Item} {is : List Item} {l l1 : Tok} {ts ts1 : List Tok}
    (h : i.check fl l ts = some (l1, ts1)) : Item.checkAll fl (i :: is) l ts = Item.checkAll fl is l1 ts1 := by
  rw [Item.checkAll, h]

/-- the document `{ sels }` (query shorthand): its selection set, its operation and the document span `(0, m)` -/
def shorthandDoc (sels : List Selection) (m : Nat) : Document :=
  ⟨[.operation ⟨K.query, none, [], [], .mk sels (some (0, m)), some (0, m)⟩], some (0, m)⟩

private theorem wfDocument_single (fl : Flags) (x : Definition) (loc : Loc) (h : wfDefinition fl x = true)
    (hts : fl.allowTypeSystem = true ∨ isTypeSystem x = false) : wfDocument fl ⟨[x], loc⟩ = true := by
  rcases hts with hts | hts <;> simp [wfDocument, h, hts]

private theorem wfDocument_shorthand (fl : Flags) (sel : Selection) (m : Nat) (h : wfSelection sel = true) :
    wfDocument fl (shorthandDoc [sel] m) = true := by
  exact wfDocument_single fl _ _ (by simp [wfDefinition, wfOperation, wfDirectives, wfSelectionSet, wfSelections, h,
    Generated.ParserTables.operationTypeTuple, K.query]) (.inr rfl)

private theorem check_node_of (fl : Flags) (hnl : fl.noLocation = false) {loc : Loc} {is : List Item} {l l' f : Tok}
    {tl rest : List Tok} (h : Item.checkAll fl is l (f :: tl) = some (l', rest))
    (hloc : loc = some (f.start, l'.stop) := by rfl) : (Item.node loc is).check fl l (f :: tl) = some (l', rest) :=
  (check_node ..).2 ⟨f, tl, rfl, h, by rw [locOf_eq fl hnl, hloc]⟩

private theorem checkAll_document_single (fl : Flags) (hnl : fl.noLocation = false) (x : Definition) (m : Nat)
    {ts : List Tok} {l1 : Tok} (hx : (definitionV x).check fl Lex.sofTok ts = some (l1, [eofT m])) :
    Item.checkAll fl [documentV ⟨[x], some (0, m)⟩] default (Lex.sofTok :: ts) = some (eofT m, []) := by
  refine checkAll_single.2 ?_
  simp only [documentV, List.map_cons, List.map_nil]
  refine check_node_of fl hnl ?_
  refine (checkAll_tok fl).trans ?_
  rw [List.cons_append, List.nil_append, checkAll_cons]
  exact ⟨_, _, hx, checkAll_tok fl⟩

/-- `SOF { T } EOF` derives the shorthand document when `T` derives its selections whatever follows -/
private theorem matches_shorthand (fl : Flags) (hnl : fl.noLocation = false) (sels : List Selection) (T : List Tok)
    (m n3 : Nat) (lx : Tok)
    (hx : ∀ l rest2, Item.checkAll fl (selectionsV sels) l (T ++ rest2) = some (lx, rest2)) :
    Matches fl [documentV (shorthandDoc sels m)]
      (Lex.sofTok :: ⟨.curlyL, 0, 1, [123]⟩ :: (T ++ [⟨.curlyR, n3, m, [125]⟩, eofT m])) := by
  apply (matches_iff _ _ _).2
  refine ⟨eofT m, ?_⟩
  have hss : ∀ l, (selectionSetV (.mk sels (some (0, m)))).check fl l
      (⟨.curlyL, 0, 1, [123]⟩ :: (T ++ [⟨.curlyR, n3, m, [125]⟩, eofT m])) = some (⟨.curlyR, n3, m, [125]⟩, [eofT m]) := by
    intro l
    simp only [selectionSetV]
    refine check_node_of fl hnl ?_
    refine (checkAll_tok fl).trans ?_
    rw [checkAll_append]
    refine ⟨_, _, hx _ _, ?_⟩
    exact checkAll_tok fl
  exact checkAll_document_single fl hnl _ m (check_shorthand (hss _))

/-- SELECTIONS (fields, fragment spreads, inline fragments), at any depth of any operation or fragment definition:
    the spanned text between `{ ` and `⏎}` is accepted by `parse` under the same flags, and the result is the shorthand
    query whose only selection is the node, moved to offset 2. -/
theorem span_reparse_selection (fl : Flags) (s : Text) (d : Document) (h : parseText fl s = some d) :
    ∀ x ∈ d.definitions, ∀ sel : Selection, Item.Sub (selectionV sel) (definitionV x) → wfSelection sel = true →
      ∀ a b, sel.loc = some (a, b) →
      a ≤ b ∧ b ≤ s.length ∧
      parseText fl ([123, 32] ++ slice s a b ++ [10, 125]) =
        some (shorthandDoc [(sel.mapLoc (locDown a)).mapLoc (locUp 2)] (b - a + 4)) := by
  intro x hx sel hs hwf a b hloc
  obtain ⟨is, hnode⟩ := selectionV_node sel
  refine doc_in_ctx h hx hs (hloc ▸ hnode) (selectionV_rigid _) (selectionV_mapLoc _ _) tiles_braces
    (wfDocument_shorthand fl _ _ (by simp only [wfSelection_mapLoc, hwf])) fun hnl f tl l1 _ _ hck => ?_
  refine matches_shorthand fl hnl _ ((f :: tl).map (Tok.up 2)) (b - a + 4) (b - a + 3) (l1.up 2) fun l rest2 => ?_
  simp only [selectionsV]
  refine checkAll_single.2 ?_
  rw [selectionV_mapLoc]
  exact hck (moves_up fl 2) l rest2

/-- SELECTION SETS need no context: the spanned text `{ … }` is the query shorthand. `parse` accepts it under the same
    flags and returns the one-operation document whose selection set is the node, moved to offset 0. -/
theorem span_reparse_selection_set (fl : Flags) (s : Text) (d : Document) (h : parseText fl s = some d) :
    ∀ x ∈ d.definitions, ∀ ss : SelectionSet, Item.Sub (selectionSetV ss) (definitionV x) → wfSelectionSet ss = true →
      ∀ a b, ss.loc = some (a, b) →
      a ≤ b ∧ b ≤ s.length ∧
      parseText fl (slice s a b) =
        some ⟨[.operation ⟨K.query, none, [], [], ss.mapLoc (locDown a), some (0, b - a)⟩], some (0, b - a)⟩ := by
  intro x hx ss hs hwf a b hloc
  obtain ⟨is, hnode⟩ := selectionSetV_node ss
  obtain ⟨h1, h2, hnl, hlen, hf⟩ := doc_slice h hx hs (hloc ▸ hnode)
  rw [← selectionSetV_mapLoc] at hf
  have hf := hf.shorthand
  have hl : (ss.mapLoc (locDown a)).loc = some (0, b - a) := by
    cases ss with | mk sels loc => cases hloc; simp [SelectionSet.mapLoc, SelectionSet.loc, locDown]
  rw [hl] at hf
  refine ⟨h1, h2, (parseText_iff ..).2 ⟨?_, hf, by simp [locOf, hnl, Lex.sofTok, eofT, hlen]⟩⟩
  exact wfDocument_single fl _ _ (by simp [wfDefinition, wfOperation, wfDirectives, wfSelectionSet_mapLoc, hwf,
    Generated.ParserTables.operationTypeTuple, K.query]) (.inr rfl)

private def nmA (x y : Nat) : Name := ⟨[97], some (x, y)⟩
private def tokA : Tok := ⟨.name, 2, 3, [97]⟩

private theorem nameV_a (fl : Flags) (hnl : fl.noLocation = false) (l : Tok) (rest : List Tok) :
    (nameV (nmA 2 3)).check fl l (tokA :: rest) = some (tokA, rest) := by
  simp only [nameV, nmA]
  refine check_node_of fl hnl ?_
  exact checkAll_tok fl

/-- DIRECTIVES (of fields, fragment spreads, inline fragments, operations, fragments, variable definitions and of every
    type-system position): the spanned text `@name(args)` put behind a field name, `{ a σ⏎}`, is accepted by `parse`
    under the same flags, and the result is the shorthand query `{ a @… }` whose field carries exactly that directive,
    moved to offset 4. (`c` = the `Const`-ness of the position the directive came from; any directive is admissible
    on a field.) -/
theorem span_reparse_directive (fl : Flags) (s : Text) (d : Document) (h : parseText fl s = some d) :
    ∀ x ∈ d.definitions, ∀ dir : Directive, Item.Sub (directiveV dir) (definitionV x) → ∀ c, wfDirective c dir = true →
      ∀ a b, dir.loc = some (a, b) →
      a ≤ b ∧ b ≤ s.length ∧
      parseText fl ([123, 32, 97, 32] ++ slice s a b ++ [10, 125]) =
        some (shorthandDoc [.field none (nmA 2 3) [] [(dir.mapLoc (locDown a)).mapLoc (locUp 4)] none (some (2, b - a + 4))]
          (b - a + 6)) := by
  intro x hx dir hs c hwf a b hloc
  refine doc_in_ctx h hx hs (by rw [← hloc]; rfl) (directiveV_rigid _) (directiveV_mapLoc _ _) tiles_field
    (wfDocument_shorthand fl _ _
      (by simp [wfSelection, wfDirectives, wfOptSelectionSet, wfDirective_mapLoc, wfDirective_weaken c dir hwf]))
    fun hnl f tl l1 _ hstop hck => ?_
  refine matches_shorthand fl hnl _ (tokA :: (f :: tl).map (Tok.up 4)) (b - a + 6) (b - a + 5) (l1.up 4) fun l rest2 => ?_
  simp only [selectionsV]
  refine checkAll_single.2 ?_
  have hv : selectionV (.field none (nmA 2 3) [] [(dir.mapLoc (locDown a)).mapLoc (locUp 4)] none (some (2, b - a + 4))) =
      .node (some (2, b - a + 4)) [nameV (nmA 2 3), directiveV ((dir.mapLoc (locDown a)).mapLoc (locUp 4))] := rfl
  rw [hv, check_node]
  refine ⟨tokA, _, rfl, ?_, by rw [locOf_eq fl hnl]; simp [tokA, Tok.up, hstop]⟩
  rw [List.cons_append]
  refine (checkAll_step (nameV_a fl hnl l _)).trans ?_
  exact checkAll_single.2 (by rw [directiveV_mapLoc]; exact hck (moves_up fl 4) _ _)

/-- ARGUMENTS (of fields and of directives, at any depth): the spanned text `name: value` put inside the parentheses of a
    field, `{ a(σ⏎)}`, is accepted by `parse` under the same flags, and the result is the shorthand query `{ a(…) }` whose
    field carries exactly that argument, moved to offset 4. -/
theorem span_reparse_argument (fl : Flags) (s : Text) (d : Document) (h : parseText fl s = some d) :
    ∀ x ∈ d.definitions, ∀ arg : Argument, Item.Sub (argumentV arg) (definitionV x) → ∀ c, wfArgument c arg = true →
      ∀ a b, arg.loc = some (a, b) →
      a ≤ b ∧ b ≤ s.length ∧
      parseText fl ([123, 32, 97, 40] ++ slice s a b ++ [10, 41, 125]) =
        some (shorthandDoc [.field none (nmA 2 3) [(arg.mapLoc (locDown a)).mapLoc (locUp 4)] [] none (some (2, b - a + 6))]
          (b - a + 7)) := by
  intro x hx arg hs c hwf a b hloc
  refine doc_in_ctx h hx hs (by rw [← hloc]; rfl) (argumentV_rigid _) (argumentV_mapLoc _ _) tiles_args
    (wfDocument_shorthand fl _ _
      (by simp [wfSelection, wfDirectives, wfOptSelectionSet, wfArgument_mapLoc, wfArgument_weaken c arg hwf]))
    fun hnl f tl l1 _ _ hck => ?_
  have hm := matches_shorthand fl hnl
    [.field none (nmA 2 3) [(arg.mapLoc (locDown a)).mapLoc (locUp 4)] [] none (some (2, b - a + 6))]
    (tokA :: ⟨.parenL, 3, 4, [40]⟩ :: ((f :: tl).map (Tok.up 4) ++ [⟨.parenR, b - a + 5, b - a + 6, [41]⟩]))
    (b - a + 7) (b - a + 6) ⟨.parenR, b - a + 5, b - a + 6, [41]⟩ ?_
  · simpa [tokA] using hm
  intro l rest2
  simp only [selectionsV]
  refine checkAll_single.2 ?_
  have hv : selectionV (.field none (nmA 2 3) [(arg.mapLoc (locDown a)).mapLoc (locUp 4)] [] none (some (2, b - a + 6))) =
      .node (some (2, b - a + 6)) [nameV (nmA 2 3), p .parenL, argumentV ((arg.mapLoc (locDown a)).mapLoc (locUp 4)),
        p .parenR] := rfl
  rw [hv, check_node]
  refine ⟨tokA, _, rfl, ?_, by rw [locOf_eq fl hnl]; rfl⟩
  rw [List.cons_append, List.cons_append, List.append_assoc]
  refine (checkAll_step (nameV_a fl hnl l _)).trans ?_
  refine (checkAll_tok fl).trans ?_
  refine (checkAll_step (by rw [argumentV_mapLoc]; exact hck (moves_up fl 4) _ _)).trans ?_
  exact checkAll_tok fl

/-- the document `query(vd){a}` with the field `a` at `(k + 9, k + 10)` -/
def queryDoc (vd : VariableDefinition) (k : Nat) : Document :=
  ⟨[.operation ⟨K.query, none, [vd], [],
      .mk [.field none ⟨[97], some (k + 9, k + 10)⟩ [] [] none (some (k + 9, k + 10))] (some (k + 8, k + 11)),
      some (0, k + 11)⟩], some (0, k + 11)⟩

/-- VARIABLE DEFINITIONS (of operations and, with `experimental_fragment_variables`, of fragments): the spanned text
    `$v: T = default @dirs` put inside `query(σ⏎){a}` is accepted by `parse` under the same flags, and the result is the query
    whose only variable definition is the node, moved to offset 6. -/
theorem span_reparse_variable_definition (fl : Flags) (s : Text) (d : Document) (h : parseText fl s = some d) :
    ∀ x ∈ d.definitions, ∀ vd : VariableDefinition, Item.Sub (variableDefinitionV vd) (definitionV x) →
      wfVariableDefinition vd = true → ∀ a b, vd.loc = some (a, b) →
      a ≤ b ∧ b ≤ s.length ∧
      parseText fl ([113, 117, 101, 114, 121, 40] ++ slice s a b ++ [10, 41, 123, 97, 125]) =
        some (queryDoc ((vd.mapLoc (locDown a)).mapLoc (locUp 6)) (b - a)) := by
  intro x hx vd hs hwf a b hloc
  refine doc_in_ctx h hx hs (by rw [← hloc]; rfl) (variableDefinitionV_rigid _) (variableDefinitionV_mapLoc _ _) tiles_query
    (wfDocument_single fl _ _ (by simp [wfDefinition, wfOperation, wfDirectives, wfSelectionSet, wfSelections,
      wfSelection, wfOptSelectionSet, wfVariableDefinition_mapLoc, hwf, Generated.ParserTables.operationTypeTuple, K.query])
      (.inr rfl))
    fun hnl f tl l1 _ _ hck => (matches_iff _ _ _).2 ⟨eofT (b - a + 11), ?_⟩
  -- document, operation `query ( vd ) { a }`
  refine checkAll_document_single fl hnl _ _ (l1 := ⟨.curlyR, b - a + 10, b - a + 11, [125]⟩) ?_
  simp only [definitionV]
  have hv : operationV ⟨K.query, none, [(vd.mapLoc (locDown a)).mapLoc (locUp 6)], [],
      .mk [.field none ⟨[97], some (b - a + 9, b - a + 10)⟩ [] [] none (some (b - a + 9, b - a + 10))]
        (some (b - a + 8, b - a + 11)), some (0, b - a + 11)⟩ =
      .node (some (0, b - a + 11)) [kw K.query, p .parenL,
        variableDefinitionV ((vd.mapLoc (locDown a)).mapLoc (locUp 6)), p .parenR,
        .node (some (b - a + 8, b - a + 11)) [p .curlyL,
          .node (some (b - a + 9, b - a + 10)) [nameV ⟨[97], some (b - a + 9, b - a + 10)⟩], p .curlyR]] := rfl
  rw [hv]
  refine check_node_of fl hnl ?_
  refine (checkAll_tok fl).trans ?_
  refine (checkAll_tok fl).trans ?_
  refine (checkAll_step (by rw [variableDefinitionV_mapLoc]; exact hck (moves_up fl 6) _ _)).trans ?_
  refine (checkAll_tok fl).trans ?_
  -- the selection set `{ a }`: its field is a node around the name node around the token `a`
  refine checkAll_single.2 (check_node_of fl hnl ?_)
  refine (checkAll_tok fl).trans ?_
  refine (checkAll_step (check_node_of fl hnl (checkAll_single.2 (check_node_of fl hnl (checkAll_tok fl))))).trans ?_
  exact checkAll_tok fl

/-- OBJECT FIELDS (`name: value` inside an input-object literal, at any depth of any value): the spanned text between `{ `
    and `⏎}` is accepted by `parse_value` under the same flags, and the result is the object literal whose only field is the
    node, moved to offset 2. -/
theorem span_reparse_object_field (fl : Flags) (s : Text) (d : Document) (h : parseText fl s = some d) :
    ∀ x ∈ d.definitions, ∀ f : ObjectField, Item.Sub (objectFieldV f) (definitionV x) → ∀ c, wfField c f = true →
      ∀ name value a b, f = .mk name value (some (a, b)) →
      a ≤ b ∧ b ≤ s.length ∧
      parseValueText fl ([123, 32] ++ slice s a b ++ [10, 125]) =
        some (.object [(f.mapLoc (locDown a)).mapLoc (locUp 2)] (some (0, b - a + 4))) := by
  intro x hx f hs c hwf name value a b hf
  subst hf
  have hnode : objectFieldV (.mk name value (some (a, b))) = .node (some (a, b)) [nameV name, p .colon, valueV value] := by
    simp [objectFieldV]
  obtain ⟨h1, h2, hnl, hlen, seg, f0, tl, l1, htl, hseg, hstart, hstop, hck⟩ := doc_ctx fl s d h x hx _ hs a b _ hnode
    _ (objectFieldV_mapLoc _ _) (objectFieldV_rigid _)
  refine ⟨h1, h2, ?_⟩
  apply (parse_value_text_result fl _ _).2
  refine ⟨_, TilesAt.tiles_zero (tiles_braces hlen htl), ?_, (matches_iff _ _ _).2 ⟨eofT (b - a + 4), ?_⟩⟩
  · have := wfValue_of_const c value (by simpa [wfField] using hwf)
    simp [wfValue, wfFields, wfField, ObjectField.mapLoc, wfValue_mapLoc, this]
  · refine (checkAll_tok fl).trans ?_
    rw [checkAll_cons]
    refine ⟨⟨.curlyR, b - a + 3, b - a + 4, [125]⟩, [eofT (b - a + 4)], ?_, ?_⟩
    · simp only [valueV, fieldsV]
      refine check_node_of fl hnl ?_
      refine (checkAll_tok fl).trans ?_
      rw [List.cons_append, List.nil_append]
      refine (checkAll_step (by rw [objectFieldV_mapLoc]; exact hck (moves_up fl 2) _ _)).trans ?_
      exact checkAll_tok fl
    · exact checkAll_tok fl

/-- DESCRIPTIONS (of type definitions, field definitions, argument definitions, enum values, directive definitions; quoted
    or block strings — indeed every string node): under flags that allow the type system, the spanned text followed by
    `⏎scalar A` is accepted by `parse`, and the result is the one-definition document `scalar A` whose description is
    exactly that string node, moved to offset 0. -/
theorem span_reparse_description (fl : Flags) (hts : fl.allowTypeSystem = true) (s : Text) (d : Document)
    (h : parseText fl s = some d) :
    ∀ x ∈ d.definitions, ∀ sv : StringValue, Item.Sub (stringV sv) (definitionV x) → ∀ a b, sv.loc = some (a, b) →
      a ≤ b ∧ b ≤ s.length ∧
      parseText fl (slice s a b ++ 10 :: [115, 99, 97, 108, 97, 114, 32, 65]) =
        some ⟨[.scalarTypeDefinition (some (sv.mapLoc (locDown a))) ⟨[65], some (b - a + 8, b - a + 9)⟩ []
          (some (0, b - a + 9))], some (0, b - a + 9)⟩ := by
  intro x hx sv hs a b hloc
  refine doc_in_ctx h hx hs (by rw [← hloc]; rfl) (stringV_rigid _) (stringV_mapLoc _ _) tiles_scalar
    (wfDocument_single fl _ _ (by simp [wfDefinition, wfDirectives]) (.inl hts))
    fun hnl f tl l1 hstart _ hck => (matches_iff _ _ _).2 ⟨eofT (b - a + 9), ?_⟩
  refine checkAll_document_single fl hnl _ _ (l1 := ⟨.name, b - a + 8, b - a + 9, [65]⟩) ?_
  simp only [definitionV, descV, optV, directivesV, List.cons_append, List.nil_append]
  refine check_node_of fl hnl ?_ (by rw [hstart])
  have hsv := hck (moves_id fl) Lex.sofTok
    [⟨.name, b - a + 1, b - a + 7, [115, 99, 97, 108, 97, 114]⟩, ⟨.name, b - a + 8, b - a + 9, [65]⟩, eofT (b - a + 9)]
  rw [mapLoc_id, List.map_id] at hsv
  refine (checkAll_step hsv).trans ?_
  refine (checkAll_tok fl).trans ?_
  refine checkAll_single.2 ?_
  simp only [nameV]
  exact check_node_of fl hnl (checkAll_tok fl)

/-- `SOF k A { T } EOF` derives the one-definition document whose definition's view is `k A { j }`, when `T` derives `j`
    whatever follows -/
private theorem matches_kwA_block (fl : Flags) (hnl : fl.noLocation = false) (k : Text) (kl : Nat) (x : Definition)
    (j' : Item) (T : List Tok) (n : Nat) (l1 : Tok)
    (hv : definitionV x = .node (some (0, n + kl + 6)) [kw k, nameV ⟨[65], some (kl + 1, kl + 2)⟩, p .curlyL, j', p .curlyR])
    (hck : ∀ l rest2, j'.check fl l (T ++ rest2) = some (l1, rest2)) :
    Matches fl [documentV ⟨[x], some (0, n + kl + 6)⟩]
      (Lex.sofTok :: ⟨.name, 0, kl, k⟩ :: ⟨.name, kl + 1, kl + 2, [65]⟩ :: ⟨.curlyL, kl + 3, kl + 4, [123]⟩ ::
        (T ++ [⟨.curlyR, n + kl + 5, n + kl + 6, [125]⟩, eofT (n + kl + 6)])) := by
  apply (matches_iff _ _ _).2
  refine ⟨eofT (n + kl + 6), ?_⟩
  refine checkAll_document_single fl hnl x _ (l1 := ⟨.curlyR, n + kl + 5, n + kl + 6, [125]⟩) ?_
  rw [hv]
  refine check_node_of fl hnl ?_
  refine (checkAll_tok fl).trans ?_
  refine (checkAll_step (check_node_of fl hnl (checkAll_tok fl))).trans ?_
  refine (checkAll_tok fl).trans ?_
  refine (checkAll_step (hck _ _)).trans ?_
  exact checkAll_tok fl

private def nmA' (x y : Nat) : Name := ⟨[65], some (x, y)⟩

/-- a rigid node put into the block of `k A {σ⏎}`: `parse` returns the one-definition document of any well-formed
    type-system definition `D` whose view is `k A { the node }` -/
private theorem doc_in_kwA_block {fl : Flags} (hts : fl.allowTypeSystem = true) {s : Text} {d : Document}
    (h : parseText fl s = some d) {x : Definition} (hx : x ∈ d.definitions) {j : Item} (hs : Item.Sub j (definitionV x))
    {a b : Nat} {is : List Item} (hj : j = .node (some (a, b)) is) (hr : j.rigid = true) {j0 : Item}
    (h0 : j0 = j.mapLoc (locDown a)) (k : Text) (kl : Nat) (hkl : k.length = kl) (hk : Spec.Lexical.isName k = true)
    (D : Definition) (hwf : wfDefinition fl D = true)
    (hv : definitionV D = .node (some (0, b - a + kl + 6))
      [kw k, nameV ⟨[65], some (kl + 1, kl + 2)⟩, p .curlyL, j0.mapLoc (locUp (kl + 4)), p .curlyR]) :
    a ≤ b ∧ b ≤ s.length ∧
      parseText fl (k ++ [32, 65, 32, 123] ++ slice s a b ++ [10, 125]) = some ⟨[D], some (0, b - a + kl + 6)⟩ :=
  doc_in_ctx h hx hs hj hr h0 (tiles_kwA_block k kl hkl hk) (wfDocument_single fl _ _ hwf (.inl hts))
    fun hnl _ _ l1 _ _ hck => matches_kwA_block fl hnl k kl D _ _ (b - a) (l1.up (kl + 4)) hv (hck (moves_up fl (kl + 4)))

/-- FIELD DEFINITIONS (of object / interface type definitions and extensions): the spanned text inside `type A {σ⏎}` is
    accepted by `parse` (flags with `allow_type_system`), and the result is the type `A` whose only field definition is the
    node, moved to offset 8. -/
theorem span_reparse_field_definition (fl : Flags) (hts : fl.allowTypeSystem = true) (s : Text) (d : Document)
    (h : parseText fl s = some d) :
    ∀ x ∈ d.definitions, ∀ fd : FieldDefinition, Item.Sub (fieldDefinitionV fd) (definitionV x) →
      wfFieldDefinition fd = true → ∀ a b, fd.loc = some (a, b) →
      a ≤ b ∧ b ≤ s.length ∧
      parseText fl (K.type_ ++ [32, 65, 32, 123] ++ slice s a b ++ [10, 125]) =
        some ⟨[.objectTypeDefinition none (nmA' 5 6) [] [] [(fd.mapLoc (locDown a)).mapLoc (locUp 8)] (some (0, b - a + 4 + 6))],
          some (0, b - a + 4 + 6)⟩ := by
  intro x hx fd hs hwf a b hloc
  exact doc_in_kwA_block hts h hx hs (by rw [← hloc]; rfl) (fieldDefinitionV_rigid _) (fieldDefinitionV_mapLoc _ _)
    K.type_ 4 rfl rfl _ (by simp [wfDefinition, wfDirectives, wfFieldDefinition_mapLoc, hwf])
    (by simp [definitionV, descV, optV, implementsV, directivesV, blockV, nmA', fieldDefinitionV_mapLoc])

/-- INPUT VALUE DEFINITIONS (input fields; the same node kind as argument definitions): inside `input A {σ⏎}` -/
theorem span_reparse_input_value_definition (fl : Flags) (hts : fl.allowTypeSystem = true) (s : Text) (d : Document)
    (h : parseText fl s = some d) :
    ∀ x ∈ d.definitions, ∀ iv : InputValueDefinition, Item.Sub (inputValueV iv) (definitionV x) →
      wfInputValue iv = true → ∀ a b, iv.loc = some (a, b) →
      a ≤ b ∧ b ≤ s.length ∧
      parseText fl (K.input ++ [32, 65, 32, 123] ++ slice s a b ++ [10, 125]) =
        some ⟨[.inputObjectTypeDefinition none (nmA' 6 7) [] [(iv.mapLoc (locDown a)).mapLoc (locUp 9)] (some (0, b - a + 5 + 6))],
          some (0, b - a + 5 + 6)⟩ := by
  intro x hx iv hs hwf a b hloc
  exact doc_in_kwA_block hts h hx hs (by rw [← hloc]; rfl) (inputValueV_rigid _) (inputValueV_mapLoc _ _)
    K.input 5 rfl rfl _ (by simp [wfDefinition, wfDirectives, wfInputValue_mapLoc, hwf])
    (by simp [definitionV, descV, optV, directivesV, blockV, nmA', inputValueV_mapLoc])

/-- ENUM VALUE DEFINITIONS: inside `enum A {σ⏎}` -/
theorem span_reparse_enum_value_definition (fl : Flags) (hts : fl.allowTypeSystem = true) (s : Text) (d : Document)
    (h : parseText fl s = some d) :
    ∀ x ∈ d.definitions, ∀ ev : EnumValueDefinition, Item.Sub (enumValueDefinitionV ev) (definitionV x) →
      wfEnumValueDefinition ev = true → ∀ a b, ev.loc = some (a, b) →
      a ≤ b ∧ b ≤ s.length ∧
      parseText fl (K.enum_ ++ [32, 65, 32, 123] ++ slice s a b ++ [10, 125]) =
        some ⟨[.enumTypeDefinition none (nmA' 5 6) [] [(ev.mapLoc (locDown a)).mapLoc (locUp 8)] (some (0, b - a + 4 + 6))],
          some (0, b - a + 4 + 6)⟩ := by
  intro x hx ev hs hwf a b hloc
  exact doc_in_kwA_block hts h hx hs (by rw [← hloc]; rfl) (enumValueDefinitionV_rigid _) (enumValueDefinitionV_mapLoc _ _)
    K.enum_ 4 rfl rfl _ (by simp [wfDefinition, wfDirectives, wfEnumValueDefinition_mapLoc, hwf])
    (by simp [definitionV, descV, optV, directivesV, blockV, nmA', enumValueDefinitionV_mapLoc])

/-- OPERATION TYPE DEFINITIONS (`query: Q` in a schema definition or extension): inside `schema {σ⏎}` -/
theorem span_reparse_operation_type_definition (fl : Flags) (hts : fl.allowTypeSystem = true) (s : Text) (d : Document)
    (h : parseText fl s = some d) :
    ∀ x ∈ d.definitions, ∀ ot : OperationTypeDefinition, Item.Sub (operationTypeV ot) (definitionV x) →
      wfOperationType ot = true → ∀ a b, ot.loc = some (a, b) →
      a ≤ b ∧ b ≤ s.length ∧
      parseText fl ([115, 99, 104, 101, 109, 97, 32, 123] ++ slice s a b ++ [10, 125]) =
        some ⟨[.schemaDefinition [] [(ot.mapLoc (locDown a)).mapLoc (locUp 8)] (some (0, b - a + 10))], some (0, b - a + 10)⟩ := by
  intro x hx ot hs hwf a b hloc
  refine doc_in_ctx h hx hs (by rw [← hloc]; rfl) (operationTypeV_rigid _) (operationTypeV_mapLoc _ _) tiles_schema_block
    (wfDocument_single fl _ _ (by simp [wfDefinition, wfDirectives, wfOperationType_mapLoc, hwf]) (.inl hts))
    fun hnl f tl l1 _ _ hck => (matches_iff _ _ _).2 ⟨eofT (b - a + 10), ?_⟩
  refine checkAll_document_single fl hnl _ _ (l1 := ⟨.curlyR, b - a + 9, b - a + 10, [125]⟩) ?_
  simp only [definitionV, directivesV, List.map_cons, List.map_nil, List.nil_append, List.cons_append]
  refine check_node_of fl hnl ?_
  refine (checkAll_tok fl).trans ?_
  refine (checkAll_tok fl).trans ?_
  refine (checkAll_step (by rw [operationTypeV_mapLoc]; exact hck (moves_up fl 8) _ _)).trans ?_
  exact checkAll_tok fl

/-- NAMES (of fields, aliases, arguments, directives, variables, types, definitions, …): the spanned text between `{ ` and
    `⏎}` is the shorthand query with the single field of that name -/
theorem span_reparse_name (fl : Flags) (s : Text) (d : Document) (h : parseText fl s = some d) :
    ∀ x ∈ d.definitions, ∀ nm : Name, Item.Sub (nameV nm) (definitionV x) → ∀ a b, nm.loc = some (a, b) →
      a ≤ b ∧ b ≤ s.length ∧
      parseText fl ([123, 32] ++ slice s a b ++ [10, 125]) =
        some (shorthandDoc [.field none ((nm.mapLoc (locDown a)).mapLoc (locUp 2)) [] [] none (some (2, b - a + 2))]
          (b - a + 4)) := by
  intro x hx nm hs a b hloc
  refine doc_in_ctx h hx hs (by rw [← hloc]; rfl) (nameV_rigid _) (nameV_mapLoc _ _) tiles_braces
    (wfDocument_shorthand fl _ _ (by simp [wfSelection, wfDirectives, wfOptSelectionSet]))
    fun hnl f tl l1 hstart hstop hck => ?_
  refine matches_shorthand fl hnl _ ((f :: tl).map (Tok.up 2)) (b - a + 4) (b - a + 3) (l1.up 2) fun l rest2 => ?_
  simp only [selectionsV]
  refine checkAll_single.2 ?_
  have hv : selectionV (.field none ((nm.mapLoc (locDown a)).mapLoc (locUp 2)) [] [] none (some (2, b - a + 2))) =
      .node (some (2, b - a + 2)) [nameV ((nm.mapLoc (locDown a)).mapLoc (locUp 2))] := rfl
  rw [hv, List.map_cons, List.cons_append, check_node]
  refine ⟨_, _, rfl, ?_, by rw [locOf_eq fl hnl]; simp [Tok.up, hstart, hstop]⟩
  refine checkAll_single.2 ?_
  have := hck (moves_up fl 2) l rest2
  rw [← nameV_mapLoc, List.map_cons, List.cons_append] at this
  exact this

/-! ### non-vacuity: `{a(x:[1]) @d ...F}` -/
private def cdoc : Text := [123, 97, 40, 120, 58, 91, 49, 93, 41, 32, 64, 100, 32, 46, 46, 46, 70, 125]

/-- the field `a(x:[1]) @d` spans (1,12): wrapped in `{ ` … `⏎}` it parses to the shorthand query with that field at (2,13) -/
example : (parseText {} ([123, 32] ++ slice cdoc 1 12 ++ [10, 125])).map
    (fun d => d.definitions.map (fun x => match x with
      | .operation o => (match o.selectionSet with | .mk sels l => (sels.map Selection.loc, l))
      | _ => ([], none))) = some [([some (2, 13)], some (0, 15))] := by decide +kernel

/-- the whole selection set (0,18) parses as it stands -/
example : (parseText {} (slice cdoc 0 18)).map (fun d => (d.definitions.map Definition.loc, d.loc)) =
    some ([some (0, 18)], some (0, 18)) := by decide +kernel

/-- the directive `@d` spans (10,12): `{ a @d⏎}` parses to `{ a @d }`, the directive at (4,6), the field at (2,6) -/
example : (parseText {} ([123, 32, 97, 32] ++ slice cdoc 10 12 ++ [10, 125])).map
    (fun d => d.definitions.map (fun x => match x with
      | .operation o => (match o.selectionSet with
        | .mk [.field _ _ _ dirs _ l] _ => (dirs.map (·.loc), l)
        | _ => ([], none))
      | _ => ([], none))) = some [([some (4, 6)], some (2, 6))] := by decide +kernel

/-- the argument `x:[1]` spans (3,8): `{ a(x:[1]⏎)}` parses to `{ a(x:[1]) }`, the argument at (4,9), the field at (2,11) -/
example : (parseText {} ([123, 32, 97, 40] ++ slice cdoc 3 8 ++ [10, 41, 125])).map
    (fun d => d.definitions.map (fun x => match x with
      | .operation o => (match o.selectionSet with
        | .mk [.field _ _ args _ _ l] _ => (args.map (·.loc), l)
        | _ => ([], none))
      | _ => ([], none))) = some [([some (4, 9)], some (2, 11))] := by decide +kernel

/-- `query($v:[I!]=[1] @k){a}`: the variable definition spans (6,20); `query($v:[I!]=[1] @k⏎){a}` parses to the query with that
    variable definition at (6,20), the field `a` at (23,24) -/
private def vdoc : Text := [113, 117, 101, 114, 121, 40, 36, 118, 58, 91, 73, 33, 93, 61, 91, 49, 93, 32, 64, 107, 41, 123, 97, 125]
example : (parseText {} vdoc).map (fun d => d.definitions.map (fun x => match x with
    | .operation o => o.variableDefinitions.map (·.loc) | _ => [])) = some [[some (6, 20)]] := by decide +kernel
example : (parseText {} ([113, 117, 101, 114, 121, 40] ++ slice vdoc 6 20 ++ [10, 41, 123, 97, 125])).map
    (fun d => d.definitions.map (fun x => match x with
      | .operation o => (o.variableDefinitions.map (·.loc), o.loc) | _ => ([], none))) =
    some [([some (6, 20)], some (0, 25))] := by decide +kernel

/-- `{a(x:{k:[1]})}`: the object field `k:[1]` spans (6,11); `{ k:[1]⏎}` is the object literal with that field at (2,7) -/
private def odoc : Text := [123, 97, 40, 120, 58, 123, 107, 58, 91, 49, 93, 125, 41, 125]
example : (parseText {} odoc).isSome = true := by decide +kernel
example : (parseValueText {} ([123, 32] ++ slice odoc 6 11 ++ [10, 125])).map (fun v => match v with
    | .object [.mk _ _ l] l2 => (l, l2)
    | _ => (none, none)) = some (some (2, 7), some (0, 9)) := by decide +kernel

/-- `schema{query:Q}`: the operation type definition `query:Q` spans (7,14); `schema {query:Q⏎}` has it at (8,15); the
    name `schema` (0,6) in `{ schema⏎}` is the field of that name at (2,8) -/
private def sdoc : Text := [115, 99, 104, 101, 109, 97, 123, 113, 117, 101, 114, 121, 58, 81, 125]
private def tsFl0 : Flags := { allowTypeSystem := true }
example : (parseText tsFl0 ([115, 99, 104, 101, 109, 97, 32, 123] ++ slice sdoc 7 14 ++ [10, 125])).map
    (fun d => d.definitions.map (fun x => match x with
      | .schemaDefinition _ ops l => (ops.map OperationTypeDefinition.loc, l) | _ => ([], none))) =
    some [([some (8, 15)], some (0, 17))] := by decide +kernel
example : (parseText {} ([123, 32] ++ slice sdoc 0 6 ++ [10, 125])).map
    (fun d => d.definitions.map (fun x => match x with
      | .operation o => (match o.selectionSet with | .mk sels _ => sels.map Selection.loc)
      | _ => [])) = some [[some (2, 8)]] := by decide +kernel

/-- `type T{"d" f:I}`: the description `"d"` of the field `f` spans (7,10); `"d"⏎scalar A` parses to the scalar `A`
    with that description at (0,3) -/
private def tsdoc : Text := [116, 121, 112, 101, 32, 84, 123, 34, 100, 34, 32, 102, 58, 73, 125]
private def tsFl : Flags := { allowTypeSystem := true }
example : (parseText tsFl tsdoc).isSome = true := by decide +kernel
example : (parseText tsFl (slice tsdoc 7 10 ++ 10 :: [115, 99, 97, 108, 97, 114, 32, 65])).map
    (fun d => d.definitions.map (fun x => match x with
      | .scalarTypeDefinition (some sv) n _ l => (sv.loc, sv.value, n.loc, l)
      | _ => (none, [], none, none))) = some [(some (0, 3), [100], some (11, 12), some (0, 12))] := by rfl

end PyGql.Props.C02
