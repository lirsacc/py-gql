/-
  C06 - `perm_selections` / `perm_arguments` / `alpha_fragments` for
  `ValuesOfCorrectTypeChecker`. The clause `Spec.valuesOfCorrectType` is a statement over the context enumeration
  `gnDoc (IView.enter s) {} d`; the input context does not look at what `Tr` changes (selection order, argument
  order, fragment names), and the nodes the clause constrains (literals, fields of object literals) are untouched by
  `Tr`, so the clause - hence, by `rule_values_of_correct_type_iff`, the verdict of the rule - is invariant
  (`forall_gnDoc_tr`, `Lemmas/ValidateCtxTr.lean`).
-/
import PyGqlModel.Props.C06_values
import PyGqlModel.Props.C06_inv_tr_typed
namespace PyGql.Props.C06
open PyGql PyGql.Validate PyGql.Validate.Spec

theorem iview_enter_tr (T : Tr) (s : SchemaD) (n : Node) (w : IView) : IView.enter s (T.node n) w = IView.enter s n w := by
  cases n with
  | inline on dirs =>
    show ({ w with view := View.enter s (T.node (.inline on dirs)) w.view } : IView) = { w with view := _ }
    rw [view_enter_tr]
  | _ => rfl

theorem valueNodeOk_tr (T : Tr) (s : SchemaD) (fx : Fixes) (n : Node) (w : IView) :
    valueNodeOk s fx (T.node n) w ↔ valueNodeOk s fx n w := by
  cases n <;> first | exact Iff.rfl | (simp only [Tr.node, valueNodeOk])

theorem values_spec_tr (T : Tr) (s : SchemaD) (fx : Fixes) (d : Doc) :
    Spec.valuesOfCorrectType s fx (T.doc d) ↔ Spec.valuesOfCorrectType s fx d := by
  unfold Spec.valuesOfCorrectType inputNodes
  rw [forall_gnDoc_tr T (IView.enter s) (iview_enter_tr T s) d {} (fun p => valueNodeOk s fx p.1 p.2)]
  exact ⟨fun h q hq => (valueNodeOk_tr T s fx q.1 q.2).mp (h q hq), fun h q hq => (valueNodeOk_tr T s fx q.1 q.2).mpr (h q hq)⟩

/-- **the verdict of `ValuesOfCorrectTypeChecker` is invariant under `Tr`** (no hypothesis on `T`, the fixes or the
    document) -/
theorem tr_invariance_values (T : Tr) (s : SchemaD) (fx : Fixes) (d : Doc) :
    Silent s fx .valuesOfCorrectType (T.doc d) ↔ Silent s fx .valuesOfCorrectType d := by
  rw [rule_values_of_correct_type_iff, rule_values_of_correct_type_iff]
  exact values_spec_tr T s fx d

theorem perm_selections_values (π : List Sel → List Sel) (hπ : ∀ l, (π l).Perm l) (s : SchemaD) (fx : Fixes) (d : Doc) :
    Silent s fx .valuesOfCorrectType ((Tr.mk π id id hπ (fun _ => List.Perm.refl _)).doc d) ↔
      Silent s fx .valuesOfCorrectType d :=
  tr_invariance_values _ s fx d

theorem perm_arguments_values (π : List Arg → List Arg) (hπ : ∀ l, (π l).Perm l) (s : SchemaD) (fx : Fixes) (d : Doc) :
    Silent s fx .valuesOfCorrectType ((Tr.mk id π id (fun _ => List.Perm.refl _) hπ).doc d) ↔
      Silent s fx .valuesOfCorrectType d :=
  tr_invariance_values _ s fx d

/-- fragment renaming: not even injectivity is needed for this rule -/
theorem alpha_fragments_values (ρ : String → String) (s : SchemaD) (fx : Fixes) (d : Doc) :
    Silent s fx .valuesOfCorrectType ((Tr.mk id id ρ (fun _ => List.Perm.refl _) (fun _ => List.Perm.refl _)).doc d) ↔
      Silent s fx .valuesOfCorrectType d :=
  tr_invariance_values _ s fx d

/-! instance: reversing every selection list and every argument list -/
example (s : SchemaD) (fx : Fixes) (d : Doc) :
    Silent s fx .valuesOfCorrectType ((Tr.mk List.reverse List.reverse id (fun l => l.reverse_perm)
      (fun l => l.reverse_perm)).doc d) ↔ Silent s fx .valuesOfCorrectType d :=
  tr_invariance_values _ s fx d

/-- both verdicts occur: `{ s(f: true, l: []) }` is reported, so is `{ s(l: [], f: true) }`; `{ s(f: "x") }` passes
    with its arguments and selections reversed -/
example : ¬ Silent vSchema Fixes.all .valuesOfCorrectType
    ((Tr.mk id List.reverse id (fun _ => List.Perm.refl _) (fun l => l.reverse_perm)).doc
      ⟨[opV [] 1 [fld none "s" [⟨"f", .bool true⟩, ⟨"l", .list []⟩]]]⟩) := fun h =>
  absurd ((tr_invariance_values _ vSchema Fixes.all _).mp h) (by unfold Silent; decide +kernel)
example : Silent vSchema Fixes.all .valuesOfCorrectType
    ((Tr.mk List.reverse List.reverse id (fun l => l.reverse_perm) (fun l => l.reverse_perm)).doc
      ⟨[opV [] 1 [fld none "s" [⟨"f", .str "x"⟩]]]⟩) :=
  (tr_invariance_values _ vSchema Fixes.all _).mpr (by unfold Silent; decide +kernel)

end PyGql.Props.C06
