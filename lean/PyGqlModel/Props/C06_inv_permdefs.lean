/-
  C06 - **perm_definitions** (reordering of the definitions of the document) for the rules that need hypotheses of their
  own - `ValuesOfCorrectType` (none), `SingleFieldSubscriptions` (unique fragment names: its fragment
  table keeps the LAST definition of a name), `VariablesInAllowedPosition` (unique operation keys and unique variable
  names: it reads the LAST definition of a variable of an operation key) - and the aggregate over 25 of the 26 rules.
-/
import PyGqlModel.Props.C06_inv_tr_vars
namespace PyGql.Props.C06
open PyGql PyGql.Validate PyGql.Validate.Spec

theorem perm_definitions_values (s : SchemaD) (fx : Fixes) {d d' : Doc} (h : d.defs.Perm d'.defs) :
    Silent s fx .valuesOfCorrectType d ↔ Silent s fx .valuesOfCorrectType d' := by
  rw [rule_values_of_correct_type_iff, rule_values_of_correct_type_iff]
  unfold Spec.valuesOfCorrectType inputNodes
  have hg : ∀ q, q ∈ gnDoc (IView.enter s) {} d ↔ q ∈ gnDoc (IView.enter s) {} d' := fun q => (h.flatMap_right _).mem_iff
  simp only [hg]

/-- name and selections of the fragment definitions -/
def fragSelPairs (d : Doc) : List (String × List Sel) :=
  d.defs.filterMap fun | .frag n _ _ _ sels => some (n, sels) | _ => none

theorem sfsTable_as_pairs (d : Doc) : sfsTable d = (fragSelPairs d).foldl (fun m p => AL.set m p.1 p.2) [] := by
  obtain ⟨ds⟩ := d
  simp only [sfsTable, fragSelPairs]
  generalize ([] : AL (List Sel)) = m
  induction ds generalizing m with
  | nil => rfl
  | cons x xs ih => cases x <;> exact ih _

theorem fragSelPairs_names (d : Doc) : (fragSelPairs d).map (·.1) = Spec.fragNames d := by
  simp only [fragSelPairs, Spec.fragNames, List.map_filterMap]
  congr 1
  funext x
  cases x <;> rfl

theorem sfsTable_perm {d d' : Doc} (h : d.defs.Perm d'.defs) (hnd : Spec.uniqueFragmentNames d) (k : String) :
    AL.get? (sfsTable d) k = AL.get? (sfsTable d') k := by
  rw [sfsTable_as_pairs, sfsTable_as_pairs]
  refine get?_foldl_set_perm (l := fragSelPairs d) (l' := fragSelPairs d') (h.filterMap _) ?_ k
  rw [fragSelPairs_names]; exact hnd

theorem sfsBound_perm {d d' : Doc} (h : d.defs.Perm d'.defs) : sfsBound d = sfsBound d' := by
  unfold sfsBound
  refine h.foldl_eq' (fun x _ y _ z => ?_) 1
  cases x <;> cases y <;> simp <;> omega

/-- the collection reads the fragment table through `get?` only -/
theorem rootKeysGo_congr {frs frs' : AL (List Sel)} (hf : ∀ k, AL.get? frs k = AL.get? frs' k) :
    ∀ (fuel : Nat) (sels : List Sel) (ks vis : List String), rootKeysGo frs fuel sels ks vis = rootKeysGo frs' fuel sels ks vis
  | 0, _, _, _ => by simp [rootKeysGo]
  | f + 1, [], _, _ => by simp [rootKeysGo]
  | f + 1, .field .. :: rest, ks, vis => by
    simp only [rootKeysGo_field]; exact rootKeysGo_congr hf f rest _ vis
  | f + 1, .inline _ _ _ sub :: rest, ks, vis => by
    simp only [rootKeysGo]; exact rootKeysGo_congr hf f _ ks vis
  | f + 1, .spread name _ :: rest, ks, vis => by
    simp only [rootKeysGo, hf name]
    split
    · exact rootKeysGo_congr hf f rest ks vis
    · cases AL.get? frs' name with
      | none => exact rootKeysGo_congr hf f rest ks _
      | some sels => exact rootKeysGo_congr hf f _ ks _

/-- **perm_definitions for `SingleFieldSubscriptionsChecker`** (unique fragment names) -/
theorem perm_definitions_single_field_subscriptions (s : SchemaD) (fx : Fixes) {d d' : Doc} (h : d.defs.Perm d'.defs)
    (hnd : Spec.uniqueFragmentNames d) :
    Silent s fx .singleFieldSubscriptions d ↔ Silent s fx .singleFieldSubscriptions d' := by
  rw [rule_single_field_subscriptions_iff, rule_single_field_subscriptions_iff]
  unfold Spec.singleFieldSubscriptions
  have hkeys : ∀ sels, rootKeys (sfsTable d) (sfsBound d) sels = rootKeys (sfsTable d') (sfsBound d') sels := fun sels => by
    unfold rootKeys
    rw [sfsBound_perm h]
    exact rootKeysGo_congr (sfsTable_perm h hnd) _ _ _ _
  constructor
  · intro H n hn name vars dirs sels e
    subst e
    obtain ⟨id, hd⟩ := (operation_mem_nodes d' _ _ _ _ _).mp hn
    rw [← hkeys]
    exact H _ ((operation_mem_nodes d _ _ _ _ _).mpr ⟨id, h.mem_iff.mpr hd⟩) _ _ _ _ rfl
  · intro H n hn name vars dirs sels e
    subst e
    obtain ⟨id, hd⟩ := (operation_mem_nodes d _ _ _ _ _).mp hn
    rw [hkeys]
    exact H _ ((operation_mem_nodes d' _ _ _ _ _).mpr ⟨id, h.mem_iff.mp hd⟩) _ _ _ _ rfl

theorem usedAt_perm {d d' : Doc} (h : d.defs.Perm d'.defs) (s : SchemaD) (o x : String) (u : Usage) :
    UsedAt s d o x u ↔ UsedAt s d' o x u := by
  unfold UsedAt OpReaches OpSpreads
  refine or_congr (mem_defs_perm h _) ?_
  constructor
  · rintro ⟨f, ⟨g, hg, hr⟩, hu⟩
    exact ⟨f, ⟨g, (mem_defs_perm h _).mp hg, fragReach_perm h hr⟩, (mem_defs_perm h _).mp hu⟩
  · rintro ⟨f, ⟨g, hg, hr⟩, hu⟩
    exact ⟨f, ⟨g, (mem_defs_perm h _).mpr hg, fragReach_perm h.symm hr⟩, (mem_defs_perm h _).mpr hu⟩

theorem inj_of_nodup_names : ∀ (l : List VarDef), (l.map (·.name)).Nodup → ∀ a ∈ l, ∀ b ∈ l, a.name = b.name → a = b
  | [], _, a, ha, _, _, _ => by cases ha
  | c :: cs, hnd, a, ha, b, hb, e => by
    simp only [List.map_cons, List.nodup_cons, List.mem_map, not_exists, not_and] at hnd
    rcases List.mem_cons.mp ha with rfl | ha' <;> rcases List.mem_cons.mp hb with rfl | hb'
    · rfl
    · exact absurd e.symm (hnd.1 b hb')
    · exact absurd e (hnd.1 a ha')
    · exact inj_of_nodup_names cs hnd.2 a ha' b hb' e

/-- in a list without two definitions of a name, `find?` by name only depends on the members -/
theorem find?_name_perm {l l' : List VarDef} (h : l.Perm l') (hnd : (l.map (·.name)).Nodup) (x : String) :
    l.find? (·.name == x) = l'.find? (·.name == x) := by
  have hinj := inj_of_nodup_names l hnd
  cases h1 : l.find? (·.name == x) with
  | none =>
    symm
    rw [List.find?_eq_none] at h1 ⊢
    exact fun a ha => h1 a (h.mem_iff.mpr ha)
  | some a =>
    have ha := List.mem_of_find?_eq_some h1
    have hax : (fun v : VarDef => v.name == x) a = true := List.find?_some (p := fun v : VarDef => v.name == x) h1
    cases h2 : l'.find? (·.name == x) with
    | none =>
      rw [List.find?_eq_none] at h2
      exact absurd hax (h2 a (h.mem_iff.mp ha))
    | some b =>
      have hb := h.mem_iff.mpr (List.mem_of_find?_eq_some h2)
      have hbx : (fun v : VarDef => v.name == x) b = true := List.find?_some (p := fun v : VarDef => v.name == x) h2
      rw [hinj a ha b hb (by rw [eq_of_beq hax, eq_of_beq hbx])]

/-- the variable definitions filed under operation key `o` -/
def varsOfKey (o : String) (ds : List Def) : List VarDef := ds.flatMap fun df => if df.opKey? = some o then df.vars else []

theorem varsOfKey_nil_of_not_mem (o : String) : ∀ ds : List Def, o ∉ ds.filterMap Def.opKey? → varsOfKey o ds = []
  | [], _ => rfl
  | x :: xs, h => by
    simp only [varsOfKey, List.flatMap_cons]
    have hx : x.opKey? ≠ some o := fun e => h (by simp [List.filterMap_cons, e])
    have hxs : o ∉ xs.filterMap Def.opKey? := fun hm => h (by
      cases hk : x.opKey? <;> simp [List.filterMap_cons, hk, hm])
    rw [if_neg hx, List.nil_append]
    exact varsOfKey_nil_of_not_mem o xs hxs

theorem varsOfKey_names_nodup (o : String) : ∀ ds : List Def, (ds.filterMap Def.opKey?).Nodup →
    (∀ x ∈ ds, ∀ k n vs dr i ss, x = Def.op k n vs dr i ss → (vs.map (·.name)).Nodup) →
    ((varsOfKey o ds).map (·.name)).Nodup
  | [], _, _ => by simp [varsOfKey]
  | x :: xs, hk, hv => by
    have hv' : ∀ y ∈ xs, ∀ k n vs dr i ss, y = Def.op k n vs dr i ss → (vs.map (·.name)).Nodup :=
      fun y hy => hv y (List.mem_cons_of_mem _ hy)
    simp only [varsOfKey, List.flatMap_cons]
    by_cases hx : x.opKey? = some o
    · rw [if_pos hx]
      have hk' : o ∉ xs.filterMap Def.opKey? := by
        simp only [List.filterMap_cons, hx, List.nodup_cons] at hk
        exact hk.1
      have := varsOfKey_nil_of_not_mem o xs hk'
      simp only [varsOfKey] at this
      rw [this, List.append_nil]
      cases x with
      | op k n vs dr i ss => exact hv _ (List.mem_cons_self ..) k n vs dr i ss rfl
      | frag => simp [Def.opKey?] at hx
      | ts => simp [Def.opKey?] at hx
    · rw [if_neg hx, List.nil_append]
      have hk' : (xs.filterMap Def.opKey?).Nodup := by
        cases hkx : x.opKey? with
        | none => simpa [List.filterMap_cons, hkx] using hk
        | some k' =>
          simp only [List.filterMap_cons, hkx, List.nodup_cons] at hk
          exact hk.2
      exact varsOfKey_names_nodup o xs hk' hv'

theorem varDefFor_perm {d d' : Doc} (h : d.defs.Perm d'.defs) (hk : Spec.uniqueOpKeys d) (hv : Spec.uniqueVariableNames d)
    (o x : String) : varDefFor d o x = varDefFor d' o x := by
  unfold varDefFor
  have hp : (varsOfKey o d.defs).Perm (varsOfKey o d'.defs) := h.flatMap_right _
  have hnd := varsOfKey_names_nodup o d.defs hk hv
  refine find?_name_perm ((List.reverse_perm _).trans (hp.trans (List.reverse_perm _).symm)) ?_ x
  rw [List.map_reverse]
  exact (List.reverse_perm _).nodup_iff.mpr hnd

/-- **perm_definitions for `VariablesInAllowedPositionChecker`**: documents with unique operation keys and unique
    variable names per operation (else the rule checks against the LAST definition of `$x`: order-dependent); code
    with the fixes of V3 and V4 -/
theorem perm_definitions_variables_in_allowed_position (s : SchemaD) (fx : Fixes) (h3 : fx.v3 = true) (h4 : fx.v4 = true)
    {d d' : Doc} (h : d.defs.Perm d'.defs) (hk : Spec.uniqueOpKeys d) (hv : Spec.uniqueVariableNames d) :
    Silent s fx .variablesInAllowedPosition d ↔ Silent s fx .variablesInAllowedPosition d' := by
  rw [rule_variables_in_allowed_position_iff s fx h3 h4, rule_variables_in_allowed_position_iff s fx h3 h4]
  unfold Spec.variablesInAllowedPosition
  simp only [usedAt_perm h, varDefFor_perm h hk hv]

/-- the statement for the whole chain, rule by rule (kept visible; for OverlappingFieldsCanBeMerged it is proved with the
    memoised rule /repo runs: `perm_definitions_all26`, Props/C06_inv_tr_all26.lean) -/
def FullStatement_perm_definitions_all (s : SchemaD) (fx : Fixes) (d d' : Doc) : Prop :=
  ∀ r ∈ Rule.all, (Silent s fx r d ↔ Silent s fx r d')

/-- **perm_definitions for 25 of the 26 rules** (all but OverlappingFieldsCanBeMerged): code of /repo HEAD; documents
    with unique non-empty fragment names, unique operation keys and unique variable names per operation (each hypothesis
    is needed by one or two rules only, see the per-rule theorems; without them the code's verdict DOES depend on the
    order: "the last definition wins") [alone-run statement, see `Silent`; the chain: `chainM_six_transformations`] -/
theorem perm_definitions_all25_partial (s : SchemaD) (fx : Fixes) (hfx : HeadVars fx) {d d' : Doc}
    (h : d.defs.Perm d'.defs) (hnd : Spec.uniqueFragmentNames d) (hne : NamesNonEmpty d) (hk : Spec.uniqueOpKeys d)
    (hv : Spec.uniqueVariableNames d) (r : Rule) (hr : r ≠ .overlappingFieldsCanBeMerged) :
    Silent s fx r d ↔ Silent s fx r d' := by
  by_cases h1 : r ∈ ProvedPermDefs ∧ r ≠ .singleFieldSubscriptions
  · exact perm_definitions_all_partial s fx h r h1.1 h1.2
  by_cases h2 : r ∈ [Rule.uniqueVariableNames, Rule.noUndefinedVariables, Rule.noUnusedVariables]
  · exact perm_definitions_variables_partial s fx hfx.2.1 h r h2
  have : r = .singleFieldSubscriptions ∨ r = .valuesOfCorrectType ∨ r = .possibleFragmentSpreads ∨
      r = .noFragmentCycles ∨ r = .variablesInAllowedPosition :=
    (by decide +kernel : ∀ r ∈ Rule.all, r ≠ .overlappingFieldsCanBeMerged →
      ¬ (r ∈ ProvedPermDefs ∧ r ≠ .singleFieldSubscriptions) →
      r ∉ [Rule.uniqueVariableNames, Rule.noUndefinedVariables, Rule.noUnusedVariables] →
      r = .singleFieldSubscriptions ∨ r = .valuesOfCorrectType ∨ r = .possibleFragmentSpreads ∨
        r = .noFragmentCycles ∨ r = .variablesInAllowedPosition) r (Rule.mem_all r) hr h1 h2
  rcases this with rfl | rfl | rfl | rfl | rfl
  · exact perm_definitions_single_field_subscriptions s fx h hnd
  · exact perm_definitions_values s fx h
  · exact perm_definitions_possible_fragment_spreads s fx h hnd
  · exact perm_definitions_no_fragment_cycles s fx hfx.2.2.1 h hnd hne
  · exact perm_definitions_variables_in_allowed_position s fx hfx.1 hfx.2.1 h hk hv

/-- non-vacuity: the hypotheses hold of `query A($v: Int) { ...F } fragment F on Query { a(x: $v) }`, and reversing the two
    definitions is a genuine reordering -/
example : let d : Doc := ⟨[.op "query" (some "A") [{ name := "v", type := .named "Int", default := none }] [] 1
      [.spread "F" []], .frag "F" "Query" [] 2 [.field none "a" [⟨"x", .var "v"⟩] [] false 0 []]]⟩
    Spec.uniqueFragmentNames d ∧ NamesNonEmpty d ∧ Spec.uniqueOpKeys d ∧ Spec.uniqueVariableNames d ∧
      d.defs.Perm d.defs.reverse := by
  refine ⟨by unfold Spec.uniqueFragmentNames; decide +kernel, by unfold NamesNonEmpty; decide +kernel, by unfold Spec.uniqueOpKeys; decide +kernel, ?_,
    (List.reverse_perm _).symm⟩
  intro x hx k n vs ds i ss e
  simp only [List.mem_cons, List.not_mem_nil, or_false] at hx
  rcases hx with rfl | rfl
  · simp only [Def.op.injEq] at e; obtain ⟨_, _, rfl, _⟩ := e; decide +kernel
  · cases e

end PyGql.Props.C06
