/-
  C11 — REJECTION COMPLETENESS: a document that breaks a type-system rule the builder is responsible for is REJECTED
  by `build` — every theorem here is about `build doc ie add` itself, not about a helper.  (`add`: `build` threads the
  supplied types as Sdl.lean does; the model that is compared with the code when types ARE supplied is `buildA` of
  SdlAdditional.lean, which differs from `build` in four ways listed there and coincides with it for `add = []`:
  `buildA_nil`.  Of these theorems only the case `add = []` transfers to `buildA`.)
  Collection rules (`build_rejects_dup_type` …): the class is exactly `SDLError`.
  Member rules (any clause of `TypeDefOK`, Spec/SdlRules.lean, with named instances), the root rule and the extension rules
  (`ie = false`): `Rejected` — `build` returns `.error e`, `e` one of the three library classes or the RecursionError of
  finding S1b; an EARLIER definition of the same document may fail first, so the class of the first failure is not
  determined by the broken rule alone.
  NOT a builder rule (nothing to prove here): "a root operation type must be an object type" — `build_schema` accepts
  `schema { query: SomeEnum }`; the rule is `Schema.validate`'s (property C13, `validate_iff`).
-/
import PyGqlModel.Props.C11_rules
import PyGqlModel.Props.C11_rejects
import PyGqlModel.Props.C11_additional
import PyGqlModel.Props.C11_extend_exact


namespace PyGql.Props.C11
open PyGql PyGql.Sdl PyGql.SdlSpec

/-- `build` fails, with one of the library's error classes (or the RecursionError of finding S1b) -/
def Rejected (doc : Doc) (ie : Bool) (add : List TypeD) : Prop :=
  ∃ e, build doc ie add = .error e ∧ ((∃ l, e = .lib l) ∨ e = .internal "RecursionError")

theorem rejected_of_not_ok (doc : Doc) (ie : Bool) (add : List TypeD) (h : ∀ s, build doc ie add ≠ .ok s) : Rejected doc ie add := by
  cases hb : build doc ie add with
  | ok s => exact absurd hb (h s)
  | error e => exact ⟨e, hb, build_rejects doc ie add e hb⟩

theorem any_name_false_inv {α} (name : α → String) (l : List α) (n : String) (h : l.any (fun x => name x == n) = false) :
    n ∉ l.map name :=
  (List.any_beq_eq_false_iff name l n).mp h

theorem collect_ok_rules (doc : Doc) (c : Collected) (h : collectDefinitions doc = .ok c) :
    ((typeDefs doc).map (·.name)).Nodup ∧ ((dirDefs doc).map (·.name)).Nodup ∧ (schemaDefs doc).length ≤ 1 ∧
    (∀ t ∈ typeDefs doc, isDefaultName t.name = false) :=
  let ⟨⟨hT, hN, hD, hS⟩, _⟩ := (Run.collectDefinitions_ok_iff doc c).mp h
  ⟨hT, hD, hS, hN⟩

theorem build_error_of_collect (doc : Doc) (ie : Bool) (add : List TypeD) (h : ∀ c, collectDefinitions doc ≠ .ok c) :
    build doc ie add = .error (.lib .sdl) := by
  cases hc : collectDefinitions doc with
  | ok c => exact absurd hc (h c)
  | error e =>
    have := collect_rejects_sdl doc e hc; subst this
    simp [build, buildIgnoringExtensions, hc, bind, Except.bind]

/-- **two definitions of one type name ⇒ `SDLError`** -/
theorem build_rejects_dup_type (doc : Doc) (ie : Bool) (add : List TypeD) (h : ¬ ((typeDefs doc).map (·.name)).Nodup) :
    build doc ie add = .error (.lib .sdl) :=
  build_error_of_collect doc ie add fun c hc => h (collect_ok_rules doc c hc).1

/-- **two definitions of one directive name ⇒ `SDLError`** -/
theorem build_rejects_dup_directive (doc : Doc) (ie : Bool) (add : List TypeD) (h : ¬ ((dirDefs doc).map (·.name)).Nodup) :
    build doc ie add = .error (.lib .sdl) :=
  build_error_of_collect doc ie add fun c hc => h (collect_ok_rules doc c hc).2.1

/-- **a second `schema` block ⇒ `SDLError`** -/
theorem build_rejects_second_schema (doc : Doc) (ie : Bool) (add : List TypeD) (h : 2 ≤ (schemaDefs doc).length) :
    build doc ie add = .error (.lib .sdl) :=
  build_error_of_collect doc ie add fun c hc => by have := (collect_ok_rules doc c hc).2.2.1; omega

/-- **a definition that takes the name of a specified type (`Int`, `__Type` …) ⇒ `SDLError`** (fix C11-7) -/
theorem build_rejects_specified_name (doc : Doc) (ie : Bool) (add : List TypeD) (t : TypeDef) (ht : t ∈ typeDefs doc)
    (h : isDefaultName t.name = true) : build doc ie add = .error (.lib .sdl) :=
  build_error_of_collect doc ie add fun c hc => by have := (collect_ok_rules doc c hc).2.2.2 t ht; rw [h] at this; cases this

theorem findAdditional_none (defs : List TypeDef) (add : List TypeD) (n : String) (h : n ∉ add.map (·.name)) :
    (Env.of defs add).findAdditional n = none := by
  simp only [Env.of]
  rw [List.find?_eq_none]
  intro x hx
  simp only [beq_iff_eq]
  exact fun e => h (List.mem_map.mpr ⟨x, hx, e⟩)

theorem build_ok_inv (doc : Doc) (ie : Bool) (add : List TypeD) (s : SchemaD) (h : build doc ie add = .ok s) :
    ∃ c live, collectDefinitions doc = .ok c ∧ buildCollected c add = .ok (Env.of c.types add, live) ∧
      (ie = false → ∃ live', extendSchema (Env.of c.types add) live doc add = .ok live') := by
  obtain ⟨env, live, h1, hx⟩ := (Run.build_ok_iff doc ie add s).mp h
  obtain ⟨c, hc, hb⟩ := bind_ok _ _ _ h1
  cases buildCollected_env c add env live hb
  refine ⟨c, live, hc, hb, fun hie => ?_⟩
  rw [if_neg (Bool.eq_false_iff.mp hie)] at hx
  exact hx.imp fun _ => And.left

theorem buildCollected_ok_inv (c : Collected) (add : List TypeD) (env : Env) (live : Live) (h : buildCollected c add = .ok (env, live)) :
    ∃ dirs built roots, c.directives.mapM (buildDirective (Env.of c.types add)) = .ok dirs ∧
      c.types.mapM (buildType (Env.of c.types add)) = .ok built ∧
      buildRoots (Env.of c.types add) c.schemaDef (built.filterMap id) = .ok roots ∧
      live.types = built.filterMap id ++ referencedAdditional add (built.filterMap id) dirs roots := by
  obtain ⟨dirs, built, p⟩ := (Run.buildCollected_ok_iff c add env live).mp h
  cases p.envEq
  exact ⟨dirs, built, live.roots, p.dirsOk, p.builtOk, p.rootsOk, p.typesEq⟩

theorem build_ok_members (doc : Doc) (ie : Bool) (add : List TypeD) (s : SchemaD) (h : build doc ie add = .ok s) :
    (∀ d ∈ dirDefs doc, Ok (buildDirective (Env.of (typeDefs doc) add) d)) ∧
    (∀ t ∈ typeDefs doc, Ok (buildType (Env.of (typeDefs doc) add) t)) ∧
    (∀ t ∈ typeDefs doc, isDefaultName t.name = false) := by
  obtain ⟨c, live, hc, hb, _⟩ := build_ok_inv doc ie add s h
  obtain ⟨hT, hD⟩ := collect_exact doc c hc
  obtain ⟨dirs, built, roots, hdirs, hbuilt, _, _⟩ := buildCollected_ok_inv c add _ live hb
  rw [hT] at hbuilt hdirs; rw [hD] at hdirs
  exact ⟨mapM_all_ok _ _ _ hdirs, mapM_all_ok _ _ _ hbuilt, (collect_ok_rules doc c hc).2.2.2⟩

/-- **a type definition that breaks one of its rules (`TypeDefOK`: unknown reference, default that is not a constant of
    its type, malformed `@deprecated`, repeated / reserved enum value) ⇒ the document is rejected.**  The definition
    must be one the builder builds: not replaced by a supplied type of the same name. -/
theorem build_rejects_invalid_type_def (doc : Doc) (ie : Bool) (add : List TypeD) (t : TypeDef) (ht : t ∈ typeDefs doc)
    (hadd : t.name ∉ add.map (·.name)) (h : ¬ TypeDefOK (Env.of (typeDefs doc) add) t) : Rejected doc ie add := by
  refine rejected_of_not_ok doc ie add fun s hs => h ?_
  obtain ⟨_, hT, hN⟩ := build_ok_members doc ie add s hs
  obtain ⟨o, ho⟩ := hT t ht
  obtain ⟨bt, hbt, _⟩ := buildType_ok_inv _ t o (hN t ht) (findAdditional_none (typeDefs doc) add t.name hadd) ho
  exact (buildTypeDef_ok_iff _ t).mp ⟨bt, hbt⟩

private theorem known_env (doc : Doc) (add : List TypeD) (n : String) (h : ¬ KnownIn (typeDefs doc) add n) :
    ¬ Known (Env.of (typeDefs doc) add) n := fun hk => h ((known_of_iff _ _ _).mp hk)

/-- **a field whose type is neither defined, supplied nor specified ⇒ rejected** -/
theorem build_rejects_unknown_field_type (doc : Doc) (ie : Bool) (add : List TypeD) (t : TypeDef) (ht : t ∈ typeDefs doc)
    (hadd : t.name ∉ add.map (·.name)) (hk : t.kind = .object ∨ t.kind = .interface) (f : FieldDef) (hf : f ∈ t.fields)
    (h : ¬ KnownIn (typeDefs doc) add f.type.base) : Rejected doc ie add := by
  refine build_rejects_invalid_type_def doc ie add t ht hadd fun ok => known_env doc add _ h ?_
  unfold TypeDefOK at ok
  rcases hk with hk | hk <;> rw [hk] at ok
  · exact (ok.1 f hf).1
  · exact (ok f hf).1

/-- **an argument whose type is unknown ⇒ rejected** -/
theorem build_rejects_unknown_argument_type (doc : Doc) (ie : Bool) (add : List TypeD) (t : TypeDef) (ht : t ∈ typeDefs doc)
    (hadd : t.name ∉ add.map (·.name)) (hk : t.kind = .object ∨ t.kind = .interface) (f : FieldDef) (hf : f ∈ t.fields)
    (a : InputValDef) (ha : a ∈ f.args) (h : ¬ KnownIn (typeDefs doc) add a.type.base) : Rejected doc ie add := by
  refine build_rejects_invalid_type_def doc ie add t ht hadd fun ok => known_env doc add _ h ?_
  unfold TypeDefOK at ok
  rcases hk with hk | hk <;> rw [hk] at ok
  · exact ((ok.1 f hf).2.1 a ha).1
  · exact ((ok f hf).2.1 a ha).1

/-- **an object type that implements an unknown interface ⇒ rejected** -/
theorem build_rejects_unknown_interface (doc : Doc) (ie : Bool) (add : List TypeD) (t : TypeDef) (ht : t ∈ typeDefs doc)
    (hadd : t.name ∉ add.map (·.name)) (hk : t.kind = .object) (i : String) (hi : i ∈ t.interfaces)
    (h : ¬ KnownIn (typeDefs doc) add i) : Rejected doc ie add := by
  refine build_rejects_invalid_type_def doc ie add t ht hadd fun ok => known_env doc add _ h ?_
  unfold TypeDefOK at ok
  rw [hk] at ok
  exact ok.2 i hi

/-- **a union with an unknown member ⇒ rejected** -/
theorem build_rejects_unknown_union_member (doc : Doc) (ie : Bool) (add : List TypeD) (t : TypeDef) (ht : t ∈ typeDefs doc)
    (hadd : t.name ∉ add.map (·.name)) (hk : t.kind = .union) (m : String) (hm : m ∈ t.members)
    (h : ¬ KnownIn (typeDefs doc) add m) : Rejected doc ie add := by
  refine build_rejects_invalid_type_def doc ie add t ht hadd fun ok => known_env doc add _ h ?_
  unfold TypeDefOK at ok
  rw [hk] at ok
  exact ok m hm

/-- **an input field whose type is unknown ⇒ rejected** -/
theorem build_rejects_unknown_input_field_type (doc : Doc) (ie : Bool) (add : List TypeD) (t : TypeDef) (ht : t ∈ typeDefs doc)
    (hadd : t.name ∉ add.map (·.name)) (hk : t.kind = .input) (f : InputValDef) (hf : f ∈ t.inputFields)
    (h : ¬ KnownIn (typeDefs doc) add f.type.base) : Rejected doc ie add := by
  refine build_rejects_invalid_type_def doc ie add t ht hadd fun ok => known_env doc add _ h ?_
  unfold TypeDefOK at ok
  rw [hk] at ok
  exact (ok f hf).1

/-- **an enum definition that repeats a value ⇒ rejected** -/
theorem build_rejects_dup_enum_value (doc : Doc) (ie : Bool) (add : List TypeD) (t : TypeDef) (ht : t ∈ typeDefs doc)
    (hadd : t.name ∉ add.map (·.name)) (hk : t.kind = .enum) (h : ¬ (t.values.map (·.name)).Nodup) : Rejected doc ie add := by
  refine build_rejects_invalid_type_def doc ie add t ht hadd fun ok => h ?_
  unfold TypeDefOK at ok
  rw [hk] at ok
  exact ok.1

/-- **a default literal of an input field that is not a constant of the field's type ⇒ rejected** -/
theorem build_rejects_bad_default (doc : Doc) (ie : Bool) (add : List TypeD) (t : TypeDef) (ht : t ∈ typeDefs doc)
    (hadd : t.name ∉ add.map (·.name)) (hk : t.kind = .input) (f : InputValDef) (hf : f ∈ t.inputFields) (l : Lit)
    (hl : f.default = some l) (h : ∀ v, ¬ CoercesTo (Env.of (typeDefs doc) add) f.type l v) : Rejected doc ie add := by
  refine build_rejects_invalid_type_def doc ie add t ht hadd fun ok => ?_
  unfold TypeDefOK at ok
  rw [hk] at ok
  obtain ⟨v, hv⟩ := (ok f hf).2 l hl
  exact h v hv

/-- **a directive definition with an argument that breaks its rules ⇒ rejected** -/
theorem build_rejects_invalid_directive_def (doc : Doc) (ie : Bool) (add : List TypeD) (d : DirDef) (hd : d ∈ dirDefs doc)
    (h : ¬ DirDefOK (Env.of (typeDefs doc) add) d) : Rejected doc ie add := by
  refine rejected_of_not_ok doc ie add fun s hs => h ?_
  exact (buildDirective_ok_iff _ d).mp ((build_ok_members doc ie add s hs).1 d hd)

theorem addOps_ok_resolves (res : String → Bool) (errE : Err) : ∀ (ops : List (String × String)) (r r' : Roots),
    addOps res errE r ops = .ok r' → ∀ o ∈ ops, res o.2 = true := by
  intro ops
  induction ops with
  | nil => intro _ _ _ o ho; cases ho
  | cons o os ih =>
    intro r r' h o' ho'
    obtain ⟨_, h⟩ := ite_error_ok h
    obtain ⟨hres, h⟩ := ite_error_ok h
    rcases List.mem_cons.mp ho' with rfl | hm
    · simpa using hres
    · exact ih _ _ h o' hm

/-- **a `schema` block that names an unknown type ⇒ rejected** -/
theorem build_rejects_unknown_root (doc : Doc) (ie : Bool) (add : List TypeD) (sd : SchemaDef) (hsd : (schemaDefs doc).head? = some sd)
    (o : String × String) (ho : o ∈ sd.ops) (h : ¬ KnownIn (typeDefs doc) add o.2) : Rejected doc ie add := by
  refine rejected_of_not_ok doc ie add fun s hs => known_env doc add _ h ?_
  obtain ⟨c, live, hc, hb, _⟩ := build_ok_inv doc ie add s hs
  obtain ⟨hT, hD⟩ := collect_exact doc c hc
  obtain ⟨hr1, hr2, hr3, hr4⟩ := collect_ok_rules doc c hc
  obtain ⟨c', hc', _, _, hS⟩ := collect_ok doc hr1 hr2 hr3 hr4
  rw [hc] at hc'; have := ok_inj hc'; subst this
  obtain ⟨dirs, built, roots, _, _, hroots, _⟩ := buildCollected_ok_inv c add _ live hb
  rw [hS, hsd] at hroots
  simp only [buildRoots] at hroots
  have := addOps_ok_resolves _ _ _ _ _ hroots o ho
  rw [hT] at this
  exact (resolves_iff _ _).mp this

theorem appendNew_ok_disjoint {α} (errE : Err) (name : α → String) : ∀ (xs acc r : List α), appendNew errE name acc xs = .ok r →
    ∀ x ∈ xs, ∀ y ∈ acc, name y ≠ name x :=
  fun xs acc r h x hx _ hy e => ((Run.appendNew_ok_iff errE name xs acc r).mp h).1.1 x hx (e ▸ List.mem_map_of_mem hy)

theorem appendNew_ok_nodup {α} (errE : Err) (name : α → String) : ∀ (xs acc r : List α), appendNew errE name acc xs = .ok r →
    (xs.map name).Nodup :=
  fun xs acc r h => ((Run.appendNew_ok_iff errE name xs acc r).mp h).1.2

/-- what a successful merge loop of `_extend_<kind>_type` has appended: members with the names (`na`) of ALL the blocks' members,
    accepted in one row -/
private theorem mergeFold_appended {γ β} (g : TypeDef → R γ) (k : γ → TypeDef → List β) (na : TypeDef → List String) (nb : β → String)
    (hg : ∀ e u, g e = .ok u → (k u e).map nb = na e) (errE : Err) (es : List TypeDef) (init r : List β)
    (h : es.foldlM (fun acc e => do let u ← g e; appendNew errE nb acc (k u e)) init = .ok r) :
    ∃ news, news.map nb = es.flatMap na ∧ appendNew errE nb init news = .ok r := by
  obtain ⟨news, hnews, hr⟩ := (Run.mergeFold_ok_iff errE nb g k es init r).mp h
  refine ⟨_, ?_, hr⟩
  rw [List.map_flatten, List.flatMap_def, mapM_names _ na (List.map nb) (fun e new he => ?_) es news hnews]
  obtain ⟨u, hu, hk⟩ := bind_ok _ _ _ he
  exact ok_inj hk ▸ hg e u hu

theorem mergeFold_ok_disjoint {α β} (bf : α → R β) (na : α → String) (nb : β → String) (hbf : ∀ x y, bf x = .ok y → nb y = na x)
    (errE : Err) (sel : TypeDef → List α) : ∀ (es : List TypeDef) (init r : List β),
    es.foldlM (fun acc e => do let new ← (sel e).mapM bf; appendNew errE nb acc new) init = .ok r →
    ∀ e ∈ es, ∀ f ∈ sel e, ∀ y ∈ init, nb y ≠ na f := by
  intro es init r h e he f hf y hy
  obtain ⟨news, hn, hr⟩ := mergeFold_appended _ (fun u _ => u) (fun e => (sel e).map na) nb (fun e => mapM_names bf na nb hbf _) errE es init r h
  have : na f ∈ news.map nb := hn ▸ List.mem_flatMap.mpr ⟨e, he, List.mem_map_of_mem hf⟩
  obtain ⟨x, hx, hxn⟩ := List.mem_map.mp this
  exact hxn ▸ appendNew_ok_disjoint errE nb news init r hr x hx y hy

theorem namesFold_ok_disjoint (env : Env) (errE : Err) (sel : TypeDef → List String) : ∀ (es : List TypeDef) (init r : List String),
    es.foldlM (fun acc e => do checkNames env (sel e); appendNew errE id acc (sel e)) init = .ok r →
    ∀ e ∈ es, ∀ m ∈ sel e, m ∉ init := by
  intro es init r h e he m hm hmi
  obtain ⟨news, hn, hr⟩ := mergeFold_appended _ (fun _ e => sel e) sel id (fun e _ _ => List.map_id _) errE es init r h
  rw [List.map_id] at hn
  exact appendNew_ok_disjoint errE id news init r hr m (hn ▸ List.mem_flatMap.mpr ⟨e, he, hm⟩) m hmi rfl

theorem mergeFold_ok_nodup {α β} (bf : α → R β) (na : α → String) (nb : β → String) (hbf : ∀ x y, bf x = .ok y → nb y = na x)
    (errE : Err) (sel : TypeDef → List α) : ∀ (es : List TypeDef) (init r : List β),
    es.foldlM (fun acc e => do let new ← (sel e).mapM bf; appendNew errE nb acc new) init = .ok r →
    ((es.flatMap sel).map na).Nodup := by
  intro es init r h
  obtain ⟨news, hn, hr⟩ := mergeFold_appended _ (fun u _ => u) (fun e => (sel e).map na) nb (fun e => mapM_names bf na nb hbf _) errE es init r h
  rw [List.map_flatMap, ← hn]
  exact appendNew_ok_nodup errE nb news init r hr

theorem namesFold_ok_nodup (env : Env) (errE : Err) (sel : TypeDef → List String) : ∀ (es : List TypeDef) (init r : List String),
    es.foldlM (fun acc e => do checkNames env (sel e); appendNew errE id acc (sel e)) init = .ok r →
    (es.flatMap sel).Nodup := by
  intro es init r h
  obtain ⟨news, hn, hr⟩ := mergeFold_appended _ (fun _ e => sel e) sel id (fun e _ _ => List.map_id _) errE es init r h
  rw [← hn]
  exact appendNew_ok_nodup errE id news init r hr

theorem typeExtensions_filter (live : Live) (doc : Doc) (n : String) (h : live.types.any (·.name == n) = true) :
    (typeExtensions live doc).filter (·.name == n) = (typeExts doc).filter (·.name == n) := by
  rw [typeExtensions_eq_filter, List.filter_filter]
  refine List.filter_congr fun e _ => ?_
  by_cases hn : e.name = n
  · rw [Live.hasType, hn, h, Bool.or_true, Bool.and_true]
  · rw [beq_false_of_ne hn, Bool.false_and]

theorem extendTypeX_ok_loops (eB eX : Env) (hide : Option String) (exts : List TypeDef) (t r : TypeD)
    (h : extendTypeX eB eX hide exts t = .ok r) :
    (mineOf exts t.name).any (fun e => e.kind != t.kind) = false ∧
    ((t.kind = .object ∨ t.kind = .interface) → Ok ((mineOf exts t.name).foldlM (fun acc e => do
      let new ← e.fields.mapM (buildFieldX eB eX hide)
      appendNew (.lib .ext) (·.name) acc new) t.fields)) ∧
    (t.kind = .object → Ok ((mineOf exts t.name).foldlM (fun acc e => do
      checkNames eB e.interfaces
      appendNew (.lib .ext) id acc e.interfaces) t.interfaces)) ∧
    (t.kind = .union → Ok ((mineOf exts t.name).foldlM (fun acc e => do
      checkNames eB e.members
      appendNew (.lib .ext) id acc e.members) t.members)) ∧
    (t.kind = .enum → Ok ((mineOf exts t.name).foldlM (fun acc e => do
      let new ← e.values.mapM buildEnumValue
      appendNew (.lib .ext) (·.name) acc new) t.values)) ∧
    (t.kind = .input → Ok ((mineOf exts t.name).foldlM (fun acc e => do
      let new ← e.inputFields.mapM (buildArgumentX eB eX hide)
      appendNew (.lib .ext) (·.name) acc new) t.inputFields)) := by
  unfold extendTypeX at h
  obtain ⟨_, hk, h⟩ := bind_ok _ _ _ h
  refine ⟨(ok_failIf _ _).mp ⟨_, hk⟩, fun hk => ?_, fun hk => ?_, fun hk => ?_, fun hk => ?_, fun hk => ?_⟩
  · rcases hk with hk | hk
    · rw [hk] at h
      obtain ⟨fs, hfs, _⟩ := bind_ok _ _ _ h
      exact ⟨fs, hfs⟩
    · rw [hk] at h
      obtain ⟨fs, hfs, _⟩ := bind_ok _ _ _ h
      exact ⟨fs, hfs⟩
  · rw [hk] at h
    obtain ⟨_, _, h⟩ := bind_ok _ _ _ h
    obtain ⟨is, his, _⟩ := bind_ok _ _ _ h
    exact ⟨is, his⟩
  · rw [hk] at h
    obtain ⟨ms, hms, _⟩ := bind_ok _ _ _ h
    exact ⟨ms, hms⟩
  · rw [hk] at h
    obtain ⟨vs, hvs, _⟩ := bind_ok _ _ _ h
    exact ⟨vs, hvs⟩
  · rw [hk] at h
    obtain ⟨fs, hfs, _⟩ := bind_ok _ _ _ h
    exact ⟨fs, hfs⟩

theorem extendTypeX_ok_inv (eB eX : Env) (hide : Option String) (exts : List TypeDef) (t r : TypeD)
    (h : extendTypeX eB eX hide exts t = .ok r) : ∀ e ∈ exts, e.name = t.name →
      e.kind = t.kind ∧
      ((t.kind = .object ∨ t.kind = .interface) → ∀ f ∈ e.fields, f.name ∉ t.fields.map (·.name)) ∧
      (t.kind = .object → ∀ i ∈ e.interfaces, i ∉ t.interfaces) ∧
      (t.kind = .union → ∀ m ∈ e.members, m ∉ t.members) ∧
      (t.kind = .enum → ∀ v ∈ e.values, v.name ∉ t.values.map (·.name)) ∧
      (t.kind = .input → ∀ f ∈ e.inputFields, f.name ∉ t.inputFields.map (·.name)) := by
  intro e he hn
  have hmine : e ∈ mineOf exts t.name := List.mem_filter.mpr ⟨he, beq_iff_eq.mpr hn⟩
  obtain ⟨hkinds, hF, hI, hM, hV, hX⟩ := extendTypeX_ok_loops eB eX hide exts t r h
  have notin : ∀ {β} (nb : β → String) (l : List β) (n : String), (∀ y ∈ l, nb y ≠ n) → n ∉ l.map nb :=
    fun nb l n hh hm => by obtain ⟨y, hy, hyn⟩ := List.mem_map.mp hm; exact hh y hy hyn
  refine ⟨by simpa using List.any_eq_false.mp hkinds e hmine, fun hk f hf => ?_, fun hk => ?_, fun hk => ?_, fun hk v hv => ?_,
    fun hk f hf => ?_⟩
  · obtain ⟨_, hfs⟩ := hF hk
    exact notin _ _ _ (mergeFold_ok_disjoint _ _ _ (buildFieldX_name eB eX hide) _ _ _ _ _ hfs e hmine f hf)
  · obtain ⟨_, his⟩ := hI hk
    exact namesFold_ok_disjoint _ _ _ _ _ _ his e hmine
  · obtain ⟨_, hms⟩ := hM hk
    exact namesFold_ok_disjoint _ _ _ _ _ _ hms e hmine
  · obtain ⟨_, hvs⟩ := hV hk
    exact notin _ _ _ (mergeFold_ok_disjoint _ _ _ buildEnumValue_name _ _ _ _ _ hvs e hmine v hv)
  · obtain ⟨_, hfs⟩ := hX hk
    exact notin _ _ _ (mergeFold_ok_disjoint _ _ _ (buildArgumentX_name eB eX hide) _ _ _ _ _ hfs e hmine f hf)

/-- the extension blocks of the definition `t`, in document order -/
def blocksOf (doc : Doc) (t : TypeDef) : List TypeDef := (typeExts doc).filter (·.name == t.name)

theorem build_ok_extension_blocks (doc : Doc) (add : List TypeD) (s : SchemaD) (h : build doc false add = .ok s)
    (t : TypeDef) (ht : t ∈ typeDefs doc) (hadd : t.name ∉ add.map (·.name)) (hne : blocksOf doc t ≠ []) :
    ∃ bt r exts eX hide, buildTypeDef (Env.of (typeDefs doc) add) t = .ok bt ∧ exts.filter (·.name == bt.name) = blocksOf doc t ∧
      extendTypeX (Env.of (typeDefs doc) add) eX hide exts bt = .ok r := by
  obtain ⟨c, live, hc, hb, hx⟩ := build_ok_inv doc false add s h
  obtain ⟨live', hx⟩ := hx rfl
  obtain ⟨hT, hD⟩ := collect_exact doc c hc
  have hN := (collect_ok_rules doc c hc).2.2.2
  obtain ⟨dirs, built, roots, _, hbuilt, _, hlive⟩ := buildCollected_ok_inv c add _ live hb
  rw [hT] at hbuilt hx
  obtain ⟨o, ho, hbt⟩ := all₂_mem_left _ _ _ (mapM_forall₂ _ _ _ hbuilt) t ht
  obtain ⟨bt, hbd, rfl⟩ := buildType_ok_inv _ t o (hN t ht) (findAdditional_none (typeDefs doc) add t.name hadd) hbt
  have hname := (buildTypeDef_shape _ _ _ hbd).1
  have hbtl : bt ∈ live.types := by
    rw [hlive]; exact List.mem_append_left _ (List.mem_filterMap.mpr ⟨some bt, ho, rfl⟩)
  have hfil := typeExtensions_filter live doc t.name (List.any_eq_true.mpr ⟨bt, hbtl, beq_iff_eq.mpr hname⟩)
  -- the extension pass runs, and extends every live type
  have hnonempty : ¬ ((typeExtensions live doc).isEmpty && (schemaExtensions doc).isEmpty) = true := by
    cases hh : typeExtensions live doc with
    | nil => rw [hh] at hfil; exact absurd hfil.symm hne
    | cons _ _ => exact Bool.false_ne_true
  rw [Run.extendSchema_ok_iff, if_neg hnonempty] at hx
  obtain ⟨_, _, _, ⟨_, ⟨checked, hchecked, _⟩, _, _⟩, _⟩ := hx
  obtain ⟨r, hr⟩ := mapM_all_ok _ _ _ hchecked bt hbtl
  exact ⟨bt, r, _, _, _, hbd, by rw [hname]; exact hfil, hr⟩

theorem build_ok_extension (doc : Doc) (add : List TypeD) (s : SchemaD) (h : build doc false add = .ok s)
    (t : TypeDef) (ht : t ∈ typeDefs doc) (hadd : t.name ∉ add.map (·.name)) (e : TypeDef) (he : e ∈ typeExts doc) (hn : e.name = t.name) :
    ∃ bt r exts eX hide, buildTypeDef (Env.of (typeDefs doc) add) t = .ok bt ∧ e ∈ exts ∧
      extendTypeX (Env.of (typeDefs doc) add) eX hide exts bt = .ok r := by
  have hb : e ∈ blocksOf doc t := List.mem_filter.mpr ⟨he, beq_iff_eq.mpr hn⟩
  obtain ⟨bt, r, exts, eX, hide, hbt, hfil, hr⟩ := build_ok_extension_blocks doc add s h t ht hadd (List.ne_nil_of_mem hb)
  exact ⟨bt, r, exts, eX, hide, hbt, (List.mem_filter.mp (hfil ▸ hb)).1, hr⟩

/-- what a successful build has checked of an extension block `e` of the definition `t` -/
structure BlockAccepted (t e : TypeDef) : Prop where
  kind : e.kind = t.kind
  fields : (t.kind = .object ∨ t.kind = .interface) → ∀ f ∈ e.fields, f.name ∉ t.fields.map (·.name)
  interfaces : t.kind = .object → ∀ i ∈ e.interfaces, i ∉ t.interfaces
  members : t.kind = .union → ∀ m ∈ e.members, m ∉ t.members
  values : t.kind = .enum → ∀ v ∈ e.values, v.name ∉ t.values.map (·.name)
  inputFields : t.kind = .input → ∀ f ∈ e.inputFields, f.name ∉ t.inputFields.map (·.name)

theorem build_ok_block (doc : Doc) (add : List TypeD) (s : SchemaD) (h : build doc false add = .ok s)
    (t : TypeDef) (ht : t ∈ typeDefs doc) (hadd : t.name ∉ add.map (·.name)) (e : TypeDef) (he : e ∈ typeExts doc) (hn : e.name = t.name) :
    BlockAccepted t e := by
  obtain ⟨bt, r, exts, eX, hide, hbt, hmem, hr⟩ := build_ok_extension doc add s h t ht hadd e he hn
  have hs := skel_of_build _ _ _ hbt
  obtain ⟨h1, h2, h3, h4, h5, h6⟩ := extendTypeX_ok_inv _ _ _ _ _ _ hr e hmem (hn.trans hs.name.symm)
  rw [hs.kind] at h1 h2 h3 h4 h5 h6
  exact ⟨h1, fun hk => hs.fields hk ▸ h2 hk, fun hk => hs.interfaces hk ▸ h3 hk, fun hk => hs.members hk ▸ h4 hk,
    fun hk => hs.values hk ▸ h5 hk, fun hk => hs.inputFields hk ▸ h6 hk⟩

/-- **an extension of another kind than its target (`extend interface X` for `type X`) ⇒ rejected** -/
theorem build_rejects_ext_wrong_kind (doc : Doc) (add : List TypeD) (t : TypeDef) (ht : t ∈ typeDefs doc)
    (hadd : t.name ∉ add.map (·.name)) (e : TypeDef) (he : e ∈ typeExts doc) (hn : e.name = t.name) (hk : e.kind ≠ t.kind) :
    Rejected doc false add :=
  rejected_of_not_ok doc false add fun s hs => hk (build_ok_block doc add s hs t ht hadd e he hn).kind

/-- **an extension that adds a field the object / interface type already has ⇒ rejected** -/
theorem build_rejects_ext_dup_field (doc : Doc) (add : List TypeD) (t : TypeDef) (ht : t ∈ typeDefs doc)
    (hadd : t.name ∉ add.map (·.name)) (hk : t.kind = .object ∨ t.kind = .interface)
    (e : TypeDef) (he : e ∈ typeExts doc) (hn : e.name = t.name)
    (f : FieldDef) (hf : f ∈ e.fields) (hdup : f.name ∈ t.fields.map (·.name)) : Rejected doc false add :=
  rejected_of_not_ok doc false add fun s hs => (build_ok_block doc add s hs t ht hadd e he hn).fields hk f hf hdup

/-- **an extension that adds an input field the input type already has ⇒ rejected** -/
theorem build_rejects_ext_dup_input_field (doc : Doc) (add : List TypeD) (t : TypeDef) (ht : t ∈ typeDefs doc)
    (hadd : t.name ∉ add.map (·.name)) (hk : t.kind = .input)
    (e : TypeDef) (he : e ∈ typeExts doc) (hn : e.name = t.name)
    (f : InputValDef) (hf : f ∈ e.inputFields) (hdup : f.name ∈ t.inputFields.map (·.name)) : Rejected doc false add :=
  rejected_of_not_ok doc false add fun s hs => (build_ok_block doc add s hs t ht hadd e he hn).inputFields hk f hf hdup

/-- **an extension that adds an enum value the enum already has ⇒ rejected** -/
theorem build_rejects_ext_dup_enum_value (doc : Doc) (add : List TypeD) (t : TypeDef) (ht : t ∈ typeDefs doc)
    (hadd : t.name ∉ add.map (·.name)) (hk : t.kind = .enum)
    (e : TypeDef) (he : e ∈ typeExts doc) (hn : e.name = t.name)
    (v : EnumValDef) (hv : v ∈ e.values) (hdup : v.name ∈ t.values.map (·.name)) : Rejected doc false add :=
  rejected_of_not_ok doc false add fun s hs => (build_ok_block doc add s hs t ht hadd e he hn).values hk v hv hdup

/-- **an extension that adds a union member the union already has ⇒ rejected** -/
theorem build_rejects_ext_dup_union_member (doc : Doc) (add : List TypeD) (t : TypeDef) (ht : t ∈ typeDefs doc)
    (hadd : t.name ∉ add.map (·.name)) (hk : t.kind = .union)
    (e : TypeDef) (he : e ∈ typeExts doc) (hn : e.name = t.name)
    (m : String) (hm : m ∈ e.members) (hdup : m ∈ t.members) : Rejected doc false add :=
  rejected_of_not_ok doc false add fun s hs => (build_ok_block doc add s hs t ht hadd e he hn).members hk m hm hdup

/-- **an extension that adds an interface the object type already implements ⇒ rejected** -/
theorem build_rejects_ext_dup_interface (doc : Doc) (add : List TypeD) (t : TypeDef) (ht : t ∈ typeDefs doc)
    (hadd : t.name ∉ add.map (·.name)) (hk : t.kind = .object)
    (e : TypeDef) (he : e ∈ typeExts doc) (hn : e.name = t.name)
    (i : String) (hi : i ∈ e.interfaces) (hdup : i ∈ t.interfaces) : Rejected doc false add :=
  rejected_of_not_ok doc false add fun s hs => (build_ok_block doc add s hs t ht hadd e he hn).interfaces hk i hi hdup

theorem build_ok_blocks_nodup (doc : Doc) (add : List TypeD) (s : SchemaD) (h : build doc false add = .ok s)
    (t : TypeDef) (ht : t ∈ typeDefs doc) (hadd : t.name ∉ add.map (·.name)) :
    ((t.kind = .object ∨ t.kind = .interface) → (((blocksOf doc t).flatMap (·.fields)).map (·.name)).Nodup) ∧
    (t.kind = .union → ((blocksOf doc t).flatMap (·.members)).Nodup) ∧
    (t.kind = .enum → (((blocksOf doc t).flatMap (·.values)).map (·.name)).Nodup) ∧
    (t.kind = .input → (((blocksOf doc t).flatMap (·.inputFields)).map (·.name)).Nodup) := by
  by_cases hne : blocksOf doc t = []
  · rw [hne]
    exact ⟨fun _ => List.nodup_nil, fun _ => List.nodup_nil, fun _ => List.nodup_nil, fun _ => List.nodup_nil⟩
  obtain ⟨bt, r, exts, eX, hide, hbt, hfil, hr⟩ := build_ok_extension_blocks doc add s h t ht hadd hne
  obtain ⟨_, hF, _, hM, hV, hX⟩ := extendTypeX_ok_loops _ _ _ _ _ _ hr
  rw [mineOf, hfil, (buildTypeDef_shape _ _ _ hbt).2.1] at hF hM hV hX
  refine ⟨fun hk => ?_, fun hk => ?_, fun hk => ?_, fun hk => ?_⟩
  · obtain ⟨_, hfs⟩ := hF hk
    exact mergeFold_ok_nodup _ _ _ (buildFieldX_name _ eX hide) _ _ _ _ _ hfs
  · obtain ⟨_, hms⟩ := hM hk
    exact namesFold_ok_nodup _ _ _ _ _ _ hms
  · obtain ⟨_, hvs⟩ := hV hk
    exact mergeFold_ok_nodup _ _ _ buildEnumValue_name _ _ _ _ _ hvs
  · obtain ⟨_, hfs⟩ := hX hk
    exact mergeFold_ok_nodup _ _ _ (buildArgumentX_name _ eX hide) _ _ _ _ _ hfs

/-- **two extension blocks of one object / interface type (or one block) that declare the same field name ⇒ rejected** -/
theorem build_rejects_ext_repeated_field (doc : Doc) (add : List TypeD) (t : TypeDef) (ht : t ∈ typeDefs doc)
    (hadd : t.name ∉ add.map (·.name)) (hk : t.kind = .object ∨ t.kind = .interface)
    (hdup : ¬ (((blocksOf doc t).flatMap (·.fields)).map (·.name)).Nodup) : Rejected doc false add :=
  rejected_of_not_ok doc false add fun s hs => hdup ((build_ok_blocks_nodup doc add s hs t ht hadd).1 hk)

/-- **… the same enum value in two extension blocks of one enum ⇒ rejected** -/
theorem build_rejects_ext_repeated_enum_value (doc : Doc) (add : List TypeD) (t : TypeDef) (ht : t ∈ typeDefs doc)
    (hadd : t.name ∉ add.map (·.name)) (hk : t.kind = .enum)
    (hdup : ¬ (((blocksOf doc t).flatMap (·.values)).map (·.name)).Nodup) : Rejected doc false add :=
  rejected_of_not_ok doc false add fun s hs => hdup ((build_ok_blocks_nodup doc add s hs t ht hadd).2.2.1 hk)

/-- **… the same input field in two extension blocks of one input type ⇒ rejected** -/
theorem build_rejects_ext_repeated_input_field (doc : Doc) (add : List TypeD) (t : TypeDef) (ht : t ∈ typeDefs doc)
    (hadd : t.name ∉ add.map (·.name)) (hk : t.kind = .input)
    (hdup : ¬ (((blocksOf doc t).flatMap (·.inputFields)).map (·.name)).Nodup) : Rejected doc false add :=
  rejected_of_not_ok doc false add fun s hs => hdup ((build_ok_blocks_nodup doc add s hs t ht hadd).2.2.2 hk)

/-- **… the same member in two extension blocks of one union ⇒ rejected** -/
theorem build_rejects_ext_repeated_union_member (doc : Doc) (add : List TypeD) (t : TypeDef) (ht : t ∈ typeDefs doc)
    (hadd : t.name ∉ add.map (·.name)) (hk : t.kind = .union)
    (hdup : ¬ ((blocksOf doc t).flatMap (·.members)).Nodup) : Rejected doc false add :=
  rejected_of_not_ok doc false add fun s hs => hdup ((build_ok_blocks_nodup doc add s hs t ht hadd).2.1 hk)

/-! ### non-vacuity: each family of hypotheses has an instance (and the real builder agrees: corpus/C11/reject_*.json) -/

def dupTypeDoc : Doc := [.type exQuery, .type exQuery]
example : build dupTypeDoc = .error (.lib .sdl) := build_rejects_dup_type dupTypeDoc false [] (by decide +kernel)

def dupDirDoc : Doc := [.type exQuery, .directive { name := "d", locations := ["FIELD"] }, .directive { name := "d", locations := ["QUERY"] }]
example : build dupDirDoc = .error (.lib .sdl) := build_rejects_dup_directive dupDirDoc false [] (by decide +kernel)

def twoSchemaDoc : Doc := [.type exQuery, .schema { ops := [("query", "Query")] }, .schema { ops := [("query", "Query")] }]
example : build twoSchemaDoc = .error (.lib .sdl) := build_rejects_second_schema twoSchemaDoc false [] (by decide +kernel)

def specifiedNameDoc : Doc := [.type exQuery, .type { kind := .scalar, name := "Int" }]
example : build specifiedNameDoc = .error (.lib .sdl) :=
  build_rejects_specified_name specifiedNameDoc false [] { kind := .scalar, name := "Int" } (List.Mem.tail _ (List.Mem.head _)) (by decide +kernel)

def unknownRefType : TypeDef := { kind := .object, name := "Query", fields := [{ name := "a", type := .named "Nope" }] }
def unknownRefDoc : Doc := [.type unknownRefType]
example : Rejected unknownRefDoc false [] :=
  build_rejects_unknown_field_type unknownRefDoc false [] unknownRefType (List.Mem.head _) (by simp) (Or.inl rfl)
    { name := "a", type := .named "Nope" } (List.Mem.head _) (by unfold KnownIn; decide +kernel)

def unknownMemberType : TypeDef := { kind := .union, name := "U", members := ["Query", "Nope"] }
def unknownMemberDoc : Doc := [.type exQuery, .type unknownMemberType]
example : Rejected unknownMemberDoc false [] :=
  build_rejects_unknown_union_member unknownMemberDoc false [] unknownMemberType (List.Mem.tail _ (List.Mem.head _)) (by simp) rfl
    "Nope" (by decide +kernel) (by unfold KnownIn; decide +kernel)

def unknownRootDoc : Doc := [.type exQuery, .schema { ops := [("query", "Nope")] }]
example : Rejected unknownRootDoc false [] :=
  build_rejects_unknown_root unknownRootDoc false [] { ops := [("query", "Nope")] } rfl ("query", "Nope") (List.Mem.head _)
    (by unfold KnownIn; decide +kernel)

def wrongKindExt : TypeDef := { kind := .interface, name := "Query", fields := [{ name := "b", type := .named "Int" }] }
def wrongKindDoc : Doc := [.type exQuery, .ext wrongKindExt]
example : Rejected wrongKindDoc false [] :=
  build_rejects_ext_wrong_kind wrongKindDoc [] exQuery (List.Mem.head _) (by simp) wrongKindExt (List.Mem.head _) rfl (by decide +kernel)

def dupFieldDoc : Doc := [.type exQuery, .ext exQuery]
example : Rejected dupFieldDoc false [] :=
  build_rejects_ext_dup_field dupFieldDoc [] exQuery (List.Mem.head _) (by simp) (Or.inl rfl) exQuery (List.Mem.head _) rfl
    { name := "a", type := .named "Int" } (List.Mem.head _) (by decide +kernel)

def repeatedFieldDoc : Doc := [.type exQuery, .ext exExt, .ext exExt]
example : Rejected repeatedFieldDoc false [] :=
  build_rejects_ext_repeated_field repeatedFieldDoc [] exQuery (List.Mem.head _) (by simp) (Or.inl rfl) (by decide +kernel)

/-- the classes the real builder raises on these documents, evaluated by the kernel on the model -/
example : (match build wrongKindDoc with | .error (.lib .ext) => true | _ => false) = true := by decide +kernel
example : (match build dupFieldDoc with | .error (.lib .ext) => true | _ => false) = true := by decide +kernel
example : (match build unknownRefDoc with | .error (.lib .sdl) => true | _ => false) = true := by decide +kernel
example : (match build unknownRootDoc with | .error (.lib .sdl) => true | _ => false) = true := by decide +kernel

end PyGql.Props.C11
