/-
  C06 - THE OVERLAP RULE /repo RUNS IGNORES THE ORDER OF DEFINITIONS.

  With the equivalence for the memoised rule (`rule_overlapping_fields_memo_iff`) `perm_definitions` for
  OverlappingFieldsCanBeMerged reduces to the clause: `Spec.overlappingFieldsCanBeMerged`
  reads a document only through its selection-set nodes, its typed enumeration and its fragment table
  (`Lemmas/ValidateOverlapPerm.lean: SameDoc.clause`), and a permutation of the definitions of a document with UNIQUE
  fragment names keeps all three (`sameDoc_of_perm`; with two definitions of one name the last one wins - the table,
  and the verdict, depend on the order). The side conditions (`ParentsAgree`, no fragment named "", `WfIds`) travel
  along.
-/
import PyGqlModel.Props.C06_overlap_memo_complete
import PyGqlModel.Lemmas.ValidateOverlapPerm
namespace PyGql.Props.C06
open PyGql PyGql.Validate PyGql.Validate.Spec

theorem overlap_clause_perm_definitions (s : SchemaD) {d d' : Doc} (h : d.defs.Perm d'.defs)
    (hnd : Spec.uniqueFragmentNames d) :
    Spec.overlappingFieldsCanBeMerged s d ↔ Spec.overlappingFieldsCanBeMerged s d' :=
  ⟨(sameDoc_of_perm s h hnd).clause, (sameDoc_of_perm s h hnd).symm.clause⟩

/-- **perm_definitions for `OverlappingFieldsCanBeMergedChecker` as /repo runs it** (memoised search): reordering the
    definitions of a document with unique fragment names does not change whether the rule reports -/
theorem perm_definitions_overlap_memo (s : SchemaD) (fx : Fixes) (h7 : fx.v7 = true) {d d' : Doc}
    (h : d.defs.Perm d'.defs) (hnd : Spec.uniqueFragmentNames d) (hpa : Spec.ParentsAgree s d)
    (hne : AL.get? (fragTable d) "" = none) (hw : WfIds d) :
    (overlapMemoRun s fx d).1 = 0 ↔ (overlapMemoRun s fx d').1 = 0 := by
  have sd := sameDoc_of_perm s h hnd
  rw [rule_overlapping_fields_memo_iff s fx h7 d hpa hne hw,
    rule_overlapping_fields_memo_iff s fx h7 d' (sd.parentsAgree hpa) (by rw [← sd.frags]; exact hne) (wfIds_perm h hw)]
  exact overlap_clause_perm_definitions s h hnd

/-! non-vacuity: the two-fragment document of `Props/C06_overlap_examples.lean` and the same with its definitions
    reversed -/
example : (overlapMemoRun oSchema Fixes.all (oDocFrag "a")).1 = 0 ↔
    (overlapMemoRun oSchema Fixes.all ⟨(oDocFrag "a").defs.reverse⟩).1 = 0 :=
  perm_definitions_overlap_memo oSchema Fixes.all rfl (d' := ⟨(oDocFrag "a").defs.reverse⟩)
    (List.reverse_perm _).symm (by unfold Spec.uniqueFragmentNames; decide) (parentsAgree_frag "a") (overlapSide_frag "a").noEmptyName
    (by rw [← wfIdsB_iff]; decide)

/-! ### reordering ARGUMENTS needs unique argument names

`_same_arguments` sorts both argument lists by name with a STABLE sort and compares them pairwise. With two arguments of
one name (a violation of UniqueArgumentNames, 5.4.2) the relative order of the two survives the sort, so reordering the
arguments of one field changes what this rule reports: `{ a(x:1, x:2) a(x:2, x:1) }` is reported ("different arguments"),
`{ a(x:1, x:2) a(x:1, x:2) }` is not - reproduced on the real validator (both documents are rejected by
UniqueArgumentNames, so the VERDICT of the chain does not change: no violation of the property; `perm_arguments_all26`,
Props/C06_inv_tr_all26.lean, assumes unique argument names). -/

def argI (n v : String) : Arg := { name := n, value := .int v }

theorem perm_arguments_overlap_needs_unique_argument_names :
    0 < (overlapMemoRun wSchema Fixes.all
      ⟨[opV [] 1 [fld none "a" [argI "x" "1", argI "x" "2"], fld none "a" [argI "x" "2", argI "x" "1"]]]⟩).1 ∧
    (overlapMemoRun wSchema Fixes.all
      ⟨[opV [] 1 [fld none "a" [argI "x" "1", argI "x" "2"], fld none "a" [argI "x" "1", argI "x" "2"]]]⟩).1 = 0 := by
  decide +kernel

end PyGql.Props.C06
