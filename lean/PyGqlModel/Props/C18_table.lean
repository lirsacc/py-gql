/-
  C18 — what `visitor.py` says TODAY: statements about `Generated.VisitTable` (table + witness documents parsed by the
  real parser), closed by kernel evaluation (`decide +kernel`). Any edit of a `_visit_*` body re-opens them.
-/
import PyGqlModel.VisitShape
import PyGqlModel.Props.C18
import PyGqlModel.Props.C18_checks
import PyGqlModel.Props.C18_once
import PyGqlModel.Props.C18_edit

-- a FAILING `decide +kernel` must fail fast (the elaborator's diagnosis of a false instance would run for minutes):
-- the kernel evaluation of the true instances is not subject to this limit
set_option maxHeartbeats 3000

namespace PyGql.Props.C18
open PyGql.Visit PyGql.Generated.VisitTable

/-! Comparing two strings is by far the slowest step of a kernel evaluation (a literal is first encoded to bytes), and every
  fact about the table compares the same few hundred kind, method and attribute names with each other. The kernel
  remembers what it has reduced only while it checks ONE declaration, so the facts are evaluated together, once for the
  table and twice for the witness documents (identity visits, edits), and the theorems of this file and of Props/C18_cover, C18_reach, C18_order,
  C18_identity, C18_shape are their components. -/

/-! the facts about kinds and attributes under which the hand-written skeleton documents of Props/C18_cover, C18_reach,
    C18_order are covered: they mention no document, so they are evaluated with the table -/

/-- `Document → OperationDefinition → SelectionSet` (Props/C18_cover): the two statements are in the bodies registered for the
    parents' kinds, and the children's kinds are registered with the methods the call targets resolve to -/
abbrev SkeletonSteps : Prop :=
  ((⟨none, "definitions", .many, .always, true, .disp "_visit_definition"⟩ : Step) ∈ stepsOf table "Document" ∧
      table.visit.lookup "OperationDefinition" = some "_visit_operation_definition") ∧
    ((⟨none, "selection_set", .one, .always, true, .method "_visit_selection_set"⟩ : Step) ∈
      stepsOf table "OperationDefinition" ∧
      table.visit.lookup "SelectionSet" = some "_visit_selection_set")

/-- the body of each kind on the path document … object field (Props/C18_reach, C18_order) has a statement for the attribute
    the path goes through: the side conditions of `covered_attr` -/
abbrev SkeletonPathSteps : Prop :=
  ((ownSteps table "Document").find? (·.attr == "definitions")).isSome = true ∧
    ((ownSteps table "OperationDefinition").find? (·.attr == "selection_set")).isSome = true ∧
    ((ownSteps table "SelectionSet").find? (·.attr == "selections")).isSome = true ∧
    ((ownSteps table "Field").find? (·.attr == "arguments")).isSome = true ∧
    ((ownSteps table "Argument").find? (·.attr == "value")).isSome = true ∧
    ((ownSteps table "ObjectValue").find? (·.attr == "fields")).isSome = true ∧
    ((ownSteps table "ObjectField").find? (·.attr == "value")).isSome = true

/-- `_visit_object_field` sends a `Variable` to a method that exists -/
abbrev ObjectFieldResolvesVariable : Prop :=
  (resolve table ((ownSteps table "ObjectField").headD default).target "Variable").toBool = true

/-- `directives` comes before `selection_set` in the slots of `OperationDefinition`, and both are traversed -/
abbrev OperationSlotOrder : Prop :=
  ("OperationDefinition", (table.slots.lookup "OperationDefinition").getD []) ∈ table.slots ∧
    attrBefore ((table.slots.lookup "OperationDefinition").getD []) "directives" "selection_set" = true ∧
    coveredBy table "OperationDefinition" "directives" = true ∧
    coveredBy table "OperationDefinition" "selection_set" = true

/-- everything that is read off the extracted table: the `_visit_*` bodies, the registries, the slots they traverse and
    miss, the child classes, the statement order, and the statements under which the hand-written skeleton documents of
    Props/C18_cover, C18_reach, C18_order are covered (facts about kinds and attributes only, so they are evaluated here) -/
theorem table_today :
    (table.methods.all (fun p => p.2.all (·.assign)) = true ∧
      table.methods.all (fun p => decide ((p.2.map (·.attr)).Nodup)) = true ∧
      (table.methods.all (fun p => p.2.all fun st =>
          match st.target with
          | .method m => (table.methods.lookup m).isSome
          | .disp d => (table.dispatchers.lookup d).isSome) = true ∧
        table.dispatchers.all (fun p => p.2.registry.all (fun q => (table.methods.lookup q.2).isSome) &&
          (match p.2.dflt with | some m => (table.methods.lookup m).isSome | none => true)) = true ∧
        table.visit.all (fun q => (table.methods.lookup q.2).isSome) = true)) ∧
    (table.slots.all (fun p => p.1 == "Name" || (table.visit.lookup p.1).isSome) = true ∧
      (enterRegistry.map (·.1) = leaveRegistry.map (·.1) ∧
        table.visit.all (fun p => (enterRegistry.lookup p.1).isSome) = true ∧
        enterRegistry.all (fun p => (table.visit.lookup p.1).isSome) = true) ∧
      table.dispatchers.all (fun d => d.2.registry.all fun q => table.visit.lookup q.1 == some q.2) = true) ∧
    (uncoveredSlots table).filter (fun p => !scalarOrNameSlot p) =
        [("DirectiveDefinition", "description"), ("EnumTypeDefinition", "description"), ("EnumValueDefinition", "description"),
         ("FieldDefinition", "description"), ("FragmentDefinition", "type_condition"), ("InlineFragment", "type_condition"),
         ("InputObjectTypeDefinition", "description"), ("InputValueDefinition", "description"),
         ("InterfaceTypeDefinition", "description"), ("ListType", "type"), ("NonNullType", "type"),
         ("ObjectTypeDefinition", "description"), ("ScalarTypeDefinition", "description"),
         ("UnionTypeDefinition", "description"), ("VariableDefinition", "variable")] ∧
    tableKinded table childKinds = true ∧
    inversions table = w5 ∧ table.slots.all (fun p => decide p.2.Nodup) = true ∧
    SkeletonSteps ∧ SkeletonPathSteps ∧ ObjectFieldResolvesVariable ∧ OperationSlotOrder := by decide +kernel

/-- the identity visits of the three witnesses complete; on `{ a(x: 1) @d b { c } }` the calls are the specified ones, on the
    executable witness they are not -/
abbrev WitnessCalls : Prop :=
  implKeys 64 witnessSmall = some (specKeys witnessSmall) ∧
    ((implKeys 64 witnessExec).isSome = true ∧ implKeys 64 witnessExec ≠ some (specKeys witnessExec)) ∧
    (implKeys 64 witnessSdl).isSome = true

/-- where the default value (10), the type (6) and the directive (11) of the first variable definition of `witnessExec` occur
    among the calls -/
abbrev WitnessExecOrderTrace : Prop :=
  (implKeys 64 witnessExec).map (fun ks => (ks.filter fun k => k.2.1 == 6 || k.2.1 == 10 || k.2.1 == 11).map
      fun k => (k.1, k.2.1)) = some [(true, 10), (false, 10), (true, 6), (false, 6), (true, 11), (false, 11)]

/-- the `Variable` (4) of that variable definition is not visited, its type (6) is -/
abbrev WitnessExecVisited : Prop :=
  (implKeys 64 witnessExec).map (fun ks => (ks.any (·.2.1 == 4), ks.any (·.2.1 == 6))) = some (false, true)

/-- everything that is evaluated on the witness documents: first the identity visit of each (`gaps`, `orderOk`, the calls
    `implKeys` against the specified ones, and where the nodes 4, 6, 10, 11 of the first variable definition of `witnessExec`
    occur among them), then the checks under which the generic theorems apply to them (distinct
    identities, classified slots, admitted child classes, shape) -/
theorem witnesses_today :
    ((gaps witnessExec = some
          [("VariableDefinition", "variable"), ("ListType", "type"), ("NonNullType", "type"),
           ("InlineFragment", "type_condition"), ("FragmentDefinition", "type_condition")] ∧
        gaps witnessSdl = some
          [("ScalarTypeDefinition", "description"), ("ObjectTypeDefinition", "description"),
           ("FieldDefinition", "description"), ("InputValueDefinition", "description"),
           ("InterfaceTypeDefinition", "description"), ("UnionTypeDefinition", "description"),
           ("EnumTypeDefinition", "description"), ("EnumValueDefinition", "description"),
           ("InputObjectTypeDefinition", "description"), ("DirectiveDefinition", "description")]) ∧
      (orderOk witnessExec = some false ∧ orderOk witnessSdl = some false) ∧
      WitnessCalls ∧ WitnessExecOrderTrace ∧ WitnessExecVisited) ∧
    ((idsNode witnessSmall).Nodup ∧ (idsNode witnessExec).Nodup) ∧
    (slotsClassified witnessExec = true ∧ slotsClassified witnessSdl = true) ∧
    (wellKinded childKinds witnessExec = true ∧ wellKinded childKinds witnessSdl = true ∧
      wellKinded childKinds witnessSmall = true) ∧
    (wellShapedAt table witnessExec.depth witnessExec = true ∧ wellShapedAt table witnessSdl.depth witnessSdl = true ∧
      wellShapedAt table witnessSmall.depth witnessSmall = true ∧
      wellShapedAt table witnessDup.depth witnessDup = true) := by decide +kernel

/-! the components that no theorem of this file states under a name of its own -/

theorem table_slots_nodup : table.slots.all (fun p => decide p.2.Nodup) = true := table_today.2.2.2.2.2.1
theorem skeleton_steps_today : SkeletonSteps := table_today.2.2.2.2.2.2.1
theorem skeleton_path_steps_today : SkeletonPathSteps := table_today.2.2.2.2.2.2.2.1
theorem objectField_resolves_variable_today : ObjectFieldResolvesVariable := table_today.2.2.2.2.2.2.2.2.1
theorem operation_slot_order_today : OperationSlotOrder := table_today.2.2.2.2.2.2.2.2.2
theorem witness_calls_today : WitnessCalls := witnesses_today.1.2.2.1
theorem witnessExec_order_trace_today : WitnessExecOrderTrace := witnesses_today.1.2.2.2.1
theorem witnessExec_visited_today : WitnessExecVisited := witnesses_today.1.2.2.2.2

private def pathB : List (String × Option Nat) := [("definitions", some 0), ("selection_set", none), ("selections", some 1)]

private def sameTree (r : Res (Out Unit)) (e : Option (Option Node)) : Bool :=
  match r, e with
  | .ok o, some (some b) => (match o.ret with | some a => Node.beq a b | none => false)
  | _, _ => false

mutual
/-- paths of all non-name nodes of a tree (specification side: every child attribute) -/
def pathsNode : Node → List (List (String × Option Nat))
  | .mk _ _ a => [] :: pathsAttrs a
def pathsAttrs : List (String × Attr) → List (List (String × Option Nat))
  | [] => []
  | (name, a) :: r => pathsAttr name a ++ pathsAttrs r
def pathsAttr (name : String) : Attr → List (List (String × Option Nat))
  | .scalar _ => []
  | .one none => []
  | .one (some c) => if c.kind == "Name" then [] else (pathsNode c).map ((name, none) :: ·)
  | .many cs => pathsList name 0 cs
def pathsList (name : String) (i : Nat) : List Node → List (List (String × Option Nat))
  | [] => []
  | c :: r => (if c.kind == "Name" then [] else (pathsNode c).map ((name, some i) :: ·)) ++ pathsList name (i + 1) r
end

/-- fresh replacements for the field `b`: a leaf field, and a node of another class -/
private def leafField : Node :=
  .mk "Field" 100 [("name", .one none), ("alias", .one none), ("arguments", .many []), ("directives", .many []), ("selection_set", .one none)]
private def leafSpread : Node := .mk "FragmentSpread" 100 [("name", .one none), ("directives", .many [])]

/-- the edits of `Spec.editAt` tried on the witness documents: deleting, skipping, replacing the field `b` (identity 10,
    path `pathB`) of `{ a(x: 1) @d b { c } }`, the second of the equal siblings of `{ id name id friends { id } id }`,
    and which positions today's traversal reaches -/
theorem edits_on_witnesses_today :
    (sameTree (visit table (actAt 10 fun _ => .delete) 64 witnessSmall ()) (Spec.editAt pathB .delete witnessSmall) = true ∧
      (match visit table (actAt 10 fun _ => .delete) 64 witnessSmall () with
       | .ok o => o.tr.map Ev.key
       | _ => []) = (specKeys witnessSmall).filter (fun k => !(k.2.1 == 12 || k.2.1 == 13 || (k.2.1 == 10 && !k.1)))) ∧
    (sameTree (visit table (actAt 10 fun n => .skip n) 64 witnessSmall ()) (some (some witnessSmall)) = true ∧
      (match visit table (actAt 10 fun n => .skip n) 64 witnessSmall () with
       | .ok o => o.tr.map Ev.key
       | _ => []) = (specKeys witnessSmall).filter (fun k => !(k.2.1 == 12 || k.2.1 == 13 || (k.2.1 == 10 && !k.1)))) ∧
    (sameTree (visit table (actAt 10 fun _ => .replace leafField) 64 witnessSmall ())
        (Spec.editAt pathB (.replace leafField) witnessSmall) = true ∧
      sameTree (visit table (actAt 10 fun _ => .replace leafSpread) 64 witnessSmall ())
        (Spec.editAt pathB (.replace leafSpread) witnessSmall) = true) ∧
    (sameTree (visit table (actAt 7 fun _ => .delete) 64 witnessDup ())
        (Spec.editAt [("definitions", some 0), ("selection_set", none), ("selections", some 2)] .delete witnessDup) = true ∧
      sameTree (visit table (actAt 7 fun _ => .delete) 64 witnessDup ())
        (Spec.editAt [("definitions", some 0), ("selection_set", none), ("selections", some 0)] .delete witnessDup) = false ∧
      (idsNode witnessDup).Nodup) ∧
    ((pathsNode witnessSmall).length = 10 ∧
      (pathsNode witnessSmall).all (fun p => reachVB table witnessSmall p) = true) ∧
    (((pathsNode witnessExec).filter (fun p => reachVB table witnessExec p)).length = 17 ∧
      ((pathsNode witnessExec).filter (fun p => !reachVB table witnessExec p)).length = 8) ∧
    reachVB table witnessSmall pathB = true := by decide +kernel

/-- what a fact about `implKeys` says about the identity visit itself -/
theorem implKeys_map_eq_some {β : Type} {F : List (Bool × Nat × String) → β} {t : Node} {b : β}
    (h : (implKeys 64 t).map F = some b) : ∃ o, visit table observer 64 t () = .ok o ∧ F (o.tr.map Ev.key) = b := by
  unfold implKeys at h
  split at h
  · exact ⟨_, ‹_›, by simpa using h⟩
  · cases h

/-- W1–W3 (what is left after fixes C18-W2b / C18-W3b: directives of variable definitions and variable definitions of
    fragments ARE visited): the child positions of an executable document that are never entered
    (`query Q($v: [Int!] = 1 @d, $u: Int!) { ... on T { a } } fragment F($w: Int) on T { a }`) -/
theorem gaps_executable : gaps witnessExec = some
    [("VariableDefinition", "variable"), ("ListType", "type"), ("NonNullType", "type"),
     ("InlineFragment", "type_condition"), ("FragmentDefinition", "type_condition")] := witnesses_today.1.1.1

/-- W4: the `description` of none of the ten describable kinds is entered; nothing else is missing in an SDL document -/
theorem gaps_type_system : gaps witnessSdl = some
    [("ScalarTypeDefinition", "description"), ("ObjectTypeDefinition", "description"),
     ("FieldDefinition", "description"), ("InputValueDefinition", "description"),
     ("InterfaceTypeDefinition", "description"), ("UnionTypeDefinition", "description"),
     ("EnumTypeDefinition", "description"), ("EnumValueDefinition", "description"),
     ("InputObjectTypeDefinition", "description"), ("DirectiveDefinition", "description")] := witnesses_today.1.1.2

/-- W5: siblings are not always entered in source order (default value before type; field type before arguments;
    operation types before the directives of `schema`) -/
theorem order_violated : orderOk witnessExec = some false ∧ orderOk witnessSdl = some false :=
  witnesses_today.1.2.1

/-- non-vacuity / positive instance: on `{ a(x: 1) @d b { c } }` the implementation meets the FULL specification -/
theorem coverage_full_on_plain_selection : implKeys 64 witnessSmall = some (specKeys witnessSmall) :=
  witness_calls_today.1

/-- refutation of the full statement, with the witness document -/
theorem full_coverage_false : ¬ FullCoverage := by
  intro h
  have h1 := witness_calls_today.2.1
  cases hk : implKeys 64 witnessExec with
  | none => simp [hk] at h1
  | some ks => exact h1.2 (by rw [hk, h _ _ _ hk])

/-- every statement of every `_visit_*` body writes its result back (`P.a = …`): replacements and deletions
    returned for a child always reach the parent (fix C18-W5b, /repo bfbd81a; before it the
    `default_value` statement of `_visit_input_value_definition` discarded its result) -/
theorem table_all_assign : table.methods.all (fun p => p.2.all (·.assign)) = true := table_today.1.1

/-- no `_visit_*` body traverses the same attribute twice (a node cannot be entered twice through its parent) -/
theorem table_steps_distinct : table.methods.all (fun p => decide ((p.2.map (·.attr)).Nodup)) = true :=
  table_today.1.2.1

/-- every call target of every statement, every registry entry, resolves to a `@_visit_method` that exists -/
theorem table_closed :
    table.methods.all (fun p => p.2.all fun st =>
      match st.target with
      | .method m => (table.methods.lookup m).isSome
      | .disp d => (table.dispatchers.lookup d).isSome) = true ∧
    table.dispatchers.all (fun p => p.2.registry.all (fun q => (table.methods.lookup q.2).isSome) &&
      (match p.2.dflt with | some m => (table.methods.lookup m).isSome | none => true)) = true ∧
    table.visit.all (fun q => (table.methods.lookup q.2).isSome) = true := table_today.1.2.2

/-- `ASTVisitor.visit` handles every concrete node class of `lang/ast.py` except `Name` -/
theorem visit_total : table.slots.all (fun p => p.1 == "Name" || (table.visit.lookup p.1).isSome) = true :=
  table_today.2.1.1

/-- `DispatchingVisitor`: `enter` and `leave` know exactly the kinds `visit` handles, in the same order -/
theorem dispatching_total :
    enterRegistry.map (·.1) = leaveRegistry.map (·.1) ∧
    table.visit.all (fun p => (enterRegistry.lookup p.1).isSome) = true ∧
    enterRegistry.all (fun p => (table.visit.lookup p.1).isSome) = true := table_today.2.1.2.1

/-- today's table satisfies the hypothesis of `once` -/
theorem table_StepsDistinct : StepsDistinct table := fun m steps h =>
  of_decide_eq_true (List.all_eq_true.1 table_steps_distinct (m, steps) (lookup_mem_of_some _ _ _ h))

/-- `once` for the traversal that `visitor.py` implements today -/
theorem once_today {σ : Type} (v : Visitor σ) (hv : Observer v) (fuel : Nat) (t : Node) (s : σ) (o : Out σ)
    (h : visit table v fuel t s = .ok o) (hnd : (idsNode t).Nodup) : (entered o.tr).Nodup :=
  (once table table_StepsDistinct v hv fuel t s o h hnd).1

/-- the hypotheses of `identity_noop` / `balanced` / `coverage_partial` / `once` are met by real documents:
    the identity visit of each witness completes, and the witnesses have distinct identities -/
example : (implKeys 64 witnessSmall).isSome = true ∧ (implKeys 64 witnessExec).isSome = true ∧
    (implKeys 64 witnessSdl).isSome = true :=
  have h := witness_calls_today
  ⟨by rw [h.1]; rfl, h.2.1.1, h.2.2⟩
example : (idsNode witnessSmall).Nodup ∧ (idsNode witnessExec).Nodup := witnesses_today.2.1

/-- such a visitor that deletes or skips is identity preserving (hypothesis of `balanced`) -/
example (i : Nat) : IdPreserving (actAt i fun _ => .delete) := by
  intro n s; simp only [actAt]; cases n.id == i <;> simp
example (i : Nat) : IdPreserving (actAt i fun n => .skip n) := by
  intro n s; simp only [actAt]; cases n.id == i <;> simp

/-- `{ a(x: 1) @d b { c } }`, deleting field `b` (identity 10): the result is `Spec.editAt` (exactly that member
    removed), and the calls are those of the identity visit minus the inside of `b` -/
example : sameTree (visit table (actAt 10 fun _ => .delete) 64 witnessSmall ()) (Spec.editAt pathB .delete witnessSmall) = true ∧
    (match visit table (actAt 10 fun _ => .delete) 64 witnessSmall () with
     | .ok o => o.tr.map Ev.key
     | _ => []) = (specKeys witnessSmall).filter (fun k => !(k.2.1 == 12 || k.2.1 == 13 || (k.2.1 == 10 && !k.1))) :=
  edits_on_witnesses_today.1

/-- skipping `b`: tree unchanged, same calls as for the deletion -/
example : sameTree (visit table (actAt 10 fun n => .skip n) 64 witnessSmall ()) (some (some witnessSmall)) = true ∧
    (match visit table (actAt 10 fun n => .skip n) 64 witnessSmall () with
     | .ok o => o.tr.map Ev.key
     | _ => []) = (specKeys witnessSmall).filter (fun k => !(k.2.1 == 12 || k.2.1 == 13 || (k.2.1 == 10 && !k.1))) :=
  edits_on_witnesses_today.2.1

/-- replacing `b` by a fresh leaf field: the result is `Spec.editAt … (.replace r)` -/
example :
    let r : Node := .mk "Field" 100 [("name", .one none), ("alias", .one none), ("arguments", .many []), ("directives", .many []), ("selection_set", .one none)]
    sameTree (visit table (actAt 10 fun _ => .replace r) 64 witnessSmall ()) (Spec.editAt pathB (.replace r) witnessSmall) = true :=
  edits_on_witnesses_today.2.2.1.1

/-- delete / replace / skip at ANY position reached by today's traversal give exactly `Spec.editAt` -/
theorem edits_today (x t : Node) (p : List (String × Option Nat)) (fuel : Nat) (o : Out Unit)
    (hr : ReachV table t p) (hnd : (idsNode t).Nodup) (hx : Spec.nodeAt p t = some x) :
    (visit table (actAt x.id fun _ => .delete) fuel t () = .ok o → Spec.editAt p .delete t = some o.ret) ∧
    (∀ r, x.id ∉ idsNode r → visit table (actAt x.id fun _ => .replace r) fuel t () = .ok o →
        Spec.editAt p (.replace r) t = some o.ret) ∧
    (visit table (actAt x.id fun n => .skip n) fuel t () = .ok o → o.ret = some t) :=
  ⟨delete_at table table_StepsDistinct x t p fuel o hr hnd hx,
   fun r hf => replace_at table table_StepsDistinct x t r p fuel o hr hnd hx hf,
   skip_at table table_StepsDistinct x t p fuel o hr hnd hx⟩

/-- non-vacuity: EVERY non-name position of `{ a(x: 1) @d b { c } }` (10 positions) is reached by today's traversal,
    so `edits_today` applies to all of them; in the executable witness 17 positions are reached and 8 are not (W1–W3, after fixes W2b / W3b) -/
example : (pathsNode witnessSmall).length = 10 ∧
    (pathsNode witnessSmall).all (fun p => reachVB table witnessSmall p) = true := edits_on_witnesses_today.2.2.2.2.1
example : ((pathsNode witnessExec).filter (fun p => reachVB table witnessExec p)).length = 17 ∧
    ((pathsNode witnessExec).filter (fun p => !reachVB table witnessExec p)).length = 8 := edits_on_witnesses_today.2.2.2.2.2.1
example : ReachV table witnessSmall pathB := reachVB_sound table _ _ edits_on_witnesses_today.2.2.2.2.2.2

/-- structurally equal siblings (`{ id name id friends { id } id }`, parsed without locations): deleting the SECOND `id`
    (identity 7, index 2) removes exactly that occurrence — the result is `Spec.editAt` at index 2, not at index 0 -/
example :
    sameTree (visit table (actAt 7 fun _ => .delete) 64 witnessDup ())
      (Spec.editAt [("definitions", some 0), ("selection_set", none), ("selections", some 2)] .delete witnessDup) = true ∧
    sameTree (visit table (actAt 7 fun _ => .delete) 64 witnessDup ())
      (Spec.editAt [("definitions", some 0), ("selection_set", none), ("selections", some 0)] .delete witnessDup) = false ∧
    (idsNode witnessDup).Nodup := edits_on_witnesses_today.2.2.2.1

/-- the wrapper dispatches on the class of the node returned by `enter` (fix C18-W7, /repo a7f80f4; before it
    `_visit_field` went on with a `FragmentSpread` and raised `AttributeError`) -/
theorem table_cross_kind : table.crossKind = true := by decide +kernel

/-- with that, a replacement of another class handled by `visit` is traversed by the method of ITS class -/
theorem cross_kind_body (m m' : String) (n r : Node) (hk : r.kind ≠ n.kind) (hv : table.visit.lookup r.kind = some m') :
    bodyMethod table m n r = .ok m' := by
  simp [bodyMethod, table_cross_kind, hk, hv]

/-- `{ a(x: 1) @d b { c } }`: the field `b` replaced by a fragment spread — the visit completes and the result is
    `Spec.editAt … (.replace r)` (`replace_at` states the same for every reached position and every fresh `r`) -/
example :
    let r : Node := .mk "FragmentSpread" 100 [("name", .one none), ("directives", .many [])]
    sameTree (visit table (actAt 10 fun _ => .replace r) 64 witnessSmall ()) (Spec.editAt pathB (.replace r) witnessSmall) = true :=
  edits_on_witnesses_today.2.2.1.2

/-- `ChainedVisitor`: a member's `SkipNode` is its own (fix C18-W8, /repo 391ad62; before it the loop was aborted:
    the members before the raiser were never left, the members after it never entered the node) -/
theorem table_chain_personal_skip : chainPersonalSkip = true := by decide +kernel

end PyGql.Props.C18
