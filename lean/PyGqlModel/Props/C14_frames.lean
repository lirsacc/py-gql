/-
  C14 — FULL frame theorems for the deep-clone variant (the one /repo has since the `fix:` commits):
  `Schema.clone` and every clone-based transform (any list of heal / visibility / camel-case /
  drop-wrap directive visitors, any predicates, any renaming) write NO object of the source heap, and the
  result owns every object it can write. By induction over operation sequences the source can be cloned /
  transformed again any number of times.

  Hypothesis `closedB h s = true`: the source is a closed schema ("all valid schemas"). It is needed: an
  object reachable from the roots but not registered would be adopted by the clone and healed in place.
-/
import PyGqlModel.Lemmas.HeapNames
import PyGqlModel.Lemmas.HeapExtStages
import PyGqlModel.Lemmas.HeapClosedRound
import PyGqlModel.Lemmas.HeapMembersClone


namespace PyGql.Props.C14
open PyGql.Heap PyGql.Heap.Own

/-- FULL statement (T2) for valid sources -/
def CloneFramesClosedSource (cfg : Cfg) : Prop :=
  ∀ fuel vs s h h' s', closedB h s = true → transform cfg fuel vs s h = some (h', s') → Frame h h'

theorem frame_of_pres {h h' : Heap} (p : Pres h.size h h') : Frame h h' := .of_pres p

/-- FULL: `transform_schema(source, *visitors)` (and `clone()` = no visitor) leaves every object of the source unwritten -/
theorem clone_frames_source (cfg : Cfg) (hd : cfg.deepClone = true) : CloneFramesClosedSource cfg := by
  intro fuel vs s h h' s' hcl e
  exact frame_of_pres (transform_ok cfg hd fuel vs s h h' s' (closed_covered cfg s h hcl) e).1

/-- … and the result owns all its non-protected type and directive objects and (transitively) their fields and arguments:
    every later in-place visitor on the result is confined to objects created after the source (`onSchema_ok`) -/
theorem transform_owns_result (cfg : Cfg) (hd : cfg.deepClone = true) (fuel : Nat) (vs : List Visitor) (s : Schema) (h h' : Heap)
    (s' : Schema) (hcl : closedB h s = true) (e : transform cfg fuel vs s h = some (h', s')) :
    Inv h.size h' ∧ RegFresh h.size s' :=
  let r := transform_ok cfg hd fuel vs s h h' s' (closed_covered cfg s h hcl) e
  ⟨r.1.1, r.2⟩

/-- in-place use of a result (`visitor.on_schema(result)`, `fix_type_references(result)`) never reaches back into the source -/
theorem inplace_on_result_frames_source (cfg : Cfg) (n fuel : Nat) (v : Visitor) (s : Schema) (h h' : Heap) (s' : Schema)
    (i : Inv n h) (hs : RegFresh n s) (e : onSchema cfg fuel v s h = some (h', s')) :
    (∀ x, x < n → h'.read x = h.read x) ∧ Inv n h' ∧ RegFresh n s' :=
  let r := onSchema_ok n cfg fuel v s h h' s' i hs e
  ⟨r.1.2.2, r.1.1, r.2⟩

theorem closedB_frame {h h' : Heap} (f : Frame h h') (s : Schema) (hc : closedB h s = true) : closedB h' s = true := by
  have st := f.stepImp (refOK s.types)
  simp only [closedB, shapeB, Bool.and_eq_true, List.all_eq_true] at hc ⊢
  exact ⟨⟨⟨⟨⟨fun e he => typeShape_keep st _ (hc.1.1.1.1.1 e he), fun e he => dirShape_keep st _ (hc.1.1.1.1.2 e he)⟩,
    hc.1.1.1.2⟩, hc.1.1.2⟩, hc.1.2⟩, fun e he => nameOK_keep st e (hc.2 e he)⟩

/-- the heap after applying, one after the other, the clone-based transforms `ops` to the SAME source `s` -/
def applyAll (cfg : Cfg) (fuel : Nat) (s : Schema) : List (List Visitor) → Heap → Option Heap
  | [], h => some h
  | vs :: rest, h =>
    match transform cfg fuel vs s h with
    | none => none
    | some r => applyAll cfg fuel s rest r.1

/-- FULL (induction over operation sequences): after ANY sequence of clone / transform operations applied to one closed
    source, the source's objects are untouched and the source is still closed — it can be queried, printed (both only read
    these objects) and transformed again any number of times -/
theorem transform_sequence_frames_source (cfg : Cfg) (hd : cfg.deepClone = true) (fuel : Nat) (s : Schema) :
    ∀ (ops : List (List Visitor)) (h hN : Heap), closedB h s = true → applyAll cfg fuel s ops h = some hN →
      Frame h hN ∧ closedB hN s = true := by
  intro ops
  induction ops with
  | nil => intro h hN hc e; simp only [applyAll] at e; cases e; exact ⟨Frame.refl h, hc⟩
  | cons vs rest ih =>
    intro h hN hc e
    simp only [applyAll] at e
    split at e
    · cases e
    · rename_i r hr
      obtain ⟨h1, s1⟩ := r
      have f1 := clone_frames_source cfg hd fuel vs s h h1 s1 hc hr
      obtain ⟨f2, c2⟩ := ih h1 hN (closedB_frame f1 s hc) e
      exact ⟨f1.trans f2, c2⟩

/-- the statement with the closedness hypothesis is still FALSE for `Cfg.legacy` (same witness: it is closed) -/
theorem clone_frames_closed_source_refuted_legacy : ¬ CloneFramesClosedSource Cfg.legacy := by
  intro hf
  obtain ⟨r, hr, hne⟩ := legacy_clone_writes_source
  exact hne ((hf 8 [] s0 h0 r.1 r.2 s0_closed hr).2 6 (by decide +kernel))

/-- non-vacuity: the witness is closed and the fixed clone of it succeeds -/
example : closedB h0 s0 = true ∧ (transform Cfg.fixed 8 [] s0 h0).isSome = true :=
  ⟨s0_closed, Option.isSome_map.symm.trans (congrArg Option.isSome clone_frames_source_witness_fixed)⟩

/-- FULL (T1, fixed variant): `clone()` registers every name its source registers — implementer-only objects,
    unreferenced types, types used only by directive arguments included; for every heap and schema -/
theorem clone_intact (cfg : Cfg) (hd : cfg.deepClone = true) (hk : cfg.keepAllTypes = true) (fuel : Nat) (s : Schema) (h h' : Heap)
    (s' : Schema) (e : clone cfg fuel s h = some (h', s')) : ∀ n, n ∈ names s → n ∈ names s' :=
  clone_names cfg hd hk fuel s h h' s' e

/-- FULL: clone-based transforms by visitors that never delete a type (camel-case, drop/wrap field directives, heal)
    keep every registered name -/
theorem transform_intact (cfg : Cfg) (hd : cfg.deepClone = true) (hk : cfg.keepAllTypes = true) (fuel : Nat) (vs : List Visitor)
    (hv : ∀ v, v ∈ vs → NoTypeDelete v) (s : Schema) (h h' : Heap) (s' : Schema)
    (e : transform cfg fuel vs s h = some (h', s')) : ∀ n, n ∈ names s → n ∈ names s' := by
  intro n hn
  obtain ⟨h1, s1, hr, e⟩ := transform_some e
  exact transformFrom_names cfg fuel vs hv h1 s1 h' s' e n (clone_names cfg hd hk fuel s h h1 s1 hr n hn)

example : NoTypeDelete (.camel id) ∧ NoTypeDelete (.sdir (fun _ _ => false) (fun _ _ => none)) := ⟨trivial, trivial⟩

/-- PARTIAL form of `untouched_preserved` for `extend_schema` (type level; the full statement, members included, is
    `untouched_preserved_extend`, Props/C14_extend.lean) — proved for ALL heaps, schemas with distinct registered
    names (a Python dict) and extension documents that do not redefine a registered name: the object registered under
    the name of every source type is a rebuilt copy that keeps name, kind, description, default resolver, type resolver
    and (a prefix of) the enum values exactly as far as the `_extend_*` constructors pass them on (`TypeKept cfg`). -/
theorem untouched_preserved_extend_partial (cfg : Cfg) (hk : cfg.extKeepAll = true) (ext : Ext) (s : Schema) (h : Heap)
    (hnd : (names s).Nodup) (hnew : ∀ e, e ∈ ext.newTypes → e.1 ∉ names s)
    (n : String) (a : Addr) (t : TypeO) (hm : (n, a) ∈ s.types) (hp : isProtected n = false) (ht : h.readType a = some t) :
    ∃ a' t', lookup (extend cfg ext s h).2.types n = some a' ∧ (extend cfg ext s h).1.readType a' = some t' ∧ TypeKept cfg t t' :=
  extend_type_kept cfg hk ext s h hnd hnew n a t hm hp ht

/-- with every `_extend_*` fix in place (`Cfg.fixed`, the variant of /repo HEAD) `TypeKept` is plain equality of the attributes -/
theorem typeKept_fixed (t t' : TypeO) (k : TypeKept Cfg.fixed t t') :
    t'.name = t.name ∧ t'.kind = t.kind ∧ t'.desc = t.desc ∧ t'.dres = t.dres ∧ t'.rtype = t.rtype ∧ (∃ added, t'.values = t.values ++ added) ∧
    ((t.kind = Kind.scalar ∨ t.kind = Kind.enum) → t'.cls = t.cls) := by
  obtain ⟨h1, h2, _, h4, h5, h6, h7, h8⟩ := k
  refine ⟨h1, h2, by simpa [Cfg.fixed] using h4, by simpa [Cfg.fixed] using h5, ?_, h7, ?_⟩
  · cases hk : t.kind <;> simp [hk, Cfg.fixed] at h6 <;> exact h6
  · intro hl
    rcases hl with hl | hl <;> simpa [hl, Cfg.fixed] using h8

/-- the type-resolver clause of S2 at full strength for the fixed variant (the statement refuted for `Cfg.legacy` by
    `extend_keeps_type_resolvers_refuted_legacy`), for schemas with distinct names -/
theorem extend_keeps_type_resolvers_fixed (ext : Ext) (s : Schema) (h : Heap)
    (hnd : (names s).Nodup) (hnew : ∀ e, e ∈ ext.newTypes → e.1 ∉ names s)
    (n : String) (a : Addr) (t : TypeO) (hm : (n, a) ∈ s.types) (hp : isProtected n = false) (ht : h.readType a = some t) :
    ∃ a' t', lookup (extend Cfg.fixed ext s h).2.types n = some a' ∧ (extend Cfg.fixed ext s h).1.readType a' = some t' ∧
      t'.rtype = t.rtype ∧ t'.dres = t.dres ∧ t'.desc = t.desc := by
  obtain ⟨a', t', h1, h2, k⟩ := extend_type_kept Cfg.fixed rfl ext s h hnd hnew n a t hm hp ht
  obtain ⟨_, _, k3, k4, k5, _⟩ := typeKept_fixed t t' k
  exact ⟨a', t', h1, h2, k5, k4, k3⟩

example : (names s0).Nodup ∧ (∀ e, e ∈ zed.newTypes → e.1 ∉ names s0) ∧ (("Pet", 1) ∈ s0.types) := by decide +kernel

/-- PARTIAL form of `heal_closed` (argument / input-field level; the full statement is `heal_closed`, Props/C14_closed.lean):
    whatever `_HealSchemaVisitor.on_argument` returns is an argument whose type reference IS the registered object. -/
theorem heal_argument_closed_partial (reg : List (String × Addr)) (h : Heap) (a a' : Addr) (g : ArgO)
    (hr : h.readArg a = some g) (e : (onArgument .heal reg h a).2 = some a') :
    argClosed (onArgument .heal reg h a).1 reg a' = true := by
  simp only [onArgument, hr] at e ⊢
  split at e
  · cases e
  · rename_i t ht
    simp only [Option.some.injEq] at e
    subst e
    have hlt := read_lt h a _ (readArg_read hr)
    simp only [argClosed, argShape, Heap.readArg, read_write_self h a _ hlt]
    exact (healed_registered reg g.ty t ht).1

/-- PARTIAL form of `heal_closed` (field level): the type reference of whatever `on_field`'s heal step returns IS the
    registered object. The assembly over `visitTypes` and the fuel sufficiency are `heal_closed` / `healLoop_two`. -/
theorem heal_field_type_closed_partial (reg : List (String × Addr)) (h : Heap) (a a' : Addr) (f : FieldO)
    (hr : h.readField a = some f) (e : (healFieldType reg h a).2 = some a') :
    ∃ f', (healFieldType reg h a).1.readField a' = some f' ∧ refOK reg f'.ty.base = true ∧ f'.args = f.args ∧ f'.name = f.name := by
  simp only [healFieldType, hr] at e ⊢
  split at e
  · cases e
  · rename_i t ht
    simp only [Option.some.injEq] at e
    subst e
    have hlt := read_lt h a _ (readField_read hr)
    exact ⟨{ f with ty := t }, by simp only [Heap.readField, read_write_self h a _ hlt], (healed_registered reg f.ty t ht).1, rfl, rfl⟩

/-- fuel only has to be large enough: more fuel never changes the result of `fix_type_references` -/
theorem healLoop_fuel_mono (cfg : Cfg) : ∀ (fuel : Nat) (s : Schema) (h : Heap) (r : Heap × Schema),
    healLoop cfg fuel s h = some r → healLoop cfg (fuel + 1) s h = some r := by
  intro fuel
  induction fuel with
  | zero => intro s h r e; simp [healLoop] at e
  | succ fuel ih =>
    intro s h r e
    rw [healLoop] at e
    rw [healLoop]
    split at e
    · rename_i hb
      rw [if_pos hb]
      exact ih _ _ r e
    · rename_i hb
      rw [if_neg hb]
      exact e

/-- the working tree's variant (re-extracted on every run) is the deep-clone one: the theorem applies to it -/
theorem current_clone_frames_source :
    CloneFramesClosedSource PyGql.Generated.HeapCfg.currentCfg := clone_frames_source _ cur_deepClone

end PyGql.Props.C14
