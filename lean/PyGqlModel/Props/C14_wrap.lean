/-
  C14 — what IS preserved under WRAPPING visitors (the `NoWrap` hypothesis removed).

  `transform_preserves_untouched_members` (Props/C14_members.lean) excludes the drop/wrap directive visitor (`NoWrap`): a schema
  directive on FIELD_DEFINITION replaces resolvers by design. `transform_preserves_members_any_visitor` (FULL, no hypothesis on
  the visitors): for `transform_schema(source, *visitors)` with ANY list of modelled visitors — visibility, camel-case, heal AND
  drop/wrap directive visitors — on a closed well-formed source, every non-protected type the result registers is, for the
  source type `t0` of the same name, `TRelW (wrapIds vs) ρ h h' t0 a'`:
  * exactly `t0`'s kind, name, description, default resolver, type resolver, enum values (`TAttr`: wrapping never touches them);
  * its FIELDS are, in order, copies of a sub-list of `t0`'s (dropped / hidden ones are missing); each copy has the source field's
    description, deprecation, SUBSCRIPTION resolver, python name, type by name, the converted name — and its RESOLVER is the
    source field's or one handed out by a wrapper of the list (`wrapIds vs id`: some visitor `sdir drop wrap` of `vs` has
    `wrap type field = some id`) (`FAttrW`);
  * the ARGUMENTS of every field and the INPUT FIELDS are not affected by wrapping at all: the full `AAttr` (python name,
    default, description, type by name, converted name) as without wrappers.
  `transform_preserves_under_wrapping` is the same for any predicate `W` the wrappers' ids satisfy; with `W = fun _ => False`
  (no visitor wraps) it gives back the `NoWrap` theorem's resolver clause (`fattrW_false`).
-/
import PyGqlModel.Lemmas.HeapMembersW
import PyGqlModel.Props.C14_members


namespace PyGql.Props.C14
open PyGql.Heap PyGql.Heap.Own

/-- the resolver ids the wrappers of a visitor list hand out -/
def wrapIds (vs : List Visitor) (id : Nat) : Prop :=
  ∃ v, v ∈ vs ∧ match v with | .sdir _ w => ∃ t f, w t f = some id | _ => False

theorem wraps_wrapIds (vs : List Visitor) : ∀ v, v ∈ vs → Wraps (wrapIds vs) v := by
  intro v hv
  cases v with
  | sdir d w => intro t f id hw; exact ⟨.sdir d w, hv, t, f, hw⟩
  | heal => trivial
  | vis p => trivial
  | camel r => trivial

/-- FULL for every predicate the wrappers' ids satisfy -/
theorem transform_preserves_under_wrapping (cfg : Cfg) (hd : cfg.deepClone = true) (fuel : Nat) (vs : List Visitor) (W : Nat → Prop)
    (hv : ∀ v, v ∈ vs → Wraps W v) (s : Schema) (h h' : Heap) (s' : Schema) (hc : closedB h s = true) (hw : wfB h s = true)
    (e : transform cfg fuel vs s h = some (h', s')) :
    ∀ e', e' ∈ s'.types → isProtected e'.1 = true ∨
      ∃ e0, e0 ∈ s.types ∧ e0.1 = e'.1 ∧ ∀ t0, h.readType e0.2 = some t0 → TRelW W (renAll vs id) h h' t0 e'.2 := by
  obtain ⟨h1, s1, hr, e⟩ := transform_some e
  have hm := clone_mem cfg hd fuel s h h1 s1 hc (wfs_of_closedB hc hw) hr
  have hmW : MemOriginW W id h s.types h1 s1.types := by
    intro e' he'
    rcases hm e' he' with hp | ⟨e0, he0, hn, hr0⟩
    · exact Or.inl hp
    · exact Or.inr ⟨e0, he0, hn, fun t0 ht0 => TRelW.of_strong (hr0 t0 ht0)⟩
  exact transformFrom_memW cfg fuel h s.types vs hv id h1 s1 h' s' hmW e

/-- FULL, NO hypothesis on the visitors (see the header) -/
theorem transform_preserves_members_any_visitor (cfg : Cfg) (hd : cfg.deepClone = true) (fuel : Nat) (vs : List Visitor)
    (s : Schema) (h h' : Heap) (s' : Schema) (hc : closedB h s = true) (hw : wfB h s = true)
    (e : transform cfg fuel vs s h = some (h', s')) :
    ∀ e', e' ∈ s'.types → isProtected e'.1 = true ∨
      ∃ e0, e0 ∈ s.types ∧ e0.1 = e'.1 ∧ ∀ t0, h.readType e0.2 = some t0 → TRelW (wrapIds vs) (renAll vs id) h h' t0 e'.2 :=
  transform_preserves_under_wrapping cfg hd fuel vs (wrapIds vs) (wraps_wrapIds vs) s h h' s' hc hw e

/-- the same for an in-place visitor on a schema (no clone) -/
theorem visitor_preserves_members_any_visitor (cfg : Cfg) (fuel : Nat) (v : Visitor) (s : Schema) (h h' : Heap) (s' : Schema)
    (hw : wfB h s = true) (e : onSchema cfg fuel v s h = some (h', s')) :
    ∀ e', e' ∈ s'.types → isProtected e'.1 = true ∨
      ∃ e0, e0 ∈ s.types ∧ e0.1 = e'.1 ∧ ∀ t0, h.readType e0.2 = some t0 → TRelW (wrapIds [v]) (renAfter v id) h h' t0 e'.2 := by
  have w := wfs_of_wfB hw
  have hself : MemOriginW (wrapIds [v]) id h s.types h s.types := fun e' he' =>
    Or.inr ⟨e', he', rfl, fun t0 ht0 => TRelW.of_strong (TRel.refl ht0 (membersReadable_of_shape _ h e'.2 t0 ht0 (w.types e' he')))⟩
  exact onSchema_memW cfg fuel v (wraps_wrapIds [v] v (by simp)) id h s.types s h h' s' hself e

/-- reading the relation: when nothing wraps, the resolver clause is the strong one -/
theorem fattrW_false {ρ : String → String} {f f' : FieldO} (k : FAttrW (fun _ => False) ρ f f') : FAttr ρ f f' := by
  obtain ⟨k1, k2, k3, k4, k5, k6, k7⟩ := k
  refine ⟨k1, k2, k3, ?_, k5, k6, k7⟩
  rcases k4 with k4 | ⟨_, _, hf⟩
  · exact k4
  · exact absurd hf id

/-- … and whatever wraps: description, deprecation, subscription resolver, python name and the type by name of a field survive -/
theorem fattrW_keeps {W : Nat → Prop} {ρ : String → String} {f f' : FieldO} (k : FAttrW W ρ f f') :
    f'.name = ρ f.name ∧ f'.desc = f.desc ∧ f'.depr = f.depr ∧ f'.sub = f.sub ∧ f'.py = f.py ∧ sameNames f.ty f'.ty :=
  ⟨k.1, k.2.1, k.2.2.1, k.2.2.2.2.1, k.2.2.2.2.2.1, k.2.2.2.2.2.2⟩

/-- the wrapper of the witness: a new resolver (id 99) for every field of `Query` -/
def wrapQuery : Visitor := .sdir (fun _ _ => false) (fun t _ => if t == "Query" then some 99 else none)

/-- non-vacuity: the wrapping transform of the witness succeeds, and it DOES replace a resolver (so `NoWrap` was needed there) -/
example : closedB h0 s0 = true ∧ wfB h0 s0 = true ∧ (transform Cfg.fixed 8 [wrapQuery] s0 h0).isSome = true ∧ wrapIds [wrapQuery] 99 :=
  ⟨s0_closed, s0_wf, s0_transform_total _, wrapQuery, by simp, "Query", "x", by simp⟩

end PyGql.Props.C14
