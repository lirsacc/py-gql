/-
  C20 — "whenever no breaking change is reported, every operation valid against the old schema is valid against
  the new one", towards the C06 SPECIFICATION predicates (`Spec/ValidSpec.lean`, `Spec/TypedNodes.lean`,
  `Spec/CtxNodes.lean`). This file: what an empty BREAKING report gives about the schema look-ups of the
  validation rules (`Validate/Schema.lean`: `kindOf`, `fieldOf`, `getFieldDef`, `rootType`, `findDirective`).
  `C20_rules_doc.lean` lifts them to documents.

  Facts about the two schema descriptions used as hypotheses; both follow from `Schema.validate()` having
  passed, which `diff_schema` calls on both schemas before it compares anything:
  * `OldWf o`: the old schema has a query type, the types of its fields are defined (the type map is closed),
    and the dump contains `String`, `__Schema`, `__Type` (every dump does: built-ins and introspection types
    are part of `Schema.types`);
  * `NewWf n`: argument names are unique per field and per directive ("Duplicate argument" rule).
-/
import PyGqlModel.Props.C20_operations
import PyGqlModel.Props.C20_refl
import PyGqlModel.Validate.Schema

set_option linter.unusedSimpArgs false

namespace PyGql.Props.C20
open PyGql PyGql.Differ PyGql.Diff

structure OldWf (o : SchemaD) : Prop where
  query : o.query.isSome = true
  closed : ∀ t ∈ o.types, ∀ f ∈ t.fields, (Validate.kindOf o f.type.base).isSome = true
  metas : (Validate.kindOf o "String").isSome = true ∧ (Validate.kindOf o "__Schema").isSome = true
    ∧ (Validate.kindOf o "__Type").isSome = true

structure NewWf (n : SchemaD) : Prop where
  fieldArgs : ∀ t ∈ n.types, ∀ f ∈ t.fields, Uniq ArgD.name f.args
  directiveArgs : ∀ d ∈ n.directives, Uniq ArgD.name d.args

/-- `NewWf` in the form that can be evaluated on a concrete schema description -/
theorem NewWf.of_nodup {n : SchemaD} (h : (∀ t ∈ n.types, ∀ f ∈ t.fields, (f.args.map ArgD.name).Nodup)
    ∧ ∀ d ∈ n.directives, (d.args.map ArgD.name).Nodup) : NewWf n :=
  ⟨fun t ht f hf => ListEqv.nodup_uniq (h.1 t ht f hf), fun d hd => ListEqv.nodup_uniq (h.2 d hd)⟩

/-- what operations may rely on about the arguments of a kept field / directive: every argument is still
    defined, and every argument that is required now was required (so: was given) before -/
def ArgsRel (as bs : List ArgD) : Prop :=
  (∀ a ∈ as, ∃ b ∈ bs, b.name = a.name) ∧
  (∀ b ∈ bs, Validate.ArgD.required b = true → ∃ a ∈ as, a.name = b.name ∧ Validate.ArgD.required a = true)

theorem ArgsRel.refl (as : List ArgD) : ArgsRel as as :=
  ⟨fun a ha => ⟨a, ha, rfl⟩, fun b hb hr => ⟨b, hb, rfl, hr⟩⟩

theorem ArgsKept.argsRel {as bs : List ArgD} (k : ArgsKept as bs) (u : Uniq ArgD.name bs) : ArgsRel as bs := by
  constructor
  · intro a ha
    obtain ⟨b, hb, _⟩ := k.1 a ha
    exact ⟨b, List.mem_of_find?_eq_some hb, by simpa using List.find?_some hb⟩
  · intro b hb hr
    have hr' : Diff.ArgD.required b = true := hr
    cases hfa : as.find? (·.name == b.name) with
    | none => rw [k.2 b hb hfa] at hr'; cases hr'
    | some a =>
      have ha : a ∈ as := List.mem_of_find?_eq_some hfa
      have han : a.name = b.name := by simpa using List.find?_some hfa
      have hfb : bs.find? (·.name == a.name) = some b := by rw [han]; exact u b hb
      have := k.not_becameRequired ha hfb
      unfold becameRequired at this
      rw [hr'] at this
      refine ⟨a, ha, han, ?_⟩
      show Diff.ArgD.required a = true
      cases hra : Diff.ArgD.required a with
      | true => rfl
      | false => rw [hra] at this; simp at this

/-- **kinds (validator look-up)**: `kindOf` of a known type name is unchanged -/
theorem nobreaking_V_kindOf (o n : SchemaD) (h : diffSchema o n 2 = []) (x : String) (k : Kind)
    (hk : Validate.kindOf o x = some k) : Validate.kindOf n x = some k := by
  unfold Validate.kindOf at hk ⊢
  cases ho : o.findType x with
  | none => rw [ho] at hk; simp at hk
  | some t =>
    obtain ⟨t', hn, hkk⟩ := nobreaking_findType o n h x t ho
    rw [ho] at hk
    rw [hn]
    simp only [Option.map_some, Option.some.injEq] at hk ⊢
    rw [hkk]; exact hk

/-- a field the validator finds on an object / interface type is found again, in a type that hosts fields together
    with the old one, and the change of its type is classified safe -/
theorem nobreaking_V_fieldOf_host (o n : SchemaD) (h : diffSchema o n 2 = [])
    (p name : String) (fd : FieldD) (hf : Validate.fieldOf o p name = some fd) :
    ∃ t t' g, FieldHost o n t t' ∧ t' ∈ n.types ∧ fd ∈ t.fields ∧ t'.fields.find? (·.name == fd.name) = some g
      ∧ Validate.fieldOf n p name = some g ∧ safeOut fd.type g.type = true := by
  unfold Validate.fieldOf at hf ⊢
  by_cases hk : Validate.isObjOrIface o p = true
  · rw [if_pos hk] at hf
    cases ho : o.findType p with
    | none => rw [ho] at hf; simp at hf
    | some t =>
      rw [ho] at hf
      simp only [Option.bind_some] at hf
      have hfm : fd ∈ t.fields := List.mem_of_find?_eq_some hf
      have hfn : fd.name = name := by simpa using List.find?_some hf
      have hkind : t.kind = .object ∨ t.kind = .interface := by
        unfold Validate.isObjOrIface Validate.kindOf at hk
        rw [ho] at hk
        simp only [Option.map_some] at hk
        cases hh : t.kind <;> simp [hh] at hk <;> simp
      obtain ⟨t', g, hn, hkk, hhost, hg, hso⟩ := nobreaking_hostField o n h p t ho hkind fd hfm
      have hk' : Validate.isObjOrIface n p = true := by
        unfold Validate.isObjOrIface Validate.kindOf
        rw [hn]
        simp only [Option.map_some]
        rcases hkind with hk1 | hk1 <;> rw [hkk, hk1]
      rw [if_pos hk', hn]
      simp only [Option.bind_some]
      rw [← hfn]
      exact ⟨t, t', g, hhost, (mem_of_findType hn).1, hfm, hg, hg, hso⟩
  · have hk' : Validate.isObjOrIface o p = false := by simpa using hk
    rw [hk'] at hf; simp at hf

/-- **fields (validator look-up)**: a field of an object / interface type is kept; it returns the same named
    type; its arguments are kept and none becomes required -/
theorem nobreaking_V_fieldOf (o n : SchemaD) (h : diffSchema o n 2 = []) (wn : NewWf n)
    (p name : String) (fd : FieldD) (hf : Validate.fieldOf o p name = some fd) :
    ∃ fd', Validate.fieldOf n p name = some fd' ∧ fd'.type.base = fd.type.base ∧ ArgsRel fd.args fd'.args
      ∧ safeOut fd.type fd'.type = true := by
  obtain ⟨t, t', g, hhost, ht', hfm, hg, hn, hso⟩ := nobreaking_V_fieldOf_host o n h p name fd hf
  have hk := nobreaking_fieldArgs o n h t t' hhost fd g hfm hg
  exact ⟨g, hn, (safeOut_base _ _ hso).symm,
    hk.argsRel (wn.fieldArgs t' ht' g (List.mem_of_find?_eq_some hg)), hso⟩

/-- the validator's root type of an operation kind is the schema's, provided it names an object type -/
theorem rootType_some {s : SchemaD} {kind r : String} :
    Validate.rootType s kind = some r ↔ rootOf s kind = some r ∧ Validate.isObject s r = true := by
  have e : Validate.rootType s kind = (rootOf s kind).bind fun x => if Validate.isObject s x then some x else none := by
    unfold Validate.rootType rootOf; rfl
  rw [e]
  cases rootOf s kind with
  | none => simp
  | some a =>
    simp only [Option.bind_some, Option.some.injEq]
    by_cases hob : Validate.isObject s a = true
    · rw [if_pos hob]
      constructor
      · intro har; cases har; exact ⟨rfl, hob⟩
      · intro har; rw [har.1]
    · rw [if_neg hob]
      constructor
      · intro har; cases har
      · intro har; rw [har.1] at hob; exact absurd har.2 hob

/-- **root operation types (validator look-up)** -/
theorem nobreaking_V_rootType (o n : SchemaD) (h : diffSchema o n 2 = []) (kind r : String)
    (hr : Validate.rootType o kind = some r) : Validate.rootType n kind = some r := by
  obtain ⟨ho, hob⟩ := rootType_some.mp hr
  refine rootType_some.mpr ⟨nobreaking_rootOf o n h kind r ho, ?_⟩
  unfold Validate.isObject at hob ⊢
  have : Validate.kindOf o r = some .object := by simpa using hob
  rw [nobreaking_V_kindOf o n h r _ this]
  simp

/-- the query type is kept (it decides where `__schema` / `__type` may be selected) -/
theorem nobreaking_query (o n : SchemaD) (h : diffSchema o n 2 = []) (wo : OldWf o) : n.query = o.query := by
  cases hq : o.query with
  | none => have := wo.query; rw [hq] at this; simp at this
  | some a =>
    have := nobreaking_rootOf o n h "query" a (by simpa [rootOf] using hq)
    simpa [rootOf] using this

/-- the kind of a type name known to the old schema is unchanged; `isComposite`, `isAbstract`, `isLeaf`, `isInputTy`,
    `isOutputTy`, ... are functions of it -/
theorem nobreaking_kindOf_eq (o n : SchemaD) (h : diffSchema o n 2 = []) (x : String)
    (hk : (Validate.kindOf o x).isSome = true) : Validate.kindOf n x = Validate.kindOf o x := by
  cases hko : Validate.kindOf o x with
  | none => rw [hko] at hk; cases hk
  | some k => exact nobreaking_V_kindOf o n h x k hko

theorem kindOf_isSome (s : SchemaD) (x : String) : (Validate.kindOf s x).isSome = (s.findType x).isSome := by
  unfold Validate.kindOf
  exact Option.isSome_map

theorem kindOf_of_isComposite {s : SchemaD} {x : String} (h : Validate.isComposite s x = true) :
    (Validate.kindOf s x).isSome = true := by
  unfold Validate.isComposite at h
  cases hk : Validate.kindOf s x with
  | none => rw [hk] at h; cases h
  | some _ => rfl

theorem nobreaking_V_isComposite (o n : SchemaD) (h : diffSchema o n 2 = []) (x : String)
    (hk : (Validate.kindOf o x).isSome = true) : Validate.isComposite n x = Validate.isComposite o x := by
  unfold Validate.isComposite
  rw [nobreaking_kindOf_eq o n h x hk]

/-- `_get_field_def` answers with one of the three meta fields or with the field of the type -/
theorem getFieldDef_cases {s : SchemaD} {p name : String} {fd : FieldD} (h : Validate.getFieldDef s p name = some fd) :
    fd = Validate.schemaField ∨ fd = Validate.typeField ∨ fd = Validate.typenameField
      ∨ Validate.fieldOf s p name = some fd := by
  unfold Validate.getFieldDef at h
  split at h
  · exact .inl (Option.some.inj h).symm
  · split at h
    · exact .inr (.inl (Option.some.inj h).symm)
    · split at h
      · exact .inr (.inr (.inl (Option.some.inj h).symm))
      · exact .inr (.inr (.inr h))

/-- `_get_field_def` on a composite parent takes the same branch on both schemas: it answers with the same meta field,
    or with the field of the type on either side -/
theorem getFieldDef_kept (o n : SchemaD) (h : diffSchema o n 2 = []) (wo : OldWf o) (p name : String)
    (hp : Validate.isComposite o p = true) (fd : FieldD) (hf : Validate.getFieldDef o p name = some fd) :
    (Validate.getFieldDef n p name = some fd
        ∧ (fd = Validate.schemaField ∨ fd = Validate.typeField ∨ fd = Validate.typenameField))
      ∨ (Validate.fieldOf o p name = some fd ∧ Validate.getFieldDef n p name = Validate.fieldOf n p name) := by
  have hq := nobreaking_query o n h wo
  have hc := nobreaking_V_isComposite o n h p (kindOf_of_isComposite hp)
  unfold Validate.getFieldDef at hf ⊢
  rw [hq, hc]
  by_cases c1 : (o.query == some p && name == "__schema") = true
  · rw [if_pos c1] at hf ⊢
    exact .inl ⟨hf, .inl (Option.some.inj hf).symm⟩
  · rw [if_neg c1] at hf ⊢
    by_cases c2 : (o.query == some p && name == "__type") = true
    · rw [if_pos c2] at hf ⊢
      exact .inl ⟨hf, .inr (.inl (Option.some.inj hf).symm)⟩
    · rw [if_neg c2] at hf ⊢
      by_cases c3 : (Validate.isComposite o p && name == "__typename") = true
      · rw [if_pos c3] at hf ⊢
        exact .inl ⟨hf, .inr (.inr (Option.some.inj hf).symm)⟩
      · rw [if_neg c3] at hf ⊢
        exact .inr ⟨hf, rfl⟩

/-- **`_get_field_def`**: the definition the validator attaches to a selected field of a composite parent type
    (meta fields included) is kept, with the same named type and compatible arguments -/
theorem nobreaking_V_getFieldDef (o n : SchemaD) (h : diffSchema o n 2 = []) (wo : OldWf o) (wn : NewWf n)
    (p name : String) (hp : Validate.isComposite o p = true) (fd : FieldD)
    (hf : Validate.getFieldDef o p name = some fd) :
    ∃ fd', Validate.getFieldDef n p name = some fd' ∧ fd'.type.base = fd.type.base ∧ ArgsRel fd.args fd'.args
      ∧ safeOut fd.type fd'.type = true := by
  rcases getFieldDef_kept o n h wo p name hp fd hf with ⟨hn, _⟩ | ⟨hfo, hn⟩
  · exact ⟨fd, hn, rfl, ArgsRel.refl _, safeOut_refl _⟩
  · rw [hn]
    exact nobreaking_V_fieldOf o n h wn p name fd hfo

/-- **directives (validator look-up)**: a directive is kept with all its locations, its arguments are kept and
    none becomes required -/
theorem nobreaking_V_findDirective (o n : SchemaD) (h : diffSchema o n 2 = []) (wn : NewWf n)
    (name : String) (dd : DirectiveD) (hd : Validate.findDirective o name = some dd) :
    ∃ dd', Validate.findDirective n name = some dd' ∧ (∀ l ∈ dd.locations, l ∈ dd'.locations)
      ∧ ArgsRel dd.args dd'.args := by
  unfold Validate.findDirective at hd ⊢
  have hdm : dd ∈ o.directives := List.mem_of_find?_eq_some hd
  have hdn : dd.name = name := by simpa using List.find?_some hd
  obtain ⟨e, he, hl, _⟩ := nobreaking_directives o n h dd hdm
  rw [← hdn]
  exact ⟨e, he, hl, (nobreaking_directiveArgs o n h dd e hdm he).argsRel
    (wn.directiveArgs e (List.mem_of_find?_eq_some he))⟩

end PyGql.Props.C20
