/-
  C16 — finding N7 on the event-queue model, for EVERY number of children and every arrival point of the cancellation
  (`Props/C16_cancel.lean` has n ≤ 4 by `decide`).
-/
import PyGqlModel.AsyncCancel
import PyGqlModel.Lemmas.ListBasics

set_option linter.unusedSimpArgs false

namespace PyGql.Props.C16
open PyGql.AsyncCancel

/-- a stretch of `m` queued actions `act i`, each taking its child from state `x` to state `y`: first steps on
    `unstarted` (→ `entered`) or `doomed` (→ `dead`) children, wake-ups on `entered` (→ `ended`) ones -/
private theorem run_stretch (act : Nat → Act) (x y : CState)
    (hstep : ∀ (cs : List CState) (q : List Act) (i : Nat), cs[i]? = some x → exec ⟨cs, q⟩ (act i) = ⟨cs.set i y, q⟩)
    (m : Nat) (pre tail : List CState) (q : List Act) :
    runLoop m ⟨pre ++ (List.replicate m x ++ tail), (List.range' pre.length m).map act ++ q⟩
      = ⟨pre ++ (List.replicate m y ++ tail), q⟩ := by
  induction m generalizing pre with
  | zero => rfl
  | succ m ih =>
    have ih := ih (pre ++ [y])
    simp only [List.replicate_succ, List.range'_succ, List.map_cons, List.cons_append, runLoop,
      hstep _ _ _ (List.getElem?_append_cons_length pre _ x), List.set_append_cons_length]
    rw [List.append_cons pre y]
    simpa using ih

private theorem first_unstarted (cs : List CState) (q : List Act) (i : Nat) (h : cs[i]? = some .unstarted) :
    exec ⟨cs, q⟩ (.first i) = ⟨cs.set i .entered, q⟩ := by simp only [exec, h]

private theorem first_doomed (cs : List CState) (q : List Act) (i : Nat) (h : cs[i]? = some .doomed) :
    exec ⟨cs, q⟩ (.first i) = ⟨cs.set i .dead, q⟩ := by simp only [exec, h]

private theorem wake_entered (cs : List CState) (q : List Act) (i : Nat) (h : cs[i]? = some .entered) :
    exec ⟨cs, q⟩ (.wake i) = ⟨cs.set i .ended, q⟩ := by simp only [exec, h]

/-- `Task.cancel()` over a stretch of `m` children in state `x`, each left in state `y` with the actions `w i` queued -/
private theorem cancel_stretch (x y : CState) (w : Nat → List Act)
    (hstep : ∀ (pre rest : List CState) (q : List Act),
      cancelChild ⟨pre ++ x :: rest, q⟩ pre.length = ⟨pre ++ y :: rest, q ++ w pre.length⟩)
    (m : Nat) (pre tail : List CState) (q : List Act) :
    (List.range' pre.length m).foldl cancelChild ⟨pre ++ (List.replicate m x ++ tail), q⟩
      = ⟨pre ++ (List.replicate m y ++ tail), q ++ (List.range' pre.length m).flatMap w⟩ := by
  induction m generalizing pre q with
  | zero => simp
  | succ m ih =>
    have ih := ih (pre ++ [y]) (q ++ w pre.length)
    simp only [List.replicate_succ, List.range'_succ, List.foldl_cons, List.cons_append, List.flatMap_cons, hstep]
    rw [List.append_cons pre y]
    simpa using ih

private theorem cancel_entered (m : Nat) (pre tail : List CState) (q : List Act) :
    (List.range' pre.length m).foldl cancelChild ⟨pre ++ (List.replicate m .entered ++ tail), q⟩
      = ⟨pre ++ (List.replicate m .entered ++ tail), q ++ (List.range' pre.length m).map .wake⟩ := by
  rw [List.map_eq_flatMap]
  exact cancel_stretch .entered .entered (fun i => [.wake i]) (fun pre rest q => by simp only [cancelChild, List.getElem?_append_cons_length])
    m pre tail q

private theorem cancel_unstarted (m : Nat) (pre tail : List CState) (q : List Act) :
    (List.range' pre.length m).foldl cancelChild ⟨pre ++ (List.replicate m .unstarted ++ tail), q⟩
      = ⟨pre ++ (List.replicate m .doomed ++ tail), q⟩ := by
  rw [cancel_stretch .unstarted .doomed (fun _ => []) fun pre rest q => by
    simp only [cancelChild, List.getElem?_append_cons_length, List.set_append_cons_length, List.append_nil]]
  simp

private theorem cancel_over (x : CState) (hx : x = .ended ∨ x = .dead) (m : Nat) (pre tail : List CState) (q : List Act) :
    (List.range' pre.length m).foldl cancelChild ⟨pre ++ (List.replicate m x ++ tail), q⟩
      = ⟨pre ++ (List.replicate m x ++ tail), q⟩ := by
  rw [cancel_stretch x x (fun _ => []) fun pre rest q => by
    rcases hx with rfl | rfl <;> simp only [cancelChild, List.getElem?_append_cons_length, List.append_nil]]
  simp


private theorem runLoop_empty : ∀ (f : Nat) (cs : List CState), runLoop f ⟨cs, []⟩ = ⟨cs, []⟩
  | 0, _ => rfl
  | _ + 1, _ => rfl

private theorem runLoop_add (a b : Nat) (s : St) : runLoop (a + b) s = runLoop b (runLoop a s) := by
  induction a generalizing s with
  | zero => rw [Nat.zero_add]; rfl
  | succ a ih =>
    rw [Nat.add_right_comm]
    obtain ⟨cs, q⟩ := s
    cases q with
    | nil => cases b <;> rfl
    | cons x rest => exact ih _

/-- the state when the root's cancellation arrives: `k` children entered, `r` still unstarted, their first steps queued -/
private theorem after_k (k r : Nat) :
    runLoop k (init (k + r)) = ⟨List.replicate k .entered ++ List.replicate r .unstarted, (List.range' k r).map .first⟩ := by
  have h := run_stretch _ _ _ first_unstarted k [] (List.replicate r .unstarted) ((List.range' k r).map .first)
  simp only [List.nil_append, List.length_nil] at h
  rw [← h]
  simp [init, List.range_eq_range', ← List.range'_append_1 (s := 0) (m := k) (n := r), ← List.replicate_append_replicate]

private theorem cancelAll_mixed (k r : Nat) (q : List Act) :
    cancelAll ⟨List.replicate k .entered ++ List.replicate r .unstarted, q⟩
      = ⟨List.replicate k .entered ++ List.replicate r .doomed, q ++ (List.range' 0 k).map .wake⟩ := by
  have h1 := cancel_entered k [] (List.replicate r .unstarted) q
  have h2 := cancel_unstarted r (List.replicate k .entered) [] (q ++ (List.range' 0 k).map .wake)
  simp only [List.nil_append, List.length_nil, List.append_nil, List.length_replicate] at h1 h2
  simp only [cancelAll, List.length_append, List.length_replicate, List.range_eq_range', ← List.range'_append_1 (s := 0) (m := k) (n := r), List.foldl_append,
    Nat.zero_add, h1, h2]

private theorem cancelAll_entered (n : Nat) (q : List Act) :
    cancelAll ⟨List.replicate n .entered, q⟩ = ⟨List.replicate n .entered, q ++ (List.range' 0 n).map .wake⟩ := by
  have h1 := cancel_entered n [] [] q
  simp only [List.nil_append, List.length_nil, List.append_nil] at h1
  simp only [cancelAll, List.length_replicate, List.range_eq_range', h1]

private theorem cancelAll_over (k r : Nat) (q : List Act) :
    cancelAll ⟨List.replicate k .ended ++ List.replicate r .dead, q⟩ = ⟨List.replicate k .ended ++ List.replicate r .dead, q⟩ := by
  have h1 := cancel_over .ended (Or.inl rfl) k [] (List.replicate r .dead) q
  have h2 := cancel_over .dead (Or.inr rfl) r (List.replicate k .ended) [] q
  simp only [List.nil_append, List.length_nil, List.append_nil, List.length_replicate] at h1 h2
  simp only [cancelAll, List.length_append, List.length_replicate, List.range_eq_range', ← List.range'_append_1 (s := 0) (m := k) (n := r), List.foldl_append,
    Nat.zero_add, h1, h2]

/-- With the shielded gather (proposed_fixes/C16-N7.patch): for EVERY number
    of children and EVERY arrival point of the cancellation, every child ends with its end hook fired. -/
theorem shielded_gather_ends_every_started_field (k r : Nat) :
    scenario true (k + r) k = List.replicate (k + r) .ended := by
  unfold scenario
  simp only [after_k, rootCancelFixed, if_true]
  have hfuel : 3 * (k + r) + 3 = r + (1 + ((k + r) + (2 * k + r + 2))) := by omega
  rw [hfuel, runLoop_add]
  have h1 := run_stretch _ _ _ first_unstarted r (List.replicate k .entered) [] [.parent]
  simp only [List.length_replicate, List.append_nil] at h1
  rw [h1, runLoop_add]
  have h2 : runLoop 1 ⟨List.replicate k .entered ++ List.replicate r .entered, [.parent]⟩
      = ⟨List.replicate (k + r) .entered, (List.range' 0 (k + r)).map .wake⟩ := by
    simp only [runLoop, exec, List.replicate_append_replicate, cancelAll_entered, List.nil_append]
  rw [h2, runLoop_add]
  have h3 := run_stretch _ _ _ wake_entered (k + r) [] [] []
  simp only [List.nil_append, List.length_nil, List.append_nil] at h3
  rw [h3, runLoop_empty]

/-- Today's `gather_values`: for EVERY `k` children already entered and `r`
    children whose first step is still queued when the cancellation arrives, the `k` get their end hook and the `r` never
    do (their `on_field_start` has fired). -/
theorem forwarded_cancel_kills_unstarted_children (k r : Nat) :
    scenario false (k + r) k = List.replicate k .ended ++ List.replicate r .dead := by
  unfold scenario
  simp only [after_k, rootCancelToday, cancelAll_mixed, Bool.false_eq_true, if_false]
  have hfuel : 3 * (k + r) + 3 = r + (k + (1 + (2 * k + 2 * r + 2))) := by omega
  rw [hfuel, runLoop_add]
  have h1 := run_stretch _ _ _ first_doomed r (List.replicate k .entered) [] ((List.range' 0 k).map .wake ++ [.parent])
  simp only [List.length_replicate, List.append_nil, List.append_assoc] at h1 ⊢
  rw [h1, runLoop_add]
  have h2 := run_stretch _ _ _ wake_entered k [] (List.replicate r .dead) [.parent]
  simp only [List.nil_append, List.length_nil] at h2
  rw [h2, runLoop_add]
  have h3 : runLoop 1 ⟨List.replicate k .ended ++ List.replicate r .dead, [.parent]⟩
      = ⟨List.replicate k .ended ++ List.replicate r .dead, []⟩ := by
    simp only [runLoop, exec, cancelAll_over]
  rw [h3, runLoop_empty]

/-- the number of started fields without end hook is exactly the number of children that had not run their
    first step — zero only if the cancellation arrives after every first step -/
theorem forwarded_cancel_lost_count (k r : Nat) : lost (scenario false (k + r) k) = r := by
  rw [forwarded_cancel_kills_unstarted_children]
  simp [lost, List.filter_append, List.filter_replicate]

theorem shielded_gather_lost_count (k r : Nat) : lost (scenario true (k + r) k) = 0 := by
  rw [shielded_gather_ends_every_started_field]
  simp [lost, List.filter_replicate]

end PyGql.Props.C16
