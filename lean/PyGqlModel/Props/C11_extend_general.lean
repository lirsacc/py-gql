/-
  C11 — the public `extend_schema` on a document that DEFINES new types and directives and extends old and new ones.

  `extend_exact_general`: `base` a document without extension blocks, `live` the schema `build_schema` builds from it,
  `B` ANY document the strict collection accepts.  If the concatenation `base ++ B` is valid (`SdlOK`) and — when `base`
  has no `schema` block — `B` defines no type named Query / Mutation / Subscription, then
  `extend_schema(live, B, strict=True)` (and therefore `strict=False`) returns exactly the content `base` and `B`
  declare together.  The side condition is NECESSARY (`extend_roots_not_rederived`): `extend_schema` keeps the roots of
  the schema it extends and never re-derives them from the default names.
-/
import PyGqlModel.Props.C11_extend_exact


namespace PyGql.Props.C11
open PyGql PyGql.Sdl PyGql.SdlSpec

theorem all₂_append {α β} (P : α → β → Prop) : ∀ (l₁ : List α) (r₁ : List β) (l₂ : List α) (r₂ : List β),
    All₂ P l₁ r₁ → All₂ P l₂ r₂ → All₂ P (l₁ ++ l₂) (r₁ ++ r₂) := by
  intro l₁ r₁ l₂ r₂ h1 h2
  induction h1 with
  | nil => exact h2
  | cons p _ ih => exact All₂.cons p ih

theorem all₂_of_forall {α β} (f : α → R β) (P : α → β → Prop) (hP : ∀ a b, f a = .ok b → P a b) :
    ∀ (l : List α) (r : List β), l.mapM f = .ok r → All₂ P l r := by
  intro l r h
  exact all₂_imp _ _ hP _ _ (mapM_forall₂ _ _ _ h)

theorem addOps_result (res : String → Bool) (errE : Err) : ∀ (ops : List (String × String)) (r r' : Roots),
    addOps res errE r ops = .ok r' → r' = ops.foldl (fun r (o : String × String) => r.set o.1 o.2) r := by
  intro ops
  induction ops with
  | nil => intro r r' h; cases h; rfl
  | cons o os ih =>
    intro r r' h
    obtain ⟨_, h⟩ := ite_error_ok h
    obtain ⟨_, h⟩ := ite_error_ok h
    exact ih _ _ h

theorem buildCollected_parts (c : Collected) (env : Env) (live : Live) (h : buildCollected c [] = .ok (env, live))
    (hN : ∀ t ∈ c.types, isDefaultName t.name = false) :
    env = Env.of c.types [] ∧ All₂ Skel c.types live.types ∧
    All₂ (fun (dd : DirDef) (ld : DirectiveD) => ld.name = dd.name) c.directives live.directives ∧
    buildRoots env c.schemaDef live.types = .ok live.roots := by
  obtain ⟨dirs, built, henv, _, hdirs, hbuilt, _, hroots, _, htypes, hld⟩ := (Run.buildCollected_ok_iff c [] env live).mp h
  subst henv
  -- no supplied types: the registry is what the definitions build
  rw [show referencedAdditional [] (built.filterMap id) dirs live.roots = [] from rfl, List.append_nil] at htypes
  rw [htypes, hld]
  refine ⟨rfl, ?_, all₂_of_forall _ _ (fun a b hab => buildDirective_name _ a b hab) _ _ hdirs, hroots⟩
  have hskel : ∀ (l : List TypeDef) (bs : List (Option TypeD)), (∀ t ∈ l, isDefaultName t.name = false) →
      All₂ (fun t o => buildType (Env.of c.types []) t = .ok o) l bs → All₂ Skel l (bs.filterMap id) := by
    intro l bs hl hh
    induction hh with
    | nil => exact All₂.nil
    | @cons a b as bs' p _ ih =>
      obtain ⟨bt, hbt, rfl⟩ := buildType_ok_inv _ a b (hl a (List.mem_cons_self ..)) rfl p
      exact All₂.cons (skel_of_build _ _ _ hbt) (ih fun t ht => hl t (List.mem_cons_of_mem _ ht))
  exact hskel _ _ hN (mapM_forall₂ _ _ _ hbuilt)

theorem mapM_split {α β} (f : α → R β) (l l₁ l₂ : List α) (h : l = l₁ ++ l₂) (r : List β) (hm : l.mapM f = .ok r) :
    ∃ r₁ r₂, l₁.mapM f = .ok r₁ ∧ l₂.mapM f = .ok r₂ ∧ r = r₁ ++ r₂ := by
  subst h; exact mapM_append_inv f l₁ l₂ r hm

theorem mapM_join {α β} (f : α → R β) (l₁ l₂ : List α) (r₁ r₂ : List β) (h1 : l₁.mapM f = .ok r₁) (h2 : l₂.mapM f = .ok r₂) :
    (l₁ ++ l₂).mapM f = .ok (r₁ ++ r₂) :=
  Run.mapM_append_ok_iff.mpr ⟨r₁, r₂, h1, h2, rfl⟩

private theorem any_obj_named_false (rs : List TypeD) (n : String) (h : ∀ r ∈ rs, r.name ≠ n) :
    rs.any (fun t => t.name == n && t.kind == .object) = false := by
  rw [List.any_eq_false]
  intro r hr
  have := h r hr
  simp [this]

private theorem buildRoots_ok_eq (env : Env) (doc : Doc) (types : List TypeD) (r : Roots)
    (h : buildRoots env (schemaDefs doc).head? types = .ok r) : r = baseRoots doc types := by
  unfold buildRoots at h
  unfold baseRoots
  cases hh : (schemaDefs doc).head? with
  | some sd =>
    rw [hh] at h
    exact addOps_result _ _ _ _ _ h
  | none =>
    rw [hh] at h
    exact (ok_inj h).symm

private theorem baseRoots_longer (base D : Doc) (old r₁ r₂ : List TypeD) (hSD : schemaDefs D = schemaDefs base)
    (hold : All₂ (fun (t r : TypeD) => r.name = t.name ∧ r.kind = t.kind) old r₁)
    (hnew : schemaDefs base ≠ [] ∨ ∀ r ∈ r₂, r.name ≠ "Query" ∧ r.name ≠ "Mutation" ∧ r.name ≠ "Subscription") :
    baseRoots base old = baseRoots D (r₁ ++ r₂) := by
  unfold baseRoots
  rw [hSD]
  cases hsd : schemaDefs base with
  | cons sd _ => rfl
  | nil =>
    have hn := hnew.resolve_left fun h => h hsd
    show defaultRoots old = defaultRoots (r₁ ++ r₂)
    rw [defaultRoots_all₂ old r₁ hold]
    simp only [defaultRoots, List.any_append, any_obj_named_false r₂ "Query" (fun r hr => (hn r hr).1),
      any_obj_named_false r₂ "Mutation" (fun r hr => (hn r hr).2.1),
      any_obj_named_false r₂ "Subscription" (fun r hr => (hn r hr).2.2), Bool.or_false]

/-- `extend_schema(build_schema(base), B, strict=True)` on a document `B` that defines new types and
    directives and extends old and new types (in any order): if the strict collection accepts `B`, `base ++ B` is valid, and
    `B` defines no type with a default root name unless `base` has a `schema` block, the result is exactly the content
    `base` and `B` declare together — every new definition, every extension block merged into its (old or new) target in
    document order, every default (old ones included) evaluated in the extended types, roots kept and extended. -/
theorem extend_exact_general (base B : Doc) (hb : NoExt base) (env : Env) (live : Live)
    (hbuild : buildIgnoringExtensions base [] = .ok (env, live))
    (c : ExtCollected) (hc : collectExtensions live B true = .ok c)
    (hne : ¬ (c.schemaExts.isEmpty && c.typeDefs.isEmpty && c.typeExts.isEmpty && c.dirDefs.isEmpty) = true)
    (d : SchemaD) (v : SdlOK (base ++ B) d)
    (hroot : schemaDefs base ≠ [] ∨ ∀ t ∈ typeDefs B, t.name ≠ "Query" ∧ t.name ≠ "Mutation" ∧ t.name ≠ "Subscription") :
    ∃ r, extendSchemaPublic (typeDefs base) (directiveDefs base) live B true = .ok r ∧ toSchemaD r = d := by
  obtain ⟨s1, s2, s3, s4, s5, _, _⟩ := collect_strict_exact live B c hc
  unfold buildIgnoringExtensions at hbuild
  obtain ⟨cb, hcb, hcol⟩ := bind_ok _ _ _ hbuild
  -- `D`: the joint document
  generalize hD : base ++ B = D at v
  have hTD : typeDefs D = typeDefs base ++ typeDefs B := by rw [← hD]; exact typeDefs_append _ _
  have hDD : dirDefs D = dirDefs base ++ dirDefs B := by rw [← hD]; exact dirDefs_append _ _
  have hXD : typeExts D = typeExts B := by rw [← hD, typeExts_append, hb.1, List.nil_append]
  have hSX : schemaExtensions D = schemaExtensions B := by rw [← hD, schemaExtensions_append, hb.2, List.nil_append]
  have hSD : schemaDefs D = schemaDefs base := by rw [← hD, schemaDefs_append, s5, List.append_nil]
  have huD : ((dirDefs base).map (·.name)).Nodup := by
    have := v.uniqueDirectives; rw [hDD, List.map_append] at this; exact (List.nodup_append.mp this).1
  have hNbase : ∀ t ∈ typeDefs base, isDefaultName t.name = false :=
    fun t ht => v.noBuiltinNames t (by rw [hTD]; exact List.mem_append_left _ ht)
  obtain ⟨(hct : cb.types = typeDefs base), (hcd : cb.directives = dirDefs base), (hcs : cb.schemaDef = (schemaDefs base).head?)⟩ :=
    collect_aux base {} cb hcb
  obtain ⟨henv, hskel, hdn, hr0⟩ := buildCollected_parts cb env live hcol (by rw [hct]; exact hNbase)
  rw [hct] at hskel
  rw [hcd] at hdn
  rw [hcs] at hr0
  -- the declared content, built in the extension step's way; its halves are what `base` and `B` define
  have hX : (Env.of (typeDefs D)).extended (typeExts D) = Env.of (merged D) := extended_eq _ _
  have hres := extended_resolves (Env.of (typeDefs D)) (typeExts D)
  obtain ⟨_, hds, hd⟩ := declared_parts _ d v.declares
  have hrsX := merged_buildX D d v.declares v.selfDefaults
  obtain ⟨rs₁, rs₂, hrs₁, hrs₂, hrs⟩ := mapM_split _ _ _ _ hTD _ hrsX
  -- the new definitions build on their own (`build_type`), with the skeletons the pass needs
  obtain ⟨bn, hbn⟩ := mapM_ok_of_forall (fun d => buildTypeDefX (Env.of (typeDefs D))
      ((Env.of (typeDefs D)).extended (typeExts D)) (hideFor d.kind d.name) d) (typeDefs B) (by
    intro t ht
    obtain ⟨r, hr⟩ := mapM_all_ok _ _ _ hrs₂ t ht
    exact buildX_base_of_merged _ _ _ _ t r hr)
  have hcur : All₂ Skel (typeDefs D) (live.types ++ bn) := by
    rw [hTD]
    exact all₂_append _ _ _ _ _ hskel (all₂_of_forall _ _ (fun a b hab => skel_of_buildX _ _ _ a b hab) _ _ hbn)
  -- directives: the old ones extended, the new ones built
  obtain ⟨ds₁, ds₂, hds₁, hds₂, hdse⟩ := mapM_split _ _ _ _ hDD _ hds
  have holdD := directives_exact _ _ hres (directiveDefs base) live.directives ds₁ huD hdn (hX ▸ hds₁)
  have hnewD : (dirDefs B).mapM (buildDirectiveX (Env.of (typeDefs D))
      ((Env.of (typeDefs D)).extended (typeExts D))) = .ok ds₂ := by
    refine mapM_of_ok _ _ (fun dd r hm => buildDirectiveX_of_ok _ _ hres dd r ?_) _ _ hds₂
    rw [hX]; exact hm
  have hspec : ds₂.any (fun x => specifiedDirectives.contains x.name) = false := by
    have := v.noSpecified; rw [hdse, List.any_append, Bool.or_eq_false_iff] at this; exact this.2
  -- the roots of the schema are the roots the joint document declares before its `extend schema` blocks
  have hA : All₂ (fun (t : TypeDef) (r : TypeD) => r.name = t.name ∧ r.kind = t.kind) (typeDefs base) rs₁ := by
    refine all₂_of_forall _ _ ?_ _ _ hrs₁
    intro a b hab
    have := skel_of_buildX _ _ _ _ b hab
    exact ⟨this.name.trans (mergeDef_spec _ a).2.1, this.kind.trans (mergeDef_spec _ a).1⟩
  have hAn : All₂ (fun (t : TypeDef) (r : TypeD) => r.name = t.name) (typeDefs B) rs₂ := by
    refine all₂_of_forall _ _ ?_ _ _ hrs₂
    intro a b hab
    exact (skel_of_buildX _ _ _ _ b hab).name.trans (mergeDef_spec _ a).2.1
  have hbase : live.roots = baseRoots D d.types := by
    rw [buildRoots_ok_eq env base live.types live.roots hr0, hrs]
    refine baseRoots_longer base D _ rs₁ rs₂ hSD ?_ (hroot.imp_right fun hB' r hr => ?_)
    · exact all₂_join _ _ _ (fun a b c hab hac => ⟨hac.1.trans hab.name.symm, hac.2.trans hab.kind.symm⟩) _ _ _ hskel hA
    · obtain ⟨t, ht, hn⟩ := all₂_mem_right _ _ _ hAn r hr
      rw [hn]; exact hB' t ht
  have hroots : (schemaExtensions D).foldlM (fun r se => addOps (fun n => isDefaultName n || d.types.any (·.name == n)) (.lib .ext) r se.ops) live.roots
      = .ok ⟨d.query, d.mutation, d.subscription⟩ := by
    rw [hbase, addOps_blocks_ok _ _ _ _ v.extOpsNew v.extOps, declared_roots _ d v.declares, declaredRoots_eq]
  -- the run of `extend_schema`: the pass on old and new types together registers the declared types
  refine ⟨{ types := d.types, directives := ds₁ ++ ds₂, roots := ⟨d.query, d.mutation, d.subscription⟩ },
    (Run.extendSchemaPublic_ok_iff ..).mpr ⟨c, hc, (if_neg hne).mpr ⟨bn, ds₁, ds₂, ?_⟩⟩, ?_⟩
  · rw [s1, s2, s3, s4, ← hTD, ← hXD, ← hSX]
    exact ⟨holdD, hnewD, hbn, extPass_exact _ _ _ _ d.types _ _ v.uniqueTypes v.noBuiltinNames v.extTargets hcur hrsX v.membersUnique
      v.noEagerCycle hroots, hspec, rfl⟩
  · calc toSchemaD { types := d.types, directives := ds₁ ++ ds₂, roots := ⟨d.query, d.mutation, d.subscription⟩ }
        = { types := d.types, directives := d.directives, query := d.query, mutation := d.mutation, subscription := d.subscription } := by
          rw [toSchemaD, hdse]
      _ = d := hd.symm

/-- the same without the side condition on what the collection found: a document with no type-system definition at all
    returns the schema unchanged, which is the declared content too -/
theorem extend_exact_strict (base B : Doc) (hb : NoExt base) (env : Env) (live : Live)
    (hbuild : buildIgnoringExtensions base [] = .ok (env, live))
    (c : ExtCollected) (hc : collectExtensions live B true = .ok c)
    (d : SchemaD) (v : SdlOK (base ++ B) d)
    (hroot : schemaDefs base ≠ [] ∨ ∀ t ∈ typeDefs B, t.name ≠ "Query" ∧ t.name ≠ "Mutation" ∧ t.name ≠ "Subscription") :
    ∃ r, extendSchemaPublic (typeDefs base) (directiveDefs base) live B true = .ok r ∧ toSchemaD r = d := by
  by_cases hne : (c.schemaExts.isEmpty && c.typeDefs.isEmpty && c.typeExts.isEmpty && c.dirDefs.isEmpty) = true
  · have hs : extendSchemaPublic (typeDefs base) (directiveDefs base) live B true = .ok live :=
      (Run.extendSchemaPublic_ok_iff ..).mpr ⟨c, hc, (if_pos hne).mpr rfl⟩
    obtain ⟨s1, s2, s3, s4, s5, _, _⟩ := collect_strict_exact live B c hc
    simp only [Bool.and_eq_true, List.isEmpty_iff] at hne
    obtain ⟨⟨⟨h1, h2⟩, h3⟩, h4⟩ := hne
    have hP : PureExt B := ⟨by rw [← s1]; exact h2, by rw [← s2]; exact h4, s5⟩
    obtain ⟨r, hr, hd⟩ := extend_exact base B hb hP env live hbuild d v
    have := extend_strict_refines _ _ _ _ _ hs
    rw [this] at hr
    cases hr
    exact ⟨live, hs, hd⟩
  · exact extend_exact_general base B hb env live hbuild c hc hne d v hroot

/-- … and the non-strict call returns the same schema -/
theorem extend_exact_lax (base B : Doc) (hb : NoExt base) (env : Env) (live : Live)
    (hbuild : buildIgnoringExtensions base [] = .ok (env, live))
    (c : ExtCollected) (hc : collectExtensions live B true = .ok c)
    (d : SchemaD) (v : SdlOK (base ++ B) d)
    (hroot : schemaDefs base ≠ [] ∨ ∀ t ∈ typeDefs B, t.name ≠ "Query" ∧ t.name ≠ "Mutation" ∧ t.name ≠ "Subscription") :
    ∃ r, extendSchemaPublic (typeDefs base) (directiveDefs base) live B false = .ok r ∧ toSchemaD r = d := by
  obtain ⟨r, hr, hd⟩ := extend_exact_strict base B hb env live hbuild c hc d v hroot
  exact ⟨r, extend_strict_refines _ _ _ _ _ hr, hd⟩

def rBase : Doc := [.type exQuery]
def rB : Doc := [.type { kind := .object, name := "Mutation", fields := [{ name := "m", type := .named "Int" }] }]

/-- `extend_schema(build_schema("type Query { a: Int }"), "type Mutation { m: Int }")` has NO mutation root, whereas
    `build_schema` of the two definitions together has `Mutation` — reproduced on the real code (both values of `strict`).
    Not a rule of the specification that `extend_schema` breaks: an observation about what "extension" means. -/
theorem extend_roots_not_rederived :
    ((buildThenExtend rBase rB true).toOption.bind fun x => x.toOption.map (·.mutation)) = some none ∧
    ((buildThenExtend rBase rB false).toOption.bind fun x => x.toOption.map (·.mutation)) = some none ∧
    ((build (rBase ++ rB)).toOption.map (·.mutation)) = some (some "Mutation") ∧
    (Declared (rBase ++ rB)).map (·.mutation) = some (some "Mutation") := by
  decide +kernel

/-! ### non-vacuity: a document with a new type (extended BEFORE its definition), a new directive, extensions of old
types of three kinds, a default that needs a value the same document adds, and a new root -/

def gBase : Doc := [.type exQuery, .type { kind := .enum, name := "E", values := [{ name := "A" }] },
  .type { kind := .input, name := "I", inputFields := [{ name := "x", type := .named "Int" }] }]

def gB : Doc := [
  .ext { kind := .object, name := "M", fields := [{ name := "e", type := .named "E" }] },
  .type { kind := .object, name := "M", fields := [{ name := "m", type := .named "Int" }] },
  .ext { kind := .input, name := "I", inputFields := [{ name := "y", type := .named "E" }] },
  .ext { kind := .enum, name := "E", values := [{ name := "B" }] },
  .ext { kind := .object, name := "Query", fields := [{ name := "g", type := .named "Int", args := [{ name := "e", type := .named "E", default := some (.enum "B") }, { name := "i", type := .named "I", default := some (.obj []) }] }] },
  .directive { name := "nd", args := [{ name := "a", type := .named "E", default := some (.enum "A") }], locations := ["FIELD"] },
  .schemaExt { ops := [("mutation", "M")] }]

theorem gDeclares : (Declared (gBase ++ gB)).isSome = true := by decide +kernel

theorem gBoth_ok : SdlOK (gBase ++ gB) ((Declared (gBase ++ gB)).get gDeclares) :=
  have ⟨uniqueTypes, uniqueDirectives, oneSchema, noBuiltinNames, extTargets, membersUnique, noThunkCycle, noEagerCycle,
      noSpecified, schemaOps, extOps, extOpsNew, baseDefaultsB⟩ : _ ∧ _ ∧ _ ∧ _ ∧ _ ∧ _ ∧ _ ∧ _ ∧ _ ∧ _ ∧ _ ∧ _ ∧ _ := by decide +kernel
  { uniqueTypes, uniqueDirectives, oneSchema, noBuiltinNames, extTargets, declares := by simp,
    baseDefaults := baseDefaults_of_B _ baseDefaultsB,
    selfDefaults := by
      intro t ht
      by_cases hk : t.kind = .input
      · exact selfDefaults_of_noDefaults _ _ _ _ _ (by rw [(mergeDef_spec _ t).1]; exact hk) (by revert t; decide +kernel)
      · exact selfDefaults_of_kind _ _ t _ hk,
    membersUnique, noThunkCycle, noEagerCycle, noSpecified, schemaOps, extOps, extOpsNew }

example : ∃ env live r, buildIgnoringExtensions gBase [] = .ok (env, live) ∧
    extendSchemaPublic (typeDefs gBase) (directiveDefs gBase) live gB true = .ok r ∧
    toSchemaD r = (Declared (gBase ++ gB)).get gDeclares := by
  have hcb : (match buildIgnoringExtensions gBase [] with
              | .ok (_, l) => (collectExtensions l gB true).toBool
              | .error _ => false) = true := by decide +kernel
  cases h : buildIgnoringExtensions gBase [] with
  | error e => rw [h] at hcb; cases hcb
  | ok p =>
    obtain ⟨env, live⟩ := p
    rw [h] at hcb
    simp only [] at hcb
    cases hc : collectExtensions live gB true with
    | error e => rw [hc] at hcb; cases hcb
    | ok c =>
      obtain ⟨r, hr, hd⟩ := extend_exact_strict gBase gB ⟨rfl, rfl⟩ env live h c hc _ gBoth_ok (Or.inr (by decide +kernel))
      exact ⟨env, live, r, rfl, hr, hd⟩

end PyGql.Props.C11
