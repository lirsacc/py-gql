/-
  C04 ∘ C07 — "argument coercion failures count as resolver failures": in the executor model a `CoercionError` of
  `coerce_argument_values` (C07's model) yields `null` at the field plus ONE error with the field's path and location,
  and the resolver is not called; successful coercion hands the resolver exactly the coerced keyword arguments.
-/
import PyGqlModel.ExecArgs
import PyGqlModel.Props.C04


namespace PyGql.Props.C04
open PyGql PyGql.Exec PyGql.Coerce

theorem argsEntry_none_iff (e : ArgEnv) (defs : List InField) (nodes : List (String × Lit)) :
    argsEntry e defs nodes = none ↔ ∃ err, coerceArgumentValues e.reg e.fuel e.vars nodes defs = .error err := by
  unfold argsEntry
  cases coerceArgumentValues e.reg e.fuel e.vars nodes defs with
  | ok kw => simp
  | error err => simp

theorem argsEntry_some_iff (e : ArgEnv) (defs : List InField) (nodes : List (String × Lit)) (a : String) :
    argsEntry e defs nodes = some a ↔ ∃ kw, coerceArgumentValues e.reg e.fuel e.vars nodes defs = .ok kw ∧ a = renderArgs kw := by
  unfold argsEntry
  cases coerceArgumentValues e.reg e.fuel e.vars nodes defs with
  | ok kw => simp [eq_comm]
  | error err => simp

/-- every object type that defines the field has its entry in the table of the field node -/
theorem argsTable_mem (s : SchemaD) (e : ArgEnv) (fieldName : String) (nodes : List (String × Lit)) (t : TypeD) (f : FieldD)
    (ht : t ∈ s.types) (hk : t.kind = .object) (hf : t.fields.find? (·.name == fieldName) = some f) :
    (t.name, argsEntry e (f.args.map inFieldOfArg) nodes) ∈ argsTable s e fieldName nodes := by
  unfold argsTable
  simp only [List.mem_filterMap]
  exact ⟨t, ht, by simp [hk, hf]⟩

/-- The entry of the parent type is a coercion failure ⇒ `null` at the
    field, exactly one error (kind `coercion`, the response path, the location of the field node), whatever the resolver
    world is — the resolver is never consulted. -/
theorem argument_coercion_failure_is_field_error (s : SchemaD) (w : World) (execSub) (parent : String) (path : Path)
    (node : FNode) (more : List FNode) (fd : FieldD)
    (h : (node.args.find? (·.1 == parent)).map (·.2) = some none) :
    resolveField s w execSub parent path (node :: more) fd
      = .ok (.null, [{ path := path, locs := [node.loc], kind := .coercion }]) := by
  simp [resolveField, h]

/-- … stated directly with C07's function -/
theorem coerce_error_is_field_error (s : SchemaD) (w w' : World) (execSub) (parent : String) (path : Path) (e : ArgEnv)
    (defs : List InField) (nodes : List (String × Lit)) (err : Coerce.Err) (node : FNode) (more : List FNode) (fd : FieldD)
    (hargs : node.args = [(parent, argsEntry e defs nodes)])
    (herr : coerceArgumentValues e.reg e.fuel e.vars nodes defs = .error err) :
    resolveField s w execSub parent path (node :: more) fd
      = .ok (.null, [{ path := path, locs := [node.loc], kind := .coercion }])
    ∧ resolveField s w execSub parent path (node :: more) fd = resolveField s w' execSub parent path (node :: more) fd := by
  have hn : argsEntry e defs nodes = none := (argsEntry_none_iff e defs nodes).mpr ⟨err, herr⟩
  have h : (node.args.find? (·.1 == parent)).map (·.2) = some none := by simp [hargs, hn]
  exact ⟨argument_coercion_failure_is_field_error s w execSub parent path node more fd h,
    by rw [argument_coercion_failure_is_field_error s w execSub parent path node more fd h,
           argument_coercion_failure_is_field_error s w' execSub parent path node more fd h]⟩

/-- When coercion succeeds the resolver world is asked with exactly the
    canonical text of the coerced keyword arguments (conformance of these values is C07's `arguments_sound`) -/
theorem argument_coercion_success_reaches_resolver (s : SchemaD) (w : World) (execSub) (parent : String) (path : Path) (e : ArgEnv)
    (defs : List InField) (nodes : List (String × Lit)) (kw : List (String × PV)) (node : FNode) (more : List FNode) (fd : FieldD)
    (hargs : node.args = [(parent, argsEntry e defs nodes)])
    (hok : coerceArgumentValues e.reg e.fuel e.vars nodes defs = .ok kw) :
    resolveField s w execSub parent path (node :: more) fd =
      match w parent fd.name path (renderArgs kw) with
      | .err msg ext => .ok (.null, [{ path := path, locs := [node.loc], kind := .resolver msg ext }])
      | .boom => .error (.internal "unexpected")
      | .val v => catchField path node.loc (completeValue s execSub (node :: more) fd.type path v) := by
  have hs : argsEntry e defs nodes = some (renderArgs kw) := (argsEntry_some_iff e defs nodes _).mpr ⟨kw, hok, rfl⟩
  have h : (node.args.find? (·.1 == parent)).map (·.2) = some (some (renderArgs kw)) := by simp [hargs, hs]
  simp only [resolveField, h]
  cases w parent fd.name path (renderArgs kw) <;> rfl

/-! non-vacuity: a required argument that is missing is a coercion error of C07's model, hence a field error here -/
example : coerceArgumentValues (regOfSchema { types := [] }) 10 [] []
    [{ name := "x", pyName := "x", type := .nonNull (.named "Int"), default := none }] = .error .coercion := by rfl

end PyGql.Props.C04
