/-
  C06 - property theorems: `NoUnusedFragmentsChecker` against 5.5.1.4 itself.

  The visitor implements `Spec.everyFragmentSpreadSomewhere` (every fragment name is the name of SOME spread of the
  document, `rule_no_unused_fragments_iff_implemented`; ledger V6: a spread made from an unused fragment counts). The
  clause of the specification is `Spec.noUnusedFragments`: every fragment is reachable from an operation. On documents
  whose fragment names are unique and whose spreads are acyclic (the clauses of UniqueFragmentNames and
  NoFragmentCycles) the two are EQUIVALENT: climbing from a fragment to a definition that spreads it can repeat no name
  (that would be a cycle), so after at most `fragNames.length` steps it ends in an operation.
  Without acyclicity the implemented clause is strictly weaker: `fragment A {...B} fragment B {...A}` (witness below).
-/
import PyGqlModel.Props.C06_cycles
import PyGqlModel.Props.C06_frags_collected
namespace PyGql.Props.C06
open PyGql PyGql.Validate PyGql.Validate.Spec

def Node.isFragDef : Node → Bool | .fragmentDef .. => true | _ => false

theorem notFragDef_of_inert {n : Node} (h : Node.isCycNode n = false) : Node.isFragDef n = false := by
  cases n with
  | fragmentDef => cases h
  | _ => rfl

mutual
theorem selNodes_no_fragmentDef : ∀ (x : Sel) (n : Node), n ∈ selNodes x → Node.isFragDef n = false
  | .field al name args dirs true id sub, n, h => by
    simp only [selNodes, ↓reduceIte, List.mem_cons, List.mem_append] at h
    rcases h with rfl | (ha | hd) | rfl | hs
    · rfl
    · exact notFragDef_of_inert (argsNodes_inert args n ha)
    · exact notFragDef_of_inert (dirsNodes_inert dirs n hd)
    · rfl
    · exact selsNodes_no_fragmentDef sub n hs
  | .field al name args dirs false id sub, n, h => by
    simp only [selNodes, Bool.false_eq_true, ↓reduceIte, List.mem_cons, List.mem_append, List.not_mem_nil, or_false] at h
    rcases h with rfl | ha | hd
    · rfl
    · exact notFragDef_of_inert (argsNodes_inert args n ha)
    · exact notFragDef_of_inert (dirsNodes_inert dirs n hd)
  | .spread nm dirs, n, h => by
    simp only [selNodes, List.mem_cons] at h
    rcases h with rfl | hd
    · rfl
    · exact notFragDef_of_inert (dirsNodes_inert dirs n hd)
  | .inline on dirs id sub, n, h => by
    simp only [selNodes, List.mem_cons, List.mem_append] at h
    rcases h with rfl | hd | rfl | hs
    · rfl
    · exact notFragDef_of_inert (dirsNodes_inert dirs n hd)
    · rfl
    · exact selsNodes_no_fragmentDef sub n hs
theorem selsNodes_no_fragmentDef : ∀ (xs : List Sel) (n : Node), n ∈ selsNodes xs → Node.isFragDef n = false
  | [], n, h => by simp [selsNodes] at h
  | x :: xs, n, h => by
    simp only [selsNodes, List.mem_append] at h
    rcases h with h | h
    · exact selNodes_no_fragmentDef x n h
    · exact selsNodes_no_fragmentDef xs n h
end

theorem varDefNodes_inert (v : VarDef) : ∀ n ∈ varDefNodes v, Node.isCycNode n = false := by
  intro n hn
  simp only [varDefNodes, List.mem_cons, List.mem_append, List.not_mem_nil, or_false] at hn
  rcases hn with rfl | hn | rfl | hn
  · rfl
  · cases hd : v.default with
    | none => rw [hd] at hn; cases hn
    | some dv =>
      rw [hd] at hn
      have := valueNodes_kinds _ n hn
      cases n with
      | spread | fragmentDef | document => cases this
      | _ => rfl
  · rfl
  · exact dirsNodes_inert v.dirs n hn

theorem mem_directSpreads {sels : List Sel} {f : String} :
    f ∈ Spec.directSpreads sels ↔ ∃ ds, Node.spread f ds ∈ selsNodes sels := by
  unfold Spec.directSpreads
  rw [List.mem_filterMap]
  constructor
  · rintro ⟨n, hn, e⟩
    cases n <;> simp at e
    subst e
    exact ⟨_, hn⟩
  · rintro ⟨ds, h⟩
    exact ⟨_, h, rfl⟩

/-- where a spread node of the document sits: in the selections of an operation or of a fragment definition -/
theorem spread_node_home (d : Doc) (f : String) (ds : List Dir) (h : Node.spread f ds ∈ nodes d) :
    (∃ k n vs dirs i sels, Def.op k n vs dirs i sels ∈ d.defs ∧ f ∈ Spec.directSpreads sels) ∨
    (∃ g on dirs i sels, Def.frag g on dirs i sels ∈ d.defs ∧ f ∈ Spec.directSpreads sels) := by
  simp only [nodes, List.mem_cons, List.mem_flatMap, reduceCtorEq, false_or] at h
  obtain ⟨x, hx, hm⟩ := h
  cases x with
  | op k n vs dirs i sels =>
    left
    refine ⟨k, n, vs, dirs, i, sels, hx, mem_directSpreads.mpr ⟨ds, ?_⟩⟩
    simp only [defNodes, List.mem_cons, List.mem_append, List.mem_flatMap, reduceCtorEq, false_or] at hm
    rcases hm with (⟨v, _, hv⟩ | hd) | hs
    · exact absurd (varDefNodes_inert v _ hv) (by simp [Node.isCycNode])
    · exact absurd (dirsNodes_inert dirs _ hd) (by simp [Node.isCycNode])
    · exact hs
  | frag g on dirs i sels =>
    right
    refine ⟨g, on, dirs, i, sels, hx, mem_directSpreads.mpr ⟨ds, ?_⟩⟩
    simp only [defNodes, List.mem_cons, List.mem_append, reduceCtorEq, false_or] at hm
    rcases hm with hd | hs
    · exact absurd (dirsNodes_inert dirs _ hd) (by simp [Node.isCycNode])
    · exact hs
  | ts a b => simp [defNodes] at hm

theorem frag_mem_fragsOf {ds : List Def} {g on : String} {dirs : List Dir} {i : Nat} {sels : List Sel}
    (h : Def.frag g on dirs i sels ∈ ds) : (g, sels) ∈ fragsOf ds := by
  unfold fragsOf
  exact List.mem_filterMap.mpr ⟨_, h, rfl⟩

theorem frag_mem_fragNames {d : Doc} {g on : String} {dirs : List Dir} {i : Nat} {sels : List Sel}
    (h : Def.frag g on dirs i sels ∈ d.defs) : g ∈ Spec.fragNames d := by
  unfold Spec.fragNames
  exact List.mem_filterMap.mpr ⟨_, h, rfl⟩

/-- the selections `fragSels` returns, when not empty, are those of a definition of the document -/
theorem fragSels_home (d : Doc) (a : String) (f : String) (h : f ∈ Spec.directSpreads (Spec.fragSels d a)) :
    ∃ on dirs i sels, Def.frag a on dirs i sels ∈ d.defs ∧ f ∈ Spec.directSpreads sels := by
  unfold Spec.fragSels at h
  generalize hf : List.findSome? _ d.defs = o at h
  cases o with
  | none => simp [Spec.directSpreads, selsNodes] at h
  | some sels =>
    obtain ⟨x, hx, hs⟩ := List.exists_of_findSome?_eq_some hf
    cases x with
    | frag n on dirs i ss =>
      simp only at hs
      split at hs
      · rename_i hn
        cases hs
        have : n = a := by simpa using hn
        subst this
        exact ⟨on, dirs, i, _, hx, h⟩
      · cases hs
    | op => simp at hs
    | ts => simp at hs

/-- the last step of a path -/
theorem reach_last {d : Doc} {g f : String} (h : Spec.Reach d g f) : ∃ a, f ∈ Spec.directSpreads (Spec.fragSels d a) := by
  induction h with
  | step h => exact ⟨_, h⟩
  | trans _ _ _ ih => exact ih

theorem spread_node_of_direct {d : Doc} {x : Def} (hx : x ∈ d.defs) {sels : List Sel} {f : String}
    (hs : (∃ k n vs dirs i, x = Def.op k n vs dirs i sels) ∨ (∃ g on dirs i, x = Def.frag g on dirs i sels))
    (h : f ∈ Spec.directSpreads sels) : ∃ m ∈ nodes d, ∃ ds, m = Node.spread f ds := by
  obtain ⟨ds, hm⟩ := mem_directSpreads.mp h
  refine ⟨_, ?_, ds, rfl⟩
  simp only [nodes, List.mem_cons, List.mem_flatMap, reduceCtorEq, false_or]
  refine ⟨x, hx, ?_⟩
  rcases hs with ⟨k, n, vs, dirs, i, rfl⟩ | ⟨g, on, dirs, i, rfl⟩
  · simp only [defNodes, List.mem_cons, List.mem_append, reduceCtorEq, false_or]
    exact Or.inr hm
  · simp only [defNodes, List.mem_cons, List.mem_append, reduceCtorEq, false_or]
    exact Or.inr hm

/-- **5.5.1.4 ⇒ the implemented clause** (no hypothesis): a used fragment is the target of some spread -/
theorem no_unused_implies_spread_somewhere (d : Doc) (h : Spec.noUnusedFragments d) : Spec.everyFragmentSpreadSomewhere d := by
  intro n hn name on dirs e
  subst e
  have hf : name ∈ Spec.fragNames d := by
    simp only [nodes, List.mem_cons, List.mem_flatMap, reduceCtorEq, false_or] at hn
    obtain ⟨x, hx, hm⟩ := hn
    cases x with
    | op k n vs dirs' i sels =>
      simp only [defNodes, List.mem_cons, List.mem_append, List.mem_flatMap, reduceCtorEq, false_or] at hm
      rcases hm with (⟨v, _, hv⟩ | hd) | hs
      · exact absurd (varDefNodes_inert v _ hv) (by simp [Node.isCycNode])
      · exact absurd (dirsNodes_inert dirs' _ hd) (by simp [Node.isCycNode])
      · exact absurd (selsNodes_no_fragmentDef sels _ hs) (by simp [Node.isFragDef])
    | frag g on' dirs' i sels =>
      simp only [defNodes, List.mem_cons, List.mem_append, reduceCtorEq, false_or] at hm
      rcases hm with e | hd | hs
      · cases e; exact frag_mem_fragNames hx
      · exact absurd (dirsNodes_inert dirs' _ hd) (by simp [Node.isCycNode])
      · exact absurd (selsNodes_no_fragmentDef sels _ hs) (by simp [Node.isFragDef])
    | ts a b => simp [defNodes] at hm
  obtain ⟨x, hx, k, nm, vs, ds, i, sels, rfl, hu⟩ := h name hf
  rcases hu with hdir | ⟨g, _, hr⟩
  · exact spread_node_of_direct hx (Or.inl ⟨k, nm, vs, ds, i, rfl⟩) hdir
  · obtain ⟨a, ha⟩ := reach_last hr
    obtain ⟨on', dirs', i', sels', hmem, hd⟩ := fragSels_home d a name ha
    exact spread_node_of_direct hmem (Or.inr ⟨a, on', dirs', i', rfl⟩) hd

/-- under the implemented clause every fragment is spread by an operation or by a (defined) fragment -/
theorem spread_by_someone (d : Doc) (hnd : Spec.uniqueFragmentNames d) (h : Spec.everyFragmentSpreadSomewhere d)
    (f : String) (hf : f ∈ Spec.fragNames d) :
    (∃ x ∈ d.defs, ∃ k n vs ds i sels, x = Def.op k n vs ds i sels ∧ f ∈ Spec.directSpreads sels) ∨
    (∃ g ∈ Spec.fragNames d, f ∈ Spec.directSpreads (Spec.fragSels d g)) := by
  obtain ⟨x, hx, e⟩ := List.mem_filterMap.mp hf
  cases x with
  | frag n on dirs i sels =>
    simp only [Option.some.injEq] at e
    subst e
    have hnode : Node.fragmentDef n on dirs ∈ nodes d := by
      simp only [nodes, List.mem_cons, List.mem_flatMap, reduceCtorEq, false_or]
      exact ⟨_, hx, by simp [defNodes]⟩
    obtain ⟨m, hm, ds, rfl⟩ := h _ hnode n on dirs rfl
    rcases spread_node_home d n ds hm with ⟨k, nm, vs, dirs', i', sels', hmem, hd⟩ | ⟨g, on', dirs', i', sels', hmem, hd⟩
    · exact Or.inl ⟨_, hmem, k, nm, vs, dirs', i', sels', rfl, hd⟩
    · right
      refine ⟨g, frag_mem_fragNames hmem, ?_⟩
      have hnd' : ((fragsOf d.defs).map (·.1)).Nodup := by rw [← fragNames_eq_fragsOf]; exact hnd
      have : Spec.fragSels d g = sels' := fragSels_of_mem d.defs g sels' hnd' (frag_mem_fragsOf hmem)
      rw [this]; exact hd
  | op => simp at e
  | ts => simp at e

/-- climbing from `f` to the definitions that spread it; `visited` = `f` and names below it -/
theorem climb (d : Doc) (hnd : Spec.uniqueFragmentNames d) (hac : Spec.noFragmentCycles d)
    (h : Spec.everyFragmentSpreadSomewhere d) :
    ∀ (n : Nat) (f : String) (visited : List String), f ∈ Spec.fragNames d → visited.Nodup →
      visited ⊆ Spec.fragNames d → (∀ v ∈ visited, v = f ∨ Spec.Reach d f v) → f ∈ visited →
      (Spec.fragNames d).length ≤ visited.length + n →
      ∃ x ∈ d.defs, ∃ k nm vs ds i sels, x = Def.op k nm vs ds i sels ∧ Spec.UsedBy d sels f := by
  intro n
  induction n with
  | zero =>
    intro f visited hf hvn hvs hinv hfv hlen
    rcases spread_by_someone d hnd h f hf with ⟨x, hx, k, nm, vs, ds, i, sels, e, hd⟩ | ⟨g, hg, hd⟩
    · exact ⟨x, hx, k, nm, vs, ds, i, sels, e, Or.inl hd⟩
    · exfalso
      have hgv : g ∉ visited := by
        intro hgv
        rcases hinv g hgv with e | hr
        · subst e; exact hac g hg (.step hd)
        · exact hac f hf (.trans hr (.step hd))
      have hl : (g :: visited).length ≤ (Spec.fragNames d).length :=
        List.Nodup.length_le_of_subset (List.nodup_cons.mpr ⟨hgv, hvn⟩)
          (fun y hy => by rcases List.mem_cons.mp hy with rfl | hy; exact hg; exact hvs hy)
      simp only [List.length_cons] at hl
      omega
  | succ n ih =>
    intro f visited hf hvn hvs hinv hfv hlen
    rcases spread_by_someone d hnd h f hf with ⟨x, hx, k, nm, vs, ds, i, sels, e, hd⟩ | ⟨g, hg, hd⟩
    · exact ⟨x, hx, k, nm, vs, ds, i, sels, e, Or.inl hd⟩
    · have hgv : g ∉ visited := by
        intro hgv
        rcases hinv g hgv with e | hr
        · subst e; exact hac g hg (.step hd)
        · exact hac f hf (.trans hr (.step hd))
      obtain ⟨x, hx, k, nm, vs, ds, i, sels, e, hu⟩ := ih g (g :: visited) hg (List.nodup_cons.mpr ⟨hgv, hvn⟩)
        (fun y hy => by rcases List.mem_cons.mp hy with rfl | hy; exact hg; exact hvs hy)
        (fun v hv => by
          rcases List.mem_cons.mp hv with rfl | hv
          · exact Or.inl rfl
          · rcases hinv v hv with rfl | hr
            · exact Or.inr (.step hd)
            · exact Or.inr (.trans (.step hd) hr))
        (List.mem_cons_self ..) (by simp only [List.length_cons]; omega)
      refine ⟨x, hx, k, nm, vs, ds, i, sels, e, Or.inr ?_⟩
      rcases hu with hdir | ⟨g', hg', hr⟩
      · exact ⟨g, hdir, .step hd⟩
      · exact ⟨g', hg', .trans hr (.step hd)⟩

/-- **the implemented clause ⇒ 5.5.1.4** when fragment names are unique and spreads acyclic -/
theorem spread_somewhere_implies_no_unused (d : Doc) (hnd : Spec.uniqueFragmentNames d) (hac : Spec.noFragmentCycles d)
    (h : Spec.everyFragmentSpreadSomewhere d) : Spec.noUnusedFragments d := fun f hf =>
  climb d hnd hac h (Spec.fragNames d).length f [f] hf (by simp)
    (fun y hy => by rw [List.mem_singleton.mp hy]; exact hf) (fun v hv => Or.inl (List.mem_singleton.mp hv))
    (List.mem_singleton.mpr rfl) (by simp)

/-- **5.5.1.4 ⇔ what `NoUnusedFragmentsChecker` implements**, on documents that satisfy the clauses of
    UniqueFragmentNames and NoFragmentCycles -/
theorem no_unused_fragments_spec_iff_implemented (d : Doc) (hnd : Spec.uniqueFragmentNames d)
    (hac : Spec.noFragmentCycles d) : Spec.everyFragmentSpreadSomewhere d ↔ Spec.noUnusedFragments d :=
  ⟨spread_somewhere_implies_no_unused d hnd hac, no_unused_implies_spread_somewhere d⟩

/-- **NoUnusedFragmentsChecker against 5.5.1.4**: on such documents the visitor is silent iff every fragment is
    reachable from an operation -/
theorem rule_no_unused_fragments_iff (s : SchemaD) (fx : Fixes) (d : Doc) (hnd : Spec.uniqueFragmentNames d)
    (hac : Spec.noFragmentCycles d) : Silent s fx .noUnusedFragments d ↔ Spec.noUnusedFragments d :=
  (rule_no_unused_fragments_iff_implemented s fx d).trans (no_unused_fragments_spec_iff_implemented d hnd hac)

/-- the visitor never reports a fragment that 5.5.1.4 accepts (no hypothesis) -/
theorem rule_no_unused_fragments_no_false_alarm (s : SchemaD) (fx : Fixes) (d : Doc) (h : Spec.noUnusedFragments d) :
    Silent s fx .noUnusedFragments d :=
  (rule_no_unused_fragments_iff_implemented s fx d).mpr (no_unused_implies_spread_somewhere d h)

/-! without acyclicity the implemented clause is strictly weaker (ledger V6): two fragments spreading each other and no
    operation - every fragment is spread somewhere, none is used -/
def cycDoc : Doc := ⟨[.frag "A" "Query" [] 1 [.spread "B" []], .frag "B" "Query" [] 2 [.spread "A" []]]⟩

theorem cyc_witness : Spec.everyFragmentSpreadSomewhere cycDoc ∧ ¬ Spec.noUnusedFragments cycDoc := by
  constructor
  · -- the visitor (any schema) is silent on `cycDoc`, by evaluation
    exact (rule_no_unused_fragments_iff_implemented { types := [] } {} cycDoc).mp (by unfold Silent; decide +kernel)
  · intro h
    obtain ⟨x, hx, k, nm, vs, ds, i, sels, e, _⟩ := h "A" (by simp [Spec.fragNames, cycDoc])
    subst e
    simp [cycDoc] at hx

end PyGql.Props.C06
