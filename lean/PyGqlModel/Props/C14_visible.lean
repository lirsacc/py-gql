/-
  C14 — the CONVERSE of member-level preservation for visibility: what the predicates accept IS in the result.

  `transform_preserves_untouched_members` says the members of a result type are copies of a SUB-list of the source's. For
  field-level / input-field-level / directive-level hiding (no TYPE hidden: `∀ n, p.isTypeVisible n`) the result is EXACT:
  `visibility_members_exact` (FULL, in place): after `VisibilitySchemaTransform.on_schema`
  * the registry `types` is the same list (same names, same objects, same order), no healing round runs;
  * no field object and no argument / input field object is written;
  * every registered non-protected type object is the same object with its member list FILTERED by the predicate
    (`keptOf`: `is_field_visible(type, field)` for object / interface types, `is_input_field_visible(type, field)` for input
    objects; union / enum / scalar types untouched): result members = source members filtered by the predicate, in order.
  With `clone_refines` (a clone has the source's by-name view) this is the statement for `transform_schema` by name
  (`visibility_members_exact_transform`).
  `visibility_keeps_visible_types` (FULL, types may be hidden): every type the predicate keeps visible is still registered —
  with `visibility_hides_type`: the names of the result = the names of the source filtered by `is_type_visible`.
  For the identity visitor (`clone`) the equalities are `clone_members_exact` / `clone_refines`; for camel-casing
  `camel_case_exact` (equality up to the renaming). OPEN (named): when TYPES are hidden too, the members that mention a hidden
  type are dropped by the healing rounds; that the OTHER members all survive is not proved (`Sub2` + `visibility_hides_type` +
  `visibility_hides_members` bound the result from above, `VisibleMembersKept` is the missing lower bound).
-/
import PyGqlModel.Props.C14_hidden
import PyGqlModel.Props.C14_refine


namespace PyGql.Props.C14
open PyGql.Heap PyGql.Heap.Own

def keptOf (p : VisP) (h : Heap) (t : TypeO) : List Addr :=
  match t.kind with
  | .object | .interface => t.fields.filter fun fa => match fieldName h fa with | some fnm => p.fieldVis t.name fnm | none => true
  | .input => t.fields.filter fun fa => match argName h fa with | some fnm => p.inputVis t.name fnm | none => true
  | _ => t.fields

/-- the missing lower bound when types are hidden as well (NOT proved): a field the predicates accept, whose type and whose
    arguments' types are all visible, has a copy in the result -/
def VisibleMembersKept (cfg : Cfg) : Prop :=
  ∀ fuel p s h h' s', closedB h s = true → wfB h s = true → onSchema cfg fuel (.vis p) s h = some (h', s') →
    ∀ e, e ∈ s.types → p.isTypeVisible e.1 = true → ∀ t, h.readType e.2 = some t → (t.kind = Kind.object ∨ t.kind = Kind.interface) →
      ∀ c, c ∈ t.fields → ∀ f, h.readField c = some f → p.fieldVis t.name f.name = true → p.isTypeVisible f.ty.base.name = true →
        (∀ x g, x ∈ f.args → h.readArg x = some g → p.isTypeVisible g.ty.base.name = true) →
        ∃ e' t' c' f', e' ∈ s'.types ∧ e'.1 = e.1 ∧ h'.readType e'.2 = some t' ∧ c' ∈ t'.fields ∧ h'.readField c' = some f' ∧ f'.name = f.name

def withFields (t : TypeO) (fs : List Addr) : TypeO := { t with fields := fs }

private theorem keptOf_eq (p : VisP) (h : Heap) (t : TypeO) : keptOf p h t = visKept p h t := rfl

theorem onInputField_vis_all (p : VisP) (hall : ∀ n, p.isTypeVisible n = true) (reg : List (String × Addr)) (h : Heap) (c : Addr) :
    onInputField (.vis p) reg h c = (h, some c) := by
  rw [onInputField_vis, inputTypeVis]
  split <;> simp only [hall, if_true]

/-- one type visited by the visibility visitor when no type is hidden: the same object, its member list filtered -/
theorem onType_vis_all (p : VisP) (hall : ∀ n, p.isTypeVisible n = true) (reg : List (String × Addr)) (h : Heap) (a : Addr) (t : TypeO)
    (ht : h.readType a = some t) :
    (onType (.vis p) reg h a).2 = some a ∧ (∀ c, (onType (.vis p) reg h a).1.readField c = h.readField c) ∧
    (∀ c, (onType (.vis p) reg h a).1.readArg c = h.readArg c) ∧ (∀ x, x ≠ a → (onType (.vis p) reg h a).1.readType x = h.readType x) ∧
    (onType (.vis p) reg h a).1.readType a = some (withFields t (keptOf p h t)) := by
  -- no input field is dropped for its type, so an input object is treated like the other kinds
  have hin : ∀ (h1 : Heap) (l : List Addr), l.filter (inputTypeVis p h1) = l := fun h1 l => List.filter_eq_self.mpr fun c _ => by
    simp only [inputTypeVis]
    split <;> simp only [hall]
  have e : onType (.vis p) reg h a = (setFields h a t (visKept p h t), some a) := by
    rw [onType_vis p reg ht]
    split
    · simp only [inputRest_vis, hin, rebuiltOrSame, bne_self_eq_false, Bool.false_eq_true, if_false, hall, if_true]
    · rw [if_pos (hall _)]
  rw [e, keptOf_eq]
  exact ⟨rfl, (setFields_reads ht _).1, (setFields_reads ht _).2.1, (setFields_reads ht _).2.2, setFields_readType ht _⟩

private theorem keptOf_congr (p : VisP) {h h' : Heap} (hf : ∀ c, h'.readField c = h.readField c) (hg : ∀ c, h'.readArg c = h.readArg c) (t : TypeO) :
    keptOf p h' t = keptOf p h t := by
  simp only [keptOf, fieldName, argName, hf, hg]

theorem visitTypes_vis_all (p : VisP) (hall : ∀ n, p.isTypeVisible n = true) (reg : List (String × Addr)) :
    ∀ (l : List (String × Addr)) (h : Heap), (∀ e, e ∈ l → ∃ t, h.readType e.2 = some t) → (l.map (·.1)).Nodup →
      (∀ e1 e2, e1 ∈ l → e2 ∈ l → e1.2 = e2.2 → e1.1 = e2.1) →
      (visitTypes (.vis p) reg h l).2 = [] ∧ (∀ c, (visitTypes (.vis p) reg h l).1.readField c = h.readField c) ∧
      (∀ c, (visitTypes (.vis p) reg h l).1.readArg c = h.readArg c) ∧
      (∀ x, (∀ e, e ∈ l → isProtected e.1 = false → e.2 ≠ x) → (visitTypes (.vis p) reg h l).1.readType x = h.readType x) ∧
      (∀ e, e ∈ l → isProtected e.1 = false → ∀ t, h.readType e.2 = some t →
        (visitTypes (.vis p) reg h l).1.readType e.2 = some (withFields t (keptOf p h t))) := by
  intro l
  induction l with
  | nil => intro h _ _ _; exact ⟨rfl, fun _ => rfl, fun _ => rfl, fun _ _ => rfl, by simp⟩
  | cons e0 rest ih =>
    intro h hread hnd hinj
    obtain ⟨n, a⟩ := e0
    simp only [List.map_cons, List.nodup_cons] at hnd
    have hreadR : ∀ e, e ∈ rest → ∃ t, h.readType e.2 = some t := fun e he => hread e (List.mem_cons_of_mem _ he)
    have hinjR : ∀ e1 e2, e1 ∈ rest → e2 ∈ rest → e1.2 = e2.2 → e1.1 = e2.1 := fun e1 e2 h1 h2 => hinj e1 e2 (List.mem_cons_of_mem _ h1) (List.mem_cons_of_mem _ h2)
    by_cases hp : isProtected n = true
    · simp only [visitTypes, hp, if_true]
      obtain ⟨i1, i2, i3, i4, i5⟩ := ih h hreadR hnd.2 hinjR
      refine ⟨i1, i2, i3, fun x hx => i4 x (fun e he hnp => hx e (List.mem_cons_of_mem _ he) hnp), ?_⟩
      intro e he hnp
      simp only [List.mem_cons] at he
      rcases he with rfl | he
      · simp [hnp] at hp
      · exact i5 e he hnp
    · have hnp0 : isProtected n = false := by simpa using hp
      obtain ⟨t0, ht0⟩ := hread (n, a) (by simp)
      obtain ⟨o1, o2, o3, o4, o5⟩ := onType_vis_all p hall reg h a t0 ht0
      have hne : ∀ e, e ∈ rest → e.2 ≠ a := by
        intro e he hea
        have := hinj e (n, a) (List.mem_cons_of_mem _ he) (by simp) hea
        exact hnd.1 (List.mem_map.mpr ⟨e, he, this⟩)
      obtain ⟨i1, i2, i3, i4, i5⟩ := ih (onType (.vis p) reg h a).1 (fun e he => by
        obtain ⟨t, ht⟩ := hreadR e he
        exact ⟨t, by rw [o4 e.2 (hne e he)]; exact ht⟩) hnd.2 hinjR
      simp only [visitTypes, hnp0, Bool.false_eq_true, if_false, o1, bne_self_eq_false]
      refine ⟨i1, fun c => by rw [i2, o2], fun c => by rw [i3, o3], ?_, ?_⟩
      · intro x hx
        rw [i4 x (fun e he hnp => hx e (List.mem_cons_of_mem _ he) hnp), o4 x (fun hxa => hx (n, a) (by simp) hnp0 hxa.symm)]
      · intro e he hnp t ht
        simp only [List.mem_cons] at he
        rcases he with rfl | he
        · rw [ht0] at ht
          cases ht
          rw [i4 a (fun e he _ => hne e he), o5]
        · have h1 : (onType (.vis p) reg h a).1.readType e.2 = some t := by rw [o4 e.2 (hne e he)]; exact ht
          rw [i5 e he hnp t h1, keptOf_congr p o2 o3]

theorem visitDirs_vis_heap (p : VisP) (reg : List (String × Addr)) : ∀ (l : List (String × Addr)) (h : Heap), (visitDirs (.vis p) reg h l).1 = h := by
  intro l h
  have one : ∀ (h : Heap) (a : Addr), (onDirective (.vis p) reg h a).1 = h := by
    intro h a
    simp only [onDirective]
    split
    · rfl
    · split
      · rfl
      · simp only [mapFilter_id (onArgument_vis_id p reg), bne_self_eq_false, Bool.false_eq_true, if_false]
  exact (visitDirs_out (.vis p) reg (R := fun h h' => h' = h) (Pre := fun _ _ => True) (fun _ => rfl) (fun _ _ _ a b => b.trans a)
    (fun _ _ _ _ _ => trivial) (fun h e _ => one h e.2) l h fun _ _ => trivial).1

/-- FULL (see the header) -/
theorem visibility_members_exact (cfg : Cfg) (fuel : Nat) (p : VisP) (hall : ∀ n, p.isTypeVisible n = true) (s : Schema) (h h' : Heap) (s' : Schema)
    (hw : wfB h s = true) (e : onSchema cfg fuel (.vis p) s h = some (h', s')) :
    s'.types = s.types ∧ (∀ c, h'.readField c = h.readField c) ∧ (∀ c, h'.readArg c = h.readArg c) ∧
    ∀ e0, e0 ∈ s.types → isProtected e0.1 = false → ∀ t, h.readType e0.2 = some t → h'.readType e0.2 = some (withFields t (keptOf p h t)) := by
  have w := wfs_of_wfB hw
  have hread : ∀ e, e ∈ s.types → ∃ t, h.readType e.2 = some t := fun e he =>
    let ⟨t, ht, _⟩ := typeShape_readable (w.types e he); ⟨t, ht⟩
  have hinj : ∀ e1 e2, e1 ∈ s.types → e2 ∈ s.types → e1.2 = e2.2 → e1.1 = e2.1 := by
    intro e1 e2 h1 h2 h12
    have n1 := w.names e1 h1
    have n2 := w.names e2 h2
    obtain ⟨t1, ht1⟩ := hread e1 h1
    simp only [nameOK, ht1, beq_iff_eq] at n1
    have ht2 : h.readType e2.2 = some t1 := by rw [← h12]; exact ht1
    simp only [nameOK, ht2, beq_iff_eq] at n2
    rw [← n1, ← n2]
  obtain ⟨i1, i2, i3, _, i5⟩ := visitTypes_vis_all p hall s.types s.types h hread w.nodup hinj
  simp only [onSchema, replaceTD, visitAll, replaceCore, i1, replaceTypes, Bool.false_eq_true, if_false, visitDirs_vis_heap] at e
  cases e
  exact ⟨rfl, i2, i3, i5⟩

/-- non-vacuity (a predicate that hides something): `hideName` hides the field `Dog.name`, no type -/
example : (∀ n, hideName.isTypeVisible n = true) ∧ wfB h0 s0 = true ∧ (onSchema Cfg.fixed 8 (.vis hideName) s0 h0).isSome = true :=
  ⟨fun n => by simp [VisP.isTypeVisible, hideName], s0_wf, by decide +kernel⟩

/-- `transform_schema(source, VisibilitySchemaTransform())` when no type is hidden: the result IS the clone (`clone_refines`: by
    name the source) with every member list filtered by the predicates — nothing else removed, nothing reordered -/
theorem visibility_members_exact_transform (cfg : Cfg) (hd : cfg.deepClone = true) (hk : cfg.keepAllTypes = true) (hacc : cfg.accumulateBusted = true)
    (fuel : Nat) (p : VisP) (hall : ∀ n, p.isTypeVisible n = true) (s : Schema) (h h' : Heap) (s' : Schema)
    (hc : closedB h s = true) (hw : wfB h s = true) (e : transform cfg (2 + fuel) [.vis p] s h = some (h', s')) :
    ∃ h1 s1, clone cfg (2 + fuel) s h = some (h1, s1) ∧ s'.types = s1.types ∧
      (∀ e1, e1 ∈ s1.types → ∃ e0, e0 ∈ s.types ∧ e0.1 = e1.1 ∧ typeV h1 e1.2 = typeV h e0.2) ∧
      (∀ c, h'.readField c = h1.readField c) ∧ (∀ c, h'.readArg c = h1.readArg c) ∧
      ∀ e1, e1 ∈ s1.types → isProtected e1.1 = false → ∀ t, h1.readType e1.2 = some t →
        h'.readType e1.2 = some (withFields t (keptOf p h1 t)) := by
  obtain ⟨h1, s1, hr, hr2⟩ := transform_single_some e
  obtain ⟨c1, w1⟩ := clone_closed cfg hd hk hacc (2 + fuel) s h h1 s1 hc hw hr
  obtain ⟨k1, k2, k3, k4⟩ := visibility_members_exact cfg (2 + fuel) p hall s1 h1 _ _ w1 hr2
  exact ⟨h1, s1, hr, k1, clone_types_view cfg hd hk (2 + fuel) s h h1 s1 hc hw hr, k2, k3, k4⟩

theorem replaceTypes_names_except (cfg : Cfg) (n : String) : ∀ (ut : List (String × Option Addr)) (reg : List (String × Addr)) (b : Bool),
    (∀ x, x ∈ ut → x.1 = n → x.2 ≠ none) → n ∈ regNames reg → n ∈ regNames (replaceTypes cfg reg b ut).1 := by
  intro ut
  induction ut with
  | nil => intro reg b _ hn; simpa [replaceTypes] using hn
  | cons x rest ih =>
    intro reg b hs hn
    obtain ⟨nm, new⟩ := x
    have hr : ∀ x, x ∈ rest → x.1 = n → x.2 ≠ none := fun x hx => hs x (List.mem_cons_of_mem _ hx)
    simp only [replaceTypes]
    split
    · exact ih reg b hr hn
    · cases new with
      | none =>
        apply ih _ _ hr
        have hne : nm ≠ n := fun hnm => hs (nm, none) (by simp) hnm rfl
        simp only [regNames, List.mem_map] at hn ⊢
        obtain ⟨e, he, hen⟩ := hn
        exact ⟨e, List.mem_filter.mpr ⟨he, by simp [hen]; exact fun hx => hne hx.symm⟩, hen⟩
      | some a' => exact ih _ _ hr (regSet_names reg nm a' n hn)

theorem onType_vis_none (p : VisP) (reg : List (String × Addr)) (h : Heap) (a : Addr) (e : (onType (.vis p) reg h a).2 = none) :
    ∃ t, h.readType a = some t ∧ p.isTypeVisible t.name = false := by
  cases ht : h.readType a with
  | none => simp [onType, ht] at e
  | some t =>
    refine ⟨t, rfl, ?_⟩
    rw [← onType_vis_snd p reg ht, e]
    rfl

theorem visitTypes_vis_none (p : VisP) (reg : List (String × Addr)) : ∀ (l : List (String × Addr)) (h : Heap),
    (∀ e, e ∈ l → nameOK h e = true) → ∀ x, x ∈ (visitTypes (.vis p) reg h l).2 → x.2 = none → p.isTypeVisible x.1 = false := by
  intro l h hname x hx hnone
  -- a reported `None` is what the hook returned for a registered entry, in a heap where the entry's name is still its object's name
  obtain ⟨e, h1, _, _, hn, _, _, rfl, _⟩ := (visitTypes_out (.vis p) reg (R := StepImp fun _ => true) (Pre := fun h e => nameOK h e = true)
    (StepImp.refl _) (fun _ _ _ => StepImp.trans) (fun _ _ e st hn => nameOK_keep st e hn)
    (fun h e _ => onType_step (.vis p) reg h e.2 _ (by simp [Compat])) l h (fun e he _ => hname e he)).2.2 x hx
  obtain ⟨t, ht, hv⟩ := onType_vis_none p reg h1 e.2 hnone
  simp only [nameOK, ht, beq_iff_eq] at hn
  rw [← hn]
  exact hv

/-- FULL: a type the predicate keeps visible is still registered after `VisibilitySchemaTransform.on_schema` (healing included):
    with `visibility_hides_type`, `names s' = names s` filtered by `is_type_visible` -/
theorem visibility_keeps_visible_types (cfg : Cfg) (fuel : Nat) (p : VisP) (s : Schema) (h h' : Heap) (s' : Schema)
    (hw : wfB h s = true) (e : onSchema cfg fuel (.vis p) s h = some (h', s')) :
    ∀ n, n ∈ names s → p.isTypeVisible n = true → n ∈ names s' := by
  have w := wfs_of_wfB hw
  intro n hn hv
  -- the visitor's round reports no `None` under a visible name, and no heal round unregisters a name
  refine onSchema_ind cfg fuel (.vis p) (J := fun _ s => n ∈ regNames s.types) ?_ (fun s h hn => round_names cfg .heal trivial s h n hn) e
  simp only [replaceCore, visitAll]
  apply replaceTypes_names_except cfg n _ _ _ _ hn
  intro x hx hxn hnone
  have := visitTypes_vis_none p s.types s.types h w.names x hx hnone
  rw [hxn, hv] at this
  cases this

end PyGql.Props.C14
