/-
  C04 / C05 — the Boolean acyclicity check of `ValidDoc` (`fragsAcyclic`, what rule NoFragmentCycles enforces) IMPLIES the
  declarative ranking: with unique fragment names, every document with `fragsAcyclic = true` passes the rank certificate
  (`rankedB`), hence is `Ranked`; so `responds` and `exec_refines_spec` hold for every such document.
-/
import PyGqlModel.Props.C04_spreads


namespace PyGql.Props.C04
open PyGql PyGql.Exec PyGql.Spec

mutual
private theorem selNeed_congr (rk rk' : String → Nat) : ∀ x : Sel, (∀ g ∈ selSpreads x, rk g = rk' g) → selNeed rk x = selNeed rk' x
  | .field _ _ _ _ _ _ _, _ => by simp [selNeed]
  | .inline _ _ sub, h => by
    simp only [selNeed]
    rw [selsNeed_congr rk rk' sub (by simpa [selSpreads] using h)]
  | .spread n _, h => by simp [selNeed, h n (by simp [selSpreads])]
private theorem selsNeed_congr (rk rk' : String → Nat) : ∀ xs : List Sel, (∀ g ∈ selsSpreads xs, rk g = rk' g) → selsNeed rk xs = selsNeed rk' xs
  | [], _ => rfl
  | x :: xs, h => by
    simp only [selsNeed]
    rw [selNeed_congr rk rk' x (fun g hg => h g (by simp [selsSpreads, hg])),
        selsNeed_congr rk rk' xs (fun g hg => h g (by simp [selsSpreads, hg]))]
end

mutual
private theorem selDepth_congr (ek ek' : String → Nat) : ∀ x : Sel, (∀ g ∈ selSpreads x, ek g = ek' g) → selDepth ek x = selDepth ek' x
  | .field _ _ _ _ _ _ sub, h => by
    simp only [selDepth]
    rw [selsDepth_congr ek ek' sub (by simpa [selSpreads] using h)]
  | .inline _ _ sub, h => by
    simp only [selDepth]
    rw [selsDepth_congr ek ek' sub (by simpa [selSpreads] using h)]
  | .spread n _, h => by simp [selDepth, h n (by simp [selSpreads])]
private theorem selsDepth_congr (ek ek' : String → Nat) : ∀ xs : List Sel, (∀ g ∈ selsSpreads xs, ek g = ek' g) → selsDepth ek xs = selsDepth ek' xs
  | [], _ => rfl
  | x :: xs, h => by
    simp only [selsDepth]
    rw [selDepth_congr ek ek' x (fun g hg => h g (by simp [selsSpreads, hg])),
        selsDepth_congr ek ek' xs (fun g hg => h g (by simp [selsSpreads, hg]))]
end

mutual
private theorem selBounded_of_max (rk : String → Nat) (B : Nat) : ∀ x : Sel, selMaxNeed rk x ≤ B → selBounded rk B x = true
  | .field _ _ _ _ _ _ sub, h => by
    simp only [selMaxNeed, Nat.max_le] at h
    simp only [selBounded, Bool.and_eq_true, decide_eq_true_eq]
    exact ⟨h.1, selsBoundedIn_of_max rk B sub h.2⟩
  | .inline _ _ sub, h => by
    simp only [selMaxNeed, Nat.max_le] at h
    simp only [selBounded, Bool.and_eq_true, decide_eq_true_eq]
    exact ⟨h.1, selsBoundedIn_of_max rk B sub h.2⟩
  | .spread _ _, _ => by simp [selBounded]
private theorem selsBoundedIn_of_max (rk : String → Nat) (B : Nat) : ∀ xs : List Sel, selsMaxNeedIn rk xs ≤ B → selsBoundedIn rk B xs = true
  | [], _ => by simp [selsBoundedIn]
  | x :: xs, h => by
    simp only [selsMaxNeedIn, Nat.max_le] at h
    simp only [selsBoundedIn, Bool.and_eq_true]
    exact ⟨selBounded_of_max rk B x h.1, selsBoundedIn_of_max rk B xs h.2⟩
end

private theorem selsBounded_of_max (rk : String → Nat) (B : Nat) (xs : List Sel) (h : selsMaxNeed rk xs ≤ B) : selsBounded rk B xs = true := by
  simp only [selsMaxNeed, Nat.max_le] at h
  simp only [selsBounded, Bool.and_eq_true, decide_eq_true_eq]
  exact ⟨h.1, selsBoundedIn_of_max rk B xs h.2⟩

private theorem le_foldl_max (l : List Nat) (init x : Nat) (h : x ∈ l ∨ x ≤ init) : x ≤ l.foldl max init := by
  induction l generalizing init with
  | nil =>
    rcases h with h | h
    · simp at h
    · simpa using h
  | cons a as ih =>
    simp only [List.foldl_cons]
    apply ih
    rcases h with h | h
    · simp at h
      rcases h with rfl | h
      · exact Or.inr (Nat.le_max_right _ _)
      · exact Or.inl h
    · exact Or.inr (Nat.le_trans h (Nat.le_max_left _ _))

private theorem fragment_of_mem (doc : Doc) (hu : (doc.frags.map (·.name)).Nodup) (f : Frag) (hf : f ∈ doc.frags) :
    doc.fragment? f.name = some f := by
  unfold Doc.fragment?
  cases h : doc.frags.reverse.find? (·.name == f.name) with
  | none =>
    have := List.find?_eq_none.mp h f (by simpa using hf)
    simp at this
  | some g =>
    have hg : g ∈ doc.frags := by simpa using List.mem_of_find?_eq_some h
    have hn : g.name = f.name := by simpa using List.find?_some h
    -- two members with the same name in a list with distinct names are equal
    have key : ∀ (l : List Frag), (l.map (·.name)).Nodup → g ∈ l → f ∈ l → g = f := by
      intro l
      induction l with
      | nil => intro _ h1; simp at h1
      | cons a as ih =>
        intro hnd h1 h2
        simp only [List.map_cons, List.nodup_cons] at hnd
        simp at h1 h2
        rcases h1 with rfl | h1
        · rcases h2 with rfl | h2
          · rfl
          · exact absurd (List.mem_map.mpr ⟨f, h2, hn.symm⟩) hnd.1
        · rcases h2 with rfl | h2
          · exact absurd (List.mem_map.mpr ⟨g, h1, hn⟩) hnd.1
          · exact ih hnd.2 h1 h2
    rw [key doc.frags hu hg hf]

/-- on the names of `acc`, the fuel-indexed ranks no longer change from fuel `k` on -/
def Stable (doc : Doc) (acc : List String) (k : Nat) : Prop :=
  ∀ name ∈ acc, ∀ n, k ≤ n → rkOf doc n name = rkOf doc k name ∧ ekOf doc n name = ekOf doc k name

private theorem stable_step (doc : Doc) (hu : (doc.frags.map (·.name)).Nodup) (acc : List String) (k : Nat) (h : Stable doc acc k) :
    Stable doc (acc ++ (doc.frags.filter fun f => !acc.contains f.name && (selsSpreads f.sels).all acc.contains).map (·.name)) (k + 1) := by
  intro name hname n hn
  simp only [List.mem_append, List.mem_map, List.mem_filter] at hname
  rcases hname with hold | ⟨f, ⟨hf, hcond⟩, rfl⟩
  · obtain ⟨a1, a2⟩ := h name hold n (by omega)
    obtain ⟨b1, b2⟩ := h name hold (k + 1) (by omega)
    exact ⟨by rw [a1, b1], by rw [a2, b2]⟩
  · simp only [Bool.and_eq_true, List.all_eq_true] at hcond
    have hsp : ∀ g ∈ selsSpreads f.sels, g ∈ acc := fun g hg => by simpa using hcond.2 g hg
    have hfr := fragment_of_mem doc hu f hf
    obtain ⟨m, rfl⟩ : ∃ m, n = m + 1 := ⟨n - 1, by omega⟩
    have hm : k ≤ m := by omega
    simp only [rkOf, ekOf, hfr]
    exact ⟨selsNeed_congr _ _ f.sels (fun g hg => (h g (hsp g hg) m hm).1),
           selsDepth_congr _ _ f.sels (fun g hg => (h g (hsp g hg) m hm).2)⟩

private theorem stable_rankFrags (doc : Doc) (hu : (doc.frags.map (·.name)).Nodup) :
    ∀ (m : Nat) (acc : List String) (k : Nat), Stable doc acc k → Stable doc (rankFrags doc m acc) (k + m) := by
  intro m
  induction m with
  | zero => intro acc k h; simpa [rankFrags] using h
  | succ m ih =>
    intro acc k h
    simp only [rankFrags]
    have := ih _ (k + 1) (stable_step doc hu acc k h)
    rwa [show k + 1 + m = k + (m + 1) by omega] at this

/-- the Boolean acyclicity check (with unique fragment names) implies the rank certificate -/
theorem acyclic_rankedB (doc : Doc) (hu : (doc.frags.map (·.name)).Nodup) (ha : fragsAcyclic doc = true) : rankedB doc = true := by
  have hst := stable_rankFrags doc hu (doc.frags.length + 1) [] 0 (by intro name h; simp at h)
  simp only [Nat.zero_add] at hst
  unfold fragsAcyclic at ha
  simp only [List.all_eq_true] at ha
  have hbound : ∀ xs, selsMaxNeed (docRk doc) xs ≤ docBound doc →
      selsBounded (docRk doc) (docBound doc) xs = true := fun xs h => selsBounded_of_max _ _ xs h
  unfold rankedB
  simp only [Bool.and_eq_true, List.all_eq_true, decide_eq_true_eq]
  refine ⟨?_, ?_⟩
  · intro fr hfr
    have hmem : fr.name ∈ rankFrags doc (doc.frags.length + 1) [] := by simpa using ha fr hfr
    obtain ⟨h1, h2⟩ := hst fr.name hmem (doc.frags.length + 1 + 1) (by omega)
    have hf := fragment_of_mem doc hu fr hfr
    refine ⟨⟨?_, ?_⟩, ?_⟩
    · have : rkOf doc (doc.frags.length + 1 + 1) fr.name = selsNeed (rkOf doc (doc.frags.length + 1)) fr.sels := by
        simp [rkOf, hf]
      unfold docRk
      rw [← this, h1]; exact Nat.le_refl _
    · have : ekOf doc (doc.frags.length + 1 + 1) fr.name = selsDepth (ekOf doc (doc.frags.length + 1)) fr.sels := by
        simp [ekOf, hf]
      unfold docEk
      rw [← this, h2]; exact Nat.le_refl _
    · apply hbound
      unfold docBound
      exact le_foldl_max _ 0 _ (Or.inl (by
        simp only [List.mem_append, List.mem_map]
        exact Or.inr ⟨fr, hfr, rfl⟩))
  · intro o ho
    apply hbound
    unfold docBound
    exact le_foldl_max _ 0 _ (Or.inl (by
      simp only [List.mem_append, List.mem_map]
      exact Or.inl ⟨o, ho, rfl⟩))

/-- declarative form of `acyclic_rankedB` -/
theorem acyclic_ranked (doc : Doc) (hu : (doc.frags.map (·.name)).Nodup) (ha : fragsAcyclic doc = true) :
    Ranked doc (docRk doc) (docEk doc) (docBound doc) := (ranked_of_rankedB doc (acyclic_rankedB doc hu ha)).1

/-- every request on a document without fragment cycles (and with unique fragment names) RESPONDS -/
theorem responds_acyclic (s : SchemaD) (doc : Doc) (vars : Vars) (w : World) (hu : (doc.frags.map (·.name)).Nodup)
    (ha : fragsAcyclic doc = true) (op : Option String) : ∃ r, RespondsWith s doc vars w op r :=
  responds_certified s doc vars w (acyclic_rankedB doc hu ha) op

/-- the executor model refines the specification on every document without fragment cycles -/
theorem exec_refines_spec_acyclic (s : SchemaD) (doc : Doc) (vars : Vars) (w : World) (hu : (doc.frags.map (·.name)).Nodup)
    (ha : fragsAcyclic doc = true) (cf fuel : Nat) (root : String) (path : Path) (sels : List Sel) :
    ExecRefinesSpecUpToLocations s doc vars w cf fuel root path sels :=
  exec_refines_spec_certified s doc vars w (acyclic_rankedB doc hu ha) cf fuel root path sels

/-- without unique names the implication is FALSE: the second definition of `A` is the one the fragment table returns -/
theorem acyclic_needs_unique_names :
    let d : Doc := { ops := [], frags := [{ name := "A", on := "T", sels := [] }, { name := "A", on := "T", sels := [.spread "A" []] }] }
    fragsAcyclic d = true ∧ rankedB d = false := by decide


/-- every `ValidDoc` document is ranked: the totality and refinement theorems apply to everything the validator model accepts -/
theorem validDoc_ranked (s : SchemaD) (doc : Doc) (vars : Vars) (h : ValidDoc s doc vars) :
    Ranked doc (docRk doc) (docEk doc) (docBound doc) := by
  unfold ValidDoc validDocB at h
  simp only [Bool.and_eq_true] at h
  obtain ⟨⟨_, ha⟩, hu⟩ := h
  exact acyclic_ranked doc (by simpa [fragsUnique] using hu) ha

theorem validDoc_responds (s : SchemaD) (doc : Doc) (vars : Vars) (w : World) (h : ValidDoc s doc vars) (op : Option String) :
    ∃ r, RespondsWith s doc vars w op r := by
  unfold ValidDoc validDocB at h
  simp only [Bool.and_eq_true] at h
  obtain ⟨⟨_, ha⟩, hu⟩ := h
  exact responds_acyclic s doc vars w (by simpa [fragsUnique] using hu) ha op

end PyGql.Props.C04
