/-
  C08 — the generic `Executor` on the BLOCKING runtime (every resolver delivers synchronously: all modes `.sync`): no task is
  ever submitted, so the result is there when `execute` returns, for the empty schedule - `blocking_runtime_never_pending`.
  (Together with `async_eq_blocking`: the generic executor on the blocking runtime agrees with `BlockingExecutor`.)
-/
import PyGqlModel.Props.C08_exec
import PyGqlModel.Lemmas.ExecBound
import PyGqlModel.Lemmas.ExecState


namespace PyGql.Props.C08
open PyGql.AsyncExec

mutual
/-- every field below is resolved synchronously -/
def syncComp : Comp → Bool
  | .nonNull c => syncComp c
  | .list items => syncComps items
  | .obj fs => syncFlds fs
  | _ => true
def syncComps : Comps → Bool
  | .nil => true
  | .cons c cs => syncComp c && syncComps cs
def syncFlds : Flds → Bool
  | .nil => true
  | .cons _ mode out rest => (mode == .sync) && syncOut out && syncFlds rest
def syncOut : ROut → Bool
  | .ok c => syncComp c
  | _ => true
end

mutual
/-- synchronous resolvers all the way down: no task can ever be submitted -/
private theorem wComp_sync : ∀ c : Comp, syncComp c = true → wComp c = 0
  | .nonNull c, h => by rw [syncComp] at h; rw [wComp]; exact wComp_sync c h
  | .list cs, h => by rw [syncComp] at h; rw [wComp]; exact wComps_sync cs h
  | .obj fs, h => by rw [syncComp] at h; rw [wComp]; exact wFlds_sync fs h
  | .null, _ => rfl
  | .leaf _, _ => rfl
  | .bad, _ => rfl
private theorem wComps_sync : ∀ cs : Comps, syncComps cs = true → wComps cs = 0
  | .nil, _ => rfl
  | .cons c cs, h => by
    rw [syncComps, Bool.and_eq_true] at h
    rw [wComps, wComp_sync c h.1, wComps_sync cs h.2]
private theorem wFlds_sync : ∀ fs : Flds, syncFlds fs = true → wFlds fs = 0
  | .nil, _ => rfl
  | .cons _ mode out rest, h => by
    simp only [syncFlds, Bool.and_eq_true, beq_iff_eq] at h
    rw [wFlds, h.1.1, wOut_sync out h.1.2, wFlds_sync rest h.2]
    rfl
private theorem wOut_sync : ∀ out : ROut, syncOut out = true → wOut out = 0
  | .ok c, h => by rw [syncOut] at h; rw [wOut]; exact wComp_sync c h
  | .rerr, _ => rfl
  | .exc, _ => rfl
end

/-! The queue is only appended to (`queuePrefix`) and, by the bound on submissions (`pot`) at budget 0, does not get longer. -/

private theorem completeValue_queue : ∀ (c : Comp) (path : Path) (s : ExecSt), syncComp c = true →
    (completeValue path c s).2.queue = s.queue :=
  fun c path s h => queue_eq_of_le (queuePrefix.cases.value c path s) (wComp_sync c h ▸ completeValue_pot c path s)

private theorem completeItems_queue : ∀ (cs : Comps) (path : Path) (i : Nat) (s : ExecSt), syncComps cs = true →
    (completeItems path i cs s).2.queue = s.queue :=
  fun cs path i s h => queue_eq_of_le (queuePrefix.cases.items cs path i s) (wComps_sync cs h ▸ completeItems_pot cs path i s)

private theorem finished_not_pending (top : Node) (s : ExecSt) (h : top.finished = true) :
    (match outcomeOf top s with | .pending => false | _ => true) = true := by
  cases top with
  | val x => cases x <;> rfl
  | done r => cases r with
    | val x => cases x <;> rfl
    | _ => rfl
  | failed e => rfl
  | _ => simp [Node.finished] at h

/-- The generic executor with every resolver synchronous (= on `BlockingRuntime`): no task is
    submitted, the outcome is there without any completion (empty schedule) - it is never `pending`. -/
theorem blocking_runtime_never_pending (op : Op) (h : syncFlds op.fields = true) :
    (match (runAsync op []).outcome with | .pending => false | _ => true) = true := by
  have hterm := always_terminates op []
  have hq : (execute op {}).2.queue = [] :=
    queue_eq_of_le (queuePrefix.execute op {}) (wFlds_sync op.fields h ▸ execute_pot op {})
  unfold runAsync
  cases hr : execute op {} with
  | mk r s =>
    rw [hr] at hterm hq
    cases r with
    | exc e => rfl
    | ok top =>
      simp only [runSched] at hterm ⊢
      exact finished_not_pending top s (hterm hq)

/-- non-vacuity: `{ a { b } c }`, all synchronous -/
example : syncFlds (.cons "a" .sync (.ok (.obj (.cons "b" .sync .rerr .nil))) (.cons "c" .sync (.ok (.leaf 1)) .nil)) = true := by decide +kernel

end PyGql.Props.C08
