/-
  C18 — TREE-LEVEL locality: a visitor that acts on ONE node `x` (by identity) and changes nothing elsewhere
  produces exactly `Spec.editAt p … t`, for every position `p` reachable through the implemented child relation:
  deletion removes exactly that member, a replacement substitutes exactly that node, `SkipNode` leaves the tree as it is.
  Composed from the frame rules (`visitList` decomposition) and the identity of the visitor on every sub-tree that
  does not contain `x` (distinct identities).
-/
import PyGqlModel.Props.C18_once

namespace PyGql.Props.C18
open PyGql.Visit

/-- acts on the node with identity `i` (as `a` says), changes nothing elsewhere; stateless -/
def actAt (i : Nat) (a : Node → Act) : Visitor Unit :=
  ⟨fun n s => (if n.id == i then a n else .keep n, s), fun _ s => s⟩

private theorem id_mem_ids (n : Node) : n.id ∈ idsNode n := by
  cases n with
  | mk k i a => simp [idsNode, Node.id]

private theorem idsList_mem {c : Node} {cs : List Node} (h : c ∈ cs) : ∀ i ∈ idsNode c, i ∈ idsList cs :=
  fun _ hi => idsList_eq_flatMap cs ▸ List.mem_flatMap.2 ⟨c, h, hi⟩

private theorem kids_ids {x : Attr} {c : Node} (h : c ∈ kidsOfAttr x) : ∀ i ∈ idsNode c, i ∈ idsAttr x := by
  intro i hi
  cases x with
  | scalar v => simp [kidsOfAttr] at h
  | one oc =>
    cases oc with
    | none => simp [kidsOfAttr] at h
    | some d => simp [kidsOfAttr] at h; subst h; simpa [idsAttr] using hi
  | many cs => simp only [kidsOfAttr] at h; simpa [idsAttr] using idsList_mem h i hi

private theorem avoid_kids {i : Nat} {n : Node} (hn : i ∉ idsNode n) {a : String} {x : Attr} {c : Node}
    (hg : n.getAttr a = some x) (hc : c ∈ kidsOfAttr x) : i ∉ idsNode c := by
  intro hi
  apply hn
  cases n with
  | mk k j attrs =>
    simp only [idsNode, List.mem_cons]
    exact Or.inr (lookup_ids_mem a x attrs (by simpa [Node.getAttr, Node.attrs] using hg) i (kids_ids hc i hi))

private theorem idsList_append (a b : List Node) : idsList (a ++ b) = idsList a ++ idsList b := by
  simp only [idsList_eq_flatMap, List.flatMap_append]

private theorem actAt_enter_ne (i : Nat) (a : Node → Act) (n : Node) (s : Unit) (h : n.id ≠ i) :
    (actAt i a).enter n s = (.keep n, s) := by
  simp [actAt, h]

/-- on a sub-tree that does not contain the identity `i`, `actAt i a` changes nothing -/
private theorem visitM_avoid (T : Table) (i : Nat) (a : Node → Act) :
    ∀ fuel m, Mirrors (actAt i a) (fun c => i ∉ idsNode c) (visitM T (actAt i a) fuel m) (Spec.walk T fuel m) :=
  visitM_mirrors T (actAt i a)
    (fun n s hn => by rw [actAt_enter_ne i a n s (fun he => hn (he ▸ id_mem_ids n))])
    (fun _ _ _ _ hn hg hc => avoid_kids hn hg hc)

private theorem split_at {α : Type} : ∀ (cs : List α) (i : Nat) (c : α), cs[i]? = some c →
    ∃ pre post, cs = pre ++ c :: post ∧ pre.length = i := by
  intro cs
  induction cs with
  | nil => intro i c h; simp at h
  | cons d r ih =>
    intro i c h
    cases i with
    | zero => simp at h; subst h; exact ⟨[], r, rfl, rfl⟩
    | succ j =>
      simp at h
      obtain ⟨pre, post, h1, h2⟩ := ih j c h
      exact ⟨d :: pre, post, by simp [h1], by simp [h2]⟩

private theorem lookup_setIn_ne (a b : String) (x : Attr) (h : a ≠ b) :
    ∀ attrs : List (String × Attr), (Node.setIn a x attrs).lookup b = attrs.lookup b := by
  intro attrs
  induction attrs with
  | nil => rfl
  | cons p r ih =>
    obtain ⟨c, y⟩ := p
    simp only [Node.setIn]
    cases hac : a == c with
    | true =>
      have e : a = c := by simpa using hac
      subst e
      have hb : (b == a) = false := by simpa using fun he : b = a => h he.symm
      simp [List.lookup, hb]
    | false =>
      simp only [Bool.false_eq_true, if_false, List.lookup]
      cases hbc : b == c <;> simp [ih]

private theorem getAttr_setAttr_ne (n : Node) (a b : String) (x : Attr) (h : a ≠ b) :
    (n.setAttr a x).getAttr b = n.getAttr b := by
  simp [Node.setAttr, Node.getAttr, Node.attrs, lookup_setIn_ne a b x h]

private theorem visitList_split (f : Node → Unit → Res (Out Unit)) (c : Node) (post : List Node) :
    ∀ (pre : List Node) (s : Unit) r ip s' tr, visitList f (pre ++ c :: post) s = .ok (r, ip, s', tr) →
      ∃ rp ipp s1 tp oc rq iq tq, visitList f pre s = .ok (rp, ipp, s1, tp) ∧ f c s1 = .ok oc ∧
        visitList f post oc.st = .ok (rq, iq, s', tq) ∧ r = rp ++ (oc.ret.toList ++ rq) := by
  intro pre
  induction pre with
  | nil =>
    intro s r ip s' tr h
    obtain ⟨oc, rq, iq, s2, tq, hc, hr, he⟩ := visitList_cons_ok h
    simp only [Prod.mk.injEq] at he
    exact ⟨[], [], s, [], oc, rq, iq, tq, rfl, hc, hr, he.1⟩
  | cons d pre ih =>
    intro s r ip s' tr h
    obtain ⟨od, r1, ip1, s2, t1, hd, hr, he⟩ := visitList_cons_ok h
    simp only [Prod.mk.injEq] at he
    obtain ⟨rp, ipp, s1, tp, oc, rq, iq, tq, h1, h2, h3, h4⟩ := ih _ _ _ _ _ hr
    refine ⟨od.ret.toList ++ rp, od.orig :: ipp, s1, od.tr ++ tp, oc, rq, iq, tq, ?_, h2, h3, ?_⟩
    · simp only [visitList, hd, h1]; cases od.ret <;> rfl
    · rw [he.1, h4, List.append_assoc]

/-- `p` is a position of `t` reached when method `m` runs on `t`: every attribute on the way is traversed by a
    statement of the running method that applies to the node's kind and writes its result back, and the child is
    dispatched to an existing method. -/
def Reach (T : Table) : String → Node → List (String × Option Nat) → Prop
  | _, _, [] => True
  | m, t, (a, none) :: p =>
    ∃ steps st c m', T.methods.lookup m = some steps ∧ st ∈ steps ∧ st.attr = a ∧ st.applies t.kind = true ∧
      st.assign = true ∧ st.shape = .one ∧ t.getAttr a = some (.one (some c)) ∧
      resolve T st.target c.kind = .ok m' ∧ Reach T m' c p
  | m, t, (a, some i) :: p =>
    ∃ steps st cs c m', T.methods.lookup m = some steps ∧ st ∈ steps ∧ st.attr = a ∧ st.applies t.kind = true ∧
      st.assign = true ∧ st.shape = .many ∧ t.getAttr a = some (.many cs) ∧ cs[i]? = some c ∧
      resolve T st.target c.kind = .ok m' ∧ Reach T m' c p

/-- the edit that the outcome of visiting `x` amounts to -/
def editOf (o : Out Unit) : Spec.Edit :=
  match o.ret with
  | none => .delete
  | some r => .replace r

private theorem attr_ids_sub {n : Node} {a : String} {y : Attr} (hg : n.getAttr a = some y) :
    ∀ i ∈ idsAttr y, i ∈ idsAttrs n.attrs := by
  intro i hi
  exact lookup_ids_mem a y n.attrs (by simpa [Node.getAttr] using hg) i hi

private theorem ids_unfold (n : Node) : idsNode n = n.id :: idsAttrs n.attrs := by
  cases n; simp [idsNode, Node.id, Node.attrs]

private theorem nodeAt_id_mem (x : Node) : ∀ p n, Spec.nodeAt p n = some x → x.id ∈ idsNode n := by
  intro p
  induction p with
  | nil => intro n h; simp [Spec.nodeAt] at h; subst h; exact id_mem_ids _
  | cons q p ih =>
    obtain ⟨a, io⟩ := q
    intro n h
    rw [ids_unfold]
    apply List.mem_cons_of_mem
    cases io with
    | none =>
      simp only [Spec.nodeAt] at h
      split at h
      · rename_i c hg
        exact attr_ids_sub hg _ (by simpa [idsAttr] using ih c h)
      · simp at h
    | some i =>
      simp only [Spec.nodeAt] at h
      split at h
      · rename_i cs hg
        split at h
        · rename_i c hc
          have hm : c ∈ cs := List.mem_of_getElem? hc
          exact attr_ids_sub hg _ (by simpa [idsAttr] using idsList_mem hm _ (ih c h))
        · simp at h
      · simp at h

private theorem runStep_shape {call : Target → Node → Unit → Res (Out Unit)} {st : Step} {n : Node} {s : Unit}
    {n1 : Node} {s1 : Unit} {tr1 : List Ev} (h : runStep call st n s = .ok (n1, s1, tr1)) :
    n1 = n ∨ ∃ v, n1 = n.setAttr st.attr v := by
  rcases runStep_ok h with ⟨e, _⟩ | ⟨_, _, _, _, _, _, e, _⟩ | ⟨_, _, _, _, _, _, _, e⟩
  · exact .inl e
  · exact .inr ⟨_, e⟩
  · exact .inr ⟨_, e⟩

/-- in a body whose statements read distinct attributes, if every statement other than `st0` only meets children
    that the callback hands back unchanged, the body does to the node exactly what `st0` does -/
private theorem runSteps_locate {v : Visitor Unit} {P : Node → Prop} {call : Target → Node → Unit → Res (Out Unit)}
    {wcall : Target → Node → Res (List Ev)} (hc : ∀ t, Mirrors v P (call t) (wcall t)) (n : Node) (st0 : Step) : ∀ (steps : List Step), (steps.map (·.attr)).Nodup → st0 ∈ steps →
      (∀ st ∈ steps, st.attr ≠ st0.attr → ∀ x c, n.getAttr st.attr = some x → c ∈ kidsOfAttr x → P c) →
      ∀ (s : Unit) (n' : Node) (s' : Unit) (tr : List Ev), runSteps call steps n s = .ok (n', s', tr) →
        ∃ n1 s1 tr1, runStep call st0 n () = .ok (n1, s1, tr1) ∧ n' = n1 := by
  intro steps
  induction steps with
  | nil => intro _ hm; simp at hm
  | cons st rest ih =>
    intro hnd hm hk s n' s' tr h
    simp only [List.map_cons, List.nodup_cons] at hnd
    obtain ⟨n1, s1, tr1, n2, s2, tr2, h1, h2, he⟩ := runSteps_cons_ok h
    cases he
    by_cases hst : st0 = st
    · subst hst
      -- the statements after `st0` read other attributes, which `st0` left as they were
      have hk1 : ∀ st' ∈ rest, ∀ x c, n1.getAttr st'.attr = some x → c ∈ kidsOfAttr x → P c := by
        intro st' hst' x c hg hcx
        have hne : st'.attr ≠ st0.attr := fun he => hnd.1 (he ▸ List.mem_map.mpr ⟨st', hst', rfl⟩)
        rcases runStep_shape h1 with e | ⟨v, e⟩
        · subst e; exact hk st' (by simp [hst']) hne x c hg hcx
        · subst e
          rw [getAttr_setAttr_ne _ _ _ _ (fun he => hne he.symm)] at hg
          exact hk st' (by simp [hst']) hne x c hg hcx
      obtain ⟨_, _, e⟩ := Res.map_eq_ok (runSteps_mirrors hc n1 rest s1 hk1 ▸ h2)
      cases e
      exact ⟨_, _, _, h1, rfl⟩
    · have hm' : st0 ∈ rest := (List.mem_cons.mp hm).resolve_left hst
      have hne : st.attr ≠ st0.attr := fun he => hnd.1 (he ▸ List.mem_map.mpr ⟨st0, hm', rfl⟩)
      obtain ⟨_, _, e⟩ := Res.map_eq_ok (runStep_mirrors hc st n s (hk st (by simp) hne) ▸ h1)
      cases e
      exact ih hnd.2 hm' (fun st' hst' => hk st' (by simp [hst'])) _ _ _ _ h2

/-- children held by other attributes than the one leading to `x` do not contain `x` -/
private theorem other_attr_avoids {t : Node} (hnd : (idsNode t).Nodup) {a b : String} {y z : Attr} {i : Nat}
    (hab : b ≠ a) (hga : t.getAttr a = some y) (hi : i ∈ idsAttr y) (hgb : t.getAttr b = some z) {c : Node}
    (hc : c ∈ kidsOfAttr z) : i ∉ idsNode c := by
  intro hic
  rw [ids_unfold, List.nodup_cons] at hnd
  exact lookup_ids_disjoint b a z y hab t.attrs (by simpa [Node.getAttr] using hgb) (by simpa [Node.getAttr] using hga)
    hnd.2 i (kids_ids hc i hic) hi

private theorem callTarget_avoid (T : Table) (i : Nat) (a : Node → Act) (fuel : Nat) :
    ∀ t, Mirrors (actAt i a) (fun c => i ∉ idsNode c) (callTarget T (visitM T (actAt i a) fuel) t)
      (Spec.walkTarget T (Spec.walk T fuel) t) :=
  callTarget_mirrors T (visitM_avoid T i a fuel)

private theorem attr_nodup {t : Node} (hnd : (idsNode t).Nodup) {a : String} {y : Attr} (hg : t.getAttr a = some y) :
    (idsAttr y).Nodup := by
  rw [ids_unfold, List.nodup_cons] at hnd
  exact lookup_ids_nodup a y t.attrs (by simpa [Node.getAttr] using hg) hnd.2

/-- when `x` lies below the attribute that the statement `st` of the running body reads, the visit of `t` returns what
    that statement alone makes of `t`: `enter` keeps `t`, and the other statements meet sub-trees without `x` -/
private theorem visitM_through (T : Table) (hT : StepsDistinct T) (a : Node → Act) (x : Node) {fuel : Nat} {m : String}
    {t : Node} {o : Out Unit} {steps : List Step} {st : Step} {y : Attr} (hnd : (idsNode t).Nodup)
    (hm : T.methods.lookup m = some steps) (hst : st ∈ steps) (hg : t.getAttr st.attr = some y) (hxa : x.id ∈ idsAttr y)
    (h : visitM T (actAt x.id a) (fuel + 1) m t () = .ok o) :
    ∃ n1 s1 tr1, runStep (callTarget T (visitM T (actAt x.id a) fuel)) st t () = .ok (n1, s1, tr1) ∧ o.ret = some n1 := by
  have hne : t.id ≠ x.id := by
    intro he
    rw [ids_unfold, List.nodup_cons] at hnd
    exact hnd.1 (he ▸ attr_ids_sub hg _ hxa)
  have he := actAt_enter_ne x.id a t () hne
  rcases visitM_ok h with ⟨_, _, hs, _⟩ | ⟨_, hs, _⟩ | ⟨n1, s1, mb, steps', n2, s2, tr, hs | hs, hb, hm', hr, hret, _⟩
  · simp [he] at hs
  · simp [he] at hs
  · simp only [he, Prod.mk.injEq, Act.keep.injEq] at hs
    obtain ⟨⟨rfl, _⟩, _⟩ := hs
    rw [bodyMethod_of_kind_eq T _ t t rfl] at hb
    cases hb
    rw [hm] at hm'
    cases hm'
    obtain ⟨n1, s1, tr1, hrs, rfl⟩ := runSteps_locate (callTarget_avoid T x.id a fuel) t st steps (hT m steps hm) hst
      (fun st' _ hne' y' d hgy hd => other_attr_avoids hnd hne' hg hxa hgy hd) _ _ _ _ hr
    exact ⟨n2, s1, tr1, hrs, hret⟩
  · simp [he] at hs

/-- Whatever `actAt x.id a` does at `x`, the visit of `t`
    returns `t` with the node at `p` replaced by (or, for `None`, relieved of) what the visit of `x` returned —
    nothing else changes. -/
theorem visitM_edit (T : Table) (hT : StepsDistinct T) (a : Node → Act) (x : Node) :
    ∀ (p : List (String × Option Nat)) (fuel : Nat) (m : String) (t : Node) (o : Out Unit),
      Reach T m t p → (idsNode t).Nodup → Spec.nodeAt p t = some x →
      visitM T (actAt x.id a) fuel m t () = .ok o →
      ∃ fuel' mx ox, visitM T (actAt x.id a) fuel' mx x () = .ok ox ∧ Spec.editAt p (editOf ox) t = some o.ret := by
  intro p
  induction p with
  | nil =>
    intro fuel m t o _ _ hx h
    simp [Spec.nodeAt] at hx
    subst hx
    refine ⟨fuel, m, o, h, ?_⟩
    cases hr : o.ret <;> simp [editOf, hr, Spec.editAt]
  | cons q p ih =>
    obtain ⟨a0, io⟩ := q
    intro fuel m t o hreach hnd hx h
    cases fuel with
    | zero => simp [visitM] at h
    | succ fuel =>
    cases io with
    | none =>
      obtain ⟨steps, st, c, m', hm, hst, rfl, happ, hassign, hshape, hg, hres, hrc⟩ := hreach
      simp only [Spec.nodeAt, hg] at hx
      have hxa : x.id ∈ idsAttr (.one (some c)) := by simpa [idsAttr] using nodeAt_id_mem x _ c hx
      obtain ⟨n1, s1, tr1, hrs, hret⟩ := visitM_through T hT a x hnd hm hst hg hxa h
      rcases runStep_ok hrs with ⟨_, _, _, hf | ⟨_, _, hg', _⟩⟩ | ⟨_, _, c', oc, hg', hcc, e, _⟩ | ⟨_, hs', _⟩
      · rw [happ] at hf; cases hf
      · rw [hg] at hg'; cases hg'
      · rw [hg] at hg'
        cases hg'
        obtain ⟨m'', hres', hvc⟩ := callTarget_ok hcc
        rw [hres] at hres'
        cases hres'
        obtain ⟨f', mx, ox, hox, hed⟩ := ih fuel m' c oc hrc (by simpa [idsAttr] using attr_nodup hnd hg) hx hvc
        exact ⟨f', mx, ox, hox, by simp only [Spec.editAt, hg, hed, Option.map_some, hret, e, hassign, if_true]⟩
      · rw [hshape] at hs'; cases hs'
    | some i =>
      obtain ⟨steps, st, cs, c, m', hm, hst, rfl, happ, hassign, hshape, hg, hci, hres, hrc⟩ := hreach
      simp only [Spec.nodeAt, hg, hci] at hx
      have hxc : x.id ∈ idsNode c := nodeAt_id_mem x _ c hx
      have hxa : x.id ∈ idsAttr (.many cs) := by simpa [idsAttr] using idsList_mem (List.mem_of_getElem? hci) _ hxc
      obtain ⟨n1, s1, tr1, hrs, hret⟩ := visitM_through T hT a x hnd hm hst hg hxa h
      rcases runStep_ok hrs with ⟨_, _, _, hf | ⟨_, _, hg', _⟩⟩ | ⟨_, hs', _⟩ | ⟨_, _, cs', r, ip, hg', hvl, e⟩
      · rw [happ] at hf; cases hf
      · rw [hg] at hg'; cases hg'
      · rw [hshape] at hs'; cases hs'
      · rw [hg] at hg'
        cases hg'
        obtain ⟨pre, post, rfl, hlen⟩ := split_at cs i c hci
        obtain ⟨rp, ipp, s4, tp, oc, rq, iq, tq, hpre, hcc, hpost, hrr⟩ := visitList_split _ c post pre _ _ _ _ _ hvl
        -- identities of the list: pre, c, post are pairwise disjoint
        have hndl : (idsList (pre ++ c :: post)).Nodup := by simpa [idsAttr] using attr_nodup hnd hg
        have hl : idsList (pre ++ c :: post) = idsList pre ++ (idsNode c ++ idsList post) := by
          rw [idsList_append]; simp [idsList]
        rw [hl, List.nodup_append] at hndl
        obtain ⟨_, hnd2, hdisj1⟩ := hndl
        rw [List.nodup_append] at hnd2
        obtain ⟨hndc, _, hdisj2⟩ := hnd2
        have hpre_av : ∀ d ∈ pre, x.id ∉ idsNode d := fun d hd hxd =>
          hdisj1 _ (idsList_mem hd _ hxd) _ (List.mem_append_left _ hxc) rfl
        have hpost_av : ∀ d ∈ post, x.id ∉ idsNode d := fun d hd hxd =>
          hdisj2 _ hxc _ (idsList_mem hd _ hxd) rfl
        obtain ⟨_, _, e1⟩ := Res.map_eq_ok (visitList_mirrors (callTarget_avoid T x.id a fuel st.target) pre _ hpre_av ▸ hpre)
        obtain ⟨_, _, e2⟩ := Res.map_eq_ok (visitList_mirrors (callTarget_avoid T x.id a fuel st.target) post _ hpost_av ▸ hpost)
        cases e1
        cases e2
        obtain ⟨m'', hres', hvc⟩ := callTarget_ok hcc
        rw [hres] at hres'
        cases hres'
        obtain ⟨f', mx, ox, hox, hed⟩ := ih fuel m' c oc hrc hndc hx hvc
        refine ⟨f', mx, ox, hox, ?_⟩
        simp only [Spec.editAt, hg, hci, hed, Option.map_some, hret, e, hassign, if_true, hrr]
        rw [← hlen]
        cases oc.ret with
        | none => simp [List.eraseIdx_append_cons_length]
        | some r' => simp

/-- `p` is reached from `ASTVisitor.visit t` -/
def ReachV (T : Table) (t : Node) (p : List (String × Option Nat)) : Prop :=
  ∃ m, T.visit.lookup t.kind = some m ∧ Reach T m t p

private theorem visit_edit (T : Table) (hT : StepsDistinct T) (a : Node → Act) (x t : Node)
    (p : List (String × Option Nat)) (fuel : Nat) (o : Out Unit)
    (hr : ReachV T t p) (hnd : (idsNode t).Nodup) (hx : Spec.nodeAt p t = some x)
    (h : visit T (actAt x.id a) fuel t () = .ok o) :
    ∃ fuel' mx ox, visitM T (actAt x.id a) fuel' mx x () = .ok ox ∧ Spec.editAt p (editOf ox) t = some o.ret := by
  obtain ⟨m, hm, hreach⟩ := hr
  simp only [visit, hm] at h
  exact visitM_edit T hT a x p fuel m t o hreach hnd hx h

private theorem actAt_enter_eq (i : Nat) (a : Node → Act) (n : Node) (s : Unit) (h : n.id = i) :
    (actAt i a).enter n s = (a n, s) := by
  simp [actAt, h]

/-- "Returning nothing from enter removes exactly that member": for EVERY position `p` reached by the
    implemented traversal in a tree with distinct identities, the visitor that returns `None` for the node at `p`
    and changes nothing else turns `t` into `Spec.editAt p .delete t` (list member removed / single child set to
    `None`; for `p = []` the visit returns `None`). -/
theorem delete_at (T : Table) (hT : StepsDistinct T) (x t : Node) (p : List (String × Option Nat)) (fuel : Nat)
    (o : Out Unit) (hr : ReachV T t p) (hnd : (idsNode t).Nodup) (hx : Spec.nodeAt p t = some x)
    (h : visit T (actAt x.id fun _ => .delete) fuel t () = .ok o) :
    Spec.editAt p .delete t = some o.ret := by
  obtain ⟨f', mx, ox, hox, hed⟩ := visit_edit T hT _ x t p fuel o hr hnd hx h
  cases f' with
  | zero => simp [visitM] at hox
  | succ f' =>
    rw [visitM_delete T _ f' mx x () () (actAt_enter_eq x.id _ x () rfl)] at hox
    cases hox
    simpa [editOf] using hed

/-- "Returning a replacement substitutes exactly that node": the visitor that returns the fresh
    node `r` (not containing the identity of `x`) for the node at `p` turns `t` into `Spec.editAt p (.replace r) t`. -/
theorem replace_at (T : Table) (hT : StepsDistinct T) (x t r : Node) (p : List (String × Option Nat)) (fuel : Nat)
    (o : Out Unit) (hr : ReachV T t p) (hnd : (idsNode t).Nodup) (hx : Spec.nodeAt p t = some x)
    (hfresh : x.id ∉ idsNode r)
    (h : visit T (actAt x.id fun _ => .replace r) fuel t () = .ok o) :
    Spec.editAt p (.replace r) t = some o.ret := by
  obtain ⟨f', mx, ox, hox, hed⟩ := visit_edit T hT _ x t p fuel o hr hnd hx h
  cases f' with
  | zero => simp [visitM] at hox
  | succ f' =>
    have he := actAt_enter_eq x.id (fun _ => Act.replace r) x () rfl
    rcases visitM_ok hox with ⟨_, _, hs, _⟩ | ⟨_, hs, _⟩ | ⟨n1, s1, mb, steps, n2, s2, tr, hs | hs, _, _, hrs, hret, _⟩
    · rw [he] at hs; cases hs
    · rw [he] at hs; cases hs
    · rw [he] at hs; cases hs.1
    · rw [he] at hs
      cases hs.1
      obtain ⟨_, _, e⟩ := Res.map_eq_ok (runSteps_mirrors (callTarget_avoid T x.id _ f') r steps _
        (fun st _ y d hg hd => avoid_kids hfresh hg hd) ▸ hrs)
      cases e
      simpa [editOf, hret] using hed

private theorem editAt_self (x : Node) : ∀ p t, Spec.nodeAt p t = some x → Spec.editAt p (.replace x) t = some (some t) := by
  intro p
  induction p with
  | nil => intro t h; simp [Spec.nodeAt] at h; subst h; simp [Spec.editAt]
  | cons q p ih =>
    obtain ⟨a, io⟩ := q
    intro t h
    cases io with
    | none =>
      simp only [Spec.nodeAt] at h
      split at h
      · rename_i c hg
        simp only [Spec.editAt, hg, ih c h, Option.map_some]
        rw [setAttr_getAttr t a _ hg]
      · simp at h
    | some i =>
      simp only [Spec.nodeAt] at h
      split at h
      · rename_i cs hg
        split at h
        · rename_i c hc
          simp only [Spec.editAt, hg, hc, ih c h, Option.map_some]
          obtain ⟨pre, post, hs, hl⟩ := split_at cs i c hc
          subst hs
          rw [← hl, List.set_append_cons_length, setAttr_getAttr t a _ hg]
        · simp at h
      · simp at h

/-- "Raising the skip signal suppresses only that node's children and its leave call": the tree is
    returned as it is (the calls are characterised by `skip_local` and `balanced`). -/
theorem skip_at (T : Table) (hT : StepsDistinct T) (x t : Node) (p : List (String × Option Nat)) (fuel : Nat)
    (o : Out Unit) (hr : ReachV T t p) (hnd : (idsNode t).Nodup) (hx : Spec.nodeAt p t = some x)
    (h : visit T (actAt x.id fun n => .skip n) fuel t () = .ok o) :
    o.ret = some t := by
  obtain ⟨f', mx, ox, hox, hed⟩ := visit_edit T hT _ x t p fuel o hr hnd hx h
  cases f' with
  | zero => simp [visitM] at hox
  | succ f' =>
    rw [skip_local T _ f' mx x () () (actAt_enter_eq x.id _ x () rfl)] at hox
    cases hox
    simp only [editOf, editAt_self x p t hx, Option.some.injEq] at hed
    exact hed.symm

/-! ### a decision procedure for `Reach` (so that "every reachable position" can be computed) -/

def reachB (T : Table) : String → Node → List (String × Option Nat) → Bool
  | _, _, [] => true
  | m, t, (a, none) :: p =>
    match T.methods.lookup m with
    | none => false
    | some steps =>
      match steps.find? (fun st => st.attr == a) with
      | none => false
      | some st =>
        st.applies t.kind && st.assign && st.shape == .one &&
        (match t.getAttr a with
         | some (.one (some c)) =>
           (match resolve T st.target c.kind with
            | .ok m' => reachB T m' c p
            | .error _ => false)
         | _ => false)
  | m, t, (a, some i) :: p =>
    match T.methods.lookup m with
    | none => false
    | some steps =>
      match steps.find? (fun st => st.attr == a) with
      | none => false
      | some st =>
        st.applies t.kind && st.assign && st.shape == .many &&
        (match t.getAttr a with
         | some (.many cs) =>
           (match cs[i]? with
            | some c =>
              (match resolve T st.target c.kind with
               | .ok m' => reachB T m' c p
               | .error _ => false)
            | none => false)
         | _ => false)

theorem reachB_sound (T : Table) : ∀ p m t, reachB T m t p = true → Reach T m t p := by
  intro p
  induction p with
  | nil => intro m t _; trivial
  | cons q p ih =>
    obtain ⟨a, io⟩ := q
    intro m t h
    cases io with
    | none =>
      simp only [reachB] at h
      split at h
      · simp at h
      · rename_i steps hm
        split at h
        · simp at h
        · rename_i st hf
          simp only [Bool.and_eq_true, beq_iff_eq] at h
          obtain ⟨⟨⟨happ, hass⟩, hsh⟩, hrest⟩ := h
          split at hrest
          · rename_i c hg
            split at hrest
            · rename_i m' hres
              have hmem := List.mem_of_find?_eq_some hf
              have hattr : st.attr = a := by simpa using List.find?_some hf
              exact ⟨steps, st, c, m', hm, hmem, hattr, happ, hass, hsh, hg, hres, ih m' c hrest⟩
            · simp at hrest
          · simp at hrest
    | some i =>
      simp only [reachB] at h
      split at h
      · simp at h
      · rename_i steps hm
        split at h
        · simp at h
        · rename_i st hf
          simp only [Bool.and_eq_true, beq_iff_eq] at h
          obtain ⟨⟨⟨happ, hass⟩, hsh⟩, hrest⟩ := h
          split at hrest
          · rename_i cs hg
            split at hrest
            · rename_i c hc
              split at hrest
              · rename_i m' hres
                have hmem := List.mem_of_find?_eq_some hf
                have hattr : st.attr = a := by simpa using List.find?_some hf
                exact ⟨steps, st, cs, c, m', hm, hmem, hattr, happ, hass, hsh, hg, hc, hres, ih m' c hrest⟩
              · simp at hrest
            · simp at hrest
          · simp at hrest

/-- `reachB` from the method that `ASTVisitor.visit` selects -/
def reachVB (T : Table) (t : Node) (p : List (String × Option Nat)) : Bool :=
  match T.visit.lookup t.kind with
  | some m => reachB T m t p
  | none => false

theorem reachVB_sound (T : Table) (t : Node) (p : List (String × Option Nat)) (h : reachVB T t p = true) : ReachV T t p := by
  unfold reachVB at h
  split at h
  · rename_i m hm; exact ⟨m, hm, reachB_sound T p m t h⟩
  · simp at h

end PyGql.Props.C18
