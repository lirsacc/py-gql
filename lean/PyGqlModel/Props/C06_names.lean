/-
  C06 - property theorems: rules with a definition-level accumulator of names seen so far:
  `UniqueFragmentNamesChecker` (5.5.1.1) and `UniqueOperationNameChecker` (5.2.1.1; raises SkipNode on a
  duplicate). Both are idle below the definitions, so a definition does what entering its top node does (`visitDef_rs`);
  across definitions an explicit induction relates the `seen`-set loop to `List.Nodup`.
-/
import PyGqlModel.Props.C06_doc
namespace PyGql.Props.C06
open PyGql PyGql.Validate PyGql.Validate.Spec

theorem dupCount_append (seen a b : List String) :
    dupCount seen (a ++ b) = dupCount seen a + dupCount (a.reverse ++ seen) b := by
  induction a generalizing seen with
  | nil => simp [dupCount]
  | cons x xs ih => simp only [List.cons_append, dupCount, ih, List.reverse_cons, List.append_assoc,
      List.singleton_append, List.nil_append]; omega

theorem dupCount_congr (seen seen' xs : List String) (h : ∀ x, seen.contains x = seen'.contains x) :
    dupCount seen xs = dupCount seen' xs := by
  induction xs generalizing seen seen' with
  | nil => rfl
  | cons a as ih =>
    simp only [dupCount, h a]
    congr 1
    apply ih
    intro x
    simp only [List.contains_cons, h x]

def defFragName : Def → List String | .frag n .. => [n] | _ => []

theorem flatMap_defFragName (d : Doc) : d.defs.flatMap defFragName = Spec.fragNames d := by
  unfold Spec.fragNames
  induction d.defs with
  | nil => rfl
  | cons x xs ih => cases x <;> simp only [defFragName, List.flatMap_cons, List.filterMap_cons, ih] <;> rfl

private theorem uf_leave (s : SchemaD) (fx : Fixes) : ∀ n ti rs, leaveRule s fx .uniqueFragmentNames n ti rs = rs :=
  leaveRule_id s fx .uniqueFragmentNames (by decide)

private theorem uf_leave_rs (s : SchemaD) (fx : Fixes) (n : Node) (st : St) :
    (leave ⟨s, fx, [.uniqueFragmentNames]⟩ n st).rs = st.rs := by rw [leave_single, uf_leave]

private theorem uf_idle (s : SchemaD) (fx : Fixes) (n : Node) (hn : n.isTop = false) : IdleAt s fx .uniqueFragmentNames n :=
  ⟨fun _ _ => by
    cases n with
    | document | operation | fragmentDef | tsDef => cases hn
    | _ => rfl, uf_leave s fx n⟩

theorem visitNode_noskip (c : Cfg) (n : Node) (body : St → St) (st st1 : St) (h : enter c n st = (st1, false)) :
    visitNode c n body st = leave c n (body st1) := by
  rw [visitNode_false (congrArg Prod.snd h), h]

/-- single-rule chain, the rule raises `SkipNode`: the rule state is the entered one, `TypeInfoVisitor` is left
    (semantics of fix 391ad62) -/
theorem visitNode_skip {s : SchemaD} {fx : Fixes} (r : Rule) (n : Node) (body : St → St) (st st1 : St)
    (h : enter ⟨s, fx, [r]⟩ n st = (st1, true)) :
    visitNode ⟨s, fx, [r]⟩ n body st = { ti := tiLeave n st1.ti, rs := st1.rs } := by
  rw [enter_single] at h
  obtain ⟨h1, h2⟩ := Prod.mk.inj h
  rw [visitNode_one_skip s fx r n body st h2, ← h1]

theorem uf_visitDef (s : SchemaD) (fx : Fixes) (x : Def) (st : St) :
    E (visitDef ⟨s, fx, [.uniqueFragmentNames]⟩ x st) = E st + dupCount st.rs.fragNames (defFragName x) ∧
    (visitDef ⟨s, fx, [.uniqueFragmentNames]⟩ x st).rs.fragNames = (defFragName x).reverse ++ st.rs.fragNames := by
  unfold E
  rw [visitDef_rs (uf_idle s fx) (uf_leave s fx)]
  cases x with
  | frag name on dirs ssid sels =>
    dsimp only [Def.top, enterRule, defFragName, dupCount]
    split <;> exact ⟨rfl, rfl⟩
  | _ => exact ⟨rfl, rfl⟩

theorem uf_visitDefs (s : SchemaD) (fx : Fixes) (ds : List Def) (st : St) :
    E (ds.foldl (fun st x => visitDef ⟨s, fx, [.uniqueFragmentNames]⟩ x st) st) =
      E st + dupCount st.rs.fragNames (ds.flatMap defFragName) := by
  induction ds generalizing st with
  | nil => simp [dupCount]
  | cons x xs ih =>
    rw [List.foldl_cons, ih, (uf_visitDef s fx x st).1, (uf_visitDef s fx x st).2, List.flatMap_cons, dupCount_append]
    omega

/-- **5.5.1.1 Fragment name uniqueness** -/
theorem rule_unique_fragment_names_iff (s : SchemaD) (fx : Fixes) (d : Doc) :
    Silent s fx .uniqueFragmentNames d ↔ Spec.uniqueFragmentNames d := by
  unfold Silent alone Spec.uniqueFragmentNames
  have he : enter ⟨s, fx, [.uniqueFragmentNames]⟩ (.document d) {} =
      ({ ti := tiEnter s (.document d) ({} : St).ti, rs := ({} : St).rs }, false) := by
    rw [enter_single]; rfl
  rw [visitDocument, visitNode_noskip _ _ _ _ _ he]
  simp only [E, uf_leave_rs]
  have := uf_visitDefs s fx d.defs { ti := tiEnter s (.document d) ({} : St).ti, rs := ({} : St).rs }
  simp only [E] at this
  rw [this, flatMap_defFragName]
  show 0 + dupCount [] (Spec.fragNames d) = 0 ↔ _
  rw [Nat.zero_add, dupCount_nil_zero_iff]


def defOpName : Def → List String | .op kind name .. => [name.getD kind] | _ => []

theorem flatMap_defOpName (d : Doc) : d.defs.flatMap defOpName = Spec.opNames d := by
  unfold Spec.opNames
  induction d.defs with
  | nil => rfl
  | cons x xs ih => cases x <;> simp only [defOpName, List.flatMap_cons, List.filterMap_cons, ih] <;> rfl

private theorem uo_leave (s : SchemaD) (fx : Fixes) : ∀ n ti rs, leaveRule s fx .uniqueOperationName n ti rs = rs :=
  leaveRule_id s fx .uniqueOperationName (by decide)

private theorem uo_leave_rs (s : SchemaD) (fx : Fixes) (n : Node) (st : St) :
    (leave ⟨s, fx, [.uniqueOperationName]⟩ n st).rs = st.rs := by rw [leave_single, uo_leave]

private theorem uo_idle (s : SchemaD) (fx : Fixes) (n : Node) (hn : n.isTop = false) : IdleAt s fx .uniqueOperationName n :=
  ⟨fun _ _ => by
    cases n with
    | document | operation | fragmentDef | tsDef => cases hn
    | _ => rfl, uo_leave s fx n⟩

def SameSet (a b : List String) : Prop := ∀ y, a.contains y = b.contains y

theorem uo_visitDef (s : SchemaD) (fx : Fixes) (x : Def) (st : St) :
    E (visitDef ⟨s, fx, [.uniqueOperationName]⟩ x st) = E st + dupCount st.rs.opNames (defOpName x) ∧
    SameSet (visitDef ⟨s, fx, [.uniqueOperationName]⟩ x st).rs.opNames ((defOpName x).reverse ++ st.rs.opNames) := by
  unfold E
  rw [visitDef_rs (uo_idle s fx) (uo_leave s fx)]
  cases x with
  | op kind name vars dirs ssid sels =>
    dsimp only [Def.top, enterRule, defOpName, dupCount]
    split
    · -- a duplicate: reported, `SkipNode`, not pushed again
      rename_i hc
      refine ⟨rfl, fun y => ?_⟩
      show st.rs.opNames.contains y = (name.getD kind :: st.rs.opNames).contains y
      rw [List.contains_cons]
      by_cases hy : y = name.getD kind
      · subst hy; rw [hc]; simp
      · simp [hy]
    · exact ⟨rfl, fun _ => rfl⟩
  | _ => exact ⟨rfl, fun _ => rfl⟩

theorem uo_visitDefs (s : SchemaD) (fx : Fixes) (ds : List Def) (st : St) (seen : List String)
    (hs : SameSet st.rs.opNames seen) :
    E (ds.foldl (fun st x => visitDef ⟨s, fx, [.uniqueOperationName]⟩ x st) st) =
      E st + dupCount seen (ds.flatMap defOpName) := by
  induction ds generalizing st seen with
  | nil => simp [dupCount]
  | cons x xs ih =>
    have h1 := uo_visitDef s fx x st
    rw [List.foldl_cons, ih _ ((defOpName x).reverse ++ seen) (fun y => by
      rw [h1.2 y, List.contains_append, List.contains_append, hs y]),
      h1.1, List.flatMap_cons, dupCount_append, dupCount_congr _ _ _ hs]
    omega

/-- **5.2.1.1 Operation name uniqueness** (an anonymous operation is named after its kind, as the code does) -/
theorem rule_unique_operation_names_iff (s : SchemaD) (fx : Fixes) (d : Doc) :
    Silent s fx .uniqueOperationName d ↔ Spec.uniqueOperationNames d := by
  unfold Silent alone Spec.uniqueOperationNames
  have he : enter ⟨s, fx, [.uniqueOperationName]⟩ (.document d) {} =
      ({ ti := tiEnter s (.document d) ({} : St).ti, rs := ({} : St).rs }, false) := by
    rw [enter_single]; rfl
  rw [visitDocument, visitNode_noskip _ _ _ _ _ he]
  simp only [E, uo_leave_rs]
  have := uo_visitDefs s fx d.defs { ti := tiEnter s (.document d) ({} : St).ti, rs := ({} : St).rs } [] (fun _ => rfl)
  simp only [E] at this
  rw [this, flatMap_defOpName]
  show 0 + dupCount [] (Spec.opNames d) = 0 ↔ _
  rw [Nat.zero_add, dupCount_nil_zero_iff]

end PyGql.Props.C06
