/-
  C06 - **alpha_aliases for OverlappingFieldsCanBeMerged as /repo runs it**, hence for ALL 26
  RULES (`alpha_aliases_all26`) and for the verdict of the whole chain (`alpha_aliases_verdict_invariance_memo`).
  Route as for `Tr` and `Vr` (Props/C06_inv_tr_all26.lean, C06_inv_variables_all26.lean): `rule_overlapping_fields_memo_iff` + the clause of 5.3.2 along a simulation
  (`Lemmas/ValidateOverlapSimAl.lean`: `A.doc d` simulates `d`, response names mapped by `ρ`).

  The renaming must act INJECTIVELY on response names (`alpha_aliases_overlap_needs_injectivity`: giving `a` and `b` the
  same key creates a conflict). The overlap rule computes the response name with `responseName` (an empty alias is
  skipped), the single-root-field rule with `okey`; the two agree on documents without empty aliases (what the parser
  produces): `Al.RenamesOn` is stated for the fields of the document, `renamesOn_of_renames` derives it from
  `Al.Renames` for such documents.
-/
import PyGqlModel.Props.C06_inv_variables_all26
import PyGqlModel.Lemmas.ValidateOverlapSimAl
namespace PyGql.Props.C06
open PyGql PyGql.Validate PyGql.Validate.Spec

theorem overlap_clause_al (A : Al) (ρ : String → String) (hρ : ∀ a b, ρ a = ρ b → a = b) (s : SchemaD) (d : Doc)
    (hA : A.RenamesOn ρ d) :
    Spec.overlappingFieldsCanBeMerged s (A.doc d) ↔ Spec.overlappingFieldsCanBeMerged s d :=
  (A.ovSim ρ hρ s d hA).clause_iff.symm

theorem namesNonEmpty_al (A : Al) (d : Doc) : NamesNonEmpty (A.doc d) ↔ NamesNonEmpty d := by
  unfold NamesNonEmpty; rw [A.fragNames_doc]

/-- on documents without empty aliases, before and after the renaming, `Al.Renames` (response keys as the
    single-root-field rule computes them) gives `Al.RenamesOn` -/
theorem renamesOn_of_renames (A : Al) (ρ : String → String) (hA : A.Renames ρ) (d : Doc)
    (h : ∀ i sels, SelSet d i sels → ∀ al n args dirs hs id sub, Sel.field al n args dirs hs id sub ∈ sels →
      al ≠ some "" ∧ A.alias al n ≠ some "") : A.RenamesOn ρ d := by
  intro i sels hs al n args dirs hsb id sub hm
  obtain ⟨h1, h2⟩ := h i sels hs al n args dirs hsb id sub hm
  have key : ∀ (x : Option String), x ≠ some "" → responseName x n = okey x n := by
    intro x hx
    cases x with
    | none => rfl
    | some a =>
      have : a ≠ "" := fun e => hx (by rw [e])
      simp [responseName, okey, this]
  rw [key _ h2, key _ h1]
  exact hA al n

/-- **alpha_aliases for `OverlappingFieldsCanBeMergedChecker` as /repo runs it** -/
theorem alpha_aliases_overlap_memo (A : Al) (ρ : String → String) (hρ : ∀ a b, ρ a = ρ b → a = b) (s : SchemaD)
    (fx : Fixes) (h7 : fx.v7 = true) (d : Doc) (hA : A.RenamesOn ρ d) (hpa : Spec.ParentsAgree s d)
    (hne : NamesNonEmpty d) (hw : WfIds d) :
    (overlapMemoRun s fx (A.doc d)).1 = 0 ↔ (overlapMemoRun s fx d).1 = 0 :=
  overlapMemo_iff_of_sim (A.ovSim ρ hρ s d hA) h7 hpa hne ((namesNonEmpty_al A d).mpr hne) hw ((A.wfIds d).mpr hw)

/-- the statement for the whole chain as /repo runs it, rule by rule -/
def FullStatement_alpha_aliases_all26 (A : Al) (s : SchemaD) (fx : Fixes) (d : Doc) : Prop :=
  ∀ r ∈ Rule.all, (SilentM s fx r (A.doc d) ↔ SilentM s fx r d)

/-- **alpha_aliases for ALL 26 RULES**, each rule alone, the overlap rule being the memoised one /repo runs: the
    renaming acts through an injective `ρ` on response keys (`Renames`: for SingleFieldSubscriptions; `RenamesOn`: for
    the overlap rule; 24 rules never read an alias)
    [alone-run statement, see `Silent`; the chain: `chainM_six_transformations`] -/
theorem alpha_aliases_all26 (A : Al) (ρ : String → String) (hA : A.Renames ρ) (hρ : ∀ a b, ρ a = ρ b → a = b)
    (s : SchemaD) (fx : Fixes) (hfx : HeadVars fx) (d : Doc) (hA' : A.RenamesOn ρ d) (hpa : Spec.ParentsAgree s d)
    (hne : NamesNonEmpty d) (hw : WfIds d) : FullStatement_alpha_aliases_all26 A s fx d :=
  all26_of (alpha_aliases_all25_partial A ρ hA hρ s fx d)
    (alpha_aliases_overlap_memo A ρ hρ s fx hfx.2.2.2 d hA' hpa hne hw)

/-- **the VERDICT of the chain /repo runs is invariant under a renaming of aliases that is injective on response keys**
    (hypotheses on the document: those of the headline theorems)
    [conjunction of the 26 alone runs, `SilentM`; the chain itself: `chainM_six_transformations`] -/
theorem alpha_aliases_verdict_invariance_memo (A : Al) (ρ : String → String) (hA : A.Renames ρ)
    (hρ : ∀ a b, ρ a = ρ b → a = b) (s : SchemaD) (fx : Fixes) (hfx : HeadVars fx) (hs : SchemaOutputs s) (d : Doc)
    (hd : DocOkM s d) (hA' : A.RenamesOn ρ d) :
    (∀ r ∈ Rule.all, SilentM s fx r (A.doc d)) ↔ (∀ r ∈ Rule.all, SilentM s fx r d) := by
  refine verdict_iff_of_rules (fun r _ ho => alpha_aliases_all25_partial A ρ hA hρ s fx d r ho) fun hsil => ?_
  obtain ⟨_, _, hpa⟩ := clauses_of_silent25 s fx hfx hs d hd hsil
  exact alpha_aliases_overlap_memo A ρ hρ s fx hfx.2.2.2 d hA' hpa hd.names ((wfIdsB_iff d).mp hd.checks.ids)

/-- the suffix renaming of `Props/C06_inv_aliases.lean` on `{ ...A ...B } fragment A on Query { x: a } fragment B on Query { x: a }` -/
theorem renamesOn_frag : suffixAl.RenamesOn (· ++ "_") (oDocFrag "a") := by
  intro i sels hs al n args dirs hsb id sub hm
  simp [SelSet, nodes, oDocFrag, opV, fragQ, sp, fld, defNodes, selsNodes, selNodes, argsNodes, dirsNodes] at hs
  rcases hs with ⟨_, rfl⟩ | ⟨_, rfl⟩ | ⟨_, rfl⟩
  · simp [sp] at hm
  · simp only [fld, List.mem_singleton, Sel.field.injEq] at hm
    obtain ⟨rfl, rfl, _⟩ := hm
    decide +kernel
  · simp only [fld, List.mem_singleton, Sel.field.injEq] at hm
    obtain ⟨rfl, rfl, _⟩ := hm
    decide +kernel

example : FullStatement_alpha_aliases_all26 suffixAl oSchema Fixes.all (oDocFrag "a") :=
  alpha_aliases_all26 suffixAl _ suffixAl_renames suffix_inj oSchema Fixes.all headVars_all (oDocFrag "a")
    renamesOn_frag (parentsAgree_frag "a") (by unfold NamesNonEmpty; decide +kernel) (by rw [← wfIdsB_iff]; decide +kernel)

/-- injectivity on response names is needed: `{ a b }` is accepted; giving both fields the key `k` creates the conflict
    "a and b are different fields" -/
theorem alpha_aliases_overlap_needs_injectivity :
    (overlapMemoRun oSchema Fixes.all ⟨[opV [] 1 [fld none "a", fld none "b"]]⟩).1 = 0 ∧
    0 < (overlapMemoRun oSchema Fixes.all
      ((⟨fun _ _ => some "k"⟩ : Al).doc ⟨[opV [] 1 [fld none "a", fld none "b"]]⟩)).1 := by
  decide +kernel

end PyGql.Props.C06
