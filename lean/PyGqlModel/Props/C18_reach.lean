/-
  C18 — coverage and sibling order WITHOUT the premise "the child is dispatched to the method of its own kind".

  `Entered` (Props/C18_cover.lean) asks, for every child, that the call target resolves to the method `visit` registers
  for the child's kind; `dispatchers_agree_with_visit` discharges that for dispatcher targets only. Here:

  * `Reached T t c m` — `c` is reached from the root and traversed by the body of method `m`, WHATEVER `m` is
    (no premise on kinds): `reached_visited` (every table, every tree): a reached node is entered and left; the walk of a
    reached node is a contiguous part of the trace (`reached_walk`);
  * `Covered T t c` — the purely structural relation "reached through attributes that the body of the PARENT'S kind
    traverses"; `covered_reached`: on a well-kinded tree (`wellKinded CK t`: every child's class is one that `lang/ast.py`
    / the parser admit at that attribute — table `childKinds`, re-extracted) and a table with `tableKinded T CK` (for
    every admitted child class the call target resolves to a method whose statements, as far as they apply to that class,
    are those of the class's own method), `Covered` implies `Reached` with a body equal to the child's own.  Today's table
    is `tableKinded`, METHOD targets included (`_visit_object_field` calls `_visit_value` on a `Variable`: no statement of
    `_visit_value` applies to it, as in `_visit_variable`).
-/
import PyGqlModel.Props.C18_cover

namespace PyGql.Props.C18
open PyGql.Visit PyGql.Generated.VisitTable

/-- `c` is reached from the root `t` and traversed by the body of method `m` -/
inductive Reached (T : Table) (t : Node) : Node → String → Prop
  | root {m0 : String} : T.visit.lookup t.kind = some m0 → Reached T t t m0
  | child {p c : Node} {mp m' : String} {steps : List Step} {st : Step} : Reached T t p mp →
      T.methods.lookup mp = some steps → st ∈ steps → st.applies p.kind = true →
      Holds (p.getAttr st.attr) c → resolve T st.target c.kind = .ok m' → Reached T t c m'

theorem walkList_append_inv (g : Node → Res (List Ev)) : ∀ (a b : List Node) (tr : List Ev),
    Spec.walkList g (a ++ b) = .ok tr → ∃ ta tb, Spec.walkList g a = .ok ta ∧ Spec.walkList g b = .ok tb ∧ tr = ta ++ tb := by
  simp only [walkList_eq_walkAll]
  exact fun _ _ _ => walkAll_append_ok.1

theorem walkList_split (g : Node → Res (List Ev)) (l1 : List Node) (c : Node) (r : List Node) (tr : List Ev)
    (h : Spec.walkList g (l1 ++ c :: r) = .ok tr) :
    ∃ ta t1 tb, g c = .ok t1 ∧ Spec.walkList g r = .ok tb ∧ tr = ta ++ t1 ++ tb := by
  simp only [walkList_eq_walkAll] at h ⊢
  obtain ⟨ta, t1, tb, _, h1, h2, e⟩ := walkAll_split h
  exact ⟨ta, t1, tb, h1, h2, e⟩

theorem walkList_infix (g : Node → Res (List Ev)) (cs : List Node) (tr : List Ev) (c : Node)
    (h : Spec.walkList g cs = .ok tr) (hm : c ∈ cs) : ∃ tc, g c = .ok tc ∧ tc <:+: tr :=
  walkAll_infix (walkList_eq_walkAll g cs ▸ h) hm

theorem walkSteps_append_inv (call : Target → Node → Res (List Ev)) (n : Node) : ∀ (a b : List Step) (tr : List Ev),
    Spec.walkSteps call (a ++ b) n = .ok tr →
    ∃ ta tb, Spec.walkSteps call a n = .ok ta ∧ Spec.walkSteps call b n = .ok tb ∧ tr = ta ++ tb := by
  simp only [walkSteps_eq_walkAll]
  exact fun _ _ _ => walkAll_append_ok.1

theorem walkSteps_split (call : Target → Node → Res (List Ev)) (n : Node) (pre : List Step) (st : Step) (r : List Step)
    (tr : List Ev) (h : Spec.walkSteps call (pre ++ st :: r) n = .ok tr) :
    ∃ ta t1 tb, Spec.walkStep call st n = .ok t1 ∧ Spec.walkSteps call r n = .ok tb ∧ tr = ta ++ t1 ++ tb := by
  simp only [walkSteps_eq_walkAll] at h ⊢
  obtain ⟨ta, t1, tb, _, h1, h2, e⟩ := walkAll_split h
  exact ⟨ta, t1, tb, h1, h2, e⟩

theorem walkSteps_infix (call : Target → Node → Res (List Ev)) (n : Node) (steps : List Step) (tr : List Ev) (st : Step)
    (h : Spec.walkSteps call steps n = .ok tr) (hm : st ∈ steps) :
    ∃ t1, Spec.walkStep call st n = .ok t1 ∧ t1 <:+: tr :=
  walkAll_infix (g := fun st => Spec.walkStep call st n) (walkSteps_eq_walkAll call n steps ▸ h) hm

theorem walkStep_child_infix (call : Target → Node → Res (List Ev)) (st : Step) (n c : Node) (t1 : List Ev)
    (h : Spec.walkStep call st n = .ok t1) (ha : st.applies n.kind = true) (hh : Holds (n.getAttr st.attr) c) :
    ∃ tc, call st.target c = .ok tc ∧ tc <:+: t1 := by
  rcases walkStep_ok h with ⟨_, hf | ⟨_, _, hg, _⟩⟩ | ⟨_, _, c', hg, hc⟩ | ⟨_, _, cs, hg, hl⟩
  · rw [ha] at hf; cases hf
  · rw [hg] at hh; cases hh
  · rw [hg] at hh; cases hh; exact ⟨t1, hc, List.infix_refl _⟩
  · rw [hg] at hh; exact walkList_infix _ cs t1 c hl hh

/-- The walk of a reached node, by the method that traverses it, is a CONTIGUOUS part of the walk of
    the root -/
theorem reached_walk (T : Table) (fuel : Nat) (t : Node) (m0 : String) (tr : List Ev)
    (hv : T.visit.lookup t.kind = some m0) (h : Spec.walk T fuel m0 t = .ok tr) {c : Node} {m : String}
    (hc : Reached T t c m) : ∃ fuel' tc, Spec.walk T fuel' m c = .ok tc ∧ tc <:+: tr := by
  induction hc with
  | root h0 =>
    rw [hv] at h0
    cases h0
    exact ⟨fuel, tr, h, List.infix_refl _⟩
  | @child p c mp m' steps st _ hm hst ha hh hres ih =>
    obtain ⟨fp, tp, hwp, hsub⟩ := ih
    obtain ⟨f, steps', body, rfl, hm', hb, rfl⟩ := walk_shape T fp mp p tp hwp
    rw [hm] at hm'
    cases hm'
    obtain ⟨t1, h1, hs1⟩ := walkSteps_infix _ p steps body st hb hst
    obtain ⟨tc, hcall, hs2⟩ := walkStep_child_infix _ st p c t1 h1 ha hh
    simp only [Spec.walkTarget, hres] at hcall
    refine ⟨f, tc, hcall, (hs2.trans hs1).trans (List.IsInfix.trans ?_ hsub)⟩
    exact ⟨[⟨true, p⟩], [⟨false, p⟩], by simp⟩

/-- Every table, every tree, every visitor that changes nothing: a node reached from the root
    (the call target of every statement on the way resolving to SOME method — not necessarily the one registered for
    the child's kind) is entered and left in a completed visit. -/
theorem reached_visited {σ : Type} (T : Table) (v : Visitor σ) (hv : Observer v) (fuel : Nat) (t : Node) (s : σ)
    (o : Out σ) (h : visit T v fuel t s = .ok o) (c : Node) (m : String) (hc : Reached T t c m) :
    (⟨true, c⟩ : Ev) ∈ o.tr ∧ (⟨false, c⟩ : Ev) ∈ o.tr := by
  obtain ⟨m0, hl, hcov⟩ := visit_ok_walk T v hv fuel t s o h
  obtain ⟨f', tc, hw, hsub⟩ := reached_walk T fuel t m0 o.tr hl hcov hc
  obtain ⟨_, _, body, _, _, _, rfl⟩ := walk_shape T f' m c tc hw
  exact ⟨hsub.subset (by simp), hsub.subset (by simp)⟩

/-- `Entered` is the special case in which every child is traversed by the method of its own kind -/
theorem entered_reached (T : Table) (t c : Node) (hr : (T.visit.lookup t.kind).isSome) (h : Entered T t c) :
    ∃ m, T.visit.lookup c.kind = some m ∧ Reached T t c m := by
  induction h with
  | root =>
    cases h0 : T.visit.lookup t.kind with
    | none => simp [h0] at hr
    | some m0 => exact ⟨m0, rfl, .root h0⟩
  | @child p c st m' _ hst ha hh hres hvis ih =>
    obtain ⟨mp, hvp, hrp⟩ := ih
    simp only [stepsOf, hvp] at hst
    cases hm : T.methods.lookup mp with
    | none => simp [hm] at hst
    | some steps =>
      simp only [hm, Option.getD_some] at hst
      exact ⟨m', hvis, .child hrp hm hst ha hh hres⟩

/-- For every tree and every visitor that changes nothing: every node reached from the root
    through TRAVERSED attributes is entered and left in a completed visit (and only once: `once_today`). Together with
    `missed_children_today` this reads: all children are visited except those held by the 15 listed (kind, attribute)
    pairs (and what hangs below them). -/
theorem covered_children_visited {σ : Type} (T : Table) (v : Visitor σ) (hv : Observer v) (fuel : Nat) (t : Node) (s : σ)
    (o : Out σ) (h : visit T v fuel t s = .ok o) (c : Node) (hc : Entered T t c) :
    (⟨true, c⟩ : Ev) ∈ o.tr ∧ (⟨false, c⟩ : Ev) ∈ o.tr := by
  obtain ⟨m0, hl, _⟩ := visit_ok_walk T v hv fuel t s o h
  obtain ⟨m, _, hr⟩ := entered_reached T t c (by rw [hl]; rfl) hc
  exact reached_visited T v hv fuel t s o h c m hr

/-- `c` is reached from the root through attributes that the body of the PARENT'S kind traverses (nothing else) -/
inductive Covered (T : Table) (t : Node) : Node → Prop
  | root : Covered T t t
  | child {p c : Node} {st : Step} : Covered T t p → st ∈ ownSteps T p.kind → Holds (p.getAttr st.attr) c → Covered T t c

private theorem wellKindedList_eq_all (CK : ChildKinds) (k name : String) (cs : List Node) :
    wellKindedList CK k name cs = cs.all fun c => kindOk CK k name c && wellKinded CK c := by
  induction cs with
  | nil => rfl
  | cons c r ih => rw [wellKindedList, ih, List.all_cons]

private theorem wellKindedAttrs_eq_all (CK : ChildKinds) (k : String) (attrs : List (String × Attr)) :
    wellKindedAttrs CK k attrs = attrs.all fun p => wellKindedAttr CK k p.1 p.2 := by
  induction attrs with
  | nil => rfl
  | cons p r ih => rw [wellKindedAttrs, ih, List.all_cons]

theorem wellKinded_child (CK : ChildKinds) (p c : Node) (a : String) (h : wellKinded CK p = true)
    (hh : Holds (p.getAttr a) c) : kindOk CK p.kind a c = true ∧ wellKinded CK c = true := by
  obtain ⟨k, i, attrs⟩ := p
  simp only [wellKinded, wellKindedAttrs_eq_all, List.all_eq_true] at h
  simp only [Node.getAttr, Node.attrs] at hh
  cases hl : attrs.lookup a with
  | none => rw [hl] at hh; cases hh
  | some x =>
    have hx := h _ (lookup_mem_of_some attrs a x hl)
    rw [hl] at hh
    cases x with
    | scalar v => cases hh
    | one oc =>
      cases oc with
      | none => cases hh
      | some c' =>
        simp only [Holds] at hh
        subst hh
        simpa [wellKindedAttr, Node.kind] using hx
    | many cs =>
      simp only [wellKindedAttr, wellKindedList_eq_all, List.all_eq_true, Bool.and_eq_true] at hx
      exact hx c hh

theorem mem_effSteps {T : Table} {m k : String} {st : Step} (h : st ∈ effSteps T m k) :
    ∃ steps, T.methods.lookup m = some steps ∧ st ∈ steps ∧ st.applies k = true := by
  unfold effSteps at h
  cases hm : T.methods.lookup m with
  | none => simp [hm] at h
  | some steps =>
    simp only [hm, Option.getD_some, List.mem_filter] at h
    exact ⟨steps, rfl, h.1, h.2⟩

/-- what `tableKinded` says for one admitted child: the call target of a statement of the parent's own body resolves to a
    method that does on the child what the body of the child's kind does -/
theorem tableKinded_child {T : Table} {CK : ChildKinds} (hT : tableKinded T CK = true) {p c : Node} {st : Step}
    (hst : st ∈ ownSteps T p.kind) (hko : kindOk CK p.kind st.attr c = true) :
    ∃ m', resolve T st.target c.kind = .ok m' ∧ effSteps T m' c.kind = ownSteps T c.kind := by
  unfold kindOk at hko
  cases hl : CK.lookup (p.kind, st.attr) with
  | none => simp [hl] at hko
  | some ks =>
    simp only [hl] at hko
    have h1 := List.all_eq_true.1 hT _ (lookup_mem_of_some CK _ _ hl)
    have h2 := List.all_eq_true.1 h1 st hst
    simp only [bne_self_eq_false, Bool.false_or] at h2
    have h3 := List.all_eq_true.1 h2 c.kind (by simpa using hko)
    cases hres : resolve T st.target c.kind with
    | error e => simp [hres] at h3
    | ok m' => exact ⟨m', rfl, by simpa [hres] using h3⟩

/-- On a well-kinded tree, with a table that is `tableKinded`, every structurally covered node is
    reached, and the body that traverses it does on it exactly what the body of its own kind does -/
theorem covered_reached (T : Table) (CK : ChildKinds) (hT : tableKinded T CK = true) (t : Node) (m0 : String)
    (hroot : T.visit.lookup t.kind = some m0) (hk : wellKinded CK t = true) {c : Node} (hc : Covered T t c) :
    wellKinded CK c = true ∧ ∃ m, Reached T t c m ∧ effSteps T m c.kind = ownSteps T c.kind := by
  induction hc with
  | root => exact ⟨hk, m0, .root hroot, by simp [ownSteps, hroot]⟩
  | @child p c st _ hst hh ih =>
    obtain ⟨hkp, mp, hrp, hsame⟩ := ih
    obtain ⟨hko, hkc⟩ := wellKinded_child CK p c st.attr hkp hh
    obtain ⟨m', hres, h3⟩ := tableKinded_child hT hst hko
    rw [← hsame] at hst
    obtain ⟨steps, hm, hmem, happ⟩ := mem_effSteps hst
    exact ⟨hkc, m', .child hrp hm hmem happ hh hres, h3⟩

/-- With the child classes that `lang/ast.py` and the parser admit (`childKinds`, re-extracted on
    every run), every call target of every `_visit_*` statement — dispatchers AND directly called methods — runs on
    every admitted child class exactly the statements of that class's own method. -/
theorem table_kinded_today : tableKinded table childKinds = true := table_today.2.2.2.1

/-- the witness documents parsed by the real parser are well-kinded -/
theorem witnesses_well_kinded : wellKinded childKinds witnessExec = true ∧ wellKinded childKinds witnessSdl = true ∧
    wellKinded childKinds witnessSmall = true := witnesses_today.2.2.2.1

/-- Today's table, every well-kinded document, every visitor that changes nothing:
    every node reached from the root through attributes for which the `_visit_*` body of the PARENT'S kind has a
    statement is entered and left in a completed visit. No premise on how children are dispatched: with
    `missed_children_today` this is "all children except those below the 15 listed (kind, attribute) pairs". -/
theorem all_covered_children_visited {σ : Type} (v : Visitor σ) (hv : Observer v) (fuel : Nat) (t : Node) (s : σ)
    (o : Out σ) (h : visit table v fuel t s = .ok o) (hk : wellKinded childKinds t = true) (c : Node)
    (hc : Covered table t c) : (⟨true, c⟩ : Ev) ∈ o.tr ∧ (⟨false, c⟩ : Ev) ∈ o.tr := by
  obtain ⟨m0, hl, _⟩ := visit_ok_walk table v hv fuel t s o h
  obtain ⟨_, m, hr, _⟩ := covered_reached table childKinds table_kinded_today t m0 hl hk hc
  exact reached_visited table v hv fuel t s o h c m hr

/-! non-vacuity: `{ f(a: {k: $v}) }` — the `Variable` below the object field is `Covered` (and visited), although
    `_visit_object_field` calls `_visit_value`, not the `_visit_variable` that `visit` registers for its kind -/
private def varN : Node := .mk "Variable" 9 [("name", .one (some (.mk "Name" 10 [("value", .scalar "v")])))]
private def ofN : Node := .mk "ObjectField" 7 [("name", .one (some (.mk "Name" 8 [("value", .scalar "k")]))), ("value", .one (some varN))]
private def ovN : Node := .mk "ObjectValue" 6 [("fields", .many [ofN])]
private def argN : Node := .mk "Argument" 4 [("name", .one (some (.mk "Name" 5 [("value", .scalar "a")]))), ("value", .one (some ovN))]
private def fN : Node := .mk "Field" 3 [("name", .one (some (.mk "Name" 31 [("value", .scalar "f")]))), ("alias", .one none),
  ("arguments", .many [argN]), ("directives", .many []), ("selection_set", .one none)]
private def ssV : Node := .mk "SelectionSet" 2 [("selections", .many [fN])]
private def opV : Node := .mk "OperationDefinition" 1 [("operation", .scalar "query"), ("name", .one none),
  ("variable_definitions", .many []), ("directives", .many []), ("selection_set", .one (some ssV))]
private def docV : Node := .mk "Document" 0 [("definitions", .many [opV])]

/-- what is evaluated on `docV`, in one go (the side conditions of `covered_attr` along the path from the document to the
    variable are part of `table_today`) -/
private theorem docV_today :
    wellKinded childKinds docV = true ∧
    (match visit table observer 16 docV () with | .ok o => o.tr.length | _ => 0) = 16 := by decide +kernel

example : wellKinded childKinds docV = true := docV_today.1

/-- one `Covered` step through the statement that the body of the parent's kind has for the attribute `a` (looked up in the
    table: the examples do not depend on how the statement is written) -/
theorem covered_attr {T : Table} {t p c : Node} (hp : Covered T t p) (a : String)
    (hsome : ((ownSteps T p.kind).find? (·.attr == a)).isSome = true) (hh : Holds (p.getAttr a) c) : Covered T t c := by
  cases hf : (ownSteps T p.kind).find? (·.attr == a) with
  | none => simp [hf] at hsome
  | some st =>
    have hm := List.mem_of_find?_eq_some hf
    have ha : st.attr = a := by simpa using List.find?_some hf
    exact .child hp hm (by rw [ha]; exact hh)

example : Covered table docV varN := by
  obtain ⟨s1, s2, s3, s4, s5, s6, s7⟩ := skeleton_path_steps_today
  have h1 : Covered table docV opV := covered_attr .root "definitions" s1 (by simp [Holds, docV, Node.getAttr, Node.attrs])
  have h2 : Covered table docV ssV := covered_attr h1 "selection_set" s2 (by simp [Holds, opV, Node.getAttr, Node.attrs, List.lookup])
  have h3 : Covered table docV fN := covered_attr h2 "selections" s3 (by simp [Holds, ssV, Node.getAttr, Node.attrs])
  have h4 : Covered table docV argN := covered_attr h3 "arguments" s4 (by simp [Holds, fN, Node.getAttr, Node.attrs, List.lookup])
  have h5 : Covered table docV ovN := covered_attr h4 "value" s5 (by simp [Holds, argN, Node.getAttr, Node.attrs, List.lookup])
  have h6 : Covered table docV ofN := covered_attr h5 "fields" s6 (by simp [Holds, ovN, Node.getAttr, Node.attrs])
  exact covered_attr h6 "value" s7 (by simp [Holds, ofN, Node.getAttr, Node.attrs, List.lookup])

/-- … whatever method runs on it: `Entered` covers it only if that method is the one `visit` registers for `Variable`
    (today `_visit_object_field` calls `_visit_value`, `visit` registers `_visit_variable`); `Covered` does not care -/
example : (match resolve table ((ownSteps table "ObjectField").headD default).target "Variable" with
    | .ok _ => true | .error _ => false) = true := by
  have h := objectField_resolves_variable_today
  unfold ObjectFieldResolvesVariable at h
  cases hr : resolve table ((ownSteps table "ObjectField").headD default).target "Variable" with
  | ok m => rfl
  | error e => rw [hr] at h; cases h

example : (match visit table observer 16 docV () with | .ok o => o.tr.length | _ => 0) = 16 := docV_today.2

end PyGql.Props.C18
