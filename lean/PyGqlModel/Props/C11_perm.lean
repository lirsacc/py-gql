/-
  C11 — independence of the order of definitions, final form.

  `build_perm` (Props/C11_merge.lean) needs the validity of BOTH documents and keeps the relative order of ALL
  extension blocks.  Here: validity (`SdlOK`) is invariant under every reordering of the document that keeps the
  relative order of the extension blocks OF EACH TARGET (`SameExtOrder`; blocks of different targets may be
  interleaved differently) — so the validity of ONE document is enough — and the two schemas have the same content:
  the same `TypeD`s (fields, arguments, input fields, enum values, members, interfaces, descriptions, deprecations,
  coerced default values — everything a `TypeD` records), the same directive definitions, the same roots.
-/
import PyGqlModel.Props.C11_cycles


namespace PyGql.Props.C11
open PyGql PyGql.Sdl PyGql.SdlSpec

/-- the extension blocks of every target keep their relative order (blocks of different targets are unconstrained) -/
def SameExtOrder (doc₁ doc₂ : Doc) : Prop :=
  ∀ n, (typeExts doc₁).filter (·.name == n) = (typeExts doc₂).filter (·.name == n)

theorem sameExtOrder_of_eq {doc₁ doc₂ : Doc} (h : typeExts doc₁ = typeExts doc₂) : SameExtOrder doc₁ doc₂ :=
  fun n => by rw [h]

theorem mergeDef_congr (X Y : List TypeDef) (t : TypeDef)
    (h : X.filter (·.name == t.name) = Y.filter (·.name == t.name)) : mergeDef X t = mergeDef Y t := by
  unfold mergeDef; rw [h]

theorem merged_eq_of_sameExtOrder {doc₁ doc₂ : Doc} (hx : SameExtOrder doc₁ doc₂) (l : List TypeDef) :
    l.map (mergeDef (typeExts doc₁)) = l.map (mergeDef (typeExts doc₂)) :=
  List.map_congr_left (fun t _ => mergeDef_congr _ _ t (hx t.name))

theorem merged_perm {doc₁ doc₂ : Doc} (hp : doc₁.Perm doc₂) (hx : SameExtOrder doc₁ doc₂) :
    (merged doc₁).Perm (merged doc₂) := by
  simp only [merged]
  rw [merged_eq_of_sameExtOrder hx]
  exact (typeDefs_perm hp).map _

theorem typeExts_perm {d₁ d₂ : Doc} (hp : d₁.Perm d₂) : (typeExts d₁).Perm (typeExts d₂) := hp.filterMap _

theorem buildTypeDefs_names (env : Env) (l : List TypeDef) (r : List TypeD) (h : l.mapM (buildTypeDef env) = .ok r) :
    r.map (·.name) = l.map (·.name) :=
  mapM_names _ TypeDef.name TypeD.name (buildTypeDef_name env) l r h

theorem declared_names (doc : Doc) (d : SchemaD) (h : Declared doc = some d) :
    d.types.map (·.name) = (typeDefs doc).map (·.name) := by
  obtain ⟨hts, _, _⟩ := declared_parts doc d h
  rw [buildTypeDefs_names _ _ _ hts, merged_names]

/-! ### the two bounded reachability searches only look names up -/

theorem eagerReach_congr (l₁ l₂ : List TypeD) (hf : ∀ n, l₁.find? (·.name == n) = l₂.find? (·.name == n)) (target : String) :
    ∀ fuel n, eagerReach l₁ target fuel n = eagerReach l₂ target fuel n := by
  intro fuel
  induction fuel with
  | zero => intro n; rfl
  | succ k ih =>
    intro n
    simp only [eagerReach]
    rw [hf n]
    cases l₂.find? (·.name == n) with
    | none => rfl
    | some t => simp only [ih]

theorem hasEagerCycle_perm {l₁ l₂ : List TypeD} (hp : l₁.Perm l₂) (hn : (l₁.map (·.name)).Nodup) :
    hasEagerCycle l₁ = hasEagerCycle l₂ := by
  unfold hasEagerCycle
  have hf : ∀ n, l₁.find? (·.name == n) = l₂.find? (·.name == n) := fun n => find_perm (·.name) n hp hn
  have : (fun t : TypeD => eagerReach l₁ t.name l₁.length t.name) = fun t : TypeD => eagerReach l₂ t.name l₂.length t.name := by
    funext t; rw [hp.length_eq]; exact eagerReach_congr l₁ l₂ hf _ _ _
  rw [this]
  exact any_perm _ hp

theorem hasThunkCycle_perm (env : Env) {l₁ l₂ : List TypeDef} (hp : l₁.Perm l₂) :
    hasThunkCycle env l₁ = hasThunkCycle env l₂ := by
  unfold hasThunkCycle
  rw [hp.length_eq]
  exact any_perm _ hp

theorem defaultRoots_perm {l₁ l₂ : List TypeD} (hp : l₁.Perm l₂) : defaultRoots l₁ = defaultRoots l₂ := by
  simp only [defaultRoots]
  rw [any_perm _ hp, any_perm _ hp, any_perm _ hp]

/-- **Validity is independent of the order of definitions**: a reordering of a valid document that keeps the relative
    order of the extension blocks of each target (and of the `extend schema` blocks) is valid, and declares a content
    with the same types, directives and roots. -/
theorem sdlOK_perm (doc₁ doc₂ : Doc) (d₁ : SchemaD) (v : SdlOK doc₁ d₁) (hp : doc₁.Perm doc₂)
    (hx : SameExtOrder doc₁ doc₂) (hsx : schemaExtensions doc₁ = schemaExtensions doc₂) :
    ∃ d₂, SdlOK doc₂ d₂ ∧ d₁.types.Perm d₂.types ∧ d₁.directives.Perm d₂.directives ∧
      d₁.query = d₂.query ∧ d₁.mutation = d₂.mutation ∧ d₁.subscription = d₂.subscription := by
  obtain ⟨ht1, hd1, _⟩ := declared_parts doc₁ d₁ v.declares
  have hTD := typeDefs_perm hp
  have hmp := merged_perm hp hx
  have henvM : Env.of (merged doc₁) = Env.of (merged doc₂) := env_perm hmp (by rw [merged_names]; exact v.uniqueTypes)
  have henvB : Env.of (typeDefs doc₁) = Env.of (typeDefs doc₂) := env_perm hTD v.uniqueTypes
  have hs : schemaDefs doc₁ = schemaDefs doc₂ := perm_short (hp.filterMap _) v.oneSchema
  obtain ⟨ts₂, hts₂, hT⟩ := mapM_perm _ hmp _ ht1
  obtain ⟨ds₂, hds₂, hD⟩ := mapM_perm _ (dirDefs_perm hp) _ hd1
  rw [henvM] at hts₂ hds₂
  let r₂ := declaredRoots doc₂ ts₂
  have hdecl : Declared doc₂ = some { types := ts₂, directives := ds₂, query := r₂.query, mutation := r₂.mutation, subscription := r₂.subscription } := by
    unfold Declared
    simp only [hts₂, hds₂]
    rfl
  have hr1 := declared_roots doc₁ d₁ v.declares
  have hbase : baseRoots doc₁ d₁.types = baseRoots doc₂ ts₂ := by
    simp only [baseRoots, hs]
    cases (schemaDefs doc₂).head? with
    | some sd => rfl
    | none => simp only []; exact defaultRoots_perm hT
  have hroots : declaredRoots doc₁ d₁.types = declaredRoots doc₂ ts₂ := by
    rw [declaredRoots_eq, declaredRoots_eq, hsx, hbase]
  have hnames1 : (d₁.types.map (·.name)).Nodup := by rw [declared_names doc₁ d₁ v.declares]; exact v.uniqueTypes
  refine ⟨{ types := ts₂, directives := ds₂, query := r₂.query, mutation := r₂.mutation, subscription := r₂.subscription }, ?_, hT, hD, ?_⟩
  · exact
      { uniqueTypes := (hTD.map _).nodup_iff.mp v.uniqueTypes
        uniqueDirectives := ((dirDefs_perm hp).map _).nodup_iff.mp v.uniqueDirectives
        oneSchema := by rw [← hs]; exact v.oneSchema
        noBuiltinNames := fun t ht => v.noBuiltinNames t (hTD.mem_iff.mpr ht)
        extTargets := by
          intro e he
          obtain ⟨t, ht, h⟩ := v.extTargets e ((typeExts_perm hp).mem_iff.mpr he)
          exact ⟨t, hTD.mem_iff.mp ht, h⟩
        declares := hdecl
        baseDefaults := by
          rw [BaseDefaults, ← henvB]
          exact ⟨fun t ht => v.baseDefaults.1 t (hTD.mem_iff.mpr ht), fun dd hdd => v.baseDefaults.2 dd ((dirDefs_perm hp).mem_iff.mpr hdd)⟩
        selfDefaults := by
          intro t ht
          have h1 := v.selfDefaults t (hTD.mem_iff.mpr ht)
          have hX1 : (Env.of (typeDefs doc₁)).extended (typeExts doc₁) = Env.of (merged doc₁) := extended_eq _ _
          have hX2 : (Env.of (typeDefs doc₂)).extended (typeExts doc₂) = Env.of (merged doc₂) := extended_eq _ _
          rw [hX2, ← henvM, ← henvB, ← mergeDef_congr _ _ t (hx t.name), ← hX1]
          exact h1
        membersUnique := fun r hr => v.membersUnique r (hT.mem_iff.mpr hr)
        noThunkCycle := by rw [← henvB, ← hasThunkCycle_perm _ hTD]; exact v.noThunkCycle
        noEagerCycle := by
          show hasEagerCycle ts₂ = false
          rw [← hasEagerCycle_perm hT hnames1]; exact v.noEagerCycle
        noSpecified := by
          show ds₂.any _ = false
          rw [← any_perm _ hD]; exact v.noSpecified
        schemaOps := by
          intro sd hsd
          rw [← hs] at hsd
          rw [← henvB]
          exact v.schemaOps sd hsd
        extOps := by rw [← hsx]; exact v.extOps
        extOpsNew := by
          intro o ho
          rw [← hsx] at ho
          have := v.extOpsNew o ho
          show (baseRoots doc₂ ts₂).get o.1 = none ∧ (isDefaultName o.2 || ts₂.any (·.name == o.2)) = true
          rw [← hbase, ← any_perm _ hT]
          exact this }
  · have : (⟨d₁.query, d₁.mutation, d₁.subscription⟩ : Roots) = r₂ := by rw [hr1]; exact hroots
    have hq : d₁.query = r₂.query := congrArg Roots.query this
    have hm : d₁.mutation = r₂.mutation := congrArg Roots.mutation this
    have hsb : d₁.subscription = r₂.subscription := congrArg Roots.subscription this
    exact ⟨hq, hm, hsb⟩

/-- **build_perm, final form** (`BuildPermStatement` with `SdlOK` for `SdlValid`, and the weaker per-target order
    condition): if ONE document is valid, every reordering of its definitions that keeps the relative order of the
    extension blocks of each target builds too, and the two schemas have the same content — the same types with all
    their members, descriptions, deprecations and coerced default values, the same directive definitions and roots. -/
theorem build_perm_final (doc₁ doc₂ : Doc) (d₁ : SchemaD) (v : SdlOK doc₁ d₁) (hp : doc₁.Perm doc₂)
    (hx : SameExtOrder doc₁ doc₂) (hsx : schemaExtensions doc₁ = schemaExtensions doc₂) :
    ∃ d₂, build doc₁ = .ok d₁ ∧ build doc₂ = .ok d₂ ∧ d₁.types.Perm d₂.types ∧ d₁.directives.Perm d₂.directives ∧
      d₁.query = d₂.query ∧ d₁.mutation = d₂.mutation ∧ d₁.subscription = d₂.subscription := by
  obtain ⟨d₂, v₂, h⟩ := sdlOK_perm doc₁ doc₂ d₁ v hp hx hsx
  exact ⟨d₂, build_exact_final doc₁ d₁ v, build_exact_final doc₂ d₂ v₂, h⟩

theorem build_perm_sameContent (doc₁ doc₂ : Doc) (d₁ : SchemaD) (v : SdlOK doc₁ d₁) (hp : doc₁.Perm doc₂)
    (hx : SameExtOrder doc₁ doc₂) (hsx : schemaExtensions doc₁ = schemaExtensions doc₂) :
    ∃ s₁ s₂, build doc₁ = .ok s₁ ∧ build doc₂ = .ok s₂ ∧ SameContent s₁ s₂ := by
  obtain ⟨d₂, h1, h2, hT, hD, hq, hm, hs⟩ := build_perm_final doc₁ doc₂ d₁ v hp hx hsx
  exact ⟨d₁, d₂, h1, h2, hq, hm, hs, fun t => hT.mem_iff, fun d => hD.mem_iff⟩

/-! ### non-vacuity: `extDoc` reversed — the extension blocks of DIFFERENT targets change their relative order -/

/-- `extDoc` = [ext Query, Query, E, ext E, M, extend schema] reversed -/
def extDocShuffled : Doc := extDoc.reverse

def eExt : TypeDef := { kind := .enum, name := "E", values := [{ name := "B" }] }

theorem extDoc_perm : extDoc.Perm extDocShuffled := (List.reverse_perm extDoc).symm

/-- the hypothesis of `build_perm` (`typeExts doc₁ = typeExts doc₂`) fails for this pair -/
example : typeExts extDoc ≠ typeExts extDocShuffled := fun h => by
  have := congrArg (List.map (·.name)) h
  revert this; decide +kernel

theorem extDoc_sameExtOrder : SameExtOrder extDoc extDocShuffled := by
  intro n
  have h1 : typeExts extDoc = [exExt, eExt] := rfl
  have h2 : typeExts extDocShuffled = [eExt, exExt] := rfl
  have n1 : exExt.name = "Query" := rfl
  have n2 : eExt.name = "E" := rfl
  rw [h1, h2]
  simp only [List.filter_cons, List.filter_nil, n1, n2]
  by_cases a : ("Query" == n) = true
  · have : ("E" == n) = false := by
      have : n = "Query" := by simpa using Eq.symm (by simpa using a : "Query" = n)
      subst this; decide +kernel
    simp [a, this]
  · simp [a]

example : ∃ s₁ s₂, build extDoc = .ok s₁ ∧ build extDocShuffled = .ok s₂ ∧ SameContent s₁ s₂ :=
  build_perm_sameContent _ _ _ extDoc_ok extDoc_perm extDoc_sameExtOrder rfl

/-- the per-target condition is NECESSARY: swapping two extension blocks of the SAME target changes the member order -/
def twoExt : Doc := [.type exQuery, .ext exExt, .ext { kind := .object, name := "Query", fields := [{ name := "c", type := .named "Int" }] }]
def twoExtSwapped : Doc := [.type exQuery, .ext { kind := .object, name := "Query", fields := [{ name := "c", type := .named "Int" }] }, .ext exExt]

theorem ext_order_matters : twoExt.Perm twoExtSwapped ∧
    ((build twoExt).toOption.map fun s => s.types.map fun t => t.fields.map (·.name)) = some [["a", "b", "c"]] ∧
    ((build twoExtSwapped).toOption.map fun s => s.types.map fun t => t.fields.map (·.name)) = some [["a", "c", "b"]] := by
  refine ⟨List.Perm.cons _ (List.Perm.swap _ _ _), by decide +kernel, by decide +kernel⟩

end PyGql.Props.C11
