/-
  C20 — input positions and LIST INPUT COERCION (June-2018 §3.11: a single value given where a list is expected is
  wrapped into a one-element list). `InCompat` / `acc` (Differ.lean), about which `safeIn_iff` is exact, read type
  expressions WITHOUT that coercion. With it (`accC`, `InCompatC`) the input predicate of the differ is SOUND
  (`safeIn_sound_coercion`) but NOT exact (`safeIn_not_exact_with_list_coercion`): `x: Int` → `x: [Int]` keeps every
  accepted LITERAL acceptable, yet `_is_safe_input_type_change` says unsafe and `diff_schema` reports
  `FieldArgumentChangedType` / `InputFieldChangedType`, BREAKING (reproduced on /repo: `f(x: Int)` → `f(x: [Int])`).
  The differ is conservative there, and rightly so for the property: a VARIABLE `$v: Int` used at `x` is no longer
  allowed at `[Int]` (5.8.5 has no list coercion), so the change does break operations.
-/
import PyGqlModel.Props.C20

set_option linter.unusedSimpArgs false

namespace PyGql.Props.C20
open PyGql PyGql.Differ

/-- value `v` is accepted at type `t`, WITH list input coercion: a non-list value is accepted where a list is expected
    when it is accepted as an item -/
def accC : Ty → Val → Bool
  | .named _, .null => true
  | .named n, .leaf m => n == m
  | .named _, .list _ => false
  | .list _, .null => true
  | .list t, .leaf m => accC t (.leaf m)
  | .list t, .list vs => vs.all (accC t)
  | .nonNull _, .null => false
  | .nonNull t, .leaf m => accC t (.leaf m)
  | .nonNull t, .list vs => accC t (.list vs)

def InCompatC (o n : Ty) : Prop := ∀ v, accC o v = true → accC n v = true

private theorem accC_list_mono (t u : Ty) (h : ∀ v, accC t v = true → accC u v = true) (v : Val)
    (hv : accC (.list t) v = true) : accC (.list u) v = true := by
  cases v with
  | null => rfl
  | leaf m => exact h _ hv
  | list vs =>
    simp only [accC, List.all_eq_true] at hv ⊢
    exact fun x hx => h x (hv x hx)

private theorem sub_sound_c : ∀ a b : Ty, sub a b = true → ∀ v, accC a v = true → accC b v = true :=
  sub_sound_of accC (fun t v => by cases v <;> simp [accC]) accC_list_mono

/-- **Input positions, with list coercion: sound.** A change the differ classifies as safe keeps every previously
    accepted value acceptable. -/
theorem safeIn_sound_coercion (o n : Ty) (h : safeIn o n = true) : InCompatC o n := by
  rw [safeIn_eq_sub] at h; exact sub_sound_c o n h

/-- **...but not exact**: `Int` → `[Int]` accepts everything it accepted (a single value is wrapped), and the differ
    calls it unsafe (reported BREAKING: conservative). `safeIn_iff` is exact for `InCompat`, i.e. WITHOUT list coercion. -/
theorem safeIn_not_exact_with_list_coercion :
    InCompatC (.named "Int") (.list (.named "Int")) ∧ safeIn (.named "Int") (.list (.named "Int")) = false := by
  refine ⟨?_, by decide⟩
  intro v hv
  cases v with
  | null => simp [accC]
  | leaf m => simpa [accC] using hv
  | list vs => simp [accC] at hv

end PyGql.Props.C20
