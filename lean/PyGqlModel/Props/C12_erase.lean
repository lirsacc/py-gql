/-
  C12 — towards `build doc = build (doc.map eraseCustom)`: the builder model reads the directive applications of a
  definition ONLY through `deprecationReason` (fields, enum values; `buildField`, `buildFieldX`, `buildEnumValue`), and that
  reader ignores applications of non-specified directives.  Proved here for the readers themselves; the lift through the
  environment (`Env.of` stores the definitions; default values are coerced against it) is `Lemmas/SdlEraseEnv.lean`.  For
  ARBITRARY documents (extensions, several blocks) the statement `BuildIgnoresCustomStatement` is PROVED in
  `Props/C12_erase_all.lean` (`build_ignores_custom`); `print_build_roundtrip_custom` (`Props/C12_custom_build.lean`) is its
  instance at the documents the printer denotes.  It is also evaluated by the driver on every printed document with applied
  directives (op `printTA`, key `buildErased`).

  No property theorem here: the six public theorems are the reader-level facts `build_ignores_custom` starts from.
-/
import PyGqlModel.SdlPrintTA
import PyGqlModel.Lemmas.ExceptBasics
namespace PyGql.Props.C12
open PyGql PyGql.Sdl PyGql.SdlPrintTA

/-- the builder ignores applications of non-specified directives (proved: `build_ignores_custom`, `Props/C12_erase_all.lean`) -/
def BuildIgnoresCustomStatement : Prop := ∀ doc : Doc, build doc = build (doc.map eraseCustom)

private theorem find?_filter_of_imp {α} (p q : α → Bool) (l : List α) (h : ∀ x, p x = true → q x = true) :
    (l.filter q).find? p = l.find? p := by
  induction l with
  | nil => rfl
  | cons x xs ih =>
    by_cases hq : q x = true
    · simp only [List.filter_cons, hq, if_true, List.find?_cons, ih]
    · have hp : p x = false := by
        cases hpx : p x with
        | false => rfl
        | true => exact absurd (h x hpx) hq
      simp only [List.filter_cons, hq, Bool.false_eq_true, if_false, List.find?_cons, hp, ih]

/-- `_deprecation_reason` looks for `@deprecated` only: custom applications are invisible to it -/
theorem deprecationReason_erase (dirs : List DirApp) : deprecationReason (dirs.filter isSpecified) = deprecationReason dirs := by
  unfold deprecationReason
  rw [find?_filter_of_imp]
  intro x hx
  have : x.name = "deprecated" := by simpa using hx
  simp [isSpecified, specifiedDirectives, this]

theorem buildArgument_erase (env : Env) (a : InputValDef) : buildArgument env (eraseIV a) = buildArgument env a := rfl

theorem buildArgumentX_erase (eB eX : Env) (hide : Option String) (a : InputValDef) :
    buildArgumentX eB eX hide (eraseIV a) = buildArgumentX eB eX hide a := rfl

private theorem mapM_map_erase {β} (g : InputValDef → R β) (h : ∀ a, g (eraseIV a) = g a) (l : List InputValDef) :
    (l.map eraseIV).mapM g = l.mapM g := by
  rw [List.mapM_map]
  exact Except.mapM_congr_mem fun a _ => h a

theorem buildField_erase (env : Env) (f : FieldDef) : buildField env (eraseField f) = buildField env f := by
  simp only [buildField, eraseField, mapM_map_erase _ (buildArgument_erase env), deprecationReason_erase]

theorem buildFieldX_erase (eB eX : Env) (hide : Option String) (f : FieldDef) :
    buildFieldX eB eX hide (eraseField f) = buildFieldX eB eX hide f := by
  simp only [buildFieldX, eraseField, mapM_map_erase _ (buildArgumentX_erase eB eX hide), deprecationReason_erase]

theorem buildEnumValue_erase (v : EnumValDef) : buildEnumValue (eraseEnumVal v) = buildEnumValue v := by
  simp only [buildEnumValue, eraseEnumVal, deprecationReason_erase]

/-- non-vacuity: a field with `@deprecated(reason:)` between two custom applications keeps its reason -/
def erasedExampleField : FieldDef :=
  { name := "f", type := Ty.named "Int",
    dirs := [({ name := "tag" } : DirApp), { name := "deprecated", args := [("reason", Lit.str "old")] }, { name := "other" }] }

example : buildField (Env.of []) (eraseField erasedExampleField) = buildField (Env.of []) erasedExampleField :=
  buildField_erase _ _
example : (eraseField erasedExampleField).dirs.length = 1 ∧ erasedExampleField.dirs.length = 3 := by decide +kernel

end PyGql.Props.C12
