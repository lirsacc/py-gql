/-
  C11 — defaults completed while types are "in progress" (known finding C11/H4-1; residue (b) of S8).

  `_extend_input_field` completes the default of a field while the input type that owns it is being extended.  When the
  completion reaches that type again — here through an ABSENT, undefaulted field of the value's type, whose lazy type
  `_completed_input_value` forces only to ask whether it is non-null — `extend_type` raises "circular reference", and
  `_extended_default_value` keeps the value computed before the extensions.  The by-name model has this behaviour
  (`touches` / `needsHidden`); the exactness theorems exclude it with the premise `SelfDefaults`.

  * `mutual_default_not_completed`: a document that satisfies every rule of the specification, `BaseDefaults` and
    `noThunkCycle`, BUILDS, and the schema is NOT its declared content: `Other.x` keeps `{a: 3}`, the declared content has
    `{a: 3, added: 7}`.  (`residue_necessary` shows `SelfDefaults` necessary with a document that is REFUSED; this one is
    accepted with a stale value.)
  * `mutual_required_accepted`: the same with `extend input In { req: Int! }`: the document declares nothing (its
    default `{a: 3}` is not a value of the extended `In`) and is accepted.
-/
import PyGqlModel.Props.C11_extend
import PyGqlModel.SdlInProgress


namespace PyGql.Props.C11
open PyGql PyGql.Sdl PyGql.SdlSpec

private def hBase (ext : InputValDef) : Doc := [
  .type { kind := .input, name := "In", inputFields := [{ name := "a", type := .named "String" }, { name := "other", type := .named "Other" }] },
  .type { kind := .input, name := "Other", inputFields := [{ name := "x", type := .named "In", default := some (.obj [("a", .str "3")]) }] },
  .type { kind := .object, name := "Query", fields := [{ name := "f", type := .named "String", args := [{ name := "o", type := .named "Other" }] }] },
  .ext { kind := .input, name := "In", inputFields := [ext] }]

/-- `input In { a: String other: Other }  input Other { x: In = {a: "3"} }  type Query { f(o: Other): String }
    extend input In { added: String = "7" }` (strings: `String.toInt?` does not reduce under `decide`) -/
def h4ADoc : Doc := hBase { name := "added", type := .named "String", default := some (.str "7") }
/-- … `extend input In { req: String! }` -/
def h4BDoc : Doc := hBase { name := "req", type := .nonNull (.named "String") }

/-- the default of `Other.x` in a schema -/
def otherX (s : SchemaD) : Option J :=
  (s.types.find? (·.name == "Other")).bind fun t => (t.inputFields.find? (·.name == "x")).map (·.default)

def isA3 : Option J → Bool
  | some (.obj [("a", .str "3")]) => true
  | _ => false
def isA3Added7 : Option J → Bool
  | some (.obj [("a", .str "3"), ("added", .str "7")]) => true
  | _ => false

private theorem a3_excl (x : Option J) (h1 : isA3 x = true) (h2 : isA3Added7 x = true) : False := by
  unfold isA3 at h1
  split at h1
  · exact absurd h2 (by decide)
  · cases h1

/-- what is evaluated on `h4ADoc` besides the rules: the defaults coerce over the definitions, no thunk cycle, the default of
    `Other.x` in the built schema and in the declared content (as `otherX` reads it, and member by member) -/
private def H4AEvaluated : Prop :=
  baseDefaultsB h4ADoc = true ∧ hasThunkCycle (Env.of (typeDefs h4ADoc)) (typeDefs h4ADoc) = false ∧
  ((match build h4ADoc with | .ok s => isA3 (otherX s) | .error _ => false) = true ∧
   (match Declared h4ADoc with | some d => isA3Added7 (otherX d) | none => false) = true) ∧
  (match build h4ADoc with | .ok s => s.types.all (fun t => t.name != "Other" || isA3 ((t.inputFields.find? (·.name == "x")).map (·.default))) | .error _ => false) = true ∧
  (match Declared h4ADoc with | some d => d.types.any (fun t => t.name == "Other" && isA3Added7 ((t.inputFields.find? (·.name == "x")).map (·.default))) | none => false) = true

private instance : Decidable H4AEvaluated := by
  unfold H4AEvaluated
  infer_instance

/-- everything that is evaluated on `h4ADoc`, once -/
private theorem h4A_facts : ∃ hs : (Declared h4ADoc).isSome = true, SdlRules h4ADoc ((Declared h4ADoc).get hs) ∧ H4AEvaluated :=
  have h : ∃ hs : (Declared h4ADoc).isSome = true, (_ ∧ _ ∧ _ ∧ _ ∧ _ ∧ _ ∧ _ ∧ _) ∧ H4AEvaluated := by decide +kernel
  h.elim fun hs ⟨⟨k1, k2, k3, noSpecified, extOpsNew, valid, schemaOps, extOps⟩, rest⟩ =>
    ⟨hs, { valid, declares := (Option.some_get _).symm, kinds := ⟨k1, k2, k3⟩, noSpecified, schemaOps, extOps, extOpsNew }, rest⟩

theorem h4ADeclares : (Declared h4ADoc).isSome = true := h4A_facts.elim fun h _ => h

theorem h4A_rules : SdlRules h4ADoc ((Declared h4ADoc).get h4ADeclares) := h4A_facts.elim fun _ h => h.1

/-- **C11/H4-1 (A)**: every rule of the specification, `BaseDefaults`, no thunk cycle — the document builds, and the
    default of `Other.x` is the value over the types BEFORE extension, not the declared one. -/
theorem mutual_default_not_completed :
    (∃ d, SdlRules h4ADoc d ∧ BaseDefaults h4ADoc ∧ hasThunkCycle (Env.of (typeDefs h4ADoc)) (typeDefs h4ADoc) = false) ∧
    (match build h4ADoc with | .ok s => isA3 (otherX s) | .error _ => false) = true ∧
    (match Declared h4ADoc with | some d => isA3Added7 (otherX d) | none => false) = true :=
  h4A_facts.elim fun _ ⟨rules, baseB, noCycle, built, _⟩ => ⟨⟨_, rules, baseDefaults_of_B _ baseB, noCycle⟩, built⟩

/-- so `SelfDefaults` fails for it (it is the premise of `build_exact_spec` that excludes the shape) -/
theorem h4A_not_selfDefaults : ¬ SelfDefaults h4ADoc := by
  intro hs
  obtain ⟨_, hrules, hB, hT, _, h1, h2⟩ := h4A_facts
  have x : Residue h4ADoc := { baseDefaults := baseDefaults_of_B _ hB, selfDefaults := hs, noThunkCycle := hT }
  obtain ⟨s, d', hb, hd, _, _, _, htypes, _⟩ := build_exact_spec h4ADoc _ hrules x
  rw [hb] at h1
  rw [hd] at h2
  obtain ⟨t, hp, hq⟩ := all_any_clash (fun t ht => (htypes t).mpr ht) (·.name == "Other") _ _ h1 h2
  exact a3_excl _ hp hq

/-- **C11/H4-1 (B)**: the default `{a: 3}` lacks the required field the extension adds — the document declares no
    content (`SdlValid.declares` fails: it is INVALID) — and the builder accepts it. -/
theorem mutual_required_accepted : Declared h4BDoc = none ∧ (build h4BDoc).toBool = true := by decide +kernel

/-! ### the exact model `buildP` (SdlInProgress.lean) and the model of the theorems -/

/-- with `ignore_extensions=True` the two models are the same function -/
theorem buildP_ignoreExtensions (doc : Doc) (add : List TypeD) : buildP doc true add = buildA doc true add := by
  unfold buildP buildA
  simp only [Bool.true_or, if_true]

/-- … and on a document none of whose extension blocks is kept (no `extend` of a known type, no `extend schema`) both
    return the schema built from the definitions: the in-progress bookkeeping only concerns the extension pass -/
theorem buildP_noext (doc : Doc) (add : List TypeD) (hx : typeExts doc = []) (hsx : schemaExtensions doc = []) :
    buildP doc false add = buildA doc false add := by
  have hext : ∀ live, typeExtensions live doc = [] := by
    intro live
    rw [typeExtensions_eq_filter, hx]; rfl
  unfold buildP buildA
  simp only [hext, hsx, List.isEmpty_nil, Bool.and_self, Bool.or_true, if_true, Bool.false_eq_true, if_false]
  cases collectDefinitions doc with
  | error e => rfl
  | ok c =>
    simp only [bind, Except.bind]
    cases buildCollectedA c (normAdditional add) with
    | error e => rfl
    | ok p =>
      obtain ⟨env, live⟩ := p
      simp only [extendSchemaA, hext, hsx, List.isEmpty_nil, Bool.and_self, if_true, pure, Except.pure]

/-- the exact model on the two documents of C11/H4-1: the same verdicts as the model of the theorems (and as the code) -/
theorem buildP_h4 :
    (match buildP h4ADoc with | .ok s => isA3 (otherX s) | .error _ => false) = true ∧ (buildP h4BDoc).toBool = true := by decide +kernel

end PyGql.Props.C11
