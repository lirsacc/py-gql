/-
  C20 — `diff_perm`: the report of `diff_schema` does not depend on the ORDER in which the type and
  directive definitions of either schema are listed (the property's last sentence: "The result does not
  depend on hash ordering or on the order of type definitions"). Both type lists and both directive lists
  may be permuted independently; the report is then a permutation of the original report (the same
  multiset of changes), at every severity filter.
-/
import PyGqlModel.Props.C20_diff

set_option linter.unusedSimpArgs false

namespace PyGql.Props.C20
open PyGql PyGql.Differ PyGql.Diff

private theorem find_perm {α} {l l' : List α} (p : α → Bool) (h : l.Perm l')
    (u : ∀ x ∈ l, ∀ y ∈ l, p x = true → p y = true → x = y) : l.find? p = l'.find? p :=
  ListEqv.find_perm p h u

private theorem find_name_filter_perm {α} {name : α → String} {l l' : List α} (q : α → Bool) (h : l.Perm l')
    (u : Uniq name l) (nm : String) :
    (l.filter q).find? (fun y => name y == nm) = (l'.filter q).find? (fun y => name y == nm) :=
  ListEqv.find_name_perm (h.filter q) (ListEqv.uniq_filter u q) nm

/-- the schemas `s` and `s'` list the same type and directive definitions, possibly in another order
    (and name the same root operation types) -/
structure Reordered (s s' : SchemaD) : Prop where
  types : s.types.Perm s'.types
  directives : s.directives.Perm s'.directives
  query : s.query = s'.query
  mutation : s.mutation = s'.mutation
  subscription : s.subscription = s'.subscription

private theorem findType_perm {s s' : SchemaD} (h : Reordered s s') (u : Uniq TypeD.name s.types) (nm : String) :
    s.findType nm = s'.findType nm := by
  unfold SchemaD.findType
  exact ListEqv.find_name_perm h.types u nm

private theorem matchingPairs_perm {o o' n n' : SchemaD} (ho : Reordered o o') (hn : Reordered n n')
    (un : Uniq TypeD.name n.types) (k : Kind) : (matchingPairs o n k).Perm (matchingPairs o' n' k) := by
  unfold matchingPairs
  have e := fun nm => find_name_filter_perm (name := TypeD.name) (fun t => t.kind == k) hn.types un nm
  simp only [e]
  exact (ho.types.filter _).filterMap _

/-- the report is permuted when the definitions of either schema are; only the NEW schema is searched for elements
    (the old one only for whether a name occurs), so only its names need to be unique -/
theorem diff_reordered (o o' n n' : SchemaD) (ho : Reordered o o') (hn : Reordered n n')
    (un : Uniq TypeD.name n.types) (udn : Uniq DirectiveD.name n.directives) (m : Nat) :
    (diffSchema o n m).Perm (diffSchema o' n' m) := by
  unfold diffSchema
  apply List.Perm.filter
  have en := fun nm => findType_perm hn un nm
  have eo : ∀ nm, (o.findType nm).isNone = (o'.findType nm).isNone := fun nm => ListEqv.findNone_perm _ ho.types
  have edn := fun nm => ListEqv.find_name_perm (name := DirectiveD.name) hn.directives udn nm
  have edo := fun nm => ListEqv.findNone_perm (fun y : DirectiveD => y.name == nm) ho.directives
  have h0 : (diffRootTypes o n).Perm (diffRootTypes o' n') := by
    unfold diffRootTypes
    rw [ho.query, ho.mutation, ho.subscription, hn.query, hn.mutation, hn.subscription]
  have h1 : (findRemovedTypes o n).Perm (findRemovedTypes o' n') := by
    unfold findRemovedTypes; simp only [en]; exact (ho.types.filter _).map _
  have h2 : (findAddedTypes o n).Perm (findAddedTypes o' n') := by
    unfold findAddedTypes; simp only [eo]; exact (hn.types.filter _).map _
  have h3 : (diffDirectives o n).Perm (diffDirectives o' n') := by
    unfold diffDirectives
    simp only [edn, edo]
    exact (List.Perm.flatMap_right _ ho.directives).append ((hn.directives.filter _).map _)
  have h4 : (findChangedTypes o n).Perm (findChangedTypes o' n') := by
    unfold findChangedTypes; simp only [en]; exact ho.types.filterMap _
  have mp := fun k => matchingPairs_perm ho hn un k
  have h5 : (diffUnionTypes o n).Perm (diffUnionTypes o' n') := by
    unfold diffUnionTypes; exact List.Perm.flatMap_right _ (mp _)
  have h6 : (diffEnumTypes o n).Perm (diffEnumTypes o' n') := by
    unfold diffEnumTypes; exact List.Perm.flatMap_right _ (mp _)
  have h7 : (diffObjectTypes o n).Perm (diffObjectTypes o' n') := by
    unfold diffObjectTypes; exact List.Perm.flatMap_right _ (mp _)
  have h8 : (diffInterfaceTypes o n).Perm (diffInterfaceTypes o' n') := by
    unfold diffInterfaceTypes; exact List.Perm.flatMap_right _ (mp _)
  have h9 : (diffInputTypes o n).Perm (diffInputTypes o' n') := by
    unfold diffInputTypes; exact List.Perm.flatMap_right _ (mp _)
  exact (((((((((h0.append h1).append h2).append h3).append h4).append h5).append h6).append h7).append h8).append h9)

/-- **Order independence**: permuting the type definitions and the directive definitions of the old
    and of the new schema (names unique, as in every `Schema` object, whose type map is a dictionary)
    permutes the report: the same changes are reported, the same number of times, at every filter. -/
theorem diff_perm (o o' n n' : SchemaD) (ho : Reordered o o') (hn : Reordered n n')
    (uo : Uniq TypeD.name o.types) (un : Uniq TypeD.name n.types)
    (udo : Uniq DirectiveD.name o.directives) (udn : Uniq DirectiveD.name n.directives) (m : Nat) :
    (diffSchema o n m).Perm (diffSchema o' n' m) :=
  diff_reordered o o' n n' ho hn un udn m

/-- the report, read as a multiset, is the same: every change is reported equally often -/
theorem diff_perm_count (o o' n n' : SchemaD) (ho : Reordered o o') (hn : Reordered n n')
    (uo : Uniq TypeD.name o.types) (un : Uniq TypeD.name n.types)
    (udo : Uniq DirectiveD.name o.directives) (udn : Uniq DirectiveD.name n.directives) (m : Nat) (c : Change) :
    (diffSchema o n m).count c = (diffSchema o' n' m).count c :=
  (diff_perm o o' n n' ho hn uo un udo udn m).count_eq c

/-- in particular "no breaking change reported" does not depend on the order of definitions -/
theorem no_breaking_perm (o o' n n' : SchemaD) (ho : Reordered o o') (hn : Reordered n n')
    (uo : Uniq TypeD.name o.types) (un : Uniq TypeD.name n.types)
    (udo : Uniq DirectiveD.name o.directives) (udn : Uniq DirectiveD.name n.directives) :
    diffSchema o n 2 = [] ↔ diffSchema o' n' 2 = [] := by
  have h := diff_perm o o' n n' ho hn uo un udo udn 2
  constructor
  · intro e; rw [e] at h; exact List.Perm.nil_eq h |>.symm
  · intro e; rw [e] at h; exact List.Perm.eq_nil h

/-! non-vacuity: two schemas listing the same definitions in another order meet the hypotheses, and the
    (non-empty) report of the edit is the same multiset -/
private def tQ : TypeD :=
  { kind := .object, name := "Query", fields := [{ name := "a", type := .named "Int" }, { name := "b", type := .named "E" }] }
private def tQ' : TypeD := { kind := .object, name := "Query", fields := [{ name := "b", type := .named "E" }] }
private def tE : TypeD := { kind := .enum, name := "E", values := [{ name := "A" }, { name := "B" }] }
private def tE' : TypeD := { kind := .enum, name := "E", values := [{ name := "A" }] }
private def dD : DirectiveD := { name := "d", locations := ["FIELD"] }
private def dK : DirectiveD := { name := "k", locations := ["QUERY"] }
private def tP : TypeD := { kind := .object, name := "P", fields := [{ name := "p", type := .named "Int" }, { name := "q", type := .named "Int" }] }
private def tP' : TypeD := { kind := .object, name := "P", fields := [{ name := "p", type := .named "Int" }] }
private def oEx : SchemaD := { types := [tQ, tP, tE], directives := [dD, dK] }
private def oEx' : SchemaD := { types := [tP, tE, tQ], directives := [dK, dD] }
private def nEx : SchemaD := { types := [tQ', tP', tE'], directives := [dD] }
private def nEx' : SchemaD := { types := [tE', tQ', tP'], directives := [dD] }

example : Reordered oEx oEx' ∧ Reordered nEx nEx' ∧ Uniq TypeD.name oEx.types ∧ Uniq TypeD.name nEx.types
    ∧ Uniq DirectiveD.name oEx.directives ∧ Uniq DirectiveD.name nEx.directives := by
  refine ⟨⟨?_, ?_, rfl, rfl, rfl⟩, ⟨?_, ?_, rfl, rfl, rfl⟩, ?_, ?_, ?_, ?_⟩
  · exact (List.perm_append_comm (l₁ := [tQ]) (l₂ := [tP, tE]))
  · exact List.Perm.swap _ _ _
  · exact (List.perm_append_comm (l₁ := [tQ', tP']) (l₂ := [tE']))
  · exact List.Perm.refl _
  all_goals exact ListEqv.nodup_uniq (by decide +kernel)

/-- the two reports differ as lists (the changes come out in another order) and agree as multisets -/
example : (diffSchema oEx nEx).length = 4 ∧ diffSchema oEx nEx ≠ diffSchema oEx' nEx' := by decide +kernel

end PyGql.Props.C20
