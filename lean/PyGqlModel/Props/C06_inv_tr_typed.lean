/-
  C06 - invariance under `Tr` (re-ordering of selections and of arguments at every depth, injective renaming of
  fragments) for the rules of `ProvedTyped`: the type-dependent rules (static contexts are untouched by `Tr`:
  `gnDoc_tr`), `FragmentsOnCompositeTypes`, `UniqueInputFieldNames`, `KnownDirectives`, `NoUnusedFragments`.
  Together with `spec_tr` (C06_inv_proved.lean) this covers `ProvedPermDefs`.
-/
import PyGqlModel.Props.C06_all
import PyGqlModel.Lemmas.ValidateCtxTr
import PyGqlModel.Lemmas.TypedEqView
namespace PyGql.Props.C06
open PyGql PyGql.Validate PyGql.Validate.Spec

theorem view_enter_tr (T : Tr) (s : SchemaD) (n : Node) (v : View) : View.enter s (T.node n) v = View.enter s n v :=
  T.view_enter s n v

theorem ancDown_tr (T : Tr) (n : Node) (x : List Anc) : ancDown (T.node n) x = ancDown n x := by
  cases n <;> rfl

theorem forall_typed_tr (T : Tr) (s : SchemaD) (d : Doc) (P : Node × View → Prop) :
    (∀ p ∈ typedNodes s (T.doc d), P p) ↔ (∀ q ∈ typedNodes s d, P (T.node q.1, q.2)) := by
  rw [typedNodes_eq_viewNodes, typedNodes_eq_viewNodes]
  exact forall_gnDoc_tr T (View.enter s) (view_enter_tr T s) d {} P

theorem spec_tr_more (T : Tr) (hinj : ∀ a b, T.frag a = T.frag b → a = b) (s : SchemaD) (fx : Fixes) (d : Doc) (r : Rule)
    (hr : r ∈ ProvedTyped) : SpecAll r s fx (T.doc d) ↔ SpecAll r s fx d := by
  simp only [ProvedTyped, List.mem_cons, List.not_mem_nil, or_false] at hr
  rcases hr with rfl | rfl | rfl | rfl | rfl | rfl | rfl | rfl
  · -- fields on correct type
    simp only [SpecAll, Spec.fieldsOnCorrectType, forall_typed_tr, T.forall_node_field]
  · -- scalar leafs
    simp only [SpecAll, Spec.scalarLeafs, forall_typed_tr, T.forall_node_field]
  · -- known argument names
    simp only [SpecAll, Spec.knownArgumentNames, forall_typed_tr, T.forall_node_field, T.forall_node_directive,
      Tr.dir, T.mem_args]
  · -- provided required arguments
    simp only [SpecAll, Spec.providedRequiredArguments, forall_typed_tr, T.forall_node_field, T.forall_node_directive,
      Tr.dir, T.mem_args]
  · -- fragments on composite types
    simp only [SpecAll, Spec.fragmentsOnCompositeTypes, forall_nodes_tr, T.forall_node_inline_of some,
      T.forall_node_fragmentDef]
  · -- unique input field names
    simp only [SpecAll, Spec.uniqueInputFieldNames, forall_nodes_tr, T.node_eq_value]
  · -- known directives
    simp only [SpecAll, Spec.knownDirectives, forall_gnDoc_tr T ancDown (ancDown_tr T), T.forall_node_directive, Tr.dir]
  · -- every fragment is spread somewhere: a spread of the renamed fragment is the image of a spread of the fragment
    have hs (name : String) : (∃ n ∈ nodes (T.doc d), ∃ ds, n = Node.spread (T.frag name) ds) ↔
        ∃ m ∈ nodes d, ∃ ds, m = Node.spread name ds := by
      constructor
      · rintro ⟨n, hn, ds, e⟩
        obtain ⟨m, hm, rfl⟩ := List.mem_map.mp ((nodes_tr T d).mem_iff.mp hn)
        cases m with
        | spread nm ds' =>
          injection e with e1
          cases hinj _ _ e1
          exact ⟨_, hm, ds', rfl⟩
        | _ => cases e
      · rintro ⟨_, hm, ds, rfl⟩
        exact ⟨_, (nodes_tr T d).mem_iff.mpr (List.mem_map_of_mem hm), ds.map T.dir, rfl⟩
    simp only [SpecAll, Spec.everyFragmentSpreadSomewhere, forall_nodes_tr, T.forall_node_fragmentDef, hs]

end PyGql.Props.C06
