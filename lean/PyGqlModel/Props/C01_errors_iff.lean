/-
  C01, error clause — THE EXACT CLASS of texts for which a position beyond the end of the text is reported (ledger L6).

  `Props/C01_errors_exact.lean` bounds the class from above (`EndsInEscape`: the last characters are `\` or `\u` + at most
  three hex digits — an over-approximation: `a\` ends like that, but is rejected at position 1).  Here the class is pinned
  down exactly, on the TEXT, with the lexical specification only:

      OpenEscape s   ⇔   s = (complete tokens and ignored runs) `"` (complete string characters) (truncated escape)

  `open_escape_error`                 OpenEscape s → the lexer raises NonTerminatedString at len + 1
  `error_position_iff_open_escape`    a lexer error is at len + 1  ⇔  OpenEscape s
  `error_in_range_iff`                a lexer error is within the text  ⇔  ¬ OpenEscape s
  `parse_text_error_in_range_iff`     the same for `parse`, `parse_value`, `parse_type` (lexer and parser errors, all flags)
  `openEscape_endsInEscape`           the exact class is inside the over-approximation `EndsInEscape`, strictly (`a\`)
-/
import PyGqlModel.Props.C01_errors_exact
import PyGqlModel.Lemmas.LexOpenEscape
import PyGqlModel.Lemmas.LexWrap
namespace PyGql.Props.C01
open PyGql PyGql.Parse PyGql.Ast PyGql.Lex
open PyGql.Spec.Lexical (IgnRun Lexeme Follow StrChars TruncatedEscape TiledBefore OpenEscape)

private theorem next_open (n : Nat) (ign body tail : Text) (hrun : IgnRun (34 :: (body ++ tail)) ign)
    (hb : StrChars body) (ht : TruncatedEscape tail) :
    next n (ign ++ 34 :: (body ++ tail)) = .error ⟨.nonTerminatedString, n + 1⟩ := by
  have htq : tq.isPrefixOf (34 :: (body ++ tail)) = false := by
    cases hb with
    | nil => rcases ht with rfl | ⟨hs', rfl, _, _⟩ <;> rfl
    | char c t _ h34 _ _ _ => simp [tq, List.isPrefixOf, Ne.symm h34]
    | esc e t _ _ => rfl
    | uni a b c d t _ _ => rfl
  rw [next_skip n ign _ hrun (tokenStart_quote _), next_quote n _ htq, readString, List.drop_succ_cons, List.drop_zero,
    readStringBody_open n body.length body (Nat.le_refl _) hb tail ht]
  rfl

private theorem run_open (n : Nat) (body tail : Text) (hb : StrChars body) (ht : TruncatedEscape tail) :
    ∀ pre, TiledBefore (34 :: (body ++ tail)) pre →
      ∃ toks, Run n (pre ++ 34 :: (body ++ tail)) toks (some ⟨.nonTerminatedString, n + 1⟩) := by
  intro pre hpre
  induction hpre with
  | done ign hrun => exact ⟨[], .err (next_open n ign body tail hrun hb ht)⟩
  | tok ign lex rest k v hrun hl hfo _ ih =>
    obtain ⟨toks, hr⟩ := ih
    have hnext := next_complete n ign lex (rest ++ 34 :: (body ++ tail)) v k
      (by rw [← List.append_assoc]; exact hrun) hl hfo
    have e : ign ++ (lex ++ rest) ++ 34 :: (body ++ tail) = ign ++ (lex ++ (rest ++ 34 :: (body ++ tail))) := by simp
    rw [e]
    exact ⟨_, .tok hnext hr⟩

/-- (⇐) a text that ends inside an open quoted string with a truncated escape is rejected with `NonTerminatedString`
    at `len(text) + 1` — one past the end of the submitted text (the value pinned by tests/test_lang/test_lexer.py). -/
theorem open_escape_error (s : Text) (h : OpenEscape s) :
    lexAll s = .error ⟨.nonTerminatedString, s.length + 1⟩ := by
  obtain ⟨pre, body, tail, rfl, hpre, hb, ht⟩ := h
  obtain ⟨toks, hr⟩ := run_open _ body tail hb ht pre hpre
  exact hr.lexAll

/-- **THE EXACT IFF** (L6): the lexer reports a position one past the end of the text EXACTLY WHEN the text ends inside
    an open quoted string with a truncated escape sequence. -/
theorem error_position_iff_open_escape (s : Text) (e : Lex.SynErr) (h : lexAll s = .error e) :
    e.pos = s.length + 1 ↔ OpenEscape s := by
  constructor
  · intro hp
    rcases lexAll_error_cases s e h with hi | ⟨_, ho⟩
    · exact absurd hi.1 (by omega)
    · exact ho
  · intro ho
    rw [open_escape_error s ho] at h
    cases h; rfl

/-- … equivalently: a lexer error lies within the submitted text exactly when the text is NOT of that class. Together with
    `error_in_range_partial` this closes the error clause of the property for the lexer: `ErrorInRangeStatement`
    restricted to the complement of `OpenEscape` is proved, and on `OpenEscape` it is refuted for every member. -/
theorem error_in_range_iff (s : Text) (e : Lex.SynErr) (h : lexAll s = .error e) : e.pos ≤ s.length ↔ ¬ OpenEscape s := by
  rw [← error_position_iff_open_escape s e h]
  rcases error_in_range_partial s e h with h' | ⟨h', _⟩ <;> omega

/-- the composed pipeline (`parse`, `parse_value`, `parse_type`; lexer and parser errors; all flags) -/
theorem parse_text_error_in_range_iff (fl : Flags) (s : Text) (e : TextErr)
    (h : parseTextE fl s = .error e ∨ parseValueTextE fl s = .error e ∨ parseTypeTextE fl s = .error e) :
    e.pos ≤ s.length ↔ ¬ OpenEscape s := by
  constructor
  · intro hle ho
    cases text_error_of_lex_error (open_escape_error s ho) h
    simp only [TextErr.pos] at hle
    omega
  · intro hno
    rcases parse_text_error_in_range_partial fl s e h with h' | ⟨le, rfl, hp, _⟩
    · exact h'
    · exact absurd ((error_position_iff_open_escape s le (text_lex_error h)).1 hp) hno

/-- the exact class lies inside the over-approximation of `Props/C01_errors_exact.lean` … -/
theorem openEscape_endsInEscape (s : Text) (h : OpenEscape s) : EndsInEscape s := endsInEscape_of_open h

/-- … strictly: `a\` ends in a truncated escape but not inside a string; it is rejected at position 1 (`\` is no token) -/
theorem endsInEscape_not_openEscape : EndsInEscape [97, 92] ∧ ¬ OpenEscape [97, 92] := by
  refine ⟨⟨[97], [], rfl, .inl rfl⟩, ?_⟩
  have h : lexAll [97, 92] = .error ⟨.unexpectedCharacter, 1⟩ := by decide +kernel
  exact (error_in_range_iff _ _ h).1 (by decide)

/-- `"\` — the refutation witness of `error_in_range_refuted` -/
example : OpenEscape [34, 92] := ⟨[], [], [92], rfl, .done [] .nil, .nil, .inl rfl⟩
/-- `{a(s:"x\n\u12` — tokens, then an open string with complete characters and a truncated `\u` escape -/
example : lexAll [123, 97, 40, 115, 58, 34, 120, 92, 110, 92, 117, 49, 50] = .error ⟨.nonTerminatedString, 14⟩ := by decide +kernel
example : OpenEscape [123, 97, 40, 115, 58, 34, 120, 92, 110, 92, 117, 49, 50] :=
  (error_position_iff_open_escape _ _ (show lexAll [123, 97, 40, 115, 58, 34, 120, 92, 110, 92, 117, 49, 50] = .error ⟨.nonTerminatedString, 14⟩ by decide +kernel)).1 rfl
/-- `"""\` is a block string: not of the class, reported at the end of the text -/
example : lexAll [34, 34, 34, 92] = .error ⟨.nonTerminatedString, 4⟩ := by decide +kernel
example : ¬ OpenEscape [34, 34, 34, 92] :=
  (error_in_range_iff _ _ (show lexAll [34, 34, 34, 92] = .error ⟨.nonTerminatedString, 4⟩ by decide +kernel)).1 (by decide)
/-- `"a" \` — the string is closed: `\` is an unexpected character at position 4 -/
example : ¬ OpenEscape [34, 97, 34, 32, 92] :=
  (error_in_range_iff _ _ (show lexAll [34, 97, 34, 32, 92] = .error ⟨.unexpectedCharacter, 4⟩ by decide +kernel)).1 (by decide)

end PyGql.Props.C01
