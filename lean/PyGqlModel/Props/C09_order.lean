/-
  C09 — document order at TRACE level, for EVERY schedule, and the `args` queue of
  `execute_fields_serially` as an invariant over the steps of the run.
-/
import PyGqlModel.Lemmas.ExecSerialOrder
import PyGqlModel.Props.C09

namespace PyGql.Props.C09
open PyGql.AsyncExec

/-- The queue state machine tied to the trace, over all steps: after `execute` and
    after ANY number of completions in ANY order, as long as the overall result waits on the serial callback
    holding the queue `args` (`tArgs top = some args`), the top-level resolvers invoked so far followed by the
    queue are exactly the top-level fields in document order — nothing was skipped, repeated or reordered, and
    nothing in the queue has been invoked; once no queue is left (finished or failed) the invoked ones are a
    prefix of the document order. -/
theorem serial_queue_invariant (fields : Flds) (schedule : List Nat) :
    match execute ⟨.mutation, fields⟩ {} with
    | (.exc _, s) => topKeys s.trace <+: fields.keys
    | (.ok top, s) =>
      match tArgs (runSched top s [] schedule).top with
      | some args => topKeys (runSched top s [] schedule).st.trace ++ args.keys = fields.keys
      | none => topKeys (runSched top s [] schedule).st.trace <+: fields.keys := by
  have hq := execute_q fields
  have hx := execute_serial fields
  cases hr : execute ⟨.mutation, fields⟩ {} with
  | mk r s =>
    rw [hr] at hq hx
    cases r with
    | exc e => exact hq
    | ok top =>
      simp only at hq hx ⊢
      have := runSched_q fields.keys schedule top s [] hx hq
      unfold OrdInv QOk at this
      exact this

/-- In the trace of every mutation under every schedule (all resolver modes,
    all outcomes) the top-level resolver invocations, in the order they happen, are a PREFIX of the top-level
    response keys in document order. -/
theorem top_calls_in_document_order (fields : Flds) (schedule : List Nat) :
    topKeys (runAsync ⟨.mutation, fields⟩ schedule).trace <+: fields.keys := by
  have h := serial_queue_invariant fields schedule
  unfold runAsync
  cases hr : execute ⟨.mutation, fields⟩ {} with
  | mk r s =>
    rw [hr] at h
    cases r with
    | exc e => exact h
    | ok top =>
      simp only at h ⊢
      cases ha : tArgs (runSched top s [] schedule).top with
      | none => rw [ha] at h; exact h
      | some args => rw [ha] at h; exact ⟨args.keys, h⟩

theorem jth_call_is_jth_field (fields : Flds) (schedule : List Nat) (j : Nat) (k : String)
    (h : (topKeys (runAsync ⟨.mutation, fields⟩ schedule).trace)[j]? = some k) : fields.keys[j]? = some k := by
  obtain ⟨t, ht⟩ := top_calls_in_document_order fields schedule
  rw [← ht]
  have hj : j < (topKeys (runAsync ⟨.mutation, fields⟩ schedule).trace).length := (List.getElem?_eq_some_iff.mp h).1
  rw [List.getElem?_append_left hj]
  exact h

/-- Trace level, EVERY schedule: at each top-level invocation
    `call [k]` in the trace (1) every resolver invoked before it — all of them belong to earlier top-level fields
    and their sub-selections — has finished, and (2) `k` is exactly the next top-level field in document order
    after those invoked before: the invocations before it are the fields in front of `k`, so no field written
    later than `k` has been invoked yet. -/
theorem no_later_call_before_earlier_done (fields : Flds) (schedule : List Nat) (pre post : List Ev) (k : String)
    (htrace : (runAsync ⟨.mutation, fields⟩ schedule).trace = pre ++ Ev.call [.key k] :: post) :
    ncalls pre = ndones pre ∧ topKeys pre ++ [k] <+: fields.keys := by
  refine ⟨serial_order fields schedule pre post k htrace, ?_⟩
  obtain ⟨t, ht⟩ := top_calls_in_document_order fields schedule
  rw [htrace] at ht
  exact ⟨topKeys post ++ t, by simpa using ht⟩

/-- non-vacuity: `mutation { m1 { c d } m2 m3 }` with `m1`, `c`, `d`, `m3` deferred; whatever the schedule
    prefix, the top-level invocations are `m1`, then `m1 m2 m3`. -/
example :
    let sub := Comp.obj (.cons "c" .deferred (.ok (.leaf 1)) (.cons "d" .deferred (.ok (.leaf 2)) .nil))
    let op : Op := ⟨.mutation, .cons "m1" .deferred (.ok sub) (.cons "m2" .sync (.ok (.leaf 5)) (.cons "m3" .deferred .rerr .nil))⟩
    topKeys (runAsync op [0]).trace = ["m1"] ∧ topKeys (runAsync op [0, 1]).trace = ["m1"]
      ∧ topKeys (runAsync op [0, 1, 0]).trace = ["m1", "m2", "m3"] ∧ op.fields.keys = ["m1", "m2", "m3"] := by
  decide +kernel

end PyGql.Props.C09
