/-
  C06 - property theorems: `PossibleFragmentSpreadsChecker` (5.5.2.3): type-dependent AND raising
  SkipNode; through the generic context walk with the stacks of `TypeInfoVisitor` as context, projected to the
  static views of the specification with `gnDoc_map`.
-/
import PyGqlModel.Props.C06_ctx
import PyGqlModel.Lemmas.ValidateTyped
import PyGqlModel.Lemmas.ValidateCtxMap
namespace PyGql.Props.C06
open PyGql PyGql.Validate PyGql.Validate.Spec

def badSpreadV (s : SchemaD) (fx : Fixes) (P : AL String) : Node → View → Bool
  | .spread name _, v =>
    match AL.get? P name, spreadParent fx v with
    | some ft, some p => isComposite s ft && isComposite s p && !typesOverlap s ft p
    | _, _ => false
  | .inline _ _, v =>
    match v.type, v.parent with
    | some (.named t), some p => isComposite s t && isComposite s p && !typesOverlap s t p
    | _, _ => false
  | _, _ => false

theorem pfs_enter (s : SchemaD) (fx : Fixes) (n : Node) (ti : TI) (rs : RS) (hn : n.isDoc = false) :
    enterRule s fx .possibleFragmentSpreads n ti rs =
      if badSpreadV s fx rs.pfsTypes n ti.view then (rs.err .possibleFragmentSpreads, true) else (rs, false) := by
  cases n with
  | document d => cases hn
  | spread name dirs =>
    cases ha : AL.get? rs.pfsTypes name with
    | none =>
      dsimp only [enterRule, badSpreadV]
      simp only [ha, Bool.false_eq_true, ↓reduceIte]
    | some ft =>
      cases hv : fx.v10 with
      | true =>
        cases hp : ti.parentType <;> dsimp only [enterRule, badSpreadV, spreadParent, TI.view] <;>
          simp only [ha, hv, hp, Bool.false_eq_true, ↓reduceIte]
      | false =>
        cases ht : ti.type with
        | none =>
          dsimp only [enterRule, badSpreadV, spreadParent, TI.view]
          simp only [ha, hv, ht, Bool.false_eq_true, ↓reduceIte]
        | some ty =>
          cases ty <;> dsimp only [enterRule, badSpreadV, spreadParent, TI.view] <;>
            simp only [ha, hv, ht, Bool.false_eq_true, ↓reduceIte]
  | inline on dirs =>
    cases ht : ti.type with
    | none =>
      dsimp only [enterRule, badSpreadV, TI.view]
      simp only [ht, Bool.false_eq_true, ↓reduceIte]
    | some ty =>
      cases hp : ti.parentType <;> cases ty <;> dsimp only [enterRule, badSpreadV, TI.view] <;>
        simp only [ht, hp, Bool.false_eq_true, ↓reduceIte]
  | _ => rfl

private theorem pfsLeave (s : SchemaD) (fx : Fixes) : ∀ n ti rs, leaveRule s fx .possibleFragmentSpreads n ti rs = rs :=
  leaveRule_id s fx .possibleFragmentSpreads (by decide)

def ctxSpreads (s : SchemaD) (fx : Fixes) (P : AL String) : CTX ⟨s, fx, [.possibleFragmentSpreads]⟩ TI where
  ctx st := st.ti
  down := tiEnter s
  up := tiLeave
  J t := t.directive = none
  Inv st := st.rs.pfsTypes = P
  bad n t := badSpreadV s fx P n t.view
  qskip _ _ := false
  qskipE _ _ _ _ h := by cases h
  qskip_fine _ _ h := by cases h
  qskip_ctx _ _ h := by cases h
  qskip_only _ _ h := by cases h
  qskip_sub _ _ h := by cases h
  F _ _ := 0
  G _ _ := 0
  restore n x h := tiLeave_tiEnter s n x (fun d e => h (by rw [e]; rfl))
  keepJ n x hn hj := by
    rw [directive_tiEnter s n x (fun d e => by rw [e] at hn; cases hn)]; exact hj
  enter_ctx n st := by rw [enter_single]
  leave_ctx n st := by rw [leave_single]
  enterI n st hn hi := by
    rw [enter_single, pfs_enter s fx n _ _ hn]
    split <;> exact hi
  leaveI n st _ hi := by rw [leave_single, pfsLeave]; exact hi
  skipE n st hn hi hb := by
    have h2 : (enter ⟨s, fx, [.possibleFragmentSpreads]⟩ n st).2 = true := by
      rw [enter_single, pfs_enter s fx n _ _ hn]; simp only [hi, hb, ↓reduceIte]
    refine ⟨h2, ?_⟩
    rw [leaveSkipped_enter_single s fx _ n st h2, pfs_enter s fx n _ _ hn]
    simp only [hi, hb, ↓reduceIte, E, RS.err, List.length_cons]
    exact Nat.lt_succ_self _
  skipI n st hn hi hb := by
    rcases hb with hb | hb
    · have h2 : (enter ⟨s, fx, [.possibleFragmentSpreads]⟩ n st).2 = true := by
        rw [enter_single, pfs_enter s fx n _ _ hn]; simp only [hi, hb, ↓reduceIte]
      rw [leaveSkipped_enter_single s fx _ n st h2, pfs_enter s fx n _ _ hn]
      simp only [hi, hb, ↓reduceIte, RS.err]
    · cases hb
  skip_ctx n st hn hi hb := by
    rcases hb with hb | hb
    · have h2 : (enter ⟨s, fx, [.possibleFragmentSpreads]⟩ n st).2 = true := by
        rw [enter_single, pfs_enter s fx n _ _ hn]; simp only [hi, hb, ↓reduceIte]
      rw [leaveSkipped_enter_single s fx _ n st h2]
    · cases hb
  noskip n st hn hi hb _ := by
    rw [enter_single, pfs_enter s fx n _ _ hn]
    simp only [hi, hb, Bool.false_eq_true, ↓reduceIte]
  enterE n st hn hi hb _ := by
    rw [enter_single, pfs_enter s fx n _ _ hn]
    simp only [hi, hb, Bool.false_eq_true, ↓reduceIte, E, Nat.add_zero]
  leaveE n st _ _ := by rw [leave_single, pfsLeave]; rfl

/-- **5.5.2.3 Fragment spread is possible** -/
theorem rule_possible_fragment_spreads_iff (s : SchemaD) (fx : Fixes) (d : Doc) :
    Silent s fx .possibleFragmentSpreads d ↔ Spec.possibleFragmentSpreads s fx d := by
  have he : enter ⟨s, fx, [.possibleFragmentSpreads]⟩ (.document d) {} =
      (({ ti := {}, rs := { ({} : RS) with pfsTypes := fragTypes s d } } : St), false) := by
    rw [enter_single]; rfl
  rw [silent_iff_ctx s fx .possibleFragmentSpreads (ctxSpreads s fx (fragTypes s d)) d _ he rfl rfl rfl
    (by intro st; rw [leave_single, pfsLeave]; rfl)]
  unfold Spec.possibleFragmentSpreads viewNodes
  show (∀ p ∈ gnDoc (tiEnter s) ({} : TI) d, okP (ctxSpreads s fx (fragTypes s d)) p) ↔ _
  have hmap := fun P => forall_gnDoc_map TI.view (tiEnter s) (View.enter s) (view_enter s) d ({} : TI) P
  rw [view_empty] at hmap
  rw [hmap]
  refine forall_congr' fun p => forall_congr' fun _ => ?_
  obtain ⟨n, t⟩ := p
  simp only [okP, ctxSpreads, and_true]
  cases n with
  | spread name dirs =>
    simp only [badSpreadV, Node.spread.injEq, reduceCtorEq, false_implies, implies_true, and_true]
    constructor
    · intro h nm ds e ft p hft hp c1 c2
      obtain ⟨rfl, rfl⟩ := e
      rw [hft, hp] at h
      simp only [c1, c2, Bool.true_and, Bool.not_eq_eq_eq_not, Bool.not_false] at h
      exact h
    · intro h
      cases hft : AL.get? (fragTypes s d) name with
      | none => rfl
      | some ft =>
        cases hp : spreadParent fx t.view with
        | none => rfl
        | some p =>
          simp only
          cases c1 : isComposite s ft <;> cases c2 : isComposite s p <;> simp
          exact h name dirs ⟨rfl, rfl⟩ ft p hft hp c1 c2
  | inline on dirs =>
    simp only [badSpreadV, Node.inline.injEq, reduceCtorEq, false_implies, implies_true, true_and]
    constructor
    · intro h o ds e ty p hty hp c1 c2
      rw [hty, hp] at h
      simp only [c1, c2, Bool.true_and, Bool.not_eq_eq_eq_not, Bool.not_false] at h
      exact h
    · intro h
      cases hty : t.view.type with
      | none => rfl
      | some ty =>
        cases ty with
        | named tn =>
          cases hp : t.view.parent with
          | none => rfl
          | some p =>
            simp only
            cases c1 : isComposite s tn <;> cases c2 : isComposite s p <;> simp
            exact h on dirs ⟨rfl, rfl⟩ tn p hty hp c1 c2
        | list _ => rfl
        | nonNull _ => rfl
  | _ => exact ⟨fun _ => ⟨fun _ _ e => (nomatch e), fun _ _ e => (nomatch e)⟩, fun _ => rfl⟩

end PyGql.Props.C06
