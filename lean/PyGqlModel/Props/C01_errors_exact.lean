/-
  C01, error clause — WHAT EXACTLY the `_partial` position theorems exclude.

  `error_in_range_partial` / `parse_text_error_in_range_partial` say "position ≤ len, or NonTerminatedString at len + 1"
  (ledger L6, pinned by tests/test_lang/test_lexer.py).  Here the excluded case is pinned down on the TEXT:
  a position beyond the end is only ever reported for a text that ENDS INSIDE AN ESCAPE SEQUENCE — its last characters
  are `\` or `\u` followed by at most three hex digits (`EndsInEscape`).  For every other text the full statement
  (`ErrorInRangeStatement`, `ParseTextErrorInRangeStatement`) holds: lexer and parser errors, `parse`, `parse_value`,
  `parse_type`, all flags.
-/
import PyGqlModel.Props.C01_parse_errors
namespace PyGql.Props.C01
open PyGql PyGql.Parse PyGql.Ast
open PyGql.Lex (EndsInEscape)

/-- the lexer: a reported position beyond the end of the text implies the text ends inside an escape sequence -/
theorem error_in_range_or_truncated_escape (s : Text) (e : Lex.SynErr) (h : Lex.lexAll s = .error e) :
    e.pos ≤ s.length ∨ EndsInEscape s :=
  (Lex.lexAll_error_cases s e h).imp (·.1) fun h => Lex.endsInEscape_of_open h.2

/-- THE FULL STATEMENT holds for every text that does not end inside an escape sequence -/
theorem error_in_range_except_truncated_escape (s : Text) (hs : ¬ EndsInEscape s) (e : Lex.SynErr)
    (h : Lex.lexAll s = .error e) : e.pos ≤ s.length :=
  (error_in_range_or_truncated_escape s e h).resolve_right hs

/-- in particular for every text without a backslash -/
theorem not_endsInEscape_of_no_backslash (s : Text) (h : 92 ∉ s) : ¬ EndsInEscape s := by
  rintro ⟨pre, hs, rfl, _⟩
  exact h (by simp)

/-- the composed pipeline (`parse`, `parse_value`, `parse_type`, all flags, lexer AND parser errors): the full
    statement for every text that does not end inside an escape sequence -/
theorem parse_text_error_in_range_except_truncated_escape (fl : Flags) (s : Text) (hs : ¬ EndsInEscape s) (e : TextErr)
    (h : parseTextE fl s = .error e ∨ parseValueTextE fl s = .error e ∨ parseTypeTextE fl s = .error e) :
    e.pos ≤ s.length := by
  rcases parse_text_error_in_range_partial fl s e h with h' | ⟨le, rfl, hp, _⟩
  · exact h'
  · exact error_in_range_except_truncated_escape s hs le (text_lex_error h)

/-- the excluded class is not empty on the code (the refutation witness of `error_in_range_refuted` is in it), and the
    hypothesis of the theorems above holds for ordinary texts -/
example : EndsInEscape [34, 92] := ⟨[34], [], rfl, .inl rfl⟩
example : EndsInEscape [34, 92, 117, 49] := ⟨[34], [117, 49], rfl, .inr ⟨[49], rfl, by decide, by decide⟩⟩
example : ¬ EndsInEscape [49, 46] := not_endsInEscape_of_no_backslash _ (by decide)
example : Lex.lexAll [49, 46] = .error ⟨.unexpectedEOF, 2⟩ := by decide +kernel

end PyGql.Props.C01
