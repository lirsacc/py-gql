/-
  C13 — what fix C13-S12 (in /repo: the comparison `Schema.validate()` makes covers everything the
  validator reads) adds: cache soundness over EVERY public mutator. Kept apart from Props/C13.lean because the
  theorems below hold exactly when the flag `cfgCacheTracksStructure`, re-extracted from `_current_resolvers` on every
  run, is `true`: on a tree without the fix this file (and only this file) stops compiling.
-/
import PyGqlModel.Props.C13

set_option linter.unusedSimpArgs false

namespace PyGql.Props.C13
open PyGql PyGql.SchemaValid PyGql.SchemaValidSpec PyGql.Generated.SchemaValidTables

/-- fix C13-S12 is in the tree: the comparison `validate()` makes covers everything the validator reads (root types,
    names, fields and their types, interfaces, union members, enum values, input fields, directives) -/
private theorem cache_tracks_structure : cfgCacheTracksStructure = true := by decide

/-- **FULL with fix C13-S12** (without it refuted: `cache_sound_all_mutators_fails_today`): every operation of the machine,
    with NO side condition on structural plain assignments, keeps "cached-valid ⇒ the current schema is valid". -/
theorem cache_sound_all_mutators : CacheSoundAllMutators := by
  intro st h op hrep
  apply step_inv st op _ h
  cases op with
  | replaceTypes es ds hl => exact hrep es ds hl rfl
  | assignStructure s' seen => exact Or.inl cache_tracks_structure
  | validate => trivial
  | registerDefaultResolver tn r a => trivial
  | registerResolver tn fn r a sm => trivial
  | registerSubscription tn fn r a sm => trivial
  | assignResolver lvl tn fn r sm => trivial
  | assignArguments tn fn args => trivial

/-- every history over ALL mutators, honest replace requests being the only condition -/
theorem cache_sound_every_history (st : CacheState) (h : CacheInv st) (ops : List Op)
    (hh : ∀ pre op, (∃ post, ops = pre ++ op :: post) →
      ∀ es ds hl, op = .replaceTypes es ds hl → HonestOp (run st pre) op) :
    CacheInv (run st ops) := by
  induction ops generalizing st with
  | nil => exact h
  | cons op ops ih =>
    have h1 := cache_sound_all_mutators st h op (hh [] op ⟨ops, rfl⟩)
    apply ih _ h1
    intro pre op' ⟨post, e⟩
    exact hh (op :: pre) op' ⟨post, by rw [e]; rfl⟩

private def sInt : TypeD := { kind := .scalar, name := "Int", builtin := true }
private def sQuery : TypeD := { kind := .object, name := "Query", fields := [{ name := "a", type := .named "Int" }] }
private def sA : TypeD := { kind := .object, name := "A", fields := [{ name := "a", type := .named "Int" }] }
private def sState : CacheState := { schema := { types := [sInt, sQuery, sA] }, isValid := true }
private def sBad : SchemaD := { types := [sInt, sQuery, { sA with interfaces := ["Query"] }] }

/-- non-vacuity on today's tree: `A.interfaces = [Query]` after a cached verdict, NOT seen by the probe of the old
    comparison, followed by `validate()`: recomputed and rejected -/
example : CacheInv sState ∧ runTrace sState [.assignStructure sBad false, .validate] = [.ok, .validationError] :=
  ⟨fun _ => (validate_iff _ _).1 (by decide +kernel), by decide +kernel⟩

end PyGql.Props.C13
