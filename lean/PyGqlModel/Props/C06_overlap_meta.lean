/-
  C06 - WHY `noMetaSubsB` IS A REAL EXCLUSION of the clause-level statements, and what an
  extension below `__schema { … }` / `__type { … }` has to assume.

  Below a meta field with a sub-selection the overlap search has TWO parent types for the sub-selection set: the one
  `TypeInfoVisitor` shows (`__Schema` / `__Type`, through `_get_field_def`, which knows the meta fields) when the
  visitor enters the set, and `None` when `_find_conflict` reaches the set first (two `__schema` selections under one
  response name: `parent_type.field_map` does not know the meta fields). `ctx.fields_and_fragments` caches the FIRST one.
  With parent `None` the direct fields of the set have no definition, so a response-shape conflict with a field of an
  inline fragment goes unseen:

      `{ __schema { x ... on Impl { x } } }`                         reported (Int vs String)
      `{ __schema { x ... on Impl { x } } __schema { y: x } }`        NOT reported - an unrelated sibling hides it

  (`meta_sibling_hides_report`, model; the same on the real validator with the real introspection types:
  `{ __schema { queryType { name ... on __Field { name } } } }` is reported by the rule alone - String vs String! -, and
  no longer when `__schema { queryType { kind } }` is added. In both cases PossibleFragmentSpreads rejects the document,
  so the VERDICT of the chain is the same: no violation of the property - the introspection types are object types, a
  shape conflict below a meta field needs an impossible spread.)

  Consequences, machine-checked below:
    * `ParentsAgree` is false on such documents (`parentsAgree_false_below_meta`);
    * `rule_overlapping_fields_memo_iff` does NOT hold without `ParentsAgree`, whatever weaker agreement one assumes
      of the parent types alone (`memo_iff_needs_parentsAgree`): the rule is silent on the second document and the
      clause fails. An extension of `accepted_spec_valid_all_memo` below meta fields must therefore use the OTHER rules'
      clauses (PossibleFragmentSpreads) together with a hypothesis that pins the introspection types of the schema
      description to object types (`MetaExtensionStatement`, open).
    * THE WEAKER NOTION that does hold below meta fields (`ParentsAgreeOrNone`, `parentsAgreeOrNone_of_rules`): every
      admissible parent type of a selection set is the one the visitor shows, or `none` - the search never derives a
      WRONG parent type, it derives NONE (given that no type of the schema defines a field named `__schema` / `__type`
      and `__typename` has no sub-selection); two admissible parent types differ only if one of them is `none`
      (`parents_agree_up_to_none`). It replaces `noMetaSubsB` in the DERIVATION of the parent types; it does not by
      itself give the rule's equivalence (see above).
-/
import PyGqlModel.Props.C06_inv_verdict
import PyGqlModel.Lemmas.ValidateOverlapParentsMeta
namespace PyGql.Props.C06
open PyGql PyGql.Validate PyGql.Validate.Spec

/-- `type Query { a: Int }` + an object type `__Schema { x: Int }` (what `__schema` returns) + `Impl { x: String }` -/
def mSchema : SchemaD :=
  { types := [
      { kind := .scalar, name := "Int" }, { kind := .scalar, name := "String" }, { kind := .scalar, name := "Boolean" },
      { kind := .object, name := "__Schema", fields := [{ name := "x", type := .named "Int" }] },
      { kind := .object, name := "Impl", fields := [{ name := "x", type := .named "String" }] },
      { kind := .object, name := "Query", fields := [{ name := "a", type := .named "Int" }] }],
    query := some "Query",
    directives := [] }

def mSub : List Sel := [fld none "x", .inline (some "Impl") [] 3 [fld none "x"]]
/-- `{ __schema { x ... on Impl { x } } }` -/
def mDoc1 : Doc := ⟨[opV [] 1 [.field none "__schema" [] [] true 2 mSub]]⟩
/-- `{ __schema { x ... on Impl { x } } __schema { y: x } }` -/
def mDoc2 : Doc := ⟨[opV [] 1 [.field none "__schema" [] [] true 2 mSub, .field none "__schema" [] [] true 4 [fld (some "y") "x"]]]⟩

/-- **an unrelated sibling hides a report below a meta field** (the parent-type cache keeps `None`) -/
theorem meta_sibling_hides_report :
    (overlapMemoRun mSchema Fixes.all mDoc1).1 = 1 ∧ (overlapMemoRun mSchema Fixes.all mDoc2).1 = 0 := by
  decide +kernel

example : wfIdsB mDoc2 = true ∧ noMetaSubsB mDoc2 = false := by decide

/-- the context `TypeInfoVisitor` shows inside the first `__schema { … }` of `mDoc2` -/
def mView : View :=
  View.enter mSchema (.selectionSet 2 mSub) (View.enter mSchema (.field "__schema" [] [] true)
    (View.enter mSchema (.selectionSet 1 (match mDoc2.defs with | [.op _ _ _ _ _ sels] => sels | _ => []))
      (View.enter mSchema (.operation "query" none [] [] (match mDoc2.defs with | [.op _ _ _ _ _ sels] => sels | _ => [])) {})))

theorem mView_parent : mView.parent = some "__Schema" := by decide +kernel

theorem mTyped : (Node.selectionSet 2 mSub, mView) ∈ typedNodes mSchema mDoc2 :=
  List.mem_cons_of_mem _ (List.mem_cons_of_mem _ (List.mem_cons_of_mem _ (List.mem_cons_self ..)))

theorem mSelSet : SelSet mDoc2 2 mSub := typed_node_mem mTyped

theorem mAdmWalk : Adm mSchema mDoc2 2 (some "__Schema") := by
  have := Adm.walk mTyped
  rwa [mView_parent] at this

theorem mAdmNone : Adm mSchema mDoc2 2 none := by
  have htop : (Node.selectionSet 1 [.field none "__schema" [] [] true 2 mSub, .field none "__schema" [] [] true 4 [fld (some "y") "x"]],
      View.enter mSchema (.selectionSet 1 [.field none "__schema" [] [] true 2 mSub, .field none "__schema" [] [] true 4 [fld (some "y") "x"]])
        (View.enter mSchema (.operation "query" none [] [] [.field none "__schema" [] [] true 2 mSub, .field none "__schema" [] [] true 4 [fld (some "y") "x"]]) {}))
      ∈ typedNodes mSchema mDoc2 := List.mem_cons_of_mem _ (List.mem_cons_self ..)
  have h := Adm.sub (Adm.walk htop) (typed_node_mem htop)
    (CollD.field (s := mSchema) (alias := none) (name := "__schema") (args := []) (dirs := []) (hasSub := true) (ssid := 2)
      (sub := mSub) (List.mem_cons_self ..)) rfl
  -- the unwrapped type of `__schema` on `Query` as `parent_type.field_map` sees it: none
  exact Eq.mp (congrArg (Adm mSchema mDoc2 2) (by decide +kernel)) h

/-- **`ParentsAgree` is false below a meta field** (schema with the introspection types as composite types) -/
theorem parentsAgree_false_below_meta : ¬ Spec.ParentsAgree mSchema mDoc2 := fun h => by
  have := h 2 _ _ mAdmWalk mAdmNone
  cases this

/-- the clause of 5.3.2 fails on `mDoc2`: under the parent type the visitor shows, `x: Int` (on `__Schema`) and
    `x: String` (on `Impl`) have different response shapes -/
theorem mDoc2_clause_fails : ¬ Spec.overlappingFieldsCanBeMerged mSchema mDoc2 := fun H => by
  refine H 2 mSub mSelSet (some "__Schema") mAdmWalk "x"
    { parent := some "__Schema", name := "x", args := [], hasSub := false, ssid := 0, sub := [],
      fdef := (some "__Schema").bind fun p => ovFieldOf mSchema p "x" }
    { parent := inlineParent mSchema (some "__Schema") (some "Impl"), name := "x", args := [], hasSub := false, ssid := 0,
      sub := [], fdef := (inlineParent mSchema (some "__Schema") (some "Impl")).bind fun p => ovFieldOf mSchema p "x" }
    (Or.inl (CollD.field (alias := none) (dirs := []) (List.mem_cons_self ..)))
    (Or.inl (CollD.inline (on := some "Impl") (dirs := []) (id := 3) (sub := [fld none "x"])
      (List.mem_cons_of_mem _ (List.mem_cons_self ..)) (CollD.field (alias := none) (dirs := []) (List.mem_cons_self ..))))
    (Conf.types (t1 := .named "Int") (t2 := .named "String") (by decide) (by decide) (by decide))

/-- **the equivalence for the memoised rule needs `ParentsAgree`**: with `WfIds` and non-empty names alone it is false -/
theorem memo_iff_needs_parentsAgree :
    ¬ (∀ (s : SchemaD) (fx : Fixes) (d : Doc), fx.v7 = true → WfIds d → AL.get? (fragTable d) "" = none →
      ((overlapMemoRun s fx d).1 = 0 ↔ Spec.overlappingFieldsCanBeMerged s d)) := fun h =>
  mDoc2_clause_fails ((h mSchema Fixes.all mDoc2 rfl (by rw [← wfIdsB_iff]; decide) (by decide)).mp
    meta_sibling_hides_report.2)

/-- what an extension of `accepted_spec_valid_all_memo` below meta fields would state (OPEN): for a schema description
    whose types reachable from `__Schema` / `__Type` are object or leaf types (`hobj`, what the real introspection
    types are), the document check `noMetaSubsB` can be dropped -/
def MetaExtensionStatement : Prop :=
  ∀ (s : SchemaD) (fx : Fixes) (d : Doc), HeadVars fx → SchemaOutputs s →
    (∀ t ∈ s.types, t.name.startsWith "__" = true → t.kind = .object ∨ t.kind = .scalar ∨ t.kind = .enum) →
    wfIdsB d = true → NamesNonEmpty d →
    (∀ r ∈ Rule.all, SilentM s fx r d) → ∀ r ∈ Rule.all, SpecAll r s fx d

/-- every admissible parent type of a selection set is the one `TypeInfoVisitor` shows inside it, or `none` -/
def ParentsAgreeOrNone (s : SchemaD) (d : Doc) : Prop := ∀ i p, Adm s d i p → p = none ∨ WalkP s d i p

/-- computable form of `NoReservedFields` -/
def noReservedFieldsB (s : SchemaD) : Bool :=
  s.types.all fun t => t.fields.all fun f => f.name != "__schema" && f.name != "__type"

theorem noReservedFields_of_check (s : SchemaD) (h : noReservedFieldsB s = true) : NoReservedFields s := by
  have key : ∀ T name, (name = "__schema" ∨ name = "__type") → fieldOf s T name = none := by
    intro T name hn
    unfold fieldOf
    split
    · cases hft : s.findType T with
      | none => rfl
      | some t =>
        simp only [Option.bind_some]
        have ht : t ∈ s.types := List.mem_of_find?_eq_some hft
        unfold noReservedFieldsB at h
        rw [List.all_eq_true] at h
        have h2 := h t ht
        rw [List.all_eq_true] at h2
        rw [List.find?_eq_none]
        intro f hf
        have := h2 f hf
        rcases hn with rfl | rfl <;> simp_all
    · rfl
  exact fun T => ⟨key T _ (Or.inl rfl), key T _ (Or.inr rfl)⟩

/-- **the weaker notion from the other rules' clauses - WITHOUT `noMetaSubsB`**: the clauses of ScalarLeafs and
    FragmentsOnCompositeTypes, output-typed schema fields, no field with a reserved meta name in the schema, no
    `__typename { … }`, well-formed identities -/
theorem parentsAgreeOrNone_of_rules (s : SchemaD) (d : Doc) (hs : SchemaOutputs s) (hres : NoReservedFields s)
    (hsl : Spec.scalarLeafs s d) (hfc : Spec.fragmentsOnCompositeTypes s d) (hnt : NoTypenameSubs d) (hw : WfIds d) :
    ParentsAgreeOrNone s d :=
  fun _ _ h => adm_walk_or_none hs hsl hfc hres hnt hw h

theorem parents_agree_up_to_none {s : SchemaD} {d : Doc} (h : ParentsAgreeOrNone s d) (hw : WfIds d) :
    ∀ i p q, Adm s d i p → Adm s d i q → p = q ∨ p = none ∨ q = none := by
  intro i p q hp hq
  rcases h i p hp with rfl | ⟨s1, v1, m1, e1⟩
  · exact Or.inr (Or.inl rfl)
  · rcases h i q hq with rfl | ⟨s2, v2, m2, e2⟩
    · exact Or.inr (Or.inr rfl)
    · have := typed_unique hw m1 m2 (k := i) rfl rfl
      cases this
      exact Or.inl (e1.symm.trans e2)

theorem adm_selSet {s : SchemaD} {d : Doc} {i : Nat} {p : Option String} (hp : Adm s d i p) : ∃ sels, SelSet d i sels := by
  induction hp with
  | walk hm => exact ⟨_, typed_node_mem hm⟩
  | frag ht => exact ⟨_, fragTable_selSet ht⟩
  | sub _ hs hc hsub _ => exact ⟨_, selSet_sub hs hc hsub⟩

/-- `ParentsAgree` is the special case "no admissible parent type is `none` unless the visitor's is" -/
theorem parentsAgreeOrNone_of_parentsAgree {s : SchemaD} {d : Doc} (hpa : Spec.ParentsAgree s d) :
    ParentsAgreeOrNone s d := by
  intro i p hp
  obtain ⟨sels, hs⟩ := adm_selSet hp
  obtain ⟨v, hm⟩ := selSet_typed (s := s) hs
  exact Or.inr ⟨sels, v, hm, hpa i _ _ (Adm.walk hm) hp⟩

/-- non-vacuity: the witness document - on which `ParentsAgree` is FALSE - satisfies every hypothesis of
    `parentsAgreeOrNone_of_rules` -/
example : ParentsAgreeOrNone mSchema mDoc2 :=
  parentsAgreeOrNone_of_rules mSchema mDoc2 (schemaOutputs_of_check mSchema (by decide))
    (noReservedFields_of_check mSchema (by decide))
    ((rule_scalar_leafs_iff mSchema Fixes.all mDoc2).mp (by unfold Silent; decide +kernel))
    ((rule_fragments_on_composite_types_iff mSchema Fixes.all mDoc2).mp (by unfold Silent; decide +kernel))
    (by
      intro n hn name args dirs e
      subst e
      simp [nodes, mDoc2, mSub, opV, fld, defNodes, selsNodes, selNodes, argsNodes, dirsNodes] at hn
      rw [hn.1]; decide)
    (by rw [← wfIdsB_iff]; decide)

end PyGql.Props.C06
