/-
  C07 — every headline soundness theorem APPLIES to a registry with the stand-in scalar
  (non-vacuity). Each theorem below discharges ALL hypotheses of one headline
  theorem on `StandIn.reg` (`scalar Any  enum Color  input Box {any: Any = "dflt", must: Any!, many: [Any!], n: Int! = 3, c: Color}`)
  for an input that reaches the stand-in scalar — at a non-null position, inside a list, inside an input object, through a
  variable, and as a list / object LITERAL at the scalar position (`VarsFit.scalarPos`) — and uses it to conclude.
  The model values in each evaluated equation are what the real code answers (stream `standin` of harness/corr/C07.py).
-/
import PyGqlModel.Props.C07_regok


namespace PyGql.Props.C07
open PyGql PyGql.Coerce

namespace StandIn

/-- `f(a: Any!, box: Box, d: Any = "dflt")`, as `build_schema` registers it (python names = names) -/
def argDefs : List InField :=
  [ { name := "a", pyName := "a", type := .nonNull (.named "Any"), default := none },
    { name := "box", pyName := "box", type := .named "Box", default := none },
    { name := "d", pyName := "d", type := .named "Any", default := some (.str "dflt") } ]

theorem argsOK : ArgsOK reg argDefs :=
  ⟨by intro d hd; simp [argDefs] at hd; rcases hd with rfl | rfl | rfl <;> rfl,
   by
    intro d hd v hv
    simp [argDefs] at hd
    rcases hd with rfl | rfl | rfl <;> simp at hv
    subst hv
    exact .custom get_any dflt_customOK,
   by decide +kernel⟩

/-- `{ k: f(a: [$v, 1], box: {must: $v}) }` -/
def args : List (String × Lit) := [("a", .list [.var "v", .int 1]), ("box", .obj [("must", .var "v")])]

private theorem notVar_list {items : List Lit} : ∀ x, Lit.list items ≠ .var x := fun x h => by cases h
private theorem notVar_obj {kvs : List (String × Lit)} : ∀ x, Lit.obj kvs ≠ .var x := fun x h => by cases h

/-- the variable `$v` holds the int 3, which the stand-in's `parse` produced from the JSON 3 -/
theorem three_customOK : CustomOK reg "Any" (.int 3) :=
  .inl ⟨.int 3, rfl, by simp [reg, Reg.ofTypes, defaultScalarParse, jvAllFinite, pvOfJson]⟩

theorem args_varsFit : ∀ d, d ∈ argDefs → ∀ l, lookupLast d.name args = some l → VarsFit reg (some [("v", .int 3)]) d.type l := by
  intro d hd l hl
  simp [argDefs] at hd
  rcases hd with rfl | rfl | rfl <;> simp [args, lookupLast] at hl
  · subst hl; exact .scalarPos (n := "Any") rfl get_any notVar_list
  · subst hl
    refine .obj (n := "Box") (fs := boxFields) rfl get_box (fun f hf l hl => ?_)
    simp [boxFields] at hf
    rcases hf with rfl | rfl | rfl | rfl | rfl <;> simp [lookupLast] at hl
    subst hl
    refine .var (fun vs v hvs hv _ => ?_)
    cases hvs
    simp [lookupLast] at hv; subst hv
    exact .custom get_any three_customOK

/-- `query ($v: Any!)` -/
def varDefs : List VarDef := [{ name := "v", type := .nonNull (.named "Any"), default := none }]

theorem args_varsAllowed : ∀ d, d ∈ argDefs → ∀ l, lookupLast d.name args = some l → VarsAllowed reg varDefs d.type d.default.isSome l := by
  intro d hd l hl
  simp [argDefs] at hd
  rcases hd with rfl | rfl | rfl <;> simp [args, lookupLast] at hl
  · subst hl; exact .scalarPos (n := "Any") rfl get_any notVar_list
  · subst hl
    refine .obj (n := "Box") (fs := boxFields) rfl get_box (fun f hf l hl => ?_)
    simp [boxFields] at hf
    rcases hf with rfl | rfl | rfl | rfl | rfl <;> simp [lookupLast] at hl
    subst hl
    refine .var (fun d hd _ => ?_)
    simp [varDefs] at hd; subst hd; rfl

def tbl : ArgTable := fun _ _ => some argDefs
def world : TWorld := fun _ _ _ _ => .leaf
def sels : List SelT := [SelT.mk "k" "f" args []]

/-- what the resolver of `k` receives for `{"v": {"x": 1}}` -/
def kwargs : List (String × PV) :=
  [("a", .list [.dict [("x", .int 1)], .str "1"]),
   ("box", .dict [("any", .str "dflt"), ("must", .dict [("x", .int 1)]), ("n", .int 3)]),
   ("d", .str "dflt")]

private theorem inTree_sels {sel : SelT} (h : InTree sel sels) : sel = SelT.mk "k" "f" args [] := by
  cases h with
  | here hm => simpa [sels] using hm
  | deeper hm hin =>
    rename_i s
    have hs : s = SelT.mk "k" "f" args [] := by simpa [sels] using hm
    subst hs
    cases hin with
    | here hm' => simp [SelT.sub] at hm'
    | deeper hm' _ => simp [SelT.sub] at hm'

end StandIn

open StandIn

/-- `variable_sound` applies: a JSON object for `Box` with a list holding a null at `must: Any!` and an object item in `many: [Any!]` -/
theorem variable_sound_applies_with_default_scalar :
    Conforms StandIn.reg (.named "Box")
      (.dict [("any", .str "dflt"), ("must", .list [.int 1, .none]), ("many", .list [.dict [("k", .bool true)]]), ("n", .int 3)]) :=
  variable_sound regOK_satisfiable_with_default_scalar 6 (.named "Box")
    (.obj [("must", .list [.int 1, .null]), ("many", .list [.obj [("k", .bool true)]])]) _ rfl (by decide +kernel)

theorem variable_sound_total_applies_with_default_scalar :
    Conforms StandIn.reg (.nonNull (.named "Any")) (.list [.int 1, .none]) :=
  variable_sound_total regOK_satisfiable_with_default_scalar (.nonNull (.named "Any")) (.list [.int 1, .null]) _ rfl (by decide +kernel)

/-- `literal_sound` applies, with a variable environment, to an OBJECT LITERAL at `must: Any!` that contains a variable and `[null]` -/
theorem literal_sound_applies_with_default_scalar :
    Conforms StandIn.reg (.named "Box")
      (.dict [("any", .str "dflt"), ("must", .dict [("a", .int 3), ("b", .list [.none])]), ("n", .int 3), ("c", .str "RED")]) := by
  refine literal_sound regOK_satisfiable_with_default_scalar (some [("v", .int 3)]) 6 (.named "Box")
    (.obj [("must", .obj [("a", .var "v"), ("b", .list [.null])]), ("c", .enum "RED")]) _ rfl (.inr ?_) (by decide +kernel)
  refine .obj (n := "Box") (fs := boxFields) rfl get_box (fun f hf l hl => ?_)
  simp [boxFields] at hf
  rcases hf with rfl | rfl | rfl | rfl | rfl <;> simp [lookupLast] at hl
  · subst hl; exact .scalarPos (n := "Any") rfl get_any (fun x h => by cases h)
  · subst hl; exact .leaf rfl

/-- `literal_sound_total` applies (constant literal: a default of a variable definition) -/
theorem literal_sound_total_applies_with_default_scalar :
    Conforms StandIn.reg (.list (.nonNull (.named "Any"))) (.list [.str "1", .list [.none]]) :=
  literal_sound_total regOK_satisfiable_with_default_scalar none (.list (.nonNull (.named "Any"))) (.list [.int 1, .list [.null]]) _ rfl
    (.inl rfl) (by decide +kernel)

/-- `variables_sound` applies: `query ($v: Any!)` with `{"v": {"x": 1}}` -/
theorem variables_sound_applies_with_default_scalar :
    ∃ d, d ∈ varDefs ∧ d.name = "v" ∧ Conforms StandIn.reg d.type (.dict [("x", .int 1)]) :=
  variables_sound regOK_satisfiable_with_default_scalar 6 [("v", .obj [("x", .int 1)])] varDefs [("v", .dict [("x", .int 1)])]
    (by intro d hd; simp [varDefs] at hd; subst hd; rfl) (by decide +kernel) ("v", .dict [("x", .int 1)]) (by simp)

/-- `arguments_sound` applies: `f(a: [$v, 1], box: {must: $v})` with `$v = 3`; the omitted `d: Any = "dflt"` gets its default -/
theorem arguments_sound_applies_with_default_scalar :
    ConformsFields StandIn.reg argDefs
      [("a", .list [.int 3, .str "1"]), ("box", .dict [("any", .str "dflt"), ("must", .int 3), ("n", .int 3)]), ("d", .str "dflt")] :=
  arguments_sound regOK_satisfiable_with_default_scalar 6 [("v", .int 3)] args argDefs _ argsOK args_varsFit (by decide +kernel)

/-- `validated_arguments_sound` applies (variables coerced by the model, usages as the validator accepts them) -/
theorem validated_arguments_sound_applies_with_default_scalar : ConformsFields StandIn.reg argDefs kwargs :=
  validated_arguments_sound regOK_satisfiable_with_default_scalar 6 varDefs [("v", .obj [("x", .int 1)])]
    (by intro d hd; simp [varDefs] at hd; subst hd; rfl) [("v", .dict [("x", .int 1)])] (by decide +kernel)
    args argDefs argsOK args_varsAllowed kwargs (by decide +kernel)

/-- `every_call_conforms` / `every_validated_call_conforms` apply: the trace of `query ($v: Any!) { k: f(a: [$v, 1], box: {must: $v}) }`
    HAS a call, and its keyword arguments conform -/
theorem every_validated_call_conforms_applies_with_default_scalar :
    Ev.call "k" kwargs ∈ executeOp StandIn.reg 6 varDefs [("v", .obj [("x", .int 1)])] [{ key := "k", defs := argDefs, args := args }] ∧
    ∃ sel, sel ∈ [({ key := "k", defs := argDefs, args := args } : FieldSel)] ∧ sel.key = "k" ∧ ConformsFields StandIn.reg sel.defs kwargs := by
  have hmem : Ev.call "k" kwargs ∈ executeOp StandIn.reg 6 varDefs [("v", .obj [("x", .int 1)])] [{ key := "k", defs := argDefs, args := args }] := by
    have : executeOp StandIn.reg 6 varDefs [("v", .obj [("x", .int 1)])] [{ key := "k", defs := argDefs, args := args }] = [Ev.call "k" kwargs] := by rfl
    rw [this]; exact List.mem_singleton.2 rfl
  refine ⟨hmem, every_validated_call_conforms regOK_satisfiable_with_default_scalar 6 varDefs _ _
    (by intro d hd; simp [varDefs] at hd; subst hd; rfl)
    (by intro sel hs; simp at hs; subst hs; exact argsOK)
    (by intro sel hs d hd l hl; simp at hs; subst hs; exact args_varsAllowed d hd l hl) "k" kwargs hmem⟩

/-- `every_call_conforms_tree` / `every_validated_call_conforms_tree` apply: the whole-tree trace of the same operation HAS a call
    event, and it is a good one -/
theorem every_validated_call_conforms_tree_applies_with_default_scalar :
    TEv.call [.key "k"] "Query" "f" kwargs ∈ executeTree StandIn.reg 6 3 varDefs [("v", .obj [("x", .int 1)])] tbl world "Query" sels ∧
    GoodEv StandIn.reg tbl (TEv.call [.key "k"] "Query" "f" kwargs) := by
  have hmem : TEv.call [.key "k"] "Query" "f" kwargs ∈ executeTree StandIn.reg 6 3 varDefs [("v", .obj [("x", .int 1)])] tbl world "Query" sels := by
    have : executeTree StandIn.reg 6 3 varDefs [("v", .obj [("x", .int 1)])] tbl world "Query" sels = [TEv.call [.key "k"] "Query" "f" kwargs] := by rfl
    rw [this]; exact List.mem_singleton.2 rfl
  refine ⟨hmem, every_validated_call_conforms_tree regOK_satisfiable_with_default_scalar 6 3 varDefs _ tbl world "Query" sels
    (by intro d hd; simp [varDefs] at hd; subst hd; rfl) ?_ _ hmem⟩
  intro sel hin ty adefs hd
  cases inTree_sels hin
  cases hd
  exact ⟨argsOK, args_varsAllowed⟩

end PyGql.Props.C07
