/-
  C14 — ANY HISTORY: "all sequences of clone / transform / extend operations" where each operation is applied to the source or to
  the RESULT OF ANY EARLIER operation (a tree of derivations growing on one heap).

  `Reach cfg fuel h ss h' ss'`: from heap `h` holding the schemas `ss`, some sequence of `transform_schema(ss[i], *visitors)`
  (any visitors — visibility, camel-case, drop/wrap directive visitor, heal; `[]` = `clone()`) and `extend_schema(ss[i], ext)`
  (documents that only use defined names and define new, non-reserved, distinct type names) steps, each appending its result, leads
  to heap `h'` holding `ss'`.
  `history_closed_framed` (FULL, induction over the history): if every schema of `ss` is closed and well-formed in `h`, then
  * no object that existed in `h` is written (`Frame h h'`) — in particular none of any schema of `ss`;
  * every schema of `ss'` — the old ones and every result, whenever it was produced — is closed and well-formed in `h'`;
  * `ss` is a prefix of `ss'` (results are only added).
  So a schema can be extended, cloned and transformed again any number of times, in any order, together with everything derived
  from it. (What each result PRESERVES of its source is `ResultIntact` / `ExtIntact` / `transform_chain_untouched_preserved`.)
-/
import PyGqlModel.Lemmas.C14Derived
import PyGqlModel.Props.C14_sequence


namespace PyGql.Props.C14
open PyGql.Heap PyGql.Heap.Own

inductive Reach (cfg : Cfg) (fuel : Nat) : Heap → List Schema → Heap → List Schema → Prop
  | done (h : Heap) (ss : List Schema) : Reach cfg fuel h ss h ss
  | transform {h : Heap} {ss : List Schema} {h' : Heap} {ss' : List Schema} (i : Nat) (vs : List Visitor) (s : Schema) (r : Heap × Schema) :
      ss[i]? = some s → transform cfg (2 + fuel) vs s h = some r → Reach cfg fuel r.1 (ss ++ [r.2]) h' ss' → Reach cfg fuel h ss h' ss'
  | extend {h : Heap} {ss : List Schema} {h' : Heap} {ss' : List Schema} (i : Nat) (ext : Ext) (s : Schema) :
      ss[i]? = some s → ExtOK s ext → (∀ e, e ∈ ext.newTypes → isProtected e.1 = false) →
      Reach cfg fuel (extend cfg ext s h).1 (ss ++ [(extend cfg ext s h).2]) h' ss' → Reach cfg fuel h ss h' ss'

def AllGood (h : Heap) (ss : List Schema) : Prop := ∀ s, s ∈ ss → closedB h s = true ∧ wfB h s = true

theorem AllGood.frame {h h' : Heap} (f : Frame h h') {ss : List Schema} (g : AllGood h ss) : AllGood h' ss :=
  fun s hs => ⟨closedB_frame f s (g s hs).1, wfB_frame f s (g s hs).2⟩

private theorem AllGood.derived {h h1 : Heap} {s s1 : Schema} {ss : List Schema} (g : AllGood h ss) (d : Derived h s h1 s1) :
    AllGood h1 (ss ++ [s1]) := by
  intro x hx
  rcases List.mem_append.mp hx with hx | hx
  · exact g.frame d.frame x hx
  · obtain rfl := List.mem_singleton.1 hx
    exact ⟨d.closed, d.wf⟩

/-- a derivation from a schema of the list, followed by the rest of a history -/
private theorem Derived.history {h h1 h' : Heap} {ss ss' : List Schema} {s s1 : Schema} (d : Derived h s h1 s1) (g : AllGood h ss)
    (rest : AllGood h1 (ss ++ [s1]) → Frame h1 h' ∧ AllGood h' ss' ∧ ∃ more, ss' = ss ++ [s1] ++ more) :
    Frame h h' ∧ AllGood h' ss' ∧ ∃ more, ss' = ss ++ more :=
  let ⟨f2, g2, more, em⟩ := rest (AllGood.derived g d)
  ⟨d.frame.trans f2, g2, _ :: more, by rw [em, List.append_assoc]; rfl⟩

/-- FULL (see the header) -/
theorem history_closed_framed (cfg : Cfg) (hd : cfg.deepClone = true) (hk : cfg.keepAllTypes = true) (hacc : cfg.accumulateBusted = true)
    (hx : cfg.extKeepAll = true) (hin : cfg.extInputFieldExtended = true) (fuel : Nat) (h : Heap) (ss : List Schema) (h' : Heap) (ss' : List Schema)
    (r : Reach cfg fuel h ss h' ss') (g : AllGood h ss) : Frame h h' ∧ AllGood h' ss' ∧ ∃ more, ss' = ss ++ more := by
  induction r with
  | done h ss => exact ⟨Frame.refl h, g, [], by simp⟩
  | transform i vs s r hi e _ ih =>
    obtain ⟨hc, hw⟩ := g s (List.mem_of_getElem? hi)
    exact (transform_derived hc hw hd hk hacc e).history g ih
  | extend i ext s hi hok hnp _ ih =>
    obtain ⟨hc, hw⟩ := g s (List.mem_of_getElem? hi)
    exact (extend_derived hc hw hx hin hok hnp).history g ih

private theorem extOK_zed : ExtOK s0 zed := zed_extOK

/-- non-vacuity: a history on the witness — extend the source, then CLONE THE EXTENSION RESULT, then hide `Dog` in the source -/
example : AllGood h0 [s0] ∧ ∃ h' ss', Reach Cfg.fixed 6 h0 [s0] h' ss' ∧ ss'.length = 4 := by
  refine ⟨fun s hs => by obtain rfl := List.mem_singleton.1 hs; exact ⟨s0_closed, s0_wf⟩, ?_⟩
  have hnp : ∀ e, e ∈ zed.newTypes → isProtected e.1 = false := by decide +kernel
  have f0 : Frame h0 (extend Cfg.fixed zed s0 h0).1 := extend_frames_source _ _ _ _
  have c1 := extend_closed_wf Cfg.fixed rfl rfl zed s0 h0 s0_closed s0_wf extOK_zed hnp
  obtain ⟨h1, s1, hr1, _, _⟩ := transform_closed_total Cfg.fixed rfl rfl rfl [] _ _ c1.1 c1.2 6
  have f1 : Frame (extend Cfg.fixed zed s0 h0).1 h1 := clone_frames_source Cfg.fixed rfl (2 + 6) [] _ _ h1 s1 c1.1 hr1
  obtain ⟨h2, s2, hr2, _, _⟩ := transform_closed_total Cfg.fixed rfl rfl rfl [.vis hideDog] s0 h1
    (closedB_frame (f0.trans f1) s0 s0_closed) (wfB_frame (f0.trans f1) s0 s0_wf) 6
  exact ⟨h2, _, Reach.extend 0 zed s0 rfl extOK_zed hnp
    (Reach.transform 1 [] (extend Cfg.fixed zed s0 h0).2 (h1, s1) rfl hr1
      (Reach.transform 0 [.vis hideDog] s0 (h2, s2) rfl hr2 (Reach.done _ _))), rfl⟩

theorem current_history_closed_framed
    (fuel : Nat) (h : Heap) (ss : List Schema) (h' : Heap) (ss' : List Schema)
    (r : Reach PyGql.Generated.HeapCfg.currentCfg fuel h ss h' ss') (g : AllGood h ss) :
    Frame h h' ∧ AllGood h' ss' ∧ ∃ more, ss' = ss ++ more :=
  history_closed_framed _ cur_deepClone cur_keepAllTypes cur_accumulateBusted cur_extKeepAll cur_extInputFieldExtended fuel h ss h' ss' r g

end PyGql.Props.C14
