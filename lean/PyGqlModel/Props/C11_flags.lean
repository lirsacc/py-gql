/-
  C11 — the CONFIGURATIONS of the quantifier (`ignore_extensions`) and what `no_other_branch_partial` /
  `build_exact_partial` omit.

  * `no_other_branch_partial` (Props/C11.lean) is true of EVERY value of `Err` (it only splits the constructor): it says
    nothing about `build`.  `no_other_branch` below is the statement about `build`, a corollary of `build_rejects`:
    the class of the internal branch is `RecursionError` and nothing else; `build_internal_of_thunkCycle` shows when
    that branch IS taken (finding S1b), whatever the flags.
  * `build_exact_partial` / `build_exact_final` are about `build doc` with the default flags only.
    `build_ignoreExtensions`: with `ignore_extensions=True` the builder computes exactly what it computes on the document
    with its `extend` blocks removed — for EVERY document (valid or not) and every list of supplied types; so all
    theorems about `build doc` transfer (`build_exact_ignoreExtensions`, `build_perm_ignoreExtensions`).
-/
import PyGqlModel.Props.C11_valid


namespace PyGql.Props.C11
open PyGql PyGql.Sdl PyGql.SdlSpec

/-- What the vacuous `no_other_branch_partial` omits: a rejection of `build` — any flags, any supplied
    types — is `SDLError`, `ExtensionError`, `SchemaError` or the `RecursionError` of finding S1b. -/
theorem no_other_branch (doc : Doc) (ie : Bool) (add : List TypeD) (e : Err) (h : build doc ie add = .error e) :
    e = .lib .sdl ∨ e = .lib .ext ∨ e = .lib .schema ∨ e = .internal "RecursionError" := by
  rcases build_rejects doc ie add e h with ⟨l, rfl⟩ | rfl
  · cases l <;> simp
  · simp

/-- … and the fourth class is taken by every document (whose definitions are collected) that has a re-entrant input
    field thunk, whatever the flags: this is what the real builder does on `input A { a: A = {a: null} }` -/
theorem build_internal_of_thunkCycle (doc : Doc) (ie : Bool) (add : List TypeD) (c : Collected)
    (hc : collectDefinitions doc = .ok c) (ht : hasThunkCycle (Env.of c.types add) c.types = true) :
    build doc ie add = .error (.internal "RecursionError") := by
  simp [build, buildIgnoringExtensions, hc, bind, Except.bind, buildCollected, failIf, ht]

example : build s1bDoc = .error (.internal "RecursionError") := by
  have h : (match collectDefinitions s1bDoc with
            | .ok c => hasThunkCycle (Env.of c.types []) c.types
            | .error _ => false) = true := by decide +kernel
  cases hc : collectDefinitions s1bDoc with
  | error e => rw [hc] at h; cases h
  | ok c => rw [hc] at h; exact build_internal_of_thunkCycle s1bDoc false [] c hc h

/-- the document without its `extend` blocks -/
def stripExt (doc : Doc) : Doc := doc.filter fun | .ext _ => false | .schemaExt _ => false | _ => true

theorem stripExt_ext (e : TypeDef) (ds : Doc) : stripExt (.ext e :: ds) = stripExt ds := rfl
theorem stripExt_schemaExt (e : SchemaDef) (ds : Doc) : stripExt (.schemaExt e :: ds) = stripExt ds := rfl
theorem stripExt_type (t : TypeDef) (ds : Doc) : stripExt (.type t :: ds) = .type t :: stripExt ds := rfl
theorem stripExt_directive (t : DirDef) (ds : Doc) : stripExt (.directive t :: ds) = .directive t :: stripExt ds := rfl
theorem stripExt_schema (t : SchemaDef) (ds : Doc) : stripExt (.schema t :: ds) = .schema t :: stripExt ds := rfl
theorem stripExt_other (ds : Doc) : stripExt (.other :: ds) = .other :: stripExt ds := rfl

private theorem foldlM_cons_congr (acc : Collected) (d : Def) (l₁ l₂ : Doc)
    (h : ∀ a, l₁.foldlM collectStep a = l₂.foldlM collectStep a) :
    (d :: l₁).foldlM collectStep acc = (d :: l₂).foldlM collectStep acc := by
  rw [List.foldlM_cons, List.foldlM_cons]
  cases collectStep acc d with
  | error e => rfl
  | ok a => exact h a

theorem collect_strip (doc : Doc) : ∀ acc, (stripExt doc).foldlM collectStep acc = doc.foldlM collectStep acc := by
  induction doc with
  | nil => intro acc; rfl
  | cons d ds ih =>
    intro acc
    cases d with
    | ext e =>
      rw [stripExt_ext, List.foldlM_cons, ih]
      rfl
    | schemaExt e =>
      rw [stripExt_schemaExt, List.foldlM_cons, ih]
      rfl
    | type t => rw [stripExt_type]; exact foldlM_cons_congr acc _ _ _ ih
    | directive t => rw [stripExt_directive]; exact foldlM_cons_congr acc _ _ _ ih
    | schema t => rw [stripExt_schema]; exact foldlM_cons_congr acc _ _ _ ih
    | other => rw [stripExt_other]; exact foldlM_cons_congr acc _ _ _ ih

theorem typeExts_strip (doc : Doc) : typeExts (stripExt doc) = [] := by
  rw [typeExts, List.filterMap_eq_nil_iff]
  intro d hd
  cases d with
  | ext e => cases (List.mem_filter.mp hd).2
  | _ => rfl

theorem schemaExtensions_strip (doc : Doc) : schemaExtensions (stripExt doc) = [] := by
  rw [schemaExtensions, List.filterMap_eq_nil_iff]
  intro d hd
  cases d with
  | schemaExt e => cases (List.mem_filter.mp hd).2
  | _ => rfl

theorem typeExtensions_strip (live : Live) (doc : Doc) : typeExtensions live (stripExt doc) = [] := by
  rw [typeExtensions_eq, typeExts_strip]
  rfl

theorem typeDefs_strip (doc : Doc) : typeDefs (stripExt doc) = typeDefs doc := by
  rw [typeDefs, stripExt, List.filterMap_filter]
  refine congrArg (List.filterMap · doc) (funext fun d => ?_)
  cases d <;> rfl

/-- **`ignore_extensions=True` = the document without its `extend` blocks**, for every document and every list of
    supplied types: same schema, or the same rejection. -/
theorem build_ignoreExtensions (doc : Doc) (add : List TypeD) : build doc true add = build (stripExt doc) false add := by
  unfold build buildIgnoringExtensions collectDefinitions
  rw [collect_strip]
  cases doc.foldlM collectStep {} with
  | error e => rfl
  | ok c =>
    simp only [bind, Except.bind]
    cases buildCollected c add with
    | error e => rfl
    | ok p =>
      obtain ⟨env, live⟩ := p
      simp [extendSchema, typeExtensions_strip, schemaExtensions_strip, pure, Except.pure]

/-- **build_exact with `ignore_extensions=True`**: if the definitions alone are a valid document, the schema is exactly
    the content THEY declare (no member of any `extend` block) -/
theorem build_exact_ignoreExtensions (doc : Doc) (d : SchemaD) (v : SdlOK (stripExt doc) d) : build doc true = .ok d := by
  rw [build_ignoreExtensions]; exact build_exact_final _ _ v

theorem stripExt_perm {d₁ d₂ : Doc} (hp : d₁.Perm d₂) : (stripExt d₁).Perm (stripExt d₂) := hp.filter _

/-- … independently of the order of the definitions AND of where the (ignored) extension blocks stand: no condition
    on the extensions at all -/
theorem build_perm_ignoreExtensions (doc₁ doc₂ : Doc) (d₁ : SchemaD) (v : SdlOK (stripExt doc₁) d₁) (hp : doc₁.Perm doc₂) :
    ∃ s₁ s₂, build doc₁ true = .ok s₁ ∧ build doc₂ true = .ok s₂ ∧ SameContent s₁ s₂ := by
  rw [build_ignoreExtensions, build_ignoreExtensions]
  exact build_perm_sameContent _ _ d₁ v (stripExt_perm hp) (fun n => by rw [typeExts_strip, typeExts_strip])
    (by rw [schemaExtensions_strip, schemaExtensions_strip])

/-! non-vacuity -/

def ieDoc : Doc := [.ext exExt, .type exQuery, .ext { kind := .enum, name := "Nope", values := [{ name := "B" }] }]
theorem ieDeclares : (Declared (stripExt ieDoc)).isSome = true := by decide +kernel

theorem ieDoc_ok : SdlOK (stripExt ieDoc) ((Declared (stripExt ieDoc)).get ieDeclares) :=
  -- the facts are decided together: the kernel evaluates the document and its declared content once
  have ⟨uniqueTypes, uniqueDirectives, oneSchema, noBuiltinNames, extTargets, membersUnique, noThunkCycle, noEagerCycle,
      noSpecified, schemaOps, extOps, extOpsNew⟩ : _ ∧ _ ∧ _ ∧ _ ∧ _ ∧ _ ∧ _ ∧ _ ∧ _ ∧ _ ∧ _ ∧ _ := by decide +kernel
  { uniqueTypes, uniqueDirectives, oneSchema, noBuiltinNames, extTargets, declares := (Option.some_get _).symm,
    baseDefaults := baseDefaults_of_B _ (by decide +kernel),
    selfDefaults := selfDefaults_of_noext _ (typeExts_strip _),
    membersUnique, noThunkCycle, noEagerCycle, noSpecified, schemaOps, extOps, extOpsNew }

example : build ieDoc true = .ok ((Declared (stripExt ieDoc)).get ieDeclares) := build_exact_ignoreExtensions _ _ ieDoc_ok
/-- the extension's field `b` is not there -/
example : ((build ieDoc true).toOption.map fun s => s.types.map fun t => t.fields.map (·.name)) = some [["a"]] := by decide +kernel

end PyGql.Props.C11
