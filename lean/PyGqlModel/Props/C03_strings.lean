/-
  C03 (string part): the printer's string encoders round-trip through the lexer.
-/
import PyGqlModel.Lex
import PyGqlModel.PrintString
import PyGqlModel.Lemmas.PrintLex
import PyGqlModel.Lemmas.LexChars
import PyGqlModel.Lemmas.LexBlockEscape
import PyGqlModel.Spec.BlockStringSpec
import PyGqlModel.Lemmas.LexBlockString
import PyGqlModel.Lemmas.PrintBlockForms
import PyGqlModel.Lemmas.LexCompleteNum
import PyGqlModel.Props.C02_decode

namespace PyGql.Props.C03
open PyGql.Lex PyGql.PrintString

/-- for EVERY list of code points (astral characters, lone surrogates, controls, quotes and
    backslashes included) the printed quoted form `json.dumps(value, ensure_ascii=False)` lexes to exactly one String
    token spanning the whole text whose decoded value is the original (defect R2 fixed). -/
theorem quoted_roundtrip (v : Text) :
    lexAll (jsonDumps v) =
      .ok [sofTok, ⟨.string, 0, (jsonDumps v).length, v⟩, eofTok (jsonDumps v).length] := by
  have hstr := PrintLex.next_string (jsonDumps v).length v [] PrintLex.safe_nil
  have hend : lexLoop (jsonDumps v).length (jsonDumps v).length [] = .ok [eofTok (jsonDumps v).length] := rfl
  rw [List.append_nil] at hstr
  simp [lexAll, lexLoop, hstr, hend, posAt]

/-- fix C02-U1 and the printer: only ESCAPE pairs are combined by the lexer, and the printer never emits `\\uXXXX` for a
    code point ≥ U+0020 — an astral character and lone surrogates are printed as the literal characters. So a value made
    of a lone high followed by a lone low surrogate (two code points, only possible in code-built trees) is printed
    literally and re-read as the same two code points: it is an instance of `quoted_roundtrip`, which holds unchanged
    for EVERY code-point list. -/
example : jsonDumps [0xD83D, 0xDE00] = [34, 0xD83D, 0xDE00, 34] := by decide +kernel
example : (lexAll (jsonDumps [0xD83D, 0xDE00])).toOption.map (·.map (·.value)) =
    some [sofTok.value, [0xD83D, 0xDE00], (eofTok 0).value] := by decide +kernel
example : jsonDumps [0x1F600] = [34, 0x1F600, 34] := by decide +kernel

/-- non-vacuity: `a"😀\` + U+0001 + lone surrogate U+D800 -/
example : jsonDumps [97, 34, 0x1F600, 92, 1, 0xD800] = [34, 97, 92, 34, 0x1F600, 92, 92, 92, 117, 48, 48, 48, 49, 0xD800, 34] := by decide +kernel

/-- THE FULL STATEMENT `block_roundtrip` in the whole-text form (proved: `block_roundtrip_statement`): for every value in the range of `BlockStringValue` (made of block-string
    characters), every indent string over {space, tab}, every enclosing depth `k` and both paths (value / description),
    the printed block string lexes to exactly one BlockString token whose value is the original. -/
def BlockRoundtripStatement : Prop :=
  ∀ (raw ind : Text) (k : Nat) (isDesc : Bool),
    let v := Spec.BlockStringValue raw
    (∀ c ∈ v, blockChar c = true) → (∀ c ∈ ind, c = 32 ∨ c = 9) →
    ∃ a b, lexAll (indentN ind k (blockString v ind isDesc)) =
      .ok [sofTok, ⟨.blockString, a, b, v⟩, eofTok (indentN ind k (blockString v ind isDesc)).length]

/-- the escaping half: the lexer's block-string scanner inverts the
    printer's `value.replace('"""', '\\"""')`, for ALL values and whatever layout follows on the next line -/
theorem block_escape_scan (n : Nat) (v w : Text) (hv : ∀ c ∈ v, blockChar c = true) :
    readBlockBody n 0 (escapeTripleQuotes v ++ 10 :: w) =
      (readBlockBody n 0 (10 :: w)).map (fun p => (v ++ p.1, p.2)) :=
  readBlockBody_escape n w v 0 (Nat.zero_le _) hv

/-- for EVERY value `v` in the range of `BlockStringValue` (made of block-string characters),
    every indent string `ind` over {space, tab}, both paths (`is_description` off / on) and EVERY enclosing indentation
    prefix `P` over {space, tab} (what any number of enclosing `_indent` calls put after each line feed), the printed
    block string — empty, one-line (`"""␠v"""`, with the line feed appended after a trailing `"` or `\`) or multi-line
    form — followed by ANY text `r` is read by one `__next__` as exactly one BlockString token spanning the printed text,
    whose value is `v`. (Defects R1 and R3 fixed; B1/B2 make the range what the specification says.) -/
theorem block_roundtrip (n : Nat) (raw ind P r : Text) (isDesc : Bool)
    (hind : ∀ c ∈ ind, c = 32 ∨ c = 9) (hP : ∀ c ∈ P, c = 32 ∨ c = 9)
    (hchars : ∀ c ∈ Spec.BlockStringValue raw, blockChar c = true) :
    next n (replaceLF P (blockString (Spec.BlockStringValue raw) ind isDesc) ++ r) =
      .ok (⟨.blockString, n - (replaceLF P (blockString (Spec.BlockStringValue raw) ind isDesc) ++ r).length,
            n - r.length, Spec.BlockStringValue raw⟩, some r) := by
  rw [← PyGql.Props.C02.block_string_spec] at hchars ⊢
  exact PrintTokens.readsBlock_parse raw ind P isDesc hind hP hchars n r

private theorem indentN_eq (ind : Text) (hind : ∀ c ∈ ind, c = 32 ∨ c = 9) (s : Text) (hs : s ≠ []) (k : Nat) :
    ∃ Pk : Text, (∀ c ∈ Pk, c = 32 ∨ c = 9) ∧ indentN ind k s = Pk ++ replaceLF Pk s := by
  induction k with
  | zero => exact ⟨[], by simp, by simp [indentN, PrintLex.replaceLF_nil]⟩
  | succ k ih =>
    obtain ⟨Pk, hPk, hk⟩ := ih
    refine ⟨ind ++ Pk, PrintLex.blank_append hind hPk, ?_⟩
    have hne : indentN ind k s ≠ [] := by
      rw [hk]; cases s with
      | nil => exact absurd rfl hs
      | cons c t => cases Pk <;> simp [replaceLF] <;> split <;> simp
    have hemp : (indentN ind k s).isEmpty = false := by
      cases h : indentN ind k s with
      | nil => exact absurd h hne
      | cons a b => rfl
    simp only [indentN, indentText, hemp, Bool.false_eq_true, ↓reduceIte]
    rw [hk, PrintLex.replaceLF_append, PrintLex.replaceLF_noLF ind Pk (PrintLex.blank_noLF hPk),
      PrintLex.replaceLF_replaceLF ind Pk s hPk]
    simp [List.append_assoc]

private theorem ignRun_blank (X P : Text) (hP : ∀ c ∈ P, c = 32 ∨ c = 9) : Spec.Lexical.IgnRun X P := by
  induction P with
  | nil => exact .nil
  | cons c t ih =>
    refine .char c t ?_ (ih (fun x hx => hP x (by simp [hx])))
    rcases hP c (by simp) with rfl | rfl <;> decide +kernel

/-- the whole-text form (`BlockRoundtripStatement`): the whole text made of the printed block
    string under `k` enclosing `_indent`s lexes to exactly `[SOF, BlockString v, EOF]` -/
theorem block_roundtrip_statement : BlockRoundtripStatement := by
  intro raw ind k isDesc
  dsimp only
  intro hchars hind
  generalize hv : Spec.BlockStringValue raw = v at hchars
  obtain ⟨u, hu⟩ := PrintLex.blockString_head v ind isDesc
  have hne : blockString v ind isDesc ≠ [] := by rw [hu]; simp
  obtain ⟨Pk, hPk, hk⟩ := indentN_eq ind hind _ hne k
  have hhead : ∃ u', replaceLF Pk (blockString v ind isDesc) = 34 :: u' := by
    rw [hu]; exact ⟨replaceLF Pk u, by simp [replaceLF]⟩
  obtain ⟨u', hu'⟩ := hhead
  have hX : tokenStart (replaceLF Pk (blockString v ind isDesc) ++ []) := by
    rw [hu']; simp only [tokenStart, List.cons_append, Spec.Lexical.startsWith]; decide +kernel
  have hnext := block_roundtrip (Pk ++ replaceLF Pk (blockString v ind isDesc)).length raw ind Pk [] isDesc hind hPk (by rw [hv]; exact hchars)
  rw [hv] at hnext
  have hskip := next_skip (Pk ++ replaceLF Pk (blockString v ind isDesc)).length Pk _ (ignRun_blank _ Pk hPk) hX
  rw [List.append_nil] at hskip hnext
  refine ⟨(Pk ++ replaceLF Pk (blockString v ind isDesc)).length - (replaceLF Pk (blockString v ind isDesc)).length,
    (Pk ++ replaceLF Pk (blockString v ind isDesc)).length - ([] : Text).length, ?_⟩
  rw [hk]
  unfold lexAll
  have hpos : 1 ≤ (Pk ++ replaceLF Pk (blockString v ind isDesc)).length := by
    rw [hu', List.length_append, List.length_cons]; omega
  obtain ⟨f, hf⟩ : ∃ f, (Pk ++ replaceLF Pk (blockString v ind isDesc)).length + 1 = f + 1 + 1 :=
    ⟨(Pk ++ replaceLF Pk (blockString v ind isDesc)).length - 1, by omega⟩
  rw [hf]
  have heof : ∀ n, next n [] = .ok (eofTok n, none) := by intro n; simp [next, readOverWhitespace]
  simp only [lexLoop, hskip, hnext, heof]

/-! ### the LAYOUT half of `block_roundtrip`: the three lemmas of DESIGN §5 C03, composed in
    `parseBlockString_layout`; the range of `BlockStringValue` is characterised in `Lemmas/LexBlockRange.lean`. -/

/-- `splitLines (joinLF ls) = ls`: the printer's LF-joined lines are exactly what the parser splits -/
theorem layout_splitLines_joinLF (l : Text) (ls : List Text) (h : ∀ x ∈ l :: ls, BlockString.IsLine x) :
    BlockString.splitLines (BlockString.joinLF (l :: ls)) = l :: ls :=
  BlockString.splitLines_joinLF l ls h

/-- `commonIndent (map (P ++ ·) ls) = |P| + commonIndent ls` for a layout prefix `P` over {space, tab}:
    `_indent` shifts the common indentation by exactly `|P|`, blank lines stay out of the minimum -/
theorem layout_commonIndent_shift (p : Text) (hp : BlockString.IsBlank p) (ls : List Text) :
    (ls.map (p ++ ·)).foldl BlockString.indentStep none = (ls.foldl BlockString.indentStep none).map (p.length + ·) :=
  BlockString.foldl_indentStep_prefix p hp ls none

/-- `stripBlank`: the layout's added first line (empty) and last line (`Q`, blank) are removed, the value's own
    non-blank first and last lines stop the removal -/
theorem layout_stripBlank (b l : Text) (ls : List Text) (hb : BlockString.IsBlank b)
    (hl : Spec.onlyWhiteSpace l = false) :
    BlockString.popLeading (b :: l :: ls) = l :: ls ∧
    BlockString.popTrailing (ls ++ [l] ++ [b]) = ls ++ [l] :=
  ⟨by rw [BlockString.popLeading_blank b _ hb, BlockString.popLeading_nonblank l ls hl],
   by rw [BlockString.popTrailing_blank _ b hb, BlockString.popTrailing_nonblank ls l hl]⟩

/-- non-vacuity: two value lines under a two-space prefix -/
example : ([[97], [32, 98]].map ([32, 32] ++ ·)).foldl BlockString.indentStep none = some 2 := by decide +kernel

/-- non-vacuity / instances of the full statement (value `  a"""\` + LF + `b"`, i.e. leading blanks, an embedded triple
    quote, trailing backslash and quote): depth 0 with a 2-space indent, depth 2 with a TAB indent, description path -/
example : ((lexAll (indentN [32, 32] 0 (blockString [32, 32, 97, 34, 34, 34, 92, 10, 98, 34] [32, 32] false))).toOption.map
    (fun ts => ts.map (fun t => (t.kind, t.value)))) =
    some [(.sof, sofTok.value), (.blockString, [32, 32, 97, 34, 34, 34, 92, 10, 98, 34]), (.eof, (eofTok 0).value)] := by decide +kernel
example : ((lexAll (indentN [9] 2 (blockString [32, 32, 97, 34, 34, 34, 92, 10, 98, 34] [9] false))).toOption.map
    (fun ts => ts.map (fun t => (t.kind, t.value)))) =
    some [(.sof, sofTok.value), (.blockString, [32, 32, 97, 34, 34, 34, 92, 10, 98, 34]), (.eof, (eofTok 0).value)] := by decide +kernel
example : ((lexAll (indentN [32] 1 (blockString [32, 97, 92] [32] true))).toOption.map
    (fun ts => ts.map (fun t => (t.kind, t.value)))) =
    some [(.sof, sofTok.value), (.blockString, [32, 97, 92]), (.eof, (eofTok 0).value)] := by decide +kernel
/-- the empty block string prints and round-trips (defect R1 fixed) -/
example : ((lexAll (blockString [] [32, 32] false)).toOption.map (fun ts => ts.map (fun t => (t.kind, t.value)))) =
    some [(.sof, sofTok.value), (.blockString, []), (.eof, (eofTok 0).value)] := by decide +kernel

end PyGql.Props.C03
