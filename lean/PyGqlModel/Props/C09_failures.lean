/-
  C09 — failure cases of `execute_fields_serially` and the queue state machine tied to the trace.

  * which later top-level fields still run after a failure: a `ResolverError` (see `failure_does_not_stop`
    in C09.lean) and a NON-NULL VIOLATION at a root field do not stop the queue; an UNEXPECTED exception does
    (synchronously: it propagates out of `_next`; deferred: the serial chain's Future fails) — no later
    top-level resolver is invoked;
  * `serial_queue_head_called_next`: whenever `_next` runs on a non-empty `args` queue (initially, or from
    the callback `cb` when the current field has finished, under any schedule) the FIRST event it adds to
    the trace is the invocation of the head of the queue; on an empty queue it adds nothing and returns
    `resolved_fields`.
-/
import PyGqlModel.Lemmas.ExecSerial
import PyGqlModel.Lemmas.ExecState

namespace PyGql.Props.C09
open PyGql.AsyncExec

/-- A top-level field of non-null type whose resolver returns
    `null` (py-gql: `_handle_non_nullable_value` records the error and keeps `null`): the violation is
    recorded at the field's path and `_next` goes on with the remaining queue `args` at once. -/
theorem nonnull_violation_at_root_continues (path : Path) (key : String) (resolved : List (String × V))
    (args : Flds) (s : ExecSt) :
    serialNext path resolved (.cons key .sync (.ok (.nonNull .null)) args) s
      = serialNext path (resolved ++ [(key, .null)]) args
          (((s.emit (.call (path ++ [.key key]))).emit (.done (path ++ [.key key]))).addError (path ++ [.key key]) .nonNull) := by
  simp [serialNext, resolveField, completeValue, mapValue, applySimple, handleNonNullableValue, unwrapValue]

/-- An unexpected exception in the resolver of a top-level field:
    (sync) it propagates out of `_next` — the trace gains exactly this field's `call`/`done`, no resolver of
    the remaining queue `args` is invoked, nothing is appended to `resolved_fields`;
    (deferred) when its task completes, the serial chain's Future FAILS with the exception, the trace gains
    exactly the `done` event and the callback `cb` (hence `_next` on `args`) never runs. -/
theorem unexpected_stops_later_fields (path : Path) (key : String) (resolved : List (String × V)) (args : Flds) (s : ExecSt) :
    serialNext path resolved (.cons key .sync .exc args) s
      = (.exc .boom, (s.emit (.call (path ++ [.key key]))).emit (.done (path ++ [.key key])))
    ∧ (∀ t, deliver applyCont t
          (.chain (.unwrap (.chain (.unwrap (.task t (path ++ [.key key]) false .exc)) (.complete (path ++ [.key key]))))
            (.serialCb path key resolved args)) s
        = (.failed .boom, s.emit (.done (path ++ [.key key])))) := by
  refine ⟨?_, ?_⟩
  · simp [serialNext, resolveField]
  · intro t
    simp [deliver, finishTask, unwrapCb, chainOnFinish, applyCont, applySimple]

private theorem resolveField_trace (path : Path) (key : String) (mode : Mode) (out : ROut) (s : ExecSt) :
    ∃ Δ, (resolveField (path ++ [.key key]) mode out s).2.trace = s.trace ++ Ev.call (path ++ [.key key]) :: Δ := by
  obtain ⟨⟨Δ, t, _, _⟩, _⟩ := resolveField_step out (path ++ [.key key]) mode s (by simp)
  exact ⟨Δ, t⟩

/-- The queue state machine against the trace, one step:
    (1) `_next` on a non-empty queue — from ANY state `s`, any `resolved_fields` — first invokes the resolver of
        the HEAD of the queue: the trace is extended by `call [k]` followed by further events;
    (2) on the empty queue it adds no event and returns `resolved_fields` as the object;
    (3) the callback `cb(value)` of the serial chain is `_next` with `(key, value)` appended to
        `resolved_fields` — so by (1), when the node of the current field finishes (under whatever schedule),
        the next event is the `call` of the following field in document order, and of no other. -/
theorem serial_queue_head_called_next (resolved : List (String × V)) (s : ExecSt) :
    (∀ k m o rest, ∃ Δ, (serialNext [] resolved (.cons k m o rest) s).2.trace = s.trace ++ Ev.call [.key k] :: Δ)
    ∧ serialNext [] resolved .nil s = (.ok (.val (.data (.obj resolved))), s)
    ∧ (∀ key v args, applyCont (.serialCb [] key resolved args) (.ok (.data v)) s
          = serialNext [] (resolved ++ [(key, v)]) args s) := by
  refine ⟨?_, by simp [serialNext], by intro key v args; simp [applyCont]⟩
  intro k m o rest
  obtain ⟨Δ1, t⟩ := resolveField_trace [] k m o s
  -- `_next` is the chain of `cb` behind the head's `resolve_field`, and the chain only appends
  have h2 : (resolveField ([] ++ [.key k]) m o s).2.trace <+: (serialNext [] resolved (.cons k m o rest) s).2.trace := by
    rw [serialNext_cons]
    exact tracePrefix.thenR (tracePrefix.refl _) fun n s1 =>
      tracePrefix.mapValue (tracePrefix.serialCb [] k resolved rest (tracePrefix.serialNext [] rest)) n s1
  obtain ⟨Δ2, h2⟩ := h2
  exact ⟨Δ1 ++ Δ2, by rw [← h2, t, List.append_assoc]; rfl⟩

/-- non-vacuity / the three failure kinds side by side on `mutation { m1 m2 }` with a failing `m1`
    (deferred): after a resolver error and after a non-null violation `m2` is invoked, after an unexpected
    exception it is not. Events as (is-call, key). -/
example :
    let run := fun (o : ROut) =>
      ((runAsync ⟨.mutation, .cons "m1" .deferred o (.cons "m2" .sync (.ok (.leaf 5)) .nil)⟩ [0]).trace.map
        fun e => match e with | .call p => (true, p.length) | .done p => (false, p.length))
    run .rerr = [(true, 1), (false, 1), (true, 1), (false, 1)]
    ∧ run (.ok (.nonNull .null)) = [(true, 1), (false, 1), (true, 1), (false, 1)]
    ∧ run .exc = [(true, 1), (false, 1)] := by
  decide +kernel

end PyGql.Props.C09
