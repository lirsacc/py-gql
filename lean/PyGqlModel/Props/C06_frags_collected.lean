/-
  C06 - property theorems: `NoUnusedFragmentsChecker`. The rule collects the names of all fragment
  definitions and of all spreads and compares them when leaving the document (ledger V6: a spread made from an unused
  fragment counts). Collector instance of the generic walk skeleton.
-/
import PyGqlModel.Props.C06_ctx
import PyGqlModel.Lemmas.ValidateWalkG
namespace PyGql.Props.C06
open PyGql PyGql.Validate PyGql.Validate.Spec

def spreadOf : Node → Option String | .spread name _ => some name | _ => none
def fragOf : Node → Option String | .fragmentDef name _ _ => some name | _ => none

private abbrev cN (s : SchemaD) (fx : Fixes) : Cfg := ⟨s, fx, [.noUnusedFragments]⟩

/-- no error is added, and the two name collections grow by exactly the names of the nodes visited -/
def QN (ns : List Node) (st st' : St) : Prop :=
  st'.rs.errs = st.rs.errs ∧
  (∀ x, x ∈ st'.rs.nufUsed ↔ x ∈ st.rs.nufUsed ∨ ∃ n ∈ ns, spreadOf n = some x) ∧
  (∀ x, x ∈ st'.rs.nufFrags ↔ x ∈ st.rs.nufFrags ∨ ∃ n ∈ ns, fragOf n = some x)

private theorem nuf_enter (s : SchemaD) (fx : Fixes) (n : Node) (ti : TI) (rs : RS) (hn : n.isDoc = false) :
    enterRule s fx .noUnusedFragments n ti rs =
      ({ rs with nufFrags := (fragOf n).toList ++ rs.nufFrags, nufUsed := (spreadOf n).toList ++ rs.nufUsed }, false) := by
  cases n with
  | document d => cases hn
  | _ => rfl

private theorem nuf_leave (s : SchemaD) (fx : Fixes) (n : Node) (ti : TI) (rs : RS) (hn : n.isDoc = false) :
    leaveRule s fx .noUnusedFragments n ti rs = rs := by
  cases n with
  | document d => cases hn
  | _ => rfl

/-- a collection that grew by the name of `n` on entering, then by the names of `ns` -/
private theorem grow_iff {g : Node → Option String} (n : Node) (ns : List Node) (l : List String) (x : String) :
    (x ∈ (g n).toList ++ l ∨ ∃ m ∈ ns, g m = some x) ↔ (x ∈ l ∨ ∃ m ∈ n :: ns, g m = some x) := by
  simp only [List.mem_append, Option.mem_toList, List.mem_cons, exists_eq_or_imp]
  rw [or_comm (b := x ∈ l), or_assoc]

private theorem nodeN (s : SchemaD) (fx : Fixes) (n : Node) (body : St → St) (ns : List Node) (st : St)
    (hn : n.isDoc = false) (hb : ∀ st1, QN ns st1 (body st1)) : QN (n :: ns) st (visitNode (cN s fx) n body st) := by
  have he : (enter (cN s fx) n st).2 = false := by rw [enter_single, nuf_enter s fx n _ _ hn]
  have e1 : (enter (cN s fx) n st).1 = { ti := tiEnter s n st.ti, rs := { st.rs with
      nufFrags := (fragOf n).toList ++ st.rs.nufFrags, nufUsed := (spreadOf n).toList ++ st.rs.nufUsed } } := by
    rw [enter_single, nuf_enter s fx n _ _ hn]
  rw [visitNode_false he, leave_single, nuf_leave s fx n _ _ hn, e1]
  obtain ⟨b1, b2, b3⟩ := hb { ti := tiEnter s n st.ti, rs := { st.rs with
      nufFrags := (fragOf n).toList ++ st.rs.nufFrags, nufUsed := (spreadOf n).toList ++ st.rs.nufUsed } }
  exact ⟨b1, fun x => (b2 x).trans (grow_iff n ns _ x), fun x => (b3 x).trans (grow_iff n ns _ x)⟩

private theorem algN (s : SchemaD) (fx : Fixes) : WalkAlg (cN s fx) QN where
  nil st := ⟨rfl, fun x => by simp, fun x => by simp⟩
  append h1 h2 := by
    obtain ⟨a1, a2, a3⟩ := h1
    obtain ⟨b1, b2, b3⟩ := h2
    refine ⟨b1.trans a1, fun x => ?_, fun x => ?_⟩
    · rw [b2 x, a2 x]; simp only [List.mem_append, or_assoc, exists_or, or_and_right]
    · rw [b3 x, a3 x]; simp only [List.mem_append, or_assoc, exists_or, or_and_right]
  node n body ns st hn hb := nodeN s fx n body ns st (isDoc_of_isTop hn) hb

/-- **NoUnusedFragmentsChecker** reports nothing ⇔ every defined fragment name is spread somewhere in the document
    (the clause the code implements; ledger V6) -/
theorem rule_no_unused_fragments_iff_implemented (s : SchemaD) (fx : Fixes) (d : Doc) :
    Silent s fx .noUnusedFragments d ↔ Spec.everyFragmentSpreadSomewhere d := by
  unfold Silent alone
  have he : (enter (cN s fx) (.document d) {}).2 = false := by rw [enter_single]; rfl
  have he1 : (enter (cN s fx) (.document d) {}).1 = ({} : St) := by rw [enter_single]; rfl
  rw [visitDocument, visitNode_false he, he1, leave_single]
  obtain ⟨q1, q2, q3⟩ := visitDefsG (algN s fx).toV
    (fun n body ns st hn _ hb => nodeN s fx n body ns st hn hb) d.defs ({} : St)
  dsimp only [E, leaveRule]
  have hu : ∀ x, x ∈ ({} : St).rs.nufUsed ↔ False := by intro x; simp [show ({} : St).rs.nufUsed = [] from rfl]
  have hf : ∀ x, x ∈ ({} : St).rs.nufFrags ↔ False := by intro x; simp [show ({} : St).rs.nufFrags = [] from rfl]
  simp only [hu, hf, false_or] at q2 q3
  unfold Spec.everyFragmentSpreadSomewhere
  have hnodes : ∀ (P : Node → Prop), ¬ P (.document d) → ((∃ n ∈ nodes d, P n) ↔ ∃ n ∈ d.defs.flatMap defNodes, P n) := by
    intro P hP
    simp only [nodes, List.mem_cons, exists_eq_or_imp, hP, false_or]
  split
  · rename_i hany
    simp only [RS.err, List.length_cons, q1]
    constructor
    · intro h; omega
    · intro h
      exfalso
      simp only [List.any_eq_true, Bool.not_eq_eq_eq_not, Bool.not_true] at hany
      obtain ⟨f, hf1, hf2⟩ := hany
      obtain ⟨n, hn, hfn⟩ := (q3 f).mp hf1
      cases n <;> simp [fragOf] at hfn
      rename_i name on dirs
      subst hfn
      obtain ⟨m, hm, ds, rfl⟩ := h _ (by simp only [nodes, List.mem_cons]; exact Or.inr hn) name on dirs rfl
      have hm' : Node.spread name ds ∈ d.defs.flatMap defNodes := by
        simp only [nodes, List.mem_cons, reduceCtorEq, false_or] at hm; exact hm
      have := (q2 name).mpr ⟨_, hm', rfl⟩
      simp [this] at hf2
  · rename_i hany
    simp only [q1]
    constructor
    · intro _ n hn name on dirs e
      subst e
      have hn' : Node.fragmentDef name on dirs ∈ d.defs.flatMap defNodes := by
        simp only [nodes, List.mem_cons, reduceCtorEq, false_or] at hn; exact hn
      have hfr := (q3 name).mpr ⟨_, hn', rfl⟩
      have hus : name ∈ (d.defs.foldl (fun st x => visitDef (cN s fx) x st) ({} : St)).rs.nufUsed := by
        exact Classical.byContradiction fun hc =>
          hany (List.any_eq_true.mpr ⟨name, hfr, by simp [hc]⟩)
      obtain ⟨m, hm, hsm⟩ := (q2 name).mp hus
      cases m <;> simp [spreadOf] at hsm
      rename_i nm ds
      subst hsm
      exact ⟨_, by simp only [nodes, List.mem_cons]; exact Or.inr hm, ds, rfl⟩
    · intro _; rfl

end PyGql.Props.C06
