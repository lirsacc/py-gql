/-
  C08 — the runtime algebra (`gather_futures` counter machine, `chain`/`else_`, `unwrap_future`, asyncio `gather_values`
  patching). The executor level is `Props/C08_exec.lean`.
-/
import PyGqlModel.AsyncExec
import PyGqlModel.Lemmas.ExecRaceCount


namespace PyGql.Props.C08
open PyGql.AsyncExec

private theorem countSome_le {α} (l : List (Option α)) : countSome l ≤ l.length := by
  induction l with
  | nil => simp [countSome]
  | cons x r ih => cases x <;> simp [countSome] <;> omega

private theorem countSome_eq_length {α} (l : List (Option α)) :
    countSome l = l.length ↔ ∀ i : Nat, l[i]? ≠ some none := by
  induction l with
  | nil => simp [countSome]
  | cons x r ih =>
    cases x with
    | none =>
      simp only [countSome, List.length_cons]
      constructor
      · intro h; have := countSome_le r; omega
      · intro h; exact absurd (by simp) (h 0)
    | some a =>
      simp only [countSome, List.length_cons, Nat.add_right_cancel_iff, ih]
      constructor
      · intro h i; cases i with
        | zero => simp
        | succ j => simpa using h j
      · intro h i; simpa using h (i + 1)

private theorem countSome_additive {α} : Additive (countSome (α := α)) :=
  ⟨rfl, fun a r => by cases a <;> simp only [countSome] <;> omega⟩

private theorem countSome_set {α} (l : List (Option α)) (i : Nat) (d : α) (h : l[i]? = some none) :
    countSome (l.set i (some d)) = countSome l + 1 :=
  countSome_additive.set (some d) h

/-- the aggregate in SOURCE order: plain entries keep their value, pending entry `i` gets `val i` -/
def fill {α} (val : Nat → α) : Nat → List (Slot α) → List α
  | _, [] => []
  | off, some (.ok v) :: r => v :: fill val (off + 1) r
  | off, _ :: r => val off :: fill val (off + 1) r

private theorem fill_set {α} (val : Nat → α) (l : List (Slot α)) (off i : Nat) (h : l[i]? = some none) :
    fill val off (l.set i (some (.ok (val (off + i))))) = fill val off l := by
  induction l generalizing i off with
  | nil => simp at h
  | cons x r ih =>
    cases i with
    | zero => simp at h; subst h; simp [fill]
    | succ j =>
      simp at h
      have := ih (off + 1) j h
      have e : off + 1 + j = off + (j + 1) := by omega
      rw [e] at this
      cases x with
      | none => simp [fill, this]
      | some y => cases y <;> simp [fill, this]

private theorem collect_all_ok {α} (val : Nat → α) (l : List (Slot α)) (off : Nat)
    (hsome : ∀ i : Nat, l[i]? ≠ some none) (hok : ∀ (i : Nat) (e : Exc), l[i]? ≠ some (some (Except.error e))) :
    collectSlots l = .setResult (fill val off l) := by
  induction l generalizing off with
  | nil => simp [collectSlots, fill]
  | cons x r ih =>
    have hs : ∀ i : Nat, r[i]? ≠ some none := fun i => by simpa using hsome (i + 1)
    have ho : ∀ (i : Nat) (e : Exc), r[i]? ≠ some (some (Except.error e)) := fun i e => by simpa using hok (i + 1) e
    cases x with
    | none => exact absurd (by simp) (hsome 0)
    | some y =>
      cases y with
      | error e => exact absurd (by simp) (hok 0 e)
      | ok v => simp [collectSlots, fill, ih (off + 1) hs ho]

/-- the bookkeeping invariant of `gather_futures` while `outer` is untouched -/
structure GInv {α} (s : GState α) : Prop where
  done_eq : s.done = countSome s.slots
  target_eq : s.target = s.slots.length
  outer_none : s.outer = none
  sets0 : s.sets = 0
  swallowed0 : s.swallowed = 0
  not_blocked : s.blocked = false
  no_exc : ∀ (i : Nat) (e : Exc), s.slots[i]? ≠ some (some (Except.error e))

def okComps {α} (val : Nat → α) (order : List Nat) : List (Nat × Except Exc α) :=
  order.map fun i => (i, .ok (val i))

private theorem no_exc_set_ok {α} (l : List (Slot α)) (i : Nat) (v : α)
    (h : ∀ (k : Nat) (e : Exc), l[k]? ≠ some (some (Except.error e))) :
    ∀ (k : Nat) (e : Exc), (l.set i (some (Except.ok v)))[k]? ≠ some (some (Except.error e)) := by
  intro k e
  rw [List.getElem?_set]
  split
  · split <;> exact fun hh => nomatch hh
  · exact h k e

/-- a successful completion while another entry is still pending only fills its slot -/
private theorem finish_ok_inv {α} (s : GState α) (i j : Nat) (v : α) (inv : GInv s)
    (hi : s.slots[i]? = some none) (hj : s.slots[j]? = some none) (hij : i ≠ j) :
    GInv (s.finish i (.ok v)) ∧ (s.finish i (.ok v)).slots = s.slots.set i (some (.ok v)) := by
  have hcs : countSome (s.slots.set i (some (.ok v))) = countSome s.slots + 1 := countSome_set _ _ _ hi
  have hnoexc := no_exc_set_ok s.slots i v inv.no_exc
  have hjslot : (s.slots.set i (some (Except.ok v)))[j]? = some none := by
    simp [hij]; exact hj
  have hnotfull : countSome (s.slots.set i (some (Except.ok v))) ≠ (s.slots.set i (some (Except.ok v))).length := by
    intro h; exact ((countSome_eq_length _).1 h j) hjslot
  have hle := countSome_le (s.slots.set i (some (Except.ok v)))
  have hdt : ¬ (s.done + 1 = s.target) := by
    rw [inv.done_eq, inv.target_eq, ← hcs]
    simp at hnotfull hle ⊢; omega
  have hstep : s.finish i (.ok v) = { s with slots := s.slots.set i (some (.ok v)), done := s.done + 1 } := by
    simp [GState.finish, gatherOnFinish, hdt]
  rw [hstep]
  exact ⟨⟨by simp [inv.done_eq, hcs], by simp [inv.target_eq], inv.outer_none, inv.sets0, inv.swallowed0,
         inv.not_blocked, hnoexc⟩, rfl⟩

private theorem run_ok {α} (val : Nat → α) (order : List Nat) :
    ∀ (s : GState α), GInv s → order.Nodup →
      (∀ i : Nat, s.slots[i]? = some none ↔ i ∈ order) → order ≠ [] →
      let f := s.run (okComps val order)
      f.outer = some (.ok (fill val 0 s.slots)) ∧ f.sets = 1 ∧ f.swallowed = 0 ∧ f.blocked = false ∧
      ∀ k, k < order.length → (s.run (okComps val (order.take k))).outer = none := by
  induction order with
  | nil => intro s _ _ _ h; exact absurd rfl h
  | cons i rest ih =>
    intro s inv nd hmem _
    have hi : s.slots[i]? = some none := (hmem i).2 (by simp)
    have hlt : i < s.slots.length := (List.getElem?_eq_some_iff.mp hi).1
    -- the state after `i` finished
    have hcs : countSome (s.slots.set i (some (.ok (val i)))) = countSome s.slots + 1 := countSome_set _ _ _ hi
    have hnoexc := no_exc_set_ok s.slots i (val i) inv.no_exc
    have hfill : fill val 0 (s.slots.set i (some (.ok (val i)))) = fill val 0 s.slots := by
      have := fill_set val s.slots 0 i hi
      simpa using this
    by_cases hrest : rest = []
    · -- last completion: every slot is filled, `done == target`
      subst hrest
      have hall : ∀ j : Nat, (s.slots.set i (some (Except.ok (val i))))[j]? ≠ some none := by
        intro j
        by_cases hji : i = j
        · subst hji; simp [hlt]
        · simp [hji]
          intro hj
          have := (hmem j).1 hj
          simp at this; exact hji this.symm
      have hfull : countSome (s.slots.set i (some (Except.ok (val i)))) = (s.slots.set i (some (Except.ok (val i)))).length :=
        (countSome_eq_length _).2 hall
      have hdt : s.done + 1 = s.target := by
        rw [inv.done_eq, inv.target_eq, ← hcs, hfull]; simp
      have hcol := collect_all_ok val _ 0 hall hnoexc
      have hlast : s.finish i (.ok (val i)) =
          { s with slots := s.slots.set i (some (.ok (val i))), done := s.done + 1,
                   outer := some (.ok (fill val 0 s.slots)), sets := s.sets + 1 } := by
        simp [GState.finish, gatherOnFinish, hdt, hcol, inv.outer_none, hfill]
      have hrun : s.run (okComps val [i]) = s.finish i (.ok (val i)) := rfl
      rw [hrun, hlast]
      refine ⟨rfl, congrArg (· + 1) inv.sets0, inv.swallowed0, inv.not_blocked, ?_⟩
      · intro k hk
        have : k = 0 := by simp at hk; exact hk
        subst this; simp [okComps, GState.run, inv.outer_none]
    · -- not the last one: some other slot is still pending
      obtain ⟨j, rest', hj⟩ := List.exists_cons_of_ne_nil hrest
      have hjmem : j ∈ rest := by rw [hj]; simp
      have hjne : i ≠ j := by
        intro h; subst h
        simp at nd; exact nd.1 hjmem
      obtain ⟨inv', hslots⟩ := finish_ok_inv s i j (val i) inv hi ((hmem j).2 (by simp [hjmem])) hjne
      have nd' : rest.Nodup := by simp at nd; exact nd.2
      have hmem' : ∀ k : Nat, (s.finish i (.ok (val i))).slots[k]? = some none ↔ k ∈ rest := by
        intro k
        rw [hslots]
        by_cases hki : i = k
        · subst hki
          simp [hlt]
          simp at nd; exact nd.1
        · simp [hki]
          rw [hmem k]; simp; intro h; exact absurd h.symm hki
      have := ih (s.finish i (.ok (val i))) inv' nd' hmem' hrest
      obtain ⟨h1, h2, h3, h4, h5⟩ := this
      refine ⟨?_, ?_, ?_, ?_, ?_⟩
      · simpa [okComps, GState.run, hslots, hfill] using h1
      · simpa [okComps, GState.run] using h2
      · simpa [okComps, GState.run] using h3
      · simpa [okComps, GState.run] using h4
      · intro k hk
        cases k with
        | zero => simp [okComps, GState.run, inv.outer_none]
        | succ k' =>
          have := h5 k' (by simp at hk; omega)
          simpa [okComps, GState.run] using this

private theorem init_inv {α} (source : List (Slot α)) (h : ∀ (i : Nat) (e : Exc), source[i]? ≠ some (some (Except.error e))) :
    GInv (GState.init source) :=
  ⟨rfl, rfl, rfl, rfl, rfl, rfl, h⟩

/-- `gather_futures` over a source of plain values and pending futures: for EVERY
    order in which the pending entries complete (each exactly once, successfully), the aggregate Future
    is set exactly once (`sets = 1`, nothing swallowed, nothing blocks), at the LAST completion (it is
    still unset after every strict prefix), and its value lists the results in SOURCE order. -/
theorem gather_slots {α} (source : List (Slot α)) (val : Nat → α) (order : List Nat)
    (hplain : ∀ (i : Nat) (e : Exc), source[i]? ≠ some (some (Except.error e)))
    (hnodup : order.Nodup) (hall : ∀ i : Nat, source[i]? = some none ↔ i ∈ order) (hne : order ≠ []) :
    let f := (GState.init source).run (okComps val order)
    f.outer = some (.ok (fill val 0 source)) ∧ f.sets = 1 ∧ f.swallowed = 0 ∧ f.blocked = false ∧
    ∀ k, k < order.length → ((GState.init source).run (okComps val (order.take k))).outer = none :=
  run_ok val order (GState.init source) (init_inv source hplain) hnodup hall hne

/-- non-vacuity: three futures and a plain value, completion order 3,0,2 -/
example : ((GState.init [none, some (.ok 10), none, none]).run (okComps (fun i => 100 + i) [3, 0, 2])).outer
    = some (.ok [100, 10, 102, 103]) := by rfl

/-- For the `gather_futures` machine: once every pending entry has
    completed (in any order, successfully), the aggregate is no longer pending and nothing blocked.
    (The lift to whole executor trees is `always_terminates` in Props/C08_exec.lean.) -/
theorem gather_terminates {α} (source : List (Slot α)) (val : Nat → α) (order : List Nat)
    (hplain : ∀ (i : Nat) (e : Exc), source[i]? ≠ some (some (Except.error e)))
    (hnodup : order.Nodup) (hall : ∀ i : Nat, source[i]? = some none ↔ i ∈ order) (hne : order ≠ []) :
    (((GState.init source).run (okComps val order)).outer).isSome = true ∧
    ((GState.init source).run (okComps val order)).blocked = false := by
  obtain ⟨h1, _, _, h4, _⟩ := gather_slots source val order hplain hnodup hall hne
  exact ⟨by simp [h1], h4⟩

private theorem run_pre_inv {α} (pre : List (Nat × α)) :
    ∀ (s : GState α) (j : Nat), GInv s → (pre.map (·.1)).Nodup → (∀ c ∈ pre, s.slots[c.1]? = some none) →
      s.slots[j]? = some none → j ∉ pre.map (·.1) →
      GInv (s.run (pre.map fun c => (c.1, .ok c.2))) ∧ (s.run (pre.map fun c => (c.1, .ok c.2))).slots[j]? = some none := by
  induction pre with
  | nil => intro s j inv _ _ hj _; exact ⟨inv, hj⟩
  | cons c rest ih =>
    intro s j inv nd hp hj hnot
    obtain ⟨hc, nd'⟩ := List.nodup_cons.mp nd
    have hcj : c.1 ≠ j := by
      intro h
      subst h
      exact hnot (List.mem_cons_self ..)
    obtain ⟨inv', hslots⟩ := finish_ok_inv s c.1 j c.2 inv (hp c (List.mem_cons_self ..)) hj hcj
    have hp' : ∀ d ∈ rest, (s.finish c.1 (.ok c.2)).slots[d.1]? = some none := by
      intro d hd
      have hne : c.1 ≠ d.1 := by
        intro h
        have : d.1 ∈ rest.map (·.1) := List.mem_map_of_mem hd
        rw [← h] at this
        exact hc this
      rw [hslots, List.getElem?_set_ne hne]
      exact hp d (List.mem_cons_of_mem _ hd)
    have hj' : (s.finish c.1 (.ok c.2)).slots[j]? = some none := by
      rw [hslots, List.getElem?_set_ne hcj]
      exact hj
    exact ih (s.finish c.1 (.ok c.2)) j inv' nd' hp' hj' fun h => hnot (List.mem_cons_of_mem _ h)

private theorem finish_outer_some {α} (s : GState α) (i : Nat) (d : Except Exc α) (x : Except Exc (List α))
    (h : s.outer = some x) : (s.finish i d).outer = some x ∧ (s.finish i d).sets = s.sets := by
  unfold GState.finish
  simp only
  split <;> simp_all

private theorem run_outer_some {α} (post : List (Nat × Except Exc α)) :
    ∀ (s : GState α) (x : Except Exc (List α)), s.outer = some x →
      (s.run post).outer = some x ∧ (s.run post).sets = s.sets := by
  induction post with
  | nil => intro s x h; exact ⟨h, rfl⟩
  | cons c rest ih =>
    intro s x h
    obtain ⟨h1, h2⟩ := finish_outer_some s c.1 c.2 x h
    obtain ⟨h3, h4⟩ := ih (s.finish c.1 c.2) x h1
    exact ⟨by simpa [GState.run] using h3, by simpa [GState.run, h2] using h4⟩

/-- If the completions `pre` succeed, then entry `j` fails with `e`, then anything
    (`post`: successes, failures, in any order) happens, the aggregate Future holds exactly the FIRST
    exception `e`, was set exactly once, and no later completion changes it. -/
theorem gather_first_exception {α} (source : List (Slot α)) (pre : List (Nat × α)) (j : Nat) (e : Exc)
    (post : List (Nat × Except Exc α))
    (hplain : ∀ (i : Nat) (e : Exc), source[i]? ≠ some (some (Except.error e)))
    (hnodup : (pre.map (·.1)).Nodup) (hpre : ∀ c ∈ pre, source[c.1]? = some none)
    (hj : source[j]? = some none) (hjnot : j ∉ pre.map (·.1)) :
    let f := (GState.init source).run ((pre.map fun c => (c.1, .ok c.2)) ++ (j, .error e) :: post)
    f.outer = some (.error e) ∧ f.sets = 1 := by
  obtain ⟨inv, hjs⟩ := run_pre_inv pre (GState.init source) j (init_inv source hplain) hnodup hpre hj hjnot
  have hrun : ∀ (l1 l2 : List (Nat × Except Exc α)) (s : GState α), s.run (l1 ++ l2) = (s.run l1).run l2 := by
    intro l1; induction l1 with
    | nil => intro l2 s; rfl
    | cons c r ih => intro l2 s; simp [GState.run, ih]
  generalize hs1 : (GState.init source).run (pre.map fun c => (c.1, .ok c.2)) = s1 at inv hjs
  have hfin : (s1.finish j (.error e)).outer = some (.error e) ∧ (s1.finish j (.error e)).sets = 1 := by
    simp [GState.finish, gatherOnFinish, inv.outer_none, inv.sets0]
  obtain ⟨h1, h2⟩ := run_outer_some post (s1.finish j (.error e)) (.error e) hfin.1
  simp only [hrun, GState.run, hs1]
  exact ⟨h1, by rw [h2, hfin.2]⟩

/-- non-vacuity: 0 succeeds, 2 fails with `boom`, then 1 fails with `runtime`, 3 succeeds -/
example : ((GState.init ([none, none, none, none] : List (Slot Nat))).run
      [(0, .ok 5), (2, .error .boom), (1, .error .runtime), (3, .ok 7)]).outer = some (.error .boom) := by rfl

/-- `chain(source, then, else_)` as `resolve_field` calls it (`else_=(BaseException, on_error)`, `on_error` handing a
    `ResolverError` to `fail` and re-raising anything else): a source that fails with a
    `ResolverError` makes the target SUCCEED with the handler's result (`null`, error recorded at the
    field's path); any other exception is propagated to the target unchanged; callbacks without `else_`
    propagate every exception; on a plain (non-Future) source `then` runs immediately. -/
theorem chain_else (path : Path) (s : ExecSt) :
    chainOnFinish applyCont (.failed .resolver) (.complete path) s
        = (.done (.val (.data .null)), s.addError path .resolver)
    ∧ (∀ e, e ≠ Exc.resolver → chainOnFinish applyCont (.failed e) (.complete path) s = (.failed e, s))
    ∧ (∀ e keys, chainOnFinish applyCont (.failed e) (.collect keys) s = (.failed e, s))
    ∧ (∀ e p, chainOnFinish applyCont (.failed e) (.nonNull p) s = (.failed e, s))
    ∧ (∀ e, chainOnFinish applyCont (.failed e) .onFinish s = (.failed e, s))
    ∧ (∀ e p k r a, chainOnFinish applyCont (.failed e) (.serialCb p k r a) s = (.failed e, s))
    ∧ (∀ x k, mapValue applyCont (.val x) k s = applyCont k (.ok x) s) := by
  refine ⟨rfl, ?_, ?_, ?_, ?_, ?_, ?_⟩
  · intro e he; cases e <;> simp_all [chainOnFinish, applyCont, applySimple]
  · intro e keys; cases e <;> rfl
  · intro e p; cases e <;> rfl
  · intro e; cases e <;> rfl
  · intro e p k r a; cases e <;> rfl
  · intro x k; rfl

/-- a Future whose result is a Future whose result is … (`n` levels) … `r` -/
def nest : Nat → Node → Node
  | 0, r => r
  | n + 1, r => .done (nest n r)

/-- `unwrap_future` of an `n+1`-fold nested finished Future yields the innermost plain value -/
theorem unwrap_flattens (n : Nat) (x : Val) : unwrapCb (nest (n + 1) (.val x)) = .done (.val x) := by
  induction n with
  | zero => simp [nest, unwrapCb]
  | succ n ih =>
    have : nest (n + 1 + 1) (.val x) = .done (nest (n + 1) (.val x)) := rfl
    rw [this]
    have h2 : nest (n + 1) (.val x) = .done (nest n (.val x)) := rfl
    rw [h2] at ih ⊢
    simpa [unwrapCb] using ih

/-- … an exception at any depth is the outcome -/
theorem unwrap_exception (n : Nat) (e : Exc) : unwrapCb (nest n (.failed e)) = .failed e := by
  induction n with
  | zero => simp [nest, unwrapCb]
  | succ n ih =>
    have : nest (n + 1) (.failed e) = .done (nest n (.failed e)) := rfl
    rw [this]
    cases n with
    | zero => simp [nest, unwrapCb]
    | succ m =>
      have h2 : nest (m + 1) (.failed e) = .done (nest m (.failed e)) := rfl
      rw [h2] at ih ⊢
      simpa [unwrapCb] using ih

/-- … and if the innermost Future is still pending the outer Future stays pending on exactly that one -/
theorem unwrap_waits (n : Nat) (p : Node) (hp : p.isPending = true) : unwrapCb (nest n p) = .unwrap p := by
  induction n with
  | zero => cases p <;> simp_all [nest, unwrapCb, Node.isPending, Node.finished]
  | succ n ih =>
    have : nest (n + 1) p = .done (nest n p) := rfl
    rw [this]
    cases n with
    | zero => cases p <;> simp_all [nest, unwrapCb, Node.isPending, Node.finished]
    | succ m =>
      have h2 : nest (m + 1) p = .done (nest m p) := rfl
      rw [h2] at ih ⊢
      simpa [unwrapCb] using ih

private theorem patch_aux {α β γ : Type} (isAw : α → Option β) (plain : α → γ) (res : β → γ) (vs : List α) :
    ∀ (pre : List γ),
      patch (pre ++ vs.map plain) (pendingIdx isAw vs pre.length) ((pendingOf isAw vs).map res)
        = pre ++ vs.map (fun v => match isAw v with | some a => res a | none => plain v) := by
  induction vs with
  | nil => intro pre; simp [pendingIdx, pendingOf, patch]
  | cons v r ih =>
    intro pre
    cases h : isAw v with
    | none =>
      have := ih (pre ++ [plain v])
      simp only [List.length_append, List.length_cons, List.length_nil, List.append_assoc, List.cons_append,
        List.nil_append] at this
      simp only [pendingIdx, pendingOf, h, List.map_cons]
      simpa using this
    | some a =>
      have := ih (pre ++ [res a])
      simp only [List.length_append, List.length_cons, List.length_nil, List.append_assoc, List.cons_append,
        List.nil_append] at this
      simp only [pendingIdx, pendingOf, h, List.map_cons, patch]
      have hset : (pre ++ plain v :: r.map plain).set pre.length (res a) = pre ++ res a :: r.map plain := by
        simp
      rw [hset]
      simpa using this

/-- asyncio `gather_values`: once `asyncio.gather` has returned the results of the
    awaitables (in the order they were collected), patching them in at `pending_idx` gives the results of
    ALL values in SOURCE order. -/
theorem gather_values_patch {α β γ : Type} (isAw : α → Option β) (plain : α → γ) (res : β → γ) (values : List α) :
    gatherValuesPatched isAw plain values ((pendingOf isAw values).map res)
      = values.map (fun v => match isAw v with | some a => res a | none => plain v) := by
  simpa [gatherValuesPatched] using patch_aux isAw plain res values []

end PyGql.Props.C08
