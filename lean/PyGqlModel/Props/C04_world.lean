/-
  C04 — locality in the world: the result computed under a response path depends on the resolver world only
  through calls whose response path lies under that path (`exec_world_congr`), hence changing the world at one
  field changes nothing at its siblings (`siblings_undisturbed_world`).
-/
import PyGqlModel.Lemmas.C04Steps


namespace PyGql.Props.C04
open PyGql PyGql.Exec

/-- the two worlds agree on every resolver call whose response path extends `p` -/
def AgreeUnder (w w' : World) (p : Path) : Prop :=
  ∀ parent field rel args, w parent field (p ++ rel) args = w' parent field (p ++ rel) args

private theorem agreeUnder_snoc (w w' : World) (p : Path) (x : Seg) (h : AgreeUnder w w' p) : AgreeUnder w w' (p ++ [x]) := by
  intro parent field rel args
  have := h parent field (x :: rel) args
  simpa [List.append_assoc] using this

/-- what is computed under a response path depends on the world only under that path. -/
theorem exec_world_congr (s : SchemaD) (doc : Doc) (vars : Vars) (w w' : World) (cf : Nat) :
    ∀ (fuel : Nat) (parent : String) (path : Path) (sels : List Sel), AgreeUnder w w' path →
      executeFields s doc vars w cf fuel parent path sels = executeFields s doc vars w' cf fuel parent path sels := by
  intro fuel
  induction fuel with
  | zero => intro parent path sels _; simp [executeFields]
  | succ n ih =>
    intro parent path sels hw
    simp only [executeFields]
    have : ∀ g, executeGroups s w (executeFields s doc vars w cf n) parent path g
        = executeGroups s w' (executeFields s doc vars w' cf n) parent path g := fun g =>
      executeGroups_congr s w w' _ _ parent path (fun key nodes fd _ =>
        resolveField_congr s w w' _ _ parent _ nodes fd (fun a => by simpa using hw parent fd.name [Seg.key key] a)
          (fun rel rt => ih rt _ _ (by
            intro p f rel' a
            simpa [List.append_assoc] using hw p f (Seg.key key :: (rel ++ rel')) a)))
    simp only [this]

/-- the worlds differ at most under the response path `p` -/
def AgreeOutside (w w' : World) (p : Path) : Prop :=
  ∀ parent field q args, ¬ (p <+: q) → w parent field q args = w' parent field q args

private theorem key_paths_diverge (path rel : Path) (k k' : String) (hne : k' ≠ k) :
    ¬ ((path ++ [Seg.key k]) <+: ((path ++ [Seg.key k']) ++ rel)) := by
  intro h
  obtain ⟨t, ht⟩ := h
  simp [List.append_assoc] at ht
  exact hne ht.1.symm

/-- Change the resolver world anywhere under the response path of ONE field
    (`path ++ [key k]`): every other response key of that selection set gets exactly the same data and the same
    errors (the groups before and after `k` are evaluated to identical results). With `siblings_undisturbed`
    (compositionality) the whole object differs only in the entry of `k`. -/
theorem siblings_undisturbed_world (s : SchemaD) (doc : Doc) (vars : Vars) (w w' : World) (cf n : Nat)
    (parent : String) (path : Path) (k : String) (hw : AgreeOutside w w' (path ++ [.key k]))
    (g : Grouped) (hk : k ∉ g.map (·.1)) :
    executeGroups s w (executeFields s doc vars w cf n) parent path g
      = executeGroups s w' (executeFields s doc vars w' cf n) parent path g := by
  refine executeGroups_congr s w w' _ _ parent path (fun key nodes fd hm => ?_)
  have hne : key ≠ k := fun e => hk (List.mem_map.2 ⟨_, hm, e⟩)
  have hag : AgreeUnder w w' (path ++ [.key key]) := fun p f rel a =>
    hw p f _ a (key_paths_diverge path rel k key hne)
  exact resolveField_congr s w w' _ _ parent _ nodes fd (fun a => by simpa using hag parent fd.name [] a) (fun rel rt =>
    exec_world_congr s doc vars w w' cf n rt _ _ (by
      intro p f rel' a
      simpa [List.append_assoc] using hag p f (rel ++ rel') a))

end PyGql.Props.C04
