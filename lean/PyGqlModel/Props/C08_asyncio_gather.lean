/-
  C08 — a first REFINEMENT step between the two deferred runtimes: for the same per-entry results,
  asyncio's `gather_values` (collect the awaitables, `asyncio.gather`, patch the results in at `pending_idx`) and the thread
  pool's `gather_futures` (slot list, `[v.result() if future else v for v in result]` at the last completion) deliver THE SAME
  LIST — `asyncio_gather_delivers_what_gather_futures_delivers`. So on the success path the `gather` node of the `Node` algebra
  (the executor theorems are about it) also describes what the asyncio combinator hands to `_collect` / `complete_list_value`.
  STILL OPEN (stated in DESIGN §11.1): there is no `runAsyncio` interpreter - coroutines are lazy (nothing runs before the loop
  steps the task), `map_value` / `unwrap_value` are `async def`, a failing member CANCELS its siblings - so `async_eq_blocking`,
  `always_terminates`, `serial_order` are theorems about the callback algebra of the thread pool, and the asyncio runtime is
  tied to them only by the controlled-schedule correspondence (per-field projection) and the pairwise equality oracle.
-/
import PyGqlModel.Props.C08

namespace PyGql.Props.C08
open PyGql.AsyncExec

/-- slot of one source entry once its awaitable (if it is one) has delivered `res a` -/
def slotOfEntry {α β γ : Type} (isAw : α → Option β) (plain : α → γ) (res : β → γ) (v : α) : Slot γ :=
  match isAw v with
  | some a => some (.ok (res a))
  | none => some (.ok (plain v))

private theorem collectSlots_all_ok {γ : Type} (l : List γ) :
    collectSlots (l.map fun x => (some (.ok x) : Slot γ)) = .setResult l := by
  induction l with
  | nil => rfl
  | cons x r ih => simp [collectSlots, ih]

theorem asyncio_gather_delivers_what_gather_futures_delivers {α β γ : Type} (isAw : α → Option β) (plain : α → γ)
    (res : β → γ) (values : List α) :
    collectSlots (values.map (slotOfEntry isAw plain res))
      = .setResult (gatherValuesPatched isAw plain values ((pendingOf isAw values).map res)) := by
  rw [gather_values_patch]
  have key : ∀ f : α → γ, (∀ v, slotOfEntry isAw plain res v = some (.ok (f v))) →
      collectSlots (values.map (slotOfEntry isAw plain res)) = .setResult (values.map f) := by
    intro f hf
    have : values.map (slotOfEntry isAw plain res) = (values.map f).map fun x => (some (.ok x) : Slot γ) := by
      simp only [List.map_map]
      exact List.map_congr_left (fun v _ => hf v)
    rw [this, collectSlots_all_ok]
  refine key _ ?_
  intro v
  simp only [slotOfEntry]
  cases isAw v <;> rfl

/-- non-vacuity: `[1, <aw 20>, 3, <aw 40>]` -/
example : gatherValuesPatched (fun v : Nat × Bool => if v.2 then some v.1 else none) (·.1)
    [(1, false), (20, true), (3, false), (40, true)] [120, 140] = [1, 120, 3, 140] := by decide +kernel

end PyGql.Props.C08
