/-
  C12 ↔ C13 — what "for every VALID schema" means for the round trip: audit 3, finding F10.

  The two predicates `printTextWF` / `printBuildWF` are split into (i) the clauses that C13's `ValidSchema` DISCHARGES and
  (ii) a decidable RESIDUAL `printResidual o s`, every conjunct of which is a named exclusion or a representation invariant
  of the by-name description:

      `ValidSchema full → Covers s full → printResidual o s = true → printTextWF o s = true ∧ printBuildWF s = true`
                                                                                      (`valid_implies_printWF`)

  `full` is the C13 view of the schema (specified scalars / introspection types / specified directives INCLUDED, flagged
  `builtin`), `s` the C12 view (they are left out: the printer does not write them) — `Covers s full`.
  DISCHARGED BY VALIDITY: every name is a `Name` lexeme (types, fields, arguments, input fields, enum values, directives,
  referenced type names, interfaces, union members, roots); object / interface / enum / input / union types have at least
  one member; every referenced type resolves in the builder's environment; the roots are object types of the schema; the
  printed text is not empty and a printed `schema` block names a root.
  RESIDUAL (`printResidual`, all decidable):
    * options: `descriptions = true` (for `include_descriptions=False`: `Props/C12_nodesc.lean`), indent of spaces / tabs;
    * NoH5 / NoH12 — `descOK` ∧ `descOKT`: descriptions not empty, survive `print_description` (no trailing newline /
      backslash / control character, lines ≤ 120 − indent);
    * NoH6 — `deprOK`: no empty deprecation reason;
    * NoH2 / NoH8 / printable defaults — `wtB` (canonical default: no omitted defaulted field, canonical floats) and the
      printed default consists of lexemes (`litOK`); validity's `DefaultOK` is shallow ("as far as the rule checks") and
      does NOT imply either (no theorem; `h2_valid_but_excluded` below is a witness);
    * enum values SDL-style (internal value = name), not `true/false/null` (`enumValOK`, `notBoolNull`), value names unique
      (C13's `EnumOK` does not ask it);
    * representation: `pythonName = name`, no resolvers, member lists of the kind only (`shapeOK`), no `!!` in a type
      expression (`tyShapeOK`), no builtin type / specified directive in `s`, type and directive names unique, directive
      locations from the table (not a C13 rule), roots not named like a specified type;
    * no eager / thunk reference cycle (`hasEagerCycle`, `hasThunkCycle`: C11's S1).
  `printResidual_necessary`: the residual is NECESSARY — it follows from `printTextWF ∧ printBuildWF` — so nothing but
  these exclusions separates a valid schema from the domain of `text_roundtrip_final` / `print_fixpoint_text`.

  The property theorems of this file: `valid_implies_printWF`, `printResidual_necessary`, `valid_roundtrip` and the witness
  `h2_valid_but_excluded`.  Everything else public (`*_discharged`, `*Res_of_wf`, `nameOK_of_*`, `*_resolves`, `tyOK_eq`,
  `covers_withSpecified`) is a step of their proofs.
-/
import PyGqlModel.Spec.SchemaValidSpec
import PyGqlModel.Props.C12_fixpoint
import PyGqlModel.Props.C13
namespace PyGql.Props.C12
open PyGql PyGql.Sdl PyGql.SdlPrint PyGql.SdlText PyGql.SchemaValid PyGql.SchemaValidSpec PyGql.Generated.SchemaValidTables

theorem nameOK_of_valid (n : String) (h : isValidName n = true) : nameOK n = true := by
  unfold isValidName matchName at h
  unfold nameOK Spec.Lexical.isName
  have e : T n = n.toList.map Char.toNat := rfl
  rw [e]
  cases hcs : n.toList.map Char.toNat with
  | nil => simp [hcs] at h
  | cons c rest =>
    simp only [hcs, Bool.and_eq_true] at h
    have hq : nameDollarQuirk = false := by decide
    simp only [hq, Bool.false_and, Bool.false_eq_true, if_false] at h
    obtain ⟨_, hs, hr⟩ := h
    simp only [Bool.and_eq_true]
    refine ⟨?_, ?_⟩
    · simp [nameStart, Spec.Lexical.isNameStart, Spec.Lexical.isLetter] at hs ⊢
      omega
    · rw [List.all_eq_true] at hr ⊢
      intro x hx
      have := hr x hx
      simp [nameCont, Spec.Lexical.isNameCont, Spec.Lexical.isNameStart, Spec.Lexical.isLetter, Spec.Lexical.isDigit] at this ⊢
      omega

theorem nameOK_of_default (n : String) (h : isDefaultName n = true) : nameOK n = true := by
  have hall : (builtinScalars ++ introspectionTypes).all nameOK = true := by decide +kernel
  simp only [isDefaultName, Bool.or_eq_true, List.contains_eq_mem, decide_eq_true_eq] at h
  exact List.all_eq_true.mp hall n (List.mem_append.mpr h)


/-- `full` is `s` plus specified types / directives (C13 validates `full`, C12 prints `s`) -/
structure Covers (s full : SchemaD) : Prop where
  types_sub : ∀ t ∈ s.types, t ∈ full.types
  types_rest : ∀ t ∈ full.types, t ∈ s.types ∨ isDefaultName t.name = true
  dirs_sub : ∀ d ∈ s.directives, d ∈ full.directives
  query : full.query = s.query
  mutation : full.mutation = s.mutation
  subscription : full.subscription = s.subscription


/-- no `!!` in a type expression (a representation invariant: `NonNullType(NonNullType(..))` cannot be constructed) -/
def tyShapeOK : Ty → Bool
  | .named _ => true
  | .list t => tyShapeOK t
  | .nonNull t => tyShapeOK t && !t.isNonNull

theorem tyOK_eq : ∀ t : Ty, tyOK t = (nameOK t.base && tyShapeOK t)
  | .named n => by simp [tyOK, tyShapeOK, Ty.base]
  | .list t => by simp [tyOK, tyShapeOK, Ty.base, tyOK_eq t]
  | .nonNull t => by simp [tyOK, tyShapeOK, Ty.base, tyOK_eq t, Bool.and_assoc]

def argRes (s : SchemaD) (w : Nat) (a : ArgD) : Bool :=
  a.pythonName == a.name && descOK a.desc && descOKT w a.desc && tyShapeOK a.type &&
  (if a.hasDefault then wtB s valueFuel a.default a.type &&
      (match valueLit s valueFuel a.default a.type with | some l => litOK l | none => false)
   else isNullJ a.default)

def fieldRes (s : SchemaD) (w : Nat) (f : FieldD) : Bool :=
  f.args.all (argRes s (2 * w)) && f.resolver.isNone && f.subscriptionResolver.isNone && deprOK f.deprecated &&
  descOK f.desc && descOKT w f.desc && tyShapeOK f.type

def enumValRes (w : Nat) (v : EnumValD) : Bool := enumValOK v && Spec.notBoolNull (T v.name) && descOKT w v.desc

def typeRes (s : SchemaD) (w : Nat) (t : TypeD) : Bool :=
  shapeOK t && t.fields.all (fieldRes s w) && t.inputFields.all (argRes s w) && t.values.all (enumValRes w) &&
  !hasDup (t.values.map (·.name)) && t.defaultResolver.isNone && !t.builtin && descOK t.desc && descOKT 0 t.desc &&
  !isDefaultName t.name

def directiveRes (s : SchemaD) (w : Nat) (d : DirectiveD) : Bool :=
  d.args.all (argRes s w) && descOK d.desc && descOKT 0 d.desc && !Sdl.specifiedDirectives.contains d.name &&
  !d.locations.isEmpty && d.locations.all (fun l => nameOK l && Generated.ParserTables.directiveLocations.contains (T l))

def rootNotDefault (r : Option String) : Bool := match r with | some n => !isDefaultName n | none => true

/-- what validity does not give (every conjunct a named exclusion / representation invariant) -/
def printResidual (o : SdlPrintT.OptsT) (s : SchemaD) : Bool :=
  o.descriptions && o.indent.all (fun c => c == 32 || c == 9) &&
  s.types.all (typeRes s o.indent.length) && s.directives.all (directiveRes s o.indent.length) &&
  !hasDup (s.types.map (·.name)) && !hasDup (s.directives.map (·.name)) &&
  !hasThunkCycle (docEnv s) (s.types.map (typeToDef s)) && !hasEagerCycle s.types && s.defaultResolver.isNone &&
  rootNotDefault s.query && rootNotDefault s.mutation && rootNotDefault s.subscription


section
variable {s full : SchemaD} (hc : Covers s full) (hn : ∀ t ∈ s.types, isValidName t.name = true)
include hc hn

theorem known_resolves (n : String) (k : Kind) (h : kindOf full n = some k) : (docEnv s).resolves n = true ∧ nameOK n = true := by
  simp only [kindOf, Option.map_eq_some_iff] at h
  obtain ⟨t, ht, _⟩ := h
  have hmem := List.mem_of_find?_eq_some ht
  have hname : t.name = n := by have := List.find?_some ht; simpa using this
  rcases hc.types_rest t hmem with hin | hdef
  · have hf : (s.findType n).isSome = true := by
      simp only [SchemaD.findType, List.find?_isSome]; exact ⟨t, hin, by simp [hname]⟩
    exact ⟨by simp only [Env.resolves, docEnv_findDef, Option.isSome_map, hf, Bool.or_true], hname ▸ nameOK_of_valid _ (hn t hin)⟩
  · rw [hname] at hdef
    exact ⟨by simp only [Env.resolves, hdef, Bool.true_or], nameOK_of_default n hdef⟩

theorem input_resolves (ty : Ty) (h : isInputType full ty = true) : (docEnv s).resolves ty.base = true ∧ nameOK ty.base = true := by
  unfold isInputType at h
  cases hk : kindOf full ty.base with
  | none => simp [hk] at h
  | some k => exact known_resolves hc hn _ k hk

theorem output_resolves (ty : Ty) (h : isOutputType full ty = true) : (docEnv s).resolves ty.base = true ∧ nameOK ty.base = true := by
  unfold isOutputType at h
  cases hk : kindOf full ty.base with
  | none => simp [hk] at h
  | some k => exact known_resolves hc hn _ k hk

theorem arg_discharged (w : Nat) (a : ArgD) (hname : isValidName a.name = true) (hty : isInputType full a.type = true)
    (hr : argRes s w a = true) : argOKT s w a = true ∧ argOK s a = true := by
  obtain ⟨h1, h2⟩ := input_resolves hc hn a.type hty
  have h3 := nameOK_of_valid _ hname
  simp only [argRes, Bool.and_eq_true] at hr
  obtain ⟨⟨⟨⟨hp, hd1⟩, hd2⟩, hsh⟩, hdef⟩ := hr
  by_cases hd : a.hasDefault = true
  · simp only [hd, if_true, Bool.and_eq_true] at hdef
    obtain ⟨hw, hl⟩ := hdef
    cases hv : valueLit s valueFuel a.default a.type with
    | none => simp [hv] at hl
    | some l =>
      simp only [hv] at hl
      simp [argOKT, argOK, tyOK_eq, h1, h2, h3, hp, hd1, hd2, hsh, hd, hw, hv, hl]
  · simp only [hd, Bool.false_eq_true, if_false] at hdef
    simp [argOKT, argOK, tyOK_eq, h1, h2, h3, hp, hd1, hd2, hsh, hd, hdef]

theorem args_discharged (w : Nat) (args : List ArgD) (hv : ArgsOK full args) (hr : args.all (argRes s w) = true) :
    args.all (argOKT s w) = true ∧ args.all (argOK s) = true := by
  rw [List.all_eq_true] at hr
  simp only [List.all_eq_true]
  exact ⟨fun a ha => (arg_discharged hc hn w a (hv.1 a ha).1 (hv.1 a ha).2.1 (hr a ha)).1,
         fun a ha => (arg_discharged hc hn w a (hv.1 a ha).1 (hv.1 a ha).2.1 (hr a ha)).2⟩

theorem field_discharged (rv : Bool) (w : Nat) (t : TypeD) (f : FieldD)
    (hv : ValidName f.name ∧ isOutputType full f.type = true ∧ ArgsOK full f.args ∧ ResolverOK full rv t f)
    (hr : fieldRes s w f = true) : fieldOKT s w f = true ∧ fieldOK s f = true := by
  obtain ⟨h1, h2⟩ := output_resolves hc hn f.type hv.2.1
  have h3 := nameOK_of_valid _ hv.1
  simp only [fieldRes, Bool.and_eq_true] at hr
  obtain ⟨⟨⟨⟨⟨⟨ha, hres⟩, hsub⟩, hdep⟩, hd1⟩, hd2⟩, hsh⟩ := hr
  obtain ⟨ha1, ha2⟩ := args_discharged hc hn (2 * w) f.args hv.2.2.1 ha
  simp [fieldOKT, fieldOK, tyOK_eq, h1, h2, h3, ha1, ha2, hres, hsub, hdep, hd1, hd2, hsh]

theorem fields_discharged (rv : Bool) (w : Nat) (t : TypeD) (hv : FieldsOK full rv t) (hr : t.fields.all (fieldRes s w) = true) :
    t.fields.isEmpty = false ∧ t.fields.all (fieldOKT s w) = true ∧ t.fields.all (fieldOK s) = true := by
  rw [List.all_eq_true] at hr
  simp only [List.all_eq_true]
  refine ⟨by cases hf : t.fields with | nil => exact absurd hf hv.1 | cons _ _ => rfl,
    fun f hf => (field_discharged hc hn rv w t f (hv.2.1 f hf) (hr f hf)).1,
    fun f hf => (field_discharged hc hn rv w t f (hv.2.1 f hf) (hr f hf)).2⟩

theorem inputs_discharged (w : Nat) (t : TypeD) (hv : InputOK full t) (hr : t.inputFields.all (argRes s w) = true) :
    t.inputFields.isEmpty = false ∧ t.inputFields.all (argOKT s w) = true ∧ t.inputFields.all (argOK s) = true := by
  rw [List.all_eq_true] at hr
  simp only [List.all_eq_true]
  refine ⟨by cases hf : t.inputFields with | nil => exact absurd hf hv.1 | cons _ _ => rfl,
    fun a ha => (arg_discharged hc hn w a (hv.2.1 a ha).1 (hv.2.1 a ha).2.1 (hr a ha)).1,
    fun a ha => (arg_discharged hc hn w a (hv.2.1 a ha).1 (hv.2.1 a ha).2.1 (hr a ha)).2⟩

theorem values_discharged (w : Nat) (t : TypeD) (hv : EnumOK t) (hr : t.values.all (enumValRes w) = true) :
    t.values.isEmpty = false ∧ t.values.all (enumValOKT w) = true ∧ t.values.all enumValOK = true := by
  rw [List.all_eq_true] at hr
  simp only [List.all_eq_true]
  refine ⟨by cases hf : t.values with | nil => exact absurd hf hv.1 | cons _ _ => rfl, fun v hm => ?_, fun v hm => ?_⟩
  · have := hr v hm
    simp only [enumValRes, Bool.and_eq_true] at this
    simp [enumValOKT, nameOK_of_valid _ (hv.2 v hm).1, this.1.2, this.2]
  · have := hr v hm
    simp only [enumValRes, Bool.and_eq_true] at this
    exact this.1.1

theorem type_discharged (rv : Bool) (w : Nat) (t : TypeD) (hv : TypeOK full rv t) (hr : typeRes s w t = true) :
    typeOKT s w t = true ∧ typeOK s t = true := by
  simp only [typeRes, Bool.and_eq_true, Bool.not_eq_true'] at hr
  obtain ⟨⟨⟨⟨⟨⟨⟨⟨⟨hsh, hfr⟩, hir⟩, hvr⟩, hdup⟩, hdr⟩, hb⟩, hd1⟩, hd2⟩, hnd⟩ := hr
  have hname : nameOK t.name = true := by
    rcases hv.1 with h | h
    · rw [hb] at h; exact absurd h (by decide)
    · exact nameOK_of_valid _ h
  have hkind := hv.2
  have hd0 : hasDup ([] : List String) = false := rfl
  cases hk : t.kind <;> simp only [hk] at hkind <;>
    simp only [shapeOK, hk, Bool.and_eq_true, List.isEmpty_iff] at hsh
  · -- scalar
    simp [typeOKT, typeOK, shapeOK, hk, hname, hd1, hd2, hdup, hd0, hdr, hb, hnd, hsh]
  · -- object
    obtain ⟨h1, h2, h3⟩ := fields_discharged hc hn rv w t hkind.1 hfr
    have hi : t.interfaces.all nameOK = true ∧ t.interfaces.all (docEnv s).resolves = true := by
      simp only [List.all_eq_true]
      refine ⟨fun i hi => ?_, fun i hi => ?_⟩ <;>
      · obtain ⟨it, hfi, hki, _⟩ := hkind.2.1 i hi
        have := known_resolves hc hn i .interface (by simp [kindOf, hfi, hki])
        first | exact this.2 | exact this.1
    simp [typeOKT, typeOK, shapeOK, hk, hname, hd1, hd2, hdup, hd0, hdr, hb, hnd, hsh, h1, h2, h3, hi.1, hi.2]
  · -- interface
    obtain ⟨h1, h2, h3⟩ := fields_discharged hc hn rv w t hkind hfr
    simp [typeOKT, typeOK, shapeOK, hk, hname, hd1, hd2, hdup, hd0, hdr, hb, hnd, hsh, h1, h2, h3]
  · -- union
    have hm : t.members.isEmpty = false ∧ t.members.all nameOK = true ∧ t.members.all (docEnv s).resolves = true := by
      simp only [List.all_eq_true]
      refine ⟨by cases hf : t.members with | nil => exact absurd hf hkind.1 | cons _ _ => rfl, fun m hm => ?_, fun m hm => ?_⟩
      · exact (known_resolves hc hn m .object (hkind.2.1 m hm)).2
      · exact (known_resolves hc hn m .object (hkind.2.1 m hm)).1
    simp [typeOKT, typeOK, shapeOK, hk, hname, hd1, hd2, hdup, hd0, hdr, hb, hnd, hsh, hm.1, hm.2.1, hm.2.2]
  · -- enum
    obtain ⟨h1, h2, h3⟩ := values_discharged hc hn w t hkind hvr
    simp [typeOKT, typeOK, shapeOK, hk, hname, hd1, hd2, hdup, hd0, hdr, hb, hnd, hsh, h1, h2, h3]
  · -- input
    obtain ⟨h1, h2, h3⟩ := inputs_discharged hc hn w t hkind hir
    simp [typeOKT, typeOK, shapeOK, hk, hname, hd1, hd2, hdup, hd0, hdr, hb, hnd, hsh, h1, h2, h3]

theorem directive_discharged (w : Nat) (d : DirectiveD) (hv : ValidName d.name ∧ ArgsOK full d.args) (hr : directiveRes s w d = true) :
    directiveOKT s w d = true ∧ directiveOK s d = true := by
  simp only [directiveRes, Bool.and_eq_true] at hr
  obtain ⟨⟨⟨⟨⟨ha, hd1⟩, hd2⟩, hsp⟩, hl1⟩, hl2⟩ := hr
  obtain ⟨ha1, ha2⟩ := args_discharged hc hn w d.args hv.2 ha
  simp only [directiveOKT, directiveOK, Bool.and_eq_true]
  exact ⟨⟨⟨⟨⟨nameOK_of_valid _ hv.1, hd2⟩, ha1⟩, hl1⟩, hl2⟩, ⟨⟨ha2, hd1⟩, hsp⟩⟩

theorem root_discharged (r : Option String) (hv : RootOK full r) (hr : rootNotDefault r = true) :
    rootIsObject s r = true ∧ rootOKT r = true := by
  cases r with
  | none => exact ⟨rfl, rfl⟩
  | some q =>
    have hk := hv q rfl
    have hres := known_resolves hc hn q .object hk
    simp only [kindOf, Option.map_eq_some_iff] at hk
    obtain ⟨t, ht, hkind⟩ := hk
    have hmem := List.mem_of_find?_eq_some ht
    have hname : t.name = q := by have := List.find?_some ht; simpa using this
    simp only [rootNotDefault, Bool.not_eq_true'] at hr
    rcases hc.types_rest t hmem with hin | hdef
    · refine ⟨?_, hres.2⟩
      simp only [rootIsObject, List.any_eq_true]
      exact ⟨t, hin, by simp [hname, hkind]⟩
    · rw [hname, hr] at hdef; exact absurd hdef (by decide)

end

/-- a VALID schema (C13's `ValidSchema`, on the view that includes the specified types) that is not one of the named
    exclusions (`printResidual`) is in the domain of the round-trip theorems -/
theorem valid_implies_printWF (o : SdlPrintT.OptsT) (s full : SchemaD) (rv : Bool) (hc : Covers s full)
    (hv : ValidSchema full rv) (hr : printResidual o s = true) : printTextWF o s = true ∧ printBuildWF s = true := by
  obtain ⟨hroots, htypes, hdirs⟩ := hv
  simp only [printResidual, Bool.and_eq_true, Bool.not_eq_true'] at hr
  obtain ⟨⟨⟨⟨⟨⟨⟨⟨⟨⟨⟨hdesc, hind⟩, htr⟩, hdr⟩, hut⟩, hud⟩, hth⟩, hea⟩, hres⟩, hq⟩, hm⟩, hsub⟩ := hr
  rw [List.all_eq_true] at htr hdr
  have hn : ∀ t ∈ s.types, isValidName t.name = true := by
    intro t ht
    have hb : t.builtin = false := by
      have := htr t ht
      simp only [typeRes, Bool.and_eq_true, Bool.not_eq_true'] at this
      exact this.1.1.1.2
    rcases (htypes t (hc.types_sub t ht)).1 with h | h
    · rw [hb] at h; exact absurd h (by decide)
    · exact h
  have hT : s.types.all (typeOKT s o.indent.length) = true ∧ s.types.all (typeOK s) = true := by
    simp only [List.all_eq_true]
    exact ⟨fun t ht => (type_discharged hc hn rv _ t (htypes t (hc.types_sub t ht)) (htr t ht)).1,
           fun t ht => (type_discharged hc hn rv _ t (htypes t (hc.types_sub t ht)) (htr t ht)).2⟩
  have hD : s.directives.all (directiveOKT s o.indent.length) = true ∧ s.directives.all (directiveOK s) = true := by
    simp only [List.all_eq_true]
    exact ⟨fun d hd => (directive_discharged hc hn _ d (hdirs d (hc.dirs_sub d hd)) (hdr d hd)).1,
           fun d hd => (directive_discharged hc hn _ d (hdirs d (hc.dirs_sub d hd)) (hdr d hd)).2⟩
  obtain ⟨hq1, hq2⟩ := root_discharged hc hn s.query (hc.query ▸ hroots.2.1) hq
  obtain ⟨hm1, hm2⟩ := root_discharged hc hn s.mutation (hc.mutation ▸ hroots.2.2.1) hm
  obtain ⟨hs1, hs2⟩ := root_discharged hc hn s.subscription (hc.subscription ▸ hroots.2.2.2) hsub
  have hqs : ∃ q, s.query = some q := by
    have := hroots.1; rw [hc.query] at this
    cases hq' : s.query with
    | none => exact absurd hq' this
    | some q => exact ⟨q, rfl⟩
  obtain ⟨q, hqe⟩ := hqs
  have hne : s.types.isEmpty = false := by
    rw [hqe] at hq1
    simp only [rootIsObject, List.any_eq_true] at hq1
    obtain ⟨t, ht, _⟩ := hq1
    cases hty : s.types with
    | nil => rw [hty] at ht; exact absurd ht (by simp)
    | cons _ _ => rfl
  have hops : (rootOps s).isEmpty = false := by simp [rootOps, hqe]
  have hu : namesUnique s = true := by
    simp only [namesUnique, Bool.and_eq_true, decide_eq_true_eq]
    exact ⟨(hasDup_false_iff _).mp hut, (hasDup_false_iff _).mp hud⟩
  refine ⟨?_, ?_⟩
  · simp [printTextWF, hdesc, hind, hT.1, hD.1, hq2, hm2, hs2, hne, hops, hu]
  · simp [printBuildWF, hT.2, hD.2, hut, hud, rootsOK, hq1, hm1, hs1, hth, hea, hres]


theorem argRes_of_wf (s : SchemaD) (w : Nat) (a : ArgD) (h1 : argOKT s w a = true) (h2 : argOK s a = true) : argRes s w a = true := by
  simp only [argOKT, tyOK_eq, Bool.and_eq_true] at h1
  simp only [argOK, Bool.and_eq_true] at h2
  obtain ⟨⟨⟨_, _, hsh⟩, hd2⟩, hlex⟩ := h1
  obtain ⟨⟨⟨hp, _⟩, hd1⟩, hdef⟩ := h2
  by_cases hd : a.hasDefault = true
  · simp only [hd, if_true] at hlex hdef
    cases hv : valueLit s valueFuel a.default a.type with
    | none => simp [hv] at hlex
    | some l =>
      simp only [hv] at hlex
      simp [argRes, hp, hd1, hd2, hsh, hd, hdef, hv, hlex]
  · simp only [hd, Bool.false_eq_true, if_false] at hdef
    simp [argRes, hp, hd1, hd2, hsh, hd, hdef]

theorem fieldRes_of_wf (s : SchemaD) (w : Nat) (f : FieldD) (h1 : fieldOKT s w f = true) (h2 : fieldOK s f = true) : fieldRes s w f = true := by
  simp only [fieldOKT, tyOK_eq, Bool.and_eq_true, List.all_eq_true] at h1
  simp only [fieldOK, Bool.and_eq_true, List.all_eq_true] at h2
  obtain ⟨⟨⟨_, _, hsh⟩, hd2⟩, ha1⟩ := h1
  obtain ⟨⟨⟨⟨⟨ha2, _⟩, hr⟩, hsr⟩, hdep⟩, hd1⟩ := h2
  have ha : f.args.all (argRes s (2 * w)) = true := by
    rw [List.all_eq_true]; exact fun a hm => argRes_of_wf s _ a (ha1 a hm) (ha2 a hm)
  simp [fieldRes, ha, hr, hsr, hdep, hd1, hd2, hsh]

theorem typeRes_of_wf (s : SchemaD) (w : Nat) (t : TypeD) (h1 : typeOKT s w t = true) (h2 : typeOK s t = true) : typeRes s w t = true := by
  simp only [typeOK, Bool.and_eq_true, Bool.not_eq_true', List.all_eq_true] at h2
  obtain ⟨⟨⟨⟨⟨⟨⟨⟨⟨⟨hsh, hf2⟩, hi2⟩, hv2⟩, hdup⟩, _⟩, _⟩, hdr⟩, hb⟩, hd1⟩, hnd⟩ := h2
  simp only [typeOKT, Bool.and_eq_true] at h1
  obtain ⟨⟨_, hd2⟩, hk1⟩ := h1
  have hfields : t.fields.all (fieldRes s w) = true := by
    rw [List.all_eq_true]; intro f hm
    have : fieldOKT s w f = true := by
      cases hk : t.kind <;> simp only [hk, Bool.and_eq_true, List.all_eq_true] at hk1 <;>
        simp only [shapeOK, hk, Bool.and_eq_true, List.isEmpty_iff] at hsh
      · rw [hsh.1.1.1.2] at hm; exact absurd hm (by simp)
      · exact hk1.1.2 f hm
      · exact hk1.2 f hm
      · rw [hsh.1.1.2] at hm; exact absurd hm (by simp)
      · rw [hsh.1.1.2] at hm; exact absurd hm (by simp)
      · rw [hsh.1.1.2] at hm; exact absurd hm (by simp)
    exact fieldRes_of_wf s w f this (hf2 f hm)
  have hinputs : t.inputFields.all (argRes s w) = true := by
    rw [List.all_eq_true]; intro a hm
    have : argOKT s w a = true := by
      cases hk : t.kind <;> simp only [hk, Bool.and_eq_true, List.all_eq_true] at hk1 <;>
        simp only [shapeOK, hk, Bool.and_eq_true, List.isEmpty_iff] at hsh
      · rw [hsh.2] at hm; exact absurd hm (by simp)
      · rw [hsh.2] at hm; exact absurd hm (by simp)
      · rw [hsh.2] at hm; exact absurd hm (by simp)
      · rw [hsh.2] at hm; exact absurd hm (by simp)
      · rw [hsh.2] at hm; exact absurd hm (by simp)
      · exact hk1.2 a hm
    exact argRes_of_wf s w a this (hi2 a hm)
  have hvalues : t.values.all (enumValRes w) = true := by
    rw [List.all_eq_true]; intro v hm
    have : enumValOKT w v = true := by
      cases hk : t.kind <;> simp only [hk, Bool.and_eq_true, List.all_eq_true] at hk1 <;>
        simp only [shapeOK, hk, Bool.and_eq_true, List.isEmpty_iff] at hsh
      · rw [hsh.1.2] at hm; exact absurd hm (by simp)
      · rw [hsh.1.2] at hm; exact absurd hm (by simp)
      · rw [hsh.1.2] at hm; exact absurd hm (by simp)
      · rw [hsh.1.2] at hm; exact absurd hm (by simp)
      · exact hk1.2 v hm
      · rw [hsh.2] at hm; exact absurd hm (by simp)
    simp only [enumValOKT, Bool.and_eq_true] at this
    simp [enumValRes, hv2 v hm, this.1.2, this.2]
  have hshape : shapeOK t = true := by
    cases hk : t.kind <;> simp only [shapeOK, hk, Bool.and_eq_true, List.isEmpty_iff] at hsh ⊢ <;> exact hsh
  simp [typeRes, hshape, hfields, hinputs, hvalues, hdup, hdr, hb, hd1, hd2, hnd]

theorem directiveRes_of_wf (s : SchemaD) (w : Nat) (d : DirectiveD) (h1 : directiveOKT s w d = true) (h2 : directiveOK s d = true) :
    directiveRes s w d = true := by
  simp only [directiveOKT, Bool.and_eq_true, List.all_eq_true] at h1
  simp only [directiveOK, Bool.and_eq_true, List.all_eq_true] at h2
  obtain ⟨⟨⟨⟨_, hd2⟩, ha1⟩, hl1⟩, hl2⟩ := h1
  obtain ⟨⟨ha2, hd1⟩, hsp⟩ := h2
  have ha : d.args.all (argRes s w) = true := by
    rw [List.all_eq_true]; exact fun a hm => argRes_of_wf s _ a (ha1 a hm) (ha2 a hm)
  have hl : d.locations.all (fun l => nameOK l && Generated.ParserTables.directiveLocations.contains (T l)) = true := by
    rw [List.all_eq_true]; intro l hm; simpa using hl2 l hm
  simp only [directiveRes, Bool.and_eq_true]
  exact ⟨⟨⟨⟨⟨ha, hd1⟩, hd2⟩, hsp⟩, hl1⟩, hl⟩

/-- every conjunct of the residual follows from `printTextWF ∧ printBuildWF`: together with `valid_implies_printWF`, on valid
    schemas the domain of the round-trip theorems is EXACTLY the residual -/
theorem printResidual_necessary (o : SdlPrintT.OptsT) (s : SchemaD) (h1 : printTextWF o s = true) (h2 : printBuildWF s = true) :
    printResidual o s = true := by
  simp only [printTextWF, Bool.and_eq_true, List.all_eq_true] at h1
  simp only [printBuildWF, Bool.and_eq_true, Bool.not_eq_true', List.all_eq_true] at h2
  obtain ⟨⟨⟨⟨⟨⟨⟨⟨⟨hdesc, hind⟩, ht1⟩, hd1⟩, _⟩, _⟩, _⟩, _⟩, _⟩, _⟩ := h1
  obtain ⟨⟨⟨⟨⟨⟨⟨ht2, hd2⟩, hut⟩, hud⟩, hro⟩, hth⟩, hea⟩, hres⟩ := h2
  have hT : s.types.all (typeRes s o.indent.length) = true := by
    rw [List.all_eq_true]; exact fun t hm => typeRes_of_wf s _ t (ht1 t hm) (ht2 t hm)
  have hD : s.directives.all (directiveRes s o.indent.length) = true := by
    rw [List.all_eq_true]; exact fun d hm => directiveRes_of_wf s _ d (hd1 d hm) (hd2 d hm)
  have hroot : ∀ r, rootIsObject s r = true → rootNotDefault r = true := by
    intro r hr
    cases r with
    | none => rfl
    | some q =>
      simp only [rootIsObject, List.any_eq_true, Bool.and_eq_true, beq_iff_eq] at hr
      obtain ⟨t, hm, hq, _⟩ := hr
      have := ht2 t hm
      simp only [typeOK, Bool.and_eq_true, Bool.not_eq_true'] at this
      simp only [rootNotDefault, ← hq, this.2, Bool.not_false]
  simp only [rootsOK, Bool.and_eq_true] at hro
  have hind' : o.indent.all (fun c => c == 32 || c == 9) = true := by rw [List.all_eq_true]; exact hind
  simp [printResidual, hdesc, hind', hT, hD, hut, hud, hth, hea, hres, hroot _ hro.1.1, hroot _ hro.1.2, hroot _ hro.2]

/-- the property for VALID schemas with the exclusions named: the printed text parses, the parsed document builds a schema
    equal to `s` up to the order of definitions, and re-printing it gives the same text -/
theorem valid_roundtrip (o : SdlPrintT.OptsT) (s full : SchemaD) (rv : Bool) (hc : Covers s full)
    (hv : ValidSchema full rv) (hr : printResidual o s = true) :
    ∃ (d : Ast.Document) (doc : Doc) (s' : SchemaD), parseSdlTextT (SdlPrintT.printSchemaT o s) = some d ∧
      docToAst doc = some d ∧ build doc = .ok s' ∧ SameUpToOrder s' s ∧
      SdlPrintT.printSchemaT o s' = SdlPrintT.printSchemaT o s := by
  obtain ⟨hwf, hb⟩ := valid_implies_printWF o s full rv hc hv hr
  obtain ⟨d, doc, h1, h2, h3⟩ := text_roundtrip o s hwf (printBuildWF_printOrder s hb)
  exact ⟨d, doc, printOrder s, h1, h2, h3, ⟨types_perm s, directives_perm s, rfl, rfl, rfl, rfl⟩,
    printSchemaT_order_independent o s (namesUnique_of_wf o s hwf)⟩


def specifiedScalars : List TypeD :=
  ["Int", "Float", "Boolean", "String", "ID"].map fun n => { kind := .scalar, name := n, builtin := true }

/-- the schema with the five specified scalars in its registry (what `Schema.types` holds and C13 validates) -/
def withSpecified (s : SchemaD) : SchemaD := { s with types := s.types ++ specifiedScalars }

theorem covers_withSpecified (s : SchemaD) : Covers s (withSpecified s) where
  types_sub := fun t ht => List.mem_append_left _ ht
  types_rest := fun t ht => by
    rcases List.mem_append.mp ht with h | h
    · exact Or.inl h
    · right
      simp only [specifiedScalars, List.map_cons, List.map_nil, List.mem_cons, List.mem_nil_iff, or_false] at h
      rcases h with h | h | h | h | h <;> subst h <;> rfl
  dirs_sub := fun _ hd => hd
  query := rfl
  mutation := rfl
  subscription := rfl


/-- `descShop` / `plainShop` are valid (C13) and none of the exclusions: the theorem applies (`decide` evaluates C13's
    validator; on `shop` it gets stuck at the derived `BEq J` of the enum-default rule) -/
private theorem descShop_valid : ValidSchema (withSpecified descShop) := (Props.C13.validate_iff _ true).mp (by decide +kernel)
private theorem descShop_residual : printResidual {} descShop = true :=
  printResidual_necessary {} descShop descShop_textWF descShop_wf
example : ValidSchema (withSpecified descShop) := descShop_valid
example : printResidual {} descShop = true := descShop_residual
example : printTextWF {} descShop = true ∧ printBuildWF descShop = true :=
  valid_implies_printWF {} descShop (withSpecified descShop) true (covers_withSpecified descShop) descShop_valid descShop_residual
example : printTextWF {} plainShop = true ∧ printBuildWF plainShop = true :=
  valid_implies_printWF {} plainShop (withSpecified plainShop) true (covers_withSpecified plainShop)
    ((Props.C13.validate_iff _ true).mp (by decide +kernel)) (printResidual_necessary {} plainShop plainShop_textWF plainShop_wf)
example : printResidual {} shop = true := printResidual_necessary {} shop shop_textWF shop_wf

/-- finding H2 as an exclusion of a VALID schema: `f(i: I = {n: 1})` where `I` has a defaulted field `s` that the default
    omits (the shape of `h2Schema`, `print_build_roundtrip_needs_NoH2`) -/
def h2Valid : SchemaD :=
  { types := [{ kind := .input, name := "I",
                inputFields := [{ name := "n", type := .named "Int" },
                                { name := "s", type := .named "String", hasDefault := true, default := .str "dflt" }] },
              { kind := .object, name := "Query",
                fields := [{ name := "f", type := .named "Int",
                             args := [{ name := "i", type := .named "I", hasDefault := true, default := .obj [("n", .num 1)] }] }] }],
    query := some "Query" }

/-- it passes C13's validation (the default conforms "as far as the rule checks") and is outside `printResidual` /
    `printBuildWF` (only the NoH2 clause `wtB` fails): validity alone does NOT give the round trip, the residual is not
    redundant -/
theorem h2_valid_but_excluded : ValidSchema (withSpecified h2Valid) ∧ printResidual {} h2Valid = false ∧ printBuildWF h2Valid = false :=
  ⟨(Props.C13.validate_iff _ true).mp (by decide +kernel), by decide +kernel, by decide +kernel⟩

end PyGql.Props.C12
