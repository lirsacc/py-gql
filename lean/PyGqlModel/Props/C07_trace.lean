/-
  C07 — "…are rejected BEFORE ANY RESOLVER RUNS".
  Trace model: PyGqlModel/CoerceExec.lean. Tied to the code by the recording resolvers of harness/corr/C07.py
  (stream `trace`: the calls observed in a real `graphql_blocking` run == the `call` events of `executeOp`, in order;
  direct oracle signatures `accepted-must-reject:*` and `resolver-ran-on-rejected-arguments`).
-/
import PyGqlModel.Props.C07_args
import PyGqlModel.CoerceExec


namespace PyGql.Props.C07
open PyGql PyGql.Coerce

/-- If the arguments of a selection are rejected (or coercing them raises),
    the event of that selection is not a resolver call; and when it IS a call, the keyword arguments are exactly what
    `coerce_argument_values` returned. -/
theorem no_resolver_call_on_rejected_arguments (reg : Reg) (fuel : Nat) (env : List (String × PV)) (sel : FieldSel) :
    (∀ e, coerceArgumentValues reg fuel env sel.args sel.defs = .error e → (resolveField reg fuel env sel).isCall = false) ∧
    (∀ key kw, resolveField reg fuel env sel = .call key kw →
        key = sel.key ∧ ∃ kw', coerceArgumentValues reg fuel env sel.args sel.defs = .ok kw' ∧ kw = dictOfAssignments kw') := by
  constructor
  · intro e h
    cases e <;> simp [resolveField, h, Ev.isCall]
  · intro key kw h
    unfold resolveField at h
    split at h
    · rename_i kw' hk; cases h; exact ⟨rfl, kw', hk, rfl⟩
    · cases h
    · cases h

private theorem resolveFields_calls (reg : Reg) (fuel : Nat) (env : List (String × PV)) :
    ∀ (sels : List FieldSel) (key : String) (kw : List (String × PV)), Ev.call key kw ∈ resolveFields reg fuel env sels →
      ∃ sel, sel ∈ sels ∧ sel.key = key ∧
        ∃ kw', coerceArgumentValues reg fuel env sel.args sel.defs = .ok kw' ∧ kw = dictOfAssignments kw' := by
  intro sels
  induction sels with
  | nil => intro key kw h; simp [resolveFields] at h
  | cons sel rest ih =>
    intro key kw h
    simp only [resolveFields] at h
    split at h
    · simp at h
    · rcases List.mem_cons.1 h with heq | hm
      · obtain ⟨h1, h2⟩ := (no_resolver_call_on_rejected_arguments reg fuel env sel).2 key kw heq.symm
        exact ⟨sel, List.mem_cons_self, h1.symm, h2⟩
      · obtain ⟨s, hs, h1, h2⟩ := ih key kw hm
        exact ⟨s, List.mem_cons_of_mem _ hs, h1, h2⟩

/-- If variable coercion fails, no resolver runs at all. -/
theorem no_resolver_call_on_rejected_variables (reg : Reg) (fuel : Nat) (defs : List VarDef) (variables : List (String × JV))
    (sels : List FieldSel) (e : Err) (h : coerceVariableValues reg fuel variables defs = .error e) :
    ∀ ev, ev ∈ executeOp reg fuel defs variables sels → ev.isCall = false := by
  intro ev hev
  cases e <;> simp [executeOp, h] at hev <;> subst hev <;> rfl

/-- End to end: every resolver call in the trace of an operation carries keyword arguments
    that conform to the argument definitions of the field it resolves (variables were coerced first, arguments second,
    the call last), for registries, argument definitions and variable usages satisfying the stated side conditions. -/
theorem every_call_conforms {reg : Reg} (hreg : RegOK reg) (fuel : Nat) (defs : List VarDef) (variables : List (String × JV))
    (sels : List FieldSel)
    (hargs : ∀ sel, sel ∈ sels → ArgsOK reg sel.defs)
    (hfit : ∀ env, coerceVariableValues reg fuel variables defs = .ok env → ∀ sel, sel ∈ sels → ∀ d, d ∈ sel.defs →
        ∀ l, lookupLast d.name sel.args = some l → VarsFit reg (some env) d.type l) :
    ∀ key kw, Ev.call key kw ∈ executeOp reg fuel defs variables sels →
      ∃ sel, sel ∈ sels ∧ sel.key = key ∧ ConformsFields reg sel.defs kw := by
  intro key kw h
  unfold executeOp at h
  split at h
  · rename_i env henv
    obtain ⟨sel, hs, h1, kw', h2, rfl⟩ := resolveFields_calls reg fuel env sels key kw h
    have hc := arguments_sound hreg fuel env sel.args sel.defs kw' (hargs sel hs) (hfit env henv sel hs) h2
    rw [dictOfAssignments_conforms (hargs sel hs).pyNamesDistinct hc]
    exact ⟨sel, hs, h1, hc⟩
  · simp at h
  · simp at h

end PyGql.Props.C07
