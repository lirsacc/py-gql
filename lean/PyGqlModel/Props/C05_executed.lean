/-
  C05 — the soundness chain stated about the description the DRIVER EXECUTES. `s` is a schema description as
  `canon_schema.dump_schema` produces it (built-in scalars not listed); the validator model and the schema checks read
  `withBuiltins s`; the response is the one `Exec.execute s` computes (`execute_withBuiltins`), and the world is typed
  against `s` (`worldTyped_withBuiltins`).
-/
import PyGqlModel.Lemmas.C05Reads
import PyGqlModel.Props.C05_schema

set_option linter.unusedSimpArgs false

namespace PyGql.Props.C05
open PyGql PyGql.Exec PyGql.Spec

private theorem conforms_withBuiltins (s : SchemaD) : ∀ t, Conforms (withBuiltins s) t = Conforms s t := by
  intro t
  induction t with
  | named n =>
    funext v
    cases v <;> simp only [Conforms, kindOf_withBuiltins, serializeLeaf_withBuiltins, isPossibleType_withBuiltins]
  | list t ih =>
    funext v
    cases v <;> simp only [Conforms, ih]
  | nonNull t ih =>
    funext v
    simp only [Conforms, ih]

/-- `execute_withBuiltins` (`Lemmas/C05Reads.lean`, from `execute_congr`: the executor model reads the schema only through
    `kindOf`, `fieldOf`, `isPossibleType`, `rootType`, `serializeLeaf`, `query`; each is invariant by `Lemmas/C05Builtins.lean`):
    listing the built-in scalars in the description changes no response -/
theorem execute_lists_builtins (s : SchemaD) (doc : Doc) (vars : Vars) (w : World) (op : Option String) (fuel cf : Nat) :
    execute (withBuiltins s) doc vars w op fuel cf = execute s doc vars w op fuel cf :=
  execute_withBuiltins s doc vars w op fuel cf

theorem schemaChecksExec_lists_builtins (s : SchemaD) : schemaChecksExecB (withBuiltins s) = schemaChecksExecB s :=
  schemaChecksExec_withBuiltins s

theorem worldTyped_withBuiltins (s : SchemaD) (w : World) (h : WorldTyped s w) : WorldTyped (withBuiltins s) w := by
  intro parent field path args fd hf
  rw [fieldOf_withBuiltins] at hf
  have := h parent field path args fd hf
  rw [conforms_withBuiltins]
  exact this

/-- C05's execution half about what the driver runs: `s` is the dumped schema,
    `schemaChecksB (withBuiltins s)` the evaluated schema facts, all 26 rule visitors silent on the document (validator
    model over `withBuiltins s`), the world typed against `s`: the response `Exec.execute s` computes for the translated
    document is never an internal exception. Remaining document-side hypotheses: `NoIntrospection`, non-empty fragment
    names, `MergeSafe`. -/
theorem accepted_cannot_go_wrong_executed (s : SchemaD) (hchk : schemaChecksB (withBuiltins s) = true)
    (fx : Validate.Fixes) (hv11 : fx.v11 = true) (env : Exec.ArgEnv) (d : Validate.Doc) (vars : Exec.Vars)
    (hacc : ∀ r ∈ Validate.Rule.all, C06.Silent (withBuiltins s) fx r d)
    (hne : ∀ f ∈ Validate.Spec.fragNames d, f ≠ "") (hni : NoIntrospection (withBuiltins s) d)
    (hm : MergeSafe (withBuiltins s) (eDoc (withBuiltins s) env d))
    (w : Exec.World) (hw : WorldTyped s w) :
    ∀ (op : Option String) (fuel cf : Nat) (cls : String),
      Exec.execute s (eDoc (withBuiltins s) env d) vars w op fuel cf ≠ .failed (.internal cls) := by
  intro op fuel cf cls
  rw [← execute_withBuiltins]
  exact accepted_cannot_go_wrong_checked (withBuiltins s) hchk fx hv11 env d vars hacc hne hni hm w
    (worldTyped_withBuiltins s w hw) op fuel cf cls

/-- non-vacuity: a dump WITHOUT the built-in scalars passes the checks once they are listed -/
example : schemaChecksB (withBuiltins { types := [{ kind := .object, name := "Query", fields := [{ name := "a", type := .named "Int" }] }] }) = true := by
  decide +kernel

end PyGql.Props.C05
