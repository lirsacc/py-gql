/-
  C01 — the LAZY token window of `Parser` (`ParseLazy.lean`): the real parser pulls tokens on demand, so for a text with a
  lexical error it may fail on an earlier token and report THAT grammatical error instead of the lexical one.

  `lexPrefix_of_ok` / `lexPrefix_of_error`   the prefix lexer is `lexAll` keeping the tokens before the error
  `lazy_eq_eager_of_lexable`   on a text the lexer accepts, lazy and eager pipelines coincide — result AND error
  `lazy_ok_iff`                acceptance and the tree returned never depend on the window (any entry point): every
                               acceptance theorem (`parse_text_accepts_iff`, `parse_text_result`, …; they speak of `parseText`,
                               = `parseTextE` on accepted texts: `parseText_eq_ok`) holds for the lazy parser
  `parse_text_lazy_error_in_range`   every error the lazy pipeline reports is within the text, except the lexer's L6 on an
                               `OpenEscape` text — and there only if the parser gets as far as the open string
  `lazy_prefix_never_ok`       the parser never succeeds on the tokens before a lexical error (a success consumes `<EOF>`)
  `ParseFuelSufficientStatement`   (NOT proved, kept visible) the parser model never reports its own fuel exhaustion;
                               `parse_fuel_sufficient_partial` is the proved part
  `lazy_differs`               the two pipelines do differ on rejected texts: `} "\` (eager: NonTerminatedString at 5, one
                               past the end; lazy: the `}` at 0)
-/
import PyGqlModel.ParseLazy
import PyGqlModel.Props.C01_errors_iff
import PyGqlModel.Props.C01_parse
namespace PyGql.Props.C01
open PyGql PyGql.Parse PyGql.Ast PyGql.Lex
open PyGql.Spec.Lexical (OpenEscape)

private theorem lexLoopP_run (n : Nat) : ∀ (fuel : Nat) (s : Text), s.length < fuel →
    Run n s (lexLoopP n fuel s).1 (lexLoopP n fuel s).2
  | 0, _, h => absurd h (Nat.not_lt_zero _)
  | fuel + 1, s, h => by
    rw [lexLoopP]
    split
    · exact .err ‹_›
    · exact .eof ‹_›
    · rename_i tok rest hn
      exact .tok hn (lexLoopP_run n fuel rest (by have := next_shorter hn; omega))

private theorem lexPrefix_run (s : Text) : ∃ toks, (lexPrefix s).1 = sofTok :: toks ∧ Run s.length s toks (lexPrefix s).2 :=
  ⟨_, rfl, lexLoopP_run s.length (s.length + 1) s (Nat.lt_succ_self _)⟩

private theorem lexAll_eq (s : Text) : lexAll s = Run.result (lexPrefix s).1 (lexPrefix s).2 :=
  (lexLoopP_run s.length (s.length + 1) s (Nat.lt_succ_self _)).lexAll

theorem lexPrefix_of_ok (s : Text) (toks : List Tok) (h : lexAll s = .ok toks) : lexPrefix s = (toks, none) := by
  rw [lexAll_eq] at h
  cases hp : lexPrefix s with
  | mk ts o =>
    rw [hp] at h
    cases o <;> cases h
    rfl

theorem lexPrefix_of_error (s : Text) (e : Lex.SynErr) (h : lexAll s = .error e) : ∃ toks, lexPrefix s = (toks, some e) := by
  rw [lexAll_eq] at h
  cases hp : lexPrefix s with
  | mk ts o =>
    rw [hp] at h
    cases o <;> cases h
    exact ⟨ts, rfl⟩

private theorem run_in_range {n : Nat} {s : Text} {toks : List Tok} {r : Option Lex.SynErr} (h : Run n s toks r) :
    ∀ t ∈ toks, TokR n t := by
  induction h with
  | eof hn =>
    obtain ⟨rfl, _⟩ := next_eof n _ _ hn
    intro t ht
    cases List.mem_singleton.1 ht
    exact ⟨Nat.le_refl _, Nat.le_refl _⟩
  | err _ => intro t ht; cases ht
  | @tok s rest tok toks r hn _ ih =>
    obtain ⟨ign, lex, _, _, _, _, _, hst, hsp⟩ := next_sound n s rest tok hn
    intro t ht
    rcases List.mem_cons.1 ht with rfl | ht
    · exact ⟨by rw [hst]; exact Nat.sub_le _ _, by rw [hsp]; exact Nat.sub_le _ _⟩
    · exact ih t ht

theorem lexPrefix_in_range (s : Text) : ∀ t ∈ (lexPrefix s).1, TokR s.length t := by
  intro t ht
  obtain ⟨toks, e, hr⟩ := lexPrefix_run s
  rw [e] at ht
  rcases List.mem_cons.1 ht with rfl | ht
  · exact ⟨Nat.zero_le _, Nat.zero_le _⟩
  · exact run_in_range hr t ht

/-- on a text the lexer accepts the window makes no difference at all: same result, same error -/
theorem lazy_eq_eager_of_lexable {α} (p : List Tok → Except Parse.SynErr α) (s : Text) (toks : List Tok)
    (h : lexAll s = .ok toks) : withLexerLazy p s = withLexer p s := by
  unfold withLexerLazy withLexer
  rw [lexPrefix_of_ok s toks h, h]
  cases p toks <;> rfl

/-- ACCEPTANCE AND THE TREE do not depend on the window, for any entry point -/
theorem lazy_ok_iff {α} (p : List Tok → Except Parse.SynErr α) (s : Text) (a : α) :
    withLexerLazy p s = .ok a ↔ withLexer p s = .ok a := by
  cases hl : lexAll s with
  | ok toks => rw [lazy_eq_eager_of_lexable p s toks hl]
  | error le =>
    obtain ⟨toks, hp⟩ := lexPrefix_of_error s le hl
    unfold withLexerLazy withLexer
    rw [hp, hl]
    simp only
    constructor
    · intro h
      split at h
      · split at h <;> cases h
      · cases h
    · intro h; cases h

/-- the error clause for the LAZY pipeline (`parse`, `parse_value`, `parse_type`, all flags): a rejection reports a
    position within the text, the only exception being the lexer's NonTerminatedString at len + 1 on a text that ends
    inside an open quoted string with a truncated escape. -/
theorem parse_text_lazy_error_in_range (fl : Flags) (s : Text) (e : TextErr)
    (h : parseTextLazyE fl s = .error e ∨ parseValueTextLazyE fl s = .error e ∨ parseTypeTextLazyE fl s = .error e) :
    e.pos ≤ s.length ∨ (OpenEscape s ∧ e = .lex ⟨.nonTerminatedString, s.length + 1⟩) := by
  have hr := lexPrefix_in_range s
  have key : ∀ {α} (p : List Tok → Except Parse.SynErr α),
      (∀ toks, (∀ t ∈ toks, TokR s.length t) → ∀ pe, p toks = .error pe → pe.pos ≤ s.length) →
      withLexerLazy p s = .error e →
      e.pos ≤ s.length ∨ (OpenEscape s ∧ e = .lex ⟨.nonTerminatedString, s.length + 1⟩) := by
    intro α p hp hw
    have lexcase : ∀ le, lexAll s = .error le → e = .lex le →
        e.pos ≤ s.length ∨ (OpenEscape s ∧ e = .lex ⟨.nonTerminatedString, s.length + 1⟩) := by
      intro le hl he
      subst he
      rcases lexAll_error_cases s le hl with h' | ⟨rfl, ho⟩
      · exact .inl h'.1
      · exact .inr ⟨ho, rfl⟩
    unfold withLexerLazy at hw
    cases hpre : lexPrefix s with
    | mk toks o =>
      rw [hpre] at hw hr
      cases o with
      | none =>
        simp only at hw
        split at hw
        · cases hw
        · rename_i pe hpe
          cases hw
          exact .inl (hp toks hr pe hpe)
      | some le =>
        have hl : lexAll s = .error le := by rw [lexAll_eq, hpre]; rfl
        simp only at hw
        split at hw
        · rename_i pe hpe
          split at hw
          · cases hw; exact lexcase le hl rfl
          · cases hw; exact .inl (hp toks hr pe hpe)
        · cases hw; exact lexcase le hl rfl
  rcases h with h | h | h
  · exact key _ (fun toks ht pe => (parse_error_in_range fl s.length toks ht pe).1) h
  · exact key _ (fun toks ht pe => (parse_error_in_range fl s.length toks ht pe).2.1) h
  · exact key _ (fun toks ht pe => (parse_error_in_range fl s.length toks ht pe).2.2) h

/-! ### the branch "the parser succeeds on the tokens before a lexical error" of `withLexerLazy` is dead -/

private theorem run_no_eof {n : Nat} {s : Text} {toks : List Tok} {r : Option Lex.SynErr} (h : Run n s toks r)
    (hr : r ≠ none) : ∀ t ∈ toks, t.kind ≠ .eof := by
  induction h with
  | eof _ => exact absurd rfl hr
  | err _ => intro t ht; cases ht
  | @tok s rest tok toks r hn _ ih =>
    obtain ⟨ign, lex, _, _, hl, _⟩ := next_sound n s rest tok hn
    intro t ht
    rcases List.mem_cons.1 ht with rfl | ht
    · intro hk; rw [hk] at hl; exact hl
    · exact ih hr t ht

private theorem checkAll_ends_eof (fl : Flags) (is : List Spec.Item) (l l' : Tok) (ts rest : List Tok)
    (h : Spec.Item.checkAll fl (is ++ [Spec.p .eof]) l ts = some (l', rest)) : ∃ t ∈ ts, t.kind = .eof := by
  rw [Spec.checkAll_append] at h
  obtain ⟨l1, ts1, h1, h2⟩ := h
  rw [Spec.checkAll_cons] at h2
  obtain ⟨l2, ts2, h3, _⟩ := h2
  rw [Spec.check_tok] at h3
  obtain ⟨t, rfl, hc, _⟩ := h3
  obtain ⟨pre, rfl, _, _⟩ := Spec.checkAll_spans fl is l l1 ts _ h1
  exact ⟨t, by simp, congrArg Prod.fst hc⟩

/-- a token list without `<EOF>` is never accepted, by any entry point: a successful parse consumes `<EOF>` -/
theorem no_eof_never_ok (fl : Flags) (toks : List Tok) (hne : ∀ t ∈ toks, t.kind ≠ .eof) :
    (∀ d, parseDocument fl toks ≠ .ok d) ∧ (∀ v, parseValue fl toks ≠ .ok v) ∧ (∀ t, parseType fl toks ≠ .ok t) := by
  refine ⟨fun d h => ?_, fun v h => ?_, fun t h => ?_⟩
  · obtain ⟨_, m⟩ := parse_sound_document fl toks d h
    obtain ⟨l', m⟩ := (matches_iff _ _ _).1 m
    rw [Spec.checkAll_cons] at m
    obtain ⟨l1, ts1, m1, _⟩ := m
    unfold Spec.documentV at m1
    rw [Spec.check_node] at m1
    obtain ⟨f, tl, e, hall, _⟩ := m1
    have e2 : Spec.p .sof :: (d.definitions.map Spec.definitionV ++ [Spec.p .eof]) =
        (Spec.p .sof :: d.definitions.map Spec.definitionV) ++ [Spec.p .eof] := by simp
    rw [e2] at hall
    obtain ⟨t, ht, hk⟩ := checkAll_ends_eof fl _ _ _ _ _ hall
    exact hne t ht hk
  · obtain ⟨_, m⟩ := parseValue_sound fl toks v h
    obtain ⟨l', m⟩ := (matches_iff _ _ _).1 m
    obtain ⟨t, ht, hk⟩ := checkAll_ends_eof fl [Spec.p .sof, Spec.valueV v] _ _ _ _ m
    exact hne t ht hk
  · obtain ⟨_, m⟩ := parseType_sound fl toks t h
    obtain ⟨l', m⟩ := (matches_iff _ _ _).1 m
    obtain ⟨t', ht, hk⟩ := checkAll_ends_eof fl [Spec.p .sof, Spec.typeV t] _ _ _ _ m
    exact hne t' ht hk

/-- … and the tokens before a lexical error contain no `<EOF>`: the "succeeds" branch of `withLexerLazy` never runs -/
theorem lazy_prefix_never_ok (fl : Flags) (s : Text) (toks : List Tok) (le : Lex.SynErr)
    (h : lexPrefix s = (toks, some le)) :
    (∀ d, parseDocument fl toks ≠ .ok d) ∧ (∀ v, parseValue fl toks ≠ .ok v) ∧ (∀ t, parseType fl toks ≠ .ok t) := by
  apply no_eof_never_ok
  obtain ⟨body, e, hr⟩ := lexPrefix_run s
  rw [h] at e hr
  cases e
  intro t ht
  rcases List.mem_cons.1 ht with rfl | ht
  · simp [sofTok]
  · exact run_no_eof hr (fun h => nomatch h) t ht

/-! ### what is NOT proved about the parser model: its fuel

The loops and recursions of the token-level parser model take fuel (`runAll`: token count + 1) and end in `fail "fuel"`, an
ordinary `SynErr`.  For the LEXER the corresponding branch is proved unreachable (`lex_fuel_sufficient`).  For the PARSER:
  * on ACCEPTED token lists the fuel suffices — `parse_complete_document` returns the tree, for every well-formed derivation;
  * the VERDICT never depends on it — `parseDocument_accepts_iff` is an iff with the grammar;
  * every position statement (`parse_error_in_range`, `parse_text_lazy_error_in_range`) holds for the fuel error as for any
    other (it is reported at the next token);
  * that a REJECTION is never the fuel artefact is the statement below. It is NOT proved (it needs a progress lemma for every
    parse function: each loop iteration consumes a token). It is exercised: the correspondence compares position AND class of
    every parser rejection with the real parser (`corr:syntax-error-differs`) over the bounded-exhaustive token strings, and
    reports `corr:model-fuel-exhausted` if the model's message is ever "fuel"
    (evidence: `parser_model_rejections_without_fuel_artefact`). -/

/-- THE FULL STATEMENT (not proved): the parser model never runs out of fuel -/
def ParseFuelSufficientStatement : Prop :=
  ∀ (fl : Flags) (toks : List Tok) (e : Parse.SynErr),
    (parseDocument fl toks = .error e ∨ parseValue fl toks = .error e ∨ parseType fl toks = .error e) → e.msg ≠ "fuel"

/-- the proved part: no ACCEPTED token list is affected (a derivation of a well-formed tree is parsed, whatever its size) -/
theorem parse_fuel_sufficient_partial (fl : Flags) (toks : List Tok) (d : Document)
    (w : Spec.wfDocument fl d = true) (m : Matches fl [Spec.documentV d] toks) (e : Parse.SynErr) :
    parseDocument fl toks ≠ .error e := by
  rw [parse_complete_document fl toks d w m]; intro h; cases h

/-- the two pipelines DO differ on rejected texts: `} "\` — the eager composition reports the lexer's NonTerminatedString one
    past the end (position 5 of a text of length 4), the lazy parser the `}` at position 0 -/
theorem lazy_differs :
    (match parseTextE {} [125, 32, 34, 92] with | .error e => e.pos | .ok _ => 0) = 5 ∧
    (match parseTextLazyE {} [125, 32, 34, 92] with | .error e => e.pos | .ok _ => 1) = 0 := by decide +kernel

/-- `{ a "\`: the lazy parser DOES get as far as the open string: the lexer's error, at 7 = len + 1 -/
example : (match parseTextLazyE {} [123, 32, 97, 32, 34, 92] with | .error e => e.pos | .ok _ => 0) = 7 := by decide +kernel
example : (lexPrefix [123, 32, 97, 32, 34, 92]).1.map (·.kind) = [.sof, .curlyL, .name] := by decide +kernel

end PyGql.Props.C01
