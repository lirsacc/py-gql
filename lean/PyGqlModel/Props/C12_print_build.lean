/-
  C12 — `print_build_roundtrip`: members, types, directive definitions, roots; the decidable well-formedness predicate
  `printBuildWF`; the whole-schema theorem.

  The property theorems of this file: `print_build_roundtrip` and its form with a forced `schema` block,
  `print_build_roundtrip_block`.  Everything else public (`*_to_doc_build`, `*_docOf`, `*_schemaToDoc`, `declared_*`, the root
  lemmas) is a step of their proof.
-/
import PyGqlModel.Props.C12_todoc
import PyGqlModel.Lemmas.ExceptBasics

namespace PyGql.Props.C12
open PyGql PyGql.Sdl PyGql.SdlSpec PyGql.SdlPrint PyGql.Props.C11

/-- **NoH5 (document level)**: a description, if present, is not empty (an empty description is not printed) -/
def descOK (d : Option String) : Bool := match d with | some x => !x.isEmpty | none => true

/-- **NoH6**: a deprecation reason, if present, is not empty (printed as bare `@deprecated`, read back as the default reason) -/
def deprOK (r : Option String) : Bool := match r with | some x => !x.isEmpty | none => true

def isNullJ (v : J) : Bool := match v with | .null => true | _ => false

/-- argument / input field: known type, canonical default value (`wtB`: NoH2, NoH8), by-name content only -/
def argOK (s : SchemaD) (a : ArgD) : Bool :=
  a.pythonName == a.name && (docEnv s).resolves a.type.base && descOK a.desc &&
  (if a.hasDefault then wtB s valueFuel a.default a.type else isNullJ a.default)

def fieldOK (s : SchemaD) (f : FieldD) : Bool :=
  f.args.all (argOK s) && (docEnv s).resolves f.type.base && f.resolver.isNone && f.subscriptionResolver.isNone && deprOK f.deprecated && descOK f.desc

/-- enum value: SDL-style (internal value = name; a printed schema cannot carry Python values), not a reserved word -/
def enumValOK (v : EnumValD) : Bool :=
  (match v.value with | .str y => y == v.name | _ => false) && !reservedEnumNames.contains v.name && deprOK v.deprecated && descOK v.desc

/-- only the member lists of the type's kind are populated -/
def shapeOK (t : TypeD) : Bool :=
  match t.kind with
  | .scalar => t.interfaces.isEmpty && t.fields.isEmpty && t.members.isEmpty && t.values.isEmpty && t.inputFields.isEmpty
  | .object => t.members.isEmpty && t.values.isEmpty && t.inputFields.isEmpty
  | .interface => t.interfaces.isEmpty && t.members.isEmpty && t.values.isEmpty && t.inputFields.isEmpty
  | .union => t.interfaces.isEmpty && t.fields.isEmpty && t.values.isEmpty && t.inputFields.isEmpty
  | .enum => t.interfaces.isEmpty && t.fields.isEmpty && t.members.isEmpty && t.inputFields.isEmpty
  | .input => t.interfaces.isEmpty && t.fields.isEmpty && t.members.isEmpty && t.values.isEmpty

def typeOK (s : SchemaD) (t : TypeD) : Bool :=
  shapeOK t && t.fields.all (fieldOK s) && t.inputFields.all (argOK s) && t.values.all enumValOK &&
  !hasDup (t.values.map (·.name)) && t.interfaces.all (docEnv s).resolves && t.members.all (docEnv s).resolves &&
  t.defaultResolver.isNone && !t.builtin && descOK t.desc && !isDefaultName t.name

def directiveOK (s : SchemaD) (d : DirectiveD) : Bool :=
  d.args.all (argOK s) && descOK d.desc && !specifiedDirectives.contains d.name

private theorem descToDoc_ok (d : Option String) (h : descOK d = true) : descToDoc d = d := by
  cases d with
  | none => rfl
  | some x => simp only [descOK, Bool.not_eq_true'] at h; simp [descToDoc, h]

theorem arg_to_doc_build (s : SchemaD) (a : ArgD) (h : argOK s a = true) : buildArgument (docEnv s) (argToDef s a) = .ok a := by
  simp only [argOK, Bool.and_eq_true] at h
  obtain ⟨⟨⟨h1, h2⟩, h3⟩, h4⟩ := h
  have hp : a.pythonName = a.name := by simpa using h1
  have hd := descToDoc_ok a.desc h3
  cases a with
  | mk name type hasDefault default desc pythonName =>
    simp only [] at hp h2 hd h4
    subst hp
    cases hasDefault with
    | false =>
      simp only [Bool.false_eq_true, if_false] at h4
      have : default = .null := by cases default <;> simp [isNullJ] at h4 ⊢
      subst this
      simp [buildArgument, argToDef, checkRef, h2, hd, bind, Except.bind, pure, Except.pure]
    | true =>
      simp only [if_true] at h4
      obtain ⟨lit, hl1, hl2⟩ := default_roundtrip_doc s valueFuel default type h4
      have hv : valueFromAst (docEnv s) coerceFuel lit type = some (some default) := hl2
      simp [buildArgument, argToDef, checkRef, h2, hd, hl1, defaultValue, hv, bind, Except.bind, pure, Except.pure]

theorem mapM_to_doc {α β} (g : β → α) (f : α → R β) : ∀ (l : List β), (∀ x ∈ l, f (g x) = .ok x) → (l.map g).mapM f = .ok l := by
  intro l h
  rw [List.mapM_map]
  exact (Except.mapM_ok_map (h := id) h).trans (congrArg _ (List.map_id l))

theorem depr_roundtrip (r : Option String) (h : deprOK r = true) : deprecationReason (deprDirs r) = .ok r := by
  cases r with
  | none => simp [deprDirs, deprecationReason, pure, Except.pure]
  | some x =>
    simp only [deprOK, Bool.not_eq_true'] at h
    by_cases hx : (x == DEFAULT_DEPRECATION) = true
    · have e : x = DEFAULT_DEPRECATION := by simpa using hx
      simp [deprDirs, deprecationReason, lookupLast, pure, Except.pure, e, DEFAULT_DEPRECATION]
    · simp [deprDirs, h, hx, deprecationReason, lookupLast, pure, Except.pure]

theorem field_to_doc_build (s : SchemaD) (f : FieldD) (h : fieldOK s f = true) : buildField (docEnv s) (fieldToDef s f) = .ok f := by
  simp only [fieldOK, Bool.and_eq_true, List.all_eq_true] at h
  obtain ⟨⟨⟨⟨⟨h1, h2⟩, h3⟩, h3s⟩, h4⟩, h5⟩ := h
  have hargs := mapM_to_doc (argToDef s) (buildArgument (docEnv s)) f.args (fun a ha => arg_to_doc_build s a (h1 a ha))
  have hd := descToDoc_ok f.desc h5
  have hdep := depr_roundtrip f.deprecated h4
  cases f with
  | mk name type args deprecated desc resolver subres =>
    simp only [] at h2 h3 h3s h4 hargs hd hdep
    have hr : resolver = none := by simpa using h3
    subst hr
    have hrs : subres = none := by simpa using h3s
    subst hrs
    have hfd : fieldDeprecation deprecated = deprecated := by
      cases deprecated with
      | none => rfl
      | some x =>
        unfold fieldDeprecation
        split
        · rename_i heq; cases heq; simp [deprOK] at h4
        · rfl
    simp [buildField, fieldToDef, checkRef, h2, hargs, hdep, hfd, hd, bind, Except.bind, pure, Except.pure]

theorem enum_value_to_doc_build (v : EnumValD) (h : enumValOK v = true) : buildEnumValue (enumValToDef v) = .ok v := by
  simp only [enumValOK, Bool.and_eq_true, Bool.not_eq_true'] at h
  obtain ⟨⟨⟨h1, h2⟩, h3⟩, h4⟩ := h
  have hd := descToDoc_ok v.desc h4
  have hdep := depr_roundtrip v.deprecated h3
  cases v with
  | mk name value deprecated desc =>
    simp only [] at h1 h2 hd hdep
    have h2' : ¬ (name ∈ reservedEnumNames) := by simpa using h2
    cases value <;> simp at h1
    subst h1
    simp [buildEnumValue, enumValToDef, failIf, h2', hdep, hd, bind, Except.bind, pure, Except.pure]

theorem type_to_doc_build (s : SchemaD) (t : TypeD) (h : typeOK s t = true) : buildTypeDef (docEnv s) (typeToDef s t) = .ok t := by
  simp only [typeOK, Bool.and_eq_true, List.all_eq_true, Bool.not_eq_true'] at h
  obtain ⟨⟨⟨⟨⟨⟨⟨⟨⟨⟨hs, hfs⟩, his⟩, hvs⟩, hdup⟩, hint⟩, hmem⟩, hres⟩, hbi⟩, hdesc⟩, _⟩ := h
  have hf := mapM_to_doc (fieldToDef s) (buildField (docEnv s)) t.fields (fun f hf => field_to_doc_build s f (hfs f hf))
  have hi := mapM_to_doc (argToDef s) (buildArgument (docEnv s)) t.inputFields (fun a ha => arg_to_doc_build s a (his a ha))
  have hv := mapM_to_doc enumValToDef buildEnumValue t.values (fun v hv => enum_value_to_doc_build v (hvs v hv))
  have hci : checkNames (docEnv s) t.interfaces = .ok () := (checkNames_ok_iff _ _).mpr (by simpa [List.all_eq_true] using hint)
  have hcm : checkNames (docEnv s) t.members = .ok () := (checkNames_ok_iff _ _).mpr (by simpa [List.all_eq_true] using hmem)
  have hdup' : hasDup (t.values.map ((·.name) ∘ enumValToDef)) = false := hdup
  have hd := descToDoc_ok t.desc hdesc
  cases t with
  | mk kind name desc interfaces fields members values inputFields defaultResolver builtin =>
    simp only [] at hf hi hv hci hcm hdup' hs hres hbi hd
    have e1 : defaultResolver = none := by simpa using hres
    subst e1 hbi
    cases kind <;> simp only [shapeOK, Bool.and_eq_true, List.isEmpty_iff] at hs <;>
      simp [buildTypeDef, typeToDef, failIf, bind, Except.bind, pure, Except.pure, hf, hi, hv, hci, hcm, hdup', hd, hs]

theorem directive_to_doc_build (s : SchemaD) (d : DirectiveD) (h : directiveOK s d = true) :
    buildDirective (docEnv s) (directiveToDef s d) = .ok d := by
  simp only [directiveOK, Bool.and_eq_true, List.all_eq_true] at h
  obtain ⟨⟨h1, h2⟩, _⟩ := h
  have hargs := mapM_to_doc (argToDef s) (buildArgument (docEnv s)) d.args (fun a ha => arg_to_doc_build s a (h1 a ha))
  have hd := descToDoc_ok d.desc h2
  cases d
  simp only [] at hargs hd
  simp [buildDirective, directiveToDef, hargs, hd, bind, Except.bind, pure, Except.pure]

private theorem typeDefs_append (a b : Doc) : typeDefs (a ++ b) = typeDefs a ++ typeDefs b := List.filterMap_append

private theorem dirDefs_append (a b : Doc) : dirDefs (a ++ b) = dirDefs a ++ dirDefs b := List.filterMap_append

private theorem typeExts_append (a b : Doc) : typeExts (a ++ b) = typeExts a ++ typeExts b := List.filterMap_append

private theorem schemaExtensions_append (a b : Doc) : schemaExtensions (a ++ b) = schemaExtensions a ++ schemaExtensions b := List.filterMap_append

private theorem schemaDefs_append (a b : Doc) : schemaDefs (a ++ b) = schemaDefs a ++ schemaDefs b := List.filterMap_append

/-- the shape of every document the printer denotes: the `schema` block if `c`, directive definitions, type definitions -/
def docOf (c : Bool) (sd : SchemaDef) (ds : List DirDef) (ts : List TypeDef) : Doc :=
  (if c then [.schema sd] else []) ++ ds.map .directive ++ ts.map .type

section
variable (c : Bool) (sd : SchemaDef) (ds : List DirDef) (ts : List TypeDef)

theorem typeDefs_docOf : typeDefs (docOf c sd ds ts) = ts := by
  cases c <;> simp [docOf, typeDefs, List.filterMap_append, List.filterMap_map, Function.comp_def]

theorem dirDefs_docOf : dirDefs (docOf c sd ds ts) = ds := by
  cases c <;> simp [docOf, dirDefs, List.filterMap_append, List.filterMap_map, Function.comp_def]

theorem typeExts_docOf : typeExts (docOf c sd ds ts) = [] := by
  cases c <;> simp [docOf, typeExts, List.filterMap_append, List.filterMap_map, Function.comp_def]

theorem schemaExtensions_docOf : schemaExtensions (docOf c sd ds ts) = [] := by
  cases c <;> simp [docOf, schemaExtensions, List.filterMap_append, List.filterMap_map, Function.comp_def]

theorem schemaDefs_docOf : schemaDefs (docOf c sd ds ts) = if c then [sd] else [] := by
  cases c <;> simp [docOf, schemaDefs, List.filterMap_append, List.filterMap_map, Function.comp_def]

end

/-! #### the `schema` block written although every root is implied

With `include_custom_schema_directives` a schema-level directive node makes `print_schema_definition` write the block
(`not directives and …`) even when re-reading the document would infer the same roots.  The document then names the roots
explicitly; it builds to the same schema. -/

/-- the printer's document with the `schema` block forced by `b` -/
def schemaToDocB (s : SchemaD) (b : Bool) : Doc :=
  (if needsSchemaBlock s || b then [.schema { ops := rootOps s }] else []) ++
  s.directives.map (fun d => .directive (directiveToDef s d)) ++ s.types.map (fun t => .type (typeToDef s t))

theorem schemaToDocB_false (s : SchemaD) : schemaToDocB s false = schemaToDoc s := by
  simp [schemaToDocB, schemaToDoc]

theorem schemaToDocB_eq (s : SchemaD) (b : Bool) : schemaToDocB s b =
    docOf (needsSchemaBlock s || b) { ops := rootOps s } (s.directives.map (directiveToDef s)) (s.types.map (typeToDef s)) := by
  simp only [schemaToDocB, docOf, List.map_map, Function.comp_def]

theorem schemaToDoc_eq (s : SchemaD) : schemaToDoc s =
    docOf (needsSchemaBlock s) { ops := rootOps s } (s.directives.map (directiveToDef s)) (s.types.map (typeToDef s)) := by
  rw [← schemaToDocB_false, schemaToDocB_eq, Bool.or_false]

theorem typeDefs_schemaToDoc (s : SchemaD) : typeDefs (schemaToDoc s) = s.types.map (typeToDef s) := by
  rw [schemaToDoc_eq, typeDefs_docOf]

theorem dirDefs_schemaToDoc (s : SchemaD) : dirDefs (schemaToDoc s) = s.directives.map (directiveToDef s) := by
  rw [schemaToDoc_eq, dirDefs_docOf]

theorem typeExts_schemaToDoc (s : SchemaD) : typeExts (schemaToDoc s) = [] := by
  rw [schemaToDoc_eq, typeExts_docOf]

theorem schemaExtensions_schemaToDoc (s : SchemaD) : schemaExtensions (schemaToDoc s) = [] := by
  rw [schemaToDoc_eq, schemaExtensions_docOf]

theorem schemaDefs_schemaToDoc (s : SchemaD) :
    schemaDefs (schemaToDoc s) = if needsSchemaBlock s then [{ ops := rootOps s }] else [] := by
  rw [schemaToDoc_eq, schemaDefs_docOf]

/-- a root operation type, if set, is an OBJECT type of the schema (the validity rule for roots) -/
def rootIsObject (s : SchemaD) (r : Option String) : Bool :=
  match r with | some q => s.types.any (fun t => t.name == q && t.kind == .object) | none => true

/-- the three roots are object types of the schema. (Since fix H9 nothing more is needed: the printer writes the
    `schema` block whenever re-reading the document would not infer the same roots.) -/
def rootsOK (s : SchemaD) : Bool := rootIsObject s s.query && rootIsObject s s.mutation && rootIsObject s s.subscription

theorem root_resolves (s : SchemaD) (q : String) (h : s.types.any (fun t => t.name == q && t.kind == .object) = true) :
    (docEnv s).resolves q = true := by
  obtain ⟨t, ht, hq⟩ := List.any_eq_true.mp h
  simp only [Bool.and_eq_true] at hq
  have hf : (s.findType q).isSome = true := by
    simp only [SchemaD.findType, List.find?_isSome]
    exact ⟨t, ht, hq.1⟩
  simp only [Env.resolves, docEnv_findDef, Option.isSome_map, hf, Bool.or_true]

/-- the H9 rule is exactly what makes the default root names right: if the printer omits the `schema` block, reading
    the document back infers the schema's own roots -/
theorem defaultRoots_of_implied (s : SchemaD) (hn : needsSchemaBlock s = false) (hr : rootsOK s = true) :
    defaultRoots s.types = ⟨s.query, s.mutation, s.subscription⟩ := by
  have pick : ∀ (r : Option String) (n : String), rootImplied s r n = true → rootIsObject s r = true →
      (if s.types.any (fun t => t.name == n && t.kind == .object) then some n else none) = r := by
    intro r n hi ho
    cases r with
    | none =>
      simp only [rootImplied, Bool.not_eq_true'] at hi
      have : s.types.any (fun t => t.name == n && t.kind == .object) = false := by
        rw [List.any_eq_false] at hi ⊢
        intro t ht
        have := hi t ht
        simp [this]
      simp [this]
    | some x =>
      simp only [rootImplied] at hi
      have e : x = n := by simpa using hi
      subst e
      simp only [rootIsObject] at ho
      simp [ho]
  simp only [needsSchemaBlock, Bool.not_eq_false', Bool.and_eq_true] at hn
  simp only [rootsOK, Bool.and_eq_true] at hr
  simp only [defaultRoots]
  rw [pick s.query "Query" hn.1.1 hr.1.1, pick s.mutation "Mutation" hn.1.2 hr.1.2, pick s.subscription "Subscription" hn.2 hr.2]

theorem roots_addOps (s : SchemaD) (res : String → Bool) (hq : ∀ q, s.query = some q → res q = true)
    (hm : ∀ q, s.mutation = some q → res q = true) (hs : ∀ q, s.subscription = some q → res q = true) :
    addOps res (.lib .sdl) {} (rootOps s) = .ok ⟨s.query, s.mutation, s.subscription⟩ := by
  cases eq : s.query <;> cases em : s.mutation <;> cases es : s.subscription <;>
    simp_all [rootOps, addOps, Roots.get, Roots.set, pure, Except.pure]

/-- **Well-formedness for the print/build round trip** (decidable). A schema description satisfies it iff
    * every type is `typeOK` (members of its kind only, known references, canonical default values — `wtB`: NoH2 /
      NoH8 —, SDL-style enum values, non-empty descriptions — NoH5 — and deprecation reasons — NoH6 —, no
      resolver attached: by-name content), every directive definition is `directiveOK`;
    * type names and directive names are unique and do not shadow built-in ones;
    * the roots are object types of the schema (`rootsOK`); no type refers to itself eagerly, no default value needs its own type's fields. -/
def printBuildWF (s : SchemaD) : Bool :=
  s.types.all (typeOK s) && s.directives.all (directiveOK s) && !hasDup (s.types.map (·.name)) && !hasDup (s.directives.map (·.name)) &&
  rootsOK s && !hasThunkCycle (docEnv s) (s.types.map (typeToDef s)) && !hasEagerCycle s.types && s.defaultResolver.isNone

theorem rootOps_foldl (s : SchemaD) :
    (rootOps s).foldl (fun r (op, ty) => r.set op ty) {} = (⟨s.query, s.mutation, s.subscription⟩ : Roots) := by
  cases hq : s.query <;> cases hm : s.mutation <;> cases hs : s.subscription <;> simp [rootOps, hq, hm, hs, Roots.set]

theorem declared_docOf (s : SchemaD) (c : Bool) (sd : SchemaDef) (ds : List DirDef) (ts : List TypeDef)
    (hts : ts.mapM (buildTypeDef (Env.of ts)) = .ok s.types) (hds : ds.mapM (buildDirective (Env.of ts)) = .ok s.directives)
    (hsd : sd.ops = rootOps s) (hc : c = false → needsSchemaBlock s = false) (hro : rootsOK s = true)
    (hres : s.defaultResolver = none) : Declared (docOf c sd ds ts) = some s := by
  have hroots : declaredRoots (docOf c sd ds ts) s.types = ⟨s.query, s.mutation, s.subscription⟩ := by
    simp only [declaredRoots, schemaExtensions_docOf, schemaDefs_docOf, List.foldl_nil]
    cases c with
    | true => simp only [if_true, hsd, rootOps_foldl]
    | false => exact defaultRoots_of_implied s (hc rfl) hro
  unfold Declared
  simp only [merged_noext _ (typeExts_docOf c sd ds ts), typeDefs_docOf, dirDefs_docOf, hts, hds, hroots]
  cases s
  simp only [] at hres
  subst hres
  rfl

theorem declared_schemaToDocB (s : SchemaD) (b : Bool) (h : printBuildWF s = true) : Declared (schemaToDocB s b) = some s := by
  simp only [printBuildWF, Bool.and_eq_true, List.all_eq_true, Bool.not_eq_true'] at h
  obtain ⟨⟨⟨⟨⟨⟨⟨hty, hdi⟩, _⟩, _⟩, hro⟩, _⟩, _⟩, hres⟩ := h
  rw [schemaToDocB_eq]
  exact declared_docOf s _ _ _ _ (mapM_to_doc _ _ _ (fun t ht => type_to_doc_build s t (hty t ht)))
    (mapM_to_doc _ _ _ (fun d hd => directive_to_doc_build s d (hdi d hd))) rfl
    (fun hn => (Bool.or_eq_false_iff.mp hn).1) hro (by simpa using hres)

theorem declared_schemaToDoc (s : SchemaD) (h : printBuildWF s = true) : Declared (schemaToDoc s) = some s :=
  schemaToDocB_false s ▸ declared_schemaToDocB s false h

/-- `print_build_roundtrip` for the document with a `schema` block that the printer writes only because of a
    schema-level directive node: naming the implied roots explicitly builds the same schema. -/
theorem print_build_roundtrip_block (s : SchemaD) (b : Bool) (h : printBuildWF s = true) : build (schemaToDocB s b) = .ok s := by
  have hdecl := declared_schemaToDocB s b h
  simp only [printBuildWF, Bool.and_eq_true, List.all_eq_true, Bool.not_eq_true'] at h
  obtain ⟨⟨⟨⟨⟨⟨⟨hty, hdi⟩, hut⟩, hud⟩, hro⟩, hth⟩, hea⟩, hres⟩ := h
  rw [schemaToDocB_eq] at hdecl ⊢
  apply build_exact_noext
  exact
    { uniqueTypes := by
        rw [typeDefs_docOf, List.map_map]; exact (hasDup_false_iff _).mp hut
      uniqueDirectives := by
        rw [dirDefs_docOf, List.map_map]; exact (hasDup_false_iff _).mp hud
      oneSchema := by rw [schemaDefs_docOf]; split <;> simp
      noBuiltinNames := by
        intro t ht
        rw [typeDefs_docOf] at ht
        obtain ⟨t0, ht0, rfl⟩ := List.mem_map.mp ht
        have := hty t0 ht0
        simp only [typeOK, Bool.and_eq_true, Bool.not_eq_true'] at this
        exact this.2
      noTypeExt := typeExts_docOf ..
      noSchemaExt := schemaExtensions_docOf ..
      declares := hdecl
      noThunkCycle := by rw [typeDefs_docOf]; exact hth
      noEagerCycle := hea
      noSpecified := by
        rw [List.any_eq_false]
        intro d hd
        have := hdi d hd
        simp only [directiveOK, Bool.and_eq_true, Bool.not_eq_true'] at this
        rw [this.2]; simp
      rootsOk := by
        rw [typeDefs_docOf, schemaDefs_docOf]
        have hro' := hro
        simp only [rootsOK, Bool.and_eq_true] at hro'
        show buildRoots (docEnv s) _ _ = _
        cases hn : needsSchemaBlock s || b with
        | true =>
          simp only [if_true, List.head?_cons, buildRoots]
          exact roots_addOps s _ (fun q e => by have := hro'.1.1; rw [e] at this; exact root_resolves s q this)
            (fun q e => by have := hro'.1.2; rw [e] at this; exact root_resolves s q this)
            (fun q e => by have := hro'.2; rw [e] at this; exact root_resolves s q this)
        | false =>
          simp only [Bool.false_eq_true, if_false, List.head?_nil, buildRoots, pure, Except.pure]
          rw [defaultRoots_of_implied s (Bool.or_eq_false_iff.mp hn).1 hro] }

/-- C12 headline, by-name model: for every schema description satisfying the explicit, decidable predicate
    `printBuildWF`, building the document the schema printer denotes — schema block by the printer's rule, directive
    definitions, type definitions with descriptions, deprecations and default values written as literals — gives back
    EXACTLY the schema. -/
theorem print_build_roundtrip (s : SchemaD) (h : printBuildWF s = true) : build (schemaToDoc s) = .ok s :=
  schemaToDocB_false s ▸ print_build_roundtrip_block s false h

end PyGql.Props.C12
