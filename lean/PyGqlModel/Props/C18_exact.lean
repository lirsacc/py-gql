/-
  C18 — EXACTLY the covered nodes are visited.

  `all_covered_children_visited` (Props/C18_reach.lean): every node reached through attributes that the body of the
  parent's kind traverses is entered and left. Here the converse: every call of a completed identity visit concerns a node
  that is `Reached` (`visited_reached`, every table), hence — on well-kinded documents, today's table — a `Covered` node
  (`reached_covered`, `visited_iff_covered_today`). With `missed_children_today` this pins the visited set: the nodes
  below the root that are NOT visited are exactly those hanging below one of the 15 listed (kind, attribute) pairs (or below
  a `Name`).
-/
import PyGqlModel.Props.C18_reach

namespace PyGql.Props.C18
open PyGql.Visit PyGql.Generated.VisitTable

private theorem walkStep_ev (call : Target → Node → Res (List Ev)) (st : Step) (n : Node) (t1 : List Ev) (e : Ev)
    (h : Spec.walkStep call st n = .ok t1) (he : e ∈ t1) :
    st.applies n.kind = true ∧ ∃ c, Holds (n.getAttr st.attr) c ∧ ∃ tc, call st.target c = .ok tc ∧ e ∈ tc := by
  rcases walkStep_ok h with ⟨rfl, _⟩ | ⟨ha, _, c, hg, hc⟩ | ⟨ha, _, cs, hg, hl⟩
  · cases he
  · exact ⟨ha, c, by simp [hg, Holds], t1, hc, he⟩
  · obtain ⟨c, hc, tc, hg', hm⟩ := walkAll_event (walkList_eq_walkAll _ cs ▸ hl) he
    exact ⟨ha, c, by simpa [hg, Holds] using hc, tc, hg', hm⟩

private theorem walk_events_reached (T : Table) (t : Node) : ∀ (fuel : Nat) (m : String) (n : Node) (tr : List Ev),
    Spec.walk T fuel m n = .ok tr → Reached T t n m → ∀ e ∈ tr, ∃ m', Reached T t e.node m' := by
  intro fuel
  induction fuel with
  | zero => intro m n tr h; simp [Spec.walk] at h
  | succ f ih =>
    intro m n tr h hr e he
    obtain ⟨f', steps, body, hf, hm, hb, rfl⟩ := walk_shape T (f + 1) m n tr h
    have : f' = f := by omega
    subst this
    simp only [List.mem_cons, List.mem_append] at he
    rcases he with (rfl | he) | (rfl | he)
    · exact ⟨m, hr⟩
    · obtain ⟨st, hst, t1, hs, hm1⟩ := walkAll_event (walkSteps_eq_walkAll _ n steps ▸ hb) he
      obtain ⟨ha, c, hh, tc, hcall, hmc⟩ := walkStep_ev _ st n t1 e hs hm1
      obtain ⟨m', hres, hcall⟩ := walkTarget_ok hcall
      exact ih m' c tc hcall (.child hr hm hst ha hh hres) e hmc
    · exact ⟨m, hr⟩
    · cases he

/-- Every table, every tree, every visitor that changes nothing: every call of a completed visit
    (enter or leave) is made for a node reached from the root through traversed attributes. -/
theorem visited_reached {σ : Type} (T : Table) (v : Visitor σ) (hv : Observer v) (fuel : Nat) (t : Node) (s : σ)
    (o : Out σ) (h : visit T v fuel t s = .ok o) (e : Ev) (he : e ∈ o.tr) : ∃ m, Reached T t e.node m := by
  obtain ⟨m0, hl, hcov⟩ := visit_ok_walk T v hv fuel t s o h
  exact walk_events_reached T t fuel m0 t o.tr hcov (.root hl) e he

/-- on a well-kinded tree, with a `tableKinded` table, a reached node is structurally covered (converse of
    `covered_reached`), and the body that traverses it is that of its own kind -/
theorem reached_covered (T : Table) (CK : ChildKinds) (hT : tableKinded T CK = true) (t : Node)
    (hk : wellKinded CK t = true) {c : Node} {m : String} (hc : Reached T t c m) :
    wellKinded CK c = true ∧ Covered T t c ∧ effSteps T m c.kind = ownSteps T c.kind := by
  induction hc with
  | root h0 => exact ⟨hk, .root, by simp [ownSteps, h0]⟩
  | @child p c mp m' steps st _ hm hst ha hh hres ih =>
    obtain ⟨hkp, hcp, hsame⟩ := ih
    have hse : st ∈ effSteps T mp p.kind := by
      simp only [effSteps, hm, Option.getD_some, List.mem_filter]
      exact ⟨hst, ha⟩
    rw [hsame] at hse
    obtain ⟨hko, hkc⟩ := wellKinded_child CK p c st.attr hkp hh
    obtain ⟨m'', hres', h3⟩ := tableKinded_child hT hse hko
    rw [hres] at hres'
    cases hres'
    exact ⟨hkc, .child hcp hse hh, h3⟩

/-- Today's table, every well-kinded document, every visitor that changes nothing: a node
    is entered in a completed visit IF AND ONLY IF it is reached from the root through attributes for which the
    `_visit_*` body of the parent's kind has a statement; the same for `leave`. -/
theorem visited_iff_covered_today {σ : Type} (v : Visitor σ) (hv : Observer v) (fuel : Nat) (t : Node) (s : σ)
    (o : Out σ) (h : visit table v fuel t s = .ok o) (hk : wellKinded childKinds t = true) (c : Node) :
    ((⟨true, c⟩ : Ev) ∈ o.tr ↔ Covered table t c) ∧ ((⟨false, c⟩ : Ev) ∈ o.tr ↔ Covered table t c) := by
  have hcv := all_covered_children_visited v hv fuel t s o h hk c
  constructor
  · constructor
    · intro he
      obtain ⟨m, hr⟩ := visited_reached table v hv fuel t s o h _ he
      exact (reached_covered table childKinds table_kinded_today t hk hr).2.1
    · intro hc; exact (hcv hc).1
  · constructor
    · intro he
      obtain ⟨m, hr⟩ := visited_reached table v hv fuel t s o h _ he
      exact (reached_covered table childKinds table_kinded_today t hk hr).2.1
    · intro hc; exact (hcv hc).2

/-! non-vacuity: in the witness parsed by the real parser the `Variable` of the first variable definition (id 4, below
    the missed pair VariableDefinition.variable) is NOT visited, its type (id 6) is -/
example : (match visit table observer 64 witnessExec () with
    | .ok o => (o.tr.any fun e => e.node.id == 4, o.tr.any fun e => e.node.id == 6)
    | _ => (true, false)) = (false, true) := by
  obtain ⟨o, ho, h⟩ := implKeys_map_eq_some witnessExec_visited_today
  simp only [ho]
  simpa [List.any_map, Function.comp_def, Ev.key] using h

end PyGql.Props.C18
