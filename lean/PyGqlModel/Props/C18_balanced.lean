/-
  C18 — `balanced`, strict form: an unmatched `enter` is TIED to a deletion or a skip, a kept / replaced node IS left.

  `Forest.lone` (Props/C18.lean) admits an unmatched `enter n` for any node: a trace in which every enter is unmatched
  satisfies `Forest`. Here the forest is indexed by the visitor:

  * `ForestV.lone n` carries `Drops v n`: in the state the visit had reached, `enter n` returned `None` or raised `SkipNode`;
  * `ForestV.wrap n n2` carries `Keeps v n`: in that state `enter n` returned a node (the same object or a replacement);

  and `balanced_strict` proves it for every identity-preserving visitor: the only way an `enter` stays without `leave` is that
  `enter` deleted or skipped that very node, and every node that `enter` kept or replaced is left. `balanced` (the statement
  with `Forest`) is the corollary `ForestV.forest`.
-/
import PyGqlModel.Props.C18

namespace PyGql.Props.C18
open PyGql.Visit

variable {σ : Type}

/-- for SOME state (the proof provides the state of the visit at that point) `enter n` returned `None` / raised `SkipNode` -/
def Drops (v : Visitor σ) (n : Node) : Prop :=
  ∃ s, match (v.enter n s).1 with
    | .delete => True
    | .skip _ => True
    | _ => False

def Keeps (v : Visitor σ) (n : Node) : Prop :=
  ∃ s, match (v.enter n s).1 with
    | .keep _ => True
    | .replace _ => True
    | _ => False

inductive ForestV (v : Visitor σ) : List Ev → Prop
  | nil : ForestV v []
  | lone (n : Node) (rest : List Ev) : Drops v n → ForestV v rest → ForestV v (⟨true, n⟩ :: rest)
  | wrap (n n2 : Node) (body rest : List Ev) : Keeps v n → n2.id = n.id → n2.kind = n.kind →
      ForestV v body → ForestV v rest → ForestV v (⟨true, n⟩ :: body ++ ⟨false, n2⟩ :: rest)

theorem ForestV.forest {v : Visitor σ} {tr : List Ev} (h : ForestV v tr) : Forest tr := by
  induction h with
  | nil => exact .nil
  | lone n rest _ _ ih => exact .lone n rest ih
  | wrap n n2 body rest _ h1 h2 _ _ ihb ihr => exact .wrap n n2 body rest h1 h2 ihb ihr

def BracketV (v : Visitor σ) (c : Node) (o : Out σ) : Prop :=
  (o.tr = [⟨true, c⟩] ∧ Drops v c) ∨
  ∃ body n2, o.tr = ⟨true, c⟩ :: body ++ [⟨false, n2⟩] ∧ o.ret = some n2 ∧ n2.id = c.id ∧ n2.kind = c.kind ∧
    ForestV v body ∧ Keeps v c

private theorem BracketV.forest {v : Visitor σ} {c : Node} {o : Out σ} (h : BracketV v c o) : ForestV v o.tr := by
  rcases h with ⟨h, hd⟩ | ⟨body, n2, h, _, h1, h2, hb, hk⟩
  · rw [h]; exact ForestV.lone c [] hd ForestV.nil
  · rw [h]; exact ForestV.wrap c n2 body [] hk h1 h2 hb ForestV.nil

theorem ForestV.append {v : Visitor σ} {a b : List Ev} (ha : ForestV v a) (hb : ForestV v b) : ForestV v (a ++ b) := by
  induction ha with
  | nil => simpa using hb
  | lone n rest hd _ ih => exact ForestV.lone n _ hd ih
  | wrap n n2 body rest hk h1 h2 hbody _ _ ih =>
    have := ForestV.wrap n n2 body (rest ++ b) hk h1 h2 hbody ih
    simpa [List.append_assoc] using this

private def BalFV (v : Visitor σ) (f : Node → σ → Res (Out σ)) : Prop := ∀ c s o, f c s = .ok o → ForestV v o.tr

private theorem visitList_balV {v : Visitor σ} {f : Node → σ → Res (Out σ)} (hf : BalFV v f) :
    ∀ cs s r ip s' tr, visitList f cs s = .ok (r, ip, s', tr) → ForestV v tr := by
  intro cs
  induction cs with
  | nil => intro s r ip s' tr h; simp [visitList] at h; rw [h.2.2.2]; exact .nil
  | cons c cs ih =>
    intro s r ip s' tr h
    obtain ⟨o, r, ip, s', tr, ho, hr, he⟩ := visitList_cons_ok h
    simp only [Prod.mk.injEq] at he
    rw [he.2.2.2]
    exact (hf c s o ho).append (ih _ _ _ _ _ hr)

private theorem runStep_balV {v : Visitor σ} {call : Target → Node → σ → Res (Out σ)} (hc : ∀ t, BalFV v (call t))
    {st : Step} {n : Node} {s : σ} {n' : Node} {s' : σ} {tr : List Ev}
    (h : runStep call st n s = .ok (n', s', tr)) : ForestV v tr ∧ n'.id = n.id ∧ n'.kind = n.kind := by
  rcases runStep_ok h with ⟨e, _, et, _⟩ | ⟨_, _, c, o, _, ho, e, _, et⟩ | ⟨_, _, cs, r, ip, _, hl, e⟩
  · rw [e, et]; exact ⟨.nil, rfl, rfl⟩
  · rw [e, et]; exact ⟨hc _ _ _ _ ho, rfl, rfl⟩
  · rw [e]; exact ⟨visitList_balV (hc _) _ _ _ _ _ _ hl, rfl, rfl⟩

private theorem runSteps_balV {v : Visitor σ} {call : Target → Node → σ → Res (Out σ)} (hc : ∀ t, BalFV v (call t)) :
    ∀ (steps : List Step) (n : Node) (s : σ) (n' : Node) (s' : σ) (tr : List Ev),
      runSteps call steps n s = .ok (n', s', tr) → ForestV v tr ∧ n'.id = n.id ∧ n'.kind = n.kind := by
  intro steps
  induction steps with
  | nil => intro n s n' s' tr h; simp [runSteps] at h; rw [h.2.2, ← h.1]; exact ⟨.nil, rfl, rfl⟩
  | cons st rest ih =>
    intro n s n' s' tr h
    obtain ⟨n1, s1, tr1, n2, s2, tr2, h1, h2, he⟩ := runSteps_cons_ok h
    obtain ⟨f1, i1, k1⟩ := runStep_balV hc h1
    obtain ⟨f2, i2, k2⟩ := ih _ _ _ _ _ h2
    cases he
    exact ⟨f1.append f2, i2.trans i1, k2.trans k1⟩

private theorem visitM_bracketV (T : Table) (v : Visitor σ) (hv : IdPreserving v) :
    ∀ fuel m c s o, visitM T v fuel m c s = .ok o → BracketV v c o := by
  intro fuel
  induction fuel with
  | zero => intro m c s o h; simp [visitM] at h
  | succ fuel ih =>
    intro m c s o h
    have hp := hv c s
    rcases visitM_ok h with ⟨n', s1, hs, ho⟩ | ⟨s1, hs, ho⟩ | ⟨n1, s1, mb, steps, n2, s2, tr, hs, _, _, hr, hret, _, htr⟩
    · exact .inl ⟨by rw [ho], s, by simp [hs]⟩
    · exact .inl ⟨by rw [ho], s, by simp [hs]⟩
    · have hrec : ∀ t, BalFV v (callTarget T (visitM T v fuel) t) := fun t c s o ho =>
        let ⟨m', _, hm'⟩ := callTarget_ok ho
        (ih m' c s o hm').forest
      obtain ⟨f, i, k⟩ := runSteps_balV hrec _ _ _ _ _ _ hr
      -- `enter` kept or replaced `c` by `n1`, which has the identity and kind of `c`
      have hn1 : (n1.id = c.id ∧ n1.kind = c.kind) ∧ Keeps v c := by
        rcases hs with ⟨hs, _⟩ | ⟨hs, _⟩ <;> exact ⟨by simpa [hs] using hp, s, by simp [hs]⟩
      exact .inr ⟨tr, n2, htr, hret, i.trans hn1.1.1, k.trans hn1.1.2, f, hn1.2⟩

/-- Every identity-preserving visitor, whatever its state: the calls of a completed visit form a
    forest in which an `enter` WITHOUT `leave` occurs only for a node that `enter` deleted (`None`) or skipped (`SkipNode`) in
    SOME state (`Drops v n` is `∃ s, …`; the proof supplies the state the visit had reached, the statement does not name it),
    and every node that `enter` kept or replaced in some state is LEFT (by the `leave` of the same node: identity and
    kind), parents around children. -/
theorem balanced_strict (T : Table) (v : Visitor σ) (hv : IdPreserving v) (fuel : Nat) (t : Node) (s : σ) (o : Out σ)
    (h : visit T v fuel t s = .ok o) : BracketV v t o ∧ ForestV v o.tr := by
  unfold visit at h
  split at h
  · simp at h
  · have := visitM_bracketV T v hv fuel _ t s o h
    exact ⟨this, this.forest⟩

/-- For every visitor that hands back the node it was given (possibly mutated, deleted or
    skipped), whatever its state: the calls of a completed visit are `enter t` alone, or `enter t`, then a
    well-bracketed sequence (every `leave` closes the innermost open `enter` of the same node, a deleted or
    skipped node has an `enter` only), then `leave` of the returned node: parents are entered before and left
    after their children.
    WEAKER THAN IT READS: `Forest.lone` admits an unmatched `enter` for ANY node; the statement that ties an unmatched `enter`
    to a deletion / skip of that node (and says that a kept or replaced node IS left) is `balanced_strict`, of which this
    is the corollary `ForestV.forest`. -/
theorem balanced (T : Table) (v : Visitor σ) (hv : IdPreserving v) (fuel : Nat) (t : Node) (s : σ) (o : Out σ)
    (h : visit T v fuel t s = .ok o) : Bracket t o ∧ Forest o.tr := by
  obtain ⟨hb, hf⟩ := balanced_strict T v hv fuel t s o h
  refine ⟨?_, hf.forest⟩
  rcases hb with ⟨h1, _⟩ | ⟨body, n2, h1, h2, h3, h4, h5, _⟩
  · exact .inl h1
  · exact .inr ⟨body, n2, h1, h2, h3, h4, h5.forest⟩

/-- a visitor that never deletes nor skips leaves every node it enters: no `lone` can occur -/
theorem never_drops_no_lone (v : Visitor σ) (hnd : ∀ n, ¬ Drops v n) : ∀ (tr : List Ev), ForestV v tr →
    (tr.filter (·.enter)).length = (tr.filter (fun e => !e.enter)).length := by
  intro tr h
  induction h with
  | nil => rfl
  | lone n rest hd _ _ => exact absurd hd (hnd n)
  | wrap n n2 body rest _ _ _ _ _ ihb ihr =>
    simp only [List.filter_cons, List.filter_append, List.length_append, List.length_cons, Bool.not_true, Bool.not_false,
      if_true, Bool.false_eq_true, if_false] at ihb ihr ⊢
    omega

/-- non-vacuity: observers never drop -/
example (v : Visitor σ) (hv : Observer v) : ∀ n, ¬ Drops v n := by
  intro n ⟨s, hs⟩
  rw [hv n s] at hs
  exact hs

end PyGql.Props.C18
