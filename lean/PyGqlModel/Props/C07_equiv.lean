/-
  C07 — supplying a value inline or through a variable of the same type gives the
  resolver the same arguments.  `AstOfJson reg ty j l` (Spec/Coerce.lean) says: `l` is the literal spelling of
  the JSON value `j` at type `ty`, `j` of the natural JSON kind for `ty`.
  Second half: the custom-scalar hypothesis restricted to EXACTLY the custom-scalar positions a value of the type can reach
  (`Reach reg ty`), and the unconditional corollaries: schemas (or just types) without custom scalars need no hypothesis at
  all — the five built-in scalars, enums, lists and (recursive) input objects agree on the two routes by proof.
-/
import PyGqlModel.Props.C07


namespace PyGql.Props.C07
open PyGql PyGql.Coerce PyGql.Generated.Scalars

private theorem spelling_shape {reg : Reg} : ∀ (ty : Ty) (j : JV) (l : Lit), AstOfJson reg ty j l →
    l.isNull = j.isNull ∧ (∀ x, l ≠ .var x) ∧ ((∀ js, j ≠ .list js) → ∀ ls, l ≠ .list ls) := by
  intro ty
  induction ty with
  | named n =>
    intro j l h
    cases h with
    | custom _ hs => cases hs <;> simp [Lit.isNull, JV.isNull]
    | _ => simp [Lit.isNull, JV.isNull]
  | list t ih =>
    intro j l h
    cases h with
    | null => simp [Lit.isNull, JV.isNull]
    | list hL => simp [Lit.isNull, JV.isNull]
    | single hnl h' => exact ih j l h'
  | nonNull t ih =>
    intro j l h
    cases h with
    | null => simp [Lit.isNull, JV.isNull]
    | nonNull _ h' => exact ih j l h'

private theorem mapEC_toOption {α β : Type} (f : α → Except Err β) (l : List α) :
    (mapEC f l).toOption = (mapE f l).toOption :=
  toOption_eq_of_ok_iff (mapEC_ok_iff f l)

private theorem fieldLoopC_toOption {α : Type} (get : String → Option α) (rec : Ty → α → R) (fs : List InField) :
    (fieldLoopC get rec fs).toOption = (fieldLoop get rec fs).toOption :=
  toOption_eq_of_ok_iff (fieldLoopC_ok_iff get rec fs)

private theorem mapE_equiv {reg : Reg} {S : String → Prop} {recL : Ty → Lit → R} {recJ : Ty → JV → R}
    (hrec : ∀ ty j l, S ty.base → AstOfJson reg ty j l → (recL ty l).toOption = (recJ ty j).toOption) {t : Ty} (hS : S t.base) :
    ∀ (js : List JV) (ls : List Lit), AstOfJsonL reg t js ls →
      (mapE (recL t) ls).toOption = (mapE (recJ t) js).toOption := by
  intro js
  induction js with
  | nil => intro ls h; cases h; rfl
  | cons j js ih =>
    intro ls h
    cases h with
    | cons h1 h2 =>
      have hh := hrec _ _ _ hS h1
      have ht := ih _ h2
      simp only [mapE]
      cases hL : recL t _ <;> cases hJ : recJ t j <;> simp [hL, hJ, Except.toOption] at hh ⊢
      subst hh
      revert ht
      cases mapE (recL t) _ <;> cases mapE (recJ t) js <;> simp [Except.toOption]

private theorem lookupLast_equiv {reg : Reg} {fs : List InField} (f : InField) (hf : f ∈ fs) :
    ∀ (kvs : List (String × JV)) (lkvs : List (String × Lit)), AstOfJsonF reg fs kvs lkvs →
      (lookupLast f.name kvs = none ∧ lookupLast f.name lkvs = none) ∨
      (∃ j l, lookupLast f.name kvs = some j ∧ lookupLast f.name lkvs = some l ∧ AstOfJson reg f.type j l) := by
  intro kvs
  induction kvs with
  | nil => intro lkvs h; cases h; exact .inl ⟨rfl, rfl⟩
  | cons kv kvs ih =>
    intro lkvs h
    cases h with
    | cons h1 h2 =>
      rename_i k j l lkvs'
      cases ih _ h2 with
      | inr hsome =>
        obtain ⟨j', l', e1, e2, e3⟩ := hsome
        exact .inr ⟨j', l', by simp [lookupLast, e1], by simp [lookupLast, e2], e3⟩
      | inl hnone =>
        by_cases hk : k = f.name
        · subst hk
          exact .inr ⟨j, l, by simp [lookupLast, hnone.1], by simp [lookupLast, hnone.2], h1 f hf rfl⟩
        · exact .inl ⟨by simp [lookupLast, hnone.1, hk], by simp [lookupLast, hnone.2, hk]⟩

private theorem allKnown_equiv {reg : Reg} {fs fs' : List InField} :
    ∀ (kvs : List (String × JV)) (lkvs : List (String × Lit)), AstOfJsonF reg fs' kvs lkvs →
      allKnown fs lkvs = allKnown fs kvs := by
  intro kvs
  induction kvs with
  | nil => intro lkvs h; cases h; rfl
  | cons kv kvs ih =>
    intro lkvs h
    cases h with
    | cons h1 h2 =>
      have := ih _ h2
      simp only [allKnown, List.all_cons] at this ⊢
      rw [this]

private theorem fieldLoop_equiv {reg : Reg} {S : String → Prop} {recL : Ty → Lit → R} {recJ : Ty → JV → R}
    (hrec : ∀ ty j l, S ty.base → AstOfJson reg ty j l → (recL ty l).toOption = (recJ ty j).toOption)
    {all : List InField} (hall : ∀ f, f ∈ all → S f.type.base)
    {kvs : List (String × JV)} {lkvs : List (String × Lit)} (hF : AstOfJsonF reg all kvs lkvs) :
    ∀ (fs : List InField), (∀ f, f ∈ fs → f ∈ all) →
      (fieldLoop (fun k => lookupLast k lkvs) recL fs).toOption = (fieldLoop (fun k => lookupLast k kvs) recJ fs).toOption := by
  intro fs
  induction fs with
  | nil => intro _; rfl
  | cons f fs ih =>
    intro hsub
    have ih' := ih (fun f' hf' => hsub f' (List.mem_cons_of_mem _ hf'))
    cases lookupLast_equiv f (hsub f List.mem_cons_self) kvs lkvs hF with
    | inl hn =>
      simp only [fieldLoop, hn.1, hn.2]
      cases f.default with
      | some d =>
        simp only []
        revert ih'
        cases fieldLoop (fun k => lookupLast k lkvs) recL fs <;> cases fieldLoop (fun k => lookupLast k kvs) recJ fs <;>
          simp [Except.toOption]
      | none =>
        simp only []
        cases f.type.isNonNull <;> simp [ih']
    | inr hs =>
      obtain ⟨j, l, e1, e2, e3⟩ := hs
      have hh := hrec _ _ _ (hall f (hsub f List.mem_cons_self)) e3
      simp only [fieldLoop, e1, e2]
      cases hL : recL f.type l <;> cases hJ : recJ f.type j <;> simp [hL, hJ, Except.toOption] at hh ⊢
      subst hh
      revert ih'
      cases fieldLoop (fun k => lookupLast k lkvs) recL fs <;> cases fieldLoop (fun k => lookupLast k kvs) recJ fs <;>
        simp [Except.toOption]

private theorem core_equiv {vars : Option (List (String × PV))} {reg : Reg} {S : String → Prop} (hclosed : InputClosed reg S)
    (hagree : CustomAgreeOn reg S) {recL : Ty → Lit → R} {recJ : Ty → JV → R}
    (hrec : ∀ ty j l, S ty.base → AstOfJson reg ty j l → (recL ty l).toOption = (recJ ty j).toOption)
    {t : Ty} {j : JV} {l : Lit} (hS : S t.base) (h : AstOfJson reg t j l) (hnn : t.isNonNull = false) :
    (vfaCore vars reg recL t l).toOption = (coerceCore reg recJ t j).toOption := by
  -- the literal kinds that `parse_literal` of each specified scalar admits (the generated table, evaluated)
  have hadm : (∀ k, admits .int (.int k) = true) ∧ (∀ k, admits .float (.int k) = true) ∧ (∀ s, admits .float (.float s) = true) ∧
      (∀ s, admits .string (.str s) = true) ∧ (∀ b, admits .boolean (.bool b) = true) ∧ (∀ s, admits .id (.str s) = true) ∧
      (∀ k, admits .id (.int k) = true) :=
    ⟨fun _ => rfl, fun _ => rfl, fun _ => rfl, fun _ => rfl, fun _ => rfl, fun _ => rfl, fun _ => rfl⟩
  obtain ⟨hadmI, hadmFI, hadmFF, hadmS, hadmB, hadmIS, hadmII⟩ := hadm
  cases h with
  | null => simp [vfaCore, coerceCore, Lit.isNull, JV.isNull]
  | nonNull _ h' => simp [Ty.isNonNull] at hnn
  | intInt hk | floatFloat hk | string hk | boolean hk | idStr hk | idInt hk | enum hk =>
    -- a scalar of the natural kind: both routes apply the same function to the same text
    exact congrArg _ (by
      simp only [vfaCore, coerceCore, Lit.isNull, JV.isNull, Bool.false_eq_true, ↓reduceIte, hk, isScalarLit, parseLiteral,
        hadmI, hadmFF, hadmS, hadmB, hadmIS, hadmII, coerceInt, coerceFloat, parseString, parseBool, parseId, pyStr, pyTruthy])
  | floatInt hk =>
    rename_i k
    have hover : floatCatchesOverflow = true := coerceInt_branches_spec.2
    cases hf : intFitsDouble k with
    | true => exact congrArg _ (by simp [vfaCore, coerceCore, Lit.isNull, JV.isNull, hk, isScalarLit, parseLiteral, hadmFI, coerceFloat, hf])
    | false =>
      simp [vfaCore, coerceCore, Lit.isNull, JV.isNull, hk, isScalarLit, parseLiteral, hadmFI, coerceFloat, hf, hover,
        floatChecked_nonfinite (c := .inf) (by simp), Except.toOption]
  | custom hk hs =>
    have := hagree _ (vars.getD []) _ _ (show S _ from hS) hk hs
    cases hs <;> simpa [vfaCore, coerceCore, Lit.isNull, JV.isNull, hk, isScalarLit, litAdmitted, Ty.base] using this
  | list hL =>
    rename_i t' _ _
    rw [vfaCore_eq, coerceCore_eq, gCore_items rfl rfl, gCore_items rfl rfl, toOption_map, toOption_map]
    have := (mapE_equiv hrec (t := t') hS _ _ hL).trans (mapEC_toOption _ _).symm
    rw [mapE_eq, mapEC_eq] at this
    exact congrArg _ this
  | single hnl h' =>
    rename_i t'
    obtain ⟨hnull, _, hlist⟩ := spelling_shape _ _ _ h'
    cases hj : j.isNull with
    | true => simp [vfaCore, coerceCore, hnull, hj]
    | false =>
      rw [vfaCore_eq, coerceCore_eq, gCore_single (hnull.trans hj) (srcL_items_none (hlist hnl)), gCore_single hj (srcJ_items_none hnl),
        toOption_map, toOption_map, hrec t' _ _ hS h']
  | obj hk hF =>
    have hm := (fieldLoop_equiv hrec (fun f hf => hclosed _ _ f hS hk hf) hF _ (fun f hf => hf)).trans (fieldLoopC_toOption _ _ _).symm
    simp only [vfaCore, coerceCore, Lit.isNull, JV.isNull, hk, extractInputObject, coerceInputObject, allKnown_equiv _ _ hF,
      Bool.false_eq_true, if_false]
    revert hm
    cases fieldLoop _ recL _ <;> cases fieldLoopC _ recJ _ <;> simp [Except.toOption]
    intro h; subst h; rfl

/-- The general form: `S` is any set of type names closed under "field of an input object"
    that contains the base of `ty`; the custom scalars' agreement is needed ONLY for the names in `S`. -/
theorem literal_variable_equiv_on (reg : Reg) (S : String → Prop) (hclosed : InputClosed reg S) (hagree : CustomAgreeOn reg S)
    (vars : Option (List (String × PV))) :
    ∀ (fuel : Nat) (ty : Ty) (j : JV) (l : Lit), S ty.base → AstOfJson reg ty j l →
      (valueFromAst reg vars fuel ty l).toOption = (coerceValue reg fuel ty j).toOption := by
  intro fuel
  induction fuel with
  | zero => intro ty j l _ _; rfl
  | succ fuel ih =>
    intro ty j l hS h
    obtain ⟨hnull, hnv, _⟩ := spelling_shape _ _ _ h
    rw [valueFromAst_succ hnv, hnull]
    simp only [coerceValue]
    cases hc : (ty.isNonNull && j.isNull) with
    | true => simp
    | false =>
      simp only [Bool.false_eq_true, if_false]
      cases ty with
      | named n => exact core_equiv hclosed hagree ih hS h rfl
      | list t => exact core_equiv hclosed hagree ih hS h rfl
      | nonNull t =>
        simp only [stripNN]
        cases h with
        | null => simp [Ty.isNonNull, JV.isNull] at hc
        | nonNull hnn h' => exact core_equiv hclosed hagree ih hS h' hnn

theorem customAgreeOn_of_customAgree {reg : Reg} (h : CustomAgree reg) (S : String → Prop) : CustomAgreeOn reg S :=
  fun n vs j l _ hk hs => h n vs j l hk hs

/-- For every registry, every type expression (any nesting, recursive input objects),
    every JSON value `j` of the natural kind for the type and its literal spelling `l`, and every fuel, relative to
    custom scalars whose own two parsers agree (`CustomAgree`: the scalar author's obligation, nothing else is assumed):
    `value_from_ast(l, ty)` and `coerce_value(j, ty)` have the same outcome — the SAME value, or both raise
    (`toOption` forgets only which exception: `_coerce_input_object` / `_coerce_list_value` collect errors and go on,
    `value_from_ast` stops at the first). With `variable_sound` / `literal_sound` and the way
    `coerce_argument_values` stores either result under the argument's python name, a resolver cannot tell whether a
    value was written inline or sent through a variable of the same type. -/
theorem literal_variable_equiv (reg : Reg) (hagree : CustomAgree reg) (vars : Option (List (String × PV))) :
    ∀ (fuel : Nat) (ty : Ty) (j : JV) (l : Lit), AstOfJson reg ty j l →
      (valueFromAst reg vars fuel ty l).toOption = (coerceValue reg fuel ty j).toOption :=
  fun fuel ty j l h =>
    literal_variable_equiv_on reg (fun _ => True) (fun _ _ _ _ _ _ => trivial) (customAgreeOn_of_customAgree hagree _) vars fuel ty j l trivial h

theorem literal_variable_same_value (reg : Reg) (hagree : CustomAgree reg) (vars : Option (List (String × PV))) (fuel : Nat) (ty : Ty) (j : JV) (l : Lit)
    (h : AstOfJson reg ty j l) (pv : PV) :
    valueFromAst reg vars fuel ty l = .ok pv ↔ coerceValue reg fuel ty j = .ok pv :=
  ok_iff_of_toOption_eq (literal_variable_equiv reg hagree vars fuel ty j l h) pv

/-! ### known finding A8: JSON scalars of the wrong kind

  The property wants (i) structurally wrong values rejected and (ii) inline == variable for EVERY value. For JSON scalars of the
  wrong kind for a built-in scalar the code does neither: its `parse` functions are its lenient `serialize` functions
  (pinned by tests/test_utilities/test_coerce_value.py, which passes strings for numbers). The full statements are kept visible
  and refuted by machine-checked witnesses; `literal_variable_equiv` is the part that holds (`NaturalKind` values). -/

/-- the FULL statement: every JSON scalar and the literal of the same spelling have the same outcome at every declared type -/
def LiteralVariableEquivFull : Prop :=
  ∀ (reg : Reg) (ty : Ty) (j : JV) (l : Lit), LeafSpell j l → (reg.get? ty.base).isSome = true →
    (valueFromAst reg none 1 ty l).toOption = (coerceValue reg 1 ty j).toOption

/-- `literal_variable_equiv` restated with its hypothesis by name: for values of the natural kind -/
theorem literal_variable_equiv_partial (reg : Reg) (hagree : CustomAgree reg) (vars : Option (List (String × PV)))
    (fuel : Nat) (ty : Ty) (j : JV) (hnat : NaturalKind reg ty j) :
    ∃ l, AstOfJson reg ty j l ∧ (valueFromAst reg vars fuel ty l).toOption = (coerceValue reg fuel ty j).toOption := by
  obtain ⟨l, hl⟩ := hnat
  exact ⟨l, hl, literal_variable_equiv reg hagree vars fuel ty j l hl⟩

private def regInt : Reg := Reg.ofTypes [("Int", .int), ("String", .string), ("Boolean", .boolean)]

/-- (A8) `Int`, `true`: through a variable the resolver receives `1`,
    inline the request is rejected. -/
theorem literal_variable_equiv_refuted_cross_kind : ¬ LiteralVariableEquivFull := by
  intro h
  have := h regInt (.named "Int") (.bool true) (.bool true) .bool rfl
  have h1 : valueFromAst regInt none 1 (.named "Int") (.bool true) = .error .coercion := by rfl
  have h2 : coerceValue regInt 1 (.named "Int") (.bool true) = .ok (.int 1) := by rfl
  rw [h1, h2] at this
  simp [Except.toOption] at this

/-- the FULL rejection statement for scalars: a JSON scalar that is not of the natural kind for a built-in scalar type is rejected -/
def RejectsCrossKindFull : Prop :=
  ∀ (reg : Reg) (n : String) (k : NamedT) (j : JV), reg.get? n = some k → (k = .int ∨ k = .float ∨ k = .string ∨ k = .boolean ∨ k = .id) →
    j.isNull = false → ¬ NaturalKind reg (.named n) j → ∀ pv, coerceValue reg 1 (.named n) j ≠ .ok pv

/-- (A8) `String`, `5`: not of the natural kind (a number has no spelling at a String position),
    yet accepted through a variable — the resolver receives `"5"`. -/
theorem rejects_cross_kind_refuted : ¬ RejectsCrossKindFull := by
  intro h
  refine h regInt "String" .string (.int 5) rfl (.inr (.inr (.inl rfl))) rfl ?_ (.str "5") (by rfl)
  rintro ⟨l, hl⟩
  cases hl with
  | intInt hk => simp [regInt, Reg.ofTypes, Reg.get?, List.find?] at hk
  | floatInt hk => simp [regInt, Reg.ofTypes, Reg.get?, List.find?] at hk
  | idInt hk => simp [regInt, Reg.ofTypes, Reg.get?, List.find?] at hk
  | custom hk _ => simp [regInt, Reg.ofTypes, Reg.get?, List.find?] at hk

theorem reach_inputClosed (reg : Reg) (ty : Ty) : InputClosed reg (Reach reg ty) :=
  fun _ _ _ hn hk hf => .field hn hk hf

/-- As `literal_variable_equiv`, but the only thing assumed is that the two parsers of the custom
    scalars that OCCUR AS POSITIONS of `ty` (its base type, the types of the fields of its input objects, transitively) agree.
    Custom scalars elsewhere in the schema are irrelevant. -/
theorem literal_variable_equiv_at (reg : Reg) (ty : Ty) (hagree : CustomAgreeOn reg (Reach reg ty))
    (vars : Option (List (String × PV))) (fuel : Nat) (j : JV) (l : Lit) (h : AstOfJson reg ty j l) :
    (valueFromAst reg vars fuel ty l).toOption = (coerceValue reg fuel ty j).toOption :=
  literal_variable_equiv_on reg (Reach reg ty) (reach_inputClosed reg ty) hagree vars fuel ty j l .base h

def NoCustomAt (reg : Reg) (ty : Ty) : Prop := ∀ n, Reach reg ty n → reg.get? n ≠ some .custom

/-- UNCONDITIONAL for every type whose positions are built-in scalars, enums and input
    objects only: inline and through a variable give the same outcome for every value of the natural kind. -/
theorem literal_variable_equiv_builtin (reg : Reg) (ty : Ty) (hno : NoCustomAt reg ty)
    (vars : Option (List (String × PV))) (fuel : Nat) (j : JV) (l : Lit) (h : AstOfJson reg ty j l) :
    (valueFromAst reg vars fuel ty l).toOption = (coerceValue reg fuel ty j).toOption :=
  literal_variable_equiv_at reg ty (fun n _ _ _ hS hk _ => absurd hk (hno n hS)) vars fuel j l h

/-- UNCONDITIONAL for every schema without custom scalars, at every type. -/
theorem literal_variable_equiv_no_custom (reg : Reg) (hno : ∀ n, reg.get? n ≠ some .custom)
    (vars : Option (List (String × PV))) (fuel : Nat) (ty : Ty) (j : JV) (l : Lit) (h : AstOfJson reg ty j l) :
    (valueFromAst reg vars fuel ty l).toOption = (coerceValue reg fuel ty j).toOption :=
  literal_variable_equiv_builtin reg ty (fun n _ => hno n) vars fuel j l h

/-- `literal_variable_equiv_partial` with the hypothesis at exactly the custom-scalar positions of `ty` -/
theorem literal_variable_equiv_partial_at (reg : Reg) (ty : Ty) (hagree : CustomAgreeOn reg (Reach reg ty))
    (vars : Option (List (String × PV))) (fuel : Nat) (j : JV) (hnat : NaturalKind reg ty j) :
    ∃ l, AstOfJson reg ty j l ∧ (valueFromAst reg vars fuel ty l).toOption = (coerceValue reg fuel ty j).toOption := by
  obtain ⟨l, hl⟩ := hnat
  exact ⟨l, hl, literal_variable_equiv_at reg ty hagree vars fuel j l hl⟩

private theorem reach_leaf {reg : Reg} {n : String} (hleaf : ∀ fs, reg.get? n ≠ some (.input fs)) :
    ∀ m, Reach reg (.named n) m → m = n := by
  intro m h
  induction h with
  | base => rfl
  | field _ hk _ ih => subst ih; exact absurd hk (hleaf _)

/-- The five specified scalars and enums: `parse_literal` on the literal spelling and `parse` on the
    JSON value of the natural kind have the same outcome, whatever else the schema contains — no hypothesis on custom scalars. -/
theorem builtin_scalars_agree (reg : Reg) (n : String) (k : NamedT) (hk : reg.get? n = some k)
    (hb : k = .int ∨ k = .float ∨ k = .string ∨ k = .boolean ∨ k = .id ∨ ∃ vs, k = .enum vs)
    (vars : Option (List (String × PV))) (fuel : Nat) (j : JV) (l : Lit) (h : AstOfJson reg (.named n) j l) :
    (valueFromAst reg vars fuel (.named n) l).toOption = (coerceValue reg fuel (.named n) j).toOption := by
  apply literal_variable_equiv_builtin reg (.named n) _ vars fuel j l h
  intro m hm
  have hleaf : ∀ fs, reg.get? n ≠ some (.input fs) := by
    intro fs hfs
    rw [hk] at hfs
    rcases hb with rfl | rfl | rfl | rfl | rfl | ⟨vs, rfl⟩ <;> cases hfs
  have := reach_leaf hleaf m hm
  subst this
  rw [hk]
  rcases hb with rfl | rfl | rfl | rfl | rfl | ⟨vs, rfl⟩ <;> simp

/-! ### non-vacuity: a schema WITH a disagreeing custom scalar (`default_scalar` "Any": `5` inline is the text "5", through a
    variable the int 5 — `¬ CustomAgree`, C07_examples) still gets the equivalence at every type that does not reach it -/

private def regMixed : Reg := Reg.ofTypes
  [("Int", .int), ("String", .string), ("Any", .custom), ("E", .enum [("RED", .int 0)]),
   ("P", .input [⟨"n", "n_py", .nonNull (.named "Int"), none⟩, ⟨"e", "e", .list (.named "E"), none⟩, ⟨"next", "next", .named "P", none⟩])]

private theorem regMixed_not_agree : ¬ CustomAgree regMixed := by
  intro h
  have := h "Any" [] (.int 5) (.int 5) rfl .int
  simp [regMixed, Reg.ofTypes, defaultScalarParse, defaultScalarParseLiteral, untypedLiteral, ParseOut.toR, Except.toOption, pvOfJson, jvAllFinite] at this

private theorem regMixed_reach_P : ∀ m, Reach regMixed (.named "P") m → m = "P" ∨ m = "Int" ∨ m = "E" := by
  intro m h
  induction h with
  | base => exact .inl rfl
  | field _ hk hf ih =>
    rcases ih with rfl | rfl | rfl
    · simp [regMixed, Reg.ofTypes, Reg.get?, List.find?] at hk
      subst hk
      simp at hf
      rcases hf with rfl | rfl | rfl <;> simp [Ty.base]
    · simp [regMixed, Reg.ofTypes, Reg.get?] at hk
    · simp [regMixed, Reg.ofTypes, Reg.get?, List.find?] at hk

/-- the recursive input object `P` of `regMixed` reaches no custom scalar although the schema has one that disagrees -/
example : NoCustomAt regMixed (.named "P") := by
  intro m hm
  rcases regMixed_reach_P m hm with rfl | rfl | rfl <;> simp [regMixed, Reg.ofTypes, Reg.get?, List.find?]

example : ¬ CustomAgree regMixed := regMixed_not_agree

/-- a non-trivial spelling at `P` (nested object, enum in a single-value list position) -/
example : AstOfJson regMixed (.named "P")
    (.obj [("n", .int 3), ("e", .str "RED"), ("next", .obj [("n", .int 4)])])
    (.obj [("n", .int 3), ("e", .enum "RED"), ("next", .obj [("n", .int 4)])]) := by
  refine .obj (fs := _) rfl ?_
  refine .cons ?_ (.cons ?_ (.cons ?_ .nil))
  · intro f hf hn
    simp at hf
    rcases hf with rfl | rfl | rfl <;> simp at hn
    exact .nonNull rfl (.intInt rfl)
  · intro f hf hn
    simp at hf
    rcases hf with rfl | rfl | rfl <;> simp at hn
    exact .single (by intro js h; cases h) (.enum rfl)
  · intro f hf hn
    simp at hf
    rcases hf with rfl | rfl | rfl <;> simp at hn
    refine .obj (fs := _) rfl (.cons ?_ .nil)
    intro f hf hn
    simp at hf
    rcases hf with rfl | rfl | rfl <;> simp at hn
    exact .nonNull rfl (.intInt rfl)

end PyGql.Props.C07
