/-
  C18 — "siblings in source order" (W5), as a theorem with an explicit exclusion list.

  Source order of the children of a node = order of the attributes in `__slots__` (checked against `loc` on the probe
  documents at extraction, `child_kinds_table`) and, inside a list attribute, the order of the list.  For every table the
  members of one list are visited in list order and children under different attributes in the order of the STATEMENTS of
  the body; on the generated table the statement order contradicts the slot order for exactly the four triples of W5
  (default_value before type, type before arguments, operation types before directives for SchemaDefinition and
  SchemaExtension), which are the exclusions of `siblings_in_source_order_today`.
-/
import PyGqlModel.Props.C18_reach

namespace PyGql.Props.C18
open PyGql.Visit PyGql.Generated.VisitTable

/-- the whole bracket of `c1` comes before the whole bracket of `c2` -/
def BracketBefore (c1 c2 : Node) (tr : List Ev) : Prop :=
  ∃ x b1 y b2 z, tr = x ++ (⟨true, c1⟩ :: b1 ++ [⟨false, c1⟩]) ++ y ++ (⟨true, c2⟩ :: b2 ++ [⟨false, c2⟩]) ++ z

/-- `t1` then (later) `t2`, both contiguous -/
def Seq2 (t1 t2 tr : List Ev) : Prop := ∃ x y z, tr = x ++ t1 ++ y ++ t2 ++ z

theorem Seq2.infix {t1 t2 tr tr' : List Ev} (h : Seq2 t1 t2 tr) (hi : tr <:+: tr') : Seq2 t1 t2 tr' := by
  obtain ⟨x, y, z, rfl⟩ := h
  obtain ⟨a, b, rfl⟩ := hi
  exact ⟨a ++ x, y, z ++ b, by simp [List.append_assoc]⟩

theorem Seq2.of_infix_infix {t1 t2 u1 u2 tr : List Ev} (h : Seq2 u1 u2 tr) (h1 : t1 <:+: u1) (h2 : t2 <:+: u2) :
    Seq2 t1 t2 tr := by
  obtain ⟨x, y, z, rfl⟩ := h
  obtain ⟨a1, b1, rfl⟩ := h1
  obtain ⟨a2, b2, rfl⟩ := h2
  exact ⟨x ++ a1, b1 ++ y ++ a2, b2 ++ z, by simp [List.append_assoc]⟩

theorem walkAll_filter {α : Type} {g : α → Res (List Ev)} (p : α → Bool) (hp : ∀ a, p a = false → g a = .ok []) :
    ∀ {l : List α} {tr : List Ev}, walkAll g l = .ok tr → walkAll g (l.filter p) = .ok tr := by
  intro l
  induction l with
  | nil => exact fun h => h
  | cons a l ih =>
    intro _ h
    obtain ⟨t1, t2, h1, h2, rfl⟩ := walkAll_cons_ok.1 h
    have ih := ih h2
    cases hpa : p a with
    | true => rw [List.filter_cons_of_pos hpa]; exact walkAll_cons_ok.2 ⟨t1, t2, h1, ih, rfl⟩
    | false =>
      rw [hp a hpa] at h1
      cases h1
      rw [List.filter_cons_of_neg (by simp [hpa])]
      exact ih

theorem walkSteps_filter (call : Target → Node → Res (List Ev)) (n : Node) : ∀ (steps : List Step) (tr : List Ev),
    Spec.walkSteps call steps n = .ok tr → Spec.walkSteps call (steps.filter (·.applies n.kind)) n = .ok tr := by
  simp only [walkSteps_eq_walkAll]
  exact fun _ _ => walkAll_filter _ (fun st hf => by simp [Spec.walkStep, hf])

theorem walkList_two (g : Node → Res (List Ev)) (l1 : List Node) (c1 : Node) (l2 : List Node) (c2 : Node) (l3 : List Node)
    (tr : List Ev) (h : Spec.walkList g (l1 ++ c1 :: (l2 ++ c2 :: l3)) = .ok tr) :
    ∃ t1 t2, g c1 = .ok t1 ∧ g c2 = .ok t2 ∧ Seq2 t1 t2 tr := by
  obtain ⟨ta, t1, tb, h1, hb, e⟩ := walkList_split g l1 c1 _ tr h
  obtain ⟨tc, t2, td, h2, _, e2⟩ := walkList_split g l2 c2 l3 tb hb
  exact ⟨t1, t2, h1, h2, ⟨ta, tc, td, by rw [e, e2]; simp [List.append_assoc]⟩⟩

/-- the part of a completed walk of `p` (by method `mp`) that the statements produce -/
private theorem walk_body (T : Table) (fp : Nat) (mp : String) (p : Node) (tp : List Ev) (steps : List Step)
    (hw : Spec.walk T fp mp p = .ok tp) (hm : T.methods.lookup mp = some steps) :
    ∃ f body, Spec.walkSteps (Spec.walkTarget T (Spec.walk T f)) (steps.filter (·.applies p.kind)) p = .ok body ∧ body <:+: tp := by
  obtain ⟨f, steps', body, rfl, hm', hb, rfl⟩ := walk_shape T fp mp p tp hw
  rw [hm] at hm'
  cases hm'
  exact ⟨f, body, walkSteps_filter _ p steps body hb, ⟨[⟨true, p⟩], [⟨false, p⟩], by simp⟩⟩

private theorem bracket_of_walks (T : Table) (f1 f2 : Nat) (m1 m2 : String) (c1 c2 : Node) (t1 t2 tr : List Ev)
    (h1 : Spec.walk T f1 m1 c1 = .ok t1) (h2 : Spec.walk T f2 m2 c2 = .ok t2) (hs : Seq2 t1 t2 tr) :
    BracketBefore c1 c2 tr := by
  obtain ⟨_, _, b1, _, _, _, rfl⟩ := walk_shape T f1 m1 c1 t1 h1
  obtain ⟨_, _, b2, _, _, _, rfl⟩ := walk_shape T f2 m2 c2 t2 h2
  obtain ⟨x, y, z, rfl⟩ := hs
  exact ⟨x, b1, y, b2, z, rfl⟩

/-- Every table, every tree, every visitor that changes nothing: two members of a list held
    by a traversed attribute of a reached node are visited in the order of the list. -/
theorem list_members_in_order {σ : Type} (T : Table) (v : Visitor σ) (hv : Observer v) (fuel : Nat) (t : Node) (s : σ)
    (o : Out σ) (h : visit T v fuel t s = .ok o) (p : Node) (mp : String) (hp : Reached T t p mp)
    (steps : List Step) (hm : T.methods.lookup mp = some steps) (st : Step) (hst : st ∈ steps)
    (ha : st.applies p.kind = true) (l1 l2 l3 : List Node) (c1 c2 : Node)
    (hg : p.getAttr st.attr = some (.many (l1 ++ c1 :: (l2 ++ c2 :: l3)))) : BracketBefore c1 c2 o.tr := by
  obtain ⟨m0, hl, hw⟩ := visit_ok_walk T v hv fuel t s o h
  obtain ⟨fp, tp, hwp, hsub⟩ := reached_walk T fuel t m0 o.tr hl hw hp
  obtain ⟨f, steps', body, rfl, hm', hb, rfl⟩ := walk_shape T fp mp p tp hwp
  rw [hm] at hm'
  cases hm'
  obtain ⟨ts, hs1, hs2⟩ := walkSteps_infix _ p steps body st hb hst
  rcases walkStep_ok hs1 with ⟨_, hf | ⟨_, _, hg', _⟩⟩ | ⟨_, _, _, hg', _⟩ | ⟨_, _, cs, hg', hl⟩
  · rw [ha] at hf; cases hf
  · rw [hg] at hg'; cases hg'
  · rw [hg] at hg'; cases hg'
  · rw [hg] at hg'
    cases hg'
    obtain ⟨t1, t2, hc1, hc2, hseq⟩ := walkList_two _ l1 c1 l2 c2 l3 ts hl
    obtain ⟨m1, _, hc1⟩ := walkTarget_ok hc1
    obtain ⟨m2, _, hc2⟩ := walkTarget_ok hc2
    refine bracket_of_walks T f f m1 m2 c1 c2 t1 t2 o.tr hc1 hc2 ?_
    exact (hseq.infix hs2).infix (List.IsInfix.trans ⟨[⟨true, p⟩], [⟨false, p⟩], by simp⟩ hsub)

/-- Every table, every tree, every visitor that changes nothing: children of a reached
    node held by the attributes of two statements (that apply to the node's kind) are visited in the order of the
    statements: the whole bracket of the first child before the whole bracket of the second. -/
theorem siblings_in_statement_order {σ : Type} (T : Table) (v : Visitor σ) (hv : Observer v) (fuel : Nat) (t : Node)
    (s : σ) (o : Out σ) (h : visit T v fuel t s = .ok o) (p : Node) (mp : String) (hp : Reached T t p mp)
    (pre mid post : List Step) (s1 s2 : Step) (hm : effSteps T mp p.kind = pre ++ s1 :: (mid ++ s2 :: post))
    (c1 c2 : Node) (hh1 : Holds (p.getAttr s1.attr) c1) (hh2 : Holds (p.getAttr s2.attr) c2) :
    BracketBefore c1 c2 o.tr := by
  obtain ⟨m0, hl, hw⟩ := visit_ok_walk T v hv fuel t s o h
  obtain ⟨fp, tp, hwp, hsub⟩ := reached_walk T fuel t m0 o.tr hl hw hp
  have hs1m : s1 ∈ effSteps T mp p.kind := by rw [hm]; simp
  have hs2m : s2 ∈ effSteps T mp p.kind := by rw [hm]; simp
  obtain ⟨steps, hms, _, ha1⟩ := mem_effSteps hs1m
  obtain ⟨_, _, _, ha2⟩ := mem_effSteps hs2m
  obtain ⟨f, body, hb, hbody⟩ := walk_body T fp mp p tp steps hwp hms
  have he : steps.filter (·.applies p.kind) = pre ++ s1 :: (mid ++ s2 :: post) := by
    rw [← hm]; simp [effSteps, hms]
  rw [he] at hb
  obtain ⟨ta, u1, tb, hu1, hrest, e1⟩ := walkSteps_split _ p pre s1 _ body hb
  obtain ⟨tc, u2, td, hu2, _, e2⟩ := walkSteps_split _ p mid s2 post tb hrest
  obtain ⟨t1, hc1, hi1⟩ := walkStep_child_infix _ s1 p c1 u1 hu1 ha1 hh1
  obtain ⟨t2, hc2, hi2⟩ := walkStep_child_infix _ s2 p c2 u2 hu2 ha2 hh2
  have hseq : Seq2 u1 u2 body := ⟨ta, tc, td, by rw [e1, e2]; simp [List.append_assoc]⟩
  obtain ⟨m1, _, hc1⟩ := walkTarget_ok hc1
  obtain ⟨m2, _, hc2⟩ := walkTarget_ok hc2
  exact bracket_of_walks T f f m1 m2 c1 c2 t1 t2 o.tr hc1 hc2 (((hseq.of_infix_infix hi1 hi2).infix hbody).infix hsub)

theorem stepsBefore_split : ∀ (l : List Step) (a b : String), stepsBefore l a b = true →
    ∃ pre s1 mid s2 post, l = pre ++ s1 :: (mid ++ s2 :: post) ∧ s1.attr = a ∧ s2.attr = b
  | [], _, _, h => by simp [stepsBefore] at h
  | s :: r, a, b, h => by
    simp only [stepsBefore, Bool.or_eq_true, Bool.and_eq_true, beq_iff_eq, List.any_eq_true] at h
    rcases h with ⟨ha, s2, hs2, hb⟩ | h
    · obtain ⟨mid, post, rfl⟩ := List.append_of_mem hs2
      exact ⟨[], s, mid, s2, post, rfl, ha, hb⟩
    · obtain ⟨pre, s1, mid, s2, post, rfl, h1, h2⟩ := stepsBefore_split r a b h
      exact ⟨s :: pre, s1, mid, s2, post, rfl, h1, h2⟩

/-- The statement order of the `_visit_*` bodies contradicts the source order for
    exactly these four (kind, first, second) triples: the field type before the argument definitions, the operation types
    before the directives of a schema definition / extension, the default value before the type of a variable definition. -/
theorem sibling_order_inversions_today : inversions table = w5 := table_today.2.2.2.2.1

theorem stepsBefore_total : ∀ (l : List Step) {a b : String}, a ≠ b → (∃ s ∈ l, s.attr = a) → (∃ s ∈ l, s.attr = b) →
    stepsBefore l a b = true ∨ stepsBefore l b a = true := by
  intro l
  induction l with
  | nil => intro a b _ ⟨_, h, _⟩; cases h
  | cons s r ih =>
    intro a b hab ⟨sa, hsa, ha⟩ ⟨sb, hsb, hb⟩
    simp only [stepsBefore, Bool.or_eq_true, Bool.and_eq_true, beq_iff_eq, List.any_eq_true]
    rcases List.mem_cons.1 hsa with rfl | hsa'
    · rcases List.mem_cons.1 hsb with rfl | hsb'
      · exact absurd (ha.symm.trans hb) hab
      · exact .inl (.inl ⟨ha, sb, hsb', hb⟩)
    · rcases List.mem_cons.1 hsb with rfl | hsb'
      · exact .inr (.inl ⟨hb, sa, hsa', ha⟩)
      · exact (ih hab ⟨sa, hsa', ha⟩ ⟨sb, hsb', hb⟩).imp .inr .inr

theorem attrBefore_self_not_nodup : ∀ (l : List String) (a : String), attrBefore l a a = true → ¬ l.Nodup := by
  intro l
  induction l with
  | nil => intro a h; simp [attrBefore] at h
  | cons x r ih =>
    intro a h hnd
    simp only [attrBefore, Bool.or_eq_true, Bool.and_eq_true, beq_iff_eq, List.contains_iff_mem] at h
    rw [List.nodup_cons] at hnd
    rcases h with ⟨rfl, hm⟩ | h
    · exact hnd.1 hm
    · exact ih a h hnd.2

theorem coveredBy_ownSteps {T : Table} {k a : String} (h : coveredBy T k a = true) : ∃ s ∈ ownSteps T k, s.attr = a := by
  unfold coveredBy stepsOf at h
  unfold ownSteps effSteps
  cases hl : T.visit.lookup k with
  | none => simp [hl] at h
  | some m =>
    simp only [hl, List.any_eq_true, Bool.and_eq_true, beq_iff_eq] at h
    obtain ⟨s, hs, ha, hk⟩ := h
    exact ⟨s, List.mem_filter.2 ⟨hs, hk⟩, ha⟩

/-- whatever the table (with duplicate-free `__slots__`): two traversed attributes in slot order have their statements in
    that order or are, by definition, one of the `inversions` -/
theorem orderAgrees_inversions (T : Table) (hs : ∀ p ∈ T.slots, p.2.Nodup) : orderAgrees T (inversions T) = true := by
  simp only [orderAgrees, List.all_eq_true]
  intro p hp a ha b hb
  cases hab : attrBefore p.2 a b with
  | false => simp
  | true =>
    cases hca : coveredBy T p.1 a with
    | false => simp
    | true =>
      cases hcb : coveredBy T p.1 b with
      | false => simp
      | true =>
        have hne : a ≠ b := fun e => attrBefore_self_not_nodup p.2 a (e ▸ hab) (hs p hp)
        rcases stepsBefore_total (ownSteps T p.1) hne (coveredBy_ownSteps hca) (coveredBy_ownSteps hcb) with h | h
        · simp [h]
        · have : (p.1, b, a) ∈ inversions T :=
            List.mem_flatMap.2 ⟨p, hp, List.mem_flatMap.2 ⟨b, hb, List.mem_map.2 ⟨a, List.mem_filter.2 ⟨ha, by simp [h, hab]⟩, rfl⟩⟩⟩
          simp [this]

theorem order_agrees_today : orderAgrees table w5 = true := by
  rw [← sibling_order_inversions_today]
  exact orderAgrees_inversions table fun p hp => of_decide_eq_true (List.all_eq_true.1 table_slots_nodup p hp)

private theorem attrBefore_mem : ∀ (l : List String) (a b : String), attrBefore l a b = true → a ∈ l ∧ b ∈ l
  | [], _, _, h => by simp [attrBefore] at h
  | x :: r, a, b, h => by
    simp only [attrBefore, Bool.or_eq_true, Bool.and_eq_true, beq_iff_eq, List.contains_iff_mem] at h
    rcases h with ⟨rfl, hb⟩ | h
    · exact ⟨List.mem_cons_self, List.mem_cons_of_mem _ hb⟩
    · have := attrBefore_mem r a b h
      exact ⟨List.mem_cons_of_mem _ this.1, List.mem_cons_of_mem _ this.2⟩

/-- Today's table, every well-kinded document, every visitor that changes nothing:
    let `p` be a node covered from the root, of a kind whose `__slots__` are `sl`, and `a` before `b` in `sl`, both
    traversed by the body of `p`'s kind. Then every child held by `a` is visited (whole bracket) before every child held
    by `b` — EXCEPT when (kind, `b`, `a`) is one of the four triples of `w5`. -/
theorem siblings_in_source_order_today {σ : Type} (v : Visitor σ) (hv : Observer v) (fuel : Nat) (t : Node) (s : σ)
    (o : Out σ) (h : visit table v fuel t s = .ok o) (hk : wellKinded childKinds t = true) (p : Node)
    (hp : Covered table t p) (sl : List String) (hsl : (p.kind, sl) ∈ table.slots) (a b : String)
    (hab : attrBefore sl a b = true) (hca : coveredBy table p.kind a = true) (hcb : coveredBy table p.kind b = true)
    (hex : (p.kind, b, a) ∉ w5) (c1 c2 : Node) (hh1 : Holds (p.getAttr a) c1) (hh2 : Holds (p.getAttr b) c2) :
    BracketBefore c1 c2 o.tr := by
  obtain ⟨m0, hl, _⟩ := visit_ok_walk table v hv fuel t s o h
  obtain ⟨_, mp, hr, hsame⟩ := covered_reached table childKinds table_kinded_today t m0 hl hk hp
  have hag := order_agrees_today
  unfold orderAgrees at hag
  have h1 := List.all_eq_true.1 hag _ hsl
  obtain ⟨ham, hbm⟩ := attrBefore_mem sl a b hab
  have h2 := List.all_eq_true.1 (List.all_eq_true.1 h1 a ham) b hbm
  have hnc : w5.contains (p.kind, b, a) = false := by
    cases hc : w5.contains (p.kind, b, a) with
    | false => rfl
    | true => exact absurd (List.contains_iff_mem.1 hc) hex
  simp only [hab, hca, hcb, Bool.and_self, Bool.not_true, Bool.false_or, hnc] at h2
  obtain ⟨pre, s1, mid, s2, post, hdec, e1, e2⟩ := stepsBefore_split _ a b h2
  rw [← hsame] at hdec
  subst e1
  subst e2
  exact siblings_in_statement_order table v hv fuel t s o h p mp hr pre mid post s1 s2 hdec c1 c2 hh1 hh2

/-! non-vacuity on the witness parsed by the real parser: in `query Q($v: [Int!] = 1 @d, …)` the type (id 6) of the first
    variable definition is visited before its directive (id 11): `type` before `directives` is not in `w5` … -/
private def identityTrace (t : Node) : List (Bool × Nat) :=
  match visit table observer 64 t () with
  | .ok o => o.tr.map fun e => (e.enter, e.node.id)
  | _ => []

private theorem identityTrace_of_ok {t : Node} {o : Out Unit} (ho : visit table observer 64 t () = .ok o) :
    identityTrace t = o.tr.map fun e => (e.enter, e.node.id) := by
  simp only [identityTrace, ho]

example : ((identityTrace witnessExec).filter fun e => e.2 == 6 || e.2 == 10 || e.2 == 11) =
    [(true, 10), (false, 10), (true, 6), (false, 6), (true, 11), (false, 11)] := by
  obtain ⟨o, ho, h⟩ := implKeys_map_eq_some witnessExec_order_trace_today
  rw [identityTrace_of_ok ho]
  simpa [List.filter_map, Function.comp_def, Ev.key] using h

/-- … while the default value (id 10) comes BEFORE the type (id 6): the excluded triple
    ("VariableDefinition", "default_value", "type") is a real inversion -/
example : ("VariableDefinition", "default_value", "type") ∈ w5 := .tail _ (.tail _ (.tail _ (.head _)))

/-! non-vacuity of `siblings_in_source_order_today`: `query @d { }`-shaped skeleton, directive before selection set -/
private def dirW : Node := .mk "Directive" 2 [("name", .one (some (.mk "Name" 3 [("value", .scalar "d")]))), ("arguments", .many [])]
private def ssW : Node := .mk "SelectionSet" 4 [("selections", .many [])]
private def opW : Node := .mk "OperationDefinition" 1 [("operation", .scalar "query"), ("name", .one none),
  ("variable_definitions", .many []), ("directives", .many [dirW]), ("selection_set", .one (some ssW))]
private def docW : Node := .mk "Document" 0 [("definitions", .many [opW])]

/-- what is evaluated on `docW`, in one go: that it is well-kinded, and the calls of the identity visit (the premises of
    `siblings_in_source_order_today` about `directives` before `selection_set` are part of `table_today`) -/
private theorem docW_today :
    wellKinded childKinds docW = true ∧
    (match visit table observer 8 docW () with | .ok o => o.tr.map (fun e => (e.enter, e.node.id)) | _ => []) =
      [(true, 0), (true, 1), (true, 2), (false, 2), (true, 4), (false, 4), (false, 1), (false, 0)] := by decide +kernel

example (o : Out Unit) (h : visit table observer 8 docW () = .ok o) : BracketBefore dirW ssW o.tr :=
  have hd := skeleton_path_steps_today.1
  have ⟨hsl, hab, hca, hcb⟩ := operation_slot_order_today
  siblings_in_source_order_today observer observer_is_observer 8 docW () o h docW_today.1 opW
    (covered_attr .root "definitions" hd (by simp [Holds, docW, Node.getAttr, Node.attrs]))
    ((table.slots.lookup "OperationDefinition").getD []) hsl
    "directives" "selection_set" hab hca hcb (by decide) dirW ssW
    (by simp [Holds, opW, Node.getAttr, Node.attrs, List.lookup]) (by simp [Holds, opW, Node.getAttr, Node.attrs, List.lookup])

example : (match visit table observer 8 docW () with | .ok o => o.tr.map (fun e => (e.enter, e.node.id)) | _ => []) =
    [(true, 0), (true, 1), (true, 2), (false, 2), (true, 4), (false, 4), (false, 1), (false, 0)] := docW_today.2

end PyGql.Props.C18
