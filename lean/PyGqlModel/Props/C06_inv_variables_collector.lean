/-
  C06 - **alpha_variables** for the three `VariablesCollector` rules (5.8.3 NoUndefinedVariables,
  5.8.4 NoUnusedVariables, 5.8.5 VariablesInAllowedPosition) and the aggregate for 25 of the 26 rules. Route: the rule
  theorems of Props/C06_vars.lean (code with the fixes of V3 / V4 = /repo HEAD) + invariance of the clauses of
  `Spec/ValidSpecVars.lean` under an INJECTIVE renaming (Lemmas/ValidateVarRenameSpec.lean, ValidateVarRenamePos.lean):
  definitions and usages are renamed together, the spread graph and every usage position are untouched, the definition a
  usage is checked against keeps its type and its kind of default.
-/
import PyGqlModel.Props.C06_inv_variables
import PyGqlModel.Lemmas.ValidateVarRenamePos
namespace PyGql.Props.C06
open PyGql PyGql.Validate PyGql.Validate.Spec

/-- **alpha_variables for NoUndefinedVariables, NoUnusedVariables, VariablesInAllowedPosition** (injective renaming;
    code with the fixes of V3 and V4, as the rule theorems) -/
theorem alpha_variables_variable_rules (V : Vr) (hinj : ∀ a b, V.var a = V.var b → a = b) (s : SchemaD) (fx : Fixes)
    (h3 : fx.v3 = true) (h4 : fx.v4 = true) (d : Doc) (r : Rule)
    (hr : r ∈ [Rule.noUndefinedVariables, Rule.noUnusedVariables, Rule.variablesInAllowedPosition]) :
    Silent s fx r (V.doc d) ↔ Silent s fx r d := by
  simp only [List.mem_cons, List.not_mem_nil, or_false] at hr
  rcases hr with rfl | rfl | rfl
  · rw [rule_no_undefined_variables_iff s fx h4, rule_no_undefined_variables_iff s fx h4]
    exact no_undefined_variables_spec_vr V hinj d
  · rw [rule_no_unused_variables_iff s fx h4, rule_no_unused_variables_iff s fx h4]
    exact no_unused_variables_spec_vr V hinj d
  · rw [rule_variables_in_allowed_position_iff s fx h3 h4, rule_variables_in_allowed_position_iff s fx h3 h4]
    exact variables_in_allowed_position_spec_vr V hinj s d

/-- the statement for the whole chain, rule by rule (kept visible; for OverlappingFieldsCanBeMerged it is proved with the
    memoised rule /repo runs: `alpha_variables_all26`, Props/C06_inv_variables_all26.lean) -/
def FullStatement_alpha_variables_all (V : Vr) (s : SchemaD) (fx : Fixes) (d : Doc) : Prop :=
  ∀ r ∈ Rule.all, (Silent s fx r (V.doc d) ↔ Silent s fx r d)

/-- **alpha_variables for 25 of the 26 rules** (all but OverlappingFieldsCanBeMerged): injective renaming, code of
    /repo HEAD (only the fixes V3, V4 are used, by the three collector rules); no hypothesis on the document
    [alone-run statement, see `Silent`; the chain: `chainM_six_transformations`] -/
theorem alpha_variables_all25_partial (V : Vr) (hinj : ∀ a b, V.var a = V.var b → a = b) (s : SchemaD) (fx : Fixes)
    (h3 : fx.v3 = true) (h4 : fx.v4 = true) (d : Doc) (r : Rule) (hr : r ≠ .overlappingFieldsCanBeMerged) :
    Silent s fx r (V.doc d) ↔ Silent s fx r d := by
  by_cases hv : r ∈ [Rule.noUndefinedVariables, Rule.noUnusedVariables, Rule.variablesInAllowedPosition]
  · exact alpha_variables_variable_rules V hinj s fx h3 h4 d r hv
  · exact alpha_variables_all22_partial V hinj s fx d r ((by decide +kernel : ∀ r ∈ Rule.all,
      r ≠ .overlappingFieldsCanBeMerged → r ∉ [Rule.noUndefinedVariables, .noUnusedVariables, .variablesInAllowedPosition] →
        r ∈ ProvedVr) r (Rule.mem_all r) hr hv)

/-- non-vacuity: the suffix renaming, on the code of /repo HEAD -/
example (s : SchemaD) (d : Doc) (r : Rule) (hr : r ≠ .overlappingFieldsCanBeMerged) :
    Silent s Fixes.all r (suffixVr.doc d) ↔ Silent s Fixes.all r d :=
  alpha_variables_all25_partial suffixVr suffix_inj s Fixes.all rfl rfl d r hr

/-- injectivity is needed by the collector rules too: in `query($a: Int) { f(x: $b) }` the variable `$b` is undefined;
    renaming both to `$c` makes it defined -/
example : (⟨fun _ => "c"⟩ : Vr).var "a" = (⟨fun _ => "c"⟩ : Vr).var "b" := rfl

end PyGql.Props.C06
