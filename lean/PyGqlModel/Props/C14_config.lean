/-
  C14 — the code variant of the working tree is the repaired one: `config_fixed`.
-/
import PyGqlModel.HeapCfg
import PyGqlModel.Generated.HeapCfg

namespace PyGql.Props.C14
open PyGql.Heap

/-- THE CODE VARIANT IN THE WORKING TREE IS THE REPAIRED ONE. `Generated/HeapCfg.lean` is rewritten from the source on every run;
    this `rfl` — and with it every `current_*` theorem of Props/C14*.lean, none of which takes a flag as a hypothesis — stops
    compiling as soon as one re-extracted flag changes (a regression is a broken obligation, never a vacuous theorem). -/
theorem config_fixed : PyGql.Generated.HeapCfg.currentCfg = Cfg.fixed := rfl

theorem cur_accumulateBusted : PyGql.Generated.HeapCfg.currentCfg.accumulateBusted = true := by rw [config_fixed]; rfl
theorem cur_cloneRegsByValue : PyGql.Generated.HeapCfg.currentCfg.cloneRegsByValue = true := by rw [config_fixed]; rfl
theorem cur_cloneRegsDeep : PyGql.Generated.HeapCfg.currentCfg.cloneRegsDeep = true := by rw [config_fixed]; rfl
theorem cur_cloneRegsFiltered : PyGql.Generated.HeapCfg.currentCfg.cloneRegsFiltered = true := by rw [config_fixed]; rfl
theorem cur_deepClone : PyGql.Generated.HeapCfg.currentCfg.deepClone = true := by rw [config_fixed]; rfl
theorem cur_extInputFieldExtended : PyGql.Generated.HeapCfg.currentCfg.extInputFieldExtended = true := by rw [config_fixed]; rfl
theorem cur_extKeepAll : PyGql.Generated.HeapCfg.currentCfg.extKeepAll = true := by rw [config_fixed]; rfl
theorem cur_extLeafCopied : PyGql.Generated.HeapCfg.currentCfg.extLeafCopied = true := by rw [config_fixed]; rfl
theorem cur_keepAllTypes : PyGql.Generated.HeapCfg.currentCfg.keepAllTypes = true := by rw [config_fixed]; rfl

end PyGql.Props.C14
