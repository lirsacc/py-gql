/-
  C06 - property theorems: rules proved through the generic context walk (`Lemmas/ValidateCtx.lean`).
  `KnownDirectivesChecker` (5.7.1, 5.7.2): the context is the rule's OWN stack of ancestors.
-/
import PyGqlModel.Props.C06_names
import PyGqlModel.Lemmas.ValidateCtx
namespace PyGql.Props.C06
open PyGql PyGql.Validate PyGql.Validate.Spec

/-- from the context walk to the rule run alone: the rule does not skip at the document node and adds no error
    there (entering or leaving) -/
theorem silent_iff_ctx {X : Type} (s : SchemaD) (fx : Fixes) (r : Rule) (K : CTX ⟨s, fx, [r]⟩ X) (d : Doc) (st1 : St)
    (he : enter ⟨s, fx, [r]⟩ (.document d) {} = (st1, false)) (h0 : E st1 = 0)
    (hi : K.Inv st1) (hj : K.J (K.ctx st1))
    (hl : ∀ st, E (leave ⟨s, fx, [r]⟩ (.document d) st) = E st) :
    Silent s fx r d ↔ ∀ p ∈ gnDoc K.down (K.ctx st1) d, okP K p := by
  unfold Silent alone
  rw [visitDocument, visitNode_noskip _ _ _ _ _ he, hl]
  have hw := (defsC K d.defs st1 hi hj).1
  rw [h0] at hw
  exact hw

def ancUp : Node → List Anc → List Anc
  | .operation .., x => x.drop 1
  | .field .., x => x.drop 1
  | .spread .., x => x.drop 1
  | .inline .., x => x.drop 1
  | .fragmentDef .., x => x.drop 1
  | .varDef _, x => x.drop 1
  | _, x => x

def fKnownDir (s : SchemaD) : Node → List Anc → Nat
  | .directive d, x =>
    match findDirective s d.name with
    | none => 1
    | some sd =>
      match x with
      | [] => 0
      | a :: _ => if sd.locations.contains a.location then 0 else 1
  | _, _ => 0

/-- entering a node: never `SkipNode`; the ancestor stack grows as `ancDown` says; a directive is checked against
    the top of the stack -/
theorem knownDirectives_enter (s : SchemaD) (fx : Fixes) (n : Node) (ti : TI) (rs : RS) :
    ∃ rs', enterRule s fx .knownDirectives n ti rs = (rs', false) ∧ rs'.ancestors = ancDown n rs.ancestors ∧
      rs'.errs.length = rs.errs.length + fKnownDir s n (ancDown n rs.ancestors) := by
  cases n with
  | directive dr =>
    dsimp only [enterRule, fKnownDir, ancDown]
    cases findDirective s dr.name with
    | none => exact ⟨_, rfl, rfl, rfl⟩
    | some sd =>
      dsimp only
      cases h : rs.ancestors with
      | nil => exact ⟨_, rfl, rfl, rfl⟩
      | cons a t =>
        dsimp only
        by_cases hc : sd.locations.contains a.location = true
        · simp only [if_pos hc]
          exact ⟨_, rfl, h, rfl⟩
        · simp only [if_neg hc]
          exact ⟨_, rfl, h, rfl⟩
  | _ => exact ⟨_, rfl, rfl, rfl⟩

theorem knownDirectives_leave (s : SchemaD) (fx : Fixes) (n : Node) (ti : TI) (rs : RS) :
    leaveRule s fx .knownDirectives n ti rs = { rs with ancestors := ancUp n rs.ancestors } := by
  cases n <;> rfl

def ctxKnownDirectives (s : SchemaD) (fx : Fixes) : CTX ⟨s, fx, [.knownDirectives]⟩ (List Anc) where
  ctx st := st.rs.ancestors
  down := ancDown
  up := ancUp
  J _ := True
  Inv _ := True
  bad _ _ := false
  qskip _ _ := false
  qskipE _ _ _ _ h := by cases h
  qskip_fine _ _ h := by cases h
  qskip_ctx _ _ h := by cases h
  qskip_only _ _ h := by cases h
  qskip_sub _ _ h := by cases h
  F := fKnownDir s
  G _ _ := 0
  restore n x _ := by cases n <;> rfl
  keepJ _ _ _ _ := trivial
  enter_ctx n st := by
    obtain ⟨rs', e, h, _⟩ := knownDirectives_enter s fx n (tiEnter s n st.ti) st.rs
    rw [enter_single, e]
    exact h
  leave_ctx n st := by rw [leave_single, knownDirectives_leave]
  enterI _ _ _ _ := trivial
  leaveI _ _ _ _ := trivial
  skipE _ _ _ _ h := by cases h
  skipI _ _ _ _ _ := trivial
  skip_ctx _ _ _ _ h := by rcases h with h | h <;> cases h
  noskip n st _ _ _ _ := by
    obtain ⟨rs', e, _⟩ := knownDirectives_enter s fx n (tiEnter s n st.ti) st.rs
    rw [enter_single, e]
  enterE n st _ _ _ _ := by
    obtain ⟨rs', e, _, h⟩ := knownDirectives_enter s fx n (tiEnter s n st.ti) st.rs
    rw [enter_single, e]
    exact h
  leaveE n st _ _ := by
    rw [leave_single, knownDirectives_leave]
    rfl

/-- **5.7.1 Directives are defined / 5.7.2 Directives are in valid locations** -/
theorem rule_known_directives_iff (s : SchemaD) (fx : Fixes) (d : Doc) :
    Silent s fx .knownDirectives d ↔ Spec.knownDirectives s d := by
  rw [silent_iff_ctx s fx .knownDirectives (ctxKnownDirectives s fx) d ({} : St)
    (enter_single ..) rfl trivial trivial (fun st => by rw [leave_single]; rfl)]
  show (∀ p ∈ gnDoc ancDown [] d, okP (ctxKnownDirectives s fx) p) ↔ _
  unfold Spec.knownDirectives
  refine forall_congr' fun p => forall_congr' fun _ => ?_
  obtain ⟨n, x⟩ := p
  show (false = false ∧ fKnownDir s n x = 0 ∧ 0 = 0) ↔ _
  rw [and_iff_left rfl, and_iff_right rfl]
  cases n with
  | directive dd =>
    simp only [fKnownDir, Node.directive.injEq, forall_eq']
    cases findDirective s dd.name with
    | none => simp
    | some sd => cases x <;> simp
  | _ => exact ⟨fun _ _ e => (nomatch e), fun _ => rfl⟩

end PyGql.Props.C06
