/-
  C06 - property theorems: the type-dependent rules decided field by field / directive by directive,
  against the STATIC contexts of `Spec/TypedNodes.lean` (no stacks): `FieldsOnCorrectTypeChecker`,
  `ScalarLeafsChecker`, `KnownArgumentNamesChecker`, `ProvidedRequiredArgumentsChecker`.
  They rest on `Lemmas/ValidateTyped.lean`: the stacks of `TypeInfoVisitor` are balanced and show exactly the
  static context of each node.
-/
import PyGqlModel.Props.C06_names
import PyGqlModel.Lemmas.ValidateTyped
namespace PyGql.Props.C06
open PyGql PyGql.Validate PyGql.Validate.Spec

/-- single-rule chain: `TCF` from facts about `enterRule` / `leaveRule` -/
theorem tcf_of (s : SchemaD) (fx : Fixes) (r : Rule) (F G : Node → View → Nat)
    (hE : ∀ n ti rs, n.isDoc = false → (enterRule s fx r n ti rs).2 = false ∧
      (enterRule s fx r n ti rs).1.errs.length = rs.errs.length + F n ti.view)
    (hL : ∀ n ti rs, (leaveRule s fx r n ti rs).errs.length = rs.errs.length + G n ti.view) :
    TCF ⟨s, fx, [r]⟩ F G where
  noskip n st hn := by rw [enter_single]; exact (hE n _ _ hn).1
  enterE n st hn := by rw [enter_single]; exact (hE n _ _ hn).2
  leaveE n st _ := by rw [leave_single]; exact hL n _ _

theorem tsum_zero_iff (F G : Node → View → Nat) (l : List (Node × View)) :
    tsum F G l = 0 ↔ ∀ p ∈ l, F p.1 p.2 = 0 ∧ G p.1 p.2 = 0 := by
  induction l with
  | nil => simp [tsum]
  | cons a as ih => rw [tsum_cons]; simp only [List.mem_cons, forall_eq_or_imp, ← ih]; omega

/-- generic shape: a type-dependent rule that is silent at the document node reports nothing ⇔ it has nothing to
    report at any (node, static context) pair of the document -/
theorem silent_iff_typed (s : SchemaD) (fx : Fixes) (r : Rule) (F G : Node → View → Nat) (d : Doc)
    (h : TCF ⟨s, fx, [r]⟩ F G)
    (hdoc : ∀ ti rs, enterRule s fx r (.document d) ti rs = (rs, false))
    (hldoc : ∀ ti rs, (leaveRule s fx r (.document d) ti rs).errs.length = rs.errs.length) :
    Silent s fx r d ↔ ∀ p ∈ typedNodes s d, F p.1 p.2 = 0 ∧ G p.1 p.2 = 0 := by
  unfold Silent alone
  have he : enter ⟨s, fx, [r]⟩ (.document d) {} = (({} : St), false) := by
    rw [enter_single, hdoc]
    rfl
  have hl : ∀ st, E (leave ⟨s, fx, [r]⟩ (.document d) st) = E st := fun st => by
    rw [leave_single]
    exact hldoc _ _
  rw [visitDocument, visitNode_noskip _ _ _ _ _ he, hl, (visitDefsT h d.defs ({} : St) rfl).2]
  show 0 + _ = 0 ↔ _
  rw [Nat.zero_add, tsum_zero_iff]
  rfl

/-- the shape of the rules that never raise `SkipNode`, record `F n v` errors on entering node `n` in the static
    context `v`, and do nothing on leaving -/
theorem silent_iff_typed_enter (s : SchemaD) (fx : Fixes) (r : Rule) (F : Node → View → Nat) (d : Doc)
    (hE : ∀ n ti rs, enterRule s fx r n ti rs = (rs.errN r (F n ti.view), false))
    (hL : ∀ n ti rs, leaveRule s fx r n ti rs = rs)
    (hF : ∀ v, F (.document d) v = 0) :
    Silent s fx r d ↔ ∀ p ∈ typedNodes s d, F p.1 p.2 = 0 := by
  rw [silent_iff_typed s fx r F (fun _ _ => 0) d
    (tcf_of s fx r F _ (fun n ti rs _ => by rw [hE]; exact ⟨rfl, errN_length ..⟩) (fun n ti rs => by rw [hL]; rfl))
    (fun ti rs => by rw [hE, hF]; rfl) (fun ti rs => by rw [hL])]
  exact forall₂_congr fun _ _ => and_iff_left rfl

def fFields : Node → View → Nat
  | .field .., v => if v.parent.isSome && v.field.isNone then 1 else 0
  | _, _ => 0

theorem fFields_zero_iff (name : String) (args : List Arg) (dirs : List Dir) (hs : Bool) (v : View) :
    fFields (.field name args dirs hs) v = 0 ↔ (v.parent.isSome = true → v.field.isSome = true) := by
  obtain ⟨_, par, fd, _⟩ := v
  cases par <;> cases fd <;> simp [fFields]

/-- **5.3.1 Field selections on objects, interfaces and unions** -/
theorem rule_fields_on_correct_type_iff (s : SchemaD) (fx : Fixes) (d : Doc) :
    Silent s fx .fieldsOnCorrectType d ↔ Spec.fieldsOnCorrectType s d := by
  rw [silent_iff_typed_enter s fx .fieldsOnCorrectType fFields d
    (fun n ti rs => by
      cases n with
      | field name args dirs hs =>
        dsimp only [enterRule, fFields, TI.view]
        cases ti.parentType <;> cases ti.field <;> rfl
      | _ => rfl)
    (leaveRule_id s fx _ (by decide)) (fun _ => rfl)]
  unfold Spec.fieldsOnCorrectType
  constructor
  · intro h p hp name args dirs hs e
    obtain ⟨n, v⟩ := p
    cases e
    exact (fFields_zero_iff ..).mp (h _ hp)
  · intro h p hp
    obtain ⟨n, v⟩ := p
    cases n with
    | field name args dirs hs => exact (fFields_zero_iff ..).mpr (h _ hp name args dirs hs rfl)
    | _ => rfl


def leafOf (s : SchemaD) (v : View) : Bool := match v.type.map (·.base) with | some b => isLeaf s b | none => false
def compOf (s : SchemaD) (v : View) : Bool := match v.type.map (·.base) with | some b => isComposite s b | none => false

def fLeafs (s : SchemaD) : Node → View → Nat
  | .field _ _ _ hs, v => (if leafOf s v && hs then 1 else 0) + (if compOf s v && !hs then 1 else 0)
  | _, _ => 0

private theorem two_reports_zero (l c hs : Bool) :
    ((if (l && hs) = true then 1 else 0) + if (c && !hs) = true then 1 else 0) = 0 ↔
      (l = true → hs = false) ∧ (c = true → hs = true) := by
  cases l <;> cases c <;> cases hs <;> decide

theorem fLeafs_zero_iff (s : SchemaD) (name : String) (args : List Arg) (dirs : List Dir) (hs : Bool) (v : View) :
    fLeafs s (.field name args dirs hs) v = 0 ↔
      ∀ t, v.type = some t → (isLeaf s t.base = true → hs = false) ∧ (isComposite s t.base = true → hs = true) := by
  obtain ⟨ty, _, _, _⟩ := v
  cases ty with
  | none => exact ⟨fun _ _ e => (nomatch e), fun _ => rfl⟩
  | some t =>
    simp only [fLeafs, leafOf, compOf, Option.map_some, Option.some.injEq, forall_eq']
    exact two_reports_zero ..

private theorem err_err_ite (r : Rule) (a b : Bool) (rs : RS) :
    (if b then (if a then rs.err r else rs).err r else if a then rs.err r else rs) =
      rs.errN r ((if a then 1 else 0) + (if b then 1 else 0)) := by
  cases a <;> cases b <;> rfl

/-- **5.3.3 Leaf field selections** -/
theorem rule_scalar_leafs_iff (s : SchemaD) (fx : Fixes) (d : Doc) :
    Silent s fx .scalarLeafs d ↔ Spec.scalarLeafs s d := by
  rw [silent_iff_typed_enter s fx .scalarLeafs (fLeafs s) d
    (fun n ti rs => by
      cases n with
      | field name args dirs hs =>
        dsimp only [enterRule, fLeafs, leafOf, compOf, TI.view]
        cases ti.type with
        | none => rfl
        | some t =>
          dsimp only [Option.map_some]
          exact congrArg (·, false) (err_err_ite ..)
      | _ => rfl)
    (leaveRule_id s fx _ (by decide)) (fun _ => rfl)]
  unfold Spec.scalarLeafs
  constructor
  · intro h p hp name args dirs hs e
    obtain ⟨n, v⟩ := p
    cases e
    exact (fLeafs_zero_iff ..).mp (h _ hp)
  · intro h p hp
    obtain ⟨n, v⟩ := p
    cases n with
    | field name args dirs hs => exact (fLeafs_zero_iff ..).mpr (h _ hp name args dirs hs rfl)
    | _ => rfl

/-! ### KnownArgumentNamesChecker, ProvidedRequiredArgumentsChecker: the arguments given to a field / directive against
    those it defines -/

/-- `cnt` of the arguments defined by the field / directive in scope and the arguments given to the node -/
def argCount (cnt : List ArgD → List Arg → Nat) : Node → View → Nat
  | .field _ args _ _, v => match v.field with | none => 0 | some fd => cnt fd.args args
  | .directive d, v => match v.directive with | none => 0 | some dd => cnt dd.args d.args
  | _, _ => 0

theorem argCount_zero_iff {cnt : List ArgD → List Arg → Nat} {P : List ArgD → List Arg → Prop}
    (hP : ∀ a b, cnt a b = 0 ↔ P a b) (L : List (Node × View)) :
    (∀ p ∈ L, argCount cnt p.1 p.2 = 0) ↔
      (∀ p ∈ L, ∀ name args dirs hs, p.1 = Node.field name args dirs hs → ∀ fd, p.2.field = some fd → P fd.args args) ∧
      (∀ p ∈ L, ∀ dr, p.1 = Node.directive dr → ∀ dd, p.2.directive = some dd → P dd.args dr.args) := by
  constructor
  · intro h
    refine ⟨fun p hp name args dirs hs e fd hfd => ?_, fun p hp dr e dd hdd => ?_⟩
    · have := h p hp
      obtain ⟨n, v⟩ := p
      simp only at e hfd; subst e
      simp only [argCount, hfd] at this
      exact (hP _ _).mp this
    · have := h p hp
      obtain ⟨n, v⟩ := p
      simp only at e hdd; subst e
      simp only [argCount, hdd] at this
      exact (hP _ _).mp this
  · rintro ⟨h1, h2⟩ p hp
    obtain ⟨n, v⟩ := p
    cases n <;> simp only [argCount]
    · rename_i dr
      cases hdd : v.directive with
      | none => rfl
      | some dd => exact (hP _ _).mpr (h2 _ hp dr rfl dd hdd)
    · rename_i name args dirs hs
      cases hfd : v.field with
      | none => rfl
      | some fd => exact (hP _ _).mpr (h1 _ hp name args dirs hs rfl fd hfd)

def unknownArgs (defs : List ArgD) (args : List Arg) : Nat :=
  (args.filter fun a => !(defs.any (·.name == a.name))).length

theorem unknownArgs_zero_iff (defs : List ArgD) (args : List Arg) :
    unknownArgs defs args = 0 ↔ ∀ a ∈ args, ∃ ad ∈ defs, ad.name = a.name := by
  simp [unknownArgs, List.filter_eq_nil_iff]

/-- **5.4.1 Argument names** -/
theorem rule_known_argument_names_iff (s : SchemaD) (fx : Fixes) (d : Doc) :
    Silent s fx .knownArgumentNames d ↔ Spec.knownArgumentNames s d := by
  rw [silent_iff_typed_enter s fx .knownArgumentNames (argCount unknownArgs) d
    (fun n ti rs => by
      cases n with
      | field name args dirs hs =>
        dsimp only [enterRule, argCount, TI.view]
        cases ti.field <;> rfl
      | directive dr =>
        dsimp only [enterRule, argCount, TI.view]
        cases ti.directive <;> rfl
      | _ => rfl)
    (leaveRule_id s fx _ (by decide)) (fun _ => rfl)]
  exact argCount_zero_iff unknownArgs_zero_iff _

/-! `ProvidedRequiredArgumentsChecker` reports on LEAVING the field / directive -/

def missingArgs (defs : List ArgD) (args : List Arg) : Nat :=
  (defs.filter fun a => ArgD.required a && !(args.any (·.name == a.name))).length

theorem missingArgs_zero_iff (defs : List ArgD) (args : List Arg) :
    missingArgs defs args = 0 ↔ ∀ ad ∈ defs, ArgD.required ad = true → ∃ a ∈ args, a.name = ad.name := by
  simp [missingArgs, List.filter_eq_nil_iff]

/-- **5.4.2.1 Required arguments** -/
theorem rule_provided_required_arguments_iff (s : SchemaD) (fx : Fixes) (d : Doc) :
    Silent s fx .providedRequiredArguments d ↔ Spec.providedRequiredArguments s d := by
  have hc := tcf_of s fx .providedRequiredArguments (fun _ _ => 0) (argCount missingArgs)
    (fun n ti rs _ => ⟨rfl, rfl⟩)
    (fun n ti rs => by
      cases n with
      | field name args dirs hs =>
        dsimp only [leaveRule, argCount, TI.view]
        cases ti.field
        · rfl
        · exact errN_length ..
      | directive dr =>
        dsimp only [leaveRule, argCount, TI.view]
        cases ti.directive
        · rfl
        · exact errN_length ..
      | _ => rfl)
  rw [silent_iff_typed s fx _ _ _ d hc (fun _ _ => rfl) (fun _ _ => rfl)]
  exact (forall₂_congr fun _ _ => and_iff_right rfl).trans (argCount_zero_iff missingArgs_zero_iff _)

end PyGql.Props.C06
