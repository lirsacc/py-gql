/-
  C12 — the well-formedness predicate `printBuildWF` does not depend on the order of the schema's type and directive
  lists (names are pairwise distinct), hence holds for the printing order `printOrder s`; with the text layer
  (`print_schema_text_parses`) this gives the final text-level round trip with hypotheses on `s` itself
  (`text_roundtrip_final`, `Props/C12_text.lean`).

  The property-level theorem of this file: `printBuildWF_printOrder`; everything else public is a step of its proof.
-/
import PyGqlModel.Lemmas.SdlTextPrintOrder
import PyGqlModel.Props.C12_print_build

namespace PyGql.Props.C12
open PyGql PyGql.Sdl PyGql.SdlSpec PyGql.SdlPrint PyGql.SdlText PyGql.Props.C11

section
variable {s' s : SchemaD} (hf : ∀ n, s'.findType n = s.findType n)
include hf

theorem leafOK_congr (nm : String) (v : J) : leafOK s' nm v = leafOK s nm v := by
  simp only [leafOK, hf]

theorem wt_congr : ∀ fuel : Nat,
    (∀ v ty, wtB s' fuel v ty = wtB s fuel v ty) ∧ (∀ items t, wtsB s' fuel items t = wtsB s fuel items t) ∧
    (∀ fs kvs, wtF s' fuel fs kvs = wtF s fuel fs kvs) := by
  intro fuel
  induction fuel with
  | zero => exact ⟨fun _ _ => by simp [wtB], fun _ _ => by simp [wtsB], fun _ _ => by simp [wtF]⟩
  | succ n ih =>
    obtain ⟨i1, i2, i3⟩ := ih
    refine ⟨?_, ?_, ?_⟩
    · intro v ty
      cases ty with
      | nonNull t => simp only [wtB, i1]
      | list t => cases v <;> simp only [wtB, i2]
      | named nm => cases v <;> simp only [wtB, hf, leafOK_congr hf, i3]
    · intro items t
      cases items with
      | nil => simp [wtsB]
      | cons x xs => simp only [wtsB, i1, i2]
    · intro fs kvs
      cases fs with
      | nil => cases kvs <;> simp [wtF]
      | cons f fs =>
        cases kvs with
        | nil => simp only [wtF, i3]
        | cons kv rest => obtain ⟨k, v⟩ := kv; simp only [wtF, i1, i3]
end

private theorem env_ext (e₁ e₂ : Env) (h1 : e₁.findDef = e₂.findDef) (h2 : e₁.findAdditional = e₂.findAdditional) : e₁ = e₂ := by
  match e₁, e₂, h1, h2 with
  | ⟨a, b⟩, ⟨c, d⟩, h1, h2 =>
    have h1' : a = c := h1
    have h2' : b = d := h2
    rw [h1', h2']

theorem docEnv_congr {s' s : SchemaD} (hf : ∀ n, s'.findType n = s.findType n) (ht : typeToDef s' = typeToDef s) :
    docEnv s' = docEnv s := by
  apply env_ext
  · funext n; rw [docEnv_findDef, docEnv_findDef, hf, ht]
  · funext n; rw [docEnv_findAdditional, docEnv_findAdditional]

section
variable {s' s : SchemaD} (hf : ∀ n, s'.findType n = s.findType n) (ht : typeToDef s' = typeToDef s)
include hf ht

theorem argOK_congr : argOK s' = argOK s := by
  funext a; simp only [argOK, docEnv_congr hf ht, (wt_congr hf valueFuel).1]

theorem fieldOK_congr : fieldOK s' = fieldOK s := by
  funext f; simp only [fieldOK, argOK_congr hf ht, docEnv_congr hf ht]

theorem typeOK_congr : typeOK s' = typeOK s := by
  funext t; simp only [typeOK, fieldOK_congr hf ht, argOK_congr hf ht, docEnv_congr hf ht]

theorem directiveOK_congr : directiveOK s' = directiveOK s := by
  funext d; simp only [directiveOK, argOK_congr hf ht]
end

theorem all_perm {α} (p : α → Bool) {l₁ l₂ : List α} (hp : l₁.Perm l₂) : l₁.all p = l₂.all p := hp.all_eq

theorem eagerReach_congr (types' types : List TypeD) (target : String)
    (hfind : ∀ n, types'.find? (·.name == n) = types.find? (·.name == n)) :
    ∀ (fuel : Nat) (n : String), eagerReach types' target fuel n = eagerReach types target fuel n := by
  intro fuel
  induction fuel with
  | zero => intro n; rfl
  | succ k ih =>
    intro n
    simp only [eagerReach, hfind]
    cases types.find? (·.name == n) with
    | none => rfl
    | some t =>
      simp only []
      congr 1
      funext m
      rw [ih]

theorem hasEagerCycle_perm {types' types : List TypeD} (hp : types'.Perm types) (hn : (types.map (·.name)).Nodup) :
    hasEagerCycle types' = hasEagerCycle types := by
  have hfind : ∀ n, types'.find? (·.name == n) = types.find? (·.name == n) :=
    fun n => (find_perm (·.name) n hp.symm hn).symm
  simp only [hasEagerCycle, hp.length_eq]
  rw [show (fun t : TypeD => eagerReach types' t.name types.length t.name) = (fun t => eagerReach types t.name types.length t.name) from
    funext fun t => eagerReach_congr types' types t.name hfind _ _]
  exact any_perm _ hp

theorem hasThunkCycle_perm (env : Env) {defs' defs : List TypeDef} (hp : defs'.Perm defs) :
    hasThunkCycle env defs' = hasThunkCycle env defs := by
  simp only [hasThunkCycle, hp.length_eq]
  exact any_perm _ hp

theorem namesUnique_of_printBuildWF (s : SchemaD) (h : printBuildWF s = true) : namesUnique s = true := by
  simp only [printBuildWF, Bool.and_eq_true, Bool.not_eq_true'] at h
  obtain ⟨⟨⟨⟨⟨⟨⟨_, _⟩, hut⟩, hud⟩, _⟩, _⟩, _⟩, _⟩ := h
  simp only [namesUnique, Bool.and_eq_true, decide_eq_true_eq]
  exact ⟨(hasDup_false_iff _).mp hut, (hasDup_false_iff _).mp hud⟩

/-- every clause of the well-formedness predicate looks types up by name or quantifies over a whole list -/
theorem printBuildWF_printOrder (s : SchemaD) (h : printBuildWF s = true) : printBuildWF (printOrder s) = true := by
  have hu := namesUnique_of_printBuildWF s h
  obtain ⟨hnt, hnd⟩ := unique_of_wf s hu
  have hf : ∀ n, (printOrder s).findType n = s.findType n := findType_printOrder s hu
  have ht : typeToDef (printOrder s) = typeToDef s := typeToDef_congr (sameLits_printOrder s hu)
  have hpt := types_perm s
  have hpd := directives_perm s
  have henv := docEnv_congr hf ht
  simp only [printBuildWF, Bool.and_eq_true, Bool.not_eq_true'] at h ⊢
  obtain ⟨⟨⟨⟨⟨⟨⟨hty, hdi⟩, hut⟩, hud⟩, hro⟩, hth⟩, hea⟩, hres⟩ := h
  refine ⟨⟨⟨⟨⟨⟨⟨?_, ?_⟩, ?_⟩, ?_⟩, ?_⟩, ?_⟩, ?_⟩, ?_⟩
  · rw [typeOK_congr hf ht, all_perm _ hpt]; exact hty
  · rw [directiveOK_congr hf ht, all_perm _ hpd]; exact hdi
  · rw [hasDup_false_iff]; exact (hpt.map _).nodup_iff.mpr hnt
  · rw [hasDup_false_iff]; exact (hpd.map _).nodup_iff.mpr hnd
  · have hany : ∀ f : TypeD → Bool, (printOrder s).types.any f = s.types.any f := fun f => any_perm f hpt
    have e1 : (printOrder s).query = s.query := rfl
    have e2 : (printOrder s).mutation = s.mutation := rfl
    have e3 : (printOrder s).subscription = s.subscription := rfl
    simp only [rootsOK, rootIsObject, hany, e1, e2, e3] at hro ⊢
    exact hro
  · rw [henv, ht, hasThunkCycle_perm _ (hpt.map _)]; exact hth
  · rw [hasEagerCycle_perm hpt hnt]; exact hea
  · exact hres

end PyGql.Props.C12
