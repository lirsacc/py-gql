/-
  C06 - **alpha_variables**: consistent renaming of variables (definitions `$x`, every
  occurrence in argument values of fields and directives, in default values, inside list and object literals).
  * 20 rules never read the name of a variable: proved on the MODEL OF THE CODE - the run of any chain made of them is
    equal, state by state, on the renamed document (any renaming, injective or not; any document; any fixes).
  * `SingleFieldSubscriptions` (its fragment table holds the renamed selections; the collected response keys are the same)
    and `UniqueVariableNames` (injective renaming) through their rule theorems.
  * `NoUndefinedVariables`, `NoUnusedVariables`, `VariablesInAllowedPosition`: Props/C06_inv_variables_collector.lean.
  `OverlappingFieldsCanBeMerged` (it compares argument values): `Props/C06_inv_variables_all26.lean`.
-/
import PyGqlModel.Props.C06_inv_aliases
import PyGqlModel.Lemmas.ValidateOverlapSimVr
namespace PyGql.Props.C06
open PyGql PyGql.Validate PyGql.Validate.Spec

/-- full statement (kept visible): an injective renaming of variables never changes the verdict of the whole chain
    (for the chain /repo runs: `alpha_variables_verdict_invariance_memo`, Props/C06_inv_variables_all26.lean) -/
def FullStatement_alpha_variables : Prop :=
  ∀ (V : Vr), (∀ a b, V.var a = V.var b → a = b) → ∀ (s : SchemaD) (d : Doc),
    verdict { schema := s } (V.doc d) = verdict { schema := s } d

def VarBlindRules : List Rule := Rule.all.filter fun r => !r.readsVarNames

example : VarBlindRules.length = 20 := by decide +kernel

/-- **alpha_variables for every chain of var-blind rules**: same final state (errors of every rule, crash), same
    verdict; ANY renaming of variables -/
theorem alpha_variables_chain_partial (V : Vr) (c : Cfg) (hc : ∀ r ∈ c.rules, r.readsVarNames = false) (d : Doc) :
    visitDocument c (V.doc d) {} = visitDocument c d {} ∧ verdict c (V.doc d) = verdict c d := by
  have h := visitDocument_vr V c hc d {}
  exact ⟨h, by simp only [verdict, run, h]⟩

theorem alpha_variables_20_chain_partial (V : Vr) (s : SchemaD) (fx : Fixes) (d : Doc) :
    verdict ⟨s, fx, VarBlindRules⟩ (V.doc d) = verdict ⟨s, fx, VarBlindRules⟩ d :=
  (alpha_variables_chain_partial V ⟨s, fx, VarBlindRules⟩ (show ∀ r ∈ VarBlindRules, r.readsVarNames = false by decide +kernel) d).2

/-- **alpha_variables**, rule by rule, for the var-blind rules -/
theorem alpha_variables_blind_partial (V : Vr) (s : SchemaD) (fx : Fixes) (d : Doc) (r : Rule)
    (hr : r.readsVarNames = false) : Silent s fx r (V.doc d) ↔ Silent s fx r d := by
  unfold Silent alone
  rw [(alpha_variables_chain_partial V ⟨s, fx, [r]⟩ (by simpa using hr) d).1]

theorem single_field_subscriptions_spec_vr (V : Vr) (d : Doc) :
    Spec.singleFieldSubscriptions (V.doc d) ↔ Spec.singleFieldSubscriptions d :=
  (V.docMap d).sfs_iff (ρ := id) (fun _ _ h => h) (fun _ _ => rfl) fun _ _ h => h

theorem alpha_variables_single_field_subscriptions (V : Vr) (s : SchemaD) (fx : Fixes) (d : Doc) :
    Silent s fx .singleFieldSubscriptions (V.doc d) ↔ Silent s fx .singleFieldSubscriptions d := by
  rw [rule_single_field_subscriptions_iff, rule_single_field_subscriptions_iff]
  exact single_field_subscriptions_spec_vr V d

theorem unique_variable_names_spec_vr (V : Vr) (hinj : ∀ a b, V.var a = V.var b → a = b) (d : Doc) :
    Spec.uniqueVariableNames (V.doc d) ↔ Spec.uniqueVariableNames d :=
  V.defMap.uniqueVariableNames d hinj

theorem alpha_variables_unique_variable_names (V : Vr) (hinj : ∀ a b, V.var a = V.var b → a = b) (s : SchemaD)
    (fx : Fixes) (d : Doc) : Silent s fx .uniqueVariableNames (V.doc d) ↔ Silent s fx .uniqueVariableNames d := by
  rw [rule_unique_variable_names_iff, rule_unique_variable_names_iff]
  exact unique_variable_names_spec_vr V hinj d

/-- rules for which `alpha_variables` is proved in this file: 22 -/
def ProvedVr : List Rule := VarBlindRules ++ [.singleFieldSubscriptions, .uniqueVariableNames]

/-- **alpha_variables for 22 of the 26 rules** -/
theorem alpha_variables_all22_partial (V : Vr) (hinj : ∀ a b, V.var a = V.var b → a = b) (s : SchemaD) (fx : Fixes)
    (d : Doc) (r : Rule) (hr : r ∈ ProvedVr) : Silent s fx r (V.doc d) ↔ Silent s fx r d := by
  simp only [ProvedVr, List.mem_append, List.mem_cons, List.not_mem_nil, or_false] at hr
  rcases hr with hr | rfl | rfl
  · exact alpha_variables_blind_partial V s fx d r (by
      have : ∀ r ∈ VarBlindRules, r.readsVarNames = false := by decide +kernel
      exact this r hr)
  · exact alpha_variables_single_field_subscriptions V s fx d
  · exact alpha_variables_unique_variable_names V hinj s fx d

/-! ### non-vacuity: appending "_" to every variable name is an injective renaming -/

def suffixVr : Vr := ⟨(· ++ "_")⟩

example (s : SchemaD) (fx : Fixes) (d : Doc) (r : Rule) (hr : r ∈ ProvedVr) :
    Silent s fx r (suffixVr.doc d) ↔ Silent s fx r d :=
  alpha_variables_all22_partial suffixVr suffix_inj s fx d r hr

/-- injectivity is needed for UniqueVariableNames: `query($a: Int, $b: Int)` with both variables renamed to `$c` -/
example : ((⟨fun _ => "c"⟩ : Vr).doc ⟨[.op "query" none [{ name := "a", type := .named "Int", default := none },
      { name := "b", type := .named "Int", default := none }] [] 0 []]⟩).defs =
    [.op "query" none [{ name := "c", type := .named "Int", default := none },
      { name := "c", type := .named "Int", default := none }] [] 0 []] := rfl

end PyGql.Props.C06
