/-
  C13 — property theorems: schema validation (`SchemaValidator`), covariance (`is_subtype`, TRANSLATED from the source on
  every run), the `_is_valid` cache machine. In this order:
  1. covariance: the fuelled `isSubtype` is the relation `Subtype` (`subtype_iff`, `subtype_fuel`);
  2. the verdict: method by method "no error ⇔ the rule's predicate", up to `validate_iff` / `accepts_iff`
     (`resolver_rule_iff_binds`: the resolver rule against Python's call binding, Props/C13_call.lean);
  3. the cache: `CacheInv` is kept by every resolver operation (`cache_sound`, `validate_ok_means_valid`) and by
     `_replace_types_and_directives` with honest identity flags (`applyReplace_spec`, `applyDirReplace_spec`, `step_inv`,
     `cache_sound_all`); the variants of the code before the fixes break it (`legacy_*`,
     `cache_unsound_unseen_structural_setter`);
  4. `reports_all`, names (`name_iff`), the extracted tables (`model_rules_extracted`), defect S4 and the examples.
  The report element by element (`violation_iff`) is Props/C13_report.lean.
-/
import PyGqlModel.SchemaValid
import PyGqlModel.Spec.SchemaValidSpec
import PyGqlModel.Props.C13_call
import PyGqlModel.Lemmas.SchemaValidLoop

set_option linter.unusedSimpArgs false

namespace PyGql.Props.C13
open PyGql PyGql.SchemaValid PyGql.SchemaValidSpec PyGql.Generated.Subtype PyGql.Generated.SchemaValidTables

section
attribute [local simp] subIter isSubtypeStep Ty.isList Ty.isNonNull Ty.sameCtor Ty.inner

/-- types have positive size, so fuel that covers two of them is positive -/
private theorem of_succ_fuel {P : Nat → Prop} {a b : Ty} (h : ∀ k, a.size + b.size ≤ k + 1 → P (k + 1)) :
    ∀ k, a.size + b.size ≤ k → P k
  | 0, hk => absurd hk (by have := a.size_pos; omega)
  | k + 1, hk => h k hk

private theorem subIter_complete (s : SchemaD) {a b : Ty} (h : Subtype s a b) :
    ∀ k, a.size + b.size ≤ k → subIter s k a b = true := by
  induction h with
  | refl t => exact of_succ_fuel fun k _ => by simp
  | @list a b h ih =>
    refine of_succ_fuel fun k hk => ?_
    simp only [Ty.size] at hk
    simp [ih k (by omega)]
  | @nonNull a b h ih =>
    refine of_succ_fuel fun k hk => ?_
    simp only [Ty.size] at hk
    simp [ih k (by omega)]
  | @dropNonNull a b hb h ih =>
    refine of_succ_fuel fun k hk => ?_
    simp only [Ty.size] at hk
    have := ih k (by omega)
    cases b with
    | nonNull b' => simp at hb
    | named n => simp [this]
    | list b' => simp [this]
  | @possible o a ho ha hp => exact of_succ_fuel fun k _ => by simp [ho, ha, hp]

private theorem subIter_sound (s : SchemaD) : ∀ k a b, subIter s k a b = true → Subtype s a b := by
  intro k
  induction k with
  | zero => intro a b h; simp at h
  | succ k ih =>
    intro a b h
    by_cases hab : a = b
    · subst hab; exact .refl _
    · simp only [subIter, isSubtypeStep] at h
      have hne : (a == b) = false := by simpa using hab
      rw [hne] at h
      simp only [Bool.false_eq_true, if_false] at h
      cases a with
      | named o =>
        cases b with
        | named n =>
          simp at h
          exact .possible h.1.2 h.1.1 h.2
        | list b' => simp [isAbstractTy] at h
        | nonNull b' => simp [isAbstractTy] at h
      | list a' =>
        cases b with
        | named n => simp at h
        | list b' =>
          simp at h
          exact .list (ih _ _ h)
        | nonNull b' => simp at h
      | nonNull a' =>
        cases b with
        | named n =>
          simp at h
          exact .dropNonNull rfl (ih _ _ h)
        | list b' =>
          simp at h
          exact .dropNonNull rfl (ih _ _ h)
        | nonNull b' =>
          simp at h
          exact .nonNull (ih _ _ h)

end

/-- **Covariance.** `Schema.is_subtype` (translated from the source, recursion closed with fuel) decides
    exactly the specification's subtype relation: equal types, through list and non-null wrappers,
    non-null to nullable, object type to an interface it implements / a union that lists it. -/
theorem subtype_iff (s : SchemaD) (a b : Ty) : isSubtype s a b = true ↔ Subtype s a b :=
  ⟨subIter_sound s _ a b, fun h => subIter_complete s h _ (Nat.le_refl _)⟩

/-- the fuel is irrelevant once it covers the two sizes -/
theorem subtype_fuel (s : SchemaD) (a b : Ty) (k : Nat) (hk : a.size + b.size ≤ k) :
    subIter s k a b = isSubtype s a b := by
  cases h : isSubtype s a b with
  | true => exact subIter_complete s ((subtype_iff s a b).1 h) k hk
  | false =>
    cases h' : subIter s k a b with
    | false => rfl
    | true =>
      have := (subtype_iff s a b).2 (subIter_sound s k a b h')
      rw [h] at this; exact absurd this (by simp)

instance (s : SchemaD) (a b : Ty) : Decidable (Subtype s a b) := decidable_of_iff _ (subtype_iff s a b)

/-! #### method-by-method: "no error" ⇔ the rule's predicate -/

private theorem checkValidName_nil (n : String) : checkValidName n = [] ↔ ValidName n := by
  unfold checkValidName ValidName
  split <;> simp_all

/-- every fix is in the tree the theorems are checked against (each flag re-extracted on every run) -/
theorem config_fixed : currentConfig = Config.fixed := by decide

theorem validate_eq (s : SchemaD) (rv : Bool) : validate s rv = validateFixed s rv := by
  unfold validate; rw [config_fixed]

private theorem fx1 : Config.fixed.maskTypeName = false := rfl
private theorem fx2 : Config.fixed.maskDuplicate = false := rfl
private theorem fx3 : Config.fixed.maskImplType = false := rfl
private theorem fx4 : Config.fixed.preciseResolver = true := rfl
private theorem fx5 : Config.fixed.extraArgRequired = true := rfl
private theorem fx6 : Config.fixed.subscriptionChecked = true := rfl
private theorem fx7 : Config.fixed.ifaceResolverChecked = false := rfl
private theorem fx8 : Config.fixed.notCallableReported = true := rfl
private theorem fx9 : Config.fixed.defaultsChecked = true := rfl
private theorem fx10 : Config.fixed.enumNoneReported = true := rfl

private theorem ite_cons_eq_nil {α} (c : Prop) [Decidable c] (a : α) (l m : List α) :
    (if c then a :: l else m) = [] ↔ ¬ c ∧ m = [] := by
  split <;> simp [*]

private theorem ite_nil_cons_eq_nil {α} (c : Prop) [Decidable c] (a : α) (l : List α) :
    (if c then [] else a :: l) = [] ↔ c := by
  split <;> simp [*]

private theorem ifEmpty_nil {α} (xs : List α) (err : Err) : (if xs.isEmpty then [err] else []) = [] ↔ xs ≠ [] := by
  cases xs <;> simp

/-- The "name / duplicate / body" loop of arguments, fields and input fields is silent when every element is, and the
    keys are pairwise distinct. -/
private theorem keyedLoop_nil {α} (key : α → String) (nameErrs body : α → List Err) (dupErr : α → Err)
    (mask : Bool) (hm : mask = false) (xs : List α) :
    forSeen key (fun x dup =>
        (nameErrs x ++ (if dup then [dupErr x] else []) ++ (if dup && mask then [] else body x), true)) xs [] = [] ↔
      (∀ x ∈ xs, nameErrs x = [] ∧ body x = []) ∧ (xs.map key).Nodup := by
  subst hm
  refine forSeen_nil_iff key _ (fun x => nameErrs x = [] ∧ body x = []) (fun _ _ _ h => Bool.noConfusion h) ?_ xs
  intro x dup
  cases dup <;> simp

private theorem notInputErr_nil (s : SchemaD) (r d : Rule) (o : String) (a : ArgD) :
    notInputErr Config.fixed s r d o a = [] ↔ (isInputType s a.type = true ∧ DefaultOK s a) := by
  unfold notInputErr defaultErr DefaultOK
  cases isInputType s a.type <;> cases a.hasDefault <;> cases defaultBad s defaultFuel a.type a.default <;> simp [fx9]

private theorem validateArguments_nil (s : SchemaD) (r1 r2 r3 : Rule) (owner : String) (args : List ArgD) :
    validateArguments s r1 r2 r3 owner args = [] ↔ ArgsOK s args := by
  unfold validateArguments validateArgumentsWith ArgsOK
  simp only [keyedLoop_nil ArgD.name _ _ _ _ fx2, checkValidName_nil, notInputErr_nil]

private theorem resolverArgErr_nil (path : String) (ps : List ParamD) (varKw : Bool) (a : ArgD) :
    resolverArgErr path ps varKw a = [] ↔
      (match keywordParam ps a.pythonName with
       | some p => p.hasDefault = true ∨ a.hasDefault = true ∨ argRequired a = true
       | none => varKw = true ∧ ∀ cl, findParam ps a.pythonName = some cl →
           ¬ ((leadingNames ps).contains cl.name = true ∧ cl.kind = .posOrKw)) := by
  unfold resolverArgErr
  cases keywordParam ps a.pythonName with
  | some p => cases p.hasDefault <;> cases a.hasDefault <;> cases argRequired a <;> simp
  | none =>
    cases hf : findParam ps a.pythonName with
    | none => cases varKw <;> simp
    | some cl =>
      simp only [ite_cons_eq_nil, Option.some.injEq, forall_eq', Bool.and_eq_true, beq_iff_eq]
      cases varKw <;> simp

private theorem validateResolverArguments_nil (path : String) (args : List ArgD) (r : ResolverD) :
    validateResolverArguments path args r = [] ↔
      (r.callable = true ∧ (r.inspectable = true → ResolverCompatible args r)) := by
  unfold validateResolverArguments validateResolverArgumentsWith ResolverCompatible
  cases hc : r.callable with
  | false => simp only [Bool.not_false, if_true, fx8, reduceCtorEq, Bool.false_eq_true, false_and]
  | true =>
    cases hi : r.inspectable with
    | false =>
      simp only [Bool.not_true, Bool.false_eq_true, if_false, Bool.not_false, if_true, false_implies, and_self]
    | true =>
      simp only [Bool.not_true, Bool.false_eq_true, if_false, fx4, if_true, resolverErrs, List.append_eq_nil_iff,
        List.flatMap_eq_nil_iff, resolverArgErr_nil, ite_cons_eq_nil, ite_nil_cons_eq_nil, and_true, and_assoc, forall_const,
        true_and]
      refine and_congr ?_ Iff.rfl
      cases hv : r.params.any (·.kind == .varPos) <;> simp [Nat.not_lt]

/-- **The resolver-signature rule, semantically**: for an inspectable callable (distinct parameter names, as Python
    enforces; distinct python names of the arguments, the keys of one `**arguments` dict) `_validate_resolver_arguments`
    reports nothing exactly when EVERY call the executor can make, `resolver(root, ctx, info, **arguments)` with the
    required and the defaulted arguments and any subset of the others, binds under Python's call-binding rules
    (`bindOk`; compared with CPython by correspondence stream N). -/
theorem resolver_rule_iff_binds (path : String) (args : List ArgD) (r : ResolverD) (hcal : r.callable = true)
    (hins : r.inspectable = true) (hd : ParamsDistinct r.params) (ha : ArgsDistinct args) :
    validateResolverArguments path args r = [] ↔ ∀ K, Admissible args K → bindOk r.params K = true := by
  rw [validateResolverArguments_nil]
  constructor
  · intro h; exact (compatible_iff_binds args r hd ha).mp (h.2 hins)
  · intro h; exact ⟨hcal, fun _ => (compatible_iff_binds args r hd ha).mpr h⟩

private theorem resolverPart_nil (rv : Bool) (path : String) (args : List ArgD) (o : Option ResolverD) :
    resolverPart Config.fixed rv path args o = [] ↔
      ∀ r, o = some r → rv = true → (r.callable = true ∧ (r.inspectable = true → ResolverCompatible args r)) := by
  have := validateResolverArguments_nil path args
  unfold validateResolverArguments at this
  unfold resolverPart
  cases o with
  | none => simp
  | some r => cases rv <;> simp [this]

private theorem resolversOfField_nil (s : SchemaD) (rv : Bool) (t : TypeD) (f : FieldD) :
    resolversOfField Config.fixed s rv t f = [] ↔
      ∀ r, (pickResolver s t f = some r ∨ f.subscriptionResolver = some r) → rv = true →
        (r.callable = true ∧ (r.inspectable = true → ResolverCompatible f.args r)) := by
  unfold resolversOfField
  simp only [List.append_eq_nil_iff, fx6, if_true, resolverPart_nil, or_imp]
  exact forall_and.symm

private theorem fieldBody_nil (s : SchemaD) (rv : Bool) (t : TypeD) (f : FieldD) :
    fieldBody s rv t f = [] ↔ (isOutputType s f.type = true ∧ ArgsOK s f.args ∧ ResolverOK s rv t f) := by
  have ha := validateArguments_nil s .dupArg .argNotInput .argDefault (t.name ++ "." ++ f.name) f.args
  unfold validateArguments at ha
  unfold fieldBody fieldBodyWith ResolverOK
  simp only [List.append_eq_nil_iff, ite_nil_cons_eq_nil, ha, fx7, Bool.or_false, ite_eq_right_iff, beq_iff_eq,
    resolversOfField_nil, and_assoc]
  exact and_congr Iff.rfl (and_congr Iff.rfl ⟨fun h r hr hrv hk => h hk r hr hrv, fun h hk r hr hrv => h r hr hrv hk⟩)

private theorem validateFields_nil (s : SchemaD) (rv : Bool) (t : TypeD) :
    validateFields s rv t = [] ↔ FieldsOK s rv t := by
  have hb := fieldBody_nil s rv t
  unfold fieldBody at hb
  unfold validateFields validateFieldsWith FieldsOK
  simp only [List.append_eq_nil_iff, ifEmpty_nil, keyedLoop_nil FieldD.name _ _ _ _ fx2, checkValidName_nil, hb]

private theorem ifaceArgErr_nil (ip op : String) (objField : FieldD) (a : ArgD) :
    ifaceArgErr ip op objField a = [] ↔ ∃ oa, argMap objField a.name = some oa ∧ a.type = oa.type := by
  unfold ifaceArgErr
  cases argMap objField a.name with
  | none => simp
  | some oa => simp [ite_cons_eq_nil]

private theorem extraArgErr_nil (ip op : String) (f : FieldD) (a : ArgD) :
    extraArgErr ip op f a = [] ↔ (argMap f a.name = none → argRequired a = false) := by
  unfold extraArgErr extraArgErrWith extraArgBlocks
  cases argMap f a.name with
  | none => simp [fx5, ite_cons_eq_nil]
  | some _ => simp

private theorem implFieldErr_nil (s : SchemaD) (t it : TypeD) (f : FieldD) :
    implFieldErr s t it f = [] ↔
      ∃ objField, fieldMap t f.name = some objField ∧ Subtype s objField.type f.type ∧
        (∀ a ∈ f.args, ∃ oa, argMap objField a.name = some oa ∧ a.type = oa.type) ∧
        (∀ a ∈ objField.args, argMap f a.name = none → argRequired a = false) := by
  have he := extraArgErr_nil
  unfold extraArgErr at he
  unfold implFieldErr implFieldErrWith
  cases fieldMap t f.name with
  | none => simp
  | some objField =>
    simp only [fx3, Bool.and_false, Bool.false_eq_true, if_false, List.append_eq_nil_iff, ite_cons_eq_nil,
      Bool.not_eq_true', Bool.not_eq_false, subtype_iff, implArgErrsWith, List.flatMap_eq_nil_iff, ifaceArgErr_nil, he,
      Option.some.injEq, exists_eq_left', and_true]

private theorem validateImplementation_nil (s : SchemaD) (t it : TypeD) :
    validateImplementation s t it = [] ↔ Implements s t it := by
  have h := implFieldErr_nil s t it
  unfold implFieldErr at h
  unfold validateImplementation validateImplementationWith Implements
  simp only [List.flatMap_eq_nil_iff, h]

private theorem validateInterfaces_nil (s : SchemaD) (t : TypeD) :
    validateInterfaces s t = [] ↔ InterfacesOK s t := by
  have hv := validateImplementation_nil s t
  unfold validateImplementation at hv
  unfold validateInterfaces validateInterfacesWith InterfacesOK
  refine (forSeen_nil_iff id _ (fun i => ∃ it, s.findType i = some it ∧ it.kind = .interface ∧ Implements s t it)
    (interfaceStep_keep _ s t) ?_ t.interfaces).trans (by rw [List.map_id])
  intro i dup
  unfold interfaceStepWith
  cases s.findType i with
  | none => simp
  | some it =>
    by_cases hk : it.kind = .interface
    · cases dup <;> simp [hk, hv]
    · simp [hk]

private theorem validateUnionMembers_nil (s : SchemaD) (t : TypeD) :
    validateUnionMembers s t = [] ↔ UnionOK s t := by
  unfold validateUnionMembers UnionOK
  rw [List.append_eq_nil_iff, ifEmpty_nil,
    forSeen_nil_iff id (memberStep s t) (fun m => kindOf s m = some .object) (memberStep_keep s t) ?_ t.members,
    List.map_id]
  intro m dup
  unfold memberStep
  by_cases hk : kindOf s m = some .object
  · cases dup <;> simp [hk]
  · simp [hk]

private theorem validateEnumValues_nil (t : TypeD) : validateEnumValues t = [] ↔ EnumOK t := by
  unfold validateEnumValues validateEnumValuesWith EnumOK
  rw [List.append_eq_nil_iff, ifEmpty_nil]
  simp only [List.flatMap_eq_nil_iff, List.append_eq_nil_iff, checkValidName_nil, fx10, Bool.true_and, ite_cons_eq_nil,
    Bool.not_eq_true, and_true]

/-- the loop over input fields is the argument loop, with its own three rules -/
private theorem validateInputFields_nil (s : SchemaD) (t : TypeD) :
    validateInputFields s t = [] ↔ InputOK s t := by
  have ha := validateArguments_nil s .dupField .inputFieldNotInput .inputFieldDefault t.name t.inputFields
  unfold validateArguments validateArgumentsWith ArgsOK at ha
  unfold validateInputFields validateInputFieldsWith InputOK
  rw [List.append_eq_nil_iff, ifEmpty_nil, ha]

private theorem validateType_nil (s : SchemaD) (rv : Bool) (t : TypeD) :
    validateType s rv t = [] ↔ TypeOK s rv t := by
  have h1 := validateFields_nil s rv t
  have h2 := validateInterfaces_nil s t
  have h3 := validateInputFields_nil s t
  have h4 := validateEnumValues_nil t
  unfold validateFields at h1; unfold validateInterfaces at h2; unfold validateInputFields at h3; unfold validateEnumValues at h4
  unfold validateType validateTypeWith typeNameErr typeBodyWith TypeOK ValidName
  simp only [fx1, Bool.and_false, Bool.false_eq_true, if_false, List.append_eq_nil_iff, ite_nil_cons_eq_nil,
    Bool.or_eq_true]
  refine and_congr Iff.rfl ?_
  cases t.kind <;> simp only [List.append_eq_nil_iff, h1, h2, h3, h4, validateUnionMembers_nil]

private theorem rootErr_nil (s : SchemaD) (r : Rule) (o : Option String) : rootErr s r o = [] ↔ RootOK s o := by
  unfold rootErr RootOK
  cases o with
  | none => simp
  | some n => simp [ite_nil_cons_eq_nil]

private theorem validateRootTypes_nil (s : SchemaD) : validateRootTypes s = [] ↔ RootsOK s := by
  unfold validateRootTypes RootsOK
  simp only [List.append_eq_nil_iff, rootErr_nil, and_assoc]
  refine and_congr ?_ Iff.rfl
  cases s.query <;> simp

private theorem validateDirectives_nil (s : SchemaD) : validateDirectives s = [] ↔ DirectivesOK s := by
  have h := validateArguments_nil s .dirDupArg .dirArgNotInput .dirArgDefault
  unfold validateArguments at h
  unfold validateDirectives validateDirectivesWith DirectivesOK
  simp only [List.flatMap_eq_nil_iff, List.append_eq_nil_iff, checkValidName_nil, h]

/-- **Verdict.** The validator reports no error exactly on the schemas that satisfy every implemented
    type-system rule (`ValidSchema`: names, non-empty types, unique members, input/output positions,
    interface implementation with covariant field types and compatible arguments, union members and
    root types being object types, resolver signatures compatible with the field arguments). -/
theorem validate_iff (s : SchemaD) (rv : Bool) : validate s rv = [] ↔ ValidSchema s rv := by
  have h1 := validateType_nil s rv
  have h2 := validateDirectives_nil s
  unfold validateType at h1; unfold validateDirectives at h2
  rw [validate_eq]
  unfold validateFixed validateWith ValidSchema
  simp only [List.append_eq_nil_iff, List.flatMap_eq_nil_iff, validateRootTypes_nil, h1, h2, and_assoc]

/-- `validate_schema(schema)` returns (does not raise) iff the schema is valid -/
theorem accepts_iff (s : SchemaD) : accepts s = true ↔ ValidSchema s true := by
  unfold accepts
  rw [List.isEmpty_iff]
  exact validate_iff s true

instance (s : SchemaD) (rv : Bool) : Decidable (ValidSchema s rv) := decidable_of_iff _ (validate_iff s rv)

/-- cached-valid ⇒ the current schema is valid -/
def CacheInv (st : CacheState) : Prop := st.isValid = true → ValidSchema st.schema true

def isResolverOp : Op → Bool
  | .replaceTypes _ _ _ => false
  | .assignStructure _ _ => false
  | _ => true

private theorem CacheInv.ite {c : Prop} [Decidable c] {a b : CacheState × Outcome} (ha : CacheInv a.1) (hb : CacheInv b.1) :
    CacheInv (if c then a else b).1 := by
  split <;> assumption

private theorem CacheInv.reset {st : CacheState} (h : st.isValid = false) : CacheInv st :=
  fun hv => by rw [h] at hv; cases hv

private theorem registerDefault_inv (st : CacheState) (tn : String) (r : ResolverD) (allow : Bool)
    (h : CacheInv st) : CacheInv (registerDefault st tn r allow).1 := by
  unfold registerDefault
  refine .ite h ?_
  cases st.schema.findType tn with
  | none => exact h
  | some t => exact .ite h (.ite h (.reset rfl))

private theorem step_inv_resolver (st : CacheState) (op : Op) (hop : isResolverOp op = true)
    (h : CacheInv st) : CacheInv (step st op).1 := by
  cases op with
  | validate =>
    simp only [step]
    refine .ite h ?_
    split
    · exact fun _ => (validate_iff _ _).1 (List.isEmpty_iff.1 ‹_›)
    · exact h
  | registerDefaultResolver tn r allow => exact registerDefault_inv st tn r allow h
  | registerResolver tn fn r allow same =>
    simp only [step]
    refine .ite ?_ (.ite h ?_)
    · have := registerDefault_inv st tn r false h
      split <;> exact this
    · cases st.schema.findType tn with
      | none => exact h
      | some t =>
        refine .ite h ?_
        cases fieldMap t fn with
        | none => exact h
        | some f => exact .ite h (.reset rfl)
  | registerSubscription tn fn r allow same =>
    simp only [step]
    refine .ite h ?_
    cases st.schema.findType tn with
    | none => exact h
    | some t =>
      refine .ite h ?_
      cases fieldMap t fn with
      | none => exact h
      | some f => exact .ite h (.reset rfl)
  | assignResolver lvl tn fn r same =>
    simp only [step]
    exact .ite h (.reset (by simp [show cfgCacheTracksAssignments = true by decide]))
  | assignArguments tn fn args =>
    simp only [step]
    exact .reset (by simp [show cfgCacheTracksArguments = true by decide])
  | replaceTypes es ds hl => simp [isResolverOp] at hop
  | assignStructure s' seen => simp [isResolverOp] at hop
/-- **Cache soundness (the statement: the verdict is recomputed after resolvers are reassigned).**
    In every state reachable by `validate()`, `register_resolver`, `register_default_resolver`,
    `register_subscription` calls (successful or raising), in any order and number, a cached
    verdict `_is_valid = True` implies that the CURRENT schema is valid. -/
theorem cache_sound (st : CacheState) (h : CacheInv st) (ops : List Op)
    (hops : ∀ op ∈ ops, isResolverOp op = true) : CacheInv (run st ops) := by
  induction ops generalizing st with
  | nil => exact h
  | cons op ops ih =>
    simp only [run]
    exact ih _ (step_inv_resolver st op (hops op (List.mem_cons_self ..)) h)
      (fun o ho => hops o (List.mem_cons_of_mem _ ho))

/-- consequence: whenever `validate()` returns normally after such a history, the schema is valid -/
theorem validate_ok_means_valid (st : CacheState) (h : CacheInv st) (ops : List Op)
    (hops : ∀ op ∈ ops, isResolverOp op = true)
    (hok : (step (run st ops) .validate).2 = .ok) : ValidSchema (run st ops).schema true := by
  have hinv := cache_sound st h ops hops
  simp only [step] at hok
  split at hok
  · rename_i hv; exact hinv hv
  · split at hok
    · rename_i hv; exact (validate_iff _ _).1 (List.isEmpty_iff.1 hv)
    · simp at hok

/-- a fresh schema object (`_is_valid = None`) satisfies the invariant -/
theorem cacheInv_init (s : SchemaD) : CacheInv { schema := s } := by
  intro h; simp at h

/-- the T3 fix is in the tree: `busted_cache = busted_cache or …` -/
private theorem replace_accumulates : replaceAccumulates = true := by decide
/-- fix C13-T3b is in the tree: refusals happen before the first mutation -/
private theorem replace_atomic : replaceAtomic = true := by decide
/-- fix C13-T3b is in the tree: replaced directives bust the caches (flag checks like this one are `private`: they are
    not property theorems; a tree without the fix makes the `decide` fail and the module is reported as not building) -/
private theorem replace_directives_bust : replaceDirectivesBust = true := by decide

/-- well-formed request (a Python dict keyed by the name of the new object) with honest identity flags:
    `same = true` means the new object IS what is registered under that name. -/
def HonestTypeEntries (types : List TypeD) (es : List (String × Option TypeD × Bool)) : Prop :=
  (es.map (·.1)).Nodup ∧
  ∀ e ∈ es, (∀ new, e.2.1 = some new → new.name = e.1) ∧
    (e.2.2 = true → ∀ t ∈ types, (t.name == e.1) = true → e.2.1 = some t)

def HonestDirEntries (dirs : List DirectiveD) (es : List (String × Option DirectiveD × Bool)) : Prop :=
  (es.map (·.1)).Nodup ∧
  ∀ e ∈ es, (∀ new, e.2.1 = some new → new.name = e.1) ∧
    (e.2.2 = true →
      match e.2.1 with
      | none => ∀ d ∈ dirs, (d.name == e.1) = false
      | some new => dirs.any (·.name == e.1) = true ∧ ∀ d ∈ dirs, (d.name == e.1) = true → d = new)

def HonestOp (st : CacheState) : Op → Prop
  | .replaceTypes es ds _ => HonestTypeEntries st.schema.types es ∧ HonestDirEntries st.schema.directives ds
  /- with fix C13-S12 (in /repo: `cfgCacheTracksStructure = true`) every structural plain assignment keeps the invariant.
     Before it: only when `validate()` can see it (`seen`), or when it is made before any verdict was cached; the other
     case is `cache_unsound_unseen_structural_setter` -/
  | .assignStructure _ seen => cfgCacheTracksStructure = true ∨ seen = true ∨ st.isValid = false
  | _ => True

private theorem map_replace_id {α} (name : α → String) (xs : List α) (n : String) (new : α)
    (h : ∀ t ∈ xs, (name t == n) = true → t = new) :
    xs.map (fun t => if name t == n then new else t) = xs := by
  induction xs with
  | nil => rfl
  | cons t ts ih =>
    simp only [List.map_cons]
    rw [ih (fun u hu => h u (List.mem_cons_of_mem _ hu))]
    by_cases hn : (name t == n) = true
    · rw [if_pos hn, h t (List.mem_cons_self ..) hn]
    · rw [if_neg hn]

private theorem find_filter_ne {α} (name : α → String) (xs : List α) (n m : String) (hne : m ≠ n) :
    (xs.filter fun t => !(name t == n)).find? (fun t => name t == m) = xs.find? (fun t => name t == m) := by
  rw [List.find?_filter]
  congr 1; funext t
  by_cases h : name t = m <;> simp [h, hne]

private theorem replace_name_beq {α} (name : α → String) (n m : String) (new : α) (hnew : name new = n) (t : α) :
    (name (if name t == n then new else t) == m) = (name t == m) := by
  by_cases h : name t = n <;> simp [h, hnew]

private theorem find_map_ne {α} (name : α → String) (xs : List α) (n m : String) (new : α)
    (hnew : name new = n) (hne : m ≠ n) :
    (xs.map fun t => if name t == n then new else t).find? (fun t => name t == m)
      = xs.find? (fun t => name t == m) := by
  induction xs with
  | nil => rfl
  | cons t ts ih =>
    simp only [List.map_cons, List.find?_cons, replace_name_beq name n m new hnew, ih]
    cases hb : (name t == m) with
    | false => rfl
    | true =>
      have : (name t == n) = false := by simpa [beq_iff_eq.mp hb] using hne
      simp only [this, Bool.false_eq_true, if_false]

private theorem honestTypes_tail {types types' : List TypeD} {e : String × Option TypeD × Bool}
    {es : List (String × Option TypeD × Bool)} (h : HonestTypeEntries types (e :: es))
    (hsub : ∀ t ∈ types', ∀ e' ∈ es, (t.name == e'.1) = true → t ∈ types) :
    HonestTypeEntries types' es := by
  obtain ⟨hnd, hall⟩ := h
  simp only [List.map_cons, List.nodup_cons] at hnd
  refine ⟨hnd.2, fun e' he' => ⟨(hall e' (List.mem_cons_of_mem _ he')).1, fun hs t ht hn => ?_⟩⟩
  exact (hall e' (List.mem_cons_of_mem _ he')).2 hs t (hsub t ht e' he' hn) hn

private theorem precheckTypes_congr (types types' : List TypeD) (es : List (String × Option TypeD × Bool))
    (h : ∀ e ∈ es, types'.find? (·.name == e.1) = types.find? (·.name == e.1)) :
    precheckTypes types' es = precheckTypes types es := by
  unfold precheckTypes
  induction es with
  | nil => rfl
  | cons e es ih =>
    simp only [List.any_cons]
    rw [h e (List.mem_cons_self ..), ih (fun e' he' => h e' (List.mem_cons_of_mem _ he'))]

/-- with the pre-check passed and accumulation, the type loop never raises, and a final
    `busted_cache = False` means nothing was replaced -/
private theorem applyReplace_spec : ∀ (es : List (String × Option TypeD × Bool)) (types : List TypeD) (b : Bool),
    HonestTypeEntries types es → precheckTypes types es = false →
    (applyReplace true types b es).2.2 = false ∧
      ((applyReplace true types b es).2.1 = false → b = false ∧ (applyReplace true types b es).1 = types) := by
  -- induction over the entries, for every list of types and flag: with accumulation an entry with `same = false` sets the flag
  -- for good, so a final `false` gives `same = true` at this entry, and an honest `same` entry puts back what is there;
  -- the pre-check and the honesty of the remaining entries survive the replacement because their names differ from this one
  intro es
  induction es with
  | nil => intro types b _ _; simp [applyReplace]
  | cons e es ih =>
    intro types b hh hp
    obtain ⟨n, new?, same⟩ := e
    have hp' : precheckTypes types es = false := by
      unfold precheckTypes at hp ⊢; simp only [List.any_cons, Bool.or_eq_false_iff] at hp; exact hp.2
    have hp0 := hp
    unfold precheckTypes at hp0
    simp only [List.any_cons, Bool.or_eq_false_iff] at hp0
    have hhead := hp0.1
    have hnd := hh.1
    simp only [List.map_cons, List.nodup_cons] at hnd
    have hne : ∀ e' ∈ es, e'.1 ≠ n := fun e' he' heq => hnd.1 (List.mem_map.2 ⟨e', he', heq⟩)
    simp only [applyReplace]
    cases hf : types.find? (·.name == n) with
    | none =>
      simp only []
      exact ih types b (honestTypes_tail hh (fun t ht _ _ _ => ht)) hp'
    | some orig =>
      rw [hf] at hhead
      simp only [Bool.or_eq_false_iff] at hhead
      simp only [hhead.1, Bool.false_eq_true, if_false, Bool.true_and]
      have horig : orig ∈ types ∧ (orig.name == n) = true := by
        have := List.find?_some hf
        exact ⟨List.mem_of_find?_eq_some hf, this⟩
      cases new? with
      | none =>
        simp only []
        have hh' : HonestTypeEntries (types.filter fun t => !(t.name == n)) es :=
          honestTypes_tail hh (fun t ht _ _ _ => (List.mem_filter.1 ht).1)
        have hp'' : precheckTypes (types.filter fun t => !(t.name == n)) es = false := by
          rw [precheckTypes_congr _ _ _ (fun e' he' => find_filter_ne TypeD.name types n e'.1 (hne e' he'))]; exact hp'
        obtain ⟨h1, h2⟩ := ih _ (b || !same) hh' hp''
        refine ⟨h1, fun hb => ?_⟩
        obtain ⟨hb', _⟩ := h2 hb
        simp only [Bool.or_eq_false_iff, Bool.not_eq_false'] at hb'
        have := (hh.2 (n, none, same) (List.mem_cons_self ..)).2 hb'.2 orig horig.1 horig.2
        simp at this
      | some new =>
        simp only [] at hhead ⊢
        have hk : (orig.kind != new.kind) = false := hhead.2
        simp only [hk, Bool.false_eq_true, if_false]
        have hnn : new.name = n := (hh.2 (n, some new, same) (List.mem_cons_self ..)).1 new rfl
        have hh' : HonestTypeEntries (types.map fun t => if t.name == n then new else t) es := by
          refine honestTypes_tail hh (fun t ht e' he' hn => ?_)
          obtain ⟨u, hu, rfl⟩ := List.mem_map.1 ht
          by_cases hun : (u.name == n) = true
          · simp only [hun, if_true] at hn
            have : e'.1 = n := by rw [← hnn]; exact (by simpa using hn : new.name = e'.1).symm
            exact absurd this (hne e' he')
          · simp only [hun, if_false]; exact hu
        have hp'' : precheckTypes (types.map fun t => if t.name == n then new else t) es = false := by
          rw [precheckTypes_congr _ _ _ (fun e' he' => find_map_ne TypeD.name types n e'.1 new hnn (hne e' he'))]; exact hp'
        obtain ⟨h1, h2⟩ := ih _ (b || !same) hh' hp''
        refine ⟨h1, fun hb => ?_⟩
        obtain ⟨hb', ht⟩ := h2 hb
        simp only [Bool.or_eq_false_iff, Bool.not_eq_false'] at hb'
        refine ⟨hb'.1, ?_⟩
        rw [ht]
        refine map_replace_id TypeD.name types n new (fun t htm hn => ?_)
        have := (hh.2 (n, some new, same) (List.mem_cons_self ..)).2 hb'.2 t htm hn
        exact (Option.some.inj this).symm

private theorem any_filter_ne {α} (name : α → String) (xs : List α) (n m : String) (hne : m ≠ n) :
    (xs.filter fun d => !(name d == n)).any (name · == m) = xs.any (name · == m) := by
  rw [List.any_filter]
  congr 1; funext t
  by_cases h : name t = m <;> simp [h, hne]

private theorem any_map_ne {α} (name : α → String) (xs : List α) (n m : String) (new : α) (hnew : name new = n) :
    (xs.map fun d => if name d == n then new else d).any (name · == m) = xs.any (name · == m) := by
  rw [List.any_map]
  congr 1; funext t
  exact replace_name_beq name n m new hnew t

private theorem honestDirs_tail {dirs dirs' : List DirectiveD} {e : String × Option DirectiveD × Bool}
    {es : List (String × Option DirectiveD × Bool)} (h : HonestDirEntries dirs (e :: es))
    (hsub : ∀ d ∈ dirs', ∀ e' ∈ es, (d.name == e'.1) = true → d ∈ dirs)
    (hany : ∀ e' ∈ es, dirs'.any (·.name == e'.1) = dirs.any (·.name == e'.1)) :
    HonestDirEntries dirs' es := by
  obtain ⟨hnd, hall⟩ := h
  simp only [List.map_cons, List.nodup_cons] at hnd
  refine ⟨hnd.2, fun e' he' => ⟨(hall e' (List.mem_cons_of_mem _ he')).1, fun hs => ?_⟩⟩
  have := (hall e' (List.mem_cons_of_mem _ he')).2 hs
  obtain ⟨m, new?, sm⟩ := e'
  cases new? with
  | none =>
    simp only [] at this ⊢
    intro d hd
    cases hdn : (d.name == m) with
    | false => rfl
    | true => exact absurd (this d (hsub d hd _ he' hdn)) (by simp [hdn])
  | some new =>
    simp only [] at this ⊢
    refine ⟨by rw [hany _ he']; exact this.1, fun d hd hn => this.2 d (hsub d hd _ he' hn) hn⟩

private theorem precheckDirs_congr (dirs dirs' : List DirectiveD) (es : List (String × Option DirectiveD × Bool))
    (h : ∀ e ∈ es, dirs'.any (·.name == e.1) = dirs.any (·.name == e.1)) :
    precheckDirectives dirs' es = precheckDirectives dirs es := by
  unfold precheckDirectives
  induction es with
  | nil => rfl
  | cons e es ih =>
    simp only [List.any_cons]
    rw [h e (List.mem_cons_self ..), ih (fun e' he' => h e' (List.mem_cons_of_mem _ he'))]

private theorem applyDirReplace_spec : ∀ (es : List (String × Option DirectiveD × Bool)) (dirs : List DirectiveD) (b : Bool),
    HonestDirEntries dirs es → precheckDirectives dirs es = false →
    (applyDirReplace true dirs b es).2.2 = false ∧
      ((applyDirReplace true dirs b es).2.1 = false → b = false ∧ (applyDirReplace true dirs b es).1 = dirs) := by
  -- as `applyReplace_spec`, with `any` in place of `find?`; a directive that is not there yet is appended, which an
  -- honest `same` entry excludes
  intro es
  induction es with
  | nil => intro dirs b _ _; simp [applyDirReplace]
  | cons e es ih =>
    intro dirs b hh hp
    obtain ⟨n, new?, same⟩ := e
    have hp0 := hp
    unfold precheckDirectives at hp0
    simp only [List.any_cons, Bool.or_eq_false_iff] at hp0
    have hp' : precheckDirectives dirs es = false := by unfold precheckDirectives; exact hp0.2
    have hhead := hp0.1
    have hnd := hh.1
    simp only [List.map_cons, List.nodup_cons] at hnd
    have hne : ∀ e' ∈ es, e'.1 ≠ n := fun e' he' heq => hnd.1 (List.mem_map.2 ⟨e', he', heq⟩)
    simp only [applyDirReplace, hhead, Bool.false_eq_true, if_false, Bool.true_and]
    cases new? with
    | none =>
      simp only []
      have hany : ∀ e' ∈ es, (dirs.filter fun d => !(d.name == n)).any (·.name == e'.1) = dirs.any (·.name == e'.1) :=
        fun e' he' => any_filter_ne DirectiveD.name dirs n e'.1 (hne e' he')
      have hh' := honestDirs_tail hh (dirs' := dirs.filter fun d => !(d.name == n))
        (fun d hd _ _ _ => (List.mem_filter.1 hd).1) hany
      obtain ⟨h1, h2⟩ := ih _ (b || !same) hh' (by rw [precheckDirs_congr _ _ _ hany]; exact hp')
      refine ⟨h1, fun hb => ?_⟩
      obtain ⟨hb', hd⟩ := h2 hb
      simp only [Bool.or_eq_false_iff, Bool.not_eq_false'] at hb'
      refine ⟨hb'.1, ?_⟩
      rw [hd]
      have := (hh.2 (n, none, same) (List.mem_cons_self ..)).2 hb'.2
      simp only [] at this
      exact List.filter_eq_self.2 (fun d hd => by simp [this d hd])
    | some new =>
      simp only []
      have hnn : new.name = n := (hh.2 (n, some new, same) (List.mem_cons_self ..)).1 new rfl
      have hnm : ∀ e' ∈ es, (new.name == e'.1) = false := fun e' he' => by
        simp [hnn, Ne.symm (hne e' he')]
      have hany : ∀ e' ∈ es,
          (if dirs.any (·.name == n) then dirs.map (fun d => if d.name == n then new else d) else dirs ++ [new]).any
            (·.name == e'.1) = dirs.any (·.name == e'.1) := by
        intro e' he'
        split
        · exact any_map_ne DirectiveD.name dirs n e'.1 new hnn
        · simp [List.any_append, hnm e' he']
      have hsub : ∀ d ∈ (if dirs.any (·.name == n) then dirs.map (fun d => if d.name == n then new else d) else dirs ++ [new]),
          ∀ e' ∈ es, (d.name == e'.1) = true → d ∈ dirs := by
        intro d hd e' he' hn
        split at hd
        · obtain ⟨u, hu, rfl⟩ := List.mem_map.1 hd
          by_cases hun : (u.name == n) = true
          · simp only [hun, if_true] at hn; rw [hnm e' he'] at hn; exact absurd hn (by simp)
          · simp only [hun, if_false]; exact hu
        · rcases List.mem_append.1 hd with hd | hd
          · exact hd
          · have : d = new := by simpa using hd
            subst this; rw [hnm e' he'] at hn; exact absurd hn (by simp)
      have hh' := honestDirs_tail hh hsub hany
      obtain ⟨h1, h2⟩ := ih _ (b || !same) hh' (by rw [precheckDirs_congr _ _ _ hany]; exact hp')
      refine ⟨h1, fun hb => ?_⟩
      obtain ⟨hb', hd⟩ := h2 hb
      simp only [Bool.or_eq_false_iff, Bool.not_eq_false'] at hb'
      refine ⟨hb'.1, ?_⟩
      rw [hd]
      have := (hh.2 (n, some new, same) (List.mem_cons_self ..)).2 hb'.2
      simp only [] at this
      rw [if_pos this.1]
      exact map_replace_id DirectiveD.name dirs n new this.2

private theorem relook_id (s : SchemaD) (r : Option String) (h : RootOK s r) : relookRoot s.types r = r := by
  cases r with
  | none => rfl
  | some n =>
    have hk := h n rfl
    unfold kindOf SchemaD.findType at hk
    cases hf : s.types.find? (·.name == n) with
    | none => rw [hf] at hk; simp at hk
    | some t =>
      have hm := List.mem_of_find?_eq_some hf
      have hn := List.find?_some hf
      have : s.types.any (·.name == n) = true := List.any_eq_true.2 ⟨t, hm, hn⟩
      simp only [relookRoot, Option.bind, this, if_true]

private theorem replaced_id (s : SchemaD) (h : ValidSchema s true) : replaced s s.types s.directives = s := by
  obtain ⟨⟨_, hq, hm, hs⟩, _, _⟩ := h
  unfold replaced
  rw [relook_id s _ hq, relook_id s _ hm, relook_id s _ hs]

/-- one `_replace_types_and_directives` call (any number of type and directive entries, deletions
    included, refused or not) keeps the invariant -/
private theorem replace_inv (st : CacheState) (es : List (String × Option TypeD × Bool))
    (ds : List (String × Option DirectiveD × Bool)) (hl : Option SchemaD)
    (hh : HonestTypeEntries st.schema.types es ∧ HonestDirEntries st.schema.directives ds)
    (h : CacheInv st) : CacheInv (replaceStep true true true st es ds hl).1 := by
  unfold replaceStep
  simp only [Bool.true_and]
  cases hpt : precheckTypes st.schema.types es with
  | true => simpa using h
  | false =>
    cases hpd : precheckDirectives st.schema.directives ds with
    | true => simpa using h
    | false =>
      simp only [Bool.or_self, Bool.false_eq_true, if_false]
      obtain ⟨t1, t2⟩ := applyReplace_spec es st.schema.types false hh.1 hpt
      generalize applyReplace true st.schema.types false es = r at t1 t2
      obtain ⟨types, busted, raised⟩ := r
      simp only at t1 t2
      subst t1
      simp only []
      have hhd : HonestDirEntries st.schema.directives ds := hh.2
      obtain ⟨d1, d2⟩ := applyDirReplace_spec ds st.schema.directives busted hhd hpd
      generalize applyDirReplace true st.schema.directives busted ds = r2 at d1 d2
      obtain ⟨dirs, busted2, raised2⟩ := r2
      simp only at d1 d2
      subst d1
      simp only []
      cases busted2 with
      | true => intro hv; simp at hv
      | false =>
        obtain ⟨hb, hdirs⟩ := d2 rfl
        obtain ⟨_, htypes⟩ := t2 hb
        subst hdirs htypes
        simp only [Bool.false_eq_true, if_false]
        intro hv
        have hvs := h hv
        show ValidSchema (replaced st.schema st.schema.types st.schema.directives) true
        rw [replaced_id _ hvs]; exact hvs

/-- every operation of the machine keeps the invariant (the replace requests being honest about identity) -/
theorem step_inv (st : CacheState) (op : Op) (hh : HonestOp st op) (h : CacheInv st) : CacheInv (step st op).1 := by
  cases op with
  | replaceTypes es ds hl =>
    simp only [step, replace_accumulates, replace_atomic, replace_directives_bust]
    exact replace_inv st es ds hl hh h
  | validate => exact step_inv_resolver st _ rfl h
  | registerDefaultResolver tn r a => exact step_inv_resolver st _ rfl h
  | registerResolver tn fn r a sm => exact step_inv_resolver st _ rfl h
  | registerSubscription tn fn r a sm => exact step_inv_resolver st _ rfl h
  | assignResolver lvl tn fn r sm => exact step_inv_resolver st _ rfl h
  | assignArguments tn fn args => exact step_inv_resolver st _ rfl h
  | assignStructure s' seen =>
    simp only [step, assignStructureStep]
    intro hv
    rcases hh with hs | hs | hs
    · rw [hs] at hv; simp at hv
    · rw [hs] at hv; simp at hv
    · rw [hs] at hv; simp at hv

/-- every replace request met along the history is honest about object identity -/
def HonestRun : CacheState → List Op → Prop
  | _, [] => True
  | st, op :: ops => HonestOp st op ∧ HonestRun (step st op).1 ops

/-- **Cache soundness, all operations** (FULL: `validate`, the three `register_*`, and
    `_replace_types_and_directives` with any number of type / directive entries, replacements and
    deletions, successful or refused): in every reachable state a cached verdict implies that the
    CURRENT schema is valid. Rests on `replace_accumulates`, `replace_atomic`,
    `replace_directives_bust` — the shape of the function as extracted from the source on this run. -/
theorem cache_sound_all (st : CacheState) (h : CacheInv st) (ops : List Op) (hh : HonestRun st ops) :
    CacheInv (run st ops) := by
  induction ops generalizing st with
  | nil => exact h
  | cons op ops ih => exact ih _ (step_inv st op hh.1 h) hh.2

/-- fix C13-HH1 is in the tree: the cached verdict stands only for the resolver callables it was computed with
    (so `cache_sound` / `cache_sound_all` cover PLAIN ASSIGNMENT of resolvers at the schema, type and field level) -/
private theorem cache_tracks_assignments : cfgCacheTracksAssignments = true := by decide
/-- fix C13-HH2 is in the tree: the signature that is validated is the one of the callable the executor calls -/
private theorem signature_of_the_callable : cfgOuterSignature = true := by decide
/-- fix C13-HHH3 is in the tree: the cached verdict also stands for the arguments of every field (plain assignment
    `field.arguments = [...]` makes `validate()` recompute). Types, names and members edited in place are NOT tracked:
    the statement speaks of registering / reassigning resolvers (see ASSUMPTIONS). -/
private theorem cache_tracks_arguments : cfgCacheTracksArguments = true := by decide

/-! #### the legacy variants of `_replace_types_and_directives` (code that no longer exists) -/

private def wQuery : TypeD := { kind := .object, name := "Query", fields := [{ name := "a", type := .named "Int" }] }
private def wA : TypeD := { kind := .object, name := "A", fields := [{ name := "a", type := .named "Int" }] }
private def wI : TypeD := { kind := .interface, name := "A", fields := [{ name := "a", type := .named "Int" }] }
private def wInt : TypeD := { kind := .scalar, name := "Int", builtin := true }
private def wSchema : SchemaD := { types := [wInt, wQuery, wA] }
private def wState : CacheState := { schema := wSchema, isValid := true }

private theorem wState_inv : CacheInv wState := fun _ => (validate_iff _ _).1 (by decide +kernel)

/-- LEGACY (before the T3 fix, `busted_cache` overwritten by every entry): `{A: <A without fields>,
    Query: <same object>}` kept `_is_valid = True` on an invalid schema. -/
theorem legacy_overwrite_unsound :
    ¬ CacheInv (replaceStep false false false wState
        [("A", some { wA with fields := [] }, false), ("Query", some wQuery, true)] [] none).1 := by
  intro h
  have := h (by decide)
  rw [← validate_iff] at this
  exact absurd this (by decide +kernel)

/-- LEGACY (before fix C13-T3b, refusals raised half way): `{A: <A without fields>, Query: <an interface>}`
    raised `SchemaError` after `A` had been replaced, keeping `_is_valid = True`. -/
theorem legacy_nonatomic_unsound :
    ¬ CacheInv (replaceStep true false false wState
        [("A", some { wA with fields := [] }, false), ("Query", some { wQuery with kind := .interface }, false)] [] none).1 := by
  intro h
  have := h (by decide)
  rw [← validate_iff] at this
  exact absurd this (by decide +kernel)

/-- LEGACY (before fix C13-T3b): a replaced directive never reset the verdict. -/
theorem legacy_directive_unsound :
    ¬ CacheInv (replaceStep true true false { wState with schema := { wSchema with directives := [{ name := "d", locations := ["FIELD"] }] } }
        [] [("d", some { name := "d", locations := ["FIELD"], args := [{ name := "__x", type := .named "Int" }] }, false)] none).1 := by
  intro h
  have := h (by decide)
  rw [← validate_iff] at this
  exact absurd this (by decide +kernel)

/-- a structural plain assignment that `validate()` can see (it changes `_current_resolvers()`) resets the verdict,
    whatever it does to the schema -/
theorem structural_setter_seen_sound (st : CacheState) (s' : SchemaD) :
    CacheInv (step st (.assignStructure s' true)).1 := by
  simp only [step, assignStructureStep]; intro hv; simp at hv

/-- **cache soundness over EVERY public mutator**: replace requests honest about identity, everything else
    unrestricted - structural plain assignments included, seen by the probe or not -/
def CacheSoundAllMutators : Prop :=
  ∀ (st : CacheState), CacheInv st → ∀ op : Op,
    (∀ es ds hl, op = .replaceTypes es ds hl → HonestOp st op) → CacheInv (step st op).1

/- `cache_sound_all_mutators` (FULL since fix C13-S12) is in Props/C13_s12.lean: it needs the flag
   `cfgCacheTracksStructure` to be `true`, i.e. fix C13-S12 (in /repo) in the tree. -/

private def wSchemaBad : SchemaD := { types := [wInt, wQuery, { wA with interfaces := ["Query"] }] }

/-- the machine of the tree BEFORE fix C13-S12: the verdict is reset only by the assignments the comparison sees -/
def stepBeforeS12 (st : CacheState) : Op → CacheState × Outcome
  | .assignStructure s' seen => assignStructureStep false st s' seen
  | op => step st op

def CacheSoundAllMutatorsBeforeS12 : Prop :=
  ∀ (st : CacheState), CacheInv st → ∀ op : Op,
    (∀ es ds hl, op = .replaceTypes es ds hl → HonestOp st op) → CacheInv (stepBeforeS12 st op).1

/-- **Refutation, LEGACY (the tree before fix C13-S12).** After `validate()`, `schema.types["A"].interfaces = [Query]`
    (an object type "implementing" an object type; equally `field.type = <input type>`, `union.types = []`,
    `input_type.fields = []`, `input_field.type = <object type>`, `type.name = "__T"`,
    `schema.query_type = <interface>`): no resolver, no argument object and no count changed, `_current_resolvers()`
    was the same tuple, and `validate()` kept returning although the schema was invalid. Outside the property's
    statement ("recomputed after resolvers are reassigned"); repaired by fix C13-S12 (in /repo). -/
theorem cache_unsound_unseen_structural_setter :
    CacheInv wState ∧ wState.isValid = true ∧
      ¬ CacheInv (stepBeforeS12 wState (.assignStructure wSchemaBad false)).1 := by
  refine ⟨wState_inv, rfl, ?_⟩
  intro h
  have := h (by decide)
  rw [← validate_iff] at this
  exact absurd this (by decide +kernel)

/-- the statement over every mutator fails on the tree BEFORE fix C13-S12 (`stepBeforeS12`; that tree is the "today" of the name) -/
theorem cache_sound_all_mutators_fails_today : ¬ CacheSoundAllMutatorsBeforeS12 := by
  intro h
  exact cache_unsound_unseen_structural_setter.2.2
    (h wState wState_inv (.assignStructure wSchemaBad false) (fun es ds hl e => by cases e))

example : HonestRun wState [.assignStructure wSchemaBad true, .validate]
    ∧ runTrace wState [.assignStructure wSchemaBad true, .validate] = [.ok, .validationError] := by
  refine ⟨⟨Or.inr (Or.inl rfl), trivial, trivial⟩, by decide +kernel⟩

/-- **Never stops at the first error (top level).** Every error of the root-type check, of EVERY type of
    the schema and of the directive check is part of the report, whatever else is wrong.
    (The element-level statement is `violation_iff` in `Props/C13_report.lean`.) -/
theorem reports_all (s : SchemaD) (rv : Bool) :
    (∀ e ∈ validateRootTypes s, e ∈ validate s rv) ∧
    (∀ t ∈ s.types, ∀ e ∈ validateType s rv t, e ∈ validate s rv) ∧
    (∀ e ∈ validateDirectives s, e ∈ validate s rv) := by
  rw [validate_eq]
  unfold validateFixed validateWith
  refine ⟨?_, ?_, ?_⟩
  · intro e he; simp [he]
  · intro t ht e he
    simp only [List.mem_append, List.mem_flatMap]
    exact Or.inl (Or.inr ⟨t, ht, he⟩)
  · intro e he; simp only [List.mem_append]; exact Or.inr he

/-- the pattern is anchored with `\Z` (fix S7): no trailing-newline loophole -/
private theorem name_anchor_strict : nameDollarQuirk = false := by decide

-- the extracted classes list `a-z` before `A-Z`: the two sides differ by the order of two alternatives
private theorem nameStart_spec (c : Nat) : nameStart c = true ↔ (c = 95 ∨ isLetter c = true) := by
  simp only [nameStart, isLetter, Bool.or_eq_true, Bool.and_eq_true, beq_iff_eq, decide_eq_true_eq, or_assoc]
  exact or_congr Iff.rfl or_comm

private theorem nameCont_spec (c : Nat) : nameCont c = true ↔ (c = 95 ∨ isLetter c = true ∨ isDigit c = true) := by
  simp only [nameCont, isLetter, isDigit, Bool.or_eq_true, Bool.and_eq_true, beq_iff_eq, decide_eq_true_eq, or_assoc]
  exact or_congr Iff.rfl or_left_comm

/-- **Names.** `VALID_NAME_RE` (character classes extracted from the source) accepts exactly the
    grammar's `Name`s that do not start with two underscores. -/
theorem name_iff (cs : List Nat) : matchName cs = true ↔ NameOK cs := by
  unfold matchName NameOK
  have hq : nameForbiddenPrefix = [95, 95] := by decide
  rw [hq]
  cases cs with
  | nil => simp
  | cons c rest =>
    simp only [name_anchor_strict, Bool.false_and, Bool.false_eq_true, if_false, Bool.and_eq_true,
      Bool.not_eq_true', List.all_eq_true, nameStart_spec, nameCont_spec]
    constructor
    · rintro ⟨hp, hs, hc⟩
      refine ⟨⟨c, rest, rfl, hs, hc⟩, ?_⟩
      intro hpre
      have : List.isPrefixOf [95, 95] (c :: rest) = true := List.isPrefixOf_iff_prefix.2 hpre
      rw [this] at hp; exact absurd hp (by simp)
    · rintro ⟨⟨c', rest', heq, hs, hc⟩, hp⟩
      cases heq
      refine ⟨?_, hs, hc⟩
      cases hpre : List.isPrefixOf [95, 95] (c :: rest) with
      | false => rfl
      | true => exact absurd (List.isPrefixOf_iff_prefix.1 hpre) hp

/-- every call site the model can produce is an `add_error` call site found in the source today -/
theorem model_rules_extracted :
    (Rule.all.all fun r => (ruleFormats.map (·.1)).contains r.id) = true := by decide +kernel

/-- fix C13-S4-S6 is in the tree the theorems are checked against -/
private theorem fix_present : fixS4S6 = true := by decide

/-! ### defect S4 (before the fix) and non-vacuity -/

private def exInt : TypeD := { kind := .scalar, name := "Int", builtin := true }
/-- `type A{a:Int} type Query implements A{a:Int}` -/
private def exS4 : SchemaD :=
  { types := [exInt,
      { kind := .object, name := "A", fields := [{ name := "a", type := .named "Int" }] },
      { kind := .object, name := "Query", interfaces := ["A"], fields := [{ name := "a", type := .named "Int" }] }] }

/-- S4 (fixed behaviour): implementing a non-interface is rejected, with its own rule -/
theorem s4_rejected : validate exS4 true = [⟨.notInterface, ["Query", "A"]⟩] := by decide +kernel

private def exRes : ResolverD :=
  { params := [{ name := "root" }, { name := "ctx" }, { name := "info" }, { name := "x", hasDefault := true },
               { name := "kw", kind := .varKw }] }
private def exRes2 : ResolverD :=
  { params := [{ name := "root" }, { name := "ctx" }, { name := "kw", kind := .varKw }] }

private def exIfaceF : FieldD := { name := "f", type := .list (.named "I"), args := [{ name := "x", type := .named "Int" }] }
private def exObjF : FieldD := { name := "f", type := .nonNull (.list (.nonNull (.named "Query"))), args := [{ name := "x", type := .named "Int" }, { name := "y", type := .named "Int" }], resolver := some exRes }
private def exGood : SchemaD :=
  { types := [exInt, { kind := .interface, name := "I", fields := [exIfaceF] },
              { kind := .object, name := "Query", interfaces := ["I"], fields := [exObjF] }] }

example : ValidSchema exGood true := (validate_iff _ _).1 (by decide +kernel)
example : Subtype exGood (.nonNull (.list (.nonNull (.named "Query")))) (.list (.named "I")) :=
  (subtype_iff _ _ _).1 (by decide +kernel)
example : ¬ Subtype exGood (.list (.named "Query")) (.list (.nonNull (.named "I"))) := by
  rw [← subtype_iff]; decide +kernel
/-- two violations in two different types are both reported -/
example : (validate { exGood with types := exGood.types ++
    [{ kind := .union, name := "U" }, { kind := .enum, name := "__E", values := [{ name := "V", value := .str "V" }] }] } true).map (·.rule)
    = [.unionEmpty, .invalidTypeName] := by decide +kernel
/-- a cache history: validate, register a resolver with 2 positional parameters, validate again -/
example : runTrace { schema := exGood } [.validate,
    .registerResolver "Query" "f" exRes2 true false,
    .validate] = [.ok, .ok, .validationError] := by decide +kernel
example : CacheInv { schema := exGood, isValid := false } := cacheInv_init _
example : matchName [95, 97] = true ∧ matchName [95, 95, 97] = false ∧ matchName [97, 10] = false := by decide +kernel

end PyGql.Props.C13
