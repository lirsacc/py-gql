/-
  C16 — finding N7 (asyncio: a field cancelled before the first step of its task never gets `on_field_end`) on the
  event-queue model `AsyncCancel.lean`, as a theorem pair:

  * `cancel_before_first_step_loses_end_hook` — today's `gather_values`: the reproduced schedule (`{ abort a { x y } }`, the
    root's cancellation arrives before either child ran: k = 0, n = 2): both started fields end `dead` — no end hook;
  * `forwarded_cancel_kills_unstarted_children_bounded` — for all n ≤ 4 and every arrival point k ≤ n: the k children that
    had been entered get their end hook, the n - k others never do;
  * `shielded_gather_ends_every_started_field_bounded` — with the shielded gather of proposed_fixes/C16-N7.patch: for all
    n ≤ 4 and every k ≤ n EVERY child ends with its end hook fired (the parent's wake-up is queued behind the children's
    first steps, so each child has been entered when it is cancelled).
  Bounded (`decide`); tied to the code only through the probe `abort-nested-coroutines` (verdicts with / without the patch).
-/
import PyGqlModel.AsyncCancel

namespace PyGql.Props.C16
open PyGql.AsyncCancel

theorem cancel_before_first_step_loses_end_hook :
    scenario false 2 0 = [.dead, .dead] ∧ scenario true 2 0 = [.ended, .ended] := by decide +kernel

theorem forwarded_cancel_kills_unstarted_children_bounded :
    ((List.range 5).all fun n => (List.range (n + 1)).all fun k =>
      scenario false n k == List.replicate k .ended ++ List.replicate (n - k) .dead) = true := by decide +kernel

theorem shielded_gather_ends_every_started_field_bounded :
    ((List.range 5).all fun n => (List.range (n + 1)).all fun k =>
      scenario true n k == List.replicate n .ended) = true := by decide +kernel

/-- "every started field gets its end hook" is FALSE of today's `gather_values` in this model … -/
theorem every_started_field_ends_refuted : ¬ (∀ n k, k ≤ n → lost (scenario false n k) = 0) := by
  intro h
  have := h 2 0 (by omega)
  revert this
  decide +kernel

end PyGql.Props.C16
