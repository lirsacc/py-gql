/-
  C05 — `accepted_cannot_go_wrong_merged` about the description the DRIVER EXECUTES (as `accepted_cannot_go_wrong_executed`,
  but without the hypothesis `MergeSafe`), with every schema hypothesis a computable check the driver evaluates, and a
  computable form of the alias hypothesis (`aliasesB`).
-/
import PyGqlModel.Props.C05_overlap
import PyGqlModel.Props.C05_executed
import PyGqlModel.Spec.DocChecks

set_option linter.unusedSimpArgs false

namespace PyGql.Props.C05
open PyGql PyGql.Exec PyGql.Spec
open PyGql.Validate (Node)
open PyGql.Validate.Spec (SelSet nodes selNodes selsNodes)

private theorem selsAliasB_mem : ∀ (xs : List Validate.Sel) (x : Validate.Sel), selsAliasB xs = true → x ∈ xs → selAliasB x = true
  | [], _, _, h => by simp at h
  | y :: ys, x, h, hm => by
    simp only [selsAliasB, Bool.and_eq_true] at h
    simp only [List.mem_cons] at hm
    rcases hm with rfl | hm
    · exact h.1
    · exact selsAliasB_mem ys x h.2 hm

mutual
private theorem alias_sel : ∀ (x : Validate.Sel) (i : Nat) (sels : List Validate.Sel), selAliasB x = true →
    Node.selectionSet i sels ∈ selNodes x → selsAliasB sels = true
  | .field al name args dirs hs id sub, i, sels, h, hm => by
    simp only [selAliasB, Bool.and_eq_true] at h
    simp only [selNodes, List.mem_cons, reduceCtorEq, false_or, List.mem_append] at hm
    rcases hm with (hm | hm) | hm
    · exact absurd (Validate.argsNodes_noSelSet args _ hm) (by simp [Validate.Node.isSelSet])
    · exact absurd (Validate.dirsNodes_noSelSet dirs _ hm) (by simp [Validate.Node.isSelSet])
    · cases hs with
      | false => simp at hm
      | true =>
        simp only [if_true, List.mem_cons, Node.selectionSet.injEq] at hm
        rcases hm with ⟨rfl, rfl⟩ | hm
        · exact h.2
        · exact alias_sels sub i sels h.2 hm
  | .spread name dirs, i, sels, h, hm => by
    simp only [selNodes, List.mem_cons, reduceCtorEq, false_or] at hm
    exact absurd (Validate.dirsNodes_noSelSet dirs _ hm) (by simp [Validate.Node.isSelSet])
  | .inline on dirs id sub, i, sels, h, hm => by
    simp only [selAliasB] at h
    simp only [selNodes, List.mem_cons, reduceCtorEq, false_or, List.mem_append, Node.selectionSet.injEq] at hm
    rcases hm with hm | ⟨rfl, rfl⟩ | hm
    · exact absurd (Validate.dirsNodes_noSelSet dirs _ hm) (by simp [Validate.Node.isSelSet])
    · exact h
    · exact alias_sels sub i sels h hm
private theorem alias_sels : ∀ (xs : List Validate.Sel) (i : Nat) (sels : List Validate.Sel), selsAliasB xs = true →
    Node.selectionSet i sels ∈ selsNodes xs → selsAliasB sels = true
  | [], _, _, _, hm => by simp [selsNodes] at hm
  | x :: xs, i, sels, h, hm => by
    simp only [selsAliasB, Bool.and_eq_true] at h
    simp only [selsNodes, List.mem_append] at hm
    rcases hm with hm | hm
    · exact alias_sel x i sels h.1 hm
    · exact alias_sels xs i sels h.2 hm
end

theorem aliasesNonEmpty_of_check (d : Validate.Doc) (h : aliasesB d = true) : AliasesNonEmpty d := by
  intro i sels hS al name args dirs hs id sub hm
  have hsels : selsAliasB sels = true := by
    simp only [SelSet, nodes, List.mem_cons, reduceCtorEq, false_or, List.mem_flatMap] at hS
    obtain ⟨df, hdf, hn⟩ := hS
    unfold aliasesB at h
    rw [List.all_eq_true] at h
    have hd := h df hdf
    cases df with
    | ts a b => simp [Validate.Spec.defNodes] at hn
    | op kind nm vs ds ssid osels =>
      simp only at hd
      simp only [Validate.Spec.defNodes, List.mem_cons, reduceCtorEq, false_or, List.mem_append, Node.selectionSet.injEq] at hn
      rcases hn with (hn | hn) | ⟨rfl, rfl⟩ | hn
      · exact absurd (Validate.varDefsNodes_noSelSet vs _ hn) (by simp [Validate.Node.isSelSet])
      · exact absurd (Validate.dirsNodes_noSelSet ds _ hn) (by simp [Validate.Node.isSelSet])
      · exact hd
      · exact alias_sels osels i sels hd hn
    | frag nm on ds ssid fsels =>
      simp only at hd
      simp only [Validate.Spec.defNodes, List.mem_cons, reduceCtorEq, false_or, List.mem_append, Node.selectionSet.injEq] at hn
      rcases hn with hn | ⟨rfl, rfl⟩ | hn
      · exact absurd (Validate.dirsNodes_noSelSet ds _ hn) (by simp [Validate.Node.isSelSet])
      · exact hd
      · exact alias_sels fsels i sels hd hn
  have := selsAliasB_mem sels _ hsels hm
  simp only [selAliasB, Bool.and_eq_true, bne_iff_ne, ne_eq] at this
  exact this.1

/-- C05's execution half about what the driver runs, WITHOUT `MergeSafe`:
    `s` is the dumped schema; `schemaChecksB` and `fieldOwnersB` of `withBuiltins s` are the evaluated schema facts; all 26
    rule visitors (the memoised overlap search) are silent on the document over `withBuiltins s`; `DocChecksMemo` and
    `aliasesB` are the static document checks; the world is typed against `s`. Then the response `Exec.execute s` computes
    for the translated document is never an internal exception. Remaining document-side hypotheses: `NoIntrospection`
    and non-empty fragment names. -/
theorem accepted_cannot_go_wrong_merged_executed (s : SchemaD) (hchk : schemaChecksB (withBuiltins s) = true)
    (hfo : fieldOwnersB (withBuiltins s) = true)
    (fx : Validate.Fixes) (hv11 : fx.v11 = true) (h7 : fx.v7 = true) (env : Exec.ArgEnv) (d : Validate.Doc) (vars : Exec.Vars)
    (hacc : ∀ r ∈ Validate.Rule.all, C06.SilentM (withBuiltins s) fx r d)
    (hck : C06.DocChecksMemo (withBuiltins s) d) (hal : aliasesB d = true)
    (hne : ∀ f ∈ Validate.Spec.fragNames d, f ≠ "") (hni : NoIntrospection (withBuiltins s) d)
    (w : Exec.World) (hw : WorldTyped s w) :
    ∀ (op : Option String) (fuel cf : Nat) (cls : String),
      Exec.execute s (eDoc (withBuiltins s) env d) vars w op fuel cf ≠ .failed (.internal cls) := by
  intro op fuel cf cls
  rw [← execute_withBuiltins]
  obtain ⟨hwf, hok, hro⟩ := schemaChecks_sound _ hchk
  exact accepted_cannot_go_wrong_merged (withBuiltins s) hwf hok hro (fieldOwners_of_check _ hfo) fx hv11 h7 env d vars hacc hck hne
    (aliasesNonEmpty_of_check d hal) hni w (worldTyped_withBuiltins s w hw) op fuel cf cls

theorem noIntrospection_of_check (s : SchemaD) (d : Validate.Doc) (h : noIntrospectionB d = true) : NoIntrospection s d := by
  intro p hp name args dirs hs e
  have hm := Validate.typed_node_mem hp
  unfold noIntrospectionB at h
  rw [List.all_eq_true] at h
  have := h _ hm
  rw [e] at this
  simpa using this

private theorem docChecks_sound (s : SchemaD) (d : Validate.Doc) (h : docChecksB d = true) :
    C06.DocChecksMemo s d ∧ aliasesB d = true ∧ (∀ f ∈ Validate.Spec.fragNames d, f ≠ "") ∧ NoIntrospection s d := by
  unfold docChecksB at h
  simp only [Bool.and_eq_true, List.all_eq_true, bne_iff_ne, ne_eq] at h
  obtain ⟨⟨⟨⟨hid, hmeta⟩, hal⟩, hnames⟩, hni⟩ := h
  exact ⟨⟨hid, hmeta⟩, hal, hnames, noIntrospection_of_check _ d hni⟩

/-! NOTE ON THE PREMISE AND THE CONCLUSION. (i) `C06.SilentM` counts recorded errors of
    each rule run ALONE and ignores the crash flag of that run. Here it is a PREMISE: a weaker premise makes the theorem
    apply to MORE documents (also to documents on which a rule's run would have raised), it does not make it unsound.
    What is NOT proved is the link "the chain `validate_ast` runs returned [] ⇒ every rule alone is silent" - that is the
    chain-level gap of C06; the correspondence compares the real chain's verdict with the model chain
    (`runM`) and with every rule alone on every generated document. "Validation never raises" (first sentence of C05)
    has NO theorem for the whole chain: the model has five crash sites (ValuesOfCorrectType `_check_scalar`,
    KnownDirectives on empty ancestors, UniqueInputFieldNames on an empty stack, NoFragmentCycles, the overlap search);
    only the memoised overlap search alone is proved crash-free (`C06.overlap_memo_run_never_crashes`). (ii) `Exec.argsEntry`
    folds every failure of `coerce_argument_values` - also `Coerce.Err.internal` / `.fuel` - into `none`, a field error:
    the conclusion does not speak about an internal exception INSIDE argument coercion (C07's `arguments_sound` is about
    accepted values; C07 has a never-raises theorem for variables only); tied by the correspondence (real argument
    coercion vs the model's tables, `argnodes`). -/

/-- The execution half of C05 with EVERY hypothesis except `WorldTyped` (which
    is part of the property statement) a computable check: `schemaChecksB` / `fieldOwnersB` on the schema (evaluated by the
    driver on every request), `docChecksB` on the document, the code variant (`fx.v7`, `fx.v11`: probed by the harness on
    the tree under test), and "all 26 rule visitors silent" (the validator model, the memoised overlap search). -/
theorem accepted_cannot_go_wrong_computable (s : SchemaD) (hchk : schemaChecksB (withBuiltins s) = true)
    (hfo : fieldOwnersB (withBuiltins s) = true)
    (fx : Validate.Fixes) (hv11 : fx.v11 = true) (h7 : fx.v7 = true) (env : Exec.ArgEnv) (d : Validate.Doc) (vars : Exec.Vars)
    (hacc : ∀ r ∈ Validate.Rule.all, C06.SilentM (withBuiltins s) fx r d) (hd : docChecksB d = true)
    (w : Exec.World) (hw : WorldTyped s w) :
    ∀ (op : Option String) (fuel cf : Nat) (cls : String),
      Exec.execute s (eDoc (withBuiltins s) env d) vars w op fuel cf ≠ .failed (.internal cls) := by
  obtain ⟨hck, hal, hnames, hni⟩ := docChecks_sound (withBuiltins s) d hd
  exact accepted_cannot_go_wrong_merged_executed s hchk hfo fx hv11 h7 env d vars hacc hck hal hnames hni w hw

theorem accepted_validDocR (s : SchemaD) (hchk : schemaChecksB (withBuiltins s) = true)
    (fx : Validate.Fixes) (hv11 : fx.v11 = true) (env : Exec.ArgEnv) (d : Validate.Doc) (vars : Exec.Vars)
    (hacc : ∀ r ∈ Validate.Rule.all, C06.SilentM (withBuiltins s) fx r d) (hd : docChecksB d = true) :
    ValidDocR (withBuiltins s) (eDoc (withBuiltins s) env d) vars := by
  obtain ⟨_, _, hnames, hni⟩ := docChecks_sound (withBuiltins s) d hd
  obtain ⟨hwf, _, hro⟩ := schemaChecks_sound _ hchk
  obtain ⟨⟨h1, h2, h3, h4, h5, h6⟩, _, _⟩ := silent_of_silentM hacc
  exact rules_accept_validDocR (withBuiltins s) hwf hro fx hv11 env d vars h1 h2 h3 h4 h5 h6 hnames hni

/-- The POSITIVE half (`≠ .failed (.internal _)` alone is also satisfied
    by the out-of-fuel artefact, e.g. at fuel 0): under the same computable hypotheses every request on an accepted document
    HAS a response `r` (`C04.RespondsWith`: some amounts of fuel produce it and it is not the out-of-fuel artefact; it is
    the same for every sufficient fuel, `C04.response_unique`), and that response is not an internal exception. -/
theorem accepted_responds_computable (s : SchemaD) (hchk : schemaChecksB (withBuiltins s) = true)
    (hfo : fieldOwnersB (withBuiltins s) = true)
    (fx : Validate.Fixes) (hv11 : fx.v11 = true) (h7 : fx.v7 = true) (env : Exec.ArgEnv) (d : Validate.Doc) (vars : Exec.Vars)
    (hacc : ∀ r ∈ Validate.Rule.all, C06.SilentM (withBuiltins s) fx r d) (hd : docChecksB d = true)
    (w : Exec.World) (hw : WorldTyped s w) (op : Option String) :
    ∃ r, C04.RespondsWith s (eDoc (withBuiltins s) env d) vars w op r ∧ ∀ cls, r ≠ .failed (.internal cls) := by
  have hv := accepted_validDocR s hchk fx hv11 env d vars hacc hd
  obtain ⟨_, _, ha, hu⟩ := validDocR_iff.1 hv
  obtain ⟨r, fuel, cf, he, hne⟩ := C04.responds_acyclic s (eDoc (withBuiltins s) env d) vars w
    (by simpa [fragsUnique] using hu) ha op
  refine ⟨r, ⟨fuel, cf, he, hne⟩, fun cls hr => ?_⟩
  exact accepted_cannot_go_wrong_computable s hchk hfo fx hv11 h7 env d vars hacc hd w hw op fuel cf cls (he.trans hr)

/-- `MergeSafe` itself from the computable hypotheses: what "all 26 rule visitors silent" gives
    about same-key selections of the executed document -/
theorem accepted_mergeSafe (s : SchemaD) (hchk : schemaChecksB (withBuiltins s) = true) (hfo : fieldOwnersB (withBuiltins s) = true)
    (fx : Validate.Fixes) (hv11 : fx.v11 = true) (h7 : fx.v7 = true) (env : Exec.ArgEnv) (d : Validate.Doc)
    (hacc : ∀ r ∈ Validate.Rule.all, C06.SilentM (withBuiltins s) fx r d) (hd : docChecksB d = true) :
    MergeSafe (withBuiltins s) (eDoc (withBuiltins s) env d) := by
  obtain ⟨hck, hal, hnames, hni⟩ := docChecks_sound (withBuiltins s) d hd
  obtain ⟨hwf, _, hro⟩ := schemaChecks_sound _ hchk
  obtain ⟨⟨h1, h2, h3, h4, h5, h6⟩, hu, h0⟩ := silent_of_silentM hacc
  exact mergeSafe_of_silent (withBuiltins s) hwf hro (fieldOwners_of_check _ hfo) fx hv11 h7 env d [] h1 h2 h3 h4 h5 h6 hu h0
    hck hnames (aliasesNonEmpty_of_check d hal) hni

/-- "one unambiguous value per response key" from validation: in the selection set
    of every operation of an accepted document (fragments opened), two selections with the same response key
      * whose parent types can meet in one runtime object denote the SAME CALL (field name, coerced arguments), and
      * in any case declare types that admit exactly the same response values (`shapeOk`). -/
theorem accepted_same_key_unambiguous (s : SchemaD) (hchk : schemaChecksB (withBuiltins s) = true)
    (hfo : fieldOwnersB (withBuiltins s) = true)
    (fx : Validate.Fixes) (hv11 : fx.v11 = true) (h7 : fx.v7 = true) (env : Exec.ArgEnv) (d : Validate.Doc)
    (hacc : ∀ r ∈ Validate.Rule.all, C06.SilentM (withBuiltins s) fx r d) (hd : docChecksB d = true) :
    ∀ o ∈ (eDoc (withBuiltins s) env d).ops, ∀ root, rootType (withBuiltins s) o.kind = some root →
      ∀ x y, InScope (eDoc (withBuiltins s) env d) (tag root o.sels) x → InScope (eDoc (withBuiltins s) env d) (tag root o.sels) y →
        x.2.key = y.2.key →
        (Overlap (withBuiltins s) x.1 y.1 → x.2.name = y.2.name ∧ x.2.args = y.2.args) ∧
        (∀ t u, fieldTy (withBuiltins s) x.1 x.2 = some t → fieldTy (withBuiltins s) y.1 y.2 = some u →
          ∀ dta, shapeOk (withBuiltins s) t dta = shapeOk (withBuiltins s) u dta) := by
  intro o ho root hroot x y hx hy hk
  have hms := accepted_mergeSafe s hchk hfo fx hv11 h7 env d hacc hd o ho root hroot
  refine ⟨fun hov => ?_, fun t u ht hu => same_key_one_shape _ _ _ hms x y hx hy hk t u ht hu⟩
  cases hms with
  | intro h1 _ _ => exact h1 x y hx hy hk hov

/-! non-vacuity: the static checks on the example document of `Props/C05_overlap.lean` -/
example : docChecksB (mgDoc .null) = true := by decide +kernel
example : aliasesB (mgDoc .null) = true := by decide +kernel
example : fieldOwnersB (withBuiltins brSchemaQ) = true ∧ schemaChecksB (withBuiltins brSchemaQ) = true := by decide +kernel

end PyGql.Props.C05
