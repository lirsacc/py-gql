/-
  C19 — wrapping INSIDE FRAGMENT BODIES never lowers (in fact: never changes) the measured depth.

  `wrap_inline_ge` / `wrap_spread_ge` (Props/C19_wrap.lean) wrap selections of the OPERATION and keep the fragments.
  Here a block of selections of a fragment DEFINITION (at any nesting level of its body) is wrapped in an inline
  fragment (`wrap_inline_in_fragment_ge`) or moved into a new named fragment (`wrap_spread_in_fragment_ge`), the
  operations stay as they are: every operation of the document — spreading the fragment directly, through other
  fragments, or not at all — keeps its measured depth, which is the specified one in both documents.
  Both documents are valid (`Valid`: acyclic fragments, directive variables bound) — the property quantifies over
  valid documents, and the wrapped document is one.
-/
import PyGqlModel.Props.C19_wrap

set_option linter.unusedVariables false

namespace PyGql.Props.C19
open PyGql.Depth PyGql.DepthSpec PyGql.Depth.Lemmas

private theorem lookup_mid (pre post : List Frag) (g : Frag) (n : String) :
    lookupFrag (pre ++ [g] ++ post) n =
      (lookupFrag post n).or (if g.name == n then some g else lookupFrag pre n) := by
  simp only [lookupFrag, List.reverse_append, List.reverse_cons, List.reverse_nil, List.nil_append, List.find?_append,
    List.find?_cons, List.find?_nil, List.append_assoc]
  cases g.name == n <;> simp

/-- the fragment `f` of `pre ++ [f] ++ post` is replaced by `f'` of the same name, whose body has the same canonical
    levels in the new environment; the selections of the class `S` (closed under sub-selections, containing every
    fragment body) look fragments up in the new environment as in `pre ++ [f'] ++ post`: same levels on `S` -/
private theorem cL_replace (frags frags' : List Frag) (vars : Vars) (w w' : String → Nat)
    (hc : Consistent frags w) (hc' : Consistent frags' w') (S : Sel → Prop)
    (hSf : ∀ a n d sub, S (.field a n d sub) → ∀ c ∈ sub, S c)
    (hSi : ∀ d ss, S (.inline d ss) → ∀ c ∈ ss, S c)
    (pre post : List Frag) (f f' : Frag) (hfr : frags = pre ++ [f] ++ post) (hn : f'.name = f.name)
    (hl' : ∀ n d, S (.spread n d) → lookupFrag frags' n = lookupFrag (pre ++ [f'] ++ post) n)
    (hbody : cL frags' vars w' f'.sels = cL frags' vars w' f.sels)
    (hS : ∀ g ∈ frags, ∀ c ∈ g.sels, S c)
    (l : List Sel) (hl : ∀ c ∈ l, S c) : cL frags' vars w' l = cL frags vars w l := by
  refine cL_sim frags frags' vars w w' hc hc' S hSf hSi ?_ l hl
  intro n d hSn
  have hmem : ∀ {x}, lookupFrag post n = some x ∨ lookupFrag pre n = some x → x ∈ frags := by
    intro x hx
    rw [hfr]
    rcases hx with hx | hx <;> simp [(lookupFrag_some hx).1]
  rw [hl' n d hSn, hfr, lookup_mid, lookup_mid, hn]
  cases hp : lookupFrag post n with
  | some x => exact .inr ⟨x, x, rfl, rfl, rfl, hS x (hmem (.inl hp))⟩
  | none =>
    cases hg : f.name == n with
    | true => exact .inr ⟨f, f', rfl, rfl, hbody, hS f (by rw [hfr]; simp)⟩
    | false =>
      cases hq : lookupFrag pre n with
      | none => exact .inl ⟨rfl, rfl⟩
      | some x => exact .inr ⟨x, x, rfl, rfl, rfl, hS x (hmem (.inr hq))⟩

/-- wrapping a block of selections of a fragment DEFINITION (at the top of its body
    or at any nesting level of it) in an inline fragment never lowers the depth the rule measures for ANY operation of
    the document (it leaves it unchanged, and it is the specified depth in both documents).
    SUPERSEDED VARIANT: about `depthFixed` (strict variables); for the measure of `ruleB` see `wrap_inline_in_fragment_final`. -/
theorem wrap_inline_in_fragment_ge (doc doc' : Doc) (vars : Vars) (hv : Valid doc vars) (hv' : Valid doc' vars)
    (pre post : List Frag) (f : Frag) (sels' : List Sel) (hw : WrapInline f.sels sels')
    (hfr : doc.frags = pre ++ [f] ++ post) (hfr' : doc'.frags = pre ++ [⟨f.name, sels'⟩] ++ post)
    (hops : doc'.ops = doc.ops) (op : Op) (hop : op ∈ doc.ops) :
    ∃ d d', depthFixed doc.fuel op doc.frags vars = .ok d ∧ depthFixed doc'.fuel op doc'.frags vars = .ok d' ∧
      d ≤ d' ∧ d' = depth doc vars op ∧ d' = depth doc' vars op := by
  have hc : Consistent doc.frags (wt doc) := acyclic_consistent doc.frags hv.1
  have hc' : Consistent doc'.frags (wt doc') := acyclic_consistent doc'.frags hv'.1
  refine measured_of_levels doc doc' vars hv hv'.1 hv'.2.2 op op hop (hops ▸ hop) (hv.2.1 op hop) ?_
  exact cL_replace doc.frags doc'.frags vars (wt doc) (wt doc') hc hc' (fun _ => True) (fun _ _ _ _ _ _ _ => trivial)
    (fun _ _ _ _ _ => trivial) pre post f ⟨f.name, sels'⟩ hfr rfl (fun _ _ _ => by rw [hfr'])
    (wrapInline_cL doc'.frags vars (wt doc') hc' hw) (fun _ _ _ _ => trivial) op.sels (fun _ _ => trivial)

/-- moving a block of selections of a fragment DEFINITION (at any nesting level of its
    body) into a new named fragment `nm` and spreading it there never lowers the depth the rule measures for ANY
    operation of the document (it leaves it unchanged = the specified depth in both documents).
    `nm` is fresh: not defined in `doc` and not spread in the operation or in any fragment body of `doc`.
    SUPERSEDED VARIANT: about `depthFixed` (strict variables); for the measure of `ruleB` see `wrap_spread_in_fragment_final`. -/
theorem wrap_spread_in_fragment_ge (doc doc' : Doc) (vars : Vars) (hv : Valid doc vars) (hv' : Valid doc' vars)
    (pre post : List Frag) (f : Frag) (nm : String) (body sels' : List Sel) (hw : WrapSpread nm body f.sels sels')
    (hfr : doc.frags = pre ++ [f] ++ post)
    (hfr' : doc'.frags = (pre ++ [⟨f.name, sels'⟩] ++ post) ++ [⟨nm, body⟩])
    (hfresh : ∀ g ∈ doc.frags, g.name ≠ nm) (hfree : ∀ g ∈ doc.frags, freeL nm g.sels = true)
    (hops : doc'.ops = doc.ops) (op : Op) (hop : op ∈ doc.ops) (hfreeop : freeL nm op.sels = true) :
    ∃ d d', depthFixed doc.fuel op doc.frags vars = .ok d ∧ depthFixed doc'.fuel op doc'.frags vars = .ok d' ∧
      d ≤ d' ∧ d' = depth doc vars op ∧ d' = depth doc' vars op := by
  have hc : Consistent doc.frags (wt doc) := acyclic_consistent doc.frags hv.1
  have hc' : Consistent doc'.frags (wt doc') := acyclic_consistent doc'.frags hv'.1
  have hnm : lookupFrag doc'.frags nm = some ⟨nm, body⟩ := by rw [hfr', lookup_extended]; simp
  refine measured_of_levels doc doc' vars hv hv'.1 hv'.2.2 op op hop (hops ▸ hop) (hv.2.1 op hop) ?_
  refine cL_replace doc.frags doc'.frags vars (wt doc) (wt doc') hc hc' (fun s => freeSel nm s = true)
    (fun a n d sub h c hcm => freeL_mem nm sub c h hcm)
    (fun d ss h c hcm => freeL_mem nm ss c h hcm)
    pre post f ⟨f.name, sels'⟩ hfr rfl ?_ (wrapSpread_cL_ctx _ vars (wt doc') hc' nm body hnm hw)
    (fun g hg c hcm => freeL_mem nm g.sels c (hfree g hg) hcm) op.sels
    (fun c hcm => freeL_mem nm op.sels c hfreeop hcm)
  -- a selection that is free of `nm` does not look the new fragment up
  intro n d hS
  have hne : (nm == n) = false := by
    simp only [freeSel, bne_iff_ne, ne_eq] at hS
    simp; exact fun h => hS h.symm
  rw [hfr', lookup_extended, hne]
  rfl

/-! ### `ValidDeclR` sharpened: availability is needed PER OPERATION, and only to read the result as the plain depth

  `ruleB` (C19-Q1vars2 + C19-Q2) needs no hypothesis on the variables (`flags_iff_final`):
  it reports the kept-when-unknown depth `depthRK`. The global hypothesis `ValidDeclR` of `flags_iff_raw` (every directive
  variable of EVERY operation available) is therefore not needed for totality or for the verdict; what is left of it is
  local: for an operation whose own directive variables (and those of the fragments) are available in the view the
  rule evaluates it with, the reported depth is the specified depth `depthR` — whatever holds for the other operations. -/

theorem flags_iff_final_available (doc : Doc) (defs : List (List VarDefR)) (raw : RawVars)
    (hu : UniqueNames doc.frags) (ha : Acyclic doc.frags) (limit : Nat) (filter : Option String) :
    ∃ errs, ruleB limit filter doc defs raw = .ok errs ∧
      ∀ (i : Nat) (op : Op), doc.ops[i]? = some op →
        boundL (effectiveVarsR (defs.getD i []) raw) op.sels = true →
        (∀ f ∈ doc.frags, boundL (effectiveVarsR (defs.getD i []) raw) f.sels = true) →
        ((∃ d, (i, d) ∈ errs) ↔ (opSelected filter op = true ∧ depthR doc defs raw i op > limit)) ∧
        (∀ d, (i, d) ∈ errs → d = some (depthR doc defs raw i op)) := by
  obtain ⟨errs, he, h⟩ := flags_iff_final doc defs raw hu ha limit filter
  refine ⟨errs, he, ?_⟩
  intro i op hi hb hfb
  have e : depthRK doc defs raw i op = depthR doc defs raw i op := by
    unfold depthRK depthR
    exact depthK_eq_depth doc _ op hb hfb
  have := h i op hi
  rw [e] at this
  exact this

/-- `ValidDeclR` (the global hypothesis of `flags_iff_raw`) implies the local one for every operation -/
theorem validDeclR_available (doc : Doc) (defs : List (List VarDefR)) (raw : RawVars) (hv : ValidDeclR doc defs raw)
    (i : Nat) (op : Op) (hi : doc.ops[i]? = some op) :
    boundL (effectiveVarsR (defs.getD i []) raw) op.sels = true ∧
    ∀ f ∈ doc.frags, boundL (effectiveVarsR (defs.getD i []) raw) f.sels = true :=
  hv.2.2 i op hi

/-! ### the measure of `ruleB` (conditions that cannot be evaluated keep the selection)

  `depthK doc v op` is what `flags_iff_final` compares with the limit, for ANY view `v` of the request variables (no
  availability hypothesis). Wrapping — in the operation or inside a fragment body — does not change it either: erasing the
  unevaluable directives commutes with the wrapping, and the wrapper itself carries no directive. -/

theorem eraseD_none (v : Vars) : eraseD v {} = {} := by
  simp [eraseD, dirsBound, optBound]

theorem wrapInline_erase (v : Vars) {s s' : List Sel} (h : WrapInline s s') :
    WrapInline (eraseL v s) (eraseL v s') := by
  induction h with
  | here pre mid post =>
    simp only [eraseL_append, eraseSel, eraseD_none, eraseL]
    exact .here _ _ _
  | field pre post a n d sub sub' _ ih =>
    simp only [eraseL_append, eraseSel, eraseL]
    exact .field _ _ a n _ _ _ ih
  | inline pre post d ss ss' _ ih =>
    simp only [eraseL_append, eraseSel, eraseL]
    exact .inline _ _ _ _ _ ih

theorem valid_erase (doc : Doc) (v : Vars) (hu : UniqueNames doc.frags) (ha : Acyclic doc.frags) :
    Valid (eraseDoc v doc) v :=
  valid_map (eraseL_mapDirs v) (dirsBound_erase v) doc hu ha

/-- for `ruleB` and ANY request variables: wrapping a block of a
    fragment body in an inline fragment leaves the depth it compares with the limit (`depthK`) unchanged, for every
    operation of the document. -/
theorem wrap_inline_in_fragment_final (doc doc' : Doc) (v : Vars)
    (hu : UniqueNames doc.frags) (ha : Acyclic doc.frags) (hu' : UniqueNames doc'.frags) (ha' : Acyclic doc'.frags)
    (pre post : List Frag) (f : Frag) (sels' : List Sel) (hw : WrapInline f.sels sels')
    (hfr : doc.frags = pre ++ [f] ++ post) (hfr' : doc'.frags = pre ++ [⟨f.name, sels'⟩] ++ post)
    (hops : doc'.ops = doc.ops) (op : Op) (hop : op ∈ doc.ops) : depthK doc' v op = depthK doc v op := by
  obtain ⟨d, d', _, _, _, e1, e2⟩ := wrap_inline_in_fragment_ge (eraseDoc v doc) (eraseDoc v doc') v
    (valid_erase doc v hu ha) (valid_erase doc' v hu' ha') (eraseFrags v pre) (eraseFrags v post) (eraseFrag v f)
    (eraseL v sels') (wrapInline_erase v hw)
    (by simp [eraseDoc, eraseFrags, hfr]) (by simp [eraseDoc, eraseFrags, eraseFrag, hfr'])
    (by simp [eraseDoc, hops]) (eraseOp v op) (List.mem_map_of_mem (f := eraseOp v) hop)
  unfold depthK
  rw [← e1, ← e2]

/-- the same for a block of the OPERATION (at the top or at any nesting level) -/
theorem wrap_inline_final (doc doc' : Doc) (v : Vars) (hu : UniqueNames doc.frags) (ha : Acyclic doc.frags)
    (op : Op) (hop : op ∈ doc.ops) (sels' : List Sel) (hw : WrapInline op.sels sels') (hfr : doc'.frags = doc.frags)
    (hop' : (⟨op.name, sels'⟩ : Op) ∈ doc'.ops) :
    depthK doc' v ⟨op.name, sels'⟩ = depthK doc v op := by
  have hv := valid_erase doc v hu ha
  have hv' : Valid (eraseDoc v doc') v := valid_erase doc' v (by rw [hfr]; exact hu) (by rw [hfr]; exact ha)
  obtain ⟨d, d', h1, h2, _, e⟩ := wrap_inline_ge (eraseDoc v doc) (eraseDoc v doc') v hv (eraseOp v op)
    (List.mem_map_of_mem (f := eraseOp v) hop) (eraseL v sels') (wrapInline_erase v hw)
    (by simp [eraseDoc, hfr]) (List.mem_map_of_mem (f := eraseOp v) hop')
  have h3 := measured_eq_depth (eraseDoc v doc') v hv' (eraseOp v ⟨op.name, sels'⟩)
    (List.mem_map_of_mem (f := eraseOp v) hop') _ (Nat.le_refl _)
  have : (eraseOp v ⟨op.name, sels'⟩ : Op) = ⟨(eraseOp v op).name, eraseL v sels'⟩ := rfl
  rw [this] at h3
  rw [h2] at h3
  unfold depthK
  rw [this]
  cases h3
  exact e

theorem free_erase (v : Vars) (nm : String) :
    (∀ s, freeSel nm (eraseSel v s) = freeSel nm s) ∧ ∀ l, freeL nm (eraseL v l) = freeL nm l := by
  refine sel_induction ?_ ?_ ?_ rfl ?_
  · intro a n d sub ih; simp only [eraseSel, freeSel]; exact ih
  · intro d ss ih; simp only [eraseSel, freeSel]; exact ih
  · intro n d; rfl
  · intro s ss h1 h2; simp only [eraseL, freeL, h1, h2]

theorem freeSel_erase (v : Vars) (nm : String) : ∀ s : Sel, freeSel nm (eraseSel v s) = freeSel nm s :=
  (free_erase v nm).1

theorem freeL_erase (v : Vars) (nm : String) : ∀ l : List Sel, freeL nm (eraseL v l) = freeL nm l :=
  (free_erase v nm).2

theorem wrapSpread_erase (v : Vars) (nm : String) (body : List Sel) {s s' : List Sel} (h : WrapSpread nm body s s') :
    WrapSpread nm (eraseL v body) (eraseL v s) (eraseL v s') := by
  induction h with
  | here pre post =>
    simp only [eraseL_append, eraseSel, eraseD_none, eraseL]
    exact .here _ _
  | field pre post a n d sub sub' _ ih =>
    simp only [eraseL_append, eraseSel, eraseL]
    exact .field _ _ a n _ _ _ ih
  | inline pre post d ss ss' _ ih =>
    simp only [eraseL_append, eraseSel, eraseL]
    exact .inline _ _ _ _ _ ih

/-- for `ruleB` and ANY request variables: moving a block of a
    fragment body into a new (fresh) named fragment leaves `depthK` unchanged, for every operation. -/
theorem wrap_spread_in_fragment_final (doc doc' : Doc) (v : Vars)
    (hu : UniqueNames doc.frags) (ha : Acyclic doc.frags) (hu' : UniqueNames doc'.frags) (ha' : Acyclic doc'.frags)
    (pre post : List Frag) (f : Frag) (nm : String) (body sels' : List Sel) (hw : WrapSpread nm body f.sels sels')
    (hfr : doc.frags = pre ++ [f] ++ post)
    (hfr' : doc'.frags = (pre ++ [⟨f.name, sels'⟩] ++ post) ++ [⟨nm, body⟩])
    (hfresh : ∀ g ∈ doc.frags, g.name ≠ nm) (hfree : ∀ g ∈ doc.frags, freeL nm g.sels = true)
    (hops : doc'.ops = doc.ops) (op : Op) (hop : op ∈ doc.ops) (hfreeop : freeL nm op.sels = true) :
    depthK doc' v op = depthK doc v op := by
  obtain ⟨d, d', _, _, _, e1, e2⟩ := wrap_spread_in_fragment_ge (eraseDoc v doc) (eraseDoc v doc') v
    (valid_erase doc v hu ha) (valid_erase doc' v hu' ha') (eraseFrags v pre) (eraseFrags v post) (eraseFrag v f) nm
    (eraseL v body) (eraseL v sels') (wrapSpread_erase v nm body hw)
    (by simp [eraseDoc, eraseFrags, hfr]) (by simp [eraseDoc, eraseFrags, eraseFrag, hfr'])
    (by
      intro g hg
      simp only [eraseDoc, eraseFrags, List.mem_map] at hg
      obtain ⟨g0, hg0, rfl⟩ := hg
      exact hfresh g0 hg0)
    (by
      intro g hg
      simp only [eraseDoc, eraseFrags, List.mem_map] at hg
      obtain ⟨g0, hg0, rfl⟩ := hg
      simp only [eraseFrag, freeL_erase]
      exact hfree g0 hg0)
    (by simp [eraseDoc, hops]) (eraseOp v op) (List.mem_map_of_mem (f := eraseOp v) hop)
    (by simp only [eraseOp, freeL_erase]; exact hfreeop)
  unfold depthK
  rw [← e1, ← e2]

/-! ### non-vacuity: `{ ...F }  fragment F { a { c } d }` -/

private theorem valid_of_checks' (doc : Doc) (vars : Vars) (h1 : acyclic doc.frags = true)
    (h2 : doc.ops.all (fun op => boundL vars op.sels) = true)
    (h3 : doc.frags.all (fun f => boundL vars f.sels) = true) : Valid doc vars := by
  simp only [List.all_eq_true] at h2 h3
  exact ⟨h1, h2, h3⟩

private def fA : Sel := .field none "a" {} [.field none "c" {} []]
private def fD : Sel := .field none "d" {} []
private def opF : Op := ⟨none, [.spread "F" {}]⟩
private def d0 : Doc := ⟨[opF], [⟨"F", [fA, fD]⟩]⟩
/-- `fragment F { ... { a { c } } d }` -/
private def d1 : Doc := ⟨[opF], [⟨"F", [.inline {} [fA], fD]⟩]⟩
/-- `fragment F { ...G d }  fragment G { a { c } }` -/
private def d2 : Doc := ⟨[opF], [⟨"F", [.spread "G" {}, fD]⟩, ⟨"G", [fA]⟩]⟩

example : ∃ d d', depthFixed d0.fuel opF d0.frags [] = .ok d ∧ depthFixed d1.fuel opF d1.frags [] = .ok d' ∧
    d ≤ d' ∧ d' = depth d0 [] opF ∧ d' = depth d1 [] opF :=
  wrap_inline_in_fragment_ge d0 d1 [] (valid_of_checks' _ _ (by decide +kernel) (by decide +kernel) (by decide +kernel))
    (valid_of_checks' _ _ (by decide +kernel) (by decide +kernel) (by decide +kernel)) [] [] ⟨"F", [fA, fD]⟩ [.inline {} [fA], fD]
    (.here [] [fA] [fD]) rfl rfl rfl opF (by simp [d0])

example : ∃ d d', depthFixed d0.fuel opF d0.frags [] = .ok d ∧ depthFixed d2.fuel opF d2.frags [] = .ok d' ∧
    d ≤ d' ∧ d' = depth d0 [] opF ∧ d' = depth d2 [] opF :=
  wrap_spread_in_fragment_ge d0 d2 [] (valid_of_checks' _ _ (by decide +kernel) (by decide +kernel) (by decide +kernel))
    (valid_of_checks' _ _ (by decide +kernel) (by decide +kernel) (by decide +kernel)) [] [] ⟨"F", [fA, fD]⟩ "G" [fA] [.spread "G" {}, fD]
    (.here [] [fD]) rfl rfl (by decide +kernel) (by decide +kernel) rfl opF (by simp [d0]) (by decide +kernel)

/-- and the common depth is 1 -/
example : depthFixed d2.fuel opF d2.frags [] = .ok 1 := by decide +kernel

/-- the hypotheses of `flags_iff_final_available` hold for `d2` (no directive variables at all) -/
example : UniqueNames d2.frags ∧ Acyclic d2.frags ∧ boundL (effectiveVarsR ([] : List VarDefR) []) opF.sels = true ∧
    ∀ f ∈ d2.frags, boundL (effectiveVarsR ([] : List VarDefR) []) f.sels = true :=
  ⟨by unfold UniqueNames; decide +kernel, acyclic_sound _ (by decide +kernel), by decide, by decide⟩

/-- `wrap_inline_in_fragment_final` instantiated on `d0` / `d1`, for a view with an unknown variable -/
example : depthK d1 [("unused", true)] opF = depthK d0 [("unused", true)] opF :=
  wrap_inline_in_fragment_final d0 d1 _ (by unfold UniqueNames; decide +kernel) (acyclic_sound _ (by decide +kernel))
    (by unfold UniqueNames; decide +kernel) (acyclic_sound _ (by decide +kernel)) [] [] ⟨"F", [fA, fD]⟩ [.inline {} [fA], fD]
    (.here [] [fA] [fD]) rfl rfl rfl opF (by simp [d0])

/-- `wrap_spread_in_fragment_final` instantiated on `d0` / `d2` -/
example : depthK d2 [("unused", true)] opF = depthK d0 [("unused", true)] opF :=
  wrap_spread_in_fragment_final d0 d2 _ (by unfold UniqueNames; decide +kernel) (acyclic_sound _ (by decide +kernel))
    (by unfold UniqueNames; decide +kernel) (acyclic_sound _ (by decide +kernel)) [] [] ⟨"F", [fA, fD]⟩ "G" [fA] [.spread "G" {}, fD]
    (.here [] [fD]) rfl rfl (by decide +kernel) (by decide +kernel) rfl opF (by simp [d0]) (by decide +kernel)

end PyGql.Props.C19
