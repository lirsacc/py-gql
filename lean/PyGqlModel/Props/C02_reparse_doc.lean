/-
  C02, last clause at CHARACTER level, for EVERY node of a DOCUMENT (executable and type-system, all flags): the text
  inside the span of a node (of any kind) lexes and derives exactly the node at offset 0, every span inside it being
  token-tight again; for value, type and definition nodes the entry point RETURNS the node moved down by the offset.
-/
import PyGqlModel.Props.C02_reparse
import PyGqlModel.Lemmas.SpanWfDoc
import PyGqlModel.Lemmas.SpanVals
import PyGqlModel.Lemmas.SpanValsTS
import PyGqlModel.Lemmas.SpanTypes
namespace PyGql.Props.C02
open PyGql PyGql.Ast PyGql.Parse PyGql.Spec PyGql.Props.C01
open PyGql.Spec.Lexical (Tiles slice eofT)

/-- character-level `span_reparse` for every node of a document, as a statement about the grammar:
    the characters inside the span lex, and derive exactly the node (moved to offset 0). -/
theorem span_reparse_node (fl : Flags) (s : Text) (d : Document) (h : parseText fl s = some d) :
    ∀ x ∈ d.definitions, ∀ j, Item.Sub j (definitionV x) → ∀ a b is, j = .node (some (a, b)) is →
      a ≤ b ∧ b ≤ s.length ∧
      ∃ toks', Lex.lexAll (slice s a b) = .ok toks' ∧ Matches fl [p .sof, j.down a, p .eof] toks' := by
  intro x hx j hs a b is hj
  obtain ⟨h1, h2, _, _, hf⟩ := doc_slice h hx hs hj
  obtain ⟨body, ht, hm⟩ := (framed_iff ..).1 hf
  exact ⟨h1, h2, _, (lexAll_ok_iff ..).2 ⟨body, rfl, ht⟩, down_eq_mapLoc a j ▸ hm⟩

/-- value nodes of a document: `parse_value` on the spanned characters RETURNS the node (modulo offset).
    `wfValue false w` (enum values are not `true`/`false`/`null`) holds for every value node of a parsed document
    (`parse_sound_document`); it is a hypothesis here only because the view `valueV` cannot tell the ill-formed enum
    value `true` from the boolean. -/
theorem span_reparse_doc_value (fl : Flags) (s : Text) (d : Document) (h : parseText fl s = some d) :
    ∀ x ∈ d.definitions, ∀ w : Value, Item.Sub (valueV w) (definitionV x) → wfValue false w = true →
      ∀ a b, w.loc = some (a, b) →
      a ≤ b ∧ b ≤ s.length ∧ parseValueText fl (slice s a b) = some (w.mapLoc (locDown a)) := by
  intro x hx w hs hwf a b hloc
  obtain ⟨is, hnode⟩ := valueV_node w
  obtain ⟨h1, h2, _, _, hf⟩ := doc_slice h hx hs (hloc ▸ hnode)
  exact ⟨h1, h2, (parseValueText_iff ..).2 ⟨(wfValue_mapLoc ..).trans hwf, valueV_mapLoc _ w ▸ hf⟩⟩

/-- type nodes of a document (variable definitions, field / argument / input field types): `parse_type` on the spanned
    characters returns the node (modulo offset) -/
theorem span_reparse_doc_type (fl : Flags) (s : Text) (d : Document) (h : parseText fl s = some d) :
    ∀ x ∈ d.definitions, ∀ w : TypeRef, Item.Sub (typeV w) (definitionV x) → wfType w = true →
      ∀ a b, w.loc = some (a, b) →
      a ≤ b ∧ b ≤ s.length ∧ parseTypeText fl (slice s a b) = some (w.mapLoc (locDown a)) := by
  intro x hx w hs hwf a b hloc
  obtain ⟨is, hnode⟩ := typeV_node w
  obtain ⟨h1, h2, _, _, hf⟩ := doc_slice h hx hs (hloc ▸ hnode)
  exact ⟨h1, h2, (parseTypeText_iff ..).2 ⟨(wfType_mapLoc ..).trans hwf, typeV_mapLoc _ w ▸ hf⟩⟩

/-- EXECUTABLE documents, no side hypothesis: every value node of every operation and fragment definition — default
    values of variable definitions, arguments of fields and of directives at every level of the selection sets, and
    every value nested in them (`OperationDefinition.vals` / `FragmentDefinition.vals`) — is what `parse_value` returns
    for the characters inside its span, modulo the offset. -/
theorem span_reparse_exec_value (fl : Flags) (s : Text) (d : Document) (h : parseText fl s = some d) :
    (∀ o, Definition.operation o ∈ d.definitions → ∀ w ∈ o.vals, ∀ a b, w.loc = some (a, b) →
      a ≤ b ∧ b ≤ s.length ∧ parseValueText fl (slice s a b) = some (w.mapLoc (locDown a))) ∧
    (∀ f, Definition.fragment f ∈ d.definitions → ∀ w ∈ f.vals, ∀ a b, w.loc = some (a, b) →
      a ≤ b ∧ b ≤ s.length ∧ parseValueText fl (slice s a b) = some (w.mapLoc (locDown a))) := by
  constructor
  · intro o ho w hw a b hloc
    obtain ⟨hs, hwf⟩ := exec_vals fl (.operation o) _ _ _ rfl w hw
    exact span_reparse_doc_value fl s d h _ ho w hs (hwf (parseText_wf h ho).1) a b hloc
  · intro f hf w hw a b hloc
    obtain ⟨hs, hwf⟩ := exec_vals fl (.fragment f) _ _ _ rfl w hw
    exact span_reparse_doc_value fl s d h _ hf w hs (hwf (parseText_wf h hf).1) a b hloc

/-- ALL documents (executable and type-system, all flags), no side hypothesis: every value node of every definition
    (`Definition.vals`: arguments of fields and of directives wherever directives occur, default values of variable
    definitions, of argument definitions and of input fields, and every value nested in them) is what `parse_value`
    returns for the characters inside its span, modulo the offset. -/
theorem span_reparse_value_all (fl : Flags) (s : Text) (d : Document) (h : parseText fl s = some d) :
    ∀ x ∈ d.definitions, ∀ w ∈ x.vals, ∀ a b, w.loc = some (a, b) →
      a ≤ b ∧ b ≤ s.length ∧ parseValueText fl (slice s a b) = some (w.mapLoc (locDown a)) := by
  intro x hx w hw a b hloc
  have wfx := (parseText_wf h hx).1
  obtain ⟨hs, hwf⟩ := definition_vals fl x w hw
  exact span_reparse_doc_value fl s d h x hx w hs (hwf wfx) a b hloc

/-- ALL documents, no side hypothesis: every type node of every definition (`Definition.types`: the types of variable
    definitions, of field / argument / input-field definitions with every type nested in them; the named types of type
    conditions, `implements` lists, union members and operation types, read as `Type`) is what `parse_type` returns for the
    characters inside its span, modulo the offset. -/
theorem span_reparse_type_all (fl : Flags) (s : Text) (d : Document) (h : parseText fl s = some d) :
    ∀ x ∈ d.definitions, ∀ w ∈ x.types, ∀ a b, w.loc = some (a, b) →
      a ≤ b ∧ b ≤ s.length ∧ parseTypeText fl (slice s a b) = some (w.mapLoc (locDown a)) := by
  intro x hx w hw a b hloc
  have wfx := (parseText_wf h hx).1
  obtain ⟨hs, hwf⟩ := definition_types fl x w hw
  exact span_reparse_doc_type fl s d h x hx w hs (hwf wfx) a b hloc

theorem definitionV_node (x : Definition) : ∃ is, definitionV x = .node x.loc is := by
  cases x with
  | operation o => simp only [definitionV, operationV, Definition.loc]; split <;> exact ⟨_, rfl⟩
  | fragment o => exact ⟨_, rfl⟩
  | _ => exact ⟨_, rfl⟩

/-- DEFINITIONS: the characters inside the span of a definition (operation, fragment, type-system definition or
    extension) are accepted by `parse` under the same flags, and the result is the document holding exactly that
    definition, moved down by the start offset; the document's own span is the whole slice. -/
theorem span_reparse_definition (fl : Flags) (s : Text) (d : Document) (h : parseText fl s = some d) :
    ∀ x ∈ d.definitions, ∀ a b, x.loc = some (a, b) →
      a ≤ b ∧ b ≤ s.length ∧
      parseText fl (slice s a b) = some ⟨[x.mapLoc (locDown a)], some (0, b - a)⟩ := by
  intro x hx a b hloc
  obtain ⟨is, hnode⟩ := definitionV_node x
  obtain ⟨h1, h2, hnl, hlen, hf⟩ := doc_slice h hx .refl (hloc ▸ hnode)
  rw [← definitionV_mapLoc] at hf
  refine ⟨h1, h2, (parseText_iff ..).2 ⟨?_, hf, ?_⟩⟩
  · simp only [wfDocument, List.isEmpty_cons, Bool.not_false, Bool.true_and, List.all_cons, List.all_nil, Bool.and_true,
      wfDefinition_mapLoc, isTypeSystem_mapLoc]
    exact Bool.and_eq_true_iff.2 (parseText_wf h hx)
  · simp [locOf, hnl, Lex.sofTok, eofT, hlen]

/-! ### non-vacuity: `{a(x:[1])}` — the argument value `[1]` (5,8) is a sub-node of the definition's view -/
private def doc : Text := [123, 97, 40, 120, 58, 91, 49, 93, 41, 125]
private def wv : Value := .list [.int [49] (some (6, 7))] (some (5, 8))

private def theDoc : Document := ⟨[.operation ⟨[113, 117, 101, 114, 121], none, [], [],
   .mk [.field none ⟨[97], some (1, 2)⟩ [⟨⟨[120], some (3, 4)⟩, wv, some (3, 8)⟩] [] none (some (1, 9))] (some (0, 10)), some (0, 10)⟩],
   some (0, 10)⟩

/-- all hypotheses of `span_reparse_doc_value` hold for this instance -/
example : parseText {} doc = some theDoc := by rfl
example : ∃ x ∈ theDoc.definitions, Item.Sub (valueV wv) (definitionV x) ∧ wfValue false wv = true ∧ wv.loc = some (5, 8) := by
  refine ⟨_, List.mem_singleton.2 rfl, ?_, by decide, rfl⟩
  simp only [definitionV, operationV]
  rw [if_pos (by decide)]
  refine .node (.tail _ (.head _)) ?_
  simp only [selectionSetV, selectionsV, selectionV]
  refine .node (.tail _ (.head _)) ?_
  refine .node (i := argumentV ⟨⟨[120], some (3, 4)⟩, wv, some (3, 8)⟩) (by simp [argumentsV, groupV]) ?_
  exact .node (i := valueV wv) (by simp) .refl
/-- and the conclusion, computed: `[1]` at offset 0 -/
example : (parseValueText {} (slice doc 5 8)).map (fun v => v.subs.map Value.loc) = some [some (0, 3), some (1, 2)] := by
  decide +kernel

/-- `span_reparse_exec_value` is not vacuous: the value nodes of the operation of `{a(x:[1])}` are `[1]` (5,8) and `1` (6,7) -/
example : (match theDoc.definitions with
    | [.operation o] => o.vals.map Value.loc
    | _ => []) = [some (5, 8), some (6, 7)] := by decide +kernel

/-- `span_reparse_type_all` is not vacuous: `query($v:[A!]){a}` has the type nodes `[A!]` (9,13), `A!` (10,12), `A` (10,11) -/
private def tdoc : Text := [113, 117, 101, 114, 121, 40, 36, 118, 58, 91, 65, 33, 93, 41, 123, 97, 125]
example : (parseText {} tdoc).map (fun d => d.definitions.map (fun x => x.types.map TypeRef.loc)) =
    some [[some (9, 13), some (10, 12), some (10, 11)]] := by decide +kernel
example : (parseTypeText {} (slice tdoc 10 12)).map (fun t => t.subs.map TypeRef.loc) = some [some (0, 2), some (0, 1)] := by
  decide +kernel

/-- `{a} {b}`: the second definition spans (4,7); its text `{b}` parses to one definition spanning (0,3) in a document (0,3) -/
private def two : Text := [123, 97, 125, 32, 123, 98, 125]
example : (parseText {} two).map (fun d => d.definitions.map Definition.loc) = some [some (0, 3), some (4, 7)] := by decide +kernel
example : (parseText {} (slice two 4 7)).map (fun d => (d.definitions.map Definition.loc, d.loc)) =
    some ([some (0, 3)], some (0, 3)) := by decide +kernel

end PyGql.Props.C02
