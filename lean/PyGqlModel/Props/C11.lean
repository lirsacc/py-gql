/-
  C11 — property theorems about the model `PyGqlModel/Sdl.lean` (which follows the FIXED builder,
  patches C11-S1/C11-S2) and the specification `Spec/SdlSpec.lean`.
-/
import PyGqlModel.Lemmas.C11Pass
import PyGqlModel.Spec.SdlSpec


namespace PyGql.Props.C11
open PyGql PyGql.Sdl PyGql.SdlSpec

/-- C11, first half: a valid document builds and the result is exactly the declared content. -/
def BuildExactStatement : Prop :=
  ∀ doc : Doc, SdlValid doc → ∃ s d, build doc = .ok s ∧ Declared doc = some d ∧ SameContent s d

/-- C11: independent of the order of definitions (extensions of one target keep their relative order:
    `doc₂` is a permutation of `doc₁` with the same sub-list of extensions). -/
def BuildPermStatement : Prop :=
  ∀ doc₁ doc₂ : Doc, SdlValid doc₁ → doc₁.Perm doc₂ → typeExts doc₁ = typeExts doc₂ → schemaExtensions doc₁ = schemaExtensions doc₂ →
    ∃ s₁ s₂, build doc₁ = .ok s₁ ∧ build doc₂ = .ok s₂ ∧ SameContent s₁ s₂

/-- C11, second half: every rejection is one of the library's schema/SDL errors. -/
def BuildRejectsStatement : Prop :=
  ∀ (doc : Doc) (ie : Bool) (add : List TypeD) (e : Err), build doc ie add = .error e → ∃ l, e = .lib l

instance (doc : Doc) : Decidable (SdlValid doc) :=
  decidable_of_iff (_ ∧ _ ∧ _ ∧ _ ∧ _ ∧ _ ∧ _)
    ⟨fun ⟨a, b, c, d, e, f, g⟩ => ⟨a, b, c, d, e, f, g⟩, fun v => ⟨v.1, v.2, v.3, v.4, v.5, v.6, v.7⟩⟩

theorem bind_ok {α β} (x : R α) (f : α → R β) (b : β) (h : (x >>= f) = .ok b) : ∃ a, x = .ok a ∧ f a = .ok b :=
  Run.bind_ok_iff.mp h

theorem ok_inj {α} {a b : α} (h : (Except.ok a : R α) = .ok b) : a = b := by cases h; rfl

theorem bind_of_ok {α β} (a : α) (f : α → R β) : (Except.ok a >>= f) = f a := rfl

theorem ite_error_ok {α} {c : Prop} [Decidable c] {e : Err} {x : R α} {a : α} (h : (if c then .error e else x) = .ok a) :
    ¬ c ∧ x = .ok a :=
  Run.guard_ok_iff.mp h

/-- `x` returns a value: `Except.Ok` (Lemmas/ExceptBasics.lean) at `Sdl.Err`, with the same body -/
def Ok {α} (x : R α) : Prop := ∃ a, x = .ok a

theorem ok_pure {α} (a : α) : Ok (pure a : R α) := ⟨a, rfl⟩
theorem ok_ok {α} (a : α) : Ok (.ok a : R α) := ⟨a, rfl⟩
theorem not_ok_error {α} (e : Err) : ¬ Ok (.error e : R α) := fun ⟨_, h⟩ => by cases h

theorem ok_bind {α β} (x : R α) (f : α → R β) : Ok (x >>= f) ↔ ∃ a, x = .ok a ∧ Ok (f a) :=
  Except.ok_bind_iff

theorem ok_bind_pure {α β} (x : R α) (f : α → R β) (hf : ∀ a, Ok (f a)) : Ok (x >>= f) ↔ Ok x := by
  rw [ok_bind]
  exact ⟨fun ⟨a, ha, _⟩ => ⟨a, ha⟩, fun ⟨a, ha⟩ => ⟨a, ha, hf a⟩⟩

theorem ok_failIf (c : Bool) (e : Err) : Ok (failIf c e) ↔ c = false :=
  ⟨fun ⟨_, h⟩ => Run.failIf_ok_iff.mp h, fun h => ⟨(), Run.failIf_ok_iff.mpr h⟩⟩

theorem ok_bind_and {α β} {x : R α} {f : α → R β} {P Q : Prop} (hx : Ok x ↔ P) (hf : ∀ a, Ok (f a) ↔ Q) : Ok (x >>= f) ↔ P ∧ Q := by
  rw [ok_bind, ← hx]
  exact ⟨fun ⟨a, ha, h⟩ => ⟨⟨a, ha⟩, (hf a).mp h⟩, fun ⟨⟨a, ha⟩, h⟩ => ⟨a, ha, (hf a).mpr h⟩⟩

theorem ok_bind_last {α β} {x : R α} {g : α → β} {P : Prop} (hx : Ok x ↔ P) : Ok (x >>= fun a => pure (g a)) ↔ P :=
  (ok_bind_pure _ _ fun _ => ok_pure _).trans hx

theorem ok_mapM {α β} (f : α → R β) (l : List α) : Ok (l.mapM f) ↔ ∀ x ∈ l, Ok (f x) :=
  Except.ok_mapM_iff

theorem ok_mapM_iff {α β} {f : α → R β} {P : α → Prop} (hf : ∀ x, Ok (f x) ↔ P x) (l : List α) : Ok (l.mapM f) ↔ ∀ x ∈ l, P x :=
  (ok_mapM f l).trans ⟨fun h x hx => (hf x).mp (h x hx), fun h x hx => (hf x).mpr (h x hx)⟩

theorem ok_bind_mono {α α' β β'} {x : R α} {x' : R α'} {f : α → R β} {f' : α' → R β'}
    (hx : Ok x → Ok x') (hf : ∀ a a', Ok (f a) → Ok (f' a')) : Ok (x >>= f) → Ok (x' >>= f') := by
  rw [ok_bind, ok_bind]
  rintro ⟨a, ha, h⟩
  obtain ⟨a', ha'⟩ := hx ⟨a, ha⟩
  exact ⟨a', ha', hf a a' h⟩

theorem ok_mapM_mono {α β β'} {f : α → R β} {g : α → R β'} {l l' : List α} (hl : ∀ x ∈ l', x ∈ l)
    (h : ∀ x ∈ l', Ok (f x) → Ok (g x)) : Ok (l.mapM f) → Ok (l'.mapM g) :=
  fun hf => (ok_mapM g l').mpr fun x hx => h x hx ((ok_mapM f l).mp hf x (hl x hx))

/-! ### failures of a computation

`FailsWith P x`: whenever `x` fails, its error satisfies `P`.  It goes through `pure`, `>>=`, `mapM`, `foldlM` and
`if`, so the failures of a `do` block are those of its steps: each function of the builder gets one lemma, read off its
definition.  `P` stays a variable (with the errors it must contain as hypotheses): the same lemmas give the library
classes (`Good`) and the finer class of the first pass (Props/C11_reject_class.lean). -/

abbrev FailsWith {α} (P : Err → Prop) (x : R α) : Prop := Except.FailsWith P x

theorem FailsWith.pure {P : Err → Prop} {α} (a : α) : FailsWith P (Pure.pure a : R α) := Except.FailsWith.pure a

def FailsIn {α} (P : Err → Prop) (x : R α) : Prop := ∃ e, x = .error e ∧ P e

namespace FailsIn
variable {P : Err → Prop}

theorem of_not_ok {α} {x : R α} (hx : FailsWith P x) (hn : ¬ Ok x) : FailsIn P x := by
  cases x with
  | error e => exact ⟨e, rfl, hx e rfl⟩
  | ok a => exact absurd ⟨a, rfl⟩ hn

theorem bind_left {α β} {x : R α} (f : α → R β) : FailsIn P x → FailsIn P (x >>= f)
  | ⟨e, he, hp⟩ => ⟨e, by rw [he]; rfl, hp⟩

theorem bind {α β} {x : R α} {f : α → R β} (hx : FailsWith P x) (hf : ∀ a, x = .ok a → FailsIn P (f a)) : FailsIn P (x >>= f) := by
  cases x with
  | error e => exact ⟨e, rfl, hx e rfl⟩
  | ok a => exact hf a rfl

end FailsIn

theorem checkRef_congr (eB eX : Env) (hres : ∀ n, eX.resolves n = eB.resolves n) (t : Ty) : checkRef eB t = checkRef eX t := by
  rw [checkRef, checkRef, hres]

theorem checkNames_congr_all (eB eX : Env) (hres : ∀ n, eX.resolves n = eB.resolves n) (ns : List String) :
    checkNames eX ns = checkNames eB ns := by
  rw [checkNames, checkNames, funext hres]

/-! With no type in progress the builders of the extension pass ARE the builders over the extended types: `eB` is only
asked which names resolve, and every default is evaluated in `eX`. -/

theorem buildArgumentX_none (eB eX : Env) (hres : ∀ n, eX.resolves n = eB.resolves n) :
    buildArgumentX eB eX none = buildArgument eX := by
  funext a
  unfold buildArgumentX buildArgument
  rw [checkRef_congr eB eX hres]
  cases a.default <;> rfl

theorem buildFieldX_none (eB eX : Env) (hres : ∀ n, eX.resolves n = eB.resolves n) :
    buildFieldX eB eX none = buildField eX := by
  funext f
  unfold buildFieldX buildField
  rw [checkRef_congr eB eX hres, buildArgumentX_none eB eX hres]

theorem buildTypeDefX_none (eB eX : Env) (hres : ∀ n, eX.resolves n = eB.resolves n) :
    buildTypeDefX eB eX none = buildTypeDef eX := by
  funext d
  unfold buildTypeDefX buildTypeDef
  rw [buildFieldX_none eB eX hres, buildArgumentX_none eB eX hres, ← funext (checkNames_congr_all eB eX hres)]

theorem buildDirectiveX_none (eB eX : Env) (hres : ∀ n, eX.resolves n = eB.resolves n) :
    buildDirectiveX eB eX = buildDirective eX := by
  funext d
  unfold buildDirectiveX buildDirective
  rw [buildArgumentX_none eB eX hres]

theorem collect_aux (doc : Doc) : ∀ (acc c : Collected), doc.foldlM collectStep acc = .ok c →
    c.types = acc.types ++ typeDefs doc ∧ c.directives = acc.directives ++ dirDefs doc ∧
      c.schemaDef = acc.schemaDef.or (schemaDefs doc).head? :=
  fun acc c h =>
    let ⟨⟨h1, _⟩, h2, _, h3⟩ := (Run.collect_ok_iff doc acc c).mp h
    ⟨((Run.appendNew_ok_iff ..).mp h1).2, ((Run.appendNew_ok_iff ..).mp h2).2, h3⟩

theorem collect_exact (doc : Doc) (c : Collected) (h : collectDefinitions doc = .ok c) :
    c.types = typeDefs doc ∧ c.directives = dirDefs doc :=
  let ⟨_, h1, h2, _⟩ := (Run.collectDefinitions_ok_iff doc c).mp h
  ⟨h1, h2⟩

theorem collectStep_fails {P : Err → Prop} (hs : P (.lib .sdl)) (acc : Collected) : ∀ d, FailsWith P (collectStep acc d)
  | .schema _ => .ite (.error hs) (.pure _)
  | .type _ => .ite (.error hs) (.ite (.error hs) (.pure _))
  | .directive _ => .ite (.error hs) (.pure _)
  | .ext _ | .schemaExt _ | .other => .pure _

theorem collect_rejects_sdl (doc : Doc) (e : Err) (h : collectDefinitions doc = .error e) : e = .lib .sdl :=
  (Except.FailsWith.foldlM (P := (· = .lib .sdl)) (collectStep_fails rfl) doc {} e h)

/-- A second definition of a type name is rejected — by ONE `collectStep` from an accumulator that already has the name
    (`pre` is unused; the statement does not mention `build`).  The statement about the builder is
    `build_rejects_dup_type` (Props/C11_reject_complete.lean): `¬ Nodup (type names) → build doc ie add = .error SDLError`,
    with `collect_ok_rules` the converse of `collect_ok`. -/
theorem collect_rejects_dup_type (pre : Doc) (t t' : TypeDef) (post : Doc) (hn : t'.name = t.name)
    (acc : Collected) (hacc : acc.types.any (·.name == t.name) = true) :
    ∃ e, ([Def.type t'] ++ post).foldlM collectStep acc = .error e := by
  refine ⟨.lib .sdl, ?_⟩
  simp [List.foldlM_cons, collectStep, hn, hacc, sdlErr, bind, Except.bind]

theorem appendNew_ok {α} (errE : Err) (name : α → String) (xs : List α) :
    ∀ (acc r : List α), appendNew errE name acc xs = .ok r → r = acc ++ xs :=
  fun acc r h => ((Run.appendNew_ok_iff errE name xs acc r).mp h).2

theorem appendNew_error {α} (errE : Err) (name : α → String) (xs : List α) :
    ∀ (acc : List α) (e : Err), appendNew errE name acc xs = .error e → e = errE := by
  show ∀ acc, FailsWith (· = errE) (appendNew errE name acc xs)
  induction xs with
  | nil => exact fun acc => .pure acc
  | cons x xs ih => exact fun acc => .ite (.error rfl) (ih _)

theorem appendNew_rejects_dup {α} (errE : Err) (name : α → String) (acc : List α) (x : α) (xs : List α)
    (h : acc.any (fun y => name y == name x) = true) : appendNew errE name acc (x :: xs) = .error errE :=
  if_pos h

/-- The model has exactly four rejection branches: the three library errors and the stack overflow of a
    re-entrant field thunk (finding S1b). There is no branch for `ValueError`, `CoercionError`,
    `InvalidValue`, `TypeError` (fix C11-S1).
    OMITS: everything about `build` — the conclusion holds of every value of `Err` (the proof only splits the
    constructor), in particular it does not bound the CLASS of the internal branch.  The statement it stands for is
    `no_other_branch` (Props/C11_flags.lean, from `build_rejects`): the fourth class is `RecursionError` only, and
    `build_internal_of_thunkCycle` says when it is taken. -/
theorem no_other_branch_partial (doc : Doc) (ie : Bool) (add : List TypeD) (e : Err) (h : build doc ie add = .error e) :
    e = .lib .sdl ∨ e = .lib .ext ∨ e = .lib .schema ∨ ∃ c, e = .internal c := by
  cases e with
  | lib l => cases l <;> simp
  | internal c => exact Or.inr (Or.inr (Or.inr ⟨c, rfl⟩))

/-- how the refutation witnesses are read off two registries with the same members: if every `n`-element of `l₁` has `p`
    and some `n`-element of `l₂` has `q`, one element has both -/
theorem all_any_clash {α} {l₁ l₂ : List α} (hsub : ∀ t ∈ l₂, t ∈ l₁) (n p q : α → Bool)
    (h1 : l₁.all (fun t => !n t || p t) = true) (h2 : l₂.any (fun t => n t && q t) = true) : ∃ t, p t = true ∧ q t = true := by
  obtain ⟨t, ht, hnq⟩ := List.any_eq_true.mp h2
  rw [Bool.and_eq_true] at hnq
  have := List.all_eq_true.mp h1 t (hsub t ht)
  rw [hnq.1] at this
  exact ⟨t, this, hnq.2⟩

def exQuery : TypeDef := { kind := .object, name := "Query", fields := [{ name := "a", type := .named "Int" }] }
def exExt : TypeDef := { kind := .object, name := "Query", fields := [{ name := "b", type := .named "Int" }] }

example : (collectDefinitions [.ext exExt, .type exQuery, .other]).toBool = true := by decide +kernel
example : (collectDefinitions [.type exQuery, .type exQuery]).toBool = false := by decide +kernel

/-- `type Query { f(a: E = B): Int }  enum E { A }  extend enum E { B }` -/
def s8Doc : Doc := [
  .type { kind := .object, name := "Query",
          fields := [{ name := "f", type := .named "Int", args := [{ name := "a", type := .named "E", default := some (.enum "B") }] }] },
  .type { kind := .enum, name := "E", values := [{ name := "A" }] },
  .ext { kind := .enum, name := "E", values := [{ name := "B" }] }]

-- decided together: `build s8Doc` is evaluated once
private theorem s8_builds : (build s8Doc).toBool = false ∧ (match build s8Doc with | .error (.lib .sdl) => true | _ => false) = true := by
  decide +kernel

example : (Declared s8Doc).isSome = true := by decide +kernel
example : (build s8Doc).toBool = false := s8_builds.1
example : (match build s8Doc with | .error (.lib .sdl) => true | _ => false) = true := s8_builds.2

theorem s8_valid : SdlValid s8Doc := by decide +kernel

/-- `build_exact` at full strength is FALSE on the (fixed) code: what is left of finding S8 after fix C14-T15 — a
    default literal written in a DEFINITION is first coerced against the un-extended definitions, and refused when
    it needs a member that only an `extend` block declares. Replay: corpus/C11 `S8-default-needs-extension-enum-value`. -/
theorem build_exact_refuted : ¬ BuildExactStatement := fun h => by
  obtain ⟨s, d, hb, _, _⟩ := h s8Doc s8_valid
  have h2 := s8_builds.1
  rw [hb] at h2
  simp [Except.toBool] at h2

def okDoc : Doc := [
  .ext { kind := .object, name := "Query", fields := [{ name := "c", type := .named "A" }] },
  .type { kind := .object, name := "Query", desc := some "root",
          fields := [{ name := "f", type := .named "Int", dirs := [{ name := "deprecated" }],
                       args := [{ name := "a", type := .list (.named "E"), default := some (.enum "B") },
                                { name := "i", type := .named "A", default := some (.obj [("a", .obj [])]) }] }] },
  .type { kind := .enum, name := "E", values := [{ name := "A" }, { name := "B", dirs := [{ name := "deprecated", args := [("reason", .str "old")] }] }] },
  .type { kind := .input, name := "A", inputFields := [{ name := "a", type := .named "A" }, { name := "s", type := .named "String", default := some (.str "x") }] },
  .ext { kind := .object, name := "Query", fields := [{ name := "d", type := .nonNull (.named "Query") }] },
  .schema { ops := [("query", "Query")] }]

example : SdlValid okDoc := by decide +kernel
def shape (s : SchemaD) : List (String × List String) :=
  (s.types.map fun t => (t.name, t.fields.map (·.name) ++ t.values.map (·.name) ++ t.inputFields.map (·.name))) ++ [("query", s.query.toList)]
private theorem okDoc_builds : ((build okDoc).toOption.map shape == (Declared okDoc).map shape) = true ∧
    ((build okDoc).toOption.map shape).isSome = true := by decide +kernel
example : ((build okDoc).toOption.map shape == (Declared okDoc).map shape) = true := okDoc_builds.1
example : ((build okDoc).toOption.map shape).isSome = true := okDoc_builds.2

end PyGql.Props.C11
