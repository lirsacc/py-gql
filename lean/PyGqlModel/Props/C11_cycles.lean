/-
  C11 — `build_exact_final`: exactness from `SdlOK`, the premises of `ValidExt` that speak of what the builder computed
  on the way being DERIVED.  (1) The eager reference graph of the definitions alone is a subgraph of the graph of the
  merged definitions (extension only appends members: `built_vs_extended`, `hasEagerCycle_mono`), hence `noEagerCycleBase`
  follows from `noEagerCycle`.  (2) Root operations: `addOps` succeeds on distinct operations naming known types
  (`addOps_ok`, `addOps_blocks_ok`), and what it returns is what the document declares (`baseRoots`, `built_vs_declared`),
  hence `rootsOk`.  (3) `SdlOK`, `validDoc_of_sdlOK`, `build_exact_final`, and the witness `extDoc`.
-/
import PyGqlModel.Props.C11_nos8
import PyGqlModel.Props.C11


namespace PyGql.Props.C11
open PyGql PyGql.Sdl PyGql.SdlSpec

theorem appendNew_prefix {α} (errE : Err) (name : α → String) (xs acc r : List α) (h : appendNew errE name acc xs = .ok r) :
    ∃ suf, r = acc ++ suf := ⟨xs, appendNew_ok errE name xs acc r h⟩

theorem foldlM_prefix {E β} (step : List β → E → R (List β)) (hstep : ∀ acc e r, step acc e = .ok r → ∃ suf, r = acc ++ suf) :
    ∀ (es : List E) (base r : List β), es.foldlM step base = .ok r → ∃ suf, r = base ++ suf := by
  intro es
  induction es with
  | nil => intro base r h; simp [pure, Except.pure] at h; exact ⟨[], by simp [h]⟩
  | cons e es ih =>
    intro base r h
    rw [List.foldlM_cons] at h
    obtain ⟨a, ha, h2⟩ := bind_ok _ _ _ h
    obtain ⟨s1, e1⟩ := hstep base e a ha
    obtain ⟨s2, e2⟩ := ih a r h2
    exact ⟨s1 ++ s2, by rw [e2, e1, List.append_assoc]⟩

private theorem mergeStep_prefix {α β} (bf : α → R β) (name : β → String) (sel : TypeDef → List α) (acc : List β) (e : TypeDef) (r : List β)
    (h : (do let new ← (sel e).mapM bf; appendNew (.lib .ext) name acc new) = .ok r) : ∃ suf, r = acc ++ suf := by
  obtain ⟨new, _, h2⟩ := bind_ok _ _ _ h
  exact appendNew_prefix _ name new acc r h2

private theorem namesStep_prefix (env : Env) (sel : TypeDef → List String) (acc : List String) (e : TypeDef) (r : List String)
    (h : (do checkNames env (sel e); appendNew (.lib .ext) id acc (sel e)) = .ok r) : ∃ suf, r = acc ++ suf := by
  obtain ⟨_, _, h2⟩ := bind_ok _ _ _ h
  exact appendNew_prefix _ id _ acc r h2

private theorem failIf_bind_ok {β} (c : Bool) (e : Err) (f : Unit → R β) (b : β) (h : (failIf c e >>= f) = .ok b) : f () = .ok b := by
  obtain ⟨u, _, h2⟩ := bind_ok _ _ _ h
  exact h2

def fieldRefsDef (fs : List FieldDef) : List String := fs.flatMap fun f => f.args.map (·.type.base)

def eagerRefsDef (d : TypeDef) : List String :=
  match d.kind with
  | .object => d.interfaces ++ fieldRefsDef d.fields
  | .interface => fieldRefsDef d.fields
  | .union => d.members
  | _ => []

theorem buildArgumentX_type (eB eX : Env) (hide : Option String) (a : InputValDef) (r : ArgD) (h : buildArgumentX eB eX hide a = .ok r) : r.type.base = a.type.base :=
  congrArg Ty.base (buildArgumentX_name_type eB eX hide a r h).2

theorem buildArgument_type (env : Env) (a : InputValDef) (r : ArgD) (h : buildArgument env a = .ok r) : r.type.base = a.type.base := by
  rw [← buildArgumentX_none env env fun _ => rfl] at h
  exact buildArgumentX_type env env none a r h

theorem buildFieldX_refs (eB eX : Env) (hide : Option String) (f : FieldDef) (r : FieldD) (h : buildFieldX eB eX hide f = .ok r) :
    r.args.map (·.type.base) = f.args.map (·.type.base) :=
  mapM_names _ (·.type.base) (·.type.base) (buildArgumentX_type eB eX hide) _ _ (buildFieldX_name_args eB eX hide f r h).2

theorem buildField_refs (env : Env) (f : FieldDef) (r : FieldD) (h : buildField env f = .ok r) :
    r.args.map (·.type.base) = f.args.map (·.type.base) := by
  rw [← buildFieldX_none env env fun _ => rfl] at h
  exact buildFieldX_refs env env none f r h

theorem fields_refs {bf : FieldDef → R FieldD} (hbf : ∀ f r, bf f = .ok r → r.args.map (·.type.base) = f.args.map (·.type.base))
    (fs : List FieldDef) (rs : List FieldD) (h : fs.mapM bf = .ok rs) :
    (rs.flatMap fun f => f.args.map (·.type.base)) = fieldRefsDef fs := by
  have := mapM_names bf (fun f => f.args.map (·.type.base)) (fun f => f.args.map (·.type.base)) hbf _ _ h
  simp only [fieldRefsDef, List.flatMap_def, this]

theorem buildTypeDefX_shape (eB eX : Env) (hide : Option String) (d : TypeDef) (r : TypeD) (h : buildTypeDefX eB eX hide d = .ok r) :
    r.name = d.name ∧ r.kind = d.kind ∧ eagerRefs r = eagerRefsDef d := by
  obtain ⟨hn, hk', hf, hi, hm, _, _⟩ := buildTypeDefX_lists eB eX hide d r h
  refine ⟨hn, hk', ?_⟩
  unfold eagerRefs eagerRefsDef
  rw [hk']
  -- scalars, enums and input objects have no eager references: `rw` closes these cases
  cases hk : d.kind <;> rw [hk] at hf hi hm
  case object =>
    exact hi ▸ congrArg (d.interfaces ++ ·) (fields_refs (buildFieldX_refs eB eX hide) _ _ hf)
  case interface =>
    exact fields_refs (buildFieldX_refs eB eX hide) _ _ hf
  case union =>
    exact hm

theorem buildTypeDef_shape (env : Env) (d : TypeDef) (r : TypeD) (h : buildTypeDef env d = .ok r) :
    r.name = d.name ∧ r.kind = d.kind ∧ eagerRefs r = eagerRefsDef d := by
  rw [← buildTypeDefX_none env env fun _ => rfl] at h
  exact buildTypeDefX_shape env env none d r h

theorem eagerRefsDef_merge (X : List TypeDef) (t : TypeDef) : ∀ m ∈ eagerRefsDef t, m ∈ eagerRefsDef (mergeDef X t) := by
  obtain ⟨s1, s2, s3, s4, s5, s6, s7, s8⟩ := mergeDef_spec X t
  intro m hm
  unfold eagerRefsDef at hm ⊢
  rw [s1]
  cases hk : t.kind <;> simp only [hk] at hm ⊢
  · exact hm
  · rw [s4, s5]
    simp only [fieldRefsDef, List.flatMap_append, List.mem_append] at hm ⊢
    rcases hm with hm | hm
    · exact Or.inl (Or.inl hm)
    · exact Or.inr (Or.inl hm)
  · rw [s4]
    simp only [fieldRefsDef, List.flatMap_append, List.mem_append] at hm ⊢
    exact Or.inl hm
  · rw [s6]; exact List.mem_append_left _ hm
  · exact hm
  · exact hm

/-- pointwise: same name, every eager reference kept -/
def RefSub (t r : TypeD) : Prop := r.name = t.name ∧ ∀ m ∈ eagerRefs t, m ∈ eagerRefs r

theorem find_all₂ (n : String) : ∀ (bts rs : List TypeD), All₂ RefSub bts rs → ∀ bt, bts.find? (·.name == n) = some bt →
    ∃ r, rs.find? (·.name == n) = some r ∧ RefSub bt r := by
  intro bts rs h
  induction h with
  | nil => intro bt hb; simp at hb
  | @cons a b as bs p _ ih =>
    intro bt hb
    simp only [List.find?_cons] at hb ⊢
    rw [p.1]
    cases hn : (a.name == n) with
    | true => rw [hn] at hb; simp at hb; subst hb; exact ⟨b, rfl, p⟩
    | false => rw [hn] at hb; exact ih bt hb

theorem eagerReach_mono (bts rs : List TypeD) (h : All₂ RefSub bts rs) (target : String) :
    ∀ (fuel : Nat) (n : String), eagerReach bts target fuel n = true → eagerReach rs target fuel n = true := by
  intro fuel
  induction fuel with
  | zero => intro n hn; simp [eagerReach] at hn
  | succ k ih =>
    intro n hn
    simp only [eagerReach] at hn ⊢
    cases hf : bts.find? (·.name == n) with
    | none => rw [hf] at hn; simp at hn
    | some bt =>
      rw [hf] at hn
      simp only [] at hn
      obtain ⟨r, hr, hsub⟩ := find_all₂ n bts rs h bt hf
      rw [hr]
      simp only []
      obtain ⟨m, hm, hc⟩ := List.any_eq_true.mp hn
      refine List.any_eq_true.mpr ⟨m, hsub.2 m hm, ?_⟩
      simp only [Bool.or_eq_true] at hc ⊢
      rcases hc with hc | hc
      · exact Or.inl hc
      · exact Or.inr (ih m hc)

theorem hasEagerCycle_mono (bts rs : List TypeD) (h : All₂ RefSub bts rs) (hr : hasEagerCycle rs = false) : hasEagerCycle bts = false := by
  cases hb : hasEagerCycle bts with
  | false => rfl
  | true =>
    simp only [hasEagerCycle] at hb
    obtain ⟨t, ht, hreach⟩ := List.any_eq_true.mp hb
    obtain ⟨r, hrm, hsub⟩ := all₂_mem_left _ _ _ h t ht
    have := eagerReach_mono bts rs h t.name _ _ hreach
    rw [all₂_length _ _ _ h, ← hsub.1] at this
    have hc : hasEagerCycle rs = true := List.any_eq_true.mpr ⟨r, hrm, this⟩
    rw [hr] at hc
    cases hc

theorem built_vs_extended (eB eX : Env) (hide : Option String) (X : List TypeDef) (defs : List TypeDef) (bts rs : List TypeD)
    (hb : defs.mapM (buildTypeDef eB) = .ok bts) (hr : defs.mapM (fun t => buildTypeDefX eB eX hide (mergeDef X t)) = .ok rs) :
    All₂ (fun bt r => r.name = bt.name ∧ r.kind = bt.kind ∧ ∀ m ∈ eagerRefs bt, m ∈ eagerRefs r) bts rs := by
  refine all₂_join _ _ _ ?_ _ _ _ (mapM_forall₂ _ _ _ hb) (mapM_forall₂ _ _ _ hr)
  intro t bt r h1 h2
  obtain ⟨n1, k1, e1⟩ := buildTypeDef_shape eB t bt h1
  obtain ⟨n2, k2, e2⟩ := buildTypeDefX_shape eB eX hide _ r h2
  obtain ⟨s1, s2, _⟩ := mergeDef_spec X t
  refine ⟨by rw [n1, n2, s2], by rw [k1, k2, s1], ?_⟩
  intro m hm
  rw [e1] at hm
  rw [e2]
  exact eagerRefsDef_merge X t m hm

theorem noEagerCycleBase_of_extended (bts rs : List TypeD)
    (h : All₂ (fun bt r => r.name = bt.name ∧ r.kind = bt.kind ∧ ∀ m ∈ eagerRefs bt, m ∈ eagerRefs r) bts rs)
    (hr : hasEagerCycle rs = false) : hasEagerCycle bts = false :=
  hasEagerCycle_mono bts rs (all₂_imp _ _ (fun _ _ hab => ⟨hab.1, hab.2.2⟩) _ _ h) hr

theorem get_set_ne (r : Roots) (op op' ty : String) (h : op' ≠ op) : (r.set op ty).get op' = r.get op' := by
  unfold Roots.get
  split
  · unfold Roots.set; split <;> simp_all
  · unfold Roots.set; split <;> simp_all
  · unfold Roots.set; split <;> simp_all
  · rfl

theorem fold_get_notin (ops : List (String × String)) : ∀ (r : Roots) (op' : String), op' ∉ ops.map (·.1) →
    (ops.foldl (fun r (o : String × String) => r.set o.1 o.2) r).get op' = r.get op' := by
  induction ops with
  | nil => intro r op' _; rfl
  | cons o os ih =>
    intro r op' h
    simp only [List.map_cons, List.mem_cons, not_or] at h
    rw [List.foldl_cons, ih _ _ h.2, get_set_ne _ _ _ _ h.1]

theorem addOps_ok (res : String → Bool) (errE : Err) : ∀ (ops : List (String × String)) (r : Roots),
    (∀ o ∈ ops, r.get o.1 = none ∧ res o.2 = true) → (ops.map (·.1)).Nodup →
    addOps res errE r ops = .ok (ops.foldl (fun r (o : String × String) => r.set o.1 o.2) r) := by
  intro ops
  induction ops with
  | nil => intro r _ _; rfl
  | cons o os ih =>
    intro r h hn
    obtain ⟨op, ty⟩ := o
    simp only [List.map_cons, List.nodup_cons] at hn
    have h0 := h (op, ty) (by simp)
    simp only [addOps, h0.1, Option.isSome_none, Bool.false_eq_true, if_false, h0.2, Bool.not_true, List.foldl_cons]
    apply ih
    · intro o' ho'
      have := h o' (by simp [ho'])
      refine ⟨?_, this.2⟩
      rw [get_set_ne _ _ _ _ (fun e => hn.1 (by rw [← e]; exact List.mem_map_of_mem ho'))]
      exact this.1
    · exact hn.2

theorem addOps_blocks_ok (res : String → Bool) (errE : Err) : ∀ (blocks : List SchemaDef) (r : Roots),
    (∀ o ∈ blocks.flatMap (·.ops), r.get o.1 = none ∧ res o.2 = true) → ((blocks.flatMap (·.ops)).map (·.1)).Nodup →
    blocks.foldlM (fun r se => addOps res errE r se.ops) r
      = .ok (blocks.foldl (fun r se => se.ops.foldl (fun r (o : String × String) => r.set o.1 o.2) r) r) := by
  intro blocks
  induction blocks with
  | nil => intro r _ _; rfl
  | cons b bs ih =>
    intro r h hn
    simp only [List.flatMap_cons, List.map_append] at hn
    have hn' := List.nodup_append.mp hn
    rw [List.foldlM_cons, addOps_ok res errE b.ops r (fun o ho => h o (by simp [ho])) hn'.1]
    simp only [bind, Except.bind, List.foldl_cons]
    apply ih
    · intro o ho
      have := h o (by simp only [List.flatMap_cons, List.mem_append]; exact Or.inr ho)
      refine ⟨?_, this.2⟩
      rw [fold_get_notin]
      · exact this.1
      · intro hin
        exact hn'.2.2 _ hin _ (List.mem_map_of_mem ho) rfl
    · exact hn'.2.1

theorem defaultRoots_all₂ (bts rs : List TypeD) (h : All₂ (fun t r => r.name = t.name ∧ r.kind = t.kind) bts rs) :
    defaultRoots bts = defaultRoots rs := by
  have hany : ∀ n, bts.any (fun t => t.name == n && t.kind == .object) = rs.any (fun t => t.name == n && t.kind == .object) := by
    intro n
    induction h with
    | nil => rfl
    | cons p _ ih => simp only [List.any_cons, p.1, p.2, ih]
  simp only [defaultRoots, hany]

/-- the roots a document declares before its `extend schema` blocks -/
def baseRoots (doc : Doc) (types : List TypeD) : Roots :=
  match (schemaDefs doc).head? with
  | some sd => sd.ops.foldl (fun r (o : String × String) => r.set o.1 o.2) {}
  | none => defaultRoots types

/-- **Syntactic validity** of a type-system document (what the builder is responsible for; kind rules are C13's) plus
    **NoS8** (`baseDefaults`: what fix C14-T15 leaves of it).  No field takes an intermediate result of the builder as a
    parameter (as `ValidExt` does with `bts`), but `declares`, `selfDefaults`, `noThunkCycle`, `noEagerCycle` are stated with
    functions of the model (the member builders behind `Declared`, `buildTypeDefX`, the two bounded searches); the form
    without them is `SdlRules` + `Residue` (Props/C11_valid.lean). -/
structure SdlOK (doc : Doc) (d : SchemaD) : Prop where
  uniqueTypes : ((typeDefs doc).map (·.name)).Nodup
  uniqueDirectives : ((dirDefs doc).map (·.name)).Nodup
  oneSchema : (schemaDefs doc).length ≤ 1
  noBuiltinNames : ∀ t ∈ typeDefs doc, isDefaultName t.name = false
  extTargets : ∀ e ∈ typeExts doc, ∃ t ∈ typeDefs doc, t.name = e.name ∧ t.kind = e.kind
  /-- every member of the merged definitions builds (references resolve, default literals are constants of their
      declared types over the merged definitions, `@deprecated` is well-formed) and `d` is the declared content -/
  declares : Declared doc = some d
  /-- every default literal written in a DEFINITION is a value over the definitions alone -/
  baseDefaults : BaseDefaults doc
  /-- no default of an input type's own field needs the type again while it is extended -/
  selfDefaults : SelfDefaults doc
  membersUnique : ∀ r ∈ d.types, (r.fields.map (·.name)).Nodup ∧ (r.inputFields.map (·.name)).Nodup ∧ (r.values.map (·.name)).Nodup ∧
      r.members.Nodup ∧ r.interfaces.Nodup
  noThunkCycle : hasThunkCycle (Env.of (typeDefs doc)) (typeDefs doc) = false
  noEagerCycle : hasEagerCycle d.types = false
  noSpecified : d.directives.any (fun x => specifiedDirectives.contains x.name) = false
  /-- the operations of the `schema` block are pairwise distinct and name known types -/
  schemaOps : ∀ sd, (schemaDefs doc).head? = some sd →
      (sd.ops.map (·.1)).Nodup ∧ ∀ o ∈ sd.ops, (Env.of (typeDefs doc)).resolves o.2 = true
  /-- the operations of the `extend schema` blocks are new, pairwise distinct and name known types -/
  extOps : ((schemaExtensions doc).flatMap (·.ops)).map (·.1) |>.Nodup
  extOpsNew : ∀ o ∈ (schemaExtensions doc).flatMap (·.ops),
      (baseRoots doc d.types).get o.1 = none ∧ (isDefaultName o.2 || d.types.any (·.name == o.2)) = true

theorem empty_get (op : String) : ({} : Roots).get op = none := by
  unfold Roots.get; split <;> rfl

theorem declaredRoots_eq (doc : Doc) (types : List TypeD) :
    declaredRoots doc types = (schemaExtensions doc).foldl (fun r se => se.ops.foldl (fun r (o : String × String) => r.set o.1 o.2) r)
      (baseRoots doc types) := by
  unfold declaredRoots baseRoots
  cases schemaDefs doc with
  | nil => rfl
  | cons sd _ => rfl

theorem built_vs_declared (doc : Doc) (d : SchemaD) (hdecl : Declared doc = some d) (bts : List TypeD)
    (hb : (typeDefs doc).mapM (buildTypeDef (Env.of (typeDefs doc))) = .ok bts) :
    All₂ (fun bt r => r.name = bt.name ∧ r.kind = bt.kind ∧ ∀ m ∈ eagerRefs bt, m ∈ eagerRefs r) bts d.types := by
  obtain ⟨hts, _, _⟩ := declared_parts doc d hdecl
  have hX : (Env.of (typeDefs doc)).extended (typeExts doc) = Env.of (merged doc) := extended_eq _ _
  refine built_vs_extended (Env.of (typeDefs doc)) ((Env.of (typeDefs doc)).extended (typeExts doc)) none (typeExts doc) _ _ _ hb ?_
  rw [← mapM_map_eq]
  refine mapM_of_ok _ _ (buildTypeDefX_of_ok _ _ (extended_resolves _ _)) _ _ ?_
  rw [hX]; exact hts

theorem validDoc_of_sdlOK (doc : Doc) (d : SchemaD) (v : SdlOK doc d) : ValidDoc doc d := by
  exact
    { uniqueTypes := v.uniqueTypes, uniqueDirectives := v.uniqueDirectives, oneSchema := v.oneSchema,
      noBuiltinNames := v.noBuiltinNames, extTargets := v.extTargets, declares := v.declares,
      baseDefaults := v.baseDefaults, selfDefaults := v.selfDefaults, membersUnique := v.membersUnique, noThunkCycle := v.noThunkCycle,
      noEagerCycle := v.noEagerCycle,
      noEagerCycleBase := fun bts hb => noEagerCycleBase_of_extended bts d.types (built_vs_declared doc d v.declares bts hb) v.noEagerCycle,
      noSpecified := v.noSpecified,
      rootsOk := by
        intro bts hb
        have hall := all₂_imp _ _ (fun a b hab => (⟨hab.1, hab.2.1⟩ : b.name = a.name ∧ b.kind = a.kind))
          _ _ (built_vs_declared doc d v.declares bts hb)
        have hr := declared_roots doc d v.declares
        rw [declaredRoots_eq] at hr
        refine ⟨baseRoots doc d.types, ?_, ?_⟩
        · unfold buildRoots baseRoots
          cases hh : (schemaDefs doc).head? with
          | none => simp only [pure, Except.pure]; rw [defaultRoots_all₂ bts d.types hall]
          | some sd =>
            obtain ⟨hn, hres⟩ := v.schemaOps sd hh
            exact addOps_ok _ _ sd.ops {} (fun o ho => ⟨empty_get _, hres o ho⟩) hn
        · rw [addOps_blocks_ok _ _ _ _ v.extOpsNew v.extOps, ← hr] }

/-- **build_exact** (final form, documents with extensions): a syntactically valid document in which every default
    literal written in a DEFINITION is a value over the definitions alone (what is left of NoS8) builds exactly its
    declared content — every extension merged, every default evaluated in the extended types. The only premises are
    `SdlOK`'s: nothing about intermediate results of the builder. -/
theorem build_exact_final (doc : Doc) (d : SchemaD) (v : SdlOK doc d) : build doc = .ok d :=
  build_exact_of_baseDefaults doc d (validDoc_of_sdlOK doc d v)

theorem baseDefaults_of_noDefaults (doc : Doc)
    (h1 : ∀ t ∈ typeDefs doc, ∀ a ∈ inputValsOf t, a.default.isNone = true)
    (h2 : ∀ d ∈ dirDefs doc, ∀ a ∈ d.args, a.default.isNone = true) : BaseDefaults doc := by
  refine ⟨?_, ?_⟩
  · intro t ht a ha l hl; have := h1 t ht a ha; rw [hl] at this; cases this
  · intro d hd a ha l hl; have := h2 d hd a ha; rw [hl] at this; cases this

def extDoc : Doc := [.ext exExt, .type exQuery, .type { kind := .enum, name := "E", values := [{ name := "A" }] },
  .ext { kind := .enum, name := "E", values := [{ name := "B" }] },
  .type { kind := .object, name := "M", fields := [{ name := "m", type := .named "E" }] },
  .schemaExt { ops := [("mutation", "M")] }]

theorem extDeclares : (Declared extDoc).isSome = true := by decide +kernel

/-- non-vacuity: a document with extensions of two kinds and an `extend schema` satisfies `SdlOK` -/
theorem extDoc_ok : SdlOK extDoc ((Declared extDoc).get extDeclares) :=
  -- the facts are decided together: the kernel evaluates the document and `Declared extDoc` once
  have ⟨uniqueTypes, uniqueDirectives, oneSchema, noBuiltinNames, extTargets, membersUnique, noThunkCycle, noEagerCycle,
      noSpecified, schemaOps, extOps, extOpsNew⟩ : _ ∧ _ ∧ _ ∧ _ ∧ _ ∧ _ ∧ _ ∧ _ ∧ _ ∧ _ ∧ _ ∧ _ := by decide +kernel
  { uniqueTypes, uniqueDirectives, oneSchema, noBuiltinNames, extTargets, declares := (Option.some_get _).symm,
    baseDefaults := baseDefaults_of_noDefaults extDoc (by decide +kernel) (by decide +kernel),
    selfDefaults := by
      intro t ht
      by_cases hk : t.kind = .input
      · exact selfDefaults_of_noDefaults _ _ _ _ _ (by rw [(mergeDef_spec _ t).1]; exact hk) (by
          revert t; decide +kernel)
      · exact selfDefaults_of_kind _ _ t _ hk,
    membersUnique, noThunkCycle, noEagerCycle, noSpecified, schemaOps, extOps, extOpsNew }

example : build extDoc = .ok ((Declared extDoc).get extDeclares) := build_exact_final _ _ extDoc_ok

end PyGql.Props.C11
