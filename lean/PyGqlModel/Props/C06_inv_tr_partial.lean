/-
  C06 - invariance under `Tr` (selection order, argument order, fragment renaming), one statement for the 10
  node-by-node / name rules (`Proved`), the 8 type-dependent and context rules (`ProvedTyped`) and
  `ValuesOfCorrectTypeChecker` (`Props/C06_values_inv.lean`).
-/
import PyGqlModel.Props.C06_inv_tr_typed
import PyGqlModel.Props.C06_values_inv
namespace PyGql.Props.C06
open PyGql PyGql.Validate PyGql.Validate.Spec

def ProvedTr : List Rule := Proved ++ ProvedTyped ++ ProvedValues

example : ProvedTr.length = 19 := by decide +kernel

/-- **perm_selections / perm_arguments / alpha_fragments** for the rules of `ProvedTr` (general form; instances as in
    C06_inv_proved.lean). The remaining rules: `PossibleFragmentSpreads`, `NoFragmentCycles` (Props/C06_inv_cycles.lean), the four
    variable rules (C06_inv_tr_vars.lean), `SingleFieldSubscriptions` (C06_inv_tr_subscriptions.lean); all 25 together:
    `tr_invariance_25_partial`; with `OverlappingFieldsCanBeMerged`: `tr_invariance_all26` (Props/C06_inv_tr_all26.lean).
    [alone-run statement, see `Silent`; the chain: `chainM_six_transformations`] -/
theorem tr_invariance_all_partial (T : Tr) (hinj : ∀ a b, T.frag a = T.frag b → a = b) (s : SchemaD) (fx : Fixes) (d : Doc)
    (r : Rule) (hr : r ∈ ProvedTr) (hns : r ≠ .singleFieldSubscriptions) : Silent s fx r (T.doc d) ↔ Silent s fx r d := by
  simp only [ProvedTr, List.mem_append] at hr
  rcases hr with (hr | hr) | hr
  · exact tr_invariance_partial T hinj s fx d r hr hns
  · have hp : r ∈ ProvedPermDefs := by simp only [ProvedPermDefs, List.mem_append]; exact Or.inr hr
    rw [rule_iff_permdefs s fx _ r hp, rule_iff_permdefs s fx d r hp]
    exact spec_tr_more T hinj s fx d r hr
  · simp only [ProvedValues, List.mem_cons, List.not_mem_nil, or_false] at hr
    subst hr
    exact tr_invariance_values T s fx d

theorem perm_selections_all_partial (π : List Sel → List Sel) (hπ : ∀ l, (π l).Perm l) (s : SchemaD) (fx : Fixes) (d : Doc)
    (r : Rule) (hr : r ∈ ProvedTr) (hns : r ≠ .singleFieldSubscriptions) :
    Silent s fx r ((Tr.mk π id id hπ (fun _ => List.Perm.refl _)).doc d) ↔ Silent s fx r d :=
  tr_invariance_all_partial _ (fun _ _ e => e) s fx d r hr hns

theorem perm_arguments_all_partial (π : List Arg → List Arg) (hπ : ∀ l, (π l).Perm l) (s : SchemaD) (fx : Fixes) (d : Doc)
    (r : Rule) (hr : r ∈ ProvedTr) (hns : r ≠ .singleFieldSubscriptions) :
    Silent s fx r ((Tr.mk id π id (fun _ => List.Perm.refl _) hπ).doc d) ↔ Silent s fx r d :=
  tr_invariance_all_partial _ (fun _ _ e => e) s fx d r hr hns

theorem alpha_fragments_all_partial (ρ : String → String) (hρ : ∀ a b, ρ a = ρ b → a = b) (s : SchemaD) (fx : Fixes) (d : Doc)
    (r : Rule) (hr : r ∈ ProvedTr) (hns : r ≠ .singleFieldSubscriptions) :
    Silent s fx r ((Tr.mk id id ρ (fun _ => List.Perm.refl _) (fun _ => List.Perm.refl _)).doc d) ↔ Silent s fx r d :=
  tr_invariance_all_partial _ hρ s fx d r hr hns

end PyGql.Props.C06
