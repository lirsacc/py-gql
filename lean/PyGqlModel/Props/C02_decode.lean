/-
  C02 (decoding part): literal values are decoded as the specification prescribes.
-/
import PyGqlModel.Lex
import PyGqlModel.Lemmas.LexBlockString
import PyGqlModel.Lemmas.LexChars
import PyGqlModel.Lemmas.LexRange
import PyGqlModel.Lemmas.LexUnicodePair

namespace PyGql.Props.C02
open PyGql.Lex PyGql.BlockString
open PyGql.Spec PyGql.Spec.Lexical

/-- `parse_block_string` IS the specification's `BlockStringValue()`, for every raw value:
    only LF | CR | CRLF split lines, only space / tab count as indentation or blank. -/
theorem block_string_spec (raw : Text) : parseBlockString raw = BlockStringValue raw := by
  simp only [parseBlockString, BlockStringValue, split_spec, commonIndent_spec, popLeading_spec,
    popTrailing_spec, joinLF_spec]
  cases Spec.commonIndent (splitByLineTerminator [] raw) with
  | none => rfl
  | some k =>
    cases splitByLineTerminator [] raw with
    | nil => simp
    | cons f r => simp

/-- U+2028, U+2029, U+0085, VT, FF are not line terminators and NBSP is not indentation (defects B1, B2 fixed) -/
example : parseBlockString [97, 0x2028, 98] = [97, 0x2028, 98] := by decide +kernel
example : parseBlockString [10, 0xA0, 97, 10, 0xA0, 98] = [0xA0, 97, 10, 0xA0, 98] := by decide +kernel
example : parseBlockString [10, 32, 32, 97, 13, 10, 32, 32, 32, 98, 13, 32, 32, 99, 10] = [97, 10, 32, 98, 10, 99] := by decide +kernel

/-- escape decoding, soundness: whatever `_read_string` accepts after the opening quote is
    StringCharacter* followed by the closing quote, and the token value is its semantic value -/
theorem escape_spec_sound (n : Nat) (s v rest : Text) (h : readStringBody n s = .ok (v, rest)) :
    ∃ body, s = body ++ 34 :: rest ∧ stringCharacters body = some v := by
  -- The 17 branches of `readStringBody`, in the order of its text.  Accepting: 2 the closing quote, 4 `\` EscapedCharacter,
  -- 6 `\uXXXX\uXXXX` read as one surrogate pair, 9 a single `\uXXXX`, 16 an ordinary character.  Rejecting: 1 end of source,
  -- 3 `\` at the end, 5 / 7 / 10 / 17 the rest behind an accepted character is rejected, 8 a pair cut short (unreachable),
  -- 11 a non-hex digit, 12 fewer than four characters after `\u`, 13 an unknown escape, 14 a line terminator, 15 an
  -- unprintable character.
  fun_induction readStringBody n s generalizing v with
  | case1 => cases h
  | case2 t =>
    simp only [Except.ok.injEq, Prod.mk.injEq] at h
    obtain ⟨rfl, rfl⟩ := h
    exact ⟨[], by simp, by rw [stringCharacters.eq_def]⟩
  | case3 _ => cases h
  | case4 e t1 ch hq v' r hrec _ ih =>
    simp only [Except.ok.injEq, Prod.mk.injEq] at h
    obtain ⟨rfl, rfl⟩ := h
    obtain ⟨body, rfl, hb⟩ := ih v' hrec
    have he : e ≠ 117 := by
      intro he; subst he
      rw [quoted_spec] at hq; simp [escapedCharacter] at hq
    refine ⟨92 :: e :: body, by simp, ?_⟩
    rw [quoted_spec] at hq
    rw [stringCharacters.eq_def]; simp [he, hq, hb]
  | case5 => cases h
  | case6 a b c' d ch hx cp e1 e2 a2 b2 c2 d2 t3 v' r hrec _ hq hp ih =>
    -- a surrogate pair of escapes
    simp only [Except.ok.injEq, Prod.mk.injEq] at h
    obtain ⟨rfl, rfl⟩ := h
    obtain ⟨body, rfl, hb⟩ := ih v' hrec
    refine ⟨92 :: 117 :: a :: b :: c' :: d :: e1 :: e2 :: a2 :: b2 :: c2 :: d2 :: body, by simp, ?_⟩
    rw [hex4_spec] at hx
    have hp' : pairedAt ch (e1 :: e2 :: a2 :: b2 :: c2 :: d2 :: body) = some cp := by
      rw [← pairAt_spec]; simpa [pairAt] using hp
    rw [stringCharacters_unicode_pair a b c' d ch e1 e2 a2 b2 c2 d2 cp body hx hp', hb]; rfl
  | case7 => cases h
  | case8 => cases h
  | case9 a b c' d t2 ch hx hnp v' r hrec _ hq ih =>
    -- an escape that is not the high half of a pair of escapes
    simp only [Except.ok.injEq, Prod.mk.injEq] at h
    obtain ⟨rfl, rfl⟩ := h
    obtain ⟨body, rfl, hb⟩ := ih v' hrec
    refine ⟨92 :: 117 :: a :: b :: c' :: d :: body, by simp, ?_⟩
    rw [hex4_spec] at hx
    have hnp' : pairedAt ch body = none := by
      rw [← pairAt_spec, ← pairAt_append_quote ch body r]; exact hnp
    rw [stringCharacters_unicode_nopair a b c' d ch body hx hnp', hb]; rfl
  | case10 => cases h
  | case11 => cases h
  | case12 => cases h
  | case13 => cases h
  | case14 => cases h
  | case15 => cases h
  | case16 c t h34 h92 hnl hp v' r hrec ih =>
    simp only [Except.ok.injEq, Prod.mk.injEq] at h
    obtain ⟨rfl, rfl⟩ := h
    obtain ⟨body, rfl, hb⟩ := ih v' hrec
    refine ⟨c :: body, by simp, ?_⟩
    have hsrc : isSourceChar c = true ∧ isLineTerm c = false := by
      have := isPrintable_spec c
      have hp' : isPrintable c = true := by simpa using hp
      rw [hp'] at this
      simpa [Bool.and_eq_true] using this.symm
    rw [stringCharacters.eq_def]; simp [h92, h34, hsrc.1, hsrc.2, hb]
  | case17 => cases h

/-- escape decoding, completeness: every StringCharacter* followed by a quote is read, with its semantic value -/
theorem escape_spec_complete (n : Nat) (body v rest : Text) (h : stringCharacters body = some v) :
    readStringBody n (body ++ 34 :: rest) = .ok (v, rest) := by
  -- The 11 branches of `stringCharacters`.  With a value: 1 the empty body, 4 a pair of `\uXXXX` escapes, 6 a single
  -- `\uXXXX`, 8 `\` EscapedCharacter, 11 an ordinary character.  Without: 2 a lone `\`, 3 a non-hex digit, 5 a pair cut
  -- short, 7 fewer than four characters after `\u`, 9 an unknown escape or a rest without value, 10 a quote, line
  -- terminator or non-source character.
  fun_induction stringCharacters body generalizing v with
  | case1 =>
    simp only [Option.some.injEq] at h; subst h
    rw [readStringBody.eq_def]; simp
  | case2 => cases h
  | case3 => cases h
  | case4 a b c' d u hu cp e1 e2 a2 b2 c2 d2 t3 hp ih =>
    simp only [Option.map_eq_some_iff] at h
    obtain ⟨w, hw, rfl⟩ := h
    rw [← hex4_spec] at hu
    have hp' : pairAt u (e1 :: e2 :: a2 :: b2 :: c2 :: d2 :: (t3 ++ 34 :: rest)) = some cp := by
      rw [← pairAt_spec] at hp; simpa [pairAt] using hp
    simp only [List.cons_append]
    rw [readStringBody_unicode_pair n a b c' d u e1 e2 a2 b2 c2 d2 cp _ hu hp', ih w hw]; rfl
  | case5 => cases h
  | case6 a b c' d t2 u hu hnp ih =>
    simp only [Option.map_eq_some_iff] at h
    obtain ⟨w, hw, rfl⟩ := h
    rw [← hex4_spec] at hu
    have hnp' : pairAt u (t2 ++ 34 :: rest) = none := by
      rw [pairAt_append_quote, pairAt_spec]; exact hnp
    simp only [List.cons_append]
    rw [readStringBody_unicode_nopair n a b c' d u _ hu hnp', ih w hw]; rfl
  | case7 => cases h
  | case8 e t1 he u w hw hu ih =>
    simp only [Option.some.injEq] at h; subst h
    have := ih w hw
    rw [← quoted_spec] at hu
    rw [readStringBody.eq_def]
    simp [hu, this]
  | case9 => cases h
  | case10 => cases h
  | case11 c t h92 hbad ih =>
    simp only [Option.map_eq_some_iff] at h
    obtain ⟨w, hw, rfl⟩ := h
    have := ih w hw
    have h34 : c ≠ 34 := fun e => hbad (Or.inl e)
    have hlt : isLineTerm c = false := by
      cases hx : isLineTerm c <;> simp_all
    have hsrc : isSourceChar c = true := by
      cases hx : isSourceChar c <;> simp_all
    have hp : isPrintable c = true := by rw [isPrintable_spec]; simp [hsrc, hlt]
    have hnl : ¬ (c = 10 ∨ c = 13) := by
      simp [isLineTerm] at hlt; omega
    rw [readStringBody.eq_def]
    simp [h34, h92, hnl, hp, this]

/-- quoted-string decoding is exactly the specification's table —
    `\` EscapedCharacter, `\u` followed by exactly four characters of `[0-9A-Fa-f]` (defect L4 fixed) -/
theorem escape_spec (n : Nat) (s v rest : Text) :
    readStringBody n s = .ok (v, rest) ↔ ∃ body, s = body ++ 34 :: rest ∧ stringCharacters body = some v :=
  ⟨escape_spec_sound n s v rest, fun ⟨body, hs, hb⟩ => hs ▸ escape_spec_complete n body v rest hb⟩

/-- non-vacuity: `"aካ\n"` -/
example : (readStringBody 13 [97, 92, 117, 49, 50, 65, 98, 92, 110, 34]).toOption = some ([97, 0x12AB, 10], []) := by decide +kernel
/-- fix C02-U1: `"\\uD83D\\uDE00"` is ONE character U+1F600; an unpaired escape stays a lone code unit; a high escape
    followed by a LITERAL low surrogate is not combined -/
example : (readStringBody 14 [92, 117, 68, 56, 51, 68, 92, 117, 68, 69, 48, 48, 34]).toOption = some ([0x1F600], []) := by decide +kernel
example : (readStringBody 8 [92, 117, 68, 56, 51, 68, 34]).toOption = some ([0xD83D], []) := by decide +kernel
example : (readStringBody 9 [92, 117, 68, 56, 51, 68, 0xDE00, 34]).toOption = some ([0xD83D, 0xDE00], []) := by decide +kernel
example : (readStringBody 14 [92, 117, 68, 69, 48, 48, 92, 117, 68, 56, 51, 68, 34]).toOption = some ([0xDE00, 0xD83D], []) := by decide +kernel
/-- Arabic-Indic digits, `0x12`, a trailing blank are not hex escapes -/
example : (readStringBody 8 [92, 117, 0x661, 0x662, 0x663, 0x664, 34]).toOption = none := by decide +kernel
example : (readStringBody 8 [92, 117, 48, 120, 49, 50, 34]).toOption = none := by decide +kernel
example : (readStringBody 8 [92, 117, 49, 50, 51, 32, 34]).toOption = none := by decide +kernel

/-- numbers are kept verbatim: the token value is the exact source slice -/
theorem number_verbatim (n : Nat) (s rest : Text) (tok : Tok) (h : readNumber n s = .ok (tok, rest)) :
    tok.value = s.take (s.length - rest.length) ∧ (tok.kind = .int ∨ tok.kind = .float) := by
  -- `readNumber` builds the value as this very slice and the kind as `.float` / `.int`; the `split`s only dispose of its
  -- four failing steps
  unfold readNumber at h
  simp only [bind, Except.bind, pure, Except.pure] at h
  repeat' split at h
  all_goals first
    | (simp at h; done)
    | (simp only [Except.ok.injEq, Prod.mk.injEq] at h
       obtain ⟨rfl, rfl⟩ := h
       refine ⟨rfl, ?_⟩
       simp)

example : (readNumber 8 [45, 49, 46, 53, 101, 48, 53, 32]).toOption.map (·.1.value) = some [45, 49, 46, 53, 101, 48, 53] := by decide +kernel

end PyGql.Props.C02
