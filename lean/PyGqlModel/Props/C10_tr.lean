/-
  C10 (and C01, which uses the same `index_to_loc`): the hand-written model of `_string_utils.index_to_loc`
  (`Response.indexToLoc`, about which `loc_bounds` / `index_to_loc_total_iff` and the response theorems are stated)
  EQUALS the definition the translator derives from the source text on every run
  (`Generated/TrIndexToLoc.lean`). An edit of the Python function changes the right-hand side and re-opens this proof.
-/
import PyGqlModel.Response
import PyGqlModel.Generated.TrIndexToLoc
import PyGqlModel.Lemmas.TrBasics

namespace PyGql.Props.C10
open PyGql PyGql.Response PyGql.Generated

/-- how a result of the model (`none` = IndexError, naturals) reads as a result of the translated code -/
def locOfModel : Option (Nat × Nat) → Except String (Int × Int)
  | some (l, c) => .ok ((l : Int), (c : Int))
  | none => .error "IndexError"

private def finish : Py.Flow String (Int × Int) (Int × Int) → Except String (Int × Int)
  | .ret r => .ok r
  | .raise e => .error e
  | .fall (l, c) => .ok (l + 1, c + 1)

private theorem loop_eq (rest pre : List Nat) (q l c : Nat) :
    finish (Tr.index_to_loc.loop1 (pre ++ rest) ((pre.length : Int) + q) (Py.enumerateFrom (pre.length : Int) rest) l c)
      = locOfModel (some (indexToLocLoop rest q l c)) := by
  induction rest generalizing pre q l c with
  | nil => simp [Py.enumerateFrom, Tr.index_to_loc.loop1, finish, indexToLocLoop, locOfModel]
  | cons ch rest ih =>
    cases q with
    | zero => simp [Py.enumerateFrom, Tr.index_to_loc.loop1, finish, indexToLocLoop, locOfModel]
    | succ q =>
      have ih := ih (pre ++ [ch]) q
      have hb : pre ++ [ch] ++ rest = pre ++ ch :: rest := by simp
      have hp : (((pre ++ [ch]).length : Nat) : Int) + (q : Int) = (pre.length : Int) + ((q + 1 : Nat) : Int) := by
        simp; omega
      rw [hb, hp, Py.snoc_len] at ih
      have hne : ((pre.length : Int) == (pre.length : Int) + ((q + 1 : Nat) : Int)) = false := by
        simp; omega
      rw [Py.enumerateFrom, Tr.index_to_loc.loop1, indexToLocLoop]
      simp only [hne, Bool.false_eq_true, if_false]
      by_cases h10 : ch = 10
      · subst h10
        have := ih (l + 1) 0
        simpa using this
      · by_cases h13 : ch = 13
        · subst h13
          rw [Py.slice_next]
          cases rest with
          | nil => have := ih (l + 1) 0; simpa using this
          | cons y ys =>
            by_cases hy : y = 10
            · subst hy; have := ih l c; simpa using this
            · have := ih (l + 1) 0; simpa [hy] using this
        · have := ih l (c + 1)
          simpa [h10, h13] using this

/-- **`index_to_loc`: model = source.** For every body and every non-negative position the translated Python function
    and the hand-written model agree (IndexError ↔ `none`, otherwise the same line and column). -/
theorem index_to_loc_model_eq_source (body : Text) (position : Nat) :
    Tr.index_to_loc body (position : Int) = locOfModel (indexToLoc body position) := by
  unfold Tr.index_to_loc indexToLoc
  cases body with
  | nil =>
    cases position with
    | zero => simp [locOfModel]
    | succ n =>
      simp [Py.len, locOfModel]
      omega
  | cons ch rest =>
    by_cases hgt : position > (ch :: rest).length
    · have : ((position : Nat) : Int) > Py.len (ch :: rest) := by simp [Py.len] at *; omega
      have hgt' : rest.length + 1 < position := by simpa using hgt
      simp [this, hgt', locOfModel]
    · have h1 : ¬ (((position : Nat) : Int) > Py.len (ch :: rest)) := by simp [Py.len] at *; omega
      have h2 : ¬ (((position : Nat) : Int) < 0) := by omega
      have := loop_eq (ch :: rest) [] position 0 0
      simp only [List.nil_append, List.length_nil, Int.natCast_zero, Int.zero_add] at this
      simp only [List.isEmpty_cons, Bool.not_false, Bool.not_true, Bool.false_and, Bool.false_eq_true, if_false, h1, h2,
        decide_false, Bool.or_self, hgt, Bool.and_false, Py.enumerate]
      revert this
      cases Tr.index_to_loc.loop1 (ch :: rest) position (Py.enumerateFrom 0 (ch :: rest)) ((0 : Nat) : Int) ((0 : Nat) : Int) with
      | ret r => intro h; simpa [finish] using h
      | raise e => intro h; simpa [finish] using h
      | fall s => intro h; obtain ⟨a, b⟩ := s; simpa [finish] using h

/-- a negative position is an `IndexError` in the source (the model has no negative positions) -/
theorem index_to_loc_source_negative (body : Text) (position : Int) (h : position < 0) :
    Tr.index_to_loc body position = .error "IndexError" := by
  unfold Tr.index_to_loc
  have : position ≠ 0 := by omega
  simp [this, h]

example : Tr.index_to_loc [97, 13, 10, 98] 3 = .ok (2, 1) := by rfl
example : indexToLoc [97, 13, 10, 98] 3 = some (2, 1) := by decide +kernel

end PyGql.Props.C10
