/-
  C12 — property theorems about the printer model `PyGqlModel/SdlPrint.lean`.
  Headline: `print_pure` (history independence) — TRUE for the code in /repo (fix C12-H1: the state is a frozenset,
  `initialCollection`), FALSE for the generator-valued state the printer had before that fix (`initialGenerator`: 2-call
  witness `print_pure_refuted_today(_full)`, finding H1; "today" in those names is the tree the finding was made on).

  The property theorems of this file: `print_pure`, `print_pure_any_collection`, `print_pure_all_options` and the refutation
  `print_pure_refuted_today_full`.  Steps of their proofs: `print_pure_partial`, `printDirectives_state_fixed`,
  `printSchema_state_fixed`, `printSchemaX_state_fixed`, `printSchemaX_off`.  State-level witnesses: `print_pure_refuted_today`,
  `print_pure_witness_fixed`, `generator_consumed`, `member_collection`.
-/
import PyGqlModel.SdlPrint

namespace PyGql.Props.C12
open PyGql PyGql.Sdl PyGql.SdlPrint

/-- serialising is a pure function of schema and options: the i-th call of ANY history returns what the
    same call returns in a fresh process -/
def PrintPureStatement (init : PrinterState) : Prop :=
  ∀ calls : List (Opts × SchemaD × Apps),
    runHistory init calls = calls.map fun c => (printSchema c.1 c.2.1 c.2.2 init).1

/-! ### the fixed code: the state is a collection and never changes

`print_pure` is proved IN FULL for the fixed code (collection-valued state): every access to the state goes through
`printDirectives` → `keepCustom` → `PrinterState.member`; these are state-preserving for a collection
(`printDirectives_state_fixed`), the lift through the state-passing layout functions is `printSchema_state_fixed`, and the
induction over the history is `print_pure` (any collection: `print_pure_any_collection`; with `include_introspection`:
`print_pure_all_options`).  `print_pure_partial` is the lemma that the directive filter is the pure
`filter keepPred`.  What is NOT in the model: nothing of the printer's option space; the model is tied to the code by
the history correspondence (every call of every history, all four options, compared with the real text). -/

/-- which directive nodes are printed: not specified, and on the whitelist if one was given -/
def keepPred (wl : Option (List String)) (ns : List String) (d : DirApp) : Bool :=
  !ns.contains d.name && onWhitelist wl d.name

/-- the directive filter is a pure function of the names when the state is a collection, and leaves the state
    as it was: whatever calls came before, the same directives are printed -/
theorem print_pure_partial (wl : Option (List String)) (ns : List String) (nodes : List DirApp) :
    keepCustom wl nodes (.collection ns) = (nodes.filter (keepPred wl ns), .collection ns) := by
  induction nodes with
  | nil => rfl
  | cons d ds ih =>
    simp only [keepCustom, PrinterState.member, ih]
    by_cases h : keepPred wl ns d = true
    · have h' := h
      unfold keepPred at h'
      rw [if_pos h', List.filter_cons, if_pos h]
    · have h' := h
      unfold keepPred at h'
      rw [if_neg h', List.filter_cons, if_neg h]

/-- `print_directives` — the ONLY function of the printer that reads the module-level state — leaves a
    collection-valued state unchanged. -/
theorem printDirectives_state_fixed (o : Opts) (apps : Apps) (p : String) (ns : List String) :
    (printDirectives o apps p (.collection ns)).2 = .collection ns := by
  unfold printDirectives
  by_cases h1 : (!o.custom) = true
  · simp [h1]
  · by_cases h2 : (apps.get p).isEmpty = true
    · simp [h1, h2]
    · simp only [h1, h2, if_false, Bool.false_eq_true]
      rw [print_pure_partial]

private theorem mapSt_coll {α} (f : Nat → α → PrinterState → String × PrinterState) (ns : List String)
    (h : ∀ i x, (f i x (.collection ns)).2 = .collection ns) :
    ∀ (xs : List α) (i : Nat), (mapSt f i xs (.collection ns)).2 = .collection ns := by
  intro xs
  induction xs with
  | nil => intro i; rfl
  | cons x xs ih =>
    intro i
    simp only [mapSt]
    rw [h i x]
    exact ih (i+1)

/-- every layout function threads the state through `printDirectives` and `mapSt` only -/
private theorem printArguments_coll (s : SchemaD) (o : Opts) (apps : Apps) (p : String) (args : List ArgD) (depth : Nat) (ns : List String) :
    (printArguments s o apps p args depth (.collection ns)).2 = .collection ns := by
  simp [printArguments, printArg, printInputValue, printDirectives_state_fixed, mapSt_coll]

private theorem printType_coll (s : SchemaD) (o : Opts) (apps : Apps) (t : TypeD) (ns : List String) :
    (printType s o apps t (.collection ns)).2 = .collection ns := by
  cases hk : t.kind <;>
    simp [printType, hk, printFields, printField, printArguments_coll, printInputValue, printEnumValue, printInputField,
      printDirectives_state_fixed, mapSt_coll]

private theorem printDirectiveDefinition_coll (s : SchemaD) (o : Opts) (apps : Apps) (d : DirectiveD) (ns : List String) :
    (printDirectiveDefinition s o apps d (.collection ns)).2 = .collection ns := by
  simp only [printDirectiveDefinition]
  exact printArguments_coll s o apps _ d.args 0 ns

private theorem printSchemaDefinition_coll (s : SchemaD) (o : Opts) (apps : Apps) (ns : List String) :
    (printSchemaDefinition s o apps (.collection ns)).2 = .collection ns := by
  simp only [printSchemaDefinition]
  exact printDirectives_state_fixed o apps "" ns

/-- one `to_string` call leaves a collection-valued state as it found it -/
theorem printSchema_state_fixed (o : Opts) (s : SchemaD) (apps : Apps) (ns : List String) :
    (printSchema o s apps (.collection ns)).2 = .collection ns := by
  simp only [printSchema]
  rw [printSchemaDefinition_coll]
  rw [mapSt_coll _ ns (fun i d => printDirectiveDefinition_coll s o apps d ns)]
  exact mapSt_coll _ ns (fun i t => printType_coll s o apps t ns) _ 0

/-- the induction over the history, for every collection-valued state (not only the initial one) -/
theorem print_pure_any_collection (ns : List String) : PrintPureStatement (.collection ns) := by
  intro calls
  induction calls with
  | nil => rfl
  | cons c rest ih =>
    simp only [runHistory, List.map]
    rw [printSchema_state_fixed]
    rw [ih]

/-- fixed code, finding H1: for EVERY history of `to_string` calls — any schemas, any options, any length — the k-th output
    is the output of that call made first in a fresh process. -/
theorem print_pure : PrintPureStatement initialCollection := print_pure_any_collection _

/-- serialising with ALL options (indent, descriptions, custom schema directives, introspection) is a pure function of
    schema, options and the library's constants -/
def PrintPureStatementX (init : PrinterState) : Prop :=
  ∀ calls : List (Opts × Bool × Builtins × SchemaD × Apps),
    runHistoryX init calls = calls.map fun c => (printSchemaX c.1 c.2.1 c.2.2.1 c.2.2.2.1 c.2.2.2.2 init).1

theorem printSchemaX_off (o : Opts) (b : Builtins) (s : SchemaD) (apps : Apps) (st : PrinterState) :
    printSchemaX o false b s apps st = printSchema o s apps st := by
  simp only [printSchemaX, printSchema, mapSt, Bool.false_eq_true, if_false, List.append_nil, List.cons_append, List.nil_append]

theorem printSchemaX_state_fixed (o : Opts) (intro : Bool) (b : Builtins) (s : SchemaD) (apps : Apps) (ns : List String) :
    (printSchemaX o intro b s apps (.collection ns)).2 = .collection ns := by
  simp only [printSchemaX]
  rw [printSchemaDefinition_coll]
  rw [mapSt_coll _ ns (fun i d => printDirectiveDefinition_coll s o apps d ns)]
  rw [mapSt_coll _ ns (fun i d => printDirectiveDefinition_coll s o apps d ns)]
  exact mapSt_coll _ ns (fun i t => printType_coll s o apps t ns) _ 0

/-- `print_pure` for the whole option space of the property (`include_introspection` included), for EVERY
    collection-valued state: the k-th output of any history is the output of that call alone. -/
theorem print_pure_all_options (ns : List String) : PrintPureStatementX (.collection ns) := by
  intro calls
  induction calls with
  | nil => rfl
  | cons c rest ih =>
    simp only [runHistoryX, List.map]
    rw [printSchemaX_state_fixed]
    rw [ih]

/-- membership in a COLLECTION does not change the state -/
theorem member_collection (ns : List String) (n : String) :
    (PrinterState.collection ns).member n = (ns.contains n, .collection ns) := rfl

/-! For the generator-valued state (`initialGenerator`, the printer before fix C12-H1) the statement is FALSE:
`PrintPureStatement initialGenerator` would make the two calls of `print_pure_refuted_today` agree.  State-level witness
first, then the text-level one (`print_pure_refuted_today_full`); on the implementation it is the replay
`history-dependent:*` of the history oracle. -/

def depNode : DirApp := { name := "deprecated" }

/-- FIRST call: `@deprecated` is recognised as specified and filtered out (0 custom directives printed);
    the SAME call again: the exhausted generator no longer contains it and it is printed as a custom
    directive (1 printed) — next to the special-cased ` @deprecated`. -/
theorem print_pure_refuted_today :
    (keepCustom none [depNode] initialGenerator).1.length = 0 ∧
    (keepCustom none [depNode] (keepCustom none [depNode] initialGenerator).2).1.length = 1 := by
  decide +kernel

/-- with the fix the same two calls agree -/
theorem print_pure_witness_fixed :
    (keepCustom none [depNode] initialCollection).1.length = 0 ∧
    (keepCustom none [depNode] (keepCustom none [depNode] initialCollection).2).1.length = 0 := by
  decide +kernel

/-- a membership test on the generator CONSUMES it -/
theorem generator_consumed : (initialGenerator.member "deprecated").2 = .generator [] ∧
    (initialGenerator.member "foo").2 = .generator [] ∧ ((PrinterState.generator []).member "deprecated").1 = false := by
  decide +kernel

/-- `type Query { f: Int @deprecated }`, built from SDL (the field's node carries the `@deprecated` application) -/
def h1Schema : SchemaD :=
  { types := [{ kind := .object, name := "Query", fields := [{ name := "f", type := .named "Int", deprecated := some "No longer supported" }] }] }
def h1Apps : Apps := [("Query.f", [{ name := "deprecated" }])]
def h1Call : Opts × SchemaD × Apps := ({ custom := true }, h1Schema, h1Apps)

/-- With the generator-valued state the full statement is FALSE: the second of two identical
    `to_string(include_custom_schema_directives=True)` calls returns a different TEXT
    (`f: Int @deprecated @deprecated`). -/
theorem print_pure_refuted_today_full : ¬ PrintPureStatement initialGenerator := by
  intro h
  have := h [h1Call, h1Call]
  revert this
  decide +kernel

set_option maxRecDepth 100000 in
/-- non-vacuity of `print_pure`: on the same two calls the fixed code returns the same non-empty text twice -/
example : runHistory initialCollection [h1Call, h1Call] = [(printSchema h1Call.1 h1Call.2.1 h1Call.2.2 initialCollection).1,
    (printSchema h1Call.1 h1Call.2.1 h1Call.2.2 initialCollection).1] ∧ (printSchema h1Call.1 h1Call.2.1 h1Call.2.2 initialCollection).1 ≠ "" :=
  ⟨print_pure [h1Call, h1Call], by decide +kernel⟩

end PyGql.Props.C12
