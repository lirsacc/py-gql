/-
  C11 — `build_exact` / `build_perm` for documents WITHOUT extensions (the part of the full statement
  that finding S8 does not touch), about the model `PyGqlModel/Sdl.lean`; what `mergeDef` is, the invariance of the
  declared content under reordering (`declared_perm`), and the fold of an `_extend_<kind>_type` over the extension
  blocks (`merge_fold_exact`), on which Props/C11_merge.lean builds the statements WITH extensions.
-/
import PyGqlModel.Props.C11
import PyGqlModel.Lemmas.ListEqv
import PyGqlModel.Lemmas.ExceptDecEq


namespace PyGql.Props.C11
open PyGql PyGql.Sdl PyGql.SdlSpec

theorem any_name_false {α} (name : α → String) (l : List α) (n : String) (h : n ∉ l.map name) :
    l.any (fun x => name x == n) = false :=
  (List.any_beq_eq_false_iff name l n).mpr h

theorem collect_ok (doc : Doc) (hT : ((typeDefs doc).map (·.name)).Nodup) (hD : ((dirDefs doc).map (·.name)).Nodup)
    (hS : (schemaDefs doc).length ≤ 1) (hN : ∀ t ∈ typeDefs doc, isDefaultName t.name = false) :
    ∃ c, collectDefinitions doc = .ok c ∧ c.types = typeDefs doc ∧ c.directives = dirDefs doc ∧ c.schemaDef = (schemaDefs doc).head? :=
  ⟨⟨_, _, _⟩, (Run.collectDefinitions_ok_iff doc _).mpr ⟨⟨hT, hN, hD, hS⟩, rfl, rfl, rfl⟩, rfl, rfl, rfl⟩

/-- the rules a document WITHOUT extensions has to satisfy for the builder (kind rules are C13's) -/
structure ValidNoExt (doc : Doc) (d : SchemaD) : Prop where
  uniqueTypes : ((typeDefs doc).map (·.name)).Nodup
  uniqueDirectives : ((dirDefs doc).map (·.name)).Nodup
  oneSchema : (schemaDefs doc).length ≤ 1
  noBuiltinNames : ∀ t ∈ typeDefs doc, isDefaultName t.name = false
  noTypeExt : typeExts doc = []
  noSchemaExt : schemaExtensions doc = []
  /-- every member builds (references resolve, defaults are constants of their type, `@deprecated` is well-formed, …)
      and `d` is the declared content -/
  declares : Declared doc = some d
  /-- default literals do not depend on their own type's field list (finding S1b otherwise) -/
  noThunkCycle : hasThunkCycle (Env.of (typeDefs doc)) (typeDefs doc) = false
  /-- no type is its own interface / member / argument type -/
  noEagerCycle : hasEagerCycle d.types = false
  noSpecified : d.directives.any (fun x => specifiedDirectives.contains x.name) = false
  /-- the operations of the `schema` block are distinct and name known types -/
  rootsOk : buildRoots (Env.of (typeDefs doc)) (schemaDefs doc).head? d.types = .ok ⟨d.query, d.mutation, d.subscription⟩

private theorem mergeDef_nil (t : TypeDef) : mergeDef [] t = t := rfl

theorem merged_noext (doc : Doc) (h : typeExts doc = []) : merged doc = typeDefs doc := by
  rw [merged, h]
  exact List.map_id'' mergeDef_nil _

/-- the extension blocks of a type -/
abbrev mineOf (exts : List TypeDef) (n : String) : List TypeDef := exts.filter (·.name == n)

private def mstep (acc e : TypeDef) : TypeDef :=
  { acc with interfaces := acc.interfaces ++ e.interfaces, fields := acc.fields ++ e.fields, members := acc.members ++ e.members,
             values := acc.values ++ e.values, inputFields := acc.inputFields ++ e.inputFields }

private theorem foldl_mstep : ∀ (es : List TypeDef) (t : TypeDef),
    (es.foldl mstep t).kind = t.kind ∧ (es.foldl mstep t).name = t.name ∧ (es.foldl mstep t).desc = t.desc ∧
    (es.foldl mstep t).fields = t.fields ++ es.flatMap (·.fields) ∧
    (es.foldl mstep t).interfaces = t.interfaces ++ es.flatMap (·.interfaces) ∧
    (es.foldl mstep t).members = t.members ++ es.flatMap (·.members) ∧
    (es.foldl mstep t).values = t.values ++ es.flatMap (·.values) ∧
    (es.foldl mstep t).inputFields = t.inputFields ++ es.flatMap (·.inputFields) := by
  intro es
  induction es with
  | nil =>
    intro t
    exact ⟨rfl, rfl, rfl, (List.append_nil _).symm, (List.append_nil _).symm, (List.append_nil _).symm, (List.append_nil _).symm,
      (List.append_nil _).symm⟩
  | cons e es ih =>
    intro t
    simp only [List.foldl_cons, List.flatMap_cons, ← List.append_assoc]
    exact ih (mstep t e)

theorem mergeDef_spec (X : List TypeDef) (t : TypeDef) :
    (mergeDef X t).kind = t.kind ∧ (mergeDef X t).name = t.name ∧ (mergeDef X t).desc = t.desc ∧
    (mergeDef X t).fields = t.fields ++ (mineOf X t.name).flatMap (·.fields) ∧
    (mergeDef X t).interfaces = t.interfaces ++ (mineOf X t.name).flatMap (·.interfaces) ∧
    (mergeDef X t).members = t.members ++ (mineOf X t.name).flatMap (·.members) ∧
    (mergeDef X t).values = t.values ++ (mineOf X t.name).flatMap (·.values) ∧
    (mergeDef X t).inputFields = t.inputFields ++ (mineOf X t.name).flatMap (·.inputFields) :=
  foldl_mstep (mineOf X t.name) t

theorem mergeExt_eq (X : List TypeDef) (t : TypeDef) : mergeExt X t = mergeDef X t := rfl

theorem extended_eq (B X : List TypeDef) : (Env.of B).extended X = Env.of (B.map (mergeDef X)) := by
  have hf : (fun n => (B.find? (·.name == n)).map (mergeExt X)) = fun n => (B.map (mergeDef X)).find? (·.name == n) := by
    funext n
    rw [List.find?_map]
    have : ((fun x : TypeDef => x.name == n) ∘ mergeDef X) = fun x : TypeDef => x.name == n := by
      funext x; simp [Function.comp, (mergeDef_spec X x).2.1]
    rw [this]; rfl
  simp only [Env.extended, Env.of, hf]

theorem extended_resolves (env : Env) (X : List TypeDef) (n : String) : (env.extended X).resolves n = env.resolves n := by
  simp [Env.resolves, Env.extended]

theorem merged_names (doc : Doc) : (merged doc).map (·.name) = (typeDefs doc).map (·.name) := by
  simp only [merged, List.map_map]
  apply List.map_congr_left
  intro t _
  exact (mergeDef_spec (typeExts doc) t).2.1

theorem mapM_buildType (defs : List TypeDef) :
    ∀ (ds : List TypeDef) (ts : List TypeD), (∀ t ∈ ds, isDefaultName t.name = false) →
      ds.mapM (buildTypeDef (Env.of defs)) = .ok ts → ds.mapM (buildType (Env.of defs)) = .ok (ts.map some) := by
  intro ds
  induction ds with
  | nil => intro ts _ h; cases h; rfl
  | cons x xs ih =>
    intro ts hn h
    obtain ⟨tx, txs, hb, hr, rfl⟩ := Run.mapM_cons_ok_iff.mp h
    have hx : isDefaultName x.name = false := hn x List.mem_cons_self
    have ha : (Env.of defs).findAdditional x.name = none := rfl
    refine Run.mapM_cons_ok_iff.mpr ⟨_, _, ?_, ih txs (fun t ht => hn t (List.mem_cons_of_mem _ ht)) hr, rfl⟩
    simp only [buildType, hx, Bool.false_eq_true, if_false, ha, hb]
    rfl

theorem filterMap_id_map_some {α} (l : List α) : (l.map some).filterMap id = l := by
  rw [List.filterMap_map]
  exact List.filterMap_some

theorem typeExtensions_eq (live : Live) (doc : Doc) :
    typeExtensions live doc = (typeExts doc).filter fun e => isDefaultName e.name || live.types.any (·.name == e.name) := by
  rw [typeExts, List.filter_filterMap]
  refine congrArg (List.filterMap · doc) (funext fun d => ?_)
  cases d <;> rfl

theorem declared_parts (doc : Doc) (d : SchemaD) (h : Declared doc = some d) :
    (merged doc).mapM (buildTypeDef (Env.of (merged doc))) = .ok d.types ∧
    (dirDefs doc).mapM (buildDirective (Env.of (merged doc))) = .ok d.directives ∧
    d = { types := d.types, directives := d.directives, query := d.query, mutation := d.mutation, subscription := d.subscription } := by
  unfold Declared at h
  simp only [] at h
  split at h
  · rename_i ts ds h1 h2
    simp only [Option.some.injEq] at h
    subst h
    exact ⟨h1, h2, rfl⟩
  · simp at h

theorem buildIgnoringExtensions_ok (doc : Doc) (bts : List TypeD) (bds : List DirectiveD) (r0 : Roots)
    (hT : ((typeDefs doc).map (·.name)).Nodup) (hD : ((dirDefs doc).map (·.name)).Nodup) (hS : (schemaDefs doc).length ≤ 1)
    (hN : ∀ t ∈ typeDefs doc, isDefaultName t.name = false)
    (hthunk : hasThunkCycle (Env.of (typeDefs doc)) (typeDefs doc) = false)
    (hdirs : (dirDefs doc).mapM (buildDirective (Env.of (typeDefs doc))) = .ok bds)
    (hbts : (typeDefs doc).mapM (buildTypeDef (Env.of (typeDefs doc))) = .ok bts)
    (hcyc : hasEagerCycle bts = false)
    (hroots : buildRoots (Env.of (typeDefs doc)) (schemaDefs doc).head? bts = .ok r0)
    (hspec : bds.any (fun x => specifiedDirectives.contains x.name) = false) :
    buildIgnoringExtensions doc [] = .ok (Env.of (typeDefs doc), { types := bts, directives := bds, roots := r0 }) := by
  obtain ⟨c, hc, hct, hcd, hcs⟩ := collect_ok doc hT hD hS hN
  have hbt := mapM_buildType (typeDefs doc) (typeDefs doc) bts hN hbts
  simp only [buildIgnoringExtensions, hc, bind, Except.bind, buildCollected, failIf, hct, hcd, hcs, hthunk, hdirs, hbt,
    filterMap_id_map_some, hcyc, hroots, hspec, Bool.false_eq_true, if_false, pure, Except.pure, referencedAdditional,
    List.filter_nil, List.append_nil]

/-- **build_exact** for documents without extensions: a valid document builds, and the schema is exactly the
    declared content — every type, field, argument, default value, description, deprecation, directive
    definition and root, in document order. -/
theorem build_exact_noext (doc : Doc) (d : SchemaD) (v : ValidNoExt doc d) : build doc = .ok d := by
  obtain ⟨hts, hds, hd⟩ := declared_parts doc d v.declares
  rw [merged_noext doc v.noTypeExt] at hts hds
  have hext : ∀ live, typeExtensions live doc = [] := fun live => by rw [typeExtensions_eq, v.noTypeExt]; rfl
  simp only [build, bind, Except.bind, pure, Except.pure, Bool.false_eq_true, if_false, extendSchema, hext, v.noSchemaExt,
    List.isEmpty_nil, Bool.and_self, if_true, toSchemaD,
    buildIgnoringExtensions_ok doc d.types d.directives _ v.uniqueTypes v.uniqueDirectives v.oneSchema v.noBuiltinNames
      v.noThunkCycle hds hts v.noEagerCycle v.rootsOk v.noSpecified]
  exact congrArg Except.ok hd.symm

theorem find_perm {α} (name : α → String) (n : String) {l₁ l₂ : List α} (hp : l₁.Perm l₂) :
    (l₁.map name).Nodup → l₁.find? (fun x => name x == n) = l₂.find? (fun x => name x == n) :=
  fun hn => ListEqv.find_name_perm hp (ListEqv.nodup_uniq hn) n

theorem env_perm {l₁ l₂ : List TypeDef} (hp : l₁.Perm l₂) (hn : (l₁.map (·.name)).Nodup) : Env.of l₁ = Env.of l₂ := by
  simp only [Env.of, Env.mk.injEq, and_true]
  funext n
  exact find_perm (·.name) n hp hn

theorem mapM_perm {α β} (f : α → R β) {l₁ l₂ : List α} (hp : l₁.Perm l₂) :
    ∀ r₁, l₁.mapM f = .ok r₁ → ∃ r₂, l₂.mapM f = .ok r₂ ∧ r₁.Perm r₂ := by
  induction hp with
  | nil => intro r h; exact ⟨r, h, List.Perm.refl _⟩
  | @cons x l l' _ ih =>
    intro r h
    obtain ⟨b, bs, hx, hl, rfl⟩ := Run.mapM_cons_ok_iff.mp h
    obtain ⟨r₂, h2, hp2⟩ := ih bs hl
    exact ⟨b :: r₂, Run.mapM_cons_ok_iff.mpr ⟨_, _, hx, h2, rfl⟩, hp2.cons b⟩
  | swap x y l =>
    intro r h
    obtain ⟨b, _, hy, h', rfl⟩ := Run.mapM_cons_ok_iff.mp h
    obtain ⟨a, bs, hx, hl, rfl⟩ := Run.mapM_cons_ok_iff.mp h'
    exact ⟨a :: b :: bs, Run.mapM_cons_ok_iff.mpr ⟨_, _, hx, Run.mapM_cons_ok_iff.mpr ⟨_, _, hy, hl, rfl⟩, rfl⟩, List.Perm.swap a b bs⟩
  | trans _ _ ih1 ih2 =>
    intro r h
    obtain ⟨r₂, h2, p2⟩ := ih1 r h
    obtain ⟨r₃, h3, p3⟩ := ih2 r₂ h2
    exact ⟨r₃, h3, p2.trans p3⟩

theorem typeDefs_perm {d₁ d₂ : Doc} (hp : d₁.Perm d₂) : (typeDefs d₁).Perm (typeDefs d₂) := hp.filterMap _
theorem dirDefs_perm {d₁ d₂ : Doc} (hp : d₁.Perm d₂) : (dirDefs d₁).Perm (dirDefs d₂) := hp.filterMap _

theorem declared_roots (doc : Doc) (d : SchemaD) (h : Declared doc = some d) :
    (⟨d.query, d.mutation, d.subscription⟩ : Roots) = declaredRoots doc d.types := by
  unfold Declared at h
  simp only [] at h
  split at h
  · simp only [Option.some.injEq] at h
    subst h
    rfl
  · simp at h

theorem perm_short {α} {l₁ l₂ : List α} (hp : l₁.Perm l₂) (h : l₁.length ≤ 1) : l₁ = l₂ := by
  match l₁, l₂, hp with
  | [], l₂, hp => exact (List.perm_nil.mp hp.symm).symm
  | [a], l₂, hp => exact (List.perm_singleton.mp hp.symm).symm
  | _ :: _ :: _, _, _ => simp at h

theorem any_perm {α} (p : α → Bool) {l₁ l₂ : List α} (hp : l₁.Perm l₂) : l₁.any p = l₂.any p := hp.any_eq

theorem declared_perm (doc₁ doc₂ : Doc) (d₁ d₂ : SchemaD) (h₁ : Declared doc₁ = some d₁) (h₂ : Declared doc₂ = some d₂)
    (hp : doc₁.Perm doc₂) (hx : typeExts doc₁ = typeExts doc₂) (hsx : schemaExtensions doc₁ = schemaExtensions doc₂)
    (hu : ((typeDefs doc₁).map (·.name)).Nodup) (hs : (schemaDefs doc₁).length ≤ 1) :
    d₁.types.Perm d₂.types ∧ d₁.directives.Perm d₂.directives ∧
      d₁.query = d₂.query ∧ d₁.mutation = d₂.mutation ∧ d₁.subscription = d₂.subscription := by
  obtain ⟨ht1, hd1, _⟩ := declared_parts doc₁ d₁ h₁
  obtain ⟨ht2, hd2, _⟩ := declared_parts doc₂ d₂ h₂
  have hmp : (merged doc₁).Perm (merged doc₂) := by
    rw [merged, merged, hx]
    exact (typeDefs_perm hp).map _
  rw [env_perm hmp (by rw [merged_names]; exact hu)] at ht1 hd1
  have hT : d₁.types.Perm d₂.types := by
    obtain ⟨r, hr, hperm⟩ := mapM_perm _ hmp _ ht1
    rw [ht2] at hr
    cases hr
    exact hperm
  have hD : d₁.directives.Perm d₂.directives := by
    obtain ⟨r, hr, hperm⟩ := mapM_perm _ (dirDefs_perm hp) _ hd1
    rw [hd2] at hr
    cases hr
    exact hperm
  have hs' : schemaDefs doc₁ = schemaDefs doc₂ := perm_short (hp.filterMap _) hs
  have hr : declaredRoots doc₁ d₁.types = declaredRoots doc₂ d₂.types := by
    simp only [declaredRoots, hsx, hs']
    cases schemaDefs doc₂ with
    | cons sd _ => rfl
    | nil =>
      simp only [defaultRoots]
      rw [any_perm _ hT, any_perm _ hT, any_perm _ hT]
  rw [← declared_roots doc₁ d₁ h₁, ← declared_roots doc₂ d₂ h₂] at hr
  exact ⟨hT, hD, Roots.mk.inj hr⟩

/-- **build_perm** for documents without extensions: two valid documents that differ only in the ORDER of
    their definitions build schemas with the same content (same types with the same members in the same member
    order, same directive definitions). Roots: see `build_perm_roots_noext`. -/
theorem build_perm_noext (doc₁ doc₂ : Doc) (d₁ d₂ : SchemaD) (v₁ : ValidNoExt doc₁ d₁) (v₂ : ValidNoExt doc₂ d₂)
    (hp : doc₁.Perm doc₂) :
    build doc₁ = .ok d₁ ∧ build doc₂ = .ok d₂ ∧ d₁.types.Perm d₂.types ∧ d₁.directives.Perm d₂.directives := by
  have h := declared_perm doc₁ doc₂ d₁ d₂ v₁.declares v₂.declares hp (v₁.noTypeExt.trans v₂.noTypeExt.symm)
    (v₁.noSchemaExt.trans v₂.noSchemaExt.symm) v₁.uniqueTypes v₁.oneSchema
  exact ⟨build_exact_noext doc₁ d₁ v₁, build_exact_noext doc₂ d₂ v₂, h.1, h.2.1⟩

theorem build_perm_roots_noext (doc₁ doc₂ : Doc) (d₁ d₂ : SchemaD) (v₁ : ValidNoExt doc₁ d₁) (v₂ : ValidNoExt doc₂ d₂)
    (hp : doc₁.Perm doc₂) : d₁.query = d₂.query ∧ d₁.mutation = d₂.mutation ∧ d₁.subscription = d₂.subscription :=
  (declared_perm doc₁ doc₂ d₁ d₂ v₁.declares v₂.declares hp (v₁.noTypeExt.trans v₂.noTypeExt.symm)
    (v₁.noSchemaExt.trans v₂.noSchemaExt.symm) v₁.uniqueTypes v₁.oneSchema).2.2

def exDoc : Doc := [
  .type { kind := .object, name := "Query", desc := some "root",
          fields := [{ name := "f", type := .named "Int", dirs := [{ name := "deprecated" }],
                       args := [{ name := "a", type := .list (.named "E"), default := some (.enum "B") },
                                { name := "i", type := .named "A", default := some (.obj [("a", .obj [])]) }] },
                     { name := "u", type := .named "U" }, { name := "n", type := .nonNull (.named "N") }] },
  .directive { name := "d", locations := ["FIELD"], args := [{ name := "x", type := .named "S", default := some (.str "v") }] },
  .type { kind := .enum, name := "E", values := [{ name := "A" }, { name := "B", dirs := [{ name := "deprecated", args := [("reason", .str "old")] }] }] },
  .type { kind := .input, name := "A", inputFields := [{ name := "a", type := .named "A" }, { name := "s", type := .named "String", default := some (.str "x") }] },
  .type { kind := .union, name := "U", members := ["Query", "O"] },
  .type { kind := .interface, name := "N", fields := [{ name := "n", type := .named "N" }] },
  .type { kind := .object, name := "O", interfaces := ["N"], fields := [{ name := "n", type := .named "N" }] },
  .type { kind := .scalar, name := "S" },
  .schema { ops := [("query", "Query"), ("mutation", "O")] }]

def exDoc' : Doc := exDoc.reverse

private theorem exDeclares : (Declared exDoc).isSome = true := by decide +kernel
private theorem exDeclares' : (Declared exDoc').isSome = true := by decide +kernel

-- the facts are decided together: the kernel evaluates the document and `Declared exDoc` once
example : ValidNoExt exDoc ((Declared exDoc).get exDeclares) :=
  have ⟨uniqueTypes, uniqueDirectives, oneSchema, noBuiltinNames, noTypeExt, noSchemaExt, noThunkCycle, noEagerCycle, noSpecified,
      rootsOk⟩ : _ ∧ _ ∧ _ ∧ _ ∧ _ ∧ _ ∧ _ ∧ _ ∧ _ ∧ _ := by decide +kernel
  { uniqueTypes, uniqueDirectives, oneSchema, noBuiltinNames, noTypeExt, noSchemaExt, declares := (Option.some_get _).symm,
    noThunkCycle, noEagerCycle, noSpecified, rootsOk }

example : ValidNoExt exDoc' ((Declared exDoc').get exDeclares') :=
  have ⟨uniqueTypes, uniqueDirectives, oneSchema, noBuiltinNames, noTypeExt, noSchemaExt, noThunkCycle, noEagerCycle, noSpecified,
      rootsOk⟩ : _ ∧ _ ∧ _ ∧ _ ∧ _ ∧ _ ∧ _ ∧ _ ∧ _ ∧ _ := by decide +kernel
  { uniqueTypes, uniqueDirectives, oneSchema, noBuiltinNames, noTypeExt, noSchemaExt, declares := (Option.some_get _).symm,
    noThunkCycle, noEagerCycle, noSpecified, rootsOk }

example : exDoc.Perm exDoc' := (List.reverse_perm exDoc).symm

theorem appendNew_ok_of_nodup {α} (errE : Err) (name : α → String) (xs : List α) :
    ∀ acc : List α, ((acc ++ xs).map name).Nodup → appendNew errE name acc xs = .ok (acc ++ xs) := by
  intro acc hn
  have hacc : (acc.map name).Nodup := by rw [List.map_append] at hn; exact (List.nodup_append.mp hn).1
  exact (Run.appendNew_ok_iff_nodup errE name xs acc _ hacc).mpr ⟨hn, rfl⟩

private theorem mapM_append_ok {α β} (f : α → R β) : ∀ (l₁ l₂ : List α) (r₁ r₂ : List β),
    l₁.mapM f = .ok r₁ → l₂.mapM f = .ok r₂ → (l₁ ++ l₂).mapM f = .ok (r₁ ++ r₂) :=
  fun _ _ r₁ r₂ h1 h2 => Run.mapM_append_ok_iff.mpr ⟨r₁, r₂, h1, h2, rfl⟩

theorem merge_fold_exact {E γ β} (errE : Err) (name : β → String) (g : E → R γ) (k : γ → E → List β) :
    ∀ (exts : List E) (base : List β) (news : E → List β),
      (∀ e ∈ exts, ∃ u, g e = .ok u ∧ k u e = news e) → ((base ++ exts.flatMap news).map name).Nodup →
      exts.foldlM (fun acc e => do let u ← g e; appendNew errE name acc (k u e)) base = .ok (base ++ exts.flatMap news) := by
  intro exts base news hb hn
  refine (Run.mergeFold_ok_iff errE name g k exts base _).mpr ⟨exts.map news, Run.mapM_ok_map fun e he => ?_, ?_⟩
  · obtain ⟨u, hu, hk⟩ := hb e he
    exact Run.bind_ok_iff.mpr ⟨u, hu, congrArg _ hk⟩
  · rw [← List.flatMap_def]
    exact appendNew_ok_of_nodup errE name _ base hn

/-- the generic step shared by `_extend_object_type` (fields, interfaces), `_extend_interface_type`, `_extend_union_type`,
    `_extend_enum_type` and `_extend_input_object_type`: nothing dropped, duplicated or reordered -/
theorem extension_merge_exact {E α β} (errE : Err) (bf : α → R β) (name : β → String) (sel : E → List α) :
    ∀ (exts : List E) (base : List β) (news : E → List β),
      (∀ e ∈ exts, (sel e).mapM bf = .ok (news e)) →
      ((base ++ exts.flatMap news).map name).Nodup →
      exts.foldlM (fun acc e => do let new ← (sel e).mapM bf; appendNew errE name acc new) base = .ok (base ++ exts.flatMap news) :=
  fun exts base news hb hn =>
    merge_fold_exact errE name (fun e => (sel e).mapM bf) (fun u _ => u) exts base news (fun e he => ⟨_, hb e he, rfl⟩) hn

theorem kinds_ok (exts : List TypeDef) (t : TypeD) (k : Kind)
    (hkinds : ∀ e ∈ exts, e.name = t.name → e.kind = k) :
    ((exts.filter (·.name == t.name)).any fun e => e.kind != k) = false := by
  rw [List.any_eq_false]
  intro e he
  rw [List.mem_filter, beq_iff_eq] at he
  rw [hkinds e he.1 he.2, bne_self_eq_false]
  exact Bool.false_ne_true

theorem extend_enum_exact (env envX : Env) (hide : Option String) (exts : List TypeDef) (t : TypeD) (hk : t.kind = .enum)
    (hkinds : ∀ e ∈ exts, e.name = t.name → e.kind = .enum) (news : TypeDef → List EnumValD)
    (hb : ∀ e ∈ exts.filter (·.name == t.name), e.values.mapM buildEnumValue = .ok (news e))
    (hn : ((t.values ++ (exts.filter (·.name == t.name)).flatMap news).map (·.name)).Nodup) :
    extendTypeX env envX hide exts t = .ok { t with values := t.values ++ (exts.filter (·.name == t.name)).flatMap news } := by
  have hmine := kinds_ok exts t .enum hkinds
  have := extension_merge_exact (.lib .ext) buildEnumValue EnumValD.name TypeDef.values _ _ news hb hn
  unfold extendTypeX
  simp only [hmine, failIf, Bool.false_eq_true, if_false, hk]
  rw [this]
  rfl

/-- C11 with extensions, compact form of the statement under a hypothesis that excludes finding S8 (every argument builds
    alike over the definitions and over the merged definitions).  NOT proved in this form: the proved statement is
    `build_exact_partial` (Props/C11_merge.lean), whose hypotheses are the structure `ValidExt`. -/
def BuildExactPartialStatement : Prop :=
  ∀ (doc : Doc) (d : SchemaD), SdlValid doc → Declared doc = some d →
    (∀ a : InputValDef, buildArgument (Env.of (typeDefs doc)) a = buildArgument (Env.of (merged doc)) a) →
    hasThunkCycle (Env.of (typeDefs doc)) (typeDefs doc) = false → hasEagerCycle d.types = false →
    d.directives.any (fun x => specifiedDirectives.contains x.name) = false →
    ∃ s, build doc = .ok s ∧ SameContent s d

end PyGql.Props.C11
