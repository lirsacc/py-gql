/-
  C11 — the member builders of the model succeed EXACTLY on the members that satisfy the named type-system rules of
  `Spec/SdlRules.lean` (`TypeDefOK` / `DirDefOK`).  Hence `(Declared doc).isSome` ⇔ every merged definition and every
  directive definition satisfies its rules over the merged definitions (`declares_iff_rules`): the field `declares` of
  `SdlValid` / `SdlOK` / `SdlRules` can be read as these clauses, in which nothing refers to the builder.
-/
import PyGqlModel.Spec.SdlRules
import PyGqlModel.Spec.SdlSpec
import PyGqlModel.Props.C11_nos8


namespace PyGql.Props.C11
open PyGql PyGql.Sdl PyGql.SdlSpec

theorem resolves_iff (env : Env) (n : String) : env.resolves n = true ↔ Known env n := by
  simp only [Env.resolves, Known, Bool.or_eq_true, Option.isSome_iff_exists, or_assoc]

theorem find_name_isSome {α} (name : α → String) (l : List α) (n : String) :
    (∃ x, l.find? (fun y => name y == n) = some x) ↔ n ∈ l.map name := by
  rw [← Option.isSome_iff_exists, List.find?_isSome]
  simp only [List.mem_map, beq_iff_eq]

theorem known_of_iff (defs : List TypeDef) (add : List TypeD) (n : String) : Known (Env.of defs add) n ↔ KnownIn defs add n := by
  unfold Known KnownIn Env.of
  simp only []
  rw [find_name_isSome TypeD.name add n, find_name_isSome TypeDef.name defs n]

theorem checkRef_ok_iff (env : Env) (t : Ty) : Ok (checkRef env t) ↔ Known env t.base := by
  rw [← resolves_iff]
  unfold checkRef
  cases h : env.resolves t.base
  · rw [if_neg (by simp)]; exact ⟨fun h => absurd h (not_ok_error _), fun h => by cases h⟩
  · rw [if_pos rfl]; exact ⟨fun _ => rfl, fun _ => ok_pure _⟩

theorem checkNames_ok_known (env : Env) (ns : List String) : Ok (checkNames env ns) ↔ ∀ n ∈ ns, Known env n := by
  unfold checkNames
  by_cases h : ns.all env.resolves = true
  · simp only [h, if_true]
    refine ⟨fun _ n hn => (resolves_iff env n).mp (List.all_eq_true.mp h n hn), fun _ => ok_pure _⟩
  · simp only [h]
    refine ⟨fun h' => absurd h' (not_ok_error _), fun h' => absurd ?_ h⟩
    exact List.all_eq_true.mpr fun n hn => (resolves_iff env n).mpr (h' n hn)

theorem defaultValue_ok_iff (env : Env) (l : Lit) (ty : Ty) : Ok (defaultValue env l ty) ↔ ∃ v, CoercesTo env ty l v := by
  unfold defaultValue CoercesTo
  cases h : valueFromAst env coerceFuel l ty with
  | none => simp only []; exact ⟨fun h' => absurd h' (not_ok_error _), fun ⟨v, hv⟩ => by cases hv⟩
  | some o =>
    cases o with
    | none => simp only []; exact ⟨fun h' => absurd h' (not_ok_error _), fun ⟨v, hv⟩ => by cases hv⟩
    | some v => simp only []; exact ⟨fun _ => ⟨v, rfl⟩, fun _ => ok_pure _⟩

theorem deprecationReason_ok_iff (ds : List DirApp) : Ok (deprecationReason ds) ↔ DeprecatedOK ds := by
  unfold deprecationReason DeprecatedOK
  cases hf : ds.find? (·.name == "deprecated") with
  | none => simp only []; exact ⟨fun _ d hd => (by cases hd), fun _ => ok_pure _⟩
  | some d =>
    simp only []
    cases hl : lookupLast d.args "reason" with
    | none => simp only []; exact ⟨fun _ d' hd' l hl' => (by cases hd'; rw [hl] at hl'; cases hl'), fun _ => ok_pure _⟩
    | some l =>
      cases l <;> simp only []
      case null => exact ⟨fun _ d' hd' l hl' => (by cases hd'; rw [hl] at hl'; cases hl'; exact Or.inl rfl), fun _ => ok_pure _⟩
      case str s => exact ⟨fun _ d' hd' l hl' => (by cases hd'; rw [hl] at hl'; cases hl'; exact Or.inr ⟨s, rfl⟩), fun _ => ok_pure _⟩
      all_goals
        refine ⟨fun h' => absurd h' (not_ok_error _), fun h' => ?_⟩
        rcases h' d rfl _ hl with h1 | ⟨s, h1⟩ <;> cases h1

theorem buildArgument_ok_iff (env : Env) (a : InputValDef) : Ok (buildArgument env a) ↔ ArgOK env a := by
  refine ok_bind_and (checkRef_ok_iff env a.type) fun _ => ?_
  cases hd : a.default with
  | none => exact ⟨fun _ _ h => (nomatch h), fun _ => ok_pure _⟩
  | some l => exact (ok_bind_last (defaultValue_ok_iff env l a.type)).trans ⟨fun h l' hl' => by cases hl'; exact h, fun h => h l rfl⟩

theorem buildField_ok_iff (env : Env) (f : FieldDef) : Ok (buildField env f) ↔ FieldOK env f :=
  ok_bind_and (checkRef_ok_iff env f.type) fun _ =>
    ok_bind_and (ok_mapM_iff (buildArgument_ok_iff env) f.args) fun _ => ok_bind_last (deprecationReason_ok_iff f.dirs)

theorem buildEnumValue_ok_iff (v : EnumValDef) : Ok (buildEnumValue v) ↔ EnumValueOK v :=
  ok_bind_and ((ok_failIf _ _).trans (by simp)) fun _ => ok_bind_last (deprecationReason_ok_iff v.dirs)

theorem buildTypeDef_ok_iff (env : Env) (d : TypeDef) : Ok (buildTypeDef env d) ↔ TypeDefOK env d := by
  unfold buildTypeDef TypeDefOK
  cases hk : d.kind
  · exact ⟨fun _ => trivial, fun _ => ok_pure _⟩
  · exact ok_bind_and (ok_mapM_iff (buildField_ok_iff env) _) fun _ => ok_bind_last (checkNames_ok_known env _)
  · exact ok_bind_last (ok_mapM_iff (buildField_ok_iff env) _)
  · exact ok_bind_last (checkNames_ok_known env _)
  · exact ok_bind_and ((ok_failIf _ _).trans (hasDup_false_iff _)) fun _ => ok_bind_last (ok_mapM_iff buildEnumValue_ok_iff _)
  · exact ok_bind_last (ok_mapM_iff (buildArgument_ok_iff env) _)

theorem buildDirective_ok_iff (env : Env) (d : DirDef) : Ok (buildDirective env d) ↔ DirDefOK env d :=
  ok_bind_last (ok_mapM_iff (buildArgument_ok_iff env) _)

/-- the rules the field `declares` of `SdlValid` stands for: every MERGED definition and every directive definition
    satisfies its clauses over the merged definitions -/
structure DeclaresRules (doc : Doc) : Prop where
  types : ∀ t ∈ merged doc, TypeDefOK (Env.of (merged doc)) t
  directives : ∀ d ∈ dirDefs doc, DirDefOK (Env.of (merged doc)) d

theorem declares_iff_rules (doc : Doc) : (Declared doc).isSome = true ↔ DeclaresRules doc := by
  unfold Declared
  simp only []
  constructor
  · intro h
    cases h1 : (merged doc).mapM (buildTypeDef (Env.of (merged doc))) with
    | error e => rw [h1] at h; simp at h
    | ok ts =>
      cases h2 : (dirDefs doc).mapM (buildDirective (Env.of (merged doc))) with
      | error e => rw [h1, h2] at h; simp at h
      | ok ds =>
        exact ⟨fun t ht => (buildTypeDef_ok_iff _ t).mp ((ok_mapM _ _).mp ⟨ts, h1⟩ t ht),
               fun d hd => (buildDirective_ok_iff _ d).mp ((ok_mapM _ _).mp ⟨ds, h2⟩ d hd)⟩
  · rintro ⟨ht, hd⟩
    obtain ⟨ts, h1⟩ := (ok_mapM (buildTypeDef (Env.of (merged doc))) (merged doc)).mpr fun t h => (buildTypeDef_ok_iff _ t).mpr (ht t h)
    obtain ⟨ds, h2⟩ := (ok_mapM (buildDirective (Env.of (merged doc))) (dirDefs doc)).mpr fun d h => (buildDirective_ok_iff _ d).mpr (hd d h)
    rw [h1, h2]; rfl

/-- the structural rules of a document with `declares` replaced by the named clauses -/
structure SdlValidRules (doc : Doc) : Prop where
  uniqueTypes : (typeDefs doc).map (·.name) |>.Nodup
  uniqueDirectives : (dirDefs doc).map (·.name) |>.Nodup
  oneSchema : (schemaDefs doc).length ≤ 1
  extTargets : ∀ e ∈ typeExts doc, ∃ t ∈ typeDefs doc, t.name = e.name ∧ t.kind = e.kind
  noBuiltinNames : ∀ t ∈ typeDefs doc, isDefaultName t.name = false
  members : DeclaresRules doc
  mergedMembersUnique : ∀ t ∈ merged doc, (t.fields.map (·.name)).Nodup ∧ (t.inputFields.map (·.name)).Nodup
      ∧ (t.values.map (·.name)).Nodup ∧ t.members.Nodup ∧ t.interfaces.Nodup

/-- `SdlValid` IS the rule set in which nothing refers to the builder -/
theorem sdlValid_iff_rules (doc : Doc) : SdlValid doc ↔ SdlValidRules doc :=
  ⟨fun v => ⟨v.uniqueTypes, v.uniqueDirectives, v.oneSchema, v.extTargets, v.noBuiltinNames, (declares_iff_rules doc).mp v.declares, v.mergedMembersUnique⟩,
   fun v => ⟨v.uniqueTypes, v.uniqueDirectives, v.oneSchema, v.extTargets, v.noBuiltinNames, (declares_iff_rules doc).mpr v.members, v.mergedMembersUnique⟩⟩

/-! ### non-vacuity -/

example : SdlValidRules okDoc := (sdlValid_iff_rules okDoc).mp (by decide +kernel)

example : ¬ TypeDefOK (Env.of []) { kind := .object, name := "Q", fields := [{ name := "a", type := .named "Nope" }] } := by
  intro h
  have h' : (∀ f ∈ [({ name := "a", type := .named "Nope" } : FieldDef)], FieldOK (Env.of []) f) ∧ _ := h
  rcases (h'.1 _ (List.Mem.head _)).1 with h1 | ⟨t, h1⟩ | ⟨d, h1⟩
  · revert h1; decide +kernel
  · cases h1
  · cases h1

end PyGql.Props.C11
