/-
  C20 — property theorems about the model of `diff_schema` (PyGqlModel/Diff.lean).
  The model is tied to the code by the correspondence (harness/corr/C20.py: real diff_schema vs
  drv_C20 on generated schema pairs); the safe-change predicates and severities it uses are the
  ones re-translated / re-extracted from the source on every run.
-/
import PyGqlModel.Diff
import PyGqlModel.Props.C20
import PyGqlModel.Lemmas.ListEqv

set_option linter.unusedSimpArgs false

namespace PyGql.Props.C20
open PyGql PyGql.Differ PyGql.Diff PyGql.Generated.Differ

/-- every element is the first one carrying its name (= names are unique in the list) -/
def Uniq {α} (name : α → String) (l : List α) : Prop :=
  ∀ x ∈ l, l.find? (fun y => name y == name x) = some x

theorem min_severity_filters (o n : SchemaD) (m : Nat) :
    diffSchema o n m = (diffSchema o n 0).filter (fun c => c.severity ≥ m) := by
  unfold diffSchema
  simp [List.filter_filter]

theorem diffSchema_zero (o n : SchemaD) :
    diffSchema o n 0 = diffRootTypes o n ++ findRemovedTypes o n ++ findAddedTypes o n ++ diffDirectives o n ++ findChangedTypes o n
      ++ diffUnionTypes o n ++ diffEnumTypes o n ++ diffObjectTypes o n ++ diffInterfaceTypes o n
      ++ diffInputTypes o n := by
  unfold diffSchema
  apply List.filter_eq_self.mpr
  intro c _; simp

theorem reported_at_severity (o n : SchemaD) (c : Change) (m : Nat) (h : c ∈ diffSchema o n 0)
    (hs : m ≤ c.severity) : c ∈ diffSchema o n m := by
  rw [min_severity_filters]
  exact List.mem_filter.mpr ⟨h, by simpa using hs⟩

theorem severity_mustBeBreaking {c : String} (h : c ∈ mustBeBreaking) (k : List (String × String)) (r : Bool) :
    (mk c k r).severity = sevBreaking := by
  show (severityOf c r).getD 99 = sevBreaking
  rw [severityOf_mustBeBreaking h r]
  rfl

theorem severity_breakingWhenRequired {c : String} (h : c ∈ breakingWhenRequired) (k : List (String × String)) :
    (mk c k true).severity = sevBreaking := by
  show (severityOf c true).getD 99 = sevBreaking
  rw [severityOf_breakingWhenRequired h]
  rfl

/-- with an empty BREAKING report (`2` is `sevBreaking`, the filter the statements write out), no change of a class the
    severity table makes BREAKING is reported at all: the form in which every "no breaking change ⇒ ..." statement uses its
    hypothesis -/
theorem absurd_of_breaking {o n : SchemaD} (h : diffSchema o n 2 = []) {cls : String} {k : List (String × String)}
    {r : Bool} (hc : mk cls k r ∈ diffSchema o n 0) (hm : cls ∈ mustBeBreaking) : False := by
  have := reported_at_severity o n _ 2 hc (Nat.le_of_eq (severity_mustBeBreaking hm k r).symm)
  rw [h] at this
  exact List.not_mem_nil this

/-- same for the classes that are BREAKING when the element is required -/
theorem absurd_of_required {o n : SchemaD} (h : diffSchema o n 2 = []) {cls : String} {k : List (String × String)}
    (hc : mk cls k true ∈ diffSchema o n 0) (hm : cls ∈ breakingWhenRequired) : False := by
  have := reported_at_severity o n _ 2 hc (Nat.le_of_eq (severity_breakingWhenRequired hm k).symm)
  rw [h] at this
  exact List.not_mem_nil this

theorem mem_of_findType {s : SchemaD} {x : String} {t : TypeD} (h : s.findType x = some t) :
    t ∈ s.types ∧ t.name = x := by
  unfold SchemaD.findType at h
  exact ⟨List.mem_of_find?_eq_some h, by simpa using List.find?_some h⟩

theorem matching_of_find (o n : SchemaD) (t t' : TypeD) (k : Kind) (ht : t ∈ o.types)
    (hf : n.findType t.name = some t') (hk : t.kind = k) (hk' : t'.kind = k) :
    (t, t') ∈ matchingPairs o n k := by
  unfold matchingPairs
  apply List.mem_filterMap.mpr
  refine ⟨t, List.mem_filter.mpr ⟨ht, by simp [hk]⟩, ?_⟩
  unfold SchemaD.findType at hf
  rw [PyGql.ListEqv.find_filter_of_find n.types (fun y => y.name == t.name) (fun y => y.kind == k) t' hf (by simp [hk'])]

/-- Removing a type is reported as `TypeRemoved` naming it, at every severity filter. -/
theorem removed_type_reported (o n : SchemaD) (t : TypeD) (m : Nat) (hm : m ≤ 2)
    (ht : t ∈ o.types) (hn : n.findType t.name = none) :
    mk "TypeRemoved" [("type_name", t.name)] ∈ diffSchema o n m := by
  apply reported_at_severity
  · rw [diffSchema_zero]
    simp only [List.mem_append]
    iterate 8 left
    right
    unfold findRemovedTypes
    apply List.mem_map.mpr
    exact ⟨t, List.mem_filter.mpr ⟨ht, by simp [hn]⟩, rfl⟩
  · rw [severity_mustBeBreaking (by simp [mustBeBreaking])]
    exact hm

/-- Adding a type is reported as `TypeAdded` naming it (when compatible changes are not filtered out). -/
theorem added_type_reported (o n : SchemaD) (t : TypeD)
    (ht : t ∈ n.types) (ho : o.findType t.name = none) :
    mk "TypeAdded" [("type_name", t.name)] ∈ diffSchema o n 0 := by
  rw [diffSchema_zero]
  simp only [List.mem_append]
  iterate 7 left
  right
  unfold findAddedTypes
  apply List.mem_map.mpr
  exact ⟨t, List.mem_filter.mpr ⟨ht, by simp [ho]⟩, rfl⟩

/-! ### non-vacuity: a concrete pair on which the hypotheses hold and the conclusion is not trivial -/

private def sOld : SchemaD :=
  { types := [{ kind := .object, name := "Query",
                fields := [{ name := "a", type := .named "Int",
                             args := [{ name := "x", type := .nonNull (.named "Int") }] },
                           { name := "gone", type := .named "Int" }] }] }
private def sNew : SchemaD :=
  { types := [{ kind := .object, name := "Query",
                fields := [{ name := "a", type := .nonNull (.named "Int"),
                             args := [{ name := "x", type := .named "Int" }] }] }] }

example : (diffSchema sOld sNew 2).map (·.cls) = ["FieldRemoved"] := by decide +kernel
example : diffSchema sNew sNew 0 = [] := by decide +kernel
example : (diffSchema sNew sOld 0).map (·.cls) = ["FieldChangedType", "FieldArgumentChangedType", "FieldAdded"] := by decide +kernel
/-- the compatible retypings (`Int` -> `Int!` on the field, `Int!` -> `Int` on the argument) are reported, as COMPATIBLE -/
example : (diffSchema sOld sNew 0).map (fun c => (c.cls, c.severity))
    = [("FieldChangedType", 0), ("FieldArgumentChangedType", 0), ("FieldRemoved", 2)] := by decide +kernel

end PyGql.Props.C20
