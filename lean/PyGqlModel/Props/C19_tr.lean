/-
  C19: the depth model's `skipSelection` (`PyGqlModel/Depth.lean`; `max_depth.py` imports `_skip_selection` from
  `utilities/collect_fields.py`) EQUALS the definition translated from the source on every run
  (`Generated/TrCollect.lean`), with `directive_arguments(D, node, variables)` read as `evalOpt vars <the condition of D>`.
-/
import PyGqlModel.Depth
import PyGqlModel.Lemmas.TrCollect

namespace PyGql.Props.C19
open PyGql PyGql.Depth PyGql.Generated

/-- `directive_arguments(D, node, variables)` in the depth model (conditions are already split by directive) -/
def directiveArguments (name : String) (d : Dirs) (vars : Vars) : Except Err (Option Bool) :=
  evalOpt vars (if name == "skip" then d.skip else d.incl)

/-- **`_skip_selection`: model = source.** (`exc` is irrelevant: no built-in exception is reachable, `Tr._skip_selection_eq`) -/
theorem skip_selection_model_eq_source (exc : String → Err) (d : Dirs) (vars : Vars) :
    skipSelection d vars = Tr._skip_selection exc directiveArguments d vars := by
  have hne : ("include" == "skip") = false := by decide
  simp only [Tr._skip_selection_eq, directiveArguments, beq_self_eq_true, hne, if_true, Bool.false_eq_true, if_false]
  unfold skipSelection
  cases evalOpt vars d.skip with
  | error e => rfl
  | ok sk => cases evalOpt vars d.incl <;> rfl

end PyGql.Props.C19
