/-
  C15 — `default_parses`: each reported default value is GraphQL syntax that reads back to the literal form of
  the declared default.  Stated about `Generated.formatDefaultValue`, the statement-by-statement TRANSLATION of
  `_format_default_value` (with fix C15-I1-partial, in /repo: GraphQL printing through
  `print_ast(ast_node_from_value(..))` for everything but plain strings, which get `"`, `\`, LF, CR escaped via the
  extracted table `_STRING_ESCAPES`).

  EVERY default kind round-trips (`default_parses_partial`, through `read_print`: the literal reader inverts the printer on
  every well-formed literal) except a plain string default containing a control character other than TAB/LF/CR.  That
  exception is real — the full statement is false (`default_parses_refuted`: raw FORM FEED, the very text
  `test_introspection_on_input_object` pins; known finding I1, residue) — and EXACT (`default_string_reads_back_iff`: the
  hypothesis `hs` of `default_parses_partial` cannot be weakened, and nothing else is excluded).
-/
import PyGqlModel.Lemmas.IntrospectRead

namespace PyGql.Props.C15
open PyGql PyGql.Introspect PyGql.Generated.Introspection

/-- what may follow a value inside a literal: nothing, a comma, or a closing bracket / brace -/
def delim (rest : Chars) : Bool := match rest with | [] => true | c :: _ => c = ',' || c = ']' || c = '}'

private theorem delim_head (c : Char) (r : Chars) (h : delim (c :: r) = true) :
    c.isDigit = false ∧ c ≠ '.' ∧ c ≠ 'e' ∧ c ≠ 'E' ∧ isNameStart c = false ∧ isNameCont c = false ∧ isFloatCont c = false := by
  simp [delim] at h
  rcases h with (h | h) | h <;> subst h <;> decide

private theorem readDigits_delim (rest : Chars) (a : Nat) (h : delim rest = true) : readDigits rest a = (a, rest) := by
  cases rest with
  | nil => rfl
  | cons c r => simp [readDigits, (delim_head c r h).1]

theorem readNumber_int (neg : Bool) (n : Nat) (rest : Chars) (h : delim rest = true) :
    readNumber neg (showNat n ++ rest) = some (.int (if neg then - (n : Int) else (n : Int)), rest) := by
  obtain ⟨d, cs, hd, e, hz⟩ := showNat_head n
  have hr : readDigits (showNat n ++ rest) 0 = (n, rest) := by rw [readDigits_showNat, readDigits_delim rest n h]
  have hdig := digit_facts d hd
  unfold readNumber
  rw [hr]
  rw [e] at *
  simp only [List.cons_append, hdig.1, ↓reduceIte]
  by_cases h0 : digitChar d = '0'
  · have hcs := hz (digit_zero d hd h0)
    subst hcs
    cases rest with
    | nil => simp [h0]
    | cons c r =>
      have := delim_head c r h
      simp [h0, this.1, this.2.1, this.2.2.1, this.2.2.2.1, this.2.2.2.2.1]
  · cases rest with
    | nil => simp [h0]
    | cons c r =>
      have := delim_head c r h
      simp [h0, this.2.1, this.2.2.1, this.2.2.2.1, this.2.2.2.2.1]

theorem readString_print (s : Chars) (rest acc : Chars) :
    readString (s.flatMap jsonEscCharRaw ++ '"' :: rest) acc = some (acc.reverse ++ s, rest) :=
  readString_flatMap jsonEscCharRaw s rest (fun c _ => readString_step c) acc

/-- characters of a plain string default that the (repaired) formatter reports in readable form: everything
    except the control characters other than TAB, LF, CR (those stay raw — the residue of I1) -/
def topCharOk (c : Char) : Bool := c.toNat ≥ 32 || c = '\t' || c = '\n' || c = '\r'

/-- one readable character of a plain string default: the reader consumes its reported form and goes on -/
theorem readString_top_step (c : Char) (tl acc : Chars) (h : topCharOk c = true) :
    readString ((table__STRING_ESCAPES.lookup c).getD [c] ++ tl) acc = readString tl (c :: acc) := by
  by_cases h1 : c = '"'
  · subst h1; simp [table__STRING_ESCAPES, readString]
  by_cases h2 : c = '\\'
  · subst h2; simp [table__STRING_ESCAPES, List.lookup, readString]
  by_cases h3 : c = '\n'
  · subst h3; simp [table__STRING_ESCAPES, List.lookup, readString]
  by_cases h4 : c = '\r'
  · subst h4; simp [table__STRING_ESCAPES, List.lookup, readString]
  rw [lookup_none c h1 h2 h3 h4]
  simp only [Option.getD_none, List.cons_append, List.nil_append]
  rw [readString_char c tl acc h1 h2, if_neg]
  simp [topCharOk, h3, h4] at h
  rcases h with h | h
  · simp; omega
  · subst h; decide

theorem readString_top (s : Chars) (rest acc : Chars) (h : s.all topCharOk = true) :
    readString (Prims.escapeWith table__STRING_ESCAPES s ++ '"' :: rest) acc = some (acc.reverse ++ s, rest) :=
  readString_flatMap _ s rest (fun c hc tl acc => readString_top_step c tl acc (List.all_eq_true.1 h c hc)) acc

def floatBodyOk (body : Chars) : Bool :=
  body.all isFloatCont &&
  match body with
  | c :: tl => c.isDigit && !(c = '0' && (match tl with | d :: _ => d.isDigit | [] => false)) &&
      (match (readDigits body 0).2 with | d :: _ => d = '.' || d = 'e' || d = 'E' | [] => false)
  | [] => false

theorem readNumber_float (neg : Bool) (body rest : Chars) (hb : floatBodyOk body = true) (h : delim rest = true) :
    readNumber neg (body ++ rest) = some (.float (if neg then '-' :: body else body), rest) := by
  cases body with
  | nil => simp [floatBodyOk] at hb
  | cons c tl =>
    simp only [floatBodyOk, Bool.and_eq_true, Bool.not_eq_true'] at hb
    obtain ⟨hall, ⟨hdig, hlead⟩, hmark⟩ := hb
    cases hrd : (readDigits (c :: tl) 0).2 with
    | nil => simp [hrd] at hmark
    | cons d r =>
      rw [hrd] at hmark
      have happ := readDigits_append (c :: tl) rest 0 (by rw [hrd]; simp)
      have hspan : spanWhile isFloatCont ((c :: tl) ++ rest) = (c :: tl, rest) := by
        apply spanWhile_append _ _ _ hall
        intro x xs e; subst e; exact (delim_head x xs h).2.2.2.2.2.2
      have htl : tl ≠ [] := by
        intro e; subst e
        simp [readDigits, hdig] at hrd
      unfold readNumber
      rw [happ, hrd]
      simp only [List.cons_append] at hspan ⊢
      simp only [hdig, ↓reduceIte, hspan]
      cases tl with
      | nil => exact absurd rfl htl
      | cons t ts =>
        simp only [List.cons_append]
        have hl : (decide (c = '0') && t.isDigit) = false := by simpa using hlead
        simp only [hl, Bool.false_eq_true, ↓reduceIte]
        simp [hmark]


def nameOk (nm : Chars) : Bool := match nm with | [] => false | c :: r => isNameStart c && r.all isNameCont
def enumNameOk (nm : Chars) : Bool :=
  nameOk nm && nm != ['t', 'r', 'u', 'e'] && nm != ['f', 'a', 'l', 's', 'e'] && nm != ['n', 'u', 'l', 'l']
/-- a float token as text: optional sign, digits (no superfluous leading zero), then a fraction / exponent -/
def floatTextOk (t : Chars) : Bool := match t with | '-' :: b => floatBodyOk b | b => floatBodyOk b

mutual
/-- literals the grammar can express: enum values and object keys are Names, float texts are float tokens -/
def wfLit : Lit → Bool
  | .float t => floatTextOk t
  | .enum n => enumNameOk n
  | .list xs => wfLits xs
  | .obj fs => wfFields fs
  | _ => true
def wfLits : List Lit → Bool
  | [] => true
  | x :: xs => wfLit x && wfLits xs
def wfFields : List (Chars × Lit) → Bool
  | [] => true
  | (k, v) :: fs => nameOk k && wfLit v && wfFields fs
end

mutual
def cost : Lit → Nat
  | .list xs => 1 + costs xs
  | .obj fs => 1 + costFields fs
  | _ => 1
def costs : List Lit → Nat
  | [] => 1
  | x :: xs => 1 + max (cost x) (costs xs)
def costFields : List (Chars × Lit) → Nat
  | [] => 1
  | (_, v) :: fs => 1 + max (cost v) (costFields fs)
end

private theorem floatBody_head (b : Chars) (h : floatBodyOk b = true) : ∃ c tl, b = c :: tl ∧ c.isDigit = true := by
  cases b with
  | nil => simp [floatBodyOk] at h
  | cons c tl =>
    simp only [floatBodyOk, Bool.and_eq_true] at h
    exact ⟨c, tl, rfl, h.2.1.1⟩

private theorem printLit_head (l : Lit) (h : wfLit l = true) : headOk (printLit l) := by
  cases l with
  | null => exact ⟨'n', _, rfl, by decide, by decide, by decide⟩
  | bool b => cases b <;> exact ⟨_, _, rfl, by decide, by decide, by decide⟩
  | int n =>
    cases n with
    | ofNat n =>
      obtain ⟨d, cs, hd, e, _⟩ := showNat_head n
      simp only [printLit, showInt, e]
      exact digit_headOk d hd cs
    | negSucc n => exact ⟨'-', _, rfl, by decide, by decide, by decide⟩
  | float t =>
    simp only [wfLit] at h
    simp only [printLit]
    unfold floatTextOk at h
    split at h
    · exact ⟨'-', _, rfl, by decide, by decide, by decide⟩
    · obtain ⟨c, tl, e, hc⟩ := floatBody_head _ h
      rw [e]; exact isDigit_headOk c tl hc
  | str s => exact ⟨'"', _, rfl, by decide, by decide, by decide⟩
  | enum nm =>
    simp only [wfLit, enumNameOk, nameOk, Bool.and_eq_true] at h
    cases nm with
    | nil => simp at h
    | cons c r =>
      have hns : isNameStart c = true := by
        have := h.1.1.1
        simp only [Bool.and_eq_true] at this
        exact this.1
      have := nameStart_facts c hns
      exact ⟨c, r, rfl, this.1, this.2.1, this.2.2.1⟩
  | list xs => exact ⟨'[', _, rfl, by decide, by decide, by decide⟩
  | obj fs => exact ⟨'{', _, rfl, by decide, by decide, by decide⟩

private theorem readVal_name (nm rest : Chars) (hn : nameOk nm = true) (hd : delim rest = true) (fuel : Nat) :
    readVal (fuel + 1) (nm ++ rest) = some (classifyName nm, rest) := by
  cases nm with
  | nil => simp [nameOk] at hn
  | cons c r =>
    simp only [nameOk, Bool.and_eq_true] at hn
    have f := nameStart_facts c hn.1
    have hall : (c :: r).all isNameCont = true := by simp [f.2.2.2.2.2.2.2.2, hn.2]
    have hspan := spanWhile_append isNameCont (c :: r) rest hall
      (fun x xs e => by subst e; exact (delim_head x xs hd).2.2.2.2.2.1)
    rw [List.cons_append] at hspan ⊢
    rw [readVal_other c _ fuel f.1 f.2.2.2.2.1 f.2.2.2.2.2.1 f.2.2.2.2.2.2.1 f.2.2.2.2.2.2.2.1, f.2.2.2.1, if_pos hn.1, hspan]
    rfl

private theorem readVal_int (n : Int) (rest : Chars) (hd : delim rest = true) (f : Nat) :
    readVal (f + 1) (showInt n ++ rest) = some (.int n, rest) := by
  cases n with
  | ofNat n =>
    obtain ⟨d, cs, hd10, e, _⟩ := showNat_head n
    have hr := readNumber_int false n rest hd
    simp only [showInt]
    rw [e] at hr ⊢
    rw [List.cons_append, readVal_digit _ _ (digit_facts d hd10).1 f]
    simpa using hr
  | negSucc n =>
    simp only [showInt, List.cons_append]
    rw [readVal_minus, readNumber_int true (n + 1) rest hd]
    simp [Int.negSucc_eq]

private theorem readVal_float (t : Chars) (h : floatTextOk t = true) (rest : Chars) (hd : delim rest = true) (f : Nat) :
    readVal (f + 1) (t ++ rest) = some (.float t, rest) := by
  unfold floatTextOk at h
  split at h
  · rename_i b
    rw [List.cons_append, readVal_minus, readNumber_float true b rest h hd]
    rfl
  · obtain ⟨c, tl, e, hcd⟩ := floatBody_head _ h
    subst e
    rw [List.cons_append, readVal_digit _ _ hcd f]
    exact readNumber_float false (c :: tl) rest h hd

private theorem readVal_str (s rest : Chars) (f : Nat) : readVal (f + 1) (jsonStringRaw s ++ rest) = some (.str s, rest) := by
  simp only [jsonStringRaw, List.cons_append, List.append_assoc, List.nil_append]
  rw [readVal_quote, readString_print]
  rfl

private theorem readVal_enum (nm : Chars) (h : enumNameOk nm = true) (rest : Chars) (hd : delim rest = true) (f : Nat) :
    readVal (f + 1) (nm ++ rest) = some (.enum nm, rest) := by
  simp only [enumNameOk, Bool.and_eq_true, bne_iff_ne, ne_eq] at h
  rw [readVal_name nm rest h.1.1.1 hd f]
  simp [classifyName, h.1.1.2, h.1.2, h.2]

/-- one `key: value` entry of an object literal -/
private theorem readFields_step (k : Chars) (v : Lit) (f : Nat) (tail : Chars) (res : List (Chars × Lit) × Chars)
    (hk : nameOk k = true) (hv : readVal f (printLit v ++ tail) = some (v, tail)) (ht : readFields f tail = some res) :
    readFields (f + 1) (k ++ ':' :: ' ' :: (printLit v ++ tail)) = some ((k, v) :: res.1, res.2) := by
  cases k with
  | nil => simp [nameOk] at hk
  | cons c r =>
    simp only [nameOk, Bool.and_eq_true] at hk
    have fc := nameStart_facts c hk.1
    have hall : (c :: r).all isNameCont = true := by simp [fc.2.2.2.2.2.2.2.2, hk.2]
    have hspan := spanWhile_append isNameCont (c :: r) (':' :: ' ' :: (printLit v ++ tail)) hall
      (fun x xs e => by injection e with e1 _; subst e1; decide)
    simp only [List.cons_append] at hspan ⊢
    rw [readFields]
    simp only [skipIgnored, fc.1, Bool.false_eq_true, ↓reduceIte]
    split
    · rename_i heq; injection heq with h1 _; exact absurd h1 fc.2.2.1
    · rename_i c' r' heq
      injection heq with h1 h2
      subst h1; subst h2
      simp only [hk.1, ↓reduceIte, hspan]
      simp [skipIgnored, isIgnored, readVal_space, hv, ht]
    · rename_i heq; cases heq

private theorem cost_pos (l : Lit) : 0 < cost l := by cases l <;> simp only [cost] <;> omega

mutual
private theorem readVal_print : (l : Lit) → wfLit l = true → ∀ (fuel : Nat) (rest : Chars), cost l ≤ fuel → delim rest = true →
    readVal fuel (printLit l ++ rest) = some (l, rest)
  | l, _, 0, _, hc, _ => absurd hc (Nat.not_le.mpr (cost_pos l))
  | .null, _, f + 1, rest, _, hd => readVal_name ['n', 'u', 'l', 'l'] rest (by decide) hd f
  | .bool true, _, f + 1, rest, _, hd => readVal_name ['t', 'r', 'u', 'e'] rest (by decide) hd f
  | .bool false, _, f + 1, rest, _, hd => readVal_name ['f', 'a', 'l', 's', 'e'] rest (by decide) hd f
  | .int n, _, f + 1, rest, _, hd => readVal_int n rest hd f
  | .float t, h, f + 1, rest, _, hd => readVal_float t h rest hd f
  | .str s, _, f + 1, rest, _, _ => readVal_str s rest f
  | .enum nm, h, f + 1, rest, _, hd => readVal_enum nm h rest hd f
  | .list xs, h, f + 1, rest, hc, hd => by
    simp only [wfLit] at h
    simp only [printLit, List.cons_append, List.append_assoc, List.nil_append]
    rw [readVal_bracket, readItems_print xs h f rest (by simp only [cost] at hc; omega)]
    rfl
  | .obj fs, h, f + 1, rest, hc, hd => by
    simp only [wfLit] at h
    simp only [printLit, List.cons_append, List.append_assoc, List.nil_append]
    rw [readVal_brace, readFields_print fs h f rest (by simp only [cost] at hc; omega)]
    rfl

private theorem readItems_print : (xs : List Lit) → wfLits xs = true → ∀ (fuel : Nat) (rest : Chars), costs xs ≤ fuel →
    readItems fuel (printLits xs ++ ']' :: rest) = some (xs, rest)
  | _, _, 0, _, hc => by cases ‹List Lit› <;> simp [costs] at hc
  | [], _, f + 1, rest, _ => readItems_close rest f
  | [x], h, f + 1, rest, hc => by
    rw [wfLits, Bool.and_eq_true] at h
    simp only [costs] at hc
    exact readItems_step _ x f _ ([], rest) (printLit_head x h.1)
      (readVal_print x h.1 f (']' :: rest) (by omega) rfl) (readItems_print [] rfl f rest (by simp only [costs]; omega))
  | x :: y :: ys, h, f + 1, rest, hc => by
    rw [wfLits, Bool.and_eq_true] at h
    rw [costs] at hc
    simp only [printLits, List.append_assoc, List.cons_append, List.nil_append]
    exact readItems_step _ x f _ (y :: ys, rest) (printLit_head x h.1) (readVal_print x h.1 f _ (by omega) rfl)
      (by rw [readItems_sep]; exact readItems_print (y :: ys) h.2 f rest (by omega))

private theorem readFields_print : (fs : List (Chars × Lit)) → wfFields fs = true → ∀ (fuel : Nat) (rest : Chars), costFields fs ≤ fuel →
    readFields fuel (printLitFields fs ++ '}' :: rest) = some (fs, rest)
  | _, _, 0, _, hc => by cases ‹List (Chars × Lit)› <;> simp [costFields] at hc
  | [], _, f + 1, rest, _ => readFields_close rest f
  | [(k, v)], h, f + 1, rest, hc => by
    simp only [wfFields, Bool.and_eq_true] at h
    simp only [costFields] at hc
    simp only [printLitFields, List.append_assoc, List.cons_append, List.nil_append]
    exact readFields_step k v f _ ([], rest) h.1.1 (readVal_print v h.1.2 f ('}' :: rest) (by omega) rfl)
      (readFields_print [] rfl f rest (by simp only [costFields]; omega))
  | (k, v) :: kv :: kvs, h, f + 1, rest, hc => by
    rw [wfFields, Bool.and_eq_true, Bool.and_eq_true] at h
    rw [costFields] at hc
    simp only [printLitFields, List.append_assoc, List.cons_append, List.nil_append]
    exact readFields_step k v f _ (kv :: kvs, rest) h.1.1 (readVal_print v h.1.2 f _ (by omega) rfl)
      (by rw [readFields_sep]; exact readFields_print (kv :: kvs) h.2 f rest (by omega))
end

mutual
private theorem cost_le : (l : Lit) → cost l ≤ (printLit l).length + 1
  | .null => Nat.le_add_left 1 _
  | .bool _ => Nat.le_add_left 1 _
  | .int _ => Nat.le_add_left 1 _
  | .float _ => Nat.le_add_left 1 _
  | .str _ => Nat.le_add_left 1 _
  | .enum _ => Nat.le_add_left 1 _
  | .list xs => by
    have := costs_le xs
    simp only [cost, printLit, List.length_cons, List.length_append, List.length_nil]; omega
  | .obj fs => by
    have := costFields_le fs
    simp only [cost, printLit, List.length_cons, List.length_append, List.length_nil]; omega
private theorem costs_le : (xs : List Lit) → costs xs ≤ (printLits xs).length + 2
  | [] => by simp [costs]
  | [x] => by
    have := cost_le x
    simp only [costs, printLits]; omega
  | x :: y :: ys => by
    have h1 := cost_le x
    have h2 := costs_le (y :: ys)
    simp only [costs, printLits, List.length_append, List.length_cons, List.length_nil] at h2 ⊢; omega
private theorem costFields_le : (fs : List (Chars × Lit)) → costFields fs ≤ (printLitFields fs).length + 2
  | [] => by simp [costFields]
  | [(k, v)] => by
    have := cost_le v
    simp only [costFields, printLitFields, List.length_append, List.length_cons, List.length_nil]; omega
  | (k, v) :: kv :: kvs => by
    have h1 := cost_le v
    have h2 := costFields_le (kv :: kvs)
    simp only [costFields, printLitFields, List.length_append, List.length_cons, List.length_nil] at h2 ⊢; omega
end

/-- The literal reader inverts the printer (`print_ast` on value nodes) on every well-formed literal —
    integers of any size and sign, float texts, strings with any characters (escapes `\" \\ \n \r \t \b \f \u00XX`),
    names, lists and objects nested to any depth with `, ` separators. -/
theorem read_print (l : Lit) (h : wfLit l = true) : readLit (printLit l) = some l := by
  have := readVal_print l h ((printLit l).length + 1) [] (cost_le l) rfl
  simp only [List.append_nil] at this
  simp [readLit, this, skipIgnored]

/-- FULL statement: whenever the declared default `dv` of an input value of type `ty` has a well-formed literal form
    `l` (`ast_node_from_value`, what the SDL printer prints), the reported `defaultValue` text reads back to `l`.
    Literal level: a plain string default is compared where its literal form is a string (an `ID` / custom-scalar
    default that looks like an integer has an Int literal form but is reported quoted — the same value after coercion).
    `64` is the fuel with which the formatter's `Prims.printAstOfValueStrict` runs `litOfStrict` (IntrospectPrims.lean): a
    bound of the model on the nesting of the default, with no counterpart in /repo; beyond it nothing is reported. -/
def DefaultParsesStatement : Prop :=
  ∀ (s : SchemaD) (ty : Ty) (dv : J) (l : Lit), litOfStrict s 64 ty dv = some l → wfLit l = true →
    (∀ x, dv = .str x → Prims.baseIsOneOf ty ["String", "ID"] = true → l = .str x.toList) →
    ∃ text, formatDefaultValue s true dv ty = some text ∧ readLit text = some l

def witnessSchema : SchemaD :=
  { types := [ { kind := .scalar, name := "Int" }, { kind := .scalar, name := "String" },
               { kind := .enum, name := "E", values := [{ name := "A", value := .str "A" }, { name := "B", value := .num 1 }] },
               { kind := .input, name := "I", inputFields := [{ name := "a", type := .named "Int" }, { name := "e", type := .list (.named "E") }] },
               { kind := .object, name := "Query", fields := [{ name := "f", type := .named "Int" }] } ] }

/-- I1 (residue): a string default containing FORM FEED is reported raw between the quotes — not a literal.
    (`test_introspection_on_input_object` pins exactly this text shape.) -/
theorem default_string_control_raw :
    formatDefaultValue witnessSchema true (.str (String.ofList [Char.ofNat 12])) (.named "String") = some ['"', Char.ofNat 12, '"']
    ∧ readLit ['"', Char.ofNat 12, '"'] = none
    ∧ litOfStrict witnessSchema 64 (.named "String") (.str (String.ofList [Char.ofNat 12])) = some (.str [Char.ofNat 12]) := ⟨rfl, rfl, rfl⟩

/-- the full statement is FALSE (also with the partial repair): witness above -/
theorem default_parses_refuted : ¬ DefaultParsesStatement := by
  intro h
  obtain ⟨text, h1, h2⟩ := h witnessSchema (.named "String") (.str (String.ofList [Char.ofNat 12])) (.str [Char.ofNat 12])
    default_string_control_raw.2.2 rfl (by intro x hx _; injection hx with hx; subst hx; rfl)
  rw [default_string_control_raw.1] at h1
  injection h1 with h1
  subst h1
  rw [default_string_control_raw.2.1] at h2
  cases h2

/-- Which defaults round-trip: ALL of them (null, booleans, integers, floats as text,
    enum values by NAME whatever the internal value, strings inside lists / objects with full escaping, lists and
    nested lists, input objects) except a plain (top-level, non-enum) string default containing a control character
    other than TAB, LF, CR, which is the hypothesis `hs` (and the refutation above). -/
theorem default_parses_partial (s : SchemaD) (ty : Ty) (dv : J) (l : Lit)
    (hl : litOfStrict s 64 ty dv = some l) (hwf : wfLit l = true)
    (hs : ∀ x, dv = .str x → Prims.baseIsOneOf ty ["String", "ID"] = true → l = .str x.toList ∧ x.toList.all topCharOk = true) :
    ∃ text, formatDefaultValue s true dv ty = some text ∧ readLit text = some l := by
  by_cases hnone : Prims.isNone dv = true
  · obtain rfl := (isNone_iff dv).mp hnone
    obtain rfl := litOf_null s false 64 ty l hl
    exact ⟨_, format_null s ty, rfl⟩
  by_cases hstr : (Prims.isStr dv && Prims.baseIsOneOf ty ["String", "ID"]) = true
  · rw [Bool.and_eq_true] at hstr
    obtain ⟨x, rfl⟩ := (isStr_iff dv).mp hstr.1
    obtain ⟨rfl, hok⟩ := hs x rfl hstr.2
    refine ⟨_, format_str s ty x hstr.2, ?_⟩
    rw [readLit_quote, readString_top x.toList [] [] hok]
    rfl
  · refine ⟨printLit l, ?_, read_print l hwf⟩
    rw [format_other s ty dv (by simpa using hnone) (by simpa using hstr), hl]
    rfl

/-- I11: in the literal form introspection reports, a string of a CUSTOM scalar is a string literal whatever it
    spells (`"7"`, `"1.5"`, `"nan"`): the number/string distinction of the declared value survives at every depth
    (the SDL printer's form `litOf` prints `"7"` as `7`). -/
theorem strict_string_stays_string (s : SchemaD) (n : String) (td : TypeD) (x : String)
    (ht : s.findType n = some td) (hk : td.kind = .scalar) (hn : specifiedScalars.contains n = false) :
    litOfStrict s 64 (.named n) (.str x) = some (.str x.toList) := by
  have hid : (n == "ID") = false := by
    cases h : (n == "ID") with
    | false => rfl
    | true => simp at h; subst h; simp [specifiedScalars] at hn
  simp [litOfStrict, litOfG, ht, hk, customNode, scalarNode, hid]

/-- the same declared list `["7", 7]` of a custom scalar: reported form vs SDL-printer form -/
example : let s : SchemaD := { types := [{ kind := .scalar, name := "Any" }] }
    litOfStrict s 64 (.list (.named "Any")) (.arr [.str "7", .num 7]) = some (.list [.str ['7'], .float ['7']])
    ∧ litOf s 64 (.list (.named "Any")) (.arr [.str "7", .num 7]) = some (.list [.int 7, .float ['7']]) := ⟨rfl, rfl⟩

/-- non-vacuity: a nested default `{a: -7, e: [B, A]}` (enum `B` has internal value 1) satisfies every hypothesis;
    so do an enum default given by internal value and a nested list -/
example : litOfStrict witnessSchema 64 (.named "I") (.obj [("a", .num (-7)), ("e", .arr [.num 1, .str "A"])])
      = some (.obj [(['a'], .int (-7)), (['e'], .list [.enum ['B'], .enum ['A']])])
    ∧ wfLit (.obj [(['a'], .int (-7)), (['e'], .list [.enum ['B'], .enum ['A']])]) = true
    ∧ formatDefaultValue witnessSchema true (.obj [("a", .num (-7)), ("e", .arr [.num 1, .str "A"])]) (.named "I")
      = some "{a: -7, e: [B, A]}".toList := ⟨rfl, by decide +kernel, by decide +kernel⟩

example : litOfStrict witnessSchema 64 (.list (.list (.named "Int"))) (.arr [.arr [.num 1, .num 20], .arr [], .null])
      = some (.list [.list [.int 1, .int 20], .list [], .null])
    ∧ formatDefaultValue witnessSchema true (.arr [.arr [.num 1, .num 20], .arr [], .null]) (.list (.list (.named "Int")))
      = some "[[1, 20], [], null]".toList := ⟨rfl, by decide +kernel⟩

example : floatTextOk "-2.25".toList = true ∧ floatTextOk "1e+20".toList = true ∧ floatTextOk "3".toList = false
    ∧ topCharOk '\t' = true ∧ topCharOk (Char.ofNat 12) = false := by decide +kernel

private theorem ctrl_facts (c : Char) (h : topCharOk c = false) : c.toNat < 32 ∧ c ≠ '\t' ∧ c ≠ '\n' ∧ c ≠ '\r' := by
  simp only [topCharOk, Bool.or_eq_false_iff, decide_eq_false_iff_not, ge_iff_le, Nat.not_le] at h
  obtain ⟨⟨⟨h1, h2⟩, h3⟩, h4⟩ := h
  exact ⟨h1, h2, h3, h4⟩

/-- a raw control character (not TAB) stops the string reader -/
private theorem readString_ctrl (c : Char) (tl acc : Chars) (h : topCharOk c = false) :
    table__STRING_ESCAPES.lookup c = none ∧ readString (c :: tl) acc = none := by
  have hc := ctrl_facts c h
  have hq : c ≠ '"' := by intro e; subst e; simp at hc
  have hb : c ≠ '\\' := by intro e; subst e; simp at hc
  have h9 : c.toNat ≠ 9 := fun e => hc.2.1 (by rw [← Char.ofNat_toNat c, e])
  exact ⟨lookup_none c hq hb hc.2.2.1 hc.2.2.2, by rw [readString_char c tl acc hq hb, if_pos (by simp [hc.1, h9])]⟩

private theorem readString_bad (s : Chars) (rest acc : Chars) (h : s.all topCharOk = false) :
    readString (Prims.escapeWith table__STRING_ESCAPES s ++ '"' :: rest) acc = none := by
  induction s generalizing acc with
  | nil => simp at h
  | cons c cs ih =>
    cases hc : topCharOk c with
    | false =>
      simp only [Prims.escapeWith, List.flatMap_cons, (readString_ctrl c [] acc hc).1, Option.getD_none, List.cons_append, List.nil_append]
      exact (readString_ctrl c _ acc hc).2
    | true =>
      have hcs : cs.all topCharOk = false := by simpa [List.all_cons, hc] using h
      -- one good character is consumed, the rest still contains the bad one
      have hstep : readString (Prims.escapeWith table__STRING_ESCAPES (c :: cs) ++ '"' :: rest) acc
          = readString (Prims.escapeWith table__STRING_ESCAPES cs ++ '"' :: rest) (c :: acc) := by
        have := readString_top_step c (Prims.escapeWith table__STRING_ESCAPES cs ++ '"' :: rest) acc hc
        simpa [Prims.escapeWith, List.flatMap_cons, List.append_assoc] using this
      rw [hstep]
      exact ih (c :: acc) hcs

/-- A plain string default `x` at a `String` / `ID` typed input value: the text introspection
    reports reads back (as GraphQL syntax) to the declared string iff `x` has no control character other than TAB, LF, CR.
    With `default_parses_partial` (every OTHER default round-trips): the excluded set is exactly this one, known finding I1. -/
theorem default_string_reads_back_iff (s : SchemaD) (ty : Ty) (x : String) (hty : Prims.baseIsOneOf ty ["String", "ID"] = true) :
    (∃ text, formatDefaultValue s true (.str x) ty = some text ∧ readLit text = some (.str x.toList)) ↔ x.toList.all topCharOk = true := by
  constructor
  · rintro ⟨text, h1, h2⟩
    rw [format_str s ty x hty] at h1
    injection h1 with h1
    subst h1
    cases hall : x.toList.all topCharOk with
    | true => rfl
    | false =>
      rw [readLit_quote, readString_bad x.toList [] [] hall] at h2
      cases h2
  · intro hok
    refine ⟨_, format_str s ty x hty, ?_⟩
    rw [readLit_quote, readString_top x.toList [] [] hok]
    rfl

/-- non-vacuity, both directions: TAB inside a default is fine, FORM FEED is not -/
example : ("a\tb".toList.all topCharOk = true) ∧ ((String.ofList ['a', Char.ofNat 12]).toList.all topCharOk = false) := by decide

end PyGql.Props.C15
