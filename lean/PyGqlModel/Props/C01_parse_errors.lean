/-
  C01, the error clause for the PARSER: "each syntax error reports a position inside the submitted text and can always
  be rendered as a message and as a response-error dictionary".

  Token level : every error of the three entry points is at a position ≤ n whenever the tokens lie in `[0, n]`
                (`parse_error_in_range`) — the position is always the start of a token of the input.
  Text level  : `lexAll` puts every token inside the text (`lexAll_in_range`, from `lex_sound`), hence
                every error RAISED BY THE PARSER is inside the text (`parse_text_parser_error_in_range`, no exception),
                and for the composed pipeline the ONLY excluded case is the lexer's L6
                (`parse_text_error_in_range_partial`, stated exactly as `error_in_range_partial`).
  Rendering   : `str()` / `.highlighted` / `.to_dict()` are total (`render_total`), and for parser errors
                `index_to_loc` is defined on the reported position itself, without clamping.
-/
import PyGqlModel.Props.C01_lex
import PyGqlModel.Lemmas.ParseRangeFns
import PyGqlModel.ParseText
namespace PyGql.Props.C01
open PyGql PyGql.Ast PyGql.Parse PyGql.StringUtils
open PyGql.Spec.Lexical (Tiles)

/-- token level, all flags, all three entry points: if every token lies in `[0, n]`, a
    rejection reports a position in `[0, n]`. -/
theorem parse_error_in_range (fl : Flags) (n : Nat) (toks : List Tok) (hr : ∀ t ∈ toks, TokR n t) (e : SynErr) :
    (parseDocument fl toks = .error e → e.pos ≤ n) ∧
    (parseValue fl toks = .error e → e.pos ≤ n) ∧
    (parseType fl toks = .error e → e.pos ≤ n) :=
  ⟨runAll_in_range n _ (fun _ => SafeC.safe) toks hr e,
   runAll_in_range n _ (fun _ => SafeC.safe) toks hr e, runAll_in_range n _ (fun _ => SafeC.safe) toks hr e⟩

theorem tiles_in_range (n : Nat) (s : Text) (body : List Tok) (h : Tiles n s body) : ∀ t ∈ body, TokR n t := by
  induction h with
  | eof ign _ => intro t ht; simp at ht; subst ht; exact ⟨Nat.le_refl _, Nat.le_refl _⟩
  | tok ign lex rest k v toks _ _ _ _ ih =>
    intro t ht
    rcases List.mem_cons.1 ht with rfl | ht
    · exact ⟨Nat.sub_le _ _, Nat.sub_le _ _⟩
    · exact ih t ht

theorem lexAll_in_range (s : Text) (toks : List Tok) (h : Lex.lexAll s = .ok toks) : ∀ t ∈ toks, TokR s.length t := by
  obtain ⟨body, rfl, ht⟩ := lex_sound s toks h
  intro t hm
  rcases List.mem_cons.1 hm with rfl | hm
  · exact ⟨Nat.zero_le _, Nat.zero_le _⟩
  · exact tiles_in_range _ _ _ ht t hm

/-- every error RAISED BY THE PARSER (any entry point, any flags) is inside the submitted text — no exception -/
theorem parse_text_parser_error_in_range (fl : Flags) (s : Text) (pe : SynErr) :
    (parseTextE fl s = .error (.parse pe) → pe.pos ≤ s.length) ∧
    (parseValueTextE fl s = .error (.parse pe) → pe.pos ≤ s.length) ∧
    (parseTypeTextE fl s = .error (.parse pe) → pe.pos ≤ s.length) := by
  refine ⟨fun h => ?_, fun h => ?_, fun h => ?_⟩ <;> obtain ⟨toks, hl, hp⟩ := withLexer_parse_error.1 h
  · exact (parse_error_in_range fl s.length toks (lexAll_in_range s toks hl) pe).1 hp
  · exact (parse_error_in_range fl s.length toks (lexAll_in_range s toks hl) pe).2.1 hp
  · exact (parse_error_in_range fl s.length toks (lexAll_in_range s toks hl) pe).2.2 hp

/-- FULL STATEMENT of the clause for the composed pipeline — false only because of the lexer's L6
    (`error_in_range_refuted`) -/
def ParseTextErrorInRangeStatement : Prop :=
  ∀ (fl : Flags) (s : Text) (e : TextErr), parseTextE fl s = .error e → e.pos ≤ s.length

/-- NOTE: `parseTextE` is the EAGER composition (lexer, then parser). The real `Parser` pulls tokens lazily and,
    for a text with a lexical error, may report an EARLIER grammatical error instead; that pipeline is `parseTextLazyE`
    (`ParseLazy.lean`), and the same statement is proved for it as `parse_text_lazy_error_in_range` (`Props/C01_lazy.lean`),
    together with `lazy_ok_iff` (acceptance and tree do not depend on the window).
    The theorem: a rejected text reports a position `0 ≤ p ≤ len(text)`, the ONLY excluded
    case being L6 — the lexer's `NonTerminatedString` at `len + 1` when the text ends inside an escape sequence
    (exactly the exception of `error_in_range_partial`).  Holds for `parse`, `parse_value`, `parse_type`, all flags. -/
theorem parse_text_error_in_range_partial (fl : Flags) (s : Text) (e : TextErr)
    (h : parseTextE fl s = .error e ∨ parseValueTextE fl s = .error e ∨ parseTypeTextE fl s = .error e) :
    e.pos ≤ s.length ∨
      ∃ le, e = .lex le ∧ le.pos = s.length + 1 ∧ le.kind = .nonTerminatedString := by
  cases e with
  | parse pe =>
    left
    have := parse_text_parser_error_in_range fl s pe
    rcases h with h | h | h
    · exact this.1 h
    · exact this.2.1 h
    · exact this.2.2 h
  | lex le =>
    rcases error_in_range_partial s le (text_lex_error h) with h' | ⟨h1, h2⟩
    · exact Or.inl h'
    · exact Or.inr ⟨le, rfl, h1, h2⟩

/-- every rejection can be rendered: `str()` / `.highlighted` and `.to_dict()` succeed for the reported position of
    ANY error of the pipeline (`render_total`, which covers even the `len + 1` of L6 through the clamp) -/
theorem parse_text_render_total (fl : Flags) (s : Text) (e : TextErr) (_h : parseTextE fl s = .error e) :
    (highlighted s e.pos).isSome = true ∧ (toDict s e.pos).isSome = true :=
  render_total s e.pos

/-- for errors raised by the PARSER no clamping is involved: `index_to_loc(text, position)` itself is defined (it is
    defined exactly on `0 ≤ position ≤ len(text)`, `index_to_loc_total_iff`) -/
theorem parse_error_index_to_loc_total (fl : Flags) (s : Text) (pe : SynErr)
    (h : parseTextE fl s = .error (.parse pe) ∨ parseValueTextE fl s = .error (.parse pe) ∨
      parseTypeTextE fl s = .error (.parse pe)) :
    (indexToLoc s pe.pos).isSome = true := by
  rw [index_to_loc_total_iff]
  have := parse_text_parser_error_in_range fl s pe
  rcases h with h | h | h
  · exact this.1 h
  · exact this.2.1 h
  · exact this.2.2 h

/-- (position, is-UnexpectedEOF) of a parser-raised error -/
private def parserErr {α} : Except TextErr α → Option (Nat × Bool)
  | .error (.parse e) => some (e.pos, e.eof)
  | _ => none

/-- `{ 1 }`: UnexpectedToken at 2;  `{a`: UnexpectedToken (`expect(Name)` never raises UnexpectedEOF) at len = 2;
    `{a(x:`: UnexpectedEOF at len = 5 -/
example : parserErr (parseTextE {} [123, 32, 49, 32, 125]) = some (2, false) := by decide +kernel
example : parserErr (parseTextE {} [123, 97]) = some (2, false) := by decide +kernel
example : parserErr (parseTextE {} [123, 97, 40, 120, 58]) = some (5, true) := by decide +kernel
/-- the excluded case is real: `"\` is rejected by the LEXER at len + 1 (L6) -/
example : (match parseTextE {} [34, 92] with | .error (.lex e) => e.pos | _ => 0) = 3 := by decide +kernel

/-! ### viable prefixes: the full statement is FALSE of the code

  "The error position is the end of the longest token prefix that can still be extended to an accepted document."
  Five of the seven `parse_*_type_extension` methods raise at `self.peek()` (the offending token), but
  `parse_scalar_type_extension` raises at `start` (the `extend` keyword) and `parse_input_object_type_extension`
  at `start.start`: for `extend scalar A` the reported position is 0 although `extend scalar A` (up to offset 15)
  is a viable prefix (`extend scalar A @d` is accepted).  The position is still INSIDE the text
  (`parse_error_in_range`), so no clause of C01 is violated; the model follows the code (positions compared by the
  correspondence on every rejected input). -/

/-- FULL STATEMENT (one half): no token of a viable prefix lies at or after the reported error position -/
def ViablePrefixStatement : Prop :=
  ∀ (fl : Flags) (toks : List Tok) (e : SynErr), parseDocument fl toks = .error e →
    ∀ pre t post suf, toks = pre ++ t :: post → (parseDocument fl (pre ++ t :: suf)).toBool = true → t.start < e.pos

private def tk (k : TokKind) (s e : Nat) (v : Text := []) : Tok := { kind := k, start := s, stop := e, value := v }

/-- refutation witness (also the replay on the implementation: `parse("extend scalar A", allow_type_system=True)`
    raises at position 0): the token `scalar` at 7 belongs to the viable prefix `extend scalar` (completed by `A @d`),
    yet the error is reported at 0 -/
theorem viable_prefix_refuted : ¬ ViablePrefixStatement := by
  intro h
  have := h { allowTypeSystem := true }
    [tk .sof 0 0, tk .name 0 6 K.extend, tk .name 7 13 K.scalar, tk .name 14 15 [65], tk .eof 15 15]
    ⟨0, "Unexpected token", false⟩ (by rfl)
    [tk .sof 0 0, tk .name 0 6 K.extend] (tk .name 7 13 K.scalar) [tk .name 14 15 [65], tk .eof 15 15]
    [tk .name 14 15 [65], tk .atSign 16 17, tk .name 17 18 [100], tk .eof 18 18] rfl (by decide)
  simp [tk] at this

end PyGql.Props.C01
