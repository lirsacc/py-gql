/-
  C11 — `schema_directives=`: WHICH parts of a document have their applied directives handed to
  `apply_schema_directives` by `extend_schema` (the `within=` node list `used` of schema_from_ast.py).

  `build_schema` applies the schema directives once, to the schema it built (`within=None`: every node).  `extend_schema`
  applies them to `used` = the schema extensions, the NEW type and directive definitions and the kept type extensions of
  the document — the four results of `_collect_extensions` (`ExtCollected`).

  The application itself (SchemaDirective visitors) is not modelled; harness/corr/C11.py `run_schema_directives_once`
  counts applications on the real code (seeded change C14-12 breaks `used_definitions_are_new`).
-/
import PyGqlModel.Props.C11_extend_lax


namespace PyGql.Props.C11
open PyGql PyGql.Sdl PyGql.SdlSpec

/-- `used` of `extend_schema`: `list(schema_exts) + list(type_defs.values()) + list(directive_defs.values()) + [type extensions]` -/
def usedParts (c : ExtCollected) : Doc :=
  c.schemaExts.map .schemaExt ++ c.typeDefs.map .type ++ c.dirDefs.map .directive ++ c.typeExts.map .ext

theorem typeDefs_laxKeep_new (live : Live) (B : Doc) : ∀ t ∈ typeDefs (laxKeep live B), live.hasType t.name = false := by
  intro t ht
  unfold laxKeep typeDefs at ht
  simp only [List.mem_filterMap, List.mem_filter] at ht
  obtain ⟨d, ⟨⟨_, hk⟩, _⟩, hd⟩ := ht
  cases d <;> simp at hd
  subst hd
  simpa [laxKeepDef] using hk

theorem dirDefs_laxKeep_new (live : Live) (B : Doc) : ∀ x ∈ dirDefs (laxKeep live B), live.hasDirective x.name = false := by
  intro t ht
  unfold laxKeep dirDefs at ht
  simp only [List.mem_filterMap, List.mem_filter] at ht
  obtain ⟨d, ⟨⟨_, hk⟩, _⟩, hd⟩ := ht
  cases d <;> simp at hd
  subst hd
  simpa [laxKeepDef] using hk

/-- **directives of definitions the schema already has are not applied again**: in both modes, a definition among the
    parts `extend_schema` applies schema directives to is NEW (strict mode has refused the document otherwise,
    non-strict mode has dropped the definition). -/
theorem used_definitions_are_new (live : Live) (doc : Doc) (strict : Bool) (c : ExtCollected)
    (h : collectExtensions live doc strict = .ok c) :
    (∀ t, Def.type t ∈ usedParts c → live.hasType t.name = false) ∧
    (∀ x, Def.directive x ∈ usedParts c → live.hasDirective x.name = false) := by
  -- what is collected is registered from the definitions the schema does not have
  obtain ⟨_, h1, h2, _⟩ := (Run.collectExtensions_ok_iff live doc strict c).mp h
  have key : (∀ t ∈ c.typeDefs, live.hasType t.name = false) ∧ (∀ x ∈ c.dirDefs, live.hasDirective x.name = false) :=
    ⟨fun t ht => by rw [appendNew_ok _ _ _ _ _ h1] at ht; simpa using (List.mem_filter.mp ht).2,
     fun x hx => by rw [appendNew_ok _ _ _ _ _ h2] at hx; simpa using (List.mem_filter.mp hx).2⟩
  constructor
  · intro t ht
    simp only [usedParts, List.mem_append, List.mem_map, reduceCtorEq, and_false, exists_false, false_or, or_false, Def.type.injEq,
      exists_eq_right] at ht
    exact key.1 t ht
  · intro x hx
    simp only [usedParts, List.mem_append, List.mem_map, reduceCtorEq, and_false, exists_false, false_or, or_false, Def.directive.injEq,
      exists_eq_right] at hx
    exact key.2 x hx

/-- **two-phase build: every application is applied once.**  `live` built from `doc` (it has every type and directive
    `doc` defines): the non-strict `extend_schema(live, doc)` applies schema directives to the extension blocks of `doc`
    and to nothing else — no definition is among the used parts. -/
theorem two_phase_directives_once (live : Live) (doc : Doc)
    (hT : ∀ t ∈ typeDefs doc, live.hasType t.name = true) (hD : ∀ d ∈ dirDefs doc, live.hasDirective d.name = true) :
    ∃ c, collectExtensions live doc false = .ok c ∧
      usedParts c = (schemaExtensions doc).map .schemaExt ++ (typeExtensions live doc).map .ext := by
  refine ⟨_, collect_lax_self live doc hT hD, ?_⟩
  simp [usedParts]

/-- non-vacuity / the C14-12 shape: `type Query @mark { q: Int }  extend type Query { x: Int }` extended by itself uses
    the extension block only -/
example : (match collectExtensions { types := [{ kind := .object, name := "Query" }], directives := [], roots := {} }
      [.type { kind := .object, name := "Query", dirs := [{ name := "mark" }] }, .ext { kind := .object, name := "Query" }] false with
    | .ok c => (usedParts c).length == 1 && c.typeDefs.isEmpty
    | .error _ => false) = true := by decide +kernel

/-- non-vacuity of `two_phase_directives_once`: the hypotheses hold for a schema built from the document -/
example := two_phase_directives_once { types := [{ kind := .object, name := "Query" }], directives := [], roots := {} }
  [.type { kind := .object, name := "Query", dirs := [{ name := "mark" }] }, .ext { kind := .object, name := "Query" }] (by decide +kernel) (by decide +kernel)

end PyGql.Props.C11
