/-
  C20 — "every elementary edit is reported with a change naming the edited element": one theorem per
  kind of element and edit (added and removed types are in `C20_diff.lean`).
  Each theorem says: if the old and the new schema differ by that edit at that element, the unfiltered
  report `diffSchema o n 0` contains the change of the expected class whose identifying attributes are the
  names of the element; `reported_at_severity` lifts it to every filter not above the change's severity,
  and `severity_table` (C20.lean) gives the severities.
-/
import PyGqlModel.Props.C20_diff

set_option linter.unusedSimpArgs false

namespace PyGql.Props.C20
open PyGql PyGql.Differ PyGql.Diff

private theorem of_roots {o n : SchemaD} {c : Change} (h : c ∈ diffRootTypes o n) : c ∈ diffSchema o n 0 := by
  rw [diffSchema_zero]
  iterate 9 apply List.mem_append_left
  exact h
private theorem of_directives {o n : SchemaD} {c : Change} (h : c ∈ diffDirectives o n) : c ∈ diffSchema o n 0 := by
  rw [diffSchema_zero]
  iterate 6 apply List.mem_append_left
  exact List.mem_append_right _ h
private theorem of_changed {o n : SchemaD} {c : Change} (h : c ∈ findChangedTypes o n) : c ∈ diffSchema o n 0 := by
  rw [diffSchema_zero]
  iterate 5 apply List.mem_append_left
  exact List.mem_append_right _ h
private theorem of_union {o n : SchemaD} {c : Change} (h : c ∈ diffUnionTypes o n) : c ∈ diffSchema o n 0 := by
  rw [diffSchema_zero]
  iterate 4 apply List.mem_append_left
  exact List.mem_append_right _ h
private theorem of_enum {o n : SchemaD} {c : Change} (h : c ∈ diffEnumTypes o n) : c ∈ diffSchema o n 0 := by
  rw [diffSchema_zero]
  iterate 3 apply List.mem_append_left
  exact List.mem_append_right _ h
private theorem of_object {o n : SchemaD} {c : Change} (h : c ∈ diffObjectTypes o n) : c ∈ diffSchema o n 0 := by
  rw [diffSchema_zero]
  iterate 2 apply List.mem_append_left
  exact List.mem_append_right _ h
private theorem of_interface {o n : SchemaD} {c : Change} (h : c ∈ diffInterfaceTypes o n) : c ∈ diffSchema o n 0 := by
  rw [diffSchema_zero]
  apply List.mem_append_left
  exact List.mem_append_right _ h
private theorem of_input {o n : SchemaD} {c : Change} (h : c ∈ diffInputTypes o n) : c ∈ diffSchema o n 0 := by
  rw [diffSchema_zero]
  exact List.mem_append_right _ h

/-- `diffDirectiveArguments`, `diffFieldArguments` and the input-field pass of `diffInputTypes` are one comparison,
    run with other class names and other identifying attributes -/
def diffArgs (removed changed dflt added : String) (kOld kNew : ArgD → List (String × String))
    (kPair : ArgD → ArgD → List (String × String)) (olds news : List ArgD) : List Change :=
  (olds.filterMap fun oa =>
    match news.find? (·.name == oa.name) with
    | none => some (mk removed (kOld oa))
    | some na =>
      if !safeIn oa.type na.type then some (mk changed (kPair oa na))
      else if defaultChanged oa na then some (mk dflt (kPair oa na) (becameRequired oa na))
      else none)
  ++ ((news.filter fun na => (olds.find? (·.name == na.name)).isNone).map fun na =>
      mk added (kNew na) (ArgD.required na))
  ++ compatRetypes changed kPair olds news

theorem diffDirectiveArguments_eq (od nd : DirectiveD) : diffDirectiveArguments od nd =
    diffArgs "DirectiveArgumentRemoved" "DirectiveArgumentChangedType" "DirectiveArgumentDefaultValueChange"
      "DirectiveArgumentAdded" (fun oa => [("argument", oa.name), ("directive", od.name)])
      (fun na => [("argument", na.name), ("directive", nd.name)])
      (fun oa na => [("directive", od.name), ("new_argument", na.name), ("old_argument", oa.name)]) od.args nd.args :=
  rfl

theorem diffFieldArguments_eq (parent : String) (of nf : FieldD) : diffFieldArguments parent of nf =
    diffArgs "FieldArgumentRemoved" "FieldArgumentChangedType" "FieldArgumentDefaultValueChange" "FieldArgumentAdded"
      (fun oa => [("argument", oa.name), ("field", of.name), ("type", parent)])
      (fun na => [("argument", na.name), ("field", nf.name), ("type", parent)])
      (fun oa na => [("field", of.name), ("new_argument", na.name), ("old_argument", oa.name), ("type", parent)])
      of.args nf.args :=
  rfl

/-- the input-field pass on one matching pair of input object types -/
abbrev diffInputFields (ot nt : TypeD) : List Change :=
  diffArgs "InputFieldRemoved" "InputFieldChangedType" "InputFieldDefaultValueChange" "InputFieldAdded"
    (fun of => [("field", of.name), ("type", ot.name)]) (fun nf => [("field", nf.name), ("type", nt.name)])
    (fun of nf => [("new_field", nf.name), ("old_field", of.name), ("type", ot.name)]) ot.inputFields nt.inputFields

theorem diffInputTypes_eq (o n : SchemaD) :
    diffInputTypes o n = (matchingPairs o n .input).flatMap fun p => diffInputFields p.1 p.2 :=
  rfl

theorem mem_compatRetypes (cls : String) (key : ArgD → ArgD → List (String × String)) (olds news : List ArgD) (a b : ArgD)
    (s : Nat) (hsev : PyGql.Generated.Differ.compatibleRetypeSeverity = some s)
    (ha : a ∈ olds) (hb : news.find? (·.name == a.name) = some b) (hs : safeIn a.type b.type = true)
    (hne : a.type ≠ b.type) :
    ({ cls := cls, key := key a b, severity := s } : Change) ∈ compatRetypes cls key olds news := by
  unfold compatRetypes
  apply List.mem_flatMap.mpr
  refine ⟨a, ha, ?_⟩
  simp [hb, hs, compatRetype, hsev, hne]

/-- the source has the `_compatible` helper and it gives the COMPATIBLE severity (re-extracted every run) -/
private theorem compatible_retype_severity : PyGql.Generated.Differ.compatibleRetypeSeverity = some 0 := rfl

section
variable {removed changed dflt added : String} {kOld kNew : ArgD → List (String × String)}
  {kPair : ArgD → ArgD → List (String × String)} {olds news : List ArgD} {a b : ArgD}

theorem mem_diffArgs_removed (ha : a ∈ olds) (hn : news.find? (·.name == a.name) = none) :
    mk removed (kOld a) ∈ diffArgs removed changed dflt added kOld kNew kPair olds news := by
  apply List.mem_append_left
  apply List.mem_append_left
  exact List.mem_filterMap.mpr ⟨a, ha, by simp [hn]⟩

theorem mem_diffArgs_changed (ha : a ∈ olds) (hb : news.find? (·.name == a.name) = some b)
    (hu : safeIn a.type b.type = false) :
    mk changed (kPair a b) ∈ diffArgs removed changed dflt added kOld kNew kPair olds news := by
  apply List.mem_append_left
  apply List.mem_append_left
  exact List.mem_filterMap.mpr ⟨a, ha, by simp [hb, hu]⟩

theorem mem_diffArgs_default (ha : a ∈ olds) (hb : news.find? (·.name == a.name) = some b)
    (hs : safeIn a.type b.type = true) (hd : defaultChanged a b = true) :
    mk dflt (kPair a b) (becameRequired a b) ∈ diffArgs removed changed dflt added kOld kNew kPair olds news := by
  apply List.mem_append_left
  apply List.mem_append_left
  exact List.mem_filterMap.mpr ⟨a, ha, by simp [hb, hs, hd]⟩

theorem mem_diffArgs_added (hb : b ∈ news) (ho : olds.find? (·.name == b.name) = none) :
    mk added (kNew b) (ArgD.required b) ∈ diffArgs removed changed dflt added kOld kNew kPair olds news := by
  apply List.mem_append_left
  apply List.mem_append_right
  exact List.mem_map.mpr ⟨b, List.mem_filter.mpr ⟨hb, by simp [ho]⟩, rfl⟩

theorem mem_diffArgs_compat (ha : a ∈ olds) (hb : news.find? (·.name == a.name) = some b)
    (hs : safeIn a.type b.type = true) (hne : a.type ≠ b.type) :
    ({ cls := changed, key := kPair a b, severity := 0 } : Change)
      ∈ diffArgs removed changed dflt added kOld kNew kPair olds news :=
  List.mem_append_right _ (mem_compatRetypes _ _ _ _ a b 0 compatible_retype_severity ha hb hs hne)

end

/-! ### root operation types (repair G2) -/

def rootOf (s : SchemaD) : String → Option String
  | "query" => s.query | "mutation" => s.mutation | "subscription" => s.subscription | _ => none

theorem rootOf_op {s : SchemaD} {op a : String} (h : rootOf s op = some a) :
    op = "query" ∨ op = "mutation" ∨ op = "subscription" := by
  unfold rootOf at h
  split at h <;> simp_all

/-- `_diff_root_types` for one operation kind -/
def rootChange (op : String) : Option String → Option String → List Change
  | none, none => []
  | none, some b => [mk "RootTypeAdded" [("operation", op), ("type_name", b)]]
  | some a, none => [mk "RootTypeRemoved" [("operation", op), ("type_name", a)]]
  | some a, some b =>
    if a != b then [mk "RootTypeChanged" [("new_type_name", b), ("old_type_name", a), ("operation", op)]] else []

theorem diffRootTypes_eq (o n : SchemaD) : diffRootTypes o n =
    rootChange "query" o.query n.query ++ (rootChange "mutation" o.mutation n.mutation
      ++ (rootChange "subscription" o.subscription n.subscription ++ [])) :=
  rfl

private theorem mem_roots (o n : SchemaD) (op : String) (hop : op = "query" ∨ op = "mutation" ∨ op = "subscription")
    (c : Change) (hc : c ∈ rootChange op (rootOf o op) (rootOf n op)) : c ∈ diffSchema o n 0 := by
  apply of_roots
  rw [diffRootTypes_eq]
  rcases hop with h | h | h <;> subst h
  · exact List.mem_append_left _ hc
  · exact List.mem_append_right _ (List.mem_append_left _ hc)
  · exact List.mem_append_right _ (List.mem_append_right _ (List.mem_append_left _ hc))

theorem root_type_changed_reported (o n : SchemaD) (op a b : String)
    (hop : op = "query" ∨ op = "mutation" ∨ op = "subscription")
    (ho : rootOf o op = some a) (hn : rootOf n op = some b) (hab : a ≠ b) :
    mk "RootTypeChanged" [("new_type_name", b), ("old_type_name", a), ("operation", op)] ∈ diffSchema o n 0 := by
  apply mem_roots o n op hop
  simp [rootChange, ho, hn, hab]

theorem root_type_removed_reported (o n : SchemaD) (op a : String)
    (hop : op = "query" ∨ op = "mutation" ∨ op = "subscription")
    (ho : rootOf o op = some a) (hn : rootOf n op = none) :
    mk "RootTypeRemoved" [("operation", op), ("type_name", a)] ∈ diffSchema o n 0 := by
  apply mem_roots o n op hop
  simp [rootChange, ho, hn]

theorem root_type_added_reported (o n : SchemaD) (op b : String)
    (hop : op = "query" ∨ op = "mutation" ∨ op = "subscription")
    (ho : rootOf o op = none) (hn : rootOf n op = some b) :
    mk "RootTypeAdded" [("operation", op), ("type_name", b)] ∈ diffSchema o n 0 := by
  apply mem_roots o n op hop
  simp [rootChange, ho, hn]

theorem kind_change_reported (o n : SchemaD) (t t' : TypeD) (ht : t ∈ o.types)
    (hn : n.findType t.name = some t') (hk : t.kind ≠ t'.kind) :
    mk "TypeChangedKind" [("new_kind_name", kindName t'.kind), ("old_kind_name", kindName t.kind), ("type_name", t.name)]
      ∈ diffSchema o n 0 := by
  apply of_changed
  unfold findChangedTypes
  apply List.mem_filterMap.mpr
  exact ⟨t, ht, by simp [hn, hk]⟩

private theorem mem_diffFields_added (ot nt : TypeD) (g : FieldD) (hg : g ∈ nt.fields)
    (ho : ot.fields.find? (·.name == g.name) = none) :
    mk "FieldAdded" [("field", g.name), ("type", nt.name)] ∈ diffFields ot nt := by
  unfold diffFields
  simp only [List.mem_append]
  right
  apply List.mem_map.mpr
  exact ⟨g, List.mem_filter.mpr ⟨hg, by simp [ho]⟩, rfl⟩

private theorem mem_diffFields_removed (ot nt : TypeD) (f : FieldD) (hf : f ∈ ot.fields)
    (hn : nt.fields.find? (·.name == f.name) = none) :
    mk "FieldRemoved" [("field", f.name), ("type", ot.name)] ∈ diffFields ot nt := by
  unfold diffFields
  simp only [List.mem_append]
  left
  apply List.mem_flatMap.mpr
  exact ⟨f, hf, by simp [hn]⟩

private theorem mem_diffFields_of_field (ot nt : TypeD) (f g : FieldD) (c : Change) (hf : f ∈ ot.fields)
    (hg : nt.fields.find? (·.name == f.name) = some g) (hc : c ∈ diffField ot.name f g) : c ∈ diffFields ot nt := by
  unfold diffFields
  simp only [List.mem_append]
  left
  apply List.mem_flatMap.mpr
  exact ⟨f, hf, by simp [hg, hc]⟩

private theorem of_object_fields {o n : SchemaD} {ot nt : TypeD} {c : Change}
    (hp : (ot, nt) ∈ matchingPairs o n .object) (hc : c ∈ diffFields ot nt) : c ∈ diffSchema o n 0 := by
  apply of_object
  unfold diffObjectTypes
  apply List.mem_flatMap.mpr
  exact ⟨(ot, nt), hp, List.mem_append_left _ (List.mem_append_left _ hc)⟩

private theorem of_interface_fields {o n : SchemaD} {ot nt : TypeD} {c : Change}
    (hp : (ot, nt) ∈ matchingPairs o n .interface) (hc : c ∈ diffFields ot nt) : c ∈ diffSchema o n 0 := by
  apply of_interface
  unfold diffInterfaceTypes
  apply List.mem_flatMap.mpr
  exact ⟨(ot, nt), hp, hc⟩

/-- the field-level statements hold for object and for interface types alike -/
def FieldHost (o n : SchemaD) (ot nt : TypeD) : Prop :=
  (ot, nt) ∈ matchingPairs o n .object ∨ (ot, nt) ∈ matchingPairs o n .interface

private theorem of_fields {o n : SchemaD} {ot nt : TypeD} {c : Change} (hp : FieldHost o n ot nt)
    (hc : c ∈ diffFields ot nt) : c ∈ diffSchema o n 0 := by
  cases hp with
  | inl h => exact of_object_fields h hc
  | inr h => exact of_interface_fields h hc

theorem added_field_reported (o n : SchemaD) (ot nt : TypeD) (g : FieldD) (hp : FieldHost o n ot nt)
    (hg : g ∈ nt.fields) (ho : ot.fields.find? (·.name == g.name) = none) :
    mk "FieldAdded" [("field", g.name), ("type", nt.name)] ∈ diffSchema o n 0 :=
  of_fields hp (mem_diffFields_added ot nt g hg ho)

theorem removed_field_reported_any (o n : SchemaD) (ot nt : TypeD) (f : FieldD) (hp : FieldHost o n ot nt)
    (hf : f ∈ ot.fields) (hn : nt.fields.find? (·.name == f.name) = none) :
    mk "FieldRemoved" [("field", f.name), ("type", ot.name)] ∈ diffSchema o n 0 :=
  of_fields hp (mem_diffFields_removed ot nt f hf hn)

theorem retyped_field_reported_any (o n : SchemaD) (ot nt : TypeD) (f g : FieldD) (hp : FieldHost o n ot nt)
    (hf : f ∈ ot.fields) (hg : nt.fields.find? (·.name == f.name) = some g) (hu : safeOut f.type g.type = false) :
    mk "FieldChangedType" [("new_field", g.name), ("old_field", f.name), ("type", ot.name)] ∈ diffSchema o n 0 := by
  apply of_fields hp
  apply mem_diffFields_of_field ot nt f g _ hf hg
  simp [diffField, hu]

/-- Removing a field of an object type present in both schemas is reported as BREAKING `FieldRemoved`. -/
theorem removed_field_reported (o n : SchemaD) (ot nt : TypeD) (f : FieldD) (m : Nat) (hm : m ≤ 2)
    (hp : (ot, nt) ∈ matchingPairs o n .object) (hf : f ∈ ot.fields)
    (hn : nt.fields.find? (·.name == f.name) = none) :
    mk "FieldRemoved" [("field", f.name), ("type", ot.name)] ∈ diffSchema o n m := by
  apply reported_at_severity _ _ _ _ (removed_field_reported_any o n ot nt f (.inl hp) hf hn)
  rw [severity_mustBeBreaking (by simp [mustBeBreaking])]
  exact hm

/-- A field whose type change is not classified safe is reported as BREAKING `FieldChangedType`. -/
theorem retyped_field_reported (o n : SchemaD) (ot nt : TypeD) (f g : FieldD) (m : Nat) (hm : m ≤ 2)
    (hp : (ot, nt) ∈ matchingPairs o n .object) (hf : f ∈ ot.fields)
    (hg : nt.fields.find? (·.name == f.name) = some g)
    (hu : safeOut f.type g.type = false) :
    mk "FieldChangedType" [("new_field", g.name), ("old_field", f.name), ("type", ot.name)] ∈ diffSchema o n m := by
  apply reported_at_severity _ _ _ _ (retyped_field_reported_any o n ot nt f g (.inl hp) hf hg hu)
  rw [severity_mustBeBreaking (by simp [mustBeBreaking])]
  exact hm

theorem field_deprecated_reported (o n : SchemaD) (ot nt : TypeD) (f g : FieldD) (r : String) (hp : FieldHost o n ot nt)
    (hf : f ∈ ot.fields) (hg : nt.fields.find? (·.name == f.name) = some g)
    (h1 : f.deprecated = none) (h2 : g.deprecated = some r) :
    mk "FieldDeprecated" [("new_field", g.name), ("old_field", f.name), ("type", ot.name)] ∈ diffSchema o n 0 := by
  apply of_fields hp
  apply mem_diffFields_of_field ot nt f g _ hf hg
  simp [diffField, h1, h2]

theorem field_deprecation_removed_reported (o n : SchemaD) (ot nt : TypeD) (f g : FieldD) (r : String)
    (hp : FieldHost o n ot nt) (hf : f ∈ ot.fields) (hg : nt.fields.find? (·.name == f.name) = some g)
    (h1 : f.deprecated = some r) (h2 : g.deprecated = none) :
    mk "FieldDeprecationRemoved" [("new_field", g.name), ("old_field", f.name), ("type", ot.name)] ∈ diffSchema o n 0 := by
  apply of_fields hp
  apply mem_diffFields_of_field ot nt f g _ hf hg
  simp [diffField, h1, h2]

theorem field_deprecation_reason_reported (o n : SchemaD) (ot nt : TypeD) (f g : FieldD) (r r' : String)
    (hp : FieldHost o n ot nt) (hf : f ∈ ot.fields) (hg : nt.fields.find? (·.name == f.name) = some g)
    (h1 : f.deprecated = some r) (h2 : g.deprecated = some r') (hr : r ≠ r') :
    mk "FieldDeprecationReasonChanged" [("new_field", g.name), ("old_field", f.name), ("type", ot.name)]
      ∈ diffSchema o n 0 := by
  apply of_fields hp
  apply mem_diffFields_of_field ot nt f g _ hf hg
  simp [diffField, h1, h2, hr]

theorem of_field_args {o n : SchemaD} {ot nt : TypeD} {f g : FieldD} {c : Change} (hp : FieldHost o n ot nt)
    (hf : f ∈ ot.fields) (hg : nt.fields.find? (·.name == f.name) = some g)
    (hc : c ∈ diffFieldArguments ot.name f g) : c ∈ diffSchema o n 0 := by
  apply of_fields hp
  apply mem_diffFields_of_field ot nt f g _ hf hg
  simp [diffField, hc]

theorem removed_argument_reported (o n : SchemaD) (ot nt : TypeD) (f g : FieldD) (a : ArgD) (hp : FieldHost o n ot nt)
    (hf : f ∈ ot.fields) (hg : nt.fields.find? (·.name == f.name) = some g)
    (ha : a ∈ f.args) (hn : g.args.find? (·.name == a.name) = none) :
    mk "FieldArgumentRemoved" [("argument", a.name), ("field", f.name), ("type", ot.name)] ∈ diffSchema o n 0 := by
  apply of_field_args hp hf hg
  rw [diffFieldArguments_eq]
  exact mem_diffArgs_removed ha hn

theorem added_argument_reported (o n : SchemaD) (ot nt : TypeD) (f g : FieldD) (b : ArgD) (hp : FieldHost o n ot nt)
    (hf : f ∈ ot.fields) (hg : nt.fields.find? (·.name == f.name) = some g)
    (hb : b ∈ g.args) (ho : f.args.find? (·.name == b.name) = none) :
    mk "FieldArgumentAdded" [("argument", b.name), ("field", g.name), ("type", ot.name)] (ArgD.required b)
      ∈ diffSchema o n 0 := by
  apply of_field_args hp hf hg
  rw [diffFieldArguments_eq]
  exact mem_diffArgs_added hb ho

theorem retyped_argument_reported (o n : SchemaD) (ot nt : TypeD) (f g : FieldD) (a b : ArgD) (hp : FieldHost o n ot nt)
    (hf : f ∈ ot.fields) (hg : nt.fields.find? (·.name == f.name) = some g)
    (ha : a ∈ f.args) (hb : g.args.find? (·.name == a.name) = some b) (hu : safeIn a.type b.type = false) :
    mk "FieldArgumentChangedType" [("field", f.name), ("new_argument", b.name), ("old_argument", a.name), ("type", ot.name)]
      ∈ diffSchema o n 0 := by
  apply of_field_args hp hf hg
  rw [diffFieldArguments_eq]
  exact mem_diffArgs_changed ha hb hu

theorem argument_default_change_reported (o n : SchemaD) (ot nt : TypeD) (f g : FieldD) (a b : ArgD)
    (hp : FieldHost o n ot nt) (hf : f ∈ ot.fields) (hg : nt.fields.find? (·.name == f.name) = some g)
    (ha : a ∈ f.args) (hb : g.args.find? (·.name == a.name) = some b) (hs : safeIn a.type b.type = true)
    (hd : defaultChanged a b = true) :
    mk "FieldArgumentDefaultValueChange" [("field", f.name), ("new_argument", b.name), ("old_argument", a.name), ("type", ot.name)]
      (becameRequired a b) ∈ diffSchema o n 0 := by
  apply of_field_args hp hf hg
  rw [diffFieldArguments_eq]
  exact mem_diffArgs_default ha hb hs hd

/-- **A compatible retyping of an argument is reported** (finding G5): the differ
    considers `a.type -> b.type` safe and the two differ ⇒ a `FieldArgumentChangedType` naming the argument, COMPATIBLE. -/
theorem compatibly_retyped_argument_reported (o n : SchemaD) (ot nt : TypeD) (f g : FieldD) (a b : ArgD)
    (hp : FieldHost o n ot nt) (hf : f ∈ ot.fields) (hg : nt.fields.find? (·.name == f.name) = some g)
    (ha : a ∈ f.args) (hb : g.args.find? (·.name == a.name) = some b) (hs : safeIn a.type b.type = true)
    (hne : a.type ≠ b.type) :
    ({ cls := "FieldArgumentChangedType",
       key := [("field", f.name), ("new_argument", b.name), ("old_argument", a.name), ("type", ot.name)],
       severity := 0 } : Change) ∈ diffSchema o n 0 := by
  apply of_field_args hp hf hg
  rw [diffFieldArguments_eq]
  exact mem_diffArgs_compat ha hb hs hne

/-- **A compatible retyping of a field is reported** (`Int` -> `Int!`, `[Int]` -> `[Int]!`), COMPATIBLE. -/
theorem compatibly_retyped_field_reported (o n : SchemaD) (ot nt : TypeD) (f g : FieldD) (hp : FieldHost o n ot nt)
    (hf : f ∈ ot.fields) (hg : nt.fields.find? (·.name == f.name) = some g) (hs : safeOut f.type g.type = true)
    (hne : f.type ≠ g.type) :
    ({ cls := "FieldChangedType", key := [("new_field", g.name), ("old_field", f.name), ("type", ot.name)],
       severity := 0 } : Change) ∈ diffSchema o n 0 := by
  apply of_fields hp
  apply mem_diffFields_of_field ot nt f g _ hf hg
  simp [diffField, hs, compatRetype, compatible_retype_severity, hne]

/-- every retyping of a field is reported, whatever the differ thinks of its safety -/
theorem any_retyped_field_reported (o n : SchemaD) (ot nt : TypeD) (f g : FieldD) (hp : FieldHost o n ot nt)
    (hf : f ∈ ot.fields) (hg : nt.fields.find? (·.name == f.name) = some g) (hne : f.type ≠ g.type) :
    ∃ c ∈ diffSchema o n 0, c.cls = "FieldChangedType"
      ∧ c.key = [("new_field", g.name), ("old_field", f.name), ("type", ot.name)] := by
  cases hs : safeOut f.type g.type with
  | true => exact ⟨_, compatibly_retyped_field_reported o n ot nt f g hp hf hg hs hne, rfl, rfl⟩
  | false => exact ⟨_, retyped_field_reported_any o n ot nt f g hp hf hg hs, rfl, rfl⟩

/-- every retyping of an argument is reported -/
theorem any_retyped_argument_reported (o n : SchemaD) (ot nt : TypeD) (f g : FieldD) (a b : ArgD)
    (hp : FieldHost o n ot nt) (hf : f ∈ ot.fields) (hg : nt.fields.find? (·.name == f.name) = some g)
    (ha : a ∈ f.args) (hb : g.args.find? (·.name == a.name) = some b) (hne : a.type ≠ b.type) :
    ∃ c ∈ diffSchema o n 0, c.cls = "FieldArgumentChangedType"
      ∧ c.key = [("field", f.name), ("new_argument", b.name), ("old_argument", a.name), ("type", ot.name)] := by
  cases hs : safeIn a.type b.type with
  | true => exact ⟨_, compatibly_retyped_argument_reported o n ot nt f g a b hp hf hg ha hb hs hne, rfl, rfl⟩
  | false => exact ⟨_, retyped_argument_reported o n ot nt f g a b hp hf hg ha hb hs, rfl, rfl⟩

theorem removed_implementation_reported (o n : SchemaD) (ot nt : TypeD) (i : String)
    (hp : (ot, nt) ∈ matchingPairs o n .object) (hi : i ∈ ot.interfaces) (hn : i ∉ nt.interfaces) :
    mk "TypeRemovedFromInterface" [("interface", i), ("type", ot.name)] ∈ diffSchema o n 0 := by
  apply of_object
  unfold diffObjectTypes
  apply List.mem_flatMap.mpr
  refine ⟨(ot, nt), hp, ?_⟩
  simp only [List.mem_append]
  left; right
  apply List.mem_map.mpr
  exact ⟨i, List.mem_filter.mpr ⟨hi, by simp [hn]⟩, rfl⟩

theorem added_implementation_reported (o n : SchemaD) (ot nt : TypeD) (i : String)
    (hp : (ot, nt) ∈ matchingPairs o n .object) (hi : i ∈ nt.interfaces) (hn : i ∉ ot.interfaces) :
    mk "TypeAddedToInterface" [("interface", i), ("type", ot.name)] ∈ diffSchema o n 0 := by
  apply of_object
  unfold diffObjectTypes
  apply List.mem_flatMap.mpr
  refine ⟨(ot, nt), hp, ?_⟩
  simp only [List.mem_append]
  right
  apply List.mem_map.mpr
  exact ⟨i, List.mem_filter.mpr ⟨hi, by simp [hn]⟩, rfl⟩

/-- `diffUnionTypes` on one matching pair -/
def diffUnionMembers (ou nu : TypeD) : List Change :=
  ((ou.members.filter fun m => !nu.members.contains m).map fun m =>
      mk "TypeRemovedFromUnion" [("type_name", m), ("union", ou.name)])
  ++ ((nu.members.filter fun m => !ou.members.contains m).map fun m =>
      mk "TypeAddedToUnion" [("type_name", m), ("union", nu.name)])

theorem diffUnionTypes_eq (o n : SchemaD) :
    diffUnionTypes o n = (matchingPairs o n .union).flatMap fun p => diffUnionMembers p.1 p.2 :=
  rfl

private theorem of_union_members {o n : SchemaD} {ou nu : TypeD} {c : Change}
    (hp : (ou, nu) ∈ matchingPairs o n .union) (hc : c ∈ diffUnionMembers ou nu) : c ∈ diffSchema o n 0 := by
  apply of_union
  rw [diffUnionTypes_eq]
  exact List.mem_flatMap.mpr ⟨(ou, nu), hp, hc⟩

theorem removed_union_member_reported (o n : SchemaD) (ou nu : TypeD) (x : String)
    (hp : (ou, nu) ∈ matchingPairs o n .union) (hx : x ∈ ou.members) (hn : x ∉ nu.members) :
    mk "TypeRemovedFromUnion" [("type_name", x), ("union", ou.name)] ∈ diffSchema o n 0 := by
  apply of_union_members hp
  apply List.mem_append_left
  exact List.mem_map.mpr ⟨x, List.mem_filter.mpr ⟨hx, by simp [hn]⟩, rfl⟩

theorem added_union_member_reported (o n : SchemaD) (ou nu : TypeD) (x : String)
    (hp : (ou, nu) ∈ matchingPairs o n .union) (hx : x ∈ nu.members) (hn : x ∉ ou.members) :
    mk "TypeAddedToUnion" [("type_name", x), ("union", nu.name)] ∈ diffSchema o n 0 := by
  apply of_union_members hp
  apply List.mem_append_right
  exact List.mem_map.mpr ⟨x, List.mem_filter.mpr ⟨hx, by simp [hn]⟩, rfl⟩

/-- what `diffEnumTypes` says about one value of the old enum -/
def enumValueChange (enum : String) (news : List EnumValD) (ov : EnumValD) : Option Change :=
  match news.find? (·.name == ov.name) with
  | none => some (mk "EnumValueRemoved" [("enum", enum), ("value", ov.name)])
  | some nv =>
    let k := [("enum", enum), ("new_value", nv.name), ("old_value", ov.name)]
    match ov.deprecated, nv.deprecated with
    | some _, none => some (mk "EnumValueDeprecationRemoved" k)
    | some r, some r' => if r != r' then some (mk "EnumValueDeprecationReasonChanged" k) else none
    | none, some _ => some (mk "EnumValueDeprecated" k)
    | none, none => none

/-- `diffEnumTypes` on one matching pair -/
def diffEnumValues (oe ne : TypeD) : List Change :=
  oe.values.filterMap (enumValueChange oe.name ne.values)
  ++ ((ne.values.filter fun nv => (oe.values.find? (·.name == nv.name)).isNone).map fun nv =>
      mk "EnumValueAdded" [("enum", ne.name), ("value", nv.name)])

theorem diffEnumTypes_eq (o n : SchemaD) :
    diffEnumTypes o n = (matchingPairs o n .enum).flatMap fun p => diffEnumValues p.1 p.2 :=
  rfl

private theorem of_enum_values {o n : SchemaD} {oe ne : TypeD} {c : Change}
    (hp : (oe, ne) ∈ matchingPairs o n .enum) (hc : c ∈ diffEnumValues oe ne) : c ∈ diffSchema o n 0 := by
  apply of_enum
  rw [diffEnumTypes_eq]
  exact List.mem_flatMap.mpr ⟨(oe, ne), hp, hc⟩

private theorem of_enum_value {o n : SchemaD} {oe ne : TypeD} {v : EnumValD} {c : Change}
    (hp : (oe, ne) ∈ matchingPairs o n .enum) (hv : v ∈ oe.values)
    (hc : enumValueChange oe.name ne.values v = some c) : c ∈ diffSchema o n 0 :=
  of_enum_values hp (List.mem_append_left _ (List.mem_filterMap.mpr ⟨v, hv, hc⟩))

theorem removed_enum_value_reported (o n : SchemaD) (oe ne : TypeD) (v : EnumValD)
    (hp : (oe, ne) ∈ matchingPairs o n .enum) (hv : v ∈ oe.values)
    (hn : ne.values.find? (·.name == v.name) = none) :
    mk "EnumValueRemoved" [("enum", oe.name), ("value", v.name)] ∈ diffSchema o n 0 :=
  of_enum_value hp hv (by simp [enumValueChange, hn])

theorem added_enum_value_reported (o n : SchemaD) (oe ne : TypeD) (w : EnumValD)
    (hp : (oe, ne) ∈ matchingPairs o n .enum) (hw : w ∈ ne.values)
    (ho : oe.values.find? (·.name == w.name) = none) :
    mk "EnumValueAdded" [("enum", ne.name), ("value", w.name)] ∈ diffSchema o n 0 := by
  apply of_enum_values hp
  apply List.mem_append_right
  exact List.mem_map.mpr ⟨w, List.mem_filter.mpr ⟨hw, by simp [ho]⟩, rfl⟩

theorem enum_value_deprecated_reported (o n : SchemaD) (oe ne : TypeD) (v w : EnumValD) (r : String)
    (hp : (oe, ne) ∈ matchingPairs o n .enum) (hv : v ∈ oe.values)
    (hw : ne.values.find? (·.name == v.name) = some w) (h1 : v.deprecated = none) (h2 : w.deprecated = some r) :
    mk "EnumValueDeprecated" [("enum", oe.name), ("new_value", w.name), ("old_value", v.name)] ∈ diffSchema o n 0 :=
  of_enum_value hp hv (by simp [enumValueChange, hw, h1, h2])

theorem enum_value_deprecation_removed_reported (o n : SchemaD) (oe ne : TypeD) (v w : EnumValD) (r : String)
    (hp : (oe, ne) ∈ matchingPairs o n .enum) (hv : v ∈ oe.values)
    (hw : ne.values.find? (·.name == v.name) = some w) (h1 : v.deprecated = some r) (h2 : w.deprecated = none) :
    mk "EnumValueDeprecationRemoved" [("enum", oe.name), ("new_value", w.name), ("old_value", v.name)] ∈ diffSchema o n 0 :=
  of_enum_value hp hv (by simp [enumValueChange, hw, h1, h2])

theorem enum_value_deprecation_reason_reported (o n : SchemaD) (oe ne : TypeD) (v w : EnumValD) (r r' : String)
    (hp : (oe, ne) ∈ matchingPairs o n .enum) (hv : v ∈ oe.values)
    (hw : ne.values.find? (·.name == v.name) = some w) (h1 : v.deprecated = some r) (h2 : w.deprecated = some r')
    (hr : r ≠ r') :
    mk "EnumValueDeprecationReasonChanged" [("enum", oe.name), ("new_value", w.name), ("old_value", v.name)]
      ∈ diffSchema o n 0 :=
  of_enum_value hp hv (by simp [enumValueChange, hw, h1, h2, hr])

theorem of_input_fields {o n : SchemaD} {ot nt : TypeD} {c : Change}
    (hp : (ot, nt) ∈ matchingPairs o n .input) (hc : c ∈ diffInputFields ot nt) : c ∈ diffSchema o n 0 := by
  apply of_input
  rw [diffInputTypes_eq]
  exact List.mem_flatMap.mpr ⟨(ot, nt), hp, hc⟩

theorem removed_input_field_reported (o n : SchemaD) (ot nt : TypeD) (f : ArgD)
    (hp : (ot, nt) ∈ matchingPairs o n .input) (hf : f ∈ ot.inputFields)
    (hn : nt.inputFields.find? (·.name == f.name) = none) :
    mk "InputFieldRemoved" [("field", f.name), ("type", ot.name)] ∈ diffSchema o n 0 := by
  apply of_input_fields hp
  exact mem_diffArgs_removed hf hn

theorem added_input_field_reported (o n : SchemaD) (ot nt : TypeD) (g : ArgD)
    (hp : (ot, nt) ∈ matchingPairs o n .input) (hg : g ∈ nt.inputFields)
    (ho : ot.inputFields.find? (·.name == g.name) = none) :
    mk "InputFieldAdded" [("field", g.name), ("type", nt.name)] (ArgD.required g) ∈ diffSchema o n 0 := by
  apply of_input_fields hp
  exact mem_diffArgs_added hg ho

theorem retyped_input_field_reported (o n : SchemaD) (ot nt : TypeD) (f g : ArgD)
    (hp : (ot, nt) ∈ matchingPairs o n .input) (hf : f ∈ ot.inputFields)
    (hg : nt.inputFields.find? (·.name == f.name) = some g) (hu : safeIn f.type g.type = false) :
    mk "InputFieldChangedType" [("new_field", g.name), ("old_field", f.name), ("type", ot.name)] ∈ diffSchema o n 0 := by
  apply of_input_fields hp
  exact mem_diffArgs_changed hf hg hu

theorem input_field_default_change_reported (o n : SchemaD) (ot nt : TypeD) (f g : ArgD)
    (hp : (ot, nt) ∈ matchingPairs o n .input) (hf : f ∈ ot.inputFields)
    (hg : nt.inputFields.find? (·.name == f.name) = some g) (hs : safeIn f.type g.type = true)
    (hd : defaultChanged f g = true) :
    mk "InputFieldDefaultValueChange" [("new_field", g.name), ("old_field", f.name), ("type", ot.name)]
      (becameRequired f g) ∈ diffSchema o n 0 := by
  apply of_input_fields hp
  exact mem_diffArgs_default hf hg hs hd

/-- **A compatible retyping of an input field is reported**, COMPATIBLE. -/
theorem compatibly_retyped_input_field_reported (o n : SchemaD) (ot nt : TypeD) (f g : ArgD)
    (hp : (ot, nt) ∈ matchingPairs o n .input) (hf : f ∈ ot.inputFields)
    (hg : nt.inputFields.find? (·.name == f.name) = some g) (hs : safeIn f.type g.type = true)
    (hne : f.type ≠ g.type) :
    ({ cls := "InputFieldChangedType", key := [("new_field", g.name), ("old_field", f.name), ("type", ot.name)],
       severity := 0 } : Change) ∈ diffSchema o n 0 := by
  apply of_input_fields hp
  exact mem_diffArgs_compat hf hg hs hne

/-- every retyping of an input field is reported -/
theorem any_retyped_input_field_reported (o n : SchemaD) (ot nt : TypeD) (f g : ArgD)
    (hp : (ot, nt) ∈ matchingPairs o n .input) (hf : f ∈ ot.inputFields)
    (hg : nt.inputFields.find? (·.name == f.name) = some g) (hne : f.type ≠ g.type) :
    ∃ c ∈ diffSchema o n 0, c.cls = "InputFieldChangedType"
      ∧ c.key = [("new_field", g.name), ("old_field", f.name), ("type", ot.name)] := by
  cases hs : safeIn f.type g.type with
  | true => exact ⟨_, compatibly_retyped_input_field_reported o n ot nt f g hp hf hg hs hne, rfl, rfl⟩
  | false => exact ⟨_, retyped_input_field_reported o n ot nt f g hp hf hg hs, rfl, rfl⟩

theorem removed_directive_reported (o n : SchemaD) (d : DirectiveD) (hd : d ∈ o.directives)
    (hn : n.directives.find? (·.name == d.name) = none) :
    mk "DirectiveRemoved" [("directive", d.name)] ∈ diffSchema o n 0 := by
  apply of_directives
  unfold diffDirectives
  simp only [List.mem_append]
  left
  apply List.mem_flatMap.mpr
  exact ⟨d, hd, by simp [hn]⟩

theorem added_directive_reported (o n : SchemaD) (d : DirectiveD) (hd : d ∈ n.directives)
    (ho : o.directives.find? (·.name == d.name) = none) :
    mk "DirectiveAdded" [("directive", d.name)] ∈ diffSchema o n 0 := by
  apply of_directives
  unfold diffDirectives
  simp only [List.mem_append]
  right
  apply List.mem_map.mpr
  exact ⟨d, List.mem_filter.mpr ⟨hd, by simp [ho]⟩, rfl⟩

private theorem of_directive {o n : SchemaD} {d e : DirectiveD} {c : Change} (hd : d ∈ o.directives)
    (he : n.directives.find? (·.name == d.name) = some e)
    (hc : c ∈ ((d.locations.filter fun l => !e.locations.contains l).map fun l =>
              mk "DirectiveLocationRemoved" [("directive", d.name), ("location", l)])
          ++ ((e.locations.filter fun l => !d.locations.contains l).map fun l =>
              mk "DirectiveLocationAdded" [("directive", d.name), ("location", l)])
          ++ diffDirectiveArguments d e) : c ∈ diffSchema o n 0 := by
  apply of_directives
  unfold diffDirectives
  simp only [List.mem_append]
  left
  apply List.mem_flatMap.mpr
  refine ⟨d, hd, ?_⟩
  simp only [he]
  exact hc

theorem of_directive_args {o n : SchemaD} {d e : DirectiveD} {c : Change} (hd : d ∈ o.directives)
    (he : n.directives.find? (·.name == d.name) = some e) (hc : c ∈ diffDirectiveArguments d e) :
    c ∈ diffSchema o n 0 :=
  of_directive hd he (List.mem_append_right _ hc)

theorem removed_location_reported (o n : SchemaD) (d e : DirectiveD) (l : String) (hd : d ∈ o.directives)
    (he : n.directives.find? (·.name == d.name) = some e) (hl : l ∈ d.locations) (hn : l ∉ e.locations) :
    mk "DirectiveLocationRemoved" [("directive", d.name), ("location", l)] ∈ diffSchema o n 0 := by
  apply of_directive hd he
  simp only [List.mem_append]
  left; left
  apply List.mem_map.mpr
  exact ⟨l, List.mem_filter.mpr ⟨hl, by simp [hn]⟩, rfl⟩

theorem added_location_reported (o n : SchemaD) (d e : DirectiveD) (l : String) (hd : d ∈ o.directives)
    (he : n.directives.find? (·.name == d.name) = some e) (hl : l ∈ e.locations) (hn : l ∉ d.locations) :
    mk "DirectiveLocationAdded" [("directive", d.name), ("location", l)] ∈ diffSchema o n 0 := by
  apply of_directive hd he
  simp only [List.mem_append]
  left; right
  apply List.mem_map.mpr
  exact ⟨l, List.mem_filter.mpr ⟨hl, by simp [hn]⟩, rfl⟩

theorem removed_directive_argument_reported (o n : SchemaD) (d e : DirectiveD) (a : ArgD) (hd : d ∈ o.directives)
    (he : n.directives.find? (·.name == d.name) = some e) (ha : a ∈ d.args)
    (hn : e.args.find? (·.name == a.name) = none) :
    mk "DirectiveArgumentRemoved" [("argument", a.name), ("directive", d.name)] ∈ diffSchema o n 0 := by
  apply of_directive_args hd he
  rw [diffDirectiveArguments_eq]
  exact mem_diffArgs_removed ha hn

theorem added_directive_argument_reported (o n : SchemaD) (d e : DirectiveD) (b : ArgD) (hd : d ∈ o.directives)
    (he : n.directives.find? (·.name == d.name) = some e) (hb : b ∈ e.args)
    (ho : d.args.find? (·.name == b.name) = none) :
    mk "DirectiveArgumentAdded" [("argument", b.name), ("directive", e.name)] (ArgD.required b) ∈ diffSchema o n 0 := by
  apply of_directive_args hd he
  rw [diffDirectiveArguments_eq]
  exact mem_diffArgs_added hb ho

theorem retyped_directive_argument_reported (o n : SchemaD) (d e : DirectiveD) (a b : ArgD) (hd : d ∈ o.directives)
    (he : n.directives.find? (·.name == d.name) = some e) (ha : a ∈ d.args)
    (hb : e.args.find? (·.name == a.name) = some b) (hu : safeIn a.type b.type = false) :
    mk "DirectiveArgumentChangedType" [("directive", d.name), ("new_argument", b.name), ("old_argument", a.name)]
      ∈ diffSchema o n 0 := by
  apply of_directive_args hd he
  rw [diffDirectiveArguments_eq]
  exact mem_diffArgs_changed ha hb hu

/-- **A compatible retyping of a directive argument is reported**, COMPATIBLE. -/
theorem compatibly_retyped_directive_argument_reported (o n : SchemaD) (d e : DirectiveD) (a b : ArgD) (hd : d ∈ o.directives)
    (he : n.directives.find? (·.name == d.name) = some e) (ha : a ∈ d.args)
    (hb : e.args.find? (·.name == a.name) = some b) (hs : safeIn a.type b.type = true) (hne : a.type ≠ b.type) :
    ({ cls := "DirectiveArgumentChangedType",
       key := [("directive", d.name), ("new_argument", b.name), ("old_argument", a.name)], severity := 0 } : Change)
      ∈ diffSchema o n 0 := by
  apply of_directive_args hd he
  rw [diffDirectiveArguments_eq]
  exact mem_diffArgs_compat ha hb hs hne

/-- every retyping of a directive argument is reported -/
theorem any_retyped_directive_argument_reported (o n : SchemaD) (d e : DirectiveD) (a b : ArgD) (hd : d ∈ o.directives)
    (he : n.directives.find? (·.name == d.name) = some e) (ha : a ∈ d.args)
    (hb : e.args.find? (·.name == a.name) = some b) (hne : a.type ≠ b.type) :
    ∃ c ∈ diffSchema o n 0, c.cls = "DirectiveArgumentChangedType"
      ∧ c.key = [("directive", d.name), ("new_argument", b.name), ("old_argument", a.name)] := by
  cases hs : safeIn a.type b.type with
  | true => exact ⟨_, compatibly_retyped_directive_argument_reported o n d e a b hd he ha hb hs hne, rfl, rfl⟩
  | false => exact ⟨_, retyped_directive_argument_reported o n d e a b hd he ha hb hs, rfl, rfl⟩

theorem directive_argument_default_change_reported (o n : SchemaD) (d e : DirectiveD) (a b : ArgD)
    (hd : d ∈ o.directives) (he : n.directives.find? (·.name == d.name) = some e) (ha : a ∈ d.args)
    (hb : e.args.find? (·.name == a.name) = some b) (hs : safeIn a.type b.type = true)
    (hc : defaultChanged a b = true) :
    mk "DirectiveArgumentDefaultValueChange" [("directive", d.name), ("new_argument", b.name), ("old_argument", a.name)]
      (becameRequired a b) ∈ diffSchema o n 0 := by
  apply of_directive_args hd he
  rw [diffDirectiveArguments_eq]
  exact mem_diffArgs_default ha hb hs hc

end PyGql.Props.C20
