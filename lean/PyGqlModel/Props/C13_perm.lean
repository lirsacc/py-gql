/-
  C13 — `perm_deep`: the verdict of schema validation does not depend on the order of ANY list of the schema
  description, at any level: the type definitions, the directive definitions, the fields of a type, the arguments of a
  field or directive, enum values, input fields, union members, implemented interfaces. All lists may be reordered
  independently (`SchemaEqvV`). `perm_types` is the special case where only `schema.types` moves.

  Hypothesis: type names are unique (as in `schema.types`, a dict). Nothing else: uniqueness of field / argument
  names is part of what is being decided (a duplicated name stays duplicated under a permutation).
-/
import PyGqlModel.Lemmas.SchemaValidPerm

set_option linter.unusedSimpArgs false

namespace PyGql.Props.C13
open PyGql PyGql.SchemaValid PyGql.SchemaValidSpec PyGql.ListEqv PyGql.Generated.Subtype

/-- **Order of every list, at every level.** Two descriptions that list the same types, directives, fields,
    arguments, enum values, input fields, union members and interfaces, each list in any order (type names unique, as
    in `schema.types`), get the same verdict. -/
theorem perm_deep (s s' : SchemaD) (rv : Bool) (E : SchemaEqvV s s') (ND : (s.types.map (·.name)).Nodup) :
    validate s' rv = [] ↔ validate s rv = [] := by
  have ND' : (s'.types.map (·.name)).Nodup :=
    (ListEqv.map_perm E.types _ _ (fun a b _ r => r.name)).nodup_iff.mp ND
  rw [validate_iff, validate_iff]
  exact ⟨valid_eqv E.symm ND', valid_eqv E ND⟩

/-- `perm_types` is the special case where only the list of types moves -/
theorem SchemaEqvV.of_perm_types (s s' : SchemaD) (hp : s.types.Perm s'.types)
    (hdir : s.directives = s'.directives) (hq : s.query = s'.query) (hm : s.mutation = s'.mutation)
    (hsub : s.subscription = s'.subscription) (hd : s.defaultResolver = s'.defaultResolver) : SchemaEqvV s s' := by
  exact ⟨⟨s'.types, hp, forall2_refl TypeEqvV.refl _⟩,
    ⟨s.directives, .refl _, hdir ▸ forall2_refl (fun _ => ⟨rfl, .refl _⟩) _⟩, hq, hm, hsub, hd⟩

/-- **Order of types.** Two descriptions that list the same types in a different order (names unique,
    as in `schema.types`) and agree on everything else get the same verdict. -/
theorem perm_types (s s' : SchemaD) (rv : Bool) (hp : s'.types.Perm s.types)
    (hnd : (s.types.map (·.name)).Nodup)
    (hdir : s'.directives = s.directives) (hq : s'.query = s.query) (hm : s'.mutation = s.mutation)
    (hsub : s'.subscription = s.subscription) (hd : s'.defaultResolver = s.defaultResolver) :
    validate s' rv = [] ↔ validate s rv = [] :=
  perm_deep s s' rv (.of_perm_types s s' hp.symm hdir.symm hq.symm hm.symm hsub.symm hd.symm) hnd

/-- two descriptions with the same look-up by name: the rules of a type cannot tell them apart -/
private theorem typeOK_congr (s s' : SchemaD) (rv : Bool) (hl : s'.findType = s.findType)
    (hd : s'.defaultResolver = s.defaultResolver) :
    (∀ t, TypeOK s' rv t ↔ TypeOK s rv t) ∧ (kindOf s' = kindOf s) ∧
      (∀ args, ArgsOK s' args ↔ ArgsOK s args) := by
  have F : ∀ n, OptRel TypeEqvV (s.findType n) (s'.findType n) := by
    intro n
    rw [hl]
    cases s.findType n with
    | none => trivial
    | some t => exact TypeEqvV.refl t
  have hk := kindOf_eqv F
  have hi := isInputType_eqv F
  have ho := isOutputType_eqv F
  have hS := subtype_eqv F
  have hp : pickResolver s' = pickResolver s := by funext t f; simp [pickResolver, hd]
  have hdo : ∀ a, DefaultOK s' a ↔ DefaultOK s a := by intro a; unfold DefaultOK; rw [defaultBad_eqv F]
  refine ⟨?_, hk, ?_⟩
  · intro t
    unfold TypeOK FieldsOK InterfacesOK UnionOK InputOK ArgsOK ResolverOK Implements
    simp only [hk, hi, ho, hS, hp, hl, hdo]
  · intro args; unfold ArgsOK; simp only [hi, hdo]

/-! non-vacuity: a schema whose lists are all reordered (an interface with an argument-carrying field, an implementing
    object, a union, an enum, an input object, a directive) -/

private def pInt : TypeD := { kind := .scalar, name := "Int", builtin := true }
private def pA1 : ArgD := { name := "a", type := .named "Int" }
private def pA2 : ArgD := { name := "b", type := .named "E" }
private def pI (rev : Bool) : TypeD :=
  { kind := .interface, name := "I", fields := [{ name := "f", type := .named "Int", args := if rev then [pA2, pA1] else [pA1, pA2] }] }
private def pO (rev : Bool) : TypeD :=
  { kind := .object, name := "Query", interfaces := ["I"],
    fields := if rev then [{ name := "u", type := .named "U" }, { name := "f", type := .named "Int", args := [pA1, pA2] }]
              else [{ name := "f", type := .named "Int", args := [pA2, pA1] }, { name := "u", type := .named "U" }] }
private def pB : TypeD := { kind := .object, name := "B", fields := [{ name := "x", type := .named "Int" }] }
private def pU (rev : Bool) : TypeD := { kind := .union, name := "U", members := if rev then ["B", "Query"] else ["Query", "B"] }
private def pE (rev : Bool) : TypeD :=
  { kind := .enum, name := "E", values := if rev then [{ name := "Q", value := .str "Q" }, { name := "P", value := .str "P" }]
                                          else [{ name := "P", value := .str "P" }, { name := "Q", value := .str "Q" }] }
private def pS : SchemaD := { query := some "Query", types := [pInt, pI false, pO false, pB, pU false, pE false] }
private def pS' : SchemaD := { query := some "Query", types := [pE true, pU true, pB, pO true, pI true, pInt] }


private theorem pS_eqv : SchemaEqvV pS pS' := by
  refine ⟨⟨[pE false, pU false, pB, pO false, pI false, pInt], (List.reverse_perm pS.types).symm, ?_⟩, ⟨[], List.Perm.refl _, .nil⟩, rfl, rfl, rfl, rfl⟩
  refine .cons ⟨rfl, rfl, rfl, rfl, List.Perm.refl _, List.Perm.refl _, List.Perm.swap _ _ [], List.Perm.refl _, ⟨[], List.Perm.refl _, .nil⟩⟩ ?_
  refine .cons ⟨rfl, rfl, rfl, rfl, List.Perm.swap _ _ [], List.Perm.refl _, List.Perm.refl _, List.Perm.refl _, ⟨[], List.Perm.refl _, .nil⟩⟩ ?_
  refine .cons ⟨rfl, rfl, rfl, rfl, List.Perm.refl _, List.Perm.refl _, List.Perm.refl _, List.Perm.refl _,
    ⟨_, List.Perm.refl _, .cons ⟨rfl, rfl, rfl, rfl, List.Perm.refl _⟩ .nil⟩⟩ ?_
  refine .cons ⟨rfl, rfl, rfl, rfl, List.Perm.refl _, List.Perm.refl _, List.Perm.refl _, List.Perm.refl _,
    ⟨_, List.Perm.swap _ _ [], .cons ⟨rfl, rfl, rfl, rfl, List.Perm.refl _⟩ (.cons ⟨rfl, rfl, rfl, rfl, List.Perm.swap _ _ []⟩ .nil)⟩⟩ ?_
  refine .cons ⟨rfl, rfl, rfl, rfl, List.Perm.refl _, List.Perm.refl _, List.Perm.refl _, List.Perm.refl _,
    ⟨_, List.Perm.refl _, .cons ⟨rfl, rfl, rfl, rfl, List.Perm.swap _ _ []⟩ .nil⟩⟩ ?_
  exact .cons ⟨rfl, rfl, rfl, rfl, List.Perm.refl _, List.Perm.refl _, List.Perm.refl _, List.Perm.refl _,
    ⟨[], List.Perm.refl _, .nil⟩⟩ .nil

example : validate pS true = [] ∧ (validate pS' true = [] ↔ validate pS true = []) :=
  ⟨by decide +kernel, perm_deep pS pS' true pS_eqv (by decide +kernel)⟩

end PyGql.Props.C13
