/-
  C06 - property theorems: the model's rule list is the source's `SPECIFIED_RULES`; per-rule
  equivalences `rule_<name>_iff` (the rule visitor run as `default_validator(validators=[Rule])` reports
  nothing ⇔ the specification predicate of `Spec/ValidSpec.lean` holds) for rules decided node by node.
  The standalone runs are compared with the real code by the correspondence (`corr/C06_model.py`), and
  `chain-does-not-decompose` checks on the real code that the chain's verdict is their conjunction.
-/
import PyGqlModel.Generated.ValidationRules
import PyGqlModel.Lemmas.ValidateLone
namespace PyGql.Props.C06
open PyGql PyGql.Validate PyGql.Validate.Spec

/-- dropping, adding or reordering a rule in `SPECIFIED_RULES` breaks this obligation -/
theorem rules_match_source : Rule.all.map Rule.name = PyGql.Generated.ValidationRules.specifiedRules := rfl

/-- errors reported by rule `r` run alone (chain = TypeInfoVisitor + r) -/
def alone (s : SchemaD) (fx : Fixes) (r : Rule) (d : Doc) : St := visitDocument ⟨s, fx, [r]⟩ d {}
/-- "the rule reports nothing": NO RECORDED ERROR of the rule run alone (chain = TypeInfoVisitor + the rule). The exception
    flag `RS.crash` is NOT part of it: a run that raised before recording an error is `Silent`. The statements that include
    the flag are about `verdict` / `verdictM` (`Props/C06_chain.lean: verdict_iff_alone`, `verdictM_iff_alone`,
    `verdictM_iff_spec`); for the lone run of the memoised overlap rule `overlap_memo_run_no_crash`. -/
def Silent (s : SchemaD) (fx : Fixes) (r : Rule) (d : Doc) : Prop := E (alone s fx r d) = 0

theorem enterRules_one (c : Cfg) (n : Node) (ti : TI) (r : Rule) (rs : RS) :
    enterRules c n ti [r] rs = enterRule c.schema c.fixes r n ti rs := by
  simp only [enterRules, Bool.or_false]

theorem enter_single (s : SchemaD) (fx : Fixes) (r : Rule) (n : Node) (st : St) :
    enter ⟨s, fx, [r]⟩ n st =
      ({ ti := tiEnter s n st.ti, rs := (enterRule s fx r n (tiEnter s n st.ti) st.rs).1 },
       (enterRule s fx r n (tiEnter s n st.ti) st.rs).2) :=
  enter_one_rule s fx r n st

theorem leave_single (s : SchemaD) (fx : Fixes) (r : Rule) (n : Node) (st : St) :
    leave ⟨s, fx, [r]⟩ n st = { ti := tiLeave n st.ti, rs := leaveRule s fx r n st.ti st.rs } :=
  leave_one_rule s fx r n st

theorem errN_length (r : Rule) (k : Nat) (rs : RS) : (rs.errN r k).errs.length = rs.errs.length + k := by
  simp only [RS.errN, List.length_append, List.length_replicate, Nat.add_comm]

theorem errN_ite (r : Rule) (c : Prop) [Decidable c] (rs : RS) :
    rs.errN r (if c then 1 else 0) = if c then rs.err r else rs := by
  split <;> rfl

/-- the rules whose `leave` does nothing at all (for a rule without a `leave` clause the match falls through
    without looking at the node) -/
theorem leaveRule_id (s : SchemaD) (fx : Fixes) (r : Rule)
    (hr : r ≠ .noUnusedFragments ∧ r ≠ .noFragmentCycles ∧ r ≠ .noUndefinedVariables ∧ r ≠ .noUnusedVariables ∧
      r ≠ .variablesInAllowedPosition ∧ r ≠ .providedRequiredArguments ∧ r ≠ .uniqueVariableNames ∧
      r ≠ .knownDirectives ∧ r ≠ .uniqueInputFieldNames) :
    ∀ n ti rs, leaveRule s fx r n ti rs = rs := by
  intro n ti rs
  obtain ⟨h1, h2, h3, h4, h5, h6, h7, h8, h9⟩ := hr
  cases r <;> first | rfl | contradiction

theorem total_zero_iff_g0 (f : Node → Nat) (ns : List Node) :
    total f (fun _ => 0) ns = 0 ↔ ∀ n ∈ ns, f n = 0 := by
  induction ns with
  | nil => simp [total]
  | cons a as ih => rw [total_cons]; simp only [Nat.add_zero, List.mem_cons, forall_eq_or_imp, ← ih]; omega

/-- `for x in xs: if x in seen: error; seen.add(x)` reports nothing ⇔ no duplicates (and nothing already seen) -/
theorem dupCount_zero_iff (seen xs : List String) :
    dupCount seen xs = 0 ↔ xs.Nodup ∧ ∀ x ∈ xs, x ∉ seen := by
  induction xs generalizing seen with
  | nil => simp [dupCount]
  | cons a as ih =>
    simp only [dupCount, Nat.add_eq_zero_iff, ih, List.nodup_cons, List.mem_cons, forall_eq_or_imp]
    constructor
    · rintro ⟨h1, h2, h3⟩
      have ha : a ∉ seen := by
        intro hc; simp [hc] at h1
      refine ⟨⟨fun hm => ?_, h2⟩, ha, fun x hx => ?_⟩
      · have := h3 a hm; simp at this
      · have := h3 x hx; simp only [not_or] at this; exact this.2
    · rintro ⟨⟨h1, h2⟩, h3, h4⟩
      refine ⟨by simp [h3], h2, fun x hx => ?_⟩
      simp only [not_or]
      exact ⟨fun hxa => h1 (hxa ▸ hx), h4 x hx⟩

theorem dupCount_nil_zero_iff (xs : List String) : dupCount [] xs = 0 ↔ xs.Nodup := by
  simp [dupCount_zero_iff]

/-- generic shape of the per-rule theorem for a rule that never raises `SkipNode`, records `f n` errors on entering
    `n` whatever the state, and does nothing on leaving: every node is entered exactly once.
    `hE` is an equation of `enterRule` for the rule at hand; such equations are proved by `cases n` and `rfl` (on a
    constructor the match reduces), or after `dsimp only [enterRule]`: `simp [enterRule]` would first have to build
    the equation lemma of each of its ~95 alternatives, which is slow. -/
private theorem silent_iff_nodes (s : SchemaD) (fx : Fixes) (r : Rule) (f : Node → Nat) (d : Doc)
    (hE : ∀ n ti rs, enterRule s fx r n ti rs = (rs.errN r (f n), false))
    (hL : ∀ n ti rs, leaveRule s fx r n ti rs = rs) :
    Silent s fx r d ↔ ∀ n ∈ nodes d, f n = 0 := by
  have he : ∀ n st, enter ⟨s, fx, [r]⟩ n st = ({ ti := tiEnter s n st.ti, rs := st.rs.errN r (f n) }, false) := by
    intro n st
    rw [enter_single, hE]
  have hl : ∀ n st, E (leave ⟨s, fx, [r]⟩ n st) = E st + 0 := by
    intro n st
    rw [leave_single, hL]
    rfl
  have h : CF ⟨s, fx, [r]⟩ f (fun _ => 0) :=
    ⟨fun n st _ => by rw [he], fun n st _ => by rw [he]; exact errN_length r _ _, fun n st _ => hl n st⟩
  unfold Silent alone
  rw [visitDocument_E h d {} (by rw [he]) (by rw [he]; exact errN_length r _ _) (hl _), ← total_zero_iff_g0]
  exact Nat.zero_add _ ▸ Iff.rfl


def fUniqueArgs : Node → Nat
  | .field _ args _ _ => dupCount [] (args.map (·.name))
  | .directive d => dupCount [] (d.args.map (·.name))
  | _ => 0

theorem uniqueArgumentNames_iff_nodes (d : Doc) :
    Spec.uniqueArgumentNames d ↔ ∀ n ∈ nodes d, fUniqueArgs n = 0 := by
  unfold Spec.uniqueArgumentNames
  constructor
  · rintro ⟨h1, h2⟩ n hn
    cases n <;> simp only [fUniqueArgs, dupCount_nil_zero_iff]
    · exact h2 _ hn _ rfl
    · exact h1 _ hn _ _ _ _ rfl
  · intro h
    refine ⟨fun n hn name args dirs hs e => ?_, fun n hn dr e => ?_⟩
    · subst e; exact (dupCount_nil_zero_iff _).mp (h _ hn)
    · subst e; exact (dupCount_nil_zero_iff _).mp (h _ hn)

/-- **5.4.2 Argument uniqueness**: `UniqueArgumentNamesChecker` run alone reports nothing ⇔ the argument
    names of every field and every directive of the document are pairwise distinct -/
theorem rule_unique_argument_names_iff (s : SchemaD) (fx : Fixes) (d : Doc) :
    Silent s fx .uniqueArgumentNames d ↔ Spec.uniqueArgumentNames d :=
  (silent_iff_nodes s fx _ fUniqueArgs d (fun n _ _ => by cases n <;> rfl) (leaveRule_id s fx _ (by decide))).trans
    (uniqueArgumentNames_iff_nodes d).symm


def fUniqueDirs : Node → Nat
  | .operation _ _ _ dirs _ => dupCount [] (dirs.map (·.name))
  | .field _ _ dirs _ => dupCount [] (dirs.map (·.name))
  | .spread _ dirs => dupCount [] (dirs.map (·.name))
  | .inline _ dirs => dupCount [] (dirs.map (·.name))
  | .fragmentDef _ _ dirs => dupCount [] (dirs.map (·.name))
  | .varDef v => dupCount [] (v.dirs.map (·.name))
  | _ => 0

/-- **5.7.3 Directives are unique per location** -/
theorem rule_unique_directives_per_location_iff (s : SchemaD) (fx : Fixes) (d : Doc) :
    Silent s fx .uniqueDirectivesPerLocation d ↔ Spec.uniqueDirectivesPerLocation d := by
  rw [silent_iff_nodes s fx _ fUniqueDirs d (fun n _ _ => by cases n <;> rfl) (leaveRule_id s fx _ (by decide))]
  unfold Spec.uniqueDirectivesPerLocation
  constructor
  · intro h n hn dirs e
    have := h n hn
    cases n <;> simp only [Spec.uniqueDirectivesPerLocation.Node.dirsOf?, Option.some.injEq, reduceCtorEq] at e <;>
      subst e <;> exact (dupCount_nil_zero_iff _).mp this
  · intro h n hn
    cases n <;> simp only [fUniqueDirs, dupCount_nil_zero_iff] <;>
      exact h _ hn _ rfl

/-! `SingleFieldSubscriptionsChecker` (5.2.3.1): `Props/C06_doc.lean` (the rule reads the fragment table collected at the
    document node) -/

def fKnownTypes (s : SchemaD) : Node → Nat
  | .typeNode t => if (typeFromAst s t).isNone then 1 else 0
  | _ => 0

/-- **type existence** (the types of variable definitions; type conditions are never entered: ledger V1) -/
theorem rule_known_type_names_iff (s : SchemaD) (fx : Fixes) (d : Doc) :
    Silent s fx .knownTypeNames d ↔ Spec.knownTypeNames s d := by
  rw [silent_iff_nodes s fx _ (fKnownTypes s) d
    (fun n _ rs => by
      cases n with
      | typeNode t => exact congrArg (·, false) (errN_ite ..).symm
      | _ => rfl)
    (leaveRule_id s fx _ (by decide))]
  unfold Spec.knownTypeNames
  constructor
  · intro h n hn t e
    have := h n hn; subst e
    simp only [fKnownTypes, typeFromAst] at this
    cases hh : (s.findType t.base).isSome <;> simp_all
  · intro h n hn
    cases n <;> simp only [fKnownTypes]
    rename_i t
    have := h _ hn t rfl
    simp [typeFromAst, this]

def fVarInput (s : SchemaD) : Node → Nat
  | .varDef v => match typeFromAst s v.type with
    | none => 1
    | some t => if isInputTy s t then 0 else 1
  | _ => 0

/-- **5.8.2 Variables are input types** -/
theorem rule_variables_are_input_types_iff (s : SchemaD) (fx : Fixes) (d : Doc) :
    Silent s fx .variablesAreInputTypes d ↔ Spec.variablesAreInputTypes s d := by
  rw [silent_iff_nodes s fx _ (fVarInput s) d
    (fun n _ rs => by
      cases n with
      | varDef v =>
        dsimp only [enterRule, fVarInput]
        cases typeFromAst s v.type with
        | none => rfl
        | some t =>
          dsimp only
          cases isInputTy s t <;> rfl
      | _ => rfl)
    (leaveRule_id s fx _ (by decide))]
  unfold Spec.variablesAreInputTypes
  constructor
  · intro h n hn v e
    have := h n hn; subst e
    simp only [fVarInput] at this
    split at this
    · simp at this
    · rename_i t ht; exact ⟨t, ht, by simpa using this⟩
  · intro h n hn
    cases n <;> simp only [fVarInput]
    rename_i v
    obtain ⟨t, ht, hi⟩ := h _ hn v rfl
    simp [ht, hi]


private theorem mem_nodes_iff (d : Doc) (n : Node) :
    n ∈ nodes d ↔ n = .document d ∨ ∃ x ∈ d.defs, n ∈ defNodes x := by
  simp [nodes, List.mem_flatMap]

private theorem forall_nodes_perm (P : Node → Prop) (hP : ∀ d, P (.document d)) {d d' : Doc}
    (h : d.defs.Perm d'.defs) : (∀ n ∈ nodes d, P n) ↔ (∀ n ∈ nodes d', P n) := by
  simp only [mem_nodes_iff]
  constructor
  · intro H n hn
    rcases hn with rfl | ⟨x, hx, hm⟩
    · exact hP _
    · exact H n (Or.inr ⟨x, h.mem_iff.mpr hx, hm⟩)
  · intro H n hn
    rcases hn with rfl | ⟨x, hx, hm⟩
    · exact hP _
    · exact H n (Or.inr ⟨x, h.mem_iff.mp hx, hm⟩)

/-! non-vacuity -/
example : Spec.uniqueArgumentNames ⟨[.op "query" none [] [] 0 [.field none "a" [⟨"x", .int "1"⟩, ⟨"y", .int "2"⟩] [] false 0 []]]⟩ :=
  (uniqueArgumentNames_iff_nodes _).mpr (by decide)
example : ¬ Spec.uniqueArgumentNames ⟨[.op "query" none [] [] 0 [.field none "a" [⟨"x", .int "1"⟩, ⟨"x", .int "2"⟩] [] false 0 []]]⟩ :=
  mt (uniqueArgumentNames_iff_nodes _).mp (by decide)

end PyGql.Props.C06
