/-
  C20 — "whenever no breaking change is reported, every operation valid against the old schema is valid against
  the new one", for the schema-dependent rules of the C06 SPECIFICATION (the predicates of `Spec/ValidSpec.lean`,
  `Spec/TypedNodes.lean`, `Spec/CtxNodes.lean` that the C06 theorems `rule_*_iff` tie to the validator model).

  `operations_stay_valid_rules`: if `diff_schema(old, new, min_severity=BREAKING)` is empty, a document that
  satisfies the rules below on `old` satisfies each of them on `new`:

    covered (8 of the 26 rules here + PossibleFragmentSpreads by `nobreaking_possibleFragmentSpreads` below = 9; with the 14 rules
    that do not look at the schema - ExecutableDefinitions,
    UniqueOperationNames, LoneAnonymousOperation, SingleFieldSubscriptions, UniqueArgumentNames,
    UniqueDirectivesPerLocation, UniqueFragmentNames, KnownFragmentNames, NoFragmentCycles, NoUnusedFragments,
    UniqueInputFieldNames, UniqueVariableNames, NoUndefinedVariables, NoUnusedVariables - whose verdict cannot
    change with the schema):
      KnownTypeNames, VariablesAreInputTypes, FragmentsOnCompositeTypes, FieldsOnCorrectType, ScalarLeafs,
      KnownArgumentNames, ProvidedRequiredArguments, KnownDirectives
    covered elsewhere: ValuesOfCorrectType (`nobreaking_valuesOfCorrectType`, Props/C20_rules_values.lean) and
    VariablesInAllowedPosition (`nobreaking_variablesInAllowedPosition`, Props/C20_rules_vars.lean); all 25 together:
    `operations_stay_valid_rules_all` (Props/C20_rules_all.lean).
    NOT covered: OverlappingFieldsCanBeMerged (FALSE: finding G4).

  Hypothesis `OpsRooted`: every operation of the document has a root type in the OLD schema. It cannot be dropped:
  the validator accepts `mutation { foo }` on a schema WITHOUT a mutation type (no rule looks at it), and adding
  the mutation type is reported as `RootTypeAdded` (COMPATIBLE) — `unrooted_operation_refutes` (finding G6).
-/
import PyGqlModel.Props.C20_rules
import PyGqlModel.Spec.CtxNodes
import PyGqlModel.Lemmas.ValidateCtxInv
import PyGqlModel.Lemmas.ValidateCtxMap
import PyGqlModel.Lemmas.TypedEqView
import PyGqlModel.Lemmas.ValidateOverlapParentsTyped
import PyGqlModel.Lemmas.ValidateAL
import PyGqlModel.Lemmas.ListEqv

set_option linter.unusedSimpArgs false

namespace PyGql.Props.C20
open PyGql PyGql.Differ PyGql.Diff PyGql.Validate PyGql.Validate.Spec

/-- context of a node: (static view in the old schema, static view in the new schema) -/
def pd (o n : SchemaD) (nd : Node) (x : View × View) : View × View := (View.enter o nd x.1, View.enter n nd x.2)

def TypeRel (o : SchemaD) (x y : Option Ty) : Prop :=
  (x = none ∧ y = none) ∨ ∃ t t', x = some t ∧ y = some t' ∧ t'.base = t.base ∧ isOutputTy o t = true
    ∧ safeOut t t' = true
def FieldRel (x y : Option FieldD) : Prop :=
  (x = none ∧ y = none) ∨ ∃ f f', x = some f ∧ y = some f' ∧ ArgsRel f.args f'.args
def DirRel (x y : Option DirectiveD) : Prop :=
  (x = none ∧ y = none) ∨ ∃ f f', x = some f ∧ y = some f' ∧ ArgsRel f.args f'.args

structure VInv (o : SchemaD) (x : View × View) : Prop where
  parent : x.1.parent = x.2.parent
  comp : ∀ p, x.1.parent = some p → isComposite o p = true
  type : TypeRel o x.1.type x.2.type
  field : FieldRel x.1.field x.2.field
  directive : DirRel x.1.directive x.2.directive

/-- a view component known on the new side is known on the old side, and the two are related -/
private theorem TypeRel.of_new {o : SchemaD} {x y : Option Ty} (h : TypeRel o x y) {t' : Ty} (hy : y = some t') :
    ∃ t, x = some t ∧ t'.base = t.base ∧ isOutputTy o t = true ∧ safeOut t t' = true :=
  (ListEqv.OptRel.of_cases h).of_new hy

private theorem FieldRel.of_new {x y : Option FieldD} (h : FieldRel x y) {f' : FieldD} (hy : y = some f') :
    ∃ f, x = some f ∧ ArgsRel f.args f'.args :=
  (ListEqv.OptRel.of_cases h).of_new hy

private theorem DirRel.of_new {x y : Option DirectiveD} (h : DirRel x y) {f' : DirectiveD} (hy : y = some f') :
    ∃ f, x = some f ∧ ArgsRel f.args f'.args :=
  (ListEqv.OptRel.of_cases h).of_new hy

/-- what the rules on the OLD schema say at one node (the part that keeps the views defined) -/
def OldOk (o : SchemaD) (p : Node × (View × View)) : Prop :=
  (∀ name args dirs hs, p.1 = .field name args dirs hs → p.2.1.parent.isSome = true → p.2.1.field.isSome = true) ∧
  (∀ dr, p.1 = .directive dr → (findDirective o dr.name).isSome = true) ∧
  (∀ on dirs, p.1 = .inline (some on) dirs → isComposite o on = true) ∧
  (∀ name on dirs, p.1 = .fragmentDef name on dirs → isComposite o on = true) ∧
  (∀ kind name vars dirs sels, p.1 = .operation kind name vars dirs sels → (rootType o kind).isSome = true)

private theorem kind_of_out {o : SchemaD} {t : Ty} (h : isOutputTy o t = true) : ∃ k, kindOf o t.base = some k := by
  unfold isOutputTy at h
  cases hk : kindOf o t.base with
  | none => rw [hk] at h; simp at h
  | some k => exact ⟨k, rfl⟩

private theorem out_eq (o n : SchemaD) (h : diffSchema o n 2 = []) {t t' : Ty} (hb : t'.base = t.base)
    (hk : (kindOf o t.base).isSome = true) : isOutputTy n t' = isOutputTy o t := by
  unfold isOutputTy
  rw [hb, nobreaking_kindOf_eq o n h _ hk]

private theorem typeRel_outOnly (o n : SchemaD) (h : diffSchema o n 2 = []) (t t' : Ty) (hb : t'.base = t.base)
    (hk : (kindOf o t.base).isSome = true) (hso : safeOut t t' = true) :
    TypeRel o (TI.outOnly o (some t)) (TI.outOnly n (some t')) := by
  unfold TI.outOnly
  simp only [Option.bind_some]
  rw [out_eq o n h hb hk]
  by_cases ho : isOutputTy o t = true
  · rw [if_pos ho, if_pos ho]; exact Or.inr ⟨t, t', rfl, rfl, hb, ho, hso⟩
  · rw [if_neg ho, if_neg ho]; exact Or.inl ⟨rfl, rfl⟩

private theorem outOnly_rel (o n : SchemaD) (h : diffSchema o n 2 = []) {x y : Option Ty} (hT : TypeRel o x y) :
    TypeRel o (TI.outOnly o x) (TI.outOnly n y) := by
  rcases hT with ⟨hx, hy⟩ | ⟨t, t', hx, hy, hb, ho, hso⟩
  · rw [hx, hy]; exact .inl ⟨rfl, rfl⟩
  · rw [hx, hy]
    obtain ⟨k, hk⟩ := kind_of_out ho
    exact typeRel_outOnly o n h t t' hb (by rw [hk]; rfl) hso

private theorem compositeBase_rel (o n : SchemaD) (h : diffSchema o n 2 = []) {x y : Option Ty} (hT : TypeRel o x y) :
    compositeBase o x = compositeBase n y ∧ ∀ p, compositeBase o x = some p → isComposite o p = true := by
  rcases hT with ⟨hx, hy⟩ | ⟨t, t', hx, hy, hb, ho, _⟩
  · subst hx; subst hy; exact ⟨rfl, fun p hp => by simp [compositeBase] at hp⟩
  · subst hx; subst hy
    obtain ⟨k, hk⟩ := kind_of_out ho
    have hc := nobreaking_V_isComposite o n h t.base (by rw [hk]; rfl)
    unfold compositeBase
    simp only [Option.map_some, Option.bind_some]
    rw [hb, hc]
    refine ⟨rfl, ?_⟩
    intro p hp
    by_cases hcc : isComposite o t.base = true
    · rw [if_pos hcc] at hp; rw [← Option.some.inj hp]; exact hcc
    · rw [if_neg hcc] at hp; cases hp

private theorem fieldOf_known (o : SchemaD) (wo : OldWf o) (p name : String) (fd : FieldD)
    (hf : fieldOf o p name = some fd) : (kindOf o fd.type.base).isSome = true := by
  unfold fieldOf at hf
  by_cases hk : isObjOrIface o p = true
  · rw [if_pos hk] at hf
    cases ho : o.findType p with
    | none => rw [ho] at hf; simp at hf
    | some t =>
      rw [ho] at hf
      simp only [Option.bind_some] at hf
      unfold SchemaD.findType at ho
      exact wo.closed t (List.mem_of_find?_eq_some ho) fd (List.mem_of_find?_eq_some hf)
  · rw [if_neg hk] at hf; cases hf

private theorem getFieldDef_known (o : SchemaD) (wo : OldWf o) (p name : String) (fd : FieldD)
    (hf : getFieldDef o p name = some fd) : (kindOf o fd.type.base).isSome = true := by
  rcases getFieldDef_cases hf with rfl | rfl | rfl | hf
  · exact wo.metas.2.1
  · exact wo.metas.2.2
  · exact wo.metas.1
  · exact fieldOf_known o wo p name fd hf

private theorem named_known (o n : SchemaD) (h : diffSchema o n 2 = []) (on : String) (hc : isComposite o on = true) :
    TypeRel o (TI.outOnly o (typeFromAst o (.named on))) (TI.outOnly n (typeFromAst n (.named on))) := by
  have hk := kindOf_of_isComposite hc
  have hfo : (o.findType on).isSome = true := by rw [← kindOf_isSome]; exact hk
  have hfn : (n.findType on).isSome = true := by
    rw [← kindOf_isSome, nobreaking_kindOf_eq o n h on hk]; exact hk
  unfold typeFromAst
  simp only [Ty.base, hfo, hfn, if_true]
  exact typeRel_outOnly o n h (.named on) (.named on) rfl hk (safeOut_refl _)

/-- the type an operation node opens: its root type, an object type on both sides -/
private theorem root_step (o n : SchemaD) (h : diffSchema o n 2 = []) (kind : String)
    (hs : (rootType o kind).isSome = true) :
    TypeRel o ((rootType o kind).map Ty.named) ((rootType n kind).map Ty.named) := by
  cases hr : rootType o kind with
  | none => rw [hr] at hs; cases hs
  | some r =>
    rw [nobreaking_V_rootType o n h kind r hr]
    refine .inr ⟨.named r, .named r, rfl, rfl, rfl, ?_, safeOut_refl _⟩
    have hob := (rootType_some.mp hr).2
    unfold isObject at hob
    have hk : kindOf o r = some .object := by simpa using hob
    unfold isOutputTy; simp only [Ty.base]; rw [hk]

/-- the definition and the type a field node gets from its parent type, old and new -/
private theorem field_step (o n : SchemaD) (h : diffSchema o n 2 = []) (wo : OldWf o) (wn : NewWf n) (name : String)
    (q q' : Option String) (e : q = q') (hc : ∀ p, q = some p → isComposite o p = true)
    (hok : q.isSome = true → (q.bind fun p => getFieldDef o p name).isSome = true) :
    FieldRel (q.bind fun p => getFieldDef o p name) (q'.bind fun p => getFieldDef n p name) ∧
      TypeRel o (TI.outOnly o ((q.bind fun p => getFieldDef o p name).map (·.type)))
        (TI.outOnly n ((q'.bind fun p => getFieldDef n p name).map (·.type))) := by
  subst e
  cases q with
  | none => exact ⟨.inl ⟨rfl, rfl⟩, .inl ⟨rfl, rfl⟩⟩
  | some p =>
    have hfs := hok rfl
    simp only [Option.bind_some] at hfs ⊢
    cases hf : getFieldDef o p name with
    | none => rw [hf] at hfs; cases hfs
    | some fd =>
      obtain ⟨fd', hn, hb, har, hso⟩ := nobreaking_V_getFieldDef o n h wo wn p name (hc p rfl) fd hf
      rw [hn]
      exact ⟨.inr ⟨fd, fd', rfl, rfl, har⟩,
        typeRel_outOnly o n h fd.type fd'.type hb (getFieldDef_known o wo p name fd hf) hso⟩

/-- steps that set one component of the view, or the field with its type -/
private theorem VInv.withType {o : SchemaD} {a b : View} (hv : VInv o (a, b)) {x y : Option Ty} (hT : TypeRel o x y) :
    VInv o ({ a with type := x }, { b with type := y }) :=
  ⟨hv.parent, hv.comp, hT, hv.field, hv.directive⟩

private theorem VInv.withParent {o : SchemaD} {a b : View} (hv : VInv o (a, b)) {x y : Option String} (e : x = y)
    (c : ∀ p, x = some p → isComposite o p = true) : VInv o ({ a with parent := x }, { b with parent := y }) :=
  ⟨e, c, hv.type, hv.field, hv.directive⟩

private theorem VInv.withDirective {o : SchemaD} {a b : View} (hv : VInv o (a, b)) {x y : Option DirectiveD}
    (hD : DirRel x y) : VInv o ({ a with directive := x }, { b with directive := y }) :=
  ⟨hv.parent, hv.comp, hv.type, hv.field, hD⟩

private theorem VInv.withField {o : SchemaD} {a b : View} (hv : VInv o (a, b)) {x y : Option FieldD} {t u : Option Ty}
    (hF : FieldRel x y) (hT : TypeRel o t u) :
    VInv o ({ a with field := x, type := t }, { b with field := y, type := u }) :=
  ⟨hv.parent, hv.comp, hT, hF, hv.directive⟩

/-- **the views stay compatible** below every node that is in order on the old schema -/
theorem pd_step (o n : SchemaD) (h : diffSchema o n 2 = []) (wo : OldWf o) (wn : NewWf n) (nd : Node) (x : View × View)
    (hinv : VInv o x) (hok : OldOk o (nd, pd o n nd x)) : VInv o (pd o n nd x) := by
  obtain ⟨a, b⟩ := x
  obtain ⟨okF, okD, okI, okFr, okOp⟩ := hok
  cases nd with
  | selectionSet i sels =>
    obtain ⟨e, c⟩ := compositeBase_rel o n h hinv.type
    exact hinv.withParent e c
  | directive dr =>
    have hs := okD dr rfl
    cases hd : findDirective o dr.name with
    | none => rw [hd] at hs; simp at hs
    | some dd =>
      obtain ⟨dd', hn, _, har⟩ := nobreaking_V_findDirective o n h wn dr.name dd hd
      exact hinv.withDirective (.inr ⟨dd, dd', hd, hn, har⟩)
  | operation kind name vars dirs sels =>
    exact hinv.withType (root_step o n h kind (okOp kind name vars dirs sels rfl))
  | fragmentDef name on dirs =>
    exact hinv.withType (named_known o n h on (okFr name on dirs rfl))
  | inline on dirs =>
    cases on with
    | some c => exact hinv.withType (named_known o n h c (okI c dirs rfl))
    | none => exact hinv.withType (outOnly_rel o n h hinv.type)
  | field name args dirs hs =>
    obtain ⟨hF, hT⟩ := field_step o n h wo wn name a.parent b.parent hinv.parent hinv.comp (okF name args dirs hs rfl)
    exact hinv.withField hF hT
  -- the other nodes leave the view as it is
  | _ => exact hinv

def pairNodes (o n : SchemaD) (d : Doc) : List (Node × (View × View)) := gnDoc (pd o n) ({}, {}) d

private theorem pair_fst (o n : SchemaD) (d : Doc) : pmap Prod.fst (pairNodes o n d) = typedNodes o d := by
  rw [typedNodes_eq_viewNodes]
  exact gnDoc_map Prod.fst (pd o n) (View.enter o) (fun _ _ => rfl) d ({}, {})

private theorem pair_snd (o n : SchemaD) (d : Doc) : pmap Prod.snd (pairNodes o n d) = typedNodes n d := by
  rw [typedNodes_eq_viewNodes]
  exact gnDoc_map Prod.snd (pd o n) (View.enter n) (fun _ _ => rfl) d ({}, {})

private theorem mem_old {o n : SchemaD} {d : Doc} {p : Node × (View × View)} (hp : p ∈ pairNodes o n d) :
    (p.1, p.2.1) ∈ typedNodes o d := by
  rw [← pair_fst o n d]; exact List.mem_map.mpr ⟨p, hp, rfl⟩

private theorem of_new {o n : SchemaD} {d : Doc} {q : Node × View} (hq : q ∈ typedNodes n d) :
    ∃ p ∈ pairNodes o n d, q = (p.1, p.2.2) := by
  rw [← pair_snd o n d] at hq
  obtain ⟨p, hp, e⟩ := List.mem_map.mp hq
  exact ⟨p, hp, e.symm⟩

/-- every operation of the document has a root type in the schema -/
def OpsRooted (s : SchemaD) (d : Doc) : Prop :=
  ∀ x ∈ nodes d, ∀ kind name vars dirs sels, x = Node.operation kind name vars dirs sels → (rootType s kind).isSome = true

/-- every directive used in the document is defined (part of `knownDirectives`) -/
def DirectivesDefined (s : SchemaD) (d : Doc) : Prop :=
  ∀ x ∈ nodes d, ∀ dr, x = Node.directive dr → (findDirective s dr.name).isSome = true

private theorem fst_indep {X Y : Type} (down : Node → X → X) (down' : Node → Y → Y) (x : X) (y : Y) (d : Doc) :
    (gnDoc down x d).map (·.1) = (gnDoc down' y d).map (·.1) := by
  have h1 := gnDoc_map (fun _ : X => ()) down (fun _ _ => ()) (fun _ _ => rfl) d x
  have h2 := gnDoc_map (fun _ : Y => ()) down' (fun _ _ => ()) (fun _ _ => rfl) d y
  have e1 : (gnDoc down x d).map (·.1) = (pmap (fun _ : X => ()) (gnDoc down x d)).map (·.1) := by
    simp [pmap, List.map_map, Function.comp_def]
  have e2 : (gnDoc down' y d).map (·.1) = (pmap (fun _ : Y => ()) (gnDoc down' y d)).map (·.1) := by
    simp [pmap, List.map_map, Function.comp_def]
  rw [e1, e2, h1, h2]

theorem directivesDefined_of_known (s : SchemaD) (d : Doc) (h : knownDirectives s d) : DirectivesDefined s d := by
  intro x hx dr e
  have hx' : x ∈ d.defs.flatMap defNodes := by
    unfold nodes at hx
    rcases List.mem_cons.mp hx with h1 | h1
    · rw [e] at h1; cases h1
    · exact h1
  rw [← typedNodes_fst s d, typedNodes_eq_viewNodes] at hx'
  unfold viewNodes at hx'
  rw [fst_indep (View.enter s) ancDown {} [] d] at hx'
  obtain ⟨q, hq, hq1⟩ := List.mem_map.mp hx'
  obtain ⟨sd, hsd, _⟩ := h q hq dr (by rw [hq1]; exact e)
  rw [hsd]; rfl

private theorem oldOk_all (o n : SchemaD) (d : Doc) (hF : fieldsOnCorrectType o d) (hD : DirectivesDefined o d)
    (hC : fragmentsOnCompositeTypes o d) (hR : OpsRooted o d) : ∀ p ∈ pairNodes o n d, OldOk o p := by
  intro p hp
  have hm := mem_old hp
  have hnode : p.1 ∈ nodes d := typed_node_mem hm
  refine ⟨?_, ?_, ?_, ?_, ?_⟩
  · intro name args dirs hs e; exact hF _ hm name args dirs hs e
  · intro dr e; exact hD _ hnode dr e
  · intro on dirs e; exact hC.1 _ hnode on dirs e
  · intro name on dirs e; exact hC.2 _ hnode name on dirs e
  · intro kind name vars dirs sels e; exact hR _ hnode kind name vars dirs sels e

private theorem vinv_root (o : SchemaD) : VInv o (({} : View), ({} : View)) :=
  ⟨rfl, fun p hp => (by cases hp), Or.inl ⟨rfl, rfl⟩, Or.inl ⟨rfl, rfl⟩, Or.inl ⟨rfl, rfl⟩⟩

/-- at every node of a document in order on the old schema, the old and the new view are compatible -/
theorem views_compatible (o n : SchemaD) (h : diffSchema o n 2 = []) (wo : OldWf o) (wn : NewWf n) (d : Doc)
    (hF : fieldsOnCorrectType o d) (hD : DirectivesDefined o d) (hC : fragmentsOnCompositeTypes o d)
    (hR : OpsRooted o d) : ∀ p ∈ pairNodes o n d, VInv o p.2 :=
  gnDoc_inv (pd o n) (VInv o) (OldOk o) (fun nd x hi hk => pd_step o n h wo wn nd x hi hk) d ({}, {}) (vinv_root o)
    (oldOk_all o n d hF hD hC hR)

/-- the schema-dependent rules covered by `operations_stay_valid_rules` -/
structure SchemaRules (s : SchemaD) (d : Doc) : Prop where
  knownTypeNames : knownTypeNames s d
  variablesAreInputTypes : variablesAreInputTypes s d
  fragmentsOnCompositeTypes : fragmentsOnCompositeTypes s d
  fieldsOnCorrectType : fieldsOnCorrectType s d
  scalarLeafs : scalarLeafs s d
  knownArgumentNames : knownArgumentNames s d
  providedRequiredArguments : providedRequiredArguments s d
  knownDirectives : knownDirectives s d

theorem findType_kept (o n : SchemaD) (h : diffSchema o n 2 = []) (x : String)
    (hs : (o.findType x).isSome = true) : (n.findType x).isSome = true := by
  rw [← kindOf_isSome] at hs ⊢
  rw [nobreaking_kindOf_eq o n h x hs]; exact hs

private theorem isComposite_kept' (o n : SchemaD) (h : diffSchema o n 2 = []) (x : String)
    (hc : isComposite o x = true) : isComposite n x = true := by
  rw [nobreaking_V_isComposite o n h x (kindOf_of_isComposite hc)]; exact hc

theorem nobreaking_knownTypeNames (o n : SchemaD) (h : diffSchema o n 2 = []) (d : Doc)
    (hv : Spec.knownTypeNames o d) : Spec.knownTypeNames n d :=
  fun x hx t e => findType_kept o n h _ (hv x hx t e)

theorem nobreaking_variablesAreInputTypes (o n : SchemaD) (h : diffSchema o n 2 = []) (d : Doc)
    (hv : Spec.variablesAreInputTypes o d) : Spec.variablesAreInputTypes n d := by
  intro x hx v e
  obtain ⟨t, ht, hi⟩ := hv x hx v e
  unfold typeFromAst at ht
  by_cases hf : (o.findType v.type.base).isSome = true
  · rw [if_pos hf] at ht
    have : v.type = t := Option.some.inj ht
    subst this
    refine ⟨v.type, ?_, ?_⟩
    · unfold typeFromAst; rw [if_pos (findType_kept o n h _ hf)]
    · unfold isInputTy at hi ⊢
      cases hk : kindOf o v.type.base with
      | none => rw [hk] at hi; simp at hi
      | some k => rw [nobreaking_V_kindOf o n h _ k hk]; rw [hk] at hi; exact hi
  · rw [if_neg hf] at ht; cases ht

theorem nobreaking_fragmentsOnCompositeTypes (o n : SchemaD) (h : diffSchema o n 2 = []) (d : Doc)
    (hv : Spec.fragmentsOnCompositeTypes o d) : Spec.fragmentsOnCompositeTypes n d :=
  ⟨fun x hx on dirs e => isComposite_kept' o n h on (hv.1 x hx on dirs e),
   fun x hx name on dirs e => isComposite_kept' o n h on (hv.2 x hx name on dirs e)⟩

theorem nobreaking_knownDirectives (o n : SchemaD) (h : diffSchema o n 2 = []) (wn : NewWf n) (d : Doc)
    (hv : Spec.knownDirectives o d) : Spec.knownDirectives n d := by
  intro p hp dr e
  obtain ⟨sd, hsd, hl⟩ := hv p hp dr e
  obtain ⟨sd', hn, hloc, _⟩ := nobreaking_V_findDirective o n h wn dr.name sd hsd
  exact ⟨sd', hn, fun a rest er => hloc _ (hl a rest er)⟩

/-- **Operations stay valid, rule by rule (C06 specification predicates) - 8 of the schema-dependent rules (PARTIAL).**
    OMITS ValuesOfCorrectType and VariablesInAllowedPosition
    (added by `operations_stay_valid_rules_all`, Props/C20_rules_all.lean), PossibleFragmentSpreads
    (`nobreaking_possibleFragmentSpreads` below) and OverlappingFieldsCanBeMerged (FALSE: finding G4); ASSUMES `OpsRooted`
    (necessary: finding G6). The clause as worded is `OperationsStayValidFull` (Props/C20_full.lean), refuted by
    `operations_stay_valid_full_refuted`. -/
theorem operations_stay_valid_rules (o n : SchemaD) (h : diffSchema o n 2 = []) (wo : OldWf o) (wn : NewWf n)
    (d : Doc) (hR : OpsRooted o d) (hv : SchemaRules o d) : SchemaRules n d := by
  have hinv := views_compatible o n h wo wn d hv.fieldsOnCorrectType
    (directivesDefined_of_known o d hv.knownDirectives) hv.fragmentsOnCompositeTypes hR
  refine ⟨nobreaking_knownTypeNames o n h d hv.knownTypeNames,
    nobreaking_variablesAreInputTypes o n h d hv.variablesAreInputTypes,
    nobreaking_fragmentsOnCompositeTypes o n h d hv.fragmentsOnCompositeTypes, ?_, ?_, ?_, ?_,
    nobreaking_knownDirectives o n h wn d hv.knownDirectives⟩
  · -- FieldsOnCorrectType
    intro q hq name args dirs hs e hpar
    obtain ⟨p, hp, rfl⟩ := of_new (o := o) hq
    have iv := hinv p hp
    have hold := hv.fieldsOnCorrectType _ (mem_old hp) name args dirs hs e (by rw [iv.parent]; exact hpar)
    rcases iv.field with ⟨hx, _⟩ | ⟨f, f', _, hy, _⟩
    · rw [hx] at hold; simp at hold
    · show p.2.2.field.isSome = true; rw [hy]; rfl
  · -- ScalarLeafs
    intro q hq name args dirs hs e t' ht'
    obtain ⟨p, hp, rfl⟩ := of_new (o := o) hq
    obtain ⟨t, hx, hb, ho, _⟩ := (hinv p hp).type.of_new ht'
    obtain ⟨k, hk⟩ := kind_of_out ho
    have hold := hv.scalarLeafs _ (mem_old hp) name args dirs hs e t hx
    have hkn := nobreaking_V_kindOf o n h _ k hk
    constructor
    · intro hl; apply hold.1
      unfold isLeaf at hl ⊢; rw [hb, hkn] at hl; rw [hk]; exact hl
    · intro hl; apply hold.2
      unfold isComposite at hl ⊢; rw [hb, hkn] at hl; rw [hk]; exact hl
  · -- KnownArgumentNames
    constructor
    · intro q hq name args dirs hs e fd' hfd' a ha
      obtain ⟨p, hp, rfl⟩ := of_new (o := o) hq
      obtain ⟨f, hx, har⟩ := (hinv p hp).field.of_new hfd'
      obtain ⟨ad, had, hadn⟩ := hv.knownArgumentNames.1 _ (mem_old hp) name args dirs hs e f hx a ha
      obtain ⟨b, hb, hbn⟩ := har.1 ad had
      exact ⟨b, hb, by rw [hbn, hadn]⟩
    · intro q hq dr e dd' hdd' a ha
      obtain ⟨p, hp, rfl⟩ := of_new (o := o) hq
      obtain ⟨f, hx, har⟩ := (hinv p hp).directive.of_new hdd'
      obtain ⟨ad, had, hadn⟩ := hv.knownArgumentNames.2 _ (mem_old hp) dr e f hx a ha
      obtain ⟨b, hb, hbn⟩ := har.1 ad had
      exact ⟨b, hb, by rw [hbn, hadn]⟩
  · -- ProvidedRequiredArguments
    constructor
    · intro q hq name args dirs hs e fd' hfd' ad' had' hreq
      obtain ⟨p, hp, rfl⟩ := of_new (o := o) hq
      obtain ⟨f, hx, har⟩ := (hinv p hp).field.of_new hfd'
      obtain ⟨a0, ha0, hn0, hr0⟩ := har.2 ad' had' hreq
      obtain ⟨a, ha, han⟩ := hv.providedRequiredArguments.1 _ (mem_old hp) name args dirs hs e f hx a0 ha0 hr0
      exact ⟨a, ha, by rw [han, hn0]⟩
    · intro q hq dr e dd' hdd' ad' had' hreq
      obtain ⟨p, hp, rfl⟩ := of_new (o := o) hq
      obtain ⟨f, hx, har⟩ := (hinv p hp).directive.of_new hdd'
      obtain ⟨a0, ha0, hn0, hr0⟩ := har.2 ad' had' hreq
      obtain ⟨a, ha, han⟩ := hv.providedRequiredArguments.2 _ (mem_old hp) dr e f hx a0 ha0 hr0
      exact ⟨a, ha, by rw [han, hn0]⟩

/-- the possible types of an abstract type only grow -/
theorem nobreaking_possibleTypes (o n : SchemaD) (h : diffSchema o n 2 = []) (a x : String)
    (hx : x ∈ possibleTypes o a) : x ∈ possibleTypes n a := by
  unfold possibleTypes at hx ⊢
  cases ho : o.findType a with
  | none => rw [ho] at hx; simp at hx
  | some t =>
    obtain ⟨htm, htn⟩ := mem_of_findType ho
    obtain ⟨t', hn, hkk, hp⟩ := nobreaking_matching o n h t htm
    rw [ho] at hx
    rw [← htn, hn, htn]
    simp only at hx ⊢
    rw [hkk]
    cases hk : t.kind <;> rw [hk] at hx hp <;> simp only at hx ⊢
    case interface =>
      -- an implementing object type is kept, as an object type that still implements `a`
      simp only [List.mem_map, List.mem_filter, Bool.and_eq_true, beq_iff_eq, List.contains_iff_mem] at hx ⊢
      obtain ⟨ot, ⟨hot, hobj, hia⟩, hname⟩ := hx
      obtain ⟨ot', hfo, hkeq, hpo⟩ := nobreaking_matching o n h ot hot
      rw [hobj] at hpo hkeq
      obtain ⟨hom, hon⟩ := mem_of_findType hfo
      exact ⟨ot', ⟨hom, hkeq, nobreaking_interfaces_kept o n h ot ot' hpo a hia⟩, by rw [hon]; exact hname⟩
    case union => exact List.contains_iff_mem.mp (nobreaking_union_members_kept o n h t t' hp x hx)
    all_goals exact absurd hx List.not_mem_nil

private theorem isAbstract_eq (o n : SchemaD) (h : diffSchema o n 2 = []) (x : String)
    (hk : (kindOf o x).isSome = true) : isAbstract n x = isAbstract o x := by
  unfold isAbstract
  rw [nobreaking_kindOf_eq o n h x hk]

private theorem isPossibleType_mono (o n : SchemaD) (h : diffSchema o n 2 = []) (a t : String)
    (hp : isPossibleType o a t = true) : isPossibleType n a t = true := by
  unfold isPossibleType at hp ⊢
  simp only [Bool.and_eq_true, List.contains_iff_mem] at hp ⊢
  refine ⟨?_, nobreaking_possibleTypes o n h a t hp.2⟩
  have := hp.1
  unfold isObject at this ⊢
  have hk : kindOf o t = some .object := by simpa using this
  rw [nobreaking_V_kindOf o n h t _ hk]; simp

/-- two composite types of the old schema that overlap still overlap -/
theorem nobreaking_typesOverlap (o n : SchemaD) (h : diffSchema o n 2 = []) (a b : String)
    (ha : (kindOf o a).isSome = true) (hb : (kindOf o b).isSome = true)
    (hov : typesOverlap o a b = true) : typesOverlap n a b = true := by
  unfold typesOverlap at hov ⊢
  rw [isAbstract_eq o n h a ha, isAbstract_eq o n h b hb]
  by_cases e : (a == b) = true
  · rw [if_pos e]
  · rw [if_neg e] at hov ⊢
    by_cases c : (isAbstract o a && isAbstract o b) = true
    · rw [if_pos c] at hov ⊢
      simp only [List.any_eq_true, List.contains_iff_mem] at hov ⊢
      obtain ⟨t, ht1, ht2⟩ := hov
      exact ⟨t, nobreaking_possibleTypes o n h a t ht1, nobreaking_possibleTypes o n h b t ht2⟩
    · rw [if_neg c] at hov ⊢
      simp only [Bool.or_eq_true, Bool.and_eq_true] at hov ⊢
      rcases hov with ⟨h1, h2⟩ | ⟨h1, h2⟩
      · exact Or.inl ⟨h1, isPossibleType_mono o n h a b h2⟩
      · exact Or.inr ⟨h1, isPossibleType_mono o n h b a h2⟩

private theorem fragDef_node {d : Doc} {f : String × String × Nat × List Sel} (hf : f ∈ fragDefs d) :
    ∃ dirs, Node.fragmentDef f.1 f.2.1 dirs ∈ nodes d := by
  unfold fragDefs at hf
  obtain ⟨df, hdf, hm⟩ := List.mem_filterMap.mp hf
  cases df with
  | frag name on dirs id sels =>
    simp only [Option.some.injEq] at hm
    subst hm
    refine ⟨dirs, ?_⟩
    unfold nodes
    apply List.mem_cons_of_mem
    apply List.mem_flatMap.mpr
    exact ⟨_, hdf, by simp [defNodes]⟩
  | op k nm vs ds i ss => simp at hm
  | ts a b => simp at hm

private theorem known_of_composite {s : SchemaD} {x : String} (h : isComposite s x = true) :
    (kindOf s x).isSome = true ∧ (s.findType x).isSome = true :=
  ⟨kindOf_of_isComposite h, by rw [← kindOf_isSome]; exact kindOf_of_isComposite h⟩

/-- fragments are typed the same way: every type condition of a document in order on the old schema exists in both -/
theorem nobreaking_fragTypes (o n : SchemaD) (h : diffSchema o n 2 = []) (d : Doc)
    (hC : Spec.fragmentsOnCompositeTypes o d) : fragTypes n d = fragTypes o d := by
  unfold fragTypes
  have hall : ∀ f ∈ fragDefs d, (o.findType f.2.1).isSome = true := by
    intro f hf
    obtain ⟨dirs, hnode⟩ := fragDef_node hf
    exact (known_of_composite (hC.2 _ hnode f.1 f.2.1 dirs rfl)).2
  have e : (fragDefs d).filter (fun f => (typeFromAst n (.named f.2.1)).isSome)
      = (fragDefs d).filter (fun f => (typeFromAst o (.named f.2.1)).isSome) := by
    apply List.filter_congr
    intro f hf
    have h1 := hall f hf
    have h2 := findType_kept o n h _ h1
    unfold typeFromAst
    simp only [Ty.base, h1, h2, if_true]
  rw [e]

private theorem foldl_set_mem (L : List (String × String × Nat × List Sel)) (acc : AL String) (p : String × String)
    (hp : p ∈ L.foldl (fun m f => AL.set m f.1 f.2.1) acc) : p ∈ acc ∨ ∃ f ∈ L, p = (f.1, f.2.1) := by
  induction L generalizing acc with
  | nil => exact Or.inl hp
  | cons f L ih =>
    simp only [List.foldl_cons] at hp
    rcases ih _ hp with h1 | ⟨g, hg, e⟩
    · rcases AL.mem_set h1 with h2 | h2
      · exact Or.inl h2
      · exact Or.inr ⟨f, List.mem_cons_self, h2⟩
    · exact Or.inr ⟨g, List.mem_cons_of_mem _ hg, e⟩

private theorem fragTypes_known (s : SchemaD) (d : Doc) (name ft : String)
    (hg : AL.get? (fragTypes s d) name = some ft) : (s.findType ft).isSome = true := by
  have hm := AL.mem_of_get? hg
  unfold fragTypes at hm
  rcases foldl_set_mem _ _ _ hm with h1 | ⟨f, hf, e⟩
  · cases h1
  · have := (List.mem_filter.mp hf).2
    have e2 : ft = f.2.1 := by simpa using congrArg Prod.snd e
    rw [e2]
    cases c : (s.findType f.2.1).isSome with
    | true => rfl
    | false => simp [typeFromAst, Ty.base, c] at this

private theorem safeOut_named_right (t : Ty) (x : String) (h : safeOut t (.named x) = true) : t = .named x := by
  rw [safeOut_eq] at h
  cases t with
  | named a => simp [sub, g1Pair] at h; rw [h]
  | list a => simp [sub, g1Pair] at h
  | nonNull a => simp [sub, g1Pair] at h

/-- **PossibleFragmentSpreads is preserved** (for the code of /repo HEAD: `fx.v10`, the parent type of the enclosing
    selection set). -/
theorem nobreaking_possibleFragmentSpreads (o n : SchemaD) (h : diffSchema o n 2 = []) (wo : OldWf o) (wn : NewWf n)
    (d : Doc) (fx : Fixes) (h10 : fx.v10 = true) (hR : OpsRooted o d) (hv : SchemaRules o d)
    (hs : Spec.possibleFragmentSpreads o fx d) : Spec.possibleFragmentSpreads n fx d := by
  have hinv := views_compatible o n h wo wn d hv.fieldsOnCorrectType
    (directivesDefined_of_known o d hv.knownDirectives) hv.fragmentsOnCompositeTypes hR
  have hft := nobreaking_fragTypes o n h d hv.fragmentsOnCompositeTypes
  intro q hq
  rw [← typedNodes_eq_viewNodes] at hq
  obtain ⟨p, hp, rfl⟩ := of_new (o := o) hq
  have iv := hinv p hp
  have hold := hs (p.1, p.2.1) (by rw [← typedNodes_eq_viewNodes]; exact mem_old hp)
  constructor
  · intro name dirs e ft par hget hpar hcf hcp
    rw [hft] at hget
    unfold spreadParent at hpar
    rw [h10] at hpar
    simp only [if_true] at hpar
    have hpar' : p.2.1.parent = some par := by rw [iv.parent]; exact hpar
    have hcpo := iv.comp par hpar'
    have hkf : (o.findType ft).isSome = true := fragTypes_known o d name ft hget
    have hkfk : (kindOf o ft).isSome = true := by rw [kindOf_isSome]; exact hkf
    have hcfo : isComposite o ft = true := by rw [← nobreaking_V_isComposite o n h ft hkfk]; exact hcf
    have := hold.1 name dirs e ft par hget (by unfold spreadParent; rw [h10]; simpa using hpar') hcfo hcpo
    exact nobreaking_typesOverlap o n h ft par hkfk (known_of_composite hcpo).1 this
  · intro on dirs e t par htype hpar hct hcp
    have hpar' : p.2.1.parent = some par := by rw [iv.parent]; exact hpar
    have hcpo := iv.comp par hpar'
    obtain ⟨tO, hx, hb, ho, hso⟩ := iv.type.of_new htype
    have htO := safeOut_named_right tO t hso
    subst htO
    obtain ⟨k, hk⟩ := kind_of_out ho
    have hkt : (kindOf o t).isSome = true := by simp only [Ty.base] at hk; rw [hk]; rfl
    have hcto : isComposite o t = true := by rw [← nobreaking_V_isComposite o n h t hkt]; exact hct
    have := hold.2 on dirs e t par hx hpar' hcto hcpo
    exact nobreaking_typesOverlap o n h t par hkt (known_of_composite hcpo).1 this

end PyGql.Props.C20
