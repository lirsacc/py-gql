/-
  C07 — the WHOLE response tree. Every resolver call anywhere in the tree (nested selections,
  lists of objects, objects of different runtime types behind an abstract type) receives keyword arguments that conform to
  the argument definitions of the field AS DEFINED BY ITS OWN PARENT OBJECT TYPE; a rejected argument at any depth yields a
  field error and no call for that field (and nothing below it) while its siblings are still executed.
  Trace model: `execTree` / `executeTree` in PyGqlModel/CoerceExec.lean; tied to the code by the `tree` stream of
  harness/corr/C07.py (recording resolvers on every field of a nested interface/object schema).
-/
import PyGqlModel.Props.C07_bridge


namespace PyGql.Props.C07
open PyGql PyGql.Coerce

/-- the statement about one event: a resolver call carries conforming keyword arguments for the definition its parent type gives the field -/
def GoodEv (reg : Reg) (tbl : ArgTable) : TEv → Prop
  | .call _ ty field kw => ∃ defs, tbl ty field = some defs ∧ ConformsFields reg defs kw
  | _ => True

/-- side conditions on one selection node, for every object type it may be resolved on: the argument definitions are
    well-formed (`ArgsOK`) and the variables used in the node's arguments fit their positions there -/
def NodeOK (reg : Reg) (tbl : ArgTable) (env : List (String × PV)) (sel : SelT) : Prop :=
  ∀ ty defs, tbl ty sel.field = some defs →
    ArgsOK reg defs ∧ ∀ d, d ∈ defs → ∀ l, lookupLast d.name sel.args = some l → VarsFit reg (some env) d.type l

private theorem mem_andThen {a b : List TEv} {ev : TEv} (h : ev ∈ andThen a b) : ev ∈ a ∨ ev ∈ b := by
  unfold andThen at h
  split at h
  · exact .inl h
  · exact List.mem_append.1 h

private theorem completeT_mem {P : TEv → Prop} {execSub : String → RPath → List SelT → List TEv} {sub : List SelT}
    (hsub : ∀ ty p ev, ev ∈ execSub ty p sub → P ev) (p : RPath) (v : RVal) :
    ∀ ev, ev ∈ completeT execSub sub p v → P ev := by
  have items : ∀ (items : List (Option String)) (i : Nat) (ev : TEv), ev ∈ completeItems execSub sub p i items → P ev := by
    intro items
    induction items with
    | nil => intro i ev h; cases h
    | cons it rest ih =>
      intro i ev h
      cases it with
      | none => exact ih _ ev h
      | some ty =>
        rcases mem_andThen h with h | h
        · exact hsub _ _ ev h
        · exact ih _ ev h
  intro ev h
  cases v with
  | obj ty => exact hsub _ _ ev h
  | objs l => exact items l 0 ev h
  | _ => cases h

/-- the events of one field: an escaping exception, a field error, or — the arguments having been accepted — the call and
    the completion of what the resolver returned -/
private theorem execField_mem {reg : Reg} {fuelC : Nat} {env : List (String × PV)} {tbl : ArgTable} {w : TWorld}
    {execSub : String → RPath → List SelT → List TEv} {ty : String} {path : RPath} {sel : SelT} {ev : TEv}
    (h : ev ∈ execFieldT reg fuelC env tbl w execSub ty path sel) :
    ev = .crash ∨ ev = .fieldError (path ++ [.key sel.key]) ∨
    ∃ defs kw, tbl ty sel.field = some defs ∧ coerceArgumentValues reg fuelC env sel.args defs = .ok kw ∧
      (ev = .call (path ++ [.key sel.key]) ty sel.field (dictOfAssignments kw) ∨
        ∃ v, ev ∈ completeT execSub sel.sub (path ++ [.key sel.key]) v) := by
  unfold execFieldT at h
  split at h
  · cases h
  · rename_i defs hdefs
    split at h
    · exact .inr (.inl (List.mem_singleton.1 h))
    · exact .inl (List.mem_singleton.1 h)
    · rename_i kw hkw
      split at h
      · rcases List.mem_cons.1 h with h | h
        · exact .inr (.inr ⟨defs, kw, hdefs, hkw, .inl h⟩)
        · exact .inr (.inl (List.mem_singleton.1 h))
      · rcases List.mem_cons.1 h with h | h
        · exact .inr (.inr ⟨defs, kw, hdefs, hkw, .inl h⟩)
        · exact .inr (.inr ⟨defs, kw, hdefs, hkw, .inr ⟨_, h⟩⟩)

private theorem execField_good {reg : Reg} (hreg : RegOK reg) {fuelC : Nat} {env : List (String × PV)} {tbl : ArgTable} {w : TWorld}
    {execSub : String → RPath → List SelT → List TEv} {ty : String} {path : RPath} {sel : SelT}
    (hnode : NodeOK reg tbl env sel)
    (hsub : ∀ ty p ev, ev ∈ execSub ty p sel.sub → GoodEv reg tbl ev) :
    ∀ ev, ev ∈ execFieldT reg fuelC env tbl w execSub ty path sel → GoodEv reg tbl ev := by
  intro ev h
  rcases execField_mem h with rfl | rfl | ⟨defs, kw, hdefs, hkw, rfl | ⟨v, hv⟩⟩
  · trivial
  · trivial
  · have hok := hnode ty defs hdefs
    have hc := arguments_sound hreg fuelC env sel.args defs kw hok.1 hok.2 hkw
    rw [dictOfAssignments_conforms hok.1.pyNamesDistinct hc]
    exact ⟨defs, hdefs, hc⟩
  · exact completeT_mem hsub _ v ev hv

/-- For every fuel, registry, argument table, resolver world, runtime types and nesting:
    every `call` event of the execution of a selection forest carries keyword arguments conforming to the argument
    definitions that the call's own parent object type gives to the field. -/
theorem every_call_conforms_tree {reg : Reg} (hreg : RegOK reg) (fuelC : Nat) (env : List (String × PV)) (tbl : ArgTable) (w : TWorld) :
    ∀ (fuel : Nat) (ty : String) (path : RPath) (sels : List SelT),
      (∀ sel, InTree sel sels → NodeOK reg tbl env sel) →
      ∀ ev, ev ∈ execTree reg fuelC env tbl w fuel ty path sels → GoodEv reg tbl ev := by
  intro fuel
  induction fuel with
  | zero => intro ty path sels _ ev h; simp [execTree] at h; subst h; trivial
  | succ n ih =>
    intro ty path sels hall
    simp only [execTree]
    -- the loop over the response keys
    have key : ∀ (rest : List SelT), (∀ sel, sel ∈ rest → sel ∈ sels) →
        ∀ ev, ev ∈ execSelsT reg fuelC env tbl w (execTree reg fuelC env tbl w n) ty path rest → GoodEv reg tbl ev := by
      intro rest
      induction rest with
      | nil => intro _ ev h; simp [execSelsT] at h
      | cons sel rest ihr =>
        intro hmem ev h
        simp only [execSelsT] at h
        rcases mem_andThen h with h | h
        · have hin := hmem sel List.mem_cons_self
          exact execField_good hreg (hall sel (.here hin))
            (fun ty' p' ev' hev' => ih ty' p' sel.sub (fun s hs => hall s (.deeper hin hs)) ev' hev') ev h
        · exact ihr (fun s hs => hmem s (List.mem_cons_of_mem _ hs)) ev h
    exact key sels (fun _ h => h)

/-- At any depth: if the arguments of a selection are rejected for the type it is
    being resolved on, that selection contributes exactly one field error — no call, nothing of its sub-selections — and the
    remaining selections of the same object are executed exactly as if it were not there. -/
theorem rejected_field_is_local (reg : Reg) (fuelC : Nat) (env : List (String × PV)) (tbl : ArgTable) (w : TWorld)
    (execSub : String → RPath → List SelT → List TEv) (ty : String) (path : RPath) (sel : SelT) (rest : List SelT)
    (defs : List InField) (hdefs : tbl ty sel.field = some defs)
    (hrej : coerceArgumentValues reg fuelC env sel.args defs = .error .coercion) :
    execSelsT reg fuelC env tbl w execSub ty path (sel :: rest) =
      .fieldError (path ++ [.key sel.key]) :: execSelsT reg fuelC env tbl w execSub ty path rest := by
  simp [execSelsT, execFieldT, hdefs, hrej, andThen, TEv.isCrash]

/-- … and conversely a call event for a selection means its arguments were accepted -/
theorem call_means_accepted (reg : Reg) (fuelC : Nat) (env : List (String × PV)) (tbl : ArgTable) (w : TWorld)
    (execSub : String → RPath → List SelT → List TEv) (ty : String) (path : RPath) (sel : SelT) (kw : List (String × PV))
    (h : TEv.call (path ++ [.key sel.key]) ty sel.field kw ∈ execFieldT reg fuelC env tbl w execSub ty path sel)
    (hfresh : ∀ ty' p' ev, ev ∈ execSub ty' p' sel.sub → ev ≠ TEv.call (path ++ [.key sel.key]) ty sel.field kw) :
    ∃ defs kw', tbl ty sel.field = some defs ∧ coerceArgumentValues reg fuelC env sel.args defs = .ok kw' ∧ kw = dictOfAssignments kw' := by
  rcases execField_mem h with h | h | ⟨defs, kw', hdefs, hkw, h | ⟨v, hv⟩⟩
  · cases h
  · cases h
  · cases h
    exact ⟨defs, kw', hdefs, hkw, rfl⟩
  · exact absurd rfl (completeT_mem (P := (· ≠ _)) hfresh _ v _ hv)

/-- rejected variables: nothing runs, at any depth -/
theorem no_resolver_call_on_rejected_variables_tree (reg : Reg) (fuelC fuel : Nat) (defs : List VarDef) (variables : List (String × JV))
    (tbl : ArgTable) (w : TWorld) (root : String) (sels : List SelT) (e : Err)
    (h : coerceVariableValues reg fuelC variables defs = .error e) :
    ∀ ev, ev ∈ executeTree reg fuelC fuel defs variables tbl w root sels → ∀ p t f kw, ev ≠ .call p t f kw := by
  intro ev hev p t f kw
  cases e <;> simp [executeTree, h] at hev <;> subst hev <;> simp

/-- The whole tree, with only checked hypotheses: well-formed registry, well-formed argument
    definitions on every type, well-formed variable types, and every variable usage in every node accepted by the validator
    against every definition the node can be resolved with. -/
theorem every_validated_call_conforms_tree {reg : Reg} (hreg : RegOK reg) (fuelC fuel : Nat) (defs : List VarDef)
    (variables : List (String × JV)) (tbl : ArgTable) (w : TWorld) (root : String) (sels : List SelT)
    (hwf : ∀ d, d ∈ defs → d.type.wf = true)
    (hnodes : ∀ sel, InTree sel sels → ∀ ty adefs, tbl ty sel.field = some adefs →
        ArgsOK reg adefs ∧ ∀ d, d ∈ adefs → ∀ l, lookupLast d.name sel.args = some l → VarsAllowed reg defs d.type d.default.isSome l) :
    ∀ ev, ev ∈ executeTree reg fuelC fuel defs variables tbl w root sels → GoodEv reg tbl ev := by
  intro ev h
  unfold executeTree at h
  split at h
  · rename_i env henv
    refine every_call_conforms_tree hreg fuelC env tbl w fuel root [] sels (fun sel hin ty adefs hd => ?_) ev h
    have := hnodes sel hin ty adefs hd
    exact ⟨this.1, fun d hd' l hl =>
      varsFit_of_allowed (variables_sound hreg fuelC variables defs env hwf henv) (this.2 d hd' l hl)⟩
  · simp at h; subst h; trivial
  · simp at h; subst h; trivial

end PyGql.Props.C07
