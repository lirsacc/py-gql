/-
  C06 (OverlappingFieldsCanBeMerged): the hand-written `typesConflict` (`PyGqlModel/Validate/Overlap.lean`) satisfies the
  recursion equation the translator derives on every run from `_types_conflict`
  (`Generated/TrOverlap.lean`: a step functional with the recursive call as a parameter), and is the ONLY function doing so:
  it is the translated source with the knot closed. An edit of `_types_conflict` changes the step functional and re-opens both proofs.
  Likewise `sameArguments`, `sameValue` and `pairsOf` against the translations of `_same_arguments`, `_same_value` and the
  generator `_permutations`.
-/
import PyGqlModel.Validate.Overlap
import PyGqlModel.Generated.TrOverlap
import PyGqlModel.Lemmas.TrBasics

namespace PyGql.Props.C06
open PyGql PyGql.Validate PyGql.Generated

/-- `isinstance(t, GraphQLLeafType)` in the by-name model: a named scalar or enum -/
def isLeafType (s : SchemaD) : Ty → Bool
  | .named n => isLeaf s n
  | _ => false

private theorem named_bne (a b : String) : (Ty.named a != Ty.named b) = (a != b) := by
  by_cases h : a = b
  · subst h; simp
  · have h1 : (Ty.named a == Ty.named b) = false := by
      apply beq_eq_false_iff_ne.mpr; intro hh; exact h (Ty.named.inj hh)
    have h2 : (a == b) = false := beq_eq_false_iff_ne.mpr h
    simp [bne, h1, h2]

/-- **`_types_conflict`: model = source** (the model is a fixed point of the translated step) -/
theorem types_conflict_model_eq_source (s : SchemaD) (a b : Ty) :
    typesConflict s a b = Tr._types_conflict_step (isLeafType s) (typesConflict s) a b := by
  cases a with
  | named x =>
    cases b with
    | named y =>
      simp only [typesConflict, Tr._types_conflict_step, isLeafType, Ty.isWrapping, Ty.isList, Ty.isNonNull, named_bne,
        Bool.or_self, Bool.false_eq_true, ↓reduceIte]
    | _ => rfl
  | _ => cases b <;> rfl

/-- … and the fixed point is unique: any function satisfying the source's recursion equation is the model -/
theorem types_conflict_source_unique (s : SchemaD) (f : Ty → Ty → Bool)
    (hf : ∀ a b, f a b = Tr._types_conflict_step (isLeafType s) f a b) : ∀ a b, f a b = typesConflict s a b
  | .named a, .named b => by
    rw [hf]; simp [typesConflict, Tr._types_conflict_step, isLeafType, Ty.isWrapping, Ty.isList, Ty.isNonNull, named_bne]
  | .list a, .list b => by
    rw [hf]; simp [typesConflict, Tr._types_conflict_step, Ty.isWrapping, Ty.isList, Ty.sameCtor, Ty.inner,
      types_conflict_source_unique s f hf a b]
  | .nonNull a, .nonNull b => by
    rw [hf]; simp [typesConflict, Tr._types_conflict_step, Ty.isWrapping, Ty.isList, Ty.isNonNull, Ty.sameCtor, Ty.inner,
      types_conflict_source_unique s f hf a b]
  | .named a, .list b => by rw [hf]; simp [typesConflict, Tr._types_conflict_step, Ty.isWrapping, Ty.isList, Ty.sameCtor]
  | .named a, .nonNull b => by rw [hf]; simp [typesConflict, Tr._types_conflict_step, Ty.isWrapping, Ty.isList, Ty.isNonNull, Ty.sameCtor]
  | .list a, .named b => by rw [hf]; simp [typesConflict, Tr._types_conflict_step, Ty.isWrapping, Ty.isList, Ty.sameCtor]
  | .list a, .nonNull b => by rw [hf]; simp [typesConflict, Tr._types_conflict_step, Ty.isWrapping, Ty.isList, Ty.sameCtor]
  | .nonNull a, .named b => by rw [hf]; simp [typesConflict, Tr._types_conflict_step, Ty.isWrapping, Ty.isList, Ty.isNonNull, Ty.sameCtor]
  | .nonNull a, .list b => by rw [hf]; simp [typesConflict, Tr._types_conflict_step, Ty.isWrapping, Ty.isList, Ty.isNonNull, Ty.sameCtor]

private theorem insertBy_eq (a : Arg) : ∀ l : List Arg,
    Py.insertBy (fun x y : String => decide (x < y)) Arg.name a l = insertArg a l
  | [] => rfl
  | b :: bs => by simp only [Py.insertBy, insertArg, insertBy_eq a bs, decide_eq_true_eq]

private theorem sortedBy_eq (l : List Arg) :
    Py.sortedBy (fun x y : String => decide (x < y)) (fun a => Arg.name a) l = sortArgs l := by
  unfold Py.sortedBy sortArgs
  congr 1
  funext acc a
  exact insertBy_eq a acc

private theorem sameArgsZip_eq : ∀ xs ys : List Arg,
    sameArgsZip xs ys = some ((List.zip xs ys).all (fun (a1, a2) => a1.name == a2.name && sameValue a1.value a2.value))
  | [], _ => by simp [sameArgsZip]
  | _ :: _, [] => by simp [sameArgsZip]
  | x :: xs, y :: ys => by
    rw [sameArgsZip, sameArgsZip_eq xs ys]
    by_cases hn : x.name = y.name <;> cases hv : sameValue x.value y.value <;> simp [hn, hv]

/-- **`_same_arguments`: model = source** (`a.name.value` / `a.value` read as the model's fields, `_same_value` as `sameValue`,
    `<` on names as Lean's `String` order — both compare code point by code point). The source never raises. -/
theorem same_arguments_model_eq_source (a b : List Arg) :
    Tr._same_arguments (fun x y : String => decide (x < y)) Arg.name Arg.value sameValue a b
      = .ok ((sameArguments a b).getD false)
    ∧ (sameArguments a b).isSome = true := by
  unfold Tr._same_arguments sameArguments
  by_cases hl : a.length = b.length
  · simp [Py.len, hl, sortedBy_eq, sameArgsZip_eq]
  · have h1 : (Py.len a != Py.len b) = true := by
      rw [bne_iff_ne]; unfold Py.len; intro h; exact hl (Int.ofNat.inj h)
    have h2 : (a.length != b.length) = true := by simp [hl]
    simp [h1, h2]

/-- `type(v)` of a literal in the model: the constructor -/
def classOf : Value → Nat
  | .var _ => 0 | .int _ => 1 | .float _ => 2 | .str _ => 3 | .bool _ => 4 | .null => 5 | .enum _ => 6 | .list _ => 7 | .obj _ => 8

/-- `v.value` of the literals that have one (what `==` compares: the lexeme / text / boolean) -/
def valueOf : Value → String
  | .int a => a | .float a => a | .str a => a | .enum a => a | .bool b => if b then "True" else "False"
  | _ => ""

/-- **`_same_value`: model = source.** `print_ast(a) == print_ast(b)` on lists, objects, null and variables is read as the
    model's own structural comparison (the printed form of a literal determines it and is determined by it: C03). -/
theorem same_value_model_eq_source (a b : Value) :
    @Tr._same_value Value Nat Value String _ ⟨sameValue⟩ _ classOf
        (fun v => match v with | .list _ => true | _ => false) (fun v => match v with | .obj _ => true | _ => false)
        (fun v => match v with | .null => true | _ => false) (fun v => match v with | .var _ => true | _ => false)
        id valueOf a b
      = .ok (sameValue a b) := by
  cases a with
  | bool x =>
    cases b with
    | bool y => cases x <;> cases y <;> rfl
    | _ => rfl
  | _ => cases b <;> rfl

private theorem perm_inner {T} (lst : List T) (i : Int) (x : T) : ∀ (ys : List T) (acc : List (T × T)),
    Tr._permutations.loop2 lst i x ys acc = .fall (acc ++ ys.map (fun y => (x, y)))
  | [], acc => by simp [Tr._permutations.loop2]
  | y :: ys, acc => by
    rw [Tr._permutations.loop2]
    show Tr._permutations.loop2 lst i x ys (acc ++ [(x, y)]) = _
    rw [perm_inner lst i x ys]; simp

private theorem perm_outer {T} : ∀ (rest pre : List T) (acc : List (T × T)),
    Tr._permutations.loop1 (pre ++ rest) (Py.enumerateFrom (pre.length : Int) rest) acc = .fall (acc ++ pairsOf rest)
  | [], pre, acc => by simp [Py.enumerateFrom, Tr._permutations.loop1, pairsOf]
  | x :: rest, pre, acc => by
    rw [Py.enumerateFrom, Tr._permutations.loop1, Py.sliceFrom_suffix, perm_inner]
    simp only []
    have ih := perm_outer rest (pre ++ [x]) (acc ++ rest.map (fun y => (x, y)))
    have e1 : pre ++ [x] ++ rest = pre ++ x :: rest := by simp
    rw [e1, Py.snoc_len] at ih
    rw [ih, pairsOf]; simp

/-- **`_permutations`: model = source** (the generator run to its end yields exactly `pairsOf`, in that order) -/
theorem permutations_model_eq_source {T} (lst : List T) : Tr._permutations lst = .ok (pairsOf lst) := by
  unfold Tr._permutations
  have := perm_outer lst [] []
  simp only [List.nil_append, List.length_nil, Int.natCast_zero] at this
  simp only [Py.enumerate, this]

end PyGql.Props.C06
