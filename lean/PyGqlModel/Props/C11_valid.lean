/-
  C11 — `build_exact` from the SPECIFICATION's predicate.

  `build_exact_final` (Props/C11_cycles.lean) takes `SdlOK`, which mixes rules of the specification with conditions on
  what the builder computes (`noEagerCycle` is a bounded search of the model, `membersUnique` speaks of built types).
  Here the premises are split into
    * `SdlRules doc d` — `SdlValid doc` of Spec/SdlSpec.lean + the rules of the specification it does not list:
      KIND rules of references (`KindRules`: an object implements interfaces, a union has object members, an argument
      has an input type — `Schema.validate`, C13), root operation rules, no redefinition of a specified directive;
    * the RESIDUE, i.e. what the code needs beyond the specification: `BaseDefaults`, `SelfDefaults` (finding S8) and
      `hasThunkCycle = false` (finding S1b).
  `noEagerCycle` is DERIVED from the kind rules (`noEagerCycle_of_kinds`), `membersUnique` from
  `SdlValid.mergedMembersUnique`.  Each residue premise is NECESSARY: a document satisfying `SdlRules` and the other two
  that does not build its declared content (`residue_necessary`).

  WHICH EXACTNESS THEOREM TO CITE.  `build_exact_spec` (here) is the one with the weakest premises; every other
  `build_exact_*` is a step towards it, a variant of its conclusion, or a variant of its premises:
    steps, each derived from the one before by DERIVING a premise (the predicates differ in what they still assume):
      `build_exact_noext` (`ValidNoExt`: no extension blocks; Props/C11_exact) and
      `build_exact_partial` (`ValidExt doc d bts`: takes the built definitions `bts` and `baseBuilds`, `noEagerCycleBase`,
        `rootsOk` about them; Props/C11_merge)
      → `build_exact_of_baseDefaults` (`ValidDoc`: `baseBuilds` from `BaseDefaults`; Props/C11_nos8, `validExt_of_validDoc`)
      → `build_exact_final` (`SdlOK`: `noEagerCycleBase`, `rootsOk` derived; Props/C11_cycles, `validDoc_of_sdlOK`)
      → `build_exact_spec` (`SdlRules` + `Residue`: `noEagerCycle`, `membersUnique` derived; `sdlOK_of_rules`);
    premises: `build_exact_valid` (Props/C11_c13) takes C13's `ValidSchema` in place of `KindRules`;
      `build_exact_acyclic_inputs`, `build_exact_defaults_off_cycles` (Props/C11_hide) reduce `Residue` to `BaseDefaults` for
      documents whose defaulted input fields sit off the cycles of input objects; `SdlValid` itself is equivalent to named
      rules without the builders (`sdlValid_iff_rules`, `declares_iff_rules`: `SdlValidRules`, `DeclaresRules`, Props/C11_rules);
    conclusion: `build_exact_final_spec`, `build_exact_spec_independent` (Props/C11_declared) add `DeclaredSpec doc d`, the
      declared content as relations (`declaredSpec_iff`);
    other calls: `build_exact_ignoreExtensions` (Props/C11_flags: `ignore_extensions=True`), `build_exact_additional_noext`
      (`ValidWith`, about `buildA`: supplied types, documents without extension blocks; Props/C11_additional).
  The statements without the residue are false: `build_exact_refuted` (`BuildExactStatement`, finding S8),
  `build_exact_additional_refuted`.  Order of definitions: `build_perm_spec` (here) in the same way above `build_perm_final` /
  `build_perm_sameContent` (`SdlOK` of ONE document; Props/C11_perm), `build_perm` (`ValidExt` of both; Props/C11_merge),
  `build_perm_noext`; `ext_order_matters` shows the per-target extension order necessary.  Neither `…_final` is the last.
-/
import PyGqlModel.Props.C11_perm
import PyGqlModel.Props.C11_rejects


namespace PyGql.Props.C11
open PyGql PyGql.Sdl PyGql.SdlSpec

def kindAt (types : List TypeD) (n : String) : Option Kind := (types.find? (·.name == n)).map (·.kind)

/-- object, interface or union: not an input type -/
def compositeOut : Option Kind → Bool
  | some .object | some .interface | some .union => true
  | _ => false

/-- the kind rules of the specification for the references the builder resolves EAGERLY (3.6 Objects: "an object type
    may declare that it implements one or more unique interfaces"; 3.8 Unions: "the member types of a union type must
    all be object base types"; 3.6/3.7: "the argument must accept a type where IsInputType(argumentType)") -/
structure KindRules (types : List TypeD) : Prop where
  /-- (`none`: a name outside the list — a specified scalar or an introspection type, which refers to nothing in it) -/
  interfaces : ∀ t ∈ types, t.kind = .object → ∀ i ∈ t.interfaces, kindAt types i = some .interface ∨ kindAt types i = none
  members : ∀ t ∈ types, t.kind = .union → ∀ m ∈ t.members, kindAt types m = some .object ∨ kindAt types m = none
  args : ∀ t ∈ types, (t.kind = .object ∨ t.kind = .interface) → ∀ f ∈ t.fields, ∀ a ∈ f.args,
    compositeOut (kindAt types a.type.base) = false

def rank : Kind → Nat
  | .union => 3 | .object => 2 | .interface => 1 | _ => 0

def rk (types : List TypeD) (n : String) : Nat := match kindAt types n with | some k => rank k | none => 0

private theorem rk_input (types : List TypeD) (n : String) (h : compositeOut (kindAt types n) = false) : rk types n = 0 := by
  unfold rk
  cases hk : kindAt types n with
  | none => rfl
  | some k => rw [hk] at h; cases k <;> simp_all [compositeOut, rank]

private theorem args_rank (types : List TypeD) (K : KindRules types) (t : TypeD) (ht : t ∈ types)
    (hk : t.kind = .object ∨ t.kind = .interface) (m : String)
    (h : m ∈ t.fields.flatMap fun f => f.args.map (·.type.base)) : rk types m = 0 := by
  obtain ⟨f, hf, ha⟩ := List.mem_flatMap.mp h
  obtain ⟨a, haa, rfl⟩ := List.mem_map.mp ha
  exact rk_input types _ (K.args t ht hk f hf a haa)

/-- an eager reference goes strictly DOWN in union > object > interface > input/leaf -/
theorem eager_step (types : List TypeD) (K : KindRules types) (t : TypeD) (ht : t ∈ types) (m : String)
    (hm : m ∈ eagerRefs t) : rk types m < rank t.kind := by
  unfold eagerRefs at hm
  cases hk : t.kind <;> simp only [hk] at hm
  · simp at hm
  · rcases List.mem_append.mp hm with h | h
    · rcases K.interfaces t ht hk m h with h' | h' <;> simp [rk, h', rank]
    · rw [args_rank types K t ht (Or.inl hk) m h]; simp [rank]
  · rw [args_rank types K t ht (Or.inr hk) m hm]; simp [rank]
  · rcases K.members t ht hk m hm with h' | h' <;> simp [rk, h', rank]
  · simp at hm
  · simp at hm

theorem reach_rank (types : List TypeD) (K : KindRules types) (target : String) :
    ∀ fuel n, eagerReach types target fuel n = true → rk types target < rk types n := by
  intro fuel
  induction fuel with
  | zero => intro n h; simp [eagerReach] at h
  | succ k ih =>
    intro n h
    simp only [eagerReach] at h
    cases hf : types.find? (·.name == n) with
    | none => rw [hf] at h; simp at h
    | some t =>
      rw [hf] at h
      simp only [List.any_eq_true, Bool.or_eq_true, beq_iff_eq] at h
      obtain ⟨m, hm, h⟩ := h
      have ht := List.mem_of_find?_eq_some hf
      have hn : rk types n = rank t.kind := by simp [rk, kindAt, hf]
      have hs := eager_step types K t ht m hm
      rcases h with h | h
      · subst h; omega
      · have := ih m h; omega

/-- **`noEagerCycle` is derived from the kind rules**: in a schema whose references respect the kind rules of the
    specification, no type is reachable from itself through interfaces, union members and argument types — the
    circular-reference guard of `build_type` / `extend_type` never fires on such a document. -/
theorem noEagerCycle_of_kinds (types : List TypeD) (K : KindRules types) : hasEagerCycle types = false := by
  cases h : hasEagerCycle types with
  | false => rfl
  | true =>
    unfold hasEagerCycle at h
    obtain ⟨t, _, ht⟩ := List.any_eq_true.mp h
    have := reach_rank types K t.name _ _ ht
    omega

/-- the kind rules are NECESSARY for that: `union U = U` (members rule broken) has an eager cycle and the builder
    refuses it — with an SDL error, as the property demands for an invalid document -/
def selfUnion : Doc := [.type { kind := .union, name := "U", members := ["U"] }, .type exQuery]
theorem selfUnion_rejected : (match build selfUnion with | .error (.lib .sdl) => true | _ => false) = true := by decide +kernel

theorem buildTypeDef_memberNames (env : Env) (d : TypeDef) (r : TypeD) (h : buildTypeDef env d = .ok r) :
    (r.fields.map (·.name) = d.fields.map (·.name) ∨ r.fields = []) ∧
    (r.inputFields.map (·.name) = d.inputFields.map (·.name) ∨ r.inputFields = []) ∧
    (r.values.map (·.name) = d.values.map (·.name) ∨ r.values = []) ∧
    (r.members = d.members ∨ r.members = []) ∧ (r.interfaces = d.interfaces ∨ r.interfaces = []) := by
  rw [← buildTypeDefX_none env env fun _ => rfl] at h
  have hs := skel_of_buildX env env none d r h
  obtain ⟨_, _, hf, hi, hm, hv, hx, _⟩ := buildTypeDefX_lists env env none d r h
  -- per list: the kind has it (skeleton), or it is empty
  refine ⟨?_, ?_, ?_, ?_, ?_⟩
  · exact (Decidable.em _).imp hs.fields fun hk => (if_neg hk).mp hf
  · exact (Decidable.em _).imp hs.inputFields fun hk => (if_neg hk).mp hx
  · exact (Decidable.em _).imp hs.values fun hk => (if_neg hk).mp hv
  · exact (Decidable.em _).imp hs.members fun hk => (if_neg hk).mp hm
  · exact (Decidable.em _).imp hs.interfaces fun hk => (if_neg hk).mp hi

theorem all₂_mem_right {α β} (P : α → β → Prop) : ∀ (l : List α) (rs : List β), All₂ P l rs → ∀ r ∈ rs, ∃ x ∈ l, P x r := by
  intro l rs h
  induction h with
  | nil => intro x hx; simp at hx
  | @cons a b as bs p _ ih =>
    intro x hx
    rcases List.mem_cons.mp hx with rfl | hmem
    · exact ⟨a, by simp, p⟩
    · obtain ⟨r, hr, hp⟩ := ih x hmem
      exact ⟨r, by simp [hr], hp⟩

private theorem nodup_of_or {α} {a b : List α} (h : a = b ∨ a = []) (hb : b.Nodup) : a.Nodup :=
  h.elim (fun e => e ▸ hb) (fun e => e ▸ List.nodup_nil)

/-- `SdlValid.mergedMembersUnique` (a rule about the DOCUMENT) gives `SdlOK.membersUnique` (about the built types) -/
theorem membersUnique_of_merged (doc : Doc) (d : SchemaD) (hdecl : Declared doc = some d)
    (hu : ∀ t ∈ merged doc, (t.fields.map (·.name)).Nodup ∧ (t.inputFields.map (·.name)).Nodup
      ∧ (t.values.map (·.name)).Nodup ∧ t.members.Nodup ∧ t.interfaces.Nodup) :
    ∀ r ∈ d.types, (r.fields.map (·.name)).Nodup ∧ (r.inputFields.map (·.name)).Nodup ∧ (r.values.map (·.name)).Nodup ∧
      r.members.Nodup ∧ r.interfaces.Nodup := by
  obtain ⟨hts, _, _⟩ := declared_parts doc d hdecl
  intro r hr
  obtain ⟨t, ht, hb⟩ := all₂_mem_right _ _ _ (mapM_forall₂ _ _ _ hts) r hr
  obtain ⟨h1, h2, h3, h4, h5⟩ := buildTypeDef_memberNames _ t r hb
  obtain ⟨u1, u2, u3, u4, u5⟩ := hu t ht
  have nil {α β} (f : α → β) {l : List α} (e : l = []) : l.map f = [] := e ▸ rfl
  exact ⟨nodup_of_or (h1.imp_right (nil _)) u1, nodup_of_or (h2.imp_right (nil _)) u2, nodup_of_or (h3.imp_right (nil _)) u3,
    nodup_of_or h4 u4, nodup_of_or h5 u5⟩

/-- the type-system rules of the specification that concern what the builder computes: `SdlValid` of Spec/SdlSpec.lean
    + kind rules of eager references + root operation rules + specified directives are not redefined.  `schemaOps` asks
    `Env.resolves` ("the name is specified or defined": `resolves_iff`) and `extOpsNew` the roots `baseRoots` the document
    declares before its `extend schema` blocks; two fields mention the builders of the
    model: `valid.declares` and `declares` (through `Declared`, which is computed with the member builders).  Both are
    equivalent to statements without them: `declares_iff_rules` (named rules of Spec/SdlRules.lean, Props/C11_rules.lean)
    and `declaredSpec_iff` (`Declared doc = some d ↔ DeclaredSpec doc d`, the relational specification of
    Spec/SdlDeclared.lean, Props/C11_declared.lean). -/
structure SdlRules (doc : Doc) (d : SchemaD) : Prop where
  valid : SdlValid doc
  declares : Declared doc = some d
  kinds : KindRules d.types
  noSpecified : d.directives.any (fun x => specifiedDirectives.contains x.name) = false
  schemaOps : ∀ sd, (schemaDefs doc).head? = some sd →
      (sd.ops.map (·.1)).Nodup ∧ ∀ o ∈ sd.ops, (Env.of (typeDefs doc)).resolves o.2 = true
  extOps : ((schemaExtensions doc).flatMap (·.ops)).map (·.1) |>.Nodup
  extOpsNew : ∀ o ∈ (schemaExtensions doc).flatMap (·.ops),
      (baseRoots doc d.types).get o.1 = none ∧ (isDefaultName o.2 || d.types.any (·.name == o.2)) = true

/-- the RESIDUE: what the code needs beyond the rules (findings S8 and S1b) -/
structure Residue (doc : Doc) : Prop where
  baseDefaults : BaseDefaults doc
  selfDefaults : SelfDefaults doc
  noThunkCycle : hasThunkCycle (Env.of (typeDefs doc)) (typeDefs doc) = false

theorem sdlOK_of_rules (doc : Doc) (d : SchemaD) (r : SdlRules doc d) (x : Residue doc) : SdlOK doc d :=
  { uniqueTypes := r.valid.uniqueTypes, uniqueDirectives := r.valid.uniqueDirectives, oneSchema := r.valid.oneSchema,
    noBuiltinNames := r.valid.noBuiltinNames, extTargets := r.valid.extTargets, declares := r.declares,
    baseDefaults := x.baseDefaults, selfDefaults := x.selfDefaults,
    membersUnique := membersUnique_of_merged doc d r.declares r.valid.mergedMembersUnique,
    noThunkCycle := x.noThunkCycle, noEagerCycle := noEagerCycle_of_kinds d.types r.kinds, noSpecified := r.noSpecified,
    schemaOps := r.schemaOps, extOps := r.extOps, extOpsNew := r.extOpsNew }

/-- **build_exact from the specification's rules**: a document that satisfies the type-system rules (`SdlRules`: see there
    for the fields that go through functions of the model and their model-free equivalents) and the residue of findings
    S8 / S1b builds, and the schema is exactly its declared content.
    `BuildExactStatement` with the premises it lacks made explicit. -/
theorem build_exact_spec (doc : Doc) (d : SchemaD) (r : SdlRules doc d) (x : Residue doc) :
    ∃ s d', build doc = .ok s ∧ Declared doc = some d' ∧ SameContent s d' :=
  ⟨d, d, build_exact_final doc d (sdlOK_of_rules doc d r x), r.declares, rfl, rfl, rfl, fun _ => Iff.rfl, fun _ => Iff.rfl⟩

/-- … and it is independent of the order of the definitions (`BuildPermStatement`, per-target extension order) -/
theorem build_perm_spec (doc₁ doc₂ : Doc) (d₁ : SchemaD) (r : SdlRules doc₁ d₁) (x : Residue doc₁) (hp : doc₁.Perm doc₂)
    (hx : SameExtOrder doc₁ doc₂) (hsx : schemaExtensions doc₁ = schemaExtensions doc₂) :
    ∃ s₁ s₂, build doc₁ = .ok s₁ ∧ build doc₂ = .ok s₂ ∧ SameContent s₁ s₂ :=
  build_perm_sameContent doc₁ doc₂ d₁ (sdlOK_of_rules doc₁ d₁ r x) hp hx hsx

/-! ### non-vacuity: `extDoc` (extensions of two kinds, `extend schema`) satisfies the rules and the residue -/

theorem extDoc_rules : SdlRules extDoc ((Declared extDoc).get extDeclares) :=
  have ⟨k1, k2, k3, valid⟩ : _ ∧ _ ∧ _ ∧ _ := by decide +kernel
  { valid, declares := extDoc_ok.declares, kinds := ⟨k1, k2, k3⟩, noSpecified := extDoc_ok.noSpecified,
    schemaOps := extDoc_ok.schemaOps, extOps := extDoc_ok.extOps, extOpsNew := extDoc_ok.extOpsNew }

theorem extDoc_residue : Residue extDoc :=
  { baseDefaults := extDoc_ok.baseDefaults, selfDefaults := extDoc_ok.selfDefaults, noThunkCycle := extDoc_ok.noThunkCycle }

example : ∃ s d', build extDoc = .ok s ∧ Declared extDoc = some d' ∧ SameContent s d' :=
  build_exact_spec _ _ extDoc_rules extDoc_residue

private theorem ok_of_toBool {α} (x : R α) (h : x.toBool = true) : ∃ v, x = .ok v := by
  cases x with
  | ok v => exact ⟨v, rfl⟩
  | error e => simp [Except.toBool] at h

/-- `BaseDefaults` in decidable form -/
def baseDefaultsB (doc : Doc) : Bool :=
  (typeDefs doc).all (fun t => (inputValsOf t).all fun a =>
    match a.default with | some l => (defaultValue (Env.of (typeDefs doc)) l a.type).toBool | none => true) &&
  (dirDefs doc).all (fun d => d.args.all fun a =>
    match a.default with | some l => (defaultValue (Env.of (typeDefs doc)) l a.type).toBool | none => true)

theorem baseDefaults_of_B (doc : Doc) (h : baseDefaultsB doc = true) : BaseDefaults doc := by
  simp only [baseDefaultsB, Bool.and_eq_true, List.all_eq_true] at h
  refine ⟨?_, ?_⟩
  · intro t ht a ha l hl
    have := h.1 t ht a ha
    rw [hl] at this
    exact ok_of_toBool _ this
  · intro d hd a ha l hl
    have := h.2 d hd a ha
    rw [hl] at this
    exact ok_of_toBool _ this

theorem extended_nil (env : Env) : env.extended [] = env := by
  cases env with
  | mk fd fa =>
    simp only [Env.extended, Env.mk.injEq, and_true]
    funext n
    cases fd n <;> rfl

theorem buildArgumentX_same (e : Env) (h₁ h₂ : Option String) (a : InputValDef) : buildArgumentX e e h₁ a = buildArgumentX e e h₂ a := by
  rw [buildArgumentX_self, buildArgumentX_self]

theorem selfDefaults_of_noext (doc : Doc) (h : typeExts doc = []) : SelfDefaults doc := by
  intro t ht
  rw [h, extended_nil, buildTypeDefX_self, buildTypeDefX_self]

/-! What is evaluated on each of the three witness documents is evaluated once: that it declares a content, that the
content meets the rules, and what `residue_necessary` needs of it besides. -/

private theorem s8_facts : ∃ hs : (Declared s8Doc).isSome = true, SdlRules s8Doc ((Declared s8Doc).get hs) ∧
    hasThunkCycle (Env.of (typeDefs s8Doc)) (typeDefs s8Doc) = false ∧ (build s8Doc).toBool = false :=
  have h : ∃ hs : (Declared s8Doc).isSome = true, (_ ∧ _ ∧ _ ∧ _ ∧ _ ∧ _ ∧ _) ∧
      hasThunkCycle (Env.of (typeDefs s8Doc)) (typeDefs s8Doc) = false ∧ (build s8Doc).toBool = false := by decide +kernel
  h.elim fun hs ⟨⟨k1, k2, k3, noSpecified, extOpsNew, schemaOps, extOps⟩, rest⟩ =>
    ⟨hs, { valid := s8_valid, declares := by simp, kinds := ⟨k1, k2, k3⟩, noSpecified, schemaOps, extOps, extOpsNew }, rest⟩

private theorem s1b_facts : ∃ hs : (Declared s1bDoc).isSome = true, SdlRules s1bDoc ((Declared s1bDoc).get hs) ∧
    baseDefaultsB s1bDoc = true ∧ typeExts s1bDoc = [] ∧ (build s1bDoc).toBool = false :=
  have h : ∃ hs : (Declared s1bDoc).isSome = true, (_ ∧ _ ∧ _ ∧ _ ∧ _ ∧ _ ∧ _ ∧ _) ∧
      baseDefaultsB s1bDoc = true ∧ typeExts s1bDoc = [] ∧ (build s1bDoc).toBool = false := by decide +kernel
  h.elim fun hs ⟨⟨k1, k2, k3, noSpecified, extOpsNew, valid, schemaOps, extOps⟩, rest⟩ =>
    ⟨hs, { valid, declares := by simp, kinds := ⟨k1, k2, k3⟩, noSpecified, schemaOps, extOps, extOpsNew }, rest⟩

private theorem s8Self_facts : ∃ hs : (Declared s8SelfDoc).isSome = true, SdlRules s8SelfDoc ((Declared s8SelfDoc).get hs) ∧
    baseDefaultsB s8SelfDoc = true ∧ hasThunkCycle (Env.of (typeDefs s8SelfDoc)) (typeDefs s8SelfDoc) = false :=
  have h : ∃ hs : (Declared s8SelfDoc).isSome = true, (_ ∧ _ ∧ _ ∧ _ ∧ _ ∧ _ ∧ _ ∧ _) ∧
      baseDefaultsB s8SelfDoc = true ∧ hasThunkCycle (Env.of (typeDefs s8SelfDoc)) (typeDefs s8SelfDoc) = false := by decide +kernel
  h.elim fun hs ⟨⟨k1, k2, k3, noSpecified, extOpsNew, valid, schemaOps, extOps⟩, rest⟩ =>
    ⟨hs, { valid, declares := by simp, kinds := ⟨k1, k2, k3⟩, noSpecified, schemaOps, extOps, extOpsNew }, rest⟩

theorem s8Declares : (Declared s8Doc).isSome = true := s8_facts.elim fun h _ => h
theorem s1bDeclares : (Declared s1bDoc).isSome = true := s1b_facts.elim fun h _ => h
theorem s8SelfDeclares : (Declared s8SelfDoc).isSome = true := s8Self_facts.elim fun h _ => h

/-- finding S8 (`f(a: E = B)`, `enum E { A }`, `extend enum E { B }`): every rule, `SelfDefaults`, no thunk cycle -/
theorem s8_rules : SdlRules s8Doc ((Declared s8Doc).get s8Declares) := s8_facts.elim fun _ h => h.1

theorem s8_selfDefaults : SelfDefaults s8Doc := by
  intro t ht
  have hk : t.kind ≠ .input := by revert t; decide +kernel
  exact selfDefaults_of_kind _ _ t _ hk

/-- finding S1b (`input A { a: A = {a: null} }`): every rule, `BaseDefaults`, `SelfDefaults` (no extension at all) -/
theorem s1b_rules : SdlRules s1bDoc ((Declared s1bDoc).get s1bDeclares) := s1b_facts.elim fun _ h => h.1

/-- the self-typed default written in an extension of its own input type: every rule, `BaseDefaults`, no thunk cycle -/
theorem s8Self_rules : SdlRules s8SelfDoc ((Declared s8SelfDoc).get s8SelfDeclares) := s8Self_facts.elim fun _ h => h.1

/-- **The residue is necessary, premise by premise**: for each of `BaseDefaults`, `SelfDefaults`, `noThunkCycle` there
    is a document that satisfies every rule of the specification (`SdlRules`) AND the two other premises, declares a
    schema, and is NOT built (S8: SDL error, twice; S1b: stack overflow).  So `build_exact_spec` cannot lose a premise
    as long as findings S8 / S1b stand. -/
theorem residue_necessary :
    -- BaseDefaults
    (∃ doc d, SdlRules doc d ∧ SelfDefaults doc ∧ hasThunkCycle (Env.of (typeDefs doc)) (typeDefs doc) = false ∧ (build doc).toBool = false) ∧
    -- SelfDefaults
    (∃ doc d, SdlRules doc d ∧ BaseDefaults doc ∧ hasThunkCycle (Env.of (typeDefs doc)) (typeDefs doc) = false ∧ (build doc).toBool = false) ∧
    -- noThunkCycle
    (∃ doc d, SdlRules doc d ∧ BaseDefaults doc ∧ SelfDefaults doc ∧ (build doc).toBool = false) :=
  have hSelf : (build s8SelfDoc).toBool = false := by
    have := s8_self_default_refused.1
    revert this
    cases build s8SelfDoc with
    | ok s => simp
    | error e => simp [Except.toBool]
  s8_facts.elim fun _ ⟨rules8, rest8⟩ => s8Self_facts.elim fun _ ⟨rulesS, baseS, noCycleS⟩ =>
    s1b_facts.elim fun _ ⟨rules1, base1, noExt1, refused1⟩ =>
    ⟨⟨s8Doc, _, rules8, s8_selfDefaults, rest8⟩,
     ⟨s8SelfDoc, _, rulesS, baseDefaults_of_B _ baseS, noCycleS, hSelf⟩,
     ⟨s1bDoc, _, rules1, baseDefaults_of_B _ base1, selfDefaults_of_noext _ noExt1, refused1⟩⟩

end PyGql.Props.C11
