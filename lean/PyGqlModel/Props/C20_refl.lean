/-
  C20 — `diff_refl`: diffing a schema against a structurally equal one reports nothing.
-/
import PyGqlModel.Props.C20_edits

set_option linter.unusedSimpArgs false

namespace PyGql.Props.C20
open PyGql PyGql.Differ PyGql.Diff PyGql.Generated.Differ

/-- names are unique at every level of a schema description -/
structure UniqSchema (s : SchemaD) : Prop where
  types : Uniq TypeD.name s.types
  directives : Uniq DirectiveD.name s.directives
  dargs : ∀ d ∈ s.directives, Uniq ArgD.name d.args
  fields : ∀ t ∈ s.types, Uniq FieldD.name t.fields
  args : ∀ t ∈ s.types, ∀ f ∈ t.fields, Uniq ArgD.name f.args
  values : ∀ t ∈ s.types, Uniq EnumValD.name t.values
  inputs : ∀ t ∈ s.types, Uniq ArgD.name t.inputFields

/-- pairwise distinct names at every level, in the form that can be evaluated on a concrete schema description -/
theorem UniqSchema.of_nodup {s : SchemaD}
    (h : (s.types.map TypeD.name).Nodup ∧ (s.directives.map DirectiveD.name).Nodup
      ∧ (∀ d ∈ s.directives, (d.args.map ArgD.name).Nodup) ∧ (∀ t ∈ s.types, (t.fields.map FieldD.name).Nodup)
      ∧ (∀ t ∈ s.types, ∀ f ∈ t.fields, (f.args.map ArgD.name).Nodup)
      ∧ (∀ t ∈ s.types, (t.values.map EnumValD.name).Nodup) ∧ (∀ t ∈ s.types, (t.inputFields.map ArgD.name).Nodup)) :
    UniqSchema s :=
  ⟨ListEqv.nodup_uniq h.1, ListEqv.nodup_uniq h.2.1, fun d hd => ListEqv.nodup_uniq (h.2.2.1 d hd),
   fun t ht => ListEqv.nodup_uniq (h.2.2.2.1 t ht), fun t ht f hf => ListEqv.nodup_uniq (h.2.2.2.2.1 t ht f hf),
   fun t ht => ListEqv.nodup_uniq (h.2.2.2.2.2.1 t ht), fun t ht => ListEqv.nodup_uniq (h.2.2.2.2.2.2 t ht)⟩

private theorem map_filter_nil {α β} (l : List α) (p : α → Bool) (g : α → β) (h : ∀ x ∈ l, p x = false) :
    (l.filter p).map g = [] := by
  rw [List.filter_eq_nil_iff.mpr fun x hx => by simp [h x hx]]
  rfl

private theorem find_isSome_of_uniq {α} (name : α → String) (l : List α) (h : Uniq name l) (x : α) (hx : x ∈ l) :
    (l.find? (fun y => name y == name x)).isNone = false := by
  rw [h x hx]; rfl

private theorem defaultChanged_self (a : ArgD) : defaultChanged a a = false := by
  unfold defaultChanged
  cases a.hasDefault <;> simp

theorem compatRetype_self (cls : String) (k : List (String × String)) (t : Ty) : compatRetype cls k t t = [] := by
  unfold compatRetype
  split <;> simp

private theorem compatRetypes_self (cls : String) (key : ArgD → ArgD → List (String × String)) (l : List ArgD)
    (h : Uniq ArgD.name l) : compatRetypes cls key l l = [] := by
  unfold compatRetypes
  apply List.flatMap_eq_nil_iff.mpr
  intro a ha
  rw [h a ha]
  simp [compatRetype_self]

private theorem diffArgs_self (removed changed dflt added : String) (kOld kNew : ArgD → List (String × String))
    (kPair : ArgD → ArgD → List (String × String)) (l : List ArgD) (h : Uniq ArgD.name l) :
    diffArgs removed changed dflt added kOld kNew kPair l l = [] := by
  unfold diffArgs
  rw [List.filterMap_eq_nil_iff.mpr, map_filter_nil, compatRetypes_self _ _ _ h]
  · rfl
  · intro a ha; exact find_isSome_of_uniq ArgD.name l h a ha
  · intro a ha; rw [h a ha]; simp [safeIn_refl, defaultChanged_self]

private theorem diffField_self (p : String) (f : FieldD) (h : Uniq ArgD.name f.args) : diffField p f f = [] := by
  unfold diffField
  rw [diffFieldArguments_eq, diffArgs_self _ _ _ _ _ _ _ _ h]
  simp [safeOut_refl, compatRetype_self]
  cases hd : f.deprecated <;> simp [hd]

private theorem diffFields_self (t : TypeD) (hf : Uniq FieldD.name t.fields)
    (ha : ∀ f ∈ t.fields, Uniq ArgD.name f.args) : diffFields t t = [] := by
  unfold diffFields
  rw [List.flatMap_eq_nil_iff.mpr, map_filter_nil]
  · rfl
  · intro f hfm; exact find_isSome_of_uniq FieldD.name t.fields hf f hfm
  · intro f hfm; rw [hf f hfm]; exact diffField_self t.name f (ha f hfm)

private theorem not_contains_self {β} (l : List String) (g : String → β) :
    (l.filter fun x => !l.contains x).map g = [] :=
  map_filter_nil l _ g fun x hx => by simp [hx]

private theorem matchingPairs_self (s : SchemaD) (k : Kind) (h : Uniq TypeD.name s.types) :
    ∀ p ∈ matchingPairs s s k, ∃ t ∈ s.types, p = (t, t) := by
  intro p hp
  unfold matchingPairs at hp
  obtain ⟨t, ht, hpt⟩ := List.mem_filterMap.mp hp
  obtain ⟨htm, htk⟩ := List.mem_filter.mp ht
  rw [ListEqv.find_filter_of_find s.types (fun y => y.name == t.name) (fun y => y.kind == k) t (h t htm) htk] at hpt
  exact ⟨t, htm, (Option.some.inj hpt).symm⟩

private theorem pairs_self (s : SchemaD) (k : Kind) (h : Uniq TypeD.name s.types) (f : TypeD × TypeD → List Change)
    (hf : ∀ t ∈ s.types, f (t, t) = []) : (matchingPairs s s k).flatMap f = [] := by
  apply List.flatMap_eq_nil_iff.mpr
  intro p hp
  obtain ⟨t, ht, rfl⟩ := matchingPairs_self s k h p hp
  exact hf t ht

/-- **Reflexivity**: a schema (with unique names at every level, which `Schema` objects have by
    construction: they are dictionaries keyed by name) diffed against a structurally equal one
    reports nothing, at every severity filter. -/
theorem diff_refl (s : SchemaD) (u : UniqSchema s) (m : Nat) : diffSchema s s m = [] := by
  have hfind : ∀ t ∈ s.types, s.findType t.name = some t := u.types
  have h0 : diffRootTypes s s = [] := by
    have self : ∀ (op : String) (x : Option String), rootChange op x x = [] := fun op x => by
      cases x <;> simp [rootChange]
    rw [diffRootTypes_eq, self, self, self]
    rfl
  have h1 : findRemovedTypes s s = [] :=
    map_filter_nil _ _ _ fun t ht => by rw [hfind t ht]; rfl
  have h2 : findAddedTypes s s = [] :=
    map_filter_nil _ _ _ fun t ht => by rw [hfind t ht]; rfl
  have h3 : diffDirectives s s = [] := by
    unfold diffDirectives
    rw [List.flatMap_eq_nil_iff.mpr, map_filter_nil]
    · rfl
    · intro d hd; exact find_isSome_of_uniq DirectiveD.name s.directives u.directives d hd
    · intro d hd
      rw [u.directives d hd]
      show _ ++ _ ++ diffDirectiveArguments d d = []
      rw [diffDirectiveArguments_eq, diffArgs_self _ _ _ _ _ _ _ _ (u.dargs d hd), not_contains_self, not_contains_self]
      rfl
  have h4 : findChangedTypes s s = [] := by
    apply List.filterMap_eq_nil_iff.mpr
    intro t ht
    rw [hfind t ht]
    simp
  have h5 : diffUnionTypes s s = [] :=
    pairs_self s _ u.types _ fun t _ => by
      show _ ++ _ = []
      rw [not_contains_self, not_contains_self]
      rfl
  have h6 : diffEnumTypes s s = [] :=
    pairs_self s _ u.types _ fun t ht => by
      show _ ++ _ = []
      rw [List.filterMap_eq_nil_iff.mpr, map_filter_nil]
      · rfl
      · intro v hv; exact find_isSome_of_uniq EnumValD.name t.values (u.values t ht) v hv
      · intro v hv
        rw [u.values t ht v hv]
        cases hd : v.deprecated <;> simp [hd]
  have h7 : diffObjectTypes s s = [] :=
    pairs_self s _ u.types _ fun t ht => by
      show diffFields t t ++ _ ++ _ = []
      rw [diffFields_self t (u.fields t ht) (u.args t ht), not_contains_self, not_contains_self]
      rfl
  have h8 : diffInterfaceTypes s s = [] :=
    pairs_self s _ u.types _ fun t ht => diffFields_self t (u.fields t ht) (u.args t ht)
  have h9 : diffInputTypes s s = [] :=
    pairs_self s _ u.types _ fun t ht => diffArgs_self _ _ _ _ _ _ _ _ (u.inputs t ht)
  unfold diffSchema
  rw [h0, h1, h2, h3, h4, h5, h6, h7, h8, h9]
  rfl

/-! non-vacuity: a concrete schema satisfies `UniqSchema` -/
private def sEx : SchemaD :=
  { types := [{ kind := .object, name := "Query",
                fields := [{ name := "a", type := .nonNull (.named "Int"),
                             args := [{ name := "x", type := .named "Int" }, { name := "y", type := .named "E" }] },
                           { name := "b", type := .list (.named "E") }] },
              { kind := .enum, name := "E", values := [{ name := "A" }, { name := "B", deprecated := some "old" }] }],
    directives := [{ name := "d", locations := ["FIELD"], args := [{ name := "x", type := .named "Int" }] }] }

example : UniqSchema sEx := .of_nodup (by decide +kernel)

end PyGql.Props.C20
