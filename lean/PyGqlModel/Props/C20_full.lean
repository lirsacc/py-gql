/-
  C20 — the clause "whenever no breaking change is reported, every operation valid against the old schema is valid
  against the new one" AS WORDED, over the C06 model of the validator (all 26 rules): `OperationsStayValidFull`.

  It is FALSE of today's code: `operations_stay_valid_full_refuted` (two independent witnesses: finding G6, an
  operation whose kind has no root type in the old schema; finding G4, `f: Int` → `f: Int!` breaks
  OverlappingFieldsCanBeMerged / SameResponseShape - both changes are reported COMPATIBLE by the differ).

  What IS proved, on the validator model: `operations_stay_valid_all_but_overlap_partial`. Its name says partial
  because, compared with the full clause, it
    * OMITS the rule OverlappingFieldsCanBeMerged (it cannot be covered: G4);
    * ASSUMES `OpsRooted` (every operation of the document has a root type in the old schema; necessary: G6);
    * ASSUMES the well-formedness facts `OldWf` / `NewWf` / `OldWfIn` / `NewWfIn` (consequences of
      `Schema.validate()`, which `diff_schema` runs first: `operations_stay_valid_of_valid`) and `NamesNonEmpty`
      (no fragment is named "": a guarantee of the parser);
    * speaks about the validator of /repo HEAD (`Fixes.all`; fix V9 is necessary: `fix_v9_necessary`), each rule
      visitor run alone (`Silent`; that the chain of all visitors reports what the visitors report alone is C06's
      `chain_par_is_chain` / `runM_alone_eq`).
  The theorems `operations_stay_valid` (C20_operations.lean: the STRUCTURAL predicate `ValidDoc` of C05 - fields,
  leaves, type conditions, fragments, roots; no arguments, values, variables, directives) and
  `operations_stay_valid_rules` (C20_rules_doc.lean: 8 of the schema-dependent rules) keep their names because the
  evidence and DESIGN.md refer to them; both are PARTIAL in the same sense and are subsumed by the theorem below.
-/
import PyGqlModel.Props.C20_rules_all
import PyGqlModel.Props.C06_head

set_option linter.unusedSimpArgs false

namespace PyGql.Props.C20
open PyGql PyGql.Differ PyGql.Diff PyGql.Validate PyGql.Validate.Spec PyGql.Props.C06

/-- the validator model (every one of the 26 rule visitors, code of /repo HEAD) reports nothing -/
def Accepted (s : SchemaD) (d : Doc) : Prop := ∀ r ∈ Rule.all, Silent s Fixes.all r d

/-- **the clause as worded** (kept visible; FALSE: `operations_stay_valid_full_refuted`) -/
def OperationsStayValidFull : Prop :=
  ∀ (o n : SchemaD) (d : Doc), diffSchema o n 2 = [] → Accepted o d → Accepted n d

private def bi : List TypeD :=
  [{ kind := .scalar, name := "Int" }, { kind := .scalar, name := "String" }, { kind := .scalar, name := "Boolean" },
   { kind := .object, name := "__Schema" }, { kind := .object, name := "__Type" }]

/-- `type Query { a: Int }` -/
private def g6Old : SchemaD :=
  { query := some "Query", types := bi ++ [{ kind := .object, name := "Query", fields := [{ name := "a", type := .named "Int" }] }] }
/-- the same plus `type Mutation { m: Int }` as mutation root -/
private def g6New : SchemaD :=
  { query := some "Query", mutation := some "Mutation",
    types := bi ++ [{ kind := .object, name := "Query", fields := [{ name := "a", type := .named "Int" }] },
                    { kind := .object, name := "Mutation", fields := [{ name := "m", type := .named "Int" }] }] }
/-- `mutation { foo }` -/
private def g6Doc : Doc := { defs := [.op "mutation" none [] [] 0 [.field none "foo" [] [] false 0 []]] }

/-- **finding G6 on the validator model**: accepted on the old schema (no rule looks at an operation whose root type
    does not exist), no BREAKING change reported (`RootTypeAdded`, `TypeAdded`: COMPATIBLE), rejected on the new one -/
theorem unrooted_operation_refutes_full :
    diffSchema g6Old g6New 2 = [] ∧ Accepted g6Old g6Doc ∧ ¬ Accepted g6New g6Doc := by
  refine ⟨by decide +kernel, ?_, ?_⟩
  · unfold Accepted Silent; decide +kernel
  · intro h
    exact absurd (h .fieldsOnCorrectType (by decide +kernel)) (by unfold Silent; decide +kernel)

/-- `union U = A | B`, `type A { f: Int }`, `type B { g: Int }`, `type Query { u: U }` -/
private def g4Schema (fTy : Ty) : SchemaD :=
  { query := some "Query",
    types := bi ++ [{ kind := .object, name := "A", fields := [{ name := "f", type := fTy }] },
                    { kind := .object, name := "B", fields := [{ name := "g", type := .named "Int" }] },
                    { kind := .union, name := "U", members := ["A", "B"] },
                    { kind := .object, name := "Query", fields := [{ name := "u", type := .named "U" }] }] }
/-- `{ u { ... on A { x: f } ... on B { x: g } } }` -/
private def g4Doc : Doc :=
  { defs := [.op "query" none [] [] 0
      [.field none "u" [] [] true 1
        [.inline (some "A") [] 2 [.field (some "x") "f" [] [] false 0 []],
         .inline (some "B") [] 3 [.field (some "x") "g" [] [] false 0 []]]]] }

/-- **finding G4 on the validator model**: `A.f: Int` → `Int!` is not reported as BREAKING, the document is accepted
    before and rejected after (OverlappingFieldsCanBeMerged: `Int!` and `Int` under the same response key) -/
theorem same_response_shape_refutes_full :
    diffSchema (g4Schema (.named "Int")) (g4Schema (.nonNull (.named "Int"))) 2 = [] ∧
      Accepted (g4Schema (.named "Int")) g4Doc ∧ ¬ Accepted (g4Schema (.nonNull (.named "Int"))) g4Doc := by
  refine ⟨by decide +kernel, ?_, ?_⟩
  · unfold Accepted Silent; decide +kernel
  · intro h
    exact absurd (h .overlappingFieldsCanBeMerged (by decide +kernel)) (by unfold Silent; decide +kernel)

/-- **Refutation of the clause as worded** -/
theorem operations_stay_valid_full_refuted : ¬ OperationsStayValidFull := fun h =>
  unrooted_operation_refutes_full.2.2 (h _ _ _ unrooted_operation_refutes_full.1 unrooted_operation_refutes_full.2.1)

/-- **Operations stay valid on the validator model, all rules but OverlappingFieldsCanBeMerged** - PARTIAL with
    respect to `OperationsStayValidFull`: see the head of this file for exactly what is omitted and assumed. -/
theorem operations_stay_valid_all_but_overlap_partial (o n : SchemaD) (h : diffSchema o n 2 = []) (wo : OldWf o)
    (wn : NewWf n) (woi : OldWfIn o) (wni : NewWfIn n) (d : Doc) (hne : NamesNonEmpty d) (hR : OpsRooted o d)
    (hv : Accepted o d) : ∀ r ∈ Rule.all, r ≠ .overlappingFieldsCanBeMerged → Silent n Fixes.all r d := by
  have hnd : (Spec.fragNames d).Nodup := (rule_unique_fragment_names_iff o Fixes.all d).mp (hv _ (by decide +kernel))
  have so : ∀ r ∈ Rule.all, r ≠ .overlappingFieldsCanBeMerged → SpecAll r o Fixes.all d := fun r hr ho =>
    (rule_iff_nonoverlap o Fixes.all headVars_all d hne hnd r (provedAll_complete r hr) ho).mp (hv r hr)
  have allO : SchemaRulesAll o Fixes.all d :=
    ⟨⟨so .knownTypeNames (by decide +kernel) (by decide +kernel),
      so .variablesAreInputTypes (by decide +kernel) (by decide +kernel),
      so .fragmentsOnCompositeTypes (by decide +kernel) (by decide +kernel),
      so .fieldsOnCorrectType (by decide +kernel) (by decide +kernel),
      so .scalarLeafs (by decide +kernel) (by decide +kernel),
      so .knownArgumentNames (by decide +kernel) (by decide +kernel),
      so .providedRequiredArguments (by decide +kernel) (by decide +kernel),
      so .knownDirectives (by decide +kernel) (by decide +kernel)⟩,
     so .possibleFragmentSpreads (by decide +kernel) (by decide +kernel),
     so .valuesOfCorrectType (by decide +kernel) (by decide +kernel),
     so .variablesInAllowedPosition (by decide +kernel) (by decide +kernel)⟩
  have allN := operations_stay_valid_rules_all o n h wo wn woi wni Fixes.all rfl rfl d hR allO
  intro r hr ho
  apply (rule_iff_nonoverlap n Fixes.all headVars_all d hne hnd r (provedAll_complete r hr) ho).mpr
  cases r with
  | overlappingFieldsCanBeMerged => exact absurd rfl ho
  | knownTypeNames => exact allN.rules.knownTypeNames
  | variablesAreInputTypes => exact allN.rules.variablesAreInputTypes
  | fragmentsOnCompositeTypes => exact allN.rules.fragmentsOnCompositeTypes
  | fieldsOnCorrectType => exact allN.rules.fieldsOnCorrectType
  | scalarLeafs => exact allN.rules.scalarLeafs
  | knownArgumentNames => exact allN.rules.knownArgumentNames
  | providedRequiredArguments => exact allN.rules.providedRequiredArguments
  | knownDirectives => exact allN.rules.knownDirectives
  | possibleFragmentSpreads => exact allN.possibleFragmentSpreads
  | valuesOfCorrectType => exact allN.valuesOfCorrectType
  | variablesInAllowedPosition => exact allN.variablesInAllowedPosition
  -- the other rules do not look at the schema: their specification on `n` is the one on `o`
  | _ => exact so _ hr ho

end PyGql.Props.C20
