/-
  C05 — `MergeSafe` IS NOT A HYPOTHESIS: it follows from the clause of 5.3.2 "Field selection merging"
  (`Validate.Spec.overlappingFieldsCanBeMerged`), which the memoised OverlappingFieldsCanBeMerged visitor /repo runs
  establishes when it is silent (`C06.rule_overlapping_fields_memo_iff_wf`).

    `mergeSafe_of_clause`              clause of 5.3.2 on `d`  ⇒  `MergeSafe s (eDoc s env d)`
    `mergeSafe_of_silent`              memoised rule silent (+ the clauses of the other rules)  ⇒  `MergeSafe`
    `accepted_cannot_go_wrong_merged`  all 26 rule visitors silent (overlap: the memoised search) ⇒ no internal exception,
                                       WITHOUT the hypothesis `MergeSafe`

  Proof. (1) scope correspondence (`Lemmas/C05MergeScope.lean: scope_coll`): every field of an executor-side scope is a
  field the validator's search collects for the corresponding selection set, same parent type / response name / name /
  argument nodes / sub-selection. (2) `_same_arguments` on argument lists with distinct names gives the same coerced
  keyword arguments (`Lemmas/C05MergeArgs.lean: argsTable_of_sameArguments`). (3) overlapping parents are not "mutually
  exclusive" (`not_exclusive_of_overlap`), so `¬ Conf` gives name and argument equality, and - through `Conf.sub` /
  `Conf.subSwap` - `¬ Conf` for every two fields of the two sub-selections; two fields of ONE sub-selection are covered
  by the clause at that selection set. (4) `_types_conflict = false` on output types is `sameShape`. (5) termination
  measure: `selsDepth ek` of C04's `Ranked` (a field of a scope sits strictly deeper than the scope: `inScope_depth`).

  Hypotheses outside the overlap rule: aliases are not empty (parser), only object / interface types carry
  fields (schema dump), UniqueArgumentNames' clause (another silent rule), `ValidDocR` and `Ranked` (other silent rules:
  `rules_accept_validDocR`, `rules_accept_ranked`).
-/
import PyGqlModel.Lemmas.C05MergeScope
import PyGqlModel.Props.C06_overlap_memo_complete
import PyGqlModel.Props.C06_head_memo
import PyGqlModel.Spec.SchemaChecks

set_option linter.unusedSimpArgs false

namespace PyGql.Props.C05
open PyGql
open PyGql.Validate (Node Arg AL)
open PyGql.Validate.Spec (SelSet Adm Coll CollD CollF SpreadD Conf nodes selNodes selsNodes)

private theorem inScope_depth {doc : Exec.Doc} {rk ek : String → Nat} {B : Nat} (hr : C04.Ranked doc rk ek B)
    {L : Spec.TSels} {x : String × Exec.FNode} (h : InScope doc L x) :
    Spec.selsDepth ek x.2.sub + 1 ≤ Spec.selsDepth ek (L.map (·.2)) := by
  induction h with
  | @field L T key name loc dirs args hs sub hm =>
    have hm' : Exec.Sel.field key name loc dirs args hs sub ∈ L.map (·.2) := List.mem_map.mpr ⟨_, hm, rfl⟩
    have := C04.selDepth_le_of_mem ek hm'
    simp only [Spec.selDepth] at this
    simp only
    omega
  | @inline L T on dirs sub x hm _ ih =>
    have hm' : Exec.Sel.inline on dirs sub ∈ L.map (·.2) := List.mem_map.mpr ⟨_, hm, rfl⟩
    have := C04.selDepth_le_of_mem ek hm'
    simp only [Spec.selDepth] at this
    rw [tag_map_snd] at ih
    omega
  | @spread L T name dirs fr x hm hf _ ih =>
    have hm' : Exec.Sel.spread name dirs ∈ L.map (·.2) := List.mem_map.mpr ⟨_, hm, rfl⟩
    have := C04.selDepth_le_of_mem ek hm'
    simp only [Spec.selDepth] at this
    rw [tag_map_snd] at ih
    have := hr.exec name fr hf
    omega

private theorem typedSub_depth (s : SchemaD) (ek : String → Nat) (P : String) (n : Exec.FNode) :
    Spec.selsDepth ek ((Spec.typedSub s P n).map (·.2)) ≤ Spec.selsDepth ek n.sub := by
  unfold Spec.typedSub
  split
  · rw [tag_map_snd]; exact Nat.le_refl _
  · simp [Spec.selsDepth]

private theorem possibleTypes_object (s : SchemaD) (P : String) (h : Validate.isObject s P = true) : Exec.possibleTypes s P = [] := by
  unfold Validate.isObject Validate.kindOf at h
  unfold Exec.possibleTypes
  cases hf : s.findType P with
  | none => rfl
  | some t =>
    simp only [hf, Option.map_some, beq_iff_eq, Option.some.injEq] at h
    simp [h]

theorem not_exclusive_of_overlap (s : SchemaD) (e1 e2 : Validate.FEntry) (P1 P2 : String) (h1 : e1.parent = some P1)
    (h2 : e2.parent = some P2) (ho : Overlap s P1 P2) : Validate.Spec.exclusiveParents s e1 e2 = false := by
  rw [Bool.eq_false_iff]
  intro h
  simp only [Validate.Spec.exclusiveParents, h1, h2, Bool.and_eq_true, bne_iff_ne, ne_eq, Option.some.injEq] at h
  obtain ⟨⟨hne, ho1⟩, ho2⟩ := h
  exact hne (overlap_not_exclusive s P1 P2 ho (possibleTypes_object s P1 ho1) (possibleTypes_object s P2 ho2))

private def OutTy (s : SchemaD) (t : Ty) : Prop := Validate.isLeaf s t.base = true ∨ Validate.isComposite s t.base = true

private theorem outTy_of_output (s : SchemaD) (t : Ty) (ho : Validate.isOutputTy s t = true) : OutTy s t := by
  unfold Validate.isOutputTy at ho
  unfold OutTy Validate.isLeaf Validate.isComposite
  cases hk : Validate.kindOf s t.base with
  | none => simp [hk] at ho
  | some k => cases k <;> simp_all

private theorem shape_of_noConflict (s : SchemaD) : ∀ t u : Ty, Validate.typesConflict s t u = false → OutTy s t → OutTy s u →
    Spec.sameShape s t u = true := by
  intro t
  induction t with
  | named a =>
    intro u h ha hb
    cases u with
    | named b =>
      simp only [Validate.typesConflict] at h
      simp only [Spec.sameShape, Bool.or_eq_true, beq_iff_eq, Bool.and_eq_true]
      by_cases hl : (Validate.isLeaf s a || Validate.isLeaf s b) = true
      · simp only [hl, if_true] at h
        left; simpa using h
      · right
        simp only [Bool.or_eq_true, not_or] at hl
        exact ⟨isComposite_compat s a (ha.resolve_left hl.1), isComposite_compat s b (hb.resolve_left hl.2)⟩
    | list _ => simp [Validate.typesConflict] at h
    | nonNull _ => simp [Validate.typesConflict] at h
  | list a ih =>
    intro u h ha hb
    cases u with
    | list b =>
      simp only [Validate.typesConflict] at h
      simp only [Spec.sameShape]
      exact ih b h ha hb
    | named _ => simp [Validate.typesConflict] at h
    | nonNull _ => simp [Validate.typesConflict] at h
  | nonNull a ih =>
    intro u h ha hb
    cases u with
    | nonNull b =>
      simp only [Validate.typesConflict] at h
      simp only [Spec.sameShape]
      exact ih b h ha hb
    | named _ => simp [Validate.typesConflict] at h
    | list _ => simp [Validate.typesConflict] at h

private theorem fdef_type (s : SchemaD) (hs : SchemaWf s) (env : Exec.ArgEnv) (d : Validate.Doc) (vars : Exec.Vars)
    (mf : MergeFacts s env d vars) (x : String × Exec.FNode) (e : Validate.FEntry) (r : Rel s env d vars x e) (t : Ty)
    (ht : Spec.fieldTy s x.1 x.2 = some t) : e.fdef.map (·.type) = some t ∧ OutTy s t := by
  rcases r.typed with ⟨hn, _⟩ | ⟨hmeta, fd, hfd, _⟩
  · simp only [Spec.fieldTy, hn, beq_self_eq_true, if_true, Option.some.injEq] at ht
    subst ht
    refine ⟨?_, Or.inl (by simpa [Ty.base] using hs.string)⟩
    rw [r.fdef, r.name, hn]
    simp [Validate.ovFieldOf, validate_composite_of s x.1 r.comp, Validate.typenameField]
  · have hnt : x.2.name ≠ "__typename" := by
      intro e; rw [e] at hmeta; simp [Exec.isMeta] at hmeta
    have hnt' : (x.2.name == "__typename") = false := by simpa using hnt
    simp only [Spec.fieldTy, hnt', Bool.false_eq_true, if_false, hfd, Option.map_some, Option.some.injEq] at ht
    subst ht
    have hv := mf.owners x.1 x.2.name fd hfd
    refine ⟨?_, ?_⟩
    · rw [r.fdef, r.name]
      simp [Validate.ovFieldOf, hnt', hv]
    · exact outTy_of_output s fd.type (hs.outputs x.1 x.2.name fd hv)

/-- every two same-key fields of the scope are fields the search collected, and they do not conflict -/
def Unconflicted (s : SchemaD) (env : Exec.ArgEnv) (d : Validate.Doc) (vars : Exec.Vars) (L : Spec.TSels) : Prop :=
  ∀ x y, InScope (eDoc s env d) L x → InScope (eDoc s env d) L y → x.2.key = y.2.key →
    ∃ e1 e2, Rel s env d vars x e1 ∧ Rel s env d vars y e2 ∧ ¬ Conf s d false e1 e2

private theorem sub_member (s : SchemaD) (env : Exec.ArgEnv) (d : Validate.Doc) (vars : Exec.Vars) (mf : MergeFacts s env d vars)
    (x : String × Exec.FNode) (e : Validate.FEntry) (r : Rel s env d vars x e) (a : String × Exec.FNode)
    (ha : InScope (eDoc s env d) (Spec.typedSub s x.1 x.2) a) :
    e.hasSub = true ∧ SelSet d e.ssid e.sub ∧ Adm s d e.ssid (some (Spec.subBase s x.1 x.2)) ∧
      ∃ ea, Coll s d (some (Spec.subBase s x.1 x.2)) e.sub a.2.key ea ∧ Rel s env d vars a ea := by
  unfold Spec.typedSub at ha
  by_cases hsub : x.2.hasSub = true
  · rw [if_pos hsub] at ha
    have he : e.hasSub = true := by rw [← r.hasSub]; exact hsub
    obtain ⟨hS, hA⟩ := r.subSet he
    rw [r.sub he] at ha
    rcases r.typed with ⟨_, hf⟩ | ⟨_, fd, hfd, hty⟩
    · rw [hsub] at hf; cases hf
    · obtain ⟨hc, hok⟩ := hty hsub
      have hb : Spec.subBase s x.1 x.2 = fd.type.base := by simp [Spec.subBase, hfd]
      rw [r.sub he] at hok
      refine ⟨he, hS, hA, ?_⟩
      exact scope_coll s env d vars mf ha (Spec.subBase s x.1 x.2) e.ssid e.sub (Spec.subBase s x.1 x.2) e.ssid e.sub rfl hS
        (by rw [hb]; exact hok) (by rw [hb]; exact hc) hA hS (fun _ _ h => h) (fun _ h => h)
  · rw [if_neg hsub] at ha
    exact (inScope_nil ha).elim

private theorem unconflicted_sub (s : SchemaD) (env : Exec.ArgEnv) (d : Validate.Doc) (vars : Exec.Vars) (mf : MergeFacts s env d vars)
    (hclause : Validate.Spec.overlappingFieldsCanBeMerged s d) (x y : String × Exec.FNode) (e1 e2 : Validate.FEntry)
    (r1 : Rel s env d vars x e1) (r2 : Rel s env d vars y e2) (hnc : ¬ Conf s d false e1 e2) (ho : Overlap s x.1 y.1) :
    Unconflicted s env d vars (Spec.typedSub s x.1 x.2 ++ Spec.typedSub s y.1 y.2) := by
  have hex := not_exclusive_of_overlap s e1 e2 x.1 y.1 r1.parent r2.parent ho
  intro a b ha hb hk
  rcases InScope.append_split ha with ha | ha <;> rcases InScope.append_split hb with hb | hb
  · obtain ⟨_, hS, hA, ea, hca, ra⟩ := sub_member s env d vars mf x e1 r1 a ha
    obtain ⟨_, _, _, eb, hcb, rb⟩ := sub_member s env d vars mf x e1 r1 b hb
    rw [← hk] at hcb
    exact ⟨ea, eb, ra, rb, hclause _ _ hS _ hA _ _ _ hca hcb⟩
  · obtain ⟨h1, _, hA1, ea, hca, ra⟩ := sub_member s env d vars mf x e1 r1 a ha
    obtain ⟨h2, _, hA2, eb, hcb, rb⟩ := sub_member s env d vars mf y e2 r2 b hb
    rw [← hk] at hcb
    exact ⟨ea, eb, ra, rb, fun hc => hnc (Conf.sub h1 h2 hA1 hA2 hca hcb (by simpa [hex] using hc))⟩
  · obtain ⟨h2, _, hA2, ea, hca, ra⟩ := sub_member s env d vars mf y e2 r2 a ha
    obtain ⟨h1, _, hA1, eb, hcb, rb⟩ := sub_member s env d vars mf x e1 r1 b hb
    rw [← hk] at hcb
    exact ⟨ea, eb, ra, rb, fun hc => hnc (Conf.subSwap h1 h2 hA1 hA2 hcb hca (by simpa [hex] using hc))⟩
  · obtain ⟨_, hS, hA, ea, hca, ra⟩ := sub_member s env d vars mf y e2 r2 a ha
    obtain ⟨_, _, _, eb, hcb, rb⟩ := sub_member s env d vars mf y e2 r2 b hb
    rw [← hk] at hcb
    exact ⟨ea, eb, ra, rb, hclause _ _ hS _ hA _ _ _ hca hcb⟩

private theorem ms_of_unconflicted (s : SchemaD) (hs : SchemaWf s) (env : Exec.ArgEnv) (d : Validate.Doc) (vars : Exec.Vars)
    (mf : MergeFacts s env d vars) (hclause : Validate.Spec.overlappingFieldsCanBeMerged s d)
    {rk ek : String → Nat} {B : Nat} (hr : C04.Ranked (eDoc s env d) rk ek B) :
    ∀ (N : Nat) (L : Spec.TSels), Spec.selsDepth ek (L.map (·.2)) < N → Unconflicted s env d vars L → MS s (eDoc s env d) L := by
  intro N
  induction N with
  | zero => intro L hN _; omega
  | succ N ih =>
    intro L hN hg
    refine .intro ?_ ?_ ?_
    · intro x y hx hy hk ho
      obtain ⟨e1, e2, r1, r2, hnc⟩ := hg x y hx hy hk
      have hex := not_exclusive_of_overlap s e1 e2 x.1 y.1 r1.parent r2.parent ho
      have hname : e1.name = e2.name := by
        by_cases hne : e1.name = e2.name
        · exact hne
        · exact absurd (Conf.args (by simpa using hex) (Or.inl hne)) hnc
      have hargs : Validate.sameArguments e1.args e2.args ≠ some false := fun h =>
        hnc (Conf.args (by simpa using hex) (Or.inr h))
      refine ⟨by rw [← r1.name, ← r2.name, hname], ?_⟩
      rw [r1.args, r2.args, hname]
      exact argsTable_of_sameArguments s env e2.name e1.args e2.args r1.nodup r2.nodup hargs
    · intro x y hx hy hk ho
      obtain ⟨e1, e2, r1, r2, hnc⟩ := hg x y hx hy hk
      apply ih
      · rw [List.map_append, C04.selsDepth_append]
        have d1 := inScope_depth hr hx
        have d2 := inScope_depth hr hy
        have t1 := typedSub_depth s ek x.1 x.2
        have t2 := typedSub_depth s ek y.1 y.2
        omega
      · exact unconflicted_sub s env d vars mf hclause x y e1 e2 r1 r2 hnc ho
    · intro x y t u hx hy hk ht hu
      obtain ⟨e1, e2, r1, r2, hnc⟩ := hg x y hx hy hk
      obtain ⟨f1, o1⟩ := fdef_type s hs env d vars mf x e1 r1 t ht
      obtain ⟨f2, o2⟩ := fdef_type s hs env d vars mf y e2 r2 u hu
      apply shape_of_noConflict s t u ?_ o1 o2
      cases hc : Validate.typesConflict s t u with
      | false => rfl
      | true => exact absurd (Conf.types f1 f2 hc) hnc

/-- the declarative `MergeSafe` of the executor's document follows from the clause of 5.3.2 on
    the validator's document. -/
theorem mergeSafe_of_clause (s : SchemaD) (hs : SchemaWf s) (hro : RootsAreObjects s) (env : Exec.ArgEnv) (d : Validate.Doc)
    (vars : Exec.Vars) (mf : MergeFacts s env d vars) {rk ek : String → Nat} {B : Nat} (hr : C04.Ranked (eDoc s env d) rk ek B)
    (hclause : Validate.Spec.overlappingFieldsCanBeMerged s d) : MergeSafe s (eDoc s env d) := by
  intro o ho root hroot
  obtain ⟨kind, name, vs, ds, ssid, sels, hdf, rfl⟩ := mem_eDoc_ops.1 ho
  have hobj := hro kind root hroot
  have hvr := rootType_compat_rev s kind root hroot hobj
  have hvc := composite_of_object s root hobj
  have hcomp : Spec.isComposite s root = true := isComposite_compat s root hvc
  have hS : SelSet d ssid sels :=
    mem_nodes_of_def hdf (List.mem_cons_of_mem _ (List.mem_append_right _ List.mem_cons_self))
  have hA : Adm s d ssid (some root) := by
    let v1 := Validate.Spec.View.enter s (Node.operation kind name vs ds sels) {}
    have hv1t : v1.type = some (Ty.named root) := by simp [v1, Validate.Spec.View.enter, hvr]
    let v2 := Validate.Spec.View.enter s (Node.selectionSet ssid sels) v1
    have hcb : Validate.Spec.compositeBase s (some (Ty.named root)) = some root := by
      simp [Validate.Spec.compositeBase, Ty.base, hvc]
    have hv2p : v2.parent = some root := by simp [v2, Validate.Spec.View.enter, hv1t, hcb]
    have hmem : (Node.selectionSet ssid sels, v2) ∈ Validate.Spec.typedNodes s d :=
      mem_typedNodes_of_def hdf (List.mem_cons_of_mem _ (List.mem_append_right _ List.mem_cons_self))
    have := Adm.walk (s := s) hmem
    rwa [hv2p] at this
  have hok : Spec.selsOk s (eDoc s env d) vars root (eSels s env sels) = true :=
    opsOkR_op (validDocR_iff.1 mf.valid).1 ho hroot
  have hg : Unconflicted s env d vars (Spec.tag root (eSels s env sels)) := by
    intro x y hx hy hk
    obtain ⟨e1, hc1, r1⟩ := scope_coll s env d vars mf hx root ssid sels root ssid sels rfl hS hok hcomp hA hS (fun _ _ h => h) (fun _ h => h)
    obtain ⟨e2, hc2, r2⟩ := scope_coll s env d vars mf hy root ssid sels root ssid sels rfl hS hok hcomp hA hS (fun _ _ h => h) (fun _ h => h)
    rw [← hk] at hc2
    exact ⟨e1, e2, r1, r2, hclause _ _ hS _ hA _ _ _ hc1 hc2⟩
  exact ms_of_unconflicted s hs env d vars mf hclause hr _ _ (Nat.lt_succ_self _) hg


/-- parser guarantee: an alias is never the empty name -/
def AliasesNonEmpty (d : Validate.Doc) : Prop :=
  ∀ i sels, SelSet d i sels → ∀ al name args dirs hs id sub,
    Validate.Sel.field al name args dirs hs id sub ∈ sels → al ≠ some ""

/-- a field the executor finds on a type is found there by the validator too: the validator looks fields up on object and
    interface types only, so this holds when no other type carries fields (what `canon_schema.dump_schema` produces) -/
def FieldOwners (s : SchemaD) : Prop := ∀ T name fd, Exec.fieldOf s T name = some fd → Validate.fieldOf s T name = some fd

/-- `Spec.fieldOwnersB` (evaluated by the driver on the schema of every request: `field_owners`) is sound for `FieldOwners` -/
theorem fieldOwners_of_check (s : SchemaD) (h : Spec.fieldOwnersB s = true) : FieldOwners s := by
  intro T name fd hf
  unfold Exec.fieldOf at hf
  unfold Validate.fieldOf Validate.isObjOrIface Validate.kindOf
  cases ht : s.findType T with
  | none => simp [ht] at hf
  | some t =>
    simp only [ht] at hf
    have hm : t ∈ s.types := List.mem_of_find?_eq_some ht
    unfold Spec.fieldOwnersB at h
    rw [List.all_eq_true] at h
    have := h t hm
    have hne : t.fields.isEmpty = false := by
      cases hfs : t.fields with
      | nil => simp [hfs] at hf
      | cons _ _ => rfl
    simp only [hne, Bool.false_or, Bool.or_eq_true, beq_iff_eq] at this
    rcases this with hk | hk <;> simp [hk, hf]

/-- `MergeSafe` from what `validate_ast(...) == []` gives: the memoised
    OverlappingFieldsCanBeMerged search reports nothing, and so do FieldsOnCorrectType, ScalarLeafs, KnownFragmentNames,
    FragmentsOnCompositeTypes, UniqueFragmentNames, NoFragmentCycles and UniqueArgumentNames. `DocChecksMemo` (distinct
    selection-set identities, no meta field with a sub-selection) are the two computable checks of
    `C06.rule_overlapping_fields_memo_iff_wf`. -/
theorem mergeSafe_of_silent (s : SchemaD) (hs : SchemaWf s) (hro : RootsAreObjects s) (hfo : FieldOwners s)
    (fx : Validate.Fixes) (hv11 : fx.v11 = true) (h7 : fx.v7 = true) (env : Exec.ArgEnv) (d : Validate.Doc) (vars : Exec.Vars)
    (h1 : C06.Silent s fx .fieldsOnCorrectType d) (h2 : C06.Silent s fx .scalarLeafs d)
    (h3 : C06.Silent s fx .knownFragmentNames d) (h4 : C06.Silent s fx .fragmentsOnCompositeTypes d)
    (h5 : C06.Silent s fx .uniqueFragmentNames d) (h6 : C06.Silent s fx .noFragmentCycles d)
    (hu : C06.Silent s fx .uniqueArgumentNames d) (h0 : (Validate.overlapMemoRun s fx d).1 = 0)
    (hck : C06.DocChecksMemo s d) (hne : ∀ f ∈ Validate.Spec.fragNames d, f ≠ "") (hal : AliasesNonEmpty d)
    (hni : NoIntrospection s d) : MergeSafe s (eDoc s env d) := by
  have hsl := (C06.rule_scalar_leafs_iff s fx d).mp h2
  have hfc := (C06.rule_fragments_on_composite_types_iff s fx d).mp h4
  have hclause := (C06.rule_overlapping_fields_memo_iff_wf s fx h7 d hck hne hs.outputs hsl hfc).mp h0
  have mf : MergeFacts s env d vars :=
    { aliases := hal
      uniqueArgs := ((C06.rule_unique_argument_names_iff s fx d).mp hu).1
      valid := rules_accept_validDocR s hs hro fx hv11 env d vars h1 h2 h3 h4 h5 h6 hne hni
      owners := hfo }
  exact mergeSafe_of_clause s hs hro env d vars mf (rules_accept_ranked s fx hv11 env d h3 h5 h6 hne) hclause

/-- what "all 26 rule visitors are silent" (the overlap rule as the memoised search) gives the chain: the seven rules
    whose clauses it uses alone, and the search itself -/
theorem silent_of_silentM {s : SchemaD} {fx : Validate.Fixes} {d : Validate.Doc}
    (hacc : ∀ r ∈ Validate.Rule.all, C06.SilentM s fx r d) :
    (C06.Silent s fx .fieldsOnCorrectType d ∧ C06.Silent s fx .scalarLeafs d ∧ C06.Silent s fx .knownFragmentNames d ∧
      C06.Silent s fx .fragmentsOnCompositeTypes d ∧ C06.Silent s fx .uniqueFragmentNames d ∧
      C06.Silent s fx .noFragmentCycles d) ∧
    C06.Silent s fx .uniqueArgumentNames d ∧ (Validate.overlapMemoRun s fx d).1 = 0 :=
  have sil : ∀ r, r ∈ Validate.Rule.all → r ≠ .overlappingFieldsCanBeMerged → C06.Silent s fx r d :=
    fun r hr hn => (C06.silentM_of_ne hn).mp (hacc r hr)
  ⟨⟨sil _ (by decide +kernel) nofun, sil _ (by decide +kernel) nofun, sil _ (by decide +kernel) nofun,
    sil _ (by decide +kernel) nofun, sil _ (by decide +kernel) nofun, sil _ (by decide +kernel) nofun⟩,
   sil _ (by decide +kernel) nofun, C06.silentM_overlap.mp (hacc _ (by decide +kernel))⟩

/-- C05's execution half WITHOUT the hypothesis `MergeSafe`: every one of the 26
    rule visitors is silent (`C06.SilentM`: OverlappingFieldsCanBeMerged is the MEMOISED search /repo runs), the schema
    facts, the two static document checks, the parser guarantees (non-empty fragment names and aliases), no
    `__schema` / `__type` selection, a typed world ⇒ no request on the translated document ends in an internal exception. -/
theorem accepted_cannot_go_wrong_merged (s : SchemaD) (hs : SchemaWf s) (hso : SchemaOk s) (hro : RootsAreObjects s)
    (hfo : FieldOwners s) (fx : Validate.Fixes) (hv11 : fx.v11 = true) (h7 : fx.v7 = true) (env : Exec.ArgEnv)
    (d : Validate.Doc) (vars : Exec.Vars)
    (hacc : ∀ r ∈ Validate.Rule.all, C06.SilentM s fx r d)
    (hck : C06.DocChecksMemo s d) (hne : ∀ f ∈ Validate.Spec.fragNames d, f ≠ "") (hal : AliasesNonEmpty d)
    (hni : NoIntrospection s d) (w : Exec.World) (hw : WorldTyped s w) :
    ∀ (op : Option String) (fuel cf : Nat) (cls : String), Exec.execute s (eDoc s env d) vars w op fuel cf ≠ .failed (.internal cls) := by
  obtain ⟨⟨h1, h2, h3, h4, h5, h6⟩, hu, h0⟩ := silent_of_silentM hacc
  exact rules_accept_cannot_go_wrong_rootless s hs hso hro fx hv11 env d vars h1 h2 h3 h4 h5 h6 hne hni
    (mergeSafe_of_silent s hs hro hfo fx hv11 h7 env d vars h1 h2 h3 h4 h5 h6 hu h0 hck hne hal hni) w hw

/-! non-vacuity: a document with a fragment, an inline fragment, aliases, arguments (literal and variable)
    and `__typename`, on the bridge's schema with a query root: every rule visitor is silent (the memoised overlap search
    included) and the static checks hold; the variant in which the fragment selects `a(n: $v)` under the key `a` (the operation: `a(n: null)`) is
    reported by the memoised search -/
def mgDoc (n : Validate.Value) : Validate.Doc :=
  { defs := [.op "query" none [⟨"v", .named "Int", none, [], rfl⟩] [] 1
               [.field none "a" [⟨"n", .null⟩] [] false 0 [], .spread "F" [],
                .inline (some "Query") [] 2 [.field (some "k") "o" [] [] true 3 [.field none "x" [] [] false 0 [], .field none "__typename" [] [] false 0 []]]],
             .frag "F" "Query" [] 4 [.field (some "b") "a" [⟨"n", .var "v"⟩] [] false 0 [], .field none "a" [⟨"n", n⟩] [] false 0 []]] }
example : Overlap brSchemaQ "Query" "Query" := ⟨"Query", Or.inl rfl, Or.inl rfl⟩
example : Spec.fieldOwnersB brSchemaQ = true := by decide +kernel
example : C06.DocChecksMemo brSchemaQ (mgDoc .null) := ⟨by decide +kernel, by decide +kernel⟩
example : ∀ r ∈ Validate.Rule.all, C06.SilentM brSchemaQ Validate.Fixes.all r (mgDoc .null) := by
  unfold C06.SilentM C06.Silent
  decide +kernel
example : (Validate.overlapMemoRun brSchemaQ Validate.Fixes.all (mgDoc (.var "v"))).1 ≠ 0 := by decide +kernel

end PyGql.Props.C05
