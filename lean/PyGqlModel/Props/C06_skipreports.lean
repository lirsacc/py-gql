/-
  C06 - property theorems: EVERY `SkipNode` COMES WITH AN ERROR OF THE RULE THAT RAISES IT, and its
  consequences for an arbitrary chain.

  Since fix 309c6fb (in /repo: `ValuesOfCorrectTypeChecker` does not raise `SkipNode` at an object literal it ACCEPTED;
  the silent skip hid the contents of the literal from every other rule) no rule raises `SkipNode` silently:
    * `skip_reports`: a rule that raises at a node has just added an error (all 26 rules, all node kinds);
    * `enterRule_mono`, `leaveRule_mono`: no rule ever removes an error;
    * `monoAlg`: in ANY chain the error count never decreases over any visit;
    * `silent_node_not_skipped`: a node over which a chain adds no error was skipped by NO member - every member
      entered it, its children were visited, every member left it. In particular a run of the standard chain that
      reports nothing has shown every node of the document to every rule.
  This is the second of the two facts the note in `Props/C06_balanced.lean` names; the first - the frame property of the
  26 rules, needed to compare a rule's reports in the chain with its reports alone - is `framed_enterRule`
  (`Props/C06_chain.lean`), and with it `chain_silent_iff_alone`: the chain records no error iff every member alone is silent.
  (`KnownTypeNamesChecker._skip` on type-system definitions raises without an error of its own; the model has no nodes
  below a type-system definition, and `ExecutableDefinitionsChecker` reports every such definition.)
-/
import PyGqlModel.Lemmas.ValidateChainSilent
import PyGqlModel.Lemmas.ValidateChainParEq
namespace PyGql.Props.C06
open PyGql PyGql.Validate

theorem skip_reports (s : SchemaD) (fx : Fixes) (r : Rule) (n : Node) (ti : TI) (rs : RS)
    (h : (enterRule s fx r n ti rs).2 = true) : rs.errs.length < (enterRule s fx r n ti rs).1.errs.length :=
  (enterRule_step s fx ti rs r n).skip_lt h

theorem enterRule_mono (s : SchemaD) (fx : Fixes) (r : Rule) (n : Node) (ti : TI) (rs : RS) :
    rs.errs.length ≤ (enterRule s fx r n ti rs).1.errs.length :=
  er_mono enterRule_framed s fx n ti r rs

theorem leaveRule_mono (s : SchemaD) (fx : Fixes) (r : Rule) (n : Node) (ti : TI) (rs : RS) :
    rs.errs.length ≤ (leaveRule s fx r n ti rs).errs.length :=
  lr_mono s fx n ti r rs

theorem enterRules_mono (c : Cfg) (n : Node) (ti : TI) : ∀ (rules : List Rule) (rs : RS),
    rs.errs.length ≤ (enterRules c n ti rules rs).1.errs.length :=
  fun rules rs => enterRulesPar_eq c n ti rules rs ▸ enterRulesPar_mono enterRule_framed c n ti rules rs

/-- some member raised `SkipNode` ⇒ the error count grew while the members entered -/
theorem enterRules_skip_lt (c : Cfg) (n : Node) (ti : TI) : ∀ (rules : List Rule) (rs : RS),
    (enterRules c n ti rules rs).2 = true → rs.errs.length < (enterRules c n ti rules rs).1.errs.length :=
  fun rules rs => enterRulesPar_eq c n ti rules rs ▸ enterRulesPar_skip_lt enterRule_framed c n ti rules rs

theorem foldl_leave_mono (c : Cfg) (n : Node) (ti : TI) : ∀ (rules : List Rule) (rs : RS),
    rs.errs.length ≤ (rules.foldl (fun rs r => leaveRule c.schema c.fixes r n ti rs) rs).errs.length :=
  leaveFold_mono c.schema c.fixes n ti

theorem enter_mono (c : Cfg) (n : Node) (st : St) : E st ≤ E (enter c n st).1 :=
  enterPar_eq c n st ▸ enterPar_mono enterRule_framed c n st

theorem leave_mono (c : Cfg) (n : Node) (st : St) : E st ≤ E (leave c n st) :=
  leavePar_mono (er := enterRule) c n st

theorem leaveSkipped_mono (c : Cfg) (n : Node) (st0 st1 : St) : E st1 ≤ E (leaveSkipped c n st0 st1) :=
  leaveSkippedPar_eq c n st0 st1 ▸ leaveSkippedPar_mono (er := enterRule) c n st0 st1

theorem enter_skip_lt (c : Cfg) (n : Node) (st : St) (h : (enter c n st).2 = true) : E st < E (enter c n st).1 := by
  rw [← enterPar_eq] at h ⊢
  exact enterPar_skip_lt enterRule_framed c n st h

theorem monoAlg (c : Cfg) : WalkAlg c (fun _ st st' => E st ≤ E st') where
  nil st := Nat.le_refl _
  append h1 h2 := Nat.le_trans h1 h2
  node n body ns st _ hb := by
    cases hs : (enter c n st).2
    · rw [visitNode_false hs]
      exact Nat.le_trans (enter_mono c n st) (Nat.le_trans (hb _) (leave_mono c n _))
    · rw [visitNode_true hs]
      exact Nat.le_trans (enter_mono c n st) (leaveSkipped_mono c n st _)

/-- **a node over which the chain adds no error is skipped by no member**: every member entered it, its children
    were visited, every member left it - for ANY list of rules (given that the visit of the children cannot remove
    errors, which `monoAlg` provides for every visit function) -/
theorem silent_node_not_skipped (c : Cfg) (n : Node) (body : St → St) (st : St)
    (h : E (visitNode c n body st) = E st) : (enter c n st).2 = false := by
  rw [← visitNodePar_eq c n body body (fun _ => rfl)] at h
  rw [← enterPar_eq]
  exact quiet_not_skipped enterRule_framed c n body st h

theorem silent_run_document_not_skipped (c : Cfg) (d : Doc) (h : E (visitDocument c d {}) = 0) :
    (enter c (.document d) {}).2 = false := by
  rw [visitDocument] at h
  exact silent_node_not_skipped c (.document d) _ {} (by rw [h]; rfl)

end PyGql.Props.C06
