/-
  C07 — property theorems: resolvers only receive arguments that conform to the declared input types.
  Model: PyGqlModel/Coerce.lean (the code of /repo, which has fixes C07-A1..A7); specification: Spec/Coerce.lean.
  Every theorem holds for EVERY amount of fuel (recursion budget), every registry of named input types
  satisfying `RegOK`, every type expression, every JSON value / literal.
-/
import PyGqlModel.Lemmas.CoerceSrc


namespace PyGql.Props.C07
open PyGql PyGql.Coerce PyGql.Generated.Scalars

private theorem pvOfJson_notNone {v : JV} (h : v.isNull = false) : (pvOfJson v).isNone = false := by
  cases v <;> simp_all [pvOfJson, PV.isNone, JV.isNull]

private theorem leafJ_sound {reg : Reg} (hreg : RegOK reg) {n : String} {v : JV} {pv : PV} (hv : v.isNull = false)
    (h : leafJ reg n (reg.get? n) v = .ok pv) : Conforms reg (.named n) pv ∧ pv.isNone = false := by
  cases hk : reg.get? n with
  | none =>
    rw [hk] at h
    cases h
  | some k =>
    rw [hk] at h
    cases k with
    | int =>
      rw [leafJ, coerceInt_eq] at h
      split at h
      · obtain ⟨rfl, hr⟩ := rangeChecked_ok h
        exact ⟨.int hk hr, rfl⟩
      · cases h
    | float =>
      rw [leafJ, coerceFloat_eq] at h
      split at h
      · obtain ⟨rfl, _⟩ := floatChecked_ok h
        exact ⟨.float hk, rfl⟩
      · cases h
    | string => cases v <;> cases h <;> exact ⟨.string hk, rfl⟩
    | boolean => cases v <;> cases h <;> exact ⟨.boolean hk, rfl⟩
    | id => cases v <;> cases h <;> exact ⟨.id hk, rfl⟩
    | custom =>
      have hp : reg.customParse n v = .value pv := by
        cases hp : reg.customParse n v <;> rw [leafJ, hp] at h <;> cases h
        rfl
      have hok : CustomOK reg n pv := .inl ⟨v, hv, hp⟩
      exact ⟨.custom hk hok, hreg.customNotNone n pv hk hok⟩
    | enum vs =>
      cases v with
      | str s =>
        obtain ⟨p, hp, rfl, _⟩ := getValue_mem h
        exact ⟨.enum hk hp, hreg.enumNotNone n vs hk p hp⟩
      | _ => cases h
    | input fs => cases h

/-- Whatever `coerce_value` accepts conforms to the declared type: non-null positions
    never hold `None`, enum names are replaced by internal values, input objects are dicts keyed by python
    names with defaults filled, list positions hold lists, Int values lie in the signed 32-bit range.
    For every registry, type expression (arbitrary nesting, recursive input objects), JSON value and fuel. -/
theorem variable_sound {reg : Reg} (hreg : RegOK reg) :
    ∀ (fuel : Nat) (ty : Ty) (v : JV) (pv : PV), ty.wf = true →
      coerceValue reg fuel ty v = .ok pv → Conforms reg ty pv := by
  intro fuel ty v pv hwf h
  exact gCoerce_sound (Fit := fun _ _ => True) hreg (fun _ hv h => leafJ_sound hreg hv h) (fun _ _ => trivial)
    (fun _ he => by cases he) fuel ty v pv hwf trivial (coerceValue_eq reg fuel ▸ h)

private theorem parseLiteral_sound {reg : Reg} {n : String} {k : NamedT} (hk : reg.get? n = some k) {l : Lit} {pv : PV}
    (h : parseLiteral k l = .ok pv) : Conforms reg (.named n) pv ∧ pv.isNone = false := by
  rcases parseLiteral_cases k l with h' | h' | ⟨_, rfl, h'⟩ | ⟨_, _, rfl, h'⟩ | ⟨_, hs, h'⟩ | ⟨_, rfl, h'⟩ <;> rw [h'] at h
  · cases h
  · cases h
  · obtain ⟨rfl, hr⟩ := rangeChecked_ok h
    exact ⟨.int hk hr, rfl⟩
  · obtain ⟨rfl, _⟩ := floatChecked_ok h
    exact ⟨.float hk, rfl⟩
  · cases h
    rcases hs with rfl | rfl
    · exact ⟨.string hk, rfl⟩
    · exact ⟨.id hk, rfl⟩
  · cases h
    exact ⟨.boolean hk, rfl⟩

private theorem leafL_sound {reg : Reg} (hreg : RegOK reg) {vars : Option (List (String × PV))} {n : String} {l : Lit} {pv : PV}
    (hn : l.isNull = false) (hl : ∀ x, l ≠ .var x) (h : leafL reg vars n (reg.get? n) l = .ok pv) :
    Conforms reg (.named n) pv ∧ pv.isNone = false := by
  have scalar : ∀ k', reg.get? n = some k' → (if isScalarLit l then parseLiteral k' l else .error .coercion) = Except.ok pv →
      Conforms reg (.named n) pv ∧ pv.isNone = false := by
    intro k' hk' h
    split at h
    · exact parseLiteral_sound hk' h
    · cases h
  cases hk : reg.get? n with
  | none =>
    rw [hk] at h
    cases h
  | some k =>
    rw [hk] at h
    cases k with
    | enum vs =>
      cases l with
      | enum s =>
        obtain ⟨p, hp, rfl, _⟩ := getValue_mem h
        exact ⟨.enum hk hp, hreg.enumNotNone n vs hk p hp⟩
      | _ => cases h
    | custom =>
      simp only [leafL] at h
      split at h
      · rename_i hadm
        have hp : reg.customParseLiteral n (vars.getD []) l = .value pv := by
          cases hp : reg.customParseLiteral n (vars.getD []) l <;> rw [hp] at h <;> cases h
          rfl
        have hok : CustomOK reg n pv := .inr ⟨l, vars.getD [], hn, hl, hadm, hp⟩
        exact ⟨.custom hk hok, hreg.customNotNone n pv hk hok⟩
      · cases h
    | input fs => cases h
    | _ => exact scalar _ hk h

/-- what is known of the variables inside a literal is known of those inside each part the recursion visits -/
private theorem varsFit_call {reg : Reg} {vars : Option (List (String × PV))} {ty t' : Ty} {l x : Lit}
    (h : VarsFit reg vars ty l) (hc : Call (srcL reg vars) reg ty l t' x) : VarsFit reg vars t' x := by
  cases hc with
  | item hst hi hx =>
    cases l <;> cases hi
    cases h with
    | leaf hlf => cases hlf
    | listItems hs hall =>
      cases hst.symm.trans hs
      exact hall x hx
    | scalarPos hs _ _ => cases hst.symm.trans hs
  | single he hst hi =>
    cases h with
    | leaf hlf => exact .leaf hlf
    | var _ => cases he
    | listItems _ _ => cases hi
    | listSingle hs h' =>
      cases hst.symm.trans hs
      exact h'
    | obj hs _ _ => cases hst.symm.trans hs
    | scalarPos hs _ _ => cases hst.symm.trans hs
  | field hst hk hf hm hx =>
    cases l <;> cases hm
    cases h with
    | leaf hlf => cases hlf
    | listSingle hs _ => cases hst.symm.trans hs
    | obj hs hk' hall =>
      cases hst.symm.trans hs
      cases hk.symm.trans hk'
      exact hall _ hf x hx
    | scalarPos hs hk' _ =>
      cases hst.symm.trans hs
      cases hk.symm.trans hk'

private theorem extractVariable_sound {reg : Reg} {vars : Option (List (String × PV))} {ty : Ty} {x : String} {pv : PV}
    (hfit : vars = none ∨ VarsFit reg vars ty (.var x)) (h : extractVariable vars ty x = .ok pv) :
    Conforms reg ty pv := by
  unfold extractVariable at h
  split at h
  · cases h
  · rename_i vs
    split at h
    · cases h
    · rename_i v hv
      split at h
      · cases h
      · rename_i hc
        cases h
        rcases hfit with h0 | hfit
        · cases h0
        cases hfit with
        | leaf hl => cases hl
        | scalarPos _ _ hnv => exact absurd rfl (hnv x)
        | var hvar =>
          cases hnone : pv.isNone with
          | true =>
            cases pv <;> cases hnone
            cases ty with
            | nonNull t => exact absurd rfl hc
            | named n => exact .null rfl
            | list t => exact .null rfl
          | false =>
            have hc' := hvar vs pv rfl hv hnone
            cases ty with
            | nonNull t => exact .nonNull hnone hc'
            | named n => exact hc'
            | list t => exact hc'

/-- Whatever `value_from_ast` accepts conforms to the declared type, for literals of any
    nesting: constant literals (no variable environment: the defaults of variable definitions), and literals
    with variables inside list and object literals whose (already coerced) values fit their positions (`VarsFit`). -/
theorem literal_sound {reg : Reg} (hreg : RegOK reg) (vars : Option (List (String × PV))) :
    ∀ (fuel : Nat) (ty : Ty) (l : Lit) (pv : PV), ty.wf = true → (vars = none ∨ VarsFit reg vars ty l) →
      valueFromAst reg vars fuel ty l = .ok pv → Conforms reg ty pv := by
  intro fuel ty l pv hwf hfit h
  refine gCoerce_sound (Fit := fun ty l => vars = none ∨ VarsFit reg vars ty l) hreg ?_ (fun hf hc => hf.imp_right (varsFit_call · hc)) ?_
    fuel ty l pv hwf hfit (valueFromAst_eq reg vars fuel ▸ h)
  · intro ty n l pv he hn h
    refine leafL_sound hreg hn (fun x hx => ?_) h
    subst hx
    cases he
  · intro ty l pv hf he
    cases l with
    | var x => exact extractVariable_sound hf (Option.some.inj he)
    | _ => cases he

end PyGql.Props.C07
