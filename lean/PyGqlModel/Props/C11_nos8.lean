/-
  C11 — what `ValidExt`'s NoS8 hypotheses mean: the builder's result on a definition depends on the environment
  only through (a) which names resolve and (b) the coercion of the default literals. (a) is the same over the
  definitions alone and over the merged definitions. The code (fix C14-T15, in /repo) evaluates every default in the
  EXTENDED types, and what is left of finding S8 is `BaseDefaults`: a default literal written in a DEFINITION must be a
  value over the definitions alone (the first pass of `build_schema` refuses it otherwise). `DefaultsAgree` (the two
  coercions coincide: what a builder without that fix needs) implies it; nothing else uses it.
-/
import PyGqlModel.Props.C11_merge
import PyGqlModel.Props.C11


namespace PyGql.Props.C11
open PyGql PyGql.Sdl PyGql.SdlSpec

theorem buildArgument_congr (e₁ e₂ : Env) (a : InputValDef) (hr : e₁.resolves a.type.base = e₂.resolves a.type.base)
    (hd : ∀ l, a.default = some l → defaultValue e₁ l a.type = defaultValue e₂ l a.type) :
    buildArgument e₁ a = buildArgument e₂ a := by
  unfold buildArgument checkRef
  rw [hr]
  cases hdef : a.default with
  | none => rfl
  | some l => simp only [hd l hdef]

theorem buildField_congr (e₁ e₂ : Env) (f : FieldDef) (hr : e₁.resolves f.type.base = e₂.resolves f.type.base)
    (ha : ∀ a ∈ f.args, buildArgument e₁ a = buildArgument e₂ a) : buildField e₁ f = buildField e₂ f := by
  unfold buildField checkRef
  rw [hr, mapM_congr_mem _ _ _ ha]

theorem checkNames_congr (e₁ e₂ : Env) (ns : List String) (h : ∀ n ∈ ns, e₁.resolves n = e₂.resolves n) :
    checkNames e₁ ns = checkNames e₂ ns := by
  unfold checkNames
  have : ns.all e₁.resolves = ns.all e₂.resolves := by
    induction ns with
    | nil => rfl
    | cons x xs ih => simp only [List.all_cons, h x (by simp), ih (fun n hn => h n (by simp [hn]))]
  rw [this]

theorem buildTypeDef_congr (e₁ e₂ : Env) (d : TypeDef) (hr : ∀ n, e₁.resolves n = e₂.resolves n)
    (hf : ∀ f ∈ d.fields, ∀ a ∈ f.args, buildArgument e₁ a = buildArgument e₂ a)
    (hi : ∀ a ∈ d.inputFields, buildArgument e₁ a = buildArgument e₂ a) :
    buildTypeDef e₁ d = buildTypeDef e₂ d := by
  have hfs : d.fields.mapM (buildField e₁) = d.fields.mapM (buildField e₂) :=
    mapM_congr_mem _ _ _ (fun f hfm => buildField_congr e₁ e₂ f (hr _) (hf f hfm))
  have his : d.inputFields.mapM (buildArgument e₁) = d.inputFields.mapM (buildArgument e₂) := mapM_congr_mem _ _ _ hi
  unfold buildTypeDef
  rw [hfs, his, checkNames_congr e₁ e₂ d.interfaces (fun n _ => hr n), checkNames_congr e₁ e₂ d.members (fun n _ => hr n)]

theorem buildDirective_congr (e₁ e₂ : Env) (d : DirDef) (ha : ∀ a ∈ d.args, buildArgument e₁ a = buildArgument e₂ a) :
    buildDirective e₁ d = buildDirective e₂ d := by
  unfold buildDirective
  rw [mapM_congr_mem _ _ _ ha]

theorem find_map_isSome (X : List TypeDef) (n : String) : ∀ (l : List TypeDef),
    ((l.map (mergeDef X)).find? (·.name == n)).isSome = (l.find? (·.name == n)).isSome := by
  intro l
  induction l with
  | nil => rfl
  | cons t ts ih =>
    simp only [List.map_cons, List.find?_cons, (mergeDef_spec X t).2.1]
    cases (t.name == n)
    · exact ih
    · rfl

theorem resolves_merged (doc : Doc) (n : String) : (Env.of (typeDefs doc)).resolves n = (Env.of (merged doc)).resolves n := by
  simp only [Env.resolves, Env.of, merged, find_map_isSome]

/-- all argument / input-field definitions of a type definition -/
def inputValsOf (d : TypeDef) : List InputValDef := d.inputFields ++ d.fields.flatMap (·.args)

/-- NoS8 for the code BEFORE fix C14-T15: every default literal of the document (in the merged type definitions
    and in the directive definitions) coerces to the same thing over the definitions alone — what that builder used —
    and over the merged definitions — what the specification says. After the fix every default is evaluated in the
    extended types and `BaseDefaults` below suffices. -/
def DefaultsAgree (doc : Doc) : Prop :=
  (∀ t ∈ merged doc, ∀ a ∈ inputValsOf t, ∀ l, a.default = some l →
      defaultValue (Env.of (typeDefs doc)) l a.type = defaultValue (Env.of (merged doc)) l a.type) ∧
  (∀ d ∈ dirDefs doc, ∀ a ∈ d.args, ∀ l, a.default = some l →
      defaultValue (Env.of (typeDefs doc)) l a.type = defaultValue (Env.of (merged doc)) l a.type)

theorem buildArgument_same_iff (e₁ e₂ : Env) (a : InputValDef) (l : Lit) (hd : a.default = some l)
    (h1 : e₁.resolves a.type.base = true) (h2 : e₂.resolves a.type.base = true) :
    buildArgument e₁ a = buildArgument e₂ a ↔ defaultValue e₁ l a.type = defaultValue e₂ l a.type := by
  constructor
  · intro h
    unfold buildArgument checkRef at h
    simp only [h1, h2, if_true, hd, bind, Except.bind, pure, Except.pure] at h
    cases hv1 : defaultValue e₁ l a.type with
    | error x =>
      cases hv2 : defaultValue e₂ l a.type with
      | error y => rw [hv1, hv2] at h; simp at h; rw [h]
      | ok y => rw [hv1, hv2] at h; simp at h
    | ok x =>
      cases hv2 : defaultValue e₂ l a.type with
      | error y => rw [hv1, hv2] at h; simp at h
      | ok y => rw [hv1, hv2] at h; simp at h; rw [h]
  · intro h
    exact buildArgument_congr e₁ e₂ a (by rw [h1, h2]) (fun l' hl' => by rw [hd] at hl'; cases hl'; exact h)

theorem mergedSame_of_defaultsAgree (doc : Doc) (h : DefaultsAgree doc) :
    ∀ t ∈ typeDefs doc, buildTypeDef (Env.of (typeDefs doc)) (mergeDef (typeExts doc) t)
                      = buildTypeDef (Env.of (merged doc)) (mergeDef (typeExts doc) t) := by
  intro t ht
  have hm : mergeDef (typeExts doc) t ∈ merged doc := List.mem_map_of_mem ht
  have harg : ∀ a ∈ inputValsOf (mergeDef (typeExts doc) t),
      buildArgument (Env.of (typeDefs doc)) a = buildArgument (Env.of (merged doc)) a := by
    intro a ha
    exact buildArgument_congr _ _ a (resolves_merged doc _) (fun l hl => h.1 _ hm a ha l hl)
  apply buildTypeDef_congr _ _ _ (resolves_merged doc)
  · intro f hf a ha
    exact harg a (List.mem_append_right _ (List.mem_flatMap.mpr ⟨f, hf, ha⟩))
  · intro a ha
    exact harg a (List.mem_append_left _ ha)

theorem directivesSame_of_defaultsAgree (doc : Doc) (h : DefaultsAgree doc) :
    ∀ dd ∈ dirDefs doc, buildDirective (Env.of (typeDefs doc)) dd = buildDirective (Env.of (merged doc)) dd := by
  intro dd hdd
  apply buildDirective_congr
  intro a ha
  exact buildArgument_congr _ _ a (resolves_merged doc _) (fun l hl => h.2 dd hdd a ha l hl)

theorem mapM_ok_of_forall {α β} (f : α → R β) : ∀ (l : List α), (∀ x ∈ l, ∃ b, f x = .ok b) → ∃ bs, l.mapM f = .ok bs :=
  fun l => (ok_mapM f l).mpr

theorem mapM_all_ok {α β} (f : α → R β) (l : List α) (rs : List β) (h : l.mapM f = .ok rs) : ∀ x ∈ l, ∃ r, f x = .ok r :=
  (ok_mapM f l).mp ⟨rs, h⟩

theorem hasDup_false_iff (l : List String) : hasDup l = false ↔ l.Nodup := by
  induction l with
  | nil => simp [hasDup]
  | cons x xs ih =>
    simp only [hasDup, Bool.or_eq_false_iff, List.nodup_cons, ih]
    simp

theorem defaultValueX_same (e : Env) (hide : Option String) (l : Lit) (ty : Ty) : defaultValueX e e hide l ty = defaultValue e l ty := by
  unfold defaultValueX; split <;> rfl

theorem buildArgumentX_self (e : Env) (hide : Option String) : buildArgumentX e e hide = buildArgument e := by
  funext a
  unfold buildArgumentX buildArgument
  simp only [defaultValueX_same]

theorem buildFieldX_self (e : Env) (hide : Option String) : buildFieldX e e hide = buildField e := by
  funext f
  unfold buildFieldX buildField
  rw [buildArgumentX_self]

theorem buildTypeDefX_self (e : Env) (hide : Option String) (d : TypeDef) : buildTypeDefX e e hide d = buildTypeDef e d := by
  unfold buildTypeDefX buildTypeDef
  rw [buildFieldX_self, buildArgumentX_self]

theorem buildX_base_of_merged (eB eX : Env) (hide : Option String) (X : List TypeDef) (t : TypeDef) (r : TypeD)
    (hm : buildTypeDefX eB eX hide (mergeDef X t) = .ok r) : ∃ bt, buildTypeDefX eB eX hide t = .ok bt := by
  obtain ⟨s1, s2, s3, s4, s5, s6, s7, s8⟩ := mergeDef_spec X t
  have hm : Ok (buildTypeDefX eB eX hide (mergeDef X t)) := ⟨r, hm⟩
  show Ok (buildTypeDefX eB eX hide t)
  unfold buildTypeDefX at hm ⊢
  -- the member lists of the merged definition are those of `t` followed by those of its blocks
  rw [s1, s4, s5, s6, s7, s8] at hm
  have pre : ∀ {α β} (f : α → R β) (l m : List α), Ok ((l ++ m).mapM f) → Ok (l.mapM f) :=
    fun f l m => ok_mapM_mono (fun x hx => List.mem_append_left m hx) fun _ _ h => h
  have names : ∀ l m, Ok (checkNames eB (l ++ m)) → Ok (checkNames eB l) :=
    fun l m ⟨_, h⟩ => ⟨(), (checkNames_append_inv eB l m h).1⟩
  cases hk : t.kind <;> rw [hk] at hm
  · exact ok_pure _
  · exact ok_bind_mono (pre _ _ _) (fun _ _ => ok_bind_mono (names _ _) fun _ _ _ => ok_pure _) hm
  · exact ok_bind_mono (pre _ _ _) (fun _ _ _ => ok_pure _) hm
  · exact ok_bind_mono (names _ _) (fun _ _ _ => ok_pure _) hm
  · refine ok_bind_mono (fun h => ?_) (fun _ _ => ok_bind_mono (pre _ _ _) fun _ _ _ => ok_pure _) hm
    rw [ok_failIf, hasDup_false_iff] at h ⊢
    rw [List.map_append] at h
    exact (List.nodup_append.mp h).1
  · exact ok_bind_mono (pre _ _ _) (fun _ _ _ => ok_pure _) hm

theorem build_base_of_merged (env : Env) (X : List TypeDef) (t : TypeDef) (r : TypeD)
    (hm : buildTypeDef env (mergeDef X t) = .ok r) : ∃ bt, buildTypeDef env t = .ok bt := by
  rw [← buildTypeDefX_self env none] at hm ⊢
  exact buildX_base_of_merged env env none X t r hm

theorem checkRef_ok_transfer (e₁ e₂ : Env) (t : Ty) (hr : e₁.resolves t.base = e₂.resolves t.base) :
    Ok (checkRef e₁ t) → Ok (checkRef e₂ t) := by
  unfold checkRef
  rw [hr]
  exact id

theorem buildArgument_ok_transfer (e₁ e₂ : Env) (a : InputValDef) (hr : e₁.resolves a.type.base = e₂.resolves a.type.base)
    (hd : ∀ l, a.default = some l → ∃ v, defaultValue e₂ l a.type = .ok v) (h : ∃ r, buildArgument e₁ a = .ok r) :
    ∃ r, buildArgument e₂ a = .ok r := by
  unfold buildArgument at h ⊢
  refine ok_bind_mono (checkRef_ok_transfer e₁ e₂ _ hr) (fun _ _ _ => ?_) h
  cases hdef : a.default with
  | none => exact ok_pure _
  | some l => exact (ok_bind_last Iff.rfl).mpr (hd l hdef)

theorem buildField_ok_transfer (e₁ e₂ : Env) (f : FieldDef) (hr : ∀ n, e₁.resolves n = e₂.resolves n)
    (hd : ∀ a ∈ f.args, ∀ l, a.default = some l → ∃ v, defaultValue e₂ l a.type = .ok v) (h : ∃ r, buildField e₁ f = .ok r) :
    ∃ r, buildField e₂ f = .ok r := by
  unfold buildField at h ⊢
  exact ok_bind_mono (checkRef_ok_transfer e₁ e₂ _ (hr _)) (fun _ _ =>
    ok_bind_mono (ok_mapM_mono (fun _ hx => hx) fun a ha => buildArgument_ok_transfer e₁ e₂ a (hr _) (hd a ha)) fun _ _ h =>
      (ok_bind_last Iff.rfl).mpr ((ok_bind_last Iff.rfl).mp h)) h

theorem buildTypeDef_ok_transfer (e₁ e₂ : Env) (d : TypeDef) (hr : ∀ n, e₁.resolves n = e₂.resolves n)
    (hd : ∀ a ∈ inputValsOf d, ∀ l, a.default = some l → ∃ v, defaultValue e₂ l a.type = .ok v)
    (h : ∃ r, buildTypeDef e₁ d = .ok r) : ∃ r, buildTypeDef e₂ d = .ok r := by
  have fields : Ok (d.fields.mapM (buildField e₁)) → Ok (d.fields.mapM (buildField e₂)) :=
    ok_mapM_mono (fun _ hx => hx) fun f hf => buildField_ok_transfer e₁ e₂ f hr
      fun a ha => hd a (List.mem_append_right _ (List.mem_flatMap.mpr ⟨f, hf, ha⟩))
  have names : ∀ ns, Ok (checkNames e₁ ns) → Ok (checkNames e₂ ns) :=
    fun ns => checkNames_congr e₁ e₂ ns (fun n _ => hr n) ▸ id
  unfold buildTypeDef at h ⊢
  cases hk : d.kind <;> rw [hk] at h
  · exact ok_pure _
  · exact ok_bind_mono fields (fun _ _ => ok_bind_mono (names _) fun _ _ _ => ok_pure _) h
  · exact ok_bind_mono fields (fun _ _ _ => ok_pure _) h
  · exact ok_bind_mono (names _) (fun _ _ _ => ok_pure _) h
  · exact h
  · exact ok_bind_mono (ok_mapM_mono (fun _ hx => hx) fun a ha =>
      buildArgument_ok_transfer e₁ e₂ a (hr _) (hd a (List.mem_append_left _ ha))) (fun _ _ _ => ok_pure _) h

theorem buildDirective_ok_transfer (e₁ e₂ : Env) (d : DirDef) (hr : ∀ n, e₁.resolves n = e₂.resolves n)
    (hd : ∀ a ∈ d.args, ∀ l, a.default = some l → ∃ v, defaultValue e₂ l a.type = .ok v)
    (h : ∃ r, buildDirective e₁ d = .ok r) : ∃ r, buildDirective e₂ d = .ok r := by
  unfold buildDirective at h ⊢
  exact ok_bind_mono (ok_mapM_mono (fun _ hx => hx) fun a ha => buildArgument_ok_transfer e₁ e₂ a (hr _) (hd a ha))
    (fun _ _ _ => ok_pure _) h

/-- **NoS8 after fix C14-T15**: every default literal written in a DEFINITION of the document (type definitions and
    directive definitions — not extension blocks) is a value of its type over the definitions alone. A literal for
    which this fails (`s8_not_baseDefaults`) is still refused by the first pass of `build_schema`. -/
def BaseDefaults (doc : Doc) : Prop :=
  (∀ t ∈ typeDefs doc, ∀ a ∈ inputValsOf t, ∀ l, a.default = some l → ∃ v, defaultValue (Env.of (typeDefs doc)) l a.type = .ok v) ∧
  (∀ d ∈ dirDefs doc, ∀ a ∈ d.args, ∀ l, a.default = some l → ∃ v, defaultValue (Env.of (typeDefs doc)) l a.type = .ok v)

/-- the second thing fix C14-T15 leaves: the fields of an input type are extended while the type itself is in progress,
    so a default of one of its own fields whose evaluation needs the type again (`needsHidden`) keeps its value over
    the un-extended types (or is refused, if it has none). `SelfDefaults`: that changes no default of its members. -/
def SelfDefaults (doc : Doc) : Prop :=
  ∀ t ∈ typeDefs doc,
    buildTypeDefX (Env.of (typeDefs doc)) ((Env.of (typeDefs doc)).extended (typeExts doc)) (hideFor t.kind t.name) (mergeDef (typeExts doc) t)
      = buildTypeDefX (Env.of (typeDefs doc)) ((Env.of (typeDefs doc)).extended (typeExts doc)) none (mergeDef (typeExts doc) t)

theorem selfDefaults_of_kind (eB eX : Env) (t : TypeDef) (d : TypeDef) (h : t.kind ≠ .input) :
    buildTypeDefX eB eX (hideFor t.kind t.name) d = buildTypeDefX eB eX none d := by
  rw [hideFor, beq_false_of_ne h, if_neg Bool.false_ne_true]

theorem selfDefaults_of_noDefaults (eB eX : Env) (h₁ h₂ : Option String) (d : TypeDef) (hk : d.kind = .input)
    (h : ∀ a ∈ d.inputFields, a.default = none) : buildTypeDefX eB eX h₁ d = buildTypeDefX eB eX h₂ d := by
  unfold buildTypeDefX
  simp only [hk]
  have : d.inputFields.mapM (buildArgumentX eB eX h₁) = d.inputFields.mapM (buildArgumentX eB eX h₂) := by
    apply mapM_congr_mem
    intro a ha
    unfold buildArgumentX
    rw [h a ha]
  rw [this]

theorem base_builds_of_baseDefaults (doc : Doc) (d : SchemaD) (hdecl : Declared doc = some d) (h : BaseDefaults doc) :
    (∃ bts, (typeDefs doc).mapM (buildTypeDef (Env.of (typeDefs doc))) = .ok bts) ∧
    (∃ bds, (dirDefs doc).mapM (buildDirective (Env.of (typeDefs doc))) = .ok bds) := by
  obtain ⟨hts, hds, _⟩ := declared_parts doc d hdecl
  have hr : ∀ n, (Env.of (merged doc)).resolves n = (Env.of (typeDefs doc)).resolves n := fun n => (resolves_merged doc n).symm
  constructor
  · apply mapM_ok_of_forall
    intro t ht
    have hq := mapM_all_ok _ _ _ (by rw [← mapM_map_eq]; exact hts :
      (typeDefs doc).mapM (fun t => buildTypeDef (Env.of (merged doc)) (mergeDef (typeExts doc) t)) = .ok d.types) t ht
    obtain ⟨r, hr'⟩ := hq
    exact buildTypeDef_ok_transfer _ _ t hr (h.1 t ht) (build_base_of_merged _ _ t r hr')
  · apply mapM_ok_of_forall
    intro dd hdd
    exact buildDirective_ok_transfer _ _ dd hr (h.2 dd hdd) (mapM_all_ok _ _ _ hds dd hdd)

/-- the type-system rules the builder is responsible for, for a document WITH extensions, with NoS8 stated on the
    default literals (`baseDefaults`). Compared with `ValidExt`: `baseBuilds` / `baseDirectives` are derived, and the
    built definitions `bts` are not a parameter. -/
structure ValidDoc (doc : Doc) (d : SchemaD) : Prop where
  uniqueTypes : ((typeDefs doc).map (·.name)).Nodup
  uniqueDirectives : ((dirDefs doc).map (·.name)).Nodup
  oneSchema : (schemaDefs doc).length ≤ 1
  noBuiltinNames : ∀ t ∈ typeDefs doc, isDefaultName t.name = false
  extTargets : ∀ e ∈ typeExts doc, ∃ t ∈ typeDefs doc, t.name = e.name ∧ t.kind = e.kind
  /-- every member of the MERGED definitions builds — in particular every default literal is a valid constant of its
      declared type over the merged definitions — and `d` is the declared content -/
  declares : Declared doc = some d
  /-- **NoS8** (what fix C14-T15 leaves of it) -/
  baseDefaults : BaseDefaults doc
  /-- … and no default of an input type's own field needs the type again while it is extended (`ValidExt.selfDefaults`) -/
  selfDefaults : SelfDefaults doc
  membersUnique : ∀ r ∈ d.types, (r.fields.map (·.name)).Nodup ∧ (r.inputFields.map (·.name)).Nodup ∧ (r.values.map (·.name)).Nodup ∧
      r.members.Nodup ∧ r.interfaces.Nodup
  noThunkCycle : hasThunkCycle (Env.of (typeDefs doc)) (typeDefs doc) = false
  noEagerCycle : hasEagerCycle d.types = false
  /-- the same for the definitions alone (the builder checks them before it looks at the extensions) -/
  noEagerCycleBase : ∀ bts, (typeDefs doc).mapM (buildTypeDef (Env.of (typeDefs doc))) = .ok bts → hasEagerCycle bts = false
  noSpecified : d.directives.any (fun x => specifiedDirectives.contains x.name) = false
  rootsOk : ∀ bts, (typeDefs doc).mapM (buildTypeDef (Env.of (typeDefs doc))) = .ok bts →
    ∃ r0, buildRoots (Env.of (typeDefs doc)) (schemaDefs doc).head? bts = .ok r0 ∧
      (schemaExtensions doc).foldlM (fun r se => addOps (fun n => isDefaultName n || d.types.any (·.name == n)) (.lib .ext) r se.ops) r0
        = .ok ⟨d.query, d.mutation, d.subscription⟩

theorem validExt_of_validDoc (doc : Doc) (d : SchemaD) (v : ValidDoc doc d) : ∃ bts, ValidExt doc d bts := by
  obtain ⟨⟨bts, hb⟩, hbd⟩ := base_builds_of_baseDefaults doc d v.declares v.baseDefaults
  exact ⟨bts,
    { uniqueTypes := v.uniqueTypes, uniqueDirectives := v.uniqueDirectives, oneSchema := v.oneSchema,
      noBuiltinNames := v.noBuiltinNames, extTargets := v.extTargets, declares := v.declares, baseBuilds := hb,
      baseDirectives := hbd, selfDefaults := fun _ => v.selfDefaults,
      membersUnique := v.membersUnique, noThunkCycle := v.noThunkCycle, noEagerCycleBase := v.noEagerCycleBase bts hb,
      noEagerCycle := v.noEagerCycle, noSpecified := v.noSpecified, rootsOk := v.rootsOk bts hb }⟩

/-- **build_exact** (documents with extensions), with NoS8 as a statement about default literals: if every default
    literal written in a definition is a value over the definitions alone, a valid document builds exactly its
    declared content (every default evaluated in the extended types). -/
theorem build_exact_of_baseDefaults (doc : Doc) (d : SchemaD) (v : ValidDoc doc d) : build doc = .ok d := by
  obtain ⟨bts, hv⟩ := validExt_of_validDoc doc d v
  exact build_exact_partial doc d bts hv

/-- the definition of `Query` in the S8 document, whose argument `a: E = B` carries the literal in question -/
private theorem s8_query : (TypeDef.mk .object "Query" none [] [{ name := "f", type := .named "Int", args := [{ name := "a", type := .named "E", default := some (.enum "B") }] }] [] [] [] [])
    ∈ typeDefs s8Doc := List.Mem.head _

private theorem s8_B_not_E : (defaultValue (Env.of (typeDefs s8Doc)) (.enum "B") (.named "E")).toBool = false := by decide +kernel

/-- the S8 document of `Props/C11.lean` (`f(a: E = B)`, `enum E { A }`, `extend enum E { B }`) satisfies every other
    rule (`s8_valid`) but NOT `DefaultsAgree`: the literal `B` is no value of `E` over the definitions alone and is
    one over the merged definitions. -/
theorem s8_not_defaultsAgree : ¬ DefaultsAgree s8Doc := by
  intro h
  have hm := List.mem_map_of_mem (f := mergeDef (typeExts s8Doc)) s8_query
  have := h.1 _ hm { name := "a", type := .named "E", default := some (.enum "B") } (List.Mem.head _) (.enum "B") rfl
  have h2 : (defaultValue (Env.of (merged s8Doc)) (.enum "B") (.named "E")).toBool = true := by decide +kernel
  have h1 := s8_B_not_E
  simp only [] at this
  rw [this, h2] at h1
  cases h1

/-- …and not `BaseDefaults` either: the literal `B` of the DEFINITION `f(a: E = B)` is no value of `E` over the
    definitions alone — this is the part of finding S8 that fix C14-T15 does not repair (`build_exact_refuted`). -/
theorem s8_not_baseDefaults : ¬ BaseDefaults s8Doc := by
  intro h
  obtain ⟨v, hv⟩ := h.1 _ s8_query { name := "a", type := .named "E", default := some (.enum "B") } (List.Mem.head _) (.enum "B") rfl
  have h1 := s8_B_not_E
  simp only [] at hv
  rw [hv] at h1
  cases h1

/-- `input I { a: Int }  type Query { f(x: I = {}): Int }  extend input I { b: String = "x" }` -/
def s8ValueDoc : Doc := [
  .type { kind := .input, name := "I", inputFields := [{ name := "a", type := .named "Int" }] },
  .type { kind := .object, name := "Query",
          fields := [{ name := "f", type := .named "Int", args := [{ name := "x", type := .named "I", default := some (.obj []) }] }] },
  .ext { kind := .input, name := "I", inputFields := [{ name := "b", type := .named "String", default := some (.str "x") }] }]

def firstArgDefault (s : SchemaD) (ty : String) : Option J :=
  match s.types.find? (·.name == ty) with
  | some q => match q.fields.head? with
    | some f => match f.args.head? with
      | some a => some a.default
      | none => none
    | none => none
  | none => none

def isObjBX : Option J → Bool
  | some (.obj [(k, .str v)]) => k == "b" && v == "x"
  | _ => false

/-- the default `{}` of `f(x: I = {})` is `{b: "x"}` in the built schema (it was `{}` before fix C14-T15), as declared -/
theorem s8_value_form_repaired :
    isObjBX ((build s8ValueDoc).toOption.bind (firstArgDefault · "Query")) = true ∧
    isObjBX ((Declared s8ValueDoc).bind (firstArgDefault · "Query")) = true := by
  decide +kernel

/-- `enum E { A }  type Query { q: Int }  extend enum E { B }  extend type Query { g(m: E = B): Int }` -/
def s8ExtDoc : Doc := [
  .type { kind := .enum, name := "E", values := [{ name := "A" }] },
  .type { kind := .object, name := "Query", fields := [{ name := "q", type := .named "Int" }] },
  .ext { kind := .enum, name := "E", values := [{ name := "B" }] },
  .ext { kind := .object, name := "Query",
         fields := [{ name := "g", type := .named "Int", args := [{ name := "m", type := .named "E", default := some (.enum "B") }] }] }]

/-- a default written in an EXTENSION block may use a member that another extension block adds (the retry of
    `_default_value`); it was refused before fix C14-T15 -/
theorem s8_extension_default_accepted : (build s8ExtDoc).toBool = true ∧ (Declared s8ExtDoc).isSome = true := by
  decide +kernel

/-- `input I { a: Int }  type Query { q(i: I): Int }  extend input I { b: String = "x" }  extend input I { c: I = {b: "y", c: null} }` -/
def s8SelfDoc : Doc := [
  .type { kind := .input, name := "I", inputFields := [{ name := "a", type := .named "Int" }] },
  .type { kind := .object, name := "Query", fields := [{ name := "q", type := .named "Int", args := [{ name := "i", type := .named "I" }] }] },
  .ext { kind := .input, name := "I", inputFields := [{ name := "b", type := .named "String", default := some (.str "x") }] },
  .ext { kind := .input, name := "I", inputFields := [{ name := "c", type := .named "I", default := some (.obj [("b", .str "y"), ("c", .null)]) }] }]

/-- the second residue (`SelfDefaults` excluded): a default of a field of `I` written in an extension of `I`, of type
    `I` itself, which needs a field that an extension adds — `I` is in progress when the literal is retried, and the
    document is refused although it declares a schema. Replay: corpus/C11 `S8-extension-default-of-self-typed-input-field`. -/
theorem s8_self_default_refused :
    (match build s8SelfDoc with | .error (.lib .sdl) => true | _ => false) = true ∧ (Declared s8SelfDoc).isSome = true := by
  decide +kernel

/-- `input I { a: String }  type Query { f(i: I = {a: "x"}): Int }  extend input I { b: String! }` -/
def staleDoc : Doc := [
  .type { kind := .input, name := "I", inputFields := [{ name := "a", type := .named "String" }] },
  .type { kind := .object, name := "Query",
          fields := [{ name := "f", type := .named "Int", args := [{ name := "i", type := .named "I", default := some (.obj [("a", .str "x")]) }] }] },
  .ext { kind := .input, name := "I", inputFields := [{ name := "b", type := .nonNull (.named "String") }] }]

/-- a default that an extension makes invalid (a new required field) is NOT kept (fix C11-H3-6): the document declares
    no schema and the builder refuses it with an SDL error -/
theorem stale_default_rejected :
    (match build staleDoc with | .error (.lib .sdl) => true | _ => false) = true ∧ (Declared staleDoc).isNone = true := by
  decide +kernel

end PyGql.Props.C11
