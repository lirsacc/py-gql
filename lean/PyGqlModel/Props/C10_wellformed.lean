/-
  C10 — `response_wellformed` for every stage outcome.
-/
import PyGqlModel.Response
import PyGqlModel.Spec.ResponseSpec
import PyGqlModel.Props.C10

namespace PyGql.Props.C10
open PyGql PyGql.Response PyGql.Spec.Response PyGql.Generated.ResponseKeys PyGql.Lemmas.ResponseCapture

private theorem strictList_of_forall (l : List J) (h : ∀ j ∈ l, strict j = true) : strictList l = true := by
  induction l with
  | nil => rfl
  | cons x xs ih =>
    rw [strictList, h x (List.mem_cons_self ..), ih fun j hj => h j (List.mem_cons_of_mem _ hj)]
    rfl

private theorem strictKvs_append (a b : List (String × J)) : strictKvs (a ++ b) = (strictKvs a && strictKvs b) := by
  induction a with
  | nil => rfl
  | cons kv r ih => rw [List.cons_append, strictKvs, strictKvs, ih, Bool.and_assoc]

private theorem strict_locJ (a b : String) (lc : Nat × Nat) : strict (locJ a b lc) = true := by
  simp [locJ, strict, strictKvs, J.ofNat]

private theorem strict_segs (p : Path) : strictList (p.map Seg.toJ) = true := by
  apply strictList_of_forall
  intro j hj
  simp only [List.mem_map] at hj
  obtain ⟨s, _, rfl⟩ := hj
  cases s <;> simp [Seg.toJ, strict, J.ofNat]

/-- the error is a `GraphQLSyntaxError` (the only class whose `to_dict` spells the column key `syntaxColKey`) -/
def _root_.PyGql.Response.Err.isSyntax : Err → Bool
  | .syntax _ _ => true
  | _ => false

private theorem locationOk_locJ (K : String) (k : String) (hk : k = "column" ∨ k = K) (text : Text) (pos : Nat) (lc : Nat × Nat)
    (h : indexToLoc text pos = some lc) : locationOk K text (locJ "line" k lc) = true := by
  have hpos : pos ≤ text.length := (index_to_loc_total_iff text pos).mp (by simp [h])
  obtain ⟨l, c, h2, hin⟩ := loc_bounds text pos hpos
  rw [h] at h2
  cases h2
  have hk' : (k == "column" || k == K) = true := by
    rcases hk with rfl | rfl <;> simp
  simp [locJ, locationOk, J.ofNat, hk', hin]

/-- `mapM` in `Option` succeeds when the function does on every element, and what holds of each result holds of all -/
private theorem mapM_some {α β : Type} (f : α → Option β) (P : β → Prop) (l : List α)
    (h : ∀ a ∈ l, ∃ b, f a = some b ∧ P b) :
    ∃ bs, l.mapM f = some bs ∧ bs.length = l.length ∧ ∀ b ∈ bs, P b := by
  induction l with
  | nil => exact ⟨[], rfl, rfl, fun _ hb => nomatch hb⟩
  | cons a l ih =>
    obtain ⟨b, hb, pb⟩ := h a (List.mem_cons_self ..)
    obtain ⟨bs, hbs, hlen, pbs⟩ := ih fun x hx => h x (List.mem_cons_of_mem _ hx)
    refine ⟨b :: bs, by simp [hb, hbs], by simp [hlen], fun x hx => ?_⟩
    rcases List.mem_cons.1 hx with rfl | hx
    · exact pb
    · exact pbs x hx

/-- what an error object must satisfy for `to_dict` to be defined and well-formed: its positions lie
    inside the text (`≤ len`; finding L6 is a syntax error with position `len + 1`) and
    resolver-supplied extensions are strict JSON -/
def ErrOk (text : Text) : Err → Prop
  | .syntax _ p => p ≤ text.length
  | .located _ ns _ => ∀ n ∈ ns.filterMap id, n ≤ text.length
  | .resolver _ ns _ ext => (∀ n ∈ ns.filterMap id, n ≤ text.length) ∧ (∀ kvs, ext = some kvs → strict (.obj kvs) = true)
  | .execution _ => True

private theorem located_ok (K : String) (text : Text) (msg : String) (ns : List (Option Nat)) (path : Option Path)
    (h : ∀ n ∈ ns.filterMap id, n ≤ text.length) :
    ∃ kvs, locatedDict text msg ns path = some kvs ∧
      errorOk K text (.obj kvs) = true ∧ strictKvs kvs = true ∧
      kvs.head? = some ("message", .str msg) ∧ (kvs.all fun kv => kv.1 != "extensions") = true := by
  obtain ⟨locs, hl, _, hlocs⟩ := mapM_some (indexToLoc text)
    (fun lc => locationOk K text (locJ locatedLineKey locatedColKey lc) = true ∧ strict (locJ locatedLineKey locatedColKey lc) = true)
    _ fun p hp => by
      obtain ⟨l, c, h1, _⟩ := loc_bounds text p (h p hp)
      exact ⟨(l, c), h1, locationOk_locJ K locatedColKey (Or.inl rfl) text p (l, c) h1, strict_locJ _ _ _⟩
  replace hlocs : ∀ j ∈ locs.map (locJ locatedLineKey locatedColKey), locationOk K text j = true ∧ strict j = true := by
    intro j hj
    obtain ⟨lc, hlc, rfl⟩ := List.mem_map.1 hj
    exact hlocs lc hlc
  unfold locatedDict
  simp only [hl, locatedKeepsEmptyMessage, Bool.or_true, if_true]
  refine ⟨_, rfl, ?_⟩
  have hseg : ∀ (p : Path), (p.map Seg.toJ).all isPathSeg = true := by
    intro p
    simp only [List.all_eq_true, List.mem_map]
    rintro j ⟨s, _, rfl⟩
    cases s <;> simp [Seg.toJ, isPathSeg, J.ofNat]
  cases locs with
  | nil =>
    cases path with
    | none => simp [errorOk, keysAmong, J.get?, strictKvs, strict]
    | some p =>
      cases p with
      | nil => simp [errorOk, keysAmong, J.get?, strictKvs, strict]
      | cons a b =>
        have := hseg (a :: b)
        have hs := strict_segs (a :: b)
        simp only [List.map_cons] at this hs
        simp [errorOk, keysAmong, J.get?, strictKvs, strict, this, hs]
  | cons lc rest =>
    have h1 : ((lc :: rest).map (locJ locatedLineKey locatedColKey)).all (locationOk K text) = true := by
      simp only [List.all_eq_true]
      exact fun j hj => (hlocs j hj).1
    have h2 : strictList ((lc :: rest).map (locJ locatedLineKey locatedColKey)) = true :=
      strictList_of_forall _ (fun j hj => (hlocs j hj).2)
    simp only [List.map_cons] at h1 h2
    cases path with
    | none => simp [errorOk, keysAmong, J.get?, strictKvs, strict, h1, h2]
    | some p =>
      cases p with
      | nil => simp [errorOk, keysAmong, J.get?, strictKvs, strict, h1, h2]
      | cons a b =>
        have := hseg (a :: b)
        have hs := strict_segs (a :: b)
        simp only [List.map_cons] at this hs
        simp [errorOk, keysAmong, J.get?, strictKvs, strict, this, hs, h1, h2]

/-- `to_dict()` of an admissible error is defined, is a well-formed error map and strict JSON -/
private theorem toDict_ok (K : String) (text : Text) (e : Err) (h : ErrOk text e) (hK : e.isSyntax = true → K = syntaxColKey) :
    ∃ j, e.toDict text = some j ∧ errorOk K text j = true ∧ strict j = true := by
  cases e with
  | «syntax» msg p =>
    have hK' := hK rfl
    subst hK'
    obtain ⟨l, c, h1, _⟩ := loc_bounds text p h
    have hl := locationOk_locJ syntaxColKey syntaxColKey (Or.inr rfl) text p (l, c) h1
    have ht : Err.toDict text (.syntax msg p) =
        some (.obj [("message", .str msg), ("locations", .arr [locJ syntaxLineKey syntaxColKey (l, c)])]) := by
      simp [Err.toDict, h1]
    refine ⟨_, ht, ?_, ?_⟩
    · have : syntaxLineKey = "line" := rfl
      rw [this]
      simp [errorOk, keysAmong, J.get?, hl]
    · simp [strict, strictKvs, strictList, locJ, J.ofNat]
  | located msg ns path =>
    obtain ⟨kvs, h1, h2, h3, h4, _⟩ := located_ok K text msg ns path h
    refine ⟨.obj kvs, by simp [Err.toDict, h1], h2, ?_⟩
    cases kvs with
    | nil => simp at h4
    | cons kv rest =>
      simp at h4; subst h4
      simpa [strict] using h3
  | resolver msg ns path ext =>
    obtain ⟨kvs, h1, h2, h3, h4, h5⟩ := located_ok K text msg ns path h.1
    cases kvs with
    | nil => simp at h4
    | cons kv rest =>
      simp at h4; subst h4
      have hs : strict (.obj (("message", J.str msg) :: rest)) = true := by simpa [strict] using h3
      cases ext with
      | none => exact ⟨_, by simp [Err.toDict, h1], h2, hs⟩
      | some es =>
        cases es with
        | nil => exact ⟨_, by simp [Err.toDict, h1], h2, hs⟩
        | cons e0 es =>
          have hx := h.2 _ rfl
          have ht : Err.toDict text (.resolver msg ns path (some (e0 :: es))) =
              some (J.obj ((("message", J.str msg) :: rest) ++ [(resolverExtKey, J.obj (e0 :: es))])) := by
            simp [Err.toDict, h1]
          refine ⟨_, ht, ?_, ?_⟩
          · have hr : resolverExtKey = "extensions" := rfl
            rw [hr]
            have hm := get_append_ext (("message", J.str msg) :: rest) "message" (.obj (e0 :: es)) (by decide +kernel)
            have hlo := get_append_ext (("message", J.str msg) :: rest) "locations" (.obj (e0 :: es)) (by decide +kernel)
            have hp := get_append_ext (("message", J.str msg) :: rest) "path" (.obj (e0 :: es)) (by decide +kernel)
            have he := get_ext_append (("message", J.str msg) :: rest) (.obj (e0 :: es)) h5
            simp only [errorOk, Bool.and_eq_true] at h2 ⊢
            obtain ⟨⟨⟨⟨k1, k2⟩, k3⟩, k4⟩, _⟩ := h2
            refine ⟨⟨⟨⟨?_, ?_⟩, ?_⟩, ?_⟩, ?_⟩
            · simp only [keysAmong, List.all_append, Bool.and_eq_true] at k1 ⊢
              exact ⟨k1, by simp⟩
            · rw [hm]; exact k2
            · rw [hlo]; exact k3
            · rw [hp]; exact k4
            · rw [he]
          · have hr : resolverExtKey = "extensions" := rfl
            rw [hr]
            simp only [strict, List.cons_append, Bool.and_eq_true] at hs ⊢
            refine ⟨by simp, ?_⟩
            have := strictKvs_append (("message", J.str msg) :: rest) [("extensions", J.obj (e0 :: es))]
            simp only [List.cons_append] at this
            rw [this]
            simp only [Bool.and_eq_true]
            refine ⟨hs.2, ?_⟩
            simpa [strictKvs] using hx
  | execution msg =>
    exact ⟨_, rfl, by simp [errorOk, keysAmong, J.get?], by simp [strict, strictKvs]⟩

/-- `result_wellformed` with the accepted extra spelling `K` of the column key as a parameter: `K` only has to be the syntax
    error's key when the result actually carries a syntax error — with `K := "column"` this is section 7.1 as written -/
theorem result_wellformed_key (K : String) (text : Text) (r : Result)
    (herr : ∀ e ∈ r.errors, ErrOk text e)
    (hK : ∀ e ∈ r.errors, e.isSyntax = true → K = syntaxColKey)
    (hdata : ∀ d, r.data = some d → strict d = true)
    (hsome : r.errors = [] → r.data.isSome = true)
    (hext : r.extensions = []) :
    ∃ j, r.response text = some j ∧ WellFormedK K text j := by
  obtain ⟨js, h1, h2, h3⟩ := mapM_some (Err.toDict text) (fun j => errorOk K text j = true ∧ strict j = true) r.errors
    fun e he => toDict_ok K text e (herr e he) (hK e he)
  unfold Result.response WellFormedK
  simp only [h1, hext, List.isEmpty_nil, if_true, List.append_nil]
  refine ⟨_, rfl, ?_⟩
  cases js with
  | nil =>
    have : r.errors = [] := List.eq_nil_of_length_eq_zero h2.symm
    cases hd : r.data with
    | none =>
      have hh := hsome this
      rw [hd] at hh
      simp at hh
    | some d =>
      have := hdata d hd
      simp [wellFormedB, keysAmong, J.get?, strict, strictKvs, this]
  | cons j0 js =>
    have hall : (j0 :: js).all (errorOk K text) = true := by
      simp only [List.all_eq_true]; exact fun j hj => (h3 j hj).1
    have hstr : strictList (j0 :: js) = true := strictList_of_forall _ (fun j hj => (h3 j hj).2)
    cases hd : r.data with
    | none => simp [wellFormedB, keysAmong, J.get?, strict, strictKvs, hall, hstr]
    | some d =>
      have := hdata d hd
      simp [wellFormedB, keysAmong, J.get?, strict, strictKvs, hall, hstr, this]

/-- a `GraphQLResult` (without result extensions) whose errors are admissible, whose data is strict
    JSON and which has data whenever it has no errors, renders to a well-formed response -/
theorem result_wellformed (text : Text) (r : Result)
    (herr : ∀ e ∈ r.errors, ErrOk text e)
    (hdata : ∀ d, r.data = some d → strict d = true)
    (hsome : r.errors = [] → r.data.isSome = true)
    (hext : r.extensions = []) :
    ∃ j, r.response text = some j ∧ WellFormedK syntaxColKey text j :=
  result_wellformed_key syntaxColKey text r herr (fun _ _ _ => rfl) hdata hsome hext

/-- admissible stage outcomes: every error position reported by a stage lies inside the submitted
    text (`≤ len`), the executed data and the resolver-supplied extensions are strict JSON. These are
    facts about the OTHER stages (lexer/parser spans: C01/C02; scalar serialisers): assumed here, derived for the
    stage record built from the models in Props/C10_stages.lean (`stages_ok`, from `LaterOk`). -/
structure StagesOk (text : Text) (s : Stages) : Prop where
  parse : ∀ m p, s.parse = some (m, p) → p ≤ text.length
  validate : ∀ e ∈ s.validate, ErrOk text e
  coerce : ∀ e ∈ s.coerce, ErrOk text e
  execErrors : ∀ e ∈ s.exec.2, ErrOk text e
  execData : strict s.exec.1 = true

/-- THE FULL STATEMENT (spec keys): whatever stage fails, the response is `WellFormed`. -/
def FullStatement : Prop :=
  ∀ (text : Text) (s : Stages), StagesOk text s →
    ∃ j, (processQuery s).response text = some j ∧ WellFormed text j

/-- the facts about `processQuery s` that make its rendering well-formed, for every admissible stage outcome; besides,
    only a failed parse stage reports a syntax error -/
private theorem stagesOk_facts (text : Text) (s : Stages) (h : StagesOk text s) {P : Prop}
    (k : (∀ e ∈ (processQuery s).errors, ErrOk text e) → (∀ d, (processQuery s).data = some d → strict d = true) →
      ((processQuery s).errors = [] → (processQuery s).data.isSome = true) → (processQuery s).extensions = [] →
      (s.parse = none → ∀ e ∈ (processQuery s).errors, e ∈ s.validate ++ s.coerce ++ s.exec.2 ∨ e.isSyntax = false) → P) : P := by
  -- one case per stage that ends the request: in each, the facts are about an explicit result
  rcases processQuery_cases s with ⟨m, p, hp, he⟩ | ⟨hp, hv, he⟩ | ⟨hp, hv, m, hg, he⟩ | ⟨hp, hv, hg, hc, he⟩ | ⟨hp, hv, hg, hc, he⟩ <;>
    rw [he] at k
  · exact k (fun e he' => List.mem_singleton.1 he' ▸ h.parse m p hp) (fun d hd => nomatch hd) (fun he' => nomatch he') rfl
      (fun hn => nomatch hp.symm.trans hn)
  · exact k h.validate (fun d hd => nomatch hd) (fun he' => absurd he' hv) rfl
      (fun _ e he' => .inl (List.mem_append_left _ (List.mem_append_left _ he')))
  · exact k (fun e he' => List.mem_singleton.1 he' ▸ trivial) (fun d hd => Option.some.inj hd ▸ rfl) (fun _ => rfl) rfl
      (fun _ e he' => .inr (List.mem_singleton.1 he' ▸ rfl))
  · exact k h.coerce (fun d hd => Option.some.inj hd ▸ rfl) (fun _ => rfl) rfl
      (fun _ e he' => .inl (List.mem_append_left _ (List.mem_append_right _ he')))
  · exact k h.execErrors (fun d hd => Option.some.inj hd ▸ h.execData) (fun _ => rfl) rfl
      (fun _ e he' => .inl (List.mem_append_right _ he'))

/-- **response_wellformed (partial: modulo finding X1).** For every text and every admissible
    outcome of the five stages — syntax error, validation errors, no/ambiguous operation, variable
    coercion errors, execution with field errors — `process_graphql_query(...).response()` is defined
    (no exception out of any `to_dict`) and is a well-formed, strict-JSON response whose locations lie
    inside the submitted text; the ONLY departure from section 7.1 is the spelling
    `Generated.ResponseKeys.syntaxColKey` of the column key of syntax-error locations (a parameter
    re-extracted from `exc.py` on every run; `syntax_column_key_is_misspelt`). What is missing for
    `FullStatement`: that key being `"column"` — tests/test_graphql.py asserts the misspelt one. -/
theorem response_wellformed_partial (text : Text) (s : Stages) (h : StagesOk text s) :
    ∃ j, (processQuery s).response text = some j ∧ WellFormedK syntaxColKey text j :=
  stagesOk_facts text s h (fun h1 h2 h3 h4 _ => result_wellformed text _ h1 h2 h3 h4)

/-- non-vacuity: a two-line request whose validation failed at offset 7 (line 2, column 3) is an
    admissible stage outcome, and so is an executed one with a field error carrying extensions -/
example : StagesOk [123, 32, 97, 13, 10, 32, 32, 122, 32, 125]
    { parse := none, validate := [.located "Cannot query field" [some 7] none], getOp := none, coerce := [], exec := (.null, []) } :=
  ⟨by simp, fun _ he => List.mem_singleton.1 he ▸ fun _ hn => List.mem_singleton.1 hn ▸ by decide, by simp, by simp,
    by decide +kernel⟩

example : StagesOk [123, 32, 97, 32, 125]
    { parse := none, validate := [], getOp := none, coerce := [],
      exec := (.obj [("a", .null)], [.resolver "boom" [some 2] (some [.key "a"]) (some [("code", .num 1)])]) } :=
  ⟨by simp, by simp, by simp,
    fun _ he => List.mem_singleton.1 he ▸
      ⟨fun _ hn => List.mem_singleton.1 hn ▸ by decide, fun _ h => Option.some.inj h ▸ by decide⟩,
    by decide +kernel⟩

/-- the stage outcome of the EMPTY request text: `Unexpected <EOF>` at position 0 -/
private def emptyRequest : Stages :=
  { parse := some ("Unexpected <EOF> (1:1):", 0), validate := [], getOp := none, coerce := [], exec := (.null, []) }

/-- **Refutation of the full statement on today's code (finding X1)**: the response to the empty
    request text is `{"errors": [{"message": …, "locations": [{"line": 1, "columne": 1}]}]}` — the
    location has no `column`. Replay on the implementation: `graphql_blocking(schema, "")`. -/
theorem full_statement_refuted : ¬ FullStatement := by
  intro h
  obtain ⟨j, h1, h2⟩ := h [] emptyRequest ⟨by simp [emptyRequest], by simp [emptyRequest], by simp [emptyRequest],
    by simp [emptyRequest], by decide +kernel⟩
  have hr : (processQuery emptyRequest).response [] = some (.obj [("errors", .arr [.obj [("message", .str "Unexpected <EOF> (1:1):"),
      ("locations", .arr [.obj [("line", .num 1), ("columne", .num 1)]])]])]) := by rfl
  rw [hr] at h1
  cases h1
  revert h2
  decide +kernel

/-- the stages after parsing report errors of their own classes (`ValidationError`, `VariableCoercionError`, `CoercionError`,
    `ResolverError`, …), never a `GraphQLSyntaxError`: a fact about the other stages' exception classes, assumed here; it
    holds with no hypothesis of the stage record built from the models (`stages_typed`, Props/C10_stages.lean) -/
def StagesTyped (s : Stages) : Prop := ∀ e ∈ s.validate ++ s.coerce ++ s.exec.2, e.isSyntax = false

/-- For every request text that PARSES and every admissible outcome of the later
    stages (validation errors, no / ambiguous operation, variable coercion errors, execution with field errors) the response
    satisfies section 7.1 AS WRITTEN (`WellFormed`, column key `"column"`): `FullStatement` restricted to `s.parse = none`
    holds in full. Together with `response_wellformed_partial` (syntax errors: well-formed up to the key `syntaxColKey`) and
    `full_statement_refuted`: the misspelt key of syntax-error locations (X1) is the only thing that separates today's code
    from the full statement. -/
theorem response_wellformed_unless_syntax_error (text : Text) (s : Stages) (h : StagesOk text s) (ht : StagesTyped s)
    (hp : s.parse = none) :
    ∃ j, (processQuery s).response text = some j ∧ WellFormed text j := by
  refine stagesOk_facts text s h (fun h1 h2 h3 h4 h5 => result_wellformed_key "column" text _ h1 ?_ h2 h3 h4)
  intro e he hs
  rcases h5 hp e he with hm | hn
  · exact absurd hs (ht e hm ▸ Bool.false_ne_true)
  · exact absurd hs (hn ▸ Bool.false_ne_true)

/-- non-vacuity: the two-line request whose validation failed (example above) parses and is typed -/
example : StagesTyped { parse := none, validate := [.located "Cannot query field" [some 7] none], getOp := none, coerce := [], exec := (.null, []) } := by
  intro e he
  simp at he
  subst he
  rfl

end PyGql.Props.C10
