/-
  C06 - property theorems: the four VARIABLE rules (5.8.1, 5.8.3, 5.8.4, 5.8.5):
  `UniqueVariableNamesChecker`, `NoUndefinedVariablesChecker`, `NoUnusedVariablesChecker`,
  `VariablesInAllowedPositionChecker`; clauses in `Spec/ValidSpecVars.lean`.
-/
import PyGqlModel.Props.C06_names
import PyGqlModel.Spec.ValidSpecVars
import PyGqlModel.Lemmas.ValidateVarsIdle
import PyGqlModel.Lemmas.ValidateVarsFinal
import PyGqlModel.Props.C06_witness
import PyGqlModel.Lemmas.ListBasics
namespace PyGql.Props.C06
open PyGql PyGql.Validate PyGql.Validate.Spec

/-! ### UniqueVariableNamesChecker

  The rule acts at operation nodes (reset) and at variable definitions (push, maybe report); everywhere else it
  keeps its state, so whole sub-trees of body nodes are skipped over with `CFK`. -/

private theorem uv_noskip (s : SchemaD) (fx : Fixes) (n : Node) (ti : TI) (rs : RS) :
    (enterRule s fx .uniqueVariableNames n ti rs).2 = false := by
  cases n <;> rfl

private theorem uv_leave_errs (s : SchemaD) (fx : Fixes) (n : Node) (ti : TI) (rs : RS) :
    (leaveRule s fx .uniqueVariableNames n ti rs).errs = rs.errs := by
  cases n <;> rfl

/-- below variable definitions / in directives and selections the rule does nothing -/
private theorem uv_idle (s : SchemaD) (fx : Fixes) (n : Node) (hn : n.isBody = true) : IdleAt s fx .uniqueVariableNames n := by
  cases n <;> first | exact ⟨fun _ _ => rfl, fun _ _ => rfl⟩ | cases hn

private theorem uv_cfk (s : SchemaD) (fx : Fixes) (R : RS) :
    CFK ⟨s, fx, [.uniqueVariableNames]⟩ (fun st => st.rs = R) (fun _ => 0) (fun _ => 0) :=
  .of_idle (uv_idle s fx) R

/-- a node of the single-rule chain: enter, body, leave (the rule never raises `SkipNode`) -/
private theorem uv_visitNode (s : SchemaD) (fx : Fixes) (n : Node) (body : St → St) (st : St) :
    visitNode ⟨s, fx, [.uniqueVariableNames]⟩ n body st =
      leave ⟨s, fx, [.uniqueVariableNames]⟩ n
        (body ⟨tiEnter s n st.ti, (enterRule s fx .uniqueVariableNames n (tiEnter s n st.ti) st.rs).1⟩) :=
  visitNode_one_noskip s fx _ n body st (uv_noskip ..)

private theorem uv_visitNode_E (s : SchemaD) (fx : Fixes) (n : Node) (body : St → St) (st : St) :
    E (visitNode ⟨s, fx, [.uniqueVariableNames]⟩ n body st) =
      E (body ⟨tiEnter s n st.ti, (enterRule s fx .uniqueVariableNames n (tiEnter s n st.ti) st.rs).1⟩) := by
  rw [uv_visitNode, leave_one_rule]
  exact congrArg List.length (uv_leave_errs ..)

private theorem uv_enter_varDef (s : SchemaD) (fx : Fixes) (v : VarDef) (ti : TI) (rs : RS) :
    (enterRule s fx .uniqueVariableNames (.varDef v) ti rs).1.errs.length = rs.errs.length + dupCount rs.uvVars [v.name] ∧
    (enterRule s fx .uniqueVariableNames (.varDef v) ti rs).1.uvVars = v.name :: rs.uvVars := by
  have e : (enterRule s fx .uniqueVariableNames (.varDef v) ti rs).1 =
      (let st := if rs.uvVars.contains v.name then rs.err .uniqueVariableNames else rs
       { st with uvVars := v.name :: st.uvVars }) := rfl
  rw [e]
  by_cases hc : v.name ∈ rs.uvVars <;> simp [hc, dupCount, RS.err]

private theorem uv_visitVarDef (s : SchemaD) (fx : Fixes) (v : VarDef) (st : St) :
    E (visitVarDef ⟨s, fx, [.uniqueVariableNames]⟩ v st) = E st + dupCount st.rs.uvVars [v.name] ∧
    (visitVarDef ⟨s, fx, [.uniqueVariableNames]⟩ v st).rs.uvVars = v.name :: st.rs.uvVars := by
  rw [visitVarDef, uv_visitNode, leave_one_rule]
  have he := uv_enter_varDef s fx v (tiEnter s (.varDef v) st.ti) st.rs
  generalize (enterRule s fx .uniqueVariableNames (.varDef v) (tiEnter s (.varDef v) st.ti) st.rs).1 = rs1 at he ⊢
  have hb : _ = rs1 := (varDefBodyK (uv_cfk s fx rs1) v ⟨tiEnter s (.varDef v) st.ti, rs1⟩ rfl).1
  exact ⟨(congrArg (·.errs.length) hb).trans he.1, (congrArg RS.uvVars hb).trans he.2⟩

private theorem uv_visitVarDefs (s : SchemaD) (fx : Fixes) (vs : List VarDef) (st : St) :
    E (vs.foldl (fun st v => visitVarDef ⟨s, fx, [.uniqueVariableNames]⟩ v st) st) =
      E st + dupCount st.rs.uvVars (vs.map (·.name)) := by
  induction vs generalizing st with
  | nil => rfl
  | cons v vs ih =>
    have h1 := uv_visitVarDef s fx v st
    rw [List.foldl_cons, ih, h1.1, h1.2]
    simp only [List.map_cons, dupCount, Nat.add_zero]
    omega

/-- duplicates among the variables of one definition -/
def defVarDups : Def → Nat
  | .op _ _ vars _ _ _ => dupCount [] (vars.map (·.name))
  | _ => 0

private theorem uv_visitDef (s : SchemaD) (fx : Fixes) (x : Def) (st : St) :
    E (visitDef ⟨s, fx, [.uniqueVariableNames]⟩ x st) = E st + defVarDups x := by
  have hb : ∀ dirs ssid sels (st1 : St), _ = st1.rs := fun dirs ssid sels st1 =>
    (defBodyK (uv_cfk s fx st1.rs) dirs ssid sels st1 rfl).1
  cases x with
  | op kind name vars dirs ssid sels =>
    rw [visitDef, uv_visitNode_E]
    simp only [E, hb]
    exact uv_visitVarDefs s fx vars _
  | frag name on dirs ssid sels =>
    rw [visitDef, uv_visitNode_E]
    simp only [E, hb]
    rfl
  | ts a b =>
    rw [visitDef, uv_visitNode_E]
    rfl

private theorem sum_map_zero_iff {α} (f : α → Nat) (l : List α) : (l.map f).sum = 0 ↔ ∀ x ∈ l, f x = 0 := by
  induction l with
  | nil => simp
  | cons a as ih => simp only [List.map_cons, List.sum_cons, List.mem_cons, forall_eq_or_imp, ← ih]; omega

private theorem uv_visitDefs (s : SchemaD) (fx : Fixes) (ds : List Def) (st : St) :
    E (ds.foldl (fun st x => visitDef ⟨s, fx, [.uniqueVariableNames]⟩ x st) st) = E st + (ds.map defVarDups).sum := by
  induction ds generalizing st with
  | nil => simp
  | cons x xs ih => rw [List.foldl_cons, ih, uv_visitDef, List.map_cons, List.sum_cons]; omega

/-- **5.8.1 Variable uniqueness**: `UniqueVariableNamesChecker` run alone reports nothing ⇔ the variables of
    every operation of the document are pairwise distinct -/
theorem rule_unique_variable_names_iff (s : SchemaD) (fx : Fixes) (d : Doc) :
    Silent s fx .uniqueVariableNames d ↔ Spec.uniqueVariableNames d := by
  unfold Silent alone Spec.uniqueVariableNames
  rw [visitDocument, uv_visitNode_E, uv_visitDefs]
  show 0 + (d.defs.map defVarDups).sum = 0 ↔ _
  rw [Nat.zero_add, sum_map_zero_iff]
  constructor
  · intro h x hx k n vs ds i ss e
    have := h x hx; subst e
    simpa [defVarDups, dupCount_nil_zero_iff] using this
  · intro h x hx
    cases x with
    | op k n vs ds i ss => simpa [defVarDups, dupCount_nil_zero_iff] using h _ hx k n vs ds i ss rfl
    | frag => rfl
    | ts => rfl

/-! non-vacuity: `query($a: Int, $b: Int) { f }` is silent, `query($a: Int, $a: Int) { f }` is reported -/
example : Spec.uniqueVariableNames
    ⟨[.op "query" none [{ name := "a", type := .named "Int", default := none }, { name := "b", type := .named "Int", default := none }] [] 0 [.field none "f" [] [] false 0 []]]⟩ := by
  intro x hx k n vs ds i ss e
  simp only [List.mem_singleton] at hx
  subst hx; cases e; decide
example : ¬ Spec.uniqueVariableNames
    ⟨[.op "query" none [{ name := "a", type := .named "Int", default := none }, { name := "a", type := .named "Int", default := none }] [] 0 [.field none "f" [] [] false 0 []]]⟩ := by
  intro h
  have := h _ (List.mem_singleton.mpr rfl) _ _ _ _ _ _ rfl
  revert this; decide

/-! ### the three rules built on `VariablesCollector`

  They hold for the FIXED `_flatten_fragments` (`fx.v4`, ledger V4: transitive closure independent of the order
  of definitions; refuted for the unfixed variant by `perm_definitions_refuted_unfixed`), the position rule also
  for the fixed usage recording (`fx.v3`, ledger V3: every usage is kept). `Fixes.all` = /repo HEAD has both. -/

private theorem vcrule_undefined (s : SchemaD) (fx : Fixes) :
    VCRule s fx .noUndefinedVariables (·.vcUndef) (fun v rs => { rs with vcUndef := v }) VC.undefinedErrors where
  init := rfl
  get_set _ _ := rfl
  errs_set _ _ := rfl
  enter n ti rs := by
    cases n with
    | value v => cases v <;> rfl
    | _ => rfl
  leave n ti rs hn := by cases n <;> first | rfl | cases hn
  leaveDoc d ti rs := errN_length ..

private theorem vcrule_unused (s : SchemaD) (fx : Fixes) :
    VCRule s fx .noUnusedVariables (·.vcUnused) (fun v rs => { rs with vcUnused := v }) VC.unusedErrors where
  init := rfl
  get_set _ _ := rfl
  errs_set _ _ := rfl
  enter n ti rs := by
    cases n with
    | value v => cases v <;> rfl
    | _ => rfl
  leave n ti rs hn := by cases n <;> first | rfl | cases hn
  leaveDoc d ti rs := errN_length ..

private theorem vcrule_position (s : SchemaD) (fx : Fixes) :
    VCRule s fx .variablesInAllowedPosition (·.vcPos) (fun v rs => { rs with vcPos := v }) (VC.positionErrors s) where
  init := rfl
  get_set _ _ := rfl
  errs_set _ _ := rfl
  enter n ti rs := by
    cases n with
    | value v => cases v <;> rfl
    | _ => rfl
  leave n ti rs hn := by cases n <;> first | rfl | cases hn
  leaveDoc d ti rs := errN_length ..

/-- **5.8.3 All variable uses defined**: `NoUndefinedVariablesChecker` run alone reports nothing ⇔ every variable
    used by an operation - in an argument of its own directives and selections, or in a fragment it spreads
    directly or TRANSITIVELY - is declared by that operation (operations identified by name, as the code does) -/
theorem rule_no_undefined_variables_iff (s : SchemaD) (fx : Fixes) (h4 : fx.v4 = true) (d : Doc) :
    Silent s fx .noUndefinedVariables d ↔ Spec.noUndefinedVariables d := by
  unfold Silent alone
  rw [vc_rule_errors (vcrule_undefined s fx) d]
  exact undefined_final fx h4 s d

/-- **5.8.4 All variables used**: `NoUnusedVariablesChecker` run alone reports nothing ⇔ every variable declared
    by an operation is used by it, directly or in a (transitively) spread fragment -/
theorem rule_no_unused_variables_iff (s : SchemaD) (fx : Fixes) (h4 : fx.v4 = true) (d : Doc) :
    Silent s fx .noUnusedVariables d ↔ Spec.noUnusedVariables d := by
  unfold Silent alone
  rw [vc_rule_errors (vcrule_unused s fx) d]
  exact unused_final fx h4 s d

/-- **5.8.5 All variable usages are allowed** (the rule the code implements): `VariablesInAllowedPositionChecker`
    run alone reports nothing ⇔ every usage of a variable `$x` by an operation (own or through spread fragments),
    at a position whose expected input type is known, with `$x` declared by the operation with a known type, passes
    `Spec.usageAllowed` (`is_subtype`, with the default-value relaxations for a nullable variable at a non-null
    position) -/
theorem rule_variables_in_allowed_position_iff (s : SchemaD) (fx : Fixes) (h3 : fx.v3 = true) (h4 : fx.v4 = true)
    (d : Doc) :
    Silent s fx .variablesInAllowedPosition d ↔ Spec.variablesInAllowedPosition s d := by
  unfold Silent alone
  rw [vc_rule_errors (vcrule_position s fx) d]
  exact position_final fx h3 h4 s d

/-! non-vacuity (schema and documents of `Props/C06_witness.lean`; `Fixes.all` satisfies the hypotheses):
    `query($v:Int){...A} fragment C on Query{a(x:$v)} fragment B on Query{...C} fragment A on Query{...B}`
    uses `$v` only through the spread chain A > B > C -/
example : Spec.noUndefinedVariables v4a ∧ Spec.noUnusedVariables v4a :=
  ⟨(rule_no_undefined_variables_iff wSchema Fixes.all rfl v4a).mp (by unfold Silent; decide +kernel),
   (rule_no_unused_variables_iff wSchema Fixes.all rfl v4a).mp (by unfold Silent; decide +kernel)⟩
/-- the same document without the variable definition: `$v` is undefined -/
example : ¬ Spec.noUndefinedVariables ⟨[opV [] 1 [sp "A"], fC, fB, fA]⟩ := fun h =>
  absurd ((rule_no_undefined_variables_iff wSchema Fixes.all rfl _).mpr h) (by unfold Silent; decide +kernel)
/-- the chain broken (`A` does not spread `B`): `$v` is unused -/
example : ¬ Spec.noUnusedVariables ⟨[v4ops, fC, fB, fragQ "A" 2 [fld none "o"]]⟩ := fun h =>
  absurd ((rule_no_unused_variables_iff wSchema Fixes.all rfl _).mpr h) (by unfold Silent; decide +kernel)
/-- `query($v:Int){ x: a(l:$v) y: a(x:$v) }`: `Int` at the `[Int]` position `l` is not allowed, at `x` it is -/
example : ¬ Spec.variablesInAllowedPosition wSchema v3a := fun h =>
  absurd ((rule_variables_in_allowed_position_iff wSchema Fixes.all rfl rfl _).mpr h) (by unfold Silent; decide +kernel)
example : Spec.variablesInAllowedPosition wSchema ⟨[opV [vInt] 1 [fld (some "y") "a" [argV "x" "v"]]]⟩ :=
  (rule_variables_in_allowed_position_iff wSchema Fixes.all rfl rfl _).mp (by unfold Silent; decide +kernel)

/-! ### per-operation wording: on documents with unique operation names the key-based clauses are the clauses of
    the specification, one operation definition at a time -/

/-- with distinct keys, the clause "whatever some element filed under `o` has (`P`), some element filed under `o`
    provides (`Q`)" is the clause "every keyed element provides what it has" -/
private theorem perKey_iff {α β γ} {key : α → Option β} {l : List α} (hk : (l.filterMap key).Nodup) (P Q : α → γ → Prop) :
    (∀ o x, (∃ a ∈ l, key a = some o ∧ P a x) → ∃ a ∈ l, key a = some o ∧ Q a x) ↔
      ∀ a ∈ l, (key a).isSome = true → ∀ x, P a x → Q a x := by
  constructor
  · intro h a ha hs x hp
    obtain ⟨o, ho⟩ := Option.isSome_iff_exists.mp hs
    obtain ⟨a', ha', ho', hq⟩ := h o x ⟨a, ha, ho, hp⟩
    rwa [List.inj_of_nodup_filterMap hk ha ha' ho ho']
  · rintro h o x ⟨a, ha, ho, hp⟩
    exact ⟨a, ha, ho, h a ha (by rw [ho]; rfl) x hp⟩

/-- "used by the operations filed under key `o`" (directly: `P`, or in a reachable fragment: `Q`) is "used by some
    operation definition with key `o`" -/
private theorem byOp_iff (d : Doc) (o : String) (P : Def → Prop) (Q : String → Prop) :
    ((∃ df ∈ d.defs, df.opKey? = some o ∧ P df) ∨ ∃ f, OpReaches d o f ∧ Q f) ↔
      ∃ df ∈ d.defs, df.opKey? = some o ∧ (P df ∨ ∃ f, (∃ g, g ∈ defSpreads df ∧ FragReach d g f) ∧ Q f) := by
  unfold OpReaches OpSpreads
  constructor
  · rintro (⟨df, h1, h2, h3⟩ | ⟨f, ⟨g, ⟨df, h1, h2, h3⟩, hr⟩, hu⟩)
    · exact ⟨df, h1, h2, Or.inl h3⟩
    · exact ⟨df, h1, h2, Or.inr ⟨f, ⟨g, h3, hr⟩, hu⟩⟩
  · rintro ⟨df, h1, h2, (h3 | ⟨f, ⟨g, h3, hr⟩, hu⟩)⟩
    · exact Or.inl ⟨df, h1, h2, h3⟩
    · exact Or.inr ⟨f, ⟨g, ⟨df, h1, h2, h3⟩, hr⟩, hu⟩

private theorem usedIn_iff (d : Doc) (o x : String) :
    UsedIn d o x ↔ ∃ df ∈ d.defs, df.opKey? = some o ∧ UsedByOp d df x :=
  byOp_iff d o (x ∈ defVarUses ·) (FragUses d · x)

/-- 5.8.3 per operation definition -/
theorem no_undefined_variables_per_operation (d : Doc) (hk : Spec.uniqueOpKeys d) :
    Spec.noUndefinedVariables d ↔ Spec.noUndefinedVariablesPerOp d := by
  unfold Spec.noUndefinedVariables
  simp only [usedIn_iff, DefinedIn]
  exact perKey_iff hk (UsedByOp d) (fun df x => x ∈ df.vars.map (·.name))

/-- 5.8.4 per operation definition -/
theorem no_unused_variables_per_operation (d : Doc) (hk : Spec.uniqueOpKeys d) :
    Spec.noUnusedVariables d ↔ Spec.noUnusedVariablesPerOp d := by
  unfold Spec.noUnusedVariables
  simp only [usedIn_iff, DefinedIn]
  exact perKey_iff hk (fun df x => x ∈ df.vars.map (·.name)) (UsedByOp d)

private theorem flat_unique {l : List Def} (h : (l.filterMap Def.opKey?).Nodup) {df : Def} {o : String}
    (hdf : df ∈ l) (ho : df.opKey? = some o) :
    (l.flatMap fun df' => if df'.opKey? = some o then df'.vars else []) = df.vars := by
  induction l with
  | nil => cases hdf
  | cons a l ih =>
    have hmem : ∀ y ∈ l, y.opKey? = some o → o ∈ l.filterMap Def.opKey? :=
      fun y hy hk => List.mem_filterMap.mpr ⟨y, hy, hk⟩
    rw [List.flatMap_cons]
    rcases List.mem_cons.mp hdf with rfl | hdf'
    · rw [if_pos ho]
      rw [List.filterMap_cons, ho, List.nodup_cons] at h
      have : (l.flatMap fun df' => if df'.opKey? = some o then df'.vars else []) = [] := by
        rw [List.flatMap_eq_nil_iff]
        intro y hy
        by_cases hk : y.opKey? = some o
        · exact absurd (hmem y hy hk) h.1
        · rw [if_neg hk]
      rw [this, List.append_nil]
    · have hne : ¬ a.opKey? = some o := by
        intro hk
        rw [List.filterMap_cons, hk, List.nodup_cons] at h
        exact h.1 (hmem df hdf' ho)
      rw [if_neg hne, List.nil_append]
      apply ih _ hdf'
      rw [List.filterMap_cons] at h
      cases hx : a.opKey? with
      | none => rw [hx] at h; exact h
      | some k => rw [hx, List.nodup_cons] at h; exact h.2

private theorem nodup_map_inj {L : List VarDef} (hn : (L.map (·.name)).Nodup) {a b : VarDef}
    (ha : a ∈ L) (hb : b ∈ L) (h : a.name = b.name) : a = b :=
  List.inj_of_nodup_map hn ha hb h

private theorem find_last_iff {L : List VarDef} (hn : (L.map (·.name)).Nodup) (x : String) (vd : VarDef) :
    L.reverse.find? (·.name == x) = some vd ↔ vd ∈ L ∧ vd.name = x := by
  constructor
  · intro h
    have := List.find?_some h
    exact ⟨List.mem_reverse.mp (List.mem_of_find?_eq_some h), by simpa using this⟩
  · rintro ⟨hm, rfl⟩
    cases hf : L.reverse.find? (·.name == vd.name) with
    | none =>
      rw [List.find?_eq_none] at hf
      have := hf vd (List.mem_reverse.mpr hm)
      simp at this
    | some w =>
      have hw : w ∈ L := List.mem_reverse.mp (List.mem_of_find?_eq_some hf)
      have hwn : w.name = vd.name := by simpa using List.find?_some hf
      congr 1
      exact nodup_map_inj hn hw hm hwn

/-- **the definition a usage is checked against**, on documents with unique operation and variable names -/
theorem varDefFor_of_unique (d : Doc) (hk : Spec.uniqueOpKeys d) (hv : Spec.uniqueVariableNames d) {df : Def}
    (hdf : df ∈ d.defs) {o : String} (ho : df.opKey? = some o) (x : String) (vd : VarDef) :
    varDefFor d o x = some vd ↔ vd ∈ df.vars ∧ vd.name = x := by
  unfold varDefFor
  rw [flat_unique hk hdf ho]
  apply find_last_iff
  cases df with
  | op k n vs ds i ss => exact hv _ hdf k n vs ds i ss rfl
  | frag => exact List.nodup_nil
  | ts => exact List.nodup_nil

/-- 5.8.5 per operation definition -/
theorem variables_in_allowed_position_per_operation (s : SchemaD) (d : Doc) (hk : Spec.uniqueOpKeys d)
    (hv : Spec.uniqueVariableNames d) :
    Spec.variablesInAllowedPosition s d ↔ Spec.variablesInAllowedPositionPerOp s d := by
  unfold Spec.variablesInAllowedPosition Spec.variablesInAllowedPositionPerOp
  have husedAt : ∀ o x u, UsedAt s d o x u ↔ ∃ df ∈ d.defs, df.opKey? = some o ∧ UsedAtByOp s d df x u := fun o x u =>
    byOp_iff d o ((x, u) ∈ defUsages s ·) (fun f => ∃ df ∈ d.defs, df.fragName? = some f ∧ (x, u) ∈ defUsages s df)
  constructor
  · intro h df hdf hs x u hu vd hvd hn
    obtain ⟨o, ho⟩ := Option.isSome_iff_exists.mp hs
    exact h o x u vd ((husedAt o x u).mpr ⟨df, hdf, ho, hu⟩) ((varDefFor_of_unique d hk hv hdf ho x vd).mpr ⟨hvd, hn⟩)
  · intro h o x u vd hu hd
    obtain ⟨df, hdf, ho, hu'⟩ := (husedAt o x u).mp hu
    obtain ⟨hvd, hn⟩ := (varDefFor_of_unique d hk hv hdf ho x vd).mp hd
    exact h df hdf (by rw [ho]; rfl) x u hu' vd hvd hn

end PyGql.Props.C06
