/-
  C12 — `default_roundtrip`: a default value printed by the schema printer (`ast_node_from_value`) and read back
  by the builder (`value_from_ast`) is the same value.

  The property theorem of this file: `default_roundtrip`.  `bool/int/string/id_roundtrip` and `leaf_roundtrip` are its leaf
  cases (the first four, stated for every environment, also serve `Props/C12_todoc.lean`).
-/
import PyGqlModel.Lemmas.SdlReadsBack
import Std.Data.String.ToInt

set_option linter.unusedVariables false

namespace PyGql.Props.C12
open PyGql PyGql.Sdl PyGql.SdlPrint

/-- the builder's view of a schema whose types are all live (`additional_types`-style lookups) -/
def liveEnv (s : SchemaD) : Env := { findDef := fun _ => none, findAdditional := s.findType }

/-- the float with repr `r` prints to a literal that denotes it (excludes `-0.0`, which prints as `0`: finding H8) -/
def FloatCanon (r : String) : Prop :=
  floatLit r = .float r r ∨ ∃ k : Int, floatLit r = .int (toString k) (intRepr k) ∧ intRepr k = r

/-- canonical NON-NULL values of a named leaf type (what `build_schema` stores for a default of that type) -/
def LeafOK (s : SchemaD) (nm : String) (v : J) : Prop :=
  (nm = "Boolean" ∧ ∃ b, v = .bool b) ∨
  (nm = "Int" ∧ ∃ k : Int, v = .num k ∧ MIN_INT ≤ k ∧ k ≤ MAX_INT) ∨
  (nm = "String" ∧ ∃ x, v = .str x) ∨
  (nm = "ID" ∧ ∃ x, v = .str x) ∨
  (nm = "Float" ∧ ∃ r, v = floatJ r ∧ finiteRepr r = true ∧ FloatCanon r) ∨
  (builtinScalars.contains nm = false ∧ ∃ t, s.findType nm = some t ∧ t.kind = .scalar ∧ ((∃ b, v = .bool b) ∨ ∃ x, v = .str x)) ∨
  (builtinScalars.contains nm = false ∧ ∃ t ev, s.findType nm = some t ∧ t.kind = .enum ∧ v ≠ .null ∧
      t.values.find? (fun e => jEq e.value v) = some ev ∧ (t.values.find? (·.name == ev.name)).map (·.value) = some v)

mutual
/-- well-typed canonical values (leaf types, lists, non-null), indexed by the fuel both functions consume -/
def WT (s : SchemaD) : Nat → J → Ty → Prop
  | 0, _, _ => False
  | n+1, v, .nonNull t => v ≠ .null ∧ WT s n v t
  | n+1, v, .list t => v = .null ∨ ∃ items, v = .arr items ∧ WTs s n items t
  | n+1, v, .named nm => v = .null ∨ LeafOK s nm v
def WTs (s : SchemaD) : Nat → List J → Ty → Prop
  | 0, _, _ => False
  | _+1, [], _ => True
  | n+1, x :: xs, t => WT s n x t ∧ WTs s n xs t
end

private theorem toInt_toString (k : Int) : (toString k).toInt? = some k := by
  simp

/-! The specified scalars `Boolean`, `Int`, `String`, `ID`: no environment is consulted. -/

theorem bool_roundtrip (s : SchemaD) (env : Env) (fuel : Nat) (b : Bool) :
    ∃ lit, valueLit s (fuel+1) (.bool b) (.named "Boolean") = some lit ∧
      valueFromAst env (fuel+1) lit (.named "Boolean") = some (some (.bool b)) ∧ lit ≠ .null :=
  ⟨.bool b, by simp [valueLit, builtinScalars, builtinLit], by simp [valueFromAst, builtinScalars, scalarLiteral, pure], by simp⟩

theorem int_roundtrip (s : SchemaD) (env : Env) (fuel : Nat) (k : Int) (hlo : MIN_INT ≤ k) (hhi : k ≤ MAX_INT) :
    ∃ lit, valueLit s (fuel+1) (.num k) (.named "Int") = some lit ∧
      valueFromAst env (fuel+1) lit (.named "Int") = some (some (.num k)) ∧ lit ≠ .null :=
  ⟨.int (toString k) (intRepr k), by simp [valueLit, builtinScalars, builtinLit],
    by simp [valueFromAst, builtinScalars, scalarLiteral, pure, hlo, hhi], by simp⟩

theorem string_roundtrip (s : SchemaD) (env : Env) (fuel : Nat) (x : String) :
    ∃ lit, valueLit s (fuel+1) (.str x) (.named "String") = some lit ∧
      valueFromAst env (fuel+1) lit (.named "String") = some (some (.str x)) ∧ lit ≠ .null :=
  ⟨.str x, by simp [valueLit, builtinScalars, builtinLit], by simp [valueFromAst, builtinScalars, scalarLiteral, pure], by simp⟩

/-- an `ID` that looks like an integer is written as an integer literal and read back as the same string -/
theorem id_roundtrip (s : SchemaD) (env : Env) (fuel : Nat) (x : String) :
    ∃ lit, valueLit s (fuel+1) (.str x) (.named "ID") = some lit ∧
      valueFromAst env (fuel+1) lit (.named "ID") = some (some (.str x)) ∧ lit ≠ .null := by
  by_cases hx : isIntText x = true
  · exact ⟨.int x (x ++ ".0"), by simp [valueLit, builtinScalars, builtinLit, hx], by simp [valueFromAst, builtinScalars, scalarLiteral, pure], by simp⟩
  · exact ⟨.str x, by simp [valueLit, builtinScalars, builtinLit, hx], by simp [valueFromAst, builtinScalars, scalarLiteral, pure], by simp⟩

theorem leaf_roundtrip (s : SchemaD) (nm : String) (v : J) (h : LeafOK s nm v) (fuel : Nat) :
    ∃ lit, valueLit s (fuel+1) v (.named nm) = some lit ∧ valueFromAst (liveEnv s) (fuel+1) lit (.named nm) = some (some v) ∧ lit ≠ .null := by
  rcases h with ⟨rfl, b, rfl⟩ | ⟨rfl, k, rfl, hlo, hhi⟩ | ⟨rfl, x, rfl⟩ | ⟨rfl, x, rfl⟩ | ⟨rfl, r, rfl, hfin, hcan⟩ | ⟨hnb, t, ht, hk, hv⟩ | ⟨hnb, t, ev, ht, hk, hnn, hf1, hf2⟩
  · exact bool_roundtrip s _ fuel b
  · exact int_roundtrip s _ fuel k hlo hhi
  · exact string_roundtrip s _ fuel x
  · exact id_roundtrip s _ fuel x
  · rcases hcan with hc | ⟨k, hc, hr⟩
    · exact ⟨.float r r, by simp [valueLit, builtinScalars, builtinLit, floatJ, hc], by simp [valueFromAst, builtinScalars, scalarLiteral, pure, hfin, floatJ], by simp⟩
    · refine ⟨.int (toString k) (intRepr k), by simp [valueLit, builtinScalars, builtinLit, floatJ, hc], ?_, by simp⟩
      simp [valueFromAst, builtinScalars, scalarLiteral, pure, hr, hfin, floatJ]
  · have hnb' : nm ∉ builtinScalars := by simpa using hnb
    rcases hv with ⟨b, rfl⟩ | ⟨x, rfl⟩
    · exact ⟨.bool b, by simp [valueLit, hnb', ht, hk, customLit], by simp [valueFromAst, hnb', liveEnv, ht, hk, scalarLiteral, pure], by simp⟩
    · by_cases hx : isIntText x = true
      · exact ⟨.int x (x ++ ".0"), by simp [valueLit, hnb', ht, hk, customLit, hx], by simp [valueFromAst, hnb', liveEnv, ht, hk, scalarLiteral, pure], by simp⟩
      · by_cases hfr : isFloatRepr x = true
        · exact ⟨.float x x, by simp [valueLit, hnb', ht, hk, customLit, hx, hfr], by simp [valueFromAst, hnb', liveEnv, ht, hk, scalarLiteral, pure], by simp⟩
        · exact ⟨.str x, by simp [valueLit, hnb', ht, hk, customLit, hx, hfr], by simp [valueFromAst, hnb', liveEnv, ht, hk, scalarLiteral, pure], by simp⟩
  · have hnb' : nm ∉ builtinScalars := by simpa using hnb
    refine ⟨.enum ev.name, ?_, ?_, by simp⟩
    · cases v <;> simp_all [valueLit]
    · simp [valueFromAst, hnb', liveEnv, ht, hk, pure, hf2]

private theorem roundtrip_aux (s : SchemaD) : ∀ n : Nat,
    (∀ v ty, WT s n v ty → ReadsBack s (liveEnv s) n v ty) ∧ (∀ items t, WTs s n items t → ItemsReadBack s (liveEnv s) n items t) := by
  intro n
  induction n with
  | zero => exact ⟨fun v ty h => by simp [WT] at h, fun items t h => by simp [WTs] at h⟩
  | succ n ih =>
    obtain ⟨ihv, ihs⟩ := ih
    refine ⟨?_, ?_⟩
    · intro v ty h
      cases ty with
      | named nm =>
        rcases h with rfl | hl
        · exact .null_named nm
        · exact .of_leaf (leaf_roundtrip s nm v hl n)
      | nonNull t => exact .nonNull h.1 (ihv v t h.2)
      | list t =>
        rcases h with rfl | ⟨items, rfl, hw⟩
        · exact .null_list
        · exact .list (ihs items t hw)
    · intro items t h
      cases items with
      | nil => exact .nil
      | cons x xs => exact .cons (ihv x t h.1) (ihs xs t h.2)

/-- for every canonical value `v` of a type built from leaf types (the five specified scalars, custom scalars,
    enums), `null`, non-null and list wrappers of ANY nesting depth, the literal the schema printer writes for `v`
    is read back by the builder as `v` itself. (Int through `toString`/`toInt?`; Float through Python's repr
    carried by the literal; `-0.0` is excluded by `WT` — finding H8.  `WT` has NO input-object case: every named type is a
    leaf (`LeafOK`); input objects, over the printed document's own environment, are `default_roundtrip_doc` of
    `Props/C12_todoc.lean`.) -/
theorem default_roundtrip (s : SchemaD) (n : Nat) (v : J) (ty : Ty) (h : WT s n v ty) :
    ∃ lit, valueLit s n v ty = some lit ∧ valueFromAst (liveEnv s) n lit ty = some (some v) :=
  ((roundtrip_aux s n).1 v ty h).elim

/-! ### non-vacuity -/

def rtSchema : SchemaD := { types := [{ kind := .enum, name := "E", values := [{ name := "A", value := .str "A" }, { name := "B", value := .num 2 }] },
                                      { kind := .scalar, name := "S" }] }

example : WT rtSchema 12 (.arr [.arr [.num 7, .num (-3)], .null]) (.nonNull (.list (.list (.nonNull (.named "Int"))))) := by
  simp [WT, WTs, LeafOK, MIN_INT, MAX_INT]
example : WT rtSchema 8 (.arr [.str "x", .str "42"]) (.list (.named "ID")) := by simp [WT, WTs, LeafOK]

end PyGql.Props.C12
