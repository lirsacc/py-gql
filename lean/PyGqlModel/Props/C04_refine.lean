/-
  C04 — refinement of the specification by the executor model.
  `exec_refines_spec_spreadfree_exact`: for documents WITHOUT named fragment spreads (fields, aliases, directives,
  inline fragments, abstract types, lists, errors — everything else) the model's response is EQUAL to the
  specification's (same ordered data, same error list). The statement for all documents with ranked fragments, named
  spreads included, is `exec_refines_spec` (`Props/C04_spreads.lean`);
  exact equality of the grouped field sets is FALSE with spreads (the `_seen_fragments` rebinding duplicates
  nodes inside a group) — machine-checked witness `seen_fragments_quirk_duplicates_nodes` — while the
  response of the witness is still equal (`quirk_witness_same_response`).
-/
import PyGqlModel.Lemmas.C04Steps


namespace PyGql.Props.C04
open PyGql PyGql.Exec PyGql.Spec

mutual
/-- no named fragment spread anywhere inside -/
def selSpreadFree : Sel → Bool
  | .field _ _ _ _ _ _ sub => selsSpreadFree sub
  | .inline _ _ sub => selsSpreadFree sub
  | .spread _ _ => false
def selsSpreadFree : List Sel → Bool
  | [] => true
  | s :: ss => selSpreadFree s && selsSpreadFree ss
end

private theorem selsSpreadFree_append (a b : List Sel) : selsSpreadFree (a ++ b) = (selsSpreadFree a && selsSpreadFree b) := by
  induction a with
  | nil => simp [selsSpreadFree]
  | cons x xs ih => simp [selsSpreadFree, ih, Bool.and_assoc]

def NodesFree (g : Grouped) : Prop := GroupAll (fun _ n => selsSpreadFree n.sub = true) g

/-- what the induction on fuel carries for `collect_fields` -/
def CollectAgree (f fS : String → List Sel → List String → R (Grouped × List String)) : Prop :=
  ∀ obj sels seen, selsSpreadFree sels = true →
    f obj sels seen = fS obj sels seen ∧
    ∀ g seen', f obj sels seen = .ok (g, seen') → seen' = seen ∧ NodesFree g

private theorem collectStep_agree (s : SchemaD) (doc : Doc) (vars : Vars) (f fS) (hf : CollectAgree f fS) (obj : String) :
    ∀ (sels : List Sel) (seen : List String) (g : Grouped), selsSpreadFree sels = true → NodesFree g →
      collectStep s doc vars f obj sels seen g = collectStepS s doc vars fS obj sels seen g ∧
      ∀ g' seen', collectStep s doc vars f obj sels seen g = .ok (g', seen') → seen' = seen ∧ NodesFree g' := by
  intro sels
  induction sels with
  | nil =>
    intro seen g _ hg
    refine ⟨by simp [collectStep, collectStepS], ?_⟩
    intro g' seen' h
    simp [collectStep] at h
    obtain ⟨rfl, rfl⟩ := h
    exact ⟨rfl, hg⟩
  | cons sel rest ih =>
    intro seen g hsf hg
    simp only [selsSpreadFree, Bool.and_eq_true] at hsf
    obtain ⟨hsel, hrest⟩ := hsf
    have hns : ∀ nm dirs, sel ≠ .spread nm dirs := by
      rintro nm dirs rfl
      simp [selSpreadFree] at hsel
    rw [collectStep_cons, collectStepS_cons, headActS_eq hns]
    cases ha : headAct s doc vars obj sel seen with
    | error e => exact ⟨rfl, fun _ _ h => by cases h⟩
    | ok a =>
      simp only [Except.bind, Except.map]
      cases a with
      | drop => exact ih seen g hrest hg
      | keep n =>
        obtain ⟨dirs, rfl⟩ := headAct_keep ha
        exact ih seen _ hrest (extend_groupAll _ _ _ _ hg (by simpa [selSpreadFree] using hsel))
      | expand sels name =>
        rcases headAct_expand ha with ⟨on, dirs, rfl, rfl⟩ | ⟨nm, dirs, fr, rfl, _⟩
        · obtain ⟨heq, hret⟩ := hf obj sels seen hsel
          simp only [collectCont, collectContS, HeadAct.toS, ← heq]
          cases hr : f obj sels seen with
          | error e => exact ⟨rfl, fun _ _ h => by cases h⟩
          | ok p =>
            obtain ⟨hs, hgs⟩ := hret p.1 p.2 hr
            simp only [Except.bind, seenAfter, hs, ite_self]
            exact ih seen _ hrest (mergeInto_groupAll _ p.1 g hgs hg)
        · exact absurd rfl (hns nm dirs)

private theorem collect_agree (s : SchemaD) (doc : Doc) (vars : Vars) (fuel : Nat) :
    CollectAgree (collectFields s doc vars fuel) (collectFieldsS s doc vars fuel) := by
  induction fuel with
  | zero => intro obj sels seen _; simp [collectFields, collectFieldsS]
  | succ n ih =>
    intro obj sels seen hsf
    simp only [collectFields, collectFieldsS]
    exact collectStep_agree s doc vars _ _ ih obj sels seen [] hsf (by intro kv h; simp at h)

private theorem mergedSelections_free (nodes : List FNode) (h : ∀ n ∈ nodes, selsSpreadFree n.sub = true) :
    selsSpreadFree (mergedSelections nodes) = true := by
  induction nodes with
  | nil => simp [mergedSelections, selsSpreadFree]
  | cons n rest ih =>
    have h1 := h n (by simp)
    have h2 := ih (fun m hm => h m (by simp [hm]))
    simp only [mergedSelections, List.flatMap_cons] at h2 ⊢
    rw [selsSpreadFree_append]
    by_cases hs : n.hasSub
    · simp [hs, h1, h2]
    · simp [hs, selsSpreadFree, h2]

/-- model and specification answer alike on every selection set of a class `P` on which the two collectors return the
    same groups and which the merged sub-selections of those groups do not leave -/
private theorem exec_refines_spec_on (s : SchemaD) (doc : Doc) (vars : Vars) (w : World) (cf : Nat) (P : List Sel → Prop)
    (hc : ∀ obj sels, P sels →
      (collectFields s doc vars cf obj sels []).map (·.1) = (collectFieldsS s doc vars cf obj sels []).map (·.1))
    (hP : ∀ obj sels g seen', P sels → collectFields s doc vars cf obj sels [] = .ok (g, seen') →
      ∀ kv ∈ g, P (mergedSelections kv.2)) :
    ∀ (fuel : Nat) (parent : String) (path : Path) (sels : List Sel), P sels →
      executeFields s doc vars w cf fuel parent path sels = executeSelectionSetS s doc vars w cf fuel parent path sels := by
  intro fuel
  induction fuel with
  | zero => intro parent path sels _; rfl
  | succ n ih =>
    intro parent path sels hp
    simp only [executeFields, executeSelectionSetS, bind, Except.bind]
    have h := hc parent sels hp
    cases h1 : collectFields s doc vars cf parent sels [] with
    | error e =>
      cases h2 : collectFieldsS s doc vars cf parent sels [] with
      | error e2 => rw [h1, h2] at h; cases h; rfl
      | ok p2 => rw [h1, h2] at h; cases h
    | ok p1 =>
      cases h2 : collectFieldsS s doc vars cf parent sels [] with
      | error e2 => rw [h1, h2] at h; cases h
      | ok p2 =>
        rw [h1, h2] at h
        simp only [catchDirective_ok, executeGroupsS_eq, ← (Except.ok.inj h : p1.1 = p2.1)]
        rw [executeGroups_congr s w w _ (executeSelectionSetS s doc vars w cf n) parent path fun key nodes fd hm =>
          resolveField_congr s w w _ _ parent _ nodes fd (fun _ => rfl) fun rel rt =>
            ih rt _ _ (hP parent sels p1.1 p1.2 hp h1 (key, nodes) hm)]

/-- EXACT equality (error locations included), for selection sets WITHOUT named fragment spreads (inline fragments,
    aliases, directives, abstract types, lists, resolver errors, non-null violations all included), for every
    schema, world, variables and fuel: the model's result (ordered data AND error list, or failure) is equal to
    the result of the specification's algorithm. Excluded: named fragment spreads, where the `_seen_fragments`
    rebinding makes the grouped node lists differ by duplicates (see the witness below); that case is
    `exec_refines_spec` (`Props/C04_spreads.lean`: the same data, errors up to repeated locations). -/
theorem exec_refines_spec_spreadfree_exact (s : SchemaD) (doc : Doc) (vars : Vars) (w : World) (cf : Nat) :
    ∀ (fuel : Nat) (parent : String) (path : Path) (sels : List Sel), selsSpreadFree sels = true →
      executeFields s doc vars w cf fuel parent path sels = executeSelectionSetS s doc vars w cf fuel parent path sels := by
  refine exec_refines_spec_on s doc vars w cf (selsSpreadFree · = true) (fun obj sels h => ?_) (fun obj sels g seen' h hc kv hkv => ?_)
  · rw [(collect_agree s doc vars cf obj sels [] h).1]
  · exact mergedSelections_free _ (((collect_agree s doc vars cf obj sels [] h).2 g seen' hc).2 kv hkv)

/-- For ALL documents — if the model's `collect_fields` and the specification's
    `CollectFields` return the same grouped field set on the top-level calls the executor makes, then the model's
    response equals the specification's. So field resolution, value completion, serialisation, abstract types, the
    null/error handling and the sub-selection merge add NO difference: what differs for documents with named spreads is
    exclusively the collect level (`collect_refines_spec`, `Props/C04_spreads.lean`: model groups = spec groups up to
    repeated nodes). -/
theorem exec_refines_spec_of_collect (s : SchemaD) (doc : Doc) (vars : Vars) (w : World) (cf : Nat)
    (hc : ∀ obj sels, (collectFields s doc vars cf obj sels []).map (·.1) = (collectFieldsS s doc vars cf obj sels []).map (·.1)) :
    ∀ (fuel : Nat) (parent : String) (path : Path) (sels : List Sel),
      executeFields s doc vars w cf fuel parent path sels = executeSelectionSetS s doc vars w cf fuel parent path sels :=
  fun fuel parent path sels =>
    exec_refines_spec_on s doc vars w cf (fun _ => True) (fun obj sels _ => hc obj sels) (fun _ _ _ _ _ _ _ _ => trivial)
      fuel parent path sels trivial

/-- A formulation of the full statement with `eraseDups`, which no theorem uses; the statement PROVED for all documents with
    ranked fragments is `ExecRefinesSpecUpToLocations` (`exec_refines_spec`, `Props/C04_spreads.lean`), where "up to duplicate
    locations" is the relation `Rep`. -/
def ExecRefinesSpec (s : SchemaD) (doc : Doc) (vars : Vars) (w : World) (cf fuel : Nat) (root : String) (sels : List Sel) : Prop :=
  ∀ d es, executeFields s doc vars w cf fuel root [] sels = .ok (d, es) →
    ∃ es', executeSelectionSetS s doc vars w cf fuel root [] sels = .ok (d, es') ∧
      es.map (fun e => (e.path, e.locs.eraseDups)) = es'.map (fun e => (e.path, e.locs.eraseDups))


/-! ### the `_seen_fragments` quirk: refutation of exact equality of grouped field sets, on a concrete document

    `{ ... on Query { ...F }  ...F }   fragment F on Query { a }`  -/

def qSchema : SchemaD := { types := [{ kind := .object, name := "Query", fields := [{ name := "a", type := .named "Int" }] }] }
def qNodeA : Sel := .field "a" "a" 60 [] [("Query", some "{}")] false []
def qDoc : Doc :=
  { ops := [{ kind := "query", name := none, sels := [.inline (some "Query") [] [.spread "F" []], .spread "F" []] }],
    frags := [{ name := "F", on := "Query", sels := [qNodeA] }] }

def groupSizes (r : R (Grouped × List String)) : List (String × Nat) :=
  match r with
  | .ok (g, _) => g.map fun kv => (kv.1, kv.2.length)
  | .error _ => []

/-- model: the node of `a` is collected TWICE (the set created for the inline fragment is thrown away) -/
theorem seen_fragments_quirk_duplicates_nodes :
    groupSizes (collectFields qSchema qDoc [] 5 "Query" [.inline (some "Query") [] [.spread "F" []], .spread "F" []] []) = [("a", 2)]
    ∧ groupSizes (collectFieldsS qSchema qDoc [] 5 "Query" [.inline (some "Query") [] [.spread "F" []], .spread "F" []] []) = [("a", 1)] := by
  constructor <;> decide

/-- hence "model grouped field set = specification grouped field set" is FALSE in general … -/
theorem grouped_equality_refuted :
    ¬ (∀ (s : SchemaD) (doc : Doc) (vars : Vars) (fuel : Nat) (obj : String) (sels : List Sel),
        groupSizes (collectFields s doc vars fuel obj sels []) = groupSizes (collectFieldsS s doc vars fuel obj sels [])) := by
  intro h
  have := h qSchema qDoc [] 5 "Query" [.inline (some "Query") [] [.spread "F" []], .spread "F" []]
  rw [seen_fragments_quirk_duplicates_nodes.1, seen_fragments_quirk_duplicates_nodes.2] at this
  exact absurd this (by decide)

def constWorld : World := fun _ _ _ _ => .val (.leaf (.num 7))

def dataKeys (r : Response) : List String × Nat :=
  match r with
  | .result (.obj kvs) es => (kvs.map (·.1), es.length)
  | _ => ([], 99)

/-- … while the RESPONSE of the witness is the same in model and specification (duplicates only repeat nodes
    inside one group; the first node, hence the resolved field and its location, is unchanged) -/
theorem quirk_witness_same_response :
    dataKeys (execute qSchema qDoc [] constWorld none 5 5) = (["a"], 0)
    ∧ dataKeys (executeRequestS qSchema qDoc [] constWorld none 5 5) = (["a"], 0) := by
  constructor <;> decide

/-- non-vacuity of `exec_refines_spec_spreadfree_exact`: a spread-free selection set with alias, directive and inline fragment -/
example : selsSpreadFree [.field "x" "a" 2 [⟨"skip", .lit false⟩] [] false [], .inline (some "Query") [] [qNodeA]] = true := by decide

end PyGql.Props.C04
