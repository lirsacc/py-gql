/-
  C13 — the uniqueness clauses of the specification that `validate_schema` does NOT implement because live schema
  objects cannot violate them, as NAMED clauses: type names and directive names are unique (`Schema.types` /
  `Schema.directives` are dicts keyed by name) and the value names of an enum are unique (June-2018 §3.9;
  `EnumType._set_values` raises `ValueError("Duplicate enum value ...")` at construction). `ValidSchemaSpec` =
  the implemented rules + these construction invariants; on descriptions of live objects the validator decides it.
-/
import PyGqlModel.Props.C13

namespace PyGql.Props.C13
open PyGql PyGql.SchemaValid PyGql.SchemaValidSpec

/-- what the construction of live schema objects guarantees and no validation rule re-checks -/
structure ConstructionInvariants (s : SchemaD) : Prop where
  typeNames : (s.types.map (·.name)).Nodup
  directiveNames : (s.directives.map (·.name)).Nodup
  enumValues : ∀ t ∈ s.types, t.kind = .enum → (t.values.map (·.name)).Nodup

/-- the type-system rules of the specification: the implemented ones and the uniqueness clauses -/
def ValidSchemaSpec (s : SchemaD) (rv : Bool := true) : Prop := ValidSchema s rv ∧ ConstructionInvariants s

/-- on the description of a live schema (construction invariants hold) the validator decides the specification's
    rules, uniqueness clauses included -/
theorem validate_iff_spec (s : SchemaD) (rv : Bool) (ci : ConstructionInvariants s) :
    validate s rv = [] ↔ ValidSchemaSpec s rv := by
  rw [validate_iff]; exact ⟨fun h => ⟨h, ci⟩, fun h => h.1⟩

/-- ...and the invariants are NOT consequences of `ValidSchema` (so they are genuinely extra clauses): an enum
    description with a repeated value name passes every implemented rule -/
theorem enum_uniqueness_not_implemented :
    ∃ s : SchemaD, validate s true = [] ∧ ¬ ConstructionInvariants s := by
  refine ⟨{ query := some "Query",
            types := [{ kind := .scalar, name := "Int", builtin := true },
                      { kind := .enum, name := "E", values := [{ name := "A", value := .str "A" }, { name := "A", value := .str "A" }] },
                      { kind := .object, name := "Query", fields := [{ name := "a", type := .named "Int" }] }] },
    by decide +kernel, fun h => ?_⟩
  have := h.enumValues _ (List.mem_cons_of_mem _ List.mem_cons_self) rfl
  simp at this

end PyGql.Props.C13
