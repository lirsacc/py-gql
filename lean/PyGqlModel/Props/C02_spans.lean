/-
  C02 (shape / span part) — the tree mirrors the tokens.

  `Item.SpansAll fl items toks` (Spec/Grammar.lean) is the declarative relation "the items derive exactly
  `toks`, and EVERY node below carries `loc = (start of the first token of its own segment, end of the last
  token of its own segment)`; sibling segments are consecutive pieces of the parent's segment" — so children
  are nested in the parent's span and ordered.  With `no_location` every `loc` is `none`.
-/
import PyGqlModel.Props.C01_parse
import PyGqlModel.Lemmas.ParseEraseTS
namespace PyGql.Props.C02
open PyGql PyGql.Ast PyGql.Parse PyGql.Spec PyGql.Props.C01

/-- shape + spans for standalone types: node kinds, names and order are those of the derivation, every `loc` is
    the span of the node's own tokens -/
theorem span_spec_type (fl : Flags) (toks : List Tok) (t : TypeRef) (h : parseType fl toks = .ok t) :
    Item.SpansAll fl [p .sof, typeV t, p .eof] toks :=
  parseType_sound_spans fl toks t h

/-- shape + spans for standalone values (lists and objects of any nesting) -/
theorem span_spec_value (fl : Flags) (toks : List Tok) (v : Value) (h : parseValue fl toks = .ok v) :
    Item.SpansAll fl [p .sof, valueV v, p .eof] toks :=
  matches_spans _ _ _ (parseValue_sound fl toks v h).2

/-- FULL STATEMENT for documents -/
def SpanSpecDocument : Prop :=
  ∀ (fl : Flags) (toks : List Tok) (d : Document), parseDocument fl toks = .ok d → Item.SpansAll fl [documentV d] toks

/-- the reduction of the document statement to C01's: spans come for free from soundness, for EVERY view -/
theorem span_spec_of_sound (hs : ParseSoundDocument) : SpanSpecDocument :=
  fun fl toks d h => matches_spans _ _ _ (hs fl toks d h).2

/-- spans for documents, given soundness of the type-system layer when reachable -/
theorem span_spec_document_of (fl : Flags) (hTS : ∀ fuel, fl.allowTypeSystem = true → TSSound fl fuel)
    (toks : List Tok) (d : Document) (h : parseDocument fl toks = .ok d) : Item.SpansAll fl [documentV d] toks :=
  matches_spans _ _ _ (parseDocument_sound_of fl hTS toks d h).2

/-- `span_spec` for EXECUTABLE documents (`allow_type_system=False`, every other flag combination): every node of
    the tree — operations, variable definitions (incl. default values and directives), fields, arguments,
    directives, fragments, values, types, names — has `loc` = (start of its first token, end of its last token),
    children consecutive inside the parent. -/
theorem span_spec_executable (fl : Flags) (hx : fl.allowTypeSystem = false) (toks : List Tok) (d : Document)
    (h : parseDocument fl toks = .ok d) : Item.SpansAll fl [documentV d] toks :=
  matches_spans _ _ _ (parse_sound_executable fl hx toks d h).2

/-- `span_spec` IN FULL: every document (executable and type-system), all 8 flag combinations. -/
theorem span_spec_document : SpanSpecDocument :=
  span_spec_of_sound parse_sound_document

mutual
def noLoc : Item → Bool
  | .node loc is => loc.isNone && noLocAll is
  | _ => true
def noLocAll : List Item → Bool
  | [] => true
  | i :: is => noLoc i && noLocAll is
end

mutual
theorem check_noLoc (fl : Flags) (hf : fl.noLocation = true) : ∀ (i : Item) (l l' : Tok) (ts rest : List Tok),
    i.check fl l ts = some (l', rest) → noLoc i = true
  | .tok _ _, _, _, _, _, _ => by simp [noLoc]
  | .optTok _ _, _, _, _, _, _ => by simp [noLoc]
  | .nla _, _, _, _, _, _ => by simp [noLoc]
  | .node loc is, l, l', ts, rest, h => by
    rw [check_node] at h
    obtain ⟨f, tl, rfl, hall, hloc⟩ := h
    have := checkAll_noLoc fl hf is l l' (f :: tl) rest hall
    simp [noLoc, this, hloc, locOf, hf]
theorem checkAll_noLoc (fl : Flags) (hf : fl.noLocation = true) : ∀ (is : List Item) (l l' : Tok) (ts rest : List Tok),
    Item.checkAll fl is l ts = some (l', rest) → noLocAll is = true
  | [], _, _, _, _, _ => by simp [noLocAll]
  | i :: is, l, l', ts, rest, h => by
    rw [checkAll_cons] at h
    obtain ⟨l1, ts1, h1, h2⟩ := h
    simp [noLocAll, check_noLoc fl hf i l l1 ts ts1 h1, checkAll_noLoc fl hf is l1 l' ts1 rest h2]
end

/-- with `no_location` every `loc` of a parsed value / type is absent -/
theorem noloc_all_none (fl : Flags) (hf : fl.noLocation = true) (toks : List Tok) :
    (∀ v, parseValue fl toks = .ok v → noLoc (valueV v) = true) ∧
    (∀ t, parseType fl toks = .ok t → noLoc (typeV t) = true) := by
  constructor
  · intro v h
    obtain ⟨l', hm⟩ := (matches_iff _ _ _).1 (parseValue_sound fl toks v h).2
    have := checkAll_noLoc fl hf _ _ _ _ _ hm
    simp [noLocAll] at this; exact this.2.1
  · intro t h
    obtain ⟨l', hm⟩ := (matches_iff _ _ _).1 (parseType_sound fl toks t h).2
    have := checkAll_noLoc fl hf _ _ _ _ _ hm
    simp [noLocAll] at this; exact this.2.1

/-- with `no_location` every `loc` of a parsed DOCUMENT (any flags otherwise) is absent -/
theorem noloc_all_none_document (fl : Flags) (hf : fl.noLocation = true) (toks : List Tok) (d : Document)
    (h : parseDocument fl toks = .ok d) : noLoc (documentV d) = true := by
  obtain ⟨l', hm⟩ := (matches_iff _ _ _).1 (parse_sound_document fl toks d h).2
  have := checkAll_noLoc fl hf _ _ _ _ _ hm
  simp [noLocAll] at this; exact this

/-- A consequence of `noloc_erasure` (proved below as `noloc_acceptance`): accept/reject does not depend on
    `no_location`. -/
def NolocAcceptanceStatement : Prop :=
  ∀ (fl : Flags) (toks : List Tok), (parseType { fl with noLocation := true } toks).toBool = (parseType fl toks).toBool

/-- `no_location=True` changes NOTHING but the positions: for every token list and every setting of the other flags,
    `parse(…, no_location=True)` is `parse(…)` with every `loc` erased — same acceptance, same tree up to `loc`. -/
theorem noloc_erasure (fl : Flags) (toks : List Tok) :
    parseDocument { fl with noLocation := true } toks = (parseDocument fl toks).map Document.erase :=
  runAll_E _ _ _ (parseDocumentP_E fl) toks

theorem noloc_erasure_value (fl : Flags) (toks : List Tok) :
    parseValue { fl with noLocation := true } toks = (parseValue fl toks).map Value.erase :=
  runAll_E _ _ _ (parseValueP_E fl) toks

theorem noloc_erasure_type (fl : Flags) (toks : List Tok) :
    parseType { fl with noLocation := true } toks = (parseType fl toks).map TypeRef.erase :=
  runAll_E _ _ _ (parseTypeP_E fl) toks

/-- accept/reject does not depend on `no_location` -/
theorem noloc_acceptance : NolocAcceptanceStatement := by
  intro fl toks
  rw [noloc_erasure_type]
  cases parseType fl toks <;> rfl

theorem noloc_acceptance_document (fl : Flags) (toks : List Tok) :
    (parseDocument { fl with noLocation := true } toks).toBool = (parseDocument fl toks).toBool := by
  rw [noloc_erasure]
  cases parseDocument fl toks <;> rfl

/-! ### non-vacuity -/
private def tk (k : TokKind) (s e : Nat) (v : Text := []) : Tok := { kind := k, start := s, stop := e, value := v }
private def toksT : List Tok :=
  [tk .sof 0 0, tk .bracketL 0 1, tk .name 2 3 [65], tk .bang 3 4, tk .bracketR 5 6, tk .eof 7 7]

/-- `[ A! ]`: the list type spans (0,6), the non-null (2,4), the name (2,3) -/
example : parseType {} toksT =
    .ok (.list (.nonNull (.named ⟨⟨[65], some (2, 3)⟩, some (2, 3)⟩) (some (2, 4))) (some (0, 6))) := rfl
example : parseType { noLocation := true } toksT = .ok (.list (.nonNull (.named ⟨⟨[65], none⟩, none⟩) none) none) := rfl

/-- `query ($foo: Int = 42 @bar) { foo }` (positions of the text): the VariableDefinition spans `$foo … @bar`
    = (7, 26), i.e. it INCLUDES its directives; the operation spans (0, 35) -/
private def toksQ : List Tok :=
  [tk .sof 0 0, tk .name 0 5 [113, 117, 101, 114, 121], tk .parenL 6 7, tk .dollar 7 8, tk .name 8 11 [102, 111, 111],
   tk .colon 11 12, tk .name 13 16 [73, 110, 116], tk .equals 17 18, tk .int 19 21 [52, 50], tk .atSign 22 23,
   tk .name 23 26 [98, 97, 114], tk .parenR 26 27, tk .curlyL 28 29, tk .name 30 33 [102, 111, 111],
   tk .curlyR 34 35, tk .eof 35 35]

example : (parseDocument {} toksQ).toBool = true := by decide +kernel
example : ∃ d, parseDocument {} toksQ = .ok d ∧
    (match d.definitions with
     | [.operation od] => od.loc = some (0, 35) ∧ (od.variableDefinitions.map (·.loc)) = [some (7, 26)]
     | _ => False) := ⟨_, rfl, by decide +kernel⟩

end PyGql.Props.C02
