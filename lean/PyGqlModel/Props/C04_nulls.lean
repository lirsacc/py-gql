/-
  C04 — the global null/error statement: in the response of a whole request no two errors share a path, and every
  error sits at — or, when a `ResolverError` interrupted the completion of a field value, below — an error whose path is
  a position of the data that holds `null` (`null_error_bijection`); together with the local theorems of
  `Props/C04.lean` (a resolver error / a non-null violation / a completion error produces exactly one error at exactly
  its position and nothing propagates) this is the correspondence "error paths = positions nulled by an error".
-/
import PyGqlModel.Props.C04
import PyGqlModel.Lemmas.C04Raise


namespace PyGql.Props.C04
open PyGql PyGql.Exec PyGql.Lemmas.C04Raise

/-- the paths of `es`, in order, are `path ++ r` for the `r` of `rels` -/
private def RelTo (path : Path) (es : List Err) (rels : List Path) : Prop := es.map (·.path) = rels.map (path ++ ·)

private theorem RelTo.nil (path : Path) : RelTo path [] [] := rfl

private theorem RelTo.single (path : Path) (locs : List Nat) (k : ErrKind) :
    RelTo path [{ path := path, locs := locs, kind := k }] [[]] := by
  simp [RelTo]

private theorem RelTo.append {path : Path} {e1 e2 : List Err} {r1 r2 : List Path} (h1 : RelTo path e1 r1) (h2 : RelTo path e2 r2) :
    RelTo path (e1 ++ e2) (r1 ++ r2) := by
  unfold RelTo at *
  rw [List.map_append, List.map_append, h1, h2]

/-- errors recorded under `path ++ [x]`, seen from `path` -/
private theorem RelTo.snoc {path : Path} {x : Seg} {es : List Err} {rels : List Path} (h : RelTo (path ++ [x]) es rels) :
    RelTo path es (rels.map (x :: ·)) := by
  unfold RelTo at *
  rw [h, List.map_map]
  exact List.map_congr_left fun r _ => by simp [List.append_assoc]

/-- relative error paths of a completed value `d`: distinct, each at or below (`suf`) one of them (`pre`) that is a
    position of `d` holding `null` -/
private def Good (d : Data) (rels : List Path) : Prop :=
  rels.Nodup ∧ ∀ r ∈ rels, ∃ pre suf, r = pre ++ suf ∧ Data.at d pre = some .null ∧ pre ∈ rels

/-- relative error paths carried by a travelling `ResolverError`: distinct, strictly below -/
private def Below (rels : List Path) : Prop := rels.Nodup ∧ [] ∉ rels

/-- relative error paths of the items `i, i+1, …` of a list: under distinct indices -/
private def BelowL (i : Nat) (rels : List Path) : Prop := rels.Nodup ∧ ∀ r ∈ rels, ∃ j rest, r = Seg.idx (i + j) :: rest

/-- … each at or below one of them that points at a `null` inside its item -/
private def GoodL (i : Nat) (ds : List Data) (rels : List Path) : Prop :=
  BelowL i rels ∧ ∀ r ∈ rels, ∃ j pre suf dj, r = Seg.idx (i + j) :: (pre ++ suf) ∧ ds[j]? = some dj ∧
    Data.at dj pre = some .null ∧ Seg.idx (i + j) :: pre ∈ rels

def isObjD : Data → Bool
  | .obj _ => true
  | _ => false

private theorem at_null (rel : Path) (h : Data.at .null rel = some .null) : rel = [] := by
  cases rel with
  | nil => rfl
  | cons x xs => cases x <;> simp [Data.at] at h

private theorem at_leaf (j : J) (rel : Path) : Data.at (.leaf j) rel ≠ some .null := by
  cases rel with
  | nil => simp [Data.at]
  | cons x xs => cases x <;> simp [Data.at]

private theorem nodup_map_cons {x : Seg} {rels : List Path} (h : rels.Nodup) : (rels.map (x :: ·)).Nodup :=
  List.pairwise_map.2 (h.imp fun hab e => hab (List.cons.inj e).2)

private theorem good_nil (d : Data) : Good d [] := ⟨.nil, fun _ h => nomatch h⟩

private theorem good_null : Good .null [[]] :=
  ⟨by simp, fun r hr => ⟨[], [], by simpa using hr, rfl, by simp⟩⟩

/-- `resolve_field` catching a `ResolverError`: the field is `null`, its error is at the field, what was recorded
    below the field stays -/
private theorem good_caught {rels : List Path} (h : Below rels) : Good .null (rels ++ [[]]) := by
  refine ⟨List.nodup_append.2 ⟨h.1, by simp, fun a ha b hb e => ?_⟩, fun r _ => ⟨[], r, rfl, rfl, by simp⟩⟩
  cases List.mem_singleton.1 hb
  exact h.2 (e ▸ ha)

private theorem at_obj_cons_ne (k k' : String) (d : Data) (kvs : List (String × Data)) (rel : Path) (h : k ≠ k') :
    Data.at (.obj ((k, d) :: kvs)) (Seg.key k' :: rel) = Data.at (.obj kvs) (Seg.key k' :: rel) := by
  have : (k == k') = false := by simpa using h
  simp [Data.at, List.find?, this]

private theorem at_obj_key_mem (kvs : List (String × Data)) (k : String) (rel : Path) (x : Data)
    (h : Data.at (.obj kvs) (Seg.key k :: rel) = some x) : k ∈ kvs.map (·.1) := by
  simp only [Data.at] at h
  cases hf : kvs.find? (·.1 == k) with
  | none => simp [hf] at h
  | some kv =>
    have hm := List.mem_of_find?_eq_some hf
    have hk := List.find?_some hf
    simp at hk
    exact List.mem_map.mpr ⟨kv, hm, hk⟩

private theorem null_pos_obj {kvs : List (String × Data)} {pre : Path} (h : Data.at (.obj kvs) pre = some .null) :
    ∃ k p, pre = Seg.key k :: p ∧ k ∈ kvs.map (·.1) := by
  cases pre with
  | nil => cases h
  | cons x p =>
    cases x with
    | idx i => cases h
    | key k => exact ⟨k, p, rfl, at_obj_key_mem _ _ _ _ h⟩

/-- the entry of one more response key in front -/
private theorem good_obj_cons {k : String} {d : Data} {kvs : List (String × Data)} {r1 r2 : List Path} (hk : k ∉ kvs.map (·.1))
    (h1 : Good d r1) (h2 : Good (.obj kvs) r2) : Good (.obj ((k, d) :: kvs)) (r1.map (Seg.key k :: ·) ++ r2) := by
  have head2 : ∀ r ∈ r2, ∃ k' p, r = Seg.key k' :: p ∧ k' ≠ k := by
    intro r hr
    obtain ⟨pre, suf, rfl, hd, _⟩ := h2.2 r hr
    obtain ⟨k', p, rfl, hm⟩ := null_pos_obj hd
    exact ⟨k', p ++ suf, rfl, fun e => hk (e ▸ hm)⟩
  refine ⟨List.nodup_append.2 ⟨nodup_map_cons h1.1, h2.1, fun a ha b hb e => ?_⟩, fun r hr => ?_⟩
  · obtain ⟨r0, _, rfl⟩ := List.mem_map.1 ha
    obtain ⟨k', p, rfl, hne⟩ := head2 b hb
    exact hne (Seg.key.inj (List.cons.inj e).1).symm
  · rcases List.mem_append.1 hr with hr | hr
    · obtain ⟨r0, hr0, rfl⟩ := List.mem_map.1 hr
      obtain ⟨pre, suf, rfl, hd, hp⟩ := h1.2 r0 hr0
      exact ⟨Seg.key k :: pre, suf, rfl, by simpa [Data.at] using hd,
        List.mem_append_left _ (List.mem_map.2 ⟨pre, hp, rfl⟩)⟩
    · obtain ⟨pre, suf, rfl, hd, hp⟩ := h2.2 r hr
      obtain ⟨k', p, rfl, hne⟩ := head2 pre hp
      exact ⟨Seg.key k' :: p, suf, rfl, by rw [at_obj_cons_ne _ _ _ _ _ (Ne.symm hne)]; exact hd, List.mem_append_right _ hp⟩

private theorem belowL_nil (i : Nat) : BelowL i [] := ⟨.nil, fun _ h => nomatch h⟩

/-- the errors of item `i`, then those of the items after it -/
private theorem belowL_cons {i : Nat} {r1 r2 : List Path} (h1 : r1.Nodup) (h2 : BelowL (i + 1) r2) :
    BelowL i (r1.map (Seg.idx i :: ·) ++ r2) := by
  refine ⟨List.nodup_append.2 ⟨nodup_map_cons h1, h2.1, fun a ha b hb e => ?_⟩, fun r hr => ?_⟩
  · obtain ⟨r0, _, rfl⟩ := List.mem_map.1 ha
    obtain ⟨j, rest, rfl⟩ := h2.2 b hb
    have := Seg.idx.inj (List.cons.inj e).1
    omega
  · rcases List.mem_append.1 hr with hr | hr
    · obtain ⟨r0, _, rfl⟩ := List.mem_map.1 hr
      exact ⟨0, r0, rfl⟩
    · obtain ⟨j, rest, rfl⟩ := h2.2 r hr
      exact ⟨j + 1, rest, by rw [Nat.add_assoc, Nat.add_comm 1 j]⟩

private theorem goodL_cons {i : Nat} {d : Data} {ds : List Data} {r1 r2 : List Path} (h1 : Good d r1) (h2 : GoodL (i + 1) ds r2) :
    GoodL i (d :: ds) (r1.map (Seg.idx i :: ·) ++ r2) := by
  refine ⟨belowL_cons h1.1 h2.1, fun r hr => ?_⟩
  rcases List.mem_append.1 hr with hr | hr
  · obtain ⟨r0, hr0, rfl⟩ := List.mem_map.1 hr
    obtain ⟨pre, suf, rfl, hd, hp⟩ := h1.2 r0 hr0
    exact ⟨0, pre, suf, d, rfl, rfl, hd, List.mem_append_left _ (List.mem_map.2 ⟨pre, hp, rfl⟩)⟩
  · obtain ⟨j, pre, suf, dj, rfl, hg, hd, hp⟩ := h2.2 r hr
    have e : i + 1 + j = i + (j + 1) := by omega
    exact ⟨j + 1, pre, suf, dj, by rw [e], by simpa using hg, hd, e ▸ List.mem_append_right _ hp⟩

/-- a completed list: positions inside item `j` are positions `idx j :: …` of the list -/
private theorem good_list {ds : List Data} {rels : List Path} (h : GoodL 0 ds rels) : Good (.list ds) rels := by
  refine ⟨h.1.1, fun r hr => ?_⟩
  obtain ⟨j, pre, suf, dj, rfl, hg, hd, hp⟩ := h.2 r hr
  rw [Nat.zero_add] at hp ⊢
  exact ⟨Seg.idx j :: pre, suf, rfl, by simp [Data.at, hg, hd], hp⟩

private theorem below_of_belowL {i : Nat} {rels : List Path} (h : BelowL i rels) : Below rels :=
  ⟨h.1, fun hm => by obtain ⟨_, _, e⟩ := h.2 [] hm; cases e⟩

/-- every error recorded under `path` sits at or below an error of the same list whose position (relative to `path`)
    holds `null` in `d`; error paths are distinct -/
private def Inv (path : Path) (d : Data) (es : List Err) : Prop := ∃ rels, RelTo path es rels ∧ Good d rels

/-- the errors carried by a travelling `ResolverError`: strictly below `path`, pairwise distinct -/
private def InvR (path : Path) (es : List Err) : Prop := ∃ rels, RelTo path es rels ∧ Below rels

/-- `complete_value` at type `t`: completed (a `null` result of a nullable type has no error), or interrupted -/
private def CInv (t : Ty) (path : Path) : R (Data × List Err) → Prop
  | .ok (d, es) => Inv path d es ∧ (t.isNonNull = false → d = .null → es = [])
  | .error (.raised _ _ inner) => InvR path inner
  | .error _ => True

/-- the sub-executor: an object, or interrupted before anything was recorded -/
private def SubInv (path : Path) : R (Data × List Err) → Prop
  | .ok (d, es) => isObjD d = true ∧ Inv path d es
  | .error (.raised _ _ inner) => inner = []
  | .error _ => True

private def LInv (path : Path) (i : Nat) : R (List Data × List Err) → Prop
  | .ok (ds, es) => ∃ rels, RelTo path es rels ∧ GoodL i ds rels
  | .error (.raised _ _ inner) => ∃ rels, RelTo path inner rels ∧ BelowL i rels
  | .error _ => True

private theorem completeList_inv (f : Path → RVal → R (Data × List Err)) (t : Ty) (hf : ∀ p v, CInv t p (f p v)) (path : Path) :
    ∀ (vs : List RVal) (i : Nat), LInv path i (completeList f path i vs) := by
  intro vs
  induction vs with
  | nil => exact fun i => ⟨[], .nil _, belowL_nil i, fun _ h => nomatch h⟩
  | cons v rest ih =>
    intro i
    have h1 := hf (path ++ [.idx i]) v
    have h2 := ih (i + 1)
    simp only [completeList, bind, Except.bind]
    cases hr1 : f (path ++ [.idx i]) v with
    | error x =>
      rw [hr1] at h1
      cases x with
      | raised k l inner =>
        obtain ⟨r1, hrel, hb⟩ := h1
        have := belowL_cons (i := i) hb.1 (belowL_nil _)
        rw [List.append_nil] at this
        exact ⟨_, hrel.snoc, this⟩
      | _ => trivial
    | ok p1 =>
      rw [hr1] at h1
      obtain ⟨⟨r1, hrel1, hg1⟩, _⟩ := h1
      dsimp only
      cases hr2 : completeList f path (i + 1) rest with
      | error x =>
        rw [hr2] at h2
        cases x with
        | raised k l inner =>
          obtain ⟨r2, hrel2, hb2⟩ := h2
          exact ⟨_, hrel1.snoc.append hrel2, belowL_cons hg1.1 hb2⟩
        | _ => trivial
      | ok p2 =>
        rw [hr2] at h2
        obtain ⟨r2, hrel2, hg2⟩ := h2
        exact ⟨_, hrel1.snoc.append hrel2, goodL_cons hg1 hg2⟩

private theorem completeValue_inv (s : SchemaD) (execSub : String → Path → List Sel → R (Data × List Err))
    (hsub : ∀ rt p sels, SubInv p (execSub rt p sels)) (nodes : List FNode) :
    ∀ (t : Ty), t.wf = true → ∀ (path : Path) (v : RVal), CInv t path (completeValue s execSub nodes t path v) := by
  intro t
  induction t with
  | named n =>
    intro _ path v
    rw [completeValue_named]
    cases namedAct s n v with
    | sub rt =>
      have := hsub rt path (mergedSelections nodes)
      show CInv _ path (execSub rt path (mergedSelections nodes))
      cases hr : execSub rt path (mergedSelections nodes) with
      | ok p =>
        rw [hr] at this
        obtain ⟨d, es⟩ := p
        exact ⟨this.2, fun _ hd => by subst hd; cases this.1⟩
      | error x =>
        rw [hr] at this
        cases x with
        | raised k l inner => cases this; exact ⟨[], .nil _, .nil, fun h => nomatch h⟩
        | _ => trivial
    | null => exact ⟨⟨[], .nil _, good_nil _⟩, fun _ _ => rfl⟩
    | leaf r => exact ⟨⟨[], .nil _, good_nil _⟩, fun _ _ => rfl⟩
    | raised msg ext => exact ⟨[], .nil _, .nil, fun h => nomatch h⟩
    | _ => trivial
  | list t ih =>
    intro hwf path v
    have hl := completeList_inv _ t (ih (by simpa [Ty.wf] using hwf)) path
    rw [completeValue_list]
    cases listAct v with
    | null => exact ⟨⟨[], .nil _, good_nil _⟩, fun _ _ => rfl⟩
    | items vs =>
      have := hl vs 0
      dsimp only
      cases hr : completeList (completeValue s execSub nodes t) path 0 vs with
      | ok p =>
        rw [hr] at this
        obtain ⟨rels, hrel, hg⟩ := this
        exact ⟨⟨rels, hrel, good_list hg⟩, fun _ hd => nomatch hd⟩
      | error x =>
        rw [hr] at this
        cases x with
        | raised k l inner =>
          obtain ⟨rels, hrel, hb⟩ := this
          exact ⟨rels, hrel, below_of_belowL hb⟩
        | _ => trivial
    | raising vs msg ext =>
      have := hl vs 0
      dsimp only
      cases hr : completeList (completeValue s execSub nodes t) path 0 vs with
      | ok p =>
        rw [hr] at this
        obtain ⟨rels, hrel, hg⟩ := this
        exact ⟨rels, hrel, below_of_belowL hg.1⟩
      | error x =>
        rw [hr] at this
        cases x with
        | raised k l inner =>
          obtain ⟨rels, hrel, hb⟩ := this
          exact ⟨rels, hrel, below_of_belowL hb⟩
        | _ => trivial
    | _ => trivial
  | nonNull t ih =>
    intro hwf path v
    have hw2 : t.isNonNull = false ∧ t.wf = true := by simpa [Ty.wf] using hwf
    have := ih hw2.2 path v
    rw [completeValue_nonNull]
    cases hr : completeValue s execSub nodes t path v with
    | error x =>
      rw [hr] at this
      cases x with
      | raised k l inner => exact this
      | _ => trivial
    | ok p =>
      rw [hr] at this
      obtain ⟨d, es⟩ := p
      obtain ⟨hi, hnull⟩ := this
      cases d with
      | null =>
        rw [hnull hw2.1 rfl]
        exact ⟨⟨_, .single _ _ _, good_null⟩, fun h => nomatch h⟩
      | _ => exact ⟨hi, fun h => nomatch h⟩

private theorem resolveField_inv (s : SchemaD) (w : World) (execSub : String → Path → List Sel → R (Data × List Err))
    (hsub : ∀ rt p sels, SubInv p (execSub rt p sels))
    (parent : String) (path : Path) (nodes : List FNode) (fd : FieldD) (hwf : fd.type.wf = true) (d : Data) (es : List Err)
    (h : resolveField s w execSub parent path nodes fd = .ok (d, es)) : Inv path d es := by
  cases nodes with
  | nil => cases h
  | cons node more =>
    rw [resolveField_cons] at h
    generalize fieldAct w parent fd path node = a at h
    cases a with
    | nullWith k => cases h; exact ⟨_, .single _ _ _, good_null⟩
    | boom => cases h
    | complete v =>
      have hc := completeValue_inv s execSub hsub (node :: more) fd.type hwf path v
      dsimp only at h
      rcases catchField_eq_ok _ _ _ _ _ h with h | ⟨k, l, i, hi, rfl, rfl⟩
      · rw [h] at hc
        exact hc.1
      · rw [hi] at hc
        obtain ⟨rels, hrel, hb⟩ := hc
        exact ⟨_, hrel.append (.single _ _ _), good_caught hb⟩

private theorem definedKeys_subset (s : SchemaD) (parent : String) (g : Grouped) : ∀ x ∈ definedKeys s parent g, x ∈ g.keys := by
  induction g with
  | nil => intro x h; simp [definedKeys] at h
  | cons kv rest ih =>
    obtain ⟨k, ns⟩ := kv
    intro x h
    have hrest : x ∈ definedKeys s parent rest → x ∈ Grouped.keys ((k, ns) :: rest) := fun h => List.mem_cons_of_mem _ (ih x h)
    cases ns with
    | nil =>
      simp only [definedKeys] at h
      exact hrest h
    | cons n more =>
      simp only [definedKeys] at h
      split at h
      · rcases List.mem_cons.1 h with rfl | h
        · exact List.mem_cons_self ..
        · exact hrest h
      · exact hrest h

/-- all field types of the schema are well-formed type expressions (no `T!!`; true of every schema built from SDL) -/
def TypesWf (s : SchemaD) : Prop := ∀ parent name fd, fieldOf s parent name = some fd → fd.type.wf = true

private theorem executeGroups_inv (s : SchemaD) (hs : TypesWf s) (w : World) (execSub : String → Path → List Sel → R (Data × List Err))
    (hsub : ∀ rt p sels, SubInv p (execSub rt p sels)) (parent : String) (path : Path) :
    ∀ (g : Grouped) (kvs : List (String × Data)) (es : List Err), g.keys.Nodup →
      executeGroups s w execSub parent path g = .ok (kvs, es) → Inv path (.obj kvs) es := by
  intro g
  induction g with
  | nil =>
    intro kvs es _ h
    cases h
    exact ⟨[], .nil _, good_nil _⟩
  | cons kv rest ih =>
    intro kvs es hnd h
    obtain ⟨key, nodes⟩ := kv
    obtain ⟨hkey, hnd'⟩ := List.nodup_cons.1 hnd
    have keyNotIn : ∀ kvs' es', executeGroups s w execSub parent path rest = .ok (kvs', es') → key ∉ kvs'.map (·.1) := by
      intro kvs' es' hr hm
      rw [keys_document_order s w execSub parent path rest kvs' es' hr] at hm
      exact hkey (definedKeys_subset s parent rest key hm)
    rw [executeGroups_cons] at h
    obtain ⟨a, hact, h⟩ := bind_eq_ok h
    cases a with
    | skip => exact ih kvs es hnd' h
    | typename =>
      obtain ⟨⟨kvs', es'⟩, hr, h⟩ := bind_eq_ok h
      cases h
      obtain ⟨r2, hrel2, hg2⟩ := ih kvs' es' hnd' hr
      exact ⟨r2, hrel2, good_obj_cons (keyNotIn _ _ hr) (good_nil _) hg2⟩
    | field fd =>
      obtain ⟨node, more, hnodes, _, hf⟩ := groupAct_field hact
      obtain ⟨⟨d1, e1⟩, hr1, h⟩ := bind_eq_ok h
      obtain ⟨⟨kvs', es'⟩, hr, h⟩ := bind_eq_ok h
      cases h
      obtain ⟨r1, hrel1, hg1⟩ := resolveField_inv s w execSub hsub parent _ _ fd (hs _ _ _ hf) d1 e1 hr1
      obtain ⟨r2, hrel2, hg2⟩ := ih kvs' es' hnd' hr
      exact ⟨_, hrel1.snoc.append hrel2, good_obj_cons (keyNotIn _ _ hr) hg1 hg2⟩

private theorem executeFields_inv (s : SchemaD) (hs : TypesWf s) (doc : Doc) (vars : Vars) (w : World) (cf : Nat) :
    ∀ (fuel : Nat) (parent : String) (path : Path) (sels : List Sel),
      SubInv path (executeFields s doc vars w cf fuel parent path sels) := by
  intro fuel
  induction fuel with
  | zero => intro parent path sels; trivial
  | succ n ih =>
    intro parent path sels
    cases h : executeFields s doc vars w cf (n + 1) parent path sels with
    | error x =>
      cases x with
      | raised k l inner => exact (executeFields_raised s doc vars w cf (n + 1) parent path sels k l inner h).2.2.1
      | _ => trivial
    | ok p =>
      simp only [executeFields] at h
      obtain ⟨⟨g, seen'⟩, h1, h⟩ := bind_eq_ok h
      obtain ⟨⟨kvs, es2⟩, h2, h⟩ := bind_eq_ok h
      cases h
      have hnd := (alias_merge s doc vars cf parent sels [] g seen' ((catchDirective_eq_ok _ _).1 h1)).1
      exact ⟨rfl, executeGroups_inv s hs w _ (ih) parent path g kvs _ hnd h2⟩

/-- In the response of a whole request, for every schema with well-formed field
    types, every document, variables, world and fuel — no two errors have the same path, and every error sits at or
    below an error whose response path is a position of the data that holds `null`. (Conversely,
    `resolver_error_null_one_error`, `nonnull_violation_null_one_error` and `completion_error_is_field_error` show that
    each failing resolver / non-null violation / interrupted completion does produce its error, with the field's
    location; `nullable_null_no_error`/`nonnull_ok_no_error` that nothing else does.) "Below" cannot be dropped:
    `error_below_null_witness`. -/
theorem null_error_bijection (s : SchemaD) (hs : TypesWf s) (doc : Doc) (vars : Vars) (w : World) (cf fuel : Nat)
    (root : String) (sels : List Sel) : NullErrorBijection s doc vars w cf fuel root sels := by
  intro d es h
  have := executeFields_inv s hs doc vars w cf fuel root [] sels
  rw [h] at this
  obtain ⟨_, rels, hrel, hn, ha⟩ := this
  have hp : es.map (·.path) = rels := by simpa [RelTo] using hrel
  subst hp
  refine ⟨hn, fun e he => ?_⟩
  obtain ⟨pre, suf, hp, hd, hm⟩ := ha e.path (List.mem_map.2 ⟨e, he, rfl⟩)
  obtain ⟨e', he', rfl⟩ := List.mem_map.1 hm
  exact ⟨e', he', suf, hp, hd⟩

/-- `null_error_bijection` under a name that says what is proved (one direction: from
    errors to nulls; see the doc comment of `NullErrorBijection` for what the converse would need) -/
theorem errors_at_or_below_nulls (s : SchemaD) (hs : TypesWf s) (doc : Doc) (vars : Vars) (w : World) (cf fuel : Nat)
    (root : String) (sels : List Sel) (d : Data) (es : List Err)
    (h : executeFields s doc vars w cf fuel root [] sels = .ok (d, es)) :
    (es.map (·.path)).Nodup ∧ ∀ e ∈ es, ∃ e' ∈ es, ∃ suf, e.path = e'.path ++ suf ∧ Data.at d e'.path = some .null :=
  null_error_bijection s hs doc vars w cf fuel root sels d es h

/-- When the ROOT selection set cannot be collected (`execute`: `data = None`), the
    response carries exactly one error, without path and without field location -/
theorem root_failure_single_error (s : SchemaD) (doc : Doc) (vars : Vars) (w : World) (cf fuel : Nat) (root : String)
    (sels : List Sel) (k : ErrKind) (l : Option (List Nat)) (inner : List Err)
    (h : executeFields s doc vars w cf fuel root [] sels = .error (.raised k l inner)) :
    inner ++ [({ path := [], locs := l.getD [], kind := k } : Err)] = [{ path := [], locs := [], kind := .directive }] := by
  obtain ⟨rfl, rfl, rfl, _⟩ := executeFields_raised s doc vars w cf fuel root [] sels k l inner h
  rfl

end PyGql.Props.C04

namespace PyGql.Props.C04
open PyGql PyGql.Exec

/-! ### "below" cannot be dropped: an interrupted list keeps the errors of the items already completed -/
def wSchema : SchemaD :=
  { types := [{ kind := .object, name := "Query", fields := [{ name := "xs", type := .list (.named "Ob") }] },
              { kind := .object, name := "Ob", fields := [{ name := "y", type := .named "Int" }] }] }
def wDoc : Doc :=
  { ops := [{ kind := "query", name := none,
              sels := [.field "xs" "xs" 2 [] [("Query", some "")] true [.field "y" "y" 7 [] [("Ob", some "")] false []]] }], frags := [] }
/-- `xs` is a generator yielding one `Ob` and then raising `ResolverError`; `y` raises `ResolverError` -/
def wWorld : World := fun parent _ _ _ =>
  if parent == "Query" then .val (.raise [.obj "Ob"] "lazy" none) else .err "bad" none

/-- the error of `xs[0].y`, recorded before the iterable of `xs` raised, stays although `xs` is `null` -/
theorem error_below_null_witness :
    executeFields wSchema wDoc [] wWorld 3 3 "Query" [] (wDoc.ops.head!).sels
      = .ok (.obj [("xs", .null)],
             [{ path := [.key "xs", .idx 0, .key "y"], locs := [7], kind := .resolver "bad" none },
              { path := [.key "xs"], locs := [2], kind := .resolver "lazy" none }]) := by
  rfl

end PyGql.Props.C04
