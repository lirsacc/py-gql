/-
  C04 / C05 — the fuel is not part of the meaning.
  * `collect_fuel_mono`, `exec_fuel_mono`: once a run does not end in `outOfFuel`, more fuel (for `collect_fields`
    and for the executor) gives literally the same result; hence the response of a request is a function of
    (schema, document, variables, world, operation name) — `response_unique`.
  * That enough fuel exists on documents whose fragments can be ranked (`collect_fuel_sufficient`, `exec_fuel_sufficient`,
    `responds`) is `Props/C04_total.lean`.
-/
import PyGqlModel.Lemmas.C04Steps


namespace PyGql.Props.C04
open PyGql PyGql.Exec

private theorem collectStep_mono (s : SchemaD) (doc : Doc) (vars : Vars)
    (rec rec' : String → List Sel → List String → R (Grouped × List String)) (hx : Extends3 rec rec') (obj : String) :
    ∀ (sels : List Sel) (seen : List String) (g : Grouped), Fueled (collectStep s doc vars rec obj sels seen g) →
      collectStep s doc vars rec' obj sels seen g = collectStep s doc vars rec obj sels seen g := by
  intro sels
  induction sels with
  | nil => intro seen g _; rfl
  | cons sel rest ih =>
    intro seen g hfu
    rw [collectStep_cons] at hfu
    rw [collectStep_cons, collectStep_cons]
    refine bind_mono hfu (fun _ => rfl) (fun a _ ha => ?_)
    cases a with
    | drop => exact ih _ _ ha
    | keep n => exact ih _ _ ha
    | expand sels name => exact bind_mono ha (hx obj sels seen) (fun p _ hp => ih _ _ hp)

/-- one more unit of fuel does not change a `collect_fields` result that did not run out -/
theorem collect_fuel_mono (s : SchemaD) (doc : Doc) (vars : Vars) (n : Nat) :
    Extends3 (collectFields s doc vars n) (collectFields s doc vars (n + 1)) := by
  induction n with
  | zero => intro obj sels seen h; exact absurd rfl h
  | succ n ih =>
    intro obj sels seen h
    simp only [collectFields] at h ⊢
    exact collectStep_mono s doc vars _ _ ih obj sels seen [] h

theorem collect_fuel_mono_le (s : SchemaD) (doc : Doc) (vars : Vars) (n m : Nat) (h : n ≤ m) :
    Extends3 (collectFields s doc vars n) (collectFields s doc vars m) := by
  induction h with
  | refl => intro a b c _; rfl
  | step _ ih =>
    intro a b c hf
    have h1 := ih a b c hf
    rw [← h1] at hf
    rw [collect_fuel_mono s doc vars _ a b c hf, h1]


/-- more fuel — for `collect_fields` and for the executor — does not change a result that did
    not run out of fuel. -/
theorem exec_fuel_mono (s : SchemaD) (doc : Doc) (vars : Vars) (w : World) :
    ∀ (n n' cf cf' : Nat), n ≤ n' → cf ≤ cf' →
      Extends3 (executeFields s doc vars w cf n) (executeFields s doc vars w cf' n') := by
  intro n
  induction n with
  | zero => intro n' cf cf' _ _ a b c h; exact absurd rfl h
  | succ n ih =>
    intro n' cf cf' hn hc parent path sels hfu
    cases n' with
    | zero => omega
    | succ m =>
      simp only [executeFields] at hfu ⊢
      refine bind_mono hfu (fun h => ?_) (fun p _ hp => ?_)
      · rw [collect_fuel_mono_le s doc vars cf cf' hc parent sels [] (fun h' => h (by rw [h']; rfl))]
      · obtain ⟨g, _⟩ := p
        exact bind_mono hp (executeGroups_dep s w w _ _ parent path fun key nodes fd _ =>
          resolveField_dep s w w _ _ parent _ nodes fd (fun _ => rfl) fun rel rt => ih m cf cf' (by omega) hc _ _ _)
          (fun _ _ _ => rfl)

/-- a request RESPONDS with `r`: some amounts of fuel produce `r` and `r` is not the out-of-fuel artefact -/
def RespondsWith (s : SchemaD) (doc : Doc) (vars : Vars) (w : World) (op : Option String) (r : Response) : Prop :=
  ∃ fuel cf, execute s doc vars w op fuel cf = r ∧ r ≠ .failed .outOfFuel

/-- how `execute` shapes the outcome of the root selection set -/
def respond : R (Data × List Err) → Response
  | .ok (d, es) => .result d es
  | .error (.raised k l inner) => .result .null (inner ++ [{ path := [], locs := l.getD [], kind := k }])
  | .error f => .failed f

theorem getOperation_mem {doc : Doc} {op : Option String} {o : Op} (h : getOperation doc op = some o) : o ∈ doc.ops := by
  unfold getOperation at h
  split at h
  · split at h
    · simp at h; subst h; simp [*]
    · simp at h
  · split at h
    · simp at h; subst h; simp [*]
    · simp at h
  · exact List.mem_of_find?_eq_some h

/-- whatever the fuel, a request is refused, or answered by executing the selection set of one operation of the document
    on its root type. (`execute … fuel cf` passes its two amounts of fuel to `executeFields … cf fuel` in the other order:
    the collector's comes first there.) -/
theorem execute_cases (s : SchemaD) (doc : Doc) (vars : Vars) (w : World) (op : Option String) :
    (∀ f c, execute s doc vars w op f c = .abort "operation") ∨
    ∃ o ∈ doc.ops, ∃ root, ∀ f c, execute s doc vars w op f c = respond (executeFields s doc vars w c f root [] o.sels) := by
  cases hgo : getOperation doc op with
  | none => exact Or.inl fun f c => by simp only [execute, hgo]
  | some o =>
    cases hroot : rootType s o.kind with
    | none => exact Or.inl fun f c => by simp only [execute, hgo, hroot]
    | some root =>
      by_cases hsub : o.kind == "subscription"
      · exact Or.inl fun f c => by simp only [execute, hgo, hroot, hsub, if_true]
      · refine Or.inr ⟨o, getOperation_mem hgo, root, fun f c => ?_⟩
        simp only [execute, hgo, hroot, hsub, Bool.false_eq_true, if_false]
        rfl

/-- the response of a request does not depend on the fuel — it is a function of
    (schema, document, variables, world, operation name). Theorems stated "for every fuel" therefore speak about
    THE response of the document. -/
theorem response_unique (s : SchemaD) (doc : Doc) (vars : Vars) (w : World) (op : Option String) (r r' : Response)
    (h : RespondsWith s doc vars w op r) (h' : RespondsWith s doc vars w op r') : r = r' := by
  obtain ⟨f1, c1, e1, n1⟩ := h
  obtain ⟨f2, c2, e2, n2⟩ := h'
  rcases execute_cases s doc vars w op with ha | ⟨o, _, root, hx⟩
  · rw [← e1, ← e2, ha, ha]
  · rw [hx] at e1 e2
    have key : ∀ f c (r : Response), respond (executeFields s doc vars w c f root [] o.sels) = r → r ≠ .failed .outOfFuel →
        Fueled (executeFields s doc vars w c f root [] o.sels) := by
      intro f c r he hn hfu
      rw [hfu] at he
      exact hn he.symm
    have a1 := exec_fuel_mono s doc vars w f1 (max f1 f2) c1 (max c1 c2) (Nat.le_max_left ..) (Nat.le_max_left ..) root [] o.sels (key _ _ _ e1 n1)
    have a2 := exec_fuel_mono s doc vars w f2 (max f1 f2) c2 (max c1 c2) (Nat.le_max_right ..) (Nat.le_max_right ..) root [] o.sels (key _ _ _ e2 n2)
    rw [← e1, ← e2, ← a1, ← a2]

end PyGql.Props.C04
