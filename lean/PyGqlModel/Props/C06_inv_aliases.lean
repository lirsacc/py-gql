/-
  C06 - **alpha_aliases**: renaming of aliases. Proved on the MODEL OF THE CODE, not through
  the specification clauses: 24 of the 26 rule visitors never read an alias, so the run of any chain made of them is the
  same, state by state, on the renamed document (no hypothesis on the document, the fixes or the renaming - it need not
  even be injective). `SingleFieldSubscriptions` reads the response keys of the root selection set: invariant when the
  renaming acts injectively on response keys (through `rule_single_field_subscriptions_iff`).
  `OverlappingFieldsCanBeMerged`, which needs injectivity on response keys as well: `Props/C06_inv_aliases_all26.lean`.
-/
import PyGqlModel.Props.C06_inv_tr_vars
import PyGqlModel.Lemmas.ValidateOverlapSimAl
namespace PyGql.Props.C06
open PyGql PyGql.Validate PyGql.Validate.Spec

/-- full statement (kept visible): a renaming of aliases that acts injectively on response keys never changes the
    verdict of the whole chain. Rule by rule, OverlappingFieldsCanBeMerged included (the memoised rule, under its side
    conditions): `alpha_aliases_all26`, `alpha_aliases_verdict_invariance_memo` (Props/C06_inv_aliases_all26.lean). -/
def FullStatement_alpha_aliases : Prop :=
  ∀ (A : Al) (ρ : String → String), A.Renames ρ → (∀ a b, ρ a = ρ b → a = b) → ∀ (s : SchemaD) (d : Doc),
    verdict { schema := s } (A.doc d) = verdict { schema := s } d

def AliasBlindRules : List Rule := Rule.all.filter fun r => !r.readsAlias

example : AliasBlindRules.length = 24 := by decide +kernel

/-- **alpha_aliases for every chain of alias-blind rules** (in particular the 24 of `AliasBlindRules` together, in the
    order of `SPECIFIED_RULES`): same outcome - the same number of errors of every rule, or the same crash -, same
    verdict. ANY renaming of aliases, any document, any variant of the fixes. -/
theorem alpha_aliases_chain_partial (A : Al) (c : Cfg) (hc : ∀ r ∈ c.rules, r.readsAlias = false) (d : Doc) :
    visitDocument c (A.doc d) {} = visitDocument c d {} ∧ verdict c (A.doc d) = verdict c d := by
  have h := visitDocument_al A c hc d {}
  exact ⟨h, by simp only [verdict, run, h]⟩

theorem alpha_aliases_24_chain_partial (A : Al) (s : SchemaD) (fx : Fixes) (d : Doc) :
    verdict ⟨s, fx, AliasBlindRules⟩ (A.doc d) = verdict ⟨s, fx, AliasBlindRules⟩ d :=
  (alpha_aliases_chain_partial A ⟨s, fx, AliasBlindRules⟩ (show ∀ r ∈ AliasBlindRules, r.readsAlias = false by decide +kernel) d).2

/-- **alpha_aliases**, rule by rule (the form of the other invariance theorems) -/
theorem alpha_aliases_all_partial (A : Al) (s : SchemaD) (fx : Fixes) (d : Doc) (r : Rule) (hr : r.readsAlias = false) :
    Silent s fx r (A.doc d) ↔ Silent s fx r d := by
  unfold Silent alone
  rw [(alpha_aliases_chain_partial A ⟨s, fx, [r]⟩ (by simpa using hr) d).1]

theorem mem_nodes_operation (d : Doc) (k : String) (nm : Option String) (vs : List VarDef) (ds : List Dir) (sels : List Sel) :
    Node.operation k nm vs ds sels ∈ nodes d ↔ ∃ id, Def.op k nm vs ds id sels ∈ d.defs :=
  operation_mem_nodes d k nm vs ds sels

theorem single_field_subscriptions_spec_al (A : Al) (ρ : String → String) (hA : A.Renames ρ)
    (hρ : ∀ a b, ρ a = ρ b → a = b) (d : Doc) :
    Spec.singleFieldSubscriptions (A.doc d) ↔ Spec.singleFieldSubscriptions d :=
  (A.docMap d).sfs_iff (fun _ _ h => h) hA hρ

/-- **alpha_aliases for `SingleFieldSubscriptionsChecker`**: `A` renames response keys by an injective `ρ` -/
theorem alpha_aliases_single_field_subscriptions (A : Al) (ρ : String → String) (hA : A.Renames ρ)
    (hρ : ∀ a b, ρ a = ρ b → a = b) (s : SchemaD) (fx : Fixes) (d : Doc) :
    Silent s fx .singleFieldSubscriptions (A.doc d) ↔ Silent s fx .singleFieldSubscriptions d := by
  rw [rule_single_field_subscriptions_iff, rule_single_field_subscriptions_iff]
  exact single_field_subscriptions_spec_al A ρ hA hρ d

/-- **alpha_aliases for 25 of the 26 rules** (all but OverlappingFieldsCanBeMerged)
    [alone-run statement, see `Silent`; the chain: `chainM_six_transformations`] -/
theorem alpha_aliases_all25_partial (A : Al) (ρ : String → String) (hA : A.Renames ρ) (hρ : ∀ a b, ρ a = ρ b → a = b)
    (s : SchemaD) (fx : Fixes) (d : Doc) (r : Rule) (hr : r ≠ .overlappingFieldsCanBeMerged) :
    Silent s fx r (A.doc d) ↔ Silent s fx r d := by
  by_cases h : r = .singleFieldSubscriptions
  · subst h; exact alpha_aliases_single_field_subscriptions A ρ hA hρ s fx d
  · refine alpha_aliases_all_partial A s fx d r ?_
    cases r with
    | singleFieldSubscriptions => exact absurd rfl h
    | overlappingFieldsCanBeMerged => exact absurd rfl hr
    | _ => rfl

/-- every response key gets the suffix "_" as an explicit alias: a genuine renaming that satisfies the hypotheses -/
def suffixAl : Al := ⟨fun al n => some (okey al n ++ "_")⟩

theorem suffixAl_renames : suffixAl.Renames (· ++ "_") := fun _ _ => rfl
theorem suffix_inj : ∀ a b : String, a ++ "_" = b ++ "_" → a = b := fun a b h => by
  have := congrArg String.toList h
  simp only [String.toList_append] at this
  exact String.toList_inj.mp (List.append_cancel_right this)

example (s : SchemaD) (fx : Fixes) (d : Doc) (r : Rule) (hr : r ≠ .overlappingFieldsCanBeMerged) :
    Silent s fx r (suffixAl.doc d) ↔ Silent s fx r d :=
  alpha_aliases_all25_partial suffixAl _ suffixAl_renames suffix_inj s fx d r hr

/-- injectivity on response keys is needed for SingleFieldSubscriptions: mapping every key to "k" merges the two root
    fields of `subscription { a b }` -/
example : (rootKeys [] 10 ((⟨fun _ _ => some "k"⟩ : Al).selList
      [.field none "a" [] [] false 0 [], .field none "b" [] [] false 0 []])).length = 1 ∧
    (rootKeys [] 10 [.field none "a" [] [] false 0 [], .field none "b" [] [] false 0 []]).length = 2 := by decide +kernel

end PyGql.Props.C06
