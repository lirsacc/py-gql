/-
  C01, text level: lexer ∘ parser — "a text is accepted exactly when it derives from the grammar", obtained for each of
  the three entry points by composing the lexical characterisation (`lex_sound` / `lex_render`: `lexAll` accepts exactly
  the tiled texts) with the token-level soundness and completeness of its parser (`text_result`).
-/
import PyGqlModel.Props.C01_lex
import PyGqlModel.Props.C01_parse

namespace PyGql.Props.C01
open PyGql PyGql.Parse PyGql.Ast PyGql.Spec
open PyGql.Spec.Lexical (Tiles)

private theorem text_result {α} {fl : Flags} {run : Text → Option α} {p : List Tok → Except SynErr α} {W : α → Prop}
    {V : α → List Item} (hrun : ∀ {s a}, run s = some a ↔ ∃ toks, Lex.lexAll s = .ok toks ∧ p toks = .ok a)
    (sound : ∀ toks a, p toks = .ok a → W a ∧ Matches fl (V a) toks)
    (complete : ∀ toks a, W a → Matches fl (V a) toks → p toks = .ok a) (s : Text) (a : α) :
    run s = some a ↔ ∃ body, Tiles s.length s body ∧ W a ∧ Matches fl (V a) (Lex.sofTok :: body) := by
  rw [hrun]
  constructor
  · rintro ⟨toks, hl, hp⟩
    obtain ⟨body, rfl, ht⟩ := lex_sound s toks hl
    exact ⟨body, ht, sound _ a hp⟩
  · rintro ⟨body, ht, w, m⟩
    exact ⟨_, lex_render s body ht, complete _ a w m⟩

/-- the tree returned for an accepted text is the well-formed document matched by the tiling's tokens -/
theorem parse_text_result (fl : Flags) (s : Text) (d : Document) :
    parseText fl s = some d ↔
      ∃ body, Tiles s.length s body ∧ wfDocument fl d = true ∧ Matches fl [documentV d] (Lex.sofTok :: body) :=
  text_result (V := fun d => [documentV d]) parseText_eq_some (parse_sound_document fl) (parse_complete_document fl) s d

/-- `parse(text)` succeeds EXACTLY when the text is a tiling — ignored runs (white space,
    line terminators, commas, BOMs, comments) and complete lexemes of the lexical grammar, each obeying its follow
    restriction — whose token list is derived by a well-formed document of the June-2018 grammar (under the given
    flags). No lexer or parser function occurs on the right-hand side: it is the specification only. -/
theorem parse_text_accepts_iff (fl : Flags) (s : Text) :
    (∃ d, parseText fl s = some d) ↔
      ∃ body d, Tiles s.length s body ∧ wfDocument fl d = true ∧ Matches fl [documentV d] (Lex.sofTok :: body) :=
  ⟨fun ⟨d, h⟩ => let ⟨b, r⟩ := (parse_text_result fl s d).1 h; ⟨b, d, r⟩,
   fun ⟨b, d, r⟩ => ⟨d, (parse_text_result fl s d).2 ⟨b, r⟩⟩⟩

/-- `parse_value(text)` returns `v` EXACTLY when the text is a tiling whose tokens are `SOF`, a derivation of the
    well-formed value `v` (variables allowed: `Value[~Const]`), `EOF` — specification only on the right-hand side. -/
theorem parse_value_text_result (fl : Flags) (s : Text) (v : Value) :
    parseValueText fl s = some v ↔
      ∃ body, Tiles s.length s body ∧ wfValue false v = true ∧ Matches fl [p .sof, valueV v, p .eof] (Lex.sofTok :: body) :=
  text_result (V := fun v => [p .sof, valueV v, p .eof]) parseValueText_eq_some (parseValue_sound fl) (parseValue_complete fl) s v

/-- `parse_type(text)` returns `t` exactly when the text is a tiling whose tokens are `SOF`, a derivation of the
    well-formed type `t`, `EOF`. -/
theorem parse_type_text_result (fl : Flags) (s : Text) (t : TypeRef) :
    parseTypeText fl s = some t ↔
      ∃ body, Tiles s.length s body ∧ wfType t = true ∧ Matches fl [p .sof, typeV t, p .eof] (Lex.sofTok :: body) :=
  text_result (V := fun t => [p .sof, typeV t, p .eof]) parseTypeText_eq_some (parseType_sound fl) (parseType_complete fl) s t

theorem parse_value_text_accepts_iff (fl : Flags) (s : Text) :
    (∃ v, parseValueText fl s = some v) ↔
      ∃ body v, Tiles s.length s body ∧ wfValue false v = true ∧ Matches fl [p .sof, valueV v, p .eof] (Lex.sofTok :: body) :=
  ⟨fun ⟨v, h⟩ => let ⟨b, r⟩ := (parse_value_text_result fl s v).1 h; ⟨b, v, r⟩,
   fun ⟨b, v, r⟩ => ⟨v, (parse_value_text_result fl s v).2 ⟨b, r⟩⟩⟩

theorem parse_type_text_accepts_iff (fl : Flags) (s : Text) :
    (∃ t, parseTypeText fl s = some t) ↔
      ∃ body t, Tiles s.length s body ∧ wfType t = true ∧ Matches fl [p .sof, typeV t, p .eof] (Lex.sofTok :: body) :=
  ⟨fun ⟨t, h⟩ => let ⟨b, r⟩ := (parse_type_text_result fl s t).1 h; ⟨b, t, r⟩,
   fun ⟨b, t, r⟩ => ⟨t, (parse_type_text_result fl s t).2 ⟨b, r⟩⟩⟩

/-! ### the optional `{…}` blocks of type-system definitions are read greedily (known finding LA2)

    June 2018 has no `[lookahead ≠ {]`: `type A {b}` also derives as the block-less `type A` followed by the shorthand
    query `{b}`. The grammar specification of this development takes the reading of the library, graphql-js and the 2021
    text EXPLICITLY — `Spec.blockV`: an absent block is the item `nla .curlyL` — so `parse_text_accepts_iff` is an "iff"
    for that reading; the instances below show it on the model (the two sibling texts are two definitions). -/

private def tsFlags : Flags := { noLocation := true, allowTypeSystem := true, experimentalFragmentVariables := false }

/-- `type A {b}` is rejected … -/
example : (parseText tsFlags [116, 121, 112, 101, 32, 65, 32, 123, 98, 125]).isSome = false := by decide +kernel
/-- … while `scalar A {b}` and `type A query {b}` are two definitions -/
example : ((parseText tsFlags [115, 99, 97, 108, 97, 114, 32, 65, 32, 123, 98, 125]).map (·.definitions.length)) = some 2 := by decide +kernel
example : ((parseText tsFlags [116, 121, 112, 101, 32, 65, 32, 113, 117, 101, 114, 121, 32, 123, 98, 125]).map (·.definitions.length)) = some 2 := by decide +kernel

end PyGql.Props.C01
