/-
  C04 — execution yields the specified result: theorems about the model (`PyGqlModel/Exec.lean`)
  and the specification (`PyGqlModel/Spec/ExecSpec.lean`).
-/
import PyGqlModel.Spec.ExecSpec
import PyGqlModel.Lemmas.C04Met


namespace PyGql.Props.C04
open PyGql PyGql.Exec PyGql.Spec

/-- `_skip_selection` = "`@skip(if: true)` or `@include(if: false)`", whenever both directive arguments
    can be read (they always can in a validated operation with accepted variables). -/
theorem skip_include (vars : Vars) (dirs : List Dir) (sk inc : Option Bool)
    (h1 : dirIf vars dirs "skip" = .ok sk) (h2 : dirIf vars dirs "include" = .ok inc) :
    skipSelection vars dirs = .ok (sk == some true || inc == some false) := by
  simp only [skipSelection, h1, h2, bind, Except.bind, pure, Except.pure]
  cases sk with
  | none => cases inc with
    | none => rfl
    | some b => cases b <;> rfl
  | some a => cases a <;> cases inc with
    | none => rfl
    | some b => cases b <;> rfl

/-- a skipped field contributes nothing to the grouped field set -/
theorem skip_include_field (s : SchemaD) (doc : Doc) (vars : Vars) rec obj key name loc dirs args hs sub rest seen g
    (h : skipSelection vars dirs = .ok true) :
    collectStep s doc vars rec obj (.field key name loc dirs args hs sub :: rest) seen g
      = collectStep s doc vars rec obj rest seen g := by
  simp [collectStep, h, bind, Except.bind]

/-- an included field is appended to the group of its response key (alias if present) -/
theorem included_field (s : SchemaD) (doc : Doc) (vars : Vars) rec obj key name loc dirs args hs sub rest seen g
    (h : skipSelection vars dirs = .ok false) :
    collectStep s doc vars rec obj (.field key name loc dirs args hs sub :: rest) seen g
      = collectStep s doc vars rec obj rest seen
          (g.extend key [{ key := key, name := name, loc := loc, args := args, hasSub := hs, sub := sub }]) := by
  simp [collectStep, h, bind, Except.bind]

/-- a skipped inline fragment contributes nothing (its selections are not even visited) -/
theorem skip_include_inline (s : SchemaD) (doc : Doc) (vars : Vars) rec obj on dirs sub rest seen g
    (h : skipSelection vars dirs = .ok true) :
    collectStep s doc vars rec obj (.inline on dirs sub :: rest) seen g
      = collectStep s doc vars rec obj rest seen g := by
  simp [collectStep, h, bind, Except.bind, pure, Except.pure]

/-- an inline fragment whose type condition does not apply to the runtime object type contributes nothing -/
theorem inline_type_condition (s : SchemaD) (doc : Doc) (vars : Vars) rec obj on dirs sub rest seen g
    (h : skipSelection vars dirs = .ok false) (ha : fragmentTypeApplies s obj on = .ok false) :
    collectStep s doc vars rec obj (.inline on dirs sub :: rest) seen g
      = collectStep s doc vars rec obj rest seen g := by
  simp [collectStep, h, ha, bind, Except.bind, pure, Except.pure]

/-- a fragment applies exactly when its type condition is absent, is the object type itself, or is an
    abstract type of which the object type is a possible type -/
theorem fragment_applies_iff (s : SchemaD) (obj c : String) (k : Kind) (hk : kindOf s c = some k) :
    fragmentTypeApplies s obj (some c) = .ok (c == obj || (isAbstract s c && isPossibleType s c obj)) := by
  simp [fragmentTypeApplies, hk]

example : skipSelection [("v", .bool true)] [⟨"include", .lit true⟩, ⟨"skip", .var "v"⟩] = .ok true := by
  simp [skipSelection, dirIf, Vars.get?, truthy, bind, Except.bind, pure, Except.pure]
example : skipSelection [] [⟨"skip", .var "v"⟩] = .error (.internal "CoercionError") := by
  simp [skipSelection, dirIf, Vars.get?, bind, Except.bind]

private theorem extend_keys_prefix (g : Grouped) (k : String) (ns : List FNode) : g.keys <+: (g.extend k ns).keys := by
  induction g with
  | nil => exact List.nil_prefix
  | cons kv rest ih =>
    simp only [Grouped.extend]
    split
    · exact List.prefix_refl _
    · exact List.prefix_cons_inj _ |>.2 ih

private theorem addSeq_keys_prefix (g : Grouped) (q : List FNode) : g.keys <+: (addSeq g q).keys := by
  induction q generalizing g with
  | nil => exact List.prefix_refl _
  | cons n q ih => exact (extend_keys_prefix g n.key [n]).trans (ih _)

/-- invariant of a grouped field set: every node sits in the group of its own response key -/
def KeysOk (g : Grouped) : Prop := ∀ kv ∈ g, ∀ n ∈ kv.2, n.key = kv.1

/-- the two invariants together -/
def GroupedOk (g : Grouped) : Prop := g.keys.Nodup ∧ KeysOk g

/-- Whatever the document (fragments, aliases, directives, the `_seen_fragments` quirk), the
    grouped field set has ONE group per response key, and each group holds exactly nodes with that response
    key (alias if present, else field name) — same-key fields are merged, different keys never are. -/
theorem alias_merge (s : SchemaD) (doc : Doc) (vars : Vars) (fuel : Nat) (obj : String) (sels : List Sel)
    (seen : List String) (g : Grouped) (seen' : List String)
    (h : collectFields s doc vars fuel obj sels seen = .ok (g, seen')) : g.keys.Nodup ∧ KeysOk g := by
  obtain ⟨q, rfl, _⟩ := collected h
  exact ⟨keys_nodup_addSeq [] q .nil, groupAll_addSeq (P := fun k n => n.key = k) (fun _ hkv => nomatch hkv) fun _ _ => rfl⟩

/-- `keys_document_order`, collection half: processing further selections only APPENDS new response keys;
    keys already present keep their position. Hence the key order is the order of first occurrence in the
    depth-first document order in which `collect_fields` visits selections. -/
theorem keys_document_order_collect (s : SchemaD) (doc : Doc) (vars : Vars) (fuel : Nat) (obj : String)
    (sels : List Sel) (seen : List String) (g0 g : Grouped) (seen' : List String) (hg0 : GroupedOk g0)
    (h : collectStep s doc vars (collectFields s doc vars fuel) obj sels seen g0 = .ok (g, seen')) :
    g0.keys <+: g.keys := by
  rw [collectStep_eq_mseq (collectFields_eq_mseq s doc vars fuel)] at h
  cases hm : mseqStep s doc vars (mseq s doc vars fuel) obj sels seen with
  | error e => rw [hm] at h; cases h
  | ok p =>
    rw [hm] at h
    cases h
    exact addSeq_keys_prefix g0 p.1

/-- The loop over response keys is compositional — the entry computed for one key
    (data and errors) does not depend on the groups before or after it; results are concatenated in order. -/
theorem siblings_undisturbed (s : SchemaD) (w : World) (execSub) (parent : String) (path : Path) (g1 g2 : Grouped) :
    executeGroups s w execSub parent path (g1 ++ g2) =
      (do let (kv1, e1) ← executeGroups s w execSub parent path g1
          let (kv2, e2) ← executeGroups s w execSub parent path g2
          pure (kv1 ++ kv2, e1 ++ e2)) := by
  induction g1 with
  | nil =>
    simp only [List.nil_append, executeGroups, bind, Except.bind, pure, Except.pure]
    cases executeGroups s w execSub parent path g2 with
    | error e => rfl
    | ok p => simp
  | cons kv rest ih =>
    rw [List.cons_append, executeGroups_cons, executeGroups_cons]
    simp only [bind, Except.bind, pure, Except.pure] at ih ⊢
    cases groupAct s parent kv.2 with
    | error e => rfl
    | ok a =>
      cases a with
      | skip => exact ih
      | typename =>
        simp only [groupCont, Except.bind, ih]
        cases executeGroups s w execSub parent path rest with
        | error e => rfl
        | ok p1 => cases executeGroups s w execSub parent path g2 <;> rfl
      | field fd =>
        simp only [groupCont, Except.bind, ih]
        cases resolveField s w execSub parent (path ++ [Seg.key kv.1]) kv.2 fd with
        | error e => rfl
        | ok pd =>
          cases executeGroups s w execSub parent path rest with
          | error e => rfl
          | ok p1 => cases executeGroups s w execSub parent path g2 <;> simp

/-- response keys of an executed selection set = keys of the grouped field set whose field exists, in order -/
def definedKeys (s : SchemaD) (parent : String) : Grouped → List String
  | [] => []
  | (k, ns) :: rest =>
    match ns with
    | [] => definedKeys s parent rest
    | n :: _ =>
      if isMeta n.name || (fieldOf s parent n.name).isSome then k :: definedKeys s parent rest
      else definedKeys s parent rest

private theorem definedKeys_cons {s : SchemaD} {parent : String} {k : String} {ns : List FNode} {rest : Grouped} {a : GroupAct}
    (ha : groupAct s parent ns = .ok a) :
    definedKeys s parent ((k, ns) :: rest) =
      match a with
      | .skip => definedKeys s parent rest
      | _ => k :: definedKeys s parent rest := by
  cases ns with
  | nil => cases ha
  | cons n more =>
    simp only [groupAct] at ha
    simp only [definedKeys]
    cases hm : isMeta n.name with
    | true =>
      rw [hm] at ha
      cases ht : n.name == "__typename" with
      | true => rw [ht] at ha; cases ha; rfl
      | false => rw [ht] at ha; cases hq : s.query == some parent <;> rw [hq] at ha <;> cases ha
    | false =>
      rw [hm] at ha
      cases hf : fieldOf s parent n.name <;> rw [hf] at ha <;> cases ha <;> rfl

/-- Execution half (collection half: `keys_document_order_collect`): the response object has exactly the keys of the grouped field
    set (minus undefined fields), in the same order. -/
theorem keys_document_order (s : SchemaD) (w : World) (execSub) (parent : String) (path : Path) (g : Grouped)
    (kvs : List (String × Data)) (es : List Err)
    (h : executeGroups s w execSub parent path g = .ok (kvs, es)) : kvs.map (·.1) = definedKeys s parent g := by
  induction g generalizing kvs es with
  | nil => cases h; rfl
  | cons kv rest ih =>
    obtain ⟨key, nodes⟩ := kv
    rw [executeGroups_cons] at h
    obtain ⟨a, ha, h⟩ := bind_eq_ok h
    rw [definedKeys_cons ha]
    cases a with
    | skip => exact ih _ _ h
    | typename =>
      obtain ⟨⟨kvs', es'⟩, hr, h⟩ := bind_eq_ok h
      cases h
      exact congrArg (key :: ·) (ih _ _ hr)
    | field fd =>
      obtain ⟨_, _, h⟩ := bind_eq_ok h
      obtain ⟨⟨kvs', es'⟩, hr, h⟩ := bind_eq_ok h
      cases h
      exact congrArg (key :: ·) (ih _ _ hr)


/-- A non-null value at an interface/union position completes successfully only
    through an OBJECT type that is a possible type of the abstract type; its sub-selections (merged over all
    same-key nodes) are then executed against that runtime type. Anything else is an internal error. -/
theorem abstract_possible_type (s : SchemaD) (execSub) (nodes : List FNode) (n : String) (path : Path) (v : RVal)
    (d : Data) (es : List Err) (ha : isAbstract s n = true) (hv : v ≠ .null)
    (h : completeValue s execSub nodes (.named n) path v = .ok (d, es)) :
    ∃ rt, v = .obj rt ∧ kindOf s rt = some .object ∧ rt ∈ possibleTypes s n ∧
      execSub rt path (mergedSelections nodes) = .ok (d, es) := by
  rw [completeValue_named] at h
  have hsp := namedAct_spec s n v
  generalize namedAct s n v = a at h hsp
  cases a with
  | sub rt =>
    obtain ⟨_, hr, rfl | ⟨rfl, hp⟩⟩ := hsp
    · simp [isAbstract, hr] at ha
    · exact ⟨rt, rfl, hr, by simpa [isPossibleType, hr] using hp, h⟩
  | null => exact absurd hsp hv
  | leaf r => rcases hsp with hk | hk <;> simp [isAbstract, hk] at ha
  | _ => cases h

/-- a resolver raising `ResolverError` (with or without extensions): the field is `null` and there is exactly
    ONE error, carrying the response path and the location of the (first) field node -/
theorem resolver_error_null_one_error (s : SchemaD) (w : World) (execSub) (parent : String) (path : Path)
    (node : FNode) (more : List FNode) (fd : FieldD) (a msg : String) (ext : Option J)
    (ha : (node.args.find? (·.1 == parent)).map (·.2) = some (some a))
    (hw : w parent fd.name path a = .err msg ext) :
    resolveField s w execSub parent path (node :: more) fd
      = .ok (.null, [{ path := path, locs := [node.loc], kind := .resolver msg ext }]) := by
  simp [resolveField, ha, hw]

/-- a null in a non-nullable position: `null` stays AT that position (no propagation to the parent) and exactly
    one error with that path and the locations of the field nodes is appended -/
theorem nonnull_violation_null_one_error (s : SchemaD) (execSub) (nodes : List FNode) (t : Ty) (path : Path) (v : RVal)
    (es : List Err) (h : completeValue s execSub nodes t path v = .ok (.null, es)) :
    completeValue s execSub nodes (.nonNull t) path v
      = .ok (.null, es ++ [{ path := path, locs := nodeLocs nodes, kind := .nonnull }]) := by
  rw [completeValue_nonNull, h]
  rfl

/-- a non-null result passes through a non-null wrapper unchanged: no error is invented -/
theorem nonnull_ok_no_error (s : SchemaD) (execSub) (nodes : List FNode) (t : Ty) (path : Path) (v : RVal)
    (d : Data) (es : List Err) (hd : d.isNull = false) (h : completeValue s execSub nodes t path v = .ok (d, es)) :
    completeValue s execSub nodes (.nonNull t) path v = .ok (d, es) := by
  rw [completeValue_nonNull, h]
  simp only [Except.bind, nonNullWrap, hd, Bool.false_eq_true, if_false]

/-- a `null` from the resolver in a NULLABLE position is not an error -/
theorem nullable_null_no_error (s : SchemaD) (execSub) (nodes : List FNode) (t : Ty) (path : Path)
    (ht : t.isNonNull = false) : completeValue s execSub nodes t path .null = .ok (.null, []) := by
  cases t with
  | named n => rfl
  | list t => rfl
  | nonNull t => cases ht

/-- errors of list items carry the item index; items are completed independently and in order -/
theorem list_items_independent (f : Path → RVal → R (Data × List Err)) (path : Path) (i : Nat) (v : RVal) (vs : List RVal)
    (d : Data) (e : List Err) (ds : List Data) (es : List Err)
    (h1 : f (path ++ [.idx i]) v = .ok (d, e)) (h2 : completeList f path (i + 1) vs = .ok (ds, es)) :
    completeList f path i (v :: vs) = .ok (d :: ds, e ++ es) := by
  simp [completeList, h1, h2, bind, Except.bind, pure, Except.pure]

/-- a `ResolverError` raised while a LATER item is completed interrupts the list, and the errors of the items already
    completed stay recorded (the error accumulator is not rolled back) -/
theorem list_interrupted_keeps_errors (f : Path → RVal → R (Data × List Err)) (path : Path) (i : Nat) (v : RVal) (vs : List RVal)
    (d : Data) (e : List Err) (k : ErrKind) (l : Option (List Nat)) (inner : List Err)
    (h1 : f (path ++ [.idx i]) v = .ok (d, e)) (h2 : completeList f path (i + 1) vs = .error (.raised k l inner)) :
    completeList f path i (v :: vs) = .error (.raised k l (e ++ inner)) := by
  simp [completeList, h1, h2, bind, Except.bind]

/-- A `ResolverError` raised while the value of a field is being completed
    (`resolve_type` raising, a lazy iterable raising, a sub-selection whose `@skip/@include` condition cannot be
    evaluated) makes THAT field null with one error carrying its response path; errors recorded before stay. -/
theorem completion_error_is_field_error (s : SchemaD) (w : World) (execSub) (parent : String) (path : Path)
    (node : FNode) (more : List FNode) (fd : FieldD) (a : String) (v : RVal) (k : ErrKind) (l : Option (List Nat)) (inner : List Err)
    (ha : (node.args.find? (·.1 == parent)).map (·.2) = some (some a)) (hw : w parent fd.name path a = .val v)
    (hc : completeValue s execSub (node :: more) fd.type path v = .error (.raised k l inner)) :
    resolveField s w execSub parent path (node :: more) fd
      = .ok (.null, inner ++ [{ path := path, locs := l.getD [node.loc], kind := k }]) := by
  simp [resolveField, ha, hw, hc]

/-- position of a response value inside a `Data` tree -/
def Data.at : Data → Path → Option Data
  | d, [] => some d
  | .obj kvs, .key k :: p => match kvs.find? (·.1 == k) with
    | some kv => Data.at kv.2 p
    | none => none
  | .list l, .idx i :: p => match l[i]? with
    | some d => Data.at d p
    | none => none
  | _, _ => none

/-- The null/error correspondence over a whole response - ONE DIRECTION ONLY (the name says more than the statement;
    `errors_at_or_below_nulls` is the same theorem under a name that says what is proved). Stated, and proved in
    `Props/C04_nulls.lean` (`null_error_bijection`): no two errors share a path, and every error sits AT or BELOW an error
    whose path is a position of the data holding `null`. "Below" happens exactly when a `ResolverError` interrupts the
    completion of a field value (/repo fix 7b8e151): the field becomes `null` and the errors already recorded for the items
    completed before stay in the response. NOT stated globally: every `null` caused by a resolver error / a non-null
    violation has exactly one error with that path - only the one-step lemmas `resolver_error_null_one_error`,
    `nonnull_violation_null_one_error`, `completion_error_is_field_error` (about `resolveField` / `completeValue` in
    isolation) say so; a global converse needs a `NullSite` predicate over (document, world) and an induction over
    `executeFields` (open). -/
def NullErrorBijection (s : SchemaD) (doc : Doc) (vars : Vars) (w : World) (cf fuel : Nat) (root : String) (sels : List Sel) : Prop :=
  ∀ d es, executeFields s doc vars w cf fuel root [] sels = .ok (d, es) →
    (es.map (·.path)).Nodup ∧
    ∀ e ∈ es, ∃ e' ∈ es, ∃ suf, e.path = e'.path ++ suf ∧ Data.at d e'.path = some .null

/-- the per-schema cache that survives across requests -/
abbrev PCache := List (String × List String)

/-- `Schema.get_possible_types` with its cache -/
def getPossibleTypesC (s : SchemaD) (cache : PCache) (n : String) : List String × PCache :=
  match cache.find? (·.1 == n) with
  | some kv => (kv.2, cache)
  | none => (possibleTypes s n, cache ++ [(n, possibleTypes s n)])

/-- `Schema.is_possible_type` through the cache -/
def isPossibleTypeC (s : SchemaD) (cache : PCache) (abstract obj : String) : Bool × PCache :=
  if kindOf s obj == some .object then
    let (l, c) := getPossibleTypesC s cache abstract
    (l.contains obj, c)
  else (false, cache)

def CacheOk (s : SchemaD) (cache : PCache) : Prop := ∀ kv ∈ cache, kv.2 = possibleTypes s kv.1

theorem cache_step (s : SchemaD) (cache : PCache) (n : String) (h : CacheOk s cache) :
    (getPossibleTypesC s cache n).1 = possibleTypes s n ∧ CacheOk s (getPossibleTypesC s cache n).2 := by
  unfold getPossibleTypesC
  cases hf : cache.find? (·.1 == n) with
  | some kv =>
    have hm := List.mem_of_find?_eq_some hf
    have hk := List.find?_some hf
    simp at hk
    simp [h kv hm, hk, h]
  | none =>
    refine ⟨rfl, ?_⟩
    intro kv hkv
    simp at hkv
    rcases hkv with hkv | rfl
    · exact h kv hkv
    · rfl

/-- the cache after an arbitrary history of earlier lookups (earlier requests, in any order) -/
def afterHistory (s : SchemaD) : PCache → List String → PCache
  | c, [] => c
  | c, n :: rest => afterHistory s (getPossibleTypesC s c n).2 rest

theorem afterHistory_ok (s : SchemaD) (c : PCache) (hist : List String) (h : CacheOk s c) : CacheOk s (afterHistory s c hist) := by
  induction hist generalizing c with
  | nil => exact h
  | cons n rest ih => exact ih _ (cache_step s c n h).2

/-- The one piece of per-schema state that survives requests, the `_possible_types` cache (modelled by `getPossibleTypesC` /
    `isPossibleTypeC` above; `Exec.lean` calls the stateless `isPossibleType`), answers every lookup exactly as the
    stateless function does after ANY history of earlier lookups: on this account a response cannot depend on requests
    served before. (That the executor model reads the schema only through its accessors is `execute_congr`,
    `Lemmas/C05Reads.lean`; that `execute` has no other input is `exec_deterministic` below.) -/
theorem exec_pure (s : SchemaD) (history : List String) (abstract obj : String) :
    (isPossibleTypeC s (afterHistory s [] history) abstract obj).1 = isPossibleType s abstract obj := by
  have hc : CacheOk s (afterHistory s [] history) := afterHistory_ok s [] history (by intro kv h; simp at h)
  unfold isPossibleTypeC isPossibleType
  by_cases hk : kindOf s obj = some .object
  · simp [hk, (cache_step s _ abstract hc).1]
  · have : (kindOf s obj == some Kind.object) = false := by simpa using hk
    simp [this]

/-- the request-level model literally has no other input. TRUE BY CONSTRUCTION (`subst; rfl`, congruence of a function):
    the statement records that `execute` takes no hidden parameter, it has no further content. What ties "the response is
    a function of (schema, document, variables, world)" to the code is the correspondence (same request repeated, history
    streams of `corr/C04.py`), not this theorem. -/
theorem exec_deterministic (s : SchemaD) (doc : Doc) (vars : Vars) (w w' : World) (op : Option String) (f c : Nat)
    (hw : w = w') : execute s doc vars w op f c = execute s doc vars w' op f c := by subst hw; rfl

end PyGql.Props.C04
