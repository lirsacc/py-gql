/-
  C11 — `build_schema(doc, additional_types=[…])`: the SUPPLIED types in the exactness statements
  (model: PyGqlModel/SdlAdditional.lean `buildA`, the function the driver answers `build` requests with; without supplied
  types it is `build`: `buildA_nil`).
  `DeclaredWith doc add` is the content a document declares TOGETHER with supplied types: a definition whose name is
  supplied stands for the supplied type (kind not compared, internal enum values kept), every other definition for its
  merged definition built over the supplied types; extension blocks of a supplied type add their members to it; the
  supplied types that the result refers to (transitively) are part of it, the others are not.
  Exactness holds for documents without extension blocks and any list of supplied types (`build_exact_additional_noext`);
  with extension blocks it is FALSE of the model `buildA` (`build_exact_additional_refuted`, finding C11/A1: a supplied enum
  that only an extension block refers to is registered without the value its own `extend enum` block declares).  Here the
  model is BEHIND the code: /repo commit 6f9d492 keeps the extension blocks of supplied types, and `build_schema` on the
  document of `supplied_extension_dropped` returns `E` with both values.
-/
import PyGqlModel.SdlAdditional
import PyGqlModel.Props.C11_cycles


namespace PyGql.Props.C11
open PyGql PyGql.Sdl PyGql.SdlSpec

theorem extendedA_of_nil (defs X : List TypeDef) : (Env.of defs []).extendedA X = (Env.of defs []).extended X := rfl

theorem buildCollectedA_nil (c : Collected) : buildCollectedA c [] = buildCollected c [] := by
  unfold buildCollectedA buildCollected
  simp only [shadowsSpecified, referencedAdditionalA, referencedAdditional, List.any_nil, List.filter_nil, failIf, Bool.false_eq_true, if_false,
    pure, Except.pure, bind, Except.bind]

theorem buildCollected_env (c : Collected) (add : List TypeD) (env : Env) (live : Live) (h : buildCollected c add = .ok (env, live)) :
    env = Env.of c.types add :=
  let ⟨_, _, p⟩ := (Run.buildCollected_ok_iff c add env live).mp h
  p.envEq

theorem extendSchemaA_nil (defs : List TypeDef) (live : Live) (doc : Doc) :
    extendSchemaA (Env.of defs []) live doc [] = extendSchema (Env.of defs []) live doc [] := by
  unfold extendSchemaA extendSchema
  simp only [extendedA_of_nil, shadowsSpecified, referencedAdditionalA, referencedAdditional, List.any_nil, List.filter_nil, failIf,
    Bool.false_eq_true, if_false, pure, Except.pure, bind, Except.bind]

theorem buildA_nil (doc : Doc) (ie : Bool) : buildA doc ie [] = build doc ie [] := by
  unfold buildA build buildIgnoringExtensions
  simp only [normAdditional]
  cases hc : collectDefinitions doc with
  | error e => rfl
  | ok c =>
    simp only [bind, Except.bind, buildCollectedA_nil]
    cases hb : buildCollected c [] with
    | error e => rfl
    | ok p =>
      obtain ⟨env, live⟩ := p
      have he := buildCollected_env c [] env live hb
      subst he
      simp only [extendSchemaA_nil]

/-- a supplied type with the members its extension blocks declare (built over `env`) -/
def mergeLive (env : Env) (exts : List TypeDef) (t : TypeD) : R TypeD :=
  let mine := exts.filter (·.name == t.name)
  match t.kind with
  | .scalar => pure t
  | .object => do
    let fs ← (mine.flatMap (·.fields)).mapM (buildField env)
    pure { t with fields := t.fields ++ fs, interfaces := t.interfaces ++ mine.flatMap (·.interfaces) }
  | .interface => do
    let fs ← (mine.flatMap (·.fields)).mapM (buildField env)
    pure { t with fields := t.fields ++ fs }
  | .union => pure { t with members := t.members ++ mine.flatMap (·.members) }
  | .enum => do
    let vs ← (mine.flatMap (·.values)).mapM buildEnumValue
    pure { t with values := t.values ++ vs }
  | .input => do
    let fs ← (mine.flatMap (·.inputFields)).mapM (buildArgument env)
    pure { t with inputFields := t.inputFields ++ fs }

/-- what a definition stands for: the supplied type of its name (with its extension blocks), else its merged definition -/
def declaredType (env : Env) (add : List TypeD) (exts : List TypeDef) (d : TypeDef) : R TypeD :=
  match add.find? (·.name == d.name) with
  | some t => mergeLive env exts t
  | none => buildTypeDef env (mergeDef exts d)

/-- the declared content with supplied types; `none` when some member cannot be built -/
def DeclaredWith (doc : Doc) (add : List TypeD) : Option SchemaD :=
  let exts := typeExts doc
  let env : Env := (Env.of (typeDefs doc) add).extendedA exts
  match (typeDefs doc).mapM (declaredType env add exts), (dirDefs doc).mapM (buildDirective env) with
  | .ok ts, .ok ds =>
    let r := declaredRoots doc ts
    match (referencedAdditionalA add ts ds ⟨r.query, r.mutation, r.subscription⟩).mapM (mergeLive env exts) with
    | .ok extra => some { types := ts ++ extra, directives := ds, query := r.query, mutation := r.mutation, subscription := r.subscription }
    | .error _ => none
  | _, _ => none

/-- the types the definitions of the document stand for -/
def declaredTypes (doc : Doc) (add : List TypeD) : R (List TypeD) :=
  (typeDefs doc).mapM (declaredType ((Env.of (typeDefs doc) add).extendedA (typeExts doc)) add (typeExts doc))

/-- the premises of `build_exact_noext`, with supplied types (`add` has one type per name, so that `normAdditional add = add`) -/
structure ValidWith (doc : Doc) (add : List TypeD) (d : SchemaD) : Prop where
  uniqueTypes : ((typeDefs doc).map (·.name)).Nodup
  uniqueDirectives : ((dirDefs doc).map (·.name)).Nodup
  oneSchema : (schemaDefs doc).length ≤ 1
  noBuiltinNames : ∀ t ∈ typeDefs doc, isDefaultName t.name = false
  oneSuppliedPerName : (add.map (·.name)).Nodup
  declares : DeclaredWith doc add = some d
  noThunkCycle : hasThunkCycle (Env.of (typeDefs doc) add) (typeDefs doc) = false
  /-- no type is its own interface / member / argument type — among the types the definitions stand for -/
  noEagerCycle : ∀ ts, declaredTypes doc add = .ok ts → hasEagerCycle ts = false
  noSpecified : d.directives.any (fun x => specifiedDirectives.contains x.name) = false
  /-- no supplied type that is reached takes the name of a specified type -/
  noShadow : ∀ ts, declaredTypes doc add = .ok ts → shadowsSpecified add ts d.directives ⟨d.query, d.mutation, d.subscription⟩ = false
  rootsOk : ∀ ts, declaredTypes doc add = .ok ts →
      buildRoots (Env.of (typeDefs doc) add) (schemaDefs doc).head? ts = .ok ⟨d.query, d.mutation, d.subscription⟩

theorem normAdditional_of_nodup : ∀ (add : List TypeD), (add.map (·.name)).Nodup → normAdditional add = add := by
  intro add
  induction add with
  | nil => intro _; rfl
  | cons t ts ih =>
    intro h
    simp only [List.map_cons, List.nodup_cons] at h
    have hn : ts.any (·.name == t.name) = false := any_name_false TypeD.name ts t.name h.1
    simp only [normAdditional, hn, Bool.false_eq_true, if_false, ih h.2]

/-- the full statement: valid document + supplied types ⇒ the built schema is the declared content -/
def BuildExactAdditionalStatement : Prop :=
  ∀ (doc : Doc) (add : List TypeD) (d : SchemaD), ValidWith doc add d → ∃ s, buildA doc false add = .ok s ∧ SameContent s d

theorem extendEnumView_nil (t : TypeD) : extendEnumView [] t = t := by
  unfold extendEnumView
  simp only [List.filter_nil, List.flatMap_nil, List.append_nil]
  split <;> rfl

theorem extendLiveView_nil (env : Env) (t : TypeD) : extendLiveView env [] t = t := by
  unfold extendLiveView
  simp only [List.filter_nil, List.flatMap_nil, List.append_nil, extendEnumView_nil]
  split <;> rfl

theorem extendedA_nil (env : Env) : env.extendedA [] = env := by
  cases env with
  | mk fd fa =>
    simp only [Env.extendedA, Env.mk.injEq]
    constructor
    · funext n; cases fd n <;> rfl
    · funext n; cases h : fa n with
      | none => rfl
      | some t => simp [extendLiveView_nil]

theorem mergeLive_nil (env : Env) (t : TypeD) : mergeLive env [] t = .ok t := by
  unfold mergeLive
  simp only [List.filter_nil, List.flatMap_nil, List.mapM_nil, List.append_nil, pure_bind]
  split <;> rfl

theorem mapM_mergeLive_nil (env : Env) : ∀ (l : List TypeD), l.mapM (mergeLive env []) = .ok l := by
  intro l
  induction l with
  | nil => rfl
  | cons x xs ih => rw [List.mapM_cons, mergeLive_nil, ih]; rfl

/-- `build_type` of every definition: the supplied type of that name if there is one (the cache wins), else the built
    definition — which is what the definition stands for -/
theorem mapM_buildType_with (defs : List TypeDef) (add : List TypeD) :
    ∀ (ds : List TypeDef) (ts : List TypeD), (∀ t ∈ ds, isDefaultName t.name = false) →
      ds.mapM (declaredType (Env.of defs add) add []) = .ok ts → ds.mapM (buildType (Env.of defs add)) = .ok (ts.map some) := by
  intro ds
  induction ds with
  | nil => intro ts _ h; cases h; rfl
  | cons x xs ih =>
    intro ts hn h
    obtain ⟨tx, txs, hb, hr, rfl⟩ := Run.mapM_cons_ok_iff.mp h
    refine Run.mapM_cons_ok_iff.mpr ⟨_, _, ?_, ih txs (fun t ht => hn t (List.mem_cons_of_mem _ ht)) hr, rfl⟩
    have hx : isDefaultName x.name = false := hn x List.mem_cons_self
    have ha : (Env.of defs add).findAdditional x.name = add.find? (·.name == x.name) := rfl
    unfold declaredType at hb
    simp only [buildType, hx, Bool.false_eq_true, if_false, ha]
    cases hf : add.find? (·.name == x.name) with
    | some t =>
      rw [hf] at hb
      have hb : mergeLive (Env.of defs add) [] t = .ok tx := hb
      rw [mergeLive_nil] at hb
      cases hb
      rfl
    | none =>
      rw [hf] at hb
      have hb : buildTypeDef (Env.of defs add) x = .ok tx := hb
      rw [hb]
      rfl

theorem declaredWith_parts_noext (doc : Doc) (add : List TypeD) (d : SchemaD) (hx : typeExts doc = []) (h : DeclaredWith doc add = some d) :
    ∃ ts, (typeDefs doc).mapM (declaredType (Env.of (typeDefs doc) add) add []) = .ok ts ∧
      (dirDefs doc).mapM (buildDirective (Env.of (typeDefs doc) add)) = .ok d.directives ∧
      d.types = ts ++ referencedAdditionalA add ts d.directives ⟨d.query, d.mutation, d.subscription⟩ ∧
      (⟨d.query, d.mutation, d.subscription⟩ : Roots) = declaredRoots doc ts ∧
      d = { types := d.types, directives := d.directives, query := d.query, mutation := d.mutation, subscription := d.subscription } := by
  unfold DeclaredWith at h
  simp only [hx, extendedA_nil] at h
  split at h
  · rename_i ts ds h1 h2
    simp only [mapM_mergeLive_nil] at h
    simp only [Option.some.injEq] at h
    subst h
    exact ⟨ts, h1, h2, rfl, rfl, rfl⟩
  · simp at h

/-- **build_exact with supplied types, documents without extension blocks** (full): a valid document builds together
    with ANY list of supplied types (one per name), and the schema is exactly the declared content: each definition whose
    name is supplied is the supplied type itself — whatever its kind, with its internal enum values, description and
    members —, every other definition is built over the supplied types (references resolve to them, default literals are
    coerced with THEIR values), the supplied types the result refers to directly or through other supplied types are
    registered, and no other supplied type is. -/
theorem build_exact_additional_noext (doc : Doc) (add : List TypeD) (d : SchemaD) (v : ValidWith doc add d)
    (hx : typeExts doc = []) (hsx : schemaExtensions doc = []) : buildA doc false add = .ok d := by
  obtain ⟨c, hc, hct, hcd, hcs⟩ := collect_ok doc v.uniqueTypes v.uniqueDirectives v.oneSchema v.noBuiltinNames
  obtain ⟨ts, hts, hds, htypes, hroots, hd⟩ := declaredWith_parts_noext doc add d hx v.declares
  have hts' : declaredTypes doc add = .ok ts := by
    unfold declaredTypes; rw [hx, extendedA_nil]; exact hts
  have hbt := mapM_buildType_with (typeDefs doc) add (typeDefs doc) ts v.noBuiltinNames hts
  have hcyc := v.noEagerCycle ts hts'
  have hspec := v.noSpecified
  have hshadow := v.noShadow ts hts'
  have hr := v.rootsOk ts hts'
  have hthunk := v.noThunkCycle
  have hext : ∀ live, typeExtensions live doc = [] := fun live => by rw [typeExtensions_eq, hx]; rfl
  simp only [buildA, normAdditional_of_nodup add v.oneSuppliedPerName, hc, bind, Except.bind, buildCollectedA, failIf, hct, hcd, hcs, hthunk, hds, hbt,
    filterMap_id_map_some, hcyc, hr, hspec, hshadow, Bool.false_eq_true, if_false, pure, Except.pure,
    extendSchemaA, hext, hsx, List.isEmpty_nil, Bool.and_self, if_true, toSchemaD]
  rw [← htypes]
  exact congrArg Except.ok hd.symm

/-- a premise of the form `∀ ts, x = ok ts → p ts` from a computation -/
theorem of_okB {α} (x : R α) (p : α → Bool) (h : (match x with | .ok a => p a | .error _ => true) = true) : ∀ a, x = .ok a → p a = true := by
  intro a ha; rw [ha] at h; exact h

theorem supplied_overrides (doc : Doc) (add : List TypeD) (d : SchemaD) (v : ValidWith doc add d) (hx : typeExts doc = [])
    (df : TypeDef) (hdf : df ∈ typeDefs doc) (t : TypeD) (hf : add.find? (·.name == df.name) = some t) : t ∈ d.types := by
  obtain ⟨ts, hts, _, htypes, _, _⟩ := declaredWith_parts_noext doc add d hx v.declares
  obtain ⟨r, hr, hb⟩ := all₂_mem_left _ _ _ (mapM_forall₂ _ _ _ hts) df hdf
  unfold declaredType at hb
  simp only [hf, mergeLive_nil] at hb
  cases hb
  rw [htypes]
  exact List.mem_append_left _ hr

theorem registered_only_if_reached (doc : Doc) (add : List TypeD) (d : SchemaD) (v : ValidWith doc add d) (hx : typeExts doc = [])
    (t : TypeD) (ht : t ∈ d.types) :
    (∃ ts, (typeDefs doc).mapM (declaredType (Env.of (typeDefs doc) add) add []) = .ok ts ∧
      (t ∈ ts ∨ (t ∈ add ∧ (closureNames add ts d.directives ⟨d.query, d.mutation, d.subscription⟩).contains t.name = true))) := by
  obtain ⟨ts, hts, _, htypes, _, _⟩ := declaredWith_parts_noext doc add d hx v.declares
  refine ⟨ts, hts, ?_⟩
  rw [htypes] at ht
  rcases List.mem_append.mp ht with h | h
  · exact Or.inl h
  · right
    unfold referencedAdditionalA at h
    simp only [List.mem_filter, Bool.and_eq_true] at h
    exact ⟨h.1, h.2.2⟩

/-! ### non-vacuity: a definition overridden by a supplied enum with internal values, a supplied input object that is
    referenced (and whose own reference to the enum is followed), a supplied scalar nothing refers to -/

def supE : TypeD := { kind := .enum, name := "E", desc := some "supplied", values := [{ name := "A", value := .num 1 }] }
def supI : TypeD := { kind := .input, name := "I2", inputFields := [{ name := "e", type := .named "E" }, { name := "a", type := .named "Int", hasDefault := true, default := .num 1 }] }
def supS : TypeD := { kind := .scalar, name := "Unused" }
def supAdd : List TypeD := [supE, supI, supS]

/-- `enum E { Z }  type Query { q(j: I2 = {e: A}): Int  r: E }` -/
def supDoc : Doc := [
  .type { kind := .enum, name := "E", values := [{ name := "Z" }] },
  .type { kind := .object, name := "Query", fields := [{ name := "q", type := .named "Int", args := [{ name := "j", type := .named "I2", default := some (.obj [("e", .enum "A")]) }] },
                                                       { name := "r", type := .named "E" }] }]

theorem supDeclares : (DeclaredWith supDoc supAdd).isSome = true := by decide +kernel

/-- the three premises of `ValidWith` about the types the definitions stand for, from one computation -/
theorem validWith_checks (doc : Doc) (add : List TypeD) (d : SchemaD)
    (h : (match declaredTypes doc add with
      | .ok ts => !hasEagerCycle ts && !shadowsSpecified add ts d.directives ⟨d.query, d.mutation, d.subscription⟩ &&
          buildRoots (Env.of (typeDefs doc) add) (schemaDefs doc).head? ts == .ok ⟨d.query, d.mutation, d.subscription⟩
      | .error _ => true) = true) :
    ∀ ts, declaredTypes doc add = .ok ts → hasEagerCycle ts = false ∧
      shadowsSpecified add ts d.directives ⟨d.query, d.mutation, d.subscription⟩ = false ∧
      buildRoots (Env.of (typeDefs doc) add) (schemaDefs doc).head? ts = .ok ⟨d.query, d.mutation, d.subscription⟩ := by
  intro ts hts
  rw [hts] at h
  simpa [Bool.and_eq_true, and_assoc] using h

theorem supDoc_valid : ValidWith supDoc supAdd ((DeclaredWith supDoc supAdd).get supDeclares) :=
  -- the facts are decided together: the kernel evaluates the document and `DeclaredWith supDoc supAdd` once
  have ⟨checks, noSpecified, uniqueTypes, uniqueDirectives, oneSchema, noBuiltinNames, oneSuppliedPerName, noThunkCycle⟩ :
      _ ∧ _ ∧ _ ∧ _ ∧ _ ∧ _ ∧ _ ∧ _ := by decide +kernel
  have h := validWith_checks supDoc supAdd _ checks
  { uniqueTypes, uniqueDirectives, oneSchema, noBuiltinNames, oneSuppliedPerName, declares := (Option.some_get _).symm, noThunkCycle,
    noEagerCycle := fun ts hts => (h ts hts).1, noSpecified,
    noShadow := fun ts hts => (h ts hts).2.1, rootsOk := fun ts hts => (h ts hts).2.2 }

example : buildA supDoc false supAdd = .ok ((DeclaredWith supDoc supAdd).get supDeclares) :=
  build_exact_additional_noext _ _ _ supDoc_valid (by decide +kernel) (by decide +kernel)

/-- … and the content is what one expects: the supplied enum (internal value 1, not the `Z` of the document), the default
    `{e: A}` coerced with that internal value and completed with the supplied default, the supplied input object
    registered, the unused scalar not -/
example : (match buildA supDoc false supAdd with
    | .ok s => s.types.map (·.name) == ["E", "Query", "I2"] &&
        (match s.types.find? (·.name == "E") with
          | some t => (match t.values with | [v] => v.name == "A" && (match v.value with | J.num 1 => true | _ => false) | _ => false)
          | none => false) &&
        (match s.types.find? (·.name == "Query") with
          | some t => (match (t.fields.flatMap (·.args.map (·.default)) : List J) with | [J.obj [("e", J.num 1), ("a", J.num 1)]] => true | _ => false)
          | none => false)
    | .error _ => false) = true := by decide +kernel

/-- non-vacuity of `supplied_overrides`: the definition `enum E { Z }` of `supDoc` is overridden by the supplied `E` -/
example : supE ∈ ((DeclaredWith supDoc supAdd).get supDeclares).types :=
  supplied_overrides supDoc supAdd _ supDoc_valid (by decide +kernel) { kind := .enum, name := "E", values := [{ name := "Z" }] } (by simp [supDoc, typeDefs]) supE rfl

/-- non-vacuity of `registered_only_if_reached` (same premises, applied to the overriding `E`) -/
example := registered_only_if_reached supDoc supAdd _ supDoc_valid (by decide +kernel) supE
  (supplied_overrides supDoc supAdd _ supDoc_valid (by decide +kernel) { kind := .enum, name := "E", values := [{ name := "Z" }] } (by simp [supDoc, typeDefs]) supE rfl)

/-- `type Query { q: Int }  extend type Query { e: E }  extend enum E { B }` with `additional_types=[E {A}]` -/
def a1Doc : Doc := [
  .type { kind := .object, name := "Query", fields := [{ name := "q", type := .named "Int" }] },
  .ext { kind := .object, name := "Query", fields := [{ name := "e", type := .named "E" }] },
  .ext { kind := .enum, name := "E", values := [{ name := "B" }] }]
def a1Add : List TypeD := [{ kind := .enum, name := "E", values := [{ name := "A", value := .num 1 }] }]

theorem a1Declares : (DeclaredWith a1Doc a1Add).isSome = true := by decide +kernel

theorem a1_valid : ValidWith a1Doc a1Add ((DeclaredWith a1Doc a1Add).get a1Declares) :=
  have ⟨checks, noSpecified, uniqueTypes, uniqueDirectives, oneSchema, noBuiltinNames, oneSuppliedPerName, noThunkCycle⟩ :
      _ ∧ _ ∧ _ ∧ _ ∧ _ ∧ _ ∧ _ ∧ _ := by decide +kernel
  have h := validWith_checks a1Doc a1Add _ checks
  { uniqueTypes, uniqueDirectives, oneSchema, noBuiltinNames, oneSuppliedPerName, declares := (Option.some_get _).symm, noThunkCycle,
    noEagerCycle := fun ts hts => (h ts hts).1, noSpecified,
    noShadow := fun ts hts => (h ts hts).2.1, rootsOk := fun ts hts => (h ts hts).2.2 }

/-- **finding C11/A1**, as the model `buildA` has it (probes `finding-A1-*`; the code was repaired in /repo 6f9d492, see the
    header): the document declares the value `B` of the supplied enum `E`; the model registers `E` (the extension of `Query`
    refers to it) WITHOUT `B` — its `_collect_extensions` drops `extend enum E` because `E` is not in the schema before the
    extensions are applied — and says nothing. -/
theorem supplied_extension_dropped :
    (match buildA a1Doc false a1Add with
      | .ok s => s.types.all (fun t => t.name != "E" || t.values.map (·.name) == ["A"]) && s.types.any (·.name == "E")
      | .error _ => false) = true ∧
    (match DeclaredWith a1Doc a1Add with
      | some d => d.types.any (fun t => t.name == "E" && t.values.map (·.name) == ["A", "B"])
      | none => false) = true := by decide +kernel

/-- the full statement (extension blocks allowed) is FALSE of `buildA`; `build_exact_additional_noext` is the part
    that holds.  Repair of the code: /repo 6f9d492. -/
theorem build_exact_additional_refuted : ¬ BuildExactAdditionalStatement := by
  intro h
  obtain ⟨s, hs, _, _, _, htypes, _⟩ := h a1Doc a1Add _ a1_valid
  obtain ⟨h1, h2⟩ := supplied_extension_dropped
  rw [hs] at h1
  have hd : DeclaredWith a1Doc a1Add = some ((DeclaredWith a1Doc a1Add).get a1Declares) := (Option.some_get _).symm
  rw [hd] at h2
  obtain ⟨t, hp, hq⟩ := all_any_clash (fun t ht => (htypes t).mpr ht) (·.name == "E") _ _ (Bool.and_eq_true_iff.mp h1).1 h2
  rw [beq_iff_eq.mp hp] at hq
  cases hq

/-! ### supplied types through the extension pass

`extend_schema` applies the extension blocks of the document to the supplied types that are in the schema
("Extension will be applied to these types").  `mergeLiveX` is `mergeLive` with the members built as the extension pass
builds them (defaults evaluated in the extended view `eX`); `extend_supplied_exact`: when the blocks are of the type's
kind and repeat no member name, `_extend_<kind>_type` returns exactly the supplied type followed by the members of its
blocks in document order — its own members untouched (internal enum values, resolvers of the description…) —, and
`reDefault` keeps it (a supplied type has no SDL literals to evaluate again). -/

/-- a supplied type with the members its extension blocks declare, built as the extension pass builds them -/
def mergeLiveX (eB eX : Env) (hide : Option String) (exts : List TypeDef) (t : TypeD) : R TypeD :=
  let mine := exts.filter (·.name == t.name)
  match t.kind with
  | .scalar => pure t
  | .object => do
    let fs ← (mine.flatMap (·.fields)).mapM (buildFieldX eB eX hide)
    checkNames eB (mine.flatMap (·.interfaces))
    pure { t with fields := t.fields ++ fs, interfaces := t.interfaces ++ mine.flatMap (·.interfaces) }
  | .interface => do
    let fs ← (mine.flatMap (·.fields)).mapM (buildFieldX eB eX hide)
    pure { t with fields := t.fields ++ fs }
  | .union => do
    checkNames eB (mine.flatMap (·.members))
    pure { t with members := t.members ++ mine.flatMap (·.members) }
  | .enum => do
    let vs ← (mine.flatMap (·.values)).mapM buildEnumValue
    pure { t with values := t.values ++ vs }
  | .input => do
    let fs ← (mine.flatMap (·.inputFields)).mapM (buildArgumentX eB eX hide)
    pure { t with inputFields := t.inputFields ++ fs }

def MembersNodup (r : TypeD) : Prop :=
  (r.fields.map (·.name)).Nodup ∧ (r.inputFields.map (·.name)).Nodup ∧ (r.values.map (·.name)).Nodup ∧ r.members.Nodup ∧ r.interfaces.Nodup

theorem extend_supplied_exact (eB eX : Env) (hide : Option String) (exts : List TypeDef) (t r : TypeD)
    (hkinds : ∀ e ∈ exts, e.name = t.name → e.kind = t.kind)
    (hm : mergeLiveX eB eX hide exts t = .ok r) (hn : MembersNodup r) :
    extendTypeX eB eX hide exts t = .ok r := by
  obtain ⟨n1, n2, n3, n4, n5⟩ := hn
  unfold mergeLiveX at hm
  simp only [] at hm
  split at hm
  ·
    rename_i hk
    simp only [hk] at hkinds
    cases hm
    exact extend_scalar_exact eB eX hide exts t hk hkinds
  ·
    rename_i hk
    simp only [hk] at hkinds
    obtain ⟨fs, hfs, h1⟩ := bind_ok _ _ _ hm
    obtain ⟨_, hcn, h2⟩ := bind_ok _ _ _ h1
    cases h2
    obtain ⟨hb, rfl⟩ := flatMap_mapM_inv (buildFieldX eB eX hide) (fun (e : TypeDef) => e.fields) _ fs hfs
    exact extend_object_exact eB eX hide exts t hk hkinds _ hb n1 (checkNames_flatMap_inv eB (fun (e : TypeDef) => e.interfaces) _ hcn) n5
  ·
    rename_i hk
    simp only [hk] at hkinds
    obtain ⟨fs, hfs, h1⟩ := bind_ok _ _ _ hm
    cases h1
    obtain ⟨hb, rfl⟩ := flatMap_mapM_inv (buildFieldX eB eX hide) (fun (e : TypeDef) => e.fields) _ fs hfs
    exact extend_interface_exact eB eX hide exts t hk hkinds _ hb n1
  ·
    rename_i hk
    simp only [hk] at hkinds
    obtain ⟨_, hcn, h2⟩ := bind_ok _ _ _ hm
    cases h2
    exact extend_union_exact eB eX hide exts t hk hkinds (checkNames_flatMap_inv eB (fun (e : TypeDef) => e.members) _ hcn) n4
  ·
    rename_i hk
    simp only [hk] at hkinds
    obtain ⟨vs, hvs, h1⟩ := bind_ok _ _ _ hm
    cases h1
    obtain ⟨hb, rfl⟩ := flatMap_mapM_inv buildEnumValue (fun (e : TypeDef) => e.values) _ vs hvs
    exact extend_enum_exact eB eX hide exts t hk hkinds _ hb n3
  ·
    rename_i hk
    simp only [hk] at hkinds
    obtain ⟨fs, hfs, h1⟩ := bind_ok _ _ _ hm
    cases h1
    obtain ⟨hb, rfl⟩ := flatMap_mapM_inv (buildArgumentX eB eX hide) (fun (e : TypeDef) => e.inputFields) _ fs hfs
    exact extend_input_exact eB eX hide exts t hk hkinds _ hb n2

theorem reDefault_supplied (eB eX : Env) (hide : Option String) (exts : List TypeDef) (r : TypeD)
    (hs : (eB.findAdditional r.name).isSome) : reDefault eB eX hide exts r = .ok r := by
  unfold reDefault
  cases h : eB.findAdditional r.name with
  | none => rw [h] at hs; cases hs
  | some _ => rfl

/-- non-vacuity: `extend enum E { B }  extend enum E { C }` on the supplied `E { A = 1 }` -/
example : (match extendTypeX (Env.of [] [supE]) ((Env.of [] [supE]).extendedA []) none
      [{ kind := .enum, name := "E", values := [{ name := "B" }] }, { kind := .enum, name := "E", values := [{ name := "C" }] }] supE with
    | .ok r => r.values.map (·.name) == ["A", "B", "C"] && r.desc == some "supplied"
    | .error _ => false) = true := by decide +kernel

end PyGql.Props.C11
