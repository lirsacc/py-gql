/-
  C06 - property theorems: the memoised overlap search never loses a report.

  /repo runs `OverlappingFieldsCanBeMergedChecker` WITH the memo of (field map, fragment, mutually exclusive) triples
  (fix 7e75356; model `Validate/OverlapMemo.lean`, rule `Validate/ChainMemo.lean: overlapMemoRun`).
  `Props/C06_overlap_memo.lean` has "no false alarm" for it (`overlap_memo_no_false_alarm`). Here the other half:

    `overlap_memo_complete`      memoised rule reports nothing  ⇒  clause of 5.3.2
    `rule_overlapping_fields_memo_iff`   memoised rule reports nothing  ⇔  clause of 5.3.2

  under `ParentsAgree`, "no fragment is named \"\"" and `WfIds d` ONLY. Of the side conditions of the un-memoised theorem
  (`OverlapHyps`) two are not needed: `NoCrash`, and the whole of `OverlapSide` except the empty name - the
  `field_map is fragment_field_map` shortcut MAY be taken (cyclic fragment graphs, duplicate fragment names): a triple
  whose fragment body is the selection set itself carries no obligation (`FOblM`), and when such a triple is met while
  chasing a conflict the fields were compared when the set itself was entered (`lvFM_of`). `WfIds d` (selection-set
  identities pairwise distinct: the memo identifies a field map by its selection set, `id(field_map)`; it also gives
  the syntactic ranks under which the memoised rule never crashes: `rankSynB_of_wfIds`, `overlap_memo_run_no_crash`).
  `NoCrash` (a hypothesis of `rule_overlapping_fields_can_be_merged_iff_partial`): neither the run observation nor the
  static rank check `rankOkB` (nesting through spreads below ~100 levels) is needed, because the memoised search terminates
  on every document.
  `rule_overlapping_fields_memo_iff_wf`: the same with `ParentsAgree` discharged (`DocChecksMemo`, the clauses of two other rules) -
  the CURRENT form of the equivalence, the one the headline statements use; the three `rule_overlapping_fields_can_be_merged_iff_*`
  are about the un-memoised search.

  Consequently (`overlap_memo_neutral_side`) the memoised and the un-memoised rule give the same verdict wherever
  the latter is covered by its theorem: `OverlapMemoNeutralStatement` of `Props/C06_overlap_memo.lean` holds with the side
  conditions `ParentsAgree`, `OverlapSide`, `WfIds` added (`OverlapMemoNeutralWithSide`: the un-memoised half needs them).
  Without `OverlapSide` the statement stays open exactly on the documents whose fragment table has a cycle of bare spreads on
  which the un-memoised search happens not to exhaust its fuel (`Props/C06_overlap_memo_neutral.lean`; duplicate fragment names
  are covered there); the correspondence cross-checks it on every generated document (`memo:crosscheck`).

  Proof (`Lemmas/ValidateOverlapMCert.lean`, `…MPost.lean`, `…MPostRun.lean`): the certificate argument of the un-memoised
  search over the keys of BOTH memos. A certificate (`CertM`) does not contain a certificate for every field
  reachable through a fragment spread in the other sub-selection - the search may have met the triple before and
  returned at once - but only "the triple is in the memo" (`FCov`); every triple of the final memo is closed (`FOblM`:
  direct fields certified, triples of the nested spreads in the memo), established by the call that inserted it; the
  invariant "every name in the live `compared_fragments` set is undefined or has its triple in the memo" (`CmpOK`)
  stands where the un-memoised argument has the closed set of compared names. A conflict derivation is refuted by induction on its height, triples
  being chased through the memo along the spread path (`lvFM_of`).
-/
import PyGqlModel.Props.C06_overlap_memo
import PyGqlModel.Lemmas.ValidateOverlapMPostRun
import PyGqlModel.Lemmas.ValidateOverlapSynRank
namespace PyGql.Props.C06
open PyGql PyGql.Validate PyGql.Validate.Spec

/-- **completeness of the memoised rule**: if it reports nothing, no selection set of the document contains two
    conflicting fields (documents with fragment spreads included; no hypothesis about crashes or nesting depth) -/
theorem overlap_memo_complete (s : SchemaD) (fx : Fixes) (h7 : fx.v7 = true) (d : Doc)
    (hpa : Spec.ParentsAgree s d) (hne : AL.get? (fragTable d) "" = none) (hw : WfIds d)
    (h0 : (overlapMemoRun s fx d).1 = 0) : Spec.overlappingFieldsCanBeMerged s d :=
  memoRun_sound s fx d h7 hpa hw hne h0
    (overlap_memo_run_no_crash s fx h7 d hw)

/-- **5.3.2 for the rule /repo runs**: the memoised rule reports nothing exactly when the clause holds -/
theorem rule_overlapping_fields_memo_iff (s : SchemaD) (fx : Fixes) (h7 : fx.v7 = true) (d : Doc)
    (hpa : Spec.ParentsAgree s d) (hne : AL.get? (fragTable d) "" = none) (hw : WfIds d) :
    (overlapMemoRun s fx d).1 = 0 ↔ Spec.overlappingFieldsCanBeMerged s d :=
  ⟨overlap_memo_complete s fx h7 d hpa hne hw, overlap_memo_no_false_alarm s fx h7 d⟩

/-- **the memo never loses a report**: whatever the un-memoised rule reports (under the side conditions of its
    theorem), the memoised rule reports too -/
theorem overlap_memo_never_loses (s : SchemaD) (fx : Fixes) (h7 : fx.v7 = true) (d : Doc)
    (hpa : Spec.ParentsAgree s d) (hne : AL.get? (fragTable d) "" = none) (hw : WfIds d)
    (h : ¬ Silent s fx .overlappingFieldsCanBeMerged d) : 0 < (overlapMemoRun s fx d).1 := by
  refine Nat.pos_of_ne_zero fun h0 => h ?_
  exact rule_overlapping_fields_can_be_merged_no_false_alarm_partial s fx h7 d
    (overlap_memo_complete s fx h7 d hpa hne hw h0)

/-- `OverlapMemoNeutralStatement` with the side conditions visible -/
def OverlapMemoNeutralWithSide : Prop :=
  ∀ (s : SchemaD) (fx : Fixes) (d : Doc), fx.v7 = true → NoCrash s fx d → Spec.ParentsAgree s d → OverlapSide s d →
    WfIds d →
    ((overlapMemoRun s fx d).1 = 0 ↔ Silent s fx .overlappingFieldsCanBeMerged d)

/-- **verdict-neutrality of the memo** under the side conditions of the rule's equivalence -/
theorem overlap_memo_neutral_side : OverlapMemoNeutralWithSide := fun s fx d h7 hnc hpa hsc hw =>
  (rule_overlapping_fields_memo_iff s fx h7 d hpa hsc.noEmptyName hw).trans
    (rule_overlapping_fields_can_be_merged_iff_partial s fx h7 d hpa hsc hnc).symm

/-- the half that needs no `NoCrash`: memoised silent ⇒ un-memoised silent -/
theorem overlap_memo_silent_plain_silent (s : SchemaD) (fx : Fixes) (h7 : fx.v7 = true) (d : Doc)
    (hpa : Spec.ParentsAgree s d) (hne : AL.get? (fragTable d) "" = none) (hw : WfIds d)
    (h0 : (overlapMemoRun s fx d).1 = 0) : Silent s fx .overlappingFieldsCanBeMerged d :=
  rule_overlapping_fields_can_be_merged_no_false_alarm_partial s fx h7 d
    (overlap_memo_complete s fx h7 d hpa hne hw h0)

/-- `overlap_memo_run_no_crash` (`Props/C06_overlap_memo.lean`) under the name `Props/C05_nocrash.lean` and the harness cite -/
theorem overlap_memo_run_never_crashes (s : SchemaD) (fx : Fixes) (h7 : fx.v7 = true) (d : Doc) (hw : WfIds d) :
    (overlapMemoRun s fx d).2.crash = none :=
  overlap_memo_run_no_crash s fx h7 d hw

/-- what the driver checks on a document for the memoised rule (all computable, no run of the search, NO bound on
    the nesting depth, no ranks) -/
structure DocChecksMemo (s : SchemaD) (d : Doc) : Prop where
  ids : wfIdsB d = true
  noMeta : noMetaSubsB d = true

/-- **5.3.2 for the memoised rule, with checkable / other-rule hypotheses only**: the two static checks, the
    parser's guarantee on fragment names, output-typed schema fields, and the CLAUSES of ScalarLeafs and
    FragmentsOnCompositeTypes (for `ParentsAgree`). Nothing about fragment names being unique or spreads acyclic: the
    `field_map is fragment_field_map` shortcut may be taken -/
theorem rule_overlapping_fields_memo_iff_wf (s : SchemaD) (fx : Fixes) (h7 : fx.v7 = true) (d : Doc)
    (hck : DocChecksMemo s d) (hne : NamesNonEmpty d)
    (hout : ∀ T name fd, fieldOf s T name = some fd → isOutputTy s fd.type = true)
    (hsl : Spec.scalarLeafs s d) (hfc : Spec.fragmentsOnCompositeTypes s d) :
    (overlapMemoRun s fx d).1 = 0 ↔ Spec.overlappingFieldsCanBeMerged s d :=
  rule_overlapping_fields_memo_iff s fx h7 d
    (parentsAgree_of_rules s d hout hsl hfc ((noMetaSubsB_iff d).mp hck.noMeta) ((wfIdsB_iff d).mp hck.ids))
    (noEmptyName_of hne) ((wfIdsB_iff d).mp hck.ids)

/-! non-vacuity: the document with two fragments of `Props/C06_overlap_examples.lean` satisfies every hypothesis
    (the memoised rule is silent on it iff the two fragments select the same field under the alias), and the
    conflicting variant is reported -/
example : DocChecksMemo oSchema (oDocFrag "a") := ⟨by decide, by decide⟩
example : (overlapMemoRun oSchema Fixes.all (oDocFrag "a")).1 = 0 ↔
    Spec.overlappingFieldsCanBeMerged oSchema (oDocFrag "a") :=
  rule_overlapping_fields_memo_iff oSchema Fixes.all rfl _ (parentsAgree_frag "a") (overlapSide_frag "a").noEmptyName
    (by rw [← wfIdsB_iff]; decide +kernel)
/-- ... and on the variant where the two fragments disagree the memoised rule reports, hence the clause fails -/
example : ¬ Spec.overlappingFieldsCanBeMerged oSchema (oDocFrag "b") := fun H => by
  have := (rule_overlapping_fields_memo_iff oSchema Fixes.all rfl _ (parentsAgree_frag "b") (overlapSide_frag "b").noEmptyName
    (by rw [← wfIdsB_iff]; decide +kernel)).mpr H
  revert this
  decide +kernel

end PyGql.Props.C06
