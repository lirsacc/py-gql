/-
  C19 — the operation-name filter and the validation pipeline for `ruleB` (nesting budget, recursive measure, hook
  `skipSelectionT`; `ruleF` is the same rule with the frontier loop, equal on valid documents: `ruleF_eq_ruleB`). Which state
  of `max_depth.py` each `rule*` models, and which one /repo contains (`ruleM3`): head of Props/C19.lean. The other statements
  about `ruleB` are in Props/C19.lean
  (`no_raise_all`, `flags_iff_final`, …), C19_wrapfrag.lean and C19_wrapvalid.lean; what is stated about `rule`, `ruleV`, `ruleR`,
  `ruleRT`, `depthFixed` concerns intermediate patch states (head of Props/C19.lean).
-/
import PyGqlModel.Props.C19_frontier

namespace PyGql.Props.C19
open PyGql.Depth PyGql.DepthSpec PyGql.Depth.Lemmas

/-- with `operation_name = n` (non-empty) only operations named `n` are ever reported, and such an operation is reported iff
    it is deeper than the limit -/
theorem name_filter_final (doc : Doc) (defs : List (List VarDefR)) (raw : RawVars)
    (hu : UniqueNames doc.frags) (ha : Acyclic doc.frags) (limit : Nat) (n : String) (hn : n ≠ "") :
    ∃ errs, ruleB limit (some n) doc defs raw = .ok errs ∧
      ∀ (i : Nat) (op : Op), doc.ops[i]? = some op →
        ((∃ d, (i, d) ∈ errs) ↔ (op.name = some n ∧ depthRK doc defs raw i op > limit)) := by
  obtain ⟨errs, he, h⟩ := flags_iff_final doc defs raw hu ha limit (some n)
  refine ⟨errs, he, ?_⟩
  intro i op hi
  rw [(h i op hi).1]
  simp [opSelected, hn]

/-- … and for the loop as written -/
theorem name_filter_frontier (doc : Doc) (defs : List (List VarDefR)) (raw : RawVars)
    (hu : UniqueNames doc.frags) (ha : Acyclic doc.frags) (limit : Nat) (n : String) (hn : n ≠ "") :
    ∃ errs, ruleF limit (some n) doc defs raw = .ok errs ∧
      ∀ (i : Nat) (op : Op), doc.ops[i]? = some op →
        ((∃ d, (i, d) ∈ errs) ↔ (op.name = some n ∧ depthRK doc defs raw i op > limit)) := by
  rw [ruleF_eq_ruleB doc defs raw hu ha limit (some n)]
  exact name_filter_final doc defs raw hu ha limit n hn

/-- `graphql_blocking(validators=[default, rule])` with `ruleB`, for ANY JSON request variables: never raises;
    rejected with a depth error iff a selected operation is deeper than `n` (all `n ≥ 0`, all filters, any outcome of the
    default validator); executed iff no error at all -/
theorem pipeline_rejects_iff_final (doc : Doc) (defs : List (List VarDefR)) (raw : RawVars)
    (hu : UniqueNames doc.frags) (ha : Acyclic doc.frags) (n : Nat) (filter : Option String) (defaultErrors : Nat) :
    (∀ e, pipelineB n filter doc defs raw defaultErrors ≠ .raised e) ∧
    ((pipelineB n filter doc defs raw defaultErrors).depthRejected = true ↔
      ∃ i op, doc.ops[i]? = some op ∧ opSelected filter op = true ∧ depthRK doc defs raw i op > n) ∧
    (pipelineB n filter doc defs raw defaultErrors = .executed ↔
      defaultErrors = 0 ∧ ∀ i op, doc.ops[i]? = some op → opSelected filter op = true → depthRK doc defs raw i op ≤ n) := by
  have hB := ruleB_eq_expected doc defs raw hu ha n filter
  have hmap : (List.map (fun p : Nat × Option Nat => (p.1, p.2.getD 0))
      ((expected (depthRK doc defs raw) n filter 0 doc.ops).map fun p => (p.1, some p.2))) =
      expected (depthRK doc defs raw) n filter 0 doc.ops := by
    simp [List.map_map, Function.comp_def]
  unfold pipelineB
  rw [hB]
  simp only [hmap]
  exact outcome_generic doc.ops (depthRK doc defs raw) n filter _ rfl defaultErrors

/-! non-vacuity: the docstring document -/
example : UniqueNames docstringDoc.frags ∧ Acyclic docstringDoc.frags :=
  ⟨by unfold UniqueNames; decide +kernel, acyclic_sound _ (by decide +kernel)⟩

example : pipelineB 3 none docstringDoc [[]] [] 0 = .rejected [(0, 4)] 0 ∧ pipelineB 4 none docstringDoc [[]] [] 0 = .executed := by
  decide +kernel

end PyGql.Props.C19
