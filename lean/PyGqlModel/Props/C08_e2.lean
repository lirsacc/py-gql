/-
  C08 — finding E2 as a THEOREM PAIR (model: `AsyncExecE2.lean`; tied to the real code by the stage `e2-model` of
  harness/corr/C08.py: every completion order on the manual executor + BlockingExecutor, 2 000+ runs per check).

  A list field whose completion raises ResolverError after `items` were completed (a lazy iterable raising
  mid-iteration / an abstract entry whose `resolve_type` raises): BlockingExecutor reports every field error of the
  earlier items; the generic Executor on the thread pool reports or loses them depending on the completion order (the
  orphaned Future's callback runs after the response was assembled), and without sibling root fields loses every deferred
  one in EVERY schedule. So "errors are a permutation of BlockingExecutor's for every schedule" (`async_eq_blocking`,
  proved for the operation form WITHOUT failing completions) is FALSE for these operations.
-/
import PyGqlModel.AsyncExecE2
import PyGqlModel.Lemmas.ExecErr


namespace PyGql.Props.C08
open PyGql.AsyncExec

/-- BlockingExecutor, every operation of the E2 form whose earlier items do not crash by themselves: the errors are
    those of `before`, then EVERY error of every earlier item (field errors of their sub-fields, non-null violations),
    then the list field's own error, then those of `after`. -/
theorem e2_blocking_reports_every_item_error (op : E2.Op) (hitems : denItems op.items ≠ none)
    (v : V) (errs : List Err) (h : (E2.runBlocking op).outcome = .ok v errs) :
    errs = errsFlds [] op.before ++ (errsItems op.path 0 op.items ++ (⟨op.path, .resolver⟩ :: errsFlds [] op.after)) := by
  unfold E2.runBlocking at h
  cases h1 : blockFields [] op.before {} with
  | mk r1 s1 =>
    rw [h1] at h
    cases r1 with
    | exc e => simp at h
    | ok kvs1 =>
      have e1 := blockFields_errs op.before [] {} kvs1 s1 h1
      simp only [E2.blockListField] at h
      have hden := blockItems_den op.items op.path 0 ((s1.emit (.call op.path)).emit (.done op.path))
      cases h2 : blockItems op.path 0 op.items ((s1.emit (.call op.path)).emit (.done op.path)) with
      | mk r2 s2 =>
        rw [h2] at h hden
        cases r2 with
        | exc e => simp [resOpt] at hden; exact absurd hden.symm hitems
        | ok vs =>
          have e2 := blockItems_errs op.items op.path 0 _ vs s2 h2
          simp only at h
          cases h3 : blockFields [] op.after (s2.addError op.path .resolver) with
          | mk r3 s3 =>
            rw [h3] at h
            cases r3 with
            | exc e => simp at h
            | ok kvs2 =>
              have e3 := blockFields_errs op.after [] _ kvs2 s3 h3
              simp only [Outcome.ok.injEq] at h
              rw [← h.2, e3]
              simp only [ExecSt.addError, e2, ExecSt.emit, e1]
              simp

/-- the witness: `{ l { a } q }` — `l`'s iterable yields one object (sub-field `a`: deferred, raises ResolverError)
    and then raises; `q` is deferred and fine. Tasks in submission order: 0 = `l[0].a`, 1 = `q`. -/
def e2Witness : E2.Op :=
  { before := .nil, key := "l",
    items := .cons (.obj (.cons "a" .deferred .rerr .nil)) .nil,
    after := .cons "q" .deferred (.ok (.leaf 1)) .nil }

/-- non-vacuity of `e2_blocking_reports_every_item_error`, and the reference: BlockingExecutor reports BOTH errors -/
example : denItems e2Witness.items ≠ none := by decide +kernel
theorem e2_blocking_witness :
    (E2.runBlocking e2Witness).outcome
      = .ok (.obj [("l", .null), ("q", .leaf 1)])
          [⟨[.key "l", .idx 0, .key "a"], .resolver⟩, ⟨[.key "l"], .resolver⟩] := by rfl

/-- `q` completes first: the root Future is finished, the response is assembled with the list field's error only —
    the field error of `l[0].a` is LOST (its task is still in the queue; nothing waits for it). -/
theorem e2_deferred_loses_item_error :
    (E2.runAsync e2Witness [1]).outcome
      = .ok (.obj [("l", .null), ("q", .leaf 1)]) [⟨[.key "l"], .resolver⟩] := by rfl

/-- the orphaned `l[0].a` completes first, then `q`: same data, and its error IS reported (after the list's own) -/
theorem e2_deferred_may_keep_item_error :
    (E2.runAsync e2Witness [0, 0]).outcome
      = .ok (.obj [("l", .null), ("q", .leaf 1)])
          [⟨[.key "l"], .resolver⟩, ⟨[.key "l", .idx 0, .key "a"], .resolver⟩] := by rfl

/-- Without sibling root fields the root value is available as soon as `execute` returns: the completion order is
    irrelevant (nothing is ever delivered before the response is assembled). -/
theorem e2_alone_schedule_irrelevant (key : String) (items : Comps) (schedule : List Nat) :
    E2.runAsync ⟨.nil, key, items, .nil⟩ schedule = E2.runAsync ⟨.nil, key, items, .nil⟩ [] := by
  unfold E2.runAsync E2.execute E2.resolveRoot
  simp only [resolveFields, E2.resolveListField, E2.Op.path, E2.Op.keys, Flds.keys]
  cases hc : completeItems [Seg.key key] 0 items ((({} : ExecSt).emit (.call [Seg.key key])).emit (.done [Seg.key key])) with
  | mk r s1 =>
    cases r with
    | exc e => cases e <;> (cases schedule <;> rfl)
    | ok ns => cases schedule <;> rfl

/-- … and what is reported is exactly what was recorded SYNCHRONOUSLY while the items were completed, plus the list
    field's error: every error a DEFERRED sub-resolver of an earlier item would report is lost in EVERY schedule. -/
theorem e2_alone_loses_deferred_item_errors (key : String) (items : Comps) (schedule : List Nat) (ns : Nodes) (s1 : ExecSt)
    (hc : completeItems [Seg.key key] 0 items ((({} : ExecSt).emit (.call [Seg.key key])).emit (.done [Seg.key key])) = (.ok ns, s1)) :
    (E2.runAsync ⟨.nil, key, items, .nil⟩ schedule).outcome
      = .ok (.obj [(key, .null)]) (s1.errors ++ [⟨[Seg.key key], .resolver⟩]) := by
  rw [e2_alone_schedule_irrelevant]
  unfold E2.runAsync E2.execute E2.resolveRoot
  simp only [resolveFields, E2.resolveListField, E2.Op.path, E2.Op.keys, Flds.keys, hc]
  rfl

/-- instance: one item, sub-field `a` deferred → ResolverError, sub-field `b` sync → ResolverError: in every schedule
    only `b`'s error and the list's own are reported; BlockingExecutor reports all three. -/
example (schedule : List Nat) :
    (E2.runAsync ⟨.nil, "l", .cons (.obj (.cons "a" .deferred .rerr (.cons "b" .sync .rerr .nil))) .nil, .nil⟩ schedule).outcome
      = .ok (.obj [("l", .null)]) [⟨[.key "l", .idx 0, .key "b"], .resolver⟩, ⟨[.key "l"], .resolver⟩] := by
  have h := e2_alone_loses_deferred_item_errors "l"
    (.cons (.obj (.cons "a" .deferred .rerr (.cons "b" .sync .rerr .nil))) .nil) schedule _ _ rfl
  exact h
example :
    (E2.runBlocking ⟨.nil, "l", .cons (.obj (.cons "a" .deferred .rerr (.cons "b" .sync .rerr .nil))) .nil, .nil⟩).outcome
      = .ok (.obj [("l", .null)])
          [⟨[.key "l", .idx 0, .key "a"], .resolver⟩, ⟨[.key "l", .idx 0, .key "b"], .resolver⟩, ⟨[.key "l"], .resolver⟩] := by rfl

/-- the statement of `async_eq_blocking` transported to operations with a failing list completion -/
def AsyncEqBlockingE2Statement : Prop :=
  ∀ (op : E2.Op) (schedule : List Nat) (v v' : V) (errs errs' : List Err),
    (E2.runAsync op schedule).outcome = .ok v errs → (E2.runBlocking op).outcome = .ok v' errs' → errs.Perm errs'

/-- FALSE on today's code (finding E2): the witness above, `q` completing first. -/
theorem async_eq_blocking_e2_refuted : ¬ AsyncEqBlockingE2Statement := by
  intro h
  have hp := h e2Witness [1] _ _ _ _ e2_deferred_loses_item_error e2_blocking_witness
  have := hp.length_eq
  simp at this

end PyGql.Props.C08
