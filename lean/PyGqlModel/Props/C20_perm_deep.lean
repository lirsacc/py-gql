/-
  C20 — `diff_perm_deep`: the report of `diff_schema` does not depend on the order of ANY member list of the two
  schema descriptions, at any level: type definitions, directive definitions, the fields of a type, the arguments
  of a field or directive, enum values, input fields, union members, implemented interfaces, directive locations
  (the last three are the places where the implementation goes through Python `set`s / dict views, i.e. where
  hash ordering could enter: the model only asks `contains`, and this theorem shows that nothing else matters).
  All lists of both schemas may be reordered independently; the report is then a permutation of the original
  report (the same multiset of changes), at every severity filter. `diff_perm` (Props/C20_perm.lean) is the
  special case where only the two top-level lists move.

  Hypothesis: names are unique at every level of the NEW schema (`UniqSchema n`: it is the one that is searched by
  name); nothing is asked of the old one.
-/
import PyGqlModel.Props.C20_refl
import PyGqlModel.Lemmas.ListEqv

set_option linter.unusedSimpArgs false

namespace PyGql.Props.C20
open PyGql PyGql.Differ PyGql.Diff PyGql.ListEqv

/-- the same field, its arguments possibly listed in another order -/
structure FieldEqv (f g : FieldD) : Prop where
  name : f.name = g.name
  type : f.type = g.type
  deprecated : f.deprecated = g.deprecated
  args : f.args.Perm g.args

/-- the same type definition up to the order of its members, interfaces, values, input fields, fields and their arguments -/
structure TypeEqv (t u : TypeD) : Prop where
  kind : t.kind = u.kind
  name : t.name = u.name
  members : t.members.Perm u.members
  interfaces : t.interfaces.Perm u.interfaces
  values : t.values.Perm u.values
  inputFields : t.inputFields.Perm u.inputFields
  fields : ListEqv FieldEqv t.fields u.fields

structure DirEqv (d e : DirectiveD) : Prop where
  name : d.name = e.name
  locations : d.locations.Perm e.locations
  args : d.args.Perm e.args

/-- the same schema up to the order of every list in it -/
structure SchemaEqv (s s' : SchemaD) : Prop where
  types : ListEqv TypeEqv s.types s'.types
  directives : ListEqv DirEqv s.directives s'.directives
  query : s.query = s'.query
  mutation : s.mutation = s'.mutation
  subscription : s.subscription = s'.subscription

private theorem args_find {news news' : List ArgD} (hn : news.Perm news') (u : Uniq ArgD.name news) (x : String) :
    news.find? (·.name == x) = news'.find? (·.name == x) := find_name_perm (name := ArgD.name) hn u x

private theorem args_none {olds olds' : List ArgD} (ho : olds.Perm olds') (x : String) :
    (olds.find? (·.name == x)).isNone = (olds'.find? (·.name == x)).isNone := findNone_perm _ ho

private theorem compatRetypes_perm (cls : String) (key : ArgD → ArgD → List (String × String))
    {olds olds' news news' : List ArgD} (ho : olds.Perm olds') (hn : news.Perm news') (u : Uniq ArgD.name news) :
    (compatRetypes cls key olds news).Perm (compatRetypes cls key olds' news') := by
  unfold compatRetypes
  simp only [args_find hn u]
  exact ho.flatMap_right _

private theorem diffArgs_perm (removed changed dflt added : String) (kOld kNew : ArgD → List (String × String))
    (kPair : ArgD → ArgD → List (String × String)) {olds olds' news news' : List ArgD} (ho : olds.Perm olds')
    (hn : news.Perm news') (u : Uniq ArgD.name news) :
    (diffArgs removed changed dflt added kOld kNew kPair olds news).Perm
      (diffArgs removed changed dflt added kOld kNew kPair olds' news') := by
  unfold diffArgs
  simp only [args_find hn u, args_none ho]
  exact ((ho.filterMap _).append ((hn.filter _).map _)).append (compatRetypes_perm _ _ ho hn u)

private theorem diffDirectiveArguments_perm (od od' nd nd' : DirectiveD) (ho : DirEqv od od') (hn : DirEqv nd nd')
    (u : Uniq ArgD.name nd.args) : (diffDirectiveArguments od nd).Perm (diffDirectiveArguments od' nd') := by
  simp only [diffDirectiveArguments_eq, ← ho.name, ← hn.name]
  exact diffArgs_perm _ _ _ _ _ _ _ ho.args hn.args u

private theorem diffFieldArguments_perm (parent : String) (of of' nf nf' : FieldD) (ho : FieldEqv of of')
    (hn : FieldEqv nf nf') (u : Uniq ArgD.name nf.args) :
    (diffFieldArguments parent of nf).Perm (diffFieldArguments parent of' nf') := by
  simp only [diffFieldArguments_eq, ← ho.name, ← hn.name]
  exact diffArgs_perm _ _ _ _ _ _ _ ho.args hn.args u

private theorem diffField_perm (parent : String) (of of' nf nf' : FieldD) (ho : FieldEqv of of')
    (hn : FieldEqv nf nf') (u : Uniq ArgD.name nf.args) :
    (diffField parent of nf).Perm (diffField parent of' nf') := by
  unfold diffField
  simp only [← ho.name, ← hn.name, ← ho.type, ← hn.type, ← ho.deprecated, ← hn.deprecated]
  exact ((List.Perm.refl _).append (diffFieldArguments_perm parent of of' nf nf' ho hn u)).append (List.Perm.refl _)

private theorem fieldEqv_name : ∀ a b : FieldD, FieldEqv a b → FieldD.name a = FieldD.name b := fun _ _ h => h.name

private theorem diffFields_perm (ot ot' nt nt' : TypeD) (ho : TypeEqv ot ot') (hn : TypeEqv nt nt')
    (uf : Uniq FieldD.name nt.fields) (ua : ∀ f ∈ nt.fields, Uniq ArgD.name f.args) :
    (diffFields ot nt).Perm (diffFields ot' nt') := by
  unfold diffFields
  apply List.Perm.append
  · apply ListEqv.flatMap_perm ho.fields
    intro f f' hf r
    rw [← r.name, ← ho.name]
    rcases (ListEqv.find fieldEqv_name hn.fields uf f.name).cases with ⟨h1, h2⟩ | ⟨g, g', h1, h2, hg⟩
    · simp only [h1, h2]; exact List.Perm.refl _
    · simp only [h1, h2]
      exact diffField_perm ot.name f f' g g' r hg (ua g (List.mem_of_find?_eq_some h1))
  · rw [← hn.name]
    apply ListEqv.map_perm (ListEqv.filter hn.fields _ _ ?_) _ _ (fun a b _ r => by rw [r.name])
    intro g g' _ r
    rw [← r.name]
    exact ListEqv.findNone fieldEqv_name ho.fields g.name

private theorem union_pair (ou ou' nu nu' : TypeD) (ho : TypeEqv ou ou') (hn : TypeEqv nu nu') :
    (diffUnionMembers ou nu).Perm (diffUnionMembers ou' nu') := by
  unfold diffUnionMembers
  simp only [← (hn.members).contains_eq, ← (ho.members).contains_eq, ← ho.name, ← hn.name]
  exact ((ho.members.filter _).map _).append ((hn.members.filter _).map _)

private theorem enum_pair (oe oe' ne ne' : TypeD) (ho : TypeEqv oe oe') (hn : TypeEqv ne ne')
    (u : Uniq EnumValD.name ne.values) : (diffEnumValues oe ne).Perm (diffEnumValues oe' ne') := by
  have e1 := fun x => find_name_perm (name := EnumValD.name) hn.values u x
  have e2 := fun x => findNone_perm (fun y : EnumValD => y.name == x) ho.values
  have e3 : enumValueChange oe.name ne.values = enumValueChange oe'.name ne'.values := by
    funext ov
    simp only [enumValueChange, e1, ← ho.name]
  unfold diffEnumValues
  simp only [e2, e3, ← hn.name]
  exact (ho.values.filterMap _).append ((hn.values.filter _).map _)

private theorem typeEqv_name : ∀ a b : TypeD, TypeEqv a b → TypeD.name a = TypeD.name b := fun _ _ h => h.name
private theorem dirEqv_name : ∀ a b : DirectiveD, DirEqv a b → DirectiveD.name a = DirectiveD.name b := fun _ _ h => h.name

def PairEqv (p q : TypeD × TypeD) : Prop := TypeEqv p.1 q.1 ∧ TypeEqv p.2 q.2

private theorem matchingPairs_eqv {o o' n n' : SchemaD} (ho : SchemaEqv o o') (hn : SchemaEqv n n')
    (un : Uniq TypeD.name n.types) (k : Kind) : ListEqv PairEqv (matchingPairs o n k) (matchingPairs o' n' k) := by
  unfold matchingPairs
  have hnk : ListEqv TypeEqv (n.types.filter (·.kind == k)) (n'.types.filter (·.kind == k)) :=
    ListEqv.filter hn.types _ _ fun a b _ r => by rw [r.kind]
  have unk : UniqN TypeD.name (n.types.filter (·.kind == k)) := uniq_filter un _
  apply ListEqv.filterMap (ListEqv.filter ho.types _ _ fun a b _ r => by rw [r.kind])
  intro t t' _ r
  rw [← r.name]
  rcases (ListEqv.find typeEqv_name hnk unk t.name).cases with ⟨h1, h2⟩ | ⟨u, u', h1, h2, hu⟩
  · simp only [h1, h2, OptRel]
  · simp only [h1, h2, OptRel]
    exact ⟨r, hu⟩

private theorem mem_matching_new {o n : SchemaD} {k : Kind} {p : TypeD × TypeD} (h : p ∈ matchingPairs o n k) :
    p.2 ∈ n.types := by
  unfold matchingPairs at h
  obtain ⟨t, _, ht⟩ := List.mem_filterMap.mp h
  cases hf : (n.types.filter (·.kind == k)).find? (fun y => y.name == t.name) with
  | none => rw [hf] at ht; cases ht
  | some t' =>
    rw [hf] at ht
    have : p = (t, t') := (Option.some.inj ht).symm
    rw [this]
    exact (List.mem_filter.mp (List.mem_of_find?_eq_some hf)).1

/-- **Order independence at every level.** -/
theorem diff_perm_deep (o o' n n' : SchemaD) (ho : SchemaEqv o o') (hn : SchemaEqv n n') (un : UniqSchema n) (m : Nat) :
    (diffSchema o n m).Perm (diffSchema o' n' m) := by
  -- pass by pass (`h0` … `h9`, in the order `diff_schema` chains them): the lists that are traversed are related by
  -- `ListEqv`, the look-ups in the NEW schema agree because its names are unique (`ListEqv.find`), those in the old one
  -- only ask whether a name occurs (`ListEqv.findNone`); below a matched pair the same argument one level down
  unfold diffSchema
  apply List.Perm.filter
  have h0 : (diffRootTypes o n).Perm (diffRootTypes o' n') := by
    unfold diffRootTypes
    rw [ho.query, ho.mutation, ho.subscription, hn.query, hn.mutation, hn.subscription]
  have h1 : (findRemovedTypes o n).Perm (findRemovedTypes o' n') := by
    unfold findRemovedTypes SchemaD.findType
    apply ListEqv.map_perm (ListEqv.filter ho.types _ _ ?_) _ _ (fun a b _ r => by rw [r.name])
    intro t t' _ r
    rw [← r.name]
    exact ListEqv.findNone typeEqv_name hn.types t.name
  have h2 : (findAddedTypes o n).Perm (findAddedTypes o' n') := by
    unfold findAddedTypes SchemaD.findType
    apply ListEqv.map_perm (ListEqv.filter hn.types _ _ ?_) _ _ (fun a b _ r => by rw [r.name])
    intro t t' _ r
    rw [← r.name]
    exact ListEqv.findNone typeEqv_name ho.types t.name
  have h3 : (diffDirectives o n).Perm (diffDirectives o' n') := by
    unfold diffDirectives
    apply List.Perm.append
    · apply ListEqv.flatMap_perm ho.directives
      intro d d' _ r
      rw [← r.name]
      rcases (ListEqv.find dirEqv_name hn.directives un.directives d.name).cases with ⟨h1, h2⟩ | ⟨e, e', h1, h2, he⟩
      · simp only [h1, h2]; exact List.Perm.refl _
      · simp only [h1, h2, ← (he.locations).contains_eq, ← (r.locations).contains_eq]
        exact (((r.locations.filter _).map _).append ((he.locations.filter _).map _)).append
          (diffDirectiveArguments_perm d d' e e' r he (un.dargs e (List.mem_of_find?_eq_some h1)))
    · apply ListEqv.map_perm (ListEqv.filter hn.directives _ _ ?_) _ _ (fun a b _ r => by rw [r.name])
      intro d d' _ r
      rw [← r.name]
      exact ListEqv.findNone dirEqv_name ho.directives d.name
  have h4 : (findChangedTypes o n).Perm (findChangedTypes o' n') := by
    unfold findChangedTypes SchemaD.findType
    apply ListEqv.filterMap_perm ho.types
    intro t t' _ r
    rw [← r.name]
    rcases (ListEqv.find typeEqv_name hn.types un.types t.name).cases with ⟨h1, h2⟩ | ⟨u, u', h1, h2, hu⟩
    · simp only [h1, h2]
    · simp only [h1, h2, ← r.kind, ← hu.kind]
  have mp := fun k => matchingPairs_eqv ho hn un.types k
  have h5 : (diffUnionTypes o n).Perm (diffUnionTypes o' n') := by
    rw [diffUnionTypes_eq, diffUnionTypes_eq]
    exact ListEqv.flatMap_perm (mp _) _ _ fun p q _ r => union_pair p.1 q.1 p.2 q.2 r.1 r.2
  have h6 : (diffEnumTypes o n).Perm (diffEnumTypes o' n') := by
    rw [diffEnumTypes_eq, diffEnumTypes_eq]
    exact ListEqv.flatMap_perm (mp _) _ _ fun p q hp r =>
      enum_pair p.1 q.1 p.2 q.2 r.1 r.2 (un.values p.2 (mem_matching_new hp))
  have h7 : (diffObjectTypes o n).Perm (diffObjectTypes o' n') := by
    unfold diffObjectTypes
    apply ListEqv.flatMap_perm (mp _)
    intro p q hp r
    have hm := mem_matching_new hp
    simp only [← (r.1.interfaces).contains_eq, ← (r.2.interfaces).contains_eq, ← r.1.name]
    exact ((diffFields_perm p.1 q.1 p.2 q.2 r.1 r.2 (un.fields p.2 hm) (un.args p.2 hm)).append
      ((r.1.interfaces.filter _).map _)).append ((r.2.interfaces.filter _).map _)
  have h8 : (diffInterfaceTypes o n).Perm (diffInterfaceTypes o' n') := by
    unfold diffInterfaceTypes
    exact ListEqv.flatMap_perm (mp _) _ _ fun p q hp r =>
      diffFields_perm p.1 q.1 p.2 q.2 r.1 r.2 (un.fields p.2 (mem_matching_new hp)) (un.args p.2 (mem_matching_new hp))
  have h9 : (diffInputTypes o n).Perm (diffInputTypes o' n') := by
    rw [diffInputTypes_eq, diffInputTypes_eq]
    apply ListEqv.flatMap_perm (mp _)
    intro p q hp r
    simp only [diffInputFields, ← r.1.name, ← r.2.name]
    exact diffArgs_perm _ _ _ _ _ _ _ r.1.inputFields r.2.inputFields (un.inputs p.2 (mem_matching_new hp))
  exact (((((((((h0.append h1).append h2).append h3).append h4).append h5).append h6).append h7).append h8).append h9)

/-- the report, read as a multiset, is the same -/
theorem diff_perm_deep_count (o o' n n' : SchemaD) (ho : SchemaEqv o o') (hn : SchemaEqv n n') (un : UniqSchema n)
    (m : Nat) (c : Change) : (diffSchema o n m).count c = (diffSchema o' n' m).count c :=
  (diff_perm_deep o o' n n' ho hn un m).count_eq c

/-- "no breaking change reported" does not depend on any order -/
theorem no_breaking_perm_deep (o o' n n' : SchemaD) (ho : SchemaEqv o o') (hn : SchemaEqv n n') (un : UniqSchema n) :
    diffSchema o n 2 = [] → diffSchema o' n' 2 = [] := by
  intro e
  have h := diff_perm_deep o o' n n' ho hn un 2
  rw [e] at h
  exact (List.Perm.nil_eq h).symm

/-! ### non-vacuity: every list of the old schema reordered (types, fields, arguments, union members), a real edit -/

private def aX : ArgD := { name := "x", type := .named "Int" }
private def aY : ArgD := { name := "y", type := .named "Int" }
private def fF : FieldD := { name := "f", type := .named "Int", args := [aX, aY] }
private def fF' : FieldD := { name := "f", type := .named "Int", args := [aY, aX] }
private def fG : FieldD := { name := "g", type := .named "U" }
private def tQ1 : TypeD := { kind := .object, name := "Query", fields := [fF, fG] }
private def tQ2 : TypeD := { kind := .object, name := "Query", fields := [fG, fF'] }
private def tU1 : TypeD := { kind := .union, name := "U", members := ["A", "B"] }
private def tU2 : TypeD := { kind := .union, name := "U", members := ["B", "A"] }
private def dO : SchemaD := { types := [tU1, tQ1] }
private def dO' : SchemaD := { types := [tQ2, tU2] }
/-- new schema: both arguments and member `A` removed -/
private def dN : SchemaD :=
  { types := [{ kind := .union, name := "U", members := ["B"] },
              { kind := .object, name := "Query", fields := [{ name := "f", type := .named "Int" }, fG] }] }

private theorem fieldEqv_refl (f : FieldD) : FieldEqv f f := ⟨rfl, rfl, rfl, List.Perm.refl _⟩
private theorem typeEqv_refl (t : TypeD) : TypeEqv t t :=
  ⟨rfl, rfl, List.Perm.refl _, List.Perm.refl _, List.Perm.refl _, List.Perm.refl _, ⟨_, List.Perm.refl _, forall2_refl fieldEqv_refl _⟩⟩
theorem SchemaEqv.refl (s : SchemaD) : SchemaEqv s s :=
  ⟨⟨_, List.Perm.refl _, forall2_refl typeEqv_refl _⟩,
   ⟨_, List.Perm.refl _, forall2_refl (fun _ => ⟨rfl, List.Perm.refl _, List.Perm.refl _⟩) _⟩, rfl, rfl, rfl⟩

/-- **Structurally equal schemas diff to nothing**, at every severity filter: the same types, directives, fields,
    arguments, enum values, input fields, union members, interfaces and locations, each list in any order
    (not only `diffSchema s s`, which is `diff_refl`). -/
theorem diff_eqv_zero (s s' : SchemaD) (h : SchemaEqv s s') (u : UniqSchema s) (m : Nat) : diffSchema s s' m = [] := by
  have hp := diff_perm_deep s s s s' (SchemaEqv.refl s) h u m
  rw [diff_refl s u m] at hp
  exact hp.symm.eq_nil

private theorem dO_eqv : SchemaEqv dO dO' := by
  refine ⟨⟨[tQ1, tU1], List.Perm.swap _ _ _, .cons ?_ (.cons ?_ .nil)⟩, ⟨[], List.Perm.refl _, .nil⟩, rfl, rfl, rfl⟩
  · exact ⟨rfl, rfl, List.Perm.refl _, List.Perm.refl _, List.Perm.refl _, List.Perm.refl _,
      ⟨[fG, fF], List.Perm.swap _ _ _, .cons (fieldEqv_refl _) (.cons ⟨rfl, rfl, rfl, List.Perm.swap _ _ _⟩ .nil)⟩⟩
  · exact ⟨rfl, rfl, List.Perm.swap _ _ _, List.Perm.refl _, List.Perm.refl _, List.Perm.refl _, ⟨[], List.Perm.refl _, .nil⟩⟩

private theorem dN_uniq : UniqSchema dN := .of_nodup (by decide +kernel)

/-- the two reports contain the same changes (here: three BREAKING ones, in another order), through the theorem -/
example : (diffSchema dO dN 2).Perm (diffSchema dO' dN 2) :=
  diff_perm_deep dO dO' dN dN dO_eqv (SchemaEqv.refl dN) dN_uniq 2
example : (diffSchema dO dN 2).length = 3 ∧ diffSchema dO dN 2 ≠ diffSchema dO' dN 2 := by decide +kernel

end PyGql.Props.C20
