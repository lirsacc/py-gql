/-
  C16 — where the field events are: for every request that reaches the executor, the trace of
  `process_graphql_query` (as it is since fix N1) is `stage events ++ [execution+] ++ executor run ++ [execution-] ++ [query-]`:
  every field hook, middleware and resolver event lies between `on_execution_start` and `on_execution_end`, for every
  executor, runtime and completion order of the model (`field_events_inside_execution`). On the REAL code this is what the
  oracle `field-hook-outside-execution-stage` checks; it is known to fail when a request ABORTS with siblings in flight
  (findings N4, N7) — `OutKind` has no request-abort outcome, so those runs are outside this theorem.
-/
import PyGqlModel.Props.C16


namespace PyGql.Props.C16
open PyGql.Instr

theorem field_events_inside_execution (cfg : Cfg) (r : Request)
    (hsyn : (r.docIsText && r.syntaxError) = false) (hv : r.valid = true) (ho : r.opselOk = true) (hvars : r.varsOk = true)
    (hsub : r.subscriptionOp = false) (hroot : r.rootCollectFails = false) :
    ∃ pre post, pipeline false cfg r = pre ++ (stageStart .execution ++ execBody cfg r ++ stageEnd .execution) ++ post
      ∧ (∀ e ∈ pre ++ post, (stageOf e).isSome = true)
      ∧ stageEvents (execBody cfg r) = [] := by
  refine ⟨stageStart .query ++ ((if r.docIsText then stageStart .parsing ++ stageEnd .parsing else []) ++
      (stageStart .validation ++ stageEnd .validation)), stageEnd .query, ?_, ?_, body_has_no_stage_event cfg r⟩
  · simp [pipeline, execute, hsyn, hv, ho, hvars, hsub, hroot]
  · intro e he
    cases hd : r.docIsText with
    | false =>
      simp only [hd, stageStart, stageEnd, Bool.false_eq_true, if_false, List.nil_append, List.cons_append, List.mem_cons,
        List.mem_nil_iff, or_false] at he
      rcases he with rfl | rfl | rfl | rfl <;> rfl
    | true =>
      simp only [hd, stageStart, stageEnd, if_true, List.nil_append, List.cons_append, List.mem_cons,
        List.mem_nil_iff, or_false] at he
      rcases he with rfl | rfl | rfl | rfl | rfl | rfl <;> rfl


/-- Finding N8, the exact form: for a field whose resolver the runtime
    defers (`runtime.wrap_callable` submits it), what `resolve_field` emits at the moment it is called is
    `field+ · mw> (last middleware first) · mw< (list order)` and NOTHING else - every middleware has exited, the resolver has
    not been invoked (`call` / `ret` / `field-` come with the completion of the task it leaves behind). The nesting
    `mw> call ret mw<` holds for synchronous resolvers (`field_hooks_contiguous_sequential`, `chunk`). -/
theorem deferred_field_middlewares_exit_at_submission (cfg : Cfg) (path : Path) (key : String) (o : OutKind) (c : Comp)
    (ho : o ≠ .argError) :
    (startField cfg path (.mk key true o c)).1
        = [Ev.hook (.field (path ++ [.key key]) true)]
          ++ cfg.mws.reverse.map (fun i => Ev.mwEnter i (path ++ [.key key]))
          ++ cfg.mws.map (fun i => Ev.mwExit i (path ++ [.key key]))
      ∧ Ev.call (path ++ [.key key]) ∉ (startField cfg path (.mk key true o c)).1
      ∧ (startField cfg path (.mk key true o c)).2.length = 1 := by
  have hm := middleware_once_in_order submitOnly cfg.mws (path ++ [Seg.key key])
  have heq : (startField cfg path (.mk key true o c)).1
      = [Ev.hook (.field (path ++ [.key key]) true)]
        ++ cfg.mws.reverse.map (fun i => Ev.mwEnter i (path ++ [.key key]))
        ++ cfg.mws.map (fun i => Ev.mwExit i (path ++ [.key key])) := by
    cases o with
    | argError => exact absurd rfl ho
    | raises => simp [startField, fieldResolver, fieldStart, hm, submitOnly]
    | returns => simp [startField, fieldResolver, fieldStart, hm, submitOnly]
  refine ⟨heq, ?_, ?_⟩
  · rw [heq]; simp
  · cases o with
    | argError => exact absurd rfl ho
    | raises => simp [startField]
    | returns => simp [startField]

/-- instance: two middlewares, deferred resolver: `field+ mw>1 mw>0 mw<0 mw<1` (the real trace of the probe `middleware-deferred`) -/
example : (startField ⟨[0, 1]⟩ [] (.mk "a" true .returns .leaf)).1
    = [.hook (.field [.key "a"] true), .mwEnter 1 [.key "a"], .mwEnter 0 [.key "a"], .mwExit 0 [.key "a"], .mwExit 1 [.key "a"]] := by
  decide +kernel

end PyGql.Props.C16
