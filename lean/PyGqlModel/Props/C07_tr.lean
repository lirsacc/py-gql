/-
  C07: the hand-written model of `schema/scalars.coerce_int` (`Coerce.coerceInt`, over JSON values) EQUALS the definition the
  translator derives from the source text on every run (`Generated/TrScalars.lean`: the whole `if / elif` chain, the three
  `try / except` blocks with the classes they catch, the emptiness / `None` / range guards), instantiated with the model's
  reading of Python's dynamic operations. An edit of `coerce_int` (a dropped guard, another caught class, a reordered branch)
  changes the generated definition and re-opens the proof.
-/
import PyGqlModel.Coerce
import PyGqlModel.Generated.TrScalars

namespace PyGql.Props.C07
open PyGql PyGql.Coerce PyGql.Generated PyGql.PyNum PyGql.Generated.Scalars

/-! the model's reading of the dynamic operations `coerce_int` applies to its argument (a JSON value) -/

def isIntJ : JV → Bool | .bool _ => true | .int _ => true | _ => false        -- isinstance(x, int): bool is an int
def isFloatJ : JV → Bool | .float _ => true | _ => false
def isStrJ : JV → Bool | .str _ => true | _ => false
def isNoneJ : JV → Bool | .null => true | _ => false
def strIsEmptyJ : JV → Bool | .str s => s == "" | _ => false                  -- `not x` on a str

/-- `int(x)`: on an int / bool the number itself; on a float text `t` whatever `truncF t` says (OverflowError for the
    infinities, ValueError for NaN, the truncation otherwise) -/
def pyIntJ (truncF : String → Except String Int) : JV → Except String Int
  | .bool b => .ok (if b then 1 else 0)
  | .int n => .ok n
  | .float t => truncF t
  | _ => .error "TypeError"

/-- `n != x` for a float `x` -/
def intNeJ (neF : Int → String → Bool) (n : Int) : JV → Bool
  | .float t => neF n t
  | _ => false

/-- `int(s, 10)` -/
def pyInt10J : JV → Except String Int
  | .str s => match pyInt10 s with | some n => .ok n | none => .error "ValueError"
  | _ => .error "TypeError"

/-- `float(s)` -/
def pyFloatJ : JV → Except String Dbl
  | .str s => match pyFloat s with | some d => .ok d | none => .error "ValueError"
  | _ => .error "TypeError"

/-- `int(f)` for a float that passed `is_integer()` -/
def intOfDbl (d : Dbl) : Except String Int :=
  match d.integral with | some k => .ok k | none => .error "OverflowError"

/-- what `int(f)` followed by `numeric != f` must satisfy for the model's `Dbl.integral` to be a correct summary of them:
    an integral finite float truncates to itself; any other float text either makes `int` raise OverflowError / ValueError
    (infinities, NaN) or truncates to a number different from it. -/
def TruncSpec (truncF : String → Except String Int) (neF : Int → String → Bool) : Prop :=
  ∀ t : String,
    match (pyFloat t).bind Dbl.integral with
    | some k => truncF t = .ok k ∧ neF k t = false
    | none => truncF t = .error "OverflowError" ∨ truncF t = .error "ValueError" ∨ ∃ k, truncF t = .ok k ∧ neF k t = true

/-- a result of the translated source as a result of the model: every `ValueError` is a rejected input, any other
    exception class would be an internal error -/
def toR : Except String Int → R
  | .ok k => .ok (.int k)
  | .error e => if e == "ValueError" then .error .coercion else .error .internal

private theorem range_eq (n : Int) :
    (!((decide ((-2147483648 : Int) ≤ n)) && (decide (n ≤ (2147483647 : Int))))) = !intInRange n := by
  unfold intInRange MIN_INT MAX_INT; simp only [Bool.not_not]

private theorem ranged (n : Int) :
    toR (if (!((decide ((-2147483648 : Int) ≤ n)) && (decide (n ≤ (2147483647 : Int))))) then .error "ValueError" else .ok n)
      = rangeChecked n (.int n) := by
  rw [range_eq]; unfold rangeChecked
  cases intInRange n <;> simp [toR]

/-- **`coerce_int`: model = source**, for every JSON value, under the stated reading of `int(float)` / `!=`. -/
theorem coerce_int_model_eq_source (truncF : String → Except String Int) (neF : Int → String → Bool)
    (H : TruncSpec truncF neF) (v : JV) :
    toR (Tr.coerce_int isIntJ isFloatJ isStrJ isNoneJ strIsEmptyJ (pyIntJ truncF) (intNeJ neF) pyInt10J pyFloatJ
          (fun d => d.integral.isSome) intOfDbl v)
      = coerceInt v := by
  cases v with
  | null => simp [Tr.coerce_int, coerceInt, isIntJ, isFloatJ, isNoneJ, toR]
  | bool b =>
    simp only [Tr.coerce_int, coerceInt, isIntJ, pyIntJ, if_true]
    exact ranged _
  | int n =>
    simp only [Tr.coerce_int, coerceInt, isIntJ, pyIntJ, if_true]
    exact ranged _
  | float t =>
    have h := H t
    simp only [Tr.coerce_int, coerceInt, isIntJ, isFloatJ, pyIntJ, intNeJ, Bool.false_eq_true, if_false, if_true]
    cases hp : pyFloat t with
    | none =>
      simp only [hp, Option.bind_none] at h
      rcases h with h | h | ⟨k, h, hne⟩ <;> simp [toR, *]
    | some d =>
      simp only [hp, Option.bind_some] at h
      cases hi : d.integral with
      | none =>
        simp only [hi] at h
        rcases h with h | h | ⟨k, h, hne⟩ <;> simp [toR, *]
      | some k =>
        simp only [hi] at h
        simp only [h.1, h.2, hi, Bool.false_eq_true, if_false]
        exact ranged _
  | str s =>
    simp only [Tr.coerce_int, coerceInt, isIntJ, isFloatJ, isNoneJ, isStrJ, strIsEmptyJ, pyInt10J, pyFloatJ, intOfDbl,
      Bool.false_eq_true, if_false, if_true]
    by_cases he : (s == "") = true
    · simp [he, toR]
    · simp only [he, Bool.false_eq_true, if_false]
      cases h10 : pyInt10 s with
      | some n => simp only []; exact ranged _
      | none =>
        simp only [beq_self_eq_true, if_true]
        cases hf : pyFloat s with
        | none => simp [toR]
        | some d =>
          cases hi : d.integral with
          | none => simp [hi, toR]
          | some k => simp only [hi, Option.isSome_some, if_true]; exact ranged _
  | list l => simp [Tr.coerce_int, coerceInt, isIntJ, isFloatJ, isNoneJ, isStrJ, toR]
  | obj o => simp [Tr.coerce_int, coerceInt, isIntJ, isFloatJ, isNoneJ, isStrJ, toR]

/-- the hypothesis is satisfiable: read `int(f)` / `!=` off the model's own float semantics -/
example : TruncSpec
    (fun t => match (pyFloat t).bind Dbl.integral with | some k => .ok k | none => .error "ValueError")
    (fun _ _ => false) := by
  intro t
  dsimp only
  cases h : (pyFloat t).bind Dbl.integral <;> simp

/-- `float(x)` on a JSON value: the class of the resulting double and the value handed on (`OverflowError`: an int too
    large for a double; `ValueError`: not a number text; `TypeError`: a list / dict) -/
def pyFloatJ' : JV → Except String (FCls × PV)
  | .null => .error "TypeError"
  | .bool b => .ok (.finite, .float (.ofBool b))
  | .int n => if intFitsDouble n then .ok (.finite, .float (.ofInt n)) else .error "OverflowError"
  | .float t => match pyFloat t with | some d => .ok (clsOf d, .float (.text t)) | none => .error "ValueError"
  | .str s => match pyFloat s with | some d => .ok (clsOf d, .float (.text s)) | none => .error "ValueError"
  | .list _ => .error "TypeError"
  | .obj _ => .error "TypeError"

/-- `ValueError` (raised by `coerce_float`) and `TypeError` (out of `float(<list>)`) are the rejections its callers catch -/
def toRF : Except String (FCls × PV) → R
  | .ok (_, v) => .ok v
  | .error e => if e == "ValueError" || e == "TypeError" then .error .coercion else .error .internal

/-- **`coerce_float`: model = source**, for every JSON value. -/
theorem coerce_float_model_eq_source (v : JV) :
    toRF (Tr.coerce_float (fun x => match x with | .str s => s == "" | _ => false) isNoneJ pyFloatJ'
          (fun f => f.1 == FCls.nan) (fun f => f.1 == FCls.inf) v)
      = coerceFloat v := by
  have hc : floatCatchesOverflow = true := rfl
  have hg : ∀ c : FCls, floatGuardRejects c = (c == FCls.nan || c == FCls.inf) := by
    intro c; cases c <;> rfl
  cases v with
  | null => simp [Tr.coerce_float, coerceFloat, isNoneJ, toRF]
  | bool b => simp [Tr.coerce_float, coerceFloat, isNoneJ, pyFloatJ', toRF, floatChecked, hg]
  | int n =>
    by_cases hf : intFitsDouble n = true
    · simp [Tr.coerce_float, coerceFloat, isNoneJ, pyFloatJ', toRF, floatChecked, hg, hf]
    · simp [Tr.coerce_float, coerceFloat, isNoneJ, pyFloatJ', toRF, hc, hf]
  | float t =>
    cases hp : pyFloat t with
    | none => simp [Tr.coerce_float, coerceFloat, isNoneJ, pyFloatJ', toRF, hp]
    | some d =>
      simp only [Tr.coerce_float, coerceFloat, isNoneJ, pyFloatJ', hp, floatChecked, hg, Bool.false_eq_true, if_false]
      cases clsOf d <;> simp [toRF]
  | str s =>
    by_cases he : (s == "") = true
    · simp [Tr.coerce_float, coerceFloat, toRF, he]
    · cases hp : pyFloat s with
      | none => simp [Tr.coerce_float, coerceFloat, isNoneJ, pyFloatJ', toRF, hp, he]
      | some d =>
        simp only [Tr.coerce_float, coerceFloat, isNoneJ, pyFloatJ', hp, he, floatChecked, hg, Bool.false_eq_true, if_false]
        cases clsOf d <;> simp [toRF]
  | list l => simp [Tr.coerce_float, coerceFloat, isNoneJ, pyFloatJ', toRF]
  | obj o => simp [Tr.coerce_float, coerceFloat, isNoneJ, pyFloatJ', toRF]

end PyGql.Props.C07
