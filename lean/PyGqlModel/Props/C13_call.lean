/-
  C13 — what the resolver-signature clause of the specification (`ResolverCompatible`, which `validate_iff` ties to
  `_validate_resolver_arguments`) MEANS: an explicit model of Python's call binding for the call the executor makes,
  `resolver(root, ctx, info, **arguments)`, case by case over the five parameter kinds of `inspect.signature`
  (positional-only, positional-or-keyword, `*args`, keyword-only, `**kwargs`) and parameter defaults; and the theorem
  that a signature accepted by the rule binds EVERY call the executor can make (`arguments` always holds the required
  arguments and those with a default value, and any subset of the others).

  The binding rules themselves (`bindOk`) are a model of CPython, tied to it by REALLY CALLING the generated callables (the call
  oracle; TRUSTED).
-/
import PyGqlModel.SchemaValid
import PyGqlModel.Spec.SchemaValidSpec

set_option linter.unusedSimpArgs false

namespace PyGql.Props.C13
open PyGql PyGql.SchemaValid PyGql.SchemaValidSpec

/-- the keyword sets the executor can pass for a field with arguments `args`: python names of arguments, all the
    required ones and all those with a default value -/
def Admissible (args : List ArgD) (K : List String) : Prop :=
  (∀ k ∈ K, ∃ a ∈ args, a.pythonName = k) ∧
  (∀ a ∈ args, (argRequired a = true ∨ a.hasDefault = true) → a.pythonName ∈ K)

/-- parameter names are pairwise distinct (Python refuses `def f(a, a)`) -/
def ParamsDistinct (ps : List ParamD) : Prop := ∀ p ∈ ps, ∀ q ∈ ps, p.name = q.name → p = q

private theorem leading_mem {ps : List ParamD} {x : String} (h : (leadingNames ps).contains x = true) :
    ∃ q ∈ ps, q.name = x ∧ isPositionalKind q.kind = true := by
  unfold leadingNames at h
  simp only [List.contains_iff_mem, List.mem_map] at h
  obtain ⟨q, hq, hqn⟩ := h
  have hq' := List.mem_of_mem_take hq
  unfold positionalParams at hq'
  have := List.mem_filter.mp hq'
  exact ⟨q, this.1, hqn, this.2⟩

private theorem kw_pos_is_posOrKw {k : ParamKind} (h1 : kwKind k = true) (h2 : isPositionalKind k = true) : k = .posOrKw := by
  cases k <;> simp_all [kwKind, isPositionalKind]

private theorem kw_not_var {k : ParamKind} (h : kwKind k = true) : isVarKind k = false := by
  revert h
  cases k <;> decide

private theorem keywordParam_props {ps : List ParamD} {k : String} {p : ParamD} (h : keywordParam ps k = some p) :
    p ∈ ps ∧ p.name = k ∧ kwKind p.kind = true ∧ (leadingNames ps).contains p.name = false := by
  unfold keywordParam at h
  have hm := List.mem_of_find?_eq_some h
  have hp := List.find?_some h
  simp only [Bool.and_eq_true, beq_iff_eq, Bool.not_eq_true'] at hp
  exact ⟨hm, hp.1.1, by simpa [kwKind] using hp.1.2, hp.2⟩

private theorem keywordParam_none {ps : List ParamD} {k : String} (h : keywordParam ps k = none) (p : ParamD)
    (hp : p ∈ ps) (hn : p.name = k) (hk : kwKind p.kind = true) : (leadingNames ps).contains p.name = true := by
  unfold keywordParam at h
  have := List.find?_eq_none.mp h p hp
  cases hl : (leadingNames ps).contains p.name with
  | true => rfl
  | false =>
    exfalso; apply this
    have hk' : (p.kind == ParamKind.posOrKw || p.kind == ParamKind.kwOnly) = true := by simpa [kwKind] using hk
    rw [hk', hl, hn]; simp

/-- **A signature accepted by the rule binds every call the executor can make.** -/
theorem compatible_calls_bind (args : List ArgD) (r : ResolverD) (hd : ParamsDistinct r.params)
    (hc : ResolverCompatible args r) (K : List String) (hK : Admissible args K) : bindOk r.params K = true := by
  obtain ⟨h1, h2, h3⟩ := hc
  unfold bindOk
  simp only [Bool.and_eq_true]
  refine ⟨⟨?_, ?_⟩, ?_⟩
  · rcases h1 with h | h
    · rw [h]; rfl
    · simp [h]
  · rw [List.all_eq_true]
    intro k hk
    obtain ⟨a, ha, hak⟩ := hK.1 k hk
    have ha2 := h2 a ha
    rw [hak] at ha2
    cases hf : r.params.find? (fun p => p.name == k && kwKind p.kind) with
    | some p =>
      have hpm : p ∈ r.params := List.mem_of_find?_eq_some hf
      have hpp := List.find?_some hf
      simp only [Bool.and_eq_true, beq_iff_eq] at hpp
      simp only
      cases hl : (leadingNames r.params).contains p.name with
      | false => rfl
      | true =>
        -- `p` is one of the three leading parameters: the keyword would give it a second value
        exfalso
        obtain ⟨q, hqm, hqn, hqk⟩ := leading_mem hl
        obtain rfl : q = p := hd q hqm p hpm hqn
        cases hkp : keywordParam r.params k with
        | some p2 =>
          obtain ⟨hp2m, hp2n, _, hp2l⟩ := keywordParam_props hkp
          obtain rfl : p2 = q := hd p2 hp2m q hpm (hp2n.trans hpp.1.symm)
          rw [hl] at hp2l; cases hp2l
        | none =>
          rw [hkp] at ha2
          have hcl : findParam r.params k = some q := by
            unfold findParam
            cases hfq : r.params.find? (fun x => x.name == k) with
            | none => simpa [hpp.1] using List.find?_eq_none.mp hfq q hpm
            | some cl =>
              have hcln : cl.name = k := by simpa using List.find?_some hfq
              rw [hd cl (List.mem_of_find?_eq_some hfq) q hpm (hcln.trans hpp.1.symm)]
          exact ha2.2 q hcl ⟨hl, kw_pos_is_posOrKw hpp.2 hqk⟩
    | none =>
      simp only
      cases hkp : keywordParam r.params k with
      | some p2 =>
        obtain ⟨hp2m, hp2n, hp2k, _⟩ := keywordParam_props hkp
        have := List.find?_eq_none.mp hf p2 hp2m
        simp [hp2n, hp2k] at this
      | none =>
        rw [hkp] at ha2
        exact ha2.1
  · rw [List.all_eq_true]
    intro p hp
    cases hv : isVarKind p.kind with
    | true => simp
    | false =>
      cases hl : (leadingNames r.params).contains p.name with
      | true => simp
      | false =>
        cases hprov : (providedNames r.params args).contains p.name with
        | false =>
          have : p ∈ unfedParams r.params args := by
            unfold unfedParams
            exact List.mem_filter.mpr ⟨hp, by rw [hv, hl, hprov]; rfl⟩
          simp [h3 p this]
        | true =>
          unfold providedNames at hprov
          simp only [List.contains_iff_mem, List.mem_filterMap] at hprov
          obtain ⟨a, ha, hmap⟩ := hprov
          cases hkp : keywordParam r.params a.pythonName with
          | none => rw [hkp] at hmap; simp at hmap
          | some p2 =>
            rw [hkp] at hmap
            simp only [Option.map_some, Option.some.injEq] at hmap
            obtain ⟨hp2m, hp2n, hkw, _⟩ := keywordParam_props hkp
            obtain rfl : p2 = p := hd p2 hp2m p hp hmap
            by_cases hin : a.pythonName ∈ K
            · have hc1 : K.contains p2.name = true := List.contains_iff_mem.mpr (hp2n ▸ hin)
              rw [hc1, hkw]; simp
            · have hnot : ¬ (argRequired a = true ∨ a.hasDefault = true) := fun hh => hin (hK.2 a ha hh)
              have ha2 := h2 a ha
              rw [hkp] at ha2
              simp only at ha2
              rcases ha2 with e | e | e
              · simp [e]
              · exact absurd (Or.inr e) hnot
              · exact absurd (Or.inl e) hnot

/-- python names of the arguments are pairwise distinct (they are the keys of ONE `**arguments` dict) -/
def ArgsDistinct (args : List ArgD) : Prop := ∀ a ∈ args, ∀ b ∈ args, a.pythonName = b.pythonName → a = b

/-- the smallest and the largest keyword set -/
def kMin (args : List ArgD) : List String := (args.filter fun a => argRequired a || a.hasDefault).map (·.pythonName)
def kMax (args : List ArgD) : List String := args.map (·.pythonName)

private theorem kMin_adm (args : List ArgD) : Admissible args (kMin args) := by
  constructor
  · intro k hk
    unfold kMin at hk
    obtain ⟨a, ha, e⟩ := List.mem_map.mp hk
    exact ⟨a, (List.mem_filter.mp ha).1, e⟩
  · intro a ha h
    unfold kMin
    exact List.mem_map.mpr ⟨a, List.mem_filter.mpr ⟨ha, by rcases h with h | h <;> simp [h]⟩, rfl⟩

private theorem kMax_adm (args : List ArgD) : Admissible args (kMax args) :=
  ⟨fun k hk => by obtain ⟨a, ha, e⟩ := List.mem_map.mp hk; exact ⟨a, ha, e⟩,
   fun a ha _ => List.mem_map.mpr ⟨a, ha, rfl⟩⟩

/-- **Completeness of the rule w.r.t. the binding model**: if every call the executor can make binds, the rule
    accepts the signature. With `compatible_calls_bind`: the rule reports a resolver exactly when some admissible call
    would raise `TypeError` at binding time. -/
theorem binds_all_compatible (args : List ArgD) (r : ResolverD) (hd : ParamsDistinct r.params)
    (ha : ArgsDistinct args) (hb : ∀ K, Admissible args K → bindOk r.params K = true) : ResolverCompatible args r := by
  -- two admissible calls suffice: the one that passes every argument (`kMax`: each argument finds a keyword parameter or
  -- `**kwargs`; a parameter it does not feed has a default) and the one that passes only what must be passed (`kMin`: the
  -- parameter of an argument that may be absent has a default)
  have bmax := hb _ (kMax_adm args)
  have bmin := hb _ (kMin_adm args)
  unfold bindOk at bmax bmin
  simp only [Bool.and_eq_true, List.all_eq_true] at bmax bmin
  obtain ⟨⟨m1, m2⟩, m3⟩ := bmax
  obtain ⟨⟨_, _⟩, n3⟩ := bmin
  refine ⟨?_, ?_, ?_⟩
  · simp only [Bool.or_eq_true, decide_eq_true_eq] at m1; exact m1
  · intro a ham
    have hk : a.pythonName ∈ kMax args := List.mem_map.mpr ⟨a, ham, rfl⟩
    have hm2 := m2 _ hk
    cases hkp : keywordParam r.params a.pythonName with
    | some p =>
      simp only
      obtain ⟨hpm, hpn, hpk, hpl⟩ := keywordParam_props hkp
      cases hda : a.hasDefault with
      | true => exact Or.inr (Or.inl rfl)
      | false =>
        cases hra : argRequired a with
        | true => exact Or.inr (Or.inr rfl)
        | false =>
          left
          have h3 := n3 p hpm
          have hnot : (kMin args).contains p.name = false := by
            cases hc : (kMin args).contains p.name with
            | false => rfl
            | true =>
              exfalso
              unfold kMin at hc
              simp only [List.contains_iff_mem, List.mem_map, List.mem_filter] at hc
              obtain ⟨b, ⟨hbm, hbc⟩, hbn⟩ := hc
              have : b = a := ha b hbm a ham (by rw [hbn, hpn])
              subst this
              simp [hda, hra] at hbc
          rw [kw_not_var hpk, hpl, hnot] at h3; simpa using h3
    | none =>
      simp only
      cases hf : r.params.find? (fun p => p.name == a.pythonName && kwKind p.kind) with
      | some p =>
        exfalso
        rw [hf] at hm2
        simp only [Bool.not_eq_true'] at hm2
        have hpm : p ∈ r.params := List.mem_of_find?_eq_some hf
        have hpp := List.find?_some hf
        simp only [Bool.and_eq_true, beq_iff_eq] at hpp
        have := keywordParam_none hkp p hpm hpp.1 hpp.2
        rw [this] at hm2; cases hm2
      | none =>
        rw [hf] at hm2
        refine ⟨hm2, ?_⟩
        intro cl hcl hbad
        unfold findParam at hcl
        have hclm : cl ∈ r.params := List.mem_of_find?_eq_some hcl
        have hcln : cl.name = a.pythonName := by simpa using List.find?_some hcl
        have := List.find?_eq_none.mp hf cl hclm
        simp [hcln, kwKind, hbad.2] at this
  · intro p hp
    unfold unfedParams at hp
    have hpf := List.mem_filter.mp hp
    simp only [Bool.and_eq_true, Bool.not_eq_true'] at hpf
    obtain ⟨hpm, ⟨hv, hl⟩, hprov⟩ := hpf
    have h3 := m3 p hpm
    have hnot : ((kMax args).contains p.name && kwKind p.kind) = false := by
      cases hc : ((kMax args).contains p.name && kwKind p.kind) with
      | false => rfl
      | true =>
        exfalso
        simp only [Bool.and_eq_true, List.contains_iff_mem] at hc
        unfold kMax at hc
        obtain ⟨a, ham, han⟩ := List.mem_map.mp hc.1
        have : (providedNames r.params args).contains p.name = true := by
          unfold providedNames
          simp only [List.contains_iff_mem, List.mem_filterMap]
          refine ⟨a, ham, ?_⟩
          cases hkp : keywordParam r.params a.pythonName with
          | none =>
            have := keywordParam_none hkp p hpm han.symm hc.2
            rw [hl] at this; cases this
          | some p2 =>
            obtain ⟨hp2m, hp2n, _, _⟩ := keywordParam_props hkp
            have : p2 = p := hd p2 hp2m p hpm (by rw [hp2n, han])
            rw [this]; rfl
        rw [hprov] at this; cases this
    rw [hv, hl, hnot] at h3; simpa using h3

theorem compatible_iff_binds (args : List ArgD) (r : ResolverD) (hd : ParamsDistinct r.params) (ha : ArgsDistinct args) :
    ResolverCompatible args r ↔ ∀ K, Admissible args K → bindOk r.params K = true :=
  ⟨fun hc K hK => compatible_calls_bind args r hd hc K hK, binds_all_compatible args r hd ha⟩

/-! non-vacuity: `def f(root, ctx, /, info, a, *, b=None, **kw)` for arguments `a: Int!`, `b: Int`, `c: Int` -/
private def exParams : List ParamD :=
  [{ name := "root", kind := .posOnly }, { name := "ctx", kind := .posOnly }, { name := "info" }, { name := "a" },
   { name := "b", kind := .kwOnly, hasDefault := true }, { name := "kw", kind := .varKw }]
private def exArgs : List ArgD :=
  [{ name := "a", type := .nonNull (.named "Int") }, { name := "b", type := .named "Int" }, { name := "c", type := .named "Int" }]

example : ParamsDistinct exParams := by
  intro p hp q hq h
  simp [exParams] at hp hq
  rcases hp with rfl | rfl | rfl | rfl | rfl | rfl <;> rcases hq with rfl | rfl | rfl | rfl | rfl | rfl <;> simp_all
example : validateResolverArguments "Query.f" exArgs { params := exParams } = [] := by decide +kernel
example : bindOk exParams ["a"] = true ∧ bindOk exParams ["a", "b", "c"] = true ∧ bindOk exParams [] = false := by decide +kernel
/-- and a signature the rule rejects fails to bind some admissible call: the optional `b` without a parameter default -/
example : bindOk [{ name := "root" }, { name := "ctx" }, { name := "info" }, { name := "a" }, { name := "b" }] ["a"] = false := by
  decide +kernel

end PyGql.Props.C13
