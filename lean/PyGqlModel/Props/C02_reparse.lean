/-
  C02, last clause — "the spanned text parses back to an equal node" — at CHARACTER level, for `parse_value` and
  `parse_type`.  "Equal modulo offset" is `mapLoc (locDown a)`: the same tree with every span moved `a` characters to the left.
-/
import PyGqlModel.Props.C01_text
import PyGqlModel.Lemmas.SpanFramed
import PyGqlModel.Lemmas.SpanSubs
import PyGqlModel.Lemmas.SpanWfDoc
import PyGqlModel.Lemmas.SpanMapLoc
namespace PyGql.Props.C02
open PyGql PyGql.Ast PyGql.Parse PyGql.Spec PyGql.Props.C01
open PyGql.Spec.Lexical (Tiles slice eofT)

/-- if the lexer accepts `s` with tokens `pre ++ (f :: tl) ++ post` (`pre` holds at least `<SOF>`, `post` at
    least `<EOF>`), then it accepts the characters `s[f.start : last.stop]` (`last` = last token of `f :: tl`) and returns
    `<SOF>`, the tokens `f :: tl` moved down by `f.start` — same kinds, same decoded values — and `<EOF>`. -/
theorem lex_slice (s : Text) (pre : List Tok) (f : Tok) (tl post : List Tok) (hpre : pre ≠ []) (hpost : post ≠ [])
    (h : Lex.lexAll s = .ok (pre ++ (f :: tl) ++ post)) :
    Lex.lexAll (slice s f.start ((f :: tl).getLast?.getD f).stop) =
      .ok (Lex.sofTok :: ((f :: tl).map (Tok.down f.start) ++ [Lex.eofTok (((f :: tl).getLast?.getD f).stop - f.start)])) := by
  obtain ⟨body, e, ht⟩ := (lexAll_ok_iff s _).mp h
  cases pre with
  | nil => exact absurd rfl hpre
  | cons p0 pre' =>
    simp only [List.cons_append, List.cons.injEq] at e
    obtain ⟨_, rfl⟩ := e
    obtain ⟨h1, h2, h3⟩ := Tiles.slice pre' f tl post hpost (by simpa using ht)
    apply (lexAll_ok_iff _ _).mpr
    refine ⟨_, rfl, ?_⟩
    rw [Spec.slice_length h1 h2]
    exact h3

/-- character-level `span_reparse` for `parse_value`: every value node of the result, at any depth, is what
    `parse_value` returns for the text inside its span (modulo the offset), under the same flags. -/
theorem span_reparse_value (fl : Flags) (s : Text) (v : Value) (h : parseValueText fl s = some v) :
    ∀ w ∈ v.subs, ∀ a b, w.loc = some (a, b) →
      a ≤ b ∧ b ≤ s.length ∧ parseValueText fl (slice s a b) = some (w.mapLoc (locDown a)) := by
  intro w hw a b hloc
  obtain ⟨wf, hf⟩ := (parseValueText_iff ..).1 h
  obtain ⟨hsub, hwf⟩ := subs_value_sub false v w hw
  obtain ⟨is, hnode⟩ := valueV_node w
  obtain ⟨h1, h2, _, _, hf'⟩ := hf.slice (List.mem_singleton_self _) hsub (solid_of_rigid (valueV_rigid w)) (hloc ▸ hnode)
  exact ⟨h1, h2, (parseValueText_iff ..).2 ⟨(wfValue_mapLoc ..).trans (hwf wf), valueV_mapLoc _ w ▸ hf'⟩⟩

/-- character-level `span_reparse` for `parse_type`: every nested type is what `parse_type` returns for the text inside
    its span (modulo the offset). -/
theorem span_reparse_type (fl : Flags) (s : Text) (t : TypeRef) (h : parseTypeText fl s = some t) :
    ∀ w ∈ t.subs, ∀ a b, w.loc = some (a, b) →
      a ≤ b ∧ b ≤ s.length ∧ parseTypeText fl (slice s a b) = some (w.mapLoc (locDown a)) := by
  intro w hw a b hloc
  obtain ⟨wf, hf⟩ := (parseTypeText_iff ..).1 h
  obtain ⟨hsub, hwf⟩ := subs_type_sub t w hw
  obtain ⟨is, hnode⟩ := typeV_node w
  obtain ⟨h1, h2, _, _, hf'⟩ := hf.slice (List.mem_singleton_self _) hsub (solid_of_rigid (typeV_rigid w)) (hloc ▸ hnode)
  exact ⟨h1, h2, (parseTypeText_iff ..).2 ⟨(wfType_mapLoc ..).trans (hwf wf), typeV_mapLoc _ w ▸ hf'⟩⟩

/-! ### non-vacuity: ` [1 [a]]` and `[A!]!` -/
private def txt : Text := [32, 91, 49, 32, 91, 97, 93, 93]

/-- the list (1,8), `1` (2,3), `[a]` (4,7), `a` (5,6) -/
example : ((parseValueText {} txt).map (fun v => v.subs.map Value.loc)) =
    some [some (1, 8), some (2, 3), some (4, 7), some (5, 6)] := by decide +kernel
/-- the text of the inner list, `[a]`, parses to the inner list at offset 0 -/
example : (parseValueText {} (slice txt 4 7)).map (fun v => v.subs.map Value.loc) = some [some (0, 3), some (1, 2)] := by
  decide +kernel
example : (parseTypeText {} [91, 65, 33, 93, 33]).map (fun t => t.subs.map TypeRef.loc) =
    some [some (0, 5), some (0, 4), some (1, 3), some (1, 2)] := by decide +kernel

end PyGql.Props.C02
