/-
  C06 - property theorems: `TypeInfoVisitor` IS BALANCED IN EVERY CHAIN (what /repo fix 391ad62 is for).

  With the `SkipNode` semantics of 391ad62 (`Validate/Chain.lean`: after a skip the members that entered are left at
  once, `TypeInfoVisitor` last) every visit function of the chain returns the stacks of `TypeInfoVisitor` exactly as it
  found them - for EVERY list of rules, whatever they report and wherever they raise `SkipNode`. Consequently the type
  information a rule sees at a node depends only on the position of the node in the document (the enclosing nodes),
  never on the other members of the chain nor on what happened in the siblings before it. Before the fix this was
  false (ledger V5: a skipped inline fragment left its type on the stacks and the following siblings were typed
  against it).

  NOT proved (and false as a general statement): "each rule reports in the chain what it reports alone". The children
  of a node at which SOME member raises `SkipNode` are visited by nobody, so another member loses the reports it would
  make inside that sub-tree (and its collectors lose what they would record there); see the note at the end.
  What IS true and proved (`Props/C06_chain.lean: chain_silent_iff_alone`, `chainM_silent_iff_alone`): the chain records
  NO error iff every member alone records none - a skipping member has just reported (`skip_reports`).
-/
import PyGqlModel.Lemmas.ValidateTyped
import PyGqlModel.Lemmas.ValidateWalkG
import PyGqlModel.Lemmas.ValidateCtx
namespace PyGql.Props.C06
open PyGql PyGql.Validate PyGql.Validate.Spec

/-- the stacks without the `directive` register -/
def nd (t : TI) : TI := { t with directive := none }

theorem nd_tiLeave_tiEnter (s : SchemaD) (n : Node) (t : TI) : nd (tiLeave n (tiEnter s n t)) = nd t := by
  cases n with
  | directive d => simp [tiEnter, tiLeave, TI.enterDirective, TI.leaveDirective, nd]
  | _ => rw [tiLeave_tiEnter s _ t (fun d e => by cases e)]

/-- leaving does not read the `directive` register -/
theorem nd_tiLeave_congr (n : Node) (t1 t2 : TI) (h : nd t1 = nd t2) : nd (tiLeave n t1) = nd (tiLeave n t2) := by
  obtain ⟨a1, b1, c1, d1, e1, f1⟩ := t1
  obtain ⟨a2, b2, c2, d2, e2, f2⟩ := t2
  simp only [nd, TI.mk.injEq, and_true] at h
  obtain ⟨rfl, rfl, rfl, rfl, rfl⟩ := h
  cases n with
  | value v => cases v <;> simp [tiLeave, nd, TI.leaveInputValue]
  | _ => simp [tiLeave, nd, TI.leaveSelectionSet, TI.leaveField, TI.leaveDirective, TI.popType, TI.leaveVarDef,
      TI.leaveInputValue]

theorem directive_tiLeave (n : Node) (t : TI) (h : t.directive = none) : (tiLeave n t).directive = none := by
  cases n with
  | value v => cases v <;> simpa [tiLeave, TI.leaveInputValue] using h
  | _ => simp [tiLeave, TI.leaveSelectionSet, TI.leaveField, TI.leaveDirective, TI.popType, TI.leaveVarDef,
      TI.leaveInputValue, h]

theorem directive_tiLeave_tiEnter (s : SchemaD) (n : Node) (t : TI) (h : t.directive = none) :
    (tiLeave n (tiEnter s n t)).directive = none := by
  have := congrArg TI.directive (nd_tiLeave_tiEnter s n t)
  cases n with
  | directive d => simp [tiEnter, tiLeave, TI.enterDirective, TI.leaveDirective]
  | _ => rw [tiLeave_tiEnter s _ t (fun d e => by cases e)]; exact h

/-- what every visit establishes about the stacks: unchanged up to the `directive` register, and the register is
    empty afterwards if it was empty before -/
def Bal (_ : List Node) (st st' : St) : Prop :=
  nd st'.ti = nd st.ti ∧ (st.ti.directive = none → st'.ti.directive = none)

theorem enter_ti (c : Cfg) (n : Node) (st : St) : (enter c n st).1.ti = tiEnter c.schema n st.ti :=
  Validate.enter_ti c n st

theorem leave_ti (c : Cfg) (n : Node) (st : St) : (leave c n st).ti = tiLeave n st.ti := rfl

theorem leaveSkipped_ti (c : Cfg) (n : Node) (st0 st1 : St) : (leaveSkipped c n st0 st1).ti = tiLeave n st1.ti := rfl

/-- **one node, any chain**: skipped or not, the stacks come back -/
theorem bal_node (c : Cfg) (n : Node) (body : St → St) (ns : List Node) (st : St)
    (hb : ∀ st1, Bal ns st1 (body st1)) : Bal (n :: ns) st (visitNode c n body st) := by
  cases hs : (enter c n st).2
  · rw [visitNode_false hs, Bal, leave_ti]
    obtain ⟨b1, b2⟩ := hb (enter c n st).1
    rw [enter_ti] at b1 b2
    refine ⟨?_, fun h0 => ?_⟩
    · rw [nd_tiLeave_congr n _ _ b1, nd_tiLeave_tiEnter]
    · cases n with
      | directive d => simp [tiLeave, TI.leaveDirective]
      | _ =>
        refine directive_tiLeave _ _ (b2 ?_)
        rw [directive_tiEnter c.schema _ st.ti (fun d e => by cases e)]; exact h0
  · rw [visitNode_true hs, Bal, leaveSkipped_ti, enter_ti]
    exact ⟨nd_tiLeave_tiEnter c.schema n st.ti, directive_tiLeave_tiEnter c.schema n st.ti⟩

theorem balAlg (c : Cfg) : WalkAlg c Bal where
  nil st := ⟨rfl, id⟩
  append h1 h2 := ⟨h2.1.trans h1.1, fun h0 => h2.2 (h1.2 h0)⟩
  node n body ns st _ hb := bal_node c n body ns st hb

theorem ti_eq_of_bal {ns : List Node} {st st' : St} (h : Bal ns st st') (h0 : st.ti.directive = none) : st'.ti = st.ti := by
  obtain ⟨h1, h2⟩ := h
  have hd := h2 h0
  revert h1 hd h0
  generalize st'.ti = t1
  generalize st.ti = t2
  intro h0 h1 hd
  obtain ⟨a1, b1, c1, d1, e1, f1⟩ := t1
  obtain ⟨a2, b2, c2, d2, e2, f2⟩ := t2
  simp only [nd, TI.mk.injEq, and_true] at h1
  simp only at hd h0
  obtain ⟨rfl, rfl, rfl, rfl, rfl⟩ := h1
  rw [hd, h0]

/-- **selections**: for every chain, a list of selections leaves the stacks of `TypeInfoVisitor` as it found them - so
    every selection of the list is typed against the same stacks, whatever its siblings contain and whichever member
    raised `SkipNode` in them -/
theorem selections_balanced (c : Cfg) (sels : List Sel) (st : St) (h0 : st.ti.directive = none) :
    (visitSels c sels st).ti = st.ti :=
  ti_eq_of_bal (visitSelsG (balAlg c).toV sels st) h0

theorem definitions_balanced (c : Cfg) (ds : List Def) (st : St) (h0 : st.ti.directive = none) :
    (ds.foldl (fun st x => visitDef c x st) st).ti = st.ti :=
  ti_eq_of_bal (visitDefsG (balAlg c).toV
    (fun n body ns st _ _ hb => bal_node c n body ns st hb) ds st) h0

/-- **`TypeInfoVisitor` is balanced over the whole document, in every chain** -/
theorem typeinfo_balanced (c : Cfg) (d : Doc) : (visitDocument c d {}).ti = {} := by
  have h : Bal (nodes d) ({} : St) (visitDocument c d {}) := by
    rw [visitDocument, nodes]
    exact bal_node c (.document d) _ _ _ (fun st1 => visitDefsG (balAlg c).toV
      (fun n body ns st _ _ hb => bal_node c n body ns st hb) d.defs st1)
  exact ti_eq_of_bal h rfl

/-! ledger V5: a chain whose rule skipped at `... on Int { s }` kept the type pushed for the inline fragment; with the
    `SkipNode` semantics of 391ad62 the stacks are back (evaluation) -/
example :
    let st := visitSels ⟨{ types := [{ kind := .scalar, name := "Int" }] }, {}, [.fragmentsOnCompositeTypes]⟩
      [.inline (some "Int") [] 1 [.field none "s" [] [] false 0 []]] {}
    st.rs.errs.length = 1 ∧ st.ti.typeStack.length = 0 ∧ st.ti.parentStack.length = 0 := by decide +kernel

/-! ### why "every rule reports in the chain what it reports alone" is NOT a theorem

With the rules `[FragmentsOnCompositeTypes, FieldsOnCorrectType]` and `{ o { ... on Int { zz } } }` the first rule
raises `SkipNode` at the inline fragment; the children are visited by nobody, so the unknown field `zz` is not reported
in the chain although `FieldsOnCorrectType` alone reports it (5.3.1 only says something when the parent type is known;
inside `... on Int` there is none - but with `... on Ob` spread where it is impossible, `PossibleFragmentSpreads` skips
and a wrong field below is hidden in the same way). What does hold, and is checked on every run by
`harness/corr/C06_model.py` (`chain-does-not-decompose`): the VERDICT of the chain is the conjunction of the verdicts
of the rules run alone. It rests on (a) the frame property of the 26 rules (each reads and writes only its own part
of `RS`): `Props/C06_chain.lean: framed_enterRule`; (b) that every `SkipNode` of the chain comes with an error of the
member that raised it (fix C06-H5 removed the one silent skip, `ValuesOfCorrectTypeChecker` at an object literal whose
expected type is unknown): `Props/C06_skipreports.lean: skip_reports`. The statement about the verdict is
`chain_silent_iff_alone` / `verdict_iff_alone` (chain of the theorems) and `chainM_silent_iff_alone` /
`verdict_chain_iff` (the chain /repo runs).
-/

end PyGql.Props.C06
