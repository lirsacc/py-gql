/-
  C19 — SPECIFICATION of query depth.

  `depth` = the longest chain of nested selection sets below the root fields of an
  operation, through fields, inline fragments and fragment spreads at ANY level
  (the top of the operation included); fragments are inlined, `@skip/@include`
  are evaluated against the variables; no grouping by response key, no
  "seen fragments" bookkeeping — just a maximum over all selected fields.

  Calibration (docstring of `max_depth.py`): the example document has depth 4
  (`Props/C19_orig.lean: docstring_depth`).

  Recursion is on a fuel that is consumed by every nesting step (field, inline
  fragment, spread); `Lemmas/Depth.lean: levels_eq_cL` (`Props/C19.lean: depth_fuel_irrelevant`) proves that any fuel ≥
  the potential `potL w sels` gives the same value on acyclic documents.
-/
import PyGqlModel.Depth

namespace PyGql.DepthSpec
open PyGql.Depth

/-- value of a condition; an unbound variable counts as `false` (the theorems assume the
    variables of the document are bound) -/
def condVal (vars : Vars) : Cond → Bool
  | .lit b => b
  | .var n => (vars.lookup n).getD false

/-- GraphQL spec §3.13: skipped if `@skip(if: true)` or `@include(if: false)` -/
def skipped (vars : Vars) (d : Dirs) : Bool :=
  (d.skip.map (condVal vars)).getD false || !((d.incl.map (condVal vars)).getD true)

def maxL : List Nat → Nat
  | [] => 0
  | x :: xs => max x (maxL xs)

/-- number of nested field levels contributed by one selection -/
def levelsSel (frags : List Frag) (vars : Vars) : Nat → Sel → Nat
  | 0, _ => 0
  | k + 1, .field _ _ d sub =>
    if skipped vars d then 0 else 1 + maxL (sub.map (levelsSel frags vars k))
  | k + 1, .inline d ss =>
    if skipped vars d then 0 else maxL (ss.map (levelsSel frags vars k))
  | k + 1, .spread n d =>
    if skipped vars d then 0 else
      match lookupFrag frags n with
      | none => 0
      | some f => maxL (f.sels.map (levelsSel frags vars k))

/-- number of nested field levels of a selection set (0 = nothing selected, 1 = flat) -/
def levels (frags : List Frag) (vars : Vars) (k : Nat) (sels : List Sel) : Nat :=
  maxL (sels.map (levelsSel frags vars k))

/-- query depth of an operation: levels nested below its root fields -/
def depthWith (k : Nat) (doc : Doc) (vars : Vars) (op : Op) : Nat :=
  levels doc.frags vars k op.sels - 1

def depth (doc : Doc) (vars : Vars) (op : Op) : Nat := depthWith doc.fuel doc vars op

end PyGql.DepthSpec

/-! ### specification of `selected_fields`: the set of selected field paths -/

namespace PyGql.DepthSpec
open PyGql.Depth

/-- the field `f` is selected by the selection `s`: `s` is that field, or an inline fragment / a spread of a
    defined fragment that (transitively) contains it; nothing on the way is switched off -/
inductive ReachS (frags : List Frag) (vars : Vars) : Sel → Fld → Prop
  | field (a n d sub) : skipped vars d = false → ReachS frags vars (.field a n d sub) ⟨a, n, sub⟩
  | inline (d ss s f) : skipped vars d = false → s ∈ ss → ReachS frags vars s f → ReachS frags vars (.inline d ss) f
  | spread (n d fr s f) : skipped vars d = false → lookupFrag frags n = some fr → s ∈ fr.sels →
      ReachS frags vars s f → ReachS frags vars (.spread n d) f

def Reach (frags : List Frag) (vars : Vars) (sels : List Sel) (f : Fld) : Prop :=
  ∃ s ∈ sels, ReachS frags vars s f

/-- `p` (a non-empty list of field NAMES) is a selected field path of the selection set -/
inductive IsPath (frags : List Frag) (vars : Vars) : List Sel → List String → Prop
  | leaf {sels f} : Reach frags vars sels f → IsPath frags vars sels [f.name]
  | step {sels f p} : Reach frags vars sels f → IsPath frags vars f.sub p → IsPath frags vars sels (f.name :: p)

end PyGql.DepthSpec
