/-
  C07 — SPECIFICATION: what it means for a Python value to conform to an input type
  (`Conforms`), what a well-formed registry is (`RegOK`), the literal spelling of a JSON value
  (`AstOfJson`), and when the variables used inside a literal fit their positions (`VarsFit`).
  Readable against GraphQL June 2018 §3 (input coercion of each type kind) and §6.4.1 (CoerceArgumentValues).
-/
import PyGqlModel.Coerce

namespace PyGql.Coerce
open PyGql

/-- the closed signed 32-bit interval -/
def InRange32 (n : Int) : Prop := -2147483648 ≤ n ∧ n ≤ 2147483647

instance (n : Int) : Decidable (InRange32 n) := by unfold InRange32; infer_instance

/-- A value a custom scalar's OWN parser produced — from some non-null JSON value (`parse`) or from some literal that
    `value_from_ast` hands it: never `null` (answered `None` before any parser is asked: `vfaCore` tests `isNull` first), never
    a bare `$x` (`_extract_variable` answers it), and `litAdmitted` (scalar literals; any literal if the scalar has its own
    `parse_literal`): "the scalar accepted it". Nothing else is known, or needs to be known, about a custom scalar.
    (Without the two exclusions the stand-in scalar of `build_schema`, whose `_untyped_literal` answers `None`
    to `null`, would make `CustomOK reg n .none` true and hence `RegOK.customNotNone` — and every soundness theorem — vacuous for
    every SDL schema declaring a scalar. `customNotNone_ofTypes` / `regOK_satisfiable_with_default_scalar` in
    Props/C07_regok.lean PROVE the hypothesis for the registries the library builds.) -/
def CustomOK (reg : Reg) (n : String) (pv : PV) : Prop :=
  (∃ v, v.isNull = false ∧ reg.customParse n v = .value pv) ∨
  (∃ l vs, l.isNull = false ∧ (∀ x, l ≠ .var x) ∧ litAdmitted reg n l = true ∧ reg.customParseLiteral n vs l = .value pv)

mutual
/-- `Conforms reg ty v`: the Python value `v` is a legal resolver argument for a position of type `ty`.
    * non-null ⇒ not `None`;
    * list ⇒ a list whose items conform;
    * `Int` ⇒ an integer of the closed signed 32-bit interval (never a Python `bool`);
    * `Float` ⇒ a float; `String`/`ID` ⇒ a str; `Boolean` ⇒ a bool; custom scalar ⇒ a value its own parser accepted (`CustomOK`);
    * enum ⇒ the INTERNAL value of one of its names;
    * input object ⇒ a dict, in field order keyed by the PYTHON names, every present field conforming,
      declared defaults filled in, an entry absent only for a nullable field without default, nothing else. -/
inductive Conforms (reg : Reg) : Ty → PV → Prop
  | null {t : Ty} : t.isNonNull = false → Conforms reg t .none
  | nonNull {t : Ty} {pv : PV} : pv.isNone = false → Conforms reg t pv → Conforms reg (.nonNull t) pv
  | list {t : Ty} {l : List PV} : (∀ x, x ∈ l → Conforms reg t x) → Conforms reg (.list t) (.list l)
  | int {n : String} {k : Int} : reg.get? n = some .int → InRange32 k → Conforms reg (.named n) (.int k)
  | float {n : String} {f : Flt} : reg.get? n = some .float → Conforms reg (.named n) (.float f)
  | string {n : String} {s : String} : reg.get? n = some .string → Conforms reg (.named n) (.str s)
  | boolean {n : String} {b : Bool} : reg.get? n = some .boolean → Conforms reg (.named n) (.bool b)
  | id {n : String} {s : String} : reg.get? n = some .id → Conforms reg (.named n) (.str s)
  | custom {n : String} {pv : PV} : reg.get? n = some .custom → CustomOK reg n pv → Conforms reg (.named n) pv
  | enum {n : String} {vs : List (String × PV)} {p : String × PV} :
      reg.get? n = some (.enum vs) → p ∈ vs → Conforms reg (.named n) p.2
  | input {n : String} {fs : List InField} {kvs : List (String × PV)} :
      reg.get? n = some (.input fs) → ConformsFields reg fs kvs → Conforms reg (.named n) (.dict kvs)
/-- keyword arguments / input-object dict against the declared fields, in declaration order -/
inductive ConformsFields (reg : Reg) : List InField → List (String × PV) → Prop
  | nil : ConformsFields reg [] []
  | present {f : InField} {fs : List InField} {pv : PV} {kvs : List (String × PV)} :
      Conforms reg f.type pv → ConformsFields reg fs kvs → ConformsFields reg (f :: fs) ((f.pyName, pv) :: kvs)
  | absent {f : InField} {fs : List InField} {kvs : List (String × PV)} :
      f.default = none → f.type.isNonNull = false → ConformsFields reg fs kvs → ConformsFields reg (f :: fs) kvs
end

/-- well-formed registry: field types are well-formed type expressions, declared defaults conform to
    their types (a schema built from SDL coerces them with `value_from_ast`), enum internal values are not `None`,
    a custom scalar's parser never answers `None` to a non-null input — a non-null JSON value, or a literal other than `null` / `$x`,
    which are the only inputs the library hands it (the counterpart of `enumNotNone` for user code; `default_scalar` meets it:
    `customNotNone_ofTypes`),
    the python names of one input object's fields are pairwise distinct (otherwise two fields write the same dict key;
    the model follows that collision, `dictOfAssignments`, but then no dict can hold both fields). -/
structure RegOK (reg : Reg) : Prop where
  fieldWf : ∀ n fs, reg.get? n = some (.input fs) → ∀ f, f ∈ fs → f.type.wf = true
  defaultsConform : ∀ n fs, reg.get? n = some (.input fs) → ∀ f, f ∈ fs → ∀ d, f.default = some d → Conforms reg f.type d
  enumNotNone : ∀ n vs, reg.get? n = some (.enum vs) → ∀ p, p ∈ vs → p.2.isNone = false
  pyNamesDistinct : ∀ n fs, reg.get? n = some (.input fs) → (fs.map (fun f => f.pyName)).Nodup
  customNotNone : ∀ n pv, reg.get? n = some .custom → CustomOK reg n pv → pv.isNone = false

/-- argument definitions of a field / directive: same three conditions -/
structure ArgsOK (reg : Reg) (defs : List InField) : Prop where
  wf : ∀ d, d ∈ defs → d.type.wf = true
  defaultsConform : ∀ d, d ∈ defs → ∀ v, d.default = some v → Conforms reg d.type v
  pyNamesDistinct : (defs.map (fun d => d.pyName)).Nodup

def Lit.isLeaf : Lit → Bool
  | .null => true | .int _ => true | .float _ => true | .str _ => true | .bool _ => true | .enum _ => true
  | _ => false

/-- The variables used inside literal `l` at a position of type `ty` hold values that fit that position
    (what `coerce_variable_values` + the validation rule VariablesInAllowedPosition establish): a bound,
    non-None variable value conforms to the position's type with its outer non-null removed
    (`_extract_variable` itself refuses None at a non-null position). -/
inductive VarsFit (reg : Reg) (vars : Option (List (String × PV))) : Ty → Lit → Prop
  | var {ty : Ty} {x : String} :
      (∀ vs v, vars = some vs → lookupLast x vs = some v → v.isNone = false → Conforms reg (stripNN ty) v) →
      VarsFit reg vars ty (.var x)
  | leaf {ty : Ty} {l : Lit} : l.isLeaf = true → VarsFit reg vars ty l
  | listItems {ty t' : Ty} {items : List Lit} : stripNN ty = .list t' →
      (∀ i, i ∈ items → VarsFit reg vars t' i) → VarsFit reg vars ty (.list items)
  | listSingle {ty t' : Ty} {lkvs : List (String × Lit)} : stripNN ty = .list t' →
      VarsFit reg vars t' (.obj lkvs) → VarsFit reg vars ty (.obj lkvs)
  | obj {ty : Ty} {n : String} {fs : List InField} {lkvs : List (String × Lit)} : stripNN ty = .named n →
      reg.get? n = some (.input fs) →
      (∀ f, f ∈ fs → ∀ l, lookupLast f.name lkvs = some l → VarsFit reg vars f.type l) →
      VarsFit reg vars ty (.obj lkvs)
  /-- a literal other than `$x` at a custom-scalar position (a list or object literal included: the scalar's own
      `parse_literal` is handed the whole literal and the variables, and whatever it answers is `CustomOK`): nothing to check
      (without this constructor `arguments_sound` would not apply to `[1]` / `{a: 1}` at a JSON-like scalar) -/
  | scalarPos {ty : Ty} {n : String} {l : Lit} : stripNN ty = .named n → reg.get? n = some .custom → (∀ x, l ≠ .var x) →
      VarsFit reg vars ty l

/-- What the validation rule VariablesInAllowedPosition has checked for the variables used inside literal `l` at a
    position of type `ty` (`hasDefault`: the position — argument or input field — declares a default): every usage `$x`
    is allowed (`allowedUsage`) against every definition of `$x`. Same shape as `VarsFit`; list items never have a default,
    input fields have the field's. -/
inductive VarsAllowed (reg : Reg) (defs : List VarDef) : Ty → Bool → Lit → Prop
  | var {ty : Ty} {hasDefault : Bool} {x : String} :
      (∀ d, d ∈ defs → d.name = x → allowedUsage d.type d.hasNonNullDefault ty hasDefault = true) →
      VarsAllowed reg defs ty hasDefault (.var x)
  | leaf {ty : Ty} {hasDefault : Bool} {l : Lit} : l.isLeaf = true → VarsAllowed reg defs ty hasDefault l
  | listItems {ty t' : Ty} {hasDefault : Bool} {items : List Lit} : stripNN ty = .list t' →
      (∀ i, i ∈ items → VarsAllowed reg defs t' false i) → VarsAllowed reg defs ty hasDefault (.list items)
  | listSingle {ty t' : Ty} {hasDefault : Bool} {lkvs : List (String × Lit)} : stripNN ty = .list t' →
      VarsAllowed reg defs t' false (.obj lkvs) → VarsAllowed reg defs ty hasDefault (.obj lkvs)
  | obj {ty : Ty} {hasDefault : Bool} {n : String} {fs : List InField} {lkvs : List (String × Lit)} : stripNN ty = .named n →
      reg.get? n = some (.input fs) →
      (∀ f, f ∈ fs → ∀ l, lookupLast f.name lkvs = some l → VarsAllowed reg defs f.type f.default.isSome l) →
      VarsAllowed reg defs ty hasDefault (.obj lkvs)
  /-- a literal other than `$x` at a custom-scalar position: the rule checks nothing inside it (it has no type to check against) -/
  | scalarPos {ty : Ty} {hasDefault : Bool} {n : String} {l : Lit} : stripNN ty = .named n → reg.get? n = some .custom →
      (∀ x, l ≠ .var x) → VarsAllowed reg defs ty hasDefault l

/-- the literal spelling of a JSON scalar, type-blind (what a custom scalar's `parse_literal` is handed) -/
inductive LeafSpell : JV → Lit → Prop
  | int {k : Int} : LeafSpell (.int k) (.int k)
  | float {t : String} : LeafSpell (.float t) (.float t)
  | str {s : String} : LeafSpell (.str s) (.str s)
  | bool {b : Bool} : LeafSpell (.bool b) (.bool b)

/-- A custom scalar whose two parsers agree on every JSON scalar and its literal spelling (same value, or both refuse).
    This is the scalar AUTHOR's obligation; `default_scalar` meets it on strings and booleans only (`parse` is the identity,
    `parse_literal` hands over the literal's TEXT: `5` vs `"5"`). -/
def CustomAgree (reg : Reg) : Prop :=
  ∀ n vs j l, reg.get? n = some .custom → LeafSpell j l → (reg.customParseLiteral n vs l).toR.toOption = (reg.customParse n j).toR.toOption

/-- `CustomAgree` restricted to the custom scalars whose name satisfies `S` (the positions a request can reach) -/
def CustomAgreeOn (reg : Reg) (S : String → Prop) : Prop :=
  ∀ n vs j l, S n → reg.get? n = some .custom → LeafSpell j l → (reg.customParseLiteral n vs l).toR.toOption = (reg.customParse n j).toR.toOption

/-- `Reach reg ty n`: the named type `n` is a POSITION inside values of type `ty`: the base of `ty`, or the base of a field's
    type of an input object that is itself such a position (recursive input objects included). -/
inductive Reach (reg : Reg) (ty : Ty) : String → Prop
  | base : Reach reg ty ty.base
  | field {n : String} {fs : List InField} {f : InField} :
      Reach reg ty n → reg.get? n = some (.input fs) → f ∈ fs → Reach reg ty f.type.base

/-- a set of type names closed under "field of an input object" -/
def InputClosed (reg : Reg) (S : String → Prop) : Prop :=
  ∀ n fs f, S n → reg.get? n = some (.input fs) → f ∈ fs → S f.type.base

mutual
/-- `AstOfJson reg ty j l`: `l` is the literal spelling (`astOfJson`) of the JSON value `j` at a position of
    type `ty`, and `j` is of the NATURAL JSON kind for `ty`:
    integers for `Int`; integers and floats for `Float`; strings for `String`; booleans for `Boolean`;
    strings and integers for `ID`; any JSON scalar for a custom scalar; a string (spelled as an enum
    value) for an enum; an array, or a single non-array value, for a list; an object for an input object. -/
inductive AstOfJson (reg : Reg) : Ty → JV → Lit → Prop
  | null {ty : Ty} : AstOfJson reg ty .null .null
  | nonNull {t : Ty} {j : JV} {l : Lit} : t.isNonNull = false → AstOfJson reg t j l → AstOfJson reg (.nonNull t) j l
  | intInt {n : String} {k : Int} : reg.get? n = some .int → AstOfJson reg (.named n) (.int k) (.int k)
  | floatInt {n : String} {k : Int} : reg.get? n = some .float → AstOfJson reg (.named n) (.int k) (.int k)
  | floatFloat {n : String} {t : String} : reg.get? n = some .float → AstOfJson reg (.named n) (.float t) (.float t)
  | string {n : String} {s : String} : reg.get? n = some .string →
      AstOfJson reg (.named n) (.str s) (.str s)
  | boolean {n : String} {b : Bool} : reg.get? n = some .boolean → AstOfJson reg (.named n) (.bool b) (.bool b)
  | idStr {n : String} {s : String} : reg.get? n = some .id →
      AstOfJson reg (.named n) (.str s) (.str s)
  | idInt {n : String} {k : Int} : reg.get? n = some .id → AstOfJson reg (.named n) (.int k) (.int k)
  | custom {n : String} {j : JV} {l : Lit} : reg.get? n = some .custom → LeafSpell j l → AstOfJson reg (.named n) j l
  | enum {n : String} {vs : List (String × PV)} {s : String} :
      reg.get? n = some (.enum vs) → AstOfJson reg (.named n) (.str s) (.enum s)
  | list {t : Ty} {js : List JV} {ls : List Lit} : AstOfJsonL reg t js ls → AstOfJson reg (.list t) (.list js) (.list ls)
  | single {t : Ty} {j : JV} {l : Lit} : (∀ js, j ≠ .list js) → AstOfJson reg t j l → AstOfJson reg (.list t) j l
  | obj {n : String} {fs : List InField} {kvs : List (String × JV)} {lkvs : List (String × Lit)} :
      reg.get? n = some (.input fs) → AstOfJsonF reg fs kvs lkvs → AstOfJson reg (.named n) (.obj kvs) (.obj lkvs)
inductive AstOfJsonL (reg : Reg) : Ty → List JV → List Lit → Prop
  | nil {t : Ty} : AstOfJsonL reg t [] []
  | cons {t : Ty} {j : JV} {l : Lit} {js : List JV} {ls : List Lit} :
      AstOfJson reg t j l → AstOfJsonL reg t js ls → AstOfJsonL reg t (j :: js) (l :: ls)
/-- object members: same keys in the same order; a key naming a declared field is spelled at that field's type
    (a key the type does not define may be spelled anyhow: both routes refuse the object) -/
inductive AstOfJsonF (reg : Reg) : List InField → List (String × JV) → List (String × Lit) → Prop
  | nil {fs : List InField} : AstOfJsonF reg fs [] []
  | cons {fs : List InField} {k : String} {j : JV} {l : Lit} {kvs : List (String × JV)} {lkvs : List (String × Lit)} :
      (∀ f, f ∈ fs → f.name = k → AstOfJson reg f.type j l) → AstOfJsonF reg fs kvs lkvs →
      AstOfJsonF reg fs ((k, j) :: kvs) ((k, l) :: lkvs)
end

/-- **NaturalKind.** `j` is of the natural JSON kind for a position of type `ty`: it HAS a literal spelling there
    (integers for `Int`; integers and floats for `Float`; strings for `String`; booleans for `Boolean`; strings and
    integers for `ID`; a name for an enum; an array or a single value for a list; an object for an input object; …).
    This is exactly the hypothesis under which `literal_variable_equiv` holds; outside it the statement is FALSE of today's
    code (known finding A8: `literal_variable_equiv_refuted_cross_kind`). -/
def NaturalKind (reg : Reg) (ty : Ty) (j : JV) : Prop := ∃ l, AstOfJson reg ty j l

end PyGql.Coerce
