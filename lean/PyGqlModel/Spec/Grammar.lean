/-
  SPECIFICATION of the token-level grammar (GraphQL June 2018 + constant directives on variable
  definitions + optional fragment variables), independent of the parser's functions (from `Parse.lean` it takes
  `Flags`, the keywords `K.*` and the one-line `locOf`).

  A tree is specified by its **concrete-syntax view** `view : AST → Item`: for every node the sequence of
  its own tokens and sub-nodes, exactly as the grammar production lists them.  From the view come
    * `yield t`            — the token classes the tree derives (canonical choice for optional separators),
    * `Item.Spans` / `SpansAll` — the declarative derivation relation with spans (optional separators present or absent),
    * `Item.check`         — the executable left-to-right matcher "these tokens are a derivation of this
                             tree and every node's `loc` is (start of its first token, end of its last)",
  and `wfDocument flags d` (`wfDefinition`, `wfValue`, …) is the decidable side condition of the productions (non-empty lists where the grammar
  has `+`, fragment name ≠ `on`, enum value ∉ {true,false,null}, `Const` positions variable-free, an
  extension has at least one of its optional parts, directive location ∈ table, type-system nodes only
  when enabled, fragment variables only when enabled, NonNull not directly inside NonNull).

  Two notational devices of the grammar are items of their own:
    * `optTok`  — an optional separator (`implements &? A`, `= |? A`, `on |? LOC`) and the optional keyword of the
                  query shorthand; the tree is the same with or without it;
    * `nla k`   — the look-ahead restriction `[lookahead ≠ k]` (June 2018 leaves `type A {a}` ambiguous between
                  one definition and two; like graphql-js and the 2021 text, an absent optional `{…}` block must
                  not be followed by `{`).
  Import-free (core Lean + Token + Ast + Parse for `Flags`/keywords/`locOf` + generated tables).
-/
import PyGqlModel.Parse
namespace PyGql.Spec
open PyGql PyGql.Ast PyGql.Parse

/-- the class of a token: its kind, and its text when the kind carries one -/
abbrev TokClass := TokKind × Text

def hasValue : TokKind → Bool
  | .int | .float | .name | .string | .blockString => true
  | _ => false

def cls (t : Tok) : TokClass := (t.kind, if hasValue t.kind then t.value else [])
def classes (ts : List Tok) : List TokClass := ts.map cls

/-- concrete syntax: a token, an optional token, a look-ahead restriction, or a node with its span -/
inductive Item where
  | tok (k : TokKind) (v : Text)
  | optTok (k : TokKind) (v : Text)
  | nla (k : TokKind)
  | node (loc : Loc) (items : List Item)

namespace Item

mutual
/-- canonical yield (optional tokens omitted) -/
def yield : Item → List TokClass
  | .tok k v => [(k, v)]
  | .optTok _ _ => []
  | .nla _ => []
  | .node _ is => yieldAll is
def yieldAll : List Item → List TokClass
  | [] => []
  | i :: is => i.yield ++ yieldAll is
end

mutual
/-- the matcher: `check fl i last toks = some (last', rest)` — `i` derives a prefix of `toks`, `rest` remains,
    `last'` is the last token consumed so far, and every node's `loc` is `locOf fl first last'` -/
def check (fl : Flags) : Item → Tok → List Tok → Option (Tok × List Tok)
  | .tok k v, _, ts =>
    match ts with
    | t :: rest => if cls t = (k, v) then some (t, rest) else none
    | [] => none
  | .optTok k v, l, ts =>
    match ts with
    | t :: rest => if cls t = (k, v) then some (t, rest) else some (l, ts)
    | [] => some (l, ts)
  | .nla k, l, ts =>
    match ts with
    | t :: _ => if t.kind = k then none else some (l, ts)
    | [] => some (l, ts)
  | .node loc is, l, ts =>
    match ts with
    | [] => none
    | first :: _ =>
      match checkAll fl is l ts with
      | some (l', rest) => if loc = locOf fl first l' then some (l', rest) else none
      | none => none
def checkAll (fl : Flags) : List Item → Tok → List Tok → Option (Tok × List Tok)
  | [], l, ts => some (l, ts)
  | i :: is, l, ts =>
    match i.check fl l ts with
    | some (l', ts') => checkAll fl is l' ts'
    | none => none
end

/-- the last token of `pre`, or `l` when `pre` is empty -/
def lastOf (l : Tok) (pre : List Tok) : Tok := pre.getLast?.getD l

mutual
/-- DECLARATIVE derivation with spans: `Spans fl i pre` — the item derives exactly the tokens `pre`
    (optional tokens present or absent), and EVERY node below has
    `loc = (start of the first token of its own segment, end of the last token of its own segment)`
    (`none` under `no_location`).  Children's segments are consecutive sub-segments of the parent's
    (`SpansAll.cons`), hence nested in it and ordered. -/
inductive Spans (fl : Flags) : Item → List Tok → Prop
  | tok {k v t} : cls t = (k, v) → Spans fl (.tok k v) [t]
  | optSome {k v t} : cls t = (k, v) → Spans fl (.optTok k v) [t]
  | optNone {k v} : Spans fl (.optTok k v) []
  | nla {k} : Spans fl (.nla k) []
  | node {loc is f tl} : SpansAll fl is (f :: tl) → loc = locOf fl f (lastOf f (f :: tl)) →
      Spans fl (.node loc is) (f :: tl)
  | nodeEmpty {loc is} : SpansAll fl is [] → Spans fl (.node loc is) []   -- (no view has an empty node)
inductive SpansAll (fl : Flags) : List Item → List Tok → Prop
  | nil : SpansAll fl [] []
  | cons {i is p1 p2} : Spans fl i p1 → SpansAll fl is p2 → SpansAll fl (i :: is) (p1 ++ p2)
end

end Item

/-! ### views: the grammar productions -/

/-- punctuator -/
abbrev p (k : TokKind) : Item := .tok k []
/-- keyword (a `Name` token with this text) -/
abbrev kw (s : Text) : Item := .tok .name s

/-- `Name` -/
def nameV (n : Name) : Item := .node n.loc [.tok .name n.value]
/-- `NamedType : Name` -/
def namedTypeV (t : NamedType) : Item := .node t.loc [nameV t.name]

/-- `Type : NamedType | [ Type ] | Type !` -/
def typeV : TypeRef → Item
  | .named t => namedTypeV t
  | .list t loc => .node loc [p .bracketL, typeV t, p .bracketR]
  | .nonNull t loc => .node loc [typeV t, p .bang]

/-- `Variable : $ Name` -/
def variableV (v : Variable) : Item := .node v.loc [p .dollar, nameV v.name]
/-- `StringValue` -/
def stringV (s : StringValue) : Item := .node s.loc [.tok (if s.block then .blockString else .string) s.value]

mutual
/-- `Value[Const]` -/
def valueV : Value → Item
  | .var v => variableV v
  | .int v loc => .node loc [.tok .int v]
  | .float v loc => .node loc [.tok .float v]
  | .string s => stringV s
  | .boolean b loc => .node loc [kw (if b then K.true_ else K.false_)]
  | .null loc => .node loc [kw K.null_]
  | .enum v loc => .node loc [.tok .name v]
  | .list vs loc => .node loc (p .bracketL :: (valuesV vs ++ [p .bracketR]))
  | .object fs loc => .node loc (p .curlyL :: (fieldsV fs ++ [p .curlyR]))
def valuesV : List Value → List Item
  | [] => []
  | v :: vs => valueV v :: valuesV vs
/-- `ObjectField[Const] : Name : Value[?Const]` -/
def objectFieldV : ObjectField → Item
  | .mk name value loc => .node loc [nameV name, p .colon, valueV value]
def fieldsV : List ObjectField → List Item
  | [] => []
  | f :: fs => objectFieldV f :: fieldsV fs
end

/-- an optional part -/
def optV (f : α → Item) : Option α → List Item
  | none => []
  | some a => [f a]

/-- a bracketed non-empty list `open X+ close`, absent when the list is empty -/
def groupV (opn close : TokKind) (f : α → Item) (xs : List α) : List Item :=
  if xs.isEmpty then [] else p opn :: (xs.map f ++ [p close])

/-- `Argument[Const] : Name : Value[?Const]` -/
def argumentV (a : Argument) : Item := .node a.loc [nameV a.name, p .colon, valueV a.value]
/-- `Arguments[Const] : ( Argument[?Const]+ )` -/
def argumentsV (as : List Argument) : List Item := groupV .parenL .parenR argumentV as
/-- `Directive[Const] : @ Name Arguments[?Const]?` -/
def directiveV (d : Directive) : Item := .node d.loc (p .atSign :: nameV d.name :: argumentsV d.arguments)
/-- `Directives[Const] : Directive[?Const]+` -/
def directivesV (ds : List Directive) : List Item := ds.map directiveV

/-- `DefaultValue : = Value[Const]` -/
def defaultV (o : Option Value) : List Item :=
  match o with
  | none => []
  | some v => [p .equals, valueV v]

/-- `VariableDefinition : Variable : Type DefaultValue? Directives[Const]?` -/
def variableDefinitionV (d : VariableDefinition) : Item :=
  .node d.loc (variableV d.var :: p .colon :: typeV d.type :: (defaultV d.defaultValue ++ directivesV d.directives))
/-- `VariableDefinitions : ( VariableDefinition+ )` -/
def variableDefinitionsV (ds : List VariableDefinition) : List Item := groupV .parenL .parenR variableDefinitionV ds

mutual
/-- `Selection : Field | FragmentSpread | InlineFragment` -/
def selectionV : Selection → Item
  | .field alias_ name args dirs ss loc =>
    -- `Field : Alias? Name Arguments? Directives? SelectionSet?`
    .node loc ((match alias_ with | none => [] | some a => [nameV a, p .colon]) ++
      nameV name :: (argumentsV args ++ directivesV dirs ++ optSelectionSetV ss))
  | .fragmentSpread name dirs loc =>
    -- `FragmentSpread : ... FragmentName Directives?`
    .node loc (p .ellip :: nameV name :: directivesV dirs)
  | .inlineFragment tc dirs ss loc =>
    -- `InlineFragment : ... TypeCondition? Directives? SelectionSet`
    .node loc (p .ellip :: ((match tc with | none => [] | some t => [kw K.on, namedTypeV t]) ++
      directivesV dirs ++ [selectionSetV ss]))
/-- `SelectionSet : { Selection+ }` -/
def selectionSetV : SelectionSet → Item
  | .mk sels loc => .node loc (p .curlyL :: (selectionsV sels ++ [p .curlyR]))
def optSelectionSetV : Option SelectionSet → List Item
  | none => []
  | some ss => [selectionSetV ss]
def selectionsV : List Selection → List Item
  | [] => []
  | s :: ss => selectionV s :: selectionsV ss
end

/-- is this operation expressible by the query shorthand `SelectionSet`? -/
def isShorthand (d : OperationDefinition) : Bool :=
  d.operation = K.query ∧ d.name.isNone ∧ d.variableDefinitions.isEmpty ∧ d.directives.isEmpty

/-- `OperationDefinition : SelectionSet | OperationType Name? VariableDefinitions? Directives? SelectionSet` -/
def operationV (d : OperationDefinition) : Item :=
  if isShorthand d then .node d.loc [.optTok .name K.query, selectionSetV d.selectionSet]
  else .node d.loc (kw d.operation :: (optV nameV d.name ++ variableDefinitionsV d.variableDefinitions ++
        directivesV d.directives ++ [selectionSetV d.selectionSet]))

/-- `FragmentDefinition : fragment FragmentName VariableDefinitions?† on NamedType Directives? SelectionSet`
    († only with `experimental_fragment_variables`) -/
def fragmentV (d : FragmentDefinition) : Item :=
  .node d.loc (kw K.fragment :: nameV d.name :: (variableDefinitionsV d.variableDefinitions ++
    kw K.on :: namedTypeV d.typeCondition :: (directivesV d.directives ++ [selectionSetV d.selectionSet])))

/-- `Description? ` -/
def descV (o : Option StringValue) : List Item := optV stringV o

/-- `OperationTypeDefinition : OperationType : NamedType` -/
def operationTypeV (d : OperationTypeDefinition) : Item := .node d.loc [kw d.operation, p .colon, namedTypeV d.type]

/-- `InputValueDefinition : Description? Name : Type DefaultValue? Directives[Const]?` -/
def inputValueV (d : InputValueDefinition) : Item :=
  .node d.loc (descV d.description ++ nameV d.name :: p .colon :: typeV d.type ::
    (defaultV d.defaultValue ++ directivesV d.directives))

/-- `FieldDefinition : Description? Name ArgumentsDefinition? : Type Directives[Const]?` -/
def fieldDefinitionV (d : FieldDefinition) : Item :=
  .node d.loc (descV d.description ++ nameV d.name :: (groupV .parenL .parenR inputValueV d.arguments ++
    p .colon :: typeV d.type :: directivesV d.directives))

/-- `EnumValueDefinition : Description? EnumValue Directives[Const]?` -/
def enumValueDefinitionV (d : EnumValueDefinition) : Item :=
  .node d.loc (descV d.description ++ nameV d.name :: directivesV d.directives)

/-- an optional trailing `{ X+ }` block; when absent: `[lookahead ≠ {]` -/
def blockV (f : α → Item) (xs : List α) : List Item :=
  if xs.isEmpty then [.nla .curlyL] else p .curlyL :: (xs.map f ++ [p .curlyR])

/-- a separated list with an optional leading separator: `sep? X (sep X)*` -/
def sepV (sep : TokKind) (f : α → Item) : List α → List Item
  | [] => []
  | x :: xs => .optTok sep [] :: f x :: xs.flatMap fun y => [p sep, f y]

/-- `ImplementsInterfaces : implements &? NamedType (& NamedType)*` -/
def implementsV (ts : List NamedType) : List Item :=
  if ts.isEmpty then [] else kw K.implements :: sepV .amp namedTypeV ts
/-- `UnionMemberTypes : = |? NamedType (| NamedType)*` -/
def unionMembersV (ts : List NamedType) : List Item :=
  if ts.isEmpty then [] else p .equals :: sepV .pipe namedTypeV ts

/-- `Definition` (executable, type-system definition, type-system extension) -/
def definitionV : Definition → Item
  | .operation d => operationV d
  | .fragment d => fragmentV d
  | .schemaDefinition dirs ops loc =>
    .node loc (kw K.schema :: (directivesV dirs ++ p .curlyL :: (ops.map operationTypeV ++ [p .curlyR])))
  | .scalarTypeDefinition desc name dirs loc =>
    .node loc (descV desc ++ kw K.scalar :: nameV name :: directivesV dirs)
  | .objectTypeDefinition desc name ifs dirs fields loc =>
    .node loc (descV desc ++ kw K.type_ :: nameV name :: (implementsV ifs ++ directivesV dirs ++ blockV fieldDefinitionV fields))
  | .interfaceTypeDefinition desc name dirs fields loc =>
    .node loc (descV desc ++ kw K.interface_ :: nameV name :: (directivesV dirs ++ blockV fieldDefinitionV fields))
  | .unionTypeDefinition desc name dirs types loc =>
    .node loc (descV desc ++ kw K.union :: nameV name :: (directivesV dirs ++ unionMembersV types))
  | .enumTypeDefinition desc name dirs values loc =>
    .node loc (descV desc ++ kw K.enum_ :: nameV name :: (directivesV dirs ++ blockV enumValueDefinitionV values))
  | .inputObjectTypeDefinition desc name dirs fields loc =>
    .node loc (descV desc ++ kw K.input :: nameV name :: (directivesV dirs ++ blockV inputValueV fields))
  | .directiveDefinition desc name args locations loc =>
    .node loc (descV desc ++ kw K.directive :: p .atSign :: nameV name ::
      (groupV .parenL .parenR inputValueV args ++ kw K.on :: sepV .pipe nameV locations))
  | .schemaExtension dirs ops loc =>
    .node loc (kw K.extend :: kw K.schema :: (directivesV dirs ++ blockV operationTypeV ops))
  | .scalarTypeExtension name dirs loc =>
    .node loc (kw K.extend :: kw K.scalar :: nameV name :: directivesV dirs)
  | .objectTypeExtension name ifs dirs fields loc =>
    .node loc (kw K.extend :: kw K.type_ :: nameV name :: (implementsV ifs ++ directivesV dirs ++ blockV fieldDefinitionV fields))
  | .interfaceTypeExtension name dirs fields loc =>
    .node loc (kw K.extend :: kw K.interface_ :: nameV name :: (directivesV dirs ++ blockV fieldDefinitionV fields))
  | .unionTypeExtension name dirs types loc =>
    .node loc (kw K.extend :: kw K.union :: nameV name :: (directivesV dirs ++ unionMembersV types))
  | .enumTypeExtension name dirs values loc =>
    .node loc (kw K.extend :: kw K.enum_ :: nameV name :: (directivesV dirs ++ blockV enumValueDefinitionV values))
  | .inputObjectTypeExtension name dirs fields loc =>
    .node loc (kw K.extend :: kw K.input :: nameV name :: (directivesV dirs ++ blockV inputValueV fields))

/-- `Document : Definition+` between the lexer's `<SOF>` and `<EOF>` -/
def documentV (d : Document) : Item := .node d.loc (p .sof :: (d.definitions.map definitionV ++ [p .eof]))

/-! ### `yield` -/
def yieldType (t : TypeRef) : List TokClass := (typeV t).yield
def yieldValue (v : Value) : List TokClass := (valueV v).yield
def yieldDocument (d : Document) : List TokClass := (documentV d).yield

/-! ### well-formedness -/

def isNonNull : TypeRef → Bool
  | .nonNull _ _ => true
  | _ => false

/-- `NonNullType : NamedType ! | ListType !` -/
def wfType : TypeRef → Bool
  | .named _ => true
  | .list t _ => wfType t
  | .nonNull t _ => wfType t && !isNonNull t

def notBoolNull (v : Text) : Bool := v ≠ K.true_ ∧ v ≠ K.false_ ∧ v ≠ K.null_

mutual
/-- `Value[Const]`: no variable in a `Const` position; an enum value is not `true`, `false`, `null` -/
def wfValue (const : Bool) : Value → Bool
  | .var _ => !const
  | .enum v _ => notBoolNull v
  | .list vs _ => wfValues const vs
  | .object fs _ => wfFields const fs
  | _ => true
def wfValues (const : Bool) : List Value → Bool
  | [] => true
  | v :: vs => wfValue const v && wfValues const vs
def wfField (const : Bool) : ObjectField → Bool
  | .mk _ value _ => wfValue const value
def wfFields (const : Bool) : List ObjectField → Bool
  | [] => true
  | f :: fs => wfField const f && wfFields const fs
end

def wfArgument (const : Bool) (a : Argument) : Bool := wfValue const a.value
def wfDirective (const : Bool) (d : Directive) : Bool := d.arguments.all (wfArgument const)
def wfDirectives (const : Bool) (ds : List Directive) : Bool := ds.all (wfDirective const)
def wfDefault : Option Value → Bool
  | none => true
  | some v => wfValue true v

def wfVariableDefinition (d : VariableDefinition) : Bool :=
  wfType d.type && wfDefault d.defaultValue && wfDirectives true d.directives

mutual
def wfSelection : Selection → Bool
  | .field _ _ args dirs ss _ => args.all (wfArgument false) && wfDirectives false dirs && wfOptSelectionSet ss
  | .fragmentSpread name dirs _ => name.value ≠ K.on && wfDirectives false dirs
  | .inlineFragment _ dirs ss _ => wfDirectives false dirs && wfSelectionSet ss
def wfSelectionSet : SelectionSet → Bool
  | .mk sels _ => !sels.isEmpty && wfSelections sels
def wfOptSelectionSet : Option SelectionSet → Bool
  | none => true
  | some ss => wfSelectionSet ss
def wfSelections : List Selection → Bool
  | [] => true
  | s :: ss => wfSelection s && wfSelections ss
end

def wfOperation (d : OperationDefinition) : Bool :=
  d.operation ∈ Generated.ParserTables.operationTypeTuple && d.variableDefinitions.all wfVariableDefinition &&
  wfDirectives false d.directives && wfSelectionSet d.selectionSet

def wfFragment (fl : Flags) (d : FragmentDefinition) : Bool :=
  d.name.value ≠ K.on && (fl.experimentalFragmentVariables || d.variableDefinitions.isEmpty) &&
  d.variableDefinitions.all wfVariableDefinition && wfDirectives false d.directives && wfSelectionSet d.selectionSet

def wfOperationType (d : OperationTypeDefinition) : Bool :=
  d.operation ∈ Generated.ParserTables.operationTypeTuple

def wfInputValue (d : InputValueDefinition) : Bool :=
  wfType d.type && wfDefault d.defaultValue && wfDirectives true d.directives

def wfFieldDefinition (d : FieldDefinition) : Bool :=
  d.arguments.all wfInputValue && wfType d.type && wfDirectives true d.directives

def wfEnumValueDefinition (d : EnumValueDefinition) : Bool :=
  notBoolNull d.name.value && wfDirectives true d.directives

/-- is the definition a type-system definition or extension? -/
def isTypeSystem : Definition → Bool
  | .operation _ | .fragment _ => false
  | _ => true

def wfDefinition (fl : Flags) : Definition → Bool
  | .operation d => wfOperation d
  | .fragment d => wfFragment fl d
  | .schemaDefinition dirs ops _ => wfDirectives true dirs && !ops.isEmpty && ops.all wfOperationType
  | .scalarTypeDefinition _ _ dirs _ => wfDirectives true dirs
  | .objectTypeDefinition _ _ _ dirs fields _ => wfDirectives true dirs && fields.all wfFieldDefinition
  | .interfaceTypeDefinition _ _ dirs fields _ => wfDirectives true dirs && fields.all wfFieldDefinition
  | .unionTypeDefinition _ _ dirs _ _ => wfDirectives true dirs
  | .enumTypeDefinition _ _ dirs values _ => wfDirectives true dirs && values.all wfEnumValueDefinition
  | .inputObjectTypeDefinition _ _ dirs fields _ => wfDirectives true dirs && fields.all wfInputValue
  | .directiveDefinition _ _ args locations _ =>
    args.all wfInputValue && !locations.isEmpty &&
    locations.all (fun n => n.value ∈ Generated.ParserTables.directiveLocations)
  | .schemaExtension dirs ops _ => wfDirectives true dirs && ops.all wfOperationType && !(dirs.isEmpty && ops.isEmpty)
  | .scalarTypeExtension _ dirs _ => wfDirectives true dirs && !dirs.isEmpty
  | .objectTypeExtension _ ifs dirs fields _ =>
    wfDirectives true dirs && fields.all wfFieldDefinition && !(ifs.isEmpty && dirs.isEmpty && fields.isEmpty)
  | .interfaceTypeExtension _ dirs fields _ =>
    wfDirectives true dirs && fields.all wfFieldDefinition && !(dirs.isEmpty && fields.isEmpty)
  | .unionTypeExtension _ dirs types _ => wfDirectives true dirs && !(dirs.isEmpty && types.isEmpty)
  | .enumTypeExtension _ dirs values _ =>
    wfDirectives true dirs && values.all wfEnumValueDefinition && !(dirs.isEmpty && values.isEmpty)
  | .inputObjectTypeExtension _ dirs fields _ =>
    wfDirectives true dirs && fields.all wfInputValue && !(dirs.isEmpty && fields.isEmpty)

/-- `WF flags document` -/
def wfDocument (fl : Flags) (d : Document) : Bool :=
  !d.definitions.isEmpty &&
  d.definitions.all (fun x => wfDefinition fl x && (fl.allowTypeSystem || !isTypeSystem x))

/-! ### the specification evaluated on a whole token list (`SOF … EOF`) -/

def matchesAll (fl : Flags) (items : List Item) (toks : List Tok) : Bool :=
  match Item.checkAll fl items default toks with
  | some (_, []) => true
  | _ => false

def checkTypeTop (fl : Flags) (t : TypeRef) (toks : List Tok) : Bool :=
  wfType t && matchesAll fl [p .sof, typeV t, p .eof] toks
def checkValueTop (fl : Flags) (v : Value) (toks : List Tok) : Bool :=
  wfValue false v && matchesAll fl [p .sof, valueV v, p .eof] toks
def checkDocumentTop (fl : Flags) (d : Document) (toks : List Tok) : Bool :=
  wfDocument fl d && matchesAll fl [documentV d] toks

end PyGql.Spec
