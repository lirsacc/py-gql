/-
  C04 / C05 — SPECIFICATION: the execution algorithm of the GraphQL specification (June 2018, §6.3–6.4)
  transcribed with the library's documented null handling (a field error leaves `null` at the failing
  position; nothing propagates to the parent). (The declarative `ValidDoc` predicate of C05: `Spec/ValidDoc.lean`.)

    CollectFields(objectType, selectionSet, variableValues, visitedFragments)   → `collectFieldsS`
    ExecuteSelectionSet(selectionSet, objectType, objectValue, variableValues)  → `executeSelectionSetS`
    ExecuteField / ResolveFieldValue / CompleteValue / MergeSelectionSets       → `executeFieldS`, `completeValueS`
-/
import PyGqlModel.Exec

namespace PyGql.Spec
open PyGql PyGql.Exec

/-- one pass over a selection set in `CollectFields`; `visited` is the by-reference set of the
    specification: a fragment name is added BEFORE its selections are collected, and the set is
    shared by all nested calls. -/
def collectStepS (s : SchemaD) (doc : Doc) (vars : Vars)
    (rec : String → List Sel → List String → R (Grouped × List String))
    (obj : String) : List Sel → List String → Grouped → R (Grouped × List String)
  | [], visited, g => .ok (g, visited)
  | .field key name loc dirs args hasSub sub :: rest, visited, g => do
    -- 3.a/3.b: @skip / @include
    if (← skipSelection vars dirs) then collectStepS s doc vars rec obj rest visited g
    else
      -- 3.c: append to the group of the response key
      collectStepS s doc vars rec obj rest visited
        (g.extend key [{ key := key, name := name, loc := loc, args := args, hasSub := hasSub, sub := sub }])
  | .spread name dirs :: rest, visited, g => do
    if (← skipSelection vars dirs) then collectStepS s doc vars rec obj rest visited g
    else if visited.contains name then collectStepS s doc vars rec obj rest visited g   -- 3.d.ii
    else
      let visited := visited ++ [name]                                                   -- 3.d.iii
      match doc.fragment? name with
      | none => collectStepS s doc vars rec obj rest visited g                            -- 3.d.v
      | some fr => do
        if !(← fragmentTypeApplies s obj (some fr.on)) then collectStepS s doc vars rec obj rest visited g
        else do
          let (g', visited') ← rec obj fr.sels visited
          collectStepS s doc vars rec obj rest visited' (g'.mergeInto g)
  | .inline on dirs sub :: rest, visited, g => do
    if (← skipSelection vars dirs) then collectStepS s doc vars rec obj rest visited g
    else if !(← fragmentTypeApplies s obj on) then collectStepS s doc vars rec obj rest visited g
    else do
      let (g', visited') ← rec obj sub visited
      collectStepS s doc vars rec obj rest visited' (g'.mergeInto g)

def collectFieldsS (s : SchemaD) (doc : Doc) (vars : Vars) :
    Nat → String → List Sel → List String → R (Grouped × List String)
  | 0 => fun _ _ _ => .error .outOfFuel
  | n + 1 => fun obj sels visited => collectStepS s doc vars (collectFieldsS s doc vars n) obj sels visited []

/-- `MergeSelectionSets(fields)` -/
def mergeSelectionSets (fields : List FNode) : List Sel :=
  fields.flatMap fun f => if f.hasSub then f.sub else []

def completeListS (f : Path → RVal → R (Data × List Err)) (path : Path) :
    Nat → List RVal → R (List Data × List Err)
  | _, [] => .ok ([], [])
  | i, v :: vs => do
    let (d, e) ← f (path ++ [.idx i]) v
    let (ds, es) ← keepErrs e (completeListS f path (i + 1) vs)           -- field errors already recorded stay
    pure (d :: ds, e ++ es)

/-- `CompleteValue(fieldType, fields, result, variableValues)`; a field error is recorded and `null` stays
    where it happened. Results the library treats as programming errors (`RuntimeError`) are failures. -/
def completeValueS (s : SchemaD) (execSel : String → Path → List Sel → R (Data × List Err))
    (fields : List FNode) : Ty → Path → RVal → R (Data × List Err)
  | .nonNull t, path, result => do
    -- 1. Non-Null: complete the inner type; null ⇒ field error
    let (d, es) ← completeValueS s execSel fields t path result
    if d.isNull then pure (d, es ++ [{ path := path, locs := fields.map (·.loc), kind := .nonnull }])
    else pure (d, es)
  | .list t, path, result =>
    match result with
    | .null => .ok (.null, [])                                         -- 2.
    | .list items => do                                                -- 3.
      let (ds, es) ← completeListS (completeValueS s execSel fields t) path 0 items
      pure (.list ds, es)
    | .leaf (.arr _) | .obj _ => .error .unsupported
    | .leaf _ => .error (.internal "RuntimeError")
    | .raise items msg ext =>                                            -- the collection fails while being read: field error
      match completeListS (completeValueS s execSel fields t) path 0 items with
      | .ok (_, es) => .error (.raised (.resolver msg ext) none es)
      | .error x => .error x
  | .named n, path, result =>
    match result with
    | .null => .ok (.null, [])
    | _ =>
      match kindOf s n with
      | some .scalar | some .enum =>                                   -- 4.
        match result with
        | .leaf j =>
          match serializeLeaf s n j with
          | some r => .ok (.leaf r, [])
          | none => .error (.internal "RuntimeError")
        | _ => .error .unsupported
      | some .object => execSel n path (mergeSelectionSets fields)     -- 5.
      | some .interface | some .union =>
        match result with
        | .obj rt =>                                                   -- ResolveAbstractType
          match kindOf s rt with
          | none => .error (.internal "UnknownType")
          | some .object =>
            if isPossibleType s n rt then execSel rt path (mergeSelectionSets fields)
            else .error (.internal "RuntimeError")
          | some _ => .error (.internal "RuntimeError")
        | .raise _ msg ext => .error (.raised (.resolver msg ext) none [])  -- ResolveAbstractType fails: field error
        | _ => .error (.internal "UnknownType")
      | _ => .error (.internal "TypeError")

/-- `ExecuteField` for the group `fields` of one response key -/
def executeFieldS (s : SchemaD) (w : World) (execSel : String → Path → List Sel → R (Data × List Err))
    (objectType : String) (path : Path) (fields : List FNode) (fd : FieldD) : R (Data × List Err) :=
  match fields with
  | [] => .error (.internal "IndexError")
  | field :: _ =>
    match (field.args.find? (·.1 == objectType)).map (·.2) with
    | none | some none => .ok (.null, [{ path := path, locs := [field.loc], kind := .coercion }])
    | some (some argumentValues) =>
      match w objectType fd.name path argumentValues with               -- ResolveFieldValue
      | .err msg ext => .ok (.null, [{ path := path, locs := [field.loc], kind := .resolver msg ext }])
      | .boom => .error (.internal "unexpected")
      | .val v =>
        -- "If completing the value raises a field error: record it and return null for this field"
        catchField path field.loc (completeValueS s execSel fields fd.type path v)

/-- the `for each groupedFieldSet` loop of `ExecuteSelectionSet` -/
def executeGroupsS (s : SchemaD) (w : World) (execSel : String → Path → List Sel → R (Data × List Err))
    (objectType : String) (path : Path) : Grouped → R (List (String × Data) × List Err)
  | [] => .ok ([], [])
  | (responseKey, fields) :: rest =>
    match fields with
    | [] => .error (.internal "IndexError")
    | field :: _ =>
      if isMeta field.name then
        if field.name == "__typename" then do
          let (kvs, es) ← executeGroupsS s w execSel objectType path rest
          pure ((responseKey, .leaf (.str objectType)) :: kvs, es)
        else if s.query == some objectType then .error .unsupported
        else .error (.internal "UnboundLocalError")
      else
        match fieldOf s objectType field.name with
        | none => executeGroupsS s w execSel objectType path rest        -- 3.c: field not defined ⇒ skipped
        | some fd => do
          let (d, e) ← executeFieldS s w execSel objectType (path ++ [.key responseKey]) fields fd
          let (kvs, es) ← executeGroupsS s w execSel objectType path rest
          pure ((responseKey, d) :: kvs, e ++ es)

/-- `ExecuteSelectionSet` -/
def executeSelectionSetS (s : SchemaD) (doc : Doc) (vars : Vars) (w : World) (cf : Nat) :
    Nat → String → Path → List Sel → R (Data × List Err)
  | 0 => fun _ _ _ => .error .outOfFuel
  | n + 1 => fun objectType path selectionSet => do
    -- a directive condition that cannot be evaluated is a field error of the enclosing field
    let (groupedFieldSet, _) ← catchDirective (collectFieldsS s doc vars cf objectType selectionSet [])
    let (resultMap, es) ← executeGroupsS s w (executeSelectionSetS s doc vars w cf n) objectType path groupedFieldSet
    pure (.obj resultMap, es)

/-- `ExecuteRequest` / `ExecuteQuery` / `ExecuteMutation` (serial = same order in a blocking executor) -/
def executeRequestS (s : SchemaD) (doc : Doc) (vars : Vars) (w : World) (opname : Option String) (fuel cf : Nat) : Response :=
  match getOperation doc opname with
  | none => .abort "operation"
  | some op =>
    match rootType s op.kind with
    | none => .abort "operation"
    | some root =>
      -- `execute` raises InvalidOperationError for subscriptions (fix X5): reported as a response error
      if op.kind == "subscription" then .abort "operation"
      else
        match executeSelectionSetS s doc vars w cf fuel root [] op.sels with
        | .ok (d, es) => .result d es
        | .error (.raised k l inner) => .result .null (inner ++ [{ path := [], locs := l.getD [], kind := k }])
        | .error f => .failed f

end PyGql.Spec
