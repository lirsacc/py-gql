/-
  C05 — the DECLARATIVE validity predicate assumed by the soundness theorems. It is structural (no executor
  state): fields exist on the (static) parent type, leaf ⇔ no sub-selection, type conditions are known composite
  types, spread fragments exist, `@skip/@include` conditions are not constrained (`dirsOk`), fragment
  definitions are themselves well-typed and acyclic; `keyConsistentB` is the (sufficient) mergeability condition.
  Everything here is implied by the rules of the real validator EXCEPT `keyConsistentB`, which is stronger than
  OverlappingFieldsCanBeMerged (and is what gen/operation.py guarantees by construction).
-/
import PyGqlModel.Exec

namespace PyGql.Spec
open PyGql PyGql.Exec

def isComposite (s : SchemaD) (n : String) : Bool :=
  match kindOf s n with
  | some .object | some .interface | some .union => true
  | _ => false

/-- Directive conditions need NO premise any more: since fix 4e87d3d an `@skip` / `@include` condition that cannot be
    evaluated at run time (list literal let through by the validator, nullable variable with a default explicitly set to
    null) is a FIELD ERROR of the enclosing field, not an exception. The clause is kept (trivially true) so that `selOk`
    keeps its shape. -/
def dirsOk (_vars : Vars) (_dirs : List Dir) : Bool := true

/-- all conditions evaluate: Boolean literals or variables bound to a non-null value (then no directive error occurs) -/
def dirsStrict (vars : Vars) (dirs : List Dir) : Bool :=
  dirs.all fun d =>
    if d.name == "skip" || d.name == "include" then
      match d.cond with
      | .lit _ => true
      | .var v => (match vars.get? v with | some .null => false | some _ => true | none => false)
      | .bad => false
    else true

mutual
/-- selection `sel` is well-typed under the static parent type `T` -/
def selOk (s : SchemaD) (doc : Doc) (vars : Vars) (T : String) : Sel → Bool
  | .field _ name _ dirs _ hasSub sub =>
    dirsOk vars dirs &&
    (if name == "__typename" then !hasSub
     else if isMeta name then false            -- `__schema` / `__type`: introspection is outside this predicate (C15)
     else
      match fieldOf s T name with
      | none => false
      | some fd =>
        match kindOf s fd.type.base with
        | some .scalar | some .enum => !hasSub
        | some .object | some .interface | some .union => hasSub && selsOk s doc vars fd.type.base sub
        | _ => false)
  | .inline on dirs sub =>
    dirsOk vars dirs &&
    (match on with
     | none => selsOk s doc vars T sub
     | some c => isComposite s c && selsOk s doc vars c sub)
  | .spread name dirs => dirsOk vars dirs && (doc.fragment? name).isSome
def selsOk (s : SchemaD) (doc : Doc) (vars : Vars) (T : String) : List Sel → Bool
  | [] => true
  | x :: xs => selOk s doc vars T x && selsOk s doc vars T xs
end

/-- every fragment definition conditions on a known composite type and is well-typed under it -/
def fragsOk (s : SchemaD) (doc : Doc) (vars : Vars) : Bool :=
  doc.frags.all fun f => isComposite s f.on && selsOk s doc vars f.on f.sels

mutual
def selSpreads : Sel → List String
  | .field _ _ _ _ _ _ sub => selsSpreads sub
  | .inline _ _ sub => selsSpreads sub
  | .spread n _ => [n]
def selsSpreads : List Sel → List String
  | [] => []
  | x :: xs => selSpreads x ++ selsSpreads xs
end

/-- fragments that can be ranked: all their spreads are already ranked (iterate `n` times) -/
def rankFrags (doc : Doc) : Nat → List String → List String
  | 0, acc => acc
  | n + 1, acc =>
    rankFrags doc n (acc ++ (doc.frags.filter fun f => !acc.contains f.name && (selsSpreads f.sels).all acc.contains).map (·.name))

/-- no fragment spreads itself, directly or indirectly -/
def fragsAcyclic (doc : Doc) : Bool :=
  let ranked := rankFrags doc (doc.frags.length + 1) []
  doc.frags.all fun f => ranked.contains f.name

def opsOk (s : SchemaD) (doc : Doc) (vars : Vars) : Bool :=
  doc.ops.all fun o =>
    match rootType s o.kind with
    | some r => selsOk s doc vars r o.sels
    | none => false

/-- fragment names are unique (rule UniqueFragmentNames); without it the fragment table may return a definition other
    than the one `fragsAcyclic` looked at -/
def fragsUnique (doc : Doc) : Bool := decide (doc.frags.map (·.name)).Nodup

/-- the structural part, implied by the real validator -/
def validDocB (s : SchemaD) (doc : Doc) (vars : Vars) : Bool :=
  opsOk s doc vars && fragsOk s doc vars && fragsAcyclic doc && fragsUnique doc

def ValidDoc (s : SchemaD) (doc : Doc) (vars : Vars) : Prop := validDocB s doc vars = true

mutual
def selFields : Sel → List (String × String × Bool)
  | .field key name _ _ _ hasSub sub => (key, name, hasSub) :: selsFields sub
  | .inline _ _ sub => selsFields sub
  | .spread _ _ => []
def selsFields : List Sel → List (String × String × Bool)
  | [] => []
  | x :: xs => selFields x ++ selsFields xs
end

def docFields (doc : Doc) : List (String × String × Bool) :=
  (doc.ops.flatMap fun o => selsFields o.sels) ++ (doc.frags.flatMap fun f => selsFields f.sels)

/-- one response key always denotes one field (sufficient for mergeability) -/
def keyConsistentB (doc : Doc) : Bool :=
  let fs := docFields doc
  fs.all fun a => fs.all fun b => a.1 != b.1 || (a.2.1 == b.2.1)

mutual
def selDirs : Sel → List Dir
  | .field _ _ _ dirs _ _ sub => dirs ++ selsDirs sub
  | .inline _ dirs sub => dirs ++ selsDirs sub
  | .spread _ dirs => dirs
def selsDirs : List Sel → List Dir
  | [] => []
  | x :: xs => selDirs x ++ selsDirs xs
end

def docDirs (doc : Doc) : List Dir :=
  (doc.ops.flatMap fun o => selsDirs o.sels) ++ (doc.frags.flatMap fun f => selsDirs f.sels)

/-- why a document is not `ValidDoc` (for reports only) -/
def validDocWhy (s : SchemaD) (doc : Doc) (vars : Vars) : String :=
  if !opsOk s doc vars then "operation-selection-ill-typed"
  else if !fragsOk s doc vars then "fragment-ill-typed"
  else if !fragsAcyclic doc then "fragment-cycle"
  else if !fragsUnique doc then "duplicate-fragment-names"
  else ""


/-! ### rank measures (fuel sufficiency, `Props/C04_total.lean`) -/

mutual
/-- nested `collect_fields` calls needed below a selection (`rk` ranks fragment names) -/
def selNeed (rk : String → Nat) : Sel → Nat
  | .field _ _ _ _ _ _ _ => 0
  | .inline _ _ sub => 1 + selsNeed rk sub
  | .spread name _ => 1 + rk name
def selsNeed (rk : String → Nat) : List Sel → Nat
  | [] => 0
  | x :: xs => max (selNeed rk x) (selsNeed rk xs)
end

mutual
/-- nested `execute_fields` levels needed below a selection (`ek` ranks fragment names) -/
def selDepth (ek : String → Nat) : Sel → Nat
  | .field _ _ _ _ _ _ sub => 1 + selsDepth ek sub
  | .inline _ _ sub => selsDepth ek sub
  | .spread name _ => ek name
def selsDepth (ek : String → Nat) : List Sel → Nat
  | [] => 0
  | x :: xs => max (selDepth ek x) (selsDepth ek xs)
end

mutual
/-- every selection list inside needs at most `B` nested collect calls -/
def selBounded (rk : String → Nat) (B : Nat) : Sel → Bool
  | .field _ _ _ _ _ _ sub => decide (selsNeed rk sub ≤ B) && selsBoundedIn rk B sub
  | .inline _ _ sub => decide (selsNeed rk sub ≤ B) && selsBoundedIn rk B sub
  | .spread _ _ => true
def selsBoundedIn (rk : String → Nat) (B : Nat) : List Sel → Bool
  | [] => true
  | x :: xs => selBounded rk B x && selsBoundedIn rk B xs
end

def selsBounded (rk : String → Nat) (B : Nat) (sels : List Sel) : Bool :=
  decide (selsNeed rk sels ≤ B) && selsBoundedIn rk B sels

/-- least rank of a fragment name for `collect_fields` nesting, by `fuel` unfoldings of the fragment table -/
def rkOf (doc : Doc) : Nat → String → Nat
  | 0 => fun _ => 0
  | n + 1 => fun name =>
    match doc.fragment? name with
    | some fr => selsNeed (rkOf doc n) fr.sels
    | none => 0

def ekOf (doc : Doc) : Nat → String → Nat
  | 0 => fun _ => 0
  | n + 1 => fun name =>
    match doc.fragment? name with
    | some fr => selsDepth (ekOf doc n) fr.sels
    | none => 0

def docRk (doc : Doc) : String → Nat := rkOf doc (doc.frags.length + 1)
def docEk (doc : Doc) : String → Nat := ekOf doc (doc.frags.length + 1)

mutual
/-- the largest `selsNeed` of any selection list inside -/
def selMaxNeed (rk : String → Nat) : Sel → Nat
  | .field _ _ _ _ _ _ sub => max (selsNeed rk sub) (selsMaxNeedIn rk sub)
  | .inline _ _ sub => max (selsNeed rk sub) (selsMaxNeedIn rk sub)
  | .spread _ _ => 0
def selsMaxNeedIn (rk : String → Nat) : List Sel → Nat
  | [] => 0
  | x :: xs => max (selMaxNeed rk x) (selsMaxNeedIn rk xs)
end

def selsMaxNeed (rk : String → Nat) (sels : List Sel) : Nat := max (selsNeed rk sels) (selsMaxNeedIn rk sels)

def docBound (doc : Doc) : Nat :=
  ((doc.ops.map fun o => selsMaxNeed (docRk doc) o.sels) ++ (doc.frags.map fun f => selsMaxNeed (docRk doc) f.sels)).foldl max 0

/-- decidable certificate of acyclicity with explicit ranks (sound by `Props.C04.ranked_of_rankedB`) -/
def rankedB (doc : Doc) : Bool :=
  (doc.frags.all fun fr =>
    (decide (selsNeed (docRk doc) fr.sels ≤ docRk doc fr.name) && decide (selsDepth (docEk doc) fr.sels ≤ docEk doc fr.name))
      && selsBounded (docRk doc) (docBound doc) fr.sels)
  && doc.ops.all fun o => selsBounded (docRk doc) (docBound doc) o.sels

end PyGql.Spec
