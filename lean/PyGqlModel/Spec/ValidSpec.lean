/-
  SPECIFICATION side of C06: the validation rules of §5 of the June-2018 GraphQL specification as
  predicates over (schema, document), written over plain structural enumerations of the
  document (`Doc.nodes`: every node once) and set-theoretic notions (reachability closure of fragment
  spreads, all usages of a variable). Nothing here mentions visitors, stacks or accumulators, with one exception: the
  clause of 5.2.3.1 is stated with the rule's own `rootKeys (sfsTable d) (sfsBound d)` (see `singleFieldSubscriptions`).
-/
import PyGqlModel.Validate.Rules
namespace PyGql.Validate.Spec
open PyGql PyGql.Validate

/-! ### every node of a document, once (pre-order) -/
mutual
def valueNodes : Value → List Node
  | .list vs => .value (.list vs) :: valuesNodes vs
  | .obj fs => .value (.obj fs) :: objFieldsNodes fs
  | v => [.value v]
def valuesNodes : List Value → List Node
  | [] => []
  | v :: vs => valueNodes v ++ valuesNodes vs
def objFieldNodes : ObjField → List Node
  | .mk n v => .objField n :: valueNodes v
def objFieldsNodes : List ObjField → List Node
  | [] => []
  | f :: fs => objFieldNodes f ++ objFieldsNodes fs
end

def argNodes (a : Arg) : List Node := .argument a :: valueNodes a.value
def argsNodes (as : List Arg) : List Node := as.flatMap argNodes
def dirNodes (d : Dir) : List Node := .directive d :: argsNodes d.args
def dirsNodes (ds : List Dir) : List Node := ds.flatMap dirNodes

mutual
def selNodes : Sel → List Node
  | .field _ name args dirs hasSub ssid sub =>
    .field name args dirs hasSub :: (argsNodes args ++ dirsNodes dirs ++
      (if hasSub then .selectionSet ssid sub :: selsNodes sub else []))
  | .spread name dirs => .spread name dirs :: dirsNodes dirs
  | .inline on dirs ssid sub => .inline on dirs :: (dirsNodes dirs ++ .selectionSet ssid sub :: selsNodes sub)
def selsNodes : List Sel → List Node
  | [] => []
  | x :: xs => selNodes x ++ selsNodes xs
end

def varDefNodes (v : VarDef) : List Node :=
  .varDef v :: ((match v.default with | some d => valueNodes d | none => []) ++ .typeNode v.type :: dirsNodes v.dirs)

def defNodes : Def → List Node
  | .op kind name vars dirs ssid sels =>
    .operation kind name vars dirs sels :: (vars.flatMap varDefNodes ++ dirsNodes dirs ++ .selectionSet ssid sels :: selsNodes sels)
  | .frag name on dirs ssid sels =>
    .fragmentDef name on dirs :: (dirsNodes dirs ++ .selectionSet ssid sels :: selsNodes sels)
  | .ts .. => [.tsDef]

/-- all nodes of the document -/
def nodes (d : Doc) : List Node := .document d :: d.defs.flatMap defNodes

/-! ### the rules -/

def opNames (d : Doc) : List String := d.defs.filterMap fun | .op kind name .. => some (name.getD kind) | _ => none
def fragNames (d : Doc) : List String := d.defs.filterMap fun | .frag n .. => some n | _ => none
def operations (d : Doc) : List Def := d.defs.filter (·.isOp)

/-- 5.1.1 Executable definitions -/
def executableDefinitions (d : Doc) : Prop := ∀ x ∈ d.defs, x.isExecutable = true
/-- 5.2.1.1 Operation name uniqueness (py-gql names an anonymous operation after its kind) -/
def uniqueOperationNames (d : Doc) : Prop := (opNames d).Nodup
/-- 5.2.2.1 Lone anonymous operation -/
def loneAnonymousOperation (d : Doc) : Prop :=
  (∃ x ∈ d.defs, ∃ k vs ds i ss, x = Def.op k none vs ds i ss) → (operations d).length ≤ 1
/-- 5.2.3.1 Single root field: "let groupedFieldSet be the result of CollectFields(subscriptionType, selectionSet,
    variableValues); groupedFieldSet must have exactly one entry". `CollectFields` IS an algorithm in the specification
    (6.3.2, with its `visitedFragments` set); `rootKeys` is that algorithm restricted to the response keys, without
    evaluating type conditions and `@skip` / `@include` (no variable values at validation time; a spread that cannot
    apply is the business of 5.5.2.3). Before proposed_fixes/C06-H6 the code counted the WRITTEN selections. -/
def singleFieldSubscriptions (d : Doc) : Prop :=
  ∀ n ∈ nodes d, ∀ name vars dirs sels, n = Node.operation "subscription" name vars dirs sels →
    (rootKeys (sfsTable d) (sfsBound d) sels).length = 1
/-- 5.4.2 Argument uniqueness -/
def uniqueArgumentNames (d : Doc) : Prop :=
  (∀ n ∈ nodes d, ∀ name args dirs hs, n = Node.field name args dirs hs → (args.map (·.name)).Nodup) ∧
  (∀ n ∈ nodes d, ∀ dr, n = Node.directive dr → (dr.args.map (·.name)).Nodup)
/-- 5.7.3 Directives are unique per location -/
def uniqueDirectivesPerLocation (d : Doc) : Prop :=
  ∀ n ∈ nodes d, ∀ dirs, Node.dirsOf? n = some dirs → (dirs.map (·.name)).Nodup
where
  Node.dirsOf? : Node → Option (List Dir)
    | .operation _ _ _ dirs _ => some dirs
    | .field _ _ dirs _ => some dirs
    | .spread _ dirs => some dirs
    | .inline _ dirs => some dirs
    | .fragmentDef _ _ dirs => some dirs
    | .varDef v => some v.dirs
    | _ => none
/-- 5.5.1.1 Fragment name uniqueness -/
def uniqueFragmentNames (d : Doc) : Prop := (fragNames d).Nodup
/-- 5.8.2 Variables are input types -/
def variablesAreInputTypes (s : SchemaD) (d : Doc) : Prop :=
  ∀ n ∈ nodes d, ∀ v, n = Node.varDef v → ∃ t, typeFromAst s v.type = some t ∧ isInputTy s t = true
/-- 5.5.1.2 / type existence for variable types -/
def knownTypeNames (s : SchemaD) (d : Doc) : Prop :=
  ∀ n ∈ nodes d, ∀ t, n = Node.typeNode t → (s.findType t.base).isSome = true
/-- 5.5.2.1 Fragment spread target defined -/
def knownFragmentNames (d : Doc) : Prop :=
  ∀ n ∈ nodes d, ∀ name dirs, n = Node.spread name dirs → name ∈ fragNames d

/-! #### stateful rules: reachability -/

/-- fragments spread directly inside a list of selections -/
def directSpreads (sels : List Sel) : List String :=
  (selsNodes sels).filterMap fun | .spread n _ => some n | _ => none

def fragSels (d : Doc) (name : String) : List Sel :=
  (d.defs.findSome? fun | .frag n _ _ _ sels => if n == name then some sels else none | _ => none).getD []

/-- `Reach d a b`: fragment `b` is reachable from fragment `a` through ≥ 1 spreads -/
inductive Reach (d : Doc) : String → String → Prop where
  | step {a b} : b ∈ directSpreads (fragSels d a) → Reach d a b
  | trans {a b c} : Reach d a b → Reach d b c → Reach d a c

/-- 5.5.2.2 Fragment spreads must not form cycles -/
def noFragmentCycles (d : Doc) : Prop := ∀ f ∈ fragNames d, ¬ Reach d f f

/-- a fragment is used by an operation: spread directly or reachable from a directly spread fragment -/
def UsedBy (d : Doc) (opSels : List Sel) (f : String) : Prop :=
  f ∈ directSpreads opSels ∨ ∃ g ∈ directSpreads opSels, Reach d g f

/-- 5.5.1.4 Fragments must be used -/
def noUnusedFragments (d : Doc) : Prop :=
  ∀ f ∈ fragNames d, ∃ x ∈ d.defs, ∃ k n vs ds i sels, x = Def.op k n vs ds i sels ∧ UsedBy d sels f

/-- rules of the model for which no `rule_*_iff` theorem exists yet: their verdict equivalence and
    invariance rest on the correspondence check (harness/corr/C06_model.py) -/
def Unproved : List String := []

end PyGql.Validate.Spec

namespace PyGql.Validate.Spec
open PyGql PyGql.Validate
/-- **5.5.1.2 / 5.5.1.3 Fragment type conditions exist and are composite types** -/
def fragmentsOnCompositeTypes (s : SchemaD) (d : Doc) : Prop :=
  (∀ n ∈ nodes d, ∀ on dirs, n = Node.inline (some on) dirs → isComposite s on = true) ∧
  (∀ n ∈ nodes d, ∀ name on dirs, n = Node.fragmentDef name on dirs → isComposite s on = true)
end PyGql.Validate.Spec

namespace PyGql.Validate.Spec
open PyGql PyGql.Validate
/-- **5.6.3 Input object field uniqueness** -/
def uniqueInputFieldNames (d : Doc) : Prop :=
  ∀ n ∈ nodes d, ∀ fs, n = Node.value (.obj fs) → (fs.map (·.name)).Nodup
end PyGql.Validate.Spec

namespace PyGql.Validate.Spec
open PyGql PyGql.Validate
/-- the clause `NoUnusedFragmentsChecker` implements (ledger V6): every defined fragment name is the target of SOME
    spread of the document - also one made from a fragment that is itself unused. On documents without fragment
    cycles this is equivalent to `noUnusedFragments` (5.5.1.4). -/
def everyFragmentSpreadSomewhere (d : Doc) : Prop :=
  ∀ n ∈ nodes d, ∀ name on dirs, n = Node.fragmentDef name on dirs → ∃ m ∈ nodes d, ∃ ds, m = Node.spread name ds
end PyGql.Validate.Spec
