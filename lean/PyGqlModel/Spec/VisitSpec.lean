/-
  C18 — SPECIFICATION: what a visit of a tree is supposed to do, independent of the traversal table (`events`, `editAt`,
  `nodeAt`); the second half of the file (`walk` … `implEvents`) is NOT independent of it: it is the table-driven traversal
  without a visitor.

  * `events t`  : enter/leave of EVERY non-name node, pre/post-order, siblings in attribute (= source) order;
  * `editAt p e t` : the tree with the node at path `p` deleted (list member removed / single child set to
                   `None`) or replaced.
-/
import PyGqlModel.Visit

namespace PyGql.Visit.Spec
open PyGql.Visit

mutual
def events : Node → List Ev
  | .mk k i a => if k == "Name" then [] else ⟨true, .mk k i a⟩ :: eventsAttrs a ++ [⟨false, .mk k i a⟩]
def eventsAttrs : List (String × Attr) → List Ev
  | [] => []
  | (_, a) :: r => eventsAttr a ++ eventsAttrs r
def eventsAttr : Attr → List Ev
  | .scalar _ => []
  | .one none => []
  | .one (some c) => events c
  | .many cs => eventsList cs
def eventsList : List Node → List Ev
  | [] => []
  | c :: r => events c ++ eventsList r
end

inductive Edit where
  | delete
  | replace (r : Node)

/-- a path is a list of (attribute, index in the list / `none` for a single child). `none` = no such position;
    `some none` = the node itself is deleted. -/
def editAt : List (String × Option Nat) → Edit → Node → Option (Option Node)
  | [], .delete, _ => some none
  | [], .replace r, _ => some (some r)
  | (a, none) :: p, e, n =>
    match n.getAttr a with
    | some (.one (some c)) => (editAt p e c).map fun c' => some (n.setAttr a (.one c'))
    | _ => none
  | (a, some i) :: p, e, n =>
    match n.getAttr a with
    | some (.many cs) =>
      match cs[i]? with
      | some c => (editAt p e c).map fun c' =>
          some (n.setAttr a (.many (match c' with | some x => cs.set i x | none => cs.eraseIdx i)))
      | none => none
    | _ => none

/-- the node at a path -/
def nodeAt : List (String × Option Nat) → Node → Option Node
  | [], n => some n
  | (a, none) :: p, n =>
    match n.getAttr a with
    | some (.one (some c)) => nodeAt p c
    | _ => none
  | (a, some i) :: p, n =>
    match n.getAttr a with
    | some (.many cs) => match cs[i]? with | some c => nodeAt p c | none => none
    | _ => none

/-! ### the IMPLEMENTED traversal, visitor-free

  `walk T m n`: `enter n`, then for every statement of method `m` (in the order of the source) the walks of the
  children held by that attribute, then `leave n` — i.e. the pre/post-order over the child relation that the
  table implements. Each node reachable through that relation contributes exactly one `enter` and one `leave`. -/

def walkList (g : Node → Res (List Ev)) : List Node → Res (List Ev)
  | [] => .ok []
  | c :: cs =>
    match g c with
    | .err e => .err e
    | .fuel => .fuel
    | .ok t1 =>
      match walkList g cs with
      | .err e => .err e
      | .fuel => .fuel
      | .ok t2 => .ok (t1 ++ t2)

def walkStep (call : Target → Node → Res (List Ev)) (st : Step) (n : Node) : Res (List Ev) :=
  if !st.applies n.kind then .ok [] else
  match n.getAttr st.attr with
  | none => .err "AttributeError"
  | some a =>
    match st.shape, a with
    | .one, .one none => if st.guard == .always then .err "NoneNode" else .ok []
    | .one, .one (some c) => call st.target c
    | .many, .many cs => walkList (call st.target) cs
    | _, _ => .err "ShapeError"

def walkSteps (call : Target → Node → Res (List Ev)) : List Step → Node → Res (List Ev)
  | [], _ => .ok []
  | st :: rest, n =>
    match walkStep call st n with
    | .err e => .err e
    | .fuel => .fuel
    | .ok t1 =>
      match walkSteps call rest n with
      | .err e => .err e
      | .fuel => .fuel
      | .ok t2 => .ok (t1 ++ t2)

def walkTarget (T : Table) (rec : String → Node → Res (List Ev)) (tgt : Target) (c : Node) : Res (List Ev) :=
  match resolve T tgt c.kind with
  | .ok m => rec m c
  | .error e => .err e

def walk (T : Table) : Nat → String → Node → Res (List Ev)
  | 0, _, _ => .fuel
  | fuel + 1, m, n =>
    match T.methods.lookup m with
    | none => .err "NoMethod"
    | some steps =>
      match walkSteps (walkTarget T (walk T fuel)) steps n with
      | .err e => .err e
      | .fuel => .fuel
      | .ok body => .ok (⟨true, n⟩ :: body ++ [⟨false, n⟩])

/-- the implemented events of a tree visited through `ASTVisitor.visit` -/
def implEvents (T : Table) (fuel : Nat) (n : Node) : Res (List Ev) :=
  match T.visit.lookup n.kind with
  | none => .err "TypeError"
  | some m => walk T fuel m n

end PyGql.Visit.Spec
