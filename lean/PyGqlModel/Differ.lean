/-
  C20 — closure of the translated safe-change predicates, and their specification.
  `Generated/Differ.lean` (rewritten from the Python source on every run) holds the
  step functionals; recursion is closed here with fuel = sum of sizes.
-/
import PyGqlModel.Ty
import PyGqlModel.Generated.Differ

namespace PyGql.Differ
open PyGql PyGql.Generated.Differ

/-- `n` unfoldings of the two mutually recursive Python predicates. -/
def iter : Nat → (Ty → Ty → Bool) × (Ty → Ty → Bool)
  | 0 => (fun _ _ => false, fun _ _ => false)
  | n+1 => (safeInStep (iter n).1 (iter n).2, safeOutStep (iter n).1 (iter n).2)

/-- `_is_safe_input_type_change` -/
def safeIn (o n : Ty) : Bool := (iter (o.size + n.size)).1 o n
/-- `_is_safe_output_type_change` -/
def safeOut (o n : Ty) : Bool := (iter (o.size + n.size)).2 o n

/-! ### Specification: abstract values and what a type expression accepts -/

inductive Val where
  | null
  | leaf (n : String)
  | list (vs : List Val)
  deriving Repr, Inhabited

/-- value `v` is a legal value of type `t` (null allowed unless non-null; list items checked). WITHOUT list input
    coercion: a non-list value is NOT accepted where a list is expected (with it: `Props.C20.accC`,
    Props/C20_coercion.lean, where the input predicate is sound but no longer exact). NAMED types are compared by
    EQUALITY only: no covariance of an output position from an interface / union to one of its possible types
    (`pet: Pet` → `pet: Dog` is reported as a type change: over-reporting, never under-reporting) -/
def acc : Ty → Val → Bool
  | .named _, .null => true
  | .named n, .leaf m => n == m
  | .named _, .list _ => false
  | .list _, .null => true
  | .list _, .leaf _ => false
  | .list t, .list vs => vs.all (acc t)
  | .nonNull _, .null => false
  | .nonNull t, .leaf m => acc t (.leaf m)
  | .nonNull t, .list vs => acc t (.list vs)

/-- every value accepted at `o` is accepted at `n` (input positions: at least as permissive), on type expressions read
    WITHOUT list input coercion (`acc`) -/
def InCompat (o n : Ty) : Prop := ∀ v, acc o v = true → acc n v = true
/-- every value produced at `n` is a legal value of `o` (output positions: at least as strict) -/
def OutCompat (o n : Ty) : Prop := ∀ v, acc n v = true → acc o v = true

/-- syntactic characterisation: `a` is at least as strict as `b` -/
def sub : Ty → Ty → Bool
  | .named a, .named b => a == b
  | .named _, _ => false
  | .list a, .list b => sub a b
  | .list _, _ => false
  | .nonNull a, .nonNull b => sub a b
  | .nonNull a, .named b => sub a (.named b)
  | .nonNull a, .list b => sub a (.list b)

def listFree : Ty → Bool
  | .named _ => true
  | .list _ => false
  | .nonNull t => listFree t

/-- the severity the table gives the class `cls` (its `required` column if `required`); `none`: not in the table -/
def severityOf (cls : String) (required : Bool) : Option Nat :=
  (severityTable.find? (·.1 == cls)).map fun r => if required then r.2.2 else r.2.1

end PyGql.Differ
