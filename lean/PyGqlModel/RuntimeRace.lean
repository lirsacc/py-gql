/-
  C08 / finding E2r — `gather_futures.on_finish` when the callbacks of two pending futures run on two
  pool workers AT THE SAME TIME.  `Runtime.lean` treats one `on_finish(d)` call as one atomic step; here the
  body is split into the micro-steps a thread switch can separate:

      def on_finish(d):
          nonlocal done
          done += 1                      -- LOAD  (tmp := done)          `start    → loaded tmp`
                                         -- STORE (done := tmp + 1)      `loaded t → stored`
          try: d.result() ...            -- (successful `d`: nothing)
          if done == target_count:       -- TEST  (reads `done` again)   `stored   → finished`
              outer.set_result([...])    --   a second `set_result` raises InvalidStateError inside the callback

  Only successful completions are modelled (an exception sets `outer` without looking at the counter).
  `Race.step` is the NON-atomic machine (three micro-steps per worker, any interleaving);
  `Race.astep` is the machine with an ATOMIC increment (LOAD+STORE fused — what a lock around `done += 1`
  gives) but still a separate TEST, interleaved arbitrarily;
  `Race.lstep` is the non-atomic machine under a LOCK held from LOAD to STORE (a worker that finds the lock
  taken does not move).
-/
namespace PyGql.AsyncExec.Race

/-- program counter of one worker inside `on_finish` (non-atomic) -/
inductive PC where
  | start
  | loaded (tmp : Nat)
  | stored
  | finished
  deriving DecidableEq, Repr

structure St where
  done : Nat                 -- the `nonlocal done`
  target : Nat               -- `target_count`
  sets : Nat := 0            -- successful `outer.set_result` calls
  swallowed : Nat := 0       -- InvalidStateError raised inside a callback (outer already set)
  pcs : List PC
  deriving DecidableEq, Repr

/-- `gather_futures` over `plain` non-future entries (already counted) and `n` pending futures -/
def St.init (plain n : Nat) : St :=
  { done := plain, target := plain + n, pcs := List.replicate n .start }

def St.allFinished (s : St) : Bool := s.pcs.all (· == .finished)

/-- the aggregate Future has been set -/
def St.outerSet (s : St) : Bool := s.sets != 0

/-- the TEST micro-step: `if done == target_count: outer.set_result(...)` -/
def St.test (s : St) : St :=
  if s.done == s.target then
    if s.sets == 0 then { s with sets := 1 } else { s with swallowed := s.swallowed + 1 }
  else s

/-- one micro-step of worker `i` (non-atomic `done += 1`) -/
def step (s : St) (i : Nat) : St :=
  match s.pcs[i]? with
  | some .start => { s with pcs := s.pcs.set i (.loaded s.done) }
  | some (.loaded t) => { s with done := t + 1, pcs := s.pcs.set i .stored }
  | some .stored => { s.test with pcs := s.pcs.set i .finished }
  | _ => s

def run (s : St) : List Nat → St
  | [] => s
  | i :: rest => run (step s i) rest

/-- ATOMIC increment: LOAD and STORE are one step -/
def astep (s : St) (i : Nat) : St :=
  match s.pcs[i]? with
  | some .start => { s with done := s.done + 1, pcs := s.pcs.set i .stored }
  | some (.loaded t) => { s with done := t + 1, pcs := s.pcs.set i .stored }      -- unreachable from `init`
  | some .stored => { s.test with pcs := s.pcs.set i .finished }
  | _ => s

def arun (s : St) : List Nat → St
  | [] => s
  | i :: rest => arun (astep s i) rest

def PC.isLoaded : PC → Bool
  | .loaded _ => true
  | _ => false

/-- the lock around `done += 1` is held: some worker is between LOAD and STORE -/
def St.locked (s : St) : Bool := s.pcs.any PC.isLoaded

/-- NON-atomic micro-steps under a LOCK held from LOAD to STORE (`with lock: done += 1`): a worker at `start`
    that finds the lock taken does not move; everything else as `step` -/
def lstep (s : St) (i : Nat) : St :=
  match s.pcs[i]? with
  | some .start => if s.locked then s else step s i
  | _ => step s i

def lrun (s : St) : List Nat → St
  | [] => s
  | i :: rest => lrun (lstep s i) rest

end PyGql.AsyncExec.Race
