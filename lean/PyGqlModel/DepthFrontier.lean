/-
  C19 — MODEL of the loop of `_nesting_levels` after C19-Q3.patch (utilities/max_depth.py; the loop of C19-H3 is DepthMerged.lean):
  level by level over a FRONTIER of selection lists,

      levels = 0; frontier = [selections]
      while frontier:
          if budget <= 0: raise ExpansionBudgetExhausted()
          seen = set(); next_frontier = []; found = False
          for level_selections in frontier:
              collected = collect_fields_untyped(level_selections, …, _budget=budget)
              for fields in collected.values():
                  found = True
                  subselections = [selection for field in fields if field.selection_set is not None
                                   for selection in field.selection_set.selections]
                  key = tuple(id(selection) for selection in subselections)
                  if subselections and key not in seen: seen.add(key); next_frontier.append(subselections)
          if not found: break
          levels += 1; budget -= 1; frontier = next_frontier
      return levels

  The `seen` filter drops a frontier entry made of the SAME node objects as an earlier entry of the level: the earlier entry
  was collected with the same arguments, so the filter changes neither the result nor whether an exception is raised; the
  model's selections have no identity and the filter is not modelled. No import from outside the project.
-/
import PyGqlModel.Depth

namespace PyGql.Depth

/-- the non-empty merged sub-selection lists of the groups of one collection, in order -/
def groupSubs : Grouped → List (List Sel)
  | [] => []
  | (_, fs) :: rest =>
    match fs.flatMap (·.sub) with
    | [] => groupSubs rest
    | s :: ss => (s :: ss) :: groupSubs rest

/-- `for level_selections in frontier:` — (found, next_frontier) -/
def frontierLevel (skipFn : Dirs → Vars → Except Err Bool) (budget : Nat) (frags : List Frag) (vars : Vars) :
    List (List Sel) → Except Err (Bool × List (List Sel))
  | [] => .ok (false, [])
  | e :: rest =>
    match collectFieldsUntypedG skipFn budget e frags vars [] with
    | .error err => .error err
    | .ok (G, _) =>
      match frontierLevel skipFn budget frags vars rest with
      | .error err => .error err
      | .ok (found, nxt) => .ok (!G.isEmpty || found, groupSubs G ++ nxt)

/-- the `while frontier:` loop; arguments: budget, levels so far, frontier -/
def nestingLevelsF (skipFn : Dirs → Vars → Except Err Bool) (frags : List Frag) (vars : Vars) :
    Nat → Nat → List (List Sel) → Except Err Nat
  | _, levels, [] => .ok levels
  | 0, _, _ :: _ => .error .recursion                    -- `if budget <= 0: raise ExpansionBudgetExhausted()`
  | b + 1, levels, e :: es =>
    match frontierLevel skipFn (b + 1) frags vars (e :: es) with
    | .error err => .error err
    | .ok (false, _) => .ok levels                       -- `if not found: break`
    | .ok (true, nxt) => nestingLevelsF skipFn frags vars b (levels + 1) nxt

/-- `depth = max(0, _nesting_levels(op.selection_set.selections, fragments, op_variables, budget) - 1)` -/
def depthFixedFG (skipFn : Dirs → Vars → Except Err Bool) (budget : Nat) (op : Op) (frags : List Frag) (vars : Vars) :
    Except Err Nat :=
  match nestingLevelsF skipFn frags vars budget 0 [op.sels] with
  | .error e => .error e
  | .ok n => .ok (n - 1)

def depthFixedFB (budget : Nat) (op : Op) (frags : List Frag) (vars : Vars) : Except Err (Option Nat) :=
  match depthFixedFG skipSelectionT budget op frags vars with
  | .ok d => .ok (some d)
  | .error .recursion => .ok none
  | .error e => .error e

/-- `MaxDepthValidationRule(limit, operation_name=filter)(schema, doc, raw)` with the frontier loop (C19-Q3) -/
def ruleF (limit : Nat) (filter : Option String) (doc : Doc) (defs : List (List VarDefR)) (raw : RawVars) :
    Except Err (List (Nat × Option Nat)) :=
  ruleLoopB (fun i op => depthFixedFB doc.budget op doc.frags (effectiveVarsR (defs.getD i []) raw))
    limit filter 0 doc.ops

end PyGql.Depth
