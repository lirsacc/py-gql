/-
  C15 — model of `schema/introspection.py` evaluated on the STANDARD introspection query
  (`utilities/introspection_query.py`) and of the meta-field lookup of
  `execution/wrappers.py: ResolutionContext.field_definition`.

  `introspect s includeDeprecated` is the `data` JSON the server answers for the standard query
  (with `includeDeprecated: <flag>` in the two places the query has it), for a schema description
  `s` that CONTAINS the built-in scalars, the introspection types and the specified directives
  (`dump_schema(schema, include_builtin=True)`), exactly as `Schema.types` / `Schema.directives` do.

  Resolver by resolver:
    __Schema.types / directives   sorted by name                       → `sortByName`
    __Type.kind                   `_resolve_type_kind` (EXTRACTED table) → `kindString`
    __Type.fields / enumValues    `includeDeprecated` filter            → `visibleFields`, `visibleValues`
    __Type.interfaces / possibleTypes / inputFields / ofType            → `fullType`, `typeRef`
    __InputValue.defaultValue     `_format_default_value` (TRANSLATED)  → `Generated.formatDefaultValue`
-/
import PyGqlModel.Generated.Introspection

namespace PyGql.Introspect
open PyGql PyGql.Generated.Introspection

/-! ### sorting by name (Python `sorted(..., key=lambda t: t.name)`; stable insertion sort) -/

def insertBy {α} (key : α → String) (x : α) : List α → List α
  | [] => [x]
  | y :: ys => if key x < key y then x :: y :: ys else y :: insertBy key x ys

/-- stable: equal keys keep their order (insert from the right) -/
def sortBy {α} (key : α → String) : List α → List α
  | [] => []
  | x :: xs => insertBy key x (sortBy key xs)

/-! ### JSON helpers -/

def jOptStr : Option String → J | some s => .str s | none => .null
def jChars : Option Chars → J | some cs => .str (String.ofList cs) | none => .null

/-! ### `_resolve_type_kind` through the extracted table -/

def kindOfTag (tag : String) : J :=
  match typeKindTable.find? (·.1 == tag) with
  | some (_, k) => .str k
  | none => .null          -- `raise TypeError` (the executor turns it into a field error; kind is non-null)

def kindString (k : Kind) : J := kindOfTag k.toString

/-- kind / name of a type expression (named types are looked up in the schema) -/
def refKind (s : SchemaD) : Ty → J
  | .named n => match s.findType n with | some td => kindString td.kind | none => .null
  | .list _ => kindOfTag "list"
  | .nonNull _ => kindOfTag "nonNull"

def refName : Ty → J
  | .named n => .str n
  | _ => .null

/-- fragment `TypeRef`: `kind name ofType { kind name ofType { … } }`, `levels` levels deep (the standard
    query has 8); the innermost level has no `ofType` key at all. -/
def typeRef (s : SchemaD) : Nat → Ty → J
  | 0, _ => .null
  | 1, t => .obj [("kind", refKind s t), ("name", refName t)]
  | n+2, t => .obj [("kind", refKind s t), ("name", refName t),
                   ("ofType", match t with
                              | .named _ => .null
                              | .list u => typeRef s (n+1) u
                              | .nonNull u => typeRef s (n+1) u)]

def typeRefLevels : Nat := 8

/-- fragment `InputValue` -/
def inputValue (s : SchemaD) (a : ArgD) : J :=
  .obj [("name", .str a.name), ("description", jOptStr a.desc), ("type", typeRef s typeRefLevels a.type),
        ("defaultValue", jChars (formatDefaultValue s a.hasDefault a.default a.type))]

def fieldJ (s : SchemaD) (f : FieldD) : J :=
  .obj [("name", .str f.name), ("description", jOptStr f.desc), ("args", .arr (f.args.map (inputValue s))),
        ("type", typeRef s typeRefLevels f.type), ("isDeprecated", .bool f.deprecated.isSome),
        ("deprecationReason", jOptStr f.deprecated)]

def enumValueJ (v : EnumValD) : J :=
  .obj [("name", .str v.name), ("description", jOptStr v.desc), ("isDeprecated", .bool v.deprecated.isSome),
        ("deprecationReason", jOptStr v.deprecated)]

/-- `[f for f in type_.fields if (not f.deprecated) or args.get("includeDeprecated")]` -/
def visibleFields (incl : Bool) (fs : List FieldD) : List FieldD := fs.filter fun f => !f.deprecated.isSome || incl
def visibleValues (incl : Bool) (vs : List EnumValD) : List EnumValD := vs.filter fun v => !v.deprecated.isSome || incl

/-- `Schema.get_possible_types`, then sorted by name -/
def possibleTypes (s : SchemaD) (t : TypeD) : List String :=
  match t.kind with
  | .union => sortBy id t.members
  | .interface => sortBy id ((s.types.filter fun o => o.kind == .object && o.interfaces.contains t.name).map (·.name))
  | _ => []

/-- fragment `FullType` -/
def fullType (s : SchemaD) (incl : Bool) (t : TypeD) : J :=
  .obj [("kind", kindString t.kind), ("name", .str t.name), ("description", jOptStr t.desc),
        ("fields", if t.kind == .object || t.kind == .interface then .arr ((visibleFields incl t.fields).map (fieldJ s)) else .null),
        ("inputFields", if t.kind == .input then .arr (t.inputFields.map (inputValue s)) else .null),
        ("interfaces", if t.kind == .object then .arr (t.interfaces.map fun i => typeRef s typeRefLevels (.named i)) else .null),
        ("enumValues", if t.kind == .enum then .arr ((visibleValues incl t.values).map enumValueJ) else .null),
        ("possibleTypes", if t.kind == .union || t.kind == .interface
                          then .arr ((possibleTypes s t).map fun n => typeRef s typeRefLevels (.named n)) else .null)]

def directiveJ (s : SchemaD) (d : DirectiveD) : J :=
  .obj [("name", .str d.name), ("description", jOptStr d.desc), ("locations", .arr (d.locations.map .str)),
        ("args", .arr (d.args.map (inputValue s)))]

def rootRef : Option String → J
  | some n => .obj [("name", .str n)]
  | none => .null

/-- the `__schema` object of the standard query -/
def schemaJ (s : SchemaD) (incl : Bool) : J :=
  .obj [("queryType", rootRef s.query), ("mutationType", rootRef s.mutation), ("subscriptionType", rootRef s.subscription),
        ("types", .arr ((sortBy (·.name) s.types).map (fullType s incl))),
        ("directives", .arr ((sortBy (·.name) s.directives).map (directiveJ s)))]

/-- `data` of `graphql(schema, introspection_query())` -/
def introspect (s : SchemaD) (includeDeprecated : Bool) : J := .obj [("__schema", schemaJ s includeDeprecated)]

/-- `data.__type` of `{ __type(name: n) { ...FullType } }`: the resolver is `info.schema.types.get(name)`, so a
    name that is not (or no longer) in the type map — unknown, removed / hidden type, empty string — resolves to
    null; the built-in scalars and the introspection types are in the map and resolve. -/
def typeByName (s : SchemaD) (incl : Bool) (n : String) : J :=
  match s.findType n with
  | some t => fullType s incl t
  | none => .null

/-! ### `ResolutionContext.field_definition` -/

inductive FieldDef where
  | schemaField      -- SCHEMA_INTROSPECTION_FIELD
  | typeField        -- TYPE_INTROSPECTION_FIELD
  | typenameField    -- TYPE_NAME_INTROSPECTION_FIELD
  | ordinary (f : FieldD)
  deriving Repr, Inhabited

/-- result of `field_definition`: a definition, `None`, or the `UnboundLocalError` Python raises when a meta
    name falls through the if/elif chain (e.g. `__schema` below a type that is not the query type, with introspection
    enabled, in a chain without the final `None` entries). -/
inductive FDResult where
  | ok (d : Option FieldDef)
  | unbound
  deriving Repr, Inhabited

def metaTarget (t : String) : Option FieldDef :=
  if t == "SCHEMA_INTROSPECTION_FIELD" then some .schemaField
  else if t == "TYPE_INTROSPECTION_FIELD" then some .typeField
  else if t == "TYPE_NAME_INTROSPECTION_FIELD" then some .typenameField
  else none

/-- the if/elif chain of the meta branch, walked over the EXTRACTED `metaChain` -/
def walkChain (disable isQuery : Bool) (name : String) : List (String × String × Bool) → FDResult
  | [] => .unbound
  | (tgt, tested, needsQ) :: rest =>
    if tgt == "disabled" then (if disable then .ok none else walkChain disable isQuery name rest)
    else if tested == name && (!needsQ || isQuery) then .ok (metaTarget tgt)
    else walkChain disable isQuery name rest

def isMeta (name : String) : Bool := metaFieldNames.contains name

def fieldDefinition (s : SchemaD) (disable : Bool) (parent : TypeD) (name : String) : FDResult :=
  if isMeta name then walkChain disable (s.query == some parent.name) name metaChain
  else .ok ((parent.fields.find? (·.name == name)).map .ordinary)

/-- `Executor._iterate_fields` over the grouped fields `(response key, field name)`: the entries that are
    executed, or `none` when `field_definition` raises. -/
def iterateFields (s : SchemaD) (disable : Bool) (parent : TypeD) : List (String × String) → Option (List (String × FieldDef))
  | [] => some []
  | (key, name) :: rest =>
    match fieldDefinition s disable parent name with
    | .unbound => none
    | .ok none => iterateFields s disable parent rest
    | .ok (some d) => (iterateFields s disable parent rest).map ((key, d) :: ·)

end PyGql.Introspect
