/-
  C10 — MODEL of the response side of py-gql (import-free, executable):

  * `_string_utils.index_to_loc`                              → `indexToLoc` (+ loop)
  * `_string_utils.stringify_path`                            → `stringifyPath`
  * `exc.*.to_dict` (GraphQLSyntaxError, GraphQLLocatedError,
     ResolverError, ExecutionError)                           → `Err.toDict`
  * `execution/wrappers.GraphQLResult.response`               → `Result.response`
  * `_graphql.process_graphql_query` with its `_abort` paths  → `processQuery` (over abstract stage outcomes)
  * `execution/executor` error capture (`resolve_field`'s `fail`, `complete_value`,
    `complete_list_value`, `_handle_non_nullable_value`, `execute_fields`)
                                                              → `completeInner` / `completeList` / `executeFields`

  Key names and the `data=None` arguments of the `_abort` calls come from
  `Generated/ResponseKeys.lean`, rewritten from the source on every run.

  JSON values are `PyGql.J`; a float is the object `{"$float": "<repr>"|"nan"|"inf"|"-inf"}`.
-/
import PyGqlModel.Json
import PyGqlModel.Ty
import PyGqlModel.Token
import PyGqlModel.Generated.ResponseKeys

namespace PyGql.Response
open PyGql PyGql.Generated.ResponseKeys

/-! ### `index_to_loc` -/

/-- the `for offset, char in enumerate(body)` loop; the second argument counts down
    `position - offset`, `lines`/`cols` are the loop variables. Falling out of the loop
    (`position == len(body)`) returns `(lines + 1, cols + 1)` as well. -/
def indexToLocLoop : Text → Nat → Nat → Nat → Nat × Nat
  | [], _, lines, cols => (lines + 1, cols + 1)
  | _ :: _, 0, lines, cols => (lines + 1, cols + 1)
  | c :: rest, p + 1, lines, cols =>
    if c = 10 then indexToLocLoop rest p (lines + 1) 0
    else if c = 13 then
      -- a lone CR ends the line, the CR of a CRLF pair has no width
      if rest.head? = some 10 then indexToLocLoop rest p lines cols
      else indexToLocLoop rest p (lines + 1) 0
    else indexToLocLoop rest p lines (cols + 1)

/-- `index_to_loc(body, position)`; `none` = `IndexError` (a negative position cannot be
    written: positions are offsets of the lexer / of node spans). -/
def indexToLoc (body : Text) (position : Nat) : Option (Nat × Nat) :=
  if body.isEmpty && position == 0 then some (1, 1)
  else if position > body.length then none
  else some (indexToLocLoop body position 0 0)

/-! ### response paths -/

inductive Seg where
  | key (s : String)
  | idx (i : Nat)
  deriving DecidableEq, Repr, Inhabited

abbrev Path := List Seg

def Seg.toJ : Seg → J
  | .key s => .str s
  | .idx i => J.ofNat i

/-- `stringify_path` -/
def stringifyPath (p : Path) : String :=
  let s := p.foldl (fun acc e => match e with
    | .idx i => acc ++ "[" ++ toString i ++ "]"
    | .key k => acc ++ "." ++ k) ""
  String.ofList (s.toList.dropWhile (· == '.'))

/-! ### error objects and `to_dict` -/

/-- the response-error classes, reduced to what `to_dict` reads.
    `nodes`: `node.loc[0]` of every node that has `loc` and `source` (`none` otherwise). -/
inductive Err where
  /-- `GraphQLSyntaxError`: `msg` is `str(self)` (message + highlighted location, opaque here) -/
  | syntax (msg : String) (position : Nat)
  /-- `GraphQLLocatedError` (ValidationError, VariableCoercionError, CoercionError, …) -/
  | located (msg : String) (nodes : List (Option Nat)) (path : Option Path)
  /-- `ResolverError` and subclasses -/
  | resolver (msg : String) (nodes : List (Option Nat)) (path : Option Path) (ext : Option (List (String × J)))
  /-- `ExecutionError` (InvalidOperationError) -/
  | execution (msg : String)
  deriving Inhabited

def locJ (lineKey colKey : String) (lc : Nat × Nat) : J :=
  .obj [(lineKey, J.ofNat lc.1), (colKey, J.ofNat lc.2)]

/-- `GraphQLLocatedError.to_dict`: the `kv` triple filtered by truthiness
    (`message` kept unconditionally iff the source says so). -/
def locatedDict (text : Text) (msg : String) (nodes : List (Option Nat)) (path : Option Path) :
    Option (List (String × J)) :=
  match (nodes.filterMap id).mapM (indexToLoc text) with
  | none => none                                   -- IndexError out of index_to_loc
  | some locs =>
    let pathTruthy := match path with | some (_ :: _) => true | _ => false
    some ((if msg != "" || locatedKeepsEmptyMessage then [("message", J.str msg)] else [])
      ++ (if locs.isEmpty then [] else [("locations", J.arr (locs.map (locJ locatedLineKey locatedColKey)))])
      ++ (if pathTruthy then [("path", J.arr ((path.getD []).map Seg.toJ))] else []))

def Err.toDict (text : Text) : Err → Option J
  | .syntax msg position =>
    match indexToLoc text position with
    | none => none
    | some lc => some (.obj [("message", .str msg), ("locations", .arr [locJ syntaxLineKey syntaxColKey lc])])
  | .located msg nodes path => (locatedDict text msg nodes path).map J.obj
  | .resolver msg nodes path ext =>
    (locatedDict text msg nodes path).map fun kvs =>
      match ext with
      | some (e :: es) => J.obj (kvs ++ [(resolverExtKey, J.obj (e :: es))])   -- `if self.extensions:`
      | _ => J.obj kvs
  | .execution msg => some (.obj [("message", .str msg)])

/-! ### `GraphQLResult` -/

structure Result where
  /-- `none` = `_UNSET` -/
  data : Option J
  errors : List Err
  /-- `GraphQLExtension`s added with `add_extension`: (name, payload) -/
  extensions : List (String × J) := []
  deriving Inhabited

/-- `GraphQLResult.response()`; `none` = an exception out of some `to_dict` -/
def Result.response (text : Text) (r : Result) : Option J :=
  match r.errors.mapM (Err.toDict text) with
  | none => none
  | some errs =>
    some (.obj ((if errs.isEmpty then [] else [("errors", J.arr errs)])
      ++ (match r.data with | some d => [("data", d)] | none => [])
      ++ (if r.extensions.isEmpty then [] else [("extensions", J.obj r.extensions)])))

/-! ### `process_graphql_query` over abstract stage outcomes -/

structure Stages where
  /-- `some (str(err), err._render_position())` when `parse` raised `GraphQLSyntaxError`: the position `to_dict` renders
      (`err.position` clamped into the text) -/
  parse : Option (String × Nat)
  /-- `validate_ast(...).errors` -/
  validate : List Err
  /-- message of the `InvalidOperationError` of `get_operation_with_type` (or of `execute`) -/
  getOp : Option String
  /-- `VariablesCoercionError.errors` -/
  coerce : List Err
  /-- `GraphQLResult(data=data, errors=executor.errors)` of `execute` -/
  exec : J × List Err
  deriving Inhabited

/-- `_abort(...)`: `GraphQLResult(*args, **kwargs)`; `data=None` iff the call site passes it -/
def abort (passesData : Bool) (errors : List Err) : Result :=
  { data := if passesData then some .null else none, errors := errors }

def processQuery (s : Stages) : Result :=
  match s.parse with
  | some (m, p) => abort abortSyntaxPassesData [.syntax m p]
  | none =>
    if !s.validate.isEmpty then abort abortValidationPassesData s.validate
    else match s.getOp with
      | some m => abort abortExecutionPassesData [.execution m]
      | none =>
        if !s.coerce.isEmpty then abort abortCoercionPassesData s.coerce
        else { data := some s.exec.1, errors := s.exec.2 }

/-- which stage failed (for the statement about `data`) -/
def Stages.documentRejected (s : Stages) : Bool := s.parse.isSome || !s.validate.isEmpty

/-! ### the executor's error capture -/

mutual
/-- what the resolvers / serialisers produced below one field (typed by the schema) -/
inductive Out where
  /-- resolver (or a serialiser) returned `None` -/
  | null
  /-- serialised leaf value (scalar / enum) -/
  | leaf (v : J)
  | list (items : OutList)
  /-- object value: the executed sub-fields in execution order -/
  | obj (fields : FldList)
  /-- the field's resolver raised `ResolverError(msg, extensions=ext)`, or its ARGUMENTS failed to coerce at
      execution time (`CoercionError`, `ext = none`): both go through `fail` of `resolve_field`
      (only directly below a field). Error objects are VALUES here: aliasing of one exception object
      between registrations (finding X6, the seeded cache-of-failures change) is visible only to the
      correspondence and the direct oracle. -/
  | raised (msg : String) (ext : Option (List (String × J)))
inductive OutList where
  | nil
  | cons (o : Out) (rest : OutList)
/-- response key, field type, `loc[0]` of the field nodes grouped under the key, outcome -/
inductive FldList where
  | nil
  | cons (key : String) (ty : Ty) (nodes : List Nat) (o : Out) (rest : FldList)
end

instance : Inhabited Out := ⟨.null⟩
instance : Inhabited OutList := ⟨.nil⟩
instance : Inhabited FldList := ⟨.nil⟩

/-- the type below one non-null wrapper -/
def innerTy : Ty → Ty
  | .nonNull t => t
  | t => t

def nonNullMessage (path : Path) : String := "Field \"" ++ stringifyPath path ++ "\" is not nullable"

/-- `_handle_non_nullable_value` applied to the completed inner value (when the type is non-null) -/
def nonNullWrap (isNN : Bool) (nodes : List Nat) (path : Path) (r : Option (J × List Err)) : Option (J × List Err) :=
  match r with
  | none => none
  | some (v, es) =>
    if isNN && v.isNull then
      some (v, es ++ [.resolver (nonNullMessage path) (nodes.map some) (some path) none])
    else some (v, es)

def Out.isRaised : Out → Bool
  | .raised _ _ => true
  | _ => false

mutual
/-- `complete_value` below the non-null wrapper; with `atField = true` preceded by the resolver call
    of `resolve_field`: a raised `ResolverError` is recorded (`fail`) with the field's first node and
    path and the field is `None` — no completion, hence no second error.
    `none` = `RuntimeError` / not a value of the type (programming error, propagates by design). -/
def completeInner (atField : Bool) (t : Ty) (nodes : List Nat) (path : Path) : Out → Option (J × List Err)
  | .null => some (.null, [])
  | .raised msg ext =>
    if atField then some (J.null, [Err.resolver msg [nodes.head?] (some path) ext]) else none
  | .leaf v => match t with
    | .named _ => some (v, [])
    | _ => none
  | .list items => match t with
    | .list it => (completeList it nodes path 0 items).map fun (vs, es) => (J.arr vs, es)
    | _ => none
  | .obj fields => match t with
    | .named _ => (executeFields path fields).map fun (kvs, es) => (J.obj kvs, es)
    | _ => none
/-- `complete_list_value`: items in order, path `path + [index]` -/
def completeList (it : Ty) (nodes : List Nat) (path : Path) (i : Nat) : OutList → Option (List J × List Err)
  | .nil => some ([], [])
  | .cons o rest =>
    match nonNullWrap it.isNonNull nodes (path ++ [.idx i]) (completeInner false (innerTy it) nodes (path ++ [.idx i]) o) with
    | none => none
    | some (v, e1) =>
      match completeList it nodes path (i + 1) rest with
      | none => none
      | some (vs, e2) => some (v :: vs, e1 ++ e2)
/-- `execute_fields` + `resolve_field`, fields in execution order, path `path + [key]` -/
def executeFields (path : Path) : FldList → Option (List (String × J) × List Err)
  | .nil => some ([], [])
  | .cons key ty nodes o rest =>
    match nonNullWrap (ty.isNonNull && !o.isRaised) nodes (path ++ [.key key])
        (completeInner true (innerTy ty) nodes (path ++ [.key key]) o) with
    | none => none
    | some (v, e1) =>
      match executeFields path rest with
      | none => none
      | some (kvs, e2) => some ((key, v) :: kvs, e1 ++ e2)
end

/-- `complete_value(field_type, nodes, path, info, resolved_value)` -/
def completeValue (ty : Ty) (nodes : List Nat) (path : Path) (o : Out) : Option (J × List Err) :=
  nonNullWrap ty.isNonNull nodes path (completeInner false (innerTy ty) nodes path o)

/-- `execute(...)`'s `GraphQLResult(data=…, errors=executor.errors)` for the root selection -/
def execute (root : FldList) : Option (J × List Err) :=
  (executeFields [] root).map fun (kvs, es) => (J.obj kvs, es)

/-- `execute(...)` as a whole: the ROOT selection set is collected first. When that fails (an invalid
    `@skip` / `@include` condition at run time: `collect_fields` raises, re-raised as `ResolverError` with the
    directive's nodes) the answer is `GraphQLResult(data=None, errors=[err])`: `data` is null, ONE error, and the
    error has NO path (it is never passed through `add_error`). -/
def executeRequest (rootCollect : Option (String × List (Option Nat))) (root : FldList) : Option (J × List Err) :=
  match rootCollect with
  | some (msg, nodes) => some (J.null, [Err.resolver msg nodes none none])
  | none => execute root

def Err.path? : Err → Option Path
  | .located _ _ p => p
  | .resolver _ _ p _ => p
  | _ => none

/-- value reached in `data` by following a path (`none` = not reachable) -/
def dataAt : J → Path → Option J
  | v, [] => some v
  | .obj kvs, .key k :: rest => match kvs.find? (·.1 == k) with
    | some (_, v) => dataAt v rest
    | none => none
  | .arr vs, .idx i :: rest => match vs[i]? with
    | some v => dataAt v rest
    | none => none
  | _, _ => none

end PyGql.Response
