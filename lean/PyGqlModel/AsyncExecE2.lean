/-
  C08 — finding E2 inside the model: a LIST completion that raises after earlier items' sub-resolvers
  were started.

  `Executor.complete_list_value` feeds `gather_values` with the GENERATOR
  `(complete_value(inner, path + [i], entry) for i, entry in enumerate(resolved_value))`. When, after
  `items` have been completed (their sub-field resolvers are submitted: pending Futures),
    * the lazy iterable returned by the resolver raises ResolverError mid-iteration, or
    * the next entry is of an abstract type whose `resolve_type` raises ResolverError,
  the exception leaves the generator inside `gather_futures`'s `list(source)`, propagates out of
  `complete_value` and is caught by `else_=(BaseException, on_error)` / `fail` of `resolve_field`:
  the list field is null with one error at its path. The Futures of the earlier items are referenced
  by nobody any more (*orphans*): their tasks are still in the pool's queue, and when one completes
  its callbacks still run (`complete` → `fail` → `add_error` on the shared executor) — but the
  response is assembled when the ROOT Future finishes, from `executor.errors` as it is THEN.

  `BlockingExecutor` completes every earlier item entirely before the iterable is asked for the next
  entry, so it reports all their field errors.

  The operation form: root fields `before`, the failing list field `key` (its own resolver is
  synchronous), root fields `after`. Everything else (`completeItems`, `resolveFields`, `gatherValues`,
  `mapValue`, `deliver`, `applyCont`, `blockItems`, `blockFields`) is the code model of AsyncExec.lean,
  unchanged.
-/
import PyGqlModel.AsyncExec

namespace PyGql.AsyncExec.E2

structure Op where
  before : Flds
  key : String
  items : Comps          -- the entries completed before the raise
  after : Flds

def Op.keys (op : Op) : List String := op.before.keys ++ op.key :: op.after.keys

def Op.path (op : Op) : Path := [.key op.key]

def appendNodes : Nodes → Nodes → Nodes
  | .nil, ms => ms
  | .cons n ns, ms => .cons n (appendNodes ns ms)

/-- `Executor.resolve_field` of the failing list field: the resolver runs now and returns the iterable;
    `complete` → `complete_list_value` consumes `items`, then the generator raises ResolverError, which
    `fail` turns into a field error. Third component: the nodes of the items completed so far — nobody holds
    them any more. (An earlier item raising by itself — `RuntimeError` of `bad`, an unexpected exception of a
    synchronous sub-resolver — propagates as in `resolveField`.) -/
def resolveListField (path : Path) (items : Comps) (s : ExecSt) : Res Node × ExecSt × List Node :=
  let s := (s.emit (.call path)).emit (.done path)
  match completeItems path 0 items s with
  | (.exc .resolver, s1) => let (n, s') := failField path s1; (.ok n, s', [])
  | (.exc e, s1) => (.exc e, s1, [])
  | (.ok ns, s1) => let (n, s') := failField path s1; (.ok n, s', ns.toList.filter Node.isPending)

/-- the loop of `execute_fields` over `before`, the list field, `after` -/
def resolveRoot (op : Op) (s : ExecSt) : Res Nodes × ExecSt × List Node :=
  match resolveFields [] op.before s with
  | (.exc e, s1) => (.exc e, s1, [])
  | (.ok ns1, s1) =>
    match resolveListField op.path op.items s1 with
    | (.exc e, s2, o) => (.exc e, s2, o)
    | (.ok n, s2, o) =>
      match resolveFields [] op.after s2 with
      | (.exc e, s3) => (.exc e, s3, o)
      | (.ok ns2, s3) => (.ok (appendNodes ns1 (.cons n ns2)), s3, o)

/-- `execute` for a query: `map_value(unwrap_value(execute_fields(…)), _on_finish)` -/
def execute (op : Op) (s : ExecSt) : Res Node × ExecSt × List Node :=
  match resolveRoot op s with
  | (.exc e, s1, o) => (.exc e, s1, o)
  | (.ok pending, s1, o) =>
    match mapValue applySimple (gatherValues pending) (.collect op.keys) s1 with
    | (.exc e, s2) => (.exc e, s2, o)
    | (.ok n, s2) =>
      let (r, s3) := mapValue applyCont (unwrapValue n) .onFinish s2
      (r, s3, o)

/-- complete task `t` wherever it lives among the orphans (ids are unique: at most one node changes) -/
def deliverAll (t : Nat) : List Node → ExecSt → List Node × ExecSt
  | [], s => ([], s)
  | n :: ns, s =>
    let (n', s1) := deliver applyCont t n s
    let (ns', s2) := deliverAll t ns s1
    (n' :: ns', s2)

/-- one completion: the task's Future is set; the callbacks run wherever the Future is referenced -/
def stepSched (top : Node) (orph : List Node) (s : ExecSt) (i : Nat) : Node × List Node × ExecSt :=
  let j := i % s.queue.length
  match s.queue[j]? with
  | none => (top, orph, s)
  | some t =>
    let (top', s1) := deliver applyCont t top { s with queue := removeAt s.queue j }
    let (orph', s2) := deliverAll t orph s1
    (top', orph', s2)

structure RunOut where
  top : Node
  orphans : List Node
  st : ExecSt
  sizes : List Nat

/-- complete tasks in the order of the schedule until the ROOT Future is finished (the response is built
    there and then), no task is outstanding, or the schedule ends -/
def runSched (top : Node) (orph : List Node) (s : ExecSt) (sizes : List Nat) : List Nat → RunOut
  | [] => ⟨top, orph, s, sizes⟩
  | i :: rest =>
    if top.finished || s.queue.isEmpty then ⟨top, orph, s, sizes⟩
    else
      let (top', orph', s') := stepSched top orph s i
      runSched top' orph' s' (sizes ++ [s.queue.length]) rest

/-- the generic executor on the thread-pool runtime, under a schedule -/
def runAsync (op : Op) (schedule : List Nat) : Result :=
  match execute op {} with
  | (.exc e, s, _) => ⟨.failed e, s.trace, []⟩
  | (.ok top, s, o) =>
    let r := runSched top o s [] schedule
    ⟨outcomeOf r.top r.st, r.st.trace, r.sizes⟩

/-- `BlockingExecutor.resolve_field` of the failing list field: every earlier entry is completed entirely
    (sub-resolvers run, their errors are recorded), then the iterable raises: `except ResolverError`. -/
def blockListField (p : Path) (items : Comps) (s : ExecSt) : Res V × ExecSt :=
  let s := (s.emit (.call p)).emit (.done p)
  match blockItems p 0 items s with
  | (.exc .resolver, s1) => (.ok .null, s1.addError p .resolver)
  | (.exc e, s1) => (.exc e, s1)
  | (.ok _, s1) => (.ok .null, s1.addError p .resolver)

def runBlocking (op : Op) : Result :=
  match blockFields [] op.before {} with
  | (.exc e, s) => ⟨.failed e, s.trace, []⟩
  | (.ok kvs1, s1) =>
    match blockListField op.path op.items s1 with
    | (.exc e, s2) => ⟨.failed e, s2.trace, []⟩
    | (.ok v, s2) =>
      match blockFields [] op.after s2 with
      | (.exc e, s3) => ⟨.failed e, s3.trace, []⟩
      | (.ok kvs2, s3) => ⟨.ok (.obj (kvs1 ++ (op.key, v) :: kvs2)) s3.errors, s3.trace, []⟩


/-! ### the same under `execute_fields_serially` (mutations): the failing list field is the FIRST root field -/

/-- `_next` pops the list field; `resolve_field` returns None at once (field error recorded, the earlier items' Futures
    orphaned), `cb` runs inline and the serial chain carries on with `after` (`op.before` is not used: it must be empty —
    a failing field behind a deferred one would have to travel inside `Cont.serialCb`'s `args : Flds`). -/
def executeSerial (op : Op) (s : ExecSt) : Res Node × ExecSt × List Node :=
  match resolveListField op.path op.items s with
  | (.exc e, s1, o) => (.exc e, s1, o)
  | (.ok (.val (.data v)), s1, o) =>
    match serialNext [] [(op.key, v)] op.after s1 with
    | (.exc e, s2) => (.exc e, s2, o)
    | (.ok n, s2) =>
      let (r, s3) := mapValue applyCont (unwrapValue n) .onFinish s2
      (r, s3, o)
  | (.ok _, s1, o) => (.ok (.val .junk), s1, o)

/-- the generic executor, mutation `{ key … after }`, thread-pool runtime, under a schedule -/
def runAsyncSerial (op : Op) (schedule : List Nat) : Result :=
  match executeSerial op {} with
  | (.exc e, s, _) => ⟨.failed e, s.trace, []⟩
  | (.ok top, s, o) =>
    let r := runSched top o s [] schedule
    ⟨outcomeOf r.top r.st, r.st.trace, r.sizes⟩

end PyGql.AsyncExec.E2
