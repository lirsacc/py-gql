/-
  Token-level model of `py_gql/lang/parser.py` — part 1: parser state, `peek / advance / expect /
  expect_keyword / skip`, the combinators `many / any_ / delimited_list`, `_loc`, names, types, values,
  arguments and directives.  Function by function, names kept (`parse_value_literal` → `parseValueLiteral`).

  * The token list is the lexer's output `SOF … EOF` (the lexer is modelled in `Lex.lean`).
  * State = remaining tokens + `_last` (the last token consumed by `advance`, used by `_loc`).
  * Python's `while` loops / recursion take `fuel`; the entry points (ParseDoc.lean) start with
    `tokens.length + 1`, which is enough for every accepted input (`Lemmas/Parse*.lean`: completeness holds for
    every fuel larger than the number of tokens of the construct; for rejected inputs see `Props/C01_lazy.lean`).
  * L5 is fixed in /repo (fix C01-L5) and modelled so: keyword tests also require class `Name`.
  Import-free (core Lean + Token + Ast + the generated tables).
-/
import PyGqlModel.Token
import PyGqlModel.Ast
import PyGqlModel.Generated.ParserTables
namespace PyGql.Parse
open PyGql PyGql.Ast

/-- the three keyword arguments of `Parser.__init__` -/
structure Flags where
  noLocation : Bool := false
  allowTypeSystem : Bool := false
  experimentalFragmentVariables : Bool := false
  deriving Repr, DecidableEq, Inhabited

/-- `GraphQLSyntaxError` (position, message). Messages / positions are never compared. -/
structure SynErr where
  pos : Nat
  msg : String
  /-- the error class: `UnexpectedEOF` (true) or `UnexpectedToken` (false) -/
  eof : Bool := false
  deriving Repr, DecidableEq, Inhabited

/-- parser state: the tokens not yet consumed (`_lexer` + `_buffer`) and `_last` -/
structure PS where
  toks : List Tok
  last : Tok
  deriving Repr, DecidableEq, Inhabited

/-- a `Parser` method returning `α` -/
def P (α : Type) := PS → Except SynErr (α × PS)

namespace P
@[inline] protected def pure (a : α) : P α := fun s => .ok (a, s)
@[inline] protected def bind (m : P α) (f : α → P β) : P β := fun s =>
  match m s with
  | .ok (a, s') => f a s'
  | .error e => .error e
instance : Monad P where
  pure := P.pure
  bind := P.bind
end P

/-- `raise _unexpected_token(tok, tok.start, …)` for the NEXT token `tok = self.peek()`:
    `UnexpectedEOF` if it is `<EOF>`, else `UnexpectedToken`, at its start -/
def fail (msg : String) : P α := fun s =>
  match s.toks with
  | t :: _ => .error { pos := t.start, msg := msg, eof := t.kind = .eof }
  | [] => .error { pos := s.last.stop, msg := msg, eof := true }

/-- `raise UnexpectedToken(…, next_token.start, …)` (`expect`, `expect_keyword`): never `UnexpectedEOF` -/
def failTok (msg : String) : P α := fun s =>
  match s.toks with
  | t :: _ => .error { pos := t.start, msg := msg, eof := false }
  | [] => .error { pos := s.last.stop, msg := msg, eof := true }

/-- `raise _unexpected_token(t, t.start, …)` for an already inspected / consumed token `t` -/
def failAt (t : Tok) (msg : String) : P α := fun _ =>
  .error { pos := t.start, msg := msg, eof := t.kind = .eof }

/-- `raise UnexpectedToken(…, t.start, …)` for an already inspected / consumed token `t` -/
def failTokAt (t : Tok) (msg : String) : P α := fun _ =>
  .error { pos := t.start, msg := msg, eof := false }

/-! ### keywords (code points) -/
namespace K
/-- `"on"` -/ def on : Text := [111, 110]
/-- `"query"` -/ def query : Text := [113, 117, 101, 114, 121]
/-- `"mutation"` -/ def mutation : Text := [109, 117, 116, 97, 116, 105, 111, 110]
/-- `"subscription"` -/ def subscription : Text := [115, 117, 98, 115, 99, 114, 105, 112, 116, 105, 111, 110]
/-- `"fragment"` -/ def fragment : Text := [102, 114, 97, 103, 109, 101, 110, 116]
/-- `"true"` -/ def true_ : Text := [116, 114, 117, 101]
/-- `"false"` -/ def false_ : Text := [102, 97, 108, 115, 101]
/-- `"null"` -/ def null_ : Text := [110, 117, 108, 108]
/-- `"implements"` -/ def implements : Text := [105, 109, 112, 108, 101, 109, 101, 110, 116, 115]
/-- `"extend"` -/ def extend : Text := [101, 120, 116, 101, 110, 100]
/-- `"schema"` -/ def schema : Text := [115, 99, 104, 101, 109, 97]
/-- `"scalar"` -/ def scalar : Text := [115, 99, 97, 108, 97, 114]
/-- `"type"` -/ def type_ : Text := [116, 121, 112, 101]
/-- `"interface"` -/ def interface_ : Text := [105, 110, 116, 101, 114, 102, 97, 99, 101]
/-- `"union"` -/ def union : Text := [117, 110, 105, 111, 110]
/-- `"enum"` -/ def enum_ : Text := [101, 110, 117, 109]
/-- `"input"` -/ def input : Text := [105, 110, 112, 117, 116]
/-- `"directive"` -/ def directive : Text := [100, 105, 114, 101, 99, 116, 105, 118, 101]
end K

/-! ### `peek`, `advance`, `expect`, `expect_keyword`, `skip`, `_loc` -/

/-- `self.peek()` (raises `UnexpectedEOF` when nothing is left) -/
def peek : P Tok := fun s =>
  match s.toks with
  | t :: _ => .ok (t, s)
  | [] => .error { pos := s.last.stop, msg := "Unexpected <EOF>", eof := true }

/-- `self.peek(2)` -/
def peek2 : P Tok := fun s =>
  match s.toks with
  | _ :: t :: _ => .ok (t, s)
  | _ => .error { pos := s.last.stop, msg := "Unexpected <EOF>", eof := true }

/-- `self.advance()`: sets `_last` -/
def advance : P Tok := fun s =>
  match s.toks with
  | t :: ts => .ok (t, { toks := ts, last := t })
  | [] => .error { pos := s.last.stop, msg := "Unexpected <EOF>", eof := true }

/-- `self.expect(kind)` -/
def expect (k : TokKind) : P Tok := do
  let t ← peek
  if t.kind = k then advance else failTok "Expected other token kind"

/-- `self.expect_keyword(keyword)` -/
def expectKeyword (kw : Text) : P Tok := do
  let t ← peek
  if t.kind = .name ∧ t.value = kw then advance else failTok "Expected keyword"

/-- `self.skip(kind)` -/
def skip (k : TokKind) : P Bool := do
  let t ← peek
  if t.kind = k then do
    let _ ← advance
    pure true
  else pure false

/-- `(start.start, self._last.end)` or `None` -/
def locOf (fl : Flags) (start last : Tok) : Loc :=
  if fl.noLocation then none else some (start.start, last.stop)

/-- `self._loc(start)` -/
def mkLoc (fl : Flags) (start : Tok) : P Loc := fun s => .ok (locOf fl start s.last, s)

/-! ### combinators -/

/-- the `while True: nodes.append(parse_fn()); if self.skip(close_kind): break` loop of `many` -/
def manyLoop (p : P α) (close : TokKind) : Nat → P (List α)
  | 0 => fail "fuel"
  | n + 1 => do
    let x ← p
    if (← skip close) then pure [x]
    else do
      let xs ← manyLoop p close n
      pure (x :: xs)

/-- `self.many(open_kind, parse_fn, close_kind)` -/
def many (fuel : Nat) (opn : TokKind) (p : P α) (close : TokKind) : P (List α) := do
  let _ ← expect opn
  manyLoop p close fuel

/-- the `while not self.skip(close_kind): nodes.append(parse_fn())` loop of `any_` -/
def anyLoop (p : P α) (close : TokKind) : Nat → P (List α)
  | 0 => fail "fuel"
  | n + 1 => do
    if (← skip close) then pure []
    else do
      let x ← p
      let xs ← anyLoop p close n
      pure (x :: xs)

/-- `self.any_(open_kind, parse_fn, close_kind)` -/
def any_ (fuel : Nat) (opn : TokKind) (p : P α) (close : TokKind) : P (List α) := do
  let _ ← expect opn
  anyLoop p close fuel

/-- the loop of `delimited_list`: `items.append(parse_fn()); if not self.skip(delimiter): break` -/
def delimLoop (p : P α) (delim : TokKind) : Nat → P (List α)
  | 0 => fail "fuel"
  | n + 1 => do
    let x ← p
    if (← skip delim) then do
      let xs ← delimLoop p delim n
      pure (x :: xs)
    else pure [x]

/-- `self.delimited_list(delimiter, parse_fn)` -/
def delimitedList (fuel : Nat) (delim : TokKind) (p : P α) : P (List α) := do
  let _ ← skip delim
  delimLoop p delim fuel

/-! ### names and types -/

/-- `parse_name` -/
def parseName (fl : Flags) : P Name := do
  let token ← expect .name
  pure { value := token.value, loc := ← mkLoc fl token }

/-- `parse_named_type` -/
def parseNamedType (fl : Flags) : P NamedType := do
  let start ← peek
  let name ← parseName fl
  pure { name := name, loc := ← mkLoc fl start }

/-- the `if self.skip(BracketOpen): … else: …` part of `parse_type_reference` (recursive call = `rec_`) -/
def parseTypeInner (fl : Flags) (rec_ : P TypeRef) (start : Tok) : P TypeRef := do
  if (← skip .bracketL) then do
    let inner ← rec_
    let _ ← expect .bracketR
    pure (TypeRef.list inner (← mkLoc fl start))
  else do
    let t ← parseNamedType fl
    pure (TypeRef.named t)

/-- `parse_type_reference` -/
def parseTypeReference (fl : Flags) : Nat → P TypeRef
  | 0 => fail "fuel"
  | n + 1 => do
    let start ← peek
    let type_ ← parseTypeInner fl (parseTypeReference fl n) start
    if (← skip .bang) then pure (TypeRef.nonNull type_ (← mkLoc fl start))
    else pure type_

/-! ### values -/

/-- `parse_variable` -/
def parseVariable (fl : Flags) : P Variable := do
  let start ← peek
  let _ ← expect .dollar
  let name ← parseName fl
  pure { name := name, loc := ← mkLoc fl start }

/-- `parse_string_literal` -/
def parseStringLiteral (fl : Flags) : P StringValue := do
  let token ← advance
  pure { value := token.value, block := token.kind = .blockString, loc := ← mkLoc fl token }

/-- `parse_object_field(const)`, the recursive call abstracted as `pv` -/
def parseObjectFieldWith (fl : Flags) (pv : P Value) : P ObjectField := do
  let start ← peek
  let name ← parseName fl
  let _ ← expect .colon
  let value ← pv
  pure (.mk name value (← mkLoc fl start))

/-- `parse_value_literal(const)` with `parse_list` / `parse_object` inlined -/
def parseValueLiteral (fl : Flags) : Nat → Bool → P Value
  | 0, _ => fail "fuel"
  | n + 1, const => do
    let token ← peek
    match token.kind with
    | .bracketL => do
      -- parse_list
      let values ← any_ n .bracketL (parseValueLiteral fl n const) .bracketR
      pure (.list values (← mkLoc fl token))
    | .curlyL => do
      -- parse_object
      let start ← expect .curlyL
      let fields ← anyLoop (parseObjectFieldWith fl (parseValueLiteral fl n const)) .curlyR n
      pure (.object fields (← mkLoc fl start))
    | .int => do
      let _ ← advance
      pure (.int token.value (← mkLoc fl token))
    | .float => do
      let _ ← advance
      pure (.float token.value (← mkLoc fl token))
    | .string => do
      let s ← parseStringLiteral fl
      pure (.string s)
    | .blockString => do
      let s ← parseStringLiteral fl
      pure (.string s)
    | .name =>
      if token.value = K.true_ ∨ token.value = K.false_ then do
        let _ ← advance
        pure (.boolean (token.value = K.true_) (← mkLoc fl token))
      else if token.value = K.null_ then do
        let _ ← advance
        pure (.null (← mkLoc fl token))
      else do
        let _ ← advance
        pure (.enum token.value (← mkLoc fl token))
    | .dollar =>
      if const then fail "Unexpected $"
      else do
        let v ← parseVariable fl
        pure (.var v)
    | _ => fail "Unexpected token"

/-- `parse_object_field(const)` -/
def parseObjectField (fl : Flags) (fuel : Nat) (const : Bool) : P ObjectField :=
  parseObjectFieldWith fl (parseValueLiteral fl fuel const)

/-! ### arguments and directives -/

/-- `parse_argument(const)` -/
def parseArgument (fl : Flags) (fuel : Nat) (const : Bool) : P Argument := do
  let start ← peek
  let name ← parseName fl
  let _ ← expect .colon
  let value ← parseValueLiteral fl fuel const
  pure { name := name, value := value, loc := ← mkLoc fl start }

/-- `parse_arguments(const)` -/
def parseArguments (fl : Flags) (fuel : Nat) (const : Bool) : P (List Argument) := do
  if (← peek).kind = .parenL then many fuel .parenL (parseArgument fl fuel const) .parenR
  else pure []

/-- `parse_directive(const)` -/
def parseDirective (fl : Flags) (fuel : Nat) (const : Bool) : P Directive := do
  let start ← expect .atSign
  let name ← parseName fl
  let arguments ← parseArguments fl fuel const
  pure { name := name, arguments := arguments, loc := ← mkLoc fl start }

/-- the `while self.peek().__class__ is At` loop of `parse_directives` -/
def directivesLoop (fl : Flags) (fuel : Nat) (const : Bool) : Nat → P (List Directive)
  | 0 => fail "fuel"
  | n + 1 => do
    if (← peek).kind = .atSign then do
      let d ← parseDirective fl fuel const
      let ds ← directivesLoop fl fuel const n
      pure (d :: ds)
    else pure []

/-- `parse_directives(const)` -/
def parseDirectives (fl : Flags) (fuel : Nat) (const : Bool) : P (List Directive) :=
  directivesLoop fl fuel const fuel

end PyGql.Parse
