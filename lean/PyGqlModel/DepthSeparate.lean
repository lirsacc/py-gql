/-
  C19 — MODEL of `_skip_unless_unknown` after proposed_fixes/C19-H4.patch (utilities/max_depth.py): `@skip` and `@include`
  are evaluated ON THEIR OWN, each inside its own `try … except CoercionError: pass`; the selection is excluded as soon as
  one of them is KNOWN to exclude it, an unevaluable one decides nothing:

      try:    skip = directive_arguments(SkipDirective, node, variables=variables)
              if skip is not None and skip["if"]: return True
      except CoercionError: pass
      try:    include = directive_arguments(IncludeDirective, node, variables=variables)
              if include is not None and not include["if"]: return True
      except CoercionError: pass
      return False

  (the hook of C19-Q1vars2 wraps BOTH evaluations in one `try`: `@skip(if: true) @include(if: $unknown)` is KEPT — `skipSelectionT`.)
  The rules below are `ruleF` / `ruleM` with this hook. No import from outside the project.
-/
import PyGqlModel.DepthFrontier
import PyGqlModel.DepthMerged

namespace PyGql.Depth

/-- the directive was evaluated and its `if` is true -/
def knownTrue : Except Err (Option Bool) → Bool
  | .ok (some true) => true
  | _ => false

/-- the directive was evaluated and its `if` is false -/
def knownFalse : Except Err (Option Bool) → Bool
  | .ok (some false) => true
  | _ => false

/-- `_skip_unless_unknown(node, variables)` after C19-H4 -/
def skipSelectionT3 (d : Dirs) (vars : Vars) : Except Err Bool :=
  .ok (knownTrue (evalOpt vars d.skip) || knownFalse (evalOpt vars d.incl))

def depthFixedFB3 (budget : Nat) (op : Op) (frags : List Frag) (vars : Vars) : Except Err (Option Nat) :=
  match depthFixedFG skipSelectionT3 budget op frags vars with
  | .ok d => .ok (some d)
  | .error .recursion => .ok none
  | .error e => .error e

/-- the rule with the frontier loop (C19-Q3) and the hook of C19-H4 -/
def ruleF3 (limit : Nat) (filter : Option String) (doc : Doc) (defs : List (List VarDefR)) (raw : RawVars) :
    Except Err (List (Nat × Option Nat)) :=
  ruleLoopB (fun i op => depthFixedFB3 doc.budget op doc.frags (effectiveVarsR (defs.getD i []) raw))
    limit filter 0 doc.ops

def depthFixedMB3 (budget : Nat) (op : Op) (frags : List Frag) (vars : Vars) : Except Err (Option Nat) :=
  match depthFixedMG skipSelectionT3 budget op frags vars with
  | .ok d => .ok (some d)
  | .error .recursion => .ok none
  | .error e => .error e

/-- the rule with the level-merged loop (C19-H3) and the hook of C19-H4 -/
def ruleM3 (limit : Nat) (filter : Option String) (doc : Doc) (defs : List (List VarDefR)) (raw : RawVars) :
    Except Err (List (Nat × Option Nat)) :=
  ruleLoopB (fun i op => depthFixedMB3 doc.budget op doc.frags (effectiveVarsR (defs.getD i []) raw))
    limit filter 0 doc.ops

end PyGql.Depth
