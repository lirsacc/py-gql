/-
  `mapLoc f`: apply `f` to every position (`loc`) of a tree.  `erase` (`Erase.lean`, a definition of its own; no lemma relates
  the two) computes what `mapLoc (fun _ => none)` computes; `mapLoc (locDown d)` (`locDown`: `Lemmas/ItemSlice.lean`; every
  span moved `d` characters to the left) is the meaning of "equal modulo offset" in C02's `span_reparse`.
  Import-free (Ast only).  Mechanically derived from `Erase.lean`.
-/
import PyGqlModel.Ast
namespace PyGql.Ast


def Name.mapLoc (f : Loc → Loc) (n : Name) : Name := { n with loc := f n.loc }
def NamedType.mapLoc (f : Loc → Loc) (t : NamedType) : NamedType := { name := (t.name.mapLoc f), loc := f t.loc }

def TypeRef.mapLoc (f : Loc → Loc) : TypeRef → TypeRef
  | .named t => .named (t.mapLoc f)
  | .list t loc => .list (t.mapLoc f) (f loc)
  | .nonNull t loc => .nonNull (t.mapLoc f) (f loc)

def Variable.mapLoc (f : Loc → Loc) (v : Variable) : Variable := { name := (v.name.mapLoc f), loc := f v.loc }
def StringValue.mapLoc (f : Loc → Loc) (s : StringValue) : StringValue := { s with loc := f s.loc }

mutual
def Value.mapLoc (f : Loc → Loc) : Value → Value
  | .var v => .var (v.mapLoc f)
  | .int v loc => .int v (f loc)
  | .float v loc => .float v (f loc)
  | .string s => .string (s.mapLoc f)
  | .boolean b loc => .boolean b (f loc)
  | .null loc => .null (f loc)
  | .enum v loc => .enum v (f loc)
  | .list vs loc => .list (mapLocValues f vs) (f loc)
  | .object fs loc => .object (mapLocFields f fs) (f loc)
def mapLocValues (f : Loc → Loc) : List Value → List Value
  | [] => []
  | v :: vs => (v.mapLoc f) :: mapLocValues f vs
def ObjectField.mapLoc (f : Loc → Loc) : ObjectField → ObjectField
  | .mk name value loc => .mk (name.mapLoc f) (value.mapLoc f) (f loc)
def mapLocFields (f : Loc → Loc) : List ObjectField → List ObjectField
  | [] => []
  | x :: fs => (x.mapLoc f) :: mapLocFields f fs
end

def Argument.mapLoc (f : Loc → Loc) (a : Argument) : Argument := { name := (a.name.mapLoc f), value := (a.value.mapLoc f), loc := f a.loc }
def Directive.mapLoc (f : Loc → Loc) (d : Directive) : Directive :=
  { name := (d.name.mapLoc f), arguments := d.arguments.map (Argument.mapLoc f), loc := f d.loc }
def VariableDefinition.mapLoc (f : Loc → Loc) (d : VariableDefinition) : VariableDefinition :=
  { var := (d.var.mapLoc f), type := (d.type.mapLoc f), defaultValue := d.defaultValue.map (Value.mapLoc f),
    directives := d.directives.map (Directive.mapLoc f), loc := f d.loc }

mutual
def Selection.mapLoc (f : Loc → Loc) : Selection → Selection
  | .field alias_ name args dirs ss loc =>
    .field (alias_.map (Name.mapLoc f)) (name.mapLoc f) (args.map (Argument.mapLoc f)) (dirs.map (Directive.mapLoc f)) (mapLocOptSS f ss) (f loc)
  | .fragmentSpread name dirs loc => .fragmentSpread (name.mapLoc f) (dirs.map (Directive.mapLoc f)) (f loc)
  | .inlineFragment tc dirs ss loc =>
    .inlineFragment (tc.map (NamedType.mapLoc f)) (dirs.map (Directive.mapLoc f)) (ss.mapLoc f) (f loc)
def SelectionSet.mapLoc (f : Loc → Loc) : SelectionSet → SelectionSet
  | .mk sels loc => .mk (mapLocSelections f sels) (f loc)
def mapLocOptSS (f : Loc → Loc) : Option SelectionSet → Option SelectionSet
  | none => none
  | some ss => some (ss.mapLoc f)
def mapLocSelections (f : Loc → Loc) : List Selection → List Selection
  | [] => []
  | s :: ss => (s.mapLoc f) :: mapLocSelections f ss
end

def OperationDefinition.mapLoc (f : Loc → Loc) (d : OperationDefinition) : OperationDefinition :=
  { operation := d.operation, name := d.name.map (Name.mapLoc f),
    variableDefinitions := d.variableDefinitions.map (VariableDefinition.mapLoc f),
    directives := d.directives.map (Directive.mapLoc f), selectionSet := (d.selectionSet.mapLoc f), loc := f d.loc }

def FragmentDefinition.mapLoc (f : Loc → Loc) (d : FragmentDefinition) : FragmentDefinition :=
  { name := (d.name.mapLoc f), variableDefinitions := d.variableDefinitions.map (VariableDefinition.mapLoc f),
    typeCondition := (d.typeCondition.mapLoc f), directives := d.directives.map (Directive.mapLoc f),
    selectionSet := (d.selectionSet.mapLoc f), loc := f d.loc }

def OperationTypeDefinition.mapLoc (f : Loc → Loc) (d : OperationTypeDefinition) : OperationTypeDefinition :=
  { operation := d.operation, type := (d.type.mapLoc f), loc := f d.loc }

def InputValueDefinition.mapLoc (f : Loc → Loc) (d : InputValueDefinition) : InputValueDefinition :=
  { description := d.description.map (StringValue.mapLoc f), name := (d.name.mapLoc f), type := (d.type.mapLoc f),
    defaultValue := d.defaultValue.map (Value.mapLoc f), directives := d.directives.map (Directive.mapLoc f), loc := f d.loc }

def FieldDefinition.mapLoc (f : Loc → Loc) (d : FieldDefinition) : FieldDefinition :=
  { description := d.description.map (StringValue.mapLoc f), name := (d.name.mapLoc f),
    arguments := d.arguments.map (InputValueDefinition.mapLoc f), type := (d.type.mapLoc f),
    directives := d.directives.map (Directive.mapLoc f), loc := f d.loc }

def EnumValueDefinition.mapLoc (f : Loc → Loc) (d : EnumValueDefinition) : EnumValueDefinition :=
  { description := d.description.map (StringValue.mapLoc f), name := (d.name.mapLoc f),
    directives := d.directives.map (Directive.mapLoc f), loc := f d.loc }

private abbrev eD (f : Loc → Loc) := List.map (Directive.mapLoc f)
private abbrev eS (f : Loc → Loc) := Option.map (StringValue.mapLoc f)

def Definition.mapLoc (f : Loc → Loc) : Definition → Definition
  | .operation d => .operation (d.mapLoc f)
  | .fragment d => .fragment (d.mapLoc f)
  | .schemaDefinition ds ops loc => .schemaDefinition (eD f ds) (ops.map (OperationTypeDefinition.mapLoc f)) (f loc)
  | .scalarTypeDefinition desc n ds loc => .scalarTypeDefinition (eS f desc) (n.mapLoc f) (eD f ds) (f loc)
  | .objectTypeDefinition desc n ifs ds fs loc =>
    .objectTypeDefinition (eS f desc) (n.mapLoc f) (ifs.map (NamedType.mapLoc f)) (eD f ds) (fs.map (FieldDefinition.mapLoc f)) (f loc)
  | .interfaceTypeDefinition desc n ds fs loc =>
    .interfaceTypeDefinition (eS f desc) (n.mapLoc f) (eD f ds) (fs.map (FieldDefinition.mapLoc f)) (f loc)
  | .unionTypeDefinition desc n ds us loc => .unionTypeDefinition (eS f desc) (n.mapLoc f) (eD f ds) (us.map (NamedType.mapLoc f)) (f loc)
  | .enumTypeDefinition desc n ds vs loc =>
    .enumTypeDefinition (eS f desc) (n.mapLoc f) (eD f ds) (vs.map (EnumValueDefinition.mapLoc f)) (f loc)
  | .inputObjectTypeDefinition desc n ds fs loc =>
    .inputObjectTypeDefinition (eS f desc) (n.mapLoc f) (eD f ds) (fs.map (InputValueDefinition.mapLoc f)) (f loc)
  | .directiveDefinition desc n args locs loc =>
    .directiveDefinition (eS f desc) (n.mapLoc f) (args.map (InputValueDefinition.mapLoc f)) (locs.map (Name.mapLoc f)) (f loc)
  | .schemaExtension ds ops loc => .schemaExtension (eD f ds) (ops.map (OperationTypeDefinition.mapLoc f)) (f loc)
  | .scalarTypeExtension n ds loc => .scalarTypeExtension (n.mapLoc f) (eD f ds) (f loc)
  | .objectTypeExtension n ifs ds fs loc =>
    .objectTypeExtension (n.mapLoc f) (ifs.map (NamedType.mapLoc f)) (eD f ds) (fs.map (FieldDefinition.mapLoc f)) (f loc)
  | .interfaceTypeExtension n ds fs loc => .interfaceTypeExtension (n.mapLoc f) (eD f ds) (fs.map (FieldDefinition.mapLoc f)) (f loc)
  | .unionTypeExtension n ds us loc => .unionTypeExtension (n.mapLoc f) (eD f ds) (us.map (NamedType.mapLoc f)) (f loc)
  | .enumTypeExtension n ds vs loc => .enumTypeExtension (n.mapLoc f) (eD f ds) (vs.map (EnumValueDefinition.mapLoc f)) (f loc)
  | .inputObjectTypeExtension n ds fs loc =>
    .inputObjectTypeExtension (n.mapLoc f) (eD f ds) (fs.map (InputValueDefinition.mapLoc f)) (f loc)

def Document.mapLoc (f : Loc → Loc) (d : Document) : Document := { definitions := d.definitions.map (Definition.mapLoc f), loc := f d.loc }

/-! ### `loc` of a node, and the list of all nodes of one kind below a node -/

def TypeRef.loc : TypeRef → Loc
  | .named t => t.loc
  | .list _ loc => loc
  | .nonNull _ loc => loc

def Value.loc : Value → Loc
  | .var v => v.loc
  | .int _ loc => loc
  | .float _ loc => loc
  | .string s => s.loc
  | .boolean _ loc => loc
  | .null loc => loc
  | .enum _ loc => loc
  | .list _ loc => loc
  | .object _ loc => loc

def Definition.loc : Definition → Loc
  | .operation d => d.loc
  | .fragment d => d.loc
  | .schemaDefinition _ _ loc => loc
  | .scalarTypeDefinition _ _ _ loc => loc
  | .objectTypeDefinition _ _ _ _ _ loc => loc
  | .interfaceTypeDefinition _ _ _ _ loc => loc
  | .unionTypeDefinition _ _ _ _ loc => loc
  | .enumTypeDefinition _ _ _ _ loc => loc
  | .inputObjectTypeDefinition _ _ _ _ loc => loc
  | .directiveDefinition _ _ _ _ loc => loc
  | .schemaExtension _ _ loc => loc
  | .scalarTypeExtension _ _ loc => loc
  | .objectTypeExtension _ _ _ _ loc => loc
  | .interfaceTypeExtension _ _ _ loc => loc
  | .unionTypeExtension _ _ _ loc => loc
  | .enumTypeExtension _ _ _ loc => loc
  | .inputObjectTypeExtension _ _ _ loc => loc

/-- the type itself and every type nested in it -/
def TypeRef.subs : TypeRef → List TypeRef
  | .named t => [.named t]
  | .list t loc => .list t loc :: t.subs
  | .nonNull t loc => .nonNull t loc :: t.subs

mutual
/-- the value itself and every value nested in it (list items, object field values, at any depth) -/
def Value.subs : Value → List Value
  | .var v => [.var v]
  | .int v loc => [.int v loc]
  | .float v loc => [.float v loc]
  | .string s => [.string s]
  | .boolean b loc => [.boolean b loc]
  | .null loc => [.null loc]
  | .enum v loc => [.enum v loc]
  | .list vs loc => .list vs loc :: subsValues vs
  | .object fs loc => .object fs loc :: subsFields fs
def subsValues : List Value → List Value
  | [] => []
  | v :: vs => v.subs ++ subsValues vs
def ObjectField.subs : ObjectField → List Value
  | .mk _ value _ => value.subs
def subsFields : List ObjectField → List Value
  | [] => []
  | x :: fs => x.subs ++ subsFields fs
end

end PyGql.Ast
