/-
  C14 — object-heap model of `Schema.clone`, `_replace_types_and_directives`,
  `_HealSchemaVisitor`, `SchemaVisitor.on_*`, the visibility / camel-case transforms, a
  schema-directive style visitor and `transform_schema` (the attribute copying of
  `ASTTypeBuilder._extend_*` / `extend_schema` is in `HeapExt.lean`).

  Objects live at addresses (`Nat`); `copy.copy` and every constructor call allocate a new
  address; attribute assignment (`field.type = …`, `object_type.fields = …`,
  `updated.interfaces = …`) is `write`. A reference to a named type carries the target's name
  (type names are never assigned by the modelled code) and its address (the identity).
  Wrapper objects (`ListType`/`NonNullType`) are values: `_healed` rebuilds them anyway.

  Not modelled: `Schema.implementations` / `_possible_types` (derived indexes, checked on the
  live objects by the oracle), `validate()`, the `SchemaError` branches of
  `_replace_types_and_directives` (kind change / protected type: never taken by the modelled
  callers), `merge_resolvers` (re-assigns the resolvers the copied fields already hold; the registries it
  merges are modelled in `Registry.lean`).
-/
import PyGqlModel.HeapCfg

namespace PyGql.Heap

abbrev Addr := Nat

structure Ref where
  name : String
  addr : Addr
  deriving DecidableEq, Repr, Inhabited

inductive TRef where
  | named (r : Ref)
  | list (t : TRef)
  | nonNull (t : TRef)
  deriving DecidableEq, Repr, Inhabited

def TRef.base : TRef → Ref
  | .named r => r
  | .list t => t.base
  | .nonNull t => t.base

/-- `Argument` / `InputField` -/
structure ArgO where
  name : String
  ty : TRef
  py : String
  dflt : Option String
  desc : Option String
  deriving DecidableEq, Repr, Inhabited

structure FieldO where
  name : String
  ty : TRef
  args : List Addr
  desc : Option String
  depr : Option String
  res : Option Nat
  sub : Option Nat
  py : String
  deriving DecidableEq, Repr, Inhabited

inductive Kind where
  | object | interface | union | enum | input | scalar
  deriving DecidableEq, Repr, Inhabited

structure TypeO where
  kind : Kind
  name : String
  desc : Option String
  fields : List Addr
  ifaces : List Ref
  members : List Ref
  dres : Option Nat
  rtype : Option Nat
  values : List String
  prot : Bool
  /-- the Python CLASS of a leaf type object when it is not the library's own (`class Upper(ScalarType)` overriding
      `serialize` / `parse`: the documented way to write a custom scalar; `EnumType` subclasses): its behaviour.
      `none`: plain `ScalarType` / `EnumType`. Not tracked for composite types. -/
  cls : Option Nat := none
  deriving DecidableEq, Repr, Inhabited

structure DirO where
  name : String
  args : List Addr
  locs : List String
  desc : Option String
  deriving DecidableEq, Repr, Inhabited

inductive Obj where
  | type (t : TypeO)
  | field (f : FieldO)
  | arg (a : ArgO)
  | dir (d : DirO)
  deriving DecidableEq, Repr, Inhabited

structure Heap where
  objs : List Obj
  deriving DecidableEq, Repr, Inhabited

structure Schema where
  types : List (String × Addr)
  dirs : List (String × Addr)
  query : Option Ref
  mutation : Option Ref
  subscription : Option Ref
  dres : Option Nat
  deriving DecidableEq, Repr, Inhabited

/-- the type references a type object holds itself: `ObjectType.interfaces`, `UnionType.types` (other kinds have none) -/
def typeRefs (t : TypeO) : List Ref :=
  match t.kind with
  | .object => t.ifaces
  | .union => t.members
  | _ => []

/-- the members a type object has: fields of object / interface / input object types (other kinds have none) -/
def typeKids (t : TypeO) : List Addr :=
  match t.kind with
  | .object | .interface | .input => t.fields
  | _ => []

/-- the member objects an object OWNS (`fields` / `arguments` lists) -/
def kids : Obj → List Addr
  | .type t => t.fields
  | .field f => f.args
  | .arg _ => []
  | .dir d => d.args

/-! ### heap primitives -/

def Heap.size (h : Heap) : Nat := h.objs.length
def Heap.read (h : Heap) (a : Addr) : Option Obj := h.objs[a]?
/-- attribute assignment on the object at `a` -/
def Heap.write (h : Heap) (a : Addr) (o : Obj) : Heap := ⟨h.objs.set a o⟩
/-- constructor call / `copy.copy`: a NEW identity -/
def Heap.alloc (h : Heap) (o : Obj) : Heap × Addr := (⟨h.objs ++ [o]⟩, h.objs.length)

def Heap.readType (h : Heap) (a : Addr) : Option TypeO := match h.read a with | some (.type t) => some t | _ => none
def Heap.readField (h : Heap) (a : Addr) : Option FieldO := match h.read a with | some (.field t) => some t | _ => none
def Heap.readArg (h : Heap) (a : Addr) : Option ArgO := match h.read a with | some (.arg t) => some t | _ => none
def Heap.readDir (h : Heap) (a : Addr) : Option DirO := match h.read a with | some (.dir t) => some t | _ => none

/-! ### registry -/

def specifiedScalars : List String := ["Int", "Float", "String", "Boolean", "ID"]
def isProtected (n : String) : Bool := specifiedScalars.contains n

def lookup (reg : List (String × Addr)) (n : String) : Option Addr := (reg.find? (·.1 == n)).map (·.2)
def regSet (reg : List (String × Addr)) (n : String) (a : Addr) : List (String × Addr) :=
  if (lookup reg n).isSome then reg.map (fun e => if e.1 == n then (n, a) else e) else reg ++ [(n, a)]
def regErase (reg : List (String × Addr)) (n : String) : List (String × Addr) := reg.filter (·.1 != n)

/-! ### `_HealSchemaVisitor._healed` -/

def healed (reg : List (String × Addr)) : TRef → Option TRef
  | .named r => (lookup reg r.name).map fun a => .named ⟨r.name, a⟩
  | .list t => (healed reg t).map .list
  | .nonNull t => (healed reg t).map .nonNull

def healedRefs (reg : List (String × Addr)) (rs : List Ref) : List Ref :=
  rs.filterMap fun r => (lookup reg r.name).map fun a => ⟨r.name, a⟩

/-! ### visitors -/

structure VisP where
  typeVis : String → Bool
  fieldVis : String → String → Bool
  inputVis : String → String → Bool
  dirVis : String → Bool

inductive Visitor where
  /-- `_HealSchemaVisitor` over the registry it was created with -/
  | heal
  /-- `VisibilitySchemaTransform` with its four hooks -/
  | vis (p : VisP)
  /-- `CamelCaseSchemaTransform`; `ren` stands for `snakecase_to_camelcase` -/
  | camel (ren : String → String)
  /-- schema-directive style visitor: `on_field` returns `None` (`drop`) or a rebuilt `Field` with a new resolver (`wrap`) -/
  | sdir (drop : String → String → Bool) (wrap : String → String → Option Nat)

/-- `VisibilitySchemaTransform._is_type_visible` -/
def VisP.isTypeVisible (p : VisP) (n : String) : Bool := isProtected n || p.typeVis n

/-- `map_and_filter` threading the heap -/
def mapFilter (f : Heap → Addr → Heap × Option Addr) : Heap → List Addr → Heap × List Addr
  | h, [] => (h, [])
  | h, a :: as =>
    let r := f h a
    let rs := mapFilter f r.1 as
    (rs.1, match r.2 with | some x => x :: rs.2 | none => rs.2)

/-- `on_argument` -/
def onArgument (v : Visitor) (reg : List (String × Addr)) (h : Heap) (a : Addr) : Heap × Option Addr :=
  match h.readArg a with
  | none => (h, some a)
  | some g =>
    match v with
    | .camel ren =>
      let r := h.alloc (.arg { g with name := ren g.name })
      (r.1, some r.2)
    | .heal =>
      match healed reg g.ty with
      | none => (h, none)
      | some t => (h.write a (.arg { g with ty := t }), some a)
    | _ => (h, some a)

/-- `on_input_field` -/
def onInputField (v : Visitor) (reg : List (String × Addr)) (h : Heap) (a : Addr) : Heap × Option Addr :=
  match h.readArg a with
  | none => (h, some a)
  | some g =>
    match v with
    | .camel ren =>
      let r := h.alloc (.arg { g with name := ren g.name })
      (r.1, some r.2)
    | .heal =>
      match healed reg g.ty with
      | none => (h, none)
      | some t => (h.write a (.arg { g with ty := t }), some a)
    | .vis p => if p.isTypeVisible g.ty.base.name then (h, some a) else (h, none)
    | _ => (h, some a)

/-- `SchemaVisitor.on_field` (base part): visit the arguments, rebuild the field if the list changed -/
def onFieldBase (v : Visitor) (reg : List (String × Addr)) (h : Heap) (a : Addr) (f : FieldO) : Heap × Addr :=
  let r := mapFilter (onArgument v reg) h f.args
  if r.2 != f.args then r.1.alloc (.field { f with args := r.2 }) else (r.1, a)

/-- heal part of `_HealSchemaVisitor.on_field`: `updated.type = new_type` -/
def healFieldType (reg : List (String × Addr)) (h : Heap) (a : Addr) : Heap × Option Addr :=
  match h.readField a with
  | none => (h, some a)
  | some f =>
    match healed reg f.ty with
    | none => (h, none)
    | some t => (h.write a (.field { f with ty := t }), some a)

/-- `on_field` of every visitor; `tn` is the name of the enclosing type (used by the schema-directive visitor) -/
def onField (v : Visitor) (reg : List (String × Addr)) (tn : String) (h : Heap) (a : Addr) : Heap × Option Addr :=
  match h.readField a with
  | none => (h, some a)
  | some f =>
    match v with
    | .camel ren =>
      let f' := { f with name := ren f.name }
      let r := h.alloc (.field f')
      let r2 := onFieldBase v reg r.1 r.2 f'
      (r2.1, some r2.2)
    | .sdir drop wrap =>
      if drop tn f.name then (h, none) else
      match wrap tn f.name with
      | some id =>
        let f' := { f with res := some id }
        let r := h.alloc (.field f')
        let r2 := onFieldBase v reg r.1 r.2 f'
        (r2.1, some r2.2)
      | none =>
        let r2 := onFieldBase v reg h a f
        (r2.1, some r2.2)
    | .heal =>
      let r2 := onFieldBase v reg h a f
      healFieldType reg r2.1 r2.2
    | .vis _ =>
      let r2 := onFieldBase v reg h a f
      (r2.1, some r2.2)

def fieldName (h : Heap) (a : Addr) : Option String := (h.readField a).map (·.name)
def argName (h : Heap) (a : Addr) : Option String := (h.readArg a).map (·.name)

/-- `if updated_fields != type.fields: return _with_members(type, fields=updated_fields)  else: return type`
    (`_with_members`: a `copy.copy` of the type object with the other member list) -/
def rebuiltOrSame (h : Heap) (a : Addr) (t : TypeO) (fs : List Addr) : Heap × Addr :=
  if fs != t.fields then h.alloc (.type { t with fields := fs }) else (h, a)

/-- base part of `on_object` / `on_interface` (+ the heal visitor's `updated.interfaces = …`) -/
def compositeRest (v : Visitor) (reg : List (String × Addr)) (a : Addr) (h : Heap) (t : TypeO) : Heap × Option Addr :=
  let r := mapFilter (onField v reg t.name) h t.fields
  let upd := rebuiltOrSame r.1 a t r.2
  match v with
  | .heal =>
    if t.kind == Kind.object then
      match upd.1.readType upd.2 with
      | some tu => (upd.1.write upd.2 (.type { tu with ifaces := healedRefs reg tu.ifaces }), some upd.2)
      | none => (upd.1, some upd.2)
    else (upd.1, some upd.2)
  | _ => (upd.1, some upd.2)

/-- `on_object` / `on_interface` -/
def onComposite (v : Visitor) (reg : List (String × Addr)) (h : Heap) (a : Addr) (t : TypeO) : Heap × Option Addr :=
  match v with
  | .vis p =>
    -- visibility: hidden type → None; else filter the fields IN PLACE (`object_type.fields = updated_fields`)
    if !p.isTypeVisible t.name then (h, none) else
    let kept := t.fields.filter fun fa => match fieldName h fa with | some fnm => p.fieldVis t.name fnm | none => true
    if kept != t.fields then
      compositeRest v reg a (h.write a (.type { t with fields := kept })) { t with fields := kept }
    else compositeRest v reg a h t
  | _ => compositeRest v reg a h t

/-- `on_union` -/
def onUnion (v : Visitor) (reg : List (String × Addr)) (h : Heap) (a : Addr) (t : TypeO) : Heap × Option Addr :=
  match v with
  | .heal => (h.write a (.type { t with members := healedRefs reg t.members }), some a)
  | .vis p => if p.isTypeVisible t.name then (h, some a) else (h, none)
  | _ => (h, some a)

/-- `on_scalar` / `on_enum` (enum values hold no type references: never rebuilt by the modelled visitors) -/
def onLeaf (v : Visitor) (h : Heap) (a : Addr) (t : TypeO) : Heap × Option Addr :=
  match v with
  | .vis p => if p.isTypeVisible t.name then (h, some a) else (h, none)
  | _ => (h, some a)

/-- base part of `on_input_object`; `nm` is the name of the type the visibility hook is asked about -/
def inputRest (v : Visitor) (reg : List (String × Addr)) (a : Addr) (nm : String) (h : Heap) (t : TypeO) : Heap × Option Addr :=
  let r := mapFilter (onInputField v reg) h t.fields
  let upd := rebuiltOrSame r.1 a t r.2
  match v with
  | .vis p => if p.isTypeVisible nm then (upd.1, some upd.2) else (upd.1, none)
  | _ => (upd.1, some upd.2)

/-- `on_input_object` -/
def onInputObject (v : Visitor) (reg : List (String × Addr)) (h : Heap) (a : Addr) (t : TypeO) : Heap × Option Addr :=
  match v with
  | .vis p =>
    let kept := t.fields.filter fun fa => match argName h fa with | some fnm => p.inputVis t.name fnm | none => true
    if kept != t.fields then
      inputRest v reg a t.name (h.write a (.type { t with fields := kept })) { t with fields := kept }
    else inputRest v reg a t.name h t
  | _ => inputRest v reg a t.name h t

/-- `VisibilitySchemaTransform.on_directive`: `not self.is_directive_visible(directive.name)` -/
def dirHidden (v : Visitor) (name : String) : Bool :=
  match v with
  | .vis p => !p.dirVis name
  | _ => false

/-- `on_directive` -/
def onDirective (v : Visitor) (reg : List (String × Addr)) (h : Heap) (a : Addr) : Heap × Option Addr :=
  match h.readDir a with
  | none => (h, some a)
  | some d =>
    if dirHidden v d.name then (h, none) else
    let r := mapFilter (onArgument v reg) h d.args
    if r.2 != d.args then
      let r2 := r.1.alloc (.dir { d with args := r.2 })
      (r2.1, some r2.2)
    else (r.1, some a)

/-- dispatch of `on_schema` on the kind of one registered type -/
def onType (v : Visitor) (reg : List (String × Addr)) (h : Heap) (a : Addr) : Heap × Option Addr :=
  match h.readType a with
  | none => (h, some a)
  | some t =>
    match t.kind with
    | .object => onComposite v reg h a t
    | .interface => onComposite v reg h a t
    | .input => onInputObject v reg h a t
    | .union => onUnion v reg h a t
    | .scalar => onLeaf v h a t
    | .enum => onLeaf v h a t

/-- the loop of `on_schema` over `schema.types.values()`: collects `updated_types` -/
def visitTypes (v : Visitor) (reg : List (String × Addr)) : Heap → List (String × Addr) → Heap × List (String × Option Addr)
  | h, [] => (h, [])
  | h, (n, a) :: rest =>
    if isProtected n then visitTypes v reg h rest else
    let r := onType v reg h a
    let rs := visitTypes v reg r.1 rest
    (rs.1, if r.2 != some a then (n, r.2) :: rs.2 else rs.2)

def visitDirs (v : Visitor) (reg : List (String × Addr)) : Heap → List (String × Addr) → Heap × List (String × Option Addr)
  | h, [] => (h, [])
  | h, (n, a) :: rest =>
    let r := onDirective v reg h a
    let rs := visitDirs v reg r.1 rest
    (rs.1, if r.2 != some a then (n, r.2) :: rs.2 else rs.2)

/-! ### `_replace_types_and_directives` -/

/-- the loop over `types.items()`: registry update and the `busted_cache` flag -/
def replaceTypes (cfg : Cfg) : List (String × Addr) → Bool → List (String × Option Addr) → List (String × Addr) × Bool
  | reg, b, [] => (reg, b)
  | reg, b, (n, new) :: rest =>
    match lookup reg n with
    | none => replaceTypes cfg reg b rest          -- KeyError: pass
    | some orig =>
      let differs := new != some orig
      let b' := if cfg.accumulateBusted then b || differs else differs
      match new with
      | none => replaceTypes cfg (regErase reg n) b' rest
      | some a => replaceTypes cfg (regSet reg n a) b' rest

def replaceDirs : List (String × Addr) → List (String × Option Addr) → List (String × Addr)
  | reg, [] => reg
  | reg, (n, none) :: rest => replaceDirs (regErase reg n) rest
  | reg, (n, some a) :: rest => replaceDirs (regSet reg n a) rest

def reRoot (reg : List (String × Addr)) (r : Option Ref) : Option Ref :=
  r.bind fun r => (lookup reg r.name).map fun a => ⟨r.name, a⟩

/-- everything of `_replace_types_and_directives` before `if busted_cache:` -/
def replaceCore (cfg : Cfg) (s : Schema) (ut ud : List (String × Option Addr)) : Schema × Bool :=
  let r := replaceTypes cfg s.types false ut
  let dirs := replaceDirs s.dirs ud
  ({ s with types := r.1, dirs := dirs, query := reRoot r.1 s.query, mutation := reRoot r.1 s.mutation,
            subscription := reRoot r.1 s.subscription }, r.2)

/-- one `on_schema` of visitor `v` (without the final replace) -/
def visitAll (v : Visitor) (s : Schema) (h : Heap) : Heap × List (String × Option Addr) × List (String × Option Addr) :=
  let r := visitTypes v s.types h s.types
  let r2 := visitDirs v s.types r.1 s.dirs
  (r2.1, r.2, r2.2)

/-- `fix_type_references` = `_HealSchemaVisitor(schema).on_schema(schema)`, which ends in
    `_replace_types_and_directives`, which calls `fix_type_references` again while types were replaced.
    `none` = out of fuel. -/
def healLoop (cfg : Cfg) : Nat → Schema → Heap → Option (Heap × Schema)
  | 0, _, _ => none
  | fuel + 1, s, h =>
    let r := visitAll .heal s h
    let c := replaceCore cfg s r.2.1 r.2.2
    if c.2 then healLoop cfg fuel c.1 r.1 else some (r.1, c.1)

/-- `_replace_types_and_directives` -/
def replaceTD (cfg : Cfg) (fuel : Nat) (s : Schema) (h : Heap) (ut ud : List (String × Option Addr)) : Option (Heap × Schema) :=
  let c := replaceCore cfg s ut ud
  if c.2 then healLoop cfg fuel c.1 h else some (h, c.1)

/-- `SchemaVisitor.on_schema` -/
def onSchema (cfg : Cfg) (fuel : Nat) (v : Visitor) (s : Schema) (h : Heap) : Option (Heap × Schema) :=
  let r := visitAll v s h
  replaceTD cfg fuel s r.1 r.2.1 r.2.2

/-! ### `Schema.clone` -/

/-- addresses referenced by the object at `a` the way `_build_type_map` walks them -/
def children (h : Heap) (a : Addr) : List Addr :=
  match h.read a with
  | some (.type t) => (typeRefs t).map (·.addr) ++ typeKids t
  | some (.field f) => f.ty.base.addr :: f.args
  | some (.arg g) => [g.ty.base.addr]
  | some (.dir d) => d.args
  | none => []

/-- closure of `children` (fuel = number of rounds) -/
def reach (h : Heap) : Nat → List Addr → List Addr → List Addr
  | 0, seen, _ => seen
  | fuel + 1, seen, todo =>
    match todo with
    | [] => seen
    | a :: rest =>
      if seen.contains a then reach h fuel seen rest
      else reach h fuel (seen ++ [a]) (children h a ++ rest)

/-- enough fuel for `reach`: one unit per popped work-list entry (≤ roots + edges) -/
def reachFuel (h : Heap) (roots : List Addr) : Nat :=
  (List.range h.size).foldl (fun n a => n + (children h a).length) (roots.length + h.size + 1)

/-- `_build_type_map` from the roots: first object met under each name -/
def buildTypeMap (h : Heap) (fuel : Nat) (roots : List Addr) : List (String × Addr) :=
  (reach h fuel [] roots).foldl (fun reg a =>
    match h.readType a with
    | some t => if (lookup reg t.name).isSome then reg else reg ++ [(t.name, a)]
    | none => reg) []

def copyArgs (h : Heap) : List Addr → Heap × List Addr
  | [] => (h, [])
  | a :: as =>
    match h.readArg a with
    | some g =>
      let r := h.alloc (.arg g)
      let rs := copyArgs r.1 as
      (rs.1, r.2 :: rs.2)
    | none => copyArgs h as     -- (no such object: cannot happen for live Python objects)

/-- `_clone_field` of the fixed code -/
def copyFields (h : Heap) : List Addr → Heap × List Addr
  | [] => (h, [])
  | a :: as =>
    match h.readField a with
    | some f =>
      let ra := copyArgs h f.args
      let r := ra.1.alloc (.field { f with args := ra.2 })
      let rs := copyFields r.1 as
      (rs.1, r.2 :: rs.2)
    | none => copyFields h as

/-- `copy.copy(t)` (legacy) / `_clone_type(t)` (fixed) -/
def cloneType (cfg : Cfg) (h : Heap) (t : TypeO) : Heap × Addr :=
  if cfg.deepClone then
    match t.kind with
    | .input =>
      let r := copyArgs h t.fields
      r.1.alloc (.type { t with fields := r.2 })
    | _ =>
      let r := copyFields h t.fields
      r.1.alloc (.type { t with fields := r.2 })
  else h.alloc (.type t)

def cloneDir (cfg : Cfg) (h : Heap) (d : DirO) : Heap × Addr :=
  if cfg.deepClone then
    let r := copyArgs h d.args
    r.1.alloc (.dir { d with args := r.2 })
  else h.alloc (.dir d)

def cloneTypes (cfg : Cfg) : Heap → List (String × Addr) → Heap × List (String × Option Addr)
  | h, [] => (h, [])
  | h, (n, a) :: rest =>
    if isProtected n then cloneTypes cfg h rest else
    match h.readType a with
    | some t =>
      let r := cloneType cfg h t
      let rs := cloneTypes cfg r.1 rest
      (rs.1, (n, some r.2) :: rs.2)
    | none => cloneTypes cfg h rest

def cloneDirs (cfg : Cfg) : Heap → List (String × Addr) → Heap × List (String × Option Addr)
  | h, [] => (h, [])
  | h, (n, a) :: rest =>
    match h.readDir a with
    | some d =>
      let r := cloneDir cfg h d
      let rs := cloneDirs cfg r.1 rest
      (rs.1, (n, some r.2) :: rs.2)
    | none => cloneDirs cfg h rest

def rootAddrs (s : Schema) : List Addr :=
  [s.query, s.mutation, s.subscription].filterMap fun r => r.map (·.addr)

/-- the registry of `Schema(query_type=…, mutation_type=…, subscription_type=…)` (+ `setdefault` of the fixed code) -/
def cloneRegistry (cfg : Cfg) (s : Schema) (h : Heap) : List (String × Addr) :=
  let builtin := s.types.filter fun e => isProtected e.1
  let reached := (buildTypeMap h (reachFuel h (rootAddrs s)) (rootAddrs s)).filter fun e => !isProtected e.1
  let reg := builtin ++ reached
  if cfg.keepAllTypes then s.types.foldl (fun reg e => if (lookup reg e.1).isSome then reg else reg ++ [e]) reg else reg

/-- `Schema.clone` -/
def clone (cfg : Cfg) (fuel : Nat) (s : Schema) (h : Heap) : Option (Heap × Schema) :=
  let s0 : Schema := { types := cloneRegistry cfg s h, dirs := [], query := s.query, mutation := s.mutation,
                       subscription := s.subscription, dres := none }
  let ct := cloneTypes cfg h s.types
  let cd := cloneDirs cfg ct.1 s.dirs
  match replaceTD cfg fuel s0 cd.1 ct.2 cd.2 with
  | none => none
  | some (h', s') => some (h', { s' with dres := if cfg.cloneSchemaDres then s.dres else none })

/-- `transform_schema` (without the final `validate()`) -/
def transformFrom (cfg : Cfg) (fuel : Nat) : List Visitor → Heap × Schema → Option (Heap × Schema)
  | [], r => some r
  | v :: vs, (h, s) =>
    match onSchema cfg fuel v s h with
    | none => none
    | some r => transformFrom cfg fuel vs r

def transform (cfg : Cfg) (fuel : Nat) (vs : List Visitor) (s : Schema) (h : Heap) : Option (Heap × Schema) :=
  match clone cfg fuel s h with
  | none => none
  | some r => transformFrom cfg fuel vs r

/-! ### closedness (decidable) -/

def refOK (reg : List (String × Addr)) (r : Ref) : Bool := lookup reg r.name == some r.addr

/-- shape of the object graph below an argument / input field: it exists and its type reference passes `chk` -/
def argShape (chk : Ref → Bool) (h : Heap) (a : Addr) : Bool :=
  match h.readArg a with
  | some g => chk g.ty.base
  | none => false

def fieldShape (chk : Ref → Bool) (h : Heap) (a : Addr) : Bool :=
  match h.readField a with
  | some f => chk f.ty.base && f.args.all (argShape chk h)
  | none => false

/-- the members of a type object, by kind, have the member shape -/
def typeMembersOK (chk : Ref → Bool) (h : Heap) (t : TypeO) : Bool :=
  match t.kind with
  | .input => t.fields.all (argShape chk h)
  | .object | .interface => t.fields.all (fieldShape chk h)
  | _ => true

def typeShape (chk : Ref → Bool) (h : Heap) (a : Addr) : Bool :=
  match h.readType a with
  | some t => (typeRefs t).all chk && typeMembersOK chk h t
  | none => false

def dirShape (chk : Ref → Bool) (h : Heap) (a : Addr) : Bool :=
  match h.readDir a with
  | some d => d.args.all (argShape chk h)
  | none => false

def rootOK (chk : Ref → Bool) : Option Ref → Bool
  | none => true
  | some r => chk r

def shapeB (chk : Ref → Bool) (h : Heap) (s : Schema) : Bool :=
  s.types.all (fun e => typeShape chk h e.2) && s.dirs.all (fun e => dirShape chk h e.2) &&
    rootOK chk s.query && rootOK chk s.mutation && rootOK chk s.subscription

def argClosed (h : Heap) (reg : List (String × Addr)) (a : Addr) : Bool := argShape (refOK reg) h a
def fieldClosed (h : Heap) (reg : List (String × Addr)) (a : Addr) : Bool := fieldShape (refOK reg) h a
def typeClosed (h : Heap) (reg : List (String × Addr)) (a : Addr) : Bool := typeShape (refOK reg) h a
def dirClosed (h : Heap) (reg : List (String × Addr)) (a : Addr) : Bool := dirShape (refOK reg) h a

/-- a registry entry holds a type object carrying the name it is registered under -/
def nameOK (h : Heap) (e : String × Addr) : Bool :=
  match h.readType e.2 with
  | some t => t.name == e.1
  | none => false

/-- a protected (specified scalar) entry holds a scalar object -/
def protLeaf (h : Heap) (e : String × Addr) : Bool :=
  !isProtected e.1 || (match h.readType e.2 with | some t => t.kind == Kind.scalar | none => false)

/-- registry names are distinct (a Python dict) -/
def namesNodup (reg : List (String × Addr)) : Bool := decide ((reg.map (·.1)).Nodup)

/-- well-formed: every registered address holds a type / directive object whose member lists hold
    field / argument objects (no statement about where references point) -/
def wfB (h : Heap) (s : Schema) : Bool :=
  shapeB (fun _ => true) h s && s.types.all (nameOK h) && s.types.all (protLeaf h) && namesNodup s.types

/-- every reference reachable through fields, arguments, input fields, interfaces, union members,
    directive arguments and root operations is THE object registered under its name -/
def closedB (h : Heap) (s : Schema) : Bool :=
  shapeB (refOK s.types) h s && s.types.all (nameOK h)

end PyGql.Heap
