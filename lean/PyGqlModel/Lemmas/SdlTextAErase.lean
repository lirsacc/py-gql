/-
  C12 text level, applied schema directives — erasing the applied custom directives from the denoted document gives the
  document of the directive-free printer.
-/
import PyGqlModel.Lemmas.SdlTextFull
namespace PyGql.SdlText
open PyGql PyGql.Sdl PyGql.SdlPrint

theorem isSpec_depr (r : Option String) :
    (deprDirs r).filter SdlPrintTA.isSpecified = deprDirs r := by
  rcases deprDirs_cases r with h | h | ⟨x, h⟩ <;> rw [h] <;> rfl

theorem filter_kept (c : SdlPrintTA.OptsA) (apps : Apps) (path : String) :
    (SdlPrintTA.keptAt c apps path).filter SdlPrintTA.isSpecified = [] := by
  rw [List.filter_eq_nil_iff]
  intro d hd
  unfold SdlPrintTA.keptAt at hd
  have := (List.mem_filter.1 hd).2
  simp only [SdlPrintTA.keepP, Bool.and_eq_true, Bool.not_eq_true'] at this
  simp only [SdlPrintTA.isSpecified, this.1, Bool.false_eq_true, not_false_eq_true]

theorem eraseIV_argToDefA (s : SchemaD) (c : SdlPrintTA.OptsA) (apps : Apps) (path : String) (a : ArgD) :
    SdlPrintTA.eraseIV (SdlPrintTA.argToDefA s c apps path a) = argToDef s a := by
  simp [SdlPrintTA.eraseIV, SdlPrintTA.argToDefA, filter_kept, argToDef]

theorem eraseField_fieldToDefA (s : SchemaD) (c : SdlPrintTA.OptsA) (apps : Apps) (tname : String) (f : FieldD) :
    SdlPrintTA.eraseField (SdlPrintTA.fieldToDefA s c apps tname f) = fieldToDef s f := by
  simp [SdlPrintTA.eraseField, SdlPrintTA.fieldToDefA, fieldToDef, List.filter_append, filter_kept, isSpec_depr,
    List.map_map, Function.comp_def, eraseIV_argToDefA]

theorem eraseEnumVal_enumValToDefA (c : SdlPrintTA.OptsA) (apps : Apps) (tname : String) (v : EnumValD) :
    SdlPrintTA.eraseEnumVal (SdlPrintTA.enumValToDefA c apps tname v) = enumValToDef v := by
  simp [SdlPrintTA.eraseEnumVal, SdlPrintTA.enumValToDefA, enumValToDef, List.filter_append, filter_kept, isSpec_depr]

theorem eraseType_typeToDefA (s : SchemaD) (c : SdlPrintTA.OptsA) (apps : Apps) (t : TypeD) :
    SdlPrintTA.eraseType (SdlPrintTA.typeToDefA s c apps t) = typeToDef s t := by
  simp [SdlPrintTA.eraseType, SdlPrintTA.typeToDefA, typeToDef, filter_kept, List.map_map, Function.comp_def,
    eraseIV_argToDefA, eraseField_fieldToDefA, eraseEnumVal_enumValToDefA]

theorem erase_schemaToDocA (s : SchemaD) (c : SdlPrintTA.OptsA) (apps : Apps) :
    (SdlPrintTA.schemaToDocA s c apps).map SdlPrintTA.eraseCustom =
      (if SdlPrintTA.needsSchemaBlockA s c apps then [.schema { ops := rootOps s }] else []) ++
      s.directives.map (fun d => .directive (directiveToDef s d)) ++ s.types.map (fun t => .type (typeToDef s t)) := by
  unfold SdlPrintTA.schemaToDocA
  simp only [List.map_append, List.map_map]
  congr 1
  · congr 1
    · split <;> simp [SdlPrintTA.eraseCustom, filter_kept]
    · apply List.map_congr_left
      intro d _
      simp [SdlPrintTA.eraseCustom, SdlPrintTA.directiveToDefA, directiveToDef, List.map_map, Function.comp_def, eraseIV_argToDefA]
  · apply List.map_congr_left
    intro t _
    simp [SdlPrintTA.eraseCustom, eraseType_typeToDefA]

theorem erase_schemaToDocA_eq (s : SchemaD) (c : SdlPrintTA.OptsA) (apps : Apps)
    (hb : SdlPrintTA.needsSchemaBlockA s c apps = needsSchemaBlock s) :
    (SdlPrintTA.schemaToDocA s c apps).map SdlPrintTA.eraseCustom = schemaToDoc s := by
  rw [erase_schemaToDocA, hb]; rfl

end PyGql.SdlText
