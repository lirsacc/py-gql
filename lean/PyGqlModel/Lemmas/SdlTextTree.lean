/-
  C12 text level — the trees `docToAst` constructs from the documents `schemaToDocA` denotes: their views are matched by
  their canonical yields (no positions by construction, member descriptions included), and under `printTextWFA` they
  are well-formed definitions of the grammar.
-/
import PyGqlModel.Lemmas.SdlTextBase
import PyGqlModel.Lemmas.SdlLitInduction
import PyGqlModel.Lemmas.PrintDocMatch
import PyGqlModel.Props.C01_parse
import PyGqlModel.SdlPrintTA
namespace PyGql.SdlText
open PyGql PyGql.Ast PyGql.Sdl PyGql.Spec PyGql.PrintLex PyGql.PrintTokens PyGql.PrintMatch PyGql.SdlPrint PyGql.Parse

/-- the tree of one definition of the denoted document (`.other` does not occur in what `schemaToDocA` produces; its value here is a filler) -/
def defTree : Def → Definition
  | .type t => typeDefOf t
  | .ext t => typeExtOf t
  | .directive d => .directiveDefinition (descOf d.desc) (nameOf d.name) (d.args.map inputValOf) (d.locations.map nameOf) none
  | .schema s => .schemaDefinition (s.dirs.map dirOf) (s.ops.map opTypeOf) none
  | .schemaExt s => .schemaExtension (s.dirs.map dirOf) (s.ops.map opTypeOf) none
  | .other => .schemaExtension [] [] none

theorem docToAst_of_noOther : ∀ doc : Doc, (∀ x ∈ doc, x ≠ .other) → docToAst doc = some ⟨doc.map defTree, none⟩ := by
  have h : ∀ doc : Doc, (∀ x ∈ doc, x ≠ .other) → doc.mapM defOf = some (doc.map defTree) := by
    intro doc
    induction doc with
    | nil => intro _; rfl
    | cons x xs ih =>
      intro hx
      have hd : defOf x = some (defTree x) := by
        cases x <;> first | rfl | exact absurd rfl (hx _ (by simp))
      simp [List.mapM_cons, hd, ih (fun y hy => hx y (by simp [hy]))]
  intro doc hdoc
  simp [docToAst, h doc hdoc]

theorem forall_mem_schemaToDocA {P : Def → Prop} (s : SchemaD) (c : SdlPrintTA.OptsA) (apps : Apps)
    (h0 : SdlPrintTA.needsSchemaBlockA s c apps = true → P (.schema { ops := rootOps s, dirs := SdlPrintTA.keptAt c apps "" }))
    (hd : ∀ d ∈ s.directives, P (.directive (SdlPrintTA.directiveToDefA s c apps d)))
    (ht : ∀ t ∈ s.types, P (.type (SdlPrintTA.typeToDefA s c apps t))) : ∀ x ∈ SdlPrintTA.schemaToDocA s c apps, P x := by
  intro x hx
  simp only [SdlPrintTA.schemaToDocA, List.mem_append, List.mem_map] at hx
  rcases hx with (hx | ⟨d, hd', rfl⟩) | ⟨t, ht', rfl⟩
  · split at hx
    · rename_i hn
      simp only [List.mem_singleton] at hx; subst hx; exact h0 hn
    · cases hx
  · exact hd d hd'
  · exact ht t ht'

theorem docToAst_schemaToDocA (s : SchemaD) (c : SdlPrintTA.OptsA) (apps : Apps) :
    docToAst (SdlPrintTA.schemaToDocA s c apps) = some ⟨(SdlPrintTA.schemaToDocA s c apps).map defTree, none⟩ :=
  docToAst_of_noOther _ (forall_mem_schemaToDocA s c apps (fun _ => Def.noConfusion) (fun _ _ => Def.noConfusion)
    (fun _ _ => Def.noConfusion))


theorem noLocValueOf_all :
    (∀ l, noLocValue (valueOf l) = true) ∧ (∀ l, noLocValues (valuesOf l) = true) ∧ ∀ fs, noLocFields (fieldsOf fs) = true := by
  refine lit_induction ?_ rfl ?_ rfl ?_
  · intro l hl hf
    cases l with
    | list x => simp [valueOf, noLocValue, hl x rfl]
    | obj x => simp [valueOf, noLocValue, hf x rfl]
    | _ => rfl
  · intro v vs hv hvs
    simp [valuesOf, noLocValues, hv, hvs]
  · intro k v fs hv hfs
    simp [fieldsOf, noLocFields, noLocField, nameOf, hv, hfs]

theorem noLocValue_valueOf : ∀ (l : Lit), noLocValue (valueOf l) = true := noLocValueOf_all.1
theorem noLocValues_valuesOf : ∀ (l : List Lit), noLocValues (valuesOf l) = true := noLocValueOf_all.2.1
theorem noLocFields_fieldsOf : ∀ (fs : List (String × Lit)), noLocFields (fieldsOf fs) = true := noLocValueOf_all.2.2

theorem noLocDirective_dirOf (d : DirApp) : noLocDirective (dirOf d) = true := by
  simp [dirOf, noLocDirective, nameOf, argOf, noLocArgument, noLocValue_valueOf]

theorem noLocDesc_descOf (d : Option String) : noLocDesc (descOf d) = true := by
  cases d <;> rfl

theorem noLocInputValue_inputValOf (a : InputValDef) : noLocInputValue (inputValOf a) = true := by
  cases h : a.default <;>
    simp [noLocInputValue, inputValOf, nameOf, noLocType_typeOf, noLocDirective_dirOf, noLocValue_valueOf, h]

theorem noLocFieldDef_fieldOf (f : FieldDef) : noLocFieldDef (fieldOf f) = true := by
  simp [noLocFieldDef, fieldOf, nameOf, noLocType_typeOf, noLocDirective_dirOf, noLocInputValue_inputValOf]

theorem noLocEnumValue_enumValOf (v : EnumValDef) : noLocEnumValue (enumValOf v) = true := by
  simp [noLocEnumValue, enumValOf, nameOf, noLocDirective_dirOf]

theorem descNoLocIV_inputValOf (a : InputValDef) : descNoLocIV (inputValOf a) = true := noLocDesc_descOf a.desc

theorem descNoLocEV_enumValOf (v : EnumValDef) : descNoLocEV (enumValOf v) = true := noLocDesc_descOf v.desc

theorem descNoLocFD_fieldOf (f : FieldDef) : descNoLocFD (fieldOf f) = true := by
  simp [descNoLocFD, fieldOf, noLocDesc_descOf, descNoLocIV_inputValOf]

theorem noLoc_defTree (x : Def) : noLocTSDefinition (defTree x) = true ∧ noLocMembers (defTree x) = true := by
  have hD := all_map_true dirOf noLocDirective noLocDirective_dirOf
  have hN := all_map_true namedOf noLocNamedType (fun _ => rfl)
  have hF := all_map_true fieldOf noLocFieldDef noLocFieldDef_fieldOf
  have hF' := all_map_true fieldOf descNoLocFD descNoLocFD_fieldOf
  have hE := all_map_true enumValOf noLocEnumValue noLocEnumValue_enumValOf
  have hE' := all_map_true enumValOf descNoLocEV descNoLocEV_enumValOf
  have hI := all_map_true inputValOf noLocInputValue noLocInputValue_inputValOf
  have hI' := all_map_true inputValOf descNoLocIV descNoLocIV_inputValOf
  have hO := all_map_true opTypeOf noLocOpType (fun _ => rfl)
  have hL := all_map_true nameOf (fun n => n.loc.isNone) (fun _ => rfl)
  have hty : ∀ t : TypeDef, (noLocTSDefinition (typeDefOf t) = true ∧ noLocMembers (typeDefOf t) = true) ∧
      noLocTSDefinition (typeExtOf t) = true ∧ noLocMembers (typeExtOf t) = true := by
    intro t
    cases hk : t.kind <;>
      simp only [typeDefOf, typeExtOf, hk, noLocTSDefinition, noLocMembers, nameOf, noLocDesc_descOf, hD, hN, hF, hF', hE, hE', hI, hI',
        Option.isNone_none, Bool.and_self, and_self]
  cases x with
  | type t => exact (hty t).1
  | ext t => exact (hty t).2
  | directive d =>
    simp only [defTree, noLocTSDefinition, noLocMembers, nameOf, noLocDesc_descOf, hI, hI', hL, Option.isNone_none, Bool.and_self, and_self]
  | schema sd => simp only [defTree, noLocTSDefinition, noLocMembers, hD, hO, Option.isNone_none, Bool.and_self, and_self]
  | schemaExt sd => simp only [defTree, noLocTSDefinition, noLocMembers, hD, hO, Option.isNone_none, Bool.and_self, and_self]
  | other => exact ⟨rfl, rfl⟩

theorem plainF_defTree (x : Def) (fol : List TokClass) (hopen : openEnd (defTree x) = false) :
    plainF (definitionV (defTree x)) fol = true :=
  plainF_definitionV _ (noLoc_defTree x).1 (noLoc_defTree x).2 fol (fun h => by rw [hopen] at h; cases h)


theorem wfValueOf_all :
    (∀ l, litOK l = true → wfValue true (valueOf l) = true) ∧ (∀ l, litsOK l = true → wfValues true (valuesOf l) = true) ∧
    ∀ fs, fieldsOK fs = true → wfFields true (fieldsOf fs) = true := by
  refine lit_induction ?_ (fun _ => rfl) ?_ (fun _ => rfl) ?_
  · intro l hl hf h
    cases l with
    | «enum» v => simp only [litOK, Bool.and_eq_true] at h; simpa [valueOf, wfValue] using h.2
    | list x => simpa [valueOf, wfValue] using hl x rfl h
    | obj x => simpa [valueOf, wfValue] using hf x rfl h
    | _ => rfl
  · intro v vs hv hvs h
    simp only [litsOK, Bool.and_eq_true] at h
    simp [valuesOf, wfValues, hv h.1, hvs h.2]
  · intro k v fs hv hfs h
    simp only [fieldsOK, Bool.and_eq_true] at h
    simp [fieldsOf, wfFields, wfField, hv h.1.2, hfs h.2]

theorem wfValue_valueOf : ∀ (l : Lit), litOK l = true → wfValue true (valueOf l) = true := wfValueOf_all.1
theorem wfValues_valuesOf : ∀ (l : List Lit), litsOK l = true → wfValues true (valuesOf l) = true := wfValueOf_all.2.1
theorem wfFields_fieldsOf : ∀ (fs : List (String × Lit)), fieldsOK fs = true → wfFields true (fieldsOf fs) = true := wfValueOf_all.2.2

theorem wfDirectives_depr (r : Option String) : wfDirectives true ((deprDirs r).map dirOf) = true := by
  rcases deprDirs_cases r with h | h | ⟨x, h⟩ <;> rw [h] <;> rfl

theorem wfDirectives_dirOf (ds : List DirApp) (h : ds.all SdlPrintTA.dirAppOK = true) : wfDirectives true (ds.map dirOf) = true := by
  simp only [wfDirectives, List.all_eq_true, List.mem_map]
  rintro _ ⟨d, hd, rfl⟩
  have := List.all_eq_true.1 h d hd
  simp only [SdlPrintTA.dirAppOK, Bool.and_eq_true, List.all_eq_true] at this
  simp only [wfDirective, dirOf, List.all_eq_true, List.mem_map]
  rintro _ ⟨a, ha, rfl⟩
  exact wfValue_valueOf a.2 (this.2 a ha).2

theorem wfDirectives_append (a b : List Directive) : wfDirectives true (a ++ b) = (wfDirectives true a && wfDirectives true b) := by
  simp [wfDirectives, List.all_append]

theorem wfInputValue_argA (s : SchemaD) (c : SdlPrintTA.OptsA) (apps : Apps) (path : String) (w : Nat) (a : ArgD)
    (h : argOKT s w a = true) (hk : SdlPrintTA.argAppsOK c apps path a = true) :
    wfInputValue (inputValOf (SdlPrintTA.argToDefA s c apps path a)) = true := by
  simp only [argOKT, Bool.and_eq_true] at h
  obtain ⟨⟨⟨_, ht⟩, _⟩, hd⟩ := h
  have hdef : wfDefault ((argToDef s a).default.map valueOf) = true := by
    unfold argToDef
    by_cases hh : a.hasDefault = true
    · simp only [hh, ↓reduceIte] at hd ⊢
      cases hv : valueLit s valueFuel a.default a.type with
      | none => rw [hv] at hd; cases hd
      | some l => rw [hv] at hd; simpa [wfDefault] using wfValue_valueOf l hd
    · have hh' : a.hasDefault = false := by simpa using hh
      simp [hh', wfDefault]
  simp only [wfInputValue, inputValOf, Bool.and_eq_true]
  exact ⟨⟨by simpa [SdlPrintTA.argToDefA, argToDef] using wfType_typeOf a.type ht, hdef⟩, wfDirectives_dirOf _ hk⟩

theorem wfFieldDefinition_fieldA (s : SchemaD) (c : SdlPrintTA.OptsA) (apps : Apps) (tname : String) (w : Nat) (f : FieldD)
    (h : fieldOKT s w f = true) (hk : SdlPrintTA.fieldAppsOK c apps tname f = true) :
    wfFieldDefinition (fieldOf (SdlPrintTA.fieldToDefA s c apps tname f)) = true := by
  simp only [fieldOKT, Bool.and_eq_true, List.all_eq_true] at h
  simp only [SdlPrintTA.fieldAppsOK, Bool.and_eq_true, List.all_eq_true] at hk
  obtain ⟨⟨⟨_, ht⟩, _⟩, ha⟩ := h
  simp only [wfFieldDefinition, fieldOf, SdlPrintTA.fieldToDefA, Bool.and_eq_true, List.all_eq_true]
  refine ⟨⟨?_, wfType_typeOf f.type ht⟩, ?_⟩
  · exact List.forall_mem_map.2 (List.forall_mem_map.2 fun a ha' => wfInputValue_argA s c apps _ _ a (ha a ha') (hk.2 a ha'))
  · rw [List.map_append, wfDirectives_append, wfDirectives_depr, wfDirectives_dirOf _ hk.1]; rfl

theorem wfEnumValue_valA (c : SdlPrintTA.OptsA) (apps : Apps) (tname : String) (w : Nat) (v : EnumValD) (h : enumValOKT w v = true)
    (hk : SdlPrintTA.appsOKAt c apps (tname ++ "." ++ v.name) = true) :
    wfEnumValueDefinition (enumValOf (SdlPrintTA.enumValToDefA c apps tname v)) = true := by
  simp only [enumValOKT, Bool.and_eq_true] at h
  simp only [wfEnumValueDefinition, enumValOf, SdlPrintTA.enumValToDefA, nameOf, Bool.and_eq_true]
  refine ⟨h.1.2, ?_⟩
  rw [List.map_append, wfDirectives_append, wfDirectives_depr, wfDirectives_dirOf _ hk]; rfl

theorem wfDefinition_typeA (fl : Flags) (s : SchemaD) (c : SdlPrintTA.OptsA) (apps : Apps) (w : Nat) (t : TypeD)
    (h : typeOKT s w t = true) (hk : SdlPrintTA.typeAppsOK c apps t = true) :
    wfDefinition fl (defTree (.type (SdlPrintTA.typeToDefA s c apps t))) = true := by
  simp only [typeOKT, Bool.and_eq_true] at h
  obtain ⟨_, hkind⟩ := h
  simp only [SdlPrintTA.typeAppsOK, Bool.and_eq_true, List.all_eq_true] at hk
  obtain ⟨⟨⟨hkt, hkf⟩, hkv⟩, hki⟩ := hk
  have hd := wfDirectives_dirOf _ hkt
  have hfields : (∀ f ∈ t.fields, fieldOKT s w f = true) →
      ∀ x ∈ (t.fields.map (SdlPrintTA.fieldToDefA s c apps t.name)).map fieldOf, wfFieldDefinition x = true := fun hfs =>
    List.forall_mem_map.2 (List.forall_mem_map.2 fun f hf => wfFieldDefinition_fieldA s c apps t.name w f (hfs f hf) (hkf f hf))
  cases hk' : t.kind <;> rw [hk'] at hkind <;>
    simp only [Bool.and_eq_true, List.all_eq_true] at hkind <;>
    simp only [defTree, typeDefOf, SdlPrintTA.typeToDefA, hk', wfDefinition, hd, Bool.true_and, List.all_eq_true]
  · exact hfields hkind.1.2
  · exact hfields hkind.2
  · exact List.forall_mem_map.2 (List.forall_mem_map.2 fun v hv => wfEnumValue_valA c apps t.name w v (hkind.2 v hv) (hkv v hv))
  · exact List.forall_mem_map.2 (List.forall_mem_map.2 fun a ha => wfInputValue_argA s c apps t.name w a (hkind.2 a ha) (hki a ha))

theorem wfDefinition_directiveA (fl : Flags) (s : SchemaD) (c : SdlPrintTA.OptsA) (apps : Apps) (w : Nat) (d : DirectiveD)
    (h : directiveOKT s w d = true) (hk : SdlPrintTA.directiveAppsOK c apps d = true) :
    wfDefinition fl (defTree (.directive (SdlPrintTA.directiveToDefA s c apps d))) = true := by
  simp only [directiveOKT, Bool.and_eq_true, List.all_eq_true, Bool.not_eq_true', List.isEmpty_eq_false_iff] at h
  simp only [SdlPrintTA.directiveAppsOK, List.all_eq_true] at hk
  obtain ⟨⟨⟨_, ha⟩, hne⟩, hl⟩ := h
  simp only [defTree, SdlPrintTA.directiveToDefA, wfDefinition, Bool.and_eq_true, List.all_eq_true, Bool.not_eq_true',
    List.isEmpty_eq_false_iff, decide_eq_true_eq]
  refine ⟨⟨?_, by simpa using hne⟩, ?_⟩
  · exact List.forall_mem_map.2 (List.forall_mem_map.2 fun a ha' => wfInputValue_argA s c apps _ w a (ha a ha') (hk a ha'))
  · intro x hx
    simp only [List.mem_map] at hx
    obtain ⟨n, hn, rfl⟩ := hx
    have := (hl n hn).2
    simpa [nameOf] using this

theorem wfDefinition_schemaA (fl : Flags) (s : SchemaD) (ds : List DirApp) (hne : rootOps s ≠ []) (hk : ds.all SdlPrintTA.dirAppOK = true) :
    wfDefinition fl (defTree (.schema { ops := rootOps s, dirs := ds })) = true := by
  simp only [defTree, wfDefinition, wfDirectives_dirOf _ hk, Bool.true_and, Bool.and_eq_true, Bool.not_eq_true',
    List.isEmpty_eq_false_iff, List.all_eq_true]
  refine ⟨by simpa using hne, ?_⟩
  intro x hx
  simp only [List.mem_map] at hx
  obtain ⟨p, hp, rfl⟩ := hx
  have e1 : T "query" = K.query := by decide +kernel
  have e2 : T "mutation" = K.mutation := by decide +kernel
  have e3 : T "subscription" = K.subscription := by decide +kernel
  rcases mem_rootOps s p hp with ⟨q, _, rfl⟩ | ⟨q, _, rfl⟩ | ⟨q, _, rfl⟩ <;>
    simp [wfOperationType, opTypeOf, Props.C01.operationTypeTuple_spec, e1, e2, e3]

/-- members are present where the grammar's optional block would otherwise be absent -/
theorem openEnd_typeToDefA (s : SchemaD) (c : SdlPrintTA.OptsA) (apps : Apps) (w : Nat) (t : TypeD) (h : typeOKT s w t = true) :
    openEnd (defTree (.type (SdlPrintTA.typeToDefA s c apps t))) = false := by
  simp only [typeOKT, Bool.and_eq_true] at h
  obtain ⟨_, hk⟩ := h
  cases hkind : t.kind <;> rw [hkind] at hk <;>
    simp only [defTree, typeDefOf, SdlPrintTA.typeToDefA, hkind, openEnd, List.isEmpty_map] <;>
    simp only [Bool.and_eq_true, Bool.not_eq_true'] at hk
  · exact hk.1.1
  · exact hk.1
  · exact hk.1
  · exact hk.1

end PyGql.SdlText
