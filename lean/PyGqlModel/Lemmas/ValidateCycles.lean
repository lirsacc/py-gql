/-
  `NoFragmentCyclesChecker._search` (model: `cycSearch` / `cycLoop`, with fix 874f2dd = `continue`) is a depth-first
  search with a shared visited dict. `search_top` (DESIGN.md's spread_closure_is_reachability): started with an empty dict and enough fuel,
  the keys of the result are exactly the fragments reachable from `outer` through >= 1 recorded spreads, and the path
  stored for a key ends in a predecessor of that key (or is empty for a direct successor of `outer`).
-/
import PyGqlModel.Validate.Rules
import PyGqlModel.Lemmas.ValidateVarsClosure
import PyGqlModel.Lemmas.ListBasics
namespace PyGql.Validate
open PyGql

namespace Cyc

abbrev G := AL (List String)

def succ (ff : G) (u : String) : List String := AL.getD ff u []
/-- reachable through at least one recorded spread -/
def ReachPlus (ff : G) (a k : String) : Prop := ∃ b ∈ succ ff a, VC.Reach ff b k
def vis (acc : G) (u : String) : Prop := AL.has acc u = true

theorem vis_set (acc : G) (k u : String) (p : List String) : vis (AL.set acc k p) u ↔ vis acc u ∨ u = k := by
  simp [vis, AL.has_set]

theorem get?_set_new (acc : G) (k u : String) (p q : List String) (hk : ¬ vis acc k)
    (h : AL.get? (AL.set acc k p) u = some q) : AL.get? acc u = some q ∨ (u = k ∧ q = p) := by
  rw [AL.get?_set] at h
  by_cases e : u = k
  · subst e
    simp only [↓reduceIte, Option.some.injEq] at h
    exact Or.inr ⟨rfl, h.symm⟩
  · simp only [e, ↓reduceIte] at h
    exact Or.inl h

theorem get?_set_old (acc : G) (k u : String) (p q : List String) (hk : ¬ vis acc k)
    (h : AL.get? acc u = some q) : AL.get? (AL.set acc k p) u = some q := by
  rw [AL.get?_set]
  by_cases e : u = k
  · subst e
    exact absurd (by simp [vis, AL.has_eq_isSome, h]) hk
  · simp only [e, ↓reduceIte]; exact h

/-- the stored path of a newly discovered fragment: empty for a direct successor of the start, else ending in a predecessor -/
def Good (ff : G) (top k : String) (q : List String) : Prop :=
  (q = [] ∧ k ∈ succ ff top) ∨ ∃ u, q.getLast? = some u ∧ k ∈ succ ff u

structure Spec (ff : G) (top outer : String) (targets : List String) (acc R : G) : Prop where
  keep : ∀ k q, AL.get? acc k = some q → AL.get? R k = some q
  sound : ∀ k, vis R k → vis acc k ∨ ReachPlus ff outer k
  succs : ∀ b ∈ targets, vis R b
  closed : ∀ u, vis R u → ¬ vis acc u → ∀ w ∈ succ ff u, vis R w
  paths : ∀ k q, AL.get? R k = some q → AL.get? acc k = some q ∨ Good ff top k q

/-- nothing visited: fine when the targets are visited already -/
theorem Spec.refl {ff : G} {top outer : String} {t : List String} {acc : G} (h : ∀ b ∈ t, vis acc b) :
    Spec ff top outer t acc acc :=
  ⟨fun _ _ h => h, fun _ h => Or.inl h, h, fun _ h1 h2 => absurd h1 h2, fun _ _ h => Or.inl h⟩

theorem Spec.mono {ff : G} {top outer : String} {t : List String} {acc R : G} (h : Spec ff top outer t acc R) (u : String)
    (hu : vis acc u) : vis R u := by
  simp only [vis, AL.has_eq_isSome] at hu ⊢
  cases hq : AL.get? acc u with
  | none => simp [hq] at hu
  | some q => simp [h.keep u q hq]

/-! ### the measure: fragments of the graph not yet visited -/

def remG (ff : G) (acc : G) : Nat := VC.rem ff (AL.keys acc)

theorem contains_keys (acc : G) (u : String) : (AL.keys acc).contains u = true ↔ vis acc u := by
  rw [List.contains_iff_mem, AL.mem_keys]; rfl

theorem remG_mono (ff acc acc' : G) (h : ∀ u, vis acc u → vis acc' u) : remG ff acc' ≤ remG ff acc := by
  unfold remG VC.rem
  apply List.length_filter_le_of_imp
  intro x _ hx
  simp only [Bool.not_eq_eq_eq_not, Bool.not_true] at hx ⊢
  cases hc : (AL.keys acc).contains x
  · rfl
  · have := h x ((contains_keys acc x).mp hc)
    rw [(contains_keys acc' x).mpr this] at hx
    cases hx

theorem remG_set_lt (ff acc : G) (k : String) (p : List String) (hk : k ∈ VC.univ ff) (hn : ¬ vis acc k) :
    remG ff (AL.set acc k p) < remG ff acc := by
  unfold remG VC.rem
  refine List.length_filter_lt_of_imp (fun x _ hx => ?_) ⟨k, hk, ?_, ?_⟩
  · simp only [Bool.not_eq_eq_eq_not, Bool.not_true] at hx ⊢
    cases hc : (AL.keys acc).contains x
    · rfl
    · have : vis (AL.set acc k p) x := (vis_set acc k x p).mpr (Or.inl ((contains_keys acc x).mp hc))
      rw [(contains_keys _ x).mpr this] at hx
      cases hx
  · simp only [Bool.not_eq_eq_eq_not, Bool.not_true]
    cases hc : (AL.keys acc).contains k
    · rfl
    · exact absurd ((contains_keys acc k).mp hc) hn
  · simp only [Bool.not_eq_eq_eq_not, Bool.not_false]
    exact (contains_keys _ k).mpr ((vis_set acc k k p).mpr (Or.inr rfl))

theorem remG_zero (ff acc : G) (h : remG ff acc = 0) (x : String) (hx : x ∈ VC.univ ff) : vis acc x := by
  unfold remG VC.rem at h
  have := List.length_eq_zero_iff.mp h
  have hnot : x ∉ (VC.univ ff).filter fun y => !(AL.keys acc).contains y := by rw [this]; simp
  simp only [List.mem_filter, hx, true_and, Bool.not_eq_eq_eq_not, Bool.not_true] at hnot
  cases hc : (AL.keys acc).contains x
  · exact absurd hc hnot
  · exact (contains_keys acc x).mp hc


theorem reachPlus_of_succ {ff : G} {outer inner k : String} (hi : inner ∈ succ ff outer) (h : ReachPlus ff inner k) :
    ReachPlus ff outer k := by
  obtain ⟨b, hb, hr⟩ := h
  exact ⟨inner, hi, .step hb hr⟩

theorem good_last (ff : G) (top inner : String) (path : List String) (k : String) (hk : k ∈ succ ff inner) :
    Good ff top k (path ++ [inner]) := Or.inr ⟨inner, by simp, hk⟩

/-- the loop over the successors of `outer`, given the specification of the recursive calls -/
theorem loop_spec (fx : Fixes) (hv : fx.v11 = true) (ff : G) (top : String) (fuel : Nat)
    (IH : ∀ outer acc path, remG ff acc ≤ fuel → (∀ k ∈ succ ff outer, Good ff top k path) →
      Spec ff top outer (succ ff outer) acc (cycSearch fx ff fuel outer acc path))
    (outer : String) (path : List String) (hgood : ∀ k ∈ succ ff outer, Good ff top k path) :
    ∀ (inners : List String) (acc : G), (∀ b ∈ inners, b ∈ succ ff outer) → remG ff acc ≤ fuel + 1 →
      Spec ff top outer inners acc (cycLoop fx (cycSearch fx ff fuel) path inners acc)
  | [], acc, _, _ => by
    rw [cycLoop]
    exact Spec.refl nofun
  | inner :: rest, acc, hsub, hrem => by
    rw [cycLoop]
    have hin : inner ∈ succ ff outer := hsub inner (List.mem_cons_self ..)
    have hrest : ∀ b ∈ rest, b ∈ succ ff outer := fun b hb => hsub b (List.mem_cons_of_mem _ hb)
    by_cases hvis : AL.has acc inner = true
    · simp only [hvis, hv, ↓reduceIte]
      have h := loop_spec fx hv ff top fuel IH outer path hgood rest acc hrest hrem
      exact ⟨h.keep, h.sound, fun b hb => by
        rcases List.mem_cons.mp hb with rfl | hb
        · exact h.mono _ hvis
        · exact h.succs b hb, h.closed, h.paths⟩
    · simp only [hvis, Bool.false_eq_true, ↓reduceIte]
      have hnv : ¬ vis acc inner := hvis
      have huniv : inner ∈ VC.univ ff := VC.getD_sub_univ ff outer inner hin
      have hrem' : remG ff (AL.set acc inner path) ≤ fuel := by
        have := remG_set_lt ff acc inner path huniv hnv; omega
      have s1 := IH inner (AL.set acc inner path) (path ++ [inner]) hrem'
        (fun k hk => good_last ff top inner path k hk)
      have hrem2 : remG ff (cycSearch fx ff fuel inner (AL.set acc inner path) (path ++ [inner])) ≤ fuel + 1 := by
        have := remG_mono ff (AL.set acc inner path) _ (fun u hu => s1.mono u hu); omega
      have h := loop_spec fx hv ff top fuel IH outer path hgood rest _ hrest hrem2
      refine ⟨?_, ?_, ?_, ?_, ?_⟩
      · intro k q hq
        exact h.keep k q (s1.keep k q (get?_set_old acc inner k path q hnv hq))
      · intro k hk
        rcases h.sound k hk with h1 | h1
        · rcases s1.sound k h1 with h2 | h2
          · rcases (vis_set acc inner k path).mp h2 with h3 | rfl
            · exact Or.inl h3
            · exact Or.inr ⟨k, hin, .refl _⟩
          · exact Or.inr (reachPlus_of_succ hin h2)
        · exact Or.inr h1
      · intro b hb
        rcases List.mem_cons.mp hb with rfl | hb
        · exact h.mono _ (s1.mono _ ((vis_set acc b b path).mpr (Or.inr rfl)))
        · exact h.succs b hb
      · intro u hu hnu w hw
        by_cases h1 : vis (cycSearch fx ff fuel inner (AL.set acc inner path) (path ++ [inner])) u
        · by_cases h2 : vis (AL.set acc inner path) u
          · rcases (vis_set acc inner u path).mp h2 with h3 | rfl
            · exact absurd h3 hnu
            · exact h.mono _ (s1.succs w hw)
          · exact h.mono _ (s1.closed u h1 h2 w hw)
        · exact h.closed u hu h1 w hw
      · intro k q hq
        rcases h.paths k q hq with h1 | h1
        · rcases s1.paths k q h1 with h2 | h2
          · rcases get?_set_new acc inner k path q hnv h2 with h3 | ⟨rfl, rfl⟩
            · exact Or.inl h3
            · exact Or.inr (hgood _ hin)
          · exact Or.inr h2
        · exact Or.inr h1

theorem succ_of_get?_none {ff : G} {outer : String} (h : AL.get? ff outer = none) : succ ff outer = [] := by
  simp [succ, AL.getD, h]
theorem succ_of_get?_some {ff : G} {outer : String} {l : List String} (h : AL.get? ff outer = some l) : succ ff outer = l := by
  simp [succ, AL.getD, h]

/-- the depth-first search meets its specification whenever the fuel covers the fragments not yet visited -/
theorem dfs_spec (fx : Fixes) (hv : fx.v11 = true) (ff : G) (top : String) : ∀ (fuel : Nat) (outer : String) (acc : G)
    (path : List String), remG ff acc ≤ fuel → (∀ k ∈ succ ff outer, Good ff top k path) →
    Spec ff top outer (succ ff outer) acc (cycSearch fx ff fuel outer acc path)
  | 0, outer, acc, path, hrem, _ => by
    rw [cycSearch]
    exact Spec.refl fun b hb => remG_zero ff acc (by omega) b (VC.getD_sub_univ ff outer b hb)
  | fuel+1, outer, acc, path, hrem, hgood => by
    rw [cycSearch]
    cases hg : AL.get? ff outer with
    | none =>
      simp only
      rw [succ_of_get?_none hg]
      exact Spec.refl nofun
    | some inners =>
      simp only
      have hs := succ_of_get?_some hg
      rw [hs]
      exact loop_spec fx hv ff top fuel (fun o a p hr hgd => dfs_spec fx hv ff top fuel o a p hr hgd) outer path hgood inners acc
        (fun b hb => by rw [hs]; exact hb) hrem

theorem remG_nil_le (ff : G) : remG ff [] ≤ (VC.univ ff).length := by
  unfold remG VC.rem; exact List.length_filter_le _ _

/-- with enough fuel, a search started from `outer` with an empty dict visits exactly
    the fragments reachable from `outer` through at least one spread; the stored paths are `Good` -/
theorem search_top (fx : Fixes) (hv : fx.v11 = true) (ff : G) (fuel : Nat) (hf : (VC.univ ff).length ≤ fuel) (outer : String) :
    (∀ k, vis (cycSearch fx ff fuel outer [] []) k ↔ ReachPlus ff outer k) ∧
    (∀ k q, AL.get? (cycSearch fx ff fuel outer [] []) k = some q → Good ff outer k q) := by
  have sp := dfs_spec fx hv ff outer fuel outer [] [] (Nat.le_trans (remG_nil_le ff) hf) (fun k hk => Or.inl ⟨rfl, hk⟩)
  have hnil : ∀ u, ¬ vis ([] : G) u := fun u h => by simp [vis, AL.has] at h
  constructor
  · intro k
    constructor
    · intro hk
      rcases sp.sound k hk with h | h
      · exact absurd h (hnil k)
      · exact h
    · rintro ⟨b, hb, hr⟩
      have hcl : ∀ a ∈ AL.keys (cycSearch fx ff fuel outer [] []), ∀ w ∈ AL.getD ff a [],
          w ∈ AL.keys (cycSearch fx ff fuel outer [] []) := by
        intro a ha w hw
        rw [AL.mem_keys] at ha ⊢
        exact sp.closed a ha (hnil a) w hw
      have hb' : b ∈ AL.keys (cycSearch fx ff fuel outer [] []) := by rw [AL.mem_keys]; exact sp.succs b hb
      have := VC.closure_closed_reach hcl hb' hr
      rw [AL.mem_keys] at this
      exact this
  · intro k q hq
    rcases sp.paths k q hq with h | h
    · simp [AL.get?] at h
    · exact h


/-- no fragment is recorded as spreading itself (direct self-spreads are reported when met and never recorded) -/
def NoSelf (ff : G) : Prop := ∀ f, f ∉ succ ff f

theorem cycFuel_ge (ff : G) : (VC.univ ff).length ≤ cycFuel ff := by
  have := VC.foldl_len_ge ff 2
  unfold cycFuel VC.univ at *
  omega

theorem get?_search_none_iff (fx : Fixes) (hv : fx.v11 = true) (ff : G) (outer : String) :
    AL.get? (cycSearch fx ff (cycFuel ff) outer [] []) outer = none ↔ ¬ ReachPlus ff outer outer := by
  have h := (search_top fx hv ff (cycFuel ff) (cycFuel_ge ff) outer).1 outer
  rw [← h]
  simp only [vis, AL.has_eq_isSome]
  cases AL.get? (cycSearch fx ff (cycFuel ff) outer [] []) outer <;> simp

theorem cycStep_acyclic (fx : Fixes) (hv : fx.v11 = true) (ff : G) (st : Nat × List String × Bool) (outer : String)
    (h : ¬ ReachPlus ff outer outer) : cycStep fx ff st outer = st := by
  unfold cycStep
  simp only [(get?_search_none_iff fx hv ff outer).mpr h]

theorem cycStep_mono (fx : Fixes) (ff : G) (st : Nat × List String × Bool) (outer : String) :
    st.1 ≤ (cycStep fx ff st outer).1 := by
  unfold cycStep
  simp only
  split
  · exact Nat.le_refl _
  · split
    · exact Nat.le_refl _
    · split
      · exact Nat.le_refl _
      · exact Nat.le_succ _

theorem foldl_cycStep_mono (fx : Fixes) (ff : G) (ks : List String) (st : Nat × List String × Bool) :
    st.1 ≤ (ks.foldl (cycStep fx ff) st).1 := by
  induction ks generalizing st with
  | nil => exact Nat.le_refl _
  | cons k ks ih => rw [List.foldl_cons]; exact Nat.le_trans (cycStep_mono fx ff st k) (ih _)

/-- the first cyclic fragment met is reported (nothing is in `cyclic` yet, and the stored path ends in a predecessor,
    which is not the fragment itself) -/
theorem cycStep_cyclic (fx : Fixes) (hv : fx.v11 = true) (ff : G) (hns : NoSelf ff) (n : Nat) (b : Bool) (outer : String)
    (h : ReachPlus ff outer outer) : (cycStep fx ff (n, [], b) outer).1 = n + 1 := by
  unfold cycStep
  simp only
  have hsome : AL.get? (cycSearch fx ff (cycFuel ff) outer [] []) outer ≠ none :=
    fun e => (get?_search_none_iff fx hv ff outer).mp e h
  cases hq : AL.get? (cycSearch fx ff (cycFuel ff) outer [] []) outer with
  | none => exact absurd hq hsome
  | some path =>
    simp only
    have hg := (search_top fx hv ff (cycFuel ff) (cycFuel_ge ff) outer).2 outer path hq
    rcases hg with ⟨_, hself⟩ | ⟨u, hu, hsu⟩
    · exact absurd hself (hns outer)
    · simp only [hu]
      have hne : u ≠ outer := fun e => hns outer (e ▸ hsu)
      simp [hne]

/-- **`leave_document` reports nothing ⇔ no recorded fragment reaches itself** -/
theorem cycErrors_zero_iff (fx : Fixes) (hv : fx.v11 = true) (ff : G) (hns : NoSelf ff) :
    (cycErrors fx ff).1 = 0 ↔ ∀ f ∈ AL.keys ff, ¬ ReachPlus ff f f := by
  unfold cycErrors
  simp only
  suffices H : ∀ (ks : List String) (b : Bool),
      ((ks.foldl (cycStep fx ff) (0, [], b)).1 = 0 ↔ ∀ f ∈ ks, ¬ ReachPlus ff f f) from H _ false
  intro ks
  induction ks with
  | nil => intro b; simp
  | cons k ks ih =>
    intro b
    rw [List.foldl_cons]
    by_cases hk : ReachPlus ff k k
    · have h1 := cycStep_cyclic fx hv ff hns 0 b k hk
      have h2 := foldl_cycStep_mono fx ff ks (cycStep fx ff (0, [], b) k)
      constructor
      · intro h0; omega
      · intro hall; exact absurd hk (hall k (List.mem_cons_self ..))
    · rw [cycStep_acyclic fx hv ff _ k hk, ih b]
      simp only [List.mem_cons, forall_eq_or_imp, hk, not_false_eq_true, true_and]

end Cyc
end PyGql.Validate
