/-
  C04 — the SIMULATION: on selection lists that are equal up to repeated selections, the specification's collector
  follows the model's for both outcomes (`SimR`): whenever the model's collector succeeds the specification's succeeds
  too, and the model's visit sequence is the specification's plus repeats of nodes that already appeared (`RepA`);
  whenever it fails with the `CoercionError` of a directive condition so does the specification's (both evaluate the
  selections in the same order, the model only re-visits fragments the specification has already expanded, and those
  are covered). Invariants: the model's `_seen_fragments` set is always contained in the specification's
  `visitedFragments`; the closure invariant on the visited set.
-/
import PyGqlModel.Lemmas.C04Reach


namespace PyGql.Props.C04
open PyGql PyGql.Exec PyGql.Spec

section
variable {s : SchemaD} {doc : Doc} {vars : Vars}

theorem headActS_ownErr {obj : String} {x : Sel} {V : List String} {e : Fail} (h : skipSelection vars (ownDirs x) = .error e) :
    headActS s doc vars obj x V = .error e := by
  cases x <;> simp only [headActS, ownDirs, bind, Except.bind] at h ⊢ <;> rw [h]

theorem headActS_yields {obj : String} {x : Sel} {V : List String} {n : FNode} (h : Yields vars x n) :
    headActS s doc vars obj x V = .ok (.keep n) := by
  cases h with
  | field hs => simp only [headActS, bind, Except.bind, hs]; rfl

theorem headActS_opens {obj : String} {x : Sel} {V : List String} {sels : List Sel} {name : Option String}
    (h : Opens s doc vars obj x sels name) :
    headActS s doc vars obj x V = .ok (match name with
      | none => .expand sels V
      | some nm => if V.contains nm then .pass V else .expand sels (V ++ [nm])) := by
  cases h with
  | inline hs ha => simp only [headActS, bind, Except.bind, hs, ha]; rfl
  | spread hs hf ha =>
    simp only [headActS, bind, Except.bind, hs]
    cases V.contains _ with
    | true => rfl
    | false => simp only [hf, ha]; rfl

theorem headActS_of_drop {obj : String} {x : Sel} {seen V : List String} (hsv : ∀ N ∈ seen, N ∈ V)
    (h : headAct s doc vars obj x seen = .ok .drop) : ∃ V', headActS s doc vars obj x V = .ok (.pass V') := by
  cases x with
  | field key nm loc dirs args hs sub =>
    rw [headActS_eq (by intro _ _ h; cases h)]
    exact ⟨V, congrArg (Except.map (HeadAct.toS V)) h⟩
  | inline on dirs sub =>
    rw [headActS_eq (by intro _ _ h; cases h)]
    exact ⟨V, congrArg (Except.map (HeadAct.toS V)) h⟩
  | spread nm dirs =>
    simp only [headAct, headActS] at h ⊢
    cases hfr : doc.fragment? nm with
    | none => rw [hfr] at h; cases h
    | some fr =>
      simp only [hfr, bind, Except.bind, pure, Except.pure] at h ⊢
      cases hsk : skipSelection vars dirs with
      | error e => rw [hsk] at h; cases h
      | ok b =>
        cases b with
        | true => exact ⟨_, rfl⟩
        | false =>
          simp only [hsk] at h ⊢
          cases hvis : V.contains nm with
          | true => exact ⟨_, rfl⟩
          | false =>
            cases hseen : seen.contains nm with
            | true =>
              have hmem : nm ∈ V := hsv nm (by simpa using hseen)
              rw [List.contains_eq_mem, decide_eq_false_iff_not] at hvis
              exact absurd hmem hvis
            | false =>
              simp only [hseen, Bool.false_eq_true, if_false] at h ⊢
              cases hap : fragmentTypeApplies s obj (some fr.on) with
              | error e => rw [hap] at h; cases h
              | ok a =>
                rw [hap] at h
                cases a with
                | false => exact ⟨_, rfl⟩
                | true => cases h

/-- the specification's outcome, given the model's: on success the same sequence up to repeats (of earlier nodes, or of
    nodes in `P`) and a visited set containing the seen set; the `CoercionError` of a directive condition is shared -/
def SimR (P : FNode → Prop) : SeqRes → SeqRes → Prop
  | .ok (qM, seen'), rS => ∃ qS V', rS = .ok (qS, V') ∧ RepA P qS qM ∧ ∀ N ∈ seen', N ∈ V'
  | .error e, rS => e = CE → rS = .error CE

theorem SimR.append {P : FNode → Prop} {q1S q1M : List FNode} {rM rS : SeqRes} (h1 : RepA P q1S q1M)
    (h : SimR (fun n => n ∈ q1M ∨ P n) rM rS) : SimR P (seqAppend q1M rM) (seqAppend q1S rS) := by
  cases rM with
  | error e => exact fun he => by rw [h he]; rfl
  | ok p =>
    obtain ⟨qS, V', rfl, hr, hsv⟩ := h
    exact ⟨_, V', rfl, h1.append hr, hsv⟩

theorem SimR.extra {P : FNode → Prop} {q1M : List FNode} {rM rS : SeqRes} (h1 : ∀ n ∈ q1M, P n) (h : SimR P rM rS) :
    SimR P (seqAppend q1M rM) rS := by
  cases rM with
  | error e => exact h
  | ok p =>
    obtain ⟨qS, V', rfl, hr, hsv⟩ := h
    exact ⟨_, V', rfl, RepA.prepend q1M h1 hr, hsv⟩

/-- selections processed before (`Q`) are covered -/
def QCov (s : SchemaD) (doc : Doc) (vars : Vars) (obj : String) (Q : Sel → Prop) (A : FNode → Prop) (V : List String) : Prop :=
  ∀ x, Q x → ∀ y, Met s doc vars obj [x] y → Done vars A V y

/-- what the recursion carries for a pair of collectors (`f` the model's, `fS` the specification's). `selsM` is `selsS`
    plus repeats of selections in `Q`, which were processed before and are covered (`QCov`); `A`: the nodes that have
    appeared so far, `P ⊇ A`: what a repeated node on the model's side may be; `seen ⊆ V`: the model's `_seen_fragments`
    within the specification's visited set; `r`: the rank from which on a visited fragment may still be in progress
    (`Closed`), a bound on what both lists need -/
def Sim (s : SchemaD) (doc : Doc) (vars : Vars) (rk : String → Nat) (f fS : SeqFn) : Prop :=
  ∀ (obj : String) (selsS selsM : List Sel) (Q : Sel → Prop) (P A : FNode → Prop) (seen V : List String) (r : Nat),
    RepA Q selsS selsM → QCov s doc vars obj Q A V → (∀ n, A n → P n) → (∀ N ∈ seen, N ∈ V) →
    Closed s doc vars obj rk r A V → selsNeed rk selsM ≤ r → selsNeed rk selsS ≤ r →
    SimR P (f obj selsM seen) (fS obj selsS V)

theorem seenAfter_sub {seen seen1 V : List String} {name : Option String} (h0 : ∀ N ∈ seen, N ∈ V) (h1 : ∀ N ∈ seen1, N ∈ V)
    (hn : ∀ nm, name = some nm → nm ∈ V) : ∀ N ∈ seenAfter seen seen1 name, N ∈ V := by
  have h2 : ∀ N ∈ (if seen.isEmpty then seen else seen1), N ∈ V := fun N hN => by
    split at hN
    · exact h0 N hN
    · exact h1 N hN
  cases name with
  | none => exact h2
  | some nm =>
    intro N hN
    simp only [seenAfter] at hN
    generalize (if seen.isEmpty = true then seen else seen1) = seen2 at hN h2
    split at hN
    · exact h2 N hN
    · rcases List.mem_append.1 hN with hN | hN
      · exact h2 N hN
      · cases List.mem_singleton.1 hN
        exact hn _ rfl

/-- no `CoercionError`, only nodes in `A`, only names in `V` -/
def Within (A : FNode → Prop) (V : List String) : SeqRes → Prop
  | .error e => e ≠ CE
  | .ok p => (∀ n ∈ p.1, A n) ∧ ∀ N ∈ p.2, N ∈ V

theorem Sound.covered {obj : String} {sels : List Sel} {seen V : List String} {A : FNode → Prop} {r : SeqRes}
    (h : Sound s doc vars obj sels seen r) (hcov : ∀ y, Met s doc vars obj sels y → Done vars A V y) (hsv : ∀ N ∈ seen, N ∈ V) :
    Within A V r := by
  cases r with
  | error e =>
    rintro rfl
    rcases h with h | ⟨y, hy, hye⟩
    · cases h
    · obtain ⟨⟨b, hb⟩, _⟩ := hcov y hy
      rw [hye.CE] at hb
      cases hb
  | ok p =>
    refine ⟨fun n hn => ?_, fun N hN => ?_⟩
    · obtain ⟨y, hy, hyn⟩ := h.1 n hn
      exact (hcov y hy).2.1 n hyn
    · rcases h.2 N hN with hN | ⟨dirs, hy, hs⟩
      · exact hsv N hN
      · exact (hcov _ hy).2.2 N dirs rfl hs

theorem mseqStep_sim {rk ek : String → Nat} {B : Nat} (hrk : Ranked doc rk ek B) {rec recS : SeqFn}
    (hM : ModelSound s doc vars rec) (hS : SpecFacts s doc vars rk recS) (hSim : Sim s doc vars rk rec recS) (obj : String) (r : Nat) :
    ∀ (selsS selsM : List Sel) (Q : Sel → Prop), RepA Q selsS selsM →
      ∀ (P A : FNode → Prop) (seen V : List String), QCov s doc vars obj Q A V → (∀ n, A n → P n) → (∀ N ∈ seen, N ∈ V) →
      Closed s doc vars obj rk r A V → selsNeed rk selsM ≤ r → selsNeed rk selsS ≤ r →
      SimR P (mseqStep s doc vars rec obj selsM seen) (sseqStep s doc vars recS obj selsS V) := by
  intro selsS selsM Q hrep
  induction hrep with
  | nil => intro P A seen V _ _ hsv _ _ _; exact ⟨[], V, rfl, .nil, hsv⟩
  | @both Q x tS tM _ ih =>
    intro P A seen V hq hAP hsv hcl hnM hnS
    simp only [selsNeed, Nat.max_le] at hnM hnS
    -- the tails, once the head is done on both sides
    have cont : ∀ {q1S V1 q1M seen2}, Facts s doc vars obj [x] A V q1S V1 → RepA P q1S q1M → (∀ N ∈ seen2, N ∈ V1) →
        SimR P (seqAppend q1M (mseqStep s doc vars rec obj tM seen2)) (seqAppend q1S (sseqStep s doc vars recS obj tS V1)) := by
      intro q1S V1 q1M seen2 hh hr1 hs2
      refine SimR.append hr1 (ih _ _ seen2 V1 ?_ ?_ hs2 (hcl.after hh) hnM.2 hnS.2)
      · intro y hy z hz
        rcases hy with rfl | hy
        · exact hh.1 z hz
        · exact (hq y hy z hz).mono (fun n => Or.inl) hh.2.2
      · intro n hn
        rcases hn with hn | hn
        · exact Or.inr (hAP n hn)
        · exact Or.inl (hr1.left_subset n hn)
    have hxM := headAct_spec (s := s) (doc := doc) (vars := vars) (obj := obj) (seen := seen) x
    have hxS := headActS_spec (s := s) (doc := doc) (vars := vars) (obj := obj) (V := V) x
    rw [mseqStep, sseqStep]
    cases hha : headAct s doc vars obj x seen with
    | error e =>
      intro he
      rw [headActS_ownErr ((headAct_error (he ▸ hha)).CE)]
      rfl
    | ok a =>
      rw [hha] at hxM
      cases a with
      | drop =>
        obtain ⟨V1, hV1⟩ := headActS_of_drop (V := V) hsv hha
        rw [hV1] at hxS ⊢
        have hh := Facts.pass hxS hnS.1 hcl
        have := cont hh .nil (fun N hN => hh.2.2 N (hsv N hN))
        rwa [seqAppend_nil, seqAppend_nil] at this
      | keep n =>
        rw [headActS_yields hxM]
        exact cont (Facts.keep hxM) (RepA.refl _ _) hsv
      | expand sels name =>
        obtain ⟨ho, _⟩ := hxM
        have hact := headActS_opens (V := V) ho
        cases name with
        | none =>
          rw [hact]
          have hneed : selsNeed rk sels ≤ r := by
            cases ho
            simp only [selNeed] at hnM
            omega
          have h1 := hSim obj sels sels (fun _ => False) P A seen V r (RepA.refl _ _) (fun _ h => h.elim) hAP hsv hcl hneed hneed
          dsimp only [Except.bind]
          cases hr1 : rec obj sels seen with
          | error e =>
            rw [hr1] at h1
            intro he
            rw [h1 he]
          | ok p1 =>
            rw [hr1] at h1
            obtain ⟨q1S, V1, hs1, hrep1, hsv1⟩ := h1
            rw [hs1]
            have hf := hS obj sels V q1S V1 A r hs1 hneed hcl
            exact cont (Facts.expand ho hf) hrep1 (seenAfter_sub (fun N hN => hf.2.2 N (hsv N hN)) hsv1 (name := none) (fun _ h => nomatch h))
        | some nm =>
          obtain ⟨dirs, rfl, hs⟩ := ho.name_eq
          simp only [selNeed] at hnM hnS
          have hrank : rk nm < r := by omega
          dsimp only at hact
          by_cases hvis : V.contains nm = true
          · -- the specification skips: everything the model collects again has already appeared
            rw [if_pos hvis] at hact
            rw [hact] at hxS ⊢
            have hmem : nm ∈ V := by simpa using hvis
            have hcov : ∀ y, Met s doc vars obj sels y → Done vars A V y := by
              cases ho with
              | spread _ hf ha =>
                rcases hcl nm hmem with h | h
                · omega
                · exact h _ hf ha
            have h1 := (hM obj sels seen).covered hcov hsv
            dsimp only [Except.bind]
            cases hr1 : rec obj sels seen with
            | error e => rw [hr1] at h1; exact fun he => absurd he h1
            | ok p1 =>
              rw [hr1] at h1
              have hr1' : RepA P [] p1.1 := by
                simpa using RepA.prepend (Q := P) (xs := []) (ys := []) p1.1 (fun n hn => hAP n (h1.1 n hn)) .nil
              have := cont (Facts.pass hxS (by simp only [selNeed]; omega) hcl) hr1'
                (seenAfter_sub (name := some nm) hsv h1.2 (fun _ h => by cases h; exact hmem))
              rwa [seqAppend_nil] at this
          · -- both expand the fragment
            rw [if_neg hvis] at hact
            rw [hact]
            have hV1 : ∀ N ∈ seen, N ∈ V ++ [nm] := fun N hN => List.mem_append_left _ (hsv N hN)
            have hneed : selsNeed rk sels ≤ rk nm := by
              cases ho with
              | spread _ hf _ => exact hrk.collect nm _ hf
            have h1 := hSim obj sels sels (fun _ => False) P A seen (V ++ [nm]) (rk nm) (RepA.refl _ _) (fun _ h => h.elim) hAP hV1
              (hcl.body hrank) hneed hneed
            dsimp only [Except.bind]
            cases hr1 : rec obj sels seen with
            | error e =>
              rw [hr1] at h1
              intro he
              rw [h1 he]
            | ok p1 =>
              rw [hr1] at h1
              obtain ⟨q1S, V1, hs1, hrep1, hsv1⟩ := h1
              rw [hs1]
              have hf := hS obj sels (V ++ [nm]) q1S V1 A (rk nm) hs1 hneed (hcl.body hrank)
              exact cont (Facts.expand ho hf) hrep1 (seenAfter_sub (name := some nm) (fun N hN => hf.2.2 N (hV1 N hN)) hsv1
                (fun _ h => by cases h; exact hf.2.2 _ (List.mem_append_right _ (List.mem_singleton.2 rfl))))
  | @extra Q x tS tM hQx _ ih =>
    intro P A seen V hq hAP hsv hcl hnM hnS
    simp only [selsNeed, Nat.max_le] at hnM
    -- the specification does not see this repeated selection: it was processed before
    have hx := hq x hQx
    have hxM := headAct_spec (s := s) (doc := doc) (vars := vars) (obj := obj) (seen := seen) x
    have tail : ∀ seen2, (∀ N ∈ seen2, N ∈ V) →
        SimR P (mseqStep s doc vars rec obj tM seen2) (sseqStep s doc vars recS obj tS V) :=
      fun seen2 hs2 => ih P A seen2 V hq hAP hs2 hcl hnM.2 hnS
    rw [mseqStep]
    cases hha : headAct s doc vars obj x seen with
    | error e =>
      intro he
      obtain ⟨⟨b, hb⟩, _⟩ := hx x .self
      rw [(headAct_error (he ▸ hha)).CE] at hb
      cases hb
    | ok a =>
      rw [hha] at hxM
      cases a with
      | drop => exact tail seen hsv
      | keep n =>
        refine SimR.extra (q1M := [n]) (fun m hm => ?_) (tail seen hsv)
        cases List.mem_singleton.1 hm
        exact hAP _ ((hx x .self).2.1 _ hxM)
      | expand sels name =>
        obtain ⟨ho, _⟩ := hxM
        have h1 := (hM obj sels seen).covered (fun y hy => hx y (.under (List.mem_singleton.2 rfl) ho hy)) hsv
        dsimp only [Except.bind]
        cases hr1 : rec obj sels seen with
        | error e => rw [hr1] at h1; exact fun he => absurd he h1
        | ok p1 =>
          rw [hr1] at h1
          refine SimR.extra (fun n hn => hAP n (h1.1 n hn)) (tail _ (seenAfter_sub (name := name) hsv h1.2 fun nm' hnm => ?_))
          cases hnm
          obtain ⟨dirs, rfl, hs⟩ := ho.name_eq
          exact (hx _ .self).2.2 _ _ rfl hs

theorem collect_simulation {rk ek : String → Nat} {B : Nat} (hrk : Ranked doc rk ek B) (n : Nat) :
    Sim s doc vars rk (mseq s doc vars n) (sseq s doc vars n) := by
  induction n with
  | zero => intro obj selsS selsM Q P A seen V r _ _ _ _ _ _ _ he; cases he
  | succ n ih =>
    exact fun obj selsS selsM Q P A seen V r hrep hq hAP hsv hcl hnM hnS =>
      mseqStep_sim hrk (mseq_sound n) (sseq_facts hrk n) ih obj r selsS selsM Q hrep P A seen V hq hAP hsv hcl hnM hnS

/-- the one instance the theorems about `collect_fields` use: equal lists up to repeats, nothing seen or visited yet -/
theorem sim_top {rk ek : String → Nat} {B : Nat} (hrk : Ranked doc rk ek B) (n : Nat) (obj : String) {selsS selsM : List Sel}
    (hrep : Rep selsS selsM) :
    SimR (fun _ => False) (mseq s doc vars n obj selsM []) (sseq s doc vars n obj selsS []) :=
  collect_simulation hrk n obj selsS selsM (fun _ => False) (fun _ => False) (fun _ => False) [] []
    (max (selsNeed rk selsM) (selsNeed rk selsS)) hrep (fun _ h => h.elim) (fun _ h => h) (fun _ h => nomatch h)
    (fun _ h => nomatch h) (Nat.le_max_left _ _) (Nat.le_max_right _ _)


end
end PyGql.Props.C04
