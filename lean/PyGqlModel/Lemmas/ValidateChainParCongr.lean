/-
  The parametrised chain (`Validate/ChainPar.lean`) reads its rule-enter function only at the members of the chain:
  two functions that agree on them give the same run (`visitDocumentPar_congr`). Used to identify the lone runs of the
  memoised chain (`enterRuleM`) with the lone runs of the chain of the theorems for every rule but the overlap rule.
-/
import PyGqlModel.Lemmas.ValidateChainParWalk
namespace PyGql.Validate
open PyGql

def AgreeOn (c : Cfg) (er er' : ER) : Prop :=
  ∀ r ∈ c.rules, ∀ n ti a, er c.schema c.fixes r n ti a = er' c.schema c.fixes r n ti a

theorem enterRulesPar_congr {er er' : ER} (c : Cfg) (n : Node) (ti : TI) : ∀ (rules : List Rule) (a : RS),
    (∀ r ∈ rules, ∀ n ti a, er c.schema c.fixes r n ti a = er' c.schema c.fixes r n ti a) →
    enterRulesPar er c n ti rules a = enterRulesPar er' c n ti rules a
  | [], a, _ => by rw [enterRulesPar, enterRulesPar]
  | r :: rest, a, h => by
    rw [enterRulesPar, enterRulesPar, h r (List.mem_cons_self ..)]
    simp only [enterRulesPar_congr c n ti rest _ (fun r hr => h r (List.mem_cons_of_mem _ hr))]

theorem raisedRulesPar_congr {er er' : ER} (c : Cfg) (n : Node) (ti : TI) : ∀ (rules : List Rule) (a : RS),
    (∀ r ∈ rules, ∀ n ti a, er c.schema c.fixes r n ti a = er' c.schema c.fixes r n ti a) →
    raisedRulesPar er c n ti rules a = raisedRulesPar er' c n ti rules a
  | [], a, _ => by rw [raisedRulesPar, raisedRulesPar]
  | r :: rest, a, h => by
    rw [raisedRulesPar, raisedRulesPar, h r (List.mem_cons_self ..)]
    simp only [raisedRulesPar_congr c n ti rest _ (fun r hr => h r (List.mem_cons_of_mem _ hr))]

/-- a visit function of the parametrised chain that reads `er` at the members only -/
def CongE (W : ER → Cfg → St → St) : Prop := ∀ er er' c, AgreeOn c er er' → ∀ st, W er c st = W er' c st

theorem CongE.id : CongE (fun _ _ st => st) := fun _ _ _ _ _ => rfl

theorem CongE.comp {W1 W2 : ER → Cfg → St → St} (h1 : CongE W1) (h2 : CongE W2) :
    CongE (fun er c st => W2 er c (W1 er c st)) := fun er er' c h st => by
  simp only [h1 er er' c h st, h2 er er' c h]

theorem CongE.node (n : Node) {B : ER → Cfg → St → St} (hB : CongE B) :
    CongE (fun er c st => visitNodePar er c n (B er c) st) := fun er er' c h st => by
  have he : enterPar er c n st = enterPar er' c n st := by
    simp only [enterPar, enterRulesPar_congr c n _ c.rules st.rs h]
  have hl : ∀ st0 st1, leaveSkippedPar er c n st0 st1 = leaveSkippedPar er' c n st0 st1 := fun st0 st1 => by
    simp only [leaveSkippedPar, raisedRulesPar_congr c n _ c.rules st0.rs h]
  have hb : B er c = B er' c := funext fun st => hB er er' c h st
  simp only [visitNodePar, he, hl, hb]
  rfl

theorem CongE.closed : VisitClosed CongE := ⟨CongE.id, CongE.comp, fun n _ hB => CongE.node n hB⟩

theorem cong_values : ∀ vs : List Value, CongE (fun er c => visitValuesPar er c vs) := CongE.closed.values

theorem cong_objField : ∀ f : ObjField, CongE (fun er c => visitObjFieldPar er c f) := CongE.closed.objField

theorem cong_objFields : ∀ fs : List ObjField, CongE (fun er c => visitObjFieldsPar er c fs) := CongE.closed.objFields

theorem cong_sel : ∀ x : Sel, CongE (fun er c => visitSelPar er c x) := CongE.closed.sel

theorem visitDocumentPar_congr (er er' : ER) (c : Cfg) (h : AgreeOn c er er') (d : Doc) (st : St) :
    visitDocumentPar er c d st = visitDocumentPar er' c d st :=
  CongE.closed.document d er er' c h st

end PyGql.Validate
