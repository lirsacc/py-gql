/-
  C14 — CamelCaseSchemaTransform, BY-NAME VIEW of one `on_schema` round: every hook allocates (never writes), every member is
  rebuilt under its converted name and NONE IS DROPPED: the view (`typeV`, Lemmas/HeapCloneExact.lean) of every visited type is
  the view before with the field / argument / input-field names converted (`renV`), python names, defaults, descriptions,
  deprecations, resolvers, types by name and ORDER unchanged.
-/
import PyGqlModel.Lemmas.HeapCopyView
import PyGqlModel.Lemmas.HeapClosedTypes

namespace PyGql.Heap.Own
open PyGql.Heap PyGql.Props.C14

def renA (ren : String → String) (g : ArgO) : ArgO := { g with name := ren g.name }

def renF (ren : String → String) (p : FieldO × List (Option ArgO)) : FieldO × List (Option ArgO) :=
  ({ p.1 with name := ren p.1.name }, p.2.map (Option.map (renA ren)))

/-- the by-name view of a type with its member names converted (nothing else changes; none for union / enum / scalar types) -/
def renV (ren : String → String) (v : TypeO × List (Option (FieldO × List (Option ArgO))) × List (Option ArgO)) :
    TypeO × List (Option (FieldO × List (Option ArgO))) × List (Option ArgO) :=
  (v.1, v.2.1.map (Option.map (renF ren)), v.2.2.map (Option.map (renA ren)))

/-- `map_and_filter` with a hook that keeps every member, seen through a view `V`: if readable (`P`) members keep their view while the
    heap grows, and the hook returns a readable member whose view is `F` of the view of the one it was given, then the returned list
    shows, in order, the views of the given one under `F` -/
theorem mapFilter_view {α : Type} {V : Heap → Addr → Option α} {F : α → α} {P : Heap → Addr → Prop} {f : Heap → Addr → Heap × Option Addr}
    (hP : ∀ {h h' : Heap} {a : Addr}, Frame h h' → P h a → P h' a ∧ V h' a = V h a)
    (hf : ∀ h a, P h a → ∃ a', (f h a).2 = some a' ∧ Frame h (f h a).1 ∧ P (f h a).1 a' ∧ V (f h a).1 a' = (V h a).map F) :
    ∀ (as : List Addr) (h : Heap), (∀ a, a ∈ as → P h a) →
      Frame h (mapFilter f h as).1 ∧ (∀ c, c ∈ (mapFilter f h as).2 → P (mapFilter f h as).1 c) ∧
      (mapFilter f h as).2.map (V (mapFilter f h as).1) = as.map (fun a => (V h a).map F) := by
  intro as h hall
  obtain ⟨r, os, f', e⟩ := (mapFilter_loop f).run (R := Frame) (Pre := P) Frame.refl Frame.trans (fun g p => (hP g p).1)
    (fun h a p => mapFilter_one f h a ▸ (hf h a p).choose_spec.2.1) as h hall
  -- the round for `a`, in a heap `s1` that still shows `a` with its view
  have round : ∀ a, a ∈ as → ∀ o, Made (mapFilter f) Frame h (mapFilter f h as).1 a o → ∃ b, o = some b ∧
      (P (mapFilter f h as).1 b ∧ V (mapFilter f h as).1 b = (V h a).map F) := by
    intro a ha o ⟨s1, r1, e1, r2⟩
    obtain ⟨p1, v1⟩ := hP r1 (hall a ha)
    obtain ⟨a', ea, _, pa, va⟩ := hf s1 a p1
    rw [mapFilter_one, head?_toList] at e1
    rw [mapFilter_one] at r2
    exact ⟨a', e1.symm.trans ea, (hP r2 pa).1, by rw [(hP r2 pa).2, va, v1]⟩
  have all := all2_of_run round f'
  rw [e]
  exact ⟨r, fun c hc => let ⟨_, _, k⟩ := All2.mem_right all c hc; k.1, (all.imp fun _ _ k => k.2).map_eq⟩

theorem argV_of_read {h : Heap} {a : Addr} {g : ArgO} (hr : h.readArg a = some g) : argV h a = some { g with ty := eraseT g.ty } := by
  simp only [argV, hr, Option.map_some]

theorem argRd_grow {h h' : Heap} {a : Addr} (s : Frame h h') (r : ∃ g, h.readArg a = some g) :
    (∃ g, h'.readArg a = some g) ∧ argV h' a = argV h a := by
  obtain ⟨g, hg⟩ := r
  exact ⟨⟨g, s.readArg hg⟩, argV_grow s (readArg_lt hg)⟩

/-- `on_argument` (and `on_input_field`, which is the same function for this visitor) rebuild every argument under its converted name -/
theorem args_camel_view (ren : String → String) (reg : List (String × Addr)) :
    ∀ (as : List Addr) (h : Heap), (∀ a, a ∈ as → ∃ g, h.readArg a = some g) →
      Frame h (mapFilter (onArgument (.camel ren) reg) h as).1 ∧
      (∀ c, c ∈ (mapFilter (onArgument (.camel ren) reg) h as).2 → ∃ g, (mapFilter (onArgument (.camel ren) reg) h as).1.readArg c = some g) ∧
      (mapFilter (onArgument (.camel ren) reg) h as).2.map (argV (mapFilter (onArgument (.camel ren) reg) h as).1) =
        as.map (fun a => (argV h a).map (renA ren)) := by
  refine mapFilter_view (V := argV) (F := renA ren) (P := fun h a => ∃ g, h.readArg a = some g) argRd_grow ?_
  rintro h a ⟨g, hg⟩
  simp only [onArgument, hg]
  exact ⟨_, rfl, alloc_frame h _, ⟨_, readArg_alloc_new h _⟩, by rw [argV_of_read (readArg_alloc_new h _), argV_of_read hg]; rfl⟩

theorem fieldV_full_of_readable {h : Heap} {a : Addr} {f : FieldO} (hr : h.readField a = some f) (hargs : ∀ x, x ∈ f.args → ∃ g, h.readArg x = some g) :
    ∃ p, fieldV h a = some p ∧ fullF p := by
  refine ⟨({ f with ty := eraseT f.ty, args := [] }, f.args.map (argV h)), by simp only [fieldV, hr, Option.map_some], ?_⟩
  intro v hv
  simp only [List.mem_map] at hv
  obtain ⟨x, hx, rfl⟩ := hv
  obtain ⟨g, hg⟩ := hargs x hx
  simp [argV_of_read hg]

theorem fieldRd_grow {h h' : Heap} {a : Addr} (s : Frame h h')
    (r : ∃ f, h.readField a = some f ∧ ∀ x, x ∈ f.args → ∃ g, h.readArg x = some g) :
    (∃ f, h'.readField a = some f ∧ ∀ x, x ∈ f.args → ∃ g, h'.readArg x = some g) ∧ fieldV h' a = fieldV h a := by
  obtain ⟨f, hf, hargs⟩ := r
  obtain ⟨p, hp, hfull⟩ := fieldV_full_of_readable hf hargs
  exact ⟨⟨f, s.readField hf, fun x hx => (argRd_grow s (hargs x hx)).1⟩, by rw [fieldV_grow s hp hfull, hp]⟩

theorem onFieldBase_camel_view (ren : String → String) (reg : List (String × Addr)) (h : Heap) (a : Addr) (f' : FieldO)
    (hr : h.readField a = some f') (hargs : ∀ x, x ∈ f'.args → ∃ g, h.readArg x = some g) :
    Frame h (onFieldBase (.camel ren) reg h a f').1 ∧
    (∃ f, (onFieldBase (.camel ren) reg h a f').1.readField (onFieldBase (.camel ren) reg h a f').2 = some f ∧
      ∀ x, x ∈ f.args → ∃ g, (onFieldBase (.camel ren) reg h a f').1.readArg x = some g) ∧
    fieldV (onFieldBase (.camel ren) reg h a f').1 (onFieldBase (.camel ren) reg h a f').2 =
      some ({ f' with ty := eraseT f'.ty, args := [] }, f'.args.map (fun x => (argV h x).map (renA ren))) := by
  obtain ⟨s1, p1, v1⟩ := args_camel_view ren reg f'.args h hargs
  simp only [onFieldBase]
  split
  · have g2 := alloc_frame (mapFilter (onArgument (.camel ren) reg) h f'.args).1
      (.field { f' with args := (mapFilter (onArgument (.camel ren) reg) h f'.args).2 })
    refine ⟨s1.trans g2, ⟨_, readField_alloc_new _ _, fun x hx => (argRd_grow g2 (p1 x hx)).1⟩, ?_⟩
    simp only [fieldV, readField_alloc_new, Option.map_some, Option.some.injEq, Prod.mk.injEq, true_and]
    rw [← v1]
    exact List.map_congr_left fun x hx => (argRd_grow g2 (p1 x hx)).2
  · rename_i hne
    rw [bne_false_eq hne] at p1 v1
    refine ⟨s1, ⟨f', s1.readField hr, p1⟩, ?_⟩
    simp only [fieldV, s1.readField hr, Option.map_some, Option.some.injEq, Prod.mk.injEq, true_and]
    exact v1

theorem onField_camel_view (ren : String → String) (reg : List (String × Addr)) (tn : String) (h : Heap) (a : Addr)
    (r : ∃ f, h.readField a = some f ∧ ∀ x, x ∈ f.args → ∃ g, h.readArg x = some g) :
    ∃ a', (onField (.camel ren) reg tn h a).2 = some a' ∧ Frame h (onField (.camel ren) reg tn h a).1 ∧
      (∃ f, (onField (.camel ren) reg tn h a).1.readField a' = some f ∧ ∀ x, x ∈ f.args → ∃ g, (onField (.camel ren) reg tn h a).1.readArg x = some g) ∧
      fieldV (onField (.camel ren) reg tn h a).1 a' = (fieldV h a).map (renF ren) := by
  obtain ⟨f, hr, hargs⟩ := r
  have g1 : Frame h (h.alloc (.field { f with name := ren f.name })).1 := alloc_frame h _
  obtain ⟨s2, p2, v2⟩ := onFieldBase_camel_view ren reg _ _ { f with name := ren f.name } (readField_alloc_new h _)
    (fun x hx => (argRd_grow g1 (hargs x hx)).1)
  simp only [onField, hr]
  refine ⟨_, rfl, g1.trans s2, p2, ?_⟩
  rw [v2]
  simp only [fieldV, hr, Option.map_some, renF, List.map_map, Option.some.injEq, Prod.mk.injEq, true_and]
  exact List.map_congr_left fun x hx => by simp only [Function.comp, (argRd_grow g1 (hargs x hx)).2]

theorem fields_camel_view (ren : String → String) (reg : List (String × Addr)) (tn : String) :
    ∀ (as : List Addr) (h : Heap), (∀ a, a ∈ as → ∃ f, h.readField a = some f ∧ ∀ x, x ∈ f.args → ∃ g, h.readArg x = some g) →
      Frame h (mapFilter (onField (.camel ren) reg tn) h as).1 ∧
      (∀ c, c ∈ (mapFilter (onField (.camel ren) reg tn) h as).2 → ∃ f, (mapFilter (onField (.camel ren) reg tn) h as).1.readField c = some f ∧
        ∀ x, x ∈ f.args → ∃ g, (mapFilter (onField (.camel ren) reg tn) h as).1.readArg x = some g) ∧
      (mapFilter (onField (.camel ren) reg tn) h as).2.map (fieldV (mapFilter (onField (.camel ren) reg tn) h as).1) =
        as.map (fun a => (fieldV h a).map (renF ren)) :=
  mapFilter_view (V := fieldV) (F := renF ren)
    (P := fun h a => ∃ f, h.readField a = some f ∧ ∀ x, x ∈ f.args → ∃ g, h.readArg x = some g) fieldRd_grow
    (onField_camel_view ren reg tn)

theorem fullF_ren {ren : String → String} {p : FieldO × List (Option ArgO)} (hf : fullF p) : fullF (renF ren p) := by
  intro v hv
  simp only [renF, List.mem_map] at hv
  obtain ⟨o, ho, rfl⟩ := hv
  have := hf o ho
  cases o <;> simp_all

def TypeReadable (h : Heap) (a : Addr) : Prop := ∃ t, h.readType a = some t ∧ MembersReadable h t

/-- a type object stays readable, with readable members, while objects only evolve (`StepImp`: member lists shrink) -/
theorem TypeReadable.step {h h' : Heap} (st : StepImp chkT h h') {a : Addr} (r : TypeReadable h a) : TypeReadable h' a := by
  obtain ⟨t, ht, hm⟩ := r
  obtain ⟨t', ht', hd, hsub, _⟩ := st.readType ht
  have hkind : t'.kind = t.kind := hd.1
  have argK : ∀ x, (∃ g, h.readArg x = some g) → ∃ g, h'.readArg x = some g :=
    fun x ⟨g, hg⟩ => let ⟨g', hg', _⟩ := st.readArg hg; ⟨g', hg'⟩
  have fieldK : ∀ x, (∃ f, h.readField x = some f ∧ ∀ y, y ∈ f.args → ∃ g, h.readArg y = some g) →
      ∃ f, h'.readField x = some f ∧ ∀ y, y ∈ f.args → ∃ g, h'.readArg y = some g :=
    fun x ⟨f, hf, ha⟩ => let ⟨f', hf', _, hargs, _⟩ := st.readField hf; ⟨f', hf', fun y hy => argK y (ha y (hargs.subset hy))⟩
  refine ⟨t', ht', membersReadable_iff.mpr ?_⟩
  rw [hkind]
  exact (membersReadable_iff.mp hm).imp (fun hm x hx => fieldK x (hm x (hsub.subset hx))) (fun hm x hx => argK x (hm x (hsub.subset hx))) id

theorem TypeReadable.grow {h h' : Heap} (g : Frame h h') {a : Addr} (r : TypeReadable h a) : TypeReadable h' a :=
  r.step ((frame_iff.mp g).stepImp nofun chkT)

theorem typeV_full_of_readable {h : Heap} {a : Addr} (r : TypeReadable h a) : ∃ v, typeV h a = some v ∧ fullT v := by
  obtain ⟨t, ht, hm⟩ := r
  refine ⟨tview h t, typeV_of_read ht, ?_⟩
  rw [fullT]
  rcases kind_cases t.kind with hk | hk | hk
  · rw [tview_fields hk]
    refine ⟨fun o ho => ?_, by simp⟩
    obtain ⟨x, hx, rfl⟩ := List.mem_map.mp ho
    obtain ⟨f, hf, ha⟩ := hm.fields hk x hx
    exact fieldV_full_of_readable hf ha
  · rw [tview_inputs hk]
    refine ⟨by simp, fun o ho => ?_⟩
    obtain ⟨x, hx, rfl⟩ := List.mem_map.mp ho
    obtain ⟨g, hg⟩ := hm.inputs hk x hx
    simp [argV_of_read hg]
  · rw [tview_leaf hk]
    simp

theorem fullT_ren {ren : String → String} {v : TypeO × List (Option (FieldO × List (Option ArgO))) × List (Option ArgO)} (hf : fullT v) :
    fullT (renV ren v) := by
  refine ⟨?_, ?_⟩
  · intro o ho
    simp only [renV, List.mem_map] at ho
    obtain ⟨o0, ho0, rfl⟩ := ho
    obtain ⟨p, rfl, hp⟩ := hf.1 o0 ho0
    exact ⟨renF ren p, rfl, fullF_ren hp⟩
  · intro o ho
    simp only [renV, List.mem_map] at ho
    obtain ⟨o0, ho0, rfl⟩ := ho
    have := hf.2 o0 ho0
    cases o0 <;> simp_all

/-- `if updated_fields != type.fields: return _with_members(type, fields=updated_fields)  else: return type`: the type object `t`
    with the member list `fs` -/
theorem rebuiltOrSame_read (h h1 : Heap) (s : Frame h h1) (a : Addr) (t : TypeO) (ht : h.readType a = some t) (fs : List Addr) :
    Frame h1 (rebuiltOrSame h1 a t fs).1 ∧
    (rebuiltOrSame h1 a t fs).1.readType (rebuiltOrSame h1 a t fs).2 = some { t with fields := fs } := by
  simp only [rebuiltOrSame]
  split
  · exact ⟨alloc_frame h1 _, readType_alloc_new _ _⟩
  · rename_i hne
    rw [bne_false_eq hne]
    exact ⟨Frame.refl h1, s.readType ht⟩

/-- `on_object` / `on_interface` / `on_input_object` / `on_union` / `on_enum` / `on_scalar` of the camel-case visitor -/
theorem onType_camel_view (ren : String → String) (reg : List (String × Addr)) (h : Heap) (a : Addr) (r : TypeReadable h a) :
    ∃ a', (onType (.camel ren) reg h a).2 = some a' ∧ Frame h (onType (.camel ren) reg h a).1 ∧
      typeV (onType (.camel ren) reg h a).1 a' = (typeV h a).map (renV ren) := by
  obtain ⟨t, ht, hm⟩ := r
  -- an object / interface type: the fields are rebuilt, the type object is `t` with the returned list
  have comp : t.kind = Kind.object ∨ t.kind = Kind.interface →
      ∃ a', (compositeRest (.camel ren) reg a h t).2 = some a' ∧ Frame h (compositeRest (.camel ren) reg a h t).1 ∧
        typeV (compositeRest (.camel ren) reg a h t).1 a' = some (renV ren (tview h t)) := by
    intro hk
    obtain ⟨s1, p1, v1⟩ := fields_camel_view ren reg t.name t.fields h (hm.fields hk)
    obtain ⟨s2, hr2⟩ := rebuiltOrSame_read h _ s1 a t ht (mapFilter (onField (.camel ren) reg t.name) h t.fields).2
    refine ⟨_, rfl, s1.trans s2, ?_⟩
    have hst := (List.map_congr_left fun x hx => (fieldRd_grow s2 (p1 x hx)).2).trans v1
    simp only [compositeRest]
    rw [typeV_of_read hr2]
    rcases hk with hk | hk <;> simp [tview, renV, hk, hst]
  rw [typeV_of_read ht]
  rcases onType_cases (.camel ren) reg ht with ⟨hk, e⟩ | ⟨hk, e⟩ | ⟨hk, ⟨_, hv, _⟩ | ⟨_, e⟩ | ⟨hv, _⟩⟩
  · rw [e]
    exact comp hk
  · rw [e]
    obtain ⟨s1, p1, v1⟩ := args_camel_view ren reg t.fields h (hm.inputs hk)
    obtain ⟨s2, hr2⟩ := rebuiltOrSame_read h _ s1 a t ht (mapFilter (onArgument (.camel ren) reg) h t.fields).2
    refine ⟨_, rfl, s1.trans s2, ?_⟩
    simp only [onInputObject, inputRest]
    rw [show onInputField (.camel ren) reg = onArgument (.camel ren) reg from rfl, typeV_of_read hr2]
    have hst := (List.map_congr_left fun x hx => (argRd_grow s2 (p1 x hx)).2).trans v1
    simp [tview, renV, hk, hst]
  · cases hv
  · -- a union, enum or scalar type: the object itself, and its view has no member to rename
    rw [e]
    exact ⟨a, rfl, Frame.refl h, by rw [typeV_of_read ht]; rcases hk with hk | hk | hk <;> simp [tview, hk, renV]⟩
  · cases hv

theorem typeV_keep_readable {h h' : Heap} (g : Frame h h') {a : Addr} (r : TypeReadable h a) : typeV h' a = typeV h a := by
  obtain ⟨v, hv, hf⟩ := typeV_full_of_readable r
  rw [typeV_grow g hv hf, hv]

theorem typeV_ren_grow {ren : String → String} {h0 h h' : Heap} (g : Frame h h') {a0 a : Addr} (r : TypeReadable h0 a0)
    (hv : typeV h a = (typeV h0 a0).map (renV ren)) : typeV h' a = (typeV h0 a0).map (renV ren) := by
  obtain ⟨v, hv0, hf⟩ := typeV_full_of_readable r
  rw [hv0] at hv ⊢
  simp only [Option.map_some] at hv ⊢
  exact typeV_grow g hv (fullT_ren hf)

theorem visitTypes_camel_view (ren : String → String) (reg : List (String × Addr)) :
    ∀ (l : List (String × Addr)) (h : Heap), (∀ e, e ∈ l → isProtected e.1 = false → TypeReadable h e.2) →
      Frame h (visitTypes (.camel ren) reg h l).1 ∧
      (∀ x, x ∈ (visitTypes (.camel ren) reg h l).2 → ∃ a', x.2 = some a' ∧ ∃ e, e ∈ l ∧ e.1 = x.1 ∧ isProtected e.1 = false ∧
        typeV (visitTypes (.camel ren) reg h l).1 a' = (typeV h e.2).map (renV ren)) ∧
      (∀ e, e ∈ l → isProtected e.1 = false → (∃ x, x ∈ (visitTypes (.camel ren) reg h l).2 ∧ x.1 = e.1) ∨
        typeV (visitTypes (.camel ren) reg h l).1 e.2 = (typeV h e.2).map (renV ren)) := by
  intro l h hall
  obtain ⟨s, f1, f2⟩ := visitTypes_out (.camel ren) reg (R := Frame) (Pre := fun h e => TypeReadable h e.2) Frame.refl
    (fun _ _ _ => Frame.trans) (fun _ _ _ g r => r.grow g)
    (fun h e r => let ⟨_, _, g, _⟩ := onType_camel_view ren reg h e.2 r; g) l h hall
  -- what the hook returns for an entry visited in `h1`, seen in the final heap and compared with the start
  have here : ∀ (e : String × Addr) (h1 : Heap), TypeReadable h e.2 → Frame h h1 →
      Frame (onType (.camel ren) reg h1 e.2).1 (visitTypes (.camel ren) reg h l).1 →
      ∃ a', (onType (.camel ren) reg h1 e.2).2 = some a' ∧
        typeV (visitTypes (.camel ren) reg h l).1 a' = (typeV h e.2).map (renV ren) := by
    intro e h1 r0 r1 r2
    obtain ⟨a', e1, _, v1⟩ := onType_camel_view ren reg h1 e.2 (r0.grow r1)
    rw [typeV_keep_readable r1 r0] at v1
    exact ⟨a', e1, typeV_ren_grow r2 r0 v1⟩
  refine ⟨s, fun x hx => ?_, fun e he hq => ?_⟩
  · obtain ⟨e, h1, he, hq, _, r1, r2, rfl, _⟩ := f2 x hx
    obtain ⟨a', e1, v⟩ := here e h1 (hall e he hq) r1 r2
    exact ⟨a', e1, e, he, rfl, hq, v⟩
  · obtain ⟨h1, _, r1, r2, k | k⟩ := f1 e he hq
    · obtain ⟨a', e1, v⟩ := here e h1 (hall e he hq) r1 r2
      rw [e1] at k
      cases k
      exact Or.inr v
    · exact Or.inl ⟨_, k, rfl⟩

theorem visitDirs_camel_grow (ren : String → String) (reg : List (String × Addr)) (l : List (String × Addr)) (h : Heap)
    (hall : ∀ e, e ∈ l → ∃ d, h.readDir e.2 = some d ∧ ∀ x, x ∈ d.args → ∃ g, h.readArg x = some g) :
    Frame h (visitDirs (.camel ren) reg h l).1 :=
  (visitDirs_out (.camel ren) reg (R := Frame)
    (Pre := fun h e => ∃ d, h.readDir e.2 = some d ∧ ∀ x, x ∈ d.args → ∃ g, h.readArg x = some g) Frame.refl (fun _ _ _ => Frame.trans)
    (fun _ _ _ g ⟨d, hd, ha⟩ => ⟨d, g.readDir hd, fun x hx => let ⟨q, hq⟩ := ha x hx; ⟨q, g.readArg hq⟩⟩)
    (fun h e ⟨d, hd, hargs⟩ => by
      simp only [onDirective, hd, dirHidden, Bool.false_eq_true, if_false]
      obtain ⟨s1, _, _⟩ := args_camel_view ren reg d.args h hargs
      split
      · exact s1.trans (alloc_frame _ _)
      · exact s1) l h hall).1

end PyGql.Heap.Own
