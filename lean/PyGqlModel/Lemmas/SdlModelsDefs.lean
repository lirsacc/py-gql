/-
  C12 — the two printer models print the same text: type definitions, directive definitions, the `schema` block,
  `ASTSchemaPrinter.__call__`.
-/
import PyGqlModel.Lemmas.SdlModelsPrint
namespace PyGql.SdlModels
open PyGql PyGql.Sdl PyGql.SdlPrintT
open PyGql.SdlText hiding T
open PyGql.SdlPrint (Apps PrinterState Opts)

theorem map_T_strings (l : List String) : joinSep sep (l.map T) = joinSep sep (l.map T) := rfl

theorem printType_rel (s : SchemaD) (o : Opts) (apps : Apps) (t : TypeD) (h : SdlPrintTA.typeAppsOK (optsA o) apps t = true) :
    Rel (SdlPrint.printType s o apps t st0) (SdlPrintTA.printType s (optsA o) apps t) := by
  simp only [SdlPrintTA.typeAppsOK, Bool.and_eq_true, List.all_eq_true] at h
  obtain ⟨⟨⟨ht, hf⟩, hv⟩, hi⟩ := h
  have hd := printDirectives_rel o apps t.name ht
  have hfs := mapSt_rel (SdlPrint.printField s o apps t.name) _ t.fields 0 (fun j x hx => printField_rel s o apps t.name j x (hf x hx))
  have hvs := mapSt_rel (SdlPrint.printEnumValue o apps t.name) _ t.values 0 (fun j x hx => printEnumValue_rel o apps t.name j x (hv x hx))
  have his := mapSt_rel (SdlPrint.printInputField s o apps t.name) _ t.inputFields 0
    (fun j x hx => printInputField_rel s o apps t.name j x (hi x hx))
  have c1 : T " {\n" = [32, 123, 10] := by decide
  have c2 : T "\n}" = [10, 125] := by decide
  have c4 : T " = " = [32, 61, 32] := by decide
  have c5 : T " | " = [32, 124, 32] := by decide
  have c6 : T " & " = [32, 38, 32] := by decide
  unfold Rel SdlPrint.printType SdlPrintTA.printType
  -- per kind: the state is the one the last member list returns, the text is a concatenation of tied parts
  cases t.kind with
  | scalar => exact ⟨hd.1, by simp only [T_append, T_printDescription, hd.2, optsA_base]⟩
  | union =>
    exact ⟨hd.1, by simp only [T_append, T_printDescription, T_intercalate, hd.2, optsA_base, c4, c5, List.append_assoc]⟩
  | enum =>
    simp only [hd.1]
    exact ⟨hvs.1, by simp only [T_append, T_printDescription, T_intercalate, hd.2, hvs.2, optsA_base, braces,
      printEnumValues_imap, c1, c2, T_lf, List.append_assoc]⟩
  | input =>
    simp only [hd.1]
    exact ⟨his.1, by simp only [T_append, T_printDescription, T_intercalate, hd.2, his.2, optsA_base, braces,
      printInputFields_imap, c1, c2, T_lf, List.append_assoc]⟩
  | interface =>
    simp only [SdlPrint.printFields, hd.1]
    exact ⟨hfs.1, by simp only [T_append, T_printDescription, T_intercalate, hd.2, hfs.2, optsA_base, braces,
      printFields_imap, c1, c2, T_lf, List.append_assoc]⟩
  | object =>
    simp only [SdlPrint.printFields, hd.1]
    exact ⟨hfs.1, by simp only [T_append, T_printDescription, T_ite, T_intercalate, hd.2, hfs.2, optsA_base, braces,
      printFields_imap, c1, c2, T_lf, c6, T_nil, List.append_assoc]⟩

theorem printDirectiveDefinition_rel (s : SchemaD) (o : Opts) (apps : Apps) (d : DirectiveD)
    (h : SdlPrintTA.directiveAppsOK (optsA o) apps d = true) :
    Rel (SdlPrint.printDirectiveDefinition s o apps d st0) (SdlPrintTA.printDirectiveDefinition s (optsA o) apps d) := by
  have ha := printArguments_rel s o apps ("@" ++ d.name) d.args 0 h
  have c5 : T " | " = [32, 124, 32] := by decide
  unfold Rel
  simp only [SdlPrint.printDirectiveDefinition]
  refine ⟨ha.1, ?_⟩
  simp only [SdlPrintTA.printDirectiveDefinition, T_append, T_printDescription, T_intercalate, ha.2, optsA_base, c5, List.append_assoc]

theorem printDirectives_isEmpty (c : SdlPrintTA.OptsA) (apps : Apps) (path : String) :
    (SdlPrintTA.printDirectives c apps path).isEmpty = (SdlPrintTA.nodesAt c apps path).isEmpty := by
  unfold SdlPrintTA.printDirectives
  cases (SdlPrintTA.nodesAt c apps path).isEmpty <;> rfl

theorem printSchemaDefinition_rel (s : SchemaD) (o : Opts) (apps : Apps) (h : SdlPrintTA.appsOKAt (optsA o) apps "" = true) :
    Rel (SdlPrint.printSchemaDefinition s o apps st0) (SdlPrintTA.printSchemaDefinition s (optsA o) apps) := by
  have hd := printDirectives_rel o apps "" h
  have he : (SdlPrint.printDirectives o apps "" st0).1.isEmpty = (SdlPrintTA.nodesAt (optsA o) apps "").isEmpty := by
    rw [← T_isEmpty, hd.2, printDirectives_isEmpty]
  have c1 : T " {\n" = [32, 123, 10] := by decide
  have c2 : T "\n}" = [10, 125] := by decide
  unfold Rel
  simp only [SdlPrint.printSchemaDefinition]
  refine ⟨hd.1, ?_⟩
  simp only [SdlPrintTA.printSchemaDefinition, SdlPrintTA.needsSchemaBlockA, SdlPrint.needsSchemaBlock, he, T_ite, T_append,
    T_intercalate, hd.2, braces, c1, c2, T_lf, T_nil, optsA_base]
  -- the lines of the roots
  generalize hL : List.map T _ = L
  have hL' : L = rootLines (optsT o) s := by
    rw [← hL]
    unfold rootLines
    cases s.query <;> cases s.mutation <;> cases s.subscription <;> simp [T_append, optsT_indent]
  rw [hL']
  by_cases hne : (SdlPrintTA.nodesAt (optsA o) apps "").isEmpty = true <;>
    by_cases hri : (SdlPrint.rootImplied s s.query "Query" && SdlPrint.rootImplied s s.mutation "Mutation" &&
      SdlPrint.rootImplied s s.subscription "Subscription") = true <;> simp [hne, hri]

/-- the hypothesis of the tie: the PRINTED directive applications (schema block, types and their members, directive
    arguments) consist of lexemes — a sub-conjunction of `printTextWFA` -/
def appsLexOK (c : SdlPrintTA.OptsA) (s : SchemaD) (apps : Apps) : Bool :=
  SdlPrintTA.appsOKAt c apps "" && s.types.all (SdlPrintTA.typeAppsOK c apps) && s.directives.all (SdlPrintTA.directiveAppsOK c apps)

theorem appsLexOK_of_wfa (c : SdlPrintTA.OptsA) (s : SchemaD) (apps : Apps) (h : SdlPrintTA.printTextWFA c s apps = true) :
    appsLexOK c s apps = true := by
  simp only [SdlPrintTA.printTextWFA, Bool.and_eq_true] at h
  simp only [appsLexOK, Bool.and_eq_true]
  exact ⟨⟨h.1.1.1.2, h.1.1.2⟩, h.1.2⟩

theorem filter_nonempty_T (l : List String) :
    (l.filter (fun x => !x.isEmpty)).map T = (l.map T).filter (fun p => !p.isEmpty) := by
  rw [List.filter_map]
  congr 1
  congr 1
  funext x
  simp only [Function.comp_def, T_isEmpty]

/-- the hypothesis for all four options: also the applications attached to the library's own definitions (none, in practice) -/
def appsLexOKX (c : SdlPrintTA.OptsA) (intro : Bool) (b : SdlPrint.Builtins) (s : SchemaD) (apps : Apps) : Bool :=
  SdlPrintTA.appsOKAt c apps "" && (s.types ++ (if intro then b.introspection else [])).all (SdlPrintTA.typeAppsOK c apps) &&
  s.directives.all (SdlPrintTA.directiveAppsOK c apps) && (if intro then b.specified else []).all (SdlPrintTA.directiveAppsOK c apps)

theorem printSchemaX_rel (o : Opts) (intro : Bool) (b : SdlPrint.Builtins) (s : SchemaD) (apps : Apps)
    (h : appsLexOKX (optsA o) intro b s apps = true) :
    Rel (SdlPrint.printSchemaX o intro b s apps st0) (SdlPrintTA.printSchemaXTA (optsA o) intro b s apps) := by
  simp only [appsLexOKX, Bool.and_eq_true, List.all_eq_true] at h
  obtain ⟨⟨⟨h0, ht⟩, hd⟩, hsp⟩ := h
  have hsd := printSchemaDefinition_rel s o apps h0
  have hsps := mapSt_rel (fun _ d st => SdlPrint.printDirectiveDefinition s o apps d st)
    (fun _ d => SdlPrintTA.printDirectiveDefinition s (optsA o) apps d) (if intro then b.specified else []) 0
    (fun _ x hx => printDirectiveDefinition_rel s o apps x (hsp x hx))
  have hds := mapSt_rel (fun _ d st => SdlPrint.printDirectiveDefinition s o apps d st)
    (fun _ d => SdlPrintTA.printDirectiveDefinition s (optsA o) apps d) (SdlPrint.sortBy (·.name) s.directives) 0
    (fun _ x hx => printDirectiveDefinition_rel s o apps x (hd x ((sortBy_perm _ _).mem_iff.mp hx)))
  have hts := mapSt_rel (fun _ t st => SdlPrint.printType s o apps t st)
    (fun _ t => SdlPrintTA.printType s (optsA o) apps t)
    (SdlPrint.sortBy (·.name) (s.types ++ (if intro then b.introspection else []))) 0
    (fun _ x hx => printType_rel s o apps x (ht x ((sortBy_perm _ _).mem_iff.mp hx)))
  rw [imap_const] at hsps hds hts
  have c1 : T "\n\n" = [10, 10] := by decide
  unfold Rel
  simp only [SdlPrint.printSchemaX, hsd.1, hsps.1, hds.1]
  refine ⟨hts.1, ?_⟩
  have hparts : (((((SdlPrint.printSchemaDefinition s o apps st0).1 ::
        (SdlPrint.mapSt (fun _ d st => SdlPrint.printDirectiveDefinition s o apps d st) 0 (if intro then b.specified else []) st0).1) ++
        (SdlPrint.mapSt (fun _ d st => SdlPrint.printDirectiveDefinition s o apps d st) 0 (SdlPrint.sortBy (·.name) s.directives) st0).1) ++
        (SdlPrint.mapSt (fun _ t st => SdlPrint.printType s o apps t st) 0
          (SdlPrint.sortBy (·.name) (s.types ++ (if intro then b.introspection else []))) st0).1).filter
          (fun x => !x.isEmpty)).map T =
      ((SdlPrintTA.printSchemaDefinition s (optsA o) apps ::
        (if intro then b.specified else []).map (SdlPrintTA.printDirectiveDefinition s (optsA o) apps)) ++
        (SdlPrint.sortBy (·.name) s.directives).map (SdlPrintTA.printDirectiveDefinition s (optsA o) apps) ++
        (SdlPrint.sortBy (·.name) (s.types ++ (if intro then b.introspection else []))).map
          (SdlPrintTA.printType s (optsA o) apps)).filter (fun p => !p.isEmpty) := by
    rw [filter_nonempty_T, List.map_append, List.map_append, List.map_cons, hsd.2, hsps.2, hds.2, hts.2]
  unfold SdlPrintTA.printSchemaXTA
  simp only [← hparts, List.isEmpty_map, T_ite, T_append, T_intercalate, c1, T_lf, T_nil]

/-- without `include_introspection` -/
theorem printSchema_rel (o : Opts) (s : SchemaD) (apps : Apps) (h : appsLexOK (optsA o) s apps = true) :
    Rel (SdlPrint.printSchema o s apps st0) (SdlPrintTA.printSchemaTA (optsA o) s apps) := by
  have e1 := Props.C12.printSchemaX_off o {} s apps st0
  have e2 : SdlPrintTA.printSchemaXTA (optsA o) false {} s apps = SdlPrintTA.printSchemaTA (optsA o) s apps := by
    simp only [SdlPrintTA.printSchemaXTA, SdlPrintTA.printSchemaTA, Bool.false_eq_true, if_false, List.append_nil, List.map_nil]
    rfl
  rw [← e1, ← e2]
  apply printSchemaX_rel
  simpa [appsLexOKX, appsLexOK] using h

end PyGql.SdlModels
