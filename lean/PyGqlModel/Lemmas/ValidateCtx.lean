/-
  CONTEXT WALK, the two ways a chain provides the single-node facts of `Lemmas/ValidateWalkG.lean`.
  `CTX`: a chain is described by a "context system": a carrier `X` read from the visitor state (`ctx`), pushed by `down`
  on entering a node and popped by `up` on leaving it, with `up n (down n x) = x` (for directive nodes under the side
  condition `J x`). Rules may raise SkipNode (`bad`), always together with an error; error counts depend on the node and
  the context only.
  RESULT (`defsC`): the run adds no error  ⇔  every (node, context) pair of `Spec.gnDoc` is fine, where the contexts
  are computed by plain recursion with `down` - i.e. a silent run never skips, keeps its stacks balanced, and shows
  every rule exactly the static context of every node.
  Instances: TypeInfoVisitor's stacks (output and input side), a rule's own stack of ancestors.
  `Q.CTXQ`: the same for a chain in which an OBJECT LITERAL may raise `SkipNode` WITHOUT reporting an error
  (`ValuesOfCorrectTypeChecker` at a position whose input type is unknown): a skipping node adds `S n x ≥ 0` errors;
  when it adds none, every node below it must be fine for static reasons (`quiet`) and nothing was pushed (`skipCtx`).
-/
import PyGqlModel.Lemmas.ValidateWalkG
namespace PyGql.Validate
open PyGql PyGql.Validate.Spec

structure CTX (c : Cfg) (X : Type) where
  ctx : St → X
  down : Node → X → X
  up : Node → X → X
  J : X → Prop
  Inv : St → Prop
  bad : Node → X → Bool
  /-- quiet skip: SkipNode WITHOUT an error (only `ValuesOfCorrectTypeChecker`, at an object literal whose expected
      type is unknown); allowed when nothing below could report anyway -/
  qskip : Node → X → Bool
  F : Node → X → Nat
  G : Node → X → Nat
  restore : ∀ n x, (n.isDirective = true → J x) → up n (down n x) = x
  keepJ : ∀ n x, n.isDirective = false → J x → J (down n x)
  enter_ctx : ∀ n st, ctx (enter c n st).1 = down n (ctx st)
  leave_ctx : ∀ n st, ctx (leave c n st) = up n (ctx st)
  enterI : ∀ n st, n.isDoc = false → Inv st → Inv (enter c n st).1
  leaveI : ∀ n st, n.isDoc = false → Inv st → Inv (leave c n st)
  /-- a skipping node: the count is taken after the members that entered were left again (fix 391ad62) -/
  skipE : ∀ n st, n.isDoc = false → Inv st → bad n (down n (ctx st)) = true →
    (enter c n st).2 = true ∧ E st < E (leaveSkipped c n st (enter c n st).1)
  skipI : ∀ n st, n.isDoc = false → Inv st → (bad n (down n (ctx st)) = true ∨ qskip n (down n (ctx st)) = true) →
    Inv (leaveSkipped c n st (enter c n st).1)
  skip_ctx : ∀ n st, n.isDoc = false → Inv st → (bad n (down n (ctx st)) = true ∨ qskip n (down n (ctx st)) = true) →
    ctx (leaveSkipped c n st (enter c n st).1) = up n (down n (ctx st))
  noskip : ∀ n st, n.isDoc = false → Inv st → bad n (down n (ctx st)) = false → qskip n (down n (ctx st)) = false →
    (enter c n st).2 = false
  enterE : ∀ n st, n.isDoc = false → Inv st → bad n (down n (ctx st)) = false → qskip n (down n (ctx st)) = false →
    E (enter c n st).1 = E st + F n (down n (ctx st))
  qskipE : ∀ n st, n.isDoc = false → Inv st → qskip n (down n (ctx st)) = true →
    (enter c n st).2 = true ∧ E (leaveSkipped c n st (enter c n st).1) = E st
  qskip_fine : ∀ n x, qskip n x = true → bad n x = false ∧ F n x = 0 ∧ G n x = 0
  qskip_ctx : ∀ n x, qskip n (down n x) = true → down n x = x
  qskip_only : ∀ n x, qskip n x = true → ∃ fs, n = .value (.obj fs)
  qskip_sub : ∀ fs x, qskip (.value (.obj fs)) x = true →
    ∀ p ∈ gnObjFields down x fs, bad p.1 p.2 = false ∧ F p.1 p.2 = 0 ∧ G p.1 p.2 = 0
  leaveE : ∀ n st, n.isDoc = false → Inv st → E (leave c n st) = E st + G n (ctx st)

section
variable {c : Cfg} {X : Type}

theorem visitNode_MI (K : CTX c X) (n : Node) (body : St → St) (st : St) (hn : n.isDoc = false)
    (hb : ∀ st1, MI K.Inv st1 (body st1)) : MI K.Inv st (visitNode c n body st) := by
  intro hi
  cases hq : K.qskip n (K.down n (K.ctx st))
  · cases hbad : K.bad n (K.down n (K.ctx st))
    · rw [visitNode_false (K.noskip n st hn hi hbad hq)]
      have e1 := K.enterE n st hn hi hbad hq
      obtain ⟨i2, m2⟩ := hb _ (K.enterI n st hn hi)
      refine ⟨K.leaveI n _ hn i2, ?_⟩
      rw [K.leaveE n _ hn i2]; omega
    · obtain ⟨h1, h2⟩ := K.skipE n st hn hi hbad
      rw [visitNode_true h1]
      exact ⟨K.skipI n st hn hi (Or.inl hbad), Nat.le_of_lt h2⟩
  · obtain ⟨h1, h2⟩ := K.qskipE n st hn hi hq
    rw [visitNode_true h1]
    exact ⟨K.skipI n st hn hi (Or.inr hq), Nat.le_of_eq h2.symm⟩

def okP (K : CTX c X) (p : Node × X) : Prop := K.bad p.1 p.2 = false ∧ K.F p.1 p.2 = 0 ∧ K.G p.1 p.2 = 0

def PX (K : CTX c X) (l : List (Node × X)) (st st' : St) : Prop :=
  (E st' = E st ↔ ∀ p ∈ l, okP K p) ∧ (E st' = E st → K.ctx st' = K.ctx st)

theorem PX.node (K : CTX c X) (n : Node) (body : St → St) (lb : List (Node × X)) (st : St) (hn : n.isDoc = false)
    (hi : K.Inv st) (hJ : n.isDirective = true → K.J (K.ctx st))
    (hqs : K.qskip n (K.down n (K.ctx st)) = true → ∀ p ∈ lb, okP K p)
    (mb : ∀ st1, MI K.Inv st1 (body st1))
    (hb : ∀ st1, K.Inv st1 → K.ctx st1 = K.down n (K.ctx st) → PX K lb st1 (body st1)) :
    PX K ((n, K.down n (K.ctx st)) :: lb) st (visitNode c n body st) := by
  have hr : K.up n (K.down n (K.ctx st)) = K.ctx st := K.restore n _ hJ
  cases hq : K.qskip n (K.down n (K.ctx st))
  · cases hbad : K.bad n (K.down n (K.ctx st))
    · rw [visitNode_false (K.noskip n st hn hi hbad hq)]
      have i1 := K.enterI n st hn hi
      have c1 := K.enter_ctx n st
      obtain ⟨i2, m2⟩ := mb _ i1
      exact SPX.cons (g := K.G n) (K.enterE n st hn hi hbad hq) m2 (K.leaveE n _ hn i2) (hb _ i1 c1) c1
        (by simp [okP, hbad]) (fun e => by rw [K.leave_ctx, e, hr])
    · obtain ⟨h1, h2⟩ := K.skipE n st hn hi hbad
      rw [visitNode_true h1]
      refine SPX.skip (k := E (leaveSkipped c n st (enter c n st).1) - E st) (by omega) ⟨fun h => ?_, fun h => by omega⟩
        (fun h => by omega) (by rw [K.skip_ctx n st hn hi (Or.inl hbad), hr])
      have := h.1
      simp only [hbad] at this
      cases this
  · -- quiet skip: nothing is added, nothing below could have reported, the context is untouched
    obtain ⟨h1, h2⟩ := K.qskipE n st hn hi hq
    rw [visitNode_true h1]
    exact SPX.skip (k := 0) h2 ⟨fun _ => rfl, fun _ => K.qskip_fine _ _ hq⟩ (fun _ => hqs hq)
      (by rw [K.skip_ctx n st hn hi (Or.inr hq), hr])

def CTX.sys (K : CTX c X) : CtxSys c X where
  ctx := K.ctx
  down := K.down
  J := K.J
  Inv := K.Inv
  ok := okP K
  quiet n x := K.qskip n x = true
  keepJ := K.keepJ
  quiet_obj n x h := by
    obtain ⟨fs, rfl⟩ := K.qskip_only n x h
    rfl
  quiet_sub := K.qskip_sub
  mono := visitNode_MI K
  node := PX.node K

theorem valuesC (K : CTX c X) : ∀ (vs : List Value) (st : St), K.Inv st →
    PX K (gnValues K.down (K.ctx st) vs) st (visitValues c vs st) :=
  fun vs st hi => (K.sys.valuesW vs _).px st hi rfl
theorem objFieldC (K : CTX c X) : ∀ (f : ObjField) (st : St), K.Inv st →
    PX K (gnObjField K.down (K.ctx st) f) st (visitObjField c f st) :=
  fun f st hi => (K.sys.objFieldW f _).px st hi rfl
theorem objFieldsC (K : CTX c X) : ∀ (fs : List ObjField) (st : St), K.Inv st →
    PX K (gnObjFields K.down (K.ctx st) fs) st (visitObjFields c fs st) :=
  fun fs st hi => (K.sys.objFieldsW fs _).px st hi rfl
theorem selC (K : CTX c X) : ∀ (x : Sel) (st : St), K.Inv st → K.J (K.ctx st) →
    PX K (gnSel K.down (K.ctx st) x) st (visitSel c x st) :=
  fun x st hi hj => (K.sys.selW x _ hj).px st hi rfl

theorem defsC (K : CTX c X) (ds : List Def) (st : St) (hi : K.Inv st) (hj : K.J (K.ctx st)) :
    PX K (ds.flatMap (gnDef K.down (K.ctx st))) st (ds.foldl (fun st x => visitDef c x st) st) :=
  (K.sys.defsW ds _ hj).px st hi rfl

end

namespace Q

structure CTXQ (c : Cfg) (X : Type) where
  ctx : St → X
  down : Node → X → X
  up : Node → X → X
  J : X → Prop
  Inv : St → Prop
  bad : Node → X → Bool
  F : Node → X → Nat
  G : Node → X → Nat
  restore : ∀ n x, (n.isDirective = true → J x) → up n (down n x) = x
  keepJ : ∀ n x, n.isDirective = false → J x → J (down n x)
  enter_ctx : ∀ n st, ctx (enter c n st).1 = down n (ctx st)
  leave_ctx : ∀ n st, ctx (leave c n st) = up n (ctx st)
  enterI : ∀ n st, n.isDoc = false → Inv st → Inv (enter c n st).1
  leaveI : ∀ n st, n.isDoc = false → Inv st → Inv (leave c n st)
  /-- errors added by a node that raises SkipNode (possibly none) -/
  S : Node → X → Nat
  skipE : ∀ n st, n.isDoc = false → Inv st → bad n (down n (ctx st)) = true →
    (enter c n st).2 = true ∧ E (leaveSkipped c n st (enter c n st).1) = E st + S n (down n (ctx st))
  /-- after a `SkipNode` the members that entered are left at once (fix 391ad62) -/
  skipI : ∀ n st, n.isDoc = false → Inv st → bad n (down n (ctx st)) = true →
    Inv (leaveSkipped c n st (enter c n st).1)
  skip_ctx : ∀ n st, n.isDoc = false → Inv st → bad n (down n (ctx st)) = true →
    ctx (leaveSkipped c n st (enter c n st).1) = up n (down n (ctx st))
  /-- only object literals raise SkipNode -/
  badObj : ∀ n x, bad n x = true → n.isObjVal = true
  /-- a node that skips does not push anything -/
  skipCtx : ∀ n x, bad n (down n x) = true → down n x = x
  /-- below an object literal that skips WITHOUT an error every node is fine anyway -/
  quiet : ∀ fs x, bad (.value (.obj fs)) x = true → S (.value (.obj fs)) x = 0 →
    ∀ p ∈ gnObjFields down x fs,
      (bad p.1 p.2 = true → S p.1 p.2 = 0) ∧ (bad p.1 p.2 = false → F p.1 p.2 = 0 ∧ G p.1 p.2 = 0)
  noskip : ∀ n st, n.isDoc = false → Inv st → bad n (down n (ctx st)) = false → (enter c n st).2 = false
  enterE : ∀ n st, n.isDoc = false → Inv st → bad n (down n (ctx st)) = false →
    E (enter c n st).1 = E st + F n (down n (ctx st))
  leaveE : ∀ n st, n.isDoc = false → Inv st → E (leave c n st) = E st + G n (ctx st)

variable {c : Cfg} {X : Type}

theorem visitNode_MI (K : CTXQ c X) (n : Node) (body : St → St) (st : St) (hn : n.isDoc = false)
    (hb : ∀ st1, MI K.Inv st1 (body st1)) : MI K.Inv st (visitNode c n body st) := by
  intro hi
  cases hbad : K.bad n (K.down n (K.ctx st))
  · rw [visitNode_false (K.noskip n st hn hi hbad)]
    have e1 := K.enterE n st hn hi hbad
    obtain ⟨i2, m2⟩ := hb _ (K.enterI n st hn hi)
    refine ⟨K.leaveI n _ hn i2, ?_⟩
    rw [K.leaveE n _ hn i2]; omega
  · obtain ⟨h1, h2⟩ := K.skipE n st hn hi hbad
    rw [visitNode_true h1]
    exact ⟨K.skipI n st hn hi hbad, by omega⟩

def okP (K : CTXQ c X) (p : Node × X) : Prop :=
  (K.bad p.1 p.2 = true → K.S p.1 p.2 = 0) ∧ (K.bad p.1 p.2 = false → K.F p.1 p.2 = 0 ∧ K.G p.1 p.2 = 0)

def PX (K : CTXQ c X) (l : List (Node × X)) (st st' : St) : Prop :=
  (E st' = E st ↔ ∀ p ∈ l, okP K p) ∧ (E st' = E st → K.ctx st' = K.ctx st)

theorem PX.node (K : CTXQ c X) (n : Node) (body : St → St) (lb : List (Node × X)) (st : St) (hn : n.isDoc = false)
    (hi : K.Inv st) (hJ : n.isDirective = true → K.J (K.ctx st))
    (hq : K.bad n (K.down n (K.ctx st)) = true ∧ K.S n (K.down n (K.ctx st)) = 0 → ∀ p ∈ lb, okP K p)
    (mb : ∀ st1, MI K.Inv st1 (body st1))
    (hb : ∀ st1, K.Inv st1 → K.ctx st1 = K.down n (K.ctx st) → PX K lb st1 (body st1)) :
    PX K ((n, K.down n (K.ctx st)) :: lb) st (visitNode c n body st) := by
  have hr : K.up n (K.down n (K.ctx st)) = K.ctx st := K.restore n _ hJ
  cases hbad : K.bad n (K.down n (K.ctx st))
  · rw [visitNode_false (K.noskip n st hn hi hbad)]
    have i1 := K.enterI n st hn hi
    have c1 := K.enter_ctx n st
    obtain ⟨i2, m2⟩ := mb _ i1
    exact SPX.cons (g := K.G n) (K.enterE n st hn hi hbad) m2 (K.leaveE n _ hn i2) (hb _ i1 c1) c1
      (by simp [okP, hbad]) (fun e => by rw [K.leave_ctx, e, hr])
  · obtain ⟨h1, h2⟩ := K.skipE n st hn hi hbad
    rw [visitNode_true h1]
    exact SPX.skip h2 (by simp [okP, hbad]) (fun hs => hq ⟨hbad, hs⟩) (by rw [K.skip_ctx n st hn hi hbad, hr])

def CTXQ.sys (K : CTXQ c X) : CtxSys c X where
  ctx := K.ctx
  down := K.down
  J := K.J
  Inv := K.Inv
  ok := okP K
  quiet n x := K.bad n x = true ∧ K.S n x = 0
  keepJ := K.keepJ
  quiet_obj n x h := K.badObj n x h.1
  quiet_sub fs x h := K.quiet fs x h.1 h.2
  mono := visitNode_MI K
  node := PX.node K

theorem valuesC (K : CTXQ c X) : ∀ (vs : List Value) (st : St), K.Inv st →
    PX K (gnValues K.down (K.ctx st) vs) st (visitValues c vs st) :=
  fun vs st hi => (K.sys.valuesW vs _).px st hi rfl
theorem objFieldC (K : CTXQ c X) : ∀ (f : ObjField) (st : St), K.Inv st →
    PX K (gnObjField K.down (K.ctx st) f) st (visitObjField c f st) :=
  fun f st hi => (K.sys.objFieldW f _).px st hi rfl
theorem objFieldsC (K : CTXQ c X) : ∀ (fs : List ObjField) (st : St), K.Inv st →
    PX K (gnObjFields K.down (K.ctx st) fs) st (visitObjFields c fs st) :=
  fun fs st hi => (K.sys.objFieldsW fs _).px st hi rfl
theorem selC (K : CTXQ c X) : ∀ (x : Sel) (st : St), K.Inv st → K.J (K.ctx st) →
    PX K (gnSel K.down (K.ctx st) x) st (visitSel c x st) :=
  fun x st hi hj => (K.sys.selW x _ hj).px st hi rfl

theorem defsC (K : CTXQ c X) (ds : List Def) (st : St) (hi : K.Inv st) (hj : K.J (K.ctx st)) :
    PX K (ds.flatMap (gnDef K.down (K.ctx st))) st (ds.foldl (fun st x => visitDef c x st) st) :=
  (K.sys.defsW ds _ hj).px st hi rfl

end Q

end PyGql.Validate
