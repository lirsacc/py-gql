/-
  First components: the typed enumerations of `Spec/TypedNodes.lean` list the nodes of the untyped ones (`tnDef_fst`: the
  `gn*_fst` of `Lemmas/ValidateCtxMap.lean` at the views, through `gn*_view`), and the names of the usages `Spec.usesValue` lists
  are `Spec.varsOfValue` (`usesValue_fst`).
-/
import PyGqlModel.Lemmas.ValidateTyped
import PyGqlModel.Lemmas.ValidateCtxMap
import PyGqlModel.Spec.ValidSpecVars
namespace PyGql.Validate
open PyGql PyGql.Validate.Spec

theorem withView_fst (w : View) (ns : List Node) : (withView w ns).map (·.1) = ns := by
  induction ns with
  | nil => rfl
  | cons n ns ih => rw [withView_cons, List.map_cons, ih]

theorem tnDirs_fst (s : SchemaD) (w : View) (ds : List Dir) : (tnDirs s w ds).map (·.1) = dirsNodes ds := by
  rw [← gnDirs_view, gnDirs_fst]

theorem tnSel_fst (s : SchemaD) : ∀ (w : View) (x : Sel), (tnSel s w x).map (·.1) = selNodes x :=
  fun w x => by rw [← gnSel_view, gnSel_fst]

theorem tnVarDefs_fst (s : SchemaD) (w : View) (vs : List VarDef) :
    (vs.flatMap (tnVarDef s w)).map (·.1) = vs.flatMap varDefNodes := by
  rw [← gnVarDefs_view, List.map_flatMap]
  exact congrArg (List.flatMap · vs) (funext fun v => gnVarDef_fst _ v w)

theorem tnDef_fst (s : SchemaD) (x : Def) : (tnDef s x).map (·.1) = defNodes x := by
  rw [← gnDef_view, gnDef_fst]

mutual
theorem usesValue_fst (s : SchemaD) : ∀ (p : Usage) (v : Value), (usesValue s p v).map (·.1) = varsOfValue v
  | p, .list vs => by rw [usesValue, varsOfValue, usesValues_fst s _ vs]
  | p, .obj fs => by rw [usesValue, varsOfValue, usesObjFields_fst s _ fs]
  | p, .var x => rfl
  | p, .int _ => rfl
  | p, .float _ => rfl
  | p, .str _ => rfl
  | p, .bool _ => rfl
  | p, .null => rfl
  | p, .enum _ => rfl
theorem usesValues_fst (s : SchemaD) : ∀ (p : Usage) (vs : List Value), (usesValues s p vs).map (·.1) = varsOfValues vs
  | _, [] => rfl
  | p, v :: vs => by rw [usesValues, varsOfValues, List.map_append, usesValue_fst s p v, usesValues_fst s p vs]
theorem usesObjFields_fst (s : SchemaD) : ∀ (p : Usage) (fs : List ObjField),
    (usesObjFields s p fs).map (·.1) = varsOfObjFields fs
  | _, [] => rfl
  | p, .mk n v :: fs => by
    rw [usesObjFields, varsOfObjFields, List.map_append, usesValue_fst s _ v, usesObjFields_fst s p fs]
end

end PyGql.Validate
