/-
  C08 / C09 — the executor in sequenced form. Every clause of `completeValue`, `completeItems`, `resolveFields` and
  `resolveField` is a composition of a few combinators on outcomes (`Res α × ExecSt`): `thenR` (sequencing; an exception
  ends the sequence), `chainRes` (`map_value`), `gatherRes` (`gather_values`), `consRes` (one more slot in front of a list of
  slots), `catchRes` (`else_=(BaseException, on_error)`), `nowOf` / `futureOf` (how a resolver that ran at once hands over what
  the `complete` callback made of its outcome). `ExecCases` is the induction over all calls of the executor in these terms:
  an invariant of the executor is a predicate on outcomes with one lemma per combinator, and an instance of it.
-/
import PyGqlModel.Lemmas.ExecInduct

namespace PyGql.AsyncExec

/-- `r >>= f` on an outcome `r` that is already there -/
def thenR {α β : Type} (r : Res α × ExecSt) (f : α → ExecSt → Res β × ExecSt) : Res β × ExecSt :=
  match r with
  | (.exc e, s1) => (.exc e, s1)
  | (.ok a, s1) => f a s1

def consRes (r : Res Node × ExecSt) (rest : ExecSt → Res Nodes × ExecSt) : Res Nodes × ExecSt :=
  thenR r fun n s1 => thenR (rest s1) fun ns s2 => (.ok (.cons n ns), s2)

/-- `map_value(r, k)`, the callbacks interpreted by `ap` -/
def chainRes (ap : ApplyCont) (k : Cont) (r : Res Node × ExecSt) : Res Node × ExecSt :=
  thenR r fun n s1 => mapValue ap n k s1

/-- `gather_values(r)` -/
def gatherRes (r : Res Nodes × ExecSt) : Res Node × ExecSt :=
  thenR r fun ns s1 => (.ok (gatherValues ns), s1)

/-- `else_=(BaseException, on_error)` around `complete`: `on_error` hands a `ResolverError` raised while completing to `fail`,
    which nulls the field, and re-raises anything else -/
def catchRes (path : Path) (r : Res Node × ExecSt) : Res Node × ExecSt :=
  match r with
  | (.exc .resolver, s1) => (.ok (failField path s1).1, (failField path s1).2)
  | r => r

/-- what the resolver hands to the `complete` callback (what `else_` is called with included) -/
def outRes : ROut → Res Val
  | .ok c => .ok (.raw c)
  | .rerr => .exc .resolver
  | .exc => .exc .boom

/-- a resolver that ran synchronously: `unwrap_value` of what `complete` returned, exceptions propagate -/
def nowOf (r : Res Node × ExecSt) : Res Node × ExecSt :=
  thenR r fun n s1 => (.ok (unwrapValue n), s1)

/-- a resolver whose Future was already finished: the chain's target Future holds what `complete` returned or raised -/
def futureOf (r : Res Node × ExecSt) : Res Node × ExecSt :=
  match r with
  | (.ok n, s1) => (.ok (unwrapCb (.done n)), s1)
  | (.exc e, s1) => (.ok (.failed e), s1)

/-- what a finished source Future hands to the `then` / `else_` callback of `chain` -/
def srcRes : Node → Res Val
  | .failed e => .exc e
  | .done r => .ok r.plain
  | _ => .ok .junk

/-- `target.set_result(res)` / `target.set_exception(err)`: the chain's target Future holds what the callback returned or raised -/
def settle (r : Res Node × ExecSt) : Node × ExecSt :=
  match r with
  | (.ok x, s') => (.done x, s')
  | (.exc e, s') => (.failed e, s')

/-- `on_finish` of `chain`: on a finished source the callback runs and its outcome is stored; a pending source stays parked -/
theorem chainOnFinish_eq (ap : ApplyCont) (src : Node) (k : Cont) (s : ExecSt) :
    chainOnFinish ap src k s = match src with
      | .failed _ | .done _ => settle (ap k (srcRes src) s)
      | other => (.chain other k, s) := by
  unfold chainOnFinish
  cases src with
  | failed e =>
    simp only [srcRes]
    generalize ap k (.exc e) s = x
    obtain ⟨n | e, s1⟩ := x <;> rfl
  | done r =>
    simp only [srcRes]
    generalize ap k _ s = x
    obtain ⟨n | e, s1⟩ := x <;> rfl
  | _ => rfl

theorem settle_snd (r : Res Node × ExecSt) : (settle r).2 = r.2 := by
  obtain ⟨n | e, s1⟩ := r <;> rfl

theorem settle_isFuture (r : Res Node × ExecSt) : (settle r).1.isFuture = true := by
  obtain ⟨n | e, s1⟩ := r <;> rfl

theorem futureOf_eq (r : Res Node × ExecSt) : futureOf r = (.ok (unwrapCb (settle r).1), (settle r).2) := by
  obtain ⟨n | e, s1⟩ := r <;> rfl

/-- the state in which a resolver that runs at once leaves the trace -/
def ExecSt.ran (s : ExecSt) (path : Path) : ExecSt := (s.emit (.call path)).emit (.done path)

/-- the node a deferred field leaves in its slot -/
def parked (id : Nat) (path : Path) (nested : Bool) (out : ROut) : Node :=
  .unwrap (.chain (.unwrap (.task id path nested out)) (.complete path))

theorem nowOf_snd (r : Res Node × ExecSt) : (nowOf r).2 = r.2 := by
  obtain ⟨n | e, s1⟩ := r <;> rfl

theorem completeValue_nonNull (path : Path) (c : Comp) (s : ExecSt) :
    completeValue path (.nonNull c) s = chainRes applySimple (.nonNull path) (completeValue path c s) := by
  rw [completeValue]
  generalize completeValue path c s = x
  obtain ⟨n | e, s1⟩ := x <;> rfl

theorem completeValue_list (path : Path) (items : Comps) (s : ExecSt) :
    completeValue path (.list items) s = gatherRes (completeItems path 0 items s) := by
  rw [completeValue]
  generalize completeItems path 0 items s = x
  obtain ⟨n | e, s1⟩ := x <;> rfl

theorem completeValue_obj (path : Path) (fields : Flds) (s : ExecSt) :
    completeValue path (.obj fields) s = chainRes applySimple (.collect fields.keys) (gatherRes (resolveFields path fields s)) := by
  rw [completeValue]
  generalize resolveFields path fields s = x
  obtain ⟨n | e, s1⟩ := x <;> rfl

theorem completeItems_cons (path : Path) (i : Nat) (c : Comp) (cs : Comps) (s : ExecSt) :
    completeItems path i (.cons c cs) s = consRes (completeValue (path ++ [.idx i]) c s) (completeItems path (i + 1) cs) := by
  rw [completeItems]
  generalize completeValue (path ++ [.idx i]) c s = x
  obtain ⟨n | e, s1⟩ := x
  · simp only [consRes, thenR]
    generalize completeItems path (i + 1) cs s1 = y
    obtain ⟨ns | e, s2⟩ := y <;> rfl
  · rfl

theorem resolveFields_cons (path : Path) (key : String) (mode : Mode) (out : ROut) (rest : Flds) (s : ExecSt) :
    resolveFields path (.cons key mode out rest) s
      = consRes (resolveField (path ++ [.key key]) mode out s) (resolveFields path rest) := by
  rw [resolveFields]
  generalize resolveField (path ++ [.key key]) mode out s = x
  obtain ⟨n | e, s1⟩ := x
  · simp only [consRes, thenR]
    generalize resolveFields path rest s1 = y
    obtain ⟨ns | e, s2⟩ := y <;> rfl
  · rfl

theorem applyCont_complete (path : Path) (c : Comp) (s : ExecSt) :
    applyCont (.complete path) (.ok (.raw c)) s = catchRes path (completeValue path c s) := by
  rw [applyCont]
  generalize completeValue path c s = x
  obtain ⟨n | e, s1⟩ := x
  · rfl
  · cases e <;> rfl

/-- `resolve_field` is `map_value(resolver(), complete, else_=(BaseException, on_error))`: a resolver that runs at once has its `complete`
    callback run at once, on exactly what a task hands to the parked callback when it completes -/
theorem resolveField_sync (path : Path) (out : ROut) (s : ExecSt) :
    resolveField path .sync out s = nowOf (applyCont (.complete path) (outRes out) (s.ran path)) := by
  cases out with
  | ok c =>
    rw [resolveField]
    simp only [outRes, applyCont, nowOf, ExecSt.ran]
    generalize completeValue path c _ = x
    obtain ⟨n | e, s1⟩ := x
    · rfl
    · cases e <;> rfl
  | _ => rfl

theorem resolveField_ready (path : Path) (out : ROut) (s : ExecSt) :
    resolveField path .ready out s = futureOf (applyCont (.complete path) (outRes out) (s.ran path)) := by
  cases out with
  | ok c =>
    rw [resolveField]
    simp only [outRes, applyCont, futureOf, ExecSt.ran]
    generalize completeValue path c _ = x
    obtain ⟨n | e, s1⟩ := x
    · rfl
    · cases e <;> rfl
  | _ => rfl

theorem resolveField_deferred (path : Path) (out : ROut) (s : ExecSt) :
    resolveField path .deferred out s = (.ok (parked s.next path false out), (s.emit (.call path)).submit.2) := by
  cases out <;> rfl

theorem resolveField_nested (path : Path) (out : ROut) (s : ExecSt) :
    resolveField path .nested out s = (.ok (parked s.next path true out), (s.emit (.call path)).submit.2) := by
  cases out <;> rfl

/-- what `execute` runs before `unwrap_value` and `_on_finish`: `execute_fields` or `execute_fields_serially` on the root fields -/
def execRoot (op : Op) (s : ExecSt) : Res Node × ExecSt :=
  match op.kind with
  | .query => completeValue [] (.obj op.fields) s
  | .mutation => serialNext [] [] op.fields s

theorem executeFields_eq (path : Path) (fields : Flds) (s : ExecSt) :
    executeFields path fields s = completeValue path (.obj fields) s := by
  rw [executeFields, completeValue]

theorem execute_eq (op : Op) (s : ExecSt) : execute op s = chainRes applyCont .onFinish (nowOf (execRoot op s)) := by
  unfold execute execRoot
  cases op.kind <;> simp only [executeFields_eq, executeFieldsSerially]
  · generalize completeValue [] (.obj op.fields) s = x
    obtain ⟨n | e, s1⟩ := x <;> rfl
  · generalize serialNext [] [] op.fields s = x
    obtain ⟨n | e, s1⟩ := x <;> rfl

/-- The ways an outcome of `completeValue` (`V`), `completeItems` (`I`), `resolveFields` (`F`), `resolveField` (`R`) and of
    the `complete` callback on a resolver's outcome (`C`) is built. -/
structure ExecCases
    (V : Path → Comp → ExecSt → Res Node × ExecSt → Prop)
    (I : Path → Nat → Comps → ExecSt → Res Nodes × ExecSt → Prop)
    (F : Path → Flds → ExecSt → Res Nodes × ExecSt → Prop)
    (R : Path → Mode → ROut → ExecSt → Res Node × ExecSt → Prop)
    (C : Path → ROut → ExecSt → Res Node × ExecSt → Prop) : Prop where
  null : ∀ path s, V path .null s (.ok (.val (.data .null)), s)
  leaf : ∀ path v s, V path (.leaf v) s (.ok (.val (.data (.leaf v))), s)
  bad : ∀ path s, V path .bad s (.exc .runtime, s)
  nonNull : ∀ path c s, V path c s (completeValue path c s) →
    V path (.nonNull c) s (chainRes applySimple (.nonNull path) (completeValue path c s))
  list : ∀ path items s, I path 0 items s (completeItems path 0 items s) →
    V path (.list items) s (gatherRes (completeItems path 0 items s))
  obj : ∀ path fields s, F path fields s (resolveFields path fields s) →
    V path (.obj fields) s (chainRes applySimple (.collect fields.keys) (gatherRes (resolveFields path fields s)))
  inil : ∀ path i s, I path i .nil s (.ok .nil, s)
  icons : ∀ path i c cs s, V (path ++ [.idx i]) c s (completeValue (path ++ [.idx i]) c s) →
    (∀ s1, I path (i + 1) cs s1 (completeItems path (i + 1) cs s1)) →
    I path i (.cons c cs) s (consRes (completeValue (path ++ [.idx i]) c s) (completeItems path (i + 1) cs))
  fnil : ∀ path s, F path .nil s (.ok .nil, s)
  fcons : ∀ path key mode out fs s, R (path ++ [.key key]) mode out s (resolveField (path ++ [.key key]) mode out s) →
    (∀ s1, F path fs s1 (resolveFields path fs s1)) →
    F path (.cons key mode out fs) s (consRes (resolveField (path ++ [.key key]) mode out s) (resolveFields path fs))
  deferred : ∀ path out s, R path .deferred out s (.ok (parked s.next path false out), (s.emit (.call path)).submit.2)
  nested : ∀ path out s, R path .nested out s (.ok (parked s.next path true out), (s.emit (.call path)).submit.2)
  sync : ∀ path out s, C path out (s.ran path) (applyCont (.complete path) (outRes out) (s.ran path)) →
    R path .sync out s (nowOf (applyCont (.complete path) (outRes out) (s.ran path)))
  ready : ∀ path out s, C path out (s.ran path) (applyCont (.complete path) (outRes out) (s.ran path)) →
    R path .ready out s (futureOf (applyCont (.complete path) (outRes out) (s.ran path)))
  rerr : ∀ path s, C path .rerr s (.ok (failField path s).1, (failField path s).2)
  exc : ∀ path s, C path .exc s (.exc .boom, s)
  ok : ∀ path c s, V path c s (completeValue path c s) → C path (.ok c) s (catchRes path (completeValue path c s))

namespace ExecCases
variable {V : Path → Comp → ExecSt → Res Node × ExecSt → Prop} {I : Path → Nat → Comps → ExecSt → Res Nodes × ExecSt → Prop}
  {F : Path → Flds → ExecSt → Res Nodes × ExecSt → Prop} {R : Path → Mode → ROut → ExecSt → Res Node × ExecSt → Prop}
  {C : Path → ROut → ExecSt → Res Node × ExecSt → Prop} (H : ExecCases V I F R C)
include H

private theorem field_of (path : Path) (mode : Mode) (out : ROut) (s : ExecSt)
    (h : C path out (s.ran path) (applyCont (.complete path) (outRes out) (s.ran path))) :
    R path mode out s (resolveField path mode out s) := by
  cases mode with
  | sync => exact resolveField_sync path out s ▸ H.sync path out s h
  | ready => exact resolveField_ready path out s ▸ H.ready path out s h
  | deferred => exact resolveField_deferred path out s ▸ H.deferred path out s
  | nested => exact resolveField_nested path out s ▸ H.nested path out s

mutual
theorem value : ∀ (c : Comp) (path : Path) (s : ExecSt), V path c s (completeValue path c s)
  | .null, path, s => H.null path s
  | .leaf v, path, s => H.leaf path v s
  | .bad, path, s => H.bad path s
  | .nonNull c, path, s => completeValue_nonNull path c s ▸ H.nonNull path c s (value c path s)
  | .list cs, path, s => completeValue_list path cs s ▸ H.list path cs s (items cs path 0 s)
  | .obj fs, path, s => completeValue_obj path fs s ▸ H.obj path fs s (fields fs path s)
theorem items : ∀ (cs : Comps) (path : Path) (i : Nat) (s : ExecSt), I path i cs s (completeItems path i cs s)
  | .nil, path, i, s => H.inil path i s
  | .cons c cs, path, i, s =>
    completeItems_cons path i c cs s ▸ H.icons path i c cs s (value c _ s) (items cs path (i + 1))
theorem fields : ∀ (fs : Flds) (path : Path) (s : ExecSt), F path fs s (resolveFields path fs s)
  | .nil, path, s => H.fnil path s
  | .cons key mode out rest, path, s =>
    resolveFields_cons path key mode out rest s ▸
      H.fcons path key mode out rest s (field_of H _ mode out s (complete out _ _)) (fields rest path)
theorem complete : ∀ (out : ROut) (path : Path) (s : ExecSt), C path out s (applyCont (.complete path) (outRes out) s)
  | .rerr, path, s => H.rerr path s
  | .exc, path, s => H.exc path s
  | .ok c, path, s => applyCont_complete path c s ▸ H.ok path c s (value c path s)
end

theorem field (out : ROut) (path : Path) (mode : Mode) (s : ExecSt) : R path mode out s (resolveField path mode out s) :=
  field_of H path mode out s (H.complete out path _)

end ExecCases

end PyGql.AsyncExec
