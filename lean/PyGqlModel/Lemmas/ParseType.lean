/-
  Names, named types and type references: the parser agrees with the matcher of the grammar, both ways.
-/
import PyGqlModel.Lemmas.ParseRules
namespace PyGql.Parse
open PyGql PyGql.Ast PyGql.Spec

theorem parseName_pos (fl : Flags) {t : Tok} (hk : t.kind = .name) (ts : List Tok) (l : Tok) :
    parseName fl ⟨t :: ts, l⟩ = .ok (⟨t.value, locOf fl t t⟩, ⟨ts, t⟩) :=
  bind_run (expect_pos hk ts l) rfl

theorem parseName_ok (fl : Flags) (s : PS) (n : Name) (s' : PS) :
    parseName fl s = .ok (n, s') ↔
      ∃ t ts, s.toks = t :: ts ∧ t.kind = .name ∧ n = ⟨t.value, locOf fl t t⟩ ∧ s' = ⟨ts, t⟩ := by
  simp only [parseName, bind_ok, expect_ok, mkLoc_ok, pure_ok]
  constructor
  · rintro ⟨t, s1, ⟨ts, h1, hk, rfl⟩, loc, s2, ⟨rfl, rfl⟩, h3⟩
    cases h3
    exact ⟨t, ts, h1, hk, rfl, rfl⟩
  · rintro ⟨t, ts, h1, hk, rfl, rfl⟩
    exact ⟨t, _, ⟨ts, h1, hk, rfl⟩, _, _, ⟨rfl, rfl⟩, rfl⟩

theorem parseName_sound (fl : Flags) : Sound fl (parseName fl) (fun _ => True) nameV := by
  intro s n s' h
  obtain ⟨t, ts, h1, hk, rfl, rfl⟩ := (parseName_ok ..).1 h
  exact ⟨trivial, (check_leaf ..).2 ⟨t, h1, cls_name hk, rfl, rfl⟩⟩

theorem parseName_complete (fl : Flags) (n : Name) (l l' : Tok) (ts rest : List Tok)
    (h : (nameV n).check fl l ts = some (l', rest)) :
    parseName fl ⟨ts, l⟩ = .ok (n, ⟨rest, l'⟩) := by
  rcases n with ⟨v, loc⟩
  obtain ⟨t, rfl, hc, rfl, rfl⟩ := (check_leaf ..).1 h
  obtain ⟨hk, rfl⟩ := cls_kw_inv hc
  exact parseName_pos fl hk rest l

theorem parseName_takes (fl : Flags) (n : Nat) (nm : Name) : Takes1 fl n (parseName fl) nm (nameV nm) Any :=
  fun l ts l' rest _ h _ => parseName_complete fl nm l l' ts rest h

theorem parseNamedType_sound (fl : Flags) : Sound fl (parseNamedType fl) (fun _ => True) namedTypeV :=
  .node fun _ => .step (parseName_sound fl) fun _ _ => .done fun _ => ⟨trivial, rfl⟩

theorem parseNamedType_takes (fl : Flags) (n : Nat) (t : NamedType) :
    Takes1 fl n (parseNamedType fl) t (namedTypeV t) Any := by
  rcases t with ⟨nm, loc⟩
  exact .node fun _ => .step (parseName_takes fl n nm) <| .done _ _

/-- the part of `parse_type_reference` before the `!` test yields a type that is not `NonNull` -/
theorem parseTypeInner_sound (fl : Flags) (rec_ : P TypeRef)
    (hrec : Sound fl rec_ (fun t => wfType t = true) typeV)
    (s : PS) (st : Tok) (ts0 : List Tok) (h0 : s.toks = st :: ts0) (ty : TypeRef) (s' : PS)
    (h : parseTypeInner fl rec_ st s = .ok (ty, s')) :
    wfType ty = true ∧ isNonNull ty = false ∧ (typeV ty).check fl s.last s.toks = some (s'.last, s'.toks) := by
  obtain ⟨b, s3, hsk, hinner⟩ := bind_inv h
  obtain ⟨t1, ts1, h1, hb⟩ := (skip_ok ..).1 hsk
  rw [h0] at h1
  cases h1
  rcases hb with ⟨hk, rfl, rfl⟩ | ⟨hk, rfl, rfl⟩
  · obtain ⟨inner, s5, hrec', hinner⟩ := bind_inv hinner
    obtain ⟨cl, ts6, h6, hk6, hinner⟩ := expect_bind hinner
    cases hinner
    obtain ⟨w, c⟩ := hrec _ _ _ hrec'
    exact ⟨w, rfl, chk_node h0 (chkA_cons (chk_tok h0 (cls_const hk rfl))
      (chkA_cons c (chkA_one (chk_tok h6 (cls_const hk6 rfl)))))⟩
  · obtain ⟨nt, s5, hnt, hinner⟩ := bind_inv hinner
    cases hinner
    exact ⟨rfl, rfl, (parseNamedType_sound fl _ _ _ hnt).2⟩

theorem parseTypeReference_sound (fl : Flags) (n : Nat) :
    Sound fl (parseTypeReference fl n) (fun t => wfType t = true) typeV := by
  induction n with
  | zero => intro s t s' h; simp [parseTypeReference, fail_ok] at h
  | succ n ih =>
    intro s t s' h
    rw [parseTypeReference] at h
    obtain ⟨st, ts0, h0, hA⟩ := peek_bind h
    obtain ⟨ty, s2, hinner, hB⟩ := bind_inv hA
    obtain ⟨b2, s4, hsk, hfin⟩ := bind_inv hB
    obtain ⟨t2, ts2, h2, hb2⟩ := (skip_ok ..).1 hsk
    obtain ⟨w, nn, c⟩ := parseTypeInner_sound fl _ ih _ _ _ h0 _ _ hinner
    rcases hb2 with ⟨hk, rfl, rfl⟩ | ⟨hk, rfl, rfl⟩
    · cases hfin
      exact ⟨by simp [wfType, w, nn], chk_node h0 (chkA_cons c (chkA_one (chk_tok h2 (cls_const hk rfl))))⟩
    · cases hfin
      exact ⟨w, c⟩


/-- what may follow a type: after a type that is not `NonNull`, the next token exists and is not `!` -/
def FollowType (t : TypeRef) (rest : List Tok) : Prop :=
  match t with
  | .nonNull _ _ => True
  | _ => ∃ t0 tl, rest = t0 :: tl ∧ t0.kind ≠ .bang

abbrev width (i : Item) : Nat := i.yield.length

theorem nameV_first {fl : Flags} {n : Name} {l : Tok} {ts : List Tok} {r : Tok × List Tok}
    (h : (nameV n).check fl l ts = some r) : ∃ t tl, ts = t :: tl ∧ t.kind = .name := node_first h

theorem nameV_tok {fl : Flags} {n : Name} {l : Tok} {ts : List Tok} {r : Tok × List Tok}
    (h : (nameV n).check fl l ts = some r) : ∃ t tl, ts = t :: tl ∧ t.kind = .name ∧ t.value = n.value := by
  rcases n with ⟨v, loc⟩
  rcases r with ⟨l', rest⟩
  obtain ⟨t, rfl, hc, _⟩ := (check_leaf ..).1 h
  exact ⟨t, rest, rfl, cls_kw_inv hc⟩

theorem namedTypeV_first {fl : Flags} {t : NamedType} {l : Tok} {ts : List Tok} {r : Tok × List Tok}
    (h : (namedTypeV t).check fl l ts = some r) : ∃ t0 tl, ts = t0 :: tl ∧ t0.kind = .name := by
  rcases r with ⟨l', rest⟩
  simp only [namedTypeV, check_node, checkAll_cons] at h
  obtain ⟨f, tl, rfl, ⟨l1, ts1, hn, _⟩, _⟩ := h
  exact nameV_first hn

theorem width_typeV_pos (t : TypeRef) : 1 ≤ width (typeV t) := by
  cases t <;> simp [width, typeV, namedTypeV, nameV, Item.yield, Item.yieldAll]

theorem parseTypeInner_complete (fl : Flags) (rec_ : P TypeRef) (n : Nat)
    (hrec : ∀ (t : TypeRef) (l l' : Tok) (ts rest : List Tok), wfType t = true → width (typeV t) ≤ n →
      (typeV t).check fl l ts = some (l', rest) → FollowType t rest → rec_ ⟨ts, l⟩ = .ok (t, ⟨rest, l'⟩))
    (t : TypeRef) (l l' st : Tok) (tl rest : List Tok) (hnn : isNonNull t = false) (w : wfType t = true)
    (hw : width (typeV t) ≤ n + 1) (h : (typeV t).check fl l (st :: tl) = some (l', rest)) :
    parseTypeInner fl rec_ st ⟨st :: tl, l⟩ = .ok (t, ⟨rest, l'⟩) := by
  cases t with
  | nonNull t loc => cases hnn
  | named nt =>
    obtain ⟨_, _, e, hk⟩ := namedTypeV_first h
    cases e
    have hk' : st.kind ≠ .bracketL := by rw [hk]; decide
    exact bind_run (skip_neg hk' tl l) (bind_run (parseNamedType_takes fl _ nt l _ l' rest (Nat.le_refl _) h trivial) rfl)
  | list inner loc =>
    simp only [typeV, check_node, checkAll_cons, checkAll_nil, check_tok] at h
    obtain ⟨f, tl', hf, ⟨l1, ts1, ⟨t1, h1, hc1, rfl⟩, l2, ts2, hin, l3, ts3, ⟨t3, rfl, hc3, rfl⟩, hfin⟩, rfl⟩ := h
    cases hf; cases h1; cases hfin
    have hwi : width (typeV inner) ≤ n := by
      simp [width, typeV, Item.yield, Item.yieldAll] at hw ⊢; omega
    have hfol : FollowType inner (l' :: rest) := by
      cases inner <;> simp [FollowType, cls_kind hc3]
    exact bind_run (skip_pos (cls_kind hc1) tl l) (bind_run (hrec inner _ _ _ _ w hwi hin hfol)
      (bind_run (expect_pos (cls_kind hc3) rest l2) rfl))

theorem parseTypeReference_complete (fl : Flags) : ∀ (n : Nat) (t : TypeRef) (l l' : Tok) (ts rest : List Tok),
    wfType t = true → width (typeV t) ≤ n →
    (typeV t).check fl l ts = some (l', rest) → FollowType t rest →
    parseTypeReference fl n ⟨ts, l⟩ = .ok (t, ⟨rest, l'⟩) := by
  intro n
  induction n with
  | zero =>
    intro t l l' ts rest _ hw
    have := width_typeV_pos t
    omega
  | succ n ih =>
    intro t l l' ts rest w hw h hfol
    have core := parseTypeInner_complete fl (parseTypeReference fl n) n ih
    cases t with
    | nonNull inner loc =>
      simp only [typeV, check_node, checkAll_cons, checkAll_nil, check_tok] at h
      obtain ⟨f, tl, rfl, ⟨l1, ts1, hin, l2, ts2, ⟨t2, rfl, hc2, rfl⟩, hfin⟩, rfl⟩ := h
      cases hfin
      simp only [wfType, Bool.and_eq_true, Bool.not_eq_true'] at w
      have hwi : width (typeV inner) ≤ n + 1 := by
        simp [width, typeV, Item.yield, Item.yieldAll] at hw ⊢; omega
      exact bind_run (peek_cons ..) (bind_run (core inner l l1 f tl _ w.2 w.1 hwi hin)
        (bind_run (skip_pos (cls_kind hc2) rest l1) rfl))
    | named nt =>
      obtain ⟨t0, tl0, rfl, hk0⟩ := hfol
      obtain ⟨f, tl, rfl, _⟩ := namedTypeV_first h
      exact bind_run (peek_cons ..) (bind_run (core (.named nt) l l' f tl _ rfl w hw h) (bind_run (skip_neg hk0 tl0 l') rfl))
    | list inner loc =>
      obtain ⟨t0, tl0, rfl, hk0⟩ := hfol
      obtain ⟨f, tl, rfl, _⟩ := node_first h
      exact bind_run (peek_cons ..) (bind_run (core (.list inner loc) l l' f tl _ rfl w hw h)
        (bind_run (skip_neg hk0 tl0 l') rfl))

theorem followType_of_notK {t : TypeRef} {rest : List Tok} (h : NotK [.bang] rest) : FollowType t rest := by
  obtain ⟨t0, tl, rfl, hk⟩ := h
  cases t <;> simp [FollowType] <;> simpa using hk

theorem parseTypeReference_takes (fl : Flags) (n : Nat) (t : TypeRef) (w : wfType t = true) :
    Takes1 fl n (parseTypeReference fl n) t (typeV t) (NotK [.bang]) :=
  fun l ts l' rest hn h hr =>
    parseTypeReference_complete fl n t l l' ts rest w (Nat.le_trans (check_yield_le h) hn) h (followType_of_notK hr)

end PyGql.Parse
