/-
  `OverlappingFieldsCanBeMergedChecker`: EVERY CONFLICT THE SEARCH REPORTS IS GENUINE. For each of the five
  mutually recursive search functions: if the context is sane (`CI`: the fragment table is the document's, every
  cached parent type is admissible) it stays sane, and a positive count comes with two fields - collected from
  the sets / fragments the function was called on - that conflict in the sense of `Spec.Conf`.
  Fuel, the memos and the compared-fragments set only make the search report LESS: proved for the search of
  `Lemmas/ValidateOverlapG.lean` with the memo flag as a variable (`searchG_sound`, `withinG_sound`).
-/
import PyGqlModel.Lemmas.ValidateOverlapNodes
import PyGqlModel.Lemmas.ValidateOverlapG
namespace PyGql.Validate
open PyGql PyGql.Validate.Spec

/-- the search context is sane: its fragment table is the document's and every cached parent type is admissible (`Spec.Adm`) -/
structure CI (s : SchemaD) (d : Doc) (c : OCtx) : Prop where
  frags : c.frags = fragTable d
  cache : ∀ q ∈ c.cache, Adm s d q.1 q.2

/-- a field the search can meet: collected from a selection set of the document under an admissible parent type -/
def Ent (s : SchemaD) (d : Doc) (e : FEntry) : Prop :=
  ∃ i sels p rn, SelSet d i sels ∧ Adm s d i p ∧ CollD s p sels rn e

theorem Ent.sub {s : SchemaD} {d : Doc} {e : FEntry} (h : Ent s d e) (hs : e.hasSub = true) :
    SelSet d e.ssid e.sub ∧ Adm s d e.ssid ((e.fdef.map (·.type)).map (·.base)) := by
  obtain ⟨i, sels, p, rn, h1, h2, h3⟩ := h
  exact ⟨selSet_sub h1 h3 hs, .sub h2 h1 h3 hs⟩

/-- the field map holds `e` under the response name `rn` -/
def Has (fm : FMap) (rn : String) (e : FEntry) : Prop := ∃ l, (rn, l) ∈ fm ∧ e ∈ l

theorem entOK_ent {s : SchemaD} {d : Doc} {p : Option String} {i : Nat} {sels : List Sel} {fm : FMap}
    (h : EntOK (CollD s p sels) fm) (h1 : SelSet d i sels) (h2 : Adm s d i p) : EntOK (fun _ e => Ent s d e) fm :=
  fun q hq e he => ⟨i, sels, p, q.1, h1, h2, h q hq e he⟩

theorem CI.crash {s : SchemaD} {d : Doc} {c : OCtx} (h : CI s d c) (x : Option String) : CI s d { c with crash := x } :=
  ⟨h.frags, h.cache⟩

section
variable (s : SchemaD) (fx : Fixes) (d : Doc)

theorem CI.cmp {s : SchemaD} {d : Doc} {c : OCtx} (h : CI s d c) (x : List String) : CI s d { c with cmp := x } :=
  ⟨h.frags, h.cache⟩
theorem CI.pairs {s : SchemaD} {d : Doc} {c : OCtx} (h : CI s d c) (x : List (String × String × Bool)) :
    CI s d { c with pairs := x } := ⟨h.frags, h.cache⟩

theorem CI.ffp {c : OCtx} (h : CI s d c) (x : List (Nat × String × Bool)) : CI s d { c with ffp := x } :=
  ⟨h.frags, h.cache⟩

/-- `_fields_and_fragments` on the body of a fragment of the table -/
theorem ff_frag {c : OCtx} (hc : CI s d c) {name on : String} {fid : Nat} {fsels : List Sel}
    (hg : AL.get? c.frags name = some (on, fid, fsels)) :
    CI s d (fieldsAndFragments s ((typeFromAst s (.named on)).map (·.base)) fid fsels c).2 ∧
    EntOK (fun _ e => Ent s d e) (fieldsAndFragments s ((typeFromAst s (.named on)).map (·.base)) fid fsels c).1.1 ∧
    (∀ rn e, Has (fieldsAndFragments s ((typeFromAst s (.named on)).map (·.base)) fid fsels c).1.1 rn e →
      CollF s d name rn e) ∧
    (∀ g ∈ (fieldsAndFragments s ((typeFromAst s (.named on)).map (·.base)) fid fsels c).1.2, ∀ rn e,
      CollF s d g rn e → CollF s d name rn e) := by
  have hg' : AL.get? (fragTable d) name = some (on, fid, fsels) := by rw [← hc.frags]; exact hg
  have hadm : Adm s d fid (fragParent s on) := .frag hg'
  obtain ⟨⟨p', a1, a2⟩, a3, a4, a5⟩ := fieldsAndFragments_sound s d _ fid fsels c hc.cache hadm
  refine ⟨⟨a5.trans hc.frags, a4⟩, entOK_ent a2 (fragTable_selSet hg') a1, ?_, ?_⟩
  · rintro rn e ⟨l, hl, he⟩
    exact .here hg' a1 (a2 _ hl e he)
  · intro g hg2 rn e hcf
    exact .there hg' (a3 g hg2) hcf

theorem withFreshCmp_spec (f : OCtx → Nat × OCtx) (Q : Prop)
    (hf : ∀ c, CI s d c → CI s d (f c).2 ∧ (0 < (f c).1 → Q)) (c : OCtx) (hc : CI s d c) :
    CI s d (withFreshCmp f c).2 ∧ (0 < (withFreshCmp f c).1 → Q) := by
  unfold withFreshCmp
  obtain ⟨a, b⟩ := hf { c with cmp := [] } (hc.cmp _)
  exact ⟨a.cmp _, b⟩

/-- `_fields_and_fragments` on a selection set of the document under an admissible parent type -/
theorem ff_set {c : OCtx} (hc : CI s d c) {p : Option String} {i : Nat} {sels : List Sel}
    (h1 : SelSet d i sels) (h2 : Adm s d i p) :
    CI s d (fieldsAndFragments s p i sels c).2 ∧
    EntOK (fun _ e => Ent s d e) (fieldsAndFragments s p i sels c).1.1 ∧
    ∃ p', Adm s d i p' ∧
      (∀ rn e, Has (fieldsAndFragments s p i sels c).1.1 rn e → Coll s d p' sels rn e) ∧
      (∀ g ∈ (fieldsAndFragments s p i sels c).1.2, ∀ rn e, CollF s d g rn e → Coll s d p' sels rn e) := by
  obtain ⟨⟨p', a1, a2⟩, a3, a4, a5⟩ := fieldsAndFragments_sound s d p i sels c hc.cache h2
  refine ⟨⟨a5.trans hc.frags, a4⟩, entOK_ent a2 h1 a1, p', a1, ?_, ?_⟩
  · rintro rn e ⟨l, hl, he⟩
    exact Or.inl (a2 _ hl e he)
  · intro g hg rn e hcf
    exact Or.inr ⟨g, a3 g hg, hcf⟩

end

theorem pos_add {a b : Nat} {Q : Prop} (ha : 0 < a → Q) (hb : 0 < b → Q) (h : 0 < a + b) : Q :=
  if h0 : 0 < a then ha h0 else hb (by omega)

section
variable (s : SchemaD) (fx : Fixes) (memo : Bool) (d : Doc)

/-- The S family `SFindG SCbG SFfG SFrG SSsG`, one predicate per search function (`_find_conflict`, `_conflicts_between`,
    `_conflicts_between_fields_and_fragment`, `_conflicts_between_fragments`, `_conflicts_between_subselections`), at fuel
    `fuel`: a call from a sane context (`CI`) ends in a sane context, and a positive count (`true` for `_find_conflict`) comes
    with two fields of what the function was called on that conflict (`Spec.Conf`). -/
def SFindG (fuel : Nat) : Prop :=
  ∀ pme f1 f2 c, CI s d c → Ent s d f1 → Ent s d f2 →
    CI s d (findConflictG s fx memo fuel pme f1 f2 c).2 ∧ ((findConflictG s fx memo fuel pme f1 f2 c).1 = true → Conf s d pme f1 f2)

def SCbG (fuel : Nat) : Prop :=
  ∀ me fm1 fm2 c, CI s d c → EntOK (fun _ e => Ent s d e) fm1 → EntOK (fun _ e => Ent s d e) fm2 →
    CI s d (conflictsBetweenG s fx memo fuel me fm1 fm2 c).2 ∧
    (0 < (conflictsBetweenG s fx memo fuel me fm1 fm2 c).1 → ∃ rn e1 e2, Has fm1 rn e1 ∧ Has fm2 rn e2 ∧ Conf s d me e1 e2)

def SFfG (fuel : Nat) : Prop :=
  ∀ me ssid fm name c, CI s d c → EntOK (fun _ e => Ent s d e) fm →
    CI s d (betweenFieldsAndFragmentG s fx memo fuel me ssid fm name c).2 ∧
    (0 < (betweenFieldsAndFragmentG s fx memo fuel me ssid fm name c).1 →
      ∃ rn e1 e2, Has fm rn e1 ∧ CollF s d name rn e2 ∧ Conf s d me e1 e2)

def SFrG (fuel : Nat) : Prop :=
  ∀ me f1 f2 c, CI s d c →
    CI s d (betweenFragmentsG s fx memo fuel me (some f1) (some f2) c).2 ∧
    (0 < (betweenFragmentsG s fx memo fuel me (some f1) (some f2) c).1 →
      ∃ rn e1 e2, CollF s d f1 rn e1 ∧ CollF s d f2 rn e2 ∧ Conf s d me e1 e2)

def SSsG (fuel : Nat) : Prop :=
  ∀ me p1 id1 sels1 p2 id2 sels2 c, CI s d c → SelSet d id1 sels1 → Adm s d id1 p1 → SelSet d id2 sels2 → Adm s d id2 p2 →
    CI s d (betweenSubselectionsG s fx memo fuel me p1 id1 sels1 p2 id2 sels2 c).2 ∧
    (0 < (betweenSubselectionsG s fx memo fuel me p1 id1 sels1 p2 id2 sels2 c).1 →
      ∃ p1' p2' rn e1 e2, Adm s d id1 p1' ∧ Adm s d id2 p2' ∧ Coll s d p1' sels1 rn e1 ∧ Coll s d p2' sels2 rn e2 ∧
        (Conf s d me e1 e2 ∨ Conf s d me e2 e1))

theorem stepG_find (fuel : Nat) (hss : SSsG s fx memo d fuel) : SFindG s fx memo d (fuel + 1) := by
  intro pme f1 f2 c hc h1 h2
  refine findConflictG_cases s fx memo (motive := fun r => CI s d r.2 ∧ (r.1 = true → Conf s d pme f1 f2)) fuel pme f1 f2 c
    (fun _ _ => ⟨hc.crash _, fun h => by cases h⟩) (fun hm ha => ⟨hc, fun _ => .args hm ha⟩)
    (fun _ _ _ e1 e2 h => ⟨hc, fun _ => .types e1 e2 h⟩) (fun _ _ s1 s2 r hr => ?_)
    (fun _ _ _ => ⟨hc, fun h => by cases h⟩)
  obtain ⟨hs1, a1⟩ := h1.sub s1
  obtain ⟨hs2, a2⟩ := h2.sub s2
  obtain ⟨c1, c2⟩ := hss _ _ _ _ _ _ _ c hc hs1 a1 hs2 a2
  rw [hr]
  refine ⟨c1, fun h => ?_⟩
  obtain ⟨p1', p2', rn, e1, e2, b1, b2, b3, b4, b5⟩ := c2 (by simpa using h)
  rcases b5 with b5 | b5
  · exact .sub s1 s2 b1 b2 b3 b4 b5
  · exact .subSwap s1 s2 b1 b2 b3 b4 b5

theorem count_find {fuel : Nat} (hf : SFindG s fx memo d fuel) (me : Bool) (f1 f2 : FEntry) (c : OCtx) (hc : CI s d c)
    (h1 : Ent s d f1) (h2 : Ent s d f2) :
    CI s d (findConflictG s fx memo fuel me f1 f2 c).2 ∧
    (0 < (if (findConflictG s fx memo fuel me f1 f2 c).1 = true then 1 else 0) → Conf s d me f1 f2) := by
  obtain ⟨r1, r2⟩ := hf me f1 f2 c hc h1 h2
  refine ⟨r1, fun h => r2 ?_⟩
  cases hb : (findConflictG s fx memo fuel me f1 f2 c).1 with
  | true => rfl
  | false => rw [hb] at h; cases h

theorem stepG_cb (fuel : Nat) (hf : SFindG s fx memo d fuel) : SCbG s fx memo d (fuel + 1) := by
  intro me fm1 fm2 c hc h1 h2
  rw [conflictsBetweenG_succ]
  refine sumLoop_spec' fm1 _ (CI s d)
    (fun q => ∃ e1 e2, e1 ∈ q.2 ∧ Has fm2 q.1 e2 ∧ Conf s d me e1 e2) _ (fun q hq c hc => ?_)
    (fun q hq ⟨e1, e2, a1, a2, a3⟩ => ⟨q.1, e1, e2, ⟨q.2, hq, a1⟩, a2, a3⟩) c hc
  split
  · exact ⟨hc, fun h => by cases h⟩
  · rename_i fields2 hg
    refine sumLoop_spec' q.2 _ (CI s d) (fun f1 => ∃ e2, e2 ∈ fields2 ∧ Conf s d me f1 e2) _
      (fun f1 hf1 c hc => ?_)
      (fun f1 hf1 ⟨e2, b1, b2⟩ => ⟨f1, e2, hf1, ⟨fields2, AL.mem_of_get? hg, b1⟩, b2⟩) c hc
    exact sumLoop_spec' fields2 _ (CI s d) (fun f2 => Conf s d me f1 f2) _
      (fun f2 hf2 c hc => count_find s fx memo d hf me f1 f2 c hc (h1 _ hq f1 hf1) (h2 _ (AL.mem_of_get? hg) f2 hf2))
      (fun f2 hf2 hQ => ⟨f2, hf2, hQ⟩) c hc

theorem stepG_ff (fuel : Nat) (hcb : SCbG s fx memo d fuel) (hff : SFfG s fx memo d fuel) : SFfG s fx memo d (fuel + 1) := by
  intro me ssid fm name c hc h1
  have quiet : ∀ c', CI s d c' → CI s d ((0, c') : Nat × OCtx).2 ∧
      (0 < ((0, c') : Nat × OCtx).1 → ∃ rn e1 e2, Has fm rn e1 ∧ CollF s d name rn e2 ∧ Conf s d me e1 e2) :=
    fun c' h => ⟨h, fun h => by cases h⟩
  refine betweenFieldsAndFragmentG_cases s fx memo
    (motive := fun r => CI s d r.2 ∧ (0 < r.1 → ∃ rn e1 e2, Has fm rn e1 ∧ CollF s d name rn e2 ∧ Conf s d me e1 e2))
    fuel me ssid fm name c (fun _ => quiet c hc) (fun _ _ => quiet _ (hc.cmp _)) (fun _ _ _ _ _ => quiet _ (hc.cmp _)) ?_
  intro _ on fid fsels ff c' hg _ hff'
  obtain ⟨b1, b2, b3, b4⟩ := ff_frag s d
    (c := { c with cmp := name :: c.cmp, ffp := if memo = true then (ssid, name, me) :: c.ffp else c.ffp }) ⟨hc.frags, hc.cache⟩ (name := name) hg
  simp only [hff'] at b1 b2 b3 b4
  refine ⟨fun _ => quiet c' b1, fun _ r1 r2 e1 e2 => ?_⟩
  obtain ⟨k1, q1⟩ := hcb me fm ff.1 c' b1 h1 b2
  rw [← e1] at k1 q1
  obtain ⟨k2, q2⟩ := sumLoop_spec' ff.2 (fun fr c => betweenFieldsAndFragmentG s fx memo fuel me ssid fm fr c) (CI s d)
    (fun fr => ∃ rn e1 e2, Has fm rn e1 ∧ CollF s d fr rn e2 ∧ Conf s d me e1 e2)
    (∃ rn e1 e2, Has fm rn e1 ∧ CollF s d name rn e2 ∧ Conf s d me e1 e2)
    (fun fr _ c hc => hff me ssid fm fr c hc h1)
    (fun fr hfr ⟨rn, e1, e2, x1, x2, x3⟩ => ⟨rn, e1, e2, x1, b4 fr hfr rn e2 x2, x3⟩) _ k1
  rw [← e2] at k2 q2
  exact ⟨k2, pos_add (fun h => by obtain ⟨rn, e1, e2, x1, x2, x3⟩ := q1 h; exact ⟨rn, e1, e2, x1, b3 rn e2 x2, x3⟩) q2⟩

theorem stepG_fr (h7 : fx.v7 = true) (fuel : Nat) (hcb : SCbG s fx memo d fuel) (hfr : SFrG s fx memo d fuel) :
    SFrG s fx memo d (fuel + 1) := by
  intro me f1 f2 c hc
  have quiet : ∀ c', CI s d c' → CI s d ((0, c') : Nat × OCtx).2 ∧
      (0 < ((0, c') : Nat × OCtx).1 → ∃ rn e1 e2, CollF s d f1 rn e1 ∧ CollF s d f2 rn e2 ∧ Conf s d me e1 e2) :=
    fun c' h => ⟨h, fun h => by cases h⟩
  refine betweenFragmentsG_cases s fx memo
    (motive := fun r => CI s d r.2 ∧ (0 < r.1 → ∃ rn e1 e2, CollF s d f1 rn e1 ∧ CollF s d f2 rn e2 ∧ Conf s d me e1 e2))
    h7 fuel me f1 f2 c (fun _ => quiet c hc) (fun _ => quiet c hc) (fun _ _ => quiet _ (hc.pairs _)) ?_
  intro _ _ on1 id1 sels1 on2 id2 sels2 a ca b cb r0 r1 r2 hg1 hg2 ha hb e0 e1 e2
  obtain ⟨a1, a2, a3, a4⟩ := ff_frag s d (hc.pairs (((sortedPair f1 f2).1, (sortedPair f1 f2).2, me) :: c.pairs))
    (name := f1) hg1
  simp only [ha] at a1 a2 a3 a4
  obtain ⟨b1, b2, b3, b4⟩ := ff_frag s d a1 (name := f2) (by rw [a1.frags, ← hc.frags]; exact hg2)
  simp only [hb] at b1 b2 b3 b4
  obtain ⟨k0, q0⟩ := hcb me a.1 b.1 cb b1 a2 b2
  rw [← e0] at k0 q0
  obtain ⟨k1, q1⟩ := sumLoop_spec' a.2 (fun fr c => betweenFragmentsG s fx memo fuel me (some fr) (some f2) c)
    (CI s d) (fun fr => ∃ rn e1 e2, CollF s d fr rn e1 ∧ CollF s d f2 rn e2 ∧ Conf s d me e1 e2)
    (∃ rn e1 e2, CollF s d f1 rn e1 ∧ CollF s d f2 rn e2 ∧ Conf s d me e1 e2)
    (fun fr _ c hc => hfr me fr f2 c hc)
    (fun fr hfr' ⟨rn, e1, e2, y3, y4, y5⟩ => ⟨rn, e1, e2, a4 fr hfr' rn e1 y3, y4, y5⟩) _ k0
  rw [← e1] at k1 q1
  obtain ⟨k2, q2⟩ := sumLoop_spec' b.2 (fun fr c => betweenFragmentsG s fx memo fuel me (some f1) (some fr) c)
    (CI s d) (fun fr => ∃ rn e1 e2, CollF s d f1 rn e1 ∧ CollF s d fr rn e2 ∧ Conf s d me e1 e2)
    (∃ rn e1 e2, CollF s d f1 rn e1 ∧ CollF s d f2 rn e2 ∧ Conf s d me e1 e2)
    (fun fr _ c hc => hfr me f1 fr c hc)
    (fun fr hfr' ⟨rn, e1, e2, y3, y4, y5⟩ => ⟨rn, e1, e2, y3, b4 fr hfr' rn e2 y4, y5⟩) _ k1
  rw [← e2] at k2 q2
  refine ⟨k2, pos_add (pos_add (fun h => ?_) q1) q2⟩
  obtain ⟨rn, e1, e2, x1, x2, x3⟩ := q0 h
  exact ⟨rn, e1, e2, a3 rn e1 x1, b3 rn e2 x2, x3⟩

theorem stepG_ss (fuel : Nat) (hcb : SCbG s fx memo d fuel) (hff : SFfG s fx memo d fuel) (hfr : SFrG s fx memo d fuel) :
    SSsG s fx memo d (fuel + 1) := by
  intro me p1 id1 sels1 p2 id2 sels2 c hc s1 a1 s2 a2
  refine betweenSubselectionsG_cases s fx memo
    (motive := fun r => CI s d r.2 ∧ (0 < r.1 → ∃ q1 q2 rn e1 e2, Adm s d id1 q1 ∧ Adm s d id2 q2 ∧
      Coll s d q1 sels1 rn e1 ∧ Coll s d q2 sels2 rn e2 ∧ (Conf s d me e1 e2 ∨ Conf s d me e2 e1)))
    fuel me p1 id1 sels1 p2 id2 sels2 c ?_
  intro a ca b cb r0 r1 r2 r3 ha hb e0 e1 e2 e3
  obtain ⟨x1, x2, p1', x3, x4, x5⟩ := ff_set s d hc s1 a1
  simp only [ha] at x1 x2 x4 x5
  obtain ⟨y1, y2, p2', y3, y4, y5⟩ := ff_set s d x1 s2 a2
  simp only [hb] at y1 y2 y4 y5
  let G : Prop := ∃ q1 q2 rn e1 e2, Adm s d id1 q1 ∧ Adm s d id2 q2 ∧ Coll s d q1 sels1 rn e1 ∧ Coll s d q2 sels2 rn e2 ∧
    (Conf s d me e1 e2 ∨ Conf s d me e2 e1)
  obtain ⟨k0, q0⟩ := hcb me a.1 b.1 cb y1 x2 y2
  rw [← e0] at k0 q0
  obtain ⟨k1, q1⟩ := sumLoop_spec' b.2
    (fun fr c => withFreshCmp (betweenFieldsAndFragmentG s fx memo fuel me id1 a.1 fr) c) (CI s d)
    (fun fr => ∃ rn e1 e2, Has a.1 rn e1 ∧ CollF s d fr rn e2 ∧ Conf s d me e1 e2) G
    (fun fr _ c hc => withFreshCmp_spec s d _ _ (fun c hc => hff me id1 a.1 fr c hc x2) c hc)
    (fun fr hfr' ⟨rn, e1, e2, z1, z2, z3⟩ =>
      ⟨p1', p2', rn, e1, e2, x3, y3, x4 rn e1 z1, y5 fr hfr' rn e2 z2, Or.inl z3⟩) _ k0
  rw [← e1] at k1 q1
  obtain ⟨k2, q2⟩ := sumLoop_spec' a.2
    (fun fr c => withFreshCmp (betweenFieldsAndFragmentG s fx memo fuel me id2 b.1 fr) c) (CI s d)
    (fun fr => ∃ rn e1 e2, Has b.1 rn e1 ∧ CollF s d fr rn e2 ∧ Conf s d me e1 e2) G
    (fun fr _ c hc => withFreshCmp_spec s d _ _ (fun c hc => hff me id2 b.1 fr c hc y2) c hc)
    (fun fr hfr' ⟨rn, e1, e2, z1, z2, z3⟩ =>
      ⟨p1', p2', rn, e2, e1, x3, y3, x5 fr hfr' rn e2 z2, y4 rn e1 z1, Or.inr z3⟩) _ k1
  rw [← e2] at k2 q2
  obtain ⟨k3, q3⟩ := sumLoop_spec' a.2
    (fun g1 c => sumLoop b.2 (fun g2 c => betweenFragmentsG s fx memo fuel me (some g1) (some g2) c) c) (CI s d)
    (fun g1 => ∃ g2 ∈ b.2, ∃ rn e1 e2, CollF s d g1 rn e1 ∧ CollF s d g2 rn e2 ∧ Conf s d me e1 e2) G
    (fun g1 _ c hc => sumLoop_spec' b.2 (fun g2 c => betweenFragmentsG s fx memo fuel me (some g1) (some g2) c) (CI s d)
      (fun g2 => ∃ rn e1 e2, CollF s d g1 rn e1 ∧ CollF s d g2 rn e2 ∧ Conf s d me e1 e2) _
      (fun g2 _ c hc => hfr me g1 g2 c hc) (fun g2 hg2 hQ => ⟨g2, hg2, hQ⟩) c hc)
    (fun g1 hg1 ⟨g2, hg2, rn, e1, e2, z3, z4, z5⟩ =>
      ⟨p1', p2', rn, e1, e2, x3, y3, x5 g1 hg1 rn e1 z3, y5 g2 hg2 rn e2 z4, Or.inl z5⟩) _ k2
  rw [← e3] at k3 q3
  refine ⟨k3, pos_add (pos_add (pos_add (fun h => ?_) q1) q2) q3⟩
  obtain ⟨rn, e1, e2, z1, z2, z3⟩ := q0 h
  exact ⟨p1', p2', rn, e1, e2, x3, y3, x4 rn e1 z1, y4 rn e2 z2, Or.inl z3⟩

theorem searchG_sound (h7 : fx.v7 = true) : ∀ fuel,
    SFindG s fx memo d fuel ∧ SCbG s fx memo d fuel ∧ SFfG s fx memo d fuel ∧ SFrG s fx memo d fuel ∧ SSsG s fx memo d fuel := by
  intro fuel
  induction fuel with
  | zero =>
    refine ⟨?_, ?_, ?_, ?_, ?_⟩
    · intro pme f1 f2 c hc _ _; rw [findConflictG_zero]; exact ⟨hc.crash _, fun h => by cases h⟩
    · intro me fm1 fm2 c hc _ _; rw [conflictsBetweenG_zero]; exact ⟨hc.crash _, fun h => by cases h⟩
    · intro me ssid fm name c hc _; rw [betweenFieldsAndFragmentG_zero]; exact ⟨hc.crash _, fun h => by cases h⟩
    · intro me f1 f2 c hc; rw [betweenFragmentsG_zero]; exact ⟨hc.crash _, fun h => by cases h⟩
    · intro me p1 id1 sels1 p2 id2 sels2 c hc _ _ _ _
      rw [betweenSubselectionsG_zero]; exact ⟨hc.crash _, fun h => by cases h⟩
  | succ fuel ih =>
    obtain ⟨i1, i2, i3, i4, i5⟩ := ih
    exact ⟨stepG_find s fx memo d fuel i5, stepG_cb s fx memo d fuel i1, stepG_ff s fx memo d fuel i2 i3,
      stepG_fr s fx memo d h7 fuel i2 i4, stepG_ss s fx memo d fuel i2 i3 i4⟩

theorem cb_ci (h7 : fx.v7 = true) (fuel : Nat) (me : Bool) (fm1 fm2 : FMap) (c : OCtx) (hc : CI s d c)
    (h1 : EntOK (fun _ e => Ent s d e) fm1) (h2 : EntOK (fun _ e => Ent s d e) fm2) :
    CI s d (conflictsBetweenG s fx memo fuel me fm1 fm2 c).2 :=
  ((searchG_sound s fx memo d h7 fuel).2.1 me fm1 fm2 c hc h1 h2).1

end

theorem withinG_sound (s : SchemaD) (fx : Fixes) (memo : Bool) (d : Doc) (h7 : fx.v7 = true) (fuel : Nat) (p : Option String) (i : Nat)
    (sels : List Sel) (c : OCtx) (hc : CI s d c) (h1 : SelSet d i sels) (h2 : Adm s d i p) :
    CI s d (withinSelectionSetG s fx memo fuel p i sels c).2 ∧
    (0 < (withinSelectionSetG s fx memo fuel p i sels c).1 →
      ∃ p' rn e1 e2, Adm s d i p' ∧ Coll s d p' sels rn e1 ∧ Coll s d p' sels rn e2 ∧ Conf s d false e1 e2) := by
  obtain ⟨sf, _, sff, sfr, _⟩ := searchG_sound s fx memo d h7 fuel
  refine withinSelectionSetG_cases s fx memo (motive := fun r => CI s d r.2 ∧ (0 < r.1 →
    ∃ p' rn e1 e2, Adm s d i p' ∧ Coll s d p' sels rn e1 ∧ Coll s d p' sels rn e2 ∧ Conf s d false e1 e2))
    fuel p i sels c ?_
  intro a ca r0 r1 r2 ha e0 e1 e2
  obtain ⟨x1, x2, p', x3, x4, x5⟩ := ff_set s d hc h1 h2
  simp only [ha] at x1 x2 x4 x5
  let G : Prop := ∃ q rn e1 e2, Adm s d i q ∧ Coll s d q sels rn e1 ∧ Coll s d q sels rn e2 ∧ Conf s d false e1 e2
  obtain ⟨k0, q0⟩ := sumLoop_spec' a.1
    (fun q c => sumLoop (pairsOf q.2) (fun y c =>
      (if (findConflictG s fx memo fuel false y.1 y.2 c).1 = true then 1 else 0,
       (findConflictG s fx memo fuel false y.1 y.2 c).2)) c) (CI s d)
    (fun q => ∃ e1 e2, e1 ∈ q.2 ∧ e2 ∈ q.2 ∧ Conf s d false e1 e2) G
    (fun q hq c hc => sumLoop_spec' (pairsOf q.2) _ (CI s d) (fun y => Conf s d false y.1 y.2) _
      (fun y hy c hc => count_find s fx memo d sf false y.1 y.2 c hc (x2 q hq _ (mem_pairsOf hy).1) (x2 q hq _ (mem_pairsOf hy).2))
      (fun y hy hQ => ⟨y.1, y.2, (mem_pairsOf hy).1, (mem_pairsOf hy).2, hQ⟩) c hc)
    (fun q hq ⟨e1, e2, m1, m2, hcf⟩ => ⟨p', q.1, e1, e2, x3, x4 q.1 e1 ⟨q.2, hq, m1⟩, x4 q.1 e2 ⟨q.2, hq, m2⟩, hcf⟩) ca x1
  rw [← e0] at k0 q0
  obtain ⟨k1, q1⟩ := withFreshCmp_spec s d
    (fun c => sumLoop a.2 (fun g c => betweenFieldsAndFragmentG s fx memo fuel false i a.1 g c) c) G
    (fun c hc => sumLoop_spec' a.2 _ (CI s d)
      (fun g => ∃ rn e1 e2, Has a.1 rn e1 ∧ CollF s d g rn e2 ∧ Conf s d false e1 e2) G
      (fun g _ c hc => sff false i a.1 g c hc x2)
      (fun g hg ⟨rn, e1, e2, z1, z2, z3⟩ => ⟨p', rn, e1, e2, x3, x4 rn e1 z1, x5 g hg rn e2 z2, z3⟩) c hc) _ k0
  rw [← e1] at k1 q1
  obtain ⟨k2, q2⟩ := sumLoop_spec' (pairsOf a.2)
    (fun y c => betweenFragmentsG s fx memo fuel false (some y.1) (some y.2) c) (CI s d)
    (fun y => ∃ rn e1 e2, CollF s d y.1 rn e1 ∧ CollF s d y.2 rn e2 ∧ Conf s d false e1 e2) G
    (fun y _ c hc => sfr false y.1 y.2 c hc)
    (fun y hy ⟨rn, e1, e2, z3, z4, z5⟩ =>
      ⟨p', rn, e1, e2, x3, x5 y.1 (mem_pairsOf hy).1 rn e1 z3, x5 y.2 (mem_pairsOf hy).2 rn e2 z4, z5⟩) _ k1
  rw [← e2] at k2 q2
  exact ⟨k2, pos_add (pos_add q0 q1) q2⟩



/-- the model's two searches -/
theorem within_sound (s : SchemaD) (fx : Fixes) (d : Doc) (h7 : fx.v7 = true) (p : Option String) (i : Nat)
    (sels : List Sel) (c : OCtx) (hc : CI s d c) (h1 : SelSet d i sels) (h2 : Adm s d i p) :
    CI s d (withinSelectionSet s fx p i sels c).2 ∧
    (0 < (withinSelectionSet s fx p i sels c).1 →
      ∃ p' rn e1 e2, Adm s d i p' ∧ Coll s d p' sels rn e1 ∧ Coll s d p' sels rn e2 ∧ Conf s d false e1 e2) :=
  withinSelectionSet_eq s fx ▸ withinG_sound s fx false d h7 overlapFuel p i sels c hc h1 h2

theorem withinM_sound (s : SchemaD) (fx : Fixes) (d : Doc) (h7 : fx.v7 = true) (fuel : Nat) (p : Option String) (i : Nat)
    (sels : List Sel) (c : OCtx) (hc : CI s d c) (h1 : SelSet d i sels) (h2 : Adm s d i p) :
    CI s d (withinSelectionSetM s fx fuel p i sels c).2 ∧
    (0 < (withinSelectionSetM s fx fuel p i sels c).1 →
      ∃ p' rn e1 e2, Adm s d i p' ∧ Coll s d p' sels rn e1 ∧ Coll s d p' sels rn e2 ∧ Conf s d false e1 e2) :=
  withinSelectionSetM_eq s fx fuel ▸ withinG_sound s fx true d h7 fuel p i sels c hc h1 h2

end PyGql.Validate
