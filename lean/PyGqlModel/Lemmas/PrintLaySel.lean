/-
  `Lay` for selections and selection sets (the `_block` / `_indent` nesting).
-/
import PyGqlModel.Lemmas.PrintLayValues
namespace PyGql.PrintTokens
open PyGql PyGql.Ast PyGql.Parse PyGql.Spec PyGql.Print PyGql.PrintLex PyGql.PrintMatch PyGql.PrintString PyGql.Lex

theorem next_ellip (n : Nat) (r : Text) :
    next n (46 :: 46 :: 46 :: r) = .ok (⟨.ellip, posAt n (46 :: 46 :: 46 :: r), posAt n r, [46, 46, 46]⟩, some r) := by
  have h1 : isIgnored 46 = false := by decide +kernel
  have h3 : isPrintable 46 = true := by decide +kernel
  have h4 : symbolKind 46 = none := by decide +kernel
  simp [next, readOverWhitespace, h1, h3, h4, readEllipsis, readDots, Except.map]

theorem lay_ellip {b : Text} {cb : List TokClass} (hb : Lay b cb) : Lay (46 :: 46 :: 46 :: b) ((.ellip, []) :: cb) := by
  intro P hP r cs' hr hl
  have h := hb P hP r cs' hr hl
  have := lexesTo_step (w := [46, 46, 46]) (c := (.ellip, []))
    (fun n => ⟨_, next_ellip n _, by simp [cls, hasValue]⟩) (by simp; omega) h
  simpa [replaceLF] using this

mutual
def okSelection (ind : Text) : Selection → Prop
  | .field alias_ name args dirs ss _ =>
    (match alias_ with | some a => Spec.Lexical.isName a.value = true | none => True) ∧
    Spec.Lexical.isName name.value = true ∧ okArguments ind args ∧ okDirectives ind dirs ∧ okOptSelectionSet ind ss
  | .fragmentSpread name dirs _ => Spec.Lexical.isName name.value = true ∧ okDirectives ind dirs
  | .inlineFragment tc dirs ss _ =>
    (match tc with | some t => Spec.Lexical.isName t.name.value = true | none => True) ∧
    okDirectives ind dirs ∧ okSelectionSet ind ss
def okSelectionSet (ind : Text) : SelectionSet → Prop
  | .mk sels _ => sels ≠ [] ∧ okSelections ind sels
def okOptSelectionSet (ind : Text) : Option SelectionSet → Prop
  | none => True
  | some ss => okSelectionSet ind ss
def okSelections (ind : Text) : List Selection → Prop
  | [] => True
  | s :: ss => okSelection ind s ∧ okSelections ind ss
end

theorem join_ne_nil (a : Text) (xs : List Text) (sep : Text) (ha : a ≠ []) : join (a :: xs) sep ≠ [] := by
  rw [join_cons_ne _ _ _ ha]; simp [ha]

/-- `alias: name` -/
theorem lay_aliasLead {a name : Name} (ha : Spec.Lexical.isName a.value = true) (hn : Spec.Lexical.isName name.value = true) :
    Lay (join [wrap [] a.value [58, 32], name.value]) ((nameV a).yield ++ (.colon, []) :: (nameV name).yield) ∧
    join [wrap [] a.value [58, 32], name.value] ≠ [] := by
  simp only [wrap_of_ne _ _ _ (isName_ne_nil ha), List.nil_append, join_nosep_cons, join_nosep_nil]
  refine ⟨?_, by simp⟩
  simpa [nameV, Item.yield, Item.yieldAll] using
    lay_append (lay_name ha) (lay_colon (lay_space_cons (lay_name hn))) (delimHead_cons (by decide +kernel))

theorem lay_nameLP {n : Name} (h : Spec.Lexical.isName n.value = true) : Lay n.value (nameV n).yield := by
  simpa [nameV, Item.yield, Item.yieldAll] using lay_name h

/-- a field after its `Alias? Name` part `lead` -/
theorem lay_fieldBody (c : Cfg) {lead : Text} {leadC : List TokClass} (hl : Lay lead leadC) (hne : lead ≠ [])
    {args : List Argument} (hargs : okArguments c.indent args) {dirs : List Directive} (hdirs : okDirectives c.indent dirs)
    {ss : Option SelectionSet} (lss : Lay (printOptSelectionSet c ss) (Item.yieldAll (optSelectionSetV ss))) :
    Lay (join [join [lead, printArguments c args], printDirectives c dirs, printOptSelectionSet c ss] [32])
      (leadC ++ Item.yieldAll (argumentsV args) ++
        [part (printDirectives c dirs) (Item.yieldAll (directivesV dirs)),
         part (printOptSelectionSet c ss) (Item.yieldAll (optSelectionSetV ss))].flatMap Prod.snd) := by
  obtain ⟨la, da, _⟩ := lay_arguments_delim c args hargs
  simp only [join_nosep_cons, join_nosep_nil, List.append_nil]
  refine (lay_kwJoin _ _ (lay_append hl la da) (fun e => hne (List.append_eq_nil_iff.1 e).1)
    [part (printDirectives c dirs) (Item.yieldAll (directivesV dirs)),
     part (printOptSelectionSet c ss) (Item.yieldAll (optSelectionSetV ss))] ?_).1
  simp only [List.mem_cons, List.not_mem_nil, or_false, forall_eq_or_imp, forall_eq]
  exact ⟨lay_directives c dirs hdirs, lss⟩

theorem printSelection_ne (c : Cfg) (s : Selection) (h : okSelection c.indent s) : printSelection c s ≠ [] := by
  cases s with
  | field alias_ name args dirs ss loc =>
    simp only [okSelection] at h
    cases alias_ with
    | none => exact join_ne_nil _ _ _ (join_ne_nil _ _ _ (isName_ne_nil h.2.1))
    | some a => exact join_ne_nil _ _ _ (join_ne_nil _ _ _ (lay_aliasLead h.1 h.2.1).2)
  | fragmentSpread name dirs loc => simp [printSelection]
  | inlineFragment tc dirs ss loc => exact join_ne_nil _ _ _ (by simp)

theorem printSelections_ne (c : Cfg) : ∀ (sels : List Selection), okSelections c.indent sels →
    ∀ x ∈ (printSelections c sels).map (fun s => indentText s c.indent), x ≠ []
  | [], _, x, hx => by simp [printSelections] at hx
  | s :: ss, h, x, hx => by
    simp only [okSelections] at h
    simp only [printSelections, List.map_cons, List.mem_cons] at hx
    rcases hx with rfl | hx
    · exact indentText_ne _ _ (printSelection_ne c s h.1)
    · exact printSelections_ne c ss h.2 x hx

mutual
theorem lay_selection (c : Cfg) (hind : Blank c.indent) : ∀ (s : Selection), okSelection c.indent s →
    Lay (printSelection c s) (selectionV s).yield
  | .field alias_ name args dirs ss loc, h => by
    simp only [okSelection] at h
    obtain ⟨ha, hn, hargs, hdirs, hss⟩ := h
    have lss := lay_optSelectionSet c hind ss hss
    cases alias_ with
    | none =>
      simpa [printSelection, selectionV, Item.yield, Item.yieldAll, yieldAll_append, List.append_assoc] using
        lay_fieldBody c (lay_nameLP hn) (isName_ne_nil hn) hargs hdirs lss
    | some a =>
      obtain ⟨ll, hne⟩ := lay_aliasLead ha hn
      simpa [printSelection, selectionV, Item.yield, Item.yieldAll, yieldAll_append, List.append_assoc] using
        lay_fieldBody c ll hne hargs hdirs lss
  | .fragmentSpread name dirs loc, h => by
    simp only [okSelection] at h
    have h1 := lay_ellip (lay_append (lay_name h.1) (lay_wrapS (lay_directives c dirs h.2)) (delimHead_wrapS _))
    simp only [printSelection, wrap_space_eq]
    simpa [selectionV, nameV, Item.yield, Item.yieldAll, yieldAll_append] using h1
  | .inlineFragment tc dirs ss loc, h => by
    simp only [okSelection] at h
    obtain ⟨htc, hdirs, hss⟩ := h
    have body : ∀ {t : Text} {tC : List TokClass}, Lay t tC →
        Lay (join [[46, 46, 46], t, printDirectives c dirs, printSelectionSet c ss] [32])
          ((.ellip, []) :: (tC ++ (Item.yieldAll (directivesV dirs) ++ (selectionSetV ss).yield))) := fun {t tC} lt => by
      have l := (lay_kwJoin [46, 46, 46] _ (lay_ellip lay_nil) (by simp)
        [part t tC, part (printDirectives c dirs) (Item.yieldAll (directivesV dirs)),
         part (printSelectionSet c ss) (selectionSetV ss).yield]
        (by simp only [List.mem_cons, List.not_mem_nil, or_false, forall_eq_or_imp, forall_eq]
            exact ⟨lt, lay_directives c dirs hdirs, lay_selectionSet c hind ss hss⟩)).1
      simpa using l
    cases tc with
    | none =>
      simpa [printSelection, wrap, selectionV, Item.yield, Item.yieldAll, yieldAll_append] using body lay_nil
    | some t =>
      have hw : wrap [111, 110, 32] (printNamedType t) = K.on ++ 32 :: t.name.value := by
        rw [printNamedType, wrap_of_ne _ _ _ (isName_ne_nil htc)]; simp [K.on]
      have lt := lay_append (lay_name (w := K.on) (by decide +kernel)) (lay_space_cons (lay_name htc))
        (delimHead_cons (by decide +kernel))
      simpa [printSelection, hw, selectionV, namedTypeV, nameV, kw, Item.yield, Item.yieldAll, yieldAll_append, List.append_assoc]
        using body lt
theorem lay_selectionSet (c : Cfg) (hind : Blank c.indent) : ∀ (ss : SelectionSet), okSelectionSet c.indent ss →
    Lay (printSelectionSet c ss) (selectionSetV ss).yield
  | .mk sels loc, h => by
    simp only [okSelectionSet] at h
    have hne : printSelections c sels ≠ [] := by
      cases sels with
      | nil => exact absurd rfl h.1
      | cons s ss => simp [printSelections]
    have h1 := lay_curlyL (lay_lf_cons (lay_append (lay_selections c hind sels h.2)
      (lay_lf_cons (lay_curlyR lay_nil)) (delimHead_cons (by decide +kernel))))
    simp only [printSelectionSet]
    rw [block_eq _ _ hne (printSelections_ne c sels h.2)]
    simpa [selectionSetV, Item.yield, Item.yieldAll, yieldAll_append] using h1
theorem lay_optSelectionSet (c : Cfg) (hind : Blank c.indent) : ∀ (o : Option SelectionSet), okOptSelectionSet c.indent o →
    Lay (printOptSelectionSet c o) (Item.yieldAll (optSelectionSetV o))
  | none, _ => by simpa [printOptSelectionSet, optSelectionSetV, Item.yieldAll] using lay_nil
  | some ss, h => by
    simp only [okOptSelectionSet] at h
    simpa [printOptSelectionSet, optSelectionSetV, Item.yieldAll] using lay_selectionSet c hind ss h
theorem lay_selections (c : Cfg) (hind : Blank c.indent) : ∀ (sels : List Selection), okSelections c.indent sels →
    Lay (joinSep [10] ((printSelections c sels).map fun s => indentText s c.indent)) (Item.yieldAll (selectionsV sels))
  | [], _ => by simpa [printSelections, joinSep, selectionsV, Item.yieldAll] using lay_nil
  | [s], h => by
    simp only [okSelections] at h
    simpa [printSelections, joinSep, selectionsV, Item.yieldAll] using lay_indentText hind (lay_selection c hind s h.1)
  | s :: s' :: ss, h => by
    simp only [okSelections] at h
    have ih := lay_selections c hind (s' :: ss) (by simp only [okSelections]; exact h.2)
    have h1 := lay_append (lay_indentText hind (lay_selection c hind s h.1)) (lay_lf_cons ih) (delimHead_cons (by decide +kernel))
    simpa [printSelections, joinSep, selectionsV, Item.yieldAll] using h1
end

end PyGql.PrintTokens
