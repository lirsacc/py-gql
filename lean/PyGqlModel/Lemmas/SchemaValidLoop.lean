/-
  C13 — the loop shape `forSeen` of the schema validator (`for x in xs: … if key in seen: …; continue … seen.add(key)`):
  its errors element by element (`mem_forSeen`), and when it reports nothing (`forSeen_nil_iff`).
-/
import PyGqlModel.SchemaValid
import PyGqlModel.Spec.SchemaValidSpec

set_option linter.unusedSimpArgs false

namespace PyGql.Props.C13
open PyGql PyGql.SchemaValid PyGql.SchemaValidSpec

/-- The errors of a `forSeen` loop are those of its iterations, where `dup` says whether an earlier element carries
    the same key - provided that a key which is not recorded at first sight belongs to elements that ignore `dup`. -/
theorem mem_forSeen {α} (key : α → String) (step : α → Bool → List Err × Bool)
    (hkeep : ∀ x y, key y = key x → (step x false).2 = false → ∀ b, (step y b).1 = (step y true).1)
    (e : Err) (xs : List α) :
    e ∈ forSeen key step xs [] ↔ ∃ pre x, At xs pre x ∧ e ∈ (step x ((pre.map key).contains (key x))).1 := by
  suffices h : ∀ seen, e ∈ forSeen key step xs seen ↔
      ∃ pre x, At xs pre x ∧ e ∈ (step x (seen.contains (key x) || (pre.map key).contains (key x))).1 by
    simpa only [List.contains_nil, Bool.false_or] using h []
  induction xs with
  | nil => intro seen; simp [forSeen, At]
  | cons x xs ih =>
    intro seen
    -- what a later element `y` sees of `x` through `seen` is what it sees of `x` in front of it
    have hstep : ∀ y b,
        (step y ((if (step x (seen.contains (key x))).2 = true then key x :: seen else seen).contains (key y) || b)).1
          = (step y (seen.contains (key y) || (key y == key x || b))).1 := by
      intro y b
      cases hs : (step x (seen.contains (key x))).2 with
      | true => simp only [if_true, List.contains_cons, Bool.or_assoc, Bool.or_left_comm]
      | false =>
        cases hk : (key y == key x) with
        | false => simp only [Bool.false_eq_true, if_false, Bool.false_or]
        | true =>
          have hkx : key y = key x := by simpa using hk
          cases hd : seen.contains (key x) with
          | true => simp only [hkx, hd, Bool.false_eq_true, if_false, Bool.true_or]
          | false => rw [hd] at hs; rw [hkeep x y hkx hs, hkeep x y hkx hs (_ || _)]
    simp only [forSeen, List.mem_append, ih, hstep]
    constructor
    · rintro (h | ⟨pre, y, ⟨post, rfl⟩, h⟩)
      · exact ⟨[], x, ⟨xs, rfl⟩, by simpa only [List.map_nil, List.contains_nil, Bool.or_false] using h⟩
      · exact ⟨x :: pre, y, ⟨post, rfl⟩, by simpa only [List.map_cons, List.contains_cons] using h⟩
    · rintro ⟨pre, y, ⟨post, hxs⟩, h⟩
      cases pre with
      | nil =>
        obtain ⟨rfl, rfl⟩ := List.cons.inj hxs
        exact Or.inl (by simpa only [List.map_nil, List.contains_nil, Bool.or_false] using h)
      | cons z pre =>
        obtain ⟨rfl, rfl⟩ := List.cons.inj hxs
        exact Or.inr ⟨pre, y, ⟨post, rfl⟩, by simpa only [List.map_cons, List.contains_cons] using h⟩

theorem at_mem {α} {xs pre : List α} {x : α} (h : At xs pre x) : x ∈ xs := by
  obtain ⟨post, rfl⟩ := h
  exact List.mem_append_right _ List.mem_cons_self

/-- pairwise distinct keys: no element repeats the key of one in front of it -/
theorem nodup_iff_at {α} (key : α → String) (xs : List α) :
    (xs.map key).Nodup ↔ ∀ pre x, At xs pre x → key x ∉ pre.map key := by
  induction xs with
  | nil =>
    refine ⟨fun _ pre x hat => ?_, fun _ => List.nodup_nil⟩
    obtain ⟨post, h⟩ := hat
    cases pre <;> cases h
  | cons a xs ih =>
    simp only [List.map_cons, List.nodup_cons, ih]
    constructor
    · rintro ⟨ha, h⟩ pre x ⟨post, hx⟩
      cases pre with
      | nil => exact List.not_mem_nil
      | cons z pre =>
        obtain ⟨rfl, rfl⟩ := List.cons.inj hx
        simp only [List.map_cons, List.mem_cons, not_or]
        exact ⟨fun e => ha (e ▸ List.mem_map_of_mem (at_mem ⟨post, rfl⟩)), h pre x ⟨post, rfl⟩⟩
    · intro h
      refine ⟨fun hm => ?_, fun pre x hat hm => ?_⟩
      · obtain ⟨y, hy, hk⟩ := List.mem_map.mp hm
        obtain ⟨pre, post, rfl⟩ := List.append_of_mem hy
        exact h (a :: pre) y ⟨post, rfl⟩ (by simp [hk])
      · obtain ⟨post, hx⟩ := hat
        exact h (a :: pre) x ⟨post, by rw [hx]; rfl⟩ (List.mem_cons_of_mem _ hm)

/-- The loop is silent when every element is (seen for the first time) and the keys are pairwise distinct. -/
theorem forSeen_nil_iff {α} (key : α → String) (step : α → Bool → List Err × Bool) (P : α → Prop)
    (hkeep : ∀ x y, key y = key x → (step x false).2 = false → ∀ b, (step y b).1 = (step y true).1)
    (hstep : ∀ x dup, (step x dup).1 = [] ↔ (dup = false ∧ P x)) (xs : List α) :
    forSeen key step xs [] = [] ↔ ((∀ x ∈ xs, P x) ∧ (xs.map key).Nodup) := by
  have e : forSeen key step xs [] = [] ↔
      ∀ pre x, At xs pre x → (step x ((pre.map key).contains (key x))).1 = [] := by
    simp only [List.eq_nil_iff_forall_not_mem, mem_forSeen key step hkeep]
    exact ⟨fun h pre x hat e he => h e ⟨pre, x, hat, he⟩, fun h e ⟨pre, x, hat, he⟩ => h pre x hat e he⟩
  rw [e, nodup_iff_at]
  simp only [hstep, List.contains_eq_mem, decide_eq_false_iff_not]
  constructor
  · intro h
    refine ⟨fun x hx => ?_, fun pre x hat => (h pre x hat).1⟩
    obtain ⟨pre, post, rfl⟩ := List.append_of_mem hx
    exact (h pre x ⟨post, rfl⟩).2
  · exact fun h pre x hat => ⟨h.2 pre x hat, h.1 x (at_mem hat)⟩

/-! #### the two loops whose step does not always record the key -/

theorem interfaceStep_keep (c : Config) (s : SchemaD) (t : TypeD) (i j : String) (hij : id j = id i)
    (h : (interfaceStepWith c s t i false).2 = false) (b : Bool) :
    (interfaceStepWith c s t j b).1 = (interfaceStepWith c s t j true).1 := by
  obtain rfl : j = i := hij
  revert h
  unfold interfaceStepWith
  cases s.findType j with
  | none => exact fun _ => rfl
  | some it => by_cases hk : it.kind = .interface <;> simp [hk]

theorem memberStep_keep (s : SchemaD) (t : TypeD) (m j : String) (hmj : id j = id m)
    (h : (memberStep s t m false).2 = false) (b : Bool) : (memberStep s t j b).1 = (memberStep s t j true).1 := by
  obtain rfl : j = m := hmj
  revert h
  unfold memberStep
  by_cases hk : kindOf s j = some .object <;> simp [hk]

end PyGql.Props.C13
