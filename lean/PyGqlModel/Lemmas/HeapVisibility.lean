/-
  C14 — visibility: hidden type names leave the registry and never come back.
-/
import PyGqlModel.Lemmas.HeapCloneClosed
import PyGqlModel.Lemmas.HeapVisHook

namespace PyGql.Heap.Own
open PyGql.Heap

theorem onType_vis_hidden (p : VisP) (reg : List (String × Addr)) (h : Heap) (e : String × Addr) (hn : nameOK h e = true)
    (hid : p.isTypeVisible e.1 = false) : (onType (.vis p) reg h e.2).2 = none := by
  obtain ⟨t, ht, hnm⟩ := (nameOK_iff h e).mp hn
  have e := onType_vis_snd p reg ht
  rw [hnm, hid] at e
  exact Option.isNone_iff_eq_none.mp (Option.isSome_eq_false_iff.mp e)

theorem visitTypes_vis_hidden (p : VisP) (reg : List (String × Addr)) (l : List (String × Addr)) (h : Heap)
    (hnd : (l.map (·.1)).Nodup) (hname : ∀ e, e ∈ l → nameOK h e = true) :
    ∀ e, e ∈ l → p.isTypeVisible e.1 = false →
      (e.1, none) ∈ (visitTypes (.vis p) reg h l).2 ∧ ∀ x, x ∈ (visitTypes (.vis p) reg h l).2 → x.1 = e.1 → x.2 = none := by
  intro e he hid
  have hnp : isProtected e.1 = false := by
    simp only [VisP.isTypeVisible, Bool.or_eq_false_iff] at hid
    exact hid.1
  obtain ⟨_, f1, f2⟩ := visitTypes_out (.vis p) reg (R := StepImp chkT) (Pre := fun h e => nameOK h e = true) (StepImp.refl chkT)
    (fun _ _ _ => StepImp.trans) (fun _ _ e r hn => nameOK_keep r e hn)
    (fun h e _ => onType_step (.vis p) reg h e.2 chkT (compat_true _ reg)) l h (fun e he _ => hname e he)
  refine ⟨?_, fun x hx hxn => ?_⟩
  · obtain ⟨h1, p1, _, _, k | k⟩ := f1 e he hnp
    · rw [onType_vis_hidden p reg h1 e p1 hid] at k; cases k
    · rw [onType_vis_hidden p reg h1 e p1 hid] at k; exact k
  · -- names are distinct: the entry reported under the name of `e` is the one of `e`
    obtain ⟨e', h1, he', _, p1, _, _, rfl, _⟩ := f2 x hx
    have hl := lookup_of_mem_nodup hnd he'
    rw [show e'.1 = e.1 from hxn, lookup_of_mem_nodup hnd he] at hl
    have : e' = e := Prod.ext hxn (Option.some.inj hl).symm
    subst this
    exact onType_vis_hidden p reg h1 e' p1 hid

theorem regNames_regErase (reg : List (String × Addr)) (nm : String) : nm ∉ regNames (regErase reg nm) := by
  intro hn
  simp only [regNames, regErase, List.mem_map, List.mem_filter] at hn
  obtain ⟨e, ⟨_, hne⟩, rfl⟩ := hn
  simp at hne

theorem lookup_isSome_name {reg : List (String × Addr)} {n : String} {a : Addr} (hl : lookup reg n = some a) : n ∈ regNames reg :=
  name_of_lookup hl

theorem replaceTypes_notin (cfg : Cfg) (n : String) : ∀ (ut : List (String × Option Addr)) (reg : List (String × Addr)) (b : Bool),
    n ∉ regNames reg → n ∉ regNames (replaceTypes cfg reg b ut).1 :=
  fun ut reg b hn hx => hn (replaceTypes_names_sub cfg ut reg b n hx)

theorem replaceTypes_erases (cfg : Cfg) (n : String) : ∀ (ut : List (String × Option Addr)) (reg : List (String × Addr)) (b : Bool),
    (∀ x, x ∈ ut → x.1 = n → x.2 = none) → (n, none) ∈ ut → n ∉ regNames (replaceTypes cfg reg b ut).1 := by
  intro ut
  induction ut with
  | nil => intro reg b _ hm; simp at hm
  | cons e rest ih =>
    intro reg b hall hm
    obtain ⟨nm, new⟩ := e
    have hallr : ∀ x, x ∈ rest → x.1 = n → x.2 = none := fun x hx => hall x (by simp [hx])
    by_cases hnm : nm = n
    · subst hnm
      have hnew : new = none := hall (nm, new) (by simp) rfl
      subst hnew
      simp only [replaceTypes]
      split
      · rename_i hl
        apply replaceTypes_notin
        intro hn
        have := lookup_isSome_of_name hn
        simp [hl] at this
      · exact replaceTypes_notin cfg nm rest _ _ (regNames_regErase reg nm)
    · simp only [List.mem_cons, Prod.mk.injEq] at hm
      rcases hm with ⟨h1, _⟩ | hm
      · exact absurd h1.symm hnm
      · simp only [replaceTypes]
        split
        · exact ih reg b hallr hm
        · cases new with
          | none => exact ih _ _ hallr hm
          | some a' => exact ih _ _ hallr hm

theorem healLoop_names_sub (cfg : Cfg) (fuel : Nat) (s : Schema) (h h' : Heap) (s' : Schema)
    (e : healLoop cfg fuel s h = some (h', s')) : ∀ n, n ∈ regNames s'.types → n ∈ regNames s.types :=
  healLoop_rel (R := fun _ s _ s' => ∀ n, n ∈ regNames s'.types → n ∈ regNames s.types) (fun _ _ _ _ _ _ a b n hn => a n (b n hn))
    cfg (fun _ _ _ hn => hn) (fun _ _ => replaceTypes_names_sub cfg _ _ _) fuel s h h' s' e

/-- FULL `visibility_hides_type`: after `VisibilitySchemaTransform.on_schema` every registered name is visible -/
theorem onSchema_vis_names (cfg : Cfg) (fuel : Nat) (p : VisP) (s : Schema) (h h' : Heap) (s' : Schema) (hnd : (s.types.map (·.1)).Nodup)
    (hname : ∀ e, e ∈ s.types → nameOK h e = true) (e : onSchema cfg fuel (.vis p) s h = some (h', s')) :
    ∀ n, n ∈ regNames s'.types → p.isTypeVisible n = true ∧ n ∈ regNames s.types := by
  intro n hn
  simp only [onSchema, replaceTD] at e
  have hcore : n ∈ regNames (replaceCore cfg s (visitAll (.vis p) s h).2.1 (visitAll (.vis p) s h).2.2).1.types := by
    split at e
    · exact healLoop_names_sub cfg fuel _ _ _ _ e n hn
    · cases e; exact hn
  simp only [replaceCore, visitAll] at hcore
  have hsrc := replaceTypes_names_sub cfg _ _ _ n hcore
  refine ⟨?_, hsrc⟩
  cases hv : p.isTypeVisible n with
  | true => rfl
  | false =>
    exfalso
    simp only [regNames, List.mem_map] at hsrc
    obtain ⟨e0, he0, rfl⟩ := hsrc
    obtain ⟨h1, h2⟩ := visitTypes_vis_hidden p s.types s.types h hnd hname e0 he0 hv
    exact replaceTypes_erases cfg e0.1 _ _ _ h2 h1 hcore

end PyGql.Heap.Own
