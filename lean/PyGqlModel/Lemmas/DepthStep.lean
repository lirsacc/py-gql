/-
  C19 — the loop body of `collect_fields_untyped` in normal form: a guard (the skip hook), what the selection asks
  of the collection (`ask`), and how the loop answers (`answer`). An inline fragment and a spread of a defined fragment
  that was not seen before ask for the same thing, a recursive call on a body. Failure is a predicate carried through
  the loops (`FailsWith`).
-/
import PyGqlModel.Lemmas.Depth
import PyGqlModel.Lemmas.ExceptBasics

namespace PyGql.Depth

def Sel.dirs : Sel → Dirs
  | .field _ _ d _ => d
  | .inline d _ => d
  | .spread _ d => d

namespace Lemmas
open PyGql.Depth PyGql.DepthSpec

/-- what a selection that is not skipped asks of the collection -/
inductive Ask where
  /-- a spread of a fragment that was seen already, or is not defined -/
  | nothing
  | fld (f : Fld)
  /-- collect `body` recursively; `mark`: the fragment name to add to the seen set afterwards -/
  | call (body : List Sel) (mark : Option String)

def ask (frags : List Frag) (seen : List String) : Sel → Ask
  | .field a n _ sub => .fld ⟨a, n, sub⟩
  | .inline _ ss => .call ss none
  | .spread n _ =>
    if seen.contains n then .nothing
    else match lookupFrag frags n with
      | none => .nothing
      | some fr => .call fr.sels (some n)

def markSeen : Option String → List String → List String
  | none, s => s
  | some n, s => setAdd s n

def answer (rec : List Sel → List String → Except Err CState) (st : CState) : Ask → Except Err CState
  | .nothing => .ok st
  | .fld f => .ok (extendKey st.1 (responseName f.alias f.name) [f], st.2)
  | .call b m =>
    match rec b st.2 with
    | .error e => .error e
    | .ok (g, seen') => .ok (merge g st.1, markSeen m (seenAfterCall st.2 seen'))

def guarded (r : Except Err Bool) (st : CState) (k : Except Err CState) : Except Err CState :=
  match r with
  | .error e => .error e
  | .ok true => .ok st
  | .ok false => k

theorem collectStepG_eq (skipFn : Dirs → Vars → Except Err Bool) (rec : List Sel → List String → Except Err CState)
    (frags : List Frag) (vars : Vars) (st : CState) (s : Sel) :
    collectStepG skipFn rec frags vars st s = guarded (skipFn s.dirs vars) st (answer rec st (ask frags st.2 s)) := by
  cases s with
  | spread n d =>
    dsimp only [collectStepG, Sel.dirs, ask]
    cases skipFn d vars with
    | error e => rfl
    | ok b =>
      cases b with
      | true => rfl
      | false =>
        cases st.2.contains n with
        | true => rfl
        | false => cases lookupFrag frags n <;> rfl
  | _ =>
    dsimp only [collectStepG, Sel.dirs]
    generalize skipFn _ vars = r
    cases r with
    | error e => rfl
    | ok b => cases b <;> rfl

theorem collectStep_eq_G (rec : List Sel → List String → Except Err CState) (frags : List Frag) (vars : Vars) :
    collectStep rec frags vars = collectStepG skipSelection rec frags vars := by
  funext st s
  cases s <;> rfl

theorem collectFieldsUntyped_eq_G : ∀ (k : Nat) (sels : List Sel) (frags : List Frag) (vars : Vars) (seen : List String),
    collectFieldsUntyped k sels frags vars seen = collectFieldsUntypedG skipSelection k sels frags vars seen := by
  intro k
  induction k with
  | zero => intros; rfl
  | succ k ih =>
    intro sels frags vars seen
    have : (fun ss sn => collectFieldsUntyped k ss frags vars sn) =
        fun ss sn => collectFieldsUntypedG skipSelection k ss frags vars sn := by
      funext ss sn
      exact ih ss frags vars sn
    simp only [collectFieldsUntyped, collectFieldsUntypedG, collectStep_eq_G, this]

theorem guarded_ok {r : Except Err Bool} {st st' : CState} {k : Except Err CState} (h : guarded r st k = .ok st') :
    (r = .ok true ∧ st' = st) ∨ (r = .ok false ∧ k = .ok st') := by
  cases r with
  | error e => cases h
  | ok b =>
    cases b with
    | true => cases h; exact .inl ⟨rfl, rfl⟩
    | false => exact .inr ⟨rfl, h⟩

theorem ask_spread (frags : List Frag) (S : List String) (n : String) (d : Dirs) :
    (ask frags S (.spread n d) = .nothing ∧ (S.contains n = true ∨ lookupFrag frags n = none)) ∨
    ∃ fr, lookupFrag frags n = some fr ∧ ask frags S (.spread n d) = .call fr.sels (some n) := by
  dsimp only [ask]
  cases hS : S.contains n with
  | true => exact .inl ⟨rfl, .inl rfl⟩
  | false =>
    cases lookupFrag frags n with
    | none => exact .inl ⟨rfl, .inr rfl⟩
    | some fr => exact .inr ⟨fr, rfl, rfl⟩

theorem boundSel_dirs {vars : Vars} {s : Sel} (h : boundSel vars s = true) : dirsBound vars s.dirs = true := by
  cases s with
  | field a n d sub => exact (Bool.and_eq_true _ _ ▸ h : _ ∧ _).1
  | inline d ss => exact (Bool.and_eq_true _ _ ▸ h : _ ∧ _).1
  | spread n d => exact h

abbrev FailsWith {α : Type} (P : Err → Prop) (x : Except Err α) : Prop := Except.FailsWith P x

theorem FailsWith.guarded {P : Err → Prop} {r : Except Err Bool} {st : CState} {k : Except Err CState}
    (hr : FailsWith P r) (hk : FailsWith P k) : FailsWith P (guarded r st k) := by
  cases r with
  | error e => intro e' h; cases h; exact hr e rfl
  | ok b =>
    cases b with
    | true => exact .ok st
    | false => exact hk

theorem FailsWith.answer {P : Err → Prop} {rec : List Sel → List String → Except Err CState} {st : CState} {a : Ask}
    (h : ∀ b m, a = .call b m → FailsWith P (rec b st.2)) : FailsWith P (answer rec st a) := by
  cases a with
  | nothing => exact .ok st
  | fld f => exact .ok _
  | call b m =>
    intro e he
    simp only [Lemmas.answer] at he
    cases hr : rec b st.2 with
    | error e' => rw [hr] at he; cases he; exact h b m rfl e hr
    | ok r => rw [hr] at he; cases he

theorem FailsWith.loopM {σ α : Type} {P : Err → Prop} {step : σ → α → Except Err σ} :
    ∀ (l : List α) (st : σ), (∀ st, ∀ s ∈ l, FailsWith P (step st s)) → FailsWith P (loopM step st l) := by
  intro l
  induction l with
  | nil => intro st _; exact .ok st
  | cons s ss ih =>
    intro st h e he
    simp only [Depth.loopM] at he
    cases hs : step st s with
    | error e' => rw [hs] at he; cases he; exact h st s (List.mem_cons_self ..) e hs
    | ok st' =>
      rw [hs] at he
      exact ih st' (fun st x hx => h st x (List.mem_cons_of_mem _ hx)) e he

end Lemmas
end PyGql.Depth
