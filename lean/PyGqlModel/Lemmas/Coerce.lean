/-
  C07 — the obligations that tie the coercion model to the source (range test, finiteness guard, branch structure of
  `coerce_int`, the re-extracted guards of `value_from_ast` and of the stand-in scalar), and the basic facts about registries,
  the scalar parsers and the dict of assignments that the property files use.
-/
import PyGqlModel.Lemmas.CoerceNum


namespace PyGql.Coerce
open PyGql PyGql.Generated.Scalars

/-- THE obligation tied to the source: the translated range test of `coerce_int` accepts exactly the
    closed signed 32-bit interval. Re-checked whenever `MIN_INT`, `MAX_INT` or the comparison operators change. -/
theorem intInRange_iff (n : Int) : intInRange n = true ↔ InRange32 n := by
  unfold intInRange InRange32 MIN_INT MAX_INT
  constructor <;> intro h <;> simp at h ⊢ <;> omega

/-- The second obligation tied to the source: the finiteness guard of `coerce_float` (as re-extracted on every run)
    refuses the infinities and NaN and nothing else. Dropping or weakening the guard in scalars.py re-opens it. -/
theorem floatGuard_spec (c : FCls) : floatGuardRejects c = true ↔ c ≠ .finite := by
  cases c <;> simp [floatGuardRejects, floatRejectsFinite, floatRejectsInf, floatRejectsNaN]

/-- The third obligation tied to the source: the `if / elif` chain of `coerce_int` that `coerceInt` mirrors branch by
    branch (int — which includes bool —, float with `int(x)` guarded against OverflowError / ValueError (fix A6), None, str,
    anything else), and the OverflowError handler of `coerce_float`. Re-ordering, dropping or changing a branch re-opens it. -/
theorem coerceInt_branches_spec :
    coerceIntBranches = [("int", "int()"), ("float", "int-if-equal-guarded"), ("None", "raise"),
                         ("str", "int10-else-integral-float"), ("else", "raise")] ∧ floatCatchesOverflow = true := by decide +kernel

/-- The guard of `value_from_ast` in front of `parse_literal`, as re-extracted: only the specified scalars and custom scalars
    WITHOUT their own `parse_literal` are restricted to scalar literals. -/
theorem scalarLiteralGuard_spec : customOwnParseLiteralTakesAnyLiteral = true := by decide

/-- The stand-in scalar's `parse` (`_transparent`), as observed on the live `default_scalar` on every run: it refuses non-finite
    floats at the top level and nested in lists / dicts, and nothing finite. -/
theorem defaultScalarParse_spec : defaultScalarParseRejectsNonFinite = true := by decide

/-- The stand-in scalar's `parse_literal` is `_untyped_literal` itself, which receives the variables (fix C06-H7): a Variable inside a
    structured literal stands for its value (None when absent). Read off the shape of `default_scalar`'s `parse_literal=` on every run. -/
theorem standInLiteral_spec : standInLiteralSeesVariables = true := by decide

theorem rangeChecked_eq (n : Int) (r : PV) : rangeChecked n r = if InRange32 n then .ok r else .error .coercion := by
  simp only [rangeChecked, intInRange_iff]

theorem floatChecked_eq (c : FCls) (r : PV) : floatChecked c r = if c = .finite then .ok r else .error .coercion := by
  simp only [floatChecked, floatGuard_spec, ne_eq, ite_not]

theorem floatChecked_ok {c : FCls} {r pv : PV} (h : floatChecked c r = .ok pv) : pv = r ∧ c = .finite := by
  rw [floatChecked_eq] at h
  split at h <;> cases h
  exact ⟨rfl, ‹_›⟩

theorem floatChecked_nonfinite {c : FCls} (hc : c ≠ .finite) (r : PV) : floatChecked c r = .error .coercion := by
  rw [floatChecked_eq, if_neg hc]

theorem floatChecked_finite (r : PV) : floatChecked .finite r = .ok r := by
  rw [floatChecked_eq, if_pos rfl]

theorem rangeChecked_ok {n : Int} {r pv : PV} (h : rangeChecked n r = .ok pv) : pv = r ∧ InRange32 n := by
  rw [rangeChecked_eq] at h
  split at h <;> cases h
  exact ⟨rfl, ‹_›⟩
/-! ### deciding equations between results (what lets the kernel evaluate the example tables) -/

mutual
def decEqPV (a b : PV) : Decidable (a = b) := by
  cases a <;> cases b
  case none.none => exact isTrue rfl
  case bool.bool x y => exact decidable_of_iff (x = y) (by simp)
  case int.int x y => exact decidable_of_iff (x = y) (by simp)
  case float.float x y => exact decidable_of_iff (x = y) (by simp)
  case str.str x y => exact decidable_of_iff (x = y) (by simp)
  case list.list x y => exact @decidable_of_iff _ (x = y) (by simp) (decEqPVs x y)
  case dict.dict x y => exact @decidable_of_iff _ (x = y) (by simp) (decEqPVFields x y)
  all_goals exact isFalse (fun h => by cases h)
def decEqPVs (a b : List PV) : Decidable (a = b) := by
  cases a <;> cases b
  case nil.nil => exact isTrue rfl
  case cons.cons x xs y ys =>
    exact @decidable_of_iff _ (x = y ∧ xs = ys) (by simp) (@instDecidableAnd _ _ (decEqPV x y) (decEqPVs xs ys))
  all_goals exact isFalse (fun h => by cases h)
def decEqPVFields (a b : List (String × PV)) : Decidable (a = b) := by
  cases a <;> cases b
  case nil.nil => exact isTrue rfl
  case cons.cons x xs y ys =>
    exact @decidable_of_iff _ (x.1 = y.1 ∧ x.2 = y.2 ∧ xs = ys) (by simp [Prod.ext_iff, and_assoc])
      (@instDecidableAnd _ _ _ (@instDecidableAnd _ _ (decEqPV x.2 y.2) (decEqPVFields xs ys)))
  all_goals exact isFalse (fun h => by cases h)
end

instance : DecidableEq PV := decEqPV

instance {ε α : Type} [DecidableEq ε] [DecidableEq α] : DecidableEq (Except ε α)
  | .ok a, .ok b => decidable_of_iff (a = b) (by simp)
  | .error a, .error b => decidable_of_iff (a = b) (by simp)
  | .ok _, .error _ | .error _, .ok _ => isFalse (fun h => by cases h)

theorem mem_of_get? {reg : Reg} {n : String} {k : NamedT} (h : reg.get? n = some k) : (n, k) ∈ reg.types := by
  unfold Reg.get? at h
  split at h
  · rename_i p hp
    cases h
    have hn : p.1 = n := by simpa using List.find?_some hp
    exact hn ▸ List.mem_of_find?_eq_some hp
  · cases h

theorem toOption_map {ε α β : Type} (f : α → β) (x : Except ε α) : (x.map f).toOption = x.toOption.map f := by
  cases x <;> rfl

theorem ok_iff_of_toOption_eq {ε α : Type} {x y : Except ε α} (h : x.toOption = y.toOption) (a : α) : x = .ok a ↔ y = .ok a := by
  cases x <;> cases y <;> cases h <;> simp

theorem toOption_eq_of_ok_iff {ε α : Type} {x y : Except ε α} (h : ∀ a, x = .ok a ↔ y = .ok a) : x.toOption = y.toOption := by
  cases x with
  | ok a => rw [(h a).1 rfl]
  | error e =>
    cases y with
    | error _ => rfl
    | ok b => cases (h b).2 rfl

theorem valueFromAst_succ {reg : Reg} {vars : Option (List (String × PV))} {fuel : Nat} {ty : Ty} {l : Lit} (hl : ∀ x, l ≠ .var x) :
    valueFromAst reg vars (fuel + 1) ty l =
      if ty.isNonNull && l.isNull then .error .coercion else vfaCore vars reg (valueFromAst reg vars fuel) (stripNN ty) l := by
  cases l
  case var x => exact absurd rfl (hl x)
  all_goals rfl

theorem getValue_mem {vs : List (String × PV)} {s : String} {pv : PV} (h : getValue vs s = .ok pv) :
    ∃ p, p ∈ vs ∧ p.2 = pv ∧ p.1 = s := by
  unfold getValue at h
  split at h
  · rename_i p hp
    cases h
    have := List.find?_some hp
    exact ⟨p, List.mem_of_find?_eq_some hp, rfl, by simpa using this⟩
  · cases h

theorem getValue_unknown {vs : List (String × PV)} {s : String} (h : ∀ p, p ∈ vs → p.1 ≠ s) :
    getValue vs s = .error .coercion := by
  unfold getValue
  split
  · rename_i p hp
    have h1 := List.mem_of_find?_eq_some hp
    have h2 := List.find?_some hp
    exact absurd (by simpa using h2) (h p h1)
  · rfl

theorem rangeChecked_error {n : Int} {r : PV} {e : Err} (h : rangeChecked n r = .error e) : e = .coercion := by
  unfold rangeChecked at h
  split at h <;> cases h
  rfl

theorem floatChecked_error {c : FCls} {r : PV} {e : Err} (h : floatChecked c r = .error e) : e = .coercion := by
  unfold floatChecked at h
  split at h <;> cases h
  rfl

theorem getValue_error {vs : List (String × PV)} {s : String} {e : Err} (h : getValue vs s = .error e) : e = .coercion := by
  unfold getValue at h
  split at h <;> cases h
  rfl

theorem coerceInt_error {v : JV} {e : Err} (h : coerceInt v = .error e) : e = .coercion := by
  rw [coerceInt_eq] at h
  split at h
  · exact rangeChecked_error h
  · cases h
    rfl

theorem coerceFloat_error {v : JV} {e : Err} (h : coerceFloat v = .error e) : e = .coercion := by
  rw [coerceFloat_eq] at h
  split at h
  · exact floatChecked_error h
  · cases h
    rfl

theorem parseString_error {v : JV} {e : Err} (h : parseString v = .error e) : e = .coercion := by
  cases v <;> cases h <;> rfl

theorem parseBool_error {v : JV} {e : Err} (h : parseBool v = .error e) : e = .coercion := by
  cases v <;> cases h <;> rfl

theorem parseId_error {v : JV} {e : Err} (h : parseId v = .error e) : e = .coercion := by
  cases v <;> cases h <;> rfl

/-- what `parse_literal` of a specified scalar answers, row by row of its table: a refusal, a `TypeError`-like internal error
    (a custom scalar, or a pair the table does not have), the range test of an `Int` literal, the finiteness test of a `Float`,
    or the literal's own string / boolean -/
theorem parseLiteral_cases (k : NamedT) (l : Lit) :
    parseLiteral k l = .error .coercion ∨ parseLiteral k l = .error .internal ∨
    (∃ n, k = .int ∧ parseLiteral k l = rangeChecked n (.int n)) ∨
    (∃ c f, k = .float ∧ parseLiteral k l = floatChecked c (.float f)) ∨
    (∃ s, (k = .string ∨ k = .id) ∧ parseLiteral k l = .ok (.str s)) ∨
    (∃ b, k = .boolean ∧ parseLiteral k l = .ok (.bool b)) := by
  unfold parseLiteral
  split
  · exact .inr (.inl rfl)                                         -- a custom scalar does not come here
  · split
    · split
      · exact .inr (.inr (.inl ⟨_, rfl, rfl⟩))                    -- Int, integer literal
      · split                                                      -- Float, float literal: a float lexeme or not
        · exact .inr (.inr (.inr (.inl ⟨_, _, rfl, rfl⟩)))
        · exact .inl rfl
      · exact .inr (.inr (.inr (.inl ⟨_, _, rfl, rfl⟩)))          -- Float, integer literal
      · exact .inr (.inr (.inr (.inr (.inl ⟨_, .inl rfl, rfl⟩)))) -- String, string literal
      · exact .inr (.inr (.inr (.inr (.inr ⟨_, rfl, rfl⟩))))      -- Boolean, boolean literal
      · exact .inr (.inr (.inr (.inr (.inl ⟨_, .inr rfl, rfl⟩)))) -- ID, string literal
      · exact .inr (.inr (.inr (.inr (.inl ⟨_, .inr rfl, rfl⟩)))) -- ID, integer literal
      · exact .inr (.inl rfl)                                     -- no such row
    · exact .inl rfl                                              -- the kind of literal is not admitted

theorem stripNN_of_not_nonNull {t : Ty} (h : t.isNonNull = false) : stripNN t = t := by
  cases t <;> simp_all [stripNN, Ty.isNonNull]

theorem wf_nonNull {t : Ty} (h : (Ty.nonNull t).wf = true) : t.isNonNull = false ∧ t.wf = true := by
  simp [Ty.wf] at h; exact h

theorem wf_list {t : Ty} (h : (Ty.list t).wf = true) : t.wf = true := by
  simpa [Ty.wf] using h

theorem conformsFields_keys_sublist {reg : Reg} : ∀ {fs : List InField} {kvs : List (String × PV)},
    ConformsFields reg fs kvs → (kvs.map (fun p => p.1)).Sublist (fs.map (fun f => f.pyName))
  | _, _, .nil => List.Sublist.slnil
  | _, _, .present _ h => by
    simp only [List.map_cons]
    exact (conformsFields_keys_sublist h).cons_cons _
  | _, _, .absent _ _ h => by
    simp only [List.map_cons]
    exact (conformsFields_keys_sublist h).cons _

private theorem dictSet_fresh (acc : List (String × PV)) (k : String) (v : PV)
    (h : acc.any (fun q => q.1 == k) = false) : dictSet acc k v = acc ++ [(k, v)] := by
  simp [dictSet, h]

private theorem foldl_dictSet_fresh : ∀ (r acc : List (String × PV)), ((acc ++ r).map (fun p => p.1)).Nodup →
    r.foldl (fun d p => dictSet d p.1 p.2) acc = acc ++ r := by
  intro r
  induction r with
  | nil => intro acc _; simp
  | cons p r ih =>
    intro acc h
    have hfresh : acc.any (fun q => q.1 == p.1) = false := by
      rw [List.any_eq_false]
      intro q hq hqe
      simp only [List.map_append, List.map_cons] at h
      have := (List.nodup_append.1 h).2.2 q.1 (List.mem_map_of_mem hq) p.1 List.mem_cons_self
      exact this (by simpa using hqe)
    rw [List.foldl_cons, dictSet_fresh acc p.1 p.2 hfresh]
    have := ih (acc ++ [(p.1, p.2)]) (by simpa [List.append_assoc] using h)
    simpa [List.append_assoc] using this

theorem dictOfAssignments_eq {kvs : List (String × PV)} (h : (kvs.map (fun p => p.1)).Nodup) : dictOfAssignments kvs = kvs := by
  unfold dictOfAssignments
  simpa using foldl_dictSet_fresh kvs [] (by simpa using h)

theorem dictOfAssignments_conforms {reg : Reg} {fs : List InField} {kvs : List (String × PV)}
    (hd : (fs.map (fun f => f.pyName)).Nodup) (h : ConformsFields reg fs kvs) : dictOfAssignments kvs = kvs :=
  dictOfAssignments_eq ((conformsFields_keys_sublist h).nodup hd)

end PyGql.Coerce
