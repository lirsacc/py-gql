/-
  C14 — `_replace_types_and_directives` on the established facts; `healLoop_closed`, `onSchema_closed`.
-/
import PyGqlModel.Lemmas.HeapClosedRound
import PyGqlModel.Lemmas.HeapNames

namespace PyGql.Heap.Own
open PyGql.Heap

theorem replaceTypes_pred (cfg : Cfg) (P : String × Addr → Prop) :
    ∀ (ut : List (String × Option Addr)) (reg : List (String × Addr)) (b : Bool),
      (∀ x, x ∈ ut → ∀ a', x.2 = some a' → P (x.1, a')) →
      (∀ e, e ∈ reg → P e ∨ e.1 ∈ ut.map (·.1)) →
      ∀ e, e ∈ (replaceTypes cfg reg b ut).1 → P e := by
  intro ut
  induction ut with
  | nil => intro reg b _ hreg e he; exact (hreg e he).resolve_right (by simp)
  | cons x rest ih =>
    intro reg b hut hreg
    obtain ⟨nm, new⟩ := x
    have hutr : ∀ x, x ∈ rest → ∀ a', x.2 = some a' → P (x.1, a') := fun x hx => hut x (by simp [hx])
    -- an entry under another name that still waits for its replacement finds it in `rest`
    have later : ∀ e, e ∈ reg → (e.1 == nm) = false → P e ∨ e.1 ∈ rest.map (·.1) := fun e he hne =>
      (hreg e he).imp_right fun h1 => (List.mem_cons.mp h1).resolve_left (by simpa using hne)
    simp only [replaceTypes]
    split
    · rename_i hl
      exact ih reg b hutr fun e he => later e he (lookup_none_ne hl e he)
    · cases new with
      | none => exact ih _ _ hutr fun e he => later e (mem_regErase he) (by simpa using (List.mem_filter.mp he).2)
      | some a' =>
        refine ih _ _ hutr fun e he => ?_
        rcases mem_regSet he with rfl | ⟨he0, hne⟩
        · exact Or.inl (hut (nm, some a') (by simp) a' rfl)
        · exact later e he0 hne

theorem replaceDirs_pred (P : String × Addr → Prop) :
    ∀ (ud : List (String × Option Addr)) (reg : List (String × Addr)),
      (∀ x, x ∈ ud → ∀ a', x.2 = some a' → P (x.1, a')) →
      (∀ e, e ∈ reg → P e ∨ e.1 ∈ ud.map (·.1)) →
      ∀ e, e ∈ replaceDirs reg ud → P e := by
  intro ud
  induction ud with
  | nil => intro reg _ hreg e he; exact (hreg e he).resolve_right (by simp)
  | cons x rest ih =>
    intro reg hud hreg
    obtain ⟨nm, new⟩ := x
    have hudr : ∀ x, x ∈ rest → ∀ a', x.2 = some a' → P (x.1, a') := fun x hx => hud x (by simp [hx])
    have later : ∀ e, e ∈ reg → (e.1 == nm) = false → P e ∨ e.1 ∈ rest.map (·.1) := fun e he hne =>
      (hreg e he).imp_right fun h1 => (List.mem_cons.mp h1).resolve_left (by simpa using hne)
    cases new with
    | none => exact ih _ hudr fun e he => later e (mem_regErase he) (by simpa using (List.mem_filter.mp he).2)
    | some a' =>
      refine ih _ hudr fun e he => ?_
      rcases mem_regSet he with rfl | ⟨he0, hne⟩
      · exact Or.inl (hud (nm, some a') (by simp) a' rfl)
      · exact later e he0 hne

theorem lookup_of_mem_nodup {reg : List (String × Addr)} (hn : (reg.map (·.1)).Nodup) {e : String × Addr} (he : e ∈ reg) :
    lookup reg e.1 = some e.2 := by
  induction reg with
  | nil => simp at he
  | cons x rest ih =>
    simp only [List.map_cons, List.nodup_cons] at hn
    simp only [lookup, List.find?_cons]
    simp only [List.mem_cons] at he
    rcases he with rfl | he
    · simp
    · have hne : (x.1 == e.1) = false := by
        cases hq : (x.1 == e.1) with
        | false => rfl
        | true =>
          exfalso
          exact hn.1 (List.mem_map.mpr ⟨e, he, (beq_iff_eq.mp hq).symm⟩)
      simp only [hne]
      exact ih hn.2 he

/-- with the accumulated flag and distinct names: no busting means `on_schema` replaced no type at all -/
theorem not_busted_nil (cfg : Cfg) (hacc : cfg.accumulateBusted = true) (reg : List (String × Addr)) (hn : (reg.map (·.1)).Nodup)
    (ut : List (String × Option Addr)) (hut : ∀ x, x ∈ ut → ∃ e, e ∈ reg ∧ e.1 = x.1 ∧ x.2 ≠ some e.2)
    (hb : (replaceTypes cfg reg false ut).2 = false) : ut = [] := by
  cases ut with
  | nil => rfl
  | cons x rest =>
    exfalso
    obtain ⟨e, he, h1, h2⟩ := hut x (by simp)
    have hl := lookup_of_mem_nodup hn he
    have := busted_of_change' cfg hacc reg false x.1 x.2 e.2 rest (by rw [← h1]; exact hl) h2
    rw [this] at hb
    cases hb
where
  busted_acc' (cfg : Cfg) (hc : cfg.accumulateBusted = true) : ∀ (ut : List (String × Option Addr)) (reg : List (String × Addr)),
      (replaceTypes cfg reg true ut).2 = true := by
    intro ut
    induction ut with
    | nil => intro reg; simp [replaceTypes]
    | cons e rest ih =>
      intro reg
      obtain ⟨n, new⟩ := e
      simp only [replaceTypes]
      split
      · exact ih reg
      · cases new <;> simp [hc, ih]
  busted_of_change' (cfg : Cfg) (hc : cfg.accumulateBusted = true) (reg : List (String × Addr)) (b : Bool)
      (n : String) (new : Option Addr) (orig : Addr) (rest : List (String × Option Addr))
      (hl : lookup reg n = some orig) (hne : new ≠ some orig) : (replaceTypes cfg reg b ((n, new) :: rest)).2 = true := by
    simp only [replaceTypes, hl]
    have : (new != some orig) = true := by simpa using hne
    cases new <;> simp [hc, this, busted_acc' cfg hc]

theorem rootOK_reRoot (reg : List (String × Addr)) (r : Option Ref) : rootOK (refOK reg) (reRoot reg r) = true := by
  cases r with
  | none => simp [reRoot, rootOK]
  | some r =>
    simp only [reRoot, Option.bind_some]
    cases hl : lookup reg r.name with
    | none => simp [rootOK]
    | some a => simp [rootOK, refOK, hl]

theorem out_refOK (v : Visitor) (reg : List (String × Addr)) : ∀ r, outChk v reg (refOK reg) r = true → refOK reg r = true := by
  cases v <;> simp [outChk]

theorem wfs_replaceCore (cfg : Cfg) (chk : Ref → Bool) (h : Heap) (s : Schema) (ut ud : List (String × Option Addr))
    (hnd : (s.types.map (·.1)).Nodup)
    (hut : ∀ x, x ∈ ut → ∀ a', x.2 = some a' → isProtected x.1 = false ∧ typeShape chk h a' = true ∧ nameOK h (x.1, a') = true)
    (hkeep : ∀ e, e ∈ s.types → nameOK h e = true ∧ protLeaf h e = true)
    (hty : ∀ e, e ∈ s.types → isProtected e.1 = false → typeShape chk h e.2 = true ∨ e.1 ∈ ut.map (·.1))
    (hud : ∀ x, x ∈ ud → ∀ a', x.2 = some a' → dirShape chk h a' = true)
    (hdr : ∀ e, e ∈ s.dirs → dirShape chk h e.2 = true ∨ e.1 ∈ ud.map (·.1)) :
    WFs chk h (replaceCore cfg s ut ud).1 := by
  have hP := replaceTypes_pred cfg (fun e => typeShape chk h e.2 = true ∧ nameOK h e = true ∧ protLeaf h e = true) ut s.types false
    (fun x hx a' ea => ⟨(hut x hx a' ea).2.1, (hut x hx a' ea).2.2, by simp [protLeaf, (hut x hx a' ea).1]⟩)
    (fun e he => by
      by_cases hp : isProtected e.1 = true
      · exact Or.inl ⟨typeShape_prot _ _ e hp (hkeep e he).2, hkeep e he⟩
      · exact (hty e he (by simpa using hp)).imp_left fun hs => ⟨hs, hkeep e he⟩)
  exact ⟨fun e he => (hP e he).1, replaceDirs_pred _ ud s.dirs hud hdr, fun e he => (hP e he).2.1, fun e he => (hP e he).2.2,
    replaceTypes_nodup cfg _ _ _ hnd⟩

theorem round_wf_out (cfg : Cfg) (v : Visitor) (s : Schema) (h : Heap) (chk0 : Ref → Bool) (hc : Compat v s.types chk0) (w : WFs chk0 h s) :
    WFs (outChk v s.types chk0) (visitAll v s h).1 (replaceCore cfg s (visitAll v s h).2.1 (visitAll v s h).2.2).1 := by
  have sT := visitTypes_step v s.types s.types h
  obtain ⟨f1, f2⟩ := visitTypes_est v s.types chk0 hc s.types h (fun e he _ => ⟨w.types e he, w.names e he⟩)
  obtain ⟨g1, g2⟩ := visitDirs_est v s.types chk0 hc s.dirs (visitTypes v s.types h s.types).1
    (fun e he => dirShape_keep (sT chk0 hc) e.2 (w.dirs e he))
  have sD := visitDirs_step v s.types s.dirs (visitTypes v s.types h s.types).1
  -- the directives are visited after the types: what was established for the types is seen through that step
  have sDo := sD _ (compat_out v s.types chk0 hc)
  have stT := (sT.trans sD) _ (compat_true v s.types)
  refine wfs_replaceCore cfg _ _ s _ _ w.nodup ?_ (fun e he => ⟨nameOK_keep stT e (w.names e he), protLeaf_keep stT e (w.prot e he)⟩)
    (fun e he hnp => (f1 e he hnp).symm.imp (typeShape_keep sDo e.2) fun ⟨x, hx, hxe⟩ => List.mem_map.mpr ⟨x, hx, hxe⟩) g2
    (fun e he => (g1 e he).symm.imp_right fun ⟨x, hx, hxe⟩ => List.mem_map.mpr ⟨x, hx, hxe⟩)
  intro x hx a' ea
  obtain ⟨e, _, h1, h2, _, h4⟩ := f2 x hx
  exact ⟨h1 ▸ h2, typeShape_keep sDo a' (h4 a' ea).1, nameOK_keep sDo _ (h4 a' ea).2⟩

theorem round_wf (cfg : Cfg) (v : Visitor) (s : Schema) (h : Heap) (chk0 : Ref → Bool) (hc : Compat v s.types chk0) (w : WFs chk0 h s) :
    WFs (fun _ => true) (visitAll v s h).1 (replaceCore cfg s (visitAll v s h).2.1 (visitAll v s h).2.2).1 :=
  (round_wf_out cfg v s h chk0 hc w).mono (fun _ _ => rfl)

theorem closedB_of_wfs (h : Heap) (s : Schema) (w : WFs (refOK s.types) h s) (hq : rootOK (refOK s.types) s.query = true)
    (hm : rootOK (refOK s.types) s.mutation = true) (hs : rootOK (refOK s.types) s.subscription = true) : closedB h s = true := by
  simp only [closedB, shapeB, Bool.and_eq_true, List.all_eq_true]
  exact ⟨⟨⟨⟨⟨w.types, w.dirs⟩, hq⟩, hm⟩, hs⟩, w.names⟩

/-- when no type is replaced the registry is the old one and the roots are looked up in it: a well-formed result is closed -/
theorem closedB_of_nil (cfg : Cfg) (s : Schema) (ud : List (String × Option Addr)) (h : Heap)
    (w : WFs (refOK s.types) h (replaceCore cfg s [] ud).1) : closedB h (replaceCore cfg s [] ud).1 = true :=
  closedB_of_wfs h _ w (rootOK_reRoot s.types s.query) (rootOK_reRoot s.types s.mutation) (rootOK_reRoot s.types s.subscription)

theorem round_closed (cfg : Cfg) (hacc : cfg.accumulateBusted = true) (v : Visitor) (s : Schema) (h : Heap) (chk0 : Ref → Bool)
    (hc : Compat v s.types chk0) (hout : ∀ r, outChk v s.types chk0 r = true → refOK s.types r = true) (w : WFs chk0 h s)
    (hb : (replaceCore cfg s (visitAll v s h).2.1 (visitAll v s h).2.2).2 = false) :
    (replaceCore cfg s (visitAll v s h).2.1 (visitAll v s h).2.2).1.types = s.types ∧
    WFs (refOK s.types) (visitAll v s h).1 (replaceCore cfg s (visitAll v s h).2.1 (visitAll v s h).2.2).1 ∧
    closedB (visitAll v s h).1 (replaceCore cfg s (visitAll v s h).2.1 (visitAll v s h).2.2).1 = true := by
  have w' := (round_wf_out cfg v s h chk0 hc w).mono hout
  have hnil : (visitAll v s h).2.1 = [] := by
    apply not_busted_nil cfg hacc s.types w.nodup
    · intro x hx
      obtain ⟨e, he, h1, _, h3, _⟩ :=
        (visitTypes_est v s.types chk0 hc s.types h (fun e he _ => ⟨w.types e he, w.names e he⟩)).2 x hx
      exact ⟨e, he, h1, h3⟩
    · simpa [replaceCore] using hb
  rw [hnil] at w' ⊢
  exact ⟨rfl, w', closedB_of_nil cfg s _ _ w'⟩

theorem healLoop_closed (cfg : Cfg) (hacc : cfg.accumulateBusted = true) : ∀ (fuel : Nat) (s : Schema) (h h' : Heap) (s' : Schema),
    WFs (fun _ => true) h s → healLoop cfg fuel s h = some (h', s') → closedB h' s' = true ∧ WFs (refOK s'.types) h' s' := by
  intro fuel
  induction fuel with
  | zero => intro s h h' s' _ e; simp [healLoop] at e
  | succ fuel ih =>
    intro s h h' s' w e
    rw [healLoop] at e
    split at e
    · exact ih _ _ _ _ (round_wf cfg .heal s h _ (compat_true .heal s.types) w) e
    · rename_i hb
      cases e
      obtain ⟨ht, w', hcl⟩ := round_closed cfg hacc .heal s h _ (compat_true .heal s.types) (fun r hr => by simpa [outChk] using hr) w
        (by simpa using hb)
      exact ⟨hcl, by rw [ht]; exact w'⟩

/-- `SchemaVisitor.on_schema` of any modelled visitor on a closed, well-formed schema gives a closed, well-formed schema -/
theorem onSchema_closed (cfg : Cfg) (hacc : cfg.accumulateBusted = true) (fuel : Nat) (v : Visitor) (s : Schema) (h h' : Heap) (s' : Schema)
    (w : WFs (refOK s.types) h s) (e : onSchema cfg fuel v s h = some (h', s')) : closedB h' s' = true ∧ WFs (refOK s'.types) h' s' := by
  simp only [onSchema, replaceTD] at e
  split at e
  · exact healLoop_closed cfg hacc fuel _ _ _ _ (round_wf cfg v s h _ (compat_refOK v s.types) w) e
  · rename_i hb
    cases e
    obtain ⟨ht, w', hcl⟩ := round_closed cfg hacc v s h _ (compat_refOK v s.types) (out_refOK v s.types) w (by simpa using hb)
    exact ⟨hcl, by rw [ht]; exact w'⟩

theorem transformFrom_closed (cfg : Cfg) (hacc : cfg.accumulateBusted = true) (fuel : Nat) : ∀ (vs : List Visitor) (h : Heap) (s : Schema)
    (h' : Heap) (s' : Schema), WFs (refOK s.types) h s → closedB h s = true → transformFrom cfg fuel vs (h, s) = some (h', s') →
      closedB h' s' = true ∧ WFs (refOK s'.types) h' s' :=
  fun vs h s h' s' w hc e =>
    transformFrom_ind cfg fuel (I := fun (_ : Unit) h s => closedB h s = true ∧ WFs (refOK s.types) h s) (fun _ u => u) vs
      (fun v _ _ s h h' s' hi e => onSchema_closed cfg hacc fuel v s h h' s' hi.2 e) () h s h' s' ⟨hc, w⟩ e

end PyGql.Heap.Own
