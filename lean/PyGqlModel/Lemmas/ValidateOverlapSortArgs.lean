/-
  `_same_arguments` sorts both argument lists by name (stable insertion sort in the model, `sorted(..., key=name)` in the
  code) and compares them pairwise. For argument lists with pairwise DIFFERENT names the sorted list does not depend on
  the order of the input (`sortArgs_congr_perm`), hence neither does the outcome (`sameArguments_perm`). With a repeated
  name it does: `perm_arguments_overlap_needs_unique_argument_names` (Props/C06_overlap_perm.lean).
-/
import PyGqlModel.Validate.Overlap
namespace PyGql.Validate
open PyGql

def NameLt (a b : Arg) : Prop := a.name < b.name

theorem insertArg_perm (a : Arg) : ∀ l : List Arg, (insertArg a l).Perm (a :: l)
  | [] => List.Perm.refl _
  | b :: bs => by
    unfold insertArg
    split
    · exact List.Perm.refl _
    · exact ((insertArg_perm a bs).cons b).trans (List.Perm.swap a b bs)

theorem insertArg_sorted (a : Arg) : ∀ l : List Arg, l.Pairwise NameLt → (∀ b ∈ l, b.name ≠ a.name) →
    (insertArg a l).Pairwise NameLt
  | [], _, _ => by simp [insertArg]
  | b :: bs, hs, hn => by
    unfold insertArg
    have hb := List.pairwise_cons.mp hs
    split
    · rename_i hlt
      refine List.pairwise_cons.mpr ⟨?_, hs⟩
      intro c hc
      rcases List.mem_cons.mp hc with rfl | hc
      · exact hlt
      · exact String.lt_trans hlt (hb.1 c hc)
    · rename_i hlt
      have hne : b.name ≠ a.name := hn b (List.mem_cons_self ..)
      have hba : b.name < a.name := by
        by_cases h : b.name < a.name
        · exact h
        · exact absurd (String.le_antisymm (String.not_lt.mp hlt) (String.not_lt.mp h)) hne
      refine List.pairwise_cons.mpr ⟨?_, insertArg_sorted a bs hb.2 (fun c hc => hn c (List.mem_cons_of_mem _ hc))⟩
      intro c hc
      rcases List.mem_cons.mp ((insertArg_perm a bs).mem_iff.mp hc) with rfl | hc
      · exact hba
      · exact hb.1 c hc

theorem foldl_insert_spec : ∀ (l acc : List Arg), acc.Pairwise NameLt → ((l ++ acc).map (·.name)).Nodup →
    (l.foldl (fun acc a => insertArg a acc) acc).Pairwise NameLt ∧ (l.foldl (fun acc a => insertArg a acc) acc).Perm (l ++ acc)
  | [], acc, hs, _ => ⟨hs, List.Perm.refl _⟩
  | a :: l, acc, hs, hnd => by
    simp only [List.foldl_cons]
    simp only [List.cons_append, List.map_cons, List.nodup_cons, List.mem_map, List.mem_append, not_exists, not_and] at hnd
    have hp := insertArg_perm a acc
    have hs' := insertArg_sorted a acc hs (fun b hb => hnd.1 b (Or.inr hb))
    have hnd' : ((l ++ insertArg a acc).map (·.name)).Nodup := by
      have : (l ++ insertArg a acc).Perm (a :: (l ++ acc)) :=
        ((List.Perm.refl l).append hp).trans List.perm_middle
      refine ((this.map _).nodup_iff).mpr ?_
      simp only [List.map_cons, List.nodup_cons, List.mem_map, List.mem_append, not_exists, not_and]
      exact ⟨hnd.1, hnd.2⟩
    obtain ⟨h1, h2⟩ := foldl_insert_spec l _ hs' hnd'
    exact ⟨h1, h2.trans (((List.Perm.refl l).append hp).trans List.perm_middle)⟩

theorem sortArgs_spec (l : List Arg) (hnd : (l.map (·.name)).Nodup) : (sortArgs l).Pairwise NameLt ∧ (sortArgs l).Perm l := by
  have := foldl_insert_spec l [] List.Pairwise.nil (by simpa using hnd)
  simpa [sortArgs] using this

theorem sorted_perm_eq : ∀ (l1 l2 : List Arg), l1.Pairwise NameLt → l2.Pairwise NameLt → l1.Perm l2 → l1 = l2
  | [], l2, _, _, hp => hp.nil_eq
  | a :: l1, [], _, _, hp => absurd hp.symm.nil_eq (by simp)
  | a :: l1, b :: l2, h1, h2, hp => by
    have k1 := List.pairwise_cons.mp h1
    have k2 := List.pairwise_cons.mp h2
    have hab : a = b := by
      rcases List.mem_cons.mp (hp.mem_iff.mp (List.mem_cons_self ..)) with e | ha
      · exact e
      · rcases List.mem_cons.mp (hp.mem_iff.mpr (List.mem_cons_self ..)) with e | hb
        · exact e.symm
        · exact absurd (k1.1 b hb) (String.lt_asymm (k2.1 a ha))
    subst hab
    rw [sorted_perm_eq l1 l2 k1.2 k2.2 (List.Perm.cons_inv hp)]

theorem sortArgs_congr_perm {l l' : List Arg} (h : l'.Perm l) (hnd : (l.map (·.name)).Nodup) : sortArgs l' = sortArgs l := by
  have hnd' : (l'.map (·.name)).Nodup := ((h.map _).nodup_iff).mpr hnd
  obtain ⟨s1, p1⟩ := sortArgs_spec l hnd
  obtain ⟨s2, p2⟩ := sortArgs_spec l' hnd'
  exact sorted_perm_eq _ _ s2 s1 (p2.trans (h.trans p1.symm))

theorem sameArguments_perm {a a' b b' : List Arg} (ha : a'.Perm a) (hb : b'.Perm b) (hna : (a.map (·.name)).Nodup)
    (hnb : (b.map (·.name)).Nodup) : sameArguments a' b' = sameArguments a b := by
  unfold sameArguments
  rw [ha.length_eq, hb.length_eq, sortArgs_congr_perm ha hna, sortArgs_congr_perm hb hnb]

end PyGql.Validate
