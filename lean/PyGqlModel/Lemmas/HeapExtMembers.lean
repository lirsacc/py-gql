/-
  C14 — `extend_schema`, member level: which attributes `_extend_field` / `_extend_argument` pass on to the rebuilt member objects
  (`ArgKept`, `FieldKept`), and the per-schema composition: the rebuilt members (fields, arguments, input fields) of every
  registered type and the arguments of every directive, in order, in the FINAL heap (`MembersRel`, `extend_type_full`,
  `extend_dir_full`).
-/
import PyGqlModel.Lemmas.HeapExtStages
import PyGqlModel.Lemmas.HeapCloneClosed
import PyGqlModel.Lemmas.HeapByKind

namespace PyGql.Heap.Own
open PyGql.Heap

/-- attributes of an argument / input field kept by `_extend_argument` (python name: if the constructor passes it) -/
def ArgKept (keepPy : Bool) (N : List (String × Addr)) (g g' : ArgO) : Prop :=
  g'.name = g.name ∧ g'.dflt = g.dflt ∧ g'.desc = g.desc ∧ g'.ty = repoint N g.ty ∧ g'.py = (if keepPy then g.py else g.name)

/-- attributes of a field kept by `_extend_field` -/
def FieldKept (cfg : Cfg) (N : List (String × Addr)) (f f' : FieldO) : Prop :=
  f'.name = f.name ∧ f'.desc = f.desc ∧ f'.depr = f.depr ∧ f'.res = f.res ∧ f'.ty = repoint N f.ty ∧
  f'.sub = (if cfg.extFieldSub then f.sub else none) ∧ f'.py = (if cfg.extFieldPy then f.py else f.name)

/-- every argument rebuilt by `_extend_argument` is a copy of a source argument keeping name, default, description,
    (re-pointed) type and — when passed — python name -/
theorem extendArgs_kept (k : Bool) (N : List (String × Addr)) (as : List Addr) (h0 h : Heap) (fr : FrameX (fun _ => False) h0 h)
    (hlt : ∀ a, a ∈ as → a < h0.size) :
    ∀ c, c ∈ (extendArgs k N h as).2 → ∃ a g g', a ∈ as ∧ h0.readArg a = some g ∧
      (extendArgs k N h as).1.readArg c = some g' ∧ ArgKept k N g g' := by
  obtain ⟨_, os, f, e⟩ := (extendArgs_loop k N).out (FrameX.refl fun _ => False) FrameX.trans (fun h a => extendArgsX _ k N [a] h) as h
  intro c hc
  obtain ⟨a, ha, s1, r1, e1, r2⟩ := mem_of_run f c (e ▸ hc)
  -- the copy was made in `s1`, which still shows `a` as `h0` has it, and is still there at the end
  have ha0 : s1.read a = h0.read a := (fr.trans r1).2 a (hlt a ha) id
  rw [extendArgs_one] at e1 r2
  cases hg : s1.readArg a with
  | none => simp only [hg] at e1; cases e1
  | some g =>
    simp only [hg] at e1 r2
    cases e1
    exact ⟨a, g, _, ha, by simpa [Heap.readArg, ha0] using hg, r2.readArg id (readArg_alloc_new _ _), ⟨rfl, rfl, rfl, rfl, rfl⟩⟩

/-- every field rebuilt by `_extend_field` is a copy of a source field keeping name, description, deprecation reason,
    resolver, (re-pointed) type and — when passed — subscription resolver and python name; its arguments are rebuilt
    copies of the source field's arguments (`extendArgs_kept`) -/
theorem extendFields_kept (cfg : Cfg) (N : List (String × Addr)) (as : List Addr) (h0 h : Heap) (fr : FrameX (fun _ => False) h0 h)
    (hlt : ∀ a, a ∈ as → a < h0.size) (hargs : ∀ a f, a ∈ as → h0.readField a = some f → ∀ x, x ∈ f.args → x < h0.size) :
    ∀ c, c ∈ (extendFields cfg N h as).2 → ∃ a f f', a ∈ as ∧ h0.readField a = some f ∧
      (extendFields cfg N h as).1.readField c = some f' ∧ FieldKept cfg N f f' ∧
      ∀ x, x ∈ f'.args → ∃ y g g', y ∈ f.args ∧ h0.readArg y = some g ∧
        (extendFields cfg N h as).1.readArg x = some g' ∧ ArgKept cfg.extArgPy N g g' := by
  obtain ⟨_, os, f, e⟩ := (extendFields_loop cfg N).out (FrameX.refl fun _ => False) FrameX.trans (fun h a => extendFieldsX _ cfg N [a] h) as h
  intro c hc
  obtain ⟨a, ha, s1, r1, e1, r2⟩ := mem_of_run f c (e ▸ hc)
  have ha0 : s1.read a = h0.read a := (fr.trans r1).2 a (hlt a ha) id
  rw [extendFields_one] at e1 r2
  cases hf : s1.readField a with
  | none => simp only [hf] at e1; cases e1
  | some f =>
    simp only [hf] at e1 r2
    cases e1
    have hf0 : h0.readField a = some f := by simpa [Heap.readField, ha0] using hf
    refine ⟨a, f, _, ha, hf0, r2.readField id (readField_alloc_new _ _), ⟨rfl, rfl, rfl, rfl, rfl, rfl, rfl⟩, fun x hx => ?_⟩
    obtain ⟨y, g, g', h1, h2, h3, h4⟩ := extendArgs_kept cfg.extArgPy N f.args h0 s1 (fr.trans r1) (hargs a f ha hf0) x hx
    exact ⟨y, g, g', h1, h2, ((allocX (fun _ => False) _ _).trans r2).readArg id h3, h4⟩

/-- everything `extend_schema` does after some point: the remaining types, the new types, the directives -/
def extendRest (cfg : Cfg) (ext : Ext) (N Nin P : List (String × Addr)) (hr : Heap) (s : Schema) (l : List (String × Addr)) (h : Heap) : Heap :=
  (buildNewDirs cfg N (extendDirs cfg N (buildNewTypes N P (extendAll cfg ext N Nin P hr h l) ext.newTypes) s.dirs).1 ext.newDirs).1

/-- all writes of the rest go to placeholder addresses: every object allocated after the placeholders (in particular every
    rebuilt field / argument / input field) is left alone -/
theorem extendRest_frame (cfg : Cfg) (ext : Ext) (N Nin P : List (String × Addr)) (hr : Heap) (s : Schema) (psize : Nat)
    (hP : ∀ n x, lookup P n = some x → x < psize) (l : List (String × Addr)) (h : Heap) :
    FrameX (fun x => x < psize) h (extendRest cfg ext N Nin P hr s l h) := by
  have f1 := extendAll_frame cfg ext N Nin P hr l h
  have f2 := buildNewTypesX N P ext.newTypes (extendAll cfg ext N Nin P hr h l)
  have f3 := extendDirsX (fun x => x < psize) cfg N s.dirs (buildNewTypes N P (extendAll cfg ext N Nin P hr h l) ext.newTypes)
  have f4 := buildNewDirsX (fun x => x < psize) cfg N ext.newDirs (extendDirs cfg N (buildNewTypes N P (extendAll cfg ext N Nin P hr h l) ext.newTypes) s.dirs).1
  exact (((f1.mono (fun x ⟨e, _, hx⟩ => hP e.1 x hx)).trans (f2.mono (fun x ⟨e, _, hx⟩ => hP e.1 x hx))).trans f3).trans f4

theorem extendRest_read (cfg : Cfg) (ext : Ext) (N Nin P : List (String × Addr)) (hr : Heap) (s : Schema) (psize : Nat)
    (hP : ∀ n x, lookup P n = some x → x < psize) (l : List (String × Addr)) (h : Heap) (c : Addr) (hc1 : psize ≤ c)
    (hc2 : c < h.size) :
    (extendRest cfg ext N Nin P hr s l h).read c = h.read c :=
  (extendRest_frame cfg ext N Nin P hr s psize hP l h).2 c hc2 (Nat.not_lt.mpr hc1)

/-- `extend` is: allocate the placeholders, then `extendRest` over all registered types -/
theorem extend_heap_eq (cfg : Cfg) (ext : Ext) (s : Schema) (h : Heap) :
    (extend cfg ext s h).1 =
      extendRest cfg ext ((s.types.filter fun e => isProtected e.1) ++ (allocPlaceholders h ((s.types.filter fun e => !isProtected e.1).map (·.1) ++ ext.newTypes.map (·.1))).2)
        (if cfg.extInputFieldExtended then (s.types.filter fun e => isProtected e.1) ++ (allocPlaceholders h ((s.types.filter fun e => !isProtected e.1).map (·.1) ++ ext.newTypes.map (·.1))).2
          else s.types ++ ((s.types.filter fun e => isProtected e.1) ++ (allocPlaceholders h ((s.types.filter fun e => !isProtected e.1).map (·.1) ++ ext.newTypes.map (·.1))).2))
        (allocPlaceholders h ((s.types.filter fun e => !isProtected e.1).map (·.1) ++ ext.newTypes.map (·.1))).2 h s s.types
        (allocPlaceholders h ((s.types.filter fun e => !isProtected e.1).map (·.1) ++ ext.newTypes.map (·.1))).1 := by
  simp only [extend, extendRest]


/-- argument `c` of the result is the rebuilt copy of argument `a` of the source -/
def ArgRel (k : Bool) (N : List (String × Addr)) (h0 hout : Heap) (a c : Addr) : Prop :=
  ∃ g g', h0.readArg a = some g ∧ hout.readArg c = some g' ∧ ArgKept k N g g'

/-- field `c` of the result is the rebuilt copy of field `a` of the source, argument by argument -/
def FieldRel (cfg : Cfg) (N : List (String × Addr)) (h0 hout : Heap) (a c : Addr) : Prop :=
  ∃ f f', h0.readField a = some f ∧ hout.readField c = some f' ∧ FieldKept cfg N f f' ∧
    All2 (ArgRel cfg.extArgPy N h0 hout) f.args f'.args

def KeepsFrom (lo : Nat) (h h' : Heap) : Prop := h.size ≤ h'.size ∧ ∀ c, lo ≤ c → c < h.size → h'.read c = h.read c

theorem KeepsFrom.refl (lo : Nat) (h : Heap) : KeepsFrom lo h h := ⟨Nat.le_refl _, fun _ _ _ => rfl⟩
theorem keepsFrom_iff {lo : Nat} {h h' : Heap} : KeepsFrom lo h h' ↔ FrameX (· < lo) h h' :=
  ⟨fun kf => ⟨kf.1, fun c hc hw => kf.2 c (Nat.not_lt.mp hw) hc⟩, fun f => ⟨f.1, fun c hl hc => f.2 c hc (Nat.not_lt.mpr hl)⟩⟩
theorem keepsFrom_alloc (lo : Nat) (h : Heap) (o : Obj) : KeepsFrom lo h (h.alloc o).1 :=
  keepsFrom_iff.mpr (allocX _ h o)

theorem ArgRel.keep {k : Bool} {N : List (String × Addr)} {h0 h1 h2 : Heap} {lo : Nat} (kf : FrameX (· < lo) h1 h2) {a c : Addr}
    (hc : lo ≤ c) (r : ArgRel k N h0 h1 a c) : ArgRel k N h0 h2 a c := by
  obtain ⟨g, g', h1r, h2r, hk⟩ := r
  exact ⟨g, g', h1r, kf.readArg (Nat.not_lt.mpr hc) h2r, hk⟩

/-- members with the address bounds that make them stable -/
def ArgRelB (k : Bool) (N : List (String × Addr)) (h0 hout : Heap) (lo : Nat) (a c : Addr) : Prop := lo ≤ c ∧ ArgRel k N h0 hout a c

theorem forall2_argRel_keep {k : Bool} {N : List (String × Addr)} {h0 h1 h2 : Heap} {lo : Nat} (kf : FrameX (· < lo) h1 h2) :
    ∀ {as cs : List Addr}, All2 (ArgRelB k N h0 h1 lo) as cs → All2 (ArgRelB k N h0 h2 lo) as cs := by
  intro as cs hf
  induction hf with
  | nil => exact All2.nil
  | cons hd _ ih => exact All2.cons ⟨hd.1, hd.2.keep kf hd.1⟩ ih

/-- `_extend_argument` over a list of existing arguments: one rebuilt copy per argument, in order, all allocated at or after `lo` -/
theorem extendArgs_forall2 (k : Bool) (N : List (String × Addr)) (as : List Addr) (h0 h : Heap) (lo : Nat) (hlo : lo ≤ h.size)
    (fr : FrameX (fun x => h0.size ≤ x) h0 h) (hex : ∀ a, a ∈ as → ∃ g, h0.readArg a = some g) :
    All2 (ArgRelB k N h0 (extendArgs k N h as).1 lo) as (extendArgs k N h as).2 := by
  obtain ⟨_, os, f, e⟩ := (extendArgs_loop k N).out (FrameX.refl fun _ => False) FrameX.trans (fun h a => extendArgsX _ k N [a] h) as h
  rw [e]
  refine all2_of_run (fun a ha o ⟨s1, r1, e1, r2⟩ => ?_) f
  -- the round for `a` ran in a heap `s1` that still shows `a`; its copy is allocated at `s1.size` and only allocations follow
  obtain ⟨g, hg0⟩ := hex a ha
  have hg : s1.readArg a = some g := (fr.trans (r1.mono nofun)).readArg (Nat.not_le.mpr (readArg_lt hg0)) hg0
  simp only [extendArgs_one, hg] at e1 r2
  exact ⟨_, e1.symm, Nat.le_trans hlo r1.1, g, _, hg0, r2.readArg id (readArg_alloc_new _ _), ⟨rfl, rfl, rfl, rfl, rfl⟩⟩

def FieldRelB (cfg : Cfg) (N : List (String × Addr)) (h0 hout : Heap) (lo : Nat) (a c : Addr) : Prop :=
  lo ≤ c ∧ ∃ f f', h0.readField a = some f ∧ hout.readField c = some f' ∧ FieldKept cfg N f f' ∧
    All2 (ArgRelB cfg.extArgPy N h0 hout lo) f.args f'.args

theorem FieldRelB.keep {cfg : Cfg} {N : List (String × Addr)} {h0 h1 h2 : Heap} {lo : Nat} (kf : FrameX (· < lo) h1 h2) {a c : Addr}
    (r : FieldRelB cfg N h0 h1 lo a c) : FieldRelB cfg N h0 h2 lo a c := by
  obtain ⟨hc, f, f', h1r, h2r, hk, hargs⟩ := r
  exact ⟨hc, f, f', h1r, kf.readField (Nat.not_lt.mpr hc) h2r, hk, forall2_argRel_keep kf hargs⟩

theorem forall2_fieldRel_keep {cfg : Cfg} {N : List (String × Addr)} {h0 h1 h2 : Heap} {lo : Nat} (kf : FrameX (· < lo) h1 h2) :
    ∀ {as cs : List Addr}, All2 (FieldRelB cfg N h0 h1 lo) as cs → All2 (FieldRelB cfg N h0 h2 lo) as cs := by
  intro as cs hf
  induction hf with
  | nil => exact All2.nil
  | cons hd _ ih => exact All2.cons (hd.keep kf) ih

/-- `_extend_field` over the fields of a type: one rebuilt copy per field, in order, argument by argument, all allocated at or
    after `lo` -/
theorem extendFields_forall2 (cfg : Cfg) (N : List (String × Addr)) (as : List Addr) (h0 h : Heap) (lo : Nat) (hlo : lo ≤ h.size)
    (fr : FrameX (fun x => h0.size ≤ x) h0 h)
    (hex : ∀ a, a ∈ as → ∃ f, h0.readField a = some f ∧ ∀ x, x ∈ f.args → ∃ g, h0.readArg x = some g) :
    All2 (FieldRelB cfg N h0 (extendFields cfg N h as).1 lo) as (extendFields cfg N h as).2 := by
  obtain ⟨_, os, f, e⟩ := (extendFields_loop cfg N).out (FrameX.refl fun _ => False) FrameX.trans (fun h a => extendFieldsX _ cfg N [a] h) as h
  rw [e]
  refine all2_of_run (fun a ha o ⟨s1, r1, e1, r2⟩ => ?_) f
  obtain ⟨f0, hf0, hargs⟩ := hex a ha
  have fr1 := fr.trans (r1.mono nofun)
  have hf : s1.readField a = some f0 := fr1.readField (Nat.not_le.mpr (readField_lt hf0)) hf0
  simp only [extendFields_one, hf] at e1 r2
  have hlo1 := Nat.le_trans hlo r1.1
  -- the rebuilt arguments, then the field object, then the remaining fields: allocations only
  exact ⟨_, e1.symm, Nat.le_trans hlo1 (extendArgsX (fun _ => False) _ N f0.args s1).1, f0, _, hf0,
    r2.readField id (readField_alloc_new _ _), ⟨rfl, rfl, rfl, rfl, rfl, rfl, rfl⟩,
    forall2_argRel_keep ((allocX _ _ _).trans (r2.mono nofun)) (extendArgs_forall2 cfg.extArgPy N f0.args h0 s1 lo hlo1 fr1 hargs)⟩

/-- the rebuilt members `kept` of a type, by kind, element by element -/
def MembersRel (cfg : Cfg) (N : List (String × Addr)) (h0 hout : Heap) (lo : Nat) (t : TypeO) (kept : List Addr) : Prop :=
  match t.kind with
  | .input => All2 (ArgRelB cfg.extInputPy N h0 hout lo) t.fields kept
  | .object | .interface => All2 (FieldRelB cfg N h0 hout lo) t.fields kept
  | _ => kept = []

/-- the members of `t` exist in `h0` (what `wfB` says about a registered type) -/
def MembersReadable (h0 : Heap) (t : TypeO) : Prop :=
  match t.kind with
  | .input => ∀ a, a ∈ t.fields → ∃ g, h0.readArg a = some g
  | .object | .interface => ∀ a, a ∈ t.fields → ∃ f, h0.readField a = some f ∧ ∀ x, x ∈ f.args → ∃ g, h0.readArg x = some g
  | _ => True

theorem membersRel_iff {cfg : Cfg} {N : List (String × Addr)} {h0 hout : Heap} {lo : Nat} {t : TypeO} {kept : List Addr} :
    MembersRel cfg N h0 hout lo t kept ↔ ByKind t.kind (All2 (FieldRelB cfg N h0 hout lo) t.fields kept)
      (All2 (ArgRelB cfg.extInputPy N h0 hout lo) t.fields kept) (kept = []) := by
  simp only [MembersRel, ByKind]
  cases t.kind <;> exact Iff.rfl

theorem membersReadable_iff {h : Heap} {t : TypeO} :
    MembersReadable h t ↔ ByKind t.kind (∀ a, a ∈ t.fields → ∃ f, h.readField a = some f ∧ ∀ x, x ∈ f.args → ∃ g, h.readArg x = some g)
      (∀ a, a ∈ t.fields → ∃ g, h.readArg a = some g) := by
  simp only [MembersReadable, ByKind]
  cases t.kind <;> exact Iff.rfl

theorem membersReadable_of_shape (chk : Ref → Bool) (h0 : Heap) (a : Addr) (t : TypeO) (ht : h0.readType a = some t)
    (hs : typeShape chk h0 a = true) : MembersReadable h0 t := by
  rw [typeShape_eq chk h0 a t ht, Bool.and_eq_true] at hs
  have argRd : ∀ y, argShape chk h0 y = true → ∃ g, h0.readArg y = some g := fun y hy =>
    let ⟨g, hg, _⟩ := (argShape_iff chk h0 y).mp hy; ⟨g, hg⟩
  exact membersReadable_iff.mpr ((typeMembersOK_byKind.mp hs.2).imp
    (fun hm x hx => let ⟨f, hf, _, hargs⟩ := (fieldShape_iff chk h0 x).mp (hm x hx); ⟨f, hf, fun y hy => argRd y (hargs y hy)⟩)
    (fun hm x hx => argRd x (hm x hx)) id)

theorem typeShape_readable {chk : Ref → Bool} {h : Heap} {a : Addr} (hs : typeShape chk h a = true) :
    ∃ t, h.readType a = some t ∧ MembersReadable h t :=
  let ⟨t, ht, _⟩ := (typeShape_iff chk h a).mp hs
  ⟨t, ht, membersReadable_of_shape chk h a t ht hs⟩

theorem dirShape_readable {chk : Ref → Bool} {h : Heap} {a : Addr} (hs : dirShape chk h a = true) :
    ∃ d, h.readDir a = some d ∧ ∀ x, x ∈ d.args → ∃ g, h.readArg x = some g := by
  simp only [dirShape] at hs
  split at hs
  · rename_i d hd
    exact ⟨d, hd, fun x hx => let ⟨g, hg, _⟩ := (argShape_iff _ h x).mp (List.all_eq_true.mp hs x hx); ⟨g, hg⟩⟩
  · cases hs

theorem MembersRel.keep {cfg : Cfg} {N : List (String × Addr)} {h0 h1 h2 : Heap} {lo : Nat} (kf : FrameX (· < lo) h1 h2) {t : TypeO}
    {kept : List Addr} (r : MembersRel cfg N h0 h1 lo t kept) : MembersRel cfg N h0 h2 lo t kept :=
  membersRel_iff.mpr ((membersRel_iff.mp r).imp (forall2_fieldRel_keep kf) (forall2_argRel_keep kf) id)

theorem FieldRelB.weaken {cfg : Cfg} {N : List (String × Addr)} {h0 h1 : Heap} {lo lo' : Nat} (hl : lo' ≤ lo) {a c : Addr}
    (r : FieldRelB cfg N h0 h1 lo a c) : FieldRelB cfg N h0 h1 lo' a c := by
  obtain ⟨hc, f, f', r1, r2, r3, r4⟩ := r
  exact ⟨Nat.le_trans hl hc, f, f', r1, r2, r3, r4.imp fun _ _ hab => ⟨Nat.le_trans hl hab.1, hab.2⟩⟩

theorem MembersRel.weaken {cfg : Cfg} {N : List (String × Addr)} {h0 h1 : Heap} {lo lo' : Nat} (hl : lo' ≤ lo) {t : TypeO}
    {kept : List Addr} (r : MembersRel cfg N h0 h1 lo t kept) : MembersRel cfg N h0 h1 lo' t kept :=
  membersRel_iff.mpr ((membersRel_iff.mp r).imp (·.imp fun _ _ => .weaken hl) (·.imp fun _ _ hab => ⟨Nat.le_trans hl hab.1, hab.2⟩) id)

/-- the member list `_extend_*_type` passes to the constructor: the rebuilt old members, in order, then the added ones -/
theorem extendKids_spec (cfg : Cfg) (ext : Ext) (N Nin : List (String × Addr)) (h0 h : Heap) (t : TypeO)
    (fr : FrameX (fun x => h0.size ≤ x) h0 h) (hread : MembersReadable h0 t) :
    ∃ kept added, (extendKids cfg ext N Nin h t).2 = kept ++ added ∧
      MembersRel cfg N h0 (extendKids cfg ext N Nin h t).1 h.size t kept ∧
      (assocD ext.fields t.name = [] → assocD ext.inputFields t.name = [] → added = []) := by
  simp only [extendKids, MembersRel, MembersReadable] at hread ⊢
  cases hk : t.kind <;> simp only [hk] at hread ⊢
  · refine ⟨(extendFields cfg N h t.fields).2, _, rfl, ?_, ?_⟩
    · exact forall2_fieldRel_keep ((buildFieldsX _ N _ _)) (extendFields_forall2 cfg N t.fields h0 h h.size (Nat.le_refl _) fr hread)
    · intro h1 _; simp [h1, buildFields]
  · refine ⟨(extendFields cfg N h t.fields).2, _, rfl, ?_, ?_⟩
    · exact forall2_fieldRel_keep ((buildFieldsX _ N _ _)) (extendFields_forall2 cfg N t.fields h0 h h.size (Nat.le_refl _) fr hread)
    · intro h1 _; simp [h1, buildFields]
  · exact ⟨[], [], rfl, rfl, fun _ _ => rfl⟩
  · exact ⟨[], [], rfl, rfl, fun _ _ => rfl⟩
  · refine ⟨(extendArgs cfg.extInputPy N h t.fields).2, _, rfl, ?_, ?_⟩
    · exact forall2_argRel_keep ((buildArgsX _ Nin _ _)) (extendArgs_forall2 cfg.extInputPy N t.fields h0 h h.size (Nat.le_refl _) fr hread)
    · intro _ h2; simp [h2, buildArgs]
  · exact ⟨[], [], rfl, rfl, fun _ _ => rfl⟩

/-- what is left of `extend_schema` after `extendAll`: all writes go to placeholders -/
theorem extend_tail_keeps (cfg : Cfg) (N P : List (String × Addr)) (h1 : Heap) (s : Schema) (ext : Ext) (psize : Nat)
    (hP : ∀ n x, lookup P n = some x → x < psize) :
    KeepsFrom psize h1 (buildNewDirs cfg N (extendDirs cfg N (buildNewTypes N P h1 ext.newTypes) s.dirs).1 ext.newDirs).1 := by
  have f2 := (buildNewTypesX N P ext.newTypes h1).mono (W' := fun x => x < psize) (fun x ⟨e, _, hx⟩ => hP e.1 x hx)
  have f3 := extendDirsX (fun x => x < psize) cfg N s.dirs (buildNewTypes N P h1 ext.newTypes)
  have f4 := buildNewDirsX (fun x => x < psize) cfg N ext.newDirs (extendDirs cfg N (buildNewTypes N P h1 ext.newTypes) s.dirs).1
  exact keepsFrom_iff.mpr ((f2.trans f3).trans f4)

/-- PER-SCHEMA composition for one registered type: the object `extend_schema` registers under the name keeps the type-level
    attributes (`TypeKept`) AND its member list is the rebuilt copies of ALL old members, in order (`MembersRel`: attributes of
    every field, argument, input field kept as far as the constructors pass them on; every copy is a fresh object), followed by
    the members the extension adds — none if the extension does not name the type -/
theorem extend_type_full (cfg : Cfg) (hk : cfg.extKeepAll = true) (ext : Ext) (s : Schema) (h : Heap)
    (hnd : (s.types.map (·.1)).Nodup) (hnew : ∀ e, e ∈ ext.newTypes → e.1 ∉ s.types.map (·.1))
    (n : String) (a : Addr) (t : TypeO) (hm : (n, a) ∈ s.types) (hp : isProtected n = false) (ht : h.readType a = some t)
    (hread : MembersReadable h t) :
    ∃ N a' t' kept added, lookup (extend cfg ext s h).2.types n = some a' ∧ (extend cfg ext s h).1.readType a' = some t' ∧
      TypeKept cfg t t' ∧ t'.fields = kept ++ added ∧ MembersRel cfg N h (extend cfg ext s h).1 h.size t kept ∧
      (assocD ext.fields t.name = [] → assocD ext.inputFields t.name = [] → added = []) := by
  obtain ⟨na, hkk, hl, frk, hr, kf⟩ := extend_src_at cfg ext s h hnd hnew hm hp ht
  obtain ⟨kept, added, hfs, hrel, hadd⟩ := extendKids_spec cfg ext _ _ h hkk t frk hread
  exact ⟨_, na, _, kept, added, extend_types cfg ext s h hk ▸ hl, hr, rebuilt_kept cfg ext _ t _, hfs,
    (hrel.keep kf).weaken frk.1, hadd⟩

/-- directive entry `e'` of the result is the rebuilt copy of directive entry `e` of the source -/
def DirRelB (cfg : Cfg) (N : List (String × Addr)) (h0 hout : Heap) (lo : Nat) (e e' : String × Addr) : Prop :=
  e'.1 = e.1 ∧ lo ≤ e'.2 ∧ ∃ d d', h0.readDir e.2 = some d ∧ hout.readDir e'.2 = some d' ∧
    d'.name = d.name ∧ d'.locs = d.locs ∧ d'.desc = d.desc ∧ All2 (ArgRelB cfg.extArgPy N h0 hout lo) d.args d'.args

theorem DirRelB.keep {cfg : Cfg} {N : List (String × Addr)} {h0 h1 h2 : Heap} {lo : Nat} (kf : FrameX (· < lo) h1 h2) {e e' : String × Addr}
    (r : DirRelB cfg N h0 h1 lo e e') : DirRelB cfg N h0 h2 lo e e' := by
  obtain ⟨hn, hc, d, d', h1r, h2r, r1, r2, r3, hargs⟩ := r
  exact ⟨hn, hc, d, d', h1r, kf.readDir (Nat.not_lt.mpr hc) h2r, r1, r2, r3, forall2_argRel_keep kf hargs⟩

theorem extendDirs_forall2 (cfg : Cfg) (N : List (String × Addr)) (l : List (String × Addr)) (h0 h : Heap) (lo : Nat) (hlo : lo ≤ h.size)
    (fr : FrameX (fun x => h0.size ≤ x) h0 h)
    (hex : ∀ e, e ∈ l → ∃ d, h0.readDir e.2 = some d ∧ ∀ x, x ∈ d.args → ∃ g, h0.readArg x = some g) :
    All2 (DirRelB cfg N h0 (extendDirs cfg N h l).1 lo) l (extendDirs cfg N h l).2 := by
  obtain ⟨_, os, f, e⟩ := (extendDirs_loop cfg N).out (FrameX.refl fun _ => False) FrameX.trans (fun h a => extendDirsX _ cfg N [a] h) l h
  rw [e]
  refine all2_of_run (fun a ha o ⟨s1, r1, e1, r2⟩ => ?_) f
  obtain ⟨d, hd0, hargs⟩ := hex a ha
  have fr1 := fr.trans (r1.mono nofun)
  have hd : s1.readDir a.2 = some d := fr1.readDir (Nat.not_le.mpr (read_lt h0 a.2 _ (readDir_read hd0))) hd0
  simp only [extendDirs_one, hd] at e1 r2
  have hlo1 := Nat.le_trans hlo r1.1
  exact ⟨_, e1.symm, rfl, Nat.le_trans hlo1 (extendArgsX (fun _ => False) _ N d.args s1).1, d, _, hd0,
    r2.readDir id (readDir_alloc_new _ _), rfl, rfl, rfl,
    forall2_argRel_keep ((allocX _ _ _).trans (r2.mono nofun)) (extendArgs_forall2 cfg.extArgPy N d.args h0 s1 lo hlo1 fr1 hargs)⟩

theorem all2_lookup {R : String × Addr → String × Addr → Prop} (hR : ∀ e e', R e e' → e'.1 = e.1) :
    ∀ {l l' : List (String × Addr)}, All2 R l l' → (l.map (·.1)).Nodup → ∀ e, e ∈ l → ∃ a', lookup l' e.1 = some a' ∧ R e (e.1, a') := by
  intro l l' hall
  induction hall with
  | nil => intro _ e he; simp at he
  | @cons x y xs ys hxy _ ih =>
    intro hn e he
    simp only [List.map_cons, List.nodup_cons] at hn
    simp only [List.mem_cons] at he
    have hyx := hR x y hxy
    rcases he with rfl | he
    · refine ⟨y.2, ?_, ?_⟩
      · simp [lookup, hyx]
      · have : (e.1, y.2) = y := by rw [← hyx]
        rw [this]; exact hxy
    · obtain ⟨a', h1, h2⟩ := ih hn.2 e he
      refine ⟨a', ?_, h2⟩
      have hne : (y.1 == e.1) = false := by
        cases hq : (y.1 == e.1) with
        | false => rfl
        | true =>
          exfalso
          rw [hyx] at hq
          exact hn.1 (List.mem_map.mpr ⟨e, he, (beq_iff_eq.mp hq).symm⟩)
      simp only [lookup, List.find?_cons, hne]
      exact h1

theorem lookup_append_left' {A B : List (String × Addr)} {n : String} {x : Addr} (h : lookup A n = some x) : lookup (A ++ B) n = some x := by
  simp only [lookup, List.find?_append, Option.map_eq_some_iff] at h ⊢
  obtain ⟨e, he, rfl⟩ := h
  exact ⟨e, by simp [he], rfl⟩

/-- every registered directive: the result registers a rebuilt copy under the same name, argument by argument; the references
    of the copies were resolved through the protected entries followed by the placeholders -/
theorem extend_dir_rebuilt (cfg : Cfg) (ext : Ext) (s : Schema) (h : Heap) (hnd : (s.dirs.map (·.1)).Nodup)
    (hread : ∀ e, e ∈ s.dirs → ∃ d, h.readDir e.2 = some d ∧ ∀ x, x ∈ d.args → ∃ g, h.readArg x = some g)
    (e : String × Addr) (he : e ∈ s.dirs) :
    ∃ a', lookup (extend cfg ext s h).2.dirs e.1 = some a' ∧ DirRelB cfg (extN ext s h) h (extend cfg ext s h).1 h.size e (e.1, a') := by
  obtain ⟨f0, f1, f2, _, f4⟩ := ext_frames cfg ext s h
  -- the heap in which the directives are rebuilt: only placeholders (≥ h.size) were written so far
  have fr2 := (((f0 _).trans f1).trans f2).mono (W' := fun x => h.size ≤ x) fun _ hx => hx.1
  obtain ⟨a', hl, hr⟩ := all2_lookup (fun e e' r => r.1) (extendDirs_forall2 cfg (extN ext s h) s.dirs h _ h.size fr2.1 fr2 hread) hnd e he
  exact ⟨a', extend_dirs cfg ext s h ▸ lookup_append_left' hl, hr.keep ((f4 _))⟩

theorem extend_dir_full (cfg : Cfg) (ext : Ext) (s : Schema) (h : Heap) (hndT : (s.types.map (·.1)).Nodup) (hnd : (s.dirs.map (·.1)).Nodup)
    (hread : ∀ e, e ∈ s.dirs → ∃ d, h.readDir e.2 = some d ∧ ∀ x, x ∈ d.args → ∃ g, h.readArg x = some g)
    (e : String × Addr) (he : e ∈ s.dirs) :
    ∃ N a', lookup (extend cfg ext s h).2.dirs e.1 = some a' ∧ DirRelB cfg N h (extend cfg ext s h).1 h.size e (e.1, a') :=
  ⟨_, extend_dir_rebuilt cfg ext s h hnd hread e he⟩

end PyGql.Heap.Own
