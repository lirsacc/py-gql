/-
  Selections — fields (alias, arguments, directives, nested selection sets), fragment spreads, inline fragments (with
  the `on` look-ahead), selection sets: soundness (WF, spans) and exact completeness.  `FirstIn` says which token kinds
  an optional part can begin with; it is how a step learns what follows it from the items that come next.
-/
import PyGqlModel.Lemmas.ParseArgs
namespace PyGql.Parse
open PyGql PyGql.Ast PyGql.Spec

/-- if the items consume anything, the first token's kind is in `F` -/
def FirstIn (fl : Flags) (F : List TokKind) (is : List Item) : Prop :=
  ∀ l ts l' rest, Item.checkAll fl is l ts = some (l', rest) →
    (ts = rest ∧ l' = l) ∨ ∃ t tl, ts = t :: tl ∧ t.kind ∈ F

theorem FirstIn.nil (fl : Flags) (F : List TokKind) : FirstIn fl F [] := by
  intro l ts l' rest h
  rw [checkAll_nil] at h; cases h; exact Or.inl ⟨rfl, rfl⟩

theorem FirstIn.append {fl : Flags} {F1 F2 : List TokKind} {is1 is2 : List Item}
    (h1 : FirstIn fl F1 is1) (h2 : FirstIn fl F2 is2) : FirstIn fl (F1 ++ F2) (is1 ++ is2) := by
  intro l ts l' rest h
  rw [checkAll_append] at h
  obtain ⟨l1, ts1, a, b⟩ := h
  rcases h1 _ _ _ _ a with ⟨rfl, rfl⟩ | ⟨t, tl, rfl, hk⟩
  · rcases h2 _ _ _ _ b with ⟨rfl, rfl⟩ | ⟨t, tl, rfl, hk⟩
    · exact Or.inl ⟨rfl, rfl⟩
    · exact Or.inr ⟨t, tl, rfl, by simp [hk]⟩
  · exact Or.inr ⟨t, tl, rfl, by simp [hk]⟩

theorem FirstIn.mono {fl : Flags} {F F' : List TokKind} {is : List Item} (h : FirstIn fl F is)
    (hs : ∀ k ∈ F, k ∈ F') : FirstIn fl F' is := by
  intro l ts l' rest hc
  rcases h _ _ _ _ hc with e | ⟨t, tl, rfl, hk⟩
  · exact Or.inl e
  · exact Or.inr ⟨t, tl, rfl, hs _ hk⟩

theorem FirstIn.tok (fl : Flags) (k : TokKind) (v : Text) (is : List Item) : FirstIn fl [k] (Item.tok k v :: is) := by
  intro l ts l' rest h
  simp only [checkAll_cons, check_tok] at h
  obtain ⟨l1, ts1, ⟨t, rfl, hc, _⟩, _⟩ := h
  exact Or.inr ⟨t, _, rfl, by simp [cls_kind hc]⟩

theorem FirstIn.node_tok (fl : Flags) (loc : Loc) (k : TokKind) (v : Text) (is js : List Item) :
    FirstIn fl [k] (Item.node loc (Item.tok k v :: is) :: js) := by
  intro l ts l' rest h
  simp only [checkAll_cons, check_node, check_tok] at h
  obtain ⟨l1, ts1, ⟨f, tl, rfl, ⟨l2, ts2, ⟨t, h1, hc, _⟩, _⟩, _⟩, _⟩ := h
  cases h1
  exact Or.inr ⟨_, _, rfl, by simp [cls_kind hc]⟩

theorem FirstIn.use {fl : Flags} {F ks : List TokKind} {is : List Item} (hF : FirstIn fl F is)
    {l l' : Tok} {ts rest : List Tok} (h : Item.checkAll fl is l ts = some (l', rest))
    (hr : NotK ks rest) (hd : ∀ k ∈ F, k ∉ ks) : NotK ks ts := by
  rcases hF _ _ _ _ h with ⟨rfl, _⟩ | ⟨t, tl, rfl, hk⟩
  · exact hr
  · exact NotK.cons (hd _ hk)

/-- the same when items `js` that cannot be empty come after: what follows them is irrelevant -/
theorem FirstIn.use_then {fl : Flags} {F ks : List TokKind} {is js : List Item} (hF : FirstIn fl F is)
    {l : Tok} {ts : List Tok} {r : Tok × List Tok} (h : Item.checkAll fl (is ++ js) l ts = some r)
    (hjs : ∀ {l ts}, Item.checkAll fl js l ts = some r → NotK ks ts) (hd : ∀ k ∈ F, k ∉ ks) : NotK ks ts := by
  obtain ⟨l1, ts1, h1, h2⟩ := (checkAll_append ..).1 h
  exact hF.use h1 (hjs h2) hd

theorem firstIn_groupV {α} (fl : Flags) (opn close : TokKind) (V : α → Item) (xs : List α) :
    FirstIn fl [opn] (groupV opn close V xs) := by
  cases xs with
  | nil => simpa [groupV] using FirstIn.nil fl [opn]
  | cons x xs => simpa [groupV] using FirstIn.tok fl opn [] _

theorem firstIn_argumentsV (fl : Flags) (as : List Argument) : FirstIn fl [.parenL] (argumentsV as) :=
  firstIn_groupV fl _ _ _ as

theorem firstIn_directivesV (fl : Flags) (ds : List Directive) : FirstIn fl [.atSign] (directivesV ds) := by
  cases ds with
  | nil => simpa [directivesV] using FirstIn.nil fl [.atSign]
  | cons d ds => simpa [directivesV, directiveV] using FirstIn.node_tok fl d.loc .atSign [] _ _

theorem firstIn_optSelectionSetV (fl : Flags) (ss : Option SelectionSet) :
    FirstIn fl [.curlyL] (optSelectionSetV ss) := by
  cases ss with
  | none => simpa [optSelectionSetV] using FirstIn.nil fl [.curlyL]
  | some ss =>
    cases ss with
    | mk sels loc => simpa [optSelectionSetV, selectionSetV] using FirstIn.node_tok fl loc .curlyL [] _ _


def aliasV (al : Option Name) : List Item :=
  match al with
  | none => []
  | some a => [nameV a, p .colon]

def tcV (tc : Option NamedType) : List Item :=
  match tc with
  | none => []
  | some t => [kw K.on, namedTypeV t]

theorem selectionV_field (al : Option Name) (nm : Name) (as : List Argument) (ds : List Directive)
    (ss : Option SelectionSet) (loc : Loc) :
    selectionV (.field al nm as ds ss loc) =
      .node loc (aliasV al ++ nameV nm :: (argumentsV as ++ directivesV ds ++ optSelectionSetV ss)) := by
  cases al <;> simp [selectionV, aliasV]

theorem selectionV_inline (tc : Option NamedType) (ds : List Directive) (ss : SelectionSet) (loc : Loc) :
    selectionV (.inlineFragment tc ds ss loc) =
      .node loc (p .ellip :: (tcV tc ++ directivesV ds ++ [selectionSetV ss])) := by
  cases tc <;> simp [selectionV, tcV]

theorem optSelectionSetV_eq (o : Option SelectionSet) : optSelectionSetV o = optV selectionSetV o := by
  cases o <;> rfl

/-- `Alias? Name`: the name read first is the alias exactly when a colon follows it -/
theorem SoundK.alias {fl : Flags} {st : Tok} {acc : List Item → List Item} {β} {g : Option Name × Name → P β}
    {Q : β → Prop} {V : β → Item}
    (hg : ∀ al nm, SoundK fl st (fun tl => acc (aliasV al ++ nameV nm :: tl)) (g (al, nm)) Q V) :
    SoundK fl st acc (parseName fl >>= fun noa =>
      (do if (← skip .colon) then do
            let name ← parseName fl
            pure (some noa, name)
          else pure (none, noa) : P (Option Name × Name)) >>= g) Q V := by
  intro s0 tl0 s x s' h0 hacc hq
  obtain ⟨noa, s1, hn, hq⟩ := bind_inv hq
  obtain ⟨⟨al, nm⟩, s2, hal, hq⟩ := bind_inv hq
  have cn := (parseName_sound fl _ _ _ hn).2
  refine hg al nm s0 tl0 s2 x s' h0 (fun tl r ht => hacc _ r ?_) hq
  obtain ⟨b, s3, hsk, hx⟩ := bind_inv hal
  obtain ⟨t, ts, h8, hb⟩ := (skip_ok ..).1 hsk
  rcases hb with ⟨hk, rfl, rfl⟩ | ⟨hk, rfl, rfl⟩
  · obtain ⟨n2, s9, hn2, hx⟩ := bind_inv hx
    cases hx
    exact chkA_cons cn (chkA_cons (chk_tok h8 (cls_const hk rfl)) (chkA_cons (parseName_sound fl _ _ _ hn2).2 ht))
  · cases hx
    exact chkA_cons cn ht

theorem parseFieldWith_sound {fl : Flags} (fuel : Nat) {pss : P SelectionSet}
    (hpss : Sound fl pss (fun x => wfSelectionSet x = true) selectionSetV) :
    Sound fl (parseFieldWith fl fuel pss) (fun x => wfSelection x = true) selectionV :=
  .node fun _ => .alias fun _ _ => .app (parseArguments_sound fl fuel false) fun _ wa =>
    .app (parseDirectives_sound fl fuel false) fun _ wd => .last (optPeek_sound hpss) fun oss _ wss =>
    ⟨by cases oss <;> simp_all [wfSelection, wfOptSelectionSet],
      by rw [selectionV_field, optSelectionSetV_eq, List.append_assoc]⟩

theorem parseFragmentName_sound (fl : Flags) : Sound fl (parseFragmentName fl) (fun n => n.value ≠ K.on) nameV := by
  intro s n s' h
  unfold parseFragmentName at h
  obtain ⟨t, ts, h1, h⟩ := peek_bind h
  rcases ite_inv h with ⟨_, h⟩ | ⟨hv, hn⟩
  · exact ((fail_ok ..).1 h).elim
  refine ⟨?_, (parseName_sound fl _ _ _ hn).2⟩
  obtain ⟨t', ts', h2, _, rfl, _⟩ := (parseName_ok ..).1 hn
  rw [h1] at h2
  cases h2
  exact hv

theorem parseFragmentWith_sound {fl : Flags} (fuel : Nat) {pss : P SelectionSet}
    (hpss : Sound fl pss (fun x => wfSelectionSet x = true) selectionSetV) :
    Sound fl (parseFragmentWith fl fuel pss) (fun x => wfSelection x = true) selectionV := by
  intro s f s' h
  unfold parseFragmentWith at h
  obtain ⟨st, ts, h1, h⟩ := peek_bind h
  obtain ⟨el, ts2, h2, hk2, h⟩ := expect_bind h
  obtain ⟨lead, ts3, h3, h⟩ := peek_bind h
  have cel := chk_tok (fl := fl) (l := s.last) h2 (cls_const hk2 rfl)
  rcases ite_inv h with ⟨_, h⟩ | ⟨hcond, h⟩
  · -- fragment spread
    obtain ⟨nm, s4, hn, h⟩ := bind_inv h
    obtain ⟨ds, s5, hd, h⟩ := bind_inv h
    cases h
    obtain ⟨hne, cn⟩ := parseFragmentName_sound fl _ _ _ hn
    obtain ⟨wd, cd⟩ := parseDirectives_sound fl _ _ _ _ _ hd
    exact ⟨by simp [wfSelection, hne, wd], chk_node h1 (chkA_cons cel (chkA_cons cn cd))⟩
  · -- inline fragment
    obtain ⟨tc, s4, htc, h⟩ := bind_inv h
    obtain ⟨ds, s5, hd, h⟩ := bind_inv h
    obtain ⟨ss, s6, hs, h⟩ := bind_inv h
    cases h
    obtain ⟨wd, cd⟩ := parseDirectives_sound fl _ _ _ _ _ hd
    obtain ⟨ws, cs⟩ := hpss _ _ _ hs
    have htc' : Item.checkAll fl (tcV tc) el ts2 = some (s4.last, s4.toks) := by
      rcases ite_inv htc with ⟨hon, htc⟩ | ⟨_, htc⟩
      · obtain ⟨t, s8, ha, htc⟩ := bind_inv htc
        obtain ⟨ts8, h8, rfl⟩ := (advance_ok ..).1 ha
        obtain ⟨nt, s9, hnt, htc⟩ := bind_inv htc
        cases htc
        rw [h3] at h8
        cases h8
        simp only [decide_eq_true_eq] at hon
        exact chkA_cons (chk_tok h3 (cls_kw hon.1 hon.2)) (chkA_one (parseNamedType_sound fl _ _ _ hnt).2)
      · cases htc
        exact rfl
    refine ⟨by simp [wfSelection, wd, ws], ?_⟩
    rw [selectionV_inline]
    refine chk_node h1 (chkA_cons cel ?_)
    rw [List.append_assoc]
    exact chkA_app htc' (chkA_app cd (chkA_one cs))

theorem selectionsV_eq (ss : List Selection) : selectionsV ss = ss.map selectionV := by
  induction ss with
  | nil => simp [selectionsV]
  | cons v vs ih => simp [selectionsV, ih]

theorem wfSelections_eq (ss : List Selection) : wfSelections ss = true ↔ ∀ x ∈ ss, wfSelection x = true := by
  induction ss with
  | nil => simp [wfSelections]
  | cons v vs ih => simp [wfSelections, ih]

theorem parseSelectionSetWith_sound {fl : Flags} (fuel : Nat) {psel : P Selection}
    (hpsel : Sound fl psel (fun x => wfSelection x = true) selectionV) :
    Sound fl (parseSelectionSetWith fl fuel psel) (fun x => wfSelectionSet x = true) selectionSetV :=
  .node fun _ => .last (many_sound rfl rfl hpsel fuel) fun sels _ w =>
    ⟨by simp only [wfSelectionSet, Bool.and_eq_true, wfSelections_eq]; exact ⟨by cases sels <;> simp_all, w.2⟩,
      by rw [selectionSetV, selectionsV_eq]⟩

theorem parseSelection_sound (fl : Flags) (fuel n : Nat) :
    Sound fl (parseSelection fl fuel n) (fun x => wfSelection x = true) selectionV := by
  induction n with
  | zero => intro s x s' h; simp [parseSelection, fail_ok] at h
  | succ n ih =>
    intro s x s' h
    have hss := parseSelectionSetWith_sound fuel ih
    rw [parseSelection] at h
    obtain ⟨t, ts, h1, h⟩ := peek_bind h
    rcases ite_inv h with ⟨_, h⟩ | ⟨_, h⟩
    · exact parseFragmentWith_sound fuel hss _ _ _ h
    · exact parseFieldWith_sound fuel hss _ _ _ h

theorem parseSelectionSet_sound (fl : Flags) (fuel : Nat) :
    Sound fl (parseSelectionSet fl fuel) (fun x => wfSelectionSet x = true) selectionSetV :=
  parseSelectionSetWith_sound fuel (parseSelection_sound fl fuel fuel)

/-- what follows a selection: not `:`, `(`, `@`, `{` (in a selection set: the next selection or `}`) -/
abbrev FollowSel (rest : List Tok) : Prop := NotK [.colon, .parenL, .atSign, .curlyL] rest

theorem selectionSetV_first {fl : Flags} {ss : SelectionSet} {l : Tok} {ts : List Tok} {r : Tok × List Tok}
    (h : (selectionSetV ss).check fl l ts = some r) : ∃ t tl, ts = t :: tl ∧ t.kind = .curlyL := by
  cases ss with
  | mk sels loc => exact node_first h

/-- `Alias? Name`: the name read first is the alias exactly when a colon follows it -/
theorem Takes.alias {fl : Flags} {n : Nat} {β} {al : Option Name} {nm : Name} {is : List Item}
    {g : Option Name × Name → P β} {b : Tok → β} {Fol : List Tok → Prop}
    (hfol : ∀ {l ts l' rest}, Item.checkAll fl is l ts = some (l', rest) → Fol rest → NotK [.colon] ts)
    (hg : Takes fl n (g (al, nm)) b is Fol) :
    Takes fl n (parseName fl >>= fun noa =>
      (do if (← skip .colon) then do
            let name ← parseName fl
            pure (some noa, name)
          else pure (none, noa) : P (Option Name × Name)) >>= g) b (aliasV al ++ nameV nm :: is) Fol := by
  cases al with
  | none =>
    refine Takes.stepF (Fol1 := NotK [.colon]) (fun l ts l' rest _ h _ => parseName_complete fl nm l l' ts rest h) hfol ?_
    intro l ts l' rest hn h hr
    obtain ⟨t, tl, rfl, hk⟩ := hfol h hr
    exact bind_run (bind_run (skip_neg (by simpa using hk) ..) rfl) (hg l _ l' rest hn h hr)
  | some a =>
    show Takes fl n _ b (nameV a :: Spec.p .colon :: nameV nm :: is) Fol
    exact Takes.step (parseName_takes fl n a) fun l ts l' rest hn h hr => by
      simp only [checkAll_cons, check_tok] at h
      obtain ⟨l1, ts1, ⟨t, rfl, hc, rfl⟩, l2, ts2, hn2, h2⟩ := h
      exact bind_run (bind_run (skip_pos (cls_kind hc) ..) (bind_run (parseName_complete fl nm _ _ _ _ hn2) rfl))
        (hg l2 ts2 l' rest (Nat.le_trans (check_len hn2) (Nat.le_of_succ_le hn)) h2 hr)

theorem parseFieldWith_takes (fl : Flags) {m fuel : Nat} (hm : m ≤ fuel) {pss : P SelectionSet}
    (hpss : ∀ ss, wfSelectionSet ss = true → Takes1 fl m pss ss (selectionSetV ss) Any)
    (al : Option Name) (nm : Name) (as : List Argument) (ds : List Directive) (oss : Option SelectionSet) (loc : Loc)
    (w : wfSelection (.field al nm as ds oss loc) = true) :
    Takes1 fl m (parseFieldWith fl fuel pss) (.field al nm as ds oss loc) (selectionV (.field al nm as ds oss loc))
      FollowSel := by
  simp only [wfSelection, Bool.and_eq_true, List.all_eq_true] at w
  obtain ⟨⟨wa, wd⟩, wss⟩ := w
  rw [selectionV_field, optSelectionSetV_eq, List.append_assoc]
  have fss : FirstIn fl [.curlyL] (optV selectionSetV oss) := optSelectionSetV_eq oss ▸ firstIn_optSelectionSetV fl oss
  have fd := (firstIn_directivesV fl ds).append fss
  exact .node fun _ =>
    .alias (fun h hr => ((firstIn_argumentsV fl as).append fd).use h (NotK.mono hr (by decide)) (by decide)) <|
    .appF ((parseArguments_takes fl fuel false as wa).mono hm)
      (fun h hr _ => fd.use h (NotK.mono hr (by decide)) (by decide)) <|
    .appF ((parseDirectives_takes fl fuel false ds wd).mono hm)
      (fun h hr => fss.use h (NotK.mono hr (by decide)) (by decide)) <|
    .lastF (optPeek_takes oss (fun ss e => hpss ss (by subst e; exact wss))
      (fun ss l ts r _ h => selectionSetV_first h)) (fun hr _ => NotK.mono hr (by decide)) <| .done _ _

theorem parseFragmentName_takes (fl : Flags) (n : Nat) (nm : Name) (hne : nm.value ≠ K.on) :
    Takes1 fl n (parseFragmentName fl) nm (nameV nm) Any := by
  intro l ts l' rest _ h _
  obtain ⟨t, tl, rfl, _, hv⟩ := nameV_tok h
  exact bind_run (peek_cons ..) (if_neg (hv ▸ hne) ▸ parseName_complete fl nm l l' _ rest h)

/-- after `...` the parser looks at one more token: a name other than `on` announces a spread -/
theorem parseFragmentWith_spread_takes (fl : Flags) {m fuel : Nat} (hm : m ≤ fuel) (pss : P SelectionSet)
    (nm : Name) (ds : List Directive) (loc : Loc) (w : wfSelection (.fragmentSpread nm ds loc) = true) :
    Takes1 fl m (parseFragmentWith fl fuel pss) (.fragmentSpread nm ds loc) (selectionV (.fragmentSpread nm ds loc))
      FollowSel := by
  simp only [wfSelection, Bool.and_eq_true, decide_eq_true_eq] at w
  have hne : nm.value ≠ K.on := by simpa using w.1
  exact .node fun _ => .tok fun _ =>
    .look (H := fun t => t.kind = .name ∧ t.value = nm.value)
      (fun h => by
        obtain ⟨_, _, hnm, _⟩ := (checkAll_cons ..).1 h
        exact nameV_tok hnm) fun t ht =>
    .pos (by simp [ht.1, ht.2, hne]) <| .step (parseFragmentName_takes fl m nm hne) <|
    .lastF ((parseDirectives_takes fl fuel false ds w.2).mono hm) (fun hr => NotK.mono hr (by decide)) <| .done _ _

/-- `TypeCondition?` once the token looked at after `...` is known to be the keyword `on`, or not to be a name -/
theorem typeCondition_takes (fl : Flags) (n : Nat) (tc : Option NamedType) {c : Prop} [Decidable c]
    (hc : c ↔ tc.isSome = true) :
    Takes fl n (if c then advance >>= fun _ => parseNamedType fl >>= fun t => pure (some t) else pure none : P _)
      (fun _ => tc) (tcV tc) Any := by
  cases tc with
  | none => exact .guard (by simp [hc]) (.ret none)
  | some nt => exact .pos (by simp [hc]) <| .adv fun _ => .step (parseNamedType_takes fl n nt) <| .ret (some nt)

theorem parseFragmentWith_inline_takes (fl : Flags) {m fuel : Nat} (hm : m ≤ fuel) {pss : P SelectionSet}
    (hpss : ∀ ss, wfSelectionSet ss = true → Takes1 fl m pss ss (selectionSetV ss) Any)
    (tc : Option NamedType) (ds : List Directive) (ss : SelectionSet) (loc : Loc)
    (w : wfSelection (.inlineFragment tc ds ss loc) = true) :
    Takes1 fl m (parseFragmentWith fl fuel pss) (.inlineFragment tc ds ss loc)
      (selectionV (.inlineFragment tc ds ss loc)) Any := by
  simp only [wfSelection, Bool.and_eq_true] at w
  rw [selectionV_inline, List.append_assoc]
  -- the token looked at after `...`: the keyword `on` with a type condition, else the `@` or `{` that comes next
  have hlead : ∀ {l ts r}, Item.checkAll fl (tcV tc ++ (directivesV ds ++ [selectionSetV ss])) l ts = some r →
      ∃ t tl, ts = t :: tl ∧ (t.kind = .name ↔ tc.isSome = true) ∧ (t.kind = .name → t.value = K.on) := by
    intro l ts r h
    cases tc with
    | some nt =>
      obtain ⟨_, _, h1, _⟩ := (checkAll_cons ..).1 h
      obtain ⟨t, rfl, hc, _⟩ := (check_tok ..).1 h1
      exact ⟨t, _, rfl, by simp [(cls_kw_inv hc).1], fun _ => (cls_kw_inv hc).2⟩
    | none =>
      obtain ⟨t, tl, rfl, hk⟩ : NotK [.name] ts := (firstIn_directivesV fl ds).use_then h
        (fun h => by cases ss; exact NotK.of_node_tok h (by decide)) (by decide)
      have hk' : t.kind ≠ .name := by simpa using hk
      exact ⟨t, tl, rfl, by simp [hk'], fun e => (hk' e).elim⟩
  have hon : ∀ {t : Tok}, (t.kind = .name ↔ tc.isSome = true) ∧ (t.kind = .name → t.value = K.on) →
      (decide (t.kind = .name ∧ t.value = K.on) = true ↔ tc.isSome = true) := fun ht => by
    rw [decide_eq_true_iff]
    exact ⟨fun e => ht.1.1 e.1, fun e => ⟨ht.1.2 e, ht.2 (ht.1.2 e)⟩⟩
  exact .node fun _ => .tok fun _ => .look hlead fun t ht =>
    .guard (fun e => e.2 ((hon ht).2 (ht.1.1 e.1))) <| .app (typeCondition_takes fl m tc (hon ht)) <|
    .appF ((parseDirectives_takes fl fuel false ds w.1).mono hm)
      (fun h _ => by cases ss; exact NotK.of_node_tok h (by decide)) <|
    .step (hpss ss w.2) <| .done _ _

theorem selectionV_first {fl : Flags} {x : Selection} {l : Tok} {ts : List Tok} {r : Tok × List Tok}
    (h : (selectionV x).check fl l ts = some r) :
    ∃ t tl, ts = t :: tl ∧ t.kind = (match (generalizing := false) x with | .field .. => .name | _ => .ellip) := by
  rcases r with ⟨l', rest⟩
  cases x with
  | field al nm as ds oss loc =>
    simp only [selectionV_field, check_node] at h
    obtain ⟨f, tl, rfl, hall, _⟩ := h
    refine ⟨f, tl, rfl, ?_⟩
    -- the first item is the name of the alias, or the field's name
    have hn : ∃ n is r, Item.checkAll fl (nameV n :: is) l (f :: tl) = some r := by
      cases al with
      | none => exact ⟨_, _, _, hall⟩
      | some a => exact ⟨_, _, _, hall⟩
    obtain ⟨n, is, r, hn⟩ := hn
    rw [checkAll_cons] at hn
    obtain ⟨_, _, hn, _⟩ := hn
    obtain ⟨_, _, e, hk⟩ := nameV_first hn
    cases e
    exact hk
  | fragmentSpread nm ds loc => exact node_first h
  | inlineFragment tc ds ss loc =>
    rw [selectionV_inline] at h
    exact node_first h

theorem selectionV_width (x : Selection) : 1 ≤ (selectionV x).yield.length := by
  cases x with
  | field al nm as ds oss loc =>
    cases al <;> simp [selectionV_field, aliasV, nameV, Item.yield, Item.yieldAll, yieldAll_append] <;> omega
  | fragmentSpread nm ds loc => simp [selectionV, Item.yield, Item.yieldAll]
  | inlineFragment tc ds ss loc => simp [selectionV_inline, Item.yield, Item.yieldAll]

theorem parseSelectionSetWith_takes (fl : Flags) {m fuel : Nat} (hm : m ≤ fuel) {psel : P Selection}
    (ss : SelectionSet) (w : wfSelectionSet ss = true)
    (hpsel : ∀ x, wfSelection x = true → Takes1 fl (m - 1) psel x (selectionV x) FollowSel) :
    Takes1 fl m (parseSelectionSetWith fl fuel psel) ss (selectionSetV ss) Any := by
  rcases ss with ⟨sels, loc⟩
  simp only [wfSelectionSet, Bool.and_eq_true, wfSelections_eq] at w
  rw [selectionSetV, selectionsV_eq]
  refine .node fun _ => .lastF (Fol1 := Any) (many_takes selectionV_width hm (by cases sels <;> simp_all)
    (fun x hx => hpsel x (w.2 x hx)) ?_ (fun t tl hk => NotK.cons (by simp [hk]))) (fun _ => trivial) (.done _ _)
  intro x _ l ts r hc
  obtain ⟨t, tl', rfl, hk⟩ := selectionV_first hc
  have hk' : t.kind = .name ∨ t.kind = .ellip := by cases x <;> simp [hk]
  rcases hk' with hk | hk <;> exact ⟨NotK.cons (by simp [hk]), NotK.cons (by simp [hk])⟩

theorem parseSelection_takes (fl : Flags) (fuel : Nat) : ∀ (n : Nat), n ≤ fuel → ∀ x, wfSelection x = true →
    Takes1 fl n (parseSelection fl fuel n) x (selectionV x) FollowSel := by
  intro n
  induction n with
  | zero =>
    intro _ x _ l ts l' rest hn h
    obtain ⟨t, tl, rfl, _⟩ := selectionV_first h
    simp at hn
  | succ n ih =>
    intro hm x w l ts l' rest hn h hfol
    obtain ⟨t, tl, rfl, hk⟩ := selectionV_first h
    have hpss : ∀ ss, wfSelectionSet ss = true → Takes1 fl (n + 1)
        (parseSelectionSetWith fl fuel (parseSelection fl fuel n)) ss (selectionSetV ss) Any :=
      fun ss wss => parseSelectionSetWith_takes fl hm ss wss (ih (Nat.le_of_succ_le hm))
    cases x with
    | field al nm as ds oss loc =>
      have hk' : t.kind ≠ .ellip := by rw [show t.kind = .name from hk]; decide
      exact bind_run (peek_cons ..) (if_neg hk' ▸ parseFieldWith_takes fl hm hpss al nm as ds oss loc w l _ l' rest hn h hfol)
    | fragmentSpread nm ds loc =>
      exact bind_run (peek_cons ..) (if_pos hk ▸ parseFragmentWith_spread_takes fl hm _ nm ds loc w l _ l' rest hn h hfol)
    | inlineFragment tc ds ss loc =>
      exact bind_run (peek_cons ..)
        (if_pos hk ▸ parseFragmentWith_inline_takes fl hm hpss tc ds ss loc w l _ l' rest hn h trivial)

theorem parseSelectionSet_takes (fl : Flags) (fuel : Nat) (ss : SelectionSet) (w : wfSelectionSet ss = true) :
    Takes1 fl fuel (parseSelectionSet fl fuel) ss (selectionSetV ss) Any :=
  parseSelectionSetWith_takes fl (Nat.le_refl fuel) ss w
    fun x wx => (parseSelection_takes fl fuel fuel (Nat.le_refl _) x wx).mono (Nat.sub_le ..)

end PyGql.Parse
