/-
  `OverlappingFieldsCanBeMergedChecker`: the comparisons are reflexive and symmetric
  (`_same_value`, `_same_arguments`, `_types_conflict`, mutual exclusivity of the parents), hence so is `Spec.Conf`.
  At the end: documents on which every route to a parent type (`Spec.Adm`) gives the same type (`adm_const`).
-/
import PyGqlModel.Lemmas.ValidateOverlapWalk
namespace PyGql.Validate
open PyGql PyGql.Validate.Spec

theorem beq_symm' {α} [BEq α] [LawfulBEq α] (a b : α) : (a == b) = (b == a) := BEq.comm

theorem bne_symm' {α} [BEq α] [LawfulBEq α] (a b : α) : (a != b) = (b != a) := by
  simp only [bne, beq_symm' a b]

mutual
theorem sameValue_refl : ∀ v : Value, sameValue v v = true
  | .var a | .int a | .float a | .str a | .enum a => beq_self_eq_true a
  | .bool a => beq_self_eq_true a
  | .null => rfl
  | .list vs => by rw [sameValue]; exact sameValues_refl vs
  | .obj fs => by rw [sameValue]; exact sameFields_refl fs
theorem sameValues_refl : ∀ vs : List Value, sameValues vs vs = true
  | [] => rfl
  | v :: vs => by rw [sameValues, sameValue_refl v, sameValues_refl vs]; rfl
theorem sameFields_refl : ∀ fs : List ObjField, sameFields fs fs = true
  | [] => rfl
  | .mk n v :: fs => by rw [sameFields, sameValue_refl v, sameFields_refl fs, beq_self_eq_true n]; rfl
end

/-- `_same_value` and its two loops do not depend on the order of their arguments; off the diagonal both orders fall
    into the catch-all case -/
theorem sameValue_symm_all :
    (∀ a b : Value, sameValue a b = sameValue b a) ∧ (∀ fs gs : List ObjField, sameFields fs gs = sameFields gs fs) ∧
    (∀ as bs : List Value, sameValues as bs = sameValues bs as) := by
  refine sameValue.mutual_induct (motive_1 := fun a b => sameValue a b = sameValue b a)
    (motive_2 := fun fs gs => sameFields fs gs = sameFields gs fs)
    (motive_3 := fun as bs => sameValues as bs = sameValues bs as)
    (fun a b => beq_symm' a b) (fun a b => beq_symm' a b) (fun a b => beq_symm' a b) (fun a b => beq_symm' a b)
    (fun a b => beq_symm' a b) rfl (fun a b => beq_symm' a b) (fun _ _ ih => ih) (fun _ _ ih => ih) ?_
    rfl ?_ ?_ rfl ?_ ?_
  · intro a b h1 h2 h3 h4 h5 h6 h7 h8 h9
    rw [sameValue.eq_10 a b h1 h2 h3 h4 h5 h6 h7 h8 h9,
      sameValue.eq_10 b a (fun x y e e' => h1 y x e' e) (fun x y e e' => h2 y x e' e) (fun x y e e' => h3 y x e' e)
        (fun x y e e' => h4 y x e' e) (fun x y e e' => h5 y x e' e) (fun e e' => h6 e' e) (fun x y e e' => h7 y x e' e)
        (fun x y e e' => h8 y x e' e) (fun x y e e' => h9 y x e' e)]
  · intro a as b bs iha ihas
    rw [sameValues, sameValues, iha, ihas]
  · intro as bs h1 h2
    rw [sameValues.eq_3 as bs h1 h2, sameValues.eq_3 bs as (fun e e' => h1 e' e) (fun a as b bs e e' => h2 b bs a as e' e)]
  · intro n a fs m b gs iha ihfs
    rw [sameFields, sameFields, iha, ihfs, beq_symm' n m]
  · intro fs gs h1 h2
    rw [sameFields.eq_3 fs gs h1 h2,
      sameFields.eq_3 gs fs (fun e e' => h1 e' e) (fun n a fs m b gs e e' => h2 m b gs n a fs e' e)]

mutual
theorem sameValue_symm : ∀ a b : Value, sameValue a b = sameValue b a :=
  sameValue_symm_all.1
theorem sameValues_symm : ∀ as bs : List Value, sameValues as bs = sameValues bs as :=
  sameValue_symm_all.2.2
theorem sameFields_symm : ∀ fs gs : List ObjField, sameFields fs gs = sameFields gs fs :=
  sameValue_symm_all.2.1
end

theorem sameArgsZip_symm : ∀ a b : List Arg, sameArgsZip a b = sameArgsZip b a
  | [], [] => rfl
  | [], _ :: _ => rfl
  | _ :: _, [] => rfl
  | x :: xs, y :: ys => by
    rw [sameArgsZip, sameArgsZip, sameValue_symm x.value y.value, sameArgsZip_symm xs ys]
    rw [bne_symm' x.name y.name]

theorem sameArgsZip_refl : ∀ a : List Arg, sameArgsZip a a = some true
  | [] => rfl
  | x :: xs => by rw [sameArgsZip]; simp [sameValue_refl, sameArgsZip_refl xs]

theorem sameArguments_symm (a b : List Arg) : sameArguments a b = sameArguments b a := by
  unfold sameArguments
  rw [bne_symm' a.length b.length, sameArgsZip_symm]

theorem sameArguments_refl (a : List Arg) : sameArguments a a = some true := by
  unfold sameArguments; simp [sameArgsZip_refl]

theorem typesConflict_symm (s : SchemaD) : ∀ a b : Ty, typesConflict s a b = typesConflict s b a
  | .named a, .named b => by
    simp only [typesConflict]
    have h1 : (isLeaf s a || isLeaf s b) = (isLeaf s b || isLeaf s a) := Bool.or_comm _ _
    rw [h1, bne_symm' a b]
  | .list a, .list b => by rw [typesConflict, typesConflict]; exact typesConflict_symm s a b
  | .nonNull a, .nonNull b => by rw [typesConflict, typesConflict]; exact typesConflict_symm s a b
  | .named _, .list _ => rfl | .named _, .nonNull _ => rfl
  | .list _, .named _ => rfl | .list _, .nonNull _ => rfl
  | .nonNull _, .named _ => rfl | .nonNull _, .list _ => rfl

theorem typesConflict_irrefl (s : SchemaD) : ∀ t : Ty, typesConflict s t t = false
  | .named a => by simp [typesConflict]
  | .list a => by rw [typesConflict]; exact typesConflict_irrefl s a
  | .nonNull a => by rw [typesConflict]; exact typesConflict_irrefl s a

theorem exclusiveParents_symm (s : SchemaD) (f1 f2 : FEntry) : exclusiveParents s f1 f2 = exclusiveParents s f2 f1 := by
  unfold exclusiveParents
  rw [bne_symm' f1.parent f2.parent]
  simp only [Bool.and_assoc]
  congr 1
  exact Bool.and_comm _ _

theorem exclusiveParents_self (s : SchemaD) (f : FEntry) : exclusiveParents s f f = false := by
  simp [exclusiveParents]

theorem Conf.symm {s : SchemaD} {d : Doc} {pme : Bool} {f1 f2 : FEntry} (h : Conf s d pme f1 f2) : Conf s d pme f2 f1 := by
  induction h with
  | args hme harg =>
    refine .args (by rw [exclusiveParents_symm]; exact hme) ?_
    rcases harg with h | h
    · exact Or.inl (fun e => h e.symm)
    · exact Or.inr (by rw [sameArguments_symm]; exact h)
  | types h1 h2 h3 => exact .types h2 h1 (by rw [typesConflict_symm]; exact h3)
  | sub s1 s2 a1 a2 c1 c2 _ ih =>
    exact .sub s2 s1 a2 a1 c2 c1 (by rw [exclusiveParents_symm]; exact ih)
  | subSwap s1 s2 a1 a2 c1 c2 _ ih =>
    exact .subSwap s2 s1 a2 a1 c2 c1 (by rw [exclusiveParents_symm]; exact ih)

/-- every route to the parent type of a selection set ends in `T`: the typed views of the selection sets show `T`, the
    type conditions of the fragment table give `T`, and a collected field with a sub-selection has unwrapped type `T` -/
theorem adm_const {s : SchemaD} {d : Doc} {T : Option String}
    (hwalk : ∀ i sels v, (Node.selectionSet i sels, v) ∈ typedNodes s d → v.parent = T)
    (hfrag : ∀ name on i sels, AL.get? (fragTable d) name = some (on, i, sels) → fragParent s on = T)
    (hsub : ∀ i sels rn e, SelSet d i sels → CollD s T sels rn e → e.hasSub = true →
      (e.fdef.map (·.type)).map (·.base) = T) {i : Nat} {p : Option String} (h : Adm s d i p) : p = T := by
  induction h with
  | walk hm => exact hwalk _ _ _ hm
  | frag ht => exact hfrag _ _ _ _ ht
  | sub _ hs hc hsub' ih =>
    subst ih
    exact hsub _ _ _ _ hs hc hsub'

theorem parentsAgree_of_const {s : SchemaD} {d : Doc} {T : Option String} (h : ∀ i p, Adm s d i p → p = T) :
    ParentsAgree s d := fun i p q hp hq => (h i p hp).trans (h i q hq).symm

end PyGql.Validate
