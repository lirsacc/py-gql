/-
  C08 / C09 — what the executor does to the state alone. A relation between states that is a preorder and that `emit`,
  `submit` and `addError` respect (`StRel`) holds between the state before and after every call of the executor, every
  callback and every completion, whatever node is built; so the queue and the trace are only appended to (`queuePrefix`,
  `tracePrefix`).
-/
import PyGqlModel.Lemmas.ExecEv

namespace PyGql.AsyncExec

structure StRel (A : ExecSt → ExecSt → Prop) : Prop where
  refl : ∀ s, A s s
  trans : ∀ {s1 s2 s3}, A s1 s2 → A s2 s3 → A s1 s3
  emit : ∀ s e, A s (s.emit e)
  submit : ∀ s, A s s.submit.2
  addError : ∀ s p k, A s (s.addError p k)

namespace StRel
variable {A : ExecSt → ExecSt → Prop} (H : StRel A)
include H

theorem thenR {α β : Type} {s : ExecSt} {r : Res α × ExecSt} {f : α → ExecSt → Res β × ExecSt} (h : A s r.2)
    (hf : ∀ a s1, A s1 (f a s1).2) : A s (thenR r f).2 := by
  obtain ⟨a | e, s1⟩ := r
  · exact H.trans h (hf a s1)
  · exact h

theorem applySimple (k : Cont) (r : Res Val) (s : ExecSt) : A s (applySimple k r s).2 := by
  fun_cases AsyncExec.applySimple k r s with
  | case3 path x s v s1 h =>
    have : A s (handleNonNullableValue path x s).2 := by
      unfold handleNonNullableValue
      split
      · exact H.addError s path _
      · exact H.refl s
    exact (congrArg (·.2) h) ▸ this
  | _ => exact H.refl _

theorem chainOnFinish {ap : ApplyCont} {k : Cont} (hap : ∀ r s, A s (ap k r s).2) (src : Node) (s : ExecSt) :
    A s (chainOnFinish ap src k s).2 := by
  rw [chainOnFinish_eq]
  split
  · exact settle_snd _ ▸ hap _ s
  · exact settle_snd _ ▸ hap _ s
  · exact H.refl s

theorem mapValue {ap : ApplyCont} {k : Cont} (hap : ∀ r s, A s (ap k r s).2) (src : Node) (s : ExecSt) :
    A s (mapValue ap src k s).2 := by
  unfold AsyncExec.mapValue
  split
  · exact hap _ s
  · split
    · exact H.chainOnFinish hap _ s
    · exact H.refl s

theorem catchRes {s : ExecSt} {path : Path} {r : Res Node × ExecSt} (h : A s r.2) : A s (catchRes path r).2 := by
  obtain ⟨n | e, s1⟩ := r
  · exact h
  · cases e
    · exact H.trans h (H.addError s1 path _)
    · exact h
    · exact h

theorem ran (s : ExecSt) (path : Path) : A s (s.ran path) := H.trans (H.emit s (.call path)) (H.emit _ (.done path))

theorem cases : ExecCases (fun _ _ s r => A s r.2) (fun _ _ _ s r => A s r.2) (fun _ _ s r => A s r.2) (fun _ _ _ s r => A s r.2)
    (fun _ _ s r => A s r.2) where
  null _ s := H.refl s
  leaf _ _ s := H.refl s
  bad _ s := H.refl s
  nonNull _ _ _ ih := H.thenR ih fun n s1 => H.mapValue (H.applySimple _) n s1
  list _ _ _ ih := H.thenR ih fun _ s1 => H.refl s1
  obj _ _ _ ih := H.thenR (H.thenR ih fun _ s1 => H.refl s1) fun n s1 => H.mapValue (H.applySimple _) n s1
  inil _ _ s := H.refl s
  icons _ _ _ _ _ ih1 ih2 := H.thenR ih1 fun _ s1 => H.thenR (ih2 s1) fun _ s2 => H.refl s2
  fnil _ s := H.refl s
  fcons _ _ _ _ _ _ ih1 ih2 := H.thenR ih1 fun _ s1 => H.thenR (ih2 s1) fun _ s2 => H.refl s2
  deferred path _ s := H.trans (H.emit s (.call path)) (H.submit _)
  nested path _ s := H.trans (H.emit s (.call path)) (H.submit _)
  sync path _ s ih := H.trans (H.ran s path) ((nowOf_snd _).symm ▸ ih)
  ready path _ s ih := by
    refine H.trans (H.ran s path) ?_
    generalize applyCont (.complete path) _ _ = x at ih ⊢
    obtain ⟨n | e, s1⟩ := x <;> exact ih
  rerr path s := H.addError s path _
  exc _ s := H.refl s
  ok _ _ _ ih := H.catchRes ih

theorem serialCb (path : Path) (key : String) (resolved : List (String × V)) (args : Flds)
    (ih : ∀ resolved s, A s (serialNext path resolved args s).2) (r : Res Val) (s : ExecSt) :
    A s (applyCont (.serialCb path key resolved args) r s).2 :=
  serialCb_cases (Q := fun _ s x => A s x.2) (fun _ s => ih _ s) (H.applySimple _) r s

theorem serialNext (path : Path) : ∀ (args : Flds) (resolved : List (String × V)) (s : ExecSt), A s (serialNext path resolved args s).2
  | .nil, _, s => H.refl s
  | .cons key mode out rest, resolved, s => by
    rw [serialNext_cons]
    exact H.thenR (H.cases.field out _ mode s) fun n s1 => H.mapValue (H.serialCb path key resolved rest (serialNext path rest)) n s1

theorem applyCont (k : Cont) (r : Res Val) (s : ExecSt) : A s (applyCont k r s).2 := by
  fun_cases AsyncExec.applyCont k r s with
  | case1 path c s s1 hcv n s' hff =>
    have h := H.cases.value c path s
    rw [hcv] at h
    cases hff
    exact H.trans h (H.addError s1 path _)
  | case2 path c s => exact H.cases.value c path s
  | case3 path s n s' hff =>
    cases hff
    exact H.addError s path _
  | case4 path key resolved args v s => exact H.serialNext path args _ s
  | case5 k r s => exact H.applySimple k r s

theorem finishTask (path : Path) (nested : Bool) (out : ROut) (s : ExecSt) : A s (finishTask path nested out s).2 := by
  unfold AsyncExec.finishTask
  cases nested
  · cases out <;> exact H.emit s _
  · exact H.submit s

theorem deliver (t : Nat) : DeliverCases AsyncExec.applyCont t (fun _ s r => A s r.2) (fun _ s r => A s r.2.2) where
  val _ s := H.refl s
  done _ s := H.refl s
  failed _ s := H.refl s
  hit path nested out s := H.finishTask path nested out s
  miss _ _ _ _ s _ := H.refl s
  chain _ k _ ih := H.trans ih (H.chainOnFinish (H.applyCont k) _ _)
  unwrap _ _ ih := ih
  gather _ _ _ _ ih := ih
  nil s := H.refl s
  cons _ _ _ ih1 ih2 := H.trans ih1 ih2

theorem execute (op : Op) (s : ExecSt) : A s (execute op s).2 := by
  have root : A s (execRoot op s).2 := by
    unfold execRoot
    cases op.kind
    · exact H.cases.value _ [] s
    · exact H.serialNext [] op.fields [] s
  rw [execute_eq]
  exact H.thenR ((nowOf_snd _).symm ▸ root) fun n s1 => H.mapValue (H.applyCont _) n s1

end StRel

theorem queuePrefix : StRel fun s s' => s.queue <+: s'.queue where
  refl _ := List.prefix_refl _
  trans := List.IsPrefix.trans
  emit _ _ := List.prefix_refl _
  submit _ := List.prefix_append _ _
  addError _ _ _ := List.prefix_refl _

theorem tracePrefix : StRel fun s s' => s.trace <+: s'.trace where
  refl _ := List.prefix_refl _
  trans := List.IsPrefix.trans
  emit _ _ := List.prefix_append _ _
  submit _ := List.prefix_refl _
  addError _ _ _ := List.prefix_refl _

theorem queue_eq_of_le {s s' : ExecSt} {p : Nat} (hp : s.queue <+: s'.queue) (h : s'.queue.length + p ≤ s.queue.length) :
    s'.queue = s.queue := by
  obtain ⟨l, hl⟩ := hp
  rw [← hl, List.length_append] at h
  rw [← hl, List.eq_nil_of_length_eq_zero (Nat.le_zero.mp (Nat.le_of_add_le_add_left (Nat.le_trans (Nat.le_add_right _ p) h))),
    List.append_nil]

end PyGql.AsyncExec
