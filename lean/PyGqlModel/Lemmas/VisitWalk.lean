/-
  C18 — the traversal of a visitor that keeps the nodes it is given, against the visitor-free walk `Spec.walk`.

  `walkAll` is the one recursion behind `Spec.walkList` and `Spec.walkSteps`. `Mirrors v P f g` says that on the nodes
  satisfying `P` the callback `f` makes the calls of the walk `g`, fails where it fails and hands the node back unchanged;
  it lifts through `visitList`, `runStep`, `runSteps`, `callTarget` and gives `visitM_mirrors`: where `enter` keeps the
  nodes, `visitM` IS `Spec.walk` (same calls, same failure, the state being the handlers folded over the calls). What a
  visitor that changes nothing does, and that its visit cannot run out of fuel at fuel = depth, are read off that equation.
-/
import PyGqlModel.Visit
import PyGqlModel.Spec.VisitSpec

namespace PyGql.Visit

variable {σ : Type}

theorem Node.setIn_lookup (a : String) (x : Attr) :
    ∀ attrs : List (String × Attr), attrs.lookup a = some x → Node.setIn a x attrs = attrs := by
  intro attrs
  induction attrs with
  | nil => intro _; rfl
  | cons p r ih =>
    obtain ⟨b, y⟩ := p
    intro h
    simp only [List.lookup] at h
    simp only [Node.setIn]
    cases hab : a == b with
    | true => simp only [hab] at h; simp_all
    | false => simp only [hab] at h; simp [ih h]

theorem Node.setAttr_getAttr (n : Node) (a : String) (x : Attr) (h : n.getAttr a = some x) : n.setAttr a x = n := by
  cases n with
  | mk k i attrs =>
    simp only [Node.getAttr, Node.attrs] at h
    simp [Node.setAttr, Node.kind, Node.id, Node.attrs, Node.setIn_lookup a x attrs h]

/-- run `g` on every member and concatenate the calls: the recursion of both `Spec.walkList` and `Spec.walkSteps` -/
def walkAll {α : Type} (g : α → Res (List Ev)) : List α → Res (List Ev)
  | [] => .ok []
  | a :: l =>
    match g a with
    | .err e => .err e
    | .fuel => .fuel
    | .ok t1 =>
      match walkAll g l with
      | .err e => .err e
      | .fuel => .fuel
      | .ok t2 => .ok (t1 ++ t2)

theorem walkList_eq_walkAll (g : Node → Res (List Ev)) : ∀ cs, Spec.walkList g cs = walkAll g cs
  | [] => rfl
  | c :: cs => by
    simp only [Spec.walkList, walkAll, walkList_eq_walkAll g cs]
    rfl

theorem walkSteps_eq_walkAll (call : Target → Node → Res (List Ev)) (n : Node) :
    ∀ steps, Spec.walkSteps call steps n = walkAll (fun st => Spec.walkStep call st n) steps
  | [] => rfl
  | st :: rest => by
    simp only [Spec.walkSteps, walkAll, walkSteps_eq_walkAll call n rest]
    rfl

section
variable {α : Type} {g : α → Res (List Ev)}

theorem walkAll_cons_ok {a : α} {l : List α} {tr : List Ev} :
    walkAll g (a :: l) = .ok tr ↔ ∃ t1 t2, g a = .ok t1 ∧ walkAll g l = .ok t2 ∧ tr = t1 ++ t2 := by
  simp only [walkAll]
  cases g a with
  | err e => simp
  | fuel => simp
  | ok t1 =>
    cases walkAll g l with
    | err e => simp
    | fuel => simp
    | ok t2 => simp [eq_comm]

theorem walkAll_append_ok : ∀ {l1 l2 : List α} {tr : List Ev},
    walkAll g (l1 ++ l2) = .ok tr ↔ ∃ t1 t2, walkAll g l1 = .ok t1 ∧ walkAll g l2 = .ok t2 ∧ tr = t1 ++ t2 := by
  intro l1
  induction l1 with
  | nil => simp [walkAll]
  | cons a l1 ih =>
    intro l2 tr
    simp only [List.cons_append, walkAll_cons_ok, ih]
    constructor
    · rintro ⟨t1, _, h1, ⟨t2, t3, h2, h3, rfl⟩, rfl⟩
      exact ⟨t1 ++ t2, t3, ⟨t1, t2, h1, h2, rfl⟩, h3, by simp⟩
    · rintro ⟨_, t3, ⟨t1, t2, h1, h2, rfl⟩, h3, rfl⟩
      exact ⟨t1, t2 ++ t3, h1, ⟨t2, t3, h2, h3, rfl⟩, by simp⟩

theorem walkAll_split {l1 : List α} {a : α} {l2 : List α} {tr : List Ev} (h : walkAll g (l1 ++ a :: l2) = .ok tr) :
    ∃ ta t1 tb, walkAll g l1 = .ok ta ∧ g a = .ok t1 ∧ walkAll g l2 = .ok tb ∧ tr = ta ++ t1 ++ tb := by
  obtain ⟨ta, _, ha, hb, rfl⟩ := walkAll_append_ok.1 h
  obtain ⟨t1, tb, h1, h2, rfl⟩ := walkAll_cons_ok.1 hb
  exact ⟨ta, t1, tb, ha, h1, h2, by simp⟩

theorem walkAll_infix {l : List α} {tr : List Ev} {a : α} (h : walkAll g l = .ok tr) (hm : a ∈ l) :
    ∃ t, g a = .ok t ∧ t <:+: tr := by
  obtain ⟨l1, l2, rfl⟩ := List.append_of_mem hm
  obtain ⟨ta, t1, tb, _, h1, _, e⟩ := walkAll_split h
  exact ⟨t1, h1, ta, tb, e.symm⟩

theorem walkAll_event : ∀ {l : List α} {tr : List Ev} {e : Ev}, walkAll g l = .ok tr → e ∈ tr →
    ∃ a ∈ l, ∃ t, g a = .ok t ∧ e ∈ t := by
  intro l
  induction l with
  | nil => intro _ _ h he; cases h; cases he
  | cons a l ih =>
    intro _ e h he
    obtain ⟨t1, t2, h1, h2, rfl⟩ := walkAll_cons_ok.1 h
    rcases List.mem_append.1 he with h' | h'
    · exact ⟨a, List.mem_cons_self, t1, h1, h'⟩
    · obtain ⟨b, hb, t, hg, hm⟩ := ih h2 h'
      exact ⟨b, List.mem_cons_of_mem _ hb, t, hg, hm⟩

end

/-- a completed walk of one statement: no call (the statement does not apply, or its guard met `None`), the walk of the
    one child, or the walks of the list -/
theorem walkStep_ok {call : Target → Node → Res (List Ev)} {st : Step} {n : Node} {tr : List Ev}
    (h : Spec.walkStep call st n = .ok tr) :
    (tr = [] ∧ (st.applies n.kind = false ∨ st.applies n.kind = true ∧ st.shape = .one ∧
      n.getAttr st.attr = some (.one none) ∧ (st.guard == .always) = false)) ∨
    (st.applies n.kind = true ∧ st.shape = .one ∧ ∃ c, n.getAttr st.attr = some (.one (some c)) ∧
      call st.target c = .ok tr) ∨
    (st.applies n.kind = true ∧ st.shape = .many ∧ ∃ cs, n.getAttr st.attr = some (.many cs) ∧
      Spec.walkList (call st.target) cs = .ok tr) := by
  unfold Spec.walkStep at h
  split at h
  · rename_i ha
    exact .inl ⟨by simpa using h.symm, .inl (by simpa using ha)⟩
  · rename_i ha
    have ha : st.applies n.kind = true := by simpa using ha
    split at h
    · cases h
    · split at h
      · rename_i hs hg
        split at h
        · cases h
        · rename_i hgd
          exact .inl ⟨by simpa using h.symm, .inr ⟨ha, hs, hg, by simpa using hgd⟩⟩
      · rename_i c hs hg
        exact .inr (.inl ⟨ha, hs, c, hg, h⟩)
      · rename_i cs hs hg
        exact .inr (.inr ⟨ha, hs, cs, hg, h⟩)
      · cases h

theorem walkTarget_ok {T : Table} {rec : String → Node → Res (List Ev)} {tgt : Target} {c : Node} {tr : List Ev}
    (h : Spec.walkTarget T rec tgt c = .ok tr) : ∃ m, resolve T tgt c.kind = .ok m ∧ rec m c = .ok tr := by
  unfold Spec.walkTarget at h
  split at h
  · exact ⟨_, ‹_›, h⟩
  · cases h

def kidsOfAttr : Attr → List Node
  | .one (some c) => [c]
  | .many cs => cs
  | _ => []

def Res.map {α β : Type} (f : α → β) : Res α → Res β
  | .ok a => .ok (f a)
  | .err e => .err e
  | .fuel => .fuel

theorem Res.map_eq_ok {α β : Type} {f : α → β} {r : Res α} {b : β} (h : r.map f = .ok b) : ∃ a, r = .ok a ∧ f a = b := by
  cases r with
  | ok a => exact ⟨a, rfl, Res.ok.inj h⟩
  | err e => cases h
  | fuel => cases h

theorem Res.map_ne_fuel {α β : Type} {f : α → β} {r : Res α} (h : r ≠ .fuel) : r.map f ≠ .fuel := by
  cases r with
  | ok a => exact fun h => nomatch h
  | err e => exact fun h => nomatch h
  | fuel => exact absurd rfl h

/-- the state the visitor is in after the calls `tr`, made from the state `s` -/
def play (v : Visitor σ) (tr : List Ev) (s : σ) : σ :=
  tr.foldl (fun s e => if e.enter then (v.enter e.node s).2 else v.leave e.node s) s

theorem play_append (v : Visitor σ) (a b : List Ev) (s : σ) : play v (a ++ b) s = play v b (play v a s) :=
  List.foldl_append

/-- the outcome of a visit of `c` that made the calls `tr` and changed nothing -/
def same (v : Visitor σ) (c : Node) (s : σ) (tr : List Ev) : Out σ := ⟨some c, c, play v tr s, tr⟩

/-- on the nodes that satisfy `P` the callback `f` makes the calls of the visitor-free walk `g`, fails where it fails,
    and hands the node back unchanged -/
def Mirrors (v : Visitor σ) (P : Node → Prop) (f : Node → σ → Res (Out σ)) (g : Node → Res (List Ev)) : Prop :=
  ∀ c s, P c → f c s = (g c).map (same v c s)

section
variable {v : Visitor σ} {P : Node → Prop}

theorem visitList_mirrors {f : Node → σ → Res (Out σ)} {g : Node → Res (List Ev)} (hf : Mirrors v P f g) :
    ∀ cs s, (∀ c ∈ cs, P c) → visitList f cs s = (walkAll g cs).map fun tr => (cs, cs, play v tr s, tr) := by
  intro cs
  induction cs with
  | nil => intro s _; rfl
  | cons c cs ih =>
    intro s h
    simp only [visitList, walkAll, hf c s (h c List.mem_cons_self)]
    cases g c with
    | err e => rfl
    | fuel => rfl
    | ok t1 =>
      simp only [Res.map, same, ih _ fun d hd => h d (List.mem_cons_of_mem _ hd)]
      cases walkAll g cs with
      | err e => rfl
      | fuel => rfl
      | ok t2 => simp only [play_append]

theorem runStep_mirrors {call : Target → Node → σ → Res (Out σ)} {wcall : Target → Node → Res (List Ev)}
    (hc : ∀ t, Mirrors v P (call t) (wcall t)) (st : Step) (n : Node) (s : σ)
    (hk : ∀ x c, n.getAttr st.attr = some x → c ∈ kidsOfAttr x → P c) :
    runStep call st n s = (Spec.walkStep wcall st n).map fun tr => (n, play v tr s, tr) := by
  simp only [runStep, Spec.walkStep]
  cases st.applies n.kind with
  | false => rfl
  | true =>
    cases hg : n.getAttr st.attr with
    | none => rfl
    | some a =>
      cases st.shape with
      | one =>
        cases a with
        | scalar x => rfl
        | many cs => rfl
        | one oc =>
          cases oc with
          | none => cases st.guard == Guard.always <;> rfl
          | some c =>
            dsimp only [Bool.not_true, Bool.false_eq_true, if_false]
            rw [hc st.target c s (hk _ c hg List.mem_cons_self)]
            cases wcall st.target c with
            | ok tr =>
              simp only [Res.map, same, ite_self, Node.setAttr_getAttr n _ _ hg]
              rfl
            | err e => rfl
            | fuel => rfl
      | many =>
        cases a with
        | scalar x => rfl
        | one oc => rfl
        | many cs =>
          dsimp only [Bool.not_true, Bool.false_eq_true, if_false]
          rw [visitList_mirrors (hc st.target) cs s (hk _ · hg), walkList_eq_walkAll]
          cases walkAll (wcall st.target) cs with
          | ok tr =>
            simp only [Res.map, ite_self, Node.setAttr_getAttr n _ _ hg]
            rfl
          | err e => rfl
          | fuel => rfl

theorem runSteps_mirrors {call : Target → Node → σ → Res (Out σ)} {wcall : Target → Node → Res (List Ev)}
    (hc : ∀ t, Mirrors v P (call t) (wcall t)) (n : Node) :
    ∀ (steps : List Step) (s : σ), (∀ st ∈ steps, ∀ x c, n.getAttr st.attr = some x → c ∈ kidsOfAttr x → P c) →
      runSteps call steps n s = (Spec.walkSteps wcall steps n).map fun tr => (n, play v tr s, tr) := by
  intro steps
  induction steps with
  | nil => intro s _; rfl
  | cons st rest ih =>
    intro s hk
    simp only [runSteps, Spec.walkSteps, runStep_mirrors hc st n s (hk st List.mem_cons_self)]
    cases Spec.walkStep wcall st n with
    | err e => rfl
    | fuel => rfl
    | ok t1 =>
      simp only [Res.map, ih _ fun st' h' => hk st' (List.mem_cons_of_mem _ h')]
      cases Spec.walkSteps wcall rest n with
      | err e => rfl
      | fuel => rfl
      | ok t2 => simp only [play_append]

theorem callTarget_mirrors (T : Table) {rec : String → Node → σ → Res (Out σ)} {wrec : String → Node → Res (List Ev)}
    (h : ∀ m, Mirrors v P (rec m) (wrec m)) : ∀ t, Mirrors v P (callTarget T rec t) (Spec.walkTarget T wrec t) := by
  intro t c s hP
  unfold callTarget Spec.walkTarget
  cases resolve T t c.kind with
  | ok m => exact h m c s hP
  | error e => rfl

end

/-- **a visitor that keeps every node satisfying `P`** (`P` being inherited by children) **visits such a node exactly as
    the visitor-free walk does**: same calls, same failure, the node handed back unchanged, and the visitor's state is the
    one its handlers produce along those calls -/
theorem visitM_mirrors (T : Table) (v : Visitor σ) {P : Node → Prop} (hv : ∀ n s, P n → (v.enter n s).1 = .keep n)
    (hkids : ∀ n a x c, P n → n.getAttr a = some x → c ∈ kidsOfAttr x → P c) :
    ∀ fuel m, Mirrors v P (visitM T v fuel m) (Spec.walk T fuel m) := by
  intro fuel
  induction fuel with
  | zero => intro m c s _; rfl
  | succ fuel ih =>
    intro m c s hP
    have he := hv c s hP
    rcases hes : v.enter c s with ⟨act, s1⟩
    rw [hes] at he
    cases he
    simp only [visitM, hes, bodyMethod_of_kind_eq T m c c rfl, Spec.walk]
    cases T.methods.lookup m with
    | none => rfl
    | some steps =>
      simp only [runSteps_mirrors (callTarget_mirrors T ih) c steps s1 fun _ _ x d hg hd => hkids c _ x d hP hg hd]
      cases Spec.walkSteps (Spec.walkTarget T (Spec.walk T fuel)) steps c with
      | err e => rfl
      | fuel => rfl
      | ok body => simp [Res.map, same, play, hes]

theorem visitM_observer (T : Table) (v : Visitor σ) (hv : ∀ n s, (v.enter n s).1 = .keep n) :
    ∀ fuel m, Mirrors v (fun _ => True) (visitM T v fuel m) (Spec.walk T fuel m) :=
  visitM_mirrors T v (fun n s _ => hv n s) (fun _ _ _ _ _ _ _ => trivial)

/-- for a visitor that changes nothing, `ASTVisitor.visit` IS the walk of the implemented child relation -/
theorem visit_observer (T : Table) (v : Visitor σ) (hv : ∀ n s, (v.enter n s).1 = .keep n) (fuel : Nat) (t : Node) (s : σ) :
    visit T v fuel t s = (Spec.implEvents T fuel t).map (same v t s) := by
  unfold visit Spec.implEvents
  cases T.visit.lookup t.kind with
  | none => rfl
  | some m => exact visitM_observer T v hv fuel m t s trivial

theorem visit_ok_walk (T : Table) (v : Visitor σ) (hv : ∀ n s, (v.enter n s).1 = .keep n) (fuel : Nat) (t : Node) (s : σ)
    (o : Out σ) (h : visit T v fuel t s = .ok o) :
    ∃ m0, T.visit.lookup t.kind = some m0 ∧ Spec.walk T fuel m0 t = .ok o.tr := by
  rw [visit_observer T v hv] at h
  unfold Spec.implEvents at h
  cases hl : T.visit.lookup t.kind with
  | none => rw [hl] at h; cases h
  | some m0 =>
    rw [hl] at h
    obtain ⟨tr, htr, rfl⟩ := Res.map_eq_ok h
    exact ⟨m0, rfl, htr⟩

theorem lookup_depth_le (a : String) (x : Attr) :
    ∀ attrs : List (String × Attr), attrs.lookup a = some x → Attr.depth x ≤ Attr.depthAttrs attrs := by
  intro attrs
  induction attrs with
  | nil => intro h; simp [List.lookup] at h
  | cons p r ih =>
    obtain ⟨b, y⟩ := p
    intro h
    simp only [List.lookup] at h
    simp only [Attr.depthAttrs]
    cases hab : a == b with
    | true => simp only [hab, Option.some.injEq] at h; subst h; exact Nat.le_max_left _ _
    | false => simp only [hab] at h; exact Nat.le_trans (ih h) (Nat.le_max_right _ _)

theorem mem_depthList {c : Node} : ∀ {cs : List Node}, c ∈ cs → c.depth ≤ Attr.depthList cs := by
  intro cs
  induction cs with
  | nil => intro h; simp at h
  | cons d r ih =>
    intro h
    simp only [Attr.depthList]
    rcases List.mem_cons.mp h with h | h
    · subst h; exact Nat.le_max_left _ _
    · exact Nat.le_trans (ih h) (Nat.le_max_right _ _)

theorem kid_depth_lt {n : Node} {a : String} {x : Attr} {c : Node}
    (hg : n.getAttr a = some x) (hc : c ∈ kidsOfAttr x) : c.depth < n.depth := by
  cases n with
  | mk k i attrs =>
    have h1 := lookup_depth_le a x attrs (by simpa [Node.getAttr, Node.attrs] using hg)
    have h2 : c.depth ≤ Attr.depth x := by
      cases x with
      | scalar v => simp [kidsOfAttr] at hc
      | one oc =>
        cases oc with
        | none => simp [kidsOfAttr] at hc
        | some d => simp [kidsOfAttr] at hc; subst hc; simp [Attr.depth]
      | many cs => simp only [kidsOfAttr] at hc; simpa [Attr.depth] using mem_depthList hc
    simp only [Node.depth]
    omega

theorem walkAll_nofuel {α : Type} {g : α → Res (List Ev)} : ∀ l : List α, (∀ a ∈ l, g a ≠ .fuel) → walkAll g l ≠ .fuel := by
  intro l
  induction l with
  | nil => intro _ h; cases h
  | cons a l ih =>
    intro h
    have h1 := h a List.mem_cons_self
    have h2 := ih fun b hb => h b (List.mem_cons_of_mem _ hb)
    simp only [walkAll]
    cases hg : g a with
    | err e => exact fun h => nomatch h
    | fuel => exact absurd hg h1
    | ok t1 =>
      cases hl : walkAll g l with
      | err e => exact fun h => nomatch h
      | fuel => exact absurd hl h2
      | ok t2 => exact fun h => nomatch h

theorem walkStep_nofuel {wcall : Target → Node → Res (List Ev)} (st : Step) (n : Node)
    (h : ∀ x c, n.getAttr st.attr = some x → c ∈ kidsOfAttr x → wcall st.target c ≠ .fuel) :
    Spec.walkStep wcall st n ≠ .fuel := by
  simp only [Spec.walkStep]
  cases st.applies n.kind with
  | false => exact fun h => nomatch h
  | true =>
    cases hg : n.getAttr st.attr with
    | none => exact fun h => nomatch h
    | some a =>
      cases st.shape with
      | one =>
        cases a with
        | scalar x => exact fun h => nomatch h
        | many cs => exact fun h => nomatch h
        | one oc =>
          cases oc with
          | none => cases st.guard == Guard.always <;> exact fun h => nomatch h
          | some c => exact h _ c hg List.mem_cons_self
      | many =>
        cases a with
        | scalar x => exact fun h => nomatch h
        | one oc => exact fun h => nomatch h
        | many cs =>
          show Spec.walkList (wcall st.target) cs ≠ .fuel
          rw [walkList_eq_walkAll]
          exact walkAll_nofuel cs fun c hc => h _ c hg hc

theorem walk_nofuel (T : Table) : ∀ (fuel : Nat) (m : String) (t : Node), t.depth ≤ fuel → Spec.walk T fuel m t ≠ .fuel := by
  intro fuel
  induction fuel with
  | zero => intro m t h; cases t; cases h
  | succ fuel ih =>
    intro m t h
    simp only [Spec.walk]
    cases T.methods.lookup m with
    | none => exact fun h => nomatch h
    | some steps =>
      have hb : Spec.walkSteps (Spec.walkTarget T (Spec.walk T fuel)) steps t ≠ .fuel :=
        walkSteps_eq_walkAll _ t steps ▸ walkAll_nofuel steps fun st _ => walkStep_nofuel st t fun x c hg hc => by
          unfold Spec.walkTarget
          cases resolve T st.target c.kind with
          | ok m' => exact ih m' c (Nat.le_of_lt_succ (Nat.lt_of_lt_of_le (kid_depth_lt hg hc) h))
          | error e => exact fun h => nomatch h
      intro hf
      cases hw : Spec.walkSteps (Spec.walkTarget T (Spec.walk T fuel)) steps t with
      | fuel => exact hb hw
      | err e => simp [hw] at hf
      | ok body => simp [hw] at hf

end PyGql.Visit
