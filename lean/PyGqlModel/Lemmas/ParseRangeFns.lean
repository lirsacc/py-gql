/-
  `SafeC` for every parser function (one line each, in the order of the parser) and for the three entry points.
-/
import PyGqlModel.Lemmas.ParseRange
namespace PyGql.Parse
open PyGql PyGql.Ast

variable (n : Nat) (fl : Flags) (k : Nat) (c : Bool)

instance {pv : P Value} [SafeC n pv] : SafeC n (parseObjectFieldWith fl pv) := by
  unfold parseObjectFieldWith; infer_instance

instance : SafeC n (parseValueLiteral fl k c) := by
  induction k generalizing c with
  | zero => exact ⟨Safe.fail _⟩
  | succ k ih =>
    unfold parseValueLiteral
    refine ⟨Safe.bind SafeC.safe fun token => ?_⟩
    split
    all_goals exact SafeC.safe

instance : SafeC n (parseArgument fl k c) := by unfold parseArgument; infer_instance
instance : SafeC n (parseArguments fl k c) := by unfold parseArguments; infer_instance
instance : SafeC n (parseDirective fl k c) := by unfold parseDirective; infer_instance

instance (fuel : Nat) : SafeC n (directivesLoop fl fuel c k) := by
  induction k with
  | zero => exact ⟨Safe.fail _⟩
  | succ k ih => unfold directivesLoop; infer_instance

instance : SafeC n (parseDirectives fl k c) := by unfold parseDirectives; infer_instance
instance : SafeC n (parseVariableDefinition fl k) := by unfold parseVariableDefinition; infer_instance
instance : SafeC n (parseVariableDefinitions fl k) := by unfold parseVariableDefinitions; infer_instance
instance : SafeC n (parseFragmentName fl) := by unfold parseFragmentName; infer_instance

instance {psel : P Selection} [SafeC n psel] : SafeC n (parseSelectionSetWith fl k psel) := by
  unfold parseSelectionSetWith; infer_instance

/-- `let (alias_, name) ← …` is a `match` on the pair, which instance search does not look into -/
instance {pss : P SelectionSet} [SafeC n pss] : SafeC n (parseFieldWith fl k pss) := by
  unfold parseFieldWith
  exact ⟨Safe.bind SafeC.safe fun _ => Safe.bind SafeC.safe fun _ => Safe.bind SafeC.safe fun (_, _) => SafeC.safe⟩

/-- a block of this length exceeds the size limit of instance search: the first steps are taken by hand -/
instance {pss : P SelectionSet} [SafeC n pss] : SafeC n (parseFragmentWith fl k pss) := by
  unfold parseFragmentWith
  exact ⟨Safe.bind SafeC.safe fun _ => Safe.bind SafeC.safe fun _ => Safe.bind SafeC.safe fun _ => SafeC.safe⟩

instance (fuel : Nat) : SafeC n (parseSelection fl fuel k) := by
  induction k with
  | zero => exact ⟨Safe.fail _⟩
  | succ k ih => unfold parseSelection; infer_instance

instance : SafeC n (parseSelectionSet fl k) := by unfold parseSelectionSet; infer_instance

instance : SafeC n parseOperationType :=
  ⟨Safe.bindT (expect_safeT n _) fun _ ht => Safe.ite (Safe.pure _) (Safe.failAt ht _)⟩

instance : SafeC n (parseOperationDefinition fl k) := by unfold parseOperationDefinition; infer_instance
instance : SafeC n (parseFragmentDefinition fl k) := by unfold parseFragmentDefinition; infer_instance
instance : SafeC n (parseExecutableDefinition fl k) := by unfold parseExecutableDefinition; infer_instance

instance : SafeC n (parseDescription fl) := by unfold parseDescription; infer_instance
instance : SafeC n (parseOperationTypeDefinition fl) := by unfold parseOperationTypeDefinition; infer_instance
instance : SafeC n (parseSchemaDefinition fl k) := by unfold parseSchemaDefinition; infer_instance
instance : SafeC n (parseScalarTypeDefinition fl k) := by unfold parseScalarTypeDefinition; infer_instance

instance : SafeC n (implementsLoop fl k) := by
  induction k with
  | zero => exact ⟨Safe.fail _⟩
  | succ k ih => unfold implementsLoop; infer_instance

instance : SafeC n (parseImplementsInterfaces fl k) := by unfold parseImplementsInterfaces; infer_instance
instance : SafeC n (parseInputValueDefinition fl k) := by unfold parseInputValueDefinition; infer_instance
instance : SafeC n (parseArgumentDefinitions fl k) := by unfold parseArgumentDefinitions; infer_instance
instance : SafeC n (parseFieldDefinition fl k) := by unfold parseFieldDefinition; infer_instance
instance : SafeC n (parseFieldsDefinition fl k) := by unfold parseFieldsDefinition; infer_instance
instance : SafeC n (parseObjectTypeDefinition fl k) := by unfold parseObjectTypeDefinition; infer_instance
instance : SafeC n (parseInterfaceTypeDefinition fl k) := by unfold parseInterfaceTypeDefinition; infer_instance
instance : SafeC n (parseUnionMemberTypes fl k) := by unfold parseUnionMemberTypes; infer_instance
instance : SafeC n (parseUnionTypeDefinition fl k) := by unfold parseUnionTypeDefinition; infer_instance
instance : SafeC n (parseEnumValueDefinition fl k) := by unfold parseEnumValueDefinition; infer_instance
instance : SafeC n (parseEnumValuesDefinition fl k) := by unfold parseEnumValuesDefinition; infer_instance
instance : SafeC n (parseEnumTypeDefinition fl k) := by unfold parseEnumTypeDefinition; infer_instance
instance : SafeC n (parseInputFieldsDefinition fl k) := by unfold parseInputFieldsDefinition; infer_instance
instance : SafeC n (parseInputObjectTypeDefinition fl k) := by unfold parseInputObjectTypeDefinition; infer_instance

instance : SafeC n (parseDirectiveLocation fl) :=
  ⟨Safe.bindT (peek_safeT n) fun _ hs => Safe.bind SafeC.safe fun _ => Safe.ite (Safe.pure _) (Safe.failTokAt hs _)⟩

instance : SafeC n (parseDirectiveLocations fl k) := by unfold parseDirectiveLocations; infer_instance
instance : SafeC n (parseDirectiveDefinition fl k) := by unfold parseDirectiveDefinition; infer_instance

/-- the keyword token is the next one or the one after it; every branch of the dispatch is registered above -/
instance : SafeC n (parseTypeSystemDefinition fl k) := by
  refine ⟨Safe.bindT (peek_safeT n) fun next hn =>
    Safe.bindT (SafeT.ite (peek2_safeT n) (SafeT.pure hn)) fun keyword hk => ?_⟩
  have : ∀ msg, SafeC n (failAt keyword msg : P Definition) := fun _ => ⟨Safe.failAt hk _⟩
  exact SafeC.safe

instance : SafeC n (parseSchemaExtension fl k) := by
  unfold parseSchemaExtension
  exact ⟨Safe.bind SafeC.safe fun _ => Safe.bind SafeC.safe fun _ => SafeC.safe⟩

instance : SafeC n (parseScalarTypeExtension fl k) := by
  refine ⟨Safe.bindT (peek_safeT n) fun start hs => ?_⟩
  have : ∀ msg, SafeC n (failAt start msg : P Definition) := fun _ => ⟨Safe.failAt hs _⟩
  exact SafeC.safe

instance : SafeC n (parseObjectTypeExtension fl k) := by unfold parseObjectTypeExtension; infer_instance
instance : SafeC n (parseInterfaceTypeExtension fl k) := by unfold parseInterfaceTypeExtension; infer_instance
instance : SafeC n (parseUnionTypeExtension fl k) := by unfold parseUnionTypeExtension; infer_instance
instance : SafeC n (parseEnumTypeExtension fl k) := by unfold parseEnumTypeExtension; infer_instance

instance : SafeC n (parseInputObjectTypeExtension fl k) := by
  refine ⟨Safe.bindT (peek_safeT n) fun start hs => ?_⟩
  have : ∀ msg, SafeC n (failTokAt start msg : P Definition) := fun _ => ⟨Safe.failTokAt hs _⟩
  exact SafeC.safe

instance : SafeC n (parseTypeSystemExtension fl k) := by
  refine ⟨Safe.bindT (peek2_safeT n) fun keyword hk => ?_⟩
  have : ∀ msg, SafeC n (failAt keyword msg : P Definition) := fun _ => ⟨Safe.failAt hk _⟩
  exact SafeC.safe

instance : SafeC n (parseDefinition fl k) := by unfold parseDefinition; infer_instance
instance : SafeC n (parseDocumentP fl k) := by unfold parseDocumentP; infer_instance
instance : SafeC n (parseValueP fl k) := by unfold parseValueP; infer_instance
instance : SafeC n (parseTypeP fl k) := by unfold parseTypeP; infer_instance

omit fl k c in
theorem runAll_in_range {α} (n : Nat) (p : Nat → P α) (hp : ∀ k, Safe n (p k)) (toks : List Tok)
    (hr : ∀ t ∈ toks, TokR n t) (e : SynErr) (h : runAll p toks = .error e) : e.pos ≤ n := by
  unfold runAll at h
  have hs : InR n ⟨toks, default⟩ := ⟨hr, Nat.zero_le _⟩
  have := (hp (toks.length + 1)).out _ hs
  split at h
  · rename_i a s hps
    rw [hps] at this
    split at h
    · cases h
    · rename_i t tl hts
      cases h
      exact (this.1 t (by simp [hts])).1
  · rename_i e' hps
    rw [hps] at this
    cases h
    exact this

end PyGql.Parse
