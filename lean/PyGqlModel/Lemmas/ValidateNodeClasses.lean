/-
  Classes of nodes, and which class the nodes of each kind of sub-tree lie in.  The enumerations of `Spec/ValidSpec.lean`
  (`valueNodes`, `argsNodes`, `dirsNodes`, `selNodes`, `varDefNodes`, `defNodes`) are built level by level, so "every node of a
  value is a value or an object field", "every node below a selection list is a selection, a selection set or lies below an
  argument or directive list", … hold by one induction each; the coarser classes (`isBody`, `isTop = false`, `isDoc = false`,
  `isVarDef = false`) follow node by node.  The walk skeletons ask their node law of such classes
  (`Lemmas/ValidateWalkLaws.lean`), and the per-rule proofs use them to say where a rule is idle.
-/
import PyGqlModel.Spec.ValidSpec
namespace PyGql.Validate
open PyGql PyGql.Validate.Spec

def Node.isDoc : Node → Bool | .document _ => true | _ => false

/-- document and definition level nodes -/
def Node.isTop : Node → Bool
  | .document _ | .operation .. | .fragmentDef .. | .tsDef => true
  | _ => false

theorem isDoc_of_isTop {n : Node} (h : n.isTop = false) : n.isDoc = false := by
  cases n <;> first | rfl | cases h

def Node.isDirective : Node → Bool | .directive _ => true | _ => false

def Node.isObjVal : Node → Bool | .value (.obj _) => true | _ => false

/-- selections, their selection sets and their directives -/
def Node.isSel : Node → Bool
  | .directive _ | .field .. | .spread .. | .inline .. | .selectionSet .. => true
  | _ => false

/-- a node produced by `valueNodes`: a value or an object field -/
def Node.isValueish : Node → Bool | .value _ | .objField _ => true | _ => false

mutual
theorem valueNodes_kinds : ∀ (v : Value) (n : Node), n ∈ valueNodes v → n.isValueish = true
  | .list vs, n, hn => by
    simp only [valueNodes, List.mem_cons] at hn
    rcases hn with rfl | hn
    · rfl
    · exact valuesNodes_kinds vs n hn
  | .obj fs, n, hn => by
    simp only [valueNodes, List.mem_cons] at hn
    rcases hn with rfl | hn
    · rfl
    · exact objFieldsNodes_kinds fs n hn
  | .var _, n, hn | .int _, n, hn | .float _, n, hn | .str _, n, hn | .bool _, n, hn | .null, n, hn | .enum _, n, hn => by
    simp only [valueNodes, List.mem_singleton] at hn; subst hn; rfl
theorem valuesNodes_kinds : ∀ (vs : List Value) (n : Node), n ∈ valuesNodes vs → n.isValueish = true
  | [], n, hn => by simp [valuesNodes] at hn
  | v :: vs, n, hn => by
    simp only [valuesNodes, List.mem_append] at hn
    rcases hn with hn | hn
    · exact valueNodes_kinds v n hn
    · exact valuesNodes_kinds vs n hn
theorem objFieldNodes_kinds : ∀ (f : ObjField) (n : Node), n ∈ objFieldNodes f → n.isValueish = true
  | .mk name v, n, hn => by
    simp only [objFieldNodes, List.mem_cons] at hn
    rcases hn with rfl | hn
    · rfl
    · exact valueNodes_kinds v n hn
theorem objFieldsNodes_kinds : ∀ (fs : List ObjField) (n : Node), n ∈ objFieldsNodes fs → n.isValueish = true
  | [], n, hn => by simp [objFieldsNodes] at hn
  | f :: fs, n, hn => by
    simp only [objFieldsNodes, List.mem_append] at hn
    rcases hn with hn | hn
    · exact objFieldNodes_kinds f n hn
    · exact objFieldsNodes_kinds fs n hn
end

/-- a node below an argument list or a directive list -/
def Node.isArgish : Node → Bool
  | .argument _ | .directive _ | .value _ | .objField _ => true
  | _ => false

/-- a node below a variable definition: it embeds no selection list -/
def Node.isInner : Node → Bool
  | .varDef _ | .typeNode _ => true
  | n => n.isArgish

/-- a node below a selection list -/
def Node.isBelowSels : Node → Bool
  | .field .. | .spread .. | .inline .. | .selectionSet .. => true
  | n => n.isArgish

theorem Node.argish_of_valueish {n : Node} (h : n.isValueish = true) : n.isArgish = true := by
  cases n with
  | value _ | objField _ => rfl
  | _ => cases h

theorem Node.inner_of_argish {n : Node} (h : n.isArgish = true) : n.isInner = true := by
  cases n with
  | argument _ | directive _ | value _ | objField _ => rfl
  | _ => cases h

theorem Node.belowSels_of_argish {n : Node} (h : n.isArgish = true) : n.isBelowSels = true := by
  cases n with
  | argument _ | directive _ | value _ | objField _ => rfl
  | _ => cases h

theorem argsNodes_argish (as : List Arg) : ∀ n ∈ argsNodes as, n.isArgish = true := by
  intro n hn
  simp only [argsNodes, List.mem_flatMap, argNodes, List.mem_cons] at hn
  obtain ⟨a, _, rfl | hn⟩ := hn
  · rfl
  · exact Node.argish_of_valueish (valueNodes_kinds _ n hn)

theorem dirsNodes_argish (ds : List Dir) : ∀ n ∈ dirsNodes ds, n.isArgish = true := by
  intro n hn
  simp only [dirsNodes, List.mem_flatMap, dirNodes, List.mem_cons] at hn
  obtain ⟨a, _, rfl | hn⟩ := hn
  · rfl
  · exact argsNodes_argish _ n hn

theorem varDefsNodes_inner (vars : List VarDef) : ∀ n ∈ vars.flatMap varDefNodes, n.isInner = true := by
  intro n hn
  simp only [List.mem_flatMap, varDefNodes, List.mem_cons, List.mem_append] at hn
  obtain ⟨v, _, rfl | hn | rfl | hn⟩ := hn
  · rfl
  · cases hd : v.default with
    | none => rw [hd] at hn; cases hn
    | some dv => rw [hd] at hn; exact Node.inner_of_argish (Node.argish_of_valueish (valueNodes_kinds _ n hn))
  · rfl
  · exact Node.inner_of_argish (dirsNodes_argish _ n hn)

mutual
theorem selNodes_below : ∀ (x : Sel) (n : Node), n ∈ selNodes x → n.isBelowSels = true
  | .field _ name args dirs hs id sub, n, hn => by
    simp only [selNodes, List.mem_cons, List.mem_append] at hn
    rcases hn with rfl | (hn | hn) | hn
    · rfl
    · exact Node.belowSels_of_argish (argsNodes_argish _ n hn)
    · exact Node.belowSels_of_argish (dirsNodes_argish _ n hn)
    · cases hs with
      | false => cases hn
      | true =>
        rcases List.mem_cons.mp hn with rfl | hn
        · rfl
        · exact selsNodes_below sub n hn
  | .spread name dirs, n, hn => by
    simp only [selNodes, List.mem_cons] at hn
    rcases hn with rfl | hn
    · rfl
    · exact Node.belowSels_of_argish (dirsNodes_argish _ n hn)
  | .inline on dirs id sub, n, hn => by
    simp only [selNodes, List.mem_cons, List.mem_append] at hn
    rcases hn with rfl | hn | rfl | hn
    · rfl
    · exact Node.belowSels_of_argish (dirsNodes_argish _ n hn)
    · rfl
    · exact selsNodes_below sub n hn
theorem selsNodes_below : ∀ (xs : List Sel) (n : Node), n ∈ selsNodes xs → n.isBelowSels = true
  | [], n, hn => by cases hn
  | x :: xs, n, hn => by
    simp only [selsNodes, List.mem_append] at hn
    rcases hn with hn | hn
    · exact selNodes_below x n hn
    · exact selsNodes_below xs n hn
end

theorem operation_mem_nodes (d : Doc) (k : String) (nm : Option String) (vs : List VarDef) (ds : List Dir) (sels : List Sel) :
    Node.operation k nm vs ds sels ∈ nodes d ↔ ∃ id, Def.op k nm vs ds id sels ∈ d.defs := by
  simp only [nodes, List.mem_cons, reduceCtorEq, false_or, List.mem_flatMap]
  constructor
  · rintro ⟨x, hx, hn⟩
    cases x with
    | op k' nm' vs' ds' id sels' =>
      simp only [defNodes, List.mem_cons, List.mem_append] at hn
      rcases hn with e | (hn | hn) | e | hn
      · cases e; exact ⟨id, hx⟩
      · cases varDefsNodes_inner _ _ hn
      · cases dirsNodes_argish _ _ hn
      · cases e
      · cases selsNodes_below _ _ hn
    | frag n on dirs id sels' =>
      simp only [defNodes, List.mem_cons, List.mem_append] at hn
      rcases hn with e | hn | e | hn
      · cases e
      · cases dirsNodes_argish _ _ hn
      · cases e
      · cases selsNodes_below _ _ hn
    | ts a b =>
      simp only [defNodes, List.mem_singleton] at hn
      cases hn
  · rintro ⟨id, h⟩
    exact ⟨_, h, List.mem_cons_self ..⟩

/-- the nodes above the values: the values are covered by `WalkAlgV.value` -/
def Node.aboveValues (n : Node) : Bool := !n.isTop && !n.isValueish

theorem isSel_aboveValues (n : Node) (hn : n.isSel = true) : n.aboveValues = true := by
  cases n <;> first | rfl | cases hn

/-- nodes that can occur below a variable definition, a directive list or a selection set -/
def Node.isBody : Node → Bool
  | .typeNode _ | .directive _ | .argument _ | .selectionSet .. | .field .. | .spread .. | .inline .. | .value _
  | .objField _ => true
  | _ => false

def Node.isVarDef : Node → Bool | .varDef _ => true | _ => false

theorem isBody_of_valueish {n : Node} (h : n.isValueish = true) : n.isBody = true := by
  cases n <;> first | rfl | cases h

theorem isVarDef_of_body {n : Node} (h : n.isBody = true) : n.isVarDef = false := by
  cases n <;> first | rfl | cases h

theorem valueNodes_body (v : Value) : ∀ n ∈ valueNodes v, n.isBody = true :=
  fun n h => isBody_of_valueish (valueNodes_kinds v n h)

theorem isBody_of_belowSels {n : Node} (h : n.isBelowSels = true) : n.isBody = true := by
  cases n <;> first | rfl | cases h

theorem dirsNodes_body (ds : List Dir) : ∀ n ∈ dirsNodes ds, n.isBody = true :=
  fun n h => isBody_of_belowSels (Node.belowSels_of_argish (dirsNodes_argish ds n h))
theorem selNodes_body (x : Sel) : ∀ n ∈ selNodes x, n.isBody = true :=
  fun n h => isBody_of_belowSels (selNodes_below x n h)
theorem selsNodes_body (xs : List Sel) : ∀ n ∈ selsNodes xs, n.isBody = true :=
  fun n h => isBody_of_belowSels (selsNodes_below xs n h)

theorem valuesNodes_noVarDef : ∀ (vs : List Value), ∀ n ∈ valuesNodes vs, n.isVarDef = false :=
  fun vs n h => isVarDef_of_body (isBody_of_valueish (valuesNodes_kinds vs n h))
theorem objFieldNodes_noVarDef : ∀ (f : ObjField), ∀ n ∈ objFieldNodes f, n.isVarDef = false :=
  fun f n h => isVarDef_of_body (isBody_of_valueish (objFieldNodes_kinds f n h))
theorem objFieldsNodes_noVarDef : ∀ (fs : List ObjField), ∀ n ∈ objFieldsNodes fs, n.isVarDef = false :=
  fun fs n h => isVarDef_of_body (isBody_of_valueish (objFieldsNodes_kinds fs n h))
theorem selNodes_noVarDef : ∀ (x : Sel), ∀ n ∈ selNodes x, n.isVarDef = false :=
  fun x n h => isVarDef_of_body (selNodes_body x n h)

/-- the children of an operation definition / of a fragment definition -/
def opBodyNodes (vars : List VarDef) (dirs : List Dir) (ssid : Nat) (sels : List Sel) : List Node :=
  vars.flatMap varDefNodes ++ dirsNodes dirs ++ .selectionSet ssid sels :: selsNodes sels
def fragBodyNodes (dirs : List Dir) (ssid : Nat) (sels : List Sel) : List Node :=
  dirsNodes dirs ++ .selectionSet ssid sels :: selsNodes sels

theorem fragBodyNodes_below (dirs : List Dir) (ssid : Nat) (sels : List Sel) :
    ∀ n ∈ fragBodyNodes dirs ssid sels, n.isTop = false := by
  intro n hn
  simp only [fragBodyNodes, List.mem_append, List.mem_cons] at hn
  rcases hn with hn | rfl | hn
  · have := dirsNodes_argish _ n hn
    cases n <;> first | rfl | cases this
  · rfl
  · have := selsNodes_below _ n hn
    cases n <;> first | rfl | cases this

theorem opBodyNodes_below (vars : List VarDef) (dirs : List Dir) (ssid : Nat) (sels : List Sel) :
    ∀ n ∈ opBodyNodes vars dirs ssid sels, n.isTop = false := by
  intro n hn
  rw [opBodyNodes, List.append_assoc, List.mem_append] at hn
  rcases hn with hn | hn
  · have := varDefsNodes_inner _ n hn
    cases n <;> first | rfl | cases this
  · exact fragBodyNodes_below dirs ssid sels n hn

theorem defNodes_notDoc (x : Def) : ∀ n ∈ defNodes x, n.isDoc = false := by
  intro n hn
  cases x with
  | op kind name vars dirs ssid sels =>
    rcases List.mem_cons.mp hn with rfl | hn
    · rfl
    · exact isDoc_of_isTop (opBodyNodes_below vars dirs ssid sels n hn)
  | frag name on dirs ssid sels =>
    rcases List.mem_cons.mp hn with rfl | hn
    · rfl
    · exact isDoc_of_isTop (fragBodyNodes_below dirs ssid sels n hn)
  | ts a b =>
    rcases List.mem_cons.mp hn with rfl | hn
    · rfl
    · cases hn

end PyGql.Validate
