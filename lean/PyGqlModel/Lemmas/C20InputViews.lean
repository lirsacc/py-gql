/-
  C20 — the INPUT side of "operations stay valid" (Props/C20_rules_values.lean, Props/C20_rules_vars.lean): the type a position
  expects only gets more permissive. `TyLoose` / `InRel` relate what a position expects on the old and on the new schema; the three
  ways a position is opened (argument, list item, input object field) keep the relation; `IInv` is the invariant of the paired
  input views, `pdI_step` its step.
-/
import PyGqlModel.Props.C20_rules_in
import PyGqlModel.Lemmas.ValidateCtxArgPar

set_option linter.unusedSimpArgs false

namespace PyGql.Props.C20
open PyGql PyGql.Differ PyGql.Diff PyGql.Validate PyGql.Validate.Spec

/-- `t'` is at least as permissive as `t`; the two are equal or `t` is well formed -/
def TyLoose (t t' : Ty) : Prop := sub t t' = true ∧ (t = t' ∨ t.wf = true)

theorem TyLoose.refl (t : Ty) : TyLoose t t := ⟨sub_refl_in t, Or.inl rfl⟩

theorem itemOf_base (t : Ty) : (TI.itemOf t).base = t.base := by
  cases t with
  | named x => rfl
  | list i => rfl
  | nonNull a => cases a <;> rfl

/-- the item position of a list position gets at least as permissive too -/
theorem TyLoose.itemOf {t t' : Ty} (h : TyLoose t t') : TyLoose (TI.itemOf t) (TI.itemOf t') := by
  obtain ⟨hs, he | hw⟩ := h
  · subst he; exact TyLoose.refl _
  · cases t with
    | named x =>
      cases t' with
      | named y => exact ⟨hs, Or.inr rfl⟩
      | list j => simp [sub] at hs
      | nonNull b => simp [sub] at hs
    | list i =>
      cases t' with
      | list j => exact ⟨by simpa [sub, TI.itemOf] using hs, Or.inr (by simpa [Ty.wf, TI.itemOf] using hw)⟩
      | named y => simp [sub] at hs
      | nonNull b => simp [sub] at hs
    | nonNull a =>
      have hwa : a.isNonNull = false ∧ a.wf = true := by simpa [Ty.wf] using hw
      cases a with
      | nonNull c => simp [Ty.isNonNull] at hwa
      | named x =>
        cases t' with
        | named y => exact ⟨by simpa [sub, TI.itemOf] using hs, Or.inr rfl⟩
        | list j => simp [sub] at hs
        | nonNull b =>
          cases b with
          | named y => exact ⟨by simpa [sub, TI.itemOf] using hs, Or.inr rfl⟩
          | list j => simp [sub] at hs
          | nonNull c => simp [sub] at hs
      | list i =>
        have hwi : i.wf = true := by simpa [Ty.wf] using hwa.2
        cases t' with
        | named y => simp [sub] at hs
        | list j => exact ⟨by simpa [sub, TI.itemOf] using hs, Or.inr hwi⟩
        | nonNull b =>
          cases b with
          | named y => simp [sub] at hs
          | list j => exact ⟨by simpa [sub, TI.itemOf] using hs, Or.inr hwi⟩
          | nonNull c => simp [sub] at hs

/-- unknown on both sides, or known on both sides and at least as permissive on the new one -/
def InRel (o : SchemaD) (x y : Option Ty) : Prop :=
  (x = none ∧ y = none) ∨ ∃ t t', x = some t ∧ y = some t' ∧ TyLoose t t' ∧ isInputTy o t = true

theorem InRel.of_new {o : SchemaD} {x y : Option Ty} (h : InRel o x y) {t' : Ty} (hy : y = some t') :
    ∃ t, x = some t ∧ TyLoose t t' ∧ isInputTy o t = true :=
  (ListEqv.OptRel.of_cases h).of_new hy

theorem kind_of_in {o : SchemaD} {t : Ty} (h : isInputTy o t = true) : (kindOf o t.base).isSome = true := by
  unfold isInputTy at h
  cases hk : kindOf o t.base with
  | none => rw [hk] at h; simp at h
  | some k => rfl

private theorem isInputTy_eq (o n : SchemaD) (h : diffSchema o n 2 = []) {t t' : Ty} (hb : t'.base = t.base)
    (hk : (kindOf o t.base).isSome = true) : isInputTy n t' = isInputTy o t := by
  unfold isInputTy
  rw [hb, nobreaking_kindOf_eq o n h _ hk]

theorem inOnly_rel (o n : SchemaD) (h : diffSchema o n 2 = []) (t t' : Ty) (hl : TyLoose t t')
    (hk : (kindOf o t.base).isSome = true) : InRel o (TI.inOnly o (some t)) (TI.inOnly n (some t')) := by
  unfold TI.inOnly
  simp only [Option.bind_some]
  rw [isInputTy_eq o n h (sub_base _ _ hl.1) hk]
  by_cases hi : isInputTy o t = true
  · rw [if_pos hi, if_pos hi]; exact Or.inr ⟨t, t', rfl, rfl, hl, hi⟩
  · rw [if_neg hi, if_neg hi]; exact Or.inl ⟨rfl, rfl⟩

/-- the types of the arguments are well-formed expressions over defined types -/
def ArgsWf (o : SchemaD) (as : List ArgD) : Prop :=
  ∀ a ∈ as, a.type.wf = true ∧ (kindOf o a.type.base).isSome = true

structure OldWfIn (o : SchemaD) : Prop where
  fieldArgs : ∀ t ∈ o.types, ∀ f ∈ t.fields, ArgsWf o f.args
  directiveArgs : ∀ d ∈ o.directives, ArgsWf o d.args
  inputFields : ∀ t ∈ o.types, ArgsWf o t.inputFields

structure NewWfIn (n : SchemaD) : Prop where
  inputFields : ∀ t ∈ n.types, Uniq ArgD.name t.inputFields

/-- `NewWfIn` in the form that can be evaluated on a concrete schema description -/
theorem NewWfIn.of_nodup {n : SchemaD} (h : ∀ t ∈ n.types, (t.inputFields.map ArgD.name).Nodup) : NewWfIn n :=
  ⟨fun t ht => ListEqv.nodup_uniq (h t ht)⟩

theorem inputFields_uniq {n : SchemaD} (wni : NewWfIn n) (x : String) : Uniq ArgD.name (inputFields n x) := by
  unfold inputFields
  cases hnt : n.findType x with
  | none => intro a ha; cases ha
  | some tn =>
    unfold SchemaD.findType at hnt
    by_cases hkk : (tn.kind == Kind.input) = true
    · simp only [hkk, if_true]
      exact wni.inputFields tn (List.mem_of_find?_eq_some hnt)
    · simp only [hkk]
      intro a ha
      cases ha

private theorem find_of_known (as : List ArgD) (nm : String) (hk : ∃ ad ∈ as, ad.name = nm) :
    ∃ a, as.find? (·.name == nm) = some a ∧ a ∈ as ∧ a.name = nm := by
  obtain ⟨ad, had, hn⟩ := hk
  cases hf : as.find? (·.name == nm) with
  | none =>
    have := List.find?_eq_none.mp hf ad had
    simp [hn] at this
  | some a => exact ⟨a, rfl, List.mem_of_find?_eq_some hf, by simpa using List.find?_some hf⟩

private theorem found_rel (o n : SchemaD) (h : diffSchema o n 2 = []) (as bs : List ArgD) (nm : String)
    (hS : ArgsRelS as bs) (hW : ArgsWf o as) (a : ArgD) (hf : as.find? (·.name == nm) = some a) :
    ∃ b, bs.find? (·.name == nm) = some b ∧ InRel o (TI.inOnly o (some a.type)) (TI.inOnly n (some b.type)) ∧
      becameRequired a b = false := by
  have ham : a ∈ as := List.mem_of_find?_eq_some hf
  have han : a.name = nm := by simpa using List.find?_some hf
  obtain ⟨b, hb, hs, hr⟩ := hS a ham
  rw [han] at hb
  exact ⟨b, hb, inOnly_rel o n h a.type b.type ⟨hs, Or.inr (hW a ham).1⟩ (hW a ham).2, hr⟩

/-- a default that made a non-null position optional is still there -/
private theorem default_kept {a b : ArgD} (hr : becameRequired a b = false) (c : Ty) (hb : b.type = .nonNull c)
    (hd : a.hasDefault = true) : b.hasDefault = true := by
  unfold becameRequired Diff.ArgD.required at hr
  rw [hb, hd] at hr
  cases hbd : b.hasDefault with
  | true => rfl
  | false => rw [hbd] at hr; simp [Ty.isNonNull] at hr

private theorem inOnly_some {s : SchemaD} {t u : Ty} (h : TI.inOnly s (some t) = some u) : t = u := by
  unfold TI.inOnly at h
  simp only [Option.bind_some] at h
  by_cases hi : isInputTy s t = true
  · rw [if_pos hi] at h; exact Option.some.inj h
  · rw [if_neg hi] at h; cases h

structure FDInv (o : SchemaD) (x : View × View) : Prop where
  fieldS : ∀ f f', x.1.field = some f → x.2.field = some f' → ArgsRelS f.args f'.args
  fieldW : ∀ f, x.1.field = some f → ArgsWf o f.args
  dirS : ∀ f f', x.1.directive = some f → x.2.directive = some f' → ArgsRelS f.args f'.args
  dirW : ∀ f, x.1.directive = some f → ArgsWf o f.args

private theorem fieldOf_argsWf (o : SchemaD) (woi : OldWfIn o) (p name : String) (fd : FieldD)
    (hf : fieldOf o p name = some fd) : ArgsWf o fd.args := by
  unfold fieldOf at hf
  by_cases hk : isObjOrIface o p = true
  · rw [if_pos hk] at hf
    cases ho : o.findType p with
    | none => rw [ho] at hf; simp at hf
    | some t =>
      rw [ho] at hf
      simp only [Option.bind_some] at hf
      unfold SchemaD.findType at ho
      exact woi.fieldArgs t (List.mem_of_find?_eq_some ho) fd (List.mem_of_find?_eq_some hf)
  · rw [if_neg hk] at hf; cases hf

private theorem getFieldDef_argsWf (o : SchemaD) (wo : OldWf o) (woi : OldWfIn o) (p name : String) (fd : FieldD)
    (hf : getFieldDef o p name = some fd) : ArgsWf o fd.args := by
  rcases getFieldDef_cases hf with rfl | rfl | rfl | hf
  · intro a ha; simp [schemaField] at ha
  · intro a ha
    simp only [typeField, List.mem_singleton] at ha
    subst ha
    exact ⟨rfl, wo.metas.1⟩
  · intro a ha; simp [typenameField] at ha
  · exact fieldOf_argsWf o woi p name fd hf

/-- steps that set the type or the parent type in scope leave the enclosing definitions alone -/
private theorem FDInv.withType {o : SchemaD} {a b : View} (h : FDInv o (a, b)) (x y : Option Ty) :
    FDInv o ({ a with type := x }, { b with type := y }) :=
  ⟨h.fieldS, h.fieldW, h.dirS, h.dirW⟩

private theorem FDInv.withParent {o : SchemaD} {a b : View} (h : FDInv o (a, b)) (x y : Option String) :
    FDInv o ({ a with parent := x }, { b with parent := y }) :=
  ⟨h.fieldS, h.fieldW, h.dirS, h.dirW⟩

theorem fd_step (o n : SchemaD) (h : diffSchema o n 2 = []) (wo : OldWf o) (woi : OldWfIn o) (nd : Node)
    (a b : View) (hv : VInv o (a, b)) (hfd : FDInv o (a, b)) : FDInv o (View.enter o nd a, View.enter n nd b) := by
  cases nd with
  | directive dr =>
    refine ⟨hfd.fieldS, hfd.fieldW, ?_, ?_⟩
    · intro f f' hf hf'
      exact nobreaking_V_findDirective_in o n h dr.name f f' hf hf'
    · intro f hf
      have hf2 : findDirective o dr.name = some f := hf
      unfold findDirective at hf2
      exact woi.directiveArgs f (List.mem_of_find?_eq_some hf2)
  | field name args dirs hs =>
    have hpar : a.parent = b.parent := hv.parent
    refine ⟨?_, ?_, hfd.dirS, hfd.dirW⟩
    · intro f f' hf hf'
      have hf1 : (a.parent.bind fun p => getFieldDef o p name) = some f := hf
      have hf2 : (b.parent.bind fun p => getFieldDef n p name) = some f' := hf'
      cases hp : a.parent with
      | none => rw [hp] at hf1; cases hf1
      | some p =>
        rw [hp] at hf1
        rw [← hpar, hp] at hf2
        exact nobreaking_V_getFieldDef_in o n h wo p name (hv.comp p hp) f f' hf1 hf2
    · intro f hf
      have hf1 : (a.parent.bind fun p => getFieldDef o p name) = some f := hf
      cases hp : a.parent with
      | none => rw [hp] at hf1; cases hf1
      | some p => rw [hp] at hf1; exact getFieldDef_argsWf o wo woi p name f hf1
  -- no other node touches the field or the directive of the view, and most leave the view as it is
  | inline on dirs => cases on <;> exact hfd.withType _ _
  | operation _ _ _ _ _ | fragmentDef _ _ _ => exact hfd.withType _ _
  | selectionSet _ _ => exact hfd.withParent _ _
  | _ => exact hfd

def pdI (o n : SchemaD) (nd : Node) (x : IView × IView) : IView × IView := (IView.enter o nd x.1, IView.enter n nd x.2)

theorem IView.enter_view (s : SchemaD) (nd : Node) (w : IView) : (IView.enter s nd w).view = View.enter s nd w.view := by
  cases nd with
  | value v => cases v <;> rfl
  | _ => rfl

structure IInv (o : SchemaD) (x : IView × IView) : Prop where
  view : VInv o (x.1.view, x.2.view)
  fd : FDInv o (x.1.view, x.2.view)
  input : InRel o x.1.input x.2.input
  outer : InRel o x.1.outer x.2.outer

/-- the argument given is one the enclosing directive, else the enclosing field, defines (KnownArgumentNames, seen
    from the argument node) -/
def ArgKnown (v : View) (nm : String) : Prop :=
  (∀ dd, v.directive = some dd → ∃ ad ∈ dd.args, ad.name = nm) ∧
  (v.directive = none → ∀ fd, v.field = some fd → ∃ ad ∈ fd.args, ad.name = nm)

/-- what the rules on the OLD schema say at one node (the part that keeps the input views defined) -/
def OldOkI (o : SchemaD) (fx : Fixes) (p : Node × (IView × IView)) : Prop :=
  OldOk o (p.1, (p.2.1.view, p.2.2.view)) ∧
  (∀ v, p.1 = .varDef v → ∃ t, typeFromAst o v.type = some t ∧ isInputTy o t = true) ∧
  (∀ a, p.1 = .argument a → ArgKnown p.2.1.view a.name) ∧
  (∀ nm, p.1 = .objField nm → p.2.1.input = none → p.2.1.outerObject o fx = none)

/-- **argument positions**: known on both sides, at least as permissive, a default that mattered is kept -/
theorem argPos_rel (o n : SchemaD) (h : diffSchema o n 2 = []) (v v' : View) (nm : String)
    (hv : VInv o (v, v')) (hfd : FDInv o (v, v')) (hk : ArgKnown v nm) :
    InRel o (argPos o v nm).inputType (argPos n v' nm).inputType ∧
      (∀ c, (argPos n v' nm).inputType = some (.nonNull c) → (argPos o v nm).locDefault = true →
        (argPos n v' nm).locDefault = true) := by
  have key : ∀ (as bs : List ArgD), ArgsRelS as bs → ArgsWf o as → (∃ ad ∈ as, ad.name = nm) →
      InRel o (TI.inOnly o ((as.find? (·.name == nm)).map (·.type))) (TI.inOnly n ((bs.find? (·.name == nm)).map (·.type))) ∧
      (∀ c, TI.inOnly n ((bs.find? (·.name == nm)).map (·.type)) = some (.nonNull c) →
        ((as.find? (·.name == nm)).map (·.hasDefault)).getD false = true →
        ((bs.find? (·.name == nm)).map (·.hasDefault)).getD false = true) := by
    intro as bs hS hW hkn
    obtain ⟨a, hfa, _, _⟩ := find_of_known as nm hkn
    obtain ⟨b, hfb, hrel, hr⟩ := found_rel o n h as bs nm hS hW a hfa
    rw [hfa, hfb]
    simp only [Option.map_some, Option.getD_some]
    exact ⟨hrel, fun c hc hd => default_kept hr c (inOnly_some hc) hd⟩
  unfold argPos
  rcases hv.directive with ⟨hx, hy⟩ | ⟨f, f', hx, hy, _⟩
  · have hd : v.directive = none := hx
    have hd' : v'.directive = none := hy
    simp only [hd, hd']
    rcases hv.field with ⟨hx, hy⟩ | ⟨f, f', hx, hy, _⟩
    · rw [show v.field = none from hx, show v'.field = none from hy]
      exact ⟨Or.inl ⟨rfl, rfl⟩, fun c hc => by cases hc⟩
    · have hx' : v.field = some f := hx
      have hy' : v'.field = some f' := hy
      rw [hx', hy']
      simp only [Option.map_some]
      exact key f.args f'.args (hfd.fieldS f f' hx' hy') (hfd.fieldW f hx') (hk.2 hd f hx')
  · have hx' : v.directive = some f := hx
    have hy' : v'.directive = some f' := hy
    simp only [hx', hy']
    exact key f.args f'.args (hfd.dirS f f' hx' hy') (hfd.dirW f hx') (hk.1 f hx')

private theorem inputFields_argsWf (o : SchemaD) (woi : OldWfIn o) (x : String) : ArgsWf o (inputFields o x) := by
  unfold inputFields
  cases ho : o.findType x with
  | none => intro a ha; simp at ha
  | some t =>
    unfold SchemaD.findType at ho
    have htm := List.mem_of_find?_eq_some ho
    by_cases hk : (t.kind == Kind.input) = true
    · simp only [hk, if_true]; exact woi.inputFields t htm
    · simp only [hk]; intro a ha; simp at ha

theorem objFieldPos_rel (o n : SchemaD) (h : diffSchema o n 2 = []) (woi : OldWfIn o) (u u' : Usage) (nm : String)
    (hin : InRel o u.inputType u'.inputType)
    (hk : (objFieldPos o u nm).inputType = none → ∀ t, u.inputType = some t → isInputObject o t.base = false) :
    InRel o (objFieldPos o u nm).inputType (objFieldPos n u' nm).inputType ∧
      (∀ c, (objFieldPos n u' nm).inputType = some (.nonNull c) → (objFieldPos o u nm).locDefault = true →
        (objFieldPos n u' nm).locDefault = true) := by
  rcases hin with ⟨hx, hy⟩ | ⟨t, t', hx, hy, hl, hi⟩
  · unfold objFieldPos
    rw [hx, hy]
    exact ⟨Or.inl ⟨rfl, rfl⟩, fun c hc => by cases hc⟩
  · have hb := sub_base _ _ hl.1
    have hkn := kind_of_in hi
    by_cases hio : isInputObject o t.base = true
    · obtain ⟨hin', hS, _⟩ := nobreaking_V_inputFields o n h t.base hio
      cases hf : (inputFields o t.base).find? (·.name == nm) with
      | none =>
        have : (objFieldPos o u nm).inputType = none := by
          unfold objFieldPos; rw [hx]; simp only [Option.map_some]; rw [if_pos hio, hf]; rfl
        have := hk this t hx
        rw [hio] at this; cases this
      | some a =>
        obtain ⟨b, hfb, hrel, hr⟩ := found_rel o n h _ _ nm hS (inputFields_argsWf o woi t.base) a hf
        unfold objFieldPos
        rw [hx, hy]
        simp only [Option.map_some]
        rw [hb, if_pos hio, if_pos hin', hf, hfb]
        simp only [Option.map_some, Option.getD_some]
        exact ⟨hrel, fun c hc hd => default_kept hr c (inOnly_some hc) hd⟩
    · have hio' : isInputObject o t.base = false := by simpa using hio
      have hin' : isInputObject n t.base = false := by
        unfold isInputObject at hio' ⊢
        rw [nobreaking_kindOf_eq o n h _ hkn]; exact hio'
      unfold objFieldPos
      rw [hx, hy]
      simp only [Option.map_some]
      rw [hb, hio', hin']
      exact ⟨Or.inl ⟨rfl, rfl⟩, fun c hc => by cases hc⟩

theorem listItemPos_rel (o n : SchemaD) (h : diffSchema o n 2 = []) (x y : Option Ty) (hin : InRel o x y) :
    InRel o (TI.inOnly o (x.map TI.itemOf)) (TI.inOnly n (y.map TI.itemOf)) := by
  rcases hin with ⟨hx, hy⟩ | ⟨t, t', hx, hy, hl, hi⟩
  · rw [hx, hy]; exact Or.inl ⟨rfl, rfl⟩
  · rw [hx, hy]
    simp only [Option.map_some]
    exact inOnly_rel o n h _ _ hl.itemOf (by rw [itemOf_base]; exact kind_of_in hi)

private theorem typeFromAst_kept (o n : SchemaD) (h : diffSchema o n 2 = []) (t u : Ty)
    (ht : typeFromAst o t = some u) : u = t ∧ typeFromAst n t = some t := by
  unfold typeFromAst at ht ⊢
  by_cases hf : (o.findType t.base).isSome = true
  · rw [if_pos hf] at ht
    exact ⟨(Option.some.inj ht).symm, by rw [if_pos (findType_kept o n h _ hf)]⟩
  · rw [if_neg hf] at ht; cases ht

theorem outerObject_v9 (s : SchemaD) (fx : Fixes) (hv9 : fx.v9 = true) (w : IView) :
    w.outerObject s fx = match w.outer with
      | some ty => if isInputObject s ty.base then some ty.base else none
      | none => none := by
  unfold IView.outerObject
  cases w.outer with
  | none => rfl
  | some ty => simp [hv9]

/-- an enclosing position that yields no outer object does not expect an input object type -/
theorem not_inputObject_of_outer (s : SchemaD) (fx : Fixes) (hv9 : fx.v9 = true) (w : IView)
    (h : w.outerObject s fx = none) (t : Ty) (ht : w.outer = some t) : isInputObject s t.base = false := by
  rw [outerObject_v9 s fx hv9, ht] at h
  by_cases hio : isInputObject s t.base = true
  · simp [hio] at h
  · simpa using hio

/-- a step that only moves the output view keeps the expected input types -/
private theorem IInv.withView {o : SchemaD} {w w' : IView} (h : IInv o (w, w')) (v v' : View) :
    InRel o ({ w with view := v } : IView).input ({ w' with view := v' } : IView).input ∧
      InRel o ({ w with view := v } : IView).outer ({ w' with view := v' } : IView).outer :=
  ⟨h.input, h.outer⟩

theorem in_step (o n : SchemaD) (h : diffSchema o n 2 = []) (woi : OldWfIn o) (fx : Fixes) (hv9 : fx.v9 = true)
    (nd : Node) (x : IView × IView) (hinv : IInv o x) (hok : OldOkI o fx (nd, pdI o n nd x)) :
    InRel o (IView.enter o nd x.1).input (IView.enter n nd x.2).input ∧
      InRel o (IView.enter o nd x.1).outer (IView.enter n nd x.2).outer := by
  obtain ⟨w, w'⟩ := x
  obtain ⟨_, okV, okA, okF⟩ := hok
  cases nd with
  | varDef v =>
    refine ⟨?_, hinv.input⟩
    show InRel o (TI.inOnly o (typeFromAst o v.type)) (TI.inOnly n (typeFromAst n v.type))
    obtain ⟨t, ht, hi⟩ := okV v rfl
    obtain ⟨e, hn⟩ := typeFromAst_kept o n h v.type t ht
    subst e
    rw [ht, hn]
    exact inOnly_rel o n h _ _ (TyLoose.refl _) (kind_of_in hi)
  | argument a =>
    refine ⟨?_, hinv.input⟩
    show InRel o (argPos o w.view a.name).inputType (argPos n w'.view a.name).inputType
    have hk : ArgKnown w.view a.name := okA a rfl
    exact (argPos_rel o n h w.view w'.view a.name hinv.view hinv.fd hk).1
  | objField nm =>
    refine ⟨?_, hinv.input⟩
    show InRel o (objFieldPos o ⟨w.input, false⟩ nm).inputType (objFieldPos n ⟨w'.input, false⟩ nm).inputType
    refine (objFieldPos_rel o n h woi ⟨w.input, false⟩ ⟨w'.input, false⟩ nm hinv.input ?_).1
    intro hnone t ht
    exact not_inputObject_of_outer o fx hv9 _ (okF nm rfl hnone) t ht
  | value v =>
    cases v with
    | list vs =>
      refine ⟨?_, hinv.input⟩
      show InRel o (TI.inOnly o (w.input.map TI.itemOf)) (TI.inOnly n (w'.input.map TI.itemOf))
      exact listItemPos_rel o n h _ _ hinv.input
    | _ => exact hinv.withView _ _
  -- no other node opens an input position
  | _ => exact hinv.withView _ _

/-- **the input views stay compatible** below every node that is in order on the old schema -/
theorem pdI_step (o n : SchemaD) (h : diffSchema o n 2 = []) (wo : OldWf o) (wn : NewWf n) (woi : OldWfIn o)
    (fx : Fixes) (hv9 : fx.v9 = true) (nd : Node) (x : IView × IView) (hinv : IInv o x)
    (hok : OldOkI o fx (nd, pdI o n nd x)) : IInv o (pdI o n nd x) := by
  have e1 : (pdI o n nd x).1.view = View.enter o nd x.1.view := IView.enter_view o nd x.1
  have e2 : (pdI o n nd x).2.view = View.enter n nd x.2.view := IView.enter_view n nd x.2
  have hok1 : OldOk o (nd, pd o n nd (x.1.view, x.2.view)) := by
    have := hok.1
    show OldOk o (nd, (View.enter o nd x.1.view, View.enter n nd x.2.view))
    rw [← e1, ← e2]; exact this
  have hv := pd_step o n h wo wn nd (x.1.view, x.2.view) hinv.view hok1
  have hf := fd_step o n h wo woi nd x.1.view x.2.view hinv.view hinv.fd
  obtain ⟨hi, ho⟩ := in_step o n h woi fx hv9 nd x hinv hok
  refine ⟨?_, ?_, hi, ho⟩
  · rw [e1, e2]; exact hv
  · rw [e1, e2]; exact hf

def pairNodesI (o n : SchemaD) (d : Doc) : List (Node × (IView × IView)) := gnDoc (pdI o n) ({}, {}) d

private theorem pairI_fst (o n : SchemaD) (d : Doc) : pmap Prod.fst (pairNodesI o n d) = inputNodes o d :=
  gnDoc_map Prod.fst (pdI o n) (IView.enter o) (fun _ _ => rfl) d ({}, {})

private theorem pairI_snd (o n : SchemaD) (d : Doc) : pmap Prod.snd (pairNodesI o n d) = inputNodes n d :=
  gnDoc_map Prod.snd (pdI o n) (IView.enter n) (fun _ _ => rfl) d ({}, {})

private theorem pairI_view (o n : SchemaD) (d : Doc) :
    pmap (fun x : IView × IView => x.1.view) (pairNodesI o n d) = typedNodes o d := by
  rw [typedNodes_eq_viewNodes]
  exact gnDoc_map (fun x : IView × IView => x.1.view) (pdI o n) (View.enter o)
    (fun nd x => IView.enter_view o nd x.1) d ({}, {})

theorem memI_old {o n : SchemaD} {d : Doc} {p : Node × (IView × IView)} (hp : p ∈ pairNodesI o n d) :
    (p.1, p.2.1) ∈ inputNodes o d := by
  rw [← pairI_fst o n d]; exact List.mem_map.mpr ⟨p, hp, rfl⟩

theorem memI_typed {o n : SchemaD} {d : Doc} {p : Node × (IView × IView)} (hp : p ∈ pairNodesI o n d) :
    (p.1, p.2.1.view) ∈ typedNodes o d := by
  rw [← pairI_view o n d]; exact List.mem_map.mpr ⟨p, hp, rfl⟩

theorem ofI_new {o n : SchemaD} {d : Doc} {q : Node × IView} (hq : q ∈ inputNodes n d) :
    ∃ p ∈ pairNodesI o n d, q = (p.1, p.2.2) := by
  rw [← pairI_snd o n d] at hq
  obtain ⟨p, hp, e⟩ := List.mem_map.mp hq
  exact ⟨p, hp, e.symm⟩

private theorem dir_kept (s : SchemaD) (nd : Node) (w : IView) (hnd : ∀ dr, nd ≠ Node.directive dr) :
    (IView.enter s nd w).view.directive = w.view.directive := by
  rw [IView.enter_view]
  cases nd with
  | directive dr => exact absurd rfl (hnd dr)
  | inline on dirs => cases on <;> rfl
  | _ => rfl

theorem oldOkI_all (o n : SchemaD) (fx : Fixes) (d : Doc) (hv : SchemaRules o d) (hR : OpsRooted o d)
    (hval : valuesOfCorrectType o fx d) : ∀ p ∈ pairNodesI o n d, OldOkI o fx p := by
  have hpar := gnDoc_argPar (pdI o n) (fun x : IView × IView => x.1.view.directive = none)
    (fun nd x hx hnd => by
      show (IView.enter o nd x.1).view.directive = none
      rw [dir_kept o nd x.1 hnd]; exact hx) d ({}, {}) rfl
  have hD := directivesDefined_of_known o d hv.knownDirectives
  intro p hp
  have hm := memI_typed hp
  have hnode : p.1 ∈ nodes d := typed_node_mem hm
  refine ⟨⟨?_, ?_, ?_, ?_, ?_⟩, ?_, ?_, ?_⟩
  · intro name args dirs hs e; exact hv.fieldsOnCorrectType _ hm name args dirs hs e
  · intro dr e; exact hD _ hnode dr e
  · intro on dirs e; exact hv.fragmentsOnCompositeTypes.1 _ hnode on dirs e
  · intro name on dirs e; exact hv.fragmentsOnCompositeTypes.2 _ hnode name on dirs e
  · intro kind name vars dirs sels e; exact hR _ hnode kind name vars dirs sels e
  · intro v e; exact hv.variablesAreInputTypes _ hnode v e
  · intro a e
    obtain ⟨q, hq, hc, hpa⟩ := hpar p hp a e
    have hview : p.2.1.view = q.2.1.view := by
      rw [hc]; exact IView.enter_view o (.argument a) q.2.1
    rw [hview]
    have hqm := memI_typed hq
    rcases hpa with ⟨name, args, dirs, hs, eq, ha, hdn⟩ | ⟨dr, x, eq, ex, ha⟩
    · refine ⟨fun dd hdd => ?_, fun _ fd hfd => ?_⟩
      · rw [show q.2.1.view.directive = none from hdn] at hdd; cases hdd
      · exact hv.knownArgumentNames.1 _ hqm name args dirs hs eq fd hfd a ha
    · have hdir : q.2.1.view.directive = findDirective o dr.name := by
        rw [ex]; show (IView.enter o (.directive dr) x.1).view.directive = _
        rw [IView.enter_view]; rfl
      refine ⟨fun dd hdd => hv.knownArgumentNames.2 _ hqm dr eq dd hdd a ha, fun hnone => ?_⟩
      have := hD _ (typed_node_mem hqm) dr eq
      rw [← hdir, hnone] at this; cases this
  · intro nm e hnone
    have := hval _ (memI_old hp)
    rw [show (p.1, p.2.1).1 = Node.objField nm from e] at this
    exact this hnone

theorem iinv_root (o : SchemaD) : IInv o (({} : IView), ({} : IView)) :=
  ⟨⟨rfl, fun p hp => (by cases hp), Or.inl ⟨rfl, rfl⟩, Or.inl ⟨rfl, rfl⟩, Or.inl ⟨rfl, rfl⟩⟩,
   ⟨fun f f' hf => (by cases hf), fun f hf => (by cases hf), fun f f' hf => (by cases hf), fun f hf => (by cases hf)⟩,
   Or.inl ⟨rfl, rfl⟩, Or.inl ⟨rfl, rfl⟩⟩

end PyGql.Props.C20
