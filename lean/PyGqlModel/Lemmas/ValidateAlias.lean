/-
  Renaming of ALIASES (C06, `alpha_aliases`), at the level of the MODEL OF THE CODE: `Al.doc A d` gives every field the
  alias `A.alias oldAlias fieldName` (any function - not even injective). 24 of the 26 rule visitors never read an
  alias nor the selection lists embedded in the nodes they are handed (`document`, `operation`, `selectionSet`), so the
  whole run of a chain made of such rules is EQUAL, state by state, on the renamed document (`visitDocument_al`).
  The two rules that do read aliases are `SingleFieldSubscriptions` (response keys of the root selection set, for a
  renaming that is injective on response keys: `Al.Renames` below, `DocMap.sfs_iff`) and `OverlappingFieldsCanBeMerged`
  (`Lemmas/ValidateOverlapSimAl.lean`).
-/
import PyGqlModel.Validate.Chain
namespace PyGql.Validate
open PyGql

/-! ### two nodes the chain cannot tell apart -/

theorem enterRules_congr (c : Cfg) {n n' : Node} (ti : TI) : ∀ (rules : List Rule),
    (∀ r ∈ rules, ∀ rs, enterRule c.schema c.fixes r n' ti rs = enterRule c.schema c.fixes r n ti rs) →
    ∀ rs, enterRules c n' ti rules rs = enterRules c n ti rules rs
  | [], _, _ => rfl
  | r :: rest, h, rs => by
    simp only [enterRules, h r (List.mem_cons_self ..),
      enterRules_congr c ti rest fun r' hr' => h r' (List.mem_cons_of_mem _ hr')]

theorem raisedRules_congr (c : Cfg) {n n' : Node} (ti : TI) : ∀ (rules : List Rule),
    (∀ r ∈ rules, ∀ rs, enterRule c.schema c.fixes r n' ti rs = enterRule c.schema c.fixes r n ti rs) →
    ∀ rs, raisedRules c n' ti rules rs = raisedRules c n ti rules rs
  | [], _, _ => rfl
  | r :: rest, h, rs => by
    simp only [raisedRules, h r (List.mem_cons_self ..),
      raisedRules_congr c ti rest fun r' hr' => h r' (List.mem_cons_of_mem _ hr')]

theorem visitNode_congr (c : Cfg) {n n' : Node}
    (hE : ∀ r ∈ c.rules, ∀ ti rs, enterRule c.schema c.fixes r n' ti rs = enterRule c.schema c.fixes r n ti rs)
    (hL : ∀ r ∈ c.rules, ∀ ti rs, leaveRule c.schema c.fixes r n' ti rs = leaveRule c.schema c.fixes r n ti rs)
    (hti : ∀ t, tiEnter c.schema n' t = tiEnter c.schema n t) (htl : ∀ t, tiLeave n' t = tiLeave n t)
    {body body' : St → St} (hb : ∀ st, body st = body' st) (st : St) :
    visitNode c n' body st = visitNode c n body' st := by
  have hl (ti : TI) (l : List Rule) (hl : ∀ r ∈ l, r ∈ c.rules) (rs : RS) :
      l.foldl (fun rs r => leaveRule c.schema c.fixes r n' ti rs) rs =
        l.foldl (fun rs r => leaveRule c.schema c.fixes r n ti rs) rs := by
    induction l generalizing rs with
    | nil => rfl
    | cons r l ih =>
      rw [List.foldl_cons, List.foldl_cons, hL r (hl r (List.mem_cons_self ..)),
        ih fun r' hr' => hl r' (List.mem_cons_of_mem _ hr')]
  have he : enter c n' st = enter c n st := by
    simp only [enter, hti, enterRules_congr c _ c.rules fun r hr => hE r hr _]
  have hlv (st : St) : leave c n' st = leave c n st := by
    simp only [leave, htl, hl _ _ fun r hr => List.mem_reverse.mp hr]
  have hls (st0 st1 : St) : leaveSkipped c n' st0 st1 = leaveSkipped c n st0 st1 := by
    simp only [leaveSkipped, htl, raisedRules_congr c _ c.rules fun r hr => hE r hr _,
      hl _ _ fun r hr => (List.mem_filter.mp (List.mem_reverse.mp hr)).1]
  simp only [visitNode, he, hlv, hls, hb]

structure Al where
  /-- new alias of a field, from its alias and its name -/
  alias : Option String → String → Option String

namespace Al
variable (A : Al)

mutual
def sel : Sel → Sel
  | .field al n args dirs hs id sub => .field (A.alias al n) n args dirs hs id (selList sub)
  | .spread n dirs => .spread n dirs
  | .inline on dirs id sub => .inline on dirs id (selList sub)
def selList : List Sel → List Sel
  | [] => []
  | x :: xs => sel x :: selList xs
end

def defn : Def → Def
  | .op k nm vars dirs id sels => .op k nm vars dirs id (A.selList sels)
  | .frag n on dirs id sels => .frag n on dirs id (A.selList sels)
  | .ts a b => .ts a b

def doc (d : Doc) : Doc := { defs := d.defs.map A.defn }

def node : Node → Node
  | .document d => .document (A.doc d)
  | .operation k nm vars dirs sels => .operation k nm vars dirs (A.selList sels)
  | .selectionSet id sels => .selectionSet id (A.selList sels)
  | n => n

theorem selList_eq_map (l : List Sel) : A.selList l = l.map A.sel := by
  induction l with
  | nil => rfl
  | cons x xs ih => rw [selList, ih]; rfl

end Al

theorem Rule.mem_all (r : Rule) : r ∈ Rule.all := by cases r <;> decide +kernel

def Rule.readsAlias : Rule → Bool
  | .singleFieldSubscriptions | .overlappingFieldsCanBeMerged => true
  | _ => false

theorem al_isExecutable (A : Al) (x : Def) : (A.defn x).isExecutable = x.isExecutable := by cases x <;> rfl
theorem al_isOp (A : Al) (x : Def) : (A.defn x).isOp = x.isOp := by cases x <;> rfl
theorem al_isAnonOp (A : Al) (x : Def) : (A.defn x).isAnonOp = x.isAnonOp := by
  cases x with
  | op k nm => cases nm <;> rfl
  | _ => rfl

theorem Al.fragDefs_doc (A : Al) (d : Doc) : fragDefs (A.doc d) = (fragDefs d).map fun f => (f.1, f.2.1, f.2.2.1, A.selList f.2.2.2) := by
  simp only [fragDefs, Al.doc, List.filterMap_map, List.map_filterMap]
  congr 1
  funext x
  cases x <;> rfl

theorem enterRule_al (A : Al) (s : SchemaD) (fx : Fixes) (r : Rule) (hr : r.readsAlias = false) (n : Node) (ti : TI)
    (st : RS) : enterRule s fx r (A.node n) ti st = enterRule s fx r n ti st := by
  cases n with
  | document d =>
    cases r with
    | executableDefinitions =>
      unfold enterRule
      simp only [Al.node, Al.doc, List.filter_map, List.length_map, Function.comp_def, al_isExecutable]
    | loneAnonymousOperation =>
      unfold enterRule
      simp only [Al.node, Al.doc, List.filter_map, List.length_map, List.any_map, Function.comp_def, al_isOp, al_isAnonOp]
    | knownFragmentNames =>
      unfold enterRule
      simp only [Al.node, A.fragDefs_doc, List.map_map, Function.comp_def]
    | possibleFragmentSpreads =>
      unfold enterRule
      simp only [Al.node, A.fragDefs_doc, List.filter_map, List.foldl_map, Function.comp_def]
    | singleFieldSubscriptions | overlappingFieldsCanBeMerged => cases hr
    | _ => rfl
  | operation k nm vars dirs sels =>
    cases r with
    | singleFieldSubscriptions => cases hr
    | _ => rfl
  | selectionSet id sels =>
    cases r with
    | overlappingFieldsCanBeMerged => cases hr
    | _ => rfl
  | _ => rfl

theorem leaveRule_al (A : Al) (s : SchemaD) (fx : Fixes) (r : Rule) (n : Node) (ti : TI) (st : RS) :
    leaveRule s fx r (A.node n) ti st = leaveRule s fx r n ti st := by
  cases n with
  | document d => cases r <;> rfl
  | operation k nm vars dirs sels => cases r <;> rfl
  | selectionSet id sels => cases r <;> rfl
  | _ => rfl

theorem tiEnter_al (A : Al) (s : SchemaD) (n : Node) (t : TI) : tiEnter s (A.node n) t = tiEnter s n t := by
  cases n <;> rfl
theorem tiLeave_al (A : Al) (n : Node) (t : TI) : tiLeave (A.node n) t = tiLeave n t := by
  cases n <;> rfl

def Cfg.AliasBlind (c : Cfg) : Prop := ∀ r ∈ c.rules, r.readsAlias = false

theorem visitNode_al (A : Al) (c : Cfg) (hc : c.AliasBlind) (n : Node) (body body' : St → St)
    (hb : ∀ st, body st = body' st) (st : St) : visitNode c (A.node n) body st = visitNode c n body' st :=
  visitNode_congr c (fun r hr => enterRule_al A _ _ r (hc r hr) n) (fun r _ => leaveRule_al A _ _ r n)
    (tiEnter_al A _ n) (tiLeave_al A n) hb st

mutual
theorem visitSel_al (A : Al) (c : Cfg) (hc : c.AliasBlind) : ∀ (x : Sel) (st : St), visitSel c (A.sel x) st = visitSel c x st
  | .field al n args dirs hs id sub, st => by
    simp only [Al.sel, visitSel]
    refine congrFun (congrArg (visitNode c _) (funext fun st' => ?_)) st
    split
    · exact visitNode_al A c hc (.selectionSet id sub) _ _ (visitSels_al A c hc sub) _
    · rfl
  | .spread n dirs, st => rfl
  | .inline on dirs id sub, st => by
    simp only [Al.sel, visitSel]
    refine congrFun (congrArg (visitNode c _) (funext fun st' => ?_)) st
    exact visitNode_al A c hc (.selectionSet id sub) _ _ (visitSels_al A c hc sub) _
theorem visitSels_al (A : Al) (c : Cfg) (hc : c.AliasBlind) : ∀ (xs : List Sel) (st : St),
    visitSels c (A.selList xs) st = visitSels c xs st
  | [], st => rfl
  | x :: xs, st => by
    simp only [Al.selList, visitSels]
    rw [visitSel_al A c hc x st, visitSels_al A c hc xs]
end

theorem visitDef_al (A : Al) (c : Cfg) (hc : c.AliasBlind) (x : Def) (st : St) :
    visitDef c (A.defn x) st = visitDef c x st := by
  cases x with
  | op k nm vars dirs id sels =>
    simp only [Al.defn, visitDef]
    refine visitNode_al A c hc (.operation k nm vars dirs sels) _ _ (fun st' => ?_) st
    exact visitNode_al A c hc (.selectionSet id sels) _ _ (visitSels_al A c hc sels) _
  | frag n on dirs id sels =>
    simp only [Al.defn, visitDef]
    refine congrFun (congrArg (visitNode c _) (funext fun st' => ?_)) st
    exact visitNode_al A c hc (.selectionSet id sels) _ _ (visitSels_al A c hc sels) _
  | ts a b => rfl

theorem visitDocument_al (A : Al) (c : Cfg) (hc : c.AliasBlind) (d : Doc) (st : St) :
    visitDocument c (A.doc d) st = visitDocument c d st := by
  simp only [visitDocument]
  refine visitNode_al A c hc (.document d) _ _ (fun st' => ?_) st
  simp only [Al.doc, List.foldl_map, visitDef_al A c hc]

mutual
theorem selSize_al (A : Al) : ∀ x : Sel, selSize (A.sel x) = selSize x
  | .field .. => by simp only [Al.sel, selSize, selsSize_al]
  | .spread .. => rfl
  | .inline .. => by simp only [Al.sel, selSize, selsSize_al]
theorem selsSize_al (A : Al) : ∀ xs : List Sel, selsSize (A.selList xs) = selsSize xs
  | [] => rfl
  | x :: xs => by simp only [Al.selList, selsSize, selSize_al A x, selsSize_al A xs]
end

/-- the response key of a field: alias, else name -/
def okey (al : Option String) (n : String) : String := match al with | some a => a | none => n

def Al.key (A : Al) (al : Option String) (n : String) : String := okey (A.alias al n) n

def Al.Renames (A : Al) (ρ : String → String) : Prop := ∀ al n, A.key al n = ρ (okey al n)

theorem rootKeysGo_field (frs : AL (List Sel)) (f : Nat) (al : Option String) (n : String) (a : List Arg) (ds : List Dir)
    (h : Bool) (i : Nat) (sub rest : List Sel) (ks vis : List String) :
    rootKeysGo frs (f + 1) (.field al n a ds h i sub :: rest) ks vis =
      rootKeysGo frs f rest (if ks.contains (okey al n) then ks else ks ++ [okey al n]) vis := by
  cases al <;> rfl

end PyGql.Validate
