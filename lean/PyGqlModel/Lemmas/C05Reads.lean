/-
  C05 / C04 — the executor model reads the schema ONLY through `kindOf`, `fieldOf`, `isPossibleType`, `rootType`,
  `serializeLeaf` and the `query` root name: two descriptions that agree on these give the SAME response to every
  request (`execute_congr`). Instance: `withBuiltins s` (the built-in scalars listed - the form the validator model and
  the bridge theorems need) and `s` (the form the driver executes): `execute_withBuiltins`. Hence the evaluated
  `schema_checks` (on `withBuiltins s`) and the theorems they feed speak about the responses the driver computes.
-/
import PyGqlModel.Lemmas.C05Builtins
import PyGqlModel.Lemmas.C04Steps

set_option linter.unusedSimpArgs false

namespace PyGql.Props.C05
open PyGql PyGql.Exec PyGql.Spec
open PyGql.Props.C04 (namedAct completeValue_named completeValue_list completeValue_nonNull)

/-- the two descriptions are read identically by every accessor `Exec.lean` uses -/
structure SameReads (s s' : SchemaD) : Prop where
  kind : ∀ n, kindOf s n = kindOf s' n
  field : ∀ T f, fieldOf s T f = fieldOf s' T f
  poss : ∀ a o, isPossibleType s a o = isPossibleType s' a o
  root : ∀ k, rootType s k = rootType s' k
  ser : ∀ n j, serializeLeaf s n j = serializeLeaf s' n j
  query : s.query = s'.query

private theorem fta_congr {s s' : SchemaD} (h : SameReads s s') (obj : String) (c : Option String) :
    fragmentTypeApplies s obj c = fragmentTypeApplies s' obj c := by
  cases c with
  | none => rfl
  | some c => simp only [fragmentTypeApplies, isAbstract, h.kind, h.poss]

private theorem collectStep_congr {s s' : SchemaD} (h : SameReads s s') (doc : Doc) (vars : Vars)
    (rec : String → List Sel → List String → R (Grouped × List String)) (obj : String) :
    ∀ (sels : List Sel) (seen : List String) (g : Grouped),
      collectStep s doc vars rec obj sels seen g = collectStep s' doc vars rec obj sels seen g := by
  intro sels
  induction sels with
  | nil => intro seen g; simp only [collectStep]
  | cons sel rest ih =>
    intro seen g
    cases sel with
    | field key name loc dirs args hs sub => simp only [collectStep, ih]
    | inline on dirs sub => simp only [collectStep, ih, fta_congr h]
    | spread name dirs => simp only [collectStep, ih, fta_congr h]

private theorem collectFields_congr {s s' : SchemaD} (h : SameReads s s') (doc : Doc) (vars : Vars) :
    ∀ n, collectFields s doc vars n = collectFields s' doc vars n := by
  intro n
  induction n with
  | zero => rfl
  | succ n ih =>
    funext obj sels seen
    simp only [collectFields, ih]
    exact collectStep_congr h doc vars _ obj sels seen []

private theorem namedAct_congr {s s' : SchemaD} (h : SameReads s s') (n : String) (v : RVal) : namedAct s n v = namedAct s' n v := by
  cases v <;> simp only [namedAct, h.kind, h.ser, h.poss]

private theorem completeValue_congr {s s' : SchemaD} (h : SameReads s s') (e : String → Path → List Sel → R (Data × List Err))
    (nodes : List FNode) : ∀ t, completeValue s e nodes t = completeValue s' e nodes t := by
  intro t
  induction t with
  | named n =>
    funext path v
    rw [completeValue_named, completeValue_named, namedAct_congr h]
  | list t ih =>
    funext path v
    rw [completeValue_list, completeValue_list, ih]
  | nonNull t ih =>
    funext path v
    rw [completeValue_nonNull, completeValue_nonNull, ih]

private theorem executeGroups_congr {s s' : SchemaD} (h : SameReads s s') (w : World) (e : String → Path → List Sel → R (Data × List Err))
    (parent : String) (path : Path) : ∀ g, executeGroups s w e parent path g = executeGroups s' w e parent path g := by
  intro g
  induction g with
  | nil => simp only [executeGroups]
  | cons kv rest ih =>
    obtain ⟨key, nodes⟩ := kv
    cases nodes with
    | nil => simp only [executeGroups]
    | cons node more => simp only [executeGroups, resolveField, h.field, h.query, completeValue_congr h, ih]

private theorem executeFields_congr {s s' : SchemaD} (h : SameReads s s') (doc : Doc) (vars : Vars) (w : World) (cf : Nat) :
    ∀ n, executeFields s doc vars w cf n = executeFields s' doc vars w cf n := by
  intro n
  induction n with
  | zero => rfl
  | succ n ih =>
    funext parent path sels
    simp only [executeFields, collectFields_congr h, ih]
    congr 1
    funext p
    rw [executeGroups_congr h]

theorem execute_congr {s s' : SchemaD} (h : SameReads s s') (doc : Doc) (vars : Vars) (w : World) (op : Option String) (fuel cf : Nat) :
    execute s doc vars w op fuel cf = execute s' doc vars w op fuel cf := by
  simp only [execute, h.root, executeFields_congr h]

theorem sameReads_withBuiltins (s : SchemaD) : SameReads (withBuiltins s) s where
  kind := kindOf_withBuiltins s
  field := fieldOf_withBuiltins s
  poss := isPossibleType_withBuiltins s
  root := rootType_withBuiltins s
  ser := serializeLeaf_withBuiltins s
  query := rfl

/-- listing the built-in scalars in the description changes no response of the executor model -/
theorem execute_withBuiltins (s : SchemaD) (doc : Doc) (vars : Vars) (w : World) (op : Option String) (fuel cf : Nat) :
    execute (withBuiltins s) doc vars w op fuel cf = execute s doc vars w op fuel cf :=
  execute_congr (sameReads_withBuiltins s) doc vars w op fuel cf

end PyGql.Props.C05
