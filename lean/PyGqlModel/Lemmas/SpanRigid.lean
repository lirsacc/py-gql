/-
  The shape of the concrete-syntax views of `Spec/Grammar.lean`.  All views are RIGID (only tokens and non-empty nodes
  below) except those with an optional token or a look-ahead restriction: the query shorthand, the `&` / `|` separated
  lists and the optional `{…}` blocks of type-system definitions; these, and hence every definition, are SOLID — what
  `Framed.slice` needs to cut a node out of its document.
-/
import PyGqlModel.Lemmas.ItemSlice
namespace PyGql.Spec
open PyGql PyGql.Ast PyGql.Parse

theorem nameV_rigid (n : Name) : (nameV n).rigid = true := rfl
theorem namedTypeV_rigid (t : NamedType) : (namedTypeV t).rigid = true := rfl
theorem stringV_rigid (s : StringValue) : (stringV s).rigid = true := rfl
theorem variableV_rigid (v : Variable) : (variableV v).rigid = true := rfl

theorem typeV_rigid : ∀ t : TypeRef, (typeV t).rigid = true
  | .named t => rfl
  | .list t loc => by simp [typeV, Item.rigid, Item.rigidAll, typeV_rigid t]
  | .nonNull t loc => by simp [typeV, Item.rigid, Item.rigidAll, typeV_rigid t]

mutual
theorem valueV_rigid : ∀ v : Value, (valueV v).rigid = true
  | .var v => rfl
  | .int v loc => rfl
  | .float v loc => rfl
  | .string s => rfl
  | .boolean b loc => rfl
  | .null loc => rfl
  | .enum v loc => rfl
  | .list vs loc => by simp [valueV, Item.rigid, rigidAll_eq_all, valuesV_rigid vs]
  | .object fs loc => by simp [valueV, Item.rigid, rigidAll_eq_all, fieldsV_rigid fs]
theorem valuesV_rigid : ∀ vs : List Value, (valuesV vs).all Item.rigid = true
  | [] => rfl
  | v :: vs => by simp [valuesV, valueV_rigid v, valuesV_rigid vs]
theorem objectFieldV_rigid : ∀ x : ObjectField, (objectFieldV x).rigid = true
  | .mk n v loc => by simp [objectFieldV, Item.rigid, Item.rigidAll, nameV_rigid, valueV_rigid v]
theorem fieldsV_rigid : ∀ fs : List ObjectField, (fieldsV fs).all Item.rigid = true
  | [] => rfl
  | x :: fs => by simp [fieldsV, objectFieldV_rigid x, fieldsV_rigid fs]
end

theorem rigid_optV {α} (f : α → Item) (o : Option α) (h : ∀ x, (f x).rigid = true) : (optV f o).all Item.rigid = true := by
  cases o <;> simp [optV, h]

theorem rigid_groupV {α} (o c : TokKind) (f : α → Item) (xs : List α) (h : ∀ x, (f x).rigid = true) :
    (groupV o c f xs).all Item.rigid = true := by
  unfold groupV
  split <;> simp [Item.rigid, h]

theorem argumentV_rigid (a : Argument) : (argumentV a).rigid = true := by
  simp [argumentV, Item.rigid, Item.rigidAll, nameV_rigid, valueV_rigid]

theorem argumentsV_rigid (as : List Argument) : (argumentsV as).all Item.rigid = true :=
  rigid_groupV _ _ _ _ argumentV_rigid

theorem directiveV_rigid (d : Directive) : (directiveV d).rigid = true := by
  simp [directiveV, Item.rigid, rigidAll_eq_all, nameV_rigid, argumentsV_rigid]

theorem directivesV_rigid (ds : List Directive) : (directivesV ds).all Item.rigid = true := by
  simp [directivesV, directiveV_rigid]

theorem defaultV_rigid (o : Option Value) : (defaultV o).all Item.rigid = true := by
  cases o <;> simp [defaultV, Item.rigid, valueV_rigid]

theorem variableDefinitionV_rigid (d : VariableDefinition) : (variableDefinitionV d).rigid = true := by
  simp [variableDefinitionV, Item.rigid, rigidAll_eq_all, variableV_rigid, typeV_rigid, defaultV_rigid, directivesV_rigid]

theorem variableDefinitionsV_rigid (ds : List VariableDefinition) : (variableDefinitionsV ds).all Item.rigid = true :=
  rigid_groupV _ _ _ _ variableDefinitionV_rigid

mutual
theorem selectionV_rigid : ∀ s : Selection, (selectionV s).rigid = true
  | .field alias_ name args dirs ss loc => by
    cases alias_ <;>
      simp [selectionV, Item.rigid, rigidAll_eq_all, nameV_rigid, argumentsV_rigid, directivesV_rigid,
        optSelectionSetV_rigid ss]
  | .fragmentSpread name dirs loc => by
    simp [selectionV, Item.rigid, rigidAll_eq_all, nameV_rigid, directivesV_rigid]
  | .inlineFragment tc dirs ss loc => by
    cases tc <;>
      simp [selectionV, Item.rigid, rigidAll_eq_all, namedTypeV_rigid, directivesV_rigid, selectionSetV_rigid ss]
theorem selectionSetV_rigid : ∀ ss : SelectionSet, (selectionSetV ss).rigid = true
  | .mk sels loc => by simp [selectionSetV, Item.rigid, rigidAll_eq_all, selectionsV_rigid sels]
theorem optSelectionSetV_rigid : ∀ o : Option SelectionSet, (optSelectionSetV o).all Item.rigid = true
  | none => by simp [optSelectionSetV]
  | some ss => by simp [optSelectionSetV, selectionSetV_rigid ss]
theorem selectionsV_rigid : ∀ ss : List Selection, (selectionsV ss).all Item.rigid = true
  | [] => by simp [selectionsV]
  | s :: ss => by simp [selectionsV, selectionV_rigid s, selectionsV_rigid ss]
end

theorem fragmentV_rigid (d : FragmentDefinition) : (fragmentV d).rigid = true := by
  simp [fragmentV, Item.rigid, rigidAll_eq_all, selectionSetV_rigid, nameV_rigid, namedTypeV_rigid,
    variableDefinitionsV_rigid, directivesV_rigid]

theorem descV_rigid (o : Option StringValue) : (descV o).all Item.rigid = true := rigid_optV _ _ stringV_rigid

theorem operationTypeV_rigid (d : OperationTypeDefinition) : (operationTypeV d).rigid = true := rfl

theorem inputValueV_rigid (d : InputValueDefinition) : (inputValueV d).rigid = true := by
  simp [inputValueV, Item.rigid, rigidAll_eq_all, descV_rigid, nameV_rigid, typeV_rigid, defaultV_rigid, directivesV_rigid]

theorem fieldDefinitionV_rigid (d : FieldDefinition) : (fieldDefinitionV d).rigid = true := by
  simp [fieldDefinitionV, Item.rigid, rigidAll_eq_all, descV_rigid, nameV_rigid, typeV_rigid, directivesV_rigid,
    rigid_groupV _ _ inputValueV _ inputValueV_rigid]

theorem enumValueDefinitionV_rigid (d : EnumValueDefinition) : (enumValueDefinitionV d).rigid = true := by
  simp [enumValueDefinitionV, Item.rigid, rigidAll_eq_all, descV_rigid, nameV_rigid, directivesV_rigid]

/-! ### the lists that other statements name, in the spelling of `solidAll` / `plainAll` -/

theorem valuesV_solid : ∀ vs : List Value, Item.solidAll (valuesV vs) = true :=
  fun vs => solidAll_eq_all _ ▸ all_solid_of_rigid (valuesV_rigid vs)
theorem fieldsV_solid : ∀ fs : List ObjectField, Item.solidAll (fieldsV fs) = true :=
  fun fs => solidAll_eq_all _ ▸ all_solid_of_rigid (fieldsV_rigid fs)
theorem optSelectionSetV_solid : ∀ o : Option SelectionSet, Item.solidAll (optSelectionSetV o) = true :=
  fun o => solidAll_eq_all _ ▸ all_solid_of_rigid (optSelectionSetV_rigid o)
theorem selectionsV_solid : ∀ ss : List Selection, Item.solidAll (selectionsV ss) = true :=
  fun ss => solidAll_eq_all _ ▸ all_solid_of_rigid (selectionsV_rigid ss)
theorem valuesV_plain : ∀ vs : List Value, Item.plainAll (valuesV vs) = true :=
  fun vs => plainAll_eq_all _ ▸ all_plain_of_rigid (valuesV_rigid vs)
theorem fieldsV_plain : ∀ fs : List ObjectField, Item.plainAll (fieldsV fs) = true :=
  fun fs => plainAll_eq_all _ ▸ all_plain_of_rigid (fieldsV_rigid fs)
theorem selectionSetV_plain : ∀ ss : SelectionSet, (selectionSetV ss).plain = true :=
  fun ss => plain_of_rigid (selectionSetV_rigid ss)
theorem optSelectionSetV_plain : ∀ o : Option SelectionSet, Item.plainAll (optSelectionSetV o) = true :=
  fun o => plainAll_eq_all _ ▸ all_plain_of_rigid (optSelectionSetV_rigid o)
theorem selectionsV_plain : ∀ ss : List Selection, Item.plainAll (selectionsV ss) = true :=
  fun ss => plainAll_eq_all _ ▸ all_plain_of_rigid (selectionsV_rigid ss)

theorem solid_blockV {α} (f : α → Item) (xs : List α) (h : ∀ x, (f x).rigid = true) :
    (blockV f xs).all Item.solid = true := by
  unfold blockV
  split
  · rfl
  · exact all_solid_of_rigid (by simp [Item.rigid, h])

theorem solid_sepV {α} (sep : TokKind) (hs : (sep != .eof) = true) (f : α → Item) (xs : List α)
    (h : ∀ x, (f x).rigid = true) : (sepV sep f xs).all Item.solid = true := by
  cases xs with
  | nil => rfl
  | cons x xs =>
    simp only [sepV, List.all_cons, Item.solid, hs, solid_of_rigid (h x), Bool.true_and]
    exact all_solid_of_rigid (by simp [Item.rigid, h])

theorem operationV_solid (d : OperationDefinition) : (operationV d).solid = true := by
  unfold operationV
  split
  · simp [Item.solid, solidAll_eq_all, leadAll_eq_any, solid_of_rigid (selectionSetV_rigid _),
      lead_of_rigid (selectionSetV_rigid _)]
  · refine solid_of_rigid ?_
    simp [Item.rigid, rigidAll_eq_all, selectionSetV_rigid, rigid_optV nameV d.name nameV_rigid, variableDefinitionsV_rigid,
      directivesV_rigid]

theorem implementsV_solid (ts : List NamedType) : (implementsV ts).all Item.solid = true := by
  unfold implementsV
  split
  · rfl
  · simp [Item.solid, solid_sepV .amp (by decide) namedTypeV ts namedTypeV_rigid]

theorem unionMembersV_solid (ts : List NamedType) : (unionMembersV ts).all Item.solid = true := by
  unfold unionMembersV
  split
  · rfl
  · simp [Item.solid, solid_sepV .pipe (by decide) namedTypeV ts namedTypeV_rigid]

theorem solid_map {α} (f : α → Item) (xs : List α) (h : ∀ x, (f x).rigid = true) : (xs.map f).all Item.solid = true :=
  all_solid_of_rigid (by simp [h])

theorem definitionV_solid (x : Definition) : (definitionV x).solid = true := by
  have hn (n : Name) := solid_of_rigid (nameV_rigid n)
  have hdesc (o : Option StringValue) := all_solid_of_rigid (descV_rigid o)
  have hdirs (ds : List Directive) := all_solid_of_rigid (directivesV_rigid ds)
  have hfd (xs : List FieldDefinition) := solid_blockV fieldDefinitionV xs fieldDefinitionV_rigid
  have hev (xs : List EnumValueDefinition) := solid_blockV enumValueDefinitionV xs enumValueDefinitionV_rigid
  have hiv (xs : List InputValueDefinition) := solid_blockV inputValueV xs inputValueV_rigid
  have hot (xs : List OperationTypeDefinition) := solid_blockV operationTypeV xs operationTypeV_rigid
  have hargs (xs : List InputValueDefinition) := all_solid_of_rigid (rigid_groupV .parenL .parenR inputValueV xs inputValueV_rigid)
  have hlocs (xs : List Name) := solid_sepV .pipe (by decide) nameV xs nameV_rigid
  have hops (xs : List OperationTypeDefinition) := solid_map operationTypeV xs operationTypeV_rigid
  unfold definitionV
  cases x with
  | operation d => exact operationV_solid d
  | fragment d => exact solid_of_rigid (fragmentV_rigid d)
  | _ =>
    simp only [Item.solid, solidAll_eq_all, leadAll_eq_any, Item.lead, List.any_append, List.any_cons,
      List.all_append, List.all_cons, List.all_nil, Bool.or_true, Bool.true_or, Bool.and_self,
      hn, hdesc, hdirs, implementsV_solid, unionMembersV_solid, hfd, hev, hiv, hot, hargs, hlocs, hops]

end PyGql.Spec
