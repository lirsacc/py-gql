/-
  `Spec.ParentsAgree` from the other rules' clauses: every admissible parent type of a selection set is the one
  `TypeInfoVisitor` shows at its node - given FragmentsOnCompositeTypes and ScalarLeafs (their clauses), output-typed
  schema fields, no introspection meta field with a sub-selection, and well-formed identities.
-/
import PyGqlModel.Lemmas.ValidateOverlapParentsTyped
namespace PyGql.Validate
open PyGql PyGql.Validate.Spec

theorem isOutputTy_eq (s : SchemaD) (t : Ty) : isOutputTy s t = (isLeaf s t.base || isComposite s t.base) := by
  unfold isOutputTy isLeaf isComposite
  cases kindOf s t.base with
  | none => rfl
  | some k => cases k <;> rfl

theorem compositeBase_outOnly (s : SchemaD) (t : Option Ty) : compositeBase s (TI.outOnly s t) = compositeBase s t := by
  cases t with
  | none => rfl
  | some ty =>
    simp only [TI.outOnly, Option.bind_some]
    by_cases ho : isOutputTy s ty = true
    · simp [ho]
    · simp only [ho, Bool.false_eq_true, ↓reduceIte]
      simp only [compositeBase, Option.map_none, Option.bind_none, Option.map_some, Option.bind_some]
      have : isComposite s ty.base = false := by
        rw [isOutputTy_eq, Bool.or_eq_true, not_or] at ho
        exact Bool.eq_false_iff.mpr ho.2
      simp [this]

theorem composite_named (s : SchemaD) (n : String) (h : isComposite s n = true) :
    compositeBase s (TI.outOnly s (typeFromAst s (.named n))) = some n ∧ (typeFromAst s (.named n)).map (·.base) = some n := by
  have hk : (s.findType n).isSome = true := by
    unfold isComposite kindOf at h
    cases hf : s.findType n with
    | none => simp [hf] at h
    | some _ => rfl
  have ht : typeFromAst s (.named n) = some (.named n) := by
    have hk' : (s.findType (Ty.named n).base).isSome = true := hk
    unfold typeFromAst
    rw [if_pos hk']
  rw [compositeBase_outOnly, ht]
  simp [compositeBase, Ty.base, h]

theorem ovFieldOf_nonMeta (s : SchemaD) (p name : String) (h : name ∉ metaFieldNames) :
    ovFieldOf s p name = fieldOf s p name := by
  simp only [metaFieldNames, List.mem_cons, List.not_mem_nil, or_false, not_or] at h
  unfold ovFieldOf
  simp [h.2.2]

theorem getFieldDef_nonMeta (s : SchemaD) (p name : String) (h : name ∉ metaFieldNames) :
    getFieldDef s p name = fieldOf s p name := by
  simp only [metaFieldNames, List.mem_cons, List.not_mem_nil, or_false, not_or] at h
  obtain ⟨h1, h2, h3⟩ := h
  unfold getFieldDef
  simp [h1, h2, h3]

section
variable {s : SchemaD} {d : Doc}
variable (hout : ∀ T name fd, fieldOf s T name = some fd → isOutputTy s fd.type = true)
  (hsl : Spec.scalarLeafs s d) (hfc : Spec.fragmentsOnCompositeTypes s d) (hnm : NoMetaSubs d)

include hout hsl in
/-- below a field that is not an introspection meta field, the visitor (through `_get_field_def`) and the search
    (through `parent_type.field_map`) derive the same parent type for the sub-selection -/
theorem field_subParent {v : View} {parent : Option String} {name : String} {args : List Arg} {dirs : List Dir}
    (hvp : v.parent = parent)
    (hfield : (Node.field name args dirs true, View.enter s (.field name args dirs true) v) ∈ typedNodes s d)
    (hnmeta : name ∉ metaFieldNames) :
    compositeBase s (TI.outOnly s ((v.parent.bind fun q => getFieldDef s q name).map (·.type))) =
      ((parent.bind fun q => ovFieldOf s q name).map (·.type)).map (·.base) := by
  rw [compositeBase_outOnly, hvp]
  have hfd : (parent.bind fun q => getFieldDef s q name) = parent.bind fun q => fieldOf s q name := by
    cases parent with
    | none => rfl
    | some q => exact getFieldDef_nonMeta s q name hnmeta
  have hov : (parent.bind fun q => ovFieldOf s q name) = parent.bind fun q => fieldOf s q name := by
    cases parent with
    | none => rfl
    | some q => exact ovFieldOf_nonMeta s q name hnmeta
  rw [hfd, hov]
  cases hf : (parent.bind fun q => fieldOf s q name) with
  | none => rfl
  | some f =>
    have ho : isOutputTy s f.type = true := by
      cases parent with
      | none => cases hf
      | some q => exact hout q name f hf
    -- ScalarLeafs at the field node: the type is not a leaf, hence composite
    have hleaf := (hsl _ hfield name args dirs true rfl f.type (by
      show TI.outOnly s ((v.parent.bind fun q => getFieldDef s q name).map (·.type)) = some f.type
      rw [hvp, hfd, hf]; simp [TI.outOnly, ho])).1
    have hcomp : isComposite s f.type.base = true := by
      rw [isOutputTy_eq, Bool.or_eq_true] at ho
      exact ho.resolve_left fun hl => Bool.noConfusion (hleaf hl)
    simp [compositeBase, hcomp]

include hfc in
/-- the body of a fragment of the table is a typed node whose parent is the fragment's type condition -/
theorem frag_walk {name on : String} {i : Nat} {sels : List Sel} (ht : AL.get? (fragTable d) name = some (on, i, sels)) :
    ∃ sels' v, (Node.selectionSet i sels', v) ∈ typedNodes s d ∧ v.parent = fragParent s on := by
  obtain ⟨dirs, hF⟩ := fragTable_def ht
  have hmem : (Node.selectionSet i sels, View.enter s (.selectionSet i sels) (View.enter s (.fragmentDef name on dirs) {}))
      ∈ typedNodes s d := by
    simp only [typedNodes, List.mem_flatMap]
    exact ⟨_, hF, by simp [tnDef]⟩
  have hnode : (Node.fragmentDef name on dirs, View.enter s (.fragmentDef name on dirs) {}) ∈ typedNodes s d := by
    simp only [typedNodes, List.mem_flatMap]
    exact ⟨_, hF, by simp [tnDef]⟩
  have hcomp : isComposite s on = true := hfc.2 _ (typed_node_mem hnode) name on dirs rfl
  refine ⟨_, _, hmem, ?_⟩
  show compositeBase s (TI.outOnly s (typeFromAst s (.named on))) = fragParent s on
  rw [(composite_named s on hcomp).1]
  exact (composite_named s on hcomp).2.symm

include hout hsl hfc hnm in
/-- the sub-selection of a collected field is a typed node whose parent is the type the search derives for it -/
theorem coll_walk {p : Option String} {sels : List Sel} {rn : String} {e : FEntry} (hc : CollD s p sels rn e) :
    ∀ v : View, v.parent = p → v.parent = compositeBase s v.type → (∀ q ∈ tnSels s v sels, q ∈ typedNodes s d) →
      e.hasSub = true → ∃ v2, (Node.selectionSet e.ssid e.sub, v2) ∈ typedNodes s d ∧ v2.parent = e.subParent := by
  induction hc with
  | @field parent sels alias name args dirs hasSub ssid sub hm =>
    intro v hvp _ hcl hs
    simp only at hs; subst hs
    have hsub := fun q hq => hcl q (mem_tnSels_of_mem hm q hq)
    have hfield : (Node.field name args dirs true, View.enter s (.field name args dirs true) v) ∈ typedNodes s d :=
      hsub _ (by simp [tnSel])
    refine ⟨_, hsub (Node.selectionSet ssid sub,
      View.enter s (.selectionSet ssid sub) (View.enter s (.field name args dirs true) v)) (by simp [tnSel]), ?_⟩
    exact field_subParent hout hsl hvp hfield (hnm _ (typed_node_mem hfield) name args dirs rfl)
  | @inline parent sels on dirs id sub rn e hm _ ih =>
    intro v hvp hvc hcl hs
    have hsub := fun q hq => hcl q (mem_tnSels_of_mem hm q hq)
    have hnode : (Node.inline on dirs, View.enter s (.inline on dirs) v) ∈ typedNodes s d := hsub _ (by simp [tnSel])
    have hset : (Node.selectionSet id sub, View.enter s (.selectionSet id sub) (View.enter s (.inline on dirs) v))
        ∈ typedNodes s d := hsub _ (by simp [tnSel])
    refine ih _ ?_ rfl (typed_closed hset).1 hs
    cases on with
    | none =>
      show compositeBase s (TI.outOnly s v.type) = parent
      rw [compositeBase_outOnly, ← hvc, hvp]
    | some n =>
      have hcomp : isComposite s n = true := hfc.1 _ (typed_node_mem hnode) n dirs rfl
      show compositeBase s (TI.outOnly s (typeFromAst s (.named n))) = (typeFromAst s (.named n)).map (·.base)
      rw [(composite_named s n hcomp).1, (composite_named s n hcomp).2]

include hout hsl hfc hnm in
theorem adm_walk (hw : WfIds d) {i : Nat} {p : Option String} (h : Adm s d i p) :
    ∃ sels v, (Node.selectionSet i sels, v) ∈ typedNodes s d ∧ v.parent = p := by
  induction h with
  | walk hm => exact ⟨_, _, hm, rfl⟩
  | frag ht => exact frag_walk hfc ht
  | @sub i sels p rn e _ hs hc hsub ih =>
    obtain ⟨sels0, v, hm, hv⟩ := ih
    have hsame : sels0 = sels := wf_selSet_unique hw (by
      simp only [SelSet]; exact typed_node_mem hm) hs
    subst hsame
    obtain ⟨c1, c2⟩ := typed_closed hm
    obtain ⟨v2, hm2, hp2⟩ := coll_walk hout hsl hfc hnm hc v hv c2 c1 hsub
    exact ⟨_, _, hm2, hp2⟩

include hout hsl hfc hnm in
theorem parentsAgree_of (hw : WfIds d) : ParentsAgree s d := by
  intro i p q hp hq
  obtain ⟨s1, v1, m1, e1⟩ := adm_walk hout hsl hfc hnm hw hp
  obtain ⟨s2, v2, m2, e2⟩ := adm_walk hout hsl hfc hnm hw hq
  have := typed_unique hw m1 m2 (k := i) rfl rfl
  cases this
  rw [← e1, ← e2]

end
end PyGql.Validate
