/-
  Facts about lists that core does not state and that several areas use: the element that follows a prefix, injectivity of
  a key on a list whose keys are pairwise distinct, membership among the keys as a Boolean test, the length of a filtered
  list under a weaker test, and what `lookup` finds.
-/
namespace PyGql.List
universe u v

/-! ### the element after a prefix -/

theorem getElem?_append_cons_length {α : Type u} (l₁ l₂ : List α) (a : α) : (l₁ ++ a :: l₂)[l₁.length]? = some a := by
  rw [List.getElem?_append_right (Nat.le_refl _), Nat.sub_self]
  rfl

theorem set_append_cons_length {α : Type u} (l₁ l₂ : List α) (a b : α) : (l₁ ++ a :: l₂).set l₁.length b = l₁ ++ b :: l₂ := by
  rw [List.set_append_right _ _ (Nat.le_refl _), Nat.sub_self]
  rfl

theorem eraseIdx_append_cons_length {α : Type u} (l₁ l₂ : List α) (a : α) : (l₁ ++ a :: l₂).eraseIdx l₁.length = l₁ ++ l₂ := by
  rw [List.eraseIdx_append_of_length_le (Nat.le_refl _), Nat.sub_self]
  rfl

/-! ### keys that are pairwise distinct -/

/-- two elements of the list with the same key are the same element -/
theorem inj_of_nodup_filterMap {α : Type u} {β : Type v} {f : α → Option β} :
    ∀ {l : List α}, (l.filterMap f).Nodup → ∀ {a b : α} {k : β}, a ∈ l → b ∈ l → f a = some k → f b = some k → a = b
  | [], _, _, _, _, ha, _, _, _ => nomatch ha
  | x :: l, h, a, b, k, ha, hb, fa, fb => by
    cases hx : f x with
    | none =>
      rw [List.filterMap_cons_none hx] at h
      have hne : ∀ {c}, f c = some k → c ≠ x := fun hc e => nomatch (e ▸ hc).symm.trans hx
      exact inj_of_nodup_filterMap h ((List.mem_cons.mp ha).resolve_left (hne fa)) ((List.mem_cons.mp hb).resolve_left (hne fb)) fa fb
    | some kx =>
      rw [List.filterMap_cons_some hx, List.nodup_cons] at h
      have key : ∀ {c}, c ∈ l → f c = some k → kx ≠ k := fun hc fc e =>
        h.1 (List.mem_filterMap.mpr ⟨_, hc, e ▸ fc⟩)
      rcases List.mem_cons.mp ha with ea | ha <;> rcases List.mem_cons.mp hb with eb | hb
      · exact ea.trans eb.symm
      · exact absurd (Option.some.inj (hx.symm.trans (ea ▸ fa))) (key hb fb)
      · exact absurd (Option.some.inj (hx.symm.trans (eb ▸ fb))) (key ha fa)
      · exact inj_of_nodup_filterMap h.2 ha hb fa fb

theorem inj_of_nodup_map {α : Type u} {β : Type v} {f : α → β} {l : List α} (h : (l.map f).Nodup) {a b : α}
    (ha : a ∈ l) (hb : b ∈ l) (e : f a = f b) : a = b :=
  inj_of_nodup_filterMap (f := some ∘ f) (by rwa [← List.filterMap_eq_map] at h) ha hb (congrArg some e) rfl

theorem nodup_of_nodup_map {α : Type u} {β : Type v} (f : α → β) {l : List α} (h : (l.map f).Nodup) : l.Nodup := by
  rw [List.Nodup, List.pairwise_map] at h
  exact h.imp fun hne heq => hne (congrArg f heq)

/-- the test the model writes for "some element has key `k`" -/
theorem any_beq_iff_mem_map {α : Type u} {β : Type v} [BEq β] [LawfulBEq β] (key : α → β) (l : List α) (k : β) :
    (l.any fun y => key y == k) = true ↔ k ∈ l.map key := by
  rw [List.any_eq_true, List.mem_map]
  exact exists_congr fun y => and_congr_right fun _ => beq_iff_eq.trans eq_comm |>.trans eq_comm

theorem any_beq_eq_false_iff {α : Type u} {β : Type v} [BEq β] [LawfulBEq β] (key : α → β) (l : List α) (k : β) :
    (l.any fun y => key y == k) = false ↔ k ∉ l.map key := by
  rw [← any_beq_iff_mem_map, Bool.not_eq_true]

/-! ### filtering by a weaker test -/

theorem length_filter_le_of_imp {α : Type u} {p q : α → Bool} {l : List α} (h : ∀ x ∈ l, p x = true → q x = true) :
    (l.filter p).length ≤ (l.filter q).length := by
  simpa only [List.countP_eq_length_filter] using List.countP_mono_left h

/-- strictly shorter when some element passes the weaker test only -/
theorem length_filter_lt_of_imp {α : Type u} {p q : α → Bool} {l : List α} (h : ∀ x ∈ l, p x = true → q x = true)
    (hx : ∃ x ∈ l, q x = true ∧ p x = false) : (l.filter p).length < (l.filter q).length := by
  obtain ⟨x, hx, hq, hp⟩ := hx
  have e : l.filter p = (l.filter q).filter p := by
    rw [List.filter_filter]
    refine List.filter_congr fun a ha => ?_
    cases hpa : p a
    · rfl
    · rw [h a ha hpa]; rfl
  rw [e]
  exact List.length_filter_lt_length_iff_exists.mpr ⟨x, List.mem_filter.mpr ⟨hx, hq⟩, by simp [hp]⟩

/-! ### congruence and lookup -/

theorem flatMap_congr_mem {α : Type u} {β : Type v} {f g : α → List β} {l : List α} (h : ∀ x ∈ l, f x = g x) :
    l.flatMap f = l.flatMap g := by
  rw [List.flatMap_def, List.flatMap_def, List.map_congr_left h]

theorem mem_of_lookup_eq_some {α : Type u} {β : Type v} [BEq α] [LawfulBEq α] {a : α} {b : β} :
    ∀ {l : List (α × β)}, l.lookup a = some b → (a, b) ∈ l
  | [], h => nomatch h
  | (k, v) :: l, h => by
    rw [List.lookup_cons] at h
    cases hk : a == k with
    | true =>
      rw [hk] at h
      obtain rfl := Option.some.inj h
      obtain rfl := eq_of_beq hk
      exact List.mem_cons_self
    | false =>
      rw [hk] at h
      exact List.mem_cons_of_mem _ (mem_of_lookup_eq_some h)

end PyGql.List
