/-
  Arguments and directives, `Const` or not: the two productions as rule walks, the directive loop by induction on its fuel.
-/
import PyGqlModel.Lemmas.ParseLoops
namespace PyGql.Parse
open PyGql PyGql.Ast PyGql.Spec

theorem parseArgument_sound (fl : Flags) (n : Nat) (c : Bool) :
    Sound fl (parseArgument fl n c) (fun a => wfArgument c a = true) argumentV :=
  .node fun _ => .step (parseName_sound fl) fun _ _ => .tok rfl fun _ => .step (parseValueLiteral_sound fl n c) fun _ w =>
    .done fun _ => ⟨w, rfl⟩

theorem parseArgument_takes (fl : Flags) (n : Nat) (c : Bool) (a : Argument) (w : wfArgument c a = true) :
    Takes1 fl n (parseArgument fl n c) a (argumentV a) Any := by
  rcases a with ⟨nm, v, loc⟩
  exact .node fun _ => .step (parseName_takes fl n nm) <| .tok fun _ => .step (parseValueLiteral_takes fl n c v w) <|
    .done _ _

theorem argumentV_width (a : Argument) : 1 ≤ (argumentV a).yield.length := by
  simp [argumentV, nameV, Item.yield, Item.yieldAll]

theorem parseArguments_sound (fl : Flags) (n : Nat) (c : Bool) :
    SoundL fl (parseArguments fl n c) (fun as => ∀ a ∈ as, wfArgument c a = true) argumentsV :=
  optMany_sound rfl rfl (parseArgument_sound fl n c) n

theorem parseArguments_takes (fl : Flags) (n : Nat) (c : Bool) (as : List Argument)
    (w : ∀ a ∈ as, wfArgument c a = true) :
    Takes fl n (parseArguments fl n c) (fun _ => as) (argumentsV as) (fun rest => as = [] → NotK [.parenL] rest) :=
  optMany_takes argumentV_width (Nat.le_refl n) (fun a ha => (parseArgument_takes fl n c a (w a ha)).mono (Nat.sub_le ..))
    (fun _ _ _ _ _ h => ⟨trivial, NotK.of_node h fun h => NotK.of_node_tok h (by decide)⟩) (fun _ _ _ => trivial)

theorem parseDirective_sound (fl : Flags) (n : Nat) (c : Bool) :
    Sound fl (parseDirective fl n c) (fun d => wfDirective c d = true) directiveV :=
  .nodeTok rfl fun _ => .step (parseName_sound fl) fun _ _ => .last (parseArguments_sound fl n c) fun _ _ w =>
    ⟨by simpa [wfDirective] using w, rfl⟩

theorem parseDirective_takes (fl : Flags) (n : Nat) (c : Bool) (d : Directive) (w : wfDirective c d = true) :
    Takes1 fl n (parseDirective fl n c) d (directiveV d) (fun rest => d.arguments = [] → NotK [.parenL] rest) := by
  rcases d with ⟨nm, as, loc⟩
  exact .nodeTok fun _ => .step (parseName_takes fl n nm) <|
    .lastF (parseArguments_takes fl n c as (by simpa [wfDirective] using w)) id <| .done _ _

theorem directiveV_first {fl : Flags} {d : Directive} {l : Tok} {ts : List Tok} {r : Tok × List Tok}
    (h : (directiveV d).check fl l ts = some r) : ∃ t tl, ts = t :: tl ∧ t.kind = .atSign := node_first h

theorem directiveV_width (d : Directive) : 1 ≤ (directiveV d).yield.length := by
  simp [directiveV, Item.yield, Item.yieldAll]

theorem wfDirectives_iff (c : Bool) (ds : List Directive) :
    wfDirectives c ds = true ↔ ∀ d ∈ ds, wfDirective c d = true := by
  simp [wfDirectives]

theorem directivesLoop_sound (fl : Flags) (fuel : Nat) (c : Bool) (n : Nat) :
    SoundL fl (directivesLoop fl fuel c n) (fun ds => wfDirectives c ds = true) directivesV := by
  induction n with
  | zero => intro s ds s' h; simp [directivesLoop, fail_ok] at h
  | succ n ih =>
    intro s ds s' h
    rw [directivesLoop] at h
    obtain ⟨t, ts, h1, h⟩ := peek_bind h
    rcases ite_inv h with ⟨hk, h⟩ | ⟨hk, hfin⟩
    · obtain ⟨d, s2, hd, h⟩ := bind_inv h
      obtain ⟨ds', s3, hds, h⟩ := bind_inv h
      cases h
      obtain ⟨w, cd⟩ := parseDirective_sound fl _ _ _ _ _ hd
      obtain ⟨ws, cds⟩ := ih _ _ _ hds
      exact ⟨by simp [wfDirectives] at ws ⊢; exact ⟨w, ws⟩, chkA_cons cd cds⟩
    · cases hfin
      exact ⟨rfl, rfl⟩

theorem parseDirectives_sound (fl : Flags) (fuel : Nat) (c : Bool) :
    SoundL fl (parseDirectives fl fuel c) (fun ds => wfDirectives c ds = true) directivesV :=
  directivesLoop_sound fl fuel c fuel

/-- what follows a directive list: a token that is neither `@` nor `(` -/
abbrev FollowDirs (rest : List Tok) : Prop := NotK [.atSign, .parenL] rest

theorem directivesLoop_takes (fl : Flags) (fuel : Nat) (c : Bool) :
    ∀ (n : Nat) (ds : List Directive), wfDirectives c ds = true → ds.length < n →
      Takes fl fuel (directivesLoop fl fuel c n) (fun _ => ds) (directivesV ds) FollowDirs := by
  intro n
  induction n with
  | zero => intro ds _ hn; omega
  | succ n ih =>
    intro ds w hn l ts l' rest hf h hfol
    cases ds with
    | nil =>
      simp only [directivesV, List.map_nil, checkAll_nil] at h
      cases h
      obtain ⟨t, tl, rfl, hk⟩ := hfol
      have hk' : t.kind ≠ .atSign := by simp at hk; exact hk.1
      exact bind_run (peek_cons ..) (if_neg hk' ▸ rfl)
    | cons d ds =>
      simp only [directivesV, List.map_cons, checkAll_cons] at h
      obtain ⟨l1, ts1, hd, hds⟩ := h
      obtain ⟨t, tl, rfl, hk⟩ := directiveV_first hd
      simp only [wfDirectives, List.all_cons, Bool.and_eq_true] at w
      -- what follows `d`: the next directive's `@`, or the follow of the list
      have hfd : d.arguments = [] → NotK [.parenL] ts1 := by
        intro _
        cases ds with
        | nil =>
          simp only [List.map_nil, checkAll_nil] at hds
          cases hds
          exact hfol.mono (by decide)
        | cons d2 ds2 =>
          simp only [List.map_cons, checkAll_cons] at hds
          obtain ⟨l2, ts2, hd2, _⟩ := hds
          obtain ⟨t2, tl2, rfl, hk2⟩ := directiveV_first hd2
          exact NotK.cons (by simp [hk2])
      have cd := parseDirective_takes fl fuel c d w.1 l (t :: tl) l1 ts1 hf hd hfd
      have cds := ih ds (by simpa [wfDirectives] using w.2) (by simp at hn; omega) l1 ts1 l' rest
        (Nat.le_trans (check_len hd) hf) (by simpa [directivesV] using hds) hfol
      exact bind_run (peek_cons ..) (if_pos hk ▸ bind_run cd (bind_run cds rfl))

theorem parseDirectives_takes (fl : Flags) (fuel : Nat) (c : Bool) (ds : List Directive) (w : wfDirectives c ds = true) :
    Takes fl fuel (parseDirectives fl fuel c) (fun _ => ds) (directivesV ds) FollowDirs := by
  intro l ts l' rest hf h hfol
  refine directivesLoop_takes fl fuel c fuel ds w ?_ l ts l' rest hf h hfol
  have a := checkAll_width fl _ _ _ _ _ h
  have b := length_le_yieldAll directiveV directiveV_width ds
  obtain ⟨t, tl, rfl, _⟩ := hfol
  simp only [directivesV] at a
  simp at a; omega

end PyGql.Parse
