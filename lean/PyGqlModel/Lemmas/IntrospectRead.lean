/-
  C15 — the literal reader of `IntrospectPrims.lean` (`readVal` / `readItems` / `readFields`, `readString`, `readNumber`) and
  the printer it reads back: decimal digits (`showNat` against `readDigits`), one character of a JSON string (`readString_step`),
  the reader by the first character of a value (`readVal_quote … readVal_other`), separators and closing brackets, and the three
  branches of the translated `_format_default_value`.  Facts about the model functions alone; the well-formedness predicates and
  the round trip built on them are in Props/C15_defaults.lean.
-/
import PyGqlModel.Spec.Introspect

namespace PyGql.Introspect
open PyGql PyGql.Generated.Introspection

/-! ### decimal digits -/

theorem digit_facts : ∀ d, d < 10 → (digitChar d).isDigit = true ∧ (digitChar d).toNat - 48 = d ∧ isIgnored (digitChar d) = false
    ∧ digitChar d ≠ ']' ∧ digitChar d ≠ '}' := by decide +kernel

theorem showNatAux_read : ∀ (f n : Nat) (acc : Chars), n ≤ f → ∃ k, ∀ a, readDigits (showNatAux (f+1) n acc) a = readDigits acc (a * 10 ^ k + n) := by
  intro f
  induction f with
  | zero =>
    intro n acc h
    have hn : n = 0 := by omega
    subst hn
    refine ⟨1, fun a => ?_⟩
    simp [showNatAux, readDigits, digit_facts 0 (by omega)]
  | succ f ih =>
    intro n acc h
    by_cases hlt : n < 10
    · refine ⟨1, fun a => ?_⟩
      have := digit_facts n hlt
      simp [showNatAux, hlt, readDigits, this.1, this.2.1]
    · obtain ⟨k, hk⟩ := ih (n / 10) (digitChar (n % 10) :: acc) (by omega)
      refine ⟨k + 1, fun a => ?_⟩
      have hd := digit_facts (n % 10) (by omega)
      rw [showNatAux]
      simp only [hlt, ↓reduceIte]
      rw [hk a]
      simp only [readDigits, hd.1, ↓reduceIte, hd.2.1]
      congr 1
      rw [Nat.pow_succ, ← Nat.mul_assoc]
      generalize a * 10 ^ k = x
      omega

theorem showNatAux_acc : ∀ (f n : Nat) (acc : Chars), showNatAux f n acc = showNatAux f n [] ++ acc := by
  intro f
  induction f with
  | zero => intro n acc; simp [showNatAux]
  | succ f ih =>
    intro n acc
    by_cases hlt : n < 10
    · simp [showNatAux, hlt]
    · simp only [showNatAux, hlt, ↓reduceIte]
      rw [ih (n / 10) (digitChar (n % 10) :: acc), ih (n / 10) [digitChar (n % 10)]]
      simp

theorem readDigits_showNat (n : Nat) (rest : Chars) : readDigits (showNat n ++ rest) 0 = readDigits rest n := by
  unfold showNat
  rw [← showNatAux_acc]
  obtain ⟨k, hk⟩ := showNatAux_read n n rest (Nat.le_refl _)
  rw [hk 0]; simp

theorem digit_zero : ∀ d, d < 10 → digitChar d = '0' → d = 0 := by decide +kernel

/-- shape of a printed natural: a first digit, which is '0' only for 0 itself -/
theorem showNatAux_head : ∀ (f n : Nat) (acc : Chars), n ≤ f →
    ∃ d cs, d < 10 ∧ showNatAux (f+1) n acc = digitChar d :: cs ∧ (d = 0 → n = 0 ∧ cs = acc) := by
  intro f
  induction f with
  | zero =>
    intro n acc h
    exact ⟨n, acc, by omega, by simp [showNatAux, show n < 10 by omega], fun e => ⟨e, rfl⟩⟩
  | succ f ih =>
    intro n acc h
    by_cases hlt : n < 10
    · exact ⟨n, acc, hlt, by simp [showNatAux, hlt], fun e => ⟨e, rfl⟩⟩
    · obtain ⟨d, cs, hd, e, hz⟩ := ih (n / 10) (digitChar (n % 10) :: acc) (by omega)
      refine ⟨d, cs, hd, by rw [showNatAux]; simp only [hlt, ↓reduceIte]; exact e, fun e0 => ?_⟩
      have := (hz e0).1
      omega

theorem showNat_head (n : Nat) : ∃ d cs, d < 10 ∧ showNat n = digitChar d :: cs ∧ (d = 0 → cs = []) := by
  obtain ⟨d, cs, hd, e, hz⟩ := showNatAux_head n n [] (Nat.le_refl _)
  exact ⟨d, cs, hd, e, fun e0 => (hz e0).2⟩

/-! ### strings -/

theorem hex_facts : ∀ n, n < 32 → hexVal (hexDigit (n / 4096 % 16)) = some 0 ∧ hexVal (hexDigit (n / 256 % 16)) = some 0
    ∧ hexVal (hexDigit (n / 16 % 16)) = some (n / 16) ∧ hexVal (hexDigit (n % 16)) = some (n % 16) := by decide +kernel

theorem char_of_toNat (c : Char) (n : Nat) (h : c.toNat = n) : c = Char.ofNat n := by
  rw [← h, Char.ofNat_toNat]

/-- a character that is neither the quote nor a backslash: a control character other than TAB stops the reader, anything
    else is taken as it stands -/
theorem readString_char (c : Char) (tl acc : Chars) (hq : c ≠ '"') (hb : c ≠ '\\') :
    readString (c :: tl) acc = if c.toNat < 32 && c.toNat != 9 then none else readString tl (c :: acc) := by
  rw [readString]
  · simp [hb]
  all_goals (intros; simp_all)

theorem readString_step (c : Char) (tl acc : Chars) :
    readString (jsonEscCharRaw c ++ tl) acc = readString tl (c :: acc) := by
  by_cases h1 : c = '"'
  · subst h1; simp [jsonEscCharRaw, readString]
  by_cases h2 : c = '\\'
  · subst h2; simp [jsonEscCharRaw, readString]
  by_cases h3 : c = '\n'
  · subst h3; simp [jsonEscCharRaw, readString]
  by_cases h4 : c = '\r'
  · subst h4; simp [jsonEscCharRaw, readString]
  by_cases h5 : c = '\t'
  · subst h5; simp [jsonEscCharRaw, readString]
  by_cases h6 : c.toNat = 8
  · have := char_of_toNat c 8 h6; subst this; simp [jsonEscCharRaw, readString]
  by_cases h7 : c.toNat = 12
  · have := char_of_toNat c 12 h7; subst this; simp [jsonEscCharRaw, readString]
  by_cases h8 : c.toNat < 32
  · have hf := hex_facts c.toNat h8
    simp only [jsonEscCharRaw, h1, h2, h3, h4, h5, h6, h7, h8, ↓reduceIte, hex4, List.cons_append, List.nil_append]
    rw [readString]
    · simp only [hf.1, hf.2.1, hf.2.2.1, hf.2.2.2]
      have : ((0 * 16 + 0) * 16 + c.toNat / 16) * 16 + c.toNat % 16 = c.toNat := by omega
      rw [this, Char.ofNat_toNat]
    all_goals (intros; simp_all)
  · simp only [jsonEscCharRaw, h1, h2, h3, h4, h5, h6, h7, h8, ↓reduceIte, List.cons_append, List.nil_append]
    rw [readString_char c tl acc h1 h2, if_neg (by simp; omega)]

/-- a string written character by character, each in a form the reader takes back as that character, reads back -/
theorem readString_flatMap (enc : Char → Chars) (s rest : Chars)
    (h : ∀ c ∈ s, ∀ tl acc, readString (enc c ++ tl) acc = readString tl (c :: acc)) :
    ∀ acc, readString (s.flatMap enc ++ '"' :: rest) acc = some (acc.reverse ++ s, rest) := by
  induction s with
  | nil => intro acc; simp [readString]
  | cons c cs ih =>
    intro acc
    rw [List.flatMap_cons, List.append_assoc, h c List.mem_cons_self, ih fun d hd => h d (List.mem_cons_of_mem _ hd)]
    simp

theorem lookup_none (c : Char) (h1 : c ≠ '"') (h2 : c ≠ '\\') (h3 : c ≠ '\n') (h4 : c ≠ '\r') :
    table__STRING_ESCAPES.lookup c = none := by
  have e1 : (c == Char.ofNat 34) = false := by simpa using h1
  have e2 : (c == Char.ofNat 92) = false := by simpa using h2
  have e3 : (c == Char.ofNat 10) = false := by simpa using h3
  have e4 : (c == Char.ofNat 13) = false := by simpa using h4
  simp [table__STRING_ESCAPES, List.lookup, e1, e2, e3, e4]

/-! ### names and digits: character classes -/

theorem spanWhile_append (p : Char → Bool) (a rest : Chars) (ha : a.all p = true)
    (hr : ∀ c r, rest = c :: r → p c = false) : spanWhile p (a ++ rest) = (a, rest) := by
  induction a with
  | nil =>
    cases rest with
    | nil => rfl
    | cons c r => simp [spanWhile, hr c r rfl]
  | cons x xs ih =>
    simp only [List.all_cons, Bool.and_eq_true] at ha
    simp [spanWhile, ha.1, ih ha.2]

theorem readDigits_append (body rest : Chars) : ∀ a, (readDigits body a).2 ≠ [] →
    readDigits (body ++ rest) a = ((readDigits body a).1, (readDigits body a).2 ++ rest) := by
  induction body with
  | nil => intro a h; simp [readDigits] at h
  | cons c cs ih =>
    intro a h
    by_cases hc : c.isDigit = true
    · simp only [readDigits, hc, ↓reduceIte, List.cons_append] at h ⊢
      exact ih _ h
    · simp [readDigits, hc]

theorem alpha_range (c : Char) (h : c.isAlpha = true) : (65 ≤ c.toNat ∧ c.toNat ≤ 90) ∨ (97 ≤ c.toNat ∧ c.toNat ≤ 122) := by
  simp only [Char.isAlpha, Char.isUpper, Char.isLower, Bool.or_eq_true, Bool.and_eq_true, decide_eq_true_eq, UInt32.le_iff_toNat_le] at h
  simp only [Char.toNat]
  rcases h with h | h
  · left; exact ⟨h.1, h.2⟩
  · right; exact ⟨h.1, h.2⟩
theorem digit_range (c : Char) : c.isDigit = (decide (48 ≤ c.toNat) && decide (c.toNat ≤ 57)) := by
  simp only [Char.isDigit, UInt32.le_iff_toNat_le, Char.toNat]
  rfl

theorem nameStart_facts (c : Char) (h : isNameStart c = true) :
    isIgnored c = false ∧ c ≠ ']' ∧ c ≠ '}' ∧ c.isDigit = false ∧ c ≠ '"' ∧ c ≠ '[' ∧ c ≠ '{' ∧ c ≠ '-' ∧ isNameCont c = true := by
  have hb : (65 ≤ c.toNat ∧ c.toNat ≤ 90) ∨ (97 ≤ c.toNat ∧ c.toNat ≤ 122) ∨ c.toNat = 95 := by
    simp only [isNameStart, Bool.or_eq_true, decide_eq_true_eq] at h
    rcases h with h | h
    · rcases alpha_range c h with h | h
      · exact Or.inl h
      · exact Or.inr (Or.inl h)
    · right; right; subst h; decide
  have ne : ∀ x : Char, ¬ ((65 ≤ x.toNat ∧ x.toNat ≤ 90) ∨ (97 ≤ x.toNat ∧ x.toNat ≤ 122) ∨ x.toNat = 95) → c ≠ x := by
    intro x hx e; subst e; exact hx hb
  refine ⟨?_, ne _ (by decide), ne _ (by decide), ?_, ne _ (by decide), ne _ (by decide), ne _ (by decide), ne _ (by decide), ?_⟩
  · have h1 := ne ' ' (by decide); have h2 := ne ',' (by decide); have h3 := ne '\n' (by decide)
    have h4 := ne '\t' (by decide); have h5 := ne '\r' (by decide)
    have h6 : c.toNat ≠ 0xFEFF := by omega
    simp [isIgnored, h1, h2, h3, h4, h5, h6]
  · rw [digit_range]
    cases hd : (decide (48 ≤ c.toNat) && decide (c.toNat ≤ 57)) with
    | false => rfl
    | true => simp at hd; omega
  · simp only [isNameCont, isNameStart] at h ⊢
    simp [h]

/-! ### the reader, by the first character of the value -/

/-- first character of a printed well-formed literal: starts a token, closes nothing -/
def headOk (cs : Chars) : Prop := ∃ c tl, cs = c :: tl ∧ isIgnored c = false ∧ c ≠ ']' ∧ c ≠ '}'

theorem digit_headOk (d : Nat) (hd : d < 10) (tl : Chars) : headOk (digitChar d :: tl) :=
  ⟨_, tl, rfl, (digit_facts d hd).2.2.1, (digit_facts d hd).2.2.2.1, (digit_facts d hd).2.2.2.2⟩

theorem isDigit_headOk (c : Char) (tl : Chars) (h : c.isDigit = true) : headOk (c :: tl) := by
  rw [digit_range] at h
  simp at h
  have ne : ∀ x : Char, ¬ (48 ≤ x.toNat ∧ x.toNat ≤ 57) → c ≠ x := by intro x hx e; subst e; exact hx h
  refine ⟨c, tl, rfl, ?_, ne _ (by decide), ne _ (by decide)⟩
  have h1 := ne ' ' (by decide); have h2 := ne ',' (by decide); have h3 := ne '\n' (by decide)
  have h4 := ne '\t' (by decide); have h5 := ne '\r' (by decide)
  have h6 : c.toNat ≠ 0xFEFF := by omega
  simp [isIgnored, h1, h2, h3, h4, h5, h6]

def classifyName (nm : Chars) : Lit :=
  if nm = ['t', 'r', 'u', 'e'] then .bool true
  else if nm = ['f', 'a', 'l', 's', 'e'] then .bool false
  else if nm = ['n', 'u', 'l', 'l'] then .null
  else .enum nm

theorem readVal_quote (r : Chars) (fuel : Nat) :
    readVal (fuel + 1) ('"' :: r) = (readString r []).map fun (s, rest) => (.str s, rest) := by
  simp [readVal, skipIgnored, isIgnored]

theorem readVal_bracket (r : Chars) (fuel : Nat) :
    readVal (fuel + 1) ('[' :: r) = (readItems fuel r).map fun (xs, rest) => (.list xs, rest) := by
  simp [readVal, skipIgnored, isIgnored]

theorem readVal_brace (r : Chars) (fuel : Nat) :
    readVal (fuel + 1) ('{' :: r) = (readFields fuel r).map fun (fs, rest) => (.obj fs, rest) := by
  simp [readVal, skipIgnored, isIgnored]

theorem readVal_minus (r : Chars) (fuel : Nat) : readVal (fuel + 1) ('-' :: r) = readNumber true r := by
  simp [readVal, skipIgnored, isIgnored]

/-- any other first character starts a number or a name -/
theorem readVal_other (c : Char) (r : Chars) (fuel : Nat) (hi : isIgnored c = false)
    (hq : c ≠ '"') (hl : c ≠ '[') (hb : c ≠ '{') (hm : c ≠ '-') :
    readVal (fuel + 1) (c :: r) =
      if c.isDigit then readNumber false (c :: r)
      else if isNameStart c then some (classifyName (spanWhile isNameCont (c :: r)).1, (spanWhile isNameCont (c :: r)).2)
      else none := by
  rw [readVal]
  -- `simp` resolves the `match` on the first character from `hq … hm`
  simp only [skipIgnored, hi, Bool.false_eq_true, ↓reduceIte, classifyName,
    apply_ite (fun l : Lit => some (l, (spanWhile isNameCont (c :: r)).2))]

theorem isDigit_not_open (c : Char) (h : c.isDigit = true) : c ≠ '"' ∧ c ≠ '[' ∧ c ≠ '{' ∧ c ≠ '-' := by
  rw [digit_range] at h
  simp at h
  have ne : ∀ x : Char, ¬ (48 ≤ x.toNat ∧ x.toNat ≤ 57) → c ≠ x := by intro x hx e; subst e; exact hx h
  exact ⟨ne _ (by decide), ne _ (by decide), ne _ (by decide), ne _ (by decide)⟩

theorem readVal_digit (c : Char) (tl : Chars) (h : c.isDigit = true) (fuel : Nat) :
    readVal (fuel + 1) (c :: tl) = readNumber false (c :: tl) := by
  obtain ⟨_, _, e, hi, _, _⟩ := isDigit_headOk c tl h
  injection e with e1 e2; subst e1; subst e2
  have f := isDigit_not_open c h
  rw [readVal_other c tl fuel hi f.1 f.2.1 f.2.2.1 f.2.2.2, if_pos h]

theorem readVal_space (cs : Chars) (fuel : Nat) : readVal fuel (' ' :: cs) = readVal fuel cs := by
  cases fuel with
  | zero => simp [readVal]
  | succ f => rw [readVal, readVal]; simp [skipIgnored, isIgnored]

theorem readItems_sep (cs : Chars) (fuel : Nat) : readItems fuel (',' :: ' ' :: cs) = readItems fuel cs := by
  cases fuel with
  | zero => simp [readItems]
  | succ f => rw [readItems, readItems]; simp [skipIgnored, isIgnored]

theorem readFields_sep (cs : Chars) (fuel : Nat) : readFields fuel (',' :: ' ' :: cs) = readFields fuel cs := by
  cases fuel with
  | zero => simp [readFields]
  | succ f => rw [readFields, readFields]; simp [skipIgnored, isIgnored]

theorem readItems_close (r : Chars) (fuel : Nat) : readItems (fuel + 1) (']' :: r) = some ([], r) := by
  simp [readItems, skipIgnored, isIgnored]

theorem readFields_close (r : Chars) (fuel : Nat) : readFields (fuel + 1) ('}' :: r) = some ([], r) := by
  simp [readFields, skipIgnored, isIgnored]

/-- one item of a list literal -/
theorem readItems_step (cs : Chars) (v : Lit) (f : Nat) (tail : Chars) (res : List Lit × Chars) (hc : headOk cs)
    (hv : readVal f (cs ++ tail) = some (v, tail)) (ht : readItems f tail = some res) :
    readItems (f + 1) (cs ++ tail) = some (v :: res.1, res.2) := by
  obtain ⟨c, tl, rfl, hi, hb, _⟩ := hc
  rw [List.cons_append] at hv ⊢
  rw [readItems]
  simp only [skipIgnored, hi, Bool.false_eq_true, ↓reduceIte]
  split
  · rename_i heq; injection heq with h1 _; exact absurd h1 hb
  · simp [hv, ht]

/-! ### the three branches of `_format_default_value` -/

theorem litOf_null (s : SchemaD) (ns : Bool) : ∀ (fuel : Nat) (ty : Ty) (l : Lit), litOfG s ns fuel ty .null = some l → l = .null := by
  intro fuel
  induction fuel with
  | zero => intro ty l h; simp [litOfG] at h
  | succ f ih =>
    intro ty l h
    cases ty with
    | nonNull t =>
      rw [litOfG] at h
      cases hr : litOfG s ns f t .null with
      | none => simp [hr] at h
      | some l' =>
        have := ih t l' hr
        subst this
        simp [hr] at h
    | named n => simp [litOfG] at h; exact h.symm
    | list t => simp [litOfG] at h; exact h.symm

theorem format_null (s : SchemaD) (ty : Ty) : formatDefaultValue s true .null ty = some ['n', 'u', 'l', 'l'] := rfl

theorem format_str (s : SchemaD) (ty : Ty) (x : String) (hty : Prims.baseIsOneOf ty ["String", "ID"] = true) :
    formatDefaultValue s true (.str x) ty = some ('"' :: (Prims.escapeWith table__STRING_ESCAPES x.toList ++ ['"'])) := by
  simp [formatDefaultValue, Prims.isNone, Prims.isStr, hty, Prims.pyStr]

theorem format_other (s : SchemaD) (ty : Ty) (dv : J) (hn : Prims.isNone dv = false)
    (hs : (Prims.isStr dv && Prims.baseIsOneOf ty ["String", "ID"]) = false) :
    formatDefaultValue s true dv ty = (litOfStrict s 64 ty dv).map printLit := by
  simp only [formatDefaultValue, Bool.not_true, Bool.false_eq_true, ↓reduceIte, hn, hs, Prims.printAstOfValueStrict]

theorem isNone_iff (dv : J) : Prims.isNone dv = true ↔ dv = .null := by cases dv <;> simp [Prims.isNone]
theorem isStr_iff (dv : J) : Prims.isStr dv = true ↔ ∃ x, dv = .str x := by cases dv <;> simp [Prims.isStr]

theorem readLit_quote (t : Chars) :
    readLit ('"' :: t) = (readString t []).bind fun (s, rest) => if skipIgnored rest = [] then some (.str s) else none := by
  rw [readLit, List.length_cons, readVal_quote]
  cases readString t [] <;> rfl

end PyGql.Introspect
