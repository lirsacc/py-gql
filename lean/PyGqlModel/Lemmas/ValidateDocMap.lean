/-
  Documents that are the IMAGE of another document under a map on selections (`SelMap`): every definition keeps its
  kind, operation key, type condition and node identities, fragments are renamed by `φ` (injective wherever the fragment
  table is read), selection lists are mapped by `L`, and the plain / typed node enumerations are the images under a node
  map `ν`. The three transformations of C06 that rewrite selections (`Tr`, `Al`, `Vr`) are instances. What two rules read
  of a document only through its selection lists and its fragment table follows for every instance at once: the
  reachable response keys of a root selection set (`SingleFieldSubscriptions`, `DocMap.sfs_iff`) and the simulation the
  clause of 5.3.2 is transported along (`DocMap.ovSim`); so do the identities of selection sets and the fragment names.
-/
import PyGqlModel.Lemmas.ValidateOverlapSimTable
import PyGqlModel.Lemmas.ValidateRootKeysFuel
import PyGqlModel.Lemmas.ValidateTr
namespace PyGql.Validate
open PyGql PyGql.Validate.Spec

structure DocMap (d d' : Doc) extends SelMap where
  defn : Def → Def
  vars : List VarDef → List VarDef
  ν : Node → Node
  defs : d'.defs = d.defs.map defn
  defn_op : ∀ k nm vs ds i sels, defn (.op k nm vs ds i sels) = .op k nm (vars vs) (dirs ds) i (L sels)
  defn_frag : ∀ n on ds i sels, defn (.frag n on ds i sels) = .frag (φ n) on (dirs ds) i (L sels)
  defn_ts : ∀ a b, defn (.ts a b) = .ts a b
  ν_selSet : ∀ i sels, ν (.selectionSet i sels) = .selectionSet i (L sels)
  ν_ssid : ∀ m, ssidOf? (ν m) = ssidOf? m
  nodes_perm : (nodes d').Perm ((nodes d).map ν)
  typed_mem : ∀ s q, q ∈ typedNodes s d' ↔ q ∈ (typedNodes s d).map fun q0 => (ν q0.1, q0.2)

theorem sfsTable_eq_foldl (d : Doc) : sfsTable d = (fragDefs d).foldl (fun m f => AL.set m f.1 f.2.2.2) [] := by
  obtain ⟨ds⟩ := d
  simp only [sfsTable, fragDefs]
  generalize ([] : AL (List Sel)) = m
  induction ds generalizing m with
  | nil => rfl
  | cons x xs ih => cases x <;> exact ih _

theorem length_eq_one_iff {l : List String} (hnd : l.Nodup) : l.length = 1 ↔ ∃ key, ∀ k, k ∈ l ↔ k = key := by
  constructor
  · intro h
    match l, h with
    | [a], _ => exact ⟨a, fun k => List.mem_singleton⟩
  · rintro ⟨key, hk⟩
    match l, hnd, hk with
    | [], _, hk => cases (hk key).mpr rfl
    | [a], _, _ => rfl
    | a :: b :: t, hnd, hk =>
      have ha := (hk a).mp (List.mem_cons_self ..)
      have hb := (hk b).mp (List.mem_cons_of_mem _ (List.mem_cons_self ..))
      exact absurd (List.mem_cons.mpr (Or.inl (ha.trans hb.symm))) (List.nodup_cons.mp hnd).1

/-- 5.2.3.1, declaratively: every subscription operation has exactly one reachable response key (no fuel, no
    visited set, no order) -/
theorem singleFieldSubscriptions_iff_ka (d : Doc) : Spec.singleFieldSubscriptions d ↔
    ∀ nm vs dr i sels, Def.op "subscription" nm vs dr i sels ∈ d.defs →
      ∃ key, ∀ k, KA (sfsTable d) [] sels k ↔ k = key := by
  unfold Spec.singleFieldSubscriptions
  constructor
  · intro h nm vs dr i sels hd
    have h1 := h _ ((operation_mem_nodes d _ _ _ _ _).mpr ⟨i, hd⟩) _ _ _ _ rfl
    obtain ⟨key, hk⟩ := (length_eq_one_iff (rootKeys_nodup _ _)).mp h1
    exact ⟨key, fun k => by rw [← mem_rootKeys_iff _ _ _ (sfsBound_suffices d hd)]; exact hk k⟩
  · intro h n hn nm vs dr sels e
    subst e
    obtain ⟨i, hd⟩ := (operation_mem_nodes d _ _ _ _ _).mp hn
    obtain ⟨key, hk⟩ := h nm vs dr i sels hd
    exact (length_eq_one_iff (rootKeys_nodup _ _)).mpr
      ⟨key, fun k => by rw [mem_rootKeys_iff _ _ _ (sfsBound_suffices d hd)]; exact hk k⟩

theorem selSet_inline {d : Doc} {i : Nat} {sels : List Sel} (h : SelSet d i sels) {on : Option String} {dirs : List Dir}
    {id : Nat} {sub : List Sel} (hm : Sel.inline on dirs id sub ∈ sels) : SelSet d id sub :=
  selSet_closed h _ (mem_selsNodes_of_mem hm _ (by simp [selNodes]))

namespace DocMap
variable {d d' : Doc} (M : DocMap d d')

theorem fragDefs_eq : fragDefs d' = (fragDefs d).map (mapFragDef M.φ M.L) := by
  simp only [fragDefs, M.defs, List.filterMap_map, List.map_filterMap]
  congr 1
  funext x
  cases x with
  | op => simp only [Function.comp, M.defn_op]; rfl
  | frag => simp only [Function.comp, M.defn_frag]; rfl
  | ts => simp only [Function.comp, M.defn_ts]; rfl

theorem fragNames_eq : fragNames d' = (fragNames d).map M.φ := by
  rw [← fragDefs_names', ← fragDefs_names', M.fragDefs_eq, List.map_map, List.map_map]
  rfl

include M in
theorem wfIds : WfIds d' ↔ WfIds d := by
  unfold WfIds selSetIds idsOf
  refine (M.nodes_perm.filterMap _).nodup_iff.trans ?_
  rw [List.filterMap_map, (funext M.ν_ssid : ssidOf? ∘ M.ν = ssidOf?)]

theorem of_selSet (m : Node) (i : Nat) (sels' : List Sel) (e : M.ν m = .selectionSet i sels') :
    ∃ sels, m = .selectionSet i sels := by
  have h := M.ν_ssid m
  rw [e] at h
  cases m with
  | selectionSet j sels => cases h; exact ⟨sels, rfl⟩
  | _ => cases h

theorem mem_op {k : String} {nm : Option String} {vs' : List VarDef} {ds' : List Dir} {i : Nat} {sels' : List Sel}
    (h : Def.op k nm vs' ds' i sels' ∈ d'.defs) : ∃ vs ds sels, Def.op k nm vs ds i sels ∈ d.defs ∧ sels' = M.L sels := by
  rw [M.defs] at h
  obtain ⟨x, hx, e⟩ := List.mem_map.mp h
  cases x with
  | op k0 nm0 vs ds i0 sels =>
    rw [M.defn_op] at e
    cases e
    exact ⟨vs, ds, sels, hx, rfl⟩
  | frag => rw [M.defn_frag] at e; cases e
  | ts => rw [M.defn_ts] at e; cases e

theorem op_mem {k : String} {nm : Option String} {vs : List VarDef} {ds : List Dir} {i : Nat} {sels : List Sel}
    (h : Def.op k nm vs ds i sels ∈ d.defs) : Def.op k nm (M.vars vs) (M.dirs ds) i (M.L sels) ∈ d'.defs := by
  rw [M.defs]
  exact List.mem_map.mpr ⟨_, h, M.defn_op ..⟩

section
variable (hφ : ∀ a b, M.φ a = M.φ b → a = b)
include hφ

theorem sfsTable_get? (g : String) : AL.get? (sfsTable d') (M.φ g) = (AL.get? (sfsTable d) g).map M.L := by
  rw [sfsTable_eq_foldl, sfsTable_eq_foldl, M.fragDefs_eq, List.foldl_map]
  have := get?_foldl_set_image M.φ hφ M.L g ((fragDefs d).map fun f => (f.1, f.2.2.2)) [] [] rfl
  simp only [List.foldl_map] at this
  exact this

section keys
variable {ρ : String → String} (hkey : ∀ al n, okey (M.alias al n) n = ρ (okey al n))
include hkey

theorem ka_fwd {sels : List Sel} {k : String} (h : KA (sfsTable d) [] sels k) :
    KA (sfsTable d') [] (M.L sels) (ρ k) := by
  induction h with
  | field hm => rw [← hkey]; exact .field (M.mem_field hm)
  | inline hm _ ih => exact .inline (M.mem_inline hm) ih
  | @spread L name ds sels k hm _ hg _ ih =>
    refine .spread (M.mem_L.mpr (List.mem_map.mpr ⟨_, hm, M.σ_spread ..⟩)) List.not_mem_nil ?_ ih
    rw [M.sfsTable_get? hφ, hg]; rfl

theorem ka_bwd {sels : List Sel} {k' : String} (h : KA (sfsTable d') [] (M.L sels) k') :
    ∃ k, k' = ρ k ∧ KA (sfsTable d) [] sels k := by
  generalize e : M.L sels = sels' at h
  induction h generalizing sels with
  | field hm =>
    subst e
    obtain ⟨al, a, ds, sb, hy, rfl, rfl, rfl⟩ := M.of_mem_field hm
    exact ⟨_, hkey _ _, .field hy⟩
  | inline hm _ ih =>
    subst e
    obtain ⟨ds, sb, hy, rfl⟩ := M.of_mem_inline hm
    obtain ⟨k, hk, h0⟩ := ih rfl
    exact ⟨k, hk, .inline hy h0⟩
  | spread hm _ hg _ ih =>
    subst e
    obtain ⟨g, ds, hy, rfl⟩ := M.of_mem_spread hm
    rw [M.sfsTable_get? hφ] at hg
    cases hg0 : AL.get? (sfsTable d) g with
    | none => rw [hg0] at hg; cases hg
    | some sels0 =>
      rw [hg0] at hg
      cases hg
      obtain ⟨k, hk, h0⟩ := ih rfl
      exact ⟨k, hk, .spread hy List.not_mem_nil hg0 h0⟩

theorem one_key_iff (hρ : ∀ a b, ρ a = ρ b → a = b) (sels : List Sel) :
    (∃ key, ∀ k, KA (sfsTable d') [] (M.L sels) k ↔ k = key) ↔ ∃ key, ∀ k, KA (sfsTable d) [] sels k ↔ k = key := by
  constructor
  · rintro ⟨key', hk'⟩
    obtain ⟨key, rfl, h0⟩ := M.ka_bwd hφ hkey ((hk' key').mpr rfl)
    exact ⟨key, fun k => ⟨fun h => hρ _ _ ((hk' _).mp (M.ka_fwd hφ hkey h)), fun e => e ▸ h0⟩⟩
  · rintro ⟨key, hk⟩
    refine ⟨ρ key, fun k' => ⟨fun h => ?_, fun e => e ▸ M.ka_fwd hφ hkey ((hk key).mpr rfl)⟩⟩
    obtain ⟨k, rfl, h0⟩ := M.ka_bwd hφ hkey h
    rw [(hk k).mp h0]

end keys

theorem sfs_iff {ρ : String → String} (hkey : ∀ al n, okey (M.alias al n) n = ρ (okey al n))
    (hρ : ∀ a b, ρ a = ρ b → a = b) : Spec.singleFieldSubscriptions d' ↔ Spec.singleFieldSubscriptions d := by
  rw [singleFieldSubscriptions_iff_ka, singleFieldSubscriptions_iff_ka]
  constructor
  · intro h nm vs dr i sels hd
    exact (M.one_key_iff hφ hkey hρ sels).mp (h _ _ _ _ _ (M.op_mem hd))
  · intro h nm vs' dr' i sels' hd
    obtain ⟨vs, ds, sels, hx, rfl⟩ := M.mem_op hd
    exact (M.one_key_iff hφ hkey hρ sels).mpr (h _ _ _ _ _ hx)

/-- the image simulates the document for the clause of 5.3.2, given how response names are renamed on the fields of
    `d` and that `_same_arguments` has the same outcome on the mapped arguments of collected fields -/
def ovSim (s : SchemaD) (ρ : String → String) (hρ : ∀ a b, ρ a = ρ b → a = b)
    (hname : ∀ i sels, SelSet d i sels → ∀ al n a ds hs id sub, Sel.field al n a ds hs id sub ∈ sels →
      responseName (M.alias al n) n = ρ (responseName al n))
    (Good : FEntry → Prop) (good_of : ∀ e, EntD s d e → Good e)
    (hargs : ∀ e1 e2, Good e1 → Good e2 →
      sameArguments (M.args e1.args) (M.args e2.args) = sameArguments e1.args e2.args) : OvSim s d d' where
  σ := M.L
  φ := M.φ
  ρ := ρ
  ε := M.toSelMap.ent
  Good := Good
  ρ_inj := hρ
  φ_inj := hφ
  sets_fwd := fun i => (selSet_image M.ν_selSet M.of_selSet (fun _ => M.nodes_perm.mem_iff) i).1
  sets_bwd := fun i => (selSet_image M.ν_selSet M.of_selSet (fun _ => M.nodes_perm.mem_iff) i).2
  walk := walkP_image M.ν_selSet M.of_selSet (M.typed_mem s)
  frags_fwd := fragTable_image_fwd M.fragDefs_eq hφ
  frags_bwd := fragTable_image_bwd M.fragDefs_eq hφ
  collD_fwd := fun i _ hs _ _ _ h =>
    M.toSelMap.collD_fwd (P := fun sels => ∃ i, SelSet d i sels)
      (fun ⟨_, hs⟩ hm => ⟨_, selSet_inline hs hm⟩)
      (fun ⟨i, hs⟩ hm => hname i _ hs _ _ _ _ _ _ _ hm) h ⟨i, hs⟩
  collD_bwd := fun i _ hs _ _ _ h =>
    M.toSelMap.collD_bwd (P := fun sels => ∃ i, SelSet d i sels)
      (fun ⟨_, hs⟩ hm => ⟨_, selSet_inline hs hm⟩)
      (fun ⟨i, hs⟩ hm => hname i _ hs _ _ _ _ _ _ _ hm) h ⟨i, hs⟩
  spreadD_fwd := fun _ _ _ _ h => M.toSelMap.spreadD_fwd h
  spreadD_bwd := fun _ _ _ _ h => M.toSelMap.spreadD_bwd h
  good_of := good_of
  ε_parent := fun _ => rfl
  ε_name := fun _ => rfl
  ε_hasSub := fun _ => rfl
  ε_ssid := fun _ => rfl
  ε_fdef := fun _ => rfl
  ε_sub := fun _ => rfl
  ε_args := hargs

end
end DocMap
end PyGql.Validate
