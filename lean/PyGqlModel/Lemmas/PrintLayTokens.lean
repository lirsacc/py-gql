/-
  `Lay` for the leaves: punctuators, names, numbers, quoted strings.
-/
import PyGqlModel.Lemmas.PrintLay
import PyGqlModel.Lemmas.PrintLexFloat
import PyGqlModel.Lemmas.PrintTokensDir
namespace PyGql.PrintTokens
open PyGql PyGql.Ast PyGql.Parse PyGql.Spec PyGql.Print PyGql.PrintLex PyGql.PrintMatch PyGql.PrintString

theorem lay_dollar {b cb} (h : Lay b cb) : Lay (36 :: b) ((.dollar, []) :: cb) :=
  lay_punct_cons (by decide +kernel) h
theorem lay_parenL {b cb} (h : Lay b cb) : Lay (40 :: b) ((.parenL, []) :: cb) :=
  lay_punct_cons (by decide +kernel) h
theorem lay_parenR {b cb} (h : Lay b cb) : Lay (41 :: b) ((.parenR, []) :: cb) :=
  lay_punct_cons (by decide +kernel) h
theorem lay_colon {b cb} (h : Lay b cb) : Lay (58 :: b) ((.colon, []) :: cb) :=
  lay_punct_cons (by decide +kernel) h
theorem lay_equals {b cb} (h : Lay b cb) : Lay (61 :: b) ((.equals, []) :: cb) :=
  lay_punct_cons (by decide +kernel) h
theorem lay_atSign {b cb} (h : Lay b cb) : Lay (64 :: b) ((.atSign, []) :: cb) :=
  lay_punct_cons (by decide +kernel) h
theorem lay_bracketL {b cb} (h : Lay b cb) : Lay (91 :: b) ((.bracketL, []) :: cb) :=
  lay_punct_cons (by decide +kernel) h
theorem lay_bracketR {b cb} (h : Lay b cb) : Lay (93 :: b) ((.bracketR, []) :: cb) :=
  lay_punct_cons (by decide +kernel) h
theorem lay_curlyL {b cb} (h : Lay b cb) : Lay (123 :: b) ((.curlyL, []) :: cb) :=
  lay_punct_cons (by decide +kernel) h
theorem lay_curlyR {b cb} (h : Lay b cb) : Lay (125 :: b) ((.curlyR, []) :: cb) :=
  lay_punct_cons (by decide +kernel) h
theorem lay_bang {b cb} (h : Lay b cb) : Lay (33 :: b) ((.bang, []) :: cb) :=
  lay_punct_cons (by decide +kernel) h
theorem lay_pipe {b cb} (h : Lay b cb) : Lay (124 :: b) ((.pipe, []) :: cb) :=
  lay_punct_cons (by decide +kernel) h
theorem lay_amp {b cb} (h : Lay b cb) : Lay (38 :: b) ((.amp, []) :: cb) :=
  lay_punct_cons (by decide +kernel) h

theorem name_noLF {w : Text} (h : Spec.Lexical.isName w = true) : ∀ c ∈ w, c ≠ 10 := by
  intro c hc e
  subst e
  exact absurd (name_all h 10 hc) (by decide +kernel)

theorem lay_name {w : Text} (h : Spec.Lexical.isName w = true) : Lay w [(.name, w)] :=
  lay_of_seg (name_noLF h) (fun _ _ hr hl => lexesTo_name h hr hl)

theorem digits_noLF {ds : Text} (h : ds.all Spec.Lexical.isDigit = true) : ∀ c ∈ ds, c ≠ 10 := by
  intro c hc e; subst e
  have := (List.all_eq_true.1 h) 10 hc
  simp [Spec.Lexical.isDigit] at this

theorem signedDigits_noLF {s ds : Text} {a b : Nat} (hs : s = [] ∨ s = [a] ∨ s = [b]) (ha : a ≠ 10) (hb : b ≠ 10)
    (h : ds.all Spec.Lexical.isDigit = true) : ∀ c ∈ s ++ ds, c ≠ 10 := by
  intro c hc
  rcases List.mem_append.1 hc with hc | hc
  · rcases hs with rfl | rfl | rfl
    · cases hc
    · rwa [List.mem_singleton.1 hc]
    · rwa [List.mem_singleton.1 hc]
  · exact digits_noLF h c hc

theorem integerPart_noLF {w : Text} (h : Spec.Lexical.isIntegerPart w = true) : ∀ c ∈ w, c ≠ 10 := by
  obtain ⟨s, d, ds, rfl, hs, hd, hdd⟩ := integerPart_shape h
  refine signedDigits_noLF (a := 45) (b := 45) (hs.imp_right .inl) (by decide) (by decide) ?_
  rw [Lex.isDigit_spec] at hd
  simp only [Bool.or_eq_true, Bool.and_eq_true, beq_iff_eq, List.isEmpty_iff] at hdd
  rcases hdd with ⟨_, rfl⟩ | ⟨_, hds⟩
  · simp [hd]
  · simp [hd, hds]

theorem lay_int {w : Text} (h : Spec.Lexical.isIntValue w = true) : Lay w [(.int, w)] :=
  lay_of_seg (integerPart_noLF h) (fun _ _ hr hl => lexesTo_int h hr hl)

theorem float_noLF {w : Text} (h : Spec.Lexical.isFloatValue w = true) : ∀ c ∈ w, c ≠ 10 := by
  obtain ⟨ip, frac, exp, rfl, hip, hf, he, _⟩ := floatShape_of_isFloatValue w h
  intro c hc
  simp only [List.mem_append] at hc
  rcases hc with hc | hc | hc
  · exact integerPart_noLF hip c hc
  · rcases hf with rfl | hf
    · cases hc
    · obtain ⟨d, ds, rfl, hd, hds⟩ := fractionalPart_shape hf
      exact signedDigits_noLF (s := [46]) (a := 46) (b := 46) (.inr (.inl rfl)) (by decide) (by decide)
        (ds := d :: ds) (by simp [hd, hds]) c hc
  · rcases he with rfl | he
    · cases hc
    · obtain ⟨i, s, d, ds, rfl, hi, hs, hd, hds⟩ := exponentPart_shape he
      rcases List.mem_cons.1 hc with rfl | hc
      · omega
      · exact signedDigits_noLF (a := 43) (b := 45) hs (by decide) (by decide) (ds := d :: ds) (by simp [hd, hds]) c hc

theorem lay_float {w : Text} (h : Spec.Lexical.isFloatValue w = true) : Lay w [(.float, w)] :=
  lay_of_seg (float_noLF h) (fun _ _ hr hl => lexesTo_float (floatLexeme_of_isFloatValue w h) hr hl)

theorem jsonEscapeChar_noLF (a : Nat) : ∀ c ∈ jsonEscapeChar a, c ≠ 10 := by
  have hx : ∀ n, hexDigitLower n ≠ 10 := by intro n; unfold hexDigitLower; split <;> omega
  rcases jsonEscapeChar_cases a with ⟨e, _, h10, he⟩ | ⟨_, he⟩ | ⟨h32, _, _, he⟩
  · simp [he, h10]
  · simp [he, hx]
  · simp [he]
    omega

theorem jsonDumps_noLF (v : Text) : ∀ c ∈ jsonDumps v, c ≠ 10 := by
  have hesc : ∀ v : Text, ∀ c ∈ jsonEscape v, c ≠ 10 := by
    intro v
    induction v with
    | nil => intro c hc; cases hc
    | cons a t ih =>
      intro c hc
      simp only [jsonEscape, List.mem_append] at hc
      rcases hc with hc | hc
      · exact jsonEscapeChar_noLF a c hc
      · exact ih c hc
  intro c hc
  simp [jsonDumps] at hc
  rcases hc with rfl | hc | rfl
  · decide +kernel
  · exact hesc v c hc
  · decide +kernel

theorem lay_string (v : Text) : Lay (jsonDumps v) [(.string, v)] :=
  lay_of_seg (jsonDumps_noLF v) (fun _ _ hr hl => lexesTo_string hr hl)

end PyGql.PrintTokens
