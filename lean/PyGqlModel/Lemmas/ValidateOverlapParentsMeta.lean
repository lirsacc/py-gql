/-
  The weaker notion of agreement that HOLDS below `__schema { … }` / `__type { … }`: every admissible parent type of a
  selection set is the one `TypeInfoVisitor` shows at its node, OR `none` (`adm_walk_or_none`). `ParentsAgree` needs
  `NoMetaSubs` because for a meta field `_get_field_def` (the visitor) knows the field and `parent_type.field_map` (the
  search) does not; the search then derives NO parent type - never a wrong one - provided the schema defines no field
  with a reserved meta name (`NoReservedFields`, what schema validation guarantees) and `__typename` carries no
  sub-selection (`NoTypenameSubs`, a consequence of ScalarLeafs on schemas that have `String`).
-/
import PyGqlModel.Lemmas.ValidateOverlapParentsAgree
import PyGqlModel.Lemmas.ValidateOverlapSim
namespace PyGql.Validate
open PyGql PyGql.Validate.Spec

/-- no type of the schema defines a field named `__schema` or `__type` -/
def NoReservedFields (s : SchemaD) : Prop := ∀ T, fieldOf s T "__schema" = none ∧ fieldOf s T "__type" = none

/-- `__typename` is never selected with a sub-selection -/
def NoTypenameSubs (d : Doc) : Prop := ∀ n ∈ nodes d, ∀ name args dirs, n = Node.field name args dirs true → name ≠ "__typename"

theorem ovFieldOf_eq_getFieldDef (s : SchemaD) (p name : String) (h1 : name ≠ "__schema") (h2 : name ≠ "__type") :
    ovFieldOf s p name = getFieldDef s p name := by
  unfold ovFieldOf getFieldDef
  simp [h1, h2]

theorem ovFieldOf_reserved (s : SchemaD) (hres : NoReservedFields s) (p name : String)
    (h : name = "__schema" ∨ name = "__type") : ovFieldOf s p name = none := by
  unfold ovFieldOf
  rcases h with rfl | rfl
  · simpa using (hres p).1
  · simpa using (hres p).2

section
variable {s : SchemaD} {d : Doc}
variable (hout : ∀ T name fd, fieldOf s T name = some fd → isOutputTy s fd.type = true)
  (hsl : Spec.scalarLeafs s d) (hfc : Spec.fragmentsOnCompositeTypes s d) (hres : NoReservedFields s)
  (hnt : NoTypenameSubs d)

include hout hsl hfc hres hnt in
/-- the sub-selection of a collected field: the search derives the parent type the visitor shows, or none -/
theorem coll_walk_or_none {p : Option String} {sels : List Sel} {rn : String} {e : FEntry} (hc : CollD s p sels rn e) :
    ∀ v : View, (v.parent = p ∨ p = none) → v.parent = compositeBase s v.type → (∀ q ∈ tnSels s v sels, q ∈ typedNodes s d) →
      e.hasSub = true → e.subParent = none ∨
        ∃ v2, (Node.selectionSet e.ssid e.sub, v2) ∈ typedNodes s d ∧ v2.parent = e.subParent := by
  induction hc with
  | @field parent sels alias name args dirs hasSub ssid sub hm =>
    intro v hvp _ hcl hs
    simp only at hs; subst hs
    rcases hvp with hvp | hpn
    · have hsub := fun q hq => hcl q (mem_tnSels_of_mem hm q hq)
      have hfield : (Node.field name args dirs true, View.enter s (.field name args dirs true) v) ∈ typedNodes s d :=
        hsub _ (by simp [tnSel])
      by_cases hmeta : name = "__schema" ∨ name = "__type"
      · left
        show ((parent.bind fun q => ovFieldOf s q name).map (·.type)).map (·.base) = none
        cases parent with
        | none => rfl
        | some q => simp [ovFieldOf_reserved s hres q name hmeta]
      · right
        have h1 : name ≠ "__schema" := fun e => hmeta (Or.inl e)
        have h2 : name ≠ "__type" := fun e => hmeta (Or.inr e)
        have h3 : name ≠ "__typename" := hnt _ (typed_node_mem hfield) name args dirs rfl
        have hnmeta : name ∉ metaFieldNames := by
          simp only [metaFieldNames, List.mem_cons, List.not_mem_nil, or_false, not_or]
          exact ⟨h1, h2, h3⟩
        refine ⟨_, hsub (Node.selectionSet ssid sub,
          View.enter s (.selectionSet ssid sub) (View.enter s (.field name args dirs true) v)) (by simp [tnSel]), ?_⟩
        exact field_subParent hout hsl hvp hfield hnmeta
    · left
      subst hpn
      rfl
  | @inline parent sels on dirs id sub rn e hm _ ih =>
    intro v hvp hvc hcl hs
    have hsub := fun q hq => hcl q (mem_tnSels_of_mem hm q hq)
    have hnode : (Node.inline on dirs, View.enter s (.inline on dirs) v) ∈ typedNodes s d := hsub _ (by simp [tnSel])
    have hset : (Node.selectionSet id sub, View.enter s (.selectionSet id sub) (View.enter s (.inline on dirs) v))
        ∈ typedNodes s d := hsub _ (by simp [tnSel])
    refine ih _ ?_ rfl (typed_closed hset).1 hs
    cases on with
    | none =>
      rcases hvp with hvp | hpn
      · left
        show compositeBase s (TI.outOnly s v.type) = parent
        rw [compositeBase_outOnly, ← hvc, hvp]
      · right
        subst hpn
        rfl
    | some n =>
      left
      have hcomp : isComposite s n = true := hfc.1 _ (typed_node_mem hnode) n dirs rfl
      show compositeBase s (TI.outOnly s (typeFromAst s (.named n))) = (typeFromAst s (.named n)).map (·.base)
      rw [(composite_named s n hcomp).1, (composite_named s n hcomp).2]

include hout hsl hfc hres hnt in
/-- **every admissible parent type is the one the visitor shows, or none** - documents with `__schema { … }` /
    `__type { … }` included -/
theorem adm_walk_or_none (hw : WfIds d) {i : Nat} {p : Option String} (h : Adm s d i p) :
    p = none ∨ WalkP s d i p := by
  induction h with
  | walk hm => exact Or.inr ⟨_, _, hm, rfl⟩
  | frag ht => exact Or.inr (frag_walk hfc ht)
  | @sub i sels p rn e _ hs hc hsub ih =>
    obtain ⟨v, hm⟩ : ∃ v, (Node.selectionSet i sels, v) ∈ typedNodes s d := by
      rcases ih with _ | ⟨sels0, v, hm, _⟩
      · exact selSet_typed hs
      · have hsame : sels0 = sels := wf_selSet_unique hw (by simp only [SelSet]; exact typed_node_mem hm) hs
        subst hsame
        exact ⟨v, hm⟩
    have hvp : v.parent = p ∨ p = none := by
      rcases ih with hn | ⟨sels0, v0, hm0, hv0⟩
      · exact Or.inr hn
      · have := typed_unique hw hm0 hm (k := i) rfl rfl
        cases this
        exact Or.inl hv0
    obtain ⟨c1, c2⟩ := typed_closed hm
    rcases coll_walk_or_none hout hsl hfc hres hnt hc v hvp c2 c1 hsub with hn | ⟨v2, hm2, hp2⟩
    · exact Or.inl hn
    · exact Or.inr ⟨_, v2, hm2, hp2⟩

end
end PyGql.Validate
