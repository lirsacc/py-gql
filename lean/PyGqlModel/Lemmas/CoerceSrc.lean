/-
  C07 — `coerce_value` and `value_from_ast` are one function. Both walk the TYPE: null test, list position (an array item by
  item, or a single value wrapped), input object (field loop, unknown keys), any other named type (a leaf). They differ in how an
  input is taken apart, in what a leaf does, in whether a loop goes on after a `CoercionError`, and in what is answered before
  the type is looked at: a `Src` holds exactly that, `gStep` is one call over a `Src`, `gCoerce` the function, and
  `coerceValue_eq` / `valueFromAst_eq` say that the model's two functions are its instances `srcJ` / `srcL`. The four loops of
  the model are one loop (`mapEB`), the two field loops running it over one step function (`fieldStep`). Soundness of one call
  (`gStep_sound`) is proved here once; errors and fuel are in `Lemmas/CoerceFuel.lean`.
-/
import PyGqlModel.Lemmas.Coerce


namespace PyGql.Coerce
open PyGql

/-- `mapE` (`collect = false`: stops at the first error) and `mapEC` (`collect = true`: goes on after a `CoercionError`) -/
def mapEB {α β : Type} (collect : Bool) (f : α → Except Err β) : List α → Except Err (List β)
  | [] => .ok []
  | x :: xs =>
    match f x with
    | .error e =>
      if e == .coercion && collect then
        match mapEB collect f xs with
        | .error e' => .error e'
        | .ok _ => .error .coercion
      else .error e
    | .ok y =>
      match mapEB collect f xs with
      | .error e => .error e
      | .ok ys => .ok (y :: ys)

section loop
variable {α β : Type} {c : Bool} {f : α → Except Err β}

theorem mapE_eq (f : α → Except Err β) (l : List α) : mapE f l = mapEB false f l := by
  induction l with
  | nil => rfl
  | cons x xs ih =>
    simp only [mapE, mapEB, ih]
    cases f x with
    | ok y => rfl
    | error e => cases e <;> rfl

theorem mapEC_eq (f : α → Except Err β) (l : List α) : mapEC f l = mapEB true f l := by
  induction l with
  | nil => rfl
  | cons x xs ih =>
    simp only [mapEC, mapEB, ih]
    cases f x with
    | ok y => rfl
    | error e => cases e <;> rfl

theorem mapEB_cons_ok {x : α} {xs : List α} {r : List β} (h : mapEB c f (x :: xs) = .ok r) :
    ∃ y ys, f x = .ok y ∧ mapEB c f xs = .ok ys ∧ r = y :: ys := by
  simp only [mapEB] at h
  split at h
  · split at h
    · split at h <;> cases h
    · cases h
  · rename_i y hy
    split at h
    · cases h
    · rename_i ys hys
      cases h
      exact ⟨y, ys, hy, hys, rfl⟩

theorem mapEB_ok_forall {P : β → Prop} : ∀ {l : List α} {r : List β}, mapEB c f l = .ok r →
    (∀ x, x ∈ l → ∀ y, f x = .ok y → P y) → ∀ y, y ∈ r → P y := by
  intro l
  induction l with
  | nil =>
    intro r h _ y hy
    cases h
    cases hy
  | cons x xs ih =>
    intro r h hf y hy
    obtain ⟨y0, ys, hy0, hys, rfl⟩ := mapEB_cons_ok h
    cases hy with
    | head => exact hf x List.mem_cons_self _ hy0
    | tail _ hmem => exact ih hys (fun x' hx' => hf x' (List.mem_cons_of_mem _ hx')) y hmem

theorem mapEB_ok_mem : ∀ {l : List α} {r : List β}, mapEB c f l = .ok r → ∀ x, x ∈ l → ∃ y, f x = .ok y := by
  intro l
  induction l with
  | nil => intro r _ x hx; cases hx
  | cons a as ih =>
    intro r h x hx
    obtain ⟨y, ys, hy, hys, _⟩ := mapEB_cons_ok h
    cases hx with
    | head => exact ⟨y, hy⟩
    | tail _ hm => exact ih hys x hm

theorem mapEB_ok_iff (c c' : Bool) (f : α → Except Err β) (l : List α) (r : List β) :
    mapEB c f l = .ok r ↔ mapEB c' f l = .ok r := by
  have key : ∀ (c c' : Bool) (l : List α) (r : List β), mapEB c f l = .ok r → mapEB c' f l = .ok r := by
    intro c c' l
    induction l with
    | nil => exact fun r h => h
    | cons x xs ih =>
      intro r h
      obtain ⟨y, ys, hy, hys, rfl⟩ := mapEB_cons_ok h
      simp only [mapEB, hy, ih ys hys]
  exact ⟨key c c' l r, key c' c l r⟩

theorem mapE_ok_forall {α β : Type} {f : α → Except Err β} {P : β → Prop} :
    ∀ {l : List α} {r : List β}, mapE f l = .ok r → (∀ x, x ∈ l → ∀ y, f x = .ok y → P y) → ∀ y, y ∈ r → P y :=
  fun h => mapEB_ok_forall (mapE_eq _ _ ▸ h)

theorem mapEC_ok_iff {α β : Type} (f : α → Except Err β) : ∀ (l : List α) (r : List β), mapEC f l = .ok r ↔ mapE f l = .ok r := by
  intro l r
  rw [mapEC_eq, mapE_eq]
  exact mapEB_ok_iff true false f l r

end loop

/-- one field of an input object (`for field in type_.fields:`): `none` = the key stays absent -/
def fieldStep {α : Type} (get : String → Option α) (rec : Ty → α → R) (f : InField) : Except Err (Option (String × PV)) :=
  match get f.name with
  | none =>
    match f.default with
    | some d => .ok (some (f.pyName, d))
    | none => if f.type.isNonNull then .error .coercion else .ok none
  | some v =>
    match rec f.type v with
    | .error e => .error e
    | .ok pv => .ok (some (f.pyName, pv))

/-- the entries that a loop over the fields leaves in the dict -/
def entries (r : Except Err (List (Option (String × PV)))) : Except Err (List (String × PV)) :=
  match r with
  | .error e => .error e
  | .ok l => .ok l.reduceOption

theorem entries_ok {os : Except Err (List (Option (String × PV)))} {r : List (String × PV)} (h : entries os = .ok r) :
    ∃ l, os = .ok l ∧ r = l.reduceOption := by
  cases os <;> cases h
  exact ⟨_, rfl, rfl⟩

section fields
variable {α : Type} {reg : Reg} {c : Bool} {get : String → Option α} {rec : Ty → α → R}

theorem fieldLoop_eq (get : String → Option α) (rec : Ty → α → R) (fs : List InField) :
    fieldLoop get rec fs = entries (mapEB false (fieldStep get rec) fs) := by
  induction fs with
  | nil => rfl
  | cons f fs ih =>
    cases hg : get f.name with
    | none =>
      cases hd : f.default with
      | some d =>
        simp only [fieldLoop, mapEB, fieldStep, hg, hd, ih]
        cases mapEB false (fieldStep get rec) fs <;> rfl
      | none =>
        cases hn : f.type.isNonNull <;> simp only [fieldLoop, mapEB, fieldStep, hg, hd, hn, ih]
        · cases mapEB false (fieldStep get rec) fs <;> rfl
        · rfl
    | some v =>
      cases hv : rec f.type v with
      | error e => cases e <;> simp only [fieldLoop, mapEB, fieldStep, hg, hv] <;> rfl
      | ok pv =>
        simp only [fieldLoop, mapEB, fieldStep, hg, hv, ih]
        cases mapEB false (fieldStep get rec) fs <;> rfl

theorem fieldLoopC_eq (get : String → Option α) (rec : Ty → α → R) (fs : List InField) :
    fieldLoopC get rec fs = entries (mapEB true (fieldStep get rec) fs) := by
  induction fs with
  | nil => rfl
  | cons f fs ih =>
    cases hg : get f.name with
    | none =>
      cases hd : f.default with
      | some d =>
        simp only [fieldLoopC, mapEB, fieldStep, hg, hd, ih]
        cases mapEB true (fieldStep get rec) fs <;> rfl
      | none =>
        cases hn : f.type.isNonNull <;> simp only [fieldLoopC, mapEB, fieldStep, hg, hd, hn, ih] <;>
          cases mapEB true (fieldStep get rec) fs <;> rfl
    | some v =>
      cases hv : rec f.type v with
      | error e =>
        cases e <;> simp only [fieldLoopC, mapEB, fieldStep, hg, hv, ih] <;>
          cases mapEB true (fieldStep get rec) fs <;> rfl
      | ok pv =>
        simp only [fieldLoopC, mapEB, fieldStep, hg, hv, ih]
        cases mapEB true (fieldStep get rec) fs <;> rfl

theorem fieldLoopC_ok_iff {α : Type} (get : String → Option α) (rec : Ty → α → R) :
    ∀ (fs : List InField) (r : List (String × PV)), fieldLoopC get rec fs = .ok r ↔ fieldLoop get rec fs = .ok r := by
  intro fs r
  rw [fieldLoopC_eq, fieldLoop_eq]
  constructor <;> intro h <;> obtain ⟨l, hl, rfl⟩ := entries_ok h
  · rw [(mapEB_ok_iff true false _ fs l).1 hl]
    rfl
  · rw [(mapEB_ok_iff true false _ fs l).2 hl]
    rfl

theorem fieldStep_ok {f : InField} {o : Option (String × PV)} (h : fieldStep get rec f = .ok o) :
    (∀ v, get f.name = some v → ∃ pv, rec f.type v = .ok pv) ∧ (get f.name = none → f.default = none → f.type.isNonNull = false) := by
  unfold fieldStep at h
  split at h
  · rename_i hg
    refine ⟨fun v hv => (nomatch hg.symm.trans hv), fun _ hd => ?_⟩
    simp only [hd] at h
    split at h
    · cases h
    · exact Bool.eq_false_iff.2 ‹_›
  · rename_i v hg
    refine ⟨fun v' hv' => ?_, fun hn => (nomatch hg.symm.trans hn)⟩
    cases hg.symm.trans hv'
    split at h
    · cases h
    · exact ⟨_, ‹_›⟩

theorem fieldStep_sound {f : InField} (hrec : ∀ v pv, get f.name = some v → rec f.type v = .ok pv → Conforms reg f.type pv)
    (hdef : ∀ d, f.default = some d → Conforms reg f.type d) {o : Option (String × PV)} (h : fieldStep get rec f = .ok o) :
    match o with
    | some p => p.1 = f.pyName ∧ Conforms reg f.type p.2
    | none => f.default = none ∧ f.type.isNonNull = false := by
  unfold fieldStep at h
  split at h
  · split at h
    · rename_i d hd
      cases h
      exact ⟨rfl, hdef d hd⟩
    · rename_i hd
      split at h <;> cases h
      exact ⟨hd, Bool.eq_false_iff.2 ‹_›⟩
  · rename_i v hv
    split at h <;> cases h
    exact ⟨rfl, hrec v _ hv ‹_›⟩

theorem fieldSteps_sound : ∀ {fs : List InField} {os : List (Option (String × PV))},
    (∀ f, f ∈ fs → ∀ v pv, get f.name = some v → rec f.type v = .ok pv → Conforms reg f.type pv) →
    (∀ f, f ∈ fs → ∀ d, f.default = some d → Conforms reg f.type d) →
    mapEB c (fieldStep get rec) fs = .ok os → ConformsFields reg fs os.reduceOption := by
  intro fs
  induction fs with
  | nil =>
    intro os _ _ h
    cases h
    exact .nil
  | cons f fs ih =>
    intro os hrec hdef h
    obtain ⟨o, os', ho, hos, rfl⟩ := mapEB_cons_ok h
    have ih' := ih (fun f' hf' => hrec f' (List.mem_cons_of_mem _ hf')) (fun f' hf' => hdef f' (List.mem_cons_of_mem _ hf')) hos
    have hs := fieldStep_sound (hrec f List.mem_cons_self) (hdef f List.mem_cons_self) ho
    cases o with
    | none => exact .absent hs.1 hs.2 ih'
    | some p =>
      obtain ⟨k, pv⟩ := p
      obtain ⟨rfl, hc⟩ := hs
      exact .present hc ih'

theorem fieldLoop_sound {α : Type} {reg : Reg} {get : String → Option α} {rec : Ty → α → R} :
    ∀ {fs : List InField} {r : List (String × PV)},
      (∀ f, f ∈ fs → ∀ v pv, get f.name = some v → rec f.type v = .ok pv → Conforms reg f.type pv) →
      (∀ f, f ∈ fs → ∀ d, f.default = some d → Conforms reg f.type d) →
      fieldLoop get rec fs = .ok r → ConformsFields reg fs r := by
  intro fs r hrec hdef h
  obtain ⟨l, hl, rfl⟩ := entries_ok (fieldLoop_eq get rec fs ▸ h)
  exact fieldSteps_sound hrec hdef hl

end fields

/-- what `coerce_value` (JSON values) and `value_from_ast` (literals) do NOT share -/
structure Src (α : Type) where
  isNull : α → Bool
  /-- an array / a list literal -/
  items : α → Option (List α)
  /-- an object / an object literal -/
  members : α → Option (List (String × α))
  /-- at a named type other than an input object: what the registry says of the name (a scalar, an enum, nothing) -/
  leaf : String → Option NamedT → α → R
  /-- the loops go on after a `CoercionError` -/
  collect : Bool
  /-- at `NonNull(NonNull(T))` -/
  nested : R
  /-- answered before the type is looked at (`_extract_variable`) -/
  early : Ty → α → Option R

/-- the body, on the stripped type -/
def gCore {α : Type} (S : Src α) (reg : Reg) (rec : Ty → α → R) (t : Ty) (v : α) : R :=
  if S.isNull v then .ok .none
  else match t with
    | .named n =>
      match reg.get? n with
      | some (.input fs) =>
        match S.members v with
        | none => .error .coercion
        | some kvs =>
          match entries (mapEB S.collect (fieldStep (fun k => lookupLast k kvs) rec) fs) with
          | .error e => .error e
          | .ok r => if allKnown fs kvs then .ok (.dict (dictOfAssignments r)) else .error .coercion
      | k => S.leaf n k v
    | .list t' =>
      match S.items v with
      | some l =>
        match mapEB S.collect (rec t') l with
        | .error e => .error e
        | .ok r => .ok (.list r)
      | none =>
        match rec t' v with
        | .error e => .error e
        | .ok x => .ok (.list [x])
    | .nonNull _ => S.nested

section list
variable {α : Type} {S : Src α} {reg : Reg} {rec : Ty → α → R} {t : Ty} {v : α}

theorem gCore_items {l : List α} (hv : S.isNull v = false) (hi : S.items v = some l) :
    gCore S reg rec (.list t) v = (mapEB S.collect (rec t) l).map .list := by
  simp only [gCore, hv, hi, Bool.false_eq_true, if_false]
  cases mapEB S.collect (rec t) l <;> rfl

theorem gCore_single (hv : S.isNull v = false) (hi : S.items v = none) :
    gCore S reg rec (.list t) v = (rec t v).map fun x => .list [x] := by
  simp only [gCore, hv, hi, Bool.false_eq_true, if_false]
  cases rec t v <;> rfl

end list

/-- one call: what is answered early, the non-null test, then the body on the stripped type -/
def gStep {α : Type} (S : Src α) (reg : Reg) (rec : Ty → α → R) (ty : Ty) (v : α) : R :=
  match S.early ty v with
  | some r => r
  | none => if ty.isNonNull && S.isNull v then .error .coercion else gCore S reg rec (stripNN ty) v

def gCoerce {α : Type} (S : Src α) (reg : Reg) : Nat → Ty → α → R
  | 0, _, _ => .error .fuel
  | fuel + 1, ty, v => gStep S reg (gCoerce S reg fuel) ty v

def leafJ (reg : Reg) (n : String) (k : Option NamedT) (v : JV) : R :=
  match k with
  | some .int => coerceInt v
  | some .float => coerceFloat v
  | some .string => parseString v
  | some .boolean => parseBool v
  | some .id => parseId v
  | some .custom => (reg.customParse n v).toR
  | some (.enum vs) =>
    match v with
    | .str s => getValue vs s
    | _ => .error .coercion
  | some (.input _) => .error .coercion
  | none => .error .internal

def srcJ (reg : Reg) : Src JV where
  isNull := JV.isNull
  items := fun v => match v with | .list l => some l | _ => none
  members := fun v => match v with | .obj kvs => some kvs | _ => none
  leaf := leafJ reg
  collect := true
  nested := .ok .none
  early := fun _ _ => none

def leafL (reg : Reg) (vars : Option (List (String × PV))) (n : String) (k : Option NamedT) (l : Lit) : R :=
  match k with
  | some (.enum vs) =>
    match l with
    | .enum name => getValue vs name
    | _ => .error .coercion
  | some .custom => if litAdmitted reg n l then (reg.customParseLiteral n (vars.getD []) l).toR else .error .coercion
  | some (.input _) => .error .coercion
  | some k => if isScalarLit l then parseLiteral k l else .error .coercion
  | none => .error .internal

def srcL (reg : Reg) (vars : Option (List (String × PV))) : Src Lit where
  isNull := Lit.isNull
  items := fun l => match l with | .list items => some items | _ => none
  members := fun l => match l with | .obj lkvs => some lkvs | _ => none
  leaf := leafL reg vars
  collect := false
  nested := .error .internal
  early := fun ty l => match l with | .var x => some (extractVariable vars ty x) | _ => none

theorem srcJ_items_none {reg : Reg} {v : JV} (h : ∀ l, v ≠ .list l) : (srcJ reg).items v = none := by
  cases v with
  | list l => exact absurd rfl (h l)
  | _ => rfl

theorem srcL_items_none {reg : Reg} {vars : Option (List (String × PV))} {l : Lit} (h : ∀ ls, l ≠ .list ls) :
    (srcL reg vars).items l = none := by
  cases l with
  | list ls => exact absurd rfl (h ls)
  | _ => rfl

theorem coerceCore_eq (reg : Reg) (rec : Ty → JV → R) (t : Ty) (v : JV) :
    coerceCore reg rec t v = gCore (srcJ reg) reg rec t v := by
  unfold coerceCore gCore
  refine ite_congr rfl (fun _ => rfl) (fun _ => ?_)
  cases t with
  | nonNull t' => rfl
  | list t' =>
    simp only [coerceListValue, mapEC_eq]
    cases v <;> rfl
  | named n =>
    dsimp only
    cases reg.get? n with
    | none => rfl
    | some k =>
      cases k with
      | input fs =>
        simp only [coerceInputObject, fieldLoopC_eq]
        cases v <;> rfl
      | _ => rfl

theorem coerceValue_eq (reg : Reg) : ∀ fuel, coerceValue reg fuel = gCoerce (srcJ reg) reg fuel
  | 0 => rfl
  | fuel + 1 => by
    funext ty v
    simp only [coerceValue, gCoerce, gStep, coerceCore_eq, coerceValue_eq reg fuel]
    rfl

theorem vfaCore_eq (reg : Reg) (vars : Option (List (String × PV))) (rec : Ty → Lit → R) (t : Ty) (l : Lit) :
    vfaCore vars reg rec t l = gCore (srcL reg vars) reg rec t l := by
  unfold vfaCore gCore
  refine ite_congr rfl (fun _ => rfl) (fun _ => ?_)
  cases t with
  | nonNull t' => rfl
  | list t' =>
    simp only [mapE_eq]
    cases l <;> rfl
  | named n =>
    dsimp only
    cases reg.get? n with
    | none => rfl
    | some k =>
      cases k with
      | input fs =>
        simp only [extractInputObject, fieldLoop_eq]
        cases l <;> rfl
      | _ => rfl

theorem valueFromAst_eq (reg : Reg) (vars : Option (List (String × PV))) :
    ∀ fuel, valueFromAst reg vars fuel = gCoerce (srcL reg vars) reg fuel
  | 0 => rfl
  | fuel + 1 => by
    funext ty l
    simp only [valueFromAst, gCoerce, gStep, vfaCore_eq, valueFromAst_eq reg vars fuel]
    cases l <;> rfl

/-- the recursive calls of one call on `v` at type `ty`: on the items of an array, or on the single value, at the item type; on
    each supplied field of an object at the field's type -/
inductive Call {α : Type} (S : Src α) (reg : Reg) : Ty → α → Ty → α → Prop
  | item {ty t : Ty} {v : α} {l : List α} {x : α} : stripNN ty = .list t → S.items v = some l → x ∈ l → Call S reg ty v t x
  | single {ty t : Ty} {v : α} : S.early ty v = none → stripNN ty = .list t → S.items v = none → Call S reg ty v t v
  | field {ty : Ty} {n : String} {fs : List InField} {f : InField} {v : α} {kvs : List (String × α)} {x : α} :
      stripNN ty = .named n → reg.get? n = some (.input fs) → f ∈ fs → S.members v = some kvs → lookupLast f.name kvs = some x →
      Call S reg ty v f.type x

theorem wf_strip {ty : Ty} (h : ty.wf = true) : (stripNN ty).isNonNull = false ∧ (stripNN ty).wf = true := by
  cases ty with
  | nonNull t => exact wf_nonNull h
  | named n => exact ⟨rfl, h⟩
  | list t => exact ⟨rfl, h⟩

theorem conforms_unstrip {reg : Reg} {ty : Ty} {pv : PV} (h : Conforms reg (stripNN ty) pv)
    (hn : ty.isNonNull = true → pv.isNone = false) : Conforms reg ty pv := by
  cases ty with
  | nonNull t => exact .nonNull (hn rfl) h
  | named n => exact h
  | list t => exact h

section sound
/- `Fit ty v`: what is known of the input `v` at a position of type `ty`, handed down along the recursive calls -/
variable {α : Type} {S : Src α} {reg : Reg} {Fit : Ty → α → Prop} (hreg : RegOK reg)
  (hleaf : ∀ {ty n v pv}, S.early ty v = none → S.isNull v = false → S.leaf n (reg.get? n) v = .ok pv →
    Conforms reg (.named n) pv ∧ pv.isNone = false)
  (hcall : ∀ {ty v t' x}, Fit ty v → Call S reg ty v t' x → Fit t' x)
  (hearly : ∀ {ty v pv}, Fit ty v → S.early ty v = some (.ok pv) → Conforms reg ty pv)
include hreg hleaf hcall hearly

theorem gStep_sound {rec : Ty → α → R} (hrec : ∀ ty v pv, ty.wf = true → Fit ty v → rec ty v = .ok pv → Conforms reg ty pv)
    {ty : Ty} {v : α} {pv : PV} (hwf : ty.wf = true) (hfit : Fit ty v) (h : gStep S reg rec ty v = .ok pv) : Conforms reg ty pv := by
  unfold gStep at h
  split at h
  · rename_i r he
    exact hearly hfit (h ▸ he)
  · rename_i he
    split at h
    · cases h
    · rename_i hc
      obtain ⟨hnn, hwf'⟩ := wf_strip hwf
      -- on the stripped type: the value conforms, and a non-null input never produces `None`
      suffices hs : Conforms reg (stripNN ty) pv ∧ (S.isNull v = false → pv.isNone = false) from
        conforms_unstrip hs.1 fun hty => hs.2 (by simpa [hty] using hc)
      unfold gCore at h
      split at h
      · rename_i hnull
        cases h
        exact ⟨.null hnn, fun h' => absurd hnull (by rw [h']; exact Bool.false_ne_true)⟩
      · rename_i hnull
        generalize hst : stripNN ty = t at h hnn hwf' ⊢
        cases t with
        | nonNull t' => cases hnn
        | list t' =>
          simp only at h
          split at h
          · rename_i l hl
            split at h
            · cases h
            · rename_i r hr
              cases h
              refine ⟨.list ?_, fun _ => rfl⟩
              exact mapEB_ok_forall (P := fun y => Conforms reg t' y) hr
                (fun x hx y hy => hrec t' x y (wf_list hwf') (hcall hfit (.item hst hl hx)) hy)
          · rename_i hl
            split at h
            · cases h
            · rename_i x hx
              cases h
              refine ⟨.list fun y hy => ?_, fun _ => rfl⟩
              cases List.mem_singleton.1 hy
              exact hrec t' _ _ (wf_list hwf') (hcall hfit (.single he hst hl)) hx
        | named n =>
          simp only at h
          split at h
          · rename_i fs hk
            split at h
            · cases h
            · rename_i kvs hkvs
              split at h
              · cases h
              · rename_i r hr
                split at h
                · cases h
                  obtain ⟨os, hos, rfl⟩ := entries_ok hr
                  have hcf := fieldSteps_sound (fun f hf x pv hget hpv =>
                    hrec f.type x pv (hreg.fieldWf n fs hk f hf) (hcall hfit (.field hst hk hf hkvs hget)) hpv)
                    (hreg.defaultsConform n fs hk) hos
                  rw [dictOfAssignments_conforms (hreg.pyNamesDistinct n fs hk) hcf]
                  exact ⟨.input hk hcf, fun _ => rfl⟩
                · cases h
          · have := hleaf he (Bool.eq_false_iff.2 hnull) h
            exact ⟨this.1, fun _ => this.2⟩

theorem gCoerce_sound : ∀ (fuel : Nat) (ty : Ty) (v : α) (pv : PV),
    ty.wf = true → Fit ty v → gCoerce S reg fuel ty v = .ok pv → Conforms reg ty pv := by
  intro fuel
  induction fuel with
  | zero => intro ty v pv _ _ h; cases h
  | succ fuel ih => exact fun ty v pv => gStep_sound hreg hleaf hcall hearly ih

end sound

end PyGql.Coerce
