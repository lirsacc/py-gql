/-
  All documents, matcher side: the token classes of the printed entries are matched by the view of the document
  without member descriptions.
-/
import PyGqlModel.Lemmas.PrintDocAll
namespace PyGql.PrintTokens
open PyGql PyGql.Ast PyGql.Parse PyGql.Spec PyGql.Print PyGql.PrintLex PyGql.PrintMatch PyGql.PrintString PyGql.Lex

theorem definitionV_shape (d : Definition) (h : isShortOp d = false) :
    ∃ loc desc k rest, definitionV (stripDef d) = .node loc (descV desc ++ kw k :: rest) := by
  cases d with
  | operation o =>
    simp only [isShortOp] at h
    exact ⟨_, none, _, _, by simp only [stripDef, definitionV, operationV, h]; rfl⟩
  | fragment _ | schemaDefinition _ _ _ | schemaExtension _ _ _ | scalarTypeExtension _ _ _
  | objectTypeExtension _ _ _ _ _ | interfaceTypeExtension _ _ _ _ | unionTypeExtension _ _ _ _
  | enumTypeExtension _ _ _ _ | inputObjectTypeExtension _ _ _ _ => exact ⟨_, none, _, _, rfl⟩
  | scalarTypeDefinition desc _ _ _ | objectTypeDefinition desc _ _ _ _ _ | interfaceTypeDefinition desc _ _ _ _
  | unionTypeDefinition desc _ _ _ _ | enumTypeDefinition desc _ _ _ _ | inputObjectTypeDefinition desc _ _ _ _
  | directiveDefinition desc _ _ _ _ => exact ⟨_, desc, _, _, rfl⟩

theorem yield_ne_nil_notShort (d : Definition) (h : isShortOp d = false) : (definitionV (stripDef d)).yield ≠ [] := by
  obtain ⟨loc, desc, k, rest, e⟩ := definitionV_shape d h
  simp [e, kw, Item.yield, Item.yieldAll, yieldAll_append]

theorem yield_head_notCurly (d : Definition) (h : isShortOp d = false) :
    ((definitionV (stripDef d)).yield.head?.map Prod.fst) ≠ some .curlyL := by
  obtain ⟨loc, desc, k, rest, e⟩ := definitionV_shape d h
  cases desc with
  | none => simp [e, descV, optV, kw, Item.yield, Item.yieldAll]
  | some s => cases hb : s.block <;> simp [e, descV, optV, stringV, Item.yield, Item.yieldAll, hb]

theorem check_operationV_query (fl : Flags) (hnl : fl.noLocation = true) (o : OperationDefinition)
    (hno : noLocOperation o = true) (hs : isShorthand o = true) (l q : Tok) (ts rest : List Tok)
    (hq : cls q = (.name, K.query)) (hy : classes ts = (selectionSetV o.selectionSet).yield) :
    (operationV o).check fl l (q :: ts ++ rest) = some (Item.lastOf l (q :: ts), rest) := by
  simp only [noLocOperation, Bool.and_eq_true, Option.isNone_iff_eq_none] at hno
  obtain ⟨⟨⟨⟨h1, _⟩, _⟩, _⟩, h5⟩ := hno
  have pss := plain_selectionSetV o.selectionSet h5
  have hss := check_of_yield fl hnl (selectionSetV o.selectionSet) q ts rest pss hy
  simp only [operationV, hs, ↓reduceIte]
  rw [check_node]
  refine ⟨q, ts ++ rest, by simp, ?_, by simp [h1, locOf, hnl]⟩
  rw [checkAll_cons]
  refine ⟨q, ts ++ rest, ?_, ?_⟩
  · rw [check_optTok]; left; exact ⟨q, by simp, hq, rfl⟩
  · rw [checkAll_cons]
    exact ⟨_, _, hss, by simp [Item.checkAll, lastOf_cons]⟩

theorem check_definition (fl : Flags) (hnl : fl.noLocation = true) (d : Definition) (hno : noLocDefinition d = true)
    (b : Bool) (hb : b = true → isShortOp d = true) (l : Tok) (ts rest : List Tok)
    (hy : classes ts = (if b then [(TokKind.name, K.query)] else []) ++ (definitionV (stripDef d)).yield)
    (hf : openEnd d = true → ((classes rest).head?.map Prod.fst) ≠ some .curlyL) :
    (definitionV (stripDef d)).check fl l (ts ++ rest) = some (Item.lastOf l ts, rest) := by
  cases b with
  | true =>
    have hsh := hb rfl
    cases d with
    | operation o =>
      simp only [isShortOp] at hsh
      simp only [noLocDefinition, isExecDef, ↓reduceIte, noLocExecDefinition] at hno
      simp only [↓reduceIte, List.singleton_append] at hy
      cases ts with
      | nil => simp [classes] at hy
      | cons q ts' =>
        simp only [classes, List.map_cons, List.cons.injEq] at hy
        have hyield : (definitionV (stripDef (.operation o))).yield = (selectionSetV o.selectionSet).yield := by
          simp [stripDef, definitionV, operationV, hsh, Item.yield, Item.yieldAll]
        rw [hyield] at hy
        simpa [stripDef, definitionV] using check_operationV_query fl hnl o hno hsh l q ts' rest hy.1 hy.2
    | _ => simp [isShortOp] at hsh
  | false =>
    simp only [Bool.false_eq_true, ↓reduceIte, List.nil_append] at hy
    by_cases hx : isExecDef d = true
    · have hno' : noLocExecDefinition d = true := by simpa [noLocDefinition, hx] using hno
      rw [stripDef_exec hx] at hy ⊢
      exact check_of_plainF fl hnl _ l ts rest (plainF_execDefinitionV d hno' _) hy
    · have hx' : isExecDef d = false := by simpa using hx
      have hno' : noLocTSDefinition d = true := by simpa [noLocDefinition, hx'] using hno
      exact check_of_plainF fl hnl _ l ts rest (plainF_tsDefinition d hno' _ hf) hy


theorem guardBit_short (c : Cfg) (d : Definition) (f : GFacts c d) (prev : Option Text)
    (h : guardBit prev (printDefinition c d) = true) : isShortOp d = true := by
  cases prev with
  | none => simp [guardBit] at h
  | some p =>
    simp only [guardBit, Bool.and_eq_true, beq_iff_eq] at h
    exact f.head.1 h.1

theorem openEnd_notShort (d : Definition) (h : openEnd d = true) : isShortOp d = false := by
  cases d <;> simp [openEnd] at h <;> rfl

theorem entryPairs_head (c : Cfg) (ds : List Definition) (hds : ∀ x ∈ ds, GFacts c x) (e' : Text) (hnb : NB e')
    (folRest : List TokClass) (hr : (folRest.head?.map Prod.fst) ≠ some .curlyL) :
    ((((entryPairs c (some e') ds).flatMap Prod.snd) ++ folRest).head?.map Prod.fst) ≠ some .curlyL := by
  cases ds with
  | nil => simpa [entryPairs] using hr
  | cons d2 ds' =>
    have f2 := hds d2 (by simp)
    simp only [entryPairs, List.flatMap_cons, List.append_assoc]
    by_cases hs : isShortOp d2 = true
    · have hb : guardBit (some e') (printDefinition c d2) = true := by
        simp only [guardBit, Bool.and_eq_true, beq_iff_eq, Bool.not_eq_true', beq_eq_false_iff_ne]
        exact ⟨f2.head.2 hs, hnb⟩
      simp [hb]
    · have hs' : isShortOp d2 = false := by simpa using hs
      have hb : guardBit (some e') (printDefinition c d2) = false := by
        cases hg : guardBit (some e') (printDefinition c d2) with
        | false => rfl
        | true => rw [guardBit_short c d2 f2 _ hg] at hs'; cases hs'
      have hne := yield_ne_nil_notShort d2 hs'
      have hh := yield_head_notCurly d2 hs'
      simp only [hb, Bool.false_eq_true, ↓reduceIte, List.nil_append]
      cases hy : (definitionV (stripDef d2)).yield with
      | nil => exact absurd hy hne
      | cons x y => rw [hy] at hh; simpa using hh

theorem checkAll_definitions (fl : Flags) (hnl : fl.noLocation = true) (c : Cfg) :
    ∀ (ds : List Definition) (prev : Option Text) (l : Tok) (ts rest : List Tok),
      (∀ x ∈ ds, GFacts c x) → (∀ x ∈ ds, noLocDefinition x = true) →
      classes ts = (entryPairs c prev ds).flatMap Prod.snd →
      (((classes rest).head?.map Prod.fst) ≠ some .curlyL) →
      Item.checkAll fl ((ds.map stripDef).map definitionV) l (ts ++ rest) = some (Item.lastOf l ts, rest)
  | [], _, l, ts, rest, _, _, hy, _ => by
    simp only [entryPairs, List.flatMap_nil, classes, List.map_eq_nil_iff] at hy
    subst hy
    simp [Item.checkAll, Item.lastOf]
  | d :: ds, prev, l, ts, rest, hf, hno, hy, hr => by
    have f := hf d (by simp)
    simp only [entryPairs, List.flatMap_cons, classes] at hy
    obtain ⟨t1, t2, rfl, h1, h2⟩ := List.map_eq_append_iff.1 hy
    have hb : guardBit prev (printDefinition c d) = true → isShortOp d = true := guardBit_short c d f prev
    have hfol : openEnd d = true → ((classes (t2 ++ rest)).head?.map Prod.fst) ≠ some .curlyL := by
      intro ho
      have hns := openEnd_notShort d ho
      have hb' : guardBit prev (printDefinition c d) = false := by
        cases hg : guardBit prev (printDefinition c d) with
        | false => rfl
        | true => rw [hb hg] at hns; cases hns
      have hcl : classes (t2 ++ rest) =
          (entryPairs c (some (printDefinition c d)) ds).flatMap Prod.snd ++ classes rest := by
        simp only [classes, List.map_append]
        rw [show List.map cls t2 = _ from h2]
        simp [hb']
      rw [hcl]
      exact entryPairs_head c ds (fun x hx => hf x (by simp [hx])) _ (f.nb ho) _ hr
    simp only [List.map_cons]
    rw [checkAll_cons]
    refine ⟨Item.lastOf l t1, t2 ++ rest, ?_, ?_⟩
    · rw [List.append_assoc]
      exact check_definition fl hnl d (hno d (by simp)) _ hb l t1 (t2 ++ rest) h1 hfol
    · rw [lastOf_append]
      exact checkAll_definitions fl hnl c ds _ _ t2 rest (fun x hx => hf x (by simp [hx])) (fun x hx => hno x (by simp [hx])) h2 hr

/-- no positions in a document (member descriptions ignored) -/
def noLocDocument (d : Document) : Bool := d.loc.isNone && d.definitions.all noLocDefinition

theorem matches_document (fl : Flags) (hnl : fl.noLocation = true) (c : Cfg) (d : Document)
    (hf : ∀ x ∈ d.definitions, GFacts c x) (hno : noLocDocument d = true)
    (sof eof : Tok) (hs : cls sof = (.sof, [])) (he : cls eof = (.eof, [])) (toks : List Tok)
    (hy : classes toks = (entryPairs c none d.definitions).flatMap Prod.snd) :
    matchesAll fl [documentV (stripMemberDescriptions d)] (sof :: toks ++ [eof]) = true := by
  simp only [noLocDocument, Bool.and_eq_true, Option.isNone_iff_eq_none] at hno
  have hdefs := checkAll_definitions fl hnl c d.definitions none sof toks [eof] hf
    (fun x hx => (List.all_eq_true.1 hno.2) x hx) hy (by simp [classes, he])
  have hall : Item.checkAll fl (p .sof :: ((d.definitions.map stripDef).map definitionV ++ [p .eof])) default
      (sof :: toks ++ [eof]) = some (eof, []) := by
    rw [checkAll_cons]
    refine ⟨sof, toks ++ [eof], ?_, ?_⟩
    · rw [check_tok]; exact ⟨sof, by simp, hs, rfl⟩
    · rw [checkAll_append]
      refine ⟨_, _, hdefs, ?_⟩
      rw [checkAll_cons]
      exact ⟨eof, [], by rw [check_tok]; exact ⟨eof, rfl, he, rfl⟩, by simp [Item.checkAll]⟩
  unfold matchesAll
  have : Item.checkAll fl [documentV (stripMemberDescriptions d)] default (sof :: toks ++ [eof]) = some (eof, []) := by
    rw [checkAll_cons]
    refine ⟨eof, [], ?_, by simp [Item.checkAll]⟩
    simp only [documentV, stripMemberDescriptions]
    rw [check_node]
    exact ⟨sof, toks ++ [eof], by simp, hall, by simp [hno.1, locOf, hnl]⟩
  rw [this]


theorem matches_execDocument (fl : Flags) (hnl : fl.noLocation = true) (c : Cfg) (hind : Blank c.indent) (d : Document)
    (hok : okExecDefinitions c.indent d.definitions) (hno : noLocExecDocument d = true)
    (sof eof : Tok) (hs : cls sof = (.sof, [])) (he : cls eof = (.eof, [])) (toks : List Tok)
    (hy : classes toks = Item.yieldAll (d.definitions.map definitionV)) :
    matchesAll fl [documentV d] (sof :: toks ++ [eof]) = true := by
  simp only [noLocExecDocument, Bool.and_eq_true, List.all_eq_true] at hno
  have hexec : ∀ x ∈ d.definitions, isExecDef x = true := fun x hx => by
    have := hno.2 x hx
    cases x <;> first | rfl | simp [noLocExecDefinition] at this
  have hstrip : stripMemberDescriptions d = d := by
    cases d with
    | mk defs loc =>
      simp only [stripMemberDescriptions]
      congr 1
      exact (List.map_congr_left fun x hx => stripDef_exec (hexec x hx)).trans (List.map_id' defs)
  have hnl' : noLocDocument d = true := by
    simp only [noLocDocument, Bool.and_eq_true, List.all_eq_true]
    exact ⟨hno.1, fun x hx => by simp only [noLocDefinition, hexec x hx, ↓reduceIte]; exact hno.2 x hx⟩
  rw [← entryPairs_exec c hind d.definitions none hok (by intro p e; cases e)] at hy
  have := matches_document fl hnl c d (fun x hx => gfacts_exec c hind x (okExecDefinition_mem hok x hx)) hnl' sof eof hs he toks hy
  rwa [hstrip] at this

theorem wfInputValue_strip (d : InputValueDefinition) : wfInputValue (stripIV d) = wfInputValue d := rfl
theorem wfFieldDefinition_strip (d : FieldDefinition) : wfFieldDefinition (stripFD d) = wfFieldDefinition d := by
  simp [wfFieldDefinition, stripFD, List.all_map, Function.comp_def, wfInputValue_strip]
theorem wfEnumValueDefinition_strip (d : EnumValueDefinition) : wfEnumValueDefinition (stripEV d) = wfEnumValueDefinition d := rfl

theorem wfDefinition_strip (fl : Flags) (d : Definition) : wfDefinition fl (stripDef d) = wfDefinition fl d := by
  cases d <;> simp [stripDef, wfDefinition, List.all_map, Function.comp_def, wfInputValue_strip, wfFieldDefinition_strip,
    wfEnumValueDefinition_strip]

theorem isTypeSystem_strip (d : Definition) : isTypeSystem (stripDef d) = isTypeSystem d := by
  cases d <;> rfl

theorem wfDocument_strip (fl : Flags) (d : Document) : wfDocument fl (stripMemberDescriptions d) = wfDocument fl d := by
  simp [wfDocument, stripMemberDescriptions, List.all_map, Function.comp_def, wfDefinition_strip, isTypeSystem_strip]

end PyGql.PrintTokens
