/-
  What reading a printed block string rests on: the lexer's scan of the body, `replace('"""', …)` commutes with
  `_indent`, and `parse_block_string` undoes the layout of the multi-line form and of the simple raw shapes.
-/
import PyGqlModel.Lemmas.PrintLayValues
import PyGqlModel.Lemmas.LexBlockEscape
import PyGqlModel.Lemmas.LexBlockString
namespace PyGql.PrintTokens
open PyGql PyGql.Lex PyGql.Spec PyGql.PrintLex PyGql.PrintString PyGql.BlockString

def LayoutText (b : Text) : Prop := ∀ c ∈ b, c = 10 ∨ c = 32 ∨ c = 9

theorem layoutText_lf_blank {P : Text} (hP : Blank P) : LayoutText (10 :: P) := by
  intro c hc; simp at hc
  rcases hc with rfl | hc
  · exact Or.inl rfl
  · rcases hP c hc with h | h <;> simp [h]

theorem blockChar_layout {c : Nat} (h : c = 10 ∨ c = 32 ∨ c = 9) : blockChar c = true := by
  rcases h with e | e | e <;> subst e <;> decide +kernel

theorem escape_layout_prefix (b x : Text) (hb : LayoutText b) : escapeTQAux 0 (b ++ x) = b ++ escapeTQAux 0 x :=
  escape_noQuote_prefix b x fun c hc => by rcases hb c hc with h | h | h <;> omega

theorem readBlockBody_close (n : Nat) (b r : Text) (hb : LayoutText b) :
    readBlockBody n 0 (b ++ tq ++ r) = .ok (b, r) := by
  induction b with
  | nil => exact readBlockBody_tq n r
  | cons c t ih =>
    have hc := hb c (by simp)
    have hne : c ≠ 34 := by rcases hc with h | h | h <;> omega
    have h92 : c ≠ 92 := by rcases hc with h | h | h <;> omega
    have := ih (fun y hy => hb y (by simp [hy]))
    simp only [List.cons_append, List.append_assoc] at this ⊢
    rw [readBlockBody_char n c _ hne h92 (blockChar_layout hc), this]; rfl

theorem next_tq (n : Nat) (s raw rest : Text) (h : readBlockBody n 0 s = .ok (raw, rest)) :
    next n (tq ++ s) = .ok (⟨.blockString, posAt n (tq ++ s), posAt n rest, parseBlockString raw⟩, some rest) := by
  have h1 : isIgnored 34 = false := by decide +kernel
  have h3 : isPrintable 34 = true := by decide +kernel
  have h4 : symbolKind 34 = none := by decide +kernel
  simp [tq, next, readOverWhitespace, h1, h3, h4, List.isPrefixOf, readBlockString, h, Except.map]

theorem next_block_layout (n : Nat) (Q P X r : Text) (hQ : Blank Q) (hP : Blank P)
    (hX : ∀ c ∈ X, blockChar c = true) :
    next n (tq ++ 10 :: (Q ++ (escapeTQAux 0 X ++ 10 :: (P ++ (tq ++ r))))) =
      .ok (⟨.blockString, posAt n (tq ++ 10 :: (Q ++ (escapeTQAux 0 X ++ 10 :: (P ++ (tq ++ r))))), posAt n r,
            parseBlockString (10 :: (Q ++ X) ++ 10 :: P)⟩, some r) := by
  have hlay := layoutText_lf_blank hQ
  have hv' : ∀ c ∈ (10 :: Q) ++ X, blockChar c = true := by
    intro c hc
    rcases List.mem_append.1 hc with h | h
    · exact blockChar_layout (hlay c h)
    · exact hX c h
  have hesc := readBlockBody_escape n (P ++ (tq ++ r)) ((10 :: Q) ++ X) 0 (Nat.zero_le _) hv'
  rw [escape_layout_prefix _ _ hlay] at hesc
  have hclose := readBlockBody_close n (10 :: P) r (layoutText_lf_blank hP)
  simp only [List.cons_append, List.append_assoc] at hesc hclose
  rw [hclose] at hesc
  exact next_tq n _ _ r (hesc.trans (by simp [Except.map]))


theorem leadQ_replaceLF (Q s : Text) : leadQ (replaceLF Q s) = leadQ s := by
  induction s with
  | nil => rfl
  | cons c t ih =>
    simp only [replaceLF]
    split
    · rename_i h; subst h; simp [leadQ]
    · by_cases hc : c = 34 <;> simp [leadQ, hc, ih]

theorem escape_replaceLF (Q : Text) (hQ : Blank Q) : ∀ (s : Text) (k : Nat), k ≤ leadQ s →
    replaceLF Q (escapeTQAux k s) = escapeTQAux k (replaceLF Q s)
  | [], k, _ => by cases k <;> rfl
  | c :: t, k + 1, hk => by
    obtain ⟨_, he, hk'⟩ := leadQ_succ hk
    cases he
    simp [escapeTQAux, replaceLF, escape_replaceLF Q hQ t k hk']
  | c :: t, 0, _ => by
    by_cases h10 : c = 10
    · subst h10
      have hp : ([34, 34, 34] : Text).isPrefixOf (10 :: t) = false := by simp [List.isPrefixOf]
      have := escape_layout_prefix (10 :: Q) (replaceLF Q t) (layoutText_lf_blank hQ)
      simp only [List.cons_append] at this
      simp only [escapeTQAux, hp, Bool.false_eq_true, ↓reduceIte, replaceLF, this,
        escape_replaceLF Q hQ t 0 (Nat.zero_le _)]
    · have hrep : replaceLF Q (c :: t) = c :: replaceLF Q t := by simp [replaceLF, h10]
      have hpre : ([34, 34, 34] : Text).isPrefixOf (c :: replaceLF Q t) = ([34, 34, 34] : Text).isPrefixOf (c :: t) :=
        tq_prefix_congr (by simp only [leadQ, leadQ_replaceLF])
      rw [hrep]
      by_cases hp : ([34, 34, 34] : Text).isPrefixOf (c :: t) = true
      · obtain ⟨_, he, h2⟩ := leadQ_succ ((tq_prefix_iff (c :: t)).mp hp)
        cases he
        simp only [escapeTQAux, hp, hpre, ↓reduceIte]
        simp [replaceLF, escape_replaceLF Q hQ t 2 h2]
      · have hp' : ([34, 34, 34] : Text).isPrefixOf (c :: t) = false := (Bool.not_eq_true _).mp hp
        simp only [escapeTQAux, hp', hpre, Bool.false_eq_true, ↓reduceIte]
        simp [replaceLF, h10, escape_replaceLF Q hQ t 0 (Nat.zero_le _)]


theorem mem_replaceLF {Q s : Text} {c : Nat} (h : c ∈ replaceLF Q s) : c ∈ s ∨ c ∈ Q := by
  induction s with
  | nil => cases h
  | cons a t ih =>
    simp only [replaceLF] at h
    split at h
    · rename_i ha; subst ha
      simp only [List.mem_cons, List.mem_append] at h
      rcases h with rfl | h | h
      · exact Or.inl (by simp)
      · exact Or.inr h
      · rcases ih h with h' | h'
        · exact Or.inl (by simp [h'])
        · exact Or.inr h'
    · simp only [List.mem_cons] at h
      rcases h with rfl | h
      · exact Or.inl (by simp)
      · rcases ih h with h' | h'
        · exact Or.inl (by simp [h'])
        · exact Or.inr h'


theorem isBlank_of_blank {P : Text} (h : Blank P) : IsBlank P := by
  intro c hc; rcases h c hc with e | e <;> subst e <;> decide +kernel

theorem isLine_noLF {l : Text} (h : IsLine l) : ∀ c ∈ l, c ≠ 10 := fun c hc => (h c hc).1

theorem isLine_blank_append {Q l : Text} (hQ : Blank Q) (hl : IsLine l) : IsLine (Q ++ l) := by
  intro c hc
  rcases List.mem_append.1 hc with h | h
  · rcases hQ c h with e | e <;> omega
  · exact hl c h

theorem indent_joinLF (Q : Text) : ∀ (l : Text) (ls : List Text), (∀ x ∈ l :: ls, IsLine x) →
    Q ++ replaceLF Q (joinLF (l :: ls)) = joinLF ((l :: ls).map (Q ++ ·))
  | l, [], h => by
    simp [joinLF, replaceLF_noLF Q l (isLine_noLF (h l (by simp)))]
  | l, l2 :: ls, h => by
    have ih := indent_joinLF Q l2 ls (fun x hx => h x (by simp [List.mem_cons] at hx ⊢; right; exact hx))
    rw [joinLF_cons_cons, replaceLF_append, replaceLF_noLF Q l (isLine_noLF (h l (by simp)))]
    simp only [replaceLF, ↓reduceIte, List.map_cons] at ih ⊢
    rw [joinLF_cons_cons, ← ih]
    simp

theorem indentStep_blank (acc : Option Nat) (P : Text) (hP : IsBlank P) : indentStep acc P = acc := by
  have : (lstrip P) = [] := by
    have := lstrip_isEmpty P
    rw [show onlyWhiteSpace P = true from List.all_eq_true.mpr hP] at this
    simpa using this
  simp [indentStep, this]

theorem map_drop_prefix (Q : Text) (L : List Text) : (L.map (Q ++ ·)).map (fun l => l.drop Q.length) = L := by
  induction L with
  | nil => rfl
  | cons a t ih => simp [ih]

theorem isLine_blank {P : Text} (hP : Blank P) : IsLine P := by
  intro c hc; rcases hP c hc with e | e <;> omega

/-- raw lines `l0`, then the lines `L` each under the layout prefix `Q`, then a blank last line `P`: the common
    indentation is `Q` (the first line does not count), so `parse_block_string` gives `l0 :: L` and what is left of `P`,
    without blank lines at either end -/
theorem parseBlockString_layout_first (Q P l0 : Text) (L : List Text) (hQ : Blank Q) (hP : Blank P) (hl0 : IsLine l0)
    (hlines : ∀ x ∈ L, IsLine x) (hmin : L.foldl indentStep none = some 0) :
    parseBlockString (joinLF (l0 :: (L.map (Q ++ ·) ++ [P]))) =
      joinLF (popTrailing (popLeading (l0 :: (L ++ [P.drop Q.length])))) := by
  have hsplit : splitLines (joinLF (l0 :: (L.map (Q ++ ·) ++ [P]))) = l0 :: (L.map (Q ++ ·) ++ [P]) := by
    apply splitLines_joinLF
    intro x hx
    simp only [List.mem_cons, List.mem_append, List.mem_map, List.not_mem_nil, or_false] at hx
    rcases hx with rfl | ⟨y, hy, rfl⟩ | rfl
    · exact hl0
    · exact isLine_blank_append hQ (hlines y hy)
    · exact isLine_blank hP
  have hci : BlockString.commonIndent (l0 :: (L.map (Q ++ ·) ++ [P])) = some Q.length := by
    unfold BlockString.commonIndent
    simp only [List.drop_succ_cons, List.drop_zero, List.foldl_append, List.foldl_cons, List.foldl_nil]
    have := foldl_indentStep_prefix Q (isBlank_of_blank hQ) L none
    simp only [Option.map_none] at this
    rw [this, hmin, indentStep_blank _ P (isBlank_of_blank hP)]; simp
  unfold parseBlockString
  rw [hsplit]
  simp only [hci, List.take_succ_cons, List.take_zero, List.drop_succ_cons, List.drop_zero, List.map_append, List.map_cons,
    List.map_nil, map_drop_prefix Q L, List.singleton_append]

theorem parseBlockString_layout (Q P l : Text) (ls : List Text) (hQ : Blank Q) (hP : Blank P)
    (hlines : ∀ x ∈ l :: ls, IsLine x) (hfirst : onlyWhiteSpace l = false)
    (hlast : onlyWhiteSpace ((l :: ls).getLast (by simp)) = false)
    (hmin : (l :: ls).foldl indentStep none = some 0) :
    parseBlockString (10 :: (Q ++ replaceLF Q (joinLF (l :: ls))) ++ 10 :: P) = joinLF (l :: ls) := by
  have hraw : 10 :: (Q ++ replaceLF Q (joinLF (l :: ls))) ++ 10 :: P =
      joinLF ([] :: ((l :: ls).map (Q ++ ·) ++ [P])) := by
    rw [indent_joinLF Q l ls hlines]
    have := joinLF_snoc (Q ++ l) (ls.map (Q ++ ·)) P
    simp only [List.map_cons, List.cons_append] at this ⊢
    rw [joinLF_cons_cons, this]; simp
  have hP' : IsBlank (List.drop Q.length P) := fun c hc => isBlank_of_blank hP c (List.mem_of_mem_drop hc)
  rw [hraw, parseBlockString_layout_first Q P [] (l :: ls) hQ hP (by intro c hc; cases hc) hlines hmin,
    popLeading_blank [] _ (by intro c hc; cases hc), popEnds_blank l ls _ hfirst hlast hP']

theorem parseBlockString_lines (l : Text) (ls : List Text) (h : ∀ x ∈ l :: ls, IsLine x)
    (hci : BlockString.commonIndent (l :: ls) = none) :
    parseBlockString (joinLF (l :: ls)) = joinLF (popTrailing (popLeading (l :: ls))) := by
  unfold parseBlockString
  rw [splitLines_joinLF l ls h]
  simp only [hci]

theorem parseBlockString_single (v : Text) (hline : IsLine v) (hnb : onlyWhiteSpace v = false) : parseBlockString v = v := by
  have := parseBlockString_lines v [] (by simpa using hline) (by simp [BlockString.commonIndent])
  simp only [joinLF] at this
  rw [this, popLeading_nonblank v [] hnb]
  have : popTrailing [v] = [v] := by simpa using popTrailing_nonblank [] v hnb
  rw [this]; rfl

theorem parseBlockString_single_lf (v P : Text) (hP : Blank P) (hline : IsLine v) (hnb : onlyWhiteSpace v = false) :
    parseBlockString (v ++ 10 :: P) = v := by
  have hPb := isBlank_of_blank hP
  have hj : v ++ 10 :: P = joinLF [v, P] := by simp [joinLF]
  have hci : BlockString.commonIndent [v, P] = none := by
    simp [BlockString.commonIndent, indentStep_blank none P hPb]
  rw [hj, parseBlockString_lines v [P] (by
    intro x hx; simp at hx; rcases hx with rfl | rfl
    · exact hline
    · exact isLine_blank hP) hci]
  rw [popLeading_nonblank v [P] hnb]
  have := popTrailing_blank [v] P hPb
  simp only [List.singleton_append] at this
  rw [this, (by simpa using popTrailing_nonblank [] v hnb : popTrailing [v] = [v])]
  simp [joinLF]

theorem parseBlockString_blank2 (P : Text) (hP : Blank P) : parseBlockString (10 :: (P ++ 10 :: P)) = [] := by
  have hPb := isBlank_of_blank hP
  have hj : 10 :: (P ++ 10 :: P) = joinLF [[], P, P] := by simp [joinLF]
  have hnil : IsBlank ([] : Text) := by intro c hc; simp at hc
  have hci : BlockString.commonIndent [[], P, P] = none := by
    simp [BlockString.commonIndent, indentStep_blank none P hPb]
  rw [hj, parseBlockString_lines [] [P, P] (by
    intro x hx; simp at hx; rcases hx with rfl | rfl
    · intro c hc; cases hc
    · exact isLine_blank hP) hci]
  rw [popLeading_blank [] _ hnil, popLeading_blank P _ hPb, popLeading_blank P _ hPb]
  simp [popLeading, popTrailing, joinLF]

end PyGql.PrintTokens
