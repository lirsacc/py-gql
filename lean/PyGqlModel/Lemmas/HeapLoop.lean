/-
  C14 — the loops of the heap model that thread a state through a list and collect what each round reports: `map_and_filter`, the
  `copy` loops of `Schema.clone`, the `_extend_*` / `_build_*` loops of `extend_schema`, the loops of `on_schema`. One rule
  (`Loop.run`) says what such a loop does in terms of one round; the element-wise list relations `All2` / `Sub2` it is stated
  with live here too.
-/

namespace PyGql.Heap.Own

inductive All2 {α β : Type} (R : α → β → Prop) : List α → List β → Prop
  | nil : All2 R [] []
  | cons {a : α} {b : β} {as : List α} {bs : List β} : R a b → All2 R as bs → All2 R (a :: as) (b :: bs)

theorem All2.imp {α β : Type} {R S : α → β → Prop} (hrs : ∀ a b, R a b → S a b) {l1 : List α} {l2 : List β} (h : All2 R l1 l2) : All2 S l1 l2 := by
  induction h with
  | nil => exact All2.nil
  | cons hd _ ih => exact All2.cons (hrs _ _ hd) ih

theorem All2.imp_mem {α β : Type} {R S : α → β → Prop} {l1 : List α} {l2 : List β} (h : All2 R l1 l2) :
    (∀ a, a ∈ l1 → ∀ b, R a b → S a b) → All2 S l1 l2 := by
  induction h with
  | nil => intro _; exact All2.nil
  | cons hd _ ih => intro hrs; exact All2.cons (hrs _ List.mem_cons_self _ hd) (ih fun a ha => hrs a (List.mem_cons_of_mem _ ha))

theorem All2.length_eq {α β : Type} {R : α → β → Prop} {l1 : List α} {l2 : List β} (h : All2 R l1 l2) : l1.length = l2.length := by
  induction h with
  | nil => rfl
  | cons _ _ ih => simp [ih]

theorem All2.map_eq {α β γ : Type} {f : β → γ} {g : α → γ} {l1 : List α} {l2 : List β} (h : All2 (fun a b => f b = g a) l1 l2) :
    l2.map f = l1.map g := by
  induction h with
  | nil => rfl
  | cons hd _ ih => rw [List.map_cons, List.map_cons, hd, ih]

theorem All2.exists_map {α β γ : Type} {g : γ → β} {P : α → γ → Prop} {l1 : List α} {l2 : List β}
    (h : All2 (fun a b => ∃ c, b = g c ∧ P a c) l1 l2) : ∃ cs, l2 = cs.map g ∧ All2 P l1 cs := by
  induction h with
  | nil => exact ⟨[], rfl, .nil⟩
  | cons hd _ ih =>
    obtain ⟨c, rfl, pc⟩ := hd
    obtain ⟨cs, rfl, pcs⟩ := ih
    exact ⟨c :: cs, rfl, .cons pc pcs⟩

theorem All2.mem_right {α β : Type} {R : α → β → Prop} {l1 : List α} {l2 : List β} (h : All2 R l1 l2) :
    ∀ y, y ∈ l2 → ∃ x, x ∈ l1 ∧ R x y := by
  induction h with
  | nil => intro y hy; simp at hy
  | cons hd _ ih =>
    intro y hy
    simp only [List.mem_cons] at hy
    rcases hy with rfl | hy
    · exact ⟨_, by simp, hd⟩
    · obtain ⟨x, hx, r⟩ := ih y hy
      exact ⟨x, by simp [hx], r⟩

/-- `bs` is, in order, the image of a sub-list of `as` under `R` (elements of `as` may be skipped; nothing is added) -/
inductive Sub2 {α β : Type} (R : α → β → Prop) : List α → List β → Prop
  | nil : Sub2 R [] []
  | skip {a : α} {as : List α} {bs : List β} : Sub2 R as bs → Sub2 R (a :: as) bs
  | cons {a : α} {b : β} {as : List α} {bs : List β} : R a b → Sub2 R as bs → Sub2 R (a :: as) (b :: bs)

theorem Sub2.imp {α β : Type} {R S : α → β → Prop} (hrs : ∀ a b, R a b → S a b) {l1 : List α} {l2 : List β} (h : Sub2 R l1 l2) : Sub2 S l1 l2 := by
  induction h with
  | nil => exact Sub2.nil
  | skip _ ih => exact Sub2.skip ih
  | cons hd _ ih => exact Sub2.cons (hrs _ _ hd) ih

theorem Sub2.nil_right {α β : Type} {R : α → β → Prop} : ∀ (l : List α), Sub2 R l []
  | [] => Sub2.nil
  | _ :: l => Sub2.skip (Sub2.nil_right l)

theorem Sub2.sublist_right {α β : Type} {R : α → β → Prop} {l1 : List α} {l2 l2' : List β} (h : Sub2 R l1 l2) (hs : List.Sublist l2' l2) :
    Sub2 R l1 l2' := by
  induction h generalizing l2' with
  | nil => cases hs; exact Sub2.nil
  | skip _ ih => exact Sub2.skip (ih hs)
  | @cons a b as bs hd _ ih =>
    cases hs with
    | cons _ hs' => exact Sub2.skip (ih hs')
    | cons_cons _ hs' => exact Sub2.cons hd (ih hs')

theorem Sub2.of_all {α β : Type} {R : α → β → Prop} : ∀ {l1 : List α} {l2 : List β}, l1.length = l2.length →
    (∀ i (h1 : i < l1.length) (h2 : i < l2.length), R l1[i] l2[i]) → Sub2 R l1 l2
  | [], [], _, _ => Sub2.nil
  | [], _ :: _, h, _ => by simp at h
  | _ :: _, [], h, _ => by simp at h
  | a :: as, b :: bs, h, hr =>
    Sub2.cons (hr 0 (by simp) (by simp)) (Sub2.of_all (by simpa using h) (fun i h1 h2 => hr (i + 1) (by simp; omega) (by simp; omega)))

theorem Sub2.comp {α β γ : Type} {R : α → β → Prop} {S : β → γ → Prop} {l1 : List α} {l2 : List β} (h12 : Sub2 R l1 l2) :
    ∀ {l3 : List γ}, Sub2 S l2 l3 → Sub2 (fun a c => ∃ b, R a b ∧ S b c) l1 l3 := by
  induction h12 with
  | nil => intro l3 h23; cases h23; exact .nil
  | skip _ ih => intro l3 h23; exact .skip (ih h23)
  | cons hd _ ih =>
    intro l3 h23
    cases h23 with
    | skip h' => exact .skip (ih h')
    | cons hd' h' => exact .cons ⟨_, hd, hd'⟩ (ih h')

theorem Sub2.mem_right {α β : Type} {R : α → β → Prop} {l1 : List α} {l2 : List β} (hs : Sub2 R l1 l2) :
    ∀ b, b ∈ l2 → ∃ a, a ∈ l1 ∧ R a b := by
  induction hs with
  | nil => intro b hb; cases hb
  | skip _ ih => intro b hb; obtain ⟨a, ha, r⟩ := ih b hb; exact ⟨a, List.mem_cons_of_mem _ ha, r⟩
  | cons hd _ ih =>
    intro b hb
    rcases List.mem_cons.1 hb with rfl | hb
    · exact ⟨_, List.mem_cons_self, hd⟩
    · obtain ⟨a, ha, r⟩ := ih b hb; exact ⟨a, List.mem_cons_of_mem _ ha, r⟩

theorem Sub2.imp_mem {α β : Type} {R S : α → β → Prop} {l1 : List α} {l2 : List β} (hs : Sub2 R l1 l2) :
    (∀ a, a ∈ l1 → ∀ b, R a b → S a b) → Sub2 S l1 l2 := by
  induction hs with
  | nil => intro _; exact Sub2.nil
  | skip _ ih => intro hrs; exact Sub2.skip (ih fun a ha => hrs a (List.mem_cons_of_mem _ ha))
  | cons hd _ ih => intro hrs; exact Sub2.cons (hrs _ List.mem_cons_self _ hd) (ih fun a ha => hrs a (List.mem_cons_of_mem _ ha))

theorem Sub2.refl {α : Type} {R : α → α → Prop} : ∀ (l : List α), (∀ a, a ∈ l → R a a) → Sub2 R l l
  | [], _ => Sub2.nil
  | a :: l, h => Sub2.cons (h a List.mem_cons_self) (Sub2.refl l fun x hx => h x (List.mem_cons_of_mem _ hx))

variable {σ α β : Type}

/-- `loop` goes through its list round by round: on `a :: as` it does what it does on `[a]` (one round, which reports at most one
    output), then what it does on `as` from the state reached -/
structure Loop (loop : σ → List α → σ × List β) : Prop where
  nil : ∀ s, loop s [] = (s, [])
  cons : ∀ s a as, loop s (a :: as) = ((loop (loop s [a]).1 as).1, (loop s [a]).2.head?.toList ++ (loop (loop s [a]).1 as).2)

theorem head?_toList (o : Option β) : o.toList.head? = o := by cases o <;> rfl

def Made (loop : σ → List α → σ × List β) (R : σ → σ → Prop) (s s' : σ) (a : α) (o : Option β) : Prop :=
  ∃ s1, R s s1 ∧ (loop s1 [a]).2.head? = o ∧ R (loop s1 [a]).1 s'

/-- for a preorder `R` on states that a round respects when started on an element satisfying `Pre` (a property `R` keeps): the
    final state is `R`-after the first, and the output is, in order, what the rounds reported -/
theorem Loop.run {loop : σ → List α → σ × List β} (lp : Loop loop) {R : σ → σ → Prop} {Pre : σ → α → Prop}
    (refl : ∀ s, R s s) (trans : ∀ {s1 s2 s3}, R s1 s2 → R s2 s3 → R s1 s3)
    (keep : ∀ {s s' a}, R s s' → Pre s a → Pre s' a) (round : ∀ s a, Pre s a → R s (loop s [a]).1) :
    ∀ (l : List α) (s : σ), (∀ a, a ∈ l → Pre s a) →
      R s (loop s l).1 ∧ ∃ os, All2 (Made loop R s (loop s l).1) l os ∧ (loop s l).2 = os.filterMap id := by
  intro l
  induction l with
  | nil => intro s _; rw [lp.nil]; exact ⟨refl s, [], .nil, rfl⟩
  | cons a as ih =>
    intro s hp
    have r0 := round s a (hp a List.mem_cons_self)
    obtain ⟨r, os, f, e⟩ := ih (loop s [a]).1 fun x hx => keep r0 (hp x (List.mem_cons_of_mem _ hx))
    rw [lp.cons]
    refine ⟨trans r0 r, (loop s [a]).2.head? :: os, .cons ⟨s, refl s, rfl, r⟩ (f.imp fun x o ⟨s1, r1, e1, r2⟩ => ⟨s1, trans r0 r1, e1, r2⟩), ?_⟩
    cases (loop s [a]).2.head? <;> simp [e]

theorem Loop.out {loop : σ → List α → σ × List β} (lp : Loop loop) {R : σ → σ → Prop} (refl : ∀ s, R s s)
    (trans : ∀ {s1 s2 s3}, R s1 s2 → R s2 s3 → R s1 s3) (round : ∀ s a, R s (loop s [a]).1) (l : List α) (s : σ) :
    R s (loop s l).1 ∧ ∃ os, All2 (Made loop R s (loop s l).1) l os ∧ (loop s l).2 = os.filterMap id :=
  lp.run (Pre := fun _ _ => True) refl trans (fun _ _ => trivial) (fun s a _ => round s a) l s fun _ _ => trivial

theorem Loop.rel {loop : σ → List α → σ × List β} (lp : Loop loop) {R : σ → σ → Prop} (refl : ∀ s, R s s)
    (trans : ∀ {s1 s2 s3}, R s1 s2 → R s2 s3 → R s1 s3) (round : ∀ s a, R s (loop s [a]).1) (l : List α) (s : σ) : R s (loop s l).1 :=
  (lp.out refl trans round l s).1

theorem mem_of_run {M : α → Option β → Prop} : ∀ {l : List α} {os : List (Option β)}, All2 M l os →
    ∀ b, b ∈ os.filterMap id → ∃ a, a ∈ l ∧ M a (some b) := by
  intro l os f
  induction f with
  | nil => exact nofun
  | @cons a o as os m _ ih =>
    intro b hb
    cases o with
    | none => obtain ⟨x, hx, r⟩ := ih b hb; exact ⟨x, List.mem_cons_of_mem _ hx, r⟩
    | some b0 =>
      rcases List.mem_cons.mp hb with rfl | hb
      · exact ⟨a, List.mem_cons_self, m⟩
      · obtain ⟨x, hx, r⟩ := ih b hb; exact ⟨x, List.mem_cons_of_mem _ hx, r⟩

theorem left_of_run {M : α → Option β → Prop} : ∀ {l : List α} {os : List (Option β)}, All2 M l os →
    ∀ a, a ∈ l → ∃ o, M a o ∧ ∀ b, o = some b → b ∈ os.filterMap id := by
  intro l os f
  induction f with
  | nil => exact nofun
  | @cons a o as os m _ ih =>
    intro x hx
    rcases List.mem_cons.mp hx with rfl | hx
    · exact ⟨o, m, fun b e => by simp [e]⟩
    · obtain ⟨o', m', k⟩ := ih x hx
      exact ⟨o', m', fun b e => by cases o <;> simp [k b e]⟩

theorem sub2_of_run {M : α → Option β → Prop} {S : α → β → Prop} : ∀ {l : List α} {os : List (Option β)},
    (∀ a, a ∈ l → ∀ b, M a (some b) → S a b) → All2 M l os → Sub2 S l (os.filterMap id) := by
  intro l os hS f
  induction f with
  | nil => exact .nil
  | @cons a o as os m _ ih =>
    have ih := ih fun x hx => hS x (List.mem_cons_of_mem _ hx)
    cases o with
    | none => exact .skip ih
    | some b => exact .cons (hS a List.mem_cons_self b m) ih

theorem all2_of_run {M : α → Option β → Prop} {S : α → β → Prop} : ∀ {l : List α} {os : List (Option β)},
    (∀ a, a ∈ l → ∀ o, M a o → ∃ b, o = some b ∧ S a b) → All2 M l os → All2 S l (os.filterMap id) := by
  intro l os hS f
  induction f with
  | nil => exact .nil
  | @cons a o as os m _ ih =>
    obtain ⟨b, rfl, sb⟩ := hS a List.mem_cons_self o m
    exact .cons sb (ih fun x hx => hS x (List.mem_cons_of_mem _ hx))

end PyGql.Heap.Own
