/-
  C05 — the rank computation `Spec.fragsAcyclic` is COMPLETE: a document whose fragment spreads all name defined fragments
  and whose spread graph has no cycle passes it. (Soundness, `fragsAcyclic → Ranked`, is `Props/C04_acyclic.lean`.) The
  bridge obtains the `fragsAcyclic` clause of `ValidDoc` from C06's `rule_no_fragment_cycles_iff` through it.
-/
import PyGqlModel.Spec.ValidDoc

set_option linter.unusedSimpArgs false

namespace PyGql.Spec
open PyGql PyGql.Exec

def rankStep (doc : Doc) (acc : List String) : List String :=
  acc ++ (doc.frags.filter fun f => !acc.contains f.name && (selsSpreads f.sels).all acc.contains).map (·.name)

theorem rankFrags_succ (doc : Doc) (n : Nat) (acc : List String) : rankFrags doc (n + 1) acc = rankFrags doc n (rankStep doc acc) := rfl

theorem rankFrags_succ' (doc : Doc) : ∀ (n : Nat) (acc : List String), rankFrags doc (n + 1) acc = rankStep doc (rankFrags doc n acc) := by
  intro n
  induction n with
  | zero => intro acc; rfl
  | succ n ih => intro acc; rw [rankFrags_succ, ih (rankStep doc acc)]; rfl

theorem rankStep_mono (doc : Doc) (acc : List String) (x : String) (h : x ∈ acc) : x ∈ rankStep doc acc := by
  unfold rankStep; simp [h]

def Edge (doc : Doc) (f g : String) : Prop := ∃ fr ∈ doc.frags, fr.name = f ∧ g ∈ selsSpreads fr.sels

inductive Reaches (doc : Doc) : String → String → Prop
  | step {a b} : Edge doc a b → Reaches doc a b
  | trans {a b c} : Reaches doc a b → Reaches doc b c → Reaches doc a c

def Deep (doc : Doc) : Nat → String → Prop
  | 0, _ => True
  | k + 1, f => ∃ g, Edge doc f g ∧ Deep doc k g

def Defined (doc : Doc) (f : String) : Prop := f ∈ doc.frags.map (·.name)

theorem ranked_of_not_deep (doc : Doc) (hk : ∀ f g, Edge doc f g → Defined doc g) :
    ∀ (k : Nat) (fr : Frag), fr ∈ doc.frags → ¬ Deep doc k fr.name → fr.name ∈ rankFrags doc k [] := by
  intro k
  induction k with
  | zero => intro fr _ h; exact absurd trivial h
  | succ k ih =>
    intro fr hfr hnd
    rw [rankFrags_succ']
    have hall : ∀ g ∈ selsSpreads fr.sels, g ∈ rankFrags doc k [] := by
      intro g hg
      have he : Edge doc fr.name g := ⟨fr, hfr, rfl, hg⟩
      have hd := hk _ _ he
      unfold Defined at hd
      obtain ⟨fr', hfr', hn⟩ := List.mem_map.mp hd
      have := ih fr' hfr' (by rw [hn]; intro hdeep; exact hnd ⟨g, he, hdeep⟩)
      rw [hn] at this
      exact this
    by_cases hin : fr.name ∈ rankFrags doc k []
    · exact rankStep_mono doc _ _ hin
    · unfold rankStep
      simp only [List.mem_append, List.mem_map, List.mem_filter]
      refine Or.inr ⟨fr, ⟨hfr, ?_⟩, rfl⟩
      simp only [Bool.and_eq_true, Bool.not_eq_true', List.all_eq_true]
      refine ⟨by simpa using hin, ?_⟩
      intro g hg
      simpa using hall g hg

theorem deep_bound (doc : Doc) (hk : ∀ f g, Edge doc f g → Defined doc g) (hac : ∀ f, ¬ Reaches doc f f) :
    ∀ (k : Nat) (f : String) (seen : List String), seen.Nodup → (∀ x ∈ seen, Defined doc x ∧ Reaches doc x f) → Defined doc f →
      Deep doc k f → seen.length + 1 + k ≤ doc.frags.length := by
  intro k
  induction k with
  | zero =>
    intro f seen hnd hs hf _
    have hnotin : f ∉ seen := fun h => hac f (hs f h).2
    have := List.Nodup.length_le_of_subset (l₁ := f :: seen) (l₂ := doc.frags.map (·.name)) (List.nodup_cons.mpr ⟨hnotin, hnd⟩)
      (by intro x hx; simp at hx; rcases hx with rfl | hx; exact hf; exact (hs x hx).1)
    simp at this
    omega
  | succ k ih =>
    intro f seen hnd hs hf hd
    obtain ⟨g, he, hdg⟩ := hd
    have hnotin : f ∉ seen := fun h => hac f (hs f h).2
    have := ih g (f :: seen) (List.nodup_cons.mpr ⟨hnotin, hnd⟩)
      (by
        intro x hx
        simp at hx
        rcases hx with rfl | hx
        · exact ⟨hf, .step he⟩
        · exact ⟨(hs x hx).1, .trans (hs x hx).2 (.step he)⟩)
      (hk _ _ he) hdg
    simp at this
    omega

theorem fragsAcyclic_of_noCycles (doc : Doc) (hk : ∀ f g, Edge doc f g → Defined doc g) (hac : ∀ f, ¬ Reaches doc f f) :
    fragsAcyclic doc = true := by
  unfold fragsAcyclic
  simp only [List.all_eq_true]
  intro fr hfr
  have hdef : Defined doc fr.name := List.mem_map.mpr ⟨fr, hfr, rfl⟩
  have hnd : ¬ Deep doc doc.frags.length fr.name := by
    intro hd
    have := deep_bound doc hk hac doc.frags.length fr.name [] (by simp) (by intro x hx; simp at hx) hdef hd
    simp at this
    omega
  have h1 := ranked_of_not_deep doc hk doc.frags.length fr hfr hnd
  have h2 : fr.name ∈ rankFrags doc (doc.frags.length + 1) [] := by
    rw [rankFrags_succ']; exact rankStep_mono doc _ _ h1
  simpa using h2

end PyGql.Spec
