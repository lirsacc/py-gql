/-
  C14 — closedness of the pieces of an extension result: what comes from the source, the members `extend_schema` builds, and
  the types and directives it creates from the extension document. `tnRef` / `rebuiltType` resolve a name that is not registered
  to address `0`; that every name the document uses is registered (`FieldsOK`, `ArgsOK`, `ExtUses`) is what excludes it here.
-/
import PyGqlModel.Lemmas.HeapExtMembers

/-!
  closedness of the part of an extension result that comes from the source: `extend_type_full` with the registry the rebuilt
  references were resolved through named (it IS the `types` of the result), and the rebuilt reference lists.
-/

namespace PyGql.Heap.Own
open PyGql.Heap

theorem repoint_base (N : List (String × Addr)) (t : TRef) :
    (repoint N t).base = ⟨t.base.name, (lookup N t.base.name).getD t.base.addr⟩ := by
  induction t with
  | named r => simp [repoint, TRef.base]
  | list t ih => simpa [repoint, TRef.base] using ih
  | nonNull t ih => simpa [repoint, TRef.base] using ih

theorem refOK_repoint (N : List (String × Addr)) (t : TRef) (hs : (lookup N t.base.name).isSome = true) :
    refOK N (repoint N t).base = true := by
  rw [repoint_base]
  obtain ⟨a, ha⟩ := Option.isSome_iff_exists.mp hs
  simp [refOK, ha]

theorem refOK_repointRefs (N : List (String × Addr)) (rs : List Ref) (hs : ∀ r, r ∈ rs → (lookup N r.name).isSome = true) :
    ∀ r, r ∈ repointRefs N rs → refOK N r = true := by
  intro r hr
  simp only [repointRefs, List.mem_map] at hr
  obtain ⟨r0, hr0, rfl⟩ := hr
  obtain ⟨a, ha⟩ := Option.isSome_iff_exists.mp (hs r0 hr0)
  simp [refOK, ha]

/-- `extend_type_full` with the registry named: `N` is the `types` of the result; the rebuilt object's interfaces / union members
    are the re-pointed source lists (+ the members the extension adds) -/
theorem extend_type_full_reg (cfg : Cfg) (hk : cfg.extKeepAll = true) (ext : Ext) (s : Schema) (h : Heap)
    (hnd : (s.types.map (·.1)).Nodup) (hnew : ∀ e, e ∈ ext.newTypes → e.1 ∉ s.types.map (·.1))
    (n : String) (a : Addr) (t : TypeO) (hm : (n, a) ∈ s.types) (hp : isProtected n = false) (ht : h.readType a = some t)
    (hread : MembersReadable h t) :
    ∃ a' t' kept added, lookup (extend cfg ext s h).2.types n = some a' ∧ (extend cfg ext s h).1.readType a' = some t' ∧
      TypeKept cfg t t' ∧ t'.fields = kept ++ added ∧
      MembersRel cfg (extend cfg ext s h).2.types h (extend cfg ext s h).1 h.size t kept ∧
      t'.ifaces = repointRefs (extend cfg ext s h).2.types t.ifaces ∧
      (∃ more, t'.members = repointRefs (extend cfg ext s h).2.types t.members ++ more) := by
  obtain ⟨na, hkk, hl, frk, hr, kf⟩ := extend_src_at cfg ext s h hnd hnew hm hp ht
  obtain ⟨kept, added, hfs, hrel, _⟩ := extendKids_spec cfg ext _ _ h hkk t frk hread
  rw [extend_types cfg ext s h hk]
  exact ⟨na, _, kept, added, hl, hr, rebuilt_kept cfg ext _ t _, hfs, (hrel.keep kf).weaken frk.1, rfl, ⟨_, rfl⟩⟩

theorem extend_registers_source_names (cfg : Cfg) (hk : cfg.extKeepAll = true) (ext : Ext) (s : Schema) (h : Heap)
    (hnd : (s.types.map (·.1)).Nodup) (n : String) (hn : n ∈ s.types.map (·.1)) :
    (lookup (extend cfg ext s h).2.types n).isSome = true := by
  obtain ⟨e, he, rfl⟩ := List.mem_map.mp hn
  rw [extend_types cfg ext s h hk]
  by_cases hp : isProtected e.1 = true
  · have hndp : ((s.types.filter fun e => isProtected e.1).map (·.1)).Nodup :=
      List.Nodup.sublist (List.Sublist.map _ List.filter_sublist) hnd
    rw [extN, lookup_append_left' (lookup_of_mem_nodup hndp (e := e) (List.mem_filter.mpr ⟨he, hp⟩))]
    rfl
  · obtain ⟨na, _, hl⟩ := extP_src ext s h (n := e.1) (a := e.2) he (by simpa using hp)
    rw [hl]
    rfl

/-- `extend_dir_full` with the registry named -/
theorem extend_dir_full_reg (cfg : Cfg) (hk : cfg.extKeepAll = true) (ext : Ext) (s : Schema) (h : Heap) (hndT : (s.types.map (·.1)).Nodup) (hnd : (s.dirs.map (·.1)).Nodup)
    (hread : ∀ e, e ∈ s.dirs → ∃ d, h.readDir e.2 = some d ∧ ∀ x, x ∈ d.args → ∃ g, h.readArg x = some g)
    (e : String × Addr) (he : e ∈ s.dirs) :
    ∃ a', lookup (extend cfg ext s h).2.dirs e.1 = some a' ∧
      DirRelB cfg (extend cfg ext s h).2.types h (extend cfg ext s h).1 h.size e (e.1, a') := by
  rw [extend_types cfg ext s h hk]
  exact extend_dir_rebuilt cfg ext s h hnd hread e he

end PyGql.Heap.Own

/-!
  closedness of what `extend_schema` BUILDS: members added by the extension document (`_build_field`, `_build_argument`,
  `_build_input_field` resolve names through the registry of the result) and the rebuilt members, in a form that is stable
  under everything `extend_schema` does afterwards (`ArgC` / `FieldC`: closed, and allocated at or after `lo`).
-/

namespace PyGql.Heap.Own
open PyGql.Heap

def tnBase : TN → String
  | .named n => n
  | .list t => tnBase t
  | .nonNull t => tnBase t

theorem tnRef_base (N : List (String × Addr)) (t : TN) : (tnRef N t).base = ⟨tnBase t, (lookup N (tnBase t)).getD 0⟩ := by
  induction t with
  | named n => simp [tnRef, TRef.base, tnBase]
  | list t ih => simpa [tnRef, TRef.base, tnBase] using ih
  | nonNull t ih => simpa [tnRef, TRef.base, tnBase] using ih

theorem refOK_tnRef (N : List (String × Addr)) (t : TN) (hs : (lookup N (tnBase t)).isSome = true) : refOK N (tnRef N t).base = true := by
  rw [tnRef_base]
  obtain ⟨a, ha⟩ := Option.isSome_iff_exists.mp hs
  simp [refOK, ha]

/-- argument / input field `c`: allocated at or after `lo`, its type reference is the registered object -/
def ArgC (lo : Nat) (hout : Heap) (N : List (String × Addr)) (c : Addr) : Prop :=
  lo ≤ c ∧ ∃ g, hout.readArg c = some g ∧ refOK N g.ty.base = true

/-- field `c`: allocated at or after `lo`, its type reference and those of its arguments are the registered objects -/
def FieldC (lo : Nat) (hout : Heap) (N : List (String × Addr)) (c : Addr) : Prop :=
  lo ≤ c ∧ ∃ f, hout.readField c = some f ∧ refOK N f.ty.base = true ∧ ∀ x, x ∈ f.args → ArgC lo hout N x

theorem ArgC.keep {lo : Nat} {h1 h2 : Heap} {N : List (String × Addr)} (kf : FrameX (· < lo) h1 h2) {c : Addr} (r : ArgC lo h1 N c) : ArgC lo h2 N c := by
  obtain ⟨hc, g, hg, hr⟩ := r
  exact ⟨hc, g, kf.readArg (Nat.not_lt.mpr hc) hg, hr⟩

theorem FieldC.keep {lo : Nat} {h1 h2 : Heap} {N : List (String × Addr)} (kf : FrameX (· < lo) h1 h2) {c : Addr} (r : FieldC lo h1 N c) : FieldC lo h2 N c := by
  obtain ⟨hc, f, hf, hr, ha⟩ := r
  exact ⟨hc, f, kf.readField (Nat.not_lt.mpr hc) hf, hr, fun x hx => (ha x hx).keep kf⟩

theorem ArgC.shape {lo : Nat} {h : Heap} {N : List (String × Addr)} {c : Addr} (r : ArgC lo h N c) : argShape (refOK N) h c = true := by
  obtain ⟨_, g, hg, hr⟩ := r
  simp [argShape, hg, hr]

theorem FieldC.shape {lo : Nat} {h : Heap} {N : List (String × Addr)} {c : Addr} (r : FieldC lo h N c) : fieldShape (refOK N) h c = true := by
  obtain ⟨_, f, hf, hr, ha⟩ := r
  simp only [fieldShape, hf, hr, Bool.true_and, List.all_eq_true]
  exact fun x hx => (ha x hx).shape

/-- `_build_argument` / `_build_input_field`: the arguments built are closed and lie at or after any bound `lo` below the heap -/
theorem buildArgs_closed_from (N : List (String × Addr)) (gs : List ExtArg) (h : Heap) (lo : Nat) (hlo : lo ≤ h.size)
    (hs : ∀ g, g ∈ gs → (lookup N (tnBase g.ty)).isSome = true) : ∀ c, c ∈ (buildArgs N h gs).2 → ArgC lo (buildArgs N h gs).1 N c := by
  obtain ⟨_, os, f, e⟩ := (buildArgs_loop N).out (FrameX.refl fun _ => False) FrameX.trans (fun h g => buildArgsX _ N [g] h) gs h
  intro c hc
  obtain ⟨g, hg, s1, r1, e1, r2⟩ := mem_of_run f c (e ▸ hc)
  cases e1
  exact ⟨Nat.le_trans hlo r1.1, _, r2.readArg id (readArg_alloc_new s1 _), refOK_tnRef N g.ty (hs g hg)⟩

/-- the same for `_extend_field(_build_field(…))` -/
theorem buildFields_closed_from (N : List (String × Addr)) (fs : List ExtField) (h : Heap) (lo : Nat) (hlo : lo ≤ h.size)
    (hs : ∀ f, f ∈ fs → (lookup N (tnBase f.ty)).isSome = true ∧ ∀ g, g ∈ f.args → (lookup N (tnBase g.ty)).isSome = true) :
    ∀ c, c ∈ (buildFields N h fs).2 → FieldC lo (buildFields N h fs).1 N c := by
  obtain ⟨_, os, f, e⟩ := (buildFields_loop N).out (FrameX.refl fun _ => False) FrameX.trans (fun h g => buildFieldsX _ N [g] h) fs h
  intro c hc
  obtain ⟨f0, hf0, s1, r1, e1, r2⟩ := mem_of_run f c (e ▸ hc)
  cases e1
  have hlo1 := Nat.le_trans hlo r1.1
  rw [buildFields_one] at r2
  exact ⟨Nat.le_trans hlo1 (buildArgsX (fun _ => False) N f0.args s1).1, _, r2.readField id (readField_alloc_new _ _),
    refOK_tnRef N f0.ty (hs f0 hf0).1,
    fun x hx => (buildArgs_closed_from N f0.args s1 lo hlo1 (hs f0 hf0).2 x hx).keep ((allocX _ _ _).trans (r2.mono nofun))⟩

/-- `_build_argument` / `_build_input_field` of the extension document -/
theorem buildArgs_closed (N : List (String × Addr)) : ∀ (gs : List ExtArg) (h : Heap),
    (∀ g, g ∈ gs → (lookup N (tnBase g.ty)).isSome = true) → ∀ c, c ∈ (buildArgs N h gs).2 → ArgC h.size (buildArgs N h gs).1 N c :=
  fun gs h => buildArgs_closed_from N gs h h.size (Nat.le_refl _)

/-- `_extend_field(_build_field(…))` of the extension document -/
theorem buildFields_closed (N : List (String × Addr)) : ∀ (fs : List ExtField) (h : Heap),
    (∀ f, f ∈ fs → (lookup N (tnBase f.ty)).isSome = true ∧ ∀ g, g ∈ f.args → (lookup N (tnBase g.ty)).isSome = true) →
    ∀ c, c ∈ (buildFields N h fs).2 → FieldC h.size (buildFields N h fs).1 N c :=
  fun fs h => buildFields_closed_from N fs h h.size (Nat.le_refl _)

theorem argRelB_C {k : Bool} {N : List (String × Addr)} {h0 hout : Heap} {lo : Nat} {chk0 : Ref → Bool}
    (hreg : ∀ r, chk0 r = true → (lookup N r.name).isSome = true) {a c : Addr} (ha : argShape chk0 h0 a = true)
    (r : ArgRelB k N h0 hout lo a c) : ArgC lo hout N c := by
  obtain ⟨hlo, g, g', e1, e2, _, _, _, hty, _⟩ := r
  simp only [argShape, e1] at ha
  exact ⟨hlo, g', e2, by rw [hty]; exact refOK_repoint N g.ty (hreg _ ha)⟩

theorem all2_argRelB_C {k : Bool} {N : List (String × Addr)} {h0 hout : Heap} {lo : Nat} {chk0 : Ref → Bool}
    (hreg : ∀ r, chk0 r = true → (lookup N r.name).isSome = true) {as cs : List Addr} (hs : ∀ a, a ∈ as → argShape chk0 h0 a = true)
    (r : All2 (ArgRelB k N h0 hout lo) as cs) : ∀ c, c ∈ cs → ArgC lo hout N c := by
  intro c hc
  obtain ⟨a, ha, rac⟩ := All2.mem_right r c hc
  exact argRelB_C hreg (hs a ha) rac

theorem fieldRelB_C {cfg : Cfg} {N : List (String × Addr)} {h0 hout : Heap} {lo : Nat} {chk0 : Ref → Bool}
    (hreg : ∀ r, chk0 r = true → (lookup N r.name).isSome = true) {a c : Addr} (ha : fieldShape chk0 h0 a = true)
    (r : FieldRelB cfg N h0 hout lo a c) : FieldC lo hout N c := by
  obtain ⟨hlo, f, f', e1, e2, ⟨_, _, _, _, hty, _, _⟩, hargs⟩ := r
  simp only [fieldShape, e1, Bool.and_eq_true, List.all_eq_true] at ha
  exact ⟨hlo, f', e2, by rw [hty]; exact refOK_repoint N f.ty (hreg _ ha.1), all2_argRelB_C hreg ha.2 hargs⟩

def KidsC (lo : Nat) (hout : Heap) (N : List (String × Addr)) (k : Kind) (kids : List Addr) : Prop :=
  match k with
  | .input => ∀ c, c ∈ kids → ArgC lo hout N c
  | .object | .interface => ∀ c, c ∈ kids → FieldC lo hout N c
  | _ => kids = []

theorem KidsC.keep {lo : Nat} {h1 h2 : Heap} {N : List (String × Addr)} (kf : FrameX (· < lo) h1 h2) {k : Kind} {kids : List Addr}
    (r : KidsC lo h1 N k kids) : KidsC lo h2 N k kids := by
  cases k <;> simp only [KidsC] at r ⊢
  · exact fun c hc => (r c hc).keep kf
  · exact fun c hc => (r c hc).keep kf
  · exact r
  · exact r
  · exact fun c hc => (r c hc).keep kf
  · exact r

theorem KidsC.membersOK {lo : Nat} {h : Heap} {N : List (String × Addr)} {t : TypeO} (r : KidsC lo h N t.kind t.fields) :
    typeMembersOK (refOK N) h t = true := by
  simp only [typeMembersOK]
  cases hk : t.kind <;> simp only [hk, KidsC, List.all_eq_true] at r ⊢
  · exact fun c hc => (r c hc).shape
  · exact fun c hc => (r c hc).shape
  · exact fun c hc => (r c hc).shape

/-- the names a list of field / argument definitions of the document uses are registered -/
def FieldsOK (N : List (String × Addr)) (fs : List ExtField) : Prop :=
  ∀ f, f ∈ fs → (lookup N (tnBase f.ty)).isSome = true ∧ ∀ g, g ∈ f.args → (lookup N (tnBase g.ty)).isSome = true
def ArgsOK (N : List (String × Addr)) (gs : List ExtArg) : Prop := ∀ g, g ∈ gs → (lookup N (tnBase g.ty)).isSome = true

/-- ALL members `_extend_*_type` passes to the constructor — rebuilt and added — are closed -/
theorem extendKids_closed (cfg : Cfg) (ext : Ext) (N : List (String × Addr)) (h0 h : Heap) (t : TypeO) {chk0 : Ref → Bool}
    (hreg : ∀ r, chk0 r = true → (lookup N r.name).isSome = true)
    (fr : FrameX (fun x => h0.size ≤ x) h0 h) (hsh : typeMembersOK chk0 h0 t = true)
    (hf : FieldsOK N (assocD ext.fields t.name)) (hi : ArgsOK N (assocD ext.inputFields t.name)) :
    KidsC h.size (extendKids cfg ext N N h t).1 N t.kind (extendKids cfg ext N N h t).2 := by
  -- object and interface types: the rebuilt fields, then the fields the document adds
  have fields : (∀ a, a ∈ t.fields → fieldShape chk0 h0 a = true) →
      ∀ c, c ∈ (extendFields cfg N h t.fields).2 ++ (buildFields N (extendFields cfg N h t.fields).1 (assocD ext.fields t.name)).2 →
        FieldC h.size (buildFields N (extendFields cfg N h t.fields).1 (assocD ext.fields t.name)).1 N c := by
    intro hsh c hc
    have hread : ∀ a, a ∈ t.fields → ∃ f, h0.readField a = some f ∧ ∀ x, x ∈ f.args → ∃ g, h0.readArg x = some g := by
      intro a ha
      obtain ⟨f, hf', _, hargs⟩ := (fieldShape_iff chk0 h0 a).mp (hsh a ha)
      exact ⟨f, hf', fun x hx => by obtain ⟨g, hg, _⟩ := (argShape_iff chk0 h0 x).mp (hargs x hx); exact ⟨g, hg⟩⟩
    rcases List.mem_append.mp hc with hc | hc
    · obtain ⟨a, ha, rac⟩ := All2.mem_right (extendFields_forall2 cfg N t.fields h0 h h.size (Nat.le_refl _) fr hread) c hc
      exact (fieldRelB_C hreg (hsh a ha) rac).keep ((buildFieldsX _ N _ _))
    · exact buildFields_closed_from N _ _ h.size (extendFieldsX (fun _ => False) cfg N t.fields h).1 hf c hc
  simp only [extendKids, KidsC, typeMembersOK] at hsh ⊢
  cases hk : t.kind <;> simp only [hk, List.all_eq_true] at hsh ⊢
  · exact fields hsh
  · exact fields hsh
  · intro c hc
    have hread : ∀ a, a ∈ t.fields → ∃ g, h0.readArg a = some g := by
      intro a ha
      obtain ⟨g, hg, _⟩ := (argShape_iff chk0 h0 a).mp (hsh a ha)
      exact ⟨g, hg⟩
    rcases List.mem_append.mp hc with hc | hc
    · obtain ⟨a, ha, rac⟩ := All2.mem_right (extendArgs_forall2 cfg.extInputPy N t.fields h0 h h.size (Nat.le_refl _) fr hread) c hc
      exact (argRelB_C hreg (hsh a ha) rac).keep ((buildArgsX _ N _ _))
    · exact buildArgs_closed_from N _ _ h.size (extendArgsX (fun _ => False) cfg.extInputPy N t.fields h).1 hi c hc

end PyGql.Heap.Own

namespace PyGql.Heap.Own
open PyGql.Heap

theorem allocPlaceholders_names : ∀ (ns : List String) (h : Heap), (allocPlaceholders h ns).2.map (·.1) = ns := by
  intro ns
  induction ns with
  | nil => intro h; rfl
  | cons n ns ih => intro h; simp only [allocPlaceholders, List.map_cons, ih]

theorem lookup_append_isSome_right {A B : List (String × Addr)} {n : String} (hB : (lookup B n).isSome = true) :
    (lookup (A ++ B) n).isSome = true := by
  simp only [lookup, List.find?_append, Option.isSome_map] at hB ⊢
  cases hA : A.find? (fun e => e.1 == n) with
  | some x => simp
  | none => simpa using hB

/-- a new object type of the document: written at its placeholder with closed members -/
theorem buildNewTypes_closed (N P : List (String × Addr)) (psize : Nat) (hP : ∀ n x, lookup P n = some x → x < psize)
    (hinj : ∀ n n' x, lookup P n = some x → lookup P n' = some x → n = n') :
    ∀ (l : List (String × List ExtField)) (h : Heap), psize ≤ h.size → (l.map (·.1)).Nodup → (∀ e, e ∈ l → FieldsOK N e.2) →
      ∀ n fs na, (n, fs) ∈ l → lookup P n = some na →
        ∃ t', (buildNewTypes N P h l).readType na = some t' ∧ t'.name = n ∧ t'.kind = Kind.object ∧ t'.ifaces = [] ∧
          KidsC psize (buildNewTypes N P h l) N Kind.object t'.fields := by
  intro l
  induction l with
  | nil => intro h _ _ _ n fs na hm; simp at hm
  | cons e rest ih =>
    intro h hsz hnd hok n fs na hm hl
    obtain ⟨n0, fs0⟩ := e
    simp only [List.map_cons, List.nodup_cons] at hnd
    have hB : FrameX (· < psize) h (buildFields N h fs0).1 := buildFieldsX _ N fs0 h
    simp only [List.mem_cons, Prod.mk.injEq] at hm
    simp only [buildNewTypes]
    rcases hm with ⟨rfl, rfl⟩ | hm
    · simp only [hl]
      have hna : na < (buildFields N h fs).1.size := Nat.lt_of_lt_of_le (hP n na hl) (Nat.le_trans hsz hB.1)
      have hnot : ¬ ∃ e, e ∈ rest ∧ lookup P e.1 = some na := by
        rintro ⟨e, he, hx⟩
        exact hnd.1 (List.mem_map.mpr ⟨e, he, hinj e.1 n na hx hl⟩)
      refine ⟨{ kind := .object, name := n, desc := none, fields := (buildFields N h fs).2, ifaces := [], members := [], dres := none, rtype := none, values := [], prot := false }, ?_, rfl, rfl, rfl, ?_⟩
      · -- written once: the placeholders of the remaining names are different
        rw [readType_frameX (buildNewTypesX N P rest _) (by rw [size_write]; exact hna) hnot]
        simp only [Heap.readType, read_write_self _ na _ hna]
      · -- the members were allocated after the placeholders; only placeholders are written from here on
        simp only [KidsC]
        intro c hc
        exact ((buildFields_closed_from N fs h psize hsz (hok (n, fs) (by simp)) c hc).keep
          ((writeX _ _ na _ (hP n na hl)))).keep
          (((buildNewTypesX N P rest _).mono (W' := fun x => x < psize) fun x ⟨e, _, hx⟩ => hP e.1 x hx))
    · have hsz' : psize ≤ (match lookup P n0 with
          | some na => (buildFields N h fs0).1.write na
            (.type { kind := .object, name := n0, desc := none, fields := (buildFields N h fs0).2, ifaces := [], members := [], dres := none, rtype := none, values := [], prot := false })
          | none => (buildFields N h fs0).1).size := by
        split
        · rw [size_write]; exact Nat.le_trans hsz hB.1
        · exact Nat.le_trans hsz hB.1
      exact ih _ hsz' hnd.2 (fun e he => hok e (by simp [he])) n fs na hm hl

/-- a new directive of the document: its (rebuilt) arguments are closed -/
theorem buildNewDirs_closed (cfg : Cfg) (N : List (String × Addr)) : ∀ (l : List (String × List ExtArg × List String)) (h : Heap),
    (∀ e, e ∈ l → ArgsOK N e.2.1) → ∀ e', e' ∈ (buildNewDirs cfg N h l).2 → dirShape (refOK N) (buildNewDirs cfg N h l).1 e'.2 = true := by
  intro l h hok e' he'
  obtain ⟨_, os, f, e⟩ := (buildNewDirs_loop cfg N).out (FrameX.refl fun _ => False) FrameX.trans (fun h e => buildNewDirsX _ cfg N [e] h) l h
  obtain ⟨e0, he0, s1, r1, e1, r2⟩ := mem_of_run f e' (e ▸ he')
  cases e1
  rw [buildNewDirs_one] at r2
  have hA := buildArgs_closed_from N e0.2.1 s1 0 (Nat.zero_le _) (hok e0 he0)
  have hall := extendArgs_forall2 cfg.extArgPy N (buildArgs N s1 e0.2.1).2 (buildArgs N s1 e0.2.1).1 (buildArgs N s1 e0.2.1).1 0 (Nat.zero_le _)
    (FrameX.refl _ _) fun a ha => let ⟨_, g, hg, _⟩ := hA a ha; ⟨g, hg⟩
  have hC := all2_argRelB_C (chk0 := refOK N) (fun r hr => by rw [refOK_lookup hr]; rfl) (fun a ha => (hA a ha).shape) hall
  -- the directive object, then the remaining directives: allocations only
  simp only [dirShape, r2.readDir id (readDir_alloc_new _ _), List.all_eq_true]
  exact fun c hc => (((hC c hc).keep (allocX _ _ _)).keep (r2.mono nofun)).shape

/-- the rebuilt directives of the source: closed, and stay so -/
theorem extendDirs_closed (cfg : Cfg) (N : List (String × Addr)) (l : List (String × Addr)) (h0 h : Heap) {chk0 : Ref → Bool}
    (hreg : ∀ r, chk0 r = true → (lookup N r.name).isSome = true)
    (fr : FrameX (fun x => h0.size ≤ x) h0 h) (hsh : ∀ e, e ∈ l → dirShape chk0 h0 e.2 = true) (hfin : Heap)
    (kf : FrameX (· < h.size) (extendDirs cfg N h l).1 hfin) :
    ∀ e', e' ∈ (extendDirs cfg N h l).2 → dirShape (refOK N) hfin e'.2 = true := by
  have hread : ∀ e, e ∈ l → ∃ d, h0.readDir e.2 = some d ∧ ∀ x, x ∈ d.args → ∃ g, h0.readArg x = some g := by
    intro e he
    have hs := hsh e he
    simp only [dirShape] at hs
    split at hs
    · rename_i d hd
      simp only [List.all_eq_true] at hs
      exact ⟨d, hd, fun x hx => by obtain ⟨g, hg, _⟩ := (argShape_iff _ h0 x).mp (hs x hx); exact ⟨g, hg⟩⟩
    · cases hs
  intro e' he'
  obtain ⟨e, he, rel⟩ := All2.mem_right (extendDirs_forall2 cfg N l h0 h h.size (Nat.le_refl _) fr hread) e' he'
  obtain ⟨_, hlo, d, d', r1, r2, _, _, _, hargs⟩ := rel.keep kf
  have hs := hsh e he
  simp only [dirShape, r1, List.all_eq_true] at hs
  simp only [dirShape, r2, List.all_eq_true]
  exact fun c hc => (all2_argRelB_C hreg hs hargs c hc).shape

end PyGql.Heap.Own
