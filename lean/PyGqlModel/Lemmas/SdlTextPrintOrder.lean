/-
  C12 text level — the order of `s.types` / `s.directives` does not matter: for a schema with pairwise distinct names
  `printOrder s` is in printing order, prints the same text as `s` and satisfies `printTextWF` exactly when `s` does.
-/
import PyGqlModel.Lemmas.SdlTextCongr
namespace PyGql.SdlText
open PyGql PyGql.Sdl PyGql.SdlPrint

def InPrintOrder (s : SchemaD) : Prop :=
  sortBy (·.name) s.directives = s.directives ∧ sortBy (·.name) s.types = s.types


theorem unique_of_wf (s : SchemaD) (h : namesUnique s = true) :
    (s.types.map (·.name)).Nodup ∧ (s.directives.map (·.name)).Nodup := by
  simpa [namesUnique] using h

theorem types_perm (s : SchemaD) : (printOrder s).types.Perm s.types := sortBy_perm (fun t : TypeD => t.name) s.types
theorem directives_perm (s : SchemaD) : (printOrder s).directives.Perm s.directives :=
  sortBy_perm (fun d : DirectiveD => d.name) s.directives

theorem inPrintOrder_printOrder (s : SchemaD) (h : namesUnique s = true) : InPrintOrder (printOrder s) := by
  obtain ⟨ht, hd⟩ := unique_of_wf s h
  exact ⟨sortBy_idem _ _ hd, sortBy_idem _ _ ht⟩

theorem findType_printOrder (s : SchemaD) (h : namesUnique s = true) (n : String) :
    (printOrder s).findType n = s.findType n :=
  find?_perm (fun t : TypeD => t.name) n s.types _ (types_perm s) (unique_of_wf s h).1

theorem sameLits_printOrder (s : SchemaD) (h : namesUnique s = true) : SameLits (printOrder s) s :=
  fun v ty => (valueLit_congr s (printOrder s) (findType_printOrder s h) valueFuel).1 v ty

theorem needsSchemaBlock_printOrder (s : SchemaD) : needsSchemaBlock (printOrder s) = needsSchemaBlock s := by
  first
    | rfl
    | (have hp : ∀ f : TypeD → Bool, (printOrder s).types.any f = s.types.any f := fun f => (types_perm s).any_eq
       have e5 : (printOrder s).query = s.query := rfl
       have e6 : (printOrder s).mutation = s.mutation := rfl
       have e7 : (printOrder s).subscription = s.subscription := rfl
       simp only [needsSchemaBlock, rootImplied, hp, e5, e6, e7])

theorem rootOps_printOrder (s : SchemaD) : rootOps (printOrder s) = rootOps s := rfl

theorem needsSchemaBlockA_printOrder (s : SchemaD) (c : SdlPrintTA.OptsA) (apps : Apps) :
    SdlPrintTA.needsSchemaBlockA (printOrder s) c apps = SdlPrintTA.needsSchemaBlockA s c apps := by
  simp only [SdlPrintTA.needsSchemaBlockA, needsSchemaBlock_printOrder]

theorem printSchemaTA_printOrder (c : SdlPrintTA.OptsA) (s : SchemaD) (apps : Apps) (h : namesUnique s = true) :
    SdlPrintTA.printSchemaTA c (printOrder s) apps = SdlPrintTA.printSchemaTA c s apps := by
  obtain ⟨ht, hd⟩ := unique_of_wf s h
  have hl := sameLits_printOrder s h
  have e1 : SdlPrintTA.printSchemaDefinition (printOrder s) c apps = SdlPrintTA.printSchemaDefinition s c apps := by
    have : SdlPrintT.rootLines c.base (printOrder s) = SdlPrintT.rootLines c.base s := rfl
    simp only [SdlPrintTA.printSchemaDefinition, needsSchemaBlockA_printOrder, this]
  have e2 : sortBy (·.name) (printOrder s).directives = sortBy (·.name) s.directives := sortBy_idem _ _ hd
  have e3 : sortBy (·.name) (printOrder s).types = sortBy (·.name) s.types := sortBy_idem _ _ ht
  simp only [SdlPrintTA.printSchemaTA, e1, e2, e3, printDirectiveDefinitionA_congr hl, printTypeA_congr hl]

theorem printSchemaT_printOrder (o : SdlPrintT.OptsT) (s : SchemaD) (h : namesUnique s = true) :
    SdlPrintT.printSchemaT o (printOrder s) = SdlPrintT.printSchemaT o s :=
  ((printSchemaTA_off (c := optsOff o) rfl _ []).symm.trans (printSchemaTA_printOrder _ s [] h)).trans
    (printSchemaTA_off rfl s [])

theorem namesUnique_printOrder (s : SchemaD) : namesUnique (printOrder s) = namesUnique s := by
  have h1 := (((types_perm s).map (fun t : TypeD => t.name)).nodup_iff)
  have h2 := (((directives_perm s).map (fun d : DirectiveD => d.name)).nodup_iff)
  simp only [namesUnique, h1, h2]

theorem printTextWF_printOrder (o : SdlPrintT.OptsT) (s : SchemaD) (h : namesUnique s = true) :
    printTextWF o (printOrder s) = printTextWF o s := by
  have hl := sameLits_printOrder s h
  have e1 : (printOrder s).types.all (typeOKT s o.indent.length) = s.types.all (typeOKT s o.indent.length) :=
    (types_perm s).all_eq
  have e2 : (printOrder s).directives.all (directiveOKT s o.indent.length) = s.directives.all (directiveOKT s o.indent.length) :=
    (directives_perm s).all_eq
  have e3 : (printOrder s).types.isEmpty = s.types.isEmpty := (types_perm s).isEmpty_eq
  have e4 : (printOrder s).directives.isEmpty = s.directives.isEmpty := (directives_perm s).isEmpty_eq
  have e5 : (printOrder s).query = s.query := rfl
  have e6 : (printOrder s).mutation = s.mutation := rfl
  have e7 : (printOrder s).subscription = s.subscription := rfl
  simp only [printTextWF, typeOKT_congr hl, directiveOKT_congr hl, e1, e2, e3, e4, e5, e6, e7, needsSchemaBlock_printOrder,
    rootOps_printOrder, namesUnique_printOrder]

theorem namesUnique_of_wf (o : SdlPrintT.OptsT) (s : SchemaD) (h : printTextWF o s = true) : namesUnique s = true := by
  simp only [printTextWF, Bool.and_eq_true] at h
  exact h.2

theorem printTextWFA_printOrder (c : SdlPrintTA.OptsA) (s : SchemaD) (apps : Apps) (h : namesUnique s = true) :
    SdlPrintTA.printTextWFA c (printOrder s) apps = SdlPrintTA.printTextWFA c s apps := by
  have e1 : (printOrder s).types.all (SdlPrintTA.typeAppsOK c apps) = s.types.all (SdlPrintTA.typeAppsOK c apps) :=
    (types_perm s).all_eq
  have e2 : (printOrder s).directives.all (SdlPrintTA.directiveAppsOK c apps) = s.directives.all (SdlPrintTA.directiveAppsOK c apps) :=
    (directives_perm s).all_eq
  simp only [SdlPrintTA.printTextWFA, printTextWF_printOrder c.base s h, e1, e2, needsSchemaBlockA_printOrder, rootOps_printOrder]

theorem namesUnique_of_wfA (c : SdlPrintTA.OptsA) (s : SchemaD) (apps : Apps) (h : SdlPrintTA.printTextWFA c s apps = true) :
    namesUnique s = true := by
  simp only [SdlPrintTA.printTextWFA, Bool.and_eq_true] at h
  exact namesUnique_of_wf c.base s h.1.1.1.1

/-- `printTextWFA` is `printTextWF` of the schema together with conditions on the applications alone, so a schema whose
    lexical predicate is known needs only the second part evaluated -/
theorem printTextWFA_of (c : SdlPrintTA.OptsA) (s : SchemaD) (apps : Apps) (hwf : printTextWF c.base s = true)
    (ha : (SdlPrintTA.appsOKAt c apps "" && s.types.all (SdlPrintTA.typeAppsOK c apps) &&
      s.directives.all (SdlPrintTA.directiveAppsOK c apps) &&
      (!SdlPrintTA.needsSchemaBlockA s c apps || !(rootOps s).isEmpty)) = true) :
    SdlPrintTA.printTextWFA c s apps = true := by
  simp only [Bool.and_eq_true] at ha
  simp only [SdlPrintTA.printTextWFA, Bool.and_eq_true]
  exact ⟨⟨⟨⟨hwf, ha.1.1.1⟩, ha.1.1.2⟩, ha.1.2⟩, ha.2⟩

end PyGql.SdlText
