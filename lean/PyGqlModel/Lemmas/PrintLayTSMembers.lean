/-
  `Lay` for the members of type-system definitions: input values, argument definitions, field definitions, enum values,
  operation types.  The printed text lexes to the yield of the view of the tree WITHOUT member descriptions (R4).
-/
import PyGqlModel.Lemmas.PrintLayGen
import PyGqlModel.Lemmas.PrintStrip
namespace PyGql.PrintTokens
open PyGql PyGql.Ast PyGql.Parse PyGql.Spec PyGql.Print PyGql.PrintLex PyGql.PrintMatch PyGql.PrintString PyGql.Lex

def okInputValue (ind : Text) (d : InputValueDefinition) : Prop :=
  Spec.Lexical.isName d.name.value = true ∧ lexOkType d.type = true ∧
  (match d.defaultValue with | some v => okValue ind v | none => True) ∧ okDirectives ind d.directives

theorem lay_inputValue (c : Cfg) (d : InputValueDefinition) (h : okInputValue c.indent d) :
    Lay (printInputValueDefinition c d) (inputValueV (stripIV d)).yield ∧ printInputValueDefinition c d ≠ [] := by
  obtain ⟨hn, ht, hv, hd⟩ := h
  have e : printInputValueDefinition c d = (d.name.value ++ 58 :: 32 :: (printType d.type ++
      wrap [32, 61, 32] (printOptValue c d.defaultValue))) ++ wrapS (printDirectives c d.directives) := by
    simp [printInputValueDefinition, join_nosep_cons, join_nosep_nil, wrap_space_eq]
  rw [e]
  refine ⟨?_, by simp [isName_ne_nil hn]⟩
  simpa [inputValueV, stripIV, descV, optV, Item.yield, Item.yieldAll, yieldAll_append, List.append_assoc] using
    lay_append (lay_typed c (lay_nameLP hn) ht hv) (lay_wrapS (lay_directives c d.directives hd)) (delimHead_wrapS _)

def okInputValues (ind : Text) (ds : List InputValueDefinition) : Prop := ∀ d ∈ ds, okInputValue ind d

/-- `print_argument_definitions`: both layouts (one line / one argument per line) lex to `( InputValueDefinition+ )` -/
theorem lay_argumentDefinitions (c : Cfg) (hind : Blank c.indent) (ds : List InputValueDefinition)
    (h : okInputValues c.indent ds) :
    Lay (printArgumentDefinitions c ds) (Item.yieldAll (groupV .parenL .parenR inputValueV (ds.map stripIV))) ∧
    DelimHead (printArgumentDefinitions c ds) := by
  have hl : ∀ d ∈ ds, Lay (printInputValueDefinition c d) ((inputValueV ∘ stripIV) d).yield := fun d hd => (lay_inputValue c d (h d hd)).1
  have hne : ∀ d ∈ ds, printInputValueDefinition c d ≠ [] := fun d hd => (lay_inputValue c d (h d hd)).2
  have hy : Item.yieldAll (groupV .parenL .parenR inputValueV (ds.map stripIV)) =
      Item.yieldAll (groupV .parenL .parenR (inputValueV ∘ stripIV) ds) := by
    simp [groupV, List.map_map]
  rw [hy]
  unfold printArgumentDefinitions
  simp only
  split
  · obtain ⟨l, d, _⟩ := lay_group _ _ (o := 40) (c := 41) (ko := .parenL) (kc := .parenR) (by decide +kernel) (by decide +kernel) ds hl hne
    exact ⟨l, d⟩
  · -- one argument per line, indented
    cases ds with
    | nil => exact ⟨by simpa [join, joinSep, indentText, wrap, groupV, Item.yieldAll] using lay_nil,
        by simpa [join, joinSep, indentText, wrap] using delimHead_nil⟩
    | cons d ds =>
      have hm : ∀ x ∈ (d :: ds).map (printInputValueDefinition c), x ≠ [] := List.forall_mem_map.2 hne
      have l1 := lay_indentText hind (lay_joinMap _ _ [10] sep_lf (fun b => delimHead_cons (by decide +kernel)) (d :: ds) hl)
      rw [join_eq_joinSep _ _ hm, wrap_of_ne _ _ _ (indentText_ne _ c.indent (joinSep_ne_nil [10] _ (by simp) hm))]
      exact ⟨by simpa [groupV, Item.yieldAll, yieldAll_append, Item.yield] using
          lay_parenL (lay_lf_cons (lay_append l1 (lay_lf_cons (lay_parenR lay_nil)) (delimHead_cons (by decide +kernel)))),
        delimHead_cons (by decide +kernel)⟩

def okFieldDef (ind : Text) (d : FieldDefinition) : Prop :=
  Spec.Lexical.isName d.name.value = true ∧ okInputValues ind d.arguments ∧ lexOkType d.type = true ∧
  okDirectives ind d.directives

theorem printFieldDefinition_eq (c : Cfg) (d : FieldDefinition) :
    printFieldDefinition c d = d.name.value ++ (printArgumentDefinitions c d.arguments ++
      58 :: 32 :: (printType d.type ++ wrapS (printDirectives c d.directives))) := by
  unfold printFieldDefinition
  simp only [join_nosep_cons, join_nosep_nil, wrap_space_eq]
  simp

theorem lay_fieldDef (c : Cfg) (hind : Blank c.indent) (d : FieldDefinition) (h : okFieldDef c.indent d) :
    Lay (printFieldDefinition c d) (fieldDefinitionV (stripFD d)).yield ∧ printFieldDefinition c d ≠ [] := by
  obtain ⟨hn, ha, ht, hd⟩ := h
  obtain ⟨largs, dargs⟩ := lay_argumentDefinitions c hind d.arguments ha
  have l1 := lay_colon (lay_space_cons (lay_append (lay_type d.type ht) (lay_wrapS (lay_directives c d.directives hd))
    (delimHead_wrapS _)))
  have h1 := lay_append (lay_name hn) (lay_append largs l1 (delimHead_cons (by decide +kernel)))
    (delimHead_append dargs (delimHead_cons (by decide +kernel)))
  rw [printFieldDefinition_eq]
  refine ⟨?_, by simp [isName_ne_nil hn]⟩
  simpa [fieldDefinitionV, stripFD, descV, optV, nameV, Item.yield, Item.yieldAll, yieldAll_append, List.append_assoc] using h1

def okEnumValue (ind : Text) (d : EnumValueDefinition) : Prop :=
  Spec.Lexical.isName d.name.value = true ∧ okDirectives ind d.directives

theorem lay_enumValue (c : Cfg) (d : EnumValueDefinition) (h : okEnumValue c.indent d) :
    Lay (printEnumValueDefinition c d) (enumValueDefinitionV (stripEV d)).yield ∧ printEnumValueDefinition c d ≠ [] := by
  have hnn := isName_ne_nil h.1
  have e : printEnumValueDefinition c d = d.name.value ++ wrapS (printDirectives c d.directives) := by
    unfold printEnumValueDefinition; rw [join_cons_ne _ _ _ hnn]; simp [tailJoin, wrapS]
  rw [e]
  refine ⟨?_, by simp [hnn]⟩
  have h1 := lay_append (lay_name h.1) (lay_wrapS (lay_directives c d.directives h.2)) (delimHead_wrapS _)
  simpa [enumValueDefinitionV, stripEV, descV, optV, nameV, Item.yield, Item.yieldAll, yieldAll_append] using h1

def okOperationType (d : OperationTypeDefinition) : Prop :=
  (d.operation = K.query ∨ d.operation = K.mutation ∨ d.operation = K.subscription) ∧
  Spec.Lexical.isName d.type.name.value = true

theorem lay_operationType (d : OperationTypeDefinition) (h : okOperationType d) :
    Lay (printOperationTypeDefinition d) (operationTypeV d).yield ∧ printOperationTypeDefinition d ≠ [] := by
  have hop := operation_isName h.1
  have h1 := lay_append (lay_name hop) (lay_colon (lay_space_cons (lay_name h.2))) (delimHead_cons (by decide +kernel))
  refine ⟨?_, by simp [printOperationTypeDefinition]⟩
  simpa [printOperationTypeDefinition, printNamedType, operationTypeV, namedTypeV, nameV, kw, Item.yield, Item.yieldAll] using h1

end PyGql.PrintTokens
