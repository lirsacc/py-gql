/-
  `OverlappingFieldsCanBeMergedChecker`: the rule run alone over a document satisfying the clause adds no
  error (typed relational walk: every selection set is entered with the parent type of its static context).
  What every walk of the rule alone needs is here: it never raises `SkipNode` and does nothing on leaving
  (`visitNode_ov`), acts at selection sets only (`ov_enter_sel`, `ov_enter_other`), and starts below the document node
  with the fragment table in its search context (`visitDocument_ov`).
-/
import PyGqlModel.Lemmas.ValidateOverlapSearch
import PyGqlModel.Lemmas.ValidateTyped
import PyGqlModel.Lemmas.ValidateTypedFst
import PyGqlModel.Lemmas.ValidateCtx
namespace PyGql.Validate
open PyGql PyGql.Validate.Spec

theorem typedNodes_fst (s : SchemaD) (d : Doc) : (typedNodes s d).map (·.1) = d.defs.flatMap defNodes := by
  unfold typedNodes
  induction d.defs with
  | nil => rfl
  | cons x xs ih => rw [List.flatMap_cons, List.flatMap_cons, List.map_append, ih, tnDef_fst]

theorem selSet_of_typed {s : SchemaD} {d : Doc} {i : Nat} {sels : List Sel} {v : View}
    (h : (Node.selectionSet i sels, v) ∈ typedNodes s d) : SelSet d i sels := by
  unfold SelSet nodes
  apply List.mem_cons_of_mem
  rw [← typedNodes_fst s d]
  exact List.mem_map.mpr ⟨_, h, rfl⟩

theorem selSet_typed {s : SchemaD} {d : Doc} {i : Nat} {sels : List Sel} (h : SelSet d i sels) :
    ∃ v, (Node.selectionSet i sels, v) ∈ typedNodes s d := by
  have : Node.selectionSet i sels ∈ d.defs.flatMap defNodes := by
    simpa [SelSet, nodes] using h
  rw [← typedNodes_fst s d] at this
  obtain ⟨⟨n, v⟩, hq, rfl⟩ := List.mem_map.mp this
  exact ⟨v, hq⟩

/-- at a selection set the visitor shows the parent type of the static context, an admissible one -/
theorem ov_sel_adm {s : SchemaD} {d : Doc} {i : Nat} {sels : List Sel} {t : TI}
    (hmem : (Node.selectionSet i sels, View.enter s (.selectionSet i sels) t.view) ∈ typedNodes s d) :
    (tiEnter s (.selectionSet i sels) t).parentType = (View.enter s (.selectionSet i sels) t.view).parent ∧
    Adm s d i (tiEnter s (.selectionSet i sels) t).parentType := by
  have hpar : (tiEnter s (.selectionSet i sels) t).parentType = (View.enter s (.selectionSet i sels) t.view).parent := by
    rw [← view_enter]; rfl
  exact ⟨hpar, hpar ▸ Adm.walk hmem⟩

theorem ov_noskip (s : SchemaD) (fx : Fixes) (n : Node) (ti : TI) (rs : RS) :
    (enterRule s fx .overlappingFieldsCanBeMerged n ti rs).2 = false := by
  cases n <;> rfl

/-- the state in which the rule, run alone, visits what lies below `n` -/
def ovEntered (s : SchemaD) (fx : Fixes) (n : Node) (st : St) : St :=
  { ti := tiEnter s n st.ti, rs := (enterRule s fx .overlappingFieldsCanBeMerged n (tiEnter s n st.ti) st.rs).1 }

theorem enter_ov (s : SchemaD) (fx : Fixes) (n : Node) (st : St) :
    enter ⟨s, fx, [.overlappingFieldsCanBeMerged]⟩ n st = (ovEntered s fx n st, false) := by
  have h := ov_noskip s fx n (tiEnter s n st.ti) st.rs
  simp only [enter, enterRules, ovEntered, Bool.or_false]
  rw [← h]

theorem leave_ov (s : SchemaD) (fx : Fixes) (n : Node) (st : St) :
    leave ⟨s, fx, [.overlappingFieldsCanBeMerged]⟩ n st = { ti := tiLeave n st.ti, rs := st.rs } := by
  simp only [leave, List.reverse_cons, List.reverse_nil, List.nil_append, List.foldl_cons, List.foldl_nil]
  congr 1

/-- a node visit of the rule alone: enter, body, and on leaving only `TypeInfoVisitor` moves -/
theorem visitNode_ov (s : SchemaD) (fx : Fixes) (n : Node) (body : St → St) (st : St) :
    visitNode ⟨s, fx, [.overlappingFieldsCanBeMerged]⟩ n body st =
      { ti := tiLeave n (body (ovEntered s fx n st)).ti, rs := (body (ovEntered s fx n st)).rs } := by
  unfold visitNode
  rw [enter_ov]
  exact leave_ov ..

/-- the state after the document node: the fragment table is in the search context -/
def ovStart (d : Doc) : St := { ti := {}, rs := { ({} : RS) with octx := { ({} : OCtx) with frags := fragTable d } } }

theorem visitDocument_ov (s : SchemaD) (fx : Fixes) (d : Doc) :
    (visitDocument ⟨s, fx, [.overlappingFieldsCanBeMerged]⟩ d {}).rs =
      (d.defs.foldl (fun st x => visitDef ⟨s, fx, [.overlappingFieldsCanBeMerged]⟩ x st) (ovStart d)).rs := by
  rw [visitDocument, visitNode_ov]
  rfl

/-- at a selection set it runs the search -/
theorem ov_enter_sel (s : SchemaD) (fx : Fixes) (i : Nat) (sels : List Sel) (ti : TI) (rs : RS) :
    (enterRule s fx .overlappingFieldsCanBeMerged (.selectionSet i sels) ti rs).1.octx =
      (withinSelectionSet s fx ti.parentType i sels rs.octx).2 ∧
    (enterRule s fx .overlappingFieldsCanBeMerged (.selectionSet i sels) ti rs).1.errs.length =
      rs.errs.length + (withinSelectionSet s fx ti.parentType i sels rs.octx).1 := by
  dsimp only [enterRule]
  constructor
  · split <;> rfl
  · split <;> simp only [RS.errN, List.length_append, List.length_replicate, Nat.add_comm]

/-- elsewhere below the document it does nothing -/
theorem ov_enter_other (s : SchemaD) (fx : Fixes) (n : Node) (ti : TI) (rs : RS) (hn : n.isDoc = false)
    (hs : n.isSelSet = false) : (enterRule s fx .overlappingFieldsCanBeMerged n ti rs).1 = rs := by
  cases n with
  | document d => cases hn
  | selectionSet i sels => cases hs
  | _ => rfl

/-- what a visit keeps, when the clause holds: balanced stacks, a sane search context, no error -/
def OW (s : SchemaD) (d : Doc) (l : List (Node × View)) (st st' : St) : Prop :=
  st'.ti = st.ti ∧
  ((∀ p ∈ l, p ∈ typedNodes s d) → CI s d st.rs.octx → E st = 0 → CI s d st'.rs.octx ∧ E st' = 0)

theorem ov_alg (s : SchemaD) (fx : Fixes) (d : Doc) (h7 : fx.v7 = true) (H : Spec.overlappingFieldsCanBeMerged s d) :
    TAlg ⟨s, fx, [.overlappingFieldsCanBeMerged]⟩ (OW s d) where
  ti h := h.1
  nil st := ⟨rfl, fun _ hc he => ⟨hc, he⟩⟩
  append h1 h2 := ⟨h2.1.trans h1.1, fun hm hc he => by
    obtain ⟨c2, e2⟩ := h1.2 (fun p hp => hm p (List.mem_append_left _ hp)) hc he
    exact h2.2 (fun p hp => hm p (List.mem_append_right _ hp)) c2 e2⟩
  node n body l st hn hd hb := by
    rw [visitNode_ov]
    obtain ⟨b1, b2⟩ := hb (ovEntered s fx n st) rfl
    refine ⟨?_, fun hm hc he => ?_⟩
    · show tiLeave n (body _).ti = st.ti
      rw [b1]
      exact tiLeave_tiEnter _ _ _ hd
    · have hmem : (n, View.enter s n st.ti.view) ∈ typedNodes s d := hm _ (List.mem_cons_self ..)
      have hst1 : CI s d (ovEntered s fx n st).rs.octx ∧ E (ovEntered s fx n st) = 0 := by
        simp only [E, ovEntered] at he ⊢
        by_cases hs : n.isSelSet = true
        · cases n with
          | selectionSet i sels =>
            obtain ⟨k1, k2⟩ := ov_enter_sel s fx i sels (tiEnter s (.selectionSet i sels) st.ti) st.rs
            have hadm := (ov_sel_adm hmem).2
            obtain ⟨w1, w2⟩ := within_sound s fx d h7 _ i sels st.rs.octx hc (selSet_of_typed hmem) hadm
            rw [k1, k2, he]
            refine ⟨w1, ?_⟩
            by_cases h0 : 0 < (withinSelectionSet s fx (tiEnter s (.selectionSet i sels) st.ti).parentType i sels
                st.rs.octx).1
            · obtain ⟨p', rn, e1, e2, z1, z2, z3, z4⟩ := w2 h0
              exact absurd z4 (H i sels (selSet_of_typed hmem) p' z1 rn e1 e2 z2 z3)
            · omega
          | _ => cases hs
        · rw [ov_enter_other s fx n _ _ hn (by simpa using hs)]
          exact ⟨hc, he⟩
      exact b2 (fun p hp => hm p (List.mem_cons_of_mem _ hp)) hst1.1 hst1.2

/-- **the clause implies silence**: on a document in which no selection set contains two conflicting fields the
    rule, run alone, adds no error -/
theorem ov_document (s : SchemaD) (fx : Fixes) (d : Doc) (h7 : fx.v7 = true) (H : Spec.overlappingFieldsCanBeMerged s d) :
    E (visitDocument ⟨s, fx, [.overlappingFieldsCanBeMerged]⟩ d {}) = 0 := by
  show (visitDocument ⟨s, fx, [.overlappingFieldsCanBeMerged]⟩ d {}).rs.errs.length = 0
  rw [visitDocument_ov]
  exact ((visitDefsR (ov_alg s fx d h7 H) d.defs (ovStart d) rfl).2 (fun p hp => hp) ⟨rfl, fun _ h => nomatch h⟩ rfl).2

end PyGql.Validate
