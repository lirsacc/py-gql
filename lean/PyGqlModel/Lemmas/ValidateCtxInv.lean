/-
  An induction principle for the context enumeration `gnDoc down x0 d` (Spec/CtxNodes.lean; a case of the induction of
  `Lemmas/ValidateWalkLaws.lean` in which the visit functions are not looked at): a predicate `Inv` on
  contexts that holds at the root and is carried from the context of a parent to the context of a child WHENEVER
  THE CHILD NODE IS `Ok` holds at every listed node, provided every listed node is `Ok`.
  (Used by C20: the contexts are pairs (view in the old schema, view in the new schema), `Ok` = the node satisfies
  the rules on the old schema, `Inv` = the two views are compatible.)
-/
import PyGqlModel.Lemmas.ValidateWalkLaws
namespace PyGql.Validate.Spec
open PyGql PyGql.Validate

section
variable {X : Type} (down : Node → X → X) (Inv : X → Prop) (Ok : Node × X → Prop)

def AllInv (l : List (Node × X)) : Prop := (∀ p ∈ l, Ok p) → ∀ p ∈ l, Inv p.2

theorem AllInv.nil : AllInv Inv Ok ([] : List (Node × X)) := fun _ _ hp => absurd hp List.not_mem_nil

theorem AllInv.append {a b : List (Node × X)} (ha : AllInv Inv Ok a) (hb : AllInv Inv Ok b) : AllInv Inv Ok (a ++ b) := by
  intro hok p hp
  rcases List.mem_append.mp hp with h | h
  · exact ha (fun q hq => hok q (List.mem_append_left _ hq)) p h
  · exact hb (fun q hq => hok q (List.mem_append_right _ hq)) p h

variable (hstep : ∀ n x, Inv x → Ok (n, down n x) → Inv (down n x))
include hstep

theorem AllInv.node {n : Node} {x : X} {rest : List (Node × X)} (hx : Inv x)
    (hr : Inv (down n x) → AllInv Inv Ok rest) : AllInv Inv Ok ((n, down n x) :: rest) := by
  intro hok
  have h1 := hstep n x hx (hok _ List.mem_cons_self)
  intro p hp
  rcases List.mem_cons.mp hp with h | h
  · rw [h]; exact h1
  · exact hr h1 (fun q hq => hok q (List.mem_cons_of_mem _ hq)) p h

/-- the laws of `Lemmas/ValidateWalkLaws.lean`, for a fact about the pairs alone -/
theorem AllInv.laws : WalkLaws down (fun _ => True) (fun _ => true) (fun x l _ => Inv x → AllInv Inv Ok l) where
  nil _ _ := AllInv.nil Inv Ok
  seq h1 h2 hx := AllInv.append Inv Ok (h1 hx) (h2 hx)
  node _ _ _ _ _ _ _ hW hx := AllInv.node down Inv Ok hstep hx hW
  keepJ _ _ _ _ := trivial

theorem gnValues_inv : ∀ (vs : List Value) (x : X), Inv x → AllInv Inv Ok (gnValues down x vs) :=
  (AllInv.laws down Inv Ok hstep).values fun _ _ => rfl
theorem gnObjField_inv : ∀ (f : ObjField) (x : X), Inv x → AllInv Inv Ok (gnObjField down x f) :=
  (AllInv.laws down Inv Ok hstep).objField fun _ _ => rfl
theorem gnObjFields_inv : ∀ (fs : List ObjField) (x : X), Inv x → AllInv Inv Ok (gnObjFields down x fs) :=
  (AllInv.laws down Inv Ok hstep).objFields fun _ _ => rfl
theorem gnSel_inv : ∀ (s : Sel) (x : X), Inv x → AllInv Inv Ok (gnSel down x s) :=
  fun s x => (AllInv.laws down Inv Ok hstep).sel (fun _ _ => rfl) s x trivial

theorem gnDoc_inv (d : Doc) (x0 : X) (h0 : Inv x0) (hok : ∀ p ∈ gnDoc down x0 d, Ok p) :
    ∀ p ∈ gnDoc down x0 d, Inv p.2 :=
  (AllInv.laws down Inv Ok hstep).defs (fun _ _ => rfl) (fun _ _ => rfl) d x0 trivial h0 hok

end
end PyGql.Validate.Spec
