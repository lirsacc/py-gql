/-
  `Except ε`, for every error type: when a `do` block returns a value, and what its failures are.

  A block returns `b` exactly when each step returns something and the rest, run on that, returns `b` (`bind_ok_iff`);
  with one such rule per combinator (`pure`, a guard, `mapM`, `foldlM`) the statement `block = .ok b` rewrites to
  the list of its step results, in both directions at once.  `FailsWith P x` — whenever `x` fails, its error satisfies
  `P` — goes through the same combinators, so the failures of a block are those of its steps.  The result monads of the
  model are `Except` at their own error type: their lemmas are instances of these.
-/
namespace PyGql.Except
universe u v w

variable {ε : Type u}

/-! ### success -/

theorem bind_ok_iff {α β : Type v} {x : Except ε α} {f : α → Except ε β} {b : β} :
    (x >>= f) = .ok b ↔ ∃ a, x = .ok a ∧ f a = .ok b := by
  cases x with
  | error e => exact ⟨fun h => (nomatch h), fun ⟨_, h, _⟩ => (nomatch h)⟩
  | ok a => exact ⟨fun h => ⟨a, rfl, h⟩, fun ⟨_, h, hb⟩ => by cases h; exact hb⟩

theorem pure_ok_iff {α : Type v} {a b : α} : (pure a : Except ε α) = .ok b ↔ a = b :=
  ⟨fun h => by cases h; rfl, fun h => h ▸ rfl⟩

theorem ok_ok_iff {α : Type v} {a b : α} : (.ok a : Except ε α) = .ok b ↔ a = b := pure_ok_iff

/-- a guard: `if c: raise e` -/
theorem guard_ok_iff {α : Type v} {c : Prop} [Decidable c] {e : ε} {x : Except ε α} {b : α} :
    (if c then .error e else x) = .ok b ↔ ¬ c ∧ x = .ok b := by
  split
  · exact ⟨fun h => (nomatch h), fun h => absurd ‹c› h.1⟩
  · exact ⟨fun h => ⟨‹_›, h⟩, And.right⟩

theorem mapM_cons_ok_iff {α : Type w} {β : Type v} {f : α → Except ε β} {x : α} {xs : List α} {r : List β} :
    (x :: xs).mapM f = .ok r ↔ ∃ b bs, f x = .ok b ∧ xs.mapM f = .ok bs ∧ r = b :: bs := by
  rw [List.mapM_cons, bind_ok_iff]
  refine exists_congr fun b => ?_
  rw [bind_ok_iff, ← exists_and_left]
  exact exists_congr fun bs => and_congr_right fun _ => and_congr_right fun _ => pure_ok_iff.trans eq_comm

theorem mapM_append_ok_iff {α : Type w} {β : Type v} {f : α → Except ε β} {l₁ l₂ : List α} {r : List β} :
    (l₁ ++ l₂).mapM f = .ok r ↔ ∃ r₁ r₂, l₁.mapM f = .ok r₁ ∧ l₂.mapM f = .ok r₂ ∧ r = r₁ ++ r₂ := by
  rw [List.mapM_append, bind_ok_iff]
  refine exists_congr fun r₁ => ?_
  rw [bind_ok_iff, ← exists_and_left]
  exact exists_congr fun r₂ => and_congr_right fun _ => and_congr_right fun _ => pure_ok_iff.trans eq_comm

/-- every element yields the value `h` says -/
theorem mapM_ok_map {α : Type w} {β : Type v} {f : α → Except ε β} {h : α → β} :
    ∀ {l : List α}, (∀ x ∈ l, f x = .ok (h x)) → l.mapM f = .ok (l.map h)
  | [], _ => rfl
  | x :: _, hl =>
    mapM_cons_ok_iff.mpr ⟨_, _, hl x List.mem_cons_self, mapM_ok_map fun y hy => hl y (List.mem_cons_of_mem _ hy), rfl⟩

theorem mapM_congr_mem {α : Type w} {β : Type v} {f g : α → Except ε β} :
    ∀ {l : List α}, (∀ x ∈ l, f x = g x) → l.mapM f = l.mapM g
  | [], _ => rfl
  | x :: xs, h => by
    rw [List.mapM_cons, List.mapM_cons, h x List.mem_cons_self, mapM_congr_mem fun y hy => h y (List.mem_cons_of_mem _ hy)]

theorem foldlM_cons_ok_iff {α : Type w} {β : Type v} {f : β → α → Except ε β} {x : α} {xs : List α} {init r : β} :
    (x :: xs).foldlM f init = .ok r ↔ ∃ a, f init x = .ok a ∧ xs.foldlM f a = .ok r := by
  rw [List.foldlM_cons, bind_ok_iff]

theorem foldlM_singleton_ok_iff {α : Type w} {β : Type v} {f : β → α → Except ε β} {x : α} {init r : β} :
    [x].foldlM f init = .ok r ↔ f init x = .ok r :=
  foldlM_cons_ok_iff.trans ⟨fun ⟨_, ha, h⟩ => ok_ok_iff.mp h ▸ ha, fun h => ⟨r, h, rfl⟩⟩

/-- `x` returns a value -/
def Ok {α : Type v} (x : Except ε α) : Prop := ∃ a, x = .ok a

theorem ok_bind_iff {α β : Type v} {x : Except ε α} {f : α → Except ε β} : Ok (x >>= f) ↔ ∃ a, x = .ok a ∧ Ok (f a) :=
  ⟨fun ⟨b, h⟩ => (bind_ok_iff.mp h).imp fun _ h' => ⟨h'.1, b, h'.2⟩,
   fun ⟨a, ha, b, hb⟩ => ⟨b, bind_ok_iff.mpr ⟨a, ha, hb⟩⟩⟩

theorem ok_mapM_iff {α : Type w} {β : Type v} {f : α → Except ε β} : ∀ {l : List α}, Ok (l.mapM f) ↔ ∀ x ∈ l, Ok (f x)
  | [] => ⟨fun _ _ h => (nomatch h), fun _ => ⟨[], rfl⟩⟩
  | x :: xs => by
    constructor
    · rintro ⟨r, h⟩ y hy
      obtain ⟨b, bs, hb, hbs, _⟩ := mapM_cons_ok_iff.mp h
      rcases List.mem_cons.mp hy with rfl | hy
      · exact ⟨b, hb⟩
      · exact ok_mapM_iff.mp ⟨bs, hbs⟩ y hy
    · intro h
      obtain ⟨b, hb⟩ := h x List.mem_cons_self
      obtain ⟨bs, hbs⟩ := ok_mapM_iff.mpr fun y hy => h y (List.mem_cons_of_mem _ hy)
      exact ⟨b :: bs, mapM_cons_ok_iff.mpr ⟨b, bs, hb, hbs, rfl⟩⟩

/-! ### failure -/

/-- whenever `x` fails, its error satisfies `P` -/
def FailsWith {α : Type v} (P : ε → Prop) (x : Except ε α) : Prop := ∀ e, x = .error e → P e

namespace FailsWith
variable {P : ε → Prop}

theorem ok {α : Type v} (a : α) : FailsWith P (.ok a : Except ε α) := fun _ h => nomatch h

theorem pure {α : Type v} (a : α) : FailsWith P (Pure.pure a : Except ε α) := ok a

theorem error {α : Type v} {e : ε} (h : P e) : FailsWith P (.error e : Except ε α) := fun _ h' => by cases h'; exact h

theorem mono {α : Type v} {Q : ε → Prop} {x : Except ε α} (h : FailsWith P x) (hq : ∀ e, P e → Q e) : FailsWith Q x :=
  fun e he => hq e (h e he)

/-- an error handed on from an inner call -/
theorem of_error {α β : Type v} {x : Except ε α} {e : ε} (h : FailsWith P x) (hx : x = .error e) :
    FailsWith P (.error e : Except ε β) :=
  error (h e hx)

theorem map {α β : Type v} {x : Except ε α} (g : α → β) (h : FailsWith P x) : FailsWith P (x.map g) := by
  intro e he
  cases x with
  | ok a => cases he
  | error e' => cases he; exact h _ rfl

/-- the rest of the block has to be looked at only after a step that returned -/
theorem bind_ok {α β : Type v} {x : Except ε α} {f : α → Except ε β} (hx : FailsWith P x)
    (hf : ∀ a, x = .ok a → FailsWith P (f a)) : FailsWith P (x >>= f) := by
  intro e h
  cases x with
  | error e' => cases h; exact hx _ rfl
  | ok a => exact hf a rfl e h

theorem bind {α β : Type v} {x : Except ε α} {f : α → Except ε β} (hx : FailsWith P x) (hf : ∀ a, FailsWith P (f a)) :
    FailsWith P (x >>= f) :=
  bind_ok hx fun a _ => hf a

theorem ite {α : Type v} {c : Prop} [Decidable c] {x y : Except ε α} (hx : FailsWith P x) (hy : FailsWith P y) :
    FailsWith P (if c then x else y) := by
  split
  · exact hx
  · exact hy

theorem mapM {α : Type w} {β : Type v} {f : α → Except ε β} (hf : ∀ x, FailsWith P (f x)) :
    ∀ l : List α, FailsWith P (l.mapM f)
  | [] => pure []
  | x :: xs => by
    rw [List.mapM_cons]
    exact bind (hf x) fun _ => bind (mapM hf xs) fun _ => pure _

theorem foldlM {α : Type w} {β : Type v} {f : β → α → Except ε β} (hf : ∀ acc x, FailsWith P (f acc x)) :
    ∀ (l : List α) (acc : β), FailsWith P (l.foldlM f acc)
  | [], acc => pure acc
  | x :: xs, acc => by
    rw [List.foldlM_cons]
    exact bind (hf acc x) fun a => foldlM hf xs a

/-- a computation that cannot fail returns -/
theorem exists_ok {α : Type v} {x : Except ε α} (h : FailsWith (fun _ => False) x) : Ok x := by
  cases x with
  | error e => exact (h e rfl).elim
  | ok a => exact ⟨a, rfl⟩

end FailsWith

end PyGql.Except
