/-
  C09 — the balance invariant `calls = dones + |tasks|` (no orphaned task unless the node has
  literally failed with an unexpected exception) and the position of top-level `call` events in the trace.
  The balance is given up (`esc` in `StepRel`) once an unexpected failure has escaped: a failed gather or chain no longer
  holds the nodes of the siblings that were started, so their tasks stay outstanding without a node that counts them.
  The root path is left out (`contOK (.complete p) = !p.isEmpty`, `path ≠ []` in `completeValue_step`): the fields directly
  below it are the top-level fields, whose `call`s are the events `SerialTr` places; `serialNext_top` deals with those.
-/
import PyGqlModel.Lemmas.ExecLive


namespace PyGql.AsyncExec

def isCall : Ev → Bool
  | .call _ => true
  | .done _ => false

def isDone : Ev → Bool
  | .done _ => true
  | .call _ => false

def ncalls (tr : List Ev) : Nat := (tr.filter isCall).length
def ndones (tr : List Ev) : Nat := (tr.filter isDone).length

@[simp] theorem ncalls_nil : ncalls [] = 0 := rfl
@[simp] theorem ndones_nil : ndones [] = 0 := rfl
@[simp] theorem ncalls_append (a b : List Ev) : ncalls (a ++ b) = ncalls a + ncalls b := by simp [ncalls]
@[simp] theorem ndones_append (a b : List Ev) : ndones (a ++ b) = ndones a + ndones b := by simp [ndones]
@[simp] theorem ncalls_cons_call (p : Path) (l : List Ev) : ncalls (.call p :: l) = ncalls l + 1 := by simp [ncalls, List.filter_cons, isCall]
@[simp] theorem ncalls_cons_done (p : Path) (l : List Ev) : ncalls (.done p :: l) = ncalls l := by simp [ncalls, isCall]
@[simp] theorem ndones_cons_call (p : Path) (l : List Ev) : ndones (.call p :: l) = ndones l := by simp [ndones, isDone]
@[simp] theorem ndones_cons_done (p : Path) (l : List Ev) : ndones (.done p :: l) = ndones l + 1 := by simp [ndones, List.filter_cons, isDone]

/-- not the invocation of a top-level field's resolver -/
def nonTop : Ev → Bool
  | .call [.key _] => false
  | _ => true

theorem nonTop_call_deep (path : Path) (k : String) (h : path ≠ []) : nonTop (.call (path ++ [.key k])) = true := by
  cases path with
  | nil => exact absurd rfl h
  | cons a rest => cases rest <;> simp [nonTop]

/-- in every decomposition at a top-level `call`, everything invoked before has finished -/
def SerialTr (tr : List Ev) : Prop :=
  ∀ pre k post, tr = pre ++ Ev.call [.key k] :: post → ncalls pre = ndones pre

theorem serialTr_nil : SerialTr [] := by
  intro pre k post h; simp at h

theorem serialTr_append_nonTop (tr Δ : List Ev) (h : SerialTr tr) (hΔ : ∀ e ∈ Δ, nonTop e = true) : SerialTr (tr ++ Δ) := by
  intro pre k post heq
  rcases List.append_eq_append_iff.mp heq with ⟨a, h1, h2⟩ | ⟨c, h1, h2⟩
  · -- pre = tr ++ a, Δ = a ++ call :: post : the pivot would lie in Δ
    have := hΔ (.call [.key k]) (by rw [h2]; simp)
    simp [nonTop] at this
  · -- tr = pre ++ c, call :: post = c ++ Δ
    cases c with
    | nil =>
      simp at h2
      have := hΔ (.call [.key k]) (by rw [← h2]; simp)
      simp [nonTop] at this
    | cons x c' =>
      simp at h2
      exact h pre k c' (by rw [h1, h2.1])

theorem serialTr_append_top (tr : List Ev) (k : String) (h : SerialTr tr) (hb : ncalls tr = ndones tr) :
    SerialTr (tr ++ [.call [.key k]]) := by
  intro pre k' post heq
  rcases List.append_eq_append_iff.mp heq with ⟨a, h1, h2⟩ | ⟨c, h1, h2⟩
  · -- pre = tr ++ a, [call] = a ++ call :: post  ⇒ a = []
    cases a with
    | nil => simp at h1; rw [h1]; exact hb
    | cons x a' => simp at h2
  · cases c with
    | nil => simp at h1; rw [← h1]; exact hb
    | cons x c' =>
      simp at h2
      exact h pre k' c' (by rw [h1, h2.1])

mutual
def ntasks : Node → Nat
  | .task _ _ _ _ => 1
  | .done r => ntasks r
  | .chain src _ => ntasks src
  | .unwrap src => ntasks src
  | .gather slots _ _ => ntasksSlots slots
  | .val _ => 0
  | .failed _ => 0
def ntasksSlots : Nodes → Nat
  | .nil => 0
  | .cons n ns => ntasks n + ntasksSlots ns
end

def Exc.isNR : Exc → Bool
  | .resolver => false
  | _ => true

/-- the node has literally failed with an unexpected exception -/
def isFailedNR : Node → Bool
  | .failed e => e.isNR
  | .done r => isFailedNR r
  | _ => false

def contOK : Cont → Bool
  | .serialCb _ _ _ _ => false
  | .complete p => !p.isEmpty
  | _ => true

mutual
/-- no serial callback inside, and every `complete` continuation belongs to a field below the top level or at it (`p ≠ []`) -/
def NoSerial : Node → Bool
  | .chain src k => NoSerial src && contOK k
  | .unwrap src => NoSerial src
  | .done r => NoSerial r
  | .gather slots _ _ => NoSerialSlots slots
  | _ => true
def NoSerialSlots : Nodes → Bool
  | .nil => true
  | .cons n ns => NoSerial n && NoSerialSlots ns
end

def ntasksRes : Res Node → Nat
  | .ok n => ntasks n
  | .exc _ => 0

def EscRes : Res Node → Prop
  | .ok n => isFailedNR n = true
  | .exc e => e.isNR = true

def NoSerialRes : Res Node → Bool
  | .ok n => NoSerial n
  | .exc _ => true

/-- what a piece of execution does to the trace: only non-top events, and calls/dones balance against the
    change in outstanding tasks — unless `esc` (a literal unexpected failure) -/
def StepRel (s s' : ExecSt) (before after : Nat) (esc : Prop) : Prop :=
  ∃ Δ, s'.trace = s.trace ++ Δ ∧ (∀ e ∈ Δ, nonTop e = true) ∧ (esc ∨ ncalls Δ + before = ndones Δ + after)

theorem StepRel.same (s s' : ExecSt) (h : s'.trace = s.trace) (b : Nat) (esc : Prop) : StepRel s s' b b esc :=
  ⟨[], by simp [h], by simp, .inr (by simp)⟩

theorem StepRel.trans {s s1 s2 : ExecSt} {b1 a1 b2 a2 : Nat} {e1 e2 : Prop}
    (h1 : StepRel s s1 b1 a1 e1) (h2 : StepRel s1 s2 b2 a2 e2) : StepRel s s2 (b1 + b2) (a1 + a2) (e1 ∨ e2) := by
  obtain ⟨Δ1, t1, n1, c1⟩ := h1
  obtain ⟨Δ2, t2, n2, c2⟩ := h2
  refine ⟨Δ1 ++ Δ2, by rw [t2, t1]; simp, ?_, ?_⟩
  · intro e he; simp at he; rcases he with he | he; exact n1 e he; exact n2 e he
  · rcases c1 with c1 | c1
    · exact .inl (.inl c1)
    · rcases c2 with c2 | c2
      · exact .inl (.inr c2)
      · right; simp; omega

theorem StepRel.weaken {s s' : ExecSt} {b a b' a' : Nat} {e e' : Prop} (h : StepRel s s' b a e)
    (hb : b = b') (ha : a = a') (he : e → e') : StepRel s s' b' a' e' := by
  obtain ⟨Δ, t, n, c⟩ := h
  subst hb; subst ha
  exact ⟨Δ, t, n, c.imp he id⟩

theorem ntasks_unwrapCb (n : Node) : ntasks (unwrapCb n) = ntasks n :=
  unwrapCb_congr _ (fun _ => rfl) (fun _ => rfl) n

theorem failedNR_unwrapCb (n : Node) : isFailedNR (unwrapCb n) = isFailedNR n := by
  fun_induction unwrapCb n with
  | case3 r _ ih => exact ih
  | case5 p hf _ hd _ =>
    cases p with
    | failed e => exact absurd rfl (hf e)
    | done r => exact absurd rfl (hd r)
    | _ => rfl
  | _ => rfl

theorem noSerial_unwrapCb (n : Node) : NoSerial (unwrapCb n) = NoSerial n :=
  unwrapCb_congr _ (fun _ => rfl) (fun _ => rfl) n

theorem ntasks_unwrapValue (n : Node) : ntasks (unwrapValue n) = ntasks n := by
  cases n <;> simp [unwrapValue, ntasks_unwrapCb]
theorem failedNR_unwrapValue (n : Node) : isFailedNR (unwrapValue n) = isFailedNR n := by
  cases n <;> simp [unwrapValue, failedNR_unwrapCb]
theorem noSerial_unwrapValue (n : Node) : NoSerial (unwrapValue n) = NoSerial n := by
  cases n <;> simp [unwrapValue, noSerial_unwrapCb]

theorem collect_no_failed : ∀ (slots : Nodes) (e : Exc), Node.failed e ∈ slots.toList →
    ∀ rs, collectSlots (slots.toList.map Node.slot) ≠ .setResult rs
  | .nil, e, h, rs => by simp [Nodes.toList] at h
  | .cons n ns, e, h, rs => by
    simp only [Nodes.toList, List.mem_cons] at h
    simp only [Nodes.toList, List.map_cons]
    rcases h with h | h
    · subst h; simp [Node.slot, collectSlots]
    · have ih := collect_no_failed ns e h
      cases hs : Node.slot n with
      | none => simp [collectSlots]
      | some r =>
        cases r with
        | error x => simp [collectSlots]
        | ok a =>
          simp only [collectSlots]
          cases hc : collectSlots (ns.toList.map Node.slot) with
          | setResult rs' => exact absurd hc (ih rs')
          | _ => simp

theorem ntasksSlots_settled : ∀ (slots : Nodes), (∀ n ∈ slots.toList, (∃ x, n = .val x) ∨ ∃ x, n = .done (.val x)) →
    ntasksSlots slots = 0
  | .nil, _ => rfl
  | .cons n ns, h => by
    have ih := ntasksSlots_settled ns fun m hm => h m (List.mem_cons_of_mem _ hm)
    rcases h n (List.mem_cons_self ..) with ⟨x, rfl⟩ | ⟨x, rfl⟩ <;> exact (Nat.zero_add _).trans ih

theorem failed_slot_NR (slots : Nodes) (e : Exc) (hg : GoodSlots slots = true) (hm : Node.failed e ∈ slots.toList) :
    e.isNR = true := by
  obtain ⟨_, _, hr⟩ := goodSlots_mem slots _ hg hm
  cases e <;> simp_all [ev, evExc, EvR.isRerr, Exc.isNR]

theorem gatherAfter_step (slots : Nodes) (done target : Nat) (fired : List (Except Exc Node))
    (hg : GoodSlots slots = true) (hfired : ∀ e, Except.error e ∈ fired → Node.failed e ∈ slots.toList) :
    (isFailedNR (gatherAfter slots done target fired) = true ∨ ntasks (gatherAfter slots done target fired) = ntasksSlots slots) ∧
    ((∃ e, Except.error e ∈ fired) → isFailedNR (gatherAfter slots done target fired) = true) ∧
    (NoSerialSlots slots = true → NoSerial (gatherAfter slots done target fired) = true) := by
  rcases gatherAfter_cases slots done target fired with ⟨d', hgf, h⟩ | ⟨e, he, h⟩ | ⟨rs, hc, h⟩ <;> rw [h]
  · refine ⟨.inr rfl, ?_, id⟩
    rintro ⟨e, he⟩
    obtain ⟨pre, post, hp⟩ := List.append_of_mem he
    have := (gatherFires_none target slots fired done d' hgf).2 pre (.error e) post hp
    rw [gatherFire_error] at this
    cases this
  · have hnr := failed_slot_NR slots e hg (hfired e he)
    exact ⟨.inl hnr, fun _ => hnr, fun _ => rfl⟩
  · refine ⟨.inr (ntasksSlots_settled slots (settled_of_collected slots rs hg hc)).symm, ?_, fun _ => rfl⟩
    rintro ⟨e, he⟩
    exact absurd hc (collect_no_failed slots e (hfired e he) rs)

def ApStep (ap : ApplyCont) (k : Cont) : Prop :=
  ∀ (r : Res Val) (s : ExecSt),
    StepRel s (ap k r s).2 0 (ntasksRes (ap k r s).1) (EscRes (ap k r s).1) ∧ NoSerialRes (ap k r s).1 = true ∧
    (∀ e, r = .exc e → e.isNR = true → (ap k r s).1 = .exc e)

@[simp] theorem handleNN_trace (p : Path) (x : Val) (s : ExecSt) : (handleNonNullableValue p x s).2.trace = s.trace := by
  unfold handleNonNullableValue; split <;> rfl

theorem applySimple_step (k : Cont) : ApStep applySimple k := by
  intro r s
  refine ⟨?_, ?_, ?_⟩
  · cases k <;> cases r <;>
      first
      | exact StepRel.same _ _ (by simp [applySimple]) 0 _
      | (simp only [applySimple]; exact StepRel.same _ _ (by simp) 0 _)
  · cases k <;> cases r <;> simp [applySimple, NoSerialRes, NoSerial]
  · intro e he _; subst he; cases k <;> rfl

theorem isFailedNR_flat_literal (n : Node) (hf : flat n = true) (h : isFailedNR n = true) : ∃ e, n = .failed e ∧ e.isNR = true := by
  cases n with
  | failed e => exact ⟨e, rfl, by simpa [isFailedNR] using h⟩
  | done r => cases r <;> simp_all [flat, isFailedNR]
  | _ => simp [isFailedNR] at h

theorem step_settle {s : ExecSt} {r : Res Node × ExecSt} (h1 : StepRel s r.2 0 (ntasksRes r.1) (EscRes r.1))
    (h2 : NoSerialRes r.1 = true) :
    StepRel s (settle r).2 0 (ntasks (settle r).1) (isFailedNR (settle r).1 = true) ∧ NoSerial (settle r).1 = true := by
  obtain ⟨x | e, s1⟩ := r
  · exact ⟨h1, h2⟩
  · exact ⟨h1, rfl⟩

theorem chainOnFinish_step (ap : ApplyCont) (k : Cont) (hap : ApStep ap k) (src : Node) (s : ExecSt)
    (hf : flat src = true) (hns : NoSerial src = true) (hk : contOK k = true) :
    StepRel s (chainOnFinish ap src k s).2 (ntasks src) (ntasks (chainOnFinish ap src k s).1)
      (isFailedNR (chainOnFinish ap src k s).1 = true) ∧
    NoSerial (chainOnFinish ap src k s).1 = true ∧
    (isFailedNR src = true → isFailedNR (chainOnFinish ap src k s).1 = true) := by
  rw [chainOnFinish_eq]
  split
  next e =>
    obtain ⟨h1, h2, h3⟩ := hap (.exc e) s
    refine ⟨(step_settle h1 h2).1, (step_settle h1 h2).2, fun hnr => ?_⟩
    -- an unexpected exception is handed through unchanged
    have hx := h3 e rfl hnr
    show isFailedNR (settle (ap k (.exc e) s)).1 = true
    generalize ap k (.exc e) s = y at hx ⊢
    obtain ⟨r, s'⟩ := y
    cases hx
    exact hnr
  next r =>
    obtain ⟨x, rfl⟩ : ∃ x, r = .val x := by cases r <;> first | exact ⟨_, rfl⟩ | cases hf
    obtain ⟨h1, h2, _⟩ := hap (.ok x) s
    exact ⟨(step_settle h1 h2).1, (step_settle h1 h2).2, fun h => nomatch h⟩
  next hnf hnd =>
    refine ⟨StepRel.same _ _ rfl _ _, Bool.and_eq_true_iff.2 ⟨hns, hk⟩, fun h => ?_⟩
    cases src with
    | failed e => exact absurd rfl (hnf e)
    | done r => exact absurd rfl (hnd r)
    | _ => cases h

theorem mapValue_step (ap : ApplyCont) (k : Cont) (hap : ApStep ap k) (n : Node) (s : ExecSt)
    (hf : flat n = true) (hns : NoSerial n = true) (hk : contOK k = true) :
    StepRel s (mapValue ap n k s).2 (ntasks n) (ntasksRes (mapValue ap n k s).1) (EscRes (mapValue ap n k s).1) ∧
    NoSerialRes (mapValue ap n k s).1 = true ∧
    (isFailedNR n = true → EscRes (mapValue ap n k s).1) := by
  unfold mapValue
  split
  next x =>
    obtain ⟨h1, h2, _⟩ := hap (.ok x) s
    exact ⟨h1, h2, fun h => nomatch h⟩
  next =>
    split
    · exact chainOnFinish_step ap k hap _ s hf hns hk
    next hfin =>
      refine ⟨StepRel.same _ _ rfl _ _, Bool.and_eq_true_iff.2 ⟨hns, hk⟩, fun h => ?_⟩
      -- a node that has literally failed is finished
      cases n <;> first | cases h | exact absurd rfl hfin

theorem gatherValues_step (source : Nodes) (hg : GoodSlots source = true) :
    (isFailedNR (gatherValues source) = true ∨ ntasks (gatherValues source) = ntasksSlots source) ∧
    ((∃ n, n ∈ source.toList ∧ isFailedNR n = true) → isFailedNR (gatherValues source) = true) ∧
    (NoSerialSlots source = true → NoSerial (gatherValues source) = true) := by
  -- a slot that has literally failed is a failed Future, and its callback fires at once
  have hlit : ∀ n, n ∈ source.toList → isFailedNR n = true → ∃ e, n = .failed e :=
    fun n hn hnr => (isFailedNR_flat_literal n (goodSlots_mem source n hg hn).2.1 hnr).imp fun _ h => h.1
  rcases gatherValues_cases source with ⟨hv, h⟩ | ⟨_, h⟩ <;> rw [h]
  · refine ⟨.inr (ntasksSlots_settled source fun n hn => .inl (val_of_no_future hv n hn)).symm, ?_, fun _ => rfl⟩
    rintro ⟨n, hn, hnr⟩
    obtain ⟨x, rfl⟩ := val_of_no_future hv n hn
    cases hnr
  · obtain ⟨a, b, c⟩ := gatherAfter_step source (plainCount source) source.toList.length (firedOf source) hg
      fun e he => mem_firedOf.1 he
    refine ⟨a, ?_, c⟩
    rintro ⟨n, hn, hnr⟩
    obtain ⟨e, rfl⟩ := hlit n hn hnr
    exact b ⟨e, mem_firedOf.2 hn⟩

theorem StepRel.comp {s s1 s2 : ExecSt} {b m a : Nat} {e1 e2 : Prop}
    (h1 : StepRel s s1 b m e1) (h2 : StepRel s1 s2 m a e2) : StepRel s s2 b a (e1 ∨ e2) := by
  obtain ⟨Δ1, t1, n1, c1⟩ := h1
  obtain ⟨Δ2, t2, n2, c2⟩ := h2
  refine ⟨Δ1 ++ Δ2, by rw [t2, t1]; simp, ?_, ?_⟩
  · intro e he; simp at he; rcases he with he | he; exact n1 e he; exact n2 e he
  · rcases c1 with c1 | c1
    · exact .inl (.inl c1)
    · rcases c2 with c2 | c2
      · exact .inl (.inr c2)
      · right; simp; omega

theorem StepRel.esc {s s' : ExecSt} {b a b' a' : Nat} {e e' : Prop} (h : StepRel s s' b a e) (he : e') :
    StepRel s s' b' a' e' := by
  obtain ⟨Δ, t, n, _⟩ := h
  exact ⟨Δ, t, n, .inl he⟩

theorem StepRel.retarget {s s' : ExecSt} {b a a' : Nat} {e e' : Prop} (h : StepRel s s' b a e)
    (he : e → e') (ha : e' ∨ a' = a) : StepRel s s' b a' e' := by
  obtain ⟨Δ, t, n, c⟩ := h
  refine ⟨Δ, t, n, ?_⟩
  rcases c with c | c
  · exact .inl (he c)
  · rcases ha with ha | ha
    · exact .inl ha
    · right; omega

def ntasksSlotsRes : Res Nodes → Nat
  | .ok ns => ntasksSlots ns
  | .exc _ => 0

def EscSlotsRes : Res Nodes → Prop
  | .ok ns => ∃ n, n ∈ ns.toList ∧ isFailedNR n = true
  | .exc e => e.isNR = true

def NoSerialSlotsRes : Res Nodes → Bool
  | .ok ns => NoSerialSlots ns
  | .exc _ => true

def FreshOK (s : ExecSt) (r : Res Node × ExecSt) : Prop :=
  StepRel s r.2 0 (ntasksRes r.1) (EscRes r.1) ∧ NoSerialRes r.1 = true

def FreshSlotsOK (s : ExecSt) (r : Res Nodes × ExecSt) : Prop :=
  StepRel s r.2 0 (ntasksSlotsRes r.1) (EscSlotsRes r.1) ∧ NoSerialSlotsRes r.1 = true

@[simp] theorem emit_trace (s : ExecSt) (e : Ev) : (s.emit e).trace = s.trace ++ [e] := rfl
@[simp] theorem submit_trace (s : ExecSt) : s.submit.2.trace = s.trace := rfl
@[simp] theorem addError_trace (s : ExecSt) (p : Path) (k : ErrKind) : (s.addError p k).trace = s.trace := rfl

theorem exc_NR_of_den {e : Exc} {d : Option V} (h : evExc e = denToEv d) : e.isNR = true := by
  cases e <;> cases d <;> simp_all [evExc, denToEv, Exc.isNR]

/-- what `resolveField p …` does to the trace: first `call p`, then only non-top events -/
def FieldOK (s : ExecSt) (p : Path) (r : Res Node × ExecSt) : Prop :=
  (∃ Δ, r.2.trace = s.trace ++ Ev.call p :: Δ ∧ (∀ e ∈ Δ, nonTop e = true) ∧
      (EscRes r.1 ∨ ncalls (Ev.call p :: Δ) = ndones (Ev.call p :: Δ) + ntasksRes r.1)) ∧
  NoSerialRes r.1 = true

theorem FieldOK.toStep {s : ExecSt} {p : Path} {r : Res Node × ExecSt} (h : FieldOK s p r) (hp : nonTop (.call p) = true) :
    StepRel s r.2 0 (ntasksRes r.1) (EscRes r.1) := by
  obtain ⟨⟨Δ, t, n, c⟩, _⟩ := h
  refine ⟨.call p :: Δ, t, ?_, ?_⟩
  · intro e he; simp at he; rcases he with he | he; subst he; exact hp; exact n e he
  · rcases c with c | c
    · exact .inl c
    · right; omega

/-- below the top level the `call` of a field is one more event that is not a top-level `call` -/
theorem FieldOK.fresh {s : ExecSt} {p : Path} {r : Res Node × ExecSt} (h : FieldOK s p r) (hp : nonTop (.call p) = true) :
    FreshOK s r :=
  ⟨h.toStep hp, h.2⟩

theorem FreshOK.chain {s : ExecSt} {r : Res Node × ExecSt} (k : Cont) (hk : contOK k = true) (hf : FlatRes r.1 = true)
    (h : FreshOK s r) : FreshOK s (chainRes applySimple k r) := by
  obtain ⟨n | e, s1⟩ := r
  · obtain ⟨m1, m2, m3⟩ := mapValue_step applySimple k (applySimple_step k) n s1 hf h.2 hk
    exact ⟨(StepRel.comp h.1 m1).retarget (fun h => h.elim m3 id) (.inr rfl), m2⟩
  · exact h

theorem FreshSlotsOK.gather {s : ExecSt} {r : Res Nodes × ExecSt} {d : Option (List V)} (hev : SlotsOK d r)
    (h : FreshSlotsOK s r) : FreshOK s (gatherRes r) := by
  obtain ⟨ns | e, s1⟩ := r
  · obtain ⟨g1, g2, g3⟩ := gatherValues_step ns hev.1
    exact ⟨h.1.retarget g2 g1, g3 h.2⟩
  · exact h

theorem isNR_of_ne {e : Exc} (h : e ≠ .resolver) : e.isNR = true := by
  cases e <;> first | rfl | exact absurd rfl h

theorem FreshOK.cons {s : ExecSt} {r : Res Node × ExecSt} {rest : ExecSt → Res Nodes × ExecSt} {d : Option (List V)}
    (h1 : FreshOK s r) (hevs : ∀ s1, SlotsOK d (rest s1)) (h2 : ∀ s1, FreshSlotsOK s1 (rest s1)) :
    FreshSlotsOK s (consRes r rest) := by
  obtain ⟨n | e, s1⟩ := r
  · have h2 := h2 s1
    have hevs := hevs s1
    simp only [consRes, thenR]
    generalize rest s1 = y at h2 hevs ⊢
    obtain ⟨ns | e, s2⟩ := y
    · refine ⟨(StepRel.trans h1.1 h2.1).weaken (Nat.zero_add 0) rfl ?_, Bool.and_eq_true_iff.2 ⟨h1.2, h2.2⟩⟩
      rintro (h | ⟨m, hm, hnr⟩)
      · exact ⟨n, List.mem_cons_self .., h⟩
      · exact ⟨m, List.mem_cons_of_mem _ hm, hnr⟩
    · exact ⟨(StepRel.trans h1.1 h2.1).esc (isNR_of_ne hevs.1), rfl⟩
  · exact h1

theorem FreshOK.catch {s : ExecSt} {path : Path} {r : Res Node × ExecSt} (h : FreshOK s r) : FreshOK s (catchRes path r) := by
  obtain ⟨n | e, s1⟩ := r
  · exact h
  · cases e with
    | resolver =>
      obtain ⟨⟨Δ, t, n, c⟩, _⟩ := h
      exact ⟨⟨Δ, t, n, .inr (c.resolve_left fun h => nomatch h)⟩, rfl⟩
    | _ => exact h

/-- the resolver ran at once: `call p`, `done p`, then what `complete` did -/
theorem FreshOK.field {s : ExecSt} {p : Path} {r : Res Node × ExecSt} (h : FreshOK (s.ran p) r) : FieldOK s p r := by
  obtain ⟨⟨Δ, t, n, c⟩, h2⟩ := h
  refine ⟨⟨.done p :: Δ, by simpa [ExecSt.ran] using t, ?_, c.imp id fun c => ?_⟩, h2⟩
  · intro e he
    rcases List.mem_cons.1 he with rfl | he
    · rfl
    · exact n e he
  · simp only [ncalls_cons_call, ncalls_cons_done, ndones_cons_call, ndones_cons_done]
    omega

theorem FieldOK.nowOf {s : ExecSt} {p : Path} {r : Res Node × ExecSt} (h : FieldOK s p r) : FieldOK s p (nowOf r) := by
  obtain ⟨n | e, s1⟩ := r
  · obtain ⟨⟨Δ, t, hn, c⟩, h2⟩ := h
    refine ⟨⟨Δ, t, hn, ?_⟩, (noSerial_unwrapValue n).trans h2⟩
    show isFailedNR (unwrapValue n) = true ∨ _ = _ + ntasks (unwrapValue n)
    rw [failedNR_unwrapValue, ntasks_unwrapValue]
    exact c
  · exact h

theorem FieldOK.futureOf {s : ExecSt} {p : Path} {r : Res Node × ExecSt} (h : FieldOK s p r) : FieldOK s p (futureOf r) := by
  obtain ⟨n | e, s1⟩ := r
  · obtain ⟨⟨Δ, t, hn, c⟩, h2⟩ := h
    refine ⟨⟨Δ, t, hn, ?_⟩, (noSerial_unwrapCb (.done n)).trans h2⟩
    show isFailedNR (unwrapCb (.done n)) = true ∨ _ = _ + ntasks (unwrapCb (.done n))
    rw [failedNR_unwrapCb, ntasks_unwrapCb]
    exact c
  · exact ⟨h.1, rfl⟩

/-- a deferred field: `call p` and one more outstanding task -/
theorem FieldOK.parked (p : Path) (nested : Bool) (out : ROut) (s : ExecSt) (hp : p ≠ []) :
    FieldOK s p (.ok (parked s.next p nested out), (s.emit (.call p)).submit.2) := by
  refine ⟨⟨[], rfl, (fun _ h => nomatch h), .inr rfl⟩, ?_⟩
  cases p with
  | nil => exact absurd rfl hp
  | cons a q => rfl

theorem step_cases : ExecCases (fun path _ s r => path ≠ [] → FreshOK s r) (fun path _ _ s r => path ≠ [] → FreshSlotsOK s r)
    (fun path _ s r => path ≠ [] → FreshSlotsOK s r) (fun p _ _ s r => p ≠ [] → FieldOK s p r)
    (fun p _ s r => p ≠ [] → FreshOK s r) where
  null _ _ _ := ⟨StepRel.same _ _ rfl _ _, rfl⟩
  leaf _ _ _ _ := ⟨StepRel.same _ _ rfl _ _, rfl⟩
  bad _ _ _ := ⟨⟨[], (List.append_nil _).symm, (fun _ h => nomatch h), .inl rfl⟩, rfl⟩
  nonNull path c s ih hp := FreshOK.chain (.nonNull path) rfl (completeValue_ev c path s).2.2 (ih hp)
  list path items s ih hp := FreshSlotsOK.gather (completeItems_ev items path 0 s) (ih hp)
  obj path fields s ih hp :=
    FreshOK.chain (.collect fields.keys) rfl (resolveFields_slotsOK fields path s).gather.2.2
      (FreshSlotsOK.gather (resolveFields_slotsOK fields path s) (ih hp))
  inil _ _ _ _ := ⟨StepRel.same _ _ rfl _ _, rfl⟩
  icons path i _ cs _ ih1 ih2 hp :=
    FreshOK.cons (ih1 (List.append_ne_nil_of_right_ne_nil _ (List.cons_ne_nil _ _))) (completeItems_ev cs path (i + 1)) fun s1 => ih2 s1 hp
  fnil _ _ _ := ⟨StepRel.same _ _ rfl _ _, rfl⟩
  fcons path key _ _ fs _ ih1 ih2 hp :=
    FreshOK.cons ((ih1 (List.append_ne_nil_of_right_ne_nil _ (List.cons_ne_nil _ _))).fresh (nonTop_call_deep path key hp))
      (resolveFields_slotsOK fs path) fun s1 => ih2 s1 hp
  deferred p out s hp := FieldOK.parked p false out s hp
  nested p out s hp := FieldOK.parked p true out s hp
  sync _ _ _ ih hp := (ih hp).field.nowOf
  ready _ _ _ ih hp := (ih hp).field.futureOf
  rerr _ _ _ := ⟨StepRel.same _ _ rfl _ _, rfl⟩
  exc _ _ _ := ⟨StepRel.same _ _ rfl _ _, rfl⟩
  ok _ _ _ ih hp := (ih hp).catch

theorem completeValue_step : ∀ (c : Comp) (path : Path) (s : ExecSt), path ≠ [] → FreshOK s (completeValue path c s) :=
  step_cases.value

theorem completeItems_step : ∀ (cs : Comps) (path : Path) (i : Nat) (s : ExecSt), path ≠ [] →
    FreshSlotsOK s (completeItems path i cs s) :=
  step_cases.items

theorem resolveFields_step : ∀ (fs : Flds) (path : Path) (s : ExecSt), path ≠ [] →
    FreshSlotsOK s (resolveFields path fs s) :=
  step_cases.fields

theorem resolveField_step : ∀ (out : ROut) (p : Path) (mode : Mode) (s : ExecSt), p ≠ [] →
    FieldOK s p (resolveField p mode out s) :=
  step_cases.field

theorem applyCont_stepNS (k : Cont) (hk : contOK k = true) : ApStep applyCont k := by
  intro r s
  fun_cases applyCont k r s with
  | case1 path c s s1 hcv n s' hff => exact absurd hcv (completeValue_not_resolver c path s s1)
  | case2 path c s =>
    have hp : path ≠ [] := by cases path <;> simp_all [contOK]
    obtain ⟨i1, i2⟩ := completeValue_step c path s hp
    exact ⟨i1, i2, fun e he => nomatch he⟩
  | case3 path s n s' hff =>
    cases hff
    exact ⟨StepRel.same _ _ rfl 0 _, rfl, fun e he hn => by cases he; cases hn⟩
  | case4 path key resolved args v s => cases hk
  | case5 k r s => exact applySimple_step k r s

theorem contOK_of_noSerial_chain (src : Node) (k : Cont) (h : NoSerial (.chain src k) = true) :
    NoSerial src = true ∧ contOK k = true := by
  rw [NoSerial] at h; simpa using h

theorem deliver_step_cases (t : Nat) : DeliverCases applyCont t
    (fun n s r => Good n = true → NoSerial n = true →
      StepRel s r.2 (ntasks n) (ntasks r.1) (n.finished = false ∧ isFailedNR r.1 = true) ∧ NoSerial r.1 = true)
    (fun ns s r => GoodSlots ns = true → NoSerialSlots ns = true →
      StepRel s r.2.2 (ntasksSlots ns) (ntasksSlots r.1) (∃ e, Except.error e ∈ r.2.1) ∧ NoSerialSlots r.1 = true) where
  val _ _ _ hn := ⟨StepRel.same _ _ rfl _ _, hn⟩
  done _ _ _ hn := ⟨StepRel.same _ _ rfl _ _, hn⟩
  failed _ _ _ hn := ⟨StepRel.same _ _ rfl _ _, hn⟩
  hit path nested out s _ _ := by
    cases nested
    · cases out <;>
        exact ⟨⟨[.done path], by simp [finishTask], by simp [nonTop], .inr (by simp [finishTask, ntasks])⟩, by simp [finishTask, NoSerial]⟩
    · exact ⟨⟨[], by simp [finishTask], by simp, .inr (by simp [finishTask, ntasks])⟩, by simp [finishTask, NoSerial]⟩
  miss _ _ _ _ _ _ _ hn := ⟨StepRel.same _ _ rfl _ _, hn⟩
  chain src k s ih hg hn := by
    simp only [Good, Bool.and_eq_true] at hg
    obtain ⟨hns, hk⟩ := contOK_of_noSerial_chain src k hn
    obtain ⟨i1, i2⟩ := ih hg.1 hns
    obtain ⟨c1, c2, c3⟩ := chainOnFinish_step applyCont k (applyCont_stepNS k hk) _ (deliver applyCont t src s).2
      ((deliver_ev src t s hg.1).2.2 hg.2) i2 hk
    refine ⟨(StepRel.comp i1 c1).retarget ?_ (.inr rfl), c2⟩
    rintro (⟨_, h⟩ | h)
    · exact ⟨rfl, c3 h⟩
    · exact ⟨rfl, h⟩
  unwrap _ _ ih hg hn := by
    obtain ⟨i1, i2⟩ := ih hg hn
    exact ⟨i1.retarget (fun h => ⟨rfl, (failedNR_unwrapCb _).trans h.2⟩) (.inr (ntasks_unwrapCb _)),
      (noSerial_unwrapCb _).trans i2⟩
  gather slots done target s ih hg hn := by
    obtain ⟨i1, i2⟩ := ih hg hn
    obtain ⟨_, e2, e3⟩ := deliverSlots_ev slots t s hg
    obtain ⟨g1, g2, g3⟩ := gatherAfter_step _ done target _ e2 e3
    exact ⟨i1.retarget (fun h => ⟨rfl, g2 h⟩) (g1.imp (fun h => ⟨rfl, h⟩) id), g3 i2⟩
  nil _ _ _ := ⟨StepRel.same _ _ rfl _ _, rfl⟩
  cons n ns s ih1 ih2 hg hn := by
    simp only [GoodSlots, Bool.and_eq_true] at hg
    rw [NoSerialSlots, Bool.and_eq_true] at hn
    obtain ⟨i1, i2⟩ := ih1 hg.1.1.1 hn.1
    obtain ⟨j1, j2⟩ := ih2 hg.2 hn.2
    refine ⟨(StepRel.trans i1 j1).weaken rfl rfl ?_, Bool.and_eq_true_iff.2 ⟨i2, j2⟩⟩
    rintro (⟨hp, hnr⟩ | ⟨e, he⟩)
    · obtain ⟨e, he, _⟩ := isFailedNR_flat_literal _ ((deliver_ev n t s hg.1.1.1).2.2 hg.1.1.2) hnr
      exact ⟨e, List.mem_append_left _ (by simp [Node.isPending, hp, he, slotResult])⟩
    · exact ⟨e, List.mem_append_right _ he⟩

theorem deliver_step : ∀ (n : Node) (t : Nat) (s : ExecSt), Good n = true → NoSerial n = true →
    StepRel s (deliver applyCont t n s).2 (ntasks n) (ntasks (deliver applyCont t n s).1)
      (n.finished = false ∧ isFailedNR (deliver applyCont t n s).1 = true) ∧
    NoSerial (deliver applyCont t n s).1 = true :=
  fun n t s => (deliver_step_cases t).node n s

theorem deliverSlots_step : ∀ (ns : Nodes) (t : Nat) (s : ExecSt), GoodSlots ns = true → NoSerialSlots ns = true →
    StepRel s (deliverSlots applyCont t ns s).2.2 (ntasksSlots ns) (ntasksSlots (deliverSlots applyCont t ns s).1)
      (∃ e, Except.error e ∈ (deliverSlots applyCont t ns s).2.1) ∧
    NoSerialSlots (deliverSlots applyCont t ns s).1 = true :=
  fun ns t s => (deliver_step_cases t).slots ns s

/-- what is known about the node of the top-level field the serial callback is waiting for -/
def FieldInv (F : Node) : Prop :=
  Good F = true ∧ flat F = true ∧ (ev F).isRerr = false ∧ NoSerial F = true

/-- the shapes `serialNext [] …` returns -/
def SpineS : Node → Prop
  | .val _ => True
  | .failed _ => True
  | .done r => SpineS r
  | .chain F (.serialCb [] _ _ _) => FieldInv F
  | _ => False

def SpineSRes : Res Node → Prop
  | .ok n => SpineS n
  | .exc _ => True

theorem notRerr_of_den {r : EvR} {d : Option V} (h : r = denToEv d) : r.isRerr = false := by
  subst h; cases d <;> rfl

/-- a top-level field resolved from a balanced serial trace: the trace stays serial, and calls/dones balance against the
    tasks of the field's node unless an unexpected failure escaped -/
theorem resolveField_top (key : String) (mode : Mode) (out : ROut) (s : ExecSt)
    (ht : SerialTr s.trace) (hb : ncalls s.trace = ndones s.trace) :
    SerialTr (resolveField ([] ++ [.key key]) mode out s).2.trace ∧
    (EscRes (resolveField ([] ++ [.key key]) mode out s).1 ∨
      ncalls (resolveField ([] ++ [.key key]) mode out s).2.trace
        = ndones (resolveField ([] ++ [.key key]) mode out s).2.trace + ntasksRes (resolveField ([] ++ [.key key]) mode out s).1) := by
  obtain ⟨⟨Δ, t, hn, c⟩, -⟩ := resolveField_step out ([] ++ [.key key]) mode s (by simp)
  rw [t]
  refine ⟨?_, c.imp_right fun c => ?_⟩
  · have h := serialTr_append_nonTop _ Δ (serialTr_append_top s.trace key ht hb) hn
    rw [List.append_assoc] at h
    exact h
  · rw [ncalls_append, ndones_append]
    omega

/-- an outcome of `_next` with its state: the trace is serial so far, the node is a spine, and calls and dones balance
    against the tasks below the spine unless an unexpected failure has escaped -/
def SpineOK (r : Res Node × ExecSt) : Prop :=
  SerialTr r.2.trace ∧ SpineSRes r.1 ∧ (EscRes r.1 ∨ ncalls r.2.trace = ndones r.2.trace + ntasksRes r.1)

/-- What the `cb` of `_next`, chained on the node `F` of a top-level field, makes of it — at once in `_next`, or when the
    task `F` waited for completes: parked while `F` is pending, handed through when `F` failed, and `_next` on the rest of
    the queue (`ih`) when `F` holds data. -/
theorem serialCb_top (key : String) (resolved : List (String × V)) (args : Flds)
    (ih : ∀ resolved s, SerialTr s.trace → ncalls s.trace = ndones s.trace → SpineOK (serialNext [] resolved args s))
    (F : Node) (s1 : ExecSt) (hfi : FieldInv F) (htr : SerialTr s1.trace)
    (hbal : isFailedNR F = true ∨ ncalls s1.trace = ndones s1.trace + ntasks F) :
    SpineOK (.ok (chainOnFinish applyCont F (.serialCb [] key resolved args) s1).1,
      (chainOnFinish applyCont F (.serialCb [] key resolved args) s1).2) := by
  have parked : isFailedNR F = false → SpineOK (.ok (.chain F (.serialCb [] key resolved args)), s1) := fun hnf =>
    ⟨htr, hfi, .inr (hbal.resolve_left fun h => Bool.false_ne_true (hnf.symm.trans h))⟩
  cases F with
  | val x => exact parked rfl
  | task a b c d => exact parked rfl
  | chain a b => exact parked rfl
  | unwrap a => exact parked rfl
  | gather a b c => exact parked rfl
  | failed e =>
    have he : chainOnFinish applyCont (.failed e) (.serialCb [] key resolved args) s1 = (.failed e, s1) := by cases e <;> rfl
    rw [he]
    exact ⟨htr, trivial, hbal⟩
  | done r =>
    cases r with
    | val x =>
      have hb1 : ncalls s1.trace = ndones s1.trace := hbal.resolve_left fun h => Bool.false_ne_true h
      cases x with
      | data v =>
        have j := ih (resolved ++ [(key, v)]) s1 htr hb1
        simp only [chainOnFinish, Node.plain, applyCont]
        generalize serialNext [] (resolved ++ [(key, v)]) args s1 = y at j ⊢
        obtain ⟨S' | e2, s2⟩ := y
        · exact j
        · exact ⟨j.1, trivial, j.2.2⟩
      | _ => exact ⟨htr, trivial, .inr hb1⟩
    | _ => cases hfi.2.1

theorem serialNext_top : ∀ (args : Flds) (resolved : List (String × V)) (s : ExecSt),
    SerialTr s.trace → ncalls s.trace = ndones s.trace → SpineOK (serialNext [] resolved args s)
  | .nil, _, _, ht, hb => ⟨ht, trivial, .inr hb⟩
  | .cons key mode out rest, resolved, s, ht, hb => by
    obtain ⟨ht1, hbal⟩ := resolveField_top key mode out s ht hb
    obtain ⟨⟨e1, e2, e3⟩, -, hns⟩ := resolveField_ev out ([] ++ [.key key]) mode s, resolveField_step out ([] ++ [.key key]) mode s (by simp)
    rw [serialNext_cons]
    generalize resolveField ([] ++ [.key key]) mode out s = x at ht1 hbal hns e1 e2 e3 ⊢
    obtain ⟨n | e, s1⟩ := x
    · -- on a Future `chain` fires `cb` at once or parks it, and nothing propagates to `_next`
      have fut (hfu : n.isFuture = true) : SpineOK (mapValue applyCont n (.serialCb [] key resolved rest) s1) := by
        rw [mapValue_future applyCont _ hfu]
        exact serialCb_top key resolved rest (serialNext_top rest) n s1 ⟨e2, e3, notRerr_of_den e1, hns⟩ ht1 hbal
      cases n with
      | val x =>
        have hb1 : ncalls s1.trace = ndones s1.trace := hbal.resolve_left fun h => Bool.false_ne_true h
        cases x with
        | data v => exact serialNext_top rest _ s1 ht1 hb1
        | _ => exact ⟨ht1, trivial, .inr hb1⟩
      | _ => exact fut rfl
    · exact ⟨ht1, trivial, .inl (exc_NR_of_den e1)⟩

/-- the shapes of the overall result node of a mutation -/
def TShape : Node → Prop
  | .chain (.unwrap (.chain F (.serialCb [] _ _ _))) .onFinish => FieldInv F
  | .val _ => True
  | .failed _ => True
  | .done (.val _) => True
  | _ => False

theorem TShape.cases {top : Node} (h : TShape top) :
    top.finished = true ∨ ∃ F key resolved args,
      top = .chain (.unwrap (.chain F (.serialCb [] key resolved args))) .onFinish ∧ FieldInv F := by
  unfold TShape at h
  split at h
  · exact .inr ⟨_, _, _, _, rfl, h⟩
  · exact .inl rfl
  · exact .inl rfl
  · exact .inl rfl
  · exact h.elim

/-- the outer `unwrap_value` and `_on_finish` on top of a spine give a node of the overall shape -/
theorem close_shape (S : Node) (s : ExecSt) : SpineS S → TShape (chainOnFinish applyCont (unwrapCb S) .onFinish s).1 := by
  fun_induction unwrapCb S with
  | case3 r _ ih => exact ih
  | case5 p hf _ hd hv =>
    intro h
    -- the only pending spine is the parked `serialCb` chain of a top-level field
    cases p with
    | chain F k =>
      cases k with
      | serialCb q a b c => cases q <;> exact h
      | _ => exact False.elim h
    | val x => exact absurd rfl (hv x)
    | failed e => exact absurd rfl (hf e)
    | done r => exact absurd rfl (hd r)
    | _ => exact False.elim h
  | _ => exact fun _ => trivial

/-- … and they neither touch the state nor add or lose a task or a failure -/
theorem close_same (S : Node) (s : ExecSt) :
    (chainOnFinish applyCont (unwrapCb S) .onFinish s).2 = s ∧
    ntasks (chainOnFinish applyCont (unwrapCb S) .onFinish s).1 = ntasks S ∧
    isFailedNR (chainOnFinish applyCont (unwrapCb S) .onFinish s).1 = isFailedNR S := by
  rw [← ntasks_unwrapCb S, ← failedNR_unwrapCb S]
  rcases unwrapCb_shape S with ⟨e, h⟩ | ⟨x, h⟩ | ⟨g, h⟩ <;> rw [h] <;> exact ⟨rfl, rfl, rfl⟩

/-- global invariant of a mutation run -/
def TopSerial (top : Node) (s : ExecSt) : Prop :=
  TShape top ∧ SerialTr s.trace ∧ (isFailedNR top = true ∨ ncalls s.trace = ndones s.trace + ntasks top)

/-- one completion seen from the spine: the serial callback (if its source finished), the outer unwrap, `_on_finish` -/
def spineStep (F' : Node) (s1 : ExecSt) (key : String) (resolved : List (String × V)) (args : Flds) : Node × ExecSt :=
  chainOnFinish applyCont (unwrapCb (chainOnFinish applyCont F' (.serialCb [] key resolved args) s1).1) .onFinish
    (chainOnFinish applyCont F' (.serialCb [] key resolved args) s1).2

theorem SpineOK.close {n : Node} {s : ExecSt} (h : SpineOK (.ok n, s)) :
    TopSerial (chainOnFinish applyCont (unwrapCb n) .onFinish s).1 (chainOnFinish applyCont (unwrapCb n) .onFinish s).2 := by
  obtain ⟨c2, c3, c4⟩ := close_same n s
  refine ⟨close_shape _ _ h.2.1, ?_, ?_⟩
  · rw [c2]
    exact h.1
  · rw [c2, c3, c4]
    exact h.2.2

theorem spineStep_ok (F' : Node) (s1 : ExecSt) (key : String) (resolved : List (String × V)) (args : Flds)
    (hfi' : FieldInv F') (htr1 : SerialTr s1.trace)
    (hbal1 : isFailedNR F' = true ∨ ncalls s1.trace = ndones s1.trace + ntasks F') :
    TopSerial (spineStep F' s1 key resolved args).1 (spineStep F' s1 key resolved args).2 :=
  (serialCb_top key resolved args (serialNext_top args) F' s1 hfi' htr1 hbal1).close

/-- completing a task below the spine: the field node first, then the spine on top of it -/
theorem deliver_spineStep (t : Nat) (F : Node) (key : String) (resolved : List (String × V)) (args : Flds) (s : ExecSt) :
    deliver applyCont t (.chain (.unwrap (.chain F (.serialCb [] key resolved args))) .onFinish) s
      = spineStep (deliver applyCont t F s).1 (deliver applyCont t F s).2 key resolved args := by
  simp only [deliver, spineStep]

theorem deliver_spine (top : Node) (t : Nat) (s : ExecSt) (h : TopSerial top s) :
    TopSerial (deliver applyCont t top s).1 (deliver applyCont t top s).2 := by
  obtain ⟨hshape, htr, hbal⟩ := h
  rcases hshape.cases with hfin | ⟨F, key, resolved, args, rfl, hg, hf, hre, hns⟩
  · rw [deliver_finished applyCont t top s hfin]
    exact ⟨hshape, htr, hbal⟩
  · obtain ⟨⟨Δ, t1, n1, c1⟩, i2⟩ := deliver_step F t s hg hns
    obtain ⟨e1, e2, e3⟩ := deliver_ev F t s hg
    have hb0 : ncalls s.trace = ndones s.trace + ntasks F := hbal.resolve_left fun h => Bool.false_ne_true h
    rw [deliver_spineStep]
    refine spineStep_ok _ _ key resolved args ⟨e2, e3 hf, e1 ▸ hre, i2⟩ (t1 ▸ serialTr_append_nonTop _ Δ htr n1) ?_
    rcases c1 with c | c
    · exact .inl c.2
    · right
      rw [t1, ncalls_append, ndones_append]
      omega

theorem stepSched_serial (top : Node) (s : ExecSt) (i : Nat) (h : TopSerial top s) :
    TopSerial (stepSched top s i).1 (stepSched top s i).2 := by
  unfold stepSched
  simp only
  split
  · exact h
  · rename_i t _
    exact deliver_spine top t { s with queue := removeAt s.queue (i % s.queue.length) } h

theorem runSched_serial (sched : List Nat) (top : Node) (s : ExecSt) (sizes : List Nat) (h : TopSerial top s) :
    SerialTr (runSched top s sizes sched).st.trace :=
  (runSched_preserves (P := TopSerial) stepSched_serial sched top s sizes h).2.1

theorem execute_serial (fields : Flds) :
    match execute ⟨.mutation, fields⟩ {} with
    | (.exc _, s) => SerialTr s.trace
    | (.ok top, s) => TopSerial top s := by
  obtain ⟨j1, j2, j3⟩ := serialNext_top fields [] {} serialTr_nil rfl
  unfold execute
  simp only [executeFieldsSerially]
  generalize serialNext [] [] fields {} = x at j1 j2 j3 ⊢
  obtain ⟨n | e, s1⟩ := x
  · -- on a Future the outer `unwrap_value` registers, and `_on_finish` is chained on that
    have fut : (match mapValue applyCont (unwrapCb n) .onFinish s1 with
        | (.exc _, s) => SerialTr s.trace
        | (.ok top, s) => TopSerial top s) := by
      rw [mapValue_future applyCont .onFinish (unwrapCb_isFuture n)]
      exact SpineOK.close ⟨j1, j2, j3⟩
    cases n with
    | val x => exact ⟨trivial, j1, j3⟩
    | _ => exact fut
  · exact j1

end PyGql.AsyncExec
