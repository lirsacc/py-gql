/-
  C12 — `build doc = build (doc.map eraseCustom)` for ARBITRARY documents, over the environment lemmas of
  `Lemmas/SdlEraseEnv.lean`: `_collect_definitions`, the part of `build_schema_ignoring_extensions` after it, and
  `extend_schema` (type extensions, schema extensions, the default values evaluated again in the extended types).
-/
import PyGqlModel.Lemmas.SdlEraseEnv
namespace PyGql.Props.C12
open PyGql PyGql.Sdl PyGql.SdlPrintTA


def eraseCollected (c : Collected) : Collected :=
  { schemaDef := c.schemaDef.map eraseSD, types := c.types.map eraseType, directives := c.directives.map eraseDir }

theorem collectStep_erase (acc : Collected) (d : Def) :
    collectStep (eraseCollected acc) (eraseCustom d) = (collectStep acc d).map eraseCollected := by
  cases d with
  | schema sd =>
    simp only [eraseCustom_schema, collectStep, eraseCollected, Option.isSome_map]
    cases acc.schemaDef.isSome <;> rfl
  | type t =>
    have hn : (eraseType t).name = t.name := rfl
    have ha : (acc.types.map eraseType).any (fun x => x.name == t.name) = acc.types.any (fun x => x.name == t.name) := by
      simp only [List.any_map, Function.comp_def]; rfl
    simp only [eraseCustom, collectStep, eraseCollected, hn, ha]
    cases acc.types.any (fun x => x.name == t.name)
    · cases isDefaultName t.name
      · simp only [Bool.false_eq_true, if_false, pure, Except.pure, Except.map, eraseCollected, List.map_append, List.map_cons, List.map_nil]
      · rfl
    · rfl
  | directive dd =>
    have ha : (acc.directives.map eraseDir).any (fun x => x.name == dd.name) = acc.directives.any (fun x => x.name == dd.name) := by
      simp only [List.any_map, Function.comp_def]; rfl
    have hn : (eraseDir dd).name = dd.name := rfl
    simp only [eraseCustom_directive, collectStep, eraseCollected, hn, ha]
    cases acc.directives.any (fun x => x.name == dd.name)
    · simp only [Bool.false_eq_true, if_false, pure, Except.pure, Except.map, eraseCollected, List.map_append, List.map_cons, List.map_nil]
    · rfl
  | ext t => rfl
  | schemaExt sd => rfl
  | other => rfl

theorem collectFold_erase : ∀ (doc : Doc) (acc : Collected),
    (doc.map eraseCustom).foldlM collectStep (eraseCollected acc) = (doc.foldlM collectStep acc).map eraseCollected
  | [], _ => rfl
  | d :: ds, acc => by
    simp only [List.map_cons, List.foldlM_cons, collectStep_erase]
    cases collectStep acc d with
    | error e => rfl
    | ok acc' => exact collectFold_erase ds acc'

theorem collectDefinitions_erase (doc : Doc) :
    collectDefinitions (doc.map eraseCustom) = (collectDefinitions doc).map eraseCollected :=
  collectFold_erase doc {}


theorem buildRoots_erase {e' e : Env} (h : EnvErase e' e) (sd : Option SchemaDef) (types : List TypeD) :
    buildRoots e' (sd.map eraseSD) types = buildRoots e sd types := by
  cases sd with
  | none => rfl
  | some sd => simp only [Option.map_some, buildRoots, eraseSD, resolves_erase_fun h]

theorem buildCollected_erase (c : Collected) (additional : List TypeD) :
    buildCollected (eraseCollected c) additional =
      (buildCollected c additional >>= fun p => pure (Env.of (c.types.map eraseType) additional, p.2)) := by
  have h := envErase_of c.types additional
  have hd := mapM_map_congr' eraseDir (buildDirective (Env.of (c.types.map eraseType) additional))
    (buildDirective (Env.of c.types additional)) (buildDirective_eraseEnv h) c.directives
  have ht := mapM_map_congr' eraseType (buildType (Env.of (c.types.map eraseType) additional))
    (buildType (Env.of c.types additional)) (buildType_eraseEnv h) c.types
  simp only [buildCollected, eraseCollected, hasThunkCycle_erase h, hd, ht, buildRoots_erase h, bind_assoc, pure_bind]


theorem filterMap_erase {α} (g : Def → Option α) (f : α → α) (hg : ∀ d, g (eraseCustom d) = (g d).map f) (doc : Doc) :
    (doc.map eraseCustom).filterMap g = (doc.filterMap g).map f := by
  rw [List.filterMap_map, List.map_filterMap]
  congr 1
  funext d
  exact hg d

theorem typeExtensions_erase (live : Live) (doc : Doc) :
    typeExtensions live (doc.map eraseCustom) = (typeExtensions live doc).map eraseType := by
  apply filterMap_erase
  intro d
  cases d with
  | ext t =>
    have hn : (eraseType t).name = t.name := rfl
    simp only [eraseCustom, hn]
    cases (isDefaultName t.name || live.types.any (·.name == t.name)) <;> rfl
  | _ => rfl

theorem schemaExtensions_erase (doc : Doc) : schemaExtensions (doc.map eraseCustom) = (schemaExtensions doc).map eraseSD :=
  filterMap_erase _ _ (fun d => by cases d <;> rfl) doc

theorem directiveDefs_erase (doc : Doc) : directiveDefs (doc.map eraseCustom) = (directiveDefs doc).map eraseDir :=
  filterMap_erase _ _ (fun d => by cases d <;> rfl) doc

theorem mergeFold_erase : ∀ (l : List TypeDef) (t : TypeDef),
    l.foldl (fun (acc : TypeDef) (y : TypeDef) =>
      { acc with interfaces := acc.interfaces ++ (eraseType y).interfaces, fields := acc.fields ++ (eraseType y).fields,
                 members := acc.members ++ (eraseType y).members, values := acc.values ++ (eraseType y).values,
                 inputFields := acc.inputFields ++ (eraseType y).inputFields }) (eraseType t) =
    eraseType (l.foldl (fun (acc : TypeDef) (e : TypeDef) =>
      { acc with interfaces := acc.interfaces ++ e.interfaces, fields := acc.fields ++ e.fields, members := acc.members ++ e.members,
                 values := acc.values ++ e.values, inputFields := acc.inputFields ++ e.inputFields }) t)
  | [], _ => rfl
  | x :: xs, t => by
    simp only [List.foldl_cons]
    rw [← mergeFold_erase xs]
    congr 1
    simp only [eraseType, List.map_append]

theorem mergeExt_erase (exts : List TypeDef) (t : TypeDef) :
    mergeExt (exts.map eraseType) (eraseType t) = eraseType (mergeExt exts t) := by
  have hn : (eraseType t).name = t.name := rfl
  have hf : (exts.map eraseType).filter (fun x => x.name == t.name) = (exts.filter (fun x => x.name == t.name)).map eraseType := by
    rw [List.filter_map]; rfl
  unfold mergeExt
  rw [hn, hf, List.foldl_map]
  exact mergeFold_erase _ t

theorem envErase_extended {e' e : Env} (h : EnvErase e' e) (texts : List TypeDef) :
    EnvErase (e'.extended (texts.map eraseType)) (e.extended texts) := by
  refine ⟨h.add, fun n => ?_⟩
  simp only [Env.extended, h.defs]
  cases e.findDef n with
  | none => rfl
  | some d => simp only [Option.map_some, mergeExt_erase]

section
variable {e' e : Env} (h : EnvErase e' e)
include h

theorem touches_erase (hide : String) : ∀ fuel : Nat,
    (∀ lit ty, touches e' hide fuel lit ty = touches e hide fuel lit ty) ∧
    (∀ items t, touchesItems e' hide fuel items t = touchesItems e hide fuel items t) ∧
    (∀ given (l : List InputValDef), touchesFields e' hide fuel given (l.map eraseIV) = touchesFields e hide fuel given l) := by
  intro fuel
  induction fuel with
  | zero => exact ⟨fun _ _ => rfl, fun _ _ => rfl, fun _ _ => rfl⟩
  | succ k ih =>
    obtain ⟨i1, i2, i3⟩ := ih
    refine ⟨?_, ?_, ?_⟩
    · intro lit ty
      cases ty with
      | nonNull t => cases lit <;> simp only [touches, i1]
      | list t => cases lit <;> simp only [touches, i1, i2]
      | named n =>
        cases lit <;> simp only [touches, h.add, h.defs]
        cases hfa : e.findAdditional n <;> cases hfd : e.findDef n <;>
          simp only [Option.map_some, Option.map_none, eraseType, i3]
    · intro items t
      cases items with
      | nil => rfl
      | cons x xs => simp only [touchesItems, i1, i2]
    · intro given l
      cases l with
      | nil => rfl
      | cons f fs =>
        simp only [List.map_cons, touchesFields, i3, i1]
        rfl

theorem needsHidden_erase (hide : Option String) (lit : Lit) (ty : Ty) :
    needsHidden e' hide lit ty = needsHidden e hide lit ty := by
  cases hide with
  | none => rfl
  | some hd => simp only [needsHidden, (touches_erase h hd coerceFuel).1]

end

theorem buildEnumValues_erase (l : List EnumValDef) : (l.map eraseEnumVal).mapM buildEnumValue = l.mapM buildEnumValue :=
  mapM_map_congr' eraseEnumVal buildEnumValue buildEnumValue buildEnumValue_erase l

section
variable {eB' eB eX' eX : Env} (hB : EnvErase eB' eB) (hX : EnvErase eX' eX)
include hB hX

theorem defaultValueX_erase (hide : Option String) (lit : Lit) (ty : Ty) :
    defaultValueX eB' eX' hide lit ty = defaultValueX eB eX hide lit ty := by
  simp only [defaultValueX, needsHidden_erase hX, defaultValue_erase hB, defaultValue_erase hX]

theorem buildArgumentX_eraseEnv (hide : Option String) (a : InputValDef) :
    buildArgumentX eB' eX' hide (eraseIV a) = buildArgumentX eB eX hide a := by
  unfold buildArgumentX
  simp only [checkRef_erase hB, defaultValueX_erase hB hX]
  rfl

theorem buildArgumentsX_eraseEnv (hide : Option String) (l : List InputValDef) :
    (l.map eraseIV).mapM (buildArgumentX eB' eX' hide) = l.mapM (buildArgumentX eB eX hide) :=
  mapM_map_congr' _ _ _ (buildArgumentX_eraseEnv hB hX hide) l

theorem buildFieldX_eraseEnv (hide : Option String) (f : FieldDef) :
    buildFieldX eB' eX' hide (eraseField f) = buildFieldX eB eX hide f := by
  simp only [buildFieldX, eraseField, checkRef_erase hB, buildArgumentsX_eraseEnv hB hX, deprecationReason_erase]

theorem buildFieldsX_eraseEnv (hide : Option String) (l : List FieldDef) :
    (l.map eraseField).mapM (buildFieldX eB' eX' hide) = l.mapM (buildFieldX eB eX hide) :=
  mapM_map_congr' _ _ _ (buildFieldX_eraseEnv hB hX hide) l

theorem buildTypeDefX_eraseEnv (hide : Option String) (d : TypeDef) :
    buildTypeDefX eB' eX' hide (eraseType d) = buildTypeDefX eB eX hide d := by
  have hn : (d.values.map eraseEnumVal).map (·.name) = d.values.map (·.name) := by
    simp [List.map_map, Function.comp_def, eraseEnumVal]
  unfold buildTypeDefX
  have hk : (eraseType d).kind = d.kind := rfl
  rw [hk]
  cases d.kind <;>
    simp only [eraseType, checkNames_erase hB, buildFieldsX_eraseEnv hB hX, buildEnumValues_erase,
      buildArgumentsX_eraseEnv hB hX, hn]

theorem buildDirectiveX_eraseEnv (d : DirDef) : buildDirectiveX eB' eX' (eraseDir d) = buildDirectiveX eB eX d := by
  simp only [buildDirectiveX, eraseDir, buildArgumentsX_eraseEnv hB hX]

theorem extendTypeX_erase (hide : Option String) (texts : List TypeDef) (t : TypeD) :
    extendTypeX eB' eX' hide (texts.map eraseType) t = extendTypeX eB eX hide texts t := by
  have hf : (texts.map eraseType).filter (fun x => x.name == t.name) = (texts.filter (fun x => x.name == t.name)).map eraseType := by
    rw [List.filter_map]; rfl
  have hany : ((texts.filter (fun x => x.name == t.name)).map eraseType).any (fun x => x.kind != t.kind) =
      (texts.filter (fun x => x.name == t.name)).any (fun x => x.kind != t.kind) := by
    simp only [List.any_map, Function.comp_def]; rfl
  unfold extendTypeX
  simp only [hf, hany, List.foldlM_map]
  cases t.kind <;>
    simp only [eraseType, checkNames_erase hB, buildFieldsX_eraseEnv hB hX, buildEnumValues_erase,
      buildArgumentsX_eraseEnv hB hX]

theorem reDefault_erase (hide : Option String) (texts : List TypeDef) (t : TypeD) :
    reDefault eB' eX' hide (texts.map eraseType) t = reDefault eB eX hide texts t := by
  simp only [reDefault, hB.add, hB.defs]
  cases eB.findAdditional t.name <;> cases eB.findDef t.name <;>
    simp only [Option.map_some, Option.map_none, mergeExt_erase, buildTypeDefX_eraseEnv hB hX]

theorem reDefaultDirective_erase (doc : Doc) (d : DirectiveD) :
    reDefaultDirective eB' eX' (doc.map eraseCustom) d = reDefaultDirective eB eX doc d := by
  have hfind : ((directiveDefs doc).map eraseDir).find? (fun x => x.name == d.name) =
      ((directiveDefs doc).find? (fun x => x.name == d.name)).map eraseDir :=
    find?_map_name eraseDir DirDef.name (fun _ => rfl) d.name _
  simp only [reDefaultDirective, directiveDefs_erase, hfind]
  cases (directiveDefs doc).find? (fun x => x.name == d.name) <;>
    simp only [Option.map_some, Option.map_none, buildDirectiveX_eraseEnv hB hX]

end

theorem mapM_congr_fun {α β} (F G : α → R β) (hfg : ∀ a, F a = G a) (l : List α) : l.mapM F = l.mapM G := by
  have : F = G := funext hfg
  rw [this]

theorem extendSchema_erase {e' e : Env} (h : EnvErase e' e) (live : Live) (doc : Doc) (additional : List TypeD) :
    extendSchema e' live (doc.map eraseCustom) additional = extendSchema e live doc additional := by
  have hX := envErase_extended h (typeExtensions live doc)
  have hany : ((typeExtensions live doc).map eraseType).any (fun x => isDefaultName x.name && x.kind != builtinKind x.name) =
      (typeExtensions live doc).any (fun x => isDefaultName x.name && x.kind != builtinKind x.name) := by
    simp only [List.any_map, Function.comp_def]; rfl
  have h1 : (fun t : TypeD => extendTypeX e' (e'.extended ((typeExtensions live doc).map eraseType)) (hideFor t.kind t.name)
      ((typeExtensions live doc).map eraseType) t) =
      (fun t : TypeD => extendTypeX e (e.extended (typeExtensions live doc)) (hideFor t.kind t.name) (typeExtensions live doc) t) :=
    funext fun t => extendTypeX_erase h hX _ _ t
  have h2 : (fun t : TypeD => reDefault e' (e'.extended ((typeExtensions live doc).map eraseType)) (hideFor t.kind t.name)
      ((typeExtensions live doc).map eraseType) t) =
      (fun t : TypeD => reDefault e (e.extended (typeExtensions live doc)) (hideFor t.kind t.name) (typeExtensions live doc) t) :=
    funext fun t => reDefault_erase h hX _ _ t
  have h3 : reDefaultDirective e' (e'.extended ((typeExtensions live doc).map eraseType)) (doc.map eraseCustom) =
      reDefaultDirective e (e.extended (typeExtensions live doc)) doc :=
    funext fun d => reDefaultDirective_erase h hX doc d
  unfold extendSchema
  simp only [typeExtensions_erase, schemaExtensions_erase, List.isEmpty_map, hany, h1, h2, h3, List.foldlM_map, eraseSD]

end PyGql.Props.C12
