/-
  The loop of `_read_string` (`readStringBody`) branch by branch: one equation per branch, and its induction principle
  with the branches named (`readStringBody_ind`) instead of numbered.  A branch that goes on reading puts one more
  character in front of what the rest of the loop returns: `(readStringBody n t).map fun p => (c :: p.1, p.2)`.
-/
import PyGqlModel.Lex
namespace PyGql.Lex

theorem pairAt_some_length (hi cp : Nat) (t : Text) (h : pairAt hi t = some cp) :
    ∃ e1 e2 a b c d t3, t = e1 :: e2 :: a :: b :: c :: d :: t3 := by
  unfold pairAt at h
  split at h
  · exact ⟨_, _, _, _, _, _, _, rfl⟩
  · cases h

theorem pairAt_of_not_high (ch : Nat) (t : Text) (hh : isHighSurrogate ch = false) : pairAt ch t = none := by
  unfold pairAt
  split
  · simp [pairEscape, hh]
  · rfl

theorem quoted_u : quoted 117 = none := by decide

/-! ### one equation per branch -/

theorem readStringBody_nil (n : Nat) : readStringBody n [] = .error ⟨.nonTerminatedString, n⟩ := by
  rw [readStringBody.eq_def]

/-- the closing quote -/
theorem readStringBody_quote (n : Nat) (t : Text) : readStringBody n (34 :: t) = .ok ([], t) := by
  rw [readStringBody.eq_def]; rfl

/-- the text ends behind a backslash -/
theorem readStringBody_backslash_end (n : Nat) : readStringBody n [92] = .error ⟨.nonTerminatedString, n + 1⟩ := by
  rw [readStringBody.eq_def]; rfl

/-- `\` EscapedCharacter -/
theorem readStringBody_escape (n : Nat) {e ch : Nat} (t1 : Text) (hq : quoted e = some ch) :
    readStringBody n (92 :: e :: t1) = (readStringBody n t1).map (fun p => (ch :: p.1, p.2)) := by
  rw [readStringBody.eq_def]
  simp only [Nat.reduceEqDiff, ↓reduceIte, hq]
  cases readStringBody n t1 with
  | ok p => obtain ⟨v, r⟩ := p; rfl
  | error e => rfl

/-- `\` followed by a character that is neither in `QUOTED_CHARS` nor `u` -/
theorem readStringBody_bad_escape (n : Nat) {e : Nat} (t1 : Text) (hq : quoted e = none) (hu : e ≠ 117) :
    readStringBody n (92 :: e :: t1) = .error ⟨.invalidEscapeSequence, posAt n t1 - 1⟩ := by
  rw [readStringBody.eq_def]
  simp only [Nat.reduceEqDiff, ↓reduceIte, hq, hu]

/-- `\u` followed by fewer than four characters -/
theorem readStringBody_short (n : Nat) (t1 : Text) (hl : t1.length < 4) :
    readStringBody n (92 :: 117 :: t1) = .error (shortUnicodeErr n t1) := by
  rw [readStringBody.eq_def]
  simp only [Nat.reduceEqDiff, ↓reduceIte, quoted_u]
  match t1, hl with
  | [], _ | [_], _ | [_, _], _ | [_, _, _], _ => rfl

/-- `\u` followed by four characters that are not four hex digits -/
theorem readStringBody_bad_hex (n : Nat) {a b c d : Nat} (t2 : Text) (hx : hex4 a b c d = none) :
    readStringBody n (92 :: 117 :: a :: b :: c :: d :: t2) =
      .error ⟨.invalidEscapeSequence, posAt n (a :: b :: c :: d :: t2) - 1⟩ := by
  rw [readStringBody.eq_def]
  simp only [Nat.reduceEqDiff, ↓reduceIte, quoted_u, hx]

/-- `\uXXXX` not followed by a pairing low-surrogate escape: one code unit -/
theorem readStringBody_unicode_nopair (n : Nat) (a b c d ch : Nat) (t2 : Text) (hx : hex4 a b c d = some ch)
    (hnp : pairAt ch t2 = none) :
    readStringBody n (92 :: 117 :: a :: b :: c :: d :: t2) =
      (readStringBody n t2).map (fun p => (ch :: p.1, p.2)) := by
  rw [readStringBody.eq_def]
  simp only [Nat.reduceEqDiff, ↓reduceIte, quoted_u, hx, hnp]
  cases readStringBody n t2 with
  | ok p => obtain ⟨v, r⟩ := p; rfl
  | error e => rfl

/-- a `\uXXXX` escape that is not a high surrogate is one code unit (no pairing) -/
theorem readStringBody_unicode_single (n : Nat) (a b c d ch : Nat) (t2 : Text) (hx : hex4 a b c d = some ch)
    (hh : isHighSurrogate ch = false) :
    readStringBody n (92 :: 117 :: a :: b :: c :: d :: t2) =
      (readStringBody n t2).map (fun p => (ch :: p.1, p.2)) :=
  readStringBody_unicode_nopair n a b c d ch t2 hx (pairAt_of_not_high ch t2 hh)

/-- `\uHHHH\uLLLL` with a high and a low surrogate: one astral character -/
theorem readStringBody_unicode_pair (n : Nat) (a b c d ch e1 e2 a2 b2 c2 d2 cp : Nat) (t3 : Text)
    (hx : hex4 a b c d = some ch) (hp : pairAt ch (e1 :: e2 :: a2 :: b2 :: c2 :: d2 :: t3) = some cp) :
    readStringBody n (92 :: 117 :: a :: b :: c :: d :: e1 :: e2 :: a2 :: b2 :: c2 :: d2 :: t3) =
      (readStringBody n t3).map (fun p => (cp :: p.1, p.2)) := by
  rw [readStringBody.eq_def]
  simp only [Nat.reduceEqDiff, ↓reduceIte, quoted_u, hx, hp]
  cases readStringBody n t3 with
  | ok p => obtain ⟨v, r⟩ := p; rfl
  | error e => rfl

/-- a line terminator inside the string -/
theorem readStringBody_lineTerm (n : Nat) {c : Nat} (t : Text) (hc : c = 10 ∨ c = 13) :
    readStringBody n (c :: t) = .error ⟨.nonTerminatedString, posAt n t - 1⟩ := by
  have h34 : c ≠ 34 := by omega
  have h92 : c ≠ 92 := by omega
  rw [readStringBody.eq_def]
  simp only [h34, h92, hc, ↓reduceIte]

/-- a character below U+0020 other than TAB -/
theorem readStringBody_unprintable (n : Nat) {c : Nat} (t : Text) (h34 : c ≠ 34) (h92 : c ≠ 92) (hnl : ¬ (c = 10 ∨ c = 13))
    (hp : isPrintable c = false) : readStringBody n (c :: t) = .error ⟨.invalidCharacter, posAt n t - 1⟩ := by
  rw [readStringBody.eq_def]
  simp only [h34, h92, hnl, hp, ↓reduceIte, Bool.not_false]

/-- any other character stands for itself -/
theorem readStringBody_char (n : Nat) {c : Nat} (t : Text) (h34 : c ≠ 34) (h92 : c ≠ 92) (hnl : ¬ (c = 10 ∨ c = 13))
    (hp : isPrintable c = true) :
    readStringBody n (c :: t) = (readStringBody n t).map (fun p => (c :: p.1, p.2)) := by
  rw [readStringBody.eq_def]
  simp only [h34, h92, hnl, hp, ↓reduceIte, Bool.not_true, Bool.false_eq_true]
  cases readStringBody n t with
  | ok p => obtain ⟨v, r⟩ := p; rfl
  | error e => rfl

/-! ### induction over the loop, the branches by name -/

theorem readStringBody_ind (n : Nat) {P : Text → R (Text × Text) → Prop}
    (nil : P [] (.error ⟨.nonTerminatedString, n⟩))
    (quote : ∀ t, P (34 :: t) (.ok ([], t)))
    (backslashEnd : P [92] (.error ⟨.nonTerminatedString, n + 1⟩))
    (escape : ∀ e ch t1, quoted e = some ch → P t1 (readStringBody n t1) →
      P (92 :: e :: t1) ((readStringBody n t1).map fun p => (ch :: p.1, p.2)))
    (badEscape : ∀ e t1, quoted e = none → e ≠ 117 → P (92 :: e :: t1) (.error ⟨.invalidEscapeSequence, posAt n t1 - 1⟩))
    (short : ∀ t1, t1.length < 4 → P (92 :: 117 :: t1) (.error (shortUnicodeErr n t1)))
    (badHex : ∀ a b c d t2, hex4 a b c d = none →
      P (92 :: 117 :: a :: b :: c :: d :: t2) (.error ⟨.invalidEscapeSequence, posAt n (a :: b :: c :: d :: t2) - 1⟩))
    (unicode : ∀ a b c d ch t2, hex4 a b c d = some ch → pairAt ch t2 = none → P t2 (readStringBody n t2) →
      P (92 :: 117 :: a :: b :: c :: d :: t2) ((readStringBody n t2).map fun p => (ch :: p.1, p.2)))
    (pair : ∀ a b c d ch e1 e2 a2 b2 c2 d2 cp t3, hex4 a b c d = some ch →
      pairAt ch (e1 :: e2 :: a2 :: b2 :: c2 :: d2 :: t3) = some cp → P t3 (readStringBody n t3) →
      P (92 :: 117 :: a :: b :: c :: d :: e1 :: e2 :: a2 :: b2 :: c2 :: d2 :: t3)
        ((readStringBody n t3).map fun p => (cp :: p.1, p.2)))
    (lineTerm : ∀ c t, c = 10 ∨ c = 13 → P (c :: t) (.error ⟨.nonTerminatedString, posAt n t - 1⟩))
    (unprintable : ∀ c t, c ≠ 34 → c ≠ 92 → ¬ (c = 10 ∨ c = 13) → isPrintable c = false →
      P (c :: t) (.error ⟨.invalidCharacter, posAt n t - 1⟩))
    (char : ∀ c t, c ≠ 34 → c ≠ 92 → ¬ (c = 10 ∨ c = 13) → isPrintable c = true → P t (readStringBody n t) →
      P (c :: t) ((readStringBody n t).map fun p => (c :: p.1, p.2))) :
    ∀ s, P s (readStringBody n s) := by
  have key : ∀ m (s : Text), s.length ≤ m → P s (readStringBody n s) := by
    intro m
    induction m with
    | zero =>
      intro s hs
      cases s with
      | nil => rw [readStringBody_nil]; exact nil
      | cons c t => cases hs
    | succ m ih =>
      intro s hs
      have hrec : ∀ t : Text, t.length ≤ m → P t (readStringBody n t) := ih
      match s, hs with
      | [], _ => rw [readStringBody_nil]; exact nil
      | c :: t, hs =>
        have ht : t.length ≤ m := Nat.le_of_succ_le_succ hs
        by_cases h34 : c = 34
        · subst h34; rw [readStringBody_quote]; exact quote t
        by_cases h92 : c = 92
        · subst h92
          match t, ht with
          | [], _ => rw [readStringBody_backslash_end]; exact backslashEnd
          | e :: t1, ht =>
            have ht1 : t1.length ≤ m := Nat.le_of_succ_le ht
            cases hq : quoted e with
            | some ch => rw [readStringBody_escape n t1 hq]; exact escape e ch t1 hq (hrec t1 ht1)
            | none =>
              by_cases hu : e = 117
              · subst hu
                match t1, ht1 with
                | a :: b :: c :: d :: t2, ht2 =>
                  have hl2 : t2.length ≤ m := by simp only [List.length_cons] at ht2; omega
                  cases hx : hex4 a b c d with
                  | none => rw [readStringBody_bad_hex n t2 hx]; exact badHex a b c d t2 hx
                  | some ch =>
                    cases hp : pairAt ch t2 with
                    | none =>
                      rw [readStringBody_unicode_nopair n a b c d ch t2 hx hp]
                      exact unicode a b c d ch t2 hx hp (hrec t2 hl2)
                    | some cp =>
                      obtain ⟨e1, e2, a2, b2, c2, d2, t3, rfl⟩ := pairAt_some_length ch cp t2 hp
                      rw [readStringBody_unicode_pair n a b c d ch e1 e2 a2 b2 c2 d2 cp t3 hx hp]
                      exact pair a b c d ch e1 e2 a2 b2 c2 d2 cp t3 hx hp
                        (hrec t3 (by simp only [List.length_cons] at hl2; omega))
                | [], _ | [_], _ | [_, _], _ | [_, _, _], _ =>
                  rw [readStringBody_short n _ (by simp)]
                  exact short _ (by simp)
              · rw [readStringBody_bad_escape n t1 hq hu]; exact badEscape e t1 hq hu
        by_cases hnl : c = 10 ∨ c = 13
        · rw [readStringBody_lineTerm n t hnl]; exact lineTerm c t hnl
        cases hp : isPrintable c with
        | false => rw [readStringBody_unprintable n t h34 h92 hnl hp]; exact unprintable c t h34 h92 hnl hp
        | true => rw [readStringBody_char n t h34 h92 hnl hp]; exact char c t h34 h92 hnl hp (hrec t ht)
  exact fun s => key s.length s (Nat.le_refl _)

end PyGql.Lex
