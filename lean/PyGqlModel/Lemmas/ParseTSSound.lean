/-
  Type system, soundness: the parts of the definitions, the eight definitions, the seven extensions and the two
  dispatchers ⇒ `TSSound`.
-/
import PyGqlModel.Lemmas.ParseDocL
namespace PyGql.Parse
open PyGql PyGql.Ast PyGql.Spec

theorem parseDescription_sound (fl : Flags) : SoundL fl (parseDescription fl) (fun _ => True) descV := by
  intro s o s' h
  refine ⟨trivial, ?_⟩
  unfold parseDescription at h
  obtain ⟨t, ts, h1, h⟩ := peek_bind h
  rcases ite_inv h with ⟨hk, h⟩ | ⟨_, h⟩
  · obtain ⟨sv, s2, hs, h⟩ := bind_inv h
    cases h
    exact chkA_one (parseStringLiteral_sound fl _ _ _ ⟨_, _, h1, hk⟩ hs)
  · cases h
    exact chkA_nil

theorem parseOperationTypeDefinition_sound (fl : Flags) :
    Sound fl (parseOperationTypeDefinition fl) (fun d => wfOperationType d = true) operationTypeV :=
  .node fun _ => .step (parseOperationType_sound fl) fun _ hm => .tok rfl fun _ => .step (parseNamedType_sound fl)
    fun _ _ => .done fun _ => ⟨by simpa [wfOperationType] using hm, rfl⟩

theorem parseInputValueDefinition_sound (fl : Flags) (fuel : Nat) :
    Sound fl (parseInputValueDefinition fl fuel) (fun d => wfInputValue d = true) inputValueV :=
  .node fun _ => .app (parseDescription_sound fl) fun _ _ => .step (parseName_sound fl) fun _ _ => .tok rfl fun _ =>
    .step (parseTypeReference_sound fl fuel) fun _ wt => .app (parseDefault_sound fl fuel) fun _ wdv =>
    .last (parseDirectives_sound fl fuel true) fun _ _ wd => ⟨by simp [wfInputValue, wt, wdv, wd], rfl⟩

theorem parseArgumentDefinitions_sound (fl : Flags) (fuel : Nat) :
    SoundL fl (parseArgumentDefinitions fl fuel) (fun ds => ∀ d ∈ ds, wfInputValue d = true)
      (groupV .parenL .parenR inputValueV) :=
  optMany_sound rfl rfl (parseInputValueDefinition_sound fl fuel) fuel

theorem parseFieldDefinition_sound (fl : Flags) (fuel : Nat) :
    Sound fl (parseFieldDefinition fl fuel) (fun d => wfFieldDefinition d = true) fieldDefinitionV :=
  .node fun _ => .app (parseDescription_sound fl) fun _ _ => .step (parseName_sound fl) fun _ _ =>
    .app (parseArgumentDefinitions_sound fl fuel) fun _ wa => .tok rfl fun _ =>
    .step (parseTypeReference_sound fl fuel) fun _ wt => .last (parseDirectives_sound fl fuel true) fun _ _ wd =>
    ⟨by simp [wfFieldDefinition, wt, wd]; exact wa, rfl⟩

theorem parseFieldsDefinition_sound (fl : Flags) (fuel : Nat) :
    SoundL fl (parseFieldsDefinition fl fuel) (fun ds => ∀ d ∈ ds, wfFieldDefinition d = true)
      (blockV fieldDefinitionV) :=
  block_sound (parseFieldDefinition_sound fl fuel) fuel

theorem parseInputFieldsDefinition_sound (fl : Flags) (fuel : Nat) :
    SoundL fl (parseInputFieldsDefinition fl fuel) (fun ds => ∀ d ∈ ds, wfInputValue d = true) (blockV inputValueV) :=
  block_sound (parseInputValueDefinition_sound fl fuel) fuel

/-- `EnumValue`: the name is refused when the token looked at first is `true`, `false` or `null` -/
theorem SoundK.enumName {fl : Flags} {st : Tok} {acc : List Item → List Item} {β} {f : Name → P β} {Q : β → Prop}
    {V : β → Item} {msg : String}
    (hf : ∀ nm, notBoolNull nm.value = true → SoundK fl st (fun tl => acc (nameV nm :: tl)) (f nm) Q V) :
    SoundK fl st acc (peek >>= fun token =>
      if token.kind = .name ∧ (token.value = K.true_ ∨ token.value = K.false_ ∨ token.value = K.null_) then fail msg
      else parseName fl >>= f) Q V := by
  intro s0 tl0 s x s' h0 hacc h
  obtain ⟨tk, ts, h1, h⟩ := peek_bind h
  rcases ite_inv h with ⟨_, h⟩ | ⟨hcond, h⟩
  · exact ((fail_ok ..).1 h).elim
  obtain ⟨nm, s1, hn, h⟩ := bind_inv h
  refine hf nm ?_ s0 tl0 s1 x s' h0 (fun tl r ht => hacc _ r (chkA_cons (parseName_sound fl _ _ _ hn).2 ht)) h
  obtain ⟨t', ts', h2, hk, rfl, _⟩ := (parseName_ok ..).1 hn
  rw [h1] at h2
  cases h2
  simp only [notBoolNull, decide_eq_true_eq]
  simp only [not_and, not_or] at hcond
  exact hcond hk

theorem parseEnumValueDefinition_sound (fl : Flags) (fuel : Nat) :
    Sound fl (parseEnumValueDefinition fl fuel) (fun d => wfEnumValueDefinition d = true) enumValueDefinitionV :=
  .node fun _ => .app (parseDescription_sound fl) fun _ _ => .enumName fun _ hv =>
    .last (parseDirectives_sound fl fuel true) fun _ _ wd => ⟨by simp [wfEnumValueDefinition, hv, wd], rfl⟩

theorem parseEnumValuesDefinition_sound (fl : Flags) (fuel : Nat) :
    SoundL fl (parseEnumValuesDefinition fl fuel) (fun ds => ∀ d ∈ ds, wfEnumValueDefinition d = true)
      (blockV enumValueDefinitionV) :=
  block_sound (parseEnumValueDefinition_sound fl fuel) fuel

theorem parseImplementsInterfaces_sound (fl : Flags) (fuel : Nat) :
    SoundL fl (parseImplementsInterfaces fl fuel) (fun _ => True) implementsV := by
  intro s ts s' h
  unfold parseImplementsInterfaces at h
  obtain ⟨t, tl, h1, h⟩ := peek_bind h
  rcases ite_inv h with ⟨⟨hk, hv⟩, h⟩ | ⟨_, hfin⟩
  · obtain ⟨t2, s2, ha, h⟩ := bind_inv h
    obtain ⟨tl2, h2, rfl⟩ := (advance_ok ..).1 ha
    rw [h1] at h2
    cases h2
    have hd : delimitedList fuel .amp (parseNamedType fl) ⟨tl, t⟩ = .ok (ts, s') := by
      rw [delimitedList, ← implementsLoop_eq]
      exact h
    obtain ⟨⟨ne, _⟩, c⟩ := delimitedList_sound rfl (parseNamedType_sound fl) _ _ _ _ hd
    cases ts with
    | nil => exact (ne rfl).elim
    | cons x xs =>
      simp only [implementsV, List.isEmpty_cons, Bool.false_eq_true, if_false]
      exact ⟨trivial, chkA_cons (chk_tok h1 (cls_kw hk hv)) c⟩
  · cases hfin
    exact ⟨trivial, rfl⟩

theorem parseUnionMemberTypes_sound (fl : Flags) (fuel : Nat) :
    SoundL fl (parseUnionMemberTypes fl fuel) (fun _ => True) unionMembersV := by
  intro s ts s' h
  unfold parseUnionMemberTypes at h
  obtain ⟨b, s1, hsk, hr⟩ := bind_inv h
  obtain ⟨t, tl, h1, hb⟩ := (skip_ok ..).1 hsk
  rcases hb with ⟨hk, rfl, rfl⟩ | ⟨hk, rfl, rfl⟩
  · have h : delimitedList fuel .pipe (parseNamedType fl) ⟨tl, t⟩ = .ok (ts, s') := hr
    obtain ⟨⟨ne, _⟩, c⟩ := delimitedList_sound rfl (parseNamedType_sound fl) _ _ _ _ h
    cases ts with
    | nil => exact (ne rfl).elim
    | cons x xs =>
      simp only [unionMembersV, List.isEmpty_cons, Bool.false_eq_true, if_false]
      exact ⟨trivial, chkA_cons (chk_tok h1 (cls_const hk rfl)) c⟩
  · cases hr
    exact ⟨trivial, rfl⟩

theorem parseDirectiveLocation_sound (fl : Flags) :
    Sound fl (parseDirectiveLocation fl) (fun x => x.value ∈ Generated.ParserTables.directiveLocations) nameV := by
  intro s x s' h
  simp only [parseDirectiveLocation, bind_ok, peek_ok, ite_ok, pure_ok, failTokAt_ok, and_false,
    or_false] at h
  obtain ⟨st, s0, ⟨ts, h1, hs0⟩, n, s1, hn, hm, hfin⟩ := h
  subst hs0
  cases hfin
  exact ⟨hm, (parseName_sound fl _ _ _ hn).2⟩

abbrev DefQ (fl : Flags) (d : Definition) : Prop := wfDefinition fl d = true ∧ isTypeSystem d = true

theorem parseSchemaDefinition_sound (fl : Flags) (fuel : Nat) :
    Sound fl (parseSchemaDefinition fl fuel) (DefQ fl) definitionV :=
  .node fun _ => .kw fun _ => .app (parseDirectives_sound fl fuel true) fun _ wd =>
    .last (many_sound rfl rfl (parseOperationTypeDefinition_sound fl) fuel) fun ops _ w =>
    ⟨⟨by simp only [wfDefinition, Bool.and_eq_true, Bool.not_eq_true', List.isEmpty_eq_false_iff]
         exact ⟨⟨wd, w.1⟩, List.all_eq_true.2 w.2⟩, rfl⟩, rfl⟩

theorem parseScalarTypeDefinition_sound (fl : Flags) (fuel : Nat) :
    Sound fl (parseScalarTypeDefinition fl fuel) (DefQ fl) definitionV :=
  .node fun _ => .app (parseDescription_sound fl) fun _ _ => .kw fun _ => .step (parseName_sound fl) fun _ _ =>
    .last (parseDirectives_sound fl fuel true) fun _ _ wd => ⟨⟨wd, rfl⟩, rfl⟩

theorem parseObjectTypeDefinition_sound (fl : Flags) (fuel : Nat) :
    Sound fl (parseObjectTypeDefinition fl fuel) (DefQ fl) definitionV :=
  .node fun _ => .app (parseDescription_sound fl) fun _ _ => .kw fun _ => .step (parseName_sound fl) fun _ _ =>
    .app (parseImplementsInterfaces_sound fl fuel) fun _ _ => .app (parseDirectives_sound fl fuel true) fun _ wd =>
    .last (parseFieldsDefinition_sound fl fuel) fun _ _ wf =>
    ⟨⟨by simp [wfDefinition, wd, List.all_eq_true.2 wf], rfl⟩, by rw [definitionV, List.append_assoc]⟩

theorem parseInterfaceTypeDefinition_sound (fl : Flags) (fuel : Nat) :
    Sound fl (parseInterfaceTypeDefinition fl fuel) (DefQ fl) definitionV :=
  .node fun _ => .app (parseDescription_sound fl) fun _ _ => .kw fun _ => .step (parseName_sound fl) fun _ _ =>
    .app (parseDirectives_sound fl fuel true) fun _ wd => .last (parseFieldsDefinition_sound fl fuel) fun _ _ wf =>
    ⟨⟨by simp [wfDefinition, wd, List.all_eq_true.2 wf], rfl⟩, rfl⟩

theorem parseUnionTypeDefinition_sound (fl : Flags) (fuel : Nat) :
    Sound fl (parseUnionTypeDefinition fl fuel) (DefQ fl) definitionV :=
  .node fun _ => .app (parseDescription_sound fl) fun _ _ => .kw fun _ => .step (parseName_sound fl) fun _ _ =>
    .app (parseDirectives_sound fl fuel true) fun _ wd => .last (parseUnionMemberTypes_sound fl fuel) fun _ _ _ =>
    ⟨⟨wd, rfl⟩, rfl⟩

theorem parseEnumTypeDefinition_sound (fl : Flags) (fuel : Nat) :
    Sound fl (parseEnumTypeDefinition fl fuel) (DefQ fl) definitionV :=
  .node fun _ => .app (parseDescription_sound fl) fun _ _ => .kw fun _ => .step (parseName_sound fl) fun _ _ =>
    .app (parseDirectives_sound fl fuel true) fun _ wd => .last (parseEnumValuesDefinition_sound fl fuel) fun _ _ wv =>
    ⟨⟨by simp [wfDefinition, wd, List.all_eq_true.2 wv], rfl⟩, rfl⟩

theorem parseInputObjectTypeDefinition_sound (fl : Flags) (fuel : Nat) :
    Sound fl (parseInputObjectTypeDefinition fl fuel) (DefQ fl) definitionV :=
  .node fun _ => .app (parseDescription_sound fl) fun _ _ => .kw fun _ => .step (parseName_sound fl) fun _ _ =>
    .app (parseDirectives_sound fl fuel true) fun _ wd => .last (parseInputFieldsDefinition_sound fl fuel) fun _ _ wf =>
    ⟨⟨by simp [wfDefinition, wd, List.all_eq_true.2 wf], rfl⟩, rfl⟩

theorem parseDirectiveDefinition_sound (fl : Flags) (fuel : Nat) :
    Sound fl (parseDirectiveDefinition fl fuel) (DefQ fl) definitionV :=
  .node fun _ => .app (parseDescription_sound fl) fun _ _ => .kw fun _ => .tok rfl fun _ =>
    .step (parseName_sound fl) fun _ _ => .app (parseArgumentDefinitions_sound fl fuel) fun _ wa => .kw fun _ =>
    .last (delimitedList_sound rfl (parseDirectiveLocation_sound fl) fuel) fun _ _ wl =>
    ⟨⟨by simp only [wfDefinition, Bool.and_eq_true, Bool.not_eq_true', List.isEmpty_eq_false_iff]
         exact ⟨⟨List.all_eq_true.2 wa, wl.1⟩, List.all_eq_true.2 (by simpa using wl.2)⟩, rfl⟩, rfl⟩

theorem parseTypeSystemDefinition_sound (fl : Flags) (fuel : Nat) :
    Sound fl (parseTypeSystemDefinition fl fuel) (DefQ fl) definitionV := by
  intro s d s' h
  unfold parseTypeSystemDefinition at h
  obtain ⟨nx, ts, h1, h0⟩ := peek_bind h
  obtain ⟨kwd, s2, hkw, hc⟩ := bind_inv h0
  -- reading the keyword token does not move
  have hs : s2 = s := by
    rcases ite_inv hkw with ⟨_, hkw⟩ | ⟨_, hkw⟩
    · obtain ⟨_, _, _, e⟩ := (peek2_ok ..).1 hkw
      exact e
    · cases hkw
      rfl
  subst hs
  exact Sound.ite (Sound.ite (parseSchemaDefinition_sound fl fuel)
    (Sound.ite (parseScalarTypeDefinition_sound fl fuel) (Sound.ite (parseObjectTypeDefinition_sound fl fuel)
    (Sound.ite (parseInterfaceTypeDefinition_sound fl fuel) (Sound.ite (parseUnionTypeDefinition_sound fl fuel)
    (Sound.ite (parseEnumTypeDefinition_sound fl fuel) (Sound.ite (parseInputObjectTypeDefinition_sound fl fuel)
    (Sound.ite (parseDirectiveDefinition_sound fl fuel) (Sound.failed (fails_failAt _ _)))))))))) (Sound.failed (fails_failAt _ _)) _ _ _ hc

/-- the emptiness tests of the extensions, read as Booleans -/
theorem not_both_empty {x y : Bool} (h : ¬(x = true ∧ y = true)) : (!(x && y)) = true := by
  revert h
  cases x <;> cases y <;> decide

theorem not_three_empty {x y z : Bool} (h : ¬(x = true ∧ y = true ∧ z = true)) : (!(x && y && z)) = true := by
  revert h
  cases x <;> cases y <;> cases z <;> decide

theorem parseSchemaExtension_sound (fl : Flags) (fuel : Nat) :
    Sound fl (parseSchemaExtension fl fuel) (DefQ fl) definitionV :=
  .node fun _ => .kw fun _ => .kw fun _ => .app (parseDirectives_sound fl fuel true) fun _ wd =>
    .app (block_sound (parseOperationTypeDefinition_sound fl) fuel) fun _ wo => .guard (fails_fail _) fun hne =>
    .done fun _ => ⟨⟨by simp only [wfDefinition, Bool.and_eq_true]; exact ⟨⟨wd, List.all_eq_true.2 wo⟩, not_both_empty hne⟩, rfl⟩,
      by rw [definitionV, List.append_nil]⟩

theorem parseScalarTypeExtension_sound (fl : Flags) (fuel : Nat) :
    Sound fl (parseScalarTypeExtension fl fuel) (DefQ fl) definitionV :=
  .node fun _ => .kw fun _ => .kw fun _ => .step (parseName_sound fl) fun _ _ =>
    .app (parseDirectives_sound fl fuel true) fun _ wd => .guard (fails_failAt _ _) fun hne =>
    .done fun _ => ⟨⟨by simp only [wfDefinition, Bool.and_eq_true]; exact ⟨wd, by simpa using hne⟩, rfl⟩,
      by rw [definitionV, List.append_nil]⟩

theorem parseObjectTypeExtension_sound (fl : Flags) (fuel : Nat) :
    Sound fl (parseObjectTypeExtension fl fuel) (DefQ fl) definitionV :=
  .node fun _ => .kw fun _ => .kw fun _ => .step (parseName_sound fl) fun _ _ =>
    .app (parseImplementsInterfaces_sound fl fuel) fun _ _ => .app (parseDirectives_sound fl fuel true) fun _ wd =>
    .app (parseFieldsDefinition_sound fl fuel) fun _ wf => .guard (fails_fail _) fun hne =>
    .done fun _ => ⟨⟨by simp only [wfDefinition, Bool.and_eq_true]; exact ⟨⟨wd, List.all_eq_true.2 wf⟩, not_three_empty hne⟩, rfl⟩,
      by rw [definitionV, List.append_nil, List.append_assoc]⟩

theorem parseInterfaceTypeExtension_sound (fl : Flags) (fuel : Nat) :
    Sound fl (parseInterfaceTypeExtension fl fuel) (DefQ fl) definitionV :=
  .node fun _ => .kw fun _ => .kw fun _ => .step (parseName_sound fl) fun _ _ =>
    .app (parseDirectives_sound fl fuel true) fun _ wd => .app (parseFieldsDefinition_sound fl fuel) fun _ wf =>
    .guard (fails_fail _) fun hne =>
    .done fun _ => ⟨⟨by simp only [wfDefinition, Bool.and_eq_true]; exact ⟨⟨wd, List.all_eq_true.2 wf⟩, not_both_empty hne⟩, rfl⟩,
      by rw [definitionV, List.append_nil]⟩

theorem parseUnionTypeExtension_sound (fl : Flags) (fuel : Nat) :
    Sound fl (parseUnionTypeExtension fl fuel) (DefQ fl) definitionV :=
  .node fun _ => .kw fun _ => .kw fun _ => .step (parseName_sound fl) fun _ _ =>
    .app (parseDirectives_sound fl fuel true) fun _ wd => .app (parseUnionMemberTypes_sound fl fuel) fun _ _ =>
    .guard (fails_fail _) fun hne =>
    .done fun _ => ⟨⟨by simp only [wfDefinition, Bool.and_eq_true]; exact ⟨wd, not_both_empty hne⟩, rfl⟩,
      by rw [definitionV, List.append_nil]⟩

theorem parseEnumTypeExtension_sound (fl : Flags) (fuel : Nat) :
    Sound fl (parseEnumTypeExtension fl fuel) (DefQ fl) definitionV :=
  .node fun _ => .kw fun _ => .kw fun _ => .step (parseName_sound fl) fun _ _ =>
    .app (parseDirectives_sound fl fuel true) fun _ wd => .app (parseEnumValuesDefinition_sound fl fuel) fun _ wv =>
    .guard (fails_fail _) fun hne =>
    .done fun _ => ⟨⟨by simp only [wfDefinition, Bool.and_eq_true]; exact ⟨⟨wd, List.all_eq_true.2 wv⟩, not_both_empty hne⟩, rfl⟩,
      by rw [definitionV, List.append_nil]⟩

theorem parseInputObjectTypeExtension_sound (fl : Flags) (fuel : Nat) :
    Sound fl (parseInputObjectTypeExtension fl fuel) (DefQ fl) definitionV :=
  .node fun _ => .kw fun _ => .kw fun _ => .step (parseName_sound fl) fun _ _ =>
    .app (parseDirectives_sound fl fuel true) fun _ wd => .app (parseInputFieldsDefinition_sound fl fuel) fun _ wf =>
    .guard (fails_failTokAt _ _) fun hne =>
    .done fun _ => ⟨⟨by simp only [wfDefinition, Bool.and_eq_true]; exact ⟨⟨wd, List.all_eq_true.2 wf⟩, not_both_empty hne⟩, rfl⟩,
      by rw [definitionV, List.append_nil]⟩

theorem parseTypeSystemExtension_sound (fl : Flags) (fuel : Nat) :
    Sound fl (parseTypeSystemExtension fl fuel) (DefQ fl) definitionV := by
  intro s d s' h
  unfold parseTypeSystemExtension at h
  obtain ⟨kwd, s1, hkw, hc⟩ := bind_inv h
  obtain ⟨_, _, _, rfl⟩ := (peek2_ok ..).1 hkw
  exact Sound.ite (Sound.ite (parseSchemaExtension_sound fl fuel)
    (Sound.ite (parseScalarTypeExtension_sound fl fuel) (Sound.ite (parseObjectTypeExtension_sound fl fuel)
    (Sound.ite (parseInterfaceTypeExtension_sound fl fuel) (Sound.ite (parseUnionTypeExtension_sound fl fuel)
    (Sound.ite (parseEnumTypeExtension_sound fl fuel) (Sound.ite (parseInputObjectTypeExtension_sound fl fuel)
    (Sound.failed (fails_failAt _ _))))))))) (Sound.failed (fails_failAt _ _)) _ _ _ hc

theorem tsSound (fl : Flags) (fuel : Nat) : TSSound fl fuel :=
  ⟨fun s d s' h => and_assoc.1 (parseTypeSystemDefinition_sound fl fuel s d s' h),
    fun s d s' h => and_assoc.1 (parseTypeSystemExtension_sound fl fuel s d s' h)⟩

end PyGql.Parse
