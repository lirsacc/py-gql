/-
  C05 — what the typing predicates of `Spec/ValidDoc.lean` give at the places where the executor model decides: a type
  condition on a composite type is evaluated (`fragmentTypeApplies_composite`), a fragment of a document with
  well-typed fragment definitions is well-typed under its own type condition, what `selOk` says of an inline fragment
  and of a spread, and the clauses of `ValidDoc` / `ValidDocR`.
-/
import PyGqlModel.Spec.ValidDocR

set_option linter.unusedSimpArgs false

namespace PyGql.Props.C05
open PyGql PyGql.Exec PyGql.Spec

theorem fragmentTypeApplies_composite {s : SchemaD} {c : String} (obj : String) (h : isComposite s c = true) :
    fragmentTypeApplies s obj (some c) = .ok (c == obj || (isAbstract s c && isPossibleType s c obj)) := by
  unfold isComposite at h
  cases hk : kindOf s c with
  | none => rw [hk] at h; cases h
  | some k => simp only [fragmentTypeApplies, hk]

theorem fragsOk_fragment {s : SchemaD} {doc : Doc} {vars : Vars} (hf : fragsOk s doc vars = true) {name : String} {fr : Frag}
    (h : doc.fragment? name = some fr) : isComposite s fr.on = true ∧ selsOk s doc vars fr.on fr.sels = true := by
  unfold fragsOk at hf
  rw [List.all_eq_true] at hf
  simpa using hf fr (List.mem_reverse.mp (List.mem_of_find?_eq_some h))

theorem selOk_inline {s : SchemaD} {doc : Doc} {vars : Vars} {T : String} {on : Option String} {dirs : List Dir} {sub : List Sel}
    (h : selOk s doc vars T (.inline on dirs sub) = true) :
    selsOk s doc vars (on.getD T) sub = true ∧ ∀ c, on = some c → isComposite s c = true := by
  simp only [selOk, dirsOk, Bool.true_and] at h
  cases on with
  | none => exact ⟨h, nofun⟩
  | some c =>
    rw [Bool.and_eq_true] at h
    exact ⟨h.2, fun _ e => Option.some.inj e ▸ h.1⟩

theorem selOk_spread {s : SchemaD} {doc : Doc} {vars : Vars} {T name : String} {dirs : List Dir}
    (h : selOk s doc vars T (.spread name dirs) = true) : ∃ fr, doc.fragment? name = some fr := by
  simp only [selOk, dirsOk, Bool.true_and] at h
  exact Option.isSome_iff_exists.mp h

theorem validDoc_iff {s : SchemaD} {doc : Doc} {vars : Vars} : ValidDoc s doc vars ↔
    opsOk s doc vars = true ∧ fragsOk s doc vars = true ∧ fragsAcyclic doc = true ∧ fragsUnique doc = true := by
  simp only [ValidDoc, validDocB, Bool.and_eq_true, and_assoc]

theorem validDocR_iff {s : SchemaD} {doc : Doc} {vars : Vars} : ValidDocR s doc vars ↔
    opsOkR s doc vars = true ∧ fragsOk s doc vars = true ∧ fragsAcyclic doc = true ∧ fragsUnique doc = true := by
  simp only [ValidDocR, validDocRB, Bool.and_eq_true, and_assoc]

theorem opsOkR_op {s : SchemaD} {doc : Doc} {vars : Vars} (h : opsOkR s doc vars = true) {o : Op} (ho : o ∈ doc.ops)
    {root : String} (hr : rootType s o.kind = some root) : selsOk s doc vars root o.sels = true := by
  have := List.all_eq_true.mp h o ho
  rwa [hr] at this

end PyGql.Props.C05
