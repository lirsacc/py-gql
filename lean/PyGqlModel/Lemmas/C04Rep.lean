/-
  C04 — "the same list up to repeated elements": `RepA P xs ys` says that `ys` is `xs` with extra elements inserted,
  each of which already occurred earlier in `ys` or satisfies the ambient predicate `P` (already appeared elsewhere).
  Pure list lemmas used by the refinement proof for documents with named fragment spreads.
-/

namespace PyGql.Props.C04

inductive RepA {α : Type} : (α → Prop) → List α → List α → Prop
  | nil {P} : RepA P [] []
  | both {P a xs ys} : RepA (fun x => x = a ∨ P x) xs ys → RepA P (a :: xs) (a :: ys)
  | extra {P a xs ys} : P a → RepA P xs ys → RepA P xs (a :: ys)

/-- no ambient elements: `ys` is `xs` plus repeats of its own earlier elements -/
def Rep {α : Type} (xs ys : List α) : Prop := RepA (fun _ => False) xs ys

variable {α β : Type}

theorem RepA.mono {P Q : α → Prop} {xs ys : List α} (h : RepA P xs ys) (hpq : ∀ x, P x → Q x) : RepA Q xs ys := by
  induction h generalizing Q with
  | nil => exact .nil
  | both _ ih => exact .both (ih (fun x hx => hx.elim Or.inl (fun h => Or.inr (hpq x h))))
  | extra hp _ ih => exact .extra (hpq _ hp) (ih hpq)

theorem RepA.refl (P : α → Prop) (xs : List α) : RepA P xs xs := by
  induction xs generalizing P with
  | nil => exact .nil
  | cons a xs ih => exact .both (ih _)

theorem RepA.prepend {Q : α → Prop} {xs ys : List α} (zs : List α) (hz : ∀ z ∈ zs, Q z) (h : RepA Q xs ys) : RepA Q xs (zs ++ ys) := by
  induction zs with
  | nil => simpa
  | cons z zs ih => exact .extra (hz z (by simp)) (ih (fun w hw => hz w (by simp [hw])))

theorem RepA.append {P : α → Prop} {a1 b1 a2 b2 : List α} (h1 : RepA P a1 b1)
    (h2 : RepA (fun x => x ∈ b1 ∨ P x) a2 b2) : RepA P (a1 ++ a2) (b1 ++ b2) := by
  induction h1 generalizing a2 b2 with
  | nil =>
    refine h2.mono ?_
    intro x hx
    rcases hx with hx | hx
    · simp at hx
    · exact hx
  | @both P a xs ys _ ih =>
    refine .both (ih (h2.mono ?_))
    intro x hx
    rcases hx with hx | hx
    · simp at hx; rcases hx with rfl | hx
      · exact Or.inr (Or.inl rfl)
      · exact Or.inl hx
    · exact Or.inr (Or.inr hx)
  | @extra P a xs ys hp _ ih =>
    refine .extra hp (ih (h2.mono ?_))
    intro x hx
    rcases hx with hx | hx
    · simp at hx; rcases hx with rfl | hx
      · exact Or.inr hp
      · exact Or.inl hx
    · exact Or.inr hx

theorem RepA.left_subset {P : α → Prop} {xs ys : List α} (h : RepA P xs ys) : ∀ x ∈ xs, x ∈ ys := by
  induction h with
  | nil => intro x hx; simp at hx
  | both _ ih =>
    intro x hx
    simp at hx
    rcases hx with rfl | hx
    · simp
    · simp [ih x hx]
  | extra _ _ ih => intro x hx; simp [ih x hx]

theorem RepA.right_subset {P : α → Prop} {xs ys : List α} (h : RepA P xs ys) : ∀ y ∈ ys, y ∈ xs ∨ P y := by
  induction h with
  | nil => intro y hy; simp at hy
  | both _ ih =>
    intro y hy; simp at hy
    rcases hy with rfl | hy
    · simp
    · rcases ih y hy with h | h
      · simp [h]
      · rcases h with rfl | h
        · simp
        · exact Or.inr h
  | extra hp _ ih =>
    intro y hy; simp at hy
    rcases hy with rfl | hy
    · exact Or.inr hp
    · exact ih y hy

theorem RepA.absorb {P : α → Prop} {xs ys : List α} (h : RepA P xs ys) (zs : List α) (hz : ∀ z ∈ zs, z ∈ ys ∨ P z) :
    RepA P xs (ys ++ zs) := by
  have : RepA (fun x => x ∈ ys ∨ P x) ([] : List α) zs := by
    have := RepA.prepend (Q := fun x => x ∈ ys ∨ P x) (xs := []) (ys := []) zs hz .nil
    simpa using this
  simpa using h.append this

theorem RepA.flatMap {P : α → Prop} {xs ys : List α} (f : α → List β) (h : RepA P xs ys) :
    RepA (fun y => ∃ x, P x ∧ y ∈ f x) (xs.flatMap f) (ys.flatMap f) := by
  induction h with
  | nil => exact .nil
  | @both P a xs ys _ ih =>
    simp only [List.flatMap_cons]
    refine RepA.append (RepA.refl _ (f a)) (ih.mono ?_)
    rintro y ⟨x, hx, hy⟩
    rcases hx with rfl | hx
    · exact Or.inl hy
    · exact Or.inr ⟨x, hx, hy⟩
  | @extra P a xs ys hp _ ih =>
    simp only [List.flatMap_cons]
    exact RepA.prepend (f a) (fun z hz => ⟨a, hp, hz⟩) ih

theorem RepA.map {P : α → Prop} {xs ys : List α} (f : α → β) (h : RepA P xs ys) :
    RepA (fun y => ∃ x, P x ∧ f x = y) (xs.map f) (ys.map f) := by
  induction h with
  | nil => exact .nil
  | both _ ih =>
    refine .both (ih.mono ?_)
    rintro y ⟨x, hx, rfl⟩
    rcases hx with rfl | hx
    · exact Or.inl rfl
    · exact Or.inr ⟨x, hx, rfl⟩
  | extra hp _ ih => exact .extra ⟨_, hp, rfl⟩ ih

theorem Rep.head {x : α} {xs ys : List α} (h : Rep (x :: xs) ys) : ∃ ys', ys = x :: ys' := by
  cases h with
  | both _ => exact ⟨_, rfl⟩
  | extra hp _ => exact absurd hp (by simp)

theorem Rep.nil_right {ys : List α} (h : Rep ([] : List α) ys) : ys = [] := by
  cases h with
  | nil => rfl
  | extra hp _ => exact absurd hp (by simp)

theorem Rep.refl (xs : List α) : Rep xs xs := RepA.refl _ xs

theorem Rep.flatMap {xs ys : List α} (f : α → List β) (h : Rep xs ys) : Rep (xs.flatMap f) (ys.flatMap f) :=
  (RepA.flatMap f h).mono (by rintro y ⟨x, hx, _⟩; exact hx)

theorem Rep.map {xs ys : List α} (f : α → β) (h : Rep xs ys) : Rep (xs.map f) (ys.map f) :=
  (RepA.map f h).mono (by rintro y ⟨x, hx, _⟩; exact hx)

theorem Rep.snoc_both {xs ys : List α} (h : Rep xs ys) (a : α) : Rep (xs ++ [a]) (ys ++ [a]) :=
  RepA.append h (RepA.refl _ [a])

theorem Rep.snoc_extra {xs ys : List α} (h : Rep xs ys) (a : α) (ha : a ∈ ys) : Rep xs (ys ++ [a]) :=
  RepA.absorb h [a] (by intro z hz; simp at hz; subst hz; exact Or.inl ha)

end PyGql.Props.C04
