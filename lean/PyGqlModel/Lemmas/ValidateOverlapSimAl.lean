/-
  `OvSim` for `Al` (renaming of aliases): `A.doc d` simulates `d` for the clause of 5.3.2 when the renaming acts on the
  response names of the fields of `d` through an injective `ρ` (`Al.RenamesOn`, stated with the response name the overlap
  rule computes: `responseName`, which skips an empty alias). Aliases are not part of any node a rule is handed except
  through the selection lists embedded in `document` / `operation` / `selectionSet` nodes, so the typed enumeration and
  the node list of `A.doc d` are the images of those of `d`.
-/
import PyGqlModel.Lemmas.ValidateDocMap
import PyGqlModel.Lemmas.ValidateAlias
import PyGqlModel.Lemmas.ValidateTr
import PyGqlModel.Lemmas.ValidateOverlapParentsTyped
namespace PyGql.Validate
open PyGql PyGql.Validate.Spec

namespace Al
variable (A : Al)

theorem node_inner {n : Node} (h : n.isInner = true) : A.node n = n := by
  cases n with
  | document | operation | selectionSet => cases h
  | _ => rfl

theorem node_argish {n : Node} (h : n.isArgish = true) : A.node n = n := A.node_inner (Node.inner_of_argish h)

def nv (p : Node × View) : Node × View := (A.node p.1, p.2)

theorem argsNodes_al (as : List Arg) : (argsNodes as).map A.node = argsNodes as :=
  map_eq_self _ _ fun n hn => A.node_argish (argsNodes_argish as n hn)

theorem dirsNodes_al (ds : List Dir) : (dirsNodes ds).map A.node = dirsNodes ds :=
  map_eq_self _ _ fun n hn => A.node_argish (dirsNodes_argish ds n hn)

mutual
theorem selNodes_al : ∀ x : Sel, selNodes (A.sel x) = (selNodes x).map A.node
  | .field al n args dirs true id sub => by
    simp only [Al.sel, selNodes, ↓reduceIte, List.map_cons, List.map_append, argsNodes_al, dirsNodes_al, selsNodes_al sub]
    rfl
  | .field al n args dirs false id sub => by
    simp only [Al.sel, selNodes, Bool.false_eq_true, ↓reduceIte, List.map_cons, List.map_append, argsNodes_al,
      dirsNodes_al, List.map_nil]
    rfl
  | .spread n dirs => by simp only [Al.sel, selNodes, List.map_cons, dirsNodes_al]; rfl
  | .inline on dirs id sub => by
    simp only [Al.sel, selNodes, List.map_cons, List.map_append, dirsNodes_al, selsNodes_al sub]
    rfl
theorem selsNodes_al : ∀ xs : List Sel, selsNodes (A.selList xs) = (selsNodes xs).map A.node
  | [] => rfl
  | x :: xs => by simp only [Al.selList, selsNodes, List.map_append, selNodes_al x, selsNodes_al xs]
end

theorem varDefsNodes_al (vars : List VarDef) : (vars.flatMap varDefNodes).map A.node = vars.flatMap varDefNodes :=
  map_eq_self _ _ fun n hn => A.node_inner (varDefsNodes_inner vars n hn)

theorem defNodes_al (x : Def) : defNodes (A.defn x) = (defNodes x).map A.node := by
  cases x with
  | op k nm vars dirs id sels =>
    simp only [Al.defn, defNodes, List.map_cons, List.map_append, varDefsNodes_al, dirsNodes_al, selsNodes_al]; rfl
  | frag n on dirs id sels =>
    simp only [Al.defn, defNodes, List.map_cons, List.map_append, dirsNodes_al, selsNodes_al]; rfl
  | ts a b => rfl

theorem nodes_doc (d : Doc) : nodes (A.doc d) = (nodes d).map A.node := by
  simp only [nodes, Al.doc, List.map_cons, Al.node]
  congr 1
  induction d.defs with
  | nil => rfl
  | cons x xs ih => simp only [List.map_cons, List.flatMap_cons, List.map_append, defNodes_al, ih]

theorem view_enter_al (s : SchemaD) (n : Node) (v : View) : View.enter s (A.node n) v = View.enter s n v := by
  cases n <;> rfl

theorem withView_al (v : View) (l : List Node) (h : ∀ n ∈ l, n.isInner = true) : (withView v l).map A.nv = withView v l := by
  refine map_eq_self _ _ fun q hq => ?_
  simp only [withView, List.mem_map] at hq
  obtain ⟨n, hn, rfl⟩ := hq
  simp only [Al.nv, A.node_inner (h n hn)]

theorem tnDirs_al (s : SchemaD) (v : View) (ds : List Dir) : (tnDirs s v ds).map A.nv = tnDirs s v ds := by
  refine map_eq_self _ _ fun q hq => ?_
  have := dirsNodes_argish ds q.1 (mem_tnDirs hq)
  obtain ⟨n, w⟩ := q
  simp only [Al.nv, A.node_argish this]

mutual
theorem tnSel_al (s : SchemaD) : ∀ (v : View) (x : Sel), tnSel s v (A.sel x) = (tnSel s v x).map A.nv
  | v, .field al n args dirs true id sub => by
    simp only [Al.sel, tnSel, ↓reduceIte, List.map_cons, List.map_append, withView_al _ _ _ (fun n hn => Node.inner_of_argish (argsNodes_argish args n hn)),
      tnDirs_al, tnSels_al s _ sub]
    rfl
  | v, .field al n args dirs false id sub => by
    simp only [Al.sel, tnSel, Bool.false_eq_true, ↓reduceIte, List.map_cons, List.map_append,
      withView_al _ _ _ (fun n hn => Node.inner_of_argish (argsNodes_argish args n hn)), tnDirs_al, List.map_nil]
    rfl
  | v, .spread n dirs => by simp only [Al.sel, tnSel, List.map_cons, tnDirs_al]; rfl
  | v, .inline on dirs id sub => by
    simp only [Al.sel, tnSel, List.map_cons, List.map_append, tnDirs_al, tnSels_al s _ sub]
    rfl
theorem tnSels_al (s : SchemaD) : ∀ (v : View) (xs : List Sel), tnSels s v (A.selList xs) = (tnSels s v xs).map A.nv
  | v, [] => rfl
  | v, x :: xs => by simp only [Al.selList, tnSels, List.map_append, tnSel_al s v x, tnSels_al s v xs]
end

theorem tnVarDefs_al (s : SchemaD) (w : View) (vs : List VarDef) :
    (vs.flatMap (tnVarDef s w)).map A.nv = vs.flatMap (tnVarDef s w) := by
  refine map_eq_self _ _ fun q hq => ?_
  obtain ⟨n, v⟩ := q
  simp only [List.mem_flatMap, tnVarDef, List.mem_append] at hq
  obtain ⟨vd, _, hq | hq⟩ := hq
  · have hn := mem_withView hq
    simp only [List.mem_cons, List.mem_append, List.not_mem_nil, or_false] at hn
    have : n.isInner = true := by
      rcases hn with rfl | hn | rfl
      · rfl
      · cases hd : vd.default with
        | none => rw [hd] at hn; cases hn
        | some dv =>
          rw [hd] at hn
          exact Node.inner_of_argish (Node.argish_of_valueish (valueNodes_kinds _ n hn))
      · rfl
    simp only [Al.nv, A.node_inner this]
  · have := dirsNodes_argish vd.dirs n (mem_tnDirs hq)
    simp only [Al.nv, A.node_argish this]

theorem tnDef_al (s : SchemaD) (x : Def) : tnDef s (A.defn x) = (tnDef s x).map A.nv := by
  cases x with
  | op k nm vars dirs id sels =>
    simp only [Al.defn, tnDef, List.map_cons, List.map_append, tnVarDefs_al, tnDirs_al, tnSels_al]
    rfl
  | frag n on dirs id sels =>
    simp only [Al.defn, tnDef, List.map_cons, List.map_append, tnDirs_al, tnSels_al]
    rfl
  | ts a b => rfl

theorem typed_doc (s : SchemaD) (d : Doc) : typedNodes s (A.doc d) = (typedNodes s d).map A.nv := by
  simp only [typedNodes, Al.doc]
  induction d.defs with
  | nil => rfl
  | cons x xs ih => simp only [List.map_cons, List.flatMap_cons, List.map_append, tnDef_al, ih]

def RenamesOn (ρ : String → String) (d : Doc) : Prop :=
  ∀ i sels, SelSet d i sels → ∀ al n args dirs hs id sub, Sel.field al n args dirs hs id sub ∈ sels →
    responseName (A.alias al n) n = ρ (responseName al n)

def selMap : SelMap where
  σ := A.sel
  L := A.selList
  φ := id
  alias := A.alias
  args := id
  dirs := id
  mem_L := by intro x sels; rw [A.selList_eq_map]
  σ_field := fun _ _ _ _ _ _ _ => rfl
  σ_spread := fun _ _ => rfl
  σ_inline := fun _ _ _ _ => rfl

def docMap (d : Doc) : DocMap d (A.doc d) :=
  { A.selMap with
    defn := A.defn
    vars := id
    ν := A.node
    defs := rfl
    defn_op := fun _ _ _ _ _ _ => rfl
    defn_frag := fun _ _ _ _ _ => rfl
    defn_ts := fun _ _ => rfl
    ν_selSet := fun _ _ => rfl
    ν_ssid := fun m => by cases m <;> rfl
    nodes_perm := .of_eq (A.nodes_doc d)
    typed_mem := fun s _ => by rw [A.typed_doc]; rfl }

def ovSim (ρ : String → String) (hρ : ∀ a b, ρ a = ρ b → a = b) (s : SchemaD) (d : Doc) (hA : A.RenamesOn ρ d) :
    OvSim s d (A.doc d) :=
  (A.docMap d).ovSim (fun _ _ h => h) s ρ hρ hA (fun _ => True) (fun _ _ => trivial) fun _ _ _ _ => rfl

theorem wfIds (d : Doc) : WfIds (A.doc d) ↔ WfIds d := (A.docMap d).wfIds

theorem fragNames_doc (d : Doc) : fragNames (A.doc d) = fragNames d := (A.docMap d).fragNames_eq.trans (List.map_id _)

end Al
end PyGql.Validate
