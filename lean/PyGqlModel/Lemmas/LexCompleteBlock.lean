/-
  Completeness of `_read_block_string` against `Spec.Lexical.blockStringRaw`.
-/
import PyGqlModel.Lemmas.LexCompleteNum

namespace PyGql.Lex
open PyGql.Spec.Lexical

theorem bsc_len3 (k : Nat) (body raw : Text) (h : blockStringCharacters k body = some raw) : k + 3 ≤ body.length := by
  -- cases of `blockStringCharacters`: 1 end of text; 2 inside an escaped `"""`; 3 the closing `"""` at the very end;
  -- 4 `"""` with more behind it; 5 `\"""`; 6 no SourceCharacter; 7 any other character
  fun_induction blockStringCharacters k body generalizing raw with
  | case1 => cases h
  | case2 k c t ih =>
    simp only [Option.map_eq_some_iff] at h
    obtain ⟨w, hw, _⟩ := h
    have := ih w hw
    simp; omega
  | case3 c t hp hl => simp [hl]
  | case4 => cases h
  | case5 c t hnp hesc ih => have := ih raw h; simp; omega
  | case6 => cases h
  | case7 c t hnp hesc hsrc ih =>
    simp only [Option.map_eq_some_iff] at h
    obtain ⟨w, hw, _⟩ := h
    have := ih w hw
    simp; omega

theorem blockChar_of_source (c : Nat) (h : ¬ (!isSourceChar c) = true) :
    (!(Lex.isPrintable c || c == 10 || c == 13)) = false := by
  rw [printable_or_lineTerm]
  revert h
  cases isSourceChar c <;> simp

theorem readBlockBody_complete (n k : Nat) (body raw r : Text) (h : blockStringCharacters k body = some raw) :
    readBlockBody n k (body ++ r) = .ok (raw, r) := by
  fun_induction blockStringCharacters k body generalizing raw with
  | case1 => cases h
  | case2 k c t ih =>
    simp only [Option.map_eq_some_iff] at h
    obtain ⟨w, hw, rfl⟩ := h
    simp [readBlockBody, ih w hw]
  | case3 c t hp hl =>
    simp only [Option.some.injEq] at h; subst h
    obtain ⟨u, hu⟩ := tq_prefix_eq (c :: t) hp
    simp only [List.cons.injEq] at hu
    obtain ⟨rfl, rfl⟩ := hu
    have hu0 : u = [] := by simpa using hl
    subst hu0
    simp [readBlockBody, tq, List.isPrefixOf]
  | case4 => cases h
  | case5 c t hnp hesc ih =>
    obtain ⟨rfl, hq⟩ := hesc
    have := ih raw h
    have hq' : tq.isPrefixOf (t ++ r) = true := tq_prefix_append t r hq
    rw [List.cons_append, readBlockBody]
    simp only [tq, List.isPrefixOf, Nat.reduceBEq, Bool.false_and, Bool.false_eq_true, ↓reduceIte, decide_true,
      Bool.true_and]
    have hq'' : ([34, 34, 34] : Text).isPrefixOf (t ++ r) = true := hq'
    simp only [hq'', ↓reduceIte]
    exact this
  | case6 => cases h
  | case7 c t hnp hesc hsrc ih =>
    simp only [Option.map_eq_some_iff] at h
    obtain ⟨w, hw, rfl⟩ := h
    have hlen := bsc_len3 0 t w hw
    have h1 : tq.isPrefixOf (c :: (t ++ r)) = false := by
      have := tq_prefix_append_len (c :: t) r (by simp; omega)
      rw [List.cons_append] at this
      rw [this]; exact (Bool.not_eq_true _).mp hnp
    have h2 : (decide (c = 92) && tq.isPrefixOf (t ++ r)) = false := by
      rw [tq_prefix_append_len t r (by omega)]
      cases hd : decide (c = 92) with
      | false => rfl
      | true =>
        have hc : c = 92 := of_decide_eq_true hd
        cases hq : tq.isPrefixOf t with
        | false => rfl
        | true => exact absurd ⟨hc, hq⟩ hesc
    have h3 := blockChar_of_source c hsrc
    rw [List.cons_append, readBlockBody]
    simp only [h1, h2, h3, Bool.false_eq_true, ↓reduceIte, ih w hw]

theorem next_block_lexeme (n : Nat) (lex r raw : Text) (h : blockStringRaw lex = some raw) :
    next n (lex ++ r) = .ok (⟨.blockString, posAt n (lex ++ r), posAt n r, BlockString.parseBlockString raw⟩, some r) := by
  unfold blockStringRaw at h
  split at h
  · rename_i hp
    obtain ⟨body, rfl⟩ := tq_prefix_eq lex hp
    simp only [List.drop_succ_cons, List.drop_zero] at h
    have hbody := readBlockBody_complete n 0 body raw r h
    simp only [List.cons_append]
    rw [next_tq, readBlockString, List.drop_succ_cons, List.drop_succ_cons, List.drop_succ_cons, List.drop_zero, hbody]
    rfl
  · cases h

end PyGql.Lex
