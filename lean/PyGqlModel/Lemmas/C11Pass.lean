/-
  C11 — the two passes of `build_schema` and the public `extend_schema` as RELATIONS between their step results.

  `FirstPass` lists what a successful `build_schema_ignoring_extensions` has computed after the collection; `ExtPass` is
  what `extendSchema` and `extendSchemaPublic` have in common: the kind check of the specified types, every current type
  extended and its defaults evaluated again, the cycle guard, the `extend schema` blocks (`extendSchemaA` has the same steps
  over its own environment; no theorem needed its relation).  Each of `buildCollected`, `build`, `extendSchema`,
  `extendSchemaPublic` returns a value exactly when its relation holds (`*_ok_iff`, read off the definition with the rules of
  Lemmas/C11Run.lean), so a theorem about a successful run can use the relation instead of unfolding the function:
  `build_exact_partial`, `extend_exact_general`, `extendSchema_is_public`, `build_ok_inv` do; the forward theorems that
  rebuild a run from its step results (`buildIgnoringExtensions_ok`, `build_exact_noext`, `build_exact_additional_noext`) and
  the equalities of whole functions (`buildA_nil`, `build_ignoreExtensions`) unfold.  Which rejection a failing run meets
  first is not recorded here (the models differ in it).
-/
import PyGqlModel.SdlExtend
import PyGqlModel.Lemmas.C11Run

namespace PyGql.Sdl.Run
open PyGql PyGql.Sdl

/-- the run of `buildCollected c add` that returns `(env, live)`; `dirs`, `built`: the built directive and type definitions -/
structure FirstPass (c : Collected) (add : List TypeD) (env : Env) (live : Live) (dirs : List DirectiveD)
    (built : List (Option TypeD)) : Prop where
  envEq : env = Env.of c.types add
  noThunkCycle : hasThunkCycle env c.types = false
  dirsOk : c.directives.mapM (buildDirective env) = .ok dirs
  builtOk : c.types.mapM (buildType env) = .ok built
  noEagerCycle : hasEagerCycle (built.filterMap id) = false
  rootsOk : buildRoots env c.schemaDef (built.filterMap id) = .ok live.roots
  noSpecified : dirs.any (fun d => specifiedDirectives.contains d.name) = false
  typesEq : live.types = built.filterMap id ++ referencedAdditional add (built.filterMap id) dirs live.roots
  dirsEq : live.directives = dirs

theorem buildCollected_ok_iff (c : Collected) (add : List TypeD) (env : Env) (live : Live) :
    buildCollected c add = .ok (env, live) ↔ ∃ dirs built, FirstPass c add env live dirs built := by
  unfold buildCollected
  simp only [bind_ok_iff, failIf_ok_iff, pure_ok_iff, exists_const, Prod.mk.injEq]
  constructor
  · rintro ⟨h1, dirs, h2, built, h3, h4, roots, h5, h6, rfl, rfl⟩
    exact ⟨dirs, built, rfl, h1, h2, h3, h4, h5, h6, rfl, rfl⟩
  · rintro ⟨dirs, built, rfl, h1, h2, h3, h4, h5, h6, h7, h8⟩
    refine ⟨h1, dirs, h2, built, h3, h4, live.roots, h5, h6, rfl, ?_⟩
    obtain ⟨ts, ds, ro⟩ := live
    dsimp only at h7 h8 ⊢
    rw [h7, h8]

theorem build_ok_iff (doc : Doc) (ie : Bool) (add : List TypeD) (s : SchemaD) :
    build doc ie add = .ok s ↔ ∃ env live, buildIgnoringExtensions doc add = .ok (env, live) ∧
      if ie = true then s = toSchemaD live else ∃ live', extendSchema env live doc add = .ok live' ∧ s = toSchemaD live' := by
  unfold build
  cases ie
  · simp only [bind_ok_iff, pure_ok_iff, Prod.exists, Bool.false_eq_true, if_false, eq_comm (a := s)]
  · simp only [bind_ok_iff, pure_ok_iff, Prod.exists, if_true, eq_comm (a := s)]

/-- the steps the models of the extension pass share, run on the current types `cur` and roots `roots0`: `types` and `roots`
    are what is registered -/
structure ExtPass (eB eX : Env) (texts : List TypeDef) (sexts : List SchemaDef) (cur types : List TypeD) (roots0 roots : Roots) : Prop where
  kinds : texts.any (fun e => isDefaultName e.name && e.kind != builtinKind e.name) = false
  typesOk : ∃ cs, cur.mapM (fun t => extendTypeX eB eX (hideFor t.kind t.name) texts t) = .ok cs ∧
    cs.mapM (fun t => reDefault eB eX (hideFor t.kind t.name) texts t) = .ok types
  acyclic : hasEagerCycle types = false
  rootsOk : sexts.foldlM (fun r se => addOps (fun n => isDefaultName n || types.any (·.name == n)) (.lib .ext) r se.ops) roots0 = .ok roots

theorem extendSchema_ok_iff (env : Env) (live : Live) (doc : Doc) (add : List TypeD) (r : Live) :
    extendSchema env live doc add = .ok r ↔
      if ((typeExtensions live doc).isEmpty && (schemaExtensions doc).isEmpty) = true then r = live
      else ∃ types dirs roots,
        ExtPass env (env.extended (typeExtensions live doc)) (typeExtensions live doc) (schemaExtensions doc) live.types types live.roots roots ∧
        live.directives.mapM (reDefaultDirective env (env.extended (typeExtensions live doc)) doc) = .ok dirs ∧
        r = { live with types := types ++ referencedAdditional add types dirs roots, directives := dirs, roots := roots } := by
  unfold extendSchema
  by_cases hE : ((typeExtensions live doc).isEmpty && (schemaExtensions doc).isEmpty) = true
  · simp only [if_pos hE]
    exact pure_ok_iff.trans eq_comm
  · simp only [if_neg hE, bind_ok_iff, failIf_ok_iff, pure_ok_iff, exists_const]
    constructor
    · rintro ⟨h1, cs, h2, ts, h3, ds, h4, h5, ro, h6, rfl⟩
      exact ⟨ts, ds, ro, ⟨h1, ⟨cs, h2, h3⟩, h5, h6⟩, h4, rfl⟩
    · rintro ⟨ts, ds, ro, ⟨h1, ⟨cs, h2, h3⟩, h5, h6⟩, h4, rfl⟩
      exact ⟨h1, cs, h2, ts, h3, ds, h4, h5, ro, h6, rfl⟩

/-- what the public `extend_schema` does with what a collection found (`sx`, `td`, `dd`, `tx`: the `extend schema` blocks, the
    new definitions, the extension blocks) over `eB`, `eX`: the old directives extended and the new ones built, the new
    definitions built, the pass run on old and new types together -/
structure PublicRun (eB eX : Env) (baseDirs : List DirDef) (live : Live) (sx : List SchemaDef) (td : List TypeDef) (dd : List DirDef)
    (tx : List TypeDef) (r : Live) (bn : List TypeD) (ds₁ ds₂ : List DirectiveD) : Prop where
  oldDirs : live.directives.mapM (reDefaultDirectiveIn eB eX baseDirs) = .ok ds₁
  newDirs : dd.mapM (buildDirectiveX eB eX) = .ok ds₂
  builtNew : td.mapM (fun d => buildTypeDefX eB eX (hideFor d.kind d.name) d) = .ok bn
  pass : ExtPass eB eX tx sx (live.types ++ bn) r.types live.roots r.roots
  noSpecified : ds₂.any (fun d => specifiedDirectives.contains d.name) = false
  dirsEq : r.directives = ds₁ ++ ds₂

theorem extendSchemaPublic_ok_iff (baseDefs : List TypeDef) (baseDirs : List DirDef) (live : Live) (doc : Doc) (strict : Bool) (r : Live) :
    extendSchemaPublic baseDefs baseDirs live doc strict = .ok r ↔ ∃ c, collectExtensions live doc strict = .ok c ∧
      if (c.schemaExts.isEmpty && c.typeDefs.isEmpty && c.typeExts.isEmpty && c.dirDefs.isEmpty) = true then r = live
      else ∃ bn ds₁ ds₂, PublicRun (Env.of (baseDefs ++ c.typeDefs)) ((Env.of (baseDefs ++ c.typeDefs)).extended c.typeExts) baseDirs live
        c.schemaExts c.typeDefs c.dirDefs c.typeExts r bn ds₁ ds₂ := by
  unfold extendSchemaPublic
  rw [bind_ok_iff]
  refine exists_congr fun c => and_congr_right fun _ => ?_
  by_cases hE : (c.schemaExts.isEmpty && c.typeDefs.isEmpty && c.typeExts.isEmpty && c.dirDefs.isEmpty) = true
  · simp only [if_pos hE]
    exact pure_ok_iff.trans eq_comm
  · simp only [if_neg hE, bind_ok_iff, failIf_ok_iff, pure_ok_iff, exists_const]
    constructor
    · rintro ⟨ds₁, d1, ds₂, d2, hk, co, h1, ot, h2, bn, h3, cn, h4, nt, h5, hcyc, ro, h6, hs, rfl⟩
      exact ⟨bn, ds₁, ds₂, d1, d2, h3,
        ⟨hk, ⟨co ++ cn, mapM_append_ok_iff.mpr ⟨_, _, h1, h4, rfl⟩, mapM_append_ok_iff.mpr ⟨_, _, h2, h5, rfl⟩⟩, hcyc, h6⟩, hs, rfl⟩
    · rintro ⟨bn, ds₁, ds₂, d1, d2, h3, ⟨hk, ⟨cs, hcs, hts⟩, hcyc, h6⟩, hs, hd⟩
      obtain ⟨co, cn, h1, h4, rfl⟩ := mapM_append_ok_iff.mp hcs
      obtain ⟨ot, nt, h2, h5, ht⟩ := mapM_append_ok_iff.mp hts
      obtain ⟨ts, ds, ro⟩ := r
      cases ht
      cases hd
      exact ⟨ds₁, d1, ds₂, d2, hk, co, h1, ot, h2, bn, h3, cn, h4, nt, h5, hcyc, ro, h6, hs, rfl⟩

theorem publicRun_nothing_new {eB eX : Env} {baseDirs : List DirDef} {live r : Live} {sx : List SchemaDef} {tx : List TypeDef} :
    (∃ bn ds₁ ds₂, PublicRun eB eX baseDirs live sx [] [] tx r bn ds₁ ds₂) ↔
      ExtPass eB eX tx sx live.types r.types live.roots r.roots ∧ live.directives.mapM (reDefaultDirectiveIn eB eX baseDirs) = .ok r.directives := by
  constructor
  · rintro ⟨bn, ds₁, ds₂, d1, d2, hbn, hp, _, hde⟩
    cases ok_ok_iff.mp hbn
    cases ok_ok_iff.mp d2
    simp only [List.reverse_nil, List.append_nil] at hp hde
    exact ⟨hp, hde ▸ d1⟩
  · rintro ⟨hp, hd⟩
    exact ⟨[], r.directives, [], hd, rfl, rfl, (List.append_nil live.types).symm ▸ hp, rfl, (List.append_nil _).symm⟩

end PyGql.Sdl.Run
