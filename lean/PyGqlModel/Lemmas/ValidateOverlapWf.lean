/-
  From well-formed node identities (`WfIds`), non-empty unique fragment names and acyclic fragment spreads to the
  side conditions `OverlapSide` of the soundness half of 5.3.2.
-/
import PyGqlModel.Validate.WfIds
import PyGqlModel.Lemmas.ValidateOverlapPostWalk
import PyGqlModel.Lemmas.ListBasics
namespace PyGql.Validate
open PyGql PyGql.Validate.Spec

theorem nodup_flatMap_parts {α β} (f : α → List β) (l : List α) (h : (l.flatMap f).Nodup) :
    (∀ a ∈ l, (f a).Nodup) ∧ (∀ a ∈ l, ∀ b ∈ l, a ≠ b → ∀ x ∈ f a, x ∉ f b) := by
  induction l with
  | nil => exact ⟨(fun _ h => nomatch h), (fun _ h => nomatch h)⟩
  | cons c l ih =>
    rw [List.flatMap_cons, List.nodup_append] at h
    obtain ⟨h1, h2, h3⟩ := h
    obtain ⟨i1, i2⟩ := ih h2
    refine ⟨fun a ha => ?_, fun a ha b hb hab x hx hx' => ?_⟩
    · rcases List.mem_cons.mp ha with e | ha
      · rw [e]; exact h1
      · exact i1 a ha
    · rcases List.mem_cons.mp ha with ea | ha <;> rcases List.mem_cons.mp hb with eb | hb
      · exact hab (ea.trans eb.symm)
      · rw [ea] at hx
        exact h3 x hx x (List.mem_flatMap.mpr ⟨b, hb, hx'⟩) rfl
      · rw [eb] at hx'
        exact h3 x hx' x (List.mem_flatMap.mpr ⟨a, ha, hx⟩) rfl
      · exact i2 a ha b hb hab x hx hx'

theorem idsOf_append (a b : List Node) : idsOf (a ++ b) = idsOf a ++ idsOf b := by simp [idsOf]
theorem idsOf_cons_sel (i : Nat) (sels : List Sel) (ns : List Node) :
    idsOf (.selectionSet i sels :: ns) = i :: idsOf ns := by simp [idsOf, ssidOf?]

theorem idsOf_nil_of_noSelSet (ns : List Node) (h : ∀ n ∈ ns, n.isSelSet = false) : idsOf ns = [] := by
  unfold idsOf
  rw [List.filterMap_eq_nil_iff]
  intro n hn
  have := h n hn
  cases n with
  | selectionSet => cases this
  | _ => rfl

theorem mem_idsOf {ns : List Node} {i : Nat} {sels : List Sel} (h : Node.selectionSet i sels ∈ ns) : i ∈ idsOf ns :=
  List.mem_filterMap.mpr ⟨_, h, rfl⟩

def Def.topSels : Def → List Sel
  | .op _ _ _ _ _ sels => sels
  | .frag _ _ _ _ sels => sels
  | .ts .. => []
def Def.topId : Def → Option Nat
  | .op _ _ _ _ i _ => some i
  | .frag _ _ _ i _ => some i
  | .ts .. => none

theorem idsOf_defNodes (df : Def) :
    idsOf (defNodes df) = (match df.topId with | some i => [i] | none => []) ++ idsOf (selsNodes df.topSels) := by
  cases df with
  | op kind name vars dirs i sels =>
    simp only [defNodes, Def.topId, Def.topSels]
    have h0 : idsOf [Node.operation kind name vars dirs sels] = [] := rfl
    rw [show (Node.operation kind name vars dirs sels :: (vars.flatMap varDefNodes ++ dirsNodes dirs ++
        Node.selectionSet i sels :: selsNodes sels)) =
      [Node.operation kind name vars dirs sels] ++ (vars.flatMap varDefNodes ++ dirsNodes dirs ++
        Node.selectionSet i sels :: selsNodes sels) from rfl]
    rw [idsOf_append, idsOf_append, idsOf_append, h0, idsOf_nil_of_noSelSet _ (varDefsNodes_noSelSet vars),
      idsOf_nil_of_noSelSet _ (dirsNodes_noSelSet dirs), idsOf_cons_sel]
    rfl
  | frag name on dirs i sels =>
    simp only [defNodes, Def.topId, Def.topSels]
    have h0 : idsOf [Node.fragmentDef name on dirs] = [] := rfl
    rw [show (Node.fragmentDef name on dirs :: (dirsNodes dirs ++ Node.selectionSet i sels :: selsNodes sels)) =
      [Node.fragmentDef name on dirs] ++ (dirsNodes dirs ++ Node.selectionSet i sels :: selsNodes sels) from rfl]
    rw [idsOf_append, idsOf_append, h0, idsOf_nil_of_noSelSet _ (dirsNodes_noSelSet dirs), idsOf_cons_sel]
    rfl
  | ts a b => rfl

theorem selSetIds_eq (d : Doc) : selSetIds d = d.defs.flatMap fun df => idsOf (defNodes df) := by
  unfold selSetIds nodes
  show idsOf ([Node.document d] ++ d.defs.flatMap defNodes) = _
  rw [idsOf_append]
  have : idsOf [Node.document d] = [] := rfl
  rw [this, List.nil_append]
  induction d.defs with
  | nil => rfl
  | cons x xs ih => rw [List.flatMap_cons, List.flatMap_cons, idsOf_append, ih]

/-- a selection set of the document is the top-level one of a definition or nested in its selections -/
theorem selSet_place {d : Doc} {i : Nat} {sels : List Sel} (h : SelSet d i sels) :
    ∃ df ∈ d.defs, (df.topId = some i ∧ df.topSels = sels) ∨ Node.selectionSet i sels ∈ selsNodes df.topSels := by
  simp only [SelSet, nodes, List.mem_cons, reduceCtorEq, false_or, List.mem_flatMap] at h
  obtain ⟨df, hdf, hm⟩ := h
  refine ⟨df, hdf, ?_⟩
  cases df with
  | op kind name vars dirs j ss =>
    simp only [defNodes, List.mem_cons, List.mem_append, reduceCtorEq, false_or] at hm
    rcases hm with (hm | hm) | hm | hm
    · exact absurd (varDefsNodes_noSelSet _ _ hm) (by simp [Node.isSelSet])
    · exact absurd (dirsNodes_noSelSet _ _ hm) (by simp [Node.isSelSet])
    · cases hm; exact Or.inl ⟨rfl, rfl⟩
    · exact Or.inr hm
  | frag name on dirs j ss =>
    simp only [defNodes, List.mem_cons, List.mem_append, reduceCtorEq, false_or] at hm
    rcases hm with hm | hm | hm
    · exact absurd (dirsNodes_noSelSet _ _ hm) (by simp [Node.isSelSet])
    · cases hm; exact Or.inl ⟨rfl, rfl⟩
    · exact Or.inr hm
  | ts a b => simp [defNodes] at hm

/-- the sub-selection node of a collected field lies among the nodes of the selections it was collected from -/
theorem collD_sub_mem {s : SchemaD} {p : Option String} {sels : List Sel} {rn : String} {e : FEntry}
    (hc : CollD s p sels rn e) (hs : e.hasSub = true) : Node.selectionSet e.ssid e.sub ∈ selsNodes sels := by
  induction hc with
  | @field parent sels alias name args dirs hasSub ssid sub hm =>
    simp only at hs; subst hs
    exact mem_selsNodes_of_mem hm _ (by simp [selNodes])
  | @inline parent sels on dirs id sub rn e hm _ ih =>
    exact mem_selsNodes_of_mem hm _ (by
      simp only [selNodes, List.mem_cons, List.mem_append, reduceCtorEq, false_or]
      exact Or.inr (Or.inr (ih hs)))

/-- the sub-selection of a collected field is NESTED in the selections of some definition -/
theorem ent_sub_nested {s : SchemaD} {d : Doc} {e : FEntry} (he : Ent s d e) (hs : e.hasSub = true) :
    ∃ df ∈ d.defs, Node.selectionSet e.ssid e.sub ∈ selsNodes df.topSels := by
  obtain ⟨i, sels, p, rn, h1, _, h3⟩ := he
  have hm := collD_sub_mem h3 hs
  obtain ⟨df, hdf, hpl⟩ := selSet_place h1
  refine ⟨df, hdf, ?_⟩
  rcases hpl with ⟨_, rfl⟩ | hpl
  · exact hm
  · exact closed_sels _ _ _ hpl _ hm

theorem wf_selSet_unique {d : Doc} (hw : WfIds d) {i : Nat} {sels sels' : List Sel} (h1 : SelSet d i sels)
    (h2 : SelSet d i sels') : sels = sels' := by
  have := List.inj_of_nodup_filterMap (f := ssidOf?) (k := i) hw h1 h2 rfl rfl
  cases this; rfl

theorem noEmptyName_of {d : Doc} (hne : ∀ f ∈ fragNames d, f ≠ "") : AL.get? (fragTable d) "" = none := by
  cases hg : AL.get? (fragTable d) "" with
  | none => rfl
  | some v =>
    obtain ⟨on, fid, fsels⟩ := v
    obtain ⟨dirs, hdf⟩ := fragTable_def hg
    exact absurd rfl (hne "" (List.mem_filterMap.mpr ⟨_, hdf, rfl⟩))

theorem subsNotBodies_of {s : SchemaD} {d : Doc} (hw : WfIds d) :
    ∀ e, Ent s d e → e.hasSub = true → NotBody d e.ssid := by
  intro e he hs n on fsels ht
  obtain ⟨dirs, hF⟩ := fragTable_def ht
  obtain ⟨df, hdf, hnest⟩ := ent_sub_nested he hs
  rw [WfIds, selSetIds_eq] at hw
  obtain ⟨p1, p2⟩ := nodup_flatMap_parts _ _ hw
  have hin : e.ssid ∈ idsOf (selsNodes df.topSels) := mem_idsOf hnest
  by_cases hdd : df = Def.frag n on dirs e.ssid fsels
  · subst hdd
    have := p1 _ hF
    rw [idsOf_defNodes] at this
    simp only [Def.topId, Def.topSels, List.singleton_append, List.nodup_cons] at this hin
    exact this.1 hin
  · have hx : e.ssid ∈ idsOf (defNodes df) := by rw [idsOf_defNodes]; exact List.mem_append_right _ hin
    have hy : e.ssid ∈ idsOf (defNodes (Def.frag n on dirs e.ssid fsels)) := by
      rw [idsOf_defNodes]; simp [Def.topId]
    exact p2 _ hdf _ hF hdd _ hx hy

/-! ### spreads apart

  `spreadsApart` from well-formed identities, unique fragment names and acyclic fragment spreads
  (`Spec.noFragmentCycles`): a fragment reachable from a spread of a selection set whose body is that very set would
  close a cycle. -/

theorem spreadD_node {sels : List Sel} {g : String} (h : SpreadD sels g) : ∃ dirs, Node.spread g dirs ∈ selsNodes sels := by
  induction h with
  | @spread sels name dirs hm => exact ⟨dirs, mem_selsNodes_of_mem hm _ (by simp [selNodes])⟩
  | @inline sels on dirs id sub name hm _ ih =>
    obtain ⟨ds, hds⟩ := ih
    exact ⟨ds, mem_selsNodes_of_mem hm _ (by
      simp only [selNodes, List.mem_cons, List.mem_append, reduceCtorEq, false_or]
      exact Or.inr hds)⟩

theorem spreadD_direct {sels : List Sel} {g : String} (h : SpreadD sels g) : g ∈ directSpreads sels := by
  obtain ⟨dirs, hd⟩ := spreadD_node h
  exact List.mem_filterMap.mpr ⟨_, hd, rfl⟩

theorem frag_def_unique {d : Doc} (hnd : (fragNames d).Nodup) {n on on' : String} {dirs dirs' : List Dir} {i i' : Nat}
    {sels sels' : List Sel} (h1 : Def.frag n on dirs i sels ∈ d.defs) (h2 : Def.frag n on' dirs' i' sels' ∈ d.defs) :
    Def.frag n on dirs i sels = Def.frag n on' dirs' i' sels' :=
  List.inj_of_nodup_filterMap (k := n) hnd h1 h2 rfl rfl

theorem fragSels_table {d : Doc} (hnd : (fragNames d).Nodup) {n on : String} {fid : Nat} {fsels : List Sel}
    (ht : AL.get? (fragTable d) n = some (on, fid, fsels)) : fragSels d n = fsels := by
  obtain ⟨dirs, hF⟩ := fragTable_def ht
  unfold fragSels
  cases hfs : d.defs.findSome? (fun | .frag m _ _ _ sels => if m == n then some sels else none | _ => none) with
  | none =>
    rw [List.findSome?_eq_none_iff] at hfs
    have := hfs _ hF
    simp at this
  | some v =>
    obtain ⟨x, hx, hxv⟩ := List.exists_of_findSome?_eq_some hfs
    cases x with
    | frag m on' dirs' i' sels' =>
      simp only at hxv
      by_cases hmn : (m == n) = true
      · rw [if_pos hmn] at hxv
        cases hxv
        have hm : m = n := by simpa using hmn
        subst hm
        have := frag_def_unique hnd hF hx
        cases this
        rfl
      · rw [if_neg hmn] at hxv; cases hxv
    | op => simp at hxv
    | ts => simp at hxv

theorem sprF_reach {d : Doc} (hnd : (fragNames d).Nodup) {a b : String} (h : SprF d a b) : Reach d a b := by
  obtain ⟨on, fid, fsels, ht, hs⟩ := h
  exact .step (by rw [fragSels_table hnd ht]; exact spreadD_direct hs)

theorem reachF_reach {d : Doc} (hnd : (fragNames d).Nodup) {a b : String} (h : ReachF d a b) : a = b ∨ Reach d a b := by
  induction h with
  | refl a => exact Or.inl rfl
  | step hs _ ih =>
    rcases ih with rfl | ih
    · exact Or.inr (sprF_reach hnd hs)
    · exact Or.inr (.trans (sprF_reach hnd hs) ih)

theorem spreadsApart_of {d : Doc} (hw : WfIds d) (hnd : (fragNames d).Nodup) (hac : noFragmentCycles d) :
    ∀ i sels, SelSet d i sels → ∀ g, SpreadD sels g → Apart d i g := by
  intro i sels hs g hg n hr on fid fsels ht hfi
  subst hfi
  have hbody : SelSet d fid fsels := fragTable_selSet ht
  have hsame : sels = fsels := wf_selSet_unique hw hs hbody
  subst hsame
  have hstep : Reach d n g := sprF_reach hnd ⟨on, fid, sels, ht, hg⟩
  have hcyc : Reach d n n := by
    rcases reachF_reach hnd hr with rfl | h
    · exact hstep
    · exact .trans hstep h
  obtain ⟨dirs, hF⟩ := fragTable_def ht
  exact hac n (List.mem_filterMap.mpr ⟨_, hF, rfl⟩) hcyc

end PyGql.Validate
