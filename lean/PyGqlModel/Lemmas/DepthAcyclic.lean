/-
  C19 — the decidable acyclicity check (`acyclic`: the computed fragment weights are consistent). It is preserved when a
  fresh fragment whose body does not mention it is appended (`acyclic_extend`), and under unique fragment names it is
  exactly declarative acyclicity, a rank that decreases along spreads (`acyclic_iff_Acyclic`).
-/
import PyGqlModel.Lemmas.DepthCollect
import PyGqlModel.Lemmas.ListBasics

namespace PyGql.Depth.Lemmas
open PyGql.Depth

mutual
def freeSel (nm : String) : Sel → Bool
  | .field _ _ _ sub => freeL nm sub
  | .inline _ ss => freeL nm ss
  | .spread n _ => n != nm
def freeL (nm : String) : List Sel → Bool
  | [] => true
  | s :: ss => freeSel nm s && freeL nm ss
end

mutual
def spreadsSel : Sel → List String
  | .field _ _ _ sub => spreadsL sub
  | .inline _ ss => spreadsL ss
  | .spread n _ => [n]
def spreadsL : List Sel → List String
  | [] => []
  | s :: ss => spreadsSel s ++ spreadsL ss
end

theorem free_not_spread (nm : String) :
    (∀ s, freeSel nm s = true → nm ∉ spreadsSel s) ∧ ∀ l, freeL nm l = true → nm ∉ spreadsL l := by
  refine sel_induction ?_ ?_ ?_ ?_ ?_
  · intro a n d sub ih h; exact ih h
  · intro d ss ih h; exact ih h
  · intro n d h
    simp only [freeSel, bne_iff_ne, ne_eq] at h
    simp only [spreadsSel, List.mem_singleton]
    exact fun e => h e.symm
  · intro _; exact List.not_mem_nil
  · intro s ss h1 h2 h
    simp only [freeL, Bool.and_eq_true] at h
    simp only [spreadsL, List.mem_append, not_or]
    exact ⟨h1 h.1, h2 h.2⟩

theorem pot_potL_congr_on (w1 w2 : String → Nat) :
    (∀ s : Sel, (∀ g ∈ spreadsSel s, w1 g = w2 g) → pot w1 s = pot w2 s) ∧
    ∀ l : List Sel, (∀ g ∈ spreadsL l, w1 g = w2 g) → potL w1 l = potL w2 l := by
  refine sel_induction ?_ ?_ ?_ (fun _ => rfl) ?_
  · intro a n d sub ih h; rw [pot_field, pot_field, ih h]
  · intro d ss ih h; rw [pot_inline, pot_inline, ih h]
  · intro n d h; rw [pot_spread, pot_spread, h n (List.mem_singleton_self n)]
  · intro s ss h1 h2 h
    rw [potL_cons, potL_cons, h1 fun g hg => h g (List.mem_append_left _ hg),
      h2 fun g hg => h g (List.mem_append_right _ hg)]

theorem pot_congr_on (w1 w2 : String → Nat) : ∀ s : Sel, (∀ g ∈ spreadsSel s, w1 g = w2 g) → pot w1 s = pot w2 s :=
  (pot_potL_congr_on w1 w2).1

theorem potL_congr_on (w1 w2 : String → Nat) : ∀ l : List Sel, (∀ g ∈ spreadsL l, w1 g = w2 g) → potL w1 l = potL w2 l :=
  (pot_potL_congr_on w1 w2).2

theorem pot_congr (nm : String) (w1 w2 : String → Nat) (h : ∀ n, n ≠ nm → w1 n = w2 n) :
    ∀ s : Sel, freeSel nm s = true → pot w1 s = pot w2 s :=
  fun s hs => pot_congr_on w1 w2 s fun g hg => h g fun e => (free_not_spread nm).1 s hs (e ▸ hg)

theorem potL_congr (nm : String) (w1 w2 : String → Nat) (h : ∀ n, n ≠ nm → w1 n = w2 n) :
    ∀ l : List Sel, freeL nm l = true → potL w1 l = potL w2 l :=
  fun l hl => potL_congr_on w1 w2 l fun g hg => h g fun e => (free_not_spread nm).2 l hl (e ▸ hg)

theorem pot_potL_mono (w1 w2 : String → Nat) (h : ∀ n, w1 n ≤ w2 n) :
    (∀ s : Sel, pot w1 s ≤ pot w2 s) ∧ ∀ l : List Sel, potL w1 l ≤ potL w2 l := by
  refine sel_induction ?_ ?_ ?_ (Nat.le_refl _) ?_
  · intro a n d sub ih; rw [pot_field, pot_field]; exact Nat.succ_le_succ ih
  · intro d ss ih; rw [pot_inline, pot_inline]; exact Nat.succ_le_succ ih
  · intro n d; rw [pot_spread, pot_spread]; exact Nat.succ_le_succ (h n)
  · intro s ss h1 h2
    rw [potL_cons, potL_cons]
    exact Nat.max_le.mpr ⟨Nat.le_trans h1 (Nat.le_max_left _ _), Nat.le_trans h2 (Nat.le_max_right _ _)⟩

theorem pot_mono (w1 w2 : String → Nat) (h : ∀ n, w1 n ≤ w2 n) : ∀ s : Sel, pot w1 s ≤ pot w2 s :=
  (pot_potL_mono w1 w2 h).1

theorem potL_mono (w1 w2 : String → Nat) (h : ∀ n, w1 n ≤ w2 n) : ∀ l : List Sel, potL w1 l ≤ potL w2 l :=
  (pot_potL_mono w1 w2 h).2

/-- weight of `n` after one round: the potential of the FIRST fragment named `n` (0 if none) -/
def firstW (w : String → Nat) (n : String) : List Frag → Nat
  | [] => 0
  | f :: fs => if n == f.name then potL w f.sels else firstW w n fs

theorem wOf_weightStep (frags : List Frag) (tbl : List (String × Nat)) (n : String) :
    wOf (weightStep frags tbl) n = firstW (wOf tbl) n frags := by
  induction frags with
  | nil => simp [weightStep, wOf, firstW]
  | cons f fs ih =>
    simp only [weightStep, wOf, List.map_cons, List.lookup, firstW] at ih ⊢
    cases h : n == f.name <;> simp [ih]

theorem firstW_mono (w1 w2 : String → Nat) (h : ∀ n, w1 n ≤ w2 n) (n : String) :
    ∀ frags : List Frag, firstW w1 n frags ≤ firstW w2 n frags := by
  intro frags
  induction frags with
  | nil => simp [firstW]
  | cons f fs ih =>
    simp only [firstW]
    split
    · exact potL_mono w1 w2 h f.sels
    · exact ih

theorem firstW_le (w : String → Nat) (n : String) :
    ∀ frags : List Frag, Consistent frags w → firstW w n frags ≤ w n := by
  intro frags
  induction frags with
  | nil => intro _; simp [firstW]
  | cons f fs ih =>
    intro hc
    simp only [firstW]
    split
    · rename_i hn
      have hn' : n = f.name := by simpa using hn
      rw [hn']
      exact hc f (by simp)
    · exact ih (fun g hg => hc g (by simp [hg]))

theorem firstW_congr (nm : String) (w1 w2 : String → Nat) (h : ∀ n, n ≠ nm → w1 n = w2 n) (n : String) :
    ∀ frags : List Frag, (∀ f ∈ frags, freeL nm f.sels = true) → firstW w1 n frags = firstW w2 n frags := by
  intro frags
  induction frags with
  | nil => intro _; rfl
  | cons f fs ih =>
    intro hf
    simp only [firstW]
    rw [potL_congr nm w1 w2 h f.sels (hf f (by simp)), ih (fun g hg => hf g (by simp [hg]))]

theorem firstW_append_other (w : String → Nat) (nm : String) (body : List Sel) (n : String) (hn : n ≠ nm) :
    ∀ frags : List Frag, firstW w n (frags ++ [⟨nm, body⟩]) = firstW w n frags := by
  intro frags
  induction frags with
  | nil => simp [firstW, hn]
  | cons f fs ih => simp only [List.cons_append, firstW, ih]

theorem firstW_append_new (w : String → Nat) (nm : String) (body : List Sel) :
    ∀ frags : List Frag, (∀ f ∈ frags, f.name ≠ nm) → firstW w nm (frags ++ [⟨nm, body⟩]) = potL w body := by
  intro frags
  induction frags with
  | nil => intro _; simp [firstW]
  | cons f fs ih =>
    intro hf
    have h1 : (nm == f.name) = false := by
      have := hf f (by simp)
      simp; exact fun h => this h.symm
    simp only [List.cons_append, firstW, h1, Bool.false_eq_true, if_false]
    exact ih (fun g hg => hf g (by simp [hg]))

theorem iter_succ' {α : Type} (f : α → α) : ∀ (k : Nat) (a : α), iter f (k + 1) a = f (iter f k a) := by
  intro k
  induction k with
  | zero => intro a; rfl
  | succ k ih => intro a; exact ih (f a)

def W (frags : List Frag) (k : Nat) : String → Nat := wOf (iter (weightStep frags) k [])

theorem W_succ (frags : List Frag) (k : Nat) (n : String) : W frags (k + 1) n = firstW (W frags k) n frags := by
  unfold W
  rw [iter_succ', wOf_weightStep]

theorem W_inc (frags : List Frag) : ∀ (k : Nat) (n : String), W frags k n ≤ W frags (k + 1) n := by
  intro k
  induction k with
  | zero => intro n; simp [W, iter, wOf]
  | succ k ih =>
    intro n
    rw [W_succ, W_succ frags (k + 1)]
    exact firstW_mono _ _ ih n frags

theorem acyclic_iff (frags : List Frag) :
    acyclic frags = true ↔ Consistent frags (W frags (frags.length + 1)) := by
  simp only [acyclic, weights, List.all_eq_true, Consistent, W]
  constructor
  · intro h f hf; exact of_decide_eq_true (h f hf)
  · intro h f hf; exact decide_eq_true (h f hf)

theorem W_fix (frags : List Frag) (k : Nat) (hc : Consistent frags (W frags k)) (n : String) :
    W frags (k + 1) n = W frags k n := by
  have h1 := W_inc frags k n
  have h2 : W frags (k + 1) n ≤ W frags k n := by rw [W_succ]; exact firstW_le _ n frags hc
  omega

theorem acyclic_extend (frags : List Frag) (nm : String) (body : List Sel) (ha : acyclic frags = true)
    (hfree : ∀ f ∈ frags, freeL nm f.sels = true) (hfresh : ∀ f ∈ frags, f.name ≠ nm)
    (hbody : freeL nm body = true) : acyclic (frags ++ [⟨nm, body⟩]) = true := by
  have hc := (acyclic_iff frags).mp ha
  rw [acyclic_iff]
  -- agreement of the two iterations off `nm`
  have agree : ∀ (k : Nat) (n : String), n ≠ nm → W (frags ++ [⟨nm, body⟩]) k n = W frags k n := by
    intro k
    induction k with
    | zero => intro n _; rfl
    | succ k ih =>
      intro n hn
      rw [W_succ, W_succ, firstW_append_other _ nm body n hn frags]
      exact firstW_congr nm _ _ ih n frags hfree
  have hfix := W_fix frags (frags.length + 1) hc
  have hlen : (frags ++ [(⟨nm, body⟩ : Frag)]).length + 1 = frags.length + 1 + 1 := by simp
  rw [hlen]
  have hfixfun : W frags (frags.length + 1 + 1) = W frags (frags.length + 1) := funext hfix
  intro f hf
  simp only [List.mem_append, List.mem_singleton] at hf
  rcases hf with hf | hf
  · have hne := hfresh f hf
    rw [potL_congr nm _ _ (agree (frags.length + 1 + 1)) f.sels (hfree f hf), agree _ f.name hne, hfixfun]
    exact hc f hf
  · subst hf
    dsimp only
    rw [W_succ _ (frags.length + 1) nm, firstW_append_new _ nm body frags hfresh,
      potL_congr nm _ _ (agree (frags.length + 1 + 1)) body hbody,
      potL_congr nm _ _ (agree (frags.length + 1)) body hbody, hfixfun]
    exact Nat.le_refl _

/-- declarative acyclicity (what NoFragmentCycles guarantees): some rank strictly decreases along every
    spread of a DEFINED fragment inside a fragment body -/
def Acyclic (frags : List Frag) : Prop :=
  ∃ r : String → Nat, ∀ f ∈ frags, ∀ g ∈ spreadsL f.sels, (∃ f' ∈ frags, f'.name = g) → r g < r f.name

/-- UniqueFragmentNames -/
def UniqueNames (frags : List Frag) : Prop := (frags.map (·.name)).Nodup

theorem spread_lt (w : String → Nat) :
    (∀ s : Sel, ∀ g ∈ spreadsSel s, w g + 1 ≤ pot w s) ∧ ∀ l : List Sel, ∀ g ∈ spreadsL l, w g + 1 ≤ potL w l := by
  refine sel_induction ?_ ?_ ?_ ?_ ?_
  · intro a n d sub ih g hg; rw [pot_field]; exact Nat.le_succ_of_le (ih g hg)
  · intro d ss ih g hg; rw [pot_inline]; exact Nat.le_succ_of_le (ih g hg)
  · intro n d g hg
    obtain rfl := List.mem_singleton.mp hg
    rw [pot_spread]; exact Nat.le_refl _
  · intro g hg; cases hg
  · intro s ss h1 h2 g hg
    rw [potL_cons]
    rcases List.mem_append.mp hg with hg | hg
    · exact Nat.le_trans (h1 g hg) (Nat.le_max_left _ _)
    · exact Nat.le_trans (h2 g hg) (Nat.le_max_right _ _)

theorem spread_lt_pot (w : String → Nat) : ∀ s : Sel, ∀ g ∈ spreadsSel s, w g + 1 ≤ pot w s := (spread_lt w).1

theorem spread_lt_potL (w : String → Nat) : ∀ l : List Sel, ∀ g ∈ spreadsL l, w g + 1 ≤ potL w l := (spread_lt w).2

/-- soundness of the check: the computed weights are a rank -/
theorem acyclic_sound (frags : List Frag) (h : acyclic frags = true) : Acyclic frags := by
  have hc := (acyclic_iff frags).mp h
  refine ⟨W frags (frags.length + 1), ?_⟩
  intro f hf g hg _
  have h1 := spread_lt_potL (W frags (frags.length + 1)) f.sels g hg
  have h2 := hc f hf
  omega

theorem firstW_unique (w : String → Nat) :
    ∀ frags : List Frag, UniqueNames frags → ∀ f ∈ frags, firstW w f.name frags = potL w f.sels := by
  intro frags
  induction frags with
  | nil => intro _ f hf; cases hf
  | cons f0 fs ih =>
    intro hu f hf
    simp only [UniqueNames, List.map_cons, List.nodup_cons] at hu
    simp only [firstW]
    cases hf with
    | head => simp
    | tail _ hf =>
      have hne : (f.name == f0.name) = false := by
        simp
        intro heq
        exact hu.1 (by rw [← heq]; exact List.mem_map_of_mem (f := (·.name)) hf)
      simp only [hne, Bool.false_eq_true, if_false]
      exact ih hu.2 f hf

theorem firstW_undefined (w : String → Nat) (g : String) :
    ∀ frags : List Frag, (∀ f ∈ frags, f.name ≠ g) → firstW w g frags = 0 := by
  intro frags
  induction frags with
  | nil => intro _; rfl
  | cons f0 fs ih =>
    intro h
    have hne : (g == f0.name) = false := by
      simp; exact fun heq => h f0 (by simp) heq.symm
    simp only [firstW, hne, Bool.false_eq_true, if_false]
    exact ih (fun f hf => h f (by simp [hf]))

theorem W_undefined (frags : List Frag) (g : String) (h : ∀ f ∈ frags, f.name ≠ g) : ∀ k, W frags k g = 0 := by
  intro k
  cases k with
  | zero => simp [W, iter, wOf]
  | succ k => rw [W_succ]; exact firstW_undefined _ g frags h

theorem W_stable (frags : List Frag) (hu : UniqueNames frags) (r : String → Nat)
    (hr : ∀ f ∈ frags, ∀ g ∈ spreadsL f.sels, (∃ f' ∈ frags, f'.name = g) → r g < r f.name) :
    ∀ (m : Nat) (f : Frag), f ∈ frags → r f.name < m → ∀ k, m ≤ k → W frags (k + 1) f.name = W frags k f.name := by
  intro m
  induction m with
  | zero => intro f _ h; omega
  | succ m ih =>
    intro f hf hrf k hk
    obtain ⟨k', rfl⟩ : ∃ k', k = k' + 1 := ⟨k - 1, by omega⟩
    rw [W_succ, W_succ frags k', firstW_unique _ frags hu f hf, firstW_unique _ frags hu f hf]
    apply potL_congr_on
    intro g hg
    by_cases hdef : ∃ f' ∈ frags, f'.name = g
    · obtain ⟨f', hf', hn⟩ := hdef
      have := hr f hf g hg ⟨f', hf', hn⟩
      have := ih f' hf' (by rw [hn]; omega) k' (by omega)
      rw [hn] at this
      exact this
    · have hund : ∀ f' ∈ frags, f'.name ≠ g := fun f' hf' heq => hdef ⟨f', hf', heq⟩
      rw [W_undefined frags g hund, W_undefined frags g hund]

theorem acyclic_complete (frags : List Frag) (hu : UniqueNames frags) (ha : Acyclic frags) : acyclic frags = true := by
  obtain ⟨r0, hr0⟩ := ha
  -- normalise the rank: number of fragments of strictly smaller rank (< number of fragments)
  let r : String → Nat := fun n => (frags.filter (fun h => decide (r0 h.name < r0 n))).length
  have hbound : ∀ f ∈ frags, r f.name < frags.length := by
    intro f hf
    have := List.length_filter_lt_of_imp (p := fun h => decide (r0 h.name < r0 f.name)) (q := fun _ => true) (l := frags)
      (fun _ _ _ => rfl) ⟨f, hf, rfl, by simp⟩
    have hall : (frags.filter (fun _ => true)).length = frags.length := by
      rw [List.filter_eq_self.mpr (fun _ _ => rfl)]
    rw [hall] at this
    exact this
  have hr : ∀ f ∈ frags, ∀ g ∈ spreadsL f.sels, (∃ f' ∈ frags, f'.name = g) → r g < r f.name := by
    intro f hf g hg hdef
    have hlt := hr0 f hf g hg hdef
    obtain ⟨f', hf', hn⟩ := hdef
    apply List.length_filter_lt_of_imp
    · intro x _ hx
      simp only [decide_eq_true_eq] at hx ⊢
      omega
    · exact ⟨f', hf', by simp [hn, hlt], by simp [hn]⟩
  rw [acyclic_iff]
  intro f hf
  have hst := W_stable frags hu r hr frags.length
  rw [W_succ frags frags.length f.name, firstW_unique _ frags hu f hf]
  apply Nat.le_of_eq
  apply potL_congr_on
  intro g hg
  by_cases hdef : ∃ f' ∈ frags, f'.name = g
  · obtain ⟨f', hf', hn⟩ := hdef
    have := hst f' hf' (hbound f' hf') frags.length (Nat.le_refl _)
    rw [hn] at this
    exact this
  · have hund : ∀ f' ∈ frags, f'.name ≠ g := fun f' hf' heq => hdef ⟨f', hf', heq⟩
    rw [W_undefined frags g hund, W_undefined frags g hund]

theorem acyclic_iff_Acyclic (frags : List Frag) (hu : UniqueNames frags) : acyclic frags = true ↔ Acyclic frags :=
  ⟨acyclic_sound frags, acyclic_complete frags hu⟩

end PyGql.Depth.Lemmas
