/-
  The chain of ONE rule (`TypeInfoVisitor` + the rule), which the per-rule theorems are about: what a node of it does,
  and rules that are IDLE on a class of nodes - there they neither report, nor raise `SkipNode`, nor change their state -
  so that their state is the same after any sub-tree made of such nodes (`idle_alg`). For a rule that is idle below the
  definitions (below the document) the state after a definition (the document) is the one it had on entering its top
  node, whether or not it raised `SkipNode` there (`visitDef_rs`, `visitDocument_rs`).
-/
import PyGqlModel.Lemmas.ValidateWalk
namespace PyGql.Validate
open PyGql PyGql.Validate.Spec

/-- a single-rule chain whose rule raised `SkipNode`: nobody but `TypeInfoVisitor` is left -/
theorem leaveSkipped_single (s : SchemaD) (fx : Fixes) (r : Rule) (n : Node) (st0 st1 : St)
    (h : (enterRule s fx r n st1.ti st0.rs).2 = true) :
    leaveSkipped ⟨s, fx, [r]⟩ n st0 st1 = { ti := tiLeave n st1.ti, rs := st1.rs } := by
  unfold leaveSkipped raisedRules
  revert h
  generalize enterRule s fx r n st1.ti st0.rs = p
  obtain ⟨a, b⟩ := p
  intro h
  simp only at h
  subst h
  simp [raisedRules]

theorem enter_one_rule (s : SchemaD) (fx : Fixes) (r : Rule) (n : Node) (st : St) :
    enter ⟨s, fx, [r]⟩ n st =
      ({ ti := tiEnter s n st.ti, rs := (enterRule s fx r n (tiEnter s n st.ti) st.rs).1 },
       (enterRule s fx r n (tiEnter s n st.ti) st.rs).2) := by
  simp only [enter, enterRules]
  generalize enterRule s fx r n (tiEnter s n st.ti) st.rs = p
  obtain ⟨a, b⟩ := p
  cases b <;> simp

theorem leave_one_rule (s : SchemaD) (fx : Fixes) (r : Rule) (n : Node) (st : St) :
    leave ⟨s, fx, [r]⟩ n st = { ti := tiLeave n st.ti, rs := leaveRule s fx r n st.ti st.rs } := rfl

/-- single-rule chain that skips at `n`: the state after the node is the entered state with `TypeInfoVisitor` left -/
theorem leaveSkipped_enter_single (s : SchemaD) (fx : Fixes) (r : Rule) (n : Node) (st : St)
    (h : (enter ⟨s, fx, [r]⟩ n st).2 = true) :
    leaveSkipped ⟨s, fx, [r]⟩ n st (enter ⟨s, fx, [r]⟩ n st).1 =
      { ti := tiLeave n (tiEnter s n st.ti), rs := (enterRule s fx r n (tiEnter s n st.ti) st.rs).1 } := by
  rw [enter_one_rule] at h ⊢
  exact leaveSkipped_single s fx r n st _ h

section
variable (s : SchemaD) (fx : Fixes) (r : Rule)

theorem visitNode_one_skip (n : Node) (body : St → St) (st : St)
    (h : (enterRule s fx r n (tiEnter s n st.ti) st.rs).2 = true) :
    visitNode ⟨s, fx, [r]⟩ n body st =
      { ti := tiLeave n (tiEnter s n st.ti), rs := (enterRule s fx r n (tiEnter s n st.ti) st.rs).1 } := by
  have h2 : (enter ⟨s, fx, [r]⟩ n st).2 = true := by rw [enter_one_rule]; exact h
  rw [visitNode_true h2, leaveSkipped_enter_single s fx r n st h2]

theorem visitNode_one_noskip (n : Node) (body : St → St) (st : St)
    (h : (enterRule s fx r n (tiEnter s n st.ti) st.rs).2 = false) :
    visitNode ⟨s, fx, [r]⟩ n body st = leave ⟨s, fx, [r]⟩ n
      (body { ti := tiEnter s n st.ti, rs := (enterRule s fx r n (tiEnter s n st.ti) st.rs).1 }) := by
  have h2 : (enter ⟨s, fx, [r]⟩ n st).2 = false := by rw [enter_one_rule]; exact h
  rw [visitNode_false h2, enter_one_rule]

/-- the lone rule neither reports, nor skips, nor changes its state on entering or leaving `n` -/
def IdleAt (n : Node) : Prop :=
  (∀ ti rs, enterRule s fx r n ti rs = (rs, false)) ∧ ∀ ti rs, leaveRule s fx r n ti rs = rs

variable {s fx r}

theorem idle_node {n : Node} (hn : IdleAt s fx r n) {body : St → St} {st : St}
    (hb : ∀ st1, (body st1).rs = st1.rs) : (visitNode ⟨s, fx, [r]⟩ n body st).rs = st.rs := by
  rw [visitNode_one_noskip s fx r n body st (by rw [hn.1]), leave_one_rule, hn.2, hb, hn.1]

variable (s fx r)

theorem idle_alg : WalkAlg ⟨s, fx, [r]⟩ (fun ns st st' => (∀ n ∈ ns, IdleAt s fx r n) → st'.rs = st.rs) where
  nil _ _ := rfl
  append h1 h2 h := by
    rw [h2 (fun n hn => h n (List.mem_append_right _ hn)), h1 (fun n hn => h n (List.mem_append_left _ hn))]
  node n body ns st _ hb h :=
    idle_node (h n (List.mem_cons_self ..)) (fun st1 => hb st1 (fun m hm => h m (List.mem_cons_of_mem _ hm)))

end

def Def.top : Def → Node
  | .op kind name vars dirs _ sels => .operation kind name vars dirs sels
  | .frag name on dirs _ _ => .fragmentDef name on dirs
  | .ts .. => .tsDef

section
variable {s : SchemaD} {fx : Fixes} {r : Rule}

/-- a node whose body keeps the rule state and whose `leave` does nothing: skip or no skip, the state is the entered one -/
theorem visitNode_one_rs (hL : ∀ ti rs, leaveRule s fx r n ti rs = rs) {body : St → St} (st : St)
    (hb : ∀ st1, (body st1).rs = st1.rs) :
    (visitNode ⟨s, fx, [r]⟩ n body st).rs = (enterRule s fx r n (tiEnter s n st.ti) st.rs).1 := by
  cases hs : (enterRule s fx r n (tiEnter s n st.ti) st.rs).2 with
  | true => rw [visitNode_one_skip s fx r n body st hs]
  | false => rw [visitNode_one_noskip s fx r n body st hs, leave_one_rule, hL, hb]

theorem visitDef_rs (hi : ∀ n, n.isTop = false → IdleAt s fx r n) (hL : ∀ n ti rs, leaveRule s fx r n ti rs = rs)
    (x : Def) (st : St) :
    (visitDef ⟨s, fx, [r]⟩ x st).rs = (enterRule s fx r x.top (tiEnter s x.top st.ti) st.rs).1 := by
  cases x with
  | op kind name vars dirs ssid sels =>
    rw [visitDef]
    exact visitNode_one_rs (hL _) st fun st1 => opBodyG (idle_alg s fx r).toV vars dirs ssid sels st1
      fun n hn => hi n (opBodyNodes_below vars dirs ssid sels n hn)
  | frag name on dirs ssid sels =>
    rw [visitDef]
    exact visitNode_one_rs (hL _) st fun st1 => fragBodyG (idle_alg s fx r).toV dirs ssid sels st1
      fun n hn => hi n (fragBodyNodes_below dirs ssid sels n hn)
  | ts a b =>
    rw [visitDef]
    exact visitNode_one_rs (hL _) st fun _ => rfl

theorem visitDocument_rs (hi : ∀ n, n.isDoc = false → IdleAt s fx r n)
    (d : Doc) (hL : ∀ ti rs, leaveRule s fx r (.document d) ti rs = rs) (st : St) :
    (visitDocument ⟨s, fx, [r]⟩ d st).rs =
      (enterRule s fx r (.document d) (tiEnter s (.document d) st.ti) st.rs).1 := by
  rw [visitDocument]
  exact visitNode_one_rs hL st fun st1 =>
    visitDefsG (idle_alg s fx r).toV (fun n body ns st2 _ _ hb h =>
        idle_node (h n (List.mem_cons_self ..)) (fun st3 => hb st3 (fun m hm => h m (List.mem_cons_of_mem _ hm))))
      d.defs st1 fun n hn => by
        obtain ⟨x, _, hx⟩ := List.mem_flatMap.mp hn
        exact hi n (defNodes_notDoc x n hx)

end

end PyGql.Validate
