/-
  C13 — helper lemmas for `perm_deep` (Props/C13_perm.lean): schema descriptions up to the order of every list
  (`SchemaEqvV`), what the validator's look-ups give on two such descriptions, and the rules one by one
  (`valid_eqv`: `ValidSchema` is carried along a reordering).
-/
import PyGqlModel.Props.C13
import PyGqlModel.Lemmas.ListEqv

set_option linter.unusedSimpArgs false

namespace PyGql.Props.C13
open PyGql PyGql.SchemaValid PyGql.SchemaValidSpec PyGql.ListEqv PyGql.Generated.Subtype

/-- the same field, its arguments possibly listed in another order -/
structure FieldEqvV (f g : FieldD) : Prop where
  name : f.name = g.name
  type : f.type = g.type
  resolver : f.resolver = g.resolver
  subscriptionResolver : f.subscriptionResolver = g.subscriptionResolver
  args : f.args.Perm g.args

/-- the same type definition up to the order of its fields (and their arguments), interfaces, members, values and
    input fields -/
structure TypeEqvV (t u : TypeD) : Prop where
  kind : t.kind = u.kind
  name : t.name = u.name
  builtin : t.builtin = u.builtin
  defaultResolver : t.defaultResolver = u.defaultResolver
  members : t.members.Perm u.members
  interfaces : t.interfaces.Perm u.interfaces
  values : t.values.Perm u.values
  inputFields : t.inputFields.Perm u.inputFields
  fields : ListEqv FieldEqvV t.fields u.fields

structure DirEqvV (d e : DirectiveD) : Prop where
  name : d.name = e.name
  args : d.args.Perm e.args

/-- the same schema up to the order of every list in it -/
structure SchemaEqvV (s s' : SchemaD) : Prop where
  types : ListEqv TypeEqvV s.types s'.types
  directives : ListEqv DirEqvV s.directives s'.directives
  query : s.query = s'.query
  mutation : s.mutation = s'.mutation
  subscription : s.subscription = s'.subscription
  defaultResolver : s.defaultResolver = s'.defaultResolver

theorem eqv_left {α} {R : α → α → Prop} {l l' : List α} (h : ListEqv R l l') : ∀ a ∈ l, ∃ b ∈ l', R a b := by
  obtain ⟨m, hp, h2⟩ := h
  intro a ha; exact forall2_left h2 a (hp.mem_iff.mp ha)

theorem lastNamed_eq_find {α} {name : α → String} {l : List α} (h : (l.map name).Nodup) (n : String) :
    lastNamed name l n = l.find? (fun x => name x == n) := by
  unfold lastNamed
  exact (find_name_perm (List.reverse_perm l).symm (nodup_uniq h) n).symm

theorem FieldEqvV.symm {f g : FieldD} (h : FieldEqvV f g) : FieldEqvV g f :=
  ⟨h.name.symm, h.type.symm, h.resolver.symm, h.subscriptionResolver.symm, h.args.symm⟩

theorem TypeEqvV.symm {t u : TypeD} (h : TypeEqvV t u) : TypeEqvV u t :=
  ⟨h.kind.symm, h.name.symm, h.builtin.symm, h.defaultResolver.symm, h.members.symm, h.interfaces.symm,
   h.values.symm, h.inputFields.symm, ListEqv.symm (fun _ _ r => FieldEqvV.symm r) h.fields⟩

theorem SchemaEqvV.symm {s s' : SchemaD} (h : SchemaEqvV s s') : SchemaEqvV s' s :=
  ⟨ListEqv.symm (fun _ _ r => TypeEqvV.symm r) h.types,
   ListEqv.symm (fun _ _ r => (⟨r.name.symm, r.args.symm⟩ : DirEqvV _ _)) h.directives,
   h.query.symm, h.mutation.symm, h.subscription.symm, h.defaultResolver.symm⟩

theorem FieldEqvV.refl (f : FieldD) : FieldEqvV f f := ⟨rfl, rfl, rfl, rfl, .refl _⟩

theorem TypeEqvV.refl (t : TypeD) : TypeEqvV t t :=
  ⟨rfl, rfl, rfl, rfl, .refl _, .refl _, .refl _, .refl _, _, .refl _, forall2_refl FieldEqvV.refl _⟩

/-! ### the look-ups of the validator: they see the schema through `findType` only, up to the order of the lists of a type -/

private theorem any_perm {α} {l l' : List α} (h : l.Perm l') (p : α → Bool) : l.any p = l'.any p := h.any_eq

theorem findType_eqv {s s' : SchemaD} (E : SchemaEqvV s s') (ND : (s.types.map (·.name)).Nodup) (n : String) :
    OptRel TypeEqvV (s.findType n) (s'.findType n) := by
  unfold SchemaD.findType
  exact ListEqv.find (name := TypeD.name) (fun a b r => r.name) E.types (nodup_uniq ND) n

section
variable {s s' : SchemaD} (F : ∀ n, OptRel TypeEqvV (s.findType n) (s'.findType n))
include F

theorem kindOf_eqv : kindOf s' = kindOf s := by
  funext n
  unfold kindOf
  have := F n
  cases h1 : s.findType n <;> cases h2 : s'.findType n <;> rw [h1, h2] at this <;> simp only [OptRel] at this
  simp [this.kind]

theorem isPossibleType_eqv : isPossibleType s' = isPossibleType s := by
  funext a b
  cases a with
  | named x =>
    cases b with
    | named y =>
      simp only [isPossibleType]
      have hx := F x
      have hy := F y
      cases h1 : s.findType x <;> cases h2 : s'.findType x <;> rw [h1, h2] at hx <;> simp only [OptRel] at hx
      cases h3 : s.findType y <;> cases h4 : s'.findType y <;> rw [h3, h4] at hy <;> simp only [OptRel] at hy
      rename_i tx tx' ty ty'
      have hm : tx'.members.contains y = tx.members.contains y := by
        apply Bool.eq_iff_iff.mpr; simp only [List.contains_iff_mem]; exact hx.members.symm.mem_iff
      have hi : ty'.interfaces.contains x = ty.interfaces.contains x := by
        apply Bool.eq_iff_iff.mpr; simp only [List.contains_iff_mem]; exact hy.interfaces.symm.mem_iff
      simp only [← hx.kind, ← hy.kind, hm, hi]
    | _ => rfl
  | _ => rfl

theorem subtype_eqv (a b : Ty) : Subtype s' a b ↔ Subtype s a b := by
  have hk := kindOf_eqv F
  have hab : isAbstractTy s' = isAbstractTy s := by funext t; cases t <;> simp [isAbstractTy, hk]
  have hob : isObjectTy s' = isObjectTy s := by funext t; cases t <;> simp [isObjectTy, hk]
  have hpo := isPossibleType_eqv F
  have hit : ∀ k, subIter s' k = subIter s k := by
    intro k; induction k with
    | zero => rfl
    | succ k ih => simp [subIter, hab, hob, hpo, ih]
  rw [← subtype_iff, ← subtype_iff]; simp [isSubtype, hit]

theorem defaultBad_eqv (n : Nat) : defaultBad s' n = defaultBad s n := by
  induction n with
  | zero => rfl
  | succ n ih =>
    funext ty v
    cases ty with
    | nonNull t => simp only [defaultBad, ih]
    | list t => cases v <;> simp only [defaultBad, ih]
    | named nm =>
      have hx := F nm
      cases h1 : s.findType nm <;> cases h2 : s'.findType nm <;> rw [h1, h2] at hx <;> simp only [OptRel] at hx
      · cases v <;> simp only [defaultBad, h1, h2]
      · rename_i td td'
        have hany : ∀ p, td'.inputFields.any p = td.inputFields.any p := any_perm hx.inputFields.symm
        cases v <;> simp only [defaultBad, h1, h2, ← hx.kind, ← hx.builtin, any_perm hx.values.symm, hany, ih]

theorem isInputType_eqv : isInputType s' = isInputType s := by
  funext t; simp [isInputType, kindOf_eqv F]

theorem isOutputType_eqv : isOutputType s' = isOutputType s := by
  funext t; simp [isOutputType, kindOf_eqv F]

end


theorem resolverCompatible_perm {args args' : List ArgD} (hp : args.Perm args') (r : ResolverD)
    (h : ResolverCompatible args r) : ResolverCompatible args' r := by
  obtain ⟨h1, h2, h3⟩ := h
  refine ⟨h1, fun a ha => h2 a (hp.mem_iff.mpr ha), ?_⟩
  have e : unfedParams r.params args' = unfedParams r.params args := by
    unfold unfedParams
    congr 1
    funext p
    have : (providedNames r.params args').contains p.name = (providedNames r.params args).contains p.name := by
      apply Bool.eq_iff_iff.mpr
      simp only [List.contains_iff_mem]
      unfold providedNames
      exact (hp.filterMap _).symm.mem_iff
    rw [this]
  rw [e]; exact h3

section
variable {s s' : SchemaD} (E : SchemaEqvV s s') (ND : (s.types.map (·.name)).Nodup) {rv : Bool}
include E ND

theorem argsOK_eqv {args args' : List ArgD} (hp : args.Perm args') (h : ArgsOK s args) : ArgsOK s' args' := by
  obtain ⟨h1, h2⟩ := h
  refine ⟨fun a ha => ?_, (hp.map _).nodup_iff.mp h2⟩
  obtain ⟨hn, hi, hd⟩ := h1 a (hp.mem_iff.mpr ha)
  refine ⟨hn, by rw [isInputType_eqv (findType_eqv E ND)]; exact hi, ?_⟩
  intro hdef
  rw [defaultBad_eqv (findType_eqv E ND)]; exact hd hdef

theorem fieldsOK_eqv {t t' : TypeD} (ht : TypeEqvV t t') (h : FieldsOK s rv t) : FieldsOK s' rv t' := by
  obtain ⟨hne, hall, hnd⟩ := h
  refine ⟨ListEqv.ne_nil ht.fields hne, ?_, ?_⟩
  · intro f' hf'
    obtain ⟨f, hf, r⟩ := ListEqv.right ht.fields f' hf'
    obtain ⟨hn, ho, ha, hr⟩ := hall f hf
    refine ⟨by rw [← r.name]; exact hn, by rw [isOutputType_eqv (findType_eqv E ND), ← r.type]; exact ho,
      argsOK_eqv E ND r.args ha, ?_⟩
    intro res hres hrv hk
    have hpick : pickResolver s' t' f' = pickResolver s t f := by
      unfold pickResolver
      rw [← r.resolver, ← ht.kind, ← ht.defaultResolver, ← E.defaultResolver]
    have := hr res (by rw [hpick, ← r.subscriptionResolver] at hres; exact hres) hrv (by rw [ht.kind]; exact hk)
    exact ⟨this.1, fun hi => resolverCompatible_perm r.args res (this.2 hi)⟩
  · exact (ListEqv.map_perm ht.fields _ _ (fun a b _ r => r.name)).nodup_iff.mp hnd

theorem implements_eqv {t t' it it' : TypeD} (ht : TypeEqvV t t') (hit : TypeEqvV it it')
    (hft : (t.fields.map (·.name)).Nodup) (hat : ∀ f ∈ t.fields, (f.args.map (·.name)).Nodup)
    (hait : ∀ f ∈ it.fields, (f.args.map (·.name)).Nodup) (h : Implements s t it) : Implements s' t' it' := by
  intro f' hf'
  obtain ⟨f, hf, rf⟩ := ListEqv.right hit.fields f' hf'
  obtain ⟨o, ho, hsub, hargs, hextra⟩ := h f hf
  have hfind := ListEqv.find (name := FieldD.name) (fun a b r => r.name) ht.fields (nodup_uniq hft) f.name
  have hft' : (t'.fields.map (·.name)).Nodup :=
    (ListEqv.map_perm ht.fields _ _ (fun a b _ r => r.name)).nodup_iff.mp hft
  unfold fieldMap at ho ⊢
  rw [lastNamed_eq_find hft] at ho
  rw [lastNamed_eq_find hft', ← rf.name]
  rw [ho] at hfind
  have hom : o ∈ t.fields := List.mem_of_find?_eq_some ho
  cases ho' : t'.fields.find? (fun y => y.name == f.name) with
  | none => rw [ho'] at hfind; simp [OptRel] at hfind
  | some o' =>
    rw [ho'] at hfind
    have ro : FieldEqvV o o' := hfind
    have hno : (o.args.map (·.name)).Nodup := hat o hom
    have hnf : (f.args.map (·.name)).Nodup := hait f hf
    refine ⟨o', rfl, ?_, ?_, ?_⟩
    · rw [subtype_eqv (findType_eqv E ND), ← ro.type, ← rf.type]; exact hsub
    · intro a ha
      obtain ⟨oa, hoa, hty⟩ := hargs a (rf.args.mem_iff.mpr ha)
      unfold argMap at hoa ⊢
      rw [lastNamed_eq_find hno] at hoa
      rw [lastNamed_eq_find ((ro.args.map _).nodup_iff.mp hno), ← find_name_perm ro.args (nodup_uniq hno) a.name]
      exact ⟨oa, hoa, hty⟩
    · intro a ha hnone
      apply hextra a (ro.args.mem_iff.mpr ha)
      unfold argMap at hnone ⊢
      rw [lastNamed_eq_find hnf]
      rw [lastNamed_eq_find ((rf.args.map _).nodup_iff.mp hnf), ← find_name_perm rf.args (nodup_uniq hnf) a.name] at hnone
      exact hnone

theorem interfacesOK_eqv {t t' : TypeD} (ht : TypeEqvV t t') (V : ∀ u ∈ s.types, TypeOK s rv u)
    (hfo : FieldsOK s rv t) (h : InterfacesOK s t) : InterfacesOK s' t' := by
  obtain ⟨h1, h2⟩ := h
  refine ⟨fun i hi => ?_, ht.interfaces.nodup_iff.mp h2⟩
  obtain ⟨it, hfi, hk, himp⟩ := h1 i (ht.interfaces.mem_iff.mpr hi)
  have hx := findType_eqv E ND i
  rw [hfi] at hx
  cases h2' : s'.findType i with
  | none => rw [h2'] at hx; simp [OptRel] at hx
  | some it' =>
    rw [h2'] at hx
    have rit : TypeEqvV it it' := hx
    have hitm : it ∈ s.types := by
      unfold SchemaD.findType at hfi; exact List.mem_of_find?_eq_some hfi
    have hok := V it hitm
    have hfi' : FieldsOK s rv it := by
      simp only [TypeOK, hk] at hok; exact hok.2
    exact ⟨it', rfl, by rw [← rit.kind]; exact hk,
      implements_eqv E ND ht rit hfo.2.2 (fun f hf => (hfo.2.1 f hf).2.2.1.2)
        (fun f hf => (hfi'.2.1 f hf).2.2.1.2) himp⟩

theorem typeOK_eqv {t t' : TypeD} (ht : TypeEqvV t t') (V : ∀ u ∈ s.types, TypeOK s rv u)
    (h : TypeOK s rv t) : TypeOK s' rv t' := by
  unfold TypeOK at h ⊢
  obtain ⟨hname, hbody⟩ := h
  refine ⟨by rw [← ht.builtin, ← ht.name]; exact hname, ?_⟩
  rw [← ht.kind]
  cases hk : t.kind <;> rw [hk] at hbody <;> simp only at hbody ⊢
  · exact ⟨fieldsOK_eqv E ND ht hbody.1, interfacesOK_eqv E ND ht V hbody.1 hbody.2⟩
  · exact fieldsOK_eqv E ND ht hbody
  · obtain ⟨h1, h2, h3⟩ := hbody
    refine ⟨fun e => h1 (List.Perm.eq_nil (e ▸ ht.members)) , fun m hm => ?_, ht.members.nodup_iff.mp h3⟩
    rw [kindOf_eqv (findType_eqv E ND)]; exact h2 m (ht.members.mem_iff.mpr hm)
  · obtain ⟨h1, h2⟩ := hbody
    exact ⟨fun e => h1 (List.Perm.eq_nil (e ▸ ht.values)), fun v hv => h2 v (ht.values.mem_iff.mpr hv)⟩
  · obtain ⟨h1, h2, h3⟩ := hbody
    refine ⟨fun e => h1 (List.Perm.eq_nil (e ▸ ht.inputFields)), fun f hf => ?_, (ht.inputFields.map _).nodup_iff.mp h3⟩
    obtain ⟨hn, hi, hd⟩ := h2 f (ht.inputFields.mem_iff.mpr hf)
    refine ⟨hn, by rw [isInputType_eqv (findType_eqv E ND)]; exact hi, ?_⟩
    intro hdef; rw [defaultBad_eqv (findType_eqv E ND)]; exact hd hdef

theorem valid_eqv (V : ValidSchema s rv) : ValidSchema s' rv := by
  obtain ⟨hr, ht, hd⟩ := V
  refine ⟨?_, ?_, ?_⟩
  · unfold RootsOK RootOK at hr ⊢
    rw [← E.query, ← E.mutation, ← E.subscription, kindOf_eqv (findType_eqv E ND)]; exact hr
  · intro t' ht'
    obtain ⟨t, htm, r⟩ := ListEqv.right E.types t' ht'
    exact typeOK_eqv E ND r ht (ht t htm)
  · intro d' hd'
    obtain ⟨d, hdm, r⟩ := ListEqv.right E.directives d' hd'
    obtain ⟨hn, ha⟩ := hd d hdm
    exact ⟨by rw [← r.name]; exact hn, argsOK_eqv E ND r.args ha⟩

end

end PyGql.Props.C13
