/-
  The collector after the whole walk (`finalVC`): its scoped events (`docEvs`) and hence its look-ups in terms of the
  declarative notions of `Spec/ValidSpecVars.lean` (`OpSpreads`, `FragSpreads`, `UsedDirectly`, `FragUses`,
  `defUsages`, `varDefFor`, `DefinedIn`), the three `leave_document` verdicts as specification clauses, and the
  single-rule chain of a `VariablesCollector` subclass (`vc_rule_errors`).
-/
import PyGqlModel.Lemmas.ValidateTypedFst
import PyGqlModel.Lemmas.ValidateVarsErr
import PyGqlModel.Lemmas.ValidateLone
namespace PyGql.Validate
open PyGql PyGql.Validate.Spec

def docEvs (s : SchemaD) (d : Doc) : List (Scope × VEv) := d.defs.flatMap (defEvs s)

theorem mem_useEvs (l : List (String × Usage)) (e : VEv) : e ∈ VC.useEvs l ↔ ∃ p ∈ l, e = .use p.1 p.2 := by
  simp [VC.useEvs, eq_comm]

theorem mem_vlog_spread (s : SchemaD) (l : List (Node × View)) (g : String) :
    VEv.spread g ∈ vlog s l ↔ ∃ dirs w, (Node.spread g dirs, w) ∈ l := by
  simp only [vlog, List.mem_flatMap]
  constructor
  · rintro ⟨⟨n, w⟩, hp, he⟩
    cases n <;> simp only [evOf, mem_useEvs, List.mem_singleton, List.not_mem_nil, reduceCtorEq, and_false,
      exists_false, VEv.spread.injEq] at he
    subst he
    exact ⟨_, _, hp⟩
  · rintro ⟨dirs, w, hp⟩
    exact ⟨_, hp, by simp [evOf]⟩

theorem mem_vlog_use (s : SchemaD) (l : List (Node × View)) (x : String) (u : Usage) :
    VEv.use x u ∈ vlog s l ↔ (x, u) ∈ l.flatMap (nodeUsages s) := by
  simp only [vlog, List.mem_flatMap]
  constructor
  · rintro ⟨⟨n, w⟩, hp, he⟩
    refine ⟨(n, w), hp, ?_⟩
    cases n <;> simp only [evOf, mem_useEvs, List.mem_singleton, List.not_mem_nil, reduceCtorEq, and_false,
      exists_false, VEv.use.injEq] at he
    obtain ⟨p, hp', rfl, rfl⟩ := he
    exact hp'
  · rintro ⟨⟨n, w⟩, hp, he⟩
    refine ⟨(n, w), hp, ?_⟩
    cases n <;> simp only [nodeUsages, List.not_mem_nil] at he
    simp only [evOf, mem_useEvs]
    exact ⟨_, he, rfl⟩

theorem mem_map_mk {α β} (a a' : α) (b : β) (l : List β) : (a, b) ∈ l.map (fun b => (a', b)) ↔ a' = a ∧ b ∈ l := by
  simp only [List.mem_map, Prod.mk.injEq]
  exact ⟨fun ⟨_, h, e1, e2⟩ => ⟨e1, e2 ▸ h⟩, fun ⟨e1, h⟩ => ⟨b, h, e1, rfl⟩⟩

/-- definition `df` is filed under scope `sc` -/
def Scope.files (sc : Scope) (df : Def) : Prop :=
  match sc with
  | .op o => df.opKey? = some o
  | .frag f => df.fragName? = some f

theorem mem_defEvs (s : SchemaD) (df : Def) (sc : Scope) (e : VEv) :
    (sc, e) ∈ defEvs s df ↔ sc.files df ∧ e ∈ vlog s (tnDef s df) := by
  cases sc <;> cases df <;> simp [defEvs, Scope.files, Def.opKey?, Def.fragName?, mem_map_mk]

theorem mem_docEvs (s : SchemaD) (d : Doc) (sc : Scope) (e : VEv) :
    (sc, e) ∈ docEvs s d ↔ ∃ df ∈ d.defs, sc.files df ∧ e ∈ vlog s (tnDef s df) := by
  simp only [docEvs, List.mem_flatMap, mem_defEvs]

theorem mem_vlog_defUsages (s : SchemaD) (df : Def) (x : String) (u : Usage) :
    VEv.use x u ∈ vlog s (tnDef s df) ↔ (x, u) ∈ defUsages s df := mem_vlog_use s _ x u

theorem mem_defSpreads (s : SchemaD) (df : Def) (g : String) :
    VEv.spread g ∈ vlog s (tnDef s df) ↔ g ∈ defSpreads df := by
  rw [mem_vlog_spread, defSpreads, ← tnDef_fst s df]
  simp only [List.mem_flatMap, List.mem_map]
  constructor
  · rintro ⟨dirs, w, hp⟩
    exact ⟨_, ⟨_, hp, rfl⟩, by simp⟩
  · rintro ⟨n, ⟨⟨n', w⟩, hp, rfl⟩, hg⟩
    cases n' <;> simp only [List.mem_singleton, List.not_mem_nil] at hg
    subst hg
    exact ⟨_, _, hp⟩

theorem mem_defVarUses (s : SchemaD) (df : Def) (x : String) :
    (∃ u, (x, u) ∈ defUsages s df) ↔ x ∈ defVarUses df := by
  rw [defVarUses, ← tnDef_fst s df, defUsages]
  simp only [List.mem_flatMap, List.mem_map]
  constructor
  · rintro ⟨u, ⟨n, w⟩, hp, hu⟩
    refine ⟨n, ⟨_, hp, rfl⟩, ?_⟩
    cases n <;> simp only [nodeUsages, List.not_mem_nil] at hu
    simp only
    rw [← usesValue_fst s]
    exact List.mem_map.mpr ⟨_, hu, rfl⟩
  · rintro ⟨n, ⟨⟨n', w⟩, hp, rfl⟩, hx⟩
    cases n' <;> simp only [List.not_mem_nil] at hx
    rename_i a
    rw [← usesValue_fst s (argPos s w a.name)] at hx
    obtain ⟨⟨x', u⟩, hu, rfl⟩ := List.mem_map.mp hx
    exact ⟨u, _, hp, hu⟩

/-- "used at some position" is "used", whatever picks the definitions -/
theorem exists_usage_iff (s : SchemaD) (d : Doc) (K : Def → Prop) (x : String) :
    (∃ u, ∃ df ∈ d.defs, K df ∧ (x, u) ∈ defUsages s df) ↔ ∃ df ∈ d.defs, K df ∧ x ∈ defVarUses df := by
  simp only [← mem_defVarUses s]
  exact ⟨fun ⟨u, df, h1, h2, h3⟩ => ⟨df, h1, h2, u, h3⟩, fun ⟨df, h1, h2, u, h3⟩ => ⟨u, df, h1, h2, h3⟩⟩

def defnsOf (evs : List VEv) : List VarDef := evs.filterMap fun | .defn v => some v | _ => none
def varDefOf? : Node → Option VarDef | .varDef v => some v | _ => none

theorem defnsOf_useEvs (l : List (String × Usage)) : defnsOf (VC.useEvs l) = [] := by
  induction l with
  | nil => rfl
  | cons p l ih => simp [defnsOf, VC.useEvs]

theorem defnsOf_append (a b : List VEv) : defnsOf (a ++ b) = defnsOf a ++ defnsOf b := by simp [defnsOf]

theorem defnsOf_vlog (s : SchemaD) (l : List (Node × View)) : defnsOf (vlog s l) = (l.map (·.1)).filterMap varDefOf? := by
  induction l with
  | nil => rfl
  | cons p l ih =>
    obtain ⟨n, w⟩ := p
    rw [vlog_cons, defnsOf_append, ih, List.map_cons, List.filterMap_cons]
    cases n <;> first | rfl | (simp only [evOf, defnsOf_useEvs, varDefOf?, List.nil_append]) | (simp [evOf, varDefOf?, defnsOf])

theorem filterMap_varDef_nil (ns : List Node) (h : ∀ n ∈ ns, n.isBody = true) : ns.filterMap varDefOf? = [] :=
  List.filterMap_eq_nil_iff.mpr fun n hn => by
    have := h n hn
    cases n <;> first | rfl | cases this

theorem filterMap_varDefNodes (vars : List VarDef) : (vars.flatMap varDefNodes).filterMap varDefOf? = vars := by
  induction vars with
  | nil => rfl
  | cons v vs ih =>
    rw [List.flatMap_cons, List.filterMap_append, ih, varDefNodes, List.filterMap_cons]
    simp only [varDefOf?]
    rw [filterMap_varDef_nil]
    · rfl
    · intro n hn
      rcases List.mem_append.mp hn with hn | hn
      · cases hd : v.default with
        | none => rw [hd] at hn; cases hn
        | some dv => rw [hd] at hn; exact valueNodes_body dv n hn
      · rcases List.mem_cons.mp hn with rfl | hn
        · rfl
        · exact dirsNodes_body v.dirs n hn

theorem defnsOf_tnDef (s : SchemaD) (df : Def) : defnsOf (vlog s (tnDef s df)) = df.vars := by
  rw [defnsOf_vlog, tnDef_fst]
  cases df with
  | op kind name vars dirs ssid sels =>
    simp only [defNodes, List.filterMap_cons, varDefOf?, List.filterMap_append, filterMap_varDefNodes, Def.vars]
    rw [filterMap_varDef_nil _ (dirsNodes_body dirs), filterMap_varDef_nil _ (selsNodes_body sels)]
    simp
  | frag name on dirs ssid sels =>
    simp only [defNodes, List.filterMap_cons, varDefOf?, List.filterMap_append, Def.vars]
    rw [filterMap_varDef_nil _ (dirsNodes_body dirs), filterMap_varDef_nil _ (selsNodes_body sels)]
    rfl
  | ts a b => rfl

theorem defnsAt_map_op (o k : String) (evs : List VEv) :
    defnsAt o (evs.map fun e => (Scope.op k, e)) = if k = o then defnsOf evs else [] := by
  induction evs with
  | nil => simp [defnsAt, defnsOf]
  | cons e es ih =>
    simp only [defnsAt, defnsOf, List.map_cons, List.filterMap_cons] at ih ⊢
    cases e <;> simp only [ih]
    by_cases h : k = o <;> simp [h]

theorem defnsAt_map_frag (o f : String) (evs : List VEv) : defnsAt o (evs.map fun e => (Scope.frag f, e)) = [] :=
  List.filterMap_eq_nil_iff.mpr fun p hp => by
    obtain ⟨e, _, rfl⟩ := List.mem_map.mp hp
    rfl

theorem defnsAt_defEvs (s : SchemaD) (o : String) (df : Def) :
    defnsAt o (defEvs s df) = if df.opKey? = some o then df.vars else [] := by
  cases df with
  | op kind name vars dirs ssid sels =>
    simp only [defEvs, defnsAt_map_op, defnsOf_tnDef, Def.opKey?, Def.vars, Option.some.injEq]
  | frag name on dirs ssid sels => simp only [defEvs, defnsAt_map_frag, Def.opKey?, reduceCtorEq, ↓reduceIte]
  | ts a b => rfl

theorem defnsAt_docEvs (s : SchemaD) (o : String) (d : Doc) :
    defnsAt o (docEvs s d) = d.defs.flatMap fun df => if df.opKey? = some o then df.vars else [] := by
  simp only [docEvs, defnsAt, List.filterMap_flatMap]
  exact congrArg (List.flatMap · d.defs) (funext (defnsAt_defEvs s o))

theorem lastIn_eq_find (x : String) (L : List VarDef) (init : Option VarDef) :
    lastIn x L init = (L.reverse.find? (·.name == x)).or init := by
  induction L generalizing init with
  | nil => simp [lastIn]
  | cons v vs ih =>
    rw [lastIn, ih, List.reverse_cons, List.find?_append]
    by_cases h : x = v.name
    · subst h; cases (vs.reverse.find? fun w => w.name == v.name) <;> simp
    · have : ¬ v.name = x := fun e => h e.symm
      cases (vs.reverse.find? fun w => w.name == x) <;> simp [h, this]

theorem docEvs_dfn (s : SchemaD) (d : Doc) (o x : String) :
    lastIn x (defnsAt o (docEvs s d)) none = varDefFor d o x := by
  rw [defnsAt_docEvs, lastIn_eq_find, varDefFor]
  simp

theorem varDefFor_isSome (d : Doc) (o x : String) : (varDefFor d o x).isSome = true ↔ DefinedIn d o x := by
  rw [varDefFor, List.find?_isSome, DefinedIn]
  simp only [List.mem_reverse, List.mem_flatMap, beq_iff_eq, List.mem_map]
  constructor
  · rintro ⟨v, ⟨df, hdf, hv⟩, rfl⟩
    by_cases hk : df.opKey? = some o
    · rw [if_pos hk] at hv; exact ⟨df, hdf, hk, v, hv, rfl⟩
    · rw [if_neg hk] at hv; cases hv
  · rintro ⟨df, hdf, hk, v, hv, rfl⟩
    exact ⟨v, ⟨df, hdf, by rw [if_pos hk]; exact hv⟩, rfl⟩

/-- the collector when `leave_document` starts -/
def finalVC (fx : Fixes) (s : SchemaD) (d : Doc) : VC := d.defs.foldl (fun cc x => defEffect fx s x cc) {}

theorem finalVC_sem (fx : Fixes) (s : SchemaD) (d : Doc) :
    (finalVC fx s d).sem = Sem.run fx (docEvs s d) ({} : VC).sem :=
  sem_defEffects fx s d.defs {} ⟨rfl, rfl, rfl⟩

theorem finalVC_wf (fx : Fixes) (s : SchemaD) (d : Doc) : (finalVC fx s d).WFall :=
  wfall_defEffects fx s d.defs VC.wfall_empty

theorem final_sp (fx : Fixes) (s : SchemaD) (d : Doc) (sc : Scope) (g : String) :
    g ∈ (finalVC fx s d).sem.sp sc ↔ (∃ df ∈ d.defs, sc.files df ∧ g ∈ defSpreads df) ∧ sc ≠ .frag g := by
  rw [finalVC_sem, run_sp, mem_docEvs]
  simp only [mem_defSpreads]
  cases sc <;> simp [Sem.sp, VC.sem, AL.getD, AL.get?_nil]

theorem final_useK (fx : Fixes) (s : SchemaD) (d : Doc) (sc : Scope) (x : String) :
    (finalVC fx s d).sem.useK sc x = true ↔ ∃ df ∈ d.defs, sc.files df ∧ x ∈ defVarUses df := by
  rw [finalVC_sem, run_useK]
  simp only [mem_docEvs, mem_vlog_defUsages]
  rw [exists_usage_iff]
  cases sc <;> simp [Sem.useK, VC.sem, AL.getD, AL.get?_nil, AL.has]

theorem final_use (fx : Fixes) (h3 : fx.v3 = true) (s : SchemaD) (d : Doc) (sc : Scope) (x : String) (u : Usage) :
    u ∈ (finalVC fx s d).sem.use sc x ↔ ∃ df ∈ d.defs, sc.files df ∧ (x, u) ∈ defUsages s df := by
  rw [finalVC_sem, run_use fx h3, mem_docEvs]
  simp only [mem_vlog_defUsages]
  cases sc <;> simp [Sem.use, VC.sem, AL.getD, AL.get?_nil]

theorem final_dfn (fx : Fixes) (s : SchemaD) (d : Doc) (o x : String) :
    (finalVC fx s d).sem.dfn o x = varDefFor d o x := by
  rw [finalVC_sem, run_dfn, ← docEvs_dfn s d o x]
  rfl

/-- the recorded fragment-to-fragment spreads leave self-spreads out; reachability is the same -/
theorem final_reach (fx : Fixes) (s : SchemaD) (d : Doc) (f g : String) :
    VC.Reach (finalVC fx s d).fragFrags f g ↔ FragReach d f g := by
  constructor
  · intro h
    induction h with
    | refl a => exact .refl a
    | step h1 _ ih => exact .step ((final_sp fx s d (.frag _) _).mp h1).1 ih
  · intro h
    induction h with
    | refl a => exact .refl a
    | @step a b c h1 _ ih =>
      by_cases hb : b = a
      · subst hb; exact ih
      · exact .step ((final_sp fx s d (.frag a) b).mpr ⟨h1, fun e => hb (Scope.frag.inj e).symm⟩) ih

theorem flat_sp (fx : Fixes) (h4 : fx.v4 = true) (s : SchemaD) (d : Doc) (o g : String) :
    g ∈ ((finalVC fx s d).flatten fx).sem.sp (.op o) ↔ OpReaches d o g := by
  rw [flatten_osp fx h4, OpReaches]
  have hsp : ∀ f, f ∈ (finalVC fx s d).sem.sp (.op o) ↔ OpSpreads d o f := fun f =>
    (final_sp fx s d (.op o) f).trans (and_iff_left Scope.noConfusion)
  simp only [hsp, final_reach]

theorem undefined_final (fx : Fixes) (h4 : fx.v4 = true) (s : SchemaD) (d : Doc) :
    ((finalVC fx s d).flatten fx).undefinedErrors = 0 ↔ Spec.noUndefinedVariables d := by
  rw [undefined_zero_iff _ (flatten_wfall fx h4 (finalVC_wf fx s d))]
  obtain ⟨e1, _, e3⟩ := flatten_sem fx h4 (finalVC fx s d)
  simp only [e1, e3, flat_sp fx h4, final_useK, final_dfn, varDefFor_isSome]
  unfold Spec.noUndefinedVariables UsedIn
  constructor
  · rintro ⟨h1, h2⟩ o x (hu | ⟨f, hf, hx⟩)
    · exact h2 o x hu
    · exact h1 o f x hf hx
  · intro h
    exact ⟨fun o f x hf hx => h o x (Or.inr ⟨f, hf, hx⟩), fun o x hu => h o x (Or.inl hu)⟩

theorem unused_final (fx : Fixes) (h4 : fx.v4 = true) (s : SchemaD) (d : Doc) :
    ((finalVC fx s d).flatten fx).unusedErrors = 0 ↔ Spec.noUnusedVariables d := by
  rw [unused_zero_iff _ (flatten_wfall fx h4 (finalVC_wf fx s d))]
  obtain ⟨e1, _, e3⟩ := flatten_sem fx h4 (finalVC fx s d)
  simp only [e1, e3, flat_sp fx h4, final_useK, final_dfn, varDefFor_isSome]
  rfl

theorem usageBad_false_iff (s : SchemaD) (vd : VarDef) (u : Usage) :
    VC.usageBad s vd u = false ↔ usageAllowed s vd u := by
  unfold VC.usageBad usageAllowed
  cases hu : u.inputType with
  | none => simp
  | some it =>
    cases ht : typeFromAst s vd.type with
    | none => simp
    | some vt =>
      simp only [Option.some.injEq, forall_eq']
      cases it with
      | nonNull inner =>
        cases hn : vt.isNonNull with
        | true => simp
        | false =>
          simp only [VarDef.hasNonNullDefault]
          cases hd : vd.default with
          | none => cases u.locDefault <;> cases isSubtype s vt inner <;> simp
          | some dv => cases dv <;> cases u.locDefault <;> cases isSubtype s vt inner <;> simp
      | named n => cases vt.isNonNull <;> simp
      | list l => cases vt.isNonNull <;> simp

theorem position_final (fx : Fixes) (h3 : fx.v3 = true) (h4 : fx.v4 = true) (s : SchemaD) (d : Doc) :
    ((finalVC fx s d).flatten fx).positionErrors s = 0 ↔ Spec.variablesInAllowedPosition s d := by
  rw [position_zero_iff _ _ (flatten_wfall fx h4 (finalVC_wf fx s d))]
  obtain ⟨e1, e2, _⟩ := flatten_sem fx h4 (finalVC fx s d)
  simp only [e1, e2, flat_sp fx h4, final_use fx h3, final_dfn, usageBad_false_iff]
  rfl

/-- rule `r` is a `VariablesCollector` kept in a field of the rule state (read by `π`, written by `σ`) whose
    `leave_document` adds `errF` errors -/
structure VCRule (s : SchemaD) (fx : Fixes) (r : Rule) (π : RS → VC) (σ : VC → RS → RS) (errF : VC → Nat) : Prop where
  init : π {} = {}
  get_set : ∀ v rs, π (σ v rs) = v
  errs_set : ∀ v rs, (σ v rs).errs = rs.errs
  enter : ∀ n ti rs, enterRule s fx r n ti rs = (σ (vcEnter fx n ti (π rs)) rs, false)
  leave : ∀ n ti rs, n.isDoc = false → leaveRule s fx r n ti rs = σ (vcLeave n (π rs)) rs
  leaveDoc : ∀ d ti rs, (leaveRule s fx r (.document d) ti rs).errs.length = rs.errs.length + errF ((π rs).flatten fx)

theorem vc_rule_errors {s : SchemaD} {fx : Fixes} {r : Rule} {π : RS → VC} {σ : VC → RS → RS} {errF : VC → Nat}
    (h : VCRule s fx r π σ errF) (d : Doc) :
    E (visitDocument ⟨s, fx, [r]⟩ d {}) = errF ((finalVC fx s d).flatten fx) := by
  have hvcc : VCC ⟨s, fx, [r]⟩ (fun st => π st.rs) :=
    { noskip := fun n st _ => by rw [enter_one_rule, h.enter]
      enterπ := fun n st _ => by rw [enter_one_rule, h.enter]; exact h.get_set ..
      leaveπ := fun n st hn => by rw [leave_one_rule, h.leave _ _ _ hn]; exact h.get_set .. }
  have hcf : CF ⟨s, fx, [r]⟩ (fun _ => 0) (fun _ => 0) :=
    { noskip := fun n st _ => by rw [enter_one_rule, h.enter]
      enterE := fun n st _ => by rw [enter_one_rule, h.enter]; exact congrArg List.length (h.errs_set ..)
      leaveE := fun n st hn => by rw [leave_one_rule, h.leave _ _ _ hn]; exact congrArg List.length (h.errs_set ..) }
  have hs := h.enter (.document d) (tiEnter s (.document d) ({} : St).ti) ({} : St).rs
  rw [visitDocument, visitNode_false (by rw [enter_one_rule, hs])]
  generalize hst1 : (enter ⟨s, fx, [r]⟩ (.document d) {}).1 = st1
  rw [enter_one_rule, hs] at hst1
  have ht1 : st1.ti = {} := by rw [← hst1]; rfl
  have hp1 : π st1.rs = {} := by rw [← hst1]; exact (h.get_set ..).trans h.init
  have he1 : E st1 = 0 := by rw [← hst1]; exact congrArg List.length (h.errs_set ..)
  obtain ⟨_, w2⟩ := visitDefsV hvcc d.defs st1 ht1 (by rw [hp1]; exact ⟨rfl, rfl, rfl⟩)
  have e2 := visitDefs_E hcf d.defs st1
  rw [leave_one_rule]
  simp only [E] at e2 he1 ⊢
  rw [h.leaveDoc, e2, he1]
  simp only at w2
  rw [w2, hp1]
  have : total (fun _ => 0) (fun _ => 0) (d.defs.flatMap defNodes) = 0 := by
    generalize d.defs.flatMap defNodes = ns
    induction ns with
    | nil => rfl
    | cons a as ih => rw [total_cons, ih]
  rw [this]
  simp [finalVC]

end PyGql.Validate
