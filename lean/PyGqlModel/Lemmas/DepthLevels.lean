/-
  C19 — one level of `_nesting_levels`, for the level-by-level loops (frontier of selection lists, one merged list): the
  fields collected at a level contribute one level more than their sub-selections taken together; the frontier entries of
  a collection, taken together, ARE the next merged level.
-/
import PyGqlModel.Lemmas.DepthCollect
import PyGqlModel.DepthFrontier
import PyGqlModel.DepthMerged

namespace PyGql.Depth.Lemmas
open PyGql.Depth PyGql.DepthSpec

theorem nextSelections_cons (k : String) (fs : List Fld) (G : Grouped) :
    nextSelections ((k, fs) :: G) = fs.flatMap (·.sub) ++ nextSelections G :=
  List.flatMap_cons

theorem groupSubs_cons (k : String) (fs : List Fld) (rest : Grouped) :
    groupSubs ((k, fs) :: rest) =
      (match fs.flatMap (·.sub) with | [] => groupSubs rest | s :: ss => (s :: ss) :: groupSubs rest) := rfl

theorem groupSubs_flatten (G : Grouped) : (groupSubs G).flatten = nextSelections G := by
  induction G with
  | nil => rfl
  | cons kv rest ih =>
    obtain ⟨k, fs⟩ := kv
    rw [nextSelections_cons, ← ih, groupSubs_cons]
    cases fs.flatMap (·.sub) <;> rfl

theorem mem_groupSubs {G : Grouped} {e : List Sel} (h : e ∈ groupSubs G) : ∃ kv ∈ G, e = kv.2.flatMap (·.sub) := by
  induction G with
  | nil => cases h
  | cons kv rest ih =>
    obtain ⟨k, fs⟩ := kv
    rw [groupSubs_cons] at h
    have tail : e ∈ groupSubs rest → ∃ kv ∈ (k, fs) :: rest, e = kv.2.flatMap (·.sub) := fun h =>
      have ⟨kv, hkv, he⟩ := ih h
      ⟨kv, List.mem_cons_of_mem _ hkv, he⟩
    cases hs : fs.flatMap (·.sub) with
    | nil => rw [hs] at h; exact tail h
    | cons s ss =>
      rw [hs] at h
      rcases List.mem_cons.mp h with rfl | h
      · exact ⟨(k, fs), List.mem_cons_self .., hs.symm⟩
      · exact tail h

section
variable (frags : List Frag) (vars : Vars) (w : String → Nat)

theorem gMax_fLv (G : Grouped) : (∀ kv ∈ G, kv.2 ≠ []) → G ≠ [] →
    1 + cL frags vars w (nextSelections G) = gMax (fLv frags vars w) G := by
  induction G with
  | nil => exact fun _ h => absurd rfl h
  | cons kv rest ih =>
    intro hg _
    obtain ⟨k, fs⟩ := kv
    have h1 := cL_flatMap_sub frags vars w fs (hg (k, fs) (List.mem_cons_self ..))
    rw [nextSelections_cons, cL_append, gMax, ← h1]
    cases rest with
    | nil => rw [show nextSelections [] = [] from rfl, cL_nil, gMax, Nat.max_zero, Nat.max_zero]
    | cons kv' rest' =>
      rw [← ih (fun kv h => hg kv (List.mem_cons_of_mem _ h)) (List.cons_ne_nil _ _), Nat.add_max_add_left]

theorem next_ok (K : Nat) (G : Grouped) (hg : GInv (FldOk vars w K) G) (hne : G ≠ []) :
    potL w (nextSelections G) + 1 ≤ K ∧ boundL vars (nextSelections G) = true := by
  have e : nextSelections G = (G.flatMap (·.2)).flatMap (·.sub) := List.flatMap_assoc.symm
  rw [e]
  refine subs_ok vars w K _ (fun h => ?_) fun f hf => ?_
  · obtain ⟨kv, G', rfl⟩ := List.exists_cons_of_ne_nil hne
    exact (hg kv (List.mem_cons_self ..)).1 (List.append_eq_nil_iff.mp (List.flatMap_cons ▸ h)).1
  · obtain ⟨kv, hkv, hf⟩ := List.mem_flatMap.mp hf
    exact (hg kv hkv).2 f hf

theorem groupSubs_ok (K : Nat) (G : Grouped) (hg : GInv (FldOk vars w K) G) (e : List Sel) (he : e ∈ groupSubs G) :
    potL w e + 1 ≤ K ∧ boundL vars e = true := by
  obtain ⟨kv, hkv, rfl⟩ := mem_groupSubs he
  exact subs_ok vars w K kv.2 (hg kv hkv).1 (hg kv hkv).2

end

end PyGql.Depth.Lemmas
