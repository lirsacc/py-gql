/-
  C19 — the nesting budget of C19-Q2.patch: (1) with the tolerant directive evaluation the traversal can
  fail ONLY by exhausting its budget; (2) the budget `(fragments + 2) * (1 + deepest written nesting)`
  is at least the fuel that suffices on acyclic documents.
-/
import PyGqlModel.Lemmas.DepthTolerant

namespace PyGql.Depth.Lemmas
open PyGql.Depth PyGql.DepthSpec

theorem skipT_total (d : Dirs) (vars : Vars) : ∃ b, skipSelectionT d vars = .ok b := by
  unfold skipSelectionT
  cases skipSelection d vars with
  | ok b => exact ⟨b, rfl⟩
  | error e => exact ⟨false, rfl⟩

theorem collectG_err (frags : List Frag) (vars : Vars) : ∀ (k : Nat) (sels : List Sel) (seen : List String),
    FailsWith (· = .recursion) (collectFieldsUntypedG skipSelectionT k sels frags vars seen) := by
  intro k
  induction k with
  | zero => intro sels seen e h; cases h; rfl
  | succ k ih =>
    intro sels seen
    refine .loopM sels _ fun st s _ => ?_
    obtain ⟨b, hb⟩ := skipT_total s.dirs vars
    rw [collectStepG_eq, hb]
    exact .guarded (.ok b) (.answer fun b m _ => ih b _)

theorem levelsLoop_err (rec : List Sel → Except Err Nat) (hrec : ∀ ss e, rec ss = .error e → e = .recursion) :
    ∀ (G : Grouped) (lv : Nat) (e : Err), levelsLoop rec lv G = .error e → e = .recursion := by
  intro G
  induction G with
  | nil => intro lv e h; simp [levelsLoop] at h
  | cons kv rest ih =>
    intro lv e h
    obtain ⟨k, fs⟩ := kv
    simp only [levelsLoop] at h
    cases hr : rec (fs.flatMap (·.sub)) with
    | error e' => simp [hr] at h; subst h; exact hrec _ _ hr
    | ok n => simp only [hr] at h; exact ih _ e h

theorem nestingG_err (frags : List Frag) (vars : Vars) :
    ∀ (k : Nat) (sels : List Sel) (e : Err),
      nestingLevelsG skipSelectionT k sels frags vars = .error e → e = .recursion := by
  intro k
  induction k with
  | zero => intro sels e h; simp [nestingLevelsG] at h; exact h.symm
  | succ k ih =>
    intro sels e h
    simp only [nestingLevelsG] at h
    cases hc : collectFieldsUntypedG skipSelectionT (k + 1) sels frags vars [] with
    | error e' => simp [hc] at h; subst h; exact collectG_err frags vars _ _ _ _ hc
    | ok r =>
      obtain ⟨G, S'⟩ := r
      simp only [hc] at h
      exact levelsLoop_err _ (fun ss e' he => ih ss e' he) G 0 e h

/-- the wrapper of the budgeted rule around a traversal that can only fail by exhausting its budget: a depth, or
    "unbounded" (`depthFixedB`, and the same wrapper around the other loops, unfold to this) -/
theorem depth_or_unbounded {x : Except Err Nat} (h : ∀ e, x = .error e → e = .recursion) :
    ∃ r, (match (match x with | .error e => .error e | .ok n => .ok (n - 1) : Except Err Nat) with
      | .ok d => .ok (some d)
      | .error .recursion => .ok none
      | .error e => .error e : Except Err (Option Nat)) = .ok r := by
  cases x with
  | ok d => exact ⟨some (d - 1), rfl⟩
  | error e => cases h e rfl; exact ⟨none, rfl⟩

theorem depthFixedB_total (fuel : Nat) (op : Op) (frags : List Frag) (vars : Vars) :
    ∃ r, depthFixedB fuel op frags vars = .ok r :=
  depth_or_unbounded (nestingG_err frags vars fuel op.sels)

theorem ruleLoopB_total (depthOf : Nat → Op → Except Err (Option Nat)) (h : ∀ i op, ∃ r, depthOf i op = .ok r)
    (limit : Nat) (filter : Option String) :
    ∀ (ops : List Op) (i : Nat), ∃ errs, ruleLoopB depthOf limit filter i ops = .ok errs := by
  intro ops
  induction ops with
  | nil => intro i; exact ⟨[], rfl⟩
  | cons op rest ih =>
    intro i
    obtain ⟨errs, he⟩ := ih (i + 1)
    obtain ⟨r, hr⟩ := h i op
    simp only [ruleLoopB, hr, he]
    split <;> exact ⟨_, rfl⟩

theorem maxList_le {l : List Nat} {b : Nat} (h : ∀ x ∈ l, x ≤ b) : maxList l ≤ b := by
  induction l with
  | nil => exact Nat.zero_le b
  | cons y ys ih =>
    exact Nat.max_le.mpr ⟨h y (List.mem_cons_self ..), ih fun x hx => h x (List.mem_cons_of_mem _ hx)⟩

theorem le_maxList' {l : List Nat} {x : Nat} (h : x ∈ l) : x ≤ maxList l := by
  induction l with
  | nil => cases h
  | cons y ys ih =>
    cases h with
    | head => exact Nat.le_max_left _ _
    | tail _ h => exact Nat.le_trans (ih h) (Nat.le_max_right _ _)

theorem pot_potL_le_nest_add (w : String → Nat) (M : Nat) (hw : ∀ g, w g ≤ M) :
    (∀ s : Sel, pot w s ≤ pot (fun _ => 0) s + M) ∧ ∀ l : List Sel, potL w l ≤ potL (fun _ => 0) l + M := by
  refine sel_induction ?_ ?_ ?_ ?_ ?_
  · intro a n d sub ih; rw [pot_field, pot_field]; omega
  · intro d ss ih; rw [pot_inline, pot_inline]; omega
  · intro n d; rw [pot_spread, pot_spread]; have := hw n; omega
  · rw [potL_nil]; exact Nat.zero_le _
  · intro s ss h1 h2
    rw [potL_cons, potL_cons]
    exact Nat.max_le.mpr
      ⟨Nat.le_trans h1 (Nat.add_le_add_right (Nat.le_max_left _ _) M),
       Nat.le_trans h2 (Nat.add_le_add_right (Nat.le_max_right _ _) M)⟩

theorem pot_le_nest_add (w : String → Nat) (M : Nat) (hw : ∀ g, w g ≤ M) :
    ∀ s : Sel, pot w s ≤ pot (fun _ => 0) s + M :=
  (pot_potL_le_nest_add w M hw).1

theorem potL_le_nest_add (w : String → Nat) (M : Nat) (hw : ∀ g, w g ≤ M) :
    ∀ l : List Sel, potL w l ≤ potL (fun _ => 0) l + M :=
  (pot_potL_le_nest_add w M hw).2

theorem firstW_le_bound (w : String → Nat) (M Dm : Nat) (hw : ∀ g, w g ≤ M) (n : String) :
    ∀ frags : List Frag, (∀ f ∈ frags, nestOf f.sels ≤ Dm) → firstW w n frags ≤ Dm + M := by
  intro frags
  induction frags with
  | nil => intro _; simp [firstW]
  | cons f fs ih =>
    intro h
    simp only [firstW]
    split
    · have h1 := potL_le_nest_add w M hw f.sels
      have h2 := h f (by simp)
      unfold nestOf at h2
      omega
    · exact ih (fun g hg => h g (by simp [hg]))

theorem W_le (frags : List Frag) (Dm : Nat) (hD : ∀ f ∈ frags, nestOf f.sels ≤ Dm) :
    ∀ (k : Nat) (n : String), W frags k n ≤ k * (Dm + 1) := by
  intro k
  induction k with
  | zero => intro n; simp [W, iter, wOf]
  | succ k ih =>
    intro n
    rw [W_succ]
    have := firstW_le_bound (W frags k) (k * (Dm + 1)) Dm ih n frags hD
    rw [Nat.succ_mul]
    omega

theorem fuel_le_budget (doc : Doc) : doc.fuel ≤ doc.budget := by
  unfold Doc.fuel Doc.budget
  have hmem : ∀ x ∈ doc.ops.map (fun o => nestOf o.sels) ++ doc.frags.map (fun f => nestOf f.sels),
      x ≤ maxList (doc.ops.map (fun o => nestOf o.sels) ++ doc.frags.map (fun f => nestOf f.sels)) :=
    fun x hx => le_maxList' hx
  -- `D`: the deepest nesting as written, over operations and fragment definitions
  generalize maxList (doc.ops.map (fun o => nestOf o.sels) ++ doc.frags.map (fun f => nestOf f.sels)) = D at hmem
  have hDf : ∀ f ∈ doc.frags, nestOf f.sels ≤ D := fun f hf =>
    hmem _ (List.mem_append_right _ (List.mem_map_of_mem (f := fun f => nestOf f.sels) hf))
  have hDo : ∀ o ∈ doc.ops, nestOf o.sels ≤ D := fun o ho =>
    hmem _ (List.mem_append_left _ (List.mem_map_of_mem (f := fun o => nestOf o.sels) ho))
  have hW := W_le doc.frags D hDf (doc.frags.length + 1)
  have hops : maxList (doc.ops.map fun op => potL (wOf (weights doc.frags)) op.sels) ≤
      D + (doc.frags.length + 1) * (D + 1) := by
    apply maxList_le
    intro x hx
    obtain ⟨o, ho, rfl⟩ := List.mem_map.mp hx
    exact Nat.le_trans (potL_le_nest_add (wOf (weights doc.frags)) _ hW o.sels) (Nat.add_le_add_right (hDo o ho) _)
  rw [show doc.frags.length + 2 = (doc.frags.length + 1) + 1 from rfl, Nat.succ_mul, Nat.add_comm 1 D]
  omega

end PyGql.Depth.Lemmas
