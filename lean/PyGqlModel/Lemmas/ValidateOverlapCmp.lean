/-
  What every call of the search leaves of the context, with or without the memo: `compared_fragments` comes back as it
  was (`_conflicts_between_fields_and_fragment` adds to it), the triples memo only grows.
-/
import PyGqlModel.Lemmas.ValidateOverlapPost
namespace PyGql.Validate
open PyGql PyGql.Validate.Spec

theorem sumLoop_inv {α} (xs : List α) (f : α → OCtx → Nat × OCtx) (R : OCtx → OCtx → Prop)
    (hrefl : ∀ c, R c c) (htrans : ∀ a b c, R a b → R b c → R a c)
    (hf : ∀ x ∈ xs, ∀ c, R c (f x c).2) (c : OCtx) : R c (sumLoop xs f c).2 := by
  induction xs generalizing c with
  | nil => exact hrefl c
  | cons y ys ih =>
    rw [sumLoop_step]
    split
    · exact hrefl c
    · exact htrans _ _ _ (hf y (List.mem_cons_self ..) c) (ih (fun x hx => hf x (List.mem_cons_of_mem _ hx)) _)

/-- the fields-and-fragment memo (`ffp`) only grows -/
def FL (a b : OCtx) : Prop := ∀ k ∈ a.ffp, k ∈ b.ffp

theorem FL.refl (a : OCtx) : FL a a := fun _ h => h
theorem FL.trans {a b c : OCtx} (h1 : FL a b) (h2 : FL b c) : FL a c := fun k h => h2 k (h1 k h)

/-- `compared_fragments` comes back as it was, the triples memo only grows: every call except
    `_conflicts_between_fields_and_fragment`, which also adds to `compared_fragments` -/
structure Kp (c r : OCtx) : Prop where
  cmp : r.cmp = c.cmp
  ffp : FL c r

theorem Kp.refl (c : OCtx) : Kp c c := ⟨rfl, FL.refl c⟩
theorem Kp.trans {a b c : OCtx} (h1 : Kp a b) (h2 : Kp b c) : Kp a c := ⟨h2.cmp.trans h1.cmp, h1.ffp.trans h2.ffp⟩

theorem sumLoop_kp {α} (xs : List α) (f : α → OCtx → Nat × OCtx) (hf : ∀ x ∈ xs, ∀ c, Kp c (f x c).2) (c : OCtx) :
    Kp c (sumLoop xs f c).2 :=
  sumLoop_inv xs f Kp Kp.refl (fun _ _ _ => Kp.trans) hf c

theorem ff_kp (s : SchemaD) (p : Option String) (i : Nat) (sels : List Sel) (c : OCtx) :
    Kp c (fieldsAndFragments s p i sels c).2 := by
  obtain ⟨ch, e⟩ := fieldsAndFragments_ctx s p i sels c
  rw [e]
  exact ⟨rfl, fun _ h => h⟩

/-- the same with `compared_fragments` only growing -/
structure Kf (c r : OCtx) : Prop where
  cmp : ∀ n ∈ c.cmp, n ∈ r.cmp
  ffp : FL c r

theorem Kp.kf {c r : OCtx} (h : Kp c r) : Kf c r := ⟨fun n hn => by rw [h.cmp]; exact hn, h.ffp⟩
theorem Kf.trans {a b c : OCtx} (h1 : Kf a b) (h2 : Kf b c) : Kf a c :=
  ⟨fun n hn => h2.cmp n (h1.cmp n hn), h1.ffp.trans h2.ffp⟩

theorem sumLoop_kf {α} (xs : List α) (f : α → OCtx → Nat × OCtx) (hf : ∀ x ∈ xs, ∀ c, Kf c (f x c).2) (c : OCtx) :
    Kf c (sumLoop xs f c).2 :=
  sumLoop_inv xs f Kf (fun c => (Kp.refl c).kf) (fun _ _ _ => Kf.trans) hf c

theorem withFreshCmp_kp (f : OCtx → Nat × OCtx) (c : OCtx) (h : Kf { c with cmp := [] } (f { c with cmp := [] }).2) :
    Kp c (withFreshCmp f c).2 := ⟨rfl, h.ffp⟩

section
variable (s : SchemaD) (fx : Fixes) (memo : Bool)

theorem framesG (h7 : fx.v7 = true) : ∀ fuel,
    (∀ pme f1 f2 c, Kp c (findConflictG s fx memo fuel pme f1 f2 c).2) ∧
    (∀ me fm1 fm2 c, Kp c (conflictsBetweenG s fx memo fuel me fm1 fm2 c).2) ∧
    (∀ me f1 f2 c, Kp c (betweenFragmentsG s fx memo fuel me (some f1) (some f2) c).2) ∧
    (∀ me p1 id1 sels1 p2 id2 sels2 c, Kp c (betweenSubselectionsG s fx memo fuel me p1 id1 sels1 p2 id2 sels2 c).2) ∧
    (∀ me ssid fm name c, Kf c (betweenFieldsAndFragmentG s fx memo fuel me ssid fm name c).2) := by
  intro fuel
  induction fuel with
  | zero =>
    refine ⟨?_, ?_, ?_, ?_, ?_⟩
    · intro pme f1 f2 c; rw [findConflictG_zero]; exact ⟨rfl, fun _ h => h⟩
    · intro me fm1 fm2 c; rw [conflictsBetweenG_zero]; exact ⟨rfl, fun _ h => h⟩
    · intro me f1 f2 c; rw [betweenFragmentsG_zero]; exact ⟨rfl, fun _ h => h⟩
    · intro me p1 id1 sels1 p2 id2 sels2 c; rw [betweenSubselectionsG_zero]; exact ⟨rfl, fun _ h => h⟩
    · intro me ssid fm name c; rw [betweenFieldsAndFragmentG_zero]; exact ⟨fun _ h => h, fun _ h => h⟩
  | succ fuel ih =>
    obtain ⟨ifind, icb, ifr, iss, iff⟩ := ih
    refine ⟨?_, ?_, ?_, ?_, ?_⟩
    · intro pme f1 f2 c
      refine findConflictG_cases s fx memo (motive := fun r => Kp c r.2) fuel pme f1 f2 c (fun _ _ => ⟨rfl, fun _ h => h⟩)
        (fun _ _ => Kp.refl c) (fun _ _ _ _ _ _ => Kp.refl c) (fun _ _ _ _ r hr => ?_) (fun _ _ _ => Kp.refl c)
      rw [hr]
      exact iss _ _ _ _ _ _ _ c
    · intro me fm1 fm2 c
      rw [conflictsBetweenG_succ]
      refine sumLoop_kp _ _ (fun q _ c => ?_) c
      split
      · exact Kp.refl c
      · exact sumLoop_kp _ _ (fun f1 _ c => sumLoop_kp _ _ (fun f2 _ c => ifind me f1 f2 c) c) c
    · intro me f1 f2 c
      refine betweenFragmentsG_cases s fx memo (motive := fun r => Kp c r.2) h7 fuel me f1 f2 c (fun _ => Kp.refl c)
        (fun _ => Kp.refl c) (fun _ _ => ⟨rfl, fun _ h => h⟩) ?_
      intro _ _ on1 id1 sels1 on2 id2 sels2 a ca b cb r0 r1 r2 _ _ ha hb e0 e1 e2
      have kc : Kp c { c with pairs := ((sortedPair f1 f2).1, (sortedPair f1 f2).2, me) :: c.pairs } :=
        ⟨rfl, fun _ h => h⟩
      have ka := ff_kp s ((typeFromAst s (.named on1)).map (·.base)) id1 sels1
        { c with pairs := ((sortedPair f1 f2).1, (sortedPair f1 f2).2, me) :: c.pairs }
      have kb := ff_kp s ((typeFromAst s (.named on2)).map (·.base)) id2 sels2 ca
      rw [ha] at ka
      rw [hb] at kb
      have k0 : Kp cb r0.2 := by rw [e0]; exact icb _ _ _ _
      have k1 : Kp r0.2 r1.2 := by rw [e1]; exact sumLoop_kp _ _ (fun fr _ c => ifr me fr f2 c) _
      have k2 : Kp r1.2 r2.2 := by rw [e2]; exact sumLoop_kp _ _ (fun fr _ c => ifr me f1 fr c) _
      exact (kc.trans ka).trans (kb.trans (k0.trans (k1.trans k2)))
    · intro me p1 id1 sels1 p2 id2 sels2 c
      refine betweenSubselectionsG_cases s fx memo (motive := fun r => Kp c r.2) fuel me p1 id1 sels1 p2 id2 sels2 c ?_
      intro a ca b cb r0 r1 r2 r3 ha hb e0 e1 e2 e3
      have ka := ff_kp s p1 id1 sels1 c
      have kb := ff_kp s p2 id2 sels2 ca
      rw [ha] at ka
      rw [hb] at kb
      have k0 : Kp cb r0.2 := by rw [e0]; exact icb _ _ _ _
      have k1 : Kp r0.2 r1.2 := by
        rw [e1]; exact sumLoop_kp _ _ (fun fr _ c => withFreshCmp_kp _ c (iff me id1 a.1 fr _)) _
      have k2 : Kp r1.2 r2.2 := by
        rw [e2]; exact sumLoop_kp _ _ (fun fr _ c => withFreshCmp_kp _ c (iff me id2 b.1 fr _)) _
      have k3 : Kp r2.2 r3.2 := by
        rw [e3]; exact sumLoop_kp _ _ (fun g1 _ c => sumLoop_kp _ _ (fun g2 _ c => ifr me g1 g2 c) c) _
      exact ka.trans (kb.trans (k0.trans (k1.trans (k2.trans k3))))
    · intro me ssid fm name c
      have kc : Kf c { c with cmp := name :: c.cmp } := ⟨fun _ h => List.mem_cons_of_mem _ h, fun _ h => h⟩
      refine betweenFieldsAndFragmentG_cases s fx memo (motive := fun r => Kf c r.2) fuel me ssid fm name c
        (fun _ => (Kp.refl c).kf) (fun _ _ => kc) (fun _ _ _ _ _ => kc) ?_
      intro _ on fid fsels ff c' _ _ hff
      have kc' : Kf c { c with cmp := name :: c.cmp, ffp := if memo = true then (ssid, name, me) :: c.ffp else c.ffp } :=
        ⟨fun _ h => List.mem_cons_of_mem _ h, fun _ h => mem_ite_cons h⟩
      have ka := ff_kp s ((typeFromAst s (.named on)).map (·.base)) fid fsels
        { c with cmp := name :: c.cmp, ffp := if memo = true then (ssid, name, me) :: c.ffp else c.ffp }
      rw [hff] at ka
      refine ⟨fun _ => kc'.trans ka.kf, fun _ r1 r2 e1 e2 => ?_⟩
      have k1 : Kp c' r1.2 := by rw [e1]; exact icb _ _ _ _
      have k2 : Kf r1.2 r2.2 := by rw [e2]; exact sumLoop_kf _ _ (fun fr _ c => iff me ssid fm fr c) _
      exact kc'.trans ((ka.trans k1).kf.trans k2)

end

end PyGql.Validate
