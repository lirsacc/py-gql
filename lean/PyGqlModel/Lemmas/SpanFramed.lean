/-
  `Framed fl s mid`: the text `s` is tiled by tokens that `mid` derives, between `<SOF>` and `<EOF>`.  Each of the three
  entry points (`parse`, `parse_value`, `parse_type`) returns `r` for `s` exactly when `r` is well-formed and `s` is framed
  by the view of `r`.  The core of the character-level `span_reparse` is `Framed.slice`: a solid node with span `(a, b)`
  below a framing item frames the characters `a … b`, moved down by `a`.
-/
import PyGqlModel.Props.C01_text
import PyGqlModel.Lemmas.ItemMapLoc
import PyGqlModel.Lemmas.SpanRigid
namespace PyGql.Spec
open PyGql PyGql.Ast PyGql.Parse PyGql.Spec.Lexical PyGql.Props.C01

theorem eofT_down (a b : Nat) : (eofT b).down a = eofT (b - a) := rfl

theorem lastOf_cons_getLast (l f : Tok) (tl : List Tok) : Item.lastOf l (f :: tl) = (f :: tl).getLast?.getD f := by
  simp only [Item.lastOf]
  cases h : (f :: tl).getLast? with
  | none => simp at h
  | some x => rfl

theorem lastOf_snoc (l e : Tok) (xs : List Tok) : Item.lastOf l (xs ++ [e]) = e := by simp [Item.lastOf]

theorem slice_length {s : Text} {a b : Nat} (h1 : a ≤ b) (h2 : b ≤ s.length) : (slice s a b).length = b - a := by
  simp [slice]; omega

theorem Tiles.last_eof {n : Nat} {s : Text} {body : List Tok} (h : Tiles n s body) : ∃ seg, body = seg ++ [eofT n] := by
  induction h with
  | eof ign _ => exact ⟨[], rfl⟩
  | tok ign lex rest k v toks _ _ _ _ ih =>
    obtain ⟨seg, rfl⟩ := ih
    exact ⟨_ :: seg, rfl⟩

theorem checkAll_tok (fl : Flags) {k : TokKind} {v : Text} {is : List Item} {l t : Tok} {ts : List Tok}
    (h : cls t = (k, v) := by rfl) : Item.checkAll fl (.tok k v :: is) l (t :: ts) = Item.checkAll fl is t ts := by
  simp [Item.checkAll, Item.check, h]

theorem checkAll_single {fl : Flags} {i : Item} {l : Tok} {ts : List Tok} {r : Tok × List Tok} :
    Item.checkAll fl [i] l ts = some r ↔ i.check fl l ts = some r := by
  rw [checkAll_cons]
  constructor
  · rintro ⟨l1, ts1, h1, h2⟩
    rw [h1, (checkAll_nil ..).1 h2]
  · exact fun h => ⟨r.1, r.2, h, (checkAll_nil ..).2 rfl⟩

def Framed (fl : Flags) (s : Text) (mid : List Item) : Prop :=
  ∃ seg l1, Tiles s.length s (seg ++ [eofT s.length]) ∧
    Item.checkAll fl mid Lex.sofTok (seg ++ [eofT s.length]) = some (l1, [eofT s.length])

theorem framed_iff (fl : Flags) (s : Text) (mid : List Item) :
    Framed fl s mid ↔ ∃ body, Tiles s.length s body ∧ Matches fl (p .sof :: (mid ++ [p .eof])) (Lex.sofTok :: body) := by
  constructor
  · rintro ⟨seg, l1, ht, hc⟩
    refine ⟨_, ht, (matches_iff ..).2 ⟨eofT s.length, ?_⟩⟩
    rw [checkAll_tok fl, checkAll_append]
    exact ⟨_, _, hc, checkAll_tok fl⟩
  · rintro ⟨body, ht, hm⟩
    obtain ⟨seg, rfl⟩ := Tiles.last_eof ht
    obtain ⟨l', hm⟩ := (matches_iff ..).1 hm
    rw [checkAll_tok fl, checkAll_append] at hm
    obtain ⟨l1, ts1, h1, h2⟩ := hm
    obtain ⟨lx, rx, h3, h4⟩ := (checkAll_cons ..).1 h2
    obtain ⟨t, rfl, _, _⟩ := (check_tok ..).1 h3
    obtain ⟨_, rfl⟩ := Prod.mk.inj ((checkAll_nil ..).1 h4)
    obtain ⟨p1, e1, _⟩ := checkAll_spans fl mid _ _ _ _ h1
    have e2 : eofT s.length = t := by
      have := congrArg List.getLast? e1
      simpa using this
    subst e2
    exact ⟨seg, l1, ht, h1⟩

theorem parseValueText_iff (fl : Flags) (s : Text) (v : Value) :
    parseValueText fl s = some v ↔ wfValue false v = true ∧ Framed fl s [valueV v] := by
  rw [parse_value_text_result, framed_iff]
  exact ⟨fun ⟨b, ht, w, m⟩ => ⟨w, b, ht, m⟩, fun ⟨w, b, ht, m⟩ => ⟨b, ht, w, m⟩⟩

theorem parseTypeText_iff (fl : Flags) (s : Text) (t : TypeRef) :
    parseTypeText fl s = some t ↔ wfType t = true ∧ Framed fl s [typeV t] := by
  rw [parse_type_text_result, framed_iff]
  exact ⟨fun ⟨b, ht, w, m⟩ => ⟨w, b, ht, m⟩, fun ⟨w, b, ht, m⟩ => ⟨b, ht, w, m⟩⟩

theorem parseText_iff (fl : Flags) (s : Text) (d : Document) :
    parseText fl s = some d ↔
      wfDocument fl d = true ∧ Framed fl s (d.definitions.map definitionV) ∧ d.loc = locOf fl Lex.sofTok (eofT s.length) := by
  rw [parse_text_result]
  constructor
  · rintro ⟨body, ht, w, m⟩
    obtain ⟨l', hm⟩ := (matches_iff ..).1 m
    have hdoc := checkAll_single.1 hm
    obtain ⟨f, tl, e, hall, hloc⟩ := (check_node ..).1 hdoc
    obtain ⟨rfl, rfl⟩ := List.cons.inj e
    refine ⟨w, (framed_iff fl s _).2 ⟨_, ht, (matches_iff ..).2 ⟨_, hall⟩⟩, ?_⟩
    obtain ⟨seg, rfl⟩ := Tiles.last_eof ht
    obtain ⟨p1, e1, _, hl⟩ := checkAll_spans fl _ _ _ _ _ hall
    rw [List.append_nil] at e1
    subst e1
    rw [hloc, hl, ← List.cons_append, lastOf_snoc]
  · rintro ⟨w, hf, hloc⟩
    obtain ⟨body, ht, m⟩ := (framed_iff fl s _).1 hf
    refine ⟨body, ht, w, ?_⟩
    obtain ⟨l', hm⟩ := (matches_iff ..).1 m
    obtain ⟨seg, rfl⟩ := Tiles.last_eof ht
    obtain ⟨p1, e1, _, hl⟩ := checkAll_spans fl _ _ _ _ _ hm
    rw [List.append_nil] at e1
    subst e1
    refine (matches_iff ..).2 ⟨l', checkAll_single.2 ((check_node ..).2 ⟨_, _, rfl, hm, ?_⟩)⟩
    rw [hloc, hl, ← List.cons_append, lastOf_snoc]

theorem parseText_wf {fl : Flags} {s : Text} {d : Document} (h : parseText fl s = some d) {x : Definition}
    (hx : x ∈ d.definitions) : wfDefinition fl x = true ∧ (fl.allowTypeSystem || !isTypeSystem x) = true := by
  have wf := ((parseText_iff ..).1 h).1
  simp only [wfDocument, Bool.and_eq_true, List.all_eq_true] at wf
  exact wf.2 x hx

theorem Framed.slice {fl : Flags} {s : Text} {mid : List Item} (h : Framed fl s mid) {i j : Item} (hi : i ∈ mid)
    (hs : Item.Sub j i) (hsol : j.solid = true) {a b : Nat} {is : List Item} (hj : j = .node (some (a, b)) is) :
    a ≤ b ∧ b ≤ s.length ∧ fl.noLocation = false ∧ (slice s a b).length = b - a ∧
      Framed fl (slice s a b) [j.mapLoc (locDown a)] := by
  obtain ⟨seg0, l0, ht, hmid⟩ := h
  -- descend to `i`, then to `j`
  obtain ⟨pre, y, li, li', tsi, resti, e1, e2, hci⟩ := checkAll_mem fl mid i _ _ _ _ hi hmid
  obtain ⟨pre2, y2, lj, lj', tsj, restj, e3, e4, hcj⟩ := check_sub fl hs li li' tsi resti hci
  obtain ⟨seg, e5, hret⟩ := check_follower fl j lj lj' tsj restj hsol hcj
  have hpost : restj ≠ [] := by rw [e4, e2]; simp
  -- the segment is not empty, and `loc` is its span
  have hcj0 := hret [] (.inr (.inr (by intro t tl h; cases h)))
  rw [List.append_nil] at hcj0
  obtain ⟨pre', ep, _, hlast⟩ := check_spans fl j lj lj' seg [] hcj0
  rw [List.append_nil] at ep; subst ep
  subst hj
  rw [check_node] at hcj0
  obtain ⟨f, tl, rfl, _, hloc⟩ := hcj0
  have hnl : fl.noLocation = false := by
    unfold locOf at hloc; split at hloc
    · cases hloc
    · rename_i h; simpa using h
  have hab : a = f.start ∧ b = lj'.stop := by
    unfold locOf at hloc; rw [if_neg (by simp [hnl])] at hloc
    simpa using hloc
  obtain ⟨rfl, rfl⟩ := hab
  rw [lastOf_cons_getLast] at hlast
  have hb : seg0 ++ [eofT s.length] = (pre ++ pre2) ++ (f :: tl) ++ restj := by rw [e1, e3, e5]; simp
  rw [hb] at ht
  obtain ⟨hle1, hle2, hsl⟩ := Tiles.slice (pre ++ pre2) f tl restj hpost ht
  rw [← hlast] at hle1 hle2 hsl
  have hlen := slice_length hle1 hle2
  rw [← hlen] at hsl
  refine ⟨hle1, hle2, hnl, hlen, (f :: tl).map (Tok.down f.start), lj'.down f.start, hsl, checkAll_single.2 ?_⟩
  -- the match on the slice: `<EOF>` put behind, `<SOF>` in front, then everything moved down
  have hc1 := hret [eofT lj'.stop] (.inr (.inr (by intro t tl h; cases h; rfl)))
  have hc2 := check_last_indep fl _ _ _ _ _ hsol hc1 Lex.sofTok
  rw [if_neg (by simp)] at hc2
  have hc3 := check_mapLoc (moves_down fl f.start) _ _ _ _ _ hc2
  have hsof : Lex.sofTok.down f.start = Lex.sofTok := by simp [Tok.down, Lex.sofTok]
  rw [hsof, List.map_append] at hc3
  rw [hlen]
  exact hc3

theorem doc_slice {fl : Flags} {s : Text} {d : Document} (h : parseText fl s = some d) {x : Definition}
    (hx : x ∈ d.definitions) {j : Item} (hs : Item.Sub j (definitionV x)) {a b : Nat} {is : List Item}
    (hj : j = .node (some (a, b)) is) :
    a ≤ b ∧ b ≤ s.length ∧ fl.noLocation = false ∧ (slice s a b).length = b - a ∧
      Framed fl (slice s a b) [j.mapLoc (locDown a)] :=
  ((parseText_iff ..).1 h).2.1.slice (List.mem_map_of_mem hx) hs (solid_sub hs (definitionV_solid x)) hj

end PyGql.Spec
