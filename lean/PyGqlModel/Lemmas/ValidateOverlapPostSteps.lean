/-
  `OverlappingFieldsCanBeMergedChecker`, soundness with fragment spreads: the postconditions of the five search functions
  (un-memoised: `Lemmas/ValidateOverlapG.lean` at `false`), one step of the fuel each, and all five together (`post_names`).
  `_find_conflict`: a `Cert`; `_conflicts_between`: a `Cert` for every cross pair; `_conflicts_between_fragments`: the pair
  is covered by the memo, and the key it inserts is closed (`keyOblOf_of_oriented`); `_conflicts_between_fields_and_fragment`:
  every name it records in `cmp` has been compared and its spreads recorded (`NameObl`; from a closed set of names to a
  certificate for every field of the fragments: `names_closed_cert`); `_conflicts_between_subselections`: a `SetsRes`.
  Side conditions under which the `ssid == fid` shortcut is never taken: `NotBody`, `Apart`, `SubsApart`.
  The first three steps are the same for the memoised search (`Lemmas/ValidateOverlapMPost.lean`) and are proved once, for
  either search and any certificate predicate (`efind_of_ess`, `ecb_of_efind`, `efr_step`); the two searches differ in the
  other two.
-/
import PyGqlModel.Lemmas.ValidateOverlapCmp
namespace PyGql.Validate
open PyGql PyGql.Validate.Spec

/-- the selection set `i` is the body of no fragment of the table -/
def NotBody (d : Doc) (i : Nat) : Prop := ∀ n on fsels, AL.get? (fragTable d) n ≠ some (on, i, fsels)

/-- fragment `b` is reached from fragment `a` along spreads of the table (`SprF`), `a` itself included -/
inductive ReachF (d : Doc) : String → String → Prop where
  | refl (a : String) : ReachF d a a
  | step {a b c : String} : SprF d a b → ReachF d b c → ReachF d a c

/-- no fragment reachable from `name` has the selection set `ssid` as its body (so the `ssid == fid` shortcut of
    `_conflicts_between_fields_and_fragment` is never taken) -/
def Apart (d : Doc) (ssid : Nat) (name : String) : Prop :=
  ∀ n, ReachF d name n → ∀ on fid fsels, AL.get? (fragTable d) n = some (on, fid, fsels) → fid ≠ ssid

theorem Apart.step {d : Doc} {ssid : Nat} {a b : String} (h : Apart d ssid a) (hs : SprF d a b) : Apart d ssid b :=
  fun n hn => h n (.step hs hn)

theorem apart_of_notBody {d : Doc} {i : Nat} (h : NotBody d i) (name : String) : Apart d i name :=
  fun n _ on _ fsels ht e => h n on fsels (e ▸ ht)

/-- the sub-selection node of a collected field is apart from every fragment the document spreads: whenever
    `_conflicts_between_subselections` compares its fields with a fragment, the `ssid == fid` shortcut is not taken -/
def SubsApart (s : SchemaD) (d : Doc) : Prop :=
  ∀ e, Ent s d e → e.hasSub = true → ∀ i sels, SelSet d i sels → ∀ g, SpreadD sels g → Apart d e.ssid g

theorem subsApart_of_notBody {s : SchemaD} {d : Doc} (h : ∀ e, Ent s d e → e.hasSub = true → NotBody d e.ssid) :
    SubsApart s d := fun e he hs _ _ _ g _ => apart_of_notBody (h e he hs) g

theorem subsApart_of_noSpreads {s : SchemaD} {d : Doc} (h : NoSpreads d) : SubsApart s d :=
  fun _ _ _ _ _ hs g sp => absurd sp (noSpread_of_selSet h hs g)

/-! ### the steps both searches share

`_find_conflict`, `_collect_conflicts_between` and `_conflicts_between_fragments` do not look at what a certificate is: the
first builds it from what the comparison of the two sub-selections established (`hmk`), the second hands it on, the third
only fills the compared-pairs memo.  So these steps are proved once: for either search (`memo`), any list of memo keys
(`keys`, `Obl`; `PairKeys` says how the pair keys sit in it) and any certificate predicate `C`. -/

/-- how the compared-pairs memo sits in the memo keys `keys c` of a context -/
structure PairKeys {K : Type} (keys : OCtx → List K) (inj : String × String × Bool → K) : Prop where
  mem : ∀ {c : OCtx} {k : String × String × Bool}, k ∈ c.pairs → inj k ∈ keys c
  cons : ∀ {c : OCtx} {k0 : String × String × Bool} {k : K},
    k ∈ keys { c with pairs := k0 :: c.pairs } ↔ k = inj k0 ∨ k ∈ keys c
  cache : ∀ (c : OCtx) (ch : _), keys { c with cache := ch } = keys c

theorem pairKeys_pairs : PairKeys (fun c : OCtx => c.pairs) id := ⟨id, List.mem_cons, fun _ _ => rfl⟩

/-- `_fields_and_fragments` on the body of a fragment: sane, complete -/
theorem ff_frag_complete (s : SchemaD) (d : Doc) (hpa : ParentsAgree s d) {c : OCtx} (hc : CI s d c) {name on : String}
    {fid : Nat} {fsels : List Sel} (hg : AL.get? c.frags name = some (on, fid, fsels)) :
    CI s d (fieldsAndFragments s ((typeFromAst s (.named on)).map (·.base)) fid fsels c).2 ∧
    EntOK (fun _ e => Ent s d e) (fieldsAndFragments s ((typeFromAst s (.named on)).map (·.base)) fid fsels c).1.1 ∧
    (∀ rn e, DirF s d name rn e →
      e ∈ AL.getD (fieldsAndFragments s ((typeFromAst s (.named on)).map (·.base)) fid fsels c).1.1 rn []) ∧
    (∀ h, SprF d name h → h ∈ (fieldsAndFragments s ((typeFromAst s (.named on)).map (·.base)) fid fsels c).1.2) ∧
    (∀ h ∈ (fieldsAndFragments s ((typeFromAst s (.named on)).map (·.base)) fid fsels c).1.2, SprF d name h) := by
  have hg' : AL.get? (fragTable d) name = some (on, fid, fsels) := by rw [← hc.frags]; exact hg
  have hadm : Adm s d fid (fragParent s on) := .frag hg'
  obtain ⟨b1, b2, _, _⟩ := ff_frag s d hc (name := name) hg
  obtain ⟨p', xa, xe⟩ := ff_eq s d _ fid fsels c hc.cache hadm
  obtain ⟨_, a3, _, _⟩ := fieldsAndFragments_sound s d _ fid fsels c hc.cache hadm
  refine ⟨b1, b2, ?_, ?_, ?_⟩
  · rintro rn e ⟨on', fid', fsels', p, t, a, cd⟩
    rw [hg'] at t; cases t
    rw [hpa _ _ _ a xa] at cd
    show e ∈ AL.getD (fieldsAndFragments s (fragParent s on) fid fsels c).1.1 rn []
    rw [xe]
    exact collectSels_complete s _ fsels ([], []) rn e (Or.inr cd)
  · rintro h ⟨on', fid', fsels', t, sp⟩
    rw [hg'] at t; cases t
    exact ff_spreads_complete s _ fid fsels c h sp
  · intro h hh
    exact ⟨_, _, _, hg', a3 h hh⟩

section
variable (s : SchemaD) (fx : Fixes) (d : Doc) (memo : Bool)
variable {K : Type} (keys : OCtx → List K) (Obl : (K → Prop) → K → Prop) (inj : String × String × Bool → K)
  (C : (K → Prop) → Bool → FEntry → FEntry → Prop)

/-- The E family: what a call of a search function that ends WITHOUT A CRASH establishes, as a `GPk` postcondition (no new crash,
    the memo only grows, and - when nothing was counted - every new key is closed and the payload holds). `EFindK ECbK EFrK` are the
    three members that do not depend on which memos there are: `_find_conflict` (payload: the certificate `C M pme f1 f2`),
    `_conflicts_between` (a certificate for every cross pair), `_conflicts_between_fragments` (the pair is covered). The memo enters
    through its keys (`keys`, `Obl`, the injection `inj` of pair keys) and the certificate through the predicate `C`; the two
    instances are `EFindGP …` (un-memoised search, `Cert`) and `EFindGM …` (`Lemmas/ValidateOverlapMPost.lean`: memoised, `CertM`). -/
def EFindK (fuel : Nat) : Prop :=
  ∀ pme f1 f2 c, CI s d c → Ent s d f1 → Ent s d f2 → (findConflictG s fx memo fuel pme f1 f2 c).2.crash = none →
    GPk keys Obl c (if (findConflictG s fx memo fuel pme f1 f2 c).1 = true then 1 else 0, (findConflictG s fx memo fuel pme f1 f2 c).2)
      (fun M => C M pme f1 f2)

def ECbK (fuel : Nat) : Prop :=
  ∀ me fm1 fm2 c, CI s d c → EntOK (fun _ e => Ent s d e) fm1 → EntOK (fun _ e => Ent s d e) fm2 →
    (conflictsBetweenG s fx memo fuel me fm1 fm2 c).2.crash = none →
    GPk keys Obl c (conflictsBetweenG s fx memo fuel me fm1 fm2 c)
      (fun M => ∀ rn e1 e2, e1 ∈ AL.getD fm1 rn [] → e2 ∈ AL.getD fm2 rn [] → C M me e1 e2)

def EFrK (fuel : Nat) : Prop :=
  ∀ me f1 f2 c, CI s d c → (betweenFragmentsG s fx memo fuel me (some f1) (some f2) c).2.crash = none →
    GPk keys Obl c (betweenFragmentsG s fx memo fuel me (some f1) (some f2) c) (fun M => CovOf (fun k => M (inj k)) me f1 f2)

/-- `_find_conflict`: `R` is what comparing the sub-selections of the two fields establishes -/
theorem efind_of_ess (R : (K → Prop) → Bool → FEntry → FEntry → Prop)
    (hmk : ∀ M pme f1 f2,
      ((pme || exclusiveParents s f1 f2) = false → f1.name = f2.name ∧ sameArguments f1.args f2.args = some true) →
      (∀ t1 t2, f1.fdef.map (·.type) = some t1 → f2.fdef.map (·.type) = some t2 → typesConflict s t1 t2 = false) →
      (f1.hasSub = true → f2.hasSub = true → R M (pme || exclusiveParents s f1 f2) f1 f2) → C M pme f1 f2)
    (fuel : Nat)
    (hss : ∀ pme f1 f2 c, CI s d c → Ent s d f1 → Ent s d f2 → f1.hasSub = true → f2.hasSub = true →
      (betweenSubselectionsG s fx memo fuel (pme || exclusiveParents s f1 f2) ((f1.fdef.map (·.type)).map (·.base))
        f1.ssid f1.sub ((f2.fdef.map (·.type)).map (·.base)) f2.ssid f2.sub c).2.crash = none →
      GPk keys Obl c (betweenSubselectionsG s fx memo fuel (pme || exclusiveParents s f1 f2)
        ((f1.fdef.map (·.type)).map (·.base)) f1.ssid f1.sub ((f2.fdef.map (·.type)).map (·.base)) f2.ssid f2.sub c)
        (fun M => R M (pme || exclusiveParents s f1 f2) f1 f2)) :
    EFindK s fx d memo keys Obl C (fuel + 1) := by
  intro pme f1 f2 c hc h1 h2
  refine findConflictG_cases s fx memo (motive := fun r => r.2.crash = none →
      GPk keys Obl c (if r.1 = true then 1 else 0, r.2) (fun M => C M pme f1 f2)) fuel pme f1 f2 c
    (fun _ _ h => by cases h) (fun _ _ h => GPk.pos (by simp) (fun _ hx => hx) h)
    (fun _ _ _ _ _ _ h => GPk.pos (by simp) (fun _ hx => hx) h) (fun hargs htypes s1 s2 r hr hcr => ?_)
    (fun hargs htypes hno hcr => ?_)
  · subst hr
    refine ((hss pme f1 f2 c hc h1 h2 s1 s2 hcr).count _ (fun h0 => ?_)).imp (fun M _ r =>
      hmk M pme f1 f2 hargs htypes (fun _ _ => r))
    by_cases hk : (betweenSubselectionsG s fx memo fuel (pme || exclusiveParents s f1 f2) ((f1.fdef.map (·.type)).map (·.base))
        f1.ssid f1.sub ((f2.fdef.map (·.type)).map (·.base)) f2.ssid f2.sub c).1 > 0
    · rw [if_pos (decide_eq_true hk)] at h0
      cases h0
    · omega
  · exact GPk.skip rfl rfl (fun M _ => hmk M pme f1 f2 hargs htypes (fun x y => absurd ⟨x, y⟩ hno)) hcr

/-- `_collect_conflicts_between`: what `_find_conflict` certifies for one pair holds of all pairs -/
theorem ecb_of_efind (fuel : Nat) (hsf : SFindG s fx memo d fuel) (hef : EFindK s fx d memo keys Obl C fuel) :
    ECbK s fx d memo keys Obl C (fuel + 1) := by
  intro me fm1 fm2 c hc h1 h2
  rw [conflictsBetweenG_succ]
  intro hcr
  refine (sumLoop_gp fm1 _ (CI s d)
    (fun q M => ∀ e1 ∈ q.2, ∀ e2 ∈ AL.getD fm2 q.1 [], C M me e1 e2) (fun q hq c hc => ?_) c hc hcr).imp
    (fun M _ hall rn e1 e2 m1 m2 => ?_)
  · obtain ⟨rn, fields1⟩ := q
    simp only
    cases hg : AL.get? fm2 rn with
    | none =>
      refine ⟨hc, fun h => GPk.skip rfl rfl (fun M _ e1 _ e2 m2 => ?_) h⟩
      simp [AL.getD, hg] at m2
    | some fields2 =>
      simp only
      have hgd : AL.getD fm2 rn [] = fields2 := by simp [AL.getD, hg]
      rw [hgd]
      have ent : ∀ f1 ∈ fields1, ∀ f2 ∈ fields2, Ent s d f1 ∧ Ent s d f2 := fun f1 hf1 f2 hf2 =>
        ⟨h1 _ hq f1 hf1, h2 _ (AL.mem_of_get? hg) f2 hf2⟩
      refine ⟨sumLoop_keeps _ _ (CI s d) (fun f1 hf1 c hc => sumLoop_keeps _ _ (CI s d) (fun f2 hf2 c hc =>
        (hsf me f1 f2 c hc (ent f1 hf1 f2 hf2).1 (ent f1 hf1 f2 hf2).2).1) c hc) c hc, fun hcr => ?_⟩
      refine (sumLoop_gp fields1 _ (CI s d) (fun f1 M => ∀ e2 ∈ fields2, C M me f1 e2)
        (fun f1 hf1 c hc => ?_) c hc hcr).imp (fun M _ hall e1 m1 e2 m2 => hall e1 m1 e2 m2)
      refine ⟨sumLoop_keeps _ _ (CI s d) (fun f2 hf2 c hc =>
        (hsf me f1 f2 c hc (ent f1 hf1 f2 hf2).1 (ent f1 hf1 f2 hf2).2).1) c hc, fun hcr => ?_⟩
      exact (sumLoop_gp fields2 _ (CI s d) (fun f2 M => C M me f1 f2) (fun f2 hf2 c hc =>
        ⟨(hsf me f1 f2 c hc (ent f1 hf1 f2 hf2).1 (ent f1 hf1 f2 hf2).2).1,
         fun hcr => hef me f1 f2 c hc (ent f1 hf1 f2 hf2).1 (ent f1 hf1 f2 hf2).2 hcr⟩) c hc hcr).imp
        (fun M _ hall e2 m2 => hall e2 m2)
  · rcases AL.getD_cases fm1 rn [] with e | e
    · rw [e] at m1; cases m1
    · exact hall _ e e1 m1 e2 m2

/-- `_conflicts_between_fragments`: the pair is covered, and the key it files is closed -/
theorem efr_step (hkeys : PairKeys keys inj) (hobl : ∀ M k, KeyOblOf s d (fun k => M (inj k)) (C M) k → Obl M (inj k))
    (h7 : fx.v7 = true) (hpa : ParentsAgree s d) (fuel : Nat) (hsfr : SFrG s fx memo d fuel)
    (hecb : ECbK s fx d memo keys Obl C fuel) (hefr : EFrK s fx d memo keys Obl inj fuel) :
    EFrK s fx d memo keys Obl inj (fuel + 1) := by
  intro me f1 f2 c hc
  refine betweenFragmentsG_cases s fx memo (motive := fun r => r.2.crash = none →
      GPk keys Obl c r (fun M => CovOf (fun k => M (inj k)) me f1 f2))
    h7 fuel me f1 f2 c (fun h hcr => GPk.skip rfl rfl (fun M _ => ?_) hcr)
    (fun hin hcr => GPk.skip rfl rfl (fun M hM => Or.inr (Or.inr (Or.inr (hM _ (hkeys.mem hin))))) hcr) ?_ ?_
  · rcases h with h | h | h
    · exact Or.inl h
    · exact Or.inr (Or.inl h)
    · exact Or.inr (Or.inr (Or.inl h))
  · -- an undefined fragment: the key is recorded, and closed for want of anything to compare
    intro _ hu hcr
    refine ⟨hcr, fun k hk => hkeys.cons.mpr (Or.inr hk), fun _ M hM =>
      ⟨fun k hk => ?_, Or.inr (Or.inr (Or.inr (hM _ (hkeys.cons.mpr (Or.inl rfl)))))⟩⟩
    rcases hkeys.cons.mp hk with rfl | hk
    · exact Or.inr (hobl M _ (keyOblOf_of_undefined _ _ (f1 := f1) (f2 := f2) (me := me) (hc.frags ▸ hu)))
    · exact Or.inl hk
  · intro _ _ on1 id1 sels1 on2 id2 sels2 a ca b cb r0 r1 r2 hg1 hg2 ha hb e0 e1 e2 hcr
    have hc1 : CI s d { c with pairs := keyOf f1 f2 me :: c.pairs } := hc.pairs _
    obtain ⟨a1, a2, a3, a4, _⟩ := ff_frag_complete s d hpa hc1 (name := f1) hg1
    obtain ⟨cha, hca⟩ := fieldsAndFragments_ctx s ((typeFromAst s (.named on1)).map (·.base)) id1 sels1
      { c with pairs := keyOf f1 f2 me :: c.pairs }
    simp only [keyOf, ha] at a1 a2 a3 a4 hca
    obtain ⟨b1, b2, b3, b4, _⟩ := ff_frag_complete s d hpa a1 (name := f2) (by rw [a1.frags, ← hc.frags]; exact hg2)
    obtain ⟨chb, hcb⟩ := fieldsAndFragments_ctx s ((typeFromAst s (.named on2)).map (·.base)) id2 sels2 ca
    simp only [hb] at b1 b2 b3 b4 hcb
    -- the three phases, from the last to the first
    have ci0 : CI s d r0.2 := e0 ▸ cb_ci s fx memo d h7 fuel me a.1 b.1 cb b1 a2 b2
    have ci1 : CI s d r1.2 := e1 ▸ sumLoop_keeps a.2 _ (CI s d) (fun fr _ c hc => (hsfr me fr f2 c hc).1) _ ci0
    have g2 : GPk keys Obl r1.2 r2 (fun M => ∀ fr ∈ b.2, CovOf (fun k => M (inj k)) me f1 fr) := e2 ▸ sumLoop_gp b.2 _ (CI s d) _
      (fun fr _ c hc => ⟨(hsfr me f1 fr c hc).1, fun h => hefr me f1 fr c hc h⟩) _ ci1 (e2 ▸ hcr)
    have g1 : GPk keys Obl r0.2 r1 (fun M => ∀ fr ∈ a.2, CovOf (fun k => M (inj k)) me fr f2) := e1 ▸ sumLoop_gp a.2 _ (CI s d) _
      (fun fr _ c hc => ⟨(hsfr me fr f2 c hc).1, fun h => hefr me fr f2 c hc h⟩) _ ci0 (e1 ▸ g2.crash)
    have g0 : GPk keys Obl cb r0 _ := e0 ▸ hecb me a.1 b.1 cb b1 a2 b2 (e0 ▸ g1.crash)
    have hpc : ∀ k, k ∈ keys cb ↔ k = inj (keyOf f1 f2 me) ∨ k ∈ keys c := fun k => by
      have e : keys cb = keys { c with pairs := keyOf f1 f2 me :: c.pairs } := by
        rw [hcb, hkeys.cache, hca]
        exact hkeys.cache { c with pairs := keyOf f1 f2 me :: c.pairs } cha
      rw [e]
      exact hkeys.cons
    refine (((g0.seq g1).seq g2).pre (by rw [hcb, hca]) (fun k hk => (hpc k).mpr (Or.inr hk))
      (fun _ M hM r k hk => ?_)).imp
      (fun M hM _ => Or.inr (Or.inr (Or.inr (hM _ (((g0.seq g1).seq g2).mono _ ((hpc _).mpr (Or.inl rfl)))))))
    rcases (hpc k).mp hk with rfl | hk
    · obtain ⟨⟨r0', r1'⟩, r2'⟩ := r
      exact Or.inr (hobl M _ (keyOblOf_of_oriented _ _
        (fun rn e1 e2 d1 d2 => Or.inl (r0' rn e1 e2 (a3 rn e1 d1) (b3 rn e2 d2)))
        (fun h hh => Or.inl (r1' h (a4 h hh))) (fun h hh => Or.inl (r2' h (b4 h hh)))))
    · exact Or.inl hk

/-- without two names `_conflicts_between_fragments` compares nothing -/
theorem efr_of_names {fuel : Nat} (h : EFrK s fx d memo keys Obl inj fuel) : ∀ me of1 of2 c, CI s d c →
    (betweenFragmentsG s fx memo fuel me of1 of2 c).2.crash = none →
    GPk keys Obl c (betweenFragmentsG s fx memo fuel me of1 of2 c)
      (fun M => ∀ f1 f2, of1 = some f1 → of2 = some f2 → CovOf (fun k => M (inj k)) me f1 f2) := by
  intro me of1 of2 c hc hcr
  cases fuel with
  | zero => rw [betweenFragmentsG_zero] at hcr; cases hcr
  | succ fuel =>
    cases of1 with
    | none => exact GPk.skip rfl rfl (fun _ _ _ _ e => nomatch e) hcr
    | some f1 =>
      cases of2 with
      | none => exact GPk.skip rfl rfl (fun _ _ _ _ _ e => nomatch e) hcr
      | some f2 =>
        exact (h me f1 f2 c hc hcr).imp fun M _ hcov g1 g2 e1 e2 => by cases e1; cases e2; exact hcov

end

/-- what `_conflicts_between_subselections` establishes for two selection sets -/
structure SetsRes (s : SchemaD) (d : Doc) (M : Memo) (me : Bool) (p1 : Option String) (sels1 : List Sel)
    (p2 : Option String) (sels2 : List Sel) : Prop where
  direct : ∀ rn e1 e2, CollD s p1 sels1 rn e1 → CollD s p2 sels2 rn e2 → Cert s d M me e1 e2
  fragR : ∀ g, SpreadD sels2 g → ∀ rn e1 e2, CollD s p1 sels1 rn e1 → CollF s d g rn e2 → Cert s d M me e1 e2
  fragL : ∀ g, SpreadD sels1 g → ∀ rn e1 e2, CollD s p2 sels2 rn e1 → CollF s d g rn e2 → Cert s d M me e1 e2
  frags : ∀ g1 g2, SpreadD sels1 g1 → SpreadD sels2 g2 → Cov M me g1 g2

section
variable (s : SchemaD) (fx : Fixes) (d : Doc)

/-- The E family of the UN-memoised search (`findConflictG … false`), certificates `Cert`, memo = the compared pairs:
    `EFindGP ECbGP EFrGP` are the instances of `EFindK ECbK EFrK`; `ESsGP` (`_conflicts_between_subselections`: a `SetsRes`) and
    `EFfGP` (`_conflicts_between_fields_and_fragment`: every name it records in `cmp` has been compared, `NameObl`) are its own. -/
def EFindGP (fuel : Nat) : Prop := EFindK s fx d false (fun c => c.pairs) (KeyObl s d) (fun M => Cert s d M) fuel

def ECbGP (fuel : Nat) : Prop := ECbK s fx d false (fun c => c.pairs) (KeyObl s d) (fun M => Cert s d M) fuel

def ESsGP (fuel : Nat) : Prop :=
  ∀ me p1 id1 sels1 p2 id2 sels2 c, CI s d c → SelSet d id1 sels1 → Adm s d id1 p1 → SelSet d id2 sels2 →
    Adm s d id2 p2 → (∀ g, SpreadD sels2 g → Apart d id1 g) → (∀ g, SpreadD sels1 g → Apart d id2 g) →
    (betweenSubselectionsG s fx false fuel me p1 id1 sels1 p2 id2 sels2 c).2.crash = none →
    GPp s d c (betweenSubselectionsG s fx false fuel me p1 id1 sels1 p2 id2 sels2 c)
      (fun M => SetsRes s d M me p1 sels1 p2 sels2)

theorem stepP_efind (hsub : SubsApart s d) (fuel : Nat) (hss : ESsGP s fx d fuel) :
    EFindGP s fx d (fuel + 1) :=
  efind_of_ess s fx d false _ _ _ (fun M me f1 f2 => SetsRes s d M me f1.subParent f1.sub f2.subParent f2.sub)
    (fun _ _ _ _ hargs htypes r => .mk hargs htypes (fun x y => (r x y).direct) (fun x y => (r x y).fragR)
      (fun x y => (r x y).fragL) (fun x y => (r x y).frags)) fuel
    (fun _ _ _ c hc h1 h2 s1 s2 hcr =>
      have ⟨hs1, a1⟩ := h1.sub s1
      have ⟨hs2, a2⟩ := h2.sub s2
      hss _ _ _ _ _ _ _ c hc hs1 a1 hs2 a2 (hsub _ h1 s1 _ _ hs2) (hsub _ h2 s2 _ _ hs1) hcr)

theorem stepP_ecb (fuel : Nat) (hsf : SFindG s fx false d fuel) (hef : EFindGP s fx d fuel) : ECbGP s fx d (fuel + 1) :=
  ecb_of_efind s fx d false _ _ _ fuel hsf hef

end

/-- what having compared fragment `n` against the field map `fm` means, `CF` = the names compared in this traversal -/
def NameObl (s : SchemaD) (d : Doc) (M : Memo) (me : Bool) (fm : FMap) (CF : List String) (n : String) : Prop :=
  (∀ rn e1 e2, e1 ∈ AL.getD fm rn [] → DirF s d n rn e2 → Cert s d M me e1 e2) ∧ (∀ h, SprF d n h → h ∈ CF)

theorem names_closed_cert {s : SchemaD} {d : Doc} {M : Memo} {me : Bool} {fm : FMap} {CF : List String}
    (hcl : ∀ n ∈ CF, NameObl s d M me fm CF n) {k : Nat} {g rn : String} {e2 : FEntry} (hg : g ∈ CF)
    (h : CollFH s d k g rn e2) : ∀ e1 ∈ AL.getD fm rn [], Cert s d M me e1 e2 := by
  induction h with
  | here t a c => intro e1 he1; exact (hcl _ hg).1 _ _ _ he1 ⟨_, _, _, _, t, a, c⟩
  | there t sp _ ih => exact ih ((hcl _ hg).2 _ ⟨_, _, _, t, sp⟩)

section
variable (s : SchemaD) (fx : Fixes) (d : Doc)

def EFrGP (fuel : Nat) : Prop := EFrK s fx d false (fun c => c.pairs) (KeyObl s d) id fuel

def EFfGP (fuel : Nat) : Prop :=
  ∀ me ssid fm name c, CI s d c → EntOK (fun _ e => Ent s d e) fm → Apart d ssid name →
    (betweenFieldsAndFragmentG s fx false fuel me ssid fm name c).2.crash = none →
    name ∈ (betweenFieldsAndFragmentG s fx false fuel me ssid fm name c).2.cmp ∧
    GPp s d c (betweenFieldsAndFragmentG s fx false fuel me ssid fm name c)
      (fun M => ∀ CF, (∀ n ∈ (betweenFieldsAndFragmentG s fx false fuel me ssid fm name c).2.cmp, n ∈ CF) →
        ∀ n ∈ (betweenFieldsAndFragmentG s fx false fuel me ssid fm name c).2.cmp, n ∈ c.cmp ∨ NameObl s d M me fm CF n)

theorem stepP_efr (h7 : fx.v7 = true) (hpa : ParentsAgree s d) (fuel : Nat) (hsfr : SFrG s fx false d fuel)
    (hecb : ECbGP s fx d fuel) (hefr : EFrGP s fx d fuel) : EFrGP s fx d (fuel + 1) :=
  efr_step s fx d false _ _ id (fun M => Cert s d M) pairKeys_pairs (fun _ _ h => h) h7 hpa fuel hsfr hecb hefr
end

section
variable (s : SchemaD) (fx : Fixes) (d : Doc)

theorem stepP_eff (h7 : fx.v7 = true) (hpa : ParentsAgree s d) (fuel : Nat) (hecb : ECbGP s fx d fuel)
    (heff : EFfGP s fx d fuel) : EFfGP s fx d (fuel + 1) := by
  obtain ⟨_, scb, sff, _, _⟩ := searchG_sound s fx false d h7 fuel
  obtain ⟨_, kcb, _, _, kff⟩ := framesG s fx false h7 fuel
  intro me ssid fm name c hc h1 hap
  refine betweenFieldsAndFragmentG_cases s fx false (motive := fun r => r.2.crash = none → name ∈ r.2.cmp ∧
      GPp s d c r (fun M => ∀ CF : List String, (∀ n ∈ r.2.cmp, n ∈ CF) → ∀ n ∈ r.2.cmp, n ∈ c.cmp ∨ NameObl s d M me fm CF n))
    fuel me ssid fm name c (fun hcm hcr => ⟨hcm, GPk.skip rfl rfl (fun M _ CF _ n hn => Or.inl hn) hcr⟩)
    (fun _ hg hcr => ?_) (fun h => nomatch h) ?_
  · have hg' : AL.get? (fragTable d) name = none := hc.frags ▸ hg
    refine ⟨List.mem_cons_self .., GPk.skip rfl rfl (fun M _ CF _ n hn => ?_) hcr⟩
    rcases List.mem_cons.mp hn with rfl | hn
    · refine Or.inr ⟨?_, ?_⟩
      · rintro rn e1 e2 _ ⟨on, fid, fsels, p, t, _⟩; rw [hg'] at t; cases t
      · rintro h ⟨on, fid, fsels, t, _⟩; rw [hg'] at t; cases t
    · exact Or.inl hn
  · intro _ on fid fsels ff c' hg _ hff'
    simp only [Bool.false_eq_true, ↓reduceIte] at hff'
    have hg' : AL.get? (fragTable d) name = some (on, fid, fsels) := hc.frags ▸ hg
    obtain ⟨a1, a2, a3, a4, a5⟩ := ff_frag_complete s d hpa (hc.cmp (name :: c.cmp)) (name := name) hg
    obtain ⟨ch, hca⟩ := fieldsAndFragments_ctx s ((typeFromAst s (.named on)).map (·.base)) fid fsels
      { c with cmp := name :: c.cmp }
    simp only [hff'] at a1 a2 a3 a4 a5 hca
    -- the fragment's body is not the selection set (`Apart`): the fields are compared and the spreads followed
    refine ⟨fun hid => absurd hid.symm (hap name (.refl _) on fid fsels hg'), fun _ r1 r2 e1 e2 hcr => ?_⟩
    have k1 := kcb me fm ff.1 c'
    have c1 := (scb me fm ff.1 c' a1 h1 a2).1
    rw [← e1] at k1 c1
    obtain ⟨lx, lm, g2⟩ := sumLoop_names ff.2 (fun fr c => betweenFieldsAndFragmentG s fx false fuel me ssid fm fr c)
      (CI s d) (fun M CF n => NameObl s d M me fm CF n)
      (fun fr hfr c hc => ⟨(sff me ssid fm fr c hc h1).1, (kff me ssid fm fr c).cmp,
        fun h => heff me ssid fm fr c hc h1 (hap.step (a5 fr hfr)) h⟩) r1.2 c1 (e2 ▸ hcr)
    rw [← e2] at lx lm g2
    have g1 : GPp s d c' r1 _ := e1 ▸ hecb me fm ff.1 c' a1 h1 a2 (e1 ▸ g2.crash)
    have hcmp1 : r1.2.cmp = name :: c.cmp := by rw [k1.cmp, hca]
    refine ⟨lm _ (hcmp1 ▸ List.mem_cons_self ..), ?_⟩
    refine ((g1.seq g2).pre (c := c) (by rw [hca]) (fun k hk => by rw [hca]; exact hk)
      (fun _ M _ _ k hk => Or.inl (by rw [hca] at hk; exact hk))).imp (fun M _ r CF hCF n hn => ?_)
    rcases r.2 CF hCF n hn with h' | h'
    · rw [hcmp1] at h'
      rcases List.mem_cons.mp h' with rfl | h'
      · exact Or.inr ⟨fun rn e1 e2 m1 d2 => r.1 rn e1 e2 m1 (a3 rn e2 d2), fun h hh => hCF h (lx h (a4 h hh))⟩
      · exact Or.inl h'
    · exact Or.inr h'

/-- one fragment compared against a field map in a traversal of its own (`cmp` reset, then restored) -/
theorem fresh_bff_gp (fuel : Nat) (heff : EFfGP s fx d fuel) (me : Bool) (ssid : Nat) (fm : FMap)
    (fr : String) (c : OCtx) (hc : CI s d c) (h1 : EntOK (fun _ e => Ent s d e) fm) (hap : Apart d ssid fr)
    (hcr : (withFreshCmp (betweenFieldsAndFragmentG s fx false fuel me ssid fm fr) c).2.crash = none) :
    GPp s d c (withFreshCmp (betweenFieldsAndFragmentG s fx false fuel me ssid fm fr) c)
      (fun M => ∀ rn e1 e2, e1 ∈ AL.getD fm rn [] → CollF s d fr rn e2 → Cert s d M me e1 e2) := by
  unfold withFreshCmp at hcr ⊢
  simp only at hcr ⊢
  obtain ⟨hin, g⟩ := heff me ssid fm fr { c with cmp := [] } (hc.cmp _) h1 hap hcr
  have g1 : GPp s d c (betweenFieldsAndFragmentG s fx false fuel me ssid fm fr { c with cmp := [] }) _ :=
    g.pre (c := c) rfl (fun k hk => hk) (fun _ M _ _ k hk => Or.inl hk)
  have g2 := g1.post (c' := { (betweenFieldsAndFragmentG s fx false fuel me ssid fm fr { c with cmp := [] }).2 with cmp := c.cmp }) rfl
  refine g2.imp (fun M _ r rn e1 e2 m1 hcf => ?_)
  obtain ⟨k, hk⟩ := collF_collFH hcf
  have hcl : ∀ n ∈ (betweenFieldsAndFragmentG s fx false fuel me ssid fm fr { c with cmp := [] }).2.cmp,
      NameObl s d M me fm (betweenFieldsAndFragmentG s fx false fuel me ssid fm fr { c with cmp := [] }).2.cmp n := by
    intro n hn
    rcases r _ (fun _ h => h) n hn with h | h
    · cases h
    · exact h
  exact names_closed_cert hcl hin hk e1 m1

theorem stepP_ess (h7 : fx.v7 = true) (hpa : ParentsAgree s d) (fuel : Nat) (hecb : ECbGP s fx d fuel)
    (heff : EFfGP s fx d fuel) (hefr : EFrGP s fx d fuel) : ESsGP s fx d (fuel + 1) := by
  obtain ⟨_, _, sff, sfr, _⟩ := searchG_sound s fx false d h7 fuel
  intro me p1 id1 sels1 p2 id2 sels2 c hc s1 a1 s2 a2 ap1 ap2
  refine betweenSubselectionsG_cases s fx false (motive := fun r => r.2.crash = none →
    GPp s d c r (fun M => SetsRes s d M me p1 sels1 p2 sels2)) fuel me p1 id1 sels1 p2 id2 sels2 c ?_
  intro a ca b cb r0 r1 r2 r3 ha hb e0 e1 e2 e3 hcr
  obtain ⟨x1, x2, _⟩ := ff_set s d hc s1 a1
  obtain ⟨p1', xa, xe⟩ := ff_eq s d p1 id1 sels1 c hc.cache a1
  have xs := fun g => ff_spreads_complete s p1 id1 sels1 c g
  obtain ⟨_, xsp, _⟩ := fieldsAndFragments_sound s d p1 id1 sels1 c hc.cache a1
  obtain ⟨cha, hca⟩ := fieldsAndFragments_ctx s p1 id1 sels1 c
  simp only [ha] at x1 x2 xe xs xsp hca
  obtain ⟨y1, y2, _⟩ := ff_set s d x1 s2 a2
  obtain ⟨p2', ya, ye⟩ := ff_eq s d p2 id2 sels2 ca x1.cache a2
  have ys := fun g => ff_spreads_complete s p2 id2 sels2 ca g
  obtain ⟨_, ysp, _⟩ := fieldsAndFragments_sound s d p2 id2 sels2 ca x1.cache a2
  obtain ⟨chb, hcb⟩ := fieldsAndFragments_ctx s p2 id2 sels2 ca
  simp only [hb] at y1 y2 ye ys ysp hcb
  have e1' : p1' = p1 := hpa _ _ _ xa a1
  have e2' : p2' = p2 := hpa _ _ _ ya a2
  subst e1' e2'
  have hPw : ∀ (ssid : Nat) (fm : FMap), EntOK (fun _ e => Ent s d e) fm → ∀ (frs : List String) (c : OCtx), CI s d c →
      CI s d (sumLoop frs (fun fr c => withFreshCmp (betweenFieldsAndFragmentG s fx false fuel me ssid fm fr) c) c).2 :=
    fun ssid fm hfm frs c hc => sumLoop_keeps frs _ (CI s d)
      (fun fr _ c hc => (withFreshCmp_spec s d _ True (fun c hc => ⟨(sff me ssid fm fr c hc hfm).1, fun _ => trivial⟩) c hc).1)
      c hc
  have ci0 : CI s d r0.2 := e0 ▸ cb_ci s fx false d h7 fuel me a.1 b.1 cb y1 x2 y2
  have ci1 : CI s d r1.2 := e1 ▸ hPw id1 a.1 x2 b.2 _ ci0
  have ci2 : CI s d r2.2 := e2 ▸ hPw id2 b.1 y2 a.2 _ ci1
  -- the four phases, from the last to the first
  have g3 : GPp s d r2.2 r3 (fun M => ∀ g1 ∈ a.2, ∀ g2 ∈ b.2, Cov M me g1 g2) := e3 ▸ sumLoop_gp a.2 _ (CI s d) _
    (fun g1 _ c hc => ⟨sumLoop_keeps b.2 _ (CI s d) (fun g2 _ c hc => (sfr me g1 g2 c hc).1) c hc,
      fun h => sumLoop_gp b.2 (fun g2 c => betweenFragmentsG s fx false fuel me (some g1) (some g2) c) (CI s d)
        (fun g2 M => Cov M me g1 g2) (fun g2 _ c hc => ⟨(sfr me g1 g2 c hc).1, fun h => hefr me g1 g2 c hc h⟩) c hc h⟩)
    _ ci2 (e3 ▸ hcr)
  have g2 : GPp s d r1.2 r2 (fun M => ∀ fr ∈ a.2, ∀ rn e1 e2, e1 ∈ AL.getD b.1 rn [] → CollF s d fr rn e2 →
      Cert s d M me e1 e2) := e2 ▸ sumLoop_gp a.2 _ (CI s d) _
    (fun fr hfr c hc => ⟨(withFreshCmp_spec s d _ True (fun c hc => ⟨(sff me id2 b.1 fr c hc y2).1, fun _ => trivial⟩) c hc).1,
      fun h => fresh_bff_gp s fx d fuel heff me id2 b.1 fr c hc y2 (ap2 fr (xsp fr hfr)) h⟩)
    _ ci1 (e2 ▸ g3.crash)
  have g1 : GPp s d r0.2 r1 (fun M => ∀ fr ∈ b.2, ∀ rn e1 e2, e1 ∈ AL.getD a.1 rn [] → CollF s d fr rn e2 →
      Cert s d M me e1 e2) := e1 ▸ sumLoop_gp b.2 _ (CI s d) _
    (fun fr hfr c hc => ⟨(withFreshCmp_spec s d _ True (fun c hc => ⟨(sff me id1 a.1 fr c hc x2).1, fun _ => trivial⟩) c hc).1,
      fun h => fresh_bff_gp s fx d fuel heff me id1 a.1 fr c hc x2 (ap1 fr (ysp fr hfr)) h⟩)
    _ ci0 (e1 ▸ g2.crash)
  have g0 : GPp s d cb r0 _ := e0 ▸ hecb me a.1 b.1 cb y1 x2 y2 (e0 ▸ g1.crash)
  have hpc : cb.pairs = c.pairs := by rw [hcb, hca]
  refine ((((g0.seq g1).seq g2).seq g3).pre (c := c) (by rw [hcb, hca]) (fun k hk => by rw [hpc]; exact hk)
    (fun _ M _ _ k hk => Or.inl (by rw [hpc] at hk; exact hk))).imp (fun M _ r => ?_)
  obtain ⟨⟨⟨q0, q1⟩, q2⟩, q3⟩ := r
  have cm1 : ∀ rn e, CollD s p1' sels1 rn e → e ∈ AL.getD a.1 rn [] := fun rn e h => by
    rw [xe]; exact collectSels_complete s _ sels1 ([], []) rn e (Or.inr h)
  have cm2 : ∀ rn e, CollD s p2' sels2 rn e → e ∈ AL.getD b.1 rn [] := fun rn e h => by
    rw [ye]; exact collectSels_complete s _ sels2 ([], []) rn e (Or.inr h)
  exact ⟨fun rn e1 e2 h1 h2 => q0 rn e1 e2 (cm1 rn e1 h1) (cm2 rn e2 h2),
    fun g hg rn e1 e2 h1 h2 => q1 g (ys g hg) rn e1 e2 (cm1 rn e1 h1) h2,
    fun g hg rn e1 e2 h1 h2 => q2 g (xs g hg) rn e1 e2 (cm2 rn e1 h1) h2,
    fun g1 g2 hg1 hg2 => q3 g1 (xs g1 hg1) g2 (ys g2 hg2)⟩

theorem post_names (h7 : fx.v7 = true) (hpa : ParentsAgree s d) (hsub : SubsApart s d) : ∀ fuel,
    EFindGP s fx d fuel ∧ ECbGP s fx d fuel ∧ EFrGP s fx d fuel ∧ ESsGP s fx d fuel ∧ EFfGP s fx d fuel := by
  intro fuel
  induction fuel with
  | zero =>
    refine ⟨?_, ?_, ?_, ?_, ?_⟩
    · intro pme f1 f2 c _ _ _ h; rw [findConflictG_zero] at h; cases h
    · intro me fm1 fm2 c _ _ _ h; rw [conflictsBetweenG_zero] at h; cases h
    · intro me f1 f2 c _ h; rw [betweenFragmentsG_zero] at h; cases h
    · intro me p1 id1 sels1 p2 id2 sels2 c _ _ _ _ _ _ _ h; rw [betweenSubselectionsG_zero] at h; cases h
    · intro me ssid fm name c _ _ _ h; rw [betweenFieldsAndFragmentG_zero] at h; cases h
  | succ fuel ih =>
    obtain ⟨i1, i2, i3, i4, i5⟩ := ih
    obtain ⟨j1, _, _, j4, _⟩ := searchG_sound s fx false d h7 fuel
    exact ⟨stepP_efind s fx d hsub fuel i4, stepP_ecb s fx d fuel j1 i1, stepP_efr s fx d h7 hpa fuel j4 i2 i3,
      stepP_ess s fx d h7 hpa fuel i2 i5 i3, stepP_eff s fx d h7 hpa fuel i2 i5⟩

/-- `EFindGP … EFfGP` written over the model's own functions (`findConflict …`) and `GP`: the form `post_all` is stated with -/
def EFind (fuel : Nat) : Prop :=
  ∀ pme f1 f2 c, CI s d c → Ent s d f1 → Ent s d f2 → (findConflict s fx fuel pme f1 f2 c).2.crash = none →
    GP s d c (if (findConflict s fx fuel pme f1 f2 c).1 = true then 1 else 0, (findConflict s fx fuel pme f1 f2 c).2)
      (fun M => Cert s d M pme f1 f2)

def ECb (fuel : Nat) : Prop :=
  ∀ me fm1 fm2 c, CI s d c → EntOK (fun _ e => Ent s d e) fm1 → EntOK (fun _ e => Ent s d e) fm2 →
    (conflictsBetween s fx fuel me fm1 fm2 c).2.crash = none →
    GP s d c (conflictsBetween s fx fuel me fm1 fm2 c)
      (fun M => ∀ rn e1 e2, e1 ∈ AL.getD fm1 rn [] → e2 ∈ AL.getD fm2 rn [] → Cert s d M me e1 e2)

def ESs (fuel : Nat) : Prop :=
  ∀ me p1 id1 sels1 p2 id2 sels2 c, CI s d c → SelSet d id1 sels1 → Adm s d id1 p1 → SelSet d id2 sels2 →
    Adm s d id2 p2 → NotBody d id1 → NotBody d id2 →
    (betweenSubselections s fx fuel me p1 id1 sels1 p2 id2 sels2 c).2.crash = none →
    GP s d c (betweenSubselections s fx fuel me p1 id1 sels1 p2 id2 sels2 c) (fun M => SetsRes s d M me p1 sels1 p2 sels2)

def EFr (fuel : Nat) : Prop :=
  ∀ me of1 of2 c, CI s d c → (betweenFragments s fx fuel me of1 of2 c).2.crash = none →
    GP s d c (betweenFragments s fx fuel me of1 of2 c)
      (fun M => ∀ f1 f2, of1 = some f1 → of2 = some f2 → Cov M me f1 f2)

def EFf (fuel : Nat) : Prop :=
  ∀ me ssid fm name c, CI s d c → EntOK (fun _ e => Ent s d e) fm → Apart d ssid name →
    (betweenFieldsAndFragment s fx fuel me ssid fm name c).2.crash = none →
    name ∈ (betweenFieldsAndFragment s fx fuel me ssid fm name c).2.cmp ∧
    GP s d c (betweenFieldsAndFragment s fx fuel me ssid fm name c)
      (fun M => ∀ CF, (∀ n ∈ (betweenFieldsAndFragment s fx fuel me ssid fm name c).2.cmp, n ∈ CF) →
        ∀ n ∈ (betweenFieldsAndFragment s fx fuel me ssid fm name c).2.cmp, n ∈ c.cmp ∨ NameObl s d M me fm CF n)

theorem post_all (h7 : fx.v7 = true) (hpa : ParentsAgree s d)
    (hnb : ∀ e, Ent s d e → e.hasSub = true → NotBody d e.ssid) : ∀ fuel,
    EFind s fx d fuel ∧ ECb s fx d fuel ∧ EFr s fx d fuel ∧ ESs s fx d fuel ∧ EFf s fx d fuel := by
  intro fuel
  obtain ⟨e1, e2, e3, e4, e5⟩ := searchG_plain s fx fuel
  obtain ⟨h1, h2, h3, h4, h5⟩ := post_names s fx d h7 hpa (subsApart_of_notBody hnb) fuel
  unfold EFind ECb EFr ESs EFf
  rw [e1, e2, e3, e4, e5]
  exact ⟨fun pme f1 f2 c hc a b hcr => (h1 pme f1 f2 c hc a b hcr).gp,
    fun me fm1 fm2 c hc a b hcr => (h2 me fm1 fm2 c hc a b hcr).gp,
    fun me of1 of2 c hc hcr => GPk.gp (efr_of_names s fx d false _ _ id h3 me of1 of2 c hc hcr),
    fun me p1 id1 sels1 p2 id2 sels2 c hc a b a' b' n1 n2 hcr => (h4 me p1 id1 sels1 p2 id2 sels2 c hc a b a' b' (fun g _ => apart_of_notBody n1 g)
        (fun g _ => apart_of_notBody n2 g) hcr).gp,
    fun me ssid fm name c hc a b hcr => ⟨(h5 me ssid fm name c hc a b hcr).1, (h5 me ssid fm name c hc a b hcr).2.gp⟩⟩

end

end PyGql.Validate
