/-
  The memoised search never loses a report: the postconditions (`GPM` = `GPk` of `ValidateOverlapPost.lean` over
  the keys of BOTH memos, closure `OblM`) of the five search functions, one step of the fuel each, and all five together
  (`postM_names`).
  `_find_conflict`: a `CertM`; `_conflicts_between`: a `CertM` for every cross pair; `_conflicts_between_fragments`: the
  pair is covered by the memo, and the key it inserts is closed (these three are instances of the shared steps of
  `Lemmas/ValidateOverlapPostSteps.lean`); `_conflicts_between_fields_and_fragment`: every name it
  records in `cmp` is COVERED (undefined, or its triple is in the memo: `CmpOK` is kept along the way) - a hit returns at
  once, and is covered; a miss inserts the triple, whose closure (`FOblM`) the comparison then establishes (or, when
  the fragment's body is the selection set itself - `field_map is fragment_field_map` - nothing: the guard of `FOblM`;
  no acyclicity / `Apart` hypothesis anywhere); `_conflicts_between_subselections`: a `SetsResM`. `WfIds`
  (selection-set identities pairwise distinct) enters with the last: the memo identifies a field map by its selection
  set.
-/
import PyGqlModel.Lemmas.ValidateOverlapMCert
import PyGqlModel.Lemmas.ValidateOverlapMemoSound
import PyGqlModel.Lemmas.ValidateOverlapWf
namespace PyGql.Validate
open PyGql PyGql.Validate.Spec

/-- `M` contains both memos of the context -/
def SupM (c : OCtx) (M : MemoM) : Prop := ∀ k ∈ keysM c, M k

/-- `GPk` over the keys of both memos written out as a structure of its own: the form `postM_all` is stated with (`GPk.gpM`) -/
structure GPM (s : SchemaD) (d : Doc) (c : OCtx) (r : Nat × OCtx) (Res : MemoM → Prop) : Prop where
  crash : c.crash = none
  mono : ∀ k ∈ keysM c, k ∈ keysM r.2
  res : r.1 = 0 → ∀ M, SupM r.2 M → (∀ k ∈ keysM r.2, k ∈ keysM c ∨ OblM s d M k) ∧ Res M

abbrev GPm (s : SchemaD) (d : Doc) := GPk keysM (OblM s d)

theorem GPk.gpM {s : SchemaD} {d : Doc} {c : OCtx} {r : Nat × OCtx} {Res : MemoM → Prop} (h : GPm s d c r Res) :
    GPM s d c r Res := ⟨h.crash, h.mono, h.res⟩

/-- what `_conflicts_between_subselections` (memoised) establishes for two selection sets -/
structure SetsResM (s : SchemaD) (d : Doc) (M : MemoM) (me : Bool) (id1 : Nat) (p1 : Option String) (sels1 : List Sel)
    (id2 : Nat) (p2 : Option String) (sels2 : List Sel) : Prop where
  direct : ∀ rn e1 e2, CollD s p1 sels1 rn e1 → CollD s p2 sels2 rn e2 → CertM s d M me e1 e2
  fragR : ∀ g, SpreadD sels2 g → FCov d M me id1 g
  fragL : ∀ g, SpreadD sels1 g → FCov d M me id2 g
  frags : ∀ g1 g2, SpreadD sels1 g1 → SpreadD sels2 g2 → CovM M me g1 g2

section
variable (s : SchemaD) (fx : Fixes) (d : Doc)

/-- The E family of the MEMOISED search (`findConflictG … true`), certificates `CertM`, memo = the keys of both memos (`keysM`):
    `EFindGM ECbGM EFrGM` are the instances of `EFindK ECbK EFrK` (`Lemmas/ValidateOverlapPostSteps.lean`); `ESsGM` (a `SetsResM`) and
    `EFfGM` (every name recorded in `cmp` is covered: undefined, or its triple is in the memo, `FCov`) are its own. -/
def EFindGM (fuel : Nat) : Prop := EFindK s fx d true keysM (OblM s d) (fun M => CertM s d M) fuel

def ECbGM (fuel : Nat) : Prop := ECbK s fx d true keysM (OblM s d) (fun M => CertM s d M) fuel

def ESsGM (fuel : Nat) : Prop :=
  ∀ me p1 id1 sels1 p2 id2 sels2 c, CI s d c → SelSet d id1 sels1 → Adm s d id1 p1 → SelSet d id2 sels2 →
    Adm s d id2 p2 →
    (betweenSubselectionsG s fx true fuel me p1 id1 sels1 p2 id2 sels2 c).2.crash = none →
    GPm s d c (betweenSubselectionsG s fx true fuel me p1 id1 sels1 p2 id2 sels2 c) (fun M => SetsResM s d M me id1 p1 sels1 id2 p2 sels2)

theorem stepM_efind (fuel : Nat) (hss : ESsGM s fx d fuel) :
    EFindGM s fx d (fuel + 1) :=
  efind_of_ess s fx d true _ _ _
    (fun M me f1 f2 => SetsResM s d M me f1.ssid f1.subParent f1.sub f2.ssid f2.subParent f2.sub)
    (fun _ _ _ _ hargs htypes r => .mk hargs htypes (fun x y => (r x y).direct) (fun x y => (r x y).fragR)
      (fun x y => (r x y).fragL) (fun x y => (r x y).frags)) fuel
    (fun _ _ _ c hc h1 h2 s1 s2 hcr =>
      have ⟨hs1, a1⟩ := h1.sub s1
      have ⟨hs2, a2⟩ := h2.sub s2
      hss _ _ _ _ _ _ _ c hc hs1 a1 hs2 a2 hcr)

theorem stepM_ecb (fuel : Nat) (hsf : SFindG s fx true d fuel) (hef : EFindGM s fx d fuel) : ECbGM s fx d (fuel + 1) :=
  ecb_of_efind s fx d true _ _ _ fuel hsf hef

end

theorem mem_keysM_pairs_cons {c : OCtx} {k0 : String × String × Bool} {k : MKey} :
    k ∈ keysM { c with pairs := k0 :: c.pairs } ↔ k = .inl k0 ∨ k ∈ keysM c := by
  simp only [keysM, List.map_cons, List.cons_append, List.mem_cons]

theorem pairKeys_keysM : PairKeys keysM Sum.inl := ⟨mem_keysM_inl.mpr, mem_keysM_pairs_cons, fun _ _ => rfl⟩

theorem mem_keysM_ffp_cons {c : OCtx} {k0 : Nat × String × Bool} {k : MKey} :
    k ∈ keysM { c with ffp := k0 :: c.ffp } ↔ k = .inr k0 ∨ k ∈ keysM c := by
  simp only [keysM, List.map_cons, List.mem_append, List.mem_cons]
  constructor
  · rintro (h | h | h)
    · exact Or.inr (Or.inl h)
    · exact Or.inl h
    · exact Or.inr (Or.inr h)
  · rintro (h | h | h)
    · exact Or.inr (Or.inl h)
    · exact Or.inl h
    · exact Or.inr (Or.inr h)

section
variable (s : SchemaD) (fx : Fixes) (d : Doc)

def EFrGM (fuel : Nat) : Prop := EFrK s fx d true keysM (OblM s d) Sum.inl fuel

/-- every fragment recorded in the live `compared_fragments` set is undefined or has its triple in the memo -/
def CmpOK (d : Doc) (c : OCtx) (ssid : Nat) (me : Bool) : Prop :=
  ∀ n ∈ c.cmp, AL.get? (fragTable d) n = none ∨ (ssid, n, me) ∈ c.ffp

def EFfGM (fuel : Nat) : Prop :=
  ∀ me ssid fm name c, CI s d c → EntOK (fun _ e => Ent s d e) fm →
    (∀ sels p rn e, SelSet d ssid sels → Adm s d ssid p → CollD s p sels rn e → e ∈ AL.getD fm rn []) →
    CmpOK d c ssid me →
    (betweenFieldsAndFragmentG s fx true fuel me ssid fm name c).2.crash = none →
    name ∈ (betweenFieldsAndFragmentG s fx true fuel me ssid fm name c).2.cmp ∧
    GPm s d c (betweenFieldsAndFragmentG s fx true fuel me ssid fm name c)
      (fun M => ∀ CF : List String, (∀ n ∈ (betweenFieldsAndFragmentG s fx true fuel me ssid fm name c).2.cmp, n ∈ CF) →
        ∀ n ∈ (betweenFieldsAndFragmentG s fx true fuel me ssid fm name c).2.cmp, n ∈ c.cmp ∨ FCov d M me ssid n)

theorem stepM_efr (h7 : fx.v7 = true) (hpa : ParentsAgree s d) (fuel : Nat) (hsfr : SFrG s fx true d fuel)
    (hecb : ECbGM s fx d fuel) (hefr : EFrGM s fx d fuel) : EFrGM s fx d (fuel + 1) :=
  efr_step s fx d true _ _ Sum.inl (fun M => CertM s d M) pairKeys_keysM (fun _ _ h => h) h7 hpa fuel hsfr hecb hefr
end

theorem CmpOK.mono {d : Doc} {a b : OCtx} {ssid : Nat} {me : Bool} (h : CmpOK d a ssid me) (hc : b.cmp = a.cmp)
    (hf : FL a b) : CmpOK d b ssid me := fun n hn => by
  rw [hc] at hn
  rcases h n hn with h | h
  · exact Or.inl h
  · exact Or.inr (hf _ h)

theorem CmpOK.cons {d : Doc} {a b : OCtx} {ssid : Nat} {me : Bool} {name : String} (h : CmpOK d a ssid me)
    (hn : AL.get? (fragTable d) name = none ∨ (ssid, name, me) ∈ b.ffp) (hc : b.cmp = name :: a.cmp) (hf : FL a b) :
    CmpOK d b ssid me := fun n hn' => by
  rw [hc] at hn'
  rcases List.mem_cons.mp hn' with rfl | hn'
  · exact hn
  · rcases h n hn' with h | h
    · exact Or.inl h
    · exact Or.inr (hf _ h)

section
variable (s : SchemaD) (fx : Fixes) (d : Doc)

/-- `_conflicts_between_fields_and_fragment` keeps `CmpOK` (crash or not) -/
theorem cmpOK_frame (h7 : fx.v7 = true) : ∀ fuel me ssid fm name c, CI s d c → EntOK (fun _ e => Ent s d e) fm →
    CmpOK d c ssid me → CmpOK d (betweenFieldsAndFragmentG s fx true fuel me ssid fm name c).2 ssid me := by
  intro fuel
  induction fuel with
  | zero => intro me ssid fm name c _ _ h; rw [betweenFieldsAndFragmentG_zero]; exact h
  | succ fuel ih =>
    obtain ⟨_, scb, sff, _, _⟩ := searchG_sound s fx true d h7 fuel
    obtain ⟨_, kcb, _, _, _⟩ := framesG s fx true h7 fuel
    intro me ssid fm name c hc h1 hok
    refine betweenFieldsAndFragmentG_cases_memo s fx (motive := fun r => CmpOK d r.2 ssid me) fuel me ssid fm name c
      (fun _ => hok) (fun _ hg => hok.cons (Or.inl (hc.frags ▸ hg)) rfl (FL.refl c))
      (fun _ _ _ hmemo => hok.cons (Or.inr hmemo) rfl (FL.refl c)) ?_
    intro _ on fid fsels ff c' hg _ hff'
    obtain ⟨a1, a2, _, _⟩ := ff_frag s d
      (c := { c with cmp := name :: c.cmp, ffp := (ssid, name, me) :: c.ffp }) ⟨hc.frags, hc.cache⟩ (name := name) hg
    obtain ⟨ch, hca⟩ := fieldsAndFragments_ctx s ((typeFromAst s (.named on)).map (·.base)) fid fsels
      { c with cmp := name :: c.cmp, ffp := (ssid, name, me) :: c.ffp }
    simp only [hff'] at a1 a2 hca
    subst hca
    have hok' := hok.cons (b := { c with cmp := name :: c.cmp, ffp := (ssid, name, me) :: c.ffp, cache := ch })
      (Or.inr (List.mem_cons_self ..)) rfl (fun _ h => List.mem_cons_of_mem _ h)
    refine ⟨fun _ => hok', fun _ r1 r2 e1 e2 => ?_⟩
    have k1 := kcb me fm ff.1 { c with cmp := name :: c.cmp, ffp := (ssid, name, me) :: c.ffp, cache := ch }
    have c1 := (scb me fm ff.1 _ a1 h1 a2).1
    rw [← e1] at k1 c1
    rw [e2]
    exact (sumLoop_keeps ff.2 (fun fr c => betweenFieldsAndFragmentG s fx true fuel me ssid fm fr c)
      (fun c => CI s d c ∧ CmpOK d c ssid me)
      (fun fr _ c hc => ⟨(sff me ssid fm fr c hc.1 h1).1, ih me ssid fm fr c hc.1 h1 hc.2⟩) _
      ⟨c1, hok'.mono k1.cmp k1.ffp⟩).2

theorem stepM_eff (h7 : fx.v7 = true) (hpa : ParentsAgree s d) (fuel : Nat) (hecb : ECbGM s fx d fuel)
    (heff : EFfGM s fx d fuel) : EFfGM s fx d (fuel + 1) := by
  obtain ⟨_, scb, sff, _, _⟩ := searchG_sound s fx true d h7 fuel
  obtain ⟨_, kcb, _, _, kff⟩ := framesG s fx true h7 fuel
  intro me ssid fm name c hc h1 hfm hok
  -- a name is recorded and nothing else happens: the name is covered by `hcov`
  have record : (∀ M, SupM c M → FCov d M me ssid name) → ({ c with cmp := name :: c.cmp } : OCtx).crash = none →
      name ∈ name :: c.cmp ∧ GPm s d c (0, { c with cmp := name :: c.cmp })
        (fun M => ∀ CF : List String, (∀ n ∈ name :: c.cmp, n ∈ CF) → ∀ n ∈ name :: c.cmp, n ∈ c.cmp ∨ FCov d M me ssid n) := by
    intro hcov hcr
    refine ⟨List.mem_cons_self .., GPk.skip rfl rfl (fun M hM CF _ n hn => ?_) hcr⟩
    rcases List.mem_cons.mp hn with rfl | hn
    · exact Or.inr (hcov M hM)
    · exact Or.inl hn
  refine betweenFieldsAndFragmentG_cases_memo s fx (motive := fun r => r.2.crash = none → name ∈ r.2.cmp ∧
      GPm s d c r (fun M => ∀ CF : List String, (∀ n ∈ r.2.cmp, n ∈ CF) → ∀ n ∈ r.2.cmp, n ∈ c.cmp ∨ FCov d M me ssid n))
    fuel me ssid fm name c (fun hcm hcr => ⟨hcm, GPk.skip rfl rfl (fun M _ CF _ n hn => Or.inl hn) hcr⟩)
    (fun _ hg => record (fun M _ => Or.inl (hc.frags ▸ hg)))
    (fun _ _ _ hmemo => record (fun M hM => Or.inr (hM _ (mem_keysM_inr.mpr hmemo)))) ?_
  intro _ on fid fsels ff c' hg hmemo hff'
  have hg' : AL.get? (fragTable d) name = some (on, fid, fsels) := hc.frags ▸ hg
  obtain ⟨a1, a2, a3, a4, _⟩ := ff_frag_complete s d hpa
    (c := { c with cmp := name :: c.cmp, ffp := (ssid, name, me) :: c.ffp }) ⟨hc.frags, hc.cache⟩ (name := name) hg
  obtain ⟨ch, hca⟩ := fieldsAndFragments_ctx s ((typeFromAst s (.named on)).map (·.base)) fid fsels
    { c with cmp := name :: c.cmp, ffp := (ssid, name, me) :: c.ffp }
  simp only [hff'] at a1 a2 a3 a4 hca
  subst hca
  have hok' := hok.cons (b := { c with cmp := name :: c.cmp, ffp := (ssid, name, me) :: c.ffp, cache := ch })
    (Or.inr (List.mem_cons_self ..)) rfl (fun _ h => List.mem_cons_of_mem _ h)
  have hkc : ∀ k, k ∈ keysM { c with cmp := name :: c.cmp, ffp := (ssid, name, me) :: c.ffp, cache := ch } ↔
      k = Sum.inr (ssid, name, me) ∨ k ∈ keysM c := fun k => mem_keysM_ffp_cons (c := c)
  constructor
  · -- `if field_map is fragment_field_map: return`: the triple is in the memo, nothing is claimed about it
    intro hid hcr
    refine ⟨List.mem_cons_self .., hcr, fun k hk => (hkc k).mpr (Or.inr hk), fun _ M hM => ⟨fun k hk => ?_, fun CF _ n hn => ?_⟩⟩
    · rcases (hkc k).mp hk with rfl | hk
      · exact Or.inr (fun hne => absurd hid.symm (hne on fid fsels hg'))
      · exact Or.inl hk
    · rcases List.mem_cons.mp hn with rfl | hn
      · exact Or.inr (Or.inr (hM _ ((hkc _).mpr (Or.inl rfl))))
      · exact Or.inl hn
  · intro hid r1 r2 e1 e2 hcr
    have k1 := kcb me fm ff.1 { c with cmp := name :: c.cmp, ffp := (ssid, name, me) :: c.ffp, cache := ch }
    have c1 := (scb me fm ff.1 _ a1 h1 a2).1
    rw [← e1] at k1 c1
    obtain ⟨lx, lm, g2⟩ := sumLoop_names ff.2 (fun fr c => betweenFieldsAndFragmentG s fx true fuel me ssid fm fr c)
      (fun c => CI s d c ∧ CmpOK d c ssid me) (fun M _ n => FCov d M me ssid n)
      (fun fr hfr c hc => ⟨⟨(sff me ssid fm fr c hc.1 h1).1, cmpOK_frame s fx d h7 fuel me ssid fm fr c hc.1 h1 hc.2⟩,
        (kff me ssid fm fr c).cmp, fun h => heff me ssid fm fr c hc.1 h1 hfm hc.2 h⟩)
      r1.2 ⟨c1, hok'.mono k1.cmp k1.ffp⟩ (e2 ▸ hcr)
    rw [← e2] at lx lm g2
    have g1 : GPm s d _ r1 _ := e1 ▸ hecb me fm ff.1 _ a1 h1 a2 (e1 ▸ g2.crash)
    have hcmp1 : r1.2.cmp = name :: c.cmp := k1.cmp
    refine ⟨lm _ (hcmp1 ▸ List.mem_cons_self ..), ?_⟩
    have inM : ∀ M, SupM r2.2 M → ∀ k, (k = Sum.inr (ssid, name, me) ∨ k ∈ keysM c) → M k :=
      fun M hM k hk => hM _ ((g1.seq g2).mono _ ((hkc k).mpr hk))
    refine ((g1.seq g2).pre (c := c) rfl (fun k hk => (hkc k).mpr (Or.inr hk)) (fun _ M hM r k hk => ?_)).imp
      (fun M hM r CF hCF n hn => ?_)
    · rcases (hkc k).mp hk with rfl | hk
      · refine Or.inr (fun _ => ⟨fun sels p rn e1 e2 hs ha c1 d2 => r.1 rn e1 e2 (hfm sels p rn e1 hs ha c1) (a3 rn e2 d2),
          fun h hh => ?_⟩)
        rcases r.2 _ (fun _ x => x) h (lx h (a4 h hh)) with h' | h'
        · rw [hcmp1] at h'
          rcases List.mem_cons.mp h' with rfl | h'
          · exact Or.inr (inM M hM _ (Or.inl rfl))
          · rcases hok h h' with hu | hm
            · exact Or.inl hu
            · exact Or.inr (inM M hM _ (Or.inr (mem_keysM_inr.mpr hm)))
        · exact h'
      · exact Or.inl hk
    · rcases r.2 CF hCF n hn with h' | h'
      · rw [hcmp1] at h'
        rcases List.mem_cons.mp h' with rfl | h'
        · exact Or.inr (Or.inr (inM M hM _ (Or.inl rfl)))
        · exact Or.inl h'
      · exact Or.inr h'

/-- `_fields_and_fragments` on a selection set of the document is COMPLETE: the map holds every field of the set -
    under whatever admissible parent type and selection list the set is known by (`ParentsAgree`, `WfIds`: the memo
    identifies a field map by its selection set) - and the list every fragment it spreads -/
theorem ff_set_complete (hpa : ParentsAgree s d) (hw : WfIds d) {c : OCtx} (hc : CI s d c) {p : Option String} {i : Nat}
    {sels : List Sel} (h1 : SelSet d i sels) (h2 : Adm s d i p) :
    CI s d (fieldsAndFragments s p i sels c).2 ∧
    EntOK (fun _ e => Ent s d e) (fieldsAndFragments s p i sels c).1.1 ∧
    (∀ sels' q rn e, SelSet d i sels' → Adm s d i q → CollD s q sels' rn e →
      e ∈ AL.getD (fieldsAndFragments s p i sels c).1.1 rn []) ∧
    (∀ g, SpreadD sels g → g ∈ (fieldsAndFragments s p i sels c).1.2) := by
  obtain ⟨x1, x2, _⟩ := ff_set s d hc h1 h2
  obtain ⟨p', xa, xe⟩ := ff_eq s d p i sels c hc.cache h2
  refine ⟨x1, x2, fun sels' q rn e hs ha hcd => ?_, fun g => ff_spreads_complete s p i sels c g⟩
  have := wf_selSet_unique hw hs h1
  subst this
  rw [xe, hpa _ _ _ xa ha]
  exact collectSels_complete s _ sels' ([], []) rn e (Or.inr hcd)

/-- one fragment compared against a field map in a traversal of its own (`cmp` reset, then restored) -/
theorem freshM_bff_gp (fuel : Nat) (heff : EFfGM s fx d fuel) (me : Bool) (ssid : Nat) (fm : FMap)
    (fr : String) (c : OCtx) (hc : CI s d c) (h1 : EntOK (fun _ e => Ent s d e) fm)
    (hfm : ∀ sels p rn e, SelSet d ssid sels → Adm s d ssid p → CollD s p sels rn e → e ∈ AL.getD fm rn [])
    (hcr : (withFreshCmp (betweenFieldsAndFragmentG s fx true fuel me ssid fm fr) c).2.crash = none) :
    GPm s d c (withFreshCmp (betweenFieldsAndFragmentG s fx true fuel me ssid fm fr) c)
      (fun M => FCov d M me ssid fr) := by
  unfold withFreshCmp at hcr ⊢
  simp only at hcr ⊢
  obtain ⟨hin, g⟩ := heff me ssid fm fr { c with cmp := [] } (hc.cmp _) h1 hfm (fun _ h => nomatch h) hcr
  have g1 : GPm s d c (betweenFieldsAndFragmentG s fx true fuel me ssid fm fr { c with cmp := [] }) _ :=
    g.pre (c := c) rfl (fun k hk => hk) (fun _ M _ _ k hk => Or.inl hk)
  have g2 := g1.post (c' := { (betweenFieldsAndFragmentG s fx true fuel me ssid fm fr { c with cmp := [] }).2 with cmp := c.cmp }) rfl
  refine g2.imp (fun M _ r => ?_)
  rcases r _ (fun _ h => h) fr hin with h | h
  · cases h
  · exact h

theorem stepM_ess (h7 : fx.v7 = true) (hpa : ParentsAgree s d) (hw : WfIds d) (fuel : Nat) (hecb : ECbGM s fx d fuel)
    (heff : EFfGM s fx d fuel) (hefr : EFrGM s fx d fuel) : ESsGM s fx d (fuel + 1) := by
  obtain ⟨_, _, sff, sfr, _⟩ := searchG_sound s fx true d h7 fuel
  intro me p1 id1 sels1 p2 id2 sels2 c hc s1 a1 s2 a2
  refine betweenSubselectionsG_cases s fx true (motive := fun r => r.2.crash = none →
    GPm s d c r (fun M => SetsResM s d M me id1 p1 sels1 id2 p2 sels2)) fuel me p1 id1 sels1 p2 id2 sels2 c ?_
  intro a ca b cb r0 r1 r2 r3 ha hb e0 e1 e2 e3 hcr
  obtain ⟨x1, x2, xm, xs⟩ := ff_set_complete s d hpa hw hc s1 a1
  obtain ⟨cha, hca⟩ := fieldsAndFragments_ctx s p1 id1 sels1 c
  simp only [ha] at x1 x2 xm xs hca
  obtain ⟨y1, y2, ym, ys⟩ := ff_set_complete s d hpa hw x1 s2 a2
  obtain ⟨chb, hcb⟩ := fieldsAndFragments_ctx s p2 id2 sels2 ca
  simp only [hb] at y1 y2 ym ys hcb
  have hPw : ∀ (ssid : Nat) (fm : FMap), EntOK (fun _ e => Ent s d e) fm → ∀ (frs : List String) (c : OCtx), CI s d c →
      CI s d (sumLoop frs (fun fr c => withFreshCmp (betweenFieldsAndFragmentG s fx true fuel me ssid fm fr) c) c).2 :=
    fun ssid fm hfm frs c hc => sumLoop_keeps frs _ (CI s d)
      (fun fr _ c hc => (withFreshCmp_spec s d _ True (fun c hc => ⟨(sff me ssid fm fr c hc hfm).1, fun _ => trivial⟩) c hc).1)
      c hc
  have ci0 : CI s d r0.2 := e0 ▸ cb_ci s fx true d h7 fuel me a.1 b.1 cb y1 x2 y2
  have ci1 : CI s d r1.2 := e1 ▸ hPw id1 a.1 x2 b.2 _ ci0
  have ci2 : CI s d r2.2 := e2 ▸ hPw id2 b.1 y2 a.2 _ ci1
  -- the four phases, from the last to the first
  have g3 : GPm s d r2.2 r3 (fun M => ∀ g1 ∈ a.2, ∀ g2 ∈ b.2, CovM M me g1 g2) := e3 ▸ sumLoop_gp a.2 _ (CI s d) _
    (fun g1 _ c hc => ⟨sumLoop_keeps b.2 _ (CI s d) (fun g2 _ c hc => (sfr me g1 g2 c hc).1) c hc,
      fun h => sumLoop_gp b.2 (fun g2 c => betweenFragmentsG s fx true fuel me (some g1) (some g2) c) (CI s d)
        (fun g2 M => CovM M me g1 g2) (fun g2 _ c hc => ⟨(sfr me g1 g2 c hc).1, fun h => hefr me g1 g2 c hc h⟩) c hc h⟩)
    _ ci2 (e3 ▸ hcr)
  have g2 : GPm s d r1.2 r2 (fun M => ∀ fr ∈ a.2, FCov d M me id2 fr) := e2 ▸ sumLoop_gp a.2 _ (CI s d) _
    (fun fr _ c hc => ⟨(withFreshCmp_spec s d _ True (fun c hc => ⟨(sff me id2 b.1 fr c hc y2).1, fun _ => trivial⟩) c hc).1,
      fun h => freshM_bff_gp s fx d fuel heff me id2 b.1 fr c hc y2 ym h⟩)
    _ ci1 (e2 ▸ g3.crash)
  have g1 : GPm s d r0.2 r1 (fun M => ∀ fr ∈ b.2, FCov d M me id1 fr) := e1 ▸ sumLoop_gp b.2 _ (CI s d) _
    (fun fr _ c hc => ⟨(withFreshCmp_spec s d _ True (fun c hc => ⟨(sff me id1 a.1 fr c hc x2).1, fun _ => trivial⟩) c hc).1,
      fun h => freshM_bff_gp s fx d fuel heff me id1 a.1 fr c hc x2 xm h⟩)
    _ ci0 (e1 ▸ g2.crash)
  have g0 : GPm s d cb r0 _ := e0 ▸ hecb me a.1 b.1 cb y1 x2 y2 (e0 ▸ g1.crash)
  have hpc : keysM cb = keysM c := by rw [hcb, hca]; rfl
  refine ((((g0.seq g1).seq g2).seq g3).pre (c := c) (by rw [hcb, hca]) (fun k hk => by rw [hpc]; exact hk)
    (fun _ M _ _ k hk => Or.inl (by rw [hpc] at hk; exact hk))).imp (fun M _ r => ?_)
  obtain ⟨⟨⟨q0, q1⟩, q2⟩, q3⟩ := r
  exact ⟨fun rn e1 e2 h1 h2 => q0 rn e1 e2 (xm _ _ rn e1 s1 a1 h1) (ym _ _ rn e2 s2 a2 h2),
    fun g hg => q1 g (ys g hg), fun g hg => q2 g (xs g hg), fun g1 g2 hg1 hg2 => q3 g1 (xs g1 hg1) g2 (ys g2 hg2)⟩

theorem postM_names (h7 : fx.v7 = true) (hpa : ParentsAgree s d) (hw : WfIds d) : ∀ fuel,
    EFindGM s fx d fuel ∧ ECbGM s fx d fuel ∧ EFrGM s fx d fuel ∧ ESsGM s fx d fuel ∧ EFfGM s fx d fuel := by
  intro fuel
  induction fuel with
  | zero =>
    refine ⟨?_, ?_, ?_, ?_, ?_⟩
    · intro pme f1 f2 c _ _ _ h; rw [findConflictG_zero] at h; cases h
    · intro me fm1 fm2 c _ _ _ h; rw [conflictsBetweenG_zero] at h; cases h
    · intro me f1 f2 c _ h; rw [betweenFragmentsG_zero] at h; cases h
    · intro me p1 id1 sels1 p2 id2 sels2 c _ _ _ _ _ h; rw [betweenSubselectionsG_zero] at h; cases h
    · intro me ssid fm name c _ _ _ _ h; rw [betweenFieldsAndFragmentG_zero] at h; cases h
  | succ fuel ih =>
    obtain ⟨i1, i2, i3, i4, i5⟩ := ih
    obtain ⟨j1, _, _, j4, _⟩ := searchG_sound s fx true d h7 fuel
    exact ⟨stepM_efind s fx d fuel i4, stepM_ecb s fx d fuel j1 i1, stepM_efr s fx d h7 hpa fuel j4 i2 i3,
      stepM_ess s fx d h7 hpa hw fuel i2 i5 i3, stepM_eff s fx d h7 hpa fuel i2 i5⟩

/-- `EFindGM … EFfGM` written over the model's own functions (`findConflictM …`) and `GPM`: the form `postM_all` is stated with -/
def EFindM (fuel : Nat) : Prop :=
  ∀ pme f1 f2 c, CI s d c → Ent s d f1 → Ent s d f2 → (findConflictM s fx fuel pme f1 f2 c).2.crash = none →
    GPM s d c (if (findConflictM s fx fuel pme f1 f2 c).1 = true then 1 else 0, (findConflictM s fx fuel pme f1 f2 c).2)
      (fun M => CertM s d M pme f1 f2)

def ECbM (fuel : Nat) : Prop :=
  ∀ me fm1 fm2 c, CI s d c → EntOK (fun _ e => Ent s d e) fm1 → EntOK (fun _ e => Ent s d e) fm2 →
    (conflictsBetweenM s fx fuel me fm1 fm2 c).2.crash = none →
    GPM s d c (conflictsBetweenM s fx fuel me fm1 fm2 c)
      (fun M => ∀ rn e1 e2, e1 ∈ AL.getD fm1 rn [] → e2 ∈ AL.getD fm2 rn [] → CertM s d M me e1 e2)

def EFrM (fuel : Nat) : Prop :=
  ∀ me of1 of2 c, CI s d c → (betweenFragmentsM s fx fuel me of1 of2 c).2.crash = none →
    GPM s d c (betweenFragmentsM s fx fuel me of1 of2 c)
      (fun M => ∀ f1 f2, of1 = some f1 → of2 = some f2 → CovM M me f1 f2)

def ESsM (fuel : Nat) : Prop :=
  ∀ me p1 id1 sels1 p2 id2 sels2 c, CI s d c → SelSet d id1 sels1 → Adm s d id1 p1 → SelSet d id2 sels2 →
    Adm s d id2 p2 →
    (betweenSubselectionsM s fx fuel me p1 id1 sels1 p2 id2 sels2 c).2.crash = none →
    GPM s d c (betweenSubselectionsM s fx fuel me p1 id1 sels1 p2 id2 sels2 c) (fun M => SetsResM s d M me id1 p1 sels1 id2 p2 sels2)

def EFfM (fuel : Nat) : Prop :=
  ∀ me ssid fm name c, CI s d c → EntOK (fun _ e => Ent s d e) fm →
    (∀ sels p rn e, SelSet d ssid sels → Adm s d ssid p → CollD s p sels rn e → e ∈ AL.getD fm rn []) →
    CmpOK d c ssid me →
    (betweenFieldsAndFragmentM s fx fuel me ssid fm name c).2.crash = none →
    name ∈ (betweenFieldsAndFragmentM s fx fuel me ssid fm name c).2.cmp ∧
    GPM s d c (betweenFieldsAndFragmentM s fx fuel me ssid fm name c)
      (fun M => ∀ CF : List String, (∀ n ∈ (betweenFieldsAndFragmentM s fx fuel me ssid fm name c).2.cmp, n ∈ CF) →
        ∀ n ∈ (betweenFieldsAndFragmentM s fx fuel me ssid fm name c).2.cmp, n ∈ c.cmp ∨ FCov d M me ssid n)

theorem postM_all (h7 : fx.v7 = true) (hpa : ParentsAgree s d) (hw : WfIds d) : ∀ fuel,
    EFindM s fx d fuel ∧ ECbM s fx d fuel ∧ EFrM s fx d fuel ∧ ESsM s fx d fuel ∧ EFfM s fx d fuel := by
  intro fuel
  obtain ⟨e1, e2, e3, e4, e5⟩ := searchG_memo s fx fuel
  obtain ⟨h1, h2, h3, h4, h5⟩ := postM_names s fx d h7 hpa hw fuel
  unfold EFindM ECbM EFrM ESsM EFfM
  rw [e1, e2, e3, e4, e5]
  exact ⟨fun pme f1 f2 c hc a b hcr => (h1 pme f1 f2 c hc a b hcr).gpM,
    fun me fm1 fm2 c hc a b hcr => (h2 me fm1 fm2 c hc a b hcr).gpM,
    fun me of1 of2 c hc hcr => GPk.gpM (efr_of_names s fx d true _ _ Sum.inl h3 me of1 of2 c hc hcr),
    fun me p1 id1 sels1 p2 id2 sels2 c hc a b a' b' hcr => (h4 me p1 id1 sels1 p2 id2 sels2 c hc a b a' b' hcr).gpM,
    fun me ssid fm name c hc a b ok hcr => ⟨(h5 me ssid fm name c hc a b ok hcr).1, (h5 me ssid fm name c hc a b ok hcr).2.gpM⟩⟩

end
end PyGql.Validate
