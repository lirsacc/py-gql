/-
  A FloatValue lexeme (specification recogniser `Spec.Lexical.isFloatValue`) followed by a delimiter is read by
  `_read_number` as one Float token whose value is the lexeme: `FloatLexeme` of `Lemmas/PrintLex.lean` holds.
-/
import PyGqlModel.Lemmas.PrintLex
namespace PyGql.PrintLex
open PyGql PyGql.Lex PyGql.Spec PyGql.PrintString

theorem floatLexeme_of_isFloatValue (w : Text) (h : Spec.Lexical.isFloatValue w = true) : FloatLexeme w := by
  refine ⟨?_, fun n r hr => next_float_shape n w r (floatShape_of_isFloatValue w h) (follow_of_safe hr .float w)⟩
  intro e; subst e
  simp [Spec.Lexical.isFloatValue, Spec.Lexical.isIntegerPart, Spec.Lexical.stripNegativeSign] at h

end PyGql.PrintLex
