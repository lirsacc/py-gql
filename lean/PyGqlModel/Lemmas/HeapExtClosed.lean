/-
  C14 — closedness of `extend_schema`'s result: every type object it registers (rebuilt source types, types the document
  defines), all directives, and the assembly: every registry entry of the result has the closed shape.
-/
import PyGqlModel.Lemmas.HeapExtClosedParts

set_option linter.unusedSimpArgs false

namespace PyGql.Heap.Own
open PyGql.Heap

/-- the rebuilt object of a source type has the type shape: interfaces / union members / all members (rebuilt and added) are the
    registered objects; and it carries its name -/
theorem extend_src_type_shape (cfg : Cfg) (hk : cfg.extKeepAll = true) (hin : cfg.extInputFieldExtended = true) (ext : Ext) (s : Schema) (h : Heap)
    (w : WFs (refOK s.types) h s) (hnew : ∀ e, e ∈ ext.newTypes → e.1 ∉ s.types.map (·.1))
    (n : String) (a : Addr) (t : TypeO) (hm : (n, a) ∈ s.types) (hp : isProtected n = false) (ht : h.readType a = some t)
    (hf : FieldsOK (extend cfg ext s h).2.types (assocD ext.fields t.name))
    (hi : ArgsOK (extend cfg ext s h).2.types (assocD ext.inputFields t.name))
    (hmem : ∀ m, m ∈ assocD ext.members t.name → (lookup (extend cfg ext s h).2.types m).isSome = true) :
    ∃ a', lookup (extend cfg ext s h).2.types n = some a' ∧
      typeShape (refOK (extend cfg ext s h).2.types) (extend cfg ext s h).1 a' = true ∧ nameOK (extend cfg ext s h).1 (n, a') = true := by
  have hreg : ∀ r, refOK s.types r = true → (lookup (extend cfg ext s h).2.types r.name).isSome = true := fun r hr =>
    extend_registers_source_names cfg hk ext s h w.nodup r.name (name_of_lookup (refOK_lookup hr))
  rw [extend_types cfg ext s h hk] at hf hi hmem hreg ⊢
  obtain ⟨t0, ht0, hrefs, hsh⟩ := (typeShape_iff _ h a).mp (w.types (n, a) hm)
  rw [ht] at ht0; cases ht0
  have hname : t.name = n := by
    have := w.names (n, a) hm
    simpa [nameOK, ht] using this
  obtain ⟨na, hkk, hl, frk, hfinal, kf⟩ := extend_src_at cfg ext s h w.nodup hnew hm hp ht
  rw [show extNin cfg ext s h = extN ext s h from if_pos hin] at hfinal kf
  have hkids := extendKids_closed cfg ext (extN ext s h) h hkk t hreg frk hsh hf hi
  refine ⟨na, hl, (typeShape_iff _ _ na).mpr ⟨_, hfinal, ?_, ?_⟩, ?_⟩
  · -- the references the rebuilt type object holds itself
    simp only [typeRefs, rebuiltType, List.all_eq_true]
    cases hkind : t.kind <;> simp only [hkind] at hrefs ⊢
    · intro r hr
      simp only [typeRefs, hkind, List.all_eq_true] at hrefs
      exact refOK_repointRefs _ t.ifaces (fun r0 hr0 => hreg r0 (hrefs r0 hr0)) r hr
    · intro r hr; cases hr
    · intro r hr
      simp only [typeRefs, hkind, List.all_eq_true] at hrefs
      rcases List.mem_append.mp hr with hr | hr
      · exact refOK_repointRefs _ t.members (fun r0 hr0 => hreg r0 (hrefs r0 hr0)) r hr
      · obtain ⟨m, hm', rfl⟩ := List.mem_map.mp hr
        obtain ⟨x, hx⟩ := Option.isSome_iff_exists.mp (hmem m hm')
        simp [refOK, hx]
    · intro r hr; cases hr
    · intro r hr; cases hr
    · intro r hr; cases hr
  · exact KidsC.membersOK (lo := hkk.size) (t := rebuiltType cfg ext _ t _) (hkids.keep (kf))
  · simp only [nameOK, hfinal, rebuiltType, hname, beq_self_eq_true]

end PyGql.Heap.Own

namespace PyGql.Heap.Own
open PyGql.Heap

theorem extend_new_type_shape (cfg : Cfg) (hk : cfg.extKeepAll = true) (ext : Ext) (s : Schema) (h : Heap)
    (hnewnd : (ext.newTypes.map (·.1)).Nodup) (n : String) (fs : List ExtField) (hm : (n, fs) ∈ ext.newTypes)
    (hok : ∀ e, e ∈ ext.newTypes → FieldsOK (extend cfg ext s h).2.types e.2) :
    ∃ na, lookup (extP ext s h).2 n = some na ∧
      typeShape (refOK (extend cfg ext s h).2.types) (extend cfg ext s h).1 na = true ∧ nameOK (extend cfg ext s h).1 (n, na) = true := by
  obtain ⟨na, hna⟩ := allocPlaceholders_some (extNames ext s) h n
    (List.mem_append.mpr (Or.inr (List.mem_map.mpr ⟨(n, fs), hm, rfl⟩)))
  refine ⟨na, hna, ?_⟩
  rw [extend_types cfg ext s h hk] at hok ⊢
  obtain ⟨_, f1, _, f3, f4⟩ := ext_frames cfg ext s h
  obtain ⟨t', hr', hn', hk', hif', hkids⟩ := buildNewTypes_closed (extN ext s h) (extP ext s h).2 (extP ext s h).1.size
    (fun _ _ hx => (extP_bounds ext s h hx).2) (fun _ _ _ => extP_inj ext s h) ext.newTypes (extH1 cfg ext s h) f1.1 hnewnd hok n fs na hm hna
  -- the directives are built afterwards: allocations only
  have hfinal : (extend cfg ext s h).1.readType na = some t' :=
    (readType_frameX ((f3 fun _ => False).trans (f4 _)) (readType_lt' hr') id).trans hr'
  constructor
  · refine (typeShape_iff _ _ na).mpr ⟨t', hfinal, ?_, ?_⟩
    · simp [typeRefs, hk', hif']
    · exact KidsC.membersOK (lo := (extP ext s h).1.size) (by rw [hk']; exact hkids.keep (((f3 _).trans (f4 _))))
  · simp only [nameOK, hfinal, hn', beq_self_eq_true]

theorem extend_dirs_shape (cfg : Cfg) (hk : cfg.extKeepAll = true) (ext : Ext) (s : Schema) (h : Heap)
    (w : WFs (refOK s.types) h s) (hok : ∀ e, e ∈ ext.newDirs → ArgsOK (extend cfg ext s h).2.types e.2.1) :
    ∀ e', e' ∈ (extend cfg ext s h).2.dirs → dirShape (refOK (extend cfg ext s h).2.types) (extend cfg ext s h).1 e'.2 = true := by
  have hreg : ∀ r, refOK s.types r = true → (lookup (extend cfg ext s h).2.types r.name).isSome = true := fun r hr =>
    extend_registers_source_names cfg hk ext s h w.nodup r.name (name_of_lookup (refOK_lookup hr))
  rw [extend_types cfg ext s h hk] at hok hreg ⊢
  obtain ⟨f0, f1, f2, _, f4⟩ := ext_frames cfg ext s h
  -- the heap in which the directives are rebuilt: only placeholders (≥ h.size) were written so far
  have fr2 := (((f0 _).trans f1).trans f2).mono (W' := fun x => h.size ≤ x) fun _ hx => hx.1
  intro e' he'
  rcases List.mem_append.mp (extend_dirs cfg ext s h ▸ he') with he' | he'
  · exact extendDirs_closed cfg _ s.dirs h _ hreg fr2 w.dirs _ ((f4 _)) e' he'
  · exact buildNewDirs_closed cfg _ ext.newDirs _ hok e' he'

theorem extNames_nodup {s : Schema} {ext : Ext} (hnd : (s.types.map (·.1)).Nodup) (hnewnd : (ext.newTypes.map (·.1)).Nodup)
    (hnew : ∀ e, e ∈ ext.newTypes → e.1 ∉ s.types.map (·.1)) :
    (extNames ext s).Nodup := by
  refine List.nodup_append.mpr ⟨List.Nodup.sublist (List.Sublist.map _ List.filter_sublist) hnd, hnewnd, ?_⟩
  intro x hx y hy hxy
  subst hxy
  obtain ⟨e1, he1, rfl⟩ := List.mem_map.mp hx
  obtain ⟨e2, he2, hq⟩ := List.mem_map.mp hy
  exact hnew e2 he2 (by rw [hq]; exact List.mem_map.mpr ⟨e1, (List.mem_filter.mp he1).1, rfl⟩)

/-- the names the extension document uses, relative to a notion of "defined" -/
structure ExtUses (Reg : String → Prop) (ext : Ext) : Prop where
  fields : ∀ nm f, f ∈ assocD ext.fields nm → Reg (tnBase f.ty) ∧ ∀ g, g ∈ f.args → Reg (tnBase g.ty)
  inputs : ∀ nm g, g ∈ assocD ext.inputFields nm → Reg (tnBase g.ty)
  members : ∀ nm m, m ∈ assocD ext.members nm → Reg m
  newTypes : ∀ e f, e ∈ ext.newTypes → f ∈ e.2 → Reg (tnBase f.ty) ∧ ∀ g, g ∈ f.args → Reg (tnBase g.ty)
  newDirs : ∀ e g, e ∈ ext.newDirs → g ∈ e.2.1 → Reg (tnBase g.ty)

theorem extend_closed_all (cfg : Cfg) (hk : cfg.extKeepAll = true) (hin : cfg.extInputFieldExtended = true) (ext : Ext) (s : Schema) (h : Heap)
    (w : WFs (refOK s.types) h s) (hnewnd : (ext.newTypes.map (·.1)).Nodup) (hnew : ∀ e, e ∈ ext.newTypes → e.1 ∉ s.types.map (·.1))
    (hu : ExtUses (fun x => (lookup (extend cfg ext s h).2.types x).isSome = true) ext)
    (hframe : ∀ a, a < h.size → (extend cfg ext s h).1.read a = h.read a) :
    closedB (extend cfg ext s h).1 (extend cfg ext s h).2 = true := by
  have htypes := extend_types cfg ext s h hk
  have hroots : (extend cfg ext s h).2.query = reRoot (extend cfg ext s h).2.types s.query ∧
      (extend cfg ext s h).2.mutation = reRoot (extend cfg ext s h).2.types s.mutation ∧
      (extend cfg ext s h).2.subscription = reRoot (extend cfg ext s h).2.types s.subscription := by
    simp [extend, hk]
  have hT : ∀ e, e ∈ (extend cfg ext s h).2.types →
      typeShape (refOK (extend cfg ext s h).2.types) (extend cfg ext s h).1 e.2 = true ∧ nameOK (extend cfg ext s h).1 e = true := by
    intro e he
    rcases List.mem_append.mp (show e ∈ _ ++ _ from htypes ▸ he) with he | he
    · -- a specified scalar: the very object of the source
      obtain ⟨hes, hp⟩ := List.mem_filter.mp he
      have hn := w.names e hes
      obtain ⟨t, ht, _⟩ := nameOK_read hn
      have hrd : (extend cfg ext s h).1.readType e.2 = h.readType e.2 := by
        simp only [Heap.readType, hframe e.2 (readType_lt' ht)]
      have hpl : protLeaf (extend cfg ext s h).1 e = true := by
        have := w.prot e hes
        simp only [protLeaf, hrd] at this ⊢
        exact this
      refine ⟨typeShape_prot _ _ e hp hpl, ?_⟩
      simp only [nameOK, hrd] at hn ⊢
      exact hn
    · -- a placeholder: a source type or a type of the document
      have hnames : (extP ext s h).2.map (·.1) = extNames ext s := allocPlaceholders_names _ h
      have hlk := lookup_of_mem_nodup (hnames ▸ extNames_nodup w.nodup hnewnd hnew) he
      have hmem : e.1 ∈ extNames ext s := hnames ▸ List.mem_map.mpr ⟨e, he, rfl⟩
      rcases List.mem_append.mp (show e.1 ∈ _ ++ _ from hmem) with hsrc | hnw
      · obtain ⟨e0, he0, hq⟩ := List.mem_map.mp hsrc
        obtain ⟨he0s, hnp⟩ := List.mem_filter.mp he0
        have hnp' : isProtected e0.1 = false := by simpa using hnp
        have hn := w.names e0 he0s
        obtain ⟨t, ht, _⟩ := nameOK_read hn
        obtain ⟨a', l1, l2, l3⟩ := extend_src_type_shape cfg hk hin ext s h w hnew e0.1 e0.2 t he0s hnp' ht
          (fun f hf => hu.fields _ f hf) (fun g hg => hu.inputs _ g hg) (fun m hm => hu.members _ m hm)
        have : a' = e.2 := by
          rw [htypes, extN, lookup_prot_append hnp', hq, hlk] at l1
          exact (Option.some.inj l1).symm
        subst this
        rw [hq] at l3
        exact ⟨l2, l3⟩
      · obtain ⟨e0, he0, hq⟩ := List.mem_map.mp hnw
        obtain ⟨na, l1, l2, l3⟩ := extend_new_type_shape cfg hk ext s h hnewnd e0.1 e0.2 he0
          (fun e' he' f hf => hu.newTypes e' f he' hf)
        rw [hq, hlk] at l1
        have : na = e.2 := (Option.some.inj l1).symm
        subst this
        rw [hq] at l3
        exact ⟨l2, l3⟩
  have hD := extend_dirs_shape cfg hk ext s h w (fun e he g hg => hu.newDirs e g he hg)
  simp only [closedB, shapeB, Bool.and_eq_true, List.all_eq_true]
  refine ⟨⟨⟨⟨⟨fun e he => (hT e he).1, hD⟩, ?_⟩, ?_⟩, ?_⟩, fun e he => (hT e he).2⟩
  · rw [hroots.1]; exact rootOK_reRoot _ _
  · rw [hroots.2.1]; exact rootOK_reRoot _ _
  · rw [hroots.2.2]; exact rootOK_reRoot _ _

theorem extend_prot_nodup (cfg : Cfg) (hk : cfg.extKeepAll = true) (ext : Ext) (s : Schema) (h : Heap)
    (w : WFs (refOK s.types) h s) (hnewnd : (ext.newTypes.map (·.1)).Nodup) (hnew : ∀ e, e ∈ ext.newTypes → e.1 ∉ s.types.map (·.1))
    (hnp : ∀ e, e ∈ ext.newTypes → isProtected e.1 = false)
    (hframe : ∀ a, a < h.size → (extend cfg ext s h).1.read a = h.read a) :
    (∀ e, e ∈ (extend cfg ext s h).2.types → protLeaf (extend cfg ext s h).1 e = true) ∧
    ((extend cfg ext s h).2.types.map (·.1)).Nodup := by
  have htypes := extend_types cfg ext s h hk
  have hnames : (extP ext s h).2.map (·.1) = extNames ext s := allocPlaceholders_names _ h
  have hprotnd : ((s.types.filter fun e => isProtected e.1).map (·.1)).Nodup :=
    List.Nodup.sublist (List.Sublist.map _ List.filter_sublist) w.nodup
  have hnsnd := extNames_nodup w.nodup hnewnd hnew
  have hnsnp : ∀ x, x ∈ extNames ext s → isProtected x = false := by
    intro x hx
    rcases List.mem_append.mp (show x ∈ _ ++ _ from hx) with hx | hx
    · obtain ⟨e1, he1, rfl⟩ := List.mem_map.mp hx
      simpa using (List.mem_filter.mp he1).2
    · obtain ⟨e2, he2, rfl⟩ := List.mem_map.mp hx
      exact hnp e2 he2
  constructor
  · intro e he
    rcases List.mem_append.mp (show e ∈ _ ++ _ from htypes ▸ he) with he | he
    · obtain ⟨hes, hp⟩ := List.mem_filter.mp he
      have hn := w.names e hes
      obtain ⟨t, ht, _⟩ := nameOK_read hn
      have hrd : (extend cfg ext s h).1.readType e.2 = h.readType e.2 := by
        simp only [Heap.readType, hframe e.2 (readType_lt' ht)]
      have := w.prot e hes
      simp only [protLeaf, hrd] at this ⊢
      exact this
    · have : isProtected e.1 = false := hnsnp e.1 (hnames ▸ List.mem_map.mpr ⟨e, he, rfl⟩)
      simp [protLeaf, this]
  · rw [htypes, extN, List.map_append, hnames]
    refine List.nodup_append.mpr ⟨hprotnd, hnsnd, ?_⟩
    intro x hx y hy hxy
    subst hxy
    obtain ⟨e1, he1, rfl⟩ := List.mem_map.mp hx
    have h1 := (List.mem_filter.mp he1).2
    rw [hnsnp e1.1 hy] at h1
    cases h1

end PyGql.Heap.Own
