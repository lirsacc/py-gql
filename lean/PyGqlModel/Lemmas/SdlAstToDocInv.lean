/-
  C12 — `astToDoc ρ` is a left inverse of `docToAst` up to the normaliser `reDoc ρ` (used by `Props/C12_preimage.lean`).
-/
import PyGqlModel.SdlAstToDoc
import PyGqlModel.Lemmas.SdlLitInduction
namespace PyGql.SdlText
open PyGql PyGql.Ast PyGql.Sdl

theorem unT_T (s : String) : unT (T s) = s := by
  simp [unT, T, SdlPrintT.T, textOfString, List.map_map, Function.comp_def]

@[simp] theorem unName_nameOf (s : String) : unName (nameOf s) = s := unT_T s
@[simp] theorem unNamed_namedOf (s : String) : unNamed (namedOf s) = s := unT_T s
@[simp] theorem unType_typeOf : ∀ t : Ty, unType (typeOf t) = t
  | .named n => by simp [typeOf, unType]
  | .list t => by simp [typeOf, unType, unType_typeOf t]
  | .nonNull t => by simp [typeOf, unType, unType_typeOf t]

theorem litOfValueOf_all (ρ : String → String) :
    (∀ l : Lit, litOfValue ρ (valueOf l) = reLit ρ l) ∧ (∀ l : List Lit, litsOfValues ρ (valuesOf l) = reLits ρ l) ∧
    ∀ l : List (String × Lit), litFieldsOf ρ (fieldsOf l) = reLitFields ρ l := by
  refine lit_induction ?_ rfl ?_ rfl ?_
  · intro l hl hf
    cases l with
    | null => rfl
    | bool b => rfl
    | list x => simp [valueOf, litOfValue, reLit, hl x rfl]
    | obj x => simp [valueOf, litOfValue, reLit, hf x rfl]
    | _ => simp [valueOf, litOfValue, reLit, unT_T]
  · intro v vs hv hvs
    simp [valuesOf, litsOfValues, reLits, hv, hvs]
  · intro k v fs hv hfs
    simp [fieldsOf, litFieldsOf, litFieldOf, reLitFields, hv, hfs, unT_T, unName, nameOf]

theorem litOfValue_valueOf (ρ : String → String) : ∀ l : Lit, litOfValue ρ (valueOf l) = reLit ρ l := (litOfValueOf_all ρ).1
theorem litsOfValues_valuesOf (ρ : String → String) : ∀ l : List Lit, litsOfValues ρ (valuesOf l) = reLits ρ l :=
  (litOfValueOf_all ρ).2.1
theorem litFieldsOf_fieldsOf (ρ : String → String) : ∀ l : List (String × Lit), litFieldsOf ρ (fieldsOf l) = reLitFields ρ l :=
  (litOfValueOf_all ρ).2.2
theorem descOfAst_descOf (d : Option String) : descOfAst (descOf d) = d := by
  cases d <;> simp [descOf, descOfAst, unT_T]

theorem argOfAst_argOf (ρ : String → String) (a : String × Lit) : argOfAst ρ (argOf a) = reArg ρ a := by
  simp [argOfAst, argOf, reArg, litOfValue_valueOf]

theorem dirOfAst_dirOf (ρ : String → String) (d : DirApp) : dirOfAst ρ (dirOf d) = reDir ρ d := by
  simp [dirOfAst, dirOf, reDir, List.map_map, Function.comp_def, argOfAst_argOf]

theorem dirs_inv (ρ : String → String) (ds : List DirApp) : (ds.map dirOf).map (dirOfAst ρ) = ds.map (reDir ρ) := by
  simp [List.map_map, Function.comp_def, dirOfAst_dirOf]

theorem inputValOfAst_inputValOf (ρ : String → String) (a : InputValDef) : inputValOfAst ρ (inputValOf a) = reInputVal ρ a := by
  cases hd : a.default <;> simp [inputValOfAst, inputValOf, reInputVal, descOfAst_descOf, dirOfAst_dirOf, hd, litOfValue_valueOf]

theorem inputVals_inv (ρ : String → String) (l : List InputValDef) : (l.map inputValOf).map (inputValOfAst ρ) = l.map (reInputVal ρ) := by
  simp [List.map_map, Function.comp_def, inputValOfAst_inputValOf]

theorem fieldOfAst_fieldOf (ρ : String → String) (f : FieldDef) : fieldOfAst ρ (fieldOf f) = reField ρ f := by
  simp [fieldOfAst, fieldOf, reField, descOfAst_descOf, dirOfAst_dirOf, inputValOfAst_inputValOf]

theorem fields_inv (ρ : String → String) (l : List FieldDef) : (l.map fieldOf).map (fieldOfAst ρ) = l.map (reField ρ) := by
  simp [List.map_map, Function.comp_def, fieldOfAst_fieldOf]

theorem enumValOfAst_enumValOf (ρ : String → String) (v : EnumValDef) : enumValOfAst ρ (enumValOf v) = reEnumVal ρ v := by
  simp [enumValOfAst, enumValOf, reEnumVal, descOfAst_descOf, dirOfAst_dirOf]

theorem enumVals_inv (ρ : String → String) (l : List EnumValDef) : (l.map enumValOf).map (enumValOfAst ρ) = l.map (reEnumVal ρ) := by
  simp [List.map_map, Function.comp_def, enumValOfAst_enumValOf]

theorem names_inv (l : List String) : (l.map namedOf).map unNamed = l := by
  simp [List.map_map, Function.comp_def]

theorem locs_inv (l : List String) : (l.map nameOf).map unName = l := by
  simp [List.map_map, Function.comp_def]

theorem ops_inv (l : List (String × String)) : (l.map opTypeOf).map opTypeOfAst = l := by
  simp [List.map_map, Function.comp_def, opTypeOf, opTypeOfAst, unT_T]

theorem defOfAst_typeDefOf (ρ : String → String) (t : TypeDef) : defOfAst ρ (typeDefOf t) = .type (reType ρ false t) := by
  cases hk : t.kind <;>
    simp [typeDefOf, defOfAst, reType, hk, descOfAst_descOf, dirOfAst_dirOf, fieldOfAst_fieldOf, enumValOfAst_enumValOf, inputValOfAst_inputValOf, Function.comp_def]

theorem defOfAst_typeExtOf (ρ : String → String) (t : TypeDef) : defOfAst ρ (typeExtOf t) = .ext (reType ρ true t) := by
  cases hk : t.kind <;>
    simp [typeExtOf, defOfAst, reType, hk, dirOfAst_dirOf, fieldOfAst_fieldOf, enumValOfAst_enumValOf, inputValOfAst_inputValOf, Function.comp_def]

theorem defOfAst_defOf (ρ : String → String) (x : Def) (y : Definition) (h : defOf x = some y) : defOfAst ρ y = reDef ρ x := by
  cases x with
  | type t => simp only [defOf, Option.some.injEq] at h; subst h; exact defOfAst_typeDefOf ρ t
  | ext t => simp only [defOf, Option.some.injEq] at h; subst h; exact defOfAst_typeExtOf ρ t
  | directive d => simp only [defOf, Option.some.injEq] at h; subst h; simp [defOfAst, reDef, descOfAst_descOf, inputValOfAst_inputValOf, Function.comp_def]
  | schema s => simp only [defOf, Option.some.injEq] at h; subst h; simp [defOfAst, reDef, dirOfAst_dirOf, Function.comp_def, opTypeOf, opTypeOfAst, unT_T]
  | schemaExt s => simp only [defOf, Option.some.injEq] at h; subst h; simp [defOfAst, reDef, dirOfAst_dirOf, Function.comp_def, opTypeOf, opTypeOfAst, unT_T]
  | other => simp [defOf] at h

theorem mapM_defOf_inv (ρ : String → String) : ∀ (doc : Doc) (ds : List Definition), doc.mapM defOf = some ds →
    ds.map (defOfAst ρ) = doc.map (reDef ρ)
  | [], ds, h => by simp at h; subst h; rfl
  | x :: xs, ds, h => by
    rw [List.mapM_cons] at h
    cases hx : defOf x with
    | none => simp [hx] at h
    | some y =>
      cases hxs : xs.mapM defOf with
      | none => simp [hx, hxs] at h
      | some ys =>
        simp [hx, hxs] at h
        subst h
        simp [defOfAst_defOf ρ x y hx, mapM_defOf_inv ρ xs ys hxs]

theorem astToDoc_docToAst (ρ : String → String) (doc : Doc) (d : Document) (h : docToAst doc = some d) :
    astToDoc ρ d = reDoc ρ doc := by
  simp only [docToAst, Option.map_eq_some_iff] at h
  obtain ⟨ds, hds, rfl⟩ := h
  exact mapM_defOf_inv ρ doc ds hds

theorem reLit_of_canonB_all (ρ : String → String) :
    (∀ l : Lit, litCanonB ρ l = true → reLit ρ l = l) ∧ (∀ l : List Lit, litsCanonB ρ l = true → reLits ρ l = l) ∧
    ∀ l : List (String × Lit), litFieldsCanonB ρ l = true → reLitFields ρ l = l := by
  refine lit_induction ?_ (fun _ => rfl) ?_ (fun _ => rfl) ?_
  · intro l hl hf h
    cases l with
    | int v f => simp only [litCanonB, beq_iff_eq] at h; simp [reLit, h]
    | float v f => simp only [litCanonB, beq_iff_eq] at h; simp [reLit, h]
    | list x => simp only [litCanonB] at h; simp [reLit, hl x rfl h]
    | obj x => simp only [litCanonB] at h; simp [reLit, hf x rfl h]
    | _ => rfl
  · intro v vs hv hvs h
    simp only [litsCanonB, Bool.and_eq_true] at h
    simp [reLits, hv h.1, hvs h.2]
  · intro k v fs hv hfs h
    simp only [litFieldsCanonB, Bool.and_eq_true] at h
    simp [reLitFields, hv h.1, hfs h.2]

theorem reLit_of_canonB (ρ : String → String) : ∀ l : Lit, litCanonB ρ l = true → reLit ρ l = l := (reLit_of_canonB_all ρ).1
theorem reLits_of_canonB (ρ : String → String) : ∀ l : List Lit, litsCanonB ρ l = true → reLits ρ l = l :=
  (reLit_of_canonB_all ρ).2.1
theorem reLitFields_of_canonB (ρ : String → String) : ∀ l : List (String × Lit), litFieldsCanonB ρ l = true → reLitFields ρ l = l :=
  (reLit_of_canonB_all ρ).2.2

end PyGql.SdlText
