/-
  C14 — the clone of a closed, well-formed schema: shapes of the copies, the clone's registry, and
  `clone_closed_wfs`, which gives `CloneClosedWF` (Props/C14_closed.lean).
-/
import PyGqlModel.Lemmas.HeapHealExact

namespace PyGql.Heap.Own
open PyGql.Heap

theorem stepImp_of_pres {h h' : Heap} (p : Pres h.size h h') (chk : Ref → Bool) : StepImp chk h h' :=
  p.frameX.stepImp (fun _ ha => ha) chk

theorem copyArgs_step (chk : Ref → Bool) (h : Heap) (as : List Addr) : StepImp chk h (copyArgs h as).1 :=
  stepImp_of_pres (copyArgs_ok h.size as h (inv_self h)).1 chk
theorem copyFields_step (chk : Ref → Bool) (h : Heap) (as : List Addr) : StepImp chk h (copyFields h as).1 :=
  stepImp_of_pres (copyFields_ok h.size as h (inv_self h)).1 chk
theorem cloneType_step (cfg : Cfg) (hd : cfg.deepClone = true) (chk : Ref → Bool) (h : Heap) (t : TypeO) : StepImp chk h (cloneType cfg h t).1 :=
  stepImp_of_pres (cloneType_ok h.size cfg hd h t (inv_self h)).1 chk
theorem cloneTypes_step (cfg : Cfg) (hd : cfg.deepClone = true) (chk : Ref → Bool) (h : Heap) (l : List (String × Addr)) :
    StepImp chk h (cloneTypes cfg h l).1 := stepImp_of_pres (cloneTypes_ok h.size cfg hd l h (inv_self h)).1 chk
theorem cloneDirs_step (cfg : Cfg) (hd : cfg.deepClone = true) (chk : Ref → Bool) (h : Heap) (l : List (String × Addr)) :
    StepImp chk h (cloneDirs cfg h l).1 := stepImp_of_pres (cloneDirs_ok h.size cfg hd l h (inv_self h)).1 chk

theorem copyArgs_est (chk : Ref → Bool) (as : List Addr) (h : Heap) (hin : ∀ c, c ∈ as → argShape chk h c = true) :
    ∀ c, c ∈ (copyArgs h as).2 → argShape chk (copyArgs h as).1 c = true := by
  obtain ⟨_, os, f, e⟩ := copyArgs_loop.out (StepImp.refl chk) StepImp.trans (fun h a => copyArgs_step chk h [a]) as h
  intro c hc
  obtain ⟨a, ha, s1, r1, e1, r2⟩ := mem_of_run f c (e ▸ hc)
  obtain ⟨g, hg, hchk⟩ := (argShape_iff chk s1 a).mp (argShape_keep r1 a (hin a ha))
  simp only [copyArgs_one, hg] at e1 r2
  cases e1
  exact argShape_keep r2 _ ((argShape_iff chk _ _).mpr ⟨g, readArg_alloc_new s1 g, hchk⟩)

theorem copyFields_est (chk : Ref → Bool) (as : List Addr) (h : Heap) (hin : ∀ c, c ∈ as → fieldShape chk h c = true) :
    ∀ c, c ∈ (copyFields h as).2 → fieldShape chk (copyFields h as).1 c = true := by
  obtain ⟨_, os, f, e⟩ := copyFields_loop.out (StepImp.refl chk) StepImp.trans (fun h a => copyFields_step chk h [a]) as h
  intro c hc
  obtain ⟨a, ha, s1, r1, e1, r2⟩ := mem_of_run f c (e ▸ hc)
  obtain ⟨f0, hf, hty, hargs⟩ := (fieldShape_iff chk s1 a).mp (fieldShape_keep r1 a (hin a ha))
  simp only [copyFields_one, hf] at e1 r2
  cases e1
  exact fieldShape_keep r2 _ ((fieldShape_iff chk _ _).mpr ⟨_, readField_alloc_new _ _, hty,
    fun x hx => argShape_keep (step_alloc chk _ _) x (copyArgs_est chk f0.args s1 hargs x hx)⟩)

theorem cloneType_est (cfg : Cfg) (hd : cfg.deepClone = true) (chk : Ref → Bool) (h : Heap) (a : Addr) (t : TypeO) (ht : h.readType a = some t)
    (hs : typeShape chk h a = true) :
    typeShape chk (cloneType cfg h t).1 (cloneType cfg h t).2 = true ∧
    ∃ t', (cloneType cfg h t).1.readType (cloneType cfg h t).2 = some t' ∧ t'.name = t.name := by
  rw [typeShape_eq chk h a t ht, Bool.and_eq_true, typeMembersOK_iff] at hs
  obtain ⟨hrefs, hin, hfs⟩ := hs
  -- the copy is `t` with copied members, whatever the kind
  have copy : ∀ fs (h1 : Heap), (t.kind = Kind.input → ∀ c, c ∈ fs → argShape chk h1 c = true) →
      (t.kind = Kind.object ∨ t.kind = Kind.interface → ∀ c, c ∈ fs → fieldShape chk h1 c = true) →
      typeShape chk (h1.alloc (.type { t with fields := fs })).1 (h1.alloc (.type { t with fields := fs })).2 = true ∧
      ∃ t', (h1.alloc (.type { t with fields := fs })).1.readType (h1.alloc (.type { t with fields := fs })).2 = some t' ∧ t'.name = t.name :=
    fun fs h1 ha hf => ⟨(typeShape_iff _ _ _).mpr ⟨_, readType_alloc_new _ _, by rw [typeRefs_fields]; exact hrefs,
      (typeMembersOK_iff _ _ _).mpr ⟨fun k c hc => argShape_keep (step_alloc chk _ _) c (ha k c hc),
        fun k c hc => fieldShape_keep (step_alloc chk _ _) c (hf k c hc)⟩⟩, _, readType_alloc_new _ _, rfl⟩
  simp only [cloneType, hd, if_true]
  split
  · rename_i hk
    exact copy _ _ (fun k => copyArgs_est chk t.fields h (hin k)) (fun k => by simp [hk] at k)
  · rename_i hk
    exact copy _ _ (fun k => absurd k (by simpa using hk)) (fun k => copyFields_est chk t.fields h (hfs k))

theorem cloneDir_est (cfg : Cfg) (hd : cfg.deepClone = true) (chk : Ref → Bool) (h : Heap) (a : Addr) (d : DirO) (hr : h.readDir a = some d)
    (hs : dirShape chk h a = true) : dirShape chk (cloneDir cfg h d).1 (cloneDir cfg h d).2 = true := by
  simp only [dirShape, hr, List.all_eq_true] at hs
  simp only [cloneDir, hd, if_true, dirShape, readDir_alloc_new, List.all_eq_true]
  exact fun c hc => argShape_keep (step_alloc chk _ _) c (copyArgs_est chk d.args h hs c hc)

/-- The copying loop of `clone()`, for any relation `R` between heaps that `_clone_type` respects when started on an entry
    satisfying `Pre` (a property `R` keeps): every reported entry is the copy, made in some intermediate heap `h1`, of a readable
    non-protected registered type, under its name. -/
theorem cloneTypes_out (cfg : Cfg) {R : Heap → Heap → Prop} {Pre : Heap → String × Addr → Prop}
    (refl : ∀ h, R h h) (trans : ∀ h1 h2 h3, R h1 h2 → R h2 h3 → R h1 h3) (keep : ∀ h h' e, R h h' → Pre h e → Pre h' e)
    (step : ∀ h e t, Pre h e → h.readType e.2 = some t → R h (cloneType cfg h t).1) :
    ∀ (l : List (String × Addr)) (h : Heap), (∀ e, e ∈ l → isProtected e.1 = false → Pre h e) →
      R h (cloneTypes cfg h l).1 ∧
      ∀ x, x ∈ (cloneTypes cfg h l).2 → ∃ e h1 t, e ∈ l ∧ isProtected e.1 = false ∧ Pre h1 e ∧ R h h1 ∧ h1.readType e.2 = some t ∧
        R (cloneType cfg h1 t).1 (cloneTypes cfg h l).1 ∧ x = (e.1, some (cloneType cfg h1 t).2) := by
  intro l h hin
  obtain ⟨r, os, f, e⟩ := (cloneTypes_loop cfg).run (R := R) (Pre := fun h e => isProtected e.1 = false → Pre h e)
    refl (trans _ _ _) (fun r p q => keep _ _ _ r (p q))
    (fun h e p => by
      rw [cloneTypes_one]
      split
      · exact refl h
      · split
        · exact step h e _ (p ((Bool.not_eq_true _).mp ‹_›)) ‹_›
        · exact refl h) l h hin
  refine ⟨r, fun x hx => ?_⟩
  obtain ⟨e0, he0, h1, r1, e1, r2⟩ := mem_of_run f x (e ▸ hx)
  rw [cloneTypes_one] at e1 r2
  split at e1
  · cases e1
  · have hq : isProtected e0.1 = false := (Bool.not_eq_true _).mp ‹_›
    rw [if_neg ‹_›] at r2
    split at e1
    · rename_i t ht
      simp only [ht] at r2
      cases e1
      exact ⟨e0, h1, t, he0, hq, keep _ _ _ r1 (hin e0 he0 hq), r1, ht, r2, rfl⟩
    · cases e1

theorem cloneTypes_reported (cfg : Cfg) (l : List (String × Addr)) (h : Heap) :
    ∀ x, x ∈ (cloneTypes cfg h l).2 → isProtected x.1 = false ∧ x.2 ≠ none := by
  intro x hx
  obtain ⟨e, h1, t, _, hq, _, _, _, _, rfl⟩ := (cloneTypes_out cfg (R := fun _ _ => True) (Pre := fun _ _ => True) (fun _ => trivial)
    (fun _ _ _ _ _ => trivial) (fun _ _ _ _ _ => trivial) (fun _ _ _ _ _ => trivial) l h (fun _ _ _ => trivial)).2 x hx
  exact ⟨hq, by simp⟩

theorem cloneTypes_est (cfg : Cfg) (hd : cfg.deepClone = true) (chk : Ref → Bool) (l : List (String × Addr)) (h : Heap)
    (hin : ∀ e, e ∈ l → isProtected e.1 = false → typeShape chk h e.2 = true ∧ nameOK h e = true) :
    ∀ x, x ∈ (cloneTypes cfg h l).2 → (∃ e, e ∈ l ∧ e.1 = x.1 ∧ isProtected e.1 = false) ∧
      ∀ a', x.2 = some a' → typeShape chk (cloneTypes cfg h l).1 a' = true ∧ nameOK (cloneTypes cfg h l).1 (x.1, a') = true := by
  intro x hx
  obtain ⟨e, h1, t, he, hq, p1, _, ht, r2, rfl⟩ := (cloneTypes_out cfg (R := StepImp chk)
    (Pre := fun h e => typeShape chk h e.2 = true ∧ nameOK h e = true) (StepImp.refl chk) (fun _ _ _ => StepImp.trans)
    (fun _ _ e r p => ⟨typeShape_keep r e.2 p.1, nameOK_keep r e p.2⟩) (fun h _ t _ _ => cloneType_step cfg hd chk h t) l h hin).2 x hx
  refine ⟨⟨e, he, rfl, hq⟩, fun a' ea => ?_⟩
  cases ea
  obtain ⟨hcs, t', ht', hn'⟩ := cloneType_est cfg hd chk h1 e.2 t ht p1.1
  obtain ⟨t0, ht0, hnm0⟩ := (nameOK_iff h1 e).mp p1.2
  rw [ht] at ht0
  cases ht0
  exact ⟨typeShape_keep r2 _ hcs, nameOK_keep r2 _ ((nameOK_iff _ _).mpr ⟨t', ht', hn'.trans hnm0⟩)⟩

theorem cloneDirs_est (cfg : Cfg) (hd : cfg.deepClone = true) (chk : Ref → Bool) (l : List (String × Addr)) (h : Heap)
    (hin : ∀ e, e ∈ l → dirShape chk h e.2 = true) :
    ∀ x, x ∈ (cloneDirs cfg h l).2 → ∀ a', x.2 = some a' → dirShape chk (cloneDirs cfg h l).1 a' = true := by
  obtain ⟨_, os, f, e⟩ := (cloneDirs_loop cfg).out (StepImp.refl chk) StepImp.trans (fun h e => cloneDirs_step cfg hd chk h [e]) l h
  intro x hx a' ea
  obtain ⟨e0, he0, s1, r1, e1, r2⟩ := mem_of_run f x (e ▸ hx)
  have hs := dirShape_keep r1 e0.2 (hin e0 he0)
  obtain ⟨d, hr, _⟩ := (dirShape_iff chk s1 e0.2).mp hs
  simp only [cloneDirs_one, hr] at e1 r2
  cases e1
  cases ea
  exact dirShape_keep r2 _ (cloneDir_est cfg hd chk s1 e0.2 d hr hs)

theorem nodup_append_new {reg : List (String × Addr)} (hn : (regNames reg).Nodup) {e : String × Addr} (hl : ¬ (lookup reg e.1).isSome = true) :
    (regNames (reg ++ [e])).Nodup := by
  simp only [regNames, List.map_append, List.map_cons, List.map_nil]
  rw [List.nodup_append]
  refine ⟨hn, by simp, fun x hx y hy hxy => ?_⟩
  simp only [List.mem_singleton] at hy
  exact hl (lookup_isSome_of_name (hy ▸ hxy ▸ hx))

theorem buildTypeMap_nodup (h : Heap) (fuel : Nat) (roots : List Addr) : (regNames (buildTypeMap h fuel roots)).Nodup := by
  simp only [buildTypeMap]
  generalize reach h fuel [] roots = l
  suffices ∀ (acc : List (String × Addr)), (regNames acc).Nodup →
      (regNames (l.foldl (fun reg a => match h.readType a with
        | some t => if (lookup reg t.name).isSome then reg else reg ++ [(t.name, a)]
        | none => reg) acc)).Nodup from this [] (by simp [regNames])
  induction l with
  | nil => intro acc ha; exact ha
  | cons a l ih =>
    intro acc ha
    simp only [List.foldl_cons]
    apply ih
    split
    · split
      · exact ha
      · rename_i hl
        exact nodup_append_new ha hl
    · exact ha

theorem foldl_setdefault_nodup (l : List (String × Addr)) : ∀ (acc : List (String × Addr)), (regNames acc).Nodup →
    (regNames (l.foldl (fun reg e => if (lookup reg e.1).isSome then reg else reg ++ [e]) acc)).Nodup := by
  induction l with
  | nil => intro acc ha; exact ha
  | cons x l ih =>
    intro acc ha
    simp only [List.foldl_cons]
    apply ih
    split
    · exact ha
    · rename_i hl
      exact nodup_append_new ha hl

theorem cloneRegistry_nodup (cfg : Cfg) (s : Schema) (h : Heap) (hn : (regNames s.types).Nodup) : (regNames (cloneRegistry cfg s h)).Nodup := by
  have hbase : (regNames ((s.types.filter fun e => isProtected e.1) ++
      ((buildTypeMap h (reachFuel h (rootAddrs s)) (rootAddrs s)).filter fun e => !isProtected e.1))).Nodup := by
    simp only [regNames, List.map_append]
    rw [List.nodup_append]
    refine ⟨List.Nodup.sublist (List.Sublist.map _ List.filter_sublist) hn,
            List.Nodup.sublist (List.Sublist.map _ List.filter_sublist) (buildTypeMap_nodup h _ _), ?_⟩
    intro a ha b hb hab
    simp only [List.mem_map, List.mem_filter] at ha hb
    obtain ⟨e1, ⟨_, hp1⟩, rfl⟩ := ha
    obtain ⟨e2, ⟨_, hp2⟩, rfl⟩ := hb
    rw [hab] at hp1
    simp [hp1] at hp2
  simp only [cloneRegistry]
  split
  · exact foldl_setdefault_nodup s.types _ hbase
  · exact hbase

theorem cloneRegistry_sub (cfg : Cfg) (s : Schema) (h : Heap) (hcl : closedB h s = true) : ∀ e, e ∈ cloneRegistry cfg s h → e ∈ s.types := by
  have hc := closedB_reg hcl
  have hroots : ∀ a, a ∈ rootAddrs s → Good h s.types a := by
    intro a ha
    simp only [closedB, shapeB, Bool.and_eq_true] at hcl
    simp only [rootAddrs, List.mem_filterMap, List.mem_cons, List.not_mem_nil, or_false] at ha
    obtain ⟨r, hr, hra⟩ := ha
    cases r with
    | none => simp at hra
    | some r =>
      simp only [Option.map_some, Option.some.injEq] at hra
      subst hra
      rcases hr with hr | hr | hr
      · have := hcl.1.1.1.2; rw [← hr] at this; exact Or.inl (refOK_good hc this)
      · have := hcl.1.1.2; rw [← hr] at this; exact Or.inl (refOK_good hc this)
      · have := hcl.1.2; rw [← hr] at this; exact Or.inl (refOK_good hc this)
  have hbase : ∀ e, e ∈ (s.types.filter fun e => isProtected e.1) ++
      ((buildTypeMap h (reachFuel h (rootAddrs s)) (rootAddrs s)).filter fun e => !isProtected e.1) → e ∈ s.types := by
    intro e he
    simp only [List.mem_append, List.mem_filter] at he
    rcases he with ⟨h1, _⟩ | ⟨hb, _⟩
    · exact h1
    · exact (buildTypeMap_reg hc _ _ hroots e hb).1
  intro e he
  simp only [cloneRegistry] at he
  split at he
  · rcases foldl_setdefault_mem _ _ e he with h1 | h1
    · exact hbase e h1
    · exact h1
  · exact hbase e he

/-- fixed variant (`keepAllTypes`): the clone starts from ALL names of the source; both registries agree on every lookup that
    succeeds in the source -/
theorem cloneRegistry_lookup (cfg : Cfg) (hk : cfg.keepAllTypes = true) (s : Schema) (h : Heap) (hcl : closedB h s = true)
    (hn : (regNames s.types).Nodup) (n : String) (a : Addr) (hl : lookup s.types n = some a) : lookup (cloneRegistry cfg s h) n = some a := by
  have hmem := lookup_mem' hl
  have hname : n ∈ regNames (cloneRegistry cfg s h) := by
    simp only [cloneRegistry, hk, if_true]
    exact (foldl_setdefault_names s.types _).2 (n, a) hmem
  simp only [regNames, List.mem_map] at hname
  obtain ⟨e, he, rfl⟩ := hname
  have hes := cloneRegistry_sub cfg s h hcl e he
  have h1 := lookup_of_mem_nodup hn hes
  rw [hl] at h1
  have h2 := lookup_of_mem_nodup (cloneRegistry_nodup cfg s h hn) he
  rw [h2, h1]

theorem refOK_lookup {reg : List (String × Addr)} {r : Ref} (h : refOK reg r = true) : lookup reg r.name = some r.addr := by
  simpa [refOK] using h

/-- the state `clone()` hands to `fix_type_references` (registry entries replaced by the copies) is well-formed, and every
    reference in it still passes any check the source's references passed -/
theorem clone_start_wfs_gen (chk' : Ref → Bool) (cfg : Cfg) (hd : cfg.deepClone = true) (s : Schema) (h : Heap) (hcl : closedB h s = true) (w : WFs (refOK s.types) h s)
    (hm : ∀ r, refOK s.types r = true → chk' r = true) :
    WFs chk' (cloneDirs cfg (cloneTypes cfg h s.types).1 s.dirs).1
      (replaceCore cfg { types := cloneRegistry cfg s h, dirs := [], query := s.query, mutation := s.mutation, subscription := s.subscription, dres := none } (cloneTypes cfg h s.types).2 (cloneDirs cfg (cloneTypes cfg h s.types).1 s.dirs).2).1 := by
  obtain ⟨_, _, _, nt⟩ := cloneTypes_ok h.size cfg hd s.types h (inv_self h)
  have stT := fun chk => cloneTypes_step cfg hd chk h s.types
  have stD := fun chk => cloneDirs_step cfg hd chk (cloneTypes cfg h s.types).1 s.dirs
  have estT := cloneTypes_est cfg hd (refOK s.types) s.types h (fun e he _ => ⟨w.types e he, w.names e he⟩)
  have estD := cloneDirs_est cfg hd (refOK s.types) s.dirs (cloneTypes cfg h s.types).1
    (fun e he => dirShape_keep (stT _) e.2 (w.dirs e he))
  have hsub := cloneRegistry_sub cfg s h hcl
  refine wfs_replaceCore cfg chk' _ _ _ _ (cloneRegistry_nodup cfg s h w.nodup) ?_ ?_ ?_
    (fun x hx a' ea => dirShape_mono hm _ _ (estD x hx a' ea)) (fun e he => nomatch he)
  · intro x hx a' ea
    obtain ⟨⟨e0, _, h1x, hnp⟩, h2⟩ := estT x hx
    exact ⟨h1x ▸ hnp, typeShape_mono hm _ _ (typeShape_keep (stD _) a' (h2 a' ea).1), nameOK_keep (stD chk') _ (h2 a' ea).2⟩
  · exact fun e he => ⟨nameOK_keep ((stT chk').trans (stD chk')) e (w.names e (hsub e he)),
      protLeaf_keep ((stT chk').trans (stD chk')) e (w.prot e (hsub e he))⟩
  · -- every non-protected entry the clone starts with is readable in the source, so a copy is registered under its name
    intro e he hnp
    obtain ⟨t, ht, _⟩ := (typeShape_iff _ h e.2).mp (w.types e (hsub e he))
    exact Or.inr (nt e.1 e.2 (hsub e he) hnp (readType_lt' ht) (by simp [ht]))

theorem clone_start_wfs (cfg : Cfg) (hd : cfg.deepClone = true) (s : Schema) (h : Heap) (hcl : closedB h s = true) (w : WFs (refOK s.types) h s) :
    WFs (fun _ => true) (cloneDirs cfg (cloneTypes cfg h s.types).1 s.dirs).1
      (replaceCore cfg { types := cloneRegistry cfg s h, dirs := [], query := s.query, mutation := s.mutation, subscription := s.subscription, dres := none } (cloneTypes cfg h s.types).2 (cloneDirs cfg (cloneTypes cfg h s.types).1 s.dirs).2).1 :=
  clone_start_wfs_gen (fun _ => true) cfg hd s h hcl w (fun _ _ => rfl)

/-- `Schema.clone` (deep copy, all types kept, accumulated flag) of a closed well-formed schema is closed and well-formed -/
theorem clone_closed_wfs (cfg : Cfg) (hd : cfg.deepClone = true) (hk : cfg.keepAllTypes = true) (hacc : cfg.accumulateBusted = true)
    (fuel : Nat) (s : Schema) (h h' : Heap) (s' : Schema) (hcl : closedB h s = true) (w : WFs (refOK s.types) h s)
    (e : clone cfg fuel s h = some (h', s')) : closedB h' s' = true ∧ WFs (refOK s'.types) h' s' := by
  simp only [clone] at e
  split at e
  · cases e
  · rename_i h1 s1 hr
    cases e
    suffices hmain : closedB h' s1 = true ∧ WFs (refOK s1.types) h' s1 from
      ⟨hmain.1, ⟨hmain.2.types, hmain.2.dirs, hmain.2.names, hmain.2.prot, hmain.2.nodup⟩⟩
    simp only [replaceTD] at hr
    split at hr
    · -- types were replaced by their copies: `fix_type_references` runs on a well-formed schema
      exact healLoop_closed cfg hacc fuel _ _ _ _ (clone_start_wfs cfg hd s h hcl w) hr
    · -- nothing was replaced: there is no (non-protected) type to copy; the registry is the clone's initial one
      rename_i hb
      cases hr
      have hnil : (cloneTypes cfg h s.types).2 = [] := by
        apply not_busted_nil cfg hacc (cloneRegistry cfg s h) (cloneRegistry_nodup cfg s h w.nodup)
        · -- a copy is registered under a name the clone starts with, and is not the (older) object found there
          intro x hx
          obtain ⟨⟨e0, he0, h1x, _⟩, _⟩ := cloneTypes_est cfg hd (refOK s.types) s.types h (fun e he _ => ⟨w.types e he, w.names e he⟩) x hx
          have hname : x.1 ∈ regNames (cloneRegistry cfg s h) := by
            simp only [cloneRegistry, hk, if_true]
            exact h1x ▸ (foldl_setdefault_names s.types _).2 e0 he0
          obtain ⟨e1, he1, h1e⟩ := List.mem_map.mp hname
          refine ⟨e1, he1, h1e, fun heq => ?_⟩
          obtain ⟨t, ht, _⟩ := (typeShape_iff _ h e1.2).mp (w.types e1 (cloneRegistry_sub cfg s h hcl e1 he1))
          exact absurd (readType_lt' ht) (Nat.not_lt.mpr ((cloneTypes_ok h.size cfg hd s.types h (inv_self h)).2.1 x hx e1.2 heq))
        · simpa [replaceCore] using hb
      have w' := clone_start_wfs_gen (refOK (cloneRegistry cfg s h)) cfg hd s h hcl w (fun r hr' => by
        simp [refOK, cloneRegistry_lookup cfg hk s h hcl w.nodup r.name r.addr (refOK_lookup hr')])
      rw [hnil] at w' ⊢
      exact ⟨closedB_of_nil cfg _ _ _ w', w'⟩

end PyGql.Heap.Own
