/-
  C12 text level — the order of the lists of a schema: `sortBy` (insertion sort by name) is a permutation, sorts lists with
  pairwise distinct names strictly and fixes strictly sorted lists; looking a type up by name and therefore `valueLit` do
  not depend on the order of `s.types` when the names are pairwise distinct.
-/
import PyGqlModel.SdlPrint
import PyGqlModel.Lemmas.ListEqv
namespace PyGql.SdlText
open PyGql PyGql.Sdl PyGql.SdlPrint


theorem insertSorted_perm {α} (key : α → String) (x : α) : ∀ l : List α, (insertSorted key x l).Perm (x :: l)
  | [] => List.Perm.refl _
  | y :: ys => by
    unfold insertSorted
    split
    · exact List.Perm.refl _
    · exact ((insertSorted_perm key x ys).cons y).trans (List.Perm.swap x y ys)

theorem sortBy_perm {α} (key : α → String) : ∀ l : List α, (sortBy key l).Perm l
  | [] => List.Perm.refl _
  | x :: xs => by
    have : sortBy key (x :: xs) = insertSorted key x (sortBy key xs) := rfl
    rw [this]
    exact (insertSorted_perm key x _).trans ((sortBy_perm key xs).cons x)

abbrev Asc {α} (key : α → String) (l : List α) : Prop := l.Pairwise (fun a b => key a < key b)

theorem insertSorted_asc {α} (key : α → String) (x : α) : ∀ l : List α, Asc key l → (∀ y ∈ l, key x ≠ key y) →
    Asc key (insertSorted key x l)
  | [], _, _ => by simp [insertSorted, Asc]
  | y :: ys, h, hx => by
    have hy := List.pairwise_cons.1 h
    unfold insertSorted
    split
    · rename_i hlt
      refine List.pairwise_cons.2 ⟨?_, h⟩
      intro z hz
      rcases List.mem_cons.1 hz with rfl | hz
      · exact hlt
      · exact String.lt_trans hlt (hy.1 z hz)
    · rename_i hlt
      have hyx : key y < key x := by
        rcases Decidable.em (key y < key x) with h1 | h1
        · exact h1
        · exact absurd (String.le_antisymm (String.not_lt.1 h1) (String.not_lt.1 hlt)) (hx y (by simp))
      refine List.pairwise_cons.2 ⟨?_, insertSorted_asc key x ys hy.2 (fun z hz => hx z (by simp [hz]))⟩
      intro z hz
      rcases List.mem_cons.1 ((insertSorted_perm key x ys).mem_iff.1 hz) with rfl | hz
      · exact hyx
      · exact hy.1 z hz

theorem sortBy_asc {α} (key : α → String) : ∀ l : List α, (l.map key).Nodup → Asc key (sortBy key l)
  | [], _ => by simp [sortBy, Asc]
  | x :: xs, h => by
    have hn : key x ∉ xs.map key ∧ (xs.map key).Nodup := List.nodup_cons.1 h
    have : sortBy key (x :: xs) = insertSorted key x (sortBy key xs) := rfl
    rw [this]
    refine insertSorted_asc key x _ (sortBy_asc key xs hn.2) ?_
    intro y hy e
    exact hn.1 (List.mem_map.2 ⟨y, (sortBy_perm key xs).mem_iff.1 hy, e.symm⟩)

theorem sortBy_of_asc {α} (key : α → String) : ∀ l : List α, Asc key l → sortBy key l = l
  | [], _ => rfl
  | x :: xs, h => by
    have hx := List.pairwise_cons.1 h
    have : sortBy key (x :: xs) = insertSorted key x (sortBy key xs) := rfl
    rw [this, sortBy_of_asc key xs hx.2]
    cases xs with
    | nil => rfl
    | cons y ys => simp [insertSorted, hx.1 y (by simp)]

theorem sortBy_idem {α} (key : α → String) (l : List α) (h : (l.map key).Nodup) :
    sortBy key (sortBy key l) = sortBy key l := sortBy_of_asc key _ (sortBy_asc key l h)


theorem find?_perm {α} (key : α → String) (n : String) (l l' : List α) (hp : l'.Perm l) (h : (l.map key).Nodup) :
    l'.find? (fun x => key x == n) = l.find? (fun x => key x == n) :=
  (ListEqv.find_name_perm hp.symm (ListEqv.nodup_uniq h) n).symm


theorem valueLit_congr (s s' : SchemaD) (hf : ∀ n, s'.findType n = s.findType n) : ∀ fuel,
    (∀ v ty, valueLit s' fuel v ty = valueLit s fuel v ty) ∧
    (∀ items t, itemsLit s' fuel items t = itemsLit s fuel items t) ∧
    (∀ kvs fs, fieldsLit s' fuel kvs fs = fieldsLit s fuel kvs fs) := by
  intro fuel
  induction fuel with
  | zero =>
    refine ⟨fun v ty => by simp [valueLit], fun items t => by simp [itemsLit], fun kvs fs => by simp [fieldsLit]⟩
  | succ k ih =>
    obtain ⟨ih1, ih2, ih3⟩ := ih
    refine ⟨?_, ?_, ?_⟩
    · intro v ty
      cases ty with
      | nonNull t => simp only [valueLit, ih1]
      | list t => simp only [valueLit, ih1, ih2]
      | named n => simp only [valueLit, ih3, hf]
    · intro items t
      cases items with
      | nil => simp [itemsLit]
      | cons x xs => simp only [itemsLit, ih1, ih2]
    · intro kvs fs
      cases fs with
      | nil => simp [fieldsLit]
      | cons f fs => simp only [fieldsLit, ih1, ih3]

end PyGql.SdlText
