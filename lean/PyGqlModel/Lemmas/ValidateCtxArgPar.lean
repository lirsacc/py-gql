/-
  Structure of the context enumeration `gnDoc down x0 d` (Spec/CtxNodes.lean) around ARGUMENT nodes: every listed
  argument node is the child of a listed field node or of a listed directive node that gives it (`a ∈ args`), and
  its context is `down (.argument a)` of the context of that parent. An invariant `Inv` that every node OTHER than a
  directive node carries from parent to child holds at the parent when it is a field node (field nodes are never
  below a directive node).
  (Used by C20: KnownArgumentNames speaks at the field / directive node, the input type of an argument is computed
  at the argument node.)
-/
import PyGqlModel.Spec.CtxNodes
namespace PyGql.Validate.Spec
open PyGql PyGql.Validate

section
variable {X : Type} (down : Node → X → X) (Inv : X → Prop)

def ArgParent (q : Node × X) (a : Arg) : Prop :=
  (∃ name args dirs hs, q.1 = Node.field name args dirs hs ∧ a ∈ args ∧ Inv q.2) ∨
  (∃ dr x, q.1 = Node.directive dr ∧ q.2 = down (.directive dr) x ∧ a ∈ dr.args)

/-- every argument node of the list has its parent in the list -/
def ArgParL (l : List (Node × X)) : Prop :=
  ∀ p ∈ l, ∀ a, p.1 = Node.argument a → ∃ q ∈ l, p.2 = down (.argument a) q.2 ∧ ArgParent down Inv q a

def NoArgL (l : List (Node × X)) : Prop := ∀ p ∈ l, ∀ a, p.1 ≠ Node.argument a

theorem ArgParL.nil : ArgParL down Inv ([] : List (Node × X)) := fun _ hp => absurd hp List.not_mem_nil

theorem ArgParL.of_noArg {l : List (Node × X)} (h : NoArgL l) : ArgParL down Inv l :=
  fun p hp a e => absurd e (h p hp a)

theorem ArgParL.append {a b : List (Node × X)} (ha : ArgParL down Inv a) (hb : ArgParL down Inv b) :
    ArgParL down Inv (a ++ b) := by
  intro p hp x e
  rcases List.mem_append.mp hp with h | h
  · obtain ⟨q, hq, r⟩ := ha p h x e; exact ⟨q, List.mem_append_left _ hq, r⟩
  · obtain ⟨q, hq, r⟩ := hb p h x e; exact ⟨q, List.mem_append_right _ hq, r⟩

theorem ArgParL.flatMap {α} (f : α → List (Node × X)) (as : List α) (h : ∀ a ∈ as, ArgParL down Inv (f a)) :
    ArgParL down Inv (as.flatMap f) := by
  induction as with
  | nil => exact ArgParL.nil down Inv
  | cons a as ih =>
    rw [List.flatMap_cons]
    exact ArgParL.append down Inv (h a List.mem_cons_self) (ih fun b hb => h b (List.mem_cons_of_mem _ hb))

theorem ArgParL.cons {n : Node} {c : X} {rest : List (Node × X)} (hn : ∀ a, n ≠ Node.argument a)
    (hr : ArgParL down Inv rest) : ArgParL down Inv ((n, c) :: rest) := by
  intro p hp x e
  rcases List.mem_cons.mp hp with h | h
  · subst h; exact absurd e (hn x)
  · obtain ⟨q, hq, r⟩ := hr p h x e; exact ⟨q, List.mem_cons_of_mem _ hq, r⟩

theorem NoArgL.nil : NoArgL ([] : List (Node × X)) := fun _ hp => absurd hp List.not_mem_nil
theorem NoArgL.append {a b : List (Node × X)} (ha : NoArgL a) (hb : NoArgL b) : NoArgL (a ++ b) := by
  intro p hp
  rcases List.mem_append.mp hp with h | h
  · exact ha p h
  · exact hb p h
theorem NoArgL.cons {n : Node} {c : X} {rest : List (Node × X)} (hn : ∀ a, n ≠ Node.argument a) (hr : NoArgL rest) :
    NoArgL ((n, c) :: rest) := by
  intro p hp
  rcases List.mem_cons.mp hp with h | h
  · subst h; exact hn
  · exact hr p h

mutual
theorem gnValue_noArg : ∀ (v : Value) (x : X), NoArgL (gnValue down x v)
  | .list vs, x => by simp only [gnValue]; exact NoArgL.cons (fun _ h => by cases h) (gnValues_noArg vs _)
  | .obj fs, x => by simp only [gnValue]; exact NoArgL.cons (fun _ h => by cases h) (gnObjFields_noArg fs _)
  | .var a, x => by simp only [gnValue]; exact NoArgL.cons (fun _ h => by cases h) NoArgL.nil
  | .int a, x => by simp only [gnValue]; exact NoArgL.cons (fun _ h => by cases h) NoArgL.nil
  | .float a, x => by simp only [gnValue]; exact NoArgL.cons (fun _ h => by cases h) NoArgL.nil
  | .str a, x => by simp only [gnValue]; exact NoArgL.cons (fun _ h => by cases h) NoArgL.nil
  | .bool a, x => by simp only [gnValue]; exact NoArgL.cons (fun _ h => by cases h) NoArgL.nil
  | .null, x => by simp only [gnValue]; exact NoArgL.cons (fun _ h => by cases h) NoArgL.nil
  | .enum a, x => by simp only [gnValue]; exact NoArgL.cons (fun _ h => by cases h) NoArgL.nil
theorem gnValues_noArg : ∀ (vs : List Value) (x : X), NoArgL (gnValues down x vs)
  | [], x => by simp only [gnValues]; exact NoArgL.nil
  | v :: vs, x => by simp only [gnValues]; exact NoArgL.append (gnValue_noArg v x) (gnValues_noArg vs x)
theorem gnObjField_noArg : ∀ (f : ObjField) (x : X), NoArgL (gnObjField down x f)
  | .mk n v, x => by simp only [gnObjField]; exact NoArgL.cons (fun _ h => by cases h) (gnValue_noArg v _)
theorem gnObjFields_noArg : ∀ (fs : List ObjField) (x : X), NoArgL (gnObjFields down x fs)
  | [], x => by simp only [gnObjFields]; exact NoArgL.nil
  | f :: fs, x => by simp only [gnObjFields]; exact NoArgL.append (gnObjField_noArg f x) (gnObjFields_noArg fs x)
end

theorem gnArgs_shape (as : List Arg) (x : X) :
    ∀ p ∈ gnArgs down x as, ∀ a, p.1 = Node.argument a → a ∈ as ∧ p.2 = down (.argument a) x := by
  intro p hp a e
  unfold gnArgs at hp
  obtain ⟨b, hb, hpb⟩ := List.mem_flatMap.mp hp
  rw [gnArg] at hpb
  rcases List.mem_cons.mp hpb with h | h
  · subst h
    have : b = a := by simpa using e
    subst this
    exact ⟨hb, rfl⟩
  · exact absurd e (gnValue_noArg down b.value _ p h a)

/-- a node followed by the nodes of the arguments it gives, then anything in order -/
theorem ArgParL.parent {n : Node} {c : X} {args : List Arg} {rest : List (Node × X)}
    (hn : ∀ a, n ≠ Node.argument a) (hpar : ∀ a ∈ args, ArgParent down Inv (n, c) a)
    (hr : ArgParL down Inv rest) : ArgParL down Inv ((n, c) :: (gnArgs down c args ++ rest)) := by
  intro p hp x e
  rcases List.mem_cons.mp hp with h | h
  · subst h; exact absurd e (hn x)
  · rcases List.mem_append.mp h with h1 | h1
    · obtain ⟨hm, hc⟩ := gnArgs_shape down args c p h1 x e
      exact ⟨(n, c), List.mem_cons_self, hc, hpar x hm⟩
    · obtain ⟨q, hq, r⟩ := hr p h1 x e
      exact ⟨q, List.mem_cons_of_mem _ (List.mem_append_right _ hq), r⟩

theorem gnDirs_argPar (ds : List Dir) (x : X) : ArgParL down Inv (gnDirs down x ds) := by
  unfold gnDirs
  apply ArgParL.flatMap
  intro d _
  rw [gnDir]
  have := ArgParL.parent down Inv (n := .directive d) (c := down (.directive d) x) (args := d.args) (rest := [])
    (fun _ h => by cases h) (fun a ha => Or.inr ⟨d, x, rfl, rfl, ha⟩) (ArgParL.nil down Inv)
  simpa using this

variable (hstep : ∀ n x, Inv x → (∀ dr, n ≠ Node.directive dr) → Inv (down n x))
include hstep

mutual
theorem gnSel_argPar : ∀ (s : Sel) (x : X), Inv x → ArgParL down Inv (gnSel down x s)
  | .field al name args dirs true id sub, x, hx => by
    simp only [gnSel, ↓reduceIte, List.append_assoc]
    have hc := hstep (.field name args dirs true) x hx (fun _ h => by cases h)
    exact ArgParL.parent down Inv (fun _ h => by cases h) (fun a ha => Or.inl ⟨name, args, dirs, true, rfl, ha, hc⟩)
      (ArgParL.append down Inv (gnDirs_argPar down Inv dirs _)
        (ArgParL.cons down Inv (fun _ h => by cases h)
          (gnSels_argPar sub _ (hstep (.selectionSet id sub) _ hc (fun _ h => by cases h)))))
  | .field al name args dirs false id sub, x, hx => by
    simp only [gnSel, Bool.false_eq_true, ↓reduceIte, List.append_assoc]
    have hc := hstep (.field name args dirs false) x hx (fun _ h => by cases h)
    exact ArgParL.parent down Inv (fun _ h => by cases h) (fun a ha => Or.inl ⟨name, args, dirs, false, rfl, ha, hc⟩)
      (ArgParL.append down Inv (gnDirs_argPar down Inv dirs _) (ArgParL.nil down Inv))
  | .spread name dirs, x, hx => by
    simp only [gnSel]
    exact ArgParL.cons down Inv (fun _ h => by cases h) (gnDirs_argPar down Inv dirs _)
  | .inline on dirs id sub, x, hx => by
    simp only [gnSel]
    have hc := hstep (.inline on dirs) x hx (fun _ h => by cases h)
    exact ArgParL.cons down Inv (fun _ h => by cases h)
      (ArgParL.append down Inv (gnDirs_argPar down Inv dirs _)
        (ArgParL.cons down Inv (fun _ h => by cases h)
          (gnSels_argPar sub _ (hstep (.selectionSet id sub) _ hc (fun _ h => by cases h)))))
theorem gnSels_argPar : ∀ (ss : List Sel) (x : X), Inv x → ArgParL down Inv (gnSels down x ss)
  | [], x, _ => by simp only [gnSels]; exact ArgParL.nil down Inv
  | s :: ss, x, hx => by simp only [gnSels]; exact ArgParL.append down Inv (gnSel_argPar s x hx) (gnSels_argPar ss x hx)
end

omit hstep in
theorem gnVarDef_argPar (v : VarDef) (x : X) : ArgParL down Inv (gnVarDef down x v) := by
  rw [gnVarDef]
  refine ArgParL.cons down Inv (fun _ h => by cases h) (ArgParL.append down Inv ?_ ?_)
  · cases v.default with
    | none => exact ArgParL.nil down Inv
    | some dv => exact ArgParL.of_noArg down Inv (gnValue_noArg down dv _)
  · exact ArgParL.cons down Inv (fun _ h => by cases h) (gnDirs_argPar down Inv v.dirs _)

theorem gnDef_argPar (d : Def) (x : X) (hx : Inv x) : ArgParL down Inv (gnDef down x d) := by
  cases d with
  | op kind name vars dirs id sels =>
    rw [gnDef]
    have hc := hstep (.operation kind name vars dirs sels) x hx (fun _ h => by cases h)
    exact ArgParL.cons down Inv (fun _ h => by cases h)
      (ArgParL.append down Inv
        (ArgParL.append down Inv (ArgParL.flatMap down Inv _ vars fun v _ => gnVarDef_argPar down Inv v _)
          (gnDirs_argPar down Inv dirs _))
        (ArgParL.cons down Inv (fun _ h => by cases h)
          (gnSels_argPar down Inv hstep sels _ (hstep (.selectionSet id sels) _ hc (fun _ h => by cases h)))))
  | frag name on dirs id sels =>
    rw [gnDef]
    have hc := hstep (.fragmentDef name on dirs) x hx (fun _ h => by cases h)
    exact ArgParL.cons down Inv (fun _ h => by cases h)
      (ArgParL.append down Inv (gnDirs_argPar down Inv dirs _)
        (ArgParL.cons down Inv (fun _ h => by cases h)
          (gnSels_argPar down Inv hstep sels _ (hstep (.selectionSet id sels) _ hc (fun _ h => by cases h)))))
  | ts a b =>
    rw [gnDef]
    exact ArgParL.cons down Inv (fun _ h => by cases h) (ArgParL.nil down Inv)

theorem gnDoc_argPar (d : Doc) (x0 : X) (h0 : Inv x0) : ArgParL down Inv (gnDoc down x0 d) :=
  ArgParL.flatMap down Inv _ d.defs fun df _ => gnDef_argPar down Inv hstep df x0 h0

end

section
variable {X : Type} (down : Node → X → X)

/-- every argument node of the list has the nodes of its value in the list -/
def ArgKidsL (l : List (Node × X)) : Prop :=
  ∀ p ∈ l, ∀ a, p.1 = Node.argument a → ∀ q ∈ gnValue down p.2 a.value, q ∈ l

theorem ArgKidsL.nil : ArgKidsL down ([] : List (Node × X)) := fun _ hp => absurd hp List.not_mem_nil

theorem ArgKidsL.of_noArg {l : List (Node × X)} (h : NoArgL l) : ArgKidsL down l :=
  fun p hp a e => absurd e (h p hp a)

theorem ArgKidsL.append {a b : List (Node × X)} (ha : ArgKidsL down a) (hb : ArgKidsL down b) :
    ArgKidsL down (a ++ b) := by
  intro p hp x e q hq
  rcases List.mem_append.mp hp with h | h
  · exact List.mem_append_left _ (ha p h x e q hq)
  · exact List.mem_append_right _ (hb p h x e q hq)

theorem ArgKidsL.flatMap {α} (f : α → List (Node × X)) (as : List α) (h : ∀ a ∈ as, ArgKidsL down (f a)) :
    ArgKidsL down (as.flatMap f) := by
  induction as with
  | nil => exact ArgKidsL.nil down
  | cons a as ih =>
    rw [List.flatMap_cons]
    exact ArgKidsL.append down (h a List.mem_cons_self) (ih fun b hb => h b (List.mem_cons_of_mem _ hb))

theorem ArgKidsL.cons {n : Node} {c : X} {rest : List (Node × X)} (hn : ∀ a, n ≠ Node.argument a)
    (hr : ArgKidsL down rest) : ArgKidsL down ((n, c) :: rest) := by
  intro p hp x e q hq
  rcases List.mem_cons.mp hp with h | h
  · subst h; exact absurd e (hn x)
  · exact List.mem_cons_of_mem _ (hr p h x e q hq)

theorem gnArgs_kids (as : List Arg) (x : X) : ArgKidsL down (gnArgs down x as) := by
  unfold gnArgs
  apply ArgKidsL.flatMap
  intro b _ p hp a e q hq
  rw [gnArg] at hp ⊢
  rcases List.mem_cons.mp hp with h | h
  · subst h
    have : b = a := by simpa using e
    subst this
    exact List.mem_cons_of_mem _ hq
  · exact absurd e (gnValue_noArg down b.value _ p h a)

theorem gnDirs_kids (ds : List Dir) (x : X) : ArgKidsL down (gnDirs down x ds) := by
  unfold gnDirs
  apply ArgKidsL.flatMap
  intro d _
  rw [gnDir]
  exact ArgKidsL.cons down (fun _ h => by cases h) (gnArgs_kids down d.args _)

mutual
theorem gnSel_kids : ∀ (s : Sel) (x : X), ArgKidsL down (gnSel down x s)
  | .field al name args dirs true id sub, x => by
    simp only [gnSel, ↓reduceIte]
    exact ArgKidsL.cons down (fun _ h => by cases h)
      (ArgKidsL.append down (ArgKidsL.append down (gnArgs_kids down args _) (gnDirs_kids down dirs _))
        (ArgKidsL.cons down (fun _ h => by cases h) (gnSels_kids sub _)))
  | .field al name args dirs false id sub, x => by
    simp only [gnSel, Bool.false_eq_true, ↓reduceIte]
    exact ArgKidsL.cons down (fun _ h => by cases h)
      (ArgKidsL.append down (ArgKidsL.append down (gnArgs_kids down args _) (gnDirs_kids down dirs _))
        (ArgKidsL.nil down))
  | .spread name dirs, x => by
    simp only [gnSel]
    exact ArgKidsL.cons down (fun _ h => by cases h) (gnDirs_kids down dirs _)
  | .inline on dirs id sub, x => by
    simp only [gnSel]
    exact ArgKidsL.cons down (fun _ h => by cases h)
      (ArgKidsL.append down (gnDirs_kids down dirs _)
        (ArgKidsL.cons down (fun _ h => by cases h) (gnSels_kids sub _)))
theorem gnSels_kids : ∀ (ss : List Sel) (x : X), ArgKidsL down (gnSels down x ss)
  | [], x => by simp only [gnSels]; exact ArgKidsL.nil down
  | s :: ss, x => by simp only [gnSels]; exact ArgKidsL.append down (gnSel_kids s x) (gnSels_kids ss x)
end

theorem gnVarDef_kids (v : VarDef) (x : X) : ArgKidsL down (gnVarDef down x v) := by
  rw [gnVarDef]
  refine ArgKidsL.cons down (fun _ h => by cases h) (ArgKidsL.append down ?_ ?_)
  · cases v.default with
    | none => exact ArgKidsL.nil down
    | some dv => exact ArgKidsL.of_noArg down (gnValue_noArg down dv _)
  · exact ArgKidsL.cons down (fun _ h => by cases h) (gnDirs_kids down v.dirs _)

theorem gnDef_kids (d : Def) (x : X) : ArgKidsL down (gnDef down x d) := by
  cases d with
  | op kind name vars dirs id sels =>
    rw [gnDef]
    exact ArgKidsL.cons down (fun _ h => by cases h)
      (ArgKidsL.append down
        (ArgKidsL.append down (ArgKidsL.flatMap down _ vars fun v _ => gnVarDef_kids down v _) (gnDirs_kids down dirs _))
        (ArgKidsL.cons down (fun _ h => by cases h) (gnSels_kids down sels _)))
  | frag name on dirs id sels =>
    rw [gnDef]
    exact ArgKidsL.cons down (fun _ h => by cases h)
      (ArgKidsL.append down (gnDirs_kids down dirs _)
        (ArgKidsL.cons down (fun _ h => by cases h) (gnSels_kids down sels _)))
  | ts a b =>
    rw [gnDef]
    exact ArgKidsL.cons down (fun _ h => by cases h) (ArgKidsL.nil down)

theorem gnDoc_kids (d : Doc) (x0 : X) : ArgKidsL down (gnDoc down x0 d) :=
  ArgKidsL.flatMap down _ d.defs fun df _ => gnDef_kids down df x0

end
end PyGql.Validate.Spec
