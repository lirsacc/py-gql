/-
  C14 — statements about the members of a type object, by kind.

  A type object lists fields (object / interface types), input fields (input objects) or nothing (union, enum, scalar types); the
  predicates about member lists (`typeMembersOK`, `MRel`, `MembersReadable`, `MembersRel`, …) are each a `match` on the kind with
  these three arms. `ByKind k F I O` is that `match`, once; a predicate of this shape has an `iff` with a `ByKind` whose proof is
  `cases k <;> exact Iff.rfl`, and a lemma about it is `ByKind.imp` / `ByKind.and` applied to the three arms.
-/
import PyGqlModel.Heap

namespace PyGql.Heap

/-- `F` of the fields of an object / interface type, `I` of the input fields of an input object, `O` of a type without members -/
def ByKind (k : Kind) (F I : Prop) (O : Prop := True) : Prop :=
  match k with
  | .object | .interface => F
  | .input => I
  | _ => O

theorem ByKind.imp {k : Kind} {F I O F' I' O' : Prop} (hF : F → F') (hI : I → I') (hO : O → O') (b : ByKind k F I O) :
    ByKind k F' I' O' := by
  cases k
  · exact hF b
  · exact hF b
  · exact hO b
  · exact hO b
  · exact hI b
  · exact hO b

theorem ByKind.and {k : Kind} {F I O F' I' O' : Prop} (b : ByKind k F I O) (b' : ByKind k F' I' O') :
    ByKind k (F ∧ F') (I ∧ I') (O ∧ O') := by
  cases k <;> exact ⟨b, b'⟩

theorem ByKind.fields {k : Kind} {F I O : Prop} (b : ByKind k F I O) (hk : k = Kind.object ∨ k = Kind.interface) : F := by
  rcases hk with rfl | rfl <;> exact b

theorem ByKind.inputs {k : Kind} {F I O : Prop} (b : ByKind k F I O) (hk : k = Kind.input) : I := by
  subst hk
  exact b

theorem ByKind.elim {k : Kind} {P : Prop} (b : ByKind k P P P) : P := by
  cases k <;> exact b

theorem typeKids_byKind (t : TypeO) : ByKind t.kind (typeKids t = t.fields) (typeKids t = t.fields) (typeKids t = []) := by
  simp only [typeKids, ByKind]
  cases t.kind <;> rfl

theorem typeMembersOK_byKind {chk : Ref → Bool} {h : Heap} {t : TypeO} :
    typeMembersOK chk h t = true ↔ ByKind t.kind (∀ c, c ∈ t.fields → fieldShape chk h c = true) (∀ c, c ∈ t.fields → argShape chk h c = true) := by
  simp only [typeMembersOK, ByKind]
  cases t.kind <;> simp only [List.all_eq_true]

end PyGql.Heap
