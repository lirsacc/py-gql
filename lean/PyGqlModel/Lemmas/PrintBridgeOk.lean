/-
  A tree all of whose leaves (the classes of its view's canonical yield) are valid, and that is
  well-formed, satisfies the leaf conditions `okDefinition` of the printer theorems: values and types, selections,
  operations, fragments, type-system definitions, documents.
-/
import PyGqlModel.Lemmas.PrintBridgeTok
import PyGqlModel.Lemmas.PrintDocMatch
import PyGqlModel.Props.C01_parse
namespace PyGql.PrintTokens
open PyGql PyGql.Ast PyGql.Parse PyGql.Spec PyGql.Print PyGql.PrintLex PyGql.PrintMatch

def LeafOK (cs : List TokClass) : Prop := ∀ c ∈ cs, ClassOK c

theorem leafOK_nil : LeafOK [] := by intro c hc; cases hc
theorem leafOK_nil_iff : LeafOK [] ↔ True := ⟨fun _ => trivial, fun _ => leafOK_nil⟩
theorem leafOK_cons (c : TokClass) (cs : List TokClass) : LeafOK (c :: cs) ↔ ClassOK c ∧ LeafOK cs := by
  simp [LeafOK]
theorem leafOK_append (a b : List TokClass) : LeafOK (a ++ b) ↔ LeafOK a ∧ LeafOK b := by
  simp only [LeafOK, List.mem_append]
  constructor
  · intro h; exact ⟨fun c hc => h c (Or.inl hc), fun c hc => h c (Or.inr hc)⟩
  · rintro ⟨h1, h2⟩ c (hc | hc); exact h1 c hc; exact h2 c hc
theorem leafOK_map {α} (f : α → Item) (xs : List α) :
    LeafOK (Item.yieldAll (xs.map f)) ↔ ∀ x ∈ xs, LeafOK (f x).yield := by
  rw [yieldAll_map]
  simp only [LeafOK, List.mem_flatMap]
  constructor
  · intro h x hx c hc; exact h c ⟨x, hx, hc⟩
  · rintro h c ⟨x, hx, hc⟩; exact h x hx c hc

theorem classOK_name (v : Text) : ClassOK (.name, v) ↔ Spec.Lexical.isName v = true := Iff.rfl
theorem classOK_int (v : Text) : ClassOK (.int, v) ↔ Spec.Lexical.isIntValue v = true := Iff.rfl
theorem classOK_float (v : Text) : ClassOK (.float, v) ↔ Spec.Lexical.isFloatValue v = true := Iff.rfl
theorem classOK_block (v : Text) : ClassOK (.blockString, v) ↔ CanonBlock v := Iff.rfl

mutual
theorem specValue_of_leaf : ∀ (v : Value), LeafOK (valueV v).yield → specValue v
  | .var v, h => by
    simp only [valueV, variableV, nameV, Item.yield, Item.yieldAll, List.append_nil, List.singleton_append, leafOK_cons] at h
    exact h.2.1
  | .int w _, h => by simpa [valueV, Item.yield, Item.yieldAll, leafOK_cons, leafOK_nil_iff, specValue, classOK_int] using h
  | .float w _, h => by simpa [valueV, Item.yield, Item.yieldAll, leafOK_cons, leafOK_nil_iff, specValue, classOK_float] using h
  | .string s, h => by
    simp only [specValue]
    intro hb
    simp only [valueV, stringV, hb, ↓reduceIte, Item.yield, Item.yieldAll, List.append_nil, leafOK_cons] at h
    exact h.1
  | .boolean _ _, _ => by simp [specValue]
  | .null _, _ => by simp [specValue]
  | .enum w _, h => by simpa [valueV, Item.yield, Item.yieldAll, leafOK_cons, leafOK_nil_iff, specValue, classOK_name] using h
  | .list vs _, h => by
    simp only [valueV, Item.yield, Item.yieldAll, Parse.yieldAll_append, List.singleton_append, leafOK_cons, leafOK_append] at h
    simp only [specValue]; exact specValues_of_leaf vs h.2.1
  | .object fs _, h => by
    simp only [valueV, Item.yield, Item.yieldAll, Parse.yieldAll_append, List.singleton_append, leafOK_cons, leafOK_append] at h
    simp only [specValue]; exact specFields_of_leaf fs h.2.1
theorem specValues_of_leaf : ∀ (vs : List Value), LeafOK (Item.yieldAll (valuesV vs)) → specValues vs
  | [], _ => by simp [specValues]
  | v :: vs, h => by
    simp only [valuesV, Item.yieldAll, leafOK_append] at h
    simp only [specValues]; exact ⟨specValue_of_leaf v h.1, specValues_of_leaf vs h.2⟩
theorem specField_of_leaf : ∀ (f : ObjectField), LeafOK (objectFieldV f).yield → specField f
  | .mk name value _, h => by
    simp only [objectFieldV, nameV, Item.yield, Item.yieldAll, List.append_nil, List.singleton_append, List.cons_append,
      List.nil_append, leafOK_cons, leafOK_append] at h
    simp only [specField]; exact ⟨h.1, specValue_of_leaf value h.2.2⟩
theorem specFields_of_leaf : ∀ (fs : List ObjectField), LeafOK (Item.yieldAll (fieldsV fs)) → specFields fs
  | [], _ => by simp [specFields]
  | f :: fs, h => by
    simp only [fieldsV, Item.yieldAll, leafOK_append] at h
    simp only [specFields]; exact ⟨specField_of_leaf f h.1, specFields_of_leaf fs h.2⟩
end

theorem okValue_of_leaf (ind : Text) (hind : Blank ind) (v : Value) (h : LeafOK (valueV v).yield) : okValue ind v :=
  okValue_of_spec ind hind v (specValue_of_leaf v h)

theorem lexOkType_of_leaf (t : TypeRef) (h : LeafOK (typeV t).yield) : lexOkType t = true := by
  induction t with
  | named t => simpa [typeV, namedTypeV, nameV, Item.yield, Item.yieldAll, leafOK_cons, leafOK_nil_iff, lexOkType, classOK_name] using h
  | list t loc ih =>
    simp only [typeV, Item.yield, Item.yieldAll, List.append_nil, List.singleton_append, leafOK_cons, leafOK_append] at h
    simp only [lexOkType]; exact ih h.2.1
  | nonNull t loc ih =>
    simp only [typeV, Item.yield, Item.yieldAll, List.append_nil, leafOK_append] at h
    simp only [lexOkType]; exact ih h.1


theorem okArgument_of_leaf (ind : Text) (hind : Blank ind) (a : Argument) (h : LeafOK (argumentV a).yield) :
    okArgument ind a := by
  simp only [argumentV, nameV, Item.yield, Item.yieldAll, List.append_nil, List.cons_append, List.nil_append, leafOK_cons] at h
  exact ⟨h.1, okValue_of_leaf ind hind a.value h.2.2⟩

theorem leafOK_groupV {α} (o cl : TokKind) (f : α → Item) (xs : List α) (h : LeafOK (Item.yieldAll (groupV o cl f xs))) :
    ∀ x ∈ xs, LeafOK (f x).yield := by
  unfold groupV at h
  split at h
  · rename_i he; intro x hx; rw [List.isEmpty_iff.1 he] at hx; cases hx
  · simp only [Item.yieldAll, Item.yield, Parse.yieldAll_append, List.singleton_append, leafOK_cons, leafOK_append] at h
    exact (leafOK_map f xs).1 h.2.1

theorem okArguments_of_leaf (ind : Text) (hind : Blank ind) (as : List Argument) (h : LeafOK (Item.yieldAll (argumentsV as))) :
    okArguments ind as :=
  (okArguments_iff ind as).2 fun a ha => okArgument_of_leaf ind hind a (leafOK_groupV _ _ _ _ h a ha)

theorem okDirective_of_leaf (ind : Text) (hind : Blank ind) (d : Directive) (h : LeafOK (directiveV d).yield) :
    okDirective ind d := by
  simp only [directiveV, nameV, Item.yield, Item.yieldAll, List.append_nil, List.cons_append, List.nil_append, leafOK_cons] at h
  exact ⟨h.2.1, okArguments_of_leaf ind hind d.arguments h.2.2⟩

theorem okDirectives_of_leaf (ind : Text) (hind : Blank ind) (ds : List Directive) (h : LeafOK (Item.yieldAll (directivesV ds))) :
    okDirectives ind ds :=
  (okDirectives_iff ind ds).2 fun d hd => okDirective_of_leaf ind hind d ((leafOK_map directiveV ds).1 h d hd)

theorem okDefault_of_leaf (ind : Text) (hind : Blank ind) (o : Option Value) (h : LeafOK (Item.yieldAll (defaultV o))) :
    ∀ v, o = some v → okValue ind v := by
  intro v hv; subst hv
  simp only [defaultV, Item.yieldAll, Item.yield, List.append_nil, List.singleton_append, leafOK_cons] at h
  exact okValue_of_leaf ind hind v h.2

theorem okVarDef_of_leaf (ind : Text) (hind : Blank ind) (d : VariableDefinition) (h : LeafOK (variableDefinitionV d).yield) :
    okVarDef ind d := by
  simp only [variableDefinitionV, variableV, nameV, Item.yield, Item.yieldAll, Parse.yieldAll_append, List.append_nil, List.cons_append,
    List.nil_append, leafOK_cons, leafOK_append] at h
  refine ⟨h.2.1, lexOkType_of_leaf d.type h.2.2.2.1, ?_, okDirectives_of_leaf ind hind _ h.2.2.2.2.2⟩
  have key := okDefault_of_leaf ind hind _ h.2.2.2.2.1
  split
  · rename_i v hv; exact key v hv
  · trivial

theorem okVarDefs_of_leaf (ind : Text) (hind : Blank ind) (ds : List VariableDefinition)
    (h : LeafOK (Item.yieldAll (variableDefinitionsV ds))) : okVarDefs ind ds :=
  (okVarDefs_iff ind ds).2 fun d hd => okVarDef_of_leaf ind hind d (leafOK_groupV _ _ _ _ h d hd)


mutual
theorem okSelection_of_leaf (ind : Text) (hind : Blank ind) : ∀ (s : Selection), LeafOK (selectionV s).yield →
    wfSelection s = true → okSelection ind s
  | .field alias_ name args dirs ss _, h, hw => by
    simp only [wfSelection, Bool.and_eq_true] at hw
    simp only [okSelection]
    cases alias_ with
    | none =>
      simp only [selectionV, nameV, Item.yield, Item.yieldAll, Parse.yieldAll_append, List.append_nil, List.nil_append,
        List.cons_append, leafOK_cons, leafOK_append] at h
      exact ⟨trivial, h.1, okArguments_of_leaf ind hind args h.2.1.1, okDirectives_of_leaf ind hind dirs h.2.1.2,
        okOptSelectionSet_of_leaf ind hind ss h.2.2 hw.2⟩
    | some a =>
      simp only [selectionV, nameV, Item.yield, Item.yieldAll, Parse.yieldAll_append, List.append_nil, List.nil_append,
        List.cons_append, leafOK_cons, leafOK_append] at h
      exact ⟨h.1, h.2.2.1, okArguments_of_leaf ind hind args h.2.2.2.1.1, okDirectives_of_leaf ind hind dirs h.2.2.2.1.2,
        okOptSelectionSet_of_leaf ind hind ss h.2.2.2.2 hw.2⟩
  | .fragmentSpread name dirs _, h, _ => by
    simp only [selectionV, nameV, Item.yield, Item.yieldAll, List.append_nil, List.cons_append, List.nil_append, leafOK_cons] at h
    simp only [okSelection]
    exact ⟨h.2.1, okDirectives_of_leaf ind hind dirs h.2.2⟩
  | .inlineFragment tc dirs ss _, h, hw => by
    simp only [wfSelection, Bool.and_eq_true] at hw
    simp only [okSelection]
    cases tc with
    | none =>
      simp only [selectionV, Item.yield, Item.yieldAll, Parse.yieldAll_append, List.append_nil, List.nil_append, List.cons_append,
        leafOK_cons, leafOK_append] at h
      exact ⟨trivial, okDirectives_of_leaf ind hind dirs h.2.1, okSelectionSet_of_leaf ind hind ss h.2.2 hw.2⟩
    | some t =>
      simp only [selectionV, namedTypeV, nameV, kw, Item.yield, Item.yieldAll, Parse.yieldAll_append, List.append_nil,
        List.nil_append, List.cons_append, leafOK_cons, leafOK_append] at h
      exact ⟨h.2.2.1, okDirectives_of_leaf ind hind dirs h.2.2.2.1, okSelectionSet_of_leaf ind hind ss h.2.2.2.2 hw.2⟩
theorem okSelectionSet_of_leaf (ind : Text) (hind : Blank ind) : ∀ (ss : SelectionSet), LeafOK (selectionSetV ss).yield →
    wfSelectionSet ss = true → okSelectionSet ind ss
  | .mk sels _, h, hw => by
    simp only [wfSelectionSet, Bool.and_eq_true, Bool.not_eq_true', List.isEmpty_eq_false_iff] at hw
    simp only [selectionSetV, Item.yield, Item.yieldAll, Parse.yieldAll_append, List.singleton_append, leafOK_cons, leafOK_append] at h
    simp only [okSelectionSet]
    exact ⟨hw.1, okSelections_of_leaf ind hind sels h.2.1 hw.2⟩
theorem okOptSelectionSet_of_leaf (ind : Text) (hind : Blank ind) : ∀ (o : Option SelectionSet),
    LeafOK (Item.yieldAll (optSelectionSetV o)) → wfOptSelectionSet o = true → okOptSelectionSet ind o
  | none, _, _ => by simp [okOptSelectionSet]
  | some ss, h, hw => by
    simp only [optSelectionSetV, Item.yieldAll, List.append_nil] at h
    simp only [wfOptSelectionSet] at hw
    simp only [okOptSelectionSet]; exact okSelectionSet_of_leaf ind hind ss h hw
theorem okSelections_of_leaf (ind : Text) (hind : Blank ind) : ∀ (sels : List Selection),
    LeafOK (Item.yieldAll (selectionsV sels)) → wfSelections sels = true → okSelections ind sels
  | [], _, _ => by simp [okSelections]
  | s :: ss, h, hw => by
    simp only [selectionsV, Item.yieldAll, leafOK_append] at h
    simp only [wfSelections, Bool.and_eq_true] at hw
    simp only [okSelections]
    exact ⟨okSelection_of_leaf ind hind s h.1 hw.1, okSelections_of_leaf ind hind ss h.2 hw.2⟩
end

theorem operation_of_wf {op : Text} (h : op ∈ Generated.ParserTables.operationTypeTuple) :
    op = K.query ∨ op = K.mutation ∨ op = K.subscription := by
  rw [Props.C01.operationTypeTuple_spec] at h
  simpa using h

theorem okOperation_of_leaf (ind : Text) (hind : Blank ind) (d : OperationDefinition) (h : LeafOK (operationV d).yield)
    (hw : wfOperation d = true) : okOperation ind d := by
  simp only [wfOperation, Bool.and_eq_true, decide_eq_true_eq] at hw
  obtain ⟨⟨⟨hop, _⟩, _⟩, hss⟩ := hw
  have hopk := operation_of_wf hop
  by_cases hs : isShorthand d = true
  · simp only [operationV, hs, ↓reduceIte, Item.yield, Item.yieldAll, List.nil_append, List.append_nil] at h
    simp only [isShorthand, Bool.and_eq_true, decide_eq_true_eq, Option.isNone_iff_eq_none, List.isEmpty_iff] at hs
    obtain ⟨_, hn, hv, hd⟩ := hs
    refine ⟨hopk, by rw [hn]; trivial, by rw [hv]; trivial, by rw [hd]; trivial, okSelectionSet_of_leaf ind hind _ h hss⟩
  · have hs' : isShorthand d = false := by simpa using hs
    simp only [operationV, hs', Bool.false_eq_true, ↓reduceIte, kw, Item.yield, Item.yieldAll, Parse.yieldAll_append,
      List.append_nil, List.singleton_append, leafOK_cons, leafOK_append] at h
    refine ⟨hopk, ?_, okVarDefs_of_leaf ind hind _ h.2.1.1.2, okDirectives_of_leaf ind hind _ h.2.1.2,
      okSelectionSet_of_leaf ind hind _ h.2.2 hss⟩
    have hn := h.2.1.1.1
    cases hnm : d.name with
    | none => trivial
    | some n =>
      rw [hnm] at hn
      simp only [optV, nameV, Item.yieldAll, Item.yield, List.append_nil, leafOK_cons] at hn
      exact hn.1

theorem okFragment_of_leaf (ind : Text) (hind : Blank ind) (fl : Flags) (d : FragmentDefinition) (h : LeafOK (fragmentV d).yield)
    (hw : wfFragment fl d = true) : okFragment ind d := by
  simp only [wfFragment, Bool.and_eq_true] at hw
  simp only [fragmentV, namedTypeV, nameV, kw, Item.yield, Item.yieldAll, Parse.yieldAll_append, List.append_nil,
    List.singleton_append, List.cons_append, List.nil_append, leafOK_cons, leafOK_append] at h
  exact ⟨h.2.1, h.2.2.2.2.1, okVarDefs_of_leaf ind hind _ h.2.2.1, okDirectives_of_leaf ind hind _ h.2.2.2.2.2.1,
    okSelectionSet_of_leaf ind hind _ h.2.2.2.2.2.2 hw.2⟩


theorem okDesc_of_leaf (ind : Text) (o : Option StringValue) (h : LeafOK (Item.yieldAll (descV o))) : okDesc ind o := by
  cases o with
  | none => trivial
  | some s =>
    simp only [okDesc]
    intro hb
    simp only [descV, optV, stringV, hb, ↓reduceIte, Item.yieldAll, Item.yield, List.append_nil, leafOK_cons] at h
    exact descLay_canon ind _ h.1

theorem okInputValue_of_leaf (ind : Text) (hind : Blank ind) (d : InputValueDefinition) (h : LeafOK (inputValueV d).yield) :
    okInputValue ind d := by
  simp only [inputValueV, nameV, Item.yield, Item.yieldAll, Parse.yieldAll_append, List.append_nil, List.cons_append,
    List.nil_append, leafOK_cons, leafOK_append] at h
  refine ⟨h.2.1, lexOkType_of_leaf d.type h.2.2.2.1, ?_, okDirectives_of_leaf ind hind _ h.2.2.2.2.2⟩
  have key := okDefault_of_leaf ind hind _ h.2.2.2.2.1
  split
  · rename_i v hv; exact key v hv
  · trivial

theorem okInputValues_of_leaf (ind : Text) (hind : Blank ind) (ds : List InputValueDefinition)
    (h : ∀ d ∈ ds, LeafOK (inputValueV d).yield) : okInputValues ind ds :=
  fun d hd => okInputValue_of_leaf ind hind d (h d hd)

theorem okFieldDef_of_leaf (ind : Text) (hind : Blank ind) (d : FieldDefinition) (h : LeafOK (fieldDefinitionV d).yield) :
    okFieldDef ind d := by
  simp only [fieldDefinitionV, nameV, Item.yield, Item.yieldAll, Parse.yieldAll_append, List.append_nil, List.cons_append,
    List.nil_append, leafOK_cons, leafOK_append] at h
  exact ⟨h.2.1, okInputValues_of_leaf ind hind _ (leafOK_groupV _ _ _ _ h.2.2.1), lexOkType_of_leaf d.type h.2.2.2.2.1,
    okDirectives_of_leaf ind hind _ h.2.2.2.2.2⟩

theorem okEnumValue_of_leaf (ind : Text) (hind : Blank ind) (d : EnumValueDefinition) (h : LeafOK (enumValueDefinitionV d).yield) :
    okEnumValue ind d := by
  simp only [enumValueDefinitionV, nameV, Item.yield, Item.yieldAll, Parse.yieldAll_append, List.append_nil,
    List.cons_append, List.nil_append, leafOK_cons, leafOK_append] at h
  exact ⟨h.2.1, okDirectives_of_leaf ind hind _ h.2.2⟩

theorem okOperationType_of_leaf (d : OperationTypeDefinition) (h : LeafOK (operationTypeV d).yield)
    (hw : wfOperationType d = true) : okOperationType d := by
  simp only [wfOperationType, decide_eq_true_eq] at hw
  simp only [operationTypeV, namedTypeV, nameV, kw, Item.yield, Item.yieldAll, List.append_nil, List.cons_append,
    List.nil_append, leafOK_cons] at h
  exact ⟨operation_of_wf hw, h.2.2.1⟩

theorem leafOK_sepV {α} (sep : TokKind) (f : α → Item) (xs : List α) (h : LeafOK (Item.yieldAll (sepV sep f xs))) :
    ∀ x ∈ xs, LeafOK (f x).yield := by
  cases xs with
  | nil => intro x hx; cases hx
  | cons y ys =>
    simp only [sepV, Item.yieldAll, Item.yield, List.nil_append, leafOK_append] at h
    intro x hx
    simp only [List.mem_cons] at hx
    rcases hx with rfl | hx
    · exact h.1
    · have h2 := h.2
      clear h
      induction ys with
      | nil => cases hx
      | cons z zs ih =>
        simp only [List.flatMap_cons, List.cons_append, List.nil_append, Item.yieldAll, Item.yield, leafOK_cons,
          leafOK_append] at h2
        simp only [List.mem_cons] at hx
        rcases hx with rfl | hx
        · exact h2.2.1
        · exact ih hx h2.2.2

theorem leafOK_blockV {α} (f : α → Item) (xs : List α) (h : LeafOK (Item.yieldAll (blockV f xs))) :
    ∀ x ∈ xs, LeafOK (f x).yield := by
  unfold blockV at h
  split at h
  · rename_i he; intro x hx; rw [List.isEmpty_iff.1 he] at hx; cases hx
  · simp only [Item.yieldAll, Item.yield, Parse.yieldAll_append, List.singleton_append, leafOK_cons, leafOK_append] at h
    exact (leafOK_map f xs).1 h.2.1

theorem okNamedTypes_of_leaf (ts : List NamedType) (h : ∀ t ∈ ts, LeafOK (namedTypeV t).yield) : okNamedTypes ts := by
  intro t ht
  have := h t ht
  simp only [namedTypeV, nameV, Item.yield, Item.yieldAll, List.append_nil, leafOK_cons] at this
  exact this.1

theorem okImplements_of_leaf (ifs : List NamedType) (h : LeafOK (Item.yieldAll (implementsV ifs))) : okNamedTypes ifs := by
  unfold implementsV at h
  split at h
  · rename_i he; rw [List.isEmpty_iff.1 he]; intro t ht; cases ht
  · simp only [kw, Item.yieldAll, Item.yield, List.singleton_append, leafOK_cons] at h
    exact okNamedTypes_of_leaf ifs (leafOK_sepV _ _ _ h.2)

theorem okUnionMembers_of_leaf (ts : List NamedType) (h : LeafOK (Item.yieldAll (unionMembersV ts))) : okNamedTypes ts := by
  unfold unionMembersV at h
  split at h
  · rename_i he; rw [List.isEmpty_iff.1 he]; intro t ht; cases ht
  · simp only [Item.yieldAll, Item.yield, List.singleton_append, leafOK_cons] at h
    exact okNamedTypes_of_leaf ts (leafOK_sepV _ _ _ h.2)


theorem okMembers_of {α} (ok : α → Prop) (f : α → Item) (xs : List α) (h : ∀ x ∈ xs, LeafOK (f x).yield)
    (hk : ∀ x, LeafOK (f x).yield → ok x) : okMembers ok xs := fun x hx => hk x (h x hx)

theorem okDefinition_of_leaf (ind : Text) (hind : Blank ind) (fl : Flags) (d : Definition)
    (h : LeafOK (definitionV d).yield) (hw : wfDefinition fl d = true) : okDefinition ind d := by
  cases d
  case operation o =>
    simp only [okDefinition, isExecDef, ↓reduceIte, okExecDefinition]
    exact okOperation_of_leaf ind hind o (by simpa [definitionV] using h) (by simpa [wfDefinition] using hw)
  case fragment f =>
    simp only [okDefinition, isExecDef, ↓reduceIte, okExecDefinition]
    exact okFragment_of_leaf ind hind fl f (by simpa [definitionV] using h) (by simpa [wfDefinition] using hw)
  -- every type-system kind: `LeafOK` of the yield splits along the view into `LeafOK` of the parts
  all_goals
    simp only [okDefinition, isExecDef, Bool.false_eq_true, ↓reduceIte, okTSDefinition]
    simp only [definitionV, nameV, kw, Item.yield, Item.yieldAll, Parse.yieldAll_append, List.append_nil, List.cons_append,
      List.nil_append, List.singleton_append, leafOK_cons, leafOK_append] at h
  case schemaDefinition dirs ops loc =>
    simp only [wfDefinition, Bool.and_eq_true, Bool.not_eq_true', List.isEmpty_eq_false_iff, List.all_eq_true] at hw
    exact ⟨okDirectives_of_leaf ind hind _ h.2.1, hw.1.2, fun x hx =>
      okOperationType_of_leaf x ((leafOK_map operationTypeV ops).1 h.2.2.2.1 x hx) (hw.2 x hx)⟩
  case schemaExtension dirs ops loc =>
    simp only [wfDefinition, Bool.and_eq_true, List.all_eq_true] at hw
    exact ⟨okDirectives_of_leaf ind hind _ h.2.2.1, fun x hx =>
      okOperationType_of_leaf x (leafOK_blockV _ _ h.2.2.2 x hx) (hw.1.2 x hx)⟩
  case scalarTypeDefinition desc name dirs loc =>
    exact ⟨okDesc_of_leaf ind desc h.1, h.2.2.1, okDirectives_of_leaf ind hind _ h.2.2.2⟩
  case scalarTypeExtension name dirs loc =>
    exact ⟨h.2.2.1, okDirectives_of_leaf ind hind _ h.2.2.2⟩
  case objectTypeDefinition desc name ifs dirs fields loc =>
    exact ⟨okDesc_of_leaf ind desc h.1, h.2.2.1, okImplements_of_leaf ifs h.2.2.2.1.1, okDirectives_of_leaf ind hind _ h.2.2.2.1.2,
      okMembers_of _ fieldDefinitionV fields (leafOK_blockV _ _ h.2.2.2.2) (okFieldDef_of_leaf ind hind)⟩
  case objectTypeExtension name ifs dirs fields loc =>
    exact ⟨h.2.2.1, okImplements_of_leaf ifs h.2.2.2.1.1, okDirectives_of_leaf ind hind _ h.2.2.2.1.2,
      okMembers_of _ fieldDefinitionV fields (leafOK_blockV _ _ h.2.2.2.2) (okFieldDef_of_leaf ind hind)⟩
  case interfaceTypeDefinition desc name dirs fields loc =>
    exact ⟨okDesc_of_leaf ind desc h.1, h.2.2.1, okDirectives_of_leaf ind hind _ h.2.2.2.1,
      okMembers_of _ fieldDefinitionV fields (leafOK_blockV _ _ h.2.2.2.2) (okFieldDef_of_leaf ind hind)⟩
  case interfaceTypeExtension name dirs fields loc =>
    exact ⟨h.2.2.1, okDirectives_of_leaf ind hind _ h.2.2.2.1,
      okMembers_of _ fieldDefinitionV fields (leafOK_blockV _ _ h.2.2.2.2) (okFieldDef_of_leaf ind hind)⟩
  case unionTypeDefinition desc name dirs types loc =>
    exact ⟨okDesc_of_leaf ind desc h.1, h.2.2.1, okDirectives_of_leaf ind hind _ h.2.2.2.1, okUnionMembers_of_leaf types h.2.2.2.2⟩
  case unionTypeExtension name dirs types loc =>
    exact ⟨h.2.2.1, okDirectives_of_leaf ind hind _ h.2.2.2.1, okUnionMembers_of_leaf types h.2.2.2.2⟩
  case enumTypeDefinition desc name dirs values loc =>
    exact ⟨okDesc_of_leaf ind desc h.1, h.2.2.1, okDirectives_of_leaf ind hind _ h.2.2.2.1,
      okMembers_of _ enumValueDefinitionV values (leafOK_blockV _ _ h.2.2.2.2) (okEnumValue_of_leaf ind hind)⟩
  case enumTypeExtension name dirs values loc =>
    exact ⟨h.2.2.1, okDirectives_of_leaf ind hind _ h.2.2.2.1,
      okMembers_of _ enumValueDefinitionV values (leafOK_blockV _ _ h.2.2.2.2) (okEnumValue_of_leaf ind hind)⟩
  case inputObjectTypeDefinition desc name dirs fields loc =>
    exact ⟨okDesc_of_leaf ind desc h.1, h.2.2.1, okDirectives_of_leaf ind hind _ h.2.2.2.1,
      okInputValues_of_leaf ind hind fields (leafOK_blockV _ _ h.2.2.2.2)⟩
  case inputObjectTypeExtension name dirs fields loc =>
    exact ⟨h.2.2.1, okDirectives_of_leaf ind hind _ h.2.2.2.1,
      okInputValues_of_leaf ind hind fields (leafOK_blockV _ _ h.2.2.2.2)⟩
  case directiveDefinition desc name args locations loc =>
    simp only [wfDefinition, Bool.and_eq_true, Bool.not_eq_true', List.isEmpty_eq_false_iff] at hw
    refine ⟨okDesc_of_leaf ind desc h.1, h.2.2.2.1, okInputValues_of_leaf ind hind args (leafOK_groupV _ _ _ _ h.2.2.2.2.1),
      hw.1.2, fun n hn => ?_⟩
    have := leafOK_sepV _ _ _ h.2.2.2.2.2.2 n hn
    simp only [nameV, Item.yield, Item.yieldAll, List.append_nil, leafOK_cons] at this
    exact this.1

end PyGql.PrintTokens
