/-
  C12 text level — replacing the descriptions of a schema.  Default values do not look at descriptions, so the printer
  prints the same text for the schema with other descriptions (possibly under other options with the same indent)
  whenever every description is printed the same at its position and the argument lists keep their layout.  Used for the
  re-wrapped descriptions (`Lemmas/SdlTextRewrapPrint.lean`) and for `include_descriptions=False`
  (`Lemmas/SdlTextStrip.lean`).
-/
import PyGqlModel.Lemmas.SdlTextOrder
import PyGqlModel.SdlText
namespace PyGql.SdlText
open PyGql PyGql.Sdl PyGql.SdlPrint

/-- a replacement of descriptions by position: of definitions (depth 0), of members and directive arguments (depth 1),
    of the arguments of fields (depth 2) -/
structure DescMap where
  top : Option String → Option String
  member : Option String → Option String
  fieldArg : Option String → Option String

/-- `withDesc…`: the description map applied to every description of an argument, field, enum value, type, directive -/
def withDescArg (g : Option String → Option String) (a : ArgD) : ArgD := { a with desc := g a.desc }
def withDescField (F : DescMap) (f : FieldD) : FieldD := { f with desc := F.member f.desc, args := f.args.map (withDescArg F.fieldArg) }
def withDescEnumVal (F : DescMap) (v : EnumValD) : EnumValD := { v with desc := F.member v.desc }
def withDescType (F : DescMap) (t : TypeD) : TypeD :=
  { t with desc := F.top t.desc, fields := t.fields.map (withDescField F), values := t.values.map (withDescEnumVal F),
           inputFields := t.inputFields.map (withDescArg F.member) }
def withDescDirective (F : DescMap) (d : DirectiveD) : DirectiveD := { d with desc := F.top d.desc, args := d.args.map (withDescArg F.member) }
def redescribe (F : DescMap) (s : SchemaD) : SchemaD :=
  { s with types := s.types.map (withDescType F), directives := s.directives.map (withDescDirective F) }


section
variable (F : DescMap) (s : SchemaD)

theorem findType_redescribe (n : String) : (redescribe F s).findType n = (s.findType n).map (withDescType F) := by
  simp only [SchemaD.findType, redescribe]
  induction s.types with
  | nil => rfl
  | cons t ts ih =>
    have hn : (withDescType F t).name = t.name := rfl
    simp only [List.map_cons, List.find?_cons, hn]
    cases t.name == n <;> simp [ih]

theorem find_values_redescribe (v : J) : ∀ (vs : List EnumValD),
    ((vs.map (withDescEnumVal F)).find? (fun ev => jEq ev.value v)).map (fun ev => Lit.enum ev.name) =
      (vs.find? (fun ev => jEq ev.value v)).map (fun ev => Lit.enum ev.name)
  | [] => rfl
  | x :: vs => by
    have hv : (withDescEnumVal F x).value = x.value := rfl
    simp only [List.map_cons, List.find?_cons, hv]
    cases jEq x.value v
    · exact find_values_redescribe v vs
    · rfl

theorem valueLit_redescribe : ∀ fuel,
    (∀ v ty, valueLit (redescribe F s) fuel v ty = valueLit s fuel v ty) ∧
    (∀ items t, itemsLit (redescribe F s) fuel items t = itemsLit s fuel items t) ∧
    (∀ kvs g (fs : List ArgD), fieldsLit (redescribe F s) fuel kvs (fs.map (withDescArg g)) = fieldsLit s fuel kvs fs) := by
  intro fuel
  induction fuel with
  | zero =>
    refine ⟨fun v ty => by simp [valueLit], fun items t => by simp [itemsLit], fun kvs g fs => by simp [fieldsLit]⟩
  | succ k ih =>
    obtain ⟨ih1, ih2, ih3⟩ := ih
    refine ⟨?_, ?_, ?_⟩
    · intro v ty
      cases ty with
      | nonNull t => simp only [valueLit, ih1]
      | list t => simp only [valueLit, ih1, ih2]
      | named n =>
        simp only [valueLit, findType_redescribe]
        cases hft : s.findType n with
        | none => rfl
        | some t =>
          simp only [Option.map_some]
          have hk : (withDescType F t).kind = t.kind := rfl
          rw [hk]
          cases t.kind <;> simp only [withDescType, find_values_redescribe, ih3]
    · intro items t
      cases items with
      | nil => simp [itemsLit]
      | cons x xs => simp only [itemsLit, ih1, ih2]
    · intro kvs g fs
      cases fs with
      | nil => simp [fieldsLit]
      | cons f fs =>
        simp only [List.map_cons, fieldsLit, ih1, ih3]
        rfl

theorem valueText_redescribe (v : J) (ty : Ty) : SdlPrintT.valueText (redescribe F s) v ty = SdlPrintT.valueText s v ty := by
  simp only [SdlPrintT.valueText, (valueLit_redescribe F s valueFuel).1]

end


def DescSame (o' o : SdlPrintT.OptsT) (depth : Nat) (d' d : Option String) : Prop :=
  ∀ first, SdlPrintT.printDescription o' d' depth first = SdlPrintT.printDescription o d depth first

def ArgsSame (o' o : SdlPrintT.OptsT) (depth : Nat) (g : Option String → Option String) (args : List ArgD) : Prop :=
  SdlPrintT.multiArgs o' (args.map (withDescArg g)) = SdlPrintT.multiArgs o args ∧
  ∀ a ∈ args, DescSame o' o (depth + 1) (g a.desc) a.desc

def TypeSame (o' o : SdlPrintT.OptsT) (F : DescMap) (t : TypeD) : Prop :=
  DescSame o' o 0 (F.top t.desc) t.desc ∧
  (∀ f ∈ t.fields, DescSame o' o 1 (F.member f.desc) f.desc ∧ ArgsSame o' o 1 F.fieldArg f.args) ∧
  (∀ v ∈ t.values, DescSame o' o 1 (F.member v.desc) v.desc) ∧
  (∀ a ∈ t.inputFields, DescSame o' o 1 (F.member a.desc) a.desc)

def DirectiveSame (o' o : SdlPrintT.OptsT) (F : DescMap) (d : DirectiveD) : Prop :=
  DescSame o' o 0 (F.top d.desc) d.desc ∧ ArgsSame o' o 0 F.member d.args

section
variable {o' o : SdlPrintT.OptsT} (hind : o'.indent = o.indent) (F : DescMap) (s : SchemaD)
include hind

omit hind in
theorem printInputValue_redescribe (g : Option String → Option String) (a : ArgD) :
    SdlPrintT.printInputValue (redescribe F s) (withDescArg g a) = SdlPrintT.printInputValue s a := by
  simp only [SdlPrintT.printInputValue, withDescArg, valueText_redescribe]

theorem printArgs_redescribe (depth : Nat) (multi : Bool) (g : Option String → Option String) :
    ∀ (k : Nat) (as : List ArgD), (∀ a ∈ as, DescSame o' o (depth + 1) (g a.desc) a.desc) →
      SdlPrintT.printArgs (redescribe F s) o' depth multi k (as.map (withDescArg g)) = SdlPrintT.printArgs s o depth multi k as
  | _, [], _ => rfl
  | k, a :: as, h => by
    have hd : SdlPrintT.printDescription o' (withDescArg g a).desc (depth + 1) (k == 0) =
        SdlPrintT.printDescription o a.desc (depth + 1) (k == 0) := h a (by simp) _
    simp only [List.map_cons, SdlPrintT.printArgs, printInputValue_redescribe, hd, hind,
      printArgs_redescribe depth multi g (k + 1) as (fun x hx => h x (by simp [hx]))]

theorem printArguments_redescribe (depth : Nat) (g : Option String → Option String) (as : List ArgD)
    (h : ArgsSame o' o depth g as) :
    SdlPrintT.printArguments (redescribe F s) o' (as.map (withDescArg g)) depth = SdlPrintT.printArguments s o as depth := by
  simp only [SdlPrintT.printArguments, h.1, printArgs_redescribe hind F s depth _ g 0 as h.2, List.isEmpty_map, hind]

theorem printFields_redescribe : ∀ (k : Nat) (fs : List FieldD),
    (∀ f ∈ fs, DescSame o' o 1 (F.member f.desc) f.desc ∧ ArgsSame o' o 1 F.fieldArg f.args) →
    SdlPrintT.printFields (redescribe F s) o' k (fs.map (withDescField F)) = SdlPrintT.printFields s o k fs
  | _, [], _ => rfl
  | k, f :: fs, h => by
    have hf := h f (by simp)
    have hd : SdlPrintT.printDescription o' (F.member f.desc) 1 (k == 0) = SdlPrintT.printDescription o f.desc 1 (k == 0) := hf.1 _
    simp only [List.map_cons, SdlPrintT.printFields, SdlPrintT.printField, withDescField, hd, hind,
      printArguments_redescribe hind F s 1 F.fieldArg f.args hf.2,
      printFields_redescribe (k + 1) fs (fun x hx => h x (by simp [hx]))]

theorem printEnumValues_redescribe : ∀ (k : Nat) (vs : List EnumValD),
    (∀ v ∈ vs, DescSame o' o 1 (F.member v.desc) v.desc) →
    SdlPrintT.printEnumValues o' k (vs.map (withDescEnumVal F)) = SdlPrintT.printEnumValues o k vs
  | _, [], _ => rfl
  | k, v :: vs, h => by
    have hd : SdlPrintT.printDescription o' (F.member v.desc) 1 (k == 0) = SdlPrintT.printDescription o v.desc 1 (k == 0) :=
      h v (by simp) _
    simp only [List.map_cons, SdlPrintT.printEnumValues, SdlPrintT.printEnumValue, withDescEnumVal, hd, hind,
      printEnumValues_redescribe (k + 1) vs (fun x hx => h x (by simp [hx]))]

theorem printInputFields_redescribe : ∀ (k : Nat) (fs : List ArgD),
    (∀ a ∈ fs, DescSame o' o 1 (F.member a.desc) a.desc) →
    SdlPrintT.printInputFields (redescribe F s) o' k (fs.map (withDescArg F.member)) = SdlPrintT.printInputFields s o k fs
  | _, [], _ => rfl
  | k, f :: fs, h => by
    have hd : SdlPrintT.printDescription o' (withDescArg F.member f).desc 1 (k == 0) = SdlPrintT.printDescription o f.desc 1 (k == 0) :=
      h f (by simp) _
    simp only [List.map_cons, SdlPrintT.printInputFields, SdlPrintT.printInputField, hd, hind, printInputValue_redescribe,
      printInputFields_redescribe (k + 1) fs (fun x hx => h x (by simp [hx]))]

theorem printType_redescribe (t : TypeD) (h : TypeSame o' o F t) :
    SdlPrintT.printType (redescribe F s) o' (withDescType F t) = SdlPrintT.printType s o t := by
  obtain ⟨h0, hf, hv, hi⟩ := h
  have hd : SdlPrintT.printDescription o' (F.top t.desc) = SdlPrintT.printDescription o t.desc := h0 true
  have hk : (withDescType F t).kind = t.kind := rfl
  unfold SdlPrintT.printType
  rw [hk]
  cases t.kind <;>
    simp only [withDescType, hd, printFields_redescribe hind F s 0 t.fields hf, printEnumValues_redescribe hind F 0 t.values hv,
      printInputFields_redescribe hind F s 0 t.inputFields hi] <;> try rfl

theorem printDirectiveDefinition_redescribe (d : DirectiveD) (h : DirectiveSame o' o F d) :
    SdlPrintT.printDirectiveDefinition (redescribe F s) o' (withDescDirective F d) = SdlPrintT.printDirectiveDefinition s o d := by
  have hd : SdlPrintT.printDescription o' (F.top d.desc) = SdlPrintT.printDescription o d.desc := h.1 true
  simp only [SdlPrintT.printDirectiveDefinition, withDescDirective, hd, printArguments_redescribe hind F s 0 F.member d.args h.2]

omit hind in
theorem needsSchemaBlock_redescribe : needsSchemaBlock (redescribe F s) = needsSchemaBlock s := by
  have hany : ∀ n, (s.types.map (withDescType F)).any (fun t => t.name == n) = s.types.any (fun t => t.name == n) := by
    intro n; simp only [List.any_map, Function.comp_def]; rfl
  have hr : ∀ r n, rootImplied (redescribe F s) r n = rootImplied s r n := by
    intro r n; cases r <;> simp only [rootImplied, redescribe, hany]
  simp only [needsSchemaBlock, hr]
  rfl

theorem printSchemaDefinition_redescribe :
    SdlPrintT.printSchemaDefinition o' (redescribe F s) = SdlPrintT.printSchemaDefinition o s := by
  simp only [SdlPrintT.printSchemaDefinition, needsSchemaBlock_redescribe, SdlPrintT.rootLines, hind]
  rfl

end

theorem insertSorted_map {α} (key : α → String) (f : α → α) (hk : ∀ x, key (f x) = key x) (x : α) :
    ∀ l : List α, insertSorted key (f x) (l.map f) = (insertSorted key x l).map f
  | [] => rfl
  | y :: ys => by
    simp only [List.map_cons, insertSorted, hk]
    split
    · rfl
    · simp only [List.map_cons, insertSorted_map key f hk x ys]

theorem sortBy_map {α} (key : α → String) (f : α → α) (hk : ∀ x, key (f x) = key x) :
    ∀ l : List α, sortBy key (l.map f) = (sortBy key l).map f
  | [] => rfl
  | x :: xs => by
    have ih := sortBy_map key f hk xs
    simp only [sortBy] at ih ⊢
    simp only [List.map_cons, List.foldr_cons, ih, insertSorted_map key f hk]

theorem printSchemaT_redescribe {o' o : SdlPrintT.OptsT} (hind : o'.indent = o.indent) (F : DescMap) (s : SchemaD)
    (ht : ∀ t ∈ s.types, TypeSame o' o F t) (hd : ∀ d ∈ s.directives, DirectiveSame o' o F d) :
    SdlPrintT.printSchemaT o' (redescribe F s) = SdlPrintT.printSchemaT o s := by
  have hds : (sortBy (·.name) (redescribe F s).directives).map (SdlPrintT.printDirectiveDefinition (redescribe F s) o') =
      (sortBy (·.name) s.directives).map (SdlPrintT.printDirectiveDefinition s o) := by
    show (sortBy (·.name) (s.directives.map (withDescDirective F))).map _ = _
    rw [sortBy_map (fun d : DirectiveD => d.name) (withDescDirective F) (fun _ => rfl), List.map_map]
    exact List.map_congr_left fun d hm =>
      printDirectiveDefinition_redescribe hind F s d (hd d ((sortBy_perm _ _).mem_iff.mp hm))
  have hts : (sortBy (·.name) (redescribe F s).types).map (SdlPrintT.printType (redescribe F s) o') =
      (sortBy (·.name) s.types).map (SdlPrintT.printType s o) := by
    show (sortBy (·.name) (s.types.map (withDescType F))).map _ = _
    rw [sortBy_map (fun t : TypeD => t.name) (withDescType F) (fun _ => rfl), List.map_map]
    exact List.map_congr_left fun t hm => printType_redescribe hind F s t (ht t ((sortBy_perm _ _).mem_iff.mp hm))
  simp only [SdlPrintT.printSchemaT, printSchemaDefinition_redescribe hind F s, hds, hts]

end PyGql.SdlText
