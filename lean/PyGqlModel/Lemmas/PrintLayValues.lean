/-
  `Lay` for values, types, arguments, directives.
-/
import PyGqlModel.Lemmas.PrintLayJoin
namespace PyGql.PrintTokens
open PyGql PyGql.Ast PyGql.Parse PyGql.Spec PyGql.Print PyGql.PrintLex PyGql.PrintMatch PyGql.PrintString

/-- the printed block string (value position) is ONE BlockString token with the same value under every enclosing
    indentation — `BlockRoundtripStatement` of the string part for ALL depths at once, with a rest -/
def BlockLay (ind v : Text) : Prop := Lay (blockString v ind false) [(.blockString, v)]

mutual
/-- every leaf is a lexeme of its class by the SPECIFICATION recognisers (`Spec/Lexical.lean`): names, integers,
    floats; quoted strings arbitrary; block strings `BlockLay` -/
def okValue (ind : Text) : Value → Prop
  | .var v => Spec.Lexical.isName v.name.value = true
  | .int w _ => Spec.Lexical.isIntValue w = true
  | .float w _ => Spec.Lexical.isFloatValue w = true
  | .string s => s.block = true → BlockLay ind s.value
  | .boolean _ _ => True
  | .null _ => True
  | .enum w _ => Spec.Lexical.isName w = true
  | .list vs _ => okValues ind vs
  | .object fs _ => okFields ind fs
def okValues (ind : Text) : List Value → Prop
  | [] => True
  | v :: vs => okValue ind v ∧ okValues ind vs
def okField (ind : Text) : ObjectField → Prop
  | .mk name value _ => Spec.Lexical.isName name.value = true ∧ okValue ind value
def okFields (ind : Text) : List ObjectField → Prop
  | [] => True
  | f :: fs => okField ind f ∧ okFields ind fs
end

theorem printValue_ne_nil' (c : Cfg) (v : Value) (h : okValue c.indent v) : printValue c v ≠ [] := by
  cases v with
  | var v => simp [printValue, printVariable]
  | int w loc =>
    simp only [okValue] at h
    simp only [printValue]
    intro e; subst e
    simp [Spec.Lexical.isIntValue, Spec.Lexical.isIntegerPart, Spec.Lexical.stripNegativeSign] at h
  | float w loc => simp only [okValue] at h; exact (floatLexeme_of_isFloatValue w h).1
  | string s =>
    simp only [printValue, printStringValue]
    split
    · exact blockString_ne_nil _ _ _
    · simp [jsonDumps]
  | boolean b loc => cases b <;> simp [printValue, K.true_, K.false_]
  | null loc => simp [printValue, K.null_]
  | enum w loc => simp only [okValue] at h; exact isName_ne_nil h
  | list vs loc => simp [printValue]
  | object fs loc => simp [printValue]

theorem printValues_ne' (c : Cfg) : ∀ (vs : List Value), okValues c.indent vs → ∀ x ∈ printValues c vs, x ≠ []
  | [], _, x, hx => by simp [printValues] at hx
  | v :: vs, h, x, hx => by
    simp only [okValues] at h
    simp only [printValues, List.mem_cons] at hx
    rcases hx with rfl | hx
    · exact printValue_ne_nil' c v h.1
    · exact printValues_ne' c vs h.2 x hx

mutual
theorem lay_value (c : Cfg) : ∀ (v : Value), okValue c.indent v → Lay (printValue c v) (valueV v).yield
  | .var v, h => by
    simp only [okValue] at h
    simpa [printValue, printVariable, valueV, variableV, nameV, Item.yield, Item.yieldAll] using lay_dollar (lay_name h)
  | .int w loc, h => lay_int h
  | .float w loc, h => lay_float h
  | .string s, h => by
    simp only [okValue] at h
    cases hb : s.block with
    | true => simpa [printValue, printStringValue, valueV, stringV, Item.yield, Item.yieldAll, hb, BlockLay] using h hb
    | false => simpa [printValue, printStringValue, valueV, stringV, Item.yield, Item.yieldAll, hb] using lay_string s.value
  | .boolean true loc, _ => lay_name isName_true
  | .boolean false loc, _ => lay_name isName_false
  | .null loc, _ => lay_name isName_null
  | .enum w loc, h => lay_name h
  | .list vs loc, h => by
    simp only [okValue] at h
    have h1 := lay_append (lay_values c vs h) (lay_bracketR lay_nil) (delimHead_cons (by decide +kernel))
    have h2 := lay_bracketL h1
    simpa [printValue, valueV, Item.yield, Item.yieldAll, yieldAll_append, join_eq_joinSep _ _ (printValues_ne' c vs h)]
      using h2
  | .object fs loc, h => by
    simp only [okValue] at h
    have h1 := lay_append (lay_fields c fs h) (lay_curlyR lay_nil) (delimHead_cons (by decide +kernel))
    have h2 := lay_curlyL h1
    simpa [printValue, valueV, Item.yield, Item.yieldAll, yieldAll_append, join_eq_joinSep _ _ (printObjectFields_ne c fs)]
      using h2
theorem lay_values (c : Cfg) : ∀ (vs : List Value), okValues c.indent vs →
    Lay (joinSep [44, 32] (printValues c vs)) (Item.yieldAll (valuesV vs))
  | [], _ => by simpa [printValues, joinSep, valuesV, Item.yieldAll] using lay_nil
  | [v], h => by
    simp only [okValues] at h
    simpa [printValues, joinSep, valuesV, Item.yieldAll] using lay_value c v h.1
  | v :: v' :: vs, h => by
    simp only [okValues] at h
    have ih := lay_values c (v' :: vs) (by simp only [okValues]; exact h.2)
    have h1 := lay_append (lay_value c v h.1) (lay_comma_cons (lay_space_cons ih)) (delimHead_cons (by decide +kernel))
    simpa [printValues, joinSep, valuesV, Item.yieldAll] using h1
theorem lay_field (c : Cfg) : ∀ (f : ObjectField), okField c.indent f → Lay (printObjectField c f) (objectFieldV f).yield
  | .mk name value loc, h => by
    simp only [okField] at h
    have h1 := lay_append (lay_name h.1) (lay_colon (lay_space_cons (lay_value c value h.2))) (delimHead_cons (by decide +kernel))
    simpa [printObjectField, objectFieldV, nameV, Item.yield, Item.yieldAll] using h1
theorem lay_fields (c : Cfg) : ∀ (fs : List ObjectField), okFields c.indent fs →
    Lay (joinSep [44, 32] (printObjectFields c fs)) (Item.yieldAll (fieldsV fs))
  | [], _ => by simpa [printObjectFields, joinSep, fieldsV, Item.yieldAll] using lay_nil
  | [f], h => by
    simp only [okFields] at h
    simpa [printObjectFields, joinSep, fieldsV, Item.yieldAll] using lay_field c f h.1
  | f :: f' :: fs, h => by
    simp only [okFields] at h
    have ih := lay_fields c (f' :: fs) (by simp only [okFields]; exact h.2)
    have h1 := lay_append (lay_field c f h.1) (lay_comma_cons (lay_space_cons ih)) (delimHead_cons (by decide +kernel))
    simpa [printObjectFields, joinSep, fieldsV, Item.yieldAll] using h1
end

theorem lay_type (t : TypeRef) (hl : lexOkType t = true) : Lay (printType t) (typeV t).yield := by
  induction t with
  | named t =>
    simp only [lexOkType] at hl
    simpa [printType, printNamedType, typeV, namedTypeV, nameV, Item.yield, Item.yieldAll] using lay_name hl
  | list t loc ih =>
    simp only [lexOkType] at hl
    have h1 := lay_bracketL (lay_append (ih hl) (lay_bracketR lay_nil) (delimHead_cons (by decide +kernel)))
    simpa [printType, typeV, Item.yield, Item.yieldAll, yieldAll_append] using h1
  | nonNull t loc ih =>
    simp only [lexOkType] at hl
    have h1 := lay_append (ih hl) (lay_bang lay_nil) (delimHead_cons (by decide +kernel))
    simpa [printType, typeV, Item.yield, Item.yieldAll] using h1

def okArgument (ind : Text) (a : Argument) : Prop := Spec.Lexical.isName a.name.value = true ∧ okValue ind a.value
def okArguments (ind : Text) : List Argument → Prop
  | [] => True
  | a :: as => okArgument ind a ∧ okArguments ind as
def okDirective (ind : Text) (d : Directive) : Prop := Spec.Lexical.isName d.name.value = true ∧ okArguments ind d.arguments
def okDirectives (ind : Text) : List Directive → Prop
  | [] => True
  | d :: ds => okDirective ind d ∧ okDirectives ind ds

theorem okArguments_iff (ind : Text) (as : List Argument) : okArguments ind as ↔ ∀ a ∈ as, okArgument ind a := by
  induction as with
  | nil => simp [okArguments]
  | cons a t ih => simp [okArguments, ih]
theorem okDirectives_iff (ind : Text) (ds : List Directive) : okDirectives ind ds ↔ ∀ d ∈ ds, okDirective ind d := by
  induction ds with
  | nil => simp [okDirectives]
  | cons a t ih => simp [okDirectives, ih]

theorem lay_argument (c : Cfg) (a : Argument) (h : okArgument c.indent a) : Lay (printArgument c a) (argumentV a).yield := by
  have h1 := lay_append (lay_name h.1) (lay_colon (lay_space_cons (lay_value c a.value h.2))) (delimHead_cons (by decide +kernel))
  simpa [printArgument, argumentV, nameV, Item.yield, Item.yieldAll] using h1

theorem printArguments_eq (c : Cfg) (a : Argument) (as : List Argument) :
    printArguments c (a :: as) = 40 :: (joinSep [44, 32] ((a :: as).map (printArgument c)) ++ [41]) := by
  rw [printArguments, wrap_join_map _ [40] [41] _ (fun x _ => printArgument_ne c x)]
  simp

theorem lay_arguments_delim (c : Cfg) (as : List Argument) (h : okArguments c.indent as) :
    Lay (printArguments c as) (Item.yieldAll (argumentsV as)) ∧ DelimHead (printArguments c as) ∧
    (printArguments c as = [] ↔ as = []) :=
  lay_group (printArgument c) argumentV (by decide +kernel) (by decide +kernel) as
    (fun a ha => lay_argument c a ((okArguments_iff _ as).1 h a ha)) (fun a _ => printArgument_ne c a)

theorem lay_arguments (c : Cfg) (as : List Argument) (h : okArguments c.indent as) :
    Lay (printArguments c as) (Item.yieldAll (argumentsV as)) :=
  (lay_arguments_delim c as h).1

theorem lay_directive (c : Cfg) (d : Directive) (h : okDirective c.indent d) :
    Lay (printDirective c d) (directiveV d).yield := by
  obtain ⟨la, da, _⟩ := lay_arguments_delim c d.arguments h.2
  have h1 := lay_atSign (lay_append (lay_name h.1) la da)
  simpa [printDirective, directiveV, nameV, Item.yield, Item.yieldAll, yieldAll_append] using h1

theorem lay_directiveList (c : Cfg) (ds : List Directive) (h : okDirectives c.indent ds) :
    Lay (joinSep [32] (ds.map (printDirective c))) (Item.yieldAll (directivesV ds)) :=
  lay_joinMap (printDirective c) directiveV [32] sep_space (fun _ => delimHead_cons (by decide +kernel)) ds
    fun d hd => lay_directive c d ((okDirectives_iff _ ds).1 h d hd)

theorem lay_directives (c : Cfg) (ds : List Directive) (h : okDirectives c.indent ds) :
    Lay (printDirectives c ds) (Item.yieldAll (directivesV ds)) := by
  rw [printDirectives, join_eq_joinSep _ _ (List.forall_mem_map.2 fun d _ => printDirective_ne c d)]
  exact lay_directiveList c ds h

theorem printDirectives_nil_iff (c : Cfg) (ds : List Directive) : printDirectives c ds = [] ↔ ds = [] := by
  have hne : ∀ x ∈ ds.map (printDirective c), x ≠ [] := List.forall_mem_map.2 fun d _ => printDirective_ne c d
  rw [printDirectives, join_eq_joinSep _ _ hne]
  cases ds with
  | nil => simp [joinSep]
  | cons d ds =>
    simp only [reduceCtorEq, iff_false]
    exact joinSep_ne_nil _ _ (by simp) hne

end PyGql.PrintTokens
