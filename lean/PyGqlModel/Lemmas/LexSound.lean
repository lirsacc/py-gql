/-
  Soundness of each `_read_*` of the lexer model against the lexical specification:
  what is consumed is a complete lexeme of the token's kind, with the token's value, and what follows obeys
  the look-ahead restrictions.
-/
import PyGqlModel.Lex
import PyGqlModel.Spec.Lexical
import PyGqlModel.Lemmas.LexChars

namespace PyGql.Lex
open PyGql.Spec.Lexical

theorem startsWith_dropWhile (p : Nat → Bool) (l : Text) : startsWith p (l.dropWhile p) = false := by
  induction l with
  | nil => rfl
  | cons c t ih =>
    rw [List.dropWhile_cons]
    split
    · exact ih
    · rename_i h; simpa [startsWith] using h

theorem startsWith_false_iff {p : Nat → Bool} {r : Text} :
    startsWith p r = false ↔ ∀ c t, r = c :: t → p c = false := by
  cases r with
  | nil => exact ⟨fun _ c t e => (nomatch e), fun _ => rfl⟩
  | cons a u => exact ⟨fun h c t e => by cases e; exact h, fun h => h a u rfl⟩

theorem mem_takeWhile_imp {p : Nat → Bool} {l : Text} {x : Nat} (hx : x ∈ l.takeWhile p) : p x = true := by
  induction l with
  | nil => simp at hx
  | cons a t ih =>
    rw [List.takeWhile_cons] at hx
    split at hx
    · rcases List.mem_cons.mp hx with rfl | h
      · assumption
      · exact ih h
    · simp at hx

theorem takeWhile_append_stop (p : Nat → Bool) (a b : Text) (ha : ∀ x ∈ a, p x = true)
    (hb : startsWith p b = false) : (a ++ b).takeWhile p = a ∧ (a ++ b).dropWhile p = b := by
  induction a with
  | nil =>
    cases b with
    | nil => simp
    | cons c t => simp [startsWith] at hb; simp [List.takeWhile_cons, List.dropWhile_cons, hb]
  | cons x xs ih =>
    have hx := ha x (by simp)
    have := ih (fun y hy => ha y (by simp [hy]))
    simp [List.takeWhile_cons, List.dropWhile_cons, hx, this.1, this.2]

theorem startsWith_or (p q : Nat → Bool) (t : Text) :
    startsWith (fun c => p c || q c) t = false ↔ startsWith p t = false ∧ startsWith q t = false := by
  cases t with
  | nil => simp [startsWith]
  | cons c t => simp [startsWith]

theorem take_length_sub (a b : Text) : (a ++ b).take ((a ++ b).length - b.length) = a := by
  simp

/-- a reader called on the unread text `s` returned `tok` and left `r` unread: what it consumed is a complete lexeme of
    the token's kind with the token's value, what follows obeys the follow restriction, and the token carries the span -/
def Reads (n : Nat) (s : Text) (tok : Tok) (r : Text) : Prop :=
  ∃ lex, s = lex ++ r ∧ lex ≠ [] ∧ Lexeme tok.kind lex tok.value ∧ Follow tok.kind lex r ∧
    tok.start = n - (lex ++ r).length ∧ tok.stop = n - r.length

theorem readOverWhitespace_sound (b : Bool) (s : Text) :
    ∃ ign, s = ign ++ readOverWhitespace b s ∧
      (b = false → IgnRun (readOverWhitespace b s) ign) ∧
      (b = true → ∃ body t, ign = body ++ t ∧ (∀ x ∈ body, Spec.Lexical.isCommentChar x = true) ∧
          startsWith Spec.Lexical.isCommentChar (t ++ readOverWhitespace b s) = false ∧
          IgnRun (readOverWhitespace b s) t) := by
  induction s generalizing b with
  | nil =>
    refine ⟨[], by simp [readOverWhitespace], fun _ => ?_, fun _ => ⟨[], [], rfl, by simp, ?_, ?_⟩⟩
    · simp only [readOverWhitespace]; exact .nil
    · simp [readOverWhitespace, startsWith]
    · simp only [readOverWhitespace]; exact .nil
  | cons c t ih =>
    unfold readOverWhitespace
    by_cases h1 : (b && Lex.isCommentChar c) = true
    · simp only [h1, ↓reduceIte]
      obtain ⟨hb, hc⟩ := Bool.and_eq_true_iff.mp h1
      rw [isCommentChar_spec] at hc
      obtain ⟨ign, hs, _, h2⟩ := ih true
      obtain ⟨body, t', hi, hbody, hst, hrun⟩ := h2 rfl
      refine ⟨c :: ign, by rw [List.cons_append, ← hs], fun h => by simp [hb] at h, fun _ => ?_⟩
      refine ⟨c :: body, t', by simp [hi], ?_, hst, hrun⟩
      intro x hx
      rcases List.mem_cons.mp hx with rfl | hx
      · exact hc
      · exact hbody x hx
    · simp only [h1, Bool.false_eq_true, ↓reduceIte]
      by_cases h2 : Lex.isIgnored c = true
      · simp only [h2, ↓reduceIte]
        obtain ⟨ign, hs, hrun, _⟩ := ih false
        have hic : isIgnoredChar c = true := by rw [← isIgnored_spec]; exact h2
        refine ⟨c :: ign, by rw [List.cons_append, ← hs], fun _ => .char c ign hic (hrun rfl), fun hb => ?_⟩
        refine ⟨[], c :: ign, rfl, by simp, ?_, .char c ign hic (hrun rfl)⟩
        have : Spec.Lexical.isCommentChar c = false := by
          rw [← isCommentChar_spec]; subst hb; simpa using h1
        simp [startsWith, this]
      · simp only [h2, Bool.false_eq_true, ↓reduceIte]
        by_cases h3 : c = 35
        · simp only [h3, ↓reduceIte]
          have hb : b = false := by
            cases b
            · rfl
            · subst h3
              have h35 : Lex.isCommentChar 35 = true := by decide
              simp [h35] at h1
          obtain ⟨ign, hs, _, hc⟩ := ih true
          obtain ⟨body, t', hi, hbody, hst, hrun⟩ := hc rfl
          refine ⟨35 :: ign, by rw [List.cons_append, ← hs], fun _ => ?_, fun h => by simp [hb] at h⟩
          rw [hi]
          exact .comment body t' hbody hst hrun
        · simp only [h3, ↓reduceIte]
          refine ⟨[], rfl, fun _ => .nil, fun hb => ⟨[], [], rfl, by simp, ?_, .nil⟩⟩
          have : Spec.Lexical.isCommentChar c = false := by
            rw [← isCommentChar_spec]; subst hb; simpa using h1
          simp [startsWith, this]

/-- what `_read_over_whitespace` stops at is neither an ignored character nor a comment start -/
theorem readOverWhitespace_head (b : Bool) (s : Text) (c : Nat) (t : Text)
    (h : readOverWhitespace b s = c :: t) : Lex.isIgnored c = false ∧ c ≠ 35 := by
  induction s generalizing b with
  | nil => simp [readOverWhitespace] at h
  | cons d u ih =>
    unfold readOverWhitespace at h
    split at h
    · exact ih _ h
    · split at h
      · exact ih _ h
      · split at h
        · exact ih _ h
        · rename_i h1 h2 h3
          simp only [List.cons.injEq] at h
          obtain ⟨rfl, rfl⟩ := h
          exact ⟨by simpa using h2, h3⟩

theorem readDots_sound (n k : Nat) (s r : Text) (h : readDots n k s = .ok r) :
    s = List.replicate k 46 ++ r := by
  induction k generalizing s with
  | zero => simp only [readDots, Except.ok.injEq] at h; simp [h]
  | succ k ih =>
    cases s with
    | nil => simp [readDots] at h
    | cons c t =>
      simp only [readDots] at h
      split at h
      · rename_i hc; subst hc
        rw [ih t h]; simp [List.replicate_succ]
      · cases h

theorem readEllipsis_sound (n : Nat) (s r : Text) (tok : Tok) (h : readEllipsis n s = .ok (tok, r)) :
    Reads n s tok r := by
  unfold readEllipsis at h
  split at h
  · cases h
  · rename_i rest hd
    cases h
    have hs : s = [46, 46, 46] ++ r := readDots_sound n 3 _ _ hd
    exact ⟨[46, 46, 46], hs, by simp, ⟨rfl, rfl⟩, trivial, by rw [← hs], rfl⟩

theorem readName_sound (n : Nat) (c : Nat) (t : Text) (hc : Lex.isNameStart c = true) :
    Reads n (c :: t) (readName n (c :: t)).1 (readName n (c :: t)).2 := by
  have hfun : Lex.isNameChar = isNameCont := funext isNameChar_spec
  have hcc : Lex.isNameChar c = true := by simp [Lex.isNameChar, Lex.isNameStart] at hc ⊢; exact Or.inl hc
  have hs : c :: t = (c :: t).takeWhile Lex.isNameChar ++ (c :: t).dropWhile Lex.isNameChar :=
    (List.takeWhile_append_dropWhile ..).symm
  refine ⟨(c :: t).takeWhile Lex.isNameChar, hs, ?_, ⟨?_, rfl⟩, ?_, ?_, rfl⟩
  · simp [List.takeWhile_cons, hcc]
  · simp only [List.takeWhile_cons, hcc, ↓reduceIte, isName]
    rw [← isNameStart_spec, hc, Bool.true_and, List.all_eq_true]
    intro x hx
    rw [← isNameChar_spec]
    exact mem_takeWhile_imp hx
  · show startsWith isNameCont _ = false
    rw [← hfun]; exact startsWith_dropWhile _ _
  · show n - (c :: t).length =
      n - ((c :: t).takeWhile Lex.isNameChar ++ (c :: t).dropWhile Lex.isNameChar).length
    rw [← hs]

end PyGql.Lex
