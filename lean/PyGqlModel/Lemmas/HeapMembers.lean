/-
  C14 — member-level provenance through clone-based transforms: the relations between a source type and its copy, and the
  visitor hooks on members and on types.
-/
import PyGqlModel.Lemmas.HeapOrigin
import PyGqlModel.Lemmas.HeapByKind

/-!
  member-level provenance through clone-based transforms: the fields / arguments / input fields of every type of the
  result are, IN ORDER, copies of a sub-list of the source type's members with the same attributes (name converted by the
  camel-case renaming), and nothing else.

  Two strengths. `FAttr` / `FRel` / `MRel` / `TRel`: every attribute of a field is the source's; holds while no visitor
  replaces resolvers (`NoWrap`). `FAttrW W` / … / `TRelW W`: the drop/wrap directive visitor (`Visitor.sdir drop wrap`: what a
  `SchemaDirective` on FIELD_DEFINITION typically does) returns `None` for a field (drop) or a rebuilt `Field` with a NEW
  RESOLVER (wrap), so the copy's resolver is the source field's OR an id given by a wrapper (`W id`: some
  `wrap type field = some id` of a visitor of the list, `Wraps`). Arguments, input fields and type-level attributes are not
  affected by wrapping at all (`ARel`, `TAttr`). The strong relations are the weak ones for `W = fun _ => False`; the hooks and
  loops are proved for the weak ones.
-/

namespace PyGql.Heap.Own
open PyGql.Heap

def AAttr (ρ : String → String) (g g' : ArgO) : Prop :=
  g'.name = ρ g.name ∧ g'.py = g.py ∧ g'.dflt = g.dflt ∧ g'.desc = g.desc ∧ sameNames g.ty g'.ty

def FAttr (ρ : String → String) (f f' : FieldO) : Prop :=
  f'.name = ρ f.name ∧ f'.desc = f.desc ∧ f'.depr = f.depr ∧ f'.res = f.res ∧ f'.sub = f.sub ∧ f'.py = f.py ∧ sameNames f.ty f'.ty

/-- argument `c` (heap `h`) is a copy of argument `a` of the source (heap `h0`) -/
def ARel (ρ : String → String) (h0 h : Heap) (a c : Addr) : Prop :=
  ∃ g g', h0.readArg a = some g ∧ h.readArg c = some g' ∧ AAttr ρ g g'

/-- field `c` is a copy of field `a` of the source; its arguments are, in order, copies of a sub-list of the source field's -/
def FRel (ρ : String → String) (h0 h : Heap) (a c : Addr) : Prop :=
  ∃ f f', h0.readField a = some f ∧ h.readField c = some f' ∧ FAttr ρ f f' ∧ Sub2 (ARel ρ h0 h) f.args f'.args

def MRel (ρ : String → String) (h0 h : Heap) (k : Kind) (src res : List Addr) : Prop :=
  match k with
  | .input => Sub2 (ARel ρ h0 h) src res
  | .object | .interface => Sub2 (FRel ρ h0 h) src res
  | _ => True

theorem mRel_iff {ρ : String → String} {h0 h : Heap} {k : Kind} {src res : List Addr} :
    MRel ρ h0 h k src res ↔ ByKind k (Sub2 (FRel ρ h0 h) src res) (Sub2 (ARel ρ h0 h) src res) := by
  cases k <;> exact Iff.rfl

/-- the type object at `a'` is a copy of the source type `t0`: attributes, and members by kind -/
def TRel (ρ : String → String) (h0 h : Heap) (t0 : TypeO) (a' : Addr) : Prop :=
  ∃ t', h.readType a' = some t' ∧ TAttr t0 t' ∧ MRel ρ h0 h t0.kind t0.fields t'.fields

variable {W : Nat → Prop} {ρ : String → String}

def FAttrW (W : Nat → Prop) (ρ : String → String) (f f' : FieldO) : Prop :=
  f'.name = ρ f.name ∧ f'.desc = f.desc ∧ f'.depr = f.depr ∧ (f'.res = f.res ∨ ∃ id, f'.res = some id ∧ W id) ∧ f'.sub = f.sub ∧
    f'.py = f.py ∧ sameNames f.ty f'.ty

def FRelW (W : Nat → Prop) (ρ : String → String) (h0 h : Heap) (a c : Addr) : Prop :=
  ∃ f f', h0.readField a = some f ∧ h.readField c = some f' ∧ FAttrW W ρ f f' ∧ Sub2 (ARel ρ h0 h) f.args f'.args

def MRelW (W : Nat → Prop) (ρ : String → String) (h0 h : Heap) (k : Kind) (src res : List Addr) : Prop :=
  match k with
  | .input => Sub2 (ARel ρ h0 h) src res
  | .object | .interface => Sub2 (FRelW W ρ h0 h) src res
  | _ => True

theorem mRelW_iff {h0 h : Heap} {k : Kind} {src res : List Addr} :
    MRelW W ρ h0 h k src res ↔ ByKind k (Sub2 (FRelW W ρ h0 h) src res) (Sub2 (ARel ρ h0 h) src res) := by
  cases k <;> exact Iff.rfl

def TRelW (W : Nat → Prop) (ρ : String → String) (h0 h : Heap) (t0 : TypeO) (a' : Addr) : Prop :=
  ∃ t', h.readType a' = some t' ∧ TAttr t0 t' ∧ MRelW W ρ h0 h t0.kind t0.fields t'.fields

/-- the resolvers the visitor's wrappers hand out satisfy `W` -/
def Wraps (W : Nat → Prop) : Visitor → Prop
  | .sdir _ w => ∀ t f id, w t f = some id → W id
  | _ => True

theorem FAttrW.of_strong {f f' : FieldO} (k : FAttr ρ f f') : FAttrW W ρ f f' :=
  ⟨k.1, k.2.1, k.2.2.1, Or.inl k.2.2.2.1, k.2.2.2.2⟩

theorem FAttr.of_weak {f f' : FieldO} (k : FAttrW (fun _ => False) ρ f f') : FAttr ρ f f' :=
  ⟨k.1, k.2.1, k.2.2.1, k.2.2.2.1.resolve_right fun ⟨_, _, hf⟩ => hf, k.2.2.2.2⟩

theorem FRelW.of_strong {h0 h : Heap} {a c : Addr} : FRel ρ h0 h a c → FRelW W ρ h0 h a c :=
  fun ⟨f, f', h1, h2, k, ha⟩ => ⟨f, f', h1, h2, .of_strong k, ha⟩

theorem FRel.of_weak {h0 h : Heap} {a c : Addr} : FRelW (fun _ => False) ρ h0 h a c → FRel ρ h0 h a c :=
  fun ⟨f, f', h1, h2, k, ha⟩ => ⟨f, f', h1, h2, .of_weak k, ha⟩

theorem MRelW.of_strong {h0 h : Heap} {k : Kind} {src res : List Addr} (r : MRel ρ h0 h k src res) : MRelW W ρ h0 h k src res :=
  mRelW_iff.mpr ((mRel_iff.mp r).imp (·.imp fun _ _ => .of_strong) id id)

theorem MRel.of_weak {h0 h : Heap} {k : Kind} {src res : List Addr} (r : MRelW (fun _ => False) ρ h0 h k src res) :
    MRel ρ h0 h k src res :=
  mRel_iff.mpr ((mRelW_iff.mp r).imp (·.imp fun _ _ => .of_weak) id id)

theorem TRelW.of_strong {h0 h : Heap} {t0 : TypeO} {a' : Addr} : TRel ρ h0 h t0 a' → TRelW W ρ h0 h t0 a' :=
  fun ⟨t', ht', hat, hm⟩ => ⟨t', ht', hat, .of_strong hm⟩

theorem TRel.of_weak {h0 h : Heap} {t0 : TypeO} {a' : Addr} : TRelW (fun _ => False) ρ h0 h t0 a' → TRel ρ h0 h t0 a' :=
  fun ⟨t', ht', hat, hm⟩ => ⟨t', ht', hat, .of_weak hm⟩

theorem AAttr.same {ρ : String → String} {g g' g'' : ArgO} (k : AAttr ρ g g') (s : SameHead (.arg g') (.arg g'')) : AAttr ρ g g'' := by
  simp only [SameHead] at s
  obtain ⟨k1, k2, k3, k4, k5⟩ := k
  exact ⟨s.1.trans k1, s.2.1.trans k2, s.2.2.1.trans k3, s.2.2.2.1.trans k4, sameNames_trans k5 s.2.2.2.2⟩

theorem FAttrW.same {f f' f'' : FieldO} (k : FAttrW W ρ f f') (s : SameHead (.field f') (.field f'')) : FAttrW W ρ f f'' := by
  simp only [SameHead] at s
  obtain ⟨k1, k2, k3, k4, k5, k6, k7⟩ := k
  exact ⟨s.1.trans k1, s.2.1.trans k2, s.2.2.1.trans k3, s.2.2.2.1 ▸ k4, s.2.2.2.2.1.trans k5, s.2.2.2.2.2.1.trans k6,
    sameNames_trans k7 s.2.2.2.2.2.2⟩

theorem ARel.keep {h0 h h' : Heap} (st : StepImp chkT h h') {a c : Addr} (r : ARel ρ h0 h a c) : ARel ρ h0 h' a c := by
  obtain ⟨g, g', h1, h2, k⟩ := r
  obtain ⟨g'', hr', hd, _⟩ := st.readArg h2
  exact ⟨g, g'', h1, hr', k.same hd⟩

theorem FRelW.keep {h0 h h' : Heap} (st : StepImp chkT h h') {a c : Addr} (r : FRelW W ρ h0 h a c) : FRelW W ρ h0 h' a c := by
  obtain ⟨f, f', h1, h2, k, hargs⟩ := r
  obtain ⟨f'', hr', hd, hk, _⟩ := st.readField h2
  exact ⟨f, f'', h1, hr', k.same hd, (hargs.imp fun _ _ r => r.keep st).sublist_right hk⟩

theorem MRelW.keep {h0 h h' : Heap} (st : StepImp chkT h h') {k : Kind} {src res : List Addr}
    (r : MRelW W ρ h0 h k src res) : MRelW W ρ h0 h' k src res :=
  mRelW_iff.mpr ((mRelW_iff.mp r).imp (·.imp fun _ _ x => x.keep st) (·.imp fun _ _ x => x.keep st) id)

theorem MRelW.sublist {h0 h : Heap} {k : Kind} {src res res' : List Addr} (r : MRelW W ρ h0 h k src res)
    (hs : List.Sublist res' res) : MRelW W ρ h0 h k src res' :=
  mRelW_iff.mpr ((mRelW_iff.mp r).imp (·.sublist_right hs) (·.sublist_right hs) id)

theorem TRelW.keep {h0 h h' : Heap} (st : StepImp chkT h h') {t0 : TypeO} {a' : Addr} (r : TRelW W ρ h0 h t0 a') :
    TRelW W ρ h0 h' t0 a' := by
  obtain ⟨t', ht', hat, hm⟩ := r
  obtain ⟨t'', hr', hd, hk, _⟩ := st.readType ht'
  exact ⟨t'', hr', hat.trans hd, (hm.keep st).sublist hk⟩

theorem FRel.keep {h0 h h' : Heap} (st : StepImp chkT h h') {a c : Addr} (r : FRel ρ h0 h a c) : FRel ρ h0 h' a c :=
  .of_weak ((FRelW.of_strong r).keep st)

theorem TRel.keep {h0 h h' : Heap} (st : StepImp chkT h h') {t0 : TypeO} {a' : Addr} (r : TRel ρ h0 h t0 a') : TRel ρ h0 h' t0 a' :=
  .of_weak ((TRelW.of_strong r).keep st)

theorem mapFilter_sub2 {Rin Rout : Heap → Addr → Addr → Prop} {f : Heap → Addr → Heap × Option Addr}
    (keepIn : ∀ h h' x c, StepImp chkT h h' → Rin h x c → Rin h' x c)
    (keepOut : ∀ h h' x c, StepImp chkT h h' → Rout h x c → Rout h' x c)
    (hstep : ∀ h a, StepImp chkT h (f h a).1)
    (hest : ∀ h x a, Rin h x a → ∀ a', (f h a).2 = some a' → Rout (f h a).1 x a') :
    ∀ (src as : List Addr) (h : Heap), Sub2 (Rin h) src as → Sub2 (Rout (mapFilter f h as).1) src (mapFilter f h as).2 := by
  intro src as h hs
  obtain ⟨_, os, f', e⟩ := (mapFilter_loop f).out (StepImp.refl chkT) StepImp.trans (fun h a => mapFilter_one f h a ▸ hstep h a) as h
  rw [e]
  refine (hs.comp (sub2_of_run (fun a _ b m => m) f')).imp fun x c ⟨a, rin, s1, r1, e1, r2⟩ => ?_
  rw [mapFilter_one, head?_toList] at e1
  rw [mapFilter_one] at r2
  exact keepOut _ _ x c r2 (hest s1 x a (keepIn _ _ x a r1 rin) c e1)

end PyGql.Heap.Own

namespace PyGql.Heap.Own
open PyGql.Heap

/-- visitors that only drop, re-point or rename members (the drop/wrap directive visitor replaces resolvers: excluded) -/
def NoWrap : Visitor → Prop
  | .sdir _ _ => False
  | _ => True

def renOf : Visitor → String → String
  | .camel ren => ren
  | _ => id

def renAfter (v : Visitor) (ρ : String → String) : String → String := fun n => renOf v (ρ n)

theorem renAfter_of_not_camel {v : Visitor} (hv : ∀ ren, v ≠ .camel ren) (ρ : String → String) : renAfter v ρ = ρ := by
  cases v with
  | camel ren => exact absurd rfl (hv ren)
  | _ => rfl

theorem renAfter_heal (ρ : String → String) : renAfter .heal ρ = ρ := rfl
theorem renAfter_vis (p : VisP) (ρ : String → String) : renAfter (.vis p) ρ = ρ := rfl

variable {W : Nat → Prop}

theorem onArgument_memW (v : Visitor) (reg : List (String × Addr)) (ρ : String → String) (h0 h : Heap) (x a : Addr)
    (r : ARel ρ h0 h x a) : ∀ a', (onArgument v reg h a).2 = some a' → ARel (renAfter v ρ) h0 (onArgument v reg h a).1 x a' := by
  obtain ⟨g, g', h1, h2, k⟩ := r
  intro a' e
  simp only [onArgument, h2] at e ⊢
  cases v with
  | camel ren =>
    cases e
    exact ⟨g, _, h1, readArg_alloc_new _ _, k.1 ▸ rfl, k.2⟩
  | heal =>
    cases ht : healed reg g'.ty with
    | none => simp [ht] at e
    | some t =>
      simp only [ht, Option.some.injEq] at e ⊢
      subst e
      exact ⟨g, _, h1, readArg_write_self h a _ (readArg_lt h2), k.1, k.2.1, k.2.2.1, k.2.2.2.1,
        sameNames_trans k.2.2.2.2 (healed_sameNames reg g'.ty t ht)⟩
  | _ =>
    cases e
    exact ⟨g, g', h1, h2, k⟩

theorem onInputField_memW (v : Visitor) (reg : List (String × Addr)) (ρ : String → String) (h0 h : Heap) (x a : Addr)
    (r : ARel ρ h0 h x a) : ∀ a', (onInputField v reg h a).2 = some a' → ARel (renAfter v ρ) h0 (onInputField v reg h a).1 x a' := by
  intro a' e
  rw [(onInputField_sub v reg h a).1]
  exact onArgument_memW v reg ρ h0 h x a r a' ((onInputField_sub v reg h a).2 a' e)

theorem onArgument_stepT (v : Visitor) (reg : List (String × Addr)) (h : Heap) (a : Addr) : StepImp chkT h (onArgument v reg h a).1 :=
  onArgument_step v reg h a chkT (compat_true v reg)
theorem onInputField_stepT (v : Visitor) (reg : List (String × Addr)) (h : Heap) (a : Addr) : StepImp chkT h (onInputField v reg h a).1 :=
  onInputField_step v reg h a chkT (compat_true v reg)
theorem onField_stepT (v : Visitor) (reg : List (String × Addr)) (tn : String) (h : Heap) (a : Addr) : StepImp chkT h (onField v reg tn h a).1 :=
  onField_step v reg tn h a chkT (compat_true v reg)

theorem args_memW (v : Visitor) (reg : List (String × Addr)) (ρ : String → String) (h0 h : Heap) (src as : List Addr)
    (hs : Sub2 (ARel ρ h0 h) src as) :
    Sub2 (ARel (renAfter v ρ) h0 (mapFilter (onArgument v reg) h as).1) src (mapFilter (onArgument v reg) h as).2 :=
  mapFilter_sub2 (Rin := fun h => ARel ρ h0 h) (Rout := fun h => ARel (renAfter v ρ) h0 h)
    (fun _ _ _ _ st r => r.keep st) (fun _ _ _ _ st r => r.keep st) (onArgument_stepT v reg)
    (fun h x a r => onArgument_memW v reg ρ h0 h x a r) src as h hs

/-- base part of `on_field` on the CURRENT field record `f` (attributes untouched; arguments visited) -/
theorem onFieldBase_memW (v : Visitor) (reg : List (String × Addr)) (ρ : String → String) (h0 h : Heap) (a : Addr) (f : FieldO)
    (hf : h.readField a = some f) (src : List Addr) (hs : Sub2 (ARel ρ h0 h) src f.args) :
    ∃ f2, (onFieldBase v reg h a f).1.readField (onFieldBase v reg h a f).2 = some f2 ∧ SameHead (.field f) (.field f2) ∧
      Sub2 (ARel (renAfter v ρ) h0 (onFieldBase v reg h a f).1) src f2.args := by
  have hm := args_memW v reg ρ h0 h src f.args hs
  simp only [onFieldBase]
  split
  · exact ⟨_, readField_alloc_new _ _, ⟨rfl, rfl, rfl, rfl, rfl, rfl, sameNames_refl _⟩, hm.imp fun _ _ r => r.keep (step_alloc chkT _ _)⟩
  · rename_i hb
    obtain ⟨f', hr', hd, hk, _⟩ := (mapFilter_stepImp (onArgument_stepT v reg) f.args h).readField hf
    exact ⟨f', hr', hd, hm.sublist_right (by rw [bne_false_eq hb]; exact hk)⟩

theorem onField_memW (v : Visitor) (hv : Wraps W v) (reg : List (String × Addr)) (tn : String) (ρ : String → String) (h0 h : Heap) (x a : Addr)
    (r : FRelW W ρ h0 h x a) : ∀ a', (onField v reg tn h a).2 = some a' → FRelW W (renAfter v ρ) h0 (onField v reg tn h a).1 x a' := by
  obtain ⟨f0, f, h1, h2, k, hargs⟩ := r
  -- the base part, on the field itself …
  have base : ∃ f2, (onFieldBase v reg h a f).1.readField (onFieldBase v reg h a f).2 = some f2 ∧ FAttrW W ρ f0 f2 ∧
      Sub2 (ARel (renAfter v ρ) h0 (onFieldBase v reg h a f).1) f0.args f2.args :=
    (onFieldBase_memW v reg ρ h0 h a f h2 f0.args hargs).imp fun _ ⟨hr2, hs2, ha2⟩ => ⟨hr2, k.same hs2, ha2⟩
  -- … and on a copy `f'` allocated first (renamed, or with a wrapper's resolver)
  have copy : ∀ f' : FieldO, f'.args = f.args → FAttrW W (renAfter v ρ) f0 f' →
      FRelW W (renAfter v ρ) h0 (onFieldBase v reg (h.alloc (.field f')).1 (h.alloc (.field f')).2 f').1 x
        (onFieldBase v reg (h.alloc (.field f')).1 (h.alloc (.field f')).2 f').2 := by
    intro f' hf' k'
    have hargs' : Sub2 (ARel ρ h0 (h.alloc (.field f')).1) f0.args f'.args :=
      hf' ▸ hargs.imp fun _ _ r => ARel.keep (step_alloc chkT _ _) r
    obtain ⟨f2, hr2, hs2, ha2⟩ := onFieldBase_memW v reg ρ h0 _ _ f' (readField_alloc_new _ _) f0.args hargs'
    exact ⟨f0, f2, h1, hr2, k'.same hs2, ha2⟩
  intro a' e
  rcases onField_cases v reg tn h a f h2 with e1 | ⟨_, hnc, e1⟩ | ⟨rfl, e1⟩ | ⟨f', hc, e1⟩ <;> rw [e1] at e ⊢
  · cases e
  · cases e
    obtain ⟨f2, hr2, k2, ha2⟩ := base
    rw [renAfter_of_not_camel hnc ρ] at ha2 ⊢
    exact ⟨f0, f2, h1, hr2, k2, ha2⟩
  · obtain ⟨f2, hr2, k2, ha2⟩ := base
    simp only [healFieldType, hr2] at e ⊢
    cases ht : healed reg f2.ty with
    | none => simp [ht] at e
    | some t =>
      simp only [ht, Option.some.injEq] at e ⊢
      subst e
      have hw := write_field_ty chkT _ _ f2 t hr2 rfl (healed_sameNames reg f2.ty t ht)
      exact ⟨f0, { f2 with ty := t }, h1, readField_write_self _ _ _ (readField_lt hr2),
        ⟨k2.1, k2.2.1, k2.2.2.1, k2.2.2.2.1, k2.2.2.2.2.1, k2.2.2.2.2.2.1, sameNames_trans k2.2.2.2.2.2.2 (healed_sameNames reg f2.ty t ht)⟩,
        ha2.imp fun _ _ r => r.keep hw⟩
  · cases e
    cases hc with
    | camel ren => exact copy _ rfl ⟨k.1 ▸ rfl, k.2⟩
    | wrap d w id hw => exact copy _ rfl ⟨k.1, k.2.1, k.2.2.1, Or.inr ⟨id, rfl, hv tn f.name id hw⟩, k.2.2.2.2⟩

end PyGql.Heap.Own

namespace PyGql.Heap.Own
open PyGql.Heap

variable {W : Nat → Prop}

theorem TAttr.kind {t t' : TypeO} (a : TAttr t t') : t'.kind = t.kind := by
  simp only [TAttr, SameHead] at a; exact a.1

/-- the type object at `a` is a copy of the source type `t0` whose members are, in order, `R`-copies of a sub-list of `t0`'s -/
def CopyOf (R : Heap → Addr → Addr → Prop) (t0 : TypeO) (h : Heap) (a : Addr) (t : TypeO) : Prop :=
  h.readType a = some t ∧ TAttr t0 t ∧ Sub2 (R h) t0.fields t.fields

/-- a step that leaves at `a` the type object with a sub-list `kept` of its members (the visibility visitor's
    `type.fields = [visible ones]`) -/
theorem CopyOf.step {R : Heap → Addr → Addr → Prop} (keepR : ∀ h h' x c, StepImp chkT h h' → R h x c → R h' x c)
    {t0 : TypeO} {h h1 : Heap} {a : Addr} {t : TypeO} (c : CopyOf R t0 h a t) {kept : List Addr} (hs : kept.Sublist t.fields)
    (ht1 : h1.readType a = some { t with fields := kept }) (st : StepImp chkT h h1) : CopyOf R t0 h1 a { t with fields := kept } :=
  ⟨ht1, c.2.1.trans ⟨rfl, rfl, rfl, rfl, rfl, rfl, rfl, rfl⟩, (c.2.2.imp fun x y r => keepR _ _ x y st r).sublist_right hs⟩

/-- the base part of the composite hooks: the members are visited by `f` (which turns `R`-copies into `R'`-copies), then the
    type is rebuilt if the list changed -/
theorem CopyOf.rest {R R' : Heap → Addr → Addr → Prop} {f : Heap → Addr → Heap × Option Addr}
    (keepR : ∀ h h' x c, StepImp chkT h h' → R h x c → R h' x c)
    (keepR' : ∀ h h' x c, StepImp chkT h h' → R' h x c → R' h' x c)
    (hstep : ∀ h a, StepImp chkT h (f h a).1)
    (hest : ∀ h x a, R h x a → ∀ a', (f h a).2 = some a' → R' (f h a).1 x a')
    {t0 : TypeO} {h : Heap} {a : Addr} {t : TypeO} (c : CopyOf R t0 h a t) :
    ∃ tu, CopyOf R' t0 (rebuiltOrSame (mapFilter f h t.fields).1 a t (mapFilter f h t.fields).2).1
      (rebuiltOrSame (mapFilter f h t.fields).1 a t (mapFilter f h t.fields).2).2 tu := by
  obtain ⟨tu, hru, hau, _, hsub⟩ := rebuilt_read hstep h a t c.1
  exact ⟨tu, hru, c.2.1.trans hau, ((mapFilter_sub2 keepR keepR' hstep hest t0.fields t.fields h c.2.2).imp
    fun x y r => keepR' _ _ x y (rebuiltOrSame_step chkT _ a t _) r).sublist_right hsub⟩

theorem compositeRest_memW (v : Visitor) (hv : Wraps W v) (reg : List (String × Addr)) (ρ : String → String) (h0 : Heap) (a : Addr) (h : Heap)
    (t0 t : TypeO) (hk : t0.kind = Kind.object ∨ t0.kind = Kind.interface) (c : CopyOf (fun h => FRelW W ρ h0 h) t0 h a t) :
    ∀ a', (compositeRest v reg a h t).2 = some a' → TRelW W (renAfter v ρ) h0 (compositeRest v reg a h t).1 t0 a' := by
  obtain ⟨tu, hru, hau, hsub⟩ := c.rest (R' := fun h => FRelW W (renAfter v ρ) h0 h)
    (fun _ _ _ _ st r => r.keep st) (fun _ _ _ _ st r => r.keep st) (onField_stepT v reg t.name)
    (fun h x a r => onField_memW v hv reg t.name ρ h0 h x a r)
  have hrel : TRelW W (renAfter v ρ) h0 _ t0 _ := ⟨tu, hru, hau, by rcases hk with hk | hk <;> simpa [MRelW, hk] using hsub⟩
  intro a' e
  rw [compositeRest_snd] at e
  cases e
  exact hrel.keep (compositeRest_after v reg a h t chkT (compat_true v reg))

theorem onComposite_memW (v : Visitor) (hv : Wraps W v) (reg : List (String × Addr)) (ρ : String → String) (h0 h : Heap) (a : Addr)
    (t0 t : TypeO) (hk : t0.kind = Kind.object ∨ t0.kind = Kind.interface) (c : CopyOf (fun h => FRelW W ρ h0 h) t0 h a t) :
    ∀ a', (onComposite v reg h a t).2 = some a' → TRelW W (renAfter v ρ) h0 (onComposite v reg h a t).1 t0 a' := by
  rcases onComposite_pre v reg h a t c.1 with e | ⟨h1, kept, hsub, ht1, st, e⟩ <;> rw [e]
  · exact nofun
  · exact compositeRest_memW v hv reg ρ h0 a h1 t0 _ hk (c.step (fun _ _ _ _ st r => r.keep st) hsub ht1 (st chkT))

theorem inputRest_memW (v : Visitor) (reg : List (String × Addr)) (ρ : String → String) (h0 : Heap) (a : Addr) (nm : String) (h : Heap)
    (t0 t : TypeO) (hk : t0.kind = Kind.input) (c : CopyOf (fun h => ARel ρ h0 h) t0 h a t) :
    ∀ a', (inputRest v reg a nm h t).2 = some a' → TRelW W (renAfter v ρ) h0 (inputRest v reg a nm h t).1 t0 a' := by
  obtain ⟨tu, hru, hau, hsub⟩ := c.rest (R' := fun h => ARel (renAfter v ρ) h0 h)
    (fun _ _ _ _ st r => r.keep st) (fun _ _ _ _ st r => r.keep st) (onInputField_stepT v reg)
    (fun h x a r => onInputField_memW v reg ρ h0 h x a r)
  have hrel : TRelW W (renAfter v ρ) h0 _ t0 _ := ⟨tu, hru, hau, by simpa [MRelW, hk] using hsub⟩
  intro a' e
  rw [(inputRest_sub v reg a nm h t).1, (inputRest_sub v reg a nm h t).2 a' e]
  exact hrel

theorem onInputObject_memW (v : Visitor) (reg : List (String × Addr)) (ρ : String → String) (h0 h : Heap) (a : Addr)
    (t0 t : TypeO) (hk : t0.kind = Kind.input) (c : CopyOf (fun h => ARel ρ h0 h) t0 h a t) :
    ∀ a', (onInputObject v reg h a t).2 = some a' → TRelW W (renAfter v ρ) h0 (onInputObject v reg h a t).1 t0 a' := by
  obtain ⟨h1, kept, hsub, ht1, st, e⟩ := onInputObject_pre v reg h a t c.1
  rw [e]
  exact inputRest_memW v reg ρ h0 a t.name h1 t0 _ hk (c.step (fun _ _ _ _ st r => r.keep st) hsub ht1 (st chkT))

theorem onType_memW (v : Visitor) (hv : Wraps W v) (reg : List (String × Addr)) (ρ : String → String) (h0 h : Heap) (a : Addr) (t0 : TypeO)
    (r : TRelW W ρ h0 h t0 a) : ∀ a', (onType v reg h a).2 = some a' → TRelW W (renAfter v ρ) h0 (onType v reg h a).1 t0 a' := by
  obtain ⟨t, ht, hat, hm⟩ := r
  have hkt := hat.kind
  rcases onType_cases v reg ht with ⟨hk, e⟩ | ⟨hk, e⟩ | ⟨hk, _⟩
  · rw [hkt] at hk
    rw [e]
    exact onComposite_memW v hv reg ρ h0 h a t0 t hk ⟨ht, hat, (mRelW_iff.mp hm).fields hk⟩
  · rw [hkt] at hk
    rw [e]
    exact onInputObject_memW v reg ρ h0 h a t0 t hk ⟨ht, hat, (mRelW_iff.mp hm).inputs hk⟩
  · -- the kinds without members: only the attributes matter
    intro a' e
    obtain ⟨t', ht', hat'⟩ := onType_attrs v reg h a t ht a' e
    rw [hkt] at hk
    exact ⟨t', ht', hat.trans hat', by rcases hk with hk | hk | hk <;> simp [MRelW, hk]⟩

end PyGql.Heap.Own
