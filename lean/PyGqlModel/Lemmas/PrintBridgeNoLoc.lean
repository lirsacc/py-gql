/-
  An erased tree (`no_location=True`, `noloc_erasure` of C02) carries no positions.
-/
import PyGqlModel.Erase
import PyGqlModel.Lemmas.PrintDocMatch
namespace PyGql.PrintTokens
open PyGql PyGql.Ast PyGql.Parse PyGql.Spec PyGql.Print PyGql.PrintLex PyGql.PrintMatch

theorem noLocType_erase (t : TypeRef) : noLocType t.erase = true := by
  induction t with
  | named t => simp [TypeRef.erase, NamedType.erase, Name.erase, noLocType]
  | list t loc ih => simp [TypeRef.erase, noLocType, ih]
  | nonNull t loc ih => simp [TypeRef.erase, noLocType, ih]

mutual
theorem noLocValue_erase : ∀ (v : Value), noLocValue v.erase = true
  | .var v => by simp [Value.erase, Variable.erase, Name.erase, noLocValue]
  | .int _ _ => by simp [Value.erase, noLocValue]
  | .float _ _ => by simp [Value.erase, noLocValue]
  | .string s => by simp [Value.erase, StringValue.erase, noLocValue]
  | .boolean _ _ => by simp [Value.erase, noLocValue]
  | .null _ => by simp [Value.erase, noLocValue]
  | .enum _ _ => by simp [Value.erase, noLocValue]
  | .list vs _ => by simp [Value.erase, noLocValue, noLocValues_erase vs]
  | .object fs _ => by simp [Value.erase, noLocValue, noLocFields_erase fs]
theorem noLocValues_erase : ∀ (vs : List Value), noLocValues (eraseValues vs) = true
  | [] => by simp [eraseValues, noLocValues]
  | v :: vs => by simp [eraseValues, noLocValues, noLocValue_erase v, noLocValues_erase vs]
theorem noLocField_erase : ∀ (f : ObjectField), noLocField f.erase = true
  | .mk name value _ => by simp [ObjectField.erase, Name.erase, noLocField, noLocValue_erase value]
theorem noLocFields_erase : ∀ (fs : List ObjectField), noLocFields (eraseFields fs) = true
  | [] => by simp [eraseFields, noLocFields]
  | f :: fs => by simp [eraseFields, noLocFields, noLocField_erase f, noLocFields_erase fs]
end

theorem noLocArgument_erase (a : Argument) : noLocArgument a.erase = true := by
  simp [Argument.erase, Name.erase, noLocArgument, noLocValue_erase]

theorem noLocDirective_erase (d : Directive) : noLocDirective d.erase = true := by
  simp [Directive.erase, Name.erase, noLocDirective, all_map_true _ _ noLocArgument_erase _]

theorem noLocDirs_erase (ds : List Directive) : (ds.map Directive.erase).all noLocDirective = true :=
  all_map_true _ _ noLocDirective_erase ds

theorem noLocVarDef_erase (d : VariableDefinition) : noLocVarDef d.erase = true := by
  simp only [VariableDefinition.erase, Variable.erase, Name.erase, noLocVarDef, noLocType_erase, noLocDirs_erase,
    Option.isNone_none, Bool.and_self, Bool.true_and, Bool.and_true]
  cases d.defaultValue <;> simp [noLocValue_erase]

mutual
theorem noLocSelection_erase : ∀ (s : Selection), noLocSelection s.erase = true
  | .field alias_ name args dirs ss _ => by
    simp only [Selection.erase, Name.erase, noLocSelection, noLocDirs_erase, all_map_true _ _ noLocArgument_erase _,
      noLocOptSS_erase ss, Option.isNone_none, Bool.and_true, Bool.true_and]
    cases alias_ <;> simp [Name.erase]
  | .fragmentSpread name dirs _ => by simp [Selection.erase, Name.erase, noLocSelection, noLocDirective_erase]
  | .inlineFragment tc dirs ss _ => by
    simp only [Selection.erase, noLocSelection, noLocDirs_erase, noLocSS_erase ss, Option.isNone_none, Bool.and_true, Bool.true_and]
    cases tc <;> simp [NamedType.erase, Name.erase]
theorem noLocSS_erase : ∀ (ss : SelectionSet), noLocSS ss.erase = true
  | .mk sels _ => by simp [SelectionSet.erase, noLocSS, noLocSelections_erase sels]
theorem noLocOptSS_erase : ∀ (o : Option SelectionSet), noLocOptSS (eraseOptSS o) = true
  | none => by simp [eraseOptSS, noLocOptSS]
  | some ss => by simp [eraseOptSS, noLocOptSS, noLocSS_erase ss]
theorem noLocSelections_erase : ∀ (sels : List Selection), noLocSelections (eraseSelections sels) = true
  | [] => by simp [eraseSelections, noLocSelections]
  | s :: ss => by simp [eraseSelections, noLocSelections, noLocSelection_erase s, noLocSelections_erase ss]
end

theorem noLocInputValue_erase (d : InputValueDefinition) : noLocInputValue d.erase = true := by
  simp only [InputValueDefinition.erase, Name.erase, noLocInputValue, noLocType_erase, noLocDirs_erase, Option.isNone_none,
    Bool.and_self, Bool.true_and, Bool.and_true]
  cases d.defaultValue <;> simp [noLocValue_erase]

theorem noLocFieldDef_erase (d : FieldDefinition) : noLocFieldDef d.erase = true := by
  simp [FieldDefinition.erase, Name.erase, noLocFieldDef, noLocType_erase, noLocDirective_erase, noLocInputValue_erase]

theorem noLocEnumValue_erase (d : EnumValueDefinition) : noLocEnumValue d.erase = true := by
  simp [EnumValueDefinition.erase, Name.erase, noLocEnumValue, noLocDirective_erase]

theorem noLocNamedType_erase (t : NamedType) : noLocNamedType t.erase = true := by
  simp [NamedType.erase, Name.erase, noLocNamedType]

theorem noLocOpType_erase (d : OperationTypeDefinition) : noLocOpType d.erase = true := by
  simp [OperationTypeDefinition.erase, noLocOpType, noLocNamedType_erase]

theorem noLocDesc_erase (o : Option StringValue) : noLocDesc (o.map StringValue.erase) = true := by
  cases o <;> simp [noLocDesc, StringValue.erase]

theorem noLocDefinition_erase (d : Definition) : noLocDefinition d.erase = true := by
  cases d with
  | operation o =>
    simp only [Definition.erase, noLocDefinition, isExecDef, ↓reduceIte, noLocExecDefinition, noLocOperation,
      OperationDefinition.erase, noLocDirs_erase, all_map_true _ _ noLocVarDef_erase _, noLocSS_erase, Option.isNone_none,
      Bool.and_true, Bool.true_and]
    cases o.name <;> simp [Name.erase]
  | fragment f =>
    simp [Definition.erase, noLocDefinition, isExecDef, noLocExecDefinition, noLocFragment, FragmentDefinition.erase,
      NamedType.erase, Name.erase, noLocDirective_erase, noLocVarDef_erase, noLocSS_erase]
  | _ =>
    simp [Definition.erase, noLocDefinition, isExecDef, noLocTSDefinition, Name.erase, noLocDirective_erase, noLocDesc_erase,
      noLocOpType_erase, noLocFieldDef_erase, noLocEnumValue_erase, noLocInputValue_erase, noLocNamedType_erase]

theorem noLocDocument_erase (d : Document) : noLocDocument d.erase = true := by
  simp [Document.erase, noLocDocument, noLocDefinition_erase]

end PyGql.PrintTokens
