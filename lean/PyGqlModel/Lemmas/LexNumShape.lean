/-
  The number recognisers of the specification (`isIntegerPart`, `isFractionalPart`, `isExponentPart`, `isFloatValue`) and
  the shapes the grammar writes, in both directions.  Both sides of the lexer proofs speak of numbers in these shapes:
  `_read_number` reads them (`Lemmas/LexSoundNum.lean`) and is complete on them (`Lemmas/LexCompleteNum.lean`).
-/
import PyGqlModel.Lemmas.LexSound

namespace PyGql.Lex

theorem stripNegativeSign_cases (w : Text) : ∃ s, (s = [] ∨ s = [45]) ∧ w = s ++ Spec.Lexical.stripNegativeSign w := by
  unfold Spec.Lexical.stripNegativeSign
  split
  · exact ⟨[45], .inr rfl, rfl⟩
  · exact ⟨[], .inl rfl, rfl⟩

/-- IntegerPart as the grammar writes it: an optional `-`, then `0` alone or a non-zero digit followed by digits -/
theorem integerPart_shape {w : Text} (h : Spec.Lexical.isIntegerPart w = true) :
    ∃ s d ds, w = s ++ d :: ds ∧ (s = [] ∨ s = [45]) ∧ isDigit d = true ∧
      ((d == 48 && ds.isEmpty) || (Spec.Lexical.isNonZeroDigit d && ds.all Spec.Lexical.isDigit)) = true := by
  unfold Spec.Lexical.isIntegerPart at h
  obtain ⟨s, hs, hw⟩ := stripNegativeSign_cases w
  cases hd : Spec.Lexical.stripNegativeSign w with
  | nil => simp [hd] at h
  | cons d ds =>
    rw [hd] at h hw
    refine ⟨s, d, ds, hw, hs, ?_, h⟩
    rw [isDigit_spec]
    simp [Spec.Lexical.isNonZeroDigit, Spec.Lexical.isDigit] at h ⊢
    rcases h with ⟨rfl, _⟩ | ⟨h, _⟩ <;> omega

/-- FractionalPart: `.` and at least one digit -/
theorem fractionalPart_shape {f : Text} (h : Spec.Lexical.isFractionalPart f = true) :
    ∃ d ds, f = 46 :: d :: ds ∧ Spec.Lexical.isDigit d = true ∧ ds.all Spec.Lexical.isDigit = true := by
  unfold Spec.Lexical.isFractionalPart at h
  split at h
  · rename_i d ds
    exact ⟨d, ds, rfl, Bool.and_eq_true _ _ ▸ h⟩
  · cases h

theorem stripSign_cases (r : Text) : ∃ s, (s = [] ∨ s = [43] ∨ s = [45]) ∧ r = s ++ Spec.Lexical.stripSign r := by
  unfold Spec.Lexical.stripSign
  split
  · exact ⟨[43], .inr (.inl rfl), rfl⟩
  · exact ⟨[45], .inr (.inr rfl), rfl⟩
  · exact ⟨[], .inl rfl, rfl⟩

/-- ExponentPart: `e` or `E`, an optional sign, at least one digit -/
theorem exponentPart_shape {e : Text} (h : Spec.Lexical.isExponentPart e = true) :
    ∃ i s d ds, e = i :: (s ++ d :: ds) ∧ (i = 101 ∨ i = 69) ∧ (s = [] ∨ s = [43] ∨ s = [45]) ∧
      Spec.Lexical.isDigit d = true ∧ ds.all Spec.Lexical.isDigit = true := by
  cases e with
  | nil => simp [Spec.Lexical.isExponentPart] at h
  | cons i rest =>
    simp only [Spec.Lexical.isExponentPart, Bool.and_eq_true, Bool.or_eq_true, beq_iff_eq] at h
    obtain ⟨hi, hrest⟩ := h
    obtain ⟨s, hs, hr⟩ := stripSign_cases rest
    cases hd : Spec.Lexical.stripSign rest with
    | nil => simp [hd] at hrest
    | cons d ds =>
      rw [hd] at hrest hr
      simp only [Bool.and_eq_true] at hrest
      exact ⟨i, s, d, ds, by rw [hr], hi, hs, hrest⟩

/-- FloatValue as the grammar writes it: IntegerPart FractionalPart? ExponentPart?, not both absent -/
def FloatShape (w : Text) : Prop :=
  ∃ ip frac exp, w = ip ++ (frac ++ exp) ∧ Spec.Lexical.isIntegerPart ip = true ∧
    (frac = [] ∨ Spec.Lexical.isFractionalPart frac = true) ∧ (exp = [] ∨ Spec.Lexical.isExponentPart exp = true) ∧
    ¬ (frac = [] ∧ exp = [])

theorem floatShape_of_isFloatValue (w : Text) (h : Spec.Lexical.isFloatValue w = true) : FloatShape w := by
  simp only [Spec.Lexical.isFloatValue, Bool.and_eq_true, Bool.or_eq_true, List.isEmpty_iff, Bool.not_eq_true',
    Bool.and_eq_false_iff] at h
  obtain ⟨⟨⟨h1, h2⟩, h3⟩, h4⟩ := h
  refine ⟨_, _, _, ?_, h1, h2, h3, ?_⟩
  · rw [← List.append_assoc, List.takeWhile_append_dropWhile, List.takeWhile_append_dropWhile]
  · rintro ⟨a, b⟩
    rcases h4 with h4 | h4
    · rw [a] at h4; simp at h4
    · rw [b] at h4; simp at h4

theorem isIntegerPart_of_shape {s : Text} {d : Nat} {ds : Text} (hs : s = [] ∨ s = [45])
    (h : ((d == 48 && ds.isEmpty) || (Spec.Lexical.isNonZeroDigit d && ds.all Spec.Lexical.isDigit)) = true) :
    Spec.Lexical.isIntegerPart (s ++ d :: ds) = true := by
  have hd : d ≠ 45 := by
    rintro rfl
    simp [Spec.Lexical.isNonZeroDigit] at h
  have hstrip : Spec.Lexical.stripNegativeSign (s ++ d :: ds) = d :: ds := by
    rcases hs with rfl | rfl
    · unfold Spec.Lexical.stripNegativeSign
      split
      · rename_i t heq; exact absurd (List.cons.inj heq).1 hd
      · rfl
    · rfl
  rw [Spec.Lexical.isIntegerPart, hstrip]
  exact h

theorem isExponentPart_of_shape {i : Nat} {s : Text} {d : Nat} {ds : Text} (hi : i = 101 ∨ i = 69)
    (hs : s = [] ∨ s = [43] ∨ s = [45]) (hd : Spec.Lexical.isDigit d = true) (hds : ds.all Spec.Lexical.isDigit = true) :
    Spec.Lexical.isExponentPart (i :: (s ++ d :: ds)) = true := by
  have hd' : d ≠ 43 ∧ d ≠ 45 := by
    simp only [Spec.Lexical.isDigit, Bool.and_eq_true, decide_eq_true_eq] at hd
    omega
  have hstrip : Spec.Lexical.stripSign (s ++ d :: ds) = d :: ds := by
    rcases hs with rfl | rfl | rfl
    · unfold Spec.Lexical.stripSign
      split
      · rename_i t heq; exact absurd (List.cons.inj heq).1 hd'.1
      · rename_i t heq; exact absurd (List.cons.inj heq).1 hd'.2
      · rfl
    · rfl
    · rfl
  simp only [Spec.Lexical.isExponentPart, hstrip, hd, hds, Bool.and_self, Bool.and_true]
  rcases hi with rfl | rfl <;> rfl

/-- the characters of an IntegerPart: `-` and digits -/
theorem mem_integerPart {ip : Text} (h : Spec.Lexical.isIntegerPart ip = true) :
    ∀ x ∈ ip, x = 45 ∨ Spec.Lexical.isDigit x = true := by
  obtain ⟨s, d, ds, rfl, hs, hd, hdd⟩ := integerPart_shape h
  rw [isDigit_spec] at hd
  have hds : ∀ x ∈ ds, Spec.Lexical.isDigit x = true := by
    simp only [Bool.or_eq_true, Bool.and_eq_true, List.isEmpty_iff, List.all_eq_true] at hdd
    rcases hdd with ⟨_, rfl⟩ | ⟨_, h⟩
    · exact fun x hx => nomatch hx
    · exact h
  intro x hx
  rcases List.mem_append.1 hx with hx | hx
  · rcases hs with rfl | rfl
    · cases hx
    · exact .inl (List.mem_singleton.1 hx)
  · rcases List.mem_cons.1 hx with rfl | hx
    · exact .inr hd
    · exact .inr (hds x hx)

/-- the characters of a FractionalPart: `.` and digits -/
theorem mem_fractionalPart {frac : Text} (h : Spec.Lexical.isFractionalPart frac = true) :
    ∀ x ∈ frac, x = 46 ∨ Spec.Lexical.isDigit x = true := by
  obtain ⟨d, ds, rfl, hd, hds⟩ := fractionalPart_shape h
  intro x hx
  rcases List.mem_cons.1 hx with rfl | hx
  · exact .inl rfl
  · rcases List.mem_cons.1 hx with rfl | hx
    · exact .inr hd
    · exact .inr (List.all_eq_true.1 hds x hx)

/-- a text of the shape of a FloatValue is one: `isFloatValue` cuts it at the exponent indicator and at the dot, and no
    earlier character is one of them -/
theorem isFloatValue_of_shape {w : Text} (h : FloatShape w) : Spec.Lexical.isFloatValue w = true := by
  obtain ⟨ip, frac, exp, rfl, hip, hf, he, hne⟩ := h
  have hipm := mem_integerPart hip
  have hfrm : ∀ x ∈ frac, x = 46 ∨ Spec.Lexical.isDigit x = true := by
    rcases hf with rfl | hf
    · exact fun x hx => nomatch hx
    · exact mem_fractionalPart hf
  have notE : ∀ x, x = 45 ∨ x = 46 ∨ Spec.Lexical.isDigit x = true → (!(x == 101 || x == 69)) = true := by
    intro x hx
    simp only [Spec.Lexical.isDigit, Bool.and_eq_true, decide_eq_true_eq] at hx
    simp only [Bool.not_eq_true', Bool.or_eq_false_iff, beq_eq_false_iff_ne]
    omega
  -- split at the exponent indicator
  have hA : ∀ x ∈ ip ++ frac, (fun c => !(c == 101 || c == 69)) x = true := by
    intro x hx
    rcases List.mem_append.1 hx with hx | hx
    · exact notE x ((hipm x hx).imp id .inr)
    · exact notE x (.inr (hfrm x hx))
  have hexs : Spec.Lexical.startsWith (fun c => !(c == 101 || c == 69)) exp = false := by
    rcases he with rfl | he
    · rfl
    · obtain ⟨i, s, d, ds, rfl, hi, _⟩ := exponentPart_shape he
      rcases hi with rfl | rfl <;> rfl
  obtain ⟨hm, hx⟩ := takeWhile_append_stop _ (ip ++ frac) exp hA hexs
  -- split the mantissa at the dot
  have hB : ∀ x ∈ ip, (fun c => c != 46) x = true := by
    intro x hx
    have := hipm x hx
    simp only [Spec.Lexical.isDigit, Bool.and_eq_true, decide_eq_true_eq] at this
    simp only [bne_iff_ne, ne_eq]
    omega
  have hfrs : Spec.Lexical.startsWith (fun c => c != 46) frac = false := by
    rcases hf with rfl | hf
    · rfl
    · obtain ⟨d, ds, rfl, _⟩ := fractionalPart_shape hf
      rfl
  obtain ⟨hi, hfr⟩ := takeWhile_append_stop _ ip frac hB hfrs
  have hne' : (frac.isEmpty && exp.isEmpty) = false := by
    rw [Bool.eq_false_iff]
    simpa only [ne_eq, Bool.and_eq_true, List.isEmpty_iff] using hne
  rw [← List.append_assoc]
  unfold Spec.Lexical.isFloatValue
  simp only [hm, hx, hi, hfr, hip, hne', Bool.true_and, Bool.not_false, Bool.and_true]
  rcases hf with rfl | hf <;> rcases he with rfl | he <;> simp [*]

end PyGql.Lex
