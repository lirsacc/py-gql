/-
  C12 text level — the printer is invariant under RE-WRAPPING the descriptions of a schema (each at the indentation of
  its position), when the wrapped lines fit the width: `printSchemaT o (rewrapSchema i s) = printSchemaT o s`.
-/
import PyGqlModel.Lemmas.SdlTextRewrap
import PyGqlModel.Lemmas.SdlTextRedescribe
namespace PyGql.SdlText
open PyGql PyGql.Ast PyGql.Sdl PyGql.Spec PyGql.PrintLex PyGql.PrintTokens PyGql.PrintString PyGql.BlockString PyGql.Lex PyGql.SdlPrint


/-- the description read back from the printed text at indentation width `w` (empty descriptions are not printed) -/
def rewrapOpt (w : Nat) (d : Option String) : Option String := d.map fun x => if x.isEmpty then x else rewrapS w x

def rewrapArg (w : Nat) (a : ArgD) : ArgD := { a with desc := rewrapOpt w a.desc }
def rewrapField (i : Nat) (f : FieldD) : FieldD := { f with desc := rewrapOpt i f.desc, args := f.args.map (rewrapArg (2 * i)) }
def rewrapEnumVal (i : Nat) (v : EnumValD) : EnumValD := { v with desc := rewrapOpt i v.desc }
def rewrapType (i : Nat) (t : TypeD) : TypeD :=
  { t with desc := rewrapOpt 0 t.desc, fields := t.fields.map (rewrapField i), values := t.values.map (rewrapEnumVal i),
           inputFields := t.inputFields.map (rewrapArg i) }
def rewrapDirective (i : Nat) (d : DirectiveD) : DirectiveD := { d with desc := rewrapOpt 0 d.desc, args := d.args.map (rewrapArg i) }
/-- every description re-wrapped at the indentation of its position (`i` = length of the indent string) -/
def rewrapSchema (i : Nat) (s : SchemaD) : SchemaD :=
  { s with types := s.types.map (rewrapType i), directives := s.directives.map (rewrapDirective i) }

/-- a description may be re-wrapped: inside `descWrapOK` and its wrapped lines fit the width -/
def descRewrapOK (w : Nat) (d : Option String) : Bool :=
  match d with
  | none => true
  | some x => x.isEmpty || (descWrapOK w x && (wrappedOf w x).all (fun l => l.length ≤ 120 - w))

def argRewrapOK (w : Nat) (a : ArgD) : Bool := descRewrapOK w a.desc
def fieldRewrapOK (i : Nat) (f : FieldD) : Bool := descRewrapOK i f.desc && f.args.all (argRewrapOK (2 * i))
def typeRewrapOK (i : Nat) (t : TypeD) : Bool :=
  descRewrapOK 0 t.desc && t.fields.all (fieldRewrapOK i) && t.values.all (fun v => descRewrapOK i v.desc) &&
  t.inputFields.all (argRewrapOK i)
def directiveRewrapOK (i : Nat) (d : DirectiveD) : Bool := descRewrapOK 0 d.desc && d.args.all (argRewrapOK i)
def schemaRewrapOK (i : Nat) (s : SchemaD) : Bool := s.types.all (typeRewrapOK i) && s.directives.all (directiveRewrapOK i)


theorem rewrapS_nonempty (w : Nat) (x : String) (h : descWrapOK w x = true) : (rewrapS w x).isEmpty = false := by
  obtain ⟨l, ls, hW, f⟩ := wrapOK_facts w x h
  exact (rewrapS_facts w x hW f).2

theorem printDescription_rewrapOpt (o : SdlPrintT.OptsT) (d : Option String) (depth : Nat) (first : Bool)
    (h : descRewrapOK (depth * o.indent.length) d = true) :
    SdlPrintT.printDescription o (rewrapOpt (depth * o.indent.length) d) depth first = SdlPrintT.printDescription o d depth first := by
  cases d with
  | none => rfl
  | some x =>
    by_cases hx : x.isEmpty = true
    · simp only [rewrapOpt, Option.map_some, hx, if_true]
    · have hx' : x.isEmpty = false := by simpa using hx
      simp only [descRewrapOK, hx', Bool.false_or, Bool.and_eq_true, List.all_eq_true, decide_eq_true_eq] at h
      simp only [rewrapOpt, Option.map_some, hx', Bool.false_eq_true, if_false]
      by_cases hd : o.descriptions = true
      · exact printDescription_rewrap o hd x depth first h.1 h.2
      · have hd' : o.descriptions = false := by simpa using hd
        simp [SdlPrintT.printDescription, hd']

theorem rewrapOpt_cases (w : Nat) (d : Option String) (h : descRewrapOK w d = true) :
    rewrapOpt w d = d ∨ ∃ x y, d = some x ∧ rewrapOpt w d = some y ∧ x.isEmpty = false ∧ y.isEmpty = false := by
  cases d with
  | none => exact Or.inl rfl
  | some x =>
    by_cases hx : x.isEmpty = true
    · exact Or.inl (by simp only [rewrapOpt, Option.map_some, hx, if_true])
    · have hx' : x.isEmpty = false := by simpa using hx
      simp only [descRewrapOK, hx', Bool.false_or, Bool.and_eq_true] at h
      exact Or.inr ⟨x, rewrapS w x, rfl, by simp only [rewrapOpt, Option.map_some, hx', Bool.false_eq_true, if_false], hx',
        rewrapS_nonempty w x h.1⟩

/-- the emptiness of a description (what `print_arguments` looks at) survives -/
theorem rewrapOpt_nonempty (w : Nat) (d : Option String) (h : descRewrapOK w d = true) :
    (match rewrapOpt w d with | some x => !x.isEmpty | none => false) = (match d with | some x => !x.isEmpty | none => false) := by
  rcases rewrapOpt_cases w d h with e | ⟨x, y, rfl, e, hx, hy⟩
  · rw [e]; cases d <;> rfl
  · rw [e]; simp only [hx, hy]


/-- re-wrapping, as a replacement of descriptions by position -/
def rewrapMap (i : Nat) : DescMap := ⟨rewrapOpt 0, rewrapOpt i, rewrapOpt (2 * i)⟩

theorem descSame_rewrap (o : SdlPrintT.OptsT) (depth w : Nat) (hw : w = depth * o.indent.length) (d : Option String)
    (h : descRewrapOK w d = true) : DescSame o o depth (rewrapOpt w d) d := by
  subst hw
  exact fun first => printDescription_rewrapOpt o d depth first h

theorem argsSame_rewrap (o : SdlPrintT.OptsT) (depth w : Nat) (hw : w = (depth + 1) * o.indent.length) (as : List ArgD)
    (h : as.all (argRewrapOK w) = true) : ArgsSame o o depth (rewrapOpt w) as := by
  rw [List.all_eq_true] at h
  refine ⟨?_, fun a ha => descSame_rewrap o (depth + 1) w hw a.desc (h a ha)⟩
  simp only [SdlPrintT.multiArgs, List.any_map, Function.comp_def, withDescArg]
  congr 1
  induction as with
  | nil => rfl
  | cons a as ih =>
    simp only [List.any_cons, ih (fun x hx => h x (by simp [hx]))]
    congr 1
    rcases rewrapOpt_cases w a.desc (h a (by simp)) with e | ⟨x, y, e', e, hx, hy⟩
    · rw [e]
    · rw [e, e']; simp only [hx, hy]

theorem printSchemaT_rewrap (o : SdlPrintT.OptsT) (s : SchemaD) (h : schemaRewrapOK o.indent.length s = true) :
    SdlPrintT.printSchemaT o (rewrapSchema o.indent.length s) = SdlPrintT.printSchemaT o s := by
  simp only [schemaRewrapOK, Bool.and_eq_true, List.all_eq_true] at h
  have d0 := descSame_rewrap o 0 0 (by omega)
  have d1 := descSame_rewrap o 1 o.indent.length (by omega)
  have a0 := argsSame_rewrap o 0 o.indent.length (by omega)
  have a1 := argsSame_rewrap o 1 (2 * o.indent.length) (by omega)
  refine printSchemaT_redescribe (o' := o) rfl (rewrapMap o.indent.length) s (fun t ht => ?_) (fun d hd => ?_)
  · have ht' := h.1 t ht
    simp only [typeRewrapOK, Bool.and_eq_true, List.all_eq_true] at ht'
    obtain ⟨⟨⟨h0, hf⟩, hv⟩, hi⟩ := ht'
    refine ⟨d0 _ h0, fun f hf' => ?_, fun v hv' => d1 _ (hv v hv'), fun a ha => d1 _ (hi a ha)⟩
    have := hf f hf'
    simp only [fieldRewrapOK, Bool.and_eq_true] at this
    exact ⟨d1 _ this.1, a1 _ this.2⟩
  · have hd' := h.2 d hd
    simp only [directiveRewrapOK, Bool.and_eq_true] at hd'
    exact ⟨d0 _ hd'.1, a0 _ hd'.2⟩

end PyGql.SdlText
