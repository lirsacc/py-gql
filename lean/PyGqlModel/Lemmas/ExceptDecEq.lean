/-
  `Except ε α` has decidable equality when both sides have (core does not declare it): the result of a run of a model
  function on a concrete input is compared with the expected one by evaluation.
-/
namespace PyGql

instance Except.decEq {ε : Type u} {α : Type v} [DecidableEq ε] [DecidableEq α] : DecidableEq (Except ε α)
  | .ok a, .ok b => decidable_of_iff (a = b) (Except.ok.injEq ..).symm.to_iff
  | .error a, .error b => decidable_of_iff (a = b) (Except.error.injEq ..).symm.to_iff
  | .ok _, .error _ | .error _, .ok _ => isFalse (fun h => by cases h)

end PyGql
