/-
  C14 — member-level provenance of the registry entries through `on_schema` rounds, `fix_type_references` and lists of visitors:
  for any visitors (resolvers possibly replaced by wrappers), and for those that replace no resolver.
-/
import PyGqlModel.Lemmas.HeapMembers

namespace PyGql.Heap.Own
open PyGql.Heap

variable {W : Nat → Prop}

/-- entry `e'` (heap `h`) is a copy — attributes AND members — of the source's entry of the same name -/
def EntRelW (W : Nat → Prop) (ρ : String → String) (h0 : Heap) (reg0 : List (String × Addr)) (h : Heap) (e' : String × Addr) : Prop :=
  ∃ e, e ∈ reg0 ∧ e.1 = e'.1 ∧ ∀ t0, h0.readType e.2 = some t0 → TRelW W ρ h0 h t0 e'.2

def MemOriginW (W : Nat → Prop) (ρ : String → String) (h0 : Heap) (reg0 : List (String × Addr)) (h : Heap) (reg : List (String × Addr)) : Prop :=
  ∀ e', e' ∈ reg → isProtected e'.1 = true ∨ EntRelW W ρ h0 reg0 h e'

theorem EntRelW.keep {ρ : String → String} {h0 : Heap} {reg0 : List (String × Addr)} {h h' : Heap} (st : StepImp chkT h h') {e' : String × Addr}
    (r : EntRelW W ρ h0 reg0 h e') : EntRelW W ρ h0 reg0 h' e' := by
  obtain ⟨e, he, hn, hr⟩ := r
  exact ⟨e, he, hn, fun t0 ht0 => (hr t0 ht0).keep st⟩

theorem EntRelW.onType (v : Visitor) (hv : Wraps W v) (reg : List (String × Addr)) {ρ : String → String} {h0 : Heap}
    {reg0 : List (String × Addr)} {h1 h' : Heap} {e : String × Addr} (r : EntRelW W ρ h0 reg0 h1 e)
    (st : StepImp chkT (onType v reg h1 e.2).1 h') {a' : Addr} (ea : (onType v reg h1 e.2).2 = some a') :
    EntRelW W (renAfter v ρ) h0 reg0 h' (e.1, a') := by
  obtain ⟨e0, he0, hn0, hr0⟩ := r
  exact ⟨e0, he0, hn0, fun t0 ht0 => (onType_memW v hv reg ρ h0 h1 e.2 t0 (hr0 t0 ht0) a' ea).keep st⟩

theorem visitTypes_memW (v : Visitor) (hv : Wraps W v) (reg : List (String × Addr)) (ρ : String → String) (h0 : Heap) (reg0 : List (String × Addr))
    (l : List (String × Addr)) (h : Heap) (hin : ∀ e, e ∈ l → isProtected e.1 = false → EntRelW W ρ h0 reg0 h e) :
      (∀ e, e ∈ l → isProtected e.1 = false →
        (∃ x, x ∈ (visitTypes v reg h l).2 ∧ x.1 = e.1) ∨ EntRelW W (renAfter v ρ) h0 reg0 (visitTypes v reg h l).1 e) ∧
      (∀ x, x ∈ (visitTypes v reg h l).2 → ∀ a', x.2 = some a' → EntRelW W (renAfter v ρ) h0 reg0 (visitTypes v reg h l).1 (x.1, a')) := by
  obtain ⟨_, f1, f2⟩ := visitTypes_out v reg (R := StepImp chkT) (Pre := EntRelW W ρ h0 reg0) (StepImp.refl chkT)
    (fun _ _ _ => StepImp.trans) (fun _ _ _ st r => r.keep st) (fun h e _ => onType_step v reg h e.2 chkT (compat_true v reg)) l h hin
  refine ⟨fun e he hq => ?_, fun x hx a' ea => ?_⟩
  · obtain ⟨h1, p1, _, st, hs | hm⟩ := f1 e he hq
    · exact Or.inr (p1.onType v hv reg st hs)
    · exact Or.inl ⟨_, hm, rfl⟩
  · obtain ⟨e, h1, _, _, p1, _, st, rfl, _⟩ := f2 x hx
    exact p1.onType v hv reg st ea

theorem round_memW (cfg : Cfg) (v : Visitor) (hv : Wraps W v) (ρ : String → String) (h0 : Heap) (reg0 : List (String × Addr)) (s : Schema) (h : Heap)
    (ho : MemOriginW W ρ h0 reg0 h s.types) :
    MemOriginW W (renAfter v ρ) h0 reg0 (visitAll v s h).1 (replaceCore cfg s (visitAll v s h).2.1 (visitAll v s h).2.2).1.types := by
  have stD := visitDirs_step v s.types s.dirs (visitTypes v s.types h s.types).1 chkT (compat_true v s.types)
  obtain ⟨f1, f2⟩ := visitTypes_memW v hv s.types ρ h0 reg0 s.types h (fun e he hnp => by
    rcases ho e he with hp | hr
    · simp [hnp] at hp
    · exact hr)
  simp only [replaceCore, visitAll]
  apply replaceTypes_pred cfg (fun e' => isProtected e'.1 = true ∨ EntRelW W (renAfter v ρ) h0 reg0 (visitDirs v s.types (visitTypes v s.types h s.types).1 s.dirs).1 e')
  · intro x hx a' ea
    exact Or.inr ((f2 x hx a' ea).keep stD)
  · intro e' he'
    by_cases hp : isProtected e'.1 = true
    · exact Or.inl (Or.inl hp)
    · have hnp : isProtected e'.1 = false := by simpa using hp
      rcases f1 e' he' hnp with ⟨x, hx, hxe⟩ | hr
      · exact Or.inr (List.mem_map.mpr ⟨x, hx, hxe⟩)
      · exact Or.inl (Or.inr (hr.keep stD))

theorem healLoop_memW (cfg : Cfg) (ρ : String → String) (h0 : Heap) (reg0 : List (String × Addr)) : ∀ (fuel : Nat) (s : Schema) (h h' : Heap) (s' : Schema),
    MemOriginW W ρ h0 reg0 h s.types → healLoop cfg fuel s h = some (h', s') → MemOriginW W ρ h0 reg0 h' s'.types :=
  healLoop_ind cfg (J := fun h s => MemOriginW W ρ h0 reg0 h s.types) (round_memW cfg .heal trivial ρ h0 reg0)

theorem onSchema_memW (cfg : Cfg) (fuel : Nat) (v : Visitor) (hv : Wraps W v) (ρ : String → String) (h0 : Heap) (reg0 : List (String × Addr))
    (s : Schema) (h h' : Heap) (s' : Schema) (ho : MemOriginW W ρ h0 reg0 h s.types) (e : onSchema cfg fuel v s h = some (h', s')) :
    MemOriginW W (renAfter v ρ) h0 reg0 h' s'.types :=
  onSchema_ind cfg fuel v (J := fun h s => MemOriginW W (renAfter v ρ) h0 reg0 h s.types) (round_memW cfg v hv ρ h0 reg0 s h ho)
    (round_memW cfg .heal trivial _ h0 reg0) e

/-- the renaming a list of visitors applies, first visitor first -/
def renAll : List Visitor → (String → String) → String → String
  | [], ρ => ρ
  | v :: vs, ρ => renAll vs (renAfter v ρ)

theorem renAll_eq_foldl : ∀ (vs : List Visitor) (ρ : String → String), renAll vs ρ = vs.foldl (fun ρ v => renAfter v ρ) ρ
  | [], _ => rfl
  | _ :: vs, _ => renAll_eq_foldl vs _

theorem transformFrom_memW (cfg : Cfg) (fuel : Nat) (h0 : Heap) (reg0 : List (String × Addr)) : ∀ (vs : List Visitor), (∀ v, v ∈ vs → Wraps W v) →
    ∀ (ρ : String → String) (h : Heap) (s : Schema) (h' : Heap) (s' : Schema), MemOriginW W ρ h0 reg0 h s.types →
      transformFrom cfg fuel vs (h, s) = some (h', s') → MemOriginW W (renAll vs ρ) h0 reg0 h' s'.types :=
  fun vs hv ρ h s h' s' ho e => renAll_eq_foldl vs ρ ▸
    transformFrom_ind cfg fuel (I := fun ρ h s => MemOriginW W ρ h0 reg0 h s.types) renAfter vs
      (fun v hm ρ s h h' s' ho e => onSchema_memW cfg fuel v (hv v hm) ρ h0 reg0 s h h' s' ho e) ρ h s h' s' ho e

end PyGql.Heap.Own

/-!
  member-level provenance for visitors that replace no resolver (`NoWrap`): the strong relations through
  `fix_type_references`, `on_schema` and lists of visitors, as the case `W = fun _ => False` of the above.
-/

namespace PyGql.Heap.Own
open PyGql.Heap

def EntRel (ρ : String → String) (h0 : Heap) (reg0 : List (String × Addr)) (h : Heap) (e' : String × Addr) : Prop :=
  ∃ e, e ∈ reg0 ∧ e.1 = e'.1 ∧ ∀ t0, h0.readType e.2 = some t0 → TRel ρ h0 h t0 e'.2

def MemOrigin (ρ : String → String) (h0 : Heap) (reg0 : List (String × Addr)) (h : Heap) (reg : List (String × Addr)) : Prop :=
  ∀ e', e' ∈ reg → isProtected e'.1 = true ∨ EntRel ρ h0 reg0 h e'

theorem MemOriginW.of_strong {W : Nat → Prop} {ρ : String → String} {h0 : Heap} {reg0 : List (String × Addr)} {h : Heap}
    {reg : List (String × Addr)} (ho : MemOrigin ρ h0 reg0 h reg) : MemOriginW W ρ h0 reg0 h reg :=
  fun e' he' => (ho e' he').imp id fun ⟨e, he, hn, hr⟩ => ⟨e, he, hn, fun t0 ht0 => .of_strong (hr t0 ht0)⟩

theorem MemOrigin.of_weak {ρ : String → String} {h0 : Heap} {reg0 : List (String × Addr)} {h : Heap}
    {reg : List (String × Addr)} (ho : MemOriginW (fun _ => False) ρ h0 reg0 h reg) : MemOrigin ρ h0 reg0 h reg :=
  fun e' he' => (ho e' he').imp id fun ⟨e, he, hn, hr⟩ => ⟨e, he, hn, fun t0 ht0 => .of_weak (hr t0 ht0)⟩

theorem NoWrap.wraps {v : Visitor} (hv : NoWrap v) : Wraps (fun _ => False) v := by
  cases v with
  | sdir d w => exact hv.elim
  | _ => trivial

theorem healLoop_mem (cfg : Cfg) (ρ : String → String) (h0 : Heap) (reg0 : List (String × Addr)) : ∀ (fuel : Nat) (s : Schema) (h h' : Heap) (s' : Schema),
    MemOrigin ρ h0 reg0 h s.types → healLoop cfg fuel s h = some (h', s') → MemOrigin ρ h0 reg0 h' s'.types :=
  fun fuel s h h' s' ho e => .of_weak (healLoop_memW cfg ρ h0 reg0 fuel s h h' s' (.of_strong ho) e)

theorem onSchema_mem (cfg : Cfg) (fuel : Nat) (v : Visitor) (hv : NoWrap v) (ρ : String → String) (h0 : Heap) (reg0 : List (String × Addr))
    (s : Schema) (h h' : Heap) (s' : Schema) (ho : MemOrigin ρ h0 reg0 h s.types) (e : onSchema cfg fuel v s h = some (h', s')) :
    MemOrigin (renAfter v ρ) h0 reg0 h' s'.types :=
  .of_weak (onSchema_memW cfg fuel v hv.wraps ρ h0 reg0 s h h' s' (.of_strong ho) e)

theorem transformFrom_mem (cfg : Cfg) (fuel : Nat) (h0 : Heap) (reg0 : List (String × Addr)) : ∀ (vs : List Visitor), (∀ v, v ∈ vs → NoWrap v) →
    ∀ (ρ : String → String) (h : Heap) (s : Schema) (h' : Heap) (s' : Schema), MemOrigin ρ h0 reg0 h s.types →
      transformFrom cfg fuel vs (h, s) = some (h', s') → MemOrigin (renAll vs ρ) h0 reg0 h' s'.types :=
  fun vs hv ρ h s h' s' ho e =>
    .of_weak (transformFrom_memW cfg fuel h0 reg0 vs (fun v hm => (hv v hm).wraps) ρ h s h' s' (.of_strong ho) e)

end PyGql.Heap.Own
