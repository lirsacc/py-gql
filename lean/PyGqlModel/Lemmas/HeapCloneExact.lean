/-
  C14 — `Schema.clone` of a closed schema = the COPYING phase followed by an exact healing (`HeapHealExact.lean`):
  the registry of the clone is the one the copying phase built, the heap is the copied heap up to the addresses inside type
  references (`NVeq`); by-name views of objects (`argV` / `fieldV` / `typeV` / `dirV`) are invariant under `NVeq`.
-/
import PyGqlModel.Lemmas.HeapHealExact
import PyGqlModel.Lemmas.HeapCloneClosed
import PyGqlModel.Lemmas.HeapVisibility

namespace PyGql.Heap.Own
open PyGql.Heap

/-- heap and schema `clone()` hands to `fix_type_references`: every type / directive copied, the registry pointing to the copies -/
def cloneStart (cfg : Cfg) (s : Schema) (h : Heap) : Heap × Schema :=
  ((cloneDirs cfg (cloneTypes cfg h s.types).1 s.dirs).1,
   (replaceCore cfg { types := cloneRegistry cfg s h, dirs := [], query := s.query, mutation := s.mutation, subscription := s.subscription, dres := none }
      (cloneTypes cfg h s.types).2 (cloneDirs cfg (cloneTypes cfg h s.types).1 s.dirs).2).1)

theorem cloneTypes_some (cfg : Cfg) (l : List (String × Addr)) (h : Heap) : ∀ x, x ∈ (cloneTypes cfg h l).2 → x.2 ≠ none :=
  fun x hx => (cloneTypes_reported cfg l h x hx).2

theorem cloneStart_ready (cfg : Cfg) (hd : cfg.deepClone = true) (hk : cfg.keepAllTypes = true) (s : Schema) (h : Heap)
    (hcl : closedB h s = true) (w : WFs (refOK s.types) h s) : HealReady (cloneStart cfg s h).1 (cloneStart cfg s h).2 := by
  have ws := clone_start_wfs_gen (fun r => (lookup s.types r.name).isSome) cfg hd s h hcl w
    (fun r hr => by simp only [refOK_lookup hr, Option.isSome_some])
  apply healReady_of_wfs ws
  intro r hr
  simp only [nameIn, replaceCore]
  apply lookup_isSome_of_name
  apply replaceTypes_names cfg _ _ _ (cloneTypes_some cfg s.types h)
  obtain ⟨a, ha⟩ := Option.isSome_iff_exists.mp hr
  exact lookup_isSome_name (cloneRegistry_lookup cfg hk s h hcl w.nodup r.name a ha)

theorem clone_exact (cfg : Cfg) (fuel : Nat) (s : Schema) (h h' : Heap) (s' : Schema)
    (hr : HealReady (cloneStart cfg s h).1 (cloneStart cfg s h).2) (e : clone cfg fuel s h = some (h', s')) :
    s'.types = (cloneStart cfg s h).2.types ∧ s'.dirs = (cloneStart cfg s h).2.dirs ∧ NVeq (cloneStart cfg s h).1 h' := by
  simp only [clone] at e
  split at e
  · cases e
  · rename_i h1 s1 hrep
    simp only [Option.some.injEq, Prod.mk.injEq] at e
    obtain ⟨rfl, rfl⟩ := e
    simp only [replaceTD] at hrep
    split at hrep
    · cases fuel with
      | zero => simp [healLoop] at hrep
      | succ f =>
        obtain ⟨h2, e2, n2⟩ := healLoop_exact cfg f (cloneStart cfg s h).2 (cloneStart cfg s h).1 hr
        simp only [cloneStart] at e2
        rw [e2] at hrep
        simp only [Option.some.injEq, Prod.mk.injEq] at hrep
        obtain ⟨rfl, rfl⟩ := hrep
        exact ⟨rfl, rfl, n2⟩
    · simp only [Option.some.injEq, Prod.mk.injEq] at hrep
      obtain ⟨rfl, rfl⟩ := hrep
      exact ⟨rfl, rfl, NVeq.refl _⟩

/-- an argument / input field without addresses: name, type BY NAME, python name, default, description -/
def argV (h : Heap) (a : Addr) : Option ArgO := (h.readArg a).map fun g => { g with ty := eraseT g.ty }

/-- a field without addresses + the views of its arguments, in order -/
def fieldV (h : Heap) (a : Addr) : Option (FieldO × List (Option ArgO)) :=
  (h.readField a).map fun f => ({ f with ty := eraseT f.ty, args := [] }, f.args.map (argV h))

/-- a type without addresses (interfaces / members by name) + the views of its members (fields, or input fields), in order -/
def typeV (h : Heap) (a : Addr) : Option (TypeO × List (Option (FieldO × List (Option ArgO))) × List (Option ArgO)) :=
  (h.readType a).map fun t => ({ t with fields := [], ifaces := eraseRefs t.ifaces, members := eraseRefs t.members },
    (match t.kind with | .object | .interface => t.fields.map (fieldV h) | _ => []),
    (match t.kind with | .input => t.fields.map (argV h) | _ => []))

def dirV (h : Heap) (a : Addr) : Option (DirO × List (Option ArgO)) := (h.readDir a).map fun d => ({ d with args := [] }, d.args.map (argV h))

def argOfE : Obj → Option ArgO | .arg g => some g | _ => none

theorem argV_erased (h : Heap) (a : Addr) : argV h a = ((h.read a).map eraseR).bind argOfE := by
  simp only [argV, Heap.readArg]
  cases h.read a with
  | none => rfl
  | some o => cases o <;> rfl

theorem argV_nveq {h h' : Heap} (n : NVeq h h') (a : Addr) : argV h' a = argV h a := by
  rw [argV_erased, argV_erased, n a]

def fieldOfE (av : Addr → Option ArgO) : Obj → Option (FieldO × List (Option ArgO))
  | .field f => some ({ f with args := [] }, f.args.map av)
  | _ => none

theorem fieldV_erased (h : Heap) (a : Addr) : fieldV h a = ((h.read a).map eraseR).bind (fieldOfE (argV h)) := by
  simp only [fieldV, Heap.readField]
  cases h.read a with
  | none => rfl
  | some o => cases o <;> rfl

theorem fieldV_nveq {h h' : Heap} (n : NVeq h h') (a : Addr) : fieldV h' a = fieldV h a := by
  rw [fieldV_erased, fieldV_erased, n a, funext (argV_nveq n)]

def typeOfE (fv : Addr → Option (FieldO × List (Option ArgO))) (av : Addr → Option ArgO) :
    Obj → Option (TypeO × List (Option (FieldO × List (Option ArgO))) × List (Option ArgO))
  | .type t => some ({ t with fields := [] }, (match t.kind with | .object | .interface => t.fields.map fv | _ => []),
                     (match t.kind with | .input => t.fields.map av | _ => []))
  | _ => none

theorem typeV_erased (h : Heap) (a : Addr) : typeV h a = ((h.read a).map eraseR).bind (typeOfE (fieldV h) (argV h)) := by
  simp only [typeV, Heap.readType]
  cases h.read a with
  | none => rfl
  | some o => cases o <;> rfl

theorem typeV_nveq {h h' : Heap} (n : NVeq h h') (a : Addr) : typeV h' a = typeV h a := by
  rw [typeV_erased, typeV_erased, n a, funext (argV_nveq n), funext (fieldV_nveq n)]

def dirOfE (av : Addr → Option ArgO) : Obj → Option (DirO × List (Option ArgO))
  | .dir d => some ({ d with args := [] }, d.args.map av)
  | _ => none

theorem dirV_erased (h : Heap) (a : Addr) : dirV h a = ((h.read a).map eraseR).bind (dirOfE (argV h)) := by
  simp only [dirV, Heap.readDir]
  cases h.read a with
  | none => rfl
  | some o => cases o <;> rfl

theorem dirV_nveq {h h' : Heap} (n : NVeq h h') (a : Addr) : dirV h' a = dirV h a := by
  rw [dirV_erased, dirV_erased, n a, funext (argV_nveq n)]

end PyGql.Heap.Own
