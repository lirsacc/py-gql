/-
  C04 — directive failures, declaratively: `DirFail obj sels` holds when, in the UNPRUNED expansion of `sels` for object
  type `obj`, some selection that is met has an `@skip`/`@include` condition that cannot be evaluated.
  The collect-level refinement is proved over `Met` (`Lemmas/C04Met.lean`, `C04Reach.lean`, `C04Sim.lean`): `mseq_sound`
  names the met selection behind a `CoercionError` of the model's collector, `sseq_facts` excludes one after a successful
  run of the specification's. `dirFail_iff_met` states `DirFail` in those terms; no other file imports this one.
-/
import PyGqlModel.Lemmas.C04Reach


namespace PyGql.Props.C04
open PyGql PyGql.Exec PyGql.Spec PyGql.Lemmas.C04Raise

section
variable (s : SchemaD) (doc : Doc) (vars : Vars)

inductive DirFail (obj : String) : List Sel → Prop
  | here {sels x e} : x ∈ sels → skipSelection vars (ownDirs x) = .error e → DirFail obj sels
  | inline {sels on dirs sub} : Sel.inline on dirs sub ∈ sels → skipSelection vars dirs = .ok false →
      fragmentTypeApplies s obj on = .ok true → DirFail obj sub → DirFail obj sels
  | spread {sels name dirs fr} : Sel.spread name dirs ∈ sels → skipSelection vars dirs = .ok false →
      doc.fragment? name = some fr → fragmentTypeApplies s obj (some fr.on) = .ok true → DirFail obj fr.sels → DirFail obj sels

variable {s doc vars}

theorem DirFail.mono {obj : String} {a b : List Sel} (h : DirFail s doc vars obj a) (hab : ∀ x ∈ a, x ∈ b) :
    DirFail s doc vars obj b := by
  cases h with
  | here hm he => exact .here (hab _ hm) he
  | inline hm hs ha hr => exact .inline (hab _ hm) hs ha hr
  | spread hm hs hf ha hr => exact .spread (hab _ hm) hs hf ha hr

theorem DirFail.cons_split {obj : String} {x : Sel} {xs : List Sel} (h : DirFail s doc vars obj (x :: xs)) :
    DirFail s doc vars obj [x] ∨ DirFail s doc vars obj xs := by
  cases h with
  | here hm he =>
    simp at hm
    rcases hm with rfl | hm
    · exact Or.inl (.here (by simp) he)
    · exact Or.inr (.here hm he)
  | inline hm hs ha hr =>
    simp at hm
    rcases hm with rfl | hm
    · exact Or.inl (.inline (by simp) hs ha hr)
    · exact Or.inr (.inline hm hs ha hr)
  | spread hm hs hf ha hr =>
    simp at hm
    rcases hm with rfl | hm
    · exact Or.inl (.spread (by simp) hs hf ha hr)
    · exact Or.inr (.spread hm hs hf ha hr)

theorem DirFail.head {obj : String} {x : Sel} {xs : List Sel} (h : DirFail s doc vars obj [x]) : DirFail s doc vars obj (x :: xs) :=
  h.mono (by intro y hy; simp at hy; simp [hy])

theorem DirFail.tail {obj : String} {x : Sel} {xs : List Sel} (h : DirFail s doc vars obj xs) : DirFail s doc vars obj (x :: xs) :=
  h.mono (by intro y hy; simp [hy])

theorem not_dirFail_nil {obj : String} : ¬ DirFail s doc vars obj [] := by
  intro h; cases h <;> simp_all

theorem not_dirFail_field {obj key name loc dirs args hs sub} {b : Bool} (hsk : skipSelection vars dirs = .ok b) :
    ¬ DirFail s doc vars obj [Sel.field key name loc dirs args hs sub] := by
  intro h
  cases h with
  | here hm he => simp at hm; subst hm; simp [ownDirs, hsk] at he
  | inline hm => simp at hm
  | spread hm => simp at hm

theorem not_dirFail_inline_dropped {obj on dirs sub} {b : Bool} (hsk : skipSelection vars dirs = .ok b)
    (hdrop : b = true ∨ fragmentTypeApplies s obj on = .ok false) : ¬ DirFail s doc vars obj [Sel.inline on dirs sub] := by
  intro h
  cases h with
  | here hm he => simp at hm; subst hm; simp [ownDirs, hsk] at he
  | inline hm hs' ha' =>
    simp at hm; obtain ⟨rfl, rfl, rfl⟩ := hm
    rcases hdrop with rfl | hd
    · simp [hsk] at hs'
    · simp [hd] at ha'
  | spread hm => simp at hm

theorem not_dirFail_inline_expanded {obj on dirs sub} {b : Bool} (hsk : skipSelection vars dirs = .ok b)
    (hsub : ¬ DirFail s doc vars obj sub) : ¬ DirFail s doc vars obj [Sel.inline on dirs sub] := by
  intro h
  cases h with
  | here hm he => simp at hm; subst hm; simp [ownDirs, hsk] at he
  | inline hm hs' ha' hr' => simp at hm; obtain ⟨rfl, rfl, rfl⟩ := hm; exact hsub hr'
  | spread hm => simp at hm

theorem not_dirFail_spread {obj name dirs} {b : Bool} (hsk : skipSelection vars dirs = .ok b)
    (hsafe : b = true ∨ ∀ fr, doc.fragment? name = some fr → fragmentTypeApplies s obj (some fr.on) = .ok true →
      ¬ DirFail s doc vars obj fr.sels) : ¬ DirFail s doc vars obj [Sel.spread name dirs] := by
  intro h
  cases h with
  | here hm he => simp at hm; subst hm; simp [ownDirs, hsk] at he
  | inline hm => simp at hm
  | spread hm hs' hf' ha' hr' =>
    simp at hm; obtain ⟨rfl, rfl⟩ := hm
    rcases hsafe with rfl | hsafe
    · simp [hsk] at hs'
    · exact hsafe _ hf' ha' hr'

theorem dirFail_iff_met {obj : String} {sels : List Sel} :
    DirFail s doc vars obj sels ↔ ∃ x e, Met s doc vars obj sels x ∧ skipSelection vars (ownDirs x) = .error e := by
  constructor
  · intro h
    induction h with
    | here hm he => exact ⟨_, _, .here hm, he⟩
    | inline hm hs ha _ ih =>
      obtain ⟨y, e, hy, he⟩ := ih
      exact ⟨y, e, .under hm (.inline hs ha) hy, he⟩
    | spread hm hs hf ha _ ih =>
      obtain ⟨y, e, hy, he⟩ := ih
      exact ⟨y, e, .under hm (.spread hs hf ha) hy, he⟩
  · rintro ⟨x, e, hm, he⟩
    induction hm with
    | here hm => exact .here hm he
    | under hm ho _ ih =>
      cases ho with
      | inline hs ha => exact .inline hm hs ha (ih he)
      | spread hs hf ha => exact .spread hm hs hf ha (ih he)

end
end PyGql.Props.C04
