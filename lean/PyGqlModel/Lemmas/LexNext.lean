/-
  `__next__` in two steps: it skips exactly an ignored run (`readOverWhitespace_complete`, `next_skip`), and at a token start it is the
  reader that the first character selects — one equation per branch of the dispatch (`next_symbol`, `next_dot`, `next_tq`,
  `next_quote`, `next_number`, `next_nameStart`).  What a proof about one kind of lexeme needs from `next` is its equation;
  the facts about first characters that make the other branches fail are used here and nowhere else.
-/
import PyGqlModel.Lemmas.LexChars
import PyGqlModel.Lemmas.ListBasics
namespace PyGql.Lex
open PyGql.Spec.Lexical PyGql.Generated.LexTables

theorem readOverWhitespace_true_eq (Y : Text) (h : startsWith Lex.isCommentChar Y = false) :
    readOverWhitespace true Y = readOverWhitespace false Y := by
  cases Y with
  | nil => rfl
  | cons c t =>
    simp only [startsWith] at h
    unfold readOverWhitespace
    simp [h]

theorem readOverWhitespace_comment_body (body Y : Text) (hb : ∀ x ∈ body, Lex.isCommentChar x = true) :
    readOverWhitespace true (body ++ Y) = readOverWhitespace true Y := by
  induction body with
  | nil => rfl
  | cons c t ih =>
    have hc := hb c (by simp)
    rw [List.cons_append, readOverWhitespace]
    simp only [hc, Bool.and_self, ↓reduceIte]
    exact ih (fun x hx => hb x (by simp [hx]))

/-- the character a token can start with: not ignored, not `#` -/
def tokenStart (X : Text) : Prop := startsWith (fun c => Lex.isIgnored c || c == 35) X = false

theorem tokenStart_cons (c : Nat) (t : Text) (h : (Lex.isIgnored c || c == 35) = false) : tokenStart (c :: t) := h

theorem readOverWhitespace_stop (X : Text) (hX : tokenStart X) : readOverWhitespace false X = X := by
  cases X with
  | nil => rfl
  | cons c t =>
    simp only [tokenStart, startsWith, Bool.or_eq_false_iff, beq_eq_false_iff_ne] at hX
    unfold readOverWhitespace
    simp [hX.1, hX.2]

theorem readOverWhitespace_complete (X ign : Text) (hrun : IgnRun X ign) (hX : tokenStart X) :
    readOverWhitespace false (ign ++ X) = X := by
  induction hrun with
  | nil => exact readOverWhitespace_stop X hX
  | char c t hc _ ih =>
    rw [List.cons_append, readOverWhitespace]
    have : Lex.isIgnored c = true := by rw [isIgnored_spec]; exact hc
    simp only [Bool.false_and, Bool.false_eq_true, ↓reduceIte, this]
    exact ih
  | comment body t hbody hstop _ ih =>
    have h35 : Lex.isIgnored 35 = false := by decide
    have hbody' : ∀ x ∈ body, Lex.isCommentChar x = true := fun x hx => by
      rw [isCommentChar_spec]; exact hbody x hx
    have hstop' : startsWith Lex.isCommentChar (t ++ X) = false := by
      have : Lex.isCommentChar = Spec.Lexical.isCommentChar := funext isCommentChar_spec
      rw [this]; exact hstop
    rw [List.cons_append, readOverWhitespace]
    simp only [Bool.false_and, Bool.false_eq_true, ↓reduceIte, h35]
    rw [List.append_assoc, readOverWhitespace_comment_body body _ hbody', readOverWhitespace_true_eq _ hstop']
    exact ih

theorem next_skip (n : Nat) (ign X : Text) (hrun : IgnRun X ign) (hX : tokenStart X) :
    next n (ign ++ X) = next n X := by
  unfold next
  rw [readOverWhitespace_complete _ _ hrun hX, readOverWhitespace_stop _ hX]

@[elab_as_elim]
theorem forall_of_contains {l : List Nat} {p : Nat → Prop} {c : Nat} (h : l.contains c = true) (hl : ∀ x ∈ l, p x) :
    p c :=
  hl c (List.contains_iff_mem.1 h)

/-- a character of `SYMBOLS` is printable, neither ignored nor `#` -/
theorem symbol_start {c : Nat} {k : TokKind} (h : symbolKind c = some k) :
    Lex.isIgnored c = false ∧ c ≠ 35 ∧ Lex.isPrintable c = true := by
  have key : ∀ p ∈ symbols, Lex.isIgnored p.1 = false ∧ p.1 ≠ 35 ∧ Lex.isPrintable p.1 = true := by decide +kernel
  obtain ⟨s, hs, -⟩ := Option.bind_eq_some_iff.1 h
  exact key (c, s) (List.mem_of_lookup_eq_some hs)

/-- `-` or a digit: printable, not ignored, no punctuator, neither `.` nor `"` -/
theorem digit_start (c : Nat) (h : c = 45 ∨ Lex.isDigit c = true) :
    Lex.isIgnored c = false ∧ c ≠ 35 ∧ Lex.isPrintable c = true ∧ symbolKind c = none ∧ c ≠ 46 ∧ c ≠ 34 := by
  rcases h with rfl | h
  · decide +kernel
  · refine forall_of_contains h ?_
    decide +kernel

/-- a NameStart character: printable, not ignored, no punctuator, none of `.` `"` `-`, no digit -/
theorem nameStart_start (c : Nat) (h : Spec.Lexical.isNameStart c = true) :
    Lex.isIgnored c = false ∧ c ≠ 35 ∧ Lex.isPrintable c = true ∧ symbolKind c = none ∧ c ≠ 46 ∧ c ≠ 34 ∧
      (decide (c = 45) || Lex.isDigit c) = false := by
  have hn : c = 95 ∨ (65 ≤ c ∧ c ≤ 90) ∨ (97 ≤ c ∧ c ≤ 122) := by
    simpa [Spec.Lexical.isNameStart, Spec.Lexical.isLetter] using h
  have hs : symbolKind c = none := by
    rw [← Option.not_isSome_iff_eq_none]
    intro hk
    have hc := symbolKind_key hk
    simp only [symbols, List.map_cons, List.map_nil, List.mem_cons, List.not_mem_nil, or_false] at hc
    omega
  simp only [hs, isDigit_spec, isIgnored_spec, Lex.isPrintable, Spec.Lexical.isDigit, isIgnoredChar, Bool.or_eq_true,
    Bool.or_eq_false_iff, Bool.and_eq_false_iff, decide_eq_true_eq, decide_eq_false_iff_not, beq_iff_eq,
    beq_eq_false_iff_ne, true_and]
  omega

theorem tokenStart_symbol {c : Nat} {k : TokKind} (t : Text) (h : symbolKind c = some k) : tokenStart (c :: t) := by
  obtain ⟨hi, h35, _⟩ := symbol_start h
  simp [tokenStart, startsWith, hi, h35]

theorem tokenStart_number {c : Nat} (t : Text) (h : c = 45 ∨ Lex.isDigit c = true) : tokenStart (c :: t) := by
  obtain ⟨hi, h35, _⟩ := digit_start c h
  simp [tokenStart, startsWith, hi, h35]

theorem tokenStart_nameStart {c : Nat} (t : Text) (h : Spec.Lexical.isNameStart c = true) : tokenStart (c :: t) := by
  obtain ⟨hi, h35, _⟩ := nameStart_start c h
  simp [tokenStart, startsWith, hi, h35]

theorem tokenStart_quote (t : Text) : tokenStart (34 :: t) := tokenStart_cons _ _ (by decide +kernel)

theorem tokenStart_dot (t : Text) : tokenStart (46 :: t) := tokenStart_cons _ _ (by decide +kernel)

theorem next_symbol (n : Nat) {c : Nat} {k : TokKind} (t : Text) (h : symbolKind c = some k) :
    next n (c :: t) = .ok (⟨k, posAt n (c :: t), posAt n t, [c]⟩, some t) := by
  obtain ⟨hi, h35, hp⟩ := symbol_start h
  simp [next, readOverWhitespace, hi, h35, hp, h]

/-- `.` : `_read_ellipsis` -/
theorem next_dot (n : Nat) (t : Text) : next n (46 :: t) = (readEllipsis n (46 :: t)).map fun p => (p.1, some p.2) := by
  have hi : Lex.isIgnored 46 = false := by decide +kernel
  have hp : Lex.isPrintable 46 = true := by decide +kernel
  have hs : symbolKind 46 = none := by decide +kernel
  simp [next, readOverWhitespace, hi, hp, hs]

/-- three quotes: `_read_block_string` -/
theorem next_tq (n : Nat) (t : Text) :
    next n (34 :: 34 :: 34 :: t) = (readBlockString n (34 :: 34 :: 34 :: t)).map fun p => (p.1, some p.2) := by
  have hi : Lex.isIgnored 34 = false := by decide +kernel
  have hp : Lex.isPrintable 34 = true := by decide +kernel
  have hs : symbolKind 34 = none := by decide +kernel
  simp [next, readOverWhitespace, hi, hp, hs, tq, List.isPrefixOf]

/-- a quote that does not open a block string: `_read_string` -/
theorem next_quote (n : Nat) (t : Text) (h : tq.isPrefixOf (34 :: t) = false) :
    next n (34 :: t) = (readString n (34 :: t)).map fun p => (p.1, some p.2) := by
  have hi : Lex.isIgnored 34 = false := by decide +kernel
  have hp : Lex.isPrintable 34 = true := by decide +kernel
  have hs : symbolKind 34 = none := by decide +kernel
  simp [next, readOverWhitespace, hi, hp, hs, h]

/-- `-` or a digit: `_read_number` -/
theorem next_number (n : Nat) (c : Nat) (t : Text) (h : c = 45 ∨ Lex.isDigit c = true) :
    next n (c :: t) = (readNumber n (c :: t)).map fun p => (p.1, some p.2) := by
  obtain ⟨f1, f2, f3, f4, f5, f6⟩ := digit_start c h
  have htq : tq.isPrefixOf (c :: t) = false := by
    simp [tq, List.isPrefixOf]; intro e; exact absurd e.symm f6
  simp [next, readOverWhitespace, f1, f2, f3, f4, f5, htq, f6]
  intro a b
  rcases h with h | h
  · exact absurd h a
  · rw [h] at b; cases b

/-- a NameStart character: `_read_name` -/
theorem next_nameStart (n : Nat) (c : Nat) (t : Text) (h : Spec.Lexical.isNameStart c = true) :
    next n (c :: t) = .ok ((readName n (c :: t)).1, some (readName n (c :: t)).2) := by
  obtain ⟨hi, h35, hp, hs, h46, h34, hnum⟩ := nameStart_start c h
  have hns : Lex.isNameStart c = true := by rw [isNameStart_spec]; exact h
  have htq : tq.isPrefixOf (c :: t) = false := by
    simp [tq, List.isPrefixOf, Ne.symm h34]
  simp [next, readOverWhitespace, hi, h35, hp, hs, h46, h34, htq, hnum, hns, Except.map]

end PyGql.Lex
