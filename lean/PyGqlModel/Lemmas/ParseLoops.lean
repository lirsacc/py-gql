/-
  The loops `many`, `delimited_list` (and the `implements` loop, which is one), the optional bracketed group, the
  optional `{ … }` block and the optional part announced by its first token: each as a soundness rule and a
  completeness rule over what is known of the element parser.
-/
import PyGqlModel.Lemmas.ParseValue
namespace PyGql.Parse
open PyGql PyGql.Ast PyGql.Spec

/-! ### `many`

The elements of a bracketed list come after its opening token, so completeness asks for them with one token less
(`m - 1`): that is where the recursion through selection sets gets its decreasing bound.  `hV` (an element has at
least one token) bounds the number of elements by the number of tokens, hence by the fuel. -/

theorem manyLoop_sound {α} {fl : Flags} {p : P α} {close : TokKind} (hcl : hasValue close = false)
    {Q : α → Prop} {V : α → Item} (hp : Sound fl p Q V) (n : Nat) :
    SoundL fl (manyLoop p close n) (fun xs => xs ≠ [] ∧ ∀ x ∈ xs, Q x) fun xs => xs.map V ++ [Spec.p close] := by
  induction n with
  | zero => intro s xs s' h; simp [manyLoop, fail_ok] at h
  | succ n ih =>
    intro s xs s' h
    rw [manyLoop] at h
    obtain ⟨x, s1, hx, hr0⟩ := bind_inv h
    obtain ⟨b, s2, hsk, hr⟩ := bind_inv hr0
    obtain ⟨t, ts, h1, hb⟩ := (skip_ok ..).1 hsk
    obtain ⟨q, c⟩ := hp _ _ _ hx
    rcases hb with ⟨hk, rfl, rfl⟩ | ⟨hk, rfl, rfl⟩
    · cases hr
      exact ⟨⟨List.cons_ne_nil _ _, List.forall_mem_singleton.2 q⟩, chkA_cons c (chkA_one (chk_tok h1 (cls_const hk hcl)))⟩
    · obtain ⟨xs', s3, hxs, hr⟩ := bind_inv hr
      cases hr
      obtain ⟨⟨_, qs⟩, cs⟩ := ih _ _ _ hxs
      exact ⟨⟨List.cons_ne_nil _ _, List.forall_mem_cons.2 ⟨q, qs⟩⟩, chkA_cons c cs⟩

theorem many_sound {α} {fl : Flags} {p : P α} {opn close : TokKind} (hop : hasValue opn = false)
    (hcl : hasValue close = false) {Q : α → Prop} {V : α → Item} (hp : Sound fl p Q V) (n : Nat) :
    SoundL fl (many n opn p close) (fun xs => xs ≠ [] ∧ ∀ x ∈ xs, Q x)
      fun xs => Spec.p opn :: (xs.map V ++ [Spec.p close]) := by
  intro s xs s' h
  obtain ⟨o, ts, h1, hk, hl⟩ := expect_bind h
  obtain ⟨q, c⟩ := manyLoop_sound hcl hp _ _ _ _ hl
  exact ⟨q, chkA_cons (chk_tok h1 (cls_const hk hop)) c⟩

theorem manyLoop_takes {α} {fl : Flags} {B : Nat} {p : P α} {close : TokKind} {V : α → Item}
    {Fol : List Tok → Prop} :
    ∀ (n : Nat) (xs : List α), xs ≠ [] → xs.length ≤ n → (∀ x ∈ xs, Takes1 fl B p x (V x) Fol) →
      (∀ x ∈ xs, ∀ l ts r, (V x).check fl l ts = some r → Fol ts ∧ NotK [close] ts) →
      (∀ t tl, t.kind = close → Fol (t :: tl)) →
      Takes fl B (manyLoop p close n) (fun _ => xs) (xs.map V ++ [Spec.p close]) Any := by
  intro n
  induction n with
  | zero => intro xs hne hn; cases xs <;> simp_all
  | succ n ih =>
    intro xs hne hn hp hfirst hclose l ts l' rest hB h _
    cases xs with
    | nil => exact (hne rfl).elim
    | cons x xs =>
      simp only [List.map_cons, List.cons_append, checkAll_cons] at h
      obtain ⟨l1, ts1, hx, hxs⟩ := h
      cases xs with
      | nil =>
        simp only [List.map_nil, List.nil_append, checkAll_cons, checkAll_nil, check_tok] at hxs
        obtain ⟨l2, ts2, ⟨t, rfl, hc, rfl⟩, hfin⟩ := hxs
        cases hfin
        have cx := hp x List.mem_cons_self _ _ _ _ hB hx (hclose _ _ (cls_kind hc))
        exact bind_run cx (bind_run (skip_pos (cls_kind hc) ..) rfl)
      | cons y ys =>
        have hy : ∃ l2 ts2, (V y).check fl l1 ts1 = some (l2, ts2) := by
          simp only [List.map_cons, List.cons_append, checkAll_cons] at hxs
          obtain ⟨l2, ts2, hy, _⟩ := hxs; exact ⟨l2, ts2, hy⟩
        obtain ⟨l2, ts2, hy⟩ := hy
        obtain ⟨hfol, t, tl, rfl, hk⟩ := hfirst y (by simp) _ _ _ hy
        have cx := hp x (by simp) _ _ _ _ hB hx hfol
        have hB1 : (t :: tl).length ≤ B := Nat.le_trans (check_len hx) hB
        have cxs := ih (y :: ys) (by simp) (by simp at hn ⊢; omega)
          (fun z hz => hp z (by simp [hz])) (fun z hz => hfirst z (by simp [hz])) hclose l1 (t :: tl) l' rest hB1
          (by simpa [checkAll_cons] using hxs) trivial
        have hk' : t.kind ≠ close := by simpa using hk
        exact bind_run cx (bind_run (skip_neg hk' ..) (bind_run cxs rfl))

theorem many_takes {α} {fl : Flags} {m n : Nat} {p : P α} {opn close : TokKind} {V : α → Item} {Fol : List Tok → Prop}
    {xs : List α} (hV : ∀ x, 1 ≤ (V x).yield.length) (hmn : m ≤ n) (hne : xs ≠ [])
    (hp : ∀ x ∈ xs, Takes1 fl (m - 1) p x (V x) Fol)
    (hfirst : ∀ x ∈ xs, ∀ l ts r, (V x).check fl l ts = some r → Fol ts ∧ NotK [close] ts)
    (hclose : ∀ t tl, t.kind = close → Fol (t :: tl)) :
    Takes fl m (many n opn p close) (fun _ => xs) (Spec.p opn :: (xs.map V ++ [Spec.p close])) Any := by
  intro l ts l' rest hm h _
  have hlen : xs.length ≤ n := by
    have a := checkAll_width fl _ _ _ _ _ h
    have b := length_le_yieldAll V hV xs
    simp only [Item.yieldAll, yieldAll_append, List.length_append] at a
    omega
  simp only [checkAll_cons, check_tok] at h
  obtain ⟨l1, ts1, ⟨t, rfl, hc, rfl⟩, hall⟩ := h
  exact bind_run (expect_pos (cls_kind hc) ..) (manyLoop_takes n xs hne hlen hp hfirst hclose l1 ts1 l' rest
    (by simp at hm; omega) (by simpa [checkAll_cons] using hall) trivial)

/-! ### the optional bracketed group: `if self.peek().__class__ is Open: many(...) else []` -/

/-- common shape of `parse_arguments`, `parse_variable_definitions`, `parse_argument_definitions`, … -/
def optMany {α} (fuel : Nat) (opn : TokKind) (p : P α) (close : TokKind) : P (List α) := do
  if (← peek).kind = opn then many fuel opn p close
  else pure []

theorem optMany_sound {α} {fl : Flags} {p : P α} {opn close : TokKind} (hop : hasValue opn = false)
    (hcl : hasValue close = false) {Q : α → Prop} {V : α → Item} (hp : Sound fl p Q V) (n : Nat) :
    SoundL fl (optMany n opn p close) (fun xs => ∀ x ∈ xs, Q x) (groupV opn close V) := by
  intro s xs s' h
  obtain ⟨t, ts, h1, h⟩ := peek_bind h
  rcases ite_inv h with ⟨hk, hm⟩ | ⟨hk, hfin⟩
  · obtain ⟨⟨ne, q⟩, c⟩ := many_sound hop hcl hp _ _ _ _ hm
    refine ⟨q, ?_⟩
    cases xs with
    | nil => exact (ne rfl).elim
    | cons x xs => exact c
  · cases hfin
    exact ⟨nofun, rfl⟩

theorem optMany_takes {α} {fl : Flags} {m n : Nat} {p : P α} {opn close : TokKind} {V : α → Item}
    {Fol : List Tok → Prop} {xs : List α} (hV : ∀ x, 1 ≤ (V x).yield.length) (hmn : m ≤ n)
    (hp : ∀ x ∈ xs, Takes1 fl (m - 1) p x (V x) Fol)
    (hfirst : ∀ x ∈ xs, ∀ l ts r, (V x).check fl l ts = some r → Fol ts ∧ NotK [close] ts)
    (hclose : ∀ t tl, t.kind = close → Fol (t :: tl)) :
    Takes fl m (optMany n opn p close) (fun _ => xs) (groupV opn close V xs) (fun rest => xs = [] → NotK [opn] rest) := by
  intro l ts l' rest hm h hr
  cases xs with
  | nil =>
    cases h
    obtain ⟨t, tl, rfl, hk⟩ := hr rfl
    exact bind_run (peek_cons ..) (if_neg (by simpa using hk) ▸ rfl)
  | cons x xs =>
    have h' : Item.checkAll fl (Spec.p opn :: ((x :: xs).map V ++ [Spec.p close])) l ts = some (l', rest) := h
    obtain ⟨t, tl, rfl, hk⟩ : NotK [] ts := NotK.of_tok h' (by simp)
    have hk : t.kind = opn := by
      simp only [checkAll_cons, check_tok] at h'
      obtain ⟨_, _, ⟨_, e, hc, _⟩, _⟩ := h'
      cases e
      exact cls_kind hc
    exact bind_run (peek_cons ..) (if_pos hk ▸ many_takes hV hmn (by simp) hp hfirst hclose l _ l' rest hm h' trivial)

/-- an optional `{ X+ }` block; when it is absent the next token is not `{`, which is the look-ahead restriction -/
theorem block_sound {α} {fl : Flags} {p : P α} {Q : α → Prop} {V : α → Item} (hp : Sound fl p Q V) (n : Nat) :
    SoundL fl (optMany n .curlyL p .curlyR) (fun xs => ∀ x ∈ xs, Q x) (blockV V) := by
  intro s xs s' h
  refine ⟨(optMany_sound rfl rfl hp n s xs s' h).1, ?_⟩
  cases xs with
  | cons x xs => exact (optMany_sound rfl rfl hp n s _ s' h).2
  | nil =>
    obtain ⟨t, ts, h1, h⟩ := peek_bind h
    rcases ite_inv h with ⟨hk, hm⟩ | ⟨hk, hfin⟩
    · exact ((many_sound rfl rfl hp _ _ _ _ hm).1.1 rfl).elim
    · cases hfin
      refine chkA_one ((check_nla ..).2 ⟨rfl, rfl, fun t' tl' e => ?_⟩)
      rw [h1] at e
      cases e
      exact hk

theorem block_takes {α} {fl : Flags} {m n : Nat} {p : P α} {V : α → Item} {Fol : List Tok → Prop} {xs : List α}
    (hV : ∀ x, 1 ≤ (V x).yield.length) (hmn : m ≤ n) (hp : ∀ x ∈ xs, Takes1 fl (m - 1) p x (V x) Fol)
    (hfirst : ∀ x ∈ xs, ∀ l ts r, (V x).check fl l ts = some r → Fol ts ∧ NotK [.curlyR] ts)
    (hclose : ∀ t tl, t.kind = .curlyR → Fol (t :: tl)) :
    Takes fl m (optMany n .curlyL p .curlyR) (fun _ => xs) (blockV V xs) (fun rest => xs = [] → rest ≠ []) := by
  intro l ts l' rest hm h hr
  cases xs with
  | nil =>
    simp only [blockV, List.isEmpty_nil, if_true, checkAll_cons, checkAll_nil, check_nla] at h
    obtain ⟨l1, ts1, ⟨rfl, rfl, hno⟩, hfin⟩ := h
    cases hfin
    cases rest with
    | nil => exact ((hr rfl) rfl).elim
    | cons t tl => exact bind_run (peek_cons ..) (if_neg (hno t tl rfl) ▸ rfl)
  | cons x xs => exact optMany_takes hV hmn hp hfirst hclose l ts l' rest hm h (by simp)

/-- common shape of the optional selection set of a field and the optional name of an operation -/
def optPeek {α} (k : TokKind) (p : P α) : P (Option α) := do
  if (← peek).kind = k then do
    let x ← p
    pure (some x)
  else pure none

theorem optPeek_sound {α} {fl : Flags} {k : TokKind} {p : P α} {Q : α → Prop} {V : α → Item} (hp : Sound fl p Q V) :
    SoundL fl (optPeek k p) (fun o => ∀ a, o = some a → Q a) (optV V) := by
  intro s o s' h
  obtain ⟨t, ts, h1, h⟩ := peek_bind h
  rcases ite_inv h with ⟨_, h⟩ | ⟨_, h⟩
  · obtain ⟨x, s1, hx, h⟩ := bind_inv h
    cases h
    obtain ⟨q, c⟩ := hp _ _ _ hx
    exact ⟨fun a e => Option.some.inj e ▸ q, chkA_one c⟩
  · cases h
    exact ⟨nofun, rfl⟩

theorem optPeek_takes {α} {fl : Flags} {n : Nat} {k : TokKind} {p : P α} {V : α → Item} (o : Option α)
    (hp : ∀ a, o = some a → Takes1 fl n p a (V a) Any)
    (hfirst : ∀ a l ts r, o = some a → (V a).check fl l ts = some r → ∃ t tl, ts = t :: tl ∧ t.kind = k) :
    Takes fl n (optPeek k p) (fun _ => o) (optV V o) (fun rest => o = none → NotK [k] rest) := by
  intro l ts l' rest hn h hr
  cases o with
  | none =>
    cases h
    obtain ⟨t, tl, rfl, hk⟩ := hr rfl
    exact bind_run (peek_cons ..) (if_neg (by simpa using hk) ▸ rfl)
  | some a =>
    simp only [optV, checkAll_cons, checkAll_nil] at h
    obtain ⟨l1, ts1, ha, hfin⟩ := h
    cases hfin
    obtain ⟨t, tl, rfl, hk⟩ := hfirst a _ _ _ rfl ha
    exact bind_run (peek_cons ..) (if_pos hk ▸ bind_run (hp a rfl l _ l' rest hn ha trivial) rfl)

theorem delimLoop_sound {α} {fl : Flags} {p : P α} {sep : TokKind} (hsep : hasValue sep = false)
    {Q : α → Prop} {V : α → Item} (hp : Sound fl p Q V) :
    ∀ (n : Nat) (s : PS) (xs : List α) (s' : PS), delimLoop p sep n s = .ok (xs, s') →
      ∃ x xs', xs = x :: xs' ∧ (∀ y ∈ xs, Q y) ∧
      Item.checkAll fl (V x :: xs'.flatMap fun y => [Spec.p sep, V y]) s.last s.toks = some (s'.last, s'.toks) ∧
      NotK [sep] s'.toks := by
  intro n
  induction n with
  | zero => intro s xs s' h; simp [delimLoop, fail_ok] at h
  | succ n ih =>
    intro s xs s' h
    rw [delimLoop] at h
    obtain ⟨x, s1, hx, hr0⟩ := bind_inv h
    obtain ⟨b, s2, hsk, hr⟩ := bind_inv hr0
    obtain ⟨t, ts, h1, hb⟩ := (skip_ok ..).1 hsk
    obtain ⟨q, c⟩ := hp _ _ _ hx
    rcases hb with ⟨hk, rfl, rfl⟩ | ⟨hk, rfl, rfl⟩
    · obtain ⟨xs', s3, hxs, hr⟩ := bind_inv hr
      cases hr
      obtain ⟨y, ys, rfl, qs, cs, nk⟩ := ih _ _ _ hxs
      exact ⟨x, y :: ys, rfl, List.forall_mem_cons.2 ⟨q, qs⟩,
        chkA_cons c (chkA_cons (chk_tok h1 (cls_const hk hsep)) cs), nk⟩
    · cases hr
      refine ⟨x, [], rfl, List.forall_mem_singleton.2 q, chkA_one c, ?_⟩
      rw [h1]; exact NotK.cons (by simpa using hk)

theorem delimitedList_sound {α} {fl : Flags} {p : P α} {sep : TokKind} (hsep : hasValue sep = false)
    {Q : α → Prop} {V : α → Item} (hp : Sound fl p Q V) (n : Nat) :
    SoundL fl (delimitedList n sep p) (fun xs => xs ≠ [] ∧ ∀ y ∈ xs, Q y) (sepV sep V) := by
  intro s xs s' h
  obtain ⟨b, s1, hsk, hl⟩ := bind_inv h
  obtain ⟨t, ts, h1, hb⟩ := (skip_ok ..).1 hsk
  obtain ⟨x, xs', rfl, q, c, _⟩ := delimLoop_sound hsep hp _ _ _ _ hl
  refine ⟨⟨List.cons_ne_nil _ _, q⟩, ?_⟩
  rcases hb with ⟨hk, rfl, rfl⟩ | ⟨hk, rfl, rfl⟩
  · exact chkA_cons ((check_optTok ..).2 (Or.inl ⟨t, h1, cls_const hk hsep, rfl⟩)) c
  · refine chkA_cons ((check_optTok ..).2 (Or.inr ⟨rfl, rfl, fun t' tl' e => ?_⟩)) c
    rw [h1] at e
    cases e
    exact fun e => hk (cls_kind e)

theorem delimLoop_takes {α} {fl : Flags} {m : Nat} {p : P α} {sep : TokKind} {V : α → Item} :
    ∀ (n : Nat) (x : α) (xs : List α), xs.length < n → (∀ y ∈ x :: xs, Takes1 fl m p y (V y) Any) →
      Takes fl m (delimLoop p sep n) (fun _ => x :: xs) (V x :: xs.flatMap fun y => [Spec.p sep, V y]) (NotK [sep]) := by
  intro n
  induction n with
  | zero => intro x xs hn; omega
  | succ n ih =>
    intro x xs hn hp l ts l' rest hm h hnk
    simp only [checkAll_cons] at h
    obtain ⟨l1, ts1, hx, hxs⟩ := h
    have cx := hp x (by simp) _ _ _ _ hm hx trivial
    cases xs with
    | nil =>
      simp only [List.flatMap_nil, checkAll_nil] at hxs
      cases hxs
      obtain ⟨t, tl, rfl, hk⟩ := hnk
      have hk' : t.kind ≠ sep := by simpa using hk
      exact bind_run cx (bind_run (skip_neg hk' ..) rfl)
    | cons y ys =>
      simp only [List.flatMap_cons, List.cons_append, List.nil_append, checkAll_cons, check_tok] at hxs
      obtain ⟨l2, ts2, ⟨t, rfl, hc, rfl⟩, hrest⟩ := hxs
      have cxs := ih y ys (by simp at hn; omega) (fun z hz => hp z (List.mem_cons_of_mem _ hz)) l2 ts2 l' rest
        (Nat.le_trans (Nat.le_of_succ_le (check_len hx)) hm) (by simpa [checkAll_cons] using hrest) hnk
      exact bind_run cx (bind_run (skip_pos (cls_kind hc) ..) (bind_run cxs rfl))

theorem sepTail_len {α} (sep : TokKind) (V : α → Item) (xs : List α) :
    xs.length ≤ (Item.yieldAll (xs.flatMap fun y => [Spec.p sep, V y])).length := by
  induction xs with
  | nil => simp
  | cons x xs ih =>
    simp only [List.flatMap_cons, List.cons_append, List.nil_append, Item.yieldAll, Item.yield, List.length_append,
      List.length_cons]
    omega

theorem sepV_len {α} {fl : Flags} {sep : TokKind} {V : α → Item} (hV : ∀ x, 1 ≤ (V x).yield.length)
    {xs : List α} {l l' : Tok} {ts rest : List Tok}
    (h : Item.checkAll fl (sepV sep V xs) l ts = some (l', rest)) : xs.length ≤ ts.length := by
  have w := checkAll_width fl _ _ _ _ _ h
  cases xs with
  | nil => simp
  | cons x xs =>
    have a := sepTail_len sep V xs
    have b := hV x
    simp only [sepV, Item.yieldAll, Item.yield, List.length_append, List.nil_append] at w
    simp; omega

theorem delimitedList_takes {α} {fl : Flags} {m n : Nat} {p : P α} {sep : TokKind} {V : α → Item} {xs : List α}
    (hV : ∀ x, 1 ≤ (V x).yield.length) (hmn : m ≤ n) (hne : xs ≠ []) (hp : ∀ y ∈ xs, Takes1 fl m p y (V y) Any)
    (hfirst : ∀ y ∈ xs, ∀ l ts r, (V y).check fl l ts = some r → NotK [sep] ts) :
    Takes fl m (delimitedList n sep p) (fun _ => xs) (sepV sep V xs) (NotK [sep]) := by
  intro l ts l' rest hm h hr
  have hlen := sepV_len hV h
  cases xs with
  | nil => exact (hne rfl).elim
  | cons x xs =>
    simp only [sepV, checkAll_cons, check_optTok] at h
    obtain ⟨l1, ts1, hopt, hrest⟩ := h
    have hrest' : Item.checkAll fl (V x :: xs.flatMap fun y => [Spec.p sep, V y]) l1 ts1 = some (l', rest) := by
      simpa [checkAll_cons] using hrest
    have c := delimLoop_takes (sep := sep) n x xs (by simp at hlen; omega) hp l1 ts1 l' rest
    rcases hopt with ⟨t, rfl, hc, rfl⟩ | ⟨rfl, rfl, hno⟩
    · exact bind_run (skip_pos (cls_kind hc) ..) (c (Nat.le_of_succ_le hm) hrest' hr)
    · obtain ⟨l2, ts2, hx, _⟩ := (checkAll_cons ..).1 hrest'
      obtain ⟨t, tl, rfl, hk⟩ := hfirst x (by simp) _ _ _ hx
      exact bind_run (skip_neg (by simpa using hk) ..) (c hm hrest' hr)

theorem implementsLoop_eq (fl : Flags) : ∀ n, implementsLoop fl n = delimLoop (parseNamedType fl) .amp n := by
  intro n
  induction n with
  | zero => rfl
  | succ n ih => simp only [implementsLoop, delimLoop, ih]

end PyGql.Parse
