/-
  Every rule visitor owns a part of the rule state (`RS.own`) and reads / writes nothing else, except that it PREPENDS its
  own errors to the shared error list (and may set the exception flag). Said once as an equation (`enterRule_frame`,
  `leaveRule_frame`): the step on the shared state `a` is the step on `a.own r` alone, laid back over `a` (`RS.frame`).
  It is proved entry by entry of the two tables (`enterRule_step`, `leaveRule_step`; one theorem per kind of node), each
  entry by the way it is built: from the step that does nothing by reporting, by a change of the own part, by a test on
  the own part (`FramedAt.err`, `.of_eq`, `.upd`, `.ite`, ...). For `enterRule` the same pass shows that both runs raise
  `SkipNode` or neither and that a raise comes with an error (`FramedStep`).
  The facets the chain decomposition uses (`enterRule_flag`, `_own`, `_errs`, `_errs_mine`, `_put` and the same for
  `leaveRule`) are read off that equation.
-/
import PyGqlModel.Validate.Chain
namespace PyGql.Validate
open PyGql

/-- the part of the rule state that rule `r` owns; everything else (the shared error list included) reset -/
def RS.own (r : Rule) (a : RS) : RS :=
  match r with
  | .uniqueOperationName => { opNames := a.opNames }
  | .singleFieldSubscriptions => { sfsFrags := a.sfsFrags, sfsFuel := a.sfsFuel }
  | .uniqueFragmentNames => { fragNames := a.fragNames }
  | .knownFragmentNames => { knownFrags := a.knownFrags }
  | .noUnusedFragments => { nufFrags := a.nufFrags, nufUsed := a.nufUsed }
  | .possibleFragmentSpreads => { pfsTypes := a.pfsTypes }
  | .noFragmentCycles => { cycSpreads := a.cycSpreads, cycCurrent := a.cycCurrent }
  | .uniqueVariableNames => { uvVars := a.uvVars }
  | .noUndefinedVariables => { vcUndef := a.vcUndef }
  | .noUnusedVariables => { vcUnused := a.vcUnused }
  | .variablesInAllowedPosition => { vcPos := a.vcPos }
  | .knownDirectives => { ancestors := a.ancestors }
  | .uniqueInputFieldNames => { uifStack := a.uifStack }
  | .overlappingFieldsCanBeMerged => { octx := a.octx }
  | _ => {}

/-- `a` with the part owned by `r`, the error list and the exception flag taken from `new` -/
def RS.put (r : Rule) (a new : RS) : RS :=
  let b : RS := { a with errs := new.errs, crash := new.crash }
  match r with
  | .uniqueOperationName => { b with opNames := new.opNames }
  | .singleFieldSubscriptions => { b with sfsFrags := new.sfsFrags, sfsFuel := new.sfsFuel }
  | .uniqueFragmentNames => { b with fragNames := new.fragNames }
  | .knownFragmentNames => { b with knownFrags := new.knownFrags }
  | .noUnusedFragments => { b with nufFrags := new.nufFrags, nufUsed := new.nufUsed }
  | .possibleFragmentSpreads => { b with pfsTypes := new.pfsTypes }
  | .noFragmentCycles => { b with cycSpreads := new.cycSpreads, cycCurrent := new.cycCurrent }
  | .uniqueVariableNames => { b with uvVars := new.uvVars }
  | .noUndefinedVariables => { b with vcUndef := new.vcUndef }
  | .noUnusedVariables => { b with vcUnused := new.vcUnused }
  | .variablesInAllowedPosition => { b with vcPos := new.vcPos }
  | .knownDirectives => { b with ancestors := new.ancestors }
  | .uniqueInputFieldNames => { b with uifStack := new.uifStack }
  | .overlappingFieldsCanBeMerged => { b with octx := new.octx }
  | _ => b

theorem RS.own_put_ne (r r' : Rule) (h : r ≠ r') (a new : RS) : (RS.put r' a new).own r = a.own r := by
  -- a rule without a part of its own is settled before `r'` is looked at
  cases r <;> first | rfl | (cases r' <;> first | rfl | exact absurd rfl h)

theorem RS.addOpt_errs (r : Rule) (o : Option Nat) (a : RS) :
    (RS.addOpt r o a).errs = (match o with | some n => List.replicate n r | none => []) ++ a.errs := by
  cases o <;> simp [RS.addOpt, RS.errN]

/-- `a` after rule `r` ran on `a.own r` alone and ended in `b`: the part of `r` from `b`, the errors of `b` in front of
    those of `a`, the exception of `b` if it raised one -/
def RS.frame (r : Rule) (a b : RS) : RS :=
  RS.put r a { b with errs := b.errs ++ a.errs, crash := b.crash <|> a.crash }

theorem RS.frame_errs (r : Rule) (a b : RS) : (RS.frame r a b).errs = b.errs ++ a.errs := by
  cases r <;> rfl

theorem RS.frame_crash (r : Rule) (a b : RS) : (RS.frame r a b).crash = (b.crash <|> a.crash) := by
  cases r <;> rfl

/-- the error list and the exception flag are written last -/
theorem RS.frame_with (r : Rule) (a b : RS) (e : List Rule) (c : Option String) :
    { RS.frame r a b with errs := e, crash := c } = RS.put r a { b with errs := e, crash := c } := by
  cases r <;> rfl

theorem RS.own_frame (r : Rule) (a b : RS) : (RS.frame r a b).own r = b.own r := by
  cases r <;> rfl

theorem RS.put_frame (r : Rule) (a b : RS) : RS.put r a (RS.frame r a b) = RS.frame r a b := by
  cases r <;> rfl

/-- `res` is a step of rule `r` on the shared state `a`, `own` the same step on `a.own r`: `res` is `own` laid back
    over `a`, and `own` holds errors of `r` only -/
def FramedAt (r : Rule) (a res own : RS) : Prop :=
  res = RS.frame r a own ∧ ∀ x ∈ own.errs, x = r

namespace FramedAt
variable {r : Rule} {a x y x' y' : RS}

theorem refl (r : Rule) (a : RS) : FramedAt r a a (a.own r) := by
  cases r <;> exact ⟨rfl, fun _ h => absurd h List.not_mem_nil⟩

/-- a step given in closed form: `.of_eq 0 rfl rfl` is a change of the own part that reports nothing -/
theorem of_eq (k : Nat) (hx : x = RS.frame r a y) (hy : y.errs = List.replicate k r) : FramedAt r a x y :=
  ⟨hx, fun z hz => by rw [hy] at hz; exact (List.mem_replicate.mp hz).2⟩

theorem errN (k : Nat) (h : FramedAt r a x y) : FramedAt r a (x.errN r k) (y.errN r k) := by
  obtain ⟨rfl, hm⟩ := h
  refine ⟨?_, fun z hz => ?_⟩
  · refine (RS.frame_with r a y _ _).trans ?_
    rw [RS.frame_errs, RS.frame_crash, ← List.append_assoc]
    rfl
  · rcases List.mem_append.mp hz with hz | hz
    · exact (List.mem_replicate.mp hz).2
    · exact hm z hz

theorem err (h : FramedAt r a x y) : FramedAt r a (x.err r) (y.err r) := errN 1 h

theorem crash (e : String) (h : FramedAt r a x y) : FramedAt r a { x with crash := some e } { y with crash := some e } := by
  obtain ⟨rfl, hm⟩ := h
  exact ⟨(RS.frame_with r a y _ _).trans (by rw [RS.frame_errs]; rfl), hm⟩

theorem addOpt (o : Option Nat) (h : FramedAt r a x y) : FramedAt r a (x.addOpt r o) (y.addOpt r o) := by
  cases o with
  | some k => exact errN k h
  | none => exact crash "AttributeError" h

/-- a change `f` of the own part on top of a step -/
theorem upd (f : RS → RS) (hf : ∀ y, f (RS.frame r a y) = RS.frame r a (f y)) (he : ∀ y, (f y).errs = y.errs)
    (h : FramedAt r a x y) : FramedAt r a (f x) (f y) := by
  obtain ⟨rfl, hm⟩ := h
  exact ⟨hf y, fun z hz => hm z (he y ▸ hz)⟩

theorem ite {c : Prop} [Decidable c] (h : FramedAt r a x y) (h' : FramedAt r a x' y') :
    FramedAt r a (if c then x else x') (if c then y else y') := by
  split
  · exact h
  · exact h'

/-- the entries of `leaveRule` that do nothing -/
theorem idle {T : RS → RS} (hT : T = fun a => a) : FramedAt r a (T a) (T (a.own r)) := by
  subst hT; exact refl r a

end FramedAt

/-- `x` is a step of rule `r` from `a` with its `SkipNode` flag, `y` the same step from `a.own r`: `x` is `y` laid back over
    `a`, both raise or neither, and a raise comes with an error -/
def FramedStep (r : Rule) (a : RS) (x y : RS × Bool) : Prop :=
  FramedAt r a x.1 y.1 ∧ x.2 = y.2 ∧ (y.2 = true → y.1.errs ≠ [])

namespace FramedStep
variable {r : Rule} {a x y : RS}

theorem pass (h : FramedAt r a x y) : FramedStep r a (x, false) (y, false) := ⟨h, rfl, fun e => nomatch e⟩

theorem raise (h : FramedAt r a x y) : FramedStep r a (x.err r, true) (y.err r, true) :=
  ⟨h.err, rfl, fun _ e => nomatch e⟩

/-- `k` errors, raising only when there is one -/
theorem errN_raise (k : Nat) (b : Bool) (hb : b = true → k ≠ 0) (h : FramedAt r a x y) :
    FramedStep r a (x.errN r k, b) (y.errN r k, b) :=
  ⟨h.errN k, rfl, fun e he => by
    cases k with
    | zero => exact hb e rfl
    | succ k => cases (List.append_eq_nil_iff.mp he).1⟩

theorem ite {c : Prop} [Decidable c] {p q p' q' : RS × Bool} (h : FramedStep r a p q) (h' : FramedStep r a p' q') :
    FramedStep r a (if c then p else p') (if c then q else q') := by
  split
  · exact h
  · exact h'

/-- the entries of `enterRule` that do nothing -/
theorem idle {T : RS → RS × Bool} (hT : T = fun a => (a, false)) : FramedStep r a (T a) (T (a.own r)) := by
  subst hT; exact pass (FramedAt.refl r a)

/-- an entry that looks at a field of the own part: shown for every value `v` of the field (`set v a` is `a` with that value) -/
theorem at_field {α : Type} (get : RS → α) (set : α → RS → RS) (hset : ∀ a, set (get a) a = a) {T : RS → RS × Bool}
    (h : ∀ v a, FramedStep r (set v a) (T (set v a)) (T ((set v a).own r))) : FramedStep r a (T a) (T (a.own r)) := by
  have := h (get a) a
  rwa [hset a] at this

end FramedStep

/-! ### the table `enterRule`

  Column by column (the kinds of node). Each alternative is an entry of the table, written as the way the entry is built;
  the tests of an entry read the own part, which is the same in `a` and in `a.own r`. -/

theorem parseLiteralFails_some (sc : String) (v : Value) : ∃ b, parseLiteralFails sc v = some b := by
  unfold parseLiteralFails
  split
  · exact ⟨_, rfl⟩
  · cases v <;> exact ⟨_, rfl⟩

theorem checkScalar_some (s : SchemaD) (ti : TI) (v : Value) : ∃ k, checkScalar s ti v = some k := by
  unfold checkScalar
  cases ti.inputType with
  | none => exact ⟨0, rfl⟩
  | some it =>
    simp only
    by_cases hs : isScalar s it.base = true
    · obtain ⟨b, hb⟩ := parseLiteralFails_some it.base v
      simp only [hs, Bool.not_true, Bool.false_eq_true, ↓reduceIte, hb]
      cases b <;> exact ⟨_, rfl⟩
    · simp only [hs, Bool.not_false, ↓reduceIte]; exact ⟨1, rfl⟩

section
variable (s : SchemaD) (fx : Fixes) (ti : TI) (a : RS)

/-- the entry of the field-merge rule, for any search `res` of the selection set (`withinSelectionSet`, or the memoised one) -/
theorem FramedStep.overlap (res : Nat × OCtx) :
    FramedStep .overlappingFieldsCanBeMerged a
      ((match res.2.crash with
        | some e => { { a with octx := res.2 } with crash := some e }
        | none => { a with octx := res.2 }).errN .overlappingFieldsCanBeMerged res.1, false)
      ((match res.2.crash with
        | some e => { { a.own .overlappingFieldsCanBeMerged with octx := res.2 } with crash := some e }
        | none => { a.own .overlappingFieldsCanBeMerged with octx := res.2 }).errN .overlappingFieldsCanBeMerged res.1, false) := by
  cases res.2.crash with
  | none => exact .pass (.errN _ (.of_eq 0 rfl rfl))
  | some e => exact .pass (.errN _ (.crash e (.of_eq 0 rfl rfl)))

/-- all 26 rules and 14 node kinds, column by column -/
theorem enterRule_step (r : Rule) (n : Node) :
    FramedStep r a (enterRule s fx r n ti a) (enterRule s fx r n ti (a.own r)) := by
  cases n with
  | document d =>
    cases r with
    | executableDefinitions => exact .errN_raise _ _ (fun e => Nat.ne_of_gt (of_decide_eq_true e)) (.refl _ a)
    | loneAnonymousOperation => exact .ite (.raise (.refl _ a)) (.pass (.refl _ a))
    | singleFieldSubscriptions | knownFragmentNames | possibleFragmentSpreads | overlappingFieldsCanBeMerged =>
      exact .pass (.of_eq 0 rfl rfl)
    | _ => exact .idle rfl
  | operation kind name vars dirs sels =>
    cases r with
    | uniqueOperationName => exact .ite (.raise (.refl _ a)) (.pass (.of_eq 0 rfl rfl))
    | singleFieldSubscriptions => exact .pass (.ite (.err (.refl _ a)) (.refl _ a))
    | uniqueVariableNames | noUndefinedVariables | noUnusedVariables | variablesInAllowedPosition | knownDirectives =>
      exact .pass (.of_eq 0 rfl rfl)
    | uniqueDirectivesPerLocation => exact .pass (.errN _ (.refl _ a))
    | _ => exact .idle rfl
  | fragmentDef name on dirs =>
    cases r with
    | fragmentsOnCompositeTypes => exact .ite (.pass (.refl _ a)) (.raise (.refl _ a))
    | uniqueFragmentNames =>
      exact .pass (.upd (fun st => { st with fragNames := name :: st.fragNames }) (fun _ => rfl) (fun _ => rfl)
        (.ite (.err (.refl _ a)) (.refl _ a)))
    | noUnusedFragments | noFragmentCycles | noUndefinedVariables | noUnusedVariables | variablesInAllowedPosition
    | knownDirectives => exact .pass (.of_eq 0 rfl rfl)
    | uniqueDirectivesPerLocation => exact .pass (.errN _ (.refl _ a))
    | _ => exact .idle rfl
  | varDef v =>
    cases r with
    | variablesAreInputTypes =>
      dsimp only [enterRule]
      cases typeFromAst s v.type with
      | none => exact .pass (.err (.refl _ a))
      | some t => exact .pass (.ite (.refl _ a) (.err (.refl _ a)))
    | uniqueVariableNames =>
      exact .pass (.upd (fun st => { st with uvVars := v.name :: st.uvVars }) (fun _ => rfl) (fun _ => rfl)
        (.ite (.err (.refl _ a)) (.refl _ a)))
    | noUndefinedVariables | noUnusedVariables | variablesInAllowedPosition | knownDirectives =>
      exact .pass (.of_eq 0 rfl rfl)
    | uniqueDirectivesPerLocation => exact .pass (.errN _ (.refl _ a))
    | _ => exact .idle rfl
  | typeNode t =>
    cases r with
    | knownTypeNames => exact .pass (.ite (.err (.refl _ a)) (.refl _ a))
    | _ => exact .idle rfl
  | directive d =>
    cases r with
    | knownDirectives =>
      refine .at_field RS.ancestors (fun v st => { st with ancestors := v }) (fun _ => rfl) fun ancestors a => ?_
      dsimp only [enterRule]
      cases findDirective s d.name with
      | none => exact .pass (.of_eq 1 rfl rfl)
      | some sd =>
        cases ancestors with
        | nil => exact .pass (.of_eq 0 rfl rfl)
        | cons anc rest => exact .pass (.ite (.of_eq 0 rfl rfl) (.of_eq 1 rfl rfl))
    | knownArgumentNames =>
      dsimp only [enterRule]
      cases ti.directive with
      | none => exact .pass (.refl _ a)
      | some dd => exact .pass (.errN _ (.refl _ a))
    | uniqueArgumentNames => exact .pass (.errN _ (.refl _ a))
    | _ => exact .idle rfl
  | selectionSet ssid sels =>
    cases r with
    | overlappingFieldsCanBeMerged => exact .overlap a (withinSelectionSet s fx ti.parentType ssid sels a.octx)
    | _ => exact .idle rfl
  | field name args dirs hasSub =>
    cases r with
    | scalarLeafs => exact .pass (.ite (.err (.ite (.err (.refl _ a)) (.refl _ a))) (.ite (.err (.refl _ a)) (.refl _ a)))
    | fieldsOnCorrectType =>
      dsimp only [enterRule]
      cases ti.parentType with
      | none => exact .pass (.refl _ a)
      | some p => exact .pass (.ite (.err (.refl _ a)) (.refl _ a))
    | knownDirectives => exact .pass (.of_eq 0 rfl rfl)
    | uniqueDirectivesPerLocation | uniqueArgumentNames => exact .pass (.errN _ (.refl _ a))
    | knownArgumentNames =>
      dsimp only [enterRule]
      cases ti.field with
      | none => exact .pass (.refl _ a)
      | some fd => exact .pass (.errN _ (.refl _ a))
    | _ => exact .idle rfl
  | spread name dirs =>
    cases r with
    | knownFragmentNames => exact .pass (.ite (.refl _ a) (.err (.refl _ a)))
    | noUnusedFragments | noUndefinedVariables | noUnusedVariables | variablesInAllowedPosition | knownDirectives =>
      exact .pass (.of_eq 0 rfl rfl)
    | possibleFragmentSpreads =>
      refine .at_field RS.pfsTypes (fun v st => { st with pfsTypes := v }) (fun _ => rfl) fun pfsTypes a => ?_
      dsimp only [enterRule, RS.own]
      cases AL.get? pfsTypes name with
      | none => exact .pass (.of_eq 0 rfl rfl)
      | some ft =>
        generalize (if fx.v10 = true then ti.parentType else _) = parent
        cases parent with
        | none => exact .pass (.of_eq 0 rfl rfl)
        | some p => exact .ite (.raise (.of_eq 0 rfl rfl)) (.pass (.of_eq 0 rfl rfl))
    | noFragmentCycles =>
      refine .at_field RS.cycCurrent (fun v st => { st with cycCurrent := v }) (fun _ => rfl) fun v a => ?_
      cases v with
      | none => exact .pass (.of_eq 0 rfl rfl)
      | some cur => exact .ite (.raise (.of_eq 0 rfl rfl)) (.ite (.pass (.of_eq 0 rfl rfl)) (.pass (.of_eq 0 rfl rfl)))
    | uniqueDirectivesPerLocation => exact .pass (.errN _ (.refl _ a))
    | _ => exact .idle rfl
  | inline on dirs =>
    cases r with
    | fragmentsOnCompositeTypes =>
      cases on with
      | none => exact .idle rfl
      | some on => exact .ite (.pass (.refl _ a)) (.raise (.refl _ a))
    | possibleFragmentSpreads =>
      dsimp only [enterRule]
      cases ti.type with
      | none => exact .pass (.refl _ a)
      | some t =>
        cases t with
        | named t =>
          cases ti.parentType with
          | none => exact .pass (.refl _ a)
          | some p => exact .ite (.raise (.refl _ a)) (.pass (.refl _ a))
        | list t => exact .pass (.refl _ a)
        | nonNull t => exact .pass (.refl _ a)
    | knownDirectives => exact .pass (.of_eq 0 rfl rfl)
    | uniqueDirectivesPerLocation => exact .pass (.errN _ (.refl _ a))
    | _ => exact .idle rfl
  | value v =>
    cases r with
    | valuesOfCorrectType =>
      cases v with
      | int x => exact .pass (.addOpt _ (.refl _ a))
      | float x => exact .pass (.addOpt _ (.refl _ a))
      | str x => exact .pass (.addOpt _ (.refl _ a))
      | bool x => exact .pass (.addOpt _ (.refl _ a))
      | null =>
        dsimp only [enterRule]
        cases ti.inputType with
        | none => exact .pass (.refl _ a)
        | some t => cases t with
          | nonNull t => exact .pass (.err (.refl _ a))
          | named t => exact .pass (.refl _ a)
          | list t => exact .pass (.refl _ a)
      | enum x =>
        dsimp only [enterRule]
        cases ti.inputType.map (·.base) with
        | none => exact .pass (.refl _ a)
        | some b => exact .pass (.ite (.addOpt _ (.refl _ a)) (.ite (.refl _ a) (.err (.refl _ a))))
      | obj fs =>
        -- a literal at a position that is no input object is skipped only when `_check_scalar` reported
        have hs : FramedStep .valuesOfCorrectType a
            (a.addOpt .valuesOfCorrectType (checkScalar s ti (.obj fs)), scalarSkip (checkScalar s ti (.obj fs)))
            ((a.own .valuesOfCorrectType).addOpt .valuesOfCorrectType (checkScalar s ti (.obj fs)),
              scalarSkip (checkScalar s ti (.obj fs))) := by
          obtain ⟨k, hk⟩ := checkScalar_some s ti (.obj fs)
          rw [hk]
          exact .errN_raise k _ (fun e hk0 => by subst hk0; cases e) (.refl _ a)
        dsimp only [enterRule]
        cases ti.inputType.map (·.base) with
        | none => exact hs
        | some b => exact .ite (.pass (.errN _ (.refl _ a))) hs
      | var x => exact .idle rfl
      | list vs => exact .idle rfl
    | uniqueInputFieldNames =>
      cases v with
      | obj fs => exact .pass (.of_eq 0 rfl rfl)
      | _ => exact .idle rfl
    | noUndefinedVariables | noUnusedVariables | variablesInAllowedPosition =>
      cases v with
      | var x => exact .pass (.of_eq 0 rfl rfl)
      | _ => exact .idle rfl
    | _ => exact .idle rfl
  | objField name =>
    cases r with
    | valuesOfCorrectType =>
      dsimp only [enterRule]
      cases ti.inputType with
      | some t => exact .pass (.refl _ a)
      | none =>
        cases ti.parentInputType s fx with
        | none => exact .pass (.refl _ a)
        | some p => exact .pass (.err (.refl _ a))
    | uniqueInputFieldNames =>
      refine .at_field RS.uifStack (fun v st => { st with uifStack := v }) (fun _ => rfl) fun uifStack a => ?_
      cases uifStack with
      | nil => exact .pass (.of_eq 0 rfl rfl)
      | cons names rest =>
        exact .pass (.upd (fun st => { st with uifStack := (name :: names) :: rest }) (fun _ => rfl) (fun _ => rfl)
          (.ite (.err (.refl _ _)) (.refl _ _)))
    | _ => exact .idle rfl
  | tsDef => exact .idle (by cases r <;> rfl)
  | argument x => exact .idle (by cases r <;> rfl)

end

section
variable (s : SchemaD) (fx : Fixes) (ti : TI) (a : RS)

theorem leaveRule_step (r : Rule) (n : Node) :
    FramedAt r a (leaveRule s fx r n ti a) (leaveRule s fx r n ti (a.own r)) := by
  cases n with
  | document d =>
    cases r with
    | noUnusedFragments => exact .ite (.err (.refl _ a)) (.refl _ a)
    | noFragmentCycles => exact .ite (.crash _ (.errN _ (.refl _ a))) (.errN _ (.refl _ a))
    | noUndefinedVariables | noUnusedVariables | variablesInAllowedPosition => exact .errN _ (.refl _ a)
    | _ => exact .idle rfl
  | operation kind name vars dirs sels =>
    cases r with
    | uniqueVariableNames | noUndefinedVariables | noUnusedVariables | variablesInAllowedPosition | knownDirectives =>
      exact .of_eq 0 rfl rfl
    | _ => exact .idle rfl
  | fragmentDef name on dirs =>
    cases r with
    | noFragmentCycles | noUndefinedVariables | noUnusedVariables | variablesInAllowedPosition | knownDirectives =>
      exact .of_eq 0 rfl rfl
    | _ => exact .idle rfl
  | varDef v =>
    cases r with
    | noUndefinedVariables | noUnusedVariables | variablesInAllowedPosition | knownDirectives => exact .of_eq 0 rfl rfl
    | _ => exact .idle rfl
  | directive d =>
    cases r with
    | providedRequiredArguments =>
      dsimp only [leaveRule]
      cases ti.directive with
      | none => exact .refl _ a
      | some dd => exact .errN _ (.refl _ a)
    | _ => exact .idle rfl
  | field name args dirs hasSub =>
    cases r with
    | knownDirectives => exact .of_eq 0 rfl rfl
    | providedRequiredArguments =>
      dsimp only [leaveRule]
      cases ti.field with
      | none => exact .refl _ a
      | some fd => exact .errN _ (.refl _ a)
    | _ => exact .idle rfl
  | spread name dirs =>
    cases r with
    | knownDirectives => exact .of_eq 0 rfl rfl
    | _ => exact .idle rfl
  | inline on dirs =>
    cases r with
    | knownDirectives => exact .of_eq 0 rfl rfl
    | _ => exact .idle rfl
  | value v =>
    cases r with
    | uniqueInputFieldNames =>
      cases v with
      | obj fs => exact .of_eq 0 rfl rfl
      | _ => exact .idle rfl
    | _ => exact .idle rfl
  | tsDef => exact .idle (by cases r <;> rfl)
  | typeNode t => exact .idle (by cases r <;> rfl)
  | argument x => exact .idle (by cases r <;> rfl)
  | selectionSet ssid sels => exact .idle (by cases r <;> rfl)
  | objField name => exact .idle (by cases r <;> rfl)

end

/-- all 26 rules and 14 node kinds; the `SkipNode` flag is that of the own run -/
theorem enterRule_frame (s : SchemaD) (fx : Fixes) (r : Rule) (n : Node) (ti : TI) (a : RS) :
    FramedAt r a (enterRule s fx r n ti a).1 (enterRule s fx r n ti (a.own r)).1 ∧
      (enterRule s fx r n ti a).2 = (enterRule s fx r n ti (a.own r)).2 :=
  ⟨(enterRule_step s fx ti a r n).1, (enterRule_step s fx ti a r n).2.1⟩

theorem leaveRule_frame (s : SchemaD) (fx : Fixes) (r : Rule) (n : Node) (ti : TI) (a : RS) :
    FramedAt r a (leaveRule s fx r n ti a) (leaveRule s fx r n ti (a.own r)) :=
  leaveRule_step s fx ti a r n



theorem FramedAt.own {r : Rule} {a res own : RS} (h : FramedAt r a res own) : res.own r = own.own r := by
  rw [h.1, RS.own_frame]

theorem FramedAt.errs {r : Rule} {a res own : RS} (h : FramedAt r a res own) : res.errs = own.errs ++ a.errs := by
  rw [h.1, RS.frame_errs]

theorem FramedAt.put {r : Rule} {a res own : RS} (h : FramedAt r a res own) : res = RS.put r a res := by
  rw [h.1, RS.put_frame]

/-- a step that raises has just reported -/
theorem FramedStep.skip_lt {r : Rule} {a : RS} {p q : RS × Bool} (h : FramedStep r a p q) (hs : p.2 = true) :
    a.errs.length < p.1.errs.length := by
  have := List.length_pos_iff.mpr (h.2.2 (h.2.1 ▸ hs))
  rw [h.1.errs, List.length_append]
  omega

theorem enterRule_flag (s : SchemaD) (fx : Fixes) (r : Rule) (n : Node) (ti : TI) (a : RS) :
    (enterRule s fx r n ti a).2 = (enterRule s fx r n ti (a.own r)).2 :=
  (enterRule_frame s fx r n ti a).2

theorem enterRule_own (s : SchemaD) (fx : Fixes) (r : Rule) (n : Node) (ti : TI) (a : RS) :
    ((enterRule s fx r n ti a).1).own r = ((enterRule s fx r n ti (a.own r)).1).own r :=
  (enterRule_frame s fx r n ti a).1.own

theorem enterRule_errs (s : SchemaD) (fx : Fixes) (r : Rule) (n : Node) (ti : TI) (a : RS) :
    (enterRule s fx r n ti a).1.errs = (enterRule s fx r n ti (a.own r)).1.errs ++ a.errs :=
  (enterRule_frame s fx r n ti a).1.errs

theorem enterRule_errs_mine (s : SchemaD) (fx : Fixes) (r : Rule) (n : Node) (ti : TI) (a : RS) :
    ∀ x ∈ (enterRule s fx r n ti (a.own r)).1.errs, x = r :=
  (enterRule_frame s fx r n ti a).1.2

theorem enterRule_put (s : SchemaD) (fx : Fixes) (r : Rule) (n : Node) (ti : TI) (a : RS) :
    (enterRule s fx r n ti a).1 = RS.put r a (enterRule s fx r n ti a).1 :=
  (enterRule_frame s fx r n ti a).1.put

theorem leaveRule_own (s : SchemaD) (fx : Fixes) (r : Rule) (n : Node) (ti : TI) (a : RS) :
    (leaveRule s fx r n ti a).own r = (leaveRule s fx r n ti (a.own r)).own r :=
  (leaveRule_frame s fx r n ti a).own

theorem leaveRule_errs (s : SchemaD) (fx : Fixes) (r : Rule) (n : Node) (ti : TI) (a : RS) :
    (leaveRule s fx r n ti a).errs = (leaveRule s fx r n ti (a.own r)).errs ++ a.errs :=
  (leaveRule_frame s fx r n ti a).errs

theorem leaveRule_errs_mine (s : SchemaD) (fx : Fixes) (r : Rule) (n : Node) (ti : TI) (a : RS) :
    ∀ x ∈ (leaveRule s fx r n ti (a.own r)).errs, x = r :=
  (leaveRule_frame s fx r n ti a).2

theorem leaveRule_put (s : SchemaD) (fx : Fixes) (r : Rule) (n : Node) (ti : TI) (a : RS) :
    leaveRule s fx r n ti a = RS.put r a (leaveRule s fx r n ti a) :=
  (leaveRule_frame s fx r n ti a).put

end PyGql.Validate
