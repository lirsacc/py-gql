/-
  Location-free executable trees have `PrintMatch.plain` views — only tokens and non-empty nodes without position (not
  `Spec.Item.plain`, which asks for the first only) — which is what turns token classes into a `Matches`.
-/
import PyGqlModel.Lemmas.PrintTokens
namespace PyGql.PrintTokens
open PyGql PyGql.Ast PyGql.Parse PyGql.Spec PyGql.Print PyGql.PrintLex PyGql.PrintMatch

theorem plainAll_map {α} (f : α → Item) (xs : List α) (h : ∀ x ∈ xs, plain (f x) = true) :
    plainAll (xs.map f) = true := by
  induction xs with
  | nil => rfl
  | cons x xs ih =>
    simp only [List.map_cons, plainAll, Bool.and_eq_true]
    exact ⟨h x (by simp), ih (fun y hy => h y (by simp [hy]))⟩

theorem all_map_true {α β} (f : α → β) (p : β → Bool) (h : ∀ x, p (f x) = true) (xs : List α) : (xs.map f).all p = true := by
  simp [List.all_map, h]

theorem plainAll_groupV {α} (o c : TokKind) (V : α → Item) (xs : List α) (h : ∀ x ∈ xs, plain (V x) = true) :
    plainAll (groupV o c V xs) = true := by
  unfold groupV
  split
  · rfl
  · simp [plainAll, plainAll_append, plain, plainAll_map V xs h]

def noLocArgument (a : Argument) : Bool := a.loc.isNone && a.name.loc.isNone && noLocValue a.value
def noLocDirective (d : Directive) : Bool := d.loc.isNone && d.name.loc.isNone && d.arguments.all noLocArgument
def noLocVarDef (d : VariableDefinition) : Bool :=
  d.loc.isNone && d.var.loc.isNone && d.var.name.loc.isNone && noLocType d.type &&
  (match d.defaultValue with | some v => noLocValue v | none => true) && d.directives.all noLocDirective

mutual
def noLocSelection : Selection → Bool
  | .field alias_ name args dirs ss loc =>
    loc.isNone && (match alias_ with | some a => a.loc.isNone | none => true) && name.loc.isNone &&
    args.all noLocArgument && dirs.all noLocDirective && noLocOptSS ss
  | .fragmentSpread name dirs loc => loc.isNone && name.loc.isNone && dirs.all noLocDirective
  | .inlineFragment tc dirs ss loc =>
    loc.isNone && (match tc with | some t => t.loc.isNone && t.name.loc.isNone | none => true) &&
    dirs.all noLocDirective && noLocSS ss
def noLocSS : SelectionSet → Bool
  | .mk sels loc => loc.isNone && noLocSelections sels
def noLocOptSS : Option SelectionSet → Bool
  | none => true
  | some ss => noLocSS ss
def noLocSelections : List Selection → Bool
  | [] => true
  | s :: ss => noLocSelection s && noLocSelections ss
end

theorem plain_argumentV (a : Argument) (h : noLocArgument a = true) : plain (argumentV a) = true := by
  simp [noLocArgument] at h
  simp [argumentV, nameV, plain, plainAll, Item.yieldAll, Item.yield, h.1.1, h.1.2, plain_valueV a.value h.2]

theorem plainAll_argumentsV (as : List Argument) (h : as.all noLocArgument = true) : plainAll (argumentsV as) = true :=
  plainAll_groupV _ _ argumentV as fun x hx => plain_argumentV x ((List.all_eq_true.1 h) x hx)

theorem plain_directiveV (d : Directive) (h : noLocDirective d = true) : plain (directiveV d) = true := by
  simp only [noLocDirective, Bool.and_eq_true, Option.isNone_iff_eq_none] at h
  have := plainAll_argumentsV d.arguments h.2
  simp [directiveV, nameV, plain, plainAll, Item.yieldAll, Item.yield, h.1.1, h.1.2, this]

theorem plainAll_directivesV (ds : List Directive) (h : ds.all noLocDirective = true) : plainAll (directivesV ds) = true :=
  plainAll_map directiveV ds (fun x hx => plain_directiveV x ((List.all_eq_true.1 h) x hx))

theorem plain_variableDefinitionV (d : VariableDefinition) (h : noLocVarDef d = true) :
    plain (variableDefinitionV d) = true := by
  simp only [noLocVarDef, Bool.and_eq_true, Option.isNone_iff_eq_none] at h
  obtain ⟨⟨⟨⟨⟨h1, h2⟩, h3⟩, h4⟩, h5⟩, h6⟩ := h
  have hd := plainAll_directivesV d.directives h6
  have ht := plain_typeV d.type h4
  have hdef : plainAll (defaultV d.defaultValue) = true := by
    cases hv : d.defaultValue with
    | none => rfl
    | some v => rw [hv] at h5; simp [defaultV, plainAll, plain, plain_valueV v h5]
  simp [variableDefinitionV, variableV, nameV, plain, plainAll, plainAll_append, Item.yieldAll, Item.yield, h1, h2, h3,
    hd, ht, hdef]

theorem plainAll_variableDefinitionsV (ds : List VariableDefinition) (h : ds.all noLocVarDef = true) :
    plainAll (variableDefinitionsV ds) = true :=
  plainAll_groupV _ _ variableDefinitionV ds fun x hx => plain_variableDefinitionV x ((List.all_eq_true.1 h) x hx)

mutual
theorem plain_selectionV : ∀ (s : Selection), noLocSelection s = true → plain (selectionV s) = true
  | .field alias_ name args dirs ss loc, h => by
    simp only [noLocSelection, Bool.and_eq_true, Option.isNone_iff_eq_none] at h
    obtain ⟨⟨⟨⟨⟨h1, h2⟩, h3⟩, h4⟩, h5⟩, h6⟩ := h
    have ha := plainAll_argumentsV args h4
    have hd := plainAll_directivesV dirs h5
    have hs := plainAll_optSelectionSetV ss h6
    cases alias_ with
    | none =>
      simp [selectionV, nameV, plain, plainAll, plainAll_append, Item.yieldAll, Item.yield, h1, h3, ha, hd, hs]
    | some a =>
      simp at h2
      simp [selectionV, nameV, plain, plainAll, plainAll_append, Item.yieldAll, Item.yield, h1, h2, h3, ha, hd, hs]
  | .fragmentSpread name dirs loc, h => by
    simp only [noLocSelection, Bool.and_eq_true, Option.isNone_iff_eq_none] at h
    have hd := plainAll_directivesV dirs h.2
    simp [selectionV, nameV, plain, plainAll, Item.yieldAll, Item.yield, h.1.1, h.1.2, hd]
  | .inlineFragment tc dirs ss loc, h => by
    simp only [noLocSelection, Bool.and_eq_true, Option.isNone_iff_eq_none] at h
    obtain ⟨⟨⟨h1, h2⟩, h3⟩, h4⟩ := h
    have hd := plainAll_directivesV dirs h3
    have hs := plain_selectionSetV ss h4
    cases tc with
    | none => simp [selectionV, plain, plainAll, plainAll_append, Item.yieldAll, Item.yield, h1, hd, hs]
    | some t =>
      simp at h2
      simp [selectionV, namedTypeV, nameV, kw, plain, plainAll, plainAll_append, Item.yieldAll, Item.yield, h1, h2.1, h2.2,
        hd, hs]
theorem plain_selectionSetV : ∀ (ss : SelectionSet), noLocSS ss = true → plain (selectionSetV ss) = true
  | .mk sels loc, h => by
    simp only [noLocSS, Bool.and_eq_true, Option.isNone_iff_eq_none] at h
    have := plainAll_selectionsV sels h.2
    simp [selectionSetV, plain, plainAll, plainAll_append, Item.yieldAll, Item.yield, h.1, this]
theorem plainAll_optSelectionSetV : ∀ (o : Option SelectionSet), noLocOptSS o = true → plainAll (optSelectionSetV o) = true
  | none, _ => rfl
  | some ss, h => by
    simp only [noLocOptSS] at h
    simp [optSelectionSetV, plainAll, plain_selectionSetV ss h]
theorem plainAll_selectionsV : ∀ (sels : List Selection), noLocSelections sels = true → plainAll (selectionsV sels) = true
  | [], _ => rfl
  | s :: ss, h => by
    simp only [noLocSelections, Bool.and_eq_true] at h
    simp [selectionsV, plainAll, plain_selectionV s h.1, plainAll_selectionsV ss h.2]
end

end PyGql.PrintTokens
