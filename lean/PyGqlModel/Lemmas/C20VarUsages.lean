/-
  C20 — towards `nobreaking_variablesInAllowedPosition` (Props/C20_rules_vars.lean): at input positions `is_subtype` is the
  strictness order `sub`, which is transitive, so a variable type accepted at the old position is accepted at the at least as
  permissive new one; the variable usages inside a value, old and new, are related position by position (`URel`,
  `usesValue_rel`), given that the fields of its object literals are defined (ValuesOfCorrectType on the old schema).
-/
import PyGqlModel.Props.C20_rules_values

set_option linter.unusedSimpArgs false
set_option linter.unusedSectionVars false

namespace PyGql.Props.C20
open PyGql PyGql.Differ PyGql.Diff PyGql.Validate PyGql.Validate.Spec

/-- where the expected type is not abstract (every input type), `Schema.is_subtype` is the strictness order -/
theorem isSubtype_eq_sub (s : SchemaD) : ∀ (t u : Ty), isAbstract s u.base = false → isSubtype s t u = sub t u := by
  intro t
  induction t with
  | named a =>
    intro u hab
    cases u with
    | named b =>
      have hab' : isAbstract s b = false := hab
      rw [isSubtype]
      by_cases e : a = b
      · subst e; simp [sub]
      · have : (Ty.named a == Ty.named b) = false := by simp [e]
        simp [this, sub, e, hab']
    | list b =>
      rw [isSubtype]
      · simp [sub]
      all_goals (intro _ hh; cases hh)
    | nonNull b =>
      rw [isSubtype]
      · simp [sub]
      all_goals (intro _ hh; cases hh)
  | list i ih =>
    intro u hab
    cases u with
    | named b =>
      rw [isSubtype]
      · simp [sub]
      all_goals (intro _ hh; cases hh)
    | list j =>
      rw [isSubtype]
      by_cases e : i = j
      · subst e; simp [sub_refl_in]
      · have : (Ty.list i == Ty.list j) = false := by simp [e]
        simp [this, sub, ih j hab]
    | nonNull b =>
      rw [isSubtype]
      · simp [sub]
      all_goals (intro _ hh; cases hh)
  | nonNull a ih =>
    intro u hab
    cases u with
    | named b =>
      rw [isSubtype]
      · simp [sub, ih (.named b) hab]
      all_goals (intro _ hh; cases hh)
    | list j =>
      rw [isSubtype]
      · simp [sub, ih (.list j) hab]
      all_goals (intro _ hh; cases hh)
    | nonNull b =>
      rw [isSubtype]
      by_cases e : a = b
      · subst e; simp [sub_refl_in]
      · have : (Ty.nonNull a == Ty.nonNull b) = false := by simp [e]
        simp [this, sub, ih b hab]
private theorem notAbstract_of_in {s : SchemaD} {t : Ty} (h : isInputTy s t = true) : isAbstract s t.base = false := by
  unfold isInputTy at h
  unfold isAbstract
  cases hk : kindOf s t.base with
  | none => rfl
  | some k => rw [hk] at h; cases k <;> simp_all

/-- **`is_subtype` transported**: a variable type accepted at the old position is accepted at the new one -/
theorem isSubtype_transport (o n : SchemaD) (h : diffSchema o n 2 = []) (vt it it' : Ty) (hl : TyLoose it it')
    (hi : isInputTy o it = true) (hs : isSubtype o vt it = true) : isSubtype n vt it' = true := by
  rw [isSubtype_eq_sub o vt it (notAbstract_of_in hi)] at hs
  have hi' : isInputTy n it' = true := by
    unfold isInputTy at hi ⊢
    rw [sub_base _ _ hl.1, nobreaking_kindOf_eq o n h _ (kind_of_in hi)]; exact hi
  rw [isSubtype_eq_sub n vt it' (notAbstract_of_in hi')]
  exact sub_trans vt it it' hs hl.1

/-- the new position is at least as permissive, and a default that made a non-null position optional is kept -/
def URel (o : SchemaD) (u u' : Usage) : Prop :=
  InRel o u.inputType u'.inputType ∧
    (∀ c, u'.inputType = some (.nonNull c) → u.locDefault = true → u'.locDefault = true)

mutual
/-- the fields of the object literals inside a value standing at a position expecting `it` are defined -/
def fkValue (o : SchemaD) : Option Ty → Value → Prop
  | it, .list vs => fkValues o (listItemPos o ⟨it, false⟩).inputType vs
  | it, .obj fs => fkFields o it fs
  | _, _ => True
def fkValues (o : SchemaD) : Option Ty → List Value → Prop
  | _, [] => True
  | it, v :: vs => fkValue o it v ∧ fkValues o it vs
def fkFields (o : SchemaD) : Option Ty → List ObjField → Prop
  | _, [] => True
  | it, .mk nm v :: fs =>
    (((objFieldPos o ⟨it, false⟩ nm).inputType = none → ∀ t, it = some t → isInputObject o t.base = false) ∧
      fkValue o (objFieldPos o ⟨it, false⟩ nm).inputType v) ∧ fkFields o it fs
end

section
variable (o n : SchemaD) (h : diffSchema o n 2 = []) (woi : OldWfIn o)
include h woi

mutual
theorem usesValue_rel : ∀ (val : Value) (u u' : Usage), URel o u u' → fkValue o u.inputType val →
    ∀ x r', (x, r') ∈ usesValue n u' val → ∃ r, (x, r) ∈ usesValue o u val ∧ URel o r r'
  | .var y, u, u', hu, _, x, r', hm => by
    simp only [usesValue, List.mem_singleton, Prod.mk.injEq] at hm
    obtain ⟨rfl, rfl⟩ := hm
    exact ⟨u, by simp [usesValue], hu⟩
  | .list vs, u, u', hu, hfk, x, r', hm => by
    simp only [usesValue] at hm
    have hu2 : URel o (listItemPos o u) (listItemPos n u') :=
      ⟨listItemPos_rel o n h _ _ hu.1, fun c _ hd => by cases hd⟩
    have hfk2 : fkValues o (listItemPos o u).inputType vs := by simp only [fkValue] at hfk; exact hfk
    obtain ⟨r, hr, hrel⟩ := usesValues_rel vs _ _ hu2 hfk2 x r' hm
    exact ⟨r, by simp only [usesValue]; exact hr, hrel⟩
  | .obj fs, u, u', hu, hfk, x, r', hm => by
    simp only [usesValue] at hm
    have hfk2 : fkFields o u.inputType fs := by simpa [fkValue] using hfk
    obtain ⟨r, hr, hrel⟩ := usesObjFields_rel fs u u' hu hfk2 x r' hm
    exact ⟨r, by simp only [usesValue]; exact hr, hrel⟩
  | .int a, u, u', hu, _, x, r', hm => by simp [usesValue] at hm
  | .float a, u, u', hu, _, x, r', hm => by simp [usesValue] at hm
  | .str a, u, u', hu, _, x, r', hm => by simp [usesValue] at hm
  | .bool a, u, u', hu, _, x, r', hm => by simp [usesValue] at hm
  | .null, u, u', hu, _, x, r', hm => by simp [usesValue] at hm
  | .enum a, u, u', hu, _, x, r', hm => by simp [usesValue] at hm
theorem usesValues_rel : ∀ (vs : List Value) (u u' : Usage), URel o u u' → fkValues o u.inputType vs →
    ∀ x r', (x, r') ∈ usesValues n u' vs → ∃ r, (x, r) ∈ usesValues o u vs ∧ URel o r r'
  | [], u, u', hu, _, x, r', hm => by simp [usesValues] at hm
  | v :: vs, u, u', hu, hfk, x, r', hm => by
    simp only [usesValues, List.mem_append] at hm
    have hfk2 : fkValue o u.inputType v ∧ fkValues o u.inputType vs := by simpa [fkValues] using hfk
    rcases hm with hm | hm
    · obtain ⟨r, hr, hrel⟩ := usesValue_rel v u u' hu hfk2.1 x r' hm
      exact ⟨r, by simp only [usesValues, List.mem_append]; exact Or.inl hr, hrel⟩
    · obtain ⟨r, hr, hrel⟩ := usesValues_rel vs u u' hu hfk2.2 x r' hm
      exact ⟨r, by simp only [usesValues, List.mem_append]; exact Or.inr hr, hrel⟩
theorem usesObjFields_rel : ∀ (fs : List ObjField) (u u' : Usage), URel o u u' → fkFields o u.inputType fs →
    ∀ x r', (x, r') ∈ usesObjFields n u' fs → ∃ r, (x, r) ∈ usesObjFields o u fs ∧ URel o r r'
  | [], u, u', hu, _, x, r', hm => by simp [usesObjFields] at hm
  | .mk nm v :: fs, u, u', hu, hfk, x, r', hm => by
    simp only [usesObjFields, List.mem_append] at hm
    have hfk2 : (((objFieldPos o ⟨u.inputType, false⟩ nm).inputType = none →
          ∀ t, u.inputType = some t → isInputObject o t.base = false) ∧
        fkValue o (objFieldPos o ⟨u.inputType, false⟩ nm).inputType v) ∧ fkFields o u.inputType fs := by
      simpa [fkFields] using hfk
    rcases hm with hm | hm
    · have hk : (objFieldPos o u nm).inputType = none → ∀ t, u.inputType = some t → isInputObject o t.base = false :=
        hfk2.1.1
      have hu2 : URel o (objFieldPos o u nm) (objFieldPos n u' nm) := objFieldPos_rel o n h woi u u' nm hu.1 hk
      have hfk3 : fkValue o (objFieldPos o u nm).inputType v := hfk2.1.2
      obtain ⟨r, hr, hrel⟩ := usesValue_rel v _ _ hu2 hfk3 x r' hm
      exact ⟨r, by simp only [usesObjFields, List.mem_append]; exact Or.inl hr, hrel⟩
    · obtain ⟨r, hr, hrel⟩ := usesObjFields_rel fs u u' hu hfk2.2 x r' hm
      exact ⟨r, by simp only [usesObjFields, List.mem_append]; exact Or.inr hr, hrel⟩
end

end

section
variable (o : SchemaD) (fx : Fixes) (hv9 : fx.v9 = true)
include hv9

mutual
theorem fkValue_of_nodes : ∀ (val : Value) (w : IView),
    (∀ p ∈ gnValue (IView.enter o) w val, valueNodeOk o fx p.1 p.2) → fkValue o w.input val
  | .list vs, w, hn => by
    rw [gnValue] at hn
    simp only [fkValue]
    exact fkValues_of_nodes vs (IView.enter o (.value (.list vs)) w) fun p hp => hn p (List.mem_cons_of_mem _ hp)
  | .obj fs, w, hn => by
    rw [gnValue] at hn
    simp only [fkValue]
    exact fkFields_of_nodes fs (IView.enter o (.value (.obj fs)) w) fun p hp => hn p (List.mem_cons_of_mem _ hp)
  | .var a, w, _ => by simp [fkValue]
  | .int a, w, _ => by simp [fkValue]
  | .float a, w, _ => by simp [fkValue]
  | .str a, w, _ => by simp [fkValue]
  | .bool a, w, _ => by simp [fkValue]
  | .null, w, _ => by simp [fkValue]
  | .enum a, w, _ => by simp [fkValue]
theorem fkValues_of_nodes : ∀ (vs : List Value) (w : IView),
    (∀ p ∈ gnValues (IView.enter o) w vs, valueNodeOk o fx p.1 p.2) → fkValues o w.input vs
  | [], w, _ => by simp [fkValues]
  | v :: vs, w, hn => by
    rw [gnValues] at hn
    simp only [fkValues]
    exact ⟨fkValue_of_nodes v w fun p hp => hn p (List.mem_append_left _ hp),
      fkValues_of_nodes vs w fun p hp => hn p (List.mem_append_right _ hp)⟩
theorem fkFields_of_nodes : ∀ (fs : List ObjField) (w : IView),
    (∀ p ∈ gnObjFields (IView.enter o) w fs, valueNodeOk o fx p.1 p.2) → fkFields o w.input fs
  | [], w, _ => by simp [fkFields]
  | .mk nm v :: fs, w, hn => by
    rw [gnObjFields, gnObjField] at hn
    simp only [fkFields]
    refine ⟨⟨?_, ?_⟩, fkFields_of_nodes fs w fun p hp => hn p (List.mem_append_right _ hp)⟩
    · intro hnone t ht
      have h1 := hn (.objField nm, IView.enter o (.objField nm) w) (List.mem_append_left _ List.mem_cons_self)
      exact not_inputObject_of_outer o fx hv9 _ (h1 hnone) t ht
    · exact fkValue_of_nodes v (IView.enter o (.objField nm) w)
        fun p hp => hn p (List.mem_append_left _ (List.mem_cons_of_mem _ hp))
end

end

private theorem pairDef_mem {o n : SchemaD} {d : Doc} {df : Def} (hdf : df ∈ d.defs) {p : Node × (IView × IView)}
    (hp : p ∈ gnDef (pdI o n) ({}, {}) df) : p ∈ pairNodesI o n d :=
  List.mem_flatMap.mpr ⟨df, hdf, hp⟩

private theorem pairDef_old (o n : SchemaD) (df : Def) :
    pmap (fun x : IView × IView => x.1.view) (gnDef (pdI o n) ({}, {}) df) = tnDef o df := by
  rw [← gnDef_view]
  exact gnDef_map (fun x : IView × IView => x.1.view) (pdI o n) (View.enter o)
    (fun nd x => IView.enter_view o nd x.1) df ({}, {})

private theorem pairDef_new (o n : SchemaD) (df : Def) :
    pmap (fun x : IView × IView => x.2.view) (gnDef (pdI o n) ({}, {}) df) = tnDef n df := by
  rw [← gnDef_view]
  exact gnDef_map (fun x : IView × IView => x.2.view) (pdI o n) (View.enter n)
    (fun nd x => IView.enter_view n nd x.2) df ({}, {})

/-- **every usage on the new schema is a usage on the old one, at a position at least as strict** -/
theorem defUsages_rel (o n : SchemaD) (h : diffSchema o n 2 = []) (wo : OldWf o) (wn : NewWf n) (woi : OldWfIn o)
    (fx : Fixes) (hv9 : fx.v9 = true) (d : Doc) (hR : OpsRooted o d) (hv : SchemaRules o d)
    (hval : valuesOfCorrectType o fx d) (df : Def) (hdf : df ∈ d.defs) (x : String) (r' : Usage)
    (hm : (x, r') ∈ defUsages n df) : ∃ r, (x, r) ∈ defUsages o df ∧ URel o r r' := by
  have hinv := inputViews_compatible o n h wo wn woi fx hv9 d hR hv hval
  have hok := oldOkI_all o n fx d hv hR hval
  have hkids := gnDoc_kids (pdI o n) d ({}, {})
  unfold defUsages at hm ⊢
  obtain ⟨q, hq, hmq⟩ := List.mem_flatMap.mp hm
  rw [← pairDef_new o n df] at hq
  obtain ⟨p, hp, rfl⟩ := List.mem_map.mp hq
  have hpd := pairDef_mem hdf hp
  obtain ⟨nd, w, w'⟩ := p
  cases nd with
  | argument a =>
    have hmq' : (x, r') ∈ usesValue n (argPos n w'.view a.name) a.value := hmq
    have iv := hinv _ hpd
    have hk : ArgKnown w.view a.name := (hok _ hpd).2.2.1 a rfl
    have hu : URel o (argPos o w.view a.name) (argPos n w'.view a.name) :=
      argPos_rel o n h w.view w'.view a.name iv.view iv.fd hk
    -- the input type of the argument node IS the type of the position (that is how `IView.enter` computed it)
    have hkidsOk : ∀ q ∈ gnValue (pdI o n) (w, w') a.value, valueNodeOk o fx q.1 q.2.1 := by
      intro q hq
      exact hval _ (memI_old (hkids _ hpd a rfl q hq))
    have hproj : pmap Prod.fst (gnValue (pdI o n) (w, w') a.value) = gnValue (IView.enter o) w a.value :=
      gnValue_map Prod.fst (pdI o n) (IView.enter o) (fun _ _ => rfl) a.value (w, w')
    have hfkn : ∀ q ∈ gnValue (IView.enter o) w a.value, valueNodeOk o fx q.1 q.2 := by
      intro q hq
      rw [← hproj] at hq
      obtain ⟨q0, hq0, rfl⟩ := List.mem_map.mp hq
      exact hkidsOk q0 hq0
    have hfk := fkValue_of_nodes o fx hv9 a.value w hfkn
    -- `w.input` is the expected type of the argument: the node was entered from a context with the same view
    obtain ⟨q, hq, hc, _⟩ := gnDoc_argPar (pdI o n) (fun _ => True) (fun _ _ _ _ => trivial) d ({}, {}) trivial
      _ hpd a rfl
    have hwin : w.input = (argPos o w.view a.name).inputType := by
      have h1 : w = IView.enter o (.argument a) q.2.1 := congrArg Prod.fst hc
      have h2 : w.view = q.2.1.view := by rw [h1]; exact IView.enter_view o (.argument a) q.2.1
      rw [h2, h1]; rfl
    rw [hwin] at hfk
    obtain ⟨r, hr, hrel⟩ := usesValue_rel o n h woi a.value _ _ hu hfk x r' hmq'
    refine ⟨r, List.mem_flatMap.mpr ⟨(.argument a, w.view), ?_, hr⟩, hrel⟩
    rw [← pairDef_old o n df]
    exact List.mem_map.mpr ⟨(.argument a, (w, w')), hp, rfl⟩
  | document d => simp [nodeUsages] at hmq
  | tsDef => simp [nodeUsages] at hmq
  | typeNode t => simp [nodeUsages] at hmq
  | spread nm ds => simp [nodeUsages] at hmq
  | selectionSet i sels => simp [nodeUsages] at hmq
  | operation kind name vars dirs sels => simp [nodeUsages] at hmq
  | fragmentDef name on dirs => simp [nodeUsages] at hmq
  | inline on dirs => simp [nodeUsages] at hmq
  | directive dr => simp [nodeUsages] at hmq
  | field name args dirs hs => simp [nodeUsages] at hmq
  | varDef v => simp [nodeUsages] at hmq
  | value v => simp [nodeUsages] at hmq
  | objField nm => simp [nodeUsages] at hmq

end PyGql.Props.C20
