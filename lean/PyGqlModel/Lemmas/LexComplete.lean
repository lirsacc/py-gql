/-
  Completeness of `__next__` (for punctuators, `...`, names and quoted strings): an ignored run followed by a
  complete lexeme that obeys the follow restriction is read as exactly that token.
-/
import PyGqlModel.Lemmas.LexTiles
import PyGqlModel.Lemmas.LexNext

namespace PyGql.Lex
open PyGql.Spec.Lexical

def tokAt (n : Nat) (k : TokKind) (lex rest v : Text) : Tok := ⟨k, n - (lex ++ rest).length, n - rest.length, v⟩

theorem next_punct (n : Nat) (ign rest : Text) (c : Nat) (k : TokKind) (hk : symbolKind c = some k)
    (hrun : IgnRun ([c] ++ rest) ign) :
    next n (ign ++ ([c] ++ rest)) = .ok (tokAt n k [c] rest [c], some rest) := by
  rw [next_skip n ign _ hrun (tokenStart_symbol rest hk)]
  exact next_symbol n rest hk

theorem next_ellip (n : Nat) (ign rest : Text) (hrun : IgnRun ([46, 46, 46] ++ rest) ign) :
    next n (ign ++ ([46, 46, 46] ++ rest)) = .ok (tokAt n .ellip [46, 46, 46] rest [46, 46, 46], some rest) := by
  rw [next_skip n ign _ hrun (tokenStart_dot _)]
  exact next_dot n _

theorem next_name (n : Nat) (ign lex rest : Text) (hl : isName lex = true)
    (hf : startsWith isNameCont rest = false) (hrun : IgnRun (lex ++ rest) ign) :
    next n (ign ++ (lex ++ rest)) = .ok (tokAt n .name lex rest lex, some rest) := by
  cases lex with
  | nil => simp [isName] at hl
  | cons c t =>
    simp only [isName, Bool.and_eq_true] at hl
    have hfun : Lex.isNameChar = isNameCont := funext isNameChar_spec
    have hall : ∀ x ∈ c :: t, Lex.isNameChar x = true := by
      intro x hx
      rw [isNameChar_spec]
      rcases List.mem_cons.mp hx with rfl | hx
      · simp [isNameCont, hl.1]
      · exact List.all_eq_true.mp hl.2 x hx
    obtain ⟨htk, hdr⟩ := takeWhile_append_stop Lex.isNameChar (c :: t) rest hall (by rw [hfun]; exact hf)
    rw [next_skip n ign _ hrun (tokenStart_nameStart _ hl.1), List.cons_append, next_nameStart n c _ hl.1, readName,
      ← List.cons_append, htk, hdr]
    rfl

theorem next_string (n : Nat) (ign lex rest v : Text) (hl : stringValue lex = some v)
    (hf : lex = [34, 34] → startsWith (· == 34) rest = false) (hrun : IgnRun (lex ++ rest) ign) :
    next n (ign ++ (lex ++ rest)) = .ok (tokAt n .string lex rest v, some rest) := by
  cases lex with
  | nil => simp [stringValue] at hl
  | cons c t =>
    -- shape of the lexeme: `"` body `"`
    have hc : c = 34 := by
      unfold stringValue at hl
      split at hl
      · rename_i t' heq; simp only [List.cons.injEq] at heq; exact heq.1
      · cases hl
    subst hc
    simp only [stringValue] at hl
    split at hl
    · rename_i hlast
      obtain ⟨body, rfl⟩ : ∃ body, t = body ++ [34] := List.getLast?_eq_some_iff.mp hlast
      simp only [List.dropLast_concat] at hl
      have hbody := PyGql.Props.C02.escape_spec_complete n body v rest hl
      have htq : tq.isPrefixOf (34 :: (body ++ 34 :: rest)) = false := by
        cases body with
        | nil =>
          have := hf rfl
          cases rest with
          | nil => simp [tq, List.isPrefixOf]
          | cons x xs =>
            simp only [startsWith, beq_eq_false_iff_ne] at this
            simp [tq, List.isPrefixOf, Ne.symm this]
        | cons b bs =>
          have hb : b ≠ 34 := by
            intro hb; subst hb
            rw [stringCharacters.eq_def] at hl; simp at hl
          simp [tq, List.isPrefixOf, Ne.symm hb]
      have e : 34 :: (body ++ [34]) ++ rest = 34 :: (body ++ 34 :: rest) := by simp
      rw [next_skip n ign _ hrun (tokenStart_quote _), e, next_quote n _ htq, readString, List.drop_succ_cons,
        List.drop_zero, hbody]
      simp [Except.map, tokAt, posAt]
    · cases hl

end PyGql.Lex
