/-
  C14 — `extend_schema` establishes OWNERSHIP (threshold form of `Lemmas/HeapOwn.lean`): every non-protected type object and
  every directive object the result registers was allocated by the call, and so were (transitively) their fields and arguments.
  So a later in-place visitor on an extension result is confined to objects created by the extension (`extend_ok`).
-/
import PyGqlModel.Lemmas.HeapOwn
import PyGqlModel.Lemmas.HeapExtStages

namespace PyGql.Heap.Own
open PyGql.Heap

theorem allocPlaceholders_ok (n : Nat) : ∀ (ns : List String) (h : Heap), Inv n h →
    Pres n h (allocPlaceholders h ns).1 ∧ ∀ e, e ∈ (allocPlaceholders h ns).2 → n ≤ e.2 := by
  intro ns
  induction ns with
  | nil => intro h i; exact ⟨Pres.refl i, nofun⟩
  | cons x ns ih =>
    intro h i
    have p1 := pres_alloc i (placeholder x) nofun
    exact p1.1.cons p1.2 (ih _ p1.1.1)

theorem extendArgs_ok (n : Nat) (keepPy : Bool) (N : List (String × Addr)) : ∀ (as : List Addr) (h : Heap), Inv n h →
    Pres n h (extendArgs keepPy N h as).1 ∧ ∀ c, c ∈ (extendArgs keepPy N h as).2 → n ≤ c := by
  intro as
  induction as with
  | nil => intro h i; exact ⟨Pres.refl i, nofun⟩
  | cons a as ih =>
    intro h i
    simp only [extendArgs]
    split
    · rename_i g _
      have p1 := pres_alloc i (.arg { g with ty := repoint N g.ty, py := if keepPy then g.py else g.name }) nofun
      exact p1.1.cons p1.2 (ih _ p1.1.1)
    · exact ih h i

theorem buildArgs_ok (n : Nat) (N : List (String × Addr)) : ∀ (gs : List ExtArg) (h : Heap), Inv n h →
    Pres n h (buildArgs N h gs).1 ∧ ∀ c, c ∈ (buildArgs N h gs).2 → n ≤ c := by
  intro gs
  induction gs with
  | nil => intro h i; exact ⟨Pres.refl i, nofun⟩
  | cons g gs ih =>
    intro h i
    have p1 := pres_alloc i (.arg { name := g.name, ty := tnRef N g.ty, py := g.name, dflt := none, desc := none }) nofun
    exact p1.1.cons p1.2 (ih _ p1.1.1)

theorem extendFields_ok (n : Nat) (cfg : Cfg) (N : List (String × Addr)) : ∀ (as : List Addr) (h : Heap), Inv n h →
    Pres n h (extendFields cfg N h as).1 ∧ ∀ c, c ∈ (extendFields cfg N h as).2 → n ≤ c := by
  intro as
  induction as with
  | nil => intro h i; exact ⟨Pres.refl i, nofun⟩
  | cons a as ih =>
    intro h i
    simp only [extendFields]
    split
    · rename_i f _
      obtain ⟨p0, q0⟩ := extendArgs_ok n cfg.extArgPy N f.args h i
      have p1 := pres_alloc p0.1 (.field { f with ty := repoint N f.ty, args := (extendArgs cfg.extArgPy N h f.args).2, sub := if cfg.extFieldSub then f.sub else none, py := if cfg.extFieldPy then f.py else f.name }) q0
      exact (p0.trans p1.1).cons p1.2 (ih _ p1.1.1)
    · exact ih h i

theorem buildFields_ok (n : Nat) (N : List (String × Addr)) : ∀ (fs : List ExtField) (h : Heap), Inv n h →
    Pres n h (buildFields N h fs).1 ∧ ∀ c, c ∈ (buildFields N h fs).2 → n ≤ c := by
  intro fs
  induction fs with
  | nil => intro h i; exact ⟨Pres.refl i, nofun⟩
  | cons f fs ih =>
    intro h i
    obtain ⟨p0, q0⟩ := buildArgs_ok n N f.args h i
    have p1 := pres_alloc p0.1 (.field { name := f.name, ty := tnRef N f.ty, args := (buildArgs N h f.args).2, desc := none, depr := none, res := f.res, sub := none, py := f.name }) q0
    exact (p0.trans p1.1).cons p1.2 (ih _ p1.1.1)

theorem Pres.append {n : Nat} {h h1 h2 : Heap} {cs ds : List Addr} (p : Pres n h h1 ∧ ∀ c, c ∈ cs → n ≤ c)
    (r : Pres n h1 h2 ∧ ∀ c, c ∈ ds → n ≤ c) : Pres n h h2 ∧ ∀ c, c ∈ cs ++ ds → n ≤ c :=
  ⟨p.1.trans r.1, fun c hc => (List.mem_append.mp hc).elim (p.2 c) (r.2 c)⟩

theorem extendKids_ok (n : Nat) (cfg : Cfg) (ext : Ext) (N Nin : List (String × Addr)) (h : Heap) (t : TypeO) (i : Inv n h) :
    Pres n h (extendKids cfg ext N Nin h t).1 ∧ ∀ c, c ∈ (extendKids cfg ext N Nin h t).2 → n ≤ c := by
  have hf := extendFields_ok n cfg N t.fields h i
  have hb := buildFields_ok n N (assocD ext.fields t.name) _ hf.1.1
  simp only [extendKids]
  split
  · have p1 := extendArgs_ok n cfg.extInputPy N t.fields h i
    exact Pres.append p1 (buildArgs_ok n Nin (assocD ext.inputFields t.name) _ p1.1.1)
  · exact Pres.append hf hb
  · exact Pres.append hf hb
  · exact ⟨Pres.refl i, nofun⟩

theorem extendOne_ok (n : Nat) (cfg : Cfg) (ext : Ext) (N Nin : List (String × Addr)) (h : Heap) (t : TypeO) (na : Addr)
    (i : Inv n h) (hna : n ≤ na) : Pres n h (extendOne cfg ext N Nin h t na) := by
  simp only [extendOne]
  obtain ⟨p1, q1⟩ := extendKids_ok n cfg ext N Nin h t i
  exact p1.trans (pres_write p1.1 na _ hna (by simpa [kids, rebuiltType] using q1))

theorem extendAll_ok (n : Nat) (cfg : Cfg) (ext : Ext) (N Nin P : List (String × Addr)) (hP : ∀ nm x, lookup P nm = some x → n ≤ x)
    (h0 : Heap) : ∀ (l : List (String × Addr)) (h : Heap), Inv n h → Pres n h (extendAll cfg ext N Nin P h0 h l) := by
  intro l
  induction l with
  | nil => intro h i; exact Pres.refl i
  | cons e rest ih =>
    intro h i
    obtain ⟨nm, a⟩ := e
    simp only [extendAll]
    split
    · exact ih h i
    · split
      · rename_i t na ht hna
        have p1 := extendOne_ok n cfg ext N Nin h t na i (hP nm na hna)
        exact p1.trans (ih _ p1.1)
      · exact ih h i

theorem buildNewTypes_ok (n : Nat) (N P : List (String × Addr)) (hP : ∀ nm x, lookup P nm = some x → n ≤ x) :
    ∀ (l : List (String × List ExtField)) (h : Heap), Inv n h → Pres n h (buildNewTypes N P h l) := by
  intro l
  induction l with
  | nil => intro h i; exact Pres.refl i
  | cons e rest ih =>
    intro h i
    obtain ⟨nm, fs⟩ := e
    simp only [buildNewTypes]
    obtain ⟨p1, q1⟩ := buildFields_ok n N fs h i
    split
    · rename_i na hna
      have p2 := pres_write p1.1 na (.type { kind := .object, name := nm, desc := none, fields := (buildFields N h fs).2, ifaces := [], members := [], dres := none, rtype := none, values := [], prot := false }) (hP nm na hna) (by simpa [kids] using q1)
      exact (p1.trans p2).trans (ih _ p2.1)
    · exact p1.trans (ih _ p1.1)

theorem extendDirs_ok (n : Nat) (cfg : Cfg) (N : List (String × Addr)) : ∀ (l : List (String × Addr)) (h : Heap), Inv n h →
    Pres n h (extendDirs cfg N h l).1 ∧ ∀ e, e ∈ (extendDirs cfg N h l).2 → n ≤ e.2 := by
  intro l
  induction l with
  | nil => intro h i; exact ⟨Pres.refl i, nofun⟩
  | cons e rest ih =>
    intro h i
    obtain ⟨nm, a⟩ := e
    simp only [extendDirs]
    split
    · rename_i d _
      obtain ⟨p0, q0⟩ := extendArgs_ok n cfg.extArgPy N d.args h i
      have p1 := pres_alloc p0.1 (.dir { d with args := (extendArgs cfg.extArgPy N h d.args).2 }) q0
      exact (p0.trans p1.1).cons p1.2 (ih _ p1.1.1)
    · exact ih h i

theorem buildNewDirs_ok (n : Nat) (cfg : Cfg) (N : List (String × Addr)) : ∀ (l : List (String × List ExtArg × List String)) (h : Heap), Inv n h →
    Pres n h (buildNewDirs cfg N h l).1 ∧ ∀ e, e ∈ (buildNewDirs cfg N h l).2 → n ≤ e.2 := by
  intro l
  induction l with
  | nil => intro h i; exact ⟨Pres.refl i, nofun⟩
  | cons e rest ih =>
    intro h i
    obtain ⟨nm, args, locs⟩ := e
    simp only [buildNewDirs]
    obtain ⟨pa, qa⟩ := buildArgs_ok n N args h i
    obtain ⟨p0, q0⟩ := extendArgs_ok n cfg.extArgPy N (buildArgs N h args).2 _ pa.1
    have p1 := pres_alloc p0.1 (.dir { name := nm, args := (extendArgs cfg.extArgPy N (buildArgs N h args).1 (buildArgs N h args).2).2, locs := locs, desc := none }) q0
    exact ((pa.trans p0).trans p1.1).cons p1.2 (ih _ p1.1.1)

/-- `extend_schema` (the variant of /repo, which registers every rebuilt type) writes nothing below `h.size` and its result owns
    all its non-protected type objects and its directive objects -/
theorem extend_ok (cfg : Cfg) (hk : cfg.extKeepAll = true) (ext : Ext) (s : Schema) (h : Heap) :
    Pres h.size h (extend cfg ext s h).1 ∧ RegFresh h.size (extend cfg ext s h).2 := by
  obtain ⟨p0, q0⟩ := allocPlaceholders_ok h.size (extNames ext s) h (inv_self h)
  have hP : ∀ nm x, lookup (extP ext s h).2 nm = some x → h.size ≤ x := fun _ _ hl => (extP_bounds ext s h hl).1
  have p1 := extendAll_ok h.size cfg ext (extN ext s h) (extNin cfg ext s h) _ hP h s.types _ p0.1
  have p2 := buildNewTypes_ok h.size (extN ext s h) _ hP ext.newTypes _ p1.1
  obtain ⟨p3, q3⟩ := extendDirs_ok h.size cfg (extN ext s h) s.dirs _ p2.1
  obtain ⟨p4, q4⟩ := buildNewDirs_ok h.size cfg (extN ext s h) ext.newDirs _ p3.1
  refine ⟨(((p0.trans p1).trans p2).trans p3).trans p4, ?_, ?_⟩
  · rw [extend_types cfg ext s h hk]
    intro e he
    rcases List.mem_append.mp he with he | he
    · exact Or.inl (List.mem_filter.mp he).2
    · exact Or.inr (q0 e he)
  · rw [extend_dirs]
    exact fun e he => (List.mem_append.mp he).elim (q3 e) (q4 e)

theorem setNewIfaces_ok (n : Nat) (reg : List (String × Addr)) (nn : List String)
    (hb : ∀ nm na, nn.contains nm = true → lookup reg nm = some na → n ≤ na) : ∀ (l : List (String × List String)) (h : Heap),
    Inv n h → Pres n h (setNewIfaces reg nn h l) := by
  intro l
  induction l with
  | nil => intro h i; exact Pres.refl i
  | cons e rest ih =>
    intro h i
    obtain ⟨nm, ms⟩ := e
    simp only [setNewIfaces]
    split
    · rename_i hc
      split
      · rename_i na hl
        split
        · rename_i t ht
          have hna := hb nm na hc hl
          have p1 := pres_write i na (.type { t with ifaces := healedRefs reg (ms.map fun m => ⟨m, 0⟩) }) hna
            (by simpa [kids] using type_fields_fresh i hna ht)
          exact p1.trans (ih _ p1.1)
        · exact ih h i
      · exact ih h i
    · exact ih h i

/-- `extend_schema` as the code performs it (`extendO`): ownership as for `extend` (`hmem`: the re-ordered registry holds
    entries of `extend`'s, `extendOrder_mem`) -/
theorem extendO_ok (cfg : Cfg) (hk : cfg.extKeepAll = true) (ext : Ext) (s : Schema) (h : Heap)
    (hnp : ∀ e, e ∈ ext.newTypes → isProtected e.1 = false)
    (hmem : ∀ e, e ∈ (extendO cfg ext s h).2.types → e ∈ (extend cfg ext s h).2.types) :
    Pres h.size h (extendO cfg ext s h).1 ∧ RegFresh h.size (extendO cfg ext s h).2 := by
  obtain ⟨p, rf⟩ := extend_ok cfg hk ext s h
  have hb : ∀ nm na, (ext.newTypes.map (·.1)).contains nm = true → lookup (extend cfg ext s h).2.types nm = some na → h.size ≤ na := by
    intro nm na hc hl
    rcases rf.1 (nm, na) (lookup_mem' hl) with hp | hp
    · simp only [List.contains_iff_mem, List.mem_map] at hc
      obtain ⟨e, he, rfl⟩ := hc
      rw [hnp e he] at hp
      cases hp
    · exact hp
  have p2 := setNewIfaces_ok h.size (extend cfg ext s h).2.types (ext.newTypes.map (·.1)) hb ext.newIfaces (extend cfg ext s h).1 p.1
  exact ⟨p.trans p2, fun e he => rf.1 e (hmem e he), rf.2⟩

end PyGql.Heap.Own
