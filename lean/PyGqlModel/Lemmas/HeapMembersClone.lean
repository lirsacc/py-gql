/-
  C14 — member-level provenance: the copies `Schema.clone` makes, and `transform_schema` as a whole.
-/
import PyGqlModel.Lemmas.HeapMembersW
import PyGqlModel.Lemmas.HeapExtMembers
import PyGqlModel.Props.C14

namespace PyGql.Props.C14
open PyGql.Heap PyGql.Heap.Own

theorem frame_iff {h h' : Heap} : Frame h h' ↔ FrameX (fun _ => False) h h' :=
  ⟨fun f => ⟨f.1, fun a ha _ => f.2 a ha⟩, fun f => ⟨f.1, fun a ha => f.2 a ha id⟩⟩

theorem Frame.of_pres {h h' : Heap} (p : Pres h.size h h') : Frame h h' := ⟨p.2.1, p.2.2⟩

theorem Frame.readType {h h' : Heap} (f : Frame h h') {a : Addr} {t : TypeO} (ht : h.readType a = some t) : h'.readType a = some t :=
  (frame_iff.mp f).readType id ht

theorem Frame.readField {h h' : Heap} (f : Frame h h') {a : Addr} {g : FieldO} (hg : h.readField a = some g) : h'.readField a = some g :=
  (frame_iff.mp f).readField id hg

theorem Frame.readArg {h h' : Heap} (f : Frame h h') {a : Addr} {g : ArgO} (hg : h.readArg a = some g) : h'.readArg a = some g :=
  (frame_iff.mp f).readArg id hg

theorem Frame.readDir {h h' : Heap} (f : Frame h h') {a : Addr} {d : DirO} (hd : h.readDir a = some d) : h'.readDir a = some d :=
  (frame_iff.mp f).readDir id hd

theorem Frame.stepImp {h h' : Heap} (f : Frame h h') (chk : Ref → Bool) : StepImp chk h h' :=
  (frame_iff.mp f).stepImp nofun chk

end PyGql.Props.C14

namespace PyGql.Heap.Own
open PyGql.Heap PyGql.Props.C14

theorem AAttr.refl (g : ArgO) : AAttr id g g := ⟨rfl, rfl, rfl, rfl, sameNames_refl _⟩
theorem FAttr.refl (f : FieldO) : FAttr id f f := ⟨rfl, rfl, rfl, rfl, rfl, rfl, sameNames_refl _⟩

theorem TRel.refl {h : Heap} {a : Addr} {t0 : TypeO} (ht0 : h.readType a = some t0) (hr : MembersReadable h t0) : TRel id h h t0 a := by
  have harg : ∀ x, (∃ g, h.readArg x = some g) → ARel id h h x x := fun x ⟨g, hg⟩ => ⟨g, g, hg, hg, AAttr.refl g⟩
  have hfield : ∀ x, (∃ f, h.readField x = some f ∧ ∀ y, y ∈ f.args → ∃ g, h.readArg y = some g) → FRel id h h x x :=
    fun x ⟨f, hf, hfa⟩ => ⟨f, f, hf, hf, FAttr.refl f, Sub2.refl _ fun y hy => harg y (hfa y hy)⟩
  refine ⟨t0, ht0, TAttr.refl t0, ?_⟩
  simp only [MRel, MembersReadable] at hr ⊢
  cases hk : t0.kind <;> simp only [hk] at hr ⊢
  · exact Sub2.refl _ fun x hx => hfield x (hr x hx)
  · exact Sub2.refl _ fun x hx => hfield x (hr x hx)
  · exact Sub2.refl _ fun x hx => harg x (hr x hx)

/-- the relation of the copying loops of `clone()`: the source is still shown, and nothing but allocations happened -/
def CopyStep (h h' : Heap) : Prop := Frame h h' ∧ StepImp chkT h h'

theorem CopyStep.refl (h : Heap) : CopyStep h h := ⟨.refl h, .refl chkT h⟩
theorem CopyStep.trans {h1 h2 h3 : Heap} (a : CopyStep h1 h2) (b : CopyStep h2 h3) : CopyStep h1 h3 := ⟨a.1.trans b.1, a.2.trans b.2⟩
theorem CopyStep.of_pres {h h' : Heap} (p : Pres h.size h h') : CopyStep h h' := ⟨Frame.of_pres p, stepImp_of_pres p chkT⟩

theorem copyArgs_sub2 (h0 : Heap) (as : List Addr) (h : Heap) (ss : Frame h0 h) (hlt : ∀ a, a ∈ as → a < h0.size) :
    Sub2 (ARel id h0 (copyArgs h as).1) as (copyArgs h as).2 := by
  obtain ⟨_, os, f, e⟩ := copyArgs_loop.out CopyStep.refl CopyStep.trans (fun h a => .of_pres (copyArgs_ok h.size [a] h (inv_self h)).1) as h
  rw [e]
  refine sub2_of_run (fun a ha c ⟨s1, r1, e1, r2⟩ => ?_) f
  rw [copyArgs_one] at e1 r2
  cases hg : s1.readArg a with
  | none => simp only [hg] at e1; cases e1
  | some g =>
    simp only [hg] at e1 r2
    cases e1
    have hg0 : h0.readArg a = some g := by
      simp only [Heap.readArg, ← (ss.trans r1.1).2 a (hlt a ha), readArg_read hg]
    exact ARel.keep r2.2 ⟨g, g, hg0, readArg_alloc_new s1 g, AAttr.refl g⟩

theorem copyFields_sub2 (h0 : Heap) (as : List Addr) (h : Heap) (ss : Frame h0 h)
    (hlt : ∀ a, a ∈ as → a < h0.size ∧ ∀ f, h0.readField a = some f → ∀ x, x ∈ f.args → x < h0.size) :
    Sub2 (FRel id h0 (copyFields h as).1) as (copyFields h as).2 := by
  obtain ⟨_, os, f, e⟩ := copyFields_loop.out CopyStep.refl CopyStep.trans (fun h a => .of_pres (copyFields_ok h.size [a] h (inv_self h)).1) as h
  rw [e]
  refine sub2_of_run (fun a ha c ⟨s1, r1, e1, r2⟩ => ?_) f
  rw [copyFields_one] at e1 r2
  cases hf : s1.readField a with
  | none => simp only [hf] at e1; cases e1
  | some f0 =>
    simp only [hf] at e1 r2
    cases e1
    have ss1 := ss.trans r1.1
    have hf0 : h0.readField a = some f0 := by
      simp only [Heap.readField, ← ss1.2 a (hlt a ha).1, readField_read hf]
    exact FRel.keep r2.2 ⟨f0, { f0 with args := (copyArgs s1 f0.args).2 }, hf0, readField_alloc_new _ _, ⟨rfl, rfl, rfl, rfl, rfl, rfl, sameNames_refl _⟩,
      (copyArgs_sub2 h0 f0.args s1 ss1 ((hlt a ha).2 f0 hf0)).imp fun _ _ r => r.keep (step_alloc chkT _ _)⟩

theorem membersBound {h0 : Heap} {t : TypeO} (hr : MembersReadable h0 t) :
    (t.kind = Kind.input → ∀ a, a ∈ t.fields → a < h0.size) ∧
    ((t.kind = Kind.object ∨ t.kind = Kind.interface) → ∀ a, a ∈ t.fields → a < h0.size ∧ ∀ f, h0.readField a = some f → ∀ x, x ∈ f.args → x < h0.size) := by
  simp only [MembersReadable] at hr
  constructor
  · intro hk a ha
    simp only [hk] at hr
    obtain ⟨g, hg⟩ := hr a ha
    exact readArg_lt hg
  · intro hk a ha
    have hr' : ∀ a, a ∈ t.fields → ∃ f, h0.readField a = some f ∧ ∀ x, x ∈ f.args → ∃ g, h0.readArg x = some g := by
      rcases hk with hk | hk <;> simpa [hk] using hr
    obtain ⟨f, hf, hargs⟩ := hr' a ha
    refine ⟨readField_lt hf, fun f' hf' x hx => ?_⟩
    rw [hf] at hf'; cases hf'
    obtain ⟨g, hg⟩ := hargs x hx
    exact readArg_lt hg

theorem cloneType_mem (cfg : Cfg) (hd : cfg.deepClone = true) (h0 h : Heap) (ss : Frame h0 h) (t : TypeO) (hr : MembersReadable h0 t) :
    TRel id h0 (cloneType cfg h t).1 t (cloneType cfg h t).2 := by
  obtain ⟨bi, bo⟩ := membersBound hr
  simp only [cloneType, hd, if_true]
  cases hk : t.kind with
  | input =>
    simp only
    refine ⟨_, readType_alloc_new _ _, ⟨hk.symm, rfl, rfl, rfl, rfl, rfl, rfl, rfl⟩, ?_⟩
    simp only [MRel, hk]
    exact (copyArgs_sub2 h0 t.fields h ss (bi hk)).imp fun _ _ r => r.keep (step_alloc chkT _ _)
  | object =>
    simp only
    refine ⟨_, readType_alloc_new _ _, ⟨hk.symm, rfl, rfl, rfl, rfl, rfl, rfl, rfl⟩, ?_⟩
    simp only [MRel, hk]
    exact (copyFields_sub2 h0 t.fields h ss (bo (Or.inl hk))).imp fun _ _ r => r.keep (step_alloc chkT _ _)
  | interface =>
    simp only
    refine ⟨_, readType_alloc_new _ _, ⟨hk.symm, rfl, rfl, rfl, rfl, rfl, rfl, rfl⟩, ?_⟩
    simp only [MRel, hk]
    exact (copyFields_sub2 h0 t.fields h ss (bo (Or.inr hk))).imp fun _ _ r => r.keep (step_alloc chkT _ _)
  | _ =>
    simp only
    exact ⟨_, readType_alloc_new _ _, ⟨hk.symm, rfl, rfl, rfl, rfl, rfl, rfl, rfl⟩, by simp [MRel, hk]⟩

theorem cloneTypes_mem (cfg : Cfg) (hd : cfg.deepClone = true) (h0 : Heap) (l : List (String × Addr)) (h : Heap) (ss : Frame h0 h)
    (hread : ∀ e, e ∈ l → ∀ t, h0.readType e.2 = some t → MembersReadable h0 t) :
    ∀ x, x ∈ (cloneTypes cfg h l).2 → ∀ a', x.2 = some a' → ∃ e, e ∈ l ∧ e.1 = x.1 ∧
      ∀ t0, h0.readType e.2 = some t0 → TRel id h0 (cloneTypes cfg h l).1 t0 a' := by
  intro x hx a' ea
  obtain ⟨e, h1, t, he, _, _, r1, ht1, r2, rfl⟩ := (cloneTypes_out cfg (R := CopyStep) (Pre := fun _ _ => True) CopyStep.refl
    (fun _ _ _ => CopyStep.trans) (fun _ _ _ _ _ => trivial) (fun h _ t _ _ => .of_pres (cloneType_ok h.size cfg hd h t (inv_self h)).1)
    l h (fun _ _ _ => trivial)).2 x hx
  cases ea
  refine ⟨e, he, rfl, fun t0 ht0 => ?_⟩
  -- the object read in the heap `h1` the copy was made in is the source's
  have ss1 := ss.trans r1.1
  cases (ss1.readType ht0).symm.trans ht1
  exact (cloneType_mem cfg hd h0 h1 ss1 _ (hread e he _ ht0)).keep r2.2

theorem clone_mem (cfg : Cfg) (hd : cfg.deepClone = true) (fuel : Nat) (s : Schema) (h h' : Heap) (s' : Schema) (hcl : closedB h s = true)
    (w : WFs (refOK s.types) h s) (e : clone cfg fuel s h = some (h', s')) : MemOrigin id h s.types h' s'.types := by
  simp only [clone] at e
  split at e
  · cases e
  · rename_i h1 s1 hr
    simp only [Option.some.injEq, Prod.mk.injEq] at e
    obtain ⟨rfl, rfl⟩ := e
    suffices hmain : MemOrigin id h s.types h1 s1.types from hmain
    obtain ⟨pt, vt, st, nt⟩ := cloneTypes_ok h.size cfg hd s.types h (inv_self h)
    have stD := cloneDirs_step cfg hd chkT (cloneTypes cfg h s.types).1 s.dirs
    have hsub := cloneRegistry_sub cfg s h hcl
    have hreadable : ∀ e, e ∈ s.types → (h.readType e.2).isSome = true := by
      intro e he
      obtain ⟨t, ht, _⟩ := (typeShape_iff _ h e.2).mp (w.types e he)
      simp [ht]
    have hmr : ∀ e, e ∈ s.types → ∀ t, h.readType e.2 = some t → MembersReadable h t :=
      fun e he t ht => membersReadable_of_shape _ h e.2 t ht (w.types e he)
    have hstart : MemOrigin id h s.types (cloneDirs cfg (cloneTypes cfg h s.types).1 s.dirs).1
        (replaceCore cfg { types := cloneRegistry cfg s h, dirs := [], query := s.query, mutation := s.mutation, subscription := s.subscription, dres := none } (cloneTypes cfg h s.types).2 (cloneDirs cfg (cloneTypes cfg h s.types).1 s.dirs).2).1.types := by
      simp only [replaceCore]
      apply replaceTypes_pred cfg (fun e' => isProtected e'.1 = true ∨ EntRel id h s.types (cloneDirs cfg (cloneTypes cfg h s.types).1 s.dirs).1 e')
      · intro x hx a' ea
        obtain ⟨e1, he1, h1n, h2⟩ := cloneTypes_mem cfg hd h s.types h ⟨Nat.le_refl _, fun _ _ => rfl⟩ hmr x hx a' ea
        exact Or.inr ⟨e1, he1, h1n, fun t0 ht0 => (h2 t0 ht0).keep stD⟩
      · intro e' he'
        have hes := hsub e' he'
        by_cases hp : isProtected e'.1 = true
        · exact Or.inl (Or.inl hp)
        · right
          have hnp : isProtected e'.1 = false := by simpa using hp
          exact nt e'.1 e'.2 hes hnp (readType_lt (hreadable e' hes)) (hreadable e' hes)
    simp only [replaceTD] at hr
    split at hr
    · exact healLoop_mem cfg id h s.types fuel _ _ _ _ hstart hr
    · cases hr; exact hstart

end PyGql.Heap.Own
