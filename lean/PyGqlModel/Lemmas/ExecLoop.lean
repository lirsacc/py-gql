/-
  C09 — helper lemmas for `Props/C09_loop.lean`: nodes without a `serialCb` continuation (`SFree`) behave the same under
  `applyCont` (recursive `_next`) and `Loop.applyContL` (loop `_next`), and everything the executor builds below the
  serial spine is `SFree`.
-/
import PyGqlModel.AsyncExecLoop
import PyGqlModel.Lemmas.ExecRulesDeliver


namespace PyGql.AsyncExec
open Loop

def sfreeK : Cont → Bool
  | .serialCb _ _ _ _ => false
  | _ => true

mutual
def SFree : Node → Bool
  | .val _ => true
  | .done r => SFree r
  | .failed _ => true
  | .task _ _ _ _ => true
  | .chain src k => SFree src && sfreeK k
  | .unwrap src => SFree src
  | .gather slots _ _ => SFrees slots
def SFrees : Nodes → Bool
  | .nil => true
  | .cons n ns => SFree n && SFrees ns
end

def ResSFree : Res Node → Bool
  | .ok n => SFree n
  | .exc _ => true

def ResSFrees : Res Nodes → Bool
  | .ok ns => SFrees ns
  | .exc _ => true

theorem applyContL_eq (k : Cont) (hk : sfreeK k = true) (r : Res Val) (s : ExecSt) : applyContL k r s = applyCont k r s := by
  cases k <;> first | rfl | simp [sfreeK] at hk

theorem chainOnFinish_congr (src : Node) (k : Cont) (hk : sfreeK k = true) (s : ExecSt) :
    chainOnFinish applyContL src k s = chainOnFinish applyCont src k s := by
  unfold chainOnFinish
  cases src <;> simp only [applyContL_eq k hk]

theorem mapValue_congr (src : Node) (k : Cont) (hk : sfreeK k = true) (s : ExecSt) :
    mapValue applyContL src k s = mapValue applyCont src k s := by
  unfold mapValue
  cases src <;> simp only [applyContL_eq k hk, chainOnFinish_congr _ k hk]

mutual
theorem deliver_congr : ∀ (n : Node) (t : Nat) (s : ExecSt), SFree n = true →
    deliver applyContL t n s = deliver applyCont t n s
  | .val x, t, s, _ => by simp [deliver]
  | .done r, t, s, _ => by simp [deliver]
  | .failed x, t, s, _ => by simp [deliver]
  | .task id path nested out, t, s, _ => by simp [deliver]
  | .chain src k, t, s, h => by
    simp only [SFree, Bool.and_eq_true] at h
    simp only [deliver, deliver_congr src t s h.1, chainOnFinish_congr _ k h.2]
  | .unwrap src, t, s, h => by
    simp only [SFree] at h
    simp only [deliver, deliver_congr src t s h]
  | .gather slots done target, t, s, h => by
    simp only [SFree] at h
    simp only [deliver, deliverSlots_congr slots t s h]
theorem deliverSlots_congr : ∀ (ns : Nodes) (t : Nat) (s : ExecSt), SFrees ns = true →
    deliverSlots applyContL t ns s = deliverSlots applyCont t ns s
  | .nil, t, s, _ => by simp [deliverSlots]
  | .cons n ns, t, s, h => by
    simp only [SFrees, Bool.and_eq_true] at h
    simp only [deliverSlots, deliver_congr n t s h.1]
    cases hd : deliver applyCont t n s with
    | mk n' s1 => simp only [deliverSlots_congr ns t s1 h.2]
end


theorem unwrapCb_sfree (n : Node) : SFree n = true → SFree (unwrapCb n) = true := by
  fun_induction unwrapCb n with
  | case3 r _ ih => exact ih
  | _ => exact id

theorem unwrapValue_sfree (n : Node) (h : SFree n = true) : SFree (unwrapValue n) = true := by
  cases n with
  | val x => simp [unwrapValue, SFree]
  | _ => simp only [unwrapValue]; exact unwrapCb_sfree _ h

theorem gatherAfter_sfree (slots : Nodes) (done target : Nat) (fired : List (Except Exc Node)) (h : SFrees slots = true) :
    SFree (gatherAfter slots done target fired) = true := by
  rcases gatherAfter_cases slots done target fired with ⟨d', _, hg⟩ | ⟨e, _, hg⟩ | ⟨rs, _, hg⟩ <;> rw [hg]
  · exact h
  · rfl
  · rfl

theorem gatherValues_sfree (source : Nodes) (h : SFrees source = true) : SFree (gatherValues source) = true := by
  rcases gatherValues_cases source with ⟨_, hg⟩ | ⟨_, hg⟩ <;> rw [hg]
  · rfl
  · exact gatherAfter_sfree source _ _ _ h

def ApSFree (ap : ApplyCont) (k : Cont) : Prop := ∀ r s, ResSFree (ap k r s).1 = true

theorem sfree_settle {r : Res Node × ExecSt} (h : ResSFree r.1 = true) : SFree (settle r).1 = true := by
  obtain ⟨n | e, s1⟩ := r
  · exact h
  · rfl

theorem chainOnFinish_sfree (ap : ApplyCont) (k : Cont) (hap : ApSFree ap k) (hk : sfreeK k = true) (src : Node) (s : ExecSt)
    (h : SFree src = true) : SFree (chainOnFinish ap src k s).1 = true := by
  rw [chainOnFinish_eq]
  split
  · exact sfree_settle (hap _ s)
  · exact sfree_settle (hap _ s)
  · exact Bool.and_eq_true_iff.2 ⟨h, hk⟩

theorem mapValue_sfree (ap : ApplyCont) (k : Cont) (hap : ApSFree ap k) (hk : sfreeK k = true) (src : Node) (s : ExecSt)
    (h : SFree src = true) : ResSFree (mapValue ap src k s).1 = true := by
  unfold mapValue
  cases src with
  | val x => exact hap (.ok x) s
  | _ =>
    simp only
    split
    · simp only [ResSFree]; exact chainOnFinish_sfree ap k hap hk _ s h
    · simp_all [ResSFree, SFree]

theorem applySimple_sfree (k : Cont) : ApSFree applySimple k := by
  intro r s
  cases k <;> cases r <;> simp [applySimple, ResSFree, SFree]


theorem failField_sfree (path : Path) (s : ExecSt) : SFree (failField path s).1 = true := by simp [failField, SFree]

theorem sfree_chain {r : Res Node × ExecSt} (k : Cont) (hk : sfreeK k = true) (h : ResSFree r.1 = true) :
    ResSFree (chainRes applySimple k r).1 = true := by
  obtain ⟨n | e, s1⟩ := r
  · exact mapValue_sfree applySimple k (applySimple_sfree k) hk n s1 h
  · rfl

theorem sfree_gather {r : Res Nodes × ExecSt} (h : ResSFrees r.1 = true) : ResSFree (gatherRes r).1 = true := by
  obtain ⟨ns | e, s1⟩ := r
  · exact gatherValues_sfree ns h
  · rfl

theorem sfree_cons {r : Res Node × ExecSt} {rest : ExecSt → Res Nodes × ExecSt} (h1 : ResSFree r.1 = true)
    (h2 : ∀ s1, ResSFrees (rest s1).1 = true) : ResSFrees (consRes r rest).1 = true := by
  obtain ⟨n | e, s1⟩ := r
  · have h2 := h2 s1
    simp only [consRes, thenR]
    generalize rest s1 = y at h2 ⊢
    obtain ⟨ns | e, s2⟩ := y
    · exact Bool.and_eq_true_iff.2 ⟨h1, h2⟩
    · rfl
  · rfl

theorem sfree_catch {path : Path} {r : Res Node × ExecSt} (h : ResSFree r.1 = true) : ResSFree (catchRes path r).1 = true := by
  obtain ⟨n | e, s1⟩ := r
  · exact h
  · cases e <;> rfl

theorem sfree_nowOf {r : Res Node × ExecSt} (h : ResSFree r.1 = true) : ResSFree (nowOf r).1 = true := by
  obtain ⟨n | e, s1⟩ := r
  · exact unwrapValue_sfree n h
  · rfl

theorem sfree_futureOf {r : Res Node × ExecSt} (h : ResSFree r.1 = true) : ResSFree (futureOf r).1 = true :=
  futureOf_eq r ▸ unwrapCb_sfree _ (sfree_settle h)

theorem sfree_cases : ExecCases (fun _ _ _ r => ResSFree r.1 = true) (fun _ _ _ _ r => ResSFrees r.1 = true)
    (fun _ _ _ r => ResSFrees r.1 = true) (fun _ _ _ _ r => ResSFree r.1 = true) (fun _ _ _ r => ResSFree r.1 = true) where
  null _ _ := rfl
  leaf _ _ _ := rfl
  bad _ _ := rfl
  nonNull path _ _ ih := sfree_chain (.nonNull path) rfl ih
  list _ _ _ ih := sfree_gather ih
  obj _ fields _ ih := sfree_chain (.collect fields.keys) rfl (sfree_gather ih)
  inil _ _ _ := rfl
  icons _ _ _ _ _ ih1 ih2 := sfree_cons ih1 ih2
  fnil _ _ := rfl
  fcons _ _ _ _ _ _ ih1 ih2 := sfree_cons ih1 ih2
  deferred _ _ _ := rfl
  nested _ _ _ := rfl
  sync _ _ _ ih := sfree_nowOf ih
  ready _ _ _ ih := sfree_futureOf ih
  rerr _ _ := rfl
  exc _ _ := rfl
  ok _ _ _ ih := sfree_catch ih

theorem completeValue_sfree : ∀ (c : Comp) (path : Path) (s : ExecSt), ResSFree (completeValue path c s).1 = true :=
  sfree_cases.value

theorem completeItems_sfree : ∀ (cs : Comps) (path : Path) (i : Nat) (s : ExecSt), ResSFrees (completeItems path i cs s).1 = true :=
  sfree_cases.items

theorem resolveFields_sfree : ∀ (fs : Flds) (path : Path) (s : ExecSt), ResSFrees (resolveFields path fs s).1 = true :=
  sfree_cases.fields

theorem resolveField_sfree : ∀ (out : ROut) (path : Path) (mode : Mode) (s : ExecSt), ResSFree (resolveField path mode out s).1 = true :=
  sfree_cases.field

theorem applyCont_sfree (k : Cont) (hk : sfreeK k = true) : ApSFree applyCont k := by
  intro r s
  cases k with
  | serialCb a b c d => cases hk
  | complete path =>
    cases r with
    | exc e => cases e <;> rfl
    | ok x =>
      cases x with
      | raw c => exact sfree_cases.complete (.ok c) path s
      | _ => rfl
  | _ => exact applySimple_sfree _ r s

theorem finishTask_sfree (path : Path) (nested : Bool) (out : ROut) (s : ExecSt) : SFree (finishTask path nested out s).1 = true := by
  unfold finishTask
  cases nested <;> cases out <;> simp [SFree, ExecSt.submit]

theorem deliver_sfree_cases (t : Nat) : DeliverCases applyCont t (fun n _ r => SFree n = true → SFree r.1 = true)
    (fun ns _ r => SFrees ns = true → SFrees r.1 = true) where
  val _ _ h := h
  done _ _ h := h
  failed _ _ h := h
  hit path nested out s _ := finishTask_sfree path nested out s
  miss _ _ _ _ _ _ h := h
  chain _ k _ ih h := by
    simp only [SFree, Bool.and_eq_true] at h
    exact chainOnFinish_sfree applyCont k (applyCont_sfree k h.2) h.2 _ _ (ih h.1)
  unwrap _ _ ih h := unwrapCb_sfree _ (ih h)
  gather _ _ _ _ ih h := gatherAfter_sfree _ _ _ _ (ih h)
  nil _ h := h
  cons _ _ _ ih1 ih2 h := by
    simp only [SFrees, Bool.and_eq_true] at h ⊢
    exact ⟨ih1 h.1, ih2 h.2⟩

theorem deliver_sfree : ∀ (n : Node) (t : Nat) (s : ExecSt), SFree n = true → SFree (deliver applyCont t n s).1 = true :=
  fun n t s => (deliver_sfree_cases t).node n s

theorem deliverSlots_sfree : ∀ (ns : Nodes) (t : Nat) (s : ExecSt), SFrees ns = true →
    SFrees (deliverSlots applyCont t ns s).1 = true :=
  fun ns t s => (deliver_sfree_cases t).slots ns s

end PyGql.AsyncExec
