/-
  C12 — `build doc = build (doc.map eraseCustom)` for ARBITRARY documents: the environment.
  `EnvErase e' e` = "`e'` is the builder's view of the same definitions with their custom directive applications erased".
  Every environment-reading function of the builder model (`value_from_ast`, the thunk guard, `touches`, `build_*`,
  `build*X`) gives the same result over `e'` on the erased definition as over `e` on the definition.
-/
import PyGqlModel.Props.C12_erase
namespace PyGql.Props.C12
open PyGql PyGql.Sdl PyGql.SdlPrintTA

def eraseDir (d : DirDef) : DirDef := { d with args := d.args.map eraseIV }
def eraseSD (sd : SchemaDef) : SchemaDef := { sd with dirs := sd.dirs.filter isSpecified }

theorem eraseCustom_directive (d : DirDef) : eraseCustom (.directive d) = .directive (eraseDir d) := rfl
theorem eraseCustom_schema (sd : SchemaDef) : eraseCustom (.schema sd) = .schema (eraseSD sd) := rfl
theorem eraseCustom_schemaExt (sd : SchemaDef) : eraseCustom (.schemaExt sd) = .schemaExt (eraseSD sd) := rfl

structure EnvErase (e' e : Env) : Prop where
  add : e'.findAdditional = e.findAdditional
  defs : ∀ n, e'.findDef n = (e.findDef n).map eraseType

theorem find?_map_name {α} (f : α → α) (name : α → String) (hn : ∀ a, name (f a) = name a) (n : String) :
    ∀ l : List α, (l.map f).find? (fun a => name a == n) = (l.find? (fun a => name a == n)).map f
  | [] => rfl
  | a :: as => by
    simp only [List.map_cons, List.find?_cons, hn]
    cases name a == n
    · exact find?_map_name f name hn n as
    · rfl

theorem envErase_of (defs : List TypeDef) (additional : List TypeD) :
    EnvErase (Env.of (defs.map eraseType) additional) (Env.of defs additional) :=
  ⟨rfl, fun n => find?_map_name eraseType TypeDef.name (fun _ => rfl) n defs⟩

theorem values_any_erase (l : List EnumValDef) (v : String) :
    (l.map eraseEnumVal).any (·.name == v) = l.any (·.name == v) := by
  simp [List.any_map, Function.comp_def, eraseEnumVal]

theorem names_erase (l : List InputValDef) : (l.map eraseIV).map (·.name) = l.map (·.name) := by
  simp [List.map_map, Function.comp_def, eraseIV]

theorem mapM_map_congr' {α β γ} (f : α → β) (F : β → R γ) (G : α → R γ) (hfg : ∀ a, F (f a) = G a) (l : List α) :
    (l.map f).mapM F = l.mapM G := by
  rw [List.mapM_map]
  exact Except.mapM_congr_mem fun a _ => hfg a

section
variable {e' e : Env} (h : EnvErase e' e)
include h

theorem resolves_erase (n : String) : e'.resolves n = e.resolves n := by
  simp only [Env.resolves, h.add, h.defs, Option.isSome_map]

theorem resolves_erase_fun : e'.resolves = e.resolves := funext (resolves_erase h)

theorem valueFromAst_erase : ∀ fuel : Nat,
    (∀ lit ty, valueFromAst e' fuel lit ty = valueFromAst e fuel lit ty) ∧
    (∀ items t, coerceItems e' fuel items t = coerceItems e fuel items t) ∧
    (∀ given (l : List InputValDef), coerceDefFields e' fuel given (l.map eraseIV) = coerceDefFields e fuel given l) ∧
    (∀ given l, coerceLiveFields e' fuel given l = coerceLiveFields e fuel given l) := by
  intro fuel
  induction fuel with
  | zero => exact ⟨fun _ _ => rfl, fun _ _ => rfl, fun _ _ => rfl, fun _ _ => rfl⟩
  | succ k ih =>
    obtain ⟨i1, i2, i3, i4⟩ := ih
    refine ⟨?_, ?_, ?_, ?_⟩
    · intro lit ty
      cases ty with
      | nonNull t => simp only [valueFromAst, i1]
      | list t => simp only [valueFromAst, i1, i2]
      | named n =>
        simp only [valueFromAst, h.add, h.defs, i4]
        cases e.findDef n with
        | none => rfl
        | some d =>
          have hk : (eraseType d).kind = d.kind := rfl
          simp only [Option.map_some, hk]
          cases d.kind <;> simp only [eraseType, values_any_erase, i3, names_erase]
    · intro items t
      cases items with
      | nil => rfl
      | cons x xs => simp only [coerceItems, i1, i2]
    · intro given l
      cases l with
      | nil => rfl
      | cons f fs =>
        simp only [List.map_cons, coerceDefFields, i3, i1]
        rfl
    · intro given l
      cases l with
      | nil => rfl
      | cons f fs => simp only [coerceLiveFields, i1, i4]

theorem defaultValue_erase (lit : Lit) (ty : Ty) : defaultValue e' lit ty = defaultValue e lit ty := by
  simp only [defaultValue, (valueFromAst_erase h coerceFuel).1]

theorem checkRef_erase (t : Ty) : checkRef e' t = checkRef e t := by
  simp only [checkRef, resolves_erase h]

theorem checkNames_erase (ns : List String) : checkNames e' ns = checkNames e ns := by
  simp only [checkNames, resolves_erase_fun h]

theorem buildArgument_eraseEnv (a : InputValDef) : buildArgument e' (eraseIV a) = buildArgument e a := by
  unfold buildArgument
  simp only [checkRef_erase h, defaultValue_erase h]
  rfl

theorem buildArguments_eraseEnv (l : List InputValDef) : (l.map eraseIV).mapM (buildArgument e') = l.mapM (buildArgument e) :=
  mapM_map_congr' _ _ _ (buildArgument_eraseEnv h) l

theorem buildField_eraseEnv (f : FieldDef) : buildField e' (eraseField f) = buildField e f := by
  simp only [buildField, eraseField, checkRef_erase h, buildArguments_eraseEnv h, deprecationReason_erase]

theorem buildTypeDef_eraseEnv (d : TypeDef) : buildTypeDef e' (eraseType d) = buildTypeDef e d := by
  have hf := mapM_map_congr' eraseField (buildField e') (buildField e) (buildField_eraseEnv h) d.fields
  have hv := mapM_map_congr' eraseEnumVal buildEnumValue buildEnumValue buildEnumValue_erase d.values
  have hi := buildArguments_eraseEnv h d.inputFields
  have hn : (d.values.map eraseEnumVal).map (·.name) = d.values.map (·.name) := by
    simp [List.map_map, Function.comp_def, eraseEnumVal]
  unfold buildTypeDef
  have hk : (eraseType d).kind = d.kind := rfl
  rw [hk]
  cases d.kind <;> simp only [eraseType, checkNames_erase h, hf, hv, hi, hn]

theorem buildType_eraseEnv (d : TypeDef) : buildType e' (eraseType d) = buildType e d := by
  unfold buildType
  have hn : (eraseType d).name = d.name := rfl
  rw [hn, h.add, buildTypeDef_eraseEnv h]

theorem buildDirective_eraseEnv (d : DirDef) : buildDirective e' (eraseDir d) = buildDirective e d := by
  simp only [buildDirective, eraseDir, buildArguments_eraseEnv h]


theorem thunkNeeds_erase : ∀ fuel : Nat,
    (∀ lit ty, thunkNeeds e' fuel lit ty = thunkNeeds e fuel lit ty) ∧
    (∀ items t, thunkNeedsList e' fuel items t = thunkNeedsList e fuel items t) ∧
    (∀ given (l : List InputValDef), thunkNeedsFields e' fuel given (l.map eraseIV) = thunkNeedsFields e fuel given l) := by
  intro fuel
  induction fuel with
  | zero => exact ⟨fun _ _ => rfl, fun _ _ => rfl, fun _ _ => rfl⟩
  | succ k ih =>
    obtain ⟨i1, i2, i3⟩ := ih
    refine ⟨?_, ?_, ?_⟩
    · intro lit ty
      cases ty with
      | nonNull t => simp only [thunkNeeds, i1]
      | list t => cases lit <;> simp only [thunkNeeds, i1, i2]
      | named n =>
        cases lit <;> simp only [thunkNeeds, h.add, h.defs]
        cases hfa : e.findAdditional n <;> cases hfd : e.findDef n <;>
          simp only [Option.map_some, Option.map_none, eraseType, i3]
    · intro items t
      cases items with
      | nil => rfl
      | cons x xs => simp only [thunkNeedsList, i1, i2]
    · intro given l
      cases l with
      | nil => rfl
      | cons f fs =>
        simp only [List.map_cons, thunkNeedsFields, i3, i1]
        rfl

theorem thunkEdges_erase (d : TypeDef) : thunkEdges e' (eraseType d) = thunkEdges e d := by
  simp only [thunkEdges, eraseType, List.flatMap_map, (thunkNeeds_erase h coerceFuel).1]
  rfl

theorem thunkReach_erase (target : String) : ∀ (fuel : Nat) (n : String),
    thunkReach e' target fuel n = thunkReach e target fuel n
  | 0, _ => rfl
  | k + 1, n => by
    simp only [thunkReach, h.defs]
    cases e.findDef n with
    | none => rfl
    | some d =>
      simp only [Option.map_some, thunkEdges_erase h]
      congr 1
      funext m
      rw [thunkReach_erase target k m]

theorem hasThunkCycle_erase (defs : List TypeDef) : hasThunkCycle e' (defs.map eraseType) = hasThunkCycle e defs := by
  simp only [hasThunkCycle, List.any_map, List.length_map, Function.comp_def, h.add]
  congr 1
  funext d
  have hk : (eraseType d).kind = d.kind := rfl
  have hn : (eraseType d).name = d.name := rfl
  rw [hk, hn, thunkReach_erase h]

end
end PyGql.Props.C12
