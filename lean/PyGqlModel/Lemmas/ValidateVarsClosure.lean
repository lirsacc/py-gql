/-
  `VariablesCollector._flatten_fragments` (fixed, ledger V4): the breadth-first closure `VC.closure` computes exactly
  the fragments reachable through the recorded spreads, and the fuel chosen by `VC.flattenClosure` suffices.
-/
import PyGqlModel.Lemmas.ValidateAL
namespace PyGql.Validate
open PyGql

theorem nodup_eraseDups (l : List String) : l.eraseDups.Nodup := by
  generalize hn : l.length = n
  induction n using Nat.strongRecOn generalizing l with
  | _ n ih =>
    cases l with
    | nil => simp
    | cons a as =>
      rw [List.eraseDups_cons, List.nodup_cons]
      refine ⟨?_, ih _ ?_ _ rfl⟩
      · intro hm
        rw [List.mem_eraseDups, List.mem_filter] at hm
        simp at hm
      · subst hn
        exact Nat.lt_succ_of_le (List.length_filter_le _ _)

theorem length_filter_removeAll (L new : List String) (hnd : new.Nodup) (hsub : ∀ x ∈ new, x ∈ L) :
    (L.filter fun x => !new.contains x).length + new.length ≤ L.length := by
  induction new generalizing L with
  | nil => simpa using List.length_filter_le _ L
  | cons x xs ih =>
    rw [List.nodup_cons] at hnd
    have hx : x ∈ L := hsub x (List.mem_cons_self ..)
    have e : (L.filter fun y => !(x :: xs).contains y) = ((L.filter fun y => !(y == x)).filter fun y => !xs.contains y) := by
      rw [List.filter_filter]
      apply List.filter_congr
      intro y _
      simp only [List.contains_cons, Bool.not_or, Bool.and_comm]
    rw [e]
    have h1 := ih (L.filter fun y => !(y == x)) hnd.2 (fun y hy => by
      rw [List.mem_filter]
      refine ⟨hsub y (List.mem_cons_of_mem _ hy), ?_⟩
      have : y ≠ x := fun e => hnd.1 (e ▸ hy)
      simp [this])
    have h2 : (L.filter fun y => !(y == x)).length < L.length :=
      List.length_filter_lt_length_iff_exists.mpr ⟨x, hx, by simp⟩
    simp only [List.length_cons]
    omega

namespace VC

/-- `g` is `a` or is reached from `a` through the recorded fragment-to-fragment spreads -/
inductive Reach (ff : AL (List String)) : String → String → Prop where
  | refl (a : String) : Reach ff a a
  | step {a b c : String} : b ∈ AL.getD ff a [] → Reach ff b c → Reach ff a c

theorem Reach.tail {ff : AL (List String)} {a b c : String} (h : Reach ff a b) (hc : c ∈ AL.getD ff b []) :
    Reach ff a c := by
  induction h with
  | refl a => exact .step hc (.refl _)
  | step h1 _ ih => exact .step h1 (ih hc)

/-- all fragments named in some recorded spread list -/
def univ (ff : AL (List String)) : List String := ff.flatMap (·.2)

theorem getD_sub_univ (ff : AL (List String)) (a b : String) (h : b ∈ AL.getD ff a []) : b ∈ univ ff := by
  rcases AL.getD_cases ff a [] with e | e
  · rw [e] at h; cases h
  · exact List.mem_flatMap.mpr ⟨_, e, h⟩

/-- fragments of the set not yet collected -/
def rem (ff : AL (List String)) (acc : List String) : Nat := ((univ ff).filter fun x => !acc.contains x).length

theorem closure_spec (ff : AL (List String)) : ∀ (fuel : Nat) (queue acc : List String),
    (∀ q ∈ queue, q ∈ acc) →
    (∀ a ∈ acc, a ∉ queue → ∀ b ∈ AL.getD ff a [], b ∈ acc) →
    queue.length + rem ff acc ≤ fuel →
    (∀ a ∈ acc, a ∈ closure ff fuel queue acc) ∧
    (∀ a ∈ closure ff fuel queue acc, ∀ b ∈ AL.getD ff a [], b ∈ closure ff fuel queue acc) ∧
    (∀ g ∈ closure ff fuel queue acc, ∃ a ∈ acc, Reach ff a g) := by
  intro fuel
  induction fuel with
  | zero =>
    intro queue acc _ hcl hf
    have hq : queue = [] := by
      cases queue with
      | nil => rfl
      | cons => simp at hf
    subst hq
    simp only [closure]
    exact ⟨fun a h => h, fun a ha b hb => hcl a ha (by simp) b hb, fun g hg => ⟨g, hg, .refl _⟩⟩
  | succ fuel ih =>
    intro queue acc hqa hcl hf
    cases queue with
    | nil =>
      simp only [closure]
      exact ⟨fun a h => h, fun a ha b hb => hcl a ha (by simp) b hb, fun g hg => ⟨g, hg, .refl _⟩⟩
    | cons parent queue =>
      simp only [closure]
      generalize hnew : ((AL.getD ff parent []).eraseDups.filter fun ch => !acc.contains ch) = new
      have hmem : ∀ b, b ∈ new ↔ b ∈ AL.getD ff parent [] ∧ b ∉ acc := by
        intro b; rw [← hnew, List.mem_filter, List.mem_eraseDups]; simp
      have hnd : new.Nodup := by
        rw [← hnew]; exact (nodup_eraseDups _).sublist List.filter_sublist
      have hrem : rem ff (acc ++ new) + new.length ≤ rem ff acc := by
        unfold rem
        have e : ((univ ff).filter fun x => !(acc ++ new).contains x) =
            (((univ ff).filter fun x => !acc.contains x).filter fun x => !new.contains x) := by
          rw [List.filter_filter]
          apply List.filter_congr
          intro y _
          simp only [List.contains_append, Bool.not_or, Bool.and_comm]
        rw [e]
        apply length_filter_removeAll _ _ hnd
        intro x hx
        rw [List.mem_filter]
        exact ⟨getD_sub_univ ff parent x ((hmem x).mp hx).1, by simpa using ((hmem x).mp hx).2⟩
      have hpar : parent ∈ acc := hqa parent (List.mem_cons_self ..)
      obtain ⟨r1, r2, r3⟩ := ih (queue ++ new) (acc ++ new)
        (by
          intro q hq
          rcases List.mem_append.mp hq with hq | hq
          · exact List.mem_append_left _ (hqa q (List.mem_cons_of_mem _ hq))
          · exact List.mem_append_right _ hq)
        (by
          intro a ha hnq b hb
          have hnq1 : a ∉ queue := fun h => hnq (List.mem_append_left _ h)
          have hnq2 : a ∉ new := fun h => hnq (List.mem_append_right _ h)
          rcases List.mem_append.mp ha with ha | ha
          · by_cases hap : a = parent
            · subst hap
              by_cases hba : b ∈ acc
              · exact List.mem_append_left _ hba
              · exact List.mem_append_right _ ((hmem b).mpr ⟨hb, hba⟩)
            · exact List.mem_append_left _ (hcl a ha (by simp [hap, hnq1]) b hb)
          · exact absurd ha hnq2)
        (by
          simp only [List.length_append, List.length_cons] at hf ⊢
          omega)
      refine ⟨fun a ha => r1 a (List.mem_append_left _ ha), r2, fun g hg => ?_⟩
      obtain ⟨a, ha, hr⟩ := r3 g hg
      rcases List.mem_append.mp ha with ha | ha
      · exact ⟨a, ha, hr⟩
      · exact ⟨parent, hpar, .step ((hmem a).mp ha).1 hr⟩

theorem closure_closed_reach {ff : AL (List String)} {R : List String}
    (hcl : ∀ a ∈ R, ∀ b ∈ AL.getD ff a [], b ∈ R) {a g : String} (ha : a ∈ R) (h : Reach ff a g) : g ∈ R := by
  induction h with
  | refl a => exact ha
  | step h1 _ ih => exact ih (hcl _ ha _ h1)

/-- the closure is reachability, when the fuel covers the queue and the set -/
theorem mem_closure (ff : AL (List String)) (fs : List String) (fuel : Nat)
    (hf : fs.length + (univ ff).length ≤ fuel) (g : String) :
    g ∈ closure ff fuel fs fs ↔ ∃ f ∈ fs, Reach ff f g := by
  obtain ⟨r1, r2, r3⟩ := closure_spec ff fuel fs fs (fun q h => h) (fun a ha hn => absurd ha hn)
    (by unfold rem; have := List.length_filter_le (fun x => !fs.contains x) (univ ff); omega)
  constructor
  · exact r3 g
  · rintro ⟨f, hf', hr⟩
    exact closure_closed_reach r2 (r1 f hf') hr

theorem foldl_len_ge (m : AL (List String)) (n0 : Nat) :
    n0 + (m.flatMap (·.2)).length ≤ m.foldl (fun n p => n + p.2.length + 1) n0 := by
  induction m generalizing n0 with
  | nil => simp
  | cons p m ih =>
    rw [List.foldl_cons, List.flatMap_cons, List.length_append]
    have := ih (n0 + p.2.length + 1)
    omega

theorem foldl_len_mono (m : AL (List String)) (n0 : Nat) : n0 ≤ m.foldl (fun n p => n + p.2.length + 1) n0 := by
  have := foldl_len_ge m n0; omega

theorem foldl_len_ge_mem (m : AL (List String)) (n0 : Nat) (p : String × List String) (hp : p ∈ m) :
    n0 + p.2.length ≤ m.foldl (fun n p => n + p.2.length + 1) n0 := by
  induction m generalizing n0 with
  | nil => cases hp
  | cons q m ih =>
    rw [List.foldl_cons]
    rcases List.mem_cons.mp hp with rfl | hp
    · have := foldl_len_mono m (n0 + p.2.length + 1); omega
    · have := ih (n0 + q.2.length + 1) hp; omega

end VC
end PyGql.Validate
