/-
  `Spec.ParentsAgree` from the other rules' clauses: the typed node enumeration is closed under the selections
  of its selection sets, a selection-set node shows `parent = compositeBase type`, and - with well-formed identities -
  a selection-set identity determines its (node, static context) pair.
-/
import PyGqlModel.Lemmas.ValidateOverlapWf
import PyGqlModel.Validate.WfMeta
namespace PyGql.Validate
open PyGql PyGql.Validate.Spec

theorem mem_withView {w : View} {ns : List Node} {q : Node × View} (h : q ∈ withView w ns) : q.1 ∈ ns := by
  rw [← withView_fst w ns]; exact List.mem_map.mpr ⟨q, h, rfl⟩

theorem mem_tnDirs {s : SchemaD} {w : View} {ds : List Dir} {q : Node × View} (h : q ∈ tnDirs s w ds) :
    q.1 ∈ dirsNodes ds := by
  rw [← tnDirs_fst s w ds]; exact List.mem_map.mpr ⟨q, h, rfl⟩

theorem mem_tnSels_of_mem {s : SchemaD} {w : View} {x : Sel} {xs : List Sel} (hx : x ∈ xs) :
    ∀ q ∈ tnSel s w x, q ∈ tnSels s w xs := by
  induction xs with
  | nil => cases hx
  | cons y ys ih =>
    intro q hq
    rw [tnSels, List.mem_append]
    rcases List.mem_cons.mp hx with rfl | hx'
    · exact Or.inl hq
    · exact Or.inr (ih hx' q hq)

private theorem notSelT {q : Node × View} {i : Nat} {sels : List Sel} {v : View} (h : q.1.isSelSet = false)
    (e : q = (Node.selectionSet i sels, v)) : False := by subst e; cases h

mutual
/-- closure of the typed enumeration of a selection, and the shape of the context at a selection-set node -/
theorem tclosed_sel (s : SchemaD) : ∀ (x : Sel) (w : View) (i : Nat) (sels : List Sel) (v : View),
    (Node.selectionSet i sels, v) ∈ tnSel s w x →
    (∀ q ∈ tnSels s v sels, q ∈ tnSel s w x) ∧ v.parent = compositeBase s v.type
  | .field al name args dirs true ssid sub, w, i, sels, v, h => by
    simp only [tnSel, ↓reduceIte, List.mem_cons, List.mem_append, Prod.mk.injEq, reduceCtorEq, false_and,
      false_or] at h
    rcases h with (h | h) | h | h
    · exact (notSelT (argsNodes_noSelSet _ _ (mem_withView h)) rfl).elim
    · exact (notSelT (dirsNodes_noSelSet _ _ (mem_tnDirs h)) rfl).elim
    · obtain ⟨⟨rfl, rfl⟩, rfl⟩ := h
      refine ⟨fun q hq => ?_, rfl⟩
      simp only [tnSel, ↓reduceIte, List.mem_cons, List.mem_append]
      exact Or.inr (Or.inr (Or.inr hq))
    · obtain ⟨c1, c2⟩ := tclosed_sels s sub _ i sels v h
      refine ⟨fun q hq => ?_, c2⟩
      simp only [tnSel, ↓reduceIte, List.mem_cons, List.mem_append]
      exact Or.inr (Or.inr (Or.inr (c1 q hq)))
  | .field al name args dirs false ssid sub, w, i, sels, v, h => by
    simp only [tnSel, Bool.false_eq_true, ↓reduceIte, List.append_nil, List.mem_cons, List.mem_append, Prod.mk.injEq,
      reduceCtorEq, false_and, false_or] at h
    rcases h with h | h
    · exact (notSelT (argsNodes_noSelSet _ _ (mem_withView h)) rfl).elim
    · exact (notSelT (dirsNodes_noSelSet _ _ (mem_tnDirs h)) rfl).elim
  | .spread name dirs, w, i, sels, v, h => by
    simp only [tnSel, List.mem_cons, Prod.mk.injEq, reduceCtorEq, false_and, false_or] at h
    exact (notSelT (dirsNodes_noSelSet _ _ (mem_tnDirs h)) rfl).elim
  | .inline on dirs id sub, w, i, sels, v, h => by
    simp only [tnSel, List.mem_cons, List.mem_append, Prod.mk.injEq, reduceCtorEq, false_and, false_or] at h
    rcases h with h | h | h
    · exact (notSelT (dirsNodes_noSelSet _ _ (mem_tnDirs h)) rfl).elim
    · obtain ⟨⟨rfl, rfl⟩, rfl⟩ := h
      refine ⟨fun q hq => ?_, rfl⟩
      simp only [tnSel, List.mem_cons, List.mem_append]
      exact Or.inr (Or.inr (Or.inr hq))
    · obtain ⟨c1, c2⟩ := tclosed_sels s sub _ i sels v h
      refine ⟨fun q hq => ?_, c2⟩
      simp only [tnSel, List.mem_cons, List.mem_append]
      exact Or.inr (Or.inr (Or.inr (c1 q hq)))
theorem tclosed_sels (s : SchemaD) : ∀ (xs : List Sel) (w : View) (i : Nat) (sels : List Sel) (v : View),
    (Node.selectionSet i sels, v) ∈ tnSels s w xs →
    (∀ q ∈ tnSels s v sels, q ∈ tnSels s w xs) ∧ v.parent = compositeBase s v.type
  | [], _, _, _, _, h => by cases h
  | x :: xs, w, i, sels, v, h => by
    rw [tnSels, List.mem_append] at h
    rcases h with h | h
    · obtain ⟨c1, c2⟩ := tclosed_sel s x w i sels v h
      exact ⟨fun q hq => by rw [tnSels, List.mem_append]; exact Or.inl (c1 q hq), c2⟩
    · obtain ⟨c1, c2⟩ := tclosed_sels s xs w i sels v h
      exact ⟨fun q hq => by rw [tnSels, List.mem_append]; exact Or.inr (c1 q hq), c2⟩
end

theorem tclosed_def (s : SchemaD) (df : Def) (i : Nat) (sels : List Sel) (v : View)
    (h : (Node.selectionSet i sels, v) ∈ tnDef s df) :
    (∀ q ∈ tnSels s v sels, q ∈ tnDef s df) ∧ v.parent = compositeBase s v.type := by
  cases df with
  | op kind name vars dirs j ss =>
    simp only [tnDef, List.mem_cons, List.mem_append, Prod.mk.injEq, reduceCtorEq, false_and, false_or] at h
    rcases h with (h | h) | h | h
    · have hm : (Node.selectionSet i sels, v).1 ∈ vars.flatMap varDefNodes := by
        rw [← tnVarDefs_fst s _ vars]; exact List.mem_map.mpr ⟨_, h, rfl⟩
      exact (notSelT (varDefsNodes_noSelSet _ _ hm) rfl).elim
    · exact (notSelT (dirsNodes_noSelSet _ _ (mem_tnDirs h)) rfl).elim
    · obtain ⟨⟨rfl, rfl⟩, rfl⟩ := h
      refine ⟨fun q hq => ?_, rfl⟩
      simp only [tnDef, List.mem_cons, List.mem_append]
      exact Or.inr (Or.inr (Or.inr hq))
    · obtain ⟨c1, c2⟩ := tclosed_sels s ss _ i sels v h
      refine ⟨fun q hq => ?_, c2⟩
      simp only [tnDef, List.mem_cons, List.mem_append]
      exact Or.inr (Or.inr (Or.inr (c1 q hq)))
  | frag name on dirs j ss =>
    simp only [tnDef, List.mem_cons, List.mem_append, Prod.mk.injEq, reduceCtorEq, false_and, false_or] at h
    rcases h with h | h | h
    · exact (notSelT (dirsNodes_noSelSet _ _ (mem_tnDirs h)) rfl).elim
    · obtain ⟨⟨rfl, rfl⟩, rfl⟩ := h
      refine ⟨fun q hq => ?_, rfl⟩
      simp only [tnDef, List.mem_cons, List.mem_append]
      exact Or.inr (Or.inr (Or.inr hq))
    · obtain ⟨c1, c2⟩ := tclosed_sels s ss _ i sels v h
      refine ⟨fun q hq => ?_, c2⟩
      simp only [tnDef, List.mem_cons, List.mem_append]
      exact Or.inr (Or.inr (Or.inr (c1 q hq)))
  | ts a b => simp [tnDef] at h

theorem typed_closed {s : SchemaD} {d : Doc} {i : Nat} {sels : List Sel} {v : View}
    (h : (Node.selectionSet i sels, v) ∈ typedNodes s d) :
    (∀ q ∈ tnSels s v sels, q ∈ typedNodes s d) ∧ v.parent = compositeBase s v.type := by
  simp only [typedNodes, List.mem_flatMap] at h ⊢
  obtain ⟨df, hdf, hm⟩ := h
  obtain ⟨c1, c2⟩ := tclosed_def s df i sels v hm
  exact ⟨fun q hq => ⟨df, hdf, c1 q hq⟩, c2⟩

theorem typed_node_mem {s : SchemaD} {d : Doc} {q : Node × View} (h : q ∈ typedNodes s d) : q.1 ∈ nodes d := by
  unfold nodes
  apply List.mem_cons_of_mem
  rw [← typedNodes_fst s d]
  exact List.mem_map.mpr ⟨q, h, rfl⟩

theorem typed_unique {s : SchemaD} {d : Doc} (hw : WfIds d) {q q' : Node × View} {k : Nat}
    (h1 : q ∈ typedNodes s d) (h2 : q' ∈ typedNodes s d) (e1 : ssidOf? q.1 = some k) (e2 : ssidOf? q'.1 = some k) :
    q = q' := by
  have hnd : ((typedNodes s d).filterMap fun q => ssidOf? q.1).Nodup := by
    have : ((typedNodes s d).filterMap fun q => ssidOf? q.1) = selSetIds d := by
      have h0 : selSetIds d = idsOf (d.defs.flatMap defNodes) := by
        unfold selSetIds nodes
        show idsOf ([Node.document d] ++ _) = _
        rw [idsOf_append]; rfl
      rw [h0, ← typedNodes_fst s d]
      unfold idsOf
      rw [List.filterMap_map]
      rfl
    rw [this]; exact hw
  exact List.inj_of_nodup_filterMap hnd h1 h2 e1 e2

end PyGql.Validate
