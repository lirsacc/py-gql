/-
  Lemmas relating the model `BlockString.parseBlockString` to the specification `Spec.BlockStringValue`, and how its
  stages (splitting, common indentation, blank-line stripping) act on the layout the printer produces.
-/
import PyGqlModel.BlockString
import PyGqlModel.Spec.BlockStringSpec
import PyGqlModel.Spec.ResponseSpec

namespace PyGql.BlockString
open PyGql.Spec

theorem splitLinesAux_ne_nil (b : Bool) (s : Text) : splitLinesAux b s ≠ [] := by
  induction s generalizing b with
  | nil => simp [splitLinesAux]
  | cons c t ih =>
    unfold splitLinesAux
    split
    · split
      · exact ih false
      · simp
    · split
      · simp
      · split <;> simp

theorem splitLinesAux_true_nil : splitLinesAux true [] = splitLinesAux false [] := by
  simp [splitLinesAux]

theorem splitLinesAux_true_lf (t : Text) : splitLinesAux true (10 :: t) = splitLinesAux false t := by
  simp [splitLinesAux]

theorem splitLinesAux_true_other (c : Nat) (t : Text) (h : c ≠ 10) :
    splitLinesAux true (c :: t) = splitLinesAux false (c :: t) := by
  simp [splitLinesAux, h]

def prependLine (p : Text) : List Text → List Text
  | l :: ls => (p ++ l) :: ls
  | [] => [p]

theorem prependLine_nil (x : List Text) (h : x ≠ []) : prependLine [] x = x := by
  cases x with
  | nil => exact absurd rfl h
  | cons l ls => simp [prependLine]

theorem split_spec_aux (cur s : Text) :
    splitByLineTerminator cur s = prependLine cur.reverse (splitLinesAux false s) := by
  -- cases of `splitByLineTerminator`: 1 end of text; 2 a last character that ends a line; 3 a last character that does not;
  -- 4 CR LF; 5 LF or CR alone; 6 any other character
  fun_induction splitByLineTerminator cur s with
  | case1 cur => simp [splitLinesAux, prependLine]
  | case2 cur c h =>
    rcases h with h | h <;> subst h <;> simp [splitLinesAux, prependLine]
  | case3 cur c h =>
    have h1 : c ≠ 10 := fun e => h (Or.inl e)
    have h2 : c ≠ 13 := fun e => h (Or.inr e)
    simp [splitLinesAux, prependLine, h1, h2]
  | case4 cur c d t h ih =>
    obtain ⟨hc, hd⟩ := h
    subst hc; subst hd
    rw [ih, List.reverse_nil]
    have : splitLinesAux false (13 :: 10 :: t) = [] :: splitLinesAux false t := by
      simp [splitLinesAux]
    rw [this, prependLine_nil _ (splitLinesAux_ne_nil _ _)]
    simp [prependLine]
  | case5 cur c d t h1 h2 ih =>
    rw [ih, List.reverse_nil, prependLine_nil _ (splitLinesAux_ne_nil _ _)]
    rcases h2 with h2 | h2
    · subst h2
      simp [splitLinesAux, prependLine]
    · subst h2
      have hd : d ≠ 10 := fun e => h1 ⟨rfl, e⟩
      have : splitLinesAux false (13 :: d :: t) = [] :: splitLinesAux true (d :: t) := by
        simp [splitLinesAux]
      rw [this, splitLinesAux_true_other d t hd]
      simp [prependLine]
  | case6 cur c d t h1 h2 ih =>
    have hc1 : c ≠ 10 := fun e => h2 (Or.inl e)
    have hc2 : c ≠ 13 := fun e => h2 (Or.inr e)
    rw [ih]
    conv => rhs; rw [splitLinesAux]
    simp only [hc1, hc2, ↓reduceIte]
    split
    · rename_i l ls hs; rw [hs]; simp [prependLine]
    · rename_i hs; exact absurd hs (splitLinesAux_ne_nil _ _)

theorem split_spec (raw : Text) : splitLines raw = splitByLineTerminator [] raw := by
  rw [split_spec_aux, splitLines]
  exact (prependLine_nil _ (splitLinesAux_ne_nil _ _)).symm

theorem splitLinesAux_eq (t : Text) : splitLinesAux false t = PyGql.Spec.Response.splitLines t ∧
    ([] :: splitLinesAux true t) =
      if t.head? = some 10 then PyGql.Spec.Response.splitLines t else [] :: PyGql.Spec.Response.splitLines t := by
  induction t with
  | nil => exact ⟨rfl, rfl⟩
  | cons c t ih =>
    simp only [splitLinesAux, PyGql.Spec.Response.splitLines, List.head?_cons, Option.some.injEq]
    by_cases h10 : c = 10
    · simp [h10, ih.1]
    · by_cases h13 : c = 13
      · simp only [h13, if_true, ih.2, ih.1]
        simp
      · simp only [h10, h13, if_false, ih.1, and_true]
        -- the two definitions have each their own `match` on the lines of the rest
        cases PyGql.Spec.Response.splitLines t <;> simp

theorem splitLines_eq (t : Text) : splitLines t = PyGql.Spec.Response.splitLines t := (splitLinesAux_eq t).1

theorem isBlankChar_eq (c : Nat) : isBlankChar c = isWhiteSpace c := by
  simp [isBlankChar, isWhiteSpace, Bool.or_comm]

theorem isBlankChar_fun : isBlankChar = isWhiteSpace := funext isBlankChar_eq

theorem length_take_drop_while (p : Nat → Bool) (l : Text) :
    (l.takeWhile p).length + (l.dropWhile p).length = l.length := by
  rw [← List.length_append, List.takeWhile_append_dropWhile]

theorem lstrip_length (l : Text) : (lstrip l).length = l.length - indentOf l := by
  have := length_take_drop_while isWhiteSpace l
  simp only [lstrip, indentOf, isBlankChar_fun]; omega

theorem indentOf_le (l : Text) : indentOf l ≤ l.length := by
  have := length_take_drop_while isWhiteSpace l
  simp only [indentOf]; omega

/-- combining the running minimum (`none` = `sys.maxsize`) with an optional candidate -/
def optMin : Option Nat → Option Nat → Option Nat
  | none, x => x
  | some a, none => some a
  | some a, some b => some (min a b)

theorem indentStep_eq (acc : Option Nat) (l : Text) :
    indentStep acc l = if indentOf l < l.length then optMin acc (some (indentOf l)) else acc := by
  have h1 := lstrip_length l
  have h2 := indentOf_le l
  unfold indentStep
  by_cases h : indentOf l < l.length
  · have : (lstrip l).length ≠ 0 := by omega
    have e : l.length - (lstrip l).length = indentOf l := by omega
    simp only [this, ne_eq, not_false_eq_true, ↓reduceIte, h, e]
    cases acc <;> simp [optMin]
  · have : (lstrip l).length = 0 := by omega
    simp [this, h]

theorem optMin_assoc (a : Option Nat) (b : Nat) (c : Option Nat) :
    optMin (optMin a (some b)) c = optMin a (optMin (some b) c) := by
  cases a <;> cases c <;> simp [optMin, Nat.min_assoc]

theorem min?_cons_optMin (a : Nat) (r : List Nat) : (a :: r).min? = optMin (some a) r.min? := by
  rw [List.min?_cons]
  cases r.min? <;> simp [optMin]

theorem foldl_indentStep (acc : Option Nat) (ls : List Text) :
    ls.foldl indentStep acc =
      optMin acc (((ls.filter (fun l => indentOf l < l.length)).map indentOf).min?) := by
  induction ls generalizing acc with
  | nil => cases acc <;> simp [optMin]
  | cons l ls ih =>
    rw [List.foldl_cons, ih, indentStep_eq]
    by_cases h : indentOf l < l.length
    · simp only [h, ↓reduceIte, List.filter_cons, decide_true, List.map_cons]
      rw [min?_cons_optMin, optMin_assoc]
    · simp [h]

theorem commonIndent_spec (lines : List Text) : commonIndent lines = Spec.commonIndent lines := by
  simp [commonIndent, Spec.commonIndent, foldl_indentStep, optMin]

theorem lstrip_isEmpty (l : Text) : (lstrip l).isEmpty = onlyWhiteSpace l := by
  simp only [lstrip, onlyWhiteSpace, isBlankChar_fun]
  induction l with
  | nil => simp
  | cons c t ih =>
    rw [List.dropWhile_cons]
    by_cases h : isWhiteSpace c = true
    · simp [h, ih]
    · simp [h]

theorem popLeading_spec (ls : List Text) : popLeading ls = ls.dropWhile onlyWhiteSpace := by
  induction ls with
  | nil => simp [popLeading]
  | cons l ls ih => simp [popLeading, List.dropWhile_cons, lstrip_isEmpty, ih]

theorem popTrailing_spec (ls : List Text) :
    popTrailing ls = (ls.reverse.dropWhile onlyWhiteSpace).reverse := by
  induction ls with
  | nil => simp [popTrailing]
  | cons l ls ih =>
    rw [popTrailing, ih, List.reverse_cons, List.dropWhile_append]
    cases h : List.dropWhile onlyWhiteSpace ls.reverse with
    | nil => simp [lstrip_isEmpty, List.dropWhile_cons]; split <;> simp_all
    | cons x xs => simp

theorem joinLF_cons_cons (a b : Text) (xs : List Text) : joinLF (a :: b :: xs) = a ++ 10 :: joinLF (b :: xs) := by
  rw [joinLF]; simp

theorem joinLF_snoc (x : Text) (xs : List Text) (p : Text) : joinLF ((x :: xs) ++ [p]) = joinLF (x :: xs) ++ 10 :: p := by
  induction xs generalizing x with
  | nil => simp [joinLF]
  | cons y ys ih =>
    simp only [List.cons_append] at ih ⊢
    rw [joinLF_cons_cons, ih y, joinLF_cons_cons]; simp

/-- a character of lines joined by line feeds is a line feed or a character of one of the lines -/
theorem mem_joinLF (ls : List Text) : ∀ c ∈ joinLF ls, c = 10 ∨ ∃ x ∈ ls, c ∈ x := by
  induction ls with
  | nil => intro c hc; cases hc
  | cons l t ih =>
    intro c hc
    cases t with
    | nil => simp [joinLF] at hc; exact Or.inr ⟨l, by simp, hc⟩
    | cons b bs =>
      rw [joinLF_cons_cons] at hc
      simp only [List.mem_append, List.mem_cons] at hc
      rcases hc with hc | rfl | hc
      · exact Or.inr ⟨l, by simp, hc⟩
      · exact Or.inl rfl
      · rcases ih c hc with h | ⟨x, hx, hcx⟩
        · exact Or.inl h
        · exact Or.inr ⟨x, List.mem_cons_of_mem _ hx, hcx⟩

theorem joinLF_eq (l : Text) (ls : List Text) :
    joinLF (l :: ls) = l ++ ls.flatMap (fun x => 10 :: x) := by
  induction ls generalizing l with
  | nil => simp [joinLF]
  | cons x xs ih => rw [joinLF_cons_cons, ih]; simp

theorem formatted_eq (l : Text) (ls : List Text) :
    formatted (l :: ls) = l ++ ls.flatMap (fun x => 10 :: x) := by
  simp only [formatted]
  induction ls generalizing l with
  | nil => simp
  | cons x xs ih => rw [List.foldl_cons, ih]; simp

theorem joinLF_spec (ls : List Text) : joinLF ls = formatted ls := by
  cases ls with
  | nil => simp [joinLF, formatted]
  | cons l ls => rw [joinLF_eq, formatted_eq]

/-! ### layout half of `block_roundtrip` (`Props/C03_strings.lean`): lines, common indent, blank lines -/

/-- a line: no LF, no CR -/
def IsLine (l : Text) : Prop := ∀ c ∈ l, c ≠ 10 ∧ c ≠ 13

theorem splitLinesAux_line_append (l rest : Text) (hl : IsLine l) :
    splitLinesAux false (l ++ rest) = prependLine l (splitLinesAux false rest) := by
  induction l with
  | nil =>
    cases h : splitLinesAux false rest with
    | nil => exact absurd h (splitLinesAux_ne_nil _ _)
    | cons x xs => simp [prependLine, h]
  | cons c t ih =>
    have hc := hl c (by simp)
    have ht : IsLine t := fun x hx => hl x (by simp [hx])
    rw [List.cons_append, splitLinesAux]
    simp only [hc.1, hc.2, ↓reduceIte, ih ht]
    cases h : splitLinesAux false rest with
    | nil => exact absurd h (splitLinesAux_ne_nil _ _)
    | cons x xs => simp [prependLine]

theorem splitLines_joinLF (l : Text) (ls : List Text) (h : ∀ x ∈ l :: ls, IsLine x) :
    splitLines (joinLF (l :: ls)) = l :: ls := by
  unfold splitLines
  induction ls generalizing l with
  | nil =>
    have := splitLinesAux_line_append l [] (h l (by simp))
    simpa [joinLF, splitLinesAux, prependLine] using this
  | cons l2 ls ih =>
    have hj : joinLF (l :: l2 :: ls) = l ++ 10 :: joinLF (l2 :: ls) := by rw [joinLF]; simp
    rw [hj, splitLinesAux_line_append l _ (h l (by simp))]
    have : splitLinesAux false (10 :: joinLF (l2 :: ls)) = [] :: splitLinesAux false (joinLF (l2 :: ls)) := by
      simp [splitLinesAux]
    rw [this, ih l2 (fun x hx => h x (by simp [List.mem_cons] at hx ⊢; right; exact hx))]
    simp [prependLine]

def IsBlank (p : Text) : Prop := ∀ c ∈ p, isWhiteSpace c = true

theorem indentOf_prefix (p l : Text) (hp : IsBlank p) : indentOf (p ++ l) = p.length + indentOf l := by
  induction p with
  | nil => simp
  | cons c t ih =>
    have hc := hp c (by simp)
    have := ih (fun x hx => hp x (by simp [hx]))
    simp only [indentOf, List.cons_append, List.takeWhile_cons, hc, ↓reduceIte, List.length_cons] at this ⊢
    omega

theorem indentStep_prefix (p l : Text) (hp : IsBlank p) (acc : Option Nat) :
    indentStep (acc.map (p.length + ·)) (p ++ l) = (indentStep acc l).map (p.length + ·) := by
  rw [indentStep_eq, indentStep_eq, indentOf_prefix p l hp, List.length_append]
  by_cases h : indentOf l < l.length
  · have h' : p.length + indentOf l < p.length + l.length := by omega
    simp only [h, h', ↓reduceIte]
    cases acc with
    | none => simp [optMin]
    | some a => simp [optMin, Nat.add_min_add_left]
  · have h' : ¬ p.length + indentOf l < p.length + l.length := by omega
    simp [h, h']

theorem foldl_indentStep_prefix (p : Text) (hp : IsBlank p) (ls : List Text) (acc : Option Nat) :
    (ls.map (p ++ ·)).foldl indentStep (acc.map (p.length + ·)) = (ls.foldl indentStep acc).map (p.length + ·) := by
  induction ls generalizing acc with
  | nil => rfl
  | cons l ls ih =>
    simp only [List.map_cons, List.foldl_cons]
    rw [indentStep_prefix p l hp acc, ih]

/-- stripBlank: leading / trailing blank lines are removed, a non-blank line stops the removal -/
theorem popLeading_blank (b : Text) (ls : List Text) (hb : IsBlank b) : popLeading (b :: ls) = popLeading ls := by
  have : (lstrip b).isEmpty = true := by
    rw [lstrip_isEmpty]; exact List.all_eq_true.mpr hb
  simp [popLeading, this]

theorem popLeading_nonblank (l : Text) (ls : List Text) (hl : onlyWhiteSpace l = false) :
    popLeading (l :: ls) = l :: ls := by
  simp [popLeading, lstrip_isEmpty, hl]

theorem popTrailing_blank (ls : List Text) (b : Text) (hb : IsBlank b) : popTrailing (ls ++ [b]) = popTrailing ls := by
  have hbb : onlyWhiteSpace b = true := List.all_eq_true.mpr hb
  rw [popTrailing_spec, popTrailing_spec]
  simp [List.dropWhile_cons, hbb]

theorem popTrailing_nonblank (ls : List Text) (l : Text) (hl : onlyWhiteSpace l = false) :
    popTrailing (ls ++ [l]) = ls ++ [l] := by
  rw [popTrailing_spec]
  simp [List.dropWhile_cons, hl]

/-- lines that begin and end with a non-blank line, followed by one blank line: only that line is stripped -/
theorem popEnds_blank (l : Text) (ls : List Text) (b : Text) (hfirst : onlyWhiteSpace l = false)
    (hlast : onlyWhiteSpace ((l :: ls).getLast (by simp)) = false) (hb : IsBlank b) :
    popTrailing (popLeading (l :: ls ++ [b])) = l :: ls := by
  rw [List.cons_append, popLeading_nonblank l _ hfirst, ← List.cons_append, popTrailing_blank _ _ hb,
    ← List.dropLast_concat_getLast (List.cons_ne_nil l ls)]
  exact popTrailing_nonblank _ _ hlast

end PyGql.BlockString
