/-
  The lexer SLICE lemma at the level of the lexical specification (`Spec.Lexical.Tiles`):
  if a text is tiled by `pre ++ seg ++ post` (`seg`, `post` non-empty) then the characters from the start of the first
  token of `seg` to the end of its last token are tiled by `seg` itself, moved down by the start offset, followed by
  `<EOF>`.  What makes it true: an ignored run / a lexeme / a follow restriction never looks further than the NEXT
  character, and the end of the text satisfies every follow restriction.
-/
import PyGqlModel.Spec.Lexical
namespace PyGql

def Tok.up (d : Nat) (t : Tok) : Tok := { t with start := t.start + d, stop := t.stop + d }
def Tok.down (d : Nat) (t : Tok) : Tok := { t with start := t.start - d, stop := t.stop - d }

@[simp] theorem Tok.down_up (d : Nat) (t : Tok) : (t.up d).down d = t := by
  cases t; simp [Tok.up, Tok.down]

theorem Tok.map_down_up (d : Nat) (ts : List Tok) : (ts.map (Tok.up d)).map (Tok.down d) = ts := by
  induction ts with
  | nil => rfl
  | cons t ts ih => simp [ih]

namespace Spec.Lexical

def eofT (m : Nat) : Tok := ⟨.eof, m, m, textOfString "<EOF>"⟩

theorem startsWith_append_false (p : Nat → Bool) (a b : Text) (h : startsWith p (a ++ b) = false) :
    startsWith p a = false := by
  cases a with
  | nil => rfl
  | cons c t => simpa [startsWith] using h

theorem IgnRun.trunc {a b ign : Text} (h : IgnRun (a ++ b) ign) : IgnRun a ign := by
  induction h with
  | nil => exact .nil
  | char c t hc _ ih => exact .char c t hc ih
  | comment body t hb hs _ ih =>
    refine .comment body t hb ?_ ih
    rw [← List.append_assoc] at hs
    exact startsWith_append_false _ _ _ hs

theorem Follow.of_startsWith {k : TokKind} {lex a b : Text}
    (hab : ∀ p, startsWith p b = false → startsWith p a = false) (h : Follow k lex b) : Follow k lex a := by
  cases k
  case name | int | float => exact hab _ h
  case string => exact fun e => hab _ (h e)
  all_goals trivial

theorem Follow.trunc {k : TokKind} {lex a b : Text} (h : Follow k lex (a ++ b)) : Follow k lex a :=
  h.of_startsWith fun p => startsWith_append_false p a b

/-! ### tilings with any position function

`Tiles n` gives a token the positions `n - k` for `k` unread characters.  What moves a tiling (cutting a segment out of it,
putting text behind it, making the enclosing text longer) changes only that function, so these steps are proved for an
arbitrary function `p`, and the subtraction is dealt with once, pointwise, when `n - ·` is put back (`TilesP.factor`). -/

/-- a tiling whose token positions are `p k`, `k` the number of characters still unread; `Tiles n` is `p k = n - k` -/
inductive TilesP (p : Nat → Nat) : Text → List Tok → Prop
  | eof (ign : Text) : IgnRun [] ign → TilesP p ign [⟨.eof, p 0, p 0, textOfString "<EOF>"⟩]
  | tok (ign lex rest : Text) (k : TokKind) (v : Text) (toks : List Tok) :
      IgnRun (lex ++ rest) ign → Lexeme k lex v → Follow k lex rest → TilesP p rest toks →
      TilesP p (ign ++ (lex ++ rest)) (⟨k, p (lex ++ rest).length, p rest.length, v⟩ :: toks)

theorem Tiles.toP {n : Nat} {s : Text} {toks : List Tok} (h : Tiles n s toks) : TilesP (n - ·) s toks := by
  induction h with
  | eof ign hi => exact .eof ign hi
  | tok ign lex rest k v toks hi hl hf _ ih => exact .tok ign lex rest k v toks hi hl hf ih

theorem TilesP.tiles {n : Nat} {s : Text} {toks : List Tok} (h : TilesP (n - ·) s toks) : Tiles n s toks := by
  induction h with
  | eof ign hi => exact .eof ign hi
  | tok ign lex rest k v toks hi hl hf _ ih => exact .tok ign lex rest k v toks hi hl hf ih

theorem TilesP.cons_inv {p : Nat → Nat} {s : Text} {t : Tok} {toks : List Tok} (h : TilesP p s (t :: toks))
    (hne : toks ≠ []) :
    ∃ ign lex rest k v, s = ign ++ (lex ++ rest) ∧ IgnRun (lex ++ rest) ign ∧ Lexeme k lex v ∧ Follow k lex rest ∧
      TilesP p rest toks ∧ t = ⟨k, p (lex ++ rest).length, p rest.length, v⟩ := by
  cases h with
  | eof ign _ => exact absurd rfl hne
  | tok ign lex rest k v toks hi hl hf ht => exact ⟨ign, lex, rest, k, v, rfl, hi, hl, hf, ht, rfl⟩

theorem TilesP.snoc_eof {p : Nat → Nat} : ∀ (toks : List Tok) {s : Text} {t : Tok}, TilesP p s (toks ++ [t]) →
    t = ⟨.eof, p 0, p 0, textOfString "<EOF>"⟩
  | [], s, t, h => by
    generalize e : [] ++ [t] = l at h
    cases h with
    | eof ign _ => exact (List.cons.inj e).1
    | tok ign lex rest k v toks _ _ _ ht =>
      cases (List.cons.inj e).2
      cases ht
  | u :: toks, s, t, h => by
    obtain ⟨_, _, _, _, _, _, _, _, _, ht, _⟩ := TilesP.cons_inv (toks := toks ++ [t]) h (by simp)
    exact TilesP.snoc_eof toks ht

theorem TilesP.factor {p q : Nat → Nat} {d : Nat} {s : Text} {toks : List Tok} (h : TilesP p s toks)
    (hpq : ∀ j, j ≤ s.length → p j = q j + d) : ∃ toks', toks = toks'.map (Tok.up d) ∧ TilesP q s toks' := by
  induction h with
  | eof ign hi => exact ⟨_, by rw [List.map_cons, Tok.up, hpq 0 (Nat.zero_le _)]; rfl, .eof ign hi⟩
  | tok ign lex rest k v toks hi hl hf _ ih =>
    have h2 : (lex ++ rest).length ≤ (ign ++ (lex ++ rest)).length := by
      rw [List.length_append (as := ign)]; exact Nat.le_add_left _ _
    have h1 : rest.length ≤ (ign ++ (lex ++ rest)).length :=
      Nat.le_trans (by rw [List.length_append]; exact Nat.le_add_left _ _) h2
    obtain ⟨toks', rfl, ht⟩ := ih fun j hj => hpq j (Nat.le_trans hj h1)
    exact ⟨_, by rw [List.map_cons, Tok.up, hpq _ h1, hpq _ h2], .tok ign lex rest k v toks' hi hl hf ht⟩

theorem TilesP.segment {p : Nat → Nat} : ∀ (seg : List Tok) {s : Text} {post : List Tok}, post ≠ [] →
    TilesP p s (seg ++ post) →
    ∃ body rest, s = body ++ rest ∧ TilesP p rest post ∧ (seg = [] → body = []) ∧
      (∀ t ∈ seg.getLast?, t.stop = p rest.length) ∧
      TilesP (fun j => p (j + rest.length)) body (seg ++ [⟨.eof, p rest.length, p rest.length, textOfString "<EOF>"⟩])
  | [], s, post, _, h => ⟨[], s, rfl, h, fun _ => rfl, by simp, by
      have := TilesP.eof (p := fun j => p (j + s.length)) [] .nil
      simpa using this⟩
  | t :: seg, s, post, hne, h => by
    obtain ⟨ign, lex, rest0, k, v, rfl, hi, hl, hf, ht, rfl⟩ := TilesP.cons_inv (toks := seg ++ post) h (by simp [hne])
    obtain ⟨body', rest, rfl, hp, hnil, hlast, hb⟩ := TilesP.segment seg hne ht
    refine ⟨ign ++ (lex ++ body'), rest, by simp, hp, by simp, ?_, ?_⟩
    · intro u hu
      cases seg with
      | nil =>
        simp only [List.getLast?_singleton, Option.mem_def, Option.some.injEq] at hu
        subst hu
        rw [hnil rfl]; rfl
      | cons t2 seg2 =>
        simp only [List.getLast?_cons_cons] at hu
        exact hlast u hu
    · have e1 : (lex ++ (body' ++ rest)).length = (lex ++ body').length + rest.length := by
        simp only [List.length_append, Nat.add_assoc]
      rw [e1, List.length_append (as := body')]
      exact .tok ign lex body' k v _ (by rw [← List.append_assoc] at hi; exact hi.trunc) hl hf.trunc hb

theorem Tiles.segment {n : Nat} : ∀ (seg : List Tok) {s : Text} {post : List Tok}, post ≠ [] →
    Tiles n s (seg ++ post) →
    ∃ body rest, s = body ++ rest ∧ Tiles n rest post ∧ (seg = [] → body = []) ∧
      (∀ t ∈ seg.getLast?, t.stop = n - rest.length) ∧
      ∀ m, body.length ≤ m → m + rest.length ≤ n →
        ∃ seg', seg = seg'.map (Tok.up (n - rest.length - m)) ∧ Tiles m body (seg' ++ [eofT m]) := by
  intro seg s post hne h
  obtain ⟨body, rest, hs, hp, hnil, hlast, hb⟩ := TilesP.segment seg hne h.toP
  refine ⟨body, rest, hs, hp.tiles, hnil, hlast, fun m hm hmr => ?_⟩
  obtain ⟨toks', e, ht⟩ := hb.factor (q := (m - ·)) (d := n - rest.length - m) fun j hj => by
    show n - (j + rest.length) = m - j + (n - rest.length - m)
    rw [Nat.add_comm j, Nat.sub_add_eq, Nat.add_comm,
      Nat.sub_add_sub_cancel (Nat.le_sub_of_add_le hmr) (Nat.le_trans hj hm)]
  obtain ⟨seg', l, rfl, e1, e2⟩ := List.map_eq_append_iff.1 e.symm
  obtain ⟨x, rfl, -⟩ := List.map_eq_singleton_iff.1 e2
  cases TilesP.snoc_eof seg' ht
  exact ⟨seg', e1.symm, ht.tiles⟩

def slice (s : Text) (a b : Nat) : Text := (s.drop a).take (b - a)

theorem slice_mid (x body rest : Text) : slice (x ++ (body ++ rest)) x.length (x.length + body.length) = body := by
  simp [slice]

/-- THE SLICE LEMMA on tilings: for a tiling `pre ++ (f :: tl) ++ post` of a whole text (`post ≠ []`: at least `<EOF>`
    follows), the characters from the start of `f` to the end of the last token of `f :: tl` are tiled by exactly these
    tokens, moved down by `f.start`, followed by `<EOF>` — with no leading and no trailing ignored characters. -/
theorem Tiles.slice {s : Text} (pre : List Tok) (f : Tok) (tl post : List Tok) (hne : post ≠ [])
    (h : Tiles s.length s (pre ++ (f :: tl) ++ post)) :
    f.start ≤ ((f :: tl).getLast?.getD f).stop ∧ ((f :: tl).getLast?.getD f).stop ≤ s.length ∧
    Tiles (((f :: tl).getLast?.getD f).stop - f.start) (Lexical.slice s f.start ((f :: tl).getLast?.getD f).stop)
      ((f :: tl).map (Tok.down f.start) ++ [eofT (((f :: tl).getLast?.getD f).stop - f.start)]) := by
  have e : pre ++ (f :: tl) ++ post = pre ++ (f :: (tl ++ post)) := by simp
  rw [e] at h
  obtain ⟨x, s1, rfl, h1, -, -, -⟩ := TilesP.segment pre (by simp) h.toP
  obtain ⟨ign, lex, rest0, k, v, rfl, _, hl, hf, ht, et⟩ := TilesP.cons_inv h1 (by simp [hne])
  -- the lexeme of `f` without the ignored run in front of it, then the segment `f :: tl`
  have h2 : TilesP ((x ++ (ign ++ (lex ++ rest0))).length - ·) (lex ++ rest0) (f :: tl ++ post) := by
    rw [et]; exact .tok [] lex rest0 k v _ .nil hl hf ht
  obtain ⟨body, rest, hs, -, -, hlast, hb⟩ := TilesP.segment (f :: tl) hne h2
  -- all positions in terms of three lengths: what precedes the lexeme of `f`, the slice, what follows it
  have hlen : (lex ++ rest0).length = body.length + rest.length := by rw [hs, List.length_append]
  have hN : (x ++ (ign ++ (lex ++ rest0))).length = (x ++ ign).length + (body.length + rest.length) := by
    rw [← List.append_assoc, List.length_append, hlen]
  have ha : f.start = (x ++ ign).length := by
    rw [et]
    show (x ++ (ign ++ (lex ++ rest0))).length - (lex ++ rest0).length = _
    rw [hN, hlen, Nat.add_sub_cancel]
  have hb' : ((f :: tl).getLast?.getD f).stop = (x ++ ign).length + body.length := by
    cases hg : (f :: tl).getLast? with
    | none => simp at hg
    | some w =>
      rw [Option.getD_some, hlast w hg]
      show (x ++ (ign ++ (lex ++ rest0))).length - rest.length = _
      rw [hN, ← Nat.add_assoc, Nat.add_sub_cancel]
  have hS : x ++ (ign ++ (lex ++ rest0)) = (x ++ ign) ++ (body ++ rest) := by rw [hs, List.append_assoc]
  rw [hb', ha, hN, hS, slice_mid, Nat.add_sub_cancel_left]
  refine ⟨Nat.le_add_right _ _, Nat.add_le_add_left (Nat.le_add_right _ _) _, ?_⟩
  obtain ⟨toks', e', ht'⟩ := hb.factor (q := (body.length - ·)) (d := (x ++ ign).length) fun j hj => by
    show (x ++ (ign ++ (lex ++ rest0))).length - (j + rest.length) = body.length - j + (x ++ ign).length
    rw [hN, ← Nat.add_assoc, Nat.add_sub_add_right, Nat.add_comm, Nat.sub_add_comm hj]
  obtain ⟨seg', l, rfl, e1, e2⟩ := List.map_eq_append_iff.1 e'.symm
  obtain ⟨x0, rfl, -⟩ := List.map_eq_singleton_iff.1 e2
  cases TilesP.snoc_eof seg' ht'
  rw [← e1, Tok.map_down_up]
  exact ht'.tiles

end Spec.Lexical
end PyGql
