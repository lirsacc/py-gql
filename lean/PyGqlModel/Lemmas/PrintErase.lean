/-
  THE PRINTER IGNORES SOURCE POSITIONS: `printDocument c d.erase = printDocument c d` (and likewise for every node kind).
  With C02's `noloc_erasure` this carries the round-trip theorems of C03 — proved for trees parsed with `no_location` —
  over to trees parsed WITH positions (the default).
-/
import PyGqlModel.Print
import PyGqlModel.Erase
import PyGqlModel.Lemmas.PrintStrip
namespace PyGql.Print
open PyGql PyGql.Ast

theorem map_erase {α} (e : α → α) (f : α → Text) (h : ∀ x, f (e x) = f x) (xs : List α) :
    (xs.map e).map f = xs.map f := by
  simp [List.map_map, Function.comp_def, h]

theorem printType_erase : ∀ t : TypeRef, printType t.erase = printType t
  | .named t => rfl
  | .list t _ => by simp [printType, TypeRef.erase, printType_erase t]
  | .nonNull t _ => by simp [printType, TypeRef.erase, printType_erase t]

mutual
theorem printValue_erase (c : Cfg) : ∀ v : Value, printValue c v.erase = printValue c v
  | .var v => rfl
  | .int v _ => rfl
  | .float v _ => rfl
  | .string s => rfl
  | .boolean b _ => rfl
  | .null _ => rfl
  | .enum v _ => rfl
  | .list vs _ => by simp [printValue, Value.erase, printValues_erase c vs]
  | .object fs _ => by simp [printValue, Value.erase, printObjectFields_erase c fs]
theorem printValues_erase (c : Cfg) : ∀ vs : List Value, printValues c (eraseValues vs) = printValues c vs
  | [] => rfl
  | v :: vs => by simp [printValues, eraseValues, printValue_erase c v, printValues_erase c vs]
theorem printObjectField_erase (c : Cfg) : ∀ f : ObjectField, printObjectField c f.erase = printObjectField c f
  | .mk n v _ => by simp [printObjectField, ObjectField.erase, Name.erase, printValue_erase c v]
theorem printObjectFields_erase (c : Cfg) : ∀ fs : List ObjectField, printObjectFields c (eraseFields fs) = printObjectFields c fs
  | [] => rfl
  | f :: fs => by simp [printObjectFields, eraseFields, printObjectField_erase c f, printObjectFields_erase c fs]
end

theorem printOptValue_erase (c : Cfg) (o : Option Value) : printOptValue c (o.map Value.erase) = printOptValue c o := by
  cases o <;> simp [printOptValue, printValue_erase]

theorem printArgument_erase (c : Cfg) (a : Argument) : printArgument c a.erase = printArgument c a := by
  simp [printArgument, Argument.erase, Name.erase, printValue_erase]

theorem printArguments_erase (c : Cfg) (as : List Argument) :
    printArguments c (as.map Argument.erase) = printArguments c as := by
  simp [printArguments, map_erase _ _ (printArgument_erase c)]

theorem printDirective_erase (c : Cfg) (d : Directive) : printDirective c d.erase = printDirective c d := by
  simp [printDirective, Directive.erase, Name.erase, printArguments_erase]

theorem printDirectives_erase (c : Cfg) (ds : List Directive) :
    printDirectives c (ds.map Directive.erase) = printDirectives c ds := by
  simp [printDirectives, map_erase _ _ (printDirective_erase c)]

theorem printVariableDefinition_erase (c : Cfg) (d : VariableDefinition) :
    printVariableDefinition c d.erase = printVariableDefinition c d := by
  simp [printVariableDefinition, VariableDefinition.erase, printVariable, Variable.erase, Name.erase, printType_erase,
    printOptValue_erase, printDirectives_erase]

theorem printVariableDefinitions_erase (c : Cfg) (ds : List VariableDefinition) :
    printVariableDefinitions c (ds.map VariableDefinition.erase) = printVariableDefinitions c ds := by
  simp [printVariableDefinitions, map_erase _ _ (printVariableDefinition_erase c)]

mutual
theorem printSelection_erase (c : Cfg) : ∀ s : Selection, printSelection c s.erase = printSelection c s
  | .field alias_ name args dirs ss _ => by
    cases alias_ <;>
      simp [printSelection, Selection.erase, Name.erase, printArguments_erase, printDirectives_erase,
        printOptSelectionSet_erase c ss]
  | .fragmentSpread name dirs _ => by simp [printSelection, Selection.erase, Name.erase, printDirectives_erase]
  | .inlineFragment tc dirs ss _ => by
    cases tc <;>
      simp [printSelection, Selection.erase, printNamedType, NamedType.erase, Name.erase, printDirectives_erase,
        printSelectionSet_erase c ss]
theorem printSelectionSet_erase (c : Cfg) : ∀ ss : SelectionSet, printSelectionSet c ss.erase = printSelectionSet c ss
  | .mk sels _ => by simp [printSelectionSet, SelectionSet.erase, printSelections_erase c sels]
theorem printOptSelectionSet_erase (c : Cfg) : ∀ o : Option SelectionSet,
    printOptSelectionSet c (eraseOptSS o) = printOptSelectionSet c o
  | none => rfl
  | some ss => by simp [printOptSelectionSet, eraseOptSS, printSelectionSet_erase c ss]
theorem printSelections_erase (c : Cfg) : ∀ ss : List Selection,
    printSelections c (eraseSelections ss) = printSelections c ss
  | [] => rfl
  | s :: ss => by simp [printSelections, eraseSelections, printSelection_erase c s, printSelections_erase c ss]
end

theorem printOperationDefinition_erase (c : Cfg) (d : OperationDefinition) :
    printOperationDefinition c d.erase = printOperationDefinition c d := by
  cases d with
  | mk op name vds dirs ss loc =>
    cases name <;>
      simp [printOperationDefinition, OperationDefinition.erase, Name.erase, printVariableDefinitions_erase,
        printDirectives_erase, printSelectionSet_erase]

theorem printFragmentDefinition_erase (c : Cfg) (d : FragmentDefinition) :
    printFragmentDefinition c d.erase = printFragmentDefinition c d := by
  simp [printFragmentDefinition, FragmentDefinition.erase, Name.erase, printNamedType, NamedType.erase,
    printVariableDefinitions_erase, printDirectives_erase, printSelectionSet_erase]

theorem withDesc_erase (c : Cfg) (f : Text) (o : Option StringValue) :
    withDesc c f (o.map StringValue.erase) = withDesc c f o := by
  cases o <;> simp [withDesc, StringValue.erase]

theorem printOperationTypeDefinition_erase (d : OperationTypeDefinition) :
    printOperationTypeDefinition d.erase = printOperationTypeDefinition d := by
  simp [printOperationTypeDefinition, OperationTypeDefinition.erase, printNamedType, NamedType.erase, Name.erase]

theorem printInputValueDefinition_erase (c : Cfg) (d : InputValueDefinition) :
    printInputValueDefinition c d.erase = printInputValueDefinition c d := by
  simp [printInputValueDefinition, InputValueDefinition.erase, Name.erase, printType_erase, printOptValue_erase,
    printDirectives_erase]

theorem printArgumentDefinitions_erase (c : Cfg) (as : List InputValueDefinition) :
    printArgumentDefinitions c (as.map InputValueDefinition.erase) = printArgumentDefinitions c as := by
  simp [printArgumentDefinitions, map_erase _ _ (printInputValueDefinition_erase c)]

theorem printFieldDefinition_erase (c : Cfg) (d : FieldDefinition) :
    printFieldDefinition c d.erase = printFieldDefinition c d := by
  simp [printFieldDefinition, FieldDefinition.erase, Name.erase, printType_erase, printArgumentDefinitions_erase,
    printDirectives_erase]

theorem printEnumValueDefinition_erase (c : Cfg) (d : EnumValueDefinition) :
    printEnumValueDefinition c d.erase = printEnumValueDefinition c d := by
  simp [printEnumValueDefinition, EnumValueDefinition.erase, Name.erase, printDirectives_erase]

theorem printNamedType_erase (t : NamedType) : printNamedType t.erase = printNamedType t := rfl
theorem printName_erase (n : Name) : printName n.erase = printName n := rfl

theorem printImplements_erase (ifs : List NamedType) : printImplements (ifs.map NamedType.erase) = printImplements ifs := by
  simp [printImplements, map_erase _ _ printNamedType_erase]
theorem printUnionMembers_erase (ts : List NamedType) : printUnionMembers (ts.map NamedType.erase) = printUnionMembers ts := by
  simp [printUnionMembers, map_erase _ _ printNamedType_erase]

theorem printDefinition_erase (c : Cfg) (x : Definition) : printDefinition c x.erase = printDefinition c x := by
  cases x with
  | operation d => simp [printDefinition, Definition.erase, printOperationDefinition_erase]
  | fragment d => simp [printDefinition, Definition.erase, printFragmentDefinition_erase]
  | _ =>
    simp [printDefinition, Definition.erase, Name.erase, withDesc_erase, printDirectives_erase, printImplements_erase,
      printUnionMembers_erase, printArgumentDefinitions_erase, map_erase _ _ printOperationTypeDefinition_erase,
      map_erase _ _ (printFieldDefinition_erase c), map_erase _ _ (printEnumValueDefinition_erase c),
      map_erase _ _ (printInputValueDefinition_erase c), map_erase _ _ printName_erase]

theorem documentEntries_erase (c : Cfg) : ∀ (acc : List Text) (ds : List Definition),
    documentEntries c acc (ds.map Definition.erase) = documentEntries c acc ds
  | acc, [] => rfl
  | acc, d :: ds => by
    simp only [List.map_cons, documentEntries, printDefinition_erase]
    exact documentEntries_erase c _ ds

theorem printDocument_erase (c : Cfg) (d : Document) : printDocument c d.erase = printDocument c d := by
  simp [printDocument, Document.erase, documentEntries_erase]

theorem stripIV_erase (d : InputValueDefinition) : stripIV d.erase = (stripIV d).erase := by
  simp [stripIV, InputValueDefinition.erase]

theorem stripFD_erase (d : FieldDefinition) : stripFD d.erase = (stripFD d).erase := by
  simp [stripFD, FieldDefinition.erase, List.map_map, Function.comp_def, stripIV_erase]

theorem stripEV_erase (d : EnumValueDefinition) : stripEV d.erase = (stripEV d).erase := by
  simp [stripEV, EnumValueDefinition.erase]

theorem stripDef_erase (x : Definition) : stripDef x.erase = (stripDef x).erase := by
  cases x <;>
    simp [stripDef, Definition.erase, List.map_map, Function.comp_def, stripFD_erase, stripEV_erase, stripIV_erase]

theorem stripMemberDescriptions_erase (d : Document) :
    stripMemberDescriptions d.erase = (stripMemberDescriptions d).erase := by
  simp [stripMemberDescriptions, Document.erase, List.map_map, Function.comp_def, stripDef_erase]

end PyGql.Print
