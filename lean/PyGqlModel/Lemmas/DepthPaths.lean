/-
  C19 — response keys determine names; `_selected_paths` lists exactly the selected paths (within `maxdepth`, matching
  the pattern): one invariant of its loop over the collected groups, on top of `Collected`.
-/
import PyGqlModel.Lemmas.DepthCollect

namespace PyGql.Depth.Lemmas
open PyGql.Depth PyGql.DepthSpec

theorem selectedPaths_succ (k : Nat) (sels : List Sel) (frags : List Frag) (vars : Vars) (md : Nat)
    (pat : List String → Bool) (path : List String) :
    selectedPaths (k + 1) sels frags vars md pat path =
      (match collectFieldsUntyped (k + 1) sels frags vars [] with
       | .error e => .error e
       | .ok (collected, _) =>
         pathsLoop (fun s p => selectedPaths k s frags vars md pat p) md pat path [] collected) := rfl

theorem pathsLoop_cons (rec : List Sel → List String → Except Err (List (List String))) (md : Nat)
    (pat : List String → Bool) (path : List String) (acc : List (List String)) (k : String) (child : Fld)
    (more : List Fld) (rest : Grouped) :
    pathsLoop rec md pat path acc ((k, child :: more) :: rest) =
      (if descend md path.length = true then
        match rec ((child :: more).flatMap (·.sub)) (path ++ [child.name]) with
        | .error e => .error e
        | .ok sub => pathsLoop rec md pat path
            ((if pat (path ++ [child.name]) = true then acc ++ [path ++ [child.name]] else acc) ++ sub) rest
      else pathsLoop rec md pat path
            (if pat (path ++ [child.name]) = true then acc ++ [path ++ [child.name]] else acc) rest) := rfl

/-! ### response keys determine field names (OverlappingFieldsCanBeMerged, in its global form) -/

mutual
def keysSel (nm : String → String) : Sel → Bool
  | .field a n _ sub => (nm (responseName a n) == n) && keysL nm sub
  | .inline _ ss => keysL nm ss
  | .spread _ _ => true
def keysL (nm : String → String) : List Sel → Bool
  | [] => true
  | s :: ss => keysSel nm s && keysL nm ss
end

theorem keysL_cons (nm : String → String) (s ss) : keysL nm (s :: ss) = (keysSel nm s && keysL nm ss) := by
  simp [keysL]

theorem keysL_eq_all (nm : String → String) (l : List Sel) : keysL nm l = l.all (keysSel nm) := by
  induction l with
  | nil => rfl
  | cons x xs ih => rw [keysL_cons, ih, List.all_cons]

theorem keysL_mem (nm : String → String) : ∀ (l : List Sel) (s : Sel), keysL nm l = true → s ∈ l → keysSel nm s = true :=
  fun l s h hs => List.all_eq_true.mp ((keysL_eq_all nm l) ▸ h) s hs

def KeysOk (nm : String → String) (f : Fld) : Prop :=
  nm (responseName f.alias f.name) = f.name ∧ keysL nm f.sub = true

section
variable (frags : List Frag) (vars : Vars) (nm : String → String)

theorem reach_keys (hfk : ∀ fr ∈ frags, keysL nm fr.sels = true) {sels : List Sel} {f : Fld}
    (hk : keysL nm sels = true) (h : Reach frags vars sels f) : KeysOk nm f := by
  obtain ⟨s, hs, hr⟩ := h
  have hks := keysL_mem nm sels s hk hs
  clear hs hk
  induction hr with
  | field a n d sub _ =>
    simp only [keysSel, Bool.and_eq_true, beq_iff_eq] at hks
    exact hks
  | inline d ss c f _ hm _ ih => exact ih (keysL_mem nm ss c hks hm)
  | spread n d fr c f _ hl hm _ ih => exact ih (keysL_mem nm fr.sels c (hfk fr (lookupFrag_some hl).1) hm)

theorem keysL_flatMap_sub (fs : List Fld) (h : ∀ f ∈ fs, keysL nm f.sub = true) :
    keysL nm (fs.flatMap (·.sub)) = true := by
  rw [keysL_eq_all, List.all_flatMap, List.all_eq_true]
  intro f hf
  rw [← keysL_eq_all]
  exact h f hf

theorem IsPath_length {sels : List Sel} {p : List String} (hp : IsPath frags vars sels p) : 1 ≤ p.length := by
  cases hp <;> simp

theorem isPath_flatMap_sub_iff {fs : List Fld} {p : List String} :
    IsPath frags vars (fs.flatMap (·.sub)) p ↔ ∃ f ∈ fs, IsPath frags vars f.sub p := by
  have key : ∀ g, Reach frags vars (fs.flatMap (·.sub)) g ↔ ∃ f ∈ fs, Reach frags vars f.sub g := fun g =>
    ⟨fun ⟨s, hs, hr⟩ => by
      obtain ⟨f, hf, hsf⟩ := List.mem_flatMap.mp hs
      exact ⟨f, hf, s, hsf, hr⟩,
     fun ⟨f, hf, s, hs, hr⟩ => ⟨s, List.mem_flatMap.mpr ⟨f, hf, hs⟩, hr⟩⟩
  constructor
  · intro h
    cases h with
    | leaf hr => obtain ⟨f, hf, hr'⟩ := (key _).mp hr; exact ⟨f, hf, .leaf hr'⟩
    | step hr hs => obtain ⟨f, hf, hr'⟩ := (key _).mp hr; exact ⟨f, hf, .step hr' hs⟩
  · rintro ⟨f, hf, h⟩
    cases h with
    | leaf hr => exact .leaf ((key _).mpr ⟨f, hf, hr⟩)
    | step hr hs => exact .step ((key _).mpr ⟨f, hf, hr⟩) hs

variable (md : Nat) (pat : List String → Bool)

/-- `x` is what `_selected_paths` lists for the field `f` under the prefix `path`: the path of `f` itself or of a field
    selected below it, within `maxdepth`, matching the pattern -/
def ListedAt (path : List String) (f : Fld) (x : List String) : Prop :=
  (md = 0 ∨ x.length ≤ md) ∧ pat x = true ∧
    (x = path ++ [f.name] ∨ ∃ p, IsPath frags vars f.sub p ∧ x = (path ++ [f.name]) ++ p)

/-- the paths the specification lists for the selections `ss` under the prefix `path` -/
def Listed (ss : List Sel) (path : List String) (x : List String) : Prop :=
  ∃ p, x = path ++ p ∧ IsPath frags vars ss p ∧ (md = 0 ∨ x.length ≤ md) ∧ pat x = true

theorem listed_iff (ss : List Sel) (path x : List String) :
    Listed frags vars md pat ss path x ↔ ∃ f, Reach frags vars ss f ∧ ListedAt frags vars md pat path f x := by
  constructor
  · rintro ⟨p, rfl, hp, hb, hpat⟩
    cases hp with
    | leaf hr => exact ⟨_, hr, hb, hpat, .inl rfl⟩
    | step hr hs => exact ⟨_, hr, hb, hpat, .inr ⟨_, hs, by rw [List.append_assoc]; rfl⟩⟩
  · rintro ⟨f, hr, hb, hpat, rfl | ⟨p, hp, rfl⟩⟩
    · exact ⟨[f.name], rfl, .leaf hr, hb, hpat⟩
    · exact ⟨f.name :: p, by rw [List.append_assoc]; rfl, .step hr hp, hb, hpat⟩

theorem descend_iff (md n : Nat) : descend md n = true ↔ md = 0 ∨ n + 1 < md := by
  simp only [descend, Bool.or_eq_true, beq_iff_eq, decide_eq_true_eq]

/-- one response-key group: what the loop has added to the accumulator when it moves on -/
theorem group_exact (path : List String) (hpre : md = 0 ∨ path.length < md) (child : Fld) (fields : List Fld)
    (hname : ∀ f ∈ fields, f.name = child.name) (hchild : child ∈ fields) (acc sub : List (List String))
    (hsub : descend md path.length = true →
      ∀ x, x ∈ sub ↔ Listed frags vars md pat (fields.flatMap (·.sub)) (path ++ [child.name]) x)
    (hno : ¬ descend md path.length = true → sub = []) (x : List String) :
    x ∈ (if pat (path ++ [child.name]) = true then acc ++ [path ++ [child.name]] else acc) ++ sub ↔
      x ∈ acc ∨ ∃ f ∈ fields, ListedAt frags vars md pat path f x := by
  -- the path of the group's field is within `maxdepth`
  have hcp : md = 0 ∨ (path ++ [child.name]).length ≤ md := by
    rw [List.length_append]
    exact hpre.imp_right fun h => h
  have hacc : x ∈ (if pat (path ++ [child.name]) = true then acc ++ [path ++ [child.name]] else acc) ↔
      x ∈ acc ∨ (x = path ++ [child.name] ∧ pat x = true) := by
    by_cases hp : pat (path ++ [child.name]) = true
    · rw [if_pos hp, List.mem_append, List.mem_singleton]
      exact or_congr_right ⟨fun h => ⟨h, h ▸ hp⟩, fun h => h.1⟩
    · rw [if_neg hp]
      exact ⟨.inl, fun h => h.elim id fun ⟨h1, h2⟩ => absurd (h1 ▸ h2) hp⟩
  have hbelow : x ∈ sub ↔ (md = 0 ∨ x.length ≤ md) ∧ pat x = true ∧
      ∃ f ∈ fields, ∃ p, IsPath frags vars f.sub p ∧ x = (path ++ [child.name]) ++ p := by
    by_cases hd : descend md path.length = true
    · rw [hsub hd x]
      constructor
      · rintro ⟨p, rfl, hp, hb, hpat⟩
        obtain ⟨f, hf, hpf⟩ := (isPath_flatMap_sub_iff frags vars).mp hp
        exact ⟨hb, hpat, f, hf, p, hpf, rfl⟩
      · rintro ⟨hb, hpat, f, hf, p, hpf, rfl⟩
        exact ⟨p, rfl, (isPath_flatMap_sub_iff frags vars).mpr ⟨f, hf, hpf⟩, hb, hpat⟩
    · -- no descent: anything below the group's field is beyond `maxdepth`
      rw [hno hd]
      constructor
      · intro h; cases h
      · rintro ⟨hb, _, f, _, p, hp, hx⟩
        have hl := congrArg List.length hx
        rw [List.length_append, List.length_append, List.length_singleton] at hl
        have hlt : path.length + 1 < x.length := hl ▸ Nat.lt_add_of_pos_right (IsPath_length frags vars hp)
        exact absurd ((descend_iff md path.length).mpr (hb.imp_right (Nat.lt_of_lt_of_le hlt))) hd
  rw [List.mem_append, hacc, hbelow, or_assoc]
  refine or_congr_right ⟨?_, ?_⟩
  · rintro (⟨rfl, hpat⟩ | ⟨hb, hpat, f, hf, p, hp, rfl⟩)
    · exact ⟨child, hchild, hcp, hpat, .inl rfl⟩
    · exact ⟨f, hf, hb, hpat, .inr ⟨p, hp, by rw [hname f hf]⟩⟩
  · rintro ⟨f, hf, hb, hpat, rfl | ⟨p, hp, rfl⟩⟩
    · exact .inl ⟨by rw [hname f hf], hpat⟩
    · exact .inr ⟨hb, hpat, f, hf, p, hp, by rw [hname f hf]⟩

theorem pathsLoop_exact (path : List String) (hpre : md = 0 ∨ path.length < md)
    (rec : List Sel → List String → Except Err (List (List String)))
    (hrec : ∀ ss q out, rec ss q = .ok out → keysL nm ss = true → (md = 0 ∨ q.length < md) →
      ∀ x, x ∈ out ↔ Listed frags vars md pat ss q x) :
    ∀ (G : Grouped) (acc out : List (List String)), pathsLoop rec md pat path acc G = .ok out → Keyed G →
      (∀ f, InG G f → KeysOk nm f) → ∀ x, x ∈ out ↔ x ∈ acc ∨ ∃ f, InG G f ∧ ListedAt frags vars md pat path f x := by
  intro G
  induction G with
  | nil =>
    intro acc out h _ _ x
    cases h
    exact ⟨.inl, fun h => h.elim id fun ⟨f, hf, _⟩ => absurd hf (InG_nil f)⟩
  | cons kv rest ih =>
    intro acc out h hg hn x
    obtain ⟨k, fields⟩ := kv
    have hhead := (hg (k, fields) (List.mem_cons_self ..)).2
    have hkeys : ∀ f ∈ fields, KeysOk nm f := fun f hf => hn f ((InG_cons _ _ _).mpr (.inl hf))
    have hrest : Keyed rest := fun kv h => hg kv (List.mem_cons_of_mem _ h)
    have hnrest : ∀ f, InG rest f → KeysOk nm f := fun f hf => hn f ((InG_cons _ _ _).mpr (.inr hf))
    cases fields with
    | nil => cases h
    | cons child more =>
      -- the fields of a group have the name that the key gives
      have hname : ∀ f ∈ child :: more, f.name = child.name := fun f hf => by
        rw [← (hkeys f hf).1, hhead f hf, ← (hkeys child (List.mem_cons_self ..)).1, hhead child (List.mem_cons_self ..)]
      rw [pathsLoop_cons] at h
      -- the accumulator the loop goes on with
      have next : ∃ sub, pathsLoop rec md pat path
            ((if pat (path ++ [child.name]) = true then acc ++ [path ++ [child.name]] else acc) ++ sub) rest = .ok out ∧
          (descend md path.length = true →
            ∀ x, x ∈ sub ↔ Listed frags vars md pat ((child :: more).flatMap (·.sub)) (path ++ [child.name]) x) ∧
          (¬ descend md path.length = true → sub = []) := by
        by_cases hd : descend md path.length = true
        · rw [if_pos hd] at h
          cases hr : rec ((child :: more).flatMap (·.sub)) (path ++ [child.name]) with
          | error e => rw [hr] at h; cases h
          | ok sub =>
            rw [hr] at h
            refine ⟨sub, h, fun _ => hrec _ _ _ hr (keysL_flatMap_sub nm (child :: more) fun f hf => (hkeys f hf).2) ?_,
              fun hn => absurd hd hn⟩
            rw [List.length_append]
            exact (descend_iff md path.length).mp hd
        · rw [if_neg hd] at h
          exact ⟨[], by rw [List.append_nil]; exact h, fun hp => absurd hp hd, fun _ => rfl⟩
      obtain ⟨sub, hnext, hsub, hno⟩ := next
      rw [ih _ out hnext hrest hnrest x,
        group_exact frags vars md pat path hpre child (child :: more) hname (List.mem_cons_self ..) acc sub hsub hno x, or_assoc]
      refine or_congr_right ⟨?_, ?_⟩
      · rintro (⟨f, hf, hl⟩ | ⟨f, hf, hl⟩)
        · exact ⟨f, (InG_cons _ _ _).mpr (.inl hf), hl⟩
        · exact ⟨f, (InG_cons _ _ _).mpr (.inr hf), hl⟩
      · rintro ⟨f, hf, hl⟩
        exact ((InG_cons _ _ _).mp hf).imp (fun h => ⟨f, h, hl⟩) fun h => ⟨f, h, hl⟩

theorem selectedPaths_exact (hfk : ∀ fr ∈ frags, keysL nm fr.sels = true) :
    ∀ (k : Nat) (sels : List Sel) (path : List String) (out : List (List String)),
      selectedPaths k sels frags vars md pat path = .ok out → keysL nm sels = true →
      (md = 0 ∨ path.length < md) → ∀ x, x ∈ out ↔ Listed frags vars md pat sels path x := by
  intro k
  induction k with
  | zero => intro sels path out h; cases h
  | succ k ih =>
    intro sels path out h hk hpre x
    rw [selectedPaths_succ] at h
    cases hc : collectFieldsUntyped (k + 1) sels frags vars [] with
    | error e => rw [hc] at h; cases h
    | ok r =>
      obtain ⟨G, S'⟩ := r
      rw [hc] at h
      have hC := collect_strict frags vars hc
      rw [pathsLoop_exact frags vars nm md pat path hpre _ ih G [] out h hC.2.2.2
        (fun f hf => reach_keys frags vars nm hfk hk (hC.1 f hf)) x, listed_iff]
      exact ⟨fun h => h.elim (fun h => nomatch h) fun ⟨f, hf, hl⟩ => ⟨f, hC.1 f hf, hl⟩,
        fun ⟨f, hf, hl⟩ => .inr ⟨f, (hC.top frags vars f).mpr hf, hl⟩⟩

end

end PyGql.Depth.Lemmas
