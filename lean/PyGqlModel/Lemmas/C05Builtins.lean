/-
  C05 — `withBuiltins`: the schema description with the five built-in scalars listed (the form the bridge theorems and the
  evaluated `schema_checks` speak about) is READ IDENTICALLY by every accessor of the executor model: `kindOf`,
  `fieldOf`, `possibleTypes`, `isPossibleType`, `rootType`, `serializeLeaf` - every way `Exec.lean` reads the schema. (The executor treats a missing built-in as a scalar:
  `Exec.kindOf`.) So the executor-side schema checks have the same value on both descriptions.
-/
import PyGqlModel.Spec.SchemaChecks
import PyGqlModel.Exec

set_option linter.unusedSimpArgs false

namespace PyGql.Props.C05
open PyGql PyGql.Exec PyGql.Spec

private def mkScalar (n : String) : TypeD := { kind := .scalar, name := n }

private theorem find_extra (L : List String) (p : String → Bool) (n : String) :
    ((L.filter p).map mkScalar).find? (·.name == n) = if n ∈ L ∧ p n = true then some (mkScalar n) else none := by
  induction L with
  | nil => simp
  | cons a rest ih =>
    by_cases hp : p a = true
    · by_cases ha : a = n
      · subst ha; simp [List.filter_cons, hp, mkScalar]
      · have h1 : ¬ n = a := fun h => ha h.symm
        have hne : ((mkScalar a).name == n) = false := by simpa [mkScalar] using ha
        simp only [List.filter_cons, hp, if_true, List.map_cons, List.find?_cons, hne, ih, List.mem_cons, h1, false_or]
    · simp only [List.filter_cons, hp, Bool.false_eq_true, if_false, ih, List.mem_cons]
      by_cases ha : n = a
      · subst ha; simp [hp]
      · simp [ha]

theorem findType_withBuiltins (s : SchemaD) (n : String) :
    (withBuiltins s).findType n =
      match s.findType n with
      | some t => some t
      | none => if n ∈ builtinScalars then some { kind := .scalar, name := n } else none := by
  have hx := find_extra builtinScalars (fun m => (s.findType m).isNone) n
  have hdef : (withBuiltins s).findType n
      = (s.findType n).or (((builtinScalars.filter fun m => (s.findType m).isNone).map mkScalar).find? (·.name == n)) := by
    show (s.types ++ _).find? _ = _
    rw [List.find?_append]
    rfl
  rw [hdef, hx]
  cases h : s.findType n with
  | some t => simp
  | none => simp [mkScalar]

theorem kindOf_withBuiltins (s : SchemaD) (n : String) : kindOf (withBuiltins s) n = kindOf s n := by
  unfold kindOf
  rw [findType_withBuiltins]
  cases h : s.findType n with
  | some t => simp
  | none =>
    by_cases hb : n ∈ builtinScalars
    · simp [hb]
    · simp [hb]

theorem fieldOf_withBuiltins (s : SchemaD) (T f : String) : fieldOf (withBuiltins s) T f = fieldOf s T f := by
  unfold fieldOf
  rw [findType_withBuiltins]
  cases h : s.findType T with
  | some t => simp
  | none =>
    by_cases hb : T ∈ builtinScalars
    · simp [hb]
    · simp [hb]

private theorem extra_no_objects (s : SchemaD) (n : String) :
    (((builtinScalars.filter fun m => (s.findType m).isNone).map mkScalar).filter fun o => o.kind == .object && o.interfaces.contains n) = [] := by
  rw [List.filter_eq_nil_iff]
  intro o ho
  simp only [List.mem_map] at ho
  obtain ⟨m, _, rfl⟩ := ho
  simp [mkScalar]

theorem possibleTypes_withBuiltins (s : SchemaD) (n : String) : possibleTypes (withBuiltins s) n = possibleTypes s n := by
  unfold possibleTypes
  rw [findType_withBuiltins]
  have htypes : (withBuiltins s).types = s.types ++ (builtinScalars.filter fun m => (s.findType m).isNone).map mkScalar := rfl
  cases h : s.findType n with
  | some t =>
    simp only []
    cases t.kind <;> simp only []
    rw [htypes, List.filter_append, extra_no_objects, List.append_nil]
  | none =>
    by_cases hb : n ∈ builtinScalars
    · simp [hb]
    · simp [hb]

theorem isPossibleType_withBuiltins (s : SchemaD) (a o : String) : isPossibleType (withBuiltins s) a o = isPossibleType s a o := by
  unfold isPossibleType
  rw [kindOf_withBuiltins, possibleTypes_withBuiltins]

theorem rootType_withBuiltins (s : SchemaD) (k : String) : rootType (withBuiltins s) k = rootType s k := rfl

/-- the five specified scalars are serialised by their own rules whether or not the description lists them
    (`Exec.serializeLeaf` tests the five names first) -/
theorem serializeLeaf_withBuiltins (s : SchemaD) (n : String) (j : J) : serializeLeaf (withBuiltins s) n j = serializeLeaf s n j := by
  unfold serializeLeaf
  by_cases h1 : n = "Int"
  · simp [h1]
  by_cases h2 : n = "Float"
  · simp [h2]
  by_cases h3 : n = "String"
  · simp [h3]
  by_cases h4 : n = "Boolean"
  · simp [h4]
  by_cases h5 : n = "ID"
  · simp [h5]
  have hb : n ∉ builtinScalars := by simp [builtinScalars, h1, h2, h3, h4, h5]
  simp only [beq_iff_eq, h1, h2, h3, h4, h5, if_false]
  rw [findType_withBuiltins]
  cases h : s.findType n with
  | some t => simp
  | none => simp [hb]

private theorem all_extra (s : SchemaD) (f : TypeD → Bool) (hf : ∀ t : TypeD, t.fields = [] → f t = true) :
    (withBuiltins s).types.all f = s.types.all f := by
  have htypes : (withBuiltins s).types = s.types ++ (builtinScalars.filter fun m => (s.findType m).isNone).map mkScalar := rfl
  rw [htypes, List.all_append]
  have : ((builtinScalars.filter fun m => (s.findType m).isNone).map mkScalar).all f = true := by
    rw [List.all_eq_true]
    intro t ht
    simp only [List.mem_map] at ht
    obtain ⟨m, _, rfl⟩ := ht
    exact hf _ rfl
  rw [this, Bool.and_true]

/-- the description the driver executes, and the one (with the built-in scalars listed) the bridge theorems speak about -/
theorem schemaChecksExec_withBuiltins (s : SchemaD) : schemaChecksExecB (withBuiltins s) = schemaChecksExecB s := by
  unfold schemaChecksExecB schemaKindsB schemaCovB typesWfB subUnderB underB
  simp only [kindOf_withBuiltins, fieldOf_withBuiltins, possibleTypes_withBuiltins, isPossibleType_withBuiltins]
  rw [all_extra s _ (by intro t ht; simp [ht]), all_extra s _ (by intro t ht; simp [ht]), all_extra s _ (by intro t ht; simp [ht])]

end PyGql.Props.C05
