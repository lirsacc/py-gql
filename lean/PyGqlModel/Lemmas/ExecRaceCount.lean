/-
  C08 — the race machines count their workers by program counter (`countStart`, `countLoaded`, `cntStart`, `cntHold`).
  Each of these counters is a sum of per-entry weights; what a step of one worker does to such a sum is proved here once.
-/
namespace PyGql.Props.C08

/-- `c` sums a weight over the entries of a list; `c [a]` is the weight of `a` -/
structure Additive {α : Type} (c : List α → Nat) : Prop where
  nil : c [] = 0
  cons : ∀ a r, c (a :: r) = c [a] + c r

namespace Additive
variable {α : Type} {c : List α → Nat}

theorem set (hc : Additive c) {l : List α} {i : Nat} {y : α} (x : α) (h : l[i]? = some y) :
    c (l.set i x) + c [y] = c l + c [x] := by
  induction l generalizing i with
  | nil => cases h
  | cons a r ih =>
    cases i with
    | zero =>
      cases h
      rw [List.set_cons_zero, hc.cons x r, hc.cons y r, Nat.add_right_comm, Nat.add_right_comm (c [y]), Nat.add_comm (c [x])]
    | succ j =>
      rw [List.getElem?_cons_succ] at h
      rw [List.set_cons_succ, hc.cons a (r.set j x), hc.cons a r, Nat.add_assoc, ih h, Nat.add_assoc]

theorem replicate (hc : Additive c) (n : Nat) (a : α) : c (List.replicate n a) = n * c [a] := by
  induction n with
  | zero => rw [List.replicate_zero, hc.nil, Nat.zero_mul]
  | succ k ih => rw [List.replicate_succ, hc.cons, ih, Nat.succ_mul, Nat.add_comm]

theorem eq_zero (hc : Additive c) {l : List α} (h : ∀ a ∈ l, c [a] = 0) : c l = 0 := by
  induction l with
  | nil => exact hc.nil
  | cons a r ih =>
    rw [hc.cons, h a (List.mem_cons_self ..), ih fun b hb => h b (List.mem_cons_of_mem _ hb)]

end Additive
end PyGql.Props.C08
