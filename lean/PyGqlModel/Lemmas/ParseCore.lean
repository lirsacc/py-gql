/-
  Under the parser proofs: inversion of the parser monad and of the primitives
  (`peek / advance / expect / expect_keyword / skip / _loc`), their evaluation on a known head token, and, for the
  matcher `Item.check` of `Spec/Grammar.lean`: its equations, `check_spans` (what the matcher accepts is in the
  declarative relation `Spans`), `spans_yield` (a derivation consumes the canonical yield, in order) and its consequence
  `check_width` (the yield is no longer than what was consumed, which bounds the fuel).
-/
import PyGqlModel.ParseDoc
import PyGqlModel.Spec.Grammar
namespace PyGql.Parse
open PyGql PyGql.Ast PyGql.Spec

theorem bind_ok {α β} (m : P α) (f : α → P β) (s : PS) (r : β × PS) :
    (m >>= f) s = .ok r ↔ ∃ a s1, m s = .ok (a, s1) ∧ f a s1 = .ok r := by
  show (match m s with | .ok (a, s') => f a s' | .error e => .error e) = _ ↔ _
  cases h : m s with
  | error e => simp
  | ok p =>
    rcases p with ⟨a, s1⟩
    constructor
    · intro h2; exact ⟨a, s1, rfl, h2⟩
    · rintro ⟨a', s1', h1, h2⟩; cases h1; exact h2

theorem pure_ok {α} (a : α) (s : PS) (r : α × PS) : (pure a : P α) s = .ok r ↔ r = (a, s) := by
  show Except.ok (a, s) = Except.ok r ↔ _
  constructor
  · intro h; cases h; rfl
  · intro h; rw [h]

theorem fail_ok {α} (msg : String) (s : PS) (r : α × PS) : (fail msg : P α) s = .ok r ↔ False := by
  simp only [fail]; split <;> simp

theorem failTok_ok {α} (msg : String) (s : PS) (r : α × PS) : (failTok msg : P α) s = .ok r ↔ False := by
  simp only [failTok]; split <;> simp

theorem failAt_ok {α} (t : Tok) (msg : String) (s : PS) (r : α × PS) : (failAt t msg : P α) s = .ok r ↔ False := by
  simp [failAt]

theorem failTokAt_ok {α} (t : Tok) (msg : String) (s : PS) (r : α × PS) :
    (failTokAt t msg : P α) s = .ok r ↔ False := by
  simp [failTokAt]

theorem ite_ok {α} (c : Prop) [Decidable c] (a b : P α) (s : PS) (r : α × PS) :
    (if c then a else b) s = .ok r ↔ (c ∧ a s = .ok r) ∨ (¬ c ∧ b s = .ok r) := by
  by_cases h : c <;> simp [h]

theorem peek_ok (s : PS) (t : Tok) (s' : PS) :
    peek s = .ok (t, s') ↔ ∃ ts, s.toks = t :: ts ∧ s' = s := by
  rcases s with ⟨_ | ⟨t0, ts⟩, l⟩ <;> simp [peek] <;> grind

theorem peek2_ok (s : PS) (t : Tok) (s' : PS) :
    peek2 s = .ok (t, s') ↔ ∃ t0 ts, s.toks = t0 :: t :: ts ∧ s' = s := by
  rcases s with ⟨_ | ⟨t0, _ | ⟨t1, ts⟩⟩, l⟩ <;> simp [peek2] <;> grind

theorem advance_ok (s : PS) (t : Tok) (s' : PS) :
    advance s = .ok (t, s') ↔ ∃ ts, s.toks = t :: ts ∧ s' = ⟨ts, t⟩ := by
  rcases s with ⟨_ | ⟨t0, ts⟩, l⟩ <;> simp [advance] <;> grind

theorem expect_ok (k : TokKind) (s : PS) (t : Tok) (s' : PS) :
    expect k s = .ok (t, s') ↔ ∃ ts, s.toks = t :: ts ∧ t.kind = k ∧ s' = ⟨ts, t⟩ := by
  simp only [expect, bind_ok, peek_ok, ite_ok, advance_ok, failTok_ok]
  constructor
  · rintro ⟨a, s1, ⟨ts, h1, rfl⟩, h2⟩
    rcases h2 with ⟨hk, ts', h3, rfl⟩ | ⟨_, h⟩
    · rw [h1] at h3; cases h3; exact ⟨ts, h1, hk, rfl⟩
    · exact h.elim
  · rintro ⟨ts, h1, hk, rfl⟩
    exact ⟨t, s, ⟨ts, h1, rfl⟩, Or.inl ⟨hk, ts, h1, rfl⟩⟩

theorem expectKeyword_ok (kw : Text) (s : PS) (t : Tok) (s' : PS) :
    expectKeyword kw s = .ok (t, s') ↔ ∃ ts, s.toks = t :: ts ∧ t.kind = .name ∧ t.value = kw ∧ s' = ⟨ts, t⟩ := by
  simp only [expectKeyword, bind_ok, peek_ok, ite_ok, advance_ok, failTok_ok]
  constructor
  · rintro ⟨a, s1, ⟨ts, h1, rfl⟩, h2⟩
    rcases h2 with ⟨⟨hk, hv⟩, ts', h3, rfl⟩ | ⟨_, h⟩
    · rw [h1] at h3; cases h3; exact ⟨ts, h1, hk, hv, rfl⟩
    · exact h.elim
  · rintro ⟨ts, h1, hk, hv, rfl⟩
    exact ⟨t, s, ⟨ts, h1, rfl⟩, Or.inl ⟨⟨hk, hv⟩, ts, h1, rfl⟩⟩

theorem skip_ok (k : TokKind) (s : PS) (b : Bool) (s' : PS) :
    skip k s = .ok (b, s') ↔
      ∃ t ts, s.toks = t :: ts ∧ ((t.kind = k ∧ b = true ∧ s' = ⟨ts, t⟩) ∨ (t.kind ≠ k ∧ b = false ∧ s' = s)) := by
  simp only [skip, bind_ok, peek_ok, ite_ok, advance_ok, pure_ok]
  constructor
  · rintro ⟨a, s1, ⟨ts, h1, rfl⟩, h2⟩
    rcases h2 with ⟨hk, a', s2, ⟨ts', h3, rfl⟩, h4⟩ | ⟨hk, h⟩
    · rw [h1] at h3; cases h3; cases h4; exact ⟨a, ts, h1, Or.inl ⟨hk, rfl, rfl⟩⟩
    · cases h; exact ⟨a, ts, h1, Or.inr ⟨hk, rfl, rfl⟩⟩
  · rintro ⟨t, ts, h1, h⟩
    refine ⟨t, s, ⟨ts, h1, rfl⟩, ?_⟩
    rcases h with ⟨hk, rfl, rfl⟩ | ⟨hk, rfl, rfl⟩
    · exact Or.inl ⟨hk, t, _, ⟨ts, h1, rfl⟩, rfl⟩
    · exact Or.inr ⟨hk, rfl⟩

theorem mkLoc_ok (fl : Flags) (st : Tok) (s : PS) (loc : Loc) (s' : PS) :
    mkLoc fl st s = .ok (loc, s') ↔ loc = locOf fl st s.last ∧ s' = s := by
  simp [mkLoc]; grind

theorem bind_inv {α β} {m : P α} {f : α → P β} {s : PS} {r : β × PS} (h : (m >>= f) s = .ok r) :
    ∃ a s1, m s = .ok (a, s1) ∧ f a s1 = .ok r := (bind_ok ..).1 h

theorem peek_bind {β} {f : Tok → P β} {s : PS} {r : β × PS} (h : (peek >>= f) s = .ok r) :
    ∃ t ts, s.toks = t :: ts ∧ f t s = .ok r := by
  obtain ⟨t, s1, hp, hf⟩ := bind_inv h
  obtain ⟨ts, h1, rfl⟩ := (peek_ok ..).1 hp
  exact ⟨t, ts, h1, hf⟩

theorem expect_bind {β} {k : TokKind} {f : Tok → P β} {s : PS} {r : β × PS} (h : (expect k >>= f) s = .ok r) :
    ∃ t ts, s.toks = t :: ts ∧ t.kind = k ∧ f t ⟨ts, t⟩ = .ok r := by
  obtain ⟨t, s1, hp, hf⟩ := bind_inv h
  obtain ⟨ts, h1, hk, rfl⟩ := (expect_ok ..).1 hp
  exact ⟨t, ts, h1, hk, hf⟩

theorem expectKeyword_bind {β} {kw : Text} {f : Tok → P β} {s : PS} {r : β × PS}
    (h : (expectKeyword kw >>= f) s = .ok r) :
    ∃ t ts, s.toks = t :: ts ∧ t.kind = .name ∧ t.value = kw ∧ f t ⟨ts, t⟩ = .ok r := by
  obtain ⟨t, s1, hp, hf⟩ := bind_inv h
  obtain ⟨ts, h1, hk, hv, rfl⟩ := (expectKeyword_ok ..).1 hp
  exact ⟨t, ts, h1, hk, hv, hf⟩

theorem ite_inv {α} {c : Prop} [Decidable c] {a b : P α} {s : PS} {r : α × PS}
    (h : (if c then a else b) s = .ok r) : (c ∧ a s = .ok r) ∨ (¬ c ∧ b s = .ok r) := (ite_ok ..).1 h

theorem bind_eq {α β} (m : P α) (f : α → P β) (s : PS) :
    (m >>= f) s = match m s with | .ok (a, s') => f a s' | .error e => .error e := rfl

theorem pure_eq {α} (a : α) (s : PS) : (pure a : P α) s = .ok (a, s) := rfl

theorem peek_cons (t : Tok) (ts : List Tok) (l : Tok) : peek ⟨t :: ts, l⟩ = .ok (t, ⟨t :: ts, l⟩) := rfl

theorem peek2_cons (t0 t : Tok) (ts : List Tok) (l : Tok) : peek2 ⟨t0 :: t :: ts, l⟩ = .ok (t, ⟨t0 :: t :: ts, l⟩) := rfl

theorem advance_cons (t : Tok) (ts : List Tok) (l : Tok) : advance ⟨t :: ts, l⟩ = .ok (t, ⟨ts, t⟩) := rfl

theorem skip_pos {k : TokKind} {t : Tok} (h : t.kind = k) (ts : List Tok) (l : Tok) :
    skip k ⟨t :: ts, l⟩ = .ok (true, ⟨ts, t⟩) := by
  simp [skip, bind_eq, peek_cons, h, advance_cons, pure_eq]

theorem skip_neg {k : TokKind} {t : Tok} (h : t.kind ≠ k) (ts : List Tok) (l : Tok) :
    skip k ⟨t :: ts, l⟩ = .ok (false, ⟨t :: ts, l⟩) := by
  simp [skip, bind_eq, peek_cons, h, pure_eq]

theorem expect_pos {k : TokKind} {t : Tok} (h : t.kind = k) (ts : List Tok) (l : Tok) :
    expect k ⟨t :: ts, l⟩ = .ok (t, ⟨ts, t⟩) := by
  simp [expect, bind_eq, peek_cons, h, advance_cons]

theorem expectKeyword_pos {kw : Text} {t : Tok} (h : t.kind = .name) (hv : t.value = kw) (ts : List Tok) (l : Tok) :
    expectKeyword kw ⟨t :: ts, l⟩ = .ok (t, ⟨ts, t⟩) := by
  simp [expectKeyword, bind_eq, peek_cons, h, hv, advance_cons]

theorem mkLoc_eq (fl : Flags) (st : Tok) (s : PS) : mkLoc fl st s = .ok (locOf fl st s.last, s) := rfl

theorem cls_kind {t : Tok} {k : TokKind} {v : Text} (h : cls t = (k, v)) : t.kind = k :=
  congrArg Prod.fst h

theorem cls_value {t : Tok} {k : TokKind} {v : Text} (h : cls t = (k, v)) (hv : hasValue k = true) : t.value = v := by
  have e := congrArg Prod.snd h
  rwa [cls, cls_kind h, hv, if_pos rfl] at e

theorem cls_const {t : Tok} {k : TokKind} (h : t.kind = k) (hv : hasValue k = false) : cls t = (k, []) := by
  subst h; simp [cls, hv]

theorem cls_kw {t : Tok} {v : Text} (hk : t.kind = .name) (hv : t.value = v) : cls t = (.name, v) := by
  simp [cls, hk, hasValue, hv]

theorem cls_name {t : Tok} (h : t.kind = .name) : cls t = (.name, t.value) := cls_kw h rfl

theorem cls_kw_inv {t : Tok} {v : Text} (hc : cls t = (.name, v)) : t.kind = .name ∧ t.value = v :=
  ⟨cls_kind hc, cls_value hc rfl⟩

theorem bind_run {α β} {m : P α} {f : α → P β} {s s1 : PS} {a : α} {r : Except SynErr (β × PS)}
    (h1 : m s = .ok (a, s1)) (h2 : f a s1 = r) : (m >>= f) s = r := by
  rw [bind_eq, h1]
  exact h2

end PyGql.Parse

namespace PyGql.Spec
open PyGql PyGql.Ast PyGql.Parse

theorem check_tok (fl : Flags) (k : TokKind) (v : Text) (l l' : Tok) (ts rest : List Tok) :
    (Item.tok k v).check fl l ts = some (l', rest) ↔ ∃ t, ts = t :: rest ∧ cls t = (k, v) ∧ l' = t := by
  rcases ts with _ | ⟨t, tl⟩
  · simp [Item.check]
  · simp only [Item.check]
    split <;> grind

theorem check_optTok (fl : Flags) (k : TokKind) (v : Text) (l l' : Tok) (ts rest : List Tok) :
    (Item.optTok k v).check fl l ts = some (l', rest) ↔
      (∃ t, ts = t :: rest ∧ cls t = (k, v) ∧ l' = t) ∨
      (l' = l ∧ rest = ts ∧ ∀ t tl, ts = t :: tl → cls t ≠ (k, v)) := by
  rcases ts with _ | ⟨t, tl⟩
  · simp [Item.check]; grind
  · simp only [Item.check]
    split <;> grind

theorem check_nla (fl : Flags) (k : TokKind) (l l' : Tok) (ts rest : List Tok) :
    (Item.nla k).check fl l ts = some (l', rest) ↔
      (l' = l ∧ rest = ts ∧ ∀ t tl, ts = t :: tl → t.kind ≠ k) := by
  rcases ts with _ | ⟨t, tl⟩
  · simp [Item.check]; grind
  · simp only [Item.check]
    split <;> grind

theorem check_node (fl : Flags) (loc : Loc) (is : List Item) (l l' : Tok) (ts rest : List Tok) :
    (Item.node loc is).check fl l ts = some (l', rest) ↔
      ∃ f tl, ts = f :: tl ∧ Item.checkAll fl is l ts = some (l', rest) ∧ loc = locOf fl f l' := by
  rcases ts with _ | ⟨t, tl⟩
  · simp [Item.check]
  · simp only [Item.check]
    cases h : Item.checkAll fl is l (t :: tl) with
    | none => simp
    | some r => rcases r with ⟨a, b⟩; simp; grind

theorem checkAll_nil (fl : Flags) (l : Tok) (ts : List Tok) (r : Tok × List Tok) :
    Item.checkAll fl [] l ts = some r ↔ r = (l, ts) := by
  rw [Item.checkAll, Option.some.injEq, eq_comm]

theorem checkAll_cons (fl : Flags) (i : Item) (is : List Item) (l : Tok) (ts : List Tok) (r : Tok × List Tok) :
    Item.checkAll fl (i :: is) l ts = some r ↔
      ∃ l1 ts1, i.check fl l ts = some (l1, ts1) ∧ Item.checkAll fl is l1 ts1 = some r := by
  rw [Item.checkAll]
  cases i.check fl l ts with
  | none => simp
  | some p =>
    obtain ⟨a, b⟩ := p
    exact ⟨fun h => ⟨a, b, rfl, h⟩, fun ⟨_, _, e, h⟩ => by cases e; exact h⟩

theorem check_leaf (fl : Flags) (loc : Loc) (k : TokKind) (v : Text) (l l' : Tok) (ts rest : List Tok) :
    (Item.node loc [.tok k v]).check fl l ts = some (l', rest) ↔
      ∃ t, ts = t :: rest ∧ cls t = (k, v) ∧ l' = t ∧ loc = locOf fl t t := by
  simp only [check_node, checkAll_cons, checkAll_nil, check_tok]
  constructor
  · rintro ⟨f, tl, rfl, ⟨l1, ts1, ⟨t, e, hc, rfl⟩, hfin⟩, rfl⟩
    cases e; cases hfin
    exact ⟨_, rfl, hc, rfl, rfl⟩
  · rintro ⟨t, rfl, hc, rfl, rfl⟩
    exact ⟨_, _, rfl, ⟨_, _, ⟨_, rfl, hc, rfl⟩, rfl⟩, rfl⟩

theorem node_first {fl : Flags} {loc : Loc} {k : TokKind} {v : Text} {is : List Item} {l : Tok} {ts : List Tok}
    {r : Tok × List Tok} (h : (Item.node loc (.tok k v :: is)).check fl l ts = some r) :
    ∃ t tl, ts = t :: tl ∧ t.kind = k := by
  rcases r with ⟨l', rest⟩
  simp only [check_node, checkAll_cons, check_tok] at h
  obtain ⟨f, tl, rfl, ⟨l1, ts1, ⟨t, e, hc, _⟩, _⟩, _⟩ := h
  cases e
  exact ⟨_, _, rfl, cls_kind hc⟩

theorem checkAll_append (fl : Flags) (is1 is2 : List Item) (l : Tok) (ts : List Tok) (r : Tok × List Tok) :
    Item.checkAll fl (is1 ++ is2) l ts = some r ↔
      ∃ l1 ts1, Item.checkAll fl is1 l ts = some (l1, ts1) ∧ Item.checkAll fl is2 l1 ts1 = some r := by
  induction is1 generalizing l ts with
  | nil => exact ⟨fun h => ⟨l, ts, rfl, h⟩, fun ⟨_, _, e, h⟩ => by cases e; exact h⟩
  | cons i is ih =>
    simp only [List.cons_append, checkAll_cons, ih]
    constructor
    · rintro ⟨a, b, h1, c, d, h2, h3⟩
      exact ⟨c, d, ⟨a, b, h1, h2⟩, h3⟩
    · rintro ⟨c, d, ⟨a, b, h1, h2⟩, h3⟩
      exact ⟨a, b, h1, c, d, h2, h3⟩


/-! The matcher's equations come in two spellings: `check_tok`, `check_node`, `checkAll_cons`, … are iffs, for taking a
    match apart (completeness); `chk_tok`, `chk_node`, `chkA_cons`, … are their right-to-left halves with the witnesses
    implicit, for building a match as a term (soundness). -/

theorem chk_tok {fl : Flags} {k : TokKind} {v : Text} {l t : Tok} {ts rest : List Tok}
    (h : ts = t :: rest) (hc : cls t = (k, v)) : (Item.tok k v).check fl l ts = some (t, rest) := by
  subst h; simp [Item.check, hc]

theorem chkA_cons {fl : Flags} {i : Item} {is : List Item} {l l1 : Tok} {ts ts1 : List Tok} {r : Tok × List Tok}
    (h1 : i.check fl l ts = some (l1, ts1)) (h2 : Item.checkAll fl is l1 ts1 = some r) :
    Item.checkAll fl (i :: is) l ts = some r := (checkAll_cons ..).2 ⟨_, _, h1, h2⟩

theorem chkA_app {fl : Flags} {is1 is2 : List Item} {l l1 : Tok} {ts ts1 : List Tok} {r : Tok × List Tok}
    (h1 : Item.checkAll fl is1 l ts = some (l1, ts1)) (h2 : Item.checkAll fl is2 l1 ts1 = some r) :
    Item.checkAll fl (is1 ++ is2) l ts = some r := (checkAll_append ..).2 ⟨_, _, h1, h2⟩

theorem chkA_nil {fl : Flags} {l : Tok} {ts : List Tok} : Item.checkAll fl [] l ts = some (l, ts) := rfl

theorem chkA_one {fl : Flags} {i : Item} {l : Tok} {ts : List Tok} {r : Tok × List Tok}
    (h : i.check fl l ts = some r) : Item.checkAll fl [i] l ts = some r := by
  rcases r with ⟨a, b⟩; exact chkA_cons h chkA_nil

theorem chk_node {fl : Flags} {is : List Item} {l l' f : Tok} {ts tl rest : List Tok} (h : ts = f :: tl)
    (hall : Item.checkAll fl is l ts = some (l', rest)) :
    (Item.node (locOf fl f l') is).check fl l ts = some (l', rest) := (check_node ..).2 ⟨f, tl, h, hall, rfl⟩


theorem lastOf_nil (l : Tok) : Item.lastOf l [] = l := rfl
theorem lastOf_cons (l t : Tok) (ts : List Tok) : Item.lastOf l (t :: ts) = Item.lastOf t ts := by
  cases ts with
  | nil => simp [Item.lastOf]
  | cons h tl =>
    simp only [Item.lastOf, List.getLast?_cons_cons]
    cases hh : (h :: tl).getLast? with
    | none => simp at hh
    | some x => rfl
theorem lastOf_append (l : Tok) (p1 p2 : List Tok) :
    Item.lastOf l (p1 ++ p2) = Item.lastOf (Item.lastOf l p1) p2 := by
  induction p1 generalizing l with
  | nil => rfl
  | cons t ts ih => simp only [List.cons_append, lastOf_cons, ih]

mutual
theorem check_spans (fl : Flags) : ∀ (i : Item) (l l' : Tok) (ts rest : List Tok),
    i.check fl l ts = some (l', rest) →
    ∃ pre, ts = pre ++ rest ∧ Item.Spans fl i pre ∧ l' = Item.lastOf l pre
  | .tok k v, l, l', ts, rest, h => by
    rw [check_tok] at h
    obtain ⟨t, rfl, hc, hl⟩ := h
    subst hl
    exact ⟨[_], rfl, .tok hc, by simp [Item.lastOf]⟩
  | .optTok k v, l, l', ts, rest, h => by
    rw [check_optTok] at h
    rcases h with ⟨t, rfl, hc, hl⟩ | ⟨rfl, rfl, _⟩
    · subst hl
      exact ⟨[_], rfl, .optSome hc, by simp [Item.lastOf]⟩
    · exact ⟨[], rfl, .optNone, rfl⟩
  | .nla k, l, l', ts, rest, h => by
    rw [check_nla] at h
    obtain ⟨rfl, rfl, _⟩ := h
    exact ⟨[], rfl, .nla, rfl⟩
  | .node loc is, l, l', ts, rest, h => by
    rw [check_node] at h
    obtain ⟨f, tl, rfl, hall, hloc⟩ := h
    obtain ⟨pre, hpre, hs, hl⟩ := checkAll_spans fl is l l' (f :: tl) rest hall
    cases pre with
    | nil => exact ⟨[], hpre, .nodeEmpty hs, hl⟩
    | cons f' tl' =>
      simp only [List.cons_append, List.cons.injEq] at hpre
      obtain ⟨rfl, rfl⟩ := hpre
      refine ⟨f :: tl', rfl, .node hs ?_, hl⟩
      rw [hloc, hl, lastOf_cons, lastOf_cons]
theorem checkAll_spans (fl : Flags) : ∀ (is : List Item) (l l' : Tok) (ts rest : List Tok),
    Item.checkAll fl is l ts = some (l', rest) →
    ∃ pre, ts = pre ++ rest ∧ Item.SpansAll fl is pre ∧ l' = Item.lastOf l pre
  | [], l, l', ts, rest, h => by
    rw [checkAll_nil] at h
    cases h
    exact ⟨[], rfl, .nil, rfl⟩
  | i :: is, l, l', ts, rest, h => by
    rw [checkAll_cons] at h
    obtain ⟨l1, ts1, h1, h2⟩ := h
    obtain ⟨p1, rfl, s1, rfl⟩ := check_spans fl i l l1 ts ts1 h1
    obtain ⟨p2, rfl, s2, rfl⟩ := checkAll_spans fl is _ l' ts1 rest h2
    exact ⟨p1 ++ p2, by simp, .cons s1 s2, by rw [lastOf_append]⟩
end

mutual
/-- `Sublist`, not equality: an optional token that is present is consumed but not yielded -/
theorem spans_yield {fl : Flags} : ∀ {i : Item} {pre : List Tok}, Item.Spans fl i pre → i.yield.Sublist (classes pre)
  | _, _, .tok h => by simp [Item.yield, classes, h]
  | _, _, .optSome _ => by simp [Item.yield]
  | _, _, .optNone => by simp [Item.yield]
  | _, _, .nla => by simp [Item.yield]
  | _, _, .node h _ => by simpa [Item.yield] using spansAll_yield h
  | _, _, .nodeEmpty h => by simpa [Item.yield] using spansAll_yield h
theorem spansAll_yield {fl : Flags} : ∀ {is : List Item} {pre : List Tok}, Item.SpansAll fl is pre →
    (Item.yieldAll is).Sublist (classes pre)
  | _, _, .nil => by simp [Item.yieldAll, classes]
  | _, _, .cons h1 h2 => by
    simp only [Item.yieldAll, classes, List.map_append]
    exact (spans_yield h1).append (spansAll_yield h2)
end

theorem check_width (fl : Flags) : ∀ (i : Item) (l l' : Tok) (ts rest : List Tok),
    i.check fl l ts = some (l', rest) → i.yield.length + rest.length ≤ ts.length := by
  intro i l l' ts rest h
  obtain ⟨pre, rfl, hs, _⟩ := check_spans fl i l l' ts rest h
  have := (spans_yield hs).length_le
  simp only [classes, List.length_map] at this
  simp only [List.length_append]
  omega

theorem checkAll_width (fl : Flags) : ∀ (is : List Item) (l l' : Tok) (ts rest : List Tok),
    Item.checkAll fl is l ts = some (l', rest) → (Item.yieldAll is).length + rest.length ≤ ts.length := by
  intro is l l' ts rest h
  obtain ⟨pre, rfl, hs, _⟩ := checkAll_spans fl is l l' ts rest h
  have := (spansAll_yield hs).length_le
  simp only [classes, List.length_map] at this
  simp only [List.length_append]
  omega

theorem check_yield_le {fl : Flags} {i : Item} {l l' : Tok} {ts rest : List Tok}
    (h : i.check fl l ts = some (l', rest)) : i.yield.length ≤ ts.length := by
  have := check_width fl i l l' ts rest h; omega

theorem check_len {fl : Flags} {i : Item} {l l' : Tok} {ts rest : List Tok}
    (h : i.check fl l ts = some (l', rest)) : rest.length ≤ ts.length := by
  obtain ⟨pre, rfl, _⟩ := check_spans fl i l l' ts rest h
  exact List.length_append ▸ Nat.le_add_left ..

theorem checkAll_len {fl : Flags} {is : List Item} {l l' : Tok} {ts rest : List Tok}
    (h : Item.checkAll fl is l ts = some (l', rest)) : rest.length ≤ ts.length := by
  obtain ⟨pre, rfl, _⟩ := checkAll_spans fl is l l' ts rest h
  exact List.length_append ▸ Nat.le_add_left ..

end PyGql.Spec
