/-
  C14 — the COPYING phase of `clone()`: the copy of a type (with its copied fields and arguments) has the same by-name view
  as the source's type, and views of fully readable objects are stable while the heap only grows.
-/
import PyGqlModel.Lemmas.HeapCloneExact
import PyGqlModel.Lemmas.HeapMembersClone

namespace PyGql.Heap.Own
open PyGql.Heap PyGql.Props.C14

theorem argV_grow {h h' : Heap} (g : Frame h h') {a : Addr} (ha : a < h.size) : argV h' a = argV h a := by
  simp only [argV, Heap.readArg, g.2 a ha]

theorem argV_lt {h : Heap} {a : Addr} (hs : (argV h a).isSome = true) : a < h.size := by
  simp only [argV, Option.isSome_map] at hs
  obtain ⟨g, hg⟩ := Option.isSome_iff_exists.mp hs
  exact read_lt h a _ (readArg_read hg)

theorem argsV_grow {h h' : Heap} (g : Frame h h') (as : List Addr) (hall : ∀ x, x ∈ as → (argV h x).isSome = true) :
    as.map (argV h') = as.map (argV h) :=
  List.map_congr_left fun x hx => argV_grow g (argV_lt (hall x hx))

def fullF (p : FieldO × List (Option ArgO)) : Prop := ∀ v, v ∈ p.2 → v.isSome = true

theorem fieldV_grow {h h' : Heap} (g : Frame h h') {a : Addr} {p : FieldO × List (Option ArgO)} (hv : fieldV h a = some p) (hf : fullF p) :
    fieldV h' a = some p := by
  simp only [fieldV, Option.map_eq_some_iff] at hv
  obtain ⟨f, hf0, rfl⟩ := hv
  have ha : a < h.size := read_lt h a _ (readField_read hf0)
  have hr : h'.readField a = some f := by simp only [Heap.readField, g.2 a ha]; exact hf0
  simp only [fieldV, hr, Option.map_some, Option.some.injEq, Prod.mk.injEq, true_and]
  exact argsV_grow g f.args (fun x hx => hf _ (List.mem_map.mpr ⟨x, hx, rfl⟩))

def fullT (v : TypeO × List (Option (FieldO × List (Option ArgO))) × List (Option ArgO)) : Prop :=
  (∀ o, o ∈ v.2.1 → ∃ p, o = some p ∧ fullF p) ∧ (∀ o, o ∈ v.2.2 → o.isSome = true)

theorem fieldsV_grow {h h' : Heap} (g : Frame h h') (as : List Addr) (hall : ∀ o, o ∈ as.map (fieldV h) → ∃ p, o = some p ∧ fullF p) :
    as.map (fieldV h') = as.map (fieldV h) := by
  apply List.map_congr_left
  intro x hx
  obtain ⟨p, hp, hfp⟩ := hall _ (List.mem_map.mpr ⟨x, hx, rfl⟩)
  rw [hp]; exact fieldV_grow g hp hfp

/-- the by-name view of a type object `t` whose members live in `h0` -/
def tview (h0 : Heap) (t : TypeO) : TypeO × List (Option (FieldO × List (Option ArgO))) × List (Option ArgO) :=
  ({ t with fields := [], ifaces := eraseRefs t.ifaces, members := eraseRefs t.members },
   (match t.kind with | .object | .interface => t.fields.map (fieldV h0) | _ => []),
   (match t.kind with | .input => t.fields.map (argV h0) | _ => []))

theorem typeV_of_read {h : Heap} {a : Addr} {t : TypeO} (ht : h.readType a = some t) : typeV h a = some (tview h t) := by
  simp only [typeV, ht, Option.map_some]
  rfl

theorem tview_fields {t : TypeO} (hk : t.kind = Kind.object ∨ t.kind = Kind.interface) (h : Heap) :
    (tview h t).2 = (t.fields.map (fieldV h), []) := by
  rcases hk with hk | hk <;> simp [tview, hk]

theorem tview_inputs {t : TypeO} (hk : t.kind = Kind.input) (h : Heap) : (tview h t).2 = ([], t.fields.map (argV h)) := by
  simp [tview, hk]

theorem tview_leaf {t : TypeO} (hk : t.kind = Kind.union ∨ t.kind = Kind.scalar ∨ t.kind = Kind.enum) (h : Heap) :
    (tview h t).2 = ([], []) := by
  rcases hk with hk | hk | hk <;> simp [tview, hk]

theorem typeV_grow {h h' : Heap} (g : Frame h h') {a : Addr} {v : TypeO × List (Option (FieldO × List (Option ArgO))) × List (Option ArgO)}
    (hv : typeV h a = some v) (hf : fullT v) : typeV h' a = some v := by
  simp only [typeV, Option.map_eq_some_iff] at hv
  obtain ⟨t, ht, rfl⟩ := hv
  have hf : fullT (tview h t) := hf
  rw [fullT] at hf
  rw [typeV_of_read (g.readType ht)]
  refine congrArg some (Prod.ext rfl ?_)
  change (tview h' t).2 = (tview h t).2
  rcases kind_cases t.kind with hk | hk | hk
  · rw [tview_fields hk] at hf ⊢
    rw [tview_fields hk, fieldsV_grow g _ hf.1]
  · rw [tview_inputs hk] at hf ⊢
    rw [tview_inputs hk, argsV_grow g _ (fun x hx => hf.2 _ (List.mem_map.mpr ⟨x, hx, rfl⟩))]
  · rw [tview_leaf hk, tview_leaf hk]

theorem copyArgs_view (h0 : Heap) (as : List Addr) (h : Heap) (ss : Frame h0 h) (hall : ∀ a, a ∈ as → ∃ g, h0.readArg a = some g) :
    Frame h (copyArgs h as).1 ∧ (copyArgs h as).2.map (argV (copyArgs h as).1) = as.map (argV h0) ∧
      (∀ v, v ∈ as.map (argV h0) → v.isSome = true) := by
  obtain ⟨r, os, f, e⟩ := copyArgs_loop.out Frame.refl Frame.trans
    (fun h a => Frame.of_pres (copyArgs_ok h.size [a] h (inv_self h)).1) as h
  refine ⟨r, ?_, fun v hv => ?_⟩
  · rw [e]
    refine (all2_of_run (fun a ha o ⟨s1, r1, e1, r2⟩ => ?_) f).map_eq
    obtain ⟨g, hg⟩ := hall a ha
    simp only [copyArgs_one, (ss.trans r1).readArg hg] at e1 r2
    refine ⟨_, e1.symm, ?_⟩
    rw [argV_grow r2 (by rw [size_alloc]; exact Nat.lt_succ_self _)]
    simp only [argV, readArg_alloc_new, hg, Option.map_some]
  · obtain ⟨a, ha, rfl⟩ := List.mem_map.mp hv
    obtain ⟨g, hg⟩ := hall a ha
    simp [argV, hg]

theorem copyFields_view (h0 : Heap) (as : List Addr) (h : Heap) (ss : Frame h0 h)
    (hall : ∀ a, a ∈ as → ∃ f, h0.readField a = some f ∧ ∀ x, x ∈ f.args → ∃ g, h0.readArg x = some g) :
    Frame h (copyFields h as).1 ∧ (copyFields h as).2.map (fieldV (copyFields h as).1) = as.map (fieldV h0) ∧
      (∀ o, o ∈ as.map (fieldV h0) → ∃ p, o = some p ∧ fullF p) := by
  -- a readable field of the source: its view, with all argument views there
  have src : ∀ a, a ∈ as → ∀ f0, h0.readField a = some f0 → (∀ x, x ∈ f0.args → ∃ g, h0.readArg x = some g) →
      fieldV h0 a = some ({ f0 with ty := eraseT f0.ty, args := [] }, f0.args.map (argV h0)) ∧
      fullF ({ f0 with ty := eraseT f0.ty, args := [] }, f0.args.map (argV h0)) := fun a _ f0 hf hargs =>
    ⟨by simp [fieldV, hf], fun v hv => by
      obtain ⟨x, hx, rfl⟩ := List.mem_map.mp hv
      obtain ⟨g, hg⟩ := hargs x hx
      simp [argV, hg]⟩
  obtain ⟨r, os, f, e⟩ := copyFields_loop.out Frame.refl Frame.trans
    (fun h a => Frame.of_pres (copyFields_ok h.size [a] h (inv_self h)).1) as h
  refine ⟨r, ?_, fun o ho => ?_⟩
  · rw [e]
    refine (all2_of_run (fun a ha o ⟨s1, r1, e1, r2⟩ => ?_) f).map_eq
    obtain ⟨f0, hf, hargs⟩ := hall a ha
    obtain ⟨hsrc, hfull⟩ := src a ha f0 hf hargs
    have ss1 := ss.trans r1
    simp only [copyFields_one, ss1.readField hf] at e1 r2
    obtain ⟨sa, ea, fa⟩ := copyArgs_view h0 f0.args s1 ss1 hargs
    refine ⟨_, e1.symm, ?_⟩
    rw [hsrc]
    apply fieldV_grow r2 _ hfull
    simp only [fieldV, readField_alloc_new, Option.map_some, Option.some.injEq, Prod.mk.injEq, true_and]
    rw [← ea]
    exact argsV_grow (alloc_frame _ _) _ fun x hx => fa _ (ea ▸ List.mem_map.mpr ⟨x, hx, rfl⟩)
  · obtain ⟨a, ha, rfl⟩ := List.mem_map.mp ho
    obtain ⟨f0, hf, hargs⟩ := hall a ha
    exact ⟨_, src a ha f0 hf hargs⟩

theorem MembersReadable.fields {h : Heap} {t : TypeO} (hm : MembersReadable h t) (hk : t.kind = Kind.object ∨ t.kind = Kind.interface) :
    ∀ x, x ∈ t.fields → ∃ f, h.readField x = some f ∧ ∀ y, y ∈ f.args → ∃ g, h.readArg y = some g := by
  rcases hk with hk | hk <;> simpa [MembersReadable, hk] using hm

theorem MembersReadable.inputs {h : Heap} {t : TypeO} (hm : MembersReadable h t) (hk : t.kind = Kind.input) :
    ∀ x, x ∈ t.fields → ∃ g, h.readArg x = some g := by
  simpa [MembersReadable, hk] using hm

theorem cloneType_view (cfg : Cfg) (hd : cfg.deepClone = true) (h0 h : Heap) (ss : Frame h0 h) (t : TypeO) (hr : MembersReadable h0 t) :
    typeV (cloneType cfg h t).1 (cloneType cfg h t).2 = some (tview h0 t) ∧ fullT (tview h0 t) := by
  -- the copy is `t` with another member list: its view is that of `t` once the member views agree
  have copy : ∀ (h1 : Heap) (fs : List Addr), (tview (h1.alloc (.type { t with fields := fs })).1 { t with fields := fs }).2 = (tview h0 t).2 →
      typeV (h1.alloc (.type { t with fields := fs })).1 (h1.alloc (.type { t with fields := fs })).2 = some (tview h0 t) :=
    fun h1 fs e => by rw [typeV_of_read (readType_alloc_new _ _)]; exact congrArg some (Prod.ext rfl e)
  simp only [cloneType, hd, if_true]
  split
  · rename_i hi
    obtain ⟨sa, ea, fa⟩ := copyArgs_view h0 t.fields h ss (hr.inputs hi)
    refine ⟨copy _ _ ?_, by rw [fullT, tview_inputs hi]; exact ⟨by simp, fa⟩⟩
    rw [tview_inputs hi, tview_inputs (t := { t with fields := (copyArgs h t.fields).2 }) hi, ← ea]
    exact congrArg _ (argsV_grow (alloc_frame _ _) _ (fun x hx => fa _ (by rw [← ea]; exact List.mem_map.mpr ⟨x, hx, rfl⟩)))
  · rename_i hni
    by_cases hk : t.kind = Kind.object ∨ t.kind = Kind.interface
    · obtain ⟨sa, ea, fa⟩ := copyFields_view h0 t.fields h ss (hr.fields hk)
      refine ⟨copy _ _ ?_, by rw [fullT, tview_fields hk]; exact ⟨fa, by simp⟩⟩
      rw [tview_fields hk, tview_fields (t := { t with fields := (copyFields h t.fields).2 }) hk, ← ea]
      exact congrArg (·, []) (fieldsV_grow (alloc_frame _ _) _ (by rw [ea]; exact fa))
    · have hl := ((kind_cases t.kind).resolve_left hk).resolve_left hni
      exact ⟨copy _ _ (by rw [tview_leaf hl, tview_leaf (t := { t with fields := (copyFields h t.fields).2 }) hl]),
        by rw [fullT, tview_leaf hl]; simp⟩

theorem cloneTypes_view (cfg : Cfg) (hd : cfg.deepClone = true) (h0 : Heap) : ∀ (l : List (String × Addr)) (h : Heap), Frame h0 h →
    (∀ e, e ∈ l → ∀ t, h0.readType e.2 = some t → MembersReadable h0 t) →
    ∀ x, x ∈ (cloneTypes cfg h l).2 → ∀ a', x.2 = some a' → ∃ e, e ∈ l ∧ e.1 = x.1 ∧ ∀ t0, h0.readType e.2 = some t0 →
      typeV (cloneTypes cfg h l).1 a' = some (tview h0 t0) ∧ fullT (tview h0 t0) := by
  intro l h ss hread x hx a' ea
  obtain ⟨e, h1, t, he, _, _, r1, ht, r2, rfl⟩ := (cloneTypes_out cfg (R := Frame) (Pre := fun _ _ => True) Frame.refl
    (fun _ _ _ => Frame.trans) (fun _ _ _ _ _ => trivial)
    (fun h _ t _ _ => Frame.of_pres (cloneType_ok h.size cfg hd h t (inv_self h)).1) l h (fun _ _ _ => trivial)).2 x hx
  cases ea
  refine ⟨e, he, rfl, fun t0 ht0 => ?_⟩
  -- the type object read in the intermediate heap is the source's
  rw [(ss.trans r1).readType ht0] at ht
  cases ht
  obtain ⟨v1, v2⟩ := cloneType_view cfg hd h0 h1 (ss.trans r1) _ (hread e he _ ht0)
  exact ⟨typeV_grow r2 v1 v2, v2⟩

end PyGql.Heap.Own
