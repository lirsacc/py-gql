/-
  The walk of `ChainedVisitor` over a document.
  SKELETON (`WalkAlg`): any relation `Q ns st st'` between the state before and after a visit and the list `ns` of
  nodes of the visited sub-tree that
    * holds for the empty visit,            (nil)
    * composes sequentially,                (append)
    * is preserved by `visitNode`,          (node)
  holds for every visit function of `Chain.lean` with the node list of `Spec.nodes` (an instance of the induction of
  `Lemmas/ValidateWalkLaws.lean`: `walkLaws`).
  Variant `WalkAlgV`: VALUE sub-trees are handled by a lemma supplied by the user (rules whose state changes
  inside input values), everything above values by `node`.
  FIRST INSTANCE (`CF`): a chain whose rules never raise `SkipNode` and whose error counts per node do not depend on
  the visitor state ("context-free" chain): the number of errors after the walk = the sum over EVERY node of the
  document, i.e. the visitor enters and leaves each node exactly once.
-/
import PyGqlModel.Validate.Chain
import PyGqlModel.Spec.ValidSpec
import PyGqlModel.Lemmas.ValidateTr
import PyGqlModel.Lemmas.ValidateWalkLaws
import PyGqlModel.Lemmas.ValidateChainParEq
import PyGqlModel.Lemmas.ValidateCtxMap
namespace PyGql.Validate
open PyGql PyGql.Validate.Spec

/-- number of errors recorded so far -/
def E (st : St) : Nat := st.rs.errs.length

/-- the sum over the nodes `ns` of `f n + g n` (errors on entering plus errors on leaving) -/
def total (f g : Node → Nat) (ns : List Node) : Nat := (ns.map fun n => f n + g n).sum

theorem total_nil (f g : Node → Nat) : total f g [] = 0 := rfl
theorem total_cons (f g : Node → Nat) (n : Node) (ns : List Node) : total f g (n :: ns) = (f n + g n) + total f g ns := by
  simp [total]
theorem total_append (f g : Node → Nat) (a b : List Node) : total f g (a ++ b) = total f g a + total f g b := by
  simp [total]

section
variable {c : Cfg} {n : Node} {body : St → St} {st : St}

theorem visitNode_false (h : (enter c n st).2 = false) : visitNode c n body st = leave c n (body (enter c n st).1) := by
  unfold visitNode
  revert h
  generalize enter c n st = p
  obtain ⟨a, b⟩ := p
  intro h; simp only at h; subst h; rfl

theorem visitNode_true (h : (enter c n st).2 = true) :
    visitNode c n body st = leaveSkipped c n st (enter c n st).1 := by
  unfold visitNode
  revert h
  generalize enter c n st = p
  obtain ⟨a, b⟩ := p
  intro h; simp only at h; subst h; rfl

end

/-- what a relation `Q` must satisfy for the walk when VALUE sub-trees are covered by a lemma of their own (`value`):
    `node` is asked only of nodes above values -/
structure WalkAlgV (c : Cfg) (Q : List Node → St → St → Prop) : Prop where
  nil : ∀ st, Q [] st st
  append : ∀ {a b : List Node} {s1 s2 s3 : St}, Q a s1 s2 → Q b s2 s3 → Q (a ++ b) s1 s3
  node : ∀ (n : Node) (body : St → St) (ns : List Node) (st : St), n.isTop = false → n.isValueish = false →
    (∀ st1, Q ns st1 (body st1)) → Q (n :: ns) st (visitNode c n body st)
  value : ∀ (v : Value) (st : St), Q (valueNodes v) st (visitValue c v st)

structure WalkAlg (c : Cfg) (Q : List Node → St → St → Prop) : Prop where
  nil : ∀ st, Q [] st st
  append : ∀ {a b : List Node} {s1 s2 s3 : St}, Q a s1 s2 → Q b s2 s3 → Q (a ++ b) s1 s3
  node : ∀ (n : Node) (body : St → St) (ns : List Node) (st : St), n.isTop = false →
    (∀ st1, Q ns st1 (body st1)) → Q (n :: ns) st (visitNode c n body st)

section
variable {c : Cfg} {Q : List Node → St → St → Prop}

/-- the laws of the walk (`Lemmas/ValidateWalkLaws.lean`) for a relation between the states before and after a visit of the
    chain `visitDocument` that looks at the nodes only: no contexts, and `visitNode c` is `visitNodePar enterRule c` -/
theorem walkLaws (B : Node → Bool) (hnil : ∀ st, Q [] st st)
    (happ : ∀ {a b : List Node} {s1 s2 s3 : St}, Q a s1 s2 → Q b s2 s3 → Q (a ++ b) s1 s3)
    (hnode : ∀ (n : Node) (body : St → St) (ns : List Node) (st : St), B n = true → (∀ st1, Q ns st1 (body st1)) →
      Q (n :: ns) st (visitNode c n body st)) :
    WalkLaws (X := Unit) (fun _ x => x) (fun _ => True) B (fun _ l W => ∀ st, Q (l.map (·.1)) st (W enterRule c st)) where
  nil _ st := hnil st
  seq h1 h2 st := by
    dsimp only
    rw [List.map_append]
    exact happ (h1 st) (h2 _)
  node n _ l W hB _ _ hW st := by
    dsimp only
    rw [List.map_cons, visitNodePar_eq c n _ _ (fun _ => rfl)]
    exact hnode n _ _ st hB hW
  keepJ _ _ _ _ := trivial

/-- from the pairs of `Spec.gn*` and the parametrised chain to the nodes and the chain `visitDocument` -/
theorem walk_of {l : List (Node × Unit)} {ns : List Node} {w v : St → St} (hl : l.map (·.1) = ns)
    (hv : ∀ st, w st = v st) (hP : ∀ st, Q (l.map (·.1)) st (w st)) (st : St) : Q ns st (v st) :=
  hl ▸ hv st ▸ hP st

theorem WalkAlg.laws (h : WalkAlg c Q) :
    WalkLaws (X := Unit) (fun _ x => x) (fun _ => True) (fun n => !n.isTop)
      (fun _ l W => ∀ st, Q (l.map (·.1)) st (W enterRule c st)) :=
  walkLaws _ h.nil h.append fun n body ns st hB hb => h.node n body ns st ((Bool.not_eq_true' _).mp hB) hb

theorem visitValueG (h : WalkAlg c Q) (v : Value) : ∀ st : St, Q (valueNodes v) st (visitValue c v st) :=
  walk_of (gnValue_fst _ v ()) (visitValuePar_eq c v) (h.laws.value (fun _ hn => congrArg not hn) v ())
theorem visitValuesG (h : WalkAlg c Q) (vs : List Value) : ∀ st : St, Q (valuesNodes vs) st (visitValues c vs st) :=
  walk_of (gnValues_fst _ vs ()) (visitValuesPar_eq c vs) (h.laws.values (fun _ hn => congrArg not hn) vs ())
theorem visitObjFieldG (h : WalkAlg c Q) (x : ObjField) : ∀ st : St, Q (objFieldNodes x) st (visitObjField c x st) :=
  walk_of (gnObjField_fst _ x ()) (visitObjFieldPar_eq c x) (h.laws.objField (fun _ hn => congrArg not hn) x ())
theorem visitObjFieldsG (h : WalkAlg c Q) (fs : List ObjField) : ∀ st : St, Q (objFieldsNodes fs) st (visitObjFields c fs st) :=
  walk_of (gnObjFields_fst _ fs ()) (visitObjFieldsPar_eq c fs) (h.laws.objFields (fun _ hn => congrArg not hn) fs ())

theorem WalkAlg.toV (h : WalkAlg c Q) : WalkAlgV c Q where
  nil := h.nil
  append := h.append
  node n body ns st hn _ hb := h.node n body ns st hn hb
  value := visitValueG h

theorem WalkAlgV.laws (h : WalkAlgV c Q) :
    WalkLaws (X := Unit) (fun _ x => x) (fun _ => True) Node.aboveValues
      (fun _ l W => ∀ st, Q (l.map (·.1)) st (W enterRule c st)) :=
  walkLaws _ h.nil h.append fun n body ns st hB hb =>
    h.node n body ns st ((Bool.not_eq_true' _).mp (Bool.and_eq_true_iff.mp hB).1)
      ((Bool.not_eq_true' _).mp (Bool.and_eq_true_iff.mp hB).2) hb

theorem WalkAlgV.args (h : WalkAlgV c Q) (as : List Arg) (x : Unit) :
    ∀ st, Q ((gnArgs (fun _ x => x) x as).map (·.1)) st (visitArgumentsPar enterRule c as st) :=
  h.laws.args_of (fun a x => h.laws.arg_of
    (fun v _ st => by
      dsimp only
      rw [gnValue_fst, visitValuePar_eq]
      exact h.value v st) a x rfl) as x

theorem visitArgumentsG (h : WalkAlgV c Q) (as : List Arg) : ∀ st : St, Q (argsNodes as) st (visitArguments c as st) :=
  walk_of (gnArgs_fst _ as ()) (visitArgumentsPar_eq c as) (h.args as ())
theorem visitDirectivesG (h : WalkAlgV c Q) (ds : List Dir) : ∀ st : St, Q (dirsNodes ds) st (visitDirectives c ds st) :=
  walk_of (gnDirs_fst _ ds ()) (visitDirectivesPar_eq c ds) (h.laws.dirs_of h.args isSel_aboveValues ds () trivial)
theorem visitSelG (h : WalkAlgV c Q) (x : Sel) : ∀ st : St, Q (selNodes x) st (visitSel c x st) :=
  walk_of (gnSel_fst _ x ()) (visitSelPar_eq c x) (h.laws.sel_of h.args isSel_aboveValues x () trivial)
theorem visitSelsG (h : WalkAlgV c Q) (xs : List Sel) : ∀ st : St, Q (selsNodes xs) st (visitSels c xs st) :=
  walk_of (gnSels_fst _ xs ()) (visitSelsPar_eq c xs) (h.laws.sels_of h.args isSel_aboveValues xs () trivial)

theorem foldlG {α} (h : WalkAlgV c Q) (visit : α → St → St) (ns : α → List Node)
    (hv : ∀ a st, Q (ns a) st (visit a st)) :
    ∀ (as : List α) (st : St), Q (as.flatMap ns) st (as.foldl (fun st a => visit a st) st)
  | [], st => by simpa using h.nil st
  | a :: as, st => by rw [List.foldl_cons, List.flatMap_cons]; exact h.append (hv a st) (foldlG h visit ns hv as _)

theorem visitVarDefG (h : WalkAlgV c Q) (v : VarDef) (st : St) : Q (varDefNodes v) st (visitVarDef c v st) := by
  rw [visitVarDef, varDefNodes]
  refine h.node _ _ _ st rfl rfl (fun st => ?_)
  have key0 : ∀ st', Q [.typeNode v.type] st' (visitNode c (.typeNode v.type) id st') :=
    fun st' => h.node _ id [] st' rfl rfl (fun st => h.nil st)
  have key : ∀ st', Q (.typeNode v.type :: dirsNodes v.dirs) st'
      (visitDirectives c v.dirs (visitNode c (.typeNode v.type) id st')) :=
    fun st' => h.append (key0 st') (visitDirectivesG h v.dirs _)
  cases hd : v.default with
  | none => simpa using key st
  | some d => simp only; exact h.append (h.value d st) (key _)

theorem opBodyG (h : WalkAlgV c Q) (vars : List VarDef) (dirs : List Dir) (ssid : Nat) (sels : List Sel) (st : St) :
    Q (opBodyNodes vars dirs ssid sels) st
      (visitNode c (.selectionSet ssid sels) (visitSels c sels)
        (visitDirectives c dirs (vars.foldl (fun st v => visitVarDef c v st) st))) :=
  h.append (h.append (foldlG h (visitVarDef c) varDefNodes (visitVarDefG h) vars st) (visitDirectivesG h dirs _))
    (h.node (.selectionSet ssid sels) _ _ _ rfl rfl (fun st => visitSelsG h sels st))

theorem fragBodyG (h : WalkAlgV c Q) (dirs : List Dir) (ssid : Nat) (sels : List Sel) (st : St) :
    Q (fragBodyNodes dirs ssid sels) st
      (visitNode c (.selectionSet ssid sels) (visitSels c sels) (visitDirectives c dirs st)) :=
  h.append (visitDirectivesG h dirs st) (h.node (.selectionSet ssid sels) _ _ _ rfl rfl (fun st => visitSelsG h sels st))

/-- when `node` also holds for the definition-level nodes -/
theorem visitDefG (h : WalkAlgV c Q)
    (htop : ∀ (n : Node) (body : St → St) (ns : List Node) (st : St), n.isDoc = false → n.isValueish = false →
      (∀ st1, Q ns st1 (body st1)) → Q (n :: ns) st (visitNode c n body st))
    (d : Def) (st : St) : Q (defNodes d) st (visitDef c d st) := by
  cases d with
  | op kind name vars dirs ssid sels =>
    simp only [visitDef, defNodes]
    exact htop _ _ _ st rfl rfl (fun st => opBodyG h vars dirs ssid sels st)
  | frag name on dirs ssid sels =>
    simp only [visitDef, defNodes]
    exact htop _ _ _ st rfl rfl (fun st => fragBodyG h dirs ssid sels st)
  | ts a b =>
    simp only [visitDef, defNodes]
    exact htop _ id [] st rfl rfl (fun st => h.nil st)

theorem visitDefsG (h : WalkAlgV c Q)
    (htop : ∀ (n : Node) (body : St → St) (ns : List Node) (st : St), n.isDoc = false → n.isValueish = false →
      (∀ st1, Q ns st1 (body st1)) → Q (n :: ns) st (visitNode c n body st))
    (ds : List Def) (st : St) : Q (ds.flatMap defNodes) st (ds.foldl (fun st x => visitDef c x st) st) :=
  foldlG h (visitDef c) defNodes (visitDefG h htop) ds st

end

/-- a chain that never skips and whose error counts depend on the node only: context-free BELOW the document node
    (document-level rules may skip at the document itself) -/
structure CF (c : Cfg) (f g : Node → Nat) : Prop where
  noskip : ∀ n st, n.isDoc = false → (enter c n st).2 = false
  enterE : ∀ n st, n.isDoc = false → E (enter c n st).1 = E st + f n
  leaveE : ∀ n st, n.isDoc = false → E (leave c n st) = E st + g n

variable {c : Cfg} {f g : Node → Nat}

theorem visitNode_E (h : CF c f g) (n : Node) (body : St → St) (ns : List Node) (st : St) (hn : n.isDoc = false)
    (hb : ∀ st, E (body st) = E st + total f g ns) :
    E (visitNode c n body st) = E st + total f g (n :: ns) := by
  rw [visitNode_false (h.noskip n st hn), h.leaveE _ _ hn, hb, h.enterE n st hn, total_cons]
  omega

theorem CF.alg (h : CF c f g) : WalkAlg c (fun ns st st' => E st' = E st + total f g ns) where
  nil _ := rfl
  append h1 h2 := by rw [h2, h1, total_append]; omega
  node n body ns st hn hb := visitNode_E h n body ns st (isDoc_of_isTop hn) hb

theorem visitValues_E (h : CF c f g) : ∀ (vs : List Value) (st : St), E (visitValues c vs st) = E st + total f g (valuesNodes vs) :=
  visitValuesG h.alg
theorem visitObjField_E (h : CF c f g) : ∀ (x : ObjField) (st : St), E (visitObjField c x st) = E st + total f g (objFieldNodes x) :=
  visitObjFieldG h.alg
theorem visitObjFields_E (h : CF c f g) : ∀ (fs : List ObjField) (st : St), E (visitObjFields c fs st) = E st + total f g (objFieldsNodes fs) :=
  visitObjFieldsG h.alg
theorem visitSel_E (h : CF c f g) : ∀ (x : Sel) (st : St), E (visitSel c x st) = E st + total f g (selNodes x) :=
  visitSelG h.alg.toV

theorem visitDefs_E (h : CF c f g) (ds : List Def) (st : St) :
    E (ds.foldl (fun st x => visitDef c x st) st) = E st + total f g (ds.flatMap defNodes) :=
  visitDefsG h.alg.toV (fun n body ns st hn _ hb => visitNode_E h n body ns st hn hb) ds st

/-- **every node exactly once**: for a chain that is context-free below the document and does not skip at
    the document, the number of errors after visiting the document is the sum, over all nodes of the
    document, of the errors added on entering and on leaving the node -/
theorem visitDocument_E (h : CF c f g) (d : Doc) (st : St)
    (hs : (enter c (.document d) st).2 = false)
    (he : E (enter c (.document d) st).1 = E st + f (.document d))
    (hl : ∀ st, E (leave c (.document d) st) = E st + g (.document d)) :
    E (visitDocument c d st) = E st + total f g (nodes d) := by
  rw [visitDocument, nodes, total_cons, visitNode_false hs, hl, visitDefs_E h, he]
  omega

/-- the document is not entered further when the chain skips at the document node: the members that entered are left -/
theorem visitDocument_skip (d : Doc) (st : St) (hs : (enter c (.document d) st).2 = true) :
    visitDocument c d st = leaveSkipped c (.document d) st (enter c (.document d) st).1 := by
  rw [visitDocument, visitNode_true hs]

end PyGql.Validate
