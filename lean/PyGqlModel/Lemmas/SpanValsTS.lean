/-
  Value nodes of TYPE-SYSTEM definitions (arguments of directives everywhere, default values of arguments and input
  fields): sub-nodes of the definition's view, well-formed when the definition is.
-/
import PyGqlModel.Lemmas.SpanPartsTS
namespace PyGql.Ast
open PyGql

def InputValueDefinition.vals (d : InputValueDefinition) : List Value := defaultVals d.defaultValue ++ dirsVals d.directives
def FieldDefinition.vals (d : FieldDefinition) : List Value :=
  d.arguments.flatMap InputValueDefinition.vals ++ dirsVals d.directives
def EnumValueDefinition.vals (d : EnumValueDefinition) : List Value := dirsVals d.directives

def Definition.vals : Definition → List Value
  | .operation d => d.vals
  | .fragment d => d.vals
  | .schemaDefinition dirs _ _ => dirsVals dirs
  | .scalarTypeDefinition _ _ dirs _ => dirsVals dirs
  | .objectTypeDefinition _ _ _ dirs fields _ => dirsVals dirs ++ fields.flatMap FieldDefinition.vals
  | .interfaceTypeDefinition _ _ dirs fields _ => dirsVals dirs ++ fields.flatMap FieldDefinition.vals
  | .unionTypeDefinition _ _ dirs _ _ => dirsVals dirs
  | .enumTypeDefinition _ _ dirs values _ => dirsVals dirs ++ values.flatMap EnumValueDefinition.vals
  | .inputObjectTypeDefinition _ _ dirs fields _ => dirsVals dirs ++ fields.flatMap InputValueDefinition.vals
  | .directiveDefinition _ _ args _ _ => args.flatMap InputValueDefinition.vals
  | .schemaExtension dirs _ _ => dirsVals dirs
  | .scalarTypeExtension _ dirs _ => dirsVals dirs
  | .objectTypeExtension _ _ dirs fields _ => dirsVals dirs ++ fields.flatMap FieldDefinition.vals
  | .interfaceTypeExtension _ dirs fields _ => dirsVals dirs ++ fields.flatMap FieldDefinition.vals
  | .unionTypeExtension _ dirs _ _ => dirsVals dirs
  | .enumTypeExtension _ dirs values _ => dirsVals dirs ++ values.flatMap EnumValueDefinition.vals
  | .inputObjectTypeExtension _ dirs fields _ => dirsVals dirs ++ fields.flatMap InputValueDefinition.vals

end PyGql.Ast

namespace PyGql.Spec
open PyGql PyGql.Ast PyGql.Parse

theorem inputValue_vals (d : InputValueDefinition) (w : Value) (h : w ∈ d.vals) :
    Item.Sub (valueV w) (inputValueV d) ∧ (wfInputValue d = true → wfValue false w = true) := by
  obtain ⟨_, _, hdef, hdirs⟩ := inputValue_parts d
  rcases List.mem_append.1 h with h | h
  · obtain ⟨h1, h2⟩ := default_vals d.defaultValue w h
    exact ⟨hdef.1 _ h1, fun hh => h2 (hdef.2 hh)⟩
  · exact sub_wf_flatMap (directive_vals true) hdirs h

theorem fieldDefinition_vals (d : FieldDefinition) (w : Value) (h : w ∈ d.vals) :
    Item.Sub (valueV w) (fieldDefinitionV d) ∧ (wfFieldDefinition d = true → wfValue false w = true) := by
  obtain ⟨_, hargs, _, hdirs⟩ := fieldDefinition_parts d
  rcases List.mem_append.1 h with h | h
  · exact sub_wf_flatMap inputValue_vals hargs h
  · exact sub_wf_flatMap (directive_vals true) hdirs h

theorem enumValueDefinition_vals (d : EnumValueDefinition) (w : Value) (h : w ∈ d.vals) :
    Item.Sub (valueV w) (enumValueDefinitionV d) ∧ (wfEnumValueDefinition d = true → wfValue false w = true) :=
  sub_wf_flatMap (directive_vals true) (enumValueDefinition_parts d).2 h

theorem definition_vals_eq (x : Definition) (hts : isTypeSystem x = true) :
    x.vals = dirsVals x.ownDirs ++ x.fdefs.flatMap FieldDefinition.vals ++ x.evdefs.flatMap EnumValueDefinition.vals ++
      x.inputs.flatMap InputValueDefinition.vals := by
  unfold Definition.vals Definition.ownDirs Definition.fdefs Definition.evdefs Definition.inputs
  cases x with
  | operation d => cases hts
  | fragment d => cases hts
  | _ => simp only [dirsVals, List.flatMap_nil, List.append_nil, List.nil_append]

theorem definition_vals (fl : Flags) (x : Definition) (w : Value) (h : w ∈ x.vals) :
    Item.Sub (valueV w) (definitionV x) ∧ (wfDefinition fl x = true → wfValue false w = true) := by
  cases hts : isTypeSystem x with
  | false =>
    cases x with
    | operation d => exact exec_vals fl _ _ _ _ rfl w h
    | fragment d => exact exec_vals fl _ _ _ _ rfl w h
    | _ => cases hts
  | true =>
    rw [definition_vals_eq x hts] at h
    simp only [List.mem_append] at h
    rcases h with ((h | h) | h) | h
    · exact sub_wf_flatMap (directive_vals true) (definition_ownDirs fl x) h
    · exact sub_wf_flatMap fieldDefinition_vals (definition_fdefs fl x) h
    · exact sub_wf_flatMap enumValueDefinition_vals (definition_evdefs fl x) h
    · exact sub_wf_flatMap inputValue_vals (definition_inputs fl x) h

end PyGql.Spec
