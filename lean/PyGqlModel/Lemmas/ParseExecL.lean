/-
  Variable definitions (with constant directives), operations (shorthand and long form), fragment definitions (with /
  without the experimental fragment variables).
-/
import PyGqlModel.Lemmas.ParseSel
namespace PyGql.Parse
open PyGql PyGql.Ast PyGql.Spec

theorem firstIn_defaultV (fl : Flags) (o : Option Value) : FirstIn fl [.equals] (defaultV o) := by
  cases o with
  | none => simpa [defaultV] using FirstIn.nil fl [.equals]
  | some v => simpa [defaultV] using FirstIn.tok fl .equals [] _

/-- what follows a variable / input-value definition (they end `Type DefaultValue? Directives[Const]?`) -/
abbrev FollowTDD (rest : List Tok) : Prop := NotK [.bang, .equals, .atSign, .parenL] rest

/-- `= Value[Const]` if an `=` follows: the step shared by variable definitions and input value definitions -/
def parseDefault (fl : Flags) (fuel : Nat) : P (Option Value) := do
  if (← skip .equals) then do
    let v ← parseValueLiteral fl fuel true
    pure (some v)
  else pure none

theorem parseDefault_sound (fl : Flags) (fuel : Nat) :
    SoundL fl (parseDefault fl fuel) (fun dv => wfDefault dv = true) defaultV := by
  intro s dv s' h
  obtain ⟨b, s1, hsk, hx⟩ := bind_inv h
  obtain ⟨t, ts, h1, hb⟩ := (skip_ok ..).1 hsk
  rcases hb with ⟨hk, rfl, rfl⟩ | ⟨hk, rfl, rfl⟩
  · obtain ⟨v, s2, hv, hx⟩ := bind_inv hx
    cases hx
    obtain ⟨wv, cv⟩ := parseValueLiteral_sound fl _ _ _ _ _ hv
    exact ⟨wv, chkA_cons (chk_tok h1 (cls_const hk rfl)) (chkA_one cv)⟩
  · cases hx
    exact ⟨rfl, rfl⟩

theorem parseDefault_takes (fl : Flags) (fuel : Nat) (dv : Option Value) (w : wfDefault dv = true) :
    Takes fl fuel (parseDefault fl fuel) (fun _ => dv) (defaultV dv) (fun rest => dv = none → NotK [.equals] rest) := by
  intro l ts l' rest hf h hr
  cases dv with
  | none =>
    cases h
    obtain ⟨t, tl, rfl, hk⟩ := hr rfl
    exact bind_run (skip_neg (by simpa using hk) ..) rfl
  | some v =>
    obtain ⟨l1, ts1, h1, h2⟩ := (checkAll_cons ..).1 h
    obtain ⟨t, rfl, hc, rfl⟩ := (check_tok ..).1 h1
    exact bind_run (skip_pos (cls_kind hc) ..) (bind_run
      ((parseValueLiteral_takes fl fuel true v w).toL _ _ _ _ (Nat.le_of_succ_le hf) h2 trivial) rfl)

theorem parseVariableDefinition_sound (fl : Flags) (fuel : Nat) :
    Sound fl (parseVariableDefinition fl fuel) (fun d => wfVariableDefinition d = true) variableDefinitionV :=
  .node fun _ => .step (parseVariable_sound fl) fun _ _ => .tok rfl fun _ =>
    .step (parseTypeReference_sound fl fuel) fun _ wt => .app (parseDefault_sound fl fuel) fun _ wdv =>
    .last (parseDirectives_sound fl fuel true) fun _ _ wd => ⟨by simp [wfVariableDefinition, wt, wdv, wd], rfl⟩

theorem parseVariableDefinition_takes (fl : Flags) (fuel : Nat) (d : VariableDefinition)
    (w : wfVariableDefinition d = true) :
    Takes1 fl fuel (parseVariableDefinition fl fuel) d (variableDefinitionV d) FollowTDD := by
  rcases d with ⟨v, t, dv, ds, loc⟩
  simp only [wfVariableDefinition, Bool.and_eq_true] at w
  exact .node fun _ => .step (parseVariable_takes fl fuel v) <| .tok fun _ =>
    .stepF (parseTypeReference_takes fl fuel t w.1.1)
      (fun h hr => ((firstIn_defaultV fl dv).append (firstIn_directivesV fl ds)).use h (hr.mono (by decide)) (by decide)) <|
    .appF (parseDefault_takes fl fuel dv w.1.2)
      (fun h hr _ => (firstIn_directivesV fl ds).use h (hr.mono (by decide)) (by decide)) <|
    .lastF (parseDirectives_takes fl fuel true ds w.2) (fun hr => hr.mono (by decide)) <| .done _ _

theorem variableDefinitionV_width (d : VariableDefinition) : 1 ≤ (variableDefinitionV d).yield.length := by
  simp [variableDefinitionV, variableV, Item.yield, Item.yieldAll]

theorem parseVariableDefinitions_sound (fl : Flags) (fuel : Nat) :
    SoundL fl (parseVariableDefinitions fl fuel) (fun ds => ∀ d ∈ ds, wfVariableDefinition d = true)
      variableDefinitionsV :=
  optMany_sound rfl rfl (parseVariableDefinition_sound fl fuel) fuel

theorem parseVariableDefinitions_takes (fl : Flags) (fuel : Nat) (ds : List VariableDefinition)
    (w : ∀ d ∈ ds, wfVariableDefinition d = true) :
    Takes fl fuel (parseVariableDefinitions fl fuel) (fun _ => ds) (variableDefinitionsV ds)
      (fun rest => ds = [] → NotK [.parenL] rest) :=
  optMany_takes variableDefinitionV_width (Nat.le_refl fuel)
    (fun d hd => (parseVariableDefinition_takes fl fuel d (w d hd)).mono (Nat.sub_le ..))
    (fun _ _ _ _ _ h => ⟨NotK.of_node h fun h => NotK.of_node_tok h (by decide),
      NotK.of_node h fun h => NotK.of_node_tok h (by decide)⟩)
    (fun _ _ hk => NotK.cons (by simp [hk]))

theorem parseOperationType_ok (s : PS) (v : Text) (s' : PS) :
    parseOperationType s = .ok (v, s') ↔
      ∃ t ts, s.toks = t :: ts ∧ t.kind = .name ∧ t.value = v ∧ v ∈ Generated.ParserTables.operationTypeTuple ∧
        s' = ⟨ts, t⟩ := by
  simp only [parseOperationType, bind_ok, expect_ok, ite_ok, pure_ok, failAt_ok, and_false, or_false]
  constructor
  · rintro ⟨t, s1, ⟨ts, h1, hk, rfl⟩, hm, hfin⟩
    cases hfin
    exact ⟨t, ts, h1, hk, rfl, hm, rfl⟩
  · rintro ⟨t, ts, h1, hk, rfl, hm, rfl⟩
    exact ⟨t, _, ⟨ts, h1, hk, rfl⟩, hm, rfl⟩

theorem query_mem : K.query ∈ Generated.ParserTables.operationTypeTuple := by decide +kernel

theorem parseOperationDefinition_sound (fl : Flags) (fuel : Nat) :
    Sound fl (parseOperationDefinition fl fuel) (fun d => wfOperation d = true) operationV := by
  intro s d s' h
  unfold parseOperationDefinition at h
  obtain ⟨st, ts, h1, h⟩ := peek_bind h
  rcases ite_inv h with ⟨hk, h⟩ | ⟨hk, h⟩
  · -- shorthand
    obtain ⟨ss, s2, hss, h⟩ := bind_inv h
    cases h
    obtain ⟨wss, css⟩ := parseSelectionSet_sound fl fuel _ _ _ hss
    refine ⟨by simp [wfOperation, query_mem, wfDirectives, wss], ?_⟩
    have hne : cls st ≠ (.name, K.query) := by
      intro e; rw [cls_kind e] at hk; cases hk
    simp only [operationV, isShorthand, Option.isNone_none, List.isEmpty_nil, and_self, decide_true, if_true]
    refine chk_node h1 (chkA_cons ((check_optTok ..).2 (Or.inr ⟨rfl, rfl, fun t tl e => ?_⟩)) (chkA_one css))
    rw [h1] at e
    cases e
    exact hne
  · -- long form
    obtain ⟨op, s2, hop, h⟩ := bind_inv h
    obtain ⟨t, ts2, h2, hkn, hv, hm, rfl⟩ := (parseOperationType_ok ..).1 hop
    rw [h1] at h2
    cases h2
    obtain ⟨nm, s3, hnm, h⟩ := bind_inv h
    obtain ⟨vds, s4, hvd, h⟩ := bind_inv h
    obtain ⟨ds, s5, hd, h⟩ := bind_inv h
    obtain ⟨ss, s6, hss, h⟩ := bind_inv h
    cases h
    subst hv
    obtain ⟨wv, cvd⟩ := parseVariableDefinitions_sound fl fuel _ _ _ hvd
    obtain ⟨wd, cd⟩ := parseDirectives_sound fl _ _ _ _ _ hd
    obtain ⟨wss, css⟩ := parseSelectionSet_sound fl fuel _ _ _ hss
    have hname := (optPeek_sound (k := .name) (parseName_sound fl) _ _ _ hnm).2
    refine ⟨by simp [wfOperation, hm, wd, wss]; exact wv, ?_⟩
    have htail : Item.checkAll fl (optV nameV nm ++ variableDefinitionsV vds ++ directivesV ds ++ [selectionSetV ss])
        st ts = some (s'.last, s'.toks) := by
      rw [List.append_assoc, List.append_assoc]
      exact chkA_app hname (chkA_app cvd (chkA_app cd (chkA_one css)))
    by_cases hsh : isShorthand ⟨st.value, nm, vds, ds, ss, locOf fl st s'.last⟩ = true
    · -- `query { … }` written in long form: the optional keyword is present
      simp only [isShorthand, decide_eq_true_eq, Option.isNone_iff_eq_none,
        List.isEmpty_iff] at hsh
      obtain ⟨hq, hn0, hv0, hd0⟩ := hsh
      subst hn0; subst hv0; subst hd0
      simp only [operationV, isShorthand, hq, Option.isNone_none, List.isEmpty_nil, and_self, decide_true, if_true]
      refine chk_node h1 (chkA_cons ((check_optTok ..).2 (Or.inl ⟨st, h1, cls_kw hkn hq, rfl⟩)) ?_)
      simpa [optV, variableDefinitionsV, groupV, directivesV] using htail
    · simp only [operationV, hsh, Bool.false_eq_true, if_false]
      exact chk_node h1 (chkA_cons (chk_tok h1 (cls_name hkn)) htail)


theorem parseOperationType_pos {t : Tok} (hk : t.kind = .name) (hm : t.value ∈ Generated.ParserTables.operationTypeTuple)
    (ts : List Tok) (l : Tok) : parseOperationType ⟨t :: ts, l⟩ = .ok (t.value, ⟨ts, t⟩) := by
  rw [parseOperationType_ok]
  exact ⟨t, ts, rfl, hk, rfl, hm, rfl⟩

theorem parseOperationType_sound (fl : Flags) :
    Sound fl parseOperationType (fun v => v ∈ Generated.ParserTables.operationTypeTuple) Spec.kw := by
  intro s v s' h
  obtain ⟨t, ts, h1, hk, hv, hm, rfl⟩ := (parseOperationType_ok ..).1 h
  exact ⟨hm, chk_tok h1 (cls_kw hk hv)⟩

theorem parseOperationType_takes (fl : Flags) (n : Nat) (v : Text) (hm : v ∈ Generated.ParserTables.operationTypeTuple) :
    Takes1 fl n parseOperationType v (Spec.kw v) Any := by
  intro l ts l' rest _ h _
  obtain ⟨t, rfl, hc, rfl⟩ := (check_tok ..).1 h
  obtain ⟨hk, rfl⟩ := cls_kw_inv hc
  exact parseOperationType_pos hk hm ..

/-- the long form after the operation type: `Name? VariableDefinitions? Directives? SelectionSet` -/
theorem operationTail_takes (fl : Flags) (fuel : Nat) (nm : Option Name) (vds : List VariableDefinition)
    (ds : List Directive) (ss : SelectionSet) (wv : ∀ d ∈ vds, wfVariableDefinition d = true)
    (wd : wfDirectives false ds = true) (wss : wfSelectionSet ss = true)
    (st : Tok) {β} (mk : Option Name → List VariableDefinition → List Directive → SelectionSet → Loc → β) :
    Takes fl fuel (optPeek .name (parseName fl) >>= fun name => parseVariableDefinitions fl fuel >>= fun v =>
      parseDirectives fl fuel false >>= fun d => parseSelectionSet fl fuel >>= fun s =>
      mkLoc fl st >>= fun loc => pure (mk name v d s loc)) (fun l' => mk nm vds ds ss (locOf fl st l'))
      (optV nameV nm ++ (variableDefinitionsV vds ++ (directivesV ds ++ [selectionSetV ss]))) Any := by
  -- the selection set is there, so what follows an absent optional part is at the latest its `{`
  have fss : ∀ {ks l ts r}, Item.checkAll fl [selectionSetV ss] l ts = some r → TokKind.curlyL ∉ ks → NotK ks ts := by
    intro ks l ts r h hk
    cases ss
    exact NotK.of_node_tok h hk
  have fds : ∀ {ks l ts r}, Item.checkAll fl (directivesV ds ++ [selectionSetV ss]) l ts = some r →
      TokKind.curlyL ∉ ks → TokKind.atSign ∉ ks → NotK ks ts :=
    fun h hc ha => (firstIn_directivesV fl ds).use_then h (fun h => fss h hc) (by simpa using ha)
  exact .appF (optPeek_takes nm (fun n _ => parseName_takes fl fuel n) (fun n l ts r _ h => nameV_first h))
      (fun h _ _ => (firstIn_groupV fl .parenL .parenR variableDefinitionV vds).use_then h
        (fun h => fds h (by decide) (by decide)) (by decide)) <|
    .appF (parseVariableDefinitions_takes fl fuel vds wv) (fun h _ _ => fds h (by decide) (by decide)) <|
    .appF (parseDirectives_takes fl fuel false ds wd) (fun h _ => fss h (by decide)) <|
    .step (parseSelectionSet_takes fl fuel ss wss) (.done st _)

theorem parseOperationDefinition_takes (fl : Flags) (fuel : Nat) (d : OperationDefinition) (w : wfOperation d = true) :
    Takes1 fl fuel (parseOperationDefinition fl fuel) d (operationV d) Any := by
  intro l ts l' rest hf h _
  rcases d with ⟨op, nm, vds, ds, ss, loc⟩
  simp only [wfOperation, Bool.and_eq_true, List.all_eq_true] at w
  obtain ⟨⟨⟨wop, wv⟩, wd⟩, wss⟩ := w
  by_cases hsh : isShorthand ⟨op, nm, vds, ds, ss, loc⟩ = true
  · have hsh' := hsh
    simp only [isShorthand, decide_eq_true_eq, Option.isNone_iff_eq_none, List.isEmpty_iff] at hsh'
    obtain ⟨hq, hn0, hv0, hd0⟩ := hsh'
    subst hq; subst hn0; subst hv0; subst hd0
    simp only [operationV, hsh, if_true, check_node] at h
    obtain ⟨f, tl, rfl, hall, rfl⟩ := h
    rw [checkAll_cons] at hall
    obtain ⟨l1, ts1, hopt, hs⟩ := hall
    simp only [checkAll_cons, checkAll_nil] at hs
    obtain ⟨l2, ts2, hs, hfin⟩ := hs
    cases hfin
    rw [check_optTok] at hopt
    rcases hopt with ⟨t, e, hc, rfl⟩ | ⟨rfl, rfl, _⟩
    · -- `query { … }`
      cases e
      have hk := cls_kind hc
      have hv : f.value = K.query := cls_value hc rfl
      have hkc : f.kind ≠ .curlyL := by simp [hk]
      exact bind_run (peek_cons ..) (if_neg hkc ▸ bind_run (parseOperationType_pos hk (hv ▸ query_mem) ..)
        (hv ▸ operationTail_takes fl fuel none [] [] ss (by simp) (by simp [wfDirectives]) wss f _ f tl l' rest
          (Nat.le_of_succ_le hf) (chkA_one hs) trivial))
    · -- `{ … }`
      obtain ⟨t, tl', e, hk⟩ := selectionSetV_first hs
      cases e
      have cs := parseSelectionSet_takes fl fuel ss wss l1 (f :: tl) l' rest hf hs trivial
      exact bind_run (peek_cons ..) (if_pos hk ▸ bind_run cs rfl)
  · simp only [operationV, hsh, Bool.false_eq_true, if_false, check_node, checkAll_cons, check_tok] at h
    obtain ⟨f, tl, rfl, ⟨l1, ts1, ⟨t, e, hc, rfl⟩, hall⟩, rfl⟩ := h
    cases e
    have hk := cls_kind hc
    have hv : f.value = op := cls_value hc rfl
    subst hv
    have hkc : f.kind ≠ .curlyL := by simp [hk]
    exact bind_run (peek_cons ..) (if_neg hkc ▸ bind_run (parseOperationType_pos hk (by simpa using wop) ..)
      (operationTail_takes fl fuel nm vds ds ss wv wd wss f _ f tl l' rest (Nat.le_of_succ_le hf)
        (by rwa [List.append_assoc, List.append_assoc] at hall) trivial))

/-- `VariableDefinitions?`, read only with `experimental_fragment_variables` -/
theorem fragmentVariables_sound (fl : Flags) (fuel : Nat) :
    SoundL fl (if fl.experimentalFragmentVariables then parseVariableDefinitions fl fuel else pure [] : P _)
      (fun vds => (fl.experimentalFragmentVariables = true ∨ vds = []) ∧ ∀ d ∈ vds, wfVariableDefinition d = true)
      variableDefinitionsV := by
  intro s vds s' h
  rcases ite_inv h with ⟨hfv, h⟩ | ⟨hfv, h⟩
  · obtain ⟨w, c⟩ := parseVariableDefinitions_sound fl fuel _ _ _ h
    exact ⟨⟨Or.inl hfv, w⟩, c⟩
  · cases h
    exact ⟨⟨Or.inr rfl, nofun⟩, rfl⟩

theorem fragmentVariables_takes (fl : Flags) (fuel : Nat) (vds : List VariableDefinition)
    (wfv : fl.experimentalFragmentVariables = true ∨ vds = []) (wv : ∀ d ∈ vds, wfVariableDefinition d = true) :
    Takes fl fuel (if fl.experimentalFragmentVariables then parseVariableDefinitions fl fuel else pure [] : P _)
      (fun _ => vds) (variableDefinitionsV vds) (NotK [.parenL]) := by
  by_cases hfv : fl.experimentalFragmentVariables = true
  · rw [if_pos hfv]
    exact fun l ts l' rest hf h hr => parseVariableDefinitions_takes fl fuel vds wv l ts l' rest hf h fun _ => hr
  · rw [if_neg hfv]
    obtain rfl := wfv.resolve_left hfv
    exact Takes.ret []

theorem parseFragmentDefinition_sound (fl : Flags) (fuel : Nat) :
    Sound fl (parseFragmentDefinition fl fuel) (fun d => wfFragment fl d = true) fragmentV :=
  .node fun _ => .kw fun _ => .step (parseFragmentName_sound fl) fun _ hne => .app (fragmentVariables_sound fl fuel)
    fun _ wv => .kw fun _ => .step (parseNamedType_sound fl) fun _ _ => .app (parseDirectives_sound fl fuel false)
    fun _ wd => .step (parseSelectionSet_sound fl fuel) fun _ wss => .done fun _ => ⟨by
      simp only [wfFragment, Bool.and_eq_true, Bool.or_eq_true, List.all_eq_true, List.isEmpty_iff, decide_eq_true_eq]
      exact ⟨⟨⟨⟨by simpa using hne, wv.1⟩, wv.2⟩, wd⟩, wss⟩, rfl⟩

theorem parseFragmentDefinition_takes (fl : Flags) (fuel : Nat) (d : FragmentDefinition) (w : wfFragment fl d = true) :
    Takes1 fl fuel (parseFragmentDefinition fl fuel) d (fragmentV d) Any := by
  rcases d with ⟨nm, vds, tc, ds, ss, loc⟩
  simp only [wfFragment, Bool.and_eq_true, Bool.or_eq_true, List.all_eq_true, List.isEmpty_iff,
    decide_eq_true_eq] at w
  obtain ⟨⟨⟨⟨wne, wfv⟩, wv⟩, wd⟩, wss⟩ := w
  exact .node fun _ => .kw fun _ => .step (parseFragmentName_takes fl fuel nm (by simpa using wne)) <|
    .appF (fragmentVariables_takes fl fuel vds wfv wv) (fun h _ => NotK.of_tok h (by decide)) <| .kw fun _ =>
    .step (parseNamedType_takes fl fuel tc) <|
    .appF (parseDirectives_takes fl fuel false ds wd) (fun h _ => by cases ss; exact NotK.of_node_tok h (by decide)) <|
    .step (parseSelectionSet_takes fl fuel ss wss) <| .done _ _

end PyGql.Parse
