/-
  The parts a printed type-system definition is assembled from: "does not end with `}`" (`NB`, what the R6 guard of the
  document loop asks of the text before it), descriptions (`DescLay`, `lay_withDesc`), and the lists of named types after
  `implements` and `=` .  The members are in `PrintLayTSMembers`, the 17 definitions in `PrintLayTSDefs`.
-/
import PyGqlModel.Lemmas.PrintLayTSMembers
namespace PyGql.PrintTokens
open PyGql PyGql.Ast PyGql.Parse PyGql.Spec PyGql.Print PyGql.PrintLex PyGql.PrintMatch PyGql.PrintString PyGql.Lex

def NB (w : Text) : Prop := w.getLast? ≠ some 125

theorem nb_nil : NB [] := by simp [NB]
theorem nb_append {a b : Text} (ha : NB a) (hb : NB b) : NB (a ++ b) := by
  unfold NB at *
  rw [List.getLast?_append]
  cases h : b.getLast? with
  | none => simpa using ha
  | some x => rw [h] at hb; simpa using hb
theorem nb_append_right {a b : Text} (hb : NB b) (hne : b ≠ []) : NB (a ++ b) := by
  unfold NB at *
  rw [List.getLast?_append]
  cases h : b.getLast? with
  | none => exact absurd (List.getLast?_eq_none_iff.1 h) hne
  | some x => rw [h] at hb; simpa using hb
theorem nb_of_all {w : Text} (h : ∀ c ∈ w, c ≠ 125) : NB w := by
  unfold NB; intro e
  exact h 125 (List.mem_of_getLast? e) rfl
theorem nb_name {w : Text} (h : Spec.Lexical.isName w = true) : NB w := by
  apply nb_of_all
  intro c hc e
  subst e
  exact absurd (name_all h 125 hc) (by decide +kernel)
theorem nb_cons {c : Nat} {t : Text} (h : NB t) (hc : c ≠ 125) : NB (c :: t) := by
  have : NB ([c] ++ t) := nb_append (by simp [NB, hc]) h
  simpa using this
theorem nb_wrapS {x : Text} (h : NB x) : NB (wrapS x) := by
  unfold wrapS; split
  · exact nb_nil
  · exact nb_cons h (by decide +kernel)
theorem nb_joinSep (sep : Text) (hs : NB sep) : ∀ (xs : List Text), (∀ x ∈ xs, NB x) → NB (joinSep sep xs)
  | [], _ => nb_nil
  | [x], h => by simpa [joinSep] using h x (by simp)
  | x :: y :: ys, h => by
    have := nb_joinSep sep hs (y :: ys) (fun z hz => h z (by simp [hz]))
    simpa [joinSep, List.append_assoc] using nb_append (h x (by simp)) (nb_append hs this)

theorem nb_printArguments (c : Cfg) (as : List Argument) : NB (printArguments c as) := by
  cases as with
  | nil => simpa [printArguments, join, joinSep, wrap] using nb_nil
  | cons a as =>
    rw [printArguments_eq]
    have : NB ((40 :: joinSep [44, 32] ((a :: as).map (printArgument c))) ++ [41]) := nb_append_right (by simp [NB]) (by simp)
    simpa using this

theorem nb_printDirectives (c : Cfg) (ds : List Directive) (h : okDirectives c.indent ds) : NB (printDirectives c ds) := by
  rw [printDirectives, join_eq_joinSep _ _ (List.forall_mem_map.2 fun d _ => printDirective_ne c d)]
  apply nb_joinSep _ (by simp [NB])
  intro x hx
  simp only [List.mem_map] at hx
  obtain ⟨d, hd, rfl⟩ := hx
  have hok := (okDirectives_iff _ ds).1 h d hd
  exact nb_cons (nb_append (nb_name hok.1) (nb_printArguments c d.arguments)) (by decide +kernel)

/-- a block description is ONE BlockString token with the same value (string part; discharged in PrintBlockForms) -/
def DescLay (ind v : Text) : Prop := Lay (blockString v ind true) [(.blockString, v)]

def okDesc (ind : Text) : Option StringValue → Prop
  | none => True
  | some d => d.block = true → DescLay ind d.value

theorem descStr_ne (c : Cfg) (d : StringValue) :
    (if d.block then blockString d.value c.indent true else jsonDumps d.value) ≠ [] := by
  split
  · exact blockString_ne_nil _ _ _
  · simp [jsonDumps]

theorem descStr_head (c : Cfg) (d : StringValue) :
    (if d.block then blockString d.value c.indent true else jsonDumps d.value).head? = some 34 := by
  split
  · obtain ⟨u, hu⟩ := blockString_head d.value c.indent true
    rw [hu]
    rfl
  · rfl

theorem head?_append_ne {a b : Text} (h : a ≠ []) : (a ++ b).head? = a.head? := by
  cases a with
  | nil => exact absurd rfl h
  | cons x y => rfl

/-- `_with_desc` -/
theorem lay_withDesc (c : Cfg) (hdesc : c.includeDescriptions = true) (desc : Option StringValue)
    (hd : okDesc c.indent desc) (body : Text) (cb : List TokClass) (hb : Lay body cb) (hne : body ≠ [])
    (hhead : body.head? ≠ some 123) :
    Lay (withDesc c body desc) (Item.yieldAll (descV desc) ++ cb) ∧ (withDesc c body desc).head? ≠ some 123 ∧
    withDesc c body desc ≠ [] ∧ (NB body → NB (withDesc c body desc)) := by
  cases desc with
  | none => exact ⟨by simpa [withDesc, descV, optV, Item.yieldAll] using hb, by simpa [withDesc] using hhead,
      by simpa [withDesc] using hne, by simp [withDesc]⟩
  | some d =>
    have hsne := descStr_ne c d
    have e : withDesc c body (some d) =
        (if d.block then blockString d.value c.indent true else jsonDumps d.value) ++ 10 :: body := by
      simp only [withDesc, hdesc, Bool.not_true, Bool.false_eq_true, ↓reduceIte]
      rw [join_cons_ne _ _ _ hsne]
      cases body with
      | nil => exact absurd rfl hne
      | cons x y => simp [tailJoin]
    rw [e]
    have ld : Lay (if d.block then blockString d.value c.indent true else jsonDumps d.value)
        [(if d.block then TokKind.blockString else TokKind.string, d.value)] := by
      cases hbk : d.block with
      | true => have := hd hbk; unfold DescLay at this; simpa [hbk] using this
      | false => simpa [hbk] using lay_string d.value
    refine ⟨?_, ?_, by simp, fun hnb => nb_append_right (nb_cons hnb (by decide +kernel)) (by simp)⟩
    · have := lay_append ld (lay_lf_cons hb) (delimHead_cons (by decide +kernel))
      simpa [descV, optV, stringV, Item.yieldAll, Item.yield] using this
    · rw [head?_append_ne hsne, descStr_head]; simp

def okNamedTypes (ts : List NamedType) : Prop := ∀ t ∈ ts, Spec.Lexical.isName t.name.value = true

theorem lay_namedType {t : NamedType} (h : Spec.Lexical.isName t.name.value = true) :
    Lay (printNamedType t) (namedTypeV t).yield := by
  simpa [printNamedType, namedTypeV, nameV, Item.yield, Item.yieldAll] using lay_name h

theorem nb_namedTypes (sep : Text) (hs : NB sep) (ts : List NamedType) (h : okNamedTypes ts) :
    NB (joinSep sep (ts.map printNamedType)) := by
  apply nb_joinSep _ hs
  intro x hx
  simp only [List.mem_map] at hx
  obtain ⟨t, ht, rfl⟩ := hx
  exact nb_name (h t ht)

theorem lay_implements (ifs : List NamedType) (h : okNamedTypes ifs) :
    Lay (printImplements ifs) (Item.yieldAll (implementsV ifs)) ∧ NB (printImplements ifs) := by
  cases ifs with
  | nil => exact ⟨by simpa [printImplements, join, joinSep, wrap, implementsV, Item.yieldAll] using lay_nil,
      by simpa [printImplements, join, joinSep, wrap] using nb_nil⟩
  | cons t ts =>
    obtain ⟨l, e⟩ := lay_sepV printNamedType namedTypeV sep_amp (fun b => delimHead_cons (by decide +kernel)) (t :: ts)
      (fun x hx => lay_namedType (h x hx)) (fun x hx => isName_ne_nil (h x hx))
    have hj := joinSep_ne_nil [32, 38, 32] ((t :: ts).map printNamedType) (by simp)
      (List.forall_mem_map.2 fun x hx => isName_ne_nil (h x hx))
    have el : lit "implements " = K.implements ++ [32] := by rw [lit, textOfString_ofList]; decide +kernel
    rw [printImplements, wrap_of_ne _ _ _ (e ▸ hj), el, List.append_nil, List.append_assoc]
    refine ⟨?_, e ▸ nb_append_right (nb_cons (nb_namedTypes _ (by simp [NB]) _ h) (by decide +kernel)) (by simp)⟩
    simpa [implementsV, kw, Item.yieldAll, Item.yield] using
      lay_append (lay_name (w := K.implements) (by decide +kernel)) (lay_space_cons l) (delimHead_cons (by decide +kernel))

theorem lay_unionMembers (ts : List NamedType) (h : okNamedTypes ts) :
    Lay (printUnionMembers ts) (Item.yieldAll (unionMembersV ts)) := by
  cases ts with
  | nil => simpa [printUnionMembers, join, joinSep, wrap, unionMembersV, Item.yieldAll] using lay_nil
  | cons t ts =>
    obtain ⟨l, e⟩ := lay_sepV printNamedType namedTypeV sep_pipe (fun b => delimHead_cons (by decide +kernel)) (t :: ts)
      (fun x hx => lay_namedType (h x hx)) (fun x hx => isName_ne_nil (h x hx))
    have hj := joinSep_ne_nil [32, 124, 32] ((t :: ts).map printNamedType) (by simp)
      (List.forall_mem_map.2 fun x hx => isName_ne_nil (h x hx))
    rw [printUnionMembers, wrap_of_ne _ _ _ (e ▸ hj), List.append_nil]
    simpa [unionMembersV, Item.yieldAll, Item.yield] using lay_equals (lay_space_cons l)

end PyGql.PrintTokens
