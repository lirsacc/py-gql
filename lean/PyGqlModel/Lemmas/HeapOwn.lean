/-
  C14 — the base of the heap lemmas: what `alloc` / `write` do to reads, frames (`FrameX W`: nothing outside the write set `W` is
  written), the visitor hooks case by case, the loop principles every invariant of a transform goes through, and the
  ownership / separation invariant for the object heap.

  Region form (`Region.Inv K P h`): `P` is the set of addresses a schema owns; every address not yet allocated is in `P`
  (what a step allocates belongs to the schema it works on) and every object in `P` owns, through its member lists `K`,
  only objects in `P`. `Region.Pres K P h h'`: `h'` still satisfies the invariant and NO OBJECT OUTSIDE `P` was written.
  Every visitor hook keeps `Pres` when it is started on an address in `P`; so does `SchemaVisitor.on_schema` on a schema whose
  non-protected type objects and directive objects are in `P` (`Region.onSchema_ok`).

  Threshold form (`Inv n h`, `Pres n h h'`): the region is "addresses `≥ n`" and `K` is `kids`: the source lives below `n`,
  the result of `Schema.clone` / `transform_schema` above it. `Lemmas/HeapOwnP.lean` instantiates the region form for several
  derived schemas whose objects interleave on one heap.

  Conventions of the model (`Heap.lean`) the lemmas rely on, as the correspondence check feeds it: `Schema.types` holds no
  introspection type (`__…`) and `Schema.dirs` no specified directive (`on_schema`'s loop skips `SPECIFIED_DIRECTIVES`, so
  `visitDirs` has no skip); an element of `TypeO.values` is the string `name|deprecation_reason|description`
  (`HeapExt.rebuiltType` appends `v|None|None`); `TypeO.prot` is carried as an attribute (`TypeKept`, `SameHead`) and read by no
  model function: protection is `isProtected name`.
-/
import PyGqlModel.Heap
import PyGqlModel.Lemmas.HeapLoop

namespace PyGql.Heap.Own
open PyGql.Heap

theorem read_alloc_old (h : Heap) (o : Obj) (a : Addr) (ha : a < h.size) : (h.alloc o).1.read a = h.read a := by
  simp only [Heap.alloc, Heap.read, Heap.size] at *
  exact List.getElem?_append_left ha

theorem read_alloc_new (h : Heap) (o : Obj) : (h.alloc o).1.read h.size = some o := by
  simp [Heap.alloc, Heap.read, Heap.size]

theorem read_alloc_lt (h : Heap) (o : Obj) (a : Addr) (o' : Obj) (hr : (h.alloc o).1.read a = some o') :
    a < h.size ∨ (a = h.size ∧ o' = o) := by
  simp only [Heap.alloc, Heap.read, Heap.size] at *
  by_cases ha : a < h.objs.length
  · exact Or.inl ha
  · right
    obtain ⟨hlen, _⟩ := List.getElem?_eq_some_iff.mp hr
    have hlen' : a < h.objs.length + 1 := by simpa using hlen
    have : a = h.objs.length := Nat.le_antisymm (Nat.le_of_lt_succ hlen') (Nat.le_of_not_lt ha)
    subst this
    simp at hr
    exact ⟨rfl, hr.symm⟩

theorem size_alloc (h : Heap) (o : Obj) : (h.alloc o).1.size = h.size + 1 := by simp [Heap.alloc, Heap.size]
theorem alloc_addr (h : Heap) (o : Obj) : (h.alloc o).2 = h.size := rfl
theorem size_write (h : Heap) (a : Addr) (o : Obj) : (h.write a o).size = h.size := by simp [Heap.write, Heap.size]

theorem read_write_other (h : Heap) (a b : Addr) (o : Obj) (hne : a ≠ b) : (h.write a o).read b = h.read b := by
  simp only [Heap.write, Heap.read]
  exact List.getElem?_set_ne hne

theorem read_write_self (h : Heap) (a : Addr) (o : Obj) (ha : a < h.size) : (h.write a o).read a = some o := by
  simp only [Heap.write, Heap.read, Heap.size] at *
  simp [ha]

theorem read_write (h : Heap) (a b : Addr) (o o' : Obj) (hr : (h.write a o).read b = some o') :
    (b = a ∧ o' = o) ∨ (b ≠ a ∧ h.read b = some o') := by
  by_cases hb : a = b
  · subst hb
    left
    simp only [Heap.write, Heap.read] at hr
    rw [List.getElem?_set] at hr
    split at hr
    · split at hr
      · exact ⟨rfl, by cases hr; rfl⟩
      · cases hr
    · exact absurd rfl ‹_›
  · right
    rw [read_write_other h a b o hb] at hr
    exact ⟨fun e => hb e.symm, hr⟩

theorem read_lt (h : Heap) (a : Addr) (o : Obj) (hr : h.read a = some o) : a < h.size := by
  simp only [Heap.read, Heap.size] at *
  exact (List.getElem?_eq_some_iff.mp hr).1

theorem readArg_read {h : Heap} {a : Addr} {g : ArgO} (hr : h.readArg a = some g) : h.read a = some (.arg g) := by
  simp only [Heap.readArg] at hr
  split at hr <;> simp_all

theorem readField_read {h : Heap} {a : Addr} {g : FieldO} (hr : h.readField a = some g) : h.read a = some (.field g) := by
  simp only [Heap.readField] at hr
  split at hr <;> simp_all

theorem readType_read {h : Heap} {a : Addr} {g : TypeO} (hr : h.readType a = some g) : h.read a = some (.type g) := by
  simp only [Heap.readType] at hr
  split at hr <;> simp_all

theorem readDir_read {h : Heap} {a : Addr} {g : DirO} (hr : h.readDir a = some g) : h.read a = some (.dir g) := by
  simp only [Heap.readDir] at hr
  split at hr <;> simp_all

theorem readArg_of_read {h : Heap} {a : Addr} {g : ArgO} (hr : h.read a = some (.arg g)) : h.readArg a = some g := by
  simp [Heap.readArg, hr]
theorem readField_of_read {h : Heap} {a : Addr} {g : FieldO} (hr : h.read a = some (.field g)) : h.readField a = some g := by
  simp [Heap.readField, hr]
theorem readType_of_read {h : Heap} {a : Addr} {g : TypeO} (hr : h.read a = some (.type g)) : h.readType a = some g := by
  simp [Heap.readType, hr]
theorem readDir_of_read {h : Heap} {a : Addr} {g : DirO} (hr : h.read a = some (.dir g)) : h.readDir a = some g := by
  simp [Heap.readDir, hr]

theorem readType_lt {h : Heap} {a : Addr} (hr : (h.readType a).isSome = true) : a < h.size := by
  cases ht : h.readType a with
  | none => simp [ht] at hr
  | some t => exact read_lt h a _ (readType_read ht)

theorem readArg_alloc_new (h : Heap) (g : ArgO) : (h.alloc (.arg g)).1.readArg (h.alloc (.arg g)).2 = some g := by
  simp [Heap.readArg, alloc_addr, read_alloc_new]
theorem readField_alloc_new (h : Heap) (g : FieldO) : (h.alloc (.field g)).1.readField (h.alloc (.field g)).2 = some g := by
  simp [Heap.readField, alloc_addr, read_alloc_new]
theorem readType_alloc_new (h : Heap) (g : TypeO) : (h.alloc (.type g)).1.readType (h.alloc (.type g)).2 = some g := by
  simp [Heap.readType, alloc_addr, read_alloc_new]
theorem readDir_alloc_new (h : Heap) (g : DirO) : (h.alloc (.dir g)).1.readDir (h.alloc (.dir g)).2 = some g := by
  simp [Heap.readDir, alloc_addr, read_alloc_new]

theorem readArg_write_self (h : Heap) (a : Addr) (g : ArgO) (ha : a < h.size) : (h.write a (.arg g)).readArg a = some g := by
  simp [Heap.readArg, read_write_self h a _ ha]
theorem readField_write_self (h : Heap) (a : Addr) (g : FieldO) (ha : a < h.size) : (h.write a (.field g)).readField a = some g := by
  simp [Heap.readField, read_write_self h a _ ha]
theorem readType_write_self (h : Heap) (a : Addr) (g : TypeO) (ha : a < h.size) : (h.write a (.type g)).readType a = some g := by
  simp [Heap.readType, read_write_self h a _ ha]

theorem readArg_lt {h : Heap} {a : Addr} {g : ArgO} (hr : h.readArg a = some g) : a < h.size := read_lt h a _ (readArg_read hr)
theorem readField_lt {h : Heap} {a : Addr} {g : FieldO} (hr : h.readField a = some g) : a < h.size := read_lt h a _ (readField_read hr)
theorem readType_lt' {h : Heap} {a : Addr} {g : TypeO} (hr : h.readType a = some g) : a < h.size := read_lt h a _ (readType_read hr)

/-- nothing outside the write set `W` is written, nothing disappears -/
def FrameX (W : Addr → Prop) (h h' : Heap) : Prop :=
  h.size ≤ h'.size ∧ ∀ a, a < h.size → ¬ W a → h'.read a = h.read a

theorem FrameX.refl (W : Addr → Prop) (h : Heap) : FrameX W h h := ⟨Nat.le_refl _, fun _ _ _ => rfl⟩
theorem FrameX.trans {W : Addr → Prop} {h1 h2 h3 : Heap} (a : FrameX W h1 h2) (b : FrameX W h2 h3) : FrameX W h1 h3 :=
  ⟨Nat.le_trans a.1 b.1, fun x hx hw => by rw [b.2 x (Nat.lt_of_lt_of_le hx a.1) hw, a.2 x hx hw]⟩
theorem FrameX.mono {W W' : Addr → Prop} {h h' : Heap} (f : FrameX W h h') (hw : ∀ a, W a → W' a) : FrameX W' h h' :=
  ⟨f.1, fun x hx hn => f.2 x hx (fun w => hn (hw x w))⟩
theorem allocX (W : Addr → Prop) (h : Heap) (o : Obj) : FrameX W h (h.alloc o).1 :=
  ⟨by rw [size_alloc]; omega, fun a ha _ => read_alloc_old h o a ha⟩
theorem writeX (W : Addr → Prop) (h : Heap) (a : Addr) (o : Obj) (hw : W a) : FrameX W h (h.write a o) :=
  ⟨by rw [size_write]; exact Nat.le_refl _, fun x hx hn => read_write_other h a x o (fun e => hn (e ▸ hw))⟩

theorem FrameX.read {W : Addr → Prop} {h h' : Heap} (f : FrameX W h h') {a : Addr} (hw : ¬ W a) {o : Obj} (hr : h.read a = some o) :
    h'.read a = some o :=
  (f.2 a (read_lt h a o hr) hw).trans hr

theorem FrameX.readArg {W : Addr → Prop} {h h' : Heap} (f : FrameX W h h') {a : Addr} (hw : ¬ W a) {g : ArgO}
    (hr : h.readArg a = some g) : h'.readArg a = some g := readArg_of_read (f.read hw (readArg_read hr))
theorem FrameX.readField {W : Addr → Prop} {h h' : Heap} (f : FrameX W h h') {a : Addr} (hw : ¬ W a) {g : FieldO}
    (hr : h.readField a = some g) : h'.readField a = some g := readField_of_read (f.read hw (readField_read hr))
theorem FrameX.readType {W : Addr → Prop} {h h' : Heap} (f : FrameX W h h') {a : Addr} (hw : ¬ W a) {g : TypeO}
    (hr : h.readType a = some g) : h'.readType a = some g := readType_of_read (f.read hw (readType_read hr))
theorem FrameX.readDir {W : Addr → Prop} {h h' : Heap} (f : FrameX W h h') {a : Addr} (hw : ¬ W a) {g : DirO}
    (hr : h.readDir a = some g) : h'.readDir a = some g := readDir_of_read (f.read hw (readDir_read hr))

theorem readType_frameX {W : Addr → Prop} {h h' : Heap} (f : FrameX W h h') {a : Addr} (ha : a < h.size) (hw : ¬ W a) :
    h'.readType a = h.readType a := by
  simp only [Heap.readType, f.2 a ha hw]

theorem mem_regSet {reg : List (String × Addr)} {nm : String} {a : Addr} {e : String × Addr} (he : e ∈ regSet reg nm a) :
    e = (nm, a) ∨ (e ∈ reg ∧ (e.1 == nm) = false) := by
  simp only [regSet] at he
  split at he
  · simp only [List.mem_map] at he
    obtain ⟨e0, he0, rfl⟩ := he
    by_cases hq : (e0.1 == nm) = true
    · simp [hq]
    · simp only [Bool.not_eq_true] at hq
      simp [hq, he0]
  · simp only [List.mem_append, List.mem_singleton] at he
    rcases he with he | he
    · right
      refine ⟨he, ?_⟩
      rename_i hn
      simp only [lookup, Option.isSome_map, Bool.not_eq_true, Option.isSome_eq_false_iff, Option.isNone_iff_eq_none,
        List.find?_eq_none] at hn
      simpa using hn e he
    · exact Or.inl he

theorem mem_regErase {reg : List (String × Addr)} {nm : String} {e : String × Addr} (he : e ∈ regErase reg nm) : e ∈ reg :=
  (List.mem_filter.mp he).1

theorem lookup_none_ne {reg : List (String × Addr)} {nm : String} (hl : lookup reg nm = none) :
    ∀ e, e ∈ reg → (e.1 == nm) = false := by
  intro e he
  simp only [lookup, Option.map_eq_none_iff, List.find?_eq_none] at hl
  simpa using hl e he

/-- `on_input_field` is `on_argument`, except that the visibility transform may drop the input field -/
theorem onInputField_sub (v : Visitor) (reg : List (String × Addr)) (h : Heap) (a : Addr) :
    (onInputField v reg h a).1 = (onArgument v reg h a).1 ∧
    ∀ a', (onInputField v reg h a).2 = some a' → (onArgument v reg h a).2 = some a' := by
  cases v with
  | vis p =>
    simp only [onInputField, onArgument]
    split
    · exact ⟨rfl, fun _ e => e⟩
    · split
      · exact ⟨rfl, fun _ e => e⟩
      · exact ⟨rfl, fun _ e => nomatch e⟩
  | _ => exact ⟨rfl, fun _ e => e⟩

/-- the copy of a field that `on_field` allocates before its base part runs: renamed (camel case), or with a wrapper's resolver -/
inductive FieldCopy (tn : String) (f : FieldO) : Visitor → FieldO → Prop
  | camel (ren : String → String) : FieldCopy tn f (.camel ren) { f with name := ren f.name }
  | wrap (d : String → String → Bool) (w : String → String → Option Nat) (id : Nat) (hw : w tn f.name = some id) :
      FieldCopy tn f (.sdir d w) { f with res := some id }

/-- `on_field` on a field object: the field is dropped (directive visitor), or the base part runs, on the field or on a copy
    allocated first; the heal visitor then re-points the field's type -/
theorem onField_cases (v : Visitor) (reg : List (String × Addr)) (tn : String) (h : Heap) (a : Addr) (f : FieldO)
    (hf : h.readField a = some f) :
    onField v reg tn h a = (h, none) ∨
    (v ≠ .heal ∧ (∀ ren, v ≠ .camel ren) ∧ onField v reg tn h a = ((onFieldBase v reg h a f).1, some (onFieldBase v reg h a f).2)) ∨
    (v = .heal ∧ onField v reg tn h a = healFieldType reg (onFieldBase v reg h a f).1 (onFieldBase v reg h a f).2) ∨
    ∃ f', FieldCopy tn f v f' ∧ onField v reg tn h a =
      ((onFieldBase v reg (h.alloc (.field f')).1 (h.alloc (.field f')).2 f').1,
        some (onFieldBase v reg (h.alloc (.field f')).1 (h.alloc (.field f')).2 f').2) := by
  simp only [onField, hf]
  cases v with
  | camel ren => exact Or.inr (Or.inr (Or.inr ⟨_, .camel ren, rfl⟩))
  | sdir d w =>
    simp only
    split
    · exact Or.inl rfl
    · split
      · rename_i id hw
        exact Or.inr (Or.inr (Or.inr ⟨_, .wrap d w id hw, rfl⟩))
      · exact Or.inr (Or.inl ⟨by simp, by simp, rfl⟩)
  | heal => exact Or.inr (Or.inr (Or.inl ⟨rfl, rfl⟩))
  | vis p => exact Or.inr (Or.inl ⟨by simp, by simp, rfl⟩)

/-- `on_object` / `on_interface`: the visibility transform drops a hidden type, and otherwise may first write the list of the
    visible fields on the type object IN PLACE; then the base part runs -/
theorem onComposite_cases (v : Visitor) (reg : List (String × Addr)) (h : Heap) (a : Addr) (t : TypeO) :
    (∃ p, v = .vis p ∧ onComposite v reg h a t = (h, none)) ∨ onComposite v reg h a t = compositeRest v reg a h t ∨
    ∃ keep : Addr → Bool, onComposite v reg h a t =
      compositeRest v reg a (h.write a (.type { t with fields := t.fields.filter keep })) { t with fields := t.fields.filter keep } := by
  cases v with
  | vis p =>
    by_cases hv : (!p.isTypeVisible t.name) = true
    · exact Or.inl ⟨p, rfl, if_pos hv⟩
    · refine Or.inr ?_
      rw [show onComposite (.vis p) reg h a t = _ from if_neg hv]
      split
      · exact Or.inr ⟨_, rfl⟩
      · exact Or.inl rfl
  | _ => exact Or.inr (Or.inl rfl)

/-- `on_input_object`: the same in-place filter of the input fields, never a drop at this point -/
theorem onInputObject_cases (v : Visitor) (reg : List (String × Addr)) (h : Heap) (a : Addr) (t : TypeO) :
    onInputObject v reg h a t = inputRest v reg a t.name h t ∨
    ∃ keep : Addr → Bool, onInputObject v reg h a t =
      inputRest v reg a t.name (h.write a (.type { t with fields := t.fields.filter keep })) { t with fields := t.fields.filter keep } := by
  cases v with
  | vis p =>
    by_cases hk : (t.fields.filter (fun fa => match argName h fa with | some fnm => p.inputVis t.name fnm | none => true) != t.fields) = true
    · exact Or.inr ⟨_, if_pos hk⟩
    · exact Or.inl (if_neg hk)
  | _ => exact Or.inl rfl

/-- `on_scalar` / `on_enum` touch nothing: they return the type, or (visibility) drop it -/
theorem onLeaf_cases (v : Visitor) (h : Heap) (a : Addr) (t : TypeO) :
    (∃ p, v = .vis p ∧ onLeaf v h a t = (h, none)) ∨ onLeaf v h a t = (h, some a) := by
  cases v with
  | vis p =>
    by_cases hv : p.isTypeVisible t.name = true
    · exact Or.inr (if_pos hv)
    · exact Or.inl ⟨p, rfl, if_neg hv⟩
  | _ => exact Or.inr rfl

/-- so does `on_union`, except that the heal visitor re-points the member types -/
theorem onUnion_cases (v : Visitor) (reg : List (String × Addr)) (h : Heap) (a : Addr) (t : TypeO) :
    (v = .heal ∧ onUnion v reg h a t = (h.write a (.type { t with members := healedRefs reg t.members }), some a)) ∨
    (v ≠ .heal ∧ ((∃ p, v = .vis p ∧ onUnion v reg h a t = (h, none)) ∨ onUnion v reg h a t = (h, some a))) := by
  cases v with
  | heal => exact Or.inl ⟨rfl, rfl⟩
  | vis p =>
    by_cases hv : p.isTypeVisible t.name = true
    · exact Or.inr ⟨nofun, Or.inr (if_pos hv)⟩
    · exact Or.inr ⟨nofun, Or.inl ⟨p, rfl, if_neg hv⟩⟩
  | _ => exact Or.inr ⟨nofun, Or.inr rfl⟩

theorem onType_none (v : Visitor) (reg : List (String × Addr)) {h : Heap} {a : Addr} (ht : h.readType a = none) :
    onType v reg h a = (h, some a) := by
  simp only [onType, ht]

/-- `on_schema`'s dispatch on a type object: `on_object` / `on_interface`, `on_input_object`, or — for a type without members —
    the object dropped (visibility), returned as it is, or (a union under the heal visitor) returned with its member types re-pointed -/
theorem onType_cases (v : Visitor) (reg : List (String × Addr)) {h : Heap} {a : Addr} {t : TypeO} (ht : h.readType a = some t) :
    ((t.kind = Kind.object ∨ t.kind = Kind.interface) ∧ onType v reg h a = onComposite v reg h a t) ∨
    (t.kind = Kind.input ∧ onType v reg h a = onInputObject v reg h a t) ∨
    ((t.kind = Kind.union ∨ t.kind = Kind.scalar ∨ t.kind = Kind.enum) ∧
      ((∃ p, v = .vis p ∧ onType v reg h a = (h, none)) ∨
       ((v = .heal → t.kind ≠ Kind.union) ∧ onType v reg h a = (h, some a)) ∨
       (v = .heal ∧ t.kind = Kind.union ∧
         onType v reg h a = (h.write a (.type { t with members := healedRefs reg t.members }), some a)))) := by
  have leaf : t.kind = Kind.scalar ∨ t.kind = Kind.enum → onType v reg h a = onLeaf v h a t := by
    intro hk
    simp only [onType, ht]
    rcases hk with hk | hk <;> rw [hk]
  have union : t.kind = Kind.union → onType v reg h a = onUnion v reg h a t := by
    intro hk
    simp only [onType, ht]
    rw [hk]
  have kinds : ∀ k : Kind, k = .object ∨ k = .interface ∨ k = .input ∨ k = .union ∨ (k = .scalar ∨ k = .enum) := fun k => by
    cases k <;> simp
  rcases kinds t.kind with hk | hk | hk | hk | hk
  · exact .inl ⟨.inl hk, by simp only [onType, ht, hk]⟩
  · exact .inl ⟨.inr hk, by simp only [onType, ht, hk]⟩
  · exact .inr (.inl ⟨hk, by simp only [onType, ht, hk]⟩)
  · refine .inr (.inr ⟨.inl hk, ?_⟩)
    rcases onUnion_cases v reg h a t with ⟨rfl, e⟩ | ⟨hv, ⟨p, rfl, e⟩ | e⟩
    · exact .inr (.inr ⟨rfl, hk, (union hk).trans e⟩)
    · exact .inl ⟨p, rfl, (union hk).trans e⟩
    · exact .inr (.inl ⟨fun hh => absurd hh hv, (union hk).trans e⟩)
  · refine .inr (.inr ⟨.inr hk, ?_⟩)
    rcases onLeaf_cases v h a t with ⟨p, rfl, e⟩ | e
    · exact .inl ⟨p, rfl, (leaf hk).trans e⟩
    · exact .inr (.inl ⟨fun _ => by rcases hk with hk | hk <;> rw [hk] <;> nofun, (leaf hk).trans e⟩)

theorem onDirective_none (v : Visitor) (reg : List (String × Addr)) {h : Heap} {a : Addr} (hd : h.readDir a = none) :
    onDirective v reg h a = (h, some a) := by
  simp only [onDirective, hd]

/-- `on_directive` on a directive object: the directive is dropped (hidden by the visibility transform); or its arguments are visited
    and the directive is rebuilt around the returned list if that list differs -/
theorem onDirective_cases (v : Visitor) (reg : List (String × Addr)) {h : Heap} {a : Addr} {d : DirO} (hd : h.readDir a = some d) :
    (dirHidden v d.name = true ∧ onDirective v reg h a = (h, none)) ∨
    (dirHidden v d.name = false ∧ (mapFilter (onArgument v reg) h d.args).2 ≠ d.args ∧ onDirective v reg h a =
      (((mapFilter (onArgument v reg) h d.args).1.alloc (.dir { d with args := (mapFilter (onArgument v reg) h d.args).2 })).1,
        some ((mapFilter (onArgument v reg) h d.args).1.alloc (.dir { d with args := (mapFilter (onArgument v reg) h d.args).2 })).2)) ∨
    (dirHidden v d.name = false ∧ (mapFilter (onArgument v reg) h d.args).2 = d.args ∧
      onDirective v reg h a = ((mapFilter (onArgument v reg) h d.args).1, some a)) := by
  cases hh : dirHidden v d.name with
  | true => exact .inl ⟨rfl, by simp only [onDirective, hd, hh, if_true]⟩
  | false =>
    by_cases hb : ((mapFilter (onArgument v reg) h d.args).2 != d.args) = true
    · exact .inr (.inl ⟨rfl, by simpa using hb, by simp only [onDirective, hd, hh, Bool.false_eq_true, if_false, hb, if_true]⟩)
    · exact .inr (.inr ⟨rfl, by simpa using hb, by simp only [onDirective, hd, hh, Bool.false_eq_true, if_false, hb]⟩)

/-- `fix_type_references`: what every heal round keeps still holds when the loop ends -/
theorem healLoop_ind (cfg : Cfg) {J : Heap → Schema → Prop}
    (round : ∀ s h, J h s → J (visitAll .heal s h).1 (replaceCore cfg s (visitAll .heal s h).2.1 (visitAll .heal s h).2.2).1) :
    ∀ (fuel : Nat) (s : Schema) (h h' : Heap) (s' : Schema), J h s → healLoop cfg fuel s h = some (h', s') → J h' s' := by
  intro fuel
  induction fuel with
  | zero => intro s h h' s' _ e; simp [healLoop] at e
  | succ fuel ih =>
    intro s h h' s' hj e
    rw [healLoop] at e
    split at e
    · exact ih _ _ _ _ (round s h hj) e
    · cases e
      exact round s h hj

/-- `_replace_types_and_directives`: the registries are updated, then `fix_type_references` runs if a type was replaced -/
theorem replaceTD_ind (cfg : Cfg) (fuel : Nat) {J : Heap → Schema → Prop} {s : Schema} {h h' : Heap} {s' : Schema}
    {ut ud : List (String × Option Addr)} (first : J h (replaceCore cfg s ut ud).1)
    (round : ∀ s h, J h s → J (visitAll .heal s h).1 (replaceCore cfg s (visitAll .heal s h).2.1 (visitAll .heal s h).2.2).1)
    (e : replaceTD cfg fuel s h ut ud = some (h', s')) : J h' s' := by
  simp only [replaceTD] at e
  split at e
  · exact healLoop_ind cfg round fuel _ _ _ _ first e
  · cases e
    exact first

/-- `SchemaVisitor.on_schema`: one round of the visitor, then `_replace_types_and_directives` -/
theorem onSchema_ind (cfg : Cfg) (fuel : Nat) (v : Visitor) {J : Heap → Schema → Prop} {s : Schema} {h h' : Heap} {s' : Schema}
    (first : J (visitAll v s h).1 (replaceCore cfg s (visitAll v s h).2.1 (visitAll v s h).2.2).1)
    (round : ∀ s h, J h s → J (visitAll .heal s h).1 (replaceCore cfg s (visitAll .heal s h).2.1 (visitAll .heal s h).2.2).1)
    (e : onSchema cfg fuel v s h = some (h', s')) : J h' s' :=
  replaceTD_ind cfg fuel first round e

/-- `transform_schema`'s loop over the visitors; the index `i` records what the visitors so far did (e.g. the renaming) -/
theorem transformFrom_ind (cfg : Cfg) (fuel : Nat) {ι : Type} {I : ι → Heap → Schema → Prop} (next : Visitor → ι → ι) :
    ∀ (vs : List Visitor),
      (∀ v, v ∈ vs → ∀ i s h h' s', I i h s → onSchema cfg fuel v s h = some (h', s') → I (next v i) h' s') →
      ∀ i h s h' s', I i h s → transformFrom cfg fuel vs (h, s) = some (h', s') → I (vs.foldl (fun i v => next v i) i) h' s' := by
  intro vs
  induction vs with
  | nil => intro _ i h s h' s' hi e; simp only [transformFrom] at e; cases e; exact hi
  | cons v vs ih =>
    intro step i h s h' s' hi e
    simp only [transformFrom] at e
    split at e
    · cases e
    · rename_i r hr
      exact ih (fun v' hv' => step v' (List.mem_cons_of_mem _ hv')) _ r.1 r.2 h' s'
        (step v (List.mem_cons_self ..) i s h r.1 r.2 hi hr) e

theorem transform_some {cfg : Cfg} {fuel : Nat} {vs : List Visitor} {s : Schema} {h : Heap} {r : Heap × Schema}
    (e : transform cfg fuel vs s h = some r) : ∃ h1 s1, clone cfg fuel s h = some (h1, s1) ∧ transformFrom cfg fuel vs (h1, s1) = some r := by
  simp only [transform] at e
  split at e
  · cases e
  · rename_i r1 hr
    exact ⟨r1.1, r1.2, hr, e⟩

theorem transform_single_some {cfg : Cfg} {fuel : Nat} {v : Visitor} {s : Schema} {h : Heap} {r : Heap × Schema}
    (e : transform cfg fuel [v] s h = some r) : ∃ h1 s1, clone cfg fuel s h = some (h1, s1) ∧ onSchema cfg fuel v s1 h1 = some r := by
  obtain ⟨h1, s1, hr, e⟩ := transform_some e
  simp only [transformFrom] at e
  split at e
  · cases e
  · rename_i r2 hr2
    exact ⟨h1, s1, hr, hr2.trans e⟩

theorem mapFilter_loop (f : Heap → Addr → Heap × Option Addr) : Loop (mapFilter f) :=
  ⟨fun _ => rfl, fun h a as => by simp only [mapFilter]; cases (f h a).2 <;> rfl⟩

theorem mapFilter_one (f : Heap → Addr → Heap × Option Addr) (h : Heap) (a : Addr) : mapFilter f h [a] = ((f h a).1, (f h a).2.toList) := by
  simp only [mapFilter]
  cases (f h a).2 <;> rfl

theorem visitTypes_loop (v : Visitor) (reg : List (String × Addr)) : Loop (visitTypes v reg) :=
  ⟨fun _ => rfl, fun h e l => by
    simp only [visitTypes]
    split
    · rfl
    · split <;> rfl⟩

theorem visitTypes_one (v : Visitor) (reg : List (String × Addr)) (h : Heap) (e : String × Addr) :
    visitTypes v reg h [e] = if isProtected e.1 then (h, []) else
      ((onType v reg h e.2).1, if (onType v reg h e.2).2 != some e.2 then [(e.1, (onType v reg h e.2).2)] else []) := by
  simp only [visitTypes]

theorem visitDirs_loop (v : Visitor) (reg : List (String × Addr)) : Loop (visitDirs v reg) :=
  ⟨fun _ => rfl, fun h e l => by simp only [visitDirs]; split <;> rfl⟩

theorem visitDirs_one (v : Visitor) (reg : List (String × Addr)) (h : Heap) (e : String × Addr) :
    visitDirs v reg h [e] =
      ((onDirective v reg h e.2).1, if (onDirective v reg h e.2).2 != some e.2 then [(e.1, (onDirective v reg h e.2).2)] else []) := by
  simp only [visitDirs]

/-- What a loop of `on_schema` does, for any relation `R` between heaps that every hook call respects when started on an entry
    satisfying `Pre` (a property `R` keeps): each entry not passed over (`skip`) is visited in some intermediate heap `h1`, and is
    either returned as it is or reported with what the hook returned; nothing else is reported. -/
theorem visit_out {loop : Heap → List (String × Addr) → Heap × List (String × Option Addr)} (lp : Loop loop) {skip : String → Bool}
    {hook : Heap → Addr → Heap × Option Addr}
    (one : ∀ h e, loop h [e] = if skip e.1 then (h, []) else
      ((hook h e.2).1, if (hook h e.2).2 != some e.2 then [(e.1, (hook h e.2).2)] else []))
    {R : Heap → Heap → Prop} {Pre : Heap → String × Addr → Prop}
    (refl : ∀ h, R h h) (trans : ∀ h1 h2 h3, R h1 h2 → R h2 h3 → R h1 h3)
    (keep : ∀ h h' e, R h h' → Pre h e → Pre h' e) (step : ∀ h e, Pre h e → R h (hook h e.2).1)
    (l : List (String × Addr)) (h : Heap) (hin : ∀ e, e ∈ l → skip e.1 = false → Pre h e) :
      R h (loop h l).1 ∧
      (∀ e, e ∈ l → skip e.1 = false → ∃ h1, Pre h1 e ∧ R h h1 ∧ R (hook h1 e.2).1 (loop h l).1 ∧
        ((hook h1 e.2).2 = some e.2 ∨ (e.1, (hook h1 e.2).2) ∈ (loop h l).2)) ∧
      (∀ x, x ∈ (loop h l).2 → ∃ e h1, e ∈ l ∧ skip e.1 = false ∧ Pre h1 e ∧ R h h1 ∧
        R (hook h1 e.2).1 (loop h l).1 ∧ x = (e.1, (hook h1 e.2).2) ∧ (hook h1 e.2).2 ≠ some e.2) := by
  obtain ⟨r, os, f, e⟩ := lp.run (R := R) (Pre := fun h e => skip e.1 = false → Pre h e) refl (trans _ _ _) (fun r p q => keep _ _ _ r (p q))
    (fun h e p => by
      rw [one]
      split
      · exact refl h
      · exact step h e (p ((Bool.not_eq_true _).mp ‹_›))) l h hin
  refine ⟨r, fun e0 he0 hq => ?_, fun x hx => ?_⟩
  · obtain ⟨o, ⟨h1, r1, e1, r2⟩, ho⟩ := left_of_run f e0 he0
    simp only [one, hq, Bool.false_eq_true, if_false] at e1 r2
    refine ⟨h1, keep _ _ _ r1 (hin e0 he0 hq), r1, r2, ?_⟩
    by_cases hs : (hook h1 e0.2).2 = some e0.2
    · exact .inl hs
    · exact .inr (e ▸ ho _ (by rw [← e1]; simp [hs]))
  · obtain ⟨e0, he0, h1, r1, e1, r2⟩ := mem_of_run f x (e ▸ hx)
    rw [one] at e1 r2
    split at e1
    · cases e1
    · have hq : skip e0.1 = false := (Bool.not_eq_true _).mp ‹_›
      rw [if_neg ‹_›] at r2
      split at e1
      · rename_i hne
        cases e1
        exact ⟨e0, h1, he0, hq, keep _ _ _ r1 (hin e0 he0 hq), r1, r2, rfl, by simpa using hne⟩
      · cases e1

end PyGql.Heap.Own

namespace PyGql.Heap.Region
open PyGql.Heap PyGql.Heap.Own

/-- what the ownership argument uses of a member function `K` (`kids`, or the kind-aware `OwnP.kids'`): fields own their
    arguments, directives theirs, a type at most its `fields` and, when it is a composite type, all of them; `interfaces` and
    union members are references, not members -/
structure Members (K : Obj → List Addr) : Prop where
  arg : ∀ g, K (.arg g) = []
  field : ∀ f, K (.field f) = f.args
  dir : ∀ d, K (.dir d) = d.args
  type_sub : ∀ t c, c ∈ K (.type t) → c ∈ t.fields
  composite : ∀ t, t.kind = .object ∨ t.kind = .interface ∨ t.kind = .input → K (.type t) = t.fields
  type_congr : ∀ {t t' c}, c ∈ K (.type t') → t'.kind = t.kind → t'.fields = t.fields → c ∈ K (.type t)

theorem members_kids : Members kids :=
  ⟨fun _ => rfl, fun _ => rfl, fun _ => rfl, fun _ _ hc => hc, fun _ _ => rfl, fun hc _ hf => by simpa [kids, hf] using hc⟩

variable {K : Obj → List Addr} {P : Addr → Prop}

/-- the region `P` is closed: it contains every address not yet allocated and, with an object, the members `K` of it -/
def Inv (K : Obj → List Addr) (P : Addr → Prop) (h : Heap) : Prop :=
  (∀ a, h.size ≤ a → P a) ∧ ∀ a o, P a → h.read a = some o → ∀ c, c ∈ K o → P c

/-- a step from `h` to `h'` that keeps the region closed, only grows the heap and writes nothing outside `P` -/
def Pres (K : Obj → List Addr) (P : Addr → Prop) (h h' : Heap) : Prop :=
  Inv K P h' ∧ h.size ≤ h'.size ∧ ∀ x, ¬ P x → h'.read x = h.read x

theorem Pres.refl {h : Heap} (i : Inv K P h) : Pres K P h h := ⟨i, Nat.le_refl _, fun _ _ => rfl⟩

theorem Pres.trans {h1 h2 h3 : Heap} (a : Pres K P h1 h2) (b : Pres K P h2 h3) : Pres K P h1 h3 :=
  ⟨b.1, Nat.le_trans a.2.1 b.2.1, fun x hx => by rw [b.2.2 x hx, a.2.2 x hx]⟩

theorem pres_alloc {h : Heap} (i : Inv K P h) (o : Obj) (ho : ∀ c, c ∈ K o → P c) :
    Pres K P h (h.alloc o).1 ∧ P (h.alloc o).2 := by
  refine ⟨⟨⟨?_, ?_⟩, ?_, ?_⟩, i.1 _ (Nat.le_refl _)⟩
  · intro a ha
    rw [size_alloc] at ha
    exact i.1 a (Nat.le_of_succ_le ha)
  · intro a o' ha hr c hc
    rcases read_alloc_lt h o a o' hr with hlt | ⟨_, rfl⟩
    · rw [read_alloc_old h o a hlt] at hr
      exact i.2 a o' ha hr c hc
    · exact ho c hc
  · rw [size_alloc]
    exact Nat.le_succ _
  · intro x hx
    exact read_alloc_old h o x (Nat.lt_of_not_le fun hn => hx (i.1 x hn))

theorem pres_write {h : Heap} (i : Inv K P h) (a : Addr) (o : Obj) (ha : P a) (ho : ∀ c, c ∈ K o → P c) :
    Pres K P h (h.write a o) := by
  refine ⟨⟨?_, ?_⟩, ?_, ?_⟩
  · intro x hx
    rw [size_write] at hx
    exact i.1 x hx
  · intro b o' hb hr c hc
    rcases read_write h a b o o' hr with ⟨_, rfl⟩ | ⟨_, hr'⟩
    · exact ho c hc
    · exact i.2 b o' hb hr' c hc
  · rw [size_write]
    exact Nat.le_refl _
  · intro x hx
    exact read_write_other h a x o (fun e => hx (e ▸ ha))

theorem Inv.kids {h : Heap} (i : Inv K P h) {a : Addr} (ha : P a) {o : Obj} (hr : h.read a = some o) : ∀ c, c ∈ K o → P c :=
  i.2 a o ha hr

/-- what a hook returns when started on an owned address: nothing outside `P` written, and an owned object or `None` -/
def Ret (K : Obj → List Addr) (P : Addr → Prop) (h : Heap) (r : Heap × Option Addr) : Prop :=
  Pres K P h r.1 ∧ ∀ a', r.2 = some a' → P a'

theorem Ret.some {h h' : Heap} {a : Addr} (p : Pres K P h h') (q : P a) : Ret K P h (h', some a) :=
  ⟨p, fun _ e => Option.some.inj e ▸ q⟩

theorem Ret.none {h h' : Heap} (p : Pres K P h h') : Ret K P h (h', none) := ⟨p, fun _ e => nomatch e⟩

theorem Ret.after {h h1 : Heap} {r : Heap × Option Addr} (p : Pres K P h h1) (q : Ret K P h1 r) : Ret K P h r :=
  ⟨p.trans q.1, q.2⟩

/-- the hook `f`, started on an owned address of a heap with a closed region, returns as `Ret` says -/
def HookOK (K : Obj → List Addr) (P : Addr → Prop) (f : Heap → Addr → Heap × Option Addr) : Prop :=
  ∀ h a, Inv K P h → P a → Ret K P h (f h a)

theorem mapFilter_ok {f : Heap → Addr → Heap × Option Addr} (hf : HookOK K P f) :
    ∀ (as : List Addr) (h : Heap), Inv K P h → (∀ c, c ∈ as → P c) →
      Pres K P h (mapFilter f h as).1 ∧ ∀ c, c ∈ (mapFilter f h as).2 → P c := by
  intro as
  induction as with
  | nil => intro h i _; exact ⟨Pres.refl i, by simp [mapFilter]⟩
  | cons a as ih =>
    intro h i has
    simp only [mapFilter]
    obtain ⟨p1, r1⟩ := hf h a i (has a (by simp))
    obtain ⟨p2, r2⟩ := ih (f h a).1 p1.1 (fun c hc => has c (by simp [hc]))
    refine ⟨p1.trans p2, ?_⟩
    intro c hc
    split at hc
    · rename_i x hx
      rcases List.mem_cons.mp hc with rfl | hc
      · exact r1 _ hx
      · exact r2 c hc
    · exact r2 c hc

section hooks
variable (hK : Members K)
include hK

theorem onArgument_ok (v : Visitor) (reg : List (String × Addr)) : HookOK K P (onArgument v reg) := by
  intro h a i ha
  simp only [onArgument]
  split
  · exact .some (.refl i) ha
  · rename_i g hg
    cases v with
    | camel ren => exact .some (pres_alloc i _ (by simp [hK.arg])).1 (pres_alloc i _ (by simp [hK.arg])).2
    | heal =>
      simp only
      split
      · exact .none (.refl i)
      · exact .some (pres_write i a _ ha (by simp [hK.arg])) ha
    | _ => exact .some (.refl i) ha

theorem onInputField_ok (v : Visitor) (reg : List (String × Addr)) : HookOK K P (onInputField v reg) := by
  intro h a i ha
  obtain ⟨p, q⟩ := onArgument_ok hK v reg h a i ha
  obtain ⟨e1, e2⟩ := onInputField_sub v reg h a
  exact ⟨e1 ▸ p, fun a' e => q a' (e2 a' e)⟩

theorem onFieldBase_ok (v : Visitor) (reg : List (String × Addr)) (h : Heap) (a : Addr) (f : FieldO)
    (i : Inv K P h) (ha : P a) (hf : ∀ c, c ∈ f.args → P c) :
    Pres K P h (onFieldBase v reg h a f).1 ∧ P (onFieldBase v reg h a f).2 := by
  simp only [onFieldBase]
  obtain ⟨p, q⟩ := mapFilter_ok (onArgument_ok hK v reg) f.args h i hf
  split
  · obtain ⟨p2, q2⟩ := pres_alloc p.1 (.field { f with args := (mapFilter (onArgument v reg) h f.args).2 }) (by simpa [hK.field] using q)
    exact ⟨p.trans p2, q2⟩
  · exact ⟨p, ha⟩

theorem healFieldType_ok (reg : List (String × Addr)) : HookOK K P (healFieldType reg) := by
  intro h a i ha
  simp only [healFieldType]
  split
  · exact .some (.refl i) ha
  · rename_i f hf
    split
    · exact .none (.refl i)
    · exact .some (pres_write i a _ ha (by simpa [hK.field] using i.kids ha (readField_read hf))) ha

theorem onField_ok (v : Visitor) (reg : List (String × Addr)) (tn : String) : HookOK K P (onField v reg tn) := by
  intro h a i ha
  cases hf : h.readField a with
  | none => simp only [onField, hf]; exact .some (.refl i) ha
  | some f =>
    have hargs : ∀ c, c ∈ f.args → P c := by simpa [hK.field] using i.kids ha (readField_read hf)
    obtain ⟨p2, q2⟩ := onFieldBase_ok hK v reg h a f i ha hargs
    rcases onField_cases v reg tn h a f hf with e | ⟨_, _, e⟩ | ⟨rfl, e⟩ | ⟨f', hc, e⟩ <;> rw [e]
    · exact .none (.refl i)
    · exact .some p2 q2
    · exact .after p2 (healFieldType_ok hK reg _ _ p2.1 q2)
    · -- the copy owns the arguments of the field
      have hf' : f'.args = f.args := by cases hc <;> rfl
      obtain ⟨p, q⟩ := pres_alloc i (.field f') (by simpa [hK.field, hf'] using hargs)
      obtain ⟨p3, q3⟩ := onFieldBase_ok hK v reg _ _ f' p.1 q (hf' ▸ hargs)
      exact .some (p.trans p3) q3

theorem rebuilt_ok {h h1 : Heap} (p : Pres K P h h1) (a : Addr) (ha : P a) (t : TypeO) (fs : List Addr)
    (hfs : ∀ c, c ∈ fs → P c) :
    Pres K P h (rebuiltOrSame h1 a t fs).1 ∧ P (rebuiltOrSame h1 a t fs).2 := by
  simp only [rebuiltOrSame]
  split
  · obtain ⟨p2, q2⟩ := pres_alloc p.1 (.type { t with fields := fs }) (fun c hc => hfs c (hK.type_sub _ c hc))
    exact ⟨p.trans p2, q2⟩
  · exact ⟨p, ha⟩

theorem compositeRest_ok (v : Visitor) (reg : List (String × Addr)) (a : Addr) (h : Heap) (t : TypeO)
    (i : Inv K P h) (ha : P a) (ht : ∀ c, c ∈ t.fields → P c) : Ret K P h (compositeRest v reg a h t) := by
  simp only [compositeRest]
  obtain ⟨p, q⟩ := mapFilter_ok (onField_ok hK v reg t.name) t.fields h i ht
  obtain ⟨pu, qu⟩ := rebuilt_ok hK p a ha t _ q
  cases v with
  | heal =>
    simp only
    split
    · split
      · rename_i tu htu
        -- `updated.interfaces = …` changes no member list
        exact .some (pu.trans (pres_write pu.1 _ _ qu fun c hc =>
          pu.1.kids qu (readType_read htu) c (hK.type_congr hc rfl rfl))) qu
      · exact .some pu qu
    · exact .some pu qu
  | _ => exact .some pu qu

/-- the visibility visitor writes `type.fields = [visible ones]` on the owned type object, then runs the base hook `f` -/
theorem after_filter {f : Heap → TypeO → Heap × Option Addr}
    (hf : ∀ h t, Inv K P h → (∀ c, c ∈ t.fields → P c) → Ret K P h (f h t))
    {h : Heap} (i : Inv K P h) {a : Addr} (ha : P a) (t : TypeO) (keep : Addr → Bool) (ht : ∀ c, c ∈ t.fields → P c) :
    Ret K P h (f (h.write a (.type { t with fields := t.fields.filter keep })) { t with fields := t.fields.filter keep }) :=
  have pw := pres_write i a (.type { t with fields := t.fields.filter keep }) ha
    fun c hc => ht c (List.mem_filter.mp (hK.type_sub _ c hc)).1
  .after pw (hf _ _ pw.1 fun c hc => ht c (List.mem_filter.mp hc).1)

theorem onComposite_ok (v : Visitor) (reg : List (String × Addr)) (h : Heap) (a : Addr) (t : TypeO)
    (i : Inv K P h) (ha : P a) (ht : ∀ c, c ∈ t.fields → P c) : Ret K P h (onComposite v reg h a t) := by
  rcases onComposite_cases v reg h a t with ⟨_, _, e⟩ | e | ⟨keep, e⟩ <;> rw [e]
  · exact .none (.refl i)
  · exact compositeRest_ok hK v reg a h t i ha ht
  · exact after_filter hK (fun h t i ht => compositeRest_ok hK v reg a h t i ha ht) i ha t keep ht

theorem inputRest_ok (v : Visitor) (reg : List (String × Addr)) (a : Addr) (nm : String) (h : Heap) (t : TypeO)
    (i : Inv K P h) (ha : P a) (ht : ∀ c, c ∈ t.fields → P c) : Ret K P h (inputRest v reg a nm h t) := by
  simp only [inputRest]
  obtain ⟨p, q⟩ := mapFilter_ok (onInputField_ok hK v reg) t.fields h i ht
  obtain ⟨pu, qu⟩ := rebuilt_ok hK p a ha t _ q
  cases v with
  | vis p =>
    simp only
    split
    · exact .some pu qu
    · exact .none pu
  | _ => exact .some pu qu

theorem onInputObject_ok (v : Visitor) (reg : List (String × Addr)) (h : Heap) (a : Addr) (t : TypeO)
    (i : Inv K P h) (ha : P a) (ht : ∀ c, c ∈ t.fields → P c) : Ret K P h (onInputObject v reg h a t) := by
  rcases onInputObject_cases v reg h a t with e | ⟨keep, e⟩ <;> rw [e]
  · exact inputRest_ok hK v reg a t.name h t i ha ht
  · exact after_filter hK (fun h t' i ht => inputRest_ok hK v reg a t.name h t' i ha ht) i ha t keep ht

theorem onType_ok (v : Visitor) (reg : List (String × Addr)) : HookOK K P (onType v reg) := by
  intro h a i ha
  cases ht : h.readType a with
  | none => rw [onType_none v reg ht]; exact .some (.refl i) ha
  | some t =>
    have hf := i.kids ha (readType_read ht)
    rcases onType_cases v reg ht with ⟨hk, e⟩ | ⟨hk, e⟩ | ⟨_, ⟨_, _, e⟩ | ⟨_, e⟩ | ⟨_, _, e⟩⟩ <;> rw [e]
    · exact onComposite_ok hK v reg h a t i ha (hK.composite t (hk.elim .inl (.inr ∘ .inl)) ▸ hf)
    · exact onInputObject_ok hK v reg h a t i ha (hK.composite t (.inr (.inr hk)) ▸ hf)
    · exact .none (.refl i)
    · exact .some (.refl i) ha
    · exact .some (pres_write i a _ ha fun c hc => hf c (hK.type_congr hc rfl rfl)) ha

theorem onDirective_ok (v : Visitor) (reg : List (String × Addr)) : HookOK K P (onDirective v reg) := by
  intro h a i ha
  cases hd : h.readDir a with
  | none => rw [onDirective_none v reg hd]; exact .some (.refl i) ha
  | some d =>
    obtain ⟨p, q⟩ := mapFilter_ok (onArgument_ok hK v reg) d.args h i (by simpa [hK.dir] using i.kids ha (readDir_read hd))
    rcases onDirective_cases v reg hd with ⟨_, e⟩ | ⟨_, _, e⟩ | ⟨_, _, e⟩ <;> rw [e]
    · exact .none (.refl i)
    · obtain ⟨p2, q2⟩ := pres_alloc p.1 (.dir { d with args := (mapFilter (onArgument v reg) h d.args).2 }) (by simpa [hK.dir] using q)
      exact .some (p.trans p2) q2
    · exact .some p ha

end hooks

/-- every registered type object is in `P`, those under a protected name (the specified scalars) excepted -/
def TypesIn (P : Addr → Prop) (reg : List (String × Addr)) : Prop := ∀ e, e ∈ reg → isProtected e.1 = true ∨ P e.2
def DirsIn (P : Addr → Prop) (reg : List (String × Addr)) : Prop := ∀ e, e ∈ reg → P e.2
/-- every object in the update list `ut` (what the hooks of a round returned in place of a registered object) is in `P` -/
def ValsIn (P : Addr → Prop) (ut : List (String × Option Addr)) : Prop := ∀ e, e ∈ ut → ∀ a', e.2 = some a' → P a'
def RegIn (P : Addr → Prop) (s : Schema) : Prop := TypesIn P s.types ∧ DirsIn P s.dirs

theorem ValsIn.nil : ValsIn P [] := fun _ he => nomatch he

theorem ValsIn.tail {x : String × Option Addr} {ut : List (String × Option Addr)} (hv : ValsIn P (x :: ut)) : ValsIn P ut :=
  fun e he => hv e (List.mem_cons_of_mem _ he)

/-- the step of the `on_schema` loops: the entry of a changed object is recorded, an unchanged one is not -/
theorem ValsIn.push {h : Heap} {r : Heap × Option Addr} (q : Ret K P h r) (nm : String) (a : Addr) {ut : List (String × Option Addr)}
    (hv : ValsIn P ut) : ValsIn P (if r.2 != some a then (nm, r.2) :: ut else ut) := by
  split
  · intro e he a' ea
    rcases List.mem_cons.mp he with rfl | he
    · exact q.2 a' ea
    · exact hv e he a' ea
  · exact hv

theorem visitTypes_ok (hK : Members K) (v : Visitor) (reg : List (String × Addr)) :
    ∀ (l : List (String × Addr)) (h : Heap), Inv K P h → TypesIn P l →
      Pres K P h (visitTypes v reg h l).1 ∧ ValsIn P (visitTypes v reg h l).2 := by
  intro l
  induction l with
  | nil => intro h i _; exact ⟨Pres.refl i, .nil⟩
  | cons e rest ih =>
    intro h i hl
    obtain ⟨nm, a⟩ := e
    have hrest : TypesIn P rest := fun e he => hl e (List.mem_cons_of_mem _ he)
    simp only [visitTypes]
    split
    · exact ih h i hrest
    · rename_i hp
      have q1 := onType_ok hK v reg h a i ((hl (nm, a) (List.mem_cons_self ..)).resolve_left hp)
      obtain ⟨p2, q2⟩ := ih _ q1.1.1 hrest
      exact ⟨q1.1.trans p2, q2.push q1 nm a⟩

theorem visitDirs_ok (hK : Members K) (v : Visitor) (reg : List (String × Addr)) :
    ∀ (l : List (String × Addr)) (h : Heap), Inv K P h → DirsIn P l →
      Pres K P h (visitDirs v reg h l).1 ∧ ValsIn P (visitDirs v reg h l).2 := by
  intro l
  induction l with
  | nil => intro h i _; exact ⟨Pres.refl i, .nil⟩
  | cons e rest ih =>
    intro h i hl
    obtain ⟨nm, a⟩ := e
    simp only [visitDirs]
    have q1 := onDirective_ok hK v reg h a i (hl (nm, a) (List.mem_cons_self ..))
    obtain ⟨p2, q2⟩ := ih _ q1.1.1 (fun e he => hl e (List.mem_cons_of_mem _ he))
    exact ⟨q1.1.trans p2, q2.push q1 nm a⟩

/-- after `_replace_types_and_directives`' loop every entry is protected, owned, or was owned already;
    names still to be replaced (`ut`) end up owned -/
theorem replaceTypes_cover (cfg : Cfg) :
    ∀ (ut : List (String × Option Addr)) (reg : List (String × Addr)) (b : Bool), ValsIn P ut →
      (∀ e, e ∈ reg → isProtected e.1 = true ∨ P e.2 ∨ (e.1 ∈ ut.map (·.1) ∧ ∀ x, x ∈ ut → x.1 = e.1 → x.2 ≠ none)) →
      TypesIn P (replaceTypes cfg reg b ut).1 := by
  intro ut
  induction ut with
  | nil =>
    intro reg b _ hreg e he
    rcases hreg e he with h1 | h1 | h1
    · exact Or.inl h1
    · exact Or.inr h1
    · simp at h1
  | cons x rest ih =>
    intro reg b hv hreg
    obtain ⟨nm, new⟩ := x
    -- an entry of another name that waited for `nm :: rest` still waits for `rest`
    have wait : ∀ e : String × Addr, (e.1 == nm) = false →
        (e.1 ∈ ((nm, new) :: rest).map (·.1) ∧ ∀ x, x ∈ (nm, new) :: rest → x.1 = e.1 → x.2 ≠ none) →
        e.1 ∈ rest.map (·.1) ∧ ∀ x, x ∈ rest → x.1 = e.1 → x.2 ≠ none := by
      intro e hne ⟨h1, h2⟩
      rcases List.mem_cons.mp h1 with h1 | h1
      · simp [h1] at hne
      · exact ⟨h1, fun x hx => h2 x (List.mem_cons_of_mem _ hx)⟩
    simp only [replaceTypes]
    split
    · rename_i hl
      apply ih reg b hv.tail
      intro e he
      exact (hreg e he).imp id (Or.imp id (wait e (lookup_none_ne hl e he)))
    · cases new with
      | none =>
        apply ih _ _ hv.tail
        intro e he
        exact (hreg e (mem_regErase he)).imp id (Or.imp id (wait e (by simpa using (List.mem_filter.mp he).2)))
      | some a' =>
        apply ih _ _ hv.tail
        intro e he
        rcases mem_regSet he with rfl | ⟨he0, hne⟩
        · exact Or.inr (Or.inl (hv (nm, some a') (List.mem_cons_self ..) a' rfl))
        · exact (hreg e he0).imp id (Or.imp id (wait e hne))

theorem replaceTypes_in (cfg : Cfg) (ut : List (String × Option Addr)) (reg : List (String × Addr)) (b : Bool)
    (hv : ValsIn P ut) (hreg : TypesIn P reg) : TypesIn P (replaceTypes cfg reg b ut).1 :=
  replaceTypes_cover cfg ut reg b hv fun e he => (hreg e he).imp id .inl

theorem replaceDirs_in : ∀ (ud : List (String × Option Addr)) (reg : List (String × Addr)),
    ValsIn P ud → DirsIn P reg → DirsIn P (replaceDirs reg ud) := by
  intro ud
  induction ud with
  | nil => intro reg _ hr; exact hr
  | cons x rest ih =>
    intro reg hv hr
    obtain ⟨nm, new⟩ := x
    cases new with
    | none => exact ih _ hv.tail fun e he => hr e (mem_regErase he)
    | some a' =>
      apply ih _ hv.tail
      intro e he
      rcases mem_regSet he with rfl | ⟨he0, _⟩
      · exact hv (nm, some a') (List.mem_cons_self ..) a' rfl
      · exact hr e he0

theorem replaceCore_in (cfg : Cfg) (s : Schema) (ut ud : List (String × Option Addr))
    (hs : RegIn P s) (hut : ValsIn P ut) (hud : ValsIn P ud) : RegIn P (replaceCore cfg s ut ud).1 :=
  ⟨replaceTypes_in cfg ut s.types false hut hs.1, replaceDirs_in ud s.dirs hud hs.2⟩

theorem visitAll_ok (hK : Members K) (v : Visitor) (s : Schema) (h : Heap) (i : Inv K P h) (hs : RegIn P s) :
    Pres K P h (visitAll v s h).1 ∧ ValsIn P (visitAll v s h).2.1 ∧ ValsIn P (visitAll v s h).2.2 := by
  obtain ⟨p1, q1⟩ := visitTypes_ok hK v s.types s.types h i hs.1
  obtain ⟨p2, q2⟩ := visitDirs_ok hK v s.types s.dirs _ p1.1 hs.2
  exact ⟨p1.trans p2, q1, q2⟩

/-- one `on_schema` round on a schema that owns its objects, after steps that wrote nothing outside `P` since `h0` -/
theorem round_ok (hK : Members K) (cfg : Cfg) (v : Visitor) {h0 : Heap} (s : Schema) (h : Heap) (r : Pres K P h0 h ∧ RegIn P s) :
    Pres K P h0 (visitAll v s h).1 ∧ RegIn P (replaceCore cfg s (visitAll v s h).2.1 (visitAll v s h).2.2).1 := by
  obtain ⟨p, q1, q2⟩ := visitAll_ok hK v s h r.1.1 r.2
  exact ⟨r.1.trans p, replaceCore_in cfg s _ _ r.2 q1 q2⟩

theorem replaceTD_ok (hK : Members K) (cfg : Cfg) (fuel : Nat) (s : Schema) (h : Heap) (ut ud : List (String × Option Addr))
    (h' : Heap) (s' : Schema) (i : Inv K P h) (hc : RegIn P (replaceCore cfg s ut ud).1)
    (e : replaceTD cfg fuel s h ut ud = some (h', s')) : Pres K P h h' ∧ RegIn P s' :=
  replaceTD_ind cfg fuel (J := fun h1 s1 => Pres K P h h1 ∧ RegIn P s1) ⟨.refl i, hc⟩ (round_ok hK cfg .heal) e

theorem onSchema_ok (hK : Members K) (cfg : Cfg) (fuel : Nat) (v : Visitor) (s : Schema) (h : Heap) (h' : Heap) (s' : Schema)
    (i : Inv K P h) (hs : RegIn P s) (e : onSchema cfg fuel v s h = some (h', s')) : Pres K P h h' ∧ RegIn P s' :=
  onSchema_ind cfg fuel v (J := fun h1 s1 => Pres K P h h1 ∧ RegIn P s1) (round_ok hK cfg v s h ⟨.refl i, hs⟩)
    (round_ok hK cfg .heal) e

theorem transformFrom_ok (hK : Members K) (cfg : Cfg) (fuel : Nat) (vs : List Visitor) (h : Heap) (s : Schema) (h' : Heap) (s' : Schema)
    (i : Inv K P h) (hs : RegIn P s) (e : transformFrom cfg fuel vs (h, s) = some (h', s')) : Pres K P h h' ∧ RegIn P s' :=
  transformFrom_ind cfg fuel (I := fun (_ : Unit) h1 s1 => Pres K P h h1 ∧ RegIn P s1) (fun _ u => u) vs
    (fun v _ _ s1 h1 h2 s2 r e1 => (onSchema_ok hK cfg fuel v s1 h1 h2 s2 r.1.1 r.2 e1).imp r.1.trans id) () h s h' s' ⟨.refl i, hs⟩ e

end PyGql.Heap.Region

namespace PyGql.Heap.Own
open PyGql.Heap

/-- `Region.Inv kids (n ≤ ·)` (`inv_iff`): the addresses from `n` on are closed under `kids` -/
def Inv (n : Nat) (h : Heap) : Prop :=
  n ≤ h.size ∧ ∀ a o, n ≤ a → h.read a = some o → ∀ c, c ∈ kids o → n ≤ c

/-- `Region.Pres kids (n ≤ ·)` (`pres_iff`): nothing below `n` is written -/
def Pres (n : Nat) (h h' : Heap) : Prop :=
  Inv n h' ∧ h.size ≤ h'.size ∧ ∀ x, x < n → h'.read x = h.read x

theorem inv_iff {n : Nat} {h : Heap} : Inv n h ↔ Region.Inv kids (n ≤ ·) h :=
  ⟨fun i => ⟨fun _ ha => Nat.le_trans i.1 ha, i.2⟩, fun i => ⟨i.1 _ (Nat.le_refl _), i.2⟩⟩

theorem pres_iff {n : Nat} {h h' : Heap} : Pres n h h' ↔ Region.Pres kids (n ≤ ·) h h' :=
  ⟨fun p => ⟨inv_iff.1 p.1, p.2.1, fun x hx => p.2.2 x (Nat.lt_of_not_le hx)⟩,
   fun p => ⟨inv_iff.2 p.1, p.2.1, fun x hx => p.2.2 x (Nat.not_le_of_lt hx)⟩⟩

theorem Pres.refl {n : Nat} {h : Heap} (i : Inv n h) : Pres n h h := ⟨i, Nat.le_refl _, fun _ _ => rfl⟩

theorem Pres.frameX {n : Nat} {h h' : Heap} (p : Pres n h h') : FrameX (n ≤ ·) h h' :=
  ⟨p.2.1, fun a _ hw => p.2.2 a (Nat.lt_of_not_le hw)⟩

theorem Pres.trans {n : Nat} {h1 h2 h3 : Heap} (a : Pres n h1 h2) (b : Pres n h2 h3) : Pres n h1 h3 :=
  ⟨b.1, Nat.le_trans a.2.1 b.2.1, fun x hx => by rw [b.2.2 x hx, a.2.2 x hx]⟩

theorem pres_alloc {n : Nat} {h : Heap} (i : Inv n h) (o : Obj) (ho : ∀ c, c ∈ kids o → n ≤ c) :
    Pres n h (h.alloc o).1 ∧ n ≤ (h.alloc o).2 :=
  (Region.pres_alloc (inv_iff.1 i) o ho).imp pres_iff.2 id

theorem pres_write {n : Nat} {h : Heap} (i : Inv n h) (a : Addr) (o : Obj) (ha : n ≤ a) (ho : ∀ c, c ∈ kids o → n ≤ c) :
    Pres n h (h.write a o) :=
  pres_iff.2 (Region.pres_write (inv_iff.1 i) a o ha ho)

theorem kids_arg {n : Nat} {h : Heap} (i : Inv n h) {a : Addr} (ha : n ≤ a) {g : ArgO} (hr : h.readArg a = some g) : True := trivial

theorem type_fields_fresh {n : Nat} {h : Heap} (i : Inv n h) {a : Addr} (ha : n ≤ a) {t : TypeO} (hr : h.readType a = some t) :
    ∀ c, c ∈ t.fields → n ≤ c := i.2 a _ ha (readType_read hr)

/-- `TypesFresh`, `DirsFresh`, `ValsFresh`, `RegFresh` are by definition `TypesIn`, `DirsIn`, `ValsIn`, `RegIn` at the
    region `(n ≤ ·)` -/
def TypesFresh (n : Nat) (reg : List (String × Addr)) : Prop := ∀ e, e ∈ reg → isProtected e.1 = true ∨ n ≤ e.2
def DirsFresh (n : Nat) (reg : List (String × Addr)) : Prop := ∀ e, e ∈ reg → n ≤ e.2
def ValsFresh (n : Nat) (ut : List (String × Option Addr)) : Prop := ∀ e, e ∈ ut → ∀ a', e.2 = some a' → n ≤ a'
def RegFresh (n : Nat) (s : Schema) : Prop := TypesFresh n s.types ∧ DirsFresh n s.dirs

theorem replaceTD_ok (n : Nat) (cfg : Cfg) (fuel : Nat) (s : Schema) (h : Heap) (ut ud : List (String × Option Addr))
    (h' : Heap) (s' : Schema) (i : Inv n h) (hc : RegFresh n (replaceCore cfg s ut ud).1)
    (e : replaceTD cfg fuel s h ut ud = some (h', s')) : Pres n h h' ∧ RegFresh n s' :=
  (Region.replaceTD_ok Region.members_kids cfg fuel s h ut ud h' s' (inv_iff.1 i) hc e).imp pres_iff.2 id

theorem onSchema_ok (n : Nat) (cfg : Cfg) (fuel : Nat) (v : Visitor) (s : Schema) (h : Heap) (h' : Heap) (s' : Schema)
    (i : Inv n h) (hs : RegFresh n s) (e : onSchema cfg fuel v s h = some (h', s')) : Pres n h h' ∧ RegFresh n s' :=
  (Region.onSchema_ok Region.members_kids cfg fuel v s h h' s' (inv_iff.1 i) hs e).imp pres_iff.2 id

theorem transformFrom_ok (n : Nat) (cfg : Cfg) (fuel : Nat) (vs : List Visitor) (h : Heap) (s : Schema) (h' : Heap) (s' : Schema)
    (i : Inv n h) (hs : RegFresh n s) (e : transformFrom cfg fuel vs (h, s) = some (h', s')) : Pres n h h' ∧ RegFresh n s' :=
  (Region.transformFrom_ok Region.members_kids cfg fuel vs h s h' s' (inv_iff.1 i) hs e).imp pres_iff.2 id

theorem copyArgs_loop : Loop copyArgs := ⟨fun _ => rfl, fun h a as => by simp only [copyArgs]; cases h.readArg a <;> rfl⟩

theorem copyArgs_one (h : Heap) (a : Addr) :
    copyArgs h [a] = match h.readArg a with
      | some g => ((h.alloc (.arg g)).1, [(h.alloc (.arg g)).2])
      | none => (h, []) := by
  simp only [copyArgs]
  cases h.readArg a <;> rfl

theorem copyFields_loop : Loop copyFields := ⟨fun _ => rfl, fun h a as => by simp only [copyFields]; cases h.readField a <;> rfl⟩

theorem copyFields_one (h : Heap) (a : Addr) :
    copyFields h [a] = match h.readField a with
      | some f => (((copyArgs h f.args).1.alloc (.field { f with args := (copyArgs h f.args).2 })).1,
          [((copyArgs h f.args).1.alloc (.field { f with args := (copyArgs h f.args).2 })).2])
      | none => (h, []) := by
  simp only [copyFields]
  cases h.readField a <;> rfl

theorem cloneTypes_loop (cfg : Cfg) : Loop (cloneTypes cfg) :=
  ⟨fun _ => rfl, fun h e l => by
    simp only [cloneTypes]
    split
    · rfl
    · cases h.readType e.2 <;> rfl⟩

theorem cloneTypes_one (cfg : Cfg) (h : Heap) (e : String × Addr) :
    cloneTypes cfg h [e] = if isProtected e.1 then (h, []) else match h.readType e.2 with
      | some t => ((cloneType cfg h t).1, [(e.1, some (cloneType cfg h t).2)])
      | none => (h, []) := by
  simp only [cloneTypes]
  split
  · rfl
  · cases h.readType e.2 <;> rfl

theorem cloneDirs_loop (cfg : Cfg) : Loop (cloneDirs cfg) :=
  ⟨fun _ => rfl, fun h e l => by simp only [cloneDirs]; cases h.readDir e.2 <;> rfl⟩

theorem cloneDirs_one (cfg : Cfg) (h : Heap) (e : String × Addr) :
    cloneDirs cfg h [e] = match h.readDir e.2 with
      | some d => ((cloneDir cfg h d).1, [(e.1, some (cloneDir cfg h d).2)])
      | none => (h, []) := by
  simp only [cloneDirs]
  cases h.readDir e.2 <;> rfl

theorem inv_self (h : Heap) : Inv h.size h :=
  ⟨Nat.le_refl _, fun a o ha hr => absurd (read_lt h a o hr) (Nat.not_lt.mpr ha)⟩

/-- a step that yields `x`, then steps that yield `xs` (owned objects, or registry entries of owned objects) -/
theorem Pres.cons {α : Type} {Q : α → Prop} {n : Nat} {h h1 h2 : Heap} {x : α} {xs : List α} (p : Pres n h h1) (q : Q x)
    (r : Pres n h1 h2 ∧ ∀ y, y ∈ xs → Q y) : Pres n h h2 ∧ ∀ y, y ∈ x :: xs → Q y :=
  ⟨p.trans r.1, List.forall_mem_cons.mpr ⟨q, r.2⟩⟩

theorem copyArgs_ok (n : Nat) : ∀ (as : List Addr) (h : Heap), Inv n h →
    Pres n h (copyArgs h as).1 ∧ ∀ c, c ∈ (copyArgs h as).2 → n ≤ c := by
  intro as
  induction as with
  | nil => intro h i; exact ⟨Pres.refl i, by simp [copyArgs]⟩
  | cons a as ih =>
    intro h i
    simp only [copyArgs]
    split
    · rename_i g _
      have p1 := pres_alloc i (.arg g) (by simp [kids])
      exact p1.1.cons p1.2 (ih _ p1.1.1)
    · exact ih h i

theorem copyFields_ok (n : Nat) : ∀ (as : List Addr) (h : Heap), Inv n h →
    Pres n h (copyFields h as).1 ∧ ∀ c, c ∈ (copyFields h as).2 → n ≤ c := by
  intro as
  induction as with
  | nil => intro h i; exact ⟨Pres.refl i, by simp [copyFields]⟩
  | cons a as ih =>
    intro h i
    simp only [copyFields]
    split
    · rename_i f _
      obtain ⟨p0, q0⟩ := copyArgs_ok n f.args h i
      have p1 := pres_alloc p0.1 (.field { f with args := (copyArgs h f.args).2 }) q0
      exact (p0.trans p1.1).cons p1.2 (ih _ p1.1.1)
    · exact ih h i

theorem cloneType_ok (n : Nat) (cfg : Cfg) (hd : cfg.deepClone = true) (h : Heap) (t : TypeO) (i : Inv n h) :
    Pres n h (cloneType cfg h t).1 ∧ n ≤ (cloneType cfg h t).2 := by
  simp only [cloneType, hd, if_true]
  split
  · obtain ⟨p0, q0⟩ := copyArgs_ok n t.fields h i
    exact (pres_alloc p0.1 (.type { t with fields := (copyArgs h t.fields).2 }) q0).imp p0.trans id
  · obtain ⟨p0, q0⟩ := copyFields_ok n t.fields h i
    exact (pres_alloc p0.1 (.type { t with fields := (copyFields h t.fields).2 }) q0).imp p0.trans id

theorem cloneDir_ok (n : Nat) (cfg : Cfg) (hd : cfg.deepClone = true) (h : Heap) (d : DirO) (i : Inv n h) :
    Pres n h (cloneDir cfg h d).1 ∧ n ≤ (cloneDir cfg h d).2 := by
  simp only [cloneDir, hd, if_true]
  obtain ⟨p0, q0⟩ := copyArgs_ok n d.args h i
  exact (pres_alloc p0.1 (.dir { d with args := (copyArgs h d.args).2 }) q0).imp p0.trans id

theorem readType_pres {n : Nat} {h h' : Heap} (p : Pres n h h') {a : Addr} (ha : a < n) : h'.readType a = h.readType a := by
  simp only [Heap.readType, p.2.2 a ha]

/-- the copies: all owned; every readable non-protected registered name gets one, and only `some` entries are produced -/
theorem cloneTypes_ok (n : Nat) (cfg : Cfg) (hd : cfg.deepClone = true) :
    ∀ (l : List (String × Addr)) (h : Heap), Inv n h →
      Pres n h (cloneTypes cfg h l).1 ∧ ValsFresh n (cloneTypes cfg h l).2 ∧
      (∀ x, x ∈ (cloneTypes cfg h l).2 → x.2 ≠ none) ∧
      (∀ nm a, (nm, a) ∈ l → isProtected nm = false → a < n → (h.readType a).isSome = true →
        nm ∈ (cloneTypes cfg h l).2.map (·.1)) := by
  intro l h i
  have one : ∀ h e, Inv n h → Pres n h (cloneTypes cfg h [e]).1 := by
    intro h e i
    rw [cloneTypes_one]
    split
    · exact .refl i
    · split
      · exact (cloneType_ok n cfg hd h _ i).1
      · exact .refl i
  obtain ⟨r, os, f, e⟩ := (cloneTypes_loop cfg).out (R := fun h h' => Inv n h → Pres n h h') (fun _ => Pres.refl)
    (fun a b i => (a i).trans (b (a i).1)) one l h
  -- what a round reports: the copy of the type object, made in a heap `s1` that still satisfies the invariant
  have made : ∀ x, x ∈ (cloneTypes cfg h l).2 → ∃ (e0 : String × Addr) (s1 : Heap) (t : TypeO), Inv n s1 ∧ x = (e0.1, some (cloneType cfg s1 t).2) := by
    intro x hx
    obtain ⟨e0, _, s1, r1, e1, _⟩ := mem_of_run f x (e ▸ hx)
    rw [cloneTypes_one] at e1
    split at e1
    · cases e1
    · split at e1
      · cases e1
        exact ⟨e0, s1, _, (r1 i).1, rfl⟩
      · cases e1
  refine ⟨r i, fun x hx a' ea => ?_, fun x hx => ?_, fun nm a hm hnp ha hr => ?_⟩
  · obtain ⟨e0, s1, t, i1, rfl⟩ := made x hx
    cases ea
    exact (cloneType_ok n cfg hd s1 t i1).2
  · obtain ⟨e0, s1, t, _, rfl⟩ := made x hx
    exact nofun
  · -- the round for `(nm, a)` ran in a heap that still shows the source object at `a`
    obtain ⟨o, ⟨s1, r1, e1, _⟩, ho⟩ := left_of_run f (nm, a) hm
    obtain ⟨t, ht⟩ := Option.isSome_iff_exists.mp ((readType_pres (r1 i) ha).symm ▸ hr)
    simp only [cloneTypes_one, hnp, Bool.false_eq_true, if_false, ht] at e1
    exact List.mem_map.mpr ⟨_, e ▸ ho _ e1.symm, rfl⟩

theorem cloneDirs_ok (n : Nat) (cfg : Cfg) (hd : cfg.deepClone = true) :
    ∀ (l : List (String × Addr)) (h : Heap), Inv n h →
      Pres n h (cloneDirs cfg h l).1 ∧ ValsFresh n (cloneDirs cfg h l).2 := by
  intro l
  induction l with
  | nil => intro h i; exact ⟨Pres.refl i, nofun⟩
  | cons e rest ih =>
    intro h i
    obtain ⟨nm0, a0⟩ := e
    simp only [cloneDirs]
    split
    · rename_i d _
      have p1 := cloneDir_ok n cfg hd h d i
      exact p1.1.cons (fun _ e => Option.some.inj e ▸ p1.2) (ih _ p1.1.1)
    · exact ih h i

/-- every name the clone starts with (`Schema(query_type=…)` + `setdefault`) is a readable registered name of the source -/
def CloneCovered (cfg : Cfg) (s : Schema) (h : Heap) : Prop :=
  ∀ e, e ∈ cloneRegistry cfg s h → isProtected e.1 = true ∨ ∃ a, (e.1, a) ∈ s.types ∧ (h.readType a).isSome = true

/-- `Schema.clone` (deep variant) writes nothing below `h.size` and its result owns all its objects -/
theorem clone_ok (cfg : Cfg) (hd : cfg.deepClone = true) (fuel : Nat) (s : Schema) (h h' : Heap) (s' : Schema)
    (hc : CloneCovered cfg s h) (e : clone cfg fuel s h = some (h', s')) : Pres h.size h h' ∧ RegFresh h.size s' := by
  simp only [clone] at e
  split at e
  · cases e
  · rename_i h1 s1 hr
    cases e
    have i0 := inv_self h
    obtain ⟨pt, vt, st, nt⟩ := cloneTypes_ok h.size cfg hd s.types h i0
    obtain ⟨pd, vd⟩ := cloneDirs_ok h.size cfg hd s.dirs _ pt.1
    have hcore : RegFresh h.size (replaceCore cfg
        { types := cloneRegistry cfg s h, dirs := [], query := s.query, mutation := s.mutation, subscription := s.subscription, dres := none }
        (cloneTypes cfg h s.types).2 (cloneDirs cfg (cloneTypes cfg h s.types).1 s.dirs).2).1 := by
      simp only [replaceCore, RegFresh]
      refine ⟨?_, Region.replaceDirs_in _ [] vd (by intro e he; simp at he)⟩
      apply Region.replaceTypes_cover cfg _ _ false vt
      intro e he
      rcases hc e he with h1 | ⟨a, ha, hra⟩
      · exact Or.inl h1
      · by_cases hp : isProtected e.1 = true
        · exact Or.inl hp
        · right; right
          simp only [Bool.not_eq_true] at hp
          exact ⟨nt e.1 a ha hp (readType_lt hra) hra, fun x hx _ => st x hx⟩
    obtain ⟨p2, r2⟩ := replaceTD_ok h.size cfg fuel _ _ _ _ _ _ pd.1 hcore hr
    exact ⟨(pt.trans pd).trans p2, r2⟩

theorem transform_ok (cfg : Cfg) (hd : cfg.deepClone = true) (fuel : Nat) (vs : List Visitor) (s : Schema) (h h' : Heap) (s' : Schema)
    (hc : CloneCovered cfg s h) (e : transform cfg fuel vs s h = some (h', s')) : Pres h.size h h' ∧ RegFresh h.size s' := by
  simp only [transform] at e
  split at e
  · cases e
  · rename_i r hr
    obtain ⟨h1, s1⟩ := r
    obtain ⟨p1, q1⟩ := clone_ok cfg hd fuel s h h1 s1 hc hr
    obtain ⟨p2, q2⟩ := transformFrom_ok h.size cfg fuel vs h1 s1 h' s' p1.1 q1 e
    exact ⟨p1.trans p2, q2⟩

end PyGql.Heap.Own
