/-
  Document level: `parse_executable_definition`, `parse_definition`, `parse_document`.
  The type-system branches are abstracted as hypotheses (`TSSound`, `TSComplete`), discharged in `ParseTSSound` /
  `ParseTSTakesDefs`; with `allow_type_system = false` they are unreachable.
-/
import PyGqlModel.Lemmas.ParseExecL
namespace PyGql.Parse
open PyGql PyGql.Ast PyGql.Spec

theorem opKeywords_iff (v : Text) :
    v ∈ Generated.ParserTables.operationTypesKeywords ↔ v ∈ Generated.ParserTables.operationTypeTuple := by
  simp [Generated.ParserTables.operationTypesKeywords, Generated.ParserTables.operationTypeTuple] <;> grind

theorem parseExecutableDefinition_sound (fl : Flags) (fuel : Nat) (s : PS) (d : Definition) (s' : PS)
    (h : parseExecutableDefinition fl fuel s = .ok (d, s')) :
    wfDefinition fl d = true ∧ isTypeSystem d = false ∧
      (definitionV d).check fl s.last s.toks = some (s'.last, s'.toks) := by
  have op : ∀ {s : PS}, (parseOperationDefinition fl fuel >>= fun d => pure (Definition.operation d)) s = .ok (d, s') →
      wfDefinition fl d = true ∧ isTypeSystem d = false ∧
        (definitionV d).check fl s.last s.toks = some (s'.last, s'.toks) := by
    intro s h
    obtain ⟨od, s2, ho, h⟩ := bind_inv h
    cases h
    obtain ⟨w, c⟩ := parseOperationDefinition_sound fl fuel _ _ _ ho
    exact ⟨w, rfl, c⟩
  unfold parseExecutableDefinition at h
  obtain ⟨st, ts, h1, h⟩ := peek_bind h
  rcases ite_inv h with ⟨_, h⟩ | ⟨_, h⟩
  · rcases ite_inv h with ⟨_, h⟩ | ⟨_, h⟩
    · exact op h
    rcases ite_inv h with ⟨_, h⟩ | ⟨_, h⟩
    · obtain ⟨fd, s2, hfd, h⟩ := bind_inv h
      cases h
      obtain ⟨w, c⟩ := parseFragmentDefinition_sound fl fuel _ _ _ hfd
      exact ⟨w, rfl, c⟩
    · exact ((fail_ok ..).1 h).elim
  · rcases ite_inv h with ⟨_, h⟩ | ⟨_, h⟩
    · exact op h
    · exact ((fail_ok ..).1 h).elim

theorem operationV_first {fl : Flags} {d : OperationDefinition} {l : Tok} {ts : List Tok} {r : Tok × List Tok}
    (w : wfOperation d = true) (h : (operationV d).check fl l ts = some r) :
    ∃ t tl, ts = t :: tl ∧ (t.kind = .curlyL ∨
      (t.kind = .name ∧ t.value ∈ Generated.ParserTables.operationTypeTuple)) := by
  rcases r with ⟨l', rest⟩
  rcases d with ⟨op, nm, vds, ds, ss, loc⟩
  simp only [wfOperation, Bool.and_eq_true, decide_eq_true_eq] at w
  by_cases hsh : isShorthand ⟨op, nm, vds, ds, ss, loc⟩ = true
  · simp only [operationV, hsh, if_true, check_node] at h
    obtain ⟨f, tl, rfl, hall, _⟩ := h
    refine ⟨f, tl, rfl, ?_⟩
    rw [checkAll_cons] at hall
    obtain ⟨l1, ts1, hopt, hs⟩ := hall
    rw [check_optTok] at hopt
    rcases hopt with ⟨t, e, hc, _⟩ | ⟨_, rfl, _⟩
    · cases e
      obtain ⟨hk, hv⟩ := cls_kw_inv hc
      exact Or.inr ⟨hk, hv ▸ query_mem⟩
    · simp only [checkAll_cons] at hs
      obtain ⟨_, _, hs, _⟩ := hs
      obtain ⟨t, tl', e, hk⟩ := selectionSetV_first hs
      cases e; exact Or.inl hk
  · simp only [operationV, hsh, Bool.false_eq_true, if_false, check_node, checkAll_cons, check_tok] at h
    obtain ⟨f, tl, rfl, ⟨l1, ts1, ⟨t, e, hc, _⟩, _⟩, _⟩ := h
    cases e
    obtain ⟨hk, hv⟩ := cls_kw_inv hc
    exact ⟨_, _, rfl, Or.inr ⟨hk, hv ▸ w.1.1.1⟩⟩

theorem fragmentV_first {fl : Flags} {d : FragmentDefinition} {l : Tok} {ts : List Tok} {r : Tok × List Tok}
    (h : (fragmentV d).check fl l ts = some r) :
    ∃ t tl, ts = t :: tl ∧ t.kind = .name ∧ t.value = K.fragment := by
  rcases r with ⟨l', rest⟩
  simp only [fragmentV, check_node, checkAll_cons, check_tok] at h
  obtain ⟨f, tl, rfl, ⟨l1, ts1, ⟨t, e, hc, _⟩, _⟩, _⟩ := h
  cases e
  exact ⟨_, _, rfl, cls_kw_inv hc⟩

theorem fragment_not_op : K.fragment ∉ Generated.ParserTables.operationTypesKeywords := by decide +kernel

theorem parseExecutableDefinition_complete (fl : Flags) (fuel : Nat) (d : Definition) (l l' : Tok)
    (ts rest : List Tok) (hx : isTypeSystem d = false) (w : wfDefinition fl d = true) (hf : ts.length ≤ fuel)
    (h : (definitionV d).check fl l ts = some (l', rest)) :
    parseExecutableDefinition fl fuel ⟨ts, l⟩ = .ok (d, ⟨rest, l'⟩) := by
  cases d with
  | operation od =>
    have c := parseOperationDefinition_takes fl fuel od w l ts l' rest hf h trivial
    obtain ⟨t, tl, rfl, hk⟩ := operationV_first w h
    rcases hk with hk | ⟨hk, hv⟩
    · have hn : ¬t.kind = .name := by simp [hk]
      exact bind_run (peek_cons ..) (if_neg hn ▸ if_pos hk ▸ bind_run c rfl)
    · exact bind_run (peek_cons ..) (if_pos hk ▸ if_pos ((opKeywords_iff _).2 hv) ▸ bind_run c rfl)
  | fragment fd =>
    have c := parseFragmentDefinition_takes fl fuel fd w l ts l' rest hf h trivial
    obtain ⟨t, tl, rfl, hk, hv⟩ := fragmentV_first h
    exact bind_run (peek_cons ..) (if_pos hk ▸ if_neg (hv ▸ fragment_not_op) ▸ if_pos hv ▸ bind_run c rfl)
  | _ => simp [isTypeSystem] at hx

def defKeywords : List Text :=
  [K.query, K.mutation, K.subscription, K.fragment, K.schema, K.scalar, K.type_, K.interface_, K.union, K.enum_,
   K.input, K.directive, K.extend]

/-- the token after a definition starts the next definition or is `<EOF>` -/
def DefStart (t : Tok) : Prop :=
  t.kind = .eof ∨ t.kind = .curlyL ∨ t.kind = .string ∨ t.kind = .blockString ∨
    (t.kind = .name ∧ t.value ∈ defKeywords)

def FollowDef (ts : List Tok) : Prop := ∃ t tl, ts = t :: tl ∧ DefStart t

def isExtension : Definition → Bool
  | .schemaExtension .. | .scalarTypeExtension .. | .objectTypeExtension .. | .interfaceTypeExtension ..
  | .unionTypeExtension .. | .enumTypeExtension .. | .inputObjectTypeExtension .. => true
  | _ => false

structure TSSound (fl : Flags) (fuel : Nat) : Prop where
  def_ : ∀ s d s', parseTypeSystemDefinition fl fuel s = .ok (d, s') →
    wfDefinition fl d = true ∧ isTypeSystem d = true ∧ (definitionV d).check fl s.last s.toks = some (s'.last, s'.toks)
  ext : ∀ s d s', parseTypeSystemExtension fl fuel s = .ok (d, s') →
    wfDefinition fl d = true ∧ isTypeSystem d = true ∧ (definitionV d).check fl s.last s.toks = some (s'.last, s'.toks)

structure TSComplete (fl : Flags) (fuel : Nat) : Prop where
  first : ∀ d l ts r, isTypeSystem d = true → wfDefinition fl d = true → (definitionV d).check fl l ts = some r →
    ∃ t tl, ts = t :: tl ∧
      if isExtension d then t.kind = .name ∧ t.value = K.extend
      else (t.kind = .string ∨ t.kind = .blockString ∨
        (t.kind = .name ∧ t.value ∈ Generated.ParserTables.schemaDefinitionsKeywords))
  def_ : ∀ d l l' ts rest, isTypeSystem d = true → isExtension d = false → wfDefinition fl d = true →
    ts.length ≤ fuel → (definitionV d).check fl l ts = some (l', rest) → FollowDef rest →
    parseTypeSystemDefinition fl fuel ⟨ts, l⟩ = .ok (d, ⟨rest, l'⟩)
  ext : ∀ d l l' ts rest, isTypeSystem d = true → isExtension d = true → wfDefinition fl d = true →
    ts.length ≤ fuel → (definitionV d).check fl l ts = some (l', rest) → FollowDef rest →
    parseTypeSystemExtension fl fuel ⟨ts, l⟩ = .ok (d, ⟨rest, l'⟩)

theorem parseDefinition_sound (fl : Flags) (fuel : Nat) (hTS : fl.allowTypeSystem = true → TSSound fl fuel)
    (s : PS) (d : Definition) (s' : PS) (h : parseDefinition fl fuel s = .ok (d, s')) :
    (wfDefinition fl d = true ∧ (fl.allowTypeSystem || !isTypeSystem d) = true) ∧
      (definitionV d).check fl s.last s.toks = some (s'.last, s'.toks) := by
  simp only [parseDefinition, bind_ok, peek_ok, ite_ok, fail_ok, and_false, or_false] at h
  obtain ⟨st, s1, ⟨ts, h1, hs1⟩, h⟩ := h
  subst hs1
  have hex : ∀ {d s'}, parseExecutableDefinition fl fuel s1 = .ok (d, s') →
      (wfDefinition fl d = true ∧ (fl.allowTypeSystem || !isTypeSystem d) = true) ∧
      (definitionV d).check fl s1.last s1.toks = some (s'.last, s'.toks) := by
    intro d s' h
    obtain ⟨w, x, c⟩ := parseExecutableDefinition_sound fl fuel _ _ _ h
    exact ⟨⟨w, by simp [x]⟩, c⟩
  rcases h with ⟨_, ⟨_, h⟩ | ⟨_, hts, ⟨_, h⟩ | ⟨_, _, h⟩⟩⟩ | ⟨_, ⟨_, h⟩ | ⟨_, ⟨hts, _⟩, h⟩⟩
  · exact hex h
  · obtain ⟨w, x, c⟩ := (hTS hts).def_ _ _ _ h
    exact ⟨⟨w, by simp [hts]⟩, c⟩
  · obtain ⟨w, x, c⟩ := (hTS hts).ext _ _ _ h
    exact ⟨⟨w, by simp [hts]⟩, c⟩
  · exact hex h
  · obtain ⟨w, x, c⟩ := (hTS hts).def_ _ _ _ h
    exact ⟨⟨w, by simp [hts]⟩, c⟩

theorem parseDocumentP_sound (fl : Flags) (fuel : Nat) (hTS : fl.allowTypeSystem = true → TSSound fl fuel)
    (s : PS) (d : Document) (s' : PS) (h : parseDocumentP fl fuel s = .ok (d, s')) :
    wfDocument fl d = true ∧ (documentV d).check fl s.last s.toks = some (s'.last, s'.toks) := by
  unfold parseDocumentP at h
  obtain ⟨st, ts, h1, h⟩ := peek_bind h
  obtain ⟨defs, s2, hm, h⟩ := bind_inv h
  cases h
  obtain ⟨⟨ne, q⟩, c⟩ := many_sound (V := definitionV) rfl rfl (parseDefinition_sound fl fuel hTS) _ _ _ _ hm
  refine ⟨?_, chk_node h1 c⟩
  simp only [wfDocument, Bool.and_eq_true, List.all_eq_true]
  exact ⟨by cases defs <;> simp_all, fun x hx => q x hx⟩


open Generated.ParserTables in
theorem tuple_exec (v : Text) (h : v ∈ Generated.ParserTables.operationTypeTuple) :
    v ∈ Generated.ParserTables.executableDefinitionsKeywords :=
  (by decide +kernel : ∀ v ∈ operationTypeTuple, v ∈ executableDefinitionsKeywords) v h

theorem fragment_exec : K.fragment ∈ Generated.ParserTables.executableDefinitionsKeywords := by decide +kernel
theorem extend_not_exec : K.extend ∉ Generated.ParserTables.executableDefinitionsKeywords := by decide +kernel
theorem extend_not_schema : K.extend ∉ Generated.ParserTables.schemaDefinitionsKeywords := by decide +kernel
open Generated.ParserTables in
theorem schema_not_exec (v : Text) (h : v ∈ Generated.ParserTables.schemaDefinitionsKeywords) :
    v ∉ Generated.ParserTables.executableDefinitionsKeywords :=
  (by decide +kernel : ∀ v ∈ schemaDefinitionsKeywords, v ∉ executableDefinitionsKeywords) v h
open Generated.ParserTables in
theorem exec_def (v : Text) (h : v ∈ Generated.ParserTables.executableDefinitionsKeywords) : v ∈ defKeywords :=
  (by decide +kernel : ∀ v ∈ executableDefinitionsKeywords, v ∈ defKeywords) v h
open Generated.ParserTables in
theorem schema_def (v : Text) (h : v ∈ Generated.ParserTables.schemaDefinitionsKeywords) : v ∈ defKeywords :=
  (by decide +kernel : ∀ v ∈ schemaDefinitionsKeywords, v ∈ defKeywords) v h
theorem extend_def : K.extend ∈ defKeywords := by decide +kernel

theorem definitionV_first (fl : Flags) (fuel : Nat) (hTS : fl.allowTypeSystem = true → TSComplete fl fuel)
    (d : Definition) (l : Tok) (ts : List Tok) (r : Tok × List Tok)
    (w : wfDefinition fl d = true) (ha : (fl.allowTypeSystem || !isTypeSystem d) = true)
    (h : (definitionV d).check fl l ts = some r) :
    ∃ t tl, ts = t :: tl ∧ DefStart t ∧ t.kind ≠ .eof := by
  cases hx : isTypeSystem d with
  | false =>
    cases d with
    | operation od =>
      simp only [wfDefinition] at w; simp only [definitionV] at h
      obtain ⟨t, tl, rfl, hk⟩ := operationV_first w h
      rcases hk with hk | ⟨hk, hv⟩
      · exact ⟨_, _, rfl, Or.inr (Or.inl hk), by simp [hk]⟩
      · exact ⟨_, _, rfl, Or.inr (Or.inr (Or.inr (Or.inr ⟨hk, exec_def _ (tuple_exec _ hv)⟩))), by simp [hk]⟩
    | fragment fd =>
      simp only [definitionV] at h
      obtain ⟨t, tl, rfl, hk, hv⟩ := fragmentV_first h
      exact ⟨_, _, rfl, Or.inr (Or.inr (Or.inr (Or.inr ⟨hk, hv ▸ exec_def _ fragment_exec⟩))), by simp [hk]⟩
    | _ => simp [isTypeSystem] at hx
  | true =>
    have hts : fl.allowTypeSystem = true := by simpa [hx] using ha
    obtain ⟨t, tl, rfl, hk⟩ := (hTS hts).first d l ts r hx w h
    refine ⟨t, tl, rfl, ?_⟩
    split at hk
    · exact ⟨Or.inr (Or.inr (Or.inr (Or.inr ⟨hk.1, hk.2 ▸ extend_def⟩))), by simp [hk.1]⟩
    · rcases hk with hk | hk | ⟨hk, hv⟩
      · exact ⟨Or.inr (Or.inr (Or.inl hk)), by simp [hk]⟩
      · exact ⟨Or.inr (Or.inr (Or.inr (Or.inl hk))), by simp [hk]⟩
      · exact ⟨Or.inr (Or.inr (Or.inr (Or.inr ⟨hk, schema_def _ hv⟩))), by simp [hk]⟩

theorem parseDefinition_complete (fl : Flags) (fuel : Nat) (hTS : fl.allowTypeSystem = true → TSComplete fl fuel)
    (d : Definition) (l l' : Tok) (ts rest : List Tok)
    (w : wfDefinition fl d = true) (ha : (fl.allowTypeSystem || !isTypeSystem d) = true) (hf : ts.length ≤ fuel)
    (h : (definitionV d).check fl l ts = some (l', rest)) (hfol : FollowDef rest) :
    parseDefinition fl fuel ⟨ts, l⟩ = .ok (d, ⟨rest, l'⟩) := by
  cases hx : isTypeSystem d with
  | false =>
    have c := parseExecutableDefinition_complete fl fuel d l l' ts rest hx w hf h
    cases d with
    | operation od =>
      obtain ⟨t, tl, rfl, hk⟩ := operationV_first w h
      rcases hk with hk | ⟨hk, hv⟩
      · have hn : ¬t.kind = .name := by simp [hk]
        exact bind_run (peek_cons ..) (if_neg hn ▸ if_pos hk ▸ c)
      · exact bind_run (peek_cons ..) (if_pos hk ▸ if_pos (tuple_exec _ hv) ▸ c)
    | fragment fd =>
      obtain ⟨t, tl, rfl, hk, hv⟩ := fragmentV_first h
      exact bind_run (peek_cons ..) (if_pos hk ▸ if_pos (hv ▸ fragment_exec) ▸ c)
    | _ => simp [isTypeSystem] at hx
  | true =>
    have hts : fl.allowTypeSystem = true := by simpa [hx] using ha
    obtain ⟨t, tl, rfl, hk⟩ := (hTS hts).first d l ts _ hx w h
    cases he : isExtension d with
    | true =>
      simp only [he, if_true] at hk
      have c := (hTS hts).ext d l l' _ rest hx he w hf h hfol
      exact bind_run (peek_cons ..) (if_pos hk.1 ▸ if_neg (hk.2 ▸ extend_not_exec) ▸ if_pos hts ▸
        if_neg (hk.2 ▸ extend_not_schema) ▸ if_pos hk.2 ▸ c)
    | false =>
      simp only [he, Bool.false_eq_true, if_false] at hk
      have c := (hTS hts).def_ d l l' _ rest hx he w hf h hfol
      rcases hk with hk | hk | ⟨hk, hv⟩
      · have hn : ¬t.kind = .name := by simp [hk]
        have hc : ¬t.kind = .curlyL := by simp [hk]
        exact bind_run (peek_cons ..) (if_neg hn ▸ if_neg hc ▸ if_pos (And.intro hts (Or.inl hk)) ▸ c)
      · have hn : ¬t.kind = .name := by simp [hk]
        have hc : ¬t.kind = .curlyL := by simp [hk]
        exact bind_run (peek_cons ..) (if_neg hn ▸ if_neg hc ▸ if_pos (And.intro hts (Or.inr hk)) ▸ c)
      · exact bind_run (peek_cons ..) (if_pos hk ▸ if_neg (schema_not_exec _ hv) ▸ if_pos hts ▸ if_pos hv ▸ c)

def defKeyword : Definition → Text
  | .schemaDefinition .. | .schemaExtension .. => K.schema
  | .scalarTypeDefinition .. | .scalarTypeExtension .. => K.scalar
  | .objectTypeDefinition .. | .objectTypeExtension .. => K.type_
  | .interfaceTypeDefinition .. | .interfaceTypeExtension .. => K.interface_
  | .unionTypeDefinition .. | .unionTypeExtension .. => K.union
  | .enumTypeDefinition .. | .enumTypeExtension .. => K.enum_
  | .inputObjectTypeDefinition .. | .inputObjectTypeExtension .. => K.input
  | .directiveDefinition .. => K.directive
  | _ => []

open Generated.ParserTables in
/-- a type-system definition is `Description? keyword …`, the keyword being one the dispatcher tests for -/
theorem definitionV_head (d : Definition) (hx : isTypeSystem d = true) (he : isExtension d = false) :
    defKeyword d ∈ Generated.ParserTables.schemaDefinitionsKeywords ∧
    ∃ desc tail loc, definitionV d = .node loc (descV desc ++ Spec.kw (defKeyword d) :: tail) := by
  cases d with
  | schemaDefinition ds ops loc =>
    exact ⟨(by decide +kernel : K.schema ∈ schemaDefinitionsKeywords), none, _, _, rfl⟩
  | scalarTypeDefinition desc nm ds loc =>
    exact ⟨(by decide +kernel : K.scalar ∈ schemaDefinitionsKeywords), desc, _, _, rfl⟩
  | objectTypeDefinition desc nm ifs ds fs loc =>
    exact ⟨(by decide +kernel : K.type_ ∈ schemaDefinitionsKeywords), desc, _, _, rfl⟩
  | interfaceTypeDefinition desc nm ds fs loc =>
    exact ⟨(by decide +kernel : K.interface_ ∈ schemaDefinitionsKeywords), desc, _, _, rfl⟩
  | unionTypeDefinition desc nm ds us loc =>
    exact ⟨(by decide +kernel : K.union ∈ schemaDefinitionsKeywords), desc, _, _, rfl⟩
  | enumTypeDefinition desc nm ds vs loc =>
    exact ⟨(by decide +kernel : K.enum_ ∈ schemaDefinitionsKeywords), desc, _, _, rfl⟩
  | inputObjectTypeDefinition desc nm ds fs loc =>
    exact ⟨(by decide +kernel : K.input ∈ schemaDefinitionsKeywords), desc, _, _, rfl⟩
  | directiveDefinition desc nm args locs loc =>
    exact ⟨(by decide +kernel : K.directive ∈ schemaDefinitionsKeywords), desc, _, _, rfl⟩
  | _ => simp [isTypeSystem, isExtension] at hx he

theorem definitionV_extHead (d : Definition) (he : isExtension d = true) :
    ∃ tail loc, definitionV d = .node loc (Spec.kw K.extend :: Spec.kw (defKeyword d) :: tail) := by
  cases d with
  | schemaExtension ds ops loc => exact ⟨_, _, rfl⟩
  | scalarTypeExtension nm ds loc => exact ⟨_, _, rfl⟩
  | objectTypeExtension nm ifs ds fs loc => exact ⟨_, _, rfl⟩
  | interfaceTypeExtension nm ds fs loc => exact ⟨_, _, rfl⟩
  | unionTypeExtension nm ds us loc => exact ⟨_, _, rfl⟩
  | enumTypeExtension nm ds vs loc => exact ⟨_, _, rfl⟩
  | inputObjectTypeExtension nm ds fs loc => exact ⟨_, _, rfl⟩
  | _ => simp [isExtension] at he

theorem definitionV_width (d : Definition) : 1 ≤ (definitionV d).yield.length := by
  cases hx : isTypeSystem d with
  | false =>
    cases d with
    | operation od =>
      simp only [definitionV, operationV]
      split <;> simp [Item.yield, Item.yieldAll]
      · cases od.selectionSet; simp [selectionSetV, Item.yield, Item.yieldAll]
    | fragment fd => simp [definitionV, fragmentV, Item.yield, Item.yieldAll]
    | _ => cases hx
  | true =>
    cases he : isExtension d with
    | true =>
      obtain ⟨tail, loc, e⟩ := definitionV_extHead d he
      simp [e, Item.yield, Item.yieldAll]
    | false =>
      obtain ⟨_, desc, tail, loc, e⟩ := definitionV_head d hx he
      simp only [e, Item.yield, Item.yieldAll, yieldAll_append, List.length_append, List.length_cons]
      omega

theorem parseDocumentP_complete (fl : Flags) (fuel : Nat) (hTS : fl.allowTypeSystem = true → TSComplete fl fuel)
    (d : Document) (l l' : Tok) (ts rest : List Tok) (w : wfDocument fl d = true) (hf : ts.length ≤ fuel)
    (h : (documentV d).check fl l ts = some (l', rest)) :
    parseDocumentP fl fuel ⟨ts, l⟩ = .ok (d, ⟨rest, l'⟩) := by
  rcases d with ⟨defs, loc⟩
  simp only [wfDocument, Bool.and_eq_true, List.all_eq_true] at w
  simp only [documentV, check_node] at h
  obtain ⟨f, tl, rfl, hall, rfl⟩ := h
  have hne : defs ≠ [] := by cases defs <;> simp_all
  have c := many_takes (opn := .sof) definitionV_width hf hne
    (fun x hx l ts' l' rest hl hc hfo => parseDefinition_complete fl fuel hTS x l l' ts' rest (w.2 x hx).1 (w.2 x hx).2
      (Nat.le_trans hl (Nat.le_trans (Nat.sub_le ..) hf)) hc hfo)
    (fun x hx l ts r hc => by
      obtain ⟨t, tl', rfl, hs, hk⟩ := definitionV_first fl fuel hTS x l ts r (w.2 x hx).1 (w.2 x hx).2 hc
      exact ⟨⟨t, tl', rfl, hs⟩, NotK.cons (by simpa using hk)⟩)
    (fun t tl hk => ⟨t, tl, rfl, Or.inl hk⟩) l (f :: tl) l' rest (Nat.le_refl _) hall trivial
  exact bind_run (peek_cons ..) (bind_run c rfl)

end PyGql.Parse
