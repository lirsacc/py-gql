/-
  C12 text level — the members printed by `SdlPrintTA` (input values, arguments in both layouts, fields, enum values,
  input fields) against the views of the document `schemaToDocA` denotes.  Descriptions, default values and applied
  directives enter through the abstract parts `DescPart` / `DefaultPart` / `DirsFacts` (trivial when absent; discharged
  separately when present).  The directive-free printer `SdlPrintT` is `SdlPrintTA` with the option off.
-/
import PyGqlModel.Lemmas.SdlTextDefaults
import PyGqlModel.SdlPrintTA
import PyGqlModel.Lemmas.ListBasics
namespace PyGql.SdlText
open PyGql PyGql.Ast PyGql.Sdl PyGql.Spec PyGql.PrintLex PyGql.PrintTokens PyGql.PrintMatch PyGql.PrintString PyGql.SdlPrint

def DescPart (txt : Text) (cs : List TokClass) : Prop :=
  (txt = [] ∧ cs = []) ∨ ∃ pre, txt = pre ++ [10] ∧ Lay pre cs

theorem descPart_none (o : SdlPrintT.OptsT) (depth : Nat) (first : Bool) :
    DescPart (SdlPrintT.printDescription o none depth first) (Item.yieldAll (descV (descOf (descToDoc none)))) :=
  Or.inl ⟨rfl, rfl⟩

theorem lay_desc_then {txt b : Text} {cs cb : List TokClass} (h : DescPart txt cs) (hb : Lay b cb) :
    Lay (txt ++ b) (cs ++ cb) := by
  rcases h with ⟨rfl, rfl⟩ | ⟨pre, rfl, hpre⟩
  · simpa using hb
  · have := lay_append hpre (lay_lf_cons hb) (delimHead_cons (by decide))
    simpa [List.append_assoc] using this


def dfltOf (s : SchemaD) (a : ArgD) : Option Value := (argToDef s a).default.map valueOf

/-- the text ` = value` (nothing without a default) -/
def defaultTxt (s : SchemaD) (a : ArgD) : Text :=
  if a.hasDefault then [32, 61, 32] ++ SdlPrintT.valueText s a.default a.type else []

def DefaultPart (s : SchemaD) (a : ArgD) : Prop :=
  Lay (defaultTxt s a) (Item.yieldAll (defaultV (dfltOf s a))) ∧ (defaultTxt s a = [] ∨ EndsNW (defaultTxt s a))

theorem defaultPart_none (s : SchemaD) (a : ArgD) (h : a.hasDefault = false) : DefaultPart s a := by
  have e1 : defaultTxt s a = [] := by simp [defaultTxt, h]
  have e2 : dfltOf s a = none := by simp [dfltOf, argToDef, h]
  rw [DefaultPart, e1, e2]
  exact ⟨by simpa [defaultV, Item.yieldAll] using lay_nil, Or.inl rfl⟩

theorem delimHead_defaultTxt (s : SchemaD) (a : ArgD) : DelimHead (defaultTxt s a) := by
  unfold defaultTxt; split
  · exact delimHead_cons (by decide)
  · exact delimHead_nil

theorem defaultPart_of_ok (s : SchemaD) (w : Nat) (a : ArgD) (h : argOKT s w a = true) : DefaultPart s a := by
  simp only [argOKT, Bool.and_eq_true] at h
  obtain ⟨_, hd⟩ := h
  by_cases hh : a.hasDefault = true
  · simp only [hh, ↓reduceIte] at hd
    cases hv : valueLit s valueFuel a.default a.type with
    | none => rw [hv] at hd; cases hd
    | some l =>
      rw [hv] at hd
      have et : defaultTxt s a = 32 :: 61 :: 32 :: SdlPrintT.litText l := by
        simp [defaultTxt, hh, SdlPrintT.valueText, hv]
      have ed : dfltOf s a = some (valueOf l) := by simp [dfltOf, argToDef, hh, hv]
      rw [DefaultPart, et, ed]
      refine ⟨?_, Or.inr (endsNW_append (a := [32, 61, 32]) (endsNW_litText l hd))⟩
      have := lay_space_cons (lay_equals (lay_space_cons (lay_litText l hd)))
      simpa [defaultV, Item.yieldAll, Item.yield] using this
  · exact defaultPart_none s a (by simpa using hh)

open PyGql.Parse


theorem okArguments_argOf (ind : Text) : ∀ (as : List (String × Lit)),
    as.all (fun a => nameOK a.1 && litOK a.2) = true → okArguments ind (as.map argOf)
  | [], _ => trivial
  | a :: as, h => by
    simp only [List.all_cons, Bool.and_eq_true] at h
    exact ⟨⟨h.1.1, okValue_valueOf ind a.2 h.1.2⟩, okArguments_argOf ind as h.2⟩

theorem okDirective_dirOf (ind : Text) (d : DirApp) (h : SdlPrintTA.dirAppOK d = true) : okDirective ind (dirOf d) := by
  simp only [SdlPrintTA.dirAppOK, Bool.and_eq_true] at h
  exact ⟨h.1, okArguments_argOf ind d.args h.2⟩

theorem okDirectives_dirOf (ind : Text) : ∀ ds : List DirApp, ds.all SdlPrintTA.dirAppOK = true → okDirectives ind (ds.map dirOf)
  | [], _ => trivial
  | d :: ds, h => by
    simp only [List.all_cons, Bool.and_eq_true] at h
    exact ⟨okDirective_dirOf ind d h.1, okDirectives_dirOf ind ds h.2⟩

theorem endsNW_printDirective (c : Print.Cfg) (d : Directive) (h : okDirective c.indent d) : EndsNW (Print.printDirective c d) := by
  unfold Print.printDirective
  cases ha : d.arguments with
  | nil =>
    have e : Print.printArguments c [] = [] := by simp [Print.printArguments, Print.join, Print.joinSep, Print.wrap]
    rw [e]
    simpa using endsNW_append (a := [64]) (endsNW_name h.1)
  | cons a as =>
    rw [printArguments_eq]
    have := endsNW_snoc (64 :: (d.name.value ++ 40 :: Print.joinSep [44, 32] ((a :: as).map (Print.printArgument c)))) 41 (by decide)
    simpa [List.append_assoc] using this

theorem endsNW_joinSep (sep : Text) : ∀ (xs : List Text), xs ≠ [] → (∀ x ∈ xs, EndsNW x) → EndsNW (Print.joinSep sep xs)
  | [], h, _ => absurd rfl h
  | [x], _, h => by simpa [Print.joinSep] using h x (by simp)
  | x :: y :: ys, _, h => by
    have := endsNW_joinSep sep (y :: ys) (by simp) (fun z hz => h z (by simp [hz]))
    simpa [Print.joinSep, List.append_assoc] using endsNW_append (a := x ++ sep) this

/-- what the layouts need about a printed list of applications: it lexes to the directives' classes, starts with a
    delimiter, and is empty, a lone space (nodes present, none printed — the quirk) or ends with a non-blank -/
structure DirsFacts (txt : Text) (ds : List DirApp) : Prop where
  lay : Lay txt (Item.yieldAll (directivesV (ds.map dirOf)))
  delim : DelimHead txt
  shape : (txt = [] ∧ ds = []) ∨ (txt = [32] ∧ ds = []) ∨ EndsNW txt

theorem dirsFacts (c : SdlPrintTA.OptsA) (apps : Apps) (path : String) (h : SdlPrintTA.appsOKAt c apps path = true) :
    DirsFacts (SdlPrintTA.printDirectives c apps path) (SdlPrintTA.keptAt c apps path) := by
  unfold SdlPrintTA.printDirectives
  by_cases hn : (SdlPrintTA.nodesAt c apps path).isEmpty = true
  · have hk : SdlPrintTA.keptAt c apps path = [] := by
      unfold SdlPrintTA.keptAt; rw [List.isEmpty_iff.1 hn]; rfl
    rw [if_pos hn, hk]
    exact ⟨by simpa [directivesV, Item.yieldAll] using lay_nil, delimHead_nil, Or.inl ⟨rfl, rfl⟩⟩
  · rw [if_neg hn]
    cases hk : SdlPrintTA.keptAt c apps path with
    | nil =>
      refine ⟨?_, delimHead_cons (by decide), Or.inr (Or.inl ⟨by simp [SdlPrintT.joinSep], rfl⟩)⟩
      simpa [SdlPrintT.joinSep, directivesV, Item.yieldAll] using lay_space_cons lay_nil
    | cons d ds =>
      have hok : okDirectives (Print.mkCfg).indent ((d :: ds).map dirOf) := by
        apply okDirectives_dirOf
        unfold SdlPrintTA.appsOKAt at h; rw [hk] at h; exact h
      have emap : (d :: ds).map SdlPrintTA.dirText = ((d :: ds).map dirOf).map (Print.printDirective Print.mkCfg) := by
        simp [SdlPrintTA.dirText, List.map_map, Function.comp_def]
      rw [joinSep_eq, emap]
      refine ⟨lay_space_cons (lay_directiveList _ _ hok), delimHead_cons (by decide), Or.inr (Or.inr ?_)⟩
      apply endsNW_append (a := [32])
      apply endsNW_joinSep _ _ (by simp)
      intro x hx
      simp only [List.mem_map] at hx
      obtain ⟨y, hy, rfl⟩ := hx
      have hoky : okDirective (Print.mkCfg).indent y := by
        obtain ⟨z, hz, rfl⟩ := hy
        apply okDirective_dirOf
        unfold SdlPrintTA.appsOKAt at h; rw [hk] at h
        exact List.all_eq_true.1 h z hz
      exact endsNW_printDirective _ y hoky

abbrev dirsCls (ds : List DirApp) : List TokClass := Item.yieldAll (directivesV (ds.map dirOf))

theorem dirsCls_append (a b : List DirApp) : dirsCls (a ++ b) = dirsCls a ++ dirsCls b := by
  simp [dirsCls, directivesV, List.map_append, Parse.yieldAll_append]

theorem dirsCls_nil : dirsCls [] = [] := by simp [dirsCls, directivesV, Item.yieldAll]

theorem rstrip_snoc_space (x : Text) : SdlPrintT.rstrip (x ++ [32]) = SdlPrintT.rstrip x := by
  simp [SdlPrintT.rstrip, show SdlPrintT.isWs 32 = true from rfl]

/-- `rstrip(core + print_directives(..))`: a lone space is stripped, printed applications stay -/
theorem lay_rstrip_tail {core pd : Text} {ds : List DirApp} {cls : List TokClass} (he : EndsNW core) (hf : DirsFacts pd ds)
    (hl : Lay core cls) : Lay (SdlPrintT.rstrip (core ++ pd)) (cls ++ dirsCls ds) ∧ EndsNW (SdlPrintT.rstrip (core ++ pd)) := by
  rcases hf.shape with ⟨rfl, rfl⟩ | ⟨rfl, rfl⟩ | hnw
  · rw [List.append_nil, rstrip_of_endsNW he, dirsCls_nil, List.append_nil]; exact ⟨hl, he⟩
  · rw [rstrip_snoc_space, rstrip_of_endsNW he, dirsCls_nil, List.append_nil]; exact ⟨hl, he⟩
  · rw [rstrip_of_endsNW (endsNW_append hnw)]
    exact ⟨lay_append hl hf.lay hf.delim, endsNW_append hnw⟩

/-- the same for `strip` when the core starts with a non-blank -/
theorem lay_strip_tail {c : Nat} {t pd : Text} {ds : List DirApp} {cls : List TokClass} (hc : SdlPrintT.isWs c = false)
    (he : EndsNW (c :: t)) (hf : DirsFacts pd ds) (hl : Lay (c :: t) cls) :
    Lay (SdlPrintT.strip ((c :: t) ++ pd)) (cls ++ dirsCls ds) ∧ EndsNW (SdlPrintT.strip ((c :: t) ++ pd)) ∧
      ∃ t', SdlPrintT.strip ((c :: t) ++ pd) = c :: t' := by
  obtain ⟨h1, h2⟩ := lay_rstrip_tail he hf hl
  have hr : ∃ t', SdlPrintT.rstrip ((c :: t) ++ pd) = c :: t' := by
    rcases hf.shape with ⟨rfl, rfl⟩ | ⟨rfl, rfl⟩ | hnw
    · exact ⟨t, by rw [List.append_nil, rstrip_of_endsNW he]⟩
    · exact ⟨t, by rw [rstrip_snoc_space, rstrip_of_endsNW he]⟩
    · exact ⟨t ++ pd, by rw [rstrip_of_endsNW (endsNW_append hnw)]; rfl⟩
  obtain ⟨t', ht'⟩ := hr
  have hs : SdlPrintT.strip ((c :: t) ++ pd) = c :: t' := by
    unfold SdlPrintT.strip; rw [ht', lstrip_of_head c t' hc]
  rw [hs]; rw [ht'] at h1 h2
  exact ⟨h1, h2, t', rfl⟩


/-- `name: type = default`, the text of an input value before its applied directives -/
def ivText (s : SchemaD) (a : ArgD) : Text := T a.name ++ 58 :: 32 :: (SdlPrintT.renderTy a.type ++ defaultTxt s a)

/-- the tokens of an input value without its description and applied directives -/
def ivCore (s : SchemaD) (a : ArgD) : List TokClass :=
  (nameV (nameOf a.name)).yield ++ (.colon, []) :: ((typeV (typeOf a.type)).yield ++ Item.yieldAll (defaultV (dfltOf s a)))

/-- … with its applied directives -/
def ivCoreA (s : SchemaD) (c : SdlPrintTA.OptsA) (apps : Apps) (path : String) (a : ArgD) : List TokClass :=
  ivCore s a ++ dirsCls (SdlPrintTA.keptAt c apps (path ++ "." ++ a.name))

theorem inputValueVA_yield (s : SchemaD) (c : SdlPrintTA.OptsA) (apps : Apps) (path : String) (a : ArgD) :
    (inputValueV (inputValOf (SdlPrintTA.argToDefA s c apps path a))).yield =
      Item.yieldAll (descV (descOf (descToDoc a.desc))) ++ ivCoreA s c apps path a := by
  simp [inputValueV, inputValOf, SdlPrintTA.argToDefA, argToDef, ivCore, ivCoreA, dirsCls, dfltOf, nameV, Item.yield, Item.yieldAll,
    Parse.yieldAll_append]

/-- the conditions on one argument that do not concern its description -/
def ArgCoreA (s : SchemaD) (c : SdlPrintTA.OptsA) (apps : Apps) (path : String) (a : ArgD) : Prop :=
  nameOK a.name = true ∧ tyOK a.type = true ∧ DefaultPart s a ∧
  DirsFacts (SdlPrintTA.printDirectives c apps (path ++ "." ++ a.name)) (SdlPrintTA.keptAt c apps (path ++ "." ++ a.name))

theorem argCoreA_of_ok (s : SchemaD) (c : SdlPrintTA.OptsA) (apps : Apps) (path : String) (w : Nat) (a : ArgD)
    (h : argOKT s w a = true) (hk : SdlPrintTA.argAppsOK c apps path a = true) : ArgCoreA s c apps path a := by
  have hd := defaultPart_of_ok s w a h
  simp only [argOKT, Bool.and_eq_true] at h
  exact ⟨h.1.1.1, h.1.1.2, hd, dirsFacts c apps _ hk⟩

theorem lay_inputValueCoreA (s : SchemaD) (c : SdlPrintTA.OptsA) (apps : Apps) (path : String) (a : ArgD)
    (h : ArgCoreA s c apps path a) :
    Lay (SdlPrintTA.printInputValue s c apps path a) (ivCoreA s c apps path a) ∧ SdlPrintTA.printInputValue s c apps path a ≠ [] := by
  obtain ⟨hn, ht, hd, hf⟩ := h
  obtain ⟨ch, t, hct, hcw⟩ := headNW_name (w := T a.name) hn
  have hcoreL : Lay (ivText s a) (ivCore s a) := by
    have h1 := lay_append (lay_nameOf a.name hn) (lay_colon (lay_space_cons
      (lay_append (lay_renderTy a.type ht) hd.1 (delimHead_defaultTxt s a)))) (delimHead_cons (by decide))
    simpa [ivCore, ivText] using h1
  have hends : EndsNW (ivText s a) := by
    have h2 : EndsNW (58 :: 32 :: (SdlPrintT.renderTy a.type ++ defaultTxt s a)) :=
      endsNW_append (a := [58, 32]) (endsNW_append_nil (endsNW_renderTy _ ht) hd.2)
    exact endsNW_append h2
  have hform : (if a.hasDefault then (T a.name ++ [58, 32] ++ SdlPrintT.renderTy a.type) ++ [32, 61, 32] ++ SdlPrintT.valueText s a.default a.type
      else T a.name ++ [58, 32] ++ SdlPrintT.renderTy a.type) = ivText s a := by
    unfold ivText defaultTxt; split <;> simp [List.append_assoc]
  unfold SdlPrintTA.printInputValue
  simp only [hform]
  unfold ivText at hends hcoreL ⊢
  rw [hct] at hends hcoreL ⊢
  simp only [List.cons_append] at hends hcoreL ⊢
  obtain ⟨h1, _, t', ht'⟩ := lay_strip_tail hcw hends hf hcoreL
  simp only [List.cons_append] at h1 ht'
  exact ⟨h1, by rw [ht']; simp⟩


def ArgsPartA (s : SchemaD) (c : SdlPrintTA.OptsA) (apps : Apps) (path : String) (args : List ArgD) (depth : Nat) : Prop :=
  Lay (SdlPrintTA.printArguments s c apps path args depth)
    (Item.yieldAll (groupV .parenL .parenR inputValueV (args.map fun a => inputValOf (SdlPrintTA.argToDefA s c apps path a)))) ∧
  DelimHead (SdlPrintTA.printArguments s c apps path args depth)

theorem lay_arguments_onelineA (s : SchemaD) (c : SdlPrintTA.OptsA) (apps : Apps) (path : String) (args : List ArgD) (depth : Nat)
    (hm : SdlPrintT.multiArgs c.base args = false) (hnd : ∀ a ∈ args, descToDoc a.desc = none)
    (hc : ∀ a ∈ args, ArgCoreA s c apps path a) : ArgsPartA s c apps path args depth := by
  cases args with
  | nil => exact ⟨by simpa [SdlPrintTA.printArguments, groupV, Item.yieldAll] using lay_nil,
      by simpa [SdlPrintTA.printArguments] using delimHead_nil⟩
  | cons a as =>
    have hargs : ∀ (i : Nat) (l : List ArgD), SdlPrintTA.printArgs s c apps path depth false i l =
        l.map (SdlPrintTA.printInputValue s c apps path) := by
      intro i l
      induction l generalizing i with
      | nil => rfl
      | cons x xs ih => simp [SdlPrintTA.printArgs, ih]
    let ps : List LP := (a :: as).map fun x => (SdlPrintTA.printInputValue s c apps path x, ivCoreA s c apps path x)
    have hps : ∀ p ∈ ps, Lay p.1 p.2 := by
      intro p hp; simp only [ps, List.mem_map] at hp; obtain ⟨x, hx, rfl⟩ := hp
      exact (lay_inputValueCoreA s c apps path x (hc x hx)).1
    have l1 := lay_joinSep [44, 32] [] sep_comma (fun b => delimHead_cons (by decide)) ps hps
    have ef : ps.map Prod.fst = (a :: as).map (SdlPrintTA.printInputValue s c apps path) := by
      simp [ps, List.map_map, Function.comp_def]
    have ey : joinCls [] ps = Item.yieldAll (((a :: as).map fun x => inputValOf (SdlPrintTA.argToDefA s c apps path x)).map inputValueV) := by
      rw [joinCls_nil, yieldAll_map]
      simp only [ps, List.flatMap_map]
      apply List.flatMap_congr_mem
      intro x hx
      rw [inputValueVA_yield, hnd x hx]
      simp [descOf, descV, optV, Item.yieldAll]
    rw [ef, ey] at l1
    have htxt : SdlPrintTA.printArguments s c apps path (a :: as) depth =
        40 :: (Print.joinSep [44, 32] ((a :: as).map (SdlPrintTA.printInputValue s c apps path)) ++ [41]) := by
      simp [SdlPrintTA.printArguments, hm, hargs, joinSep_eq]
    rw [ArgsPartA, htxt]
    refine ⟨?_, delimHead_cons (by decide)⟩
    have := lay_parenL (lay_append l1 (lay_parenR lay_nil) (delimHead_cons (by decide)))
    simpa [groupV, Item.yieldAll, Item.yield, Parse.yieldAll_append] using this


/-- lines printed by an indexed member printer, joined by line feeds -/
theorem lay_lines {α} (pr : Nat → α → Text) (V : α → Item) (prs : Nat → List α → List Text)
    (hprs_nil : ∀ i, prs i [] = []) (hprs_cons : ∀ i x xs, prs i (x :: xs) = pr i x :: prs (i + 1) xs) :
    ∀ (l : List α) (i : Nat), (∀ j, ∀ x ∈ l, Lay (pr j x) (V x).yield) →
      Lay (Print.joinSep [10] (prs i l)) (Item.yieldAll (l.map V))
  | [], i, _ => by simpa [hprs_nil, Print.joinSep, Item.yieldAll] using lay_nil
  | [x], i, hl => by simpa [hprs_cons, hprs_nil, Print.joinSep, Item.yieldAll] using hl i x (by simp)
  | x :: y :: ys, i, hl => by
    have ih := lay_lines pr V prs hprs_nil hprs_cons (y :: ys) (i + 1) (fun j z hz => hl j z (by simp [hz]))
    rw [hprs_cons] at ih ⊢
    have := lay_append (hl i x (by simp)) (lay_lf_cons ih) (delimHead_cons (by decide))
    rw [hprs_cons]
    simpa [Print.joinSep, Item.yieldAll] using this

def ArgDescs (o : SdlPrintT.OptsT) (args : List ArgD) (depth : Nat) : Prop :=
  ∀ first, ∀ a ∈ args,
    DescPart (SdlPrintT.printDescription o a.desc depth first) (Item.yieldAll (descV (descOf (descToDoc a.desc))))

/-- `print_arguments`, one argument per line (some argument has a description) -/
theorem lay_arguments_multiA (s : SchemaD) (c : SdlPrintTA.OptsA) (apps : Apps) (path : String) (hind : Blank c.base.indent)
    (args : List ArgD) (depth : Nat) (hm : SdlPrintT.multiArgs c.base args = true) (hd : ArgDescs c.base args (depth + 1))
    (hc : ∀ a ∈ args, ArgCoreA s c apps path a) : ArgsPartA s c apps path args depth := by
  have hI := blank_repeatText c.base.indent hind depth
  have key := lay_lines
    (fun i x => SdlPrintT.printDescription c.base x.desc (depth + 1) (i == 0) ++ c.base.indent ++
      SdlPrintT.repeatText c.base.indent depth ++ SdlPrintTA.printInputValue s c apps path x)
    (fun a => inputValueV (inputValOf (SdlPrintTA.argToDefA s c apps path a)))
    (SdlPrintTA.printArgs s c apps path depth true) (fun _ => rfl) (fun _ _ _ => rfl) args 0 (by
      intro i x hx
      have := lay_desc_then (hd (i == 0) x hx)
        (lay_blank_prefix hind (lay_blank_prefix hI (lay_inputValueCoreA s c apps path x (hc x hx)).1))
      rw [inputValueVA_yield]
      simpa [List.append_assoc] using this)
  have hne : args.isEmpty = false := by
    cases args with
    | nil => simp [SdlPrintT.multiArgs] at hm
    | cons _ _ => rfl
  have htxt : SdlPrintTA.printArguments s c apps path args depth =
      SdlPrintT.repeatText c.base.indent depth ++ 40 :: 10 :: (Print.joinSep [10] (SdlPrintTA.printArgs s c apps path depth true 0 args) ++
        10 :: (SdlPrintT.repeatText c.base.indent depth ++ [41])) := by
    simp [SdlPrintTA.printArguments, hm, hne, joinSep_eq, List.append_assoc]
  rw [ArgsPartA, htxt]
  constructor
  · have l1 := lay_blank_prefix hI (lay_parenL (lay_lf_cons (lay_append key
      (lay_lf_cons (lay_blank_prefix hI (lay_parenR lay_nil))) (delimHead_cons (by decide)))))
    simpa [groupV, hne, Item.yieldAll, Item.yield, Parse.yieldAll_append, List.map_map, Function.comp_def] using l1
  · intro ch t e
    cases hr : SdlPrintT.repeatText c.base.indent depth with
    | nil => rw [hr] at e; cases e; decide
    | cons c' t' =>
      rw [hr] at e hI; cases e
      rcases hI ch (by simp) with rfl | rfl <;> decide


def kDeprecated : Text := T "deprecated"
def kReason : Text := T "reason"

theorem lay_deprecated (r : Option String) :
    Lay (SdlPrintT.printDeprecated r) (Item.yieldAll (directivesV ((deprDirs r).map dirOf))) ∧
    DelimHead (SdlPrintT.printDeprecated r) ∧ (SdlPrintT.printDeprecated r = [] ∨ EndsNW (SdlPrintT.printDeprecated r)) := by
  have hd : Spec.Lexical.isName kDeprecated = true := by decide +kernel
  have hr : Spec.Lexical.isName kReason = true := by decide +kernel
  have e1 : T " @deprecated" = 32 :: 64 :: kDeprecated := by decide +kernel
  have e2 : T " @deprecated(reason: " = 32 :: 64 :: (kDeprecated ++ 40 :: (kReason ++ [58, 32])) := by decide +kernel
  cases r with
  | none => exact ⟨by simpa [SdlPrintT.printDeprecated, deprDirs, directivesV, Item.yieldAll] using lay_nil, delimHead_nil, Or.inl rfl⟩
  | some x =>
    by_cases hx : (x.isEmpty || x == DEFAULT_DEPRECATION) = true
    · have ht : SdlPrintT.printDeprecated (some x) = 32 :: 64 :: kDeprecated := by simp [SdlPrintT.printDeprecated, hx, e1]
      have hdd : deprDirs (some x) = [{ name := "deprecated" }] := by simp [deprDirs, hx]
      rw [ht, hdd]
      refine ⟨?_, delimHead_cons (by decide), Or.inr (endsNW_append (a := [32, 64]) (endsNW_name hd))⟩
      have := lay_space_cons (lay_atSign (lay_name hd))
      simpa [directivesV, directiveV, dirOf, nameOf, nameV, argumentsV, groupV, kDeprecated, Item.yieldAll, Item.yield] using this
    · have hx' : (x.isEmpty || x == DEFAULT_DEPRECATION) = false := by simpa using hx
      have ht : SdlPrintT.printDeprecated (some x) =
          32 :: 64 :: (kDeprecated ++ 40 :: (kReason ++ 58 :: 32 :: (jsonDumps (T x) ++ [41]))) := by
        simp [SdlPrintT.printDeprecated, hx', e2, List.append_assoc]
      have hdd : deprDirs (some x) = [{ name := "deprecated", args := [("reason", .str x)] }] := by simp [deprDirs, hx']
      rw [ht, hdd]
      refine ⟨?_, delimHead_cons (by decide), Or.inr ?_⟩
      · have l1 := lay_append (lay_string (T x)) (lay_parenR lay_nil) (delimHead_cons (by decide))
        have l2 := lay_append (lay_name hr) (lay_colon (lay_space_cons l1)) (delimHead_cons (by decide))
        have l3 := lay_space_cons (lay_atSign (lay_append (lay_name hd) (lay_parenL l2) (delimHead_cons (by decide))))
        simpa [directivesV, directiveV, dirOf, argOf, nameOf, nameV, argumentsV, groupV, argumentV, valueOf, valueV, stringV,
          kDeprecated, kReason, Item.yieldAll, Item.yield, Parse.yieldAll_append, List.append_assoc] using l3
      · have : EndsNW ((32 :: 64 :: (kDeprecated ++ 40 :: (kReason ++ 58 :: 32 :: jsonDumps (T x)))) ++ [41]) :=
          endsNW_snoc _ 41 (by decide)
        simpa [List.append_assoc] using this


theorem lay_fieldA (s : SchemaD) (c : SdlPrintTA.OptsA) (apps : Apps) (tname : String) (hind : Blank c.base.indent) (i : Nat)
    (f : FieldD) (hn : nameOK f.name = true) (ht : tyOK f.type = true)
    (hdesc : DescPart (SdlPrintT.printDescription c.base f.desc 1 (i == 0)) (Item.yieldAll (descV (descOf (descToDoc f.desc)))))
    (hargs : ArgsPartA s c apps (tname ++ "." ++ f.name) f.args 1)
    (hf : DirsFacts (SdlPrintTA.printDirectives c apps (tname ++ "." ++ f.name)) (SdlPrintTA.keptAt c apps (tname ++ "." ++ f.name))) :
    Lay (SdlPrintTA.printField s c apps tname i f) (fieldDefinitionV (fieldOf (SdlPrintTA.fieldToDefA s c apps tname f))).yield ∧
      SdlPrintTA.printField s c apps tname i f ≠ [] := by
  obtain ⟨ldep, ddep, edep⟩ := lay_deprecated f.deprecated
  have hends : EndsNW (SdlPrintT.printDescription c.base f.desc 1 (i == 0) ++ c.base.indent ++ T f.name ++
      SdlPrintTA.printArguments s c apps (tname ++ "." ++ f.name) f.args 1 ++
      [58, 32] ++ SdlPrintT.renderTy f.type ++ SdlPrintT.printDeprecated f.deprecated) :=
    endsNW_append_nil (endsNW_append (endsNW_renderTy _ ht)) edep
  have l1 := lay_colon (lay_space_cons (lay_append (lay_renderTy f.type ht) ldep ddep))
  have l2 := lay_append (lay_nameOf f.name hn) (lay_append hargs.1 l1 (delimHead_cons (by decide)))
    (delimHead_append hargs.2 (delimHead_cons (by decide)))
  have l3 := lay_desc_then hdesc (lay_blank_prefix hind l2)
  have etxt : SdlPrintT.printDescription c.base f.desc 1 (i == 0) ++ c.base.indent ++ T f.name ++
      SdlPrintTA.printArguments s c apps (tname ++ "." ++ f.name) f.args 1 ++
      [58, 32] ++ SdlPrintT.renderTy f.type ++ SdlPrintT.printDeprecated f.deprecated =
      SdlPrintT.printDescription c.base f.desc 1 (i == 0) ++ (c.base.indent ++ (T f.name ++
      (SdlPrintTA.printArguments s c apps (tname ++ "." ++ f.name) f.args 1 ++
      58 :: 32 :: (SdlPrintT.renderTy f.type ++ SdlPrintT.printDeprecated f.deprecated)))) := by simp [List.append_assoc]
  rw [etxt] at hends
  obtain ⟨h1, h2⟩ := lay_rstrip_tail hends hf l3
  unfold SdlPrintTA.printField
  simp only [etxt]
  refine ⟨?_, by obtain ⟨ch, hc, _⟩ := h2; intro e; rw [e] at hc; cases hc⟩
  simpa [fieldDefinitionV, fieldOf, SdlPrintTA.fieldToDefA, nameV, dirsCls, directivesV, Item.yield, Item.yieldAll,
    Parse.yieldAll_append, List.append_assoc, List.map_map, Function.comp_def] using h1

theorem lay_enumValueA (c : SdlPrintTA.OptsA) (apps : Apps) (tname : String) (hind : Blank c.base.indent) (i : Nat) (v : EnumValD)
    (hn : nameOK v.name = true)
    (hdesc : DescPart (SdlPrintT.printDescription c.base v.desc 1 (i == 0)) (Item.yieldAll (descV (descOf (descToDoc v.desc)))))
    (hf : DirsFacts (SdlPrintTA.printDirectives c apps (tname ++ "." ++ v.name)) (SdlPrintTA.keptAt c apps (tname ++ "." ++ v.name))) :
    Lay (SdlPrintTA.printEnumValue c apps tname i v) (enumValueDefinitionV (enumValOf (SdlPrintTA.enumValToDefA c apps tname v))).yield ∧
    SdlPrintTA.printEnumValue c apps tname i v ≠ [] := by
  obtain ⟨ldep, ddep, edep⟩ := lay_deprecated v.deprecated
  have hends : EndsNW (SdlPrintT.printDescription c.base v.desc 1 (i == 0) ++ c.base.indent ++ T v.name ++
      SdlPrintT.printDeprecated v.deprecated) :=
    endsNW_append_nil (endsNW_append (endsNW_name hn)) edep
  have l3 := lay_desc_then hdesc (lay_blank_prefix hind (lay_append (lay_nameOf v.name hn) ldep ddep))
  have etxt : SdlPrintT.printDescription c.base v.desc 1 (i == 0) ++ c.base.indent ++ T v.name ++
      SdlPrintT.printDeprecated v.deprecated =
      SdlPrintT.printDescription c.base v.desc 1 (i == 0) ++ (c.base.indent ++ (T v.name ++
      SdlPrintT.printDeprecated v.deprecated)) := by simp [List.append_assoc]
  rw [etxt] at hends
  obtain ⟨h1, h2⟩ := lay_rstrip_tail hends hf l3
  unfold SdlPrintTA.printEnumValue
  simp only [etxt]
  refine ⟨?_, by obtain ⟨ch, hc, _⟩ := h2; intro e; rw [e] at hc; cases hc⟩
  simpa [enumValueDefinitionV, enumValOf, SdlPrintTA.enumValToDefA, nameV, dirsCls, directivesV, Item.yield, Item.yieldAll,
    Parse.yieldAll_append, List.append_assoc] using h1

theorem lay_inputFieldA (s : SchemaD) (c : SdlPrintTA.OptsA) (apps : Apps) (tname : String) (hind : Blank c.base.indent) (i : Nat)
    (a : ArgD) (hc : ArgCoreA s c apps tname a)
    (hdesc : DescPart (SdlPrintT.printDescription c.base a.desc 1 (i == 0)) (Item.yieldAll (descV (descOf (descToDoc a.desc))))) :
    Lay (SdlPrintTA.printInputField s c apps tname i a) (inputValueV (inputValOf (SdlPrintTA.argToDefA s c apps tname a))).yield ∧
    SdlPrintTA.printInputField s c apps tname i a ≠ [] := by
  obtain ⟨hl, hne⟩ := lay_inputValueCoreA s c apps tname a hc
  refine ⟨?_, by unfold SdlPrintTA.printInputField; intro e; exact hne (List.append_eq_nil_iff.1 e).2⟩
  have l3 := lay_desc_then hdesc (lay_blank_prefix hind hl)
  rw [inputValueVA_yield]
  simpa [SdlPrintTA.printInputField, List.append_assoc] using l3

end PyGql.SdlText
