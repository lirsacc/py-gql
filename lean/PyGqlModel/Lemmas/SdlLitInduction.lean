/-
  C11/C12 — induction over the literals of the SDL description (`Sdl.Lit`), their lists and their field lists at once.
  `Lit` is nested through `List Lit` and `List (String × Lit)`; every fact about a function defined over the three
  (`valueOf`, `litText`, `litOK`, …) is proved from this one principle.
-/
import PyGqlModel.Sdl
namespace PyGql.Sdl

/-- `lit` is given what is known of the list under a `.list` / the fields under an `.obj`; for the other constructors
    both hypotheses are vacuous, so a `cases l` inside treats them as leaves -/
theorem lit_induction {P : Lit → Prop} {Q : List Lit → Prop} {R : List (String × Lit) → Prop}
    (lit : ∀ l, (∀ x, l = .list x → Q x) → (∀ x, l = .obj x → R x) → P l)
    (nil : Q []) (cons : ∀ v vs, P v → Q vs → Q (v :: vs))
    (fnil : R []) (fcons : ∀ k v fs, P v → R fs → R ((k, v) :: fs)) :
    (∀ l, P l) ∧ (∀ ls, Q ls) ∧ ∀ fs, R fs := by
  have h : ∀ l, P l := by
    intro l
    refine Lit.rec (motive_1 := P) (motive_2 := Q) (motive_3 := R) (motive_4 := fun p => P p.2)
      ?_ ?_ ?_ ?_ ?_ ?_ ?_ ?_ nil ?_ fnil ?_ ?_ l
    · exact lit _ (fun _ e => nomatch e) (fun _ e => nomatch e)
    · exact fun _ _ => lit _ (fun _ e => nomatch e) (fun _ e => nomatch e)
    · exact fun _ _ => lit _ (fun _ e => nomatch e) (fun _ e => nomatch e)
    · exact fun _ => lit _ (fun _ e => nomatch e) (fun _ e => nomatch e)
    · exact fun _ => lit _ (fun _ e => nomatch e) (fun _ e => nomatch e)
    · exact fun _ => lit _ (fun _ e => nomatch e) (fun _ e => nomatch e)
    · exact fun l hl => lit _ (fun x e => by cases e; exact hl) (fun _ e => nomatch e)
    · exact fun fs hf => lit _ (fun _ e => nomatch e) (fun x e => by cases e; exact hf)
    · exact fun v vs hv hvs => cons v vs hv hvs
    · exact fun p fs hp hfs => fcons p.1 p.2 fs hp hfs
    · exact fun k v hv => hv
  refine ⟨h, ?_, ?_⟩
  · intro ls
    induction ls with
    | nil => exact nil
    | cons v vs ih => exact cons v vs (h v) ih
  · intro fs
    induction fs with
    | nil => exact fnil
    | cons p fs ih => exact fcons p.1 p.2 fs (h p.2) ih

end PyGql.Sdl
