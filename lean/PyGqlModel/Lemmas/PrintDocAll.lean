/-
  All documents: the per-definition matcher facts (type-system definitions with look-ahead; the query shorthand with
  and without the keyword the R6 guard adds) and the document loop.
-/
import PyGqlModel.Lemmas.PrintLayTSDefs
import PyGqlModel.Lemmas.PrintMatchTS
namespace PyGql.PrintTokens
open PyGql PyGql.Ast PyGql.Parse PyGql.Spec PyGql.Print PyGql.PrintLex PyGql.PrintMatch PyGql.PrintString PyGql.Lex

theorem ne_nil_of_cons_append {α} (a : List α) (x : α) (b c : List α) : a ++ x :: b ++ c ≠ [] := by simp

theorem plainF_definitionV (d : Definition) (h : noLocTSDefinition d = true) (hm : noLocMembers d = true)
    (fol : List TokClass) (hf : openEnd d = true → (fol.head?.map Prod.fst) ≠ some .curlyL) :
    plainF (definitionV d) fol = true := by
  cases d
  case operation d => simp [noLocTSDefinition] at h
  case fragment d => simp [noLocTSDefinition] at h
  all_goals simp only [noLocTSDefinition, Bool.and_eq_true] at h
  case schemaDefinition dirs ops loc =>
    obtain ⟨⟨h1, h2⟩, h3⟩ := h
    have hops := plainAll_map operationTypeV ops (fun x hx => plain_operationTypeV x ((List.all_eq_true.1 h3) x hx))
    refine plainF_defNode (desc := none) h1 rfl (pf_append_plain (plainAll_directivesV dirs h2) (pf_of_plainAll ?_))
    simp [plainAll, plainAll_append, plain, hops]
  case schemaExtension dirs ops loc =>
    obtain ⟨⟨h1, h2⟩, h3⟩ := h
    exact plainF_defNode (desc := none) h1 rfl (pf_cons_plain rfl (pf_append_plain (plainAll_directivesV dirs h2)
      (pf_block operationTypeV ops h3 h3 (fun x hx _ => plain_operationTypeV x hx) fol hf)))
  case scalarTypeDefinition desc name dirs loc =>
    obtain ⟨⟨⟨h1, h2⟩, h3⟩, h4⟩ := h
    exact plainF_defNode h1 h2 (pf_cons_plain (plain_nameV name h3) (pf_of_plainAll (plainAll_directivesV dirs h4)))
  case scalarTypeExtension name dirs loc =>
    obtain ⟨⟨h1, h3⟩, h4⟩ := h
    exact plainF_defNode (desc := none) h1 rfl (pf_cons_plain rfl (pf_cons_plain (plain_nameV name h3)
      (pf_of_plainAll (plainAll_directivesV dirs h4))))
  case objectTypeDefinition desc name ifs dirs fields loc =>
    obtain ⟨⟨⟨⟨⟨h1, h2⟩, h3⟩, h4⟩, h5⟩, h6⟩ := h
    exact plainF_defNode h1 h2 (pf_cons_plain (plain_nameV name h3)
      (pf_append_all (fun f' => pf_append_all (pf_implementsV ifs h4) (pf_of_plainAll (plainAll_directivesV dirs h5)))
        (pf_block fieldDefinitionV fields h6 hm plain_fieldDefinitionV fol hf)))
  case objectTypeExtension name ifs dirs fields loc =>
    obtain ⟨⟨⟨⟨h1, h3⟩, h4⟩, h5⟩, h6⟩ := h
    exact plainF_defNode (desc := none) h1 rfl (pf_cons_plain rfl (pf_cons_plain (plain_nameV name h3)
      (pf_append_all (fun f' => pf_append_all (pf_implementsV ifs h4) (pf_of_plainAll (plainAll_directivesV dirs h5)))
        (pf_block fieldDefinitionV fields h6 hm plain_fieldDefinitionV fol hf))))
  case interfaceTypeDefinition desc name dirs fields loc =>
    obtain ⟨⟨⟨⟨h1, h2⟩, h3⟩, h5⟩, h6⟩ := h
    exact plainF_defNode h1 h2 (pf_cons_plain (plain_nameV name h3)
      (pf_append_plain (plainAll_directivesV dirs h5) (pf_block fieldDefinitionV fields h6 hm plain_fieldDefinitionV fol hf)))
  case interfaceTypeExtension name dirs fields loc =>
    obtain ⟨⟨⟨h1, h3⟩, h5⟩, h6⟩ := h
    exact plainF_defNode (desc := none) h1 rfl (pf_cons_plain rfl (pf_cons_plain (plain_nameV name h3)
      (pf_append_plain (plainAll_directivesV dirs h5) (pf_block fieldDefinitionV fields h6 hm plain_fieldDefinitionV fol hf))))
  case unionTypeDefinition desc name dirs types loc =>
    obtain ⟨⟨⟨⟨h1, h2⟩, h3⟩, h5⟩, h6⟩ := h
    exact plainF_defNode h1 h2 (pf_cons_plain (plain_nameV name h3)
      (pf_append_plain (plainAll_directivesV dirs h5) (pf_unionMembersV types h6 fol)))
  case unionTypeExtension name dirs types loc =>
    obtain ⟨⟨⟨h1, h3⟩, h5⟩, h6⟩ := h
    exact plainF_defNode (desc := none) h1 rfl (pf_cons_plain rfl (pf_cons_plain (plain_nameV name h3)
      (pf_append_plain (plainAll_directivesV dirs h5) (pf_unionMembersV types h6 fol))))
  case enumTypeDefinition desc name dirs values loc =>
    obtain ⟨⟨⟨⟨h1, h2⟩, h3⟩, h5⟩, h6⟩ := h
    exact plainF_defNode h1 h2 (pf_cons_plain (plain_nameV name h3)
      (pf_append_plain (plainAll_directivesV dirs h5) (pf_block enumValueDefinitionV values h6 hm plain_enumValueDefinitionV fol hf)))
  case enumTypeExtension name dirs values loc =>
    obtain ⟨⟨⟨h1, h3⟩, h5⟩, h6⟩ := h
    exact plainF_defNode (desc := none) h1 rfl (pf_cons_plain rfl (pf_cons_plain (plain_nameV name h3)
      (pf_append_plain (plainAll_directivesV dirs h5) (pf_block enumValueDefinitionV values h6 hm plain_enumValueDefinitionV fol hf))))
  case inputObjectTypeDefinition desc name dirs fields loc =>
    obtain ⟨⟨⟨⟨h1, h2⟩, h3⟩, h5⟩, h6⟩ := h
    exact plainF_defNode h1 h2 (pf_cons_plain (plain_nameV name h3)
      (pf_append_plain (plainAll_directivesV dirs h5) (pf_block inputValueV fields h6 hm plain_inputValueV fol hf)))
  case inputObjectTypeExtension name dirs fields loc =>
    obtain ⟨⟨⟨h1, h3⟩, h5⟩, h6⟩ := h
    exact plainF_defNode (desc := none) h1 rfl (pf_cons_plain rfl (pf_cons_plain (plain_nameV name h3)
      (pf_append_plain (plainAll_directivesV dirs h5) (pf_block inputValueV fields h6 hm plain_inputValueV fol hf))))
  case directiveDefinition desc name args locations loc =>
    obtain ⟨⟨⟨⟨h1, h2⟩, h3⟩, h5⟩, h6⟩ := h
    exact plainF_defNode h1 h2 (pf_cons_plain rfl (pf_cons_plain (plain_nameV name h3)
      (pf_append_plain (plainAll_argDefsV args h5 hm) (pf_cons_plain rfl (plainAllF_sepV .pipe (by decide +kernel) nameV locations fol
        (fun x hx => plain_nameV x ((List.all_eq_true.1 h6) x hx)) (fun x _ => nameV_head x))))))


theorem noLocTSDefinition_strip (d : Definition) : noLocTSDefinition (stripDef d) = noLocTSDefinition d := by
  have hiv : ∀ x, noLocInputValue (stripIV x) = noLocInputValue x := fun _ => rfl
  have hev : ∀ x, noLocEnumValue (stripEV x) = noLocEnumValue x := fun _ => rfl
  have hfd : ∀ x, noLocFieldDef (stripFD x) = noLocFieldDef x := fun x => by
    simp [noLocFieldDef, stripFD, List.all_map, Function.comp_def, hiv]
  cases d with
  | objectTypeDefinition _ _ _ _ _ _ | objectTypeExtension _ _ _ _ _ | interfaceTypeDefinition _ _ _ _ _
  | interfaceTypeExtension _ _ _ _ | enumTypeDefinition _ _ _ _ _ | enumTypeExtension _ _ _ _
  | inputObjectTypeDefinition _ _ _ _ _ | inputObjectTypeExtension _ _ _ _ | directiveDefinition _ _ _ _ _ => simp only [stripDef, noLocTSDefinition, List.all_map, Function.comp_def, hfd, hev, hiv]
  | _ => rfl

theorem noLocMembers_strip (d : Definition) : noLocMembers (stripDef d) = true := by
  cases d with
  | objectTypeDefinition _ _ _ _ _ _ | objectTypeExtension _ _ _ _ _ | interfaceTypeDefinition _ _ _ _ _
  | interfaceTypeExtension _ _ _ _ | enumTypeDefinition _ _ _ _ _ | enumTypeExtension _ _ _ _
  | inputObjectTypeDefinition _ _ _ _ _ | inputObjectTypeExtension _ _ _ _ | directiveDefinition _ _ _ _ _ =>
    simp [stripDef, noLocMembers, List.all_map, Function.comp_def, descNoLocFD, descNoLocEV, descNoLocIV, stripFD, stripEV, stripIV,
      noLocDesc]
  | _ => rfl

theorem openEnd_strip (d : Definition) : openEnd (stripDef d) = openEnd d := by
  cases d with
  | objectTypeDefinition _ _ _ _ _ _ | objectTypeExtension _ _ _ _ _ | interfaceTypeDefinition _ _ _ _ _
  | interfaceTypeExtension _ _ _ _ | enumTypeDefinition _ _ _ _ _ | enumTypeExtension _ _ _ _
  | inputObjectTypeDefinition _ _ _ _ _ | inputObjectTypeExtension _ _ _ _ | directiveDefinition _ _ _ _ _ => simp only [stripDef, openEnd, List.isEmpty_map]
  | _ => rfl

theorem plainF_tsDefinition (d : Definition) (h : noLocTSDefinition d = true) (fol : List TokClass)
    (hf : openEnd d = true → (fol.head?.map Prod.fst) ≠ some .curlyL) :
    plainF (definitionV (stripDef d)) fol = true :=
  plainF_definitionV (stripDef d) (by rw [noLocTSDefinition_strip]; exact h) (noLocMembers_strip d) fol
    (by rw [openEnd_strip]; exact hf)

def isShortOp : Definition → Bool
  | .operation d => isShorthand d
  | _ => false

def isExecDef : Definition → Bool
  | .operation _ | .fragment _ => true
  | _ => false

def okDefinition (ind : Text) (d : Definition) : Prop :=
  if isExecDef d then okExecDefinition ind d else okTSDefinition ind d
/-- no positions (member descriptions ignored) -/
def noLocDefinition (d : Definition) : Bool := if isExecDef d then noLocExecDefinition d else noLocTSDefinition d

/-- what the document loop needs to know about one printed definition -/
structure GFacts (c : Cfg) (d : Definition) : Prop where
  lay : Lay (printDefinition c d) (definitionV (stripDef d)).yield
  ne : printDefinition c d ≠ []
  head : (printDefinition c d).head? = some 123 ↔ isShortOp d = true
  nb : openEnd d = true → NB (printDefinition c d)

theorem gfacts_exec (c : Cfg) (hind : Blank c.indent) (d : Definition) (h : okExecDefinition c.indent d) : GFacts c d := by
  cases d with
  | operation o =>
    obtain ⟨l, ⟨pre, hpre⟩, hh⟩ := lay_operation c hind o h
    exact ⟨by simpa [printDefinition, definitionV, stripDef] using l, by simp [printDefinition, hpre], hh,
      by intro e; simp [openEnd] at e⟩
  | fragment f =>
    obtain ⟨l, pre, hpre⟩ := lay_fragment c hind f h
    refine ⟨by simpa [printDefinition, definitionV, stripDef] using l, by simp [printDefinition, hpre], ?_, by intro e; simp [openEnd] at e⟩
    have e1 : lit "fragment " = K.fragment ++ [32] := by rw [lit, textOfString_ofList]; decide +kernel
    simp [printDefinition, isShortOp, printFragmentDefinition, e1, K.fragment]
  | _ => exact absurd h (by simp [okExecDefinition])

theorem gfacts (c : Cfg) (hdesc : c.includeDescriptions = true) (hind : Blank c.indent) (d : Definition)
    (h : okDefinition c.indent d) : GFacts c d := by
  unfold okDefinition at h
  split at h
  · exact gfacts_exec c hind d h
  · have f := tsDefFacts c hdesc hind d h
    have hs : isShortOp d = false := by cases d <;> first | rfl | simp_all [isExecDef]
    exact ⟨f.lay, f.ne, by simp only [hs, Bool.false_eq_true, iff_false]; exact f.head, f.nb⟩

/-- the guard of `print_document` -/
def guardBit (prev : Option Text) (e : Text) : Bool :=
  match prev with
  | some p => e.head? == some 123 && !(p.getLast? == some 125)
  | none => false

/-- the entries of `print_document` with the classes of their tokens -/
def entryPairs (c : Cfg) : Option Text → List Definition → List LP
  | _, [] => []
  | prev, d :: ds =>
    let e := printDefinition c d
    let b := guardBit prev e
    let e' := if b then lit "query " ++ e else e
    (e', (if b then [(.name, K.query)] else []) ++ (definitionV (stripDef d)).yield) :: entryPairs c (some e') ds

theorem documentEntries_cons (c : Cfg) (acc : List Text) (d : Definition) (ds : List Definition)
    (hne : printDefinition c d ≠ []) :
    documentEntries c acc (d :: ds) = documentEntries c
      ((if guardBit acc.head? (printDefinition c d) then lit "query " ++ printDefinition c d else printDefinition c d) :: acc) ds := by
  have hn : (printDefinition c d).isEmpty = false := by simpa using hne
  have hq : (lit "query " ++ printDefinition c d).isEmpty = false := by simp [hne]
  cases acc with
  | nil => simp [documentEntries, guardBit, hn]
  | cons prev rest =>
    simp only [documentEntries, guardBit, List.head?_cons]
    by_cases hb : ((printDefinition c d).head? == some 123 && !(prev.getLast? == some 125)) = true
    · simp only [hb, ↓reduceIte, hq, Bool.false_eq_true]
    · simp only [hb, ↓reduceIte, hn, Bool.false_eq_true]

theorem documentEntries_eq (c : Cfg) : ∀ (ds : List Definition) (acc : List Text), (∀ d ∈ ds, printDefinition c d ≠ []) →
    documentEntries c acc ds = acc.reverse ++ (entryPairs c acc.head? ds).map Prod.fst
  | [], acc, _ => by simp [documentEntries, entryPairs]
  | d :: ds, acc, h => by
    rw [documentEntries_cons c acc d ds (h d (by simp)), documentEntries_eq c ds _ (fun x hx => h x (by simp [hx]))]
    simp [entryPairs]

theorem entry_lay {c : Cfg} {d : Definition} (f : GFacts c d) (b : Bool) :
    Lay (if b then lit "query " ++ printDefinition c d else printDefinition c d)
      ((if b then [(.name, K.query)] else []) ++ (definitionV (stripDef d)).yield) ∧
    (if b then lit "query " ++ printDefinition c d else printDefinition c d) ≠ [] := by
  have hq : Spec.Lexical.isName K.query = true := by decide +kernel
  have eq : lit "query " = K.query ++ [32] := by rw [lit, textOfString_ofList]; decide +kernel
  cases b with
  | false => exact ⟨f.lay, f.ne⟩
  | true =>
    refine ⟨?_, by simp [eq, K.query]⟩
    simpa [eq] using lay_append (lay_name hq) (lay_space_cons f.lay) (delimHead_cons (by decide +kernel))

theorem entryPairs_lay (c : Cfg) : ∀ (ds : List Definition) (prev : Option Text), (∀ d ∈ ds, GFacts c d) →
    ∀ p ∈ entryPairs c prev ds, Lay p.1 p.2 ∧ p.1 ≠ []
  | [], _, _, p, hp => by cases hp
  | d :: ds, prev, h, p, hp => by
    simp only [entryPairs, List.mem_cons] at hp
    rcases hp with rfl | hp
    · exact entry_lay (h d (by simp)) _
    · exact entryPairs_lay c ds _ (fun x hx => h x (by simp [hx])) p hp

theorem lexesTo_document (c : Cfg) (d : Document) (h : ∀ x ∈ d.definitions, GFacts c x) :
    LexesTo (printDocument c d) ((entryPairs c none d.definitions).flatMap Prod.snd) := by
  have hp := entryPairs_lay c d.definitions none h
  have he := documentEntries_eq c d.definitions [] (fun x hx => (h x hx).ne)
  have l1 := lay_joinSep [10, 10] [] (fun b cb hb => by simpa using lay_lf_cons (lay_lf_cons hb))
    (fun b => delimHead_cons (by decide +kernel)) _ (fun p hm => (hp p hm).1)
  rw [joinCls_nil] at l1
  have l2 := lay_append l1 (lay_lf_cons lay_nil) (delimHead_cons (by decide +kernel))
  have := lexesTo_of_lay l2 [] [] safe_nil lexesTo_nil
  unfold printDocument
  rw [he, join_eq_joinSep _ _ (by
    intro x hx; simp only [List.reverse_nil, List.nil_append, List.head?_nil, List.mem_map] at hx
    obtain ⟨p, hm, rfl⟩ := hx; exact (hp p hm).2)]
  simpa using this

theorem stripDef_exec {d : Definition} (h : isExecDef d = true) : stripDef d = d := by
  cases d <;> simp [isExecDef] at h <;> rfl

theorem okExecDefinition_mem {ind : Text} {ds : List Definition} (h : okExecDefinitions ind ds) :
    ∀ x ∈ ds, okExecDefinition ind x := by
  induction ds with
  | nil => intro x hx; cases hx
  | cons d ds ih =>
    intro x hx
    rcases List.mem_cons.1 hx with rfl | hx
    · exact h.1
    · exact ih h.2 x hx

/-- between executable definitions the R6 guard never fires: each of them ends with `}` -/
theorem entryPairs_exec (c : Cfg) (hind : Blank c.indent) : ∀ (ds : List Definition) (prev : Option Text),
    okExecDefinitions c.indent ds → (∀ p, prev = some p → p.getLast? = some 125) →
    (entryPairs c prev ds).flatMap Prod.snd = Item.yieldAll (ds.map definitionV)
  | [], _, _, _ => rfl
  | d :: ds, prev, h, hprev => by
    obtain ⟨_, pre, hpre⟩ := lay_execDefinition c hind d h.1
    have hb : guardBit prev (printDefinition c d) = false := by
      cases prev with
      | none => rfl
      | some p => simp [guardBit, hprev p rfl]
    have hx : isExecDef d = true := by
      cases d <;> first | rfl | exact absurd h.1 (by simp [okExecDefinition])
    have ih := entryPairs_exec c hind ds (some (printDefinition c d)) h.2 (by intro p e; cases e; rw [hpre]; simp)
    simp only [entryPairs, hb, Bool.false_eq_true, ↓reduceIte, List.flatMap_cons, List.nil_append, stripDef_exec hx, ih,
      List.map_cons, Item.yieldAll]

theorem lexesTo_execDocument (c : Cfg) (hind : Blank c.indent) (d : Document) (h : okExecDefinitions c.indent d.definitions) :
    LexesTo (printDocument c d) (Item.yieldAll (d.definitions.map definitionV)) := by
  rw [← entryPairs_exec c hind d.definitions none h (by intro p e; cases e)]
  exact lexesTo_document c d (fun x hx => gfacts_exec c hind x (okExecDefinition_mem h x hx))

end PyGql.PrintTokens
