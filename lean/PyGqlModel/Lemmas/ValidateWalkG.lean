/-
  GENERIC CONTEXT WALK. A chain is seen through a carrier `X` read from the visitor
  state (`ctx`) and pushed by `down` on entering a node; `ok (n, x)` says that node `n` is fine in context `x`.
  What has to be known of a SINGLE node (`CtxSys.mono`, `CtxSys.node`): errors never decrease over it, it is silent
  exactly when it and everything visited below it is fine, and a silent visit puts the context back. A node may raise
  SkipNode without reporting (`quiet`): only an object literal, and only when everything below it is fine anyway.
  RESULT (`CtxSys.defsW`, by the induction of `Lemmas/ValidateWalkLaws.lean`): the run over the definitions adds no error
  ⇔  every (node, context) pair of `Spec.gnDoc` is fine, where the contexts are computed by plain recursion with `down`.
  The two ways a chain provides the single-node facts: `CTX` and `Q.CTXQ` (Lemmas/ValidateCtx.lean).
-/
import PyGqlModel.Lemmas.ValidateWalkI
import PyGqlModel.Lemmas.ValidateChainParEq
import PyGqlModel.Spec.CtxNodes
namespace PyGql.Validate
open PyGql PyGql.Validate.Spec

variable {c : Cfg} {X : Type}

/-- the invariant is kept and errors never decrease -/
def MI (Inv : St → Prop) (st st' : St) : Prop := Inv st → Inv st' ∧ E st ≤ E st'

theorem MI.refl {Inv : St → Prop} {st : St} : MI Inv st st := fun hi => ⟨hi, Nat.le_refl _⟩

theorem MI.trans {Inv : St → Prop} {a b d : St} (h1 : MI Inv a b) (h2 : MI Inv b d) : MI Inv a d := fun hi =>
  ⟨(h2 (h1 hi).1).1, Nat.le_trans (h1 hi).2 (h2 (h1 hi).1).2⟩

/-- over a visit whose (node, context) pairs are `l`: silent ⇔ every pair is fine; a silent visit restores the context -/
def SPX (ctx : St → X) (ok : Node × X → Prop) (l : List (Node × X)) (st st' : St) : Prop :=
  (E st' = E st ↔ ∀ p ∈ l, ok p) ∧ (E st' = E st → ctx st' = ctx st)

/-- the second visit is looked at only from the context the first one started with -/
theorem SPX.seq {ctx : St → X} {ok : Node × X → Prop} {la lb : List (Node × X)} {s1 s2 s3 : St}
    (m12 : E s1 ≤ E s2) (m23 : E s2 ≤ E s3)
    (h1 : SPX ctx ok la s1 s2) (h2 : ctx s2 = ctx s1 → SPX ctx ok lb s2 s3) : SPX ctx ok (la ++ lb) s1 s3 := by
  have key : E s3 = E s1 ↔ E s2 = E s1 ∧ E s3 = E s2 := by omega
  constructor
  · rw [key, List.forall_mem_append]
    constructor
    · rintro ⟨e2, e3⟩
      exact ⟨h1.1.mp e2, (h2 (h1.2 e2)).1.mp e3⟩
    · rintro ⟨ha, hb⟩
      have e2 := h1.1.mpr ha
      exact ⟨e2, (h2 (h1.2 e2)).1.mpr hb⟩
  · intro e
    obtain ⟨e2, e3⟩ := key.mp e
    rw [(h2 (h1.2 e2)).2 e3, h1.2 e2]

/-- a node that does not skip: `f` errors on entering, `g x` on leaving in context `x`; `p` is the node with its context -/
theorem SPX.cons {ctx : St → X} {ok : Node × X → Prop} {p : Node × X} {lb : List (Node × X)} {st s1 s2 s3 : St}
    {f : Nat} {g : X → Nat} (e1 : E s1 = E st + f) (m2 : E s1 ≤ E s2) (el : E s3 = E s2 + g (ctx s2))
    (hb : SPX ctx ok lb s1 s2) (c1 : ctx s1 = p.2) (hok : ok p ↔ f = 0 ∧ g p.2 = 0)
    (hr : ctx s2 = p.2 → ctx s3 = ctx st) : SPX ctx ok (p :: lb) st s3 := by
  have key : E s3 = E st ↔ f = 0 ∧ E s2 = E s1 ∧ g (ctx s2) = 0 := by omega
  have cb : E s2 = E s1 → ctx s2 = p.2 := fun eb => (hb.2 eb).trans c1
  refine ⟨?_, fun e => hr (cb (key.mp e).2.1)⟩
  rw [key, List.forall_mem_cons, hok]
  constructor
  · rintro ⟨hf, eb, hg⟩
    exact ⟨⟨hf, cb eb ▸ hg⟩, hb.1.mp eb⟩
  · rintro ⟨⟨hf, hg⟩, hl⟩
    have eb := hb.1.mpr hl
    exact ⟨hf, eb, (cb eb).symm ▸ hg⟩

/-- a node that skips and adds `k` errors: nothing below it is visited -/
theorem SPX.skip {ctx : St → X} {ok : Node × X → Prop} {p : Node × X} {lb : List (Node × X)} {st s3 : St} {k : Nat}
    (e : E s3 = E st + k) (hok : ok p ↔ k = 0) (hq : k = 0 → ∀ q ∈ lb, ok q) (hr : ctx s3 = ctx st) :
    SPX ctx ok (p :: lb) st s3 := by
  refine ⟨?_, fun _ => hr⟩
  rw [List.forall_mem_cons, hok]
  constructor
  · intro e'
    have hk : k = 0 := by omega
    exact ⟨hk, hq hk⟩
  · rintro ⟨hk, _⟩
    omega

structure CtxSys (c : Cfg) (X : Type) where
  ctx : St → X
  down : Node → X → X
  /-- side condition on the context under which a directive node restores it -/
  J : X → Prop
  Inv : St → Prop
  ok : Node × X → Prop
  /-- the node raises SkipNode without reporting (an object literal below which everything is fine: `quiet_obj`,
      `quiet_sub`) -/
  quiet : Node → X → Prop
  keepJ : ∀ n x, n.isDirective = false → J x → J (down n x)
  quiet_obj : ∀ n x, quiet n x → n.isObjVal = true
  quiet_sub : ∀ fs x, quiet (.value (.obj fs)) x → ∀ p ∈ gnObjFields down x fs, ok p
  mono : ∀ n body st, n.isDoc = false → (∀ st1, MI Inv st1 (body st1)) → MI Inv st (visitNode c n body st)
  node : ∀ n body lb st, n.isDoc = false → Inv st → (n.isDirective = true → J (ctx st)) →
    (quiet n (down n (ctx st)) → ∀ p ∈ lb, ok p) → (∀ st1, MI Inv st1 (body st1)) →
    (∀ st1, Inv st1 → ctx st1 = down n (ctx st) → SPX ctx ok lb st1 (body st1)) →
    SPX ctx ok ((n, down n (ctx st)) :: lb) st (visitNode c n body st)

/-- what the visit `v` of a sub-tree with pairs `l` does, from any state whose context is `x` -/
structure CW (K : CtxSys c X) (x : X) (l : List (Node × X)) (v : St → St) : Prop where
  mono : ∀ st, MI K.Inv st (v st)
  px : ∀ st, K.Inv st → K.ctx st = x → SPX K.ctx K.ok l st (v st)

namespace CW
variable {K : CtxSys c X} {x : X}

theorem nil : CW K x [] id := ⟨fun _ => MI.refl, fun _ _ _ => ⟨by simp, fun _ => rfl⟩⟩

theorem congr {l : List (Node × X)} {v v' : St → St} (hw : CW K x l v') (h : ∀ st, v st = v' st) : CW K x l v :=
  (funext h : v = v') ▸ hw

theorem seq {la lb : List (Node × X)} {v1 v2 : St → St} (h1 : CW K x la v1) (h2 : CW K x lb v2) :
    CW K x (la ++ lb) (fun st => v2 (v1 st)) where
  mono st := (h1.mono st).trans (h2.mono _)
  px st hi hc :=
    have i2 := (h1.mono st hi).1
    SPX.seq (h1.mono st hi).2 (h2.mono _ i2).2 (h1.px st hi hc) (fun e => h2.px _ i2 (e.trans hc))

theorem node {n : Node} {body : St → St} {lb : List (Node × X)} (hn : n.isDoc = false)
    (hJ : n.isDirective = false ∨ K.J x)
    (hq : n.isObjVal = false ∨ (K.quiet n (K.down n x) → ∀ p ∈ lb, K.ok p))
    (hb : CW K (K.down n x) lb body) : CW K x ((n, K.down n x) :: lb) (visitNode c n body) where
  mono st := K.mono n body st hn hb.mono
  px st hi hc := by
    subst hc
    refine K.node n body lb st hn hi (fun d => hJ.resolve_left (by simp [d])) (fun q => ?_) hb.mono hb.px
    rcases hq with hq | hq
    · rw [K.quiet_obj _ _ q] at hq
      cases hq
    · exact hq q

end CW

namespace CtxSys
variable (K : CtxSys c X)

/-- the laws of the walk (`Lemmas/ValidateWalkLaws.lean`) for the chain `visitDocument`: `visitNode c` is
    `visitNodePar enterRule c` -/
theorem laws : WalkLaws K.down K.J (fun n => !n.isDoc) (fun x l W => CW K x l (W enterRule c)) where
  nil _ := CW.nil
  seq h1 h2 := h1.seq h2
  node n x l W hn hd ho hW := by
    refine (CW.node ((Bool.not_eq_true' _).mp hn) ?_ ?_ hW).congr fun st => visitNodePar_eq c n _ _ (fun _ => rfl) st
    · cases hb : n.isDirective
      · exact .inl rfl
      · exact .inr (hd hb)
    · cases n with
      | value v =>
        cases v with
        | obj fs => exact .inr fun q => ho fs rfl ▸ K.quiet_sub fs _ q
        | _ => exact .inl rfl
      | _ => exact .inl rfl
  keepJ := K.keepJ

theorem valuesW (vs : List Value) (x : X) : CW K x (gnValues K.down x vs) (visitValues c vs) :=
  (K.laws.values (fun _ => not_isDoc_of_isTop) vs x).congr fun st => (visitValuesPar_eq c vs st).symm

theorem objFieldW (f : ObjField) (x : X) : CW K x (gnObjField K.down x f) (visitObjField c f) :=
  (K.laws.objField (fun _ => not_isDoc_of_isTop) f x).congr fun st => (visitObjFieldPar_eq c f st).symm

theorem objFieldsW (fs : List ObjField) (x : X) : CW K x (gnObjFields K.down x fs) (visitObjFields c fs) :=
  (K.laws.objFields (fun _ => not_isDoc_of_isTop) fs x).congr fun st => (visitObjFieldsPar_eq c fs st).symm

theorem selW (s : Sel) (x : X) (hj : K.J x) : CW K x (gnSel K.down x s) (visitSel c s) :=
  (K.laws.sel (fun _ => not_isDoc_of_isTop) s x hj).congr fun st => (visitSelPar_eq c s st).symm

/-- over the definitions of a document, the run adds no error exactly when every (node, static context) pair is fine; in
    that case the context is back where it started -/
theorem defsW (ds : List Def) (x : X) (hj : K.J x) :
    CW K x (ds.flatMap (gnDef K.down x)) (fun st => ds.foldl (fun st d => visitDef c d st) st) :=
  (K.laws.defs (fun _ => not_isDoc_of_isTop) (fun _ h => congrArg not h) ⟨ds⟩ x hj).congr fun st =>
    (foldl_congr' _ _ (fun st d => visitDefPar_eq c d st) ds st).symm

end CtxSys

end PyGql.Validate
