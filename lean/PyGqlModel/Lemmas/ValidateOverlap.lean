/-
  `OverlappingFieldsCanBeMergedChecker`: the counting loops, the field collection (`collectSels`) against the
  declarative `Spec.CollD` / `Spec.SpreadD`, and `_fields_and_fragments` with its parent-type cache.
-/
import PyGqlModel.Validate.Rules
import PyGqlModel.Spec.ValidSpecOverlap
import PyGqlModel.Lemmas.ValidateAL
namespace PyGql.Validate
open PyGql PyGql.Validate.Spec

theorem sumLoop_nil {α} (f : α → OCtx → Nat × OCtx) (c : OCtx) : sumLoop [] f c = (0, c) := rfl

/-- the loop, one round at a time: a crashed context ends it, otherwise the counts add up -/
theorem sumLoop_step {α} (x : α) (xs : List α) (f : α → OCtx → Nat × OCtx) (c : OCtx) :
    sumLoop (x :: xs) f c =
      if c.crash.isSome then (0, c)
      else ((f x c).1 + (sumLoop xs f (f x c).2).1, (sumLoop xs f (f x c).2).2) := by
  have key : ∀ (ys : List α) (k : Nat) (c : OCtx),
      ys.foldl (fun (acc : Nat × OCtx) x =>
        if acc.2.crash.isSome then acc else ((acc.1 + (f x acc.2).1, (f x acc.2).2) : Nat × OCtx)) (k, c) =
      (k + (sumLoop ys f c).1, (sumLoop ys f c).2) := by
    intro ys
    induction ys with
    | nil => intro k c; rfl
    | cons y ys ih =>
      intro k c
      unfold sumLoop
      rw [List.foldl_cons, List.foldl_cons]
      by_cases hcr : c.crash.isSome = true
      · simp only [hcr, if_true]
        rw [ih k c, ih 0 c, Nat.zero_add]
      · simp only [hcr, Bool.false_eq_true, if_false, Nat.zero_add]
        rw [ih _ _, ih (f y c).1 _, Nat.add_assoc]
  by_cases hcr : c.crash.isSome = true
  · rw [if_pos hcr]
    unfold sumLoop
    rw [List.foldl_cons]
    simp only [hcr, if_true]
    induction xs with
    | nil => rfl
    | cons y ys ih =>
      rw [List.foldl_cons]
      simp only [hcr, if_true]
      exact ih
  · rw [if_neg hcr]
    unfold sumLoop
    rw [List.foldl_cons]
    simp only [hcr, Bool.false_eq_true, if_false, Nat.zero_add]
    exact key xs _ _
theorem sumLoop_spec {α} (xs : List α) (f : α → OCtx → Nat × OCtx) (P : OCtx → Prop) (Q : α → Prop)
    (hf : ∀ x ∈ xs, ∀ c, P c → P (f x c).2 ∧ (0 < (f x c).1 → Q x)) (c : OCtx) (hc : P c) :
    P (sumLoop xs f c).2 ∧ (0 < (sumLoop xs f c).1 → ∃ x ∈ xs, Q x) := by
  induction xs generalizing c with
  | nil => exact ⟨hc, fun h => absurd h (Nat.lt_irrefl 0)⟩
  | cons y ys ih =>
    rw [sumLoop_step]
    split
    · exact ⟨hc, fun h => absurd h (Nat.lt_irrefl 0)⟩
    · obtain ⟨p1, q1⟩ := hf y (List.mem_cons_self ..) c hc
      obtain ⟨p2, q2⟩ := ih (fun x hx => hf x (List.mem_cons_of_mem _ hx)) _ p1
      refine ⟨p2, fun h => ?_⟩
      by_cases h0 : 0 < (f y c).1
      · exact ⟨y, List.mem_cons_self .., q1 h0⟩
      · obtain ⟨x, hx, hq⟩ := q2 (by simp only at h; omega)
        exact ⟨x, List.mem_cons_of_mem _ hx, hq⟩

theorem sumLoop_spec' {α} (xs : List α) (f : α → OCtx → Nat × OCtx) (P : OCtx → Prop) (Q : α → Prop) (R : Prop)
    (hf : ∀ x ∈ xs, ∀ c, P c → P (f x c).2 ∧ (0 < (f x c).1 → Q x)) (hR : ∀ x ∈ xs, Q x → R) (c : OCtx) (hc : P c) :
    P (sumLoop xs f c).2 ∧ (0 < (sumLoop xs f c).1 → R) := by
  obtain ⟨a, b⟩ := sumLoop_spec xs f P Q hf c hc
  exact ⟨a, fun h => by obtain ⟨x, hx, hq⟩ := b h; exact hR x hx hq⟩

theorem sumLoop_keeps {α} (xs : List α) (f : α → OCtx → Nat × OCtx) (P : OCtx → Prop)
    (hf : ∀ x ∈ xs, ∀ c, P c → P (f x c).2) (c : OCtx) (hc : P c) : P (sumLoop xs f c).2 :=
  (sumLoop_spec xs f P (fun _ => True) (fun x hx c hc => ⟨hf x hx c hc, fun _ => trivial⟩) c hc).1

theorem mem_pairsOf {α} {l : List α} {x y : α} (h : (x, y) ∈ pairsOf l) : x ∈ l ∧ y ∈ l := by
  induction l with
  | nil => cases h
  | cons a as ih =>
    rw [pairsOf, List.mem_append] at h
    rcases h with h | h
    · obtain ⟨z, hz, e⟩ := List.mem_map.mp h
      cases e
      exact ⟨List.mem_cons_self .., List.mem_cons_of_mem _ hz⟩
    · obtain ⟨h1, h2⟩ := ih h
      exact ⟨List.mem_cons_of_mem _ h1, List.mem_cons_of_mem _ h2⟩

theorem mem_pairsOf_or {α} {l : List α} {x y : α} (hx : x ∈ l) (hy : y ∈ l) :
    (x, y) ∈ pairsOf l ∨ (y, x) ∈ pairsOf l ∨ x = y := by
  induction l with
  | nil => cases hx
  | cons a as ih =>
    rw [pairsOf]
    rcases List.mem_cons.mp hx with rfl | hx' <;> rcases List.mem_cons.mp hy with rfl | hy'
    · exact Or.inr (Or.inr rfl)
    · exact Or.inl (List.mem_append_left _ (List.mem_map.mpr ⟨y, hy', rfl⟩))
    · exact Or.inr (Or.inl (List.mem_append_left _ (List.mem_map.mpr ⟨x, hx', rfl⟩)))
    · rcases ih hx' hy' with h | h | h
      · exact Or.inl (List.mem_append_right _ h)
      · exact Or.inr (Or.inl (List.mem_append_right _ h))
      · exact Or.inr (Or.inr h)

/-- every entry of the field map satisfies `P` (with its response name) -/
def EntOK (P : String → FEntry → Prop) (fm : FMap) : Prop := ∀ q ∈ fm, ∀ e ∈ q.2, P q.1 e

theorem entOK_nil (P : String → FEntry → Prop) : EntOK P [] := fun _ h => nomatch h

theorem entOK_add {P : String → FEntry → Prop} {fm : FMap} (h : EntOK P fm) (rn : String) (e : FEntry) (he : P rn e) :
    EntOK P (AL.modify fm rn [] (· ++ [e])) := by
  intro q hq x hx
  rcases AL.mem_set hq with hq | rfl
  · exact h q hq x hx
  · simp only at hx ⊢
    rcases List.mem_append.mp hx with hx | hx
    · rcases AL.getD_cases fm rn [] with e0 | e0
      · rw [e0] at hx; cases hx
      · exact h _ e0 x hx
    · simp only [List.mem_singleton] at hx; subst hx; exact he

theorem entOK_get {P : String → FEntry → Prop} {fm : FMap} (h : EntOK P fm) {rn : String} {l : List FEntry}
    (hg : AL.get? fm rn = some l) : ∀ e ∈ l, P rn e := h (rn, l) (AL.mem_of_get? hg)

theorem Spec.CollD.mono {s : SchemaD} {p : Option String} {xs ys : List Sel} (hsub : ∀ y ∈ xs, y ∈ ys) {rn : String}
    {e : FEntry} (h : CollD s p xs rn e) : CollD s p ys rn e := by
  cases h with
  | field hm => exact .field (hsub _ hm)
  | inline hm hs => exact .inline (hsub _ hm) hs

theorem Spec.SpreadD.mono {xs ys : List Sel} (hsub : ∀ y ∈ xs, y ∈ ys) {g : String} (h : SpreadD xs g) : SpreadD ys g := by
  cases h with
  | spread hm => exact .spread (hsub _ hm)
  | inline hm hs => exact .inline (hsub _ hm) hs

mutual
theorem collectSel_sound (s : SchemaD) (P : String → FEntry → Prop) (Sp : String → Prop) :
    ∀ (parent : Option String) (x : Sel) (acc : FMap × List String),
    (∀ rn e, CollD s parent [x] rn e → P rn e) → (∀ g, SpreadD [x] g → Sp g) →
    EntOK P acc.1 → (∀ g ∈ acc.2, Sp g) →
    EntOK P (collectSel s parent x acc).1 ∧ ∀ g ∈ (collectSel s parent x acc).2, Sp g
  | parent, .field alias name args dirs hasSub ssid sub, (fm, fr), hP, _, h1, h2 => by
    simp only [collectSel]
    exact ⟨entOK_add h1 _ _ (hP _ _ (.field (List.mem_singleton.mpr rfl))), h2⟩
  | parent, .spread name dirs, (fm, fr), _, hS, h1, h2 => by
    simp only [collectSel]
    refine ⟨h1, fun g hg => ?_⟩
    rcases List.mem_append.mp hg with hg | hg
    · exact h2 g hg
    · simp only [List.mem_singleton] at hg; subst hg
      exact hS _ (.spread (List.mem_singleton.mpr rfl))
  | parent, .inline on dirs id sub, (fm, fr), hP, hS, h1, h2 => by
    simp only [collectSel]
    exact collectSels_sound s P Sp _ sub (fm, fr)
      (fun rn e h => hP rn e (.inline (List.mem_singleton.mpr rfl) h))
      (fun g h => hS g (.inline (List.mem_singleton.mpr rfl) h)) h1 h2
theorem collectSels_sound (s : SchemaD) (P : String → FEntry → Prop) (Sp : String → Prop) :
    ∀ (parent : Option String) (xs : List Sel) (acc : FMap × List String),
    (∀ rn e, CollD s parent xs rn e → P rn e) → (∀ g, SpreadD xs g → Sp g) →
    EntOK P acc.1 → (∀ g ∈ acc.2, Sp g) →
    EntOK P (collectSels s parent xs acc).1 ∧ ∀ g ∈ (collectSels s parent xs acc).2, Sp g
  | _, [], acc, _, _, h1, h2 => by rw [collectSels]; exact ⟨h1, h2⟩
  | parent, x :: xs, acc, hP, hS, h1, h2 => by
    rw [collectSels]
    obtain ⟨a1, a2⟩ := collectSel_sound s P Sp parent x acc
      (fun rn e h => hP rn e (h.mono (fun y hy => by simp only [List.mem_singleton] at hy; subst hy; exact List.mem_cons_self ..)))
      (fun g h => hS g (h.mono (fun y hy => by simp only [List.mem_singleton] at hy; subst hy; exact List.mem_cons_self ..)))
      h1 h2
    exact collectSels_sound s P Sp parent xs _
      (fun rn e h => hP rn e (h.mono (fun y hy => List.mem_cons_of_mem _ hy)))
      (fun g h => hS g (h.mono (fun y hy => List.mem_cons_of_mem _ hy))) a1 a2
end

/-- `_fields_and_fragments`: the fields collected are fields of the set under an ADMISSIBLE parent type (the
    cached one, if the set was met before), the names are fragments the set spreads; the cache stays admissible -/
theorem fieldsAndFragments_sound (s : SchemaD) (d : Doc) (p : Option String) (i : Nat) (sels : List Sel) (c : OCtx)
    (hc : ∀ q ∈ c.cache, Adm s d q.1 q.2) (hp : Adm s d i p) :
    (∃ p', Adm s d i p' ∧ EntOK (CollD s p' sels) (fieldsAndFragments s p i sels c).1.1) ∧
    (∀ g ∈ (fieldsAndFragments s p i sels c).1.2, SpreadD sels g) ∧
    (∀ q ∈ (fieldsAndFragments s p i sels c).2.cache, Adm s d q.1 q.2) ∧
    (fieldsAndFragments s p i sels c).2.frags = c.frags := by
  unfold fieldsAndFragments
  cases hf : c.cache.find? (·.1 == i) with
  | some q =>
    obtain ⟨j, p0⟩ := q
    have hj : j = i := by simpa using List.find?_some hf
    have hadm : Adm s d i p0 := hj ▸ hc _ (List.mem_of_find?_eq_some hf)
    obtain ⟨a1, a2⟩ := collectSels_sound s (CollD s p0 sels) (SpreadD sels) p0 sels ([], [])
      (fun _ _ h => h) (fun _ h => h) (entOK_nil _) (fun _ h => nomatch h)
    exact ⟨⟨p0, hadm, a1⟩, a2, hc, rfl⟩
  | none =>
    obtain ⟨a1, a2⟩ := collectSels_sound s (CollD s p sels) (SpreadD sels) p sels ([], [])
      (fun _ _ h => h) (fun _ h => h) (entOK_nil _) (fun _ h => nomatch h)
    simp only
    refine ⟨⟨p, hp, a1⟩, fun g hg => a2 g (List.mem_eraseDups.mp hg), fun q hq => ?_, by first | rfl | trivial⟩
    rcases List.mem_cons.mp hq with rfl | hq
    · exact hp
    · exact hc q hq

end PyGql.Validate
