/-
  C05 — the translated document `eDoc s env d` and the two enumerations of the validator's document `d` that the rule
  specifications quantify over: an operation / a fragment of `eDoc s env d` is the translation of a definition of `d`,
  and the (typed) nodes of a definition of `d` are (typed) nodes of `d`.
-/
import PyGqlModel.ExecOfValidate
import PyGqlModel.Spec.TypedNodes

namespace PyGql.Props.C05
open PyGql
open PyGql.Validate.Spec (typedNodes tnDef nodes defNodes)

theorem mem_eDoc_ops {s : SchemaD} {env : Exec.ArgEnv} {d : Validate.Doc} {o : Exec.Op} :
    o ∈ (eDoc s env d).ops ↔ ∃ kind name vs ds ssid sels,
      Validate.Def.op kind name vs ds ssid sels ∈ d.defs ∧ o = { kind := kind, name := name, sels := eSels s env sels } := by
  simp only [eDoc, List.mem_filterMap]
  constructor
  · rintro ⟨x, hx, hxo⟩
    cases x with
    | op kind name vs ds ssid sels => exact ⟨kind, name, vs, ds, ssid, sels, hx, (Option.some.inj hxo).symm⟩
    | frag => cases hxo
    | ts => cases hxo
  · rintro ⟨kind, name, vs, ds, ssid, sels, hx, rfl⟩
    exact ⟨_, hx, rfl⟩

theorem mem_eDoc_frags {s : SchemaD} {env : Exec.ArgEnv} {d : Validate.Doc} {f : Exec.Frag} (h : f ∈ (eDoc s env d).frags) :
    ∃ name on ds ssid sels,
      Validate.Def.frag name on ds ssid sels ∈ d.defs ∧ f = { name := name, on := on, sels := eSels s env sels } := by
  simp only [eDoc, List.mem_filterMap] at h
  obtain ⟨x, hx, hxf⟩ := h
  cases x with
  | frag name on ds ssid sels => exact ⟨name, on, ds, ssid, sels, hx, (Option.some.inj hxf).symm⟩
  | op => cases hxf
  | ts => cases hxf

theorem mem_typedNodes_of_def {s : SchemaD} {d : Validate.Doc} {x : Validate.Def} (hx : x ∈ d.defs) {p : Validate.Node × Validate.Spec.View}
    (hp : p ∈ tnDef s x) : p ∈ typedNodes s d :=
  List.mem_flatMap.mpr ⟨x, hx, hp⟩

theorem mem_nodes_of_def {d : Validate.Doc} {x : Validate.Def} (hx : x ∈ d.defs) {n : Validate.Node} (hn : n ∈ defNodes x) :
    n ∈ nodes d :=
  List.mem_cons_of_mem _ (List.mem_flatMap.mpr ⟨x, hx, hn⟩)

end PyGql.Props.C05
