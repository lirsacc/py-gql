/-
  `Sim` for the type-system definitions and extensions, `parse_definition`, `parse_document` and the entry points
  `parse_value`, `parse_type`.
-/
import PyGqlModel.Lemmas.ParseErase
namespace PyGql.Parse
open PyGql PyGql.Ast PyGql.Spec

variable {fl : Flags} {n : Nat}

theorem parseDescription_E : Sim (Option.map StringValue.erase) (parseDescription fl) (parseDescription (E fl)) :=
  .same fun _ => .opt parseStringLiteral_E

theorem parseOperationTypeDefinition_E :
    Sim OperationTypeDefinition.erase (parseOperationTypeDefinition fl) (parseOperationTypeDefinition (E fl)) :=
  .same fun _ => .same fun _ => .same fun _ => .bind parseNamedType_E fun _ => .loc fun _ => rfl

theorem implementsLoop_E : Sim (List.map NamedType.erase) (implementsLoop fl n) (implementsLoop (E fl) n) := by
  rw [implementsLoop_eq, implementsLoop_eq]
  exact delimLoop_E parseNamedType_E

theorem parseImplementsInterfaces_E :
    Sim (List.map NamedType.erase) (parseImplementsInterfaces fl n) (parseImplementsInterfaces (E fl) n) :=
  .same fun _ => .ite (.same fun _ => .same fun _ => implementsLoop_E) (.ret rfl)

theorem parseInputValueDefinition_E :
    Sim InputValueDefinition.erase (parseInputValueDefinition fl n) (parseInputValueDefinition (E fl) n) :=
  .same fun _ => .bind parseDescription_E fun _ => .bind parseName_E fun _ => .same fun _ =>
    .bind parseTypeReference_E fun _ => .bind (.same fun _ => .opt parseValueLiteral_E) fun _ =>
    .bind parseDirectives_E fun _ => .loc fun _ => rfl

theorem parseArgumentDefinitions_E :
    Sim (List.map InputValueDefinition.erase) (parseArgumentDefinitions fl n) (parseArgumentDefinitions (E fl) n) :=
  optMany_E parseInputValueDefinition_E

theorem parseFieldDefinition_E : Sim FieldDefinition.erase (parseFieldDefinition fl n) (parseFieldDefinition (E fl) n) :=
  .same fun _ => .bind parseDescription_E fun _ => .bind parseName_E fun _ => .bind parseArgumentDefinitions_E fun _ =>
    .same fun _ => .bind parseTypeReference_E fun _ => .bind parseDirectives_E fun _ => .loc fun _ => rfl

theorem parseFieldsDefinition_E :
    Sim (List.map FieldDefinition.erase) (parseFieldsDefinition fl n) (parseFieldsDefinition (E fl) n) :=
  optMany_E parseFieldDefinition_E

theorem parseInputFieldsDefinition_E :
    Sim (List.map InputValueDefinition.erase) (parseInputFieldsDefinition fl n) (parseInputFieldsDefinition (E fl) n) :=
  optMany_E parseInputValueDefinition_E

theorem parseEnumValueDefinition_E :
    Sim EnumValueDefinition.erase (parseEnumValueDefinition fl n) (parseEnumValueDefinition (E fl) n) :=
  .same fun _ => .bind parseDescription_E fun _ => .same fun _ =>
    .ite .failed (.bind parseName_E fun _ => .bind parseDirectives_E fun _ => .loc fun _ => rfl)

theorem parseEnumValuesDefinition_E :
    Sim (List.map EnumValueDefinition.erase) (parseEnumValuesDefinition fl n) (parseEnumValuesDefinition (E fl) n) :=
  optMany_E parseEnumValueDefinition_E

theorem parseUnionMemberTypes_E :
    Sim (List.map NamedType.erase) (parseUnionMemberTypes fl n) (parseUnionMemberTypes (E fl) n) :=
  .same fun _ => .ite (delimitedList_E parseNamedType_E) (.ret rfl)

theorem parseDirectiveLocation_E : Sim Name.erase (parseDirectiveLocation fl) (parseDirectiveLocation (E fl)) :=
  .same fun _ => .bind parseName_E fun _ => .ite (.ret rfl) .failedTokAt

theorem parseDirectiveLocations_E :
    Sim (List.map Name.erase) (parseDirectiveLocations fl n) (parseDirectiveLocations (E fl) n) :=
  delimitedList_E parseDirectiveLocation_E

theorem parseSchemaDefinition_E : Sim Definition.erase (parseSchemaDefinition fl n) (parseSchemaDefinition (E fl) n) :=
  .same fun _ => .same fun _ => .bind parseDirectives_E fun _ => .bind (many_E parseOperationTypeDefinition_E) fun _ =>
    .loc fun _ => rfl

theorem parseScalarTypeDefinition_E :
    Sim Definition.erase (parseScalarTypeDefinition fl n) (parseScalarTypeDefinition (E fl) n) :=
  .same fun _ => .bind parseDescription_E fun _ => .same fun _ => .bind parseName_E fun _ =>
    .bind parseDirectives_E fun _ => .loc fun _ => rfl

theorem parseObjectTypeDefinition_E :
    Sim Definition.erase (parseObjectTypeDefinition fl n) (parseObjectTypeDefinition (E fl) n) :=
  .same fun _ => .bind parseDescription_E fun _ => .same fun _ => .bind parseName_E fun _ =>
    .bind parseImplementsInterfaces_E fun _ => .bind parseDirectives_E fun _ => .bind parseFieldsDefinition_E fun _ =>
    .loc fun _ => rfl

theorem parseInterfaceTypeDefinition_E :
    Sim Definition.erase (parseInterfaceTypeDefinition fl n) (parseInterfaceTypeDefinition (E fl) n) :=
  .same fun _ => .bind parseDescription_E fun _ => .same fun _ => .bind parseName_E fun _ =>
    .bind parseDirectives_E fun _ => .bind parseFieldsDefinition_E fun _ => .loc fun _ => rfl

theorem parseUnionTypeDefinition_E :
    Sim Definition.erase (parseUnionTypeDefinition fl n) (parseUnionTypeDefinition (E fl) n) :=
  .same fun _ => .bind parseDescription_E fun _ => .same fun _ => .bind parseName_E fun _ =>
    .bind parseDirectives_E fun _ => .bind parseUnionMemberTypes_E fun _ => .loc fun _ => rfl

theorem parseEnumTypeDefinition_E :
    Sim Definition.erase (parseEnumTypeDefinition fl n) (parseEnumTypeDefinition (E fl) n) :=
  .same fun _ => .bind parseDescription_E fun _ => .same fun _ => .bind parseName_E fun _ =>
    .bind parseDirectives_E fun _ => .bind parseEnumValuesDefinition_E fun _ => .loc fun _ => rfl

theorem parseInputObjectTypeDefinition_E :
    Sim Definition.erase (parseInputObjectTypeDefinition fl n) (parseInputObjectTypeDefinition (E fl) n) :=
  .same fun _ => .bind parseDescription_E fun _ => .same fun _ => .bind parseName_E fun _ =>
    .bind parseDirectives_E fun _ => .bind parseInputFieldsDefinition_E fun _ => .loc fun _ => rfl

theorem parseDirectiveDefinition_E :
    Sim Definition.erase (parseDirectiveDefinition fl n) (parseDirectiveDefinition (E fl) n) :=
  .same fun _ => .bind parseDescription_E fun _ => .same fun _ => .same fun _ => .bind parseName_E fun _ =>
    .bind parseArgumentDefinitions_E fun _ => .same fun _ => .bind parseDirectiveLocations_E fun _ => .loc fun _ => rfl

theorem parseTypeSystemDefinition_E :
    Sim Definition.erase (parseTypeSystemDefinition fl n) (parseTypeSystemDefinition (E fl) n) :=
  .same fun _ => .same fun _ =>
    .ite
      (.ite parseSchemaDefinition_E <| .ite parseScalarTypeDefinition_E <| .ite parseObjectTypeDefinition_E <|
        .ite parseInterfaceTypeDefinition_E <| .ite parseUnionTypeDefinition_E <| .ite parseEnumTypeDefinition_E <|
        .ite parseInputObjectTypeDefinition_E <| .ite parseDirectiveDefinition_E .failedAt)
      .failedAt

/-! ### extensions: the test for an empty extension does not see `erase` -/

theorem parseSchemaExtension_E : Sim Definition.erase (parseSchemaExtension fl n) (parseSchemaExtension (E fl) n) :=
  .same fun _ => .same fun _ => .same fun _ => .bind parseDirectives_E fun _ =>
    .bind (.same fun _ => .ite (many_E parseOperationTypeDefinition_E) (.ret rfl)) fun _ =>
    .iteIff (by simp only [List.isEmpty_map]) .failed (.loc fun _ => rfl)

theorem parseScalarTypeExtension_E :
    Sim Definition.erase (parseScalarTypeExtension fl n) (parseScalarTypeExtension (E fl) n) :=
  .same fun _ => .same fun _ => .same fun _ => .bind parseName_E fun _ => .bind parseDirectives_E fun _ =>
    .iteIff (by simp only [List.isEmpty_map]) .failedAt (.loc fun _ => rfl)

theorem parseObjectTypeExtension_E :
    Sim Definition.erase (parseObjectTypeExtension fl n) (parseObjectTypeExtension (E fl) n) :=
  .same fun _ => .same fun _ => .same fun _ => .bind parseName_E fun _ => .bind parseImplementsInterfaces_E fun _ =>
    .bind parseDirectives_E fun _ => .bind parseFieldsDefinition_E fun _ =>
    .iteIff (by simp only [List.isEmpty_map]) .failed (.loc fun _ => rfl)

theorem parseInterfaceTypeExtension_E :
    Sim Definition.erase (parseInterfaceTypeExtension fl n) (parseInterfaceTypeExtension (E fl) n) :=
  .same fun _ => .same fun _ => .same fun _ => .bind parseName_E fun _ => .bind parseDirectives_E fun _ =>
    .bind parseFieldsDefinition_E fun _ => .iteIff (by simp only [List.isEmpty_map]) .failed (.loc fun _ => rfl)

theorem parseUnionTypeExtension_E :
    Sim Definition.erase (parseUnionTypeExtension fl n) (parseUnionTypeExtension (E fl) n) :=
  .same fun _ => .same fun _ => .same fun _ => .bind parseName_E fun _ => .bind parseDirectives_E fun _ =>
    .bind parseUnionMemberTypes_E fun _ => .iteIff (by simp only [List.isEmpty_map]) .failed (.loc fun _ => rfl)

theorem parseEnumTypeExtension_E :
    Sim Definition.erase (parseEnumTypeExtension fl n) (parseEnumTypeExtension (E fl) n) :=
  .same fun _ => .same fun _ => .same fun _ => .bind parseName_E fun _ => .bind parseDirectives_E fun _ =>
    .bind parseEnumValuesDefinition_E fun _ => .iteIff (by simp only [List.isEmpty_map]) .failed (.loc fun _ => rfl)

theorem parseInputObjectTypeExtension_E :
    Sim Definition.erase (parseInputObjectTypeExtension fl n) (parseInputObjectTypeExtension (E fl) n) :=
  .same fun _ => .same fun _ => .same fun _ => .bind parseName_E fun _ => .bind parseDirectives_E fun _ =>
    .bind parseInputFieldsDefinition_E fun _ =>
    .iteIff (by simp only [List.isEmpty_map]) .failedTokAt (.loc fun _ => rfl)

theorem parseTypeSystemExtension_E :
    Sim Definition.erase (parseTypeSystemExtension fl n) (parseTypeSystemExtension (E fl) n) :=
  .same fun _ =>
    .ite
      (.ite parseSchemaExtension_E <| .ite parseScalarTypeExtension_E <| .ite parseObjectTypeExtension_E <|
        .ite parseInterfaceTypeExtension_E <| .ite parseUnionTypeExtension_E <| .ite parseEnumTypeExtension_E <|
        .ite parseInputObjectTypeExtension_E .failedAt)
      .failedAt

theorem parseDefinition_E : Sim Definition.erase (parseDefinition fl n) (parseDefinition (E fl) n) :=
  -- `E` leaves the flag tested as it is (`E_ts`)
  .same fun _ =>
    .ite
      (.ite parseExecutableDefinition_E <|
        .ite (.ite parseTypeSystemDefinition_E <| .ite parseTypeSystemExtension_E .failed) .failed)
      (.ite parseExecutableDefinition_E <| .ite parseTypeSystemDefinition_E .failed)

theorem parseDocumentP_E (fl : Flags) (fuel : Nat) :
    parseDocumentP (E fl) fuel = parseDocumentP fl fuel >>= fun d => pure d.erase :=
  Sim.same fun _ => .bind (many_E parseDefinition_E) fun _ => .loc fun _ => rfl

theorem parseValueP_E (fl : Flags) (fuel : Nat) :
    parseValueP (E fl) fuel = parseValueP fl fuel >>= fun d => pure d.erase :=
  Sim.same fun _ => .bind parseValueLiteral_E fun _ => .same fun _ => .ret rfl

theorem parseTypeP_E (fl : Flags) (fuel : Nat) :
    parseTypeP (E fl) fuel = parseTypeP fl fuel >>= fun d => pure d.erase :=
  Sim.same fun _ => .bind parseTypeReference_E fun _ => .same fun _ => .ret rfl

theorem runAll_E {α} (p q : Nat → P α) (e : α → α) (h : ∀ n, p n = q n >>= fun a => pure (e a)) (toks : List Tok) :
    runAll p toks = (runAll q toks).map e := by
  simp only [runAll, h, bind_eq, pure_eq]
  cases hq : q (toks.length + 1) ⟨toks, default⟩ with
  | error err => rfl
  | ok r =>
    rcases r with ⟨a, s⟩
    rcases s with ⟨ts, l⟩
    cases ts <;> rfl

end PyGql.Parse
