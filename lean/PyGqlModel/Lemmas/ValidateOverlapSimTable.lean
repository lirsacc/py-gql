/-
  Helpers for instantiating `OvSim` (Lemmas/ValidateOverlapSim.lean): the fragment table of a document whose fragment
  definitions are the images (renamed name, mapped selections) of those of another; what the overlap rule collects from
  a selection list mapped selection by selection (`SelMap`), and the selection sets and walked parent types of a
  document whose nodes are the images of those of another; the field node behind a collected field; `Good` = pairwise
  different argument names, from the clause of UniqueArgumentNames.
-/
import PyGqlModel.Lemmas.ValidateOverlapSim
import PyGqlModel.Lemmas.ValidateOverlapSortArgs
namespace PyGql.Validate
open PyGql PyGql.Validate.Spec

/-- how a transformation acts on the entries of `fragDefs` -/
def mapFragDef (φ : String → String) (σ : List Sel → List Sel) (f : String × String × Nat × List Sel) :
    String × String × Nat × List Sel := (φ f.1, f.2.1, f.2.2.1, σ f.2.2.2)

section
variable {d d' : Doc} {φ : String → String} {σ : List Sel → List Sel}
  (hdefs : fragDefs d' = (fragDefs d).map (mapFragDef φ σ)) (hinj : ∀ a b, φ a = φ b → a = b)
include hdefs hinj

theorem fragTable_image (g : String) :
    AL.get? (fragTable d') (φ g) = (AL.get? (fragTable d) g).map fun v => (v.1, v.2.1, σ v.2.2) := by
  unfold fragTable
  rw [hdefs, List.foldl_map]
  exact get?_foldl_set_image φ hinj (fun v : String × Nat × List Sel => (v.1, v.2.1, σ v.2.2)) g (fragDefs d) [] [] rfl

theorem fragTable_image_fwd (g on : String) (i : Nat) (sels : List Sel)
    (h : AL.get? (fragTable d) g = some (on, i, sels)) : AL.get? (fragTable d') (φ g) = some (on, i, σ sels) := by
  rw [fragTable_image hdefs hinj, h]; rfl

theorem fragTable_image_bwd (g' on : String) (i : Nat) (sels' : List Sel)
    (h : AL.get? (fragTable d') g' = some (on, i, sels')) :
    ∃ g sels, g' = φ g ∧ sels' = σ sels ∧ AL.get? (fragTable d) g = some (on, i, sels) := by
  have hm : ∃ f ∈ fragDefs d, g' = φ f.1 := by
    have h0 := h
    unfold fragTable at h0
    rcases get?_foldl_set _ _ _ _ h0 with h' | h'
    · rw [hdefs] at h'
      obtain ⟨f, hf, e⟩ := List.mem_map.mp h'
      exact ⟨f, hf, (congrArg Prod.fst e).symm⟩
    · simp [AL.get?_nil] at h'
  obtain ⟨f, _, rfl⟩ := hm
  rw [fragTable_image hdefs hinj] at h
  cases hv : AL.get? (fragTable d) f.1 with
  | none => rw [hv] at h; cases h
  | some v =>
    rw [hv] at h
    obtain ⟨on0, i0, sels0⟩ := v
    simp only [Option.map_some, Option.some.injEq, Prod.mk.injEq] at h
    obtain ⟨rfl, rfl, rfl⟩ := h
    exact ⟨f.1, sels0, rfl, rfl, hv⟩

end

/-! ### maps on selections

  The three transformations act on a selection list through a map on selections that keeps the kind of a selection, the
  name of a field, the type condition of an inline fragment and the identity of every sub-selection set. What the overlap
  rule collects from a list (`CollD`, `SpreadD`) is then the image of what it collects from the original. -/

structure SelMap where
  σ : Sel → Sel
  /-- the action on selection lists: the images of the members, in any order -/
  L : List Sel → List Sel
  φ : String → String
  alias : Option String → String → Option String
  args : List Arg → List Arg
  dirs : List Dir → List Dir
  mem_L : ∀ {x : Sel} {sels : List Sel}, x ∈ L sels ↔ x ∈ sels.map σ
  σ_field : ∀ al n a ds hs i sb, σ (.field al n a ds hs i sb) = .field (alias al n) n (args a) (dirs ds) hs i (L sb)
  σ_spread : ∀ n ds, σ (.spread n ds) = .spread (φ n) (dirs ds)
  σ_inline : ∀ on ds i sb, σ (.inline on ds i sb) = .inline on (dirs ds) i (L sb)

namespace SelMap
variable (M : SelMap)

def ent (e : FEntry) : FEntry := { e with args := M.args e.args, sub := M.L e.sub }

theorem mem_field {al n a ds hs i sb} {sels : List Sel} (h : Sel.field al n a ds hs i sb ∈ sels) :
    Sel.field (M.alias al n) n (M.args a) (M.dirs ds) hs i (M.L sb) ∈ M.L sels :=
  M.mem_L.mpr (List.mem_map.mpr ⟨_, h, M.σ_field ..⟩)

theorem mem_inline {on ds i sb} {sels : List Sel} (h : Sel.inline on ds i sb ∈ sels) :
    Sel.inline on (M.dirs ds) i (M.L sb) ∈ M.L sels :=
  M.mem_L.mpr (List.mem_map.mpr ⟨_, h, M.σ_inline ..⟩)

theorem of_mem_field {al' n a' ds' hs i sb'} {sels : List Sel} (h : Sel.field al' n a' ds' hs i sb' ∈ M.L sels) :
    ∃ al a ds sb, Sel.field al n a ds hs i sb ∈ sels ∧ al' = M.alias al n ∧ a' = M.args a ∧ sb' = M.L sb := by
  obtain ⟨y, hy, e⟩ := List.mem_map.mp (M.mem_L.mp h)
  cases y with
  | field al n0 a ds hs0 i0 sb =>
    rw [M.σ_field] at e
    cases e
    exact ⟨al, a, ds, sb, hy, rfl, rfl, rfl⟩
  | spread => rw [M.σ_spread] at e; cases e
  | inline => rw [M.σ_inline] at e; cases e

theorem of_mem_inline {on ds' i sb'} {sels : List Sel} (h : Sel.inline on ds' i sb' ∈ M.L sels) :
    ∃ ds sb, Sel.inline on ds i sb ∈ sels ∧ sb' = M.L sb := by
  obtain ⟨y, hy, e⟩ := List.mem_map.mp (M.mem_L.mp h)
  cases y with
  | field => rw [M.σ_field] at e; cases e
  | spread => rw [M.σ_spread] at e; cases e
  | inline on0 ds i0 sb =>
    rw [M.σ_inline] at e
    cases e
    exact ⟨ds, sb, hy, rfl⟩

theorem of_mem_spread {g' ds'} {sels : List Sel} (h : Sel.spread g' ds' ∈ M.L sels) :
    ∃ g ds, Sel.spread g ds ∈ sels ∧ g' = M.φ g := by
  obtain ⟨y, hy, e⟩ := List.mem_map.mp (M.mem_L.mp h)
  cases y with
  | field => rw [M.σ_field] at e; cases e
  | spread g ds =>
    rw [M.σ_spread] at e
    cases e
    exact ⟨g, ds, hy, rfl⟩
  | inline => rw [M.σ_inline] at e; cases e

theorem spreadD_fwd {sels : List Sel} {g : String} (h : SpreadD sels g) : SpreadD (M.L sels) (M.φ g) := by
  induction h with
  | spread hm => exact .spread (M.mem_L.mpr (List.mem_map.mpr ⟨_, hm, M.σ_spread ..⟩))
  | inline hm _ ih => exact .inline (M.mem_inline hm) ih

theorem spreadD_bwd {sels : List Sel} {g' : String} (h : SpreadD (M.L sels) g') : ∃ g, g' = M.φ g ∧ SpreadD sels g := by
  generalize e : M.L sels = sels' at h
  induction h generalizing sels with
  | spread hm =>
    subst e
    obtain ⟨g, ds, hy, rfl⟩ := M.of_mem_spread hm
    exact ⟨g, rfl, .spread hy⟩
  | inline hm _ ih =>
    subst e
    obtain ⟨ds, sb, hy, rfl⟩ := M.of_mem_inline hm
    obtain ⟨g, hg, h0⟩ := ih rfl
    exact ⟨g, hg, .inline hy h0⟩

section
-- `P` holds of the selection lists on which `M` renames response names by `ρ`
variable {s : SchemaD} {ρ : String → String} {P : List Sel → Prop}
  (hsub : ∀ {sels on ds i sb}, P sels → Sel.inline on ds i sb ∈ sels → P sb)
  (hρ : ∀ {sels al n a ds hs i sb}, P sels → Sel.field al n a ds hs i sb ∈ sels →
    responseName (M.alias al n) n = ρ (responseName al n))
include hsub hρ

theorem collD_fwd {p : Option String} {sels : List Sel} {rn : String} {e : FEntry} (hc : CollD s p sels rn e)
    (hP : P sels) : CollD s p (M.L sels) (ρ rn) (M.ent e) := by
  induction hc with
  | field hm =>
    rw [← hρ hP hm]
    exact .field (M.mem_field hm)
  | inline hm _ ih => exact .inline (M.mem_inline hm) (ih (hsub hP hm))

theorem collD_bwd {p : Option String} {sels : List Sel} {rn' : String} {e' : FEntry} (hc : CollD s p (M.L sels) rn' e')
    (hP : P sels) : ∃ rn e, rn' = ρ rn ∧ e' = M.ent e ∧ CollD s p sels rn e := by
  generalize e : M.L sels = sels' at hc
  induction hc generalizing sels with
  | field hm =>
    subst e
    obtain ⟨al, a, ds, sb, hy, rfl, rfl, rfl⟩ := M.of_mem_field hm
    exact ⟨_, _, hρ hP hy, rfl, .field hy⟩
  | inline hm _ ih =>
    subst e
    obtain ⟨ds, sb, hy, rfl⟩ := M.of_mem_inline hm
    obtain ⟨rn0, e0, h1, h2, hc0⟩ := ih (hsub hP hy) rfl
    exact ⟨rn0, e0, h1, h2, .inline hy hc0⟩

end
end SelMap

/-! ### the selection sets of a document whose nodes are the images (under `ν`) of the nodes of another -/
section
variable {d d' : Doc} {ν : Node → Node} {L : List Sel → List Sel}
  (hν : ∀ i sels, ν (.selectionSet i sels) = .selectionSet i (L sels))
  (hinv : ∀ m i sels', ν m = .selectionSet i sels' → ∃ sels, m = .selectionSet i sels)
include hν hinv

theorem selSet_image (hn : ∀ n, n ∈ nodes d' ↔ n ∈ (nodes d).map ν) (i : Nat) :
    (∀ sels, SelSet d i sels → SelSet d' i (L sels)) ∧
      ∀ sels', SelSet d' i sels' → ∃ sels, SelSet d i sels ∧ sels' = L sels := by
  refine ⟨fun sels h => (hn _).mpr (List.mem_map.mpr ⟨_, h, hν i sels⟩), fun sels' h => ?_⟩
  obtain ⟨m, hm, e⟩ := List.mem_map.mp ((hn _).mp h)
  obtain ⟨sels, rfl⟩ := hinv m i sels' e
  rw [hν] at e
  cases e
  exact ⟨sels, hm, rfl⟩

theorem walkP_image {s : SchemaD} (ht : ∀ q, q ∈ typedNodes s d' ↔ q ∈ (typedNodes s d).map fun q0 => (ν q0.1, q0.2))
    (i : Nat) (p : Option String) : WalkP s d i p ↔ WalkP s d' i p := by
  constructor
  · rintro ⟨sels, v, hm, rfl⟩
    exact ⟨L sels, v, (ht _).mpr (List.mem_map.mpr ⟨_, hm, by rw [hν]⟩), rfl⟩
  · rintro ⟨sels', v, hm, rfl⟩
    obtain ⟨⟨m, v0⟩, h0, e⟩ := List.mem_map.mp ((ht _).mp hm)
    obtain ⟨e1, rfl⟩ := Prod.mk.inj e
    obtain ⟨sels, rfl⟩ := hinv m i sels' e1
    exact ⟨sels, _, h0, rfl⟩

end

theorem collD_field_node {s : SchemaD} {d : Doc} {p : Option String} {sels : List Sel} {rn : String} {e : FEntry} {i : Nat}
    (h : SelSet d i sels) (hc : CollD s p sels rn e) : ∃ dirs, Node.field e.name e.args dirs e.hasSub ∈ nodes d := by
  induction hc generalizing i with
  | @field parent sels alias name args dirs hasSub ssid sub hm =>
    refine ⟨dirs, selSet_closed h _ (mem_selsNodes_of_mem hm _ ?_)⟩
    simp [selNodes]
  | @inline parent sels on dirs id sub rn e hm _ ih =>
    refine ih (i := id) (selSet_closed h _ (mem_selsNodes_of_mem hm _ ?_))
    simp [selNodes]

theorem entD_args_nodup {s : SchemaD} {d : Doc} (hu : Spec.uniqueArgumentNames d) {e : FEntry} (he : EntD s d e) :
    (e.args.map (·.name)).Nodup := by
  obtain ⟨i, sels, p, rn, h1, h2⟩ := he
  obtain ⟨dirs, hn⟩ := collD_field_node h1 h2
  exact hu.1 _ hn _ _ _ _ rfl

end PyGql.Validate
