/-
  C07 — `coerce_int` and `coerce_float` in two steps: the number a JSON scalar denotes (`intDenoted`, `floatDenoted`: the
  branches of the source, `int()` / `float()` by the lexeme model `PyNum`), then the one guard at the end (the range test,
  the finiteness test).
-/
import PyGqlModel.Spec.Coerce

namespace PyGql.Props.C07
open PyGql PyGql.Coerce PyGql.PyNum

/-- the integer a JSON scalar denotes for `coerce_int`, if any (before the range test) -/
def intDenoted : JV → Option Int
  | .bool b => some (if b then 1 else 0)
  | .int n => some n
  | .float t => (pyFloat t).bind Dbl.integral
  | .str s =>
    if s == "" then none
    else match pyInt10 s with
      | some n => some n
      | none => (pyFloat s).bind Dbl.integral
  | _ => none

/-- the float a JSON scalar denotes for `coerce_float`, if any, with its class (before the finiteness test); an integer too
    large for a double denotes none (the OverflowError is caught, fix A6) -/
def floatDenoted : JV → Option (FCls × Flt)
  | .bool b => some (.finite, .ofBool b)
  | .int n => if intFitsDouble n then some (.finite, .ofInt n) else none
  | .float t => (pyFloat t).map fun d => (clsOf d, .text t)
  | .str s => if s == "" then none else (pyFloat s).map fun d => (clsOf d, .text s)
  | _ => none

end PyGql.Props.C07

namespace PyGql.Coerce
open PyGql PyGql.PyNum PyGql.Props.C07

theorem coerceInt_eq (v : JV) :
    coerceInt v = match intDenoted v with
      | some k => rangeChecked k (.int k)
      | none => .error .coercion := by
  cases v with
  | float t =>
    simp only [coerceInt, intDenoted]
    cases pyFloat t with
    | none => rfl
    | some d => cases hd : d.integral <;> simp only [Option.bind, hd]
  | str s =>
    simp only [coerceInt, intDenoted]
    split
    · rfl
    · cases pyInt10 s with
      | some n => rfl
      | none =>
        cases pyFloat s with
        | none => rfl
        | some d => cases hd : d.integral <;> simp only [Option.bind, hd]
  | _ => rfl

theorem coerceFloat_eq (v : JV) :
    coerceFloat v = match floatDenoted v with
      | some (c, f) => floatChecked c (.float f)
      | none => .error .coercion := by
  have hover : Generated.Scalars.floatCatchesOverflow = true := rfl
  cases v with
  | int n =>
    simp only [coerceFloat, floatDenoted, hover, if_true]
    split <;> rfl
  | float t =>
    simp only [coerceFloat, floatDenoted]
    cases pyFloat t <;> rfl
  | str s =>
    simp only [coerceFloat, floatDenoted]
    split
    · rfl
    · cases pyFloat s <;> rfl
  | _ => rfl

end PyGql.Coerce
