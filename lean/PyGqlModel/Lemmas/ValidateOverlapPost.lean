/-
  `OverlappingFieldsCanBeMergedChecker`, soundness half with fragment spreads: the shape of the
  postconditions of the search functions (`GPk`, over any list of memo keys; `GP` = over the compared-pairs memo): a
  call that ends without a crash started without one, only adds keys to the memo, and - when it counted no conflict -
  every key it added is closed (`KeyObl`, relative to any memo `M` that contains the final one) and its own payload
  `Res M` holds. Combinators for sequencing and for `sumLoop`, stated once for `GPk`.
  Also: `_fields_and_fragments` touches nothing but the cache; the collected fragment names are complete.
-/
import PyGqlModel.Lemmas.ValidateOverlapCertUse
namespace PyGql.Validate
open PyGql PyGql.Validate.Spec

/-- postcondition of a call over a list of memo keys `keys c` whose closure is `Obl` -/
structure GPk {K : Type} (keys : OCtx → List K) (Obl : (K → Prop) → K → Prop) (c : OCtx) (r : Nat × OCtx)
    (Res : (K → Prop) → Prop) : Prop where
  crash : c.crash = none
  mono : ∀ k ∈ keys c, k ∈ keys r.2
  res : r.1 = 0 → ∀ M : K → Prop, (∀ k ∈ keys r.2, M k) → (∀ k ∈ keys r.2, k ∈ keys c ∨ Obl M k) ∧ Res M

section
variable {K : Type} {keys : OCtx → List K} {Obl : (K → Prop) → K → Prop}

/-- a step that counts nothing and leaves memo and crash flag alone -/
theorem GPk.skip {c c' : OCtx} {Res : (K → Prop) → Prop} (hp : keys c' = keys c) (hcr : c'.crash = c.crash)
    (hres : ∀ M, (∀ k ∈ keys c, M k) → Res M) (h : c'.crash = none) : GPk keys Obl c (0, c') Res :=
  ⟨by rw [← hcr]; exact h, fun k hk => by simp only; rw [hp]; exact hk,
   fun _ M hM => ⟨fun k hk => Or.inl (by simp only at hk; rw [hp] at hk; exact hk),
    hres M (fun k hk => hM k (by simp only; rw [hp]; exact hk))⟩⟩

/-- a step that reported something: nothing is claimed -/
theorem GPk.pos {c c' : OCtx} {Res : (K → Prop) → Prop} {k : Nat} (hk : k ≠ 0) (hp : ∀ x ∈ keys c, x ∈ keys c')
    (hcr : c.crash = none) : GPk keys Obl c (k, c') Res :=
  ⟨hcr, hp, fun h0 => absurd h0 hk⟩

/-- change the count to one that vanishes only if the original does -/
theorem GPk.count {c : OCtx} {r : Nat × OCtx} {R : (K → Prop) → Prop} (h : GPk keys Obl c r R) (k : Nat) (hk : k = 0 → r.1 = 0) :
    GPk keys Obl c (k, r.2) R :=
  ⟨h.crash, h.mono, fun h0 => h.res (hk h0)⟩

theorem GPk.imp {c : OCtx} {r : Nat × OCtx} {R1 R2 : (K → Prop) → Prop} (h : GPk keys Obl c r R1) (hi : ∀ M, (∀ k ∈ keys r.2, M k) → R1 M → R2 M) :
    GPk keys Obl c r R2 :=
  ⟨h.crash, h.mono, fun h0 M hM => ⟨(h.res h0 M hM).1, hi M hM (h.res h0 M hM).2⟩⟩

/-- sequencing: the second call starts where the first ended -/
theorem GPk.seq {c : OCtx} {r1 r2 : Nat × OCtx} {R1 R2 : (K → Prop) → Prop} (h1 : GPk keys Obl c r1 R1) (h2 : GPk keys Obl r1.2 r2 R2) :
    GPk keys Obl c (r1.1 + r2.1, r2.2) (fun M => R1 M ∧ R2 M) := by
  refine ⟨h1.crash, fun k hk => h2.mono k (h1.mono k hk), fun h0 M hM => ?_⟩
  simp only at h0 hM
  have hM1 : (∀ k ∈ keys r1.2, M k) := fun k hk => hM k (h2.mono k hk)
  obtain ⟨a1, a2⟩ := h1.res (by omega) M hM1
  obtain ⟨b1, b2⟩ := h2.res (by omega) M hM
  refine ⟨fun k hk => ?_, a2, b2⟩
  rcases b1 k hk with h | h
  · exact a1 k h
  · exact Or.inr h

/-- a context transformation in front (e.g. marking a name in `cmp`, inserting a key whose closure is supplied) -/
theorem GPk.pre {c c0 : OCtx} {r : Nat × OCtx} {R : (K → Prop) → Prop} (h : GPk keys Obl c0 r R) (hcr : c0.crash = c.crash)
    (hp : ∀ k ∈ keys c, k ∈ keys c0)
    (hnew : r.1 = 0 → ∀ M, (∀ k ∈ keys r.2, M k) → R M → ∀ k ∈ keys c0, k ∈ keys c ∨ Obl M k) : GPk keys Obl c r R := by
  refine ⟨by rw [← hcr]; exact h.crash, fun k hk => h.mono k (hp k hk), fun h0 M hM => ?_⟩
  obtain ⟨a1, a2⟩ := h.res h0 M hM
  refine ⟨fun k hk => ?_, a2⟩
  rcases a1 k hk with h' | h'
  · exact hnew h0 M hM a2 k h'
  · exact Or.inr h'

/-- a context transformation behind that keeps memo and crash flag (e.g. restoring `cmp`) -/
theorem GPk.post {c : OCtx} {r : Nat × OCtx} {c' : OCtx} {R : (K → Prop) → Prop} (h : GPk keys Obl c r R) (hp : keys c' = keys r.2) :
    GPk keys Obl c (r.1, c') R :=
  ⟨h.crash, fun k hk => by simp only; rw [hp]; exact h.mono k hk,
   fun h0 M hM => by
    have hM' : (∀ k ∈ keys r.2, M k) := fun k hk => hM k (by simp only; rw [hp]; exact hk)
    obtain ⟨a1, a2⟩ := h.res h0 M hM'
    exact ⟨fun k hk => a1 k (by simp only at hk; rw [hp] at hk; exact hk), a2⟩⟩

/-- every item satisfies its postcondition ⇒ the loop satisfies the conjunction -/
theorem sumLoop_gp {α} (xs : List α) (f : α → OCtx → Nat × OCtx) (P : OCtx → Prop) (Q : α → (K → Prop) → Prop)
    (hf : ∀ x ∈ xs, ∀ c, P c → P (f x c).2 ∧ ((f x c).2.crash = none → GPk keys Obl c (f x c) (Q x)))
    (c : OCtx) (hc : P c) (hn : (sumLoop xs f c).2.crash = none) :
    GPk keys Obl c (sumLoop xs f c) (fun M => ∀ x ∈ xs, Q x M) := by
  induction xs generalizing c with
  | nil => exact GPk.skip rfl rfl (fun _ _ _ h => nomatch h) hn
  | cons x xs ih =>
    rw [sumLoop_step] at hn ⊢
    by_cases hcr : c.crash.isSome = true
    · rw [if_pos hcr] at hn
      rw [hn] at hcr
      cases hcr
    · rw [if_neg hcr] at hn ⊢
      obtain ⟨p1, q1⟩ := hf x (List.mem_cons_self ..) c hc
      have g2 := ih (fun y hy => hf y (List.mem_cons_of_mem _ hy)) _ p1 hn
      refine ((q1 g2.crash).seq g2).imp (fun M _ r y hy => ?_)
      rcases List.mem_cons.mp hy with rfl | hy
      · exact r.1
      · exact r.2 y hy

/-- a loop over fragment names each of which is recorded in `cmp` -/
theorem sumLoop_names (xs : List String) (f : String → OCtx → Nat × OCtx) (P : OCtx → Prop)
    (NO : (K → Prop) → List String → String → Prop)
    (hf : ∀ x ∈ xs, ∀ c, P c → P (f x c).2 ∧ (∀ n ∈ c.cmp, n ∈ (f x c).2.cmp) ∧
      ((f x c).2.crash = none → x ∈ (f x c).2.cmp ∧
        GPk keys Obl c (f x c) (fun M => ∀ CF, (∀ n ∈ (f x c).2.cmp, n ∈ CF) → ∀ n ∈ (f x c).2.cmp, n ∈ c.cmp ∨ NO M CF n)))
    (c : OCtx) (hc : P c) (hn : (sumLoop xs f c).2.crash = none) :
    (∀ x ∈ xs, x ∈ (sumLoop xs f c).2.cmp) ∧ (∀ n ∈ c.cmp, n ∈ (sumLoop xs f c).2.cmp) ∧
    GPk keys Obl c (sumLoop xs f c) (fun M => ∀ CF, (∀ n ∈ (sumLoop xs f c).2.cmp, n ∈ CF) →
      ∀ n ∈ (sumLoop xs f c).2.cmp, n ∈ c.cmp ∨ NO M CF n) := by
  induction xs generalizing c with
  | nil => exact ⟨fun _ h => (nomatch h), fun _ h => h, GPk.skip rfl rfl (fun _ _ _ _ _ h => Or.inl h) hn⟩
  | cons x xs ih =>
    rw [sumLoop_step] at hn ⊢
    by_cases hcr : c.crash.isSome = true
    · rw [if_pos hcr] at hn
      rw [hn] at hcr
      cases hcr
    · rw [if_neg hcr] at hn ⊢
      obtain ⟨p1, m1, q1⟩ := hf x (List.mem_cons_self ..) c hc
      obtain ⟨lx, lm, g2⟩ := ih (fun y hy => hf y (List.mem_cons_of_mem _ hy)) _ p1 hn
      obtain ⟨hx, g1⟩ := q1 g2.crash
      refine ⟨fun y hy => ?_, fun n h => lm n (m1 n h), (g1.seq g2).imp (fun M _ r CF hCF n h => ?_)⟩
      · rcases List.mem_cons.mp hy with rfl | hy
        · exact lm _ hx
        · exact lx y hy
      · -- a name recorded by a later item, or by this one (then still in `cmp` at the end)
        rcases r.2 CF hCF n h with h' | h'
        · exact r.1 CF (fun n h => hCF n (lm n h)) n h'
        · exact Or.inr h'

end

/-- `M` contains the memo of the context -/
def Sup (c : OCtx) (M : Memo) : Prop := ∀ k ∈ c.pairs, M k

/-- `GPk` over the compared-pairs memo written out as a structure of its own: the form `post_all` is stated with (`GPk.gp`) -/
structure GP (s : SchemaD) (d : Doc) (c : OCtx) (r : Nat × OCtx) (Res : Memo → Prop) : Prop where
  crash : c.crash = none
  mono : ∀ k ∈ c.pairs, k ∈ r.2.pairs
  res : r.1 = 0 → ∀ M, Sup r.2 M → (∀ k ∈ r.2.pairs, k ∈ c.pairs ∨ KeyObl s d M k) ∧ Res M

/-- `GPk` over the compared-pairs memo -/
abbrev GPp (s : SchemaD) (d : Doc) := GPk OCtx.pairs (KeyObl s d)

theorem GPk.gp {s : SchemaD} {d : Doc} {c : OCtx} {r : Nat × OCtx} {Res : Memo → Prop} (h : GPp s d c r Res) :
    GP s d c r Res := ⟨h.crash, h.mono, h.res⟩

mutual
theorem collectSel_spreads (s : SchemaD) : ∀ (parent : Option String) (x : Sel) (acc : FMap × List String) (g : String),
    (g ∈ acc.2 ∨ SpreadD [x] g) → g ∈ (collectSel s parent x acc).2
  | parent, .field alias name args dirs hasSub ssid sub, (fm, fr), g, h => by
    show g ∈ fr
    rcases h with h | h
    · exact h
    · cases h with
      | spread hm => cases List.mem_singleton.mp hm
      | inline hm _ => cases List.mem_singleton.mp hm
  | parent, .spread name dirs, (fm, fr), g, h => by
    show g ∈ fr ++ [name]
    rcases h with h | h
    · exact List.mem_append_left _ h
    · cases h with
      | spread hm =>
        cases List.mem_singleton.mp hm
        exact List.mem_append_right _ (List.mem_singleton.mpr rfl)
      | inline hm _ => cases List.mem_singleton.mp hm
  | parent, .inline on dirs id sub, (fm, fr), g, h => by
    refine collectSels_spreads s _ sub (fm, fr) g ?_
    rcases h with h | h
    · exact Or.inl h
    · cases h with
      | spread hm => cases List.mem_singleton.mp hm
      | inline hm hs =>
        cases List.mem_singleton.mp hm
        exact Or.inr hs
termination_by structural _ x => x
theorem collectSels_spreads (s : SchemaD) : ∀ (parent : Option String) (xs : List Sel) (acc : FMap × List String) (g : String),
    (g ∈ acc.2 ∨ SpreadD xs g) → g ∈ (collectSels s parent xs acc).2
  | _, [], acc, g, h => by
    show g ∈ acc.2
    rcases h with h | h
    · exact h
    · cases h with
      | spread hm => cases hm
      | inline hm _ => cases hm
  | parent, x :: xs, acc, g, h => by
    refine collectSels_spreads s parent xs (collectSel s parent x acc) g ?_
    rcases h with h | h
    · exact Or.inl (collectSel_spreads s parent x acc g (Or.inl h))
    · cases h with
      | spread hm =>
        rcases List.mem_cons.mp hm with e | hm
        · exact Or.inl (collectSel_spreads s parent x acc g (Or.inr (.spread (List.mem_singleton.mpr e))))
        · exact Or.inr (.spread hm)
      | inline hm hs =>
        rcases List.mem_cons.mp hm with e | hm
        · exact Or.inl (collectSel_spreads s parent x acc g (Or.inr (.inline (List.mem_singleton.mpr e) hs)))
        · exact Or.inr (.inline hm hs)
termination_by structural _ xs => xs
end

theorem ff_spreads_complete (s : SchemaD) (p : Option String) (i : Nat) (sels : List Sel) (c : OCtx) (g : String)
    (h : SpreadD sels g) : g ∈ (fieldsAndFragments s p i sels c).1.2 := by
  unfold fieldsAndFragments
  cases c.cache.find? (·.1 == i) with
  | some q => exact collectSels_spreads s _ sels ([], []) g (Or.inr h)
  | none =>
    simp only
    exact List.mem_eraseDups.mpr (collectSels_spreads s _ sels ([], []) g (Or.inr h))

end PyGql.Validate
