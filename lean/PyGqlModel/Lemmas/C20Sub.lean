/-
  C20 — the strictness order `sub` (Differ.lean) on its own: it is sound for every reading of type expressions as sets of
  values with two laws (`sub_sound_of`), it never adds a non-null wrapper (`sub_nonNull_right`), it is transitive
  (`sub_trans`). Reflexivity, `base`, and completeness for `acc` are in Props/C20.lean (`sub_refl_in`, `sub_base`, `safeIn_iff`).
-/
import PyGqlModel.Differ

set_option linter.unusedSimpArgs false

namespace PyGql.Props.C20
open PyGql PyGql.Differ

/-- `sub` is sound for every reading `A` of type expressions in which a non-null type accepts what its inner type
    accepts except null, and a list type accepts more when its item type does: `acc` (no list coercion) and
    `accC` (with it, Props/C20_coercion.lean) are two such readings -/
theorem sub_sound_of (A : Ty → Val → Bool)
    (hN : ∀ t v, A (.nonNull t) v = true ↔ A t v = true ∧ v ≠ .null)
    (hL : ∀ t u, (∀ v, A t v = true → A u v = true) → ∀ v, A (.list t) v = true → A (.list u) v = true) :
    ∀ a b : Ty, sub a b = true → ∀ v, A a v = true → A b v = true := by
  intro a
  induction a with
  | named x =>
    intro b h v hv
    cases b <;> simp [sub] at h
    subst h
    exact hv
  | list t ih =>
    intro b h
    cases b with
    | list u => exact hL t u (ih u (by simpa [sub] using h))
    | _ => simp [sub] at h
  | nonNull t ih =>
    intro b h v hv
    obtain ⟨hv1, hv2⟩ := (hN t v).mp hv
    cases b with
    | named y => exact ih _ (by simpa [sub] using h) v hv1
    | list u => exact ih _ (by simpa [sub] using h) v hv1
    | nonNull u => exact (hN u v).mpr ⟨ih u (by simpa [sub] using h) v hv1, hv2⟩

/-- a safe input type change never ADDS a non-null wrapper -/
theorem sub_nonNull_right {t b : Ty} (h : sub t (.nonNull b) = true) : ∃ a, t = .nonNull a ∧ sub a b = true := by
  cases t with
  | named x => simp [sub] at h
  | list i => simp [sub] at h
  | nonNull a => exact ⟨a, rfl, by simpa [sub] using h⟩

theorem sub_trans : ∀ (a b c : Ty), sub a b = true → sub b c = true → sub a c = true := by
  intro a
  induction a with
  | named x =>
    intro b c h1 h2
    cases b with
    | named y => have : x = y := by simpa [sub] using h1
                 subst this; exact h2
    | list j => simp [sub] at h1
    | nonNull j => simp [sub] at h1
  | list i ih =>
    intro b c h1 h2
    cases b with
    | list j =>
      cases c with
      | list k => simp only [sub] at h1 h2 ⊢; exact ih j k h1 h2
      | named z => simp [sub] at h2
      | nonNull k => simp [sub] at h2
    | named y => simp [sub] at h1
    | nonNull j => simp [sub] at h1
  | nonNull a ih =>
    intro b c h1 h2
    cases b with
    | nonNull b' =>
      have h1' : sub a b' = true := by simpa [sub] using h1
      cases c with
      | nonNull c' => simp only [sub] at h2 ⊢; exact ih b' c' h1' h2
      | named z => simp only [sub] at h2 ⊢; exact ih b' _ h1' h2
      | list k => simp only [sub] at h2 ⊢; exact ih b' _ h1' h2
    | named y =>
      have h1' : sub a (.named y) = true := by simpa [sub] using h1
      cases c with
      | named z => have : y = z := by simpa [sub] using h2
                   subst this; simpa [sub] using h1'
      | list k => simp [sub] at h2
      | nonNull k => simp [sub] at h2
    | list j =>
      have h1' : sub a (.list j) = true := by simpa [sub] using h1
      cases c with
      | list k => simp only [sub]; exact ih (.list j) (.list k) h1' h2
      | named z => simp [sub] at h2
      | nonNull k => simp [sub] at h2

end PyGql.Props.C20
