/-
  Every VALUE node of a variable definition, directive or selection (arguments, default values, and everything nested in
  them) is a sub-node of its concrete-syntax view, and is well-formed (`wfValue false`) when the whole is.
-/
import PyGqlModel.Lemmas.SpanSubs
namespace PyGql.Ast
open PyGql

def Argument.vals (a : Argument) : List Value := a.value.subs
def Directive.vals (d : Directive) : List Value := d.arguments.flatMap Argument.vals
def dirsVals (ds : List Directive) : List Value := ds.flatMap Directive.vals
def defaultVals : Option Value → List Value
  | none => []
  | some v => v.subs
def VariableDefinition.vals (d : VariableDefinition) : List Value := defaultVals d.defaultValue ++ dirsVals d.directives

mutual
def Selection.vals : Selection → List Value
  | .field _ _ args dirs ss _ => args.flatMap Argument.vals ++ dirsVals dirs ++ optSSVals ss
  | .fragmentSpread _ dirs _ => dirsVals dirs
  | .inlineFragment _ dirs ss _ => dirsVals dirs ++ ss.vals
def SelectionSet.vals : SelectionSet → List Value
  | .mk sels _ => selsVals sels
def optSSVals : Option SelectionSet → List Value
  | none => []
  | some ss => ss.vals
def selsVals : List Selection → List Value
  | [] => []
  | s :: ss => s.vals ++ selsVals ss
end

/-- every value node of an operation: variable defaults, directive and field arguments, at any depth -/
def OperationDefinition.vals (d : OperationDefinition) : List Value :=
  d.variableDefinitions.flatMap VariableDefinition.vals ++ dirsVals d.directives ++ d.selectionSet.vals
def FragmentDefinition.vals (d : FragmentDefinition) : List Value :=
  d.variableDefinitions.flatMap VariableDefinition.vals ++ dirsVals d.directives ++ d.selectionSet.vals

end PyGql.Ast

namespace PyGql.Spec
open PyGql PyGql.Ast PyGql.Parse

def SubL (j : Item) (is : List Item) : Prop := ∃ i ∈ is, Item.Sub j i

theorem Item.Sub.trans {j i k : Item} (h1 : Item.Sub j i) (h2 : Item.Sub i k) : Item.Sub j k := by
  induction h2 with
  | refl => exact h1
  | node hm _ ih => exact .node hm ih

theorem SubL.node {j : Item} {is : List Item} (loc : Loc) (h : SubL j is) : Item.Sub j (.node loc is) := by
  obtain ⟨i, hi, hs⟩ := h; exact .node hi hs
theorem SubL.left {j : Item} {a : List Item} (b : List Item) (h : SubL j a) : SubL j (a ++ b) := by
  obtain ⟨i, hi, hs⟩ := h; exact ⟨i, List.mem_append_left _ hi, hs⟩
theorem SubL.right {j : Item} (a : List Item) {b : List Item} (h : SubL j b) : SubL j (a ++ b) := by
  obtain ⟨i, hi, hs⟩ := h; exact ⟨i, List.mem_append_right _ hi, hs⟩
theorem SubL.tail {j : Item} (x : Item) {b : List Item} (h : SubL j b) : SubL j (x :: b) := by
  obtain ⟨i, hi, hs⟩ := h; exact ⟨i, List.mem_cons_of_mem _ hi, hs⟩
theorem SubL.head {j i : Item} (b : List Item) (h : Item.Sub j i) : SubL j (i :: b) := ⟨i, by simp, h⟩
theorem SubL.map {α} {j : Item} (f : α → Item) {xs : List α} {x : α} (hx : x ∈ xs) (h : Item.Sub j (f x)) :
    SubL j (xs.map f) := ⟨f x, List.mem_map_of_mem hx, h⟩
theorem SubL.group {α} {j : Item} (o c : TokKind) (f : α → Item) {xs : List α} {x : α} (hx : x ∈ xs)
    (h : Item.Sub j (f x)) : SubL j (groupV o c f xs) := by
  unfold groupV
  have : xs.isEmpty = false := by cases xs with | nil => cases hx | cons _ _ => rfl
  simp only [this, Bool.false_eq_true, if_false]
  exact (SubL.map f hx h).left _ |>.tail _

theorem all_mem {α} {q : α → Bool} {xs : List α} (h : xs.all q = true) {x : α} (hx : x ∈ xs) : q x = true := by
  simp only [List.all_eq_true] at h; exact h x hx

theorem sub_wf_trans {j i k : Item} {p q r : Prop} (h1 : Item.Sub j i ∧ (q → p)) (h2 : Item.Sub i k ∧ (r → q)) :
    Item.Sub j k ∧ (r → p) :=
  ⟨h1.1.trans h2.1, fun h => h1.2 (h2.2 h)⟩

/-- what is enumerated from a member `a` of a part `xs` of `i` -/
theorem sub_wf_flatMap {α β} {V : α → Item} {W : β → Item} {f : α → List β} {q : α → Prop} {r : β → Prop}
    (he : ∀ a b, b ∈ f a → Item.Sub (W b) (V a) ∧ (q a → r b)) {xs : List α} {i : Item} {p : Prop}
    (hm : ∀ a ∈ xs, Item.Sub (V a) i ∧ (p → q a)) {b : β} (h : b ∈ xs.flatMap f) : Item.Sub (W b) i ∧ (p → r b) := by
  obtain ⟨a, ha, hb⟩ := List.mem_flatMap.1 h
  exact sub_wf_trans (he a b hb) (hm a ha)

theorem sub_flatMap {α β} {V : α → Item} {W : β → Item} {f : α → List β}
    (he : ∀ a b, b ∈ f a → Item.Sub (W b) (V a)) {xs : List α} {i : Item} (hm : ∀ a ∈ xs, Item.Sub (V a) i) {b : β}
    (h : b ∈ xs.flatMap f) : Item.Sub (W b) i := by
  obtain ⟨a, ha, hb⟩ := List.mem_flatMap.1 h
  exact (he a b hb).trans (hm a ha)

theorem argument_vals (c : Bool) (a : Argument) (w : Value) (h : w ∈ a.vals) :
    Item.Sub (valueV w) (argumentV a) ∧ (wfArgument c a = true → wfValue false w = true) := by
  obtain ⟨hs, hw⟩ := subs_value_sub c a.value w h
  refine ⟨?_, fun hh => wfValue_of_const c w (hw hh)⟩
  unfold argumentV
  exact ((SubL.head [] hs).tail _ |>.tail _).node _

theorem arguments_vals (c : Bool) (as : List Argument) (w : Value) (h : w ∈ as.flatMap Argument.vals) :
    SubL (valueV w) (argumentsV as) ∧ (as.all (wfArgument c) = true → wfValue false w = true) := by
  obtain ⟨a, ha, hw⟩ := List.mem_flatMap.1 h
  obtain ⟨h1, h2⟩ := argument_vals c a w hw
  exact ⟨SubL.group _ _ argumentV ha h1, fun hh => h2 (all_mem hh ha)⟩

theorem directive_vals (c : Bool) (d : Directive) (w : Value) (h : w ∈ d.vals) :
    Item.Sub (valueV w) (directiveV d) ∧ (wfDirective c d = true → wfValue false w = true) := by
  obtain ⟨h1, h2⟩ := arguments_vals c d.arguments w h
  exact ⟨by unfold directiveV; exact (h1.tail _ |>.tail _).node _, fun hh => h2 hh⟩

theorem directives_vals (c : Bool) (ds : List Directive) (w : Value) (h : w ∈ dirsVals ds) :
    SubL (valueV w) (directivesV ds) ∧ (wfDirectives c ds = true → wfValue false w = true) := by
  obtain ⟨d, hd, hw⟩ := List.mem_flatMap.1 h
  obtain ⟨h1, h2⟩ := directive_vals c d w hw
  exact ⟨SubL.map directiveV hd h1, fun hh => h2 (all_mem hh hd)⟩

theorem default_vals (o : Option Value) (w : Value) (h : w ∈ defaultVals o) :
    SubL (valueV w) (defaultV o) ∧ (wfDefault o = true → wfValue false w = true) := by
  cases o with
  | none => cases h
  | some v =>
    obtain ⟨hs, hw⟩ := subs_value_sub true v w h
    exact ⟨(SubL.head _ hs).tail _, fun hh => wfValue_of_const true w (hw hh)⟩

theorem variableDefinition_vals (d : VariableDefinition) (w : Value) (h : w ∈ d.vals) :
    Item.Sub (valueV w) (variableDefinitionV d) ∧ (wfVariableDefinition d = true → wfValue false w = true) := by
  unfold VariableDefinition.vals at h
  unfold variableDefinitionV
  simp only [wfVariableDefinition, Bool.and_eq_true]
  rcases List.mem_append.1 h with h | h
  · obtain ⟨h1, h2⟩ := default_vals d.defaultValue w h
    exact ⟨((h1.left _).tail _ |>.tail _ |>.tail _).node _, fun hh => h2 hh.1.2⟩
  · obtain ⟨h1, h2⟩ := directives_vals true d.directives w h
    exact ⟨((h1.right _).tail _ |>.tail _ |>.tail _).node _, fun hh => h2 hh.2⟩

mutual
theorem selection_vals : ∀ (s : Selection) (w : Value), w ∈ s.vals →
    Item.Sub (valueV w) (selectionV s) ∧ (wfSelection s = true → wfValue false w = true)
  | .field alias_ name args dirs ss loc, w, h => by
    simp only [Selection.vals, List.mem_append] at h
    simp only [selectionV, wfSelection, Bool.and_eq_true]
    rcases h with (h | h) | h
    · obtain ⟨h1, h2⟩ := arguments_vals false args w h
      exact ⟨(((h1.left _).left _).tail _ |>.right _).node _, fun hh => h2 hh.1.1⟩
    · obtain ⟨h1, h2⟩ := directives_vals false dirs w h
      exact ⟨(((h1.right _).left _).tail _ |>.right _).node _, fun hh => h2 hh.1.2⟩
    · obtain ⟨h1, h2⟩ := optSS_vals ss w h
      exact ⟨((h1.right _).tail _ |>.right _).node _, fun hh => h2 hh.2⟩
  | .fragmentSpread name dirs loc, w, h => by
    simp only [Selection.vals] at h
    simp only [selectionV, wfSelection, Bool.and_eq_true]
    obtain ⟨h1, h2⟩ := directives_vals false dirs w h
    exact ⟨(h1.tail _ |>.tail _).node _, fun hh => h2 hh.2⟩
  | .inlineFragment tc dirs ss loc, w, h => by
    simp only [Selection.vals, List.mem_append] at h
    simp only [selectionV, wfSelection, Bool.and_eq_true]
    rcases h with h | h
    · obtain ⟨h1, h2⟩ := directives_vals false dirs w h
      exact ⟨(((h1.right _).left _).tail _).node _, fun hh => h2 hh.1⟩
    · obtain ⟨h1, h2⟩ := selectionSet_vals ss w h
      exact ⟨(((SubL.head [] h1).right _).tail _).node _, fun hh => h2 hh.2⟩
theorem selectionSet_vals : ∀ (ss : SelectionSet) (w : Value), w ∈ ss.vals →
    Item.Sub (valueV w) (selectionSetV ss) ∧ (wfSelectionSet ss = true → wfValue false w = true)
  | .mk sels loc, w, h => by
    simp only [SelectionSet.vals] at h
    simp only [selectionSetV, wfSelectionSet, Bool.and_eq_true]
    obtain ⟨h1, h2⟩ := sels_vals sels w h
    exact ⟨((h1.left _).tail _).node _, fun hh => h2 hh.2⟩
theorem optSS_vals : ∀ (o : Option SelectionSet) (w : Value), w ∈ optSSVals o →
    SubL (valueV w) (optSelectionSetV o) ∧ (wfOptSelectionSet o = true → wfValue false w = true)
  | none, w, h => by simp [optSSVals] at h
  | some ss, w, h => by
    simp only [optSSVals] at h
    obtain ⟨h1, h2⟩ := selectionSet_vals ss w h
    exact ⟨by simp only [optSelectionSetV]; exact SubL.head _ h1, fun hh => h2 (by simpa [wfOptSelectionSet] using hh)⟩
theorem sels_vals : ∀ (ss : List Selection) (w : Value), w ∈ selsVals ss →
    SubL (valueV w) (selectionsV ss) ∧ (wfSelections ss = true → wfValue false w = true)
  | [], w, h => by simp [selsVals] at h
  | s :: ss, w, h => by
    simp only [selsVals, List.mem_append] at h
    simp only [selectionsV, wfSelections, Bool.and_eq_true]
    rcases h with h | h
    · obtain ⟨h1, h2⟩ := selection_vals s w h
      exact ⟨SubL.head _ h1, fun hh => h2 hh.1⟩
    · obtain ⟨h1, h2⟩ := sels_vals ss w h
      exact ⟨h1.tail _, fun hh => h2 hh.2⟩
end

end PyGql.Spec
