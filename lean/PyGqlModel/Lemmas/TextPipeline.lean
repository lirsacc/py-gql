/-
  The text pipeline read backwards: what a result or an error of `withLexer` (hence of `parse`, `parse_value`, `parse_type`
  on a text) says about the lexer and the token-level parser; `parseText` (`Option`) and `parseTextE` (`Except`) accept alike.
-/
import PyGqlModel.ParseText
import PyGqlModel.Lemmas.ExceptDecEq

namespace PyGql.Parse
open PyGql.Ast

variable {α : Type} {p : List Tok → Except SynErr α} {s : Text}

theorem withLexer_lex_error {le : Lex.SynErr} : withLexer p s = .error (.lex le) ↔ Lex.lexAll s = .error le := by
  unfold withLexer
  cases Lex.lexAll s with
  | error e => exact ⟨fun h => congrArg _ (TextErr.lex.inj (Except.error.inj h)), fun h => congrArg _ (congrArg _ (Except.error.inj h))⟩
  | ok toks =>
    refine ⟨fun h => ?_, fun h => nomatch h⟩
    dsimp only at h
    split at h <;> cases h

theorem withLexer_parse_error {pe : SynErr} :
    withLexer p s = .error (.parse pe) ↔ ∃ toks, Lex.lexAll s = .ok toks ∧ p toks = .error pe := by
  unfold withLexer
  cases Lex.lexAll s with
  | error e => exact ⟨fun h => (nomatch h), fun ⟨_, h, _⟩ => (nomatch h)⟩
  | ok toks =>
    constructor
    · intro h
      dsimp only at h
      split at h
      · cases h
      · rename_i e hp
        cases h
        exact ⟨toks, rfl, hp⟩
    · rintro ⟨_, ht, hp⟩
      cases ht
      dsimp only
      rw [hp]

private theorem run_eq_some {a : α} :
    (match Lex.lexAll s with | .ok toks => (p toks).toOption | .error _ => none) = some a ↔
      ∃ toks, Lex.lexAll s = .ok toks ∧ p toks = .ok a := by
  cases Lex.lexAll s with
  | error e => exact ⟨fun h => (nomatch h), fun ⟨_, h, _⟩ => (nomatch h)⟩
  | ok toks =>
    show (p toks).toOption = some a ↔ _
    constructor
    · intro h
      cases hp : p toks with
      | error e => rw [hp] at h; cases h
      | ok a' => rw [hp] at h; cases h; exact ⟨toks, rfl, hp⟩
    · rintro ⟨_, h, hp⟩
      cases h
      rw [hp]
      rfl

theorem parseText_eq_some {fl : Flags} {d : Document} :
    parseText fl s = some d ↔ ∃ toks, Lex.lexAll s = .ok toks ∧ parseDocument fl toks = .ok d := run_eq_some

theorem parseValueText_eq_some {fl : Flags} {v : Value} :
    parseValueText fl s = some v ↔ ∃ toks, Lex.lexAll s = .ok toks ∧ parseValue fl toks = .ok v := run_eq_some

theorem parseTypeText_eq_some {fl : Flags} {t : TypeRef} :
    parseTypeText fl s = some t ↔ ∃ toks, Lex.lexAll s = .ok toks ∧ parseType fl toks = .ok t := run_eq_some

theorem withLexer_ok {a : α} : withLexer p s = .ok a ↔ ∃ toks, Lex.lexAll s = .ok toks ∧ p toks = .ok a := by
  unfold withLexer
  cases Lex.lexAll s with
  | error e => exact ⟨fun h => (nomatch h), fun ⟨_, h, _⟩ => (nomatch h)⟩
  | ok toks =>
    dsimp only
    cases hp : p toks with
    | error e => exact ⟨fun h => (nomatch h), fun ⟨_, h, hp'⟩ => by cases h; rw [hp] at hp'; cases hp'⟩
    | ok a' =>
      exact ⟨fun h => ⟨toks, rfl, by cases h; exact hp⟩, fun ⟨_, h, hp'⟩ => by cases h; rw [hp] at hp'; cases hp'; rfl⟩

/-- the acceptance theorems speak of `parseText` (`Option`), the error, bytes and lazy theorems of `parseTextE` (`Except`):
    the two accept the same texts with the same tree -/
theorem parseText_eq_ok {fl : Flags} {d : Document} : parseText fl s = some d ↔ parseTextE fl s = .ok d :=
  parseText_eq_some.trans withLexer_ok.symm

theorem parseValueText_eq_ok {fl : Flags} {v : Value} : parseValueText fl s = some v ↔ parseValueTextE fl s = .ok v :=
  parseValueText_eq_some.trans withLexer_ok.symm

theorem parseTypeText_eq_ok {fl : Flags} {t : TypeRef} : parseTypeText fl s = some t ↔ parseTypeTextE fl s = .ok t :=
  parseTypeText_eq_some.trans withLexer_ok.symm

/-- the three entry points share their lexer: a lexer error of any of them is the error of `lexAll` -/
theorem text_lex_error {fl : Flags} {le : Lex.SynErr}
    (h : parseTextE fl s = .error (.lex le) ∨ parseValueTextE fl s = .error (.lex le) ∨
      parseTypeTextE fl s = .error (.lex le)) : Lex.lexAll s = .error le := by
  rcases h with h | h | h <;> exact withLexer_lex_error.1 h

theorem text_error_of_lex_error {fl : Flags} {le : Lex.SynErr} {e : TextErr} (hl : Lex.lexAll s = .error le)
    (h : parseTextE fl s = .error e ∨ parseValueTextE fl s = .error e ∨ parseTypeTextE fl s = .error e) :
    e = .lex le := by
  rcases h with h | h | h <;> exact Except.error.inj (h.symm.trans (withLexer_lex_error.2 hl))

end PyGql.Parse
