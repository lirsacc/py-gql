/-
  Lists up to reordering AND an element-wise relation (`ListEqv R l l'`: `l'` lists the elements of `l` in some order,
  each up to `R`), with the transport lemmas for `find?`, `filter`, `map`, `filterMap`, `flatMap`.
  Used by C20 (`diff_perm_deep`: schema descriptions up to the order of every member list at every level) and C13 (`perm_deep`).
-/
namespace PyGql.ListEqv

/-- names are unique (same definition as `Props.C20.Uniq`) -/
def UniqN {α} (name : α → String) (l : List α) : Prop :=
  ∀ x ∈ l, l.find? (fun y => name y == name x) = some x

/-- element-wise related lists of the same length -/
inductive F2 {α} (R : α → α → Prop) : List α → List α → Prop
  | nil : F2 R [] []
  | cons {a b : α} {l l' : List α} : R a b → F2 R l l' → F2 R (a :: l) (b :: l')

def ListEqv {α} (R : α → α → Prop) (l l' : List α) : Prop := ∃ m, l.Perm m ∧ F2 R m l'

def OptRel {α β} (R : α → β → Prop) : Option α → Option β → Prop
  | none, none => True
  | some a, some b => R a b
  | _, _ => False

/-- the two cases of `OptRel` -/
theorem OptRel.cases {α β} {R : α → β → Prop} {x : Option α} {y : Option β} (h : OptRel R x y) :
    (x = none ∧ y = none) ∨ ∃ a b, x = some a ∧ y = some b ∧ R a b := by
  cases x <;> cases y <;> simp only [OptRel] at h
  · exact .inl ⟨rfl, rfl⟩
  · exact .inr ⟨_, _, rfl, rfl, h⟩

/-- … and back: a relation written as "both unknown, or both known and related" is `OptRel` -/
theorem OptRel.of_cases {α β} {R : α → β → Prop} {x : Option α} {y : Option β}
    (h : (x = none ∧ y = none) ∨ ∃ a b, x = some a ∧ y = some b ∧ R a b) : OptRel R x y := by
  rcases h with ⟨rfl, rfl⟩ | ⟨a, b, rfl, rfl, h⟩
  · trivial
  · exact h

theorem OptRel.of_new {α β} {R : α → β → Prop} {x : Option α} {y : Option β} (h : OptRel R x y) {b : β} (hy : y = some b) :
    ∃ a, x = some a ∧ R a b := by
  subst hy
  cases x with
  | none => exact h.elim
  | some a => exact ⟨a, rfl, h⟩

theorem OptRel.isNone_eq {α β} {R : α → β → Prop} {x : Option α} {y : Option β} (h : OptRel R x y) : x.isNone = y.isNone := by
  cases x <;> cases y <;> simp_all [OptRel]

theorem ListEqv.of_perm {α} {l l' : List α} (h : l.Perm l') : ListEqv Eq l l' :=
  ⟨l', h, by
    clear h
    induction l' with
    | nil => exact .nil
    | cons a l ih => exact .cons rfl ih⟩


theorem find_perm {α} {l l' : List α} (p : α → Bool) (h : l.Perm l')
    (u : ∀ x ∈ l, ∀ y ∈ l, p x = true → p y = true → x = y) : l.find? p = l'.find? p := by
  cases hf : l.find? p with
  | none =>
    have hn := List.find?_eq_none.mp hf
    exact (List.find?_eq_none.mpr (fun x hx => hn x (h.mem_iff.mpr hx))).symm
  | some x =>
    have hpx := List.find?_some hf
    have hxl := List.mem_of_find?_eq_some hf
    cases hf' : l'.find? p with
    | none =>
      have hn := List.find?_eq_none.mp hf'
      exact absurd hpx (hn x (h.mem_iff.mp hxl))
    | some y =>
      have hpy := List.find?_some hf'
      have hyl := h.mem_iff.mpr (List.mem_of_find?_eq_some hf')
      rw [u x hxl y hyl hpx hpy]

theorem uniq_inj {α} {name : α → String} {l : List α} (h : UniqN name l) (nm : String) :
    ∀ x ∈ l, ∀ y ∈ l, (name x == nm) = true → (name y == nm) = true → x = y := by
  intro x hx y hy px py
  have ex : name x = nm := by simpa using px
  have ey : name y = nm := by simpa using py
  have h1 := h x hx
  have h2 := h y hy
  rw [ex] at h1; rw [ey] at h2
  rw [h1] at h2
  exact Option.some.inj h2

/-- look-up by name does not depend on the order of a list with unique names -/
theorem find_name_perm {α} {name : α → String} {l l' : List α} (h : l.Perm l') (u : UniqN name l)
    (nm : String) : l.find? (fun y => name y == nm) = l'.find? (fun y => name y == nm) :=
  find_perm _ h (uniq_inj u nm)

/-- whether a look-up fails does not depend on the order of ANY list -/
theorem findNone_perm {α} {l l' : List α} (p : α → Bool) (h : l.Perm l') :
    (l.find? p).isNone = (l'.find? p).isNone := by
  cases hf : l.find? p with
  | none =>
    have hn := List.find?_eq_none.mp hf
    rw [List.find?_eq_none.mpr (fun x hx => hn x (h.mem_iff.mpr hx))]
  | some x =>
    have hpx := List.find?_some hf
    have hxl := List.mem_of_find?_eq_some hf
    cases hf' : l'.find? p with
    | none => exact absurd hpx (List.find?_eq_none.mp hf' x (h.mem_iff.mp hxl))
    | some y => rfl

theorem uniq_perm {α} {name : α → String} {l l' : List α} (h : l.Perm l') (u : UniqN name l) : UniqN name l' := by
  intro x hx
  rw [← find_name_perm h u (name x)]
  exact u x (h.mem_iff.mpr hx)

theorem find_filter_of_find {α} (l : List α) (p q : α → Bool) (x : α)
    (h : l.find? p = some x) (hq : q x = true) : (l.filter q).find? p = some x := by
  induction l with
  | nil => simp at h
  | cons a l ih =>
    simp only [List.find?_cons] at h
    by_cases hqa : q a = true
    · simp only [List.filter_cons, hqa, if_true, List.find?_cons]
      cases hp : p a with
      | true => simp [hp] at h; simp [h]
      | false => simp [hp] at h; exact ih h
    · have hqa' : q a = false := by simpa using hqa
      simp only [List.filter_cons, hqa']
      cases hp : p a with
      | true => simp [hp] at h; subst h; simp [hq] at hqa'
      | false => simp [hp] at h; exact ih h

theorem uniq_filter {α} {name : α → String} {l : List α} (u : UniqN name l) (q : α → Bool) : UniqN name (l.filter q) := by
  intro x hx
  have hm := List.mem_filter.mp hx
  exact find_filter_of_find l _ q x (u x hm.1) hm.2

theorem forall2_flatMap {α β} {R : α → α → Prop} {m l' : List α} (h : F2 R m l') (f g : α → List β)
    (hfg : ∀ a b, a ∈ m → R a b → (f a).Perm (g b)) : (m.flatMap f).Perm (l'.flatMap g) := by
  induction h with
  | nil => exact List.Perm.refl _
  | cons hab _ ih =>
    simp only [List.flatMap_cons]
    exact (hfg _ _ List.mem_cons_self hab).append (ih fun a b ha r => hfg a b (List.mem_cons_of_mem _ ha) r)

theorem forall2_find {α} {R : α → α → Prop} {m l' : List α} (h : F2 R m l') (p q : α → Bool)
    (hpq : ∀ a b, R a b → p a = q b) : OptRel R (m.find? p) (l'.find? q) := by
  induction h with
  | nil => simp [OptRel]
  | @cons a b m' l'' hab _ ih =>
    simp only [List.find?_cons]
    rw [← hpq a b hab]
    cases hp : p a with
    | true => exact hab
    | false => exact ih

theorem forall2_filter {α} {R : α → α → Prop} {m l' : List α} (h : F2 R m l') (p q : α → Bool)
    (hpq : ∀ a b, a ∈ m → R a b → p a = q b) : F2 R (m.filter p) (l'.filter q) := by
  induction h with
  | nil => exact .nil
  | @cons a b m' l'' hab _ ih =>
    have ih' := ih fun x y hx r => hpq x y (List.mem_cons_of_mem _ hx) r
    simp only [List.filter_cons]
    rw [← hpq a b List.mem_cons_self hab]
    cases hp : p a with
    | true => exact .cons hab ih'
    | false => exact ih'

theorem forall2_filterMap {α β} {R : α → α → Prop} {S : β → β → Prop} {m l' : List α} (h : F2 R m l')
    (f g : α → Option β) (hfg : ∀ a b, a ∈ m → R a b → OptRel S (f a) (g b)) :
    F2 S (m.filterMap f) (l'.filterMap g) := by
  induction h with
  | nil => exact .nil
  | @cons a b m' l'' hab _ ih =>
    have ih' := ih fun x y hx r => hfg x y (List.mem_cons_of_mem _ hx) r
    have h0 := hfg a b List.mem_cons_self hab
    simp only [List.filterMap_cons]
    cases hfa : f a <;> cases hgb : g b <;> rw [hfa, hgb] at h0 <;> simp only [OptRel] at h0
    · exact ih'
    · exact .cons h0 ih'

theorem ListEqv.mem_left {α} {R : α → α → Prop} {l l' m : List α} (hp : l.Perm m) {a : α} (ha : a ∈ m) : a ∈ l :=
  hp.mem_iff.mpr ha

theorem ListEqv.flatMap_perm {α β} {R : α → α → Prop} {l l' : List α} (h : ListEqv R l l') (f g : α → List β)
    (hfg : ∀ a b, a ∈ l → R a b → (f a).Perm (g b)) : (l.flatMap f).Perm (l'.flatMap g) := by
  obtain ⟨m, hp, h2⟩ := h
  exact (hp.flatMap_right f).trans
    (forall2_flatMap h2 f g fun a b ha r => hfg a b (hp.mem_iff.mpr ha) r)

theorem ListEqv.map_perm {α β} {R : α → α → Prop} {l l' : List α} (h : ListEqv R l l') (f g : α → β)
    (hfg : ∀ a b, a ∈ l → R a b → f a = g b) : (l.map f).Perm (l'.map g) := by
  obtain ⟨m, hp, h2⟩ := h
  have e : m.map f = l'.map g := by
    have hfg' : ∀ a b, a ∈ m → R a b → f a = g b := fun a b ha r => hfg a b (hp.mem_iff.mpr ha) r
    clear hp hfg
    induction h2 with
    | nil => rfl
    | @cons a b m' l'' hab _ ih =>
      simp only [List.map_cons]
      rw [hfg' a b List.mem_cons_self hab, ih fun x y hx r => hfg' x y (List.mem_cons_of_mem _ hx) r]
  exact (hp.map f).trans (by rw [e])

theorem ListEqv.filter {α} {R : α → α → Prop} {l l' : List α} (h : ListEqv R l l') (p q : α → Bool)
    (hpq : ∀ a b, a ∈ l → R a b → p a = q b) : ListEqv R (l.filter p) (l'.filter q) := by
  obtain ⟨m, hp, h2⟩ := h
  exact ⟨m.filter p, hp.filter p, forall2_filter h2 p q fun a b ha r => hpq a b (hp.mem_iff.mpr ha) r⟩

theorem ListEqv.filterMap {α β} {R : α → α → Prop} {S : β → β → Prop} {l l' : List α} (h : ListEqv R l l')
    (f g : α → Option β) (hfg : ∀ a b, a ∈ l → R a b → OptRel S (f a) (g b)) :
    ListEqv S (l.filterMap f) (l'.filterMap g) := by
  obtain ⟨m, hp, h2⟩ := h
  exact ⟨m.filterMap f, hp.filterMap f, forall2_filterMap h2 f g fun a b ha r => hfg a b (hp.mem_iff.mpr ha) r⟩

theorem ListEqv.filterMap_perm {α β} {R : α → α → Prop} {l l' : List α} (h : ListEqv R l l')
    (f g : α → Option β) (hfg : ∀ a b, a ∈ l → R a b → f a = g b) : (l.filterMap f).Perm (l'.filterMap g) := by
  have := ListEqv.flatMap_perm h (fun a => (f a).toList) (fun b => (g b).toList)
    (fun a b ha r => by rw [hfg a b ha r])
  have e : ∀ (k : α → Option β) (xs : List α), xs.filterMap k = xs.flatMap fun a => (k a).toList := by
    intro k xs
    induction xs with
    | nil => rfl
    | cons x xs ih => cases hk : k x <;> simp [List.flatMap_cons, hk, ih]
  rw [e f l, e g l']; exact this

/-- look-up by name in related lists (names unique in the first) gives related results -/
theorem ListEqv.find {α} {R : α → α → Prop} {name : α → String} (hname : ∀ a b, R a b → name a = name b)
    {l l' : List α} (h : ListEqv R l l') (u : UniqN name l) (x : String) :
    OptRel R (l.find? fun y => name y == x) (l'.find? fun y => name y == x) := by
  obtain ⟨m, hp, h2⟩ := h
  rw [find_name_perm hp u x]
  exact forall2_find h2 _ _ fun a b r => by rw [hname a b r]

/-- whether the look-up fails is the same (no uniqueness needed) -/
theorem ListEqv.findNone {α} {R : α → α → Prop} {name : α → String} (hname : ∀ a b, R a b → name a = name b)
    {l l' : List α} (h : ListEqv R l l') (x : String) :
    (l.find? fun y => name y == x).isNone = (l'.find? fun y => name y == x).isNone := by
  obtain ⟨m, hp, h2⟩ := h
  rw [findNone_perm _ hp]
  exact (forall2_find h2 _ _ fun a b r => by rw [hname a b r]).isNone_eq

theorem forall2_left {α} {R : α → α → Prop} {m l' : List α} (h : F2 R m l') :
    ∀ a ∈ m, ∃ b ∈ l', R a b := by
  induction h with
  | nil => intro a ha; cases ha
  | @cons a b m' l'' hab _ ih =>
    intro x hx
    rcases List.mem_cons.mp hx with rfl | hx
    · exact ⟨b, List.mem_cons_self, hab⟩
    · obtain ⟨y, hy, r⟩ := ih x hx; exact ⟨y, List.mem_cons_of_mem _ hy, r⟩

theorem forall2_right {α} {R : α → α → Prop} {m l' : List α} (h : F2 R m l') :
    ∀ b ∈ l', ∃ a ∈ m, R a b := by
  induction h with
  | nil => intro a ha; cases ha
  | @cons a b m' l'' hab _ ih =>
    intro x hx
    rcases List.mem_cons.mp hx with rfl | hx
    · exact ⟨a, List.mem_cons_self, hab⟩
    · obtain ⟨y, hy, r⟩ := ih x hx; exact ⟨y, List.mem_cons_of_mem _ hy, r⟩

theorem forall2_length {α} {R : α → α → Prop} {m l' : List α} (h : F2 R m l') : m.length = l'.length := by
  induction h with
  | nil => rfl
  | cons _ _ ih => simp [ih]

theorem ListEqv.right {α} {R : α → α → Prop} {l l' : List α} (h : ListEqv R l l') : ∀ b ∈ l', ∃ a ∈ l, R a b := by
  obtain ⟨m, hp, h2⟩ := h
  intro b hb
  obtain ⟨a, ha, r⟩ := forall2_right h2 b hb
  exact ⟨a, hp.mem_iff.mpr ha, r⟩

theorem ListEqv.ne_nil {α} {R : α → α → Prop} {l l' : List α} (h : ListEqv R l l') (hn : l ≠ []) : l' ≠ [] := by
  obtain ⟨m, hp, h2⟩ := h
  intro e
  have := forall2_length h2
  rw [e, ← hp.length_eq] at this
  exact hn (List.length_eq_zero_iff.mp this)

/-- pull a permutation through an element-wise relation -/
theorem forall2_perm {α} {R : α → α → Prop} {m l : List α} (hp : m.Perm l) :
    ∀ l', F2 R m l' → ∃ m', l'.Perm m' ∧ F2 R l m' := by
  induction hp with
  | nil => intro l' h; cases h; exact ⟨[], List.Perm.refl _, .nil⟩
  | cons x _ ih =>
    intro l' h
    cases h with
    | cons hab ht =>
      obtain ⟨m', hp', h2⟩ := ih _ ht
      exact ⟨_ :: m', hp'.cons _, .cons hab h2⟩
  | swap x y l =>
    intro l' h
    cases h with
    | cons hab ht =>
      cases ht with
      | cons hcd ht2 => exact ⟨_ :: _ :: _, List.Perm.swap _ _ _, .cons hcd (.cons hab ht2)⟩
  | trans _ _ ih1 ih2 =>
    intro l' h
    obtain ⟨m1, hp1, h1⟩ := ih1 l' h
    obtain ⟨m2, hp2, h2⟩ := ih2 m1 h1
    exact ⟨m2, hp1.trans hp2, h2⟩

theorem forall2_flip {α} {R S : α → α → Prop} (hRS : ∀ a b, R a b → S b a) {m l' : List α} (h : F2 R m l') :
    F2 S l' m := by
  induction h with
  | nil => exact .nil
  | cons hab _ ih => exact .cons (hRS _ _ hab) ih

theorem ListEqv.symm {α} {R S : α → α → Prop} (hRS : ∀ a b, R a b → S b a) {l l' : List α} (h : ListEqv R l l') :
    ListEqv S l' l := by
  obtain ⟨m, hp, h2⟩ := h
  obtain ⟨m', hp', h2'⟩ := forall2_perm hp.symm l' h2
  exact ⟨m', hp', forall2_flip hRS h2'⟩

theorem forall2_refl {α} {R : α → α → Prop} (hR : ∀ a, R a a) : ∀ l : List α, F2 R l l
  | [] => .nil
  | a :: l => .cons (hR a) (forall2_refl hR l)

theorem nodup_uniq {α} {name : α → String} {l : List α} (h : (l.map name).Nodup) : UniqN name l := by
  induction l with
  | nil => intro x hx; cases hx
  | cons a l ih =>
    simp only [List.map_cons, List.nodup_cons] at h
    intro x hx
    rcases List.mem_cons.mp hx with rfl | hx
    · simp
    · have hne : (name a == name x) = false := by
        have : name a ≠ name x := fun e => h.1 (e ▸ List.mem_map.mpr ⟨x, hx, rfl⟩)
        simpa using this
      simp only [List.find?_cons, hne]
      exact ih h.2 x hx

end PyGql.ListEqv
