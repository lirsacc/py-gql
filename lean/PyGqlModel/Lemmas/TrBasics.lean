/-
  Python indexing and slicing (`PyPrelude`) at a position that is known not to be negative, and at the cursor of a
  scan: the text is `pre ++ s`, the position `pre.length`.  The translated loops (`Generated/Tr*.lean`) only ever index
  that way.
-/
import PyGqlModel.PyPrelude
namespace PyGql.Py

universe u
variable {α : Type u}

theorem normIdx_natCast (n k : Nat) : normIdx n (k : Int) = min k n := by
  simp [normIdx, Int.not_lt.mpr (Int.natCast_nonneg k)]

theorem slice_natCast (xs : List α) (i j : Nat) : slice xs (i : Int) (j : Int) = (xs.take j).drop i := by
  rw [slice, normIdx_natCast, normIdx_natCast, ← List.take_eq_take_min]
  by_cases h : i ≤ xs.length
  · rw [Nat.min_eq_left h]
  · rw [Nat.min_eq_right (by omega), List.drop_eq_nil_of_le (by simp; omega), List.drop_eq_nil_of_le (by simp; omega)]

theorem sliceFrom_natCast (xs : List α) (k : Nat) : sliceFrom xs (k : Int) = xs.drop k := by
  rw [sliceFrom, normIdx_natCast]
  by_cases h : k ≤ xs.length
  · rw [Nat.min_eq_left h]
  · rw [Nat.min_eq_right (by omega), List.drop_length, List.drop_eq_nil_of_le (by omega)]

theorem itemIdx_natCast (n k : Nat) : itemIdx n (k : Int) = if k < n then some k else none := by
  simp [itemIdx, Int.not_lt.mpr (Int.natCast_nonneg k)]

theorem getItem_natCast (xs : List α) (k : Nat) :
    getItem xs (k : Int) = match xs[k]? with | some v => .ok v | none => .error "IndexError" := by
  rw [getItem, itemIdx_natCast]
  by_cases h : k < xs.length
  · rw [if_pos h]
    rfl
  · rw [if_neg h, List.getElem?_eq_none (by omega)]

/-- the position after one more element -/
theorem snoc_len (pre : List α) (c : α) : (((pre ++ [c]).length : Nat) : Int) = (pre.length : Int) + 1 := by
  simp

/-! ### at the cursor -/

theorem getItem_at (pre : List α) (c : α) (t : List α) : getItem (pre ++ c :: t) (pre.length : Int) = .ok c := by
  rw [getItem_natCast, List.getElem?_append_right (Nat.le_refl _), Nat.sub_self]
  rfl

theorem getItem_zero (x : α) (xs : List α) : getItem (x :: xs) 0 = .ok x :=
  getItem_at [] x xs

theorem getItem_end (pre : List α) : getItem pre (pre.length : Int) = .error "IndexError" := by
  rw [getItem_natCast, List.getElem?_eq_none (Nat.le_refl _)]

theorem slice_mid (pre s : List α) (k : Nat) : slice (pre ++ s) (pre.length : Int) ((pre.length + k : Nat) : Int) = s.take k := by
  rw [slice_natCast, List.take_length_add_append, List.drop_left]

theorem sliceFrom_suffix (pre : List α) (x : α) (rest : List α) :
    sliceFrom (pre ++ x :: rest) ((pre.length : Int) + 1) = rest := by
  rw [← snoc_len pre x, List.append_cons, sliceFrom_natCast, List.drop_left]

/-- the text from the cursor to `k` characters before the end -/
theorem slice_suffix (pre s : List α) (k : Nat) :
    slice (pre ++ s) (pre.length : Int) (((pre ++ s).length - k : Nat) : Int) = s.take (s.length - k) := by
  rw [List.length_append]
  by_cases h : k ≤ s.length
  · rw [Nat.add_sub_assoc h, slice_mid]
  · rw [slice_natCast, List.drop_eq_nil_of_le (by simp; omega), Nat.sub_eq_zero_of_le (by omega), List.take_zero]

/-- the element after the one at the cursor, as a slice of length at most one -/
theorem slice_next (pre : List α) (x : α) (rest : List α) :
    slice (pre ++ x :: rest) ((pre.length : Int) + 1) ((pre.length : Int) + 2) = rest.take 1 := by
  have e : (pre.length : Int) + 2 = (((pre ++ [x]).length + 1 : Nat) : Int) := by
    simp
    omega
  rw [← snoc_len pre x, e, List.append_cons, slice_mid]

theorem setItem_at (pre : List α) (t v : α) (ts : List α) :
    setItem (pre ++ t :: ts) (pre.length : Int) v = .ok (pre ++ v :: ts) := by
  rw [setItem, itemIdx_natCast, if_pos (by simp)]
  simp

theorem getItem_last (xs : List α) (x : α) : getItem (xs ++ [x]) (-1) = .ok x := by
  have h : itemIdx (xs ++ [x]).length (-1) = some xs.length := by
    simp only [itemIdx, List.length_append, List.length_singleton, Int.ofNat_eq_natCast]
    rw [if_pos (by omega), if_pos (by omega)]
    congr 1
    omega
  rw [getItem, h]
  simp

theorem popLast_snoc (xs : List α) (x : α) : popLast (xs ++ [x]) = .ok (x, xs) := by
  simp [popLast]

theorem imin_eq_min (a b : Int) : imin a b = min a b := by
  unfold imin
  split <;> omega

end PyGql.Py
