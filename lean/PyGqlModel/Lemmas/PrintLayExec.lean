/-
  `Lay` for variable definitions, operations, fragments and executable documents.
-/
import PyGqlModel.Lemmas.PrintLaySel
namespace PyGql.PrintTokens
open PyGql PyGql.Ast PyGql.Parse PyGql.Spec PyGql.Print PyGql.PrintLex PyGql.PrintMatch PyGql.PrintString PyGql.Lex

def okVarDef (ind : Text) (d : VariableDefinition) : Prop :=
  Spec.Lexical.isName d.var.name.value = true ∧ lexOkType d.type = true ∧
  (match d.defaultValue with | some v => okValue ind v | none => True) ∧ okDirectives ind d.directives
def okVarDefs (ind : Text) : List VariableDefinition → Prop
  | [] => True
  | d :: ds => okVarDef ind d ∧ okVarDefs ind ds

theorem okVarDefs_iff (ind : Text) (ds : List VariableDefinition) : okVarDefs ind ds ↔ ∀ d ∈ ds, okVarDef ind d := by
  induction ds with
  | nil => simp [okVarDefs]
  | cons a t ih => simp [okVarDefs, ih]

/-- `lead: Type DefaultValue?` — the common part of variable definitions and input values -/
theorem lay_typed (c : Cfg) {lead : Text} {leadC : List TokClass} (hl : Lay lead leadC) {t : TypeRef} (ht : lexOkType t = true)
    {o : Option Value} (hv : match o with | some v => okValue c.indent v | none => True) :
    Lay (lead ++ 58 :: 32 :: (printType t ++ wrap [32, 61, 32] (printOptValue c o)))
      (leadC ++ (.colon, []) :: ((typeV t).yield ++ Item.yieldAll (defaultV o))) := by
  have ld : Lay (wrap [32, 61, 32] (printOptValue c o)) (Item.yieldAll (defaultV o)) ∧
      DelimHead (wrap [32, 61, 32] (printOptValue c o)) := by
    cases o with
    | none => exact ⟨by simpa [printOptValue, wrap, defaultV, Item.yieldAll] using lay_nil,
        by simpa [printOptValue, wrap] using delimHead_nil⟩
    | some v =>
      rw [printOptValue, wrap_of_ne _ _ _ (printValue_ne_nil' c v hv)]
      exact ⟨by simpa [defaultV, Item.yieldAll, Item.yield] using lay_space_cons (lay_equals (lay_space_cons (lay_value c v hv))),
        delimHead_cons (c := 32) (by decide +kernel)⟩
  exact lay_append hl (lay_colon (lay_space_cons (lay_append (lay_type t ht) ld.1 ld.2))) (delimHead_cons (by decide +kernel))

theorem lay_variableDefinition (c : Cfg) (d : VariableDefinition) (h : okVarDef c.indent d) :
    Lay (printVariableDefinition c d) (variableDefinitionV d).yield ∧ printVariableDefinition c d ≠ [] := by
  obtain ⟨hn, ht, hv, hd⟩ := h
  have lt := lay_typed c (lay_dollar (lay_name hn)) ht hv
  obtain ⟨l, _⟩ := lay_kwJoin _ _ lt (by simp) [part (printDirectives c d.directives) (Item.yieldAll (directivesV d.directives))]
    (by simpa using lay_directives c d.directives hd)
  have e0 : printVariableDefinition c d = join ((36 :: d.var.name.value ++ 58 :: 32 :: (printType d.type ++
      wrap [32, 61, 32] (printOptValue c d.defaultValue))) :: [printDirectives c d.directives]) [32] := by
    simp [printVariableDefinition, printVariable, List.append_assoc]
  rw [e0]
  exact ⟨by simpa [variableDefinitionV, variableV, nameV, Item.yield, Item.yieldAll, yieldAll_append, List.append_assoc] using l,
    join_ne_nil _ _ _ (by simp)⟩

theorem lay_variableDefinitions (c : Cfg) (ds : List VariableDefinition) (h : okVarDefs c.indent ds) :
    Lay (printVariableDefinitions c ds) (Item.yieldAll (variableDefinitionsV ds)) ∧
    DelimHead (printVariableDefinitions c ds) ∧ (printVariableDefinitions c ds = [] ↔ ds = []) :=
  lay_group (printVariableDefinition c) variableDefinitionV (by decide +kernel) (by decide +kernel) ds
    (fun d hd => (lay_variableDefinition c d ((okVarDefs_iff _ ds).1 h d hd)).1)
    (fun d hd => (lay_variableDefinition c d ((okVarDefs_iff _ ds).1 h d hd)).2)

def okOperation (ind : Text) (d : OperationDefinition) : Prop :=
  (d.operation = K.query ∨ d.operation = K.mutation ∨ d.operation = K.subscription) ∧
  (match d.name with | some n => Spec.Lexical.isName n.value = true | none => True) ∧
  okVarDefs ind d.variableDefinitions ∧ okDirectives ind d.directives ∧ okSelectionSet ind d.selectionSet

theorem operation_isName {op : Text} (h : op = K.query ∨ op = K.mutation ∨ op = K.subscription) :
    Spec.Lexical.isName op = true := by
  rcases h with rfl | rfl | rfl <;> decide +kernel

theorem lay_selectionSet_delim (c : Cfg) (hind : Blank c.indent) (ss : SelectionSet) (h : okSelectionSet c.indent ss) :
    Lay (printSelectionSet c ss) (selectionSetV ss).yield ∧ DelimHead (printSelectionSet c ss) ∧
    ∃ pre, printSelectionSet c ss = 123 :: (pre ++ [125]) := by
  have hb : ∃ body, printSelectionSet c ss = 123 :: 10 :: (body ++ [10, 125]) := by
    cases ss with
    | mk sels loc =>
      simp only [okSelectionSet] at h
      have hne : printSelections c sels ≠ [] := by
        cases sels with
        | nil => exact absurd rfl h.1
        | cons s ss => simp [printSelections]
      exact ⟨_, by simp only [printSelectionSet]; rw [block_eq _ _ hne (printSelections_ne c sels h.2)]⟩
  obtain ⟨body, hb⟩ := hb
  refine ⟨lay_selectionSet c hind ss h, ?_, 10 :: (body ++ [10]), ?_⟩
  · rw [hb]; exact delimHead_cons (by decide +kernel)
  · rw [hb]; simp

def opNameText (o : Option Name) : Text := match o with | some n => n.value | none => []

/-- the short-form test of the printer is the grammar's shorthand condition -/
theorem useShortForm_iff (c : Cfg) (d : OperationDefinition) (h : okOperation c.indent d) :
    ((opNameText d.name).isEmpty &&
      (printDirectives c d.directives).isEmpty && (printVariableDefinitions c d.variableDefinitions).isEmpty &&
      (d.operation == K.query || d.operation.isEmpty)) = isShorthand d := by
  obtain ⟨hop, hname, hv, _, _⟩ := h
  have hopne : d.operation.isEmpty = false := by rcases hop with e | e | e <;> rw [e] <;> decide +kernel
  have h1 : (opNameText d.name).isEmpty = d.name.isNone := by
    cases hn : d.name with
    | none => rfl
    | some n =>
      rw [hn] at hname
      have := isName_ne_nil hname
      cases hv : n.value with
      | nil => exact absurd hv this
      | cons _ _ => simp [opNameText, hv]
  have h2 : (printDirectives c d.directives).isEmpty = d.directives.isEmpty := by
    rw [Bool.eq_iff_iff]; simp [List.isEmpty_iff, printDirectives_nil_iff]
  have h3 : (printVariableDefinitions c d.variableDefinitions).isEmpty = d.variableDefinitions.isEmpty := by
    rw [Bool.eq_iff_iff]; simp [List.isEmpty_iff, (lay_variableDefinitions c _ hv).2.2]
  rw [h1, h2, h3, hopne]
  simp only [isShorthand, Bool.or_false, beq_iff_eq, Bool.decide_and, Bool.decide_eq_true]
  rw [Bool.eq_iff_iff]; simp only [Bool.and_eq_true, decide_eq_true_eq, beq_iff_eq]; grind



theorem lay_opName (o : Option Name) (h : match o with | some n => Spec.Lexical.isName n.value = true | none => True) :
    Lay (opNameText o) (Item.yieldAll (optV nameV o)) := by
  cases o with
  | none => simpa [opNameText, optV, Item.yieldAll] using lay_nil
  | some n => simpa [opNameText, optV, nameV, Item.yieldAll, Item.yield] using lay_name h

theorem lay_operation (c : Cfg) (hind : Blank c.indent) (d : OperationDefinition) (h : okOperation c.indent d) :
    Lay (printOperationDefinition c d) (operationV d).yield ∧ (∃ pre, printOperationDefinition c d = pre ++ [125]) ∧
    ((printOperationDefinition c d).head? = some 123 ↔ isShorthand d = true) := by
  have hs := useShortForm_iff c d h
  obtain ⟨hop, hname, hv, hd, hss⟩ := h
  obtain ⟨lss, _, pre, hpre⟩ := lay_selectionSet_delim c hind d.selectionSet hss
  have e : printOperationDefinition c d =
      if isShorthand d then printSelectionSet c d.selectionSet
      else join [d.operation, join [opNameText d.name, printVariableDefinitions c d.variableDefinitions],
        printDirectives c d.directives, printSelectionSet c d.selectionSet] [32] := by
    rw [← hs]; rfl
  rw [e]
  by_cases hsh : isShorthand d = true
  · simp only [hsh, ↓reduceIte]
    exact ⟨by simpa [operationV, hsh, Item.yield, Item.yieldAll] using lss, ⟨123 :: pre, by rw [hpre]; simp⟩, by simp [hpre]⟩
  · have hsh' : isShorthand d = false := by simpa using hsh
    simp only [hsh', Bool.false_eq_true, ↓reduceIte]
    obtain ⟨lv, dv, _⟩ := lay_variableDefinitions c d.variableDefinitions hv
    have hopn := operation_isName hop
    obtain ⟨l, e2⟩ := lay_kwJoin _ _ (lay_name hopn) (isName_ne_nil hopn)
      [part (join [opNameText d.name, printVariableDefinitions c d.variableDefinitions])
         (Item.yieldAll (optV nameV d.name) ++ Item.yieldAll (variableDefinitionsV d.variableDefinitions)),
       part (printDirectives c d.directives) (Item.yieldAll (directivesV d.directives)),
       part (printSelectionSet c d.selectionSet) (selectionSetV d.selectionSet).yield]
      (by simp only [List.mem_cons, List.not_mem_nil, or_false, forall_eq_or_imp, forall_eq, join_nosep_cons, join_nosep_nil,
            List.append_nil]
          exact ⟨lay_append (lay_opName d.name hname) lv dv, lay_directives c d.directives hd, lss⟩)
    refine ⟨by simpa [operationV, hsh', kw, Item.yield, Item.yieldAll, yieldAll_append, List.append_assoc] using l, ?_, ?_⟩
    · simp only [List.map_cons, List.map_nil] at e2
      rw [e2, hpre]
      exact ⟨d.operation ++ tailJoin [32] [join [opNameText d.name, printVariableDefinitions c d.variableDefinitions],
        printDirectives c d.directives] ++ 32 :: 123 :: pre, by simp [tailJoin]⟩
    · simp only [List.map_cons, List.map_nil] at e2
      rw [e2]
      rcases hop with e | e | e <;> simp [e, K.query, K.mutation, K.subscription]

def okFragment (ind : Text) (d : FragmentDefinition) : Prop :=
  Spec.Lexical.isName d.name.value = true ∧ Spec.Lexical.isName d.typeCondition.name.value = true ∧
  okVarDefs ind d.variableDefinitions ∧ okDirectives ind d.directives ∧ okSelectionSet ind d.selectionSet

theorem lay_fragment (c : Cfg) (hind : Blank c.indent) (d : FragmentDefinition) (h : okFragment c.indent d) :
    Lay (printFragmentDefinition c d) (fragmentV d).yield ∧ ∃ pre, printFragmentDefinition c d = pre ++ [125] := by
  obtain ⟨hn, htc, hv, hd, hss⟩ := h
  obtain ⟨lss, dss, pre, hpre⟩ := lay_selectionSet_delim c hind d.selectionSet hss
  obtain ⟨lv, dv, _⟩ := lay_variableDefinitions c d.variableDefinitions hv
  have hfrag : Spec.Lexical.isName K.fragment = true := by decide +kernel
  have hon : Spec.Lexical.isName K.on = true := by decide +kernel
  have e1 : lit "fragment " = K.fragment ++ [32] := by rw [lit, textOfString_ofList]; decide +kernel
  have e2 : lit " on " = 32 :: (K.on ++ [32]) := by rw [lit, textOfString_ofList]; decide +kernel
  have ltail := lay_space_cons (lay_append (lay_directives c d.directives hd) lss dss)
  have l2 := lay_space_cons (lay_append (lay_name hon) (lay_space_cons (lay_append (lay_name htc) ltail
    (delimHead_cons (by decide +kernel)))) (delimHead_cons (by decide +kernel)))
  have l3 := lay_append lv l2 (delimHead_cons (by decide +kernel))
  have l4 := lay_append (lay_name hfrag) (lay_space_cons (lay_append (lay_name hn) l3
    (delimHead_append dv (delimHead_cons (by decide +kernel))))) (delimHead_cons (by decide +kernel))
  unfold printFragmentDefinition
  rw [e1, e2]
  refine ⟨by simpa [fragmentV, printNamedType, namedTypeV, nameV, kw, Item.yield, Item.yieldAll, yieldAll_append,
    List.append_assoc] using l4, ?_⟩
  rw [hpre]
  exact ⟨K.fragment ++ [32] ++ d.name.value ++ printVariableDefinitions c d.variableDefinitions ++ (32 :: (K.on ++ [32])) ++
    printNamedType d.typeCondition ++ [32] ++ printDirectives c d.directives ++ 123 :: pre, by simp⟩

def okExecDefinition (ind : Text) : Definition → Prop
  | .operation d => okOperation ind d
  | .fragment d => okFragment ind d
  | _ => False

theorem lay_execDefinition (c : Cfg) (hind : Blank c.indent) (d : Definition) (h : okExecDefinition c.indent d) :
    Lay (printDefinition c d) (definitionV d).yield ∧ ∃ pre, printDefinition c d = pre ++ [125] := by
  cases d with
  | operation d => exact ⟨(lay_operation c hind d h).1, (lay_operation c hind d h).2.1⟩
  | fragment d => simpa [printDefinition, definitionV] using lay_fragment c hind d h
  | _ => exact absurd h (by simp [okExecDefinition])

def okExecDefinitions (ind : Text) : List Definition → Prop
  | [] => True
  | d :: ds => okExecDefinition ind d ∧ okExecDefinitions ind ds

end PyGql.PrintTokens
