/-
  TYPE nodes of definitions (types of variable definitions, of field / argument / input-field definitions, every type
  nested in them; the `NamedType` nodes of type conditions, `implements` lists, union members and operation types read
  as the type `.named t`): sub-nodes of the definition's view, well-formed when the definition is.
-/
import PyGqlModel.Lemmas.SpanValsTS
namespace PyGql.Ast
open PyGql

def namedTypes (ts : List NamedType) : List TypeRef := ts.map TypeRef.named
def optNamed : Option NamedType → List TypeRef
  | none => []
  | some t => [.named t]

mutual
def Selection.types : Selection → List TypeRef
  | .field _ _ _ _ ss _ => optSSTypes ss
  | .fragmentSpread _ _ _ => []
  | .inlineFragment tc _ ss _ => optNamed tc ++ ss.types
def SelectionSet.types : SelectionSet → List TypeRef
  | .mk sels _ => selsTypes sels
def optSSTypes : Option SelectionSet → List TypeRef
  | none => []
  | some ss => ss.types
def selsTypes : List Selection → List TypeRef
  | [] => []
  | s :: ss => s.types ++ selsTypes ss
end

def InputValueDefinition.types (d : InputValueDefinition) : List TypeRef := d.type.subs
def FieldDefinition.types (d : FieldDefinition) : List TypeRef :=
  d.arguments.flatMap InputValueDefinition.types ++ d.type.subs

def Definition.types : Definition → List TypeRef
  | .operation d => d.variableDefinitions.flatMap (fun v => v.type.subs) ++ d.selectionSet.types
  | .fragment d => d.variableDefinitions.flatMap (fun v => v.type.subs) ++ [.named d.typeCondition] ++ d.selectionSet.types
  | .schemaDefinition _ ops _ => ops.map (fun o => .named o.type)
  | .scalarTypeDefinition _ _ _ _ => []
  | .objectTypeDefinition _ _ ifs _ fields _ => namedTypes ifs ++ fields.flatMap FieldDefinition.types
  | .interfaceTypeDefinition _ _ _ fields _ => fields.flatMap FieldDefinition.types
  | .unionTypeDefinition _ _ _ types _ => namedTypes types
  | .enumTypeDefinition _ _ _ _ _ => []
  | .inputObjectTypeDefinition _ _ _ fields _ => fields.flatMap InputValueDefinition.types
  | .directiveDefinition _ _ args _ _ => args.flatMap InputValueDefinition.types
  | .schemaExtension _ ops _ => ops.map (fun o => .named o.type)
  | .scalarTypeExtension _ _ _ => []
  | .objectTypeExtension _ ifs _ fields _ => namedTypes ifs ++ fields.flatMap FieldDefinition.types
  | .interfaceTypeExtension _ _ fields _ => fields.flatMap FieldDefinition.types
  | .unionTypeExtension _ _ types _ => namedTypes types
  | .enumTypeExtension _ _ _ _ => []
  | .inputObjectTypeExtension _ _ fields _ => fields.flatMap InputValueDefinition.types

end PyGql.Ast

namespace PyGql.Spec
open PyGql PyGql.Ast PyGql.Parse

theorem typeV_named (t : NamedType) : typeV (.named t) = namedTypeV t := rfl

theorem type_subs (t w : TypeRef) (h : w ∈ t.subs) : Item.Sub (typeV w) (typeV t) ∧ (wfType t = true → wfType w = true) :=
  subs_type_sub t w h

theorem variableDefinition_types (d : VariableDefinition) (w : TypeRef) (h : w ∈ d.type.subs) :
    Item.Sub (typeV w) (variableDefinitionV d) ∧ (wfVariableDefinition d = true → wfType w = true) := by
  obtain ⟨h1, h2⟩ := type_subs d.type w h
  unfold variableDefinitionV
  simp only [wfVariableDefinition, Bool.and_eq_true]
  exact ⟨((SubL.head _ h1).tail _ |>.tail _).node _, fun hh => h2 hh.1.1⟩

mutual
theorem selection_types : ∀ (s : Selection) (w : TypeRef), w ∈ s.types →
    Item.Sub (typeV w) (selectionV s) ∧ wfType w = true
  | .field alias_ name args dirs ss loc, w, h => by
    simp only [Selection.types] at h
    obtain ⟨h1, h2⟩ := optSS_types ss w h
    exact ⟨(h1.right _ |>.tail _ |>.right _).node _, h2⟩
  | .fragmentSpread name dirs loc, w, h => by simp [Selection.types] at h
  | .inlineFragment tc dirs ss loc, w, h => by
    simp only [Selection.types, List.mem_append] at h
    rcases h with h | h
    · cases tc with
      | none => simp [optNamed] at h
      | some t =>
        simp only [optNamed, List.mem_singleton] at h
        subst h
        have h1 : SubL (typeV (.named t)) [kw K.on, namedTypeV t] := (SubL.head _ .refl).tail _
        exact ⟨(h1.left _ |>.left _ |>.tail _).node _, rfl⟩
    · obtain ⟨h0, h2⟩ := selectionSet_types ss w h
      have h1 : SubL (typeV w) [selectionSetV ss] := SubL.head _ h0
      exact ⟨(h1.right _ |>.tail _).node _, h2⟩
termination_by structural s => s
theorem selectionSet_types : ∀ (ss : SelectionSet) (w : TypeRef), w ∈ ss.types →
    Item.Sub (typeV w) (selectionSetV ss) ∧ wfType w = true
  | .mk sels loc, w, h => by
    simp only [SelectionSet.types] at h
    obtain ⟨h1, h2⟩ := sels_types sels w h
    exact ⟨(h1.left _ |>.tail _).node _, h2⟩
termination_by structural ss => ss
theorem optSS_types : ∀ (o : Option SelectionSet) (w : TypeRef), w ∈ optSSTypes o →
    SubL (typeV w) (optSelectionSetV o) ∧ wfType w = true
  | none, w, h => by simp [optSSTypes] at h
  | some ss, w, h => by
    simp only [optSSTypes] at h
    obtain ⟨h1, h2⟩ := selectionSet_types ss w h
    exact ⟨by simp only [optSelectionSetV]; exact SubL.head _ h1, h2⟩
termination_by structural o => o
theorem sels_types : ∀ (ss : List Selection) (w : TypeRef), w ∈ selsTypes ss →
    SubL (typeV w) (selectionsV ss) ∧ wfType w = true
  | [], w, h => by simp [selsTypes] at h
  | s :: ss, w, h => by
    simp only [selsTypes, List.mem_append] at h
    simp only [selectionsV]
    rcases h with h | h
    · obtain ⟨h1, h2⟩ := selection_types s w h
      exact ⟨SubL.head _ h1, h2⟩
    · obtain ⟨h1, h2⟩ := sels_types ss w h
      exact ⟨h1.tail _, h2⟩
termination_by structural ss => ss
end

theorem inputValue_types (d : InputValueDefinition) (w : TypeRef) (h : w ∈ d.types) :
    Item.Sub (typeV w) (inputValueV d) ∧ (wfInputValue d = true → wfType w = true) :=
  sub_wf_trans (type_subs d.type w h) (inputValue_parts d).2.1

theorem fieldDefinition_types (d : FieldDefinition) (w : TypeRef) (h : w ∈ d.types) :
    Item.Sub (typeV w) (fieldDefinitionV d) ∧ (wfFieldDefinition d = true → wfType w = true) := by
  obtain ⟨_, hargs, htype, _⟩ := fieldDefinition_parts d
  rcases List.mem_append.1 h with h | h
  · exact sub_wf_flatMap inputValue_types hargs h
  · exact sub_wf_trans (type_subs d.type w h) htype

theorem definition_types_eq (x : Definition) (hts : isTypeSystem x = true) :
    x.types = namedTypes x.named ++ x.fdefs.flatMap FieldDefinition.types ++ x.inputs.flatMap InputValueDefinition.types := by
  unfold Definition.types Definition.named Definition.fdefs Definition.inputs
  cases x with
  | operation d => cases hts
  | fragment d => cases hts
  | _ => simp only [namedTypes, List.map_map, List.map_nil, List.flatMap_nil, List.append_nil, List.nil_append,
      Function.comp_def]

theorem definition_types (fl : Flags) (x : Definition) (w : TypeRef) (h : w ∈ x.types) :
    Item.Sub (typeV w) (definitionV x) ∧ (wfDefinition fl x = true → wfType w = true) := by
  cases hts : isTypeSystem x with
  | true =>
    rw [definition_types_eq x hts] at h
    simp only [List.mem_append] at h
    rcases h with (h | h) | h
    · obtain ⟨t, ht, rfl⟩ := List.mem_map.1 h
      exact ⟨definition_named x t ht, fun _ => rfl⟩
    · exact sub_wf_flatMap fieldDefinition_types (definition_fdefs fl x) h
    · exact sub_wf_flatMap inputValue_types (definition_inputs fl x) h
  | false =>
    cases x with
    | operation d =>
      rcases List.mem_append.1 h with h | h
      · exact sub_wf_flatMap variableDefinition_types (definition_vdefs fl (.operation d)) h
      · obtain ⟨h1, h2⟩ := selectionSet_types d.selectionSet w h
        exact ⟨h1.trans (definition_parts fl _ _ _ _ rfl).1.1, fun _ => h2⟩
    | fragment d =>
      simp only [Definition.types, List.mem_append, List.mem_singleton] at h
      rcases h with (h | h) | h
      · exact sub_wf_flatMap variableDefinition_types (definition_vdefs fl (.fragment d)) h
      · subst h
        exact ⟨((((SubL.head _ .refl).tail _).right _).tail _ |>.tail _).node _, fun _ => rfl⟩
      · obtain ⟨h1, h2⟩ := selectionSet_types d.selectionSet w h
        exact ⟨h1.trans (definition_parts fl _ _ _ _ rfl).1.1, fun _ => h2⟩
    | _ => cases hts

end PyGql.Spec
