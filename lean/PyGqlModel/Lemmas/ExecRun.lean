/-
  `runAsync` read backwards: a statement about a run is a statement about `execute` failing at once, or about the state
  `runSched` leaves; and the overall outcome is `pending` exactly while the top node has not finished.
-/
import PyGqlModel.Lemmas.ExecEv
namespace PyGql.AsyncExec

theorem outcomeOf_pending_iff (top : Node) (s : ExecSt) : outcomeOf top s = .pending ↔ top.finished = false := by
  cases top with
  | val x => cases x <;> exact ⟨fun h => (nomatch h), fun h => (nomatch h)⟩
  | done r =>
    cases r with
    | val x => cases x <;> exact ⟨fun h => (nomatch h), fun h => (nomatch h)⟩
    | _ => exact ⟨fun h => (nomatch h), fun h => (nomatch h)⟩
  | failed e => exact ⟨fun h => (nomatch h), fun h => (nomatch h)⟩
  | _ => exact ⟨fun _ => rfl, fun _ => rfl⟩

theorem runAsync_cases {P : Result → Prop} (op : Op) (schedule : List Nat)
    (exc : ∀ e s, execute op {} = (.exc e, s) → P ⟨.failed e, s.trace, []⟩)
    (ok : ∀ top s, execute op {} = (.ok top, s) →
      P ⟨outcomeOf (runSched top s [] schedule).top (runSched top s [] schedule).st,
        (runSched top s [] schedule).st.trace, (runSched top s [] schedule).sizes⟩) :
    P (runAsync op schedule) := by
  unfold runAsync
  cases hr : execute op {} with
  | mk r s =>
    cases r with
    | exc e => exact exc e s hr
    | ok top => exact ok top s hr

theorem outcome_of_inv (top : Node) (s : ExecSt) (o : Option V) (h : TopInv top (denToEv o)) :
    match outcomeOf top s with
    | .ok v _ => o = some v
    | .failed _ => o = none
    | .pending => True
    | .junk => False := by
  have hev := h.ev_eq
  cases top with
  | val x => cases x <;> cases o <;> simp_all [outcomeOf, ev, denToEv]
  | done r =>
    have hf := h.isFlat
    cases r with
    | val x => cases x <;> cases o <;> simp_all [outcomeOf, ev, denToEv]
    | _ => simp [flat] at hf
  | failed e => cases e <;> cases o <;> simp_all [outcomeOf, ev, evExc, denToEv]
  | task a b c d => simp [outcomeOf]
  | chain a b => simp [outcomeOf]
  | unwrap a => simp [outcomeOf]
  | gather a b c => simp [outcomeOf]

theorem runAsync_spec (op : Op) (schedule : List Nat) :
    match (runAsync op schedule).outcome with
    | .ok v _ => (denFlds op.fields).map V.obj = some v
    | .failed _ => denFlds op.fields = none
    | .pending => True
    | .junk => False := by
  have h := execute_inv op {}
  refine runAsync_cases (P := fun r => match r.outcome with
    | .ok v _ => (denFlds op.fields).map V.obj = some v
    | .failed _ => denFlds op.fields = none
    | .pending => True
    | .junk => False) op schedule (fun e s hr => ?_) (fun top s hr => ?_)
  · rw [hr] at h
    simp only [opSpec] at h ⊢
    cases hd : denFlds op.fields <;> cases e <;> simp_all [evExc, denToEv]
  · rw [hr] at h
    have := outcome_of_inv _ (runSched top s [] schedule).st _ (runSched_inv _ schedule top s [] h)
    cases ho : outcomeOf (runSched top s [] schedule).top (runSched top s [] schedule).st <;> simp_all

end PyGql.AsyncExec
