/-
  C14 — closedness: "a step only re-points references to registered objects".

  `StepImp chk h h'`: every object of `h` is still there in `h'`, of the same sort (and, for types, the same kind
  and name), owning a sub-list of its members, and if its own references passed `chk` they still do.
  Shapes (`argShape` / `fieldShape` / `typeShape` / `dirShape`) are kept by such steps; every visitor hook is
  such a step for every `chk` compatible with the visitor, and ESTABLISHES the shape of what it returns:
  `refOK reg` for the heal visitor, the incoming `chk0` for the others.
-/
import PyGqlModel.Lemmas.HeapOwn

namespace PyGql.Heap.Own
open PyGql.Heap

def refsOf : Obj → List Ref
  | .type t => typeRefs t
  | .field f => [f.ty.base]
  | .arg g => [g.ty.base]
  | .dir _ => []

def eraseT : TRef → TRef
  | .named r => .named ⟨r.name, 0⟩
  | .list t => .list (eraseT t)
  | .nonNull t => .nonNull (eraseT t)

/-- two type expressions have the same shape and the same NAME at their base (the address may differ) -/
def sameNames : TRef → TRef → Prop
  | .named r, .named r' => r'.name = r.name
  | .list t, .list t' => sameNames t t'
  | .nonNull t, .nonNull t' => sameNames t t'
  | _, _ => False

theorem sameNames_iff (t t' : TRef) : sameNames t t' ↔ eraseT t' = eraseT t := by
  induction t generalizing t' with
  | named r => cases t' <;> simp [sameNames, eraseT]
  | list t ih => cases t' <;> simp [sameNames, eraseT, ih]
  | nonNull t ih => cases t' <;> simp [sameNames, eraseT, ih]

theorem sameNames_refl (t : TRef) : sameNames t t := (sameNames_iff t t).mpr rfl

theorem sameNames_trans {t1 t2 t3 : TRef} (a : sameNames t1 t2) (b : sameNames t2 t3) : sameNames t1 t3 :=
  (sameNames_iff t1 t3).mpr (((sameNames_iff t2 t3).mp b).trans ((sameNames_iff t1 t2).mp a))

/-- the same sort of object with ALL its non-reference attributes: for a type kind, name, description, default resolver,
    type resolver, enum values, protected flag; for a field name, description, deprecation, resolver, subscription resolver,
    python name; for an argument / input field name, python name, default, description; for a directive name, locations,
    description. Type references keep their shape and the name at their base. -/
def SameHead : Obj → Obj → Prop
  | .type t, .type t' => t'.kind = t.kind ∧ t'.name = t.name ∧ t'.desc = t.desc ∧ t'.dres = t.dres ∧ t'.rtype = t.rtype ∧
      t'.values = t.values ∧ t'.prot = t.prot ∧ t'.cls = t.cls
  | .field f, .field f' => f'.name = f.name ∧ f'.desc = f.desc ∧ f'.depr = f.depr ∧ f'.res = f.res ∧ f'.sub = f.sub ∧ f'.py = f.py ∧
      sameNames f.ty f'.ty
  | .arg g, .arg g' => g'.name = g.name ∧ g'.py = g.py ∧ g'.dflt = g.dflt ∧ g'.desc = g.desc ∧ sameNames g.ty g'.ty
  | .dir d, .dir d' => d'.name = d.name ∧ d'.locs = d.locs ∧ d'.desc = d.desc
  | _, _ => False

def Evolves (chk : Ref → Bool) (o o' : Obj) : Prop :=
  SameHead o o' ∧ List.Sublist (kids o') (kids o) ∧ ((refsOf o).all chk = true → (refsOf o').all chk = true)

def StepImp (chk : Ref → Bool) (h h' : Heap) : Prop :=
  ∀ a o, h.read a = some o → ∃ o', h'.read a = some o' ∧ Evolves chk o o'

def TAttr (t t' : TypeO) : Prop := SameHead (.type t) (.type t')

theorem SameHead.refl (o : Obj) : SameHead o o := by cases o <;> simp [SameHead, sameNames_refl]

theorem SameHead.trans {o1 o2 o3 : Obj} (a : SameHead o1 o2) (b : SameHead o2 o3) : SameHead o1 o3 := by
  cases o1 <;> cases o2 <;> try exact a.elim
  all_goals cases o3 <;> try exact b.elim
  · obtain ⟨a1, a2, a3, a4, a5, a6, a7, a8⟩ := a
    obtain ⟨b1, b2, b3, b4, b5, b6, b7, b8⟩ := b
    exact ⟨b1.trans a1, b2.trans a2, b3.trans a3, b4.trans a4, b5.trans a5, b6.trans a6, b7.trans a7, b8.trans a8⟩
  · obtain ⟨a1, a2, a3, a4, a5, a6, a7⟩ := a
    obtain ⟨b1, b2, b3, b4, b5, b6, b7⟩ := b
    exact ⟨b1.trans a1, b2.trans a2, b3.trans a3, b4.trans a4, b5.trans a5, b6.trans a6, sameNames_trans a7 b7⟩
  · obtain ⟨a1, a2, a3, a4, a5⟩ := a
    obtain ⟨b1, b2, b3, b4, b5⟩ := b
    exact ⟨b1.trans a1, b2.trans a2, b3.trans a3, b4.trans a4, sameNames_trans a5 b5⟩
  · obtain ⟨a1, a2, a3⟩ := a
    obtain ⟨b1, b2, b3⟩ := b
    exact ⟨b1.trans a1, b2.trans a2, b3.trans a3⟩

theorem TAttr.refl (t : TypeO) : TAttr t t := SameHead.refl _
theorem TAttr.trans {a b c : TypeO} (x : TAttr a b) (y : TAttr b c) : TAttr a c := SameHead.trans x y

theorem Evolves.refl (chk : Ref → Bool) (o : Obj) : Evolves chk o o := ⟨SameHead.refl o, List.Sublist.refl _, fun h => h⟩

theorem Evolves.trans {chk : Ref → Bool} {o1 o2 o3 : Obj} (a : Evolves chk o1 o2) (b : Evolves chk o2 o3) : Evolves chk o1 o3 :=
  ⟨a.1.trans b.1, b.2.1.trans a.2.1, fun h => b.2.2 (a.2.2 h)⟩

theorem StepImp.refl (chk : Ref → Bool) (h : Heap) : StepImp chk h h := fun _ o hr => ⟨o, hr, Evolves.refl chk o⟩

theorem StepImp.trans {chk : Ref → Bool} {h1 h2 h3 : Heap} (a : StepImp chk h1 h2) (b : StepImp chk h2 h3) : StepImp chk h1 h3 := by
  intro x o hr
  obtain ⟨o2, h2r, e2⟩ := a x o hr
  obtain ⟨o3, h3r, e3⟩ := b x o2 h2r
  exact ⟨o3, h3r, e2.trans e3⟩

theorem step_alloc (chk : Ref → Bool) (h : Heap) (o : Obj) : StepImp chk h (h.alloc o).1 := by
  intro a o' hr
  exact ⟨o', by rw [read_alloc_old h o a (read_lt h a o' hr)]; exact hr, Evolves.refl chk o'⟩

theorem FrameX.stepImp {W : Addr → Prop} {h h' : Heap} (f : FrameX W h h') (hW : ∀ a, W a → h.size ≤ a) (chk : Ref → Bool) :
    StepImp chk h h' :=
  fun a o hr => ⟨o, f.read (fun w => Nat.not_le.mpr (read_lt h a o hr) (hW a w)) hr, Evolves.refl chk o⟩

theorem step_write (chk : Ref → Bool) (h : Heap) (a : Addr) (o o' : Obj) (hr : h.read a = some o) (e : Evolves chk o o') :
    StepImp chk h (h.write a o') := by
  intro b ob hb
  by_cases hab : a = b
  · subst hab
    rw [hr] at hb; cases hb
    exact ⟨o', read_write_self h a o' (read_lt h a _ hr), e⟩
  · exact ⟨ob, by rw [read_write_other h a b o' hab]; exact hb, Evolves.refl chk ob⟩

theorem StepImp.readArg {chk : Ref → Bool} {h h' : Heap} (st : StepImp chk h h') {a : Addr} {g : ArgO} (hr : h.readArg a = some g) :
    ∃ g', h'.readArg a = some g' ∧ SameHead (.arg g) (.arg g') ∧ (chk g.ty.base = true → chk g'.ty.base = true) := by
  obtain ⟨o', hr', hd, _, hrefs⟩ := st a _ (readArg_read hr)
  cases o' with
  | arg g' => exact ⟨g', readArg_of_read hr', hd, by simpa [refsOf] using hrefs⟩
  | _ => exact hd.elim

theorem StepImp.readField {chk : Ref → Bool} {h h' : Heap} (st : StepImp chk h h') {a : Addr} {f : FieldO} (hr : h.readField a = some f) :
    ∃ f', h'.readField a = some f' ∧ SameHead (.field f) (.field f') ∧ f'.args.Sublist f.args ∧
      (chk f.ty.base = true → chk f'.ty.base = true) := by
  obtain ⟨o', hr', hd, hk, hrefs⟩ := st a _ (readField_read hr)
  cases o' with
  | field f' => exact ⟨f', readField_of_read hr', hd, hk, by simpa [refsOf] using hrefs⟩
  | _ => exact hd.elim

theorem StepImp.readType {chk : Ref → Bool} {h h' : Heap} (st : StepImp chk h h') {a : Addr} {t : TypeO} (hr : h.readType a = some t) :
    ∃ t', h'.readType a = some t' ∧ TAttr t t' ∧ t'.fields.Sublist t.fields ∧
      ((typeRefs t).all chk = true → (typeRefs t').all chk = true) := by
  obtain ⟨o', hr', hd, hk, hrefs⟩ := st a _ (readType_read hr)
  cases o' with
  | type t' => exact ⟨t', readType_of_read hr', hd, hk, hrefs⟩
  | _ => exact hd.elim

theorem StepImp.readDir {chk : Ref → Bool} {h h' : Heap} (st : StepImp chk h h') {a : Addr} {d : DirO} (hr : h.readDir a = some d) :
    ∃ d', h'.readDir a = some d' ∧ d'.args.Sublist d.args := by
  obtain ⟨o', hr', hd, hk, _⟩ := st a _ (readDir_read hr)
  cases o' with
  | dir d' => exact ⟨d', readDir_of_read hr', hk⟩
  | _ => exact hd.elim

theorem readType_keep_attrs {chk : Ref → Bool} {h h' : Heap} (st : StepImp chk h h') (a : Addr) (t : TypeO) (ht : h.readType a = some t) :
    ∃ t', h'.readType a = some t' ∧ SameHead (.type t) (.type t') := by
  obtain ⟨t', ht', hd, _⟩ := st.readType ht
  exact ⟨t', ht', hd⟩

theorem readType_keep {chk : Ref → Bool} {h h' : Heap} (st : StepImp chk h h') (a : Addr) (t : TypeO) (ht : h.readType a = some t) :
    ∃ t', h'.readType a = some t' ∧ t'.kind = t.kind ∧ t'.name = t.name := by
  obtain ⟨t', ht', hd, _⟩ := st.readType ht
  exact ⟨t', ht', hd.1, hd.2.1⟩

theorem argShape_iff (chk : Ref → Bool) (h : Heap) (a : Addr) : argShape chk h a = true ↔ ∃ g, h.readArg a = some g ∧ chk g.ty.base = true := by
  cases hg : h.readArg a <;> simp [argShape, hg]

theorem fieldShape_iff (chk : Ref → Bool) (h : Heap) (a : Addr) :
    fieldShape chk h a = true ↔ ∃ f, h.readField a = some f ∧ chk f.ty.base = true ∧ ∀ c, c ∈ f.args → argShape chk h c = true := by
  cases hf : h.readField a <;> simp [fieldShape, hf]

theorem dirShape_iff (chk : Ref → Bool) (h : Heap) (a : Addr) :
    dirShape chk h a = true ↔ ∃ d, h.readDir a = some d ∧ ∀ c, c ∈ d.args → argShape chk h c = true := by
  cases hd : h.readDir a <;> simp [dirShape, hd]

theorem typeShape_eq (chk : Ref → Bool) (h : Heap) (a : Addr) (t : TypeO) (ht : h.readType a = some t) :
    typeShape chk h a = ((typeRefs t).all chk && typeMembersOK chk h t) := by
  simp only [typeShape, ht]

theorem typeShape_iff (chk : Ref → Bool) (h : Heap) (a : Addr) :
    typeShape chk h a = true ↔ ∃ t, h.readType a = some t ∧ (typeRefs t).all chk = true ∧ typeMembersOK chk h t = true := by
  cases ht : h.readType a <;> simp [typeShape, ht]

/-- the kinds by what a type object of that kind owns: fields, input fields, nothing -/
theorem kind_cases (k : Kind) : (k = Kind.object ∨ k = Kind.interface) ∨ k = Kind.input ∨ (k = Kind.union ∨ k = Kind.scalar ∨ k = Kind.enum) := by
  cases k <;> simp

theorem typeMembersOK_iff (chk : Ref → Bool) (h : Heap) (t : TypeO) : typeMembersOK chk h t = true ↔
    (t.kind = Kind.input → ∀ c, c ∈ t.fields → argShape chk h c = true) ∧
    (t.kind = Kind.object ∨ t.kind = Kind.interface → ∀ c, c ∈ t.fields → fieldShape chk h c = true) := by
  cases hk : t.kind <;> simp [typeMembersOK, hk]

theorem typeMembersOK_imp {chk chk' : Ref → Bool} {h h' : Heap} {t t' : TypeO} (hk : t'.kind = t.kind)
    (hsub : ∀ c, c ∈ t'.fields → c ∈ t.fields) (ha : ∀ c, argShape chk h c = true → argShape chk' h' c = true)
    (hf : ∀ c, fieldShape chk h c = true → fieldShape chk' h' c = true) (hm : typeMembersOK chk h t = true) :
    typeMembersOK chk' h' t' = true := by
  rw [typeMembersOK_iff, hk] at *
  exact ⟨fun k c hc => ha c (hm.1 k c (hsub c hc)), fun k c hc => hf c (hm.2 k c (hsub c hc))⟩

theorem argShape_keep {chk : Ref → Bool} {h h' : Heap} (st : StepImp chk h h') (a : Addr) (hs : argShape chk h a = true) :
    argShape chk h' a = true := by
  obtain ⟨g, hg, hty⟩ := (argShape_iff chk h a).mp hs
  obtain ⟨g', hg', _, hrefs⟩ := st.readArg hg
  exact (argShape_iff chk h' a).mpr ⟨g', hg', hrefs hty⟩

theorem fieldShape_keep {chk : Ref → Bool} {h h' : Heap} (st : StepImp chk h h') (a : Addr) (hs : fieldShape chk h a = true) :
    fieldShape chk h' a = true := by
  obtain ⟨f, hf, hty, hargs⟩ := (fieldShape_iff chk h a).mp hs
  obtain ⟨f', hf', _, hk, hrefs⟩ := st.readField hf
  exact (fieldShape_iff chk h' a).mpr ⟨f', hf', hrefs hty, fun c hc => argShape_keep st c (hargs c (hk.subset hc))⟩

theorem dirShape_keep {chk : Ref → Bool} {h h' : Heap} (st : StepImp chk h h') (a : Addr) (hs : dirShape chk h a = true) :
    dirShape chk h' a = true := by
  obtain ⟨d, hd, hargs⟩ := (dirShape_iff chk h a).mp hs
  obtain ⟨d', hd', hk⟩ := st.readDir hd
  exact (dirShape_iff chk h' a).mpr ⟨d', hd', fun c hc => argShape_keep st c (hargs c (hk.subset hc))⟩

theorem typeShape_keep {chk : Ref → Bool} {h h' : Heap} (st : StepImp chk h h') (a : Addr) (hs : typeShape chk h a = true) :
    typeShape chk h' a = true := by
  obtain ⟨t, ht, hrefs, hm⟩ := (typeShape_iff chk h a).mp hs
  obtain ⟨t', ht', hd, hk, hr⟩ := st.readType ht
  exact (typeShape_iff chk h' a).mpr ⟨t', ht', hr hrefs,
    typeMembersOK_imp hd.1 (fun c hc => hk.subset hc) (argShape_keep st) (fieldShape_keep st) hm⟩

/-- `_healed` keeps the shape and the name of a type expression and points it to the registered object -/
theorem healed_spec (reg : List (String × Addr)) (t t' : TRef) (ht : healed reg t = some t') :
    eraseT t' = eraseT t ∧ refOK reg t'.base = true := by
  induction t generalizing t' with
  | named r =>
    simp only [healed, Option.map_eq_some_iff] at ht
    obtain ⟨a, ha, rfl⟩ := ht
    simp [eraseT, TRef.base, refOK, ha]
  | list t ih =>
    simp only [healed, Option.map_eq_some_iff] at ht
    obtain ⟨u, hu, rfl⟩ := ht
    simpa [eraseT, TRef.base] using ih u hu
  | nonNull t ih =>
    simp only [healed, Option.map_eq_some_iff] at ht
    obtain ⟨u, hu, rfl⟩ := ht
    simpa [eraseT, TRef.base] using ih u hu

theorem healed_ok (reg : List (String × Addr)) (t t' : TRef) (ht : healed reg t = some t') : refOK reg t'.base = true :=
  (healed_spec reg t t' ht).2

theorem healed_sameNames (reg : List (String × Addr)) (t t' : TRef) (ht : healed reg t = some t') : sameNames t t' :=
  (sameNames_iff t t').mpr (healed_spec reg t t' ht).1

theorem healedRefs_ok (reg : List (String × Addr)) (rs : List Ref) : (healedRefs reg rs).all (refOK reg) = true := by
  simp only [List.all_eq_true, healedRefs, List.mem_filterMap, Option.map_eq_some_iff]
  rintro r ⟨r0, _, a, ha, rfl⟩
  simp [refOK, ha]

theorem write_arg_ty (chk : Ref → Bool) (h : Heap) (a : Addr) (g : ArgO) (t : TRef) (hg : h.readArg a = some g) (ht : chk t.base = true)
    (hsn : sameNames g.ty t) : StepImp chk h (h.write a (.arg { g with ty := t })) :=
  step_write chk h a _ _ (readArg_read hg) ⟨⟨rfl, rfl, rfl, rfl, hsn⟩, List.Sublist.refl _, fun _ => by simpa [refsOf] using ht⟩

theorem write_field_ty (chk : Ref → Bool) (h : Heap) (a : Addr) (f : FieldO) (t : TRef) (hf : h.readField a = some f) (ht : chk t.base = true)
    (hsn : sameNames f.ty t) : StepImp chk h (h.write a (.field { f with ty := t })) :=
  step_write chk h a _ _ (readField_read hf) ⟨⟨rfl, rfl, rfl, rfl, rfl, rfl, hsn⟩, List.Sublist.refl _, fun _ => by simpa [refsOf] using ht⟩

theorem write_type_fields (chk : Ref → Bool) (h : Heap) (a : Addr) (t : TypeO) (kept : List Addr) (ht : h.readType a = some t)
    (hk : List.Sublist kept t.fields) : StepImp chk h (h.write a (.type { t with fields := kept })) :=
  step_write chk h a _ _ (readType_read ht) ⟨⟨rfl, rfl, rfl, rfl, rfl, rfl, rfl, rfl⟩, by simpa [kids] using hk,
    fun hr => by simpa [refsOf, typeRefs] using hr⟩

theorem typeRefs_repoint {chk : Ref → Bool} {t t' : TypeO} (hk : t'.kind = t.kind)
    (hi : t'.ifaces = t.ifaces ∨ t'.ifaces.all chk = true) (hm : t'.members = t.members ∨ t'.members.all chk = true)
    (hr : (typeRefs t).all chk = true) : (typeRefs t').all chk = true := by
  simp only [typeRefs, hk] at hr ⊢
  split at hr
  · exact hi.elim (fun e => e ▸ hr) id
  · exact hm.elim (fun e => e ▸ hr) id
  · rfl

theorem write_type_ifaces (chk : Ref → Bool) (h : Heap) (a : Addr) (t : TypeO) (new : List Ref) (ht : h.readType a = some t)
    (hn : new.all chk = true) : StepImp chk h (h.write a (.type { t with ifaces := new })) :=
  step_write chk h a _ _ (readType_read ht) ⟨⟨rfl, rfl, rfl, rfl, rfl, rfl, rfl, rfl⟩, List.Sublist.refl _,
    typeRefs_repoint rfl (Or.inr hn) (Or.inl rfl)⟩

theorem write_type_members (chk : Ref → Bool) (h : Heap) (a : Addr) (t : TypeO) (new : List Ref) (ht : h.readType a = some t)
    (hn : new.all chk = true) : StepImp chk h (h.write a (.type { t with members := new })) :=
  step_write chk h a _ _ (readType_read ht) ⟨⟨rfl, rfl, rfl, rfl, rfl, rfl, rfl, rfl⟩, List.Sublist.refl _,
    typeRefs_repoint rfl (Or.inl rfl) (Or.inr hn)⟩

/-- `chk` is compatible with a visitor: the heal visitor re-points references to registered objects, so `chk` has to accept those -/
def Compat (v : Visitor) (reg : List (String × Addr)) (chk : Ref → Bool) : Prop :=
  match v with
  | .heal => ∀ r, refOK reg r = true → chk r = true
  | _ => True

def StepAll (v : Visitor) (reg : List (String × Addr)) (h h' : Heap) : Prop := ∀ chk, Compat v reg chk → StepImp chk h h'

theorem StepAll.refl (v : Visitor) (reg : List (String × Addr)) (h : Heap) : StepAll v reg h h := fun chk _ => StepImp.refl chk h
theorem StepAll.trans {v : Visitor} {reg : List (String × Addr)} {h1 h2 h3 : Heap} (a : StepAll v reg h1 h2) (b : StepAll v reg h2 h3) :
    StepAll v reg h1 h3 := fun chk hc => (a chk hc).trans (b chk hc)
theorem stepAll_alloc (v : Visitor) (reg : List (String × Addr)) (h : Heap) (o : Obj) : StepAll v reg h (h.alloc o).1 :=
  fun chk _ => step_alloc chk h o

/-- what the visitor establishes for the objects it returns -/
def outChk (v : Visitor) (reg : List (String × Addr)) (chk0 : Ref → Bool) : Ref → Bool :=
  match v with
  | .heal => refOK reg
  | _ => chk0

theorem outChk_of_ne {v : Visitor} (hv : v ≠ .heal) (reg : List (String × Addr)) (chk0 : Ref → Bool) : outChk v reg chk0 = chk0 := by
  cases v with
  | heal => exact absurd rfl hv
  | _ => rfl

theorem compat_out (v : Visitor) (reg : List (String × Addr)) (chk0 : Ref → Bool) (hc : Compat v reg chk0) : Compat v reg (outChk v reg chk0) := by
  cases v <;> simp_all [Compat, outChk]

theorem compat_true (v : Visitor) (reg : List (String × Addr)) : Compat v reg (fun _ => true) := by
  cases v <;> simp [Compat]

theorem compat_refOK (v : Visitor) (reg : List (String × Addr)) : Compat v reg (refOK reg) := by
  cases v <;> simp [Compat]

theorem mapFilter_stepImp {chk : Ref → Bool} {f : Heap → Addr → Heap × Option Addr} (hf : ∀ h a, StepImp chk h (f h a).1) :
    ∀ (as : List Addr) (h : Heap), StepImp chk h (mapFilter f h as).1 :=
  (mapFilter_loop f).rel (StepImp.refl chk) StepImp.trans fun h a => mapFilter_one f h a ▸ hf h a

theorem mapFilter_step {v : Visitor} {reg : List (String × Addr)} {f : Heap → Addr → Heap × Option Addr}
    (hf : ∀ h a, StepAll v reg h (f h a).1) : ∀ (as : List Addr) (h : Heap), StepAll v reg h (mapFilter f h as).1 :=
  fun as h chk hc => mapFilter_stepImp (fun h a => hf h a chk hc) as h

theorem mapFilter_est {S : (Ref → Bool) → Heap → Addr → Bool}
    (keep : ∀ (chk : Ref → Bool) (h h' : Heap) (a : Addr), StepImp chk h h' → S chk h a = true → S chk h' a = true)
    {v : Visitor} {reg : List (String × Addr)} {chk0 : Ref → Bool} (hc : Compat v reg chk0)
    {f : Heap → Addr → Heap × Option Addr} (hstep : ∀ h a, StepAll v reg h (f h a).1)
    (hest : ∀ h a, S chk0 h a = true → ∀ a', (f h a).2 = some a' → S (outChk v reg chk0) (f h a).1 a' = true) :
    ∀ (as : List Addr) (h : Heap), (∀ c, c ∈ as → S chk0 h c = true) →
      ∀ c, c ∈ (mapFilter f h as).2 → S (outChk v reg chk0) (mapFilter f h as).1 c = true := by
  intro as h hin c hc'
  obtain ⟨_, os, f', e⟩ := (mapFilter_loop f).run (R := StepAll v reg) (Pre := fun h a => S chk0 h a = true) (StepAll.refl v reg) StepAll.trans
    (fun r p => keep chk0 _ _ _ (r chk0 hc) p) (fun h a _ => mapFilter_one f h a ▸ hstep h a) as h hin
  obtain ⟨a, ha, s1, r1, e1, r2⟩ := mem_of_run f' c (e ▸ hc')
  rw [mapFilter_one, head?_toList] at e1
  rw [mapFilter_one] at r2
  exact keep _ _ _ _ (r2 _ (compat_out v reg chk0 hc)) (hest s1 a (keep chk0 _ _ _ (r1 chk0 hc) (hin a ha)) c e1)

end PyGql.Heap.Own
