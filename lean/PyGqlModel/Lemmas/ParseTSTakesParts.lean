/-
  Type system, completeness of the parts: descriptions, operation type definitions, input values, argument
  definitions, blocks, field / enum-value definitions, `implements`, union members, directive locations — and what a
  part may assume of the tokens after it when it ends a definition (`FollowDef`, `NotImpl`).
-/
import PyGqlModel.Lemmas.ParseTSSound
namespace PyGql.Parse
open PyGql PyGql.Ast PyGql.Spec

theorem firstIn_descV (fl : Flags) (o : Option StringValue) : FirstIn fl [.string, .blockString] (descV o) := by
  cases o with
  | none => simpa [descV, optV] using FirstIn.nil fl _
  | some sv =>
    intro l ts l' rest h
    simp only [descV, optV, stringV, checkAll_cons, check_node, check_tok] at h
    obtain ⟨l1, ts1, ⟨f, tl, rfl, ⟨l2, ts2, ⟨t, h1, hc, _⟩, _⟩, _⟩, _⟩ := h
    cases h1
    refine Or.inr ⟨_, _, rfl, ?_⟩
    rw [cls_kind hc]; split <;> simp

/-- `parse_description`: what follows an absent description is not a string -/
theorem parseDescription_takes (fl : Flags) (n : Nat) (o : Option StringValue) :
    Takes fl n (parseDescription fl) (fun _ => o) (descV o)
      (fun rest => o = none → NotK [.string, .blockString] rest) := by
  intro l ts l' rest _ h hfol
  cases o with
  | none =>
    cases h
    obtain ⟨t, tl, rfl, hk⟩ := hfol rfl
    have hk' : ¬(t.kind = .string ∨ t.kind = .blockString) := by simpa using hk
    exact bind_run (peek_cons ..) (if_neg hk' ▸ rfl)
  | some sv =>
    simp only [descV, optV, checkAll_cons, checkAll_nil] at h
    obtain ⟨l1, ts1, hs, hfin⟩ := h
    cases hfin
    obtain ⟨c, t, tl, rfl, hk⟩ := parseStringLiteral_complete fl sv l l' ts rest hs
    have hk' : t.kind = .string ∨ t.kind = .blockString := by
      rw [hk]; cases sv.block <;> simp
    exact bind_run (peek_cons ..) (if_pos hk' ▸ bind_run c rfl)

theorem descName_notK {fl : Flags} {desc : Option StringValue} {nm : Name} {is : List Item} {ks : List TokKind}
    {l : Tok} {ts : List Tok} {r : Tok × List Tok}
    (h : Item.checkAll fl (descV desc ++ nameV nm :: is) l ts = some r)
    (hks : ∀ k ∈ [TokKind.string, .blockString, .name], k ∉ ks) : NotK ks ts :=
  (firstIn_descV fl desc).use_then h (fun h => NotK.of_node_tok h (hks _ (by simp)))
    (fun k hk => hks k (by simp at hk ⊢; rcases hk with hk | hk <;> simp [hk]))

theorem parseOperationTypeDefinition_takes (fl : Flags) (n : Nat) (d : OperationTypeDefinition)
    (w : wfOperationType d = true) :
    Takes1 fl n (parseOperationTypeDefinition fl) d (operationTypeV d) Any := by
  rcases d with ⟨op, ty, loc⟩
  exact .node fun _ => .step (parseOperationType_takes fl n op (by simpa [wfOperationType] using w)) <| .tok fun _ =>
    .step (parseNamedType_takes fl n ty) <| .done _ _

theorem parseInputValueDefinition_takes (fl : Flags) (fuel : Nat) (d : InputValueDefinition)
    (w : wfInputValue d = true) :
    Takes1 fl fuel (parseInputValueDefinition fl fuel) d (inputValueV d) FollowTDD := by
  rcases d with ⟨desc, nm, t, dv, ds, loc⟩
  simp only [wfInputValue, Bool.and_eq_true] at w
  exact .node fun _ => .appF (parseDescription_takes fl fuel desc) (fun h _ _ => NotK.of_node_tok h (by decide)) <|
    .step (parseName_takes fl fuel nm) <| .tok fun _ =>
    .stepF (parseTypeReference_takes fl fuel t w.1.1)
      (fun h hr => ((firstIn_defaultV fl dv).append (firstIn_directivesV fl ds)).use h (hr.mono (by decide)) (by decide)) <|
    .appF (parseDefault_takes fl fuel dv w.1.2)
      (fun h hr _ => (firstIn_directivesV fl ds).use h (hr.mono (by decide)) (by decide)) <|
    .lastF (parseDirectives_takes fl fuel true ds w.2) (fun hr => hr.mono (by decide)) <| .done _ _

theorem inputValueV_width (d : InputValueDefinition) : 1 ≤ (inputValueV d).yield.length := by
  simp [inputValueV, nameV, Item.yield, Item.yieldAll, yieldAll_append]; omega

theorem parseArgumentDefinitions_takes (fl : Flags) (fuel : Nat) (ds : List InputValueDefinition)
    (w : ∀ d ∈ ds, wfInputValue d = true) :
    Takes fl fuel (parseArgumentDefinitions fl fuel) (fun _ => ds) (groupV .parenL .parenR inputValueV ds)
      (fun rest => ds = [] → NotK [.parenL] rest) :=
  optMany_takes inputValueV_width (Nat.le_refl fuel)
    (fun d hd => (parseInputValueDefinition_takes fl fuel d (w d hd)).mono (Nat.sub_le ..))
    (fun _ _ _ _ _ h => ⟨NotK.of_node h fun h => descName_notK h (by decide),
      NotK.of_node h fun h => descName_notK h (by decide)⟩)
    (fun _ _ hk => NotK.cons (by simp [hk]))

theorem DefStart.kind {t : Tok} (h : DefStart t) :
    t.kind = .eof ∨ t.kind = .curlyL ∨ t.kind = .string ∨ t.kind = .blockString ∨ t.kind = .name := by
  rcases h with h | h | h | h | ⟨h, _⟩ <;> simp [h]

theorem FollowDef.notK {rest : List Tok} (h : FollowDef rest) (ks : List TokKind)
    (hks : ∀ k ∈ ks, k ≠ .eof ∧ k ≠ .curlyL ∧ k ≠ .string ∧ k ≠ .blockString ∧ k ≠ .name) : NotK ks rest := by
  obtain ⟨t, tl, rfl, hs⟩ := h
  refine NotK.cons (fun hm => ?_)
  have := hks _ hm
  rcases hs.kind with e | e | e | e | e <;> simp [e] at this

theorem FollowDef.ne {rest : List Tok} (h : FollowDef rest) : rest ≠ [] := by
  obtain ⟨t, tl, rfl, _⟩ := h; simp

def NotImpl (ts : List Tok) : Prop := ∃ t tl, ts = t :: tl ∧ ¬(t.kind = .name ∧ t.value = K.implements)

theorem implements_not_def : K.implements ∉ defKeywords := by decide +kernel

theorem FollowDef.notImpl {rest : List Tok} (h : FollowDef rest) : NotImpl rest := by
  obtain ⟨t, tl, rfl, hs⟩ := h
  refine ⟨t, tl, rfl, fun ⟨hk, hv⟩ => ?_⟩
  rcases hs with e | e | e | e | ⟨_, hm⟩
  · simp [e] at hk
  · simp [e] at hk
  · simp [e] at hk
  · simp [e] at hk
  · rw [hv] at hm; exact implements_not_def hm

theorem firstIn_blockV {α} (fl : Flags) (V : α → Item) (xs : List α) : FirstIn fl [.curlyL] (blockV V xs) := by
  cases xs with
  | nil =>
    intro l ts l' rest h
    simp only [blockV, List.isEmpty_nil, if_true, checkAll_cons, checkAll_nil, check_nla] at h
    obtain ⟨l1, ts1, ⟨rfl, rfl, _⟩, hfin⟩ := h
    cases hfin; exact Or.inl ⟨rfl, rfl⟩
  | cons x xs => simpa [blockV] using FirstIn.tok fl .curlyL [] _

/-- `NotImpl` through optional parts whose first tokens are not names -/
theorem FirstIn.useImpl {fl : Flags} {F : List TokKind} {is : List Item} (hF : FirstIn fl F is)
    {l l' : Tok} {ts rest : List Tok} (h : Item.checkAll fl is l ts = some (l', rest))
    (hr : NotImpl rest) (hd : TokKind.name ∉ F) : NotImpl ts := by
  rcases hF _ _ _ _ h with ⟨rfl, _⟩ | ⟨t, tl, rfl, hk⟩
  · exact hr
  · exact ⟨t, tl, rfl, fun ⟨hn, _⟩ => hd (hn ▸ hk)⟩

abbrev FollowFD (rest : List Tok) : Prop := NotK [.bang, .atSign, .parenL] rest

theorem parseFieldDefinition_takes (fl : Flags) (fuel : Nat) (d : FieldDefinition) (w : wfFieldDefinition d = true) :
    Takes1 fl fuel (parseFieldDefinition fl fuel) d (fieldDefinitionV d) FollowFD := by
  rcases d with ⟨desc, nm, args, ty, ds, loc⟩
  simp only [wfFieldDefinition, Bool.and_eq_true, List.all_eq_true] at w
  obtain ⟨⟨wa, wt⟩, wd⟩ := w
  exact .node fun _ => .appF (parseDescription_takes fl fuel desc) (fun h _ _ => NotK.of_node_tok h (by decide)) <|
    .step (parseName_takes fl fuel nm) <|
    .appF (parseArgumentDefinitions_takes fl fuel args wa) (fun h _ _ => NotK.of_tok h (by decide)) <| .tok fun _ =>
    .stepF (parseTypeReference_takes fl fuel ty wt)
      (fun h hr => (firstIn_directivesV fl ds).use h (hr.mono (by decide)) (by decide)) <|
    .lastF (parseDirectives_takes fl fuel true ds wd) (fun hr => hr.mono (by decide)) <| .done _ _

theorem fieldDefinitionV_width (d : FieldDefinition) : 1 ≤ (fieldDefinitionV d).yield.length := by
  simp [fieldDefinitionV, nameV, Item.yield, Item.yieldAll, yieldAll_append]; omega

theorem parseFieldsDefinition_takes (fl : Flags) (fuel : Nat) (ds : List FieldDefinition)
    (w : ∀ d ∈ ds, wfFieldDefinition d = true) :
    Takes fl fuel (parseFieldsDefinition fl fuel) (fun _ => ds) (blockV fieldDefinitionV ds)
      (fun rest => ds = [] → rest ≠ []) :=
  block_takes fieldDefinitionV_width (Nat.le_refl fuel)
    (fun d hd => (parseFieldDefinition_takes fl fuel d (w d hd)).mono (Nat.sub_le ..))
    (fun _ _ _ _ _ h => ⟨NotK.of_node h fun h => descName_notK h (by decide),
      NotK.of_node h fun h => descName_notK h (by decide)⟩)
    (fun _ _ hk => NotK.cons (by simp [hk]))

theorem parseInputFieldsDefinition_takes (fl : Flags) (fuel : Nat) (ds : List InputValueDefinition)
    (w : ∀ d ∈ ds, wfInputValue d = true) :
    Takes fl fuel (parseInputFieldsDefinition fl fuel) (fun _ => ds) (blockV inputValueV ds)
      (fun rest => ds = [] → rest ≠ []) :=
  block_takes inputValueV_width (Nat.le_refl fuel)
    (fun d hd => (parseInputValueDefinition_takes fl fuel d (w d hd)).mono (Nat.sub_le ..))
    (fun _ _ _ _ _ h => ⟨NotK.of_node h fun h => descName_notK h (by decide),
      NotK.of_node h fun h => descName_notK h (by decide)⟩)
    (fun _ _ hk => NotK.cons (by simp [hk]))

theorem parseEnumValueDefinition_takes (fl : Flags) (fuel : Nat) (d : EnumValueDefinition)
    (w : wfEnumValueDefinition d = true) :
    Takes1 fl fuel (parseEnumValueDefinition fl fuel) d (enumValueDefinitionV d) FollowDirs := by
  rcases d with ⟨desc, nm, ds, loc⟩
  simp only [wfEnumValueDefinition, Bool.and_eq_true, notBoolNull, decide_eq_true_eq] at w
  exact .node fun _ => .appF (parseDescription_takes fl fuel desc) (fun h _ _ => NotK.of_node_tok h (by decide)) <|
    .look (H := fun t => t.value = nm.value)
      (fun h => by
        obtain ⟨_, _, hnm, _⟩ := (checkAll_cons ..).1 h
        obtain ⟨t, tl, rfl, _, hv⟩ := nameV_tok hnm
        exact ⟨t, tl, rfl, hv⟩) fun t ht =>
    .guard (by rw [ht]; exact fun e => e.2.elim w.1.1 fun e => e.elim w.1.2.1 w.1.2.2) <|
    .step (parseName_takes fl fuel nm) <| .lastF (parseDirectives_takes fl fuel true ds w.2) id <| .done _ _

theorem enumValueDefinitionV_width (d : EnumValueDefinition) : 1 ≤ (enumValueDefinitionV d).yield.length := by
  simp [enumValueDefinitionV, nameV, Item.yield, Item.yieldAll, yieldAll_append]; omega

theorem parseEnumValuesDefinition_takes (fl : Flags) (fuel : Nat) (ds : List EnumValueDefinition)
    (w : ∀ d ∈ ds, wfEnumValueDefinition d = true) :
    Takes fl fuel (parseEnumValuesDefinition fl fuel) (fun _ => ds) (blockV enumValueDefinitionV ds)
      (fun rest => ds = [] → rest ≠ []) :=
  block_takes enumValueDefinitionV_width (Nat.le_refl fuel)
    (fun d hd => (parseEnumValueDefinition_takes fl fuel d (w d hd)).mono (Nat.sub_le ..))
    (fun _ _ _ _ _ h => ⟨NotK.of_node h fun h => descName_notK h (by decide),
      NotK.of_node h fun h => descName_notK h (by decide)⟩)
    (fun _ _ hk => NotK.cons (by simp [hk]))

theorem namedTypeV_width (t : NamedType) : 1 ≤ (namedTypeV t).yield.length := by
  simp [namedTypeV, nameV, Item.yield, Item.yieldAll]

theorem namedTypes_takes (fl : Flags) (fuel : Nat) (sep : TokKind) (hs : sep ≠ .name) (xs : List NamedType)
    (hne : xs ≠ []) :
    Takes fl fuel (delimitedList fuel sep (parseNamedType fl)) (fun _ => xs) (sepV sep namedTypeV xs) (NotK [sep]) :=
  delimitedList_takes namedTypeV_width (Nat.le_refl fuel) hne (fun y _ => parseNamedType_takes fl fuel y)
    (fun _ _ _ _ _ h => NotK.of_node h fun h => NotK.of_node_tok h (by simpa using hs.symm))

theorem parseImplementsInterfaces_takes (fl : Flags) (fuel : Nat) (ifs : List NamedType) :
    Takes fl fuel (parseImplementsInterfaces fl fuel) (fun _ => ifs) (implementsV ifs)
      (fun rest => (ifs = [] → NotImpl rest) ∧ NotK [.amp] rest) := by
  intro l ts l' rest hf h hr
  cases ifs with
  | nil =>
    cases h
    obtain ⟨t, tl, rfl, hk⟩ := hr.1 rfl
    exact bind_run (peek_cons ..) (if_neg hk ▸ rfl)
  | cons x xs =>
    simp only [implementsV, List.isEmpty_cons, Bool.false_eq_true, if_false, checkAll_cons, check_tok] at h
    obtain ⟨l1, ts1, ⟨t, rfl, hc, rfl⟩, hall⟩ := h
    obtain ⟨hk, hv⟩ := cls_kw_inv hc
    have hd := namedTypes_takes fl fuel .amp (by decide) (x :: xs) (by simp) l1 ts1 l' rest (Nat.le_of_succ_le hf)
      (by simpa [checkAll_cons] using hall) hr.2
    rw [delimitedList, ← implementsLoop_eq] at hd
    exact bind_run (peek_cons ..) (if_pos (And.intro hk hv) ▸ bind_run (advance_cons ..) hd)

theorem parseUnionMemberTypes_takes (fl : Flags) (fuel : Nat) (us : List NamedType) :
    Takes fl fuel (parseUnionMemberTypes fl fuel) (fun _ => us) (unionMembersV us) (NotK [.equals, .pipe]) := by
  intro l ts l' rest hf h hnk
  cases us with
  | nil =>
    cases h
    obtain ⟨t, tl, rfl, hk⟩ := hnk
    have hk' : t.kind ≠ .equals := by simp at hk; exact hk.1
    exact bind_run (skip_neg hk' ..) rfl
  | cons x xs =>
    simp only [unionMembersV, List.isEmpty_cons, Bool.false_eq_true, if_false, checkAll_cons, check_tok] at h
    obtain ⟨l1, ts1, ⟨t, rfl, hc, rfl⟩, hall⟩ := h
    exact bind_run (skip_pos (cls_kind hc) ..) (namedTypes_takes fl fuel .pipe (by decide) (x :: xs) (by simp) l1 ts1
      l' rest (Nat.le_of_succ_le hf) (by simpa [checkAll_cons] using hall) (hnk.mono (by decide)))

theorem parseDirectiveLocations_takes (fl : Flags) (fuel : Nat) (ns : List Name) (hne : ns ≠ [])
    (w : ∀ n ∈ ns, n.value ∈ Generated.ParserTables.directiveLocations) :
    Takes fl fuel (parseDirectiveLocations fl fuel) (fun _ => ns) (sepV .pipe nameV ns) (NotK [.pipe]) :=
  delimitedList_takes (fun n => by simp [nameV, Item.yield, Item.yieldAll]) (Nat.le_refl fuel) hne
    (fun y hy l ts l' rest _ hc _ => by
      obtain ⟨t0, tl, rfl, _⟩ := nameV_first hc
      exact bind_run (peek_cons ..) (bind_run (parseName_complete fl y l l' _ rest hc) (if_pos (w y hy) ▸ rfl)))
    (fun _ _ _ _ _ h => NotK.of_node_tok (chkA_one h) (by decide))

end PyGql.Parse
