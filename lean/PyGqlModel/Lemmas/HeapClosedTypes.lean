/-
  C14 — every visitor hook is a step and establishes the shape of what it returns: the hooks on members, the hooks on types,
  `on_schema`'s loops over the registries.
-/
import PyGqlModel.Lemmas.HeapClosed

namespace PyGql.Heap.Own
open PyGql.Heap

theorem bne_false_eq {l1 l2 : List Addr} (hb : ¬ (l1 != l2) = true) : l1 = l2 := by
  simpa using hb

theorem onArgument_step (v : Visitor) (reg : List (String × Addr)) (h : Heap) (a : Addr) : StepAll v reg h (onArgument v reg h a).1 := by
  intro chk hc
  simp only [onArgument]
  split
  · exact StepImp.refl chk h
  · rename_i g hg
    cases v with
    | camel ren => exact step_alloc chk h _
    | heal =>
      simp only
      split
      · exact StepImp.refl chk h
      · rename_i t ht
        exact write_arg_ty chk h a g t hg (hc _ (healed_ok reg g.ty t ht)) (healed_sameNames reg g.ty t ht)
    | _ => exact StepImp.refl chk h

theorem onArgument_est (v : Visitor) (reg : List (String × Addr)) (chk0 : Ref → Bool) (h : Heap) (a : Addr)
    (hs : argShape chk0 h a = true) : ∀ a', (onArgument v reg h a).2 = some a' →
      argShape (outChk v reg chk0) (onArgument v reg h a).1 a' = true := by
  intro a' e
  obtain ⟨g, hg, hty⟩ := (argShape_iff chk0 h a).mp hs
  simp only [onArgument, hg] at e ⊢
  cases v with
  | camel ren =>
    cases e
    exact (argShape_iff _ _ _).mpr ⟨_, readArg_alloc_new h _, hty⟩
  | heal =>
    cases ht : healed reg g.ty with
    | none => simp [ht] at e
    | some t =>
      simp only [ht] at e ⊢
      cases e
      exact (argShape_iff _ _ _).mpr ⟨_, readArg_write_self h a _ (readArg_lt hg), healed_ok reg g.ty t ht⟩
  | _ =>
    cases e
    exact (argShape_iff _ _ _).mpr ⟨g, hg, hty⟩

theorem onInputField_step (v : Visitor) (reg : List (String × Addr)) (h : Heap) (a : Addr) : StepAll v reg h (onInputField v reg h a).1 := by
  rw [(onInputField_sub v reg h a).1]
  exact onArgument_step v reg h a

theorem onInputField_est (v : Visitor) (reg : List (String × Addr)) (chk0 : Ref → Bool) (h : Heap) (a : Addr)
    (hs : argShape chk0 h a = true) : ∀ a', (onInputField v reg h a).2 = some a' →
      argShape (outChk v reg chk0) (onInputField v reg h a).1 a' = true := by
  intro a' e
  rw [(onInputField_sub v reg h a).1]
  exact onArgument_est v reg chk0 h a hs a' ((onInputField_sub v reg h a).2 a' e)

theorem onFieldBase_step (v : Visitor) (reg : List (String × Addr)) (h : Heap) (a : Addr) (f : FieldO) :
    StepAll v reg h (onFieldBase v reg h a f).1 := by
  simp only [onFieldBase]
  have hm := mapFilter_step (onArgument_step v reg) f.args h
  split
  · exact hm.trans (stepAll_alloc v reg _ _)
  · exact hm

theorem healFieldType_step (reg : List (String × Addr)) (h : Heap) (a : Addr) : StepAll .heal reg h (healFieldType reg h a).1 := by
  intro chk hc
  simp only [healFieldType]
  split
  · exact StepImp.refl chk h
  · rename_i f hf
    split
    · exact StepImp.refl chk h
    · rename_i t ht
      exact write_field_ty chk h a f t hf (hc _ (healed_ok reg f.ty t ht)) (healed_sameNames reg f.ty t ht)

theorem onField_step (v : Visitor) (reg : List (String × Addr)) (tn : String) (h : Heap) (a : Addr) :
    StepAll v reg h (onField v reg tn h a).1 := by
  cases hf : h.readField a with
  | none => simp only [onField, hf]; exact StepAll.refl v reg h
  | some f =>
    rcases onField_cases v reg tn h a f hf with e | ⟨_, _, e⟩ | ⟨rfl, e⟩ | ⟨f', _, e⟩ <;> rw [e]
    · exact StepAll.refl v reg h
    · exact onFieldBase_step v reg h a f
    · exact (onFieldBase_step _ reg h a f).trans (healFieldType_step reg _ _)
    · exact (stepAll_alloc v reg h _).trans (onFieldBase_step v reg _ _ _)

/-- base part of `on_field`: the arguments are established; the field's own type reference is not touched -/
theorem onFieldBase_est (v : Visitor) (reg : List (String × Addr)) (chk0 : Ref → Bool) (hc : Compat v reg chk0) (h : Heap) (a : Addr)
    (f : FieldO) (hf : h.readField a = some f) (hargs : ∀ c, c ∈ f.args → argShape chk0 h c = true) :
    ∃ f2, (onFieldBase v reg h a f).1.readField (onFieldBase v reg h a f).2 = some f2 ∧
      (chk0 f.ty.base = true → chk0 f2.ty.base = true) ∧
      ∀ c, c ∈ f2.args → argShape (outChk v reg chk0) (onFieldBase v reg h a f).1 c = true := by
  have hest := mapFilter_est (S := argShape) (fun chk h h' a st hs => argShape_keep st a hs) hc (onArgument_step v reg)
    (fun h a hs => onArgument_est v reg chk0 h a hs) f.args h hargs
  simp only [onFieldBase]
  split
  · exact ⟨_, readField_alloc_new _ _, fun x => x, fun c hcm => argShape_keep (step_alloc _ _ _) c (hest c hcm)⟩
  · rename_i hb
    obtain ⟨f', hf', _, hk, hrefs⟩ := (mapFilter_step (onArgument_step v reg) f.args h chk0 hc).readField hf
    exact ⟨f', hf', hrefs, fun c hcm => hest c (by rw [bne_false_eq hb]; exact hk.subset hcm)⟩

/-- … so where the visitor establishes no more than `chk0`, the returned field has the established shape -/
theorem onFieldBase_shape (v : Visitor) (reg : List (String × Addr)) (chk0 : Ref → Bool) (hc : Compat v reg chk0)
    (hout : ∀ r, chk0 r = true → outChk v reg chk0 r = true) (h : Heap) (a : Addr) (f : FieldO) (hf : h.readField a = some f)
    (hty : chk0 f.ty.base = true) (hargs : ∀ c, c ∈ f.args → argShape chk0 h c = true) :
    fieldShape (outChk v reg chk0) (onFieldBase v reg h a f).1 (onFieldBase v reg h a f).2 = true := by
  obtain ⟨f2, h2, t2, a2⟩ := onFieldBase_est v reg chk0 hc h a f hf hargs
  exact (fieldShape_iff _ _ _).mpr ⟨f2, h2, hout _ (t2 hty), a2⟩

theorem onField_est (v : Visitor) (reg : List (String × Addr)) (tn : String) (chk0 : Ref → Bool) (hc : Compat v reg chk0) (h : Heap) (a : Addr)
    (hs : fieldShape chk0 h a = true) : ∀ a', (onField v reg tn h a).2 = some a' →
      fieldShape (outChk v reg chk0) (onField v reg tn h a).1 a' = true := by
  intro a' e
  obtain ⟨f, hf, hty, hargs⟩ := (fieldShape_iff chk0 h a).mp hs
  rcases onField_cases v reg tn h a f hf with e1 | ⟨hv, _, e1⟩ | ⟨rfl, e1⟩ | ⟨f', hcopy, e1⟩ <;> rw [e1] at e ⊢
  · cases e
  · cases e
    exact onFieldBase_shape v reg chk0 hc (fun _ x => by rw [outChk_of_ne hv]; exact x) h a f hf hty hargs
  · obtain ⟨f2, h2, _, a2⟩ := onFieldBase_est .heal reg chk0 hc h a f hf hargs
    simp only [healFieldType, h2] at e ⊢
    cases ht : healed reg f2.ty with
    | none => simp [ht] at e
    | some t =>
      simp only [ht] at e ⊢
      cases e
      refine (fieldShape_iff _ _ _).mpr ⟨{ f2 with ty := t }, readField_write_self _ _ _ (readField_lt h2), healed_ok reg f2.ty t ht, ?_⟩
      intro c hcm
      exact argShape_keep (write_field_ty _ _ _ f2 t h2 (healed_ok reg f2.ty t ht) (healed_sameNames reg f2.ty t ht)) c (a2 c hcm)
  · -- a copy of the field (under another name, with another resolver) owns the same, still well-shaped, arguments
    cases e
    have hf' : f'.ty = f.ty ∧ f'.args = f.args ∧ v ≠ .heal := by cases hcopy <;> exact ⟨rfl, rfl, by simp⟩
    exact onFieldBase_shape v reg chk0 hc (fun _ x => by rw [outChk_of_ne hf'.2.2]; exact x) _ _ f' (readField_alloc_new h f')
      (hf'.1 ▸ hty) (fun c hcm => argShape_keep (step_alloc _ _ _) c (hargs c (hf'.2.1 ▸ hcm)))

end PyGql.Heap.Own

namespace PyGql.Heap.Own
open PyGql.Heap

/-- the trivial check: every visitor is compatible with it -/
abbrev chkT : Ref → Bool := fun _ => true

theorem rebuiltOrSame_step (chk : Ref → Bool) (h : Heap) (a : Addr) (t : TypeO) (fs : List Addr) :
    StepImp chk h (rebuiltOrSame h a t fs).1 := by
  simp only [rebuiltOrSame]
  split
  · exact step_alloc chk h _
  · exact StepImp.refl chk h

theorem typeRefs_fields (t : TypeO) (fs : List Addr) : typeRefs { t with fields := fs } = typeRefs t := by
  simp [typeRefs]

/-- `if updated_fields != type.fields: return _with_members(type, fields=updated_fields)  else: return type` after the members
    were visited with `f`: the (possibly rebuilt) type object carries the attributes of `t`, its references are not worse, its
    members are returned ones -/
theorem rebuilt_read {f : Heap → Addr → Heap × Option Addr} {chk : Ref → Bool} (hstep : ∀ h a, StepImp chk h (f h a).1)
    (h : Heap) (a : Addr) (t : TypeO) (ht : h.readType a = some t) :
    ∃ tu, (rebuiltOrSame (mapFilter f h t.fields).1 a t (mapFilter f h t.fields).2).1.readType
        (rebuiltOrSame (mapFilter f h t.fields).1 a t (mapFilter f h t.fields).2).2 = some tu ∧ TAttr t tu ∧
      ((typeRefs t).all chk = true → (typeRefs tu).all chk = true) ∧ tu.fields.Sublist (mapFilter f h t.fields).2 := by
  simp only [rebuiltOrSame]
  split
  · exact ⟨_, readType_alloc_new _ _, ⟨rfl, rfl, rfl, rfl, rfl, rfl, rfl, rfl⟩, by simp [typeRefs_fields], .refl _⟩
  · rename_i hb
    obtain ⟨t', ht', hd, hk, hrefs⟩ := (mapFilter_stepImp hstep t.fields h).readType ht
    exact ⟨t', ht', hd, hrefs, by rw [bne_false_eq hb]; exact hk⟩

/-- after the fields were visited and the type rebuilt, only the heal visitor does more: `updated.interfaces = …` on the result -/
theorem compositeRest_after (v : Visitor) (reg : List (String × Addr)) (a : Addr) (h : Heap) (t : TypeO) :
    StepAll v reg (rebuiltOrSame (mapFilter (onField v reg t.name) h t.fields).1 a t (mapFilter (onField v reg t.name) h t.fields).2).1
      (compositeRest v reg a h t).1 := by
  simp only [compositeRest]
  cases v with
  | heal =>
    simp only
    split
    · split
      · rename_i tu htu
        intro chk hc
        exact write_type_ifaces chk _ _ tu _ htu (by
          simp only [List.all_eq_true]
          intro r hr
          exact hc r (List.all_eq_true.mp (healedRefs_ok reg tu.ifaces) r hr))
      · exact StepAll.refl _ _ _
    · exact StepAll.refl _ _ _
  | _ => exact StepAll.refl _ _ _

theorem compositeRest_step (v : Visitor) (reg : List (String × Addr)) (a : Addr) (h : Heap) (t : TypeO) :
    StepAll v reg h (compositeRest v reg a h t).1 :=
  ((mapFilter_step (onField_step v reg t.name) t.fields h).trans (fun chk _ => rebuiltOrSame_step chk _ a t _)).trans
    (compositeRest_after v reg a h t)

/-- `on_object` / `on_interface` never drop the type: they return the (possibly rebuilt) type object -/
theorem compositeRest_snd (v : Visitor) (reg : List (String × Addr)) (a : Addr) (h : Heap) (t : TypeO) :
    (compositeRest v reg a h t).2 =
      some (rebuiltOrSame (mapFilter (onField v reg t.name) h t.fields).1 a t (mapFilter (onField v reg t.name) h t.fields).2).2 := by
  simp only [compositeRest]
  cases v with
  | heal =>
    simp only
    split
    · split <;> rfl
    · rfl
  | _ => rfl

theorem compositeRest_attrs (v : Visitor) (reg : List (String × Addr)) (a : Addr) (h : Heap) (t : TypeO) (ht : h.readType a = some t) :
    ∀ a', (compositeRest v reg a h t).2 = some a' → ∃ t', (compositeRest v reg a h t).1.readType a' = some t' ∧ TAttr t t' := by
  obtain ⟨tu, hru, hau, _⟩ := rebuilt_read (fun h a => onField_step v reg t.name h a chkT (compat_true v reg)) h a t ht
  intro a' e
  rw [compositeRest_snd] at e
  cases e
  obtain ⟨t', ht', hat'⟩ := readType_keep_attrs (compositeRest_after v reg a h t chkT (compat_true v reg)) _ tu hru
  exact ⟨t', ht', hau.trans hat'⟩

theorem compositeRest_est (v : Visitor) (reg : List (String × Addr)) (chk0 : Ref → Bool) (hc : Compat v reg chk0) (a : Addr) (h : Heap) (t : TypeO)
    (ht : h.readType a = some t) (hk : t.kind = Kind.object ∨ t.kind = Kind.interface) (hrefs : (typeRefs t).all chk0 = true)
    (hfields : ∀ c, c ∈ t.fields → fieldShape chk0 h c = true) :
    ∀ a', (compositeRest v reg a h t).2 = some a' → typeShape (outChk v reg chk0) (compositeRest v reg a h t).1 a' = true := by
  obtain ⟨tu, hru, hau, hrefu, hsub⟩ := rebuilt_read (fun h a => onField_step v reg t.name h a chk0 hc) h a t ht
  have hmem : ∀ c, c ∈ tu.fields → fieldShape (outChk v reg chk0) (rebuiltOrSame (mapFilter (onField v reg t.name) h t.fields).1 a t
      (mapFilter (onField v reg t.name) h t.fields).2).1 c = true :=
    fun c hcm => fieldShape_keep (rebuiltOrSame_step _ _ a t _) c
      (mapFilter_est (S := fieldShape) (fun chk h h' a st hs => fieldShape_keep st a hs) hc (onField_step v reg t.name)
        (fun h a hs => onField_est v reg t.name chk0 hc h a hs) t.fields h hfields c (hsub.subset hcm))
  have hku : tu.kind = Kind.object ∨ tu.kind = Kind.interface := by rw [hau.1]; exact hk
  have hmo : ∀ {chk : Ref → Bool} {h' : Heap} {t' : TypeO}, t'.kind = tu.kind → (∀ c, c ∈ t'.fields → fieldShape chk h' c = true) →
      typeMembersOK chk h' t' = true :=
    fun hk' hf => (typeMembersOK_iff _ _ _).mpr ⟨fun k => by rw [hk'] at k; rcases hku with h1 | h1 <;> simp [h1] at k, fun _ => hf⟩
  intro a' e
  simp only [compositeRest] at e ⊢
  cases v with
  | heal =>
    simp only at e ⊢
    split at e
    · -- an object type: `updated.interfaces = …` re-points its interfaces
      rename_i hobj
      simp only [hobj, if_true, hru] at e ⊢
      cases e
      have hw := write_type_ifaces (refOK reg) _ _ tu (healedRefs reg tu.ifaces) hru (healedRefs_ok reg tu.ifaces)
      have hkobj : tu.kind = Kind.object := by rw [hau.1]; simpa using hobj
      refine (typeShape_iff _ _ _).mpr ⟨_, readType_write_self _ _ _ (readType_lt' hru), ?_, hmo rfl fun c hcm => fieldShape_keep hw c (hmem c hcm)⟩
      simp only [typeRefs, hkobj, outChk]
      exact healedRefs_ok reg tu.ifaces
    · -- an interface type holds no references of its own
      rename_i hobj
      simp only [hobj, Bool.false_eq_true, if_false] at e ⊢
      cases e
      have hkif : tu.kind = Kind.interface := by
        rcases hku with h1 | h1
        · rw [← hau.1, h1] at hobj; simp at hobj
        · exact h1
      exact (typeShape_iff _ _ _).mpr ⟨tu, hru, by simp [typeRefs, hkif], hmo rfl hmem⟩
  | _ =>
    cases e
    exact (typeShape_iff _ _ _).mpr ⟨tu, hru, hrefu hrefs, hmo rfl hmem⟩

/-- `on_object` / `on_interface`: the type is dropped (visibility), or the base hook runs on the type object, whose member list the
    visibility transform may have filtered IN PLACE before: `h1` is the heap, `kept` the member list the base hook starts from -/
theorem onComposite_pre (v : Visitor) (reg : List (String × Addr)) (h : Heap) (a : Addr) (t : TypeO) (ht : h.readType a = some t) :
    onComposite v reg h a t = (h, none) ∨ ∃ h1 kept, List.Sublist kept t.fields ∧ h1.readType a = some { t with fields := kept } ∧
      (∀ chk, StepImp chk h h1) ∧ onComposite v reg h a t = compositeRest v reg a h1 { t with fields := kept } := by
  rcases onComposite_cases v reg h a t with ⟨_, _, e⟩ | e | ⟨keep, e⟩
  · exact Or.inl e
  · exact Or.inr ⟨h, t.fields, .refl _, ht, fun chk => .refl chk h, e⟩
  · exact Or.inr ⟨_, _, List.filter_sublist, readType_write_self h a _ (readType_lt' ht),
      fun chk => write_type_fields chk h a t _ ht List.filter_sublist, e⟩

theorem onComposite_step (v : Visitor) (reg : List (String × Addr)) (h : Heap) (a : Addr) (t : TypeO) (ht : h.readType a = some t) :
    StepAll v reg h (onComposite v reg h a t).1 := by
  rcases onComposite_pre v reg h a t ht with e | ⟨h1, kept, _, _, st, e⟩ <;> rw [e]
  · exact StepAll.refl v reg h
  · exact fun chk hc => (st chk).trans (compositeRest_step v reg a h1 _ chk hc)

theorem onComposite_attrs (v : Visitor) (reg : List (String × Addr)) (h : Heap) (a : Addr) (t : TypeO) (ht : h.readType a = some t) :
    ∀ a', (onComposite v reg h a t).2 = some a' → ∃ t', (onComposite v reg h a t).1.readType a' = some t' ∧ TAttr t t' := by
  rcases onComposite_pre v reg h a t ht with e | ⟨h1, kept, _, ht1, _, e⟩ <;> rw [e]
  · exact fun a' e' => nomatch e'
  · exact compositeRest_attrs v reg a h1 _ ht1

theorem onComposite_est (v : Visitor) (reg : List (String × Addr)) (chk0 : Ref → Bool) (hc : Compat v reg chk0) (h : Heap) (a : Addr) (t : TypeO)
    (ht : h.readType a = some t) (hk : t.kind = Kind.object ∨ t.kind = Kind.interface) (hrefs : (typeRefs t).all chk0 = true)
    (hm : typeMembersOK chk0 h t = true) :
    ∀ a', (onComposite v reg h a t).2 = some a' → typeShape (outChk v reg chk0) (onComposite v reg h a t).1 a' = true := by
  rcases onComposite_pre v reg h a t ht with e | ⟨h1, kept, hsub, ht1, st, e⟩ <;> rw [e]
  · exact fun a' e' => nomatch e'
  · exact compositeRest_est v reg chk0 hc a h1 _ ht1 hk (by rw [typeRefs_fields]; exact hrefs)
      (fun c hcm => fieldShape_keep (st chk0) c (((typeMembersOK_iff _ _ _).mp hm).2 hk c (hsub.subset hcm)))

/-- `on_input_object` returns the (possibly rebuilt) type object, unless the visibility transform drops it -/
theorem inputRest_sub (v : Visitor) (reg : List (String × Addr)) (a : Addr) (nm : String) (h : Heap) (t : TypeO) :
    (inputRest v reg a nm h t).1 = (rebuiltOrSame (mapFilter (onInputField v reg) h t.fields).1 a t (mapFilter (onInputField v reg) h t.fields).2).1 ∧
    ∀ a', (inputRest v reg a nm h t).2 = some a' →
      a' = (rebuiltOrSame (mapFilter (onInputField v reg) h t.fields).1 a t (mapFilter (onInputField v reg) h t.fields).2).2 := by
  simp only [inputRest]
  cases v with
  | vis p =>
    simp only
    split
    · exact ⟨rfl, fun _ e => (Option.some.inj e).symm⟩
    · exact ⟨rfl, fun _ e => nomatch e⟩
  | _ => exact ⟨rfl, fun _ e => (Option.some.inj e).symm⟩

theorem inputRest_step (v : Visitor) (reg : List (String × Addr)) (a : Addr) (nm : String) (h : Heap) (t : TypeO) :
    StepAll v reg h (inputRest v reg a nm h t).1 := by
  rw [(inputRest_sub v reg a nm h t).1]
  exact (mapFilter_step (onInputField_step v reg) t.fields h).trans (fun chk _ => rebuiltOrSame_step chk _ a t _)

theorem inputRest_attrs (v : Visitor) (reg : List (String × Addr)) (a : Addr) (nm : String) (h : Heap) (t : TypeO) (ht : h.readType a = some t) :
    ∀ a', (inputRest v reg a nm h t).2 = some a' → ∃ t', (inputRest v reg a nm h t).1.readType a' = some t' ∧ TAttr t t' := by
  intro a' e
  obtain ⟨tu, hru, hau, _⟩ := rebuilt_read (fun h a => onInputField_step v reg h a chkT (compat_true v reg)) h a t ht
  rw [(inputRest_sub v reg a nm h t).1, (inputRest_sub v reg a nm h t).2 a' e]
  exact ⟨tu, hru, hau⟩

theorem inputRest_est (v : Visitor) (reg : List (String × Addr)) (chk0 : Ref → Bool) (hc : Compat v reg chk0) (a : Addr) (nm : String) (h : Heap) (t : TypeO)
    (ht : h.readType a = some t) (hk : t.kind = Kind.input) (hfields : ∀ c, c ∈ t.fields → argShape chk0 h c = true) :
    ∀ a', (inputRest v reg a nm h t).2 = some a' → typeShape (outChk v reg chk0) (inputRest v reg a nm h t).1 a' = true := by
  intro a' e
  obtain ⟨tu, hru, hau, _, hsub⟩ := rebuilt_read (fun h a => onInputField_step v reg h a chk0 hc) h a t ht
  have hki : tu.kind = Kind.input := by rw [hau.1]; exact hk
  rw [(inputRest_sub v reg a nm h t).1, (inputRest_sub v reg a nm h t).2 a' e]
  refine (typeShape_iff _ _ _).mpr ⟨tu, hru, by simp [typeRefs, hki], (typeMembersOK_iff _ _ _).mpr ⟨fun _ c hcm => ?_, fun k => by simp [hki] at k⟩⟩
  exact argShape_keep (rebuiltOrSame_step _ _ a t _) c
    (mapFilter_est (S := argShape) (fun chk h h' a st hs => argShape_keep st a hs) hc (onInputField_step v reg)
      (fun h a hs => onInputField_est v reg chk0 h a hs) t.fields h hfields c (hsub.subset hcm))

/-- `on_input_object`: the base hook runs on the type object, whose member list the visibility transform may have filtered
    IN PLACE before -/
theorem onInputObject_pre (v : Visitor) (reg : List (String × Addr)) (h : Heap) (a : Addr) (t : TypeO) (ht : h.readType a = some t) :
    ∃ h1 kept, List.Sublist kept t.fields ∧ h1.readType a = some { t with fields := kept } ∧
      (∀ chk, StepImp chk h h1) ∧ onInputObject v reg h a t = inputRest v reg a t.name h1 { t with fields := kept } := by
  rcases onInputObject_cases v reg h a t with e | ⟨keep, e⟩
  · exact ⟨h, t.fields, .refl _, ht, fun chk => .refl chk h, e⟩
  · exact ⟨_, _, List.filter_sublist, readType_write_self h a _ (readType_lt' ht),
      fun chk => write_type_fields chk h a t _ ht List.filter_sublist, e⟩

theorem onInputObject_step (v : Visitor) (reg : List (String × Addr)) (h : Heap) (a : Addr) (t : TypeO) (ht : h.readType a = some t) :
    StepAll v reg h (onInputObject v reg h a t).1 := by
  obtain ⟨h1, kept, _, _, st, e⟩ := onInputObject_pre v reg h a t ht
  rw [e]
  exact fun chk hc => (st chk).trans (inputRest_step v reg a _ h1 _ chk hc)

theorem onInputObject_attrs (v : Visitor) (reg : List (String × Addr)) (h : Heap) (a : Addr) (t : TypeO) (ht : h.readType a = some t) :
    ∀ a', (onInputObject v reg h a t).2 = some a' → ∃ t', (onInputObject v reg h a t).1.readType a' = some t' ∧ TAttr t t' := by
  obtain ⟨h1, kept, _, ht1, _, e⟩ := onInputObject_pre v reg h a t ht
  rw [e]
  exact inputRest_attrs v reg a _ h1 _ ht1

theorem onInputObject_est (v : Visitor) (reg : List (String × Addr)) (chk0 : Ref → Bool) (hc : Compat v reg chk0) (h : Heap) (a : Addr) (t : TypeO)
    (ht : h.readType a = some t) (hk : t.kind = Kind.input) (hm : typeMembersOK chk0 h t = true) :
    ∀ a', (onInputObject v reg h a t).2 = some a' → typeShape (outChk v reg chk0) (onInputObject v reg h a t).1 a' = true := by
  obtain ⟨h1, kept, hsub, ht1, st, e⟩ := onInputObject_pre v reg h a t ht
  rw [e]
  exact inputRest_est v reg chk0 hc a _ h1 _ ht1 hk
    (fun c hcm => argShape_keep (st chk0) c (((typeMembersOK_iff _ _ _).mp hm).1 hk c (hsub.subset hcm)))

theorem onType_step (v : Visitor) (reg : List (String × Addr)) (h : Heap) (a : Addr) : StepAll v reg h (onType v reg h a).1 := by
  cases ht : h.readType a with
  | none => rw [onType_none v reg ht]; exact StepAll.refl v reg h
  | some t =>
    rcases onType_cases v reg ht with ⟨_, e⟩ | ⟨_, e⟩ | ⟨_, ⟨_, _, e⟩ | ⟨_, e⟩ | ⟨rfl, _, e⟩⟩ <;> rw [e]
    · exact onComposite_step v reg h a t ht
    · exact onInputObject_step v reg h a t ht
    · exact StepAll.refl v reg h
    · exact StepAll.refl v reg h
    · intro chk hc
      exact write_type_members chk h a t _ ht (by
        simp only [List.all_eq_true]
        intro r hr
        exact hc r (List.all_eq_true.mp (healedRefs_ok reg t.members) r hr))

theorem onType_attrs (v : Visitor) (reg : List (String × Addr)) (h : Heap) (a : Addr) (t : TypeO) (ht : h.readType a = some t) :
    ∀ a', (onType v reg h a).2 = some a' → ∃ t', (onType v reg h a).1.readType a' = some t' ∧ TAttr t t' := by
  rcases onType_cases v reg ht with ⟨_, e⟩ | ⟨_, e⟩ | ⟨_, ⟨_, _, e⟩ | ⟨_, e⟩ | ⟨_, _, e⟩⟩ <;> rw [e]
  · exact onComposite_attrs v reg h a t ht
  · exact onInputObject_attrs v reg h a t ht
  · exact fun a' e' => nomatch e'
  · exact fun a' e' => by cases e'; exact ⟨t, ht, TAttr.refl t⟩
  · intro a' e'
    cases e'
    exact ⟨_, readType_write_self h a _ (readType_lt' ht), ⟨rfl, rfl, rfl, rfl, rfl, rfl, rfl, rfl⟩⟩

theorem onType_est (v : Visitor) (reg : List (String × Addr)) (chk0 : Ref → Bool) (hc : Compat v reg chk0) (h : Heap) (a : Addr)
    (hs : typeShape chk0 h a = true) :
    ∀ a', (onType v reg h a).2 = some a' → typeShape (outChk v reg chk0) (onType v reg h a).1 a' = true := by
  obtain ⟨t, ht, hrefs, hm⟩ := (typeShape_iff chk0 h a).mp hs
  -- a type without members has no member shape to establish: only its own references count
  have noMembers : t.kind = Kind.union ∨ t.kind = Kind.scalar ∨ t.kind = Kind.enum → ∀ (chk : Ref → Bool) (h' : Heap) (t' : TypeO),
      t'.kind = t.kind → typeMembersOK chk h' t' = true := by
    intro hk chk h' t' hk'
    simp only [typeMembersOK, hk']
    rcases hk with hk | hk | hk <;> simp only [hk]
  rcases onType_cases v reg ht with ⟨hk, e⟩ | ⟨hk, e⟩ | ⟨hk, ⟨_, _, e⟩ | ⟨hv, e⟩ | ⟨rfl, hku, e⟩⟩ <;> rw [e]
  · exact onComposite_est v reg chk0 hc h a t ht hk hrefs hm
  · exact onInputObject_est v reg chk0 hc h a t ht hk hm
  · exact fun a' e' => nomatch e'
  · -- returned as it is: a scalar / enum type has no references, and a union is only returned so by a visitor other than heal
    intro a' e'
    cases e'
    refine (typeShape_iff _ _ _).mpr ⟨t, ht, ?_, noMembers hk _ _ t rfl⟩
    by_cases hh : v = .heal
    · have hnu := hv hh
      have : typeRefs t = [] := by rcases hk with hk | hk | hk <;> simp [typeRefs, hk] at hnu ⊢
      rw [this]; rfl
    · rw [outChk_of_ne hh]; exact hrefs
  · intro a' e'
    cases e'
    refine (typeShape_iff _ _ _).mpr ⟨_, readType_write_self h a _ (readType_lt' ht), ?_, noMembers hk _ _ _ rfl⟩
    simp only [typeRefs, hku, outChk]
    exact healedRefs_ok reg t.members

theorem onDirective_step (v : Visitor) (reg : List (String × Addr)) (h : Heap) (a : Addr) : StepAll v reg h (onDirective v reg h a).1 := by
  cases hd : h.readDir a with
  | none => rw [onDirective_none v reg hd]; exact StepAll.refl v reg h
  | some d =>
    rcases onDirective_cases v reg hd with ⟨_, e⟩ | ⟨_, _, e⟩ | ⟨_, _, e⟩ <;> rw [e]
    · exact StepAll.refl v reg h
    · exact (mapFilter_step (onArgument_step v reg) d.args h).trans (stepAll_alloc v reg _ _)
    · exact mapFilter_step (onArgument_step v reg) d.args h

theorem onDirective_est (v : Visitor) (reg : List (String × Addr)) (chk0 : Ref → Bool) (hc : Compat v reg chk0) (h : Heap) (a : Addr)
    (hs : dirShape chk0 h a = true) : ∀ a', (onDirective v reg h a).2 = some a' →
      dirShape (outChk v reg chk0) (onDirective v reg h a).1 a' = true := by
  obtain ⟨d, hd, hargs⟩ := (dirShape_iff chk0 h a).mp hs
  have hest := mapFilter_est (S := argShape) (fun chk h h' a st hs => argShape_keep st a hs) hc (onArgument_step v reg)
    (fun h a hs => onArgument_est v reg chk0 h a hs) d.args h hargs
  rcases onDirective_cases v reg hd with ⟨_, e⟩ | ⟨_, _, e⟩ | ⟨_, hb, e⟩ <;> rw [e] <;> intro a' e' <;> cases e'
  · exact (dirShape_iff _ _ _).mpr ⟨_, readDir_alloc_new _ _, fun c hcm => argShape_keep (step_alloc _ _ _) c (hest c hcm)⟩
  · obtain ⟨d', hd', hk⟩ := (mapFilter_step (onArgument_step v reg) d.args h _ (compat_out v reg chk0 hc)).readDir hd
    exact (dirShape_iff _ _ _).mpr ⟨d', hd', fun c hcm => hest c (by rw [hb]; exact hk.subset hcm)⟩

/-- What the loop does, for any relation `R` between heaps that every hook call respects when started on an entry satisfying `Pre`
    (a property `R` keeps): each non-protected entry is visited in some intermediate heap `h1`, and is either returned as it is or
    reported with what the hook returned; nothing else is reported. -/
theorem visitTypes_out (v : Visitor) (reg : List (String × Addr)) {R : Heap → Heap → Prop} {Pre : Heap → String × Addr → Prop}
    (refl : ∀ h, R h h) (trans : ∀ h1 h2 h3, R h1 h2 → R h2 h3 → R h1 h3)
    (keep : ∀ h h' e, R h h' → Pre h e → Pre h' e) (step : ∀ h e, Pre h e → R h (onType v reg h e.2).1) :
    ∀ (l : List (String × Addr)) (h : Heap), (∀ e, e ∈ l → isProtected e.1 = false → Pre h e) →
      R h (visitTypes v reg h l).1 ∧
      (∀ e, e ∈ l → isProtected e.1 = false → ∃ h1, Pre h1 e ∧ R h h1 ∧ R (onType v reg h1 e.2).1 (visitTypes v reg h l).1 ∧
        ((onType v reg h1 e.2).2 = some e.2 ∨ (e.1, (onType v reg h1 e.2).2) ∈ (visitTypes v reg h l).2)) ∧
      (∀ x, x ∈ (visitTypes v reg h l).2 → ∃ e h1, e ∈ l ∧ isProtected e.1 = false ∧ Pre h1 e ∧ R h h1 ∧
        R (onType v reg h1 e.2).1 (visitTypes v reg h l).1 ∧ x = (e.1, (onType v reg h1 e.2).2) ∧ (onType v reg h1 e.2).2 ≠ some e.2) :=
  visit_out (visitTypes_loop v reg) (visitTypes_one v reg) refl trans keep step

/-- the same for the loop over the directives, where no entry is passed over -/
theorem visitDirs_out (v : Visitor) (reg : List (String × Addr)) {R : Heap → Heap → Prop} {Pre : Heap → String × Addr → Prop}
    (refl : ∀ h, R h h) (trans : ∀ h1 h2 h3, R h1 h2 → R h2 h3 → R h1 h3)
    (keep : ∀ h h' e, R h h' → Pre h e → Pre h' e) (step : ∀ h e, Pre h e → R h (onDirective v reg h e.2).1)
    (l : List (String × Addr)) (h : Heap) (hin : ∀ e, e ∈ l → Pre h e) :
      R h (visitDirs v reg h l).1 ∧
      (∀ e, e ∈ l → ∃ h1, Pre h1 e ∧ R h h1 ∧ R (onDirective v reg h1 e.2).1 (visitDirs v reg h l).1 ∧
        ((onDirective v reg h1 e.2).2 = some e.2 ∨ (e.1, (onDirective v reg h1 e.2).2) ∈ (visitDirs v reg h l).2)) ∧
      (∀ x, x ∈ (visitDirs v reg h l).2 → ∃ e h1, e ∈ l ∧ Pre h1 e ∧ R h h1 ∧
        R (onDirective v reg h1 e.2).1 (visitDirs v reg h l).1 ∧ x = (e.1, (onDirective v reg h1 e.2).2) ∧
        (onDirective v reg h1 e.2).2 ≠ some e.2) := by
  obtain ⟨r, f1, f2⟩ := visit_out (visitDirs_loop v reg) (skip := fun _ => false) (fun h e => (visitDirs_one v reg h e).trans (if_neg nofun).symm)
    refl trans keep step l h fun e he _ => hin e he
  exact ⟨r, fun e he => f1 e he rfl, fun x hx => let ⟨e, h1, he, _, k⟩ := f2 x hx; ⟨e, h1, he, k⟩⟩

theorem visitTypes_step (v : Visitor) (reg : List (String × Addr)) (l : List (String × Addr)) (h : Heap) :
    StepAll v reg h (visitTypes v reg h l).1 :=
  (visitTypes_out v reg (R := StepAll v reg) (Pre := fun _ _ => True) (StepAll.refl v reg) (fun _ _ _ => StepAll.trans)
    (fun _ _ _ _ _ => trivial) (fun h e _ => onType_step v reg h e.2) l h (fun _ _ _ => trivial)).1

theorem visitTypes_reported (v : Visitor) (reg : List (String × Addr)) (l : List (String × Addr)) (h : Heap) :
    ∀ x, x ∈ (visitTypes v reg h l).2 → ∃ e h1, e ∈ l ∧ isProtected e.1 = false ∧ x = (e.1, (onType v reg h1 e.2).2) := by
  intro x hx
  obtain ⟨e, h1, he, hq, _, _, _, hxe, _⟩ := (visitTypes_out v reg (R := fun _ _ => True) (Pre := fun _ _ => True) (fun _ => trivial)
    (fun _ _ _ _ _ => trivial) (fun _ _ _ _ _ => trivial) (fun _ _ _ => trivial) l h (fun _ _ _ => trivial)).2.2 x hx
  exact ⟨e, h1, he, hq, hxe⟩

end PyGql.Heap.Own
