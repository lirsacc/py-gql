/-
  The memoised rule (`Validate/ChainMemo.lean: overlapMemoRun`) as a counting loop over the typed nodes, and its reports
  are genuine (`withinM_sound`: the search of `Lemmas/ValidateOverlapSearch.lean` with the memo on).
-/
import PyGqlModel.Validate.ChainMemo
import PyGqlModel.Lemmas.ValidateOverlapSearch
namespace PyGql.Validate
open PyGql PyGql.Validate.Spec

/-- the memoised search at one node of the typed enumeration -/
def memoStep (s : SchemaD) (fx : Fixes) (fuel : Nat) (q : Node × View) (c : OCtx) : Nat × OCtx :=
  match q.1 with
  | .selectionSet i sels => withinSelectionSetM s fx fuel q.2.parent i sels c
  | _ => (0, c)

theorem overlapMemoRun_eq (s : SchemaD) (fx : Fixes) (d : Doc) :
    overlapMemoRun s fx d = sumLoop (typedNodes s d) (memoStep s fx (memoFuel d)) ({ frags := fragTable d } : OCtx) := by
  unfold overlapMemoRun sumLoop
  congr 1
  funext acc q
  obtain ⟨n, v⟩ := q
  cases n with
  | selectionSet i sels => rfl
  | _ => exact (ite_self _).symm

end PyGql.Validate
