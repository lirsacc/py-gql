/-
  Arguments and directives: the printed form lexes to the canonical yield (one layer above values).
-/
import PyGqlModel.Lemmas.PrintTokens
namespace PyGql.PrintTokens
open PyGql PyGql.Ast PyGql.Parse PyGql.Spec PyGql.Print PyGql.PrintLex PyGql.PrintMatch PyGql.PrintString

theorem lexesTo_atSign {r cs} (h : LexesTo r cs) : LexesTo (64 :: r) ((.atSign, []) :: cs) :=
  lexesTo_punct (by decide +kernel) h
theorem lexesTo_parenL {r cs} (h : LexesTo r cs) : LexesTo (40 :: r) ((.parenL, []) :: cs) :=
  lexesTo_punct (by decide +kernel) h
theorem lexesTo_parenR {r cs} (h : LexesTo r cs) : LexesTo (41 :: r) ((.parenR, []) :: cs) :=
  lexesTo_punct (by decide +kernel) h

def lexOkArgument (ind : Text) (a : Argument) : Prop :=
  Spec.Lexical.isName a.name.value = true ∧ lexOkValue ind a.value
def lexOkArguments (ind : Text) : List Argument → Prop
  | [] => True
  | a :: as => lexOkArgument ind a ∧ lexOkArguments ind as
def lexOkDirective (ind : Text) (d : Directive) : Prop :=
  Spec.Lexical.isName d.name.value = true ∧ lexOkArguments ind d.arguments
def lexOkDirectives (ind : Text) : List Directive → Prop
  | [] => True
  | d :: ds => lexOkDirective ind d ∧ lexOkDirectives ind ds

theorem lexesTo_argument (c : Cfg) (a : Argument) (h : lexOkArgument c.indent a) (r : Text) (cs : List TokClass)
    (hr : Safe r) (hl : LexesTo r cs) : LexesTo (printArgument c a ++ r) ((argumentV a).yield ++ cs) := by
  have h1 := lexesTo_value c a.value h.2 r cs hr hl
  have h2 := lexesTo_name h.1 (safe_cons (c := 58) (by decide +kernel)) (lexesTo_colon (lexesTo_space h1))
  simpa [printArgument, argumentV, nameV, Item.yield, Item.yieldAll] using h2

theorem lexesTo_argumentList (c : Cfg) : ∀ (as : List Argument), lexOkArguments c.indent as →
    ∀ (r : Text) (cs : List TokClass), Safe r → LexesTo r cs →
    LexesTo (joinSep [44, 32] (as.map (printArgument c)) ++ r) (Item.yieldAll (as.map argumentV) ++ cs)
  | [], _, r, cs, _, hl => by simpa [joinSep, Item.yieldAll] using hl
  | [a], h, r, cs, hr, hl => by
    simpa [joinSep, Item.yieldAll] using lexesTo_argument c a h.1 r cs hr hl
  | a :: a' :: as, h, r, cs, hr, hl => by
    have ih := lexesTo_argumentList c (a' :: as) h.2 r cs hr hl
    have h1 := lexesTo_argument c a h.1 _ _ (safe_cons (c := 44) (by decide +kernel)) (lexesTo_comma (lexesTo_space ih))
    simpa [joinSep, Item.yieldAll] using h1

theorem printArgument_ne (c : Cfg) (a : Argument) : printArgument c a ≠ [] := by
  simp [printArgument]

theorem lexesTo_arguments (c : Cfg) (as : List Argument) (h : lexOkArguments c.indent as) (r : Text)
    (cs : List TokClass) (hr : Safe r) (hl : LexesTo r cs) :
    LexesTo (printArguments c as ++ r) (Item.yieldAll (argumentsV as) ++ cs) := by
  cases as with
  | nil => simpa [printArguments, join, joinSep, wrap, argumentsV, groupV, Item.yieldAll] using hl
  | cons a as =>
    have h1 := lexesTo_argumentList c (a :: as) h (41 :: r) ((.parenR, []) :: cs) (safe_cons (by decide +kernel)) (lexesTo_parenR hl)
    have h2 := lexesTo_parenL h1
    rw [printArguments, wrap_join_map _ [40] [41] _ (fun x _ => printArgument_ne c x)]
    simpa [argumentsV, groupV, Item.yieldAll, yieldAll_append, Item.yield] using h2

theorem lexesTo_directive (c : Cfg) (d : Directive) (h : lexOkDirective c.indent d) (r : Text)
    (cs : List TokClass) (hr : Safe r) (hl : LexesTo r cs) :
    LexesTo (printDirective c d ++ r) ((directiveV d).yield ++ cs) := by
  have h1 := lexesTo_arguments c d.arguments h.2 r cs hr hl
  have hs : Safe (printArguments c d.arguments ++ r) := by
    rw [printArguments, wrap_join_map _ [40] [41] _ (fun x _ => printArgument_ne c x)]
    cases d.arguments with
    | nil => exact hr
    | cons a as => exact safe_cons (by decide +kernel)
  have h2 := lexesTo_atSign (lexesTo_name h.1 hs h1)
  simpa [printDirective, directiveV, nameV, Item.yield, Item.yieldAll, yieldAll_append] using h2

theorem printDirective_ne (c : Cfg) (d : Directive) : printDirective c d ≠ [] := by
  simp [printDirective]

theorem lexesTo_directiveList (c : Cfg) : ∀ (ds : List Directive), lexOkDirectives c.indent ds →
    ∀ (r : Text) (cs : List TokClass), Safe r → LexesTo r cs →
    LexesTo (joinSep [32] (ds.map (printDirective c)) ++ r) (Item.yieldAll (directivesV ds) ++ cs)
  | [], _, r, cs, _, hl => by simpa [joinSep, directivesV, Item.yieldAll] using hl
  | [d], h, r, cs, hr, hl => by
    simpa [joinSep, directivesV, Item.yieldAll] using lexesTo_directive c d h.1 r cs hr hl
  | d :: d' :: ds, h, r, cs, hr, hl => by
    have ih := lexesTo_directiveList c (d' :: ds) h.2 r cs hr hl
    have h1 := lexesTo_directive c d h.1 _ _ (safe_cons (c := 32) (by decide +kernel)) (lexesTo_space ih)
    simpa [joinSep, directivesV, Item.yieldAll] using h1

theorem lexesTo_directives (c : Cfg) (ds : List Directive) (h : lexOkDirectives c.indent ds) (r : Text)
    (cs : List TokClass) (hr : Safe r) (hl : LexesTo r cs) :
    LexesTo (printDirectives c ds ++ r) (Item.yieldAll (directivesV ds) ++ cs) := by
  rw [printDirectives, join_eq_joinSep _ _ (List.forall_mem_map.2 fun d _ => printDirective_ne c d)]
  exact lexesTo_directiveList c ds h r cs hr hl

end PyGql.PrintTokens
