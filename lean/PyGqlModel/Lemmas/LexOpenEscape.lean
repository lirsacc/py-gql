/-
  EXACTLY which texts make the lexer report a position beyond the end of the text (ledger L6, `len + 1`):
  the text ends INSIDE AN OPEN QUOTED STRING with a TRUNCATED ESCAPE SEQUENCE.

  `StrChars body`          `body` is a sequence of complete StringCharacters (recogniser only, no values)
  `TruncatedEscape tail`   `tail` is `\` or `\u` + at most three hex digits
  `readStringBody_open`    … then `_read_string` on `body ++ tail` raises NonTerminatedString at `len + 1`
  `readStringBody_errs`    and conversely: every error of `_read_string` is inside the text, or it is that one and the rest
                           has this shape; `next_error_cases`, `lexAll_error_cases` say the same of `__next__` and of the
                           whole text (`OpenEscape`)
-/
import PyGqlModel.Lemmas.LexRun
import PyGqlModel.Lemmas.LexUnicodePair
namespace PyGql.Spec.Lexical

/-- StringCharacter* as a recogniser: SourceCharacter but not `"` `\` LineTerminator | `\` EscapedCharacter |
    `\u` EscapedUnicode -/
inductive StrChars : Text → Prop
  | nil : StrChars []
  | char (c : Nat) (t : Text) : c ≠ 92 → c ≠ 34 → isLineTerm c = false → isSourceChar c = true → StrChars t →
      StrChars (c :: t)
  | esc (e : Nat) (t : Text) : (escapedCharacter e).isSome = true → StrChars t → StrChars (92 :: e :: t)
  | uni (a b c d : Nat) (t : Text) : (escapedUnicode a b c d).isSome = true → StrChars t →
      StrChars (92 :: 117 :: a :: b :: c :: d :: t)

/-- an escape sequence cut off by the end of the text: `\`, or `\u` followed by at most three hex digits -/
def TruncatedEscape (tail : Text) : Prop :=
  tail = [92] ∨ ∃ hs, tail = 92 :: 117 :: hs ∧ hs.length < 4 ∧ hs.all isHexDigit = true

theorem TruncatedEscape.length_lt {tail : Text} (h : TruncatedEscape tail) : tail.length < 6 := by
  rcases h with rfl | ⟨hs, rfl, hl, _⟩
  · decide
  · simp; omega

/-- `pre` consists of ignored runs and COMPLETE lexemes (each obeying its follow restriction), standing before `next`,
    the rest of the text, where the next token starts -/
inductive TiledBefore (next : Text) : Text → Prop
  | done (ign : Text) : IgnRun next ign → TiledBefore next ign
  | tok (ign lex rest : Text) (k : TokKind) (v : Text) : IgnRun (lex ++ rest ++ next) ign → Lexeme k lex v →
      Follow k lex (rest ++ next) → TiledBefore next rest → TiledBefore next (ign ++ (lex ++ rest))

/-- THE TEXT ENDS INSIDE AN OPEN QUOTED STRING WITH A TRUNCATED ESCAPE: complete tokens and ignored runs, then a quote
    (not the start of a block string: `body` cannot start with a quote and `tail` starts with a backslash), complete string
    characters, and an escape sequence cut off by the end of the text. -/
def OpenEscape (s : Text) : Prop :=
  ∃ pre body tail, s = pre ++ 34 :: (body ++ tail) ∧ TiledBefore (34 :: (body ++ tail)) pre ∧ StrChars body ∧
    TruncatedEscape tail

end PyGql.Spec.Lexical

namespace PyGql.Lex
open PyGql.Spec.Lexical

/-- the text ends with a truncated escape sequence: `\` or `\u` + 0..3 hex digits -/
def EndsInEscape (s : Text) : Prop :=
  ∃ pre hs, s = pre ++ 92 :: hs ∧ (hs = [] ∨ ∃ hs', hs = 117 :: hs' ∧ hs'.length < 4 ∧ hs'.all isHex = true)

theorem all_isHex_spec (hs : Text) : hs.all isHex = hs.all isHexDigit := by
  induction hs with
  | nil => rfl
  | cons c t ih => simp [List.all_cons, isHex_spec, ih]

theorem readStringBody_truncated (n : Nat) (tail : Text) (h : TruncatedEscape tail) :
    readStringBody n tail = .error ⟨.nonTerminatedString, n + 1⟩ := by
  rcases h with rfl | ⟨hs, rfl, hl, hh⟩
  · exact readStringBody_backslash_end n
  · rw [← all_isHex_spec] at hh
    rw [readStringBody_short n hs hl, shortUnicodeErr, if_pos hh]

theorem pairAt_some_shape (hi cp e1 e2 a b c d : Nat) (t : Text)
    (h : pairAt hi (e1 :: e2 :: a :: b :: c :: d :: t) = some cp) : e1 = 92 ∧ e2 = 117 ∧ (hex4 a b c d).isSome = true := by
  simp only [pairAt, pairEscape] at h
  split at h
  · rename_i hc
    simp only [Bool.and_eq_true, beq_iff_eq] at hc
    refine ⟨hc.1.2, hc.2, ?_⟩
    cases hx : hex4 a b c d with
    | none => rw [hx] at h; cases h
    | some v => rfl
  · cases h

theorem readStringBody_open (n : Nat) : ∀ (k : Nat) (body : Text), body.length ≤ k → StrChars body →
    ∀ tail, TruncatedEscape tail → readStringBody n (body ++ tail) = .error ⟨.nonTerminatedString, n + 1⟩
  | 0, body, hk, _, tail, ht => by
    have : body = [] := List.length_eq_zero_iff.mp (Nat.le_zero.mp hk)
    subst this
    exact readStringBody_truncated n tail ht
  | k + 1, body, hk, hb, tail, ht => by
    cases hb with
    | nil => exact readStringBody_truncated n tail ht
    | char c t h92 h34 hlt hsrc hbt =>
      have ih := readStringBody_open n k t (by simp at hk; omega) hbt tail ht
      have hp : isPrintable c = true := by rw [isPrintable_spec]; simp [hsrc, hlt]
      have hnl : ¬ (c = 10 ∨ c = 13) := by simp [isLineTerm] at hlt; omega
      rw [List.cons_append, readStringBody_char n _ h34 h92 hnl hp, ih]
      rfl
    | esc e t he hbt =>
      have ih := readStringBody_open n k t (by simp at hk; omega) hbt tail ht
      obtain ⟨u, hu⟩ := Option.isSome_iff_exists.mp he
      rw [← quoted_spec] at hu
      rw [List.cons_append, List.cons_append, readStringBody_escape n _ hu, ih]
      rfl
    | uni a b c d t hx hbt =>
      obtain ⟨ch, hch⟩ := Option.isSome_iff_exists.mp hx
      rw [← hex4_spec] at hch
      simp only [List.cons_append]
      cases hp : pairAt ch (t ++ tail) with
      | none =>
        have ih := readStringBody_open n k t (by simp at hk; omega) hbt tail ht
        rw [readStringBody_unicode_nopair n a b c d ch _ hch hp, ih]; rfl
      | some cp =>
        obtain ⟨e1, e2, a2, b2, c2, d2, t3, heq⟩ := pairAt_some_length ch cp _ hp
        rw [heq] at hp
        obtain ⟨h1, h2, _⟩ := pairAt_some_shape ch cp e1 e2 a2 b2 c2 d2 t3 hp
        have hrest : readStringBody n t3 = .error ⟨.nonTerminatedString, n + 1⟩ := by
          cases hbt with
          | nil =>
            simp only [List.nil_append] at heq
            have := ht.length_lt
            rw [heq] at this; simp at this; omega
          | char c' t' h92' _ _ _ _ =>
            simp only [List.cons_append, List.cons.injEq] at heq
            exact absurd (heq.1.trans h1) h92'
          | esc e' t' he' _ =>
            simp only [List.cons_append, List.cons.injEq] at heq
            have : e' = 117 := heq.2.1.trans h2
            subst this
            exact absurd he' (by decide)
          | uni a' b' c' d' t'' _ hbt'' =>
            simp only [List.cons_append, List.cons.injEq] at heq
            obtain ⟨_, _, _, _, _, _, rfl⟩ := heq
            exact readStringBody_open n k t'' (by simp at hk; omega) hbt'' tail ht
        rw [heq, readStringBody_unicode_pair n a b c d ch e1 e2 a2 b2 c2 d2 cp t3 hch hp, hrest]; rfl

theorem _root_.PyGql.Spec.Lexical.StrChars.append {a b : Text} (ha : StrChars a) (hb : StrChars b) :
    StrChars (a ++ b) := by
  induction ha with
  | nil => exact hb
  | char c t h1 h2 h3 h4 _ ih => exact .char c _ h1 h2 h3 h4 ih
  | esc e t he _ ih => exact .esc e _ he ih
  | uni a b c d t hx _ ih => exact .uni a b c d _ hx ih

/-- the one error reported beyond the end of the text: `NonTerminatedString` at `n + 1`, and the unread text `s` is
    complete string characters followed by a truncated escape -/
def Beyond (n : Nat) (s : Text) (e : SynErr) : Prop :=
  e = ⟨.nonTerminatedString, n + 1⟩ ∧ ∃ body tail, s = body ++ tail ∧ StrChars body ∧ TruncatedEscape tail

def ErrAt (n : Nat) (s : Text) (e : SynErr) : Prop := Inside n e ∨ Beyond n s e

theorem ErrAt.prepend {n : Nat} {p t : Text} {e : SynErr} (hp : StrChars p) (h : ErrAt n t e) : ErrAt n (p ++ t) e :=
  h.imp id fun ⟨he, body, tail, hs, hb, ht⟩ => ⟨he, p ++ body, tail, by rw [hs, List.append_assoc], hp.append hb, ht⟩

theorem shortUnicodeErr_at (n : Nat) (t1 : Text) (hl : t1.length < 4) :
    ErrAt n (92 :: 117 :: t1) (shortUnicodeErr n t1) := by
  unfold shortUnicodeErr
  split
  · rename_i hh
    rw [all_isHex_spec] at hh
    exact .inr ⟨rfl, [], _, rfl, .nil, .inr ⟨t1, rfl, hl, hh⟩⟩
  · exact .inl (inside_posAt_pred _ _ _)

/-- (⇒) every error of `_read_string`'s loop, with the shape of the text for the one beyond the end: each character or
    escape the loop has passed is a complete StringCharacter in front of the rest -/
theorem readStringBody_errs (n : Nat) (s : Text) : Errs (ErrAt n s) (readStringBody n s) := by
  -- a branch that goes on reading: what it has passed is a complete StringCharacter `p` in front of the rest
  have on : ∀ {p t : Text} {r : R (Text × Text)} (f : Text × Text → Text × Text), StrChars p → Errs (ErrAt n t) r →
      Errs (ErrAt n (p ++ t)) (r.map f) := fun f hp h => (h.mono fun _ he => he.prepend hp).map f
  revert s
  apply readStringBody_ind n (P := fun s r => Errs (ErrAt n s) r)
  case nil => exact .error (.inl (inside_end _ _))
  case quote => exact fun _ => .ok _
  case backslashEnd => exact .error (.inr ⟨rfl, [], [92], rfl, .nil, .inl rfl⟩)
  case escape =>
    intro e ch t1 hq ih
    rw [quoted_spec] at hq
    exact on (p := [92, e]) _ (.esc _ _ (by rw [hq]; rfl) .nil) ih
  case badEscape => exact fun _ _ _ _ => .error (.inl (inside_posAt_pred _ _ _))
  case short => exact fun t1 hl => .error (shortUnicodeErr_at n t1 hl)
  case badHex => exact fun _ _ _ _ _ _ => .error (.inl (inside_posAt_pred _ _ _))
  case unicode =>
    intro a b c d ch t2 hx _ ih
    rw [hex4_spec] at hx
    exact on (p := [92, 117, a, b, c, d]) _ (.uni _ _ _ _ _ (by rw [hx]; rfl) .nil) ih
  case pair =>
    intro a b c d ch e1 e2 a2 b2 c2 d2 cp t3 hx hp ih
    obtain ⟨rfl, rfl, hx2⟩ := pairAt_some_shape _ _ _ _ _ _ _ _ _ hp
    rw [hex4_spec] at hx hx2
    exact on (p := [92, 117, a, b, c, d, 92, 117, a2, b2, c2, d2]) _
      (.uni _ _ _ _ _ (by rw [hx]; rfl) (.uni _ _ _ _ _ hx2 .nil)) ih
  case lineTerm => exact fun _ _ _ => .error (.inl (inside_posAt_pred _ _ _))
  case unprintable => exact fun _ _ _ _ _ _ => .error (.inl (inside_posAt_pred _ _ _))
  case char =>
    intro c t h34 h92 _ hp ih
    rw [isPrintable_spec] at hp
    simp only [Bool.and_eq_true, Bool.not_eq_true'] at hp
    exact on (p := [c]) _ (.char c [] h92 h34 hp.2 hp.1 .nil) ih

theorem next_error_cases (n : Nat) (s : Text) (e : SynErr) (h : next n s = .error e) :
    Inside n e ∨ (e = ⟨.nonTerminatedString, n + 1⟩ ∧ ∃ ign body tail, s = ign ++ 34 :: (body ++ tail) ∧
      IgnRun (34 :: (body ++ tail)) ign ∧ StrChars body ∧ TruncatedEscape tail) := by
  obtain ⟨ign, hs, hrun, _⟩ := readOverWhitespace_sound false s
  have hrun := hrun rfl
  refine next_errs (Q := fun e => Inside n e ∨ (e = ⟨.nonTerminatedString, n + 1⟩ ∧ ∃ ign body tail,
    s = ign ++ 34 :: (body ++ tail) ∧ IgnRun (34 :: (body ++ tail)) ign ∧ StrChars body ∧ TruncatedEscape tail))
    (fun e hi => .inl hi) (fun t hw e he => ?_) e h
  rw [hw] at hs hrun
  unfold readString at he
  split at he
  · rename_i e' hb
    cases he
    rcases readStringBody_errs n t _ hb with hi | ⟨he', body, tail, rfl, hbd, htl⟩
    · exact .inl hi
    · exact .inr ⟨he', ign, body, tail, hs, hrun, hbd, htl⟩
  · cases he

theorem next_bounded (n : Nat) (s : Text) : Errs (ErrOK n) (next n s) := fun e h =>
  match next_error_cases n s e h with
  | .inl hi => hi.errOK
  | .inr ⟨he, _⟩ => he ▸ errOK_eof n

theorem Run.error_cases {n : Nat} {s : Text} {toks : List Tok} {r : Option SynErr} (h : Run n s toks r) {e : SynErr}
    (hr : r = some e) : Inside n e ∨ (e = ⟨.nonTerminatedString, n + 1⟩ ∧ OpenEscape s) := by
  induction h with
  | eof _ => cases hr
  | err hn =>
    cases hr
    refine (next_error_cases n _ e hn).imp id fun ⟨he, ign, body, tail, hs, hrun, hb, ht⟩ => ⟨he, ?_⟩
    exact ⟨ign, body, tail, hs, .done ign hrun, hb, ht⟩
  | @tok s rest tok toks r hn _ ih =>
    refine (ih hr).imp id fun ⟨he, pre, body, tail, hs, hpre, hb, ht⟩ => ⟨he, ?_⟩
    obtain ⟨ign, lex, hs', hrun, hl, hfo, _⟩ := next_sound n s rest tok hn
    subst hs
    refine ⟨ign ++ (lex ++ pre), body, tail, by rw [hs']; simp, ?_, hb, ht⟩
    exact .tok ign lex pre tok.kind tok.value (by rw [List.append_assoc]; exact hrun) hl hfo hpre

/-- every error of `lexAll`: inside the text, or `NonTerminatedString` one past its end on a text that ends inside an open
    quoted string with a truncated escape -/
theorem lexAll_error_cases (s : Text) (e : SynErr) (h : lexAll s = .error e) :
    Inside s.length e ∨ (e = ⟨.nonTerminatedString, s.length + 1⟩ ∧ OpenEscape s) :=
  have ⟨_, hr⟩ := lexAll_error_run h
  hr.error_cases rfl

theorem endsInEscape_of_open {s : Text} (h : OpenEscape s) : EndsInEscape s := by
  obtain ⟨pre, body, tail, rfl, _, _, ht⟩ := h
  rcases ht with rfl | ⟨hs, rfl, hl, hh⟩
  · exact ⟨pre ++ 34 :: body, [], by simp, .inl rfl⟩
  · exact ⟨pre ++ 34 :: body, 117 :: hs, by simp, .inr ⟨hs, rfl, hl, by rw [all_isHex_spec]; exact hh⟩⟩

end PyGql.Lex
