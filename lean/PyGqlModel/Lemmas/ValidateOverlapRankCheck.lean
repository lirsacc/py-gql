/-
  `OverlappingFieldsCanBeMergedChecker`: FUEL SUFFICIENCY: the computable rank check is sound
  (`rankOkB s d ρ = true → RankOk s d ρ`). The check collects the fields of every selection set under NO parent
  type; which fields have sub-selections, and which, does not depend on the parent type.
-/
import PyGqlModel.Lemmas.ValidateOverlapFuel
import PyGqlModel.Lemmas.ValidateOverlapPost
namespace PyGql.Validate
open PyGql PyGql.Validate.Spec

/-- the same field collected under another parent type -/
theorem collD_reparent {s : SchemaD} {p : Option String} {sels : List Sel} {rn : String} {e : FEntry}
    (h : CollD s p sels rn e) : ∀ p', ∃ e', CollD s p' sels rn e' ∧ e'.hasSub = e.hasSub ∧ e'.ssid = e.ssid := by
  induction h with
  | @field parent sels alias name args dirs hasSub ssid sub hm =>
    intro p'
    exact ⟨_, CollD.field (parent := p') hm, rfl, rfl⟩
  | @inline parent sels on dirs id sub rn e hm _ ih =>
    intro p'
    obtain ⟨e', h1, h2, h3⟩ := ih (inlineParent s p' on)
    exact ⟨e', .inline hm h1, h2, h3⟩

theorem rankOk_of_check (s : SchemaD) (d : Doc) (ρ : Nat → Nat) (h : rankOkB s d ρ = true) : RankOk s d ρ := by
  have key : ∀ i sels, SelSet d i sels →
      2 ≤ ρ i ∧ 2 * ρ i + 2 ≤ overlapFuel ∧
      (∀ q ∈ (collectSels s none sels ([], [])).1, ∀ e ∈ q.2, entryRank ρ e + 2 ≤ ρ i) ∧
      (∀ g ∈ (collectSels s none sels ([], [])).2, fragRank ρ d g + 2 ≤ ρ i) := by
    intro i sels hs
    have := List.all_eq_true.mp h _ hs
    simp only [nodeRankOk, Bool.and_eq_true, decide_eq_true_eq, List.all_eq_true] at this
    exact ⟨this.1.1.1, this.1.1.2, this.1.2, this.2⟩
  refine ⟨fun i sels hs => (key i sels hs).1, fun i sels hs => (key i sels hs).2.1, ?_, ?_⟩
  · intro i sels p rn e hs hc
    obtain ⟨e', h1, h2, h3⟩ := collD_reparent hc none
    have hm := collectSels_complete s none sels ([], []) rn e' (Or.inr h1)
    have hr : entryRank ρ e = entryRank ρ e' := by simp only [entryRank, h2, h3]
    rw [hr]
    rcases AL.getD_cases (collectSels s none sels ([], [])).1 rn [] with h0 | h0
    · rw [h0] at hm; cases hm
    · exact (key i sels hs).2.2.1 _ h0 e' hm
  · intro i sels g hs hg
    exact (key i sels hs).2.2.2 g (collectSels_spreads s none sels ([], []) g (Or.inr hg))

end PyGql.Validate
