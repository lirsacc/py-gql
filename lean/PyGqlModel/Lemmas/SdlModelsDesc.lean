/-
  C12 — the two printer models print the same text: `print_description`, literals, default values, type references,
  `print_deprecated`.
-/
import PyGqlModel.Lemmas.SdlModelsStr
import PyGqlModel.Lemmas.SdlLitInduction
namespace PyGql.SdlModels
open PyGql PyGql.Sdl PyGql.SdlPrintT

def optsT (o : SdlPrint.Opts) : OptsT := { indent := T o.indent, descriptions := o.descriptions }

theorem startsWs_T (l : String) :
    (match l.toList with | c :: _ => c == ' ' || c == '\t' | [] => false) = startsWs (T l) := by
  rw [T_def]
  cases l.toList with
  | nil => rfl
  | cons c t => simp only [List.map_cons, startsWs, ceq]; rfl

theorem blank_T (l : String) : (l.toList.all fun c => c == ' ' || c == '\t') = isBlankLine (T l) := by
  simp only [isBlankLine, T_def, List.all_map, Function.comp_def, ceq]
  rfl

theorem contains_cr (d : String) : d.toList.contains '\r' = (T d).contains 13 := by
  rw [T_def, List.contains_map, List.contains_eq_any_beq]
  congr 1
  funext c
  have h13 : ('\r' : Char).toNat = 13 := rfl
  rw [ceq, h13, Bool.eq_iff_iff]

theorem headD_T (L : List String) : T (L.headD "") = (L.map T).headD [] := by
  cases L <;> simp [T_nil]

theorem getLast_quote (l : String) : (l.toList.getLast? == some '"') = ((T l).getLast? == some 34) := by
  rw [T_def, List.getLast?_map]
  cases l.toList.getLast? with
  | none => rfl
  | some c =>
    show (c == '"') = (c.toNat == 34)
    rw [ceq]; rfl

theorem go_map (ind first : String) : ∀ (i : Nat) (ls : List String),
    (SdlPrint.printDescription.go ind first i ls).map T =
      descLines (T ind) (decide ((T first).length > (lstrip (T first)).length)) i (ls.map T)
  | _, [] => rfl
  | i, l :: ls => by
    simp only [SdlPrint.printDescription.go, descLines, List.map_cons, T_append, T_escTriple, go_map ind first (i + 1) ls,
      T_length, ← T_lstrip, T_ite, T_lf, T_nil]

theorem T_printDescription (o : SdlPrint.Opts) (desc : Option String) (depth : Nat) (fib : Bool) :
    T (SdlPrint.printDescription o desc depth fib) = printDescription (optsT o) desc depth fib := by
  cases desc with
  | none => exact T_nil
  | some d =>
    cases h0 : (!o.descriptions || d.isEmpty) with
    | true => simp [SdlPrint.printDescription, printDescription, optsT, h0, T_nil]
    | false =>
      have hind : repeatText (T o.indent) depth = T (SdlPrint.repeatStr o.indent depth) := (T_repeatStr _ _).symm
      have hL : wrappedLines (splitLF (T d)) (120 - (T (SdlPrint.repeatStr o.indent depth)).length) =
          (SdlPrint.wrappedLines (SdlPrint.splitLines d) (120 - (SdlPrint.repeatStr o.indent depth).length)).map T := by
        rw [wrappedLines_map, splitLines_map, T_length]
      simp only [SdlPrint.printDescription, printDescription, optsT, h0, hind, hL]
      generalize SdlPrint.wrappedLines (SdlPrint.splitLines d) (120 - (SdlPrint.repeatStr o.indent depth).length) = L
      generalize SdlPrint.repeatStr o.indent depth = ind
      have hrest : (List.filter (fun l => !isBlankLine l) (List.drop 1 (L.map T))) =
          (List.filter (fun l : String => !l.toList.all fun c => c == ' ' || c == '\t') (List.drop 1 L)).map T := by
        rw [← List.map_drop, List.filter_map]
        congr 1
        congr 1
        funext l
        simp only [Function.comp_def, blank_T]
      have hq : needsQuoted (L.map T) =
          ((match (L.headD "").toList with | c :: _ => c == ' ' || c == '\t' | [] => false) &&
            !(List.filter (fun l : String => !l.toList.all fun c => c == ' ' || c == '\t') (List.drop 1 L)).isEmpty &&
            (List.filter (fun l : String => !l.toList.all fun c => c == ' ' || c == '\t') (List.drop 1 L)).all fun l =>
              match l.toList with | c :: _ => c == ' ' || c == '\t' | [] => false) := by
        simp only [needsQuoted, hrest, ← headD_T, startsWs_T, List.isEmpty_map, List.all_map, Function.comp_def]
      have htq : T "\"\"\"" = [34, 34, 34] := by decide
      have htqn : T "\"\"\"\n" = [34, 34, 34, 10] := by decide
      have hbody : descBody (T ind) (L.map T) =
          T (if (L.length == 1 && decide ((L.headD "").length < 70) && !(L.headD "").toList.getLast? == some '"') = true then
               SdlPrint.escTriple (L.headD "")
             else "\n".intercalate (SdlPrint.printDescription.go ind (L.headD "") 0 L) ++ "\n" ++ ind) := by
        simp only [descBody, T_ite, T_escTriple, T_append, T_intercalate, go_map, T_lf, ← headD_T, List.length_map, T_length,
          getLast_quote]
      rw [hq, hbody, ← contains_cr]
      simp only [Bool.false_eq_true, if_false, T_ite, T_append, T_jsonDumps, T_lf, htq, htqn, T_nil, T_isEmpty,
        List.append_assoc]
      rfl


theorem T_litText_all :
    (∀ l : Lit, T (SdlPrint.litText l) = litText l) ∧ (∀ l : List Lit, (SdlPrint.litTexts l).map T = litTexts l) ∧
    ∀ fs : List (String × Lit), (SdlPrint.fieldTexts fs).map T = fieldTexts fs := by
  refine lit_induction ?_ rfl ?_ rfl ?_
  · intro l hl hf
    cases l with
    | str x => simp only [SdlPrint.litText, litText, T_jsonDumps]
    | bool b => cases b <;> rfl
    | list x =>
      have h1 : T "[" = [91] := by decide
      have h2 : T "]" = [93] := by decide
      simp only [SdlPrint.litText, litText, T_append, T_intercalate, hl x rfl, h1, h2, T_commaSpace]
      simp
    | obj x =>
      have h1 : T "{" = [123] := by decide
      have h2 : T "}" = [125] := by decide
      simp only [SdlPrint.litText, litText, T_append, T_intercalate, hf x rfl, h1, h2, T_commaSpace]
      simp
    | _ => rfl
  · intro v vs hv hvs
    simp only [SdlPrint.litTexts, litTexts, List.map_cons, hv, hvs]
  · intro k v fs hv hfs
    simp only [SdlPrint.fieldTexts, fieldTexts, List.map_cons, T_append, hv, hfs, T_colonSpace]

theorem T_litText : ∀ l : Lit, T (SdlPrint.litText l) = litText l := T_litText_all.1
theorem T_litTexts : ∀ l : List Lit, (SdlPrint.litTexts l).map T = litTexts l := T_litText_all.2.1
theorem T_fieldTexts : ∀ fs : List (String × Lit), (SdlPrint.fieldTexts fs).map T = fieldTexts fs := T_litText_all.2.2

theorem T_valueText (s : SchemaD) (v : J) (ty : Ty) :
    T ((SdlPrint.valueText s SdlPrint.valueFuel v ty).getD "<ValueError>") = valueText s v ty := by
  simp only [SdlPrint.valueText, valueText]
  cases SdlPrint.valueLit s SdlPrint.valueFuel v ty with
  | none => rfl
  | some l => exact T_litText l

theorem T_render : ∀ ty : Ty, T ty.render = renderTy ty
  | .named n => rfl
  | .list t => by
    have h1 : T "[" = [91] := by decide
    have h2 : T "]" = [93] := by decide
    simp only [Ty.render, renderTy, T_append, T_render t, h1, h2]; rfl
  | .nonNull t => by
    have h : T "!" = [33] := by decide
    simp only [Ty.render, renderTy, T_append, T_render t, h]

theorem T_printDeprecated (r : Option String) : T (SdlPrint.printDeprecated r) = printDeprecated r := by
  cases r with
  | none => rfl
  | some x =>
    simp only [SdlPrint.printDeprecated, printDeprecated, T_ite, T_append, T_jsonDumps, T_rparen]

end PyGql.SdlModels
