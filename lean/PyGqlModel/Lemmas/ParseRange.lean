/-
  Error positions: every `GraphQLSyntaxError` raised by the token-level parser is at the start of a token of the
  input (or at the end of the last consumed token), hence inside the text whenever the tokens are.
  `Safe n p`: on states whose tokens lie within `[0, n]`, `p` either fails with a position ≤ n or succeeds in such a
  state.  A small calculus (`bind`, `ite`, `pure`, the primitives, the loops) + one line per parser function.
-/
import PyGqlModel.ParseDoc
import PyGqlModel.Lemmas.ParseCore
namespace PyGql.Parse
open PyGql PyGql.Ast

def TokR (n : Nat) (t : Tok) : Prop := t.start ≤ n ∧ t.stop ≤ n

def InR (n : Nat) (s : PS) : Prop := (∀ t ∈ s.toks, TokR n t) ∧ s.last.stop ≤ n

structure Safe (n : Nat) {α : Type} (p : P α) : Prop where
  out : ∀ s, InR n s → match p s with
    | .ok (_, s') => InR n s'
    | .error e => e.pos ≤ n

/-- for parsers returning a token: it is one of the input's tokens -/
structure SafeT (n : Nat) (p : P Tok) : Prop where
  out : ∀ s, InR n s → match p s with
    | .ok (t, s') => InR n s' ∧ TokR n t
    | .error e => e.pos ≤ n

class SafeC (n : Nat) {α : Type} (p : P α) : Prop where
  safe : Safe n p

theorem Safe.bind {n : Nat} {α β} {p : P α} {f : α → P β} (hp : Safe n p) (hf : ∀ a, Safe n (f a)) :
    Safe n (p >>= f) := by
  refine ⟨fun s hs => ?_⟩
  have := hp.out s hs
  simp only [bind_eq]
  cases h : p s with
  | error e => simpa [h] using this
  | ok r =>
    rcases r with ⟨a, s1⟩
    rw [h] at this
    exact (hf a).out s1 this

theorem Safe.bindT {n : Nat} {β} {p : P Tok} {f : Tok → P β} (hp : SafeT n p) (hf : ∀ t, TokR n t → Safe n (f t)) :
    Safe n (p >>= f) := by
  refine ⟨fun s hs => ?_⟩
  have := hp.out s hs
  simp only [bind_eq]
  cases h : p s with
  | error e => simpa [h] using this
  | ok r =>
    rcases r with ⟨a, s1⟩
    rw [h] at this
    exact (hf a this.2).out s1 this.1

theorem SafeT.bind {n : Nat} {α} {p : P α} {f : α → P Tok} (hp : Safe n p) (hf : ∀ a, SafeT n (f a)) :
    SafeT n (p >>= f) := by
  refine ⟨fun s hs => ?_⟩
  have := hp.out s hs
  simp only [bind_eq]
  cases h : p s with
  | error e => simpa [h] using this
  | ok r =>
    rcases r with ⟨a, s1⟩
    rw [h] at this
    exact (hf a).out s1 this

theorem SafeT.bindT {n : Nat} {p : P Tok} {f : Tok → P Tok} (hp : SafeT n p) (hf : ∀ t, TokR n t → SafeT n (f t)) :
    SafeT n (p >>= f) := by
  refine ⟨fun s hs => ?_⟩
  have := hp.out s hs
  simp only [bind_eq]
  cases h : p s with
  | error e => simpa [h] using this
  | ok r =>
    rcases r with ⟨a, s1⟩
    rw [h] at this
    exact (hf a this.2).out s1 this.1

theorem SafeT.toSafe {n : Nat} {p : P Tok} (h : SafeT n p) : Safe n p := by
  refine ⟨fun s hs => ?_⟩
  have := h.out s hs
  cases hp : p s with
  | error e => simpa [hp] using this
  | ok r => rcases r with ⟨a, s1⟩; rw [hp] at this; exact this.1

theorem Safe.pure {n : Nat} {α} (a : α) : Safe n (pure a : P α) := ⟨fun s hs => hs⟩
theorem SafeT.pure {n : Nat} {t : Tok} (h : TokR n t) : SafeT n (pure t : P Tok) := ⟨fun s hs => ⟨hs, h⟩⟩

theorem Safe.ite {n : Nat} {α} {c : Prop} [Decidable c] {p q : P α} (hp : Safe n p) (hq : Safe n q) :
    Safe n (if c then p else q) := by
  split <;> assumption

theorem SafeT.ite {n : Nat} {c : Prop} [Decidable c] {p q : P Tok} (hp : SafeT n p) (hq : SafeT n q) :
    SafeT n (if c then p else q) := by
  split <;> assumption

theorem Safe.fail {n : Nat} {α} (msg : String) : Safe n (fail msg : P α) := by
  refine ⟨fun s hs => ?_⟩
  rcases s with ⟨_ | ⟨t, ts⟩, l⟩
  · exact hs.2
  · exact (hs.1 t (by simp)).1

theorem Safe.failTok {n : Nat} {α} (msg : String) : Safe n (failTok msg : P α) := by
  refine ⟨fun s hs => ?_⟩
  rcases s with ⟨_ | ⟨t, ts⟩, l⟩
  · exact hs.2
  · exact (hs.1 t (by simp)).1

theorem Safe.failAt {n : Nat} {α} {t : Tok} (h : TokR n t) (msg : String) : Safe n (failAt t msg : P α) :=
  ⟨fun _ _ => h.1⟩

theorem Safe.failTokAt {n : Nat} {α} {t : Tok} (h : TokR n t) (msg : String) : Safe n (failTokAt t msg : P α) :=
  ⟨fun _ _ => h.1⟩

theorem peek_safeT (n : Nat) : SafeT n peek := by
  refine ⟨fun s hs => ?_⟩
  rcases s with ⟨_ | ⟨t, ts⟩, l⟩
  · exact hs.2
  · exact ⟨hs, hs.1 t (by simp)⟩

theorem peek2_safeT (n : Nat) : SafeT n peek2 := by
  refine ⟨fun s hs => ?_⟩
  rcases s with ⟨_ | ⟨t0, _ | ⟨t, ts⟩⟩, l⟩
  · exact hs.2
  · exact hs.2
  · exact ⟨hs, hs.1 t (by simp)⟩

theorem advance_safeT (n : Nat) : SafeT n advance := by
  refine ⟨fun s hs => ?_⟩
  rcases s with ⟨_ | ⟨t, ts⟩, l⟩
  · exact hs.2
  · have ht := hs.1 t (by simp)
    exact ⟨⟨fun x hx => hs.1 x (by simp [hx]), ht.2⟩, ht⟩

theorem SafeT.failTok {n : Nat} (msg : String) : SafeT n (failTok msg : P Tok) := by
  refine ⟨fun s hs => ?_⟩
  rcases s with ⟨_ | ⟨t, ts⟩, l⟩
  · exact hs.2
  · exact (hs.1 t (by simp)).1

theorem SafeT.fail {n : Nat} (msg : String) : SafeT n (fail msg : P Tok) := by
  refine ⟨fun s hs => ?_⟩
  rcases s with ⟨_ | ⟨t, ts⟩, l⟩
  · exact hs.2
  · exact (hs.1 t (by simp)).1

theorem expect_safeT (n : Nat) (k : TokKind) : SafeT n (expect k) :=
  SafeT.bindT (peek_safeT n) fun _ _ => SafeT.ite (advance_safeT n) (SafeT.failTok _)

theorem expectKeyword_safeT (n : Nat) (kw : Text) : SafeT n (expectKeyword kw) :=
  SafeT.bindT (peek_safeT n) fun _ _ => SafeT.ite (advance_safeT n) (SafeT.failTok _)

theorem skip_safe (n : Nat) (k : TokKind) : Safe n (skip k) :=
  Safe.bindT (peek_safeT n) fun _ _ => Safe.ite (Safe.bindT (advance_safeT n) fun _ _ => Safe.pure _) (Safe.pure _)

theorem mkLoc_safe (n : Nat) (fl : Flags) (st : Tok) : Safe n (mkLoc fl st) := ⟨fun _ hs => hs⟩

/-! ### the calculus as instances

`SafeC n p` is found by instance search along the structure of a `do` block: `bind`, conditionals, `pure`, the failures
at the next token, the primitives, the loops, and every parser function registered below.  A token that a later
`failAt` / `failTokAt` points at has to be followed by hand (`Safe.bindT`); the few functions that do so show it. -/

instance {n : Nat} {α β} {p : P α} {f : α → P β} [hp : SafeC n p] [hf : ∀ a, SafeC n (f a)] : SafeC n (p >>= f) :=
  ⟨Safe.bind hp.safe fun a => (hf a).safe⟩
instance {n : Nat} {α} {c : Prop} [Decidable c] {p q : P α} [hp : SafeC n p] [hq : SafeC n q] :
    SafeC n (if c then p else q) :=
  ⟨Safe.ite hp.safe hq.safe⟩
instance {n : Nat} {α} (a : α) : SafeC n (pure a : P α) := ⟨Safe.pure a⟩
instance {n : Nat} {α} (msg : String) : SafeC n (fail msg : P α) := ⟨Safe.fail msg⟩
instance {n : Nat} {α} (msg : String) : SafeC n (failTok msg : P α) := ⟨Safe.failTok msg⟩
instance (n : Nat) : SafeC n peek := ⟨(peek_safeT n).toSafe⟩
instance (n : Nat) : SafeC n advance := ⟨(advance_safeT n).toSafe⟩
instance (n : Nat) (k : TokKind) : SafeC n (expect k) := ⟨(expect_safeT n k).toSafe⟩
instance (n : Nat) (kw : Text) : SafeC n (expectKeyword kw) := ⟨(expectKeyword_safeT n kw).toSafe⟩
instance (n : Nat) (k : TokKind) : SafeC n (skip k) := ⟨skip_safe n k⟩
instance (n : Nat) (fl : Flags) (st : Tok) : SafeC n (mkLoc fl st) := ⟨mkLoc_safe n fl st⟩

instance {n : Nat} {α} {p : P α} [SafeC n p] (close : TokKind) (k : Nat) : SafeC n (manyLoop p close k) := by
  induction k with
  | zero => exact ⟨Safe.fail _⟩
  | succ k ih => unfold manyLoop; infer_instance

instance {n : Nat} {α} {p : P α} [SafeC n p] (fuel : Nat) (opn close : TokKind) : SafeC n (many fuel opn p close) := by
  unfold many; infer_instance

instance {n : Nat} {α} {p : P α} [SafeC n p] (close : TokKind) (k : Nat) : SafeC n (anyLoop p close k) := by
  induction k with
  | zero => exact ⟨Safe.fail _⟩
  | succ k ih => unfold anyLoop; infer_instance

instance {n : Nat} {α} {p : P α} [SafeC n p] (fuel : Nat) (opn close : TokKind) : SafeC n (any_ fuel opn p close) := by
  unfold any_; infer_instance

instance {n : Nat} {α} {p : P α} [SafeC n p] (sep : TokKind) (k : Nat) : SafeC n (delimLoop p sep k) := by
  induction k with
  | zero => exact ⟨Safe.fail _⟩
  | succ k ih => unfold delimLoop; infer_instance

instance {n : Nat} {α} {p : P α} [SafeC n p] (fuel : Nat) (sep : TokKind) : SafeC n (delimitedList fuel sep p) := by
  unfold delimitedList; infer_instance

instance (n : Nat) (fl : Flags) : SafeC n (parseName fl) := by unfold parseName; infer_instance
instance (n : Nat) (fl : Flags) : SafeC n (parseNamedType fl) := by unfold parseNamedType; infer_instance
instance (n : Nat) (fl : Flags) : SafeC n (parseVariable fl) := by unfold parseVariable; infer_instance
instance (n : Nat) (fl : Flags) : SafeC n (parseStringLiteral fl) := by unfold parseStringLiteral; infer_instance

instance (n : Nat) (fl : Flags) (k : Nat) : SafeC n (parseTypeReference fl k) := by
  induction k with
  | zero => exact ⟨Safe.fail _⟩
  | succ k ih => unfold parseTypeReference parseTypeInner; infer_instance

end PyGql.Parse
