/-
  `OverlappingFieldsCanBeMergedChecker`: ONE search for the two of the model. `Validate/Overlap.lean` (the search
  without it) and `Validate/OverlapMemo.lean` (with the fields-and-fragment memo of fix 7e75356) differ in one test of one
  function; `findConflictG … betweenSubselectionsG` take that test as a flag, the model's functions are the two instances
  (`searchG_plain`, `searchG_memo`), and every fact about the search is proved for the flag as a variable unless it is about the memo.
  Per function one case rule (`…G_cases`): what a call with fuel left can do, the sub-calls named.
  Names in `Lemmas/ValidateOverlap*.lean`: a final `G` = stated for the flag as a variable; `GP` / `GM` = at `false` / `true`
  with the certificates of that search; `…Of` = for any certificate predicate.
-/
import PyGqlModel.Validate.OverlapMemo
import PyGqlModel.Lemmas.ValidateOverlap
namespace PyGql.Validate
open PyGql PyGql.Validate.Spec

mutual
def findConflictG (s : SchemaD) (fx : Fixes) (memo : Bool) : Nat → Bool → FEntry → FEntry → OCtx → Bool × OCtx
  | 0, _, _, _, c => (false, { c with crash := some "RecursionError" })
  | fuel+1, pme, f1, f2, c =>
    let isObj (p : Option String) : Bool := match p with | some n => isObject s n | none => false
    let me := pme || (f1.parent != f2.parent && isObj f1.parent && isObj f2.parent)
    let t1 := f1.fdef.map (·.type)
    let t2 := f2.fdef.map (·.type)
    let argsOk : Option Bool :=
      if me then some true
      else if f1.name != f2.name then some false
      else sameArguments f1.args f2.args
    match argsOk with
    | none => (false, { c with crash := some "AttributeError" })
    | some false => (true, c)
    | some true =>
      let tc := match t1, t2 with | some a, some b => typesConflict s a b | _, _ => false
      if tc then (true, c)
      else if f1.hasSub && f2.hasSub then
        let r := betweenSubselectionsG s fx memo fuel me (t1.map (·.base)) f1.ssid f1.sub (t2.map (·.base)) f2.ssid f2.sub c
        (r.1 > 0, r.2)
      else (false, c)

def conflictsBetweenG (s : SchemaD) (fx : Fixes) (memo : Bool) : Nat → Bool → FMap → FMap → OCtx → Nat × OCtx
  | 0, _, _, _, c => (0, { c with crash := some "RecursionError" })
  | fuel+1, me, fm1, fm2, c =>
    sumLoop fm1 (fun (rn, fields1) c =>
      match AL.get? fm2 rn with
      | none => (0, c)
      | some fields2 =>
        sumLoop fields1 (fun f1 c =>
          sumLoop fields2 (fun f2 c =>
            let r := findConflictG s fx memo fuel me f1 f2 c
            (if r.1 then 1 else 0, r.2)) c) c) c

def betweenFieldsAndFragmentG (s : SchemaD) (fx : Fixes) (memo : Bool) :
    Nat → Bool → Nat → FMap → String → OCtx → Nat × OCtx
  | 0, _, _, _, _, c => (0, { c with crash := some "RecursionError" })
  | fuel+1, me, ssid, fm, name, c =>
    if c.cmp.contains name then (0, c) else
    let c := { c with cmp := name :: c.cmp }
    match AL.get? c.frags name with
    | none => (0, c)
    | some (on, fid, fsels) =>
      if memo = true ∧ (ssid, name, me) ∈ c.ffp then (0, c) else
      let c := { c with ffp := if memo then (ssid, name, me) :: c.ffp else c.ffp }
      let (ff, c) := fieldsAndFragments s ((typeFromAst s (.named on)).map (·.base)) fid fsels c
      if ssid == fid then (0, c) else
      let r1 := conflictsBetweenG s fx memo fuel me fm ff.1 c
      let r2 := sumLoop ff.2 (fun fr c => betweenFieldsAndFragmentG s fx memo fuel me ssid fm fr c) r1.2
      (r1.1 + r2.1, r2.2)

def betweenFragmentsG (s : SchemaD) (fx : Fixes) (memo : Bool) :
    Nat → Bool → Option String → Option String → OCtx → Nat × OCtx
  | 0, _, _, _, c => (0, { c with crash := some "RecursionError" })
  | fuel+1, me, of1, of2, c =>
    match of1, of2 with
    | some f1, some f2 =>
      if f1 == "" || f2 == "" || f1 == f2 then (0, c) else
      let key := (sortedPair f1 f2, me)
      if c.pairs.any (fun k => k.1 == key.1.1 && k.2.1 == key.1.2 && k.2.2 == me) then (0, c) else
      let c := { c with pairs := (key.1.1, key.1.2, me) :: c.pairs }
      match AL.get? c.frags f1, AL.get? c.frags f2 with
      | some (on1, id1, sels1), some (on2, id2, sels2) =>
        let (a, c) := fieldsAndFragments s ((typeFromAst s (.named on1)).map (·.base)) id1 sels1 c
        let (b, c) := fieldsAndFragments s ((typeFromAst s (.named on2)).map (·.base)) id2 sels2 c
        let r0 := conflictsBetweenG s fx memo fuel me a.1 b.1 c
        if fx.v7 then
          let r1 := sumLoop a.2 (fun fr c => betweenFragmentsG s fx memo fuel me (some fr) (some f2) c) r0.2
          let r2 := sumLoop b.2 (fun fr c => betweenFragmentsG s fx memo fuel me (some f1) (some fr) c) r1.2
          (r0.1 + r1.1 + r2.1, r2.2)
        else
          let r1 := sumLoop (a.2.zipIdx) (fun (fr, i) c => betweenFragmentsG s fx memo fuel me (some fr) (charAt f2 i) c) r0.2
          let r2 := sumLoop (b.2.zipIdx) (fun (fr, i) c => betweenFragmentsG s fx memo fuel me (charAt f1 i) (some fr) c) r1.2
          (r0.1 + r1.1 + r2.1, r2.2)
      | _, _ => (0, c)
    | _, _ => (0, c)

def betweenSubselectionsG (s : SchemaD) (fx : Fixes) (memo : Bool) :
    Nat → Bool → Option String → Nat → List Sel → Option String → Nat → List Sel → OCtx → Nat × OCtx
  | 0, _, _, _, _, _, _, _, c => (0, { c with crash := some "RecursionError" })
  | fuel+1, me, p1, id1, sels1, p2, id2, sels2, c =>
    let (a, c) := fieldsAndFragments s p1 id1 sels1 c
    let (b, c) := fieldsAndFragments s p2 id2 sels2 c
    let r0 := conflictsBetweenG s fx memo fuel me a.1 b.1 c
    let r1 := sumLoop b.2 (fun fr c => withFreshCmp (betweenFieldsAndFragmentG s fx memo fuel me id1 a.1 fr) c) r0.2
    let r2 := sumLoop a.2 (fun fr c => withFreshCmp (betweenFieldsAndFragmentG s fx memo fuel me id2 b.1 fr) c) r1.2
    let r3 := sumLoop a.2 (fun f1 c => sumLoop b.2 (fun f2 c => betweenFragmentsG s fx memo fuel me (some f1) (some f2) c) c) r2.2
    (r0.1 + r1.1 + r2.1 + r3.1, r3.2)
end

def withinSelectionSetG (s : SchemaD) (fx : Fixes) (memo : Bool) (fuel : Nat) (parent : Option String) (ssid : Nat)
    (sels : List Sel) (c : OCtx) : Nat × OCtx :=
  let (ff, c) := fieldsAndFragments s parent ssid sels c
  let r0 := sumLoop ff.1 (fun (_, fields) c =>
    sumLoop (pairsOf fields) (fun (f1, f2) c =>
      let r := findConflictG s fx memo fuel false f1 f2 c
      (if r.1 then 1 else 0, r.2)) c) c
  let r1 := withFreshCmp (fun c => sumLoop ff.2 (fun fr c => betweenFieldsAndFragmentG s fx memo fuel false ssid ff.1 fr c) c) r0.2
  let r2 := sumLoop (pairsOf ff.2) (fun (f1, f2) c => betweenFragmentsG s fx memo fuel false (some f1) (some f2) c) r1.2
  (r0.1 + r1.1 + r2.1, r2.2)

theorem searchG_plain (s : SchemaD) (fx : Fixes) : ∀ fuel,
    findConflict s fx fuel = findConflictG s fx false fuel ∧
    conflictsBetween s fx fuel = conflictsBetweenG s fx false fuel ∧
    betweenFieldsAndFragment s fx fuel = betweenFieldsAndFragmentG s fx false fuel ∧
    betweenFragments s fx fuel = betweenFragmentsG s fx false fuel ∧
    betweenSubselections s fx fuel = betweenSubselectionsG s fx false fuel
  | 0 => ⟨rfl, rfl, rfl, rfl, rfl⟩
  | fuel + 1 => by
    obtain ⟨h1, h2, h3, h4, h5⟩ := searchG_plain s fx fuel
    refine ⟨?_, ?_, ?_, ?_, ?_⟩
    · funext pme f1 f2 c
      rw [findConflictG, ← h5]
      rfl
    · funext me fm1 fm2 c
      rw [conflictsBetweenG, ← h1]
      rfl
    · funext me ssid fm name c
      rw [betweenFieldsAndFragmentG, ← h2, ← h3]
      rfl
    · funext me of1 of2 c
      cases of1 with
      | none => rfl
      | some f1 =>
        cases of2 with
        | none => rfl
        | some f2 =>
          rw [betweenFragmentsG, ← h2, ← h4]
          rfl
    · funext me p1 id1 sels1 p2 id2 sels2 c
      rw [betweenSubselectionsG, ← h2, ← h3, ← h4]
      rfl

theorem searchG_memo (s : SchemaD) (fx : Fixes) : ∀ fuel,
    findConflictM s fx fuel = findConflictG s fx true fuel ∧
    conflictsBetweenM s fx fuel = conflictsBetweenG s fx true fuel ∧
    betweenFieldsAndFragmentM s fx fuel = betweenFieldsAndFragmentG s fx true fuel ∧
    betweenFragmentsM s fx fuel = betweenFragmentsG s fx true fuel ∧
    betweenSubselectionsM s fx fuel = betweenSubselectionsG s fx true fuel
  | 0 => ⟨rfl, rfl, rfl, rfl, rfl⟩
  | fuel + 1 => by
    obtain ⟨h1, h2, h3, h4, h5⟩ := searchG_memo s fx fuel
    refine ⟨?_, ?_, ?_, ?_, ?_⟩
    · funext pme f1 f2 c
      rw [findConflictG, ← h5]
      rfl
    · funext me fm1 fm2 c
      rw [conflictsBetweenG, ← h1]
      rfl
    · funext me ssid fm name c
      rw [betweenFieldsAndFragmentG, ← h2, ← h3]
      simp only [true_and, ↓reduceIte]
      rfl
    · funext me of1 of2 c
      cases of1 with
      | none => rfl
      | some f1 =>
        cases of2 with
        | none => rfl
        | some f2 =>
          rw [betweenFragmentsG, ← h2, ← h4]
          rfl
    · funext me p1 id1 sels1 p2 id2 sels2 c
      rw [betweenSubselectionsG, ← h2, ← h3, ← h4]
      rfl

theorem withinSelectionSet_eq (s : SchemaD) (fx : Fixes) :
    withinSelectionSet s fx = withinSelectionSetG s fx false overlapFuel := by
  funext p i sels c
  simp only [withinSelectionSet, conflictsWithin, withinSelectionSetG, (searchG_plain s fx overlapFuel).1,
    (searchG_plain s fx overlapFuel).2.2.1, (searchG_plain s fx overlapFuel).2.2.2.1]

theorem withinSelectionSetM_eq (s : SchemaD) (fx : Fixes) (fuel : Nat) :
    withinSelectionSetM s fx fuel = withinSelectionSetG s fx true fuel := by
  funext p i sels c
  simp only [withinSelectionSetM, withinSelectionSetG, (searchG_memo s fx fuel).1,
    (searchG_memo s fx fuel).2.2.1, (searchG_memo s fx fuel).2.2.2.1]


theorem mem_ite_cons {α} {p : Prop} [Decidable p] {x k : α} {l : List α} (h : k ∈ l) : k ∈ (if p then x :: l else l) := by
  split
  · exact List.mem_cons_of_mem _ h
  · exact h

/-- `_fields_and_fragments` touches the parent-type cache only -/
theorem fieldsAndFragments_ctx (s : SchemaD) (p : Option String) (i : Nat) (sels : List Sel) (c : OCtx) :
    ∃ ch, (fieldsAndFragments s p i sels c).2 = { c with cache := ch } := by
  unfold fieldsAndFragments
  cases c.cache.find? (·.1 == i) with
  | none => exact ⟨_, rfl⟩
  | some q => exact ⟨c.cache, rfl⟩

section
variable (s : SchemaD) (fx : Fixes) (memo : Bool)

theorem findConflictG_zero (pme : Bool) (f1 f2 : FEntry) (c : OCtx) :
    findConflictG s fx memo 0 pme f1 f2 c = (false, { c with crash := some "RecursionError" }) := by
  simp only [findConflictG]

theorem conflictsBetweenG_zero (me : Bool) (fm1 fm2 : FMap) (c : OCtx) :
    conflictsBetweenG s fx memo 0 me fm1 fm2 c = (0, { c with crash := some "RecursionError" }) := by
  simp only [conflictsBetweenG]

theorem betweenFieldsAndFragmentG_zero (me : Bool) (ssid : Nat) (fm : FMap) (name : String) (c : OCtx) :
    betweenFieldsAndFragmentG s fx memo 0 me ssid fm name c = (0, { c with crash := some "RecursionError" }) := by
  simp only [betweenFieldsAndFragmentG]

theorem betweenFragmentsG_zero (me : Bool) (of1 of2 : Option String) (c : OCtx) :
    betweenFragmentsG s fx memo 0 me of1 of2 c = (0, { c with crash := some "RecursionError" }) := by
  simp only [betweenFragmentsG]

theorem betweenSubselectionsG_zero (me : Bool) (p1 : Option String) (id1 : Nat) (sels1 : List Sel) (p2 : Option String)
    (id2 : Nat) (sels2 : List Sel) (c : OCtx) :
    betweenSubselectionsG s fx memo 0 me p1 id1 sels1 p2 id2 sels2 c = (0, { c with crash := some "RecursionError" }) := by
  simp only [betweenSubselectionsG]

/-- `_find_conflict`: the arguments differ; the types conflict; both fields have sub-selections; neither of these.
    `sameArguments` never fails (`none` is the `AttributeError` of ledger V2, fixed), but the model has the branch. -/
theorem findConflictG_cases {motive : Bool × OCtx → Prop} (fuel : Nat) (pme : Bool) (f1 f2 : FEntry) (c : OCtx)
    (crash : (pme || exclusiveParents s f1 f2) = false → sameArguments f1.args f2.args = none →
      motive (false, { c with crash := some "AttributeError" }))
    (args : (pme || exclusiveParents s f1 f2) = false → f1.name ≠ f2.name ∨ sameArguments f1.args f2.args = some false →
      motive (true, c))
    (types : ((pme || exclusiveParents s f1 f2) = false → f1.name = f2.name ∧ sameArguments f1.args f2.args = some true) →
      ∀ t1 t2, f1.fdef.map (·.type) = some t1 → f2.fdef.map (·.type) = some t2 → typesConflict s t1 t2 = true →
      motive (true, c))
    (sub : ((pme || exclusiveParents s f1 f2) = false → f1.name = f2.name ∧ sameArguments f1.args f2.args = some true) →
      (∀ t1 t2, f1.fdef.map (·.type) = some t1 → f2.fdef.map (·.type) = some t2 → typesConflict s t1 t2 = false) →
      f1.hasSub = true → f2.hasSub = true → ∀ r,
      r = betweenSubselectionsG s fx memo fuel (pme || exclusiveParents s f1 f2) ((f1.fdef.map (·.type)).map (·.base))
        f1.ssid f1.sub ((f2.fdef.map (·.type)).map (·.base)) f2.ssid f2.sub c →
      motive (decide (r.1 > 0), r.2))
    (leaf : ((pme || exclusiveParents s f1 f2) = false → f1.name = f2.name ∧ sameArguments f1.args f2.args = some true) →
      (∀ t1 t2, f1.fdef.map (·.type) = some t1 → f2.fdef.map (·.type) = some t2 → typesConflict s t1 t2 = false) →
      ¬ (f1.hasSub = true ∧ f2.hasSub = true) → motive (false, c)) :
    motive (findConflictG s fx memo (fuel + 1) pme f1 f2 c) := by
  simp only [findConflictG]
  generalize hm0 : (pme || _) = me
  have hm : (pme || exclusiveParents s f1 f2) = me := hm0
  clear hm0
  rw [hm] at crash args types sub leaf
  have tail : (me = false → f1.name = f2.name ∧ sameArguments f1.args f2.args = some true) →
      motive (if (match f1.fdef.map (·.type), f2.fdef.map (·.type) with
          | some a, some b => typesConflict s a b
          | _, _ => false) = true then (true, c)
        else if (f1.hasSub && f2.hasSub) = true then
          (decide ((betweenSubselectionsG s fx memo fuel me ((f1.fdef.map (·.type)).map (·.base)) f1.ssid f1.sub
            ((f2.fdef.map (·.type)).map (·.base)) f2.ssid f2.sub c).1 > 0),
           (betweenSubselectionsG s fx memo fuel me ((f1.fdef.map (·.type)).map (·.base)) f1.ssid f1.sub
            ((f2.fdef.map (·.type)).map (·.base)) f2.ssid f2.sub c).2)
        else (false, c)) := by
    intro ha
    -- no type conflict: the sub-selections decide
    have noTc : (match f1.fdef.map (·.type), f2.fdef.map (·.type) with
          | some a, some b => typesConflict s a b
          | _, _ => false) = false →
        (∀ t1 t2, f1.fdef.map (·.type) = some t1 → f2.fdef.map (·.type) = some t2 → typesConflict s t1 t2 = false) := by
      intro h t1 t2 e1 e2
      rw [e1, e2] at h
      exact h
    cases htc : (match f1.fdef.map (·.type), f2.fdef.map (·.type) with
          | some a, some b => typesConflict s a b
          | _, _ => false) with
    | true =>
      rw [if_pos rfl]
      cases h1 : f1.fdef.map (·.type) with
      | none => rw [h1] at htc; cases htc
      | some t1 =>
        cases h2 : f2.fdef.map (·.type) with
        | none => rw [h1, h2] at htc; cases htc
        | some t2 => rw [h1, h2] at htc; exact types ha t1 t2 h1 h2 htc
    | false =>
      rw [if_neg Bool.false_ne_true]
      by_cases hs : (f1.hasSub && f2.hasSub) = true
      · rw [if_pos hs]
        exact sub ha (noTc htc) (Bool.and_eq_true_iff.mp hs).1 (Bool.and_eq_true_iff.mp hs).2 _ rfl
      · rw [if_neg hs]
        exact leaf ha (noTc htc) (fun h => hs (Bool.and_eq_true_iff.mpr h))
  cases me with
  | true =>
    simp only [↓reduceIte]
    exact tail (fun h => by cases h)
  | false =>
    simp only [Bool.false_eq_true, ↓reduceIte]
    by_cases hn : (f1.name != f2.name) = true
    · simp only [hn, ↓reduceIte]
      exact args rfl (Or.inl (by simpa using hn))
    · simp only [hn, Bool.false_eq_true, ↓reduceIte]
      cases hsa : sameArguments f1.args f2.args with
      | none => exact crash rfl hsa
      | some b =>
        cases b with
        | false => exact args rfl (Or.inr hsa)
        | true => exact tail (fun _ => ⟨by simpa using hn, hsa⟩)

theorem conflictsBetweenG_succ (fuel : Nat) (me : Bool) (fm1 fm2 : FMap) (c : OCtx) :
    conflictsBetweenG s fx memo (fuel + 1) me fm1 fm2 c =
      sumLoop fm1 (fun q c =>
        match AL.get? fm2 q.1 with
        | none => (0, c)
        | some fields2 =>
          sumLoop q.2 (fun f1 c =>
            sumLoop fields2 (fun f2 c =>
              (if (findConflictG s fx memo fuel me f1 f2 c).1 = true then 1 else 0, (findConflictG s fx memo fuel me f1 f2 c).2)) c) c) c := rfl

/-- `_conflicts_between_fields_and_fragment`: the fragment was met on this path (`compared_fragments`); it is not
    defined; with the memo, the triple is in it; otherwise the triple is recorded (with the memo), and then either the
    fragment's body is the selection set itself (`field_map is fragment_field_map`) or the fields are compared (`r1`)
    and the spreads of the fragment followed (`r2`). -/
theorem betweenFieldsAndFragmentG_cases {motive : Nat × OCtx → Prop} (fuel : Nat) (me : Bool) (ssid : Nat) (fm : FMap)
    (name : String) (c : OCtx)
    (seen : name ∈ c.cmp → motive (0, c))
    (undef : name ∉ c.cmp → AL.get? c.frags name = none → motive (0, { c with cmp := name :: c.cmp }))
    (hit : memo = true → name ∉ c.cmp → ∀ v, AL.get? c.frags name = some v → (ssid, name, me) ∈ c.ffp →
      motive (0, { c with cmp := name :: c.cmp }))
    (miss : name ∉ c.cmp → ∀ on fid fsels ff c', AL.get? c.frags name = some (on, fid, fsels) →
      (memo = true → (ssid, name, me) ∉ c.ffp) →
      fieldsAndFragments s ((typeFromAst s (.named on)).map (·.base)) fid fsels
        { c with cmp := name :: c.cmp, ffp := if memo = true then (ssid, name, me) :: c.ffp else c.ffp } = (ff, c') →
      (ssid = fid → motive (0, c')) ∧
      (ssid ≠ fid → ∀ r1 r2, r1 = conflictsBetweenG s fx memo fuel me fm ff.1 c' →
        r2 = sumLoop ff.2 (fun fr c => betweenFieldsAndFragmentG s fx memo fuel me ssid fm fr c) r1.2 →
        motive (r1.1 + r2.1, r2.2))) :
    motive (betweenFieldsAndFragmentG s fx memo (fuel + 1) me ssid fm name c) := by
  simp only [betweenFieldsAndFragmentG]
  split
  · exact seen (by simpa using ‹c.cmp.contains name = true›)
  · have hn : name ∉ c.cmp := by simpa using ‹¬ c.cmp.contains name = true›
    split
    · exact undef hn ‹_›
    · rename_i on fid fsels hg
      split
      · rename_i hm
        exact hit hm.1 hn _ hg hm.2
      · rename_i hm
        obtain ⟨h1, h2⟩ := miss hn on fid fsels _ _ hg (fun h hk => hm ⟨h, hk⟩) rfl
        split
        · exact h1 (by simpa using ‹(ssid == fid) = true›)
        · exact h2 (by simpa using ‹¬(ssid == fid) = true›) _ _ rfl rfl

/-- the same with the memo on: the triple is in the memo, or it is recorded -/
theorem betweenFieldsAndFragmentG_cases_memo {motive : Nat × OCtx → Prop} (fuel : Nat) (me : Bool) (ssid : Nat) (fm : FMap)
    (name : String) (c : OCtx)
    (seen : name ∈ c.cmp → motive (0, c))
    (undef : name ∉ c.cmp → AL.get? c.frags name = none → motive (0, { c with cmp := name :: c.cmp }))
    (hit : name ∉ c.cmp → ∀ v, AL.get? c.frags name = some v → (ssid, name, me) ∈ c.ffp →
      motive (0, { c with cmp := name :: c.cmp }))
    (miss : name ∉ c.cmp → ∀ on fid fsels ff c', AL.get? c.frags name = some (on, fid, fsels) → (ssid, name, me) ∉ c.ffp →
      fieldsAndFragments s ((typeFromAst s (.named on)).map (·.base)) fid fsels
        { c with cmp := name :: c.cmp, ffp := (ssid, name, me) :: c.ffp } = (ff, c') →
      (ssid = fid → motive (0, c')) ∧
      (ssid ≠ fid → ∀ r1 r2, r1 = conflictsBetweenG s fx true fuel me fm ff.1 c' →
        r2 = sumLoop ff.2 (fun fr c => betweenFieldsAndFragmentG s fx true fuel me ssid fm fr c) r1.2 →
        motive (r1.1 + r2.1, r2.2))) :
    motive (betweenFieldsAndFragmentG s fx true (fuel + 1) me ssid fm name c) :=
  betweenFieldsAndFragmentG_cases s fx true fuel me ssid fm name c seen undef (fun _ => hit)
    (fun hn on fid fsels ff c' hg hm => miss hn on fid fsels ff c' hg (hm rfl))

/-- `_conflicts_between_fragments` on two names: nothing to compare; the pair is in the memo; it is not - the pair is
    recorded, and if both fragments are defined their fields are compared (`r0`) and the spreads of either followed
    against the other (`r1`, `r2`). -/
theorem betweenFragmentsG_cases {motive : Nat × OCtx → Prop} (h7 : fx.v7 = true) (fuel : Nat) (me : Bool)
    (f1 f2 : String) (c : OCtx)
    (same : f1 = "" ∨ f2 = "" ∨ f1 = f2 → motive (0, c))
    (hit : ((sortedPair f1 f2).1, (sortedPair f1 f2).2, me) ∈ c.pairs → motive (0, c))
    (undef : ((sortedPair f1 f2).1, (sortedPair f1 f2).2, me) ∉ c.pairs →
      AL.get? c.frags f1 = none ∨ AL.get? c.frags f2 = none →
      motive (0, { c with pairs := ((sortedPair f1 f2).1, (sortedPair f1 f2).2, me) :: c.pairs }))
    (miss : ¬ (f1 = "" ∨ f2 = "" ∨ f1 = f2) → ((sortedPair f1 f2).1, (sortedPair f1 f2).2, me) ∉ c.pairs →
      ∀ on1 id1 sels1 on2 id2 sels2 a ca b cb r0 r1 r2,
      AL.get? c.frags f1 = some (on1, id1, sels1) → AL.get? c.frags f2 = some (on2, id2, sels2) →
      fieldsAndFragments s ((typeFromAst s (.named on1)).map (·.base)) id1 sels1
        { c with pairs := ((sortedPair f1 f2).1, (sortedPair f1 f2).2, me) :: c.pairs } = (a, ca) →
      fieldsAndFragments s ((typeFromAst s (.named on2)).map (·.base)) id2 sels2 ca = (b, cb) →
      r0 = conflictsBetweenG s fx memo fuel me a.1 b.1 cb →
      r1 = sumLoop a.2 (fun fr c => betweenFragmentsG s fx memo fuel me (some fr) (some f2) c) r0.2 →
      r2 = sumLoop b.2 (fun fr c => betweenFragmentsG s fx memo fuel me (some f1) (some fr) c) r1.2 →
      motive (r0.1 + r1.1 + r2.1, r2.2)) :
    motive (betweenFragmentsG s fx memo (fuel + 1) me (some f1) (some f2) c) := by
  have test : c.pairs.any (fun k => k.1 == (sortedPair f1 f2).1 && k.2.1 == (sortedPair f1 f2).2 && k.2.2 == me) = true ↔
      ((sortedPair f1 f2).1, (sortedPair f1 f2).2, me) ∈ c.pairs := by
    rw [List.any_eq_true]
    constructor
    · rintro ⟨⟨x, y, z⟩, hk, he⟩
      simp only [Bool.and_eq_true, beq_iff_eq] at he
      obtain ⟨⟨rfl, rfl⟩, rfl⟩ := he
      exact hk
    · intro h
      exact ⟨_, h, by simp only [beq_self_eq_true, Bool.and_self]⟩
  simp only [betweenFragmentsG, h7, ↓reduceIte]
  split
  · rename_i h
    simp only [Bool.or_eq_true, beq_iff_eq] at h
    exact same (by rcases h with (h | h) | h <;> simp [h])
  · rename_i hne
    simp only [Bool.or_eq_true, beq_iff_eq] at hne
    split
    · exact hit (test.mp ‹_›)
    · have hnew := fun h => ‹¬ _› (test.mpr h)
      split
      · exact miss (fun h => hne (by rcases h with h | h | h <;> simp [h])) hnew _ _ _ _ _ _ _ _ _ _ _ _ _
          ‹_› ‹_› rfl rfl rfl rfl rfl
      · rename_i hno
        refine undef hnew ?_
        cases h1 : AL.get? c.frags f1 with
        | none => exact Or.inl rfl
        | some v1 =>
          cases h2 : AL.get? c.frags f2 with
          | none => exact Or.inr rfl
          | some v2 => exact absurd h2 (hno _ _ _ _ _ _ h1)

/-- `_conflicts_between_subselections`: the two field maps, then fields against fields (`r0`), the fields of either set
    against the fragments spread in the other (`r1`, `r2`, each fragment with a fresh `compared_fragments`), and the
    fragments of one against those of the other (`r3`). -/
theorem betweenSubselectionsG_cases {motive : Nat × OCtx → Prop} (fuel : Nat) (me : Bool) (p1 : Option String) (id1 : Nat)
    (sels1 : List Sel) (p2 : Option String) (id2 : Nat) (sels2 : List Sel) (c : OCtx)
    (h : ∀ a ca b cb r0 r1 r2 r3, fieldsAndFragments s p1 id1 sels1 c = (a, ca) →
      fieldsAndFragments s p2 id2 sels2 ca = (b, cb) →
      r0 = conflictsBetweenG s fx memo fuel me a.1 b.1 cb →
      r1 = sumLoop b.2 (fun fr c => withFreshCmp (betweenFieldsAndFragmentG s fx memo fuel me id1 a.1 fr) c) r0.2 →
      r2 = sumLoop a.2 (fun fr c => withFreshCmp (betweenFieldsAndFragmentG s fx memo fuel me id2 b.1 fr) c) r1.2 →
      r3 = sumLoop a.2 (fun g1 c => sumLoop b.2 (fun g2 c => betweenFragmentsG s fx memo fuel me (some g1) (some g2) c) c) r2.2 →
      motive (r0.1 + r1.1 + r2.1 + r3.1, r3.2)) :
    motive (betweenSubselectionsG s fx memo (fuel + 1) me p1 id1 sels1 p2 id2 sels2 c) := by
  rw [betweenSubselectionsG]
  exact h _ _ _ _ _ _ _ _ rfl rfl rfl rfl rfl rfl

/-- `find_conflicts_within_selection_set`: the field map, then the fields of each response name pairwise (`r0`), the
    fields against the fragments spread in the set (`r1`, one `compared_fragments` for all of them), and the fragments
    pairwise (`r2`). -/
theorem withinSelectionSetG_cases {motive : Nat × OCtx → Prop} (fuel : Nat) (p : Option String) (i : Nat)
    (sels : List Sel) (c : OCtx)
    (h : ∀ a ca r0 r1 r2, fieldsAndFragments s p i sels c = (a, ca) →
      r0 = sumLoop a.1 (fun q c => sumLoop (pairsOf q.2) (fun y c =>
        (if (findConflictG s fx memo fuel false y.1 y.2 c).1 = true then 1 else 0, (findConflictG s fx memo fuel false y.1 y.2 c).2)) c) ca →
      r1 = withFreshCmp (fun c => sumLoop a.2 (fun g c => betweenFieldsAndFragmentG s fx memo fuel false i a.1 g c) c) r0.2 →
      r2 = sumLoop (pairsOf a.2) (fun y c => betweenFragmentsG s fx memo fuel false (some y.1) (some y.2) c) r1.2 →
      motive (r0.1 + r1.1 + r2.1, r2.2)) :
    motive (withinSelectionSetG s fx memo fuel p i sels c) := by
  unfold withinSelectionSetG
  exact h _ _ _ _ _ rfl rfl rfl rfl

end
end PyGql.Validate
