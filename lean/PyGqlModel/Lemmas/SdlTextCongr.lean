/-
  C12 text level — what the printed text depends on.  Everything the printer, the denoted document and the predicate
  `printTextWF` take from the schema `s` below the top-level lists goes through `valueLit s` (applications are looked up by
  path, default values by type name): two schemas that give the same literals print their members alike (`_congr`).
  With the option off, the directive printer `SdlPrintTA` IS the directive-free printer `SdlPrintT` (`_off`).
-/
import PyGqlModel.Lemmas.SdlTextOrder
import PyGqlModel.SdlPrintTA
namespace PyGql.SdlText
open PyGql PyGql.Sdl PyGql.SdlPrint

def SameLits (s' s : SchemaD) : Prop := ∀ v ty, valueLit s' valueFuel v ty = valueLit s valueFuel v ty

section
variable {s' s : SchemaD} (h : SameLits s' s)
include h

theorem valueText_congr : SdlPrintT.valueText s' = SdlPrintT.valueText s := by
  funext v ty; simp only [SdlPrintT.valueText, h v ty]

theorem printInputValueA_congr : SdlPrintTA.printInputValue s' = SdlPrintTA.printInputValue s := by
  funext c apps path a; simp only [SdlPrintTA.printInputValue, valueText_congr h]

theorem printArgsA_congr (c : SdlPrintTA.OptsA) (apps : Apps) (path : String) (depth : Nat) (multi : Bool) : ∀ (l : List ArgD) (i : Nat),
    SdlPrintTA.printArgs s' c apps path depth multi i l = SdlPrintTA.printArgs s c apps path depth multi i l
  | [], _ => rfl
  | a :: as, i => by simp only [SdlPrintTA.printArgs, printInputValueA_congr h, printArgsA_congr c apps path depth multi as]

theorem printArgumentsA_congr : SdlPrintTA.printArguments s' = SdlPrintTA.printArguments s := by
  funext c apps path args depth; simp only [SdlPrintTA.printArguments, printArgsA_congr h]

theorem printFieldA_congr : SdlPrintTA.printField s' = SdlPrintTA.printField s := by
  funext c apps tname i f; simp only [SdlPrintTA.printField, printArgumentsA_congr h]

theorem printFieldsA_congr (c : SdlPrintTA.OptsA) (apps : Apps) (tname : String) : ∀ (l : List FieldD) (i : Nat),
    SdlPrintTA.printFields s' c apps tname i l = SdlPrintTA.printFields s c apps tname i l
  | [], _ => rfl
  | f :: fs, i => by simp only [SdlPrintTA.printFields, printFieldA_congr h, printFieldsA_congr c apps tname fs]

theorem printInputFieldsA_congr (c : SdlPrintTA.OptsA) (apps : Apps) (tname : String) : ∀ (l : List ArgD) (i : Nat),
    SdlPrintTA.printInputFields s' c apps tname i l = SdlPrintTA.printInputFields s c apps tname i l
  | [], _ => rfl
  | f :: fs, i => by
    simp only [SdlPrintTA.printInputFields, SdlPrintTA.printInputField, printInputValueA_congr h, printInputFieldsA_congr c apps tname fs]

theorem printTypeA_congr : SdlPrintTA.printType s' = SdlPrintTA.printType s := by
  funext c apps t; simp only [SdlPrintTA.printType, printFieldsA_congr h, printInputFieldsA_congr h]

theorem printDirectiveDefinitionA_congr : SdlPrintTA.printDirectiveDefinition s' = SdlPrintTA.printDirectiveDefinition s := by
  funext c apps d; simp only [SdlPrintTA.printDirectiveDefinition, printArgumentsA_congr h]

theorem argToDef_congr : argToDef s' = argToDef s := by
  funext a; simp only [argToDef, h a.default a.type]

theorem fieldToDef_congr : fieldToDef s' = fieldToDef s := by
  funext f; simp only [fieldToDef, argToDef_congr h]

theorem typeToDef_congr : typeToDef s' = typeToDef s := by
  funext t; simp only [typeToDef, argToDef_congr h, fieldToDef_congr h]

theorem directiveToDef_congr : directiveToDef s' = directiveToDef s := by
  funext d; simp only [directiveToDef, argToDef_congr h]

theorem argOKT_congr : argOKT s' = argOKT s := by
  funext w a; simp only [argOKT, h a.default a.type]

theorem fieldOKT_congr : fieldOKT s' = fieldOKT s := by
  funext w f; simp only [fieldOKT, argOKT_congr h]

theorem typeOKT_congr : typeOKT s' = typeOKT s := by
  funext w t; simp only [typeOKT, argOKT_congr h, fieldOKT_congr h]

theorem directiveOKT_congr : directiveOKT s' = directiveOKT s := by
  funext w d; simp only [directiveOKT, argOKT_congr h]

end


abbrev optsOff (o : SdlPrintT.OptsT) : SdlPrintTA.OptsA := { base := o, custom := false }

section
variable {c : SdlPrintTA.OptsA} (hc : c.custom = false)
include hc

theorem printDirectives_off (apps : Apps) (path : String) : SdlPrintTA.printDirectives c apps path = [] := by
  simp [SdlPrintTA.printDirectives, SdlPrintTA.nodesAt, hc]

theorem printInputValueA_off (s : SchemaD) (apps : Apps) (path : String) (a : ArgD) :
    SdlPrintTA.printInputValue s c apps path a = SdlPrintT.printInputValue s a := by
  simp only [SdlPrintTA.printInputValue, SdlPrintT.printInputValue, printDirectives_off hc, List.append_nil]

theorem printArgsA_off (s : SchemaD) (apps : Apps) (path : String) (depth : Nat) (multi : Bool) : ∀ (l : List ArgD) (i : Nat),
    SdlPrintTA.printArgs s c apps path depth multi i l = SdlPrintT.printArgs s c.base depth multi i l
  | [], _ => rfl
  | a :: as, i => by simp only [SdlPrintTA.printArgs, SdlPrintT.printArgs, printInputValueA_off hc, printArgsA_off s apps path depth multi as]

theorem printArgumentsA_off (s : SchemaD) (apps : Apps) (path : String) (args : List ArgD) (depth : Nat) :
    SdlPrintTA.printArguments s c apps path args depth = SdlPrintT.printArguments s c.base args depth := by
  simp only [SdlPrintTA.printArguments, SdlPrintT.printArguments, printArgsA_off hc]

theorem printFieldsA_off (s : SchemaD) (apps : Apps) (tname : String) : ∀ (l : List FieldD) (i : Nat),
    SdlPrintTA.printFields s c apps tname i l = SdlPrintT.printFields s c.base i l
  | [], _ => rfl
  | f :: fs, i => by
    simp only [SdlPrintTA.printFields, SdlPrintT.printFields, SdlPrintTA.printField, SdlPrintT.printField, printArgumentsA_off hc,
      printDirectives_off hc, List.append_nil, printFieldsA_off s apps tname fs]

theorem printEnumValuesA_off (apps : Apps) (tname : String) : ∀ (l : List EnumValD) (i : Nat),
    SdlPrintTA.printEnumValues c apps tname i l = SdlPrintT.printEnumValues c.base i l
  | [], _ => rfl
  | v :: vs, i => by
    simp only [SdlPrintTA.printEnumValues, SdlPrintT.printEnumValues, SdlPrintTA.printEnumValue, SdlPrintT.printEnumValue,
      printDirectives_off hc, List.append_nil, printEnumValuesA_off apps tname vs]

theorem printInputFieldsA_off (s : SchemaD) (apps : Apps) (tname : String) : ∀ (l : List ArgD) (i : Nat),
    SdlPrintTA.printInputFields s c apps tname i l = SdlPrintT.printInputFields s c.base i l
  | [], _ => rfl
  | f :: fs, i => by
    simp only [SdlPrintTA.printInputFields, SdlPrintT.printInputFields, SdlPrintTA.printInputField, SdlPrintT.printInputField,
      printInputValueA_off hc, printInputFieldsA_off s apps tname fs]

theorem printTypeA_off (s : SchemaD) (apps : Apps) (t : TypeD) : SdlPrintTA.printType s c apps t = SdlPrintT.printType s c.base t := by
  simp only [SdlPrintTA.printType, SdlPrintT.printType, printDirectives_off hc, List.append_nil, printFieldsA_off hc,
    printEnumValuesA_off hc, printInputFieldsA_off hc]
  cases t.kind <;> simp

theorem printDirectiveDefinitionA_off (s : SchemaD) (apps : Apps) (d : DirectiveD) :
    SdlPrintTA.printDirectiveDefinition s c apps d = SdlPrintT.printDirectiveDefinition s c.base d := by
  simp only [SdlPrintTA.printDirectiveDefinition, SdlPrintT.printDirectiveDefinition, printArgumentsA_off hc]

theorem printSchemaTA_off (s : SchemaD) (apps : Apps) : SdlPrintTA.printSchemaTA c s apps = SdlPrintT.printSchemaT c.base s := by
  have e1 : SdlPrintTA.printSchemaDefinition s c apps = SdlPrintT.printSchemaDefinition c.base s := by
    simp [SdlPrintTA.printSchemaDefinition, SdlPrintT.printSchemaDefinition, SdlPrintTA.needsSchemaBlockA, SdlPrintTA.nodesAt, hc,
      printDirectives_off hc]
  have e2 : SdlPrintTA.printDirectiveDefinition s c apps = SdlPrintT.printDirectiveDefinition s c.base := by
    funext d; exact printDirectiveDefinitionA_off hc s apps d
  have e3 : SdlPrintTA.printType s c apps = SdlPrintT.printType s c.base := by
    funext t; exact printTypeA_off hc s apps t
  simp only [SdlPrintTA.printSchemaTA, SdlPrintT.printSchemaT, e1, e2, e3]

theorem keptAt_off (apps : Apps) (path : String) : SdlPrintTA.keptAt c apps path = [] := by
  simp [SdlPrintTA.keptAt, SdlPrintTA.nodesAt, hc]

theorem argToDefA_off (s : SchemaD) (apps : Apps) (path : String) : SdlPrintTA.argToDefA s c apps path = argToDef s := by
  funext a; simp [SdlPrintTA.argToDefA, argToDef, keptAt_off hc]

theorem schemaToDocA_off (s : SchemaD) (apps : Apps) : SdlPrintTA.schemaToDocA s c apps = schemaToDoc s := by
  simp [SdlPrintTA.schemaToDocA, schemaToDoc, SdlPrintTA.needsSchemaBlockA, SdlPrintTA.nodesAt, hc, SdlPrintTA.directiveToDefA,
    directiveToDef, SdlPrintTA.typeToDefA, typeToDef, SdlPrintTA.fieldToDefA, fieldToDef, SdlPrintTA.enumValToDefA, enumValToDef,
    argToDefA_off hc, keptAt_off hc]

theorem appsOKAt_off (apps : Apps) (path : String) : SdlPrintTA.appsOKAt c apps path = true := by
  simp [SdlPrintTA.appsOKAt, keptAt_off hc]

theorem printTextWFA_off (s : SchemaD) (apps : Apps) : SdlPrintTA.printTextWFA c s apps = printTextWF c.base s := by
  have e1 : s.types.all (SdlPrintTA.typeAppsOK c apps) = true := by
    simp [SdlPrintTA.typeAppsOK, SdlPrintTA.fieldAppsOK, SdlPrintTA.argAppsOK, appsOKAt_off hc]
  have e2 : s.directives.all (SdlPrintTA.directiveAppsOK c apps) = true := by
    simp [SdlPrintTA.directiveAppsOK, SdlPrintTA.argAppsOK, appsOKAt_off hc]
  have e3 : SdlPrintTA.needsSchemaBlockA s c apps = needsSchemaBlock s := by
    simp [SdlPrintTA.needsSchemaBlockA, SdlPrintTA.nodesAt, hc]
  simp only [SdlPrintTA.printTextWFA, appsOKAt_off hc, e1, e2, e3, Bool.and_true]
  -- the last clause is one of `printTextWF`
  cases h : printTextWF c.base s with
  | false => rfl
  | true =>
    simp only [printTextWF, Bool.and_eq_true] at h
    simp only [h.1.2, Bool.and_true]

end

end PyGql.SdlText
