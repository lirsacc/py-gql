/-
  C04 — what a successful run of the specification's collector guarantees about the unpruned expansion (`Met`,
  `Lemmas/C04Met.lean`) — spec completeness (`sseq_facts`): everything met has been dealt with (`Done`: its directives
  evaluate, its node has appeared, its name is visited) — given the CLOSURE invariant (every visited fragment that is
  not still being expanded is covered: everything met in its body has been dealt with); ranks exclude the fragments in
  progress.
-/
import PyGqlModel.Lemmas.C04Met
import PyGqlModel.Props.C04_total


namespace PyGql.Props.C04
open PyGql PyGql.Exec PyGql.Spec

/-- the selection `x` has been dealt with: its directives can be evaluated, the node it yields has appeared (`A`), the
    fragment it names is visited (`V`) -/
def Done (vars : Vars) (A : FNode → Prop) (V : List String) (x : Sel) : Prop :=
  (∃ b, skipSelection vars (ownDirs x) = .ok b) ∧ (∀ n, Yields vars x n → A n) ∧
  ∀ nm dirs, x = .spread nm dirs → skipSelection vars dirs = .ok false → nm ∈ V

/-- fragment `F` is COVERED: everything met in its body has been dealt with -/
def Covered (s : SchemaD) (doc : Doc) (vars : Vars) (obj : String) (A : FNode → Prop) (V : List String) (F : String) : Prop :=
  ∀ fr, doc.fragment? F = some fr → fragmentTypeApplies s obj (some fr.on) = .ok true →
    ∀ y, Met s doc vars obj fr.sels y → Done vars A V y

/-- every visited fragment is covered, except those still being expanded (rank ≥ `r`) -/
def Closed (s : SchemaD) (doc : Doc) (vars : Vars) (obj : String) (rk : String → Nat) (r : Nat) (A : FNode → Prop) (V : List String) : Prop :=
  ∀ F ∈ V, r ≤ rk F ∨ Covered s doc vars obj A V F

/-- after `sels` has been processed from (`A`, `V`) with the nodes `q` collected and the set `V'` visited: everything
    met is dealt with, every newly visited fragment is covered, nothing visited is forgotten -/
def Facts (s : SchemaD) (doc : Doc) (vars : Vars) (obj : String) (sels : List Sel) (A : FNode → Prop) (V : List String)
    (q : List FNode) (V' : List String) : Prop :=
  (∀ y, Met s doc vars obj sels y → Done vars (fun n => A n ∨ n ∈ q) V' y) ∧
  (∀ G ∈ V', G ∈ V ∨ Covered s doc vars obj (fun n => A n ∨ n ∈ q) V' G) ∧ ∀ G ∈ V, G ∈ V'

def SpecFacts (s : SchemaD) (doc : Doc) (vars : Vars) (rk : String → Nat) (f : SeqFn) : Prop :=
  ∀ obj sels V q V' (A : FNode → Prop) (r : Nat), f obj sels V = .ok (q, V') → selsNeed rk sels ≤ r →
    Closed s doc vars obj rk r A V → Facts s doc vars obj sels A V q V'

section
variable {s : SchemaD} {doc : Doc} {vars : Vars} {obj : String}

theorem Done.mono {A A' : FNode → Prop} {V V' : List String} {x : Sel} (h : Done vars A V x) (ha : ∀ n, A n → A' n)
    (hv : ∀ N ∈ V, N ∈ V') : Done vars A' V' x :=
  ⟨h.1, fun n hn => ha n (h.2.1 n hn), fun nm dirs hx hs => hv nm (h.2.2 nm dirs hx hs)⟩

theorem Covered.mono {A A' : FNode → Prop} {V V' : List String} {F : String} (h : Covered s doc vars obj A V F)
    (ha : ∀ n, A n → A' n) (hv : ∀ N ∈ V, N ∈ V') : Covered s doc vars obj A' V' F :=
  fun fr hf hap y hy => (h fr hf hap y hy).mono ha hv

theorem Closed.after {rk : String → Nat} {r : Nat} {A : FNode → Prop} {V V1 : List String} {x : Sel} {q1 : List FNode}
    (hcl : Closed s doc vars obj rk r A V) (hh : Facts s doc vars obj [x] A V q1 V1) :
    Closed s doc vars obj rk r (fun n => A n ∨ n ∈ q1) V1 := by
  intro G hG
  rcases hh.2.1 G hG with hGV | hcov
  · exact (hcl G hGV).imp_right fun h => h.mono (fun n => Or.inl) hh.2.2
  · exact Or.inr hcov

/-- the closure handed to the expansion of fragment `name` (rank `rk name`), which is now in progress -/
theorem Closed.body {name : String} {rk : String → Nat} {r : Nat} {A : FNode → Prop} {V : List String}
    (hcl : Closed s doc vars obj rk r A V) (hr : rk name < r) : Closed s doc vars obj rk (rk name) A (V ++ [name]) := by
  intro G hG
  rcases List.mem_append.1 hG with hG | hG
  · rcases hcl G hG with h1 | h1
    · exact Or.inl (by omega)
    · exact Or.inr (h1.mono (fun n hn => hn) (fun N hN => List.mem_append_left _ hN))
  · cases List.mem_singleton.1 hG
    exact Or.inl (Nat.le_refl _)

theorem Facts.cons {x : Sel} {rest : List Sel} {A : FNode → Prop} {V V1 V2 : List String} {q1 q2 : List FNode}
    (h1 : Facts s doc vars obj [x] A V q1 V1) (h2 : Facts s doc vars obj rest (fun n => A n ∨ n ∈ q1) V1 q2 V2) :
    Facts s doc vars obj (x :: rest) A V (q1 ++ q2) V2 := by
  have hA1 : ∀ n, (A n ∨ n ∈ q1) → A n ∨ n ∈ q1 ++ q2 := fun n hn => hn.imp_right (List.mem_append_left _)
  have hA2 : ∀ n, ((A n ∨ n ∈ q1) ∨ n ∈ q2) → A n ∨ n ∈ q1 ++ q2 := fun n hn =>
    hn.elim (hA1 n) fun h => Or.inr (List.mem_append_right _ h)
  refine ⟨fun y hy => ?_, fun G hG => ?_, fun G hG => h2.2.2 G (h1.2.2 G hG)⟩
  · rcases hy.cons_split with hy | hy
    · exact (h1.1 y hy).mono hA1 h2.2.2
    · exact (h2.1 y hy).mono hA2 fun _ h => h
  · rcases h2.2.1 G hG with hG1 | hcov
    · exact (h1.2.1 G hG1).imp_right fun h => h.mono hA1 h2.2.2
    · exact Or.inr (hcov.mono hA2 fun _ h => h)

/-- a single selection: itself, and whatever it opens -/
theorem Facts.single {x : Sel} {A : FNode → Prop} {V V1 : List String} {q1 : List FNode}
    (hx : Done vars (fun n => A n ∨ n ∈ q1) V1 x)
    (hsub : ∀ sub name, Opens s doc vars obj x sub name → ∀ y, Met s doc vars obj sub y → Done vars (fun n => A n ∨ n ∈ q1) V1 y)
    (hnew : ∀ G ∈ V1, G ∈ V ∨ Covered s doc vars obj (fun n => A n ∨ n ∈ q1) V1 G) (hsubset : ∀ G ∈ V, G ∈ V1) :
    Facts s doc vars obj [x] A V q1 V1 := by
  refine ⟨fun y hy => ?_, hnew, hsubset⟩
  rcases hy.single with rfl | ⟨sub, name, ho, hy⟩
  · exact hx
  · exact hsub sub name ho y hy

/-- the specification passes over `x`: nothing new, or only the name of a spread that opens nothing -/
theorem Facts.pass {x : Sel} {rk : String → Nat} {r : Nat} {A : FNode → Prop} {V V1 : List String}
    (hx : HeadSpecS s doc vars obj x V (.ok (.pass V1))) (hneed : selNeed rk x ≤ r) (hcl : Closed s doc vars obj rk r A V) :
    Facts s doc vars obj [x] A V [] V1 := by
  obtain ⟨hown, hny, hcase⟩ := hx
  rcases hcase with ⟨rfl, hvis, hnone⟩ | ⟨nm, dirs, rfl, hsk, rfl, hno⟩
  · refine Facts.single ⟨hown, fun n hn => absurd hn (hny n), hvis⟩ (fun sub name ho y hy => ?_) (fun G hG => Or.inl hG) (fun G hG => hG)
    -- a spread of a visited fragment of rank below `r`: the fragment is covered
    cases ho with
    | inline hs hap => exact absurd (.inline hs hap) (hnone _)
    | spread hs hf hap =>
      simp only [selNeed] at hneed
      rcases hcl _ (hvis _ _ rfl hs) with h1 | h1
      · omega
      · exact (h1 _ hf hap y hy).mono (fun n => Or.inl) (fun _ h => h)
  · refine Facts.single ⟨hown, fun n hn => absurd hn (hny n), fun _ _ he _ => by cases he; simp⟩
      (fun sub name ho => absurd ho (hno _ _)) (fun G hG => ?_) (fun G hG => List.mem_append_left _ hG)
    rcases List.mem_append.1 hG with hG | hG
    · exact Or.inl hG
    · cases List.mem_singleton.1 hG
      exact Or.inr fun fr hf ha => absurd (.spread hsk hf ha) (hno _ _)

theorem Facts.keep {x : Sel} {n : FNode} {A : FNode → Prop} {V : List String} (hx : Yields vars x n) :
    Facts s doc vars obj [x] A V [n] V := by
  cases hx with
  | field hsk =>
    exact Facts.single ⟨⟨_, hsk⟩, fun m hm => by cases hm; exact Or.inr (List.mem_singleton.2 rfl), fun _ _ h => nomatch h⟩
      (fun sub name ho => nomatch ho) (fun G hG => Or.inl hG) (fun G hG => hG)

/-- `x` opened `sels`, whose processing from (`A`, `enter V name`) is known -/
theorem Facts.expand {x : Sel} {sels : List Sel} {name : Option String} {A : FNode → Prop} {V V1 : List String}
    {q1 : List FNode} (ho : Opens s doc vars obj x sels name) (hf : Facts s doc vars obj sels A (enter V name) q1 V1) :
    Facts s doc vars obj [x] A V q1 V1 := by
  obtain ⟨f1, f2, f3⟩ := hf
  have hsub : ∀ sub name', Opens s doc vars obj x sub name' → ∀ y, Met s doc vars obj sub y → Done vars (fun n => A n ∨ n ∈ q1) V1 y :=
    fun sub name' ho' => (ho.unique ho').1 ▸ f1
  cases ho with
  | inline hs ha => exact Facts.single ⟨⟨_, hs⟩, fun n hn => (nomatch hn), fun _ _ h => nomatch h⟩ hsub f2 f3
  | @spread nm dirs fr hs hf ha =>
    refine Facts.single ⟨⟨_, hs⟩, fun n hn => (nomatch hn), fun _ _ he _ => ?_⟩ hsub (fun G hG => ?_)
      (fun G hG => f3 G (List.mem_append_left _ hG))
    · cases he
      exact f3 _ (List.mem_append_right _ (List.mem_singleton.2 rfl))
    · rcases f2 G hG with h1 | h1
      · rcases List.mem_append.1 h1 with h1 | h1
        · exact Or.inl h1
        · cases List.mem_singleton.1 h1
          exact Or.inr fun fr' hf' _ => by rw [hf] at hf'; cases hf'; exact f1
      · exact Or.inr h1

theorem sseqStep_facts {rk ek : String → Nat} {B : Nat} (hrk : Ranked doc rk ek B) (r : Nat) {rec : SeqFn}
    (hrec : SpecFacts s doc vars rk rec) (obj : String) :
    ∀ (sels : List Sel), selsNeed rk sels ≤ r → ∀ (V : List String) (q : List FNode) (V' : List String) (A : FNode → Prop),
      sseqStep s doc vars rec obj sels V = .ok (q, V') → Closed s doc vars obj rk r A V → Facts s doc vars obj sels A V q V' := by
  intro sels
  induction sels with
  | nil =>
    intro _ V q V' A h _
    cases h
    exact ⟨fun y hy => absurd hy not_met_nil, fun G hG => Or.inl hG, fun G hG => hG⟩
  | cons x rest ih =>
    intro hneed V q V' A h hcl
    simp only [selsNeed, Nat.max_le] at hneed
    have hx := headActS_spec (s := s) (doc := doc) (vars := vars) (obj := obj) (V := V) x
    rw [sseqStep] at h
    obtain ⟨a, ha, h⟩ := bind_eq_ok h
    rw [ha] at hx
    have tail : ∀ {q1 V1 q2}, Facts s doc vars obj [x] A V q1 V1 → sseqStep s doc vars rec obj rest V1 = .ok (q2, V') →
        Facts s doc vars obj (x :: rest) A V (q1 ++ q2) V' :=
      fun hh hr => hh.cons (ih hneed.2 _ _ _ _ hr (hcl.after hh))
    cases a with
    | pass V1 => exact tail (Facts.pass hx hneed.1 hcl) h
    | keep n =>
      obtain ⟨q2, hr, rfl⟩ := seqAppend_ok (q1 := [n]) h
      exact tail (Facts.keep hx) hr
    | expand sels V1 =>
      obtain ⟨name, ho, rfl, _⟩ := hx
      obtain ⟨⟨q1, V2⟩, hr1, h⟩ := bind_eq_ok h
      obtain ⟨q2, hr, rfl⟩ := seqAppend_ok h
      have hn := hneed.1
      cases ho with
      | inline hs hap =>
        simp only [selNeed] at hn
        exact tail (Facts.expand (.inline hs hap) (hrec obj _ V q1 V2 A r hr1 (by omega) hcl)) hr
      | spread hs hf hap =>
        simp only [selNeed] at hn
        exact tail (Facts.expand (.spread hs hf hap)
          (hrec obj _ (V ++ [_]) q1 V2 A (rk _) hr1 (hrk.collect _ _ hf) (hcl.body (by omega)))) hr

theorem sseq_facts {rk ek : String → Nat} {B : Nat} (hrk : Ranked doc rk ek B) (n : Nat) : SpecFacts s doc vars rk (sseq s doc vars n) := by
  induction n with
  | zero => intro obj sels V q V' A r h; cases h
  | succ n ih => exact fun obj sels V q V' A r h hneed hcl => sseqStep_facts hrk r ih obj sels hneed V q V' A h hcl

end
end PyGql.Props.C04
