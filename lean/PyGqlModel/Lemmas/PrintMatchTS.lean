/-
  The views of location-free type-system definitions (member descriptions removed) are matched by their canonical yield.
-/
import PyGqlModel.Lemmas.PrintMatchExec
import PyGqlModel.Lemmas.PrintStrip
namespace PyGql.PrintTokens
open PyGql PyGql.Ast PyGql.Parse PyGql.Spec PyGql.Print PyGql.PrintLex PyGql.PrintMatch

def noLocNamedType (t : NamedType) : Bool := t.loc.isNone && t.name.loc.isNone
def noLocDesc : Option StringValue → Bool
  | none => true
  | some s => s.loc.isNone
def noLocInputValue (d : InputValueDefinition) : Bool :=
  d.loc.isNone && d.name.loc.isNone && noLocType d.type &&
  (match d.defaultValue with | some v => noLocValue v | none => true) && d.directives.all noLocDirective
def noLocFieldDef (d : FieldDefinition) : Bool :=
  d.loc.isNone && d.name.loc.isNone && d.arguments.all noLocInputValue && noLocType d.type && d.directives.all noLocDirective
def noLocEnumValue (d : EnumValueDefinition) : Bool := d.loc.isNone && d.name.loc.isNone && d.directives.all noLocDirective
def noLocOpType (d : OperationTypeDefinition) : Bool := d.loc.isNone && noLocNamedType d.type

theorem plain_namedTypeV (t : NamedType) (h : noLocNamedType t = true) : plain (namedTypeV t) = true := by
  simp [noLocNamedType] at h
  simp [namedTypeV, nameV, plain, plainAll, Item.yieldAll, Item.yield, h.1, h.2]

theorem plain_nameV (n : Name) (h : n.loc.isNone = true) : plain (nameV n) = true := by
  simp at h; simp [nameV, plain, plainAll, Item.yieldAll, Item.yield, h]

theorem plainAll_descV (o : Option StringValue) (h : noLocDesc o = true) : plainAll (descV o) = true := by
  cases o with
  | none => rfl
  | some s => simp [noLocDesc] at h; simp [descV, optV, stringV, plainAll, plain, Item.yieldAll, Item.yield, h]

theorem plain_inputValueV (d : InputValueDefinition) (h : noLocInputValue d = true)
    (hdesc : noLocDesc d.description = true) : plain (inputValueV d) = true := by
  simp only [noLocInputValue, Bool.and_eq_true, Option.isNone_iff_eq_none] at h
  obtain ⟨⟨⟨⟨h1, h2⟩, h3⟩, h4⟩, h5⟩ := h
  have hd := plainAll_directivesV d.directives h5
  have ht := plain_typeV d.type h3
  have hs := plainAll_descV d.description hdesc
  have hdef : plainAll (defaultV d.defaultValue) = true := by
    cases hv : d.defaultValue with
    | none => rfl
    | some v => rw [hv] at h4; simp [defaultV, plainAll, plain, plain_valueV v h4]
  simp [inputValueV, nameV, plain, plainAll, plainAll_append, yieldAll_append, Item.yieldAll, Item.yield, h1, h2, hd, ht, hdef, hs]

/-- the descriptions of a member carry no positions (`noLocInputValue`, `noLocFieldDef`, `noLocEnumValue` do not look at them) -/
def descNoLocIV (d : InputValueDefinition) : Bool := noLocDesc d.description
def descNoLocFD (d : FieldDefinition) : Bool := noLocDesc d.description && d.arguments.all descNoLocIV
def descNoLocEV (d : EnumValueDefinition) : Bool := noLocDesc d.description

theorem plainAll_argDefsV (ds : List InputValueDefinition) (h : ds.all noLocInputValue = true) (hdesc : ds.all descNoLocIV = true) :
    plainAll (groupV .parenL .parenR inputValueV ds) = true :=
  plainAll_groupV _ _ inputValueV ds fun x hx => plain_inputValueV x ((List.all_eq_true.1 h) x hx) ((List.all_eq_true.1 hdesc) x hx)

theorem plain_fieldDefinitionV (d : FieldDefinition) (h : noLocFieldDef d = true) (hdesc : descNoLocFD d = true) :
    plain (fieldDefinitionV d) = true := by
  simp only [noLocFieldDef, Bool.and_eq_true, Option.isNone_iff_eq_none] at h
  simp only [descNoLocFD, Bool.and_eq_true] at hdesc
  obtain ⟨⟨⟨⟨h1, h2⟩, h3⟩, h4⟩, h5⟩ := h
  have hd := plainAll_directivesV d.directives h5
  have ht := plain_typeV d.type h4
  have ha := plainAll_argDefsV d.arguments h3 hdesc.2
  have hs := plainAll_descV d.description hdesc.1
  simp [fieldDefinitionV, nameV, plain, plainAll, plainAll_append, yieldAll_append, Item.yieldAll, Item.yield, h1, h2, hd, ht, ha, hs]

theorem plain_enumValueDefinitionV (d : EnumValueDefinition) (h : noLocEnumValue d = true)
    (hdesc : noLocDesc d.description = true) : plain (enumValueDefinitionV d) = true := by
  simp only [noLocEnumValue, Bool.and_eq_true, Option.isNone_iff_eq_none] at h
  have hd := plainAll_directivesV d.directives h.2
  have hs := plainAll_descV d.description hdesc
  simp [enumValueDefinitionV, nameV, plain, plainAll, plainAll_append, yieldAll_append, Item.yieldAll, Item.yield, h.1.1, h.1.2, hd, hs]

theorem plain_operationTypeV (d : OperationTypeDefinition) (h : noLocOpType d = true) : plain (operationTypeV d) = true := by
  simp only [noLocOpType, Bool.and_eq_true, Option.isNone_iff_eq_none] at h
  simp [operationTypeV, kw, plain, plainAll, Item.yieldAll, Item.yield, h.1, plain_namedTypeV d.type h.2]

theorem plainAllF_sepV {α} (sep : TokKind) (hsep : sep ≠ .name) (f : α → Item) (xs : List α) (fol : List TokClass)
    (hp : ∀ x ∈ xs, plain (f x) = true) (hh : ∀ x ∈ xs, ∃ v tl, (f x).yield = (.name, v) :: tl) :
    plainAllF (sepV sep f xs) fol = true := by
  cases xs with
  | nil => rfl
  | cons x xs =>
    obtain ⟨v, tl, hv⟩ := hh x (by simp)
    have hrest : plainAll (xs.flatMap fun y => [p sep, f y]) = true := by
      induction xs with
      | nil => rfl
      | cons y ys ih =>
        simp only [List.flatMap_cons, List.cons_append, List.nil_append, plainAll, plain, Bool.true_and, Bool.and_eq_true]
        exact ⟨hp y (by simp), ih (fun z hz => hp z (by simp at hz ⊢; rcases hz with rfl | hz; exact Or.inl rfl; exact Or.inr (Or.inr hz)))
          (fun z hz => hh z (by simp at hz ⊢; rcases hz with rfl | hz; exact Or.inl rfl; exact Or.inr (Or.inr hz)))⟩
    simp only [sepV, plainAllF, plainF, Item.yieldAll, hv, List.cons_append, List.head?_cons, Bool.and_eq_true, bne_iff_ne, ne_eq,
      Option.some.injEq, Prod.mk.injEq, not_and]
    refine ⟨fun e => absurd e.symm hsep, plainF_of_plain _ _ (hp x (by simp)), plainAllF_of_plainAll _ _ hrest⟩

theorem plainAllF_blockV {α} (f : α → Item) (xs : List α) (fol : List TokClass) (hp : ∀ x ∈ xs, plain (f x) = true)
    (hf : xs.isEmpty = true → (fol.head?.map Prod.fst) ≠ some .curlyL) : plainAllF (blockV f xs) fol = true := by
  unfold blockV
  split
  · rename_i he
    simp only [plainAllF, plainF, Item.yieldAll, List.nil_append, Bool.and_true, bne_iff_ne, ne_eq]
    exact hf he
  · apply plainAllF_of_plainAll
    simp [plainAll, plainAll_append, plain, plainAll_map f xs hp]


theorem pf_cons_plain {i : Item} {is : List Item} {fol : List TokClass} (hi : plain i = true) (h : plainAllF is fol = true) :
    plainAllF (i :: is) fol = true := by
  simp only [plainAllF, Bool.and_eq_true]; exact ⟨plainF_of_plain i _ hi, h⟩
theorem pf_append_plain {a b : List Item} {fol : List TokClass} (ha : plainAll a = true) (hb : plainAllF b fol = true) :
    plainAllF (a ++ b) fol = true := by
  rw [plainAllF_append, plainAllF_of_plainAll a _ ha, hb]; rfl
theorem pf_append_all {a b : List Item} {fol : List TokClass} (ha : ∀ f', plainAllF a f' = true) (hb : plainAllF b fol = true) :
    plainAllF (a ++ b) fol = true := by
  rw [plainAllF_append, ha, hb]; rfl
theorem pf_of_plainAll {a : List Item} {fol : List TokClass} (ha : plainAll a = true) : plainAllF a fol = true :=
  plainAllF_of_plainAll a fol ha

theorem namedTypeV_head (t : NamedType) : ∃ v tl, (namedTypeV t).yield = (.name, v) :: tl :=
  ⟨t.name.value, [], by simp [namedTypeV, nameV, Item.yield, Item.yieldAll]⟩
theorem nameV_head (n : Name) : ∃ v tl, (nameV n).yield = (.name, v) :: tl :=
  ⟨n.value, [], by simp [nameV, Item.yield, Item.yieldAll]⟩

theorem pf_implementsV (ifs : List NamedType) (h : ifs.all noLocNamedType = true) (fol : List TokClass) :
    plainAllF (implementsV ifs) fol = true := by
  unfold implementsV
  split
  · rfl
  · exact pf_cons_plain rfl (plainAllF_sepV .amp (by decide +kernel) namedTypeV ifs fol
      (fun x hx => plain_namedTypeV x ((List.all_eq_true.1 h) x hx)) (fun x _ => namedTypeV_head x))

theorem pf_unionMembersV (ts : List NamedType) (h : ts.all noLocNamedType = true) (fol : List TokClass) :
    plainAllF (unionMembersV ts) fol = true := by
  unfold unionMembersV
  split
  · rfl
  · exact pf_cons_plain rfl (plainAllF_sepV .pipe (by decide +kernel) namedTypeV ts fol
      (fun x hx => plain_namedTypeV x ((List.all_eq_true.1 h) x hx)) (fun x _ => namedTypeV_head x))

/-- no positions in a type-system definition (member descriptions are ignored: they are removed by `stripDef`) -/
def noLocTSDefinition : Definition → Bool
  | .schemaDefinition dirs ops loc => loc.isNone && dirs.all noLocDirective && ops.all noLocOpType
  | .schemaExtension dirs ops loc => loc.isNone && dirs.all noLocDirective && ops.all noLocOpType
  | .scalarTypeDefinition desc name dirs loc => loc.isNone && noLocDesc desc && name.loc.isNone && dirs.all noLocDirective
  | .scalarTypeExtension name dirs loc => loc.isNone && name.loc.isNone && dirs.all noLocDirective
  | .objectTypeDefinition desc name ifs dirs fields loc =>
    loc.isNone && noLocDesc desc && name.loc.isNone && ifs.all noLocNamedType && dirs.all noLocDirective && fields.all noLocFieldDef
  | .objectTypeExtension name ifs dirs fields loc =>
    loc.isNone && name.loc.isNone && ifs.all noLocNamedType && dirs.all noLocDirective && fields.all noLocFieldDef
  | .interfaceTypeDefinition desc name dirs fields loc =>
    loc.isNone && noLocDesc desc && name.loc.isNone && dirs.all noLocDirective && fields.all noLocFieldDef
  | .interfaceTypeExtension name dirs fields loc => loc.isNone && name.loc.isNone && dirs.all noLocDirective && fields.all noLocFieldDef
  | .unionTypeDefinition desc name dirs types loc =>
    loc.isNone && noLocDesc desc && name.loc.isNone && dirs.all noLocDirective && types.all noLocNamedType
  | .unionTypeExtension name dirs types loc => loc.isNone && name.loc.isNone && dirs.all noLocDirective && types.all noLocNamedType
  | .enumTypeDefinition desc name dirs values loc =>
    loc.isNone && noLocDesc desc && name.loc.isNone && dirs.all noLocDirective && values.all noLocEnumValue
  | .enumTypeExtension name dirs values loc => loc.isNone && name.loc.isNone && dirs.all noLocDirective && values.all noLocEnumValue
  | .inputObjectTypeDefinition desc name dirs fields loc =>
    loc.isNone && noLocDesc desc && name.loc.isNone && dirs.all noLocDirective && fields.all noLocInputValue
  | .inputObjectTypeExtension name dirs fields loc => loc.isNone && name.loc.isNone && dirs.all noLocDirective && fields.all noLocInputValue
  | .directiveDefinition desc name args locations loc =>
    loc.isNone && noLocDesc desc && name.loc.isNone && args.all noLocInputValue && locations.all (fun n => n.loc.isNone)
  | _ => false

/-- the descriptions of the members of a type-system definition carry no positions -/
def noLocMembers : Definition → Bool
  | .objectTypeDefinition _ _ _ _ fields _ | .objectTypeExtension _ _ _ fields _
  | .interfaceTypeDefinition _ _ _ fields _ | .interfaceTypeExtension _ _ fields _ => fields.all descNoLocFD
  | .enumTypeDefinition _ _ _ values _ | .enumTypeExtension _ _ values _ => values.all descNoLocEV
  | .inputObjectTypeDefinition _ _ _ fields _ | .inputObjectTypeExtension _ _ fields _ => fields.all descNoLocIV
  | .directiveDefinition _ _ args _ _ => args.all descNoLocIV
  | _ => true

/-- a definition node `Description? keyword …`: never empty, so only its parts matter -/
theorem plainF_defNode {loc : Loc} {desc : Option StringValue} {k : Text} {rest : List Item} {fol : List TokClass}
    (hloc : loc.isNone = true) (hd : noLocDesc desc = true) (hrest : plainAllF rest fol = true) :
    plainF (.node loc (descV desc ++ kw k :: rest)) fol = true := by
  simp only [plainF, hloc, Bool.true_and, Bool.and_eq_true, Bool.not_eq_true', List.isEmpty_eq_false_iff]
  exact ⟨pf_append_plain (plainAll_descV desc hd) (pf_cons_plain rfl hrest),
    by simp [yieldAll_append, Item.yieldAll, Item.yield, kw]⟩

theorem pf_block {α} (V : α → Item) {p q : α → Bool} (xs : List α) (hp : xs.all p = true) (hq : xs.all q = true)
    (hV : ∀ x, p x = true → q x = true → plain (V x) = true) (fol : List TokClass)
    (hf : xs.isEmpty = true → (fol.head?.map Prod.fst) ≠ some .curlyL) : plainAllF (blockV V xs) fol = true :=
  plainAllF_blockV V xs fol (fun x hx => hV x ((List.all_eq_true.1 hp) x hx) ((List.all_eq_true.1 hq) x hx)) hf

end PyGql.PrintTokens
