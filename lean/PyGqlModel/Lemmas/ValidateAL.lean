/-
  Association lists with `OrderedDict` behaviour (`Validate/Ast.lean: AL`): look-up semantics of `set` / `modify`,
  and the well-formedness invariant (keys pairwise distinct) under which iterating over the items is the same
  as looking the keys up.
-/
import PyGqlModel.Validate.Variables
namespace PyGql.Validate.AL
variable {α : Type}

theorem get?_nil (k : String) : get? ([] : AL α) k = none := rfl

theorem get?_cons (p : String × α) (m : AL α) (k : String) :
    get? (p :: m) k = if p.1 = k then some p.2 else get? m k := by
  unfold get?
  by_cases h : p.1 = k <;> simp [h]

theorem has_cons (p : String × α) (m : AL α) (k : String) : has (p :: m) k = (decide (p.1 = k) || has m k) := by
  unfold has; simp only [List.any_cons]; congr 1

theorem has_eq_isSome (m : AL α) (k : String) : has m k = (get? m k).isSome := by
  induction m with
  | nil => rfl
  | cons p m ih => rw [has_cons, get?_cons, ih]; by_cases h : p.1 = k <;> simp [h]

theorem get?_append_single (m : AL α) (k k' : String) (v : α) :
    get? (m ++ [(k, v)]) k' = (get? m k').or (if k = k' then some v else none) := by
  induction m with
  | nil => simp [get?_cons, get?_nil]
  | cons p m ih => rw [List.cons_append, get?_cons, get?_cons, ih]; by_cases h : p.1 = k' <;> simp [h]

theorem get?_map_set (m : AL α) (k k' : String) (v : α) :
    get? (m.map fun p => if p.1 == k then (k, v) else p) k' =
      if k' = k then (if has m k then some v else none) else get? m k' := by
  induction m with
  | nil => simp [get?_nil, has]
  | cons p m ih =>
    rw [List.map_cons, get?_cons, ih, has_cons, get?_cons]
    by_cases h1 : p.1 = k
    · subst h1
      by_cases h2 : k' = p.1
      · subst h2; simp
      · have : ¬ p.1 = k' := fun e => h2 e.symm
        simp [h2, this]
    · by_cases h2 : k' = k
      · subst h2; simp [h1]
      · by_cases h3 : p.1 = k' <;> simp [h1, h2, h3]

theorem get?_set (m : AL α) (k k' : String) (v : α) :
    get? (set m k v) k' = if k' = k then some v else get? m k' := by
  unfold set
  by_cases hh : has m k = true
  · rw [if_pos hh, get?_map_set]; simp [hh]
  · rw [if_neg hh, get?_append_single]
    have hn : get? m k = none := by
      rw [has_eq_isSome] at hh; simpa using hh
    by_cases h2 : k' = k
    · subst h2; simp [hn]
    · have : ¬ k = k' := fun e => h2 e.symm
      simp [h2, this]

theorem getD_set (m : AL α) (k k' : String) (v d : α) :
    getD (set m k v) k' d = if k' = k then v else getD m k' d := by
  unfold getD; rw [get?_set]; by_cases h : k' = k <;> simp [h]

theorem getD_modify (m : AL α) (k k' : String) (d : α) (f : α → α) :
    getD (modify m k d f) k' d = if k' = k then f (getD m k d) else getD m k' d := by
  unfold modify; rw [getD_set]

theorem has_set (m : AL α) (k k' : String) (v : α) : has (set m k v) k' = (has m k' || decide (k' = k)) := by
  rw [has_eq_isSome, has_eq_isSome, get?_set]; by_cases h : k' = k <;> simp [h]

theorem mem_of_get? {m : AL α} {k : String} {v : α} (h : get? m k = some v) : (k, v) ∈ m := by
  induction m with
  | nil => simp [get?_nil] at h
  | cons p m ih =>
    rw [get?_cons] at h
    by_cases h1 : p.1 = k
    · rw [if_pos h1] at h; cases h; subst h1; exact List.mem_cons_self ..
    · rw [if_neg h1] at h; exact List.mem_cons_of_mem _ (ih h)

theorem has_iff_mem (m : AL α) (k : String) : has m k = true ↔ ∃ v, (k, v) ∈ m := by
  constructor
  · intro h
    rw [has_eq_isSome, Option.isSome_iff_exists] at h
    obtain ⟨v, hv⟩ := h
    exact ⟨v, mem_of_get? hv⟩
  · rintro ⟨v, hv⟩
    unfold has
    exact List.any_eq_true.mpr ⟨_, hv, by simp⟩

theorem mem_keys (m : AL α) (k : String) : k ∈ keys m ↔ has m k = true := by
  rw [has_iff_mem]; unfold keys
  simp only [List.mem_map]
  constructor
  · rintro ⟨p, hp, rfl⟩; exact ⟨p.2, hp⟩
  · rintro ⟨v, hv⟩; exact ⟨_, hv, rfl⟩

def WF (m : AL α) : Prop := (keys m).Nodup

theorem wf_nil : WF ([] : AL α) := List.nodup_nil

theorem keys_map_set (m : AL α) (k : String) (v : α) :
    keys (m.map fun p => if p.1 == k then (k, v) else p) = keys m := by
  unfold keys
  rw [List.map_map]
  apply List.map_congr_left
  intro p _
  by_cases h : p.1 = k <;> simp [h]

theorem wf_set {m : AL α} (h : WF m) (k : String) (v : α) : WF (set m k v) := by
  unfold set
  by_cases hh : has m k = true
  · rw [if_pos hh]; unfold WF; rw [keys_map_set]; exact h
  · rw [if_neg hh]
    unfold WF keys
    rw [List.map_append, List.nodup_append]
    refine ⟨h, by simp, ?_⟩
    intro a ha b hb
    simp only [List.map_cons, List.map_nil, List.mem_singleton] at hb
    subst hb
    intro e; subst e
    exact hh ((mem_keys m a).mp ha)

theorem wf_modify {m : AL α} (h : WF m) (k : String) (d : α) (f : α → α) : WF (modify m k d f) := wf_set h _ _

theorem get?_of_mem {m : AL α} (h : WF m) {k : String} {v : α} (hm : (k, v) ∈ m) : get? m k = some v := by
  induction m with
  | nil => cases hm
  | cons p m ih =>
    unfold WF keys at h
    rw [List.map_cons, List.nodup_cons] at h
    rw [get?_cons]
    rcases List.mem_cons.mp hm with e | hm'
    · subst e; simp
    · have : p.1 ≠ k := by
        intro e; apply h.1; rw [e]; exact List.mem_map.mpr ⟨_, hm', rfl⟩
      rw [if_neg this]; exact ih h.2 hm'

theorem mem_iff_get? {m : AL α} (h : WF m) (k : String) (v : α) : (k, v) ∈ m ↔ get? m k = some v :=
  ⟨get?_of_mem h, mem_of_get?⟩

def AllVals (P : α → Prop) (m : AL α) : Prop := ∀ p ∈ m, P p.2

theorem mem_set {m : AL α} {k : String} {v : α} {p : String × α} (h : p ∈ set m k v) : p ∈ m ∨ p = (k, v) := by
  unfold set at h
  by_cases hh : has m k = true
  · rw [if_pos hh] at h
    obtain ⟨q, hq, e⟩ := List.mem_map.mp h
    by_cases h1 : q.1 = k
    · simp [h1] at e; exact Or.inr e.symm
    · simp [h1] at e; exact Or.inl (e ▸ hq)
  · rw [if_neg hh] at h
    rcases List.mem_append.mp h with h | h
    · exact Or.inl h
    · exact Or.inr (List.mem_singleton.mp h)

theorem getD_cases (m : AL α) (k : String) (d : α) : getD m k d = d ∨ (k, getD m k d) ∈ m := by
  unfold getD
  cases h : get? m k with
  | none => exact Or.inl rfl
  | some v => exact Or.inr (mem_of_get? h)

theorem allVals_modify {P : α → Prop} {m : AL α} (h : AllVals P m) (k : String) (d : α) (f : α → α)
    (hd : P d) (hf : ∀ v, P v → P (f v)) : AllVals P (modify m k d f) := by
  intro p hp
  rcases mem_set hp with hp | rfl
  · exact h p hp
  · apply hf
    rcases getD_cases m k d with e | e
    · rw [e]; exact hd
    · exact h _ e

theorem allVals_getD {P : α → Prop} {m : AL α} (h : AllVals P m) (k : String) (d : α) (hd : P d) : P (getD m k d) := by
  rcases getD_cases m k d with e | e
  · rw [e]; exact hd
  · exact h _ e

theorem getD_of_mem {m : AL α} (h : WF m) {k : String} {v : α} (hm : (k, v) ∈ m) (d : α) : getD m k d = v := by
  unfold getD; rw [get?_of_mem h hm]; rfl

end PyGql.Validate.AL
