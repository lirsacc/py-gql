/-
  Directives and descriptions of TYPE-SYSTEM definitions and extensions (on the definition, on its field definitions,
  argument definitions, enum values, input fields): sub-nodes of the definition's view; directives are well-formed
  (`Const`) when the definition is.
-/
import PyGqlModel.Lemmas.SpanValsTS
namespace PyGql.Ast
open PyGql

def InputValueDefinition.tdirs (d : InputValueDefinition) : List Directive := d.directives
def FieldDefinition.tdirs (d : FieldDefinition) : List Directive :=
  d.arguments.flatMap InputValueDefinition.tdirs ++ d.directives
def EnumValueDefinition.tdirs (d : EnumValueDefinition) : List Directive := d.directives

/-- every directive of a type-system definition or extension (executable definitions: `Definition.dirs`) -/
def Definition.tdirs : Definition → List Directive
  | .operation _ => []
  | .fragment _ => []
  | .schemaDefinition dirs _ _ => dirs
  | .scalarTypeDefinition _ _ dirs _ => dirs
  | .objectTypeDefinition _ _ _ dirs fields _ => dirs ++ fields.flatMap FieldDefinition.tdirs
  | .interfaceTypeDefinition _ _ dirs fields _ => dirs ++ fields.flatMap FieldDefinition.tdirs
  | .unionTypeDefinition _ _ dirs _ _ => dirs
  | .enumTypeDefinition _ _ dirs values _ => dirs ++ values.flatMap EnumValueDefinition.tdirs
  | .inputObjectTypeDefinition _ _ dirs fields _ => dirs ++ fields.flatMap InputValueDefinition.tdirs
  | .directiveDefinition _ _ args _ _ => args.flatMap InputValueDefinition.tdirs
  | .schemaExtension dirs _ _ => dirs
  | .scalarTypeExtension _ dirs _ => dirs
  | .objectTypeExtension _ _ dirs fields _ => dirs ++ fields.flatMap FieldDefinition.tdirs
  | .interfaceTypeExtension _ dirs fields _ => dirs ++ fields.flatMap FieldDefinition.tdirs
  | .unionTypeExtension _ dirs _ _ => dirs
  | .enumTypeExtension _ dirs values _ => dirs ++ values.flatMap EnumValueDefinition.tdirs
  | .inputObjectTypeExtension _ dirs fields _ => dirs ++ fields.flatMap InputValueDefinition.tdirs

def InputValueDefinition.descs (d : InputValueDefinition) : List StringValue := d.description.toList
def FieldDefinition.descs (d : FieldDefinition) : List StringValue :=
  d.description.toList ++ d.arguments.flatMap InputValueDefinition.descs
def EnumValueDefinition.descs (d : EnumValueDefinition) : List StringValue := d.description.toList

def Definition.descs : Definition → List StringValue
  | .objectTypeDefinition desc _ _ _ fields _ => desc.toList ++ fields.flatMap FieldDefinition.descs
  | .interfaceTypeDefinition desc _ _ fields _ => desc.toList ++ fields.flatMap FieldDefinition.descs
  | .scalarTypeDefinition desc _ _ _ => desc.toList
  | .unionTypeDefinition desc _ _ _ _ => desc.toList
  | .enumTypeDefinition desc _ _ values _ => desc.toList ++ values.flatMap EnumValueDefinition.descs
  | .inputObjectTypeDefinition desc _ _ fields _ => desc.toList ++ fields.flatMap InputValueDefinition.descs
  | .directiveDefinition desc _ args _ _ => desc.toList ++ args.flatMap InputValueDefinition.descs
  | .objectTypeExtension _ _ _ fields _ => fields.flatMap FieldDefinition.descs
  | .interfaceTypeExtension _ _ fields _ => fields.flatMap FieldDefinition.descs
  | .enumTypeExtension _ _ values _ => values.flatMap EnumValueDefinition.descs
  | .inputObjectTypeExtension _ _ fields _ => fields.flatMap InputValueDefinition.descs
  | _ => []

def Definition.ivdefs (x : Definition) : List InputValueDefinition :=
  (match x with
   | .inputObjectTypeDefinition _ _ _ fields _ => fields
   | .inputObjectTypeExtension _ _ fields _ => fields
   | .directiveDefinition _ _ args _ _ => args
   | _ => []) ++ x.fdefs.flatMap (·.arguments)

end PyGql.Ast

namespace PyGql.Spec
open PyGql PyGql.Ast PyGql.Parse

theorem inputValue_tdirs (d : InputValueDefinition) (w : Directive) (h : w ∈ d.tdirs) :
    Item.Sub (directiveV w) (inputValueV d) ∧ (wfInputValue d = true → wfDirective true w = true) :=
  (inputValue_parts d).2.2.2 w h

theorem fieldDefinition_tdirs (d : FieldDefinition) (w : Directive) (h : w ∈ d.tdirs) :
    Item.Sub (directiveV w) (fieldDefinitionV d) ∧ (wfFieldDefinition d = true → wfDirective true w = true) := by
  obtain ⟨_, hargs, _, hdirs⟩ := fieldDefinition_parts d
  rcases List.mem_append.1 h with h | h
  · exact sub_wf_flatMap inputValue_tdirs hargs h
  · exact hdirs w h

theorem enumValueDefinition_tdirs (d : EnumValueDefinition) (w : Directive) (h : w ∈ d.tdirs) :
    Item.Sub (directiveV w) (enumValueDefinitionV d) ∧ (wfEnumValueDefinition d = true → wfDirective true w = true) :=
  (enumValueDefinition_parts d).2 w h

theorem definition_tdirs_eq (x : Definition) :
    x.tdirs = x.ownDirs ++ x.fdefs.flatMap FieldDefinition.tdirs ++ x.evdefs.flatMap EnumValueDefinition.tdirs ++
      x.inputs.flatMap InputValueDefinition.tdirs := by
  unfold Definition.tdirs Definition.ownDirs Definition.fdefs Definition.evdefs Definition.inputs
  cases x <;> simp only [List.flatMap_nil, List.append_nil, List.nil_append]

theorem definition_tdirs (fl : Flags) (x : Definition) (w : Directive) (h : w ∈ x.tdirs) :
    Item.Sub (directiveV w) (definitionV x) ∧ (wfDefinition fl x = true → wfDirective true w = true) := by
  rw [definition_tdirs_eq] at h
  simp only [List.mem_append] at h
  rcases h with ((h | h) | h) | h
  · exact definition_ownDirs fl x w h
  · exact sub_wf_flatMap fieldDefinition_tdirs (definition_fdefs fl x) h
  · exact sub_wf_flatMap enumValueDefinition_tdirs (definition_evdefs fl x) h
  · exact sub_wf_flatMap inputValue_tdirs (definition_inputs fl x) h

theorem inputValue_descs (d : InputValueDefinition) (w : StringValue) (h : w ∈ d.descs) :
    Item.Sub (stringV w) (inputValueV d) :=
  (inputValue_parts d).1 w (Option.mem_toList.1 h)

theorem fieldDefinition_descs (d : FieldDefinition) (w : StringValue) (h : w ∈ d.descs) :
    Item.Sub (stringV w) (fieldDefinitionV d) := by
  obtain ⟨hdesc, hargs, _, _⟩ := fieldDefinition_parts d
  rcases List.mem_append.1 h with h | h
  · exact hdesc w (Option.mem_toList.1 h)
  · exact sub_flatMap inputValue_descs (fun a ha => (hargs a ha).1) h

theorem enumValueDefinition_descs (d : EnumValueDefinition) (w : StringValue) (h : w ∈ d.descs) :
    Item.Sub (stringV w) (enumValueDefinitionV d) :=
  (enumValueDefinition_parts d).1 w (Option.mem_toList.1 h)

theorem definition_descs_eq (x : Definition) :
    x.descs = x.ownDesc.toList ++ x.fdefs.flatMap FieldDefinition.descs ++ x.evdefs.flatMap EnumValueDefinition.descs ++
      x.inputs.flatMap InputValueDefinition.descs := by
  unfold Definition.descs Definition.ownDesc Definition.fdefs Definition.evdefs Definition.inputs
  cases x <;> simp only [Option.toList_none, List.flatMap_nil, List.append_nil, List.nil_append]

theorem definition_descs (x : Definition) (w : StringValue) (h : w ∈ x.descs) : Item.Sub (stringV w) (definitionV x) := by
  rw [definition_descs_eq] at h
  simp only [List.mem_append] at h
  rcases h with ((h | h) | h) | h
  · exact definition_ownDesc x w (Option.mem_toList.1 h)
  · exact sub_flatMap fieldDefinition_descs (fun a ha => (definition_fdefs default x a ha).1) h
  · exact sub_flatMap enumValueDefinition_descs (fun a ha => (definition_evdefs default x a ha).1) h
  · exact sub_flatMap inputValue_descs (fun a ha => (definition_inputs default x a ha).1) h

theorem definition_ivdefs_eq (x : Definition) : x.ivdefs = x.inputs ++ x.fdefs.flatMap (·.arguments) := by
  cases x <;> rfl

theorem definition_ivdefs (fl : Flags) (x : Definition) (w : InputValueDefinition) (h : w ∈ x.ivdefs) :
    Item.Sub (inputValueV w) (definitionV x) ∧ (wfDefinition fl x = true → wfInputValue w = true) := by
  rw [definition_ivdefs_eq] at h
  rcases List.mem_append.1 h with h | h
  · exact definition_inputs fl x w h
  · exact sub_wf_flatMap (fun fd => (fieldDefinition_parts fd).2.1) (definition_fdefs fl x) h

end PyGql.Spec
