/-
  C08 — liveness. `Live q n`: every pending Future inside `n` really waits for a
  task that is outstanding (in the queue `q`), and the `gather` counters are exact
  (`done = #finished slots < target = #slots`, no failed slot). Consequence: a pending node implies an
  outstanding task, i.e. once every task has completed nothing is pending.
-/
import PyGqlModel.Lemmas.ExecState


namespace PyGql.AsyncExec

def fcount : Nodes → Nat
  | .nil => 0
  | .cons n ns => (if n.finished then 1 else 0) + fcount ns

def noFailed : Nodes → Prop
  | .nil => True
  | .cons n ns => (∀ e, n ≠ .failed e) ∧ noFailed ns

mutual
def Live (q : List Nat) : Node → Prop
  | .task id _ _ _ => id ∈ q
  | .chain src _ => src.finished = false ∧ Live q src
  | .unwrap src => src.finished = false ∧ Live q src
  | .gather slots done target =>
    LiveSlots q slots ∧ target = slots.length ∧ done = fcount slots ∧ done < target ∧ noFailed slots
  | .done r => Live q r
  | .val _ => True
  | .failed _ => True
def LiveSlots (q : List Nat) : Nodes → Prop
  | .nil => True
  | .cons n ns => Live q n ∧ LiveSlots q ns
end

def LiveRes (q : List Nat) : Res Node → Prop
  | .ok n => Live q n
  | .exc _ => True

def LiveSlotsRes (q : List Nat) : Res Nodes → Prop
  | .ok ns => LiveSlots q ns
  | .exc _ => True

abbrev Sub (q q' : List Nat) : Prop := ∀ id, id ∈ q → id ∈ q'


theorem fcount_le : ∀ ns : Nodes, fcount ns ≤ ns.length
  | .nil => by simp [fcount, Nodes.length]
  | .cons n ns => by have := fcount_le ns; simp only [fcount, Nodes.length]; split <;> omega

mutual
theorem live_pending (q : List Nat) : ∀ n : Node, Live q n → n.finished = false → ∃ id, id ∈ q
  | .val x, _, h => by simp [Node.finished] at h
  | .done r, _, h => by simp [Node.finished] at h
  | .failed e, _, h => by simp [Node.finished] at h
  | .task id _ _ _, hl, _ => ⟨id, by simpa [Live] using hl⟩
  | .chain src k, hl, _ => by simp only [Live] at hl; exact live_pending q src hl.2 hl.1
  | .unwrap src, hl, _ => by simp only [Live] at hl; exact live_pending q src hl.2 hl.1
  | .gather slots done target, hl, _ => by
    simp only [Live] at hl
    obtain ⟨h1, h2, h3, h4, _⟩ := hl
    exact liveSlots_pending q slots h1 (by omega)
theorem liveSlots_pending (q : List Nat) : ∀ ns : Nodes, LiveSlots q ns → fcount ns < ns.length → ∃ id, id ∈ q
  | .nil, _, h => by simp [fcount, Nodes.length] at h
  | .cons n ns, hl, h => by
    simp only [LiveSlots] at hl
    by_cases hf : n.finished = true
    · simp only [fcount, Nodes.length, hf, if_true] at h
      exact liveSlots_pending q ns hl.2 (by omega)
    · exact live_pending q n hl.1 (by simpa using hf)
end

mutual
theorem live_mono (q q' : List Nat) (hs : Sub q q') : ∀ n : Node, Live q n → Live q' n
  | .val x, h => by simp [Live]
  | .done r, h => by simp only [Live] at h ⊢; exact live_mono q q' hs r h
  | .failed e, h => by simp [Live]
  | .task id _ _ _, h => by simp only [Live] at h ⊢; exact hs _ h
  | .chain src k, h => by simp only [Live] at h ⊢; exact ⟨h.1, live_mono q q' hs src h.2⟩
  | .unwrap src, h => by simp only [Live] at h ⊢; exact ⟨h.1, live_mono q q' hs src h.2⟩
  | .gather slots done target, h => by
    simp only [Live] at h ⊢; exact ⟨liveSlots_mono q q' hs slots h.1, h.2⟩
theorem liveSlots_mono (q q' : List Nat) (hs : Sub q q') : ∀ ns : Nodes, LiveSlots q ns → LiveSlots q' ns
  | .nil, h => by simp [LiveSlots]
  | .cons n ns, h => by
    simp only [LiveSlots] at h ⊢; exact ⟨live_mono q q' hs n h.1, liveSlots_mono q q' hs ns h.2⟩
end

theorem live_unwrapCb (q : List Nat) (n : Node) : Live q n → Live q (unwrapCb n) := by
  fun_induction unwrapCb n with
  | case3 r _ ih => exact ih
  | case5 p hf _ hd hv =>
    -- what `unwrap_future` registers on is pending
    intro h
    refine ⟨?_, h⟩
    cases p with
    | val x => exact absurd rfl (hv x)
    | failed e => exact absurd rfl (hf e)
    | done r => exact absurd rfl (hd r)
    | _ => rfl
  | _ => exact fun _ => trivial

theorem live_unwrapValue (q : List Nat) (n : Node) (h : Live q n) : Live q (unwrapValue n) := by
  cases n <;> simp only [unwrapValue] <;> first | exact h | exact live_unwrapCb q _ h

theorem gatherFire_error (done target : Nat) (e : Exc) (slots : Nodes) :
    (gatherFire done target (.error e) slots).2 = some (.failed e) := by
  simp [gatherFire, gatherOnFinish]

theorem gatherOnFinish_fst {α : Type} (done target : Nat) (d : Except Exc α) (slots : List (Slot α)) :
    (gatherOnFinish done target d slots).1 = done + 1 := by
  unfold gatherOnFinish
  cases d with
  | error e => rfl
  | ok a => simp only []; split <;> rfl

theorem gatherFire_fst (done target : Nat) (d : Except Exc Node) (slots : Nodes) :
    (gatherFire done target d slots).1 = done + 1 := by
  unfold gatherFire
  have := gatherOnFinish_fst done target d (slots.toList.map Node.slot)
  cases h : gatherOnFinish done target d (slots.toList.map Node.slot) with
  | mk a b => rw [h] at this; cases b <;> simpa using this

/-- if no callback set `outer`, every callback ran, each returned "nothing", and `done` counted them all -/
theorem gatherFires_none (target : Nat) (slots : Nodes) :
    ∀ (fired : List (Except Exc Node)) (done d' : Nat), gatherFires done target slots fired = (d', none) →
      d' = done + fired.length ∧
      ∀ (pre : List (Except Exc Node)) (d : Except Exc Node) (post : List (Except Exc Node)), fired = pre ++ d :: post →
        (gatherFire (done + pre.length) target d slots).2 = none
  | [], done, d', h => by
    simp [gatherFires] at h
    exact ⟨by simp [h], by intro pre d post hp; simp at hp⟩
  | x :: rest, done, d', h => by
    simp only [gatherFires] at h
    cases hf : gatherFire done target x slots with
    | mk dn o =>
      rw [hf] at h
      cases o with
      | some o' => simp at h
      | none =>
        simp only at h
        have hdn : dn = done + 1 := by
          have := gatherFire_fst done target x slots
          rw [hf] at this; exact this
        obtain ⟨i1, i2⟩ := gatherFires_none target slots rest dn d' h
        refine ⟨by simp [i1, hdn]; omega, ?_⟩
        intro pre d post hp
        cases pre with
        | nil =>
          simp at hp
          obtain ⟨hx, _⟩ := hp
          subst hx
          simp [hf]
        | cons y pre' =>
          simp at hp
          obtain ⟨_, hrest⟩ := hp
          have := i2 pre' d post hrest
          rw [hdn] at this
          simpa [Nat.add_assoc, Nat.add_comm 1] using this

theorem not_failed_of_noFailed : ∀ (ns : Nodes) (e : Exc), noFailed ns → Node.failed e ∉ ns.toList
  | .nil, e, _ => by simp [Nodes.toList]
  | .cons n ns, e, h => by
    simp only [noFailed] at h
    simp only [Nodes.toList, List.mem_cons, not_or]
    exact ⟨fun heq => h.1 e heq.symm, not_failed_of_noFailed ns e h.2⟩

theorem noFailed_of_not_mem : ∀ (ns : Nodes), (∀ e, Node.failed e ∉ ns.toList) → noFailed ns
  | .nil, _ => by simp [noFailed]
  | .cons n ns, h => by
    simp only [noFailed]
    refine ⟨fun e heq => h e (by simp [Nodes.toList, heq]), noFailed_of_not_mem ns ?_⟩
    intro e hm; exact h e (by simp [Nodes.toList, hm])

theorem collect_all_finished : ∀ (ns : Nodes), fcount ns = ns.length → noFailed ns →
    ∃ rs, collectSlots (ns.toList.map Node.slot) = .setResult rs
  | .nil, _, _ => ⟨[], by simp [Nodes.toList, collectSlots]⟩
  | .cons n ns, h, hn => by
    simp only [noFailed] at hn
    have hle := fcount_le ns
    by_cases hf : n.finished = true
    · simp only [fcount, Nodes.length, hf, if_true] at h
      obtain ⟨rs, hrs⟩ := collect_all_finished ns (by omega) hn.2
      cases n with
      | val x => exact ⟨.val x :: rs, by simp [Nodes.toList, Node.slot, collectSlots, hrs]⟩
      | done r => exact ⟨r :: rs, by simp [Nodes.toList, Node.slot, collectSlots, hrs]⟩
      | failed e => exact absurd rfl (hn.1 e)
      | task a b c d => simp [Node.finished] at hf
      | chain a b => simp [Node.finished] at hf
      | unwrap a => simp [Node.finished] at hf
      | gather a b c => simp [Node.finished] at hf
    · simp only [fcount, Nodes.length, hf] at h
      simp at h; omega

theorem nodes_length_toList : ∀ ns : Nodes, ns.toList.length = ns.length
  | .nil => rfl
  | .cons n ns => by simp [Nodes.toList, Nodes.length, nodes_length_toList ns]

theorem gatherAfter_live (q : List Nat) (slots : Nodes) (done target : Nat) (fired : List (Except Exc Node))
    (h1 : LiveSlots q slots) (h2 : target = slots.length) (h3 : done + fired.length = fcount slots)
    (h4 : ∀ e, Node.failed e ∈ slots.toList → Except.error e ∈ fired) (h5 : done < target) :
    Live q (gatherAfter slots done target fired) := by
  rcases gatherAfter_cases slots done target fired with ⟨d', hg, h⟩ | ⟨e, _, h⟩ | ⟨rs, _, h⟩ <;> rw [h]
  · obtain ⟨g1, g2⟩ := gatherFires_none target slots fired done d' hg
    have hnoerr : ∀ e, Except.error e ∉ fired := by
      intro e hm
      obtain ⟨pre, post, hp⟩ := List.append_of_mem hm
      have := g2 pre (.error e) post hp
      rw [gatherFire_error] at this
      cases this
    have hnf : noFailed slots := noFailed_of_not_mem slots (fun e hm => hnoerr e (h4 e hm))
    have hle := fcount_le slots
    refine ⟨h1, h2, by omega, ?_, hnf⟩
    -- not all finished: otherwise the last callback would have set the result
    rcases Nat.lt_or_ge d' target with hlt | hge
    · exact hlt
    · exfalso
      have hall : fcount slots = slots.length := by omega
      obtain ⟨rs, hrs⟩ := collect_all_finished slots hall hnf
      have hne : fired ≠ [] := by intro hn; simp [hn] at g1; omega
      obtain ⟨pre, last, hpl⟩ : ∃ pre last, fired = pre ++ [last] := by
        rcases List.eq_nil_or_concat fired with h | ⟨pre, last, h⟩
        · exact absurd h hne
        · exact ⟨pre, last, by simpa using h⟩
      have := g2 pre last [] (by simpa using hpl)
      have hlen : done + pre.length + 1 = target := by
        have : fired.length = pre.length + 1 := by simp [hpl]
        omega
      cases last with
      | error e => rw [gatherFire_error] at this; simp at this
      | ok r => simp [gatherFire, gatherOnFinish, hlen, hrs] at this
  · trivial
  · trivial

def ApLive (ap : ApplyCont) (k : Cont) : Prop :=
  ∀ (r : Res Val) (s : ExecSt), LiveRes (ap k r s).2.queue (ap k r s).1

@[simp] theorem handleNN_queue (p : Path) (x : Val) (s : ExecSt) : (handleNonNullableValue p x s).2.queue = s.queue := by
  unfold handleNonNullableValue; split <;> rfl

theorem applySimple_live (k : Cont) : ApLive applySimple k := by
  intro r s
  cases k <;> cases r <;> simp [applySimple, LiveRes, Live]

theorem live_settle {r : Res Node × ExecSt} (h : LiveRes r.2.queue r.1) : Live (settle r).2.queue (settle r).1 := by
  obtain ⟨n | e, s1⟩ := r
  · exact h
  · exact trivial

theorem chainOnFinish_live (ap : ApplyCont) (k : Cont) (hap : ApLive ap k) (src : Node) (s : ExecSt)
    (hl : Live s.queue src) (hfut : src.isFuture = true) :
    Live (chainOnFinish ap src k s).2.queue (chainOnFinish ap src k s).1 := by
  rw [chainOnFinish_eq]
  split
  next e => exact live_settle (hap _ s)
  next r => exact live_settle (hap _ s)
  next hnf hnd =>
    -- a Future that is neither `failed` nor `done` is pending: the chain waits for it
    refine ⟨?_, hl⟩
    cases src with
    | val x => cases hfut
    | failed e => exact absurd rfl (hnf e)
    | done r => exact absurd rfl (hnd r)
    | _ => rfl

theorem mapValue_live (ap : ApplyCont) (k : Cont) (hap : ApLive ap k) (n : Node) (s : ExecSt) (hl : Live s.queue n) :
    LiveRes (mapValue ap n k s).2.queue (mapValue ap n k s).1 := by
  unfold mapValue
  split
  next x => exact hap (.ok x) s
  next hnv =>
    split
    · refine chainOnFinish_live ap k hap _ s hl ?_
      cases n with
      | val x => exact absurd rfl (hnv x)
      | _ => rfl
    next hfin => exact ⟨Bool.eq_false_iff.2 hfin, hl⟩

theorem plainCount_add_fired : ∀ (ns : Nodes), plainCount ns + (firedOf ns).length = fcount ns
  | .nil => rfl
  | .cons n ns => by
    have ih := plainCount_add_fired ns
    unfold plainCount firedOf at ih ⊢
    cases n <;>
      simp only [Nodes.toList, List.filter_cons, Node.isFuture, Bool.not_true, Bool.not_false, Bool.false_eq_true, if_true,
        if_false, List.filterMap_cons, slotResult, List.length_cons, fcount, Node.finished] at ih ⊢ <;>
      omega

theorem gatherValues_live (q : List Nat) (source : Nodes) (h : LiveSlots q source) : Live q (gatherValues source) := by
  rcases gatherValues_cases source with ⟨_, hg⟩ | ⟨hp, hg⟩ <;> rw [hg]
  · trivial
  · exact gatherAfter_live q source _ _ _ h (nodes_length_toList source) (plainCount_add_fired source)
      (fun e hm => mem_firedOf.2 hm) (plainCount_lt hp)

@[simp] theorem emit_queue (s : ExecSt) (e : Ev) : (s.emit e).queue = s.queue := rfl
@[simp] theorem addError_queue (s : ExecSt) (p : Path) (k : ErrKind) : (s.addError p k).queue = s.queue := rfl
@[simp] theorem submit_queue (s : ExecSt) : s.submit.2.queue = s.queue ++ [s.next] := rfl
@[simp] theorem submit_id (s : ExecSt) : s.submit.1 = s.next := rfl

theorem sub_of_prefix {q q' : List Nat} (h : q <+: q') : Sub q q' := fun _ hm => h.subset hm

/-- every pending Future in the outcome's node waits for a task outstanding in the outcome's queue -/
def LiveOK (r : Res Node × ExecSt) : Prop := LiveRes r.2.queue r.1

def LivesOK (r : Res Nodes × ExecSt) : Prop := LiveSlotsRes r.2.queue r.1

theorem LiveOK.chain {ap : ApplyCont} {r : Res Node × ExecSt} (k : Cont) (hap : ApLive ap k) (h : LiveOK r) :
    LiveOK (chainRes ap k r) := by
  obtain ⟨n | e, s1⟩ := r
  · exact mapValue_live ap k hap n s1 h
  · exact h

theorem LivesOK.gather {r : Res Nodes × ExecSt} (h : LivesOK r) : LiveOK (gatherRes r) := by
  obtain ⟨ns | e, s1⟩ := r
  · exact gatherValues_live _ ns h
  · exact h

theorem LiveOK.cons {r : Res Node × ExecSt} {rest : ExecSt → Res Nodes × ExecSt} (h1 : LiveOK r)
    (hq : ∀ s1, s1.queue <+: (rest s1).2.queue) (h2 : ∀ s1, LivesOK (rest s1)) : LivesOK (consRes r rest) := by
  obtain ⟨n | e, s1⟩ := r
  · have h2 := h2 s1
    have hq := hq s1
    simp only [consRes, thenR]
    generalize rest s1 = y at h2 hq ⊢
    obtain ⟨ns | e, s2⟩ := y
    -- the tasks the first slot waits for are still outstanding after the others were built
    · exact ⟨live_mono _ _ (sub_of_prefix hq) n h1, h2⟩
    · exact trivial
  · exact h1

theorem LiveOK.catch {path : Path} {r : Res Node × ExecSt} (h : LiveOK r) : LiveOK (catchRes path r) := by
  obtain ⟨n | e, s1⟩ := r
  · exact h
  · cases e <;> exact trivial

theorem LiveOK.nowOf {r : Res Node × ExecSt} (h : LiveOK r) : LiveOK (nowOf r) := by
  obtain ⟨n | e, s1⟩ := r
  · exact live_unwrapValue _ n h
  · exact h

theorem LiveOK.futureOf {r : Res Node × ExecSt} (h : LiveOK r) : LiveOK (futureOf r) :=
  futureOf_eq r ▸ live_unwrapCb _ _ (live_settle h)

/-- a deferred field waits for the task it has just submitted -/
theorem LiveOK.parked (path : Path) (nested : Bool) (out : ROut) (s : ExecSt) :
    LiveOK (.ok (parked s.next path nested out), (s.emit (.call path)).submit.2) :=
  ⟨rfl, rfl, rfl, List.mem_append_right _ (List.mem_singleton_self _)⟩

theorem live_cases : ExecCases (fun _ _ _ r => LiveOK r) (fun _ _ _ _ r => LivesOK r) (fun _ _ _ r => LivesOK r)
    (fun _ _ _ _ r => LiveOK r) (fun _ _ _ r => LiveOK r) where
  null _ _ := trivial
  leaf _ _ _ := trivial
  bad _ _ := trivial
  nonNull path _ _ ih := LiveOK.chain (.nonNull path) (applySimple_live _) ih
  list _ _ _ ih := LivesOK.gather ih
  obj _ fields _ ih := LiveOK.chain (.collect fields.keys) (applySimple_live _) (LivesOK.gather ih)
  inil _ _ _ := trivial
  icons path i _ cs _ ih1 ih2 := LiveOK.cons ih1 (queuePrefix.cases.items cs path (i + 1)) ih2
  fnil _ _ := trivial
  fcons path _ _ _ fs _ ih1 ih2 := LiveOK.cons ih1 (queuePrefix.cases.fields fs path) ih2
  deferred path out s := LiveOK.parked path false out s
  nested path out s := LiveOK.parked path true out s
  sync _ _ _ ih := LiveOK.nowOf ih
  ready _ _ _ ih := LiveOK.futureOf ih
  rerr _ _ := trivial
  exc _ _ := trivial
  ok _ _ _ ih := LiveOK.catch ih

theorem completeItems_live : ∀ (cs : Comps) (path : Path) (i : Nat) (s : ExecSt),
    LiveSlotsRes (completeItems path i cs s).2.queue (completeItems path i cs s).1 ∧ Sub s.queue (completeItems path i cs s).2.queue :=
  fun cs path i s => ⟨live_cases.items cs path i s, sub_of_prefix (queuePrefix.cases.items cs path i s)⟩

theorem resolveFields_live : ∀ (fs : Flds) (path : Path) (s : ExecSt),
    LiveSlotsRes (resolveFields path fs s).2.queue (resolveFields path fs s).1 ∧ Sub s.queue (resolveFields path fs s).2.queue :=
  fun fs path s => ⟨live_cases.fields fs path s, sub_of_prefix (queuePrefix.cases.fields fs path s)⟩

/-- the parked `cb` of `_next` resumes `_next`, which leaves a live node -/
theorem serialCb_live (path : Path) (key : String) (resolved : List (String × V)) (args : Flds)
    (ih : ∀ resolved s, LiveOK (serialNext path resolved args s)) : ApLive applyCont (.serialCb path key resolved args) :=
  serialCb_cases (Q := fun _ _ x => LiveRes x.2.queue x.1) (fun _ s => ih _ s) (applySimple_live _)

theorem serialNext_live : ∀ (args : Flds) (path : Path) (resolved : List (String × V)) (s : ExecSt),
    LiveRes (serialNext path resolved args s).2.queue (serialNext path resolved args s).1
  | .nil, _, _, _ => trivial
  | .cons key mode out rest, path, resolved, s => by
    rw [serialNext_cons]
    exact LiveOK.chain _ (serialCb_live path key resolved rest (serialNext_live rest path)) (live_cases.field out _ mode s)

theorem applyCont_live (k : Cont) : ApLive applyCont k := by
  intro r s
  fun_cases applyCont k r s with
  | case1 path c s s1 hcv n s' hff =>
    cases hff
    exact trivial
  | case2 path c s => exact live_cases.value c path s
  | case3 path s n s' hff =>
    cases hff
    exact trivial
  | case4 path key resolved args v s => exact serialNext_live args path _ s
  | case5 k r s => exact applySimple_live k r s

theorem deliver_finished (ap : ApplyCont) (t : Nat) (n : Node) (s : ExecSt) (h : n.finished = true) :
    deliver ap t n s = (n, s) := by
  cases n <;> simp [Node.finished] at h <;> simp [deliver]

theorem chainOnFinish_isFuture (ap : ApplyCont) (src : Node) (k : Cont) (s : ExecSt) :
    (chainOnFinish ap src k s).1.isFuture = true := by
  rw [chainOnFinish_eq]
  split
  · exact settle_isFuture _
  · exact settle_isFuture _
  · rfl

theorem isFuture_of_pending {n : Node} (h : n.finished = false) : n.isFuture = true := by
  cases n <;> first | rfl | cases h

theorem slotResult_length {n : Node} (h : n.isFuture = true) : (slotResult n).toList.length = if n.finished then 1 else 0 := by
  cases n <;> first | rfl | cases h

theorem gatherAfter_isFuture (slots : Nodes) (done target : Nat) (fired : List (Except Exc Node)) :
    (gatherAfter slots done target fired).isFuture = true := by
  rcases gatherAfter_cases slots done target fired with ⟨d', _, h⟩ | ⟨e, _, h⟩ | ⟨rs, _, h⟩ <;> rw [h] <;> rfl

theorem deliver_isFuture (ap : ApplyCont) (t : Nat) (n : Node) (s : ExecSt) (h : n.isFuture = true) :
    (deliver ap t n s).1.isFuture = true := by
  cases n with
  | val x => cases h
  | done r => rfl
  | failed e => rfl
  | task id p nested out =>
    rw [deliver]
    split
    · cases nested <;> cases out <;> rfl
    · rfl
  | chain src k =>
    rw [deliver]
    exact chainOnFinish_isFuture ap _ k _
  | unwrap src =>
    rw [deliver]
    exact unwrapCb_isFuture _
  | gather slots d tg =>
    rw [deliver_gather]
    exact gatherAfter_isFuture ..

/-- what `deliverSlots` reports about the slots that finished during the step -/
structure SlotsRel (ns ns' : Nodes) (fired : List (Except Exc Node)) : Prop where
  len : ns'.length = ns.length
  cnt : fcount ns' = fcount ns + fired.length
  failed : ∀ e, Node.failed e ∈ ns'.toList → Node.failed e ∈ ns.toList ∨ Except.error e ∈ fired

theorem deliver_live_cases (t : Nat) : DeliverCases applyCont t
    (fun n s r => Good n = true → (n.finished = true → flat n = true) → Live (t :: s.queue) n →
      Live r.2.queue r.1)
    (fun ns s r => GoodSlots ns = true → LiveSlots (t :: s.queue) ns →
      LiveSlots r.2.2.queue r.1 ∧ SlotsRel ns r.1 r.2.1) where
  val _ _ _ _ _ := trivial
  done r _ _ hff _ := by
    -- a finished Future that persists in a tree (a slot, or the top) is flat: it holds a plain value
    have := hff rfl
    cases r <;> first | exact trivial | cases this
  failed _ _ _ _ _ := trivial
  hit _ nested out s _ _ _ := by
    cases nested <;> cases out <;> simp [finishTask, Live]
  miss id _ _ _ _ hne _ _ h := by
    rcases List.mem_cons.1 h with h | h
    · exact absurd h hne
    · exact h
  chain src k s ih hg _ h := by
    simp only [Good, Bool.and_eq_true] at hg
    have i1 := ih hg.1 (fun hf => nomatch h.1.symm.trans hf) h.2
    exact chainOnFinish_live applyCont k (applyCont_live k) _ _ i1 (deliver_isFuture applyCont t src s (isFuture_of_pending h.1))
  unwrap _ _ ih hg _ h := live_unwrapCb _ _ (ih hg (fun hf => nomatch h.1.symm.trans hf) h.2)
  gather slots done target s ih hg _ h := by
    obtain ⟨hl, h2, h3, h4, h5⟩ := h
    obtain ⟨i1, i3⟩ := ih hg hl
    refine gatherAfter_live _ _ done target _ i1 (by rw [i3.len]; exact h2) (by rw [i3.cnt, h3]) ?_ h4
    intro e hm
    rcases i3.failed e hm with ho | hf
    · exact absurd ho (not_failed_of_noFailed slots e h5)
    · exact hf
  nil _ _ _ := ⟨trivial, ⟨rfl, rfl, fun _ hm => .inl hm⟩⟩
  cons n ns s ih1 ih2 hgs h := by
    simp only [GoodSlots, Bool.and_eq_true] at hgs
    have i1 := ih1 hgs.1.1.1 (fun _ => hgs.1.1.2) h.1
    have i2 := sub_of_prefix ((queuePrefix.deliver t).node n s)
    have j2 := sub_of_prefix ((queuePrefix.deliver t).slots ns (deliver applyCont t n s).2)
    have hl2 : LiveSlots (t :: (deliver applyCont t n s).2.queue) ns :=
      liveSlots_mono _ _ (fun id hm => (List.mem_cons.1 hm).elim (fun e => e ▸ List.mem_cons_self ..)
        fun hm => List.mem_cons_of_mem _ (i2 id hm)) ns h.2
    obtain ⟨j1, j3⟩ := ih2 hgs.2 hl2
    refine ⟨⟨live_mono _ _ j2 _ i1, j1⟩, ?_⟩
    generalize deliverSlots applyCont t ns (deliver applyCont t n s).2 = rs at j3
    by_cases hfin : n.finished = true
    · -- untouched
      rw [deliver_finished applyCont t n s hfin]
      have hp : n.isPending = false := by simp [Node.isPending, hfin]
      refine ⟨by simp [Nodes.length, j3.len], by simp [fcount, hp, j3.cnt]; omega, ?_⟩
      intro e hm
      simp only [Nodes.toList, List.mem_cons] at hm
      rcases hm with hm | hm
      · exact .inl (by simp [Nodes.toList, hm])
      · rcases j3.failed e hm with hh | hh
        · exact .inl (by simp [Nodes.toList, hh])
        · exact .inr (by simp [hp, hh])
    · have hp : n.isPending = true := by simp [Node.isPending]; simpa using hfin
      have hfut := deliver_isFuture applyCont t n s (isFuture_of_pending (Bool.eq_false_iff.2 hfin))
      generalize (deliver applyCont t n s).1 = n' at hfut ⊢
      have hcount := (slotResult_length hfut).symm
      refine ⟨by simp [Nodes.length, j3.len], ?_, ?_⟩
      · simp only [fcount, hp, if_true, List.length_append, j3.cnt]
        have hf0 : (if n.finished = true then 1 else 0) = 0 := by simp [hfin]
        rw [hf0, hcount]; omega
      · intro e hm
        simp only [Nodes.toList, List.mem_cons] at hm
        rcases hm with hm | hm
        · right; subst hm; simp [hp, slotResult]
        · rcases j3.failed e hm with hh | hh
          · exact .inl (by simp [Nodes.toList, hh])
          · exact .inr (by simp [hh])

theorem deliver_live : ∀ (n : Node) (t : Nat) (s : ExecSt), Good n = true → (n.finished = true → flat n = true) →
    Live (t :: s.queue) n →
    Live (deliver applyCont t n s).2.queue (deliver applyCont t n s).1 ∧ Sub s.queue (deliver applyCont t n s).2.queue :=
  fun n t s hg hf hl => ⟨(deliver_live_cases t).node n s hg hf hl, sub_of_prefix ((queuePrefix.deliver t).node n s)⟩

theorem deliverSlots_live : ∀ (ns : Nodes) (t : Nat) (s : ExecSt), GoodSlots ns = true → LiveSlots (t :: s.queue) ns →
    LiveSlots (deliverSlots applyCont t ns s).2.2.queue (deliverSlots applyCont t ns s).1 ∧
    Sub s.queue (deliverSlots applyCont t ns s).2.2.queue ∧
    SlotsRel ns (deliverSlots applyCont t ns s).1 (deliverSlots applyCont t ns s).2.1 :=
  fun ns t s hg hl => ⟨((deliver_live_cases t).slots ns s hg hl).1, sub_of_prefix ((queuePrefix.deliver t).slots ns s),
    ((deliver_live_cases t).slots ns s hg hl).2⟩

theorem mem_removeAt {α : Type} : ∀ (l : List α) (j : Nat) (t x : α), l[j]? = some t → x ∈ l → x = t ∨ x ∈ removeAt l j
  | [], j, t, x, h, _ => by simp at h
  | a :: l, 0, t, x, h, hm => by
    simp at h; subst h
    simp [removeAt] at hm ⊢; exact hm
  | a :: l, j + 1, t, x, h, hm => by
    simp at h
    simp [removeAt] at hm ⊢
    rcases hm with hm | hm
    · exact .inr (.inl hm)
    · rcases mem_removeAt l j t x h hm with h' | h'
      · exact .inl h'
      · exact .inr (.inr h')

theorem stepSched_live (top : Node) (s : ExecSt) (i : Nat) (d : EvR) (h : TopInv top d) (hl : Live s.queue top) :
    Live (stepSched top s i).2.queue (stepSched top s i).1 := by
  unfold stepSched
  simp only
  split
  · exact hl
  · rename_i t ht
    have hl' : Live (t :: removeAt s.queue (i % s.queue.length)) top :=
      live_mono _ _ (by
        intro id hm
        rcases mem_removeAt s.queue _ t id ht hm with h' | h'
        · simp [h']
        · simp [h']) top hl
    exact (deliver_live top t { s with queue := removeAt s.queue (i % s.queue.length) } h.good (fun _ => h.isFlat) hl').1

theorem runSched_live (d : EvR) (sched : List Nat) (top : Node) (s : ExecSt) (sizes : List Nat) (h : TopInv top d)
    (hl : Live s.queue top) : Live (runSched top s sizes sched).st.queue (runSched top s sizes sched).top :=
  (runSched_preserves (P := fun top s => TopInv top d ∧ Live s.queue top)
    (fun top s i h => ⟨stepSched_inv top s i d h.1, stepSched_live top s i d h.1 h.2⟩) sched top s sizes ⟨h, hl⟩).2

theorem execute_live (op : Op) (s : ExecSt) :
    match execute op s with
    | (.exc _, _) => True
    | (.ok top, s2) => Live s2.queue top := by
  have hroot : LiveOK (execRoot op s) := by
    unfold execRoot
    cases op.kind
    · exact live_cases.value _ _ s
    · exact serialNext_live _ _ _ s
  have h := LiveOK.chain .onFinish (applyCont_live _) hroot.nowOf
  rw [← execute_eq] at h
  generalize execute op s = x at h ⊢
  obtain ⟨top | e, s2⟩ := x
  · exact h
  · trivial

end PyGql.AsyncExec
