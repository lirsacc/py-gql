/-
  Look-up semantics of a `VariablesCollector`: what the rules read from its five maps (`VC.sem`), and how the
  events of the walk change it (`Sem.apply`). The collector after the walk is the fold of `Sem.apply` over the
  scoped events of the document (`sem_defEffects`); what the look-ups then contain is read off the events
  (`Sem.run_iff` and its instances `run_*`, by scope).
-/
import PyGqlModel.Lemmas.ValidateVarsWalk
import PyGqlModel.Lemmas.ValidateAL
namespace PyGql.Validate
open PyGql PyGql.Validate.Spec

/-- where an event happens: in the operation filed under key `o`, or in the fragment named `f` -/
inductive Scope where
  | op (o : String)
  | frag (f : String)

structure Sem where
  /-- `_op_defined_variables[o].get(x)` -/
  dfn : String → String → Option VarDef
  /-- `_op_variables[o][x]` (the usages) -/
  ouse : String → String → List Usage
  /-- `x in _op_variables[o]` -/
  ouseK : String → String → Bool
  fuse : String → String → List Usage
  fuseK : String → String → Bool
  /-- `_op_fragments[o]` -/
  osp : String → List String
  /-- `_fragment_fragments[f]` -/
  fsp : String → List String

def VC.sem (c : VC) : Sem where
  dfn o x := AL.get? (AL.getD c.opDefined o []) x
  ouse o x := AL.getD (AL.getD c.opVars o []) x []
  ouseK o x := AL.has (AL.getD c.opVars o []) x
  fuse f x := AL.getD (AL.getD c.fragVars f []) x []
  fuseK f x := AL.has (AL.getD c.fragVars f []) x
  osp o := AL.getD c.opFrags o []
  fsp f := AL.getD c.fragFrags f []

/-- the usages recorded for a scope -/
def Sem.use (m : Sem) : Scope → String → List Usage
  | .op o => m.ouse o
  | .frag f => m.fuse f
def Sem.useK (m : Sem) : Scope → String → Bool
  | .op o => m.ouseK o
  | .frag f => m.fuseK f
/-- the fragments spread in a scope -/
def Sem.sp (m : Sem) : Scope → List String
  | .op o => m.osp o
  | .frag f => m.fsp f

def Sem.apply (fx : Fixes) : Scope × VEv → Sem → Sem
  | (.op o, .use x u), m => { m with
      ouse := fun o' x' => if o' = o ∧ x' = x then (if fx.v3 then m.ouse o x ++ [u] else [u]) else m.ouse o' x'
      ouseK := fun o' x' => m.ouseK o' x' || decide (o' = o ∧ x' = x) }
  | (.frag f, .use x u), m => { m with
      fuse := fun f' x' => if f' = f ∧ x' = x then (if fx.v3 then m.fuse f x ++ [u] else [u]) else m.fuse f' x'
      fuseK := fun f' x' => m.fuseK f' x' || decide (f' = f ∧ x' = x) }
  | (.op o, .spread g), m => { m with osp := fun o' => if o' = o then m.osp o ++ [g] else m.osp o' }
  | (.frag f, .spread g), m =>
    if g ≠ f then { m with fsp := fun f' => if f' = f then m.fsp f ++ [g] else m.fsp f' } else m
  | (.op o, .defn v), m => { m with dfn := fun o' x' => if o' = o ∧ x' = v.name then some v else m.dfn o' x' }
  | (.frag _, .defn _), m => m

def Sem.run (fx : Fixes) (evs : List (Scope × VEv)) (m : Sem) : Sem := evs.foldl (fun m e => Sem.apply fx e m) m

theorem Sem.run_nil (fx : Fixes) (m : Sem) : Sem.run fx [] m = m := rfl
theorem Sem.run_cons (fx : Fixes) (e : Scope × VEv) (evs : List (Scope × VEv)) (m : Sem) :
    Sem.run fx (e :: evs) m = Sem.run fx evs (Sem.apply fx e m) := rfl
theorem Sem.run_append (fx : Fixes) (a b : List (Scope × VEv)) (m : Sem) :
    Sem.run fx (a ++ b) m = Sem.run fx b (Sem.run fx a m) := by simp [Sem.run]

theorem getD_record (fx : Fixes) (m : AL (List Usage)) (x x' : String) (u : Usage) :
    AL.getD (VC.record fx m x u) x' [] = if x' = x then (if fx.v3 then AL.getD m x [] ++ [u] else [u]) else AL.getD m x' [] := by
  unfold VC.record
  cases fx.v3
  · simp only [Bool.false_eq_true, ↓reduceIte, AL.getD_set]
  · simp only [↓reduceIte, AL.getD_modify]

theorem has_record (fx : Fixes) (m : AL (List Usage)) (x x' : String) (u : Usage) :
    AL.has (VC.record fx m x u) x' = (AL.has m x' || decide (x' = x)) := by
  unfold VC.record
  cases fx.v3
  · simp only [Bool.false_eq_true, ↓reduceIte, AL.has_set]
  · simp only [↓reduceIte, AL.modify, AL.has_set]

/-- recording a usage under key `o` of a map of maps, as seen by the look-ups -/
theorem getD_modify_record (fx : Fixes) (M : AL (AL (List Usage))) (o o' x x' : String) (u : Usage) :
    AL.getD (AL.getD (AL.modify M o [] fun m => VC.record fx m x u) o' []) x' [] =
      if o' = o ∧ x' = x then (if fx.v3 then AL.getD (AL.getD M o []) x [] ++ [u] else [u])
      else AL.getD (AL.getD M o' []) x' [] := by
  rw [AL.getD_modify]
  by_cases h1 : o' = o
  · subst h1; simp only [↓reduceIte, true_and, getD_record]
  · simp only [h1, ↓reduceIte, false_and]

theorem has_modify_record (fx : Fixes) (M : AL (AL (List Usage))) (o o' x x' : String) (u : Usage) :
    AL.has (AL.getD (AL.modify M o [] fun m => VC.record fx m x u) o' []) x' =
      (AL.has (AL.getD M o' []) x' || decide (o' = o ∧ x' = x)) := by
  rw [AL.getD_modify]
  by_cases h1 : o' = o
  · subst h1; simp only [↓reduceIte, true_and, has_record]
  · simp only [h1, ↓reduceIte, false_and, decide_false, Bool.or_false]

theorem sem_applyEv_op (fx : Fixes) (e : VEv) (c : VC) (o : String) (ho : c.op = some o) (hiv : c.inVarDef = false) :
    (VC.applyEv fx e c).sem = Sem.apply fx (.op o, e) c.sem := by
  cases e with
  | use x u =>
    simp only [VC.applyEv, VC.useVar, hiv, ho, Bool.false_eq_true, ↓reduceIte, VC.sem, Sem.apply, Sem.mk.injEq, true_and,
      and_true]
    exact ⟨funext fun _ => funext fun _ => getD_modify_record .., funext fun _ => funext fun _ => has_modify_record ..⟩
  | spread g =>
    simp only [VC.applyEv, VC.enterSpread, ho, VC.sem, Sem.apply, Sem.mk.injEq, true_and, and_true]
    exact funext fun _ => AL.getD_modify ..
  | defn v =>
    simp only [VC.applyEv, VC.defineVar, ho, VC.sem, Sem.apply, Sem.mk.injEq, and_true]
    funext o' x'
    rw [AL.getD_modify]
    by_cases h1 : o' = o
    · subst h1; simp only [↓reduceIte, true_and, AL.get?_set]
    · simp only [h1, ↓reduceIte, false_and]

theorem sem_applyEv_frag (fx : Fixes) (e : VEv) (c : VC) (f : String) (ho : c.op = none) (hf : c.frag = some f)
    (hiv : c.inVarDef = false) :
    (VC.applyEv fx e c).sem = Sem.apply fx (.frag f, e) c.sem := by
  cases e with
  | use x u =>
    simp only [VC.applyEv, VC.useVar, hiv, ho, hf, Bool.false_eq_true, ↓reduceIte, VC.sem, Sem.apply, Sem.mk.injEq,
      true_and, and_true]
    exact ⟨funext fun _ => funext fun _ => getD_modify_record .., funext fun _ => funext fun _ => has_modify_record ..⟩
  | spread g =>
    simp only [VC.applyEv, VC.enterSpread, ho, hf, Sem.apply]
    by_cases hg : g = f
    · subst hg; simp
    · simp only [bne_iff_ne, ne_eq, hg, not_false_eq_true, ↓reduceIte, VC.sem, Sem.mk.injEq, true_and]
      exact funext fun _ => AL.getD_modify ..
  | defn v =>
    simp only [VC.applyEv, VC.defineVar, ho, Sem.apply]

theorem sem_applyAll_op (fx : Fixes) (evs : List VEv) (c : VC) (o : String) (ho : c.op = some o)
    (hiv : c.inVarDef = false) :
    (VC.applyAll fx evs c).sem = Sem.run fx (evs.map fun e => (Scope.op o, e)) c.sem := by
  induction evs generalizing c with
  | nil => rfl
  | cons e evs ih =>
    rw [VC.applyAll_cons, List.map_cons, Sem.run_cons, ← sem_applyEv_op fx e c o ho hiv]
    obtain ⟨a1, _, a3⟩ := VC.applyEv_scope fx e c
    exact ih _ (a1.trans ho) (a3.trans hiv)

theorem sem_applyAll_frag (fx : Fixes) (evs : List VEv) (c : VC) (f : String) (ho : c.op = none) (hf : c.frag = some f)
    (hiv : c.inVarDef = false) :
    (VC.applyAll fx evs c).sem = Sem.run fx (evs.map fun e => (Scope.frag f, e)) c.sem := by
  induction evs generalizing c with
  | nil => rfl
  | cons e evs ih =>
    rw [VC.applyAll_cons, List.map_cons, Sem.run_cons, ← sem_applyEv_frag fx e c f ho hf hiv]
    obtain ⟨a1, a2, a3⟩ := VC.applyEv_scope fx e c
    exact ih _ (a1.trans ho) (a2.trans hf) (a3.trans hiv)

theorem sem_leaveOperation (c : VC) : c.leaveOperation.sem = c.sem := rfl
theorem sem_leaveFragmentDef (c : VC) : c.leaveFragmentDef.sem = c.sem := rfl

def defEvs (s : SchemaD) (x : Def) : List (Scope × VEv) :=
  match x with
  | .op _ name .. => (vlog s (tnDef s x)).map fun e => (Scope.op (name.getD ""), e)
  | .frag name .. => (vlog s (tnDef s x)).map fun e => (Scope.frag name, e)
  | .ts .. => []

theorem sem_defEffect (fx : Fixes) (s : SchemaD) (x : Def) (cc : VC)
    (h : cc.op = none ∧ cc.frag = none ∧ cc.inVarDef = false) :
    (defEffect fx s x cc).sem = Sem.run fx (defEvs s x) cc.sem := by
  cases x with
  | op kind name vars dirs ssid sels =>
    rw [defEffect, sem_leaveOperation]
    exact sem_applyAll_op fx _ _ _ rfl h.2.2
  | frag name on dirs ssid sels =>
    rw [defEffect, sem_leaveFragmentDef]
    exact sem_applyAll_frag fx _ _ _ h.1 rfl h.2.2
  | ts a b => rfl

theorem sem_defEffects (fx : Fixes) (s : SchemaD) (ds : List Def) (cc : VC)
    (h : cc.op = none ∧ cc.frag = none ∧ cc.inVarDef = false) :
    (ds.foldl (fun cc x => defEffect fx s x cc) cc).sem = Sem.run fx (ds.flatMap (defEvs s)) cc.sem := by
  induction ds generalizing cc with
  | nil => rfl
  | cons x xs ih =>
    rw [List.foldl_cons, List.flatMap_cons, Sem.run_append, ← sem_defEffect fx s x cc h]
    exact ih _ (defEffect_scope fx s x cc h)

/-- a look-up fact that every event either leaves alone or establishes -/
theorem Sem.run_iff (fx : Fixes) {P : Sem → Prop} {Q : Scope × VEv → Prop}
    (step : ∀ e m, P (Sem.apply fx e m) ↔ P m ∨ Q e) (evs : List (Scope × VEv)) (m : Sem) :
    P (Sem.run fx evs m) ↔ P m ∨ ∃ e ∈ evs, Q e := by
  induction evs generalizing m with
  | nil => simp [Sem.run_nil]
  | cons e evs ih => rw [Sem.run_cons, ih, step, or_assoc]; simp only [List.mem_cons, exists_eq_or_imp]

/-- a fragment's spread of itself is not recorded -/
theorem Sem.apply_frag_spread (fx : Fixes) (f g : String) (m : Sem) :
    Sem.apply fx (.frag f, .spread g) m =
      { m with fsp := fun f' => if f' = f ∧ g ≠ f then m.fsp f ++ [g] else m.fsp f' } := by
  by_cases h : g = f <;> simp [Sem.apply, h]

theorem run_sp (fx : Fixes) (evs : List (Scope × VEv)) (m : Sem) (sc : Scope) (g : String) :
    g ∈ (Sem.run fx evs m).sp sc ↔ g ∈ m.sp sc ∨ ((sc, VEv.spread g) ∈ evs ∧ sc ≠ .frag g) := by
  rw [Sem.run_iff fx (P := fun m => g ∈ m.sp sc) (Q := fun e => (sc, VEv.spread g) = e ∧ sc ≠ .frag g) ?_ evs m]
  · exact or_congr_right ⟨fun ⟨_, h, e, hn⟩ => ⟨e ▸ h, hn⟩, fun ⟨h, hn⟩ => ⟨_, h, rfl, hn⟩⟩
  · rintro ⟨sc', ev⟩ m
    cases sc <;> cases sc' <;> cases ev <;> simp [↓Sem.apply_frag_spread, Sem.apply, Sem.sp]
    · split <;> simp_all
    · rename_i f f' g'
      by_cases h : f = f' ∧ ¬ g' = f'
      · rw [if_pos h]
        obtain ⟨rfl, h⟩ := h
        rw [List.mem_append, List.mem_singleton]
        exact or_congr_right ⟨fun e => ⟨⟨rfl, e⟩, fun e' => h (e ▸ e'.symm)⟩, fun e => e.1.2⟩
      · rw [if_neg h]
        exact (or_iff_left (by rintro ⟨⟨rfl, rfl⟩, hn⟩; exact h ⟨rfl, fun e => hn e.symm⟩)).symm

theorem run_useK (fx : Fixes) (evs : List (Scope × VEv)) (m : Sem) (sc : Scope) (x : String) :
    (Sem.run fx evs m).useK sc x = true ↔ m.useK sc x = true ∨ ∃ u, (sc, VEv.use x u) ∈ evs := by
  rw [Sem.run_iff fx (P := fun m => m.useK sc x = true) (Q := fun e => ∃ u, (sc, VEv.use x u) = e) ?_ evs m]
  · exact or_congr_right ⟨fun ⟨_, h, u, e⟩ => ⟨u, e ▸ h⟩, fun ⟨u, h⟩ => ⟨_, h, u, rfl⟩⟩
  · rintro ⟨sc', ev⟩ m
    cases sc <;> cases sc' <;> cases ev <;> simp [↓Sem.apply_frag_spread, Sem.apply, Sem.useK]

theorem run_use (fx : Fixes) (h3 : fx.v3 = true) (evs : List (Scope × VEv)) (m : Sem) (sc : Scope) (x : String)
    (u : Usage) : u ∈ (Sem.run fx evs m).use sc x ↔ u ∈ m.use sc x ∨ (sc, VEv.use x u) ∈ evs := by
  rw [Sem.run_iff fx (P := fun m => u ∈ m.use sc x) (Q := fun e => (sc, VEv.use x u) = e) ?_ evs m]
  · simp
  · rintro ⟨sc', ev⟩ m
    cases sc <;> cases sc' <;> cases ev <;> simp [↓Sem.apply_frag_spread, Sem.apply, Sem.use, h3]
    all_goals split <;> simp_all

/-- the variable definitions made under operation key `o`, in order -/
def defnsAt (o : String) (evs : List (Scope × VEv)) : List VarDef :=
  evs.filterMap fun
    | (.op o', .defn v) => if o' = o then some v else none
    | _ => none

/-- the last definition named `x` in a list, `init` if there is none -/
def lastIn (x : String) : List VarDef → Option VarDef → Option VarDef
  | [], init => init
  | v :: vs, init => lastIn x vs (if x = v.name then some v else init)

theorem run_dfn (fx : Fixes) (evs : List (Scope × VEv)) (m : Sem) (o x : String) :
    (Sem.run fx evs m).dfn o x = lastIn x (defnsAt o evs) (m.dfn o x) := by
  induction evs generalizing m with
  | nil => rfl
  | cons e evs ih =>
    rw [Sem.run_cons, ih]
    obtain ⟨sc, ev⟩ := e
    cases sc <;> cases ev <;> simp only [↓Sem.apply_frag_spread, Sem.apply, defnsAt, List.filterMap_cons]
    rename_i o' v
    by_cases h : o' = o
    · subst h; simp only [↓reduceIte, true_and, lastIn]
    · have h' : ¬ o = o' := fun e => h e.symm
      simp only [h, h', ↓reduceIte, false_and]

end PyGql.Validate
