/-
  `SingleFieldSubscriptionsChecker._response_keys` (`rootKeysGo`, Validate/Rules.lean) computes - when its fuel suffices,
  and the fuel the rule passes (`sfsBound`) always does - exactly the set of RESPONSE KEYS REACHABLE from the root
  selection set through inline fragments and fragment spreads (`KA frs [] sels`), each once. This is the declarative
  reading of `CollectFields` restricted to response keys; it does not depend on the order of selections.
  The fuel the rule hands to its collection (`sfsBound d`) suffices for every root selection set of the document:
  hypothesis `hf` of `mem_rootKeys_iff` always holds (`sfsBound_suffices`).
-/
import PyGqlModel.Lemmas.ValidateAlias
import PyGqlModel.Lemmas.ValidateAL
namespace PyGql.Validate
open PyGql

/-- response key `k` is reachable from the selections `L` through inline fragments and spreads of fragments not in `vis` -/
inductive KA (frs : AL (List Sel)) : List String → List Sel → String → Prop where
  | field {vis L al n a ds h i sub} : Sel.field al n a ds h i sub ∈ L → KA frs vis L (okey al n)
  | inline {vis L on ds i sub k} : Sel.inline on ds i sub ∈ L → KA frs vis sub k → KA frs vis L k
  | spread {vis L name ds sels k} : Sel.spread name ds ∈ L → name ∉ vis → AL.get? frs name = some sels →
      KA frs vis sels k → KA frs vis L k

variable {frs : AL (List Sel)}

theorem KA.mono {vis : List String} {L L' : List Sel} {k : String} (h : KA frs vis L k) (hs : ∀ x ∈ L, x ∈ L') :
    KA frs vis L' k := by
  cases h with
  | field hm => exact .field (hs _ hm)
  | inline hm hk => exact .inline (hs _ hm) hk
  | spread hm hv hg hk => exact .spread (hs _ hm) hv hg hk

theorem KA.append_iff {vis : List String} {a b : List Sel} {k : String} :
    KA frs vis (a ++ b) k ↔ KA frs vis a k ∨ KA frs vis b k := by
  constructor
  · intro h
    cases h with
    | field hm =>
      rcases List.mem_append.mp hm with hm | hm
      · exact Or.inl (.field hm)
      · exact Or.inr (.field hm)
    | inline hm hk =>
      rcases List.mem_append.mp hm with hm | hm
      · exact Or.inl (.inline hm hk)
      · exact Or.inr (.inline hm hk)
    | spread hm hv hg hk =>
      rcases List.mem_append.mp hm with hm | hm
      · exact Or.inl (.spread hm hv hg hk)
      · exact Or.inr (.spread hm hv hg hk)
  · rintro (h | h)
    · exact h.mono (fun x hx => List.mem_append_left _ hx)
    · exact h.mono (fun x hx => List.mem_append_right _ hx)

theorem KA.nil {vis : List String} {k : String} : ¬ KA frs vis [] k := by
  intro h
  cases h with
  | field hm => cases hm
  | inline hm _ => cases hm
  | spread hm _ _ _ => cases hm

/-- a work list is its head or its tail; what a single selection reaches -/
theorem KA.cons_iff {vis : List String} {x : Sel} {L : List Sel} {k : String} :
    KA frs vis (x :: L) k ↔ KA frs vis [x] k ∨ KA frs vis L k := KA.append_iff (a := [x])

theorem KA.single_field {vis : List String} {al : Option String} {n : String} {a : List Arg} {ds : List Dir} {h : Bool}
    {i : Nat} {sub : List Sel} {k : String} : KA frs vis [Sel.field al n a ds h i sub] k ↔ k = okey al n := by
  constructor
  · intro hk
    cases hk with
    | field hm => cases List.mem_singleton.mp hm; rfl
    | inline hm _ => cases List.mem_singleton.mp hm
    | spread hm _ _ _ => cases List.mem_singleton.mp hm
  · rintro rfl
    exact .field (List.mem_singleton.mpr rfl)

theorem KA.single_inline {vis : List String} {on : Option String} {ds : List Dir} {i : Nat} {sub : List Sel} {k : String} :
    KA frs vis [Sel.inline on ds i sub] k ↔ KA frs vis sub k := by
  constructor
  · intro hk
    cases hk with
    | field hm => cases List.mem_singleton.mp hm
    | inline hm hk' => cases List.mem_singleton.mp hm; exact hk'
    | spread hm _ _ _ => cases List.mem_singleton.mp hm
  · exact .inline (List.mem_singleton.mpr rfl)

theorem KA.single_spread {vis : List String} {name : String} {ds : List Dir} {k : String} :
    KA frs vis [Sel.spread name ds] k ↔ name ∉ vis ∧ ∃ sels, AL.get? frs name = some sels ∧ KA frs vis sels k := by
  constructor
  · intro hk
    cases hk with
    | field hm => cases List.mem_singleton.mp hm
    | inline hm _ => cases List.mem_singleton.mp hm
    | spread hm hn hg hk' => cases List.mem_singleton.mp hm; exact ⟨hn, _, hg, hk'⟩
  · rintro ⟨hn, sels, hg, hk'⟩
    exact .spread (List.mem_singleton.mpr rfl) hn hg hk'

/-- fewer visited fragments: more reachable -/
theorem KA.weaken {vis vis' : List String} {L : List Sel} {k : String} (h : KA frs vis L k) (hv : ∀ x ∈ vis', x ∈ vis) :
    KA frs vis' L k := by
  induction h with
  | field hm => exact .field hm
  | inline hm _ ih => exact .inline hm ih
  | spread hm hn hg _ ih => exact .spread hm (fun hc => hn (hv _ hc)) hg ih

/-- **cutting loops**: a key reachable avoiding `vis` is reachable avoiding `f` as well, from the same selections or
    from the body of `f` -/
theorem KA.avoid (f : String) {vis : List String} {L : List Sel} {k : String} (h : KA frs vis L k) :
    KA frs (f :: vis) L k ∨ ∃ body, AL.get? frs f = some body ∧ KA frs (f :: vis) body k := by
  induction h with
  | field hm => exact Or.inl (.field hm)
  | inline hm _ ih =>
    rcases ih with ih | ih
    · exact Or.inl (.inline hm ih)
    · exact Or.inr ih
  | @spread L name ds sels k hm hn hg _ ih =>
    by_cases e : name = f
    · subst e
      rcases ih with ih | ih
      · exact Or.inr ⟨sels, hg, ih⟩
      · exact Or.inr ih
    · rcases ih with ih | ih
      · refine Or.inl (.spread hm (fun hc => ?_) hg ih)
        rcases List.mem_cons.mp hc with hc | hc
        · exact e hc
        · exact hn hc
      · exact Or.inr ih

theorem rootKeysGo_sound : ∀ (fuel : Nat) (work : List Sel) (ks vis : List String) (k : String),
    k ∈ rootKeysGo frs fuel work ks vis → k ∈ ks ∨ KA frs [] work k
  | 0, _, _, _, _, h => by simp only [rootKeysGo] at h; exact Or.inl h
  | f + 1, [], _, _, _, h => by simp only [rootKeysGo] at h; exact Or.inl h
  | f + 1, .field al n a ds hs i sub :: rest, ks, vis, k, h => by
    rw [rootKeysGo_field] at h
    rcases rootKeysGo_sound f rest _ vis k h with h1 | h1
    · split at h1
      · exact Or.inl h1
      · rcases List.mem_append.mp h1 with h1 | h1
        · exact Or.inl h1
        · exact Or.inr (KA.cons_iff.mpr (Or.inl (KA.single_field.mpr (List.mem_singleton.mp h1))))
    · exact Or.inr (KA.cons_iff.mpr (Or.inr h1))
  | f + 1, .inline on ds i sub :: rest, ks, vis, k, h => by
    simp only [rootKeysGo] at h
    refine (rootKeysGo_sound f (sub ++ rest) ks vis k h).imp_right fun h1 => ?_
    exact KA.cons_iff.mpr ((KA.append_iff.mp h1).imp_left KA.single_inline.mpr)
  | f + 1, .spread name ds :: rest, ks, vis, k, h => by
    simp only [rootKeysGo] at h
    split at h
    · exact (rootKeysGo_sound f rest ks vis k h).imp_right fun h1 => KA.cons_iff.mpr (Or.inr h1)
    · cases hg : AL.get? frs name with
      | none =>
        rw [hg] at h
        exact (rootKeysGo_sound f rest ks _ k h).imp_right fun h1 => KA.cons_iff.mpr (Or.inr h1)
      | some sels =>
        rw [hg] at h
        refine (rootKeysGo_sound f (sels ++ rest) ks _ k h).imp_right fun h1 => ?_
        exact KA.cons_iff.mpr ((KA.append_iff.mp h1).imp_left fun h2 =>
          KA.single_spread.mpr ⟨List.not_mem_nil, sels, hg, h2⟩)

theorem rootKeysGo_mono : ∀ (fuel : Nat) (work : List Sel) (ks vis : List String) (k : String),
    k ∈ ks → k ∈ rootKeysGo frs fuel work ks vis
  | 0, _, _, _, _, h => by simp only [rootKeysGo]; exact h
  | f + 1, [], _, _, _, h => by simp only [rootKeysGo]; exact h
  | f + 1, .field al n a ds hs i sub :: rest, ks, vis, k, h => by
    rw [rootKeysGo_field]
    refine rootKeysGo_mono f rest _ vis k ?_
    split
    · exact h
    · exact List.mem_append_left _ h
  | f + 1, .inline on ds i sub :: rest, ks, vis, k, h => by
    simp only [rootKeysGo]; exact rootKeysGo_mono f _ ks vis k h
  | f + 1, .spread name ds :: rest, ks, vis, k, h => by
    simp only [rootKeysGo]
    split
    · exact rootKeysGo_mono f rest ks vis k h
    · cases AL.get? frs name with
      | none => exact rootKeysGo_mono f rest ks _ k h
      | some sels => exact rootKeysGo_mono f _ ks _ k h

theorem rootKeysGo_nodup : ∀ (fuel : Nat) (work : List Sel) (ks vis : List String),
    ks.Nodup → (rootKeysGo frs fuel work ks vis).Nodup
  | 0, _, _, _, h => by simp only [rootKeysGo]; exact h
  | f + 1, [], _, _, h => by simp only [rootKeysGo]; exact h
  | f + 1, .field al n a ds hs i sub :: rest, ks, vis, h => by
    rw [rootKeysGo_field]
    refine rootKeysGo_nodup f rest _ vis ?_
    split
    · exact h
    · rename_i hc
      refine List.nodup_append.mpr ⟨h, by simp, fun a ha b hb => ?_⟩
      simp only [List.mem_singleton] at hb
      subst hb
      intro e
      subst e
      exact hc (List.contains_iff_mem.mpr ha)
  | f + 1, .inline on ds i sub :: rest, ks, vis, h => by
    simp only [rootKeysGo]; exact rootKeysGo_nodup f _ ks vis h
  | f + 1, .spread name ds :: rest, ks, vis, h => by
    simp only [rootKeysGo]
    split
    · exact rootKeysGo_nodup f rest ks vis h
    · cases AL.get? frs name with
      | none => exact rootKeysGo_nodup f rest ks _ h
      | some sels => exact rootKeysGo_nodup f _ ks _ h

/-- the selections still to be opened: those of the fragments of the table not yet visited -/
def unvisited (frs : AL (List Sel)) (vis : List String) : Nat :=
  ((frs.filter fun p => !vis.contains p.1).map fun p => selsSize p.2 + 1).sum

theorem selsSize_append (a b : List Sel) : selsSize (a ++ b) = selsSize a + selsSize b := by
  induction a with
  | nil => simp [selsSize]
  | cons x xs ih => simp only [List.cons_append, selsSize, ih]; omega

theorem unvisited_cons (p : String × List Sel) (ps : AL (List Sel)) (vis : List String) :
    unvisited (p :: ps) vis = (if vis.contains p.1 = true then 0 else selsSize p.2 + 1) + unvisited ps vis := by
  unfold unvisited
  rw [List.filter_cons]
  cases vis.contains p.1 <;> simp

theorem unvisited_cons_le (frs : AL (List Sel)) (vis : List String) (name : String) :
    unvisited frs (name :: vis) ≤ unvisited frs vis := by
  induction frs with
  | nil => exact Nat.le_refl _
  | cons p ps ih =>
    rw [unvisited_cons, unvisited_cons, List.contains_cons]
    cases p.1 == name <;> cases vis.contains p.1 <;> simp <;> omega

/-- opening a fragment uses up its entry of the table -/
theorem unvisited_visit (frs : AL (List Sel)) (vis : List String) (name : String) (sels : List Sel)
    (hv : vis.contains name = false) (hg : AL.get? frs name = some sels) :
    unvisited frs (name :: vis) + selsSize sels + 1 ≤ unvisited frs vis := by
  induction frs with
  | nil => cases hg
  | cons p ps ih =>
    rw [unvisited_cons, unvisited_cons, List.contains_cons]
    simp only [AL.get?, List.find?_cons] at hg
    cases h2 : p.1 == name with
    | true =>
      simp only [h2, Option.map_some, Option.some.injEq] at hg
      have h1 : vis.contains p.1 = false := by rw [eq_of_beq h2]; exact hv
      have := unvisited_cons_le ps vis name
      simp only [h1, hg, Bool.true_or, Bool.false_eq_true, ↓reduceIte]
      omega
    | false =>
      simp only [h2] at hg
      have := ih hg
      cases vis.contains p.1 <;> simp <;> omega

theorem get?_none_avoid {vis : List String} {L : List Sel} {k name : String} (hg : AL.get? frs name = none)
    (h : KA frs vis L k) : KA frs (name :: vis) L k := by
  rcases h.avoid name with h | ⟨body, hb, _⟩
  · exact h
  · rw [hg] at hb; cases hb

/-- **completeness**: with fuel for the work list and for every fragment not yet visited, every key reachable
    (avoiding the visited fragments) is collected -/
theorem rootKeysGo_complete : ∀ (fuel : Nat) (work : List Sel) (ks vis : List String) (k : String),
    selsSize work + unvisited frs vis < fuel → KA frs vis work k → k ∈ rootKeysGo frs fuel work ks vis
  | 0, _, _, _, _, hf, _ => by omega
  | f + 1, [], _, _, _, _, h => absurd h KA.nil
  | f + 1, .field al n a ds hs i sub :: rest, ks, vis, k, hf, h => by
    rw [rootKeysGo_field]
    simp only [selsSize, selSize] at hf
    rcases KA.cons_iff.mp h with h1 | h1
    · cases KA.single_field.mp h1
      refine rootKeysGo_mono f rest _ vis _ ?_
      split
      · rename_i hc; exact List.contains_iff_mem.mp hc
      · exact List.mem_append_right _ (List.mem_singleton.mpr rfl)
    · exact rootKeysGo_complete f rest _ vis k (by omega) h1
  | f + 1, .inline on ds i sub :: rest, ks, vis, k, hf, h => by
    simp only [rootKeysGo]
    simp only [selsSize, selSize] at hf
    refine rootKeysGo_complete f (sub ++ rest) ks vis k (by rw [selsSize_append]; omega) ?_
    exact KA.append_iff.mpr ((KA.cons_iff.mp h).imp_left KA.single_inline.mp)
  | f + 1, .spread name ds :: rest, ks, vis, k, hf, h => by
    simp only [rootKeysGo]
    simp only [selsSize, selSize] at hf
    -- what the spread itself reaches, when it is opened
    have hk := (KA.cons_iff.mp h).imp_left KA.single_spread.mp
    split
    · rename_i hc
      refine rootKeysGo_complete f rest ks vis k (by omega) ?_
      rcases hk with ⟨hn, _⟩ | h1
      · exact absurd (List.contains_iff_mem.mp hc) hn
      · exact h1
    · rename_i hc
      have hc' : vis.contains name = false := by simpa using hc
      cases hg : AL.get? frs name with
      | none =>
        refine rootKeysGo_complete f rest ks _ k (by have := unvisited_cons_le frs vis name; omega) ?_
        rcases hk with ⟨_, sels, hg', _⟩ | h1
        · rw [hg] at hg'; cases hg'
        · exact get?_none_avoid hg h1
      | some sels =>
        have hu := unvisited_visit frs vis name sels hc' hg
        refine rootKeysGo_complete f (sels ++ rest) ks _ k (by rw [selsSize_append]; omega) ?_
        -- a path that comes back to `name` can be cut short: it continues from the body of `name`
        have cut : ∀ {L}, KA frs vis L k → KA frs (name :: vis) L k ∨ KA frs (name :: vis) sels k := fun h0 =>
          (h0.avoid name).imp_right fun ⟨body, hb, h2⟩ => by rw [hg] at hb; cases hb; exact h2
        rcases hk with ⟨_, sels', hg', hk'⟩ | h1
        · rw [hg] at hg'; cases hg'
          exact KA.append_iff.mpr (Or.inl ((cut hk').elim id id))
        · exact KA.append_iff.mpr ((cut h1).symm)

/-- **what `_response_keys` computes**: with enough fuel, exactly the reachable response keys -/
theorem mem_rootKeys_iff (fuel : Nat) (sels : List Sel) (k : String) (hf : selsSize sels + unvisited frs [] < fuel) :
    k ∈ rootKeys frs fuel sels ↔ KA frs [] sels k := by
  unfold rootKeys
  constructor
  · intro h
    rcases rootKeysGo_sound fuel sels [] [] k h with h | h
    · cases h
    · exact h
  · exact rootKeysGo_complete fuel sels [] [] k hf

theorem rootKeys_nodup (fuel : Nat) (sels : List Sel) : (rootKeys frs fuel sels).Nodup :=
  rootKeysGo_nodup fuel sels [] [] List.nodup_nil

/-- total size of the fragment bodies of a table -/
def tableSum (m : AL (List Sel)) : Nat := (m.map fun p => selsSize p.2 + 1).sum

theorem unvisited_nil (frs : AL (List Sel)) : unvisited frs [] = tableSum frs := by
  unfold unvisited tableSum
  congr 2
  exact List.filter_eq_self.mpr (fun _ _ => rfl)

theorem tableSum_map_set (m : AL (List Sel)) (h : AL.WF m) (k : String) (v : List Sel) :
    tableSum (m.map fun p => if p.1 == k then (k, v) else p) ≤ tableSum m + (selsSize v + 1) := by
  induction m with
  | nil => simp [tableSum]
  | cons p ps ih =>
    have hps : AL.WF ps := by unfold AL.WF AL.keys at h ⊢; exact (List.nodup_cons.mp h).2
    have := ih hps
    unfold tableSum at this ⊢
    simp only [List.map_cons, List.sum_cons]
    by_cases hk : (p.1 == k) = true
    · -- no other entry has this key: the rest is unchanged
      have hrest : (ps.map fun q => if q.1 == k then (k, v) else q) = ps := by
        refine (List.map_congr_left (g := id) fun q hq => ?_).trans (List.map_id _)
        have hne : (q.1 == k) = false := by
          rw [beq_eq_false_iff_ne]
          intro e
          unfold AL.WF AL.keys at h
          have hnot := (List.nodup_cons.mp h).1
          exact hnot (List.mem_map.mpr ⟨q, hq, by show q.1 = p.1; rw [e, eq_of_beq hk]⟩)
        simp [hne]
      rw [hrest]
      simp only [hk, ↓reduceIte]
      omega
    · simp only [hk, Bool.false_eq_true, ↓reduceIte]
      omega

theorem tableSum_set (m : AL (List Sel)) (h : AL.WF m) (k : String) (v : List Sel) :
    tableSum (AL.set m k v) ≤ tableSum m + (selsSize v + 1) := by
  unfold AL.set
  split
  · exact tableSum_map_set m h k v
  · unfold tableSum; simp

/-- what a definition adds to `sfsBound` -/
def defSize : Def → Nat
  | .frag _ _ _ _ sels => selsSize sels + 1
  | .op _ _ _ _ _ sels => selsSize sels + 1
  | _ => 0

/-- what a definition adds to the size of `sfsTable` (at most: a later fragment of the same name replaces an earlier) -/
def fragSize : Def → Nat
  | .frag _ _ _ _ sels => selsSize sels + 1
  | _ => 0

theorem fragSize_le (x : Def) : fragSize x ≤ defSize x := by
  cases x <;> first | exact Nat.le_refl _ | exact Nat.zero_le _

theorem sfsBound_eq (d : Doc) : sfsBound d = 1 + (d.defs.map defSize).sum := by
  have key : ∀ (l : List Def) (n : Nat),
      l.foldl (fun n x => match x with | .frag _ _ _ _ sels => n + selsSize sels + 1 | .op _ _ _ _ _ sels => n + selsSize sels + 1 | _ => n) n =
        n + (l.map defSize).sum := by
    intro l
    induction l with
    | nil => intro n; rfl
    | cons x xs ih =>
      intro n
      rw [List.foldl_cons, ih, List.map_cons, List.sum_cons, ← Nat.add_assoc]
      cases x <;> rfl
  exact key d.defs 1

theorem sfsTable_sum (d : Doc) : AL.WF (sfsTable d) ∧ tableSum (sfsTable d) ≤ (d.defs.map fragSize).sum := by
  have key : ∀ (l : List Def) (m : AL (List Sel)), AL.WF m →
      AL.WF (l.foldl (fun m x => match x with | .frag n _ _ _ sels => AL.set m n sels | _ => m) m) ∧
      tableSum (l.foldl (fun m x => match x with | .frag n _ _ _ sels => AL.set m n sels | _ => m) m) ≤
        tableSum m + (l.map fragSize).sum := by
    intro l
    induction l with
    | nil => intro m hm; exact ⟨hm, Nat.le_refl _⟩
    | cons x xs ih =>
      intro m hm
      rw [List.foldl_cons, List.map_cons, List.sum_cons]
      cases x with
      | frag n on dirs id sels =>
        obtain ⟨h1, h2⟩ := ih (AL.set m n sels) (AL.wf_set hm n sels)
        have := tableSum_set m hm n sels
        exact ⟨h1, by simp only [fragSize]; omega⟩
      | op => exact ⟨(ih m hm).1, by simp only [fragSize, Nat.zero_add]; exact (ih m hm).2⟩
      | ts => exact ⟨(ih m hm).1, by simp only [fragSize, Nat.zero_add]; exact (ih m hm).2⟩
  have := key d.defs [] AL.wf_nil
  rwa [show tableSum ([] : AL (List Sel)) = 0 from rfl, Nat.zero_add] at this

/-- an operation and all fragments are counted by `sfsBound` -/
theorem op_frags_le : ∀ (ds : List Def) {k : String} {nm : Option String} {vs : List VarDef} {dr : List Dir}
    {i : Nat} {sels : List Sel}, Def.op k nm vs dr i sels ∈ ds →
    selsSize sels + 1 + (ds.map fragSize).sum ≤ (ds.map defSize).sum
  | [], _, _, _, _, _, _, h => by cases h
  | x :: xs, k, nm, vs, dr, i, sels, h => by
    rw [List.map_cons, List.sum_cons, List.map_cons, List.sum_cons]
    rcases List.mem_cons.mp h with e | h'
    · subst e
      have : (xs.map fragSize).sum ≤ (xs.map defSize).sum := by
        clear h
        induction xs with
        | nil => exact Nat.le_refl _
        | cons y ys ih =>
          have := fragSize_le y
          rw [List.map_cons, List.sum_cons, List.map_cons, List.sum_cons]
          omega
      simp only [fragSize, defSize]
      omega
    · have := op_frags_le xs h'
      have := fragSize_le x
      omega

theorem sfsBound_suffices (d : Doc) {k : String} {nm : Option String} {vs : List VarDef} {dr : List Dir} {i : Nat}
    {sels : List Sel} (h : Def.op k nm vs dr i sels ∈ d.defs) :
    selsSize sels + unvisited (sfsTable d) [] < sfsBound d := by
  rw [unvisited_nil, sfsBound_eq]
  have h1 := (sfsTable_sum d).2
  have h2 := op_frags_le d.defs h
  omega

end PyGql.Validate
