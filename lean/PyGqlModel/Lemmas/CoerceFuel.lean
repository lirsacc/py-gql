/-
  C07 — errors and fuel, for `gCoerce` over any source of inputs: (a) where an error comes from: an error of the loop is a
  rejection or the error of an element, an error of one call is a rejection, an early answer, the error of a leaf, or the error
  of one of its recursive calls (`Call`); (b) results that are not "out of fuel" do not change when more fuel is given
  (stability); (c) `fuelFor reg ty (size of the value)` always suffices, for any size that gets smaller towards the parts.
-/
import PyGqlModel.Lemmas.CoerceSrc


namespace PyGql.Coerce
open PyGql

/-- the result is not the artefact "recursion budget exhausted" -/
def NoFuel {α : Type} (r : Except Err α) : Prop := r ≠ .error .fuel

variable {α β : Type} {c : Bool} {f : α → Except Err β} {get : String → Option α} {rec : Ty → α → R} {S : Src α} {reg : Reg}
  {ty : Ty} {v : α} {e : Err}

theorem mapEB_error :
    ∀ {l : List α}, mapEB c f l = .error e → e = .coercion ∨ ∃ x, x ∈ l ∧ f x = .error e := by
  intro l
  induction l with
  | nil => intro h; cases h
  | cons x xs ih =>
    intro h
    have tail : mapEB c f xs = .error e → e = .coercion ∨ ∃ y, y ∈ x :: xs ∧ f y = .error e :=
      fun h' => (ih h').imp_right fun ⟨y, hy, hfy⟩ => ⟨y, List.mem_cons_of_mem _ hy, hfy⟩
    simp only [mapEB] at h
    split at h
    · rename_i e' hx
      split at h
      · split at h
        · rename_i hxs
          cases h
          exact tail hxs
        · cases h
          exact .inl rfl
      · cases h
        exact .inr ⟨x, List.mem_cons_self, hx⟩
    · split at h
      · rename_i hxs
        cases h
        exact tail hxs
      · cases h

theorem entries_error {r : Except Err (List (Option (String × PV)))} {e : Err} (h : entries r = .error e) : r = .error e := by
  cases r <;> cases h
  rfl

theorem fieldStep_error {f : InField}
    (h : fieldStep get rec f = .error e) : e = .coercion ∨ ∃ v, get f.name = some v ∧ rec f.type v = .error e := by
  unfold fieldStep at h
  split at h
  · split at h
    · cases h
    · split at h <;> cases h
      exact .inl rfl
  · rename_i v hv
    split at h
    · rename_i hr
      cases h
      exact .inr ⟨v, hv, hr⟩
    · cases h

theorem gStep_error (h : gStep S reg rec ty v = .error e) :
    e = .coercion ∨ S.early ty v = some (.error e) ∨ (∃ n, stripNN ty = .named n ∧ S.leaf n (reg.get? n) v = .error e) ∨
      S.nested = .error e ∨ ∃ t' x, Call S reg ty v t' x ∧ rec t' x = .error e := by
  unfold gStep at h
  split at h
  · rename_i r he
    exact .inr (.inl (h ▸ he))
  · rename_i he
    split at h
    · cases h
      exact .inl rfl
    · unfold gCore at h
      split at h
      · cases h
      · generalize hst : stripNN ty = t at h
        cases t with
        | nonNull t' => exact .inr (.inr (.inr (.inl h)))
        | list t' =>
          simp only at h
          split at h
          · rename_i l hl
            split at h
            · rename_i hm
              cases h
              exact (mapEB_error hm).imp_right fun ⟨x, hx, hfx⟩ => .inr (.inr (.inr ⟨t', x, .item hst hl hx, hfx⟩))
            · cases h
          · rename_i hl
            split at h
            · rename_i hx
              cases h
              exact .inr (.inr (.inr (.inr ⟨t', v, .single he hst hl, hx⟩)))
            · cases h
        | named n =>
          simp only at h
          split at h
          · rename_i fs hk
            split at h
            · cases h
              exact .inl rfl
            · rename_i kvs hkvs
              split at h
              · rename_i hm
                cases h
                refine (mapEB_error (entries_error hm)).elim .inl fun ⟨f, hf, hfe⟩ => ?_
                exact (fieldStep_error hfe).imp_right fun ⟨x, hx, hr⟩ =>
                  .inr (.inr (.inr ⟨f.type, x, .field hst hk hf hkvs hx, hr⟩))
              · split at h <;> cases h
                exact .inl rfl
          · exact .inr (.inr (.inl ⟨n, rfl, h⟩))

theorem toR_error {o : ParseOut} {e : Err} (h : o.toR = .error e) : e = .coercion ∨ (e = .internal ∧ o = .raised) := by
  cases o <;> cases h
  · exact .inl rfl
  · exact .inr ⟨rfl, rfl⟩

theorem mapEB_congr {g : α → Except Err β} (hfg : ∀ x, NoFuel (f x) → g x = f x) :
    ∀ (l : List α), NoFuel (mapEB c f l) → mapEB c g l = mapEB c f l := by
  intro l
  induction l with
  | nil => intro _; rfl
  | cons x xs ih =>
    intro h
    simp only [mapEB] at h ⊢
    rw [hfg x fun hc => by rw [hc] at h; exact h rfl]
    split
    · split
      · rename_i hx hc
        rw [ih fun hc' => by simp only [hx, hc, hc', if_true] at h; exact h rfl]
      · rfl
    · rename_i hx
      rw [ih fun hc => by rw [hx, hc] at h; exact h rfl]

theorem fieldStep_congr {rec' : Ty → α → R}
    (hrr : ∀ t v, NoFuel (rec t v) → rec' t v = rec t v) (f : InField) (h : NoFuel (fieldStep get rec f)) :
    fieldStep get rec' f = fieldStep get rec f := by
  unfold fieldStep at h ⊢
  split
  · rfl
  · rename_i v hv
    simp only [hv] at h
    rw [hrr _ _ fun hc => by rw [hc] at h; exact h rfl]

theorem gStep_congr {rec' : Ty → α → R} (hrr : ∀ t v, NoFuel (rec t v) → rec' t v = rec t v)
    (h : NoFuel (gStep S reg rec ty v)) : gStep S reg rec' ty v = gStep S reg rec ty v := by
  unfold gStep gCore at h ⊢
  split
  · rfl
  · rename_i he
    simp only [he] at h
    split
    · rfl
    · rename_i hc
      rw [if_neg hc] at h
      split
      · rfl
      · rename_i hnull
        rw [if_neg hnull] at h
        generalize stripNN ty = t at h
        cases t with
        | nonNull t' => rfl
        | list t' =>
          simp only at h ⊢
          split
          · rename_i l hl
            simp only [hl] at h
            rw [mapEB_congr (hrr t') l fun hc => by rw [hc] at h; exact h rfl]
          · rename_i hl
            simp only [hl] at h
            rw [hrr _ _ fun hc => by rw [hc] at h; exact h rfl]
        | named n =>
          simp only at h ⊢
          split
          · rename_i fs hk
            split
            · rfl
            · rename_i kvs hkvs
              simp only [hk, hkvs] at h
              rw [mapEB_congr (fieldStep_congr hrr) fs fun hc => by rw [hc] at h; exact h rfl]
          · rfl

theorem gCoerce_stable (S : Src α) (reg : Reg) : ∀ (fuel : Nat) (ty : Ty) (v : α),
    NoFuel (gCoerce S reg fuel ty v) → gCoerce S reg (fuel + 1) ty v = gCoerce S reg fuel ty v := by
  intro fuel
  induction fuel with
  | zero => intro ty v h; exact absurd rfl h
  | succ fuel ih => exact fun ty v h => gStep_congr (fun t x hx => ih t x hx) h

theorem gCoerce_stable_add (S : Src α) (reg : Reg) (fuel k : Nat) (ty : Ty) (v : α) (h : NoFuel (gCoerce S reg fuel ty v)) :
    gCoerce S reg (fuel + k) ty v = gCoerce S reg fuel ty v := by
  induction k with
  | zero => rfl
  | succ k ih =>
    have : NoFuel (gCoerce S reg (fuel + k) ty v) := by rw [ih]; exact h
    rw [← Nat.add_assoc, gCoerce_stable S reg (fuel + k) ty v this, ih]

theorem fieldsWidth_le {f : InField} : ∀ {fs : List InField}, f ∈ fs → f.type.size ≤ fieldsWidth fs := by
  intro fs
  induction fs with
  | nil => intro h; cases h
  | cons g gs ih =>
    intro h
    simp only [fieldsWidth]
    cases h with
    | head => exact Nat.le_max_left _ _
    | tail _ hm => exact Nat.le_trans (ih hm) (Nat.le_max_right _ _)

theorem typesWidth_le {n : String} {fs : List InField} : ∀ {ts : List (String × NamedT)},
    (n, NamedT.input fs) ∈ ts → fieldsWidth fs ≤ typesWidth ts := by
  intro ts
  induction ts with
  | nil => intro h; cases h
  | cons p r ih =>
    intro h
    rcases List.mem_cons.1 h with heq | hm
    · rw [← heq]; simp only [typesWidth]; exact Nat.le_max_left _ _
    · have := ih hm
      simp only [typesWidth]
      split
      · exact Nat.le_trans this (Nat.le_max_right _ _)
      · exact this

theorem width_le {reg : Reg} {n : String} {fs : List InField} (hk : reg.get? n = some (.input fs))
    {f : InField} (hf : f ∈ fs) : f.type.size ≤ reg.width :=
  Nat.le_trans (fieldsWidth_le hf) (typesWidth_le (mem_of_get? hk))

theorem size_strip_le (ty : Ty) : (stripNN ty).size ≤ ty.size := by
  cases ty <;> simp [stripNN, Ty.size]

/-- the budget strictly decreases from a value to a part of it, even when the type restarts at a field type (at most `width` large) -/
theorem fuelFor_lt {reg : Reg} {t t' : Ty} {a b : Nat} (hab : a < b) (ht : t'.size ≤ reg.width + t.size) :
    fuelFor reg t' a < fuelFor reg t b := by
  have h := Nat.mul_le_mul_left (reg.width + 1) (Nat.succ_le_of_lt hab)
  rw [Nat.mul_succ] at h
  simp only [fuelFor]
  omega

section enough
variable {size : α → Nat} (hitems : ∀ {v l x}, S.items v = some l → x ∈ l → size x < size v)
  (hmembers : ∀ {v kvs k x}, S.members v = some kvs → lookupLast k kvs = some x → size x < size v)
  (hleaf : ∀ n k v, NoFuel (S.leaf n k v)) (hnested : NoFuel S.nested) (hearly : ∀ {ty v r}, S.early ty v = some r → NoFuel r)
include hitems hmembers

theorem call_fuel_lt {t' : Ty} {x : α} (h : Call S reg ty v t' x) : fuelFor reg t' (size x) < fuelFor reg ty (size v) := by
  have hs := size_strip_le ty
  cases h with
  | item hst hl hx =>
    rw [hst] at hs
    exact fuelFor_lt (hitems hl hx) (by simp only [Ty.size] at hs; omega)
  | single _ hst _ =>
    rw [hst] at hs
    simp only [fuelFor, Ty.size] at hs ⊢
    omega
  | field _ hk hf hm hx => exact fuelFor_lt (hmembers hm hx) (Nat.le_trans (width_le hk hf) (Nat.le_add_right _ _))

include hleaf hnested hearly

/-- With `fuelFor reg ty (size of v)` — or any larger budget — "out of fuel" is not reported, for a size of inputs that gets
    smaller towards the parts and a source that itself never reports it. -/
theorem gCoerce_noFuel (reg : Reg) : ∀ (fuel : Nat) (ty : Ty) (v : α),
    fuelFor reg ty (size v) ≤ fuel → NoFuel (gCoerce S reg fuel ty v) := by
  intro fuel
  induction fuel with
  | zero =>
    intro ty v h
    have := ty.size_pos
    simp only [fuelFor] at h
    omega
  | succ fuel ih =>
    intro ty v h hf
    rcases gStep_error hf with hc | he | ⟨n, _, hl⟩ | hn | ⟨t', x, hcall, hx⟩
    · cases hc
    · exact hearly he rfl
    · exact hleaf _ _ _ hl
    · exact hnested hn
    · have := call_fuel_lt hitems hmembers hcall
      exact ih t' x (by omega) hx

end enough

theorem sizeOf_lookupLast {α : Type} [SizeOf α] (k : String) : ∀ (l : List (String × α)) (v : α),
    lookupLast k l = some v → sizeOf v < sizeOf l := by
  intro l
  induction l with
  | nil => intro v h; simp [lookupLast] at h
  | cons p rest ih =>
    intro v h
    obtain ⟨k', v'⟩ := p
    simp only [lookupLast] at h
    split at h
    · rename_i r hr; cases h; have := ih _ hr; simp; omega
    · split at h
      · cases h; simp; omega
      · cases h

theorem leafJ_error {n : String} {k : Option NamedT} {v : JV} (h : leafJ reg n k v = .error e) :
    e = .coercion ∨ (e = .internal ∧ (k = none ∨ reg.customParse n v = .raised)) := by
  cases k with
  | none =>
    cases h
    exact .inr ⟨rfl, .inl rfl⟩
  | some k =>
    cases k with
    | int => exact .inl (coerceInt_error h)
    | float => exact .inl (coerceFloat_error h)
    | string => exact .inl (parseString_error h)
    | boolean => exact .inl (parseBool_error h)
    | id => exact .inl (parseId_error h)
    | custom => exact (toR_error h).imp_right fun ⟨he, hr⟩ => ⟨he, .inr hr⟩
    | enum vs =>
      cases v with
      | str s => exact .inl (getValue_error h)
      | _ =>
        cases h
        exact .inl rfl
    | input fs =>
      cases h
      exact .inl rfl

theorem parseLiteral_error {k : NamedT} {l : Lit} (h : parseLiteral k l = .error e) : e = .coercion ∨ e = .internal := by
  rcases parseLiteral_cases k l with h' | h' | ⟨_, _, h'⟩ | ⟨_, _, _, h'⟩ | ⟨_, _, h'⟩ | ⟨_, _, h'⟩ <;> rw [h'] at h
  · cases h
    exact .inl rfl
  · cases h
    exact .inr rfl
  · exact .inl (rangeChecked_error h)
  · exact .inl (floatChecked_error h)
  · cases h
  · cases h

theorem leafL_error {vars : Option (List (String × PV))} {n : String} {k : Option NamedT} {l : Lit}
    (h : leafL reg vars n k l = .error e) : e = .coercion ∨ e = .internal := by
  have scalar : ∀ k', (if isScalarLit l then parseLiteral k' l else .error .coercion) = Except.error e → e = .coercion ∨ e = .internal := by
    intro k' h
    split at h
    · exact parseLiteral_error h
    · cases h
      exact .inl rfl
  cases k with
  | none =>
    cases h
    exact .inr rfl
  | some k =>
    cases k with
    | enum vs =>
      cases l with
      | enum s => exact .inl (getValue_error h)
      | _ =>
        cases h
        exact .inl rfl
    | custom =>
      simp only [leafL] at h
      split at h
      · exact (toR_error h).imp_right fun ⟨he, _⟩ => he
      · cases h
        exact .inl rfl
    | input fs =>
      cases h
      exact .inl rfl
    | _ => exact scalar _ h

theorem extractVariable_noFuel (vars : Option (List (String × PV))) (ty : Ty) (x : String) : NoFuel (extractVariable vars ty x) := by
  intro hf
  unfold extractVariable at hf
  repeat' split at hf
  all_goals cases hf

end PyGql.Coerce
