/-
  THE TIE between the function the memo theorems are stated about and the chain the driver runs: the validator chain
  with the memoised search inside (`Validate/ChainPar.lean: runM`), run with the overlap rule ALONE, reports exactly
  the errors of `overlapMemoRun` (`Validate/ChainMemo.lean`) - on every document with pairwise distinct selection-set
  identities (where the memoised search never crashes).
-/
import PyGqlModel.Lemmas.ValidateTyped
import PyGqlModel.Lemmas.ValidateOverlapWalk
import PyGqlModel.Lemmas.ValidateOverlapMemo
import PyGqlModel.Lemmas.ValidateOverlapSynRank
namespace PyGql.Validate
open PyGql PyGql.Validate.Spec

abbrev ovRule : Rule := .overlappingFieldsCanBeMerged

/-- what `enterRuleM` does to the rule state at a selection set seen under parent type `p` -/
def stepSel (s : SchemaD) (fx : Fixes) (fuel : Nat) (p : Option String) (i : Nat) (sels : List Sel) (rs : RS) : RS :=
  let res := withinSelectionSetM s fx fuel p i sels rs.octx
  let st := { rs with octx := res.2 }
  let st := match res.2.crash with | some e => { st with crash := some e } | none => st
  st.errN ovRule res.1

/-- ... at one node of the typed enumeration -/
def stepRS (s : SchemaD) (fx : Fixes) (fuel : Nat) (q : Node × View) (rs : RS) : RS :=
  match q.1 with
  | .selectionSet i sels => stepSel s fx fuel q.2.parent i sels rs
  | _ => rs

/-- ... along a list of typed nodes -/
def advance (s : SchemaD) (fx : Fixes) (fuel : Nat) (l : List (Node × View)) (rs : RS) : RS :=
  l.foldl (fun rs q => stepRS s fx fuel q rs) rs

/-- below the document, entering a node moves the rule state by `stepRS` and never raises `SkipNode` -/
theorem enterRuleM_ov (s : SchemaD) (fx : Fixes) (fuel : Nat) (n : Node) (ti : TI) (rs : RS) (hn : n.isDoc = false) :
    enterRuleM fuel s fx ovRule n ti rs = (stepRS s fx fuel (n, ti.view) rs, false) := by
  cases n with
  | document d => cases hn
  | _ => rfl

theorem enterPar_ov (s : SchemaD) (fx : Fixes) (fuel : Nat) (n : Node) (st : St) :
    enterPar (enterRuleM fuel) ⟨s, fx, [ovRule]⟩ n st =
      ({ ti := tiEnter s n st.ti, rs := (enterRuleM fuel s fx ovRule n (tiEnter s n st.ti) st.rs).1 },
       (enterRuleM fuel s fx ovRule n (tiEnter s n st.ti) st.rs).2) := by
  simp only [enterPar, enterRulesPar]
  generalize enterRuleM fuel s fx ovRule n (tiEnter s n st.ti) st.rs = p
  obtain ⟨a, b⟩ := p
  cases b <;> simp

theorem leavePar_ov (s : SchemaD) (fx : Fixes) (fuel : Nat) (n : Node) (st : St) :
    leavePar (enterRuleM fuel) ⟨s, fx, [ovRule]⟩ n st = { ti := tiLeave n st.ti, rs := st.rs } := by
  simp only [leavePar, List.reverse_cons, List.reverse_nil, List.nil_append, List.foldl_cons, List.foldl_nil]
  congr 1

theorem visitNodePar_false {er : ER} {c : Cfg} {n : Node} {body : St → St} {st : St} (h : (enterPar er c n st).2 = false) :
    visitNodePar er c n body st = leavePar er c n (body (enterPar er c n st).1) := by
  unfold visitNodePar
  revert h
  generalize enterPar er c n st = p
  obtain ⟨a, b⟩ := p
  intro h; simp only at h; subst h; rfl

/-- the walk below the document: balanced stacks, and the rule state advances by `stepRS` along the typed nodes -/
def OM (s : SchemaD) (fx : Fixes) (fuel : Nat) (l : List (Node × View)) (st st' : St) : Prop :=
  st'.ti = st.ti ∧ st'.rs = advance s fx fuel l st.rs

theorem om_alg (s : SchemaD) (fx : Fixes) (fuel : Nat) :
    TAlgP (enterRuleM fuel) ⟨s, fx, [ovRule]⟩ (OM s fx fuel) where
  ti h := h.1
  nil st := ⟨rfl, rfl⟩
  append h1 h2 := ⟨h2.1.trans h1.1, by rw [h2.2, h1.2]; simp only [advance, List.foldl_append]⟩
  node n body l st hn hd hb := by
    have he : enterPar (enterRuleM fuel) ⟨s, fx, [ovRule]⟩ n st =
        ({ ti := tiEnter s n st.ti, rs := stepRS s fx fuel (n, View.enter s n st.ti.view) st.rs }, false) := by
      rw [enterPar_ov, enterRuleM_ov s fx fuel n _ _ hn, view_enter]
    obtain ⟨b1, b2⟩ := hb (enterPar (enterRuleM fuel) ⟨s, fx, [ovRule]⟩ n st).1 (by rw [he])
    rw [visitNodePar_false (by rw [he]), leavePar_ov]
    rw [he] at b1 b2 ⊢
    exact ⟨b1 ▸ tiLeave_tiEnter _ _ _ hd, b2⟩

end PyGql.Validate
