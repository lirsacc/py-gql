/-
  THE MEMOISED SEARCH NEVER LOSES A REPORT: postcondition of `find_conflicts_within_selection_set` with the
  memoised search - a `WithinCertM` for the selection set - and the memoised RULE (`Validate/ChainMemo.lean:
  overlapMemoRun` - the memoised search at every selection set of the document, in visiting order, on one shared
  context), which is a `sumLoop`: a run that ends without a crash and without an error leaves BOTH memos closed and a
  `WithinCertM` for every selection set - hence (`clause_of_certsM`) the clause of 5.3.2.
-/
import PyGqlModel.Lemmas.ValidateOverlapMPost
import PyGqlModel.Lemmas.ValidateOverlapWalk
namespace PyGql.Validate
open PyGql PyGql.Validate.Spec

theorem withinM_post (s : SchemaD) (fx : Fixes) (d : Doc) (h7 : fx.v7 = true) (hpa : ParentsAgree s d) (hw : WfIds d)
    (fuel : Nat)
    (p : Option String) (i : Nat) (sels : List Sel) (c : OCtx) (hc : CI s d c) (h1 : SelSet d i sels) (h2 : Adm s d i p)
    (hcr : (withinSelectionSetM s fx fuel p i sels c).2.crash = none) :
    GPm s d c (withinSelectionSetM s fx fuel p i sels c) (fun M => WithinCertM s d M i p sels) := by
  rw [withinSelectionSetM_eq] at hcr ⊢
  obtain ⟨sf, _, sff, sfr, _⟩ := searchG_sound s fx true d h7 fuel
  obtain ⟨ef, _, efr, _, eff⟩ := postM_names s fx d h7 hpa hw fuel
  obtain ⟨_, _, _, _, kff⟩ := framesG s fx true h7 fuel
  revert hcr
  refine withinSelectionSetG_cases s fx true (motive := fun r => r.2.crash = none →
    GPm s d c r (fun M => WithinCertM s d M i p sels)) fuel p i sels c ?_
  intro a ca r0 r1 r2 ha e0 e1 e2 hcr
  obtain ⟨x1, x2, xm, xs⟩ := ff_set_complete s d hpa hw hc h1 h2
  obtain ⟨cha, hca⟩ := fieldsAndFragments_ctx s p i sels c
  simp only [ha] at x1 x2 xm xs hca
  have ent : ∀ q ∈ a.1, ∀ y ∈ pairsOf q.2, Ent s d y.1 ∧ Ent s d y.2 := fun q hq y hy =>
    ⟨x2 q hq _ (mem_pairsOf hy).1, x2 q hq _ (mem_pairsOf hy).2⟩
  -- a sane context along the way
  have ci0 : CI s d r0.2 := e0 ▸ sumLoop_keeps a.1 _ (CI s d) (fun q hq c hc => sumLoop_keeps (pairsOf q.2) _ (CI s d)
    (fun y hy c hc => (sf false y.1 y.2 c hc (ent q hq y hy).1 (ent q hq y hy).2).1) c hc) ca x1
  have ci1 : CI s d r1.2 := e1 ▸ (withFreshCmp_spec s d _ True (fun c hc => ⟨sumLoop_keeps a.2 _ (CI s d)
    (fun g _ c hc => (sff false i a.1 g c hc x2).1) c hc, fun _ => trivial⟩) _ ci0).1
  -- phase 3: pairs of fragments
  have g2 : GPm s d r1.2 r2 (fun M => ∀ y ∈ pairsOf a.2, CovM M false y.1 y.2) := e2 ▸ sumLoop_gp (pairsOf a.2) _ (CI s d) _
    (fun y _ c hc => ⟨(sfr false y.1 y.2 c hc).1, fun h => efr false y.1 y.2 c hc h⟩) _ ci1 (e2 ▸ hcr)
  -- phase 2: fields against fragments, one traversal
  have hcr1 : r1.2.crash = none := g2.crash
  rw [e1] at hcr1
  obtain ⟨lx, _, gl⟩ := sumLoop_names a.2 (fun g c => betweenFieldsAndFragmentG s fx true fuel false i a.1 g c)
    (fun c => CI s d c ∧ CmpOK d c i false) (fun M _ n => FCov d M false i n)
    (fun g hg c hc => ⟨⟨(sff false i a.1 g c hc.1 x2).1, cmpOK_frame s fx d h7 fuel false i a.1 g c hc.1 x2 hc.2⟩,
      (kff false i a.1 g c).cmp, fun h => eff false i a.1 g c hc.1 x2 xm hc.2 h⟩)
    { r0.2 with cmp := [] } ⟨ci0.cmp _, fun _ h => nomatch h⟩ hcr1
  have g1 : GPm s d r0.2 r1 (fun M => ∀ g ∈ a.2, FCov d M false i g) := by
    rw [e1]
    refine ((gl.pre (c := r0.2) rfl (fun k hk => hk) (fun _ M _ _ k hk => Or.inl hk)).post
      (c' := { (sumLoop a.2 (fun g c => betweenFieldsAndFragmentG s fx true fuel false i a.1 g c)
        { r0.2 with cmp := [] }).2 with cmp := r0.2.cmp }) rfl).imp (fun M _ r g hg => ?_)
    rcases r _ (fun _ h => h) g (lx g hg) with h | h
    · cases h
    · exact h
  -- phase 1: the fields of the set, pairwise
  have g0 : GPm s d ca r0 (fun M => ∀ q ∈ a.1, ∀ y ∈ pairsOf q.2, CertM s d M false y.1 y.2) := e0 ▸ sumLoop_gp a.1 _ (CI s d) _
    (fun q hq c hc => ⟨sumLoop_keeps (pairsOf q.2) _ (CI s d)
        (fun y hy c hc => (sf false y.1 y.2 c hc (ent q hq y hy).1 (ent q hq y hy).2).1) c hc,
      fun h => sumLoop_gp (pairsOf q.2) _ (CI s d) (fun y M => CertM s d M false y.1 y.2) (fun y hy c hc =>
        ⟨(sf false y.1 y.2 c hc (ent q hq y hy).1 (ent q hq y hy).2).1,
         fun h => ef false y.1 y.2 c hc (ent q hq y hy).1 (ent q hq y hy).2 h⟩) c hc h⟩)
    ca x1 (e0 ▸ g1.crash)
  have hpc : keysM ca = keysM c := by rw [hca]; rfl
  refine (((g0.seq g1).seq g2).pre (c := c) (by rw [hca]) (fun k hk => by rw [hpc]; exact hk)
    (fun _ M _ _ k hk => Or.inl (by rw [hpc] at hk; exact hk))).imp (fun M _ r => ?_)
  obtain ⟨⟨r0', r1'⟩, r2'⟩ := r
  refine ⟨fun rn e1 e2 c1 c2 hne => ?_, fun g hg => r1' g (xs g hg), fun g1 g2 hg1 hg2 => ?_⟩
  · have m1 := xm _ _ rn e1 h1 h2 c1
    have m2 := xm _ _ rn e2 h1 h2 c2
    rcases AL.getD_cases a.1 rn [] with e | e
    · rw [e] at m1; cases m1
    · rcases mem_pairsOf_or m1 m2 with h | h | h
      · exact Or.inl (r0' _ e _ h)
      · exact Or.inr (r0' _ e _ h)
      · exact absurd h hne
  · rcases mem_pairsOf_or (xs g1 hg1) (xs g2 hg2) with h | h | h
    · exact Or.inl (r2' _ h)
    · exact Or.inr (r2' _ h)
    · exact Or.inl (Or.inr (Or.inr (Or.inl h)))

/-- at a selection-set node: the `WithinCertM` of the set under the parent type of its static context -/
def WCertAtM (s : SchemaD) (d : Doc) (M : MemoM) (q : Node × View) : Prop :=
  match q.1 with
  | .selectionSet i sels => WithinCertM s d M i q.2.parent sels
  | _ => True

/-- **completeness of the memoised rule**: no crash and no error ⇒ the clause -/
theorem memoRun_sound (s : SchemaD) (fx : Fixes) (d : Doc) (h7 : fx.v7 = true) (hpa : ParentsAgree s d) (hw : WfIds d)
    (hne : AL.get? (fragTable d) "" = none)
    (hE : (overlapMemoRun s fx d).1 = 0) (hC : (overlapMemoRun s fx d).2.crash = none) :
    Spec.overlappingFieldsCanBeMerged s d := by
  rw [overlapMemoRun_eq] at hE hC
  have hci : CI s d ({ frags := fragTable d } : OCtx) := ⟨rfl, fun _ h => nomatch h⟩
  have g := sumLoop_gp (keys := keysM) (Obl := OblM s d) (typedNodes s d) (memoStep s fx (memoFuel d)) (CI s d)
    (fun q M => WCertAtM s d M q)
    (fun q hq c hc => by
      obtain ⟨n, v⟩ := q
      cases n with
      | selectionSet i sels =>
        simp only [memoStep]
        have hs := selSet_of_typed hq
        have ha : Adm s d i v.parent := Adm.walk hq
        exact ⟨(withinM_sound s fx d h7 (memoFuel d) v.parent i sels c hc hs ha).1,
          fun h => withinM_post s fx d h7 hpa hw (memoFuel d) v.parent i sels c hc hs ha h⟩
      | _ => exact ⟨hc, fun h => GPk.skip rfl rfl (fun _ _ => trivial) h⟩)
    _ hci hC
  generalize hfin : sumLoop (typedNodes s d) (memoStep s fx (memoFuel d)) ({ frags := fragTable d } : OCtx) = fin
    at hE hC g
  obtain ⟨hkeys, hall⟩ := g.res hE (fun k => k ∈ keysM fin.2) (fun k hk => hk)
  refine clause_of_certsM (M := fun k => k ∈ keysM fin.2) hpa hne hw (fun k hk => ?_) (fun i sels hs p ha => ?_)
  · rcases hkeys k hk with h | h
    · simp [keysM] at h
    · exact h
  · have hmem : Node.selectionSet i sels ∈ (typedNodes s d).map (·.1) := by
      rw [typedNodes_fst]
      simp only [SelSet, nodes, List.mem_cons, reduceCtorEq, false_or] at hs
      exact hs
    obtain ⟨q, hq, hq1⟩ := List.mem_map.mp hmem
    obtain ⟨n, v⟩ := q
    simp only at hq1; subst hq1
    have := hall _ hq
    simp only [WCertAtM] at this
    rw [hpa _ _ _ ha (Adm.walk hq)]
    exact this
end PyGql.Validate
