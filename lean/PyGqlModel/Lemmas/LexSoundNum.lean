/-
  `_read_number` against IntValue / FloatValue of Spec/Lexical.lean.  Each sub-reader is characterised on the shapes of
  `Lemmas/LexNumShape.lean`, in both directions: what it accepts has the shape (`…_sound`), and on the shape followed by a
  suitable rest it stops exactly there (`readOverDigits_digits`, `readOverInteger_ip`, `readFraction_frac`,
  `readExponent_exp`, `lookahead_ok`).  `readNumber_sound` puts the first direction together.
-/
import PyGqlModel.Lemmas.LexNumShape

namespace PyGql.Lex

def NoDigitHead (rest : Text) : Prop := ∀ c t, rest = c :: t → isDigit c = false

theorem noDigitHead_iff {r : Text} : NoDigitHead r ↔ Spec.Lexical.startsWith Spec.Lexical.isDigit r = false := by
  rw [← funext isDigit_spec]
  exact startsWith_false_iff.symm

/-! ### `_read_over_digits`: Digit+ -/

theorem readOverDigits_sound (n : Nat) (s r : Text) (h : readOverDigits n s = .ok r) :
    ∃ d ds, s = d :: ds ++ r ∧ Spec.Lexical.isDigit d = true ∧ ds.all Spec.Lexical.isDigit = true ∧ NoDigitHead r := by
  have hfun : Lex.isDigit = Spec.Lexical.isDigit := funext isDigit_spec
  cases s with
  | nil => cases h
  | cons c t =>
    simp only [readOverDigits] at h
    split at h
    · rename_i hc
      cases h
      refine ⟨c, t.takeWhile Lex.isDigit, by simp [List.takeWhile_append_dropWhile], ?_, ?_, ?_⟩
      · rw [← isDigit_spec]; exact hc
      · rw [← hfun]; exact List.all_takeWhile
      · exact startsWith_false_iff.1 (startsWith_dropWhile _ _)
    · cases h

theorem readOverDigits_digits (n : Nat) (d : Nat) (ds rest : Text) (hd : Spec.Lexical.isDigit d = true)
    (hds : ds.all Spec.Lexical.isDigit = true) (hrest : NoDigitHead rest) :
    readOverDigits n (d :: ds ++ rest) = .ok rest := by
  have hdig : isDigit d = true := by rw [isDigit_spec]; exact hd
  have hall : ∀ x ∈ ds, isDigit x = true := fun x hx => by
    rw [isDigit_spec]; exact (List.all_eq_true.1 hds) x hx
  have := (takeWhile_append_stop isDigit ds rest hall (startsWith_false_iff.2 hrest)).2
  simp [readOverDigits, hdig, this]

/-! ### `_read_over_integer`: `0` | NonZeroDigit Digit* -/

theorem readOverInteger_sound (n : Nat) (s r : Text) (h : readOverInteger n s = .ok r) :
    ∃ d ds, s = d :: ds ++ r ∧
      ((d == 48 && ds.isEmpty) || (Spec.Lexical.isNonZeroDigit d && ds.all Spec.Lexical.isDigit)) = true ∧
      NoDigitHead r := by
  cases s with
  | nil => cases h
  | cons c t =>
    simp only [readOverInteger] at h
    split at h
    · rename_i hc; subst hc
      refine ⟨48, [], ?_, rfl, ?_⟩ <;> split at h
      · cases h; rfl
      · split at h
        · cases h
        · cases h; rfl
      · cases h; exact fun c t e => (nomatch e)
      · rename_i d u
        split at h
        · cases h
        · rename_i hd
          cases h
          intro c t e
          cases e
          simpa using hd
    · rename_i hc
      obtain ⟨d, ds, hs, hd, hds, hr⟩ := readOverDigits_sound n _ r h
      have hcd : c = d := (List.cons.inj hs).1
      refine ⟨d, ds, hs, ?_, hr⟩
      simp only [Spec.Lexical.isDigit, Bool.and_eq_true, decide_eq_true_eq] at hd
      simp only [Spec.Lexical.isNonZeroDigit, hds, Bool.and_true, Bool.or_eq_true, decide_eq_true_eq]
      exact .inr (by simp only [Bool.and_eq_true, decide_eq_true_eq]; omega)

theorem readOverInteger_ip (n : Nat) (d : Nat) (ds rest : Text)
    (h : ((d == 48 && ds.isEmpty) || (Spec.Lexical.isNonZeroDigit d && ds.all Spec.Lexical.isDigit)) = true)
    (hrest : ∀ c t, rest = c :: t → isDigit c = false) :
    readOverInteger n (d :: ds ++ rest) = .ok rest := by
  simp only [Bool.or_eq_true, Bool.and_eq_true, beq_iff_eq, List.isEmpty_iff, List.all_eq_true] at h
  rcases h with ⟨rfl, rfl⟩ | ⟨hd, hds⟩
  · cases rest with
    | nil => simp [readOverInteger]
    | cons c t => simp [readOverInteger, hrest c t rfl]
  · have hne : d ≠ 48 := by simp [Spec.Lexical.isNonZeroDigit] at hd; omega
    have hdig : isDigit d = true := by
      rw [isDigit_spec]; simp [Spec.Lexical.isNonZeroDigit, Spec.Lexical.isDigit] at hd ⊢; omega
    have hall : ∀ x ∈ ds, isDigit x = true := fun x hx => by rw [isDigit_spec]; exact hds x hx
    have := (takeWhile_append_stop isDigit ds rest hall (startsWith_false_iff.2 hrest)).2
    simp [readOverInteger, hne, readOverDigits, hdig, this]

theorem readFraction_sound (n : Nat) (s r : Text) (f : Bool) (h : readFraction n s = .ok (f, r)) :
    ∃ frac, s = frac ++ r ∧ (frac = [] ∨ Spec.Lexical.isFractionalPart frac = true) ∧ f = !frac.isEmpty ∧
      (frac = [] → ∀ c t, r = c :: t → c ≠ 46) ∧ (frac ≠ [] → NoDigitHead r) := by
  cases s with
  | nil => cases h; exact ⟨[], rfl, .inl rfl, rfl, fun _ c t e => (nomatch e), fun h => absurd rfl h⟩
  | cons c t =>
    simp only [readFraction] at h
    split at h
    · rename_i hc; subst hc
      cases hd : readOverDigits n t with
      | error e => simp [hd, Except.map] at h
      | ok r' =>
        simp only [hd, Except.map, Except.ok.injEq, Prod.mk.injEq] at h
        obtain ⟨rfl, rfl⟩ := h
        obtain ⟨d, ds, rfl, hd', hds, hr⟩ := readOverDigits_sound n t r' hd
        exact ⟨46 :: d :: ds, rfl, .inr (by simp [Spec.Lexical.isFractionalPart, hd', hds]), rfl,
          fun h => (nomatch h), fun _ => hr⟩
    · rename_i hc
      cases h
      exact ⟨[], rfl, .inl rfl, rfl, fun _ c' t' e => by cases e; exact hc, fun h => absurd rfl h⟩

theorem readFraction_frac (n : Nat) (frac rest2 : Text)
    (hf : frac = [] ∨ Spec.Lexical.isFractionalPart frac = true)
    (h46 : frac = [] → ∀ c t, rest2 = c :: t → c ≠ 46) (hnd : NoDigitHead rest2) :
    readFraction n (frac ++ rest2) = .ok (!frac.isEmpty, rest2) := by
  rcases hf with rfl | hf
  · cases rest2 with
    | nil => simp [readFraction]
    | cons c t => simp [readFraction, h46 rfl c t rfl]
  · obtain ⟨d, ds, rfl, hd, hds⟩ := fractionalPart_shape hf
    have := readOverDigits_digits n d ds rest2 hd hds hnd
    simp only [List.cons_append] at this ⊢
    simp [readFraction, this, Except.map]


theorem skipSign_split (t : Text) : ∃ sg, t = sg ++ skipSign t ∧ (sg = [] ∨ sg = [43] ∨ sg = [45]) := by
  cases t with
  | nil => exact ⟨[], rfl, .inl rfl⟩
  | cons x u =>
    simp only [skipSign]
    split
    · rename_i hx
      rcases hx with rfl | rfl
      · exact ⟨[43], rfl, .inr (.inl rfl)⟩
      · exact ⟨[45], rfl, .inr (.inr rfl)⟩
    · exact ⟨[], rfl, .inl rfl⟩

theorem readExponent_sound (n : Nat) (s r : Text) (f : Bool) (h : readExponent n s = .ok (f, r)) :
    ∃ exp, s = exp ++ r ∧ (exp = [] ∨ Spec.Lexical.isExponentPart exp = true) ∧ f = !exp.isEmpty ∧
      (exp ≠ [] → NoDigitHead r) := by
  cases s with
  | nil => cases h; exact ⟨[], rfl, .inl rfl, rfl, fun h => absurd rfl h⟩
  | cons c t =>
    simp only [readExponent] at h
    split at h
    · rename_i hc
      cases hd : readOverDigits n (skipSign t) with
      | error e => simp [hd, Except.map] at h
      | ok r' =>
        simp only [hd, Except.map, Except.ok.injEq, Prod.mk.injEq] at h
        obtain ⟨rfl, rfl⟩ := h
        obtain ⟨d, ds, hs, hd', hds, hr⟩ := readOverDigits_sound n _ r' hd
        obtain ⟨sg, htsg, hsg⟩ := skipSign_split t
        refine ⟨c :: (sg ++ d :: ds), ?_, .inr (isExponentPart_of_shape hc hsg hd' hds), rfl, fun _ => hr⟩
        conv => lhs; rw [htsg, hs]
        simp
    · cases h
      exact ⟨[], rfl, .inl rfl, rfl, fun h => absurd rfl h⟩

theorem readExponent_exp (n : Nat) (exp r : Text) (he : exp = [] ∨ Spec.Lexical.isExponentPart exp = true)
    (hnd : NoDigitHead r) (hee : ∀ c t, r = c :: t → ¬ (c = 101 ∨ c = 69)) :
    readExponent n (exp ++ r) = .ok (!exp.isEmpty, r) := by
  rcases he with rfl | he
  · cases r with
    | nil => simp [readExponent]
    | cons c t => simp [readExponent, hee c t rfl]
  · obtain ⟨i, s, d, ds, rfl, hi, hs, hd, hds⟩ := exponentPart_shape he
    have hro := readOverDigits_digits n d ds r hd hds hnd
    have hd' : d ≠ 43 ∧ d ≠ 45 := by
      simp only [Spec.Lexical.isDigit, Bool.and_eq_true, decide_eq_true_eq] at hd
      omega
    have hsk : skipSign (s ++ d :: ds ++ r) = d :: ds ++ r := by
      rcases hs with rfl | rfl | rfl <;> simp [skipSign, hd'.1, hd'.2]
    simp only [List.cons_append, List.append_assoc] at hsk hro ⊢
    simp [readExponent, hi, hsk, hro, Except.map]

theorem numberLookahead_sound (n : Nat) (s : Text) (h : numberLookahead n s = .ok ()) :
    Spec.Lexical.startsWith Spec.Lexical.isNameStart s = false := by
  cases s with
  | nil => rfl
  | cons c t =>
    simp only [numberLookahead] at h
    split at h
    · cases h
    · rename_i hc; simp only [Spec.Lexical.startsWith]; rw [← isNameStart_spec]; simpa using hc

theorem lookahead_ok (n : Nat) (r : Text) (h : ∀ c t, r = c :: t → isNameStart c = false) :
    numberLookahead n r = .ok () := by
  cases r with
  | nil => rfl
  | cons c t => simp [numberLookahead, h c t rfl]

theorem skipMinus_split (s : Text) : ∃ sg, s = sg ++ skipMinus s ∧ (sg = [] ∨ sg = [45]) := by
  cases s with
  | nil => exact ⟨[], rfl, Or.inl rfl⟩
  | cons c t =>
    simp only [skipMinus]
    split
    · rename_i hc; subst hc; exact ⟨[45], rfl, Or.inr rfl⟩
    · exact ⟨[], rfl, Or.inl rfl⟩

/-- `_read_number` reads exactly an IntValue or a FloatValue, keeps it verbatim, and stops where the
    look-ahead restrictions allow -/
theorem readNumber_sound (n : Nat) (s r : Text) (tok : Tok) (h : readNumber n s = .ok (tok, r)) : Reads n s tok r := by
  unfold readNumber at h
  simp only [bind, Except.bind, pure, Except.pure] at h
  obtain ⟨sg, hsgs, hsg⟩ := skipMinus_split s
  cases h2 : readOverInteger n (skipMinus s) with
  | error e => simp [h2] at h
  | ok s2 =>
    simp only [h2] at h
    obtain ⟨d, ds, hip_s, hdd, hnd2⟩ := readOverInteger_sound n _ s2 h2
    have hip := isIntegerPart_of_shape hsg hdd
    cases h3 : readFraction n s2 with
    | error e => simp [h3] at h
    | ok p1 =>
      obtain ⟨f1, s3⟩ := p1
      simp only [h3] at h
      obtain ⟨frac, rfl, hf, rfl, hdot, hnd3⟩ := readFraction_sound n s2 s3 f1 h3
      cases h4 : readExponent n s3 with
      | error e => simp [h4] at h
      | ok p2 =>
        obtain ⟨f2, s4⟩ := p2
        simp only [h4] at h
        obtain ⟨exp, rfl, he, rfl, hnd4⟩ := readExponent_sound n s3 s4 f2 h4
        cases h5 : numberLookahead n s4 with
        | error e => simp [h5] at h
        | ok u =>
          simp only [h5, Except.ok.injEq, Prod.mk.injEq] at h
          obtain ⟨rfl, rfl⟩ := h
          have hla := numberLookahead_sound n s4 h5
          have hs_all : s = (sg ++ d :: ds) ++ (frac ++ exp) ++ s4 := by
            conv => lhs; rw [hsgs, hip_s]
            simp
          have hval : s.take (s.length - s4.length) = (sg ++ d :: ds) ++ (frac ++ exp) := by
            rw [hs_all]; exact take_length_sub _ _
          refine ⟨(sg ++ d :: ds) ++ (frac ++ exp), hs_all, by simp, ?_, ?_, by simp [posAt, hs_all], rfl⟩ <;>
            by_cases hfe : frac = [] ∧ exp = []
          · -- no fraction, no exponent: an IntValue, verbatim
            obtain ⟨rfl, rfl⟩ := hfe
            simp only [List.isEmpty_nil, Bool.not_true, Bool.or_self, Bool.false_eq_true, ↓reduceIte, Spec.Lexical.Lexeme,
              hval, List.append_nil, and_true]
            exact hip
          · have hflag : (!frac.isEmpty || !exp.isEmpty) = true := by
              cases frac <;> cases exp <;> simp at hfe ⊢
            simp only [hflag, ↓reduceIte, Spec.Lexical.Lexeme, hval, and_true]
            exact isFloatValue_of_shape ⟨_, frac, exp, rfl, hip, hf, he, hfe⟩
          · -- what follows an IntValue: no digit, no NameStart, no dot
            obtain ⟨rfl, rfl⟩ := hfe
            simp only [List.isEmpty_nil, Bool.not_true, Bool.or_self, Bool.false_eq_true, ↓reduceIte, Spec.Lexical.Follow]
            exact (startsWith_or _ _ _).2 ⟨(startsWith_or _ _ _).2 ⟨noDigitHead_iff.1 hnd2, hla⟩,
              startsWith_false_iff.2 fun c t e => by simpa using hdot rfl c t e⟩
          · -- what follows a FloatValue: no digit (after the last digit sequence read), no NameStart
            have hflag : (!frac.isEmpty || !exp.isEmpty) = true := by
              cases frac <;> cases exp <;> simp at hfe ⊢
            simp only [hflag, ↓reduceIte, Spec.Lexical.Follow]
            refine (startsWith_or _ _ _).2 ⟨noDigitHead_iff.1 ?_, hla⟩
            by_cases hexp : exp = []
            · subst hexp
              exact hnd3 fun hfr => hfe ⟨hfr, rfl⟩
            · exact hnd4 hexp

end PyGql.Lex
