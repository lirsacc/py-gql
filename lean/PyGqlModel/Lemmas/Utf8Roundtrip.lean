/-
  The decoder's loop `feed` is the inverse of the encoder on texts of scalar values: `feed_encode` (feeding
  `encode t` appends `t` to the accumulator) and `feed_sound` (what `feed` accepts is the encoding of what it
  produced).  The two statements about `decode` itself, `decode (encode t) = t` and
  `decode bs = ok t → encode t = bs`, are drawn from them in `Props/C01_bytes.lean`.  Both directions go through
  the base-64 digits of a code point: on digits `x, y, z, w` the encoder's divisions and the decoder's
  multiplications are the same linear arithmetic.
-/
import PyGqlModel.Utf8
namespace PyGql.Utf8

theorem digits2 (x : Nat) {y : Nat} (hy : y < 64) : (x * 64 + y) / 64 = x ∧ (x * 64 + y) % 64 = y := by
  omega

theorem digits3 (x : Nat) {y z : Nat} (hy : y < 64) (hz : z < 64) :
    ((x * 64 + y) * 64 + z) / 4096 = x ∧ ((x * 64 + y) * 64 + z) / 64 % 64 = y ∧
      ((x * 64 + y) * 64 + z) % 64 = z := by
  obtain ⟨h1, h2⟩ := digits2 (x * 64 + y) hz
  obtain ⟨h3, h4⟩ := digits2 x hy
  refine ⟨?_, by rw [h1, h4], h2⟩
  rw [show 4096 = 64 * 64 from rfl, ← Nat.div_div_eq_div_mul, h1, h3]

theorem digits4 (x : Nat) {y z w : Nat} (hy : y < 64) (hz : z < 64) (hw : w < 64) :
    (((x * 64 + y) * 64 + z) * 64 + w) / 262144 = x ∧ (((x * 64 + y) * 64 + z) * 64 + w) / 4096 % 64 = y ∧
      (((x * 64 + y) * 64 + z) * 64 + w) / 64 % 64 = z ∧ (((x * 64 + y) * 64 + z) * 64 + w) % 64 = w := by
  obtain ⟨h1, h2⟩ := digits2 ((x * 64 + y) * 64 + z) hw
  obtain ⟨h3, h4, h5⟩ := digits3 x hy hz
  refine ⟨?_, ?_, by rw [h1, h5], h2⟩
  · rw [show 262144 = 64 * 4096 from rfl, ← Nat.div_div_eq_div_mul, h1, h3]
  · rw [show 4096 = 64 * 64 from rfl, ← Nat.div_div_eq_div_mul, h1, h4]

theorem ite_le {p : Prop} [Decidable p] {a b n : Nat} : (if p then a else b) ≤ n ↔ (p → a ≤ n) ∧ (¬ p → b ≤ n) := by
  split <;> simp [*]

theorem le_ite {p : Prop} [Decidable p] {a b n : Nat} : n ≤ (if p then a else b) ↔ (p → n ≤ a) ∧ (¬ p → n ≤ b) := by
  split <;> simp [*]

theorem encodeChar_two {x y : Nat} (hx : 2 ≤ x) (hx' : x < 32) (hy : y < 64) :
    encodeChar (x * 64 + y) = [0xC0 + x, 0x80 + y] := by
  rw [encodeChar, if_neg (by omega), if_pos (by omega), (digits2 x hy).1, (digits2 x hy).2]

theorem encodeChar_three {x y z : Nat} (hx : x < 16) (hxy : x = 0 → 32 ≤ y) (hy : y < 64) (hz : z < 64) :
    encodeChar ((x * 64 + y) * 64 + z) = [0xE0 + x, 0x80 + y, 0x80 + z] := by
  rw [encodeChar, if_neg (by omega), if_neg (by omega), if_pos (by omega)]
  obtain ⟨h1, h2, h3⟩ := digits3 x hy hz
  rw [h1, h2, h3]

theorem encodeChar_four {x y z w : Nat} (hxy : x = 0 → 16 ≤ y) (hy : y < 64) (hz : z < 64) (hw : w < 64) :
    encodeChar (((x * 64 + y) * 64 + z) * 64 + w) = [0xF0 + x, 0x80 + y, 0x80 + z, 0x80 + w] := by
  rw [encodeChar, if_neg (by omega), if_neg (by omega), if_neg (by omega)]
  obtain ⟨h1, h2, h3, h4⟩ := digits4 x hy hz hw
  rw [h1, h2, h3, h4]

theorem feed_one (out r : List Nat) {b : Nat} (hb : b < 0x80) :
    feed { out := out } (b :: r) = feed { out := b :: out } r := by
  rw [feed, if_pos rfl, if_pos hb]

theorem feed_cont {k acc lo hi b : Nat} {out : List Nat} (r : List Nat) (h : lo ≤ b ∧ b ≤ hi) :
    feed { need := k + 1, acc := acc, lo := lo, hi := hi, out := out } (b :: r) =
      if k = 0 then feed { out := (acc * 64 + (b - 0x80)) :: out } r
      else feed { need := k, acc := acc * 64 + (b - 0x80), out := out } r := by
  rw [feed, if_neg (Nat.succ_ne_zero k), if_pos h]
  simp only [Nat.add_eq_right, Nat.add_sub_cancel]

theorem isScalar_iff {c : Nat} : isScalar c = true ↔ c < 0x110000 ∧ (c < 0xD800 ∨ 0xDFFF < c) := by
  simp only [isScalar, Bool.and_eq_true, Bool.not_eq_true', Bool.and_eq_false_iff, decide_eq_true_eq,
    decide_eq_false_iff_not, Nat.not_le]

theorem enc1 (b : Nat) (hb : b < 0x80) : encodeChar b = [b] ∧ isScalar b = true :=
  ⟨if_pos hb, isScalar_iff.2 (by omega)⟩

theorem enc2 (b b1 : Nat) (hb : 0xC2 ≤ b ∧ b ≤ 0xDF) (h1 : 0x80 ≤ b1 ∧ b1 ≤ 0xBF) :
    encodeChar ((b - 0xC0) * 64 + (b1 - 0x80)) = [b, b1] ∧ isScalar ((b - 0xC0) * 64 + (b1 - 0x80)) = true := by
  obtain ⟨x, rfl⟩ := Nat.exists_eq_add_of_le (show 0xC0 ≤ b by omega)
  obtain ⟨y, rfl⟩ := Nat.exists_eq_add_of_le h1.1
  simp only [Nat.add_sub_cancel_left]
  exact ⟨encodeChar_two (by omega) (by omega) (by omega), isScalar_iff.2 (by omega)⟩

theorem enc3 (b b1 b2 : Nat) (hb : 0xE0 ≤ b ∧ b ≤ 0xEF)
    (h1 : (if b = 0xE0 then 0xA0 else 0x80) ≤ b1 ∧ b1 ≤ (if b = 0xED then 0x9F else 0xBF)) (h2 : 0x80 ≤ b2 ∧ b2 ≤ 0xBF) :
    encodeChar (((b - 0xE0) * 64 + (b1 - 0x80)) * 64 + (b2 - 0x80)) = [b, b1, b2] ∧
      isScalar (((b - 0xE0) * 64 + (b1 - 0x80)) * 64 + (b2 - 0x80)) = true := by
  simp only [ite_le, le_ite] at h1
  obtain ⟨x, rfl⟩ := Nat.exists_eq_add_of_le hb.1
  obtain ⟨y, rfl⟩ := Nat.exists_eq_add_of_le (show 0x80 ≤ b1 by omega)
  obtain ⟨z, rfl⟩ := Nat.exists_eq_add_of_le h2.1
  simp only [Nat.add_sub_cancel_left]
  exact ⟨encodeChar_three (by omega) (by omega) (by omega) (by omega), isScalar_iff.2 (by omega)⟩

theorem enc4 (b b1 b2 b3 : Nat) (hb : 0xF0 ≤ b ∧ b ≤ 0xF4)
    (h1 : (if b = 0xF0 then 0x90 else 0x80) ≤ b1 ∧ b1 ≤ (if b = 0xF4 then 0x8F else 0xBF)) (h2 : 0x80 ≤ b2 ∧ b2 ≤ 0xBF)
    (h3 : 0x80 ≤ b3 ∧ b3 ≤ 0xBF) :
    encodeChar ((((b - 0xF0) * 64 + (b1 - 0x80)) * 64 + (b2 - 0x80)) * 64 + (b3 - 0x80)) = [b, b1, b2, b3] ∧
      isScalar ((((b - 0xF0) * 64 + (b1 - 0x80)) * 64 + (b2 - 0x80)) * 64 + (b3 - 0x80)) = true := by
  simp only [ite_le, le_ite] at h1
  obtain ⟨x, rfl⟩ := Nat.exists_eq_add_of_le hb.1
  obtain ⟨y, rfl⟩ := Nat.exists_eq_add_of_le (show 0x80 ≤ b1 by omega)
  obtain ⟨z, rfl⟩ := Nat.exists_eq_add_of_le h2.1
  obtain ⟨w, rfl⟩ := Nat.exists_eq_add_of_le h3.1
  simp only [Nat.add_sub_cancel_left]
  exact ⟨encodeChar_four (by omega) (by omega) (by omega) (by omega), isScalar_iff.2 (by omega)⟩

theorem exists_digits (c : Nat) : ∃ x y, y < 64 ∧ c = x * 64 + y :=
  ⟨c / 64, c % 64, Nat.mod_lt _ (by decide), (Nat.div_add_mod' c 64).symm⟩

theorem feed_encodeChar (c : Nat) (hc : isScalar c = true) (out : List Nat) (r : List Nat) :
    feed { out := out } (encodeChar c ++ r) = feed { out := c :: out } r := by
  rw [isScalar_iff] at hc
  by_cases c1 : c < 0x80
  · rw [encodeChar, if_pos c1]
    exact feed_one out r c1
  obtain ⟨c, w, hw, rfl⟩ := exists_digits c
  by_cases c2 : c * 64 + w < 0x800
  · rw [encodeChar_two (by omega) (by omega) hw]
    simp only [List.cons_append, List.nil_append]
    rw [feed, if_pos rfl, if_neg (by omega), if_pos (by omega), feed_cont _ (by omega), if_pos rfl]
    simp only [Nat.add_sub_cancel_left]
  obtain ⟨c, z, hz, rfl⟩ := exists_digits c
  by_cases c3 : (c * 64 + z) * 64 + w < 0x10000
  · rw [encodeChar_three (by omega) (by omega) hz hw]
    simp only [List.cons_append, List.nil_append]
    rw [feed, if_pos rfl, if_neg (by omega), if_neg (by omega), if_pos (by omega),
      feed_cont _ (by simp only [ite_le, le_ite]; omega), if_neg (by decide), feed_cont _ (by omega), if_pos rfl]
    simp only [Nat.add_sub_cancel_left]
  obtain ⟨x, y, hy, rfl⟩ := exists_digits c
  rw [encodeChar_four (by omega) hy hz hw]
  simp only [List.cons_append, List.nil_append]
  rw [feed, if_pos rfl, if_neg (by omega), if_neg (by omega), if_neg (by omega), if_pos (by omega),
    feed_cont _ (by simp only [ite_le, le_ite]; omega), if_neg (by decide), feed_cont _ (by omega), if_neg (by decide),
    feed_cont _ (by omega), if_pos rfl]
  simp only [Nat.add_sub_cancel_left]

theorem feed_encode (t : Text) (ht : t.all isScalar = true) (out : List Nat) :
    feed { out := out } (encode t) = .ok (out.reverse ++ t) := by
  induction t generalizing out with
  | nil => simp [encode, feed]
  | cons c t ih =>
    simp only [List.all_cons, Bool.and_eq_true] at ht
    simp only [encode, List.flatMap_cons] at ih ⊢
    rw [feed_encodeChar c ht.1 out, ih ht.2]
    simp

theorem feed_cont_ok {k acc lo hi : Nat} {out bs : List Nat} {t : Text}
    (h : feed { need := k + 1, acc := acc, lo := lo, hi := hi, out := out } bs = .ok t) :
    ∃ b r, bs = b :: r ∧ (lo ≤ b ∧ b ≤ hi) ∧
      (if k = 0 then feed { out := (acc * 64 + (b - 0x80)) :: out } r
       else feed { need := k, acc := acc * 64 + (b - 0x80), out := out } r) = .ok t := by
  cases bs with
  | nil => simp [feed] at h
  | cons b r =>
    rw [feed, if_neg (Nat.succ_ne_zero k)] at h
    split at h
    · exact ⟨b, r, rfl, ‹_›, by simpa only [Nat.add_eq_right, Nat.add_sub_cancel] using h⟩
    · cases h

theorem feed_step (out bs : List Nat) (t : Text) (h : feed { out := out } bs = .ok t) :
    (bs = [] ∧ t = out.reverse) ∨
    ∃ c rest, isScalar c = true ∧ bs = encodeChar c ++ rest ∧ feed { out := c :: out } rest = .ok t := by
  cases bs with
  | nil => simp [feed] at h; exact .inl ⟨rfl, h.symm⟩
  | cons b r =>
    right
    by_cases h1 : b < 0x80
    · rw [feed_one out r h1] at h
      exact ⟨b, r, (enc1 b h1).2, by rw [(enc1 b h1).1]; rfl, h⟩
    rw [feed, if_pos rfl, if_neg h1] at h
    by_cases h2 : 0xC2 ≤ b ∧ b ≤ 0xDF
    · rw [if_pos h2] at h
      obtain ⟨b1, r, rfl, hb1, h⟩ := feed_cont_ok h
      obtain ⟨e, s⟩ := enc2 b b1 h2 hb1
      exact ⟨_, r, s, by rw [e]; rfl, h⟩
    rw [if_neg h2] at h
    by_cases h3 : 0xE0 ≤ b ∧ b ≤ 0xEF
    · rw [if_pos h3] at h
      obtain ⟨b1, r, rfl, hb1, h⟩ := feed_cont_ok h
      obtain ⟨b2, r, rfl, hb2, h⟩ := feed_cont_ok h
      obtain ⟨e, s⟩ := enc3 b b1 b2 h3 hb1 hb2
      exact ⟨_, r, s, by rw [e]; rfl, h⟩
    rw [if_neg h3] at h
    by_cases h4 : 0xF0 ≤ b ∧ b ≤ 0xF4
    · rw [if_pos h4] at h
      obtain ⟨b1, r, rfl, hb1, h⟩ := feed_cont_ok h
      obtain ⟨b2, r, rfl, hb2, h⟩ := feed_cont_ok h
      obtain ⟨b3, r, rfl, hb3, h⟩ := feed_cont_ok h
      obtain ⟨e, s⟩ := enc4 b b1 b2 b3 h4 hb1 hb2 hb3
      exact ⟨_, r, s, by rw [e]; rfl, h⟩
    · rw [if_neg h4] at h
      cases h

theorem encodeChar_ne_nil (c : Nat) : encodeChar c ≠ [] := by
  unfold encodeChar
  split
  · simp
  · split
    · simp
    · split <;> simp

/-- whatever `feed` accepts is, beyond the characters already in `out`, a text of scalar values whose encoding is the
    input; `k` bounds the input length and carries the recursion -/
theorem feed_sound : ∀ (k : Nat) (bs out : List Nat) (t : Text), bs.length ≤ k → feed { out := out } bs = .ok t →
    ∃ u, t = out.reverse ++ u ∧ u.all isScalar = true ∧ encode u = bs
  | 0, bs, out, t, hk, h => by
    have : bs = [] := List.length_eq_zero_iff.mp (Nat.le_zero.mp hk)
    subst this
    rcases feed_step out [] t h with ⟨_, rfl⟩ | ⟨c, rest, _, e, _⟩
    · exact ⟨[], by simp, rfl, rfl⟩
    · exact absurd (List.append_eq_nil_iff.mp e.symm).1 (encodeChar_ne_nil c)
  | k + 1, bs, out, t, hk, h => by
    rcases feed_step out bs t h with ⟨rfl, rfl⟩ | ⟨c, rest, hc, rfl, h'⟩
    · exact ⟨[], by simp, rfl, rfl⟩
    · have hl : rest.length ≤ k := by
        have := encodeChar_ne_nil c
        cases hcc : encodeChar c with
        | nil => exact absurd hcc this
        | cons x xs => rw [hcc] at hk; simp at hk; omega
      obtain ⟨u, rfl, hu, rfl⟩ := feed_sound k rest (c :: out) t hl h'
      exact ⟨c :: u, by simp, by simp [hc, hu], by simp [encode]⟩

end PyGql.Utf8
