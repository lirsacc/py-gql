/-
  Generalisation of the context-free walk of `Lemmas/ValidateWalk.lean`: the chain may carry an INVARIANT on the
  visitor state (e.g. "the set of fragment names collected at the document node is K") and the context-free property
  is only required of the nodes below a level `lvl` (document, or document + definitions), so that
  rules with document- or definition-level state can be handled by an explicit induction at that level.
-/
import PyGqlModel.Lemmas.ValidateWalk
namespace PyGql.Validate
open PyGql PyGql.Validate.Spec

structure CFI (c : Cfg) (lvl : Node → Bool) (Inv : St → Prop) (f g : Node → Nat) : Prop where
  inner : ∀ n, n.isTop = false → lvl n = false
  noskip : ∀ n st, lvl n = false → Inv st → (enter c n st).2 = false
  enterE : ∀ n st, lvl n = false → Inv st → E (enter c n st).1 = E st + f n
  enterI : ∀ n st, lvl n = false → Inv st → Inv (enter c n st).1
  leaveE : ∀ n st, lvl n = false → Inv st → E (leave c n st) = E st + g n
  leaveI : ∀ n st, lvl n = false → Inv st → Inv (leave c n st)

variable {c : Cfg} {lvl : Node → Bool} {Inv : St → Prop} {f g : Node → Nat}

def Post (Inv : St → Prop) (f g : Node → Nat) (ns : List Node) (st st' : St) : Prop :=
  Inv st' ∧ E st' = E st + total f g ns

theorem visitNodeI (h : CFI c lvl Inv f g) (n : Node) (body : St → St) (ns : List Node)
    (hb : ∀ st, Inv st → Post Inv f g ns st (body st)) (st : St) (hi : Inv st) (hn : lvl n = false) :
    Post Inv f g (n :: ns) st (visitNode c n body st) := by
  obtain ⟨b1, b2⟩ := hb _ (h.enterI n st hn hi)
  rw [visitNode_false (h.noskip n st hn hi)]
  refine ⟨h.leaveI n _ hn b1, ?_⟩
  rw [h.leaveE n _ hn b1, b2, h.enterE n st hn hi, total_cons]
  omega

theorem Post.nil (hi : Inv st) : Post Inv f g [] st st := ⟨hi, rfl⟩

theorem Post.append {a b : List Node} {s1 s2 s3 : St} (h1 : Post Inv f g a s1 s2) (h2 : Post Inv f g b s2 s3) :
    Post Inv f g (a ++ b) s1 s3 := ⟨h2.1, by rw [h2.2, h1.2, total_append]; omega⟩

theorem CFI.alg (h : CFI c lvl Inv f g) : WalkAlg c (fun ns st st' => Inv st → Post Inv f g ns st st') where
  nil _ hi := Post.nil hi
  append h1 h2 hi := (h1 hi).append (h2 (h1 hi).1)
  node n body ns st hn hb hi := visitNodeI h n body ns hb st hi (h.inner n hn)

theorem visitValuesI (h : CFI c lvl Inv f g) : ∀ (vs : List Value) (st : St), Inv st → Post Inv f g (valuesNodes vs) st (visitValues c vs st) :=
  visitValuesG h.alg
theorem visitObjFieldI (h : CFI c lvl Inv f g) : ∀ (x : ObjField) (st : St), Inv st → Post Inv f g (objFieldNodes x) st (visitObjField c x st) :=
  visitObjFieldG h.alg
theorem visitObjFieldsI (h : CFI c lvl Inv f g) : ∀ (fs : List ObjField) (st : St), Inv st → Post Inv f g (objFieldsNodes fs) st (visitObjFields c fs st) :=
  visitObjFieldsG h.alg
theorem visitSelI (h : CFI c lvl Inv f g) : ∀ (x : Sel) (st : St), Inv st → Post Inv f g (selNodes x) st (visitSel c x st) :=
  visitSelG h.alg.toV

theorem visitDefsI (h : CFI c lvl Inv f g) (hd : ∀ n, n.isDoc = false → lvl n = false) (ds : List Def) (st : St) (hi : Inv st) :
    Post Inv f g (ds.flatMap defNodes) st (ds.foldl (fun st x => visitDef c x st) st) :=
  visitDefsG h.alg.toV (fun n body ns st hn _ hb hi => visitNodeI h n body ns hb st hi (hd n hn)) ds st hi

end PyGql.Validate
