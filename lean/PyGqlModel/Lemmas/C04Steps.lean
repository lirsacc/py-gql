/-
  C04 — the step functions of the executor model (`collectStep`, `completeValue`, `resolveField`, `executeGroups`) each
  read as "decide what to do, then do it": the decision (`headAct`, `namedAct`, `listAct`, `fieldAct`, `groupAct`) looks at
  the schema, the document and the value but makes no recursive call, and its result type lists the few things that can
  happen next; one equation per step function (`collectStep_cons`, `completeValue_named`, `completeValue_list`,
  `completeValue_nonNull`, `resolveField_cons`, `executeGroups_cons`) states the step in these terms, and one statement per decision
  (`headAct_spec`, `namedAct_spec`, `groupAct_spec`) says what each outcome tells about the input — for a selection in terms
  of the node it `Yields` and the selection list it `Opens`.  Facts about the executor are then proved by cases on the
  action, not on selections, kinds and values.  The specification's `CollectFields` loop is read the same way
  (`headActS`, `collectStepS_cons`, `headActS_spec`).  Also here: how far the executor depends on its sub-executor and its
  world, and the equality of the specification's algorithm with the model's above `CollectFields`.
-/
import PyGqlModel.Spec.ExecSpec
import PyGqlModel.Spec.ValidDoc
import PyGqlModel.Lemmas.ExceptBasics


namespace PyGql.Lemmas.C04Raise
open PyGql PyGql.Exec

/-- the ONLY failure of a directive lookup is the `CoercionError` of a non-Boolean `if:` value (a list literal, a
    variable bound to `null`, an undefined variable) -/
theorem dirIf_err (vars : Vars) (dirs : List Dir) (name : String) (e : Fail) (h : dirIf vars dirs name = .error e) :
    e = .internal "CoercionError" := by
  unfold dirIf at h
  cases hf : dirs.find? (·.name == name) with
  | none => simp [hf] at h
  | some d =>
    simp only [hf] at h
    cases hc : d.cond with
    | lit b => simp [hc] at h
    | bad => simp [hc] at h; exact h.symm
    | var v =>
      simp only [hc] at h
      cases hv : vars.get? v with
      | none => simp [hv] at h; exact h.symm
      | some j => cases j <;> simp [hv] at h <;> exact h.symm

theorem skipSelection_err (vars : Vars) (dirs : List Dir) (e : Fail) (h : skipSelection vars dirs = .error e) :
    e = .internal "CoercionError" := by
  simp only [skipSelection, bind, Except.bind, pure, Except.pure] at h
  cases ha : dirIf vars dirs "skip" with
  | error x => simp [ha] at h; subst h; exact dirIf_err _ _ _ _ ha
  | ok a =>
    simp only [ha] at h
    cases hb : dirIf vars dirs "include" with
    | error x => simp [hb] at h; subst h; exact dirIf_err _ _ _ _ hb
    | ok b => simp [hb] at h

theorem fragmentTypeApplies_err (s : SchemaD) (obj : String) (on : Option String) (e : Fail)
    (h : fragmentTypeApplies s obj on = .error e) : e = .internal "UnknownType" := by
  unfold fragmentTypeApplies at h
  cases on with
  | none => simp at h
  | some c =>
    simp only at h
    cases hk : kindOf s c with
    | none => simp [hk] at h; exact h.symm
    | some k => simp [hk] at h

end PyGql.Lemmas.C04Raise

namespace PyGql.Props.C04
open PyGql PyGql.Exec PyGql.Spec PyGql.Lemmas.C04Raise

theorem bind_eq_ok {α β : Type} {x : R α} {f : α → R β} {b : β} (h : x.bind f = .ok b) : ∃ a, x = .ok a ∧ f a = .ok b :=
  Except.bind_ok_iff.mp h

def Fueled {α} (r : R α) : Prop := r ≠ .error .outOfFuel

/-- `f'` answers like `f` wherever `f` did not run out of fuel -/
def Extends3 {α β γ δ} (f f' : α → β → γ → R δ) : Prop := ∀ a b c, Fueled (f a b c) → f' a b c = f a b c

theorem Fueled.of_error {α β} {e : Fail} (h : Fueled (Except.error e : R α)) : Fueled (Except.error e : R β) := by
  intro he; apply h; cases he; rfl

theorem Fueled.bind {α β} {x : R α} {f : α → R β} (hx : Fueled x) (hf : ∀ a, x = .ok a → Fueled (f a)) : Fueled (x.bind f) := by
  cases x with
  | error e => exact hx.of_error
  | ok a => exact hf a rfl

/-- a sequence that did not run out of fuel keeps its result when both parts are replaced by computations that answer
    the same wherever the original did not run out -/
theorem bind_mono {α β} {x x' : R α} {f f' : α → R β} (h : Fueled (x.bind f)) (hx : Fueled x → x' = x)
    (hf : ∀ a, x = .ok a → Fueled (f a) → f' a = f a) : x'.bind f' = x.bind f := by
  cases x with
  | error e => rw [hx h.of_error]; rfl
  | ok a => rw [hx (by intro he; cases he)]; exact hf a rfl h

theorem eq_of_fueled {α} {a b : R α} (hab : Fueled a → b = a) (hba : Fueled b → a = b) : b = a := by
  by_cases ha : Fueled a
  · exact hab ha
  · by_cases hb : Fueled b
    · exact (hba hb).symm
    · rw [Classical.not_not.1 ha, Classical.not_not.1 hb]

/-- what one turn of the loop does with its selection -/
inductive HeadAct where
  /-- nothing: skipped, type condition not met, or a fragment already in `_seen_fragments` -/
  | drop
  | keep (n : FNode)
  /-- collect the body of an inline fragment (`name = none`) or of the fragment `name` -/
  | expand (sels : List Sel) (name : Option String)

def headAct (s : SchemaD) (doc : Doc) (vars : Vars) (obj : String) : Sel → List String → R HeadAct
  | .field key name loc dirs args hasSub sub, _ => do
    if (← skipSelection vars dirs) then pure .drop
    else pure (.keep { key := key, name := name, loc := loc, args := args, hasSub := hasSub, sub := sub })
  | .inline on dirs sub, _ => do
    let skipped ← skipSelection vars dirs
    let drop ← if skipped then pure true else do pure (!(← fragmentTypeApplies s obj on))
    if drop then pure .drop else pure (.expand sub none)
  | .spread name dirs, seen =>
    match doc.fragment? name with
    | none => .error (.internal "KeyError")
    | some fr => do
      let skipped ← skipSelection vars dirs
      let drop ← if skipped then pure true else
        if seen.contains name then pure true else do pure (!(← fragmentTypeApplies s obj (some fr.on)))
      if drop then pure .drop else pure (.expand fr.sels (some name))

/-- `_seen_fragments` after a recursive call that returned `seen'`: the callee's set is the caller's only when that was
    non-empty at the call; the name of a spread fragment is added afterwards -/
def seenAfter (seen seen' : List String) : Option String → List String
  | none => if seen.isEmpty then seen else seen'
  | some name =>
    let seen2 := if seen.isEmpty then seen else seen'
    if seen2.contains name then seen2 else seen2 ++ [name]

section
variable {s : SchemaD} {doc : Doc} {vars : Vars} {rec : String → List Sel → List String → R (Grouped × List String)}
  {obj : String} {x : Sel} {rest : List Sel} {seen : List String} {g : Grouped}

/-- the rest of the loop after the action `a` -/
def collectCont (s : SchemaD) (doc : Doc) (vars : Vars) (rec : String → List Sel → List String → R (Grouped × List String))
    (obj : String) (rest : List Sel) (seen : List String) (g : Grouped) : HeadAct → R (Grouped × List String)
  | .drop => collectStep s doc vars rec obj rest seen g
  | .keep n => collectStep s doc vars rec obj rest seen (g.extend n.key [n])
  | .expand sels name => (rec obj sels seen).bind fun p =>
      collectStep s doc vars rec obj rest (seenAfter seen p.2 name) (p.1.mergeInto g)

theorem collectStep_cons :
    collectStep s doc vars rec obj (x :: rest) seen g =
      (headAct s doc vars obj x seen).bind (collectCont s doc vars rec obj rest seen g) := by
  cases x with
  | field key name loc dirs args hs sub =>
    simp only [collectStep, headAct, bind, Except.bind, pure, Except.pure]
    cases skipSelection vars dirs with
    | error e => rfl
    | ok b => cases b <;> rfl
  | inline on dirs sub =>
    simp only [collectStep, headAct, bind, Except.bind, pure, Except.pure]
    cases skipSelection vars dirs with
    | error e => rfl
    | ok b =>
      cases b with
      | true => rfl
      | false =>
        cases fragmentTypeApplies s obj on with
        | error e => rfl
        | ok a => cases a <;> rfl
  | spread name dirs =>
    simp only [collectStep, headAct]
    cases doc.fragment? name with
    | none => rfl
    | some fr =>
      simp only [bind, Except.bind, pure, Except.pure]
      cases skipSelection vars dirs with
      | error e => rfl
      | ok b =>
        cases b with
        | true => rfl
        | false =>
          cases hseen : seen.contains name with
          | true =>
            simp only [Bool.false_eq_true, if_false, if_true]
            rfl
          | false =>
            simp only [Bool.false_eq_true, if_false]
            cases fragmentTypeApplies s obj (some fr.on) with
            | error e => rfl
            | ok a => cases a <;> rfl

end

/-- the directives written on the selection itself -/
def ownDirs : Sel → List Dir
  | .field _ _ _ dirs _ _ _ => dirs
  | .inline _ dirs _ => dirs
  | .spread _ dirs => dirs

abbrev CE : Fail := .internal "CoercionError"

/-- the field `x`, not skipped, yields the node `n` -/
inductive Yields (vars : Vars) : Sel → FNode → Prop
  | field {key name loc dirs args hs sub} : skipSelection vars dirs = .ok false →
      Yields vars (.field key name loc dirs args hs sub) { key := key, name := name, loc := loc, args := args, hasSub := hs, sub := sub }

/-- `x`, not skipped, opens the selection list `sels` for object type `obj`: the body of an inline fragment (`name = none`)
    or of the fragment `name` of the document, when the type condition applies -/
inductive Opens (s : SchemaD) (doc : Doc) (vars : Vars) (obj : String) : Sel → List Sel → Option String → Prop
  | inline {on dirs sub} : skipSelection vars dirs = .ok false → fragmentTypeApplies s obj on = .ok true →
      Opens s doc vars obj (.inline on dirs sub) sub none
  | spread {name dirs fr} : skipSelection vars dirs = .ok false → doc.fragment? name = some fr →
      fragmentTypeApplies s obj (some fr.on) = .ok true → Opens s doc vars obj (.spread name dirs) fr.sels (some name)

section
variable {s : SchemaD} {doc : Doc} {vars : Vars} {obj : String} {seen : List String}

theorem Opens.unique {x : Sel} {a b : List Sel} {na nb : Option String} (ha : Opens s doc vars obj x a na)
    (hb : Opens s doc vars obj x b nb) : a = b ∧ na = nb := by
  cases ha with
  | inline _ _ => cases hb; exact ⟨rfl, rfl⟩
  | spread _ hf _ =>
    cases hb with
    | spread _ hf' _ => rw [hf] at hf'; cases hf'; exact ⟨rfl, rfl⟩

theorem Opens.name_eq {x : Sel} {sels : List Sel} {nm : String} (h : Opens s doc vars obj x sels (some nm)) :
    ∃ dirs, x = .spread nm dirs ∧ skipSelection vars dirs = .ok false := by
  cases h with
  | spread hs _ _ => exact ⟨_, rfl, hs⟩

/-- where an exception of the decision comes from: the selection's own directives, its type condition (evaluated when it
    is not skipped), or the lookup of the fragment a spread names -/
def HeadErr (s : SchemaD) (doc : Doc) (vars : Vars) (obj : String) (x : Sel) (e : Fail) : Prop :=
  skipSelection vars (ownDirs x) = .error e ∨
  (∃ on dirs sub, x = .inline on dirs sub ∧ skipSelection vars dirs = .ok false ∧ fragmentTypeApplies s obj on = .error e) ∨
  (∃ nm dirs fr, x = .spread nm dirs ∧ skipSelection vars dirs = .ok false ∧ doc.fragment? nm = some fr ∧
    fragmentTypeApplies s obj (some fr.on) = .error e) ∨
  ∃ nm dirs, x = .spread nm dirs ∧ doc.fragment? nm = none ∧ e = .internal "KeyError"

/-- what each outcome of the decision says about the selection; a selection that is dropped yields nothing and opens
    nothing but a fragment seen before -/
def HeadSpec (s : SchemaD) (doc : Doc) (vars : Vars) (obj : String) (x : Sel) (seen : List String) : R HeadAct → Prop
  | .error e => HeadErr s doc vars obj x e
  | .ok .drop => (∃ b, skipSelection vars (ownDirs x) = .ok b) ∧ (∀ n, ¬ Yields vars x n) ∧
      ∀ sels name, Opens s doc vars obj x sels name → ∃ nm, name = some nm ∧ seen.contains nm = true
  | .ok (.keep n) => Yields vars x n
  | .ok (.expand sels name) => Opens s doc vars obj x sels name ∧ ∀ nm, name = some nm → seen.contains nm = false

theorem headAct_spec (x : Sel) : HeadSpec s doc vars obj x seen (headAct s doc vars obj x seen) := by
  cases x with
  | field key nm loc dirs args hs sub =>
    simp only [headAct, bind, Except.bind, pure, Except.pure]
    cases hsk : skipSelection vars dirs with
    | error e => exact Or.inl hsk
    | ok b =>
      cases b with
      | true => exact ⟨⟨_, hsk⟩, fun n h => (by cases h with | field h => exact nomatch hsk.symm.trans h), fun _ _ h => nomatch h⟩
      | false => exact .field hsk
  | inline on dirs sub =>
    simp only [headAct, bind, Except.bind, pure, Except.pure]
    cases hsk : skipSelection vars dirs with
    | error e => exact Or.inl hsk
    | ok b =>
      cases b with
      | true =>
        exact ⟨⟨_, hsk⟩, fun n h => (nomatch h), fun _ _ h => (by cases h with | inline h _ => exact nomatch hsk.symm.trans h)⟩
      | false =>
        cases hap : fragmentTypeApplies s obj on with
        | error e => exact Or.inr (Or.inl ⟨_, _, _, rfl, hsk, hap⟩)
        | ok a =>
          cases a with
          | false =>
            exact ⟨⟨_, hsk⟩, fun n h => (nomatch h), fun _ _ h => (by cases h with | inline _ h => exact nomatch hap.symm.trans h)⟩
          | true => exact ⟨.inline hsk hap, fun _ h => nomatch h⟩
  | spread nm dirs =>
    simp only [headAct]
    cases hfr : doc.fragment? nm with
    | none => exact Or.inr (Or.inr (Or.inr ⟨_, _, rfl, hfr, rfl⟩))
    | some fr =>
      simp only [bind, Except.bind, pure, Except.pure]
      cases hsk : skipSelection vars dirs with
      | error e => exact Or.inl hsk
      | ok b =>
        cases b with
        | true =>
          exact ⟨⟨_, hsk⟩, fun n h => (nomatch h), fun _ _ h => (by cases h with | spread h _ _ => exact nomatch hsk.symm.trans h)⟩
        | false =>
          cases hseen : seen.contains nm with
          | true => exact ⟨⟨_, hsk⟩, fun n h => (nomatch h), fun _ _ h => by cases h; exact ⟨_, rfl, hseen⟩⟩
          | false =>
            cases hap : fragmentTypeApplies s obj (some fr.on) with
            | error e => exact Or.inr (Or.inr (Or.inl ⟨_, _, _, rfl, hsk, hfr, hap⟩))
            | ok a =>
              cases a with
              | false =>
                refine ⟨⟨_, hsk⟩, fun n h => (nomatch h), fun _ _ h => ?_⟩
                cases h with
                | spread _ hf ha =>
                  rw [hfr] at hf
                  cases hf
                  exact nomatch hap.symm.trans ha
              | true => exact ⟨.spread hsk hfr hap, fun _ h => by cases h; exact hseen⟩

theorem headAct_keep {x : Sel} {n : FNode} (h : headAct s doc vars obj x seen = .ok (.keep n)) :
    ∃ dirs, x = .field n.key n.name n.loc dirs n.args n.hasSub n.sub := by
  have := headAct_spec (s := s) (doc := doc) (vars := vars) (obj := obj) (seen := seen) x
  rw [h] at this
  cases this
  exact ⟨_, rfl⟩

theorem headAct_expand {x : Sel} {sels : List Sel} {name : Option String} (h : headAct s doc vars obj x seen = .ok (.expand sels name)) :
    (∃ on dirs, x = .inline on dirs sels ∧ name = none) ∨
    (∃ nm dirs fr, x = .spread nm dirs ∧ name = some nm ∧ doc.fragment? nm = some fr ∧ fr.sels = sels ∧ seen.contains nm = false) := by
  have := headAct_spec (s := s) (doc := doc) (vars := vars) (obj := obj) (seen := seen) x
  rw [h] at this
  obtain ⟨ho, hfresh⟩ := this
  cases ho with
  | inline _ _ => exact Or.inl ⟨_, _, rfl, rfl⟩
  | spread _ hf _ => exact Or.inr ⟨_, _, _, rfl, rfl, hf, rfl, hfresh _ rfl⟩

/-- such an exception escapes the executor: the `CoercionError` of a directive condition, the `UnknownType` of a type
    condition, the `KeyError` of a missing fragment -/
theorem HeadErr.internal {x : Sel} {e : Fail} (h : HeadErr s doc vars obj x e) : ∃ c, e = .internal c := by
  rcases h with h | ⟨_, _, _, _, _, h⟩ | ⟨_, _, _, _, _, _, h⟩ | ⟨_, _, _, _, h⟩
  · exact ⟨_, skipSelection_err _ _ _ h⟩
  · exact ⟨_, fragmentTypeApplies_err _ _ _ _ h⟩
  · exact ⟨_, fragmentTypeApplies_err _ _ _ _ h⟩
  · exact ⟨_, h⟩

theorem HeadErr.CE {x : Sel} (h : HeadErr s doc vars obj x CE) : skipSelection vars (ownDirs x) = .error CE := by
  rcases h with h | ⟨_, _, _, _, _, h⟩ | ⟨_, _, _, _, _, _, h⟩ | ⟨_, _, _, _, h⟩
  · exact h
  · exact absurd (Fail.internal.inj (fragmentTypeApplies_err _ _ _ _ h)) (by decide)
  · exact absurd (Fail.internal.inj (fragmentTypeApplies_err _ _ _ _ h)) (by decide)
  · exact absurd (Fail.internal.inj h) (by decide)

theorem headAct_error {x : Sel} {e : Fail} (h : headAct s doc vars obj x seen = .error e) : HeadErr s doc vars obj x e := by
  have := headAct_spec (s := s) (doc := doc) (vars := vars) (obj := obj) (seen := seen) x
  rwa [h] at this

theorem headAct_err {x : Sel} {e : Fail} (h : headAct s doc vars obj x seen = .error e) : ∃ c, e = .internal c :=
  (headAct_error h).internal

end

/-- what one turn of the specification's loop does with its selection; `visited` is the set the loop (or the recursive
    call) continues with: a spread that is neither skipped nor visited before adds its name, expanded or not -/
inductive HeadActS where
  | pass (visited : List String)
  | keep (n : FNode)
  | expand (sels : List Sel) (visited : List String)

def headActS (s : SchemaD) (doc : Doc) (vars : Vars) (obj : String) : Sel → List String → R HeadActS
  | .field key name loc dirs args hasSub sub, V => do
    if (← skipSelection vars dirs) then pure (.pass V)
    else pure (.keep { key := key, name := name, loc := loc, args := args, hasSub := hasSub, sub := sub })
  | .inline on dirs sub, V => do
    if (← skipSelection vars dirs) then pure (.pass V)
    else if !(← fragmentTypeApplies s obj on) then pure (.pass V)
    else pure (.expand sub V)
  | .spread name dirs, V => do
    if (← skipSelection vars dirs) then pure (.pass V)
    else if V.contains name then pure (.pass V)
    else
      match doc.fragment? name with
      | none => pure (.pass (V ++ [name]))
      | some fr => do
        if !(← fragmentTypeApplies s obj (some fr.on)) then pure (.pass (V ++ [name]))
        else pure (.expand fr.sels (V ++ [name]))

/-- the rest of the specification's loop after the action `a` (the visited set comes back from the recursive call) -/
def collectContS (s : SchemaD) (doc : Doc) (vars : Vars) (rec : String → List Sel → List String → R (Grouped × List String))
    (obj : String) (rest : List Sel) (V : List String) (g : Grouped) : HeadActS → R (Grouped × List String)
  | .pass V' => collectStepS s doc vars rec obj rest V' g
  | .keep n => collectStepS s doc vars rec obj rest V (g.extend n.key [n])
  | .expand sels V1 => (rec obj sels V1).bind fun p => collectStepS s doc vars rec obj rest p.2 (p.1.mergeInto g)

section
variable {s : SchemaD} {doc : Doc} {vars : Vars} {obj : String} {x : Sel} {V : List String}

theorem collectStepS_cons {rec : String → List Sel → List String → R (Grouped × List String)} {rest : List Sel} {g : Grouped} :
    collectStepS s doc vars rec obj (x :: rest) V g = (headActS s doc vars obj x V).bind (collectContS s doc vars rec obj rest V g) := by
  cases x with
  | field key name loc dirs args hs sub =>
    simp only [collectStepS, headActS, bind, Except.bind, pure, Except.pure]
    cases skipSelection vars dirs with
    | error e => rfl
    | ok b => cases b <;> rfl
  | inline on dirs sub =>
    simp only [collectStepS, headActS, bind, Except.bind, pure, Except.pure]
    cases skipSelection vars dirs with
    | error e => rfl
    | ok b =>
      cases b with
      | true => rfl
      | false =>
        cases fragmentTypeApplies s obj on with
        | error e => rfl
        | ok a => cases a <;> rfl
  | spread name dirs =>
    simp only [collectStepS, headActS, bind, Except.bind, pure, Except.pure]
    cases skipSelection vars dirs with
    | error e => rfl
    | ok b =>
      cases b with
      | true => rfl
      | false =>
        cases V.contains name with
        | true => rfl
        | false =>
          simp only [Bool.false_eq_true, if_false]
          cases doc.fragment? name with
          | none => rfl
          | some fr =>
            dsimp only
            cases fragmentTypeApplies s obj (some fr.on) with
            | error e => rfl
            | ok a => cases a <;> rfl

/-- the specification's action for the model's, where the two loops decide alike -/
def HeadAct.toS (V : List String) : HeadAct → HeadActS
  | .drop => .pass V
  | .keep n => .keep n
  | .expand sels _ => .expand sels V

theorem headActS_eq (hx : ∀ nm dirs, x ≠ .spread nm dirs) :
    headActS s doc vars obj x V = (headAct s doc vars obj x V).map (HeadAct.toS V) := by
  cases x with
  | spread nm dirs => exact absurd rfl (hx nm dirs)
  | field key name loc dirs args hs sub =>
    simp only [headActS, headAct, bind, Except.bind, pure, Except.pure]
    cases skipSelection vars dirs with
    | error e => rfl
    | ok b => cases b <;> rfl
  | inline on dirs sub =>
    simp only [headActS, headAct, bind, Except.bind, pure, Except.pure]
    cases skipSelection vars dirs with
    | error e => rfl
    | ok b =>
      cases b with
      | true => rfl
      | false =>
        cases fragmentTypeApplies s obj on with
        | error e => rfl
        | ok a => cases a <;> rfl

/-- the visited set handed to the expansion -/
def enter (V : List String) : Option String → List String
  | none => V
  | some nm => V ++ [nm]

/-- what each successful outcome of the specification's decision says about the selection: what is passed over yields
    nothing; it opens nothing but a visited fragment, or it is a spread that opens nothing and whose name becomes visited -/
def HeadSpecS (s : SchemaD) (doc : Doc) (vars : Vars) (obj : String) (x : Sel) (V : List String) : R HeadActS → Prop
  | .error _ => True
  | .ok (.keep n) => Yields vars x n
  | .ok (.expand sels V1) => ∃ name, Opens s doc vars obj x sels name ∧ V1 = enter V name ∧ ∀ nm, name = some nm → nm ∉ V
  | .ok (.pass V') => (∃ b, skipSelection vars (ownDirs x) = .ok b) ∧ (∀ n, ¬ Yields vars x n) ∧
      ((V' = V ∧ (∀ nm dirs, x = .spread nm dirs → skipSelection vars dirs = .ok false → nm ∈ V) ∧
          ∀ sels, ¬ Opens s doc vars obj x sels none) ∨
       ∃ nm dirs, x = .spread nm dirs ∧ skipSelection vars dirs = .ok false ∧ V' = V ++ [nm] ∧
          ∀ sels name, ¬ Opens s doc vars obj x sels name)

theorem headActS_spec (x : Sel) : HeadSpecS s doc vars obj x V (headActS s doc vars obj x V) := by
  cases x with
  | field key nm loc dirs args hs sub =>
    simp only [headActS, bind, Except.bind, pure, Except.pure]
    cases hsk : skipSelection vars dirs with
    | error e => trivial
    | ok b =>
      cases b with
      | true =>
        exact ⟨⟨_, hsk⟩, fun n h => (by cases h with | field h => exact nomatch hsk.symm.trans h),
          Or.inl ⟨rfl, fun _ _ h => (nomatch h), fun _ h => nomatch h⟩⟩
      | false => exact .field hsk
  | inline on dirs sub =>
    simp only [headActS, bind, Except.bind, pure, Except.pure]
    cases hsk : skipSelection vars dirs with
    | error e => trivial
    | ok b =>
      cases b with
      | true =>
        exact ⟨⟨_, hsk⟩, fun n h => (nomatch h),
          Or.inl ⟨rfl, fun _ _ h => (nomatch h), fun _ h => (by cases h with | inline h _ => exact nomatch hsk.symm.trans h)⟩⟩
      | false =>
        cases hap : fragmentTypeApplies s obj on with
        | error e => trivial
        | ok a =>
          cases a with
          | false =>
            exact ⟨⟨_, hsk⟩, fun n h => (nomatch h),
              Or.inl ⟨rfl, fun _ _ h => (nomatch h), fun _ h => (by cases h with | inline _ h => exact nomatch hap.symm.trans h)⟩⟩
          | true => exact ⟨none, .inline hsk hap, rfl, fun _ h => nomatch h⟩
  | spread nm dirs =>
    simp only [headActS, bind, Except.bind, pure, Except.pure]
    cases hsk : skipSelection vars dirs with
    | error e => trivial
    | ok b =>
      cases b with
      | true =>
        exact ⟨⟨_, hsk⟩, fun n h => (nomatch h),
          Or.inl ⟨rfl, fun _ _ h hs => (by cases h; exact nomatch hsk.symm.trans hs), fun _ h => nomatch h⟩⟩
      | false =>
        cases hvis : V.contains nm with
        | true =>
          exact ⟨⟨_, hsk⟩, fun n h => (nomatch h),
            Or.inl ⟨rfl, fun _ _ h _ => (by cases h; simpa using hvis), fun _ h => nomatch h⟩⟩
        | false =>
          have hnv : nm ∉ V := by simpa using hvis
          simp only [Bool.false_eq_true, if_false]
          cases hfr : doc.fragment? nm with
          | none =>
            refine ⟨⟨_, hsk⟩, fun n h => (nomatch h), Or.inr ⟨nm, dirs, rfl, hsk, rfl, fun _ _ h => ?_⟩⟩
            cases h with
            | spread _ hf _ => exact nomatch hfr.symm.trans hf
          | some fr =>
            dsimp only
            cases hap : fragmentTypeApplies s obj (some fr.on) with
            | error e => trivial
            | ok a =>
              cases a with
              | false =>
                refine ⟨⟨_, hsk⟩, fun n h => (nomatch h), Or.inr ⟨nm, dirs, rfl, hsk, rfl, fun _ _ h => ?_⟩⟩
                cases h with
                | spread _ hf ha =>
                  rw [hfr] at hf
                  cases hf
                  exact nomatch hap.symm.trans ha
              | true => exact ⟨some nm, .spread hsk hfr hap, rfl, fun _ h => by cases h; exact hnv⟩

end

/-! ### a property of every collected node (it may mention the response key of the node's group) -/

def GroupAll (P : String → FNode → Prop) (g : Grouped) : Prop := ∀ kv ∈ g, ∀ n ∈ kv.2, P kv.1 n

theorem extend_groupAll (P : String → FNode → Prop) (g : Grouped) (k : String) (ns : List FNode) (hg : GroupAll P g)
    (hn : ∀ n ∈ ns, P k n) : GroupAll P (g.extend k ns) := by
  induction g with
  | nil => intro kv hkv n hn'; simp [Grouped.extend] at hkv; subst hkv; exact hn n hn'
  | cons kv rest ih =>
    obtain ⟨k', ms⟩ := kv
    simp only [Grouped.extend]
    by_cases h : k' = k
    · subst h
      simp only [beq_self_eq_true, if_true]
      intro kv hkv n hn'
      simp at hkv
      rcases hkv with rfl | hkv
      · simp at hn'
        rcases hn' with h1 | h1
        · exact hg (k', ms) (by simp) n h1
        · exact hn n h1
      · exact hg kv (by simp [hkv]) n hn'
    · have h' : (k' == k) = false := by simpa using h
      simp only [h', Bool.false_eq_true, if_false]
      intro kv hkv n hn'
      simp at hkv
      rcases hkv with rfl | hkv
      · exact hg (k', ms) (by simp) n hn'
      · exact ih (fun kv hkv => hg kv (by simp [hkv])) kv hkv n hn'

theorem mergeInto_groupAll (P : String → FNode → Prop) (src into : Grouped) (hs : GroupAll P src) (hi : GroupAll P into) :
    GroupAll P (src.mergeInto into) := by
  unfold Grouped.mergeInto
  induction src generalizing into with
  | nil => simpa
  | cons kv rest ih =>
    simp only [List.foldl_cons]
    exact ih _ (fun kv' hkv => hs kv' (by simp [hkv])) (extend_groupAll P _ _ _ hi (fun n hn => hs kv (by simp) n hn))

/-! ### `complete_value` at a named type: an answer of its own, or the sub-selections executed on a runtime type -/

inductive NamedAct where
  | null
  | leaf (r : J)
  /-- one of the exceptions of `complete_value` / `resolve_type` that escape the executor -/
  | internal (cls : String)
  | unsupported
  /-- `resolve_type` raising `ResolverError`: nothing has been recorded yet -/
  | raised (msg : String) (ext : Option J)
  /-- `execute_fields` on the object type `rt` (the type itself, or the resolved possible type of an abstract type) -/
  | sub (rt : String)

def namedAct (s : SchemaD) (n : String) : RVal → NamedAct
  | .null => .null
  | v =>
    match kindOf s n with
    | none => .internal "TypeError"
    | some .input => .internal "TypeError"
    | some .scalar | some .enum =>
      match v with
      | .leaf j =>
        match serializeLeaf s n j with
        | some r => .leaf r
        | none => .internal "RuntimeError"
      | _ => .unsupported
    | some .object => .sub n
    | some .interface | some .union =>
      match v with
      | .obj rt =>
        match kindOf s rt with
        | none => .internal "UnknownType"
        | some .object => if isPossibleType s n rt then .sub rt else .internal "RuntimeError"
        | some _ => .internal "RuntimeError"
      | .raise _ msg ext => .raised msg ext
      | _ => .internal "UnknownType"

theorem completeValue_named {s : SchemaD} {e : String → Path → List Sel → R (Data × List Err)} {nodes : List FNode} {n : String}
    {path : Path} {v : RVal} :
    completeValue s e nodes (.named n) path v =
      match namedAct s n v with
      | .null => .ok (.null, [])
      | .leaf r => .ok (.leaf r, [])
      | .internal c => .error (.internal c)
      | .unsupported => .error .unsupported
      | .raised msg ext => .error (.raised (.resolver msg ext) none [])
      | .sub rt => e rt path (mergedSelections nodes) := by
  cases v with
  | null => rfl
  | leaf j =>
    simp only [completeValue, namedAct]
    cases kindOf s n with
    | none => rfl
    | some k =>
      cases k <;> try rfl
      all_goals cases serializeLeaf s n j <;> rfl
  | list vs =>
    simp only [completeValue, namedAct]
    cases kindOf s n with
    | none => rfl
    | some k => cases k <;> rfl
  | raise vs msg ext =>
    simp only [completeValue, namedAct]
    cases kindOf s n with
    | none => rfl
    | some k => cases k <;> rfl
  | obj rt =>
    simp only [completeValue, namedAct]
    cases kindOf s n with
    | none => rfl
    | some k =>
      cases k <;> try rfl
      all_goals
        cases kindOf s rt with
        | none => rfl
        | some k2 =>
          cases k2 <;> try rfl
          all_goals cases isPossibleType s n rt <;> rfl

/-- what an outcome of `namedAct` says of the kind of `n`, and of the object type whose fields are executed: `n` itself, or
    the possible type that the value names -/
def NamedSpec (s : SchemaD) (n : String) (v : RVal) : NamedAct → Prop
  | .null => v = .null
  | .leaf _ => kindOf s n = some .scalar ∨ kindOf s n = some .enum
  | .sub rt => isComposite s n = true ∧ kindOf s rt = some .object ∧ (rt = n ∨ v = .obj rt ∧ isPossibleType s n rt = true)
  | _ => True

theorem namedAct_spec (s : SchemaD) (n : String) (v : RVal) : NamedSpec s n v (namedAct s n v) := by
  cases v with
  | null => rfl
  | obj rt =>
    simp only [namedAct]
    cases hk : kindOf s n with
    | none => trivial
    | some k =>
      cases k
      case object => exact ⟨by simp [isComposite, hk], hk, Or.inl rfl⟩
      case interface | union =>
        dsimp only
        cases hr : kindOf s rt with
        | none => trivial
        | some k2 =>
          cases k2 <;> try trivial
          dsimp only
          split
          · exact ⟨by simp [isComposite, hk], hr, Or.inr ⟨rfl, ‹_›⟩⟩
          · trivial
      all_goals trivial
  | leaf j =>
    simp only [namedAct]
    cases hk : kindOf s n with
    | none => trivial
    | some k =>
      cases k
      case object => exact ⟨by simp [isComposite, hk], hk, Or.inl rfl⟩
      case scalar => dsimp only; cases serializeLeaf s n j <;> first | trivial | exact Or.inl hk
      case enum => dsimp only; cases serializeLeaf s n j <;> first | trivial | exact Or.inr hk
      all_goals trivial
  | list vs =>
    simp only [namedAct]
    cases hk : kindOf s n with
    | none => trivial
    | some k =>
      cases k
      case object => exact ⟨by simp [isComposite, hk], hk, Or.inl rfl⟩
      all_goals trivial
  | raise vs msg ext =>
    simp only [namedAct]
    cases hk : kindOf s n with
    | none => trivial
    | some k =>
      cases k
      case object => exact ⟨by simp [isComposite, hk], hk, Or.inl rfl⟩
      all_goals trivial

/-- what `complete_value` does with the value at a list type -/
inductive ListAct where
  | null
  | items (vs : List RVal)
  /-- a lazy iterable that yields `vs` and then raises `ResolverError` -/
  | raising (vs : List RVal) (msg : String) (ext : Option J)
  /-- not iterable: `RuntimeError` -/
  | internal
  | unsupported

def listAct : RVal → ListAct
  | .null => .null
  | .list vs => .items vs
  | .raise vs msg ext => .raising vs msg ext
  | .leaf (.arr _) => .unsupported
  | .leaf _ => .internal
  | .obj _ => .unsupported

/-- the iterable raises after its items: their errors stay recorded, the failure is the iterable's -/
def raiseAfter (msg : String) (ext : Option J) : R (List Data × List Err) → R (Data × List Err)
  | .ok (_, es) => .error (.raised (.resolver msg ext) none es)
  | .error x => .error x

theorem raiseAfter_eq_error {msg : String} {ext : Option J} {r : R (List Data × List Err)} {x : Fail}
    (h : raiseAfter msg ext r = .error x) :
    r = .error x ∨ ∃ ds es, r = .ok (ds, es) ∧ x = .raised (.resolver msg ext) none es := by
  cases r with
  | ok p => cases h; exact Or.inr ⟨p.1, p.2, rfl, rfl⟩
  | error y => cases h; exact Or.inl rfl

theorem raiseAfter_ne_ok {msg : String} {ext : Option J} {r : R (List Data × List Err)} {p : Data × List Err} :
    raiseAfter msg ext r ≠ .ok p := by
  cases r <;> exact nofun

theorem completeValue_list {s : SchemaD} {e : String → Path → List Sel → R (Data × List Err)} {nodes : List FNode} {t : Ty}
    {path : Path} {v : RVal} :
    completeValue s e nodes (.list t) path v =
      match listAct v with
      | .null => .ok (.null, [])
      | .items vs => (completeList (completeValue s e nodes t) path 0 vs).bind fun p => .ok (.list p.1, p.2)
      | .raising vs msg ext => raiseAfter msg ext (completeList (completeValue s e nodes t) path 0 vs)
      | .internal => .error (.internal "RuntimeError")
      | .unsupported => .error .unsupported := by
  cases v with
  | leaf j => cases j <;> rfl
  | raise vs msg ext =>
    simp only [completeValue, listAct, raiseAfter]
    cases completeList (completeValue s e nodes t) path 0 vs <;> rfl
  | _ => rfl

/-- `complete_non_nullable_value`: a null result is reported at the field -/
def nonNullWrap (path : Path) (nodes : List FNode) (p : Data × List Err) : Data × List Err :=
  if p.1.isNull then (p.1, p.2 ++ [{ path := path, locs := nodeLocs nodes, kind := .nonnull }]) else p

theorem completeValue_nonNull {s : SchemaD} {e : String → Path → List Sel → R (Data × List Err)} {nodes : List FNode} {t : Ty}
    {path : Path} {v : RVal} :
    completeValue s e nodes (.nonNull t) path v = (completeValue s e nodes t path v).bind fun p => .ok (nonNullWrap path nodes p) := by
  simp only [completeValue, nonNullWrap]
  cases completeValue s e nodes t path v with
  | error x => rfl
  | ok p => cases hp : p.1.isNull <;> simp [bind, Except.bind, pure, Except.pure, hp]

/-- what the loop does for the group of one response key -/
inductive GroupAct where
  /-- the field is not defined on the parent type: the key is left out -/
  | skip
  | typename
  | field (fd : FieldD)

/-- `ResolutionContext.field_definition` on the first node of the group -/
def groupAct (s : SchemaD) (parent : String) : List FNode → R GroupAct
  | [] => .error (.internal "IndexError")
  | node :: _ =>
    if isMeta node.name then
      if node.name == "__typename" then .ok .typename
      else if s.query == some parent then .error .unsupported
      else .error (.internal "UnboundLocalError")
    else
      match fieldOf s parent node.name with
      | none => .ok .skip
      | some fd => .ok (.field fd)

/-- the rest of the loop after the action `a` -/
def groupCont (s : SchemaD) (w : World) (e : String → Path → List Sel → R (Data × List Err)) (parent : String) (path : Path)
    (key : String) (nodes : List FNode) (rest : Grouped) : GroupAct → R (List (String × Data) × List Err)
  | .skip => executeGroups s w e parent path rest
  | .typename => (executeGroups s w e parent path rest).bind fun r => .ok ((key, .leaf (.str parent)) :: r.1, r.2)
  | .field fd => (resolveField s w e parent (path ++ [.key key]) nodes fd).bind fun p =>
      (executeGroups s w e parent path rest).bind fun r => .ok ((key, p.1) :: r.1, p.2 ++ r.2)

theorem executeGroups_cons {s : SchemaD} {w : World} {e : String → Path → List Sel → R (Data × List Err)} {parent : String}
    {path : Path} {kv : String × List FNode} {rest : Grouped} :
    executeGroups s w e parent path (kv :: rest) =
      (groupAct s parent kv.2).bind (groupCont s w e parent path kv.1 kv.2 rest) := by
  obtain ⟨key, nodes⟩ := kv
  cases nodes with
  | nil => rfl
  | cons node more =>
    simp only [executeGroups, groupAct]
    cases isMeta node.name with
    | false => cases fieldOf s parent node.name <;> rfl
    | true =>
      cases node.name == "__typename" with
      | true => rfl
      | false => cases s.query == some parent <;> rfl

/-- what each outcome of the lookup says about the group: it fails on an empty group and on a meta field other than
    `__typename` (`__schema`, `__type`: introspection on the query type, `UnboundLocalError` elsewhere) -/
def GroupSpec (s : SchemaD) (parent : String) (nodes : List FNode) : R GroupAct → Prop
  | .error x => (x = .unsupported ∨ ∃ c, x = .internal c) ∧
      ∀ node more, nodes = node :: more → isMeta node.name = true ∧ node.name ≠ "__typename"
  | .ok (.field fd) => ∃ node more, nodes = node :: more ∧ isMeta node.name = false ∧ fieldOf s parent node.name = some fd
  | .ok _ => True

theorem groupAct_spec {s : SchemaD} {parent : String} (nodes : List FNode) : GroupSpec s parent nodes (groupAct s parent nodes) := by
  cases nodes with
  | nil => exact ⟨Or.inr ⟨_, rfl⟩, fun _ _ h => nomatch h⟩
  | cons node more =>
    simp only [groupAct]
    cases hm : isMeta node.name with
    | false =>
      cases hf : fieldOf s parent node.name with
      | none => trivial
      | some fd => exact ⟨node, more, rfl, hm, hf⟩
    | true =>
      cases ht : node.name == "__typename" with
      | true => trivial
      | false =>
        have hne : ∀ n m, node :: more = n :: m → isMeta n.name = true ∧ n.name ≠ "__typename" := fun n m h => by
          cases h
          exact ⟨hm, by simpa using ht⟩
        cases s.query == some parent with
        | true => exact ⟨Or.inl rfl, hne⟩
        | false => exact ⟨Or.inr ⟨_, rfl⟩, hne⟩

theorem groupAct_field {s : SchemaD} {parent : String} {nodes : List FNode} {fd : FieldD} (h : groupAct s parent nodes = .ok (.field fd)) :
    ∃ node more, nodes = node :: more ∧ isMeta node.name = false ∧ fieldOf s parent node.name = some fd := by
  have := groupAct_spec (s := s) (parent := parent) nodes
  rwa [h] at this

theorem groupAct_err {s : SchemaD} {parent : String} {nodes : List FNode} {x : Fail} (h : groupAct s parent nodes = .error x) :
    x = .unsupported ∨ ∃ c, x = .internal c := by
  have := groupAct_spec (s := s) (parent := parent) nodes
  rw [h] at this
  exact this.1

/-! ### `resolve_field`: an answer without completing a value, or the resolved value to complete -/

inductive FieldAct where
  /-- `null` with one error at the field: arguments that could not be coerced, or a resolver raising `ResolverError` -/
  | nullWith (kind : ErrKind)
  /-- the resolver raised something else -/
  | boom
  | complete (v : RVal)

def fieldAct (w : World) (parent : String) (fd : FieldD) (path : Path) (node : FNode) : FieldAct :=
  match (node.args.find? (·.1 == parent)).map (·.2) with
  | none | some none => .nullWith .coercion
  | some (some a) =>
    match w parent fd.name path a with
    | .err msg ext => .nullWith (.resolver msg ext)
    | .boom => .boom
    | .val v => .complete v

/-- the resolver's outcome behind each action -/
def FieldSpec (w : World) (parent : String) (fd : FieldD) (path : Path) : FieldAct → Prop
  | .boom => ∃ a, w parent fd.name path a = .boom
  | .complete v => ∃ a, w parent fd.name path a = .val v
  | .nullWith _ => True

theorem fieldAct_spec (w : World) (parent : String) (fd : FieldD) (path : Path) (node : FNode) :
    FieldSpec w parent fd path (fieldAct w parent fd path node) := by
  simp only [fieldAct]
  cases (node.args.find? (·.1 == parent)).map (·.2) with
  | none => trivial
  | some o =>
    cases o with
    | none => trivial
    | some a =>
      dsimp only
      cases h : w parent fd.name path a with
      | err msg ext => trivial
      | boom => exact ⟨a, h⟩
      | val v => exact ⟨a, h⟩

theorem resolveField_cons {s : SchemaD} {w : World} {e : String → Path → List Sel → R (Data × List Err)} {parent : String}
    {path : Path} {node : FNode} {more : List FNode} {fd : FieldD} :
    resolveField s w e parent path (node :: more) fd =
      match fieldAct w parent fd path node with
      | .nullWith k => .ok (.null, [{ path := path, locs := [node.loc], kind := k }])
      | .boom => .error (.internal "unexpected")
      | .complete v => catchField path node.loc (completeValue s e (node :: more) fd.type path v) := by
  simp only [resolveField, fieldAct]
  cases (node.args.find? (·.1 == parent)).map (·.2) with
  | none => rfl
  | some o =>
    cases o with
    | none => rfl
    | some a =>
      dsimp only
      cases w parent fd.name path a <;> rfl

/-! ### the executor depends on its sub-executor and its world only through the calls it makes

A run that did not run out of fuel is unchanged when world and sub-executor are replaced by ones that answer the same on
the calls made at or below the response path, wherever those did not run out.  More fuel is one use; used in both
directions (`eq_of_fueled`) it gives the congruences in world and sub-executor. -/

theorem completeList_dep (f f' : Path → RVal → R (Data × List Err)) (path : Path)
    (hx : ∀ i v, Fueled (f (path ++ [.idx i]) v) → f' (path ++ [.idx i]) v = f (path ++ [.idx i]) v) :
    ∀ (vs : List RVal) (i : Nat), Fueled (completeList f path i vs) → completeList f' path i vs = completeList f path i vs := by
  intro vs
  induction vs with
  | nil => intro i _; rfl
  | cons v rest ih =>
    intro i hfu
    simp only [completeList] at hfu ⊢
    refine bind_mono hfu (hx _ _) (fun p _ hp => ?_)
    refine bind_mono hp (fun h => ?_) (fun _ _ _ => rfl)
    rw [ih _ (fun h' => h ((keepErrs_outOfFuel _ _).2 h'))]

/-- only calls for the merged sub-selections, at `path` or below, count -/
theorem completeValue_dep (s : SchemaD) (e e' : String → Path → List Sel → R (Data × List Err)) (nodes : List FNode) :
    ∀ (t : Ty) (path : Path) (v : RVal),
      (∀ rel rt, Fueled (e rt (path ++ rel) (mergedSelections nodes)) →
        e' rt (path ++ rel) (mergedSelections nodes) = e rt (path ++ rel) (mergedSelections nodes)) →
      Fueled (completeValue s e nodes t path v) → completeValue s e' nodes t path v = completeValue s e nodes t path v := by
  intro t
  induction t with
  | named n =>
    intro path v he hfu
    rw [completeValue_named] at hfu
    rw [completeValue_named, completeValue_named]
    generalize namedAct s n v = a at hfu ⊢
    cases a with
    | sub rt => simpa using he [] rt (by simpa using hfu)
    | _ => rfl
  | list t ih =>
    intro path v he hfu
    have hl := completeList_dep _ _ path (fun i v => ih (path ++ [.idx i]) v fun rel rt => by
      simpa [List.append_assoc] using he (.idx i :: rel) rt)
    rw [completeValue_list] at hfu
    rw [completeValue_list, completeValue_list]
    generalize listAct v = a at hfu ⊢
    cases a with
    | items vs => exact bind_mono hfu (hl vs 0) (fun _ _ _ => rfl)
    | raising vs msg ext =>
      dsimp only at hfu ⊢
      rw [hl vs 0 (fun h => hfu (by rw [h]; rfl))]
    | _ => rfl
  | nonNull t ih =>
    intro path v he hfu
    rw [completeValue_nonNull] at hfu
    rw [completeValue_nonNull, completeValue_nonNull]
    exact bind_mono hfu (ih path v he) (fun _ _ _ => rfl)

theorem fieldAct_world {w w' : World} {parent : String} {fd : FieldD} {path : Path} {node : FNode}
    (hw : ∀ a, w' parent fd.name path a = w parent fd.name path a) : fieldAct w' parent fd path node = fieldAct w parent fd path node := by
  simp only [fieldAct, hw]

/-- the entry of one response key: the world counts at the key's path, the sub-executor at or below it -/
theorem resolveField_dep (s : SchemaD) (w w' : World) (e e' : String → Path → List Sel → R (Data × List Err)) (parent : String)
    (path : Path) (nodes : List FNode) (fd : FieldD) (hw : ∀ a, w' parent fd.name path a = w parent fd.name path a)
    (he : ∀ rel rt, Fueled (e rt (path ++ rel) (mergedSelections nodes)) →
      e' rt (path ++ rel) (mergedSelections nodes) = e rt (path ++ rel) (mergedSelections nodes))
    (hfu : Fueled (resolveField s w e parent path nodes fd)) :
    resolveField s w' e' parent path nodes fd = resolveField s w e parent path nodes fd := by
  cases nodes with
  | nil => rfl
  | cons node more =>
    rw [resolveField_cons] at hfu
    rw [resolveField_cons, resolveField_cons, fieldAct_world hw]
    generalize fieldAct w parent fd path node = a at hfu ⊢
    cases a with
    | complete v =>
      dsimp only at hfu ⊢
      rw [completeValue_dep s e e' _ fd.type _ v he (fun h => hfu ((catchField_outOfFuel _ _ _).2 h))]
    | _ => rfl

theorem executeGroups_dep (s : SchemaD) (w w' : World) (e e' : String → Path → List Sel → R (Data × List Err)) (parent : String)
    (path : Path) {g : Grouped}
    (hf : ∀ key nodes fd, (key, nodes) ∈ g → Fueled (resolveField s w e parent (path ++ [.key key]) nodes fd) →
      resolveField s w' e' parent (path ++ [.key key]) nodes fd = resolveField s w e parent (path ++ [.key key]) nodes fd) :
    Fueled (executeGroups s w e parent path g) → executeGroups s w' e' parent path g = executeGroups s w e parent path g := by
  induction g with
  | nil => intro _; rfl
  | cons kv rest ih =>
    intro hfu
    have ihr := ih (fun key nodes fd hm => hf key nodes fd (List.mem_cons_of_mem _ hm))
    rw [executeGroups_cons] at hfu
    rw [executeGroups_cons, executeGroups_cons]
    refine bind_mono hfu (fun _ => rfl) (fun a _ ha => ?_)
    cases a with
    | skip => exact ihr ha
    | typename => exact bind_mono ha ihr (fun _ _ _ => rfl)
    | field fd =>
      exact bind_mono ha (hf kv.1 kv.2 fd List.mem_cons_self) (fun _ _ hp => bind_mono hp ihr (fun _ _ _ => rfl))

theorem resolveField_congr (s : SchemaD) (w w' : World) (e e' : String → Path → List Sel → R (Data × List Err))
    (parent : String) (path : Path) (nodes : List FNode) (fd : FieldD) (hw : ∀ a, w parent fd.name path a = w' parent fd.name path a)
    (he : ∀ rel rt, e rt (path ++ rel) (mergedSelections nodes) = e' rt (path ++ rel) (mergedSelections nodes)) :
    resolveField s w e parent path nodes fd = resolveField s w' e' parent path nodes fd :=
  eq_of_fueled (resolveField_dep s w' w e' e parent path nodes fd hw fun rel rt _ => he rel rt)
    (resolveField_dep s w w' e e' parent path nodes fd (fun a => (hw a).symm) fun rel rt _ => (he rel rt).symm)

theorem executeGroups_congr (s : SchemaD) (w w' : World) (e e' : String → Path → List Sel → R (Data × List Err))
    (parent : String) (path : Path) {g : Grouped}
    (hf : ∀ key nodes fd, (key, nodes) ∈ g → resolveField s w e parent (path ++ [.key key]) nodes fd
      = resolveField s w' e' parent (path ++ [.key key]) nodes fd) :
    executeGroups s w e parent path g = executeGroups s w' e' parent path g :=
  eq_of_fueled (executeGroups_dep s w' w e' e parent path fun k ns fd hm _ => hf k ns fd hm)
    (executeGroups_dep s w w' e e' parent path fun k ns fd hm _ => (hf k ns fd hm).symm)

theorem completeListS_eq (f : Path → RVal → R (Data × List Err)) (path : Path) :
    ∀ (vs : List RVal) (i : Nat), completeListS f path i vs = completeList f path i vs := by
  intro vs
  induction vs with
  | nil => intro i; rfl
  | cons v rest ih => intro i; simp only [completeListS, completeList, ih]

theorem completeValueS_eq (s : SchemaD) (e : String → Path → List Sel → R (Data × List Err)) (nodes : List FNode) :
    ∀ (t : Ty) (path : Path) (v : RVal), completeValueS s e nodes t path v = completeValue s e nodes t path v := by
  intro t
  induction t with
  | named n =>
    intro path v
    cases v with
    | null => rfl
    | leaf j =>
      simp only [completeValueS, completeValue]
      cases kindOf s n with
      | none => rfl
      | some k => cases k <;> rfl
    | list vs =>
      simp only [completeValueS, completeValue]
      cases kindOf s n with
      | none => rfl
      | some k => cases k <;> rfl
    | raise vs msg ext =>
      simp only [completeValueS, completeValue]
      cases kindOf s n with
      | none => rfl
      | some k => cases k <;> rfl
    | obj rt =>
      simp only [completeValueS, completeValue]
      cases kindOf s n with
      | none => rfl
      | some k => cases k <;> rfl
  | list t ih =>
    intro path v
    have hl : ∀ vs, completeListS (completeValueS s e nodes t) path 0 vs = completeList (completeValue s e nodes t) path 0 vs :=
      fun vs => (completeListS_eq _ path vs 0).trans
        (congrArg (completeList · path 0 vs) (funext fun p => funext fun v => ih p v))
    cases v with
    | list vs => simp only [completeValueS, completeValue, hl]
    | raise vs msg ext =>
      simp only [completeValueS, completeValue, hl]
      rfl
    | null => rfl
    | leaf j => cases j <;> rfl
    | obj rt => rfl
  | nonNull t ih =>
    intro path v
    simp only [completeValueS, completeValue, ih]
    rfl

theorem executeFieldS_eq (s : SchemaD) (w : World) (e : String → Path → List Sel → R (Data × List Err)) (parent : String)
    (path : Path) (nodes : List FNode) (fd : FieldD) :
    executeFieldS s w e parent path nodes fd = resolveField s w e parent path nodes fd := by
  cases nodes with
  | nil => rfl
  | cons node more =>
    simp only [executeFieldS, resolveField, completeValueS_eq]
    rfl

theorem executeGroupsS_eq (s : SchemaD) (w : World) (e : String → Path → List Sel → R (Data × List Err)) (parent : String)
    (path : Path) : ∀ g : Grouped, executeGroupsS s w e parent path g = executeGroups s w e parent path g := by
  intro g
  induction g with
  | nil => rfl
  | cons kv rest ih =>
    obtain ⟨key, nodes⟩ := kv
    cases nodes with
    | nil => rfl
    | cons node more =>
      simp only [executeGroupsS, executeGroups, ih, executeFieldS_eq]
      rfl

end PyGql.Props.C04
