/-
  Renaming of VARIABLES (C06, `alpha_variables`), at the level of the MODEL OF THE CODE: `Vr.doc V d` renames every
  variable definition `$x` to `$(V.var x)` and every occurrence of a variable in a value (arguments of fields and of
  directives, default values, nested in list and object literals). 20 of the 26 rule visitors never read the NAME of a
  variable (they look at argument names, directive names, the shape of a literal, types): the run of any chain made of
  them is EQUAL, state by state, on the renamed document (`visitDocument_vr`) - for any `V`, injective or not.
  The rules that do read variable names: the four variable rules of 5.8, `OverlappingFieldsCanBeMerged` (it compares
  argument values), and - through its fragment table, which holds selections - `SingleFieldSubscriptions`, whose
  verdict is nevertheless unchanged (`DocMap.sfs_iff`).
-/
import PyGqlModel.Validate.Chain
import PyGqlModel.Lemmas.ValidateAlias
namespace PyGql.Validate
open PyGql

structure Vr where
  var : String → String

namespace Vr
variable (V : Vr)

mutual
def value : Value → Value
  | .var x => .var (V.var x)
  | .list vs => .list (values vs)
  | .obj fs => .obj (objFields fs)
  | .int s => .int s
  | .float s => .float s
  | .str s => .str s
  | .bool b => .bool b
  | .null => .null
  | .enum s => .enum s
def values : List Value → List Value
  | [] => []
  | v :: vs => value v :: values vs
def objField : ObjField → ObjField
  | .mk n v => .mk n (value v)
def objFields : List ObjField → List ObjField
  | [] => []
  | f :: fs => objField f :: objFields fs
end

def arg (a : Arg) : Arg := { name := a.name, value := V.value a.value }
def dir (d : Dir) : Dir := { name := d.name, args := d.args.map V.arg }

mutual
def sel : Sel → Sel
  | .field al n args dirs hs id sub => .field al n (args.map V.arg) (dirs.map V.dir) hs id (selList sub)
  | .spread n dirs => .spread n (dirs.map V.dir)
  | .inline on dirs id sub => .inline on (dirs.map V.dir) id (selList sub)
def selList : List Sel → List Sel
  | [] => []
  | x :: xs => sel x :: selList xs
end

mutual
theorem hasVar_value : ∀ v : Value, (V.value v).hasVar = v.hasVar
  | .var x => rfl
  | .list vs => by simp only [value, Value.hasVar, hasVarL_values vs]
  | .obj fs => by simp only [value, Value.hasVar, hasVarF_objFields fs]
  | .int _ | .float _ | .str _ | .bool _ | .null | .enum _ => rfl
theorem hasVarL_values : ∀ vs : List Value, Value.hasVarL (V.values vs) = Value.hasVarL vs
  | [] => rfl
  | v :: vs => by simp only [values, Value.hasVarL, hasVar_value v, hasVarL_values vs]
theorem hasVarF_objFields : ∀ fs : List ObjField, Value.hasVarF (V.objFields fs) = Value.hasVarF fs
  | [] => rfl
  | .mk n v :: fs => by simp only [objFields, objField, Value.hasVarF, hasVar_value v, hasVarF_objFields fs]
end

theorem dirs_const {ds : List Dir} (h : ds.all Dir.isConst = true) : (ds.map V.dir).all Dir.isConst = true := by
  rw [List.all_map]
  have : (Dir.isConst ∘ V.dir) = Dir.isConst := by
    funext d
    simp only [Function.comp, Dir.isConst, dir, List.all_map]
    congr 1
    funext a
    show (!(V.value a.value).hasVar) = !a.value.hasVar
    rw [hasVar_value]
  rw [this]; exact h

def varDef (v : VarDef) : VarDef :=
  { name := V.var v.name, type := v.type, default := v.default.map V.value, dirs := v.dirs.map V.dir,
    dirsConst := V.dirs_const v.dirsConst }

def defn : Def → Def
  | .op k nm vars dirs id sels => .op k nm (vars.map V.varDef) (dirs.map V.dir) id (V.selList sels)
  | .frag n on dirs id sels => .frag n on (dirs.map V.dir) id (V.selList sels)
  | .ts a b => .ts a b

def doc (d : Doc) : Doc := { defs := d.defs.map V.defn }

def node : Node → Node
  | .document d => .document (V.doc d)
  | .operation k nm vars dirs sels => .operation k nm (vars.map V.varDef) (dirs.map V.dir) (V.selList sels)
  | .fragmentDef n on dirs => .fragmentDef n on (dirs.map V.dir)
  | .tsDef => .tsDef
  | .varDef v => .varDef (V.varDef v)
  | .typeNode t => .typeNode t
  | .directive d => .directive (V.dir d)
  | .argument a => .argument (V.arg a)
  | .selectionSet id sels => .selectionSet id (V.selList sels)
  | .field n args dirs hs => .field n (args.map V.arg) (dirs.map V.dir) hs
  | .spread n dirs => .spread n (dirs.map V.dir)
  | .inline on dirs => .inline on (dirs.map V.dir)
  | .value v => .value (V.value v)
  | .objField n => .objField n

theorem selList_eq_map (l : List Sel) : V.selList l = l.map V.sel := by
  induction l with
  | nil => rfl
  | cons x xs ih => rw [selList, ih]; rfl

theorem objFields_eq_map (l : List ObjField) : V.objFields l = l.map V.objField := by
  induction l with
  | nil => rfl
  | cons x xs ih => rw [objFields, ih]; rfl

end Vr

/-- the rules whose STATE depends on the names of variables (or on values that contain them) -/
def Rule.readsVarNames : Rule → Bool
  | .uniqueVariableNames | .noUndefinedVariables | .noUnusedVariables | .variablesInAllowedPosition
  | .overlappingFieldsCanBeMerged | .singleFieldSubscriptions => true
  | _ => false

section
variable (V : Vr)

theorem vr_arg_name (a : Arg) : (V.arg a).name = a.name := rfl
theorem vr_dir_name (d : Dir) : (V.dir d).name = d.name := rfl
theorem vr_dir_args (d : Dir) : (V.dir d).args = d.args.map V.arg := rfl

theorem vr_args_names (as : List Arg) : (as.map V.arg).map (·.name) = as.map (·.name) := by
  simp [List.map_map, Function.comp_def, vr_arg_name]
theorem vr_dirs_names (ds : List Dir) : (ds.map V.dir).map (·.name) = ds.map (·.name) := by
  simp [List.map_map, Function.comp_def, vr_dir_name]
theorem vr_objFields_names (fs : List ObjField) : (V.objFields fs).map (·.name) = fs.map (·.name) := by
  rw [V.objFields_eq_map, List.map_map]
  refine List.map_congr_left fun f _ => ?_
  cases f; rfl

theorem vr_isExecutable (x : Def) : (V.defn x).isExecutable = x.isExecutable := by cases x <;> rfl
theorem vr_isOp (x : Def) : (V.defn x).isOp = x.isOp := by cases x <;> rfl
theorem vr_isAnonOp (x : Def) : (V.defn x).isAnonOp = x.isAnonOp := by
  cases x with
  | op k nm => cases nm <;> rfl
  | _ => rfl

theorem Vr.fragDefs_doc (d : Doc) : fragDefs (V.doc d) = (fragDefs d).map fun f => (f.1, f.2.1, f.2.2.1, V.selList f.2.2.2) := by
  simp only [fragDefs, Vr.doc, List.filterMap_map, List.map_filterMap]
  congr 1
  funext x
  cases x <;> rfl

/-- `parse_literal` of a scalar looks at the kind of the literal, never inside a list or an object: a specified scalar
    rejects an object literal, a custom one accepts it -/
theorem parseLiteralFails_obj (sc : String) (fs : List ObjField) :
    parseLiteralFails sc (.obj fs) = some (specifiedScalars.contains sc) := by
  unfold parseLiteralFails
  split
  · rename_i h
    rw [h]
    congr 1
    split <;> first | contradiction | rfl
  · rename_i h
    rw [Bool.not_eq_true] at h
    rw [h]

theorem checkScalar_obj (s : SchemaD) (ti : TI) (a b : List ObjField) :
    checkScalar s ti (.obj a) = checkScalar s ti (.obj b) := by
  unfold checkScalar
  simp only [parseLiteralFails_obj]

end

theorem enterRule_vr (V : Vr) (s : SchemaD) (fx : Fixes) (r : Rule) (hr : r.readsVarNames = false) (n : Node) (ti : TI)
    (st : RS) : enterRule s fx r (V.node n) ti st = enterRule s fx r n ti st := by
  cases r with
  | executableDefinitions =>
    cases n with
    | document d =>
      unfold enterRule
      simp only [Vr.node, Vr.doc, List.filter_map, List.length_map, Function.comp_def, vr_isExecutable]
    | _ => rfl
  | loneAnonymousOperation =>
    cases n with
    | document d =>
      unfold enterRule
      simp only [Vr.node, Vr.doc, List.filter_map, List.length_map, List.any_map, Function.comp_def, vr_isOp, vr_isAnonOp]
    | _ => rfl
  | knownFragmentNames =>
    cases n with
    | document d =>
      unfold enterRule
      simp only [Vr.node, V.fragDefs_doc, List.map_map, Function.comp_def]
    | _ => rfl
  | possibleFragmentSpreads =>
    cases n with
    | document d =>
      unfold enterRule
      simp only [Vr.node, V.fragDefs_doc, List.filter_map, List.foldl_map, Function.comp_def]
    | _ => rfl
  | uniqueDirectivesPerLocation =>
    cases n with
    | operation | field | spread | inline | fragmentDef | varDef =>
      unfold enterRule
      simp only [Vr.node, Vr.varDef, vr_dirs_names]
    | _ => rfl
  | uniqueArgumentNames =>
    cases n with
    | field | directive =>
      unfold enterRule
      simp only [Vr.node, vr_dir_args, vr_args_names]
    | _ => rfl
  | knownArgumentNames =>
    cases n with
    | field | directive =>
      unfold enterRule
      simp only [Vr.node, vr_dir_args, List.filter_map, List.length_map, Function.comp_def, vr_arg_name]
    | _ => rfl
  | valuesOfCorrectType =>
    cases n with
    | value v =>
      cases v with
      | obj fs =>
        unfold enterRule
        simp only [Vr.node, Vr.value, vr_objFields_names, checkScalar_obj s ti (V.objFields fs) fs]
      | _ => rfl
    | _ => rfl
  | uniqueInputFieldNames =>
    cases n with
    | value v => cases v <;> rfl
    | _ => rfl
  | fragmentsOnCompositeTypes =>
    cases n with
    | inline on => cases on <;> rfl
    | _ => rfl
  | uniqueVariableNames | noUndefinedVariables | noUnusedVariables | variablesInAllowedPosition
  | overlappingFieldsCanBeMerged | singleFieldSubscriptions => cases hr
  | _ => cases n <;> rfl

theorem leaveRule_vr (V : Vr) (s : SchemaD) (fx : Fixes) (r : Rule) (hr : r.readsVarNames = false) (n : Node) (ti : TI)
    (st : RS) : leaveRule s fx r (V.node n) ti st = leaveRule s fx r n ti st := by
  cases r with
  | providedRequiredArguments =>
    cases n with
    | field | directive =>
      unfold leaveRule
      simp only [Vr.node, vr_dir_args, List.any_map, Function.comp_def, vr_arg_name]
    | _ => rfl
  | uniqueInputFieldNames =>
    cases n with
    | value v => cases v <;> rfl
    | _ => rfl
  | uniqueVariableNames | noUndefinedVariables | noUnusedVariables | variablesInAllowedPosition
  | overlappingFieldsCanBeMerged | singleFieldSubscriptions => cases hr
  | _ => cases n <;> rfl

theorem tiEnter_vr (V : Vr) (s : SchemaD) (n : Node) (t : TI) : tiEnter s (V.node n) t = tiEnter s n t := by
  cases n with
  | value v => cases v <;> rfl
  | _ => rfl
theorem tiLeave_vr (V : Vr) (n : Node) (t : TI) : tiLeave (V.node n) t = tiLeave n t := by
  cases n with
  | value v => cases v <;> rfl
  | _ => rfl

def Cfg.VarBlind (c : Cfg) : Prop := ∀ r ∈ c.rules, r.readsVarNames = false

theorem visitNode_vr (V : Vr) (c : Cfg) (hc : c.VarBlind) (n : Node) (body body' : St → St)
    (hb : ∀ st, body st = body' st) (st : St) : visitNode c (V.node n) body st = visitNode c n body' st :=
  visitNode_congr c (fun r hr => enterRule_vr V _ _ r (hc r hr) n) (fun r hr => leaveRule_vr V _ _ r (hc r hr) n)
    (tiEnter_vr V _ n) (tiLeave_vr V n) hb st

mutual
theorem visitValue_vr (V : Vr) (c : Cfg) (hc : c.VarBlind) : ∀ (v : Value) (st : St),
    visitValue c (V.value v) st = visitValue c v st
  | .list vs, st => by
    rw [visitValue, visitValue]
    exact visitNode_vr V c hc (.value (.list vs)) _ _ (fun st' => visitValues_vr V c hc vs st') st
  | .obj fs, st => by
    rw [visitValue, visitValue]
    exact visitNode_vr V c hc (.value (.obj fs)) _ _ (fun st' => visitObjFields_vr V c hc fs st') st
  | .var x, st => by
    rw [visitValue, visitValue]; exact visitNode_vr V c hc (.value (.var x)) _ _ (fun _ => rfl) st
  | .int _, _ | .float _, _ | .str _, _ | .bool _, _ | .null, _ | .enum _, _ => rfl
theorem visitValues_vr (V : Vr) (c : Cfg) (hc : c.VarBlind) : ∀ (vs : List Value) (st : St),
    visitValues c (V.values vs) st = visitValues c vs st
  | [], st => rfl
  | v :: vs, st => by
    simp only [Vr.values, visitValues]
    rw [visitValue_vr V c hc v st, visitValues_vr V c hc vs]
theorem visitObjField_vr (V : Vr) (c : Cfg) (hc : c.VarBlind) : ∀ (f : ObjField) (st : St),
    visitObjField c (V.objField f) st = visitObjField c f st
  | .mk name v, st => by
    simp only [Vr.objField, visitObjField]
    exact visitNode_vr V c hc (.objField name) _ _ (fun st' => visitValue_vr V c hc v st') st
theorem visitObjFields_vr (V : Vr) (c : Cfg) (hc : c.VarBlind) : ∀ (fs : List ObjField) (st : St),
    visitObjFields c (V.objFields fs) st = visitObjFields c fs st
  | [], st => rfl
  | f :: fs, st => by
    simp only [Vr.objFields, visitObjFields]
    rw [visitObjField_vr V c hc f st, visitObjFields_vr V c hc fs]
end

theorem visitArguments_vr (V : Vr) (c : Cfg) (hc : c.VarBlind) (as : List Arg) (st : St) :
    visitArguments c (as.map V.arg) st = visitArguments c as st := by
  simp only [visitArguments, List.foldl_map]
  congr 1
  funext st a
  exact visitNode_vr V c hc (.argument a) _ _ (fun st' => visitValue_vr V c hc a.value st') st

theorem visitDirectives_vr (V : Vr) (c : Cfg) (hc : c.VarBlind) (ds : List Dir) (st : St) :
    visitDirectives c (ds.map V.dir) st = visitDirectives c ds st := by
  simp only [visitDirectives, List.foldl_map]
  congr 1
  funext st d
  exact visitNode_vr V c hc (.directive d) _ _ (fun st' => visitArguments_vr V c hc d.args st') st

mutual
theorem visitSel_vr (V : Vr) (c : Cfg) (hc : c.VarBlind) : ∀ (x : Sel) (st : St), visitSel c (V.sel x) st = visitSel c x st
  | .field al n args dirs hs id sub, st => by
    simp only [Vr.sel, visitSel]
    refine visitNode_vr V c hc (.field n args dirs hs) _ _ (fun st' => ?_) st
    simp only [visitArguments_vr V c hc, visitDirectives_vr V c hc]
    split
    · exact visitNode_vr V c hc (.selectionSet id sub) _ _ (visitSels_vr V c hc sub) _
    · rfl
  | .spread n dirs, st => by
    simp only [Vr.sel, visitSel]
    exact visitNode_vr V c hc (.spread n dirs) _ _ (fun st' => visitDirectives_vr V c hc dirs st') st
  | .inline on dirs id sub, st => by
    simp only [Vr.sel, visitSel]
    refine visitNode_vr V c hc (.inline on dirs) _ _ (fun st' => ?_) st
    simp only [visitDirectives_vr V c hc]
    exact visitNode_vr V c hc (.selectionSet id sub) _ _ (visitSels_vr V c hc sub) _
theorem visitSels_vr (V : Vr) (c : Cfg) (hc : c.VarBlind) : ∀ (xs : List Sel) (st : St),
    visitSels c (V.selList xs) st = visitSels c xs st
  | [], st => rfl
  | x :: xs, st => by
    simp only [Vr.selList, visitSels]
    rw [visitSel_vr V c hc x st, visitSels_vr V c hc xs]
end

theorem visitVarDef_vr (V : Vr) (c : Cfg) (hc : c.VarBlind) (v : VarDef) (st : St) :
    visitVarDef c (V.varDef v) st = visitVarDef c v st := by
  simp only [visitVarDef]
  refine visitNode_vr V c hc (.varDef v) _ _ (fun st' => ?_) st
  simp only [Vr.varDef, visitDirectives_vr V c hc]
  cases v.default with
  | none => rfl
  | some dv => simp only [Option.map_some, visitValue_vr V c hc]

theorem visitDef_vr (V : Vr) (c : Cfg) (hc : c.VarBlind) (x : Def) (st : St) :
    visitDef c (V.defn x) st = visitDef c x st := by
  cases x with
  | op k nm vars dirs id sels =>
    simp only [Vr.defn, visitDef]
    refine visitNode_vr V c hc (.operation k nm vars dirs sels) _ _ (fun st' => ?_) st
    simp only [List.foldl_map, visitVarDef_vr V c hc, visitDirectives_vr V c hc]
    exact visitNode_vr V c hc (.selectionSet id sels) _ _ (visitSels_vr V c hc sels) _
  | frag n on dirs id sels =>
    simp only [Vr.defn, visitDef]
    refine visitNode_vr V c hc (.fragmentDef n on dirs) _ _ (fun st' => ?_) st
    simp only [visitDirectives_vr V c hc]
    exact visitNode_vr V c hc (.selectionSet id sels) _ _ (visitSels_vr V c hc sels) _
  | ts a b => rfl

theorem visitDocument_vr (V : Vr) (c : Cfg) (hc : c.VarBlind) (d : Doc) (st : St) :
    visitDocument c (V.doc d) st = visitDocument c d st := by
  simp only [visitDocument]
  refine visitNode_vr V c hc (.document d) _ _ (fun st' => ?_) st
  simp only [Vr.doc, List.foldl_map, visitDef_vr V c hc]

/-! ### the size of a selection, from which `SingleFieldSubscriptions` computes its fuel -/

mutual
theorem selSize_vr (V : Vr) : ∀ x : Sel, selSize (V.sel x) = selSize x
  | .field .. => by simp only [Vr.sel, selSize, selsSize_vr]
  | .spread .. => rfl
  | .inline .. => by simp only [Vr.sel, selSize, selsSize_vr]
theorem selsSize_vr (V : Vr) : ∀ xs : List Sel, selsSize (V.selList xs) = selsSize xs
  | [] => rfl
  | x :: xs => by simp only [Vr.selList, selsSize, selSize_vr V x, selsSize_vr V xs]
end

end PyGql.Validate
