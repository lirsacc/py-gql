/-
  C12 — reading a printed default value back, one rule per wrapper: `null`, non-null and list types and item lists do not
  look at the environment, so the rules hold over every `Env`; only the named leaves (`Props/C12_roundtrip.lean` over the
  live types, `Props/C12_todoc.lean` over the printed document) do.
-/
import PyGqlModel.SdlPrint
namespace PyGql.Props.C12
open PyGql PyGql.Sdl PyGql.SdlPrint

theorem valueLit_nonNull {s : SchemaD} {n : Nat} {v : J} {t : Ty} {lit : Lit} (h : valueLit s n v t = some lit) (hl : lit ≠ .null) :
    valueLit s (n+1) v (.nonNull t) = some lit := by
  simp only [valueLit, h]
  cases lit <;> first | rfl | exact absurd rfl hl

theorem valueFromAst_nonNull (env : Env) {n : Nat} {t : Ty} {lit : Lit} (hl : lit ≠ .null) :
    valueFromAst env (n+1) lit (.nonNull t) = valueFromAst env n lit t := by
  cases lit <;> first | rfl | exact absurd rfl hl

/-- the literal the printer writes for `v` is read back over `env` as `v`; a non-null value is written as a non-null
    literal (what the non-null wrapper needs of its argument) -/
def ReadsBack (s : SchemaD) (env : Env) (n : Nat) (v : J) (ty : Ty) : Prop :=
  ∃ lit, valueLit s n v ty = some lit ∧ valueFromAst env n lit ty = some (some v) ∧ (v ≠ .null → lit ≠ .null)

def ItemsReadBack (s : SchemaD) (env : Env) (n : Nat) (items : List J) (t : Ty) : Prop :=
  ∃ lits, itemsLit s n items t = some lits ∧ coerceItems env n lits t = some (some items)

variable {s : SchemaD} {env : Env} {n : Nat} {t : Ty}

theorem ReadsBack.null_named (nm : String) : ReadsBack s env (n+1) .null (.named nm) :=
  ⟨.null, rfl, rfl, fun h => absurd rfl h⟩

theorem ReadsBack.null_list : ReadsBack s env (n+1) .null (.list t) :=
  ⟨.null, rfl, rfl, fun h => absurd rfl h⟩

/-- a named leaf, in the form the leaf theorems state it -/
theorem ReadsBack.of_leaf {nm : String} {v : J}
    (h : ∃ lit, valueLit s (n+1) v (.named nm) = some lit ∧ valueFromAst env (n+1) lit (.named nm) = some (some v) ∧ lit ≠ .null) :
    ReadsBack s env (n+1) v (.named nm) :=
  let ⟨lit, h1, h2, h3⟩ := h
  ⟨lit, h1, h2, fun _ => h3⟩

theorem ReadsBack.nonNull {v : J} (hv : v ≠ .null) (h : ReadsBack s env n v t) : ReadsBack s env (n+1) v (.nonNull t) :=
  let ⟨lit, h1, h2, h3⟩ := h
  ⟨lit, valueLit_nonNull h1 (h3 hv), by rw [valueFromAst_nonNull _ (h3 hv), h2], h3⟩

theorem ReadsBack.list {items : List J} (h : ItemsReadBack s env n items t) : ReadsBack s env (n+1) (.arr items) (.list t) :=
  let ⟨lits, h1, h2⟩ := h
  ⟨.list lits, by simp only [valueLit, h1, Option.map_some],
    by simp only [valueFromAst, h2, bind, Option.bind, pure, Option.map_some], fun _ h => nomatch h⟩

theorem ItemsReadBack.nil : ItemsReadBack s env (n+1) [] t := ⟨[], rfl, rfl⟩

theorem ItemsReadBack.cons {x : J} {xs : List J} (hx : ReadsBack s env n x t) (hxs : ItemsReadBack s env n xs t) :
    ItemsReadBack s env (n+1) (x :: xs) t :=
  let ⟨lit, h1, h2, _⟩ := hx
  let ⟨lits, h3, h4⟩ := hxs
  ⟨lit :: lits, by simp only [itemsLit, h1, h3], by simp only [coerceItems, h2, h4, bind, Option.bind, pure]⟩

theorem ReadsBack.elim {v : J} {ty : Ty} (h : ReadsBack s env n v ty) :
    ∃ lit, valueLit s n v ty = some lit ∧ valueFromAst env n lit ty = some (some v) :=
  let ⟨lit, h1, h2, _⟩ := h
  ⟨lit, h1, h2⟩

end PyGql.Props.C12
