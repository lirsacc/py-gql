/-
  Type system, completeness: the eight definitions, the seven extensions, the two dispatchers ⇒ `TSComplete`.
-/
import PyGqlModel.Lemmas.ParseTSTakesParts
namespace PyGql.Parse
open PyGql PyGql.Ast PyGql.Spec

theorem followDirs_of_def {rest : List Tok} (h : FollowDef rest) : FollowDirs rest := h.notK _ (by decide)

theorem firstIn_unionMembersV (fl : Flags) (us : List NamedType) : FirstIn fl [.equals] (unionMembersV us) := by
  cases us with
  | nil => simpa [unionMembersV] using FirstIn.nil fl _
  | cons x xs => simpa [unionMembersV] using FirstIn.tok fl .equals [] _

theorem operationTypeV_width (d : OperationTypeDefinition) : 1 ≤ (operationTypeV d).yield.length := by
  simp [operationTypeV, Item.yield, Item.yieldAll]

theorem parseSchemaDefinition_takes (fl : Flags) (fuel : Nat) (ds : List Directive)
    (ops : List OperationTypeDefinition) (loc : Loc) (w : wfDefinition fl (.schemaDefinition ds ops loc) = true) :
    Takes1 fl fuel (parseSchemaDefinition fl fuel) (.schemaDefinition ds ops loc)
      (definitionV (.schemaDefinition ds ops loc)) FollowDef := by
  simp only [wfDefinition, Bool.and_eq_true, Bool.not_eq_true', List.isEmpty_eq_false_iff, List.all_eq_true] at w
  obtain ⟨⟨wd, wne⟩, wo⟩ := w
  exact .node fun _ => .kw fun _ =>
    .appF (parseDirectives_takes fl fuel true ds wd) (fun h _ => NotK.of_tok h (by decide)) <|
    .lastF (many_takes operationTypeV_width (Nat.le_refl fuel) wne
      (fun d hd => parseOperationTypeDefinition_takes fl _ d (wo d hd))
      (fun _ _ _ _ _ h => ⟨trivial, NotK.of_node_tok (chkA_one h) (by decide)⟩) (fun _ _ _ => trivial))
      (fun _ => trivial) <| .done _ _

theorem parseScalarTypeDefinition_takes (fl : Flags) (fuel : Nat) (desc : Option StringValue) (nm : Name)
    (ds : List Directive) (loc : Loc) (w : wfDefinition fl (.scalarTypeDefinition desc nm ds loc) = true) :
    Takes1 fl fuel (parseScalarTypeDefinition fl fuel) (.scalarTypeDefinition desc nm ds loc)
      (definitionV (.scalarTypeDefinition desc nm ds loc)) FollowDef :=
  .node fun _ => .appF (parseDescription_takes fl fuel desc) (fun h _ _ => NotK.of_tok h (by decide)) <| .kw fun _ =>
    .step (parseName_takes fl fuel nm) <| .lastF (parseDirectives_takes fl fuel true ds w) followDirs_of_def <| .done _ _

theorem parseObjectTypeDefinition_takes (fl : Flags) (fuel : Nat) (desc : Option StringValue) (nm : Name)
    (ifs : List NamedType) (ds : List Directive) (fs : List FieldDefinition) (loc : Loc)
    (w : wfDefinition fl (.objectTypeDefinition desc nm ifs ds fs loc) = true) :
    Takes1 fl fuel (parseObjectTypeDefinition fl fuel) (.objectTypeDefinition desc nm ifs ds fs loc)
      (definitionV (.objectTypeDefinition desc nm ifs ds fs loc)) FollowDef := by
  simp only [wfDefinition, Bool.and_eq_true, List.all_eq_true] at w
  rw [definitionV, List.append_assoc]
  have fb := firstIn_blockV fl fieldDefinitionV fs
  have fdb := (firstIn_directivesV fl ds).append fb
  exact .node fun _ => .appF (parseDescription_takes fl fuel desc) (fun h _ _ => NotK.of_tok h (by decide)) <| .kw fun _ =>
    .step (parseName_takes fl fuel nm) <|
    .appF (parseImplementsInterfaces_takes fl fuel ifs)
      (fun h hr => ⟨fun _ => fdb.useImpl h hr.notImpl (by decide), fdb.use h (hr.notK _ (by decide)) (by decide)⟩) <|
    .appF (parseDirectives_takes fl fuel true ds w.1) (fun h hr => fb.use h (followDirs_of_def hr) (by decide)) <|
    .lastF (parseFieldsDefinition_takes fl fuel fs w.2) (fun hr _ => hr.ne) <| .done _ _

theorem parseInterfaceTypeDefinition_takes (fl : Flags) (fuel : Nat) (desc : Option StringValue) (nm : Name)
    (ds : List Directive) (fs : List FieldDefinition) (loc : Loc)
    (w : wfDefinition fl (.interfaceTypeDefinition desc nm ds fs loc) = true) :
    Takes1 fl fuel (parseInterfaceTypeDefinition fl fuel) (.interfaceTypeDefinition desc nm ds fs loc)
      (definitionV (.interfaceTypeDefinition desc nm ds fs loc)) FollowDef := by
  simp only [wfDefinition, Bool.and_eq_true, List.all_eq_true] at w
  exact .node fun _ => .appF (parseDescription_takes fl fuel desc) (fun h _ _ => NotK.of_tok h (by decide)) <| .kw fun _ =>
    .step (parseName_takes fl fuel nm) <|
    .appF (parseDirectives_takes fl fuel true ds w.1)
      (fun h hr => (firstIn_blockV fl _ fs).use h (followDirs_of_def hr) (by decide)) <|
    .lastF (parseFieldsDefinition_takes fl fuel fs w.2) (fun hr _ => hr.ne) <| .done _ _

theorem parseUnionTypeDefinition_takes (fl : Flags) (fuel : Nat) (desc : Option StringValue) (nm : Name)
    (ds : List Directive) (us : List NamedType) (loc : Loc)
    (w : wfDefinition fl (.unionTypeDefinition desc nm ds us loc) = true) :
    Takes1 fl fuel (parseUnionTypeDefinition fl fuel) (.unionTypeDefinition desc nm ds us loc)
      (definitionV (.unionTypeDefinition desc nm ds us loc)) FollowDef :=
  .node fun _ => .appF (parseDescription_takes fl fuel desc) (fun h _ _ => NotK.of_tok h (by decide)) <| .kw fun _ =>
    .step (parseName_takes fl fuel nm) <|
    .appF (parseDirectives_takes fl fuel true ds w)
      (fun h hr => (firstIn_unionMembersV fl us).use h (followDirs_of_def hr) (by decide)) <|
    .lastF (parseUnionMemberTypes_takes fl fuel us) (fun hr => hr.notK _ (by decide)) <| .done _ _

theorem parseEnumTypeDefinition_takes (fl : Flags) (fuel : Nat) (desc : Option StringValue) (nm : Name)
    (ds : List Directive) (vs : List EnumValueDefinition) (loc : Loc)
    (w : wfDefinition fl (.enumTypeDefinition desc nm ds vs loc) = true) :
    Takes1 fl fuel (parseEnumTypeDefinition fl fuel) (.enumTypeDefinition desc nm ds vs loc)
      (definitionV (.enumTypeDefinition desc nm ds vs loc)) FollowDef := by
  simp only [wfDefinition, Bool.and_eq_true, List.all_eq_true] at w
  exact .node fun _ => .appF (parseDescription_takes fl fuel desc) (fun h _ _ => NotK.of_tok h (by decide)) <| .kw fun _ =>
    .step (parseName_takes fl fuel nm) <|
    .appF (parseDirectives_takes fl fuel true ds w.1)
      (fun h hr => (firstIn_blockV fl _ vs).use h (followDirs_of_def hr) (by decide)) <|
    .lastF (parseEnumValuesDefinition_takes fl fuel vs w.2) (fun hr _ => hr.ne) <| .done _ _

theorem parseInputObjectTypeDefinition_takes (fl : Flags) (fuel : Nat) (desc : Option StringValue) (nm : Name)
    (ds : List Directive) (fs : List InputValueDefinition) (loc : Loc)
    (w : wfDefinition fl (.inputObjectTypeDefinition desc nm ds fs loc) = true) :
    Takes1 fl fuel (parseInputObjectTypeDefinition fl fuel) (.inputObjectTypeDefinition desc nm ds fs loc)
      (definitionV (.inputObjectTypeDefinition desc nm ds fs loc)) FollowDef := by
  simp only [wfDefinition, Bool.and_eq_true, List.all_eq_true] at w
  exact .node fun _ => .appF (parseDescription_takes fl fuel desc) (fun h _ _ => NotK.of_tok h (by decide)) <| .kw fun _ =>
    .step (parseName_takes fl fuel nm) <|
    .appF (parseDirectives_takes fl fuel true ds w.1)
      (fun h hr => (firstIn_blockV fl _ fs).use h (followDirs_of_def hr) (by decide)) <|
    .lastF (parseInputFieldsDefinition_takes fl fuel fs w.2) (fun hr _ => hr.ne) <| .done _ _

theorem parseDirectiveDefinition_takes (fl : Flags) (fuel : Nat) (desc : Option StringValue) (nm : Name)
    (args : List InputValueDefinition) (locs : List Name) (loc : Loc)
    (w : wfDefinition fl (.directiveDefinition desc nm args locs loc) = true) :
    Takes1 fl fuel (parseDirectiveDefinition fl fuel) (.directiveDefinition desc nm args locs loc)
      (definitionV (.directiveDefinition desc nm args locs loc)) FollowDef := by
  simp only [wfDefinition, Bool.and_eq_true, Bool.not_eq_true', List.isEmpty_eq_false_iff, List.all_eq_true,
    decide_eq_true_eq] at w
  obtain ⟨⟨wa, wne⟩, wl⟩ := w
  exact .node fun _ => .appF (parseDescription_takes fl fuel desc) (fun h _ _ => NotK.of_tok h (by decide)) <| .kw fun _ =>
    .tok fun _ => .step (parseName_takes fl fuel nm) <|
    .appF (parseArgumentDefinitions_takes fl fuel args wa) (fun h _ _ => NotK.of_tok h (by decide)) <| .kw fun _ =>
    .lastF (parseDirectiveLocations_takes fl fuel locs wne wl) (fun hr => hr.notK _ (by decide)) <| .done _ _

theorem three_of_not {α β γ} {a : List α} {b : List β} {c : List γ}
    (h : (!(a.isEmpty && b.isEmpty && c.isEmpty)) = true) :
    ¬(a.isEmpty = true ∧ b.isEmpty = true ∧ c.isEmpty = true) := by
  rintro ⟨ha, hb, hc⟩
  simp [ha, hb, hc] at h

theorem two_of_not {α β} {a : List α} {b : List β} (h : (!(a.isEmpty && b.isEmpty)) = true) :
    ¬(a.isEmpty = true ∧ b.isEmpty = true) := by
  rintro ⟨ha, hb⟩
  simp [ha, hb] at h

theorem parseSchemaExtension_takes (fl : Flags) (fuel : Nat) (ds : List Directive)
    (ops : List OperationTypeDefinition) (loc : Loc) (w : wfDefinition fl (.schemaExtension ds ops loc) = true) :
    Takes1 fl fuel (parseSchemaExtension fl fuel) (.schemaExtension ds ops loc)
      (definitionV (.schemaExtension ds ops loc)) FollowDef := by
  simp only [wfDefinition, Bool.and_eq_true, List.all_eq_true] at w
  obtain ⟨⟨wd, wo⟩, wne⟩ := w
  exact .node fun _ => .kw fun _ => .kw fun _ =>
    .appF (parseDirectives_takes fl fuel true ds wd)
      (fun h hr => (firstIn_blockV fl _ ops).use h (followDirs_of_def hr) (by decide)) <|
    .lastF (block_takes operationTypeV_width (Nat.le_refl fuel)
      (fun d hd => parseOperationTypeDefinition_takes fl _ d (wo d hd))
      (fun _ _ _ _ _ h => ⟨trivial, NotK.of_node_tok (chkA_one h) (by decide)⟩) (fun _ _ _ => trivial))
      (fun hr _ => hr.ne) <| .guard (two_of_not wne) <| .done _ _

theorem parseScalarTypeExtension_takes (fl : Flags) (fuel : Nat) (nm : Name) (ds : List Directive) (loc : Loc)
    (w : wfDefinition fl (.scalarTypeExtension nm ds loc) = true) :
    Takes1 fl fuel (parseScalarTypeExtension fl fuel) (.scalarTypeExtension nm ds loc)
      (definitionV (.scalarTypeExtension nm ds loc)) FollowDef := by
  simp only [wfDefinition, Bool.and_eq_true, Bool.not_eq_true'] at w
  exact .node fun _ => .kw fun _ => .kw fun _ => .step (parseName_takes fl fuel nm) <|
    .lastF (parseDirectives_takes fl fuel true ds w.1) followDirs_of_def <| .guard (by simp [w.2]) <| .done _ _

theorem parseObjectTypeExtension_takes (fl : Flags) (fuel : Nat) (nm : Name) (ifs : List NamedType)
    (ds : List Directive) (fs : List FieldDefinition) (loc : Loc)
    (w : wfDefinition fl (.objectTypeExtension nm ifs ds fs loc) = true) :
    Takes1 fl fuel (parseObjectTypeExtension fl fuel) (.objectTypeExtension nm ifs ds fs loc)
      (definitionV (.objectTypeExtension nm ifs ds fs loc)) FollowDef := by
  simp only [wfDefinition, Bool.and_eq_true, List.all_eq_true] at w
  obtain ⟨⟨wd, wf⟩, wne⟩ := w
  rw [definitionV, List.append_assoc]
  have fb := firstIn_blockV fl fieldDefinitionV fs
  have fdb := (firstIn_directivesV fl ds).append fb
  exact .node fun _ => .kw fun _ => .kw fun _ => .step (parseName_takes fl fuel nm) <|
    .appF (parseImplementsInterfaces_takes fl fuel ifs)
      (fun h hr => ⟨fun _ => fdb.useImpl h hr.notImpl (by decide), fdb.use h (hr.notK _ (by decide)) (by decide)⟩) <|
    .appF (parseDirectives_takes fl fuel true ds wd) (fun h hr => fb.use h (followDirs_of_def hr) (by decide)) <|
    .lastF (parseFieldsDefinition_takes fl fuel fs wf) (fun hr _ => hr.ne) <| .guard (three_of_not wne) <| .done _ _

theorem parseInterfaceTypeExtension_takes (fl : Flags) (fuel : Nat) (nm : Name) (ds : List Directive)
    (fs : List FieldDefinition) (loc : Loc) (w : wfDefinition fl (.interfaceTypeExtension nm ds fs loc) = true) :
    Takes1 fl fuel (parseInterfaceTypeExtension fl fuel) (.interfaceTypeExtension nm ds fs loc)
      (definitionV (.interfaceTypeExtension nm ds fs loc)) FollowDef := by
  simp only [wfDefinition, Bool.and_eq_true, List.all_eq_true] at w
  obtain ⟨⟨wd, wf⟩, wne⟩ := w
  exact .node fun _ => .kw fun _ => .kw fun _ => .step (parseName_takes fl fuel nm) <|
    .appF (parseDirectives_takes fl fuel true ds wd)
      (fun h hr => (firstIn_blockV fl _ fs).use h (followDirs_of_def hr) (by decide)) <|
    .lastF (parseFieldsDefinition_takes fl fuel fs wf) (fun hr _ => hr.ne) <| .guard (two_of_not wne) <| .done _ _

theorem parseUnionTypeExtension_takes (fl : Flags) (fuel : Nat) (nm : Name) (ds : List Directive)
    (us : List NamedType) (loc : Loc) (w : wfDefinition fl (.unionTypeExtension nm ds us loc) = true) :
    Takes1 fl fuel (parseUnionTypeExtension fl fuel) (.unionTypeExtension nm ds us loc)
      (definitionV (.unionTypeExtension nm ds us loc)) FollowDef := by
  simp only [wfDefinition, Bool.and_eq_true] at w
  exact .node fun _ => .kw fun _ => .kw fun _ => .step (parseName_takes fl fuel nm) <|
    .appF (parseDirectives_takes fl fuel true ds w.1)
      (fun h hr => (firstIn_unionMembersV fl us).use h (followDirs_of_def hr) (by decide)) <|
    .lastF (parseUnionMemberTypes_takes fl fuel us) (fun hr => hr.notK _ (by decide)) <| .guard (two_of_not w.2) <|
    .done _ _

theorem parseEnumTypeExtension_takes (fl : Flags) (fuel : Nat) (nm : Name) (ds : List Directive)
    (vs : List EnumValueDefinition) (loc : Loc) (w : wfDefinition fl (.enumTypeExtension nm ds vs loc) = true) :
    Takes1 fl fuel (parseEnumTypeExtension fl fuel) (.enumTypeExtension nm ds vs loc)
      (definitionV (.enumTypeExtension nm ds vs loc)) FollowDef := by
  simp only [wfDefinition, Bool.and_eq_true, List.all_eq_true] at w
  obtain ⟨⟨wd, wf⟩, wne⟩ := w
  exact .node fun _ => .kw fun _ => .kw fun _ => .step (parseName_takes fl fuel nm) <|
    .appF (parseDirectives_takes fl fuel true ds wd)
      (fun h hr => (firstIn_blockV fl _ vs).use h (followDirs_of_def hr) (by decide)) <|
    .lastF (parseEnumValuesDefinition_takes fl fuel vs wf) (fun hr _ => hr.ne) <| .guard (two_of_not wne) <| .done _ _

theorem parseInputObjectTypeExtension_takes (fl : Flags) (fuel : Nat) (nm : Name) (ds : List Directive)
    (fs : List InputValueDefinition) (loc : Loc) (w : wfDefinition fl (.inputObjectTypeExtension nm ds fs loc) = true) :
    Takes1 fl fuel (parseInputObjectTypeExtension fl fuel) (.inputObjectTypeExtension nm ds fs loc)
      (definitionV (.inputObjectTypeExtension nm ds fs loc)) FollowDef := by
  simp only [wfDefinition, Bool.and_eq_true, List.all_eq_true] at w
  obtain ⟨⟨wd, wf⟩, wne⟩ := w
  exact .node fun _ => .kw fun _ => .kw fun _ => .step (parseName_takes fl fuel nm) <|
    .appF (parseDirectives_takes fl fuel true ds wd)
      (fun h hr => (firstIn_blockV fl _ fs).use h (followDirs_of_def hr) (by decide)) <|
    .lastF (parseInputFieldsDefinition_takes fl fuel fs wf) (fun hr _ => hr.ne) <| .guard (two_of_not wne) <| .done _ _

/-- the token shape the dispatcher looks at: `keyword …` or `string keyword …` -/
def HeadShape (desc : Option StringValue) (kw : Text) (ts : List Tok) : Prop :=
  match desc with
  | none => ∃ k tl, ts = k :: tl ∧ k.kind = .name ∧ k.value = kw
  | some _ => ∃ s k tl, ts = s :: k :: tl ∧ (s.kind = .string ∨ s.kind = .blockString) ∧ k.kind = .name ∧ k.value = kw

/-- the token shape `parse_type_system_extension` looks at -/
def ExtShape (kw : Text) (ts : List Tok) : Prop :=
  ∃ e k tl, ts = e :: k :: tl ∧ e.kind = .name ∧ e.value = K.extend ∧ k.kind = .name ∧ k.value = kw


/-- on tokens of the shape `Description? kw …`, `parse_type_system_definition` is its chain of tests on `kw` -/
theorem dispatch_def (fl : Flags) (fuel : Nat) {desc : Option StringValue} {kw : Text} {ts : List Tok} (l : Tok)
    (sh : HeadShape desc kw ts) :
    ∃ k : Tok, parseTypeSystemDefinition fl fuel ⟨ts, l⟩ =
      (if kw = K.schema then parseSchemaDefinition fl fuel
       else if kw = K.scalar then parseScalarTypeDefinition fl fuel
       else if kw = K.type_ then parseObjectTypeDefinition fl fuel
       else if kw = K.interface_ then parseInterfaceTypeDefinition fl fuel
       else if kw = K.union then parseUnionTypeDefinition fl fuel
       else if kw = K.enum_ then parseEnumTypeDefinition fl fuel
       else if kw = K.input then parseInputObjectTypeDefinition fl fuel
       else if kw = K.directive then parseDirectiveDefinition fl fuel
       else failAt k "Unexpected token") ⟨ts, l⟩ := by
  cases desc with
  | none =>
    obtain ⟨k, tl, rfl, hk, hv⟩ := sh
    refine ⟨k, ?_⟩
    simp only [parseTypeSystemDefinition, bind_eq, peek_cons, pure_eq, hk, hv, reduceCtorEq, or_self, if_true, if_false]
  | some sv =>
    obtain ⟨s, k, tl, rfl, hs, hk, hv⟩ := sh
    refine ⟨k, ?_⟩
    simp only [parseTypeSystemDefinition, bind_eq, peek_cons, peek2_cons, hs, hk, hv, if_true]

/-- on tokens of the shape `extend kw …`, `parse_type_system_extension` is its chain of tests on `kw` -/
theorem dispatch_ext (fl : Flags) (fuel : Nat) {kw : Text} {ts : List Tok} (l : Tok) (sh : ExtShape kw ts) :
    ∃ k : Tok, parseTypeSystemExtension fl fuel ⟨ts, l⟩ =
      (if kw = K.schema then parseSchemaExtension fl fuel
       else if kw = K.scalar then parseScalarTypeExtension fl fuel
       else if kw = K.type_ then parseObjectTypeExtension fl fuel
       else if kw = K.interface_ then parseInterfaceTypeExtension fl fuel
       else if kw = K.union then parseUnionTypeExtension fl fuel
       else if kw = K.enum_ then parseEnumTypeExtension fl fuel
       else if kw = K.input then parseInputObjectTypeExtension fl fuel
       else failAt k "Unexpected token") ⟨ts, l⟩ := by
  obtain ⟨e, k, tl, rfl, _, _, hk, hv⟩ := sh
  refine ⟨k, ?_⟩
  simp only [parseTypeSystemExtension, bind_eq, peek2_cons, hk, hv, if_true]

theorem defShape (fl : Flags) (d : Definition) (l : Tok) (ts : List Tok) (r : Tok × List Tok)
    (hx : isTypeSystem d = true) (he : isExtension d = false) (h : (definitionV d).check fl l ts = some r) :
    ∃ desc, HeadShape desc (defKeyword d) ts := by
  rcases r with ⟨l', rest⟩
  obtain ⟨_, desc, tail, loc, e⟩ := definitionV_head d hx he
  rw [e, check_node] at h
  obtain ⟨f, tl, rfl, hall, _⟩ := h
  refine ⟨desc, ?_⟩
  obtain ⟨l1, ts1, hdesc, hall⟩ := (checkAll_append ..).1 hall
  simp only [checkAll_cons, check_tok] at hall
  obtain ⟨l2, ts2, ⟨k, rfl, hc, rfl⟩, _⟩ := hall
  obtain ⟨hk, hv⟩ := cls_kw_inv hc
  cases desc with
  | none =>
    cases hdesc
    exact ⟨_, _, rfl, hk, hv⟩
  | some sv =>
    simp only [descV, optV, stringV, checkAll_cons, checkAll_nil, check_node, check_tok] at hdesc
    obtain ⟨l3, ts3, ⟨f2, tl2, e0, ⟨l4, ts4, ⟨t, e, hc', rfl⟩, hfin'⟩, _⟩, hfin⟩ := hdesc
    cases e0; cases e; cases hfin'; cases hfin
    refine ⟨_, _, _, rfl, ?_, hk, hv⟩
    rw [cls_kind hc']; cases sv.block <;> simp

theorem extShape (fl : Flags) (d : Definition) (l : Tok) (ts : List Tok) (r : Tok × List Tok)
    (he : isExtension d = true) (h : (definitionV d).check fl l ts = some r) : ExtShape (defKeyword d) ts := by
  rcases r with ⟨l', rest⟩
  obtain ⟨tail, loc, e⟩ := definitionV_extHead d he
  simp only [e, check_node, checkAll_cons, check_tok] at h
  obtain ⟨f, tl, rfl, ⟨l1, ts1, ⟨e, e1, hce, rfl⟩, l2, ts2, ⟨k, rfl, hck, rfl⟩, _⟩, _⟩ := h
  obtain ⟨hke, hve⟩ := cls_kw_inv hce
  obtain ⟨hkk, hvk⟩ := cls_kw_inv hck
  exact ⟨_, _, _, e1, hke, hve, hkk, hvk⟩

theorem tsComplete (fl : Flags) (fuel : Nat) : TSComplete fl fuel := by
  refine ⟨?_, ?_, ?_⟩
  · intro d l ts r hx w h
    cases he : isExtension d with
    | true =>
      obtain ⟨e, k, tl, rfl, hke, hve, _⟩ := extShape fl d l ts r he h
      exact ⟨e, _, rfl, by simp [hke, hve]⟩
    | false =>
      obtain ⟨desc, sh⟩ := defShape fl d l ts r hx he h
      have hm := (definitionV_head d hx he).1
      cases desc with
      | none =>
        obtain ⟨k, tl, rfl, hk, hv⟩ := sh
        exact ⟨k, tl, rfl, by simp [hk, hv, hm]⟩
      | some sv =>
        obtain ⟨s, k, tl, rfl, hs, _⟩ := sh
        refine ⟨s, _, rfl, ?_⟩
        rcases hs with hs | hs <;> simp [hs]
  · intro d l l' ts rest hx he w hf h hfol
    obtain ⟨desc, sh⟩ := defShape fl d l ts _ hx he h
    obtain ⟨k, e⟩ := dispatch_def fl fuel l sh
    rw [e]
    cases d with
    | schemaDefinition ds ops loc => exact parseSchemaDefinition_takes fl fuel ds ops loc w l ts l' rest hf h hfol
    | scalarTypeDefinition desc nm ds loc =>
      exact parseScalarTypeDefinition_takes fl fuel desc nm ds loc w l ts l' rest hf h hfol
    | objectTypeDefinition desc nm ifs ds fs loc =>
      exact parseObjectTypeDefinition_takes fl fuel desc nm ifs ds fs loc w l ts l' rest hf h hfol
    | interfaceTypeDefinition desc nm ds fs loc =>
      exact parseInterfaceTypeDefinition_takes fl fuel desc nm ds fs loc w l ts l' rest hf h hfol
    | unionTypeDefinition desc nm ds us loc =>
      exact parseUnionTypeDefinition_takes fl fuel desc nm ds us loc w l ts l' rest hf h hfol
    | enumTypeDefinition desc nm ds vs loc =>
      exact parseEnumTypeDefinition_takes fl fuel desc nm ds vs loc w l ts l' rest hf h hfol
    | inputObjectTypeDefinition desc nm ds fs loc =>
      exact parseInputObjectTypeDefinition_takes fl fuel desc nm ds fs loc w l ts l' rest hf h hfol
    | directiveDefinition desc nm args locs loc =>
      exact parseDirectiveDefinition_takes fl fuel desc nm args locs loc w l ts l' rest hf h hfol
    | _ => simp [isTypeSystem, isExtension] at hx he
  · intro d l l' ts rest hx he w hf h hfol
    have sh := extShape fl d l ts _ he h
    obtain ⟨k, e⟩ := dispatch_ext fl fuel l sh
    rw [e]
    cases d with
    | schemaExtension ds ops loc => exact parseSchemaExtension_takes fl fuel ds ops loc w l ts l' rest hf h hfol
    | scalarTypeExtension nm ds loc => exact parseScalarTypeExtension_takes fl fuel nm ds loc w l ts l' rest hf h hfol
    | objectTypeExtension nm ifs ds fs loc =>
      exact parseObjectTypeExtension_takes fl fuel nm ifs ds fs loc w l ts l' rest hf h hfol
    | interfaceTypeExtension nm ds fs loc =>
      exact parseInterfaceTypeExtension_takes fl fuel nm ds fs loc w l ts l' rest hf h hfol
    | unionTypeExtension nm ds us loc =>
      exact parseUnionTypeExtension_takes fl fuel nm ds us loc w l ts l' rest hf h hfol
    | enumTypeExtension nm ds vs loc =>
      exact parseEnumTypeExtension_takes fl fuel nm ds vs loc w l ts l' rest hf h hfol
    | inputObjectTypeExtension nm ds fs loc =>
      exact parseInputObjectTypeExtension_takes fl fuel nm ds fs loc w l ts l' rest hf h hfol
    | _ => simp [isExtension] at he

end PyGql.Parse
