/-
  The chain exists twice in the model, and neither copy is defined from the other: `Validate/Chain.lean` is the chain the
  per-rule theorems are stated about, `Validate/ChainPar.lean` is the same text with the rules' enter function as a
  parameter, written so that the chain can be run with the memoised overlap search (`enterRuleM`). Proved here, visit
  function by visit function: the parametrised chain instantiated with the rules' own enter function IS the chain of the
  theorems (`visitDocumentPar_eq`); it is the bridge by which what `Lemmas/ValidateWalkLaws.lean` proves of the parametrised
  chain is said of `visitDocument`.
-/
import PyGqlModel.Validate.ChainPar
namespace PyGql.Validate
open PyGql

theorem enterRulesPar_eq (c : Cfg) (n : Node) (ti : TI) : ∀ (rs : List Rule) (st : RS),
    enterRulesPar enterRule c n ti rs st = enterRules c n ti rs st
  | [], st => by rw [enterRulesPar, enterRules]
  | r :: rest, st => by
    rw [enterRulesPar, enterRules]
    simp only [enterRulesPar_eq c n ti rest]

theorem raisedRulesPar_eq (c : Cfg) (n : Node) (ti : TI) : ∀ (rs : List Rule) (st : RS),
    raisedRulesPar enterRule c n ti rs st = raisedRules c n ti rs st
  | [], st => by rw [raisedRulesPar, raisedRules]
  | r :: rest, st => by
    rw [raisedRulesPar, raisedRules]
    simp only [raisedRulesPar_eq c n ti rest]

theorem enterPar_eq (c : Cfg) (n : Node) (st : St) : enterPar enterRule c n st = enter c n st := by
  simp only [enterPar, enter, enterRulesPar_eq]

theorem leavePar_eq (c : Cfg) (n : Node) (st : St) : leavePar enterRule c n st = leave c n st := rfl

theorem leaveSkippedPar_eq (c : Cfg) (n : Node) (st0 st1 : St) :
    leaveSkippedPar enterRule c n st0 st1 = leaveSkipped c n st0 st1 := by
  simp only [leaveSkippedPar, leaveSkipped, raisedRulesPar_eq]

theorem visitNodePar_eq (c : Cfg) (n : Node) (b1 b2 : St → St) (hb : ∀ st, b1 st = b2 st) (st : St) :
    visitNodePar enterRule c n b1 st = visitNode c n b2 st := by
  simp only [visitNodePar, visitNode, enterPar_eq, leavePar_eq, leaveSkippedPar_eq, hb]

mutual
theorem visitValuePar_eq (c : Cfg) : ∀ (v : Value) (st : St), visitValuePar enterRule c v st = visitValue c v st
  | .list vs, st => by
    rw [visitValuePar, visitValue]
    exact visitNodePar_eq c _ _ _ (fun st => visitValuesPar_eq c vs st) st
  | .obj fs, st => by
    rw [visitValuePar, visitValue]
    exact visitNodePar_eq c _ _ _ (fun st => visitObjFieldsPar_eq c fs st) st
  | .var x, st => by rw [visitValuePar, visitValue]; exact visitNodePar_eq c _ _ _ (fun _ => rfl) st
  | .int x, st => by rw [visitValuePar, visitValue]; exact visitNodePar_eq c _ _ _ (fun _ => rfl) st
  | .float x, st => by rw [visitValuePar, visitValue]; exact visitNodePar_eq c _ _ _ (fun _ => rfl) st
  | .str x, st => by rw [visitValuePar, visitValue]; exact visitNodePar_eq c _ _ _ (fun _ => rfl) st
  | .bool x, st => by rw [visitValuePar, visitValue]; exact visitNodePar_eq c _ _ _ (fun _ => rfl) st
  | .null, st => by rw [visitValuePar, visitValue]; exact visitNodePar_eq c _ _ _ (fun _ => rfl) st
  | .enum x, st => by rw [visitValuePar, visitValue]; exact visitNodePar_eq c _ _ _ (fun _ => rfl) st
theorem visitValuesPar_eq (c : Cfg) : ∀ (vs : List Value) (st : St), visitValuesPar enterRule c vs st = visitValues c vs st
  | [], st => by rw [visitValuesPar, visitValues]
  | v :: vs, st => by rw [visitValuesPar, visitValues, visitValuePar_eq c v st, visitValuesPar_eq c vs]
theorem visitObjFieldPar_eq (c : Cfg) : ∀ (x : ObjField) (st : St), visitObjFieldPar enterRule c x st = visitObjField c x st
  | .mk n v, st => by
    rw [visitObjFieldPar, visitObjField]
    exact visitNodePar_eq c _ _ _ (fun st => visitValuePar_eq c v st) st
theorem visitObjFieldsPar_eq (c : Cfg) : ∀ (fs : List ObjField) (st : St),
    visitObjFieldsPar enterRule c fs st = visitObjFields c fs st
  | [], st => by rw [visitObjFieldsPar, visitObjFields]
  | x :: fs, st => by rw [visitObjFieldsPar, visitObjFields, visitObjFieldPar_eq c x st, visitObjFieldsPar_eq c fs]
end

theorem foldl_congr' {α β} (f g : β → α → β) (h : ∀ b a, f b a = g b a) (l : List α) (b : β) : l.foldl f b = l.foldl g b := by
  have : f = g := funext fun b => funext fun a => h b a
  rw [this]

theorem visitArgumentPar_eq (c : Cfg) (a : Arg) (st : St) : visitArgumentPar enterRule c a st = visitArgument c a st := by
  rw [visitArgumentPar, visitArgument]
  exact visitNodePar_eq c _ _ _ (fun st => visitValuePar_eq c a.value st) st

theorem visitArgumentsPar_eq (c : Cfg) (as : List Arg) (st : St) : visitArgumentsPar enterRule c as st = visitArguments c as st := by
  rw [visitArgumentsPar, visitArguments]
  exact foldl_congr' _ _ (fun st a => visitArgumentPar_eq c a st) as st

theorem visitDirectivePar_eq (c : Cfg) (d : Dir) (st : St) : visitDirectivePar enterRule c d st = visitDirective c d st := by
  rw [visitDirectivePar, visitDirective]
  exact visitNodePar_eq c _ _ _ (fun st => visitArgumentsPar_eq c d.args st) st

theorem visitDirectivesPar_eq (c : Cfg) (ds : List Dir) (st : St) :
    visitDirectivesPar enterRule c ds st = visitDirectives c ds st := by
  rw [visitDirectivesPar, visitDirectives]
  exact foldl_congr' _ _ (fun st d => visitDirectivePar_eq c d st) ds st

mutual
theorem visitSelPar_eq (c : Cfg) : ∀ (x : Sel) (st : St), visitSelPar enterRule c x st = visitSel c x st
  | .field al name args dirs hasSub ssid sub, st => by
    rw [visitSelPar, visitSel]
    refine visitNodePar_eq c _ _ _ (fun st => ?_) st
    simp only [visitArgumentsPar_eq, visitDirectivesPar_eq]
    split
    · exact visitNodePar_eq c _ _ _ (fun st => visitSelsPar_eq c sub st) _
    · rfl
  | .spread name dirs, st => by
    rw [visitSelPar, visitSel]
    exact visitNodePar_eq c _ _ _ (fun st => visitDirectivesPar_eq c dirs st) st
  | .inline on dirs ssid sub, st => by
    rw [visitSelPar, visitSel]
    refine visitNodePar_eq c _ _ _ (fun st => ?_) st
    simp only [visitDirectivesPar_eq]
    exact visitNodePar_eq c _ _ _ (fun st => visitSelsPar_eq c sub st) _
theorem visitSelsPar_eq (c : Cfg) : ∀ (xs : List Sel) (st : St), visitSelsPar enterRule c xs st = visitSels c xs st
  | [], st => by rw [visitSelsPar, visitSels]
  | x :: xs, st => by rw [visitSelsPar, visitSels, visitSelPar_eq c x st, visitSelsPar_eq c xs]
end

theorem visitVarDefPar_eq (c : Cfg) (v : VarDef) (st : St) : visitVarDefPar enterRule c v st = visitVarDef c v st := by
  rw [visitVarDefPar, visitVarDef]
  refine visitNodePar_eq c _ _ _ (fun st => ?_) st
  cases v.default with
  | none =>
    simp only [visitDirectivesPar_eq]
    exact congrArg _ (visitNodePar_eq c _ _ _ (fun _ => rfl) _)
  | some dv =>
    simp only [visitValuePar_eq, visitDirectivesPar_eq]
    exact congrArg _ (visitNodePar_eq c _ _ _ (fun _ => rfl) _)

theorem visitDefPar_eq (c : Cfg) (d : Def) (st : St) : visitDefPar enterRule c d st = visitDef c d st := by
  cases d with
  | op kind name vars dirs ssid sels =>
    rw [visitDefPar, visitDef]
    refine visitNodePar_eq c _ _ _ (fun st => ?_) st
    simp only [visitDirectivesPar_eq, foldl_congr' _ _ (fun st v => visitVarDefPar_eq c v st)]
    exact visitNodePar_eq c _ _ _ (fun st => visitSelsPar_eq c sels st) _
  | frag name on dirs ssid sels =>
    rw [visitDefPar, visitDef]
    refine visitNodePar_eq c _ _ _ (fun st => ?_) st
    simp only [visitDirectivesPar_eq]
    exact visitNodePar_eq c _ _ _ (fun st => visitSelsPar_eq c sels st) _
  | ts a b =>
    rw [visitDefPar, visitDef]
    exact visitNodePar_eq c _ _ _ (fun _ => rfl) st

theorem visitDocumentPar_eq (c : Cfg) (d : Doc) (st : St) : visitDocumentPar enterRule c d st = visitDocument c d st := by
  rw [visitDocumentPar, visitDocument]
  exact visitNodePar_eq c _ _ _ (fun st => foldl_congr' _ _ (fun st x => visitDefPar_eq c x st) d.defs st) st

end PyGql.Validate
