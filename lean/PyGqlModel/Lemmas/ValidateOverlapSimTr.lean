/-
  `OvSim` for `Tr` (order of selections, order of arguments, injective renaming of fragments): the document `T.doc d`
  simulates `d` for the clause of 5.3.2, provided the argument names of every field of `d` are pairwise different
  (the clause of UniqueArgumentNames - without it `_same_arguments` depends on the order of the arguments).
-/
import PyGqlModel.Lemmas.ValidateDocMap
import PyGqlModel.Lemmas.ValidateCtxTr
import PyGqlModel.Lemmas.TypedEqView
namespace PyGql.Validate
open PyGql PyGql.Validate.Spec

namespace Tr
variable (T : Tr)

def sig (sels : List Sel) : List Sel := T.sels (T.selList sels)

def selMap : SelMap where
  σ := T.sel
  L := T.sig
  φ := T.frag
  alias := fun al _ => al
  args := T.args
  dirs := List.map T.dir
  mem_L := by
    intro x sels
    rw [sig, (T.sels_perm _).mem_iff, T.selList_eq_map]
  σ_field := fun _ _ _ _ _ _ _ => rfl
  σ_spread := fun _ _ => rfl
  σ_inline := fun _ _ _ _ => rfl

theorem mem_typed (s : SchemaD) (d : Doc) (q : Node × View) :
    q ∈ typedNodes s (T.doc d) ↔ q ∈ (typedNodes s d).map fun q0 => (T.node q0.1, q0.2) := by
  rw [typedNodes_eq_viewNodes, typedNodes_eq_viewNodes]
  exact (gnDoc_tr T (View.enter s) (T.view_enter s) d {}).mem_iff

def docMap (d : Doc) : DocMap d (T.doc d) :=
  { T.selMap with
    defn := T.defn
    vars := List.map T.varDef
    ν := T.node
    defs := rfl
    defn_op := fun _ _ _ _ _ _ => rfl
    defn_frag := fun _ _ _ _ _ => rfl
    defn_ts := fun _ _ => rfl
    ν_selSet := fun _ _ => rfl
    ν_ssid := fun m => by cases m <;> rfl
    nodes_perm := nodes_tr T d
    typed_mem := fun s => T.mem_typed s d }

def ovSim (hinj : ∀ a b, T.frag a = T.frag b → a = b) (s : SchemaD) (d : Doc) (hu : Spec.uniqueArgumentNames d) :
    OvSim s d (T.doc d) :=
  (T.docMap d).ovSim hinj s id (fun _ _ h => h) (fun _ _ _ _ _ _ _ _ _ _ _ => rfl)
    (fun e => (e.args.map (·.name)).Nodup) (fun _ he => entD_args_nodup hu he)
    fun e1 e2 g1 g2 => sameArguments_perm (T.args_perm e1.args) (T.args_perm e2.args) g1 g2

theorem wfIds (d : Doc) : WfIds (T.doc d) ↔ WfIds d := (T.docMap d).wfIds

end Tr
end PyGql.Validate
