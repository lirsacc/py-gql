/-
  Lexing a text that is a concatenation of lexemes and ignored characters (the shape of everything the printer
  emits): the compositional lemmas behind `print_tokens_*` (C03, document part).
  Positions never matter here: results are stated through token CLASSES (`Spec.cls`).
-/
import PyGqlModel.Lex
import PyGqlModel.PrintString
import PyGqlModel.Spec.Grammar
import PyGqlModel.Spec.Lexical
import PyGqlModel.Lemmas.LexCompleteNum

namespace PyGql.PrintLex
open PyGql PyGql.Lex PyGql.Spec PyGql.PrintString

export PyGql.Lex (integerPart_shape fractionalPart_shape exponentPart_shape FloatShape floatShape_of_isFloatValue)

/-- a string literal is the list of its characters: the code points of `textOfString "…"` without decoding UTF-8 -/
theorem textOfString_ofList (l : List Char) : textOfString (String.ofList l) = l.map Char.toNat := by
  rw [textOfString, String.toList_ofList]

/-- the characters that follow a lexeme in printed output: TAB, LF, space, `! $ & ( ) , : = @ [ ] { | }` -/
def isDelim (c : Nat) : Bool := [9, 10, 32, 33, 36, 38, 40, 41, 44, 58, 61, 64, 91, 93, 123, 124, 125].contains c

/-- the rest of the text cannot extend the lexeme before it: it is empty or starts with a delimiter -/
def Safe (r : Text) : Prop := ∀ c t, r = c :: t → isDelim c = true

theorem safe_nil : Safe [] := by intro c t h; cases h
theorem safe_cons {c : Nat} {t : Text} (h : isDelim c = true) : Safe (c :: t) := by
  intro c' t' e; cases e; exact h

/-- `s` lexes (after SOF) to tokens of classes `cs` followed by EOF — for every total length and enough fuel -/
def LexesTo (s : Text) (cs : List TokClass) : Prop :=
  ∀ n fuel, s.length < fuel → ∃ toks, lexLoop n fuel s = .ok (toks ++ [eofTok n]) ∧ classes toks = cs

theorem lexesTo_nil : LexesTo [] [] := by
  intro n fuel h
  cases fuel with
  | zero => omega
  | succ f => exact ⟨[], by simp [lexLoop, next, readOverWhitespace], rfl⟩

theorem lexesTo_ignored {c : Nat} {s : Text} {cs : List TokClass} (hc : isIgnored c = true)
    (h : LexesTo s cs) : LexesTo (c :: s) cs := by
  intro n fuel hf
  cases fuel with
  | zero => omega
  | succ f =>
    obtain ⟨toks, h1, h2⟩ := h n (f + 1) (by simp at hf; omega)
    refine ⟨toks, ?_, h2⟩
    rw [← h1]
    simp only [lexLoop]
    have : next n (c :: s) = next n s := by
      simp [next, readOverWhitespace, hc]
    rw [this]

theorem lexesTo_step {w r : Text} {c : TokClass} {cs : List TokClass}
    (hw : ∀ n, ∃ tok, next n (w ++ r) = .ok (tok, some r) ∧ cls tok = c)
    (hlen : r.length < (w ++ r).length) (h : LexesTo r cs) : LexesTo (w ++ r) (c :: cs) := by
  intro n fuel hf
  cases fuel with
  | zero => omega
  | succ f =>
    obtain ⟨tok, hn, hc⟩ := hw n
    obtain ⟨toks, h1, h2⟩ := h n f (by omega)
    refine ⟨tok :: toks, ?_, by simp [classes, hc] at h2 ⊢; exact h2⟩
    simp only [lexLoop, hn, h1, List.cons_append]

theorem lexesTo_space {s : Text} {cs : List TokClass} (h : LexesTo s cs) : LexesTo (32 :: s) cs :=
  lexesTo_ignored (by decide +kernel) h
theorem lexesTo_lf {s : Text} {cs : List TokClass} (h : LexesTo s cs) : LexesTo (10 :: s) cs :=
  lexesTo_ignored (by decide +kernel) h
theorem lexesTo_comma {s : Text} {cs : List TokClass} (h : LexesTo s cs) : LexesTo (44 :: s) cs :=
  lexesTo_ignored (by decide +kernel) h

theorem lexAll_of_lexesTo {s : Text} {cs : List TokClass} (h : LexesTo s cs) :
    ∃ toks, lexAll s = .ok (sofTok :: toks ++ [eofTok s.length]) ∧ classes toks = cs := by
  obtain ⟨toks, h1, h2⟩ := h s.length (s.length + 1) (by omega)
  exact ⟨toks, by simp [lexAll, h1], h2⟩

/-- every character of `SYMBOLS` is a printable delimiter, neither ignored nor `#`, and its token kind has no value -/
theorem symbol_facts {c : Nat} {k : TokKind} (h : symbolKind c = some k) :
    isIgnored c = false ∧ c ≠ 35 ∧ isPrintable c = true ∧ c ≠ 10 ∧ isDelim c = true ∧ hasValue k = false := by
  have key : ∀ p ∈ Generated.LexTables.symbols, p.1 ≠ 10 ∧ isDelim p.1 = true ∧
      (TokKind.ofPyName p.2).map hasValue = some false := by decide +kernel
  obtain ⟨f1, f2, f3⟩ := symbol_start h
  obtain ⟨s, hs, hk⟩ := Option.bind_eq_some_iff.1 h
  obtain ⟨f4, f5, f6⟩ := key (c, s) (List.mem_of_lookup_eq_some hs)
  rw [hk] at f6
  exact ⟨f1, f2, f3, f4, f5, Option.some.inj f6⟩

theorem lexesTo_punct {c : Nat} {k : TokKind} {r : Text} {cs : List TokClass} (hk : symbolKind c = some k)
    (h : LexesTo r cs) : LexesTo (c :: r) ((k, []) :: cs) := by
  obtain ⟨_, _, _, _, _, hv⟩ := symbol_facts hk
  have := lexesTo_step (w := [c]) (r := r) (c := (k, [])) (cs := cs)
    (fun n => ⟨_, next_symbol n r hk, by simp [cls, hv]⟩) (by simp) h
  simpa using this

theorem lexesTo_bracketL {r cs} (h : LexesTo r cs) : LexesTo (91 :: r) ((.bracketL, []) :: cs) :=
  lexesTo_punct (by decide +kernel) h
theorem lexesTo_bracketR {r cs} (h : LexesTo r cs) : LexesTo (93 :: r) ((.bracketR, []) :: cs) :=
  lexesTo_punct (by decide +kernel) h
theorem lexesTo_curlyL {r cs} (h : LexesTo r cs) : LexesTo (123 :: r) ((.curlyL, []) :: cs) :=
  lexesTo_punct (by decide +kernel) h
theorem lexesTo_curlyR {r cs} (h : LexesTo r cs) : LexesTo (125 :: r) ((.curlyR, []) :: cs) :=
  lexesTo_punct (by decide +kernel) h
theorem lexesTo_dollar {r cs} (h : LexesTo r cs) : LexesTo (36 :: r) ((.dollar, []) :: cs) :=
  lexesTo_punct (by decide +kernel) h
theorem lexesTo_colon {r cs} (h : LexesTo r cs) : LexesTo (58 :: r) ((.colon, []) :: cs) :=
  lexesTo_punct (by decide +kernel) h

theorem delim_facts (c : Nat) (h : isDelim c = true) :
    isNameChar c = false ∧ isDigit c = false ∧ c ≠ 46 ∧ c ≠ 34 ∧ isNameStart c = false ∧ c ≠ 101 ∧ c ≠ 69 := by
  refine forall_of_contains h ?_
  decide +kernel

/-- a delimiter satisfies every follow restriction: it is no name character, no digit, no `.` and no `"` -/
theorem follow_of_safe {r : Text} (hr : Safe r) (k : TokKind) (lex : Text) : Spec.Lexical.Follow k lex r := by
  have key : ∀ p : Nat → Bool, (∀ c, isDelim c = true → p c = false) → Spec.Lexical.startsWith p r = false := by
    intro p hp
    cases r with
    | nil => rfl
    | cons c t => exact hp c (hr c t rfl)
  cases k
  case name => exact key _ fun c hc => by rw [← isNameChar_spec]; exact (delim_facts c hc).1
  case int =>
    refine key _ fun c hc => ?_
    obtain ⟨_, f2, f3, _, f5, _⟩ := delim_facts c hc
    rw [← isDigit_spec, ← isNameStart_spec, f2, f5, beq_false_of_ne f3]
    rfl
  case float =>
    refine key _ fun c hc => ?_
    obtain ⟨_, f2, _, _, f5, _⟩ := delim_facts c hc
    rw [← isDigit_spec, ← isNameStart_spec, f2, f5]
    rfl
  case string => exact fun _ => key _ fun c hc => beq_false_of_ne (delim_facts c hc).2.2.2.1
  all_goals trivial

theorem name_all {w : Text} (h : Spec.Lexical.isName w = true) : ∀ c ∈ w, Spec.Lexical.isNameCont c = true := by
  cases w with
  | nil => simp [Spec.Lexical.isName] at h
  | cons a t =>
    simp only [Spec.Lexical.isName, Bool.and_eq_true, List.all_eq_true] at h
    intro c hc
    rcases List.mem_cons.1 hc with rfl | hc
    · simp [Spec.Lexical.isNameCont, h.1]
    · exact h.2 c hc

theorem lexesTo_name {w r : Text} {cs : List TokClass} (hw : Spec.Lexical.isName w = true) (hr : Safe r)
    (h : LexesTo r cs) : LexesTo (w ++ r) ((.name, w) :: cs) := by
  refine lexesTo_step (fun n => ⟨_, Lex.next_name n [] w r hw (follow_of_safe hr .name w) .nil, by simp [cls, hasValue, tokAt]⟩)
    ?_ h
  cases w with
  | nil => simp [Spec.Lexical.isName] at hw
  | cons c t => simp; omega


theorem hex_low (c : Nat) (h : c < 32) :
    hex4 48 48 (hexDigitLower (c / 16)) (hexDigitLower (c % 16)) = some c := by
  revert c; decide +kernel

/-- the three shapes of `jsonEscapeChar c`: a two-character escape from `QUOTED_CHARS`, `\u00XX` for another control
    character, or `c` itself -/
theorem jsonEscapeChar_cases (c : Nat) :
    (∃ e, quoted e = some c ∧ e ≠ 10 ∧ jsonEscapeChar c = [92, e]) ∨
    (c < 32 ∧ jsonEscapeChar c = [92, 117, 48, 48, hexDigitLower (c / 16), hexDigitLower (c % 16)]) ∨
    (32 ≤ c ∧ c ≠ 34 ∧ c ≠ 92 ∧ jsonEscapeChar c = [c]) := by
  by_cases h : c = 34 ∨ c = 92 ∨ c = 10 ∨ c = 13 ∨ c = 9 ∨ c = 8 ∨ c = 12
  · left
    rcases h with rfl | rfl | rfl | rfl | rfl | rfl | rfl <;> exact ⟨_, by decide +kernel, by decide +kernel, rfl⟩
  · right
    simp only [not_or] at h
    obtain ⟨h1, h2, h3, h4, h5, h6, h7⟩ := h
    by_cases hc : c < 32
    · exact .inl ⟨hc, by simp only [jsonEscapeChar, if_neg, if_pos, h1, h2, h3, h4, h5, h6, h7, hc, not_false_eq_true]⟩
    · exact .inr ⟨by omega, h1, h2, by simp only [jsonEscapeChar, if_neg, h1, h2, h3, h4, h5, h6, h7, hc, not_false_eq_true]⟩

/-- an escaped character never starts with a quote -/
theorem jsonEscapeChar_head (c : Nat) : ∃ a u, jsonEscapeChar c = a :: u ∧ a ≠ 34 := by
  rcases jsonEscapeChar_cases c with ⟨e, _, _, he⟩ | ⟨_, he⟩ | ⟨_, h, _, he⟩
  · exact ⟨92, _, he, by decide +kernel⟩
  · exact ⟨92, _, he, by decide +kernel⟩
  · exact ⟨c, _, he, h⟩

theorem readStringBody_jsonEscapeChar {n c : Nat} {s v r : Text} (h : readStringBody n s = .ok (v, r)) :
    readStringBody n (jsonEscapeChar c ++ s) = .ok (c :: v, r) := by
  rcases jsonEscapeChar_cases c with ⟨e, hq, _, he⟩ | ⟨hc, he⟩ | ⟨hc, h1, h2, he⟩
  · rw [he, List.cons_append, List.cons_append, List.nil_append, readStringBody_escape n s hq, h]
    rfl
  · have hh : isHighSurrogate c = false := by simp [isHighSurrogate]; omega
    rw [he]
    exact (readStringBody_unicode_single n _ _ _ _ c s (hex_low c hc) hh).trans (by rw [h]; rfl)
  · have hp : isPrintable c = true := by simp [isPrintable]; omega
    rw [he, List.cons_append, List.nil_append, readStringBody_char n s h1 h2 (by omega) hp, h]
    rfl

/-- decoding the escaped body followed by the closing quote gives the value back -/
theorem readStringBody_jsonEscape (n : Nat) (v rest : Text) :
    readStringBody n (jsonEscape v ++ 34 :: rest) = .ok (v, rest) := by
  induction v with
  | nil => exact readStringBody_quote n rest
  | cons c t ih => rw [jsonEscape, List.append_assoc, readStringBody_jsonEscapeChar ih]

/-- the escaped body followed by the closing quote never starts with two quotes -/
theorem jsonEscape_head (v : Text) (r : Text) (hr : Safe r) :
    tq.isPrefixOf (34 :: (jsonEscape v ++ 34 :: r)) = false := by
  have two : ∀ a s, a ≠ 34 → tq.isPrefixOf (34 :: 34 :: a :: s) = false ∧ tq.isPrefixOf (34 :: a :: s) = false := by
    intro a s ha
    simp [tq, List.isPrefixOf, Ne.symm ha]
  cases v with
  | nil =>
    cases r with
    | nil => rfl
    | cons c t => exact (two c t (delim_facts c (hr c t rfl)).2.2.2.1).1
  | cons c t =>
    obtain ⟨a, u, he, ha⟩ := jsonEscapeChar_head c
    rw [jsonEscape, he]
    exact (two a _ ha).2

theorem next_string (n : Nat) (v r : Text) (hr : Safe r) :
    next n (jsonDumps v ++ r) = .ok (⟨.string, posAt n (jsonDumps v ++ r), posAt n r, v⟩, some r) := by
  have hb := readStringBody_jsonEscape n v r
  have hq := jsonEscape_head v r hr
  have e : jsonDumps v ++ r = 34 :: (jsonEscape v ++ 34 :: r) := by simp [jsonDumps]
  rw [e, next_quote n _ hq, readString, List.drop_succ_cons, List.drop_zero, hb]
  rfl

theorem lexesTo_string {v r : Text} {cs : List TokClass} (hr : Safe r) (h : LexesTo r cs) :
    LexesTo (jsonDumps v ++ r) ((.string, v) :: cs) := by
  refine lexesTo_step (fun n => ⟨_, next_string n v r hr, by simp [cls, hasValue]⟩) ?_ h
  simp [jsonDumps]; omega

theorem lexesTo_int {w r : Text} {cs : List TokClass} (hw : Spec.Lexical.isIntValue w = true) (hr : Safe r)
    (h : LexesTo r cs) : LexesTo (w ++ r) ((.int, w) :: cs) := by
  refine lexesTo_step (fun n => ⟨_, next_int_value n w r hw (follow_of_safe hr .int w), by simp [cls, hasValue]⟩) ?_ h
  cases w with
  | nil => simp [Spec.Lexical.isIntValue, Spec.Lexical.isIntegerPart, Spec.Lexical.stripNegativeSign] at hw
  | cons c t => simp; omega


/-- `w` followed by a delimiter is read as one Float token with value `w` -/
def FloatLexeme (w : Text) : Prop :=
  w ≠ [] ∧ ∀ n r, Safe r → next n (w ++ r) = .ok (⟨.float, posAt n (w ++ r), posAt n r, w⟩, some r)

/-- the printed block string (value position, depth 0) followed by a delimiter is read as one BlockString token with
    value `v` — the string-level statement `BlockRoundtripStatement` of `Props/C03_strings.lean` with a rest -/
def BlockLexeme (ind v : Text) : Prop :=
  ∀ n r, Safe r → next n (blockString v ind false ++ r) =
    .ok (⟨.blockString, posAt n (blockString v ind false ++ r), posAt n r, v⟩, some r)

/-- every form of the printed block string opens with a quote -/
theorem blockString_head (v ind : Text) (d : Bool) : ∃ u, blockString v ind d = 34 :: u := by
  have both : ∀ {c : Prop} [Decidable c] {x y : Text}, ∃ u, (if c then 34 :: x else 34 :: y) = 34 :: u := by
    intro c _ x y
    split <;> exact ⟨_, rfl⟩
  exact both

theorem blockString_ne_nil (v ind : Text) (d : Bool) : blockString v ind d ≠ [] := by
  obtain ⟨u, hu⟩ := blockString_head v ind d
  simp [hu]

theorem lexesTo_float {w r : Text} {cs : List TokClass} (hw : FloatLexeme w) (hr : Safe r)
    (h : LexesTo r cs) : LexesTo (w ++ r) ((.float, w) :: cs) := by
  refine lexesTo_step (fun n => ⟨_, hw.2 n r hr, by simp [cls, hasValue]⟩) ?_ h
  have := hw.1
  cases w with
  | nil => exact absurd rfl this
  | cons c t => simp; omega

theorem lexesTo_block {ind v r : Text} {cs : List TokClass} (hw : BlockLexeme ind v) (hr : Safe r)
    (h : LexesTo r cs) : LexesTo (blockString v ind false ++ r) ((.blockString, v) :: cs) := by
  refine lexesTo_step (fun n => ⟨_, hw n r hr, by simp [cls, hasValue]⟩) ?_ h
  obtain ⟨u, hu⟩ := blockString_head v ind false
  simp [hu]
  omega

end PyGql.PrintLex
