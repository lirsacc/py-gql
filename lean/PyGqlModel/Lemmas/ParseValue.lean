/-
  Values: `parse_variable`, `parse_string_literal`, the `any_` loop, `parse_value_literal(const)`
  agree with the matcher of the grammar (soundness incl. WF and spans; exact completeness).
-/
import PyGqlModel.Lemmas.ParseType
namespace PyGql.Parse
open PyGql PyGql.Ast PyGql.Spec

theorem parseVariable_sound (fl : Flags) : Sound fl (parseVariable fl) (fun _ => True) variableV :=
  .node fun _ => .tok rfl fun _ => .step (parseName_sound fl) fun _ _ => .done fun _ => ⟨trivial, rfl⟩

theorem parseVariable_takes (fl : Flags) (n : Nat) (v : Variable) : Takes1 fl n (parseVariable fl) v (variableV v) Any := by
  rcases v with ⟨nm, loc⟩
  exact .node fun _ => .tok fun _ => .step (parseName_takes fl n nm) <| .done _ _

theorem parseStringLiteral_cons (fl : Flags) (t : Tok) (ts : List Tok) (l : Tok) :
    parseStringLiteral fl ⟨t :: ts, l⟩ = .ok (⟨t.value, t.kind = .blockString, locOf fl t t⟩, ⟨ts, t⟩) := rfl

theorem parseStringLiteral_sound (fl : Flags) (s : PS) (v : StringValue) (s' : PS)
    (hk : ∃ t ts, s.toks = t :: ts ∧ (t.kind = .string ∨ t.kind = .blockString))
    (h : parseStringLiteral fl s = .ok (v, s')) :
    (stringV v).check fl s.last s.toks = some (s'.last, s'.toks) := by
  obtain ⟨t, ts, h1, hk⟩ := hk
  rcases s with ⟨_, l⟩
  cases h1
  rw [parseStringLiteral_cons] at h
  cases h
  refine (check_leaf ..).2 ⟨t, rfl, ?_, rfl, rfl⟩
  rcases hk with hk | hk <;> simp [cls, hk, hasValue]

theorem parseStringLiteral_complete (fl : Flags) (v : StringValue) (l l' : Tok) (ts rest : List Tok)
    (h : (stringV v).check fl l ts = some (l', rest)) :
    parseStringLiteral fl ⟨ts, l⟩ = .ok (v, ⟨rest, l'⟩) ∧
    ∃ t tl, ts = t :: tl ∧ t.kind = (if v.block then .blockString else .string) := by
  rcases v with ⟨val, blk, loc⟩
  obtain ⟨t, rfl, hc, rfl, rfl⟩ := (check_leaf ..).1 h
  have hk := cls_kind hc
  have hv := cls_value hc (by cases blk <;> rfl)
  refine ⟨?_, _, _, rfl, hk⟩
  rw [parseStringLiteral_cons, hv, hk]
  cases blk <;> rfl


theorem anyLoop_sound {α} {fl : Flags} {p : P α} {close : TokKind} (hcl : hasValue close = false)
    {Q : α → Prop} {V : α → Item} (hp : Sound fl p Q V) (n : Nat) :
    SoundL fl (anyLoop p close n) (fun xs => ∀ x ∈ xs, Q x) fun xs => xs.map V ++ [Spec.p close] := by
  induction n with
  | zero => intro s xs s' h; simp [anyLoop, fail_ok] at h
  | succ n ih =>
    intro s xs s' h
    rw [anyLoop] at h
    obtain ⟨b, s1, hsk, hr⟩ := bind_inv h
    obtain ⟨t, ts, h1, hb⟩ := (skip_ok ..).1 hsk
    rcases hb with ⟨hk, rfl, rfl⟩ | ⟨hk, rfl, rfl⟩
    · cases hr
      exact ⟨nofun, chkA_one (chk_tok h1 (cls_const hk hcl))⟩
    · obtain ⟨x, s2, hx, hr⟩ := bind_inv hr
      obtain ⟨xs', s3, hxs, hr⟩ := bind_inv hr
      cases hr
      obtain ⟨q, c⟩ := hp _ _ _ hx
      obtain ⟨qs, cs⟩ := ih _ _ _ hxs
      exact ⟨List.forall_mem_cons.2 ⟨q, qs⟩, chkA_cons c cs⟩

theorem anyLoop_takes {α} {fl : Flags} {m : Nat} {p : P α} {close : TokKind} {V : α → Item} :
    ∀ (n : Nat) (xs : List α), (∀ x ∈ xs, Takes1 fl m p x (V x) Any) →
      (∀ x ∈ xs, ∀ l ts r, (V x).check fl l ts = some r → NotK [close] ts) → xs.length < n →
      Takes fl m (anyLoop p close n) (fun _ => xs) (xs.map V ++ [Spec.p close]) Any := by
  intro n
  induction n with
  | zero => intro xs _ _ hn; omega
  | succ n ih =>
    intro xs hp hfirst hn l ts l' rest hm h _
    cases xs with
    | nil =>
      simp only [List.map_nil, List.nil_append, checkAll_cons, checkAll_nil, check_tok] at h
      obtain ⟨l1, ts1, ⟨t, rfl, hc, rfl⟩, hfin⟩ := h
      cases hfin
      exact bind_run (skip_pos (cls_kind hc) ..) rfl
    | cons x xs =>
      simp only [List.map_cons, List.cons_append, checkAll_cons] at h
      obtain ⟨l1, ts1, hx, hxs⟩ := h
      obtain ⟨t, tl, rfl, hk⟩ := hfirst x List.mem_cons_self _ _ _ hx
      have cxs := ih xs (fun y hy => hp y (List.mem_cons_of_mem _ hy)) (fun y hy => hfirst y (List.mem_cons_of_mem _ hy))
        (Nat.lt_of_succ_lt_succ hn) l1 ts1 l' rest (Nat.le_trans (check_len hx) hm) hxs trivial
      exact bind_run (skip_neg (by simpa using hk) ..)
        (bind_run (hp x List.mem_cons_self _ _ _ _ hm hx trivial) (bind_run cxs rfl))


theorem valuesV_eq (vs : List Value) : valuesV vs = vs.map valueV := by
  induction vs with
  | nil => rfl
  | cons v vs ih => rw [valuesV, ih, List.map_cons]

theorem fieldsV_eq (fs : List ObjectField) : fieldsV fs = fs.map objectFieldV := by
  induction fs with
  | nil => rfl
  | cons v vs ih => rw [fieldsV, ih, List.map_cons]

theorem wfValues_eq (c : Bool) (vs : List Value) : wfValues c vs = true ↔ ∀ v ∈ vs, wfValue c v = true := by
  induction vs with
  | nil => simp [wfValues]
  | cons v vs ih => simp [wfValues, ih]

theorem wfFields_eq (c : Bool) (fs : List ObjectField) : wfFields c fs = true ↔ ∀ f ∈ fs, wfField c f = true := by
  induction fs with
  | nil => simp [wfFields]
  | cons v vs ih => simp [wfFields, ih]

theorem parseObjectFieldWith_sound {fl : Flags} {c : Bool} {pv : P Value}
    (hpv : Sound fl pv (fun v => wfValue c v = true) valueV) :
    Sound fl (parseObjectFieldWith fl pv) (fun f => wfField c f = true) objectFieldV :=
  .node fun _ => .step (parseName_sound fl) fun _ _ => .tok rfl fun _ => .step hpv fun _ w => .done fun _ => ⟨w, rfl⟩

theorem cls_val {t : Tok} {k : TokKind} (hk : t.kind = k) (hv : hasValue k = true) : cls t = (k, t.value) := by
  rw [cls, hk, hv, if_pos rfl]

theorem parseValueLiteral_sound (fl : Flags) (n : Nat) (c : Bool) :
    Sound fl (parseValueLiteral fl n c) (fun v => wfValue c v = true) valueV := by
  induction n generalizing c with
  | zero => intro s v s' h; simp [parseValueLiteral, fail_ok] at h
  | succ n ih =>
    intro s v s' h
    rw [parseValueLiteral] at h
    obtain ⟨tok, ts, h1, h⟩ := peek_bind h
    -- a value that is the one token `tok` of class `(k, v)`
    have leaf : ∀ {k v loc}, cls tok = (k, v) → loc = locOf fl tok tok →
        (Item.node loc [.tok k v]).check fl s.last s.toks = some (tok, ts) :=
      fun hc hl => (check_leaf ..).2 ⟨tok, h1, hc, rfl, hl⟩
    have adv : ∀ {β} {f : Tok → P β} {r}, (advance >>= f) s = .ok r → f tok ⟨ts, tok⟩ = .ok r := by
      intro β f r ha
      obtain ⟨t, s2, ha, hf⟩ := bind_inv ha
      obtain ⟨ts2, h2, rfl⟩ := (advance_ok ..).1 ha
      rw [h1] at h2
      cases h2
      exact hf
    generalize hk : tok.kind = k at h
    cases k with
    | bracketL =>
      obtain ⟨vs, s2, hany, h⟩ := bind_inv h
      cases h
      obtain ⟨o, ts3, h3, _, hl⟩ := expect_bind hany
      rw [h1] at h3
      cases h3
      obtain ⟨q, cs⟩ := anyLoop_sound rfl (ih c) _ _ _ _ hl
      refine ⟨(wfValues_eq ..).2 q, ?_⟩
      rw [valueV, valuesV_eq]
      exact chk_node h1 (chkA_cons (chk_tok h1 (cls_const hk rfl)) cs)
    | curlyL =>
      obtain ⟨o, ts3, h3, _, h⟩ := expect_bind h
      obtain ⟨fs, s2, hl, h⟩ := bind_inv h
      cases h
      rw [h1] at h3
      cases h3
      obtain ⟨q, cs⟩ := anyLoop_sound rfl (parseObjectFieldWith_sound (ih c)) _ _ _ _ hl
      refine ⟨(wfFields_eq ..).2 q, ?_⟩
      rw [valueV, fieldsV_eq]
      exact chk_node h1 (chkA_cons (chk_tok h1 (cls_const hk rfl)) cs)
    | int =>
      cases adv h
      exact ⟨rfl, leaf (cls_val hk rfl) rfl⟩
    | float =>
      cases adv h
      exact ⟨rfl, leaf (cls_val hk rfl) rfl⟩
    | string =>
      obtain ⟨sv, s2, hs, h⟩ := bind_inv h
      cases h
      exact ⟨rfl, parseStringLiteral_sound fl _ _ _ ⟨_, _, h1, Or.inl hk⟩ hs⟩
    | blockString =>
      obtain ⟨sv, s2, hs, h⟩ := bind_inv h
      cases h
      exact ⟨rfl, parseStringLiteral_sound fl _ _ _ ⟨_, _, h1, Or.inr hk⟩ hs⟩
    | name =>
      rcases ite_inv h with ⟨hv, h⟩ | ⟨hv, h⟩
      · cases adv h
        refine ⟨rfl, leaf (cls_kw hk ?_) rfl⟩
        rcases hv with hv | hv
        · simp [hv]
        · simp [hv, show K.false_ ≠ K.true_ by decide]
      rcases ite_inv h with ⟨hv2, h⟩ | ⟨hv2, h⟩
      · cases adv h
        exact ⟨rfl, leaf (cls_kw hk hv2) rfl⟩
      · cases adv h
        rw [not_or] at hv
        exact ⟨by simp [wfValue, notBoolNull, hv, hv2], leaf (cls_kw hk rfl) rfl⟩
    | dollar =>
      rcases ite_inv h with ⟨_, h⟩ | ⟨hc, h⟩
      · exact ((fail_ok ..).1 h).elim
      obtain ⟨var_, s2, hvar, h⟩ := bind_inv h
      cases h
      exact ⟨by simpa [wfValue] using hc, (parseVariable_sound fl _ _ _ hvar).2⟩
    | _ => exact ((fail_ok ..).1 h).elim


theorem yieldAll_mem_le {α} (V : α → Item) (xs : List α) (x : α) (hx : x ∈ xs) :
    (V x).yield.length ≤ (Item.yieldAll (xs.map V)).length := by
  induction xs with
  | nil => cases hx
  | cons y ys ih =>
    simp only [List.map_cons, Item.yieldAll, List.length_append]
    rcases List.mem_cons.1 hx with rfl | h
    · omega
    · have := ih h; omega

theorem yieldAll_append (a b : List Item) : Item.yieldAll (a ++ b) = Item.yieldAll a ++ Item.yieldAll b := by
  induction a with
  | nil => rfl
  | cons i is ih => rw [List.cons_append, Item.yieldAll, Item.yieldAll, ih, List.append_assoc]

theorem length_le_yieldAll {α} (V : α → Item) (hV : ∀ x, 1 ≤ (V x).yield.length) (xs : List α) :
    xs.length ≤ (Item.yieldAll (xs.map V)).length := by
  induction xs with
  | nil => exact Nat.zero_le _
  | cons x xs ih =>
    simp only [List.map_cons, Item.yieldAll, List.length_append, List.length_cons]
    have := hV x; omega

theorem valueV_head (v : Value) : ∃ loc k x is, valueV v = .node loc (.tok k x :: is) ∧ k ≠ .bracketR ∧ k ≠ .curlyR := by
  cases v with
  | string s => exact ⟨_, _, _, _, rfl, by split <;> decide, by split <;> decide⟩
  | var _ | int _ _ | float _ _ | boolean _ _ | null _ | enum _ _ | list _ _ | object _ _ =>
    exact ⟨_, _, _, _, rfl, by decide, by decide⟩

theorem valueV_first (fl : Flags) (v : Value) (l : Tok) (ts : List Tok) (r : Tok × List Tok)
    (h : (valueV v).check fl l ts = some r) :
    ∃ t tl, ts = t :: tl ∧ t.kind ≠ .bracketR ∧ t.kind ≠ .curlyR := by
  obtain ⟨loc, k, x, is, e, h1, h2⟩ := valueV_head v
  rw [e] at h
  obtain ⟨t, tl, rfl, hk⟩ := node_first h
  exact ⟨t, tl, rfl, hk ▸ h1, hk ▸ h2⟩

theorem valueV_width (v : Value) : 1 ≤ (valueV v).yield.length := by
  obtain ⟨loc, k, x, is, e, _⟩ := valueV_head v
  simp [e, Item.yield, Item.yieldAll]

theorem objectFieldV_width (f : ObjectField) : 1 ≤ (objectFieldV f).yield.length := by
  cases f; simp [objectFieldV, nameV, Item.yield, Item.yieldAll]

theorem parseObjectFieldWith_takes {fl : Flags} {m : Nat} {pv : P Value} (name : Name) (value : Value) (loc : Loc)
    (hpv : Takes1 fl m pv value (valueV value) Any) :
    Takes1 fl m (parseObjectFieldWith fl pv) (.mk name value loc) (objectFieldV (.mk name value loc)) Any :=
  .node fun _ => .step (parseName_takes fl m name) <| .tok fun _ => .step hpv <| .done _ _

theorem objectFieldV_first (fl : Flags) (f : ObjectField) (l : Tok) (ts : List Tok) (r : Tok × List Tok)
    (h : (objectFieldV f).check fl l ts = some r) : NotK [.curlyR] ts := by
  rcases f with ⟨name, value, loc⟩
  rcases r with ⟨l', rest⟩
  obtain ⟨st, tl, rfl, hall, _⟩ := (check_node ..).1 h
  exact NotK.of_node_tok hall (by decide)

section
variable (fl : Flags) (n : Nat) (c : Bool) {t : Tok} (ts : List Tok) (l : Tok)

theorem parseValueLiteral_int (hk : t.kind = .int) :
    parseValueLiteral fl (n + 1) c ⟨t :: ts, l⟩ = .ok (.int t.value (locOf fl t t), ⟨ts, t⟩) := by
  simp only [parseValueLiteral, bind_eq, peek_cons, hk]
  rfl

theorem parseValueLiteral_float (hk : t.kind = .float) :
    parseValueLiteral fl (n + 1) c ⟨t :: ts, l⟩ = .ok (.float t.value (locOf fl t t), ⟨ts, t⟩) := by
  simp only [parseValueLiteral, bind_eq, peek_cons, hk]
  rfl

theorem parseValueLiteral_string (hk : t.kind = .string ∨ t.kind = .blockString) :
    parseValueLiteral fl (n + 1) c ⟨t :: ts, l⟩ =
      .ok (.string ⟨t.value, t.kind = .blockString, locOf fl t t⟩, ⟨ts, t⟩) := by
  rcases hk with hk | hk <;> simp only [parseValueLiteral, bind_eq, peek_cons, hk, parseStringLiteral_cons, pure_eq]

theorem parseValueLiteral_name (hk : t.kind = .name) :
    parseValueLiteral fl (n + 1) c ⟨t :: ts, l⟩ = .ok
      (if t.value = K.true_ ∨ t.value = K.false_ then .boolean (t.value = K.true_) (locOf fl t t)
       else if t.value = K.null_ then .null (locOf fl t t) else .enum t.value (locOf fl t t), ⟨ts, t⟩) := by
  simp only [parseValueLiteral, bind_eq, peek_cons, hk]
  split
  · rfl
  · split <;> rfl

theorem parseValueLiteral_dollar (hk : t.kind = .dollar) :
    parseValueLiteral fl (n + 1) c ⟨t :: ts, l⟩ =
      (if c then fail "Unexpected $" else parseVariable fl >>= fun v => pure (.var v)) ⟨t :: ts, l⟩ := by
  simp only [parseValueLiteral, bind_eq, peek_cons, hk]

theorem parseValueLiteral_bracketL (hk : t.kind = .bracketL) :
    parseValueLiteral fl (n + 1) c ⟨t :: ts, l⟩ =
      (anyLoop (parseValueLiteral fl n c) .bracketR n >>= fun vs =>
        mkLoc fl t >>= fun loc => pure (.list vs loc)) ⟨ts, t⟩ := by
  simp only [parseValueLiteral, bind_eq, peek_cons, hk, any_, expect_pos hk]

theorem parseValueLiteral_curlyL (hk : t.kind = .curlyL) :
    parseValueLiteral fl (n + 1) c ⟨t :: ts, l⟩ =
      (anyLoop (parseObjectFieldWith fl (parseValueLiteral fl n c)) .curlyR n >>= fun fs =>
        mkLoc fl t >>= fun loc => pure (.object fs loc)) ⟨ts, t⟩ := by
  simp only [parseValueLiteral, bind_eq, peek_cons, hk, expect_pos hk]

end

theorem parseValueLiteral_complete (fl : Flags) : ∀ (n : Nat) (c : Bool) (v : Value) (l l' : Tok) (ts rest : List Tok),
    wfValue c v = true → width (valueV v) ≤ n →
    (valueV v).check fl l ts = some (l', rest) →
    parseValueLiteral fl n c ⟨ts, l⟩ = .ok (v, ⟨rest, l'⟩) := by
  intro n
  induction n with
  | zero =>
    intro c v l l' ts rest _ hw
    exact (Nat.not_succ_le_zero 0 (Nat.le_trans (valueV_width v) hw)).elim
  | succ n ih =>
    intro c v l l' ts rest w hw h
    cases v with
    | var var_ =>
      obtain ⟨t, tl, rfl, hk⟩ := node_first h
      have hc : c = false := by simpa [wfValue] using w
      rw [parseValueLiteral_dollar fl n c tl l hk, hc]
      exact bind_run (parseVariable_takes fl _ var_ l _ l' rest (Nat.le_refl _) h trivial) rfl
    | int val loc =>
      obtain ⟨t, rfl, hc, rfl, rfl⟩ := (check_leaf ..).1 h
      rw [parseValueLiteral_int fl n c rest l (cls_kind hc), cls_value hc rfl]
    | float val loc =>
      obtain ⟨t, rfl, hc, rfl, rfl⟩ := (check_leaf ..).1 h
      rw [parseValueLiteral_float fl n c rest l (cls_kind hc), cls_value hc rfl]
    | string sv =>
      obtain ⟨cs, t, tl, rfl, hk⟩ := parseStringLiteral_complete fl sv l l' ts rest h
      have hk' : t.kind = .string ∨ t.kind = .blockString := by rw [hk]; cases sv.block <;> simp
      rw [parseValueLiteral_string fl n c tl l hk']
      rw [parseStringLiteral_cons] at cs
      cases cs
      rfl
    | boolean b loc =>
      obtain ⟨t, rfl, hc, rfl, rfl⟩ := (check_leaf ..).1 h
      obtain ⟨hk, hv⟩ := cls_kw_inv hc
      cases b
      · have hv' : l'.value = K.false_ := hv
        rw [parseValueLiteral_name fl n c rest l hk, hv', if_pos (Or.inr rfl)]
        rfl
      · have hv' : l'.value = K.true_ := hv
        rw [parseValueLiteral_name fl n c rest l hk, hv', if_pos (Or.inl rfl)]
        rfl
    | null loc =>
      obtain ⟨t, rfl, hc, rfl, rfl⟩ := (check_leaf ..).1 h
      obtain ⟨hk, hv⟩ := cls_kw_inv hc
      rw [parseValueLiteral_name fl n c rest l hk, hv]
      rfl
    | enum val loc =>
      obtain ⟨t, rfl, hc, rfl, rfl⟩ := (check_leaf ..).1 h
      obtain ⟨hk, hv⟩ := cls_kw_inv hc
      simp only [wfValue, notBoolNull, decide_eq_true_eq] at w
      rw [parseValueLiteral_name fl n c rest l hk, hv, if_neg (not_or.2 ⟨w.1, w.2.1⟩), if_neg w.2.2]
    | list vs loc =>
      simp only [valueV, valuesV_eq, check_node, checkAll_cons, check_tok] at h
      obtain ⟨f, tl, rfl, ⟨l1, ts1, ⟨t, h1, hc, rfl⟩, hall⟩, rfl⟩ := h
      cases h1
      have hwid : (Item.yieldAll (vs.map valueV)).length + 2 ≤ n + 1 := by
        simp [width, valueV, valuesV_eq, Item.yield, Item.yieldAll, yieldAll_append] at hw; omega
      have hlen := length_le_yieldAll valueV valueV_width vs
      have hp : ∀ x ∈ vs, Takes1 fl tl.length (parseValueLiteral fl n c) x (valueV x) Any := by
        intro x hx l ts l' rest _ hx' _
        have := yieldAll_mem_le valueV vs x hx
        exact ih c x l l' ts rest ((wfValues_eq ..).1 w x hx) (by simp only [width]; omega) hx'
      have hfirst : ∀ x ∈ vs, ∀ l ts r, (valueV x).check fl l ts = some r → NotK [.bracketR] ts := by
        intro x _ l ts r hx'
        obtain ⟨t, tl, e, h1, _⟩ := valueV_first fl x l ts _ hx'
        exact e ▸ NotK.cons (by simpa using h1)
      rw [parseValueLiteral_bracketL fl n c tl l (cls_kind hc)]
      exact bind_run (anyLoop_takes n vs hp hfirst (by omega) f tl l' rest (Nat.le_refl _) hall trivial) rfl
    | object fs loc =>
      simp only [valueV, fieldsV_eq, check_node, checkAll_cons, check_tok] at h
      obtain ⟨f, tl, rfl, ⟨l1, ts1, ⟨t, h1, hc, rfl⟩, hall⟩, rfl⟩ := h
      cases h1
      have hwid : (Item.yieldAll (fs.map objectFieldV)).length + 2 ≤ n + 1 := by
        simp [width, valueV, fieldsV_eq, Item.yield, Item.yieldAll, yieldAll_append] at hw; omega
      have hlen := length_le_yieldAll objectFieldV objectFieldV_width fs
      have hp : ∀ x ∈ fs, Takes1 fl tl.length (parseObjectFieldWith fl (parseValueLiteral fl n c)) x (objectFieldV x)
          Any := by
        intro x hx
        have := yieldAll_mem_le objectFieldV fs x hx
        have wx := (wfFields_eq ..).1 w _ hx
        rcases x with ⟨name, value, loc'⟩
        refine parseObjectFieldWith_takes name value loc' fun l ts l' rest _ hv _ => ih c value l l' ts rest wx ?_ hv
        simp [objectFieldV, Item.yield, Item.yieldAll] at this
        simp only [width]; omega
      rw [parseValueLiteral_curlyL fl n c tl l (cls_kind hc)]
      exact bind_run (anyLoop_takes n fs hp (fun x _ => objectFieldV_first fl x) (by omega) f tl l' rest (Nat.le_refl _)
        hall trivial) rfl

theorem parseValueLiteral_takes (fl : Flags) (n : Nat) (c : Bool) (v : Value) (w : wfValue c v = true) :
    Takes1 fl n (parseValueLiteral fl n c) v (valueV v) Any :=
  fun l ts l' rest hn h _ => parseValueLiteral_complete fl n c v l l' ts rest w (Nat.le_trans (check_yield_le h) hn) h

end PyGql.Parse
