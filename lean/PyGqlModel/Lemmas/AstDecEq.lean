/-
  Equality of value nodes is decidable (the `deriving` handler does not cover the nested type), so that the result of a
  run of the parser model on a concrete text can be compared with the expected tree by evaluation.
-/
import PyGqlModel.Ast

namespace PyGql.Ast

mutual
def decEqValue (a b : Value) : Decidable (a = b) := by
  cases a <;> cases b
  case var.var x y => exact decidable_of_iff (x = y) (Value.var.injEq ..).symm.to_iff
  case int.int x l y m => exact decidable_of_iff (x = y ∧ l = m) (Value.int.injEq ..).symm.to_iff
  case float.float x l y m => exact decidable_of_iff (x = y ∧ l = m) (Value.float.injEq ..).symm.to_iff
  case string.string x y => exact decidable_of_iff (x = y) (Value.string.injEq ..).symm.to_iff
  case boolean.boolean x l y m => exact decidable_of_iff (x = y ∧ l = m) (Value.boolean.injEq ..).symm.to_iff
  case null.null l m => exact decidable_of_iff (l = m) (Value.null.injEq ..).symm.to_iff
  case enum.enum x l y m => exact decidable_of_iff (x = y ∧ l = m) (Value.enum.injEq ..).symm.to_iff
  case list.list x l y m =>
    exact @decidable_of_iff _ (x = y ∧ l = m) (Value.list.injEq ..).symm.to_iff (@instDecidableAnd _ _ (decEqValues x y) _)
  case object.object x l y m =>
    exact @decidable_of_iff _ (x = y ∧ l = m) (Value.object.injEq ..).symm.to_iff (@instDecidableAnd _ _ (decEqFields x y) _)
  all_goals exact isFalse (fun h => by cases h)
def decEqValues (a b : List Value) : Decidable (a = b) := by
  cases a <;> cases b
  case nil.nil => exact isTrue rfl
  case cons.cons x xs y ys =>
    exact @decidable_of_iff _ (x = y ∧ xs = ys) (List.cons.injEq ..).symm.to_iff
      (@instDecidableAnd _ _ (decEqValue x y) (decEqValues xs ys))
  all_goals exact isFalse (fun h => by cases h)
def decEqFields (a b : List ObjectField) : Decidable (a = b) := by
  cases a <;> cases b
  case nil.nil => exact isTrue rfl
  case cons.cons x xs y ys =>
    cases x
    cases y
    rename_i n v l n' v' l'
    exact @decidable_of_iff _ ((n = n' ∧ v = v' ∧ l = l') ∧ xs = ys) (by rw [List.cons.injEq, ObjectField.mk.injEq])
      (@instDecidableAnd _ _ (@instDecidableAnd _ _ _ (@instDecidableAnd _ _ (decEqValue v v') _)) (decEqFields xs ys))
  all_goals exact isFalse (fun h => by cases h)
end

instance : DecidableEq Value := decEqValue

end PyGql.Ast
