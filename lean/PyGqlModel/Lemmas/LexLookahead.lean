/-
  The number look-ahead restriction of `_read_number` ("Explicit lookahead restrictions", pinned by
  tests/test_lang/test_lexer.py::test_useful_number_errors): EVERY IntValue / FloatValue lexeme directly followed by a
  NameStart character (other than an exponent indicator) is rejected with `UnexpectedCharacter` at that character.
-/
import PyGqlModel.Lemmas.LexCompleteNum

namespace PyGql.Lex
open PyGql.Spec.Lexical

/-- IntegerPart FractionalPart? ExponentPart? (IntValue or FloatValue) -/
def NumShape (w : Text) : Prop :=
  ∃ ip frac exp, w = ip ++ (frac ++ exp) ∧ Spec.Lexical.isIntegerPart ip = true ∧
    (frac = [] ∨ Spec.Lexical.isFractionalPart frac = true) ∧ (exp = [] ∨ Spec.Lexical.isExponentPart exp = true)

theorem numShape_of_number (w : Text) (h : isIntValue w = true ∨ isFloatValue w = true) : NumShape w := by
  rcases h with h | h
  · exact ⟨w, [], [], by simp, h, Or.inl rfl, Or.inl rfl⟩
  · obtain ⟨ip, frac, exp, e, a, b, c, _⟩ := floatShape_of_isFloatValue w h
    exact ⟨ip, frac, exp, e, a, b, c⟩

theorem next_number_glued (n : Nat) (w : Text) (c : Nat) (t : Text) (hw : NumShape w)
    (hc : Spec.Lexical.isNameStart c = true) (he : c ≠ 101 ∧ c ≠ 69) :
    next n (w ++ c :: t) = .error ⟨.unexpectedCharacter, posAt n (c :: t)⟩ := by
  obtain ⟨ip, frac, exp, rfl, hip, hf, hex⟩ := hw
  have hcns : Lex.isNameStart c = true := by rw [isNameStart_spec]; exact hc
  have hn : c = 95 ∨ (65 ≤ c ∧ c ≤ 90) ∨ (97 ≤ c ∧ c ≤ 122) := by
    simpa [Spec.Lexical.isNameStart, Spec.Lexical.isLetter] using hc
  have hcd : Lex.isDigit c = false := by
    rw [isDigit_spec, Bool.eq_false_iff]
    simp only [Spec.Lexical.isDigit, ne_eq, Bool.and_eq_true, decide_eq_true_eq]
    omega
  have hnd : NoDigitHead (c :: t) := fun x u e => by cases e; exact hcd
  have hee : ∀ x u, c :: t = x :: u → ¬ (x = 101 ∨ x = 69) := fun x u e => by cases e; omega
  obtain ⟨nd1, nd2, h46⟩ := float_tail_heads frac exp (c :: t) hf hex hnd
  have h46' : frac = [] → ∀ x u, exp ++ c :: t = x :: u → x ≠ 46 := by
    intro hfr x u e
    by_cases hexp : exp = []
    · subst hexp; cases e; omega
    · exact h46 hfr hexp x u e
  rw [List.append_assoc, List.append_assoc, next_integerPart n hip nd1]
  simp only [numberTail, readFraction_frac n frac (exp ++ c :: t) hf h46' nd2, readExponent_exp n exp (c :: t) hex hnd hee,
    numberLookahead, hcns, bind, Except.bind, Except.map, ↓reduceIte]

end PyGql.Lex
