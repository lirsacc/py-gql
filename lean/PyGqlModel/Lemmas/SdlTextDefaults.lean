/-
  C12 text level — literals (`litText`, the text of default values and of the arguments of applied directives) against
  the values of the denoted document.
-/
import PyGqlModel.Lemmas.SdlTextBase
import PyGqlModel.Lemmas.PrintLayTokens
import PyGqlModel.Lemmas.SdlLitInduction
namespace PyGql.SdlText
open PyGql PyGql.Ast PyGql.Sdl PyGql.Spec PyGql.PrintLex PyGql.PrintTokens PyGql.PrintMatch PyGql.PrintString PyGql.SdlPrint PyGql.Parse

/-! ### the characters of a number lexeme -/

def numChar (c : Nat) : Bool := Spec.Lexical.isDigit c || c == 43 || c == 45 || c == 46 || c == 101 || c == 69

theorem numChar_notWs (c : Nat) (h : numChar c = true) : SdlPrintT.isWs c = false := by
  apply notWs_of_range
  simp [numChar, Spec.Lexical.isDigit] at h
  omega

theorem digits_numChar {d : Nat} {ds : Text} (h : (Spec.Lexical.isDigit d && ds.all Spec.Lexical.isDigit) = true) :
    ∀ c ∈ d :: ds, numChar c = true := by
  simp only [Bool.and_eq_true, List.all_eq_true] at h
  intro c hc
  rcases List.mem_cons.1 hc with rfl | hc
  · simp [numChar, h.1]
  · simp [numChar, h.2 c hc]

theorem integerPart_numChar {w : Text} (h : Spec.Lexical.isIntegerPart w = true) : ∀ c ∈ w, numChar c = true := by
  have hs : ∀ c ∈ w, c = 45 ∨ c ∈ Spec.Lexical.stripNegativeSign w := by
    intro c hc
    unfold Spec.Lexical.stripNegativeSign
    split
    · simpa using hc
    · exact Or.inr hc
  intro c hc
  rcases hs c hc with rfl | hc
  · rfl
  · unfold Spec.Lexical.isIntegerPart at h
    split at h
    · cases h
    · rename_i d ds heq
      rw [heq] at hc
      refine digits_numChar (d := d) (ds := ds) ?_ c hc
      simp only [Bool.or_eq_true, Bool.and_eq_true, beq_iff_eq, List.isEmpty_iff] at h
      rcases h with ⟨rfl, rfl⟩ | ⟨hd, hds⟩
      · rfl
      · simp only [Spec.Lexical.isNonZeroDigit, Bool.and_eq_true, decide_eq_true_eq] at hd
        simp only [Spec.Lexical.isDigit, hds, Bool.and_true, Bool.and_eq_true, decide_eq_true_eq]
        omega

theorem float_numChar {w : Text} (h : Spec.Lexical.isFloatValue w = true) : ∀ c ∈ w, numChar c = true := by
  obtain ⟨ip, frac, exp, rfl, hip, hf, he, _⟩ := floatShape_of_isFloatValue w h
  intro c hc
  simp only [List.mem_append] at hc
  rcases hc with hc | hc | hc
  · exact integerPart_numChar hip c hc
  · rcases hf with rfl | hf
    · cases hc
    · unfold Spec.Lexical.isFractionalPart at hf
      split at hf
      · rcases List.mem_cons.1 hc with rfl | hc
        · rfl
        · exact digits_numChar hf c hc
      · cases hf
  · rcases he with rfl | he
    · cases hc
    · cases exp with
      | nil => cases hc
      | cons i r =>
        simp only [Spec.Lexical.isExponentPart, Bool.and_eq_true, Bool.or_eq_true, beq_iff_eq] at he
        have hs : ∀ c ∈ r, c = 43 ∨ c = 45 ∨ c ∈ Spec.Lexical.stripSign r := by
          intro c hc
          unfold Spec.Lexical.stripSign
          split
          · rcases List.mem_cons.1 hc with h | h
            · exact Or.inl h
            · exact Or.inr (Or.inr h)
          · exact Or.inr (List.mem_cons.1 hc)
          · exact Or.inr (Or.inr hc)
        rcases List.mem_cons.1 hc with rfl | hc
        · rcases he.1 with h | h <;> subst h <;> rfl
        · rcases hs c hc with rfl | rfl | hc
          · rfl
          · rfl
          · have h2 := he.2
            split at h2
            · rename_i d ds heq
              rw [heq] at hc
              exact digits_numChar h2 c hc
            · cases h2

theorem endsNW_of_numChars {w : Text} (hne : w ≠ []) (h : ∀ c ∈ w, numChar c = true) : EndsNW w := by
  cases hl : w.getLast? with
  | none => exact absurd (List.getLast?_eq_none_iff.1 hl) hne
  | some c => exact ⟨c, hl, numChar_notWs c (h c (List.mem_of_getLast? hl))⟩


theorem okValueOf_all (ind : Text) :
    (∀ l, litOK l = true → okValue ind (valueOf l)) ∧ (∀ l, litsOK l = true → okValues ind (valuesOf l)) ∧
    ∀ fs, fieldsOK fs = true → okFields ind (fieldsOf fs) := by
  refine lit_induction ?_ (fun _ => trivial) ?_ (fun _ => trivial) ?_
  · intro l hl hf h
    cases l with
    | list x => exact hl x rfl h
    | obj x => exact hf x rfl h
    | «enum» v => simp only [litOK, Bool.and_eq_true, nameOK] at h; exact h.1
    | int v _ => exact h
    | float v _ => exact h
    | str x => exact fun hb => nomatch hb
    | _ => exact True.intro
  · intro v vs hv hvs h
    simp only [litsOK, Bool.and_eq_true] at h
    exact ⟨hv h.1, hvs h.2⟩
  · intro k v fs hv hfs h
    simp only [fieldsOK, Bool.and_eq_true, nameOK] at h
    exact ⟨⟨h.1.1, hv h.1.2⟩, hfs h.2⟩

theorem okValue_valueOf (ind : Text) : ∀ (l : Lit), litOK l = true → okValue ind (valueOf l) := (okValueOf_all ind).1
theorem okValues_valuesOf (ind : Text) : ∀ (l : List Lit), litsOK l = true → okValues ind (valuesOf l) := (okValueOf_all ind).2.1
theorem okFields_fieldsOf (ind : Text) : ∀ (fs : List (String × Lit)), fieldsOK fs = true → okFields ind (fieldsOf fs) :=
  (okValueOf_all ind).2.2

theorem litTextOf_all (c : Print.Cfg) :
    (∀ l, litOK l = true → SdlPrintT.litText l = Print.printValue c (valueOf l)) ∧
    (∀ l, litsOK l = true → SdlPrintT.litTexts l = Print.printValues c (valuesOf l)) ∧
    ∀ fs, fieldsOK fs = true → SdlPrintT.fieldTexts fs = Print.printObjectFields c (fieldsOf fs) := by
  refine lit_induction ?_ (fun _ => rfl) ?_ (fun _ => rfl) ?_
  · intro l hl hf h
    cases l with
    | null => simp [SdlPrintT.litText, valueOf, Print.printValue]; decide
    | bool b => cases b <;> simp [SdlPrintT.litText, valueOf, Print.printValue] <;> decide
    | list x =>
      simp only [litOK] at h
      have hne := printValues_ne' c (valuesOf x) (okValues_valuesOf c.indent x h)
      simp only [SdlPrintT.litText, valueOf, Print.printValue, join_eq_joinSep _ _ hne, joinSep_eq, hl x rfl h]
    | obj x =>
      simp only [litOK] at h
      have hne := printObjectFields_ne c (fieldsOf x)
      simp only [SdlPrintT.litText, valueOf, Print.printValue, join_eq_joinSep _ _ hne, joinSep_eq, hf x rfl h]
    | _ => rfl
  · intro v vs hv hvs h
    simp only [litsOK, Bool.and_eq_true] at h
    simp [SdlPrintT.litTexts, valuesOf, Print.printValues, hv h.1, hvs h.2]
  · intro k v fs hv hfs h
    simp only [fieldsOK, Bool.and_eq_true] at h
    simp [SdlPrintT.fieldTexts, fieldsOf, Print.printObjectFields, Print.printObjectField, nameOf, hv h.1.2, hfs h.2]

theorem litText_eq (c : Print.Cfg) : ∀ (l : Lit), litOK l = true → SdlPrintT.litText l = Print.printValue c (valueOf l) :=
  (litTextOf_all c).1
theorem litTexts_eq (c : Print.Cfg) : ∀ (l : List Lit), litsOK l = true → SdlPrintT.litTexts l = Print.printValues c (valuesOf l) :=
  (litTextOf_all c).2.1
theorem fieldTexts_eq (c : Print.Cfg) : ∀ (fs : List (String × Lit)), fieldsOK fs = true →
    SdlPrintT.fieldTexts fs = Print.printObjectFields c (fieldsOf fs) :=
  (litTextOf_all c).2.2

theorem lay_litText (l : Lit) (h : litOK l = true) : Lay (SdlPrintT.litText l) (valueV (valueOf l)).yield := by
  rw [litText_eq (Print.mkCfg) l h]
  exact lay_value _ _ (okValue_valueOf _ l h)

theorem endsNW_litText (l : Lit) (h : litOK l = true) : EndsNW (SdlPrintT.litText l) := by
  cases l with
  | null => exact endsNW_name (w := T "null") (by decide +kernel)
  | int v f =>
    simp only [litOK] at h
    refine endsNW_of_numChars ?_ (integerPart_numChar h)
    intro e
    have e' : T v = [] := by simpa [SdlPrintT.litText] using e
    rw [e'] at h
    simp [Spec.Lexical.isIntValue, Spec.Lexical.isIntegerPart, Spec.Lexical.stripNegativeSign] at h
  | float v f =>
    simp only [litOK] at h
    exact endsNW_of_numChars (floatLexeme_of_isFloatValue _ h).1 (float_numChar h)
  | str x => exact endsNW_snoc (34 :: jsonEscape (T x)) 34 (by decide)
  | bool b =>
    cases b
    · exact endsNW_name (w := T "false") (by decide +kernel)
    · exact endsNW_name (w := T "true") (by decide +kernel)
  | «enum» v => simp only [litOK, Bool.and_eq_true, nameOK] at h; exact endsNW_name h.1
  | list l => exact endsNW_snoc (91 :: SdlPrintT.joinSep [44, 32] (SdlPrintT.litTexts l)) 93 (by decide)
  | obj fs => exact endsNW_snoc (123 :: SdlPrintT.joinSep [44, 32] (SdlPrintT.fieldTexts fs)) 125 (by decide)

end PyGql.SdlText
