/-
  Layout-robust lexing: `Lay w cs` — the text `w`, whose LFs are layout (between tokens, or inside block strings that
  re-decode to the same value), lexes to the classes `cs` in front of every safe rest and under EVERY additional
  indentation `P` inserted after each LF (`_indent` = `replaceLF P`).  This is the enabling notion for everything the
  printer nests inside `_block` (selection sets, field blocks): `Lay` is closed under concatenation and under `_indent`.
-/
import PyGqlModel.Lemmas.PrintLex
namespace PyGql.PrintLex
open PyGql PyGql.Lex PyGql.Spec PyGql.PrintString

def Blank (p : Text) : Prop := ∀ c ∈ p, c = 32 ∨ c = 9

/-- continuation style: whatever safe rest `r` lexes to, `w` in front of it adds the classes `cs` — so that `Lay` texts
    concatenate (`lay_append`) — and this under every indentation `P` put after the line feeds of `w` -/
def Lay (w : Text) (cs : List TokClass) : Prop :=
  ∀ P, Blank P → ∀ r cs', Safe r → LexesTo r cs' → LexesTo (replaceLF P w ++ r) (cs ++ cs')

/-- what may stand behind a name or number: the text is empty or starts with a delimiter -/
def DelimHead (w : Text) : Prop := ∀ c t, w = c :: t → isDelim c = true

theorem delimHead_nil : DelimHead [] := by intro c t h; cases h
theorem delimHead_cons {c : Nat} {t : Text} (h : isDelim c = true) : DelimHead (c :: t) := by
  intro c' t' e; cases e; exact h

theorem replaceLF_append (P a b : Text) : replaceLF P (a ++ b) = replaceLF P a ++ replaceLF P b := by
  induction a with
  | nil => simp [replaceLF]
  | cons c t ih =>
    simp only [List.cons_append, replaceLF]
    split <;> simp [ih]

theorem replaceLF_noLF (P w : Text) (h : ∀ c ∈ w, c ≠ 10) : replaceLF P w = w := by
  induction w with
  | nil => rfl
  | cons c t ih =>
    have hc := h c (by simp)
    simp [replaceLF, hc, ih (fun x hx => h x (by simp [hx]))]

theorem blank_noLF {P : Text} (h : Blank P) : ∀ c ∈ P, c ≠ 10 := by
  intro c hc; rcases h c hc with e | e <;> omega

theorem replaceLF_replaceLF (P Q w : Text) (hQ : Blank Q) :
    replaceLF P (replaceLF Q w) = replaceLF (P ++ Q) w := by
  induction w with
  | nil => rfl
  | cons c t ih =>
    simp only [replaceLF]
    split
    · simp only [replaceLF, ↓reduceIte, replaceLF_append, replaceLF_noLF P Q (blank_noLF hQ), ih, List.append_assoc]
    · rename_i hc; simp [replaceLF, hc, ih]

theorem blank_append {P Q : Text} (hP : Blank P) (hQ : Blank Q) : Blank (P ++ Q) := by
  intro c hc
  rcases List.mem_append.1 hc with h | h
  · exact hP c h
  · exact hQ c h

theorem blank_nil : Blank [] := by intro c hc; cases hc

theorem lexesTo_blank {P s : Text} {cs : List TokClass} (hP : Blank P) (h : LexesTo s cs) : LexesTo (P ++ s) cs := by
  induction P with
  | nil => simpa using h
  | cons c t ih =>
    have hc : isIgnored c = true := by rcases hP c (by simp) with e | e <;> subst e <;> decide +kernel
    exact lexesTo_ignored hc (ih (fun x hx => hP x (by simp [hx])))

theorem safe_replaceLF {P b r : Text} (hb : DelimHead b) (hr : Safe r) : Safe (replaceLF P b ++ r) := by
  cases b with
  | nil => simpa [replaceLF] using hr
  | cons c t =>
    have hc := hb c t rfl
    simp only [replaceLF]
    split
    · exact safe_cons (by decide +kernel)
    · exact safe_cons hc

theorem lay_nil : Lay [] [] := by
  intro P _ r cs' _ h; simpa [replaceLF] using h

theorem lay_append {a b : Text} {ca cb : List TokClass} (ha : Lay a ca) (hb : Lay b cb) (hd : DelimHead b) :
    Lay (a ++ b) (ca ++ cb) := by
  intro P hP r cs' hr h
  have h1 := hb P hP r cs' hr h
  have h2 := ha P hP _ _ (safe_replaceLF (P := P) hd hr) h1
  simpa [replaceLF_append, List.append_assoc] using h2

theorem lay_of_seg {w : Text} {cs : List TokClass} (hn : ∀ c ∈ w, c ≠ 10)
    (h : ∀ r cs', Safe r → LexesTo r cs' → LexesTo (w ++ r) (cs ++ cs')) : Lay w cs := by
  intro P _ r cs' hr hl
  rw [replaceLF_noLF P w hn]; exact h r cs' hr hl

theorem lay_punct_cons {c : Nat} {k : TokKind} {b : Text} {cb : List TokClass} (hk : symbolKind c = some k)
    (hb : Lay b cb) : Lay (c :: b) ((k, []) :: cb) := by
  intro P hP r cs' hr hl
  have := lexesTo_punct hk (hb P hP r cs' hr hl)
  simpa [replaceLF, (symbol_facts hk).2.2.2.1] using this

theorem lay_ignored_cons {c : Nat} {b : Text} {cb : List TokClass} (hc : isIgnored c = true) (h10 : c ≠ 10)
    (hb : Lay b cb) : Lay (c :: b) cb := by
  intro P hP r cs' hr hl
  have := lexesTo_ignored hc (hb P hP r cs' hr hl)
  simpa [replaceLF, h10] using this

theorem lay_space_cons {b : Text} {cb : List TokClass} (hb : Lay b cb) : Lay (32 :: b) cb :=
  lay_ignored_cons (by decide +kernel) (by decide +kernel) hb
theorem lay_comma_cons {b : Text} {cb : List TokClass} (hb : Lay b cb) : Lay (44 :: b) cb :=
  lay_ignored_cons (by decide +kernel) (by decide +kernel) hb

theorem lay_lf_cons {b : Text} {cb : List TokClass} (hb : Lay b cb) : Lay (10 :: b) cb := by
  intro P hP r cs' hr hl
  have := lexesTo_lf (lexesTo_blank hP (hb P hP r cs' hr hl))
  simpa [replaceLF] using this

theorem lay_blank_prefix {Q b : Text} {cb : List TokClass} (hQ : Blank Q) (hb : Lay b cb) : Lay (Q ++ b) cb := by
  intro P hP r cs' hr hl
  have := lexesTo_blank hQ (hb P hP r cs' hr hl)
  simpa [replaceLF_append, replaceLF_noLF P Q (blank_noLF hQ)] using this

theorem lay_replaceLF {Q w : Text} {cs : List TokClass} (hQ : Blank Q) (h : Lay w cs) : Lay (replaceLF Q w) cs := by
  intro P hP r cs' hr hl
  rw [replaceLF_replaceLF P Q w hQ]
  exact h (P ++ Q) (blank_append hP hQ) r cs' hr hl

theorem lay_indentText {Q w : Text} {cs : List TokClass} (hQ : Blank Q) (h : Lay w cs) : Lay (indentText w Q) cs := by
  unfold indentText
  cases w with
  | nil => simpa using h
  | cons c t => simpa using lay_blank_prefix hQ (lay_replaceLF hQ h)

theorem replaceLF_nil (w : Text) : replaceLF [] w = w := by
  induction w with
  | nil => rfl
  | cons c t ih => simp only [replaceLF]; split <;> simp_all

theorem lexesTo_of_lay {w : Text} {cs : List TokClass} (h : Lay w cs) (r : Text) (cs' : List TokClass) (hr : Safe r)
    (hl : LexesTo r cs') : LexesTo (w ++ r) (cs ++ cs') := by
  have := h [] blank_nil r cs' hr hl
  rwa [replaceLF_nil] at this

/-- `_wrap(" ", x)` -/
theorem lay_wrap_space {b : Text} {cb : List TokClass} (hb : Lay b cb) :
    Lay (if b.isEmpty then [] else 32 :: b) cb := by
  cases b with
  | nil => simpa using hb
  | cons c t => simpa using lay_space_cons hb

end PyGql.PrintLex
