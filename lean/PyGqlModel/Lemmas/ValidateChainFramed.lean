/-
  THE VERDICT OF A CHAIN IS THE CONJUNCTION OF ITS MEMBERS RUN ALONE: the rule state.

  For any rule-enter function `er` with the frame properties of `Lemmas/ValidateChainFrame.lean` (`Framed`; instances:
  `enterRule`, and `enterRuleM` = the memoised overlap search /repo runs), the rule state of the chain and the rule state
  of rule `r` run alone stay related (`RelRS`: same own part, the errors of the lone run are the errors of `r` in the
  chain) when a member enters or leaves a node, and when the whole list of members does (`enterRulesPar_rel`,
  `leaveFold_rel`). `Lemmas/ValidateChainSilent.lean` adds `TypeInfoVisitor` and the `SkipNode` handling.
-/
import PyGqlModel.Validate.ChainPar
import PyGqlModel.Lemmas.ValidateChainFrame
namespace PyGql.Validate
open PyGql

/-- what the decomposition needs of a rule-enter function -/
structure Framed (er : ER) : Prop where
  flag : ∀ (s : SchemaD) (fx : Fixes) (r : Rule) (n : Node) (ti : TI) (a : RS), (er s fx r n ti a).2 = (er s fx r n ti (a.own r)).2
  own : ∀ (s : SchemaD) (fx : Fixes) (r : Rule) (n : Node) (ti : TI) (a : RS), ((er s fx r n ti a).1).own r = ((er s fx r n ti (a.own r)).1).own r
  errs : ∀ (s : SchemaD) (fx : Fixes) (r : Rule) (n : Node) (ti : TI) (a : RS), (er s fx r n ti a).1.errs = (er s fx r n ti (a.own r)).1.errs ++ a.errs
  mine : ∀ (s : SchemaD) (fx : Fixes) (r : Rule) (n : Node) (ti : TI) (a : RS), ∀ x ∈ (er s fx r n ti (a.own r)).1.errs, x = r
  put : ∀ (s : SchemaD) (fx : Fixes) (r : Rule) (n : Node) (ti : TI) (a : RS), (er s fx r n ti a).1 = RS.put r a (er s fx r n ti a).1
  skip : ∀ (s : SchemaD) (fx : Fixes) (r : Rule) (n : Node) (ti : TI) (a : RS), (er s fx r n ti a).2 = true → a.errs.length < (er s fx r n ti a).1.errs.length

/-- the chain state `a` and the state `b` of rule `r` run alone: same own part; the errors of the lone run are the
    errors of `r` in the chain -/
def RelRS (r : Rule) (a b : RS) : Prop := a.own r = b.own r ∧ b.errs = a.errs.filter (· == r)

theorem filter_mine (r : Rule) (X : List Rule) (h : ∀ x ∈ X, x = r) : X.filter (· == r) = X :=
  List.filter_eq_self.mpr fun x hx => by simp [h x hx]

theorem filter_other (r r' : Rule) (hne : r' ≠ r) (X : List Rule) (h : ∀ x ∈ X, x = r') : X.filter (· == r) = [] :=
  List.filter_eq_nil_iff.mpr fun x hx => by simp [h x hx, hne]

section
variable {er : ER} (F : Framed er) (s : SchemaD) (fx : Fixes) (n : Node) (ti : TI)
include F

theorem er_self {r : Rule} {a b : RS} (h : RelRS r a b) :
    RelRS r (er s fx r n ti a).1 (er s fx r n ti b).1 ∧ (er s fx r n ti a).2 = (er s fx r n ti b).2 := by
  refine ⟨⟨?_, ?_⟩, ?_⟩
  · rw [F.own, F.own s fx r n ti b, h.1]
  · rw [F.errs s fx r n ti b, F.errs s fx r n ti a, List.filter_append, h.2, h.1,
      filter_mine r _ (F.mine s fx r n ti b)]
  · rw [F.flag, F.flag s fx r n ti b, h.1]

theorem er_other {r r' : Rule} (hne : r' ≠ r) {a b : RS} (h : RelRS r a b) : RelRS r (er s fx r' n ti a).1 b := by
  refine ⟨?_, ?_⟩
  · rw [F.put, RS.own_put_ne r r' (Ne.symm hne)]; exact h.1
  · rw [F.errs s fx r' n ti a, List.filter_append, filter_other r r' hne _ (F.mine s fx r' n ti a), List.nil_append]
    exact h.2

theorem er_mono (r : Rule) (a : RS) : a.errs.length ≤ (er s fx r n ti a).1.errs.length := by
  rw [F.errs]; simp

theorem er_errsIn (L : List Rule) (r : Rule) (hr : r ∈ L) (a : RS) (h : ∀ x ∈ a.errs, x ∈ L) :
    ∀ x ∈ (er s fx r n ti a).1.errs, x ∈ L := by
  intro x hx
  rw [F.errs] at hx
  rcases List.mem_append.mp hx with hx | hx
  · rw [F.mine s fx r n ti a x hx]; exact hr
  · exact h x hx

end

theorem enterRule_framed : Framed enterRule :=
  ⟨enterRule_flag, enterRule_own, enterRule_errs, enterRule_errs_mine, enterRule_put,
    fun s fx r n ti a => (enterRule_step s fx ti a r n).skip_lt⟩

/-- `enterRuleM` is `enterRule` but for the search in one entry of the table -/
theorem enterRuleM_step (fuel : Nat) (s : SchemaD) (fx : Fixes) (ti : TI) (a : RS) (r : Rule) (n : Node) :
    FramedStep r a (enterRuleM fuel s fx r n ti a) (enterRuleM fuel s fx r n ti (a.own r)) := by
  cases r with
  | overlappingFieldsCanBeMerged =>
    cases n with
    | selectionSet ssid sels => exact .overlap a (withinSelectionSetM s fx fuel ti.parentType ssid sels a.octx)
    | _ => exact enterRule_step s fx ti a _ _
  | _ => exact enterRule_step s fx ti a _ n

/-! the same for `leaveRule`: it is a framed rule-enter function that never raises `SkipNode` -/

def leaveER : ER := fun s fx r n ti a => (leaveRule s fx r n ti a, false)

theorem framed_leaveER : Framed leaveER :=
  ⟨fun _ _ _ _ _ _ => rfl, leaveRule_own, leaveRule_errs, leaveRule_errs_mine, leaveRule_put,
    fun _ _ _ _ _ _ h => absurd h Bool.false_ne_true⟩

theorem lr_self (s : SchemaD) (fx : Fixes) (n : Node) (ti : TI) {r : Rule} {a b : RS} (h : RelRS r a b) :
    RelRS r (leaveRule s fx r n ti a) (leaveRule s fx r n ti b) :=
  (er_self framed_leaveER s fx n ti h).1

theorem lr_other (s : SchemaD) (fx : Fixes) (n : Node) (ti : TI) {r r' : Rule} (hne : r' ≠ r) {a b : RS}
    (h : RelRS r a b) : RelRS r (leaveRule s fx r' n ti a) b :=
  er_other framed_leaveER s fx n ti hne h

theorem lr_mono (s : SchemaD) (fx : Fixes) (n : Node) (ti : TI) (r : Rule) (a : RS) :
    a.errs.length ≤ (leaveRule s fx r n ti a).errs.length :=
  er_mono framed_leaveER s fx n ti r a

theorem lr_errsIn (s : SchemaD) (fx : Fixes) (n : Node) (ti : TI) (L : List Rule) (r : Rule) (hr : r ∈ L) (a : RS)
    (h : ∀ x ∈ a.errs, x ∈ L) : ∀ x ∈ (leaveRule s fx r n ti a).errs, x ∈ L :=
  er_errsIn framed_leaveER s fx n ti L r hr a h

theorem enterRulesPar_cons (er : ER) (c : Cfg) (n : Node) (ti : TI) (r : Rule) (rest : List Rule) (a : RS) :
    enterRulesPar er c n ti (r :: rest) a =
      ((enterRulesPar er c n ti rest (er c.schema c.fixes r n ti a).1).1,
       (er c.schema c.fixes r n ti a).2 || (enterRulesPar er c n ti rest (er c.schema c.fixes r n ti a).1).2) := by
  simp only [enterRulesPar]

section
variable {er : ER} (F : Framed er) (c : Cfg) (n : Node) (ti : TI)
include F

theorem enterRulesPar_rel (r : Rule) : ∀ (rules : List Rule) (a b : RS), rules.Nodup → RelRS r a b →
    (r ∈ rules → RelRS r (enterRulesPar er c n ti rules a).1 (er c.schema c.fixes r n ti b).1) ∧
    (r ∉ rules → RelRS r (enterRulesPar er c n ti rules a).1 b)
  | [], a, b, _, h => ⟨fun hm => absurd hm (by simp), fun _ => h⟩
  | r1 :: rest, a, b, hnd, h => by
    rw [enterRulesPar_cons]
    simp only
    have hnd' := List.nodup_cons.mp hnd
    by_cases e : r1 = r
    · subst e
      have h1 := (er_self F c.schema c.fixes n ti h).1
      exact ⟨fun _ => (enterRulesPar_rel r1 rest _ _ hnd'.2 h1).2 hnd'.1, fun hm => absurd (List.mem_cons_self ..) hm⟩
    · have h1 := er_other F c.schema c.fixes n ti e h
      have ih := enterRulesPar_rel r rest _ b hnd'.2 h1
      refine ⟨fun hm => ih.1 ?_, fun hm => ih.2 fun hm' => hm (List.mem_cons_of_mem _ hm')⟩
      rcases List.mem_cons.mp hm with e' | hm'
      · exact absurd e'.symm e
      · exact hm'

theorem enterRulesPar_flag_iff : ∀ (rules : List Rule) (a : RS) (g : Rule → RS), rules.Nodup →
    (∀ r ∈ rules, a.own r = (g r).own r) →
    ((enterRulesPar er c n ti rules a).2 = true ↔ ∃ r ∈ rules, (er c.schema c.fixes r n ti (g r)).2 = true)
  | [], a, g, _, _ => by simp [enterRulesPar]
  | r1 :: rest, a, g, hnd, h => by
    rw [enterRulesPar_cons]
    simp only [Bool.or_eq_true]
    have hnd' := List.nodup_cons.mp hnd
    have hflag : (er c.schema c.fixes r1 n ti a).2 = (er c.schema c.fixes r1 n ti (g r1)).2 := by
      rw [F.flag, F.flag c.schema c.fixes r1 n ti (g r1), h r1 (List.mem_cons_self ..)]
    have hrest : ∀ r ∈ rest, ((er c.schema c.fixes r1 n ti a).1).own r = (g r).own r := by
      intro r hr
      have hne : r ≠ r1 := fun e => hnd'.1 (e ▸ hr)
      rw [F.put, RS.own_put_ne r r1 hne]
      exact h r (List.mem_cons_of_mem _ hr)
    rw [enterRulesPar_flag_iff rest _ g hnd'.2 hrest, hflag]
    constructor
    · rintro (h1 | ⟨r, hr, h2⟩)
      · exact ⟨r1, List.mem_cons_self .., h1⟩
      · exact ⟨r, List.mem_cons_of_mem _ hr, h2⟩
    · rintro ⟨r, hr, h2⟩
      rcases List.mem_cons.mp hr with rfl | hr'
      · exact Or.inl h2
      · exact Or.inr ⟨r, hr', h2⟩

theorem enterRulesPar_mono : ∀ (rules : List Rule) (a : RS), a.errs.length ≤ (enterRulesPar er c n ti rules a).1.errs.length
  | [], a => Nat.le_refl _
  | r1 :: rest, a => by
    rw [enterRulesPar_cons]
    exact Nat.le_trans (er_mono F c.schema c.fixes n ti r1 a) (enterRulesPar_mono rest _)

theorem enterRulesPar_skip_lt : ∀ (rules : List Rule) (a : RS), (enterRulesPar er c n ti rules a).2 = true →
    a.errs.length < (enterRulesPar er c n ti rules a).1.errs.length
  | [], a, h => by simp [enterRulesPar] at h
  | r1 :: rest, a, h => by
    rw [enterRulesPar_cons] at h ⊢
    simp only [Bool.or_eq_true] at h
    rcases h with h | h
    · exact Nat.lt_of_lt_of_le (F.skip _ _ _ _ _ _ h) (enterRulesPar_mono F c n ti rest _)
    · exact Nat.lt_of_le_of_lt (er_mono F c.schema c.fixes n ti r1 a) (enterRulesPar_skip_lt rest _ h)

theorem enterRulesPar_errsIn (L : List Rule) : ∀ (rules : List Rule) (a : RS), (∀ r ∈ rules, r ∈ L) →
    (∀ x ∈ a.errs, x ∈ L) → ∀ x ∈ (enterRulesPar er c n ti rules a).1.errs, x ∈ L
  | [], a, _, h => h
  | r1 :: rest, a, hsub, h => by
    rw [enterRulesPar_cons]
    exact enterRulesPar_errsIn L rest _ (fun r hr => hsub r (List.mem_cons_of_mem _ hr))
      (er_errsIn F c.schema c.fixes n ti L r1 (hsub r1 (List.mem_cons_self ..)) a h)

end

section
variable (s : SchemaD) (fx : Fixes) (n : Node) (ti : TI)

theorem leaveFold_rel (r : Rule) : ∀ (l : List Rule) (a b : RS), l.Nodup → RelRS r a b →
    (r ∈ l → RelRS r (l.foldl (fun rs r => leaveRule s fx r n ti rs) a) (leaveRule s fx r n ti b)) ∧
    (r ∉ l → RelRS r (l.foldl (fun rs r => leaveRule s fx r n ti rs) a) b)
  | [], a, b, _, h => ⟨fun hm => absurd hm (by simp), fun _ => h⟩
  | r1 :: rest, a, b, hnd, h => by
    simp only [List.foldl_cons]
    have hnd' := List.nodup_cons.mp hnd
    by_cases e : r1 = r
    · subst e
      have h1 := lr_self s fx n ti h
      exact ⟨fun _ => (leaveFold_rel r1 rest _ _ hnd'.2 h1).2 hnd'.1, fun hm => absurd (List.mem_cons_self ..) hm⟩
    · have h1 := lr_other s fx n ti e h
      have ih := leaveFold_rel r rest _ b hnd'.2 h1
      refine ⟨fun hm => ih.1 ?_, fun hm => ih.2 fun hm' => hm (List.mem_cons_of_mem _ hm')⟩
      rcases List.mem_cons.mp hm with e' | hm'
      · exact absurd e'.symm e
      · exact hm'

theorem leaveFold_mono : ∀ (l : List Rule) (a : RS),
    a.errs.length ≤ (l.foldl (fun rs r => leaveRule s fx r n ti rs) a).errs.length
  | [], a => Nat.le_refl _
  | r1 :: rest, a => by
    simp only [List.foldl_cons]
    exact Nat.le_trans (lr_mono s fx n ti r1 a) (leaveFold_mono rest _)

theorem leaveFold_errsIn (L : List Rule) : ∀ (l : List Rule) (a : RS), (∀ r ∈ l, r ∈ L) → (∀ x ∈ a.errs, x ∈ L) →
    ∀ x ∈ (l.foldl (fun rs r => leaveRule s fx r n ti rs) a).errs, x ∈ L
  | [], a, _, h => h
  | r1 :: rest, a, hsub, h => by
    simp only [List.foldl_cons]
    exact leaveFold_errsIn L rest _ (fun r hr => hsub r (List.mem_cons_of_mem _ hr))
      (lr_errsIn s fx n ti L r1 (hsub r1 (List.mem_cons_self ..)) a h)

end

end PyGql.Validate
