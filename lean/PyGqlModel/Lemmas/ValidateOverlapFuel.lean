/-
  `OverlappingFieldsCanBeMergedChecker`: FUEL SUFFICIENCY. Under a ranking of the selection sets of the
  document (`RankOk`: a set outranks by 2 the sub-selections of its fields and the bodies of the fragments it spreads)
  none of the five mutually recursive search functions runs out of fuel, provided the fuel covers the ranks of
  what it is called on: the crash flag comes back unchanged.
  This file: the ranking and the loop; the five functions: `ValidateOverlapNoCrash.lean`.
-/
import PyGqlModel.Validate.OverlapRank
import PyGqlModel.Lemmas.ValidateOverlapSearch
namespace PyGql.Validate
open PyGql PyGql.Validate.Spec

/-- `ρ` ranks the selection sets of the document: every rank is at least 2 and `2 * ρ i + 2` fits in `overlapFuel`; the sub-selection of
    a field of a set and the body of a fragment it spreads rank at least 2 below the set (so the spread graph is acyclic) -/
structure RankOk (s : SchemaD) (d : Doc) (ρ : Nat → Nat) : Prop where
  two : ∀ i sels, SelSet d i sels → 2 ≤ ρ i
  top : ∀ i sels, SelSet d i sels → 2 * ρ i + 2 ≤ overlapFuel
  sub : ∀ i sels p rn e, SelSet d i sels → CollD s p sels rn e → entryRank ρ e + 2 ≤ ρ i
  spr : ∀ i sels g, SelSet d i sels → SpreadD sels g → fragRank ρ d g + 2 ≤ ρ i

theorem sameArgsZip_some : ∀ (a b : List Arg), sameArgsZip a b ≠ none
  | [], _ => by simp [sameArgsZip]
  | _ :: _, [] => by simp [sameArgsZip]
  | a :: as, b :: bs => by
    rw [sameArgsZip]
    split
    · simp
    · split
      · exact sameArgsZip_some as bs
      · simp

theorem sameArguments_some (a b : List Arg) : sameArguments a b ≠ none := by
  unfold sameArguments
  split
  · simp
  · exact sameArgsZip_some _ _

theorem sumLoop_crash {α} (xs : List α) (f : α → OCtx → Nat × OCtx) (P : OCtx → Prop)
    (hf : ∀ x ∈ xs, ∀ c, P c → P (f x c).2 ∧ (f x c).2.crash = c.crash) (c : OCtx) (hc : P c) :
    P (sumLoop xs f c).2 ∧ (sumLoop xs f c).2.crash = c.crash :=
  (sumLoop_spec xs f (fun c' => P c' ∧ c'.crash = c.crash) (fun _ => True)
    (fun x hx c' hc' => ⟨⟨(hf x hx c' hc'.1).1, (hf x hx c' hc'.1).2.trans hc'.2⟩, fun _ => trivial⟩) c ⟨hc, rfl⟩).1

/-- every field of the map has rank at most `m` -/
def RkB (ρ : Nat → Nat) (m : Nat) (fm : FMap) : Prop := EntOK (fun _ e => entryRank ρ e ≤ m) fm

end PyGql.Validate
