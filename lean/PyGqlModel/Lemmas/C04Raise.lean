/-
  C04 / C05 — where a travelling `ResolverError` (`Fail.raised`) can come from.
  * `_skip_selection` fails only with the `CoercionError` of a directive condition (`skipSelection_err`, stated in
    `Lemmas/C04Steps.lean` where the decision on a selection needs it);
  * `collect_fields` itself never yields `raised` (the conversion happens in `ResolutionContext.collect_fields`,
    `Exec.catchDirective`);
  * `resolve_field` catches every `raised`, hence neither it nor the field loop lets one through;
  * `execute_fields` yields `raised` only for its OWN selection set's directive failure: nothing was recorded yet.
-/
import PyGqlModel.Lemmas.C04Steps


namespace PyGql.Lemmas.C04Raise
open PyGql PyGql.Exec PyGql.Props.C04

def NotRaised {α} (r : R α) : Prop := ∀ k l i, r ≠ .error (.raised k l i)

theorem NotRaised.bind {α β} {x : R α} {f : α → R β} (hx : NotRaised x) (hf : ∀ a, x = .ok a → NotRaised (f a)) :
    NotRaised (x.bind f) := by
  cases x with
  | error e => intro k l i h; cases h; exact hx k l i rfl
  | ok a => exact hf a rfl

theorem collectStep_notRaised (s : SchemaD) (doc : Doc) (vars : Vars)
    (rec : String → List Sel → List String → R (Grouped × List String))
    (hrec : ∀ obj sels seen, NotRaised (rec obj sels seen)) (obj : String) :
    ∀ (sels : List Sel) (seen : List String) (g : Grouped), NotRaised (collectStep s doc vars rec obj sels seen g) := by
  intro sels
  induction sels with
  | nil => intro seen g k l i h; cases h
  | cons sel rest ih =>
    intro seen g
    rw [collectStep_cons]
    refine NotRaised.bind (fun k l i h => ?_) (fun a _ => ?_)
    · obtain ⟨c, hc⟩ := headAct_err h
      cases hc
    cases a with
    | drop => exact ih _ _
    | keep n => exact ih _ _
    | expand sels name => exact NotRaised.bind (hrec _ _ _) (fun _ _ => ih _ _)

theorem collectFields_notRaised (s : SchemaD) (doc : Doc) (vars : Vars) :
    ∀ (fuel : Nat) (obj : String) (sels : List Sel) (seen : List String), NotRaised (collectFields s doc vars fuel obj sels seen) := by
  intro fuel
  induction fuel with
  | zero => intro obj sels seen k l i h; simp [collectFields] at h
  | succ n ih =>
    intro obj sels seen
    simp only [collectFields]
    exact collectStep_notRaised s doc vars _ ih obj sels seen []

theorem resolveField_notRaised (s : SchemaD) (w : World) (execSub : String → Path → List Sel → R (Data × List Err))
    (parent : String) (path : Path) (nodes : List FNode) (fd : FieldD) :
    NotRaised (resolveField s w execSub parent path nodes fd) := by
  cases nodes with
  | nil => intro k l i h; cases h
  | cons node more =>
    rw [resolveField_cons]
    cases fieldAct w parent fd path node with
    | complete v => exact fun k l i => catchField_ne_raised _ _ _ _ _ _
    | _ => intro k l i h; cases h

theorem executeGroups_notRaised (s : SchemaD) (w : World) (execSub : String → Path → List Sel → R (Data × List Err))
    (parent : String) (path : Path) : ∀ g : Grouped, NotRaised (executeGroups s w execSub parent path g) := by
  intro g
  induction g with
  | nil => intro k l i h; cases h
  | cons kv rest ih =>
    rw [executeGroups_cons]
    refine NotRaised.bind (fun k l i h => ?_) (fun a _ => ?_)
    · rcases groupAct_err h with hx | ⟨c, hx⟩ <;> cases hx
    cases a with
    | skip => exact ih
    | typename => exact NotRaised.bind ih (fun _ _ k l i h => by cases h)
    | field fd =>
      exact NotRaised.bind (resolveField_notRaised s w execSub parent _ _ fd)
        (fun _ _ => NotRaised.bind ih (fun _ _ k l i h => by cases h))

/-- `execute_fields` yields a `ResolverError` only when its own selection set cannot be collected (a directive
    condition that cannot be evaluated): no field of it has run, nothing is recorded, the error has no field location -/
theorem executeFields_raised (s : SchemaD) (doc : Doc) (vars : Vars) (w : World) (cf fuel : Nat) (parent : String) (path : Path)
    (sels : List Sel) (k : ErrKind) (l : Option (List Nat)) (inner : List Err)
    (h : executeFields s doc vars w cf fuel parent path sels = .error (.raised k l inner)) :
    k = .directive ∧ l = some [] ∧ inner = [] ∧ collectFields s doc vars cf parent sels [] = .error (.internal "CoercionError") := by
  cases fuel with
  | zero => simp [executeFields] at h
  | succ n =>
    simp only [executeFields, bind, Except.bind, pure, Except.pure] at h
    cases h1 : collectFields s doc vars cf parent sels [] with
    | error e =>
      simp [h1] at h
      cases e with
      | internal c =>
        rw [Fail.directive_internal] at h
        split at h
        · rename_i hc; subst hc; simp at h; exact ⟨h.1.symm, h.2.1.symm, h.2.2, rfl⟩
        · simp at h
      | outOfFuel => simp at h
      | unsupported => simp at h
      | raised k' l' i' => exact absurd h1 (collectFields_notRaised s doc vars cf parent sels [] k' l' i')
    | ok p1 =>
      simp only [h1, catchDirective_ok] at h
      cases h2 : executeGroups s w (executeFields s doc vars w cf n) parent path p1.1 with
      | error e => simp [h2] at h; exact absurd (by rw [h2, h]) (executeGroups_notRaised s w _ parent path p1.1 k l inner)
      | ok p2 => simp [h2] at h

end PyGql.Lemmas.C04Raise
