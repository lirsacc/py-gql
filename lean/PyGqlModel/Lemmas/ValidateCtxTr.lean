/-
  The context enumeration under the transformations of C06 (`Tr`: re-ordering of selections and arguments, renaming
  of fragments): if the context function does not look at what `Tr` changes (`down (T.node n) x = down n x`), the
  (node, context) pairs of the transformed document are, up to order, the pairs of the document with the node
  transformed and the context UNCHANGED. With no contexts at all (`X = Unit`, `gnDoc_fst`) these are the plain node lists:
  `defNodes_tr`, `nodes_tr`.
-/
import PyGqlModel.Lemmas.ValidateTr
import PyGqlModel.Lemmas.ValidateCtxMap
namespace PyGql.Validate.Spec
open PyGql PyGql.Validate

section
variable {X : Type} (T : Tr) (down : Node → X → X)

def trP (p : Node × X) : Node × X := (T.node p.1, p.2)

mutual
theorem gnValue_trP : ∀ (v : Value) (x : X), (gnValue down x v).map (trP T) = gnValue down x v
  | .list vs, x => by rw [gnValue, List.map_cons, gnValues_trP vs]; rfl
  | .obj fs, x => by rw [gnValue, List.map_cons, gnObjFields_trP fs]; rfl
  | .var _, x | .int _, x | .float _, x | .str _, x | .bool _, x | .null, x | .enum _, x => by rw [gnValue]; rfl
theorem gnValues_trP : ∀ (vs : List Value) (x : X), (gnValues down x vs).map (trP T) = gnValues down x vs
  | [], x => by rw [gnValues]; rfl
  | v :: vs, x => by rw [gnValues, List.map_append, gnValue_trP v, gnValues_trP vs]
theorem gnObjField_trP : ∀ (f : ObjField) (x : X), (gnObjField down x f).map (trP T) = gnObjField down x f
  | .mk n v, x => by rw [gnObjField, List.map_cons, gnValue_trP v]; rfl
theorem gnObjFields_trP : ∀ (fs : List ObjField) (x : X), (gnObjFields down x fs).map (trP T) = gnObjFields down x fs
  | [], x => by rw [gnObjFields]; rfl
  | f :: fs, x => by rw [gnObjFields, List.map_append, gnObjField_trP f, gnObjFields_trP fs]
end

theorem gnArg_trP (a : Arg) (x : X) : (gnArg down x a).map (trP T) = gnArg down x a := by
  rw [gnArg, List.map_cons, gnValue_trP]; rfl

theorem gnArgs_trP (as : List Arg) (x : X) : (gnArgs down x as).map (trP T) = gnArgs down x as := by
  induction as with
  | nil => rfl
  | cons a as ih => simp only [gnArgs, List.flatMap_cons, List.map_append] at ih ⊢; rw [gnArg_trP, ih]

theorem gnArgs_perm (as : List Arg) (x : X) : (gnArgs down x (T.args as)).Perm (gnArgs down x as) :=
  (T.args_perm as).flatMap_right _

theorem gnDir_tr (hd : ∀ n x, down (T.node n) x = down n x) (d : Dir) (x : X) : (gnDir down x (T.dir d)).Perm ((gnDir down x d).map (trP T)) := by
  have e : down (.directive (T.dir d)) x = down (.directive d) x := hd (.directive d) x
  simp only [gnDir, List.map_cons, gnArgs_trP, e]
  exact List.Perm.cons _ (gnArgs_perm T down d.args _)

theorem gnDirs_tr (hd : ∀ n x, down (T.node n) x = down n x) (ds : List Dir) (x : X) : (gnDirs down x (ds.map T.dir)).Perm ((gnDirs down x ds).map (trP T)) := by
  induction ds with
  | nil => exact List.Perm.refl _
  | cons d ds ih =>
    simp only [gnDirs, List.map_cons, List.flatMap_cons, List.map_append] at ih ⊢
    exact (gnDir_tr T down hd d x).append ih

theorem gnSels_eq_flatMap (ss : List Sel) (x : X) : gnSels down x ss = ss.flatMap (gnSel down x) := by
  induction ss with
  | nil => rfl
  | cons s ss ih => rw [gnSels, ih]; rfl

theorem gnSels_perm {l l' : List Sel} (h : l.Perm l') (x : X) : (gnSels down x l).Perm (gnSels down x l') := by
  rw [gnSels_eq_flatMap, gnSels_eq_flatMap]
  exact h.flatMap_right _

mutual
theorem gnSel_tr (hd : ∀ n x, down (T.node n) x = down n x) : ∀ (s : Sel) (x : X), (gnSel down x (T.sel s)).Perm ((gnSel down x s).map (trP T))
  | .field al name args dirs true id sub, x => by
    have e : down (.field name (T.args args) (dirs.map T.dir) true) x = down (.field name args dirs true) x :=
      hd (.field name args dirs true) x
    have e2 : ∀ y, down (.selectionSet id (T.sels (T.selList sub))) y = down (.selectionSet id sub) y :=
      fun y => hd (.selectionSet id sub) y
    simp only [Tr.sel, gnSel, ↓reduceIte, List.map_cons, List.map_append, gnArgs_trP, e, e2]
    refine List.Perm.cons _ (((gnArgs_perm T down args _).append (gnDirs_tr T down hd dirs _)).append (List.Perm.cons _ ?_))
    exact (gnSels_perm down (T.sels_perm _) _).trans (gnSels_tr hd sub _)
  | .field al name args dirs false id sub, x => by
    have e : down (.field name (T.args args) (dirs.map T.dir) false) x = down (.field name args dirs false) x :=
      hd (.field name args dirs false) x
    simp only [Tr.sel, gnSel, Bool.false_eq_true, ↓reduceIte, List.map_cons, List.map_append, gnArgs_trP, e,
      List.append_nil]
    exact List.Perm.cons _ ((gnArgs_perm T down args _).append (gnDirs_tr T down hd dirs _))
  | .spread n dirs, x => by
    have e : down (.spread (T.frag n) (dirs.map T.dir)) x = down (.spread n dirs) x := hd (.spread n dirs) x
    simp only [Tr.sel, gnSel, List.map_cons, e]
    exact List.Perm.cons _ (gnDirs_tr T down hd dirs _)
  | .inline on dirs id sub, x => by
    have e : down (.inline on (dirs.map T.dir)) x = down (.inline on dirs) x := hd (.inline on dirs) x
    have e2 : ∀ y, down (.selectionSet id (T.sels (T.selList sub))) y = down (.selectionSet id sub) y :=
      fun y => hd (.selectionSet id sub) y
    simp only [Tr.sel, gnSel, List.map_cons, List.map_append, e, e2]
    refine List.Perm.cons _ ((gnDirs_tr T down hd dirs _).append (List.Perm.cons _ ?_))
    exact (gnSels_perm down (T.sels_perm _) _).trans (gnSels_tr hd sub _)
theorem gnSels_tr (hd : ∀ n x, down (T.node n) x = down n x) : ∀ (ss : List Sel) (x : X), (gnSels down x (T.selList ss)).Perm ((gnSels down x ss).map (trP T))
  | [], x => by simp [Tr.selList, gnSels]
  | s :: ss, x => by
    simp only [Tr.selList, gnSels, List.map_append]
    exact (gnSel_tr hd s x).append (gnSels_tr hd ss x)
end

theorem gnSelsTop_tr (hd : ∀ n x, down (T.node n) x = down n x) (sels : List Sel) (x : X) :
    (gnSels down x (T.sels (T.selList sels))).Perm ((gnSels down x sels).map (trP T)) :=
  (gnSels_perm down (T.sels_perm _) x).trans (gnSels_tr T down hd sels x)

theorem gnVarDef_tr (hd : ∀ n x, down (T.node n) x = down n x) (v : VarDef) (x : X) :
    (gnVarDef down x (T.varDef v)).Perm ((gnVarDef down x v).map (trP T)) := by
  have e : down (.varDef (T.varDef v)) x = down (.varDef v) x := hd (.varDef v) x
  simp only [gnVarDef, List.map_cons, List.map_append, e]
  refine List.Perm.cons _ (List.Perm.append ?_ (List.Perm.cons _ (gnDirs_tr T down hd v.dirs _)))
  show (match v.default with | some dv => gnValue down (down (.varDef v) x) dv | none => []).Perm _
  cases v.default with
  | none => exact List.Perm.refl _
  | some dv => simp only [gnValue_trP]; exact List.Perm.refl _

theorem gnVarDefs_tr (hd : ∀ n x, down (T.node n) x = down n x) (vars : List VarDef) (x : X) :
    ((vars.map T.varDef).flatMap (gnVarDef down x)).Perm ((vars.flatMap (gnVarDef down x)).map (trP T)) := by
  induction vars with
  | nil => exact List.Perm.refl _
  | cons v vs ih =>
    simp only [List.map_cons, List.flatMap_cons, List.map_append]
    exact (gnVarDef_tr T down hd v x).append ih

theorem gnDef_tr (hd : ∀ n x, down (T.node n) x = down n x) (d : Def) (x : X) : (gnDef down x (T.defn d)).Perm ((gnDef down x d).map (trP T)) := by
  cases d with
  | op k nm vars dirs id sels =>
    have e : down (.operation k nm (vars.map T.varDef) (dirs.map T.dir) (T.sels (T.selList sels))) x =
        down (.operation k nm vars dirs sels) x :=
      hd (.operation k nm vars dirs sels) x
    have e2 : ∀ y, down (.selectionSet id (T.sels (T.selList sels))) y = down (.selectionSet id sels) y :=
      fun y => hd (.selectionSet id sels) y
    simp only [Tr.defn, gnDef, List.map_cons, List.map_append, e, e2]
    exact List.Perm.cons _ (((gnVarDefs_tr T down hd vars _).append (gnDirs_tr T down hd dirs _)).append
      (List.Perm.cons _ (gnSelsTop_tr T down hd sels _)))
  | frag n on dirs id sels =>
    have e : down (.fragmentDef (T.frag n) on (dirs.map T.dir)) x = down (.fragmentDef n on dirs) x :=
      hd (.fragmentDef n on dirs) x
    have e2 : ∀ y, down (.selectionSet id (T.sels (T.selList sels))) y = down (.selectionSet id sels) y :=
      fun y => hd (.selectionSet id sels) y
    simp only [Tr.defn, gnDef, List.map_cons, List.map_append, e, e2]
    exact List.Perm.cons _ ((gnDirs_tr T down hd dirs _).append (List.Perm.cons _ (gnSelsTop_tr T down hd sels _)))
  | ts a b => exact List.Perm.refl _

theorem gnDoc_tr (hd : ∀ n x, down (T.node n) x = down n x) (d : Doc) (x : X) : (gnDoc down x (T.doc d)).Perm ((gnDoc down x d).map (trP T)) := by
  simp only [gnDoc, Tr.doc]
  induction d.defs with
  | nil => exact List.Perm.refl _
  | cons y ys ih =>
    simp only [List.map_cons, List.flatMap_cons, List.map_append]
    exact (gnDef_tr T down hd y x).append ih

theorem forall_gnDoc_tr (hd : ∀ n x, down (T.node n) x = down n x) (d : Doc) (x : X) (P : Node × X → Prop) :
    (∀ p ∈ gnDoc down x (T.doc d), P p) ↔ (∀ q ∈ gnDoc down x d, P (T.node q.1, q.2)) := by
  constructor
  · intro h q hq
    exact h _ ((gnDoc_tr T down hd d x).mem_iff.mpr (List.mem_map_of_mem hq))
  · intro h p hp
    obtain ⟨q, hq, rfl⟩ := List.mem_map.mp ((gnDoc_tr T down hd d x).mem_iff.mp hp)
    exact h q hq

end

end PyGql.Validate.Spec

namespace PyGql.Validate
open PyGql PyGql.Validate.Spec

theorem Tr.view_enter (T : Tr) (s : SchemaD) (n : Node) (v : View) : View.enter s (T.node n) v = View.enter s n v := by
  cases n with
  | inline on dirs => cases on <;> rfl
  | _ => rfl

/-- from the pairs (contexts `Unit`) to the nodes -/
theorem Tr.perm_nodes (T : Tr) {l l' : List (Node × Unit)} {ns ns' : List Node} (h : l.Perm (l'.map (Spec.trP T)))
    (e : l.map (·.1) = ns) (e' : l'.map (·.1) = ns') : ns.Perm (ns'.map T.node) := by
  subst e e'
  have := h.map (·.1)
  rwa [List.map_map] at this ⊢

theorem selNodes_tr (T : Tr) : ∀ x : Sel, (selNodes (T.sel x)).Perm ((selNodes x).map T.node) :=
  fun x => T.perm_nodes (gnSel_tr T (fun _ u => u) (fun _ _ => rfl) x ()) (gnSel_fst ..) (gnSel_fst ..)

theorem selsTop_tr (T : Tr) (sels : List Sel) :
    (selsNodes (T.sels (T.selList sels))).Perm ((selsNodes sels).map T.node) :=
  T.perm_nodes (gnSelsTop_tr T (fun _ u => u) (fun _ _ => rfl) sels ()) (gnSels_fst ..) (gnSels_fst ..)

theorem defNodes_tr (T : Tr) (x : Def) : (defNodes (T.defn x)).Perm ((defNodes x).map T.node) :=
  T.perm_nodes (gnDef_tr T (fun _ u => u) (fun _ _ => rfl) x ()) (gnDef_fst ..) (gnDef_fst ..)

theorem nodes_tr (T : Tr) (d : Doc) : (nodes (T.doc d)).Perm ((nodes d).map T.node) :=
  List.Perm.cons _ (T.perm_nodes (gnDoc_tr T (fun _ u => u) (fun _ _ => rfl) d ()) (gnDoc_fst ..) (gnDoc_fst ..))

theorem forall_nodes_tr (T : Tr) (d : Doc) (P : Node → Prop) :
    (∀ n ∈ nodes (T.doc d), P n) ↔ (∀ m ∈ nodes d, P (T.node m)) := by
  simp only [(nodes_tr T d).mem_iff, List.forall_mem_map]

end PyGql.Validate
