/-
  The printed forms of a block string — the empty value, the one-line form `"""  x"""` (values that start with a blank
  and have no line break) and the multi-line form — are each read back by one `__next__` as one BlockString token with
  the same value, under every enclosing indentation and in front of any text. Hence `BlockLay` for every canonical
  value, and the round trip for every value `parse_block_string` returns; descriptions (`is_description=True`) are the
  value form with an empty indent.
-/
import PyGqlModel.Lemmas.PrintBlockLay
import PyGqlModel.Lemmas.LexBlockRange
import PyGqlModel.Lemmas.PrintLayTSParts
namespace PyGql.PrintTokens
open PyGql PyGql.Lex PyGql.Spec PyGql.PrintLex PyGql.PrintString PyGql.BlockString

theorem indentText_nil (e : Text) : indentText e [] = e := by
  cases e with
  | nil => rfl
  | cons a b => simp [indentText, replaceLF_nil]

theorem blockString_desc (v ind : Text) : blockString v ind true = blockString v [] false := by
  unfold blockString
  simp [indentText_nil]

theorem descLay_of_blockLay {ind v : Text} (h : BlockLay [] v) : DescLay ind v := by
  unfold DescLay; rw [blockString_desc]; exact h

theorem lexesTo_tq (s r v : Text) (cs' : List TokClass) (raw : Text)
    (hscan : ∀ n, readBlockBody n 0 s = .ok (raw, r)) (hval : parseBlockString raw = v) (hlen : r.length ≤ s.length)
    (hl : LexesTo r cs') : LexesTo (tq ++ s) ((.blockString, v) :: cs') := by
  intro n fuel hf
  cases fuel with
  | zero => omega
  | succ f =>
    have hn := next_tq n s raw r (hscan n)
    rw [hval] at hn
    obtain ⟨toks, h1, h2⟩ := hl n f (by simp [tq] at hf; omega)
    refine ⟨(⟨.blockString, posAt n (tq ++ s), posAt n r, v⟩ : Tok) :: toks, ?_,
      by simp [classes, cls, hasValue] at h2 ⊢; exact h2⟩
    simp only [lexLoop, hn, h1, List.cons_append]

def ReadsBlock (w v : Text) : Prop :=
  ∀ n r, next n (w ++ r) = .ok (⟨.blockString, posAt n (w ++ r), posAt n r, v⟩, some r)

theorem blockLay_of_reads {ind v : Text} (h : ∀ P, Blank P → ReadsBlock (replaceLF P (blockString v ind false)) v) :
    BlockLay ind v := by
  intro P hP r cs' _ hl
  refine lexesTo_step (fun n => ⟨_, h P hP n r, by simp [cls, hasValue]⟩) ?_ hl
  obtain ⟨u, hu⟩ := blockString_head v ind false
  rw [hu]
  simp [replaceLF]
  omega

theorem readsBlock_empty (ind P : Text) (hP : Blank P) : ReadsBlock (replaceLF P (blockString [] ind false)) [] := by
  intro n r
  have hrep : replaceLF P (blockString [] ind false) ++ r = tq ++ ((10 :: (P ++ 10 :: P)) ++ tq ++ r) := by
    simp [blockString, escapeTripleQuotes, escapeTQAux, indentText, tq, replaceLF]
  have hlay : LayoutText (10 :: (P ++ 10 :: P)) := by
    intro c hc
    have e : 10 :: (P ++ 10 :: P) = (10 :: P) ++ (10 :: P) := by simp
    rw [e] at hc
    rcases List.mem_append.1 hc with h | h <;> exact layoutText_lf_blank hP c h
  rw [hrep, next_tq n _ _ r (readBlockBody_close n _ r hlay), parseBlockString_blank2 P hP]

theorem escape_ne_nil (v : Text) (h : v ≠ []) : escapeTQAux 0 v ≠ [] := by
  cases v with
  | nil => exact absurd rfl h
  | cons c t => simp only [escapeTQAux]; split <;> simp

/-- does `_block_string` choose the multi-line form `"""⏎ … ⏎"""` for this value? -/
def multiLineForm (v : Text) : Bool :=
  !((match v with | c :: _ => c == 32 || c == 9 | [] => false) && !(v.contains 10))

theorem blockString_multiline (v ind : Text) (hne : v ≠ []) (hml : multiLineForm v = true) :
    blockString v ind false = tq ++ 10 :: (ind ++ replaceLF ind (escapeTQAux 0 v) ++ 10 :: tq) := by
  cases v with
  | nil => exact absurd rfl hne
  | cons c t =>
    unfold multiLineForm at hml
    rw [Bool.not_eq_true'] at hml
    have he : (escapeTQAux 0 (c :: t)).isEmpty = false := by
      cases h : escapeTQAux 0 (c :: t) with
      | nil => exact absurd h (escape_ne_nil _ hne)
      | cons a b => rfl
    unfold blockString
    simp only at hml ⊢
    rw [if_neg (by rw [hml]; simp)]
    simp [escapeTripleQuotes, indentText, he, tq]

/-- a value given by its lines `l :: ls` (no CR/LF inside a line, block-string characters) whose first and last lines
    are not blank and whose smallest indentation over the non-blank lines is 0 — the shape `BlockStringValue`
    produces — when the printer uses the multi-line form -/
theorem readsBlock_multiline (ind P l : Text) (ls : List Text) (hind : Blank ind) (hP : Blank P)
    (hlines : ∀ x ∈ l :: ls, IsLine x) (hchars : ∀ c ∈ joinLF (l :: ls), blockChar c = true)
    (hfirst : onlyWhiteSpace l = false) (hlast : onlyWhiteSpace ((l :: ls).getLast (by simp)) = false)
    (hmin : (l :: ls).foldl indentStep none = some 0) (hml : multiLineForm (joinLF (l :: ls)) = true) :
    ReadsBlock (replaceLF P (blockString (joinLF (l :: ls)) ind false)) (joinLF (l :: ls)) := by
  intro n r
  have hvne : joinLF (l :: ls) ≠ [] := by
    have hl0 : l ≠ [] := by intro e; subst e; simp [onlyWhiteSpace] at hfirst
    cases ls with
    | nil => simpa [joinLF] using hl0
    | cons b bs => rw [joinLF_cons_cons]; simp [hl0]
  have hQ : Blank (P ++ ind) := blank_append hP hind
  have hrep : replaceLF P (blockString (joinLF (l :: ls)) ind false) ++ r =
      tq ++ 10 :: ((P ++ ind) ++ (escapeTQAux 0 (replaceLF (P ++ ind) (joinLF (l :: ls))) ++ 10 :: (P ++ (tq ++ r)))) := by
    rw [blockString_multiline (joinLF (l :: ls)) ind hvne hml]
    simp only [replaceLF_append, replaceLF, ↓reduceIte, replaceLF_noLF P ind (blank_noLF hind),
      replaceLF_replaceLF P ind _ hind, escape_replaceLF (P ++ ind) hQ _ 0 (Nat.zero_le _)]
    simp [tq, replaceLF]
  have hX : ∀ c ∈ replaceLF (P ++ ind) (joinLF (l :: ls)), blockChar c = true := by
    intro c hc
    rcases mem_replaceLF hc with h | h
    · exact hchars c h
    · exact blockChar_layout (Or.inr (hQ c h))
  rw [hrep, next_block_layout n (P ++ ind) P _ r hQ hP hX,
    parseBlockString_layout (P ++ ind) P l ls hQ hP hlines hfirst hlast hmin]

theorem readsBlock_oneline (ind P v : Text) (hP : Blank P) (hline : IsLine v) (hchars : ∀ c ∈ v, blockChar c = true)
    (hnb : onlyWhiteSpace v = false) (hone : multiLineForm v = false) :
    ReadsBlock (replaceLF P (blockString v ind false)) v := by
  intro n r
  have hesc10 := escape_noLF v 0 (isLine_noLF hline)
  have hvne : v ≠ [] := by intro e; subst e; simp [onlyWhiteSpace] at hnb
  unfold multiLineForm at hone
  simp only [Bool.not_eq_eq_eq_not, Bool.not_false] at hone
  have hform : blockString v ind false = tq ++ ((if (escapeTQAux 0 v).getLast? == some 34 || (escapeTQAux 0 v).getLast? == some 92
      then escapeTQAux 0 v ++ [10] else escapeTQAux 0 v) ++ tq) := by
    cases v with
    | nil => simp at hone
    | cons a t =>
      unfold blockString
      simp only at hone ⊢
      rw [if_pos hone]
      simp [escapeTripleQuotes, tq]
  by_cases hc : ((escapeTQAux 0 v).getLast? == some 34 || (escapeTQAux 0 v).getLast? == some 92) = true
  · -- a trailing `"` or `\`: the printer appends a line feed before the closing quotes
    have hrep : replaceLF P (blockString v ind false) ++ r = tq ++ (escapeTQAux 0 v ++ 10 :: (P ++ (tq ++ r))) := by
      rw [hform, if_pos hc]
      simp [tq, replaceLF_append, replaceLF_noLF P _ hesc10, replaceLF]
    have hscan : readBlockBody n 0 (escapeTQAux 0 v ++ 10 :: (P ++ (tq ++ r))) = .ok (v ++ 10 :: P, r) := by
      have h2 := readBlockBody_close n (10 :: P) r (layoutText_lf_blank hP)
      simp only [List.cons_append, List.append_assoc] at h2
      rw [readBlockBody_escape n (P ++ (tq ++ r)) v 0 (Nat.zero_le _) hchars, h2]; rfl
    rw [hrep, next_tq n _ _ r hscan, parseBlockString_single_lf v P hP hline hnb]
  · -- the last character of the value stands directly before the closing quotes: nothing can fuse with them
    have hrep : replaceLF P (blockString v ind false) ++ r = tq ++ (escapeTQAux 0 v ++ (tq ++ r)) := by
      rw [hform, if_neg hc]
      simp [tq, replaceLF_append, replaceLF_noLF P _ hesc10, replaceLF]
    rw [getLast?_escape, List.getLast?_eq_getLast hvne] at hc
    simp only [Bool.or_eq_true, beq_iff_eq, Option.some.injEq, not_or] at hc
    rw [hrep, next_tq n _ _ r (readBlockBody_escape_close n r v hvne hc.1 hc.2 hchars),
      parseBlockString_single v hline hnb]

/-- the shape of the values `BlockStringValue` produces (a condition on the value alone): empty, or lines without CR/LF
    made of block-string characters whose first and last lines are not blank and — unless the value is printed in the
    one-line form — whose smallest indentation over the non-blank lines is 0 -/
def CanonBlock (v : Text) : Prop :=
  v = [] ∨ ∃ (l : Text) (ls : List Text), v = joinLF (l :: ls) ∧ (∀ x ∈ l :: ls, IsLine x) ∧
    (∀ c ∈ v, blockChar c = true) ∧ onlyWhiteSpace l = false ∧
    onlyWhiteSpace ((l :: ls).getLast (by simp)) = false ∧
    (multiLineForm v = true → (l :: ls).foldl indentStep none = some 0)

theorem multiLineForm_of_lf (v : Text) (h : 10 ∈ v) : multiLineForm v = true := by
  unfold multiLineForm
  simp; exact Or.inr h

theorem readsBlock_canon (ind P v : Text) (hind : Blank ind) (hP : Blank P) (h : CanonBlock v) :
    ReadsBlock (replaceLF P (blockString v ind false)) v := by
  rcases h with rfl | ⟨l, ls, rfl, hlines, hchars, hfirst, hlast, hmin⟩
  · exact readsBlock_empty ind P hP
  · by_cases hml : multiLineForm (joinLF (l :: ls)) = true
    · exact readsBlock_multiline ind P l ls hind hP hlines hchars hfirst hlast (hmin hml) hml
    · have hml' : multiLineForm (joinLF (l :: ls)) = false := by simpa using hml
      cases ls with
      | nil =>
        simp only [joinLF] at hml' hchars ⊢
        exact readsBlock_oneline ind P l hP (hlines l (by simp)) hchars hfirst hml'
      | cons b bs =>
        have : 10 ∈ joinLF (l :: b :: bs) := by rw [joinLF_cons_cons]; simp
        rw [multiLineForm_of_lf _ this] at hml'; cases hml'

theorem blockLay_canon (ind : Text) (hind : Blank ind) (v : Text) (h : CanonBlock v) : BlockLay ind v :=
  blockLay_of_reads fun P hP => readsBlock_canon ind P v hind hP h

theorem descLay_canon (ind : Text) (v : Text) (h : CanonBlock v) : DescLay ind v :=
  descLay_of_blockLay (blockLay_canon [] blank_nil v h)

theorem indentStep_single (l : Text) (hml : multiLineForm l = true) (hline : IsLine l) (hnb : onlyWhiteSpace l = false) :
    [l].foldl indentStep none = some 0 := by
  have hnoLF : l.contains 10 = false := by
    rw [Bool.eq_false_iff]; intro h
    exact (hline 10 (by simpa using h)).1 rfl
  cases l with
  | nil => simp [onlyWhiteSpace] at hnb
  | cons a t =>
    simp only [multiLineForm, hnoLF, Bool.not_false, Bool.and_true, Bool.not_eq_true', Bool.or_eq_false_iff, beq_eq_false_iff_ne] at hml
    have ha : isBlankChar a = false := by simp [isBlankChar, hml.1, hml.2]
    simp [indentStep, lstrip, List.dropWhile, ha]

theorem canonBlock_parse (raw : Text) (hchars : ∀ c ∈ parseBlockString raw, blockChar c = true) :
    CanonBlock (parseBlockString raw) := by
  rcases parseBlockString_range raw with h | ⟨l, ls, he, hlines, hfirst, hlast, hmin⟩
  · exact Or.inl h
  · refine Or.inr ⟨l, ls, he, hlines, hchars, hfirst, hlast, fun hml => ?_⟩
    rcases hmin with rfl | h
    · rw [he] at hml
      simp only [joinLF] at hml
      exact indentStep_single l hml (hlines l (by simp)) hfirst
    · exact h

/-- `block_roundtrip`, both paths (`is_description` on / off): every value in the range of `parse_block_string`, under
    every indent and every enclosing indentation prefix, followed by anything -/
theorem readsBlock_parse (raw ind P : Text) (d : Bool) (hind : Blank ind) (hP : Blank P)
    (hchars : ∀ c ∈ parseBlockString raw, blockChar c = true) :
    ReadsBlock (replaceLF P (blockString (parseBlockString raw) ind d)) (parseBlockString raw) := by
  cases d with
  | false => exact readsBlock_canon ind P _ hind hP (canonBlock_parse raw hchars)
  | true =>
    rw [blockString_desc]
    exact readsBlock_canon [] P _ blank_nil hP (canonBlock_parse raw hchars)

open PyGql.Ast in
mutual
/-- leaf conditions by the SPECIFICATION only: names / integers / floats by the recognisers of `Spec/Lexical.lean`,
    quoted strings arbitrary, block strings `CanonBlock` -/
def specValue : Value → Prop
  | .var v => Spec.Lexical.isName v.name.value = true
  | .int w _ => Spec.Lexical.isIntValue w = true
  | .float w _ => Spec.Lexical.isFloatValue w = true
  | .string s => s.block = true → CanonBlock s.value
  | .boolean _ _ => True
  | .null _ => True
  | .enum w _ => Spec.Lexical.isName w = true
  | .list vs _ => specValues vs
  | .object fs _ => specFields fs
def specValues : List Value → Prop
  | [] => True
  | v :: vs => specValue v ∧ specValues vs
def specField : ObjectField → Prop
  | .mk name value _ => Spec.Lexical.isName name.value = true ∧ specValue value
def specFields : List ObjectField → Prop
  | [] => True
  | f :: fs => specField f ∧ specFields fs
end

open PyGql.Ast in
mutual
theorem okValue_of_spec (ind : Text) (hind : Blank ind) : ∀ (v : Value), specValue v → okValue ind v
  | .var v, h => by simpa [specValue, okValue] using h
  | .int w _, h => by simpa [specValue, okValue] using h
  | .float w _, h => by simpa [specValue, okValue] using h
  | .string s, h => by
    simp only [specValue] at h
    simp only [okValue]
    exact fun hb => blockLay_canon ind hind _ (h hb)
  | .boolean _ _, _ => by simp [okValue]
  | .null _, _ => by simp [okValue]
  | .enum w _, h => by simpa [specValue, okValue] using h
  | .list vs _, h => by
    simp only [specValue] at h; simp only [okValue]; exact okValues_of_spec ind hind vs h
  | .object fs _, h => by
    simp only [specValue] at h; simp only [okValue]; exact okFields_of_spec ind hind fs h
theorem okValues_of_spec (ind : Text) (hind : Blank ind) : ∀ (vs : List Value), specValues vs → okValues ind vs
  | [], _ => by simp [okValues]
  | v :: vs, h => by
    simp only [specValues] at h; simp only [okValues]
    exact ⟨okValue_of_spec ind hind v h.1, okValues_of_spec ind hind vs h.2⟩
theorem okField_of_spec (ind : Text) (hind : Blank ind) : ∀ (f : ObjectField), specField f → okField ind f
  | .mk name value _, h => by
    simp only [specField] at h; simp only [okField]
    exact ⟨h.1, okValue_of_spec ind hind value h.2⟩
theorem okFields_of_spec (ind : Text) (hind : Blank ind) : ∀ (fs : List ObjectField), specFields fs → okFields ind fs
  | [], _ => by simp [okFields]
  | f :: fs, h => by
    simp only [specFields] at h; simp only [okFields]
    exact ⟨okField_of_spec ind hind f h.1, okFields_of_spec ind hind fs h.2⟩
end

end PyGql.PrintTokens
