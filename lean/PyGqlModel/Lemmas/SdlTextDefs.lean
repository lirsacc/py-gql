/-
  C12 text level — type definitions, directive definitions and the `schema` block printed by `SdlPrintTA`, against the
  views of the document `schemaToDocA` denotes.
-/
import PyGqlModel.Lemmas.SdlTextMembers
import PyGqlModel.Lemmas.PrintLayTSDefs
namespace PyGql.SdlText
open PyGql PyGql.Ast PyGql.Sdl PyGql.Spec PyGql.PrintLex PyGql.PrintTokens PyGql.PrintMatch PyGql.PrintString PyGql.SdlPrint PyGql.Parse

theorem blockV_map {α β} (V : β → Item) (g : α → β) (xs : List α) : blockV V (xs.map g) = blockV (fun x => V (g x)) xs := by
  simp [blockV, List.map_map, Function.comp_def]

/-- ` {⏎ lines ⏎}` for indexed member printers -/
theorem lay_braces {α} (pr : Nat → α → Text) (V : α → Item) (prs : Nat → List α → List Text)
    (hprs_nil : ∀ i, prs i [] = []) (hprs_cons : ∀ i x xs, prs i (x :: xs) = pr i x :: prs (i + 1) xs)
    (xs : List α) (hne : xs ≠ []) (h : ∀ i, ∀ x ∈ xs, Lay (pr i x) (V x).yield) :
    Lay (SdlPrintT.braces (prs 0 xs)) (Item.yieldAll (blockV V xs)) := by
  have hemp : xs.isEmpty = false := by cases xs with | nil => exact absurd rfl hne | cons _ _ => rfl
  have l1 := lay_space_cons (lay_curlyL (lay_lf_cons (lay_append (lay_lines pr V prs hprs_nil hprs_cons xs 0 h)
    (lay_lf_cons (lay_curlyR lay_nil)) (delimHead_cons (by decide)))))
  simpa [SdlPrintT.braces, joinSep_eq, blockV, hemp, Item.yieldAll, Item.yield, Parse.yieldAll_append, List.append_assoc]
    using l1

theorem delimHead_braces (ls : List Text) : DelimHead (SdlPrintT.braces ls) := by
  unfold SdlPrintT.braces; exact delimHead_cons (by decide)

/-- names joined by a separator, as `Name`s (directive locations) or `NamedType`s (interfaces, union members) -/
theorem lay_names_sep {β} {sep : Text} {sk : TokKind} (hsep : ∀ b cb, Lay b cb → Lay (sep ++ b) ([(sk, [])] ++ cb))
    (hd : ∀ b, DelimHead (sep ++ b)) (V : β → Item) (mk : String → β)
    (hV : ∀ n, nameOK n = true → Lay (T n) (V (mk n)).yield) (ns : List String) (h : ∀ n ∈ ns, nameOK n = true) :
    Lay (SdlPrintT.joinSep sep (ns.map T)) (Item.yieldAll (sepV sk V (ns.map mk))) := by
  obtain ⟨l, e⟩ := lay_sepV T (fun n => V (mk n)) hsep hd ns (fun n hn => hV n (h n hn)) (fun n hn => isName_ne_nil (h n hn))
  rw [sepV_map, joinSep_eq, ← e]
  exact l

theorem lay_namedOf (n : String) (h : nameOK n = true) : Lay (T n) (namedTypeV (namedOf n)).yield := by
  simpa [namedOf, namedTypeV, Item.yield, Item.yieldAll] using lay_nameOf n h

/-- keyword, space, name, rest -/
theorem lay_kw_name {k : Text} (hk : Spec.Lexical.isName k = true) (n : String) (hn : nameOK n = true) {b : Text}
    {cb : List TokClass} (hb : Lay b cb) (hd : DelimHead b) :
    Lay (k ++ 32 :: (T n ++ b)) ((.name, k) :: ((nameV (nameOf n)).yield ++ cb)) := by
  have := lay_append (lay_name hk) (lay_space_cons (lay_append (lay_nameOf n hn) hb hd)) (delimHead_cons (by decide))
  simpa using this

def MembersPartA (s : SchemaD) (c : SdlPrintTA.OptsA) (apps : Apps) (t : TypeD) : Prop :=
  match t.kind with
  | .scalar => True
  | .object => t.fields ≠ [] ∧ (∀ n ∈ t.interfaces, nameOK n = true) ∧
      ∀ i, ∀ f ∈ t.fields, Lay (SdlPrintTA.printField s c apps t.name i f) (fieldDefinitionV (fieldOf (SdlPrintTA.fieldToDefA s c apps t.name f))).yield
  | .interface => t.fields ≠ [] ∧
      ∀ i, ∀ f ∈ t.fields, Lay (SdlPrintTA.printField s c apps t.name i f) (fieldDefinitionV (fieldOf (SdlPrintTA.fieldToDefA s c apps t.name f))).yield
  | .union => t.members ≠ [] ∧ ∀ n ∈ t.members, nameOK n = true
  | .enum => t.values ≠ [] ∧
      ∀ i, ∀ v ∈ t.values, Lay (SdlPrintTA.printEnumValue c apps t.name i v) (enumValueDefinitionV (enumValOf (SdlPrintTA.enumValToDefA c apps t.name v))).yield
  | .input => t.inputFields ≠ [] ∧
      ∀ i, ∀ a ∈ t.inputFields, Lay (SdlPrintTA.printInputField s c apps t.name i a) (inputValueV (inputValOf (SdlPrintTA.argToDefA s c apps t.name a))).yield

private theorem e_scalar : T "scalar " = K.scalar ++ [32] := by decide +kernel
private theorem e_enum : T "enum " = K.enum_ ++ [32] := by decide +kernel
private theorem e_union : T "union " = K.union ++ [32] := by decide +kernel
private theorem e_type : T "type " = K.type_ ++ [32] := by decide +kernel
private theorem e_interface : T "interface " = K.interface_ ++ [32] := by decide +kernel
private theorem e_input : T "input " = K.input ++ [32] := by decide +kernel
private theorem e_implements : T " implements " = 32 :: (K.implements ++ [32]) := by decide +kernel
private theorem e_directive : T "directive @" = K.directive ++ [32, 64] := by decide +kernel
private theorem e_on : T " on " = 32 :: (K.on ++ [32]) := by decide +kernel
private theorem e_schema : T "schema" = K.schema := by decide +kernel

theorem yield_typeHeader (d : Option StringValue) (k : Text) (n : Name) (rest : List Item) :
    (Item.node none (descV d ++ kw k :: nameV n :: rest)).yield =
      Item.yieldAll (descV d) ++ (.name, k) :: ((nameV n).yield ++ Item.yieldAll rest) := by
  simp only [Item.yield, Item.yieldAll, Parse.yieldAll_append, List.singleton_append]

theorem lay_printTypeA (s : SchemaD) (c : SdlPrintTA.OptsA) (apps : Apps) (t : TypeD) (hn : nameOK t.name = true)
    (hdesc : DescPart (SdlPrintT.printDescription c.base t.desc) (Item.yieldAll (descV (descOf (descToDoc t.desc)))))
    (hf : DirsFacts (SdlPrintTA.printDirectives c apps t.name) (SdlPrintTA.keptAt c apps t.name))
    (hm : MembersPartA s c apps t) :
    Lay (SdlPrintTA.printType s c apps t) (definitionV (typeDefOf (SdlPrintTA.typeToDefA s c apps t))).yield := by
  have kS : Spec.Lexical.isName K.scalar = true := by decide +kernel
  have kE : Spec.Lexical.isName K.enum_ = true := by decide +kernel
  have kU : Spec.Lexical.isName K.union = true := by decide +kernel
  have kT : Spec.Lexical.isName K.type_ = true := by decide +kernel
  have kI : Spec.Lexical.isName K.interface_ = true := by decide +kernel
  have kN : Spec.Lexical.isName K.input = true := by decide +kernel
  have kM : Spec.Lexical.isName K.implements = true := by decide +kernel
  have hfl := hf.lay
  have hfd := hf.delim
  unfold MembersPartA at hm
  cases hk : t.kind with
  | scalar =>
    have l := lay_desc_then hdesc (lay_kw_name kS t.name hn hfl hfd)
    simp only [SdlPrintTA.printType, hk, e_scalar, typeDefOf, SdlPrintTA.typeToDefA, definitionV, yield_typeHeader,
      List.append_assoc, List.singleton_append]
    exact l
  | enum =>
    rw [hk] at hm
    have lb := lay_braces (SdlPrintTA.printEnumValue c apps t.name) (fun v => enumValueDefinitionV (enumValOf (SdlPrintTA.enumValToDefA c apps t.name v)))
      (SdlPrintTA.printEnumValues c apps t.name) (fun _ => rfl) (fun _ _ _ => rfl) t.values hm.1 hm.2
    have l := lay_desc_then hdesc (lay_kw_name kE t.name hn (lay_append hfl lb (delimHead_braces _))
      (delimHead_append hfd (delimHead_braces _)))
    simp only [SdlPrintTA.printType, hk, e_enum, typeDefOf, SdlPrintTA.typeToDefA, definitionV, yield_typeHeader,
      Parse.yieldAll_append, blockV_map, List.append_assoc, List.singleton_append]
    exact l
  | union =>
    rw [hk] at hm
    have ln := lay_names_sep sep_pipe (fun b => delimHead_cons (by decide)) namedTypeV namedOf lay_namedOf t.members hm.2
    have hemp : (t.members.map namedOf).isEmpty = false := by
      cases hmm : t.members with | nil => exact absurd hmm hm.1 | cons _ _ => rfl
    have l := lay_desc_then hdesc (lay_kw_name kU t.name hn
      (lay_append hfl (lay_space_cons (lay_equals (lay_space_cons ln))) (delimHead_cons (by decide)))
      (delimHead_append hfd (delimHead_cons (by decide))))
    simp only [SdlPrintTA.printType, hk, e_union, unionMembersV, hemp, typeDefOf, SdlPrintTA.typeToDefA, definitionV, yield_typeHeader,
      Parse.yieldAll_append, List.append_assoc, List.singleton_append]
    exact l
  | object =>
    rw [hk] at hm
    obtain ⟨hne, hifs, hfs⟩ := hm
    have lb := lay_braces (SdlPrintTA.printField s c apps t.name) (fun f => fieldDefinitionV (fieldOf (SdlPrintTA.fieldToDefA s c apps t.name f)))
      (SdlPrintTA.printFields s c apps t.name) (fun _ => rfl) (fun _ _ _ => rfl) t.fields hne hfs
    have ldb := lay_append hfl lb (delimHead_braces _)
    have ddb := delimHead_append hfd (delimHead_braces (SdlPrintTA.printFields s c apps t.name 0 t.fields))
    by_cases hi : t.interfaces.isEmpty = true
    · have hi' : t.interfaces = [] := List.isEmpty_iff.1 hi
      have l := lay_desc_then hdesc (lay_kw_name kT t.name hn ldb ddb)
      simp only [SdlPrintTA.printType, hk, e_type, hi', implementsV, typeDefOf, SdlPrintTA.typeToDefA, definitionV, yield_typeHeader,
        Parse.yieldAll_append, blockV_map, List.append_assoc, List.singleton_append]
      exact l
    · have hi' : t.interfaces.isEmpty = false := by simpa using hi
      have hemp : (t.interfaces.map namedOf).isEmpty = false := by simpa using hi'
      have ln := lay_names_sep sep_amp (fun b => delimHead_cons (by decide)) namedTypeV namedOf lay_namedOf t.interfaces hifs
      have limpl := lay_space_cons (lay_append (lay_name kM) (lay_space_cons (lay_append ln ldb ddb))
        (delimHead_cons (by decide)))
      have l := lay_desc_then hdesc (lay_kw_name kT t.name hn limpl (delimHead_cons (by decide)))
      simp only [SdlPrintTA.printType, hk, e_type, e_implements, hi', implementsV, hemp, typeDefOf, SdlPrintTA.typeToDefA, definitionV, yield_typeHeader,
        Parse.yieldAll_append, blockV_map, List.append_assoc, List.singleton_append]
      exact l
  | interface =>
    rw [hk] at hm
    have lb := lay_braces (SdlPrintTA.printField s c apps t.name) (fun f => fieldDefinitionV (fieldOf (SdlPrintTA.fieldToDefA s c apps t.name f)))
      (SdlPrintTA.printFields s c apps t.name) (fun _ => rfl) (fun _ _ _ => rfl) t.fields hm.1 hm.2
    have l := lay_desc_then hdesc (lay_kw_name kI t.name hn (lay_append hfl lb (delimHead_braces _))
      (delimHead_append hfd (delimHead_braces _)))
    simp only [SdlPrintTA.printType, hk, e_interface, typeDefOf, SdlPrintTA.typeToDefA, definitionV, yield_typeHeader,
      Parse.yieldAll_append, blockV_map, List.append_assoc, List.singleton_append]
    exact l
  | input =>
    rw [hk] at hm
    have lb := lay_braces (SdlPrintTA.printInputField s c apps t.name) (fun a => inputValueV (inputValOf (SdlPrintTA.argToDefA s c apps t.name a)))
      (SdlPrintTA.printInputFields s c apps t.name) (fun _ => rfl) (fun _ _ _ => rfl) t.inputFields hm.1 hm.2
    have l := lay_desc_then hdesc (lay_kw_name kN t.name hn (lay_append hfl lb (delimHead_braces _))
      (delimHead_append hfd (delimHead_braces _)))
    simp only [SdlPrintTA.printType, hk, e_input, typeDefOf, SdlPrintTA.typeToDefA, definitionV, yield_typeHeader,
      Parse.yieldAll_append, blockV_map, List.append_assoc, List.singleton_append]
    exact l

theorem kw_ne_nil {k : Text} (hk : Spec.Lexical.isName k = true) (a b : Text) : a ++ (k ++ b) ≠ [] := by
  cases k with
  | nil => cases hk
  | cons c t => simp

theorem printTypeA_ne (s : SchemaD) (c : SdlPrintTA.OptsA) (apps : Apps) (t : TypeD) : SdlPrintTA.printType s c apps t ≠ [] := by
  unfold SdlPrintTA.printType
  cases t.kind <;> simp only [e_scalar, e_enum, e_union, e_type, e_interface, e_input, List.append_assoc] <;>
    exact kw_ne_nil (by decide +kernel) _ _

theorem lay_printDirectiveDefinitionA (s : SchemaD) (c : SdlPrintTA.OptsA) (apps : Apps) (d : DirectiveD) (hn : nameOK d.name = true)
    (hdesc : DescPart (SdlPrintT.printDescription c.base d.desc) (Item.yieldAll (descV (descOf (descToDoc d.desc)))))
    (hargs : ArgsPartA s c apps ("@" ++ d.name) d.args 0) (hl : ∀ n ∈ d.locations, nameOK n = true) :
    Lay (SdlPrintTA.printDirectiveDefinition s c apps d)
      (definitionV (.directiveDefinition (descOf (descToDoc d.desc)) (nameOf d.name)
        (d.args.map fun a => inputValOf (SdlPrintTA.argToDefA s c apps ("@" ++ d.name) a)) (d.locations.map nameOf) none)).yield := by
  have kD : Spec.Lexical.isName K.directive = true := by decide +kernel
  have kO : Spec.Lexical.isName K.on = true := by decide +kernel
  have l1 := lay_space_cons (lay_append (lay_name kO) (lay_space_cons (lay_names_sep sep_pipe (fun b => delimHead_cons (by decide)) nameV nameOf lay_nameOf d.locations hl)) (delimHead_cons (by decide)))
  have l2 := lay_append (lay_nameOf d.name hn) (lay_append hargs.1 l1 (delimHead_cons (by decide)))
    (delimHead_append hargs.2 (delimHead_cons (by decide)))
  have l3 := lay_append (lay_name kD) (lay_space_cons (lay_atSign l2)) (delimHead_cons (by decide))
  have l := lay_desc_then hdesc l3
  simpa [SdlPrintTA.printDirectiveDefinition, e_directive, e_on, definitionV, kw, nameV, Item.yield, Item.yieldAll,
    Parse.yieldAll_append, List.append_assoc] using l

theorem printDirectiveDefinitionA_ne (s : SchemaD) (c : SdlPrintTA.OptsA) (apps : Apps) (d : DirectiveD) :
    SdlPrintTA.printDirectiveDefinition s c apps d ≠ [] := by
  unfold SdlPrintTA.printDirectiveDefinition
  simp only [e_directive, List.append_assoc]
  exact kw_ne_nil (by decide +kernel) _ _


theorem rootLines_eq (o : SdlPrintT.OptsT) (s : SchemaD) :
    SdlPrintT.rootLines o s = (rootOps s).map fun p => o.indent ++ (T p.1 ++ 58 :: 32 :: T p.2) := by
  have e1 : T "query: " = T "query" ++ [58, 32] := by decide +kernel
  have e2 : T "mutation: " = T "mutation" ++ [58, 32] := by decide +kernel
  have e3 : T "subscription: " = T "subscription" ++ [58, 32] := by decide +kernel
  unfold SdlPrintT.rootLines rootOps
  cases s.query <;> cases s.mutation <;> cases s.subscription <;> simp [e1, e2, e3, List.append_assoc]

theorem rootOps_ops (s : SchemaD) : ∀ p ∈ rootOps s, p.1 = "query" ∨ p.1 = "mutation" ∨ p.1 = "subscription" := by
  intro p hp
  rcases mem_rootOps s p hp with ⟨q, _, rfl⟩ | ⟨q, _, rfl⟩ | ⟨q, _, rfl⟩ <;> simp

theorem rootOps_names (s : SchemaD) (hq : rootOKT s.query = true) (hm : rootOKT s.mutation = true)
    (hs : rootOKT s.subscription = true) : ∀ p ∈ rootOps s, nameOK p.2 = true := by
  intro p hp
  rcases mem_rootOps s p hp with ⟨q, h, rfl⟩ | ⟨q, h, rfl⟩ | ⟨q, h, rfl⟩
  · rw [h] at hq; exact hq
  · rw [h] at hm; exact hm
  · rw [h] at hs; exact hs

theorem yield_schemaDefinition {α} (dirs : List Directive) (g : α → OperationTypeDefinition) (ops : List α) (hne : ops ≠ []) :
    (definitionV (.schemaDefinition dirs (ops.map g) none)).yield =
      (.name, K.schema) :: (Item.yieldAll (directivesV dirs) ++ Item.yieldAll (blockV (fun p => operationTypeV (g p)) ops)) := by
  have hemp : ops.isEmpty = false := by cases ops with | nil => exact absurd rfl hne | cons _ _ => rfl
  simp only [definitionV, Item.yield, Item.yieldAll, Parse.yieldAll_append, blockV, hemp, List.map_map, Function.comp_def,
    Bool.false_eq_true, ↓reduceIte, List.singleton_append, List.append_nil]

theorem lay_printSchemaDefinitionA (c : SdlPrintTA.OptsA) (apps : Apps) (hind : Blank c.base.indent) (s : SchemaD)
    (hq : rootOKT s.query = true) (hm : rootOKT s.mutation = true) (hs : rootOKT s.subscription = true)
    (hne : rootOps s ≠ []) (hf : DirsFacts (SdlPrintTA.printDirectives c apps "") (SdlPrintTA.keptAt c apps "")) :
    Lay (T "schema" ++ SdlPrintTA.printDirectives c apps "" ++ SdlPrintT.braces (SdlPrintT.rootLines c.base s))
      (definitionV (.schemaDefinition ((SdlPrintTA.keptAt c apps "").map dirOf) ((rootOps s).map opTypeOf) none)).yield := by
  have kS : Spec.Lexical.isName K.schema = true := by decide +kernel
  have hline : ∀ i : Nat, ∀ p ∈ rootOps s, Lay (c.base.indent ++ (T p.1 ++ 58 :: 32 :: T p.2)) (operationTypeV (opTypeOf p)).yield := by
    intro _ p hp
    have hop : Spec.Lexical.isName (T p.1) = true := by
      rcases rootOps_ops s p hp with h | h | h <;> rw [h] <;> decide +kernel
    have l := lay_blank_prefix hind (lay_append (lay_name hop) (lay_colon (lay_space_cons (lay_nameOf p.2 (rootOps_names s hq hm hs p hp))))
      (delimHead_cons (by decide)))
    simpa [operationTypeV, opTypeOf, namedOf, namedTypeV, nameOf, nameV, kw, Item.yield, Item.yieldAll] using l
  -- the second equation is given by `by`, so that it is checked after the numerals in the two functions are elaborated
  -- (as a term it is unified against them half-elaborated, which takes very long)
  have lb := lay_braces (fun (_ : Nat) (p : String × String) => c.base.indent ++ (T p.1 ++ 58 :: 32 :: T p.2))
    (fun p => operationTypeV (opTypeOf p)) (fun _ l => l.map fun p => c.base.indent ++ (T p.1 ++ 58 :: 32 :: T p.2))
    (fun _ => rfl) (by intros; rfl) (rootOps s) hne hline
  have l := lay_append (lay_name kS) (lay_append hf.lay lb (delimHead_braces _)) (delimHead_append hf.delim (delimHead_braces _))
  rw [rootLines_eq, e_schema, yield_schemaDefinition _ _ _ hne, List.append_assoc]
  exact l

end PyGql.SdlText
