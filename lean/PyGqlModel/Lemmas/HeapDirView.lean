/-
  C14 — the copying phase of `clone()` for DIRECTIVES (`_clone_directive`): the copy of a directive has the by-name view of its
  source, the copies come in the order of the source's `directives` dict, and `_replace_types_and_directives` appends them in that order.
-/
import PyGqlModel.Lemmas.HeapCopyView

namespace PyGql.Heap.Own
open PyGql.Heap PyGql.Props.C14

def fullD (p : DirO × List (Option ArgO)) : Prop := ∀ v, v ∈ p.2 → v.isSome = true

theorem dirV_grow {h h' : Heap} (g : Frame h h') {a : Addr} {p : DirO × List (Option ArgO)} (hv : dirV h a = some p) (hf : fullD p) :
    dirV h' a = some p := by
  simp only [dirV, Option.map_eq_some_iff] at hv
  obtain ⟨d, hd0, rfl⟩ := hv
  have ha : a < h.size := read_lt h a _ (readDir_read hd0)
  have hr : h'.readDir a = some d := by simp only [Heap.readDir, g.2 a ha]; exact hd0
  simp only [dirV, hr, Option.map_some, Option.some.injEq, Prod.mk.injEq, true_and]
  exact argsV_grow g d.args (fun x hx => hf _ (List.mem_map.mpr ⟨x, hx, rfl⟩))

/-- the arguments of the directive at `a` exist (what `wfB` says about a registered directive) -/
def DirReadable (h0 : Heap) (a : Addr) : Prop := ∃ d, h0.readDir a = some d ∧ ∀ x, x ∈ d.args → ∃ g, h0.readArg x = some g

theorem cloneDir_view (cfg : Cfg) (hd : cfg.deepClone = true) (h0 h : Heap) (ss : Frame h0 h) (a : Addr) (d : DirO)
    (hd0 : h0.readDir a = some d) (hargs : ∀ x, x ∈ d.args → ∃ g, h0.readArg x = some g) :
    Frame h (cloneDir cfg h d).1 ∧ dirV (cloneDir cfg h d).1 (cloneDir cfg h d).2 = dirV h0 a ∧
      ∃ p, dirV h0 a = some p ∧ fullD p := by
  simp only [cloneDir, hd, if_true]
  obtain ⟨sa, ea, fa⟩ := copyArgs_view h0 d.args h ss hargs
  have s1 : Frame (copyArgs h d.args).1 ((copyArgs h d.args).1.alloc (.dir { d with args := (copyArgs h d.args).2 })).1 :=
    alloc_frame _ _
  have hsrc : dirV h0 a = some ({ d with args := [] }, d.args.map (argV h0)) := by simp [dirV, hd0]
  refine ⟨sa.trans s1, ?_, _, hsrc, fa⟩
  rw [hsrc]
  simp only [dirV, readDir_alloc_new, Option.map_some, Option.some.injEq, Prod.mk.injEq, true_and]
  rw [← ea]
  exact argsV_grow s1 _ (fun x hx => fa _ (by rw [← ea]; exact List.mem_map.mpr ⟨x, hx, rfl⟩))

/-- the loop over `self.directives`: one copy per directive, IN ORDER, under the same name, with the view of its source -/
theorem cloneDirs_view (cfg : Cfg) (hd : cfg.deepClone = true) (h0 : Heap) (l : List (String × Addr)) (h : Heap) (ss : Frame h0 h)
    (hall : ∀ e, e ∈ l → DirReadable h0 e.2) :
    Frame h (cloneDirs cfg h l).1 ∧
    ∃ cs : List (String × Addr), (cloneDirs cfg h l).2 = cs.map (fun c => (c.1, some c.2)) ∧
      cs.map (fun c => (c.1, dirV (cloneDirs cfg h l).1 c.2)) = l.map (fun e => (e.1, dirV h0 e.2)) := by
  obtain ⟨r, os, f, e⟩ := (cloneDirs_loop cfg).out Frame.refl Frame.trans
    (fun h e => Frame.of_pres (cloneDirs_ok h.size cfg hd [e] h (inv_self h)).1) l h
  refine ⟨r, ?_⟩
  have round : ∀ a, a ∈ l → ∀ o, Made (cloneDirs cfg) Frame h (cloneDirs cfg h l).1 a o → ∃ x, o = some x ∧
      ∃ c : String × Addr, x = (c.1, some c.2) ∧ (c.1, dirV (cloneDirs cfg h l).1 c.2) = (a.1, dirV h0 a.2) := by
    intro a ha o ⟨s1, r1, e1, r2⟩
    obtain ⟨d, hd0, hargs⟩ := hall a ha
    have ss1 := ss.trans r1
    simp only [cloneDirs_one, ss1.readDir hd0] at e1 r2
    obtain ⟨_, v1, p, hp, fp⟩ := cloneDir_view cfg hd h0 s1 ss1 a.2 d hd0 hargs
    refine ⟨_, e1.symm, (a.1, (cloneDir cfg s1 d).2), rfl, ?_⟩
    rw [hp] at v1 ⊢
    exact congrArg (a.1, ·) (dirV_grow r2 v1 fp)
  obtain ⟨cs, e2, f2⟩ := (all2_of_run round f).exists_map
  exact ⟨cs, e ▸ e2, f2.map_eq⟩

theorem lookup_append_none {A : List (String × Addr)} {n m : String} {a : Addr} (hA : lookup A m = none) (hne : n ≠ m) :
    lookup (A ++ [(n, a)]) m = none := by
  simp only [lookup, Option.map_eq_none_iff, List.find?_eq_none] at hA ⊢
  intro e he
  simp only [List.mem_append, List.mem_singleton] at he
  rcases he with he | rfl
  · exact hA e he
  · simpa using hne

/-- `directives[name] = copy` for distinct names not yet registered: appended in order -/
theorem replaceDirs_append : ∀ (cs : List (String × Addr)) (reg : List (String × Addr)), (cs.map (·.1)).Nodup →
    (∀ c, c ∈ cs → lookup reg c.1 = none) → replaceDirs reg (cs.map fun c => (c.1, some c.2)) = reg ++ cs := by
  intro cs
  induction cs with
  | nil => intro reg _ _; simp [replaceDirs]
  | cons c rest ih =>
    intro reg hn hf
    obtain ⟨n, a⟩ := c
    simp only [List.map_cons, List.nodup_cons] at hn
    have hl : lookup reg n = none := hf (n, a) (by simp)
    simp only [List.map_cons, replaceDirs]
    have hrs : regSet reg n a = reg ++ [(n, a)] := by simp [regSet, hl]
    rw [hrs, ih (reg ++ [(n, a)]) hn.2]
    · simp
    · intro c hc
      apply lookup_append_none (hf c (by simp [hc]))
      intro hq
      exact hn.1 (by rw [hq]; exact List.mem_map.mpr ⟨c, hc, rfl⟩)

end PyGql.Heap.Own
