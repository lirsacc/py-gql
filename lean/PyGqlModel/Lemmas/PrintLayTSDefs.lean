/-
  `Lay` for every type-system definition and extension (modulo member descriptions, R4).
-/
import PyGqlModel.Lemmas.PrintLayTSParts
namespace PyGql.PrintTokens
open PyGql PyGql.Ast PyGql.Parse PyGql.Spec PyGql.Print PyGql.PrintLex PyGql.PrintMatch PyGql.PrintString PyGql.Lex

theorem nb_tailJoin : ∀ (xs : List Text), (∀ x ∈ xs, NB x) → NB (tailJoin [32] xs)
  | [], _ => nb_nil
  | x :: xs, h => by
    have e : tailJoin [32] (x :: xs) = wrapS x ++ tailJoin [32] xs := by simp [tailJoin, wrapS]
    rw [e]; exact nb_append (nb_wrapS (h x (by simp))) (nb_tailJoin xs (fun y hy => h y (by simp [hy])))

/-- the keyword text in front of a definition and its items in the view: the text lexes to them, is not empty, does not
    start with `{` nor end with `}` -/
def KwOK (t : Text) (is : List Item) : Prop := Lay t (Item.yieldAll is) ∧ t ≠ [] ∧ t.head? ≠ some 123 ∧ NB t

theorem kw_facts {k : Text} (h : Spec.Lexical.isName k = true) : k ≠ [] ∧ k.head? ≠ some 123 ∧ NB k := by
  refine ⟨isName_ne_nil h, fun e => ?_, nb_name h⟩
  exact absurd (name_all h 123 (List.mem_of_mem_head? e)) (by decide +kernel)

theorem kwOK_name {t k : Text} (e : t = k) (h : Spec.Lexical.isName k = true) : KwOK t [kw k] := by
  subst e
  exact ⟨lay_name h, kw_facts h⟩

theorem kwOK_extend {t k : Text} (e : t = K.extend ++ 32 :: k) (h : Spec.Lexical.isName k = true) :
    KwOK t [kw K.extend, kw k] := by
  subst e
  have he : Spec.Lexical.isName K.extend = true := by decide +kernel
  refine ⟨by simpa [Item.yieldAll, Item.yield, kw] using
      lay_append (lay_name he) (lay_space_cons (lay_name h)) (delimHead_cons (by decide +kernel)),
    by simp [K.extend], by simp [K.extend], nb_append_right (nb_cons (nb_name h) (by decide +kernel)) (by simp)⟩

def okMembers {α} (ok : α → Prop) (xs : List α) : Prop := ∀ x ∈ xs, ok x

def okTSDefinition (ind : Text) : Definition → Prop
  | .schemaDefinition dirs ops _ => okDirectives ind dirs ∧ ops ≠ [] ∧ okMembers okOperationType ops
  | .schemaExtension dirs ops _ => okDirectives ind dirs ∧ okMembers okOperationType ops
  | .scalarTypeDefinition desc name dirs _ => okDesc ind desc ∧ Spec.Lexical.isName name.value = true ∧ okDirectives ind dirs
  | .scalarTypeExtension name dirs _ => Spec.Lexical.isName name.value = true ∧ okDirectives ind dirs
  | .objectTypeDefinition desc name ifs dirs fields _ =>
    okDesc ind desc ∧ Spec.Lexical.isName name.value = true ∧ okNamedTypes ifs ∧ okDirectives ind dirs ∧
    okMembers (okFieldDef ind) fields
  | .objectTypeExtension name ifs dirs fields _ =>
    Spec.Lexical.isName name.value = true ∧ okNamedTypes ifs ∧ okDirectives ind dirs ∧ okMembers (okFieldDef ind) fields
  | .interfaceTypeDefinition desc name dirs fields _ =>
    okDesc ind desc ∧ Spec.Lexical.isName name.value = true ∧ okDirectives ind dirs ∧ okMembers (okFieldDef ind) fields
  | .interfaceTypeExtension name dirs fields _ =>
    Spec.Lexical.isName name.value = true ∧ okDirectives ind dirs ∧ okMembers (okFieldDef ind) fields
  | .unionTypeDefinition desc name dirs types _ =>
    okDesc ind desc ∧ Spec.Lexical.isName name.value = true ∧ okDirectives ind dirs ∧ okNamedTypes types
  | .unionTypeExtension name dirs types _ =>
    Spec.Lexical.isName name.value = true ∧ okDirectives ind dirs ∧ okNamedTypes types
  | .enumTypeDefinition desc name dirs values _ =>
    okDesc ind desc ∧ Spec.Lexical.isName name.value = true ∧ okDirectives ind dirs ∧ okMembers (okEnumValue ind) values
  | .enumTypeExtension name dirs values _ =>
    Spec.Lexical.isName name.value = true ∧ okDirectives ind dirs ∧ okMembers (okEnumValue ind) values
  | .inputObjectTypeDefinition desc name dirs fields _ =>
    okDesc ind desc ∧ Spec.Lexical.isName name.value = true ∧ okDirectives ind dirs ∧ okInputValues ind fields
  | .inputObjectTypeExtension name dirs fields _ =>
    Spec.Lexical.isName name.value = true ∧ okDirectives ind dirs ∧ okInputValues ind fields
  | .directiveDefinition desc name args locations _ =>
    okDesc ind desc ∧ Spec.Lexical.isName name.value = true ∧ okInputValues ind args ∧ locations ≠ [] ∧
    ∀ n ∈ locations, Spec.Lexical.isName n.value = true
  | _ => False

/-- the definition's optional trailing `{…}` block is absent (its view ends with `[lookahead ≠ {]`) -/
def openEnd : Definition → Bool
  | .schemaExtension _ ops _ => ops.isEmpty
  | .objectTypeDefinition _ _ _ _ fields _ => fields.isEmpty
  | .objectTypeExtension _ _ _ fields _ => fields.isEmpty
  | .interfaceTypeDefinition _ _ _ fields _ => fields.isEmpty
  | .interfaceTypeExtension _ _ fields _ => fields.isEmpty
  | .enumTypeDefinition _ _ _ values _ => values.isEmpty
  | .enumTypeExtension _ _ values _ => values.isEmpty
  | .inputObjectTypeDefinition _ _ _ fields _ => fields.isEmpty
  | .inputObjectTypeExtension _ _ fields _ => fields.isEmpty
  | _ => false

/-- what the document loop needs to know about one printed definition -/
structure DefFacts (c : Cfg) (d : Definition) : Prop where
  lay : Lay (printDefinition c d) (definitionV (stripDef d)).yield
  ne : printDefinition c d ≠ []
  head : (printDefinition c d).head? ≠ some 123
  nb : openEnd d = true → NB (printDefinition c d)

theorem blockPart_nb {xs : List α} {f : α → Text} {ind : Text} (h : xs = [] → block (xs.map f) ind = [])
    (he : xs.isEmpty = true) : NB (block (xs.map f) ind) := by
  rw [h (List.isEmpty_iff.1 he)]; exact nb_nil


/-- a definition printed as `Description? keyword part …` (space-joined, empty parts dropped) whose view yields the
    description, the keyword and the classes of the parts -/
theorem defFacts_mk (c : Cfg) (hdesc : c.includeDescriptions = true) {d : Definition} (desc : Option StringValue)
    (hd : okDesc c.indent desc) {kwT : Text} {kwI : List Item} (hkw : KwOK kwT kwI) (ps : List LP)
    (hps : ∀ p ∈ ps, Lay p.1 p.2)
    (hprint : printDefinition c d = withDesc c (join (kwT :: ps.map Prod.fst) [32]) desc)
    (hyield : (definitionV (stripDef d)).yield =
      Item.yieldAll (descV desc) ++ (Item.yieldAll kwI ++ ps.flatMap Prod.snd))
    (hnb : openEnd d = true → ∀ p ∈ ps, NB p.1) : DefFacts c d := by
  obtain ⟨lk, kne, khead, knb⟩ := hkw
  obtain ⟨lb, eb⟩ := lay_kwJoin kwT _ lk kne ps hps
  have hbne : join (kwT :: ps.map Prod.fst) [32] ≠ [] := by
    rw [eb]; intro e; exact kne (List.append_eq_nil_iff.1 e).1
  have hbh : (join (kwT :: ps.map Prod.fst) [32]).head? ≠ some 123 := by
    rw [eb, head?_append_ne kne]; exact khead
  obtain ⟨l, h1, h2, h3⟩ := lay_withDesc c hdesc desc hd _ _ lb hbne hbh
  rw [← hprint] at l h1 h2 h3
  rw [← hyield] at l
  refine ⟨l, h2, h1, fun ho => h3 ?_⟩
  rw [eb]
  exact nb_append knb (nb_tailJoin _ (by
    intro x hx; simp only [List.mem_map] at hx; obtain ⟨q, hq, rfl⟩ := hx; exact hnb ho q hq))

private theorem e_schema : lit "schema" = K.schema := by rw [lit, textOfString_ofList]; decide +kernel
private theorem e_xschema : lit "extend schema" = K.extend ++ 32 :: K.schema := by rw [lit, textOfString_ofList]; decide +kernel
private theorem e_scalar : lit "scalar" = K.scalar := by rw [lit, textOfString_ofList]; decide +kernel
private theorem e_xscalar : lit "extend scalar" = K.extend ++ 32 :: K.scalar := by rw [lit, textOfString_ofList]; decide +kernel
private theorem e_type : lit "type" = K.type_ := by rw [lit, textOfString_ofList]; decide +kernel
private theorem e_xtype : lit "extend type" = K.extend ++ 32 :: K.type_ := by rw [lit, textOfString_ofList]; decide +kernel
private theorem e_interface : lit "interface" = K.interface_ := by rw [lit, textOfString_ofList]; decide +kernel
private theorem e_xinterface : lit "extend interface" = K.extend ++ 32 :: K.interface_ := by rw [lit, textOfString_ofList]; decide +kernel
private theorem e_union : lit "union" = K.union := by rw [lit, textOfString_ofList]; decide +kernel
private theorem e_xunion : lit "extend union" = K.extend ++ 32 :: K.union := by rw [lit, textOfString_ofList]; decide +kernel
private theorem e_enum : lit "enum" = K.enum_ := by rw [lit, textOfString_ofList]; decide +kernel
private theorem e_xenum : lit "extend enum" = K.extend ++ 32 :: K.enum_ := by rw [lit, textOfString_ofList]; decide +kernel
private theorem e_input : lit "input" = K.input := by rw [lit, textOfString_ofList]; decide +kernel
private theorem e_xinput : lit "extend input" = K.extend ++ 32 :: K.input := by rw [lit, textOfString_ofList]; decide +kernel

theorem join_skip_nil (a b : Text) (rest : List Text) (sep : Text) :
    join (a :: b :: [] :: rest) sep = join (a :: b :: rest) sep := by
  simp [join, List.filter_cons]

theorem printImplements_nil : printImplements [] = [] := by simp [printImplements, join, joinSep, wrap]

theorem memFD (c : Cfg) (hind : Blank c.indent) (fields : List FieldDefinition) (h : okMembers (okFieldDef c.indent) fields) :
    ∀ x ∈ fields, Lay (printFieldDefinition c x) (fieldDefinitionV (stripFD x)).yield ∧ printFieldDefinition c x ≠ [] :=
  fun x hx => lay_fieldDef c hind x (h x hx)
theorem memEV (c : Cfg) (values : List EnumValueDefinition) (h : okMembers (okEnumValue c.indent) values) :
    ∀ x ∈ values, Lay (printEnumValueDefinition c x) (enumValueDefinitionV (stripEV x)).yield ∧ printEnumValueDefinition c x ≠ [] :=
  fun x hx => lay_enumValue c x (h x hx)
theorem memIV (c : Cfg) (fields : List InputValueDefinition) (h : okInputValues c.indent fields) :
    ∀ x ∈ fields, Lay (printInputValueDefinition c x) (inputValueV (stripIV x)).yield ∧ printInputValueDefinition c x ≠ [] :=
  fun x hx => lay_inputValue c x (h x hx)
theorem memOT (ops : List OperationTypeDefinition) (h : okMembers okOperationType ops) :
    ∀ x ∈ ops, Lay (printOperationTypeDefinition x) (operationTypeV (id x)).yield ∧ printOperationTypeDefinition x ≠ [] :=
  fun x hx => lay_operationType x (h x hx)

theorem printUnionMembers_nil : printUnionMembers [] = [] := by simp [printUnionMembers, join, joinSep, wrap]

theorem join_drop_last_nil (a b c : Text) (sep : Text) : join [a, b, c, []] sep = join [a, b, c] sep := by
  simp [join, List.filter_cons]

/-- definitions / extensions with a `{ members }` block: `kw name [implements] directives block` -/
theorem facts_blockDef {α} (c : Cfg) (hdesc : c.includeDescriptions = true) (hind : Blank c.indent) {d : Definition}
    {loc : Loc} (desc : Option StringValue) (hd : okDesc c.indent desc) {kwT : Text} {kwI : List Item} (hkw : KwOK kwT kwI)
    (name : Name) (hn : Spec.Lexical.isName name.value = true) (ifs : List NamedType) (hifs : okNamedTypes ifs)
    (dirs : List Directive) (hdir : okDirectives c.indent dirs)
    (f : α → Text) (s : α → α) (V : α → Item) (xs : List α) (hxs : ∀ x ∈ xs, Lay (f x) (V (s x)).yield ∧ f x ≠ [])
    (hprint : printDefinition c d =
      withDesc c (join [kwT, name.value, printImplements ifs, printDirectives c dirs, block (xs.map f) c.indent] [32]) desc)
    (hview : definitionV (stripDef d) =
      .node loc (descV desc ++ (kwI ++ nameV name :: (implementsV ifs ++ directivesV dirs ++ blockV V (xs.map s)))))
    (hopen : openEnd d = true → xs.isEmpty = true) : DefFacts c d := by
  obtain ⟨lb, hb0, _⟩ := lay_blockV c.indent hind f s V xs hxs
  obtain ⟨li, nbi⟩ := lay_implements ifs hifs
  refine defFacts_mk c hdesc desc hd hkw
    [part name.value (nameV name).yield, part (printImplements ifs) (Item.yieldAll (implementsV ifs)),
     part (printDirectives c dirs) (Item.yieldAll (directivesV dirs)),
     part (block (xs.map f) c.indent) (Item.yieldAll (blockV V (xs.map s)))] ?_ hprint ?_ ?_
  · simp only [List.mem_cons, List.not_mem_nil, or_false, forall_eq_or_imp, forall_eq]
    exact ⟨lay_nameLP hn, li, lay_directives c dirs hdir, lb⟩
  · simp [hview, Item.yield, Item.yieldAll, yieldAll_append]
  · intro ho
    simp only [List.mem_cons, List.not_mem_nil, or_false, forall_eq_or_imp, forall_eq]
    exact ⟨nb_name hn, nbi, nb_printDirectives c dirs hdir, blockPart_nb hb0 (hopen ho)⟩

/-- `kw name directives [= members]` (scalars: no members) -/
theorem facts_unionDef (c : Cfg) (hdesc : c.includeDescriptions = true) {d : Definition} {loc : Loc}
    (desc : Option StringValue) (hd : okDesc c.indent desc) {kwT : Text} {kwI : List Item} (hkw : KwOK kwT kwI)
    (name : Name) (hn : Spec.Lexical.isName name.value = true) (dirs : List Directive) (hdir : okDirectives c.indent dirs)
    (types : List NamedType) (ht : okNamedTypes types)
    (hprint : printDefinition c d =
      withDesc c (join [kwT, name.value, printDirectives c dirs, printUnionMembers types] [32]) desc)
    (hview : definitionV (stripDef d) =
      .node loc (descV desc ++ (kwI ++ nameV name :: (directivesV dirs ++ unionMembersV types))))
    (hopen : openEnd d = false) : DefFacts c d := by
  refine defFacts_mk c hdesc desc hd hkw
    [part name.value (nameV name).yield, part (printDirectives c dirs) (Item.yieldAll (directivesV dirs)),
     part (printUnionMembers types) (Item.yieldAll (unionMembersV types))] ?_ hprint ?_
    (by rw [hopen]; intro h; cases h)
  · simp only [List.mem_cons, List.not_mem_nil, or_false, forall_eq_or_imp, forall_eq]
    exact ⟨lay_nameLP hn, lay_directives c dirs hdir, lay_unionMembers types ht⟩
  · simp [hview, Item.yield, Item.yieldAll, yieldAll_append]

/-- `schema directives block` -/
theorem facts_schemaDef (c : Cfg) (hdesc : c.includeDescriptions = true) (hind : Blank c.indent) {d : Definition}
    {loc : Loc} {kwT : Text} {kwI : List Item} (hkw : KwOK kwT kwI) (dirs : List Directive)
    (hdir : okDirectives c.indent dirs) (ops : List OperationTypeDefinition) (hops : okMembers okOperationType ops)
    (hprint : printDefinition c d =
      join [kwT, printDirectives c dirs, block (ops.map printOperationTypeDefinition) c.indent] [32])
    (hview : definitionV (stripDef d) = .node loc (kwI ++ (directivesV dirs ++ blockV operationTypeV ops)))
    (hopen : openEnd d = true → ops.isEmpty = true) : DefFacts c d := by
  obtain ⟨lb, hb0, _⟩ := lay_blockV c.indent hind printOperationTypeDefinition id operationTypeV ops (memOT ops hops)
  rw [List.map_id] at lb
  refine defFacts_mk c hdesc none trivial hkw
    [part (printDirectives c dirs) (Item.yieldAll (directivesV dirs)),
     part (block (ops.map printOperationTypeDefinition) c.indent) (Item.yieldAll (blockV operationTypeV ops))] ?_ hprint ?_ ?_
  · simp only [List.mem_cons, List.not_mem_nil, or_false, forall_eq_or_imp, forall_eq]
    exact ⟨lay_directives c dirs hdir, lb⟩
  · simp [hview, descV, optV, Item.yield, Item.yieldAll, yieldAll_append]
  · intro ho
    simp only [List.mem_cons, List.not_mem_nil, or_false, forall_eq_or_imp, forall_eq]
    exact ⟨nb_printDirectives c dirs hdir, blockPart_nb hb0 (hopen ho)⟩

theorem facts_directiveDef (c : Cfg) (hdesc : c.includeDescriptions = true) (hind : Blank c.indent) (desc name args locations loc)
    (h : okTSDefinition c.indent (.directiveDefinition desc name args locations loc)) :
    DefFacts c (.directiveDefinition desc name args locations loc) := by
  obtain ⟨hd, hn, ha, hlne, hl⟩ := h
  obtain ⟨largs, dargs⟩ := lay_argumentDefinitions c hind args ha
  have kD : Spec.Lexical.isName K.directive = true := by decide +kernel
  have kO : Spec.Lexical.isName K.on = true := by decide +kernel
  have e1 : lit "directive @" = K.directive ++ [32, 64] := by rw [lit, textOfString_ofList]; decide +kernel
  have e2 : lit " on " = 32 :: (K.on ++ [32]) := by rw [lit, textOfString_ofList]; decide +kernel
  obtain ⟨ll, ej⟩ := lay_sepV printName nameV sep_pipe (fun b => delimHead_cons (by decide +kernel)) locations
    (fun n hn' => lay_nameLP (hl n hn')) (fun n hn' => isName_ne_nil (hl n hn'))
  rw [ej] at ll
  have body : Lay (K.directive ++ 32 :: 64 :: (name.value ++ (printArgumentDefinitions c args ++
      32 :: (K.on ++ 32 :: joinSep [32, 124, 32] (locations.map printName)))))
      ((.name, K.directive) :: (.atSign, []) :: ((nameV name).yield ++
        (Item.yieldAll (groupV .parenL .parenR inputValueV (args.map stripIV)) ++
          (.name, K.on) :: Item.yieldAll (sepV .pipe nameV locations)))) := by
    have l1 := lay_space_cons (lay_append (lay_name kO) (lay_space_cons ll) (delimHead_cons (by decide +kernel)))
    have l2 := lay_append (lay_nameLP hn) (lay_append largs l1 (delimHead_cons (by decide +kernel)))
      (delimHead_append dargs (delimHead_cons (by decide +kernel)))
    have l3 := lay_append (lay_name kD) (lay_space_cons (lay_atSign l2)) (delimHead_cons (by decide +kernel))
    simpa [List.append_assoc] using l3
  have hbody : join [lit "directive @", name.value, printArgumentDefinitions c args, lit " on ",
      join (locations.map printName) [32, 124, 32]] =
      K.directive ++ 32 :: 64 :: (name.value ++ (printArgumentDefinitions c args ++
      32 :: (K.on ++ 32 :: joinSep [32, 124, 32] (locations.map printName)))) := by
    simp only [join_nosep_cons, join_nosep_nil, e1, e2, ej]
    simp [List.append_assoc]
  obtain ⟨l, h1, h2, _⟩ := lay_withDesc c hdesc desc hd _ _ body (by simp [K.directive]) (by simp [K.directive])
  refine ⟨?_, ?_, ?_, by intro h; simp [openEnd] at h⟩
  · simp only [printDefinition, hbody]
    simpa [definitionV, stripDef, kw, Item.yield, Item.yieldAll, yieldAll_append, List.append_assoc] using l
  · simp only [printDefinition, hbody]; exact h2
  · simp only [printDefinition, hbody]; exact h1

theorem tsDefFacts (c : Cfg) (hdesc : c.includeDescriptions = true) (hind : Blank c.indent) (d : Definition)
    (h : okTSDefinition c.indent d) : DefFacts c d := by
  have kS : Spec.Lexical.isName K.schema = true := by decide +kernel
  have kC : Spec.Lexical.isName K.scalar = true := by decide +kernel
  have kT : Spec.Lexical.isName K.type_ = true := by decide +kernel
  have kI : Spec.Lexical.isName K.interface_ = true := by decide +kernel
  have kU : Spec.Lexical.isName K.union = true := by decide +kernel
  have kE : Spec.Lexical.isName K.enum_ = true := by decide +kernel
  have kN : Spec.Lexical.isName K.input = true := by decide +kernel
  have noIfs : okNamedTypes [] := by intro t ht; cases ht
  cases d with
  | operation d => exact absurd h (by simp [okTSDefinition])
  | fragment d => exact absurd h (by simp [okTSDefinition])
  | schemaDefinition dirs ops loc =>
    obtain ⟨hdir, hne, hops⟩ := h
    have hem : ops.isEmpty = false := by cases ops with | nil => exact absurd rfl hne | cons _ _ => rfl
    exact facts_schemaDef c hdesc hind (loc := loc) (kwOK_name e_schema kS) dirs hdir ops hops rfl
      (by simp [definitionV, stripDef, blockV, hem]) (fun ho => by simp [openEnd] at ho)
  | schemaExtension dirs ops loc =>
    obtain ⟨hdir, hops⟩ := h
    exact facts_schemaDef c hdesc hind (kwOK_extend e_xschema kS) dirs hdir ops hops rfl rfl id
  | scalarTypeDefinition desc name dirs loc =>
    obtain ⟨hd, hn, hdir⟩ := h
    exact facts_unionDef c hdesc (loc := loc) desc hd (kwOK_name e_scalar kC) name hn dirs hdir [] noIfs
      (by rw [printUnionMembers_nil, join_drop_last_nil]; rfl) (by simp [definitionV, stripDef, unionMembersV]) rfl
  | scalarTypeExtension name dirs loc =>
    obtain ⟨hn, hdir⟩ := h
    exact facts_unionDef c hdesc (loc := loc) none trivial (kwOK_extend e_xscalar kC) name hn dirs hdir [] noIfs
      (by rw [printUnionMembers_nil, join_drop_last_nil]; rfl) (by simp [definitionV, stripDef, unionMembersV, descV, optV]) rfl
  | objectTypeDefinition desc name ifs dirs fields loc =>
    obtain ⟨hd, hn, hifs, hdir, hf⟩ := h
    exact facts_blockDef c hdesc hind desc hd (kwOK_name e_type kT) name hn ifs hifs dirs hdir _ stripFD fieldDefinitionV fields
      (memFD c hind fields hf) rfl rfl id
  | objectTypeExtension name ifs dirs fields loc =>
    obtain ⟨hn, hifs, hdir, hf⟩ := h
    exact facts_blockDef c hdesc hind none trivial (kwOK_extend e_xtype kT) name hn ifs hifs dirs hdir _ stripFD
      fieldDefinitionV fields (memFD c hind fields hf) rfl rfl id
  | interfaceTypeDefinition desc name dirs fields loc =>
    obtain ⟨hd, hn, hdir, hf⟩ := h
    exact facts_blockDef c hdesc hind desc hd (kwOK_name e_interface kI) name hn [] noIfs dirs hdir _ stripFD
      fieldDefinitionV fields (memFD c hind fields hf) (by rw [printImplements_nil, join_skip_nil]; rfl) rfl id
  | interfaceTypeExtension name dirs fields loc =>
    obtain ⟨hn, hdir, hf⟩ := h
    exact facts_blockDef c hdesc hind none trivial (kwOK_extend e_xinterface kI) name hn [] noIfs dirs hdir _ stripFD
      fieldDefinitionV fields (memFD c hind fields hf) (by rw [printImplements_nil, join_skip_nil]; rfl) rfl id
  | enumTypeDefinition desc name dirs values loc =>
    obtain ⟨hd, hn, hdir, hf⟩ := h
    exact facts_blockDef c hdesc hind desc hd (kwOK_name e_enum kE) name hn [] noIfs dirs hdir _ stripEV
      enumValueDefinitionV values (memEV c values hf) (by rw [printImplements_nil, join_skip_nil]; rfl) rfl id
  | enumTypeExtension name dirs values loc =>
    obtain ⟨hn, hdir, hf⟩ := h
    exact facts_blockDef c hdesc hind none trivial (kwOK_extend e_xenum kE) name hn [] noIfs dirs hdir _ stripEV
      enumValueDefinitionV values (memEV c values hf) (by rw [printImplements_nil, join_skip_nil]; rfl) rfl id
  | inputObjectTypeDefinition desc name dirs fields loc =>
    obtain ⟨hd, hn, hdir, hf⟩ := h
    exact facts_blockDef c hdesc hind desc hd (kwOK_name e_input kN) name hn [] noIfs dirs hdir _ stripIV
      inputValueV fields (memIV c fields hf) (by rw [printImplements_nil, join_skip_nil]; rfl) rfl id
  | inputObjectTypeExtension name dirs fields loc =>
    obtain ⟨hn, hdir, hf⟩ := h
    exact facts_blockDef c hdesc hind none trivial (kwOK_extend e_xinput kN) name hn [] noIfs dirs hdir _ stripIV
      inputValueV fields (memIV c fields hf) (by rw [printImplements_nil, join_skip_nil]; rfl) rfl id
  | unionTypeDefinition desc name dirs types loc =>
    obtain ⟨hd, hn, hdir, ht⟩ := h
    exact facts_unionDef c hdesc desc hd (kwOK_name e_union kU) name hn dirs hdir types ht rfl rfl rfl
  | unionTypeExtension name dirs types loc =>
    obtain ⟨hn, hdir, ht⟩ := h
    exact facts_unionDef c hdesc none trivial (kwOK_extend e_xunion kU) name hn dirs hdir types ht rfl rfl rfl
  | directiveDefinition desc name args locations loc => exact facts_directiveDef c hdesc hind desc name args locations loc h

end PyGql.PrintTokens
