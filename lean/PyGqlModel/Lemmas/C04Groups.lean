/-
  C04 — grouped field sets as functions of the VISIT SEQUENCE: `addSeq g q` appends the nodes of `q` one by one;
  merging a freshly collected group set is the same as appending its sequence (`mergeInto_addSeq`), and two sequences
  that are equal up to repeats give group sets that are entry-wise equal up to repeats (`GRel.addSeq`).
-/
import PyGqlModel.Exec
import PyGqlModel.Lemmas.C04Rep


namespace PyGql.Props.C04
open PyGql PyGql.Exec

def addSeq (g : Grouped) (q : List FNode) : Grouped := q.foldl (fun g n => g.extend n.key [n]) g

theorem addSeq_nil (g : Grouped) : addSeq g [] = g := rfl
theorem addSeq_cons (g : Grouped) (n : FNode) (q : List FNode) : addSeq g (n :: q) = addSeq (g.extend n.key [n]) q := rfl
theorem addSeq_append (g : Grouped) (q1 q2 : List FNode) : addSeq g (q1 ++ q2) = addSeq (addSeq g q1) q2 := by
  simp [addSeq, List.foldl_append]

theorem mem_keys_extend (g : Grouped) (k k' : String) (ns : List FNode) :
    k' ∈ (g.extend k ns).keys ↔ k' ∈ g.keys ∨ k' = k := by
  induction g with
  | nil => simp [Grouped.extend, Grouped.keys]
  | cons kv rest ih =>
    obtain ⟨k1, m1⟩ := kv
    simp only [Grouped.extend]
    by_cases h : k1 = k
    · subst h
      simp only [beq_self_eq_true, if_true, Grouped.keys, List.map_cons, List.mem_cons]
      constructor
      · intro h; exact Or.inl h
      · rintro (h | h)
        · exact h
        · exact Or.inl h
    · have h' : (k1 == k) = false := by simpa using h
      simp only [h', Bool.false_eq_true, if_false]
      simp only [Grouped.keys, List.map_cons, List.mem_cons] at ih ⊢
      rw [ih, or_assoc]

theorem extend_of_not_mem (g : Grouped) (k : String) (ns : List FNode) (h : k ∉ g.keys) : g.extend k ns = g ++ [(k, ns)] := by
  induction g with
  | nil => simp [Grouped.extend]
  | cons kv rest ih =>
    obtain ⟨k1, m1⟩ := kv
    have hne : k1 ≠ k := fun e => h (by simp [Grouped.keys, e])
    have h' : (k1 == k) = false := by simpa using hne
    simp only [Grouped.extend, h', Bool.false_eq_true, if_false, List.cons_append]
    rw [ih (fun hm => h (by simp [Grouped.keys] at hm ⊢; exact Or.inr hm))]

theorem keys_nodup_extend (g : Grouped) (k : String) (ns : List FNode) (h : g.keys.Nodup) : (g.extend k ns).keys.Nodup := by
  induction g with
  | nil => simp [Grouped.extend, Grouped.keys]
  | cons kv rest ih =>
    obtain ⟨k1, m1⟩ := kv
    simp only [Grouped.keys, List.map_cons, List.nodup_cons] at h
    simp only [Grouped.extend]
    by_cases hk : k1 = k
    · subst hk; simp [Grouped.keys, h]
    · have h' : (k1 == k) = false := by simpa using hk
      simp only [h', Bool.false_eq_true, if_false]
      simp only [Grouped.keys, List.map_cons, List.nodup_cons]
      refine ⟨?_, ih h.2⟩
      intro hm
      have := (mem_keys_extend rest k k1 ns).mp hm
      rcases this with h1 | h1
      · exact h.1 h1
      · exact hk h1

theorem keys_nodup_addSeq (g : Grouped) (q : List FNode) (h : g.keys.Nodup) : (addSeq g q).keys.Nodup := by
  induction q generalizing g with
  | nil => exact h
  | cons n q ih => exact ih _ (keys_nodup_extend g _ _ h)

theorem extend_extend_same (g : Grouped) (k : String) (a b : List FNode) : (g.extend k a).extend k b = g.extend k (a ++ b) := by
  induction g with
  | nil => simp [Grouped.extend]
  | cons kv rest ih =>
    obtain ⟨k1, m1⟩ := kv
    by_cases h : k1 = k
    · subst h; simp [Grouped.extend, List.append_assoc]
    · have h' : (k1 == k) = false := by simpa using h
      simp [Grouped.extend, h', ih]

theorem extend_comm (g : Grouped) (k k' : String) (a b : List FNode) (hne : k ≠ k') (hk : k ∈ g.keys) :
    (g.extend k a).extend k' b = (g.extend k' b).extend k a := by
  induction g with
  | nil => simp [Grouped.keys] at hk
  | cons kv rest ih =>
    obtain ⟨k1, m1⟩ := kv
    by_cases h1 : k1 = k
    · subst h1
      have h' : (k1 == k') = false := by simpa using hne
      simp [Grouped.extend, h']
    · have h1' : (k1 == k) = false := by simpa using h1
      have hkr : k ∈ Grouped.keys rest := by
        simp [Grouped.keys] at hk ⊢
        rcases hk with hk | hk
        · exact absurd hk.symm h1
        · exact hk
      by_cases h2 : k1 = k'
      · subst h2
        simp [Grouped.extend, h1']
      · have h2' : (k1 == k') = false := by simpa using h2
        simp [Grouped.extend, h1', h2', ih hkr]

private theorem foldl_extend_comm (rest : Grouped) (X : Grouped) (k : String) (b : List FNode) (hk : k ∈ X.keys)
    (hr : ∀ kv ∈ rest, kv.1 ≠ k) :
    rest.foldl (fun acc kv => acc.extend kv.1 kv.2) (X.extend k b) = (rest.foldl (fun acc kv => acc.extend kv.1 kv.2) X).extend k b := by
  induction rest generalizing X with
  | nil => rfl
  | cons kv rest ih =>
    simp only [List.foldl_cons]
    rw [extend_comm X k kv.1 b kv.2 (fun e => hr kv (by simp) e.symm) hk]
    exact ih _ ((mem_keys_extend X kv.1 k kv.2).mpr (Or.inl hk)) (fun kv' h => hr kv' (by simp [h]))

private theorem foldl_extend_present (G : Grouped) (acc : Grouped) (k : String) (b : List FNode) (hn : G.keys.Nodup) (hk : k ∈ G.keys) :
    (G.extend k b).foldl (fun acc kv => acc.extend kv.1 kv.2) acc = (G.foldl (fun acc kv => acc.extend kv.1 kv.2) acc).extend k b := by
  induction G generalizing acc with
  | nil => simp [Grouped.keys] at hk
  | cons kv rest ih =>
    obtain ⟨k1, m1⟩ := kv
    simp only [Grouped.keys, List.map_cons, List.nodup_cons] at hn
    by_cases h1 : k1 = k
    · subst h1
      simp only [Grouped.extend, beq_self_eq_true, if_true, List.foldl_cons]
      rw [← extend_extend_same]
      refine foldl_extend_comm rest _ k1 b ((mem_keys_extend acc k1 k1 m1).mpr (Or.inr rfl)) ?_
      intro kv' hkv' e
      exact hn.1 (by simp; exact ⟨kv'.2, by rw [← e]; exact hkv'⟩)
    · have h1' : (k1 == k) = false := by simpa using h1
      have hkr : k ∈ Grouped.keys rest := by
        simp [Grouped.keys] at hk ⊢
        rcases hk with hk | hk
        · exact absurd hk.symm h1
        · exact hk
      simp only [Grouped.extend, h1', Bool.false_eq_true, if_false, List.foldl_cons]
      exact ih _ hn.2 hkr

theorem mergeInto_extend (G g : Grouped) (k : String) (b : List FNode) (hn : G.keys.Nodup) :
    (G.extend k b).mergeInto g = (G.mergeInto g).extend k b := by
  unfold Grouped.mergeInto
  by_cases hk : k ∈ G.keys
  · exact foldl_extend_present G g k b hn hk
  · rw [extend_of_not_mem G k b hk]; simp [List.foldl_append]

theorem mergeInto_addSeq_gen (G g : Grouped) (q : List FNode) (hn : G.keys.Nodup) :
    (addSeq G q).mergeInto g = addSeq (G.mergeInto g) q := by
  induction q generalizing G with
  | nil => rfl
  | cons n q ih =>
    rw [addSeq_cons, ih _ (keys_nodup_extend G _ _ hn), mergeInto_extend G g _ _ hn, ← addSeq_cons]

theorem mergeInto_addSeq (g : Grouped) (q : List FNode) : (addSeq [] q).mergeInto g = addSeq g q := by
  have := mergeInto_addSeq_gen [] g q (by simp [Grouped.keys])
  simpa [Grouped.mergeInto] using this

inductive GRel : Grouped → Grouped → Prop
  | nil : GRel [] []
  | cons {k : String} {ss ms : List FNode} {gS gM : Grouped} : Rep ss ms → GRel gS gM → GRel ((k, ss) :: gS) ((k, ms) :: gM)

def presentIn (g : Grouped) (n : FNode) : Prop := ∃ kv ∈ g, kv.1 = n.key ∧ n ∈ kv.2

theorem presentIn_extend (g : Grouped) (k : String) (ns : List FNode) (x : FNode)
    (h : presentIn g x ∨ (k = x.key ∧ x ∈ ns)) : presentIn (g.extend k ns) x := by
  induction g with
  | nil =>
    rcases h with ⟨kv, hkv, _⟩ | ⟨hk, hx⟩
    · simp at hkv
    · exact ⟨(k, ns), by simp [Grouped.extend], hk, hx⟩
  | cons kv rest ih =>
    obtain ⟨k1, m1⟩ := kv
    simp only [Grouped.extend]
    by_cases h1 : k1 = k
    · subst h1
      simp only [beq_self_eq_true, if_true]
      rcases h with ⟨kv, hkv, hk, hx⟩ | ⟨hk, hx⟩
      · simp at hkv
        rcases hkv with rfl | hkv
        · exact ⟨(k1, m1 ++ ns), by simp, hk, by simp [hx]⟩
        · exact ⟨kv, by simp [hkv], hk, hx⟩
      · exact ⟨(k1, m1 ++ ns), by simp, hk, by simp [hx]⟩
    · have h1' : (k1 == k) = false := by simpa using h1
      simp only [h1', Bool.false_eq_true, if_false]
      rcases h with ⟨kv, hkv, hk, hx⟩ | h
      · simp at hkv
        rcases hkv with rfl | hkv
        · exact ⟨(k1, m1), by simp, hk, hx⟩
        · obtain ⟨kv', hm, hk', hx'⟩ := ih (Or.inl ⟨kv, hkv, hk, hx⟩)
          exact ⟨kv', by simp [hm], hk', hx'⟩
      · obtain ⟨kv', hm, hk', hx'⟩ := ih (Or.inr h)
        exact ⟨kv', by simp [hm], hk', hx'⟩

theorem GRel.keys_eq {gS gM : Grouped} (h : GRel gS gM) : gS.keys = gM.keys := by
  induction h with
  | nil => rfl
  | cons _ _ ih => simp [Grouped.keys] at ih ⊢; exact ih

theorem GRel.extend_both {gS gM : Grouped} (h : GRel gS gM) (k : String) (a : FNode) :
    GRel (gS.extend k [a]) (gM.extend k [a]) := by
  induction h with
  | nil => exact .cons (Rep.refl _) .nil
  | @cons k1 ss ms xs ys hr hrest ih =>
    simp only [Grouped.extend]
    by_cases h1 : k1 = k
    · subst h1
      simp only [beq_self_eq_true, if_true]
      exact .cons (hr.snoc_both a) hrest
    · have h1' : (k1 == k) = false := by simpa using h1
      simp only [h1', Bool.false_eq_true, if_false]
      exact .cons hr ih

theorem GRel.extend_extra {gS gM : Grouped} (h : GRel gS gM) (a : FNode) (hn : gM.keys.Nodup) (hp : presentIn gM a) :
    GRel gS (gM.extend a.key [a]) := by
  induction h with
  | nil => obtain ⟨kv, hkv, _⟩ := hp; simp at hkv
  | @cons k1 ss ms xs ys hr hrest ih =>
    simp only [Grouped.keys, List.map_cons, List.nodup_cons] at hn
    simp only [Grouped.extend]
    obtain ⟨kv, hkv, hkk, hx⟩ := hp
    by_cases h1 : k1 = a.key
    · simp only [h1, beq_self_eq_true, if_true]
      have : a ∈ ms := by
        simp at hkv
        rcases hkv with rfl | hkv
        · exact hx
        · exfalso; apply hn.1
          simp
          exact ⟨kv.2, by rw [h1, ← hkk]; exact hkv⟩
      rw [← h1]
      exact .cons (hr.snoc_extra a this) hrest
    · have h1' : (k1 == a.key) = false := by simpa using h1
      simp only [h1', Bool.false_eq_true, if_false]
      have hp' : presentIn ys a := by
        simp at hkv
        rcases hkv with rfl | hkv
        · exact absurd hkk h1
        · exact ⟨kv, hkv, hkk, hx⟩
      exact .cons hr (ih hn.2 hp')

/-- sequences equal up to repeats (ambient elements being present in the model's groups) give related group sets -/
theorem GRel.addSeq {P : FNode → Prop} {qS qM : List FNode} (hq : RepA P qS qM) :
    ∀ {gS gM : Grouped}, GRel gS gM → gM.keys.Nodup → (∀ x, P x → presentIn gM x) →
      GRel (addSeq gS qS) (addSeq gM qM) := by
  induction hq with
  | nil => intro gS gM h _ _; exact h
  | @both P a xs ys _ ih =>
    intro gS gM h hn hp
    rw [addSeq_cons, addSeq_cons]
    refine ih (h.extend_both a.key a) (keys_nodup_extend _ _ _ hn) ?_
    intro x hx
    rcases hx with rfl | hx
    · exact presentIn_extend _ _ _ _ (Or.inr ⟨rfl, by simp⟩)
    · exact presentIn_extend _ _ _ _ (Or.inl (hp x hx))
  | @extra P a xs ys hpa _ ih =>
    intro gS gM h hn hp
    rw [addSeq_cons]
    refine ih (h.extend_extra a hn (hp a hpa)) (keys_nodup_extend _ _ _ hn) ?_
    intro x hx
    exact presentIn_extend _ _ _ _ (Or.inl (hp x hx))

theorem GRel_of_rep {qS qM : List FNode} (h : Rep qS qM) : GRel (addSeq [] qS) (addSeq [] qM) :=
  GRel.addSeq h .nil (by simp [Grouped.keys]) (by intro x hx; exact absurd hx (by simp))

end PyGql.Props.C04
