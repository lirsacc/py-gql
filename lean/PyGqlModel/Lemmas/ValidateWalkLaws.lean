/-
  THE INDUCTION OVER THE DOCUMENT, once. Every visit function of the chain is built from three things: doing nothing, one
  visit after another, and `visitNodePar` around a body; the (node, context) pairs of a sub-tree (`Spec.gn*`, the context
  pushed by `down`) are built the same way. So a predicate `P x l W` - "`W` visits a sub-tree whose pairs are `l`, from
  context `x`" - that these three keep (`WalkLaws`) holds of every visit function with the pairs of its sub-tree
  (`WalkLaws.sel`, `WalkLaws.defs`, ...).
  `P` speaks of visit functions with the rules' enter function and the configuration still open (`VisitFn`), so that it
  can compare two runs; a relation between the states before and after a visit is the case `∀ st, R l st (W er c st)`.
  The chain `visitDocument` of `Validate/Chain.lean` is reached through `visitNodePar_eq` / `visitSelPar_eq`.
  The law of a node is asked only of a class `B` of nodes; what lies below the nodes outside `B` is supplied by the user
  (`arg_of`, `args_of`, `dirs_of`, `sel_of`, `varDef_of`, `defn_of`).
-/
import PyGqlModel.Validate.ChainPar
import PyGqlModel.Spec.CtxNodes
import PyGqlModel.Lemmas.ValidateNodeClasses
namespace PyGql.Validate
open PyGql PyGql.Validate.Spec

/-! the class of all nodes below the document, as the `B` of `WalkLaws` -/
theorem not_isDoc_of_isTop {n : Node} (h : n.isTop = false) : (!n.isDoc) = true := congrArg not (isDoc_of_isTop h)

abbrev VisitFn := ER → Cfg → St → St

/-- `J` is a side condition on the context that every node but a directive keeps and that the law of a directive node
    may use (the walks over the stacks of `TypeInfoVisitor` need it: leaving a directive node restores the context only
    when no directive was in scope, `TAlgP.laws`, `CTX.restore`); the law of an object literal may use that the pairs
    below it are those of its fields (`CtxSys.quiet_sub`: a literal that raises `SkipNode` without reporting) -/
structure WalkLaws {X : Type} (down : Node → X → X) (J : X → Prop) (B : Node → Bool)
    (P : X → List (Node × X) → VisitFn → Prop) : Prop where
  nil : ∀ x, P x [] (fun _ _ st => st)
  seq : ∀ {x : X} {la lb : List (Node × X)} {W1 W2 : VisitFn}, P x la W1 → P x lb W2 →
    P x (la ++ lb) (fun er c st => W2 er c (W1 er c st))
  node : ∀ (n : Node) (x : X) {l : List (Node × X)} {W : VisitFn}, B n = true → (n.isDirective = true → J x) →
    (∀ fs, n = .value (.obj fs) → l = gnObjFields down (down n x) fs) → P (down n x) l W →
    P x ((n, down n x) :: l) (fun er c st => visitNodePar er c n (W er c) st)
  keepJ : ∀ n x, n.isDirective = false → J x → J (down n x)

namespace WalkLaws
variable {X : Type} {down : Node → X → X} {J : X → Prop} {B : Node → Bool} {P : X → List (Node × X) → VisitFn → Prop}

theorem congr {x : X} {l : List (Node × X)} {W W' : VisitFn} (hW : P x l W') (e : ∀ er c st, W er c st = W' er c st) :
    P x l W := by
  have : W = W' := funext fun er => funext fun c => funext fun st => e er c st
  rw [this]; exact hW

variable (h : WalkLaws down J B P)
include h

theorem plain (n : Node) (x : X) {l : List (Node × X)} {W : VisitFn} (hB : B n = true) (hd : n.isDirective = false)
    (ho : n.isObjVal = false) (hW : P (down n x) l W) :
    P x ((n, down n x) :: l) (fun er c st => visitNodePar er c n (W er c) st) :=
  h.node n x hB (fun e => absurd (hd ▸ e) Bool.false_ne_true) (fun fs e => by subst e; cases ho) hW

theorem leaf (n : Node) (x : X) (hB : B n = true) (hd : n.isDirective = false) (ho : n.isObjVal = false) :
    P x [(n, down n x)] (fun er c st => visitNodePar er c n id st) :=
  h.plain n x hB hd ho (h.nil _)

theorem foldl {α : Type} {x : X} {ln : α → List (Node × X)} {W : α → VisitFn} (hw : ∀ a, P x (ln a) (W a)) :
    ∀ as : List α, P x (as.flatMap ln) (fun er c st => as.foldl (fun st a => W a er c st) st)
  | [] => h.nil x
  | a :: as => by
    rw [List.flatMap_cons]
    exact h.seq (hw a) (foldl hw as)

section
variable (hB : ∀ n, n.isTop = false → B n = true)
include hB

theorem scalar (v : Value) (x : X) (ho : (Node.value v).isObjVal = false)
    (hl : gnValue down x v = [(.value v, down (.value v) x)])
    (hv : ∀ er c st, visitValuePar er c v st = visitNodePar er c (.value v) id st) :
    P x (gnValue down x v) (fun er c => visitValuePar er c v) :=
  hl ▸ congr (h.leaf (.value v) x (hB _ rfl) rfl ho) hv

mutual
theorem value : ∀ (v : Value) (x : X), P x (gnValue down x v) (fun er c => visitValuePar er c v)
  | .list vs, x => by
    rw [gnValue]
    exact congr (h.plain _ x (hB _ rfl) rfl rfl (values vs _)) fun er c st => by
      rw [visitValuePar]
  | .obj fs, x => by
    rw [gnValue]
    exact congr (h.node _ x (hB _ rfl) (fun e => nomatch e) (fun _ e => by cases e; rfl) (objFields fs _)) fun er c st => by
      rw [visitValuePar]
  | .var a, x => h.scalar hB (.var a) x rfl rfl fun _ _ _ => rfl
  | .int a, x => h.scalar hB (.int a) x rfl rfl fun _ _ _ => rfl
  | .float a, x => h.scalar hB (.float a) x rfl rfl fun _ _ _ => rfl
  | .str a, x => h.scalar hB (.str a) x rfl rfl fun _ _ _ => rfl
  | .bool a, x => h.scalar hB (.bool a) x rfl rfl fun _ _ _ => rfl
  | .null, x => h.scalar hB .null x rfl rfl fun _ _ _ => rfl
  | .enum a, x => h.scalar hB (.enum a) x rfl rfl fun _ _ _ => rfl
theorem values : ∀ (vs : List Value) (x : X), P x (gnValues down x vs) (fun er c => visitValuesPar er c vs)
  | [], x => by rw [gnValues]; exact congr (h.nil x) fun er c st => by rw [visitValuesPar]
  | v :: vs, x => by
    rw [gnValues]
    exact congr (h.seq (value v x) (values vs x)) fun er c st => by rw [visitValuesPar]
theorem objField : ∀ (f : ObjField) (x : X), P x (gnObjField down x f) (fun er c => visitObjFieldPar er c f)
  | .mk n v, x => by
    rw [gnObjField]
    exact congr (h.plain _ x (hB _ rfl) rfl rfl (value v _)) fun er c st => by
      rw [visitObjFieldPar]
theorem objFields : ∀ (fs : List ObjField) (x : X), P x (gnObjFields down x fs) (fun er c => visitObjFieldsPar er c fs)
  | [], x => by rw [gnObjFields]; exact congr (h.nil x) fun er c st => by rw [visitObjFieldsPar]
  | f :: fs, x => by
    rw [gnObjFields]
    exact congr (h.seq (objField f x) (objFields fs x)) fun er c st => by rw [visitObjFieldsPar]
end

end

theorem arg_of (hval : ∀ v x, P x (gnValue down x v) (fun er c => visitValuePar er c v)) (a : Arg) (x : X)
    (hB : B (.argument a) = true) : P x (gnArg down x a) (fun er c => visitArgumentPar er c a) :=
  h.plain (.argument a) x hB rfl rfl (hval a.value _)

theorem args_of (harg : ∀ a x, P x (gnArg down x a) (fun er c => visitArgumentPar er c a)) (as : List Arg) (x : X) :
    P x (gnArgs down x as) (fun er c => visitArgumentsPar er c as) :=
  h.foldl (ln := gnArg down x) (W := fun a er c => visitArgumentPar er c a) (fun a => harg a x) as

section
variable (hargs : ∀ as x, P x (gnArgs down x as) (fun er c => visitArgumentsPar er c as))
  (hS : ∀ n, n.isSel = true → B n = true)
include hargs hS

theorem dirs_of (ds : List Dir) (x : X) (hj : J x) : P x (gnDirs down x ds) (fun er c => visitDirectivesPar er c ds) :=
  h.foldl (ln := gnDir down x) (W := fun d er c => visitDirectivePar er c d)
    (fun d => h.node (.directive d) x (hS _ rfl) (fun _ => hj) (fun _ e => nomatch e) (hargs d.args _)) ds

omit hargs in
theorem selSet (ssid : Nat) (sub : List Sel) (x : X) {W : VisitFn}
    (hsub : P (down (.selectionSet ssid sub) x) (gnSels down (down (.selectionSet ssid sub) x) sub) W) :
    P x ((.selectionSet ssid sub, down (.selectionSet ssid sub) x) :: gnSels down (down (.selectionSet ssid sub) x) sub)
      (fun er c st => visitNodePar er c (.selectionSet ssid sub) (W er c) st) :=
  h.plain _ x (hS _ rfl) rfl rfl hsub

mutual
theorem sel_of : ∀ (s : Sel) (x : X), J x → P x (gnSel down x s) (fun er c => visitSelPar er c s)
  | .field al name args dirs true ssid sub, x, hj => by
    have hj1 := h.keepJ (.field name args dirs true) x rfl hj
    simp only [gnSel, ↓reduceIte]
    exact congr (h.plain _ x (hS _ rfl) rfl rfl
      (h.seq (h.seq (hargs args _) (h.dirs_of hargs hS dirs _ hj1))
        (h.selSet hS ssid sub _ (sels_of sub _ (h.keepJ _ _ rfl hj1))))) fun er c st => by
      rw [visitSelPar]; rfl
  | .field al name args dirs false ssid sub, x, hj => by
    have hj1 := h.keepJ (.field name args dirs false) x rfl hj
    simp only [gnSel, Bool.false_eq_true, ↓reduceIte, List.append_nil]
    exact congr (h.plain _ x (hS _ rfl) rfl rfl
      (h.seq (hargs args _) (h.dirs_of hargs hS dirs _ hj1))) fun er c st => by
      rw [visitSelPar]; rfl
  | .spread name dirs, x, hj => by
    rw [gnSel]
    exact congr (h.plain _ x (hS _ rfl) rfl rfl
      (h.dirs_of hargs hS dirs _ (h.keepJ _ _ rfl hj))) fun er c st => by rw [visitSelPar]
  | .inline on dirs ssid sub, x, hj => by
    have hj1 := h.keepJ (.inline on dirs) x rfl hj
    rw [gnSel]
    exact congr (h.plain _ x (hS _ rfl) rfl rfl
      (h.seq (h.dirs_of hargs hS dirs _ hj1)
        (h.selSet hS ssid sub _ (sels_of sub _ (h.keepJ _ _ rfl hj1))))) fun er c st => by
      rw [visitSelPar]
theorem sels_of : ∀ (ss : List Sel) (x : X), J x → P x (gnSels down x ss) (fun er c => visitSelsPar er c ss)
  | [], x, _ => by rw [gnSels]; exact congr (h.nil x) fun er c st => by rw [visitSelsPar]
  | s :: ss, x, hj => by
    rw [gnSels]
    exact congr (h.seq (sel_of s x hj) (sels_of ss x hj)) fun er c st => by rw [visitSelsPar]
end

theorem varDef_of (hval : ∀ v x, P x (gnValue down x v) (fun er c => visitValuePar er c v)) (v : VarDef) (x : X) (hj : J x)
    (hB : B (.varDef v) = true) (hT : B (.typeNode v.type) = true) :
    P x (gnVarDef down x v) (fun er c => visitVarDefPar er c v) := by
  have hj1 := h.keepJ (.varDef v) x rfl hj
  have tail := h.seq (h.leaf (.typeNode v.type) (down (.varDef v) x) hT rfl rfl)
    (h.dirs_of hargs hS v.dirs _ hj1)
  unfold gnVarDef
  refine congr (h.plain (.varDef v) x hB rfl rfl ?_) fun er c st => by
    rw [visitVarDefPar]
  cases v.default with
  | none => exact tail
  | some dv => exact h.seq (hval dv _) tail

theorem defn_of (hvar : ∀ v x, J x → P x (gnVarDef down x v) (fun er c => visitVarDefPar er c v))
    (hT : ∀ n, n.isDoc = false → B n = true) (d : Def) (x : X) (hj : J x) :
    P x (gnDef down x d) (fun er c => visitDefPar er c d) := by
  cases d with
  | op kind name vars dirs ssid sels =>
    have hj1 := h.keepJ (.operation kind name vars dirs sels) x rfl hj
    rw [gnDef]
    exact congr (h.plain _ x (hT _ rfl) rfl rfl
      (h.seq (h.seq (h.foldl (fun v => hvar v _ hj1) vars) (h.dirs_of hargs hS dirs _ hj1))
        (h.selSet hS ssid sels _ (h.sels_of hargs hS sels _ (h.keepJ _ _ rfl hj1))))) fun er c st => by
      rw [visitDefPar]
  | frag name on dirs ssid sels =>
    have hj1 := h.keepJ (.fragmentDef name on dirs) x rfl hj
    rw [gnDef]
    exact congr (h.plain _ x (hT _ rfl) rfl rfl
      (h.seq (h.dirs_of hargs hS dirs _ hj1)
        (h.selSet hS ssid sels _ (h.sels_of hargs hS sels _ (h.keepJ _ _ rfl hj1))))) fun er c st => by
      rw [visitDefPar]
  | ts a b =>
    rw [gnDef]
    exact congr (h.leaf .tsDef x (hT _ rfl) rfl rfl) fun er c st => by
      rw [visitDefPar]

end

section
variable (hB : ∀ n, n.isTop = false → B n = true)
include hB

omit h in
theorem below_sel (n : Node) (hn : n.isSel = true) : B n = true :=
  hB n (by cases n <;> first | rfl | cases hn)

theorem args (as : List Arg) (x : X) : P x (gnArgs down x as) (fun er c => visitArgumentsPar er c as) :=
  h.args_of (fun a x => h.arg_of (h.value hB) a x (hB _ rfl)) as x

theorem dirs (ds : List Dir) (x : X) (hj : J x) : P x (gnDirs down x ds) (fun er c => visitDirectivesPar er c ds) :=
  h.dirs_of (h.args hB) (below_sel hB) ds x hj

theorem sel (s : Sel) (x : X) (hj : J x) : P x (gnSel down x s) (fun er c => visitSelPar er c s) :=
  h.sel_of (h.args hB) (below_sel hB) s x hj

theorem sels (ss : List Sel) (x : X) (hj : J x) : P x (gnSels down x ss) (fun er c => visitSelsPar er c ss) :=
  h.sels_of (h.args hB) (below_sel hB) ss x hj

theorem varDef (v : VarDef) (x : X) (hj : J x) : P x (gnVarDef down x v) (fun er c => visitVarDefPar er c v) :=
  h.varDef_of (h.args hB) (below_sel hB) (h.value hB) v x hj (hB _ rfl) (hB _ rfl)

theorem defn (hT : ∀ n, n.isDoc = false → B n = true) (d : Def) (x : X) (hj : J x) :
    P x (gnDef down x d) (fun er c => visitDefPar er c d) :=
  h.defn_of (h.args hB) (below_sel hB) (h.varDef hB) hT d x hj

theorem defs (hT : ∀ n, n.isDoc = false → B n = true) (d : Doc) (x : X) (hj : J x) :
    P x (gnDoc down x d) (fun er c st => d.defs.foldl (fun st y => visitDefPar er c y st) st) :=
  h.foldl (fun y => h.defn hB hT y x hj) d.defs

end

end WalkLaws
end PyGql.Validate
