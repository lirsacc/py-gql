/-
  C04 — `collect_fields` (model) and `CollectFields` (specification) as producers of VISIT SEQUENCES: `mseq` / `sseq` are
  the two loops over the decisions `headAct` / `headActS` of `Lemmas/C04Steps.lean`, returning the list of collected
  nodes in depth-first order; the grouped field set is `addSeq` of it.
-/
import PyGqlModel.Lemmas.C04Steps
import PyGqlModel.Lemmas.C04Groups


namespace PyGql.Props.C04
open PyGql PyGql.Exec PyGql.Spec

abbrev SeqRes := R (List FNode × List String)
abbrev SeqFn := String → List Sel → List String → SeqRes

def seqKeep (n : FNode) (r : SeqRes) : SeqRes := r.map fun p => (n :: p.1, p.2)
def seqAppend (q : List FNode) (r : SeqRes) : SeqRes := r.map fun p => (q ++ p.1, p.2)

theorem seqAppend_nil (r : SeqRes) : seqAppend [] r = r := by
  cases r <;> rfl

theorem seqAppend_ok {q1 q : List FNode} {r : SeqRes} {st : List String} (h : seqAppend q1 r = .ok (q, st)) :
    ∃ q2, r = .ok (q2, st) ∧ q = q1 ++ q2 := by
  cases r with
  | error e => cases h
  | ok p => cases h; exact ⟨p.1, rfl, rfl⟩

/-- the model's loop, returning the visit sequence -/
def mseqStep (s : SchemaD) (doc : Doc) (vars : Vars) (rec : SeqFn) (obj : String) : List Sel → List String → SeqRes
  | [], seen => .ok ([], seen)
  | x :: rest, seen => (headAct s doc vars obj x seen).bind fun
    | .drop => mseqStep s doc vars rec obj rest seen
    | .keep n => seqKeep n (mseqStep s doc vars rec obj rest seen)
    | .expand sels name => (rec obj sels seen).bind fun p =>
        seqAppend p.1 (mseqStep s doc vars rec obj rest (seenAfter seen p.2 name))

def mseq (s : SchemaD) (doc : Doc) (vars : Vars) : Nat → SeqFn
  | 0 => fun _ _ _ => .error .outOfFuel
  | n + 1 => mseqStep s doc vars (mseq s doc vars n)

/-- the specification's loop, returning the visit sequence -/
def sseqStep (s : SchemaD) (doc : Doc) (vars : Vars) (rec : SeqFn) (obj : String) : List Sel → List String → SeqRes
  | [], V => .ok ([], V)
  | x :: rest, V => (headActS s doc vars obj x V).bind fun
    | .pass V' => sseqStep s doc vars rec obj rest V'
    | .keep n => seqKeep n (sseqStep s doc vars rec obj rest V)
    | .expand sels V1 => (rec obj sels V1).bind fun p => seqAppend p.1 (sseqStep s doc vars rec obj rest p.2)

def sseq (s : SchemaD) (doc : Doc) (vars : Vars) : Nat → SeqFn
  | 0 => fun _ _ _ => .error .outOfFuel
  | n + 1 => sseqStep s doc vars (sseq s doc vars n)

/-- grouped result of a sequence result, on top of the accumulator `g` -/
def grp (g : Grouped) (r : SeqRes) : R (Grouped × List String) := r.map fun p => (addSeq g p.1, p.2)

theorem grp_keep (g : Grouped) (n : FNode) (r : SeqRes) : grp g (seqKeep n r) = grp (g.extend n.key [n]) r := by
  cases r <;> rfl

theorem grp_append (g : Grouped) (q : List FNode) (r : SeqRes) : grp g (seqAppend q r) = grp (addSeq g q) r := by
  cases r with
  | error e => rfl
  | ok p => simp only [grp, seqAppend, Except.map, addSeq_append]

section
variable {s : SchemaD} {doc : Doc} {vars : Vars} {rec : String → List Sel → List String → R (Grouped × List String)} {recQ : SeqFn}

theorem collectStep_eq_mseq (hrec : ∀ obj sels seen, rec obj sels seen = grp [] (recQ obj sels seen)) (obj : String) :
    ∀ (sels : List Sel) (seen : List String) (g : Grouped),
      collectStep s doc vars rec obj sels seen g = grp g (mseqStep s doc vars recQ obj sels seen) := by
  intro sels
  induction sels with
  | nil => intro seen g; rfl
  | cons x rest ih =>
    intro seen g
    rw [collectStep_cons, mseqStep]
    cases headAct s doc vars obj x seen with
    | error e => rfl
    | ok a =>
      cases a with
      | drop => exact ih seen g
      | keep n => exact (ih seen _).trans (grp_keep g n _).symm
      | expand sels name =>
        simp only [Except.bind, collectCont, hrec]
        cases recQ obj sels seen with
        | error e => rfl
        | ok p =>
          simp only [grp, Except.map, mergeInto_addSeq, ih]
          exact (grp_append g p.1 _).symm

theorem collectStepS_eq_sseq (hrec : ∀ obj sels V, rec obj sels V = grp [] (recQ obj sels V)) (obj : String) :
    ∀ (sels : List Sel) (V : List String) (g : Grouped),
      collectStepS s doc vars rec obj sels V g = grp g (sseqStep s doc vars recQ obj sels V) := by
  intro sels
  induction sels with
  | nil => intro V g; rfl
  | cons x rest ih =>
    intro V g
    rw [collectStepS_cons, sseqStep]
    cases headActS s doc vars obj x V with
    | error e => rfl
    | ok a =>
      cases a with
      | pass V' => exact ih V' g
      | keep n => exact (ih V _).trans (grp_keep g n _).symm
      | expand sels V1 =>
        simp only [Except.bind, collectContS, hrec]
        cases recQ obj sels V1 with
        | error e => rfl
        | ok p =>
          simp only [grp, Except.map, mergeInto_addSeq, ih]
          exact (grp_append g p.1 _).symm
end

theorem collectFields_eq_mseq (s : SchemaD) (doc : Doc) (vars : Vars) (n : Nat) (obj : String) (sels : List Sel) (seen : List String) :
    collectFields s doc vars n obj sels seen = grp [] (mseq s doc vars n obj sels seen) := by
  induction n generalizing obj sels seen with
  | zero => rfl
  | succ n ih => exact collectStep_eq_mseq ih obj sels seen []

theorem collectFieldsS_eq_sseq (s : SchemaD) (doc : Doc) (vars : Vars) (n : Nat) (obj : String) (sels : List Sel) (V : List String) :
    collectFieldsS s doc vars n obj sels V = grp [] (sseq s doc vars n obj sels V) := by
  induction n generalizing obj sels V with
  | zero => rfl
  | succ n ih => exact collectStepS_eq_sseq ih obj sels V []

end PyGql.Props.C04
