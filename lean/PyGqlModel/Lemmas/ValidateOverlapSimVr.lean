/-
  `OvSim` for `Vr` (injective renaming of variables): `V.doc d` simulates `d` for the clause of 5.3.2. The only place
  where the overlap rule reads a variable name is `_same_value` on two `Variable` nodes (equal names); an injective
  renaming keeps its outcome (`sameValue_vr`), the sort by argument name is untouched.
-/
import PyGqlModel.Lemmas.ValidateDocMap
import PyGqlModel.Lemmas.ValidateVarRenamePos
namespace PyGql.Validate
open PyGql PyGql.Validate.Spec

namespace Vr
variable (V : Vr)

section
variable (hinj : ∀ a b, V.var a = V.var b → a = b)
include hinj

mutual
theorem sameValue_vr : ∀ a b : Value, sameValue (V.value a) (V.value b) = sameValue a b
  | .var a, b => by
    cases b with
    | var b =>
      show (V.var a == V.var b) = (a == b)
      by_cases e : a = b
      · subst e; simp
      · have : ¬ V.var a = V.var b := fun h => e (hinj _ _ h)
        rw [beq_eq_false_iff_ne.mpr this, beq_eq_false_iff_ne.mpr e]
    | _ => rfl
  | .list as, b => by
    cases b with
    | list bs => simp only [Vr.value, sameValue]; exact sameValues_vr as bs
    | _ => rfl
  | .obj fs, b => by
    cases b with
    | obj gs => simp only [Vr.value, sameValue]; exact sameFields_vr fs gs
    | _ => rfl
  | .int _, b | .float _, b | .str _, b | .bool _, b | .null, b | .enum _, b => by cases b <;> rfl
theorem sameValues_vr : ∀ as bs : List Value, sameValues (V.values as) (V.values bs) = sameValues as bs
  | [], [] => rfl
  | [], _ :: _ => rfl
  | _ :: _, [] => rfl
  | a :: as, b :: bs => by simp only [Vr.values, sameValues, sameValue_vr a b, sameValues_vr as bs]
theorem sameFields_vr : ∀ fs gs : List ObjField, sameFields (V.objFields fs) (V.objFields gs) = sameFields fs gs
  | [], [] => rfl
  | [], _ :: _ => rfl
  | f :: fs, [] => by cases f; simp [Vr.objFields, Vr.objField, sameFields]
  | .mk n a :: fs, .mk m b :: gs => by
    simp only [Vr.objFields, Vr.objField, sameFields, sameValue_vr a b, sameFields_vr fs gs]
end

theorem sameArgsZip_vr : ∀ as bs : List Arg, sameArgsZip (as.map V.arg) (bs.map V.arg) = sameArgsZip as bs
  | [], _ => by simp [sameArgsZip]
  | _ :: _, [] => by simp [sameArgsZip]
  | a :: as, b :: bs => by
    simp only [List.map_cons, sameArgsZip, Vr.arg, V.sameValue_vr hinj a.value b.value, sameArgsZip_vr as bs]

end

theorem insertArg_vr (a : Arg) : ∀ l : List Arg, insertArg (V.arg a) (l.map V.arg) = (insertArg a l).map V.arg
  | [] => rfl
  | b :: bs => by
    simp only [List.map_cons, insertArg, Vr.arg]
    split
    · rfl
    · simp only [List.map_cons]
      congr 1
      exact insertArg_vr a bs

theorem sortArgs_vr (l : List Arg) : sortArgs (l.map V.arg) = (sortArgs l).map V.arg := by
  unfold sortArgs
  have key : ∀ (l acc : List Arg), (l.map V.arg).foldl (fun acc a => insertArg a acc) (acc.map V.arg) =
      (l.foldl (fun acc a => insertArg a acc) acc).map V.arg := by
    intro l
    induction l with
    | nil => intro acc; rfl
    | cons a l ih => intro acc; simp only [List.map_cons, List.foldl_cons, V.insertArg_vr, ih]
  exact key l []

theorem sameArguments_vr (hinj : ∀ a b, V.var a = V.var b → a = b) (a b : List Arg) :
    sameArguments (a.map V.arg) (b.map V.arg) = sameArguments a b := by
  unfold sameArguments
  rw [List.length_map, List.length_map, V.sortArgs_vr, V.sortArgs_vr, V.sameArgsZip_vr hinj]

def selMap : SelMap where
  σ := V.sel
  L := V.selList
  φ := id
  alias := fun al _ => al
  args := List.map V.arg
  dirs := List.map V.dir
  mem_L := by intro x sels; rw [V.selList_eq_map]
  σ_field := fun _ _ _ _ _ _ _ => rfl
  σ_spread := fun _ _ => rfl
  σ_inline := fun _ _ _ _ => rfl

theorem nodes_doc (d : Doc) : nodes (V.doc d) = (nodes d).map V.node := by
  simp only [nodes, Vr.doc, List.map_cons, Vr.node]
  congr 1
  induction d.defs with
  | nil => rfl
  | cons x xs ih => simp only [List.map_cons, List.flatMap_cons, List.map_append, defNodes_vr, ih]

theorem typed_doc (s : SchemaD) (d : Doc) : typedNodes s (V.doc d) = (typedNodes s d).map V.nv := by
  simp only [typedNodes, Vr.doc]
  induction d.defs with
  | nil => rfl
  | cons x xs ih => simp only [List.map_cons, List.flatMap_cons, List.map_append, tnDef_vr, ih]

def docMap (d : Doc) : DocMap d (V.doc d) :=
  { V.selMap with
    defn := V.defn
    vars := List.map V.varDef
    ν := V.node
    defs := rfl
    defn_op := fun _ _ _ _ _ _ => rfl
    defn_frag := fun _ _ _ _ _ => rfl
    defn_ts := fun _ _ => rfl
    ν_selSet := fun _ _ => rfl
    ν_ssid := fun m => by cases m <;> rfl
    nodes_perm := .of_eq (V.nodes_doc d)
    typed_mem := fun s _ => by rw [V.typed_doc]; rfl }

def ovSim (hinj : ∀ a b, V.var a = V.var b → a = b) (s : SchemaD) (d : Doc) : OvSim s d (V.doc d) :=
  (V.docMap d).ovSim (fun _ _ h => h) s id (fun _ _ h => h) (fun _ _ _ _ _ _ _ _ _ _ _ => rfl) (fun _ => True)
    (fun _ _ => trivial) fun e1 e2 _ _ => V.sameArguments_vr hinj e1.args e2.args

theorem wfIds (d : Doc) : WfIds (V.doc d) ↔ WfIds d := (V.docMap d).wfIds

theorem fragNames_doc (d : Doc) : fragNames (V.doc d) = fragNames d := (V.docMap d).fragNames_eq.trans (List.map_id _)

end Vr
end PyGql.Validate
