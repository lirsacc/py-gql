/-
  C14 — ownership / separation invariant for the object heap, PER SCHEMA (the region form of `Lemmas/HeapOwn.lean`, with
  the kind-aware member function `kids'`).

  `HeapOwn`'s threshold form separates "the source" (addresses `< n`) from "the result" (addresses `≥ n`). When several derived
  schemas live on one heap their objects interleave, so ownership is a REGION `P : Addr → Prop`:
  `Inv P h`: every address not yet allocated is in `P` (what the step allocates belongs to the schema it works on) and every
  object in `P` owns (through its `fields` / `arguments` lists) only objects in `P`. `Pres P h h'`: `h'` still satisfies `Inv P`
  and NO OBJECT OUTSIDE `P` was written. `SchemaVisitor.on_schema` keeps `Pres` on a schema whose non-protected type objects
  and directive objects are in `P` (`onSchema_ok`).
-/
import PyGqlModel.Lemmas.HeapOwn

namespace PyGql.Heap.OwnP
open PyGql.Heap

/-- the member objects an object owns THROUGH ITS KIND: `fields` of object / interface / input object types only (what
    closedness and well-formedness read; `Heap.kids` also lists the `fields` attribute of a union / enum / scalar type object) -/
def kids' : Obj → List Addr
  | .type t => typeKids t
  | .field f => f.args
  | .arg _ => []
  | .dir d => d.args

theorem typeKids_sub {t : TypeO} {c : Addr} (hc : c ∈ typeKids t) : c ∈ t.fields := by
  simp only [typeKids] at hc
  split at hc
  · exact hc
  · exact hc
  · exact hc
  · cases hc

theorem members_kids' : Region.Members kids' where
  arg _ := rfl
  field _ := rfl
  dir _ := rfl
  type_sub _ _ := typeKids_sub
  composite t hk := by rcases hk with hk | hk | hk <;> simp [kids', typeKids, hk]
  type_congr hc hk hf := by simpa [kids', typeKids, hk, hf] using hc

def Inv (P : Addr → Prop) (h : Heap) : Prop :=
  (∀ a, h.size ≤ a → P a) ∧ ∀ a o, P a → h.read a = some o → ∀ c, c ∈ kids' o → P c

def Pres (P : Addr → Prop) (h h' : Heap) : Prop :=
  Inv P h' ∧ h.size ≤ h'.size ∧ ∀ x, ¬ P x → h'.read x = h.read x

def TypesFresh (P : Addr → Prop) (reg : List (String × Addr)) : Prop := ∀ e, e ∈ reg → isProtected e.1 = true ∨ P e.2
def DirsFresh (P : Addr → Prop) (reg : List (String × Addr)) : Prop := ∀ e, e ∈ reg → P e.2
def RegFresh (P : Addr → Prop) (s : Schema) : Prop := TypesFresh P s.types ∧ DirsFresh P s.dirs

theorem onSchema_ok (P : Addr → Prop) (cfg : Cfg) (fuel : Nat) (v : Visitor) (s : Schema) (h : Heap) (h' : Heap) (s' : Schema)
    (i : Inv P h) (hs : RegFresh P s) (e : onSchema cfg fuel v s h = some (h', s')) : Pres P h h' ∧ RegFresh P s' :=
  Region.onSchema_ok members_kids' cfg fuel v s h h' s' i hs e

theorem transformFrom_ok (P : Addr → Prop) (cfg : Cfg) (fuel : Nat) : ∀ (vs : List Visitor) (h : Heap) (s : Schema) (h' : Heap) (s' : Schema),
    Inv P h → RegFresh P s → transformFrom cfg fuel vs (h, s) = some (h', s') → Pres P h h' ∧ RegFresh P s' :=
  Region.transformFrom_ok members_kids' cfg fuel

end PyGql.Heap.OwnP
