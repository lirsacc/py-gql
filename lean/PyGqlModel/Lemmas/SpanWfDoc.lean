/-
  Well-formedness is position-free (`mapLoc f` for any `f`): types, values, every definition.
-/
import PyGqlModel.Spec.Grammar
import PyGqlModel.Shift
namespace PyGql.Spec
open PyGql PyGql.Ast PyGql.Parse

theorem isNonNull_mapLoc (f : Loc → Loc) (t : TypeRef) : isNonNull (t.mapLoc f) = isNonNull t := by
  cases t <;> rfl

theorem wfType_mapLoc (f : Loc → Loc) : ∀ t : TypeRef, wfType (t.mapLoc f) = wfType t
  | .named t => rfl
  | .list t loc => by simp [wfType, TypeRef.mapLoc, wfType_mapLoc f t]
  | .nonNull t loc => by simp [wfType, TypeRef.mapLoc, wfType_mapLoc f t, isNonNull_mapLoc]

mutual
theorem wfValue_mapLoc (f : Loc → Loc) (c : Bool) : ∀ v : Value, wfValue c (v.mapLoc f) = wfValue c v
  | .var v => by simp [wfValue, Value.mapLoc]
  | .int v loc => by simp [wfValue, Value.mapLoc]
  | .float v loc => by simp [wfValue, Value.mapLoc]
  | .string s => by simp [wfValue, Value.mapLoc]
  | .boolean b loc => by simp [wfValue, Value.mapLoc]
  | .null loc => by simp [wfValue, Value.mapLoc]
  | .enum v loc => by simp [wfValue, Value.mapLoc]
  | .list vs loc => by simp [wfValue, Value.mapLoc, wfValues_mapLoc f c vs]
  | .object fs loc => by simp [wfValue, Value.mapLoc, wfFields_mapLoc f c fs]
theorem wfValues_mapLoc (f : Loc → Loc) (c : Bool) : ∀ vs : List Value, wfValues c (mapLocValues f vs) = wfValues c vs
  | [] => by simp [wfValues, mapLocValues]
  | v :: vs => by simp [wfValues, mapLocValues, wfValue_mapLoc f c v, wfValues_mapLoc f c vs]
theorem wfField_mapLoc (f : Loc → Loc) (c : Bool) : ∀ x : ObjectField, wfField c (x.mapLoc f) = wfField c x
  | .mk n v loc => by simp [wfField, ObjectField.mapLoc, wfValue_mapLoc f c v]
theorem wfFields_mapLoc (f : Loc → Loc) (c : Bool) : ∀ fs : List ObjectField, wfFields c (mapLocFields f fs) = wfFields c fs
  | [] => by simp [wfFields, mapLocFields]
  | x :: fs => by simp [wfFields, mapLocFields, wfField_mapLoc f c x, wfFields_mapLoc f c fs]
end

theorem all_map_congr {α} (m : α → α) (q : α → Bool) (h : ∀ x, q (m x) = q x) (xs : List α) :
    (xs.map m).all q = xs.all q := by
  induction xs with
  | nil => rfl
  | cons x xs ih => simp [h, ih]

theorem wfArgument_mapLoc (f : Loc → Loc) (c : Bool) (a : Argument) : wfArgument c (a.mapLoc f) = wfArgument c a := by
  simp [wfArgument, Argument.mapLoc, wfValue_mapLoc]

theorem wfDirective_mapLoc (f : Loc → Loc) (c : Bool) (x : Directive) : wfDirective c (x.mapLoc f) = wfDirective c x := by
  simp only [wfDirective, Directive.mapLoc]
  exact all_map_congr _ _ (wfArgument_mapLoc f c) _

theorem wfDirectives_mapLoc (f : Loc → Loc) (c : Bool) (ds : List Directive) :
    wfDirectives c (ds.map (Directive.mapLoc f)) = wfDirectives c ds :=
  all_map_congr _ _ (wfDirective_mapLoc f c) _

theorem wfDefault_mapLoc (f : Loc → Loc) (o : Option Value) : wfDefault (o.map (Value.mapLoc f)) = wfDefault o := by
  cases o <;> simp [wfDefault, wfValue_mapLoc]

theorem wfVariableDefinition_mapLoc (f : Loc → Loc) (x : VariableDefinition) :
    wfVariableDefinition (x.mapLoc f) = wfVariableDefinition x := by
  simp [wfVariableDefinition, VariableDefinition.mapLoc, wfType_mapLoc, wfDefault_mapLoc, wfDirectives_mapLoc]

mutual
theorem wfSelection_mapLoc (f : Loc → Loc) : ∀ s : Selection, wfSelection (s.mapLoc f) = wfSelection s
  | .field alias_ name args dirs ss loc => by
    simp [wfSelection, Selection.mapLoc, wfDirectives_mapLoc, all_map_congr _ _ (wfArgument_mapLoc f false),
      wfOptSelectionSet_mapLoc f ss]
  | .fragmentSpread name dirs loc => by simp [wfSelection, Selection.mapLoc, wfDirectives_mapLoc, Name.mapLoc]
  | .inlineFragment tc dirs ss loc => by simp [wfSelection, Selection.mapLoc, wfDirectives_mapLoc, wfSelectionSet_mapLoc f ss]
theorem wfSelectionSet_mapLoc (f : Loc → Loc) : ∀ ss : SelectionSet, wfSelectionSet (ss.mapLoc f) = wfSelectionSet ss
  | .mk sels loc => by
    simp only [wfSelectionSet, SelectionSet.mapLoc, wfSelections_mapLoc f sels]
    cases sels <;> simp [mapLocSelections]
theorem wfOptSelectionSet_mapLoc (f : Loc → Loc) : ∀ o : Option SelectionSet,
    wfOptSelectionSet (mapLocOptSS f o) = wfOptSelectionSet o
  | none => by simp [wfOptSelectionSet, mapLocOptSS]
  | some ss => by simp [wfOptSelectionSet, mapLocOptSS, wfSelectionSet_mapLoc f ss]
theorem wfSelections_mapLoc (f : Loc → Loc) : ∀ ss : List Selection, wfSelections (mapLocSelections f ss) = wfSelections ss
  | [] => by simp [wfSelections, mapLocSelections]
  | s :: ss => by simp [wfSelections, mapLocSelections, wfSelection_mapLoc f s, wfSelections_mapLoc f ss]
end

theorem wfOperation_mapLoc (f : Loc → Loc) (x : OperationDefinition) : wfOperation (x.mapLoc f) = wfOperation x := by
  cases x
  simp only [wfOperation, OperationDefinition.mapLoc, wfDirectives_mapLoc, wfSelectionSet_mapLoc,
    all_map_congr _ _ (wfVariableDefinition_mapLoc f)]
  rfl

theorem wfFragment_mapLoc (f : Loc → Loc) (fl : Flags) (x : FragmentDefinition) :
    wfFragment fl (x.mapLoc f) = wfFragment fl x := by
  cases x
  simp only [wfFragment, FragmentDefinition.mapLoc, wfDirectives_mapLoc, wfSelectionSet_mapLoc, Name.mapLoc,
    all_map_congr _ _ (wfVariableDefinition_mapLoc f), List.isEmpty_map]
  rfl

theorem wfOperationType_mapLoc (f : Loc → Loc) (x : OperationTypeDefinition) :
    wfOperationType (x.mapLoc f) = wfOperationType x := by
  cases x; rfl

theorem wfInputValue_mapLoc (f : Loc → Loc) (x : InputValueDefinition) : wfInputValue (x.mapLoc f) = wfInputValue x := by
  simp [wfInputValue, InputValueDefinition.mapLoc, wfType_mapLoc, wfDefault_mapLoc, wfDirectives_mapLoc]

theorem wfFieldDefinition_mapLoc (f : Loc → Loc) (x : FieldDefinition) :
    wfFieldDefinition (x.mapLoc f) = wfFieldDefinition x := by
  simp [wfFieldDefinition, FieldDefinition.mapLoc, wfType_mapLoc, wfDirectives_mapLoc,
    all_map_congr _ _ (wfInputValue_mapLoc f)]

theorem wfEnumValueDefinition_mapLoc (f : Loc → Loc) (x : EnumValueDefinition) :
    wfEnumValueDefinition (x.mapLoc f) = wfEnumValueDefinition x := by
  simp [wfEnumValueDefinition, EnumValueDefinition.mapLoc, wfDirectives_mapLoc, Name.mapLoc]

theorem isTypeSystem_mapLoc (f : Loc → Loc) (x : Definition) : isTypeSystem (x.mapLoc f) = isTypeSystem x := by
  cases x <;> rfl

theorem wfDefinition_mapLoc (f : Loc → Loc) (fl : Flags) (x : Definition) : wfDefinition fl (x.mapLoc f) = wfDefinition fl x := by
  cases x with
  | operation o => simp [wfDefinition, Definition.mapLoc, wfOperation_mapLoc]
  | fragment o => simp [wfDefinition, Definition.mapLoc, wfFragment_mapLoc]
  | _ =>
    (simp [wfDefinition, Definition.mapLoc, wfDirectives_mapLoc, all_map_congr _ _ (wfOperationType_mapLoc f),
      all_map_congr _ _ (wfFieldDefinition_mapLoc f), all_map_congr _ _ (wfEnumValueDefinition_mapLoc f),
      all_map_congr _ _ (wfInputValue_mapLoc f), Name.mapLoc, Function.comp_def]) <;> rfl

end PyGql.Spec
