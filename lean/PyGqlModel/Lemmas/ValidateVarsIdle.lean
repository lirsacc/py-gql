/-
  Variant of `Lemmas/ValidateWalkI.lean` for rules whose behaviour at VARIABLE DEFINITIONS depends on the rule
  state (`UniqueVariableNamesChecker`): the context-free property is only required of the "body" nodes
  (values, object fields, arguments, directives, selections, selection sets, type references); variable
  definitions and everything above them are handled by explicit induction in the rule's proof.
-/
import PyGqlModel.Lemmas.ValidateWalkI
import PyGqlModel.Lemmas.ValidateLone
import PyGqlModel.Lemmas.ValidateTypedFst
namespace PyGql.Validate
open PyGql PyGql.Validate.Spec

structure CFK (c : Cfg) (Inv : St → Prop) (f g : Node → Nat) : Prop where
  noskip : ∀ n st, n.isBody = true → Inv st → (enter c n st).2 = false
  enterE : ∀ n st, n.isBody = true → Inv st → E (enter c n st).1 = E st + f n
  enterI : ∀ n st, n.isBody = true → Inv st → Inv (enter c n st).1
  leaveE : ∀ n st, n.isBody = true → Inv st → E (leave c n st) = E st + g n
  leaveI : ∀ n st, n.isBody = true → Inv st → Inv (leave c n st)

variable {c : Cfg} {Inv : St → Prop} {f g : Node → Nat}

theorem visitNodeK (h : CFK c Inv f g) (n : Node) (body : St → St) (ns : List Node)
    (hb : ∀ st, Inv st → Post Inv f g ns st (body st)) (st : St) (hi : Inv st) (hn : n.isBody = true) :
    Post Inv f g (n :: ns) st (visitNode c n body st) := by
  obtain ⟨b1, b2⟩ := hb _ (h.enterI n st hn hi)
  rw [visitNode_false (h.noskip n st hn hi)]
  refine ⟨h.leaveI n _ hn b1, ?_⟩
  rw [h.leaveE n _ hn b1, b2, h.enterE n st hn hi, total_cons]
  omega

/-- the walk skeleton asks for the node law at every node below the definitions, `CFK` gives it at body nodes, so the
    relation is made to say nothing of lists that hold anything else (a variable definition) -/
theorem CFK.alg (h : CFK c Inv f g) :
    WalkAlg c (fun ns st st' => (∀ n ∈ ns, n.isBody = true) → Inv st → Post Inv f g ns st st') where
  nil _ _ hi := Post.nil hi
  append h1 h2 hv hi :=
    have p1 := h1 (fun n hn => hv n (List.mem_append_left _ hn)) hi
    p1.append (h2 (fun n hn => hv n (List.mem_append_right _ hn)) p1.1)
  node n body ns st _ hb hv hi :=
    visitNodeK h n body ns (fun st hi => hb st (fun m hm => hv m (List.mem_cons_of_mem _ hm)) hi) st hi
      (hv n (List.mem_cons_self ..))

theorem visitValueK (h : CFK c Inv f g) (v : Value) (st : St) (hi : Inv st) :
    Post Inv f g (valueNodes v) st (visitValue c v st) :=
  visitValueG h.alg v st (valueNodes_body v) hi
theorem visitValuesK (h : CFK c Inv f g) : ∀ (vs : List Value) (st : St), Inv st → Post Inv f g (valuesNodes vs) st (visitValues c vs st) :=
  fun vs st => visitValuesG h.alg vs st fun n hn => isBody_of_valueish (valuesNodes_kinds vs n hn)
theorem visitObjFieldK (h : CFK c Inv f g) : ∀ (x : ObjField) (st : St), Inv st → Post Inv f g (objFieldNodes x) st (visitObjField c x st) :=
  fun x st => visitObjFieldG h.alg x st fun n hn => isBody_of_valueish (objFieldNodes_kinds x n hn)
theorem visitObjFieldsK (h : CFK c Inv f g) : ∀ (fs : List ObjField) (st : St), Inv st → Post Inv f g (objFieldsNodes fs) st (visitObjFields c fs st) :=
  fun fs st => visitObjFieldsG h.alg fs st fun n hn => isBody_of_valueish (objFieldsNodes_kinds fs n hn)
theorem visitDirectivesK (h : CFK c Inv f g) (ds : List Dir) (st : St) (hi : Inv st) :
    Post Inv f g (dirsNodes ds) st (visitDirectives c ds st) :=
  visitDirectivesG h.alg.toV ds st (dirsNodes_body ds) hi
theorem visitSelK (h : CFK c Inv f g) : ∀ (x : Sel) (st : St), Inv st → Post Inv f g (selNodes x) st (visitSel c x st) :=
  fun x st => visitSelG h.alg.toV x st (selNodes_body x)

/-- a lone rule that is idle at the body nodes: its state is kept there, whatever it is -/
theorem CFK.of_idle {s : SchemaD} {fx : Fixes} {r : Rule} (hi : ∀ n, n.isBody = true → IdleAt s fx r n) (R : RS) :
    CFK ⟨s, fx, [r]⟩ (fun st => st.rs = R) (fun _ => 0) (fun _ => 0) where
  noskip n st hn _ := by rw [enter_one_rule, (hi n hn).1]
  enterE n st hn _ := by rw [enter_one_rule, (hi n hn).1]; rfl
  enterI n st hn h := by rw [enter_one_rule, (hi n hn).1]; exact h
  leaveE n st hn _ := by rw [leave_one_rule, (hi n hn).2]; rfl
  leaveI n st hn h := by rw [leave_one_rule, (hi n hn).2]; exact h

/-- default value and type reference of a variable definition (the children of the `VariableDefinition` node) -/
def varDefBodyNodes (v : VarDef) : List Node :=
  (match v.default with | some d => valueNodes d | none => []) ++ .typeNode v.type :: dirsNodes v.dirs

theorem varDefBodyK (h : CFK c Inv f g) (v : VarDef) (st : St) (hi : Inv st) :
    Post Inv f g (varDefBodyNodes v) st
      (visitDirectives c v.dirs
        (visitNode c (.typeNode v.type) id (match v.default with | some d => visitValue c d st | none => st))) := by
  have key : ∀ st', Inv st' → Post Inv f g (.typeNode v.type :: dirsNodes v.dirs) st'
      (visitDirectives c v.dirs (visitNode c (.typeNode v.type) id st')) := fun st' hi' => by
    have h1 := visitNodeK h (.typeNode v.type) id [] (fun _ hi => Post.nil hi) st' hi' rfl
    exact h1.append (visitDirectivesK h v.dirs _ h1.1)
  unfold varDefBodyNodes
  cases hd : v.default with
  | none => simpa using key st hi
  | some d =>
    simp only
    have h1 := visitValueK h d st hi
    exact h1.append (key _ h1.1)

theorem defBodyK (h : CFK c Inv f g) (dirs : List Dir) (ssid : Nat) (sels : List Sel) (st : St) (hi : Inv st) :
    Post Inv f g (fragBodyNodes dirs ssid sels) st
      (visitNode c (.selectionSet ssid sels) (visitSels c sels) (visitDirectives c dirs st)) :=
  fragBodyG h.alg.toV dirs ssid sels st (fun n hn => by
    rcases List.mem_append.mp hn with hn | hn
    · exact dirsNodes_body dirs n hn
    · rcases List.mem_cons.mp hn with rfl | hn
      · rfl
      · exact selsNodes_body sels n hn) hi

end PyGql.Validate
