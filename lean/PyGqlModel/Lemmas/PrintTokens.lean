/-
  The printed form of a tree lexes to the canonical yield of the tree (`Spec/Grammar.lean`): types and values.
-/
import PyGqlModel.Print
import PyGqlModel.Lemmas.PrintLex
import PyGqlModel.Lemmas.PrintMatch
namespace PyGql.PrintTokens
open PyGql PyGql.Ast PyGql.Parse PyGql.Spec PyGql.Print PyGql.PrintLex PyGql.PrintMatch PyGql.PrintString

def lexOkType : TypeRef → Bool
  | .named t => Spec.Lexical.isName t.name.value
  | .list t _ => lexOkType t
  | .nonNull t _ => lexOkType t

/-- the tree carries no positions (what `no_location=True` produces) -/
def noLocType : TypeRef → Bool
  | .named t => t.loc.isNone && t.name.loc.isNone
  | .list t loc => loc.isNone && noLocType t
  | .nonNull t loc => loc.isNone && noLocType t

theorem yieldType_ne_nil (t : TypeRef) : (typeV t).yield ≠ [] := by
  cases t with
  | named t => simp [typeV, namedTypeV, nameV, Item.yield, Item.yieldAll]
  | list t loc => simp [typeV, Item.yield, Item.yieldAll]
  | nonNull t loc =>
    simp only [typeV, Item.yield, Item.yieldAll]
    intro h
    simp at h

theorem plain_typeV (t : TypeRef) (h : noLocType t = true) : plain (typeV t) = true := by
  induction t with
  | named t =>
    simp [noLocType] at h
    simp [typeV, namedTypeV, nameV, plain, plainAll, Item.yieldAll, Item.yield, h.1, h.2]
  | list t loc ih =>
    simp [noLocType] at h
    simp [typeV, plain, plainAll, Item.yieldAll, Item.yield, h.1, ih h.2]
  | nonNull t loc ih =>
    simp [noLocType] at h
    have := yieldType_ne_nil t
    simp [typeV, plain, plainAll, Item.yieldAll, Item.yield, h.1, ih h.2]

mutual
/-- every leaf of the value is a lexeme of its class: names / enum values are `Name` lexemes, integers `IntValue`
    lexemes (specification recognisers), floats and block strings behave as one token (`FloatLexeme`, `BlockLexeme`);
    quoted strings are unrestricted -/
def lexOkValue (ind : Text) : Value → Prop
  | .var v => Spec.Lexical.isName v.name.value = true
  | .int w _ => Spec.Lexical.isIntValue w = true
  | .float w _ => FloatLexeme w
  | .string s => s.block = true → BlockLexeme ind s.value
  | .boolean _ _ => True
  | .null _ => True
  | .enum w _ => Spec.Lexical.isName w = true
  | .list vs _ => lexOkValues ind vs
  | .object fs _ => lexOkFields ind fs
def lexOkValues (ind : Text) : List Value → Prop
  | [] => True
  | v :: vs => lexOkValue ind v ∧ lexOkValues ind vs
def lexOkField (ind : Text) : ObjectField → Prop
  | .mk name value _ => Spec.Lexical.isName name.value = true ∧ lexOkValue ind value
def lexOkFields (ind : Text) : List ObjectField → Prop
  | [] => True
  | f :: fs => lexOkField ind f ∧ lexOkFields ind fs
end

mutual
def noLocValue : Value → Bool
  | .var v => v.loc.isNone && v.name.loc.isNone
  | .int _ loc => loc.isNone
  | .float _ loc => loc.isNone
  | .string s => s.loc.isNone
  | .boolean _ loc => loc.isNone
  | .null loc => loc.isNone
  | .enum _ loc => loc.isNone
  | .list vs loc => loc.isNone && noLocValues vs
  | .object fs loc => loc.isNone && noLocFields fs
def noLocValues : List Value → Bool
  | [] => true
  | v :: vs => noLocValue v && noLocValues vs
def noLocField : ObjectField → Bool
  | .mk name value loc => loc.isNone && name.loc.isNone && noLocValue value
def noLocFields : List ObjectField → Bool
  | [] => true
  | f :: fs => noLocField f && noLocFields fs
end

theorem isName_ne_nil {w : Text} (h : Spec.Lexical.isName w = true) : w ≠ [] := by
  intro e; subst e; simp [Spec.Lexical.isName] at h

theorem printValue_ne_nil (c : Cfg) (v : Value) (h : lexOkValue c.indent v) : printValue c v ≠ [] := by
  cases v with
  | var v => simp [printValue, printVariable]
  | int w loc =>
    simp only [lexOkValue] at h
    simp only [printValue]
    intro e; subst e
    simp [Spec.Lexical.isIntValue, Spec.Lexical.isIntegerPart, Spec.Lexical.stripNegativeSign] at h
  | float w loc => simp only [lexOkValue] at h; exact h.1
  | string s =>
    simp only [printValue, printStringValue]
    split
    · exact blockString_ne_nil _ _ _
    · simp [jsonDumps]
  | boolean b loc => cases b <;> simp [printValue, K.true_, K.false_]
  | null loc => simp [printValue, K.null_]
  | enum w loc => simp only [lexOkValue] at h; exact isName_ne_nil h
  | list vs loc => simp [printValue]
  | object fs loc => simp [printValue]

theorem join_eq_joinSep (xs : List Text) (sep : Text) (h : ∀ x ∈ xs, x ≠ []) : join xs sep = joinSep sep xs := by
  unfold join
  congr 1
  rw [List.filter_eq_self]
  intro x hx
  have := h x hx
  cases x with
  | nil => exact absurd rfl this
  | cons a b => rfl

theorem joinSep_ne_nil (sep : Text) (xs : List Text) (hne : xs ≠ []) (h : ∀ x ∈ xs, x ≠ []) : joinSep sep xs ≠ [] := by
  match xs, hne with
  | [x], _ => simpa [joinSep] using h x (by simp)
  | x :: y :: ys, _ =>
    have := h x (by simp)
    simp [joinSep, this]

theorem wrap_of_ne (o x c : Text) (h : x ≠ []) : wrap o x c = o ++ x ++ c := by
  unfold wrap
  cases x with
  | nil => exact absurd rfl h
  | cons a b => rfl

/-- `_wrap(o, ", ".join(map f xs), c)`: a bracketed list, absent when empty -/
theorem wrap_join_map {α} (f : α → Text) (o c : Text) (xs : List α) (hne : ∀ x ∈ xs, f x ≠ []) :
    wrap o (join (xs.map f) [44, 32]) c = if xs.isEmpty then [] else o ++ joinSep [44, 32] (xs.map f) ++ c := by
  have hm : ∀ t ∈ xs.map f, t ≠ [] := List.forall_mem_map.2 hne
  rw [join_eq_joinSep _ _ hm]
  cases xs with
  | nil => rfl
  | cons x xs =>
    rw [wrap_of_ne _ _ _ (joinSep_ne_nil [44, 32] ((x :: xs).map f) (by simp) hm)]
    rfl

theorem printValues_ne (c : Cfg) : ∀ (vs : List Value), lexOkValues c.indent vs → ∀ x ∈ printValues c vs, x ≠ []
  | [], _, x, hx => by simp [printValues] at hx
  | v :: vs, h, x, hx => by
    simp only [lexOkValues] at h
    simp only [printValues, List.mem_cons] at hx
    rcases hx with rfl | hx
    · exact printValue_ne_nil c v h.1
    · exact printValues_ne c vs h.2 x hx

theorem printObjectFields_ne (c : Cfg) : ∀ (fs : List ObjectField), ∀ x ∈ printObjectFields c fs, x ≠ []
  | [], x, hx => by simp [printObjectFields] at hx
  | (.mk name value loc) :: fs, x, hx => by
    simp only [printObjectFields, List.mem_cons] at hx
    rcases hx with rfl | hx
    · simp [printObjectField]
    · exact printObjectFields_ne c fs x hx

theorem isName_true : Spec.Lexical.isName K.true_ = true := by decide +kernel
theorem isName_false : Spec.Lexical.isName K.false_ = true := by decide +kernel
theorem isName_null : Spec.Lexical.isName K.null_ = true := by decide +kernel

mutual
theorem lexesTo_value (c : Cfg) : ∀ (v : Value), lexOkValue c.indent v → ∀ (r : Text) (cs : List TokClass),
    Safe r → LexesTo r cs → LexesTo (printValue c v ++ r) ((valueV v).yield ++ cs)
  | .var v, h, r, cs, hr, hl => by
    simp only [lexOkValue] at h
    have h1 := lexesTo_dollar (lexesTo_name h hr hl)
    simpa [printValue, printVariable, valueV, variableV, nameV, Item.yield, Item.yieldAll] using h1
  | .int w loc, h, r, cs, hr, hl => lexesTo_int h hr hl
  | .float w loc, h, r, cs, hr, hl => lexesTo_float h hr hl
  | .string s, h, r, cs, hr, hl => by
    simp only [lexOkValue] at h
    cases hb : s.block with
    | true =>
      simpa [printValue, printStringValue, valueV, stringV, Item.yield, Item.yieldAll, hb] using lexesTo_block (h hb) hr hl
    | false =>
      simpa [printValue, printStringValue, valueV, stringV, Item.yield, Item.yieldAll, hb] using
        lexesTo_string (v := s.value) hr hl
  | .boolean true loc, _, r, cs, hr, hl => lexesTo_name isName_true hr hl
  | .boolean false loc, _, r, cs, hr, hl => lexesTo_name isName_false hr hl
  | .null loc, _, r, cs, hr, hl => lexesTo_name isName_null hr hl
  | .enum w loc, h, r, cs, hr, hl => lexesTo_name h hr hl
  | .list vs loc, h, r, cs, _, hl => by
    simp only [lexOkValue] at h
    have h1 := lexesTo_values c vs h (93 :: r) ((.bracketR, []) :: cs) (safe_cons (by decide +kernel)) (lexesTo_bracketR hl)
    have h2 := lexesTo_bracketL h1
    simpa [printValue, valueV, Item.yield, Item.yieldAll, yieldAll_append, join_eq_joinSep _ _ (printValues_ne c vs h)]
      using h2
  | .object fs loc, h, r, cs, _, hl => by
    simp only [lexOkValue] at h
    have h1 := lexesTo_fields c fs h (125 :: r) ((.curlyR, []) :: cs) (safe_cons (by decide +kernel)) (lexesTo_curlyR hl)
    have h2 := lexesTo_curlyL h1
    simpa [printValue, valueV, Item.yield, Item.yieldAll, yieldAll_append, join_eq_joinSep _ _ (printObjectFields_ne c fs)]
      using h2
theorem lexesTo_values (c : Cfg) : ∀ (vs : List Value), lexOkValues c.indent vs → ∀ (r : Text) (cs : List TokClass),
    Safe r → LexesTo r cs → LexesTo (joinSep [44, 32] (printValues c vs) ++ r) (Item.yieldAll (valuesV vs) ++ cs)
  | [], _, r, cs, _, hl => by simpa [printValues, joinSep, valuesV, Item.yieldAll] using hl
  | [v], h, r, cs, hr, hl => by
    simp only [lexOkValues] at h
    simpa [printValues, joinSep, valuesV, Item.yieldAll] using lexesTo_value c v h.1 r cs hr hl
  | v :: v' :: vs, h, r, cs, hr, hl => by
    simp only [lexOkValues] at h
    have ih := lexesTo_values c (v' :: vs) (by simp only [lexOkValues]; exact h.2) r cs hr hl
    have h1 := lexesTo_value c v h.1 _ _ (safe_cons (c := 44) (by decide +kernel)) (lexesTo_comma (lexesTo_space ih))
    simpa [printValues, joinSep, valuesV, Item.yieldAll] using h1
theorem lexesTo_field (c : Cfg) : ∀ (f : ObjectField), lexOkField c.indent f → ∀ (r : Text) (cs : List TokClass),
    Safe r → LexesTo r cs → LexesTo (printObjectField c f ++ r) ((objectFieldV f).yield ++ cs)
  | .mk name value loc, h, r, cs, hr, hl => by
    simp only [lexOkField] at h
    have h1 := lexesTo_value c value h.2 r cs hr hl
    have h2 := lexesTo_name h.1 (safe_cons (c := 58) (by decide +kernel)) (lexesTo_colon (lexesTo_space h1))
    simpa [printObjectField, objectFieldV, nameV, Item.yield, Item.yieldAll] using h2
theorem lexesTo_fields (c : Cfg) : ∀ (fs : List ObjectField), lexOkFields c.indent fs → ∀ (r : Text) (cs : List TokClass),
    Safe r → LexesTo r cs → LexesTo (joinSep [44, 32] (printObjectFields c fs) ++ r) (Item.yieldAll (fieldsV fs) ++ cs)
  | [], _, r, cs, _, hl => by simpa [printObjectFields, joinSep, fieldsV, Item.yieldAll] using hl
  | [f], h, r, cs, hr, hl => by
    simp only [lexOkFields] at h
    simpa [printObjectFields, joinSep, fieldsV, Item.yieldAll] using lexesTo_field c f h.1 r cs hr hl
  | f :: f' :: fs, h, r, cs, hr, hl => by
    simp only [lexOkFields] at h
    have ih := lexesTo_fields c (f' :: fs) (by simp only [lexOkFields]; exact h.2) r cs hr hl
    have h1 := lexesTo_field c f h.1 _ _ (safe_cons (c := 44) (by decide +kernel)) (lexesTo_comma (lexesTo_space ih))
    simpa [printObjectFields, joinSep, fieldsV, Item.yieldAll] using h1
end


theorem yieldValue_ne_nil (v : Value) : (valueV v).yield ≠ [] := by
  cases v <;> simp [valueV, variableV, stringV, Item.yield, Item.yieldAll]

theorem plain_tokNode {loc : Loc} {k : TokKind} {v : Text} (h : loc.isNone = true) : plain (.node loc [.tok k v]) = true := by
  simp [plain, plainAll, Item.yieldAll, Item.yield, h]

mutual
theorem plain_valueV : ∀ (v : Value), noLocValue v = true → plain (valueV v) = true
  | .var v, h => by
    simp [noLocValue] at h
    simp [valueV, variableV, nameV, plain, plainAll, Item.yieldAll, Item.yield, h.1, h.2]
  | .int w loc, h => plain_tokNode h
  | .float w loc, h => plain_tokNode h
  | .string s, h => plain_tokNode h
  | .boolean b loc, h => plain_tokNode h
  | .null loc, h => plain_tokNode h
  | .enum w loc, h => plain_tokNode h
  | .list vs loc, h => by
    simp [noLocValue] at h
    have := plainAll_valuesV vs h.2
    simp [valueV, plain, plainAll, plainAll_append, Item.yieldAll, Item.yield, h.1, this]
  | .object fs loc, h => by
    simp [noLocValue] at h
    have := plainAll_fieldsV fs h.2
    simp [valueV, plain, plainAll, plainAll_append, Item.yieldAll, Item.yield, h.1, this]
theorem plainAll_valuesV : ∀ (vs : List Value), noLocValues vs = true → plainAll (valuesV vs) = true
  | [], _ => by simp [valuesV, plainAll]
  | v :: vs, h => by
    simp [noLocValues] at h
    simp [valuesV, plainAll, plain_valueV v h.1, plainAll_valuesV vs h.2]
theorem plain_objectFieldV : ∀ (f : ObjectField), noLocField f = true → plain (objectFieldV f) = true
  | .mk name value loc, h => by
    simp [noLocField] at h
    simp [objectFieldV, nameV, plain, plainAll, Item.yieldAll, Item.yield, h.1.1, h.1.2, plain_valueV value h.2]
theorem plainAll_fieldsV : ∀ (fs : List ObjectField), noLocFields fs = true → plainAll (fieldsV fs) = true
  | [], _ => by simp [fieldsV, plainAll]
  | f :: fs, h => by
    simp [noLocFields] at h
    simp [fieldsV, plainAll, plain_objectFieldV f h.1, plainAll_fieldsV fs h.2]
end

end PyGql.PrintTokens
