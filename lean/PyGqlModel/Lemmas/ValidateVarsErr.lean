/-
  The three `leave_document` bodies built on `VariablesCollector` (`NoUndefinedVariablesChecker`,
  `NoUnusedVariablesChecker`, `VariablesInAllowedPositionChecker`) report nothing exactly when a statement about
  the collector's look-ups (`VC.sem`) holds; `_flatten_fragments` turns the directly spread fragments into the
  reachable ones. Needs the keys of the iterated maps to be pairwise distinct (`VC.WFall`, an invariant of the walk).
-/
import PyGqlModel.Lemmas.ValidateVarsSem
import PyGqlModel.Lemmas.ValidateVarsClosure
namespace PyGql.Validate
open PyGql PyGql.Validate.Spec

structure VC.WFall (c : VC) : Prop where
  opVars : AL.WF c.opVars
  opDefined : AL.WF c.opDefined
  opFrags : AL.WF c.opFrags
  opVarsIn : AL.AllVals AL.WF c.opVars
  fragVarsIn : AL.AllVals AL.WF c.fragVars

theorem VC.wfall_empty : VC.WFall {} :=
  ⟨AL.wf_nil, AL.wf_nil, AL.wf_nil, (fun _ h => nomatch h), (fun _ h => nomatch h)⟩

/-- the invariant does not speak of the scope -/
theorem VC.WFall.scope {c : VC} (h : c.WFall) (o f : Option String) : VC.WFall { c with op := o, frag := f } :=
  ⟨h.opVars, h.opDefined, h.opFrags, h.opVarsIn, h.fragVarsIn⟩

theorem wf_record (fx : Fixes) {m : AL (List Usage)} (h : AL.WF m) (x : String) (u : Usage) : AL.WF (VC.record fx m x u) := by
  unfold VC.record
  split
  · exact AL.wf_modify h _ _ _
  · exact AL.wf_set h _ _

theorem VC.wfall_applyEv (fx : Fixes) (e : VEv) {c : VC} (h : c.WFall) : (VC.applyEv fx e c).WFall := by
  obtain ⟨op, frag, ivd, ov, od, ofr, fv, ff⟩ := c
  obtain ⟨h1, h2, h3, h4, h5⟩ := h
  simp only at h1 h2 h3 h4 h5
  cases e with
  | use x u =>
    cases ivd with
    | true => exact ⟨h1, h2, h3, h4, h5⟩
    | false =>
      cases op with
      | some o =>
        exact ⟨AL.wf_modify h1 o [] (fun m => VC.record fx m x u), h2, h3,
          AL.allVals_modify h4 o [] (fun m => VC.record fx m x u) AL.wf_nil (fun v hv => wf_record fx hv x u), h5⟩
      | none =>
        cases frag with
        | some f =>
          exact ⟨h1, h2, h3, h4,
            AL.allVals_modify h5 f [] (fun m => VC.record fx m x u) AL.wf_nil (fun v hv => wf_record fx hv x u)⟩
        | none => exact ⟨h1, h2, h3, h4, h5⟩
  | spread f =>
    cases op with
    | some o => exact ⟨h1, h2, AL.wf_modify h3 o [] (· ++ [f]), h4, h5⟩
    | none =>
      cases frag with
      | some g =>
        simp only [VC.applyEv, VC.enterSpread]
        split <;> exact ⟨h1, h2, h3, h4, h5⟩
      | none => exact ⟨h1, h2, h3, h4, h5⟩
  | defn v =>
    cases op with
    | some o => exact ⟨h1, AL.wf_modify h2 o [] (fun m => AL.set m v.name v), h3, h4, h5⟩
    | none => exact ⟨h1, h2, h3, h4, h5⟩

theorem VC.wfall_applyAll (fx : Fixes) (evs : List VEv) {c : VC} (h : c.WFall) : (VC.applyAll fx evs c).WFall := by
  induction evs generalizing c with
  | nil => exact h
  | cons e evs ih => exact ih (VC.wfall_applyEv fx e h)

theorem wfall_defEffect (fx : Fixes) (s : SchemaD) (x : Def) {c : VC} (h : c.WFall) : (defEffect fx s x c).WFall := by
  cases x with
  | op kind name vars dirs ssid sels => exact (VC.wfall_applyAll fx _ (h.scope _ _)).scope _ _
  | frag name on dirs ssid sels => exact (VC.wfall_applyAll fx _ (h.scope _ _)).scope _ _
  | ts a b => exact h

theorem wfall_defEffects (fx : Fixes) (s : SchemaD) (ds : List Def) {c : VC} (h : c.WFall) :
    (ds.foldl (fun cc x => defEffect fx s x cc) c).WFall := by
  induction ds generalizing c with
  | nil => exact h
  | cons x xs ih => exact ih (wfall_defEffect fx s x h)

theorem foldl_count_zero {α} (f : Nat → α → Nat) (ok : α → Prop) (hf : ∀ n a, f n a = 0 ↔ n = 0 ∧ ok a)
    (l : List α) (n0 : Nat) : l.foldl f n0 = 0 ↔ n0 = 0 ∧ ∀ a ∈ l, ok a := by
  induction l generalizing n0 with
  | nil => simp
  | cons a l ih =>
    rw [List.foldl_cons, ih, hf]
    simp only [List.mem_cons, forall_eq_or_imp, and_assoc]

theorem ite_succ_zero (p : Prop) [Decidable p] (n : Nat) : (if p then n else n + 1) = 0 ↔ n = 0 ∧ p := by
  by_cases h : p <;> simp [h]

/-- the innermost loop of the undefined / unused rules: one error per key that fails `P` -/
theorem count_inner {β} (P : String → Prop) [DecidablePred P] (n : Nat) (q : String × β) :
    (match q with | (var, _) => if P var then n else n + 1) = 0 ↔ n = 0 ∧ P q.1 := by
  obtain ⟨var, us⟩ := q; exact ite_succ_zero _ n

/-- iterating over the items of a well-formed map of lists = looking every key up -/
theorem forall_entries_iff {α} {m : AL (List α)} (hw : AL.WF m) (P : String → α → Prop) :
    (∀ p ∈ m, ∀ a ∈ p.2, P p.1 a) ↔ ∀ k a, a ∈ AL.getD m k [] → P k a := by
  constructor
  · intro h k a ha
    rcases AL.getD_cases m k [] with e | e
    · rw [e] at ha; cases ha
    · exact h _ e a ha
  · intro h p hp a ha
    apply h p.1 a
    rw [AL.getD_of_mem hw (show (p.1, p.2) ∈ m from hp)]
    exact ha

theorem mem_inner_iff {α} (m : AL α) (x : String) : (∃ q ∈ m, q.1 = x) ↔ AL.has m x = true := by
  rw [AL.has_iff_mem]
  constructor
  · rintro ⟨q, hq, rfl⟩; exact ⟨q.2, hq⟩
  · rintro ⟨v, hv⟩; exact ⟨_, hv, rfl⟩

theorem forall_inner_iff {α} (m : AL α) (Q : String → Prop) :
    (∀ q ∈ m, Q q.1) ↔ ∀ x, AL.has m x = true → Q x := by
  constructor
  · intro h x hx
    obtain ⟨q, hq, rfl⟩ := (mem_inner_iff m x).mpr hx
    exact h q hq
  · intro h q hq
    exact h q.1 ((mem_inner_iff m q.1).mp ⟨q, hq, rfl⟩)

/-- iterating over the items of the items of a well-formed map of maps = looking the keys up -/
theorem forall_entries2_iff {β} {m : AL (AL β)} (hw : AL.WF m) (P : String → String → Prop) :
    (∀ p ∈ m, ∀ q ∈ p.2, P p.1 q.1) ↔ ∀ o x, AL.has (AL.getD m o []) x = true → P o x := by
  constructor
  · intro h o x hx
    rcases AL.getD_cases m o [] with e | e
    · rw [e] at hx; cases hx
    · exact (forall_inner_iff _ _).mp (h _ e) x hx
  · intro h p hp
    rw [forall_inner_iff, ← AL.getD_of_mem hw (show (p.1, p.2) ∈ m from hp) []]
    exact h p.1

theorem undefined_zero_iff (c : VC) (hw : c.WFall) :
    c.undefinedErrors = 0 ↔
      (∀ o f x, f ∈ c.sem.sp (.op o) → c.sem.useK (.frag f) x = true → (c.sem.dfn o x).isSome = true) ∧
      (∀ o x, c.sem.useK (.op o) x = true → (c.sem.dfn o x).isSome = true) := by
  unfold VC.undefinedErrors
  refine (foldl_count_zero _ (fun p : String × AL (List Usage) =>
    ∀ q ∈ p.2, AL.has (AL.getD c.opDefined p.1 []) q.1 = true) ?_ _ _).trans ?_
  · rintro n ⟨o, vars⟩
    exact foldl_count_zero _ _ (count_inner (AL.has (AL.getD c.opDefined o []) · = true)) vars n
  refine (and_congr_left' (foldl_count_zero _ (fun p : String × List String =>
    ∀ f ∈ p.2.eraseDups, ∀ q ∈ AL.getD c.fragVars f [], AL.has (AL.getD c.opDefined p.1 []) q.1 = true) ?_ _ _)).trans ?_
  · rintro n ⟨o, frags⟩
    exact foldl_count_zero _ (fun f => ∀ q ∈ AL.getD c.fragVars f [], AL.has (AL.getD c.opDefined o []) q.1 = true)
      (fun n f => foldl_count_zero _ _ (count_inner (AL.has (AL.getD c.opDefined o []) · = true)) _ n) _ n
  simp only [true_and, List.mem_eraseDups, AL.has_eq_isSome (AL.getD c.opDefined _ []), VC.sem]
  refine and_congr ((forall_entries_iff hw.opFrags fun o f => ∀ q ∈ AL.getD c.fragVars f [],
    (AL.get? (AL.getD c.opDefined o []) q.1).isSome = true).trans ?_)
    (forall_entries2_iff hw.opVars fun o x => (AL.get? (AL.getD c.opDefined o []) x).isSome = true)
  constructor
  · intro h o f x hf
    exact (forall_inner_iff _ fun x => (AL.get? (AL.getD c.opDefined o []) x).isSome = true).mp (h o f hf) x
  · intro h o f hf
    exact (forall_inner_iff _ fun x => (AL.get? (AL.getD c.opDefined o []) x).isSome = true).mpr fun x => h o f x hf

theorem unused_zero_iff (c : VC) (hw : c.WFall) :
    c.unusedErrors = 0 ↔
      ∀ o x, (c.sem.dfn o x).isSome = true →
        (c.sem.useK (.op o) x = true ∨ ∃ f ∈ c.sem.sp (.op o), c.sem.useK (.frag f) x = true) := by
  unfold VC.unusedErrors
  refine (foldl_count_zero _ (fun p : String × AL VarDef => ∀ q ∈ p.2,
    ((((AL.getD c.opFrags p.1 []).eraseDups).flatMap fun f => AL.keys (AL.getD c.fragVars f [])) ++
      AL.keys (AL.getD c.opVars p.1 [])).contains q.1 = true) ?_ _ _).trans ?_
  · rintro n ⟨o, defined⟩
    exact foldl_count_zero _ _ (count_inner (fun v => (((AL.getD c.opFrags o []).eraseDups).flatMap
      (fun f => AL.keys (AL.getD c.fragVars f [])) ++ AL.keys (AL.getD c.opVars o [])).contains v = true)) defined n
  simp only [true_and]
  rw [forall_entries2_iff hw.opDefined (fun o x =>
    ((((AL.getD c.opFrags o []).eraseDups).flatMap fun f => AL.keys (AL.getD c.fragVars f [])) ++
      AL.keys (AL.getD c.opVars o [])).contains x = true)]
  simp only [List.contains_iff_mem, List.mem_append, List.mem_flatMap, List.mem_eraseDups, AL.mem_keys, VC.sem,
    AL.has_eq_isSome]
  constructor
  · intro h o x hx
    rcases h o x hx with ⟨f, hf, hfx⟩ | h'
    · exact Or.inr ⟨f, hf, hfx⟩
    · exact Or.inl h'
  · intro h o x hx
    rcases h o x hx with h' | ⟨f, hf, hfx⟩
    · exact Or.inr h'
    · exact Or.inl ⟨f, hf, hfx⟩

theorem mem_flat_usages {m : AL (List Usage)} (hw : AL.WF m) (x : String) (u : Usage) :
    (x, u) ∈ (m.flatMap fun (v, us) => us.map fun u => (v, u)) ↔ u ∈ AL.getD m x [] := by
  simp only [List.mem_flatMap, List.mem_map, Prod.mk.injEq, Prod.exists]
  constructor
  · rintro ⟨v, us, hm, u', hu', rfl, rfl⟩
    rw [AL.getD_of_mem hw hm]; exact hu'
  · intro h
    rcases AL.getD_cases m x [] with e | e
    · rw [e] at h; cases h
    · exact ⟨x, _, e, u, h, rfl, rfl⟩

theorem count_pos (s : SchemaD) (vardefs : AL VarDef) (n : Nat) (q : String × Usage) :
    (match q with
      | (v, u) =>
        match AL.get? vardefs v with
        | some vd => if VC.usageBad s vd u = true then n + 1 else n
        | none => n) = 0 ↔ n = 0 ∧ ∀ vd, AL.get? vardefs q.1 = some vd → VC.usageBad s vd q.2 = false := by
  obtain ⟨v, u⟩ := q
  simp only
  cases hg : AL.get? vardefs v with
  | none => simp
  | some vd =>
    simp only [Option.some.injEq, forall_eq']
    cases VC.usageBad s vd u <;> simp

theorem position_zero_iff (s : SchemaD) (c : VC) (hw : c.WFall) :
    c.positionErrors s = 0 ↔
      ∀ o x u vd, (u ∈ c.sem.use (.op o) x ∨ ∃ f ∈ c.sem.sp (.op o), u ∈ c.sem.use (.frag f) x) →
        c.sem.dfn o x = some vd →
        VC.usageBad s vd u = false := by
  unfold VC.positionErrors
  refine (foldl_count_zero _ (fun p : String × AL VarDef => ∀ q ∈
    ((AL.getD c.opVars p.1 []).flatMap fun (v, us) => us.map fun u => (v, u)) ++
    ((AL.getD c.opFrags p.1 []).flatMap fun f => (AL.getD c.fragVars f []).flatMap fun (v, us) => us.map fun u => (v, u)),
      ∀ vd, AL.get? p.2 q.1 = some vd → VC.usageBad s vd q.2 = false) ?_ _ _).trans ?_
  · rintro n ⟨o, vardefs⟩
    exact foldl_count_zero _ _ (count_pos s vardefs) _ n
  simp only [true_and]
  have hin1 : ∀ o, AL.WF (AL.getD c.opVars o []) := fun o => AL.allVals_getD hw.opVarsIn o [] AL.wf_nil
  have hin2 : ∀ f, AL.WF (AL.getD c.fragVars f []) := fun f => AL.allVals_getD hw.fragVarsIn f [] AL.wf_nil
  have hmem : ∀ o (q : String × Usage), q ∈
      ((AL.getD c.opVars o []).flatMap fun (v, us) => us.map fun u => (v, u)) ++
      ((AL.getD c.opFrags o []).flatMap fun f => (AL.getD c.fragVars f []).flatMap fun (v, us) => us.map fun u => (v, u)) ↔
      (q.2 ∈ c.sem.use (.op o) q.1 ∨ ∃ f ∈ c.sem.sp (.op o), q.2 ∈ c.sem.use (.frag f) q.1) := by
    rintro o ⟨x, u⟩
    rw [List.mem_append, mem_flat_usages (hin1 o), List.mem_flatMap]
    apply or_congr Iff.rfl
    constructor
    · rintro ⟨f, hf, h⟩; exact ⟨f, hf, (mem_flat_usages (hin2 f) x u).mp h⟩
    · rintro ⟨f, hf, h⟩; exact ⟨f, hf, (mem_flat_usages (hin2 f) x u).mpr h⟩
  constructor
  · intro h o x u vd hu hd
    have hd' : AL.get? (AL.getD c.opDefined o []) x = some vd := hd
    rcases AL.getD_cases c.opDefined o [] with e | e
    · rw [e] at hd'; cases hd'
    · exact h _ e (x, u) ((hmem o (x, u)).mpr hu) vd hd'
  · intro h p hp q hq vd hd
    refine h p.1 q.1 q.2 vd ((hmem p.1 q).mp hq) ?_
    show AL.get? (AL.getD c.opDefined p.1 []) q.1 = some vd
    rw [AL.getD_of_mem hw.opDefined (show (p.1, p.2) ∈ c.opDefined from hp)]
    exact hd

theorem get?_map_vals {α β} (m : AL α) (G : α → β) (k : String) :
    AL.get? (m.map fun p => (p.1, G p.2)) k = (AL.get? m k).map G := by
  induction m with
  | nil => rfl
  | cons p m ih =>
    rw [List.map_cons, AL.get?_cons, AL.get?_cons, ih]
    by_cases h : p.1 = k <;> simp [h]

theorem flattenClosure_eq (c : VC) :
    c.flattenClosure = { c with opFrags := c.opFrags.map fun p => (p.1, VC.closure c.fragFrags
      ((c.fragFrags.foldl (fun n p => n + p.2.length + 1) 1) + c.opFrags.foldl (fun n p => n + p.2.length + 1) 1) p.2 p.2) } := by
  unfold VC.flattenClosure
  simp only

theorem flatten_wfall (fx : Fixes) (h4 : fx.v4 = true) {c : VC} (hw : c.WFall) : (c.flatten fx).WFall := by
  unfold VC.flatten
  rw [if_pos h4, flattenClosure_eq]
  refine ⟨hw.opVars, hw.opDefined, ?_, hw.opVarsIn, hw.fragVarsIn⟩
  show AL.WF (c.opFrags.map _)
  unfold AL.WF AL.keys
  rw [List.map_map]
  exact hw.opFrags

theorem flatten_sem (fx : Fixes) (h4 : fx.v4 = true) (c : VC) :
    (c.flatten fx).sem.dfn = c.sem.dfn ∧ (c.flatten fx).sem.use = c.sem.use ∧ (c.flatten fx).sem.useK = c.sem.useK := by
  unfold VC.flatten
  rw [if_pos h4, flattenClosure_eq]
  exact ⟨rfl, rfl, rfl⟩

/-- after `_flatten_fragments` an operation's list holds exactly the fragments reachable from its own spreads -/
theorem flatten_osp (fx : Fixes) (h4 : fx.v4 = true) (c : VC) (o g : String) :
    g ∈ (c.flatten fx).sem.sp (.op o) ↔ ∃ f ∈ c.sem.sp (.op o), VC.Reach c.fragFrags f g := by
  unfold VC.flatten
  rw [if_pos h4, flattenClosure_eq]
  show g ∈ AL.getD (c.opFrags.map _) o [] ↔ ∃ f ∈ AL.getD c.opFrags o [], _
  unfold AL.getD
  rw [get?_map_vals c.opFrags (fun fs => VC.closure c.fragFrags _ fs fs) o]
  cases hg : AL.get? c.opFrags o with
  | none => simp
  | some fs =>
    simp only [Option.map_some, Option.getD_some]
    apply VC.mem_closure
    have h1 := VC.foldl_len_ge c.fragFrags 1
    have h2 := VC.foldl_len_ge_mem c.opFrags 1 (o, fs) (AL.mem_of_get? hg)
    unfold VC.univ
    simp only at h2
    omega

end PyGql.Validate
