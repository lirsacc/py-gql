/-
  C12 — the two printer models print the same text: the printer itself.  For the collection-valued state of fix
  H1 every state-passing function of `SdlPrint` returns the state it was given (`Rel … .1`) and the text of the
  corresponding function of `SdlPrintTA` (`Rel … .2`).  The only hypothesis is about the PRINTED directive applications:
  the String model writes them with its own `dirAppText`, the Text model (as the real printer) with the language printer
  of C03, whose `_join` drops empty entries — they agree when the applications consist of lexemes (`dirAppOK`).
-/
import PyGqlModel.Lemmas.SdlModelsDesc
import PyGqlModel.Lemmas.SdlTextDefaults
import PyGqlModel.Lemmas.SdlTextOrder
import PyGqlModel.Props.C12
namespace PyGql.SdlModels
open PyGql PyGql.Sdl PyGql.SdlPrintT
open PyGql.SdlText hiding T
open PyGql.SdlPrint (Apps PrinterState Opts)

def optsA (o : Opts) : SdlPrintTA.OptsA := { base := optsT o, custom := o.custom, whitelist := o.whitelist }

theorem optsA_base (o : Opts) : (optsA o).base = optsT o := rfl
theorem optsT_indent (o : Opts) : (optsT o).indent = T o.indent := rfl
theorem optsT_descriptions (o : Opts) : (optsT o).descriptions = o.descriptions := rfl

/-- the state of the fixed code (H1): the frozenset of the specified directive names -/
abbrev st0 : PrinterState := SdlPrint.initialCollection

def Rel (r : String × PrinterState) (t : Text) : Prop := r.2 = st0 ∧ T r.1 = t

theorem Rel.eq {r : String × PrinterState} {t : Text} (h : Rel r t) : r = (r.1, st0) := by
  cases r; cases h; simp_all

/-- `enumerate`-style map of the Text models -/
def imap {α} (g : Nat → α → Text) : Nat → List α → List Text
  | _, [] => []
  | i, x :: xs => g i x :: imap g (i + 1) xs

theorem imap_const {α} (g : α → Text) : ∀ (i : Nat) (l : List α), imap (fun _ x => g x) i l = l.map g
  | _, [] => rfl
  | i, x :: xs => by simp only [imap, List.map_cons, imap_const g (i + 1) xs]

theorem mapSt_rel {α} (f : Nat → α → PrinterState → String × PrinterState) (g : Nat → α → Text) :
    ∀ (l : List α) (i : Nat), (∀ j x, x ∈ l → Rel (f j x st0) (g j x)) →
      (SdlPrint.mapSt f i l st0).2 = st0 ∧ (SdlPrint.mapSt f i l st0).1.map T = imap g i l
  | [], _, _ => ⟨rfl, rfl⟩
  | x :: xs, i, h => by
    have hx := h i x (by simp)
    have ih := mapSt_rel f g xs (i + 1) (fun j y hy => h j y (by simp [hy]))
    simp only [SdlPrint.mapSt, hx.1, imap, List.map_cons, hx.2]
    exact ⟨ih.1, by rw [ih.2]⟩


theorem keepCustom_st0 (wl : Option (List String)) (ds : List DirApp) :
    SdlPrint.keepCustom wl ds st0 = (ds.filter (SdlPrintTA.keepP wl), st0) :=
  Props.C12.print_pure_partial wl _ ds

theorem joinSep_ne_nil (sep : Text) : ∀ xs : List Text, xs ≠ [] → (∀ x ∈ xs, x ≠ []) → joinSep sep xs ≠ []
  | [], h, _ => absurd rfl h
  | [x], _, h => by simpa [joinSep] using h x (by simp)
  | x :: y :: r, _, h => by
    have hx := h x (by simp)
    intro hj
    simp only [joinSep, List.append_eq_nil_iff] at hj
    exact hx hj.1.1

theorem argTexts_eq (c : Print.Cfg) : ∀ (as : List (String × Lit)), (as.all fun a => nameOK a.1 && litOK a.2) = true →
    (as.map argOf).map (Print.printArgument c) = fieldTexts as
  | [], _ => rfl
  | (k, v) :: as, h => by
    simp only [List.all_cons, Bool.and_eq_true] at h
    simp only [List.map_cons, fieldTexts, argTexts_eq c as h.2, Print.printArgument, argOf, nameOf, litText_eq c v h.1.2]

theorem fieldTexts_ne_nil : ∀ (as : List (String × Lit)), ∀ x ∈ fieldTexts as, x ≠ []
  | [], _, hx => by simp [fieldTexts] at hx
  | (k, v) :: as, x, hx => by
    simp only [fieldTexts, List.mem_cons] at hx
    rcases hx with rfl | hx
    · simp
    · exact fieldTexts_ne_nil as x hx

theorem T_dirAppText (d : DirApp) (h : SdlPrintTA.dirAppOK d = true) : T (SdlPrint.dirAppText d) = SdlPrintTA.dirText d := by
  simp only [SdlPrintTA.dirAppOK, Bool.and_eq_true] at h
  have hat : T "@" = [64] := by decide
  have hlp : T "(" = [40] := by decide
  simp only [SdlPrint.dirAppText, SdlPrintTA.dirText, Print.printDirective, Print.printArguments, dirOf, nameOf,
    argTexts_eq _ d.args h.2, T_append, T_ite, T_intercalate, T_fieldTexts, hat, hlp, T_rparen, T_commaSpace, T_nil]
  rw [PrintTokens.join_eq_joinSep _ _ (fieldTexts_ne_nil d.args), ← joinSep_eq]
  cases hargs : d.args with
  | nil => simp [fieldTexts, joinSep, Print.wrap]
  | cons a as =>
    have hne : fieldTexts (a :: as) ≠ [] := by cases a; simp [fieldTexts]
    have hj := joinSep_ne_nil [44, 32] (fieldTexts (a :: as)) hne (fieldTexts_ne_nil _)
    have hie : (joinSep [44, 32] (fieldTexts (a :: as))).isEmpty = false := by
      cases hjj : joinSep [44, 32] (fieldTexts (a :: as)) with
      | nil => exact absurd hjj hj
      | cons _ _ => rfl
    simp [Print.wrap, hie]

theorem printDirectives_rel (o : Opts) (apps : Apps) (path : String) (h : SdlPrintTA.appsOKAt (optsA o) apps path = true) :
    Rel (SdlPrint.printDirectives o apps path st0) (SdlPrintTA.printDirectives (optsA o) apps path) := by
  have hsp : T " " = [32] := by decide
  unfold SdlPrint.printDirectives SdlPrintTA.printDirectives SdlPrintTA.nodesAt
  by_cases hc : o.custom = true
  · have hc' : (optsA o).custom = true := hc
    simp only [hc, hc', Bool.not_true, Bool.false_eq_true, if_false, if_true]
    by_cases hn : (SdlPrint.Apps.get apps path).isEmpty = true
    · simp only [hn, if_true]; exact ⟨rfl, rfl⟩
    · simp only [hn, Bool.false_eq_true, if_false, keepCustom_st0]
      refine ⟨rfl, ?_⟩
      simp only [T_append, T_intercalate, hsp, List.map_map]
      have hk : SdlPrintTA.keptAt (optsA o) apps path = (SdlPrint.Apps.get apps path).filter (SdlPrintTA.keepP o.whitelist) := by
        simp only [SdlPrintTA.keptAt, SdlPrintTA.nodesAt, hc', if_true]; rfl
      simp only [SdlPrintTA.appsOKAt, hk, List.all_eq_true] at h
      rw [hk, List.map_congr_left (fun d hd => by simpa using T_dirAppText d (h d hd))]
      rfl
  · have hc' : (optsA o).custom = false := by simpa [optsA] using hc
    have hc2 : o.custom = false := by simpa using hc
    simp only [hc2, hc', Bool.not_false, if_true, Bool.false_eq_true, if_false, List.isEmpty_nil]
    exact ⟨rfl, rfl⟩


theorem printInputValue_rel (s : SchemaD) (o : Opts) (apps : Apps) (path : String) (a : ArgD)
    (h : SdlPrintTA.argAppsOK (optsA o) apps path a = true) :
    Rel (SdlPrint.printInputValue s o apps path a st0) (SdlPrintTA.printInputValue s (optsA o) apps path a) := by
  have hd := printDirectives_rel o apps (path ++ "." ++ a.name) h
  have h2 : T " = " = [32, 61, 32] := by decide
  unfold Rel
  simp only [SdlPrint.printInputValue]
  refine ⟨hd.1, ?_⟩
  simp only [SdlPrintTA.printInputValue, T_strip, T_append, T_ite, T_render, T_valueText, hd.2, T_colonSpace, h2]

theorem printArgs_imap (s : SchemaD) (c : SdlPrintTA.OptsA) (apps : Apps) (path : String) (depth : Nat) (multi : Bool) :
    ∀ (i : Nat) (as : List ArgD), SdlPrintTA.printArgs s c apps path depth multi i as =
      imap (fun i a => if multi then printDescription c.base a.desc (depth + 1) (i == 0) ++ c.base.indent ++
          repeatText c.base.indent depth ++ SdlPrintTA.printInputValue s c apps path a
        else SdlPrintTA.printInputValue s c apps path a) i as
  | _, [] => rfl
  | i, a :: as => by simp only [SdlPrintTA.printArgs, imap, printArgs_imap s c apps path depth multi (i + 1) as]

theorem printArg_rel (s : SchemaD) (o : Opts) (apps : Apps) (path : String) (depth : Nat) (multi : Bool) (i : Nat) (a : ArgD)
    (h : SdlPrintTA.argAppsOK (optsA o) apps path a = true) :
    Rel (SdlPrint.printArg s o apps path depth multi i a st0)
      (if multi then printDescription (optsT o) a.desc (depth + 1) (i == 0) ++ T o.indent ++
          repeatText (T o.indent) depth ++ SdlPrintTA.printInputValue s (optsA o) apps path a
        else SdlPrintTA.printInputValue s (optsA o) apps path a) := by
  have hv := printInputValue_rel s o apps path a h
  unfold Rel
  simp only [SdlPrint.printArg]
  refine ⟨hv.1, ?_⟩
  simp only [T_ite, T_append, T_printDescription, T_repeatStr, hv.2]

theorem printArguments_rel (s : SchemaD) (o : Opts) (apps : Apps) (path : String) (args : List ArgD) (depth : Nat)
    (h : args.all (SdlPrintTA.argAppsOK (optsA o) apps path) = true) :
    Rel (SdlPrint.printArguments s o apps path args depth st0) (SdlPrintTA.printArguments s (optsA o) apps path args depth) := by
  rw [List.all_eq_true] at h
  have hm := fun m => mapSt_rel (SdlPrint.printArg s o apps path depth m) _ args 0
    (fun j x hx => printArg_rel s o apps path depth m j x (h x hx))
  have hm1 := fun m => (hm m).1
  have hm2 := fun m => (hm m).2
  have h1 : T "(\n" = [40, 10] := by decide
  have h4 : T "(" = [40] := by decide
  unfold Rel
  simp only [SdlPrint.printArguments]
  refine ⟨hm1 _, ?_⟩
  simp only [SdlPrintTA.printArguments, T_ite, T_append, T_intercalate, hm2, T_repeatStr, printArgs_imap,
    optsA_base, optsT_indent, h1, T_lf, T_rparen, h4, T_commaSpace, T_nil]
  simp only [List.append_assoc, List.cons_append, List.nil_append, List.singleton_append]
  rfl

theorem printFields_imap (s : SchemaD) (c : SdlPrintTA.OptsA) (apps : Apps) (tname : String) :
    ∀ (i : Nat) (fs : List FieldD), SdlPrintTA.printFields s c apps tname i fs = imap (SdlPrintTA.printField s c apps tname) i fs
  | _, [] => rfl
  | i, f :: fs => by simp only [SdlPrintTA.printFields, imap, printFields_imap s c apps tname (i + 1) fs]

theorem printEnumValues_imap (c : SdlPrintTA.OptsA) (apps : Apps) (tname : String) :
    ∀ (i : Nat) (vs : List EnumValD), SdlPrintTA.printEnumValues c apps tname i vs = imap (SdlPrintTA.printEnumValue c apps tname) i vs
  | _, [] => rfl
  | i, v :: vs => by simp only [SdlPrintTA.printEnumValues, imap, printEnumValues_imap c apps tname (i + 1) vs]

theorem printInputFields_imap (s : SchemaD) (c : SdlPrintTA.OptsA) (apps : Apps) (tname : String) :
    ∀ (i : Nat) (fs : List ArgD), SdlPrintTA.printInputFields s c apps tname i fs = imap (SdlPrintTA.printInputField s c apps tname) i fs
  | _, [] => rfl
  | i, f :: fs => by simp only [SdlPrintTA.printInputFields, imap, printInputFields_imap s c apps tname (i + 1) fs]

theorem printField_rel (s : SchemaD) (o : Opts) (apps : Apps) (tname : String) (i : Nat) (f : FieldD)
    (h : SdlPrintTA.fieldAppsOK (optsA o) apps tname f = true) :
    Rel (SdlPrint.printField s o apps tname i f st0) (SdlPrintTA.printField s (optsA o) apps tname i f) := by
  simp only [SdlPrintTA.fieldAppsOK, Bool.and_eq_true] at h
  have ha := printArguments_rel s o apps (tname ++ "." ++ f.name) f.args 1 h.2
  have hd := printDirectives_rel o apps (tname ++ "." ++ f.name) h.1
  unfold Rel
  simp only [SdlPrint.printField, ha.1]
  refine ⟨hd.1, ?_⟩
  simp only [SdlPrintTA.printField, T_rstrip, T_append, T_printDescription, T_render, T_printDeprecated, ha.2, hd.2, T_colonSpace]
  rfl

theorem printEnumValue_rel (o : Opts) (apps : Apps) (tname : String) (i : Nat) (v : EnumValD)
    (h : SdlPrintTA.appsOKAt (optsA o) apps (tname ++ "." ++ v.name) = true) :
    Rel (SdlPrint.printEnumValue o apps tname i v st0) (SdlPrintTA.printEnumValue (optsA o) apps tname i v) := by
  have hd := printDirectives_rel o apps (tname ++ "." ++ v.name) h
  unfold Rel
  simp only [SdlPrint.printEnumValue]
  refine ⟨hd.1, ?_⟩
  simp only [SdlPrintTA.printEnumValue, T_rstrip, T_append, T_printDescription, T_printDeprecated, hd.2]
  rfl

theorem printInputField_rel (s : SchemaD) (o : Opts) (apps : Apps) (tname : String) (i : Nat) (f : ArgD)
    (h : SdlPrintTA.argAppsOK (optsA o) apps tname f = true) :
    Rel (SdlPrint.printInputField s o apps tname i f st0) (SdlPrintTA.printInputField s (optsA o) apps tname i f) := by
  have hv := printInputValue_rel s o apps tname f h
  unfold Rel
  simp only [SdlPrint.printInputField]
  refine ⟨hv.1, ?_⟩
  simp only [SdlPrintTA.printInputField, T_append, T_printDescription, hv.2]
  rfl

end PyGql.SdlModels
