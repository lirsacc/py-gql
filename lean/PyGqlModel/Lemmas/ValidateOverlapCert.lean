/-
  `OverlappingFieldsCanBeMergedChecker`, soundness with fragment spreads: the certificates.
  `Cert M pme f1 f2`: the tree of checks a call of `_find_conflict` that returned false has made - arguments, types,
  and for the sub-selections: direct fields pairwise, fields against spread fragments (transitively), and for pairs
  of spread fragments only that they are COVERED by the compared-pairs memo `M` (`Cov`). The memo itself is closed
  (`KeyObl`): a key stands for "direct fields compared, nested fragment pairs covered". Height-indexed versions of
  `Spec.Conf` / `Spec.CollF` for the inductions.
-/
import PyGqlModel.Lemmas.ValidateOverlapComplete
namespace PyGql.Validate
open PyGql PyGql.Validate.Spec

/-- `Spec.Conf` with the height of the derivation (number of nested sub-selection steps) as an index: what the inductions run on -/
inductive ConfH (s : SchemaD) (d : Doc) : Nat → Bool → FEntry → FEntry → Prop where
  | args {n : Nat} {pme : Bool} {f1 f2 : FEntry} :
      (pme || exclusiveParents s f1 f2) = false →
      (f1.name ≠ f2.name ∨ sameArguments f1.args f2.args = some false) → ConfH s d n pme f1 f2
  | types {n : Nat} {pme : Bool} {f1 f2 : FEntry} {t1 t2 : Ty} :
      f1.fdef.map (·.type) = some t1 → f2.fdef.map (·.type) = some t2 → typesConflict s t1 t2 = true →
      ConfH s d n pme f1 f2
  | sub {n : Nat} {pme : Bool} {f1 f2 : FEntry} {p1 p2 : Option String} {rn : String} {e1 e2 : FEntry} :
      f1.hasSub = true → f2.hasSub = true → Adm s d f1.ssid p1 → Adm s d f2.ssid p2 →
      Coll s d p1 f1.sub rn e1 → Coll s d p2 f2.sub rn e2 →
      ConfH s d n (pme || exclusiveParents s f1 f2) e1 e2 → ConfH s d (n + 1) pme f1 f2
  | subSwap {n : Nat} {pme : Bool} {f1 f2 : FEntry} {p1 p2 : Option String} {rn : String} {e1 e2 : FEntry} :
      f1.hasSub = true → f2.hasSub = true → Adm s d f1.ssid p1 → Adm s d f2.ssid p2 →
      Coll s d p1 f1.sub rn e1 → Coll s d p2 f2.sub rn e2 →
      ConfH s d n (pme || exclusiveParents s f1 f2) e2 e1 → ConfH s d (n + 1) pme f1 f2

theorem conf_confH {s : SchemaD} {d : Doc} {pme : Bool} {f1 f2 : FEntry} (h : Conf s d pme f1 f2) :
    ∃ n, ConfH s d n pme f1 f2 := by
  induction h with
  | args h1 h2 => exact ⟨0, .args h1 h2⟩
  | types h1 h2 h3 => exact ⟨0, .types h1 h2 h3⟩
  | sub s1 s2 a1 a2 c1 c2 _ ih => obtain ⟨n, hn⟩ := ih; exact ⟨n + 1, .sub s1 s2 a1 a2 c1 c2 hn⟩
  | subSwap s1 s2 a1 a2 c1 c2 _ ih => obtain ⟨n, hn⟩ := ih; exact ⟨n + 1, .subSwap s1 s2 a1 a2 c1 c2 hn⟩

theorem ConfH.symm {s : SchemaD} {d : Doc} {n : Nat} {pme : Bool} {f1 f2 : FEntry} (h : ConfH s d n pme f1 f2) :
    ConfH s d n pme f2 f1 := by
  induction h with
  | args hme harg =>
    refine .args (by rw [exclusiveParents_symm]; exact hme) ?_
    rcases harg with h | h
    · exact Or.inl (fun e => h e.symm)
    · exact Or.inr (by rw [sameArguments_symm]; exact h)
  | types h1 h2 h3 => exact .types h2 h1 (by rw [typesConflict_symm]; exact h3)
  | sub s1 s2 a1 a2 c1 c2 _ ih => exact .sub s2 s1 a2 a1 c2 c1 (by rw [exclusiveParents_symm]; exact ih)
  | subSwap s1 s2 a1 a2 c1 c2 _ ih => exact .subSwap s2 s1 a2 a1 c2 c1 (by rw [exclusiveParents_symm]; exact ih)

/-- a conflict under "parents mutually exclusive" is a conflict without that assumption -/
theorem ConfH.relax {s : SchemaD} {d : Doc} {n : Nat} {a : Bool} {f1 f2 : FEntry} (h : ConfH s d n a f1 f2) :
    ∀ b : Bool, (b = true → a = true) → ConfH s d n b f1 f2 := by
  induction h with
  | @args n pme f1 f2 hme harg =>
    intro b hb
    refine .args ?_ harg
    cases b with
    | false => simpa using (by simpa using hme : pme = false ∧ exclusiveParents s f1 f2 = false).2
    | true => have := hb rfl; subst this; simp at hme
  | types h1 h2 h3 => intro b _; exact .types h1 h2 h3
  | @sub n pme f1 f2 p1 p2 rn e1 e2 s1 s2 a1 a2 c1 c2 _ ih =>
    intro b hb
    refine .sub s1 s2 a1 a2 c1 c2 (ih _ ?_)
    intro h
    cases b with
    | false => simp at h; simp [h]
    | true => simp [hb rfl]
  | @subSwap n pme f1 f2 p1 p2 rn e1 e2 s1 s2 a1 a2 c1 c2 _ ih =>
    intro b hb
    refine .subSwap s1 s2 a1 a2 c1 c2 (ih _ ?_)
    intro h
    cases b with
    | false => simp at h; simp [h]
    | true => simp [hb rfl]

/-- `Spec.CollF` with the length of the spread path from the fragment to the field as an index -/
inductive CollFH (s : SchemaD) (d : Doc) : Nat → String → String → FEntry → Prop where
  | here {k : Nat} {name on : String} {fid : Nat} {fsels : List Sel} {p : Option String} {rn : String} {e : FEntry} :
      AL.get? (fragTable d) name = some (on, fid, fsels) → Adm s d fid p → CollD s p fsels rn e → CollFH s d k name rn e
  | there {k : Nat} {name on g : String} {fid : Nat} {fsels : List Sel} {rn : String} {e : FEntry} :
      AL.get? (fragTable d) name = some (on, fid, fsels) → SpreadD fsels g → CollFH s d k g rn e →
      CollFH s d (k + 1) name rn e

theorem collF_collFH {s : SchemaD} {d : Doc} {g rn : String} {e : FEntry} (h : CollF s d g rn e) :
    ∃ k, CollFH s d k g rn e := by
  induction h with
  | here h1 h2 h3 => exact ⟨0, .here h1 h2 h3⟩
  | there h1 h2 _ ih => obtain ⟨k, hk⟩ := ih; exact ⟨k + 1, .there h1 h2 hk⟩

theorem collFH_collF {s : SchemaD} {d : Doc} {k : Nat} {g rn : String} {e : FEntry} (h : CollFH s d k g rn e) :
    CollF s d g rn e := by
  induction h with
  | here h1 h2 h3 => exact .here h1 h2 h3
  | there h1 h2 _ ih => exact .there h1 h2 ih

/-- a set of keys of the compared-pairs memo (`ctx.compared_fragment_pairs`) -/
abbrev Memo := String × String × Bool → Prop

/-- the key `_conflicts_between_fragments` files a pair of fragment names under -/
def keyOf (f1 f2 : String) (me : Bool) : String × String × Bool := ((sortedPair f1 f2).1, (sortedPair f1 f2).2, me)

/-- the pair of fragments needs no comparison, or is in the memo -/
def Cov (M : Memo) (me : Bool) (f1 f2 : String) : Prop := f1 = "" ∨ f2 = "" ∨ f1 = f2 ∨ M (keyOf f1 f2 me)

/-- `Cov` in one order or the other -/
def CovS (M : Memo) (me : Bool) (f1 f2 : String) : Prop := Cov M me f1 f2 ∨ Cov M me f2 f1

theorem CovS.symm {M : Memo} {me : Bool} {f1 f2 : String} (h : CovS M me f1 f2) : CovS M me f2 f1 := Or.symm h

/-- type of the sub-selection of a field, as `_find_conflict` passes it on -/
def FEntry.subParent (f : FEntry) : Option String := (f.fdef.map (·.type)).map (·.base)

/-- `_find_conflict` had nothing to report for the two fields -/
inductive Cert (s : SchemaD) (d : Doc) (M : Memo) : Bool → FEntry → FEntry → Prop where
  | mk {pme : Bool} {f1 f2 : FEntry} :
      ((pme || exclusiveParents s f1 f2) = false → f1.name = f2.name ∧ sameArguments f1.args f2.args = some true) →
      (∀ t1 t2, f1.fdef.map (·.type) = some t1 → f2.fdef.map (·.type) = some t2 → typesConflict s t1 t2 = false) →
      (f1.hasSub = true → f2.hasSub = true → ∀ rn e1 e2, CollD s f1.subParent f1.sub rn e1 →
        CollD s f2.subParent f2.sub rn e2 → Cert s d M (pme || exclusiveParents s f1 f2) e1 e2) →
      (f1.hasSub = true → f2.hasSub = true → ∀ g, SpreadD f2.sub g → ∀ rn e1 e2, CollD s f1.subParent f1.sub rn e1 →
        CollF s d g rn e2 → Cert s d M (pme || exclusiveParents s f1 f2) e1 e2) →
      (f1.hasSub = true → f2.hasSub = true → ∀ g, SpreadD f1.sub g → ∀ rn e1 e2, CollD s f2.subParent f2.sub rn e1 →
        CollF s d g rn e2 → Cert s d M (pme || exclusiveParents s f1 f2) e1 e2) →
      (f1.hasSub = true → f2.hasSub = true → ∀ g1 g2, SpreadD f1.sub g1 → SpreadD f2.sub g2 →
        Cov M (pme || exclusiveParents s f1 f2) g1 g2) →
      Cert s d M pme f1 f2

/-- direct fields / spreads of a fragment of the table -/
def DirF (s : SchemaD) (d : Doc) (g rn : String) (e : FEntry) : Prop :=
  ∃ on fid fsels p, AL.get? (fragTable d) g = some (on, fid, fsels) ∧ Adm s d fid p ∧ CollD s p fsels rn e
/-- fragment `g` of the table spreads `h` directly -/
def SprF (d : Doc) (g h : String) : Prop :=
  ∃ on fid fsels, AL.get? (fragTable d) g = some (on, fid, fsels) ∧ SpreadD fsels h

/-- what a key of the memo stands for (when both fragments are defined) -/
def KeyObl (s : SchemaD) (d : Doc) (M : Memo) (k : String × String × Bool) : Prop :=
  (AL.get? (fragTable d) k.1).isSome = true → (AL.get? (fragTable d) k.2.1).isSome = true →
  (∀ rn e1 e2, DirF s d k.1 rn e1 → DirF s d k.2.1 rn e2 → Cert s d M k.2.2 e1 e2 ∨ Cert s d M k.2.2 e2 e1) ∧
  (∀ h, SprF d k.1 h → CovS M k.2.2 h k.2.1) ∧
  (∀ h, SprF d k.2.1 h → CovS M k.2.2 k.1 h)

/-! ### the pairs memo, for any certificate predicate

What the chase through the compared-pairs memo and the steps of the search that fill it use of a certificate is only that it
is SOME predicate `C` on pairs of fields, and of the memo only which pair keys it holds (`P`).  `Cov`, `CovS`, `KeyObl` above
and their memoised twins (`CovM`, `CovSM`, `KeyOblM`, `Lemmas/ValidateOverlapMCert.lean`) are these notions at
`P := M`, `C := Cert s d M` and at `P := fun k => M (.inl k)`, `C := CertM s d M`, by unfolding. -/

/-- `Cov` / `CovS` / `KeyObl` with the set of pair keys `P` and the certificate `C` as parameters -/
def CovOf (P : String × String × Bool → Prop) (me : Bool) (f1 f2 : String) : Prop := f1 = "" ∨ f2 = "" ∨ f1 = f2 ∨ P (keyOf f1 f2 me)
def CovSOf (P : String × String × Bool → Prop) (me : Bool) (f1 f2 : String) : Prop := CovOf P me f1 f2 ∨ CovOf P me f2 f1

def KeyOblOf (s : SchemaD) (d : Doc) (P : String × String × Bool → Prop) (C : Bool → FEntry → FEntry → Prop)
    (k : String × String × Bool) : Prop :=
  (AL.get? (fragTable d) k.1).isSome = true → (AL.get? (fragTable d) k.2.1).isSome = true →
  (∀ rn e1 e2, DirF s d k.1 rn e1 → DirF s d k.2.1 rn e2 → C k.2.2 e1 e2 ∨ C k.2.2 e2 e1) ∧
  (∀ h, SprF d k.1 h → CovSOf P k.2.2 h k.2.1) ∧
  (∀ h, SprF d k.2.1 h → CovSOf P k.2.2 k.1 h)

/-- a pair of fields with a certificate `C` has no conflict of height `n` -/
def LvAOf (s : SchemaD) (d : Doc) (C : Bool → FEntry → FEntry → Prop) (n : Nat) : Prop :=
  ∀ me e1 e2, Ent s d e1 → Ent s d e2 → C me e1 e2 → ¬ ConfH s d n me e1 e2

/-- covered fragment pairs, paths of lengths `k1`, `k2` into them: no conflicting fields of height `n` -/
def ChPOf (s : SchemaD) (d : Doc) (P : String × String × Bool → Prop) (n k1 k2 : Nat) : Prop :=
  ∀ g1 g2 me rn e1 e2, CovSOf P me g1 g2 → CollFH s d k1 g1 rn e1 → CollFH s d k2 g2 rn e2 → ¬ ConfH s d n me e1 e2

/-- what the visit of one selection set of the document has established -/
structure WithinCert (s : SchemaD) (d : Doc) (M : Memo) (p : Option String) (sels : List Sel) : Prop where
  direct : ∀ rn e1 e2, CollD s p sels rn e1 → CollD s p sels rn e2 → e1 ≠ e2 →
    Cert s d M false e1 e2 ∨ Cert s d M false e2 e1
  frag : ∀ g, SpreadD sels g → ∀ rn e1 e2, CollD s p sels rn e1 → CollF s d g rn e2 → Cert s d M false e1 e2
  frags : ∀ g1 g2, SpreadD sels g1 → SpreadD sels g2 → CovS M false g1 g2

end PyGql.Validate
