/-
  `OverlappingFieldsCanBeMergedChecker`, soundness half with fragment spreads: `find_conflicts_within_selection_set`
  leaves a `WithinCert` for the selection set (`within_post`), and the walk of the rule run alone: a run that ends without
  a crash and without an error leaves a CLOSED memo and a certificate for every selection set of the document
  (`ov_document_certs`) - hence the clause: `clause_of_certs` with fragment spreads, `clause_of_certs_noSpreads` without
  (no side condition on fragments is left).
-/
import PyGqlModel.Lemmas.ValidateOverlapPostSteps
namespace PyGql.Validate
open PyGql PyGql.Validate.Spec

theorem within_post (s : SchemaD) (fx : Fixes) (d : Doc) (h7 : fx.v7 = true) (hpa : ParentsAgree s d)
    (hsub : SubsApart s d)
    (p : Option String) (i : Nat) (sels : List Sel) (c : OCtx) (hc : CI s d c) (h1 : SelSet d i sels) (h2 : Adm s d i p)
    (hap : ∀ g, SpreadD sels g → Apart d i g) (hcr : (withinSelectionSet s fx p i sels c).2.crash = none) :
    GPp s d c (withinSelectionSet s fx p i sels c) (fun M => WithinCert s d M p sels) := by
  rw [withinSelectionSet_eq] at hcr ⊢
  obtain ⟨sf, _, sff, sfr, _⟩ := searchG_sound s fx false d h7 overlapFuel
  obtain ⟨ef, _, efr, _, eff⟩ := post_names s fx d h7 hpa hsub overlapFuel
  obtain ⟨_, _, _, _, kff⟩ := framesG s fx false h7 overlapFuel
  revert hcr
  refine withinSelectionSetG_cases s fx false (motive := fun r => r.2.crash = none →
    GPp s d c r (fun M => WithinCert s d M p sels)) overlapFuel p i sels c ?_
  intro a ca r0 r1 r2 ha e0 e1 e2 hcr
  obtain ⟨x1, x2, _⟩ := ff_set s d hc h1 h2
  obtain ⟨p', xa, xe⟩ := ff_eq s d p i sels c hc.cache h2
  have xs := fun g => ff_spreads_complete s p i sels c g
  obtain ⟨_, xsnd, _, _⟩ := fieldsAndFragments_sound s d p i sels c hc.cache h2
  obtain ⟨cha, hca⟩ := fieldsAndFragments_ctx s p i sels c
  simp only [ha] at x1 x2 xe xs xsnd hca
  have e' : p' = p := hpa _ _ _ xa h2
  subst e'
  have ent : ∀ q ∈ a.1, ∀ y ∈ pairsOf q.2, Ent s d y.1 ∧ Ent s d y.2 := fun q hq y hy =>
    ⟨x2 q hq _ (mem_pairsOf hy).1, x2 q hq _ (mem_pairsOf hy).2⟩
  -- a sane context along the way
  have ci0 : CI s d r0.2 := e0 ▸ sumLoop_keeps a.1 _ (CI s d) (fun q hq c hc => sumLoop_keeps (pairsOf q.2) _ (CI s d)
    (fun y hy c hc => (sf false y.1 y.2 c hc (ent q hq y hy).1 (ent q hq y hy).2).1) c hc) ca x1
  have ci1 : CI s d r1.2 := e1 ▸ (withFreshCmp_spec s d _ True (fun c hc => ⟨sumLoop_keeps a.2 _ (CI s d)
    (fun g _ c hc => (sff false i a.1 g c hc x2).1) c hc, fun _ => trivial⟩) _ ci0).1
  -- phase 3: pairs of fragments
  have g2 : GPp s d r1.2 r2 (fun M => ∀ y ∈ pairsOf a.2, Cov M false y.1 y.2) := e2 ▸ sumLoop_gp (pairsOf a.2) _ (CI s d) _
    (fun y _ c hc => ⟨(sfr false y.1 y.2 c hc).1, fun h => efr false y.1 y.2 c hc h⟩) _ ci1 (e2 ▸ hcr)
  -- phase 2: fields against fragments, one traversal
  have hcr1 : r1.2.crash = none := g2.crash
  rw [e1] at hcr1
  obtain ⟨lx, _, gl⟩ := sumLoop_names a.2 (fun g c => betweenFieldsAndFragmentG s fx false overlapFuel false i a.1 g c)
    (CI s d) (fun M CF n => NameObl s d M false a.1 CF n)
    (fun g hg c hc => ⟨(sff false i a.1 g c hc x2).1, (kff false i a.1 g c).cmp,
      fun h => eff false i a.1 g c hc x2 (hap g (xsnd g hg)) h⟩)
    { r0.2 with cmp := [] } (ci0.cmp _) hcr1
  have g1 : GPp s d r0.2 r1 (fun M => ∀ g ∈ a.2, ∀ rn e1 e2, e1 ∈ AL.getD a.1 rn [] → CollF s d g rn e2 →
      Cert s d M false e1 e2) := by
    rw [e1]
    refine ((gl.pre (c := r0.2) rfl (fun k hk => hk) (fun _ M _ _ k hk => Or.inl hk)).post
      (c' := { (sumLoop a.2 (fun g c => betweenFieldsAndFragmentG s fx false overlapFuel false i a.1 g c)
        { r0.2 with cmp := [] }).2 with cmp := r0.2.cmp }) rfl).imp (fun M _ r g hg rn e1 e2 m1 hcf => ?_)
    obtain ⟨k, hk⟩ := collF_collFH hcf
    refine names_closed_cert (fun n hn => ?_) (lx g hg) hk e1 m1
    rcases r _ (fun _ h => h) n hn with h | h
    · cases h
    · exact h
  -- phase 1: the fields of the set, pairwise
  have g0 : GPp s d ca r0 (fun M => ∀ q ∈ a.1, ∀ y ∈ pairsOf q.2, Cert s d M false y.1 y.2) := e0 ▸ sumLoop_gp a.1 _ (CI s d) _
    (fun q hq c hc => ⟨sumLoop_keeps (pairsOf q.2) _ (CI s d)
        (fun y hy c hc => (sf false y.1 y.2 c hc (ent q hq y hy).1 (ent q hq y hy).2).1) c hc,
      fun h => sumLoop_gp (pairsOf q.2) _ (CI s d) (fun y M => Cert s d M false y.1 y.2) (fun y hy c hc =>
        ⟨(sf false y.1 y.2 c hc (ent q hq y hy).1 (ent q hq y hy).2).1,
         fun h => ef false y.1 y.2 c hc (ent q hq y hy).1 (ent q hq y hy).2 h⟩) c hc h⟩)
    ca x1 (e0 ▸ g1.crash)
  have hpc : ca.pairs = c.pairs := by rw [hca]
  refine (((g0.seq g1).seq g2).pre (c := c) (by rw [hca]) (fun k hk => by rw [hpc]; exact hk)
    (fun _ M _ _ k hk => Or.inl (by rw [hpc] at hk; exact hk))).imp (fun M _ r => ?_)
  obtain ⟨⟨r0', r1'⟩, r2'⟩ := r
  have cm : ∀ rn e, CollD s p' sels rn e → e ∈ AL.getD a.1 rn [] := fun rn e h => by
    rw [xe]; exact collectSels_complete s _ sels ([], []) rn e (Or.inr h)
  refine ⟨fun rn e1 e2 h1 h2 hne => ?_, fun g hg rn e1 e2 h1 h2 => r1' g (xs g hg) rn e1 e2 (cm rn e1 h1) h2,
    fun g1 g2 hg1 hg2 => ?_⟩
  · have m1 := cm rn e1 h1
    have m2 := cm rn e2 h2
    rcases AL.getD_cases a.1 rn [] with e | e
    · rw [e] at m1; cases m1
    · rcases mem_pairsOf_or m1 m2 with h | h | h
      · exact Or.inl (r0' _ e _ h)
      · exact Or.inr (r0' _ e _ h)
      · exact absurd h hne
  · rcases mem_pairsOf_or (xs g1 hg1) (xs g2 hg2) with h | h | h
    · exact Or.inl (r2' _ h)
    · exact Or.inr (r2' _ h)
    · exact Or.inl (Or.inr (Or.inr (Or.inl h)))

/-- the exception flag of the rule state after a selection set: set when the search crashed, else unchanged -/
theorem ov_enter_sel_crash (s : SchemaD) (fx : Fixes) (i : Nat) (sels : List Sel) (ti : TI) (rs : RS) :
    ((enterRule s fx .overlappingFieldsCanBeMerged (.selectionSet i sels) ti rs).1.crash = none →
      (withinSelectionSet s fx ti.parentType i sels rs.octx).2.crash = none ∧ rs.crash = none) ∧
    ((withinSelectionSet s fx ti.parentType i sels rs.octx).2.crash.isSome = true →
      (enterRule s fx .overlappingFieldsCanBeMerged (.selectionSet i sels) ti rs).1.crash.isSome = true) := by
  dsimp only [enterRule]
  cases hcr : (withinSelectionSet s fx ti.parentType i sels rs.octx).2.crash with
  | none => simp [RS.errN]
  | some e => simp [RS.errN]

/-- sane search context; a crash of the search is recorded in the rule state -/
def OInv (s : SchemaD) (d : Doc) (st : St) : Prop :=
  CI s d st.rs.octx ∧ (st.rs.octx.crash.isSome = true → st.rs.crash.isSome = true)

/-- at a selection-set node: the `WithinCert` of the set under the parent type of its static context -/
def WCertAt (s : SchemaD) (d : Doc) (M : Memo) (q : Node × View) : Prop :=
  match q.1 with
  | .selectionSet _ sels => WithinCert s d M q.2.parent sels
  | _ => True

/-- what a stretch of the walk establishes (the part about the rule state) -/
def OGp (s : SchemaD) (d : Doc) (l : List (Node × View)) (st st' : St) : Prop :=
  OInv s d st → OInv s d st' ∧ E st ≤ E st' ∧
    (st'.rs.crash = none → st.rs.crash = none ∧ (∀ k ∈ st.rs.octx.pairs, k ∈ st'.rs.octx.pairs) ∧
      (E st' = E st → ∀ M, Sup st'.rs.octx M →
        (∀ k ∈ st'.rs.octx.pairs, k ∈ st.rs.octx.pairs ∨ KeyObl s d M k) ∧ ∀ q ∈ l, WCertAt s d M q))

theorem OGp.refl (s : SchemaD) (d : Doc) (st : St) : OGp s d [] st st :=
  fun hi => ⟨hi, Nat.le_refl _, fun h => ⟨h, fun _ hk => hk, fun _ _ _ => ⟨fun _ hk => Or.inl hk, fun _ hq => nomatch hq⟩⟩⟩

theorem OGp.seq {s : SchemaD} {d : Doc} {a b : List (Node × View)} {s1 s2 s3 : St} (h1 : OGp s d a s1 s2)
    (h2 : OGp s d b s2 s3) : OGp s d (a ++ b) s1 s3 := by
  intro hi
  obtain ⟨i2, m2, k2⟩ := h1 hi
  obtain ⟨i3, m3, k3⟩ := h2 i2
  refine ⟨i3, Nat.le_trans m2 m3, fun hcr => ?_⟩
  obtain ⟨c2, p3, g3⟩ := k3 hcr
  obtain ⟨c1, p2, g2⟩ := k2 c2
  refine ⟨c1, fun k hk => p3 k (p2 k hk), fun he M hM => ?_⟩
  obtain ⟨x1, x2⟩ := g3 (by omega) M hM
  obtain ⟨y1, y2⟩ := g2 (by omega) M (fun k hk => hM k (p3 k hk))
  refine ⟨fun k hk => ?_, fun q hq => ?_⟩
  · rcases x1 k hk with h | h
    · exact y1 k h
    · exact Or.inr h
  · rcases List.mem_append.mp hq with hq | hq
    · exact y2 q hq
    · exact x2 q hq

theorem OGp.congr_right {s : SchemaD} {d : Doc} {l : List (Node × View)} {s1 s2 s2' : St} (h : OGp s d l s1 s2)
    (hrs : s2'.rs = s2.rs) : OGp s d l s1 s2' := by
  intro hi
  obtain ⟨i2, m2, k2⟩ := h hi
  refine ⟨?_, ?_, ?_⟩
  · unfold OInv at i2 ⊢; rw [hrs]; exact i2
  · unfold E at m2 ⊢; rw [hrs]; exact m2
  · rw [hrs]; unfold E at k2 ⊢; rw [hrs]; exact k2

/-- what a visit of the rule alone establishes: balanced stacks, and `OGp` when the pairs visited are typed nodes of the document -/
def OG (s : SchemaD) (d : Doc) (l : List (Node × View)) (st st' : St) : Prop :=
  st'.ti = st.ti ∧ ((∀ p ∈ l, p ∈ typedNodes s d) → OGp s d l st st')

theorem og_alg (s : SchemaD) (fx : Fixes) (d : Doc) (h7 : fx.v7 = true) (hpa : ParentsAgree s d)
    (hsub : SubsApart s d) (hAp : ∀ i sels, SelSet d i sels → ∀ g, SpreadD sels g → Apart d i g) :
    TAlg ⟨s, fx, [.overlappingFieldsCanBeMerged]⟩ (OG s d) where
  ti h := h.1
  nil st := ⟨rfl, fun _ => OGp.refl s d st⟩
  append h1 h2 := ⟨h2.1.trans h1.1, fun hm =>
    (h1.2 (fun p hp => hm p (List.mem_append_left _ hp))).seq (h2.2 (fun p hp => hm p (List.mem_append_right _ hp)))⟩
  node n body l st hn hd hb := by
    rw [visitNode_ov]
    obtain ⟨b1, b2⟩ := hb (ovEntered s fx n st) rfl
    refine ⟨?_, fun hm => ?_⟩
    · show tiLeave n (body _).ti = st.ti
      rw [b1]
      exact tiLeave_tiEnter _ _ _ hd
    · have hmem : (n, View.enter s n st.ti.view) ∈ typedNodes s d := hm _ (List.mem_cons_self ..)
      have hstep : OGp s d [(n, View.enter s n st.ti.view)] st (ovEntered s fx n st) := by
        unfold ovEntered
        intro hi
        simp only [E]
        by_cases hs : n.isSelSet = true
        · cases n with
          | selectionSet i sels =>
            obtain ⟨k1, k2⟩ := ov_enter_sel s fx i sels (tiEnter s (.selectionSet i sels) st.ti) st.rs
            obtain ⟨k3, k4⟩ := ov_enter_sel_crash s fx i sels (tiEnter s (.selectionSet i sels) st.ti) st.rs
            obtain ⟨hpar, hadm⟩ := ov_sel_adm hmem
            have hsel := selSet_of_typed hmem
            obtain ⟨w1, _⟩ := within_sound s fx d h7 _ i sels st.rs.octx hi.1 hsel hadm
            refine ⟨⟨by rw [k1]; exact w1, by rw [k1]; exact k4⟩, by rw [k2]; omega, fun hcr => ?_⟩
            obtain ⟨c1, c2⟩ := k3 hcr
            have g := within_post s fx d h7 hpa hsub _ i sels st.rs.octx hi.1 hsel hadm (hAp i sels hsel) c1
            refine ⟨c2, fun k hk => by rw [k1]; exact g.mono k hk, fun he M hM => ?_⟩
            obtain ⟨r1, r2⟩ := g.res (by rw [k2] at he; omega) M (by rw [k1] at hM; exact hM)
            refine ⟨fun k hk => r1 k (by rw [k1] at hk; exact hk), fun q hq => ?_⟩
            simp only [List.mem_singleton] at hq
            subst hq
            simp only [WCertAt]
            rw [← hpar]; exact r2
          | _ => cases hs
        · rw [ov_enter_other s fx n _ _ hn (by simpa using hs)]
          refine ⟨hi, Nat.le_refl _, fun h => ⟨h, fun _ hk => hk, fun _ M _ => ⟨fun k hk => Or.inl hk, fun q hq => ?_⟩⟩⟩
          simp only [List.mem_singleton] at hq
          subst hq
          cases n <;> first | trivial | (simp at hs)
      have hbody := b2 (fun p hp => hm p (List.mem_cons_of_mem _ hp))
      exact (hstep.seq hbody).congr_right rfl

/-- a run of the rule alone that ends without an error and without a crash leaves a memo whose keys are closed and a
    certificate for every selection set of the document -/
theorem ov_document_certs (s : SchemaD) (fx : Fixes) (d : Doc) (h7 : fx.v7 = true) (hpa : ParentsAgree s d)
    (hsub : SubsApart s d) (hAp : ∀ i sels, SelSet d i sels → ∀ g, SpreadD sels g → Apart d i g)
    (hE : E (visitDocument ⟨s, fx, [.overlappingFieldsCanBeMerged]⟩ d {}) = 0)
    (hC : (visitDocument ⟨s, fx, [.overlappingFieldsCanBeMerged]⟩ d {}).rs.crash = none) :
    ∃ M : Memo, (∀ k, M k → KeyObl s d M k) ∧ ∀ i sels, SelSet d i sels → ∀ p, Adm s d i p → WithinCert s d M p sels := by
  unfold E at hE
  rw [visitDocument_ov] at hE hC
  obtain ⟨_, _, k⟩ := (visitDefsR (og_alg s fx d h7 hpa hsub hAp) d.defs (ovStart d) rfl).2 (fun p hp => hp)
    ⟨⟨rfl, fun _ h => nomatch h⟩, fun h => by cases h⟩
  obtain ⟨_, _, g⟩ := k hC
  generalize (d.defs.foldl (fun st x => visitDef ⟨s, fx, [.overlappingFieldsCanBeMerged]⟩ x st) (ovStart d)) = fin at hE hC g
  obtain ⟨hkeys, hall⟩ := g hE (fun k => k ∈ fin.rs.octx.pairs) (fun k hk => hk)
  refine ⟨fun k => k ∈ fin.rs.octx.pairs, fun k hk => ?_, fun i sels hs p ha => ?_⟩
  · rcases hkeys k hk with h | h
    · cases h
    · exact h
  · obtain ⟨v, hq⟩ := selSet_typed (s := s) hs
    have := hall _ hq
    simp only [WCertAt] at this
    rw [hpa _ _ _ ha (Adm.walk hq)]
    exact this

/-- **soundness**: a run of the rule alone that ends without an error and without a crash establishes the clause -/
theorem ov_document_sound (s : SchemaD) (fx : Fixes) (d : Doc) (h7 : fx.v7 = true) (hpa : ParentsAgree s d)
    (hne : AL.get? (fragTable d) "" = none)
    (hnb : ∀ e, Ent s d e → e.hasSub = true → NotBody d e.ssid)
    (hAp : ∀ i sels, SelSet d i sels → ∀ g, SpreadD sels g → Apart d i g)
    (hE : E (visitDocument ⟨s, fx, [.overlappingFieldsCanBeMerged]⟩ d {}) = 0)
    (hC : (visitDocument ⟨s, fx, [.overlappingFieldsCanBeMerged]⟩ d {}).rs.crash = none) :
    Spec.overlappingFieldsCanBeMerged s d := by
  obtain ⟨M, hK, hW⟩ := ov_document_certs s fx d h7 hpa (subsApart_of_notBody hnb) hAp hE hC
  exact clause_of_certs hpa hne hK hW

/-- **soundness on documents without fragment spreads**: nothing is spread, so no side condition on fragments is left -/
theorem ov_document_sound_sf (s : SchemaD) (fx : Fixes) (d : Doc) (h7 : fx.v7 = true) (hns : NoSpreads d)
    (hpa : ParentsAgree s d)
    (hE : E (visitDocument ⟨s, fx, [.overlappingFieldsCanBeMerged]⟩ d {}) = 0)
    (hC : (visitDocument ⟨s, fx, [.overlappingFieldsCanBeMerged]⟩ d {}).rs.crash = none) :
    Spec.overlappingFieldsCanBeMerged s d := by
  obtain ⟨M, _, hW⟩ := ov_document_certs s fx d h7 hpa (subsApart_of_noSpreads hns)
    (fun i sels hs g sp => absurd sp (noSpread_of_selSet hns hs g)) hE hC
  exact clause_of_certs_noSpreads hpa hW hns

end PyGql.Validate
