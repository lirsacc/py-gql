/-
  Contexts can be projected: if `φ` commutes with the two `down` functions, the context enumeration of the
  projected contexts is the projection of the enumeration (used to go from the full stacks of `TypeInfoVisitor`
  to the static views of the specification). Forgetting the contexts altogether gives the plain node lists (`gnSel_fst`).
-/
import PyGqlModel.Spec.CtxNodes
namespace PyGql.Validate.Spec
open PyGql PyGql.Validate

section
variable {X Y : Type} (φ : X → Y) (down : Node → X → X) (down' : Node → Y → Y)

def pmap (l : List (Node × X)) : List (Node × Y) := l.map fun p => (p.1, φ p.2)

theorem pmap_cons (p : Node × X) (l : List (Node × X)) : pmap φ (p :: l) = (p.1, φ p.2) :: pmap φ l := rfl
theorem pmap_append (a b : List (Node × X)) : pmap φ (a ++ b) = pmap φ a ++ pmap φ b := by simp [pmap]
theorem pmap_nil : pmap φ ([] : List (Node × X)) = [] := rfl


mutual
theorem gnValue_map (hφ : ∀ n x, φ (down n x) = down' n (φ x)) : ∀ (v : Value) (x : X), pmap φ (gnValue down x v) = gnValue down' (φ x) v
  | .list vs, x => by simp only [gnValue, pmap_cons, gnValues_map hφ vs, hφ]
  | .obj fs, x => by simp only [gnValue, pmap_cons, gnObjFields_map hφ fs, hφ]
  | .var a, x => by simp only [gnValue, pmap_cons, pmap_nil, hφ]
  | .int a, x => by simp only [gnValue, pmap_cons, pmap_nil, hφ]
  | .float a, x => by simp only [gnValue, pmap_cons, pmap_nil, hφ]
  | .str a, x => by simp only [gnValue, pmap_cons, pmap_nil, hφ]
  | .bool a, x => by simp only [gnValue, pmap_cons, pmap_nil, hφ]
  | .null, x => by simp only [gnValue, pmap_cons, pmap_nil, hφ]
  | .enum a, x => by simp only [gnValue, pmap_cons, pmap_nil, hφ]
theorem gnValues_map (hφ : ∀ n x, φ (down n x) = down' n (φ x)) : ∀ (vs : List Value) (x : X), pmap φ (gnValues down x vs) = gnValues down' (φ x) vs
  | [], x => by simp only [gnValues, pmap_nil]
  | v :: vs, x => by simp only [gnValues, pmap_append, gnValue_map hφ v, gnValues_map hφ vs]
theorem gnObjField_map (hφ : ∀ n x, φ (down n x) = down' n (φ x)) : ∀ (f : ObjField) (x : X), pmap φ (gnObjField down x f) = gnObjField down' (φ x) f
  | .mk n v, x => by simp only [gnObjField, pmap_cons, gnValue_map hφ v, hφ]
theorem gnObjFields_map (hφ : ∀ n x, φ (down n x) = down' n (φ x)) : ∀ (fs : List ObjField) (x : X), pmap φ (gnObjFields down x fs) = gnObjFields down' (φ x) fs
  | [], x => by simp only [gnObjFields, pmap_nil]
  | f :: fs, x => by simp only [gnObjFields, pmap_append, gnObjField_map hφ f, gnObjFields_map hφ fs]
end

theorem flatMap_map {α} (ln : X → α → List (Node × X)) (ln' : Y → α → List (Node × Y))
    (h : ∀ a x, pmap φ (ln x a) = ln' (φ x) a) (as : List α) (x : X) :
    pmap φ (as.flatMap (ln x)) = as.flatMap (ln' (φ x)) := by
  induction as with
  | nil => rfl
  | cons a as ih => rw [List.flatMap_cons, List.flatMap_cons, pmap_append, h, ih]

theorem gnArg_map (hφ : ∀ n x, φ (down n x) = down' n (φ x)) (a : Arg) (x : X) : pmap φ (gnArg down x a) = gnArg down' (φ x) a := by
  rw [gnArg, gnArg, pmap_cons, gnValue_map φ down down' hφ, hφ]
theorem gnArgs_map (hφ : ∀ n x, φ (down n x) = down' n (φ x)) (as : List Arg) (x : X) : pmap φ (gnArgs down x as) = gnArgs down' (φ x) as :=
  flatMap_map φ _ _ (fun a x => gnArg_map φ down down' hφ a x) as x
theorem gnDir_map (hφ : ∀ n x, φ (down n x) = down' n (φ x)) (d : Dir) (x : X) : pmap φ (gnDir down x d) = gnDir down' (φ x) d := by
  rw [gnDir, gnDir, pmap_cons, gnArgs_map φ down down' hφ, hφ]
theorem gnDirs_map (hφ : ∀ n x, φ (down n x) = down' n (φ x)) (ds : List Dir) (x : X) : pmap φ (gnDirs down x ds) = gnDirs down' (φ x) ds :=
  flatMap_map φ _ _ (fun a x => gnDir_map φ down down' hφ a x) ds x

mutual
theorem gnSel_map (hφ : ∀ n x, φ (down n x) = down' n (φ x)) : ∀ (s : Sel) (x : X), pmap φ (gnSel down x s) = gnSel down' (φ x) s
  | .field al name args dirs true id sub, x => by
    rw [gnSel, gnSel]
    simp only [↓reduceIte, pmap_cons, pmap_append, gnArgs_map φ down down' hφ, gnDirs_map φ down down' hφ, hφ,
      gnSels_map hφ sub]
  | .field al name args dirs false id sub, x => by
    rw [gnSel, gnSel]
    simp only [Bool.false_eq_true, ↓reduceIte, pmap_cons, pmap_append, pmap_nil, gnArgs_map φ down down' hφ,
      gnDirs_map φ down down' hφ, hφ]
  | .spread name dirs, x => by
    rw [gnSel, gnSel, pmap_cons, gnDirs_map φ down down' hφ, hφ]
  | .inline on dirs id sub, x => by
    rw [gnSel, gnSel]
    simp only [pmap_cons, pmap_append, gnDirs_map φ down down' hφ, hφ, gnSels_map hφ sub]
theorem gnSels_map (hφ : ∀ n x, φ (down n x) = down' n (φ x)) : ∀ (ss : List Sel) (x : X), pmap φ (gnSels down x ss) = gnSels down' (φ x) ss
  | [], x => by rw [gnSels, gnSels, pmap_nil]
  | s :: ss, x => by rw [gnSels, gnSels, pmap_append, gnSel_map hφ s, gnSels_map hφ ss]
end

theorem gnVarDef_map (hφ : ∀ n x, φ (down n x) = down' n (φ x)) (v : VarDef) (x : X) : pmap φ (gnVarDef down x v) = gnVarDef down' (φ x) v := by
  rw [gnVarDef, gnVarDef, pmap_cons, pmap_append, pmap_cons, gnDirs_map φ down down' hφ, hφ, hφ]
  cases v.default with
  | none => simp [pmap, hφ]
  | some dv => simp only [gnValue_map φ down down' hφ, hφ]

theorem gnDef_map (hφ : ∀ n x, φ (down n x) = down' n (φ x)) (d : Def) (x : X) : pmap φ (gnDef down x d) = gnDef down' (φ x) d := by
  cases d with
  | op kind name vars dirs id sels =>
    simp only [gnDef, pmap_cons, pmap_append, hφ, gnDirs_map φ down down' hφ, gnSels_map φ down down' hφ,
      flatMap_map φ _ _ (fun a x => gnVarDef_map φ down down' hφ a x)]
  | frag name on dirs id sels =>
    simp only [gnDef, pmap_cons, pmap_append, hφ, gnDirs_map φ down down' hφ, gnSels_map φ down down' hφ]
  | ts a b => simp [gnDef, pmap, hφ]

theorem gnDoc_map (hφ : ∀ n x, φ (down n x) = down' n (φ x)) (d : Doc) (x : X) : pmap φ (gnDoc down x d) = gnDoc down' (φ x) d :=
  flatMap_map φ _ _ (fun a x => gnDef_map φ down down' hφ a x) d.defs x

theorem forall_gnDoc_map (hφ : ∀ n x, φ (down n x) = down' n (φ x)) (d : Doc) (x : X) (P : Node × Y → Prop) :
    (∀ q ∈ gnDoc down' (φ x) d, P q) ↔ (∀ p ∈ gnDoc down x d, P (p.1, φ p.2)) := by
  rw [← gnDoc_map φ down down' hφ d x]
  constructor
  · intro h p hp
    exact h _ (List.mem_map_of_mem hp)
  · intro h q hq
    obtain ⟨p, hp, rfl⟩ := List.mem_map.mp hq
    exact h p hp

end

/-! the nodes of a sub-tree (`Spec.selNodes`, ...) are the first components of its (node, context) pairs, whatever the
    contexts -/
section
variable {X : Type} (down : Node → X → X)

mutual
theorem gnValue_fst : ∀ (v : Value) (x : X), (gnValue down x v).map (·.1) = valueNodes v
  | .list vs, x => by simp only [gnValue, valueNodes, List.map_cons, gnValues_fst vs]
  | .obj fs, x => by simp only [gnValue, valueNodes, List.map_cons, gnObjFields_fst fs]
  | .var a, x => by simp only [gnValue, valueNodes, List.map_cons, List.map_nil]
  | .int a, x => by simp only [gnValue, valueNodes, List.map_cons, List.map_nil]
  | .float a, x => by simp only [gnValue, valueNodes, List.map_cons, List.map_nil]
  | .str a, x => by simp only [gnValue, valueNodes, List.map_cons, List.map_nil]
  | .bool a, x => by simp only [gnValue, valueNodes, List.map_cons, List.map_nil]
  | .null, x => by simp only [gnValue, valueNodes, List.map_cons, List.map_nil]
  | .enum a, x => by simp only [gnValue, valueNodes, List.map_cons, List.map_nil]
theorem gnValues_fst : ∀ (vs : List Value) (x : X), (gnValues down x vs).map (·.1) = valuesNodes vs
  | [], x => by simp only [gnValues, valuesNodes, List.map_nil]
  | v :: vs, x => by simp only [gnValues, valuesNodes, List.map_append, gnValue_fst v, gnValues_fst vs]
theorem gnObjField_fst : ∀ (f : ObjField) (x : X), (gnObjField down x f).map (·.1) = objFieldNodes f
  | .mk n v, x => by simp only [gnObjField, objFieldNodes, List.map_cons, gnValue_fst v]
theorem gnObjFields_fst : ∀ (fs : List ObjField) (x : X), (gnObjFields down x fs).map (·.1) = objFieldsNodes fs
  | [], x => by simp only [gnObjFields, objFieldsNodes, List.map_nil]
  | f :: fs, x => by simp only [gnObjFields, objFieldsNodes, List.map_append, gnObjField_fst f, gnObjFields_fst fs]
end

theorem gnArgs_fst (as : List Arg) (x : X) : (gnArgs down x as).map (·.1) = argsNodes as := by
  simp only [gnArgs, argsNodes, List.map_flatMap]
  congr 1
  funext a
  simp only [gnArg, argNodes, List.map_cons, gnValue_fst]

theorem gnDirs_fst (ds : List Dir) (x : X) : (gnDirs down x ds).map (·.1) = dirsNodes ds := by
  simp only [gnDirs, dirsNodes, List.map_flatMap]
  congr 1
  funext d
  simp only [gnDir, dirNodes, List.map_cons, gnArgs_fst]

mutual
theorem gnSel_fst : ∀ (s : Sel) (x : X), (gnSel down x s).map (·.1) = selNodes s
  | .field al name args dirs true id sub, x => by
    simp only [gnSel, selNodes, ↓reduceIte, List.map_cons, List.map_append, gnArgs_fst, gnDirs_fst, gnSels_fst sub]
  | .field al name args dirs false id sub, x => by
    simp only [gnSel, selNodes, Bool.false_eq_true, ↓reduceIte, List.map_cons, List.map_append, gnArgs_fst, gnDirs_fst, List.map_nil]
  | .spread name dirs, x => by simp only [gnSel, selNodes, List.map_cons, gnDirs_fst]
  | .inline on dirs id sub, x => by
    simp only [gnSel, selNodes, List.map_cons, List.map_append, gnDirs_fst, gnSels_fst sub]
theorem gnSels_fst : ∀ (ss : List Sel) (x : X), (gnSels down x ss).map (·.1) = selsNodes ss
  | [], x => by simp only [gnSels, selsNodes, List.map_nil]
  | s :: ss, x => by simp only [gnSels, selsNodes, List.map_append, gnSel_fst s, gnSels_fst ss]
end

theorem gnVarDef_fst (v : VarDef) (x : X) : (gnVarDef down x v).map (·.1) = varDefNodes v := by
  simp only [gnVarDef, varDefNodes, List.map_cons, List.map_append, gnDirs_fst]
  cases v.default with
  | none => rfl
  | some dv => simp only [gnValue_fst]

theorem gnDef_fst (d : Def) (x : X) : (gnDef down x d).map (·.1) = defNodes d := by
  cases d with
  | op kind name vars dirs id sels =>
    simp only [gnDef, defNodes, List.map_cons, List.map_append, List.map_flatMap, gnDirs_fst, gnSels_fst]
    congr 3
    exact congrArg (List.flatMap · vars) (funext fun v => gnVarDef_fst down v _)
  | frag name on dirs id sels => simp only [gnDef, defNodes, List.map_cons, List.map_append, gnDirs_fst, gnSels_fst]
  | ts a b => rfl

theorem gnDoc_fst (d : Doc) (x : X) : (gnDoc down x d).map (·.1) = d.defs.flatMap defNodes := by
  simp only [gnDoc, List.map_flatMap]
  exact congrArg (List.flatMap · d.defs) (funext fun y => gnDef_fst down y x)
end

end PyGql.Validate.Spec
