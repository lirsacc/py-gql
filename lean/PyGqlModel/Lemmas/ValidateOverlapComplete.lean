/-
  `OverlappingFieldsCanBeMergedChecker`, soundness half: the field collection is COMPLETE (every field of
  `Spec.CollD` is in the collected map under its response name), and in a document without fragment spreads no
  selection set spreads anything.
-/
import PyGqlModel.Lemmas.ValidateOverlapEq
import PyGqlModel.Spec.ValidSpecOverlap2
namespace PyGql.Validate
open PyGql PyGql.Validate.Spec

theorem getD_add (fm : FMap) (rn' rn : String) (e' : FEntry) :
    AL.getD (AL.modify fm rn' [] (· ++ [e'])) rn [] = if rn = rn' then AL.getD fm rn' [] ++ [e'] else AL.getD fm rn [] :=
  AL.getD_modify fm rn' rn [] _

theorem Spec.CollD.cons_cases {s : SchemaD} {p : Option String} {x : Sel} {xs : List Sel} {rn : String} {e : FEntry}
    (h : CollD s p (x :: xs) rn e) : CollD s p [x] rn e ∨ CollD s p xs rn e := by
  cases h with
  | field hm =>
    rcases List.mem_cons.mp hm with rfl | hm
    · exact Or.inl (.field (List.mem_singleton.mpr rfl))
    · exact Or.inr (.field hm)
  | inline hm hs =>
    rcases List.mem_cons.mp hm with rfl | hm
    · exact Or.inl (.inline (List.mem_singleton.mpr rfl) hs)
    · exact Or.inr (.inline hm hs)

mutual
theorem collectSel_complete (s : SchemaD) : ∀ (parent : Option String) (x : Sel) (acc : FMap × List String)
    (rn : String) (e : FEntry), (e ∈ AL.getD acc.1 rn [] ∨ CollD s parent [x] rn e) →
    e ∈ AL.getD (collectSel s parent x acc).1 rn []
  | parent, .field alias name args dirs hasSub ssid sub, (fm, fr), rn, e, h => by
    simp only [collectSel]
    rw [getD_add]
    show e ∈ (if rn = responseName alias name then
      AL.getD fm (responseName alias name) [] ++
        [({ parent, name, args, hasSub, ssid, sub, fdef := parent.bind fun p => ovFieldOf s p name } : FEntry)]
      else AL.getD fm rn [])
    rcases h with h | h
    · by_cases hr : rn = responseName alias name
      · rw [if_pos hr]; exact List.mem_append_left _ (hr ▸ h)
      · rw [if_neg hr]; exact h
    · cases h with
      | @field _ _ alias' name' args' dirs' hasSub' ssid' sub' hm =>
        simp only [List.mem_singleton, Sel.field.injEq] at hm
        obtain ⟨h1, h2, h3, _, h5, h6, h7⟩ := hm
        subst h1 h2 h3 h5 h6 h7
        rw [if_pos rfl]
        exact List.mem_append_right _ (List.mem_singleton.mpr rfl)
      | inline hm _ => simp at hm
  | parent, .spread name dirs, (fm, fr), rn, e, h => by
    simp only [collectSel]
    rcases h with h | h
    · exact h
    · cases h with
      | field hm => simp at hm
      | inline hm _ => simp at hm
  | parent, .inline on dirs id sub, (fm, fr), rn, e, h => by
    simp only [collectSel]
    apply collectSels_complete s _ sub (fm, fr) rn e
    rcases h with h | h
    · exact Or.inl h
    · cases h with
      | field hm => simp at hm
      | @inline _ _ on' dirs' id' sub' _ _ hm hs =>
        simp only [List.mem_singleton, Sel.inline.injEq] at hm
        obtain ⟨h1, _, _, h4⟩ := hm
        subst h1 h4
        exact Or.inr hs
theorem collectSels_complete (s : SchemaD) : ∀ (parent : Option String) (xs : List Sel) (acc : FMap × List String)
    (rn : String) (e : FEntry), (e ∈ AL.getD acc.1 rn [] ∨ CollD s parent xs rn e) →
    e ∈ AL.getD (collectSels s parent xs acc).1 rn []
  | _, [], acc, rn, e, h => by
    rw [collectSels]
    rcases h with h | h
    · exact h
    · cases h with
      | field hm => cases hm
      | inline hm _ => cases hm
  | parent, x :: xs, acc, rn, e, h => by
    rw [collectSels]
    apply collectSels_complete s parent xs _ rn e
    rcases h with h | h
    · exact Or.inl (collectSel_complete s parent x acc rn e (Or.inl h))
    · rcases h.cons_cases with h | h
      · exact Or.inl (collectSel_complete s parent x acc rn e (Or.inr h))
      · exact Or.inr h
end

/-- `_fields_and_fragments` returns the collection under an admissible parent type -/
theorem ff_eq (s : SchemaD) (d : Doc) (p : Option String) (i : Nat) (sels : List Sel) (c : OCtx)
    (hc : ∀ q ∈ c.cache, Adm s d q.1 q.2) (hp : Adm s d i p) :
    ∃ p', Adm s d i p' ∧ (fieldsAndFragments s p i sels c).1.1 = (collectSels s p' sels ([], [])).1 := by
  unfold fieldsAndFragments
  cases hf : c.cache.find? (·.1 == i) with
  | some q =>
    obtain ⟨j, p0⟩ := q
    have hj : j = i := by simpa using List.find?_some hf
    exact ⟨p0, hj ▸ hc _ (List.mem_of_find?_eq_some hf), rfl⟩
  | none => exact ⟨p, hp, rfl⟩

theorem ff_crash (s : SchemaD) (p : Option String) (i : Nat) (sels : List Sel) (c : OCtx) :
    (fieldsAndFragments s p i sels c).2.crash = c.crash := by
  unfold fieldsAndFragments
  cases c.cache.find? (·.1 == i) <;> rfl

theorem noSpread_of_selSet {d : Doc} (hn : NoSpreads d) {i : Nat} {sels : List Sel} (h : SelSet d i sels) (g : String) :
    ¬ SpreadD sels g := by
  intro hs
  induction hs generalizing i with
  | @spread sels name dirs hm =>
    have : Node.spread name dirs ∈ nodes d :=
      selSet_closed h _ (mem_selsNodes_of_mem hm _ (by simp [selNodes]))
    exact hn _ this name dirs rfl
  | @inline sels on dirs id sub name hm _ ih =>
    exact ih (i := id) (selSet_closed h _ (mem_selsNodes_of_mem hm _ (by simp [selNodes])))

end PyGql.Validate
