/-
  C12 — the lexical predicate `printTextWF` evaluated on the example schemas `plainShop` and `descShop`
  (`Props/C12_examples.lean`).  The non-vacuity examples of the text-level files (`Props/C12_text.lean`, `C12_custom`,
  `C12_valid`) all need these two facts; the kernel evaluates each once, here.
-/
import PyGqlModel.SdlText
import PyGqlModel.Props.C12_examples
namespace PyGql.Props.C12
open PyGql PyGql.Sdl PyGql.SdlText

theorem plainShop_textWF : printTextWF {} plainShop = true := by decide +kernel

theorem descShop_textWF : printTextWF {} descShop = true := by decide +kernel

end PyGql.Props.C12
