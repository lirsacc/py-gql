/-
  C14 — one `on_schema` round: well-formedness is carried to the next round, and a round that replaces no type
  leaves a schema whose every reference is the registered object.
-/
import PyGqlModel.Lemmas.HeapClosedTypes

namespace PyGql.Heap.Own
open PyGql.Heap

theorem argShape_mono {chk chk' : Ref → Bool} (hm : ∀ r, chk r = true → chk' r = true) (h : Heap) (a : Addr)
    (hs : argShape chk h a = true) : argShape chk' h a = true := by
  obtain ⟨g, hg, h1⟩ := (argShape_iff chk h a).mp hs
  exact (argShape_iff chk' h a).mpr ⟨g, hg, hm _ h1⟩

theorem fieldShape_mono {chk chk' : Ref → Bool} (hm : ∀ r, chk r = true → chk' r = true) (h : Heap) (a : Addr)
    (hs : fieldShape chk h a = true) : fieldShape chk' h a = true := by
  obtain ⟨f, hf, h1, h2⟩ := (fieldShape_iff chk h a).mp hs
  exact (fieldShape_iff chk' h a).mpr ⟨f, hf, hm _ h1, fun c hc => argShape_mono hm h c (h2 c hc)⟩

theorem typeShape_mono {chk chk' : Ref → Bool} (hm : ∀ r, chk r = true → chk' r = true) (h : Heap) (a : Addr)
    (hs : typeShape chk h a = true) : typeShape chk' h a = true := by
  obtain ⟨t, ht, h1, h2⟩ := (typeShape_iff chk h a).mp hs
  refine (typeShape_iff chk' h a).mpr ⟨t, ht, ?_, typeMembersOK_imp rfl (fun _ hc => hc) (argShape_mono hm h) (fieldShape_mono hm h) h2⟩
  simp only [List.all_eq_true] at h1 ⊢
  exact fun r hr => hm r (h1 r hr)

theorem dirShape_mono {chk chk' : Ref → Bool} (hm : ∀ r, chk r = true → chk' r = true) (h : Heap) (a : Addr)
    (hs : dirShape chk h a = true) : dirShape chk' h a = true := by
  obtain ⟨d, hd, h1⟩ := (dirShape_iff chk h a).mp hs
  exact (dirShape_iff chk' h a).mpr ⟨d, hd, fun c hc => argShape_mono hm h c (h1 c hc)⟩

/-- the invariant carried from round to round -/
structure WFs (chk : Ref → Bool) (h : Heap) (s : Schema) : Prop where
  types : ∀ e, e ∈ s.types → typeShape chk h e.2 = true
  dirs : ∀ e, e ∈ s.dirs → dirShape chk h e.2 = true
  names : ∀ e, e ∈ s.types → nameOK h e = true
  prot : ∀ e, e ∈ s.types → protLeaf h e = true
  nodup : (s.types.map (·.1)).Nodup

theorem WFs.mono {chk chk' : Ref → Bool} (hm : ∀ r, chk r = true → chk' r = true) {h : Heap} {s : Schema} (w : WFs chk h s) : WFs chk' h s :=
  ⟨fun e he => typeShape_mono hm h _ (w.types e he), fun e he => dirShape_mono hm h _ (w.dirs e he), w.names, w.prot, w.nodup⟩

theorem nameOK_iff (h : Heap) (e : String × Addr) : nameOK h e = true ↔ ∃ t, h.readType e.2 = some t ∧ t.name = e.1 := by
  cases ht : h.readType e.2 <;> simp [nameOK, ht]

theorem nameOK_keep {chk : Ref → Bool} {h h' : Heap} (st : StepImp chk h h') (e : String × Addr) (hn : nameOK h e = true) : nameOK h' e = true := by
  obtain ⟨t, ht, hnm⟩ := (nameOK_iff h e).mp hn
  obtain ⟨t', ht', hd, _⟩ := st.readType ht
  exact (nameOK_iff h' e).mpr ⟨t', ht', hd.2.1.trans hnm⟩

theorem onType_nameOK (v : Visitor) (reg : List (String × Addr)) (h : Heap) (n : String) (a : Addr) (hn : nameOK h (n, a) = true) :
    ∀ a', (onType v reg h a).2 = some a' → nameOK (onType v reg h a).1 (n, a') = true := by
  intro a' e
  obtain ⟨t, ht, hnm⟩ := (nameOK_iff h (n, a)).mp hn
  obtain ⟨t', ht', hat⟩ := onType_attrs v reg h a t ht a' e
  exact (nameOK_iff _ _).mpr ⟨t', ht', hat.2.1.trans hnm⟩

theorem protLeaf_keep {chk : Ref → Bool} {h h' : Heap} (st : StepImp chk h h') (e : String × Addr) (hn : protLeaf h e = true) : protLeaf h' e = true := by
  simp only [protLeaf, Bool.or_eq_true] at hn ⊢
  refine hn.imp_right fun hn => ?_
  split at hn
  · rename_i t ht
    obtain ⟨t', ht', hd, _⟩ := st.readType ht
    simp only [ht', hd.1]; exact hn
  · cases hn

theorem typeShape_prot (chk : Ref → Bool) (h : Heap) (e : String × Addr) (hp : isProtected e.1 = true) (hl : protLeaf h e = true) :
    typeShape chk h e.2 = true := by
  simp only [protLeaf, hp, Bool.not_true, Bool.false_or] at hl
  split at hl
  · rename_i t ht
    simp only [beq_iff_eq] at hl
    rw [typeShape_eq _ _ _ _ ht]
    simp [typeRefs, typeMembersOK, hl]
  · cases hl

theorem visitDirs_step (v : Visitor) (reg : List (String × Addr)) (l : List (String × Addr)) (h : Heap) :
    StepAll v reg h (visitDirs v reg h l).1 :=
  (visitDirs_out v reg (Pre := fun _ _ => True) (StepAll.refl v reg) (fun _ _ _ => StepAll.trans) (fun _ _ _ _ _ => trivial)
    (fun h e _ => onDirective_step v reg h e.2) l h fun _ _ => trivial).1

/-- the loop over the registered types: every non-protected type is reported as replaced or keeps its place with the established
    shape; every reported replacement differs from the registered object, and, unless it is `None`, has the established shape and
    carries the name -/
theorem visitTypes_est (v : Visitor) (reg : List (String × Addr)) (chk0 : Ref → Bool) (hc : Compat v reg chk0) :
    ∀ (l : List (String × Addr)) (h : Heap),
      (∀ e, e ∈ l → isProtected e.1 = false → typeShape chk0 h e.2 = true ∧ nameOK h e = true) →
      (∀ e, e ∈ l → isProtected e.1 = false →
        (∃ x, x ∈ (visitTypes v reg h l).2 ∧ x.1 = e.1) ∨ typeShape (outChk v reg chk0) (visitTypes v reg h l).1 e.2 = true) ∧
      (∀ x, x ∈ (visitTypes v reg h l).2 → ∃ e, e ∈ l ∧ e.1 = x.1 ∧ isProtected e.1 = false ∧ x.2 ≠ some e.2 ∧
        ∀ a', x.2 = some a' → typeShape (outChk v reg chk0) (visitTypes v reg h l).1 a' = true ∧
          nameOK (visitTypes v reg h l).1 (x.1, a') = true) := by
  intro l h hin
  obtain ⟨_, f1, f2⟩ := visitTypes_out v reg (R := StepAll v reg)
    (Pre := fun h e => typeShape chk0 h e.2 = true ∧ nameOK h e = true) (StepAll.refl v reg) (fun _ _ _ => StepAll.trans)
    (fun _ _ e r p => ⟨typeShape_keep (r chk0 hc) e.2 p.1, nameOK_keep (r chk0 hc) e p.2⟩) (fun h e _ => onType_step v reg h e.2) l h hin
  -- what the hook returns for an entry, seen in the final heap
  have here : ∀ (e : String × Addr) (h1 : Heap), typeShape chk0 h1 e.2 = true ∧ nameOK h1 e = true →
      StepAll v reg (onType v reg h1 e.2).1 (visitTypes v reg h l).1 → ∀ a', (onType v reg h1 e.2).2 = some a' →
      typeShape (outChk v reg chk0) (visitTypes v reg h l).1 a' = true ∧ nameOK (visitTypes v reg h l).1 (e.1, a') = true :=
    fun e h1 p r a' ea => ⟨typeShape_keep (r _ (compat_out v reg chk0 hc)) a' (onType_est v reg chk0 hc h1 e.2 p.1 a' ea),
      nameOK_keep (r _ (compat_out v reg chk0 hc)) _ (onType_nameOK v reg h1 e.1 e.2 p.2 a' ea)⟩
  refine ⟨fun e he hq => ?_, fun x hx => ?_⟩
  · obtain ⟨h1, p1, _, r2, k | k⟩ := f1 e he hq
    · exact Or.inr (here e h1 p1 r2 e.2 k).1
    · exact Or.inl ⟨_, k, rfl⟩
  · obtain ⟨e, h1, he, hq, p1, _, r2, rfl, hne⟩ := f2 x hx
    exact ⟨e, he, rfl, hq, hne, here e h1 p1 r2⟩

theorem visitDirs_est (v : Visitor) (reg : List (String × Addr)) (chk0 : Ref → Bool) (hc : Compat v reg chk0) :
    ∀ (l : List (String × Addr)) (h : Heap), (∀ e, e ∈ l → dirShape chk0 h e.2 = true) →
      (∀ e, e ∈ l → (∃ x, x ∈ (visitDirs v reg h l).2 ∧ x.1 = e.1) ∨ dirShape (outChk v reg chk0) (visitDirs v reg h l).1 e.2 = true) ∧
      (∀ x, x ∈ (visitDirs v reg h l).2 → ∀ a', x.2 = some a' → dirShape (outChk v reg chk0) (visitDirs v reg h l).1 a' = true) := by
  intro l h hin
  obtain ⟨_, f1, f2⟩ := visitDirs_out v reg (R := StepAll v reg) (Pre := fun h e => dirShape chk0 h e.2 = true) (StepAll.refl v reg)
    (fun _ _ _ => StepAll.trans) (fun _ _ e r p => dirShape_keep (r chk0 hc) e.2 p) (fun h e _ => onDirective_step v reg h e.2) l h hin
  -- what the hook returns for an entry, seen in the final heap
  have here : ∀ (e : String × Addr) (h1 : Heap), dirShape chk0 h1 e.2 = true →
      StepAll v reg (onDirective v reg h1 e.2).1 (visitDirs v reg h l).1 → ∀ a', (onDirective v reg h1 e.2).2 = some a' →
      dirShape (outChk v reg chk0) (visitDirs v reg h l).1 a' = true :=
    fun e h1 p r a' ea => dirShape_keep (r _ (compat_out v reg chk0 hc)) a' (onDirective_est v reg chk0 hc h1 e.2 p a' ea)
  refine ⟨fun e he => ?_, fun x hx a' ea => ?_⟩
  · obtain ⟨h1, p1, _, r2, k | k⟩ := f1 e he
    · exact Or.inr (here e h1 p1 r2 e.2 k)
    · exact Or.inl ⟨_, k, rfl⟩
  · obtain ⟨e, h1, _, p1, _, r2, rfl, _⟩ := f2 x hx
    exact here e h1 p1 r2 a' ea

theorem WFs.keep {chk : Ref → Bool} {h h' : Heap} {s : Schema} (w : WFs chk h s) (st : StepImp chk h h') : WFs chk h' s :=
  ⟨fun e he => typeShape_keep st e.2 (w.types e he), fun e he => dirShape_keep st e.2 (w.dirs e he),
   fun e he => nameOK_keep st e (w.names e he), fun e he => protLeaf_keep st e (w.prot e he), w.nodup⟩

theorem protLeaf_scalar {h : Heap} {e : String × Addr} {t : TypeO} (hl : protLeaf h e = true) (hp : isProtected e.1 = true)
    (ht : h.readType e.2 = some t) : t.kind = Kind.scalar := by
  simpa [protLeaf, hp, ht] using hl

end PyGql.Heap.Own
