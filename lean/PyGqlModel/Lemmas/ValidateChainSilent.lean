/-
  THE VERDICT OF A CHAIN IS THE CONJUNCTION OF ITS MEMBERS RUN ALONE: one node of the traversal, the
  combinators the visit functions are made of (`GoodW`: monotone in the error count, keeps the errors among the members'
  names, and keeps every member's lone run related to the chain as long as one side adds no error), hence the visit of a
  document (`Lemmas/ValidateChainParWalk.lean`) and `chainPar_silent_iff`: a chain (any list of pairwise different rules,
  any framed rule-enter function) records no error on a document iff every member, run alone, records none.
-/
import PyGqlModel.Lemmas.ValidateChainFramed
import PyGqlModel.Lemmas.ValidateWalk
import PyGqlModel.Lemmas.ValidateChainParWalk
namespace PyGql.Validate
open PyGql

/-- the chain made of rule `r` alone (same schema, same variant of the fixes) -/
def Cfg.only (c : Cfg) (r : Rule) : Cfg := { schema := c.schema, fixes := c.fixes, rules := [r] }

/-- the state of the chain and the state of rule `r` run alone -/
def Rel (r : Rule) (st st' : St) : Prop := st.ti = st'.ti ∧ RelRS r st.rs st'.rs

def ErrsIn (c : Cfg) (st : St) : Prop := ∀ x ∈ st.rs.errs, x ∈ c.rules

theorem enterPar_unfold (er : ER) (c : Cfg) (n : Node) (st : St) :
    enterPar er c n st =
      ({ ti := tiEnter c.schema n st.ti, rs := (enterRulesPar er c n (tiEnter c.schema n st.ti) c.rules st.rs).1 },
       (enterRulesPar er c n (tiEnter c.schema n st.ti) c.rules st.rs).2) := by
  simp only [enterPar]

theorem enterRulesPar_only (er : ER) (c : Cfg) (r : Rule) (n : Node) (ti : TI) (b : RS) :
    enterRulesPar er (c.only r) n ti [r] b = ((er c.schema c.fixes r n ti b).1, (er c.schema c.fixes r n ti b).2) := by
  rw [enterRulesPar_cons]
  simp [enterRulesPar, Cfg.only]

theorem visitNodePar_noSkip {er : ER} {c : Cfg} {n : Node} {body : St → St} {st : St} (h : (enterPar er c n st).2 = false) :
    visitNodePar er c n body st = leavePar er c n (body (enterPar er c n st).1) := by
  unfold visitNodePar
  revert h
  generalize enterPar er c n st = p
  obtain ⟨a, b⟩ := p
  intro h
  simp only at h
  subst h
  simp

theorem visitNodePar_skip {er : ER} {c : Cfg} {n : Node} {body : St → St} {st : St} (h : (enterPar er c n st).2 = true) :
    visitNodePar er c n body st = leaveSkippedPar er c n st (enterPar er c n st).1 := by
  unfold visitNodePar
  revert h
  generalize enterPar er c n st = p
  obtain ⟨a, b⟩ := p
  intro h
  simp only at h
  subst h
  simp

section
variable {er : ER} (F : Framed er) (c : Cfg) (n : Node)
include F

theorem enterPar_mono (st : St) : E st ≤ E (enterPar er c n st).1 := by
  rw [enterPar_unfold]; exact enterRulesPar_mono F c n _ c.rules st.rs

theorem enterPar_skip_lt (st : St) (h : (enterPar er c n st).2 = true) : E st < E (enterPar er c n st).1 := by
  rw [enterPar_unfold] at h ⊢; exact enterRulesPar_skip_lt F c n _ c.rules st.rs h

theorem enterPar_errsIn (st : St) (h : ErrsIn c st) : ErrsIn c (enterPar er c n st).1 := by
  rw [enterPar_unfold]; exact enterRulesPar_errsIn F c n _ c.rules c.rules st.rs (fun _ h => h) h

omit F in
theorem leavePar_mono (st : St) : E st ≤ E (leavePar er c n st) := by
  unfold leavePar E; exact leaveFold_mono _ _ _ _ _ _

omit F in
theorem leaveSkippedPar_mono (st0 st1 : St) : E st1 ≤ E (leaveSkippedPar er c n st0 st1) := by
  unfold leaveSkippedPar E; exact leaveFold_mono _ _ _ _ _ _

omit F in
theorem leavePar_errsIn (st : St) (h : ErrsIn c st) : ErrsIn c (leavePar er c n st) := by
  unfold leavePar ErrsIn
  exact leaveFold_errsIn _ _ _ _ c.rules _ _ (fun r hr => List.mem_reverse.mp hr) h

omit F in
theorem leaveSkippedPar_errsIn (st0 st1 : St) (h : ErrsIn c st1) : ErrsIn c (leaveSkippedPar er c n st0 st1) := by
  unfold leaveSkippedPar ErrsIn
  exact leaveFold_errsIn _ _ _ _ c.rules _ _
    (fun r hr => (List.mem_filter.mp (List.mem_reverse.mp hr)).1) h

/-- a node over which the chain adds no error is skipped by no member -/
theorem quiet_not_skipped (body : St → St) (st : St) (h : E (visitNodePar er c n body st) = E st) :
    (enterPar er c n st).2 = false := by
  cases hs : (enterPar er c n st).2
  · rfl
  · exfalso
    rw [visitNodePar_skip hs] at h
    have := enterPar_skip_lt F c n st hs
    have := leaveSkippedPar_mono (er := er) c n st (enterPar er c n st).1
    omega

theorem enterPar_rel (hnd : c.rules.Nodup) {r : Rule} (hr : r ∈ c.rules) {st st' : St} (h : Rel r st st') :
    Rel r (enterPar er c n st).1 (enterPar er (c.only r) n st').1 := by
  rw [enterPar_unfold, enterPar_unfold]
  refine ⟨by simp only [Cfg.only]; rw [h.1], ?_⟩
  simp only
  have : (c.only r).rules = [r] := rfl
  rw [this, enterRulesPar_only, ← h.1]
  exact (enterRulesPar_rel F c n _ r c.rules _ _ hnd h.2).1 hr

theorem enterPar_flag_iff (hnd : c.rules.Nodup) (st : St) (f : Rule → St) (h : ∀ r ∈ c.rules, Rel r st (f r)) :
    (enterPar er c n st).2 = true ↔ ∃ r ∈ c.rules, (enterPar er (c.only r) n (f r)).2 = true := by
  rw [enterPar_unfold]
  simp only
  rw [enterRulesPar_flag_iff F c n _ c.rules st.rs (fun r => (f r).rs) hnd (fun r hr => (h r hr).2.1)]
  constructor
  · rintro ⟨r, hr, hf⟩
    refine ⟨r, hr, ?_⟩
    rw [enterPar_unfold]
    have : (c.only r).rules = [r] := rfl
    simp only [this, enterRulesPar_only]
    rw [← (h r hr).1]
    exact hf
  · rintro ⟨r, hr, hf⟩
    refine ⟨r, hr, ?_⟩
    rw [enterPar_unfold] at hf
    have : (c.only r).rules = [r] := rfl
    simp only [this, enterRulesPar_only] at hf
    rw [← (h r hr).1] at hf
    exact hf

omit F in
theorem leavePar_rel (hnd : c.rules.Nodup) {r : Rule} (hr : r ∈ c.rules) {st st' : St} (h : Rel r st st') :
    Rel r (leavePar er c n st) (leavePar er (c.only r) n st') := by
  unfold leavePar
  refine ⟨by simp only; rw [h.1], ?_⟩
  simp only
  have : (c.only r).rules = [r] := rfl
  rw [this]
  simp only [List.reverse_cons, List.reverse_nil, List.nil_append, List.foldl_cons, List.foldl_nil, Cfg.only]
  rw [← h.1]
  exact (leaveFold_rel c.schema c.fixes n st.ti r c.rules.reverse _ _ ((List.reverse_perm c.rules).nodup_iff.mpr hnd) h.2).1
    (List.mem_reverse.mpr hr)

end

abbrev Walker := Cfg → St → St

/-- `c st f`: the chain state `st` and the family `f` of lone states are related -/
def RelAll (c : Cfg) (st : St) (f : Rule → St) : Prop := ∀ r ∈ c.rules, Rel r st (f r)

/-- one side adds no error over the visit -/
def Quiet (W : Walker) (c : Cfg) (st : St) (f : Rule → St) : Prop :=
  E (W c st) = E st ∨ ∀ r ∈ c.rules, E (W (c.only r) (f r)) = E (f r)

structure GoodW (W : Walker) : Prop where
  mono : ∀ c st, E st ≤ E (W c st)
  errsIn : ∀ c st, ErrsIn c st → ErrsIn c (W c st)
  sim : ∀ (c : Cfg), c.rules.Nodup → ∀ (st : St) (f : Rule → St), RelAll c st f → Quiet W c st f →
    RelAll c (W c st) (fun r => W (c.only r) (f r))

theorem GoodW.id : GoodW (fun _ st => st) :=
  ⟨fun _ _ => Nat.le_refl _, fun _ _ h => h, fun _ _ _ _ h _ => h⟩

theorem GoodW.comp {W1 W2 : Walker} (h1 : GoodW W1) (h2 : GoodW W2) : GoodW (fun c st => W2 c (W1 c st)) where
  mono c st := Nat.le_trans (h1.mono c st) (h2.mono c _)
  errsIn c st h := h2.errsIn c _ (h1.errsIn c st h)
  sim c hnd st f hrel hq := by
    have q1 : Quiet W1 c st f := by
      rcases hq with hq | hq
      · left
        have a := h1.mono c st
        have b := h2.mono c (W1 c st)
        simp only at hq
        omega
      · right
        intro r hr
        have a := h1.mono (c.only r) (f r)
        have b := h2.mono (c.only r) (W1 (c.only r) (f r))
        have := hq r hr
        simp only at this
        omega
    have r1 := h1.sim c hnd st f hrel q1
    have q2 : Quiet W2 c (W1 c st) (fun r => W1 (c.only r) (f r)) := by
      rcases hq with hq | hq
      · left
        have a := h1.mono c st
        have b := h2.mono c (W1 c st)
        simp only at hq
        omega
      · right
        intro r hr
        have a := h1.mono (c.only r) (f r)
        have b := h2.mono (c.only r) (W1 (c.only r) (f r))
        have := hq r hr
        simp only at this ⊢
        omega
    exact h2.sim c hnd _ _ r1 q2

theorem GoodW.node {er : ER} (F : Framed er) (n : Node) {B : Walker} (hB : GoodW B) :
    GoodW (fun c st => visitNodePar er c n (B c) st) where
  mono c st := by
    cases hs : (enterPar er c n st).2
    · simp only [visitNodePar_noSkip hs]
      exact Nat.le_trans (enterPar_mono F c n st) (Nat.le_trans (hB.mono c _) (leavePar_mono c n _))
    · simp only [visitNodePar_skip hs]
      exact Nat.le_trans (enterPar_mono F c n st) (leaveSkippedPar_mono c n st _)
  errsIn c st h := by
    cases hs : (enterPar er c n st).2
    · simp only [visitNodePar_noSkip hs]
      exact leavePar_errsIn c n _ (hB.errsIn c _ (enterPar_errsIn F c n st h))
    · simp only [visitNodePar_skip hs]
      exact leaveSkippedPar_errsIn c n st _ (enterPar_errsIn F c n st h)
  sim c hnd st f hrel hq := by
    -- nobody skips
    have hall : (enterPar er c n st).2 = false ∧ ∀ r ∈ c.rules, (enterPar er (c.only r) n (f r)).2 = false := by
      have hiff := enterPar_flag_iff F c n hnd st f hrel
      rcases hq with hq | hq
      · have h0 := quiet_not_skipped F c n (B c) st hq
        refine ⟨h0, fun r hr => ?_⟩
        cases hk : (enterPar er (c.only r) n (f r)).2
        · rfl
        · rw [hiff.mpr ⟨r, hr, hk⟩] at h0; cases h0
      · have hr0 : ∀ r ∈ c.rules, (enterPar er (c.only r) n (f r)).2 = false := fun r hr =>
          quiet_not_skipped F (c.only r) n (B (c.only r)) (f r) (hq r hr)
        refine ⟨?_, hr0⟩
        cases hk : (enterPar er c n st).2
        · rfl
        · obtain ⟨r, hr, h1⟩ := hiff.mp hk
          rw [hr0 r hr] at h1; cases h1
    obtain ⟨h0, hr0⟩ := hall
    have hrel1 : RelAll c (enterPar er c n st).1 (fun r => (enterPar er (c.only r) n (f r)).1) :=
      fun r hr => enterPar_rel F c n hnd hr (hrel r hr)
    have hq1 : Quiet B c (enterPar er c n st).1 (fun r => (enterPar er (c.only r) n (f r)).1) := by
      rcases hq with hq | hq
      · left
        simp only [visitNodePar_noSkip h0] at hq
        have a := enterPar_mono F c n st
        have b := hB.mono c (enterPar er c n st).1
        have d := leavePar_mono (er := er) c n (B c (enterPar er c n st).1)
        omega
      · right
        intro r hr
        have := hq r hr
        simp only [visitNodePar_noSkip (hr0 r hr)] at this
        have a := enterPar_mono F (c.only r) n (f r)
        have b := hB.mono (c.only r) (enterPar er (c.only r) n (f r)).1
        have d := leavePar_mono (er := er) (c.only r) n (B (c.only r) (enterPar er (c.only r) n (f r)).1)
        simp only
        omega
    have hrel2 := hB.sim c hnd _ _ hrel1 hq1
    intro r hr
    simp only [visitNodePar_noSkip h0, visitNodePar_noSkip (hr0 r hr)]
    exact leavePar_rel c n hnd hr (hrel2 r hr)

section
variable {er : ER} (F : Framed er)
include F

theorem GoodW.closed : VisitClosed (fun W => GoodW (W er)) :=
  ⟨GoodW.id, GoodW.comp, fun n _ hB => GoodW.node F n hB⟩

theorem good_values : ∀ vs : List Value, GoodW (fun c => visitValuesPar er c vs) :=
  (GoodW.closed F).values

theorem good_objField : ∀ f : ObjField, GoodW (fun c => visitObjFieldPar er c f) :=
  (GoodW.closed F).objField

theorem good_objFields : ∀ fs : List ObjField, GoodW (fun c => visitObjFieldsPar er c fs) :=
  (GoodW.closed F).objFields

theorem good_sel : ∀ x : Sel, GoodW (fun c => visitSelPar er c x) :=
  (GoodW.closed F).sel

theorem good_document (d : Doc) : GoodW (fun c => visitDocumentPar er c d) :=
  (GoodW.closed F).document d

theorem chainPar_silent_iff (c : Cfg) (hnd : c.rules.Nodup) (d : Doc) :
    E (visitDocumentPar er c d {}) = 0 ↔ ∀ r ∈ c.rules, E (visitDocumentPar er (c.only r) d {}) = 0 := by
  have G := good_document F d
  have hrel0 : RelAll c ({} : St) (fun _ => ({} : St)) := fun r _ => ⟨rfl, rfl, rfl⟩
  constructor
  · intro h r hr
    have := G.sim c hnd {} _ hrel0 (Or.inl (by simp only; rw [h]; rfl)) r hr
    have he := this.2.2
    simp only [E] at h ⊢
    rw [he, List.length_eq_zero_iff.mp h]; rfl
  · intro h
    have hsim := G.sim c hnd {} _ hrel0 (Or.inr fun r hr => by simp only; rw [h r hr]; rfl)
    have hin : ErrsIn c (visitDocumentPar er c d {}) := G.errsIn c {} (fun x hx => by cases hx)
    simp only [E]
    cases herr : (visitDocumentPar er c d {}).rs.errs with
    | nil => rfl
    | cons x xs =>
      exfalso
      have hx : x ∈ c.rules := hin x (by rw [herr]; exact List.mem_cons_self ..)
      have he := (hsim x hx).2.2
      have h0 := h x hx
      simp only [E] at h0
      rw [List.length_eq_zero_iff.mp h0, herr] at he
      simp at he

end

end PyGql.Validate
