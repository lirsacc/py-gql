/-
  C19 — the ground layer of the depth proofs: potentials and bound directive variables, two induction principles over
  selections (`sel_induction`; `unfold_induction`: fragments spread out, well founded by consistent weights), and the
  canonical levels `cL`: the specification's `levels` at any sufficient fuel (`levels_eq_cL`).
-/
import PyGqlModel.Depth
import PyGqlModel.Spec.DepthSpec

namespace PyGql.Depth.Lemmas
open PyGql.Depth PyGql.DepthSpec

theorem sel_induction {P : Sel → Prop} {Q : List Sel → Prop}
    (field : ∀ a n d sub, Q sub → P (.field a n d sub)) (inline : ∀ d ss, Q ss → P (.inline d ss))
    (spread : ∀ n d, P (.spread n d)) (nil : Q []) (cons : ∀ s ss, P s → Q ss → Q (s :: ss)) :
    (∀ s, P s) ∧ ∀ l, Q l :=
  ⟨fun s => Sel.rec (motive_1 := P) (motive_2 := Q) field inline spread nil cons s,
   fun l => Sel.rec_1 (motive_1 := P) (motive_2 := Q) field inline spread nil cons l⟩

theorem pot_field (w : String → Nat) (a n d sub) : pot w (.field a n d sub) = potL w sub + 1 := by
  simp [pot]; omega
theorem pot_inline (w : String → Nat) (d ss) : pot w (.inline d ss) = potL w ss + 1 := by
  simp [pot]; omega
theorem pot_spread (w : String → Nat) (n d) : pot w (.spread n d) = w n + 1 := by
  simp [pot]; omega
theorem potL_nil (w : String → Nat) : potL w [] = 0 := by simp [potL]
theorem potL_cons (w : String → Nat) (s ss) : potL w (s :: ss) = max (pot w s) (potL w ss) := by simp [potL]

theorem pot_pos (w : String → Nat) (s : Sel) : 1 ≤ pot w s := by
  cases s <;> simp [pot_field, pot_inline, pot_spread]

theorem pot_le_potL (w : String → Nat) : ∀ (l : List Sel) (s : Sel), s ∈ l → pot w s ≤ potL w l := by
  intro l
  induction l with
  | nil => intro s h; cases h
  | cons x xs ih =>
    intro s h
    rw [potL_cons]
    cases h with
    | head => exact Nat.le_max_left _ _
    | tail _ h => exact Nat.le_trans (ih s h) (Nat.le_max_right _ _)

theorem potL_append (w : String → Nat) (a b : List Sel) : potL w (a ++ b) = max (potL w a) (potL w b) := by
  induction a with
  | nil => simp [potL_nil]
  | cons x xs ih => simp only [List.cons_append, potL_cons, ih, Nat.max_assoc]

theorem potL_le_iff (w : String → Nat) (l : List Sel) (b : Nat) : potL w l ≤ b ↔ ∀ s ∈ l, pot w s ≤ b := by
  induction l with
  | nil => exact ⟨fun _ _ h => (nomatch h), fun _ => Nat.zero_le _⟩
  | cons x xs ih => rw [potL_cons, Nat.max_le, ih, List.forall_mem_cons]

theorem maxL_append (a b : List Nat) : maxL (a ++ b) = max (maxL a) (maxL b) := by
  induction a with
  | nil => simp [maxL]
  | cons x xs ih => simp only [List.cons_append, maxL, ih, Nat.max_assoc]

theorem le_maxL {l : List Nat} {x : Nat} (h : x ∈ l) : x ≤ maxL l := by
  induction l with
  | nil => cases h
  | cons y ys ih =>
    simp only [maxL]
    cases h with
    | head => exact Nat.le_max_left _ _
    | tail _ h => exact Nat.le_trans (ih h) (Nat.le_max_right _ _)

theorem maxL_le {l : List Nat} {b : Nat} (h : ∀ x ∈ l, x ≤ b) : maxL l ≤ b := by
  induction l with
  | nil => simp [maxL]
  | cons y ys ih =>
    simp only [maxL]
    exact Nat.max_le.mpr ⟨h y (List.mem_cons_self ..), ih fun x hx => h x (List.mem_cons_of_mem _ hx)⟩

theorem lookupFrag_some {frags : List Frag} {n : String} {f : Frag} (h : lookupFrag frags n = some f) :
    f ∈ frags ∧ f.name = n := by
  unfold lookupFrag at h
  have h1 := List.mem_of_find?_eq_some h
  have h2 := List.find?_some h
  simp at h1 h2
  exact ⟨h1, h2⟩

def condBound (vars : Vars) : Cond → Bool
  | .lit _ => true
  | .var n => (vars.lookup n).isSome

def optBound (vars : Vars) : Option Cond → Bool
  | none => true
  | some c => condBound vars c

def dirsBound (vars : Vars) (d : Dirs) : Bool := optBound vars d.skip && optBound vars d.incl

mutual
def boundSel (vars : Vars) : Sel → Bool
  | .field _ _ d sub => dirsBound vars d && boundL vars sub
  | .inline d ss => dirsBound vars d && boundL vars ss
  | .spread _ d => dirsBound vars d
def boundL (vars : Vars) : List Sel → Bool
  | [] => true
  | s :: ss => boundSel vars s && boundL vars ss
end

theorem boundL_cons (vars : Vars) (s ss) : boundL vars (s :: ss) = (boundSel vars s && boundL vars ss) := by
  simp [boundL]

theorem boundL_eq_all (vars : Vars) (l : List Sel) : boundL vars l = l.all (boundSel vars) := by
  induction l with
  | nil => rfl
  | cons x xs ih => rw [boundL_cons, ih, List.all_cons]

theorem boundL_append (vars : Vars) (a b : List Sel) : boundL vars (a ++ b) = (boundL vars a && boundL vars b) := by
  rw [boundL_eq_all, boundL_eq_all, boundL_eq_all, List.all_append]

theorem boundL_mem (vars : Vars) : ∀ (l : List Sel) (s : Sel), boundL vars l = true → s ∈ l → boundSel vars s = true :=
  fun l s h hs => List.all_eq_true.mp ((boundL_eq_all vars l) ▸ h) s hs

theorem evalCond_ok (vars : Vars) (c : Cond) (h : condBound vars c = true) :
    evalCond vars c = .ok (condVal vars c) := by
  cases c with
  | lit b => simp [evalCond, condVal]
  | var n =>
    simp only [condBound] at h
    cases hl : vars.lookup n with
    | none => simp [hl] at h
    | some b => simp [evalCond, condVal, hl]

theorem evalOpt_ok (vars : Vars) (o : Option Cond) (h : optBound vars o = true) :
    evalOpt vars o = .ok (o.map (condVal vars)) := by
  cases o with
  | none => simp [evalOpt]
  | some c => simp only [optBound] at h; simp [evalOpt, evalCond_ok vars c h]

theorem skipSelection_ok (vars : Vars) (d : Dirs) (h : dirsBound vars d = true) :
    skipSelection d vars = .ok (skipped vars d) := by
  simp only [dirsBound, Bool.and_eq_true] at h
  simp [skipSelection, evalOpt_ok vars _ h.1, evalOpt_ok vars _ h.2, skipped]

theorem evalCond_eq {vars : Vars} {c : Cond} {b : Bool} (h : evalCond vars c = .ok b) : condVal vars c = b := by
  cases c with
  | lit x => simp [evalCond] at h; simp [condVal, h]
  | var n =>
    simp only [evalCond] at h
    cases hl : vars.lookup n with
    | none => simp [hl] at h
    | some x => simp [hl] at h; simp [condVal, hl, h]

theorem evalOpt_eq {vars : Vars} {o : Option Cond} {r : Option Bool} (h : evalOpt vars o = .ok r) :
    r = o.map (condVal vars) := by
  cases o with
  | none => simp [evalOpt] at h; simp [h]
  | some c =>
    simp only [evalOpt] at h
    cases hc : evalCond vars c with
    | error e => simp [hc] at h
    | ok b => simp [hc] at h; simp [← h, evalCond_eq hc]

theorem skipSelection_eq {vars : Vars} {d : Dirs} {b : Bool} (h : skipSelection d vars = .ok b) :
    b = skipped vars d := by
  simp only [skipSelection] at h
  cases h1 : evalOpt vars d.skip with
  | error e => simp [h1] at h
  | ok s =>
    cases h2 : evalOpt vars d.incl with
    | error e => simp [h1, h2] at h
    | ok i =>
      simp [h1, h2] at h
      simp [skipped, ← h, evalOpt_eq h1, evalOpt_eq h2]

/-- induction over a selection with its fragments spread out: consistent weights make it well founded -/
theorem unfold_induction {frags : List Frag} {w : String → Nat} (hc : Consistent frags w) {P : Sel → Prop}
    (field : ∀ a n d sub, (∀ c ∈ sub, P c) → P (.field a n d sub))
    (inline : ∀ d ss, (∀ c ∈ ss, P c) → P (.inline d ss))
    (spread : ∀ n d, (∀ fr, lookupFrag frags n = some fr → ∀ c ∈ fr.sels, P c) → P (.spread n d)) :
    ∀ s, P s := by
  have main : ∀ (k : Nat) (s : Sel), pot w s ≤ k → P s := by
    intro k
    induction k with
    | zero => intro s h; exact absurd (Nat.le_trans (pot_pos w s) h) (Nat.not_succ_le_zero _)
    | succ k ih =>
      intro s hk
      have body : ∀ l : List Sel, potL w l ≤ k → ∀ c ∈ l, P c := fun l hl c hcm =>
        ih c (Nat.le_trans (pot_le_potL w l c hcm) hl)
      cases s with
      | field a n d sub =>
        rw [pot_field] at hk
        exact field a n d sub (body sub (Nat.le_of_succ_le_succ hk))
      | inline d ss =>
        rw [pot_inline] at hk
        exact inline d ss (body ss (Nat.le_of_succ_le_succ hk))
      | spread n d =>
        rw [pot_spread] at hk
        refine spread n d fun fr hl => body fr.sels ?_
        have ⟨hm, hn⟩ := lookupFrag_some hl
        exact Nat.le_trans (hn ▸ hc fr hm) (Nat.le_of_succ_le_succ hk)
  exact fun s => main _ s (Nat.le_refl _)

section
variable (frags : List Frag) (vars : Vars) (w : String → Nat)

theorem levelsSel_stable (hc : Consistent frags w) : ∀ (s : Sel) (k k' : Nat), pot w s ≤ k → pot w s ≤ k' →
    levelsSel frags vars k s = levelsSel frags vars k' s := by
  -- one level down both sides map, over the same list, functions that agree by induction
  have list : ∀ (l : List Sel) (k k' : Nat), (∀ c ∈ l, ∀ k k', pot w c ≤ k → pot w c ≤ k' →
        levelsSel frags vars k c = levelsSel frags vars k' c) → potL w l ≤ k → potL w l ≤ k' →
      maxL (l.map (levelsSel frags vars k)) = maxL (l.map (levelsSel frags vars k')) := fun l k k' ih h h' =>
    congrArg maxL (List.map_congr_left fun c hcm =>
      ih c hcm k k' (Nat.le_trans (pot_le_potL w l c hcm) h) (Nat.le_trans (pot_le_potL w l c hcm) h'))
  have succ : ∀ {p k : Nat}, p + 1 ≤ k → ∃ j, k = j + 1 := fun h =>
    Nat.exists_eq_add_one_of_ne_zero (Nat.ne_of_gt (Nat.lt_of_lt_of_le (Nat.succ_pos _) h))
  refine unfold_induction hc ?_ ?_ ?_
  · intro a n d sub ih k k' h h'
    rw [pot_field] at h h'
    obtain ⟨k, rfl⟩ := succ h
    obtain ⟨k', rfl⟩ := succ h'
    simp only [levelsSel]
    rw [list sub k k' ih (Nat.le_of_succ_le_succ h) (Nat.le_of_succ_le_succ h')]
  · intro d ss ih k k' h h'
    rw [pot_inline] at h h'
    obtain ⟨k, rfl⟩ := succ h
    obtain ⟨k', rfl⟩ := succ h'
    simp only [levelsSel]
    rw [list ss k k' ih (Nat.le_of_succ_le_succ h) (Nat.le_of_succ_le_succ h')]
  · intro n d ih k k' h h'
    rw [pot_spread] at h h'
    obtain ⟨k, rfl⟩ := succ h
    obtain ⟨k', rfl⟩ := succ h'
    simp only [levelsSel]
    cases hl : lookupFrag frags n with
    | none => rfl
    | some fr =>
      have ⟨hm, hn⟩ := lookupFrag_some hl
      have hw := hn ▸ hc fr hm
      simp only []
      rw [list fr.sels k k' (ih fr hl) (Nat.le_trans hw (Nat.le_of_succ_le_succ h))
        (Nat.le_trans hw (Nat.le_of_succ_le_succ h'))]

/-- canonical (fuel-free) levels of a selection / a selection list -/
def cLv (s : Sel) : Nat := levelsSel frags vars (pot w s) s
def cL (sels : List Sel) : Nat := maxL (sels.map (cLv frags vars w))

theorem cL_nil : cL frags vars w [] = 0 := by simp [cL, maxL]
theorem cL_cons (s ss) : cL frags vars w (s :: ss) = max (cLv frags vars w s) (cL frags vars w ss) := by
  simp [cL, maxL]
theorem cL_append (a b) : cL frags vars w (a ++ b) = max (cL frags vars w a) (cL frags vars w b) := by
  simp [cL, maxL_append]

theorem levels_eq_cL (hc : Consistent frags w) (k : Nat) (sels : List Sel) (h : potL w sels ≤ k) :
    levels frags vars k sels = cL frags vars w sels := by
  unfold levels cL
  congr 1
  apply List.map_congr_left
  intro c hc'
  have := pot_le_potL w sels c hc'
  exact levelsSel_stable frags vars w hc c k (pot w c) (Nat.le_trans this h) (Nat.le_refl _)

theorem cLv_field (hc : Consistent frags w) (a n d sub) :
    cLv frags vars w (.field a n d sub) = if skipped vars d then 0 else 1 + cL frags vars w sub := by
  unfold cLv
  rw [pot_field]
  simp only [levelsSel]
  have := levels_eq_cL frags vars w hc (potL w sub) sub (by omega)
  unfold levels at this
  rw [this]

theorem cLv_inline (hc : Consistent frags w) (d ss) :
    cLv frags vars w (.inline d ss) = if skipped vars d then 0 else cL frags vars w ss := by
  unfold cLv
  rw [pot_inline]
  simp only [levelsSel]
  have := levels_eq_cL frags vars w hc (potL w ss) ss (by omega)
  unfold levels at this
  rw [this]

def fragLv (n : String) : Nat :=
  match lookupFrag frags n with
  | none => 0
  | some f => cL frags vars w f.sels

theorem cLv_spread (hc : Consistent frags w) (n d) :
    cLv frags vars w (.spread n d) = if skipped vars d then 0 else fragLv frags vars w n := by
  unfold cLv fragLv
  rw [pot_spread]
  simp only [levelsSel]
  cases hl : lookupFrag frags n with
  | none => rfl
  | some f =>
    have ⟨hm, hn⟩ := lookupFrag_some hl
    have hw := hc f hm
    rw [hn] at hw
    have := levels_eq_cL frags vars w hc (w n) f.sels hw
    unfold levels at this
    simp only []
    rw [this]

end

end PyGql.Depth.Lemmas
