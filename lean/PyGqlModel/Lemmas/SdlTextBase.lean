/-
  C12 text level — basic facts about the total printer model `SdlPrintT`: `strip`/`rstrip` are the identity on what
  the printer passes to them, keyword literals, `joinSep`, leaves.
-/
import PyGqlModel.SdlText
import PyGqlModel.Lemmas.PrintLayGen
namespace PyGql.SdlText
open PyGql PyGql.Ast PyGql.Sdl PyGql.Spec PyGql.PrintLex PyGql.PrintTokens PyGql.PrintString

theorem joinSep_eq : @SdlPrintT.joinSep = @Print.joinSep := by
  funext sep xs
  induction xs with
  | nil => rfl
  | cons x xs ih =>
    cases xs with
    | nil => rfl
    | cons y ys => simp [SdlPrintT.joinSep, Print.joinSep, ih]


theorem rstrip_of_last (s : Text) (c : Nat) (h : s.getLast? = some c) (hc : SdlPrintT.isWs c = false) :
    SdlPrintT.rstrip s = s := by
  obtain ⟨pre, rfl⟩ : ∃ pre, s = pre ++ [c] := by
    rw [List.getLast?_eq_some_iff] at h; exact h
  simp [SdlPrintT.rstrip, List.dropWhile, hc]

theorem lstrip_of_head (c : Nat) (t : Text) (hc : SdlPrintT.isWs c = false) : SdlPrintT.lstrip (c :: t) = c :: t := by
  simp [SdlPrintT.lstrip, List.dropWhile, hc]

theorem strip_of_ends (c : Nat) (t : Text) (l : Nat) (h : (c :: t).getLast? = some l) (hc : SdlPrintT.isWs c = false)
    (hl : SdlPrintT.isWs l = false) : SdlPrintT.strip (c :: t) = c :: t := by
  unfold SdlPrintT.strip
  rw [rstrip_of_last _ l h hl, lstrip_of_head c t hc]

def EndsNW (s : Text) : Prop := ∃ c, s.getLast? = some c ∧ SdlPrintT.isWs c = false

theorem endsNW_append {a b : Text} (hb : EndsNW b) : EndsNW (a ++ b) := by
  obtain ⟨c, h, hc⟩ := hb
  refine ⟨c, ?_, hc⟩
  rw [List.getLast?_append, h]; rfl

theorem endsNW_append_nil {a b : Text} (ha : EndsNW a) (hb : b = [] ∨ EndsNW b) : EndsNW (a ++ b) := by
  rcases hb with rfl | hb
  · simpa using ha
  · exact endsNW_append hb

theorem endsNW_single (c : Nat) (hc : SdlPrintT.isWs c = false) : EndsNW [c] := ⟨c, rfl, hc⟩

theorem endsNW_snoc (a : Text) (c : Nat) (hc : SdlPrintT.isWs c = false) : EndsNW (a ++ [c]) :=
  endsNW_append (endsNW_single c hc)

theorem rstrip_of_endsNW {s : Text} (h : EndsNW s) : SdlPrintT.rstrip s = s := by
  obtain ⟨c, h1, h2⟩ := h; exact rstrip_of_last s c h1 h2

/-- the white space of `str.strip` lies outside the printable ASCII range -/
theorem notWs_of_range {c : Nat} (h : 33 ≤ c ∧ c ≤ 126) : SdlPrintT.isWs c = false := by
  simp [SdlPrintT.isWs]
  omega

theorem nameCont_notWs (c : Nat) (h : Spec.Lexical.isNameCont c = true) : SdlPrintT.isWs c = false := by
  apply notWs_of_range
  simp [Spec.Lexical.isNameCont, Spec.Lexical.isNameStart, Spec.Lexical.isLetter, Spec.Lexical.isDigit] at h
  omega

theorem endsNW_name {w : Text} (h : Spec.Lexical.isName w = true) : EndsNW w := by
  cases w with
  | nil => simp [Spec.Lexical.isName] at h
  | cons a t =>
    simp only [Spec.Lexical.isName, Bool.and_eq_true, List.all_eq_true] at h
    cases ht : t.getLast? with
    | none =>
      have : t = [] := List.getLast?_eq_none_iff.1 ht
      subst this
      exact endsNW_single a (nameCont_notWs a (by simp [Spec.Lexical.isNameCont, h.1]))
    | some c =>
      refine ⟨c, by rw [List.getLast?_cons, ht]; rfl, nameCont_notWs c (h.2 c (List.mem_of_getLast? ht))⟩

theorem headNW_name {w : Text} (h : Spec.Lexical.isName w = true) : ∃ c t, w = c :: t ∧ SdlPrintT.isWs c = false := by
  cases w with
  | nil => simp [Spec.Lexical.isName] at h
  | cons a t =>
    simp only [Spec.Lexical.isName, Bool.and_eq_true] at h
    exact ⟨a, t, rfl, nameCont_notWs a (by simp [Spec.Lexical.isNameCont, h.1])⟩

theorem blank_repeatText (ind : Text) (h : Blank ind) (n : Nat) : Blank (SdlPrintT.repeatText ind n) := by
  induction n with
  | zero => exact blank_nil
  | succ k ih => exact blank_append h ih

theorem length_repeatText (ind : Text) (n : Nat) : (SdlPrintT.repeatText ind n).length = n * ind.length := by
  induction n with
  | zero => simp [SdlPrintT.repeatText]
  | succ k ih => simp [SdlPrintT.repeatText, ih, Nat.succ_mul, Nat.add_comm]


theorem lexOkType_typeOf (ty : Ty) (h : tyOK ty = true) : lexOkType (typeOf ty) = true := by
  induction ty with
  | named n => simpa [tyOK, nameOK, typeOf, namedOf, nameOf, lexOkType] using h
  | list t ih => simp only [tyOK] at h; simpa [typeOf, lexOkType] using ih h
  | nonNull t ih => simp only [tyOK, Bool.and_eq_true] at h; simpa [typeOf, lexOkType] using ih h.1

theorem renderTy_eq (ty : Ty) : SdlPrintT.renderTy ty = Print.printType (typeOf ty) := by
  induction ty with
  | named n => rfl
  | list t ih => simp [SdlPrintT.renderTy, typeOf, Print.printType, ih]
  | nonNull t ih => simp [SdlPrintT.renderTy, typeOf, Print.printType, ih]

theorem lay_renderTy (ty : Ty) (h : tyOK ty = true) : Lay (SdlPrintT.renderTy ty) (typeV (typeOf ty)).yield := by
  rw [renderTy_eq]; exact lay_type _ (lexOkType_typeOf ty h)

theorem endsNW_renderTy (ty : Ty) (h : tyOK ty = true) : EndsNW (SdlPrintT.renderTy ty) := by
  induction ty with
  | named n => simp only [tyOK, nameOK] at h; exact endsNW_name h
  | list t ih => exact endsNW_snoc (91 :: SdlPrintT.renderTy t) 93 (by decide)
  | nonNull t ih => exact endsNW_snoc _ 33 (by decide)

theorem wfType_typeOf (ty : Ty) (h : tyOK ty = true) : wfType (typeOf ty) = true := by
  induction ty with
  | named n => rfl
  | list t ih => simp only [tyOK] at h; simpa [typeOf, wfType] using ih h
  | nonNull t ih =>
    simp only [tyOK, Bool.and_eq_true, Bool.not_eq_true'] at h
    simp only [typeOf, wfType, Bool.and_eq_true, Bool.not_eq_true']
    refine ⟨ih h.1, ?_⟩
    cases t <;> simp_all [typeOf, isNonNull, Ty.isNonNull]

theorem noLocType_typeOf (ty : Ty) : noLocType (typeOf ty) = true := by
  induction ty with
  | named n => rfl
  | list t ih => simpa [typeOf, noLocType] using ih
  | nonNull t ih => simpa [typeOf, noLocType] using ih

theorem lay_nameOf (n : String) (h : nameOK n = true) : Lay (T n) (nameV (nameOf n)).yield := by
  simpa [nameOf, nameV, Item.yield, Item.yieldAll] using lay_name (w := T n) h

open PyGql.SdlPrint in
theorem mem_rootOps (s : SchemaD) (p : String × String) : p ∈ rootOps s →
    (∃ q, s.query = some q ∧ p = ("query", q)) ∨ (∃ q, s.mutation = some q ∧ p = ("mutation", q)) ∨
    (∃ q, s.subscription = some q ∧ p = ("subscription", q)) := by
  intro hp
  unfold rootOps at hp
  simp only [List.mem_append] at hp
  rcases hp with (hp | hp) | hp
  · cases hq : s.query with
    | none => rw [hq] at hp; cases hp
    | some q => rw [hq] at hp; simp at hp; exact Or.inl ⟨q, rfl, hp⟩
  · cases hq : s.mutation with
    | none => rw [hq] at hp; cases hp
    | some q => rw [hq] at hp; simp at hp; exact Or.inr (Or.inl ⟨q, rfl, hp⟩)
  · cases hq : s.subscription with
    | none => rw [hq] at hp; cases hp
    | some q => rw [hq] at hp; simp at hp; exact Or.inr (Or.inr ⟨q, rfl, hp⟩)

open PyGql.SdlPrint in
/-- the applications `print_deprecated` stands for: none, `@deprecated`, or `@deprecated(reason: "…")` -/
theorem deprDirs_cases (r : Option String) : deprDirs r = [] ∨ deprDirs r = [{ name := "deprecated" }] ∨
    ∃ x, deprDirs r = [{ name := "deprecated", args := [("reason", .str x)] }] := by
  cases r with
  | none => exact Or.inl rfl
  | some x =>
    by_cases hx : (x.isEmpty || x == DEFAULT_DEPRECATION) = true
    · exact Or.inr (Or.inl (by simp [deprDirs, hx]))
    · exact Or.inr (Or.inr ⟨x, by simp [deprDirs, hx]⟩)

end PyGql.SdlText
