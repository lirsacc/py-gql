/-
  C14 — `extend_schema`: its member loops round by round, what it writes (placeholders only), its stages (`extP` … `extD2`,
  `ext_frames`), and where it leaves a source type (`extend_src_at`): the rebuilt object registered under a name keeps the
  attributes of the source object (which ones is what `Cfg.ext*` says), whatever else the extension adds.
-/
import PyGqlModel.Lemmas.HeapReach
import PyGqlModel.HeapExt

namespace PyGql.Heap.Own
open PyGql.Heap

theorem extendArgs_loop (k : Bool) (N : List (String × Addr)) : Loop (extendArgs k N) :=
  ⟨fun _ => rfl, fun h a as => by simp only [extendArgs]; cases h.readArg a <;> rfl⟩

theorem extendArgs_one (k : Bool) (N : List (String × Addr)) (h : Heap) (a : Addr) :
    extendArgs k N h [a] = match h.readArg a with
      | some g => ((h.alloc (.arg { g with ty := repoint N g.ty, py := if k then g.py else g.name })).1, [h.size])
      | none => (h, []) := by
  simp only [extendArgs]
  cases h.readArg a <;> rfl

theorem extendArgsX (W : Addr → Prop) (k : Bool) (N : List (String × Addr)) : ∀ (as : List Addr) (h : Heap), FrameX W h (extendArgs k N h as).1 :=
  (extendArgs_loop k N).rel (FrameX.refl W) FrameX.trans fun h a => by
    rw [extendArgs_one]
    split
    · exact allocX W h _
    · exact .refl W h

theorem buildArgs_loop (N : List (String × Addr)) : Loop (buildArgs N) := ⟨fun _ => rfl, fun _ _ _ => rfl⟩

theorem buildArgs_one (N : List (String × Addr)) (h : Heap) (g : ExtArg) :
    buildArgs N h [g] = ((h.alloc (.arg { name := g.name, ty := tnRef N g.ty, py := g.name, dflt := none, desc := none })).1, [h.size]) := rfl

theorem buildArgsX (W : Addr → Prop) (N : List (String × Addr)) : ∀ (gs : List ExtArg) (h : Heap), FrameX W h (buildArgs N h gs).1 :=
  (buildArgs_loop N).rel (FrameX.refl W) FrameX.trans fun h _ => allocX W h _

theorem extendFields_loop (cfg : Cfg) (N : List (String × Addr)) : Loop (extendFields cfg N) :=
  ⟨fun _ => rfl, fun h a as => by simp only [extendFields]; cases h.readField a <;> rfl⟩

theorem extendFields_one (cfg : Cfg) (N : List (String × Addr)) (h : Heap) (a : Addr) :
    extendFields cfg N h [a] = match h.readField a with
      | some f => (((extendArgs cfg.extArgPy N h f.args).1.alloc
          (.field { f with ty := repoint N f.ty, args := (extendArgs cfg.extArgPy N h f.args).2, sub := if cfg.extFieldSub then f.sub else none, py := if cfg.extFieldPy then f.py else f.name })).1,
          [(extendArgs cfg.extArgPy N h f.args).1.size])
      | none => (h, []) := by
  simp only [extendFields]
  cases h.readField a <;> rfl

theorem extendFieldsX (W : Addr → Prop) (cfg : Cfg) (N : List (String × Addr)) : ∀ (as : List Addr) (h : Heap), FrameX W h (extendFields cfg N h as).1 :=
  (extendFields_loop cfg N).rel (FrameX.refl W) FrameX.trans fun h a => by
    rw [extendFields_one]
    split
    · exact (extendArgsX W _ N _ h).trans (allocX W _ _)
    · exact .refl W h

theorem buildFields_loop (N : List (String × Addr)) : Loop (buildFields N) := ⟨fun _ => rfl, fun _ _ _ => rfl⟩

theorem buildFields_one (N : List (String × Addr)) (h : Heap) (f : ExtField) :
    buildFields N h [f] = (((buildArgs N h f.args).1.alloc
      (.field { name := f.name, ty := tnRef N f.ty, args := (buildArgs N h f.args).2, desc := none, depr := none, res := f.res, sub := none, py := f.name })).1,
      [(buildArgs N h f.args).1.size]) := rfl

theorem buildFieldsX (W : Addr → Prop) (N : List (String × Addr)) : ∀ (fs : List ExtField) (h : Heap), FrameX W h (buildFields N h fs).1 :=
  (buildFields_loop N).rel (FrameX.refl W) FrameX.trans fun h _ => (buildArgsX W N _ h).trans (allocX W _ _)

theorem extendDirs_loop (cfg : Cfg) (N : List (String × Addr)) : Loop (extendDirs cfg N) :=
  ⟨fun _ => rfl, fun h e l => by simp only [extendDirs]; cases h.readDir e.2 <;> rfl⟩

theorem extendDirs_one (cfg : Cfg) (N : List (String × Addr)) (h : Heap) (e : String × Addr) :
    extendDirs cfg N h [e] = match h.readDir e.2 with
      | some d => (((extendArgs cfg.extArgPy N h d.args).1.alloc (.dir { d with args := (extendArgs cfg.extArgPy N h d.args).2 })).1,
          [(e.1, (extendArgs cfg.extArgPy N h d.args).1.size)])
      | none => (h, []) := by
  simp only [extendDirs]
  cases h.readDir e.2 <;> rfl

theorem extendDirsX (W : Addr → Prop) (cfg : Cfg) (N : List (String × Addr)) : ∀ (l : List (String × Addr)) (h : Heap), FrameX W h (extendDirs cfg N h l).1 :=
  (extendDirs_loop cfg N).rel (FrameX.refl W) FrameX.trans fun h e => by
    rw [extendDirs_one]
    split
    · exact (extendArgsX W _ N _ h).trans (allocX W _ _)
    · exact .refl W h

theorem buildNewDirs_loop (cfg : Cfg) (N : List (String × Addr)) : Loop (buildNewDirs cfg N) := ⟨fun _ => rfl, fun _ _ _ => rfl⟩

theorem buildNewDirs_one (cfg : Cfg) (N : List (String × Addr)) (h : Heap) (e : String × List ExtArg × List String) :
    buildNewDirs cfg N h [e] =
      (((extendArgs cfg.extArgPy N (buildArgs N h e.2.1).1 (buildArgs N h e.2.1).2).1.alloc
        (.dir { name := e.1, args := (extendArgs cfg.extArgPy N (buildArgs N h e.2.1).1 (buildArgs N h e.2.1).2).2, locs := e.2.2, desc := none })).1,
        [(e.1, (extendArgs cfg.extArgPy N (buildArgs N h e.2.1).1 (buildArgs N h e.2.1).2).1.size)]) := rfl

theorem buildNewDirsX (W : Addr → Prop) (cfg : Cfg) (N : List (String × Addr)) : ∀ (l : List (String × List ExtArg × List String)) (h : Heap),
    FrameX W h (buildNewDirs cfg N h l).1 :=
  (buildNewDirs_loop cfg N).rel (FrameX.refl W) FrameX.trans fun h _ =>
    ((buildArgsX W N _ h).trans (extendArgsX W _ N _ _)).trans (allocX W _ _)

/-- the attributes of a type object that extension has to keep (those the flags promise) -/
def TypeKept (cfg : Cfg) (t t' : TypeO) : Prop :=
  t'.name = t.name ∧ t'.kind = t.kind ∧ t'.prot = t.prot ∧
  t'.desc = (if t.kind == Kind.union && !cfg.extUnionDesc then none else t.desc) ∧
  t'.dres = (if t.kind == Kind.object && !cfg.extObjDres then none else t.dres) ∧
  t'.rtype = (match t.kind with
               | .interface => if cfg.extIfaceRtype then t.rtype else none
               | .union => if cfg.extUnionRtype then t.rtype else none
               | _ => t.rtype) ∧
  (∃ added, t'.values = t.values ++ added) ∧
  t'.cls = (if (t.kind == Kind.scalar || t.kind == Kind.enum) && cfg.extLeafCopied then t.cls else none)

theorem extendKidsX (W : Addr → Prop) (cfg : Cfg) (ext : Ext) (N Nin : List (String × Addr)) (h : Heap) (t : TypeO) :
    FrameX W h (extendKids cfg ext N Nin h t).1 := by
  simp only [extendKids]
  split
  · exact (extendArgsX _ _ N _ h).trans (buildArgsX _ Nin _ _)
  · exact (extendFieldsX _ cfg N _ h).trans (buildFieldsX _ N _ _)
  · exact (extendFieldsX _ cfg N _ h).trans (buildFieldsX _ N _ _)
  · exact FrameX.refl _ h

theorem rebuilt_kept (cfg : Cfg) (ext : Ext) (N : List (String × Addr)) (t : TypeO) (fs : List Addr) :
    TypeKept cfg t (rebuiltType cfg ext N t fs) := ⟨rfl, rfl, rfl, rfl, rfl, rfl, ⟨_, rfl⟩, rfl⟩

theorem extendOne_frame (cfg : Cfg) (ext : Ext) (N Nin : List (String × Addr)) (h : Heap) (t : TypeO) (na : Addr) :
    FrameX (fun x => x = na) h (extendOne cfg ext N Nin h t na) :=
  (extendKidsX _ cfg ext N Nin h t).trans (writeX _ _ na _ rfl)

theorem allocPlaceholders_size : ∀ (ns : List String) (h : Heap), (allocPlaceholders h ns).1.size = h.size + ns.length := by
  intro ns
  induction ns with
  | nil => intro h; rfl
  | cons n ns ih =>
    intro h
    simp only [allocPlaceholders, ih, size_alloc, List.length_cons]
    omega

/-- the `i`-th name gets the `i`-th address after the heap -/
theorem allocPlaceholders_mem : ∀ (ns : List String) (h : Heap) (e : String × Addr), e ∈ (allocPlaceholders h ns).2 →
    ∃ i, ns[i]? = some e.1 ∧ e.2 = h.size + i := by
  intro ns
  induction ns with
  | nil => intro h e he; cases he
  | cons n ns ih =>
    intro h e he
    simp only [allocPlaceholders] at he
    rcases List.mem_cons.mp he with rfl | he
    · exact ⟨0, rfl, rfl⟩
    · obtain ⟨i, hi, hx⟩ := ih _ e he
      exact ⟨i + 1, hi, hx.trans (by rw [size_alloc, Nat.add_assoc, Nat.add_comm 1])⟩

theorem allocPlaceholders_lookup (ns : List String) (h : Heap) (n : String) (x : Addr)
    (hl : lookup (allocPlaceholders h ns).2 n = some x) : h.size ≤ x ∧ x < (allocPlaceholders h ns).1.size := by
  obtain ⟨i, hi, (hx : x = h.size + i)⟩ := allocPlaceholders_mem ns h _ (lookup_mem' hl)
  have := (List.getElem?_eq_some_iff.mp hi).1
  rw [allocPlaceholders_size]
  exact ⟨hx ▸ Nat.le_add_right _ _, hx ▸ Nat.add_lt_add_left this _⟩

theorem allocPlaceholders_inj (ns : List String) (h : Heap) (n n' : String) (x : Addr)
    (hl : lookup (allocPlaceholders h ns).2 n = some x) (hl' : lookup (allocPlaceholders h ns).2 n' = some x) : n = n' := by
  obtain ⟨i, hi, (hx : x = h.size + i)⟩ := allocPlaceholders_mem ns h _ (lookup_mem' hl)
  obtain ⟨j, hj, (hx' : x = h.size + j)⟩ := allocPlaceholders_mem ns h _ (lookup_mem' hl')
  have : i = j := Nat.add_left_cancel (hx.symm.trans hx')
  subst this
  exact Option.some.inj (hi.symm.trans hj)

theorem allocPlaceholders_some : ∀ (ns : List String) (h : Heap) (n : String), n ∈ ns →
    ∃ x, lookup (allocPlaceholders h ns).2 n = some x := by
  intro ns
  induction ns with
  | nil => intro h n hn; simp at hn
  | cons n0 ns ih =>
    intro h n hn
    simp only [allocPlaceholders, lookup, List.find?_cons]
    split
    · exact ⟨_, rfl⟩
    · rename_i hne
      simp only [List.mem_cons] at hn
      rcases hn with rfl | hn
      · simp at hne
      · obtain ⟨x, hx⟩ := ih (h.alloc (placeholder n0)).1 n hn
        exact ⟨x, by simpa [lookup] using hx⟩

theorem allocPlaceholdersX (W : Addr → Prop) : ∀ (ns : List String) (h : Heap), FrameX W h (allocPlaceholders h ns).1 := by
  intro ns
  induction ns with
  | nil => intro h; exact FrameX.refl W h
  | cons n ns ih => intro h; simp only [allocPlaceholders]; exact (allocX W h _).trans (ih _)

section extendAll
variable (cfg : Cfg) (ext : Ext) (N Nin P : List (String × Addr)) (hr : Heap)

theorem extendAll_cons_at {n : String} {a : Addr} {t : TypeO} {na : Addr} (hnp : isProtected n = false) (ht : hr.readType a = some t)
    (hl : lookup P n = some na) (rest : List (String × Addr)) (h : Heap) :
    extendAll cfg ext N Nin P hr h ((n, a) :: rest) = extendAll cfg ext N Nin P hr (extendOne cfg ext N Nin h t na) rest := by
  simp only [extendAll, hnp, ht, hl, Bool.false_eq_true, if_false]

theorem extendAll_cons_frame (e : String × Addr) (rest : List (String × Addr)) (h : Heap) :
    ∃ h', extendAll cfg ext N Nin P hr h (e :: rest) = extendAll cfg ext N Nin P hr h' rest ∧
      FrameX (fun x => lookup P e.1 = some x) h h' := by
  obtain ⟨n, a⟩ := e
  simp only [extendAll]
  split
  · exact ⟨h, rfl, .refl _ h⟩
  · split
    · rename_i t na _ hl
      exact ⟨_, rfl, (extendOne_frame cfg ext N Nin h t na).mono fun x hx => hx ▸ hl⟩
    · exact ⟨h, rfl, .refl _ h⟩

theorem extendAll_frame : ∀ (l : List (String × Addr)) (h : Heap),
    FrameX (fun x => ∃ e, e ∈ l ∧ lookup P e.1 = some x) h (extendAll cfg ext N Nin P hr h l)
  | [], h => .refl _ h
  | e :: rest, h => by
    obtain ⟨h', he, f⟩ := extendAll_cons_frame cfg ext N Nin P hr e rest h
    rw [he]
    exact (f.mono fun x hx => ⟨e, List.mem_cons_self .., hx⟩).trans
      ((extendAll_frame rest h').mono fun x ⟨e', he', hx⟩ => ⟨e', List.mem_cons_of_mem _ he', hx⟩)

variable (hinj : ∀ n n' x, lookup P n = some x → lookup P n' = some x → n = n')
include hinj

/-- the run split at a readable, non-protected entry `(n, a)` with placeholder `na`: up to some heap `hk` only placeholders were
    written; the rebuilt object is written at `na` in `hk`; afterwards only OTHER placeholders are written (registry names are
    distinct, as in a Python dict, and so are the placeholders) -/
theorem extendAll_at : ∀ (l : List (String × Addr)) (h : Heap), (l.map (·.1)).Nodup →
    ∀ n a t na, (n, a) ∈ l → isProtected n = false → hr.readType a = some t → lookup P n = some na →
      ∃ hk, FrameX (fun x => ∃ e, e ∈ l ∧ lookup P e.1 = some x) h hk ∧
        FrameX (fun x => (∃ e, e ∈ l ∧ lookup P e.1 = some x) ∧ x ≠ na) (extendOne cfg ext N Nin hk t na)
          (extendAll cfg ext N Nin P hr h l) := by
  intro l
  induction l with
  | nil => intro _ _ _ _ _ _ hm; cases hm
  | cons e rest ih =>
    intro h hnd n a t na hm hnp ht hl
    rcases List.mem_cons.mp hm with rfl | hm
    · rw [extendAll_cons_at cfg ext N Nin P hr hnp ht hl]
      refine ⟨h, .refl _ h, (extendAll_frame cfg ext N Nin P hr rest _).mono fun x ⟨e', he', hx⟩ =>
        ⟨⟨e', List.mem_cons_of_mem _ he', hx⟩, ?_⟩⟩
      rintro rfl
      exact (List.nodup_cons.mp hnd).1 (List.mem_map.mpr ⟨e', he', hinj e'.1 n x hx hl⟩)
    · obtain ⟨h', he, f⟩ := extendAll_cons_frame cfg ext N Nin P hr e rest h
      obtain ⟨hk, f1, f2⟩ := ih h' (List.nodup_cons.mp hnd).2 n a t na hm hnp ht hl
      rw [he]
      exact ⟨hk, (f.mono fun x hx => ⟨e, List.mem_cons_self .., hx⟩).trans
          (f1.mono fun x ⟨e', he', hx⟩ => ⟨e', List.mem_cons_of_mem _ he', hx⟩),
        f2.mono fun x ⟨⟨e', he', hx⟩, hne⟩ => ⟨⟨e', List.mem_cons_of_mem _ he', hx⟩, hne⟩⟩

/-- … so at the end `na` holds the object rebuilt in `hk`, and the members allocated for it are still what they were -/
theorem extendAll_read (l : List (String × Addr)) (h : Heap) (hb : ∀ n x, lookup P n = some x → x < h.size) (hnd : (l.map (·.1)).Nodup)
    {n : String} {a : Addr} {t : TypeO} {na : Addr} (hm : (n, a) ∈ l) (hnp : isProtected n = false) (ht : hr.readType a = some t)
    (hl : lookup P n = some na) :
    ∃ hk, FrameX (fun x => ∃ e, e ∈ l ∧ lookup P e.1 = some x) h hk ∧
      (extendAll cfg ext N Nin P hr h l).readType na = some (rebuiltType cfg ext N t (extendKids cfg ext N Nin hk t).2) ∧
      FrameX (fun x => ∃ e, e ∈ l ∧ lookup P e.1 = some x) (extendKids cfg ext N Nin hk t).1 (extendAll cfg ext N Nin P hr h l) := by
  obtain ⟨hk, f1, f2⟩ := extendAll_at cfg ext N Nin P hr hinj l h hnd n a t na hm hnp ht hl
  have hlt : na < (extendKids cfg ext N Nin hk t).1.size :=
    Nat.lt_of_lt_of_le (hb n na hl) (Nat.le_trans f1.1 (extendKidsX (fun _ => False) cfg ext N Nin hk t).1)
  refine ⟨hk, f1, ?_, (writeX _ _ na _ ⟨(n, a), hm, hl⟩).trans (f2.mono fun x hx => hx.1)⟩
  rw [readType_frameX f2 (by simpa [extendOne, size_write] using hlt) (fun hx => hx.2 rfl)]
  simp only [extendOne, Heap.readType, read_write_self _ na _ hlt]

end extendAll

theorem buildNewTypesX (N P : List (String × Addr)) : ∀ (l : List (String × List ExtField)) (h : Heap),
    FrameX (fun x => ∃ e, e ∈ l ∧ lookup P e.1 = some x) h (buildNewTypes N P h l) := by
  intro l
  induction l with
  | nil => intro h; exact FrameX.refl _ h
  | cons e rest ih =>
    intro h
    obtain ⟨n, fs⟩ := e
    simp only [buildNewTypes]
    have fb := buildFieldsX (fun x => ∃ e, e ∈ (n, fs) :: rest ∧ lookup P e.1 = some x) N fs h
    refine FrameX.trans ?_ ((ih _).mono (fun x ⟨e, he, hx⟩ => ⟨e, by simp [he], hx⟩))
    split
    · rename_i na hl
      exact fb.trans (writeX _ _ na _ ⟨(n, fs), by simp, hl⟩)
    · exact fb

theorem lookup_append_right {A B : List (String × Addr)} {n : String} (hA : ∀ e, e ∈ A → (e.1 == n) = false) :
    lookup (A ++ B) n = lookup B n := by
  simp only [lookup, List.find?_append]
  have : A.find? (fun e => e.1 == n) = none := by
    simp only [List.find?_eq_none]
    intro e he
    simp [hA e he]
  simp [this]

/-- a non-protected name is looked up past the specified scalars `extend_schema` keeps in front -/
theorem lookup_prot_append {l B : List (String × Addr)} {n : String} (hp : isProtected n = false) :
    lookup ((l.filter fun e => isProtected e.1) ++ B) n = lookup B n := by
  apply lookup_append_right
  intro e he
  cases hq : (e.1 == n) with
  | false => rfl
  | true => exact absurd (beq_iff_eq.mp hq ▸ (List.mem_filter.mp he).2) (by simp [hp])

section stages
variable (cfg : Cfg) (ext : Ext) (s : Schema) (h : Heap)

def extNames : List String := (s.types.filter fun e => !isProtected e.1).map (·.1) ++ ext.newTypes.map (·.1)
def extP : Heap × List (String × Addr) := allocPlaceholders h (extNames ext s)
/-- `_extended_cache`: the specified scalars of the source, then the placeholders; the `types` of the result in the variant of
    /repo, which registers every rebuilt type (`extend_types`) -/
def extN : List (String × Addr) := (s.types.filter fun e => isProtected e.1) ++ (extP ext s h).2
def extNin : List (String × Addr) := if cfg.extInputFieldExtended then extN ext s h else s.types ++ extN ext s h
def extH1 : Heap := extendAll cfg ext (extN ext s h) (extNin cfg ext s h) (extP ext s h).2 h (extP ext s h).1 s.types
def extH2 : Heap := buildNewTypes (extN ext s h) (extP ext s h).2 (extH1 cfg ext s h) ext.newTypes
def extD1 : Heap × List (String × Addr) := extendDirs cfg (extN ext s h) (extH2 cfg ext s h) s.dirs
def extD2 : Heap × List (String × Addr) := buildNewDirs cfg (extN ext s h) (extD1 cfg ext s h).1 ext.newDirs

theorem extend_dirs : (extend cfg ext s h).2.dirs = (extD1 cfg ext s h).2 ++ (extD2 cfg ext s h).2 := rfl
theorem extend_types (hk : cfg.extKeepAll = true) : (extend cfg ext s h).2.types = extN ext s h := by
  simp only [extend, hk, if_true]
  rfl

/-- a placeholder address: allocated by the call before anything else -/
def IsPH (x : Addr) : Prop := h.size ≤ x ∧ x < (extP ext s h).1.size

theorem extP_bounds {n : String} {x : Addr} (hl : lookup (extP ext s h).2 n = some x) : IsPH ext s h x :=
  allocPlaceholders_lookup _ h n x hl

theorem extP_inj {n n' : String} {x : Addr} (hl : lookup (extP ext s h).2 n = some x) (hl' : lookup (extP ext s h).2 n' = some x) :
    n = n' :=
  allocPlaceholders_inj _ h n n' x hl hl'

theorem extP_src {n : String} {a : Addr} (hm : (n, a) ∈ s.types) (hp : isProtected n = false) :
    ∃ na, lookup (extP ext s h).2 n = some na ∧ lookup (extN ext s h) n = some na := by
  obtain ⟨na, hna⟩ := allocPlaceholders_some (extNames ext s) h n
    (List.mem_append.mpr (Or.inl (List.mem_map.mpr ⟨(n, a), List.mem_filter.mpr ⟨hm, by simp [hp]⟩, rfl⟩)))
  exact ⟨na, hna, (lookup_prot_append hp).trans hna⟩

theorem extP_src_not_new (hnew : ∀ e, e ∈ ext.newTypes → e.1 ∉ s.types.map (·.1)) {n : String} {a na : Addr} (hm : (n, a) ∈ s.types)
    (hna : lookup (extP ext s h).2 n = some na) : ¬ ∃ e, e ∈ ext.newTypes ∧ lookup (extP ext s h).2 e.1 = some na := by
  rintro ⟨e, he, hx⟩
  exact hnew e he (extP_inj ext s h hx hna ▸ List.mem_map.mpr ⟨(n, a), hm, rfl⟩)

/-- from the placeholders on `extend_schema` allocates, and writes placeholders only -/
theorem ext_frames : (∀ W, FrameX W h (extP ext s h).1) ∧ FrameX (IsPH ext s h) (extP ext s h).1 (extH1 cfg ext s h) ∧
    FrameX (IsPH ext s h) (extH1 cfg ext s h) (extH2 cfg ext s h) ∧ (∀ W, FrameX W (extH2 cfg ext s h) (extD1 cfg ext s h).1) ∧
    ∀ W, FrameX W (extD1 cfg ext s h).1 (extD2 cfg ext s h).1 :=
  ⟨fun W => allocPlaceholdersX W _ h, (extendAll_frame ..).mono fun _ ⟨_, _, hx⟩ => extP_bounds ext s h hx,
    (buildNewTypesX ..).mono fun _ ⟨_, _, hx⟩ => extP_bounds ext s h hx, fun W => extendDirsX W .., fun W => buildNewDirsX W ..⟩

end stages

theorem extend_tail (cfg : Cfg) (N P : List (String × Addr)) (h1 : Heap) (s : Schema) (ext : Ext) (na : Addr) (hlt : na < h1.size)
    (hnw : ¬ ∃ e, e ∈ ext.newTypes ∧ lookup P e.1 = some na) :
    (buildNewDirs cfg N (extendDirs cfg N (buildNewTypes N P h1 ext.newTypes) s.dirs).1 ext.newDirs).1.readType na = h1.readType na := by
  have f2 := buildNewTypesX N P ext.newTypes h1
  have f3 := extendDirsX (fun _ => False) cfg N s.dirs (buildNewTypes N P h1 ext.newTypes)
  have f4 := buildNewDirsX (fun _ => False) cfg N ext.newDirs (extendDirs cfg N (buildNewTypes N P h1 ext.newTypes) s.dirs).1
  rw [readType_frameX f4 (Nat.lt_of_lt_of_le hlt (Nat.le_trans f2.1 f3.1)) (fun x => x),
      readType_frameX f3 (Nat.lt_of_lt_of_le hlt f2.1) (fun x => x), readType_frameX f2 hlt hnw]

/-- where `extend_schema` leaves a readable, non-protected source type `(n, a)`: its placeholder `na` holds the object rebuilt
    (`rebuiltType`) in some intermediate heap `hk` that still shows the source; the members allocated for it
    (`extendKids … hk t`) are never written again -/
theorem extend_src_at (cfg : Cfg) (ext : Ext) (s : Schema) (h : Heap) (hnd : (s.types.map (·.1)).Nodup)
    (hnew : ∀ e, e ∈ ext.newTypes → e.1 ∉ s.types.map (·.1))
    {n : String} {a : Addr} {t : TypeO} (hm : (n, a) ∈ s.types) (hp : isProtected n = false) (ht : h.readType a = some t) :
    ∃ na hk, lookup (extN ext s h) n = some na ∧ FrameX (fun x => h.size ≤ x) h hk ∧
      (extend cfg ext s h).1.readType na = some (rebuiltType cfg ext (extN ext s h) t (extendKids cfg ext (extN ext s h) (extNin cfg ext s h) hk t).2) ∧
      FrameX (fun x => x < hk.size) (extendKids cfg ext (extN ext s h) (extNin cfg ext s h) hk t).1 (extend cfg ext s h).1 := by
  obtain ⟨na, hna, hl⟩ := extP_src ext s h hm hp
  obtain ⟨f0, f1', f2, f3, f4⟩ := ext_frames cfg ext s h
  have hb : ∀ n x, lookup (extP ext s h).2 n = some x → IsPH ext s h x := fun _ _ => extP_bounds ext s h
  obtain ⟨hk, f1, hr1, fk⟩ := extendAll_read cfg ext (extN ext s h) (extNin cfg ext s h) (extP ext s h).2 h (fun _ _ _ => extP_inj ext s h)
    s.types (extP ext s h).1 (fun n x hx => (hb n x hx).2) hnd hm hp ht hna
  -- before and after `hk` only placeholders are written: addresses `≥ h.size` and `< (extP ext s h).1.size ≤ hk.size`
  have low : ∀ x, IsPH ext s h x → x < hk.size := fun x hx => Nat.lt_of_lt_of_le hx.2 f1.1
  refine ⟨na, hk, hl, (f0 _).trans (f1.mono fun x ⟨e, _, hx⟩ => (hb e.1 x hx).1), ?_,
    (((fk.mono fun x ⟨e, _, hx⟩ => low x (hb e.1 x hx)).trans (f2.mono low)).trans (f3 _)).trans (f4 _)⟩
  exact (extend_tail cfg _ _ _ s ext na (Nat.lt_of_lt_of_le (hb n na hna).2 f1'.1) (extP_src_not_new ext s h hnew hm hna)).trans hr1

/-- S2 (type level), for EVERY heap, schema and extension document: the object `extend_schema` registers under the
    name of a source type is a rebuilt copy keeping name, kind, description, default resolver, type resolver and
    enum values exactly as far as the `_extend_*` constructors pass them on (`TypeKept`) -/
theorem extend_type_kept (cfg : Cfg) (hk : cfg.extKeepAll = true) (ext : Ext) (s : Schema) (h : Heap)
    (hnd : (s.types.map (·.1)).Nodup) (hnew : ∀ e, e ∈ ext.newTypes → e.1 ∉ s.types.map (·.1))
    (n : String) (a : Addr) (t : TypeO) (hm : (n, a) ∈ s.types) (hp : isProtected n = false) (ht : h.readType a = some t) :
    ∃ a' t', lookup (extend cfg ext s h).2.types n = some a' ∧ (extend cfg ext s h).1.readType a' = some t' ∧ TypeKept cfg t t' := by
  obtain ⟨na, _, hl, _, hr, _⟩ := extend_src_at cfg ext s h hnd hnew hm hp ht
  exact ⟨na, _, extend_types cfg ext s h hk ▸ hl, hr, rebuilt_kept cfg ext _ t _⟩

end PyGql.Heap.Own
