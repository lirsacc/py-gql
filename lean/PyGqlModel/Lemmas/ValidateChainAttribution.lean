/-
  THE VERDICT OF A CHAIN IS THE CONJUNCTION OF ITS MEMBERS RUN ALONE: ATTRIBUTION in the chain. The simulation of
  `Lemmas/ValidateChainSilent.lean` with a set `S` of TRACKED members: if every tracked member, run alone, adds no error over a visit and no
  untracked member adds an error in the chain, then nobody skips and the tracked members stay related (`GoodS`).
  Consequence (`chainPar_attribution`, and `Props/C06_chain.lean: chainM_attribution`): when all members but one are silent
  alone and that one is not, the chain records an error OF THAT MEMBER.
-/
import PyGqlModel.Lemmas.ValidateChainSilent
namespace PyGql.Validate
open PyGql

theorem countOf_append (a b : List Rule) (q : Rule) : countOf (a ++ b) q = countOf a q + countOf b q := by
  simp [countOf, List.filter_append]

theorem countOf_pos_of_mine {X : List Rule} {q : Rule} (h : ∀ x ∈ X, x = q) (hne : 0 < X.length) : 0 < countOf X q := by
  unfold countOf
  rw [filter_mine q X h]; exact hne

section
variable {er : ER} (F : Framed er) (c : Cfg) (n : Node) (ti : TI)
include F

theorem er_monoC (r q : Rule) (a : RS) : countOf a.errs q ≤ countOf (er c.schema c.fixes r n ti a).1.errs q := by
  rw [F.errs, countOf_append]; omega

theorem er_skip_count (r : Rule) (a : RS) (h : (er c.schema c.fixes r n ti a).2 = true) :
    countOf a.errs r < countOf (er c.schema c.fixes r n ti a).1.errs r := by
  have hl := F.skip _ _ _ _ _ _ h
  rw [F.errs] at hl ⊢
  rw [countOf_append]
  have : 0 < countOf (er c.schema c.fixes r n ti (a.own r)).1.errs r :=
    countOf_pos_of_mine (F.mine _ _ _ _ _ a) (by simp at hl; omega)
  omega

theorem enterRulesPar_monoC (q : Rule) : ∀ (rules : List Rule) (a : RS),
    countOf a.errs q ≤ countOf (enterRulesPar er c n ti rules a).1.errs q
  | [], a => Nat.le_refl _
  | r1 :: rest, a => by
    rw [enterRulesPar_cons]
    exact Nat.le_trans (er_monoC F c n ti r1 q a) (enterRulesPar_monoC q rest _)

/-- if the chain skips, some member's error count has just grown -/
theorem enterRulesPar_skip_count : ∀ (rules : List Rule) (a : RS), (enterRulesPar er c n ti rules a).2 = true →
    ∃ q ∈ rules, countOf a.errs q < countOf (enterRulesPar er c n ti rules a).1.errs q
  | [], a, h => by simp [enterRulesPar] at h
  | r1 :: rest, a, h => by
    rw [enterRulesPar_cons] at h ⊢
    simp only [Bool.or_eq_true] at h
    rcases h with h | h
    · exact ⟨r1, List.mem_cons_self .., Nat.lt_of_lt_of_le (er_skip_count F c n ti r1 a h)
        (enterRulesPar_monoC F c n ti r1 rest _)⟩
    · obtain ⟨q, hq, hlt⟩ := enterRulesPar_skip_count rest _ h
      exact ⟨q, List.mem_cons_of_mem _ hq, Nat.lt_of_le_of_lt (er_monoC F c n ti r1 q a) hlt⟩

end

theorem lr_monoC (s : SchemaD) (fx : Fixes) (n : Node) (ti : TI) (r q : Rule) (a : RS) :
    countOf a.errs q ≤ countOf (leaveRule s fx r n ti a).errs q := by
  rw [leaveRule_errs, countOf_append]; omega

theorem leaveFold_monoC (s : SchemaD) (fx : Fixes) (n : Node) (ti : TI) (q : Rule) : ∀ (l : List Rule) (a : RS),
    countOf a.errs q ≤ countOf (l.foldl (fun rs r => leaveRule s fx r n ti rs) a).errs q
  | [], a => Nat.le_refl _
  | r1 :: rest, a => by
    simp only [List.foldl_cons]
    exact Nat.le_trans (lr_monoC s fx n ti r1 q a) (leaveFold_monoC s fx n ti q rest _)

/-- errors of member `q` recorded so far -/
def Cq (q : Rule) (st : St) : Nat := countOf st.rs.errs q

section
variable {er : ER} (F : Framed er) (c : Cfg) (n : Node)
include F

theorem enterPar_monoC (q : Rule) (st : St) : Cq q st ≤ Cq q (enterPar er c n st).1 := by
  rw [enterPar_unfold]; exact enterRulesPar_monoC F c n _ q c.rules st.rs

theorem enterPar_skip_count (st : St) (h : (enterPar er c n st).2 = true) :
    ∃ q ∈ c.rules, Cq q st < Cq q (enterPar er c n st).1 := by
  rw [enterPar_unfold] at h ⊢; exact enterRulesPar_skip_count F c n _ c.rules st.rs h

omit F in
theorem leavePar_monoC (q : Rule) (st : St) : Cq q st ≤ Cq q (leavePar er c n st) := by
  unfold leavePar Cq; exact leaveFold_monoC _ _ _ _ q _ _

omit F in
theorem leaveSkippedPar_monoC (q : Rule) (st0 st1 : St) : Cq q st1 ≤ Cq q (leaveSkippedPar er c n st0 st1) := by
  unfold leaveSkippedPar Cq; exact leaveFold_monoC _ _ _ _ q _ _

end

structure GoodS (W : Walker) : Prop where
  mono : ∀ c st, E st ≤ E (W c st)
  monoC : ∀ c st q, Cq q st ≤ Cq q (W c st)
  sim : ∀ (c : Cfg), c.rules.Nodup → ∀ (S : Rule → Prop) (st : St) (f : Rule → St),
    (∀ r ∈ c.rules, S r → Rel r st (f r)) →
    (∀ r ∈ c.rules, S r → E (W (c.only r) (f r)) = E (f r)) →
    (∀ q ∈ c.rules, ¬ S q → Cq q (W c st) = Cq q st) →
    ∀ r ∈ c.rules, S r → Rel r (W c st) (W (c.only r) (f r))

theorem GoodS.id : GoodS (fun _ st => st) :=
  ⟨fun _ _ => Nat.le_refl _, fun _ _ _ => Nat.le_refl _, fun _ _ _ _ _ h _ _ => h⟩

theorem GoodS.comp {W1 W2 : Walker} (h1 : GoodS W1) (h2 : GoodS W2) : GoodS (fun c st => W2 c (W1 c st)) where
  mono c st := Nat.le_trans (h1.mono c st) (h2.mono c _)
  monoC c st q := Nat.le_trans (h1.monoC c st q) (h2.monoC c _ q)
  sim c hnd S st f hrel hq hu := by
    have q1 : ∀ r ∈ c.rules, S r → E (W1 (c.only r) (f r)) = E (f r) := fun r hr hs => by
      have a := h1.mono (c.only r) (f r)
      have b := h2.mono (c.only r) (W1 (c.only r) (f r))
      have := hq r hr hs
      try simp only at this
      omega
    have u1 : ∀ q ∈ c.rules, ¬ S q → Cq q (W1 c st) = Cq q st := fun q hq' hs => by
      have a := h1.monoC c st q
      have b := h2.monoC c (W1 c st) q
      have := hu q hq' hs
      try simp only at this
      omega
    have r1 := h1.sim c hnd S st f hrel q1 u1
    have q2 : ∀ r ∈ c.rules, S r → E (W2 (c.only r) (W1 (c.only r) (f r))) = E (W1 (c.only r) (f r)) := fun r hr hs => by
      have a := h1.mono (c.only r) (f r)
      have b := h2.mono (c.only r) (W1 (c.only r) (f r))
      have := hq r hr hs
      try simp only at this
      omega
    have u2 : ∀ q ∈ c.rules, ¬ S q → Cq q (W2 c (W1 c st)) = Cq q (W1 c st) := fun q hq' hs => by
      have a := h1.monoC c st q
      have b := h2.monoC c (W1 c st) q
      have := hu q hq' hs
      try simp only at this
      omega
    exact h2.sim c hnd S _ _ r1 q2 u2

theorem GoodS.node {er : ER} (F : Framed er) (n : Node) {B : Walker} (hB : GoodS B) :
    GoodS (fun c st => visitNodePar er c n (B c) st) where
  mono c st := by
    cases hs : (enterPar er c n st).2
    · simp only [visitNodePar_noSkip hs]
      exact Nat.le_trans (enterPar_mono F c n st) (Nat.le_trans (hB.mono c _) (leavePar_mono c n _))
    · simp only [visitNodePar_skip hs]
      exact Nat.le_trans (enterPar_mono F c n st) (leaveSkippedPar_mono c n st _)
  monoC c st q := by
    cases hs : (enterPar er c n st).2
    · simp only [visitNodePar_noSkip hs]
      exact Nat.le_trans (enterPar_monoC F c n q st) (Nat.le_trans (hB.monoC c _ q) (leavePar_monoC c n q _))
    · simp only [visitNodePar_skip hs]
      exact Nat.le_trans (enterPar_monoC F c n q st) (leaveSkippedPar_monoC c n q st _)
  sim c hnd S st f hrel hq hu := by
    -- the tracked members do not skip alone
    have hr0 : ∀ r ∈ c.rules, S r → (enterPar er (c.only r) n (f r)).2 = false := fun r hr hs =>
      quiet_not_skipped F (c.only r) n (B (c.only r)) (f r) (hq r hr hs)
    -- related after `enter`
    have hrel1 : ∀ r ∈ c.rules, S r → Rel r (enterPar er c n st).1 (enterPar er (c.only r) n (f r)).1 :=
      fun r hr hs => enterPar_rel F c n hnd hr (hrel r hr hs)
    -- the chain does not skip
    have h0 : (enterPar er c n st).2 = false := by
      cases hk : (enterPar er c n st).2
      · rfl
      · exfalso
        obtain ⟨q, hq', hlt⟩ := enterPar_skip_count F c n st hk
        by_cases hs : S q
        · -- a tracked member: its lone run grew as well
          have e0 : E (f q) = Cq q st := by
            have := (hrel q hq' hs).2.2
            simp only [E, Cq, countOf, this]
          have e1 : E (enterPar er (c.only q) n (f q)).1 = Cq q (enterPar er c n st).1 := by
            have := (hrel1 q hq' hs).2.2
            simp only [E, Cq, countOf, this]
          have hquiet := hq q hq' hs
          simp only [visitNodePar_noSkip (hr0 q hq' hs)] at hquiet
          have a := hB.mono (c.only q) (enterPar er (c.only q) n (f q)).1
          have b := leavePar_mono (er := er) (c.only q) n (B (c.only q) (enterPar er (c.only q) n (f q)).1)
          omega
        · have hun := hu q hq' hs
          simp only [visitNodePar_skip hk] at hun
          have b := leaveSkippedPar_monoC (er := er) c n q st (enterPar er c n st).1
          omega
    have hq1 : ∀ r ∈ c.rules, S r →
        E (B (c.only r) (enterPar er (c.only r) n (f r)).1) = E (enterPar er (c.only r) n (f r)).1 := fun r hr hs => by
      have := hq r hr hs
      simp only [visitNodePar_noSkip (hr0 r hr hs)] at this
      have a := enterPar_mono F (c.only r) n (f r)
      have b := hB.mono (c.only r) (enterPar er (c.only r) n (f r)).1
      have d := leavePar_mono (er := er) (c.only r) n (B (c.only r) (enterPar er (c.only r) n (f r)).1)
      omega
    have hu1 : ∀ q ∈ c.rules, ¬ S q → Cq q (B c (enterPar er c n st).1) = Cq q (enterPar er c n st).1 := fun q hq' hs => by
      have := hu q hq' hs
      simp only [visitNodePar_noSkip h0] at this
      have a := enterPar_monoC F c n q st
      have b := hB.monoC c (enterPar er c n st).1 q
      have d := leavePar_monoC (er := er) c n q (B c (enterPar er c n st).1)
      omega
    have hrel2 := hB.sim c hnd S _ _ hrel1 hq1 hu1
    intro r hr hs
    simp only [visitNodePar_noSkip h0, visitNodePar_noSkip (hr0 r hr hs)]
    exact leavePar_rel c n hnd hr (hrel2 r hr hs)

section
variable {er : ER} (F : Framed er)
include F

theorem GoodS.closed : VisitClosed (fun W => GoodS (W er)) :=
  ⟨GoodS.id, GoodS.comp, fun n _ hB => GoodS.node F n hB⟩

theorem goodS_values : ∀ vs : List Value, GoodS (fun c => visitValuesPar er c vs) :=
  (GoodS.closed F).values

theorem goodS_objField : ∀ f : ObjField, GoodS (fun c => visitObjFieldPar er c f) :=
  (GoodS.closed F).objField

theorem goodS_objFields : ∀ fs : List ObjField, GoodS (fun c => visitObjFieldsPar er c fs) :=
  (GoodS.closed F).objFields

theorem goodS_sel : ∀ x : Sel, GoodS (fun c => visitSelPar er c x) :=
  (GoodS.closed F).sel

theorem goodS_document (d : Doc) : GoodS (fun c => visitDocumentPar er c d) :=
  (GoodS.closed F).document d

/-- all members but `r0` silent alone, `r0` not silent alone ⇒ the chain records an error
    of `r0` (whatever else it records: a skipping `r0` may hide nodes from the others) -/
theorem chainPar_attribution (c : Cfg) (hnd : c.rules.Nodup) (d : Doc) (r0 : Rule) (hr0 : r0 ∈ c.rules)
    (hbad : E (visitDocumentPar er (c.only r0) d {}) ≠ 0)
    (hothers : ∀ r ∈ c.rules, r ≠ r0 → E (visitDocumentPar er (c.only r) d {}) = 0) :
    0 < countOf (visitDocumentPar er c d {}).rs.errs r0 := by
  refine Nat.pos_of_ne_zero fun h0 => hbad ?_
  have G := goodS_document F d
  have hsim := G.sim c hnd (fun r => r ≠ r0) {} (fun _ => {}) (fun r _ _ => ⟨rfl, rfl, rfl⟩)
    (fun r hr hs => by rw [hothers r hr hs]; rfl)
    (fun q hq hs => by
      have : q = r0 := Classical.not_not.mp hs
      subst this
      simp only [Cq]; rw [h0]; rfl)
  have hin : ErrsIn c (visitDocumentPar er c d {}) := (good_document F d).errsIn c {} (fun x hx => by cases hx)
  have hnil : (visitDocumentPar er c d {}).rs.errs = [] := by
    cases herr : (visitDocumentPar er c d {}).rs.errs with
    | nil => rfl
    | cons x xs =>
      exfalso
      have hx : x ∈ c.rules := hin x (by rw [herr]; exact List.mem_cons_self ..)
      by_cases e : x = r0
      · subst e
        rw [herr] at h0
        simp [countOf] at h0
      · have he := (hsim x hx e).2.2
        have h1 := hothers x hx e
        simp only [E] at h1
        rw [List.length_eq_zero_iff.mp h1, herr] at he
        simp at he
  exact (chainPar_silent_iff F c hnd d).mp (by simp [E, hnil]) r0 hr0

end

end PyGql.Validate
