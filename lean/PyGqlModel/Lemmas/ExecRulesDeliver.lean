/-
  C08 / C09 — `deliver` in the same terms: completing a task inside a node re-runs, innermost first, the combinator that
  made each pending Future on the way (`chainOnFinish`, `unwrapCb`, the `on_finish` callbacks of a gather).
  `DeliverCases` is the induction over one completion. What a gather is after its callbacks ran is said once
  (`gatherAfter_cases`, and `gatherValues_cases` for a gather that is just being built); `runSched_preserves` lifts what one
  completion preserves to the run loop.
-/
import PyGqlModel.Lemmas.ExecRules

namespace PyGql.AsyncExec

/-- the node a gather becomes once the `on_finish` callbacks of the slots in `fired` have run -/
def gatherAfter (slots : Nodes) (done target : Nat) (fired : List (Except Exc Node)) : Node :=
  match gatherFires done target slots fired with
  | (_, some outer) => outer
  | (done', none) => .gather slots done' target

theorem collectSlots_ne_exc {α : Type} : ∀ (l : List (Slot α)) (e : Exc), collectSlots l ≠ .setException e
  | [], e => by simp [collectSlots]
  | none :: r, e => by simp [collectSlots]
  | some (.error _) :: r, e => by simp [collectSlots]
  | some (.ok a) :: r, e => by
    have ih := collectSlots_ne_exc r e
    simp only [collectSlots]
    cases h : collectSlots r <;> simp_all

theorem gatherFire_some (done target : Nat) (d : Except Exc Node) (slots : Nodes) (dn : Nat) (o : Node)
    (hf : gatherFire done target d slots = (dn, some o)) :
    (∃ e, d = .error e ∧ o = .failed e) ∨
    (∃ rs, collectSlots (slots.toList.map Node.slot) = .setResult rs ∧ o = .done (.val (valOfResults rs))) := by
  cases d with
  | error e =>
    simp [gatherFire, gatherOnFinish] at hf
    exact .inl ⟨e, rfl, hf.2.symm⟩
  | ok r =>
    by_cases hdt : done + 1 = target
    · cases hc : collectSlots (slots.toList.map Node.slot) with
      | setResult rs =>
        simp [gatherFire, gatherOnFinish, hdt, hc] at hf
        exact .inr ⟨rs, rfl, hf.2.symm⟩
      | nothing => simp [gatherFire, gatherOnFinish, hdt, hc] at hf
      | setException e => exact absurd hc (collectSlots_ne_exc _ e)
      | raisesInCallback => simp [gatherFire, gatherOnFinish, hdt, hc] at hf
      | blocks => simp [gatherFire, gatherOnFinish, hdt, hc] at hf
    · simp [gatherFire, gatherOnFinish, hdt] at hf

/-- what a successful sequence of `on_finish` callbacks can do to `outer` -/
theorem gatherFires_some (target : Nat) (slots : Nodes) :
    ∀ (fired : List (Except Exc Node)) (done d' : Nat) (outer : Node),
      gatherFires done target slots fired = (d', some outer) →
      (∃ e, Except.error e ∈ fired ∧ outer = .failed e) ∨
      (∃ rs, collectSlots (slots.toList.map Node.slot) = .setResult rs ∧ outer = .done (.val (valOfResults rs)))
  | [], done, d', outer, h => by simp [gatherFires] at h
  | d :: rest, done, d', outer, h => by
    simp only [gatherFires] at h
    cases hf : gatherFire done target d slots with
    | mk dn o =>
      rw [hf] at h
      cases o with
      | some o' =>
        simp at h
        obtain ⟨_, ho⟩ := h
        subst ho
        rcases gatherFire_some done target d slots dn o' hf with ⟨e, he, ho⟩ | h'
        · exact .inl ⟨e, by simp [he], ho⟩
        · exact .inr h'
      | none =>
        simp at h
        rcases gatherFires_some target slots rest dn d' outer h with ⟨e, he, ho⟩ | h'
        · exact .inl ⟨e, by simp [he], ho⟩
        · exact .inr h'

theorem gatherAfter_cases (slots : Nodes) (done target : Nat) (fired : List (Except Exc Node)) :
    (∃ d', gatherFires done target slots fired = (d', none) ∧ gatherAfter slots done target fired = .gather slots d' target) ∨
    (∃ e, Except.error e ∈ fired ∧ gatherAfter slots done target fired = .failed e) ∨
    (∃ rs, collectSlots (slots.toList.map Node.slot) = .setResult rs ∧
      gatherAfter slots done target fired = .done (.val (valOfResults rs))) := by
  unfold gatherAfter
  cases h : gatherFires done target slots fired with
  | mk d' o =>
    cases o with
    | none => exact .inl ⟨d', rfl, rfl⟩
    | some outer =>
      rcases gatherFires_some target slots fired done d' outer h with ⟨e, he, rfl⟩ | ⟨rs, hc, rfl⟩
      · exact .inr (.inl ⟨e, he, rfl⟩)
      · exact .inr (.inr ⟨rs, hc, rfl⟩)

/-- the `on_finish` calls `gather_futures` makes at once: one per source Future that is already finished -/
def firedOf (source : Nodes) : List (Except Exc Node) := (source.toList.filter Node.isFuture).filterMap slotResult

/-- the entries of the source that are not Futures (`done` starts there) -/
def plainCount (source : Nodes) : Nat := (source.toList.filter fun n => !n.isFuture).length

theorem gatherValues_cases (source : Nodes) :
    (source.toList.filter Node.isFuture = [] ∧ gatherValues source = .val (valOfResults source.toList)) ∨
    (source.toList.filter Node.isFuture ≠ [] ∧
      gatherValues source = gatherAfter source (plainCount source) source.toList.length (firedOf source)) := by
  unfold gatherValues
  simp only
  split
  next h0 =>
    rw [List.eq_nil_of_length_eq_zero (eq_of_beq h0)]
    exact .inl ⟨rfl, rfl⟩
  next =>
    split
    next hp => exact .inl ⟨List.isEmpty_iff.1 hp, rfl⟩
    next hp =>
      refine .inr ⟨fun h => hp (List.isEmpty_iff.2 h), ?_⟩
      simp only [gatherAfter, firedOf, plainCount]
      generalize gatherFires _ _ source _ = y
      obtain ⟨d, _ | outer⟩ := y <;> rfl

theorem mem_firedOf {source : Nodes} {e : Exc} : Except.error e ∈ firedOf source ↔ Node.failed e ∈ source.toList := by
  simp only [firedOf, List.mem_filterMap, List.mem_filter]
  constructor
  · rintro ⟨n, ⟨hn, _⟩, hs⟩
    cases n <;> cases hs
    exact hn
  · exact fun hm => ⟨.failed e, ⟨hm, rfl⟩, rfl⟩

theorem plainCount_lt {source : Nodes} (h : source.toList.filter Node.isFuture ≠ []) :
    plainCount source < source.toList.length := by
  obtain ⟨n, hn⟩ := List.exists_mem_of_ne_nil _ h
  obtain ⟨hm, hf⟩ := List.mem_filter.1 hn
  exact List.length_filter_lt_length_iff_exists.2 ⟨n, hm, by simp [hf]⟩

theorem val_of_no_future : ∀ {l : List Node}, l.filter Node.isFuture = [] → ∀ n ∈ l, ∃ x, n = .val x
  | n :: l, h, m, hm => by
    cases n with
    | val x =>
      rcases List.mem_cons.1 hm with rfl | hm
      · exact ⟨x, rfl⟩
      · exact val_of_no_future (l := l) h m hm
    | _ => cases h

theorem deliver_gather (ap : ApplyCont) (t : Nat) (slots : Nodes) (done target : Nat) (s : ExecSt) :
    deliver ap t (.gather slots done target) s
      = (gatherAfter (deliverSlots ap t slots s).1 done target (deliverSlots ap t slots s).2.1, (deliverSlots ap t slots s).2.2) := by
  rw [deliver]
  generalize deliverSlots ap t slots s = x
  obtain ⟨slots', fired, s1⟩ := x
  simp only [gatherAfter]
  generalize gatherFires done target slots' fired = y
  obtain ⟨d, _ | outer⟩ := y <;> rfl

theorem deliverSlots_cons (ap : ApplyCont) (t : Nat) (n : Node) (ns : Nodes) (s : ExecSt) :
    deliverSlots ap t (.cons n ns) s
      = (.cons (deliver ap t n s).1 (deliverSlots ap t ns (deliver ap t n s).2).1,
         (if n.isPending then (slotResult (deliver ap t n s).1).toList else []) ++ (deliverSlots ap t ns (deliver ap t n s).2).2.1,
         (deliverSlots ap t ns (deliver ap t n s).2).2.2) := by
  rw [deliverSlots]

/-- the ways the outcome of `deliver ap t` (`D`) and of `deliverSlots ap t` (`S`) is built -/
structure DeliverCases (ap : ApplyCont) (t : Nat) (D : Node → ExecSt → Node × ExecSt → Prop)
    (S : Nodes → ExecSt → Nodes × List (Except Exc Node) × ExecSt → Prop) : Prop where
  val : ∀ x s, D (.val x) s (.val x, s)
  done : ∀ r s, D (.done r) s (.done r, s)
  failed : ∀ e s, D (.failed e) s (.failed e, s)
  hit : ∀ path nested out s, D (.task t path nested out) s (finishTask path nested out s)
  miss : ∀ id path nested out s, id ≠ t → D (.task id path nested out) s (.task id path nested out, s)
  chain : ∀ src k s, D src s (deliver ap t src s) →
    D (.chain src k) s (chainOnFinish ap (deliver ap t src s).1 k (deliver ap t src s).2)
  unwrap : ∀ src s, D src s (deliver ap t src s) → D (.unwrap src) s (unwrapCb (deliver ap t src s).1, (deliver ap t src s).2)
  gather : ∀ slots done target s, S slots s (deliverSlots ap t slots s) →
    D (.gather slots done target) s
      (gatherAfter (deliverSlots ap t slots s).1 done target (deliverSlots ap t slots s).2.1, (deliverSlots ap t slots s).2.2)
  nil : ∀ s, S .nil s (.nil, [], s)
  cons : ∀ n ns s, D n s (deliver ap t n s) → S ns (deliver ap t n s).2 (deliverSlots ap t ns (deliver ap t n s).2) →
    S (.cons n ns) s
      (.cons (deliver ap t n s).1 (deliverSlots ap t ns (deliver ap t n s).2).1,
       (if n.isPending then (slotResult (deliver ap t n s).1).toList else []) ++ (deliverSlots ap t ns (deliver ap t n s).2).2.1,
       (deliverSlots ap t ns (deliver ap t n s).2).2.2)

namespace DeliverCases
variable {ap : ApplyCont} {t : Nat} {D : Node → ExecSt → Node × ExecSt → Prop}
  {S : Nodes → ExecSt → Nodes × List (Except Exc Node) × ExecSt → Prop} (H : DeliverCases ap t D S)
include H

mutual
theorem node : ∀ (n : Node) (s : ExecSt), D n s (deliver ap t n s)
  | .val x, s => H.val x s
  | .done r, s => H.done r s
  | .failed e, s => H.failed e s
  | .task id path nested out, s => by
    rw [deliver]
    split
    next h => exact eq_of_beq h ▸ H.hit path nested out s
    next h => exact H.miss id path nested out s fun e => h (e ▸ beq_self_eq_true t)
  | .chain src k, s => by
    rw [deliver]
    exact H.chain src k s (node src s)
  | .unwrap src, s => by
    rw [deliver]
    exact H.unwrap src s (node src s)
  | .gather ns done target, s => deliver_gather ap t ns done target s ▸ H.gather ns done target s (slots ns s)
theorem slots : ∀ (ns : Nodes) (s : ExecSt), S ns s (deliverSlots ap t ns s)
  | .nil, s => H.nil s
  | .cons n ns, s => deliverSlots_cons ap t n ns s ▸ H.cons n ns s (node n s) (slots ns _)
end

end DeliverCases

theorem runSched_preserves {P : Node → ExecSt → Prop}
    (hstep : ∀ top s i, P top s → P (stepSched top s i).1 (stepSched top s i).2) :
    ∀ (sched : List Nat) (top : Node) (s : ExecSt) (sizes : List Nat), P top s →
      P (runSched top s sizes sched).top (runSched top s sizes sched).st
  | [], _, _, _, h => h
  | i :: rest, top, s, sizes, h => by
    rw [runSched]
    split
    · exact h
    · exact runSched_preserves hstep rest _ _ _ (hstep top s i h)

end PyGql.AsyncExec
