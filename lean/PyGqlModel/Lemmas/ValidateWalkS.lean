/-
  Walk lemma for chains that MAY raise `SkipNode` below the document, provided a skip always comes with an
  error (which is the case for every rule of py-gql): the error count never decreases, and it stays
  unchanged over a sub-tree exactly when NO node of the sub-tree is "bad" (skips) or reports.
  Because a silent run never skips, every node of `Spec.nodes` is then visited.
-/
import PyGqlModel.Lemmas.ValidateWalkI
namespace PyGql.Validate
open PyGql PyGql.Validate.Spec

/-- `bad n`: entering `n` raises SkipNode (with at least one error, counted after the members that entered are left
    again - semantics of fix 391ad62); otherwise entering adds `f n` errors; leaving
    adds `g n` -/
structure SCF (c : Cfg) (bad : Node → Bool) (f g : Node → Nat) : Prop where
  skipE : ∀ n st, n.isDoc = false → bad n = true →
    (enter c n st).2 = true ∧ E st < E (leaveSkipped c n st (enter c n st).1)
  noskip : ∀ n st, n.isDoc = false → bad n = false → (enter c n st).2 = false
  enterE : ∀ n st, n.isDoc = false → bad n = false → E (enter c n st).1 = E st + f n
  leaveE : ∀ n st, n.isDoc = false → E (leave c n st) = E st + g n

def okNode (bad : Node → Bool) (f g : Node → Nat) (n : Node) : Prop := bad n = false ∧ f n = 0 ∧ g n = 0

/-- errors never decrease, and none is added exactly when every listed node is fine -/
def PostS (bad : Node → Bool) (f g : Node → Nat) (ns : List Node) (st st' : St) : Prop :=
  E st ≤ E st' ∧ (E st' = E st ↔ ∀ n ∈ ns, okNode bad f g n)

variable {c : Cfg} {bad : Node → Bool} {f g : Node → Nat}

theorem PostS.nil (st : St) : PostS bad f g [] st st := ⟨Nat.le_refl _, by simp⟩

theorem PostS.append {a b : List Node} {s1 s2 s3 : St} (h1 : PostS bad f g a s1 s2) (h2 : PostS bad f g b s2 s3) :
    PostS bad f g (a ++ b) s1 s3 := by
  refine ⟨Nat.le_trans h1.1 h2.1, ?_⟩
  simp only [List.mem_append]
  constructor
  · intro e
    have e2 : E s2 = E s1 := Nat.le_antisymm (e ▸ h2.1) h1.1
    have e3 : E s3 = E s2 := by omega
    intro n hn
    rcases hn with hn | hn
    · exact (h1.2.mp e2) n hn
    · exact (h2.2.mp e3) n hn
  · intro h
    have e2 := h1.2.mpr (fun n hn => h n (Or.inl hn))
    have e3 := h2.2.mpr (fun n hn => h n (Or.inr hn))
    omega

theorem visitNodeS (h : SCF c bad f g) (n : Node) (body : St → St) (ns : List Node)
    (hb : ∀ st, PostS bad f g ns st (body st)) (st : St) (hn : n.isDoc = false) :
    PostS bad f g (n :: ns) st (visitNode c n body st) := by
  cases hbad : bad n
  · rw [visitNode_false (h.noskip n st hn hbad)]
    have e1 := h.enterE n st hn hbad
    obtain ⟨b1, b2⟩ := hb (enter c n st).1
    have el := h.leaveE n (body (enter c n st).1) hn
    have key : E (leave c n (body (enter c n st).1)) = E st ↔
        (f n = 0 ∧ g n = 0) ∧ E (body (enter c n st).1) = E (enter c n st).1 := by omega
    refine ⟨by omega, ?_⟩
    rw [key, b2, List.forall_mem_cons, okNode, hbad]
    exact and_congr_left' ⟨fun h => ⟨rfl, h⟩, fun h => h.2⟩
  · -- skip: at least one error, nothing below is visited
    obtain ⟨e2, e3⟩ := h.skipE n st hn hbad
    rw [visitNode_true e2]
    refine ⟨Nat.le_of_lt e3, fun e => by omega, fun hall => ?_⟩
    have := (hall n (List.mem_cons_self ..)).1
    rw [hbad] at this
    cases this

theorem SCF.alg (h : SCF c bad f g) : WalkAlg c (PostS bad f g) where
  nil := PostS.nil
  append := PostS.append
  node n body ns st hn hb := visitNodeS h n body ns hb st (isDoc_of_isTop hn)

theorem visitValuesS (h : SCF c bad f g) : ∀ (vs : List Value) (st : St), PostS bad f g (valuesNodes vs) st (visitValues c vs st) :=
  visitValuesG h.alg
theorem visitObjFieldS (h : SCF c bad f g) : ∀ (x : ObjField) (st : St), PostS bad f g (objFieldNodes x) st (visitObjField c x st) :=
  visitObjFieldG h.alg
theorem visitObjFieldsS (h : SCF c bad f g) : ∀ (fs : List ObjField) (st : St), PostS bad f g (objFieldsNodes fs) st (visitObjFields c fs st) :=
  visitObjFieldsG h.alg
theorem visitSelS (h : SCF c bad f g) : ∀ (x : Sel) (st : St), PostS bad f g (selNodes x) st (visitSel c x st) :=
  visitSelG h.alg.toV

/-- **a silent run never skips, so it visits every node**: the error count is unchanged over the definitions
    exactly when every node below the document is fine -/
theorem visitDefsS (h : SCF c bad f g) (ds : List Def) (st : St) :
    PostS bad f g (ds.flatMap defNodes) st (ds.foldl (fun st x => visitDef c x st) st) :=
  visitDefsG h.alg.toV (fun n body ns st hn _ hb => visitNodeS h n body ns hb st hn) ds st

end PyGql.Validate
