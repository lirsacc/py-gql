/-
  C14 — registries: registrations on a deep clone never touch an inner dict of the source.
-/
import PyGqlModel.Registry

namespace PyGql.Heap.Reg
open PyGql.Heap

theorem size_alloc (h : RHeap) (d : RDict) : (h.alloc d).1.size = h.size + 1 := by simp [RHeap.alloc, RHeap.size]
theorem size_write (h : RHeap) (a : Addr) (d : RDict) : (h.write a d).size = h.size := by simp [RHeap.write, RHeap.size]
theorem read_alloc_old (h : RHeap) (d : RDict) (a : Addr) (ha : a < h.size) : (h.alloc d).1.read a = h.read a := by
  simp only [RHeap.alloc, RHeap.read, RHeap.size] at *
  exact List.getElem?_append_left ha
theorem read_write_other (h : RHeap) (a b : Addr) (d : RDict) (hne : a ≠ b) : (h.write a d).read b = h.read b := by
  simp only [RHeap.write, RHeap.read]
  exact List.getElem?_set_ne hne

def RFrame (n : Nat) (h h' : RHeap) : Prop := h.size ≤ h'.size ∧ ∀ a, a < n → h'.read a = h.read a

theorem RFrame.refl (n : Nat) (h : RHeap) : RFrame n h h := ⟨Nat.le_refl _, fun _ _ => rfl⟩
theorem RFrame.trans {n : Nat} {h1 h2 h3 : RHeap} (a : RFrame n h1 h2) (b : RFrame n h2 h3) : RFrame n h1 h3 :=
  ⟨Nat.le_trans a.1 b.1, fun x hx => by rw [b.2 x hx, a.2 x hx]⟩

/-- every inner dict the outer map points to is owned: it lives at an address `≥ n` -/
def RFresh (n : Nat) (outer : List (String × Addr)) : Prop := ∀ e, e ∈ outer → n ≤ e.2

theorem lookup_mem_name {outer : List (String × Addr)} {t : String} {a : Addr} (hl : lookup outer t = some a) : (t, a) ∈ outer := by
  simp only [lookup, Option.map_eq_some_iff] at hl
  obtain ⟨e, he, rfl⟩ := hl
  have hm := List.mem_of_find?_eq_some he
  have hp := List.find?_some he
  simp only [beq_iff_eq] at hp
  subst hp
  exact hm

/-- `self.resolvers.get(typename, {})`: no inner dict below `n` is touched, and the dict returned is owned -/
theorem getOrCreate_ok (n : Nat) (h : RHeap) (outer : List (String × Addr)) (t : String) (hn : n ≤ h.size) (hf : RFresh n outer) :
    RFrame n h (getOrCreate h outer t).1 ∧ RFresh n (getOrCreate h outer t).2.1 ∧ n ≤ (getOrCreate h outer t).2.2 := by
  simp only [getOrCreate]
  cases hl : lookup outer t with
  | some a =>
    exact ⟨RFrame.refl n h, hf, hf _ (lookup_mem_name hl)⟩
  | none =>
    refine ⟨⟨by rw [size_alloc]; omega, fun x hx => read_alloc_old h [] x (Nat.lt_of_lt_of_le hx hn)⟩, fun e he => ?_, hn⟩
    simp only [List.mem_append, List.mem_singleton] at he
    rcases he with he | rfl
    · exact hf e he
    · exact hn

theorem registerIn_ok (n : Nat) (h : RHeap) (outer : List (String × Addr)) (t f : String) (fn : Nat) (hn : n ≤ h.size) (hf : RFresh n outer) :
    RFrame n h (registerIn h outer t f fn).1 ∧ RFresh n (registerIn h outer t f fn).2 := by
  obtain ⟨fr, ff, ha⟩ := getOrCreate_ok n h outer t hn hf
  simp only [registerIn]
  split
  · exact ⟨fr.trans ⟨by rw [size_write]; exact Nat.le_refl _,
      fun x hx => read_write_other _ _ x _ (Nat.ne_of_gt (Nat.lt_of_lt_of_le hx ha))⟩, ff⟩
  · exact ⟨fr, ff⟩

def RegsFresh (n : Nat) (r : Registries) : Prop := RFresh n r.resolvers ∧ RFresh n r.subscriptions

theorem applyOp_ok (n : Nat) (s : RHeap × Registries) (op : RegOp) (hn : n ≤ s.1.size) (hf : RegsFresh n s.2) :
    RFrame n s.1 (applyOp s op).1 ∧ RegsFresh n (applyOp s op).2 := by
  cases op with
  | resolver t f fn =>
    obtain ⟨a, b⟩ := registerIn_ok n s.1 s.2.resolvers t f fn hn hf.1
    exact ⟨a, b, hf.2⟩
  | subscription t f fn =>
    obtain ⟨a, b⟩ := registerIn_ok n s.1 s.2.subscriptions t f fn hn hf.2
    exact ⟨a, hf.1, b⟩
  | default t fn => exact ⟨RFrame.refl n s.1, hf⟩

theorem applyOps_ok (n : Nat) : ∀ (ops : List RegOp) (s : RHeap × Registries), n ≤ s.1.size → RegsFresh n s.2 →
    RFrame n s.1 (applyOps ops s).1 ∧ RegsFresh n (applyOps ops s).2 := by
  intro ops
  induction ops with
  | nil => intro s _ hf; exact ⟨RFrame.refl n s.1, hf⟩
  | cons op ops ih =>
    intro s hn hf
    obtain ⟨a, b⟩ := applyOp_ok n s op hn hf
    obtain ⟨c, d⟩ := ih (applyOp s op) (Nat.le_trans hn a.1) b
    exact ⟨a.trans c, d⟩

theorem mergeDict_ok (n : Nat) (keep : String → String → Bool) (t : String) : ∀ (d : RDict) (h : RHeap) (outer : List (String × Addr)),
    n ≤ h.size → RFresh n outer → RFrame n h (mergeDict keep t d h outer).1 ∧ RFresh n (mergeDict keep t d h outer).2 := by
  intro d
  induction d with
  | nil => intro h outer _ hf; exact ⟨RFrame.refl n h, hf⟩
  | cons e rest ih =>
    intro h outer hn hf
    obtain ⟨f, fn⟩ := e
    simp only [mergeDict]
    split
    · obtain ⟨a, b⟩ := registerIn_ok n h outer t f fn hn hf
      obtain ⟨c, d⟩ := ih _ _ (Nat.le_trans hn a.1) b
      exact ⟨a.trans c, d⟩
    · exact ih h outer hn hf

theorem mergeOuter_ok (n : Nat) (keep : String → String → Bool) : ∀ (other : List (String × Addr)) (h : RHeap) (outer : List (String × Addr)),
    n ≤ h.size → RFresh n outer → RFrame n h (mergeOuter keep other h outer).1 ∧ RFresh n (mergeOuter keep other h outer).2 := by
  intro other
  induction other with
  | nil => intro h outer _ hf; exact ⟨RFrame.refl n h, hf⟩
  | cons e rest ih =>
    intro h outer hn hf
    obtain ⟨t, a⟩ := e
    simp only [mergeOuter]
    split
    · rename_i d _
      obtain ⟨p, q⟩ := mergeDict_ok n keep t d h outer hn hf
      obtain ⟨c, d'⟩ := ih _ _ (Nat.le_trans hn p.1) q
      exact ⟨p.trans c, d'⟩
    · exact ih h outer hn hf

/-- `Schema.clone` with `merge_resolvers` (filtered or not): no inner dict of the heap is written; the clone owns all its inner dicts -/
theorem cloneRegs_deep_ok (filtered : Bool) (exists_ : String → String → Bool) (h : RHeap) (src : Registries) (r : RHeap × Registries)
    (e : cloneRegs true filtered exists_ h src = some r) : RFrame h.size h r.1 ∧ RegsFresh h.size r.2 := by
  simp only [cloneRegs, if_true] at e
  split at e
  · cases e
  · simp only [Option.some.injEq] at e
    subst e
    obtain ⟨a, b⟩ := mergeOuter_ok h.size (if filtered then exists_ else fun _ _ => true) src.resolvers h [] (Nat.le_refl _) (by intro e he; simp at he)
    obtain ⟨c, d⟩ := mergeOuter_ok h.size (if filtered then exists_ else fun _ _ => true) src.subscriptions _ [] a.1 (by intro e he; simp at he)
    exact ⟨a.trans c, b, d⟩

/-- `(t, f ↦ fn)` is an entry of the registry -/
def Entry (h : RHeap) (outer : List (String × Addr)) (t f : String) (fn : Nat) : Prop :=
  ∃ a d, (t, a) ∈ outer ∧ h.read a = some d ∧ (f, fn) ∈ d

/-- the map under construction: valid, address determines name, every entry satisfies `P` -/
def Built (P : String → String → Nat → Prop) (h : RHeap) (outer : List (String × Addr)) : Prop :=
  (∀ e, e ∈ outer → e.2 < h.size) ∧ (∀ e1 e2, e1 ∈ outer → e2 ∈ outer → e1.2 = e2.2 → e1.1 = e2.1) ∧
  ∀ t f fn, Entry h outer t f fn → P t f fn

theorem read_alloc_new (h : RHeap) (d : RDict) : (h.alloc d).1.read h.size = some d := by
  simp [RHeap.alloc, RHeap.read, RHeap.size]

theorem read_write_same (h : RHeap) (a : Addr) (d : RDict) (ha : a < h.size) : (h.write a d).read a = some d := by
  simp only [RHeap.write, RHeap.read, RHeap.size] at *
  simp [ha]

theorem mem_dictSet {d : RDict} {f : String} {fn : Nat} {x : String × Nat} (hx : x ∈ dictSet d f fn) : x = (f, fn) ∨ x ∈ d := by
  simp only [dictSet] at hx
  split at hx
  · simp only [List.mem_map] at hx
    obtain ⟨e, he, rfl⟩ := hx
    split
    · exact Or.inl rfl
    · exact Or.inr he
  · simp only [List.mem_append, List.mem_singleton] at hx
    rcases hx with hx | hx
    · exact Or.inr hx
    · exact Or.inl hx

/-- `self.resolvers.get(typename, {})` keeps the map under construction, and the dict returned is registered under `t` -/
theorem getOrCreate_built (P : String → String → Nat → Prop) (h : RHeap) (outer : List (String × Addr)) (t : String) (hb : Built P h outer) :
    Built P (getOrCreate h outer t).1 (getOrCreate h outer t).2.1 ∧ (t, (getOrCreate h outer t).2.2) ∈ (getOrCreate h outer t).2.1 := by
  obtain ⟨hv, hinj, hent⟩ := hb
  simp only [getOrCreate]
  cases hl : lookup outer t with
  | some a => exact ⟨⟨hv, hinj, hent⟩, lookup_mem_name hl⟩
  | none =>
    -- a new, empty dict at the first free address
    refine ⟨⟨?_, ?_, ?_⟩, by simp⟩
    · intro e he
      simp only [List.mem_append, List.mem_singleton] at he
      rw [size_alloc]
      rcases he with he | rfl
      · exact Nat.lt_succ_of_lt (hv e he)
      · exact Nat.lt_succ_self _
    · intro e1 e2 h1 h2 heq
      simp only [List.mem_append, List.mem_singleton] at h1 h2
      rcases h1 with h1 | rfl <;> rcases h2 with h2 | rfl
      · exact hinj e1 e2 h1 h2 heq
      · have := hv e1 h1; rw [heq] at this; exact absurd this (Nat.lt_irrefl _)
      · have := hv e2 h2; rw [← heq] at this; exact absurd this (Nat.lt_irrefl _)
      · rfl
    · rintro t' f' fn' ⟨a', d', hm', hr', hx'⟩
      simp only [List.mem_append, List.mem_singleton, Prod.mk.injEq] at hm'
      rcases hm' with hm' | ⟨_, rfl⟩
      · rw [read_alloc_old h [] a' (hv _ hm')] at hr'
        exact hent t' f' fn' ⟨a', d', hm', hr', hx'⟩
      · rw [show (h.alloc []).2 = h.size from rfl, read_alloc_new] at hr'
        cases hr'
        simp at hx'

/-- `parent[fieldname] = resolver` on a dict registered under `t` -/
theorem write_built (P : String → String → Nat → Prop) (h : RHeap) (outer : List (String × Addr)) (t f : String) (fn : Nat) (a : Addr) (d : RDict)
    (hb : Built P h outer) (hm : (t, a) ∈ outer) (hd : h.read a = some d) (hp : P t f fn) : Built P (h.write a (dictSet d f fn)) outer := by
  obtain ⟨hv, hinj, hent⟩ := hb
  refine ⟨fun e he => by rw [size_write]; exact hv e he, hinj, ?_⟩
  rintro t' f' fn' ⟨a', d', hm', hr', hx'⟩
  by_cases haa : a = a'
  · subst haa
    rw [read_write_same h a _ (hv _ hm)] at hr'
    cases hr'
    obtain rfl : t' = t := hinj _ _ hm' hm rfl
    rcases mem_dictSet hx' with hx' | hx'
    · cases hx'; exact hp
    · exact hent t' f' fn' ⟨a, d, hm, hd, hx'⟩
  · rw [read_write_other h a a' _ haa] at hr'
    exact hent t' f' fn' ⟨a', d', hm', hr', hx'⟩

theorem registerIn_built (P : String → String → Nat → Prop) (h : RHeap) (outer : List (String × Addr)) (t f : String) (fn : Nat)
    (hb : Built P h outer) (hp : P t f fn) : Built P (registerIn h outer t f fn).1 (registerIn h outer t f fn).2 := by
  obtain ⟨gb, gm⟩ := getOrCreate_built P h outer t hb
  simp only [registerIn]
  split
  · rename_i d hd
    exact write_built P _ _ t f fn _ d gb gm hd hp
  · exact gb

theorem mergeDict_built (P : String → String → Nat → Prop) (keep : String → String → Bool) (t : String) : ∀ (d : RDict) (h : RHeap)
    (outer : List (String × Addr)), Built P h outer → (∀ x, x ∈ d → keep t x.1 = true → P t x.1 x.2) →
      Built P (mergeDict keep t d h outer).1 (mergeDict keep t d h outer).2 := by
  intro d
  induction d with
  | nil => intro h outer hb _; exact hb
  | cons e rest ih =>
    intro h outer hb hp
    obtain ⟨f, fn⟩ := e
    simp only [mergeDict]
    split
    · rename_i hk
      exact ih _ _ (registerIn_built P h outer t f fn hb (hp (f, fn) (by simp) hk)) (fun x hx => hp x (by simp [hx]))
    · exact ih h outer hb (fun x hx => hp x (by simp [hx]))

theorem Built.empty (P : String → String → Nat → Prop) (h : RHeap) : Built P h [] :=
  ⟨fun e he => by simp at he, fun e1 _ he => by simp at he, fun t f fn ⟨a, d, hm, _⟩ => by simp at hm⟩

theorem mergeOuter_built (P : String → String → Nat → Prop) (keep : String → String → Bool) (n : Nat) : ∀ (other : List (String × Addr)) (h : RHeap)
    (outer : List (String × Addr)), n ≤ h.size → RFresh n outer → Built P h outer → (∀ e, e ∈ other → e.2 < n) →
      (∀ e d x, e ∈ other → h.read e.2 = some d → x ∈ d → keep e.1 x.1 = true → P e.1 x.1 x.2) →
      Built P (mergeOuter keep other h outer).1 (mergeOuter keep other h outer).2 := by
  intro other
  induction other with
  | nil => intro h outer _ _ hb _ _; exact hb
  | cons e rest ih =>
    intro h outer hn hf hb hlt hp
    obtain ⟨t, a⟩ := e
    simp only [mergeOuter]
    split
    · rename_i d hd
      obtain ⟨p, q⟩ := mergeDict_ok n keep t d h outer hn hf
      refine ih _ _ (Nat.le_trans hn p.1) q
        (mergeDict_built P keep t d h outer hb (fun x hx hk => hp (t, a) d x (by simp) hd hx hk)) (fun e he => hlt e (by simp [he])) ?_
      intro e d' x he hr hx hk
      rw [p.2 e.2 (hlt e (by simp [he]))] at hr
      exact hp e d' x (by simp [he]) hr hx hk
    · exact ih h outer hn hf hb (fun e he => hlt e (by simp [he])) (fun e d x he => hp e d x (by simp [he]))

end PyGql.Heap.Reg
