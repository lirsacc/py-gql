/-
  `Lay` for the layout helpers of the printer, each against the shape of the grammar view it prints: `sep.join(map f xs)`
  against `xs.map V`, `_wrap(o, ", ".join(…), c)` against `groupV`, `_join([kw, part, …], " ")` against the classes of
  the parts (an empty part is an absent optional item), `_block` against `{ X+ }`.
-/
import PyGqlModel.Lemmas.PrintLayTokens
namespace PyGql.PrintTokens
open PyGql PyGql.Ast PyGql.Parse PyGql.Spec PyGql.Print PyGql.PrintLex PyGql.PrintMatch PyGql.PrintString PyGql.Lex

theorem delimHead_append {a b : Text} (ha : DelimHead a) (hb : DelimHead b) : DelimHead (a ++ b) := by
  cases a with
  | nil => simpa using hb
  | cons x y => intro c t e; simp at e; rw [← e.1]; exact ha x y rfl

abbrev LP := Text × List TokClass

/-- one printed part with the classes it lexes to -/
abbrev part (t : Text) (cs : List TokClass) : LP := (t, cs)

def joinCls (sc : List TokClass) : List LP → List TokClass
  | [] => []
  | p :: ps => p.2 ++ ps.flatMap (fun q => sc ++ q.2)

theorem lay_joinSep (sep : Text) (sc : List TokClass) (hsep : ∀ b cb, Lay b cb → Lay (sep ++ b) (sc ++ cb))
    (hd : ∀ b, DelimHead (sep ++ b)) : ∀ (ps : List LP), (∀ p ∈ ps, Lay p.1 p.2) →
    Lay (joinSep sep (ps.map Prod.fst)) (joinCls sc ps)
  | [], _ => by simpa [joinSep, joinCls] using lay_nil
  | [p], h => by simpa [joinSep, joinCls] using h p (by simp)
  | p :: q :: ps, h => by
    have ih := lay_joinSep sep sc hsep hd (q :: ps) (fun x hx => h x (by simp [hx]))
    have h1 := lay_append (h p (by simp)) (hsep _ _ ih) (hd _)
    simpa [joinSep, joinCls, List.append_assoc] using h1

theorem joinCls_nil (ps : List LP) : joinCls [] ps = ps.flatMap Prod.snd := by
  cases ps with
  | nil => rfl
  | cons p ps => simp [joinCls]

theorem yieldAll_map {α} (f : α → Item) (xs : List α) : Item.yieldAll (xs.map f) = xs.flatMap (fun x => (f x).yield) := by
  induction xs with
  | nil => rfl
  | cons x xs ih => simp [Item.yieldAll, ih]

theorem sep_comma (b : Text) (cb : List TokClass) (h : Lay b cb) : Lay ([44, 32] ++ b) ([] ++ cb) := by
  simpa using lay_comma_cons (lay_space_cons h)
theorem sep_lf (b : Text) (cb : List TokClass) (h : Lay b cb) : Lay ([10] ++ b) ([] ++ cb) := by
  simpa using lay_lf_cons h
theorem sep_space (b : Text) (cb : List TokClass) (h : Lay b cb) : Lay ([32] ++ b) ([] ++ cb) := by
  simpa using lay_space_cons h

theorem lay_joinMap {α} (f : α → Text) (V : α → Item) (sep : Text) (hsep : ∀ b cb, Lay b cb → Lay (sep ++ b) ([] ++ cb))
    (hd : ∀ b, DelimHead (sep ++ b)) (xs : List α) (h : ∀ x ∈ xs, Lay (f x) (V x).yield) :
    Lay (joinSep sep (xs.map f)) (Item.yieldAll (xs.map V)) := by
  have := lay_joinSep sep [] hsep hd (xs.map fun x => part (f x) (V x).yield) (List.forall_mem_map.2 h)
  rw [yieldAll_map]
  simpa [joinCls_nil, List.map_map, List.flatMap_map, Function.comp_def] using this

theorem lay_group {α} (f : α → Text) (V : α → Item) {o c : Nat} {ko kc : TokKind} (ho : symbolKind o = some ko)
    (hc : symbolKind c = some kc) (xs : List α) (h : ∀ x ∈ xs, Lay (f x) (V x).yield) (hne : ∀ x ∈ xs, f x ≠ []) :
    Lay (wrap [o] (join (xs.map f) [44, 32]) [c]) (Item.yieldAll (groupV ko kc V xs)) ∧
    DelimHead (wrap [o] (join (xs.map f) [44, 32]) [c]) ∧ (wrap [o] (join (xs.map f) [44, 32]) [c] = [] ↔ xs = []) := by
  rw [wrap_join_map f [o] [c] xs hne]
  cases xs with
  | nil => exact ⟨by simpa [groupV, Item.yieldAll] using lay_nil, delimHead_nil, by simp⟩
  | cons x xs =>
    have h1 := lay_punct_cons ho (lay_append (lay_joinMap f V _ sep_comma (fun _ => delimHead_cons (by decide +kernel)) _ h)
      (lay_punct_cons hc lay_nil) (delimHead_cons (symbol_facts hc).2.2.2.2.1))
    exact ⟨by simpa [groupV, Item.yieldAll, yieldAll_append, Item.yield] using h1,
      delimHead_cons (symbol_facts ho).2.2.2.2.1, by simp⟩

/-- what `_join` appends after a non-empty first entry: `sep + x` for every non-empty `x` -/
def tailJoin (sep : Text) : List Text → Text
  | [] => []
  | x :: xs => (if x.isEmpty then [] else sep ++ x) ++ tailJoin sep xs

theorem joinSep_cons (sep a : Text) (ys : List Text) : joinSep sep (a :: ys) = a ++ ys.flatMap (sep ++ ·) := by
  induction ys generalizing a with
  | nil => simp [joinSep]
  | cons y ys ih => simp [joinSep, ih]

theorem tailJoin_eq (sep : Text) (xs : List Text) :
    tailJoin sep xs = (xs.filter fun x => !x.isEmpty).flatMap (sep ++ ·) := by
  induction xs with
  | nil => rfl
  | cons x xs ih =>
    simp only [tailJoin, List.filter_cons]
    cases x with
    | nil => simp [ih]
    | cons a b => simp [ih]

theorem join_cons_ne (a : Text) (xs : List Text) (sep : Text) (ha : a ≠ []) :
    join (a :: xs) sep = a ++ tailJoin sep xs := by
  unfold join
  have : (!a.isEmpty) = true := by cases a with | nil => exact absurd rfl ha | cons _ _ => rfl
  rw [List.filter_cons, if_pos this, joinSep_cons, tailJoin_eq]

def wrapS (x : Text) : Text := if x.isEmpty then [] else 32 :: x

theorem lay_wrapS {b : Text} {cb : List TokClass} (hb : Lay b cb) : Lay (wrapS b) cb := lay_wrap_space hb
theorem delimHead_wrapS (b : Text) : DelimHead (wrapS b) := by
  unfold wrapS; split
  · exact delimHead_nil
  · exact delimHead_cons (by decide +kernel)

theorem wrap_space_eq (x : Text) : wrap [32] x = wrapS x := by
  unfold wrap wrapS; split <;> simp

theorem lay_tailJoin : ∀ (ps : List LP), (∀ p ∈ ps, Lay p.1 p.2) →
    Lay (tailJoin [32] (ps.map Prod.fst)) (ps.flatMap Prod.snd) ∧ DelimHead (tailJoin [32] (ps.map Prod.fst))
  | [], _ => ⟨by simpa [tailJoin] using lay_nil, by simpa [tailJoin] using delimHead_nil⟩
  | p :: ps, h => by
    obtain ⟨l1, d1⟩ := lay_tailJoin ps (fun x hx => h x (by simp [hx]))
    have e : tailJoin [32] ((p :: ps).map Prod.fst) = wrapS p.1 ++ tailJoin [32] (ps.map Prod.fst) := by
      simp [tailJoin, wrapS]
    rw [e]
    exact ⟨by simpa using lay_append (lay_wrapS (h p (by simp))) l1 d1, delimHead_append (delimHead_wrapS _) d1⟩

theorem lay_kwJoin (kwT : Text) (kwC : List TokClass) (hkw : Lay kwT kwC) (hne : kwT ≠ []) (ps : List LP)
    (hps : ∀ p ∈ ps, Lay p.1 p.2) :
    Lay (join (kwT :: ps.map Prod.fst) [32]) (kwC ++ ps.flatMap Prod.snd) ∧
    join (kwT :: ps.map Prod.fst) [32] = kwT ++ tailJoin [32] (ps.map Prod.fst) := by
  obtain ⟨l, d⟩ := lay_tailJoin ps hps
  rw [join_cons_ne _ _ _ hne]
  exact ⟨lay_append hkw l d, rfl⟩

theorem join_nosep_cons (a : Text) (xs : List Text) : join (a :: xs) = a ++ join xs := by
  unfold join
  cases a with
  | nil => simp
  | cons x y =>
    simp only [List.filter_cons, List.isEmpty_cons, Bool.not_false, ↓reduceIte]
    rw [joinSep_cons]
    generalize (xs.filter fun x => !x.isEmpty) = ys
    induction ys with
    | nil => simp [joinSep]
    | cons z zs ih => cases zs <;> simp_all [joinSep]
theorem join_nosep_nil : join ([] : List Text) = [] := rfl

theorem indentText_ne (s ind : Text) (h : s ≠ []) : indentText s ind ≠ [] := by
  unfold indentText
  cases s with
  | nil => exact absurd rfl h
  | cons a b =>
    simp only [List.isEmpty_cons, Bool.false_eq_true, ↓reduceIte, replaceLF]
    split <;> simp

theorem block_eq (arr : List Text) (ind : Text) (hne : arr ≠ []) (h : ∀ x ∈ arr.map (fun s => indentText s ind), x ≠ []) :
    block arr ind = 123 :: 10 :: (joinSep [10] (arr.map fun s => indentText s ind) ++ [10, 125]) := by
  unfold block
  have : arr.isEmpty = false := by cases arr with | nil => exact absurd rfl hne | cons _ _ => rfl
  simp [this, join_eq_joinSep _ _ h]

theorem lay_block (ind : Text) (hind : Blank ind) (ps : List LP) (hne : ps ≠ []) (h : ∀ p ∈ ps, Lay p.1 p.2)
    (hnn : ∀ p ∈ ps, p.1 ≠ []) :
    Lay (block (ps.map Prod.fst) ind) ((.curlyL, []) :: (ps.flatMap Prod.snd ++ [(.curlyR, [])])) ∧
    ∃ pre, block (ps.map Prod.fst) ind = 123 :: (pre ++ [125]) := by
  have hne' : ps.map Prod.fst ≠ [] := by simpa using hne
  have hnn' : ∀ x ∈ (ps.map Prod.fst).map (fun s => indentText s ind), x ≠ [] := by
    intro x hx
    simp only [List.mem_map] at hx
    obtain ⟨y, ⟨p, hp, rfl⟩, rfl⟩ := hx
    exact indentText_ne _ _ (hnn p hp)
  rw [block_eq _ _ hne' hnn']
  have hl := lay_joinSep [10] [] sep_lf (fun b => delimHead_cons (by decide +kernel))
    (ps.map fun p => (indentText p.1 ind, p.2))
    (by intro q hq; simp only [List.mem_map] at hq; obtain ⟨p, hp, rfl⟩ := hq; exact lay_indentText hind (h p hp))
  have e1 : (ps.map fun p => (indentText p.1 ind, p.2)).map Prod.fst = (ps.map Prod.fst).map (fun s => indentText s ind) := by
    simp [List.map_map, Function.comp_def]
  have e2 : joinCls [] (ps.map fun p => (indentText p.1 ind, p.2)) = ps.flatMap Prod.snd := by
    rw [joinCls_nil]; simp [List.flatMap_map]
  rw [e1, e2] at hl
  have h1 := lay_curlyL (lay_lf_cons (lay_append hl (lay_lf_cons (lay_curlyR lay_nil)) (delimHead_cons (by decide +kernel))))
  exact ⟨by simpa using h1, ⟨10 :: (joinSep [10] ((ps.map Prod.fst).map fun s => indentText s ind) ++ [10]), by simp⟩⟩

end PyGql.PrintTokens
