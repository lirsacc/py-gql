/-
  Nested values and types: every member of `v.subs` / `t.subs` is a sub-node of the view of the whole and inherits its
  well-formedness; a value that is well-formed in a constant position is well-formed in any.
-/
import PyGqlModel.Lemmas.ItemSlice
import PyGqlModel.Shift
namespace PyGql.Spec
open PyGql PyGql.Ast PyGql.Parse

theorem typeV_node (t : TypeRef) : ∃ is, typeV t = .node t.loc is := by
  cases t <;> simp [typeV, namedTypeV, TypeRef.loc]

theorem valueV_node (v : Value) : ∃ is, valueV v = .node v.loc is := by
  cases v <;> simp [valueV, variableV, stringV, Value.loc]

theorem subs_type_sub : ∀ (t w : TypeRef), w ∈ t.subs → Item.Sub (typeV w) (typeV t) ∧ (wfType t = true → wfType w = true)
  | .named t, w, h => by
    simp [TypeRef.subs] at h; subst h; exact ⟨.refl, id⟩
  | .list t loc, w, h => by
    simp only [TypeRef.subs, List.mem_cons] at h
    rcases h with rfl | h
    · exact ⟨.refl, id⟩
    · obtain ⟨a, b⟩ := subs_type_sub t w h
      exact ⟨by simp only [typeV]; exact .node (i := typeV t) (by simp) a, fun hw => b (by simpa [wfType] using hw)⟩
  | .nonNull t loc, w, h => by
    simp only [TypeRef.subs, List.mem_cons] at h
    rcases h with rfl | h
    · exact ⟨.refl, id⟩
    · obtain ⟨a, b⟩ := subs_type_sub t w h
      exact ⟨by simp only [typeV]; exact .node (i := typeV t) (by simp) a,
        fun hw => b (by simp [wfType] at hw; exact hw.1)⟩

mutual
theorem subs_value_sub (c : Bool) : ∀ (v w : Value), w ∈ v.subs →
    Item.Sub (valueV w) (valueV v) ∧ (wfValue c v = true → wfValue c w = true)
  | .var v, w, h => by simp [Value.subs] at h; subst h; exact ⟨.refl, id⟩
  | .int v loc, w, h => by simp [Value.subs] at h; subst h; exact ⟨.refl, id⟩
  | .float v loc, w, h => by simp [Value.subs] at h; subst h; exact ⟨.refl, id⟩
  | .string s, w, h => by simp [Value.subs] at h; subst h; exact ⟨.refl, id⟩
  | .boolean b loc, w, h => by simp [Value.subs] at h; subst h; exact ⟨.refl, id⟩
  | .null loc, w, h => by simp [Value.subs] at h; subst h; exact ⟨.refl, id⟩
  | .enum v loc, w, h => by simp [Value.subs] at h; subst h; exact ⟨.refl, id⟩
  | .list vs loc, w, h => by
    simp only [Value.subs, List.mem_cons] at h
    rcases h with rfl | h
    · exact ⟨.refl, id⟩
    · obtain ⟨i, hi, a, b⟩ := subs_values_sub c vs w h
      exact ⟨by simp only [valueV]; exact .node (i := i) (by simp [hi]) a, fun hw => b (by simpa [wfValue] using hw)⟩
  | .object fs loc, w, h => by
    simp only [Value.subs, List.mem_cons] at h
    rcases h with rfl | h
    · exact ⟨.refl, id⟩
    · obtain ⟨i, hi, a, b⟩ := subs_fields_sub c fs w h
      exact ⟨by simp only [valueV]; exact .node (i := i) (by simp [hi]) a, fun hw => b (by simpa [wfValue] using hw)⟩
termination_by structural v => v
theorem subs_values_sub (c : Bool) : ∀ (vs : List Value) (w : Value), w ∈ subsValues vs →
    ∃ i ∈ valuesV vs, Item.Sub (valueV w) i ∧ (wfValues c vs = true → wfValue c w = true)
  | [], w, h => by simp [subsValues] at h
  | v :: vs, w, h => by
    simp only [subsValues, List.mem_append] at h
    rcases h with h | h
    · obtain ⟨a, b⟩ := subs_value_sub c v w h
      exact ⟨valueV v, by simp [valuesV], a, fun hw => b (by simp [wfValues] at hw; exact hw.1)⟩
    · obtain ⟨i, hi, a, b⟩ := subs_values_sub c vs w h
      exact ⟨i, by simp [valuesV, hi], a, fun hw => b (by simp [wfValues] at hw; exact hw.2)⟩
termination_by structural vs => vs
theorem subs_field_sub (c : Bool) : ∀ (x : ObjectField) (w : Value), w ∈ x.subs →
    Item.Sub (valueV w) (objectFieldV x) ∧ (wfField c x = true → wfValue c w = true)
  | .mk n v loc, w, h => by
    simp only [ObjectField.subs] at h
    obtain ⟨a, b⟩ := subs_value_sub c v w h
    exact ⟨by simp only [objectFieldV]; exact .node (i := valueV v) (by simp) a, fun hw => b (by simpa [wfField] using hw)⟩
termination_by structural x => x
theorem subs_fields_sub (c : Bool) : ∀ (fs : List ObjectField) (w : Value), w ∈ subsFields fs →
    ∃ i ∈ fieldsV fs, Item.Sub (valueV w) i ∧ (wfFields c fs = true → wfValue c w = true)
  | [], w, h => by simp [subsFields] at h
  | x :: fs, w, h => by
    simp only [subsFields, List.mem_append] at h
    rcases h with h | h
    · obtain ⟨a, b⟩ := subs_field_sub c x w h
      exact ⟨objectFieldV x, by simp [fieldsV], a, fun hw => b (by simp [wfFields] at hw; exact hw.1)⟩
    · obtain ⟨i, hi, a, b⟩ := subs_fields_sub c fs w h
      exact ⟨i, by simp [fieldsV, hi], a, fun hw => b (by simp [wfFields] at hw; exact hw.2)⟩
termination_by structural fs => fs
end

mutual
theorem wfValue_weaken : ∀ v : Value, wfValue true v = true → wfValue false v = true
  | .var v, h => by simp [wfValue] at h
  | .int v loc, _ => by simp [wfValue]
  | .float v loc, _ => by simp [wfValue]
  | .string s, _ => by simp [wfValue]
  | .boolean b loc, _ => by simp [wfValue]
  | .null loc, _ => by simp [wfValue]
  | .enum v loc, h => by simpa [wfValue] using h
  | .list vs loc, h => by simp only [wfValue] at h ⊢; exact wfValues_weaken vs h
  | .object fs loc, h => by simp only [wfValue] at h ⊢; exact wfFields_weaken fs h
theorem wfValues_weaken : ∀ vs : List Value, wfValues true vs = true → wfValues false vs = true
  | [], _ => by simp [wfValues]
  | v :: vs, h => by
    simp only [wfValues, Bool.and_eq_true] at h ⊢
    exact ⟨wfValue_weaken v h.1, wfValues_weaken vs h.2⟩
theorem wfField_weaken : ∀ x : ObjectField, wfField true x = true → wfField false x = true
  | .mk n v loc, h => by simp only [wfField] at h ⊢; exact wfValue_weaken v h
theorem wfFields_weaken : ∀ fs : List ObjectField, wfFields true fs = true → wfFields false fs = true
  | [], _ => by simp [wfFields]
  | x :: fs, h => by
    simp only [wfFields, Bool.and_eq_true] at h ⊢
    exact ⟨wfField_weaken x h.1, wfFields_weaken fs h.2⟩
end

theorem wfValue_of_const (c : Bool) (v : Value) (h : wfValue c v = true) : wfValue false v = true := by
  cases c with
  | false => exact h
  | true => exact wfValue_weaken v h

end PyGql.Spec
