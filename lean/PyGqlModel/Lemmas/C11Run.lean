/-
  C11 — when a `do` block of the builder returns a value.

  A block in `Except` returns `b` exactly when each step returns something and the rest, run on that, returns `b`
  (`bind_ok_iff`); with one such rule per combinator (`pure`, `failIf`, `if`, `mapM`, `foldlM`) the statement
  `block = .ok b` rewrites to the list of its step results, in both directions at once:
  `simp only [f, bind_ok_iff, failIf_ok_iff, pure_ok_iff, exists_const]`.  The two loops of the builder that register
  names (`appendNew`, and the folds of `_extend_<kind>_type` over the extension blocks) get their exact success
  conditions here.
-/
import PyGqlModel.Spec.SdlSpec
import PyGqlModel.SdlExtend
import PyGqlModel.Lemmas.ExceptBasics
import PyGqlModel.Lemmas.ListBasics

namespace PyGql.Sdl.Run
open PyGql PyGql.Sdl PyGql.SdlSpec

export PyGql.Except (bind_ok_iff pure_ok_iff ok_ok_iff guard_ok_iff mapM_cons_ok_iff mapM_append_ok_iff mapM_ok_map
  foldlM_cons_ok_iff foldlM_singleton_ok_iff)

theorem failIf_ok_iff {c : Bool} {e : Err} {u : Unit} : failIf c e = .ok u ↔ c = false := by
  cases c
  · exact ⟨fun _ => rfl, fun _ => rfl⟩
  · exact ⟨fun h => (nomatch h), fun h => (nomatch h)⟩

theorem _root_.PyGql.Except.FailsWith.failIf {P : Err → Prop} {c : Bool} {err : Err} (h : P err) :
    Except.FailsWith P (failIf c err) :=
  .ite (.error h) (.pure ())

theorem appendNew_cons {α} (errE : Err) (name : α → String) (acc : List α) (x : α) (xs : List α) :
    appendNew errE name acc (x :: xs)
      = if acc.any (fun y => name y == name x) then .error errE else appendNew errE name (acc ++ [x]) xs := rfl

theorem appendNew_append {α} (errE : Err) (name : α → String) (ys xs : List α) : ∀ acc : List α,
    appendNew errE name acc (xs ++ ys) = appendNew errE name acc xs >>= fun a => appendNew errE name a ys := by
  induction xs with
  | nil => exact fun _ => rfl
  | cons x xs ih =>
    intro acc
    rw [List.cons_append, appendNew_cons, appendNew_cons]
    split
    · rfl
    · exact ih _

theorem any_name_iff {α} (name : α → String) (l : List α) (n : String) : l.any (fun y => name y == n) = true ↔ n ∈ l.map name :=
  List.any_beq_iff_mem_map name l n

theorem appendNew_ok_iff {α} (errE : Err) (name : α → String) (xs : List α) : ∀ acc r : List α,
    appendNew errE name acc xs = .ok r ↔ ((∀ x ∈ xs, name x ∉ acc.map name) ∧ (xs.map name).Nodup) ∧ r = acc ++ xs := by
  induction xs with
  | nil =>
    intro acc r
    rw [List.append_nil]
    exact ok_ok_iff.trans ⟨fun h => ⟨⟨fun _ h' => (nomatch h'), List.nodup_nil⟩, h.symm⟩, fun h => h.2.symm⟩
  | cons x xs ih =>
    intro acc r
    rw [appendNew_cons, guard_ok_iff, any_name_iff, ih, List.append_assoc, List.singleton_append, List.map_cons, List.nodup_cons,
      List.forall_mem_cons]
    have hs : (∀ y ∈ xs, name y ∉ (acc ++ [x]).map name) ↔ (∀ y ∈ xs, name y ∉ acc.map name) ∧ name x ∉ xs.map name := by
      simp only [List.map_append, List.mem_append, List.map_singleton, List.mem_singleton, not_or, List.mem_map, not_exists, not_and]
      exact ⟨fun h => ⟨fun y hy => (h y hy).1, fun y hy e => (h y hy).2 e⟩, fun h y hy => ⟨h.1 y hy, fun e => h.2 y hy e⟩⟩
    rw [hs]
    exact ⟨fun ⟨a, ⟨⟨b, c⟩, d⟩, e⟩ => ⟨⟨⟨a, b⟩, c, d⟩, e⟩, fun ⟨⟨⟨a, b⟩, c, d⟩, e⟩ => ⟨a, ⟨⟨b, c⟩, d⟩, e⟩⟩

theorem appendNew_ok_iff_nodup {α} (errE : Err) (name : α → String) (xs acc r : List α) (hacc : (acc.map name).Nodup) :
    appendNew errE name acc xs = .ok r ↔ ((acc ++ xs).map name).Nodup ∧ r = acc ++ xs := by
  rw [appendNew_ok_iff, List.map_append, List.nodup_append]
  refine and_congr_left fun _ => ⟨fun h => ⟨hacc, h.2, fun a ha b hb e => ?_⟩, fun h => ⟨fun x hx hm => ?_, h.2.1⟩⟩
  · obtain ⟨y, hy, rfl⟩ := List.mem_map.mp hb
    exact h.1 y hy (e ▸ ha)
  · exact h.2.2 _ hm _ (List.mem_map_of_mem hx) rfl

/-- the merge loop of `_extend_<kind>_type` is, as far as success goes, one `appendNew` of all the blocks' members (`k u e`, `u`
    what the step `g` of the block yields); which error comes first is another matter -/
theorem mergeFold_ok_iff {E γ β} (errE : Err) (name : β → String) (g : E → R γ) (k : γ → E → List β) (es : List E) :
    ∀ init r : List β,
    es.foldlM (fun acc e => do let u ← g e; appendNew errE name acc (k u e)) init = .ok r ↔
      ∃ news, es.mapM (fun e => do let u ← g e; pure (k u e)) = .ok news ∧ appendNew errE name init news.flatten = .ok r := by
  induction es with
  | nil => exact fun init r => ⟨fun h => ⟨[], rfl, h⟩, fun ⟨_, h, hr⟩ => by cases h; exact hr⟩
  | cons e es ih =>
    intro init r
    rw [foldlM_cons_ok_iff]
    constructor
    · rintro ⟨a, ha, hr⟩
      obtain ⟨u, hu, ha⟩ := bind_ok_iff.mp ha
      obtain ⟨news, hnews, hr⟩ := (ih a r).mp hr
      refine ⟨k u e :: news, mapM_cons_ok_iff.mpr ⟨_, _, bind_ok_iff.mpr ⟨u, hu, rfl⟩, hnews, rfl⟩, ?_⟩
      rw [List.flatten_cons, appendNew_append, ha]
      exact hr
    · rintro ⟨news, hnews, hr⟩
      obtain ⟨new, news', hnew, hnews', rfl⟩ := mapM_cons_ok_iff.mp hnews
      obtain ⟨u, hu, hk⟩ := bind_ok_iff.mp hnew
      cases hk
      rw [List.flatten_cons, appendNew_append] at hr
      obtain ⟨a, ha, hr⟩ := bind_ok_iff.mp hr
      exact ⟨a, bind_ok_iff.mpr ⟨u, hu, ha⟩, (ih a r).mpr ⟨news', hnews', hr⟩⟩

theorem collect_ok_iff (doc : Doc) : ∀ acc c : Collected, doc.foldlM collectStep acc = .ok c ↔
    (appendNew (.lib .sdl) TypeDef.name acc.types (typeDefs doc) = .ok c.types ∧ ∀ t ∈ typeDefs doc, isDefaultName t.name = false) ∧
    appendNew (.lib .sdl) DirDef.name acc.directives (dirDefs doc) = .ok c.directives ∧
    (acc.schemaDef.toList ++ schemaDefs doc).length ≤ 1 ∧ c.schemaDef = acc.schemaDef.or (schemaDefs doc).head? := by
  induction doc with
  | nil =>
    intro acc c
    obtain ⟨s, ts, ds⟩ := acc
    obtain ⟨s', ts', ds'⟩ := c
    refine ok_ok_iff.trans ⟨fun h => ?_, fun ⟨⟨h1, _⟩, h2, _, h3⟩ => ?_⟩
    · cases h
      refine ⟨⟨rfl, fun _ h' => (nomatch h')⟩, rfl, ?_, Option.or_none.symm⟩
      cases s
      · exact Nat.zero_le 1
      · exact Nat.le_refl 1
    · cases ok_ok_iff.mp h1
      cases ok_ok_iff.mp h2
      cases (h3.trans Option.or_none : s' = s)
      rfl
  | cons d ds ih =>
    intro acc c
    rw [foldlM_cons_ok_iff]
    cases d with
    | type t =>
      rw [show typeDefs (Def.type t :: ds) = t :: typeDefs ds from rfl, collectStep]
      simp only [sdlErr, guard_ok_iff, pure_ok_iff, appendNew_cons, List.forall_mem_cons, Bool.not_eq_true]
      constructor
      · rintro ⟨a, ⟨h1, h2, rfl⟩, h⟩
        obtain ⟨⟨h3, h4⟩, h5⟩ := (ih _ c).mp h
        exact ⟨⟨⟨h1, h3⟩, h2, h4⟩, h5⟩
      · rintro ⟨⟨⟨h1, h3⟩, h2, h4⟩, h5⟩
        exact ⟨_, ⟨h1, h2, rfl⟩, (ih _ c).mpr ⟨⟨h3, h4⟩, h5⟩⟩
    | directive x =>
      rw [show dirDefs (Def.directive x :: ds) = x :: dirDefs ds from rfl, collectStep]
      simp only [sdlErr, guard_ok_iff, pure_ok_iff, appendNew_cons]
      constructor
      · rintro ⟨a, ⟨h1, rfl⟩, h⟩
        obtain ⟨h2, h3, h4⟩ := (ih _ c).mp h
        exact ⟨h2, ⟨h1, h3⟩, h4⟩
      · rintro ⟨h2, ⟨h1, h3⟩, h4⟩
        exact ⟨_, ⟨h1, rfl⟩, (ih _ c).mpr ⟨h2, h3, h4⟩⟩
    | schema sd =>
      rw [show schemaDefs (Def.schema sd :: ds) = sd :: schemaDefs ds from rfl, collectStep]
      simp only [sdlErr, guard_ok_iff, pure_ok_iff]
      obtain ⟨s, ts, dd⟩ := acc
      -- a second `schema` block is refused on the left, and makes two blocks on the right
      cases s with
      | some _ =>
        exact ⟨fun ⟨_, ⟨h1, _⟩, _⟩ => absurd rfl h1,
          fun ⟨_, _, h4, _⟩ => absurd (Nat.le_of_succ_le_succ h4) (Nat.not_succ_le_zero _)⟩
      | none =>
        constructor
        · rintro ⟨a, ⟨_, rfl⟩, h⟩
          exact (ih _ c).mp h
        · exact fun h => ⟨_, ⟨Bool.false_ne_true, rfl⟩, (ih _ c).mpr h⟩
    | ext _ => exact ⟨fun ⟨a, ha, h⟩ => (ih acc c).mp (ok_ok_iff.mp ha ▸ h), fun h => ⟨acc, rfl, (ih acc c).mpr h⟩⟩
    | schemaExt _ => exact ⟨fun ⟨a, ha, h⟩ => (ih acc c).mp (ok_ok_iff.mp ha ▸ h), fun h => ⟨acc, rfl, (ih acc c).mpr h⟩⟩
    | other => exact ⟨fun ⟨a, ha, h⟩ => (ih acc c).mp (ok_ok_iff.mp ha ▸ h), fun h => ⟨acc, rfl, (ih acc c).mpr h⟩⟩

theorem collectDefinitions_ok_iff (doc : Doc) (c : Collected) : collectDefinitions doc = .ok c ↔
    (((typeDefs doc).map (·.name)).Nodup ∧ (∀ t ∈ typeDefs doc, isDefaultName t.name = false) ∧ ((dirDefs doc).map (·.name)).Nodup ∧
      (schemaDefs doc).length ≤ 1) ∧
    c.types = typeDefs doc ∧ c.directives = dirDefs doc ∧ c.schemaDef = (schemaDefs doc).head? := by
  refine (collect_ok_iff doc {} c).trans ?_
  rw [appendNew_ok_iff_nodup _ TypeDef.name _ [] _ List.nodup_nil, appendNew_ok_iff_nodup _ DirDef.name _ [] _ List.nodup_nil]
  exact ⟨fun ⟨⟨⟨h1, e1⟩, h2⟩, ⟨h3, e2⟩, h4, e3⟩ => ⟨⟨h1, h2, h3, h4⟩, e1, e2, e3⟩,
    fun ⟨⟨h1, h2, h3, h4⟩, e1, e2, e3⟩ => ⟨⟨⟨h1, e1⟩, h2⟩, ⟨h3, e2⟩, h4, e3⟩⟩

/-- the first loop of `_collect_extensions`; `ht`, `hd`: the type and directive names the schema has (a definition of such a
    name, like a `schema` block, is skipped, and refused when `strict`) -/
theorem collectExt_ok_iff (ht hd : String → Bool) (strict : Bool) (doc : Doc) : ∀ acc c : ExtCollected,
    doc.foldlM (collectExtStep ht hd strict) acc = .ok c ↔
      (strict = true → schemaDefs doc = [] ∧ (∀ t ∈ typeDefs doc, ht t.name = false) ∧ ∀ x ∈ dirDefs doc, hd x.name = false) ∧
      appendNew (.lib .ext) TypeDef.name acc.typeDefs ((typeDefs doc).filter fun t => !ht t.name) = .ok c.typeDefs ∧
      appendNew (.lib .ext) DirDef.name acc.dirDefs ((dirDefs doc).filter fun x => !hd x.name) = .ok c.dirDefs ∧
      c.typeExts = acc.typeExts ++ typeExts doc ∧ c.schemaExts = acc.schemaExts ++ schemaExtensions doc := by
  induction doc with
  | nil =>
    intro acc c
    obtain ⟨a1, a2, a3, a4⟩ := acc
    obtain ⟨c1, c2, c3, c4⟩ := c
    refine ok_ok_iff.trans ⟨fun h => ?_, fun ⟨_, h2, h3, h4, h5⟩ => ?_⟩
    · cases h
      exact ⟨fun _ => ⟨rfl, fun _ h' => (nomatch h'), fun _ h' => (nomatch h')⟩, rfl, rfl, (List.append_nil _).symm, (List.append_nil _).symm⟩
    · cases ok_ok_iff.mp h2
      cases ok_ok_iff.mp h3
      cases (h4.trans (List.append_nil _) : c4 = a4)
      cases (h5.trans (List.append_nil _) : c1 = a1)
      rfl
  | cons d ds ih =>
    intro acc c
    rw [foldlM_cons_ok_iff]
    have skip : (∃ a, (¬ strict = true ∧ acc = a) ∧ ds.foldlM (collectExtStep ht hd strict) a = .ok c) ↔ ¬ strict = true ∧
        appendNew (.lib .ext) TypeDef.name acc.typeDefs ((typeDefs ds).filter fun t => !ht t.name) = .ok c.typeDefs ∧
        appendNew (.lib .ext) DirDef.name acc.dirDefs ((dirDefs ds).filter fun x => !hd x.name) = .ok c.dirDefs ∧
        c.typeExts = acc.typeExts ++ typeExts ds ∧ c.schemaExts = acc.schemaExts ++ schemaExtensions ds := by
      constructor
      · rintro ⟨_, ⟨hs, rfl⟩, h⟩
        exact ⟨hs, ((ih acc c).mp h).2⟩
      · rintro ⟨hs, h⟩
        exact ⟨acc, ⟨hs, rfl⟩, (ih acc c).mpr ⟨fun h' => absurd h' hs, h⟩⟩
    cases d with
    | type t =>
      rw [show typeDefs (Def.type t :: ds) = t :: typeDefs ds from rfl, collectExtStep]
      cases hk : ht t.name with
      | true =>
        rw [if_pos rfl, List.filter_cons_of_neg (by rw [hk]; exact Bool.false_ne_true)]
        simp only [extErr, guard_ok_iff, pure_ok_iff, List.forall_mem_cons, hk, Bool.true_eq_false, false_and, and_false, imp_false]
        exact skip
      | false =>
        rw [if_neg Bool.false_ne_true, List.filter_cons_of_pos (by rw [hk]; rfl)]
        simp only [extErr, guard_ok_iff, pure_ok_iff, appendNew_cons, List.forall_mem_cons, hk, true_and]
        constructor
        · rintro ⟨_, ⟨h1, rfl⟩, h⟩
          obtain ⟨h0, h2, h3⟩ := (ih _ c).mp h
          exact ⟨h0, ⟨h1, h2⟩, h3⟩
        · rintro ⟨h0, ⟨h1, h2⟩, h3⟩
          exact ⟨_, ⟨h1, rfl⟩, (ih _ c).mpr ⟨h0, h2, h3⟩⟩
    | directive x =>
      rw [show dirDefs (Def.directive x :: ds) = x :: dirDefs ds from rfl, collectExtStep]
      cases hk : hd x.name with
      | true =>
        rw [if_pos rfl, List.filter_cons_of_neg (by rw [hk]; exact Bool.false_ne_true)]
        simp only [extErr, guard_ok_iff, pure_ok_iff, List.forall_mem_cons, hk, Bool.true_eq_false, false_and, and_false, imp_false]
        exact skip
      | false =>
        rw [if_neg Bool.false_ne_true, List.filter_cons_of_pos (by rw [hk]; rfl)]
        simp only [extErr, guard_ok_iff, pure_ok_iff, appendNew_cons, List.forall_mem_cons, hk, true_and]
        constructor
        · rintro ⟨_, ⟨h1, rfl⟩, h⟩
          obtain ⟨h0, h2, h3, h4⟩ := (ih _ c).mp h
          exact ⟨h0, h2, ⟨h1, h3⟩, h4⟩
        · rintro ⟨h0, h2, ⟨h1, h3⟩, h4⟩
          exact ⟨_, ⟨h1, rfl⟩, (ih _ c).mpr ⟨h0, h2, h3, h4⟩⟩
    | schema sd =>
      rw [show schemaDefs (Def.schema sd :: ds) = sd :: schemaDefs ds from rfl, collectExtStep]
      simp only [extErr, guard_ok_iff, pure_ok_iff, reduceCtorEq, false_and, imp_false]
      exact skip
    | ext e =>
      rw [show typeExts (Def.ext e :: ds) = e :: typeExts ds from rfl, List.append_cons]
      exact ⟨fun ⟨a, ha, h⟩ => (ih { acc with typeExts := acc.typeExts ++ [e] } c).mp (ok_ok_iff.mp ha ▸ h),
        fun h => ⟨_, rfl, (ih { acc with typeExts := acc.typeExts ++ [e] } c).mpr h⟩⟩
    | schemaExt se =>
      rw [show schemaExtensions (Def.schemaExt se :: ds) = se :: schemaExtensions ds from rfl, List.append_cons]
      exact ⟨fun ⟨a, ha, h⟩ => (ih { acc with schemaExts := acc.schemaExts ++ [se] } c).mp (ok_ok_iff.mp ha ▸ h),
        fun h => ⟨_, rfl, (ih { acc with schemaExts := acc.schemaExts ++ [se] } c).mpr h⟩⟩
    | other => exact ⟨fun ⟨a, ha, h⟩ => (ih acc c).mp (ok_ok_iff.mp ha ▸ h), fun h => ⟨acc, rfl, (ih acc c).mpr h⟩⟩

theorem filterTargets_ok_iff (ht : String → Bool) (strict : Bool) (nd : List TypeDef) (es : List TypeDef) : ∀ r : List TypeDef,
    filterTargets ht strict nd es = .ok r ↔
      (strict = true → ∀ e ∈ es, (nd.any (·.name == e.name) || ht e.name) = true) ∧
      r = es.filter fun e => nd.any (·.name == e.name) || ht e.name := by
  induction es with
  | nil => exact fun r => ok_ok_iff.trans ⟨fun h => ⟨fun _ _ h' => (nomatch h'), h.symm⟩, fun h => h.2.symm⟩
  | cons x xs ih =>
    intro r
    rw [filterTargets, List.filter_cons, List.forall_mem_cons]
    cases hx : (nd.any (·.name == x.name) || ht x.name) with
    | true =>
      simp only [if_true, bind_ok_iff, pure_ok_iff, ih, true_and]
      exact ⟨fun ⟨_, ⟨h, rfl⟩, hr⟩ => ⟨h, hr.symm⟩, fun ⟨h, hr⟩ => ⟨_, ⟨h, rfl⟩, hr.symm⟩⟩
    | false =>
      simp only [Bool.false_eq_true, if_false, extErr, guard_ok_iff, ih, false_and, imp_false]
      exact ⟨fun ⟨hs, _, hr⟩ => ⟨hs, hr⟩, fun ⟨hs, hr⟩ => ⟨hs, fun h => absurd h hs, hr⟩⟩

theorem collectExtensions_ok_iff (live : Live) (doc : Doc) (strict : Bool) (c : ExtCollected) :
    collectExtensions live doc strict = .ok c ↔
      (strict = true → (schemaDefs doc = [] ∧ (∀ t ∈ typeDefs doc, live.hasType t.name = false) ∧ ∀ x ∈ dirDefs doc, live.hasDirective x.name = false) ∧
        ∀ e ∈ typeExts doc, (c.typeDefs.any (·.name == e.name) || live.hasType e.name) = true) ∧
      appendNew (.lib .ext) TypeDef.name [] ((typeDefs doc).filter fun t => !live.hasType t.name) = .ok c.typeDefs ∧
      appendNew (.lib .ext) DirDef.name [] ((dirDefs doc).filter fun x => !live.hasDirective x.name) = .ok c.dirDefs ∧
      c.typeExts = (typeExts doc).filter (fun e => c.typeDefs.any (·.name == e.name) || live.hasType e.name) ∧
      c.schemaExts = schemaExtensions doc := by
  unfold collectExtensions
  simp only [bind_ok_iff, pure_ok_iff, collectExt_ok_iff, filterTargets_ok_iff]
  constructor
  · rintro ⟨c0, ⟨h0, h1, h2, h3, h4⟩, _, ⟨h5, rfl⟩, rfl⟩
    exact ⟨fun hs => ⟨h0 hs, h3 ▸ h5 hs⟩, h1, h2, h3 ▸ rfl, h4⟩
  · rintro ⟨h0, h1, h2, h3, h4⟩
    exact ⟨{ c with typeExts := typeExts doc }, ⟨fun hs => (h0 hs).1, h1, h2, rfl, h4⟩, _, ⟨fun hs => (h0 hs).2, rfl⟩,
      by rw [← h3]⟩

end PyGql.Sdl.Run
