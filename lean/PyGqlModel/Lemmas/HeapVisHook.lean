/-
  C14 — the hooks of `VisibilitySchemaTransform` in closed form.

  The visibility visitor never rebuilds an argument, a field or an object / interface type: it drops a hidden type, and filters the
  member list of a visible one IN PLACE (`setFields`). Only an input object whose input fields mention a hidden type is rebuilt, by
  the base visitor. `onType_vis` states this once; what the property theorems say about the hook is read off it.
-/
import PyGqlModel.Lemmas.HeapClosedTypes


namespace PyGql.Heap.Own
open PyGql.Heap

/-- `map_and_filter` with a hook that writes nothing and keeps or drops each element is `filter` -/
theorem mapFilter_filter {f : Heap → Addr → Heap × Option Addr} {q : Heap → Addr → Bool}
    (hf : ∀ h a, f h a = (h, if q h a then some a else none)) : ∀ (as : List Addr) (h : Heap), mapFilter f h as = (h, as.filter (q h)) := by
  intro as
  induction as with
  | nil => intro h; rfl
  | cons a as ih =>
    intro h
    simp only [mapFilter, hf, ih, List.filter_cons]
    cases q h a <;> rfl

theorem mapFilter_same {f : Heap → Addr → Heap × Option Addr} (hf : ∀ h a, f h a = (h, some a)) (as : List Addr) (h : Heap) :
    mapFilter f h as = (h, as) :=
  (mapFilter_filter (q := fun _ _ => true) hf as h).trans (congrArg (Prod.mk h) (List.filter_eq_self.mpr fun _ _ => rfl))

/-- `object_type.fields = kept`, performed only when it changes the list -/
def setFields (h : Heap) (a : Addr) (t : TypeO) (kept : List Addr) : Heap :=
  if kept != t.fields then h.write a (.type { t with fields := kept }) else h

/-- a continuation run after the assignment, in the model's spelling (`if kept != t.fields then … write … else …`) -/
theorem setFields_ite {α : Type} (f : Heap → TypeO → α) (h : Heap) (a : Addr) (t : TypeO) (kept : List Addr) :
    (if (kept != t.fields) = true then f (h.write a (.type { t with fields := kept })) { t with fields := kept } else f h t) =
      f (setFields h a t kept) { t with fields := kept } := by
  simp only [setFields]
  split
  · rfl
  · rename_i hne
    obtain rfl := bne_false_eq hne
    rfl

theorem setFields_pair (h : Heap) (a : Addr) (t : TypeO) (kept : List Addr) (x : Option Addr) :
    (if (kept != t.fields) = true then (h.write a (.type { t with fields := kept }), x) else (h, x)) = (setFields h a t kept, x) :=
  setFields_ite (fun h' _ => (h', x)) h a t kept

section
variable {h : Heap} {a : Addr} {t : TypeO} (ht : h.readType a = some t) (kept : List Addr)
include ht

theorem setFields_readType : (setFields h a t kept).readType a = some { t with fields := kept } := by
  simp only [setFields]
  split
  · exact readType_write_self h a _ (readType_lt' ht)
  · rename_i hne
    rw [bne_false_eq hne]
    exact ht

theorem setFields_step (hs : kept.Sublist t.fields) : StepImp chkT h (setFields h a t kept) := by
  simp only [setFields]
  split
  · exact write_type_fields chkT h a t kept ht hs
  · exact StepImp.refl chkT h

/-- nothing but the type object at `a` is written -/
theorem setFields_reads : (∀ c, (setFields h a t kept).readField c = h.readField c) ∧ (∀ c, (setFields h a t kept).readArg c = h.readArg c) ∧
    ∀ x, x ≠ a → (setFields h a t kept).readType x = h.readType x := by
  simp only [setFields]
  split
  · have hlt := readType_lt' ht
    have hra := readType_read ht
    refine ⟨fun c => ?_, fun c => ?_, fun x hx => ?_⟩
    · by_cases hca : c = a
      · subst hca
        simp only [Heap.readField, read_write_self h c _ hlt, hra]
      · simp only [Heap.readField, read_write_other h a c _ (fun e => hca e.symm)]
    · by_cases hca : c = a
      · subst hca
        simp only [Heap.readArg, read_write_self h c _ hlt, hra]
      · simp only [Heap.readArg, read_write_other h a c _ (fun e => hca e.symm)]
    · simp only [Heap.readType, read_write_other h a x _ (fun e => hx e.symm)]
  · exact ⟨fun _ => rfl, fun _ => rfl, fun _ _ => rfl⟩

end

variable (p : VisP) (reg : List (String × Addr))

theorem onArgument_vis (h : Heap) (a : Addr) : onArgument (.vis p) reg h a = (h, some a) := by
  simp only [onArgument]
  split <;> rfl

theorem onField_vis (tn : String) (h : Heap) (c : Addr) : onField (.vis p) reg tn h c = (h, some c) := by
  simp only [onField]
  split
  · rfl
  · simp only [onFieldBase, mapFilter_same (onArgument_vis p reg), bne_self_eq_false, Bool.false_eq_true, if_false]

theorem compositeRest_vis (a : Addr) (h : Heap) (t : TypeO) : compositeRest (.vis p) reg a h t = (h, some a) := by
  simp only [compositeRest, mapFilter_same (onField_vis p reg t.name), rebuiltOrSame, bne_self_eq_false, Bool.false_eq_true, if_false]

/-- `is_type_visible` of an input field's type (an address that holds no argument object is kept) -/
def inputTypeVis (p : VisP) (h : Heap) (c : Addr) : Bool :=
  match h.readArg c with
  | none => true
  | some g => p.isTypeVisible g.ty.base.name

theorem onInputField_vis (h : Heap) (c : Addr) : onInputField (.vis p) reg h c = (h, if inputTypeVis p h c then some c else none) := by
  cases hg : h.readArg c with
  | none => simp only [onInputField, inputTypeVis, hg, if_true]
  | some g =>
    simp only [onInputField, inputTypeVis, hg]
    split <;> rfl

/-- input fields of hidden types are dropped (the type object is rebuilt if any is); then the type itself is dropped if hidden -/
theorem inputRest_vis (a : Addr) (nm : String) (h : Heap) (t : TypeO) :
    inputRest (.vis p) reg a nm h t =
      ((rebuiltOrSame h a t (t.fields.filter (inputTypeVis p h))).1,
        if p.isTypeVisible nm then some (rebuiltOrSame h a t (t.fields.filter (inputTypeVis p h))).2 else none) := by
  simp only [inputRest, mapFilter_filter (onInputField_vis p reg)]
  split <;> rfl

/-- the members of a type the visibility predicates accept: `is_field_visible` for object / interface types, `is_input_field_visible`
    for input objects (a member that cannot be read is kept) -/
def visKept (p : VisP) (h : Heap) (t : TypeO) : List Addr :=
  match t.kind with
  | .object | .interface => t.fields.filter fun fa => match fieldName h fa with | some fnm => p.fieldVis t.name fnm | none => true
  | .input => t.fields.filter fun fa => match argName h fa with | some fnm => p.inputVis t.name fnm | none => true
  | _ => t.fields

theorem visKept_sublist (h : Heap) (t : TypeO) : (visKept p h t).Sublist t.fields := by
  simp only [visKept]
  cases t.kind
  all_goals first | exact List.filter_sublist | exact List.Sublist.refl _

theorem visKept_field {h : Heap} {t : TypeO} {c : Addr} {f : FieldO} (hk : t.kind = Kind.object ∨ t.kind = Kind.interface)
    (hc : c ∈ visKept p h t) (hf : h.readField c = some f) : p.fieldVis t.name f.name = true := by
  have hc2 : c ∈ t.fields.filter fun fa => match fieldName h fa with | some fnm => p.fieldVis t.name fnm | none => true := by
    rcases hk with hk | hk <;> simpa only [visKept, hk] using hc
  simpa only [fieldName, hf, Option.map_some] using (List.mem_filter.mp hc2).2

theorem visKept_input {h : Heap} {t : TypeO} {c : Addr} {g : ArgO} (hk : t.kind = Kind.input) (hc : c ∈ visKept p h t)
    (hg : h.readArg c = some g) : p.inputVis t.name g.name = true := by
  have hc2 : c ∈ t.fields.filter fun fa => match argName h fa with | some fnm => p.inputVis t.name fnm | none => true := by
    simpa only [visKept, hk] using hc
  simpa only [argName, hg, Option.map_some] using (List.mem_filter.mp hc2).2

/-- `on_schema`'s dispatch for the visibility visitor on the type object `t` at `a`: an object / interface / union / enum / scalar
    type is dropped if hidden and otherwise has its member list filtered in place; an input object has its member list filtered in
    place, hidden or not, and then runs through the base visitor -/
theorem onType_vis {h : Heap} {a : Addr} {t : TypeO} (ht : h.readType a = some t) :
    onType (.vis p) reg h a =
      if t.kind = Kind.input then inputRest (.vis p) reg a t.name (setFields h a t (visKept p h t)) { t with fields := visKept p h t }
      else if p.isTypeVisible t.name then (setFields h a t (visKept p h t), some a) else (h, none) := by
  have same : setFields h a t t.fields = h := by simp only [setFields, bne_self_eq_false, Bool.false_eq_true, if_false]
  simp only [onType, ht]
  cases hk : t.kind <;> simp only [visKept, hk, reduceCtorEq, if_false, if_true, same]
  · simp only [onComposite, compositeRest_vis, setFields_pair]
    cases p.isTypeVisible t.name <;> rfl
  · simp only [onComposite, compositeRest_vis, setFields_pair]
    cases p.isTypeVisible t.name <;> rfl
  · rfl
  · rfl
  · rw [← hk]
    exact setFields_ite (fun h' t' => inputRest (.vis p) reg a t.name h' t') h a t _
  · rfl

theorem onType_vis_snd {h : Heap} {a : Addr} {t : TypeO} (ht : h.readType a = some t) :
    (onType (.vis p) reg h a).2.isSome = p.isTypeVisible t.name := by
  rw [onType_vis p reg ht]
  split
  · rw [inputRest_vis]
    cases p.isTypeVisible t.name <;> rfl
  · cases p.isTypeVisible t.name <;> rfl

end PyGql.Heap.Own
