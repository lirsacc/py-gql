/-
  C13 — the clauses of `TypeOK` (Spec/SchemaValidSpec.lean) read off for a type of a given kind.
-/
import PyGqlModel.Spec.SchemaValidSpec

namespace PyGql.SchemaValidSpec
open PyGql PyGql.SchemaValid

theorem TypeOK.fieldsOK {s : SchemaD} {rv : Bool} {t : TypeD} (h : TypeOK s rv t)
    (hk : t.kind = .object ∨ t.kind = .interface) : FieldsOK s rv t := by
  have h2 := h.2
  rcases hk with hk | hk <;> rw [hk] at h2
  · exact h2.1
  · exact h2

theorem TypeOK.inputOK {s : SchemaD} {rv : Bool} {t : TypeD} (h : TypeOK s rv t) (hk : t.kind = .input) :
    InputOK s t := by
  have h2 := h.2
  rw [hk] at h2
  exact h2

theorem TypeOK.nameOK {s : SchemaD} {rv : Bool} {t : TypeD} (h : TypeOK s rv t) : t.builtin = true ∨ ValidName t.name :=
  h.1

theorem TypeOK.interfacesOK {s : SchemaD} {rv : Bool} {t : TypeD} (h : TypeOK s rv t) (hk : t.kind = .object) :
    InterfacesOK s t := by
  have h2 := h.2
  rw [hk] at h2
  exact h2.2

theorem TypeOK.unionOK {s : SchemaD} {rv : Bool} {t : TypeD} (h : TypeOK s rv t) (hk : t.kind = .union) : UnionOK s t := by
  have h2 := h.2
  rw [hk] at h2
  exact h2

theorem TypeOK.enumOK {s : SchemaD} {rv : Bool} {t : TypeD} (h : TypeOK s rv t) (hk : t.kind = .enum) : EnumOK t := by
  have h2 := h.2
  rw [hk] at h2
  exact h2

end PyGql.SchemaValidSpec
