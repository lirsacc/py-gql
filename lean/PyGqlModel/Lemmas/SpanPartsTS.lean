/-
  The parts of a TYPE-SYSTEM definition or extension (description, directives, field definitions, enum values, input
  values, named types) and of its members: each is a sub-node of the view of the whole and well-formed when the whole is.
  The enumerations of `SpanValsTS`, `SpanDirsTS` and `SpanTypes` are unions over these parts, so that each of their
  lemmas is a membership split followed by one step of transitivity.
-/
import PyGqlModel.Lemmas.SpanSels
namespace PyGql.Ast
open PyGql

def Definition.fdefs : Definition → List FieldDefinition
  | .objectTypeDefinition _ _ _ _ fields _ => fields
  | .interfaceTypeDefinition _ _ _ fields _ => fields
  | .objectTypeExtension _ _ _ fields _ => fields
  | .interfaceTypeExtension _ _ fields _ => fields
  | _ => []
def Definition.evdefs : Definition → List EnumValueDefinition
  | .enumTypeDefinition _ _ _ values _ => values
  | .enumTypeExtension _ _ values _ => values
  | _ => []
/-- the input fields of an input object type, the arguments of a directive definition -/
def Definition.inputs : Definition → List InputValueDefinition
  | .inputObjectTypeDefinition _ _ _ fields _ => fields
  | .inputObjectTypeExtension _ _ fields _ => fields
  | .directiveDefinition _ _ args _ _ => args
  | _ => []
def Definition.ownDirs : Definition → List Directive
  | .schemaDefinition dirs _ _ => dirs
  | .scalarTypeDefinition _ _ dirs _ => dirs
  | .objectTypeDefinition _ _ _ dirs _ _ => dirs
  | .interfaceTypeDefinition _ _ dirs _ _ => dirs
  | .unionTypeDefinition _ _ dirs _ _ => dirs
  | .enumTypeDefinition _ _ dirs _ _ => dirs
  | .inputObjectTypeDefinition _ _ dirs _ _ => dirs
  | .schemaExtension dirs _ _ => dirs
  | .scalarTypeExtension _ dirs _ => dirs
  | .objectTypeExtension _ _ dirs _ _ => dirs
  | .interfaceTypeExtension _ dirs _ _ => dirs
  | .unionTypeExtension _ dirs _ _ => dirs
  | .enumTypeExtension _ dirs _ _ => dirs
  | .inputObjectTypeExtension _ dirs _ _ => dirs
  | _ => []
/-- the description of a type-system definition itself (extensions have none) -/
def Definition.ownDesc : Definition → Option StringValue
  | .scalarTypeDefinition desc _ _ _ => desc
  | .objectTypeDefinition desc _ _ _ _ _ => desc
  | .interfaceTypeDefinition desc _ _ _ _ => desc
  | .unionTypeDefinition desc _ _ _ _ => desc
  | .enumTypeDefinition desc _ _ _ _ => desc
  | .inputObjectTypeDefinition desc _ _ _ _ => desc
  | .directiveDefinition desc _ _ _ _ => desc
  | _ => none
/-- the `NamedType` nodes directly under a type-system definition: interfaces, union members, root operation types -/
def Definition.named : Definition → List NamedType
  | .schemaDefinition _ ops _ => ops.map (·.type)
  | .schemaExtension _ ops _ => ops.map (·.type)
  | .objectTypeDefinition _ _ ifs _ _ _ => ifs
  | .objectTypeExtension _ ifs _ _ _ => ifs
  | .unionTypeDefinition _ _ _ types _ => types
  | .unionTypeExtension _ _ types _ => types
  | _ => []

end PyGql.Ast

namespace PyGql.Spec
open PyGql PyGql.Ast PyGql.Parse

theorem band_left {a b : Bool} (h : (a && b) = true) : a = true := (Bool.and_eq_true_iff.1 h).1
theorem band_right {a b : Bool} (h : (a && b) = true) : b = true := (Bool.and_eq_true_iff.1 h).2

theorem SubL.block {α} {j : Item} (f : α → Item) {xs : List α} {x : α} (hx : x ∈ xs) (h : Item.Sub j (f x)) :
    SubL j (blockV f xs) := by
  unfold blockV
  have : xs.isEmpty = false := by cases xs with | nil => cases hx | cons _ _ => rfl
  simp only [this, Bool.false_eq_true, if_false]
  exact (SubL.map f hx h).left _ |>.tail _

theorem SubL.flatSep {α} {j : Item} (sep : TokKind) (f : α → Item) : ∀ {xs : List α} {x : α}, x ∈ xs →
    Item.Sub j (f x) → SubL j (xs.flatMap fun y => [p sep, f y])
  | [], _, hx, _ => by cases hx
  | y :: ys, x, hx, h => by
    simp only [List.flatMap_cons]
    rcases List.mem_cons.1 hx with rfl | hx'
    · exact ((SubL.head [] h).tail _).left _
    · exact (SubL.flatSep sep f hx' h).right _

theorem SubL.sep {α} {j : Item} (sep : TokKind) (f : α → Item) {xs : List α} {x : α} (hx : x ∈ xs)
    (h : Item.Sub j (f x)) : SubL j (sepV sep f xs) := by
  cases xs with
  | nil => cases hx
  | cons y ys =>
    simp only [sepV]
    rcases List.mem_cons.1 hx with rfl | hx'
    · exact (SubL.head _ h).tail _
    · exact ((SubL.flatSep sep f hx' h).tail _).tail _

theorem desc_mem (o : Option StringValue) (w : StringValue) (h : w ∈ o) : SubL (stringV w) (descV o) := by
  cases h
  exact SubL.head _ .refl

theorem named_implements (ts : List NamedType) (t : NamedType) (ht : t ∈ ts) : SubL (namedTypeV t) (implementsV ts) := by
  unfold implementsV
  have : ts.isEmpty = false := by cases ts with | nil => cases ht | cons _ _ => rfl
  simp only [this, Bool.false_eq_true, if_false]
  exact (SubL.sep .amp namedTypeV ht .refl).tail _

theorem named_union (ts : List NamedType) (t : NamedType) (ht : t ∈ ts) : SubL (namedTypeV t) (unionMembersV ts) := by
  unfold unionMembersV
  have : ts.isEmpty = false := by cases ts with | nil => cases ht | cons _ _ => rfl
  simp only [this, Bool.false_eq_true, if_false]
  exact (SubL.sep .pipe namedTypeV ht .refl).tail _

theorem named_operationTypes (ops : List OperationTypeDefinition) (t : NamedType) (ht : t ∈ ops.map (·.type)) :
    SubL (namedTypeV t) (ops.map operationTypeV) ∧ SubL (namedTypeV t) (blockV operationTypeV ops) := by
  obtain ⟨o, ho, rfl⟩ := List.mem_map.1 ht
  have hs : Item.Sub (namedTypeV o.type) (operationTypeV o) := ((SubL.head [] .refl).tail _ |>.tail _).node _
  exact ⟨SubL.map operationTypeV ho hs, SubL.block operationTypeV ho hs⟩

theorem inputValue_parts (d : InputValueDefinition) :
    (∀ s ∈ d.description, Item.Sub (stringV s) (inputValueV d)) ∧
    (Item.Sub (typeV d.type) (inputValueV d) ∧ (wfInputValue d = true → wfType d.type = true)) ∧
    ((∀ j, SubL j (defaultV d.defaultValue) → Item.Sub j (inputValueV d)) ∧
      (wfInputValue d = true → wfDefault d.defaultValue = true)) ∧
    (∀ w ∈ d.directives, Item.Sub (directiveV w) (inputValueV d) ∧ (wfInputValue d = true → wfDirective true w = true)) := by
  unfold inputValueV
  simp only [wfInputValue, Bool.and_eq_true]
  refine ⟨fun s h => ?_, ⟨?_, fun hh => hh.1.1⟩, ⟨fun j h1 => ?_, fun hh => hh.1.2⟩, fun w h => ⟨?_, fun hh => all_mem hh.2 h⟩⟩
  · have h1 := desc_mem _ s h
    exact (h1.left _).node _
  · have h1 : SubL (typeV d.type) [typeV d.type] := SubL.head _ .refl
    exact ((((SubL.head _ .refl).tail _).tail _).right _).node _
  · exact (h1.left _ |>.tail _ |>.tail _ |>.tail _ |>.right _).node _
  · have h1 := SubL.map directiveV h .refl
    exact (h1.right _ |>.tail _ |>.tail _ |>.tail _ |>.right _).node _

theorem enumValueDefinition_parts (d : EnumValueDefinition) :
    (∀ s ∈ d.description, Item.Sub (stringV s) (enumValueDefinitionV d)) ∧
    (∀ w ∈ d.directives,
      Item.Sub (directiveV w) (enumValueDefinitionV d) ∧ (wfEnumValueDefinition d = true → wfDirective true w = true)) := by
  unfold enumValueDefinitionV
  simp only [wfEnumValueDefinition, Bool.and_eq_true]
  refine ⟨fun s h => ?_, fun w h => ⟨?_, fun hh => all_mem hh.2 h⟩⟩
  · have h1 := desc_mem _ s h
    exact (h1.left _).node _
  · have h1 := SubL.map directiveV h .refl
    exact (h1.tail _ |>.right _).node _

theorem fieldDefinition_parts (d : FieldDefinition) :
    (∀ s ∈ d.description, Item.Sub (stringV s) (fieldDefinitionV d)) ∧
    (∀ a ∈ d.arguments, Item.Sub (inputValueV a) (fieldDefinitionV d) ∧ (wfFieldDefinition d = true → wfInputValue a = true)) ∧
    (Item.Sub (typeV d.type) (fieldDefinitionV d) ∧ (wfFieldDefinition d = true → wfType d.type = true)) ∧
    (∀ w ∈ d.directives, Item.Sub (directiveV w) (fieldDefinitionV d) ∧ (wfFieldDefinition d = true → wfDirective true w = true)) := by
  unfold fieldDefinitionV
  simp only [wfFieldDefinition, Bool.and_eq_true]
  refine ⟨fun s h => ?_, fun a h => ⟨?_, fun hh => all_mem hh.1.1 h⟩, ⟨?_, fun hh => hh.1.2⟩,
    fun w h => ⟨?_, fun hh => all_mem hh.2 h⟩⟩
  · have h1 := desc_mem _ s h
    exact (h1.left _).node _
  · have h1 := SubL.group .parenL .parenR inputValueV h .refl
    exact (h1.left _ |>.tail _ |>.right _).node _
  · exact (((((SubL.head _ .refl).tail _).right _).tail _).right _).node _
  · have h1 := SubL.map directiveV h .refl
    exact (h1.tail _ |>.tail _ |>.right _ |>.tail _ |>.right _).node _

theorem definition_ownDesc (x : Definition) (s : StringValue) (h : s ∈ x.ownDesc) :
    Item.Sub (stringV s) (definitionV x) := by
  have h1 := desc_mem _ s h
  cases x with
  | scalarTypeDefinition desc name dirs loc => exact (h1.left _).node _
  | objectTypeDefinition desc name ifs dirs fields loc => exact (h1.left _).node _
  | interfaceTypeDefinition desc name dirs fields loc => exact (h1.left _).node _
  | unionTypeDefinition desc name dirs types loc => exact (h1.left _).node _
  | enumTypeDefinition desc name dirs values loc => exact (h1.left _).node _
  | inputObjectTypeDefinition desc name dirs fields loc => exact (h1.left _).node _
  | directiveDefinition desc name args locations loc => exact (h1.left _).node _
  | _ => cases h

theorem definition_ownDirs (fl : Flags) (x : Definition) (w : Directive) (h : w ∈ x.ownDirs) :
    Item.Sub (directiveV w) (definitionV x) ∧ (wfDefinition fl x = true → wfDirective true w = true) := by
  have h1 := SubL.map directiveV h .refl
  cases x with
  | schemaDefinition dirs ops loc =>
    exact ⟨(h1.left _ |>.tail _).node _, fun hh => all_mem (band_left (band_left hh)) h⟩
  | scalarTypeDefinition desc name dirs loc => exact ⟨(h1.tail _ |>.tail _ |>.right _).node _, fun hh => all_mem hh h⟩
  | objectTypeDefinition desc name ifs dirs fields loc =>
    exact ⟨(h1.right _ |>.left _ |>.tail _ |>.tail _ |>.right _).node _, fun hh => all_mem (band_left hh) h⟩
  | interfaceTypeDefinition desc name dirs fields loc =>
    exact ⟨(h1.left _ |>.tail _ |>.tail _ |>.right _).node _, fun hh => all_mem (band_left hh) h⟩
  | unionTypeDefinition desc name dirs types loc => exact ⟨(h1.left _ |>.tail _ |>.tail _ |>.right _).node _, fun hh => all_mem hh h⟩
  | enumTypeDefinition desc name dirs values loc =>
    exact ⟨(h1.left _ |>.tail _ |>.tail _ |>.right _).node _, fun hh => all_mem (band_left hh) h⟩
  | inputObjectTypeDefinition desc name dirs fields loc =>
    exact ⟨(h1.left _ |>.tail _ |>.tail _ |>.right _).node _, fun hh => all_mem (band_left hh) h⟩
  | schemaExtension dirs ops loc =>
    exact ⟨(h1.left _ |>.tail _ |>.tail _).node _, fun hh => all_mem (band_left (band_left hh)) h⟩
  | scalarTypeExtension name dirs loc =>
    exact ⟨(h1.tail _ |>.tail _ |>.tail _).node _, fun hh => all_mem (band_left hh) h⟩
  | objectTypeExtension name ifs dirs fields loc =>
    exact ⟨(h1.right _ |>.left _ |>.tail _ |>.tail _ |>.tail _).node _, fun hh => all_mem (band_left (band_left hh)) h⟩
  | interfaceTypeExtension name dirs fields loc =>
    exact ⟨(h1.left _ |>.tail _ |>.tail _ |>.tail _).node _, fun hh => all_mem (band_left (band_left hh)) h⟩
  | unionTypeExtension name dirs types loc =>
    exact ⟨(h1.left _ |>.tail _ |>.tail _ |>.tail _).node _, fun hh => all_mem (band_left hh) h⟩
  | enumTypeExtension name dirs values loc =>
    exact ⟨(h1.left _ |>.tail _ |>.tail _ |>.tail _).node _, fun hh => all_mem (band_left (band_left hh)) h⟩
  | inputObjectTypeExtension name dirs fields loc =>
    exact ⟨(h1.left _ |>.tail _ |>.tail _ |>.tail _).node _, fun hh => all_mem (band_left (band_left hh)) h⟩
  | _ => exact (List.not_mem_nil h).elim

theorem definition_fdefs (fl : Flags) (x : Definition) (w : FieldDefinition) (h : w ∈ x.fdefs) :
    Item.Sub (fieldDefinitionV w) (definitionV x) ∧ (wfDefinition fl x = true → wfFieldDefinition w = true) := by
  have h1 := SubL.block fieldDefinitionV h .refl
  cases x with
  | objectTypeDefinition desc name ifs dirs fields loc =>
    exact ⟨(h1.right _ |>.tail _ |>.tail _ |>.right _).node _, fun hh => all_mem (band_right hh) h⟩
  | interfaceTypeDefinition desc name dirs fields loc =>
    exact ⟨(h1.right _ |>.tail _ |>.tail _ |>.right _).node _, fun hh => all_mem (band_right hh) h⟩
  | objectTypeExtension name ifs dirs fields loc =>
    exact ⟨(h1.right _ |>.tail _ |>.tail _ |>.tail _).node _, fun hh => all_mem (band_right (band_left hh)) h⟩
  | interfaceTypeExtension name dirs fields loc =>
    exact ⟨(h1.right _ |>.tail _ |>.tail _ |>.tail _).node _, fun hh => all_mem (band_right (band_left hh)) h⟩
  | _ => exact (List.not_mem_nil h).elim

theorem definition_evdefs (fl : Flags) (x : Definition) (w : EnumValueDefinition) (h : w ∈ x.evdefs) :
    Item.Sub (enumValueDefinitionV w) (definitionV x) ∧ (wfDefinition fl x = true → wfEnumValueDefinition w = true) := by
  have h1 := SubL.block enumValueDefinitionV h .refl
  cases x with
  | enumTypeDefinition desc name dirs values loc =>
    exact ⟨(h1.right _ |>.tail _ |>.tail _ |>.right _).node _, fun hh => all_mem (band_right hh) h⟩
  | enumTypeExtension name dirs values loc =>
    exact ⟨(h1.right _ |>.tail _ |>.tail _ |>.tail _).node _, fun hh => all_mem (band_right (band_left hh)) h⟩
  | _ => exact (List.not_mem_nil h).elim

theorem definition_inputs (fl : Flags) (x : Definition) (w : InputValueDefinition) (h : w ∈ x.inputs) :
    Item.Sub (inputValueV w) (definitionV x) ∧ (wfDefinition fl x = true → wfInputValue w = true) := by
  cases x with
  | inputObjectTypeDefinition desc name dirs fields loc =>
    have h1 := SubL.block inputValueV h .refl
    exact ⟨(h1.right _ |>.tail _ |>.tail _ |>.right _).node _, fun hh => all_mem (band_right hh) h⟩
  | inputObjectTypeExtension name dirs fields loc =>
    have h1 := SubL.block inputValueV h .refl
    exact ⟨(h1.right _ |>.tail _ |>.tail _ |>.tail _).node _, fun hh => all_mem (band_right (band_left hh)) h⟩
  | directiveDefinition desc name args locations loc =>
    have h1 := SubL.group .parenL .parenR inputValueV h .refl
    exact ⟨(h1.left _ |>.tail _ |>.tail _ |>.tail _ |>.right _).node _, fun hh => all_mem (band_left (band_left hh)) h⟩
  | _ => exact (List.not_mem_nil h).elim

theorem definition_named (x : Definition) (t : NamedType) (h : t ∈ x.named) :
    Item.Sub (namedTypeV t) (definitionV x) := by
  cases x with
  | schemaDefinition dirs ops loc =>
    have h1 := (named_operationTypes ops t h).1
    exact (h1.left _ |>.tail _ |>.right _ |>.tail _).node _
  | schemaExtension dirs ops loc =>
    have h1 := (named_operationTypes ops t h).2
    exact (h1.right _ |>.tail _ |>.tail _).node _
  | objectTypeDefinition desc name ifs dirs fields loc =>
    have h1 := named_implements ifs t h
    exact (h1.left _ |>.left _ |>.tail _ |>.tail _ |>.right _).node _
  | objectTypeExtension name ifs dirs fields loc =>
    have h1 := named_implements ifs t h
    exact (h1.left _ |>.left _ |>.tail _ |>.tail _ |>.tail _).node _
  | unionTypeDefinition desc name dirs types loc =>
    have h1 := named_union types t h
    exact (h1.right _ |>.tail _ |>.tail _ |>.right _).node _
  | unionTypeExtension name dirs types loc =>
    have h1 := named_union types t h
    exact (h1.right _ |>.tail _ |>.tail _ |>.tail _).node _
  | _ => exact (List.not_mem_nil h).elim

end PyGql.Spec
