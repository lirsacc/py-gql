/-
  `OverlappingFieldsCanBeMergedChecker`: FUEL SUFFICIENCY: the five search functions, one step of the fuel
  each, all five together by induction on the fuel, and `find_conflicts_within_selection_set` - for the search of
  `ValidateOverlapG.lean` with the memo flag as a variable (the memo only cuts calls). Then the walk of the rule run alone:
  on a document whose selection sets are ranked (`RankOk`) the run ends WITHOUT A CRASH.
-/
import PyGqlModel.Lemmas.ValidateOverlapComplete
import PyGqlModel.Lemmas.ValidateOverlapFuel
import PyGqlModel.Lemmas.ValidateOverlapWalk
namespace PyGql.Validate
open PyGql PyGql.Validate.Spec

section
variable (s : SchemaD) (fx : Fixes) (memo : Bool) (d : Doc) (ρ : Nat → Nat)

/-- `_fields_and_fragments` on a selection set: ranks of what it returns -/
theorem ff_rank (hR : RankOk s d ρ) {c : OCtx} (hc : CI s d c) {p : Option String} {i : Nat} {sels : List Sel}
    (h1 : SelSet d i sels) (h2 : Adm s d i p) :
    CI s d (fieldsAndFragments s p i sels c).2 ∧
    EntOK (fun _ e => Ent s d e) (fieldsAndFragments s p i sels c).1.1 ∧
    RkB ρ (ρ i - 2) (fieldsAndFragments s p i sels c).1.1 ∧
    (∀ g ∈ (fieldsAndFragments s p i sels c).1.2, fragRank ρ d g + 2 ≤ ρ i) ∧
    (fieldsAndFragments s p i sels c).2.crash = c.crash := by
  obtain ⟨⟨p', a1, a2⟩, a3, a4, a5⟩ := fieldsAndFragments_sound s d p i sels c hc.cache h2
  refine ⟨⟨a5.trans hc.frags, a4⟩, entOK_ent a2 h1 a1, ?_, ?_, ff_crash s p i sels c⟩
  · intro q hq e he
    have := hR.sub i sels p' q.1 e h1 (a2 q hq e he)
    show entryRank ρ e ≤ ρ i - 2
    omega
  · intro g hg
    exact hR.spr i sels g h1 (a3 g hg)

theorem fragRank_eq {c : OCtx} (hc : CI s d c) {name on : String} {fid : Nat} {fsels : List Sel}
    (hg : AL.get? c.frags name = some (on, fid, fsels)) : fragRank ρ d name = ρ fid := by
  rw [hc.frags] at hg
  simp only [fragRank, hg]

theorem ff_frag_rank (hR : RankOk s d ρ) {c : OCtx} (hc : CI s d c) {name on : String} {fid : Nat} {fsels : List Sel}
    (hg : AL.get? c.frags name = some (on, fid, fsels)) :
    CI s d (fieldsAndFragments s ((typeFromAst s (.named on)).map (·.base)) fid fsels c).2 ∧
    EntOK (fun _ e => Ent s d e) (fieldsAndFragments s ((typeFromAst s (.named on)).map (·.base)) fid fsels c).1.1 ∧
    RkB ρ (fragRank ρ d name - 2) (fieldsAndFragments s ((typeFromAst s (.named on)).map (·.base)) fid fsels c).1.1 ∧
    (∀ g ∈ (fieldsAndFragments s ((typeFromAst s (.named on)).map (·.base)) fid fsels c).1.2,
      fragRank ρ d g + 2 ≤ fragRank ρ d name) ∧
    2 ≤ fragRank ρ d name ∧
    (fieldsAndFragments s ((typeFromAst s (.named on)).map (·.base)) fid fsels c).2.crash = c.crash := by
  have hg' : AL.get? (fragTable d) name = some (on, fid, fsels) := by rw [← hc.frags]; exact hg
  have hadm : Adm s d fid (fragParent s on) := .frag hg'
  rw [fragRank_eq s d ρ hc hg]
  obtain ⟨a, b, c', e, f⟩ := ff_rank s d ρ hR hc (fragTable_selSet hg') hadm
  exact ⟨a, b, c', e, hR.two _ _ (fragTable_selSet hg'), f⟩

theorem withFreshCmp_crash (f : OCtx → Nat × OCtx)
    (hf : ∀ c, CI s d c → CI s d (f c).2 ∧ (f c).2.crash = c.crash) (c : OCtx) (hc : CI s d c) :
    CI s d (withFreshCmp f c).2 ∧ (withFreshCmp f c).2.crash = c.crash := by
  unfold withFreshCmp
  obtain ⟨a, b⟩ := hf { c with cmp := [] } (hc.cmp _)
  exact ⟨a.cmp _, b⟩

/-- The N family `NFindG NCbG NFfG NFrG NSsG`, one predicate per search function: under the ranking `ρ`, a call whose fuel covers
    the ranks of what it is called on returns the crash flag as it found it (it does not run out of fuel). -/
def NFindG (fuel : Nat) : Prop :=
  ∀ pme f1 f2 c, CI s d c → Ent s d f1 → Ent s d f2 → entryRank ρ f1 + entryRank ρ f2 + 5 ≤ fuel →
    (findConflictG s fx memo fuel pme f1 f2 c).2.crash = c.crash

def NCbG (fuel : Nat) : Prop :=
  ∀ me fm1 fm2 c m1 m2, CI s d c → EntOK (fun _ e => Ent s d e) fm1 → EntOK (fun _ e => Ent s d e) fm2 →
    RkB ρ m1 fm1 → RkB ρ m2 fm2 → m1 + m2 + 6 ≤ fuel →
    (conflictsBetweenG s fx memo fuel me fm1 fm2 c).2.crash = c.crash

def NFfG (fuel : Nat) : Prop :=
  ∀ me ssid fm name c m, CI s d c → EntOK (fun _ e => Ent s d e) fm → RkB ρ m fm →
    m + fragRank ρ d name + 6 ≤ fuel →
    (betweenFieldsAndFragmentG s fx memo fuel me ssid fm name c).2.crash = c.crash

def NFrG (fuel : Nat) : Prop :=
  ∀ me f1 f2 c, CI s d c → fragRank ρ d f1 + fragRank ρ d f2 + 6 ≤ fuel →
    (betweenFragmentsG s fx memo fuel me (some f1) (some f2) c).2.crash = c.crash

def NSsG (fuel : Nat) : Prop :=
  ∀ me p1 id1 sels1 p2 id2 sels2 c, CI s d c → SelSet d id1 sels1 → Adm s d id1 p1 → SelSet d id2 sels2 →
    Adm s d id2 p2 → ρ id1 + ρ id2 + 4 ≤ fuel →
    (betweenSubselectionsG s fx memo fuel me p1 id1 sels1 p2 id2 sels2 c).2.crash = c.crash

theorem nstepG_find (fuel : Nat) (hss : NSsG s fx memo d ρ fuel) : NFindG s fx memo d ρ (fuel + 1) := by
  intro pme f1 f2 c hc h1 h2 hr
  refine findConflictG_cases s fx memo (motive := fun r => r.2.crash = c.crash) fuel pme f1 f2 c
    (fun _ hsa => absurd hsa (sameArguments_some _ _)) (fun _ _ => rfl) (fun _ _ _ _ _ _ => rfl)
    (fun _ _ s1 s2 r hr' => ?_) (fun _ _ _ => rfl)
  obtain ⟨hs1, a1⟩ := h1.sub s1
  obtain ⟨hs2, a2⟩ := h2.sub s2
  rw [hr']
  refine hss _ _ _ _ _ _ _ c hc hs1 a1 hs2 a2 ?_
  simp only [entryRank, s1, s2, ↓reduceIte] at hr
  omega

theorem nstepG_cb (h7 : fx.v7 = true) (fuel : Nat) (hf : NFindG s fx memo d ρ fuel) : NCbG s fx memo d ρ (fuel + 1) := by
  intro me fm1 fm2 c m1 m2 hc h1 h2 r1 r2 hr
  obtain ⟨sf, _⟩ := searchG_sound s fx memo d h7 fuel
  rw [conflictsBetweenG_succ]
  refine (sumLoop_crash fm1 _ (CI s d) (fun q hq c hc => ?_) c hc).2
  split
  · exact ⟨hc, rfl⟩
  · rename_i fields2 hg
    refine sumLoop_crash q.2 _ (CI s d) (fun f1 hf1 c hc => ?_) c hc
    refine sumLoop_crash fields2 _ (CI s d) (fun f2 hf2 c hc => ?_) c hc
    have k1 : entryRank ρ f1 ≤ m1 := r1 _ hq f1 hf1
    have k2 : entryRank ρ f2 ≤ m2 := entOK_get r2 hg f2 hf2
    exact ⟨(sf me f1 f2 c hc (h1 _ hq f1 hf1) (entOK_get h2 hg f2 hf2)).1,
      hf me f1 f2 c hc (h1 _ hq f1 hf1) (entOK_get h2 hg f2 hf2) (by omega)⟩

theorem nstepG_ff (hR : RankOk s d ρ) (h7 : fx.v7 = true) (fuel : Nat) (hcb : NCbG s fx memo d ρ fuel)
    (hff : NFfG s fx memo d ρ fuel) : NFfG s fx memo d ρ (fuel + 1) := by
  intro me ssid fm name c m hc h1 hm hr
  obtain ⟨_, scb, sff, _, _⟩ := searchG_sound s fx memo d h7 fuel
  refine betweenFieldsAndFragmentG_cases s fx memo (motive := fun r => r.2.crash = c.crash) fuel me ssid fm name c
    (fun _ => rfl) (fun _ _ => rfl) (fun _ _ _ _ _ => rfl) ?_
  intro _ on fid fsels ff c' hg _ hff'
  obtain ⟨b1, b2, b3, b4, b5, b6⟩ := ff_frag_rank s d ρ hR
    (c := { c with cmp := name :: c.cmp, ffp := if memo = true then (ssid, name, me) :: c.ffp else c.ffp })
    ⟨hc.frags, hc.cache⟩ (name := name) hg
  simp only [hff'] at b1 b2 b3 b4 b6
  refine ⟨fun _ => b6, fun _ r1 r2 e1 e2 => ?_⟩
  have k0 : r1.2.crash = c'.crash := e1 ▸ hcb me fm ff.1 c' m _ b1 h1 b2 hm b3 (by omega)
  have k0c : CI s d r1.2 := e1 ▸ (scb me fm ff.1 c' b1 h1 b2).1
  obtain ⟨-, k1⟩ := sumLoop_crash ff.2 (fun fr c => betweenFieldsAndFragmentG s fx memo fuel me ssid fm fr c) (CI s d)
    (fun fr hfr c hc => ⟨(sff me ssid fm fr c hc h1).1,
      hff me ssid fm fr c m hc h1 hm (by have := b4 fr hfr; omega)⟩) _ k0c
  rw [← e2] at k1
  exact k1.trans (k0.trans b6)

theorem nstepG_fr (hR : RankOk s d ρ) (h7 : fx.v7 = true) (fuel : Nat) (hcb : NCbG s fx memo d ρ fuel)
    (hfr : NFrG s fx memo d ρ fuel) : NFrG s fx memo d ρ (fuel + 1) := by
  intro me f1 f2 c hc hr
  obtain ⟨_, scb, _, sfr, _⟩ := searchG_sound s fx memo d h7 fuel
  refine betweenFragmentsG_cases s fx memo (motive := fun r => r.2.crash = c.crash) h7 fuel me f1 f2 c
    (fun _ => rfl) (fun _ => rfl) (fun _ _ => rfl) ?_
  intro _ _ on1 id1 sels1 on2 id2 sels2 a ca b cb r0 r1 r2 hg1 hg2 ha hb e0 e1 e2
  obtain ⟨a1, a2, a3, a4, a5, a6⟩ := ff_frag_rank s d ρ hR
    (hc.pairs (((sortedPair f1 f2).1, (sortedPair f1 f2).2, me) :: c.pairs)) (name := f1) hg1
  simp only [ha] at a1 a2 a3 a4 a6
  obtain ⟨b1, b2, b3, b4, b5, b6⟩ := ff_frag_rank s d ρ hR a1 (name := f2) (by rw [a1.frags, ← hc.frags]; exact hg2)
  simp only [hb] at b1 b2 b3 b4 b6
  have k0 : r0.2.crash = cb.crash := e0 ▸ hcb me a.1 b.1 cb _ _ b1 a2 b2 a3 b3 (by omega)
  have k0c : CI s d r0.2 := e0 ▸ (scb me a.1 b.1 cb b1 a2 b2).1
  obtain ⟨k1c, k1⟩ := sumLoop_crash a.2 (fun fr c => betweenFragmentsG s fx memo fuel me (some fr) (some f2) c) (CI s d)
    (fun fr hfr' c hc => ⟨(sfr me fr f2 c hc).1, hfr me fr f2 c hc (by have := a4 fr hfr'; omega)⟩) _ k0c
  rw [← e1] at k1c k1
  obtain ⟨-, k2⟩ := sumLoop_crash b.2 (fun fr c => betweenFragmentsG s fx memo fuel me (some f1) (some fr) c) (CI s d)
    (fun fr hfr' c hc => ⟨(sfr me f1 fr c hc).1, hfr me f1 fr c hc (by have := b4 fr hfr'; omega)⟩) _ k1c
  rw [← e2] at k2
  exact k2.trans (k1.trans (k0.trans (b6.trans a6)))

theorem nstepG_ss (hR : RankOk s d ρ) (h7 : fx.v7 = true) (fuel : Nat) (hcb : NCbG s fx memo d ρ fuel)
    (hff : NFfG s fx memo d ρ fuel) (hfr : NFrG s fx memo d ρ fuel) : NSsG s fx memo d ρ (fuel + 1) := by
  intro me p1 id1 sels1 p2 id2 sels2 c hc s1 a1 s2 a2 hr
  obtain ⟨_, scb, sff, sfr, _⟩ := searchG_sound s fx memo d h7 fuel
  refine betweenSubselectionsG_cases s fx memo (motive := fun r => r.2.crash = c.crash) fuel me p1 id1 sels1 p2 id2
    sels2 c ?_
  intro a ca b cb r0 r1 r2 r3 ha hb e0 e1 e2 e3
  have t1 := hR.two _ _ s1
  have t2 := hR.two _ _ s2
  obtain ⟨x1, x2, x3, x4, x5⟩ := ff_rank s d ρ hR hc s1 a1
  simp only [ha] at x1 x2 x3 x4 x5
  obtain ⟨y1, y2, y3, y4, y5⟩ := ff_rank s d ρ hR x1 s2 a2
  simp only [hb] at y1 y2 y3 y4 y5
  have k0 : r0.2.crash = cb.crash := e0 ▸ hcb me a.1 b.1 cb _ _ y1 x2 y2 x3 y3 (by omega)
  have k0c : CI s d r0.2 := e0 ▸ (scb me a.1 b.1 cb y1 x2 y2).1
  obtain ⟨k1c, k1⟩ := sumLoop_crash b.2
    (fun fr c => withFreshCmp (betweenFieldsAndFragmentG s fx memo fuel me id1 a.1 fr) c) (CI s d)
    (fun fr hfr' c hc => withFreshCmp_crash s d _ (fun c hc => ⟨(sff me id1 a.1 fr c hc x2).1,
      hff me id1 a.1 fr c _ hc x2 x3 (by have := y4 fr hfr'; omega)⟩) c hc) _ k0c
  rw [← e1] at k1c k1
  obtain ⟨k2c, k2⟩ := sumLoop_crash a.2
    (fun fr c => withFreshCmp (betweenFieldsAndFragmentG s fx memo fuel me id2 b.1 fr) c) (CI s d)
    (fun fr hfr' c hc => withFreshCmp_crash s d _ (fun c hc => ⟨(sff me id2 b.1 fr c hc y2).1,
      hff me id2 b.1 fr c _ hc y2 y3 (by have := x4 fr hfr'; omega)⟩) c hc) _ k1c
  rw [← e2] at k2c k2
  obtain ⟨-, k3⟩ := sumLoop_crash a.2
    (fun g1 c => sumLoop b.2 (fun g2 c => betweenFragmentsG s fx memo fuel me (some g1) (some g2) c) c) (CI s d)
    (fun g1 hg1 c hc => sumLoop_crash b.2 (fun g2 c => betweenFragmentsG s fx memo fuel me (some g1) (some g2) c) (CI s d)
      (fun g2 hg2 c hc => ⟨(sfr me g1 g2 c hc).1,
        hfr me g1 g2 c hc (by have := x4 g1 hg1; have := y4 g2 hg2; omega)⟩) c hc) _ k2c
  rw [← e3] at k3
  exact k3.trans (k2.trans (k1.trans (k0.trans (y5.trans x5))))

/-- **the search never runs out of fuel** when the fuel covers the ranks of what it is called on, with or without the
    memo (the memo only cuts calls) -/
theorem searchG_fuel (hR : RankOk s d ρ) (h7 : fx.v7 = true) : ∀ fuel,
    NFindG s fx memo d ρ fuel ∧ NCbG s fx memo d ρ fuel ∧ NFfG s fx memo d ρ fuel ∧ NFrG s fx memo d ρ fuel ∧
    NSsG s fx memo d ρ fuel := by
  intro fuel
  induction fuel with
  | zero =>
    refine ⟨?_, ?_, ?_, ?_, ?_⟩
    · intro _ _ _ _ _ _ _ h; omega
    · intro _ _ _ _ _ _ _ _ _ _ _ h; omega
    · intro _ _ _ _ _ _ _ _ _ h; omega
    · intro _ _ _ _ _ h; omega
    · intro _ _ _ _ _ _ _ _ _ _ _ _ _ h; omega
  | succ fuel ih =>
    obtain ⟨i1, i2, i3, i4, i5⟩ := ih
    exact ⟨nstepG_find s fx memo d ρ fuel i5, nstepG_cb s fx memo d ρ h7 fuel i1, nstepG_ff s fx memo d ρ hR h7 fuel i2 i3,
      nstepG_fr s fx memo d ρ hR h7 fuel i2 i4, nstepG_ss s fx memo d ρ hR h7 fuel i2 i3 i4⟩

/-- `find_conflicts_within_selection_set` with a fuel of twice the rank of the set -/
theorem withinG_fuel (hR : RankOk s d ρ) (h7 : fx.v7 = true) (fuel : Nat) (p : Option String) (i : Nat) (sels : List Sel)
    (c : OCtx) (hc : CI s d c) (h1 : SelSet d i sels) (h2 : Adm s d i p) (hfuel : 2 * ρ i + 2 ≤ fuel) :
    (withinSelectionSetG s fx memo fuel p i sels c).2.crash = c.crash := by
  obtain ⟨sf, _, sff, sfr, _⟩ := searchG_sound s fx memo d h7 fuel
  obtain ⟨nf, _, nff, nfr, _⟩ := searchG_fuel s fx memo d ρ hR h7 fuel
  have t0 := hR.two _ _ h1
  refine withinSelectionSetG_cases s fx memo (motive := fun r => r.2.crash = c.crash) fuel p i sels c ?_
  intro a ca r0 r1 r2 ha e0 e1 e2
  obtain ⟨x1, x2, x3, x4, x5⟩ := ff_rank s d ρ hR hc h1 h2
  simp only [ha] at x1 x2 x3 x4 x5
  obtain ⟨k0c, k0⟩ := sumLoop_crash a.1
    (fun q c => sumLoop (pairsOf q.2) (fun y c =>
      (if (findConflictG s fx memo fuel false y.1 y.2 c).1 = true then 1 else 0,
       (findConflictG s fx memo fuel false y.1 y.2 c).2)) c) (CI s d)
    (fun q hq c hc => sumLoop_crash (pairsOf q.2) _ (CI s d)
      (fun y hy c hc => by
        obtain ⟨m1, m2⟩ := mem_pairsOf hy
        have r1 : entryRank ρ y.1 ≤ ρ i - 2 := x3 q hq _ m1
        have r2 : entryRank ρ y.2 ≤ ρ i - 2 := x3 q hq _ m2
        exact ⟨(sf false y.1 y.2 c hc (x2 q hq _ m1) (x2 q hq _ m2)).1,
          nf false y.1 y.2 c hc (x2 q hq _ m1) (x2 q hq _ m2) (by omega)⟩) c hc) ca x1
  rw [← e0] at k0c k0
  obtain ⟨k1c, k1⟩ := withFreshCmp_crash s d
    (fun c => sumLoop a.2 (fun g c => betweenFieldsAndFragmentG s fx memo fuel false i a.1 g c) c)
    (fun c hc => sumLoop_crash a.2 _ (CI s d)
      (fun g hg c hc => ⟨(sff false i a.1 g c hc x2).1,
        nff false i a.1 g c _ hc x2 x3 (by have := x4 g hg; omega)⟩) c hc) _ k0c
  rw [← e1] at k1c k1
  obtain ⟨-, k2⟩ := sumLoop_crash (pairsOf a.2)
    (fun y c => betweenFragmentsG s fx memo fuel false (some y.1) (some y.2) c) (CI s d)
    (fun y hy c hc => by
      obtain ⟨m1, m2⟩ := mem_pairsOf hy
      exact ⟨(sfr false y.1 y.2 c hc).1,
        nfr false y.1 y.2 c hc (by have := x4 _ m1; have := x4 _ m2; omega)⟩) _ k1c
  rw [← e2] at k2
  exact k2.trans (k1.trans (k0.trans x5))

end

theorem within_fuel (s : SchemaD) (fx : Fixes) (d : Doc) (ρ : Nat → Nat) (hR : RankOk s d ρ) (h7 : fx.v7 = true)
    (p : Option String) (i : Nat) (sels : List Sel) (c : OCtx) (hc : CI s d c) (h1 : SelSet d i sels)
    (h2 : Adm s d i p) : (withinSelectionSet s fx p i sels c).2.crash = c.crash :=
  withinSelectionSet_eq s fx ▸ withinG_fuel s fx false d ρ hR h7 overlapFuel p i sels c hc h1 h2 (hR.top _ _ h1)

/-- a search that did not crash leaves the exception flag of the rule state alone -/
theorem ov_enter_sel_nocrash (s : SchemaD) (fx : Fixes) (i : Nat) (sels : List Sel) (ti : TI) (rs : RS)
    (h : (withinSelectionSet s fx ti.parentType i sels rs.octx).2.crash = none) :
    (enterRule s fx .overlappingFieldsCanBeMerged (.selectionSet i sels) ti rs).1.crash = rs.crash := by
  dsimp only [enterRule]
  rw [h]
  rfl

/-- sane search context, nothing crashed -/
def FInv (s : SchemaD) (d : Doc) (st : St) : Prop :=
  CI s d st.rs.octx ∧ st.rs.octx.crash = none ∧ st.rs.crash = none

/-- what a visit of the rule alone keeps on a ranked document: balanced stacks, and `FInv` -/
def OFu (s : SchemaD) (d : Doc) (l : List (Node × View)) (st st' : St) : Prop :=
  st'.ti = st.ti ∧ ((∀ p ∈ l, p ∈ typedNodes s d) → FInv s d st → FInv s d st')

theorem of_alg (s : SchemaD) (fx : Fixes) (d : Doc) (ρ : Nat → Nat) (hR : RankOk s d ρ) (h7 : fx.v7 = true) :
    TAlg ⟨s, fx, [.overlappingFieldsCanBeMerged]⟩ (OFu s d) where
  ti h := h.1
  nil st := ⟨rfl, fun _ hi => hi⟩
  append {a b s1 s2 s3} h1 h2 := ⟨h2.1.trans h1.1, fun hm hi =>
    h2.2 (fun p hp => hm p (List.mem_append_right _ hp)) (h1.2 (fun p hp => hm p (List.mem_append_left _ hp)) hi)⟩
  node n body l st hn hd hb := by
    rw [visitNode_ov]
    obtain ⟨b1, b2⟩ := hb (ovEntered s fx n st) rfl
    refine ⟨?_, fun hm hi => ?_⟩
    · show tiLeave n (body _).ti = st.ti
      rw [b1]
      exact tiLeave_tiEnter _ _ _ hd
    · have hmem : (n, View.enter s n st.ti.view) ∈ typedNodes s d := hm _ (List.mem_cons_self ..)
      have hst1 : FInv s d (ovEntered s fx n st) := by
        unfold ovEntered
        by_cases hs : n.isSelSet = true
        · cases n with
          | selectionSet i sels =>
            obtain ⟨k1, _⟩ := ov_enter_sel s fx i sels (tiEnter s (.selectionSet i sels) st.ti) st.rs
            have hadm := (ov_sel_adm hmem).2
            have hsel := selSet_of_typed hmem
            obtain ⟨w1, _⟩ := within_sound s fx d h7 _ i sels st.rs.octx hi.1 hsel hadm
            have w2 := within_fuel s fx d ρ hR h7 _ i sels st.rs.octx hi.1 hsel hadm
            rw [hi.2.1] at w2
            refine ⟨by rw [k1]; exact w1, by rw [k1]; exact w2, ?_⟩
            show (enterRule s fx .overlappingFieldsCanBeMerged (.selectionSet i sels) _ st.rs).1.crash = none
            rw [ov_enter_sel_nocrash s fx i sels _ st.rs w2]
            exact hi.2.2
          | _ => cases hs
        · rw [ov_enter_other s fx n _ _ hn (by simpa using hs)]
          exact hi
      exact b2 (fun p hp => hm p (List.mem_cons_of_mem _ hp)) hst1

/-- **fuel sufficiency**: the rule run alone on a ranked document does not crash -/
theorem ov_document_nocrash (s : SchemaD) (fx : Fixes) (d : Doc) (ρ : Nat → Nat) (hR : RankOk s d ρ)
    (h7 : fx.v7 = true) :
    (visitDocument ⟨s, fx, [.overlappingFieldsCanBeMerged]⟩ d {}).rs.crash = none := by
  rw [visitDocument_ov]
  exact ((visitDefsR (of_alg s fx d ρ hR h7) d.defs (ovStart d) rfl).2 (fun p hp => hp)
    ⟨⟨rfl, fun _ h => nomatch h⟩, rfl, rfl⟩).2.2

end PyGql.Validate
