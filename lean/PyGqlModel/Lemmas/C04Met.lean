/-
  C04 — the unpruned expansion of a selection list, and the soundness of the model's collector with respect to it:
  `Met obj sels y` — selection `y` is met when `sels` is expanded for object type `obj` and NOTHING is pruned by a set of
  fragment names.  Whatever the model collects, marks or fails on is met (`mseq_sound`): every collected node is yielded
  by a selection that is met, so a property of the selections met is a property of the grouped field set
  (`groupAll_collected`).
-/
import PyGqlModel.Lemmas.C04Seq


namespace PyGql.Props.C04
open PyGql PyGql.Exec PyGql.Spec

inductive Met (s : SchemaD) (doc : Doc) (vars : Vars) (obj : String) : List Sel → Sel → Prop
  | here {sels x} : x ∈ sels → Met s doc vars obj sels x
  | under {sels x sub name y} : x ∈ sels → Opens s doc vars obj x sub name → Met s doc vars obj sub y → Met s doc vars obj sels y

section
variable {s : SchemaD} {doc : Doc} {vars : Vars} {obj : String}

theorem Met.mono {a b : List Sel} {y : Sel} (h : Met s doc vars obj a y) (hab : ∀ x ∈ a, x ∈ b) : Met s doc vars obj b y := by
  cases h with
  | here hm => exact .here (hab _ hm)
  | under hm ho hr => exact .under (hab _ hm) ho hr

theorem Met.cons_split {x y : Sel} {xs : List Sel} (h : Met s doc vars obj (x :: xs) y) :
    Met s doc vars obj [x] y ∨ Met s doc vars obj xs y := by
  cases h with
  | here hm =>
    rcases List.mem_cons.1 hm with rfl | hm
    · exact Or.inl (.here (List.mem_singleton.2 rfl))
    · exact Or.inr (.here hm)
  | under hm ho hr =>
    rcases List.mem_cons.1 hm with rfl | hm
    · exact Or.inl (.under (List.mem_singleton.2 rfl) ho hr)
    · exact Or.inr (.under hm ho hr)

theorem Met.single {x y : Sel} (h : Met s doc vars obj [x] y) :
    y = x ∨ ∃ sub name, Opens s doc vars obj x sub name ∧ Met s doc vars obj sub y := by
  cases h with
  | here hm => exact Or.inl (List.mem_singleton.1 hm)
  | under hm ho hr => cases List.mem_singleton.1 hm; exact Or.inr ⟨_, _, ho, hr⟩

theorem Met.self {x : Sel} : Met s doc vars obj [x] x := .here (List.mem_singleton.2 rfl)

theorem Met.head {x : Sel} {xs : List Sel} : Met s doc vars obj (x :: xs) x := .here List.mem_cons_self

theorem Met.tail {x y : Sel} {xs : List Sel} (h : Met s doc vars obj xs y) : Met s doc vars obj (x :: xs) y :=
  h.mono fun _ hz => List.mem_cons_of_mem _ hz

theorem Met.opened {x y : Sel} {xs sub : List Sel} {name : Option String} (ho : Opens s doc vars obj x sub name)
    (h : Met s doc vars obj sub y) : Met s doc vars obj (x :: xs) y := .under List.mem_cons_self ho h

theorem not_met_nil {y : Sel} : ¬ Met s doc vars obj [] y := by
  intro h
  cases h with
  | here hm => cases hm
  | under hm => cases hm

/-- every node collected is yielded by a selection that is met; every name marked seen was seen before or is the name of
    a spread that is met; an exception other than the out-of-fuel artefact is raised by the decision on a selection that
    is met -/
def Sound (s : SchemaD) (doc : Doc) (vars : Vars) (obj : String) (sels : List Sel) (seen : List String) : SeqRes → Prop
  | .ok (q, seen') => (∀ n ∈ q, ∃ x, Met s doc vars obj sels x ∧ Yields vars x n) ∧
      ∀ N ∈ seen', N ∈ seen ∨ ∃ dirs, Met s doc vars obj sels (.spread N dirs) ∧ skipSelection vars dirs = .ok false
  | .error e => e = .outOfFuel ∨ ∃ x, Met s doc vars obj sels x ∧ HeadErr s doc vars obj x e

theorem Sound.mono {a b : List Sel} {seen : List String} {r : SeqRes} (h : Sound s doc vars obj a seen r)
    (hab : ∀ {y}, Met s doc vars obj a y → Met s doc vars obj b y) : Sound s doc vars obj b seen r := by
  cases r with
  | error e => exact h.imp_right fun ⟨x, hx⟩ => ⟨x, hab hx.1, hx.2⟩
  | ok p =>
    exact ⟨fun n hn => (h.1 n hn).imp fun x hx => ⟨hab hx.1, hx.2⟩,
      fun N hN => (h.2 N hN).imp_right fun ⟨d, hd⟩ => ⟨d, hab hd.1, hd.2⟩⟩

def ModelSound (s : SchemaD) (doc : Doc) (vars : Vars) (f : SeqFn) : Prop :=
  ∀ obj sels seen, Sound s doc vars obj sels seen (f obj sels seen)

theorem mseqStep_sound {rec : SeqFn} (hrec : ModelSound s doc vars rec) (obj : String) :
    ∀ (sels : List Sel) (seen : List String), Sound s doc vars obj sels seen (mseqStep s doc vars rec obj sels seen) := by
  intro sels
  induction sels with
  | nil => intro seen; exact ⟨fun n hn => (nomatch hn), fun N hN => Or.inl hN⟩
  | cons x rest ih =>
    intro seen
    have hx := headAct_spec (s := s) (doc := doc) (vars := vars) (obj := obj) (seen := seen) x
    rw [mseqStep]
    cases hha : headAct s doc vars obj x seen with
    | error e => exact Or.inr ⟨x, .head, headAct_error hha⟩
    | ok a =>
      rw [hha] at hx
      cases a with
      | drop => exact (ih seen).mono .tail
      | keep n =>
        have := ih seen
        dsimp only [Except.bind, seqKeep]
        cases hr : mseqStep s doc vars rec obj rest seen with
        | error e => rw [hr] at this; exact this.imp_right fun ⟨y, hy⟩ => ⟨y, hy.1.tail, hy.2⟩
        | ok p =>
          rw [hr] at this
          refine ⟨fun m hm => ?_, fun N hN => (this.2 N hN).imp_right fun ⟨d, hd⟩ => ⟨d, hd.1.tail, hd.2⟩⟩
          rcases List.mem_cons.1 hm with rfl | hm
          · exact ⟨x, .head, hx⟩
          · exact (this.1 m hm).imp fun y hy => ⟨hy.1.tail, hy.2⟩
      | expand sels name =>
        obtain ⟨ho, _⟩ := hx
        have h1 := hrec obj sels seen
        dsimp only [Except.bind]
        cases hr1 : rec obj sels seen with
        | error e => rw [hr1] at h1; exact h1.imp_right fun ⟨y, hy⟩ => ⟨y, .opened ho hy.1, hy.2⟩
        | ok p1 =>
          rw [hr1] at h1
          have h2 := ih (seenAfter seen p1.2 name)
          -- the names the loop goes on with: the caller's, those the callee marked, and the spread's own
          have names : ∀ N ∈ seenAfter seen p1.2 name, N ∈ seen ∨
              ∃ dirs, Met s doc vars obj (x :: rest) (.spread N dirs) ∧ skipSelection vars dirs = .ok false := by
            intro N hN
            have inner : N ∈ (if seen.isEmpty then seen else p1.2) → N ∈ seen ∨
                ∃ dirs, Met s doc vars obj (x :: rest) (.spread N dirs) ∧ skipSelection vars dirs = .ok false := fun hN => by
              split at hN
              · exact Or.inl hN
              · exact (h1.2 N hN).imp_right fun ⟨d, hd⟩ => ⟨d, .opened ho hd.1, hd.2⟩
            cases name with
            | none => exact inner hN
            | some nm =>
              have hN' : N ∈ (if seen.isEmpty then seen else p1.2) ∨ N = nm := by
                simp only [seenAfter] at hN
                generalize (if seen.isEmpty = true then seen else p1.2) = seen2 at hN ⊢
                split at hN
                · exact Or.inl hN
                · exact (List.mem_append.1 hN).imp_right List.mem_singleton.1
              rcases hN' with hN | rfl
              · exact inner hN
              · obtain ⟨dirs, rfl, hs⟩ := ho.name_eq
                exact Or.inr ⟨dirs, .head, hs⟩
          dsimp only [seqAppend]
          cases hr2 : mseqStep s doc vars rec obj rest (seenAfter seen p1.2 name) with
          | error e => rw [hr2] at h2; exact h2.imp_right fun ⟨y, hy⟩ => ⟨y, hy.1.tail, hy.2⟩
          | ok p2 =>
            rw [hr2] at h2
            refine ⟨fun m hm => ?_, fun N hN => ?_⟩
            · rcases List.mem_append.1 hm with hm | hm
              · exact (h1.1 m hm).imp fun y hy => ⟨.opened ho hy.1, hy.2⟩
              · exact (h2.1 m hm).imp fun y hy => ⟨hy.1.tail, hy.2⟩
            · rcases h2.2 N hN with hN | ⟨d, hd⟩
              · exact names N hN
              · exact Or.inr ⟨d, hd.1.tail, hd.2⟩

theorem mseq_sound (n : Nat) : ModelSound s doc vars (mseq s doc vars n) := by
  induction n with
  | zero => exact fun obj sels seen => Or.inl rfl
  | succ n ih => exact fun obj sels seen => mseqStep_sound ih obj sels seen

end

theorem groupAll_addSeq {P : String → FNode → Prop} {g : Grouped} {q : List FNode} (hg : GroupAll P g) (hq : ∀ n ∈ q, P n.key n) :
    GroupAll P (addSeq g q) := by
  induction q generalizing g with
  | nil => exact hg
  | cons n q ih =>
    exact ih (extend_groupAll P g n.key [n] hg fun m hm => by cases List.mem_singleton.1 hm; exact hq n List.mem_cons_self)
      fun m hm => hq m (List.mem_cons_of_mem _ hm)

/-- what `collect_fields` returns is `addSeq` of nodes each yielded by a selection that is met -/
theorem collected {s : SchemaD} {doc : Doc} {vars : Vars} {fuel : Nat} {obj : String} {sels : List Sel} {seen : List String}
    {g : Grouped} {seen' : List String} (h : collectFields s doc vars fuel obj sels seen = .ok (g, seen')) :
    ∃ q, g = addSeq [] q ∧ ∀ n ∈ q, ∃ x, Met s doc vars obj sels x ∧ Yields vars x n := by
  have hs := mseq_sound (s := s) (doc := doc) (vars := vars) fuel obj sels seen
  rw [collectFields_eq_mseq] at h
  cases hm : mseq s doc vars fuel obj sels seen with
  | error e => rw [hm] at h; cases h
  | ok p =>
    rw [hm] at h hs
    cases h
    exact ⟨p.1, rfl, hs.1⟩

/-- a property of the node of every field that is met holds of every collected node -/
theorem groupAll_collected {s : SchemaD} {doc : Doc} {vars : Vars} {fuel : Nat} {obj : String} {sels : List Sel} {seen : List String}
    {g : Grouped} {seen' : List String} {P : String → FNode → Prop}
    (h : collectFields s doc vars fuel obj sels seen = .ok (g, seen'))
    (hP : ∀ x n, Met s doc vars obj sels x → Yields vars x n → P n.key n) : GroupAll P g := by
  obtain ⟨q, rfl, hq⟩ := collected h
  exact groupAll_addSeq (fun _ hkv => nomatch hkv) fun n hn => by
    obtain ⟨x, hx, hy⟩ := hq n hn
    exact hP x n hx hy

end PyGql.Props.C04
