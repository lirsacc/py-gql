/-
  One call of `__next__` consumes an ignored run and one complete lexeme (soundness of `next`).
-/
import PyGqlModel.Lemmas.LexSoundLit
import PyGqlModel.Lemmas.LexSoundNum
import PyGqlModel.Lemmas.LexRange

namespace PyGql.Lex
open PyGql.Spec.Lexical

theorem lexeme_punct (k : TokKind) (lex : Text) (h : punctuator k = some lex) : Lexeme k lex lex := by
  cases k
  case sof | eof | int | float | name | string | blockString => cases h
  all_goals exact ⟨h, rfl⟩

theorem follow_punct (k : TokKind) (lex rest : Text) (h : punctuator k = some lex) : Follow k lex rest := by
  cases k
  case name | int | float | string => cases h
  all_goals trivial

def Step (n : Nat) (s : Text) (tok : Tok) (rest : Text) : Prop :=
  ∃ ign lex, s = ign ++ (lex ++ rest) ∧ IgnRun (lex ++ rest) ign ∧ Lexeme tok.kind lex tok.value ∧
    Follow tok.kind lex rest ∧ lex ≠ [] ∧ tok.start = n - (lex ++ rest).length ∧ tok.stop = n - rest.length

theorem Reads.step {n : Nat} {s ign X rest : Text} {tok : Tok} (hs : s = ign ++ X) (hrun : IgnRun X ign)
    (h : Reads n X tok rest) : Step n s tok rest := by
  obtain ⟨lex, rfl, hne, hl, hf, hst, hsp⟩ := h
  exact ⟨ign, lex, hs, hrun, hl, hf, hne, hst, hsp⟩

theorem next_eof (n : Nat) (s : Text) (tok : Tok) (h : next n s = .ok (tok, none)) :
    tok = eofTok n ∧ IgnRun [] s := by
  obtain ⟨ign, hs, hrun, _⟩ := readOverWhitespace_sound false s
  revert h
  refine next_cases (P := fun r => r = .ok (tok, none) → _) ?_ ?_ ?_ ?_ ?_
  · intro hw h
    simp only [Except.ok.injEq, Prod.mk.injEq, and_true] at h
    rw [hw] at hs hrun
    simp only [List.append_nil] at hs
    exact ⟨h.symm, hs ▸ hrun rfl⟩
  · intro c t _ _ h; cases h
  · intro c t k _ _ h; cases h
  · intro c t r _ _ _ h; cases r <;> cases h
  · intro c t _ h; cases h

private theorem some'_ok (r : R (Tok × Text)) (tok : Tok) (rest : Text)
    (h : (Except.map (fun p => (p.1, some p.2)) r : R (Tok × Option Text)) = .ok (tok, some rest)) :
    r = .ok (tok, rest) := by
  cases r with
  | error e => cases h
  | ok p => cases h; rfl

theorem next_sound (n : Nat) (s rest : Text) (tok : Tok) (h : next n s = .ok (tok, some rest)) :
    Step n s tok rest := by
  obtain ⟨ign, hs, hrun, _⟩ := readOverWhitespace_sound false s
  have hrun := hrun rfl
  revert h
  refine next_cases (P := fun r => r = .ok (tok, some rest) → Step n s tok rest) ?_ ?_ ?_ ?_ ?_
  · intro _ h; cases h
  · intro c t _ _ h; cases h
  · intro c t k hw hsym h
    rw [hw] at hs hrun
    cases h
    have hp := (symbolKind_spec c k).mp hsym
    exact Reads.step hs hrun ⟨[c], rfl, by simp, lexeme_punct k [c] hp, follow_punct k [c] _ hp, rfl, rfl⟩
  · intro c t r hw _ hr h
    rw [hw] at hs hrun
    have h' := some'_ok _ _ _ h
    refine Reads.step hs hrun ?_
    rcases hr with ⟨_, rfl⟩ | ⟨htq, rfl⟩ | ⟨rfl, htq, rfl⟩ | ⟨_, rfl⟩ | ⟨hname, rfl⟩
    · exact readEllipsis_sound n _ _ _ h'
    · exact readBlockString_sound n _ _ _ htq h'
    · exact readString_sound n _ _ _ htq h'
    · exact readNumber_sound n _ _ _ h'
    · cases h'
      exact readName_sound n c t hname
  · intro c t _ h; cases h

end PyGql.Lex
