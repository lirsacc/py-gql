/-
  C08 — the *eventual value* `ev` of a node (what it will finish with, whatever the
  order of completions), the shape invariant `Good`, and their preservation by `deliver`.
-/
import PyGqlModel.Lemmas.ExecRulesDeliver
import PyGqlModel.Spec.AsyncExecSpec


namespace PyGql.AsyncExec

/-- eventual outcome of a node: a plain value, a `ResolverError`, or an unexpected failure -/
inductive EvR where
  | ok (x : Val)
  | rerr
  | fail

def evExc : Exc → EvR
  | .resolver => .rerr
  | _ => .fail

def denToEv : Option V → EvR
  | some v => .ok (.data v)
  | none => .fail

/-- what callback `k` produces from the eventual outcome of its source -/
def evCont : Cont → EvR → EvR
  | .complete _, .ok (.raw c) => denToEv (denComp c)
  | .complete _, .rerr => .ok (.data .null)
  | .collect keys, .ok x => .ok (collect keys x)
  | .nonNull _, .ok x => .ok x
  | .onFinish, .ok x => .ok x
  | .serialCb _ key resolved args, .ok (.data v) =>
    match denFlds args with
    | some kvs => .ok (.data (.obj (resolved ++ (key, v) :: kvs)))
    | none => .fail
  | _, .fail => .fail
  | _, .rerr => .rerr
  | _, .ok _ => .ok .junk

/-- aggregate of slot outcomes. Slots never evaluate to `rerr` in executor-built trees: `else_` of `resolve_field` has turned a
    `ResolverError` into the field's null before the slot is built (`evCont (.complete _) .rerr = .ok (.data .null)`). -/
def evGather : List EvR → EvR
  | [] => .ok (.data (.list []))
  | r :: rs =>
    match r, evGather rs with
    | .ok (.data v), .ok (.data (.list vs)) => .ok (.data (.list (v :: vs)))
    | .ok _, .ok _ => .ok .junk
    | _, _ => .fail

mutual
def ev : Node → EvR
  | .val x => .ok x
  | .done r => ev r
  | .failed e => evExc e
  | .task _ _ _ out => match out with
    | .ok c => .ok (.raw c)
    | .rerr => .rerr
    | .exc => .fail
  | .unwrap src => ev src
  | .chain src k => evCont k (ev src)
  | .gather slots _ _ => evGather (evSlots slots)
def evSlots : Nodes → List EvR
  | .nil => []
  | .cons n ns => ev n :: evSlots ns
end

def evRes : Res Node → EvR
  | .ok n => ev n
  | .exc e => evExc e

/-- a node that can only finish as `done (val _)` or `failed _` (never with a Future as its result) -/
def flat : Node → Bool
  | .val _ => true
  | .done (.val _) => true
  | .done _ => false
  | .failed _ => true
  | .task _ _ _ _ => false
  | .unwrap _ => true
  | .gather _ _ _ => true
  | .chain _ (.nonNull _) => true
  | .chain _ (.collect _) => true
  | .chain _ .onFinish => true
  | .chain _ _ => false

def EvR.isRerr : EvR → Bool
  | .rerr => true
  | _ => false

mutual
/-- shape invariant of executor-built trees: the source of a `chain` and every slot of a gather is `flat`. So no pending Future
    sits inside a finished one that persists in a tree, which is why the catch-all `| n, s => (n, s)` of `deliver` may pass over
    `.done r` without looking into `r`. -/
def Good : Node → Bool
  | .val _ => true
  | .done r => Good r
  | .failed _ => true
  | .task _ _ _ _ => true
  | .unwrap src => Good src
  | .chain src _ => Good src && flat src
  | .gather slots _ _ => GoodSlots slots
def GoodSlots : Nodes → Bool
  | .nil => true
  | .cons n ns => Good n && flat n && !(ev n).isRerr && GoodSlots ns
end

def GoodRes : Res Node → Bool
  | .ok n => Good n
  | .exc _ => true

def FlatRes : Res Node → Bool
  | .ok n => flat n
  | .exc _ => true

theorem ev_unwrapCb (n : Node) : ev (unwrapCb n) = ev n :=
  unwrapCb_congr _ (fun _ => rfl) (fun _ => rfl) n

theorem good_unwrapCb (n : Node) : Good n = true → Good (unwrapCb n) = true := by
  fun_induction unwrapCb n with
  | case3 r _ ih => exact ih
  | _ => exact id

theorem flat_unwrapCb (n : Node) : flat (unwrapCb n) = true := by
  fun_induction unwrapCb n with
  | case3 r _ ih => exact ih
  | _ => rfl

theorem ev_unwrapValue (n : Node) : ev (unwrapValue n) = ev n := by
  cases n <;> simp [unwrapValue, ev_unwrapCb]

theorem good_unwrapValue (n : Node) (h : Good n = true) : Good (unwrapValue n) = true := by
  cases n <;> simp [unwrapValue] <;> first | exact h | exact good_unwrapCb _ h

theorem flat_unwrapValue (n : Node) : flat (unwrapValue n) = true := by
  cases n <;> simp only [unwrapValue] <;> first | rfl | exact flat_unwrapCb _

theorem flat_finished (n : Node) (hf : flat n = true) (hfin : n.finished = true) :
    (∃ x, n = .val x) ∨ (∃ x, n = .done (.val x)) ∨ (∃ e, n = .failed e) := by
  cases n with
  | val x => exact .inl ⟨x, rfl⟩
  | failed e => exact .inr (.inr ⟨e, rfl⟩)
  | done r => cases r <;> simp_all [flat]
  | _ => simp_all [Node.finished]

theorem evGather_fail : ∀ (rs : List EvR) (r : EvR), r ∈ rs → (∀ x, r ≠ .ok x) → evGather rs = .fail
  | [], r, h, _ => by simp at h
  | a :: rest, r, h, hr => by
    simp at h
    rcases h with h | h
    · subst h
      cases r with
      | ok x => exact absurd rfl (hr x)
      | rerr => simp [evGather]
      | fail => simp [evGather]
    · have ih := evGather_fail rest r h hr
      cases a with
      | ok x => cases x <;> simp [evGather, ih]
      | rerr => simp [evGather]
      | fail => simp [evGather]

theorem mem_evSlots : ∀ (slots : Nodes) (n : Node), n ∈ slots.toList → ev n ∈ evSlots slots
  | .nil, n, h => by simp [Nodes.toList] at h
  | .cons a ns, n, h => by
    simp [Nodes.toList] at h
    rcases h with h | h
    · subst h; simp [evSlots]
    · simp [evSlots]; right; exact mem_evSlots ns n h

theorem goodSlots_mem : ∀ (slots : Nodes) (n : Node), GoodSlots slots = true → n ∈ slots.toList →
    Good n = true ∧ flat n = true ∧ (ev n).isRerr = false
  | .nil, n, _, h => by simp [Nodes.toList] at h
  | .cons a ns, n, hg, h => by
    simp [GoodSlots] at hg
    simp [Nodes.toList] at h
    rcases h with h | h
    · subst h; exact ⟨hg.1.1.1, hg.1.1.2, hg.1.2⟩
    · exact goodSlots_mem ns n hg.2 h

theorem settled_of_collected : ∀ (slots : Nodes) (rs : List Node), GoodSlots slots = true →
    collectSlots (slots.toList.map Node.slot) = .setResult rs →
    ∀ n ∈ slots.toList, (∃ x, n = .val x) ∨ ∃ x, n = .done (.val x)
  | .nil, _, _, _, _, hn => nomatch hn
  | .cons a ns, rs, hg, h, n, hn => by
    simp only [GoodSlots, Bool.and_eq_true] at hg
    simp only [Nodes.toList, List.map_cons] at h
    cases hs : Node.slot a with
    | none =>
      rw [hs] at h
      cases h
    | some d =>
      rw [hs] at h
      cases d with
      | error e => cases h
      | ok r =>
        simp only [collectSlots] at h
        cases hc : collectSlots (ns.toList.map Node.slot) with
        | setResult rs' =>
          rcases List.mem_cons.1 hn with rfl | hn
          · cases n with
            | val x => exact .inl ⟨x, rfl⟩
            | done r' =>
              cases r' with
              | val x => exact .inr ⟨x, rfl⟩
              | _ => cases hg.1.1.2
            | _ => cases hs
          · exact settled_of_collected ns rs' hg.2 hc n hn
        | _ =>
          rw [hc] at h
          cases h

/-- when the list comprehension of `on_finish` succeeds, its result is the aggregate of the slots' eventual values -/
theorem collect_ev : ∀ (slots : Nodes) (rs : List Node), GoodSlots slots = true →
    collectSlots (slots.toList.map Node.slot) = .setResult rs → evGather (evSlots slots) = .ok (valOfResults rs)
  | .nil, rs, _, h => by
    simp [Nodes.toList, collectSlots] at h; subst h
    simp [evSlots, evGather, valOfResults, listOfNodes]
  | .cons n ns, rs, hg, h => by
    simp only [GoodSlots, Bool.and_eq_true] at hg
    obtain ⟨⟨⟨hgn, hfn⟩, _⟩, hgs⟩ := hg
    simp only [Nodes.toList, List.map_cons] at h
    -- the head slot has a plain result
    have key : ∀ (x : Val) (r : Node), Node.slot n = some (.ok r) → r = .val x → ev n = .ok x →
        evGather (evSlots (.cons n ns)) = .ok (valOfResults rs) := by
      intro x r hs hr hev
      rw [hs] at h
      simp only [collectSlots] at h
      cases hc : collectSlots (ns.toList.map Node.slot) with
      | setResult rs' =>
        rw [hc] at h
        simp at h; subst h
        have ih := collect_ev ns rs' hgs hc
        subst hr
        simp only [evSlots, evGather, hev, ih]
        cases x with
        | data v =>
          cases hl : listOfNodes rs' with
          | some vs => simp [valOfResults, listOfNodes, hl]
          | none => simp [valOfResults, listOfNodes, hl]
        | raw c => simp [valOfResults, listOfNodes]
        | junk => simp [valOfResults, listOfNodes]
      | nothing => rw [hc] at h; simp at h
      | setException e => rw [hc] at h; simp at h
      | raisesInCallback => rw [hc] at h; simp at h
      | blocks => rw [hc] at h; simp at h
    cases n with
    | val x => exact key x (.val x) rfl rfl (by simp [ev])
    | done r =>
      cases r with
      | val x => exact key x (.val x) rfl rfl (by simp [ev])
      | _ => simp [flat] at hfn
    | failed e => simp [Node.slot, collectSlots] at h
    | task a b c d => simp [Node.slot, collectSlots] at h
    | chain a b => simp [Node.slot, collectSlots] at h
    | unwrap a => simp [Node.slot, collectSlots] at h
    | gather a b c => simp [Node.slot, collectSlots] at h

theorem gatherAfter_ev (slots : Nodes) (done target : Nat) (fired : List (Except Exc Node))
    (hg : GoodSlots slots = true) (hfired : ∀ e, Except.error e ∈ fired → Node.failed e ∈ slots.toList) :
    ev (gatherAfter slots done target fired) = evGather (evSlots slots) ∧
    Good (gatherAfter slots done target fired) = true ∧ flat (gatherAfter slots done target fired) = true := by
  rcases gatherAfter_cases slots done target fired with ⟨d', _, h⟩ | ⟨e, he, h⟩ | ⟨rs, hc, h⟩ <;> rw [h]
  · exact ⟨rfl, hg, rfl⟩
  · -- a failed slot makes the aggregate fail, and it is not a `ResolverError`: slots never evaluate to `rerr`
    have hm := hfired e he
    obtain ⟨_, _, hr⟩ := goodSlots_mem slots _ hg hm
    have hne : ∀ x, ev (Node.failed e) ≠ .ok x := by intro x; cases e <;> simp [ev, evExc]
    rw [evGather_fail (evSlots slots) (ev (.failed e)) (mem_evSlots slots _ hm) hne]
    cases e <;> simp_all [ev, evExc, Good, flat, EvR.isRerr]
  · exact ⟨(collect_ev slots rs hg hc).symm, rfl, rfl⟩

def evOfVal : Res Val → EvR
  | .ok x => .ok x
  | .exc e => evExc e

def simpleK : Cont → Bool
  | .nonNull _ | .collect _ | .onFinish => true
  | _ => false

def ValRes : Res Node → Bool
  | .ok (.val _) => true
  | .exc _ => true
  | _ => false

/-- what the proofs need from an interpretation of callback `k` -/
def ApOK (ap : ApplyCont) (k : Cont) : Prop :=
  ∀ (r : Res Val) (s : ExecSt),
    evRes (ap k r s).1 = evCont k (evOfVal r) ∧ GoodRes (ap k r s).1 = true ∧ (simpleK k = true → ValRes (ap k r s).1 = true)

theorem flat_chain_simple (src : Node) (k : Cont) (h : simpleK k = true) : flat (.chain src k) = true := by
  cases k <;> simp_all [simpleK, flat]

theorem flat_done_of_valRes {r : Node} (h : ValRes (.ok r) = true) : flat (.done r) = true := by
  cases r <;> first | rfl | cases h

/-- the target Future of a `chain` evaluates to what the callback's outcome does; a plain value stored in it leaves it flat -/
theorem ev_settle {r : Res Node × ExecSt} {E : EvR} {P : Prop} (h : evRes r.1 = E ∧ GoodRes r.1 = true ∧ (P → ValRes r.1 = true)) :
    ev (settle r).1 = E ∧ Good (settle r).1 = true ∧ (P → flat (settle r).1 = true) := by
  obtain ⟨n | e, s1⟩ := r
  · exact ⟨h.1, h.2.1, fun hp => flat_done_of_valRes (h.2.2 hp)⟩
  · exact ⟨h.1, rfl, fun _ => rfl⟩

theorem chainOnFinish_ev (ap : ApplyCont) (k : Cont) (hap : ApOK ap k) (src : Node) (s : ExecSt)
    (hg : Good src = true) (hf : flat src = true) :
    ev (chainOnFinish ap src k s).1 = evCont k (ev src) ∧ Good (chainOnFinish ap src k s).1 = true ∧
    (simpleK k = true → flat (chainOnFinish ap src k s).1 = true) := by
  rw [chainOnFinish_eq]
  split
  next e => exact ev_settle (hap _ s)
  next r =>
    -- a finished flat Future holds a plain value
    obtain ⟨x, rfl⟩ : ∃ x, r = .val x := by cases r <;> first | exact ⟨_, rfl⟩ | cases hf
    exact ev_settle (hap _ s)
  next => exact ⟨rfl, Bool.and_eq_true_iff.2 ⟨hg, hf⟩, fun hk => flat_chain_simple _ _ hk⟩

theorem flatRes_of_valRes {r : Res Node} (h : ValRes r = true) : FlatRes r = true := by
  cases r with
  | ok n => cases n <;> first | rfl | cases h
  | exc e => rfl

theorem mapValue_ev (ap : ApplyCont) (k : Cont) (hap : ApOK ap k) (n : Node) (s : ExecSt)
    (hg : Good n = true) (hf : flat n = true) :
    evRes (mapValue ap n k s).1 = evCont k (ev n) ∧ GoodRes (mapValue ap n k s).1 = true ∧
    (simpleK k = true → FlatRes (mapValue ap n k s).1 = true) := by
  unfold mapValue
  split
  next x =>
    obtain ⟨h1, h2, h3⟩ := hap (.ok x) s
    exact ⟨h1, h2, fun hk => flatRes_of_valRes (h3 hk)⟩
  next =>
    split
    · exact chainOnFinish_ev ap k hap _ s hg hf
    · exact ⟨rfl, Bool.and_eq_true_iff.2 ⟨hg, hf⟩, fun hk => flat_chain_simple _ _ hk⟩

@[simp] theorem handleNN_fst (p : Path) (x : Val) (s : ExecSt) : (handleNonNullableValue p x s).1 = x := by
  unfold handleNonNullableValue; split <;> rfl

theorem applySimple_ok (k : Cont) (hk : simpleK k = true) : ApOK applySimple k := by
  intro r s
  cases k <;> simp [simpleK] at hk <;> cases r <;>
    simp [applySimple, evRes, evCont, evOfVal, GoodRes, Good, ValRes, ev] <;>
    (try (rename_i e; cases e <;> simp [evExc]))

theorem collectSlots_vals : ∀ (l : List Node), l.filter Node.isFuture = [] →
    collectSlots (l.map Node.slot) = .setResult l
  | [], _ => by simp [collectSlots]
  | n :: rest, h => by
    cases n with
    | val x =>
      have h' : rest.filter Node.isFuture = [] := by simpa [List.filter, Node.isFuture] using h
      simp [collectSlots, Node.slot, collectSlots_vals rest h']
    | _ => simp [List.filter, Node.isFuture] at h

theorem gatherValues_ev (source : Nodes) (hg : GoodSlots source = true) :
    ev (gatherValues source) = evGather (evSlots source) ∧ Good (gatherValues source) = true ∧
    flat (gatherValues source) = true := by
  rcases gatherValues_cases source with ⟨hv, h⟩ | ⟨_, h⟩
  · rw [h]
    exact ⟨(collect_ev source source.toList hg (collectSlots_vals _ hv)).symm, rfl, rfl⟩
  · rw [h]
    exact gatherAfter_ev source _ _ _ hg fun e he => mem_firedOf.1 he

theorem evExc_ne (e : Exc) (h : e ≠ .resolver) : evExc e = .fail := by cases e <;> simp_all [evExc]

theorem zip_keys : ∀ (fs : Flds) (kvs : List (String × V)), denFlds fs = some kvs → fs.keys.zip (kvs.map (·.2)) = kvs
  | .nil, kvs, h => by simp [denFlds] at h; subst h; simp [Flds.keys]
  | .cons key m out rest, kvs, h => by
    simp only [denFlds] at h
    cases ho : denOut out with
    | none => simp [ho] at h
    | some v =>
      cases hr : denFlds rest with
      | none => simp [ho, hr] at h
      | some kvs' =>
        simp [ho, hr] at h; subst h
        simp [Flds.keys, zip_keys rest kvs' hr]

def slotsSpec (ns : Nodes) (d : Option (List V)) : Prop :=
  GoodSlots ns = true ∧ evGather (evSlots ns) = (match d with | some vs => .ok (.data (.list vs)) | none => .fail)

def consOpt : Option V → Option (List V) → Option (List V)
  | some v, some vs => some (v :: vs)
  | _, _ => none

theorem slotsSpec_cons (n : Node) (ns : Nodes) (dv : Option V) (dvs : Option (List V))
    (h1 : ev n = denToEv dv) (hg : Good n = true) (hf : flat n = true) (h2 : slotsSpec ns dvs) :
    slotsSpec (.cons n ns) (consOpt dv dvs) := by
  obtain ⟨g2, e2⟩ := h2
  constructor
  · cases dv <;> simp_all [GoodSlots, denToEv, EvR.isRerr]
  · cases dv <;> cases dvs <;> simp_all [evSlots, evGather, denToEv, consOpt]

theorem denItems_cons (c : Comp) (cs : Comps) : denItems (.cons c cs) = consOpt (denComp c) (denItems cs) := by
  simp only [denItems]; cases denComp c <;> cases denItems cs <;> rfl

theorem denFlds_cons (key : String) (m : Mode) (out : ROut) (rest : Flds) :
    (denFlds (.cons key m out rest)).map (·.map (·.2)) = consOpt (denOut out) ((denFlds rest).map (·.map (·.2))) := by
  simp only [denFlds]; cases denOut out <;> cases denFlds rest <;> rfl

theorem denFlds_cons_none (key : String) (m : Mode) (out : ROut) (rest : Flds)
    (h : denOut out = none ∨ denFlds rest = none) : denFlds (.cons key m out rest) = none := by
  simp only [denFlds]; rcases h with h | h <;> rw [h] <;> cases denOut out <;> rfl

theorem denItems_cons_none (c : Comp) (cs : Comps)
    (h : denComp c = none ∨ denItems cs = none) : denItems (.cons c cs) = none := by
  simp only [denItems]; rcases h with h | h <;> rw [h] <;> cases denComp c <;> rfl

/-- an exception stands for a value without denotation, and it is not a `ResolverError` -/
theorem exc_of_den {e : Exc} {d : Option V} (h : evExc e = denToEv d) : e ≠ .resolver ∧ d = none := by
  cases d with
  | some v => cases e <;> cases h
  | none =>
    cases e with
    | resolver => cases h
    | _ => exact ⟨fun h' => (nomatch h'), rfl⟩

theorem evCont_fail (k : Cont) : evCont k .fail = .fail := by cases k <;> rfl

/-- the outcome evaluates to the denotation `d`, and its node has the shape of an executor-built tree -/
def EvOK (d : Option V) (r : Res Node × ExecSt) : Prop :=
  evRes r.1 = denToEv d ∧ GoodRes r.1 = true ∧ FlatRes r.1 = true

/-- slots for the denotations `d`; what is raised while they are built is not a `ResolverError`, and then there is no `d` -/
def SlotsOK (d : Option (List V)) (r : Res Nodes × ExecSt) : Prop :=
  match r.1 with
  | .exc e => e ≠ .resolver ∧ d = none
  | .ok ns => slotsSpec ns d

theorem EvOK.chain {ap : ApplyCont} {d d' : Option V} {r : Res Node × ExecSt} (k : Cont) (hap : ApOK ap k) (hk : simpleK k = true)
    (hd : evCont k (denToEv d) = denToEv d') (h : EvOK d r) : EvOK d' (chainRes ap k r) := by
  obtain ⟨n | e, s1⟩ := r
  · obtain ⟨m1, m2, m3⟩ := mapValue_ev ap k hap n s1 h.2.1 h.2.2
    exact ⟨m1.trans ((congrArg _ h.1).trans hd), m2, m3 hk⟩
  · obtain ⟨_, rfl⟩ := exc_of_den h.1
    exact ⟨h.1.trans ((evCont_fail k).symm.trans hd), rfl, rfl⟩

theorem SlotsOK.gather {d : Option (List V)} {r : Res Nodes × ExecSt} (h : SlotsOK d r) :
    EvOK (d.map .list) (gatherRes r) := by
  obtain ⟨ns | e, s1⟩ := r
  · obtain ⟨g1, g2, g3⟩ := gatherValues_ev ns h.1
    refine ⟨g1.trans (h.2.trans ?_), g2, g3⟩
    cases d <;> rfl
  · obtain ⟨he, rfl⟩ := h
    exact ⟨evExc_ne e he, rfl, rfl⟩

theorem EvOK.cons {dv : Option V} {dvs : Option (List V)} {r : Res Node × ExecSt} {rest : ExecSt → Res Nodes × ExecSt}
    (h1 : EvOK dv r) (h2 : ∀ s1, SlotsOK dvs (rest s1)) : SlotsOK (consOpt dv dvs) (consRes r rest) := by
  obtain ⟨n | e, s1⟩ := r
  · have h2 := h2 s1
    simp only [consRes, thenR]
    generalize rest s1 = y at h2 ⊢
    obtain ⟨ns | e, s2⟩ := y
    · exact slotsSpec_cons n ns dv dvs h1.1 h1.2.1 h1.2.2 h2
    · obtain ⟨he, rfl⟩ := h2
      exact ⟨he, by cases dv <;> rfl⟩
  · obtain ⟨he, rfl⟩ := exc_of_den h1.1
    exact ⟨he, rfl⟩

/-- completion never raises `ResolverError`: `rerr` is not a denotation -/
theorem EvOK.catch {d : Option V} {path : Path} {r : Res Node × ExecSt} (h : EvOK d r) : EvOK d (catchRes path r) := by
  obtain ⟨n | e, s1⟩ := r
  · exact h
  · cases e with
    | resolver => exact absurd rfl (exc_of_den (e := .resolver) h.1).1
    | _ => exact h

/-- after `unwrap_value` the node is flat whatever it was -/
theorem EvOK.ofNow {d : Option V} {r : Res Node × ExecSt} (h1 : evRes r.1 = denToEv d) (h2 : GoodRes r.1 = true) :
    EvOK d (AsyncExec.nowOf r) := by
  obtain ⟨n | e, s1⟩ := r
  · exact ⟨(ev_unwrapValue n).trans h1, good_unwrapValue n h2, flat_unwrapValue n⟩
  · exact ⟨h1, rfl, rfl⟩

theorem EvOK.nowOf {d : Option V} {r : Res Node × ExecSt} (h : EvOK d r) : EvOK d (nowOf r) :=
  EvOK.ofNow h.1 h.2.1

theorem EvOK.futureOf {d : Option V} {r : Res Node × ExecSt} (h : EvOK d r) : EvOK d (futureOf r) := by
  obtain ⟨n | e, s1⟩ := r
  · exact ⟨(ev_unwrapCb (.done n)).trans h.1, good_unwrapCb (.done n) h.2.1, flat_unwrapCb _⟩
  · exact ⟨h.1, rfl, rfl⟩

theorem evCont_nonNull (path : Path) (c : Comp) :
    evCont (.nonNull path) (denToEv (denComp c)) = denToEv (denComp (.nonNull c)) := by
  rw [denComp]
  cases denComp c <;> rfl

theorem denComp_list (items : Comps) : denComp (.list items) = (denItems items).map .list := by
  rw [denComp]
  cases denItems items <;> rfl

theorem evCont_collect (fields : Flds) :
    evCont (.collect fields.keys) (denToEv (((denFlds fields).map (·.map (·.2))).map .list)) = denToEv (denComp (.obj fields)) := by
  rw [denComp]
  cases hd : denFlds fields with
  | none => rfl
  | some kvs => simp only [Option.map_some, denToEv, evCont, collect, zip_keys fields kvs hd]

theorem ev_cases : ExecCases (fun _ c _ r => EvOK (denComp c) r) (fun _ _ cs _ r => SlotsOK (denItems cs) r)
    (fun _ fs _ r => SlotsOK ((denFlds fs).map (·.map (·.2))) r) (fun _ _ out _ r => EvOK (denOut out) r)
    (fun _ out _ r => EvOK (denOut out) r) where
  null _ _ := ⟨rfl, rfl, rfl⟩
  leaf _ _ _ := ⟨rfl, rfl, rfl⟩
  bad _ _ := ⟨rfl, rfl, rfl⟩
  nonNull path c _ ih := EvOK.chain (.nonNull path) (applySimple_ok _ rfl) rfl (evCont_nonNull path c) ih
  list _ items _ ih := denComp_list items ▸ SlotsOK.gather ih
  obj _ fields _ ih := EvOK.chain (.collect fields.keys) (applySimple_ok _ rfl) rfl (evCont_collect fields) (SlotsOK.gather ih)
  inil _ _ _ := ⟨rfl, rfl⟩
  icons _ _ c cs _ ih1 ih2 := denItems_cons c cs ▸ EvOK.cons ih1 ih2
  fnil _ _ := ⟨rfl, rfl⟩
  fcons _ key mode out fs _ ih1 ih2 := denFlds_cons key mode out fs ▸ EvOK.cons ih1 ih2
  deferred _ out _ := ⟨by cases out <;> rfl, rfl, rfl⟩
  nested _ out _ := ⟨by cases out <;> rfl, rfl, rfl⟩
  sync _ _ _ ih := EvOK.nowOf ih
  ready _ _ _ ih := EvOK.futureOf ih
  rerr _ _ := ⟨rfl, rfl, rfl⟩
  exc _ _ := ⟨rfl, rfl, rfl⟩
  ok _ _ _ ih := EvOK.catch ih

theorem completeValue_ev : ∀ (c : Comp) (path : Path) (s : ExecSt),
    evRes (completeValue path c s).1 = denToEv (denComp c) ∧ GoodRes (completeValue path c s).1 = true ∧
    FlatRes (completeValue path c s).1 = true :=
  ev_cases.value

/-- In this operation form `complete_value` raises `runtime` or `boom` only, never `ResolverError` (`rerr` is not a denotation):
    the `(.exc .resolver, _) => failField …` branches of `resolveField` and `applyCont`, which mirror `else_` of `resolve_field`,
    are never taken. -/
theorem completeValue_not_resolver (c : Comp) (path : Path) (s s1 : ExecSt) : completeValue path c s ≠ (.exc .resolver, s1) :=
  fun h => (exc_of_den (e := .resolver) (d := denComp c) (by simpa [evRes, h] using (completeValue_ev c path s).1)).1 rfl

theorem completeItems_ev : ∀ (cs : Comps) (path : Path) (i : Nat) (s : ExecSt),
    match (completeItems path i cs s).1 with
    | .exc e => e ≠ .resolver ∧ denItems cs = none
    | .ok ns => slotsSpec ns (denItems cs) :=
  ev_cases.items

theorem resolveFields_slotsOK (fs : Flds) (path : Path) (s : ExecSt) :
    SlotsOK ((denFlds fs).map (·.map (·.2))) (resolveFields path fs s) :=
  ev_cases.fields fs path s

theorem resolveField_ev : ∀ (out : ROut) (path : Path) (mode : Mode) (s : ExecSt),
    evRes (resolveField path mode out s).1 = denToEv (denOut out) ∧ GoodRes (resolveField path mode out s).1 = true ∧
    FlatRes (resolveField path mode out s).1 = true :=
  ev_cases.field

def serialSpec (resolved : List (String × V)) (d : Option (List (String × V))) : EvR :=
  match d with
  | some kvs => .ok (.data (.obj (resolved ++ kvs)))
  | none => .fail

theorem denToEv_ok {x : Val} {d : Option V} (h : EvR.ok x = denToEv d) : ∃ v, d = some v ∧ x = .data v := by
  cases d with
  | none => cases h
  | some v => cases h; exact ⟨v, rfl, rfl⟩

/-- `_next` is `chain(resolve_field(...), cb)`: the callback `cb` runs at once on a plain value or a finished Future and is
    parked on a pending one. (`applyCont` is defined after `serialNext` and calls it, so the model spells the cases out instead
    of calling `mapValue applyCont`; the shapes it parks that `mapValue` would not — a finished Future holding something else
    than data — do not come out of `resolveField`.) -/
theorem serialNext_cons (path : Path) (resolved : List (String × V)) (key : String) (mode : Mode) (out : ROut) (args : Flds)
    (s : ExecSt) :
    serialNext path resolved (.cons key mode out args) s
      = chainRes applyCont (.serialCb path key resolved args) (resolveField (path ++ [.key key]) mode out s) := by
  obtain ⟨h1, _, h3⟩ := resolveField_ev out (path ++ [.key key]) mode s
  rw [serialNext]
  generalize resolveField (path ++ [.key key]) mode out s = x at h1 h3 ⊢
  obtain ⟨n | e, s1⟩ := x
  · cases n with
    | val x => cases x <;> rfl
    | failed e => cases e <;> rfl
    | done r =>
      cases r with
      | val x =>
        cases x with
        | data v =>
          simp only [chainRes, thenR, mapValue, Node.finished, chainOnFinish, Node.plain, applyCont, if_true]
          generalize serialNext path (resolved ++ [(key, v)]) args s1 = y
          obtain ⟨m | e, s2⟩ := y <;> rfl
        | _ => obtain ⟨_, _, hx⟩ := denToEv_ok (x := _) h1; cases hx
      | _ => cases h3
    | _ => rfl
  · rfl

theorem denToEv_exc {e : Exc} {d : Option V} (f : V → EvR) (h : evExc e = denToEv d) : evExc e = d.elim .fail f := by
  cases d with
  | none => exact h
  | some v => cases e <;> cases h

theorem serialSpec_cons (resolved : List (String × V)) (key : String) (mode : Mode) (out : ROut) (rest : Flds) :
    serialSpec resolved (denFlds (.cons key mode out rest))
      = (denOut out).elim .fail fun v => serialSpec (resolved ++ [(key, v)]) (denFlds rest) := by
  simp only [denFlds]
  cases denOut out <;> cases denFlds rest <;> simp [serialSpec, Option.elim]

theorem evCont_serialCb (path : Path) (key : String) (resolved : List (String × V)) (rest : Flds) (d : Option V) :
    evCont (.serialCb path key resolved rest) (denToEv d)
      = d.elim .fail fun v => serialSpec (resolved ++ [(key, v)]) (denFlds rest) := by
  cases d <;> simp only [denToEv, evCont, Option.elim]
  cases denFlds rest <;> simp [serialSpec]

/-- the parked `cb` of `_next` evaluates to what `_next` makes of the rest of the queue -/
theorem serialCb_ok (path : Path) (key : String) (resolved : List (String × V)) (args : Flds)
    (ih : ∀ resolved s, evRes (serialNext path resolved args s).1 = serialSpec resolved (denFlds args) ∧
      GoodRes (serialNext path resolved args s).1 = true) :
    ApOK applyCont (.serialCb path key resolved args) := by
  intro r s
  cases r with
  | ok x =>
    cases x with
    | data v => exact ⟨(ih _ s).1.trans (evCont_serialCb path key resolved args (some v)).symm, (ih _ s).2, fun h => nomatch h⟩
    | _ => exact ⟨rfl, rfl, fun h => nomatch h⟩
  | exc e => cases e <;> exact ⟨rfl, rfl, fun h => nomatch h⟩

theorem serialNext_ev : ∀ (args : Flds) (path : Path) (resolved : List (String × V)) (s : ExecSt),
    evRes (serialNext path resolved args s).1 = serialSpec resolved (denFlds args) ∧
    GoodRes (serialNext path resolved args s).1 = true
  | .nil, _, _, _ => by simp only [serialNext, evRes, ev, serialSpec, denFlds, GoodRes, Good, List.append_nil, and_self]
  | .cons key mode out rest, path, resolved, s => by
    obtain ⟨h1, h2, h3⟩ := resolveField_ev out (path ++ [.key key]) mode s
    rw [serialNext_cons, serialSpec_cons]
    generalize resolveField (path ++ [.key key]) mode out s = x at h1 h2 h3 ⊢
    obtain ⟨n | e, s1⟩ := x
    · obtain ⟨m1, m2, _⟩ := mapValue_ev applyCont _ (serialCb_ok path key resolved rest (serialNext_ev rest path)) n s1 h2 h3
      exact ⟨m1.trans ((congrArg _ h1).trans (evCont_serialCb path key resolved rest _)), m2⟩
    · exact ⟨denToEv_exc _ h1, rfl⟩

theorem applyCont_ok (k : Cont) : ApOK applyCont k := by
  cases k with
  | serialCb p key res args => exact serialCb_ok p key res args (serialNext_ev args p)
  | complete p =>
    intro r s
    cases r with
    | ok x =>
      cases x with
      | raw c =>
        have h : EvOK (denComp c) (applyCont (.complete p) (.ok (.raw c)) s) := ev_cases.complete (.ok c) p s
        exact ⟨h.1, h.2.1, fun h => nomatch h⟩
      | _ => exact ⟨rfl, rfl, fun h => nomatch h⟩
    | exc e => cases e <;> exact ⟨rfl, rfl, fun h => nomatch h⟩
  | _ => exact applySimple_ok _ rfl

theorem simple_of_flat_chain (src : Node) (k : Cont) (h : flat (.chain src k) = true) : simpleK k = true := by
  cases k <;> simp_all [flat, simpleK]

theorem deliver_ev_cases (t : Nat) : DeliverCases applyCont t
    (fun n _ r => Good n = true → ev r.1 = ev n ∧ Good r.1 = true ∧ (flat n = true → flat r.1 = true))
    (fun ns _ r => GoodSlots ns = true → evSlots r.1 = evSlots ns ∧ GoodSlots r.1 = true ∧
      ∀ e, Except.error e ∈ r.2.1 → Node.failed e ∈ r.1.toList) where
  val _ _ h := ⟨rfl, h, id⟩
  done _ _ h := ⟨rfl, h, id⟩
  failed _ _ h := ⟨rfl, h, id⟩
  hit _ nested out _ _ := by cases nested <;> cases out <;> simp [finishTask, ev, evExc, Good, flat, ExecSt.submit]
  miss _ _ _ _ _ _ h := ⟨rfl, h, id⟩
  chain src k _ ih h := by
    simp only [Good, Bool.and_eq_true] at h
    obtain ⟨i1, i2, i3⟩ := ih h.1
    obtain ⟨c1, c2, c3⟩ := chainOnFinish_ev applyCont k (applyCont_ok k) _ _ i2 (i3 h.2)
    exact ⟨c1.trans (congrArg (evCont k) i1), c2, fun hf => c3 (simple_of_flat_chain src k hf)⟩
  unwrap _ _ ih h := by
    obtain ⟨i1, i2, _⟩ := ih h
    exact ⟨(ev_unwrapCb _).trans i1, good_unwrapCb _ i2, fun _ => flat_unwrapCb _⟩
  gather _ done target _ ih h := by
    obtain ⟨i1, i2, i3⟩ := ih h
    obtain ⟨g1, g2, g3⟩ := gatherAfter_ev _ done target _ i2 i3
    exact ⟨g1.trans (congrArg evGather i1), g2, fun _ => g3⟩
  nil _ _ := ⟨rfl, rfl, fun _ he => nomatch he⟩
  cons n ns s ih1 ih2 h := by
    simp only [GoodSlots, Bool.and_eq_true, Bool.not_eq_true'] at h
    obtain ⟨⟨⟨hg, hf⟩, hr⟩, hgs⟩ := h
    obtain ⟨i1, i2, i3⟩ := ih1 hg
    obtain ⟨j1, j2, j3⟩ := ih2 hgs
    refine ⟨by simp only [evSlots, i1, j1], ?_, ?_⟩
    · simp [GoodSlots, i2, i3 hf, i1, hr, j2]
    · intro e he
      simp only [List.mem_append] at he
      rcases he with he | he
      · split at he
        · generalize (deliver applyCont t n s).1 = n' at he ⊢
          cases n' <;> simp [slotResult] at he
          subst he
          simp [Nodes.toList]
        · simp at he
      · simp only [Nodes.toList, List.mem_cons]
        exact .inr (j3 e he)

theorem deliver_ev : ∀ (n : Node) (t : Nat) (s : ExecSt), Good n = true →
    ev (deliver applyCont t n s).1 = ev n ∧ Good (deliver applyCont t n s).1 = true ∧
    (flat n = true → flat (deliver applyCont t n s).1 = true) :=
  fun n t s => (deliver_ev_cases t).node n s

theorem deliverSlots_ev : ∀ (ns : Nodes) (t : Nat) (s : ExecSt), GoodSlots ns = true →
    evSlots (deliverSlots applyCont t ns s).1 = evSlots ns ∧ GoodSlots (deliverSlots applyCont t ns s).1 = true ∧
    (∀ e, Except.error e ∈ (deliverSlots applyCont t ns s).2.1 → Node.failed e ∈ (deliverSlots applyCont t ns s).1.toList) :=
  fun ns t s => (deliver_ev_cases t).slots ns s

structure TopInv (top : Node) (d : EvR) : Prop where
  ev_eq : ev top = d
  good : Good top = true
  isFlat : flat top = true

theorem stepSched_inv (top : Node) (s : ExecSt) (i : Nat) (d : EvR) (h : TopInv top d) :
    TopInv (stepSched top s i).1 d := by
  unfold stepSched
  simp only
  split
  · exact h
  · rename_i t _
    obtain ⟨h1, h2, h3⟩ := deliver_ev top t { s with queue := removeAt s.queue (i % s.queue.length) } h.good
    exact ⟨by rw [h1, h.ev_eq], h2, h3 h.isFlat⟩

theorem runSched_inv (d : EvR) : ∀ (sched : List Nat) (top : Node) (s : ExecSt) (sizes : List Nat),
    TopInv top d → TopInv (runSched top s sizes sched).top d :=
  runSched_preserves (P := fun top _ => TopInv top d) fun top s i h => stepSched_inv top s i d h

/-- the eventual value of the whole operation, as given by the specification -/
def opSpec (op : Op) : EvR := denToEv ((denFlds op.fields).map .obj)

theorem execRoot_ev (op : Op) (s : ExecSt) : EvOK ((denFlds op.fields).map .obj) (nowOf (execRoot op s)) := by
  unfold execRoot
  cases op.kind
  · obtain ⟨h1, h2, _⟩ := completeValue_ev (.obj op.fields) [] s
    refine EvOK.ofNow (h1.trans ?_) h2
    rw [denComp]
    cases denFlds op.fields <;> rfl
  · obtain ⟨h1, h2⟩ := serialNext_ev op.fields [] [] s
    refine EvOK.ofNow (h1.trans ?_) h2
    cases denFlds op.fields <;> rfl

theorem execute_evOK (op : Op) (s : ExecSt) : EvOK ((denFlds op.fields).map .obj) (execute op s) :=
  execute_eq op s ▸ EvOK.chain .onFinish (applyCont_ok _) rfl (by cases (denFlds op.fields).map V.obj <;> rfl) (execRoot_ev op s)

theorem execute_inv (op : Op) (s : ExecSt) :
    match (execute op s).1 with
    | .exc e => evExc e = opSpec op
    | .ok top => TopInv top (opSpec op) := by
  have h := execute_evOK op s
  generalize execute op s = x at h ⊢
  obtain ⟨top | e, s1⟩ := x
  · exact ⟨h.1, h.2.1, h.2.2⟩
  · exact h.1

def resOpt {α : Type} : Res α → Option α
  | .ok a => some a
  | .exc _ => none

mutual
theorem blockComp_den : ∀ (c : Comp) (path : Path) (s : ExecSt), resOpt (blockComp path c s).1 = denComp c
  | .null, path, s => rfl
  | .leaf v, path, s => rfl
  | .bad, path, s => rfl
  | .nonNull c, path, s => by
    have ih := blockComp_den c path s
    simp only [blockComp, denComp]
    generalize blockComp path c s = x at ih ⊢
    obtain ⟨v | e, s1⟩ := x <;> exact ih
  | .list items, path, s => by
    have ih := blockItems_den items path 0 s
    simp only [blockComp, denComp]
    generalize blockItems path 0 items s = x at ih ⊢
    obtain ⟨vs | e, s1⟩ := x <;> rw [← ih] <;> rfl
  | .obj fields, path, s => by
    have ih := blockFields_den fields path s
    simp only [blockComp, denComp]
    generalize blockFields path fields s = x at ih ⊢
    obtain ⟨kvs | e, s1⟩ := x <;> rw [← ih] <;> rfl
theorem blockItems_den : ∀ (cs : Comps) (path : Path) (i : Nat) (s : ExecSt), resOpt (blockItems path i cs s).1 = denItems cs
  | .nil, path, i, s => rfl
  | .cons c cs, path, i, s => by
    have ih1 := blockComp_den c (path ++ [.idx i]) s
    simp only [blockItems, denItems]
    generalize blockComp (path ++ [.idx i]) c s = x at ih1 ⊢
    obtain ⟨v | e, s1⟩ := x
    · have ih2 := blockItems_den cs path (i + 1) s1
      dsimp only at ih1 ⊢
      generalize blockItems path (i + 1) cs s1 = y at ih2 ⊢
      obtain ⟨vs | e, s2⟩ := y <;> rw [← ih1, ← ih2] <;> rfl
    · rw [← ih1]
      rfl
theorem blockFields_den : ∀ (fs : Flds) (path : Path) (s : ExecSt), resOpt (blockFields path fs s).1 = denFlds fs
  | .nil, path, s => rfl
  | .cons key mode out rest, path, s => by
    have ih1 := blockField_den out (path ++ [.key key]) s
    simp only [blockFields, denFlds]
    generalize blockField (path ++ [.key key]) out s = x at ih1 ⊢
    obtain ⟨v | e, s1⟩ := x
    · have ih2 := blockFields_den rest path s1
      dsimp only at ih1 ⊢
      generalize blockFields path rest s1 = y at ih2 ⊢
      obtain ⟨kvs | e, s2⟩ := y <;> rw [← ih1, ← ih2] <;> rfl
    · rw [← ih1]
      rfl
theorem blockField_den : ∀ (out : ROut) (p : Path) (s : ExecSt), resOpt (blockField p out s).1 = denOut out
  | .rerr, _, _ => rfl
  | .exc, _, _ => rfl
  | .ok c, p, _ => blockComp_den c p _
end

end PyGql.AsyncExec
