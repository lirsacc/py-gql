/-
  C14 — in a closed schema everything `_build_type_map` reaches from the root operation types is a
  registered object, so `Schema.clone` starts from names it is going to replace (`CloneCovered`).
-/
import PyGqlModel.Lemmas.HeapOwn

namespace PyGql.Heap.Own
open PyGql.Heap

theorem lookup_mem' {reg : List (String × Addr)} {n : String} {a : Addr} (hl : lookup reg n = some a) : (n, a) ∈ reg := by
  simp only [lookup, Option.map_eq_some_iff] at hl
  obtain ⟨e, he, rfl⟩ := hl
  have hm := List.mem_of_find?_eq_some he
  have hp := List.find?_some he
  simp only [beq_iff_eq] at hp
  subst hp
  exact hm

theorem nameOK_read {h : Heap} {e : String × Addr} (hn : nameOK h e = true) : ∃ t, h.readType e.2 = some t ∧ t.name = e.1 := by
  simp only [nameOK] at hn
  split at hn
  · exact ⟨_, ‹_›, beq_iff_eq.mp hn⟩
  · cases hn

/-- what `closedB` says about the registry -/
def RegClosed (h : Heap) (reg : List (String × Addr)) : Prop :=
  ∀ e, e ∈ reg → typeClosed h reg e.2 = true ∧ nameOK h e = true

theorem closedB_reg {h : Heap} {s : Schema} (hc : closedB h s = true) : RegClosed h s.types := by
  intro e he
  simp only [closedB, shapeB, Bool.and_eq_true, List.all_eq_true] at hc
  exact ⟨hc.1.1.1.1.1 e he, hc.2 e he⟩

def GoodT (h : Heap) (reg : List (String × Addr)) (a : Addr) : Prop :=
  ∃ t, h.readType a = some t ∧ lookup reg t.name = some a ∧ typeClosed h reg a = true

def Good (h : Heap) (reg : List (String × Addr)) (a : Addr) : Prop :=
  GoodT h reg a ∨ fieldClosed h reg a = true ∨ argClosed h reg a = true

theorem refOK_good {h : Heap} {reg : List (String × Addr)} (hc : RegClosed h reg) {r : Ref} (hr : refOK reg r = true) :
    GoodT h reg r.addr := by
  simp only [refOK, beq_iff_eq] at hr
  have hm := lookup_mem' hr
  obtain ⟨h1, h2⟩ := hc _ hm
  obtain ⟨t, ht, hn⟩ := nameOK_read h2
  exact ⟨t, ht, hn ▸ hr, h1⟩

theorem children_good {h : Heap} {reg : List (String × Addr)} (hc : RegClosed h reg) {a : Addr} (ga : Good h reg a) :
    ∀ c, c ∈ children h a → Good h reg c := by
  intro c hcm
  rcases ga with ⟨t, ht, _, htc⟩ | hf | hg
  · simp only [children, readType_read ht, List.mem_append, List.mem_map] at hcm
    simp only [typeClosed, typeShape, ht, Bool.and_eq_true, List.all_eq_true] at htc
    rcases hcm with ⟨r, hr, rfl⟩ | hcf
    · exact Or.inl (refOK_good hc (htc.1 r hr))
    · have h3 := htc.2
      simp only [typeKids] at hcf
      simp only [typeMembersOK] at h3
      cases hkk : t.kind <;> simp only [hkk, List.all_eq_true] at h3 hcf
      · exact Or.inr (Or.inl (by simpa [fieldClosed] using h3 c hcf))
      · exact Or.inr (Or.inl (by simpa [fieldClosed] using h3 c hcf))
      · simp at hcf
      · simp at hcf
      · exact Or.inr (Or.inr (by simpa [argClosed] using h3 c hcf))
      · simp at hcf
  · simp only [fieldClosed, fieldShape] at hf
    split at hf
    · rename_i f hrf
      simp only [Bool.and_eq_true, List.all_eq_true] at hf
      simp only [children, readField_read hrf, List.mem_cons] at hcm
      rcases hcm with rfl | hcm
      · exact Or.inl (refOK_good hc hf.1)
      · exact Or.inr (Or.inr (by simpa [argClosed] using hf.2 c hcm))
    · cases hf
  · simp only [argClosed, argShape] at hg
    split at hg
    · rename_i g hrg
      simp only [children, readArg_read hrg, List.mem_singleton] at hcm
      subst hcm
      exact Or.inl (refOK_good hc hg)
    · cases hg

theorem reach_good {h : Heap} {reg : List (String × Addr)} (hc : RegClosed h reg) :
    ∀ (fuel : Nat) (seen todo : List Addr), (∀ a, a ∈ seen → Good h reg a) → (∀ a, a ∈ todo → Good h reg a) →
      ∀ a, a ∈ reach h fuel seen todo → Good h reg a := by
  intro fuel
  induction fuel with
  | zero => intro seen todo hs _ a ha; simp only [reach] at ha; exact hs a ha
  | succ fuel ih =>
    intro seen todo hs ht a ha
    cases todo with
    | nil => simp only [reach] at ha; exact hs a ha
    | cons x rest =>
      simp only [reach] at ha
      split at ha
      · exact ih seen rest hs (fun b hb => ht b (by simp [hb])) a ha
      · apply ih (seen ++ [x]) (children h x ++ rest) _ _ a ha
        · intro b hb
          simp only [List.mem_append, List.mem_singleton] at hb
          rcases hb with hb | rfl
          · exact hs b hb
          · exact ht b (by simp)
        · intro b hb
          simp only [List.mem_append] at hb
          rcases hb with hb | hb
          · exact children_good hc (ht x (by simp)) b hb
          · exact ht b (by simp [hb])

/-- entries of a `_build_type_map` over good addresses: (object name, address) pairs of registered objects -/
theorem buildTypeMap_reg {h : Heap} {reg : List (String × Addr)} (hc : RegClosed h reg) (fuel : Nat) (roots : List Addr)
    (hr : ∀ a, a ∈ roots → Good h reg a) :
    ∀ e, e ∈ buildTypeMap h fuel roots → e ∈ reg ∧ (h.readType e.2).isSome = true := by
  simp only [buildTypeMap]
  have hall := reach_good hc fuel [] roots (by simp) hr
  generalize reach h fuel [] roots = l at hall
  suffices ∀ (acc : List (String × Addr)), (∀ e, e ∈ acc → e ∈ reg ∧ (h.readType e.2).isSome = true) →
      ∀ e, e ∈ l.foldl (fun reg a => match h.readType a with
        | some t => if (lookup reg t.name).isSome then reg else reg ++ [(t.name, a)]
        | none => reg) acc → e ∈ reg ∧ (h.readType e.2).isSome = true from this [] (by simp)
  induction l with
  | nil => intro acc ha e he; exact ha e he
  | cons a l ih =>
    intro acc ha e he
    simp only [List.foldl_cons] at he
    apply ih (fun b hb => hall b (by simp [hb])) _ _ e he
    intro e' he'
    split at he'
    · rename_i t ht
      split at he'
      · exact ha e' he'
      · simp only [List.mem_append, List.mem_singleton] at he'
        rcases he' with he' | rfl
        · exact ha e' he'
        · rcases hall a (by simp) with ⟨t', ht', hl, _⟩ | hf | hg
          · rw [ht] at ht'; cases ht'
            exact ⟨lookup_mem' hl, by simp [ht]⟩
          · simp only [fieldClosed, fieldShape] at hf
            split at hf
            · rename_i f hrf
              have := readType_read ht
              rw [readField_read hrf] at this
              cases this
            · cases hf
          · simp only [argClosed, argShape] at hg
            split at hg
            · rename_i g hrg
              have := readType_read ht
              rw [readArg_read hrg] at this
              cases this
            · cases hg
    · exact ha e' he'

theorem foldl_setdefault_mem (l : List (String × Addr)) : ∀ (acc : List (String × Addr)) (e : String × Addr),
    e ∈ l.foldl (fun reg e => if (lookup reg e.1).isSome then reg else reg ++ [e]) acc → e ∈ acc ∨ e ∈ l := by
  induction l with
  | nil => intro acc e he; exact Or.inl he
  | cons x l ih =>
    intro acc e he
    simp only [List.foldl_cons] at he
    rcases ih _ e he with h1 | h1
    · split at h1
      · exact Or.inl h1
      · simp only [List.mem_append, List.mem_singleton] at h1
        rcases h1 with h1 | rfl
        · exact Or.inl h1
        · exact Or.inr (by simp)
    · exact Or.inr (by simp [h1])

/-- a closed source is covered: `clone()` starts from registered, readable names only (both variants of the registry) -/
theorem closed_covered (cfg : Cfg) (s : Schema) (h : Heap) (hcl : closedB h s = true) : CloneCovered cfg s h := by
  have hc := closedB_reg hcl
  have hroots : ∀ a, a ∈ rootAddrs s → Good h s.types a := by
    intro a ha
    simp only [closedB, shapeB, Bool.and_eq_true] at hcl
    simp only [rootAddrs, List.mem_filterMap, List.mem_cons, List.not_mem_nil, or_false] at ha
    obtain ⟨r, hr, hra⟩ := ha
    cases r with
    | none => simp at hra
    | some r =>
      simp only [Option.map_some, Option.some.injEq] at hra
      subst hra
      rcases hr with hr | hr | hr
      · have := hcl.1.1.1.2; rw [← hr] at this; exact Or.inl (refOK_good hc this)
      · have := hcl.1.1.2; rw [← hr] at this; exact Or.inl (refOK_good hc this)
      · have := hcl.1.2; rw [← hr] at this; exact Or.inl (refOK_good hc this)
  have hbase : ∀ e, e ∈ (s.types.filter fun e => isProtected e.1) ++
      ((buildTypeMap h (reachFuel h (rootAddrs s)) (rootAddrs s)).filter fun e => !isProtected e.1) →
      isProtected e.1 = true ∨ ∃ a, (e.1, a) ∈ s.types ∧ (h.readType a).isSome = true := by
    intro e he
    simp only [List.mem_append, List.mem_filter] at he
    rcases he with ⟨_, hp⟩ | ⟨hb, _⟩
    · exact Or.inl hp
    · obtain ⟨h1, h2⟩ := buildTypeMap_reg hc _ _ hroots e hb
      exact Or.inr ⟨e.2, h1, h2⟩
  have hsrc : ∀ e, e ∈ s.types → isProtected e.1 = true ∨ ∃ a, (e.1, a) ∈ s.types ∧ (h.readType a).isSome = true := by
    intro e he
    right
    obtain ⟨t, ht, _⟩ := nameOK_read (hc e he).2
    exact ⟨e.2, he, by simp [ht]⟩
  intro e he
  simp only [cloneRegistry] at he
  split at he
  · rcases foldl_setdefault_mem _ _ e he with h1 | h1
    · exact hbase e h1
    · exact hsrc e h1
  · exact hbase e he

end PyGql.Heap.Own
