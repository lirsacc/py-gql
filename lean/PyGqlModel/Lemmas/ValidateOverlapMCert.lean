/-
  The memoised search never loses a report: certificates for the search of `Validate/OverlapMemo.lean`.
  The search has TWO memos: the compared fragment pairs (`ctx.compared_fragment_pairs`) and the compared
  (field map, fragment, mutually exclusive) triples (`ctx.compared_fields_and_fragment`). `MemoM` is a set of keys of
  either kind (`Sum`). `CertM` is `Cert` of `ValidateOverlapCert.lean` with SHALLOW clauses for "fields of one
  sub-selection against a fragment spread in the other": not a certificate for every field reachable through the
  fragment (the search may have met the triple before and returned at once), only that the triple is COVERED by the
  memo (`FCov`). The memo is closed key by key: `KeyOblM` (pairs), `FOblM` (triples: direct fields certified,
  nested spreads covered - UNLESS the fragment's body is the selection set itself: the code returns at the
  `field_map is fragment_field_map` test, nothing is claimed, and `lvFM_of` falls back on the `WithinCertM` of that set).
  `clause_of_certsM`: closed memo + a `WithinCertM` for every selection set ⇒ the clause of 5.3.2 (induction on the height of
  the conflict; triples are chased through the memo along the spread path).
-/
import PyGqlModel.Lemmas.ValidateOverlapWf
namespace PyGql.Validate
open PyGql PyGql.Validate.Spec

/-- a key of the memoised search: a compared pair (`inl`) or a fields-and-fragment triple `(selection-set id, fragment, flag)` (`inr`);
    `MemoM` = a set of such keys, `keysM c` = the keys the context `c` holds -/
abbrev MKey := Sum (String × String × Bool) (Nat × String × Bool)
abbrev MemoM := MKey → Prop

def keysM (c : OCtx) : List MKey := c.pairs.map Sum.inl ++ c.ffp.map Sum.inr

theorem mem_keysM_inl {c : OCtx} {k : String × String × Bool} : Sum.inl k ∈ keysM c ↔ k ∈ c.pairs := by
  simp [keysM]

theorem mem_keysM_inr {c : OCtx} {k : Nat × String × Bool} : Sum.inr k ∈ keysM c ↔ k ∈ c.ffp := by
  simp [keysM]

/-- `Cov`, `CovS` read in the `inl` half of a `MemoM` -/
def CovM (M : MemoM) (me : Bool) (f1 f2 : String) : Prop := f1 = "" ∨ f2 = "" ∨ f1 = f2 ∨ M (.inl (keyOf f1 f2 me))
def CovSM (M : MemoM) (me : Bool) (f1 f2 : String) : Prop := CovM M me f1 f2 ∨ CovM M me f2 f1
theorem CovSM.symm {M : MemoM} {me : Bool} {f1 f2 : String} (h : CovSM M me f1 f2) : CovSM M me f2 f1 := Or.symm h

/-- the triple needs no comparison (fragment undefined) or is in the memo -/
def FCov (d : Doc) (M : MemoM) (me : Bool) (ssid : Nat) (g : String) : Prop :=
  AL.get? (fragTable d) g = none ∨ M (.inr (ssid, g, me))

/-- `_find_conflict` of the memoised search had nothing to report for the two fields: `Cert`, with the two fields-and-fragment
    calls of `_conflicts_between_subselections` recorded as covered triples (`FCov`) -/
inductive CertM (s : SchemaD) (d : Doc) (M : MemoM) : Bool → FEntry → FEntry → Prop where
  | mk {pme : Bool} {f1 f2 : FEntry} :
      ((pme || exclusiveParents s f1 f2) = false → f1.name = f2.name ∧ sameArguments f1.args f2.args = some true) →
      (∀ t1 t2, f1.fdef.map (·.type) = some t1 → f2.fdef.map (·.type) = some t2 → typesConflict s t1 t2 = false) →
      (f1.hasSub = true → f2.hasSub = true → ∀ rn e1 e2, CollD s f1.subParent f1.sub rn e1 →
        CollD s f2.subParent f2.sub rn e2 → CertM s d M (pme || exclusiveParents s f1 f2) e1 e2) →
      (f1.hasSub = true → f2.hasSub = true → ∀ g, SpreadD f2.sub g →
        FCov d M (pme || exclusiveParents s f1 f2) f1.ssid g) →
      (f1.hasSub = true → f2.hasSub = true → ∀ g, SpreadD f1.sub g →
        FCov d M (pme || exclusiveParents s f1 f2) f2.ssid g) →
      (f1.hasSub = true → f2.hasSub = true → ∀ g1 g2, SpreadD f1.sub g1 → SpreadD f2.sub g2 →
        CovM M (pme || exclusiveParents s f1 f2) g1 g2) →
      CertM s d M pme f1 f2

/-- what a key of the pairs memo stands for -/
def KeyOblM (s : SchemaD) (d : Doc) (M : MemoM) (k : String × String × Bool) : Prop :=
  (AL.get? (fragTable d) k.1).isSome = true → (AL.get? (fragTable d) k.2.1).isSome = true →
  (∀ rn e1 e2, DirF s d k.1 rn e1 → DirF s d k.2.1 rn e2 → CertM s d M k.2.2 e1 e2 ∨ CertM s d M k.2.2 e2 e1) ∧
  (∀ h, SprF d k.1 h → CovSM M k.2.2 h k.2.1) ∧
  (∀ h, SprF d k.2.1 h → CovSM M k.2.2 k.1 h)

/-- what a key of the (field map, fragment, flag) memo stands for: the fields of the selection set are certified
    against the DIRECT fields of the fragment, and the triples of the fragments it spreads are covered -/
def FOblM (s : SchemaD) (d : Doc) (M : MemoM) (k : Nat × String × Bool) : Prop :=
  -- unless the fragment's body IS the selection set (`if field_map is fragment_field_map: return`: nothing was compared)
  (∀ on fid fsels, AL.get? (fragTable d) k.2.1 = some (on, fid, fsels) → fid ≠ k.1) →
  (∀ sels p rn e1 e2, SelSet d k.1 sels → Adm s d k.1 p → CollD s p sels rn e1 → DirF s d k.2.1 rn e2 →
    CertM s d M k.2.2 e1 e2) ∧
  (∀ h, SprF d k.2.1 h → FCov d M k.2.2 k.1 h)

/-- what a key of either memo stands for -/
def OblM (s : SchemaD) (d : Doc) (M : MemoM) : MKey → Prop
  | .inl k => KeyOblM s d M k
  | .inr k => FOblM s d M k

/-- what the memoised visit of one selection set (id `i`) of the document has established -/
structure WithinCertM (s : SchemaD) (d : Doc) (M : MemoM) (i : Nat) (p : Option String) (sels : List Sel) : Prop where
  direct : ∀ rn e1 e2, CollD s p sels rn e1 → CollD s p sels rn e2 → e1 ≠ e2 →
    CertM s d M false e1 e2 ∨ CertM s d M false e2 e1
  frag : ∀ g, SpreadD sels g → FCov d M false i g
  frags : ∀ g1 g2, SpreadD sels g1 → SpreadD sels g2 → CovSM M false g1 g2

section
variable {s : SchemaD} {d : Doc} {M : MemoM}
variable (hpa : ParentsAgree s d) (hne : AL.get? (fragTable d) "" = none) (hw : WfIds d)
  (hK : ∀ k, M k → OblM s d M k)
  (hW : ∀ i sels, SelSet d i sels → ∀ p, Adm s d i p → WithinCertM s d M i p sels)

/-- `LvA`, `LvChase` (`Lemmas/ValidateOverlapCertUse.lean`) for the certificates `CertM` of the memoised search -/
def LvAM (s : SchemaD) (d : Doc) (M : MemoM) (n : Nat) : Prop :=
  ∀ me e1 e2, Ent s d e1 → Ent s d e2 → CertM s d M me e1 e2 → ¬ ConfH s d n me e1 e2

/-- two fields of one selection set: compared when the set was entered -/
theorem lvOwnM (hW : ∀ i sels, SelSet d i sels → ∀ p, Adm s d i p → WithinCertM s d M i p sels) (n : Nat)
    (hA : LvAM s d M n) (hSelf : LvSelf s d n) {ssid : Nat} {sels : List Sel} {p : Option String}
    {rn : String} {e1 e2 : FEntry} (hs : SelSet d ssid sels) (ha : Adm s d ssid p) (c1 : CollD s p sels rn e1)
    (c2 : CollD s p sels rn e2) : ¬ ConfH s d n false e1 e2 := by
  intro hconf
  by_cases he : e1 = e2
  · subst he; exact hSelf _ (ent_of_collD hs ha c1) hconf
  · rcases (hW _ _ hs _ ha).direct _ _ _ c1 c2 he with hc | hc
    · exact hA _ _ _ (ent_of_collD hs ha c1) (ent_of_collD hs ha c2) hc hconf
    · exact hA _ _ _ (ent_of_collD hs ha c2) (ent_of_collD hs ha c1) hc hconf.symm

def LvChaseM (s : SchemaD) (d : Doc) (M : MemoM) (n : Nat) : Prop :=
  ∀ k1 k2 g1 g2 me rn e1 e2, CovSM M me g1 g2 → CollFH s d k1 g1 rn e1 → CollFH s d k2 g2 rn e2 → ¬ ConfH s d n me e1 e2
/-- a covered triple: no field of the selection set conflicts (height `n`) with a field reachable through the fragment -/
def LvFM (s : SchemaD) (d : Doc) (M : MemoM) (n : Nat) : Prop :=
  ∀ k ssid sels p g me rn e1 e2, FCov d M me ssid g → SelSet d ssid sels → Adm s d ssid p → CollD s p sels rn e1 →
    CollFH s d k g rn e2 → ¬ ConfH s d n me e1 e2

include hpa hw hK hW in
theorem lvFM_of (n : Nat) (hA : LvAM s d M n) (hSelf : LvSelf s d n) : LvFM s d M n := by
  intro k ssid sels p g me rn e1 e2 hcov hs ha c1 h2
  induction h2 generalizing me with
  | @here _ _ on fid fsels _ _ _ t a c =>
    rcases hcov with hu | hm
    · rw [hu] at t; cases t
    · by_cases hid : fid = ssid
      · -- the fragment's body is the selection set itself: its fields were compared when the set was entered
        subst hid
        have := wf_selSet_unique hw (fragTable_selSet t) hs; subst this
        rw [hpa _ _ _ a ha] at c
        exact fun hconf => lvOwnM hW n hA hSelf hs ha c1 c (relaxF hconf)
      · have ob : FOblM s d M (ssid, _, me) := hK _ hm
        exact hA _ _ _ (ent_of_collD hs ha c1) (ent_of_collD (fragTable_selSet t) a c)
          ((ob (fun on' fid' fsels' t' => by rw [t] at t'; cases t'; exact hid)).1 sels p _ e1 _ hs ha c1
            ⟨_, _, _, _, t, a, c⟩)
  | @there _ _ on h fid fsels _ _ t sp r ih =>
    rcases hcov with hu | hm
    · rw [hu] at t; cases t
    · by_cases hid : fid = ssid
      · subst hid
        have := wf_selSet_unique hw (fragTable_selSet t) hs; subst this
        exact fun hconf => ih false ((hW _ _ hs _ ha).frag _ sp) c1 (relaxF hconf)
      · have ob : FOblM s d M (ssid, _, me) := hK _ hm
        exact ih me ((ob (fun on' fid' fsels' t' => by rw [t] at t'; cases t'; exact hid)).2 _ ⟨_, _, _, t, sp⟩) c1

include hpa in
theorem lvAM_of (n : Nat) (hprev : ∀ m, n = m + 1 → LvAM s d M m ∧ LvFM s d M m ∧ LvChaseM s d M m) : LvAM s d M n := by
  intro me f1 f2 hf1 hf2 hcert hconf
  obtain ⟨c1, c2, c3, c4, c5, c6⟩ := hcert
  -- a conflict between the sub-selections, the two sub-fields in the order of `f1`, `f2`
  have sub : ∀ {m : Nat} {p1 p2 : Option String} {rn : String} {e1 e2 : FEntry}, n = m + 1 → f1.hasSub = true →
      f2.hasSub = true → Adm s d f1.ssid p1 → Adm s d f2.ssid p2 → Coll s d p1 f1.sub rn e1 → Coll s d p2 f2.sub rn e2 →
      ConfH s d m (me || exclusiveParents s f1 f2) e1 e2 → False := by
    intro m p1 p2 rn e1 e2 hn s1 s2 a1 a2 x1 x2 hsub
    obtain ⟨hA, hF, hC⟩ := hprev m hn
    obtain ⟨hs1, ha1⟩ := hf1.sub s1
    obtain ⟨hs2, ha2⟩ := hf2.sub s2
    rw [hpa _ _ _ a1 ha1] at x1
    rw [hpa _ _ _ a2 ha2] at x2
    rcases x1 with x1 | ⟨g1, hg1, y1⟩ <;> rcases x2 with x2 | ⟨g2, hg2, y2⟩
    · exact hA _ _ _ (ent_of_collD hs1 ha1 x1) (ent_of_collD hs2 ha2 x2) (c3 s1 s2 _ _ _ x1 x2) hsub
    · obtain ⟨k2, z2⟩ := collF_collFH y2
      exact hF k2 _ _ _ _ _ _ _ _ (c4 s1 s2 g2 hg2) hs1 ha1 x1 z2 hsub
    · obtain ⟨k1, z1⟩ := collF_collFH y1
      exact hF k1 _ _ _ _ _ _ _ _ (c5 s1 s2 g1 hg1) hs2 ha2 x2 z1 hsub.symm
    · obtain ⟨k1, z1⟩ := collF_collFH y1
      obtain ⟨k2, z2⟩ := collF_collFH y2
      exact hC k1 k2 g1 g2 _ _ _ _ (Or.inl (c6 s1 s2 g1 g2 hg1 hg2)) z1 z2 hsub
  cases hconf with
  | args hme harg =>
    obtain ⟨a, b⟩ := c1 hme
    rcases harg with h | h
    · exact h a
    · rw [b] at h; cases h
  | types h1 h2 h3 => rw [c2 _ _ h1 h2] at h3; cases h3
  | sub s1 s2 a1 a2 x1 x2 hsub => exact sub rfl s1 s2 a1 a2 x1 x2 hsub
  | subSwap s1 s2 a1 a2 x1 x2 hsub => exact sub rfl s1 s2 a1 a2 x1 x2 hsub.symm

include hpa hW in
theorem bfPM_of (n : Nat) (hA : LvAM s d M n) (hF : LvFM s d M n) (hSelf : LvSelf s d n) (k1 k2 : Nat)
    (hC : ∀ a b, a + b + 2 ≤ k1 + k2 → ChPOf s d (fun k => M (.inl k)) n a b) : BfP s d n k1 k2 := by
  intro g rn e1 e2 me h1 h2 hconf
  have hconf := relaxF hconf
  cases h1 with
  | here t1 a1 c1 =>
    cases h2 with
    | here t2 a2 c2 =>
      rw [t1] at t2; cases t2
      rw [hpa _ _ _ a2 a1] at c2
      exact lvOwnM hW n hA hSelf (fragTable_selSet t1) a1 c1 c2 hconf
    | there t2 sp2 r2 =>
      rw [t1] at t2; cases t2
      have hs := fragTable_selSet t1
      exact hF _ _ _ _ _ _ _ _ _ ((hW _ _ hs _ a1).frag _ sp2) hs a1 c1 r2 hconf
  | @there k1' _ _ g1' _ _ _ _ t1 sp1 r1 =>
    cases h2 with
    | here t2 a2 c2 =>
      rw [t1] at t2; cases t2
      have hs := fragTable_selSet t1
      exact hF _ _ _ _ _ _ _ _ _ ((hW _ _ hs _ a2).frag _ sp1) hs a2 c2 r1 hconf.symm
    | @there k2' _ _ g2' _ _ _ _ t2 sp2 r2 =>
      rw [t1] at t2; cases t2
      have hs := fragTable_selSet t1
      obtain ⟨p, hp⟩ : ∃ p, Adm s d _ p := ⟨_, Adm.frag t1⟩
      exact hC k1' k2' (by omega) _ _ _ _ _ _ ((hW _ _ hs _ hp).frags _ _ sp1 sp2) r1 r2 hconf

include hpa hne hK hW in
theorem lvChaseM_of (n : Nat) (hA : LvAM s d M n) (hF : LvFM s d M n) (hSelf : LvSelf s d n) : LvChaseM s d M n :=
  fun k1 k2 => chase_of (fun k => M (.inl k)) (CertM s d M) hne (fun k hk => hK (.inl k) hk) n hA
    (fun k1 k2 hC => bfPM_of hpa hW n hA hF hSelf k1 k2 hC) k1 k2

include hW in
theorem lvSetM_of (n : Nat) (hA : LvAM s d M n) (hF : LvFM s d M n) (hSelf : LvSelf s d n) (hC : LvChaseM s d M n) :
    LvSet s d n := by
  intro i sels p rn e1 e2 me hs ha c1 c2 hconf
  have hconf := relaxF hconf
  have W := hW i sels hs p ha
  rcases c1 with c1 | ⟨g1, sp1, y1⟩ <;> rcases c2 with c2 | ⟨g2, sp2, y2⟩
  · exact lvOwnM hW n hA hSelf hs ha c1 c2 hconf
  · obtain ⟨k2, z2⟩ := collF_collFH y2
    exact hF k2 _ _ _ _ _ _ _ _ (W.frag _ sp2) hs ha c1 z2 hconf
  · obtain ⟨k1, z1⟩ := collF_collFH y1
    exact hF k1 _ _ _ _ _ _ _ _ (W.frag _ sp1) hs ha c2 z1 hconf.symm
  · obtain ⟨k1, z1⟩ := collF_collFH y1
    obtain ⟨k2, z2⟩ := collF_collFH y2
    exact hC k1 k2 _ _ _ _ _ _ (W.frags _ _ sp1 sp2) z1 z2 hconf

include hpa hne hw hK hW in
theorem levelsM (n : Nat) : LvAM s d M n ∧ LvSelf s d n ∧ LvChaseM s d M n ∧ LvSet s d n := by
  have step : ∀ n, (∀ m, n = m + 1 → LvAM s d M m ∧ LvFM s d M m ∧ LvChaseM s d M m) → (∀ m, n = m + 1 → LvSet s d m) →
      LvAM s d M n ∧ LvSelf s d n ∧ LvChaseM s d M n ∧ LvSet s d n := fun n h1 h2 =>
    have a := lvAM_of hpa n h1
    have b := lvSelf_of hpa n h2
    have f := lvFM_of hpa hw hK hW n a b
    have c := lvChaseM_of hpa hne hK hW n a f b
    ⟨a, b, c, lvSetM_of hW n a f b c⟩
  induction n with
  | zero => exact step 0 (fun m h => nomatch h) (fun m h => nomatch h)
  | succ n ih =>
    exact step (n + 1) (fun m h => by cases h; exact ⟨ih.1, lvFM_of hpa hw hK hW _ ih.1 ih.2.1, ih.2.2.1⟩)
      (fun m h => by cases h; exact ih.2.2.2)

include hpa hne hw hK hW in
theorem clause_of_certsM : Spec.overlappingFieldsCanBeMerged s d := by
  intro i sels hs p ha rn e1 e2 c1 c2 hconf
  obtain ⟨n, hn⟩ := conf_confH hconf
  exact (levelsM hpa hne hw hK hW n).2.2.2 i sels p rn e1 e2 false hs ha c1 c2 hn

end
end PyGql.Validate
