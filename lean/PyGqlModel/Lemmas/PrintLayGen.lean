/-
  `Lay` for the two list shapes of the type-system printers: `sep.join(map f xs)` with a punctuator in the separator
  against `sep? X (sep X)*`, and `_block(map f xs)` against the optional block `{ X+ }`.
-/
import PyGqlModel.Lemmas.PrintLayExec
namespace PyGql.PrintTokens
open PyGql PyGql.Ast PyGql.Parse PyGql.Spec PyGql.Print PyGql.PrintLex PyGql.PrintMatch PyGql.PrintString PyGql.Lex

theorem sep_pipe (b : Text) (cb : List TokClass) (h : Lay b cb) : Lay ([32, 124, 32] ++ b) ([(.pipe, [])] ++ cb) := by
  simpa using lay_space_cons (lay_pipe (lay_space_cons h))
theorem sep_amp (b : Text) (cb : List TokClass) (h : Lay b cb) : Lay ([32, 38, 32] ++ b) ([(.amp, [])] ++ cb) := by
  simpa using lay_space_cons (lay_amp (lay_space_cons h))

theorem yieldAll_sepV_gen {α} (sep : TokKind) (f : α → Item) (pr : α → Text) (xs : List α) :
    Item.yieldAll (sepV sep f xs) = joinCls [(sep, [])] (xs.map fun x => (pr x, (f x).yield)) := by
  cases xs with
  | nil => rfl
  | cons t ts =>
    simp only [sepV, Item.yieldAll, Item.yield, List.nil_append, List.map_cons, joinCls]
    congr 1
    induction ts with
    | nil => rfl
    | cons u us ih => simp [Item.yieldAll, Item.yield, ih]

theorem sepV_map {α β} (k : TokKind) (V : β → Item) (g : α → β) (xs : List α) :
    sepV k V (xs.map g) = sepV k (fun x => V (g x)) xs := by
  cases xs with
  | nil => rfl
  | cons x xs => simp [sepV, List.flatMap_map]

theorem lay_sepV {α} (f : α → Text) (V : α → Item) {sep : Text} {k : TokKind}
    (hsep : ∀ b cb, Lay b cb → Lay (sep ++ b) ([(k, [])] ++ cb)) (hd : ∀ b, DelimHead (sep ++ b)) (xs : List α)
    (h : ∀ x ∈ xs, Lay (f x) (V x).yield) (hne : ∀ x ∈ xs, f x ≠ []) :
    Lay (join (xs.map f) sep) (Item.yieldAll (sepV k V xs)) ∧ join (xs.map f) sep = joinSep sep (xs.map f) := by
  have e := join_eq_joinSep (xs.map f) sep (List.forall_mem_map.2 hne)
  refine ⟨?_, e⟩
  have := lay_joinSep sep [(k, [])] hsep hd (xs.map fun x => part (f x) (V x).yield) (List.forall_mem_map.2 h)
  rw [e, yieldAll_sepV_gen k V f]
  simpa [List.map_map, Function.comp_def] using this

theorem lay_blockV {α} (ind : Text) (hind : Blank ind) (f : α → Text) (s : α → α) (V : α → Item) (xs : List α)
    (h : ∀ x ∈ xs, Lay (f x) (V (s x)).yield ∧ f x ≠ []) :
    Lay (block (xs.map f) ind) (Item.yieldAll (blockV V (xs.map s))) ∧
    (xs = [] → block (xs.map f) ind = []) ∧ (xs ≠ [] → ∃ pre, block (xs.map f) ind = 123 :: (pre ++ [125])) := by
  cases xs with
  | nil => exact ⟨by simpa [block, blockV, Item.yieldAll, Item.yield] using lay_nil, fun _ => by simp [block], fun h => absurd rfl h⟩
  | cons x xs =>
    let ps : List LP := (x :: xs).map fun y => (f y, (V (s y)).yield)
    have hps : ∀ p ∈ ps, Lay p.1 p.2 := by
      intro p hp; simp only [ps, List.mem_map] at hp; obtain ⟨y, hy, rfl⟩ := hp; exact (h y hy).1
    have hnn : ∀ p ∈ ps, p.1 ≠ [] := by
      intro p hp; simp only [ps, List.mem_map] at hp; obtain ⟨y, hy, rfl⟩ := hp; exact (h y hy).2
    obtain ⟨l, pre, hpre⟩ := lay_block ind hind ps (by simp [ps]) hps hnn
    have e1 : ps.map Prod.fst = (x :: xs).map f := by simp [ps, List.map_map, Function.comp_def]
    have e2 : ps.flatMap Prod.snd = Item.yieldAll (((x :: xs).map s).map V) := by
      rw [yieldAll_map]; simp [ps, List.flatMap_map]
    rw [e1] at l hpre
    rw [e2] at l
    refine ⟨?_, (fun h => by cases h), (fun _ => ⟨pre, hpre⟩)⟩
    simpa [blockV, Item.yieldAll, Item.yield, yieldAll_append] using l

end PyGql.PrintTokens
