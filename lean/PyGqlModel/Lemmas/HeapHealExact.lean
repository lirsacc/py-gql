/-
  C14 — exactness of healing, and why two rounds of `fix_type_references` always suffice.
-/
import PyGqlModel.Lemmas.HeapClosedLoop

/-!
  EXACTNESS of healing: when every type name an object mentions is registered, `_HealSchemaVisitor` drops no member,
  rebuilds nothing and only re-points references: every object keeps its content up to the ADDRESSES inside its type
  references (`NVeq`), every member list is the very same list of addresses, `updated_types` / `updated_directives` are empty
  and `fix_type_references` stops after one round.
-/

namespace PyGql.Heap.Own
open PyGql.Heap

def eraseRefs (rs : List Ref) : List Ref := rs.map fun r => ⟨r.name, 0⟩

/-- the object with every reference to a type replaced by the NAME of that type (member lists untouched) -/
def eraseR : Obj → Obj
  | .type t => .type { t with ifaces := eraseRefs t.ifaces, members := eraseRefs t.members }
  | .field f => .field { f with ty := eraseT f.ty }
  | .arg g => .arg { g with ty := eraseT g.ty }
  | .dir d => .dir d

theorem eraseT_base (t : TRef) : (eraseT t).base.name = t.base.name := by
  induction t with
  | named r => rfl
  | list t ih => simpa [eraseT, TRef.base] using ih
  | nonNull t ih => simpa [eraseT, TRef.base] using ih

theorem base_name_of_erase {t t' : TRef} (e : eraseT t' = eraseT t) : t'.base.name = t.base.name := by
  rw [← eraseT_base t', e, eraseT_base]

/-- same heap up to the addresses inside type references: same objects at the same addresses, same member lists -/
def NVeq (h h' : Heap) : Prop := ∀ a, (h'.read a).map eraseR = (h.read a).map eraseR

theorem NVeq.refl (h : Heap) : NVeq h h := fun _ => rfl
theorem NVeq.trans {h1 h2 h3 : Heap} (a : NVeq h1 h2) (b : NVeq h2 h3) : NVeq h1 h3 := fun x => (b x).trans (a x)

theorem nveq_write (h : Heap) (a : Addr) (o o' : Obj) (hr : h.read a = some o) (he : eraseR o' = eraseR o) : NVeq h (h.write a o') := by
  intro b
  by_cases hab : a = b
  · subst hab
    rw [read_write_self h a o' (read_lt h a o hr), hr]
    simp [he]
  · rw [read_write_other h a b o' hab]

theorem nveq_read {h h' : Heap} (n : NVeq h h') {a : Addr} {o : Obj} (hr : h.read a = some o) :
    ∃ o', h'.read a = some o' ∧ eraseR o' = eraseR o := by
  have e := n a
  rw [hr] at e
  cases hr' : h'.read a with
  | none => simp [hr'] at e
  | some o' => exact ⟨o', rfl, by simpa [hr'] using e⟩

theorem nveq_arg {h h' : Heap} (n : NVeq h h') {a : Addr} {g : ArgO} (hr : h.readArg a = some g) :
    ∃ g', h'.readArg a = some g' ∧ eraseT g'.ty = eraseT g.ty := by
  obtain ⟨o, hr', e⟩ := nveq_read n (readArg_read hr)
  cases o with
  | arg g' =>
    simp only [eraseR, Obj.arg.injEq, ArgO.mk.injEq] at e
    exact ⟨g', readArg_of_read hr', e.2.1⟩
  | _ => simp [eraseR] at e

theorem nveq_field {h h' : Heap} (n : NVeq h h') {a : Addr} {f : FieldO} (hr : h.readField a = some f) :
    ∃ f', h'.readField a = some f' ∧ eraseT f'.ty = eraseT f.ty ∧ f'.args = f.args := by
  obtain ⟨o, hr', e⟩ := nveq_read n (readField_read hr)
  cases o with
  | field f' =>
    simp only [eraseR, Obj.field.injEq, FieldO.mk.injEq] at e
    exact ⟨f', readField_of_read hr', e.2.1, e.2.2.1⟩
  | _ => simp [eraseR] at e

theorem nveq_type {h h' : Heap} (n : NVeq h h') {a : Addr} {t : TypeO} (hr : h.readType a = some t) :
    ∃ t', h'.readType a = some t' ∧ t'.kind = t.kind ∧ t'.name = t.name ∧ t'.fields = t.fields ∧
      eraseRefs t'.ifaces = eraseRefs t.ifaces ∧ eraseRefs t'.members = eraseRefs t.members := by
  obtain ⟨o, hr', e⟩ := nveq_read n (readType_read hr)
  cases o with
  | type t' =>
    simp only [eraseR, Obj.type.injEq, TypeO.mk.injEq] at e
    exact ⟨t', readType_of_read hr', e.1, e.2.1, e.2.2.2.1, e.2.2.2.2.1, e.2.2.2.2.2.1⟩
  | _ => simp [eraseR] at e

theorem nveq_dir {h h' : Heap} (n : NVeq h h') {a : Addr} {d : DirO} (hr : h.readDir a = some d) : h'.readDir a = some d := by
  obtain ⟨o, hr', e⟩ := nveq_read n (readDir_read hr)
  cases o with
  | dir d' =>
    simp only [eraseR, Obj.dir.injEq] at e
    rw [readDir_of_read hr', e]
  | _ => simp [eraseR] at e

def nameIn (reg : List (String × Addr)) (n : String) : Prop := (lookup reg n).isSome = true

def refsIn (reg : List (String × Addr)) (rs : List Ref) : Prop := ∀ r, r ∈ rs → nameIn reg r.name

theorem refsIn_of_erase {reg : List (String × Addr)} {rs rs' : List Ref} (e : eraseRefs rs' = eraseRefs rs) (hin : refsIn reg rs) : refsIn reg rs' := by
  intro r hr
  have : (⟨r.name, 0⟩ : Ref) ∈ eraseRefs rs' := List.mem_map.mpr ⟨r, hr, rfl⟩
  rw [e] at this
  obtain ⟨r0, h0, h1⟩ := List.mem_map.mp this
  have hn : r0.name = r.name := by simpa using congrArg Ref.name h1
  rw [← hn]
  exact hin r0 h0

def ArgR (reg : List (String × Addr)) (h : Heap) (a : Addr) : Prop := ∃ g, h.readArg a = some g ∧ nameIn reg g.ty.base.name

def FieldR (reg : List (String × Addr)) (h : Heap) (a : Addr) : Prop :=
  ∃ f, h.readField a = some f ∧ nameIn reg f.ty.base.name ∧ ∀ x, x ∈ f.args → ArgR reg h x

/-- a registered type all of whose references (its own and its members') name registered types -/
def TypeR (reg : List (String × Addr)) (h : Heap) (a : Addr) : Prop :=
  ∃ t, h.readType a = some t ∧ refsIn reg (typeRefs t) ∧
    (match t.kind with
     | .object | .interface => ∀ x, x ∈ t.fields → FieldR reg h x
     | .input => ∀ x, x ∈ t.fields → ArgR reg h x
     | _ => True)

def DirR (reg : List (String × Addr)) (h : Heap) (a : Addr) : Prop := ∃ d, h.readDir a = some d ∧ ∀ x, x ∈ d.args → ArgR reg h x

theorem ArgR.keep {reg : List (String × Addr)} {h h' : Heap} (n : NVeq h h') {a : Addr} (r : ArgR reg h a) : ArgR reg h' a := by
  obtain ⟨g, hg, hin⟩ := r
  obtain ⟨g', hg', e⟩ := nveq_arg n hg
  refine ⟨g', hg', ?_⟩
  simp only [nameIn] at hin ⊢
  rw [base_name_of_erase e]; exact hin

theorem FieldR.keep {reg : List (String × Addr)} {h h' : Heap} (n : NVeq h h') {a : Addr} (r : FieldR reg h a) : FieldR reg h' a := by
  obtain ⟨f, hf, hin, hargs⟩ := r
  obtain ⟨f', hf', e, ea⟩ := nveq_field n hf
  refine ⟨f', hf', ?_, fun x hx => (hargs x (ea ▸ hx)).keep n⟩
  simp only [nameIn] at hin ⊢
  rw [base_name_of_erase e]; exact hin

theorem TypeR.keep {reg : List (String × Addr)} {h h' : Heap} (n : NVeq h h') {a : Addr} (r : TypeR reg h a) : TypeR reg h' a := by
  obtain ⟨t, ht, hi, hk⟩ := r
  obtain ⟨t', ht', ek, _, ef, ei, em⟩ := nveq_type n ht
  refine ⟨t', ht', ?_, ?_⟩
  · simp only [typeRefs, ek]
    cases hkk : t.kind with
    | object => exact refsIn_of_erase ei (by simpa [typeRefs, hkk] using hi)
    | union => exact refsIn_of_erase em (by simpa [typeRefs, hkk] using hi)
    | _ => exact fun r hr => nomatch hr
  rw [ek, ef]
  cases hkk : t.kind <;> simp only [hkk] at hk ⊢
  · exact fun x hx => (hk x hx).keep n
  · exact fun x hx => (hk x hx).keep n
  · exact fun x hx => (hk x hx).keep n

theorem DirR.keep {reg : List (String × Addr)} {h h' : Heap} (n : NVeq h h') {a : Addr} (r : DirR reg h a) : DirR reg h' a := by
  obtain ⟨d, hd, hargs⟩ := r
  exact ⟨d, nveq_dir n hd, fun x hx => (hargs x hx).keep n⟩

theorem healed_some (reg : List (String × Addr)) (t : TRef) (hn : nameIn reg t.base.name) : (healed reg t).isSome = true := by
  induction t with
  | named r => simpa [healed, nameIn, TRef.base] using hn
  | list t ih => simpa [healed] using ih (by simpa [TRef.base] using hn)
  | nonNull t ih => simpa [healed] using ih (by simpa [TRef.base] using hn)

theorem healed_exact (reg : List (String × Addr)) (t : TRef) (hn : nameIn reg t.base.name) :
    ∃ t', healed reg t = some t' ∧ eraseT t' = eraseT t := by
  obtain ⟨t', ht'⟩ := Option.isSome_iff_exists.mp (healed_some reg t hn)
  exact ⟨t', ht', (healed_spec reg t t' ht').1⟩

theorem healedRefs_exact (reg : List (String × Addr)) : ∀ rs : List Ref, refsIn reg rs → eraseRefs (healedRefs reg rs) = eraseRefs rs := by
  intro rs
  induction rs with
  | nil => intro _; rfl
  | cons r rest ih =>
    intro hin
    have hr : nameIn reg r.name := hin r (by simp)
    obtain ⟨a, ha⟩ := Option.isSome_iff_exists.mp hr
    have := ih (fun x hx => hin x (by simp [hx]))
    simp only [healedRefs, eraseRefs] at this ⊢
    simp only [List.filterMap_cons, ha, Option.map_some, List.map_cons, this]

theorem mapFilter_exact (f : Heap → Addr → Heap × Option Addr) (P : Heap → Addr → Prop)
    (hP : ∀ h h' x, NVeq h h' → P h x → P h' x)
    (hf : ∀ h x, P h x → (f h x).2 = some x ∧ NVeq h (f h x).1) :
    ∀ (as : List Addr) (h : Heap), (∀ x, x ∈ as → P h x) → (mapFilter f h as).2 = as ∧ NVeq h (mapFilter f h as).1 := by
  intro as h hall
  obtain ⟨n, os, f', e⟩ := (mapFilter_loop f).run (R := NVeq) (Pre := P) NVeq.refl NVeq.trans (fun n p => hP _ _ _ n p)
    (fun h a p => mapFilter_one f h a ▸ (hf h a p).2) as h hall
  have round : ∀ a, a ∈ as → ∀ o, Made (mapFilter f) NVeq h (mapFilter f h as).1 a o → ∃ b, o = some b ∧ id b = id a := by
    intro a ha o ⟨s1, r1, e1, _⟩
    rw [mapFilter_one, head?_toList] at e1
    exact ⟨a, e1.symm.trans (hf s1 a (hP _ _ _ r1 (hall a ha))).1, rfl⟩
  exact ⟨by simpa [e] using (all2_of_run round f').map_eq, n⟩

theorem onArgument_heal_exact (reg : List (String × Addr)) (h : Heap) (a : Addr) (r : ArgR reg h a) :
    (onArgument .heal reg h a).2 = some a ∧ NVeq h (onArgument .heal reg h a).1 := by
  obtain ⟨g, hg, hin⟩ := r
  obtain ⟨t', ht', et⟩ := healed_exact reg g.ty hin
  simp only [onArgument, hg, ht']
  exact ⟨by simp, nveq_write h a (.arg g) _ (readArg_read hg) (by simp [eraseR, et])⟩

theorem args_heal_exact (reg : List (String × Addr)) (as : List Addr) (h : Heap) (hall : ∀ x, x ∈ as → ArgR reg h x) :
    (mapFilter (onArgument .heal reg) h as).2 = as ∧ NVeq h (mapFilter (onArgument .heal reg) h as).1 :=
  mapFilter_exact _ (ArgR reg) (fun _ _ _ n r => r.keep n) (onArgument_heal_exact reg) as h hall

theorem onField_heal_exact (reg : List (String × Addr)) (tn : String) (h : Heap) (a : Addr) (r : FieldR reg h a) :
    (onField .heal reg tn h a).2 = some a ∧ NVeq h (onField .heal reg tn h a).1 := by
  obtain ⟨f, hf, hin, hargs⟩ := r
  obtain ⟨e1, n1⟩ := args_heal_exact reg f.args h hargs
  obtain ⟨f1, hf1, et1, _⟩ := nveq_field n1 hf
  have hin1 : nameIn reg f1.ty.base.name := by simp only [nameIn] at hin ⊢; rw [base_name_of_erase et1]; exact hin
  obtain ⟨t', ht', et⟩ := healed_exact reg f1.ty hin1
  simp only [onField, hf, onFieldBase, e1, bne_self_eq_false, Bool.false_eq_true, if_false, healFieldType, hf1, ht']
  exact ⟨by simp, n1.trans (nveq_write _ a (.field f1) _ (readField_read hf1) (by simp [eraseR, et]))⟩

theorem fields_heal_exact (reg : List (String × Addr)) (tn : String) (as : List Addr) (h : Heap) (hall : ∀ x, x ∈ as → FieldR reg h x) :
    (mapFilter (onField .heal reg tn) h as).2 = as ∧ NVeq h (mapFilter (onField .heal reg tn) h as).1 :=
  mapFilter_exact _ (FieldR reg) (fun _ _ _ n r => r.keep n) (onField_heal_exact reg tn) as h hall

theorem onType_heal_exact (reg : List (String × Addr)) (h : Heap) (a : Addr) (r : TypeR reg h a) :
    (onType .heal reg h a).2 = some a ∧ NVeq h (onType .heal reg h a).1 := by
  obtain ⟨t, ht, hi, hk⟩ := r
  rcases onType_cases .heal reg ht with ⟨hkk, e⟩ | ⟨hkk, e⟩ | ⟨_, ⟨_, hv, _⟩ | ⟨_, e⟩ | ⟨_, hkk, e⟩⟩
  · -- object / interface: every field is returned as it is; an object type then has its interfaces re-pointed
    rw [e]
    obtain ⟨e1, n1⟩ := fields_heal_exact reg t.name t.fields h (by rcases hkk with hkk | hkk <;> simpa only [hkk] using hk)
    rcases hkk with hkk | hkk
    · obtain ⟨t1, ht1, _, _, _, ei, _⟩ := nveq_type n1 ht
      simp only [onComposite, compositeRest, e1, rebuiltOrSame, bne_self_eq_false, Bool.false_eq_true, if_false, hkk, beq_self_eq_true, if_true, ht1]
      refine ⟨trivial, n1.trans (nveq_write _ a (.type t1) _ (readType_read ht1) ?_)⟩
      simp only [eraseR, Obj.type.injEq]
      rw [healedRefs_exact reg t1.ifaces (refsIn_of_erase ei (by simpa [typeRefs, hkk] using hi))]
    · simp only [onComposite, compositeRest, e1, rebuiltOrSame, bne_self_eq_false, Bool.false_eq_true, if_false, hkk]
      exact ⟨by simp, n1⟩
  · -- the healing visitor treats an input field as it treats an argument
    rw [e]
    obtain ⟨e1, n1⟩ : (mapFilter (onInputField .heal reg) h t.fields).2 = t.fields ∧ NVeq h (mapFilter (onInputField .heal reg) h t.fields).1 :=
      args_heal_exact reg t.fields h (by simpa only [hkk] using hk)
    simp only [onInputObject, inputRest, e1, rebuiltOrSame, bne_self_eq_false, Bool.false_eq_true, if_false]
    exact ⟨trivial, n1⟩
  · cases hv
  · rw [e]
    exact ⟨rfl, NVeq.refl h⟩
  · rw [e]
    refine ⟨rfl, nveq_write h a (.type t) _ (readType_read ht) ?_⟩
    simp only [eraseR, Obj.type.injEq]
    rw [healedRefs_exact reg t.members (by simpa [typeRefs, hkk] using hi)]

theorem onDirective_heal_exact (reg : List (String × Addr)) (h : Heap) (a : Addr) (r : DirR reg h a) :
    (onDirective .heal reg h a).2 = some a ∧ NVeq h (onDirective .heal reg h a).1 := by
  obtain ⟨d, hd, hargs⟩ := r
  obtain ⟨e1, n1⟩ := args_heal_exact reg d.args h hargs
  rcases onDirective_cases .heal reg hd with ⟨hh, _⟩ | ⟨_, hne, _⟩ | ⟨_, _, e⟩
  · cases hh
  · exact absurd e1 hne
  · rw [e]
    exact ⟨rfl, n1⟩

theorem visitTypes_heal_exact (reg : List (String × Addr)) (l : List (String × Addr)) (h : Heap)
    (hall : ∀ e, e ∈ l → isProtected e.1 = false → TypeR reg h e.2) :
    (visitTypes .heal reg h l).2 = [] ∧ NVeq h (visitTypes .heal reg h l).1 := by
  obtain ⟨n, _, f2⟩ := visitTypes_out .heal reg (R := NVeq) (Pre := fun h e => TypeR reg h e.2) NVeq.refl (fun _ _ _ => NVeq.trans)
    (fun _ _ _ n r => r.keep n) (fun h e r => (onType_heal_exact reg h e.2 r).2) l h hall
  refine ⟨List.eq_nil_iff_forall_not_mem.mpr fun x hx => ?_, n⟩
  obtain ⟨e, h1, _, _, p1, _, _, _, hne⟩ := f2 x hx
  exact hne (onType_heal_exact reg h1 e.2 p1).1

theorem visitDirs_heal_exact (reg : List (String × Addr)) (l : List (String × Addr)) (h : Heap) (hall : ∀ e, e ∈ l → DirR reg h e.2) :
    (visitDirs .heal reg h l).2 = [] ∧ NVeq h (visitDirs .heal reg h l).1 := by
  obtain ⟨n, _, f2⟩ := visitDirs_out .heal reg (R := NVeq) (Pre := fun h e => DirR reg h e.2) NVeq.refl (fun _ _ _ => NVeq.trans)
    (fun _ _ _ n r => r.keep n) (fun h e r => (onDirective_heal_exact reg h e.2 r).2) l h hall
  refine ⟨List.eq_nil_iff_forall_not_mem.mpr fun x hx => ?_, n⟩
  obtain ⟨e, h1, _, p1, _, _, _, hne⟩ := f2 x hx
  exact hne (onDirective_heal_exact reg h1 e.2 p1).1

/-- every registered type / directive only mentions registered type names -/
def HealReady (h : Heap) (s : Schema) : Prop :=
  (∀ e, e ∈ s.types → isProtected e.1 = false → TypeR s.types h e.2) ∧ (∀ e, e ∈ s.dirs → DirR s.types h e.2)

theorem healReady_of_wfs {chk : Ref → Bool} {h : Heap} {s : Schema} (w : WFs chk h s) (hc : ∀ r, chk r = true → nameIn s.types r.name) :
    HealReady h s := by
  have harg : ∀ x, argShape chk h x = true → ArgR s.types h x := by
    intro x hx
    obtain ⟨g, hg, hk⟩ := (argShape_iff chk h x).mp hx
    exact ⟨g, hg, hc _ hk⟩
  have hfield : ∀ x, fieldShape chk h x = true → FieldR s.types h x := by
    intro x hx
    obtain ⟨f, hf, hk, hargs⟩ := (fieldShape_iff chk h x).mp hx
    exact ⟨f, hf, hc _ hk, fun y hy => harg y (hargs y hy)⟩
  refine ⟨fun e he _ => ?_, fun e he => ?_⟩
  · obtain ⟨t, ht, hrefs, hmem⟩ := (typeShape_iff chk h e.2).mp (w.types e he)
    rw [typeMembersOK_iff] at hmem
    refine ⟨t, ht, fun r hr => hc r (List.all_eq_true.mp hrefs r hr), ?_⟩
    cases hk : t.kind with
    | object => exact fun x hx => hfield x (hmem.2 (Or.inl hk) x hx)
    | interface => exact fun x hx => hfield x (hmem.2 (Or.inr hk) x hx)
    | input => exact fun x hx => harg x (hmem.1 hk x hx)
    | _ => trivial
  · obtain ⟨d, hd, hargs⟩ := (dirShape_iff chk h e.2).mp (w.dirs e he)
    exact ⟨d, hd, fun x hx => harg x (hargs x hx)⟩

/-- ONE round of `fix_type_references` on such a schema replaces nothing … -/
theorem healRound_exact (s : Schema) (h : Heap) (r : HealReady h s) :
    (visitAll .heal s h).2.1 = [] ∧ (visitAll .heal s h).2.2 = [] ∧ NVeq h (visitAll .heal s h).1 := by
  obtain ⟨e1, n1⟩ := visitTypes_heal_exact s.types s.types h r.1
  obtain ⟨e2, n2⟩ := visitDirs_heal_exact s.types s.dirs _ (fun e he => (r.2 e he).keep n1)
  simp only [visitAll]
  exact ⟨e1, e2, n1.trans n2⟩

/-- the schema with its root operation types looked up by name in its own registry -/
def healedRoots (s : Schema) : Schema :=
  { s with query := reRoot s.types s.query, mutation := reRoot s.types s.mutation, subscription := reRoot s.types s.subscription }

/-- … so the loop stops there: the registry is the same, the roots are looked up by name, the heap is the same up to the
    addresses inside type references -/
theorem healLoop_exact (cfg : Cfg) (fuel : Nat) (s : Schema) (h : Heap) (r : HealReady h s) :
    ∃ h', healLoop cfg (fuel + 1) s h = some (h', healedRoots s) ∧ NVeq h h' := by
  obtain ⟨e1, e2, n⟩ := healRound_exact s h r
  refine ⟨(visitAll .heal s h).1, ?_, n⟩
  simp only [healLoop, e1, e2, replaceCore, replaceTypes, replaceDirs, Bool.false_eq_true, if_false, healedRoots]

end PyGql.Heap.Own

/-!
  fuel sufficiency for `fix_type_references`: once every reference carries a REGISTERED NAME, a heal
  round re-points references in place and replaces nothing (above); so the second round always ends the loop.
-/

namespace PyGql.Heap.Own
open PyGql.Heap

def nameReg (reg : List (String × Addr)) (r : Ref) : Bool := (lookup reg r.name).isSome

theorem onDirective_same (reg : List (String × Addr)) (h : Heap) (a : Addr) (hs : dirShape (nameReg reg) h a = true) :
    (onDirective .heal reg h a).2 = some a := by
  obtain ⟨d, hd, hargs⟩ := (dirShape_iff _ h a).mp hs
  exact (onDirective_heal_exact reg h a ⟨d, hd, fun x hx => (argShape_iff _ h x).mp (hargs x hx)⟩).1

theorem lookup_isSome_of_name {reg : List (String × Addr)} {n : String} (hn : n ∈ regNames reg) : (lookup reg n).isSome = true := by
  simp only [regNames, List.mem_map] at hn
  obtain ⟨e, he, rfl⟩ := hn
  cases hl : lookup reg e.1 with
  | none => have := lookup_none_ne hl e he; simp at this
  | some a => rfl

theorem name_of_lookup {reg : List (String × Addr)} {n : String} {a : Addr} (hl : lookup reg n = some a) : n ∈ regNames reg :=
  List.mem_map.mpr ⟨(n, a), lookup_mem' hl, rfl⟩

/-- FUEL SUFFICIENCY: on a well-formed schema two rounds of `fix_type_references` are enough -/
theorem healLoop_two (cfg : Cfg) (s : Schema) (h : Heap) (w : WFs (fun _ => true) h s) : (healLoop cfg 2 s h).isSome = true := by
  rw [healLoop]
  split
  · -- the first round replaced something: now every reference names a registered type, and the second round is exact
    have hr : HealReady (visitAll .heal s h).1 (replaceCore cfg s (visitAll .heal s h).2.1 (visitAll .heal s h).2.2).1 := by
      refine healReady_of_wfs (round_wf_out cfg .heal s h _ (compat_true .heal s.types) w) fun r hr => ?_
      simp only [outChk, refOK, beq_iff_eq] at hr
      simp only [replaceCore, visitAll]
      exact lookup_isSome_of_name
        (replaceTypes_names cfg _ _ _ (visitTypes_some .heal trivial s.types s.types h) _ (name_of_lookup hr))
    obtain ⟨h', e, _⟩ := healLoop_exact cfg 0 _ _ hr
    simp [e]
  · rfl

end PyGql.Heap.Own
