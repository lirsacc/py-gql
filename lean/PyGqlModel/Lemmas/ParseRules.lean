/-
  The parser against the matcher, as two judgments with one rule per way a `do` block goes on.

  `Sound fl p Q V`       whatever `p` returns satisfies `Q`, and its view `V` matches the tokens `p` consumed;
  `Takes1 fl n p a i Fol`  wherever the matcher accepts the item `i`, `p` returns `a` and stops where the matcher stops.
  A production is a node: `start ← peek`, steps that each read one item or a list of items, `_loc(start)`.  Inside a
  node the judgments are `SoundK` (the items matched so far are carried along) and `Takes` (the items still to be
  matched are consumed from the front); there is a rule for a step `p >>= f`, for `expect`, for `expect_keyword`, and
  for the closing `_loc`.  A proof by these rules names, line by line of the `do` block, the lemma of the sub-parser
  called there, and for completeness what that sub-parser needs to know of the token after it.
-/
import PyGqlModel.Lemmas.ParseCore
namespace PyGql.Parse
open PyGql PyGql.Ast PyGql.Spec

/-- the next token exists and its kind is none of `ks` (what FOLLOWS an optional part) -/
def NotK (ks : List TokKind) (ts : List Tok) : Prop := ∃ t tl, ts = t :: tl ∧ t.kind ∉ ks

theorem NotK.mono {ks ks' : List TokKind} {ts : List Tok} (h : NotK ks ts) (hs : ∀ k ∈ ks', k ∈ ks) : NotK ks' ts := by
  obtain ⟨t, tl, rfl, hk⟩ := h
  exact ⟨t, tl, rfl, fun hm => hk (hs _ hm)⟩

theorem NotK.cons {ks : List TokKind} {t : Tok} {tl : List Tok} (h : t.kind ∉ ks) : NotK ks (t :: tl) := ⟨t, tl, rfl, h⟩

theorem NotK.of_tok {fl : Flags} {k : TokKind} {v : Text} {is : List Item} {ks : List TokKind} {l : Tok} {ts : List Tok}
    {r : Tok × List Tok} (h : Item.checkAll fl (Item.tok k v :: is) l ts = some r) (hk : k ∉ ks) : NotK ks ts := by
  simp only [checkAll_cons, check_tok] at h
  obtain ⟨l1, ts1, ⟨t, rfl, hc, _⟩, _⟩ := h
  exact NotK.cons (cls_kind hc ▸ hk)

theorem NotK.of_node_tok {fl : Flags} {loc : Loc} {k : TokKind} {v : Text} {is js : List Item} {ks : List TokKind}
    {l : Tok} {ts : List Tok} {r : Tok × List Tok}
    (h : Item.checkAll fl (Item.node loc (Item.tok k v :: is) :: js) l ts = some r) (hk : k ∉ ks) : NotK ks ts := by
  obtain ⟨l1, ts1, h1, _⟩ := (checkAll_cons ..).1 h
  obtain ⟨t, tl, rfl, hkk⟩ := node_first h1
  exact NotK.cons (hkk ▸ hk)

theorem NotK.of_node {fl : Flags} {loc : Loc} {is : List Item} {ks : List TokKind} {l : Tok} {ts : List Tok}
    {r : Tok × List Tok} (h : (Item.node loc is).check fl l ts = some r)
    (his : ∀ {r}, Item.checkAll fl is l ts = some r → NotK ks ts) : NotK ks ts := by
  rcases r with ⟨l', rest⟩
  obtain ⟨_, _, _, hall, _⟩ := (check_node ..).1 h
  exact his hall

abbrev Any : List Tok → Prop := fun _ => True

def Fails {α} (e : P α) : Prop := ∀ s r, e s ≠ .ok r

theorem fails_fail {α} (msg : String) : Fails (fail msg : P α) := fun _ _ h => (fail_ok ..).1 h
theorem fails_failAt {α} (t : Tok) (msg : String) : Fails (failAt t msg : P α) := fun _ _ h => (failAt_ok ..).1 h
theorem fails_failTokAt {α} (t : Tok) (msg : String) : Fails (failTokAt t msg : P α) :=
  fun _ _ h => (failTokAt_ok ..).1 h

def Sound (fl : Flags) {α} (p : P α) (Q : α → Prop) (V : α → Item) : Prop :=
  ∀ s x s', p s = .ok (x, s') → Q x ∧ (V x).check fl s.last s.toks = some (s'.last, s'.toks)

def SoundL (fl : Flags) {α} (p : P α) (Q : α → Prop) (W : α → List Item) : Prop :=
  ∀ s x s', p s = .ok (x, s') → Q x ∧ Item.checkAll fl (W x) s.last s.toks = some (s'.last, s'.toks)

/-- the rest `q` of a node's `do` block, after steps that matched a prefix of the node's items: `acc tl` is that prefix
    followed by `tl` (kept as a function, so that the items of the finished node are `acc []` without re-bracketing).
    Whatever `q` returns satisfies `Q`, and its view matches from the node's first token `st`. -/
def SoundK (fl : Flags) (st : Tok) (acc : List Item → List Item) {β} (q : P β) (Q : β → Prop) (V : β → Item) : Prop :=
  ∀ (s0 : PS) tl0 (s : PS) x (s' : PS), s0.toks = st :: tl0 →
    (∀ tl r, Item.checkAll fl tl s.last s.toks = some r → Item.checkAll fl (acc tl) s0.last s0.toks = some r) →
    q s = .ok (x, s') → Q x ∧ (V x).check fl s0.last s0.toks = some (s'.last, s'.toks)

section
variable {fl : Flags} {α β : Type} {st : Tok} {acc : List Item → List Item} {Q : β → Prop} {V : β → Item}

theorem Sound.failed {e : P β} (h : Fails e) : Sound fl e Q V := fun s x s' he => (h s _ he).elim

theorem Sound.ite {c : Prop} [Decidable c] {p q : P β} (hp : Sound fl p Q V) (hq : Sound fl q Q V) :
    Sound fl (if c then p else q) Q V := by
  split
  · exact hp
  · exact hq

theorem Sound.node {body : Tok → P β} (h : ∀ st, SoundK fl st (fun tl => tl) (body st) Q V) : Sound fl (peek >>= body) Q V := by
  intro s x s' hp
  obtain ⟨st, ts, h1, hb⟩ := peek_bind hp
  exact h st s ts s x s' h1 (fun _ _ h => h) hb

/-- a node whose first token is read by `expect` (and is its `start`) -/
theorem Sound.nodeTok {k : TokKind} (hk : hasValue k = false) {body : Tok → P β}
    (h : ∀ st, SoundK fl st (fun tl => Spec.p k :: tl) (body st) Q V) : Sound fl (expect k >>= body) Q V := by
  intro s x s' hp
  obtain ⟨st, ts, h1, hkk, hb⟩ := expect_bind hp
  exact h st s ts _ x s' h1 (fun tl r ht => chkA_cons (chk_tok h1 (cls_const hkk hk)) ht) hb

theorem SoundK.done {mk : Loc → β} (h : ∀ loc, Q (mk loc) ∧ V (mk loc) = .node loc (acc [])) :
    SoundK fl st acc (mkLoc fl st >>= fun loc => pure (mk loc)) Q V := by
  intro s0 tl0 s x s' h0 hacc hq
  cases hq
  obtain ⟨q, e⟩ := h (locOf fl st s.last)
  exact ⟨q, e ▸ chk_node h0 (hacc [] _ rfl)⟩

/-- a test that raises: what comes after it knows that the test failed -/
theorem SoundK.guard {c : Prop} [Decidable c] {e q : P β} (he : Fails e) (hq : ¬c → SoundK fl st acc q Q V) :
    SoundK fl st acc (if c then e else q) Q V := by
  intro s0 tl0 s x s' h0 hacc h
  rcases ite_inv h with ⟨_, h⟩ | ⟨hc, h⟩
  · exact (he _ _ h).elim
  · exact hq hc s0 tl0 s x s' h0 hacc h

theorem SoundK.step {p : P α} {Qp : α → Prop} {Vp : α → Item} {f : α → P β} (hp : Sound fl p Qp Vp)
    (hf : ∀ a, Qp a → SoundK fl st (fun tl => acc (Vp a :: tl)) (f a) Q V) : SoundK fl st acc (p >>= f) Q V := by
  intro s0 tl0 s x s' h0 hacc hq
  obtain ⟨a, s1, ha, hq⟩ := bind_inv hq
  obtain ⟨qa, ca⟩ := hp _ _ _ ha
  exact hf a qa s0 tl0 s1 x s' h0 (fun tl r h => hacc _ r (chkA_cons ca h)) hq

theorem SoundK.app {p : P α} {Qp : α → Prop} {Wp : α → List Item} {f : α → P β} (hp : SoundL fl p Qp Wp)
    (hf : ∀ a, Qp a → SoundK fl st (fun tl => acc (Wp a ++ tl)) (f a) Q V) : SoundK fl st acc (p >>= f) Q V := by
  intro s0 tl0 s x s' h0 hacc hq
  obtain ⟨a, s1, ha, hq⟩ := bind_inv hq
  obtain ⟨qa, ca⟩ := hp _ _ _ ha
  exact hf a qa s0 tl0 s1 x s' h0 (fun tl r h => hacc _ r (chkA_app ca h)) hq

/-- the last step, when the node's items end with the list it reads -/
theorem SoundK.last {p : P α} {Qp : α → Prop} {Wp : α → List Item} {mk : α → Loc → β} (hp : SoundL fl p Qp Wp)
    (h : ∀ a loc, Qp a → Q (mk a loc) ∧ V (mk a loc) = .node loc (acc (Wp a))) :
    SoundK fl st acc (p >>= fun a => mkLoc fl st >>= fun loc => pure (mk a loc)) Q V := by
  intro s0 tl0 s x s' h0 hacc hq
  obtain ⟨a, s1, ha, hq⟩ := bind_inv hq
  obtain ⟨qa, ca⟩ := hp _ _ _ ha
  obtain ⟨q, e⟩ := h a (locOf fl st s1.last) qa
  cases hq
  exact ⟨q, e ▸ chk_node h0 (hacc _ _ ca)⟩

theorem SoundK.tok {k : TokKind} (hk : hasValue k = false) {f : Tok → P β}
    (hf : ∀ t, SoundK fl st (fun tl => acc (Spec.p k :: tl)) (f t) Q V) : SoundK fl st acc (expect k >>= f) Q V := by
  intro s0 tl0 s x s' h0 hacc hq
  obtain ⟨t, ts, h1, hkk, hq⟩ := expect_bind hq
  exact hf t s0 tl0 _ x s' h0 (fun tl r h => hacc _ r (chkA_cons (chk_tok h1 (cls_const hkk hk)) h)) hq

theorem SoundK.kw {v : Text} {f : Tok → P β}
    (hf : ∀ t, SoundK fl st (fun tl => acc (Spec.kw v :: tl)) (f t) Q V) :
    SoundK fl st acc (expectKeyword v >>= f) Q V := by
  intro s0 tl0 s x s' h0 hacc hq
  obtain ⟨t, ts, h1, hkk, hv, hq⟩ := expectKeyword_bind hq
  exact hf t s0 tl0 _ x s' h0 (fun tl r h => hacc _ r (chkA_cons (chk_tok h1 (cls_kw hkk hv)) h)) hq

end

/-- wherever the matcher accepts the items `is` from `(l, ts)`, at most `n` tokens are left and what remains satisfies
    `Fol`, `p` returns `a` in the matcher's end state.  `a` may mention the last token consumed (for `_loc`). -/
def Takes (fl : Flags) (n : Nat) {α} (p : P α) (a : Tok → α) (is : List Item) (Fol : List Tok → Prop) : Prop :=
  ∀ l ts l' rest, ts.length ≤ n → Item.checkAll fl is l ts = some (l', rest) → Fol rest →
    p ⟨ts, l⟩ = .ok (a l', ⟨rest, l'⟩)

def Takes1 (fl : Flags) (n : Nat) {α} (p : P α) (a : α) (i : Item) (Fol : List Tok → Prop) : Prop :=
  ∀ l ts l' rest, ts.length ≤ n → i.check fl l ts = some (l', rest) → Fol rest → p ⟨ts, l⟩ = .ok (a, ⟨rest, l'⟩)

section
variable {fl : Flags} {n : Nat} {α β : Type} {Fol Fol1 : List Tok → Prop}

theorem Takes.mono {m : Nat} {p : P α} {a : Tok → α} {is : List Item} (h : Takes fl n p a is Fol) (hm : m ≤ n) :
    Takes fl m p a is Fol := fun l ts l' rest hn => h l ts l' rest (Nat.le_trans hn hm)

theorem Takes1.mono {m : Nat} {p : P α} {a : α} {i : Item} (h : Takes1 fl n p a i Fol) (hm : m ≤ n) :
    Takes1 fl m p a i Fol := fun l ts l' rest hn => h l ts l' rest (Nat.le_trans hn hm)

theorem Takes1.toL {p : P α} {a : α} {i : Item} (h : Takes1 fl n p a i Fol) : Takes fl n p (fun _ => a) [i] Fol := by
  intro l ts l' rest hn hc hr
  obtain ⟨l1, ts1, h1, h2⟩ := (checkAll_cons ..).1 hc
  cases h2
  exact h l ts l' rest hn h1 hr

theorem Takes.done (st : Tok) (mk : Loc → α) :
    Takes fl n (mkLoc fl st >>= fun loc => pure (mk loc)) (fun l' => mk (locOf fl st l')) [] Fol := by
  intro l ts l' rest _ h _
  cases h
  rfl

theorem Takes.ret (a : α) : Takes fl n (pure a) (fun _ => a) [] Fol := by
  intro l ts l' rest _ h _
  cases h
  rfl

/-- a step that reads one item; `hfol`: what it needs of the tokens after it, from the items that come next -/
theorem Takes.stepF {p : P α} {a : α} {i : Item} {is : List Item} {f : α → P β} {b : Tok → β}
    (hp : Takes1 fl n p a i Fol1)
    (hfol : ∀ {l ts l' rest}, Item.checkAll fl is l ts = some (l', rest) → Fol rest → Fol1 ts)
    (hf : Takes fl n (f a) b is Fol) : Takes fl n (p >>= f) b (i :: is) Fol := by
  intro l ts l' rest hn h hr
  obtain ⟨l1, ts1, h1, h2⟩ := (checkAll_cons ..).1 h
  exact bind_run (hp l ts l1 ts1 hn h1 (hfol h2 hr)) (hf l1 ts1 l' rest (Nat.le_trans (check_len h1) hn) h2 hr)

theorem Takes.step {p : P α} {a : α} {i : Item} {is : List Item} {f : α → P β} {b : Tok → β}
    (hp : Takes1 fl n p a i Any) (hf : Takes fl n (f a) b is Fol) : Takes fl n (p >>= f) b (i :: is) Fol :=
  Takes.stepF hp (fun _ _ => trivial) hf

theorem Takes.appF {p : P α} {a : α} {is1 is2 : List Item} {f : α → P β} {b : Tok → β}
    (hp : Takes fl n p (fun _ => a) is1 Fol1)
    (hfol : ∀ {l ts l' rest}, Item.checkAll fl is2 l ts = some (l', rest) → Fol rest → Fol1 ts)
    (hf : Takes fl n (f a) b is2 Fol) : Takes fl n (p >>= f) b (is1 ++ is2) Fol := by
  intro l ts l' rest hn h hr
  obtain ⟨l1, ts1, h1, h2⟩ := (checkAll_append ..).1 h
  exact bind_run (hp l ts l1 ts1 hn h1 (hfol h2 hr)) (hf l1 ts1 l' rest (Nat.le_trans (checkAll_len h1) hn) h2 hr)

theorem Takes.app {p : P α} {a : α} {is1 is2 : List Item} {f : α → P β} {b : Tok → β}
    (hp : Takes fl n p (fun _ => a) is1 Any) (hf : Takes fl n (f a) b is2 Fol) :
    Takes fl n (p >>= f) b (is1 ++ is2) Fol :=
  Takes.appF hp (fun _ _ => trivial) hf

/-- the last step, when the node's items end with the list it reads -/
theorem Takes.lastF {p : P α} {a : α} {is : List Item} {f : α → P β} {b : Tok → β}
    (hp : Takes fl n p (fun _ => a) is Fol1) (hfol : ∀ {ts}, Fol ts → Fol1 ts)
    (hf : Takes fl n (f a) b [] Fol) : Takes fl n (p >>= f) b is Fol := by
  have := Takes.appF (is2 := []) hp (fun h hr => by cases h; exact hfol hr) hf
  rwa [List.append_nil] at this

theorem Takes.guard {c : Prop} [Decidable c] {e q : P α} {a : Tok → α} {is : List Item} (hc : ¬c)
    (hq : Takes fl n q a is Fol) : Takes fl n (if c then e else q) a is Fol := by
  rw [if_neg hc]
  exact hq

theorem Takes.pos {c : Prop} [Decidable c] {p q : P α} {a : Tok → α} {is : List Item} (hc : c)
    (hp : Takes fl n p a is Fol) : Takes fl n (if c then p else q) a is Fol := by
  rw [if_pos hc]
  exact hp

/-- look-ahead: what comes next runs with the next token at hand, of which it may use what the items say (`hH`);
    the tests on that token are then decided by `Takes.pos` / `Takes.guard` -/
theorem Takes.look {H : Tok → Prop} {f : Tok → P β} {b : Tok → β} {is : List Item}
    (hH : ∀ {l ts r}, Item.checkAll fl is l ts = some r → ∃ t tl, ts = t :: tl ∧ H t)
    (hf : ∀ t, H t → Takes fl n (f t) b is Fol) : Takes fl n (peek >>= f) b is Fol := by
  intro l ts l' rest hn h hr
  obtain ⟨t, tl, rfl, ht⟩ := hH h
  exact bind_run (peek_cons ..) (hf t ht l _ l' rest hn h hr)

/-- `advance` reads whatever token the items ask for -/
theorem Takes.adv {k : TokKind} {v : Text} {is : List Item} {f : Tok → P β} {b : Tok → β}
    (hf : ∀ t, Takes fl n (f t) b is Fol) : Takes fl n (advance >>= f) b (Item.tok k v :: is) Fol := by
  intro l ts l' rest hn h hr
  simp only [checkAll_cons, check_tok] at h
  obtain ⟨l1, ts1, ⟨t, rfl, hc, rfl⟩, h2⟩ := h
  exact bind_run (advance_cons ..) (hf l1 l1 ts1 l' rest (Nat.le_of_succ_le hn) h2 hr)

theorem Takes.tok {k : TokKind} {is : List Item} {f : Tok → P β} {b : Tok → β}
    (hf : ∀ t, Takes fl n (f t) b is Fol) : Takes fl n (expect k >>= f) b (Spec.p k :: is) Fol := by
  intro l ts l' rest hn h hr
  simp only [checkAll_cons, check_tok] at h
  obtain ⟨l1, ts1, ⟨t, rfl, hc, rfl⟩, h2⟩ := h
  exact bind_run (expect_pos (cls_kind hc) ..) (hf l1 l1 ts1 l' rest (Nat.le_of_succ_le hn) h2 hr)

theorem Takes.kw {v : Text} {is : List Item} {f : Tok → P β} {b : Tok → β}
    (hf : ∀ t, Takes fl n (f t) b is Fol) : Takes fl n (expectKeyword v >>= f) b (Spec.kw v :: is) Fol := by
  intro l ts l' rest hn h hr
  simp only [checkAll_cons, check_tok] at h
  obtain ⟨l1, ts1, ⟨t, rfl, hc, rfl⟩, h2⟩ := h
  obtain ⟨hk, hv⟩ := cls_kw_inv hc
  exact bind_run (expectKeyword_pos hk hv ..) (hf l1 l1 ts1 l' rest (Nat.le_of_succ_le hn) h2 hr)

theorem Takes1.node {body : Tok → P α} {mk : Loc → α} {loc : Loc} {is : List Item}
    (h : ∀ st, Takes fl n (body st) (fun l' => mk (locOf fl st l')) is Fol) :
    Takes1 fl n (peek >>= body) (mk loc) (.node loc is) Fol := by
  intro l ts l' rest hn hc hr
  obtain ⟨st, tl, rfl, hall, rfl⟩ := (check_node ..).1 hc
  exact bind_run (peek_cons ..) (h st l _ l' rest hn hall hr)

/-- a node whose first token is read by `expect` (and is its `start`) -/
theorem Takes1.nodeTok {k : TokKind} {body : Tok → P α} {mk : Loc → α} {loc : Loc} {is : List Item}
    (h : ∀ st, Takes fl n (body st) (fun l' => mk (locOf fl st l')) is Fol) :
    Takes1 fl n (expect k >>= body) (mk loc) (.node loc (Spec.p k :: is)) Fol := by
  intro l ts l' rest hn hc hr
  obtain ⟨st, tl, rfl, hall, rfl⟩ := (check_node ..).1 hc
  obtain ⟨l1, ts1, h1, h2⟩ := (checkAll_cons ..).1 hall
  obtain ⟨t, e, hk, rfl⟩ := (check_tok ..).1 h1
  cases e
  exact bind_run (expect_pos (cls_kind hk) ..) (h st st tl l' rest (Nat.le_of_succ_le hn) h2 hr)

end

end PyGql.Parse
