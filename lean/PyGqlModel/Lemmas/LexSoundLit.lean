/-
  Soundness of the literal readers `_read_block_string` and `_read_string` against Spec/Lexical.lean.
-/
import PyGqlModel.Lemmas.LexSound
import PyGqlModel.Props.C02_decode

namespace PyGql.Lex
open PyGql.Spec.Lexical

theorem tq_prefix_eq (s : Text) (h : tq.isPrefixOf s = true) : ∃ u, s = 34 :: 34 :: 34 :: u :=
  have ⟨u, hu⟩ := List.isPrefixOf_iff_prefix.mp h
  ⟨u, hu.symm⟩

theorem tq_prefix_append (a b : Text) (h : tq.isPrefixOf a = true) : tq.isPrefixOf (a ++ b) = true := by
  obtain ⟨u, rfl⟩ := tq_prefix_eq a h
  simp [tq, List.isPrefixOf]

theorem tq_prefix_append_len (a b : Text) (h : 3 ≤ a.length) : tq.isPrefixOf (a ++ b) = tq.isPrefixOf a := by
  match a, h with
  | x :: y :: z :: u, _ => simp [tq, List.isPrefixOf]

theorem bsc_length (k : Nat) (body raw : Text) (h : blockStringCharacters k body = some raw) : k ≤ body.length := by
  induction k generalizing body raw with
  | zero => exact Nat.zero_le _
  | succ k ih =>
    cases body with
    | nil => simp [blockStringCharacters] at h
    | cons c t =>
      simp only [blockStringCharacters, Option.map_eq_some_iff] at h
      obtain ⟨w, hw, _⟩ := h
      have := ih t w hw
      simp; omega

/-- the characters `_read_block_string` copies are the SourceCharacters -/
theorem printable_or_lineTerm (c : Nat) : (Lex.isPrintable c || c == 10 || c == 13) = isSourceChar c := by
  rw [Bool.eq_iff_iff]
  simp [Lex.isPrintable, isSourceChar]
  omega

theorem sourceChar_of_blockChar (c : Nat) (h : ¬ (!(Lex.isPrintable c || c == 10 || c == 13)) = true) :
    isSourceChar c = true := by
  rw [← printable_or_lineTerm]
  revert h
  cases (Lex.isPrintable c || c == 10 || c == 13) <;> simp

theorem readBlockBody_sound (n k : Nat) (s raw r : Text) (h : readBlockBody n k s = .ok (raw, r)) :
    ∃ body, s = body ++ r ∧ blockStringCharacters k body = some raw := by
  -- cases of `readBlockBody`: 1 end of text; 2/3 inside an escaped `"""` (rest ok / error); 4 the closing `"""`; 5 `\"""`;
  -- 6 a character that is no SourceCharacter; 7/8 any other character (rest ok / error)
  fun_induction readBlockBody n k s generalizing raw r with
  | case1 => cases h
  | case2 k c t v r' hrec ih =>
    simp only [Except.ok.injEq, Prod.mk.injEq] at h
    obtain ⟨rfl, rfl⟩ := h
    obtain ⟨body, rfl, hb⟩ := ih v r' hrec
    exact ⟨c :: body, rfl, by simp [blockStringCharacters, hb]⟩
  | case3 => cases h
  | case4 c t hp =>
    simp only [Except.ok.injEq, Prod.mk.injEq] at h
    obtain ⟨rfl, rfl⟩ := h
    obtain ⟨u, hu⟩ := tq_prefix_eq _ hp
    simp only [List.cons.injEq] at hu
    obtain ⟨rfl, rfl⟩ := hu
    exact ⟨[34, 34, 34], by simp, by simp [blockStringCharacters, List.isPrefixOf]⟩
  | case5 c t hnp hesc ih =>
    obtain ⟨body, rfl, hb⟩ := ih raw r h
    have hboth := (Bool.and_eq_true _ _).mp hesc
    have hc : c = 92 := of_decide_eq_true hboth.1
    have hq : tq.isPrefixOf (body ++ r) = true := hboth.2
    have hlen := bsc_length 3 body raw hb
    rw [tq_prefix_append_len _ _ hlen] at hq
    subst hc
    refine ⟨92 :: body, rfl, ?_⟩
    have hq' : ([34, 34, 34] : Text).isPrefixOf body = true := hq
    rw [blockStringCharacters.eq_def]
    simp [List.isPrefixOf, hq', hb]
  | case6 => cases h
  | case7 c t hnp hesc hok v r' hrec ih =>
    simp only [Except.ok.injEq, Prod.mk.injEq] at h
    obtain ⟨rfl, rfl⟩ := h
    obtain ⟨body, rfl, hb⟩ := ih v r' hrec
    refine ⟨c :: body, rfl, ?_⟩
    have h1 : ¬ ([34, 34, 34] : Text).isPrefixOf (c :: body) = true := fun hh =>
      hnp (tq_prefix_append (c :: body) r' hh)
    have h2 : ¬ (c = 92 ∧ ([34, 34, 34] : Text).isPrefixOf body = true) := fun hh =>
      hesc ((Bool.and_eq_true _ _).mpr ⟨decide_eq_true hh.1, tq_prefix_append body r' hh.2⟩)
    have h3 := sourceChar_of_blockChar c hok
    rw [blockStringCharacters.eq_def]
    simp only [h1, h2, h3, Bool.not_true, Bool.false_eq_true, ↓reduceIte, hb, Option.map_some]
  | case8 => cases h

theorem readBlockString_sound (n : Nat) (s r : Text) (tok : Tok) (htq : tq.isPrefixOf s = true)
    (h : readBlockString n s = .ok (tok, r)) : Reads n s tok r := by
  unfold readBlockString at h
  split at h
  · cases h
  · rename_i raw rest hb
    cases h
    obtain ⟨u, rfl⟩ := tq_prefix_eq _ htq
    simp only [List.drop_succ_cons, List.drop_zero] at hb
    obtain ⟨body, rfl, hbody⟩ := readBlockBody_sound n 0 _ _ _ hb
    refine ⟨34 :: 34 :: 34 :: body, rfl, by simp, ?_, trivial, rfl, rfl⟩
    show (blockStringRaw (34 :: 34 :: 34 :: body)).map Spec.BlockStringValue = some _
    have : blockStringRaw (34 :: 34 :: 34 :: body) = some raw := by
      simp [blockStringRaw, List.isPrefixOf, hbody]
    rw [this, Option.map_some, PyGql.Props.C02.block_string_spec]

theorem stringValue_of_body (body v : Text) (h : stringCharacters body = some v) :
    stringValue (34 :: (body ++ [34])) = some v := by
  simp only [stringValue]
  have h1 : (body ++ [34]).getLast? = some 34 := by simp
  have h2 : (body ++ [34]).dropLast = body := by simp
  simp [h1, h2, h]

/-- `_read_string` on a quote that does not open a block string: `""` is then not followed by a quote -/
theorem readString_sound (n : Nat) (t r : Text) (tok : Tok) (htq : tq.isPrefixOf (34 :: t) = false)
    (h : readString n (34 :: t) = .ok (tok, r)) : Reads n (34 :: t) tok r := by
  unfold readString at h
  split at h
  · cases h
  · rename_i v rest hb
    cases h
    simp only [List.drop_succ_cons, List.drop_zero] at hb
    obtain ⟨body, rfl, hbody⟩ := PyGql.Props.C02.escape_spec_sound n _ _ _ hb
    refine ⟨34 :: (body ++ [34]), by simp, by simp, stringValue_of_body body v hbody, ?_, by simp [posAt], rfl⟩
    intro hlex
    have hb0 : body = [] := by
      simp only [List.cons.injEq, true_and] at hlex
      cases body with
      | nil => rfl
      | cons x xs => simp at hlex
    subst hb0
    cases r with
    | nil => rfl
    | cons x xs =>
      simp only [startsWith, beq_eq_false_iff_ne]
      intro hx; subst hx
      simp [tq, List.isPrefixOf] at htq

end PyGql.Lex
