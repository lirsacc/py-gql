/-
  C12 text level — `print_description` of a description with OVER-LONG lines (finding H12): `wrapped_lines` re-breaks them
  at word boundaries; the printed text is still ONE block string, whose value is the re-joined wrapped lines.  A
  description without over-long lines (`descTextOK`) is the case where nothing is re-broken.
-/
import PyGqlModel.Lemmas.SdlTextDesc
import PyGqlModel.Lemmas.SdlTextMembers
namespace PyGql.SdlText
open PyGql PyGql.Ast PyGql.Sdl PyGql.Spec PyGql.PrintLex PyGql.PrintTokens PyGql.PrintString PyGql.BlockString PyGql.Lex PyGql.SdlPrint

/-! ### `wrapped_lines` only moves characters -/

theorem splitWords_chars : ∀ (cs stack : Text), ∀ p ∈ SdlPrintT.splitWords cs stack, ∀ c ∈ p, c ∈ cs ∨ c ∈ stack
  | [], stack, p, hp, c, hc => by
    simp only [SdlPrintT.splitWords] at hp
    split at hp
    · simp at hp
    · simp only [List.mem_singleton] at hp; subst hp; exact Or.inr (by simpa using hc)
  | x :: cs, stack, p, hp, c, hc => by
    simp only [SdlPrintT.splitWords] at hp
    split at hp
    · simp only [List.mem_append, List.mem_cons] at hp
      rcases hp with hp | hp | hp
      · split at hp
        · simp at hp
        · simp only [List.mem_singleton] at hp; subst hp; exact Or.inr (by simpa using hc)
      · subst hp; simp only [List.mem_singleton] at hc; subst hc; exact Or.inl (by simp)
      · rcases splitWords_chars cs [] p hp c hc with h | h
        · exact Or.inl (by simp [h])
        · simp at h
    · rcases splitWords_chars cs (x :: stack) p hp c hc with h | h
      · exact Or.inl (by simp [h])
      · simp only [List.mem_cons] at h
        rcases h with h | h
        · exact Or.inl (by simp [h])
        · exact Or.inr h

theorem wrapLine_chars (m : Nat) : ∀ (es : List Text) (w : Text), ∀ y ∈ SdlPrintT.wrapLine m es w, ∀ c ∈ y,
    c ∈ w ∨ ∃ e ∈ es, c ∈ e
  | [], w, y, hy, c, hc => by
    simp only [SdlPrintT.wrapLine] at hy
    split at hy
    · simp at hy
    · simp only [List.mem_singleton] at hy; subst hy; exact Or.inl hc
  | e :: es, w, y, hy, c, hc => by
    simp only [SdlPrintT.wrapLine] at hy
    split at hy
    · simp only [List.mem_cons] at hy
      rcases hy with hy | hy
      · subst hy; exact Or.inl hc
      · rcases wrapLine_chars m es _ y hy c hc with h | ⟨e', he', h⟩
        · split at h
          · exact Or.inr ⟨e, by simp, h⟩
          · simp at h
        · exact Or.inr ⟨e', by simp [he'], h⟩
    · rcases wrapLine_chars m es _ y hy c hc with h | ⟨e', he', h⟩
      · split at h
        · simp only [List.mem_append] at h
          rcases h with h | h
          · exact Or.inl h
          · exact Or.inr ⟨e, by simp, h⟩
        · exact Or.inl h
      · exact Or.inr ⟨e', by simp [he'], h⟩

theorem wrappedLines_chars (ls : List Text) (m : Nat) : ∀ y ∈ SdlPrintT.wrappedLines ls m, ∀ c ∈ y, ∃ l ∈ ls, c ∈ l := by
  intro y hy c hc
  simp only [SdlPrintT.wrappedLines, List.mem_flatMap] at hy
  obtain ⟨l, hl, hy⟩ := hy
  split at hy
  · simp only [List.mem_singleton] at hy; exact ⟨l, hl, hy ▸ hc⟩
  · rcases wrapLine_chars m _ [] y hy c hc with h | ⟨e, he, h⟩
    · simp at h
    · rcases splitWords_chars l [] e he c h with h | h
      · exact ⟨l, hl, h⟩
      · simp at h


theorem wrappedOf_short (w : Nat) (d : String) (h : ∀ l ∈ SdlPrintT.splitLF (T d), l.length ≤ 120 - w) :
    wrappedOf w d = SdlPrintT.splitLF (T d) := wrappedLines_id _ _ h

theorem wrappedOf_of_descTextOK (w : Nat) (d : String) (h : descTextOK w d = true) : wrappedOf w d = SdlPrintT.splitLF (T d) := by
  apply wrappedOf_short
  simp only [descTextOK, Bool.and_eq_true, List.all_eq_true, decide_eq_true_eq] at h
  exact h.1.1.1.2

theorem descWrapOK_of_descTextOK (w : Nat) (d : String) (h : descTextOK w d = true) : descWrapOK w d = true := by
  have hw := wrappedOf_of_descTextOK w d h
  simp only [descTextOK, Bool.and_eq_true] at h
  simp only [descWrapOK, hw, Bool.and_eq_true]
  exact ⟨⟨⟨⟨h.1.1.1.1.1, h.1.1.1.1.2⟩, h.1.1.2⟩, h.1.2⟩, h.2⟩

/-- what `descWrapOK` says about the wrapped lines `l :: ls` of a description, in the form the layout lemmas take it -/
structure WrapFacts (x : String) (l : Text) (ls : List Text) : Prop where
  nonempty : x.isEmpty = false
  chars : ∀ c ∈ T x, (32 ≤ c || c == 9 || c == 10) = true
  mem : ∀ y ∈ l :: ls, ∀ c ∈ y, c ∈ T x ∧ c ≠ 10
  first : onlyWhiteSpace l = false
  last : onlyWhiteSpace ((l :: ls).getLast (by simp)) = false
  shape : if ((l :: ls).length == 1 && l.length < 70 && !(l.getLast? == some 34)) = true then l.getLast? ≠ some 92
    else if l.length > (SdlPrintT.lstrip l).length then (ls = [] ∨ ls.foldl indentStep none = some 0)
    else (l :: ls).foldl indentStep none = some 0
  notQuoted : SdlPrintT.needsQuoted (l :: ls) = false

theorem WrapFacts.noCR {x : String} {l : Text} {ls : List Text} (f : WrapFacts x l ls) : 13 ∉ SdlPrintT.T x := by
  intro hmem; have := f.chars 13 hmem; revert this; decide

theorem wrapOK_facts (w : Nat) (x : String) (h : descWrapOK w x = true) : ∃ l ls, wrappedOf w x = l :: ls ∧ WrapFacts x l ls := by
  simp only [descWrapOK, Bool.and_eq_true, Bool.not_eq_true', List.all_eq_true] at h
  obtain ⟨⟨⟨⟨⟨hxne, htne⟩, hch⟩, hfb⟩, hlb⟩, hshape⟩ := h
  cases hsp : wrappedOf w x with
  | nil => rw [hsp] at hfb; simp [lineBlank] at hfb
  | cons l ls =>
    rw [hsp] at hfb hlb hshape
    have hmem : ∀ y ∈ l :: ls, ∀ c ∈ y, c ∈ T x ∧ c ≠ 10 := by
      intro y hy c hc
      rw [← hsp] at hy
      obtain ⟨l0, hl0, hc0⟩ := wrappedLines_chars _ _ y hy c hc
      exact ⟨splitLF_mem _ l0 hl0 c hc0, splitLF_noLF _ l0 hl0 c hc0⟩
    have hfirst : onlyWhiteSpace l = false := by simpa [lineBlank, onlyWhiteSpace] using hfb
    have hlast : onlyWhiteSpace ((l :: ls).getLast (by simp)) = false := by
      rw [← getLastD_eq_getLast]; simpa [lineBlank, onlyWhiteSpace] using hlb
    have hshq : (if ((l :: ls).length == 1 && l.length < 70 && !(l.getLast? == some 34)) = true then l.getLast? ≠ some 92
        else if l.length > (SdlPrintT.lstrip l).length then (ls = [] ∨ ls.foldl indentStep none = some 0)
        else (l :: ls).foldl indentStep none = some 0) ∧ SdlPrintT.needsQuoted (l :: ls) = false := by
      by_cases hone : ((l :: ls).length == 1 && l.length < 70 && !(l.getLast? == some 34)) = true
      · rw [if_pos hone]
        simp only [Bool.and_eq_true, beq_iff_eq, decide_eq_true_eq, Bool.not_eq_true', beq_eq_false_iff_ne] at hone
        have hs := hshape
        simp [hone.1.1, hone.1.2, hone.2] at hs
        have hls : ls = [] := by simpa using hone.1.1
        exact ⟨hs, by rw [hls]; exact needsQuoted_single l⟩
      · rw [if_neg hone]
        have hone' : ¬ ((l :: ls).length = 1 ∧ l.length < 70 ∧ l.getLast? ≠ some 34) := by
          intro hc; apply hone; simp [hc.1, hc.2.1, hc.2.2]
        have hc : ¬ ((ls = [] ∧ l.length < 70) ∧ ¬ l.getLast? = some 34) := fun hc =>
          hone' ⟨by simp [hc.1.1], hc.1.2, hc.2⟩
        by_cases hlead : l.length > (SdlPrintT.lstrip l).length
        · rw [if_pos hlead]
          have hs := hshape
          simp [hlead] at hs
          split at hs
          · rename_i hh; exact absurd hh hc
          · by_cases hls : ls = []
            · exact ⟨Or.inl hls, by rw [hls]; exact needsQuoted_single l⟩
            · have : minIndentZero ls = true := by
                rcases hs with h | h
                · exact absurd h hls
                · exact h
              exact ⟨Or.inr (foldl_indentStep_zero ls this), needsQuoted_minZero l ls this⟩
        · rw [if_neg hlead]
          have hs := hshape
          simp [hlead] at hs
          split at hs
          · rename_i hh; exact absurd hh hc
          · exact ⟨foldl_indentStep_zero _ hs, needsQuoted_notLead l ls hlead⟩
    exact ⟨l, ls, rfl, hxne, hch, hmem, hfirst, hlast, hshq.1, hshq.2⟩

theorem printDescription_block (o : SdlPrintT.OptsT) (hdesc : o.descriptions = true) (x : String) (depth : Nat) (first : Bool)
    (W : List Text) (hx : x.isEmpty = false) (hcr : 13 ∉ SdlPrintT.T x)
    (hW : SdlPrintT.wrappedLines (SdlPrintT.splitLF (SdlPrintT.T x)) (120 - (SdlPrintT.repeatText o.indent depth).length) = W)
    (hq : SdlPrintT.needsQuoted W = false) :
    SdlPrintT.printDescription o (some x) depth first =
      ((if !(SdlPrintT.repeatText o.indent depth).isEmpty && !first then [10] else []) ++
        (SdlPrintT.repeatText o.indent depth ++ (tq ++ (SdlPrintT.descBody (SdlPrintT.repeatText o.indent depth) W ++ tq)))) ++ [10] := by
  simp [SdlPrintT.printDescription, hdesc, hx, hW, hq, hcr, tq, List.append_assoc]

/-- printed at its depth, a description that satisfies `descWrapOK` — over-long lines allowed — is laid out as ONE
    BlockString token whose value is the wrapped lines joined by line feeds -/
theorem descPart_wrapped (o : SdlPrintT.OptsT) (hind : Blank o.indent) (hdesc : o.descriptions = true) (x : String)
    (depth : Nat) (first : Bool) (h : descWrapOK (depth * o.indent.length) x = true) :
    DescPart (SdlPrintT.printDescription o (some x) depth first) [(.blockString, joinLF (wrappedOf (depth * o.indent.length) x))] := by
  obtain ⟨l, ls, hsp, f⟩ := wrapOK_facts _ x h
  have hind' := blank_repeatText o.indent hind depth
  have hlines : ∀ y ∈ l :: ls, IsLine y := by
    intro y hy c hc
    exact ⟨(f.mem y hy c hc).2, fun e => f.noCR (e ▸ (f.mem y hy c hc).1)⟩
  have hchars : ∀ c ∈ joinLF (l :: ls), blockChar c = true := by
    intro c hc
    have hok : (32 ≤ c || c == 9 || c == 10) = true := by
      rcases mem_joinLF _ c hc with h10 | ⟨y, hy, hin⟩
      · subst h10; rfl
      · exact f.chars c (f.mem y hy c hin).1
    simp only [Bool.or_eq_true, decide_eq_true_eq, beq_iff_eq] at hok
    simp only [blockChar, isPrintable, Bool.or_eq_true, decide_eq_true_eq, beq_iff_eq]
    rcases hok with (h | h) | h
    · exact Or.inl (Or.inl (Or.inl h))
    · exact Or.inl (Or.inl (Or.inr h))
    · exact Or.inl (Or.inr h)
  have lq := lay_descQuoted (SdlPrintT.repeatText o.indent depth) l ls hind' hlines hchars f.first f.last f.shape
  rw [hsp, printDescription_block o hdesc x depth first (l :: ls) f.nonempty f.noCR
    (by rw [length_repeatText]; exact hsp) f.notQuoted]
  refine Or.inr ⟨_, rfl, ?_⟩
  have l2 := lay_blank_prefix hind' lq
  split
  · exact lay_lf_cons l2
  · simpa using l2

/-- … as a statement about the lexer: the printed description (followed by its line feed) lexes to exactly one
    BlockString token with that value -/
theorem wrapped_lexes (o : SdlPrintT.OptsT) (hind : Blank o.indent) (hdesc : o.descriptions = true) (x : String)
    (depth : Nat) (first : Bool) (h : descWrapOK (depth * o.indent.length) x = true) :
    ∃ toks, lexAll (SdlPrintT.printDescription o (some x) depth first) =
        .ok (sofTok :: toks ++ [eofTok (SdlPrintT.printDescription o (some x) depth first).length]) ∧
      classes toks = [(.blockString, joinLF (wrappedOf (depth * o.indent.length) x))] := by
  rcases descPart_wrapped o hind hdesc x depth first h with ⟨_, hc⟩ | ⟨pre, htxt, hlay⟩
  · cases hc
  · rw [htxt]
    have := lexesTo_of_lay hlay [10] [] (safe_cons (by decide)) (lexesTo_lf lexesTo_nil)
    simpa using lexAll_of_lexesTo this

/-- a description that satisfies `descTextOK` at its depth (no line is over-long, so none is re-broken) is printed as one
    BlockString token with the description as value (`descToDoc` keeps it; the tree has it as a block string) -/
theorem descPart_of_ok (o : SdlPrintT.OptsT) (hind : Blank o.indent) (hdesc : o.descriptions = true) (d : Option String)
    (depth : Nat) (first : Bool) (h : descOKT (depth * o.indent.length) d = true) :
    DescPart (SdlPrintT.printDescription o d depth first) (Item.yieldAll (descV (descOf (descToDoc d)))) := by
  cases d with
  | none => exact Or.inl ⟨rfl, rfl⟩
  | some x =>
    by_cases hx0 : x.isEmpty = true
    · refine Or.inl ⟨by simp [SdlPrintT.printDescription, hx0], ?_⟩
      simp [descToDoc, hx0, descOf, descV, optV, Item.yieldAll]
    have hx : descTextOK (depth * o.indent.length) x = true := by
      simpa [descOKT, hx0] using h
    have := descPart_wrapped o hind hdesc x depth first (descWrapOK_of_descTextOK _ x hx)
    rw [wrappedOf_of_descTextOK _ x hx, joinLF_splitLF] at this
    simpa [descToDoc, hx0, descOf, descV, optV, stringV, Item.yieldAll, Item.yield] using this

end PyGql.SdlText
