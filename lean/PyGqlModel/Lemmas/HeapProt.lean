/-
  C14 — the entries of the PROTECTED names (the specified scalars `Int`, `Float`, `String`, `Boolean`, `ID`) of a derived schema are
  the entries of the schema it was derived from: `clone`, every visitor, `_replace_types_and_directives`, the healing loop,
  `transform_schema` and `extend_schema` never copy, rebuild or re-register them (`on_schema` skips them; `clone` and
  `extend_schema` take them over). So all schemas of a derivation history share these objects with their sources.
-/
import PyGqlModel.Lemmas.HeapExtClosedParts

namespace PyGql.Heap.Prot
open PyGql.Heap PyGql.Heap.Own

def ProtSub (reg0 reg : List (String × Addr)) : Prop := ∀ e, e ∈ reg → isProtected e.1 = true → e ∈ reg0

theorem ProtSub.refl (reg : List (String × Addr)) : ProtSub reg reg := fun _ he _ => he

theorem ProtSub.trans {r0 r1 r2 : List (String × Addr)} (a : ProtSub r0 r1) (b : ProtSub r1 r2) : ProtSub r0 r2 :=
  fun e he hp => a e (b e he hp) hp

def NamesFree (ut : List (String × Option Addr)) : Prop := ∀ x, x ∈ ut → isProtected x.1 = false

theorem visitTypes_free (v : Visitor) (reg : List (String × Addr)) (l : List (String × Addr)) (h : Heap) :
    NamesFree (visitTypes v reg h l).2 := by
  intro x hx
  obtain ⟨e, h1, _, hq, rfl⟩ := visitTypes_reported v reg l h x hx
  exact hq

theorem cloneTypes_free (cfg : Cfg) (l : List (String × Addr)) (h : Heap) : NamesFree (cloneTypes cfg h l).2 :=
  fun x hx => (cloneTypes_reported cfg l h x hx).1

theorem replaceTypes_prot (cfg : Cfg) : ∀ (ut : List (String × Option Addr)) (reg : List (String × Addr)) (b : Bool),
    NamesFree ut → ProtSub reg (replaceTypes cfg reg b ut).1 := by
  intro ut
  induction ut with
  | nil => intro reg b _; exact ProtSub.refl reg
  | cons x rest ih =>
    intro reg b hf
    obtain ⟨nm, new⟩ := x
    have hfr : NamesFree rest := fun y hy => hf y (by simp [hy])
    have hnm : isProtected nm = false := hf (nm, new) (by simp)
    simp only [replaceTypes]
    split
    · exact ih reg b hfr
    · cases new with
      | none =>
        exact ProtSub.trans (fun e he _ => mem_regErase he) (ih _ _ hfr)
      | some a' =>
        refine ProtSub.trans ?_ (ih _ _ hfr)
        intro e he hp
        rcases mem_regSet he with rfl | ⟨he0, _⟩
        · simp [hnm] at hp
        · exact he0

theorem replaceCore_prot (cfg : Cfg) (s : Schema) (ut ud : List (String × Option Addr)) (hf : NamesFree ut) :
    ProtSub s.types (replaceCore cfg s ut ud).1.types := by
  simp only [replaceCore]
  exact replaceTypes_prot cfg ut s.types false hf

theorem round_prot (cfg : Cfg) (v : Visitor) : RoundKeeps cfg v (fun _ s _ s' => ProtSub s.types s'.types) :=
  fun s h => replaceCore_prot cfg s _ _ (visitTypes_free v s.types s.types h)

theorem onSchema_prot (cfg : Cfg) (fuel : Nat) (v : Visitor) (s : Schema) (h h' : Heap) (s' : Schema)
    (e : onSchema cfg fuel v s h = some (h', s')) : ProtSub s.types s'.types :=
  onSchema_rel (R := fun _ s _ s' => ProtSub s.types s'.types) (fun _ _ _ _ _ _ a b => ProtSub.trans a b) cfg
    (round_prot cfg .heal) (round_prot cfg v) e

theorem transformFrom_prot (cfg : Cfg) (fuel : Nat) (vs : List Visitor) (h : Heap) (s : Schema) (h' : Heap) (s' : Schema)
    (e : transformFrom cfg fuel vs (h, s) = some (h', s')) : ProtSub s.types s'.types :=
  transformFrom_rel (R := fun _ s _ s' => ProtSub s.types s'.types) (fun _ _ _ _ _ _ a b => ProtSub.trans a b) cfg
    (fun _ s => ProtSub.refl s.types) (fun _ => True) trivial (fun v _ => round_prot cfg v) fuel vs (fun _ _ => trivial) h s h' s' e

theorem cloneRegistry_prot (cfg : Cfg) (s : Schema) (h : Heap) : ProtSub s.types (cloneRegistry cfg s h) := by
  intro e he hp
  simp only [cloneRegistry] at he
  have base : ∀ e : String × Addr, isProtected e.1 = true →
      e ∈ (s.types.filter fun e => isProtected e.1) ++
        ((buildTypeMap h (reachFuel h (rootAddrs s)) (rootAddrs s)).filter fun e => !isProtected e.1) → e ∈ s.types := by
    intro e hp he
    simp only [List.mem_append, List.mem_filter] at he
    rcases he with he | he
    · exact he.1
    · simp [hp] at he
  split at he
  · rcases foldl_setdefault_mem _ _ e he with h1 | h1
    · exact base e hp h1
    · exact h1
  · exact base e hp he

theorem clone_prot (cfg : Cfg) (fuel : Nat) (s : Schema) (h h' : Heap) (s' : Schema) (e : clone cfg fuel s h = some (h', s')) :
    ProtSub s.types s'.types := by
  simp only [clone] at e
  split at e
  · cases e
  · rename_i h1 s1 hr
    cases e
    exact ProtSub.trans (cloneRegistry_prot cfg s h)
      (replaceTD_rel (R := fun _ s _ s' => ProtSub s.types s'.types) (fun _ _ _ _ _ _ a b => ProtSub.trans a b) cfg
        (round_prot cfg .heal) (h0 := h) (replaceCore_prot cfg _ _ _ (cloneTypes_free cfg s.types h)) hr)

theorem transform_prot (cfg : Cfg) (fuel : Nat) (vs : List Visitor) (s : Schema) (h h' : Heap) (s' : Schema)
    (e : transform cfg fuel vs s h = some (h', s')) : ProtSub s.types s'.types := by
  simp only [transform] at e
  split at e
  · cases e
  · rename_i r hr
    obtain ⟨h1, s1⟩ := r
    exact ProtSub.trans (clone_prot cfg fuel s h h1 s1 hr) (transformFrom_prot cfg fuel vs h1 s1 h' s' e)

/-- `extend_schema` (the variant of /repo, which registers every rebuilt type): protected entries are taken over -/
theorem extend_prot (cfg : Cfg) (hk : cfg.extKeepAll = true) (ext : Ext) (s : Schema) (h : Heap)
    (hnp : ∀ e, e ∈ ext.newTypes → isProtected e.1 = false) : ProtSub s.types (extend cfg ext s h).2.types := by
  intro e he hp
  rcases List.mem_append.mp (show e ∈ _ ++ _ from extend_types cfg ext s h hk ▸ he) with he | he
  · exact (List.mem_filter.mp he).1
  · exfalso
    have hn : e.1 ∈ extNames ext s := allocPlaceholders_names (extNames ext s) h ▸ List.mem_map.mpr ⟨e, he, rfl⟩
    rcases List.mem_append.mp (show e.1 ∈ _ ++ _ from hn) with hn | hn
    · obtain ⟨x, hx, hxe⟩ := List.mem_map.mp hn
      simpa [hxe, hp] using (List.mem_filter.mp hx).2
    · obtain ⟨x, hx, hxe⟩ := List.mem_map.mp hn
      simpa [hxe, hp] using hnp x hx

end PyGql.Heap.Prot
