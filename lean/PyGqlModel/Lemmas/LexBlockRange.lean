/-
  The range of `parse_block_string` (= `BlockStringValue`): a value is empty, or it is LF-joined lines whose first and
  last lines are not blank and — unless it is a single line — whose smallest indentation over the non-blank lines is 0.
-/
import PyGqlModel.Lemmas.LexBlockString

namespace PyGql.BlockString
open PyGql.Spec

/-- non-blank line -/
def NB (l : Text) : Bool := decide (indentOf l < l.length)

theorem nb_iff (l : Text) : NB l = true ↔ onlyWhiteSpace l = false := by
  have hle := indentOf_le l
  rw [← lstrip_isEmpty, ← Bool.not_eq_true, List.isEmpty_iff, ← List.length_eq_zero_iff, lstrip_length]
  simp only [NB, decide_eq_true_eq]
  omega

/-- the minimum the indentation loop computes -/
def M (X : List Text) : Option Nat := ((X.filter NB).map indentOf).min?

theorem foldl_eq_M (X : List Text) : X.foldl indentStep none = M X := by
  rw [foldl_indentStep]; rfl

theorem nb_false_of_blank (l : Text) (hb : (lstrip l).isEmpty = true) : NB l = false := by
  cases hn : NB l with
  | false => rfl
  | true => rw [lstrip_isEmpty] at hb; rw [(nb_iff l).mp hn] at hb; cases hb

theorem filter_popLeading (X : List Text) : (popLeading X).filter NB = X.filter NB := by
  induction X with
  | nil => rfl
  | cons l ls ih =>
    simp only [popLeading]
    split
    · rename_i h
      rw [ih]; simp [List.filter_cons, nb_false_of_blank l h]
    · rfl

theorem popTrailing_cons_nil (l : Text) (ls : List Text) (h : popTrailing ls = []) :
    popTrailing (l :: ls) = if (lstrip l).isEmpty then [] else [l] := by
  rw [popTrailing, h]

theorem popTrailing_cons_ne (l : Text) (ls : List Text) (h : popTrailing ls ≠ []) :
    popTrailing (l :: ls) = l :: popTrailing ls := by
  rw [popTrailing]
  cases h' : popTrailing ls with
  | nil => exact absurd h' h
  | cons a b => rfl

theorem filter_popTrailing (X : List Text) : (popTrailing X).filter NB = X.filter NB := by
  induction X with
  | nil => rfl
  | cons l ls ih =>
    by_cases h : popTrailing ls = []
    · rw [popTrailing_cons_nil l ls h]
      rw [h] at ih
      split
      · rename_i hb
        simp [List.filter_cons, nb_false_of_blank l hb, ← ih]
      · simp [List.filter_cons, ← ih]
    · rw [popTrailing_cons_ne l ls h]
      simp [List.filter_cons, ih]

theorem mem_popLeading {x : Text} {X : List Text} (h : x ∈ popLeading X) : x ∈ X := by
  induction X with
  | nil => simp [popLeading] at h
  | cons l ls ih =>
    simp only [popLeading] at h
    split at h
    · exact List.mem_cons_of_mem _ (ih h)
    · exact h

theorem mem_popTrailing {x : Text} {X : List Text} (h : x ∈ popTrailing X) : x ∈ X := by
  induction X with
  | nil => simp [popTrailing] at h
  | cons l ls ih =>
    by_cases hp : popTrailing ls = []
    · rw [popTrailing_cons_nil l ls hp] at h
      split at h
      · simp at h
      · simp at h; simp [h]
    · rw [popTrailing_cons_ne l ls hp] at h
      rcases List.mem_cons.mp h with rfl | h
      · simp
      · exact List.mem_cons_of_mem _ (ih h)

theorem popLeading_head (X : List Text) : popLeading X = [] ∨ ∃ l ls, popLeading X = l :: ls ∧ onlyWhiteSpace l = false := by
  induction X with
  | nil => exact Or.inl rfl
  | cons l ls ih =>
    simp only [popLeading]
    split
    · exact ih
    · rename_i h
      refine Or.inr ⟨l, ls, rfl, ?_⟩
      rw [lstrip_isEmpty] at h; simpa using h

theorem popTrailing_last (X : List Text) :
    popTrailing X = [] ∨ ∃ h : popTrailing X ≠ [], onlyWhiteSpace ((popTrailing X).getLast h) = false := by
  induction X with
  | nil => exact Or.inl rfl
  | cons l ls ih =>
    by_cases hp : popTrailing ls = []
    · rw [popTrailing_cons_nil l ls hp]
      split
      · exact Or.inl rfl
      · rename_i hb
        refine Or.inr ⟨by simp, ?_⟩
        rw [lstrip_isEmpty] at hb; simpa using hb
    · rcases ih with h | ⟨hne, hl⟩
      · exact absurd h hp
      · refine Or.inr ⟨by rw [popTrailing_cons_ne l ls hp]; simp, ?_⟩
        simp only [popTrailing_cons_ne l ls hp]
        rw [List.getLast_cons hne]; exact hl

theorem popTrailing_cons_nb (l : Text) (ls : List Text) (hl : onlyWhiteSpace l = false) :
    ∃ r, popTrailing (l :: ls) = l :: r := by
  by_cases hp : popTrailing ls = []
  · rw [popTrailing_cons_nil l ls hp, lstrip_isEmpty, hl]; exact ⟨[], by simp⟩
  · exact ⟨_, popTrailing_cons_ne l ls hp⟩

theorem indentOf_cons (c : Nat) (t : Text) : indentOf (c :: t) = if isWhiteSpace c then indentOf t + 1 else 0 := by
  simp only [indentOf, List.takeWhile_cons]
  split <;> simp

theorem indentOf_drop (k : Nat) (t : Text) (h : k ≤ indentOf t) :
    indentOf (t.drop k) = indentOf t - k ∧ (t.drop k).length = t.length - k := by
  refine ⟨?_, List.length_drop⟩
  induction k generalizing t with
  | zero => simp
  | succ k ih =>
    cases t with
    | nil => simp [indentOf]
    | cons c u =>
      rw [indentOf_cons] at h ⊢
      split at h
      · rename_i hc
        rw [if_pos hc, List.drop_succ_cons, ih u (by omega)]; omega
      · omega

theorem M_dedent (T : List Text) (k : Nat) (h : M T = some k) : M (T.map (fun l => l.drop k)) = some 0 := by
  unfold M at h ⊢
  rw [List.min?_eq_some_iff] at h ⊢
  obtain ⟨hmem, hmin⟩ := h
  refine ⟨?_, fun b _ => Nat.zero_le b⟩
  simp only [List.mem_map, List.mem_filter] at hmem hmin ⊢
  obtain ⟨t0, ⟨ht0, hnb⟩, hk⟩ := hmem
  refine ⟨t0.drop k, ⟨⟨t0, ht0, rfl⟩, ?_⟩, ?_⟩
  · have := indentOf_drop k t0 (by omega)
    simp only [NB, decide_eq_true_eq] at hnb ⊢
    omega
  · have := indentOf_drop k t0 (by omega)
    omega

theorem splitLinesAux_chars (b : Bool) (s : Text) :
    ∀ x ∈ splitLinesAux b s, ∀ c ∈ x, c ∈ s ∧ c ≠ 10 ∧ c ≠ 13 := by
  induction s generalizing b with
  | nil => intro x hx c hc; simp [splitLinesAux] at hx; subst hx; cases hc
  | cons a t ih =>
    have tail : ∀ b' x, x ∈ splitLinesAux b' t → ∀ c ∈ x, c ∈ a :: t ∧ c ≠ 10 ∧ c ≠ 13 :=
      fun b' x hx c hc => (ih b' x hx c hc).imp_left (List.mem_cons_of_mem _)
    intro x hx c hc
    simp only [splitLinesAux] at hx
    split at hx
    · split at hx
      · exact tail _ x hx c hc
      · rcases List.mem_cons.mp hx with rfl | hx
        · cases hc
        · exact tail _ x hx c hc
    · split at hx
      · rcases List.mem_cons.mp hx with rfl | hx
        · cases hc
        · exact tail _ x hx c hc
      · rename_i h10 h13
        cases hs : splitLinesAux false t with
        | nil => exact absurd hs (splitLinesAux_ne_nil false t)
        | cons l ls =>
          rw [hs] at hx
          rcases List.mem_cons.mp hx with rfl | hx
          · rcases List.mem_cons.mp hc with rfl | hc
            · exact ⟨by simp, h10, h13⟩
            · exact tail false l (by rw [hs]; simp) c hc
          · exact tail false x (by rw [hs]; simp [hx]) c hc

theorem splitLinesAux_isLine (b : Bool) (s : Text) : ∀ x ∈ splitLinesAux b s, IsLine x :=
  fun x hx c hc => (splitLinesAux_chars b s x hx c hc).2

theorem isLine_drop {l : Text} (h : IsLine l) (k : Nat) : IsLine (l.drop k) :=
  fun c hc => h c (List.mem_of_mem_drop hc)

theorem parseBlockString_range (raw : Text) :
    parseBlockString raw = [] ∨
    ∃ l ls, parseBlockString raw = joinLF (l :: ls) ∧ (∀ x ∈ l :: ls, IsLine x) ∧ onlyWhiteSpace l = false ∧
      onlyWhiteSpace ((l :: ls).getLast (by simp)) = false ∧
      (ls = [] ∨ (l :: ls).foldl indentStep none = some 0) := by
  have hlines := splitLinesAux_isLine false raw
  have hne := splitLinesAux_ne_nil false raw
  unfold parseBlockString splitLines
  cases hsp : splitLinesAux false raw with
  | nil => exact absurd hsp hne
  | cons f T =>
    rw [hsp] at hlines
    -- the dedented lines X and what is known about their minimum
    have key : ∀ X : List Text, (∀ x ∈ X, IsLine x) →
        (M X = some 0 ∨ (X = f :: T ∧ M T = none)) →
        joinLF (popTrailing (popLeading X)) = [] ∨
        ∃ l ls, joinLF (popTrailing (popLeading X)) = joinLF (l :: ls) ∧ (∀ x ∈ l :: ls, IsLine x) ∧
          onlyWhiteSpace l = false ∧ onlyWhiteSpace ((l :: ls).getLast (by simp)) = false ∧
          (ls = [] ∨ (l :: ls).foldl indentStep none = some 0) := by
      intro X hX hM
      rcases popLeading_head X with h0 | ⟨l, Y, hY, hl⟩
      · left; rw [h0]; rfl
      · obtain ⟨r, hr⟩ := popTrailing_cons_nb l Y hl
        have hR : popTrailing (popLeading X) = l :: r := by rw [hY, hr]
        have hlast : onlyWhiteSpace ((l :: r).getLast (by simp)) = false := by
          rcases popTrailing_last (popLeading X) with h | ⟨_, hlast⟩
          · rw [hR] at h; cases h
          · simp only [hR] at hlast; exact hlast
        right
        refine ⟨l, r, by rw [hR], ?_, hl, hlast, ?_⟩
        · intro x hx; rw [← hR] at hx; exact hX x (mem_popLeading (mem_popTrailing hx))
        · have hfilter : (l :: r).filter NB = X.filter NB := by
            rw [← hR, filter_popTrailing, filter_popLeading]
          rcases hM with hM | ⟨rfl, hT⟩
          · right
            rw [foldl_eq_M]; unfold M; rw [hfilter]; exact hM
          · -- all of `T` is blank: a single line is left
            left
            have hTe : T.filter NB = [] := by
              unfold M at hT
              rw [List.min?_eq_none_iff, List.map_eq_nil_iff] at hT; exact hT
            cases r with
            | nil => rfl
            | cons a r' =>
              exfalso
              -- `l` and the last line would be two non-blank lines, but only `f` can be one
              rw [List.getLast_cons (by simp)] at hlast
              have hpos : 0 < ((a :: r').filter NB).length :=
                List.length_pos_of_mem (List.mem_filter.mpr ⟨List.getLast_mem _, (nb_iff _).mpr hlast⟩)
              have hlen : ((l :: a :: r').filter NB).length ≤ 1 := by
                rw [hfilter, List.filter_cons, hTe]; split <;> simp
              rw [List.filter_cons, if_pos ((nb_iff l).mpr hl), List.length_cons] at hlen
              omega
    cases hci : commonIndent (f :: T) with
    | none =>
      simp only [hci]
      have hT : M T = none := by
        rw [← foldl_eq_M]; simpa [commonIndent] using hci
      exact key (f :: T) hlines (Or.inr ⟨rfl, hT⟩)
    | some k =>
      simp only [hci, List.take_succ_cons, List.take_zero, List.drop_succ_cons, List.drop_zero, List.singleton_append,
        List.nil_append, List.cons_append]
      have hT : M T = some k := by
        rw [← foldl_eq_M]; simpa [commonIndent] using hci
      have hT' := M_dedent T k hT
      have hX : ∀ x ∈ f :: T.map (fun l => l.drop k), IsLine x := by
        intro x hx
        rcases List.mem_cons.mp hx with rfl | hx
        · exact hlines _ (by simp)
        · obtain ⟨y, hy, rfl⟩ := List.mem_map.mp hx
          exact isLine_drop (hlines y (by simp [hy])) k
      have hM0 : M (f :: T.map (fun l => l.drop k)) = some 0 := by
        unfold M at hT' ⊢
        rw [List.min?_eq_some_iff] at hT' ⊢
        refine ⟨?_, fun b _ => Nat.zero_le b⟩
        simp only [List.filter_cons]
        split
        · exact List.mem_cons_of_mem _ hT'.1
        · exact hT'.1
      exact key _ hX (Or.inl hM0)

end PyGql.BlockString
