/-
  The lexer's block-string scanner inverts the printer's `value.replace('"""', '\\"""')`, in front of any character
  that is not a quote: the line feed of the multi-line form, or the last character of the value in the one-line
  printed form `"""  x"""`.
-/
import PyGqlModel.Lex
import PyGqlModel.PrintString

namespace PyGql.Lex
open PyGql.PrintString

/-- number of leading `"` -/
def leadQ : Text → Nat
  | [] => 0
  | c :: t => if c = 34 then leadQ t + 1 else 0

theorem leadQ_succ {s : Text} {k : Nat} (h : k + 1 ≤ leadQ s) : ∃ t, s = 34 :: t ∧ k ≤ leadQ t := by
  cases s with
  | nil => exact absurd h (by simp [leadQ])
  | cons c t =>
    rw [leadQ] at h
    split at h
    · rename_i hc
      exact ⟨t, by rw [hc], by omega⟩
    · omega

theorem tq_prefix_iff (s : Text) : tq.isPrefixOf s = true ↔ 3 ≤ leadQ s := by
  constructor
  · intro h
    obtain ⟨u, rfl⟩ := List.isPrefixOf_iff_prefix.mp h
    simp [tq, leadQ]
  · intro h
    obtain ⟨t1, rfl, h1⟩ := leadQ_succ h
    obtain ⟨t2, rfl, h2⟩ := leadQ_succ h1
    obtain ⟨t3, rfl, _⟩ := leadQ_succ h2
    simp [tq, List.isPrefixOf]

/-- the escaping looks at a text only through its leading quotes -/
theorem tq_prefix_congr {s s' : Text} (h : leadQ s = leadQ s') :
    ([34, 34, 34] : Text).isPrefixOf s = ([34, 34, 34] : Text).isPrefixOf s' := by
  rw [Bool.eq_iff_iff]
  show tq.isPrefixOf s = true ↔ tq.isPrefixOf s' = true
  rw [tq_prefix_iff, tq_prefix_iff, h]

theorem leadQ_append_cons (a : Text) (c : Nat) (b : Text) (hc : c ≠ 34) : leadQ (a ++ c :: b) = leadQ a := by
  induction a with
  | nil => simp [leadQ, hc]
  | cons x t ih => by_cases hx : x = 34 <;> simp [leadQ, hx, ih]

theorem leadQ_le_length : ∀ s : Text, leadQ s ≤ s.length
  | [] => Nat.le_refl 0
  | c :: t => by
    rw [leadQ]
    split
    · exact Nat.succ_le_succ (leadQ_le_length t)
    · exact Nat.zero_le _

/-- in front of a non-quote, the escaped text opens with the value's own quotes, unless these were escaped -/
theorem leadQ_escape_c (c0 : Nat) (hc0 : c0 ≠ 34) (t w : Text) :
    leadQ (escapeTQAux 0 t ++ c0 :: w) = if 3 ≤ leadQ t then 0 else leadQ t := by
  induction t with
  | nil => simp [escapeTQAux, leadQ, hc0]
  | cons c t' ih =>
    by_cases hp : ([34, 34, 34] : Text).isPrefixOf (c :: t') = true
    · have h3 : 3 ≤ leadQ (c :: t') := (tq_prefix_iff _).mp hp
      simp only [leadQ] at h3
      simp [escapeTQAux, hp, leadQ, h3]
    · have h3 : ¬ 3 ≤ leadQ (c :: t') := fun h => hp ((tq_prefix_iff _).mpr h)
      have hp' : ([34, 34, 34] : Text).isPrefixOf (c :: t') = false := (Bool.not_eq_true _).mp hp
      simp only [escapeTQAux, hp', Bool.false_eq_true, ↓reduceIte, List.cons_append, leadQ] at h3 ⊢
      by_cases hc : c = 34
      · simp only [hc, ↓reduceIte] at h3 ⊢
        rw [ih]
        have : ¬ 3 ≤ leadQ t' := by omega
        simp [this, h3]
      · simp [hc]

/-- so the scanner sees no closing triple quote where the escaped value starts -/
theorem tq_prefix_escape (c0 : Nat) (hc0 : c0 ≠ 34) (t w : Text) :
    tq.isPrefixOf (escapeTQAux 0 t ++ c0 :: w) = false := by
  rw [Bool.eq_false_iff, Ne, tq_prefix_iff, leadQ_escape_c c0 hc0]
  split <;> omega

theorem getLast?_escape : ∀ (v : Text) (k : Nat), (escapeTQAux k v).getLast? = v.getLast?
  | [], k => by cases k <;> rfl
  | a :: t, k + 1 => by
    simp only [escapeTQAux, List.getLast?_cons, getLast?_escape t k]
  | a :: t, 0 => by
    simp only [escapeTQAux]
    split
    · simp only [List.getLast?_cons, getLast?_escape t 2, Option.getD_some]
    · simp only [List.getLast?_cons, getLast?_escape t 0]

/-- the escaping splits at a character that is not a quote, since no `"""` runs across it; of `k` pending copied quotes, those
    not used up by `a` and `c` are pending for `b` (none when `k ≤ leadQ a`) -/
theorem escape_append_cons (c : Nat) (hc : c ≠ 34) (b : Text) : ∀ (a : Text) (k : Nat),
    escapeTQAux k (a ++ c :: b) = escapeTQAux k a ++ c :: escapeTQAux (k - (a.length + 1)) b
  | [], 0 => by
    have : ([34, 34, 34] : Text).isPrefixOf (c :: b) = false := by
      simp [List.isPrefixOf]; intro e; exact absurd e.symm hc
    simp [escapeTQAux, this]
  | [], k + 1 => by simp [escapeTQAux]
  | x :: t, k + 1 => by simp [escapeTQAux, escape_append_cons c hc b t k]
  | x :: t, 0 => by
    have hp : ([34, 34, 34] : Text).isPrefixOf (x :: (t ++ c :: b)) = ([34, 34, 34] : Text).isPrefixOf (x :: t) :=
      tq_prefix_congr (leadQ_append_cons (x :: t) c b hc)
    simp only [List.cons_append, escapeTQAux, hp]
    split
    · rename_i h
      -- an escaped `"""`: `t` holds its other two quotes, so the two pending ones are used up before `c`
      have h3 : 3 ≤ leadQ (x :: t) := (tq_prefix_iff _).mp h
      have hl := leadQ_le_length (x :: t)
      simp only [List.length_cons] at hl
      simp [escape_append_cons c hc b t 2, show 2 - (t.length + 1) = 0 by omega]
    · simp [escape_append_cons c hc b t 0]

theorem escape_snoc (c : Nat) (hc : c ≠ 34) (v0 : Text) (k : Nat) :
    escapeTQAux k (v0 ++ [c]) = escapeTQAux k v0 ++ [c] := by
  rw [escape_append_cons c hc]
  cases k - (v0.length + 1) <;> rfl

theorem escape_noQuote_prefix (b x : Text) (hb : ∀ c ∈ b, c ≠ 34) : escapeTQAux 0 (b ++ x) = b ++ escapeTQAux 0 x := by
  induction b with
  | nil => rfl
  | cons c t ih =>
    show escapeTQAux 0 ([] ++ c :: (t ++ x)) = _
    rw [escape_append_cons c (hb c List.mem_cons_self)]
    show c :: escapeTQAux 0 (t ++ x) = _
    rw [ih fun y hy => hb y (List.mem_cons_of_mem _ hy)]
    rfl

theorem mem_escape {k : Nat} {v : Text} {c : Nat} (h : c ∈ escapeTQAux k v) : c ∈ v ∨ c = 92 := by
  induction v generalizing k with
  | nil => cases k <;> simp [escapeTQAux] at h
  | cons a t ih =>
    have tail : ∀ {k'}, c ∈ escapeTQAux k' t → c ∈ a :: t ∨ c = 92 :=
      fun h => (ih h).imp_left (List.mem_cons_of_mem _)
    cases k with
    | succ k' =>
      simp only [escapeTQAux, List.mem_cons] at h
      rcases h with rfl | h
      · simp
      · exact tail h
    | zero =>
      simp only [escapeTQAux] at h
      split at h
      · simp only [List.mem_cons] at h
        rcases h with rfl | rfl | h
        · exact Or.inr rfl
        · simp
        · exact tail h
      · simp only [List.mem_cons] at h
        rcases h with rfl | h
        · simp
        · exact tail h

theorem escape_noLF (v : Text) (k : Nat) (h : ∀ c ∈ v, c ≠ 10) : ∀ c ∈ escapeTQAux k v, c ≠ 10 := by
  intro c hc
  rcases mem_escape hc with hv | rfl
  · exact h c hv
  · decide

/-- the characters a block string may contain verbatim -/
def blockChar (c : Nat) : Bool := isPrintable c || c == 10 || c == 13

private theorem map_cons_comp {v : Text} {c : Nat} (r : R (Text × Text)) :
    (match (r.map (fun p => (v ++ p.1, p.2)) : R (Text × Text)) with
      | .ok (x, y) => (.ok (c :: x, y) : R (Text × Text))
      | .error e => .error e) = r.map (fun p => ((c :: v) ++ p.1, p.2)) := by
  cases r with
  | ok p => obtain ⟨a, b⟩ := p; rfl
  | error e => rfl

/-- scanning the escaped value followed by a character that is not a quote yields the value: for every `k ≤ |v|`
    pending copied quotes -/
theorem readBlockBody_escape_c (c0 : Nat) (hc0 : c0 ≠ 34) (n : Nat) (w : Text) (v : Text) (k : Nat) (hk : k ≤ v.length)
    (hv : ∀ c ∈ v, blockChar c = true) :
    readBlockBody n k (escapeTQAux k v ++ c0 :: w) =
      (readBlockBody n 0 (c0 :: w)).map (fun p => (v ++ p.1, p.2)) := by
  induction v generalizing k with
  | nil =>
    have : k = 0 := by simpa using hk
    subst this
    simp only [escapeTQAux, List.nil_append]
    cases readBlockBody n 0 (c0 :: w) with
    | ok p => obtain ⟨a, b⟩ := p; rfl
    | error e => rfl
  | cons c t ih =>
    have hvt : ∀ x ∈ t, blockChar x = true := fun x hx => hv x (by simp [hx])
    cases k with
    | succ k' =>
      have := ih k' (by simpa using hk) hvt
      simp only [escapeTQAux, List.cons_append, readBlockBody, this]
      exact map_cons_comp _
    | zero =>
      by_cases hp : ([34, 34, 34] : Text).isPrefixOf (c :: t) = true
      · -- an escaped triple quote: `c :: t` is `"""` followed by `u`
        obtain ⟨u, hu⟩ := List.isPrefixOf_iff_prefix.mp hp
        simp only [List.cons_append, List.nil_append, List.cons.injEq] at hu
        obtain ⟨rfl, rfl⟩ := hu
        have := ih 2 (by simp) hvt
        generalize readBlockBody n 0 (c0 :: w) = R at this ⊢
        simp only [escapeTQAux, hp, ↓reduceIte, List.cons_append] at this ⊢
        rw [readBlockBody]
        simp only [tq, List.isPrefixOf, Bool.and_eq_true, beq_iff_eq, Nat.reduceEqDiff, false_and, Bool.false_eq_true,
          ↓reduceIte, BEq.rfl, Bool.true_and, Bool.and_self, decide_true]
        simp only [readBlockBody] at this ⊢
        rw [this]
        cases R with
        | ok p => obtain ⟨x, y⟩ := p; rfl
        | error e => rfl
      · -- an ordinary character: the scanner sees neither a closing nor an escaped triple quote here
        have hp' : ([34, 34, 34] : Text).isPrefixOf (c :: t) = false := (Bool.not_eq_true _).mp hp
        have hn1 := tq_prefix_escape c0 hc0 (c :: t) w
        have hn2 := tq_prefix_escape c0 hc0 t w
        have hc : (isPrintable c || c == 10 || c == 13) = true := hv c (by simp)
        simp only [escapeTQAux, hp', Bool.false_eq_true, ↓reduceIte, List.cons_append] at hn1 ⊢
        rw [readBlockBody]
        simp only [hn1, hn2, Bool.false_eq_true, ↓reduceIte, Bool.and_false, hc, Bool.not_true,
          ih 0 (Nat.zero_le _) hvt]
        exact map_cons_comp _

/-- the multi-line form: the escaped value is followed by a line feed -/
theorem readBlockBody_escape (n : Nat) (w : Text) (v : Text) (k : Nat) (hk : k ≤ v.length)
    (hv : ∀ c ∈ v, blockChar c = true) :
    readBlockBody n k (escapeTQAux k v ++ 10 :: w) =
      (readBlockBody n 0 (10 :: w)).map (fun p => (v ++ p.1, p.2)) :=
  readBlockBody_escape_c 10 (by decide) n w v k hk hv

theorem readBlockBody_tq (n : Nat) (r : Text) : readBlockBody n 0 (tq ++ r) = .ok ([], r) := by
  simp [tq, readBlockBody, List.isPrefixOf]

theorem readBlockBody_char (n c : Nat) (s : Text) (h34 : c ≠ 34) (h92 : c ≠ 92) (hb : blockChar c = true) :
    readBlockBody n 0 (c :: s) = (readBlockBody n 0 s).map (fun p => (c :: p.1, p.2)) := by
  have hp : tq.isPrefixOf (c :: s) = false := by
    simp [tq, List.isPrefixOf]; intro e; exact absurd e.symm h34
  have hbc : (isPrintable c || c == 10 || c == 13) = true := hb
  rw [readBlockBody]
  simp only [hp, h92, hbc, Bool.false_eq_true, ↓reduceIte, decide_false, Bool.false_and, Bool.not_true]
  cases readBlockBody n 0 s with
  | ok p => obtain ⟨a, b⟩ := p; rfl
  | error e => rfl

theorem readBlockBody_last (n : Nat) (c : Nat) (r : Text) (h34 : c ≠ 34) (h92 : c ≠ 92) (hb : blockChar c = true) :
    readBlockBody n 0 (c :: (tq ++ r)) = .ok ([c], r) := by
  rw [readBlockBody_char n c _ h34 h92 hb, readBlockBody_tq]; rfl

/-- scanning the escaped value directly followed by the closing quotes yields the value, provided the value does not
    end in `"` or `\` (which would fuse with the closing quotes) -/
theorem readBlockBody_escape_close (n : Nat) (r : Text) (v : Text)
    (hne : v ≠ []) (hl34 : v.getLast hne ≠ 34) (hl92 : v.getLast hne ≠ 92)
    (hv : ∀ c ∈ v, blockChar c = true) :
    readBlockBody n 0 (escapeTQAux 0 v ++ (tq ++ r)) = .ok (v, r) := by
  obtain ⟨v0, c, rfl⟩ : ∃ v0 c, v = v0 ++ [c] :=
    ⟨v.dropLast, v.getLast hne, (List.dropLast_concat_getLast hne).symm⟩
  rw [List.getLast_concat] at hl34 hl92
  rw [escape_snoc c hl34, List.append_assoc, List.singleton_append,
    readBlockBody_escape_c c hl34 n (tq ++ r) _ 0 (Nat.zero_le _) (fun x hx => hv x (by simp [hx])),
    readBlockBody_last n c r hl34 hl92 (hv c (by simp))]
  rfl

end PyGql.Lex
