/-
  Every concrete-syntax view commutes with a map of the positions: `XV (x.mapLoc g) = (XV x).mapLoc g`.
-/
import PyGqlModel.Lemmas.ItemMapLoc
import PyGqlModel.Shift
namespace PyGql.Spec
open PyGql PyGql.Ast PyGql.Parse

variable (g : Loc → Loc)

theorem mapLoc_node (loc : Loc) (is : List Item) : (Item.node loc is).mapLoc g = .node (g loc) (is.map (Item.mapLoc g)) := by
  rw [Item.mapLoc, mapLocAll_eq_map]

theorem nameV_mapLoc (n : Name) : nameV (n.mapLoc g) = (nameV n).mapLoc g := rfl

theorem namedTypeV_mapLoc (t : NamedType) : namedTypeV (t.mapLoc g) = (namedTypeV t).mapLoc g := rfl

theorem typeV_mapLoc : ∀ t : TypeRef, typeV (t.mapLoc g) = (typeV t).mapLoc g
  | .named t => rfl
  | .list t loc => by simp [typeV, TypeRef.mapLoc, mapLoc_node, Item.mapLoc, typeV_mapLoc t]
  | .nonNull t loc => by simp [typeV, TypeRef.mapLoc, mapLoc_node, Item.mapLoc, typeV_mapLoc t]

theorem variableV_mapLoc (v : Variable) : variableV (v.mapLoc g) = (variableV v).mapLoc g := rfl

theorem stringV_mapLoc (s : StringValue) : stringV (s.mapLoc g) = (stringV s).mapLoc g := rfl

mutual
theorem valueV_mapLoc : ∀ v : Value, valueV (v.mapLoc g) = (valueV v).mapLoc g
  | .var v => rfl
  | .int v loc => rfl
  | .float v loc => rfl
  | .string s => rfl
  | .boolean b loc => rfl
  | .null loc => rfl
  | .enum v loc => rfl
  | .list vs loc => by
    simp [valueV, Value.mapLoc, mapLoc_node, Item.mapLoc, valuesV_mapLoc vs]
  | .object fs loc => by
    simp [valueV, Value.mapLoc, mapLoc_node, Item.mapLoc, fieldsV_mapLoc fs]
theorem valuesV_mapLoc : ∀ vs : List Value, valuesV (mapLocValues g vs) = (valuesV vs).map (Item.mapLoc g)
  | [] => rfl
  | v :: vs => by simp [valuesV, mapLocValues, valueV_mapLoc v, valuesV_mapLoc vs]
theorem objectFieldV_mapLoc : ∀ f : ObjectField, objectFieldV (f.mapLoc g) = (objectFieldV f).mapLoc g
  | .mk n v loc => by simp [objectFieldV, ObjectField.mapLoc, mapLoc_node, Item.mapLoc, nameV_mapLoc, valueV_mapLoc v]
theorem fieldsV_mapLoc : ∀ fs : List ObjectField, fieldsV (mapLocFields g fs) = (fieldsV fs).map (Item.mapLoc g)
  | [] => rfl
  | f :: fs => by simp [fieldsV, mapLocFields, objectFieldV_mapLoc f, fieldsV_mapLoc fs]
end

section generic
variable {α : Type} (m : α → α) (fV : α → Item) (h : ∀ x, fV (m x) = (fV x).mapLoc g)
include h

theorem map_view_mapLoc (xs : List α) : (xs.map m).map fV = (xs.map fV).map (Item.mapLoc g) := by
  simp [h]

theorem optV_mapLoc (o : Option α) : optV fV (o.map m) = (optV fV o).map (Item.mapLoc g) := by
  cases o <;> simp [optV, h]

theorem groupV_mapLoc (o c : TokKind) (xs : List α) : groupV o c fV (xs.map m) = (groupV o c fV xs).map (Item.mapLoc g) := by
  unfold groupV
  cases xs <;> simp [h, Item.mapLoc]

theorem blockV_mapLoc (xs : List α) : blockV fV (xs.map m) = (blockV fV xs).map (Item.mapLoc g) := by
  unfold blockV
  cases xs <;> simp [h, Item.mapLoc]

theorem sepV_mapLoc (sep : TokKind) (xs : List α) : sepV sep fV (xs.map m) = (sepV sep fV xs).map (Item.mapLoc g) := by
  cases xs <;> simp [sepV, h, Item.mapLoc, List.map_flatMap, List.flatMap_map]
end generic

theorem argumentV_mapLoc (a : Argument) : argumentV (a.mapLoc g) = (argumentV a).mapLoc g := by
  simp [argumentV, Argument.mapLoc, mapLoc_node, Item.mapLoc, nameV_mapLoc, valueV_mapLoc]

theorem argumentsV_mapLoc (as : List Argument) :
    argumentsV (as.map (Argument.mapLoc g)) = (argumentsV as).map (Item.mapLoc g) :=
  groupV_mapLoc g _ _ (argumentV_mapLoc g) _ _ as

theorem directiveV_mapLoc (x : Directive) : directiveV (x.mapLoc g) = (directiveV x).mapLoc g := by
  simp [directiveV, Directive.mapLoc, mapLoc_node, Item.mapLoc, nameV_mapLoc, argumentsV_mapLoc]

theorem directivesV_mapLoc (ds : List Directive) :
    directivesV (ds.map (Directive.mapLoc g)) = (directivesV ds).map (Item.mapLoc g) :=
  map_view_mapLoc g _ _ (directiveV_mapLoc g) ds

theorem defaultV_mapLoc (o : Option Value) : defaultV (o.map (Value.mapLoc g)) = (defaultV o).map (Item.mapLoc g) := by
  cases o <;> simp [defaultV, Item.mapLoc, valueV_mapLoc]

theorem variableDefinitionV_mapLoc (x : VariableDefinition) :
    variableDefinitionV (x.mapLoc g) = (variableDefinitionV x).mapLoc g := by
  simp [variableDefinitionV, VariableDefinition.mapLoc, mapLoc_node, Item.mapLoc, variableV_mapLoc, typeV_mapLoc,
    defaultV_mapLoc, directivesV_mapLoc]

theorem variableDefinitionsV_mapLoc (xs : List VariableDefinition) :
    variableDefinitionsV (xs.map (VariableDefinition.mapLoc g)) = (variableDefinitionsV xs).map (Item.mapLoc g) :=
  groupV_mapLoc g _ _ (variableDefinitionV_mapLoc g) _ _ xs

mutual
theorem selectionV_mapLoc : ∀ s : Selection, selectionV (s.mapLoc g) = (selectionV s).mapLoc g
  | .field alias_ name args dirs ss loc => by
    cases alias_ <;>
      simp [selectionV, Selection.mapLoc, mapLoc_node, Item.mapLoc, nameV_mapLoc, argumentsV_mapLoc, directivesV_mapLoc,
        optSelectionSetV_mapLoc ss]
  | .fragmentSpread name dirs loc => by
    simp [selectionV, Selection.mapLoc, mapLoc_node, Item.mapLoc, nameV_mapLoc, directivesV_mapLoc]
  | .inlineFragment tc dirs ss loc => by
    cases tc <;>
      simp [selectionV, Selection.mapLoc, mapLoc_node, Item.mapLoc, namedTypeV_mapLoc, directivesV_mapLoc,
        selectionSetV_mapLoc ss]
theorem selectionSetV_mapLoc : ∀ ss : SelectionSet, selectionSetV (ss.mapLoc g) = (selectionSetV ss).mapLoc g
  | .mk sels loc => by simp [selectionSetV, SelectionSet.mapLoc, mapLoc_node, Item.mapLoc, selectionsV_mapLoc sels]
theorem optSelectionSetV_mapLoc : ∀ o : Option SelectionSet,
    optSelectionSetV (mapLocOptSS g o) = (optSelectionSetV o).map (Item.mapLoc g)
  | none => rfl
  | some ss => by simp [optSelectionSetV, mapLocOptSS, selectionSetV_mapLoc ss]
theorem selectionsV_mapLoc : ∀ ss : List Selection, selectionsV (mapLocSelections g ss) = (selectionsV ss).map (Item.mapLoc g)
  | [] => rfl
  | s :: ss => by simp [selectionsV, mapLocSelections, selectionV_mapLoc s, selectionsV_mapLoc ss]
end

theorem isShorthand_mapLoc (x : OperationDefinition) : isShorthand (x.mapLoc g) = isShorthand x := by
  cases x with | mk op name vds dirs ss loc => cases name <;> simp [isShorthand, OperationDefinition.mapLoc]

theorem operationV_mapLoc (x : OperationDefinition) : operationV (x.mapLoc g) = (operationV x).mapLoc g := by
  unfold operationV
  rw [isShorthand_mapLoc]
  split
  · simp [OperationDefinition.mapLoc, mapLocAll_eq_map, Item.mapLoc, selectionSetV_mapLoc]
  · simp [OperationDefinition.mapLoc, mapLocAll_eq_map, Item.mapLoc, selectionSetV_mapLoc,
      optV_mapLoc g _ nameV (nameV_mapLoc g), variableDefinitionsV_mapLoc, directivesV_mapLoc]

theorem fragmentV_mapLoc (x : FragmentDefinition) : fragmentV (x.mapLoc g) = (fragmentV x).mapLoc g := by
  simp [fragmentV, FragmentDefinition.mapLoc, mapLoc_node, Item.mapLoc, selectionSetV_mapLoc, nameV_mapLoc,
    namedTypeV_mapLoc, variableDefinitionsV_mapLoc, directivesV_mapLoc]

theorem descV_mapLoc (o : Option StringValue) : descV (o.map (StringValue.mapLoc g)) = (descV o).map (Item.mapLoc g) :=
  optV_mapLoc g _ stringV (stringV_mapLoc g) o

theorem operationTypeV_mapLoc (x : OperationTypeDefinition) :
    operationTypeV (x.mapLoc g) = (operationTypeV x).mapLoc g := rfl

theorem inputValueV_mapLoc (x : InputValueDefinition) : inputValueV (x.mapLoc g) = (inputValueV x).mapLoc g := by
  simp [inputValueV, InputValueDefinition.mapLoc, mapLoc_node, Item.mapLoc, descV_mapLoc, nameV_mapLoc, typeV_mapLoc,
    defaultV_mapLoc, directivesV_mapLoc]

theorem fieldDefinitionV_mapLoc (x : FieldDefinition) : fieldDefinitionV (x.mapLoc g) = (fieldDefinitionV x).mapLoc g := by
  simp [fieldDefinitionV, FieldDefinition.mapLoc, mapLoc_node, Item.mapLoc, descV_mapLoc, nameV_mapLoc, typeV_mapLoc,
    directivesV_mapLoc, groupV_mapLoc g _ inputValueV (inputValueV_mapLoc g)]

theorem enumValueDefinitionV_mapLoc (x : EnumValueDefinition) :
    enumValueDefinitionV (x.mapLoc g) = (enumValueDefinitionV x).mapLoc g := by
  simp [enumValueDefinitionV, EnumValueDefinition.mapLoc, mapLoc_node, descV_mapLoc, nameV_mapLoc, directivesV_mapLoc]

theorem implementsV_mapLoc (ts : List NamedType) :
    implementsV (ts.map (NamedType.mapLoc g)) = (implementsV ts).map (Item.mapLoc g) := by
  unfold implementsV
  cases ts with
  | nil => rfl
  | cons t ts =>
    simp only [List.isEmpty_cons, List.map_cons, Bool.false_eq_true, ↓reduceIte, Item.mapLoc]
    rw [← List.map_cons, sepV_mapLoc g _ namedTypeV (namedTypeV_mapLoc g)]

theorem unionMembersV_mapLoc (ts : List NamedType) :
    unionMembersV (ts.map (NamedType.mapLoc g)) = (unionMembersV ts).map (Item.mapLoc g) := by
  unfold unionMembersV
  cases ts with
  | nil => rfl
  | cons t ts =>
    simp only [List.isEmpty_cons, List.map_cons, Bool.false_eq_true, ↓reduceIte, Item.mapLoc]
    rw [← List.map_cons, sepV_mapLoc g _ namedTypeV (namedTypeV_mapLoc g)]

theorem definitionV_mapLoc (x : Definition) : definitionV (x.mapLoc g) = (definitionV x).mapLoc g := by
  have hfd := blockV_mapLoc g _ fieldDefinitionV (fieldDefinitionV_mapLoc g)
  have hev := blockV_mapLoc g _ enumValueDefinitionV (enumValueDefinitionV_mapLoc g)
  have hiv := blockV_mapLoc g _ inputValueV (inputValueV_mapLoc g)
  have hot := blockV_mapLoc g _ operationTypeV (operationTypeV_mapLoc g)
  have hargs := groupV_mapLoc g _ inputValueV (inputValueV_mapLoc g) .parenL .parenR
  have hlocs := sepV_mapLoc g _ nameV (nameV_mapLoc g) .pipe
  have hops := map_view_mapLoc g _ operationTypeV (operationTypeV_mapLoc g)
  cases x with
  | operation o => exact operationV_mapLoc g o
  | fragment o => exact fragmentV_mapLoc g o
  | _ =>
    simp only [definitionV, Definition.mapLoc, mapLoc_node, Item.mapLoc, List.map_cons, List.map_append, List.map_nil,
      descV_mapLoc, nameV_mapLoc, directivesV_mapLoc, implementsV_mapLoc, unionMembersV_mapLoc, hfd, hev, hiv, hot, hargs,
      hlocs, hops]

/-! ### in the spelling of `Item.down` / `Item.up` -/

theorem valuesV_down (d : Nat) : ∀ vs : List Value, valuesV (mapLocValues (locDown d) vs) = Item.downAll d (valuesV vs) :=
  fun vs => by rw [downAll_eq_mapLoc, mapLocAll_eq_map, valuesV_mapLoc]

theorem fieldsV_down (d : Nat) : ∀ fs : List ObjectField, fieldsV (mapLocFields (locDown d) fs) = Item.downAll d (fieldsV fs) :=
  fun fs => by rw [downAll_eq_mapLoc, mapLocAll_eq_map, fieldsV_mapLoc]

theorem optSelectionSetV_down (d : Nat) : ∀ o : Option SelectionSet,
    optSelectionSetV (mapLocOptSS (locDown d) o) = Item.downAll d (optSelectionSetV o) :=
  fun o => by rw [downAll_eq_mapLoc, mapLocAll_eq_map, optSelectionSetV_mapLoc]

theorem selectionsV_down (d : Nat) : ∀ ss : List Selection,
    selectionsV (mapLocSelections (locDown d) ss) = Item.downAll d (selectionsV ss) :=
  fun ss => by rw [downAll_eq_mapLoc, mapLocAll_eq_map, selectionsV_mapLoc]

theorem valuesV_up (d : Nat) : ∀ vs : List Value, valuesV (mapLocValues (locUp d) vs) = Item.upAll d (valuesV vs) :=
  fun vs => by rw [upAll_eq_mapLoc, mapLocAll_eq_map, valuesV_mapLoc]

theorem fieldsV_up (d : Nat) : ∀ fs : List ObjectField, fieldsV (mapLocFields (locUp d) fs) = Item.upAll d (fieldsV fs) :=
  fun fs => by rw [upAll_eq_mapLoc, mapLocAll_eq_map, fieldsV_mapLoc]

theorem selectionSetV_up (d : Nat) : ∀ ss : SelectionSet, selectionSetV (ss.mapLoc (locUp d)) = (selectionSetV ss).up d :=
  fun ss => by rw [up_eq_mapLoc, selectionSetV_mapLoc]

theorem optSelectionSetV_up (d : Nat) : ∀ o : Option SelectionSet,
    optSelectionSetV (mapLocOptSS (locUp d) o) = Item.upAll d (optSelectionSetV o) :=
  fun o => by rw [upAll_eq_mapLoc, mapLocAll_eq_map, optSelectionSetV_mapLoc]

theorem selectionsV_up (d : Nat) : ∀ ss : List Selection,
    selectionsV (mapLocSelections (locUp d) ss) = Item.upAll d (selectionsV ss) :=
  fun ss => by rw [upAll_eq_mapLoc, mapLocAll_eq_map, selectionsV_mapLoc]

section generic
variable {α : Type} (d : Nat) (m : α → α) (fV : α → Item) (h : ∀ x, fV (m x) = (fV x).up d)
include h

theorem blockV_up (xs : List α) : blockV fV (xs.map m) = Item.upAll d (blockV fV xs) := by
  rw [upAll_eq_mapLoc, mapLocAll_eq_map]
  exact blockV_mapLoc _ m fV (fun x => (h x).trans (up_eq_mapLoc d _)) xs

theorem sepV_up (sep : TokKind) (xs : List α) : sepV sep fV (xs.map m) = Item.upAll d (sepV sep fV xs) := by
  rw [upAll_eq_mapLoc, mapLocAll_eq_map]
  exact sepV_mapLoc _ m fV (fun x => (h x).trans (up_eq_mapLoc d _)) sep xs
end generic

end PyGql.Spec
