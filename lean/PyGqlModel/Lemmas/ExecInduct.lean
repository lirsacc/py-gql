/-
  C08 / C09 — facts about the executor that belong to no particular invariant, proved along the branches of `unwrapCb`,
  `serialNext`, `applySimple` and `applyCont` (`fun_induction`, `fun_cases`).
-/
import PyGqlModel.AsyncExec

namespace PyGql.AsyncExec

theorem unwrapCb_isFuture (n : Node) : (unwrapCb n).isFuture = true := by
  fun_induction unwrapCb n with
  | case3 r _ ih => exact ih
  | _ => rfl

theorem unwrapCb_shape (n : Node) :
    (∃ e, unwrapCb n = .failed e) ∨ (∃ x, unwrapCb n = .done (.val x)) ∨ (∃ g, unwrapCb n = .unwrap g) := by
  fun_induction unwrapCb n with
  | case1 e => exact .inl ⟨e, rfl⟩
  | case2 x => exact .inr (.inl ⟨x, rfl⟩)
  | case3 r _ ih => exact ih
  | case4 x => exact .inr (.inl ⟨x, rfl⟩)
  | case5 p _ _ _ _ => exact .inr (.inr ⟨p, rfl⟩)

/-- a measure of nodes that looks through `done` and `unwrap` does not see `unwrap_future` at all -/
theorem unwrapCb_congr {α : Type} (f : Node → α) (hdone : ∀ r, f (.done r) = f r) (hunwrap : ∀ p, f (.unwrap p) = f p)
    (n : Node) : f (unwrapCb n) = f n := by
  fun_induction unwrapCb n with
  | case1 e => rfl
  | case2 x => rfl
  | case3 r _ ih => exact ih.trans (hdone r).symm
  | case4 x => exact hdone _
  | case5 p _ _ _ _ => exact hunwrap p

/-- `chain` on a Future: the callback fires at once if it is finished and is parked otherwise; nothing propagates -/
theorem mapValue_future (ap : ApplyCont) (k : Cont) {n : Node} (h : n.isFuture = true) (s : ExecSt) :
    mapValue ap n k s = (.ok (chainOnFinish ap n k s).1, (chainOnFinish ap n k s).2) := by
  cases n <;> first | rfl | cases h

/-- `cb` of `execute_fields_serially` runs `_next` on the rest of the queue when it is handed data, and is one of the callbacks
    that do not call back into the executor on anything else -/
theorem serialCb_cases {Q : Res Val → ExecSt → Res Node × ExecSt → Prop} {path : Path} {key : String}
    {resolved : List (String × V)} {args : Flds}
    (data : ∀ v s, Q (.ok (.data v)) s (serialNext path (resolved ++ [(key, v)]) args s))
    (simple : ∀ r s, Q r s (applySimple (.serialCb path key resolved args) r s)) (r : Res Val) (s : ExecSt) :
    Q r s (applyCont (.serialCb path key resolved args) r s) := by
  cases r with
  | ok x =>
    cases x with
    | data v => exact data v s
    | _ => exact simple _ s
  | exc e => exact simple _ s

theorem serialNext_exc (path : Path) (resolved : List (String × V)) (args : Flds) (s : ExecSt) (e : Exc)
    (h : (serialNext path resolved args s).1 = .exc e) :
    ∃ key mode out s0 s1, resolveField (path ++ [.key key]) mode out s0 = (.exc e, s1) := by
  fun_induction serialNext path resolved args s with
  | case2 _ key mode out _ s e' s1 hr => cases h; exact ⟨key, mode, out, s, s1, hr⟩
  | case3 _ _ _ _ _ _ _ _ _ ih => exact ih h
  | _ => cases h

theorem applySimple_exc {k : Cont} {r : Res Val} {s : ExecSt} {e : Exc} :
    (applySimple k r s).1 = .exc e → r = .exc e := by
  fun_cases applySimple k r s with
  | case1 k e' s =>
    intro h
    cases h
    rfl
  | _ => exact fun h => nomatch h

theorem applyCont_eq_simple (k : Cont) (r : Res Val) (s : ExecSt) (hc : ∀ p, k ≠ .complete p)
    (hs : ∀ p key res args, k ≠ .serialCb p key res args) : applyCont k r s = applySimple k r s := by
  fun_cases applyCont k r s with
  | case1 path => exact absurd rfl (hc path)
  | case2 path => exact absurd rfl (hc path)
  | case3 path => exact absurd rfl (hc path)
  | case4 path key resolved args => exact absurd rfl (hs path key resolved args)
  | case5 => rfl

end PyGql.AsyncExec
