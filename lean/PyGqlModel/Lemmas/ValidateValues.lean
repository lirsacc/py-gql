/-
  `ValuesOfCorrectTypeChecker` for the context walk `Q.CTXQ` (context = the stacks of
  `TypeInfoVisitor`): what the rule adds at a node depends on the node and on the stacks only; an object literal
  at a position that is not an input object raises SkipNode - without any error when the position's type is unknown,
  and then nothing below it can be wrong: positions whose input type is unknown are "dead" (nothing below them can be
  reported). Then the `CTXQ` instance; the stacks of `TypeInfoVisitor` projected to the static input context `Spec.IView`;
  "the node is fine in the context of the stacks" is the declarative `Spec.valueNodeOk` in the static input context.
-/
import PyGqlModel.Lemmas.ValidateChainFrame
import PyGqlModel.Lemmas.ValidateCtx
import PyGqlModel.Lemmas.ValidateLone
import PyGqlModel.Lemmas.ValidateCtxMap
import PyGqlModel.Lemmas.ValidateTyped
import PyGqlModel.Lemmas.ValidateVarsWalk
import PyGqlModel.Spec.ValidSpecValues
namespace PyGql.Validate
open PyGql PyGql.Validate.Spec

/-- errors of `_check_scalar` -/
def scalarErrs (s : SchemaD) (ti : TI) (v : Value) : Nat := (checkScalar s ti v).getD 0

theorem addOpt_len (r : Rule) (s : SchemaD) (ti : TI) (v : Value) (rs : RS) :
    (rs.addOpt r (checkScalar s ti v)).errs.length = rs.errs.length + scalarErrs s ti v := by
  obtain ⟨k, hk⟩ := checkScalar_some s ti v
  simp [scalarErrs, hk, RS.addOpt, RS.errN, Nat.add_comm]

/-- the node raises SkipNode: an object literal at a position that is not of input-object type AND that
    `_check_scalar` rejects (fix 309c6fb, in /repo) -/
def vocBad (s : SchemaD) : Node → TI → Bool
  | .value (.obj fs), t =>
    match t.inputType.map (·.base) with
    | some b => !isInputObject s b && scalarErrs s t (.obj fs) != 0
    | none => scalarErrs s t (.obj fs) != 0
  | _, _ => false

theorem scalarSkip_eq (s : SchemaD) (ti : TI) (v : Value) : scalarSkip (checkScalar s ti v) = (scalarErrs s ti v != 0) := by
  obtain ⟨k, hk⟩ := checkScalar_some s ti v
  simp only [scalarSkip, scalarErrs, hk, Option.getD_some]
  cases k <;> simp

/-- errors added by a node that raises SkipNode -/
def vocS (s : SchemaD) : Node → TI → Nat
  | .value (.obj fs), t => scalarErrs s t (.obj fs)
  | _, _ => 0

/-- errors added on entering a node that does not raise SkipNode -/
def vocF (s : SchemaD) (fx : Fixes) : Node → TI → Nat
  | .value (.int x), t => scalarErrs s t (.int x)
  | .value (.float x), t => scalarErrs s t (.float x)
  | .value (.str x), t => scalarErrs s t (.str x)
  | .value (.bool x), t => scalarErrs s t (.bool x)
  | .value .null, t => match t.inputType with | some (.nonNull _) => 1 | _ => 0
  | .value (.enum x), t =>
    match t.inputType.map (·.base) with
    | none => 0
    | some b => if !isEnum s b then scalarErrs s t (.enum x) else if enumHas s b x then 0 else 1
  | .value (.obj fs), t =>
    match t.inputType.map (·.base) with
    | some b =>
      if isInputObject s b then
        ((inputFields s b).filter fun fd => ArgD.required fd && !(fs.map (·.name)).contains fd.name).length
      else 0
    | none => 0
  | .objField _, t =>
    match t.inputType, t.parentInputType s fx with
    | none, some _ => 1
    | _, _ => 0
  | _, _ => 0

theorem ite_ne_zero (k : Nat) : (if (k != 0) = true then k else 0) = k := by cases k <;> rfl

theorem voc_enter (s : SchemaD) (fx : Fixes) (n : Node) (ti : TI) (rs : RS) :
    (enterRule s fx .valuesOfCorrectType n ti rs).2 = vocBad s n ti ∧
    (enterRule s fx .valuesOfCorrectType n ti rs).1.errs.length =
      rs.errs.length + (if vocBad s n ti = true then vocS s n ti else vocF s fx n ti) := by
  cases n with
  | value v =>
    cases v with
    | int x => exact ⟨rfl, addOpt_len _ s ti _ rs⟩
    | float x => exact ⟨rfl, addOpt_len _ s ti _ rs⟩
    | str x => exact ⟨rfl, addOpt_len _ s ti _ rs⟩
    | bool x => exact ⟨rfl, addOpt_len _ s ti _ rs⟩
    | var x => exact ⟨rfl, rfl⟩
    | list vs => exact ⟨rfl, rfl⟩
    | null =>
      refine ⟨rfl, ?_⟩
      unfold enterRule
      simp only [vocBad, vocF, Bool.false_eq_true, ↓reduceIte]
      cases ti.inputType with
      | none => rfl
      | some it => cases it <;> rfl
    | enum x =>
      refine ⟨rfl, ?_⟩
      unfold enterRule
      simp only [vocBad, vocF, Bool.false_eq_true, ↓reduceIte]
      cases ti.inputType.map (·.base) with
      | none => rfl
      | some b =>
        dsimp only
        split
        · exact addOpt_len _ s ti _ rs
        · split <;> rfl
    | obj fs =>
      have skip : (rs.addOpt .valuesOfCorrectType (checkScalar s ti (.obj fs))).errs.length = rs.errs.length +
          (if (scalarErrs s ti (.obj fs) != 0) = true then scalarErrs s ti (.obj fs) else 0) := by
        rw [addOpt_len, ite_ne_zero]
      unfold enterRule
      dsimp only [vocBad, vocS, vocF]
      rcases Option.eq_none_or_eq_some (ti.inputType.map (·.base)) with h | ⟨b, h⟩
      · simp only [h]
        exact ⟨scalarSkip_eq s ti _, skip⟩
      · simp only [h]
        cases isInputObject s b with
        | true => exact ⟨rfl, by simp [RS.errN]; omega⟩
        | false => exact ⟨scalarSkip_eq s ti _, skip⟩
  | objField name =>
    refine ⟨rfl, ?_⟩
    unfold enterRule
    simp only [vocBad, vocF, Bool.false_eq_true, ↓reduceIte]
    cases ti.inputType <;> cases ti.parentInputType s fx <;> rfl
  | _ => exact ⟨rfl, rfl⟩

theorem voc_leave (s : SchemaD) (fx : Fixes) (n : Node) (ti : TI) (rs : RS) :
    leaveRule s fx .valuesOfCorrectType n ti rs = rs := by
  cases n <;> rfl

/-- the node is fine in the context `t` -/
def okT (s : SchemaD) (fx : Fixes) (p : Node × TI) : Prop :=
  (vocBad s p.1 p.2 = true → vocS s p.1 p.2 = 0) ∧ (vocBad s p.1 p.2 = false → vocF s fx p.1 p.2 = 0)

theorem scalarErrs_dead (s : SchemaD) (t : TI) (v : Value) (h : t.inputType = none) : scalarErrs s t v = 0 := by
  simp [scalarErrs, checkScalar, h]

theorem isObjVal_of_vocBad {s : SchemaD} {n : Node} {t : TI} (hb : vocBad s n t = true) : n.isObjVal = true := by
  cases n with
  | value v => cases v <;> first | cases hb | rfl
  | _ => cases hb

theorem okT_iff_vocF (s : SchemaD) (fx : Fixes) {n : Node} (t : TI) (hn : n.isObjVal = false) :
    okT s fx (n, t) ↔ vocF s fx n t = 0 := by
  have hb : vocBad s n t = false := by
    cases h : vocBad s n t
    · rfl
    · rw [isObjVal_of_vocBad h] at hn
      cases hn
  simp [okT, hb]

theorem inputType_list (s : SchemaD) (vs : List Value) (t : TI) :
    (tiEnter s (.value (.list vs)) t).inputType = TI.inOnly s (t.inputType.map TI.itemOf) := rfl

/-- a position whose input type, if known, is not an input object: the fields of an object literal standing there
    have no type (since /repo a2b8a10 an object literal at a CUSTOM SCALAR position is accepted: it skips without an
    error at a position of KNOWN type) -/
def DeadPos (s : SchemaD) (t : TI) : Prop := ∀ it, t.inputType = some it → isInputObject s it.base = false

theorem deadPos_of_none {s : SchemaD} {t : TI} (h : t.inputType = none) : DeadPos s t := fun it hit => by
  rw [h] at hit
  cases hit

theorem deadPos_of_bad (s : SchemaD) (fs : List ObjField) (t : TI) (hb : vocBad s (.value (.obj fs)) t = true) :
    DeadPos s t := by
  intro it hit
  simp only [vocBad, hit, Option.map_some, Bool.and_eq_true, Bool.not_eq_eq_eq_not, Bool.not_true] at hb
  exact hb.1

theorem dead_objField (s : SchemaD) (fx : Fixes) (name : String) (t : TI) (h : DeadPos s t) :
    (tiEnter s (.objField name) t).inputType = none ∧ (tiEnter s (.objField name) t).parentInputType s fx = none := by
  have e : tiEnter s (.objField name) t = { t with ivdStack := none :: t.ivdStack, inputStack := none :: t.inputStack } := by
    simp only [tiEnter, TI.enterObjectField]
    cases hit : t.inputType with
    | none => rfl
    | some it => simp only [Option.map_some, h it hit, Bool.false_eq_true, ↓reduceIte]
  rw [e]
  refine ⟨rfl, ?_⟩
  show (match t.inputType with | some ty => _ | none => none) = none
  cases hit : t.inputType with
  | none => rfl
  | some it =>
    have hb := h it hit
    cases it <;> simp_all [Ty.base]

mutual
theorem deadValue (s : SchemaD) (fx : Fixes) : ∀ (v : Value) (t : TI), t.inputType = none →
    ∀ p ∈ gnValue (tiEnter s) t v, okT s fx p
  | .list vs, t, h, p, hp => by
    simp only [gnValue, List.mem_cons] at hp
    rcases hp with rfl | hp
    · exact (okT_iff_vocF s fx _ rfl).2 rfl
    · exact deadValues s fx vs _ (by rw [inputType_list, h]; rfl) p hp
  | .obj fs, t, h, p, hp => by
    simp only [gnValue, List.mem_cons] at hp
    rcases hp with rfl | hp
    · exact ⟨fun _ => scalarErrs_dead s _ _ h, fun _ => by simp [vocF, tiEnter, h]⟩
    · exact deadObjFields_np s fx fs _ (deadPos_of_none h) p hp
  | .var a, t, h, p, hp => by
    simp only [gnValue, List.mem_singleton] at hp
    subst hp
    exact (okT_iff_vocF s fx _ rfl).2 rfl
  | .int a, t, h, p, hp => by
    simp only [gnValue, List.mem_singleton] at hp
    subst hp
    exact (okT_iff_vocF s fx _ rfl).2 (scalarErrs_dead s _ _ h)
  | .float a, t, h, p, hp => by
    simp only [gnValue, List.mem_singleton] at hp
    subst hp
    exact (okT_iff_vocF s fx _ rfl).2 (scalarErrs_dead s _ _ h)
  | .str a, t, h, p, hp => by
    simp only [gnValue, List.mem_singleton] at hp
    subst hp
    exact (okT_iff_vocF s fx _ rfl).2 (scalarErrs_dead s _ _ h)
  | .bool a, t, h, p, hp => by
    simp only [gnValue, List.mem_singleton] at hp
    subst hp
    exact (okT_iff_vocF s fx _ rfl).2 (scalarErrs_dead s _ _ h)
  | .null, t, h, p, hp => by
    simp only [gnValue, List.mem_singleton] at hp
    subst hp
    exact (okT_iff_vocF s fx _ rfl).2 (by simp [vocF, tiEnter, h])
  | .enum a, t, h, p, hp => by
    simp only [gnValue, List.mem_singleton] at hp
    subst hp
    exact (okT_iff_vocF s fx _ rfl).2 (by simp [vocF, tiEnter, h])
theorem deadValues (s : SchemaD) (fx : Fixes) : ∀ (vs : List Value) (t : TI), t.inputType = none →
    ∀ p ∈ gnValues (tiEnter s) t vs, okT s fx p
  | [], _, _, p, hp => by rw [gnValues] at hp; cases hp
  | v :: vs, t, h, p, hp => by
    rw [gnValues, List.mem_append] at hp
    rcases hp with hp | hp
    · exact deadValue s fx v t h p hp
    · exact deadValues s fx vs t h p hp
theorem deadObjFields_np (s : SchemaD) (fx : Fixes) : ∀ (fs : List ObjField) (t : TI), DeadPos s t →
    ∀ p ∈ gnObjFields (tiEnter s) t fs, okT s fx p
  | [], _, _, p, hp => by rw [gnObjFields] at hp; cases hp
  | .mk n v :: fs, t, h, p, hp => by
    rw [gnObjFields, List.mem_append] at hp
    rcases hp with hp | hp
    · obtain ⟨d1, d2⟩ := dead_objField s fx n t h
      rw [gnObjField, List.mem_cons] at hp
      rcases hp with rfl | hp
      · exact (okT_iff_vocF s fx _ rfl).2 (by simp only [vocF, d1, d2])
      · exact deadValue s fx v _ d1 p hp
    · exact deadObjFields_np s fx fs t h p hp
end

theorem deadObjFields (s : SchemaD) (fx : Fixes) : ∀ (fs : List ObjField) (t : TI), t.inputType = none →
    ∀ p ∈ gnObjFields (tiEnter s) t fs, okT s fx p :=
  fun fs t h => deadObjFields_np s fx fs t (deadPos_of_none h)

theorem deadObjField (s : SchemaD) (fx : Fixes) : ∀ (f : ObjField) (t : TI), t.inputType = none →
    ∀ p ∈ gnObjField (tiEnter s) t f, okT s fx p :=
  fun f t h p hp => deadObjFields s fx [f] t h p (by rw [gnObjFields, gnObjFields, List.append_nil]; exact hp)

theorem enter_voc (s : SchemaD) (fx : Fixes) (n : Node) (st : St) :
    (enter ⟨s, fx, [.valuesOfCorrectType]⟩ n st).2 = vocBad s n (tiEnter s n st.ti) ∧
    E (enter ⟨s, fx, [.valuesOfCorrectType]⟩ n st).1 = E st +
      (if vocBad s n (tiEnter s n st.ti) = true then vocS s n (tiEnter s n st.ti) else vocF s fx n (tiEnter s n st.ti)) := by
  rw [enter_one_rule]
  exact voc_enter s fx n (tiEnter s n st.ti) st.rs

def ctxValues (s : SchemaD) (fx : Fixes) : Q.CTXQ ⟨s, fx, [.valuesOfCorrectType]⟩ TI where
  ctx st := st.ti
  down := tiEnter s
  up := tiLeave
  J t := t.directive = none
  Inv _ := True
  bad := vocBad s
  F := vocF s fx
  G _ _ := 0
  S := vocS s
  restore n x h := tiLeave_tiEnter s n x (fun d e => h (by rw [e]; rfl))
  keepJ n x hn hj := by
    rw [directive_tiEnter s n x (fun d e => by rw [e] at hn; cases hn)]; exact hj
  enter_ctx n st := by rw [enter_one_rule]
  leave_ctx n st := rfl
  enterI _ _ _ _ := trivial
  leaveI _ _ _ _ := trivial
  skipE n st _ _ hb := by
    obtain ⟨h1, h2⟩ := enter_voc s fx n st
    rw [hb] at h1
    rw [hb, if_pos rfl] at h2
    rw [leaveSkipped_enter_single s fx _ n st h1]
    exact ⟨h1, h2⟩
  skipI _ _ _ _ _ := trivial
  skip_ctx n st _ _ hb := by
    rw [leaveSkipped_enter_single s fx _ n st ((enter_voc s fx n st).1.trans hb)]
  noskip n st _ _ hb := (enter_voc s fx n st).1.trans hb
  enterE n st _ _ hb := by
    have h2 := (enter_voc s fx n st).2
    rwa [hb, if_neg Bool.false_ne_true] at h2
  leaveE n st _ _ := by rw [leave_one_rule, voc_leave]; rfl
  badObj _ _ := isObjVal_of_vocBad
  skipCtx n x hb := by
    cases n with
    | value v => cases v <;> first | rfl | cases isObjVal_of_vocBad hb
    | _ => cases isObjVal_of_vocBad hb
  quiet fs x hb hs p hp := by
    obtain ⟨a, b⟩ := deadObjFields_np s fx fs x (deadPos_of_bad s fs x hb) p hp
    exact ⟨a, fun h => ⟨b h, rfl⟩⟩

theorem okP_ctxValues (s : SchemaD) (fx : Fixes) (p : Node × TI) : Q.okP (ctxValues s fx) p ↔ okT s fx p := by
  simp [Q.okP, okT, ctxValues]

def TI.iview (t : TI) : IView := { view := t.view, input := t.inputType, outer := TI.peek t.inputStack 2 }

theorem iview_empty : (({} : TI).iview) = ({} : IView) := rfl

theorem peek_cons2 {α} (a : Option α) (l : List (Option α)) : TI.peek (a :: l) 2 = TI.peek l 1 := rfl

theorem iview_enter (s : SchemaD) (n : Node) (t : TI) : (tiEnter s n t).iview = IView.enter s n t.iview := by
  have hv := view_enter s n t
  cases n with
  | varDef v =>
    simp only [TI.iview, IView.enter, hv]
    simp [tiEnter, TI.enterVarDef, TI.inputType, peek_cons, peek_cons2]
  | argument a =>
    have hp := congrArg Usage.inputType (pos_argument s a t)
    simp only [TI.iview, IView.enter, hv]
    have hst : TI.peek (tiEnter s (.argument a) t).inputStack 2 = t.inputType := by
      simp only [tiEnter, TI.enterArgument]
      split <;> simp [peek_cons2, TI.inputType]
    rw [hst]
    exact congrArg (fun i => ({ view := _, input := i, outer := _ } : IView)) hp
  | objField name =>
    have hp := congrArg Usage.inputType (pos_objField s name t)
    simp only [TI.iview, IView.enter, hv]
    have hst : TI.peek (tiEnter s (.objField name) t).inputStack 2 = t.inputType := by
      simp only [tiEnter, TI.enterObjectField]
      split
      · split <;> simp [peek_cons2, TI.inputType]
      · simp [peek_cons2, TI.inputType]
    rw [hst]
    exact congrArg (fun i => ({ view := _, input := i, outer := _ } : IView)) hp
  | value v =>
    cases v with
    | list vs =>
      have hp := congrArg Usage.inputType (pos_list s vs t)
      simp only [TI.iview, IView.enter, hv]
      have hst : TI.peek (tiEnter s (.value (.list vs)) t).inputStack 2 = t.inputType := by
        simp [tiEnter, TI.enterListValue, peek_cons2, TI.inputType]
      rw [hst]
      exact congrArg (fun i => ({ view := _, input := i, outer := _ } : IView)) hp
    | _ => simp only [TI.iview, IView.enter, hv]; rfl
  | inline on dirs =>
    simp only [TI.iview, IView.enter, hv]
    cases on <;> rfl
  | _ =>
    simp only [TI.iview, IView.enter, hv]
    rfl

theorem parseLiteralFails_eq (sc : String) (v : Value) : parseLiteralFails sc v = some (!scalarAccepts sc v) := by
  unfold parseLiteralFails scalarAccepts
  split
  · congr 1
    split <;> first | rfl | simp_all
  · cases v <;> rfl

theorem scalarErrs_zero_iff (s : SchemaD) (t : TI) (v : Value) :
    scalarErrs s t v = 0 ↔ ∀ it, t.inputType = some it → isScalar s it.base = true ∧ scalarAccepts it.base v = true := by
  unfold scalarErrs checkScalar
  cases hit : t.inputType with
  | none => simp
  | some it =>
    simp only [Option.some.injEq, forall_eq', parseLiteralFails_eq]
    cases isScalar s it.base <;> cases scalarAccepts it.base v <;> simp

theorem outerObject_iview (s : SchemaD) (fx : Fixes) (t : TI) : t.iview.outerObject s fx = t.parentInputType s fx := by
  unfold IView.outerObject TI.parentInputType TI.iview
  cases TI.peek t.inputStack 2 with
  | none => rfl
  | some ty => cases ty <;> rfl

theorem okT_iff (s : SchemaD) (fx : Fixes) (n : Node) (t : TI) : okT s fx (n, t) ↔ valueNodeOk s fx n t.iview := by
  cases n with
  | value v =>
    cases v with
    | int x => exact (okT_iff_vocF s fx t rfl).trans (scalarErrs_zero_iff s t _)
    | float x => exact (okT_iff_vocF s fx t rfl).trans (scalarErrs_zero_iff s t _)
    | str x => exact (okT_iff_vocF s fx t rfl).trans (scalarErrs_zero_iff s t _)
    | bool x => exact (okT_iff_vocF s fx t rfl).trans (scalarErrs_zero_iff s t _)
    | var x => exact (okT_iff_vocF s fx t rfl).trans ⟨fun _ => trivial, fun _ => rfl⟩
    | list vs => exact (okT_iff_vocF s fx t rfl).trans ⟨fun _ => trivial, fun _ => rfl⟩
    | null =>
      refine (okT_iff_vocF s fx t rfl).trans ?_
      simp only [vocF, valueNodeOk, TI.iview]
      cases t.inputType with
      | none => simp
      | some it => cases it <;> simp
    | enum x =>
      refine (okT_iff_vocF s fx t rfl).trans ?_
      simp only [vocF, valueNodeOk, TI.iview]
      have hopt : t.inputType = none ∨ ∃ it, t.inputType = some it := by cases t.inputType <;> simp
      rcases hopt with hit | ⟨it, hit⟩
      · simp [hit]
      · simp only [hit, Option.map_some, Option.some.injEq, forall_eq']
        by_cases he : isEnum s it.base = true
        · by_cases hh : enumHas s it.base x = true <;> simp [he, hh]
        · have := scalarErrs_zero_iff s t (.enum x)
          simp only [hit, Option.some.injEq, forall_eq'] at this
          simp [he, this]
    | obj fs =>
      have hopt : t.inputType = none ∨ ∃ it, t.inputType = some it := by cases t.inputType <;> simp
      rcases hopt with hit | ⟨it, hit⟩
      · simp [okT, vocBad, vocF, vocS, valueNodeOk, TI.iview, hit, scalarErrs_dead]
      · by_cases hi : isInputObject s it.base = true
        · have hb : vocBad s (.value (.obj fs)) t = false := by simp [vocBad, hit, hi]
          simp only [okT, hb, Bool.false_eq_true, false_implies, true_and, forall_const, vocF, valueNodeOk, TI.iview, hit,
            Option.map_some, hi, ↓reduceIte, Option.some.injEq, forall_eq', List.length_eq_zero_iff,
            List.filter_eq_nil_iff]
          constructor
          · intro h
            refine Or.inl fun fd hfd hreq => ?_
            have := h fd hfd
            simpa [hreq] using this
          · intro h fd hfd
            rcases h with h | h
            · by_cases hreq : ArgD.required fd = true
              · simp [hreq, h fd hfd hreq]
              · simp [hreq]
            · exact absurd h.1 (by simp)
        · -- not an input object: fine ⇔ `_check_scalar` accepts, whether the literal skips or not
          have hz := scalarErrs_zero_iff s t (.obj fs)
          simp only [hit, Option.some.injEq, forall_eq'] at hz
          have hk : okT s fx (.value (.obj fs), t) ↔ scalarErrs s t (.obj fs) = 0 := by
            simp only [okT, vocBad, vocS, vocF, hit, Option.map_some, hi]
            cases scalarErrs s t (.obj fs) <;> simp
          rw [hk, hz]
          simp [valueNodeOk, TI.iview, hit, hi]
  | objField name =>
    refine (okT_iff_vocF s fx t rfl).trans ?_
    simp only [vocF, valueNodeOk, outerObject_iview]
    show _ ↔ (t.inputType = none → _)
    cases t.inputType <;> cases t.parentInputType s fx <;> simp
  | _ => exact (okT_iff_vocF s fx t rfl).trans ⟨fun _ => trivial, fun _ => rfl⟩

end PyGql.Validate
