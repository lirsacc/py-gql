/-
  Surrogate-pair escapes (fix C02-U1): the model's `pairEscape` / `pairAt` are the specification's `pairedUnits` / `pairedAt`,
  a closing quote never takes part in a pair, and the two `\uXXXX` equations of `Spec.Lexical.stringCharacters` (those of
  `readStringBody` are in `Lemmas/LexStringBody.lean`).
-/
import PyGqlModel.Lemmas.LexChars
import PyGqlModel.Lemmas.LexRange

namespace PyGql.Lex
open PyGql.Spec.Lexical

theorem pairEscape_spec (hi e1 e2 a b c d : Nat) :
    pairEscape hi e1 e2 a b c d = pairedUnits hi e1 e2 a b c d := by
  have hB : (isHighSurrogate hi && e1 == 92 && e2 == 117) = true ↔ (isHighUnit hi = true ∧ e1 = 92 ∧ e2 = 117) := by
    have h1 : isHighSurrogate hi = isHighUnit hi := rfl
    rw [h1]; simp only [Bool.and_eq_true, beq_iff_eq, and_assoc]
  unfold pairEscape pairedUnits
  rw [← hex4_spec]
  by_cases hcond : isHighUnit hi = true ∧ e1 = 92 ∧ e2 = 117
  · rw [if_pos (hB.mpr hcond), if_pos hcond]; rfl
  · rw [if_neg (fun h => hcond (hB.mp h)), if_neg hcond]

/-- a quote among the six characters after a high-surrogate escape: no pair -/
theorem pairEscape_quote (hi e1 e2 a b c d : Nat) (h : 34 ∈ [e1, e2, a, b, c, d]) :
    pairEscape hi e1 e2 a b c d = none := by
  have h34 : isHex 34 = false := by decide
  unfold pairEscape
  simp only [List.mem_cons, List.not_mem_nil, or_false] at h
  rcases h with rfl | rfl | rfl | rfl | rfl | rfl
  · simp
  · simp
  all_goals (simp only [hex4, h34, Bool.false_and, Bool.and_false, Bool.false_eq_true, ↓reduceIte]; split <;> rfl)

theorem pairAt_spec (hi : Nat) (t : Text) : pairAt hi t = pairedAt hi t := by
  unfold pairAt pairedAt
  split <;> simp [pairEscape_spec]

theorem pairAt_quote_in_six (ch : Nat) (l : Text) (h : 34 ∈ l.take 6) : pairAt ch l = none := by
  unfold pairAt
  split
  · exact pairEscape_quote _ _ _ _ _ _ _ (by simpa using h)
  · rfl

/-- the closing quote (and what follows it) never takes part in a surrogate pair -/
theorem pairAt_append_quote (ch : Nat) (t2 rest : Text) : pairAt ch (t2 ++ 34 :: rest) = pairAt ch t2 := by
  match t2 with
  | [] | [_] | [_, _] | [_, _, _] | [_, _, _, _] | [_, _, _, _, _] =>
    rw [pairAt_quote_in_six ch _ (by simp)]; rfl
  | _ :: _ :: _ :: _ :: _ :: _ :: _ => rfl

theorem stringCharacters_unicode_nopair (a b c d u : Nat) (t2 : Text) (hu : escapedUnicode a b c d = some u)
    (hnp : pairedAt u t2 = none) :
    stringCharacters (92 :: 117 :: a :: b :: c :: d :: t2) = (stringCharacters t2).map (u :: ·) := by
  rw [stringCharacters.eq_def]
  simp only [Nat.reduceEqDiff, ↓reduceIte, hu, hnp]

theorem stringCharacters_unicode_pair (a b c d u e1 e2 a2 b2 c2 d2 cp : Nat) (t3 : Text)
    (hu : escapedUnicode a b c d = some u) (hp : pairedAt u (e1 :: e2 :: a2 :: b2 :: c2 :: d2 :: t3) = some cp) :
    stringCharacters (92 :: 117 :: a :: b :: c :: d :: e1 :: e2 :: a2 :: b2 :: c2 :: d2 :: t3) =
      (stringCharacters t3).map (cp :: ·) := by
  rw [stringCharacters.eq_def]
  simp only [Nat.reduceEqDiff, ↓reduceIte, hu, hp]

end PyGql.Lex
