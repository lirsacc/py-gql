/-
  C05 — `MergeSafe` from the clause of 5.3.2: ARGUMENTS. `_same_arguments` (sort both argument lists by name,
  compare pairwise with `_same_value`) on two lists with pairwise distinct names (UniqueArgumentNames) means: the two
  lists bind every name to the SAME literal — hence `coerce_argument_values`, which reads the node's arguments only
  through a lookup by name, computes the same keyword arguments (`argsTable_of_sameArguments`).
-/
import PyGqlModel.ExecOfValidate
import PyGqlModel.Lemmas.ValidateOverlapFuel
import PyGqlModel.Lemmas.ValidateOverlapSortArgs

set_option linter.unusedSimpArgs false

namespace PyGql.Props.C05
open PyGql PyGql.Validate

theorem sameValue_eq_all :
    (∀ a b : Value, sameValue a b = true → a = b) ∧ (∀ fs gs : List ObjField, sameFields fs gs = true → fs = gs) ∧
    (∀ as bs : List Value, sameValues as bs = true → as = bs) := by
  refine sameValue.mutual_induct (motive_1 := fun a b => sameValue a b = true → a = b)
    (motive_2 := fun fs gs => sameFields fs gs = true → fs = gs)
    (motive_3 := fun as bs => sameValues as bs = true → as = bs) ?_ ?_ ?_ ?_ ?_ ?_ ?_ ?_ ?_ ?_ ?_ ?_ ?_ ?_ ?_ ?_
  -- the cases, in the order of the clauses of the three definitions: `sameValue` 1–5, 7 the atoms compared by `==`
  -- (var, int, float, str, bool, enum: `all_goals` at the end), 6 null, 8 list, 9 obj, 10 the catch-all;
  -- `sameValues` 11 nil, 12 cons, 13 catch-all; `sameFields` 14 nil, 15 cons, 16 catch-all
  case refine_6 => exact fun _ => rfl
  case refine_8 => exact fun as bs ih h => congrArg Value.list (ih h)
  case refine_9 => exact fun fs gs ih h => congrArg Value.obj (ih h)
  case refine_10 =>
    intro a b h1 h2 h3 h4 h5 h6 h7 h8 h9 h
    rw [sameValue.eq_10 a b h1 h2 h3 h4 h5 h6 h7 h8 h9] at h
    cases h
  case refine_11 => exact fun _ => rfl
  case refine_12 =>
    intro a as b bs iha ihas h
    simp only [sameValues, Bool.and_eq_true] at h
    rw [iha h.1, ihas h.2]
  case refine_13 =>
    intro as bs h1 h2 h
    rw [sameValues.eq_3 as bs h1 h2] at h
    cases h
  case refine_14 => exact fun _ => rfl
  case refine_15 =>
    intro n a fs m b gs iha ihfs h
    simp only [sameFields, Bool.and_eq_true, beq_iff_eq] at h
    rw [h.1.1, iha h.1.2, ihfs h.2]
  case refine_16 =>
    intro fs gs h1 h2 h
    rw [sameFields.eq_3 fs gs h1 h2] at h
    cases h
  all_goals
    intro a b h
    rw [eq_of_beq h]

mutual
theorem sameValue_eq (a b : Value) (h : sameValue a b = true) : a = b :=
  sameValue_eq_all.1 a b h
theorem sameValues_eq : ∀ as bs : List Value, sameValues as bs = true → as = bs :=
  sameValue_eq_all.2.2
theorem sameFields_eq : ∀ fs gs : List ObjField, sameFields fs gs = true → fs = gs :=
  sameValue_eq_all.2.1
end

theorem sameArgsZip_eq : ∀ a b : List Arg, a.length = b.length → sameArgsZip a b = some true → a = b
  | [], [], _, _ => rfl
  | [], _ :: _, hl, _ => by simp at hl
  | _ :: _, [], hl, _ => by simp at hl
  | x :: xs, y :: ys, hl, h => by
    rw [sameArgsZip] at h
    by_cases hn : x.name = y.name
    · by_cases hv : sameValue x.value y.value = true
      · simp only [hn, bne_self_eq_false, Bool.false_eq_true, if_false, hv, if_true] at h
        have := sameArgsZip_eq xs ys (by simpa using hl) h
        have hx : x = y := by
          cases x; cases y
          simp only at hn hv
          rw [hn, sameValue_eq _ _ hv]
        rw [hx, this]
      · simp [hn, hv] at h
    · have : (x.name != y.name) = true := by simpa using hn
      simp [this] at h

/-- lookup by name (as `coerce_argument_values` reads the argument nodes) -/
def argLookup (n : String) (as : List Arg) : Option Value := Coerce.lookupLast n (as.map fun a => (a.name, a.value))

theorem lookupLast_eq_some_iff {α} (k : String) (v : α) : ∀ {l : List (String × α)}, (l.map (·.1)).Nodup →
    (Coerce.lookupLast k l = some v ↔ (k, v) ∈ l)
  | [], _ => by simp [Coerce.lookupLast]
  | (k', v') :: rest, hnd => by
    rw [List.map_cons, List.nodup_cons] at hnd
    have ih := lookupLast_eq_some_iff k v hnd.2
    rw [Coerce.lookupLast, List.mem_cons, ← ih]
    cases hr : Coerce.lookupLast k rest with
    | some r =>
      -- `k` is bound in the rest, so it is not the head's key
      have hne : k' ≠ k := fun e => hnd.1 (e ▸ List.mem_map_of_mem (f := (·.1)) ((lookupLast_eq_some_iff k r hnd.2).1 hr))
      exact ⟨Or.inr, fun h => h.resolve_left fun e => hne (congrArg Prod.fst e).symm⟩
    | none =>
      by_cases hk : k' = k
      · subst hk
        simp only [beq_self_eq_true, if_true, Option.some.injEq, Prod.mk.injEq, true_and, reduceCtorEq, or_false]
        exact eq_comm
      · have hk' : (k' == k) = false := by simpa using hk
        simp only [hk', Bool.false_eq_true, if_false, reduceCtorEq, or_false, false_iff]
        exact fun e => hk (congrArg Prod.fst e).symm

theorem lookupLast_perm {α} (k : String) {l₁ l₂ : List (String × α)} (h : l₁.Perm l₂) (hnd : (l₁.map (·.1)).Nodup) :
    Coerce.lookupLast k l₁ = Coerce.lookupLast k l₂ := by
  have hnd₂ := (h.map (·.1)).nodup_iff.1 hnd
  apply Option.ext
  intro v
  rw [lookupLast_eq_some_iff k v hnd, lookupLast_eq_some_iff k v hnd₂, h.mem_iff]

theorem argLookup_sortArgs (n : String) (as : List Arg) (hnd : (as.map (·.name)).Nodup) :
    argLookup n (sortArgs as) = argLookup n as :=
  (lookupLast_perm n ((sortArgs_spec as hnd).2.symm.map _) (by simpa [Function.comp_def] using hnd)).symm

theorem argLookup_of_sameArguments (a b : List Arg) (ha : (a.map (·.name)).Nodup) (hb : (b.map (·.name)).Nodup)
    (h : sameArguments a b ≠ some false) (n : String) : argLookup n a = argLookup n b := by
  unfold sameArguments at h
  by_cases hl : a.length = b.length
  · have hl' : (a.length != b.length) = false := by simpa using hl
    simp only [hl', Bool.false_eq_true, if_false] at h
    have hs : sameArgsZip (sortArgs a) (sortArgs b) = some true := by
      cases hz : sameArgsZip (sortArgs a) (sortArgs b) with
      | none => exact absurd hz (sameArgsZip_some _ _)
      | some v => cases v; exact absurd hz h; rfl
    have := sameArgsZip_eq _ _ (by rw [(sortArgs_spec a ha).2.length_eq, (sortArgs_spec b hb).2.length_eq, hl]) hs
    rw [← argLookup_sortArgs n a ha, ← argLookup_sortArgs n b hb, this]
  · have hl' : (a.length != b.length) = true := by simpa using hl
    simp [hl'] at h

theorem lookupLast_map_litOf (n : String) : ∀ as : List Arg,
    Coerce.lookupLast n (eArgs as) = (argLookup n as).map litOf
  | [] => rfl
  | a :: as => by
    show Coerce.lookupLast n ((a.name, litOf a.value) :: eArgs as) = (Coerce.lookupLast n ((a.name, a.value) :: as.map fun a => (a.name, a.value))).map litOf
    rw [Coerce.lookupLast, Coerce.lookupLast, lookupLast_map_litOf n as]
    unfold argLookup
    cases Coerce.lookupLast n (as.map fun a => (a.name, a.value)) with
    | some v => rfl
    | none => by_cases hk : (a.name == n) = true <;> simp [hk]

theorem coerceArgumentValues_congr (reg : Coerce.Reg) (fuel : Nat) (vars : List (String × Coerce.PV)) (a b : List (String × Coerce.Lit))
    (h : ∀ n, Coerce.lookupLast n a = Coerce.lookupLast n b) :
    ∀ defs, Coerce.coerceArgumentValues reg fuel vars a defs = Coerce.coerceArgumentValues reg fuel vars b defs
  | [] => rfl
  | d :: ds => by
    rw [Coerce.coerceArgumentValues, Coerce.coerceArgumentValues, coerceArgumentValues_congr reg fuel vars a b h ds]
    have : Coerce.coerceArg reg fuel vars a d = Coerce.coerceArg reg fuel vars b d := by
      unfold Coerce.coerceArg
      rw [h d.name]
    rw [this]

/-- same arguments ⇒ the same keyword arguments for every object type defining the field -/
theorem argsTable_of_sameArguments (s : SchemaD) (env : Exec.ArgEnv) (name : String) (a b : List Arg)
    (ha : (a.map (·.name)).Nodup) (hb : (b.map (·.name)).Nodup) (h : sameArguments a b ≠ some false) :
    Exec.argsTable s env name (eArgs a) = Exec.argsTable s env name (eArgs b) := by
  have hl : ∀ n, Coerce.lookupLast n (eArgs a) = Coerce.lookupLast n (eArgs b) := by
    intro n
    rw [lookupLast_map_litOf, lookupLast_map_litOf, argLookup_of_sameArguments a b ha hb h n]
  unfold Exec.argsTable Exec.argsEntry
  simp only [coerceArgumentValues_congr _ _ _ _ _ hl]

end PyGql.Props.C05
