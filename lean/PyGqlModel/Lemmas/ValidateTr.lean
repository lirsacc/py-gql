/-
  The transformations of C06 that cannot affect validity, as ONE function on documents:
  `T.doc d` re-orders every selection list with `T.sels`, every argument list (of fields and directives) with
  `T.args` - any functions that return a permutation of their input - and renames fragments with `T.frag`
  (definitions and spreads consistently). Reordering of definitions is expressed with `List.Perm` directly.
  Main lemma (`nodes_tr`, proved in `Lemmas/ValidateCtxTr.lean` as the case without contexts of the pair enumeration): the
  nodes of the transformed document are, up to order, the transformed nodes of the document.
-/
import PyGqlModel.Lemmas.ValidateNodeClasses
namespace PyGql.Validate
open PyGql PyGql.Validate.Spec

structure Tr where
  sels : List Sel → List Sel
  args : List Arg → List Arg
  frag : String → String
  sels_perm : ∀ l, (sels l).Perm l
  args_perm : ∀ l, (args l).Perm l

namespace Tr
variable (T : Tr)

def dir (d : Dir) : Dir := { name := d.name, args := T.args d.args }

mutual
def sel : Sel → Sel
  | .field al n args dirs hs id sub => .field al n (T.args args) (dirs.map T.dir) hs id (T.sels (selList sub))
  | .spread n dirs => .spread (T.frag n) (dirs.map T.dir)
  | .inline on dirs id sub => .inline on (dirs.map T.dir) id (T.sels (selList sub))
def selList : List Sel → List Sel
  | [] => []
  | x :: xs => sel x :: selList xs
end

theorem mem_args {a : Arg} {l : List Arg} : a ∈ T.args l ↔ a ∈ l := (T.args_perm l).mem_iff

theorem dir_isConst (d : Dir) : (T.dir d).isConst = d.isConst := by
  simp only [Dir.isConst, dir]
  exact (T.args_perm d.args).all_eq

theorem dirs_const {ds : List Dir} (h : ds.all Dir.isConst = true) : (ds.map T.dir).all Dir.isConst = true := by
  rw [List.all_map]
  simpa [Function.comp_def, dir_isConst] using h

def varDef (v : VarDef) : VarDef := { v with dirs := v.dirs.map T.dir, dirsConst := T.dirs_const v.dirsConst }

def defn : Def → Def
  | .op k nm vars dirs id sels => .op k nm (vars.map T.varDef) (dirs.map T.dir) id (T.sels (T.selList sels))
  | .frag n on dirs id sels => .frag (T.frag n) on (dirs.map T.dir) id (T.sels (T.selList sels))
  | .ts a b => .ts a b

def doc (d : Doc) : Doc := { defs := d.defs.map T.defn }

def node : Node → Node
  | .document d => .document (T.doc d)
  | .operation k nm vars dirs sels => .operation k nm (vars.map T.varDef) (dirs.map T.dir) (T.sels (T.selList sels))
  | .varDef v => .varDef (T.varDef v)
  | .fragmentDef n on dirs => .fragmentDef (T.frag n) on (dirs.map T.dir)
  | .directive d => .directive (T.dir d)
  | .selectionSet id sels => .selectionSet id (T.sels (T.selList sels))
  | .field n args dirs hs => .field n (T.args args) (dirs.map T.dir) hs
  | .spread n dirs => .spread (T.frag n) (dirs.map T.dir)
  | .inline on dirs => .inline on (dirs.map T.dir)
  | n => n

theorem selList_eq_map (l : List Sel) : T.selList l = l.map T.sel := by
  induction l with
  | nil => rfl
  | cons x xs ih => rw [selList, ih]; rfl

/-! What a statement about the transformed node `T.node m` says about `m`, per kind of node. -/

theorem node_eq_typeNode {m : Node} {t : Ty} : T.node m = .typeNode t ↔ m = .typeNode t := by
  refine ⟨fun h => ?_, fun h => by subst h; rfl⟩
  cases m with
  | typeNode _ => exact h
  | _ => cases h

theorem node_eq_value {m : Node} {v : Value} : T.node m = .value v ↔ m = .value v := by
  refine ⟨fun h => ?_, fun h => by subst h; rfl⟩
  cases m with
  | value _ => exact h
  | _ => cases h

theorem forall_node_varDef {m : Node} {Q : VarDef → Prop} :
    (∀ v, T.node m = .varDef v → Q v) ↔ ∀ v, m = .varDef v → Q (T.varDef v) := by
  refine ⟨fun h v e => h _ (by subst e; rfl), fun h v e => ?_⟩
  cases m with
  | varDef w => cases e; exact h w rfl
  | _ => cases e

theorem forall_node_directive {m : Node} {Q : Dir → Prop} :
    (∀ dr, T.node m = .directive dr → Q dr) ↔ ∀ dr, m = .directive dr → Q (T.dir dr) := by
  refine ⟨fun h v e => h _ (by subst e; rfl), fun h v e => ?_⟩
  cases m with
  | directive w => cases e; exact h w rfl
  | _ => cases e

theorem forall_node_field {m : Node} {Q : String → List Arg → List Dir → Bool → Prop} :
    (∀ n a ds hs, T.node m = .field n a ds hs → Q n a ds hs) ↔
      ∀ n a ds hs, m = .field n a ds hs → Q n (T.args a) (ds.map T.dir) hs := by
  refine ⟨fun h n a ds hs e => h _ _ _ _ (by subst e; rfl), fun h n a ds hs e => ?_⟩
  cases m with
  | field n' a' ds' hs' => cases e; exact h _ _ _ _ rfl
  | _ => cases e

theorem forall_node_spread {m : Node} {Q : String → List Dir → Prop} :
    (∀ n ds, T.node m = .spread n ds → Q n ds) ↔ ∀ n ds, m = .spread n ds → Q (T.frag n) (ds.map T.dir) := by
  refine ⟨fun h n ds e => h _ _ (by subst e; rfl), fun h n ds e => ?_⟩
  cases m with
  | spread n' ds' => cases e; exact h _ _ rfl
  | _ => cases e

theorem forall_node_fragmentDef {m : Node} {Q : String → String → List Dir → Prop} :
    (∀ n on ds, T.node m = .fragmentDef n on ds → Q n on ds) ↔
      ∀ n on ds, m = .fragmentDef n on ds → Q (T.frag n) on (ds.map T.dir) := by
  refine ⟨fun h n on ds e => h _ _ _ (by subst e; rfl), fun h n on ds e => ?_⟩
  cases m with
  | fragmentDef n' on' ds' => cases e; exact h _ _ _ rfl
  | _ => cases e

/-- `f` is `id` or `some`: rules speak of inline fragments with any or with a given type condition -/
theorem forall_node_inline_of {α : Type} (f : α → Option String) {m : Node} {Q : α → List Dir → Prop} :
    (∀ a ds, T.node m = .inline (f a) ds → Q a ds) ↔ ∀ a ds, m = .inline (f a) ds → Q a (ds.map T.dir) := by
  refine ⟨fun h a ds e => h _ _ (by subst e; rfl), fun h a ds e => ?_⟩
  cases m with
  | inline o ds' =>
    injection e with eo eds
    subst eo eds
    exact h _ _ rfl
  | _ => cases e

theorem forall_node_inline {m : Node} {Q : Option String → List Dir → Prop} :
    (∀ o ds, T.node m = .inline o ds → Q o ds) ↔ ∀ o ds, m = .inline o ds → Q o (ds.map T.dir) :=
  T.forall_node_inline_of id

theorem fragNames_doc (d : Doc) : fragNames (T.doc d) = (fragNames d).map T.frag := by
  simp only [fragNames, Tr.doc, List.filterMap_map, List.map_filterMap]
  congr 1
  funext x
  cases x <;> rfl

end Tr

theorem map_eq_self {α} (f : α → α) (l : List α) (h : ∀ x ∈ l, f x = x) : l.map f = l :=
  (List.map_congr_left h).trans (List.map_id _)

end PyGql.Validate
