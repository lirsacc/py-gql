/-
  The clause of 5.3.2 (`Spec.overlappingFieldsCanBeMerged`) along a SIMULATION of documents. `SameDoc`
  (`Lemmas/ValidateOverlapPerm.lean`) covers documents with literally the same selection sets (reordered definitions).
  The other transformations of C06 change the selection lists themselves (order of selections, order of arguments, names
  of fragments, aliases, names of variables): `OvSim s d d'` packages what the clause needs of such a pair -
    `σ` on selection lists, `φ` on fragment names, `ρ` on response names (both injective), `ε` on collected fields,
  with: the selection-set nodes and the fragment table of `d'` are the images of those of `d` (same node identities, same
  type conditions), `TypeInfoVisitor` shows the same parent type inside corresponding sets, the fields / spreads a set
  contains directly are the images, and `ε` keeps parent, name, field definition, sub-selection node and the OUTCOME of
  `_same_arguments` (on fields of the document: `Good`). Then the clause and `ParentsAgree` are the same for `d` and
  `d'` (`OvSim.clause_iff`, `OvSim.parentsAgree`).
-/
import PyGqlModel.Lemmas.ValidateOverlapPerm
namespace PyGql.Validate
open PyGql PyGql.Validate.Spec

/-- the parent type `TypeInfoVisitor` shows inside the selection set with node identity `i` -/
def WalkP (s : SchemaD) (d : Doc) (i : Nat) (p : Option String) : Prop :=
  ∃ sels v, (Node.selectionSet i sels, v) ∈ typedNodes s d ∧ v.parent = p

theorem adm_walkP {s : SchemaD} {d : Doc} {i : Nat} {p : Option String} (h : WalkP s d i p) : Adm s d i p := by
  obtain ⟨sels, v, hm, rfl⟩ := h
  exact .walk hm

/-- a field collected directly from a selection set of the document -/
def EntD (s : SchemaD) (d : Doc) (e : FEntry) : Prop := ∃ i sels p rn, SelSet d i sels ∧ CollD s p sels rn e

theorem EntD.sub {s : SchemaD} {d : Doc} {e : FEntry} (h : EntD s d e) (hs : e.hasSub = true) : SelSet d e.ssid e.sub := by
  obtain ⟨i, sels, p, rn, h1, h3⟩ := h
  exact selSet_sub h1 h3 hs

theorem collF_entD {s : SchemaD} {d : Doc} {g rn : String} {e : FEntry} (h : CollF s d g rn e) : EntD s d e := by
  induction h with
  | here t _ c => exact ⟨_, _, _, _, fragTable_selSet t, c⟩
  | there _ _ _ ih => exact ih

theorem coll_entD {s : SchemaD} {d : Doc} {i : Nat} {sels : List Sel} {p : Option String} {rn : String} {e : FEntry}
    (hs : SelSet d i sels) (h : Coll s d p sels rn e) : EntD s d e := by
  rcases h with h | ⟨g, _, hf⟩
  · exact ⟨_, _, _, _, hs, h⟩
  · exact collF_entD hf

structure OvSim (s : SchemaD) (d d' : Doc) where
  σ : List Sel → List Sel
  φ : String → String
  ρ : String → String
  ε : FEntry → FEntry
  Good : FEntry → Prop
  ρ_inj : ∀ a b, ρ a = ρ b → a = b
  φ_inj : ∀ a b, φ a = φ b → a = b
  sets_fwd : ∀ i sels, SelSet d i sels → SelSet d' i (σ sels)
  sets_bwd : ∀ i sels', SelSet d' i sels' → ∃ sels, SelSet d i sels ∧ sels' = σ sels
  walk : ∀ i p, WalkP s d i p ↔ WalkP s d' i p
  frags_fwd : ∀ g on i sels, AL.get? (fragTable d) g = some (on, i, sels) →
    AL.get? (fragTable d') (φ g) = some (on, i, σ sels)
  frags_bwd : ∀ g' on i sels', AL.get? (fragTable d') g' = some (on, i, sels') →
    ∃ g sels, g' = φ g ∧ sels' = σ sels ∧ AL.get? (fragTable d) g = some (on, i, sels)
  collD_fwd : ∀ i sels, SelSet d i sels → ∀ p rn e, CollD s p sels rn e → CollD s p (σ sels) (ρ rn) (ε e)
  collD_bwd : ∀ i sels, SelSet d i sels → ∀ p rn' e', CollD s p (σ sels) rn' e' →
    ∃ rn e, rn' = ρ rn ∧ e' = ε e ∧ CollD s p sels rn e
  spreadD_fwd : ∀ i sels, SelSet d i sels → ∀ g, SpreadD sels g → SpreadD (σ sels) (φ g)
  spreadD_bwd : ∀ i sels, SelSet d i sels → ∀ g', SpreadD (σ sels) g' → ∃ g, g' = φ g ∧ SpreadD sels g
  good_of : ∀ e, EntD s d e → Good e
  ε_parent : ∀ e, (ε e).parent = e.parent
  ε_name : ∀ e, (ε e).name = e.name
  ε_hasSub : ∀ e, (ε e).hasSub = e.hasSub
  ε_ssid : ∀ e, (ε e).ssid = e.ssid
  ε_fdef : ∀ e, (ε e).fdef = e.fdef
  ε_sub : ∀ e, (ε e).sub = σ e.sub
  ε_args : ∀ e1 e2, Good e1 → Good e2 → sameArguments (ε e1).args (ε e2).args = sameArguments e1.args e2.args

namespace OvSim
variable {s : SchemaD} {d d' : Doc} (S : OvSim s d d')
include S

theorem excl (f1 f2 : FEntry) : exclusiveParents s (S.ε f1) (S.ε f2) = exclusiveParents s f1 f2 := by
  simp only [exclusiveParents, S.ε_parent]

theorem adm_fwd {i : Nat} {p : Option String} (ha : Adm s d i p) : Adm s d' i p := by
  induction ha with
  | walk hm => exact adm_walkP ((S.walk _ _).mp ⟨_, _, hm, rfl⟩)
  | frag ht => exact .frag (S.frags_fwd _ _ _ _ ht)
  | @sub i sels p rn e _ hs hc hsub ih =>
    have h := Adm.sub ih (S.sets_fwd _ _ hs) (S.collD_fwd _ _ hs _ _ _ hc) (by rw [S.ε_hasSub]; exact hsub)
    rw [S.ε_ssid, S.ε_fdef] at h
    exact h

theorem adm_bwd {i : Nat} {p : Option String} (ha : Adm s d' i p) : Adm s d i p := by
  induction ha with
  | walk hm => exact adm_walkP ((S.walk _ _).mpr ⟨_, _, hm, rfl⟩)
  | frag ht =>
    obtain ⟨g, sels, _, _, h⟩ := S.frags_bwd _ _ _ _ ht
    exact .frag h
  | @sub i sels' p rn' e' _ hs hc hsub ih =>
    obtain ⟨sels, hs0, rfl⟩ := S.sets_bwd _ _ hs
    obtain ⟨rn, e, rfl, rfl, hc0⟩ := S.collD_bwd _ _ hs0 _ _ _ hc
    rw [S.ε_hasSub] at hsub
    rw [S.ε_ssid, S.ε_fdef]
    exact .sub ih hs0 hc0 hsub

theorem collF_fwd {g rn : String} {e : FEntry} (hc : CollF s d g rn e) : CollF s d' (S.φ g) (S.ρ rn) (S.ε e) := by
  induction hc with
  | here t a c => exact .here (S.frags_fwd _ _ _ _ t) (S.adm_fwd a) (S.collD_fwd _ _ (fragTable_selSet t) _ _ _ c)
  | there t sp _ ih => exact .there (S.frags_fwd _ _ _ _ t) (S.spreadD_fwd _ _ (fragTable_selSet t) _ sp) ih

theorem collF_bwd {g' rn' : String} {e' : FEntry} (hc : CollF s d' g' rn' e') :
    ∀ g, g' = S.φ g → ∃ rn e, rn' = S.ρ rn ∧ e' = S.ε e ∧ CollF s d g rn e := by
  induction hc with
  | here t a c =>
    intro g hg
    obtain ⟨g0, sels, hg0, rfl, ht⟩ := S.frags_bwd _ _ _ _ t
    have : g0 = g := S.φ_inj _ _ (hg0.symm.trans hg)
    subst this
    obtain ⟨rn, e, rfl, rfl, hc0⟩ := S.collD_bwd _ _ (fragTable_selSet ht) _ _ _ c
    exact ⟨rn, e, rfl, rfl, .here ht (S.adm_bwd a) hc0⟩
  | there t sp _ ih =>
    intro g hg
    obtain ⟨g0, sels, hg0, rfl, ht⟩ := S.frags_bwd _ _ _ _ t
    have : g0 = g := S.φ_inj _ _ (hg0.symm.trans hg)
    subst this
    obtain ⟨h, rfl, hsp⟩ := S.spreadD_bwd _ _ (fragTable_selSet ht) _ sp
    obtain ⟨rn, e, rfl, rfl, hc0⟩ := ih h rfl
    exact ⟨rn, e, rfl, rfl, .there ht hsp hc0⟩

theorem coll_fwd {i : Nat} {sels : List Sel} (hs : SelSet d i sels) {p : Option String} {rn : String} {e : FEntry}
    (hc : Coll s d p sels rn e) : Coll s d' p (S.σ sels) (S.ρ rn) (S.ε e) := by
  rcases hc with hc | ⟨g, sp, hf⟩
  · exact Or.inl (S.collD_fwd _ _ hs _ _ _ hc)
  · exact Or.inr ⟨S.φ g, S.spreadD_fwd _ _ hs _ sp, S.collF_fwd hf⟩

theorem coll_bwd {i : Nat} {sels : List Sel} (hs : SelSet d i sels) {p : Option String} {rn' : String} {e' : FEntry}
    (hc : Coll s d' p (S.σ sels) rn' e') : ∃ rn e, rn' = S.ρ rn ∧ e' = S.ε e ∧ Coll s d p sels rn e := by
  rcases hc with hc | ⟨g', sp, hf⟩
  · obtain ⟨rn, e, h1, h2, h3⟩ := S.collD_bwd _ _ hs _ _ _ hc
    exact ⟨rn, e, h1, h2, Or.inl h3⟩
  · obtain ⟨g, rfl, hsp⟩ := S.spreadD_bwd _ _ hs _ sp
    obtain ⟨rn, e, h1, h2, h3⟩ := S.collF_bwd hf g rfl
    exact ⟨rn, e, h1, h2, Or.inr ⟨g, hsp, h3⟩⟩

theorem conf_fwd {pme : Bool} {f1 f2 : FEntry} (hc : Conf s d pme f1 f2) :
    EntD s d f1 → EntD s d f2 → Conf s d' pme (S.ε f1) (S.ε f2) := by
  induction hc with
  | args h1 h2 =>
    intro g1 g2
    refine .args (by rw [S.excl]; exact h1) ?_
    rw [S.ε_name, S.ε_name, S.ε_args _ _ (S.good_of _ g1) (S.good_of _ g2)]
    exact h2
  | types h1 h2 h3 =>
    intro _ _
    exact .types (by rw [S.ε_fdef]; exact h1) (by rw [S.ε_fdef]; exact h2) h3
  | sub s1 s2 a1 a2 c1 c2 _ ih =>
    intro g1 g2
    have hs1 := g1.sub s1
    have hs2 := g2.sub s2
    have k1 := S.coll_fwd hs1 c1
    have k2 := S.coll_fwd hs2 c2
    rw [← S.ε_sub] at k1 k2
    have a1' := S.adm_fwd a1
    have a2' := S.adm_fwd a2
    rw [← S.ε_ssid] at a1' a2'
    refine .sub (by rw [S.ε_hasSub]; exact s1) (by rw [S.ε_hasSub]; exact s2) a1' a2' k1 k2 ?_
    rw [S.excl]
    exact ih (coll_entD hs1 c1) (coll_entD hs2 c2)
  | subSwap s1 s2 a1 a2 c1 c2 _ ih =>
    intro g1 g2
    have hs1 := g1.sub s1
    have hs2 := g2.sub s2
    have k1 := S.coll_fwd hs1 c1
    have k2 := S.coll_fwd hs2 c2
    rw [← S.ε_sub] at k1 k2
    have a1' := S.adm_fwd a1
    have a2' := S.adm_fwd a2
    rw [← S.ε_ssid] at a1' a2'
    refine .subSwap (by rw [S.ε_hasSub]; exact s1) (by rw [S.ε_hasSub]; exact s2) a1' a2' k1 k2 ?_
    rw [S.excl]
    exact ih (coll_entD hs2 c2) (coll_entD hs1 c1)

theorem conf_bwd {pme : Bool} {f1' f2' : FEntry} (hc : Conf s d' pme f1' f2') :
    ∀ f1 f2, f1' = S.ε f1 → f2' = S.ε f2 → EntD s d f1 → EntD s d f2 → Conf s d pme f1 f2 := by
  induction hc with
  | args h1 h2 =>
    rintro f1 f2 rfl rfl g1 g2
    rw [S.excl] at h1
    rw [S.ε_name, S.ε_name, S.ε_args _ _ (S.good_of _ g1) (S.good_of _ g2)] at h2
    exact .args h1 h2
  | types h1 h2 h3 =>
    rintro f1 f2 rfl rfl _ _
    rw [S.ε_fdef] at h1 h2
    exact .types h1 h2 h3
  | sub s1 s2 a1 a2 c1 c2 _ ih =>
    rintro f1 f2 rfl rfl g1 g2
    rw [S.ε_hasSub] at s1 s2
    rw [S.ε_ssid] at a1 a2
    rw [S.ε_sub] at c1 c2
    have hs1 := g1.sub s1
    have hs2 := g2.sub s2
    obtain ⟨rn1, e1, hr1, rfl, k1⟩ := S.coll_bwd hs1 c1
    obtain ⟨rn2, e2, hr2, rfl, k2⟩ := S.coll_bwd hs2 c2
    have : rn1 = rn2 := S.ρ_inj _ _ (hr1.symm.trans hr2)
    subst this
    rw [S.excl] at ih
    exact .sub s1 s2 (S.adm_bwd a1) (S.adm_bwd a2) k1 k2 (ih e1 e2 rfl rfl (coll_entD hs1 k1) (coll_entD hs2 k2))
  | subSwap s1 s2 a1 a2 c1 c2 _ ih =>
    rintro f1 f2 rfl rfl g1 g2
    rw [S.ε_hasSub] at s1 s2
    rw [S.ε_ssid] at a1 a2
    rw [S.ε_sub] at c1 c2
    have hs1 := g1.sub s1
    have hs2 := g2.sub s2
    obtain ⟨rn1, e1, hr1, rfl, k1⟩ := S.coll_bwd hs1 c1
    obtain ⟨rn2, e2, hr2, rfl, k2⟩ := S.coll_bwd hs2 c2
    have : rn1 = rn2 := S.ρ_inj _ _ (hr1.symm.trans hr2)
    subst this
    rw [S.excl] at ih
    exact .subSwap s1 s2 (S.adm_bwd a1) (S.adm_bwd a2) k1 k2 (ih e2 e1 rfl rfl (coll_entD hs2 k2) (coll_entD hs1 k1))

theorem clause_iff : overlappingFieldsCanBeMerged s d ↔ overlappingFieldsCanBeMerged s d' := by
  constructor
  · intro H i sels' hs' p ha rn' e1' e2' c1 c2 hconf
    obtain ⟨sels, hs, rfl⟩ := S.sets_bwd _ _ hs'
    obtain ⟨rn1, e1, hr1, rfl, k1⟩ := S.coll_bwd hs c1
    obtain ⟨rn2, e2, hr2, rfl, k2⟩ := S.coll_bwd hs c2
    have : rn1 = rn2 := S.ρ_inj _ _ (hr1.symm.trans hr2)
    subst this
    exact H i sels hs p (S.adm_bwd ha) rn1 e1 e2 k1 k2
      (S.conf_bwd hconf e1 e2 rfl rfl (coll_entD hs k1) (coll_entD hs k2))
  · intro H i sels hs p ha rn e1 e2 c1 c2 hconf
    exact H i _ (S.sets_fwd _ _ hs) p (S.adm_fwd ha) _ _ _ (S.coll_fwd hs c1) (S.coll_fwd hs c2)
      (S.conf_fwd hconf (coll_entD hs c1) (coll_entD hs c2))

theorem parentsAgree (hpa : ParentsAgree s d) : ParentsAgree s d' :=
  fun i p q a b => hpa i p q (S.adm_bwd a) (S.adm_bwd b)

theorem parentsAgree_bwd (hpa : ParentsAgree s d') : ParentsAgree s d :=
  fun i p q a b => hpa i p q (S.adm_fwd a) (S.adm_fwd b)

end OvSim
end PyGql.Validate
