/-
  Under `no_location` the matcher of `Spec/Grammar.lean` only looks at token CLASSES (kind and, where the kind carries one,
  the text): two token lists with the same classes are matched by the same items.  (Positions enter `check` only through
  `locOf`, which is `none` under `no_location`.)
-/
import PyGqlModel.Lemmas.ParseCore
namespace PyGql.Spec
open PyGql PyGql.Ast PyGql.Parse

theorem kind_of_cls {t t2 : Tok} (h : cls t2 = cls t) : t2.kind = t.kind := congrArg Prod.fst h

theorem map_cls_cons {ts2 : List Tok} {t : Tok} {tl : List Tok} (e : ts2.map cls = (t :: tl).map cls) :
    ∃ t2 r2, ts2 = t2 :: r2 ∧ cls t2 = cls t ∧ r2.map cls = tl.map cls := by
  cases ts2 with
  | nil => simp at e
  | cons t2 r2 =>
    simp only [List.map_cons, List.cons.injEq] at e
    exact ⟨t2, r2, rfl, e⟩

mutual
theorem check_cls (fl : Flags) (hf : fl.noLocation = true) : ∀ (i : Item) (l l' : Tok) (ts rest : List Tok),
    i.check fl l ts = some (l', rest) → ∀ (l2 : Tok) (ts2 : List Tok), ts2.map cls = ts.map cls →
    ∃ l2' rest2, i.check fl l2 ts2 = some (l2', rest2) ∧ rest2.map cls = rest.map cls
  | .tok k v, l, l', ts, rest, h, l2, ts2, e => by
    rw [check_tok] at h
    obtain ⟨t, rfl, hc, _⟩ := h
    obtain ⟨t2, r2, rfl, e1, e2⟩ := map_cls_cons e
    exact ⟨t2, r2, (check_tok ..).2 ⟨t2, rfl, e1.trans hc, rfl⟩, e2⟩
  | .optTok k v, l, l', ts, rest, h, l2, ts2, e => by
    rw [check_optTok] at h
    rcases h with ⟨t, rfl, hc, _⟩ | ⟨_, rfl, hn⟩
    · obtain ⟨t2, r2, rfl, e1, e2⟩ := map_cls_cons e
      exact ⟨t2, r2, (check_optTok ..).2 (.inl ⟨t2, rfl, e1.trans hc, rfl⟩), e2⟩
    · refine ⟨l2, ts2, (check_optTok ..).2 (.inr ⟨rfl, rfl, ?_⟩), e⟩
      intro t2 tl2 e2
      subst e2
      obtain ⟨t, tl, rfl, e1, _⟩ := map_cls_cons e.symm
      rw [← e1]; exact hn t tl rfl
  | .nla k, l, l', ts, rest, h, l2, ts2, e => by
    rw [check_nla] at h
    obtain ⟨_, rfl, hn⟩ := h
    refine ⟨l2, ts2, (check_nla ..).2 ⟨rfl, rfl, ?_⟩, e⟩
    intro t2 tl2 e2
    subst e2
    obtain ⟨t, tl, rfl, e1, _⟩ := map_cls_cons e.symm
    rw [← kind_of_cls e1]; exact hn t tl rfl
  | .node loc is, l, l', ts, rest, h, l2, ts2, e => by
    rw [check_node] at h
    obtain ⟨f, tl, rfl, hall, hloc⟩ := h
    obtain ⟨l2', rest2, h2, e2⟩ := checkAll_cls fl hf is l l' (f :: tl) rest hall l2 ts2 e
    obtain ⟨f2, tl2, rfl, _⟩ := map_cls_cons e
    refine ⟨l2', rest2, (check_node ..).2 ⟨f2, tl2, rfl, h2, ?_⟩, e2⟩
    rw [hloc]; simp [locOf, hf]
theorem checkAll_cls (fl : Flags) (hf : fl.noLocation = true) : ∀ (is : List Item) (l l' : Tok) (ts rest : List Tok),
    Item.checkAll fl is l ts = some (l', rest) → ∀ (l2 : Tok) (ts2 : List Tok), ts2.map cls = ts.map cls →
    ∃ l2' rest2, Item.checkAll fl is l2 ts2 = some (l2', rest2) ∧ rest2.map cls = rest.map cls
  | [], l, l', ts, rest, h, l2, ts2, e => by
    rw [checkAll_nil] at h
    cases h
    exact ⟨l2, ts2, by simp [Item.checkAll], e⟩
  | i :: is, l, l', ts, rest, h, l2, ts2, e => by
    rw [checkAll_cons] at h
    obtain ⟨l1, ts1, h1, h2⟩ := h
    obtain ⟨m1, r1, a1, e1⟩ := check_cls fl hf i l l1 ts ts1 h1 l2 ts2 e
    obtain ⟨m2, r2, a2, e2⟩ := checkAll_cls fl hf is l1 l' ts1 rest h2 m1 r1 e1
    exact ⟨m2, r2, (checkAll_cons ..).2 ⟨m1, r1, a1, a2⟩, e2⟩
end

end PyGql.Spec
