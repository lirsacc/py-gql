/-
  Every error the lexer model can produce carries a position ≤ n + 1 (n = length of the source),
  and only `NonTerminatedString` can be at n + 1.
  `reader_strict` says that the errors of `reader` are `Inside n`; this holds of every reader but `_read_string`, which
  can run off the end (`Lemmas/LexOpenEscape.lean`: `readStringBody_errs`, and `next_bounded` for `ErrOK n`).
-/
import PyGqlModel.Lemmas.LexStringBody
import PyGqlModel.Lemmas.ExceptBasics

namespace PyGql.Lex

def ErrPos (n : Nat) (e : SynErr) : Prop :=
  e.pos ≤ n ∨ (e.pos = n + 1 ∧ e.kind = .nonTerminatedString)

/-- a reader's error: position as above, and it is a real `GraphQLSyntaxError` subclass (not the model's `fuel`) -/
def ErrOK (n : Nat) (e : SynErr) : Prop := ErrPos n e ∧ e.kind ≠ .fuel

theorem ErrOK.inside {n : Nat} {k : ErrKind} {p : Nat} (h : p ≤ n) (hk : k ≠ .fuel := by decide) : ErrOK n ⟨k, p⟩ :=
  ⟨Or.inl h, hk⟩

/-- an error inside the text: what every reader other than `_read_string` reports -/
def Inside (n : Nat) (e : SynErr) : Prop := e.pos ≤ n ∧ e.kind ≠ .fuel

theorem Inside.errOK {n : Nat} {e : SynErr} (h : Inside n e) : ErrOK n e := ⟨.inl h.1, h.2⟩

theorem inside_end (n : Nat) (k : ErrKind) (hk : k ≠ .fuel := by decide) : Inside n ⟨k, n⟩ := ⟨Nat.le_refl _, hk⟩
theorem inside_posAt (n : Nat) (k : ErrKind) (t : Text) (hk : k ≠ .fuel := by decide) : Inside n ⟨k, posAt n t⟩ :=
  ⟨Nat.sub_le _ _, hk⟩
theorem inside_posAt_pred (n : Nat) (k : ErrKind) (t : Text) (hk : k ≠ .fuel := by decide) :
    Inside n ⟨k, posAt n t - 1⟩ :=
  ⟨Nat.le_trans (Nat.sub_le _ _) (Nat.sub_le _ _), hk⟩
theorem errOK_eof (n : Nat) : ErrOK n ⟨.nonTerminatedString, n + 1⟩ := ⟨Or.inr ⟨rfl, rfl⟩, by simp⟩

abbrev Errs {α} (Q : SynErr → Prop) (r : R α) : Prop := Except.FailsWith Q r

theorem readDots_strict (n k : Nat) (s : Text) : Errs (Inside n) (readDots n k s) := by
  induction k generalizing s with
  | zero => exact .ok _
  | succ k ih =>
    cases s with
    | nil => exact .error (inside_end _ _)
    | cons c t =>
      simp only [readDots]
      split
      · exact ih t
      · exact .error (inside_posAt _ _ _)

theorem readEllipsis_strict (n : Nat) (s : Text) : Errs (Inside n) (readEllipsis n s) := by
  unfold readEllipsis
  split
  · exact (readDots_strict n 3 s).of_error ‹_›
  · exact .ok _

theorem readBlockBody_strict (n k : Nat) (s : Text) : Errs (Inside n) (readBlockBody n k s) := by
  -- cases of `readBlockBody`: 1 end of text; 2/3 inside an escaped `"""` (rest ok / error); 4 the closing `"""`; 5 `\"""`;
  -- 6 a character that is no SourceCharacter; 7/8 any other character (rest ok / error)
  fun_induction readBlockBody n k s
  case case2 | case4 | case7 => exact .ok _
  case case3 ih | case8 ih => exact ih.of_error ‹_›
  case case5 ih => exact ih
  case case1 => exact .error (inside_end _ _)
  case case6 => exact .error (inside_posAt_pred _ _ _)

theorem readBlockString_strict (n : Nat) (s : Text) : Errs (Inside n) (readBlockString n s) := by
  unfold readBlockString
  split
  · exact (readBlockBody_strict n 0 _).of_error ‹_›
  · exact .ok _

theorem readOverDigits_strict (n : Nat) (s : Text) : Errs (Inside n) (readOverDigits n s) := by
  unfold readOverDigits
  split
  · exact .error (inside_end _ _)
  · split
    · exact .ok _
    · exact .error (inside_posAt _ _ _)

theorem readOverInteger_strict (n : Nat) (s : Text) : Errs (Inside n) (readOverInteger n s) := by
  unfold readOverInteger
  split
  · exact .error (inside_end _ _)
  · split
    · split
      · exact .ok _
      · split
        · exact .error (inside_posAt _ _ _)
        · exact .ok _
    · exact readOverDigits_strict _ _

theorem readFraction_strict (n : Nat) (s : Text) : Errs (Inside n) (readFraction n s) := by
  unfold readFraction
  split
  · split
    · exact (readOverDigits_strict _ _).map _
    · exact .ok _
  · exact .ok _

theorem readExponent_strict (n : Nat) (s : Text) : Errs (Inside n) (readExponent n s) := by
  unfold readExponent
  split
  · split
    · exact (readOverDigits_strict _ _).map _
    · exact .ok _
  · exact .ok _

theorem numberLookahead_strict (n : Nat) (s : Text) : Errs (Inside n) (numberLookahead n s) := by
  unfold numberLookahead
  split
  · split
    · exact .error (inside_posAt _ _ _)
    · exact .ok _
  · exact .ok _

theorem readNumber_strict (n : Nat) (s : Text) : Errs (Inside n) (readNumber n s) := by
  unfold readNumber
  refine (readOverInteger_strict _ _).bind fun s2 => ?_
  refine (readFraction_strict _ _).bind fun p1 => ?_
  refine (readExponent_strict _ _).bind fun p2 => ?_
  exact (numberLookahead_strict _ _).bind fun _ => .ok _

/-- `__next__` after the ignored run: the end of the text, a character that is not printable, a one-character
    punctuator, one of the five readers, or a character that starts no token -/
theorem next_cases {n : Nat} {s : Text} {P : R (Tok × Option Text) → Prop}
    (eof : readOverWhitespace false s = [] → P (.ok (eofTok n, none)))
    (bad : ∀ c t, readOverWhitespace false s = c :: t → Lex.isPrintable c = false →
      P (.error ⟨.invalidCharacter, posAt n t⟩))
    (sym : ∀ c t k, readOverWhitespace false s = c :: t → symbolKind c = some k →
      P (.ok (⟨k, posAt n (c :: t), posAt n t, [c]⟩, some t)))
    (read : ∀ c t r, readOverWhitespace false s = c :: t → symbolKind c = none →
      (c = 46 ∧ r = readEllipsis n (c :: t)) ∨ (tq.isPrefixOf (c :: t) = true ∧ r = readBlockString n (c :: t)) ∨
        (c = 34 ∧ tq.isPrefixOf (c :: t) = false ∧ r = readString n (c :: t)) ∨
        ((decide (c = 45) || isDigit c) = true ∧ r = readNumber n (c :: t)) ∨
        (isNameStart c = true ∧ r = .ok (readName n (c :: t))) →
      P (r.map fun p => (p.1, some p.2)))
    (other : ∀ c t, readOverWhitespace false s = c :: t → P (.error ⟨.unexpectedCharacter, posAt n (c :: t)⟩)) :
    P (next n s) := by
  unfold next
  cases hw : readOverWhitespace false s with
  | nil => exact eof hw
  | cons c t =>
    simp only
    cases hp : Lex.isPrintable c with
    | false => exact bad c t hw hp
    | true =>
      cases hk : symbolKind c with
      | some k => exact sym c t k hw hk
      | none =>
        simp only [Bool.not_true, Bool.false_eq_true, ↓reduceIte]
        have read := fun r => read c t r hw hk
        by_cases h46 : c = 46
        · rw [if_pos h46]
          exact read _ (.inl ⟨h46, rfl⟩)
        rw [if_neg h46]
        cases htq : tq.isPrefixOf (c :: t) with
        | true => exact read _ (.inr (.inl ⟨htq, rfl⟩))
        | false =>
          simp only [Bool.false_eq_true, ↓reduceIte]
          by_cases h34 : c = 34
          · rw [if_pos h34]
            exact read _ (.inr (.inr (.inl ⟨h34, htq, rfl⟩)))
          rw [if_neg h34]
          cases hnum : (decide (c = 45) || isDigit c) with
          | true => exact read _ (.inr (.inr (.inr (.inl ⟨hnum, rfl⟩))))
          | false =>
            simp only [Bool.false_eq_true, ↓reduceIte]
            cases hname : isNameStart c with
            | true => exact read _ (.inr (.inr (.inr (.inr ⟨hname, rfl⟩))))
            | false => exact other c t hw

theorem next_errs {n : Nat} {s : Text} {Q : SynErr → Prop} (hin : ∀ e, Inside n e → Q e)
    (hstr : ∀ t, readOverWhitespace false s = 34 :: t → Errs Q (readString n (34 :: t))) : Errs Q (next n s) := by
  refine next_cases (fun _ => .ok _) (fun c t _ _ => .error (hin _ (inside_posAt _ _ _))) (fun _ _ _ _ _ => .ok _)
    (fun c t r hw _ hr => Except.FailsWith.map _ ?_) (fun c t _ => .error (hin _ (inside_posAt _ _ _)))
  rcases hr with ⟨_, rfl⟩ | ⟨_, rfl⟩ | ⟨rfl, _, rfl⟩ | ⟨_, rfl⟩ | ⟨_, rfl⟩
  · exact (readEllipsis_strict _ _).mono hin
  · exact (readBlockString_strict _ _).mono hin
  · exact hstr t hw
  · exact (readNumber_strict _ _).mono hin
  · exact .ok _

end PyGql.Lex
