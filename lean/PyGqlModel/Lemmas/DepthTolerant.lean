/-
  C19 — a lenient evaluation of `@skip/@include` on a document = the strict evaluation on the document in which the
  directives that CANNOT be evaluated are dropped. First for any map on directives (`mapDirsL e`), then for the tolerant
  hook `_skip_unless_unknown` (C19-Q1vars2.patch; `eraseL`): simulation through `collect_fields_untyped`,
  `_nesting_levels` and `_selected_paths`.
-/
import PyGqlModel.Lemmas.DepthAcyclic

namespace PyGql.Depth.Lemmas
open PyGql.Depth PyGql.DepthSpec

/-! ### rewriting the directives of a document

  Every lenient hook is the strict `_skip_selection` after some directives have been dropped; which ones is a function
  `e` on `Dirs` (`eraseD` here, `Sep.eraseD` for the hook of C19-H4). `mapDirsL e` applies `e` to every directive of a
  selection list. The lemmas speak of a map `L` on selection lists with `hL : L = mapDirsL e`, so that they apply as
  they stand to a function written out by its own recursion (`eraseL`), and to what is built from it by `mapFld`,
  `mapG`, `mapFrags` … (`eraseFld`, `eraseG`, `eraseFrags` … unfold to these). -/

mutual
def mapDirsSel (e : Dirs → Dirs) : Sel → Sel
  | .field a n d sub => .field a n (e d) (mapDirsL e sub)
  | .inline d ss => .inline (e d) (mapDirsL e ss)
  | .spread n d => .spread n (e d)
def mapDirsL (e : Dirs → Dirs) : List Sel → List Sel
  | [] => []
  | s :: ss => mapDirsSel e s :: mapDirsL e ss
end

section
variable (L : List Sel → List Sel)

def mapFld (f : Fld) : Fld := ⟨f.alias, f.name, L f.sub⟩
def mapG (G : Grouped) : Grouped := G.map fun kv => (kv.1, kv.2.map (mapFld L))
def mapFrag (f : Frag) : Frag := ⟨f.name, L f.sels⟩
def mapFrags (frags : List Frag) : List Frag := frags.map (mapFrag L)
def mapOp (op : Op) : Op := ⟨op.name, L op.sels⟩
def mapDoc (doc : Doc) : Doc := ⟨doc.ops.map (mapOp L), mapFrags L doc.frags⟩

def mapSt : Except Err CState → Except Err CState
  | .error e => .error e
  | .ok (g, s) => .ok (mapG L g, s)

theorem mapG_extendKey (G : Grouped) (key : String) (fs : List Fld) :
    mapG L (extendKey G key fs) = extendKey (mapG L G) key (fs.map (mapFld L)) := by
  induction G with
  | nil => rfl
  | cons kv rest ih =>
    obtain ⟨k, xs⟩ := kv
    simp only [extendKey, mapG, List.map_cons] at ih ⊢
    split
    · simp [List.map_append]
    · simp [ih]

theorem mapG_merge (g into : Grouped) : mapG L (merge g into) = merge (mapG L g) (mapG L into) := by
  unfold merge
  induction g generalizing into with
  | nil => rfl
  | cons kv rest ih =>
    simp only [List.foldl_cons]
    rw [ih, mapG_extendKey]
    rfl

theorem lookupFrag_map (frags : List Frag) (n : String) :
    lookupFrag (mapFrags L frags) n = (lookupFrag frags n).map (mapFrag L) := by
  unfold lookupFrag mapFrags
  rw [← List.map_reverse]
  induction frags.reverse with
  | nil => rfl
  | cons f fs ih =>
    simp only [List.map_cons, List.find?_cons]
    have : (mapFrag L f).name = f.name := rfl
    rw [this]
    cases f.name == n <;> simp [ih]

def mapAsk : Ask → Ask
  | .nothing => .nothing
  | .fld f => .fld (mapFld L f)
  | .call b m => .call (L b) m

theorem answer_map (rec recE : List Sel → List String → Except Err CState)
    (hrec : ∀ ss sn, recE (L ss) sn = mapSt L (rec ss sn)) (G : Grouped) (S : List String) (a : Ask) :
    answer recE (mapG L G, S) (mapAsk L a) = mapSt L (answer rec (G, S) a) := by
  cases a with
  | nothing => rfl
  | fld f => simp only [mapAsk, answer, mapSt, mapG_extendKey, List.map_cons, List.map_nil, mapFld]
  | call b m =>
    simp only [mapAsk, answer, hrec]
    cases rec b S with
    | error x => rfl
    | ok r => simp only [mapSt, mapG_merge]

theorem guarded_map (r : Except Err Bool) (G : Grouped) (S : List String) (k : Except Err CState) :
    guarded r (mapG L G, S) (mapSt L k) = mapSt L (guarded r (G, S) k) := by
  cases r with
  | error x => rfl
  | ok b => cases b <;> rfl

end

theorem mapDirsL_cons (e : Dirs → Dirs) (s ss) : mapDirsL e (s :: ss) = mapDirsSel e s :: mapDirsL e ss := by
  rw [mapDirsL]

theorem mapDirsL_append (e : Dirs → Dirs) (a b : List Sel) : mapDirsL e (a ++ b) = mapDirsL e a ++ mapDirsL e b := by
  induction a with
  | nil => rfl
  | cons x xs ih => rw [List.cons_append, mapDirsL_cons, mapDirsL_cons, ih, List.cons_append]

theorem dirs_map (e : Dirs → Dirs) (s : Sel) : (mapDirsSel e s).dirs = e s.dirs := by
  cases s <;> rfl

section
variable {L : List Sel → List Sel} {e : Dirs → Dirs} (hL : L = mapDirsL e)
include hL

theorem flatMap_sub_map (fs : List Fld) : (fs.map (mapFld L)).flatMap (·.sub) = L (fs.flatMap (·.sub)) := by
  subst hL
  induction fs with
  | nil => rfl
  | cons f rest ih => simp only [List.map_cons, List.flatMap_cons, mapDirsL_append, ih, mapFld]

theorem ask_map (frags : List Frag) (S : List String) (s : Sel) :
    ask (mapFrags L frags) S (mapDirsSel e s) = mapAsk L (ask frags S s) := by
  subst hL
  cases s with
  | field a n d sub => rfl
  | inline d ss => rfl
  | spread n d =>
    simp only [mapDirsSel, ask, lookupFrag_map]
    cases S.contains n with
    | true => rfl
    | false => cases lookupFrag frags n <;> rfl

variable {vars : Vars} {skipA : Dirs → Vars → Except Err Bool} (hsk : ∀ d, skipA d vars = skipSelection (e d) vars)
  (frags : List Frag)
include hsk

theorem step_sim (rec recE : List Sel → List String → Except Err CState)
    (hrec : ∀ ss sn, recE (L ss) sn = mapSt L (rec ss sn)) (G : Grouped) (S : List String) (s : Sel) :
    collectStep recE (mapFrags L frags) vars (mapG L G, S) (mapDirsSel e s) =
      mapSt L (collectStepG skipA rec frags vars (G, S) s) := by
  rw [collectStep_eq_G, collectStepG_eq, collectStepG_eq, ask_map hL, answer_map L rec recE hrec, guarded_map,
    dirs_map, hsk]

theorem loop_sim (rec recE : List Sel → List String → Except Err CState)
    (hrec : ∀ ss sn, recE (L ss) sn = mapSt L (rec ss sn)) :
    ∀ (sels : List Sel) (G : Grouped) (S : List String),
      loopM (collectStep recE (mapFrags L frags) vars) (mapG L G, S) (L sels) =
        mapSt L (loopM (collectStepG skipA rec frags vars) (G, S) sels) := by
  intro sels
  induction sels with
  | nil => intro G S; subst hL; rfl
  | cons s ss ih =>
    intro G S
    have hc : L (s :: ss) = mapDirsSel e s :: L ss := by subst hL; rfl
    simp only [hc, loopM, step_sim hL hsk frags rec recE hrec G S s]
    cases collectStepG skipA rec frags vars (G, S) s with
    | error x => rfl
    | ok st => exact ih st.1 st.2

theorem collect_mapDirs : ∀ (k : Nat) (sels : List Sel) (seen : List String),
    collectFieldsUntyped k (L sels) (mapFrags L frags) vars seen =
      mapSt L (collectFieldsUntypedG skipA k sels frags vars seen) := by
  intro k
  induction k with
  | zero => intro sels seen; rfl
  | succ k ih => intro sels seen; exact loop_sim hL hsk frags _ _ ih sels [] seen

omit hsk in
theorem levelsLoop_sim (rec recE : List Sel → Except Err Nat) (hrec : ∀ ss, recE (L ss) = rec ss) :
    ∀ (G : Grouped) (lv : Nat), levelsLoop recE lv (mapG L G) = levelsLoop rec lv G := by
  intro G
  induction G with
  | nil => intro lv; rfl
  | cons kv rest ih =>
    intro lv
    simp only [mapG, List.map_cons, levelsLoop, flatMap_sub_map hL, hrec] at ih ⊢
    cases rec (kv.2.flatMap (·.sub)) with
    | error x => rfl
    | ok n => exact ih _

theorem nestingLevels_mapDirs : ∀ (k : Nat) (sels : List Sel),
    nestingLevels k (L sels) (mapFrags L frags) vars = nestingLevelsG skipA k sels frags vars := by
  intro k
  induction k with
  | zero => intro sels; rfl
  | succ k ih =>
    intro sels
    simp only [nestingLevels, nestingLevelsG, collect_mapDirs hL hsk frags (k + 1) sels []]
    cases collectFieldsUntypedG skipA (k + 1) sels frags vars [] with
    | error x => rfl
    | ok r => exact levelsLoop_sim hL _ _ ih r.1 0

end

theorem pot_potL_mapDirs (e : Dirs → Dirs) (w : String → Nat) :
    (∀ s, pot w (mapDirsSel e s) = pot w s) ∧ ∀ l, potL w (mapDirsL e l) = potL w l := by
  refine sel_induction ?_ ?_ ?_ rfl ?_
  · intro a n d sub ih; rw [mapDirsSel, pot_field, pot_field, ih]
  · intro d ss ih; rw [mapDirsSel, pot_inline, pot_inline, ih]
  · intro n d; rw [mapDirsSel, pot_spread, pot_spread]
  · intro s ss h1 h2; rw [mapDirsL_cons, potL_cons, potL_cons, h1, h2]

theorem pot_mapDirs (e : Dirs → Dirs) (w : String → Nat) (s : Sel) : pot w (mapDirsSel e s) = pot w s :=
  (pot_potL_mapDirs e w).1 s

theorem potL_mapDirs (e : Dirs → Dirs) (w : String → Nat) (l : List Sel) : potL w (mapDirsL e l) = potL w l :=
  (pot_potL_mapDirs e w).2 l

section
variable {L : List Sel → List Sel} {e : Dirs → Dirs} (hL : L = mapDirsL e)
include hL

theorem weights_map (frags : List Frag) : weights (mapFrags L frags) = weights frags := by
  subst hL
  have hs : weightStep (mapFrags (mapDirsL e) frags) = weightStep frags := by
    funext tbl
    simp only [weightStep, mapFrags, mapFrag, List.map_map, Function.comp_def, potL_mapDirs]
  unfold weights
  rw [hs, mapFrags, List.length_map]

theorem acyclic_map (frags : List Frag) : acyclic (mapFrags L frags) = acyclic frags := by
  unfold acyclic
  rw [weights_map hL]
  subst hL
  simp only [mapFrags, mapFrag, List.all_map, potL_mapDirs, Function.comp_def]

theorem fuel_map (doc : Doc) : (mapDoc L doc).fuel = doc.fuel := by
  unfold Doc.fuel mapDoc
  rw [weights_map hL]
  subst hL
  simp only [mapOp, potL_mapDirs, List.map_map, Function.comp_def]

end

theorem bound_mapDirs {vars : Vars} {e : Dirs → Dirs} (he : ∀ d, dirsBound vars (e d) = true) :
    (∀ s, boundSel vars (mapDirsSel e s) = true) ∧ ∀ l, boundL vars (mapDirsL e l) = true := by
  refine sel_induction ?_ ?_ ?_ rfl ?_
  · intro a n d sub ih; rw [mapDirsSel, boundSel, he, ih]; rfl
  · intro d ss ih; rw [mapDirsSel, boundSel, he, ih]; rfl
  · intro n d; rw [mapDirsSel, boundSel, he]
  · intro s ss h1 h2; rw [mapDirsL_cons, boundL_cons, h1, h2]; rfl

theorem boundSel_mapDirs {vars : Vars} {e : Dirs → Dirs} (he : ∀ d, dirsBound vars (e d) = true) (s : Sel) :
    boundSel vars (mapDirsSel e s) = true := (bound_mapDirs he).1 s

theorem boundL_mapDirs {vars : Vars} {e : Dirs → Dirs} (he : ∀ d, dirsBound vars (e d) = true) (l : List Sel) :
    boundL vars (mapDirsL e l) = true := (bound_mapDirs he).2 l

theorem mapDirs_id {vars : Vars} {e : Dirs → Dirs} (he : ∀ d, dirsBound vars d = true → e d = d) :
    (∀ s, boundSel vars s = true → mapDirsSel e s = s) ∧ ∀ l, boundL vars l = true → mapDirsL e l = l := by
  refine sel_induction ?_ ?_ ?_ (fun _ => rfl) ?_
  · intro a n d sub ih h
    simp only [boundSel, Bool.and_eq_true] at h
    rw [mapDirsSel, he d h.1, ih h.2]
  · intro d ss ih h
    simp only [boundSel, Bool.and_eq_true] at h
    rw [mapDirsSel, he d h.1, ih h.2]
  · intro n d h
    simp only [boundSel] at h
    rw [mapDirsSel, he d h]
  · intro s ss h1 h2 h
    simp only [boundL_cons, Bool.and_eq_true] at h
    rw [mapDirsL_cons, h1 h.1, h2 h.2]

theorem mapDirsSel_id {vars : Vars} {e : Dirs → Dirs} (he : ∀ d, dirsBound vars d = true → e d = d) (s : Sel) :
    boundSel vars s = true → mapDirsSel e s = s := (mapDirs_id he).1 s

theorem mapDirsL_id {vars : Vars} {e : Dirs → Dirs} (he : ∀ d, dirsBound vars d = true → e d = d) (l : List Sel) :
    boundL vars l = true → mapDirsL e l = l := (mapDirs_id he).2 l

/-- `_skip_unless_unknown` as a map on directives: when one of the two conditions cannot be evaluated with `vars`, BOTH
    directives are dropped (the selection is kept) -/
def eraseD (vars : Vars) (d : Dirs) : Dirs := if dirsBound vars d then d else {}

mutual
def eraseSel (vars : Vars) : Sel → Sel
  | .field a n d sub => .field a n (eraseD vars d) (eraseL vars sub)
  | .inline d ss => .inline (eraseD vars d) (eraseL vars ss)
  | .spread n d => .spread n (eraseD vars d)
def eraseL (vars : Vars) : List Sel → List Sel
  | [] => []
  | s :: ss => eraseSel vars s :: eraseL vars ss
end

def eraseFld (vars : Vars) (f : Fld) : Fld := ⟨f.alias, f.name, eraseL vars f.sub⟩
def eraseG (vars : Vars) (G : Grouped) : Grouped := G.map fun kv => (kv.1, kv.2.map (eraseFld vars))
def eraseFrag (vars : Vars) (f : Frag) : Frag := ⟨f.name, eraseL vars f.sels⟩
def eraseFrags (vars : Vars) (frags : List Frag) : List Frag := frags.map (eraseFrag vars)
def eraseOp (vars : Vars) (op : Op) : Op := ⟨op.name, eraseL vars op.sels⟩
def eraseDoc (vars : Vars) (doc : Doc) : Doc := ⟨doc.ops.map (eraseOp vars), eraseFrags vars doc.frags⟩

def eraseSt (vars : Vars) (r : Except Err CState) : Except Err CState :=
  match r with
  | .error e => .error e
  | .ok (g, s) => .ok (eraseG vars g, s)

theorem erase_mapDirs (vars : Vars) :
    (∀ s, eraseSel vars s = mapDirsSel (eraseD vars) s) ∧ ∀ l, eraseL vars l = mapDirsL (eraseD vars) l := by
  refine sel_induction ?_ ?_ ?_ rfl ?_
  · intro a n d sub ih; rw [eraseSel, mapDirsSel, ih]
  · intro d ss ih; rw [eraseSel, mapDirsSel, ih]
  · intro n d; rw [eraseSel, mapDirsSel]
  · intro s ss h1 h2; rw [eraseL, mapDirsL, h1, h2]

theorem eraseSel_mapDirs (vars : Vars) (s : Sel) : eraseSel vars s = mapDirsSel (eraseD vars) s := (erase_mapDirs vars).1 s

theorem eraseL_mapDirs (vars : Vars) : eraseL vars = mapDirsL (eraseD vars) := funext (erase_mapDirs vars).2

theorem eraseL_cons (vars : Vars) (s ss) : eraseL vars (s :: ss) = eraseSel vars s :: eraseL vars ss := by
  rw [eraseL]

theorem eraseL_append (vars : Vars) (a b : List Sel) : eraseL vars (a ++ b) = eraseL vars a ++ eraseL vars b := by
  rw [eraseL_mapDirs]
  exact mapDirsL_append _ a b

theorem eraseL_eq_map (vars : Vars) (l : List Sel) : eraseL vars l = l.map (eraseSel vars) := by
  induction l with
  | nil => simp [eraseL]
  | cons x xs ih => simp [eraseL_cons, ih]

theorem evalOpt_err {vars : Vars} {o : Option Cond} (h : optBound vars o = false) : ∃ e, evalOpt vars o = .error e := by
  cases o with
  | none => simp [optBound] at h
  | some c =>
    cases c with
    | lit b => simp [optBound, condBound] at h
    | var n =>
      simp only [optBound, condBound] at h
      cases hl : vars.lookup n with
      | none => exact ⟨.coercion, by simp [evalOpt, evalCond, hl]⟩
      | some b => simp [hl] at h

theorem skipSelection_err {vars : Vars} {d : Dirs} (h : dirsBound vars d = false) :
    ∃ e, skipSelection d vars = .error e := by
  simp only [dirsBound, Bool.and_eq_false_iff] at h
  by_cases h1 : optBound vars d.skip = true
  · have h2 : optBound vars d.incl = false := by
      rcases h with h | h
      · rw [h1] at h; cases h
      · exact h
    obtain ⟨e, he⟩ := evalOpt_err h2
    exact ⟨e, by simp [skipSelection, evalOpt_ok vars _ h1, he]⟩
  · have h1' : optBound vars d.skip = false := by simpa using h1
    obtain ⟨e, he⟩ := evalOpt_err h1'
    exact ⟨e, by simp [skipSelection, he]⟩

theorem dirsBound_erase (vars : Vars) (d : Dirs) : dirsBound vars (eraseD vars d) = true := by
  unfold eraseD
  split
  · assumption
  · rfl

theorem eraseD_id (vars : Vars) (d : Dirs) (h : dirsBound vars d = true) : eraseD vars d = d := if_pos h

theorem skipT_eq (vars : Vars) (d : Dirs) : skipSelectionT d vars = skipSelection (eraseD vars d) vars := by
  cases hb : dirsBound vars d with
  | true => simp [skipSelectionT, eraseD, hb, skipSelection_ok vars d hb]
  | false =>
    obtain ⟨e, he⟩ := skipSelection_err hb
    have h1 : skipSelectionT d vars = .ok false := by simp only [skipSelectionT, he]
    have h2 : eraseD vars d = {} := by simp [eraseD, hb]
    rw [h1, h2]
    rfl

theorem flatMap_sub_erase (vars : Vars) (fs : List Fld) :
    (fs.map (eraseFld vars)).flatMap (·.sub) = eraseL vars (fs.flatMap (·.sub)) :=
  flatMap_sub_map (eraseL_mapDirs vars) fs

theorem collect_sim (vars : Vars) (frags : List Frag) :
    ∀ (k : Nat) (sels : List Sel) (seen : List String),
      collectFieldsUntyped k (eraseL vars sels) (eraseFrags vars frags) vars seen =
        eraseSt vars (collectFieldsUntypedG skipSelectionT k sels frags vars seen) :=
  collect_mapDirs (eraseL_mapDirs vars) (skipT_eq vars) frags

theorem nestingLevels_sim (vars : Vars) (frags : List Frag) :
    ∀ (k : Nat) (sels : List Sel),
      nestingLevels k (eraseL vars sels) (eraseFrags vars frags) vars =
        nestingLevelsG skipSelectionT k sels frags vars :=
  nestingLevels_mapDirs (eraseL_mapDirs vars) (skipT_eq vars) frags

theorem potL_erase (vars : Vars) (w : String → Nat) (l : List Sel) : potL w (eraseL vars l) = potL w l := by
  rw [eraseL_mapDirs]
  exact potL_mapDirs _ w l

theorem pot_erase (vars : Vars) (w : String → Nat) : ∀ s : Sel, pot w (eraseSel vars s) = pot w s := by
  intro s
  rw [eraseSel_mapDirs]
  exact pot_mapDirs _ w s

theorem boundL_erase (vars : Vars) (l : List Sel) : boundL vars (eraseL vars l) = true := by
  rw [eraseL_mapDirs]
  exact boundL_mapDirs (dirsBound_erase vars) l

theorem boundSel_erase (vars : Vars) : ∀ s : Sel, boundSel vars (eraseSel vars s) = true := by
  intro s
  rw [eraseSel_mapDirs]
  exact boundSel_mapDirs (dirsBound_erase vars) s

theorem eraseL_id (vars : Vars) (l : List Sel) (h : boundL vars l = true) : eraseL vars l = l := by
  rw [eraseL_mapDirs]
  exact mapDirsL_id (eraseD_id vars) l h

theorem eraseSel_id (vars : Vars) : ∀ s : Sel, boundSel vars s = true → eraseSel vars s = s := by
  intro s h
  rw [eraseSel_mapDirs]
  exact mapDirsSel_id (eraseD_id vars) s h

theorem weights_erase (vars : Vars) (frags : List Frag) : weights (eraseFrags vars frags) = weights frags :=
  weights_map (eraseL_mapDirs vars) frags

theorem acyclic_erase (vars : Vars) (frags : List Frag) : acyclic (eraseFrags vars frags) = acyclic frags :=
  acyclic_map (eraseL_mapDirs vars) frags

theorem fuel_erase (vars : Vars) (doc : Doc) : (eraseDoc vars doc).fuel = doc.fuel :=
  fuel_map (eraseL_mapDirs vars) doc

theorem pathsLoop_sim (vars : Vars) (md : Nat) (pat : List String → Bool) (path : List String)
    (rec recE : List Sel → List String → Except Err (List (List String)))
    (hrec : ∀ ss p, recE (eraseL vars ss) p = rec ss p) :
    ∀ (G : Grouped) (acc : List (List String)),
      pathsLoop recE md pat path acc (eraseG vars G) = pathsLoop rec md pat path acc G := by
  intro G
  induction G with
  | nil => intro acc; rfl
  | cons kv rest ih =>
    intro acc
    obtain ⟨k, fs⟩ := kv
    cases fs with
    | nil => rfl
    | cons child more =>
      have hg : eraseG vars ((k, child :: more) :: rest) =
          (k, eraseFld vars child :: more.map (eraseFld vars)) :: eraseG vars rest := rfl
      have hsub : (eraseFld vars child :: more.map (eraseFld vars)).flatMap (·.sub) =
          eraseL vars ((child :: more).flatMap (·.sub)) := flatMap_sub_erase vars (child :: more)
      have hn : (eraseFld vars child).name = child.name := rfl
      -- both sides unfold to the same tests; the recursive calls agree by `hrec`, the rest of the loop by `ih`
      simp only [hg, pathsLoop, hsub, hn, hrec, ih]

theorem selectedPaths_sim (vars : Vars) (frags : List Frag) (md : Nat) (pat : List String → Bool) :
    ∀ (k : Nat) (sels : List Sel) (path : List String),
      selectedPaths k (eraseL vars sels) (eraseFrags vars frags) vars md pat path =
        selectedPathsG skipSelectionT k sels frags vars md pat path := by
  intro k
  induction k with
  | zero => intro sels path; rfl
  | succ k ih =>
    intro sels path
    simp only [selectedPaths, selectedPathsG, collect_sim vars frags (k + 1) sels []]
    cases collectFieldsUntypedG skipSelectionT (k + 1) sels frags vars [] with
    | error e => rfl
    | ok r => exact pathsLoop_sim vars md pat path _ _ ih r.1 []

theorem eraseL_nil_iff (vars : Vars) (l : List Sel) : eraseL vars l = [] ↔ l = [] := by
  cases l <;> simp [eraseL]

theorem selectedFields_sim (vars : Vars) (frags : List Frag) (md : Nat) (pat : List String → Bool)
    (k : Nat) (sub : List Sel) (path : List String) :
    selectedFields k (eraseL vars sub) (eraseFrags vars frags) vars md pat path =
      selectedFieldsG skipSelectionT k sub frags vars md pat path := by
  cases sub with
  | nil => simp [selectedFields, selectedFieldsG, eraseL]
  | cons s ss =>
    simp only [selectedFields, selectedFieldsG, eraseL_cons]
    exact selectedPaths_sim vars frags md pat k (s :: ss) path

end PyGql.Depth.Lemmas
