/-
  `no_location` only erases positions: every parser function under `{fl with noLocation := true}` is the same
  function followed by `erase` (simulation; the control flow never looks at a `loc`).  The proof for a function
  walks its `do` block, one rule of `Sim` per step.
-/
import PyGqlModel.Erase
import PyGqlModel.Lemmas.ParseExecL
namespace PyGql.Parse
open PyGql PyGql.Ast PyGql.Spec

def E (fl : Flags) : Flags := { fl with noLocation := true }

theorem E_fv (fl : Flags) : (E fl).experimentalFragmentVariables = fl.experimentalFragmentVariables := rfl
theorem E_ts (fl : Flags) : (E fl).allowTypeSystem = fl.allowTypeSystem := rfl

theorem mkLoc_E (fl : Flags) (st : Tok) : mkLoc (E fl) st = (mkLoc fl st >>= fun _ => pure none) := by
  funext s; simp [mkLoc, bind_eq, pure_eq, locOf, E]

theorem fail_bind {α β} (msg : String) (f : α → P β) : (fail msg : P α) >>= f = fail msg := by
  funext s
  rcases s with ⟨_ | ⟨t, ts⟩, l⟩ <;> rfl

theorem failAt_bind {α β} (t : Tok) (msg : String) (f : α → P β) : (failAt t msg : P α) >>= f = failAt t msg := by
  funext s; rfl

theorem failTokAt_bind {α β} (t : Tok) (msg : String) (f : α → P β) :
    (failTokAt t msg : P α) >>= f = failTokAt t msg := by
  funext s; rfl

theorem bind_assoc' {α β γ} (m : P α) (f : α → P β) (g : β → P γ) :
    (m >>= f) >>= g = m >>= fun a => f a >>= g := by
  funext s
  simp only [bind_eq]
  cases h : m s with
  | error e => rfl
  | ok r => rcases r with ⟨a, s1⟩; rfl

theorem pure_bind' {α β} (a : α) (f : α → P β) : (pure a : P α) >>= f = f a := by
  funext s; rfl

theorem bind_pure'' {α} (p : P α) : (p >>= fun a => pure a) = p := by
  funext s; simp only [bind_eq]
  cases h : p s with
  | error e => rfl
  | ok r => rcases r with ⟨a, s1⟩; rfl

def Sim {α β} (e : α → β) (p : P α) (q : P β) : Prop := q = p >>= fun a => pure (e a)

section
variable {fl : Flags} {α β γ δ : Type}

theorem Sim.bind {e : α → β} {e' : γ → δ} {p : P α} {q : P β} {f : α → P γ} {g : β → P δ}
    (hp : Sim e p q) (hf : ∀ a, Sim e' (f a) (g (e a))) : Sim e' (p >>= f) (q >>= g) := by
  unfold Sim at hp
  subst hp
  rw [Sim, bind_assoc', bind_assoc']
  congr 1
  funext a
  rw [pure_bind']
  exact hf a

/-- a step that only reads tokens -/
theorem Sim.same {e' : γ → δ} {p : P α} {f : α → P γ} {g : α → P δ}
    (hf : ∀ a, Sim e' (f a) (g a)) : Sim e' (p >>= f) (p >>= g) :=
  .bind (e := id) (bind_pure'' p).symm hf

theorem Sim.ret {e : α → β} {a : α} {b : β} (h : e a = b) : Sim e (pure a) (pure b) := by
  rw [Sim, pure_bind', h]

/-- the end of a node: `_loc(start)` is `None` under `no_location` -/
theorem Sim.loc {e : α → β} {st : Tok} {mk : Loc → α} {mk' : Loc → β} (h : ∀ loc, e (mk loc) = mk' none) :
    Sim e (mkLoc fl st >>= fun loc => pure (mk loc)) (mkLoc (E fl) st >>= fun loc => pure (mk' loc)) :=
  .bind (mkLoc_E fl st) fun loc => .ret (h loc)

theorem Sim.iteIff {e : α → β} {c c' : Prop} [Decidable c] [Decidable c'] {p p' : P α} {q q' : P β} (hc : c' ↔ c)
    (h : Sim e p q) (h' : Sim e p' q') : Sim e (if c then p else p') (if c' then q else q') := by
  by_cases hp : c
  · rw [if_pos hp, if_pos (hc.2 hp)]
    exact h
  · rw [if_neg hp, if_neg (mt hc.1 hp)]
    exact h'

theorem Sim.ite {e : α → β} {c : Prop} [Decidable c] {p p' : P α} {q q' : P β} (h : Sim e p q) (h' : Sim e p' q') :
    Sim e (if c then p else p') (if c then q else q') :=
  .iteIff Iff.rfl h h'

theorem Sim.opt {e : α → β} {c : Prop} [Decidable c] {p : P α} {q : P β} (h : Sim e p q) :
    Sim (Option.map e) (if c then p >>= fun a => pure (some a) else pure none)
      (if c then q >>= fun b => pure (some b) else pure none) :=
  .ite (.bind h fun _ => .ret rfl) (.ret rfl)

theorem Sim.failed {e : α → β} {msg : String} : Sim e (fail msg) (fail msg) := (fail_bind ..).symm

theorem Sim.failedAt {e : α → β} {t : Tok} {msg : String} : Sim e (failAt t msg) (failAt t msg) := (failAt_bind ..).symm

theorem Sim.failedTokAt {e : α → β} {t : Tok} {msg : String} : Sim e (failTokAt t msg) (failTokAt t msg) :=
  (failTokAt_bind ..).symm

end

section
variable {α β : Type} {e : α → β} {p : P α} {q : P β} {n : Nat} {opn close : TokKind}

theorem manyLoop_E (h : Sim e p q) : Sim (List.map e) (manyLoop p close n) (manyLoop q close n) := by
  induction n with
  | zero => exact .failed
  | succ n ih => exact .bind h fun _ => .same fun _ => .ite (.ret rfl) (.bind ih fun _ => .ret rfl)

theorem many_E (h : Sim e p q) : Sim (List.map e) (many n opn p close) (many n opn q close) :=
  .same fun _ => manyLoop_E h

theorem optMany_E (h : Sim e p q) : Sim (List.map e) (optMany n opn p close) (optMany n opn q close) :=
  .same fun _ => .ite (many_E h) (.ret rfl)

theorem anyLoop_E (h : Sim e p q) : Sim (List.map e) (anyLoop p close n) (anyLoop q close n) := by
  induction n with
  | zero => exact .failed
  | succ n ih => exact .same fun _ => .ite (.ret rfl) (.bind h fun _ => .bind ih fun _ => .ret rfl)

theorem any_E (h : Sim e p q) : Sim (List.map e) (any_ n opn p close) (any_ n opn q close) :=
  .same fun _ => anyLoop_E h

theorem delimLoop_E (h : Sim e p q) : Sim (List.map e) (delimLoop p close n) (delimLoop q close n) := by
  induction n with
  | zero => exact .failed
  | succ n ih => exact .bind h fun _ => .same fun _ => .ite (.bind ih fun _ => .ret rfl) (.ret rfl)

theorem delimitedList_E (h : Sim e p q) : Sim (List.map e) (delimitedList n close p) (delimitedList n close q) :=
  .same fun _ => delimLoop_E h

end

variable {fl : Flags} {n : Nat} {c : Bool}

theorem parseName_E : Sim Name.erase (parseName fl) (parseName (E fl)) :=
  .same fun _ => .loc fun _ => rfl

theorem parseNamedType_E : Sim NamedType.erase (parseNamedType fl) (parseNamedType (E fl)) :=
  .same fun _ => .bind parseName_E fun _ => .loc fun _ => rfl

theorem parseTypeInner_E {r r' : P TypeRef} (h : Sim TypeRef.erase r r') {start : Tok} :
    Sim TypeRef.erase (parseTypeInner fl r start) (parseTypeInner (E fl) r' start) :=
  .same fun _ => .ite (.bind h fun _ => .same fun _ => .loc fun _ => rfl) (.bind parseNamedType_E fun _ => .ret rfl)

theorem parseTypeReference_E : Sim TypeRef.erase (parseTypeReference fl n) (parseTypeReference (E fl) n) := by
  induction n with
  | zero => exact .failed
  | succ n ih =>
    exact .same fun _ => .bind (parseTypeInner_E ih) fun _ => .same fun _ => .ite (.loc fun _ => rfl) (.ret rfl)

theorem parseVariable_E : Sim Variable.erase (parseVariable fl) (parseVariable (E fl)) :=
  .same fun _ => .same fun _ => .bind parseName_E fun _ => .loc fun _ => rfl

theorem parseStringLiteral_E : Sim StringValue.erase (parseStringLiteral fl) (parseStringLiteral (E fl)) :=
  .same fun _ => .loc fun _ => rfl

theorem eraseValues_eq (vs : List Value) : eraseValues vs = vs.map Value.erase := by
  induction vs with
  | nil => simp [eraseValues]
  | cons v vs ih => simp [eraseValues, ih]

theorem eraseFields_eq (fs : List ObjectField) : eraseFields fs = fs.map ObjectField.erase := by
  induction fs with
  | nil => simp [eraseFields]
  | cons v vs ih => simp [eraseFields, ih]

theorem parseObjectFieldWith_E {pv pv' : P Value} (h : Sim Value.erase pv pv') :
    Sim ObjectField.erase (parseObjectFieldWith fl pv) (parseObjectFieldWith (E fl) pv') :=
  .same fun _ => .bind parseName_E fun _ => .same fun _ => .bind h fun _ => .loc fun _ => rfl

theorem parseValueLiteral_E : Sim Value.erase (parseValueLiteral fl n c) (parseValueLiteral (E fl) n c) := by
  induction n with
  | zero => exact .failed
  | succ n ih =>
    refine .same fun token => ?_
    cases token.kind
    case bracketL => exact .bind (any_E ih) fun vs => .loc fun _ => congrArg (Value.list · none) (eraseValues_eq vs)
    case curlyL =>
      exact .same fun _ => .bind (anyLoop_E (parseObjectFieldWith_E ih)) fun fs =>
        .loc fun _ => congrArg (Value.object · none) (eraseFields_eq fs)
    case int | float => exact .same fun _ => .loc fun _ => rfl
    case string | blockString => exact .bind parseStringLiteral_E fun _ => .ret rfl
    case name =>
      exact .ite (.same fun _ => .loc fun _ => rfl)
        (.ite (.same fun _ => .loc fun _ => rfl) (.same fun _ => .loc fun _ => rfl))
    case dollar => exact .ite .failed (.bind parseVariable_E fun _ => .ret rfl)
    all_goals exact .failed

theorem parseArgument_E : Sim Argument.erase (parseArgument fl n c) (parseArgument (E fl) n c) :=
  .same fun _ => .bind parseName_E fun _ => .same fun _ => .bind parseValueLiteral_E fun _ => .loc fun _ => rfl

theorem parseArguments_E : Sim (List.map Argument.erase) (parseArguments fl n c) (parseArguments (E fl) n c) :=
  optMany_E parseArgument_E

theorem parseDirective_E : Sim Directive.erase (parseDirective fl n c) (parseDirective (E fl) n c) :=
  .same fun _ => .bind parseName_E fun _ => .bind parseArguments_E fun _ => .loc fun _ => rfl

theorem directivesLoop_E {k : Nat} :
    Sim (List.map Directive.erase) (directivesLoop fl n c k) (directivesLoop (E fl) n c k) := by
  induction k with
  | zero => exact .failed
  | succ k ih => exact .same fun _ => .ite (.bind parseDirective_E fun _ => .bind ih fun _ => .ret rfl) (.ret rfl)

theorem parseDirectives_E : Sim (List.map Directive.erase) (parseDirectives fl n c) (parseDirectives (E fl) n c) :=
  directivesLoop_E

theorem parseVariableDefinition_E :
    Sim VariableDefinition.erase (parseVariableDefinition fl n) (parseVariableDefinition (E fl) n) :=
  .same fun _ => .bind parseVariable_E fun _ => .same fun _ => .bind parseTypeReference_E fun _ =>
    .bind (.same fun _ => .opt parseValueLiteral_E) fun _ => .bind parseDirectives_E fun _ => .loc fun _ => rfl

theorem parseVariableDefinitions_E :
    Sim (List.map VariableDefinition.erase) (parseVariableDefinitions fl n) (parseVariableDefinitions (E fl) n) :=
  optMany_E parseVariableDefinition_E

theorem parseFragmentName_E : Sim Name.erase (parseFragmentName fl) (parseFragmentName (E fl)) :=
  .same fun _ => .ite .failed parseName_E

theorem eraseSelections_eq (ss : List Selection) : eraseSelections ss = ss.map Selection.erase := by
  induction ss with
  | nil => simp [eraseSelections]
  | cons v vs ih => simp [eraseSelections, ih]

section
variable {pss pss' : P SelectionSet} (h : Sim SelectionSet.erase pss pss')
include h

theorem parseFieldWith_E : Sim Selection.erase (parseFieldWith fl n pss) (parseFieldWith (E fl) n pss') :=
  .same fun _ => .bind parseName_E fun _ =>
    .bind (e := fun x => (x.1.map Name.erase, x.2.erase))
      (.same fun _ => .ite (.bind parseName_E fun _ => .ret rfl) (.ret rfl)) fun _ =>
    .bind parseArguments_E fun _ => .bind parseDirectives_E fun _ => .bind (.same fun _ => .opt h) fun oss =>
    .loc fun _ => by cases oss <;> rfl

theorem parseFragmentWith_E : Sim Selection.erase (parseFragmentWith fl n pss) (parseFragmentWith (E fl) n pss') :=
  .same fun _ => .same fun _ => .same fun _ =>
    .ite (.bind parseFragmentName_E fun _ => .bind parseDirectives_E fun _ => .loc fun _ => rfl)
      (.bind (e := Option.map NamedType.erase)
        (.ite (.same fun _ => .bind parseNamedType_E fun _ => .ret rfl) (.ret rfl)) fun _ =>
      .bind parseDirectives_E fun _ => .bind h fun _ => .loc fun _ => rfl)

end

theorem parseSelectionSetWith_E {psel psel' : P Selection} (h : Sim Selection.erase psel psel') :
    Sim SelectionSet.erase (parseSelectionSetWith fl n psel) (parseSelectionSetWith (E fl) n psel') :=
  .same fun _ => .bind (many_E h) fun ss => .loc fun _ => congrArg (SelectionSet.mk · none) (eraseSelections_eq ss)

theorem parseSelection_E {k : Nat} : Sim Selection.erase (parseSelection fl n k) (parseSelection (E fl) n k) := by
  induction k with
  | zero => exact .failed
  | succ k ih =>
    have hss := parseSelectionSetWith_E (fl := fl) (n := n) ih
    exact .same fun _ => .ite (parseFragmentWith_E hss) (parseFieldWith_E hss)

theorem parseSelectionSet_E : Sim SelectionSet.erase (parseSelectionSet fl n) (parseSelectionSet (E fl) n) :=
  parseSelectionSetWith_E parseSelection_E

theorem parseOperationDefinition_E :
    Sim OperationDefinition.erase (parseOperationDefinition fl n) (parseOperationDefinition (E fl) n) :=
  .same fun _ =>
    .ite (.bind parseSelectionSet_E fun _ => .loc fun _ => rfl)
      (.same fun _ => .bind (.same fun _ => .opt parseName_E) fun _ => .bind parseVariableDefinitions_E fun _ =>
      .bind parseDirectives_E fun _ => .bind parseSelectionSet_E fun _ => .loc fun _ => rfl)

theorem parseFragmentDefinition_E :
    Sim FragmentDefinition.erase (parseFragmentDefinition fl n) (parseFragmentDefinition (E fl) n) :=
  -- `.ite`: `E` leaves the flag tested as it is (`E_fv`)
  .same fun _ => .same fun _ => .bind parseFragmentName_E fun _ =>
    .bind (.ite parseVariableDefinitions_E (.ret rfl)) fun _ => .same fun _ => .bind parseNamedType_E fun _ =>
    .bind parseDirectives_E fun _ => .bind parseSelectionSet_E fun _ => .loc fun _ => rfl

theorem parseExecutableDefinition_E :
    Sim Definition.erase (parseExecutableDefinition fl n) (parseExecutableDefinition (E fl) n) :=
  have op : Sim Definition.erase (parseOperationDefinition fl n >>= fun d => pure (.operation d)) _ :=
    .bind parseOperationDefinition_E fun _ => .ret rfl
  .same fun _ =>
    .ite (.ite op (.ite (.bind parseFragmentDefinition_E fun _ => .ret rfl) .failed)) (.ite op .failed)

end PyGql.Parse
