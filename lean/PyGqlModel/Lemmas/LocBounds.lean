/-
  C10 — the loop of `index_to_loc` against the line structure of the specification (`splitLines`), for `loc_bounds`.
-/
import PyGqlModel.Response
import PyGqlModel.Spec.ResponseSpec
import PyGqlModel.Lemmas.LexBlockString

namespace PyGql.Lemmas.LocBounds
open PyGql PyGql.Response PyGql.Spec.Response

theorem splitLines_ne_nil (t : Text) : splitLines t ≠ [] :=
  BlockString.splitLines_eq t ▸ BlockString.splitLinesAux_ne_nil false t

theorem splitLines_length_pos (t : Text) : 0 < (splitLines t).length :=
  List.length_pos_iff.mpr (splitLines_ne_nil t)

/-- The invariant of the loop: it stops `d` lines below the one it started in, `d` counting lines of the remaining
    text; the column is inside that line, the `cols` characters already passed belonging to the first one. -/
theorem loop_bounds (rest : Text) : ∀ (p lines cols : Nat),
    ∃ d, (indexToLocLoop rest p lines cols).1 = lines + 1 + d ∧ d < (splitLines rest).length ∧
      1 ≤ (indexToLocLoop rest p lines cols).2 ∧
      (indexToLocLoop rest p lines cols).2 ≤
        (if d = 0 then cols else 0) + ((splitLines rest).getD d []).length + 1 := by
  induction rest with
  | nil => intro p lines cols; exact ⟨0, by simp [indexToLocLoop, splitLines]⟩
  | cons c rest ih =>
    intro p lines cols
    cases p with
    | zero => exact ⟨0, rfl, splitLines_length_pos _, Nat.le_add_left .., by simp [indexToLocLoop]⟩
    | succ p =>
      -- a line terminator: the rest of the text starts a new line
      have newLine : ∀ L, L = splitLines rest → ∃ d, (indexToLocLoop rest p (lines + 1) 0).1 = lines + 1 + d ∧
          d < ([] :: L).length ∧ 1 ≤ (indexToLocLoop rest p (lines + 1) 0).2 ∧
          (indexToLocLoop rest p (lines + 1) 0).2 ≤ (if d = 0 then cols else 0) + (([] :: L).getD d []).length + 1 := by
        rintro L rfl
        obtain ⟨d, h1, h2, h3, h4⟩ := ih p (lines + 1) 0
        exact ⟨d + 1, by omega, by simpa using h2, h3, by simpa using h4⟩
      by_cases h10 : c = 10
      · simpa only [indexToLocLoop, splitLines, h10, if_true] using newLine _ rfl
      · by_cases h13 : c = 13
        · subst h13
          by_cases hn : rest.head? = some 10
          · simpa only [indexToLocLoop, splitLines, h10, hn, if_true, if_false] using ih p lines cols
          · simpa only [indexToLocLoop, splitLines, h10, hn, if_true, if_false] using newLine _ rfl
        · -- an ordinary character joins the first line of the rest
          obtain ⟨d, h1, h2, h3, h4⟩ := ih p lines (cols + 1)
          simp only [indexToLocLoop, splitLines, h10, h13, if_false]
          cases hL : splitLines rest with
          | nil => exact absurd hL (splitLines_ne_nil rest)
          | cons l ls =>
            rw [hL] at h2 h4
            refine ⟨d, h1, h2, h3, ?_⟩
            cases d with
            | zero => simp at h4 ⊢; omega
            | succ d => simpa using h4

end PyGql.Lemmas.LocBounds
