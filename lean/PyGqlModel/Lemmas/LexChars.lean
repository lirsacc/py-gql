/-
  The extracted tables of `lexer.py` (Generated/LexTables.lean) denote the character classes of the
  specification (Spec/Lexical.lean). These lemmas are re-checked against the tables on every run.
-/
import PyGqlModel.Lex
import PyGqlModel.Spec.Lexical

namespace PyGql.Lex
open PyGql.Generated.LexTables
open PyGql.Spec.Lexical

/-! `string.digits`, `string.hexdigits` and `string.ascii_letters` are runs of consecutive code points, so
    membership in them is a matter of bounds. -/

theorem digits_eq : digits = List.range' 48 10 := rfl

theorem hexdigits_eq : hexdigits = List.range' 48 10 ++ List.range' 97 6 ++ List.range' 65 6 := rfl

theorem asciiLetters_eq : asciiLetters = List.range' 97 26 ++ List.range' 65 26 := rfl

theorem isDigit_spec (c : Nat) : Lex.isDigit c = Spec.Lexical.isDigit c := by
  rw [Bool.eq_iff_iff]
  simp only [Lex.isDigit, digits_eq, Spec.Lexical.isDigit, List.contains_iff_mem, List.mem_range'_1,
    Bool.and_eq_true, decide_eq_true_eq]
  omega

theorem isHex_spec (c : Nat) : Lex.isHex c = Spec.Lexical.isHexDigit c := by
  rw [Bool.eq_iff_iff]
  simp only [Lex.isHex, hexdigits_eq, Spec.Lexical.isHexDigit, Spec.Lexical.isDigit, List.contains_iff_mem,
    List.mem_append, List.mem_range'_1, Bool.or_eq_true, Bool.and_eq_true, decide_eq_true_eq]
  omega

theorem isLetter_spec (c : Nat) : Lex.isLetter c = Spec.Lexical.isLetter c := by
  rw [Bool.eq_iff_iff]
  simp only [Lex.isLetter, asciiLetters_eq, Spec.Lexical.isLetter, List.contains_iff_mem, List.mem_append,
    List.mem_range'_1, Bool.or_eq_true, Bool.and_eq_true, decide_eq_true_eq]
  omega

theorem isNameStart_spec (c : Nat) : Lex.isNameStart c = Spec.Lexical.isNameStart c := by
  simp [Lex.isNameStart, Spec.Lexical.isNameStart, isLetter_spec]

theorem isNameChar_spec (c : Nat) : Lex.isNameChar c = Spec.Lexical.isNameCont c := by
  simp [Lex.isNameChar, Spec.Lexical.isNameCont, Spec.Lexical.isNameStart, isLetter_spec, isDigit_spec]

/-- both sides test the same six characters, in different orders -/
theorem isIgnored_spec (c : Nat) : Lex.isIgnored c = Spec.Lexical.isIgnoredChar c := by
  simp only [Lex.isIgnored, ignoredChars, Spec.Lexical.isIgnoredChar, List.contains_cons, List.contains_nil,
    Bool.or_false]
  ac_rfl

theorem isPrintable_spec (c : Nat) :
    Lex.isPrintable c = (Spec.Lexical.isSourceChar c && !Spec.Lexical.isLineTerm c) := by
  rw [Bool.eq_iff_iff]
  simp only [Lex.isPrintable, Spec.Lexical.isSourceChar, Spec.Lexical.isLineTerm, Bool.or_eq_true,
    Bool.and_eq_true, Bool.not_eq_true', Bool.or_eq_false_iff, beq_iff_eq, beq_eq_false_iff_ne,
    decide_eq_true_eq]
  omega

theorem isCommentChar_spec (c : Nat) : Lex.isCommentChar c = Spec.Lexical.isCommentChar c := by
  rw [Lex.isCommentChar, isPrintable_spec, Spec.Lexical.isCommentChar, Spec.Lexical.isLineTerm, Bool.and_assoc,
    Bool.and_self]

theorem lookup_cons_ite {β} (a k : Nat) (b : β) (l : List (Nat × β)) :
    List.lookup a ((k, b) :: l) = if a = k then some b else List.lookup a l := by
  rw [List.lookup_cons]
  cases h : a == k <;> simp_all

/-- `QUOTED_CHARS` is the EscapedCharacter table of the specification -/
theorem quoted_spec (e : Nat) : Lex.quoted e = Spec.Lexical.escapedCharacter e := by
  simp only [Lex.quoted, quotedChars, escapedCharacter, lookup_cons_ite, List.lookup_nil]

theorem symbolKind_key {c : Nat} (h : (symbolKind c).isSome = true) : c ∈ symbols.map Prod.fst := by
  obtain ⟨k, hk⟩ := Option.isSome_iff_exists.1 h
  obtain ⟨v, hv, -⟩ := Option.bind_eq_some_iff.1 hk
  obtain ⟨p, hp, hc⟩ := List.lookup_isSome_iff.1 (Option.isSome_of_eq_some hv)
  exact List.mem_map.2 ⟨p, hp, (beq_iff_eq.1 hc).symm⟩

theorem symbols_sound : ∀ p ∈ symbols, (TokKind.ofPyName p.2).bind punctuator = some [p.1] := by
  decide +kernel

/-- `SYMBOLS` maps exactly the one-character punctuators to their token kinds -/
theorem symbolKind_spec (c : Nat) (k : TokKind) :
    Lex.symbolKind c = some k ↔ Spec.Lexical.punctuator k = some [c] := by
  constructor
  · intro h
    obtain ⟨v, hv, hk⟩ := Option.bind_eq_some_iff.1 h
    obtain ⟨l₁, l₂, hl, -⟩ := List.lookup_eq_some_iff.1 hv
    have := symbols_sound (c, v) (by simp [hl])
    rwa [hk] at this
  · intro h
    cases k <;> cases h <;> rfl

theorem hexVal_spec (c : Nat) : Lex.hexVal c = Spec.Lexical.hexValue c := by
  unfold Lex.hexVal Spec.Lexical.hexValue
  simp only [Spec.Lexical.isDigit, Bool.and_eq_true, decide_eq_true_eq]
  split
  · rfl
  · split
    · rw [if_neg (by omega)]
    · rfl

theorem hexValue_isSome (c : Nat) : (hexValue c).isSome = isHexDigit c := by
  unfold hexValue isHexDigit
  split
  · simp [*]
  · split
    · simp [*]
    · split <;> simp [*]

theorem isHex_iff_hexVal (c : Nat) : Lex.isHex c = (Lex.hexVal c).isSome := by
  rw [isHex_spec, hexVal_spec, hexValue_isSome]

/-- `chr(int(escape, 16))` on four hex digits is EscapedUnicode -/
theorem hex4_spec (a b c d : Nat) : Lex.hex4 a b c d = Spec.Lexical.escapedUnicode a b c d := by
  unfold Lex.hex4 Spec.Lexical.escapedUnicode
  simp only [isHex_iff_hexVal, hexVal_spec]
  cases hexValue a <;> cases hexValue b <;> cases hexValue c <;> cases hexValue d <;> simp
  omega

end PyGql.Lex
