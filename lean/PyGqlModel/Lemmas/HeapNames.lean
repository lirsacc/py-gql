/-
  C14 — intactness of the registry: which names stay registered.  Finding T1 is about this: `clone()` and
  `transform_schema` dropped object types reachable only as implementers of an interface (`Dog implements Pet`);
  the theorems here are about the repaired variant (`keepAllTypes`).
-/
import PyGqlModel.Lemmas.HeapReach
import PyGqlModel.Lemmas.HeapClosedTypes

namespace PyGql.Heap.Own
open PyGql.Heap

def regNames (reg : List (String × Addr)) : List String := reg.map (·.1)

/-! ### from one round to `fix_type_references`, `on_schema` and `transform_schema`

  A transitive relation between (heap, schema) states that holds across one visitor round followed by the registry update
  holds across everything built from such rounds: the invariant of the loops is "related to the start". -/

/-- one round of visitor `v` followed by the registry update respects `R` -/
def RoundKeeps (cfg : Cfg) (v : Visitor) (R : Heap → Schema → Heap → Schema → Prop) : Prop :=
  ∀ s h, R h s (visitAll v s h).1 (replaceCore cfg s (visitAll v s h).2.1 (visitAll v s h).2.2).1

section rel
variable {R : Heap → Schema → Heap → Schema → Prop}
  (trans : ∀ h1 s1 h2 s2 h3 s3, R h1 s1 h2 s2 → R h2 s2 h3 s3 → R h1 s1 h3 s3)
include trans

theorem healLoop_rel (cfg : Cfg) (refl : ∀ h s, R h s h s) (heal : RoundKeeps cfg .heal R)
    (fuel : Nat) (s : Schema) (h h' : Heap) (s' : Schema) (e : healLoop cfg fuel s h = some (h', s')) : R h s h' s' :=
  healLoop_ind cfg (J := R h s) (fun s1 h1 hj => trans _ _ _ _ _ _ hj (heal s1 h1)) fuel s h h' s' (refl h s) e

theorem replaceTD_rel (cfg : Cfg) (heal : RoundKeeps cfg .heal R)
    {fuel : Nat} {s : Schema} {h h0 : Heap} {ut ud : List (String × Option Addr)} {h' : Heap} {s' : Schema}
    (core : R h0 s h (replaceCore cfg s ut ud).1) (e : replaceTD cfg fuel s h ut ud = some (h', s')) : R h0 s h' s' :=
  replaceTD_ind cfg fuel (J := R h0 s) core (fun s1 h1 hj => trans _ _ _ _ _ _ hj (heal s1 h1)) e

theorem onSchema_rel (cfg : Cfg) {v : Visitor} (heal : RoundKeeps cfg .heal R) (round : RoundKeeps cfg v R)
    {fuel : Nat} {s : Schema} {h h' : Heap} {s' : Schema} (e : onSchema cfg fuel v s h = some (h', s')) : R h s h' s' :=
  replaceTD_rel (R := R) trans cfg heal (round s h) e

theorem transformFrom_rel (cfg : Cfg) (refl : ∀ h s, R h s h s) (P : Visitor → Prop) (hheal : P .heal)
    (round : ∀ v, P v → RoundKeeps cfg v R) (fuel : Nat) (vs : List Visitor) (hv : ∀ v, v ∈ vs → P v)
    (h : Heap) (s : Schema) (h' : Heap) (s' : Schema) (e : transformFrom cfg fuel vs (h, s) = some (h', s')) : R h s h' s' :=
  transformFrom_ind cfg fuel (I := fun (_ : Unit) => R h s) (fun _ u => u) vs
    (fun v hm _ _ _ _ _ hi e => trans _ _ _ _ _ _ hi (onSchema_rel (R := R) trans cfg (round .heal hheal) (round v (hv v hm)) e))
    () h s h' s' (refl h s) e

end rel

theorem regSet_names_eq (reg : List (String × Addr)) (nm : String) (a : Addr) (hl : (lookup reg nm).isSome = true) :
    (regSet reg nm a).map (·.1) = reg.map (·.1) := by
  simp only [regSet, hl, if_true, List.map_map]
  apply List.map_congr_left
  intro e _
  by_cases hq : e.1 = nm <;> simp [hq]

theorem regSet_names (reg : List (String × Addr)) (nm : String) (a : Addr) (x : String) (hx : x ∈ regNames reg) :
    x ∈ regNames (regSet reg nm a) := by
  cases hl : (lookup reg nm).isSome with
  | true => rw [regNames, regSet_names_eq reg nm a hl]; exact hx
  | false => simp only [regNames, regSet, hl, Bool.false_eq_true, if_false, List.map_append, List.mem_append]; exact Or.inl hx

theorem replaceTypes_sublist (cfg : Cfg) : ∀ (ut : List (String × Option Addr)) (reg : List (String × Addr)) (b : Bool),
    List.Sublist (regNames (replaceTypes cfg reg b ut).1) (regNames reg) := by
  intro ut
  induction ut with
  | nil => intro reg b; exact List.Sublist.refl _
  | cons x rest ih =>
    intro reg b
    obtain ⟨nm, new⟩ := x
    simp only [replaceTypes]
    split
    · exact ih reg b
    · rename_i orig hl
      cases new with
      | none => exact (ih _ _).trans (List.Sublist.map _ List.filter_sublist)
      | some a' => exact (ih _ _).trans (by rw [regNames, regSet_names_eq reg nm a' (by simp [hl])]; exact List.Sublist.refl _)

theorem replaceTypes_nodup (cfg : Cfg) (ut : List (String × Option Addr)) (reg : List (String × Addr)) (b : Bool)
    (hn : (reg.map (·.1)).Nodup) : ((replaceTypes cfg reg b ut).1.map (·.1)).Nodup :=
  List.Nodup.sublist (replaceTypes_sublist cfg ut reg b) hn

theorem replaceTypes_names_sub (cfg : Cfg) (ut : List (String × Option Addr)) (reg : List (String × Addr)) (b : Bool) :
    ∀ x, x ∈ regNames (replaceTypes cfg reg b ut).1 → x ∈ regNames reg :=
  fun _ hx => (replaceTypes_sublist cfg ut reg b).subset hx

/-- `types[name] = copy` for registered names (every entry replaces, none deletes): the registry keeps its order of names -/
theorem replaceTypes_order (cfg : Cfg) : ∀ (ut : List (String × Option Addr)) (reg : List (String × Addr)) (b : Bool),
    (∀ x, x ∈ ut → x.2 ≠ none) → (replaceTypes cfg reg b ut).1.map (·.1) = reg.map (·.1) := by
  intro ut
  induction ut with
  | nil => intro reg b _; simp [replaceTypes]
  | cons x rest ih =>
    intro reg b hs
    obtain ⟨nm, new⟩ := x
    have hrest : ∀ x, x ∈ rest → x.2 ≠ none := fun x hx => hs x (by simp [hx])
    simp only [replaceTypes]
    split
    · exact ih reg b hrest
    · rename_i orig hl
      cases new with
      | none => exact absurd rfl (hs (nm, none) (by simp))
      | some a' =>
        simp only
        rw [ih _ _ hrest, regSet_names_eq reg nm a' (by simp [hl])]

theorem replaceTypes_names (cfg : Cfg) (ut : List (String × Option Addr)) (reg : List (String × Addr)) (b : Bool)
    (hs : ∀ x, x ∈ ut → x.2 ≠ none) : ∀ n, n ∈ regNames reg → n ∈ regNames (replaceTypes cfg reg b ut).1 := by
  intro n hn
  rw [regNames, replaceTypes_order cfg ut reg b hs]
  exact hn

theorem mapFilter_snd_irrel : True := trivial

/-- visitors that never return `None` for a type: heal, camel-case, the drop/wrap FIELD directive visitor -/
def NoTypeDelete : Visitor → Prop
  | .vis _ => False
  | _ => True

theorem onType_some (v : Visitor) (hv : NoTypeDelete v) (reg : List (String × Addr)) (h : Heap) (a : Addr) : (onType v reg h a).2 ≠ none := by
  cases ht : h.readType a with
  | none => rw [onType_none v reg ht]; exact nofun
  | some t =>
    -- a type is dropped by the visibility transform only; the base parts of `on_object` / `on_interface` / `on_input_object` return
    -- the (possibly rebuilt) type object
    have notVis : ∀ p, v ≠ .vis p := fun p e => by rw [e] at hv; exact hv
    rcases onType_cases v reg ht with ⟨_, e⟩ | ⟨_, e⟩ | ⟨_, ⟨p, hp, e⟩ | ⟨_, e⟩ | ⟨_, _, e⟩⟩ <;> rw [e]
    · rcases onComposite_cases v reg h a t with ⟨p, hp, _⟩ | e | ⟨_, e⟩
      · exact absurd hp (notVis p)
      · rw [e, compositeRest_snd]; exact nofun
      · rw [e, compositeRest_snd]; exact nofun
    · cases v with
      | vis p => exact hv.elim
      | _ => exact nofun
    · exact absurd hp (notVis p)
    · exact nofun
    · exact nofun

theorem visitTypes_some (v : Visitor) (hv : NoTypeDelete v) (reg : List (String × Addr)) (l : List (String × Addr)) (h : Heap) :
    ∀ x, x ∈ (visitTypes v reg h l).2 → x.2 ≠ none := by
  intro x hx
  obtain ⟨e, h1, _, _, rfl⟩ := visitTypes_reported v reg l h x hx
  exact onType_some v hv reg h1 e.2

theorem round_names (cfg : Cfg) (v : Visitor) (hv : NoTypeDelete v) :
    RoundKeeps cfg v (fun _ s _ s' => ∀ n, n ∈ regNames s.types → n ∈ regNames s'.types) :=
  fun s h => replaceTypes_names cfg _ _ _ (visitTypes_some v hv s.types s.types h)

theorem healLoop_names (cfg : Cfg) (fuel : Nat) (s : Schema) (h h' : Heap) (s' : Schema)
    (e : healLoop cfg fuel s h = some (h', s')) : ∀ n, n ∈ regNames s.types → n ∈ regNames s'.types :=
  healLoop_rel (R := fun _ s _ s' => ∀ n, n ∈ regNames s.types → n ∈ regNames s'.types) (fun _ _ _ _ _ _ a b n hn => b n (a n hn))
    cfg (fun _ _ _ hn => hn) (round_names cfg .heal trivial) fuel s h h' s' e

theorem transformFrom_names (cfg : Cfg) (fuel : Nat) : ∀ (vs : List Visitor), (∀ v, v ∈ vs → NoTypeDelete v) →
    ∀ (h : Heap) (s : Schema) (h' : Heap) (s' : Schema), transformFrom cfg fuel vs (h, s) = some (h', s') →
      ∀ n, n ∈ regNames s.types → n ∈ regNames s'.types :=
  transformFrom_rel (R := fun _ s _ s' => ∀ n, n ∈ regNames s.types → n ∈ regNames s'.types) (fun _ _ _ _ _ _ a b n hn => b n (a n hn))
    cfg (fun _ _ _ hn => hn) NoTypeDelete trivial (round_names cfg) fuel

theorem foldl_setdefault_names (l : List (String × Addr)) : ∀ (acc : List (String × Addr)),
    (∀ n, n ∈ regNames acc → n ∈ regNames (l.foldl (fun reg e => if (lookup reg e.1).isSome then reg else reg ++ [e]) acc)) ∧
    (∀ e, e ∈ l → e.1 ∈ regNames (l.foldl (fun reg e => if (lookup reg e.1).isSome then reg else reg ++ [e]) acc)) := by
  induction l with
  | nil => intro acc; exact ⟨fun n hn => hn, by simp⟩
  | cons x l ih =>
    intro acc
    simp only [List.foldl_cons]
    obtain ⟨k1, k2⟩ := ih (if (lookup acc x.1).isSome then acc else acc ++ [x])
    have hx : x.1 ∈ regNames (if (lookup acc x.1).isSome then acc else acc ++ [x]) := by
      split
      · rename_i hl
        obtain ⟨a, hq⟩ := Option.isSome_iff_exists.mp hl
        exact List.mem_map.mpr ⟨(x.1, a), lookup_mem' hq, rfl⟩
      · simp [regNames]
    refine ⟨fun n hn => k1 n ?_, ?_⟩
    · split
      · exact hn
      · simp only [regNames, List.map_append, List.mem_append]; exact Or.inl hn
    · intro e he
      simp only [List.mem_cons] at he
      rcases he with rfl | he
      · exact k1 _ hx
      · exact k2 e he

/-- finding T1, repaired variant (`keepAllTypes`): a clone registers every name its source registers -/
theorem clone_names (cfg : Cfg) (hd : cfg.deepClone = true) (hk : cfg.keepAllTypes = true) (fuel : Nat) (s : Schema) (h h' : Heap) (s' : Schema)
    (e : clone cfg fuel s h = some (h', s')) : ∀ n, n ∈ regNames s.types → n ∈ regNames s'.types := by
  intro n hn
  simp only [clone] at e
  split at e
  · cases e
  · rename_i h1 s1 hr
    cases e
    obtain ⟨_, _, st, _⟩ := cloneTypes_ok h.size cfg hd s.types h (inv_self h)
    refine replaceTD_rel (R := fun _ s _ s' => ∀ n, n ∈ regNames s.types → n ∈ regNames s'.types) (fun _ _ _ _ _ _ a b n hn => b n (a n hn))
      cfg (round_names cfg .heal trivial) (h0 := h) (replaceTypes_names cfg _ _ _ st) hr n ?_
    simp only [cloneRegistry, hk, if_true]
    obtain ⟨e0, he0, rfl⟩ := List.mem_map.mp hn
    exact (foldl_setdefault_names s.types _).2 e0 he0

end PyGql.Heap.Own
