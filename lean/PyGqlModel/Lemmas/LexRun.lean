/-
  The token loop as a relation: `Run n s toks r` lists the calls of `__next__` made on the unread text `s` — the tokens
  returned, then `<EOF>` or an error.  `lexLoop` (and the prefix lexer of `ParseLazy.lean`) compute it; fuel is counted
  here and nowhere else, and what is proved about the loop is proved by induction over `Run`.
-/
import PyGqlModel.Lemmas.LexTiles
namespace PyGql.Lex
open PyGql.Spec.Lexical

/-- the calls of `__next__` the token loop makes on `s`: the tokens returned, then `<EOF>` (`none`) or an error -/
inductive Run (n : Nat) : Text → List Tok → Option SynErr → Prop
  | eof {s : Text} {tok : Tok} : next n s = .ok (tok, none) → Run n s [tok] none
  | err {s : Text} {e : SynErr} : next n s = .error e → Run n s [] (some e)
  | tok {s rest : Text} {tok : Tok} {toks : List Tok} {r : Option SynErr} :
      next n s = .ok (tok, some rest) → Run n rest toks r → Run n s (tok :: toks) r

def Run.result (toks : List Tok) : Option SynErr → R (List Tok)
  | none => .ok toks
  | some e => .error e

theorem next_shorter {n : Nat} {s rest : Text} {tok : Tok} (h : next n s = .ok (tok, some rest)) :
    rest.length < s.length := by
  obtain ⟨ign, lex, hs, _, _, _, hne, _, _⟩ := next_sound n s rest tok h
  have := List.length_pos_iff.2 hne
  rw [hs, List.length_append, List.length_append]
  omega

theorem lexLoop_run (n : Nat) : ∀ (fuel : Nat) (s : Text), s.length < fuel →
    ∃ toks r, Run n s toks r ∧ lexLoop n fuel s = Run.result toks r
  | 0, _, h => absurd h (Nat.not_lt_zero _)
  | fuel + 1, s, h => by
    rw [lexLoop]
    split
    · exact ⟨[], _, .err ‹_›, rfl⟩
    · exact ⟨_, none, .eof ‹_›, rfl⟩
    · rename_i tok rest hn
      obtain ⟨toks, r, hr, e⟩ := lexLoop_run n fuel rest (by have := next_shorter hn; omega)
      rw [e]
      exact ⟨tok :: toks, r, .tok hn hr, by cases r <;> rfl⟩

theorem Run.unique {n : Nat} {s : Text} {toks toks' : List Tok} {r r' : Option SynErr} (h : Run n s toks r)
    (h' : Run n s toks' r') : toks = toks' ∧ r = r' := by
  induction h generalizing toks' r' with
  | eof hn => cases h' with
    | eof hn' => rw [hn] at hn'; cases hn'; exact ⟨rfl, rfl⟩
    | err hn' => rw [hn] at hn'; cases hn'
    | tok hn' _ => rw [hn] at hn'; cases hn'
  | err hn => cases h' with
    | eof hn' => rw [hn] at hn'; cases hn'
    | err hn' => rw [hn] at hn'; cases hn'; exact ⟨rfl, rfl⟩
    | tok hn' _ => rw [hn] at hn'; cases hn'
  | tok hn _ ih => cases h' with
    | eof hn' => rw [hn] at hn'; cases hn'
    | err hn' => rw [hn] at hn'; cases hn'
    | tok hn' hr' =>
      rw [hn] at hn'; cases hn'
      obtain ⟨rfl, rfl⟩ := ih hr'
      exact ⟨rfl, rfl⟩

theorem lexAll_run (s : Text) : ∃ toks r, Run s.length s toks r ∧ lexAll s = Run.result (sofTok :: toks) r := by
  obtain ⟨toks, r, hr, e⟩ := lexLoop_run s.length (s.length + 1) s (Nat.lt_succ_self _)
  refine ⟨toks, r, hr, ?_⟩
  rw [lexAll, e]
  cases r <;> rfl

theorem Run.lexAll {s : Text} {toks : List Tok} {r : Option SynErr} (h : Run s.length s toks r) :
    lexAll s = Run.result (sofTok :: toks) r := by
  obtain ⟨toks', r', hr, e⟩ := lexAll_run s
  obtain ⟨rfl, rfl⟩ := h.unique hr
  exact e

theorem lexAll_ok_run {s : Text} {toks : List Tok} (h : lexAll s = .ok toks) :
    ∃ body, toks = sofTok :: body ∧ Run s.length s body none := by
  obtain ⟨body, r, hr, e⟩ := lexAll_run s
  rw [e] at h
  cases r with
  | none => cases h; exact ⟨body, rfl, hr⟩
  | some e' => cases h

theorem lexAll_error_run {s : Text} {e : SynErr} (h : lexAll s = .error e) : ∃ toks, Run s.length s toks (some e) := by
  obtain ⟨toks, r, hr, e'⟩ := lexAll_run s
  rw [e'] at h
  cases r with
  | none => cases h
  | some e'' => cases h; exact ⟨toks, hr⟩

theorem Run.tiles {n : Nat} {s : Text} {toks : List Tok} {r : Option SynErr} (h : Run n s toks r) (hr : r = none) :
    Tiles n s toks := by
  induction h with
  | eof hn =>
    obtain ⟨rfl, hrun⟩ := next_eof n _ _ hn
    exact .eof _ hrun
  | err _ => cases hr
  | @tok s rest tok toks r hn _ ih =>
    obtain ⟨ign, lex, hs, hrun, hlx, hfo, _, hst, hsp⟩ := next_sound n s rest tok hn
    have htok : tok = ⟨tok.kind, n - (lex ++ rest).length, n - rest.length, tok.value⟩ := by
      rw [← hst, ← hsp]
    rw [hs, htok]
    exact .tok ign lex rest tok.kind tok.value toks hrun hlx hfo (ih hr)

theorem lexAll_first {s : Text} {toks : List Tok} (h : lexAll s = .ok toks) {r : R (Tok × Text)}
    (hn : next s.length s = r.map fun p => (p.1, some p.2)) :
    ∃ tok rest more, r = .ok (tok, rest) ∧ toks = sofTok :: tok :: more := by
  obtain ⟨body, rfl, hr⟩ := lexAll_ok_run h
  cases hr with
  | eof hn' => rw [hn] at hn'; cases r <;> cases hn'
  | tok hn' _ =>
    rw [hn] at hn'
    cases r with
    | error e => cases hn'
    | ok p => cases hn'; exact ⟨_, _, _, rfl, rfl⟩

theorem lexAll_first_error {s : Text} {e : SynErr} (hn : next s.length s = .error e) : lexAll s = .error e :=
  (Run.err hn).lexAll

end PyGql.Lex
