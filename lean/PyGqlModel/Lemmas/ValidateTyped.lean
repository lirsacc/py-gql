/-
  The walk of the chained visitor versus the static contexts of `Spec/TypedNodes.lean`:
  the stacks of `TypeInfoVisitor` are BALANCED over every sub-tree when no rule skips, and what a rule reads from
  them on entering / leaving a node (`TI.view`) is exactly the static context of that node.
  TYPED RELATIONAL WALK (`TAlgP`, for the chain with the rules' enter function as a parameter,
  `Validate/ChainPar.lean`; `TAlg` for the chain `visitDocument` of `Validate/Chain.lean`, which the property theorems
  are about): any relation `R l st st'` between the states before / after a visit and the list `l` of (node, static
  context) pairs of the visited sub-tree that restores the stacks of `TypeInfoVisitor` (`ti`), holds for the empty
  visit (`nil`), composes (`append`) and is preserved by `visitNode` (`node`) holds of every visit function with the
  list of `Spec.typedNodes`. The walk is stated for chains that never raise SkipNode; the behaviour of their rules may
  depend on the rule STATE (it is the relation `R` that says how).
  Consequence (`visitDefsT`): for a never-skipping chain whose error counts depend on (node, view) only, the
  number of errors is the sum over `Spec.typedNodes`.
-/
import PyGqlModel.Lemmas.ValidateWalk
import PyGqlModel.Lemmas.ValidateChainParEq
import PyGqlModel.Lemmas.TypedEqView
namespace PyGql.Validate
open PyGql PyGql.Validate.Spec

/-- what the rules read from `TypeInfoVisitor` on the output side -/
def TI.view (t : TI) : View := { type := t.type, parent := t.parentType, field := t.field, directive := t.directive }

theorem enter_ti (c : Cfg) (n : Node) (st : St) : (enter c n st).1.ti = tiEnter c.schema n st.ti := by
  unfold enter
  generalize enterRules c n (tiEnter c.schema n st.ti) c.rules st.rs = p
  obtain ⟨a, b⟩ := p
  rfl

theorem leave_ti (c : Cfg) (n : Node) (st : St) : (leave c n st).ti = tiLeave n st.ti := rfl

/-- every `enter_*` pushes on the stacks and the view reads their tops -/
theorem view_enter (s : SchemaD) (n : Node) (t : TI) : (tiEnter s n t).view = View.enter s n t.view := by
  cases n with
  | value v => cases v <;> rfl
  | inline on dirs => cases on <;> rfl
  | argument a =>
    simp only [tiEnter, TI.enterArgument]
    split <;> rfl
  | objField name =>
    simp only [tiEnter, TI.enterObjectField]
    split
    · split <;> rfl
    · rfl
  | _ => rfl

theorem tiLeave_tiEnter (s : SchemaD) (n : Node) (t : TI) (hd : ∀ d, n = .directive d → t.directive = none) :
    tiLeave n (tiEnter s n t) = t := by
  cases n with
  | value v => cases v <;> rfl
  | directive d =>
    cases t
    cases hd d rfl
    rfl
  | argument a =>
    simp only [tiEnter, TI.enterArgument]
    split <;> rfl
  | objField name =>
    simp only [tiEnter, TI.enterObjectField]
    split
    · split <;> rfl
    · rfl
  | inline on dirs => cases on <;> rfl
  | _ => rfl

theorem directive_tiEnter (s : SchemaD) (n : Node) (t : TI) (hn : ∀ d, n ≠ .directive d) :
    (tiEnter s n t).directive = t.directive := by
  have h := congrArg View.directive (view_enter s n t)
  cases n with
  | directive d => exact absurd rfl (hn d)
  | inline on dirs => cases on <;> exact h
  | _ => exact h

theorem withView_nil (v : View) : withView v [] = [] := rfl

theorem view_empty : (({} : TI).view) = ({} : View) := rfl

structure TAlgP (er : ER) (c : Cfg) (R : List (Node × View) → St → St → Prop) : Prop where
  ti : ∀ {l : List (Node × View)} {st st' : St}, R l st st' → st'.ti = st.ti
  nil : ∀ st, R [] st st
  append : ∀ {a b : List (Node × View)} {s1 s2 s3 : St}, R a s1 s2 → R b s2 s3 → R (a ++ b) s1 s3
  node : ∀ (n : Node) (body : St → St) (l : List (Node × View)) (st : St), n.isDoc = false →
    (∀ d, n = .directive d → st.ti.directive = none) →
    (∀ st1, st1.ti = tiEnter c.schema n st.ti → R l st1 (body st1)) →
    R ((n, View.enter c.schema n st.ti.view) :: l) st (visitNodePar er c n body st)

section
variable {er : ER} {c : Cfg} {R : List (Node × View) → St → St → Prop}

/-- the laws of the walk (`Lemmas/ValidateWalkLaws.lean`), the context being what `TypeInfoVisitor` shows: the pairs and
    the side condition of directive nodes depend on the view only -/
theorem TAlgP.laws (h : TAlgP er c R) :
    WalkLaws (View.enter c.schema) (fun w => w.directive = none) (fun n => !n.isDoc)
      (fun w l W => ∀ st, st.ti.view = w → R l st (W er c st)) where
  nil _ st _ := h.nil st
  seq h1 h2 st e := h.append (h1 st e) (h2 _ (by rw [h.ti (h1 st e)]; exact e))
  node n w l W hn hd _ hW st e := by
    subst e
    exact h.node n _ l st (Bool.not_eq_true' _ |>.mp hn) (fun d e => hd (e ▸ rfl)) (fun st1 e1 => hW st1 (by rw [e1, view_enter]))
  keepJ n w hn hw := by
    cases n with
    | directive d => cases hn
    | inline on dirs => cases on <;> exact hw
    | _ => exact hw

theorem visitValuesRP (h : TAlgP er c R) : ∀ (vs : List Value) (st : St),
    R (withView st.ti.view (valuesNodes vs)) st (visitValuesPar er c vs st) :=
  fun vs st => gnValues_view c.schema vs _ ▸ h.laws.values (fun _ => not_isDoc_of_isTop) vs _ st rfl
theorem visitObjFieldRP (h : TAlgP er c R) : ∀ (x : ObjField) (st : St),
    R (withView st.ti.view (objFieldNodes x)) st (visitObjFieldPar er c x st) :=
  fun x st => gnObjField_view c.schema x _ ▸ h.laws.objField (fun _ => not_isDoc_of_isTop) x _ st rfl
theorem visitObjFieldsRP (h : TAlgP er c R) : ∀ (fs : List ObjField) (st : St),
    R (withView st.ti.view (objFieldsNodes fs)) st (visitObjFieldsPar er c fs st) :=
  fun fs st => gnObjFields_view c.schema fs _ ▸ h.laws.objFields (fun _ => not_isDoc_of_isTop) fs _ st rfl
theorem visitSelRP (h : TAlgP er c R) : ∀ (x : Sel) (st : St), st.ti.directive = none →
    R (tnSel c.schema st.ti.view x) st (visitSelPar er c x st) :=
  fun x st hd => gnSel_view c.schema x _ ▸ h.laws.sel (fun _ => not_isDoc_of_isTop) x _ hd st rfl

/-- the stacks are balanced and every (node, static context) pair is met exactly once -/
theorem visitDefsRP (h : TAlgP er c R) (ds : List Def) (st : St) (h0 : st.ti = {}) :
    R (ds.flatMap (tnDef c.schema)) st (ds.foldl (fun st x => visitDefPar er c x st) st) := by
  have e : ds.flatMap (tnDef c.schema) = gnDoc (View.enter c.schema) {} ⟨ds⟩ := typedNodes_eq_viewNodes c.schema ⟨ds⟩
  rw [e]
  exact h.laws.defs (fun _ => not_isDoc_of_isTop) (fun _ h => congrArg not h) ⟨ds⟩ {} rfl st (by rw [h0]; rfl)

end

/-- `TAlgP` with `visitNode` of `Validate/Chain.lean` in the place of `visitNodePar er` -/
structure TAlg (c : Cfg) (R : List (Node × View) → St → St → Prop) : Prop where
  ti : ∀ {l : List (Node × View)} {st st' : St}, R l st st' → st'.ti = st.ti
  nil : ∀ st, R [] st st
  append : ∀ {a b : List (Node × View)} {s1 s2 s3 : St}, R a s1 s2 → R b s2 s3 → R (a ++ b) s1 s3
  node : ∀ (n : Node) (body : St → St) (l : List (Node × View)) (st : St), n.isDoc = false →
    (∀ d, n = .directive d → st.ti.directive = none) →
    (∀ st1, st1.ti = tiEnter c.schema n st.ti → R l st1 (body st1)) →
    R ((n, View.enter c.schema n st.ti.view) :: l) st (visitNode c n body st)

section
variable {c : Cfg} {R : List (Node × View) → St → St → Prop}

/-- `TAlgP` at the rules' own enter function: `visitNode` is `visitNodePar enterRule` -/
theorem TAlg.toP (h : TAlg c R) : TAlgP enterRule c R where
  ti := h.ti
  nil := h.nil
  append := h.append
  node n body l st hn hd hb := by
    rw [visitNodePar_eq c n body body (fun _ => rfl)]
    exact h.node n body l st hn hd hb

theorem visitValuesR (h : TAlg c R) : ∀ (vs : List Value) (st : St),
    R (withView st.ti.view (valuesNodes vs)) st (visitValues c vs st) :=
  fun vs st => visitValuesPar_eq c vs st ▸ visitValuesRP h.toP vs st
theorem visitObjFieldR (h : TAlg c R) : ∀ (x : ObjField) (st : St),
    R (withView st.ti.view (objFieldNodes x)) st (visitObjField c x st) :=
  fun x st => visitObjFieldPar_eq c x st ▸ visitObjFieldRP h.toP x st
theorem visitObjFieldsR (h : TAlg c R) : ∀ (fs : List ObjField) (st : St),
    R (withView st.ti.view (objFieldsNodes fs)) st (visitObjFields c fs st) :=
  fun fs st => visitObjFieldsPar_eq c fs st ▸ visitObjFieldsRP h.toP fs st
theorem visitSelR (h : TAlg c R) : ∀ (x : Sel) (st : St), st.ti.directive = none →
    R (tnSel c.schema st.ti.view x) st (visitSel c x st) :=
  fun x st hd => visitSelPar_eq c x st ▸ visitSelRP h.toP x st hd

theorem visitDefsR (h : TAlg c R) (ds : List Def) (st : St) (h0 : st.ti = {}) :
    R (ds.flatMap (tnDef c.schema)) st (ds.foldl (fun st x => visitDef c x st) st) := by
  have e : (fun st x => visitDefPar enterRule c x st) = fun st x => visitDef c x st :=
    funext fun st => funext fun x => visitDefPar_eq c x st
  rw [← e]
  exact visitDefsRP h.toP ds st h0

end

/-- the sum over the (node, view) pairs `l` of `F n w + G n w` (errors on entering plus errors on leaving) -/
def tsum (F G : Node → View → Nat) (l : List (Node × View)) : Nat := (l.map fun p => F p.1 p.2 + G p.1 p.2).sum

theorem tsum_nil (F G : Node → View → Nat) : tsum F G [] = 0 := rfl
theorem tsum_cons (F G : Node → View → Nat) (p : Node × View) (l : List (Node × View)) :
    tsum F G (p :: l) = (F p.1 p.2 + G p.1 p.2) + tsum F G l := by simp [tsum]
theorem tsum_append (F G : Node → View → Nat) (a b : List (Node × View)) :
    tsum F G (a ++ b) = tsum F G a + tsum F G b := by simp [tsum]

/-- a chain that never skips below the document and whose error counts depend on the node and on what
    `TypeInfoVisitor` shows (`TI.view`) only -/
structure TCF (c : Cfg) (F G : Node → View → Nat) : Prop where
  noskip : ∀ n st, n.isDoc = false → (enter c n st).2 = false
  enterE : ∀ n st, n.isDoc = false → E (enter c n st).1 = E st + F n (tiEnter c.schema n st.ti).view
  leaveE : ∀ n st, n.isDoc = false → E (leave c n st) = E st + G n st.ti.view

/-- a visit restores the stacks and adds the errors of the listed (node, context) pairs -/
def TW (F G : Node → View → Nat) (l : List (Node × View)) (st st' : St) : Prop :=
  st'.ti = st.ti ∧ E st' = E st + tsum F G l

variable {c : Cfg} {F G : Node → View → Nat}

theorem TW.nil (st : St) : TW F G [] st st := ⟨rfl, rfl⟩
theorem TW.append {a b : List (Node × View)} {s1 s2 s3 : St} (h1 : TW F G a s1 s2) (h2 : TW F G b s2 s3) :
    TW F G (a ++ b) s1 s3 := ⟨h2.1.trans h1.1, by rw [h2.2, h1.2, tsum_append]; omega⟩

theorem visitNodeT (h : TCF c F G) (n : Node) (body : St → St) (l : List (Node × View)) (st : St)
    (hn : n.isDoc = false) (hd : ∀ d, n = .directive d → st.ti.directive = none)
    (hb : ∀ st1, st1.ti = tiEnter c.schema n st.ti → TW F G l st1 (body st1)) :
    TW F G ((n, View.enter c.schema n st.ti.view) :: l) st (visitNode c n body st) := by
  have e3 := enter_ti c n st
  obtain ⟨b1, b2⟩ := hb _ e3
  rw [visitNode_false (h.noskip n st hn)]
  refine ⟨?_, ?_⟩
  · rw [leave_ti, b1, e3, tiLeave_tiEnter _ _ _ hd]
  · rw [h.leaveE n _ hn, b2, h.enterE n st hn, b1, e3, view_enter]
    simp only [tsum_cons]
    omega

theorem TCF.alg (h : TCF c F G) : TAlg c (TW F G) where
  ti h := h.1
  nil := TW.nil
  append := TW.append
  node := visitNodeT h

theorem visitValuesT (h : TCF c F G) : ∀ (vs : List Value) (st : St),
    TW F G (withView st.ti.view (valuesNodes vs)) st (visitValues c vs st) :=
  visitValuesR h.alg
theorem visitObjFieldT (h : TCF c F G) : ∀ (x : ObjField) (st : St),
    TW F G (withView st.ti.view (objFieldNodes x)) st (visitObjField c x st) :=
  visitObjFieldR h.alg
theorem visitObjFieldsT (h : TCF c F G) : ∀ (fs : List ObjField) (st : St),
    TW F G (withView st.ti.view (objFieldsNodes fs)) st (visitObjFields c fs st) :=
  visitObjFieldsR h.alg
theorem visitSelT (h : TCF c F G) : ∀ (x : Sel) (st : St), st.ti.directive = none →
    TW F G (tnSel c.schema st.ti.view x) st (visitSel c x st) :=
  visitSelR h.alg

theorem visitDefsT (h : TCF c F G) (ds : List Def) (st : St) (h0 : st.ti = {}) :
    TW F G (ds.flatMap (tnDef c.schema)) st (ds.foldl (fun st x => visitDef c x st) st) :=
  visitDefsR h.alg ds st h0

end PyGql.Validate
