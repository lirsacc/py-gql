/-
  C08 — a BOUND on the number of completions of a run: `weight op` counts the tasks an operation can
  ever submit (one per deferred resolver, two per nested one); the potential `queue length + pot top` never increases under
  `deliver` and every completion removes one task from the queue.
-/
import PyGqlModel.Lemmas.ExecEv


namespace PyGql.AsyncExec

def wMode : Mode → Nat
  | .deferred => 1
  | .nested => 2
  | _ => 0

mutual
def wComp : Comp → Nat
  | .nonNull c => wComp c
  | .list items => wComps items
  | .obj fs => wFlds fs
  | _ => 0
def wComps : Comps → Nat
  | .nil => 0
  | .cons c cs => wComp c + wComps cs
def wFlds : Flds → Nat
  | .nil => 0
  | .cons _ mode out rest => wMode mode + wOut out + wFlds rest
def wOut : ROut → Nat
  | .ok c => wComp c
  | _ => 0
end

def potVal : Val → Nat
  | .raw c => wComp c
  | _ => 0

def potK : Cont → Nat
  | .serialCb _ _ _ args => wFlds args
  | _ => 0

mutual
/-- tasks that may still be SUBMITTED because of this node (its own outstanding tasks are in the queue) -/
def pot : Node → Nat
  | .val x => potVal x
  | .done r => pot r
  | .failed _ => 0
  | .task _ _ nested out => (if nested then 1 else 0) + wOut out
  | .chain src k => pot src + potK k
  | .unwrap src => pot src
  | .gather slots _ _ => pots slots
def pots : Nodes → Nat
  | .nil => 0
  | .cons n ns => pot n + pots ns
end

def potRes : Res Node → Nat
  | .ok n => pot n
  | .exc _ => 0

def potsRes : Res Nodes → Nat
  | .ok ns => pots ns
  | .exc _ => 0

def potResVal : Res Val → Nat
  | .ok x => potVal x
  | .exc _ => 0

/-- the callback `k` does not create more than it was accounted for -/
def ApPot (ap : ApplyCont) (k : Cont) : Prop :=
  ∀ r s, (ap k r s).2.queue.length + potRes (ap k r s).1 ≤ s.queue.length + potK k + potResVal r

theorem pot_plain_le (r : Node) : potVal r.plain ≤ pot r := by
  cases r <;> simp [Node.plain, pot, potVal]

theorem pot_unwrapCb (n : Node) : pot (unwrapCb n) = pot n :=
  unwrapCb_congr _ (fun _ => rfl) (fun _ => rfl) n

theorem pot_unwrapValue (n : Node) : pot (unwrapValue n) = pot n := by
  cases n with
  | val x => rfl
  | _ => exact pot_unwrapCb _

theorem pot_settle {r : Res Node × ExecSt} {n : Nat} (h : r.2.queue.length + potRes r.1 ≤ n) :
    (settle r).2.queue.length + pot (settle r).1 ≤ n := by
  obtain ⟨x | e, s'⟩ := r <;> exact h

theorem chainOnFinish_pot (ap : ApplyCont) (k : Cont) (hap : ApPot ap k) (src : Node) (s : ExecSt) :
    (chainOnFinish ap src k s).2.queue.length + pot (chainOnFinish ap src k s).1 ≤ s.queue.length + pot src + potK k := by
  rw [chainOnFinish_eq]
  split
  next e => exact pot_settle (hap _ s)
  next r0 =>
    -- the plain value handed to the callback may submit no more than the Future that held it
    refine pot_settle (Nat.le_trans (hap _ s) ?_)
    rw [Nat.add_right_comm]
    exact Nat.add_le_add_right (Nat.add_le_add_left (pot_plain_le r0) _) _
  next => exact Nat.le_of_eq (Nat.add_assoc _ _ _).symm

theorem mapValue_pot (ap : ApplyCont) (k : Cont) (hap : ApPot ap k) (src : Node) (s : ExecSt) :
    (mapValue ap src k s).2.queue.length + potRes (mapValue ap src k s).1 ≤ s.queue.length + pot src + potK k := by
  unfold mapValue
  split
  next x =>
    have h := hap (.ok x) s
    rw [Nat.add_right_comm] at h
    exact h
  next =>
    split
    · exact chainOnFinish_pot ap k hap _ s
    · exact Nat.le_of_eq (Nat.add_assoc _ _ _).symm

theorem potVal_collect (keys : List String) (x : Val) : potVal (collect keys x) = 0 := by
  unfold collect
  split <;> rfl

theorem applySimple_pot (k : Cont) : ApPot applySimple k := by
  intro r s
  fun_cases applySimple k r s with
  | case1 k e s => exact Nat.le_add_right s.queue.length (potK k)
  | case2 keys x s => exact Nat.le_trans (Nat.le_of_eq (congrArg _ (potVal_collect keys x))) (Nat.le_add_right _ _)
  | case3 path x s v s' hh =>
    unfold handleNonNullableValue at hh
    split at hh <;> cases hh <;> exact Nat.le_refl _
  | case4 x s => exact Nat.le_refl _
  | case5 k x s => exact Nat.le_trans (Nat.le_add_right _ (potK k)) (Nat.le_add_right _ _)

theorem gatherAfter_pot (slots : Nodes) (done target : Nat) (fired : List (Except Exc Node)) :
    pot (gatherAfter slots done target fired) ≤ pots slots := by
  rcases gatherAfter_cases slots done target fired with ⟨d', _, h⟩ | ⟨e, _, h⟩ | ⟨rs, _, h⟩ <;> rw [h]
  · exact Nat.le_refl _
  -- the aggregate is set: nothing can be submitted on its behalf any more
  · exact Nat.zero_le _
  · rw [pot, pot, valOfResults]
    split <;> exact Nat.zero_le _

theorem gatherValues_pot (source : Nodes) : pot (gatherValues source) ≤ pots source := by
  rcases gatherValues_cases source with ⟨_, h⟩ | ⟨_, h⟩
  · rw [h, pot, valOfResults]
    split <;> exact Nat.zero_le _
  · rw [h]
    exact gatherAfter_pot ..

theorem failField_pot (path : Path) (s : ExecSt) :
    (failField path s).2.queue.length = s.queue.length ∧ pot (failField path s).1 = 0 := by
  simp [failField, ExecSt.addError, pot, potVal]

/-- two steps in a row: the budgets add up, and so do the potentials left behind -/
theorem budget_seq {q0 q1 q2 p p1 p2 w1 w2 : Nat} (h1 : q1 + p1 ≤ q0 + w1) (h2 : q2 + p2 ≤ q1 + w2)
    (hp : p ≤ p1 + p2) : q2 + p ≤ q0 + (w1 + w2) := by omega

/-- the tasks an outcome has queued, and those its node may still submit, are paid for by the budget `w` -/
def PotOK (s : ExecSt) (w : Nat) (r : Res Node × ExecSt) : Prop := r.2.queue.length + potRes r.1 ≤ s.queue.length + w

def PotsOK (s : ExecSt) (w : Nat) (r : Res Nodes × ExecSt) : Prop := r.2.queue.length + potsRes r.1 ≤ s.queue.length + w

theorem PotOK.mono {s : ExecSt} {w w' : Nat} {r : Res Node × ExecSt} (h : PotOK s w r) (hw : w ≤ w') : PotOK s w' r :=
  Nat.le_trans h (Nat.add_le_add_left hw _)

theorem PotOK.chain {ap : ApplyCont} {s : ExecSt} {w : Nat} {r : Res Node × ExecSt} (k : Cont) (hap : ApPot ap k)
    (h : PotOK s w r) : PotOK s (w + potK k) (chainRes ap k r) := by
  obtain ⟨n | e, s1⟩ := r
  · exact Nat.le_trans (mapValue_pot ap k hap n s1) (Nat.le_trans (Nat.add_le_add_right h _) (Nat.le_of_eq (Nat.add_assoc _ _ _)))
  · exact h.mono (Nat.le_add_right _ _)

theorem PotsOK.gather {s : ExecSt} {w : Nat} {r : Res Nodes × ExecSt} (h : PotsOK s w r) : PotOK s w (gatherRes r) := by
  obtain ⟨ns | e, s1⟩ := r
  · exact Nat.le_trans (Nat.add_le_add_left (gatherValues_pot ns) _) h
  · exact h

theorem PotOK.cons {s : ExecSt} {w ws : Nat} {r : Res Node × ExecSt} {rest : ExecSt → Res Nodes × ExecSt}
    (h1 : PotOK s w r) (h2 : ∀ s1, PotsOK s1 ws (rest s1)) : PotsOK s (w + ws) (consRes r rest) := by
  obtain ⟨n | e, s1⟩ := r
  · have h2 := h2 s1
    simp only [consRes, thenR]
    generalize rest s1 = y at h2 ⊢
    obtain ⟨ns | e, s2⟩ := y
    · exact budget_seq h1 h2 (Nat.le_refl _)
    · exact budget_seq h1 h2 (Nat.zero_le _)
  · exact Nat.le_trans h1 (Nat.add_le_add_left (Nat.le_add_right _ _) _)

theorem PotOK.catch {s : ExecSt} {w : Nat} {path : Path} {r : Res Node × ExecSt} (h : PotOK s w r) :
    PotOK s w (catchRes path r) := by
  obtain ⟨n | e, s1⟩ := r
  · exact h
  · cases e <;> exact h

theorem PotOK.nowOf {s : ExecSt} {w : Nat} {r : Res Node × ExecSt} (h : PotOK s w r) : PotOK s w (nowOf r) := by
  obtain ⟨n | e, s1⟩ := r
  · show _ + pot (unwrapValue n) ≤ _
    rw [pot_unwrapValue]
    exact h
  · exact h

theorem PotOK.futureOf {s : ExecSt} {w : Nat} {r : Res Node × ExecSt} (h : PotOK s w r) : PotOK s w (futureOf r) := by
  obtain ⟨n | e, s1⟩ := r
  · show _ + pot (unwrapCb (.done n)) ≤ _
    rw [pot_unwrapCb]
    exact h
  · exact h

/-- a deferred field costs the task it submits; what that task may submit in turn stays on the node's account -/
theorem PotOK.parked (path : Path) (nested : Bool) (out : ROut) (s : ExecSt) :
    PotOK s (1 + ((if nested then 1 else 0) + wOut out)) (.ok (parked s.next path nested out), (s.emit (.call path)).submit.2) := by
  show (s.queue ++ [s.next]).length + ((if nested then 1 else 0) + wOut out + 0) ≤ _
  rw [List.length_append, List.length_singleton]
  omega

theorem pot_cases : ExecCases (fun _ c s r => PotOK s (wComp c) r) (fun _ _ cs s r => PotsOK s (wComps cs) r)
    (fun _ fs s r => PotsOK s (wFlds fs) r) (fun _ mode out s r => PotOK s (wMode mode + wOut out) r)
    (fun _ out s r => PotOK s (wOut out) r) where
  null _ _ := Nat.le_refl _
  leaf _ _ _ := Nat.le_refl _
  bad _ _ := Nat.le_refl _
  nonNull path _ _ ih := PotOK.chain (.nonNull path) (applySimple_pot _) ih
  list _ _ _ ih := PotsOK.gather ih
  obj _ fields _ ih := PotOK.chain (.collect fields.keys) (applySimple_pot _) (PotsOK.gather ih)
  inil _ _ _ := Nat.le_refl _
  icons _ _ _ _ _ ih1 ih2 := PotOK.cons ih1 ih2
  fnil _ _ := Nat.le_refl _
  fcons _ _ _ _ _ _ ih1 ih2 := PotOK.cons ih1 ih2
  deferred path out s := (PotOK.parked path false out s).mono (Nat.le_of_eq (congrArg _ (Nat.zero_add _)))
  nested path out s := (PotOK.parked path true out s).mono (Nat.le_of_eq (Nat.add_assoc 1 1 _).symm)
  sync _ _ _ ih := (PotOK.nowOf ih).mono (Nat.le_add_left _ _)
  ready _ _ _ ih := (PotOK.futureOf ih).mono (Nat.le_add_left _ _)
  rerr _ _ := Nat.le_refl _
  exc _ _ := Nat.le_refl _
  ok _ _ _ ih := PotOK.catch ih

theorem completeValue_pot : ∀ (c : Comp) (path : Path) (s : ExecSt),
    (completeValue path c s).2.queue.length + potRes (completeValue path c s).1 ≤ s.queue.length + wComp c :=
  pot_cases.value

theorem completeItems_pot : ∀ (cs : Comps) (path : Path) (i : Nat) (s : ExecSt),
    (completeItems path i cs s).2.queue.length + potsRes (completeItems path i cs s).1 ≤ s.queue.length + wComps cs :=
  pot_cases.items

theorem resolveFields_pot : ∀ (fs : Flds) (path : Path) (s : ExecSt),
    (resolveFields path fs s).2.queue.length + potsRes (resolveFields path fs s).1 ≤ s.queue.length + wFlds fs :=
  pot_cases.fields

theorem resolveField_potOK (out : ROut) (path : Path) (mode : Mode) (s : ExecSt) :
    PotOK s (wMode mode + wOut out) (resolveField path mode out s) :=
  pot_cases.field out path mode s

theorem resolveField_pot : ∀ (out : ROut) (path : Path) (mode : Mode) (s : ExecSt),
    (resolveField path mode out s).2.queue.length + potRes (resolveField path mode out s).1
      ≤ s.queue.length + wMode mode + wOut out :=
  fun out path mode s => Nat.le_trans (resolveField_potOK out path mode s) (Nat.le_of_eq (Nat.add_assoc _ _ _).symm)

/-- the parked `cb` of `_next` resumes `_next` on the rest of the queue, which is what it was accounted for -/
theorem serialCb_pot (path : Path) (key : String) (resolved : List (String × V)) (args : Flds)
    (ih : ∀ resolved s, PotOK s (wFlds args) (serialNext path resolved args s)) :
    ApPot applyCont (.serialCb path key resolved args) :=
  serialCb_cases (Q := fun r s x => x.2.queue.length + potRes x.1 ≤ s.queue.length + wFlds args + potResVal r)
    (fun _ s => ih _ s) (applySimple_pot _)

theorem serialNext_pot (path : Path) : ∀ (args : Flds) (resolved : List (String × V)) (s : ExecSt),
    (serialNext path resolved args s).2.queue.length + potRes (serialNext path resolved args s).1 ≤ s.queue.length + wFlds args
  | .nil, _, _ => Nat.le_refl _
  | .cons key mode out rest, resolved, s => by
    rw [serialNext_cons]
    exact (resolveField_potOK out _ mode s).chain _ (serialCb_pot path key resolved rest (serialNext_pot path rest))

theorem applyCont_pot (k : Cont) : ApPot applyCont k := by
  intro r s
  fun_cases applyCont k r s with
  | case1 path c s s1 hcv n s' hff =>
    have h := completeValue_pot c path s
    rw [hcv] at h
    cases hff
    exact h
  | case2 path c s => exact completeValue_pot c path s
  | case3 path s n s' hff =>
    cases hff
    exact Nat.le_refl _
  | case4 path key resolved args v s => exact serialNext_pot path args _ s
  | case5 k r s => exact applySimple_pot k r s

/-- `execute`: `_on_finish` submits nothing -/
theorem execute_pot (op : Op) (s : ExecSt) : PotOK s (wFlds op.fields) (execute op s) := by
  have hroot : PotOK s (wFlds op.fields) (execRoot op s) := by
    unfold execRoot
    cases op.kind
    · exact completeValue_pot (.obj op.fields) [] s
    · exact serialNext_pot [] op.fields [] s
  exact execute_eq op s ▸ hroot.nowOf.chain .onFinish (applyCont_pot _)

theorem finishTask_pot (path : Path) (nested : Bool) (out : ROut) (s : ExecSt) :
    (finishTask path nested out s).2.queue.length + pot (finishTask path nested out s).1
      ≤ s.queue.length + ((if nested then 1 else 0) + wOut out) := by
  unfold finishTask
  cases nested <;> cases out <;> simp [pot, potVal, ExecSt.submit, ExecSt.emit, wOut] <;> omega

theorem deliver_pot_cases (t : Nat) : DeliverCases applyCont t
    (fun n s r => r.2.queue.length + pot r.1 ≤ s.queue.length + pot n)
    (fun ns s r => r.2.2.queue.length + pots r.1 ≤ s.queue.length + pots ns) where
  val _ _ := Nat.le_refl _
  done _ _ := Nat.le_refl _
  failed _ _ := Nat.le_refl _
  hit path nested out s := finishTask_pot path nested out s
  miss _ _ _ _ _ _ := Nat.le_refl _
  chain _ k _ ih := Nat.le_trans (chainOnFinish_pot applyCont k (applyCont_pot k) _ _)
    (Nat.le_trans (Nat.add_le_add_right ih _) (Nat.le_of_eq (Nat.add_assoc _ _ _)))
  unwrap _ _ ih := (pot_unwrapCb _).symm ▸ ih
  gather _ _ _ _ ih := Nat.le_trans (Nat.add_le_add_left (gatherAfter_pot _ _ _ _) _) ih
  nil _ := Nat.le_refl _
  cons _ _ _ ih1 ih2 := budget_seq ih1 ih2 (Nat.le_refl _)

theorem deliver_pot : ∀ (n : Node) (t : Nat) (s : ExecSt),
    (deliver applyCont t n s).2.queue.length + pot (deliver applyCont t n s).1 ≤ s.queue.length + pot n :=
  fun n t s => (deliver_pot_cases t).node n s

theorem deliverSlots_pot : ∀ (ns : Nodes) (t : Nat) (s : ExecSt),
    (deliverSlots applyCont t ns s).2.2.queue.length + pots (deliverSlots applyCont t ns s).1 ≤ s.queue.length + pots ns :=
  fun ns t s => (deliver_pot_cases t).slots ns s

end PyGql.AsyncExec
