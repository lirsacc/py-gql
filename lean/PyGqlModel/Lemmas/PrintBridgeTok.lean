/-
  Lexer: every token of an accepted text has a class whose value is a lexeme of that class by the
  specification — names, integers, floats by the recognisers; block-string values canonical (`CanonBlock`).
  From `lex_sound` (C01), `block_string_spec` (C02) and `parseBlockString_range`.
  Matcher: every class of the canonical yield of a matched view is the class of a matched token.
-/
import PyGqlModel.Props.C01_lex
import PyGqlModel.Props.C02_decode
import PyGqlModel.Lemmas.PrintBlockForms
import PyGqlModel.Lemmas.ParseCore
namespace PyGql.PrintTokens
open PyGql PyGql.Lex PyGql.Spec PyGql.PrintLex PyGql.PrintString

/-- the value carried by a token class is a lexeme of that class -/
def ClassOK : TokClass → Prop
  | (.name, v) => Spec.Lexical.isName v = true
  | (.int, v) => Spec.Lexical.isIntValue v = true
  | (.float, v) => Spec.Lexical.isFloatValue v = true
  | (.blockString, v) => CanonBlock v
  | _ => True

theorem isSourceChar_blockChar (c : Nat) : Spec.Lexical.isSourceChar c = blockChar c :=
  (printable_or_lineTerm c).symm

theorem blockStringCharacters_chars : ∀ (s : Text) (k : Nat) (raw : Text), k ≤ leadQ s →
    Spec.Lexical.blockStringCharacters k s = some raw → ∀ c ∈ raw, blockChar c = true
  | [], k, raw, _, h => by simp [Spec.Lexical.blockStringCharacters] at h
  | a :: t, k + 1, raw, hk, h => by
    obtain ⟨_, he, hk'⟩ := leadQ_succ hk
    cases he
    simp only [Spec.Lexical.blockStringCharacters, Option.map_eq_some_iff] at h
    obtain ⟨r, hr, rfl⟩ := h
    intro c hc
    simp only [List.mem_cons] at hc
    rcases hc with rfl | hc
    · decide +kernel
    · exact blockStringCharacters_chars t k r hk' hr c hc
  | a :: t, 0, raw, _, h => by
    rw [Spec.Lexical.blockStringCharacters] at h
    split at h
    · split at h
      · cases h; intro c hc; cases hc
      · cases h
    · rename_i hp
      split at h
      · rename_i h92
        have h3 : 3 ≤ leadQ t := (tq_prefix_iff t).mp (by simpa [tq] using h92.2)
        exact blockStringCharacters_chars t 3 raw h3 h
      · split at h
        · cases h
        · rename_i hsc
          simp only [Option.map_eq_some_iff] at h
          obtain ⟨r, hr, rfl⟩ := h
          intro c hc
          simp only [List.mem_cons] at hc
          rcases hc with rfl | hc
          · rw [← isSourceChar_blockChar]; simpa using hsc
          · exact blockStringCharacters_chars t 0 r (Nat.zero_le _) hr c hc

open PyGql.BlockString in
theorem mem_parseBlockString (raw : Text) : ∀ c ∈ parseBlockString raw, c = 10 ∨ c ∈ raw := by
  intro c hc
  unfold parseBlockString at hc
  rcases mem_joinLF _ c hc with h | ⟨x, hx, hcx⟩
  · exact Or.inl h
  · right
    have hx1 := mem_popLeading (mem_popTrailing hx)
    have hsplit : ∀ x ∈ splitLinesAux false raw, ∀ c ∈ x, c ∈ raw :=
      fun x hx c hc => (splitLinesAux_chars false raw x hx c hc).1
    cases hci : BlockString.commonIndent (splitLines raw) with
    | none => rw [hci] at hx1; exact hsplit x hx1 c hcx
    | some k =>
      rw [hci] at hx1
      simp only [List.mem_append, List.mem_map] at hx1
      rcases hx1 with h | ⟨y, hy, rfl⟩
      · exact hsplit x (List.mem_of_mem_take h) c hcx
      · exact hsplit y (List.mem_of_mem_drop hy) c (List.mem_of_mem_drop hcx)


open PyGql.BlockString in
theorem canonBlock_parseBlockString (raw : Text) (hraw : ∀ c ∈ raw, blockChar c = true) : CanonBlock (parseBlockString raw) := by
  refine canonBlock_parse raw fun c hc => ?_
  rcases mem_parseBlockString raw c hc with rfl | h
  · decide +kernel
  · exact hraw c h

theorem classOK_of_lexeme (k : TokKind) (lex v : Text) (h : Spec.Lexical.Lexeme k lex v) : ClassOK (k, v) := by
  cases k <;> simp only [Spec.Lexical.Lexeme, ClassOK] at h ⊢
  · obtain ⟨h1, rfl⟩ := h; exact h1
  · obtain ⟨h1, rfl⟩ := h; exact h1
  · obtain ⟨h1, rfl⟩ := h; exact h1
  · -- block string
    simp only [Option.map_eq_some_iff] at h
    obtain ⟨raw, hraw, rfl⟩ := h
    rw [← Props.C02.block_string_spec]
    apply canonBlock_parseBlockString
    unfold Spec.Lexical.blockStringRaw at hraw
    split at hraw
    · exact blockStringCharacters_chars _ 0 raw (Nat.zero_le _) hraw
    · cases hraw

theorem classOK_of_tiles (n : Nat) (s : Text) (body : List Tok) (h : Spec.Lexical.Tiles n s body) :
    ∀ t ∈ body, ClassOK (t.kind, t.value) := by
  induction h with
  | eof ign _ => intro t ht; simp at ht; subst ht; simp [ClassOK]
  | tok ign lex rest k v toks _ hlex _ _ ih =>
    intro t ht
    simp only [List.mem_cons] at ht
    rcases ht with rfl | ht
    · exact classOK_of_lexeme k lex v hlex
    · exact ih t ht

theorem classOK_of_lexAll (s : Text) (toks : List Tok) (h : lexAll s = .ok toks) : ∀ t ∈ toks, ClassOK (cls t) := by
  obtain ⟨body, rfl, htiles⟩ := Props.C01.lex_sound s toks h
  intro t ht
  simp only [List.mem_cons] at ht
  have key : ∀ t : Tok, ClassOK (t.kind, t.value) → ClassOK (cls t) := by
    intro t h
    unfold cls
    cases hk : t.kind <;> simp only [hk, hasValue, ↓reduceIte, Bool.false_eq_true] at h ⊢ <;>
      first | exact h | simp [ClassOK]
  rcases ht with rfl | ht
  · simp [cls, sofTok, hasValue, ClassOK]
  · exact key t (classOK_of_tiles _ _ _ htiles t ht)

open PyGql.Ast PyGql.Parse

theorem check_yield_mem (fl : Flags) : ∀ (i : Item) (l l' : Tok) (ts rest : List Tok),
    i.check fl l ts = some (l', rest) → ∀ c ∈ i.yield, ∃ t ∈ ts, cls t = c := by
  intro i l l' ts rest h c hc
  obtain ⟨pre, rfl, hs, _⟩ := check_spans fl i l l' ts rest h
  obtain ⟨t, ht, e⟩ := List.mem_map.1 ((spans_yield hs).subset hc)
  exact ⟨t, List.mem_append_left _ ht, e⟩

theorem checkAll_yield_mem (fl : Flags) : ∀ (is : List Item) (l l' : Tok) (ts rest : List Tok),
    Item.checkAll fl is l ts = some (l', rest) → ∀ c ∈ Item.yieldAll is, ∃ t ∈ ts, cls t = c := by
  intro is l l' ts rest h c hc
  obtain ⟨pre, rfl, hs, _⟩ := checkAll_spans fl is l l' ts rest h
  obtain ⟨t, ht, e⟩ := List.mem_map.1 ((spansAll_yield hs).subset hc)
  exact ⟨t, List.mem_append_left _ ht, e⟩

theorem yield_classOK (fl : Flags) (items : List Item) (toks : List Tok) (hm : matchesAll fl items toks = true)
    (hok : ∀ t ∈ toks, ClassOK (cls t)) : ∀ c ∈ Item.yieldAll items, ClassOK c := by
  unfold matchesAll at hm
  split at hm
  · rename_i l' h
    intro c hc
    obtain ⟨t, ht, rfl⟩ := checkAll_yield_mem fl items default l' toks [] h c hc
    exact hok t ht
  · cases hm

end PyGql.PrintTokens
