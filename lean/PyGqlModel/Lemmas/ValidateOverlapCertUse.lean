/-
  `OverlappingFieldsCanBeMergedChecker`, soundness with fragment spreads: certificates suffice.
  If every key of the memo `M` is closed (`KeyObl`), every selection set of the document has its `WithinCert`,
  the routes to the parent types agree and no fragment is named "", then no selection set contains two conflicting
  fields. By induction on the height of the conflict derivation (`levels`); at a fixed height fragment pairs are chased
  through the memo by induction on the lengths of the spread paths (`chase_of`, stated for any certificate predicate: the
  memoised search uses it too; `lvChase_of` is its instance). Without fragment spreads there is
  nothing to chase and the certificates of the selection sets suffice (`clause_of_certs_noSpreads`).
-/
import PyGqlModel.Lemmas.ValidateOverlapCert
namespace PyGql.Validate
open PyGql PyGql.Validate.Spec

section
variable {s : SchemaD} {d : Doc} {M : Memo}

theorem ent_of_collD {i : Nat} {sels : List Sel} {p : Option String} {rn : String} {e : FEntry}
    (h1 : SelSet d i sels) (h2 : Adm s d i p) (h3 : CollD s p sels rn e) : Ent s d e := ⟨i, sels, p, rn, h1, h2, h3⟩

theorem ent_of_collFH {k : Nat} {g rn : String} {e : FEntry} (h : CollFH s d k g rn e) : Ent s d e := by
  induction h with
  | here h1 h2 h3 => exact ent_of_collD (fragTable_selSet h1) h2 h3
  | there _ _ _ ih => exact ih

theorem ent_of_collF {g rn : String} {e : FEntry} (h : CollF s d g rn e) : Ent s d e := by
  obtain ⟨k, hk⟩ := collF_collFH h; exact ent_of_collFH hk

theorem ent_of_coll {i : Nat} {sels : List Sel} {p : Option String} {rn : String} {e : FEntry}
    (h1 : SelSet d i sels) (h2 : Adm s d i p) (h3 : Coll s d p sels rn e) : Ent s d e := by
  rcases h3 with h3 | ⟨g, _, hg⟩
  · exact ent_of_collD h1 h2 h3
  · exact ent_of_collF hg

variable (hpa : ParentsAgree s d) (hne : AL.get? (fragTable d) "" = none)
  (hK : ∀ k, M k → KeyObl s d M k)
  (hW : ∀ i sels, SelSet d i sels → ∀ p, Adm s d i p → WithinCert s d M p sels)

/-- The levels of the induction on the height `n` of a conflict derivation (`levels`): `LvA` - a certified pair has no conflict of
    height `n`; `LvChase` - covered fragment pairs have no conflicting fields of height `n`; `LvSet` - no selection set of the document
    contains two fields with a conflict of height `n`; `LvSelf` - a field has no conflict of height `n` with itself. -/
def LvA (s : SchemaD) (d : Doc) (M : Memo) (n : Nat) : Prop :=
  ∀ me e1 e2, Ent s d e1 → Ent s d e2 → Cert s d M me e1 e2 → ¬ ConfH s d n me e1 e2
def LvChase (s : SchemaD) (d : Doc) (M : Memo) (n : Nat) : Prop :=
  ∀ k1 k2 g1 g2 me rn e1 e2, CovS M me g1 g2 → CollFH s d k1 g1 rn e1 → CollFH s d k2 g2 rn e2 → ¬ ConfH s d n me e1 e2
/-- `LvChase` for the names some selection set of the document spreads: all the levels ask for -/
def LvChaseS (s : SchemaD) (d : Doc) (M : Memo) (n : Nat) : Prop :=
  ∀ i sels g1, SelSet d i sels → SpreadD sels g1 → ∀ k1 k2 g2 me rn e1 e2, CovS M me g1 g2 → CollFH s d k1 g1 rn e1 →
    CollFH s d k2 g2 rn e2 → ¬ ConfH s d n me e1 e2

theorem LvChase.spread {s : SchemaD} {d : Doc} {M : Memo} {n : Nat} (h : LvChase s d M n) : LvChaseS s d M n :=
  fun _ _ g1 _ _ k1 k2 g2 => h k1 k2 g1 g2

def LvSet (s : SchemaD) (d : Doc) (n : Nat) : Prop :=
  ∀ i sels p rn e1 e2 me, SelSet d i sels → Adm s d i p → Coll s d p sels rn e1 → Coll s d p sels rn e2 →
    ¬ ConfH s d n me e1 e2
def LvSelf (s : SchemaD) (d : Doc) (n : Nat) : Prop := ∀ e, Ent s d e → ¬ ConfH s d n false e e

include hpa in
theorem lvA_of (n : Nat) (hprev : ∀ m, n = m + 1 → LvA s d M m ∧ LvChaseS s d M m) : LvA s d M n := by
  intro me f1 f2 hf1 hf2 hcert hconf
  obtain ⟨c1, c2, c3, c4, c5, c6⟩ := hcert
  -- a conflict between the sub-selections, the two sub-fields in the order of `f1`, `f2`
  have sub : ∀ {m : Nat} {p1 p2 : Option String} {rn : String} {e1 e2 : FEntry}, n = m + 1 → f1.hasSub = true →
      f2.hasSub = true → Adm s d f1.ssid p1 → Adm s d f2.ssid p2 → Coll s d p1 f1.sub rn e1 → Coll s d p2 f2.sub rn e2 →
      ConfH s d m (me || exclusiveParents s f1 f2) e1 e2 → False := by
    intro m p1 p2 rn e1 e2 hn s1 s2 a1 a2 x1 x2 hsub
    obtain ⟨hA, hC⟩ := hprev m hn
    obtain ⟨hs1, ha1⟩ := hf1.sub s1
    obtain ⟨hs2, ha2⟩ := hf2.sub s2
    rw [hpa _ _ _ a1 ha1] at x1
    rw [hpa _ _ _ a2 ha2] at x2
    rcases x1 with x1 | ⟨g1, hg1, y1⟩ <;> rcases x2 with x2 | ⟨g2, hg2, y2⟩
    · exact hA _ _ _ (ent_of_collD hs1 ha1 x1) (ent_of_collD hs2 ha2 x2) (c3 s1 s2 _ _ _ x1 x2) hsub
    · exact hA _ _ _ (ent_of_collD hs1 ha1 x1) (ent_of_collF y2) (c4 s1 s2 g2 hg2 _ _ _ x1 y2) hsub
    · exact hA _ _ _ (ent_of_collD hs2 ha2 x2) (ent_of_collF y1) (c5 s1 s2 g1 hg1 _ _ _ x2 y1) hsub.symm
    · obtain ⟨k1, z1⟩ := collF_collFH y1
      obtain ⟨k2, z2⟩ := collF_collFH y2
      exact hC _ _ g1 hs1 hg1 k1 k2 g2 _ _ _ _ (Or.inl (c6 s1 s2 g1 g2 hg1 hg2)) z1 z2 hsub
  cases hconf with
  | args hme harg =>
    obtain ⟨a, b⟩ := c1 hme
    rcases harg with h | h
    · exact h a
    · rw [b] at h; cases h
  | types h1 h2 h3 => rw [c2 _ _ h1 h2] at h3; cases h3
  | sub s1 s2 a1 a2 x1 x2 hsub => exact sub rfl s1 s2 a1 a2 x1 x2 hsub
  | subSwap s1 s2 a1 a2 x1 x2 hsub => exact sub rfl s1 s2 a1 a2 x1 x2 hsub.symm

include hpa in
theorem lvSelf_of (n : Nat) (hprev : ∀ m, n = m + 1 → LvSet s d m) : LvSelf s d n := by
  intro e he hconf
  have sub : ∀ {m : Nat} {p1 p2 : Option String} {rn : String} {e1 e2 : FEntry}, n = m + 1 → e.hasSub = true →
      Adm s d e.ssid p1 → Adm s d e.ssid p2 → Coll s d p1 e.sub rn e1 → Coll s d p2 e.sub rn e2 →
      ConfH s d m (false || exclusiveParents s e e) e1 e2 → False := by
    intro m p1 p2 rn e1 e2 hn s1 a1 a2 x1 x2 hsub
    obtain ⟨hs, ha⟩ := he.sub s1
    rw [hpa _ _ _ a1 ha] at x1
    rw [hpa _ _ _ a2 ha] at x2
    exact hprev m hn _ _ _ _ _ _ _ hs ha x1 x2 hsub
  cases hconf with
  | args _ harg =>
    rcases harg with h | h
    · exact h rfl
    · rw [sameArguments_refl] at h; cases h
  | types h1 h2 h3 => rw [h1] at h2; cases h2; rw [typesConflict_irrefl] at h3; cases h3
  | sub s1 _ a1 a2 x1 x2 hsub => exact sub rfl s1 a1 a2 x1 x2 hsub
  | subSwap s1 _ a1 a2 x1 x2 hsub => exact sub rfl s1 a2 a1 x2 x1 hsub

end

section
variable {s : SchemaD} {d : Doc} {M : Memo}
variable (hpa : ParentsAgree s d) (hne : AL.get? (fragTable d) "" = none)
  (hK : ∀ k, M k → KeyObl s d M k)
  (hW : ∀ i sels, SelSet d i sels → ∀ p, Adm s d i p → WithinCert s d M p sels)

/-- two fields reached from ONE fragment by spread paths of lengths `k1`, `k2` have no conflict of height `n` -/
def BfP (s : SchemaD) (d : Doc) (n k1 k2 : Nat) : Prop :=
  ∀ g rn e1 e2 me, CollFH s d k1 g rn e1 → CollFH s d k2 g rn e2 → ¬ ConfH s d n me e1 e2
theorem relaxF {n : Nat} {me : Bool} {e1 e2 : FEntry} (h : ConfH s d n me e1 e2) : ConfH s d n false e1 e2 :=
  h.relax false (fun h => by cases h)

include hpa hW in
/-- two fields of one fragment -/
theorem bfP_of (n : Nat) (hA : LvA s d M n) (hSelf : LvSelf s d n) (k1 k2 : Nat)
    (hC : ∀ a b, a + b + 2 ≤ k1 + k2 → ChPOf s d M n a b) : BfP s d n k1 k2 := by
  intro g rn e1 e2 me h1 h2 hconf
  have hconf := relaxF hconf
  cases h1 with
  | here t1 a1 c1 =>
    cases h2 with
    | here t2 a2 c2 =>
      rw [t1] at t2; cases t2
      rw [hpa _ _ _ a2 a1] at c2
      have hs := fragTable_selSet t1
      by_cases he : e1 = e2
      · subst he; exact hSelf _ (ent_of_collD hs a1 c1) hconf
      · rcases (hW _ _ hs _ a1).direct _ _ _ c1 c2 he with hc | hc
        · exact hA _ _ _ (ent_of_collD hs a1 c1) (ent_of_collD hs a1 c2) hc hconf
        · exact hA _ _ _ (ent_of_collD hs a1 c2) (ent_of_collD hs a1 c1) hc hconf.symm
    | there t2 sp2 r2 =>
      rw [t1] at t2; cases t2
      have hs := fragTable_selSet t1
      exact hA _ _ _ (ent_of_collD hs a1 c1) (ent_of_collFH r2)
        ((hW _ _ hs _ a1).frag _ sp2 _ _ _ c1 (collFH_collF r2)) hconf
  | @there k1' _ _ g1' _ _ _ _ t1 sp1 r1 =>
    cases h2 with
    | here t2 a2 c2 =>
      rw [t1] at t2; cases t2
      have hs := fragTable_selSet t1
      exact hA _ _ _ (ent_of_collD hs a2 c2) (ent_of_collFH r1)
        ((hW _ _ hs _ a2).frag _ sp1 _ _ _ c2 (collFH_collF r1)) hconf.symm
    | @there k2' _ _ g2' _ _ _ _ t2 sp2 r2 =>
      rw [t1] at t2; cases t2
      have hs := fragTable_selSet t1
      obtain ⟨p, hp⟩ : ∃ p, Adm s d _ p := ⟨_, Adm.frag t1⟩
      exact hC k1' k2' (by omega) _ _ _ _ _ _ ((hW _ _ hs _ hp).frags _ _ sp1 sp2) r1 r2 hconf

theorem collFH_defined {k : Nat} {g rn : String} {e : FEntry} (h : CollFH s d k g rn e) :
    (AL.get? (fragTable d) g).isSome = true := by
  cases h with
  | here t _ _ => rw [t]; rfl
  | there t _ _ => rw [t]; rfl

theorem sortedPair_cases (a b : String) : sortedPair a b = (a, b) ∨ sortedPair a b = (b, a) := by
  unfold sortedPair; split <;> simp

end

section
variable (P : String × String × Bool → Prop) (C : Bool → FEntry → FEntry → Prop)

variable {s : SchemaD} {d : Doc} (hne : AL.get? (fragTable d) "" = none) (hK : ∀ k, P k → KeyOblOf s d P C k)

include hne hK in
theorem chase_oriented (n : Nat) (hA : LvAOf s d C n) (k1 k2 : Nat) (hB : BfP s d n k1 k2)
    (hC : ∀ a b, a + b < k1 + k2 → ChPOf s d P n a b)
    (g1 g2 : String) (me : Bool) (rn : String) (e1 e2 : FEntry) (hcov : CovOf P me g1 g2)
    (h1 : CollFH s d k1 g1 rn e1) (h2 : CollFH s d k2 g2 rn e2) : ¬ ConfH s d n me e1 e2 := by
  intro hconf
  rcases hcov with rfl | rfl | rfl | hm
  · have := collFH_defined h1; rw [hne] at this; cases this
  · have := collFH_defined h2; rw [hne] at this; cases this
  · exact hB _ _ _ _ _ h1 h2 hconf
  · have ko : KeyOblOf s d P C (keyOf g1 g2 me) := hK _ hm
    have obl : (∀ rn e1 e2, DirF s d g1 rn e1 → DirF s d g2 rn e2 → C me e1 e2 ∨ C me e2 e1) ∧
        (∀ h, SprF d g1 h → CovSOf P me h g2) ∧ (∀ h, SprF d g2 h → CovSOf P me g1 h) := by
      rcases sortedPair_cases g1 g2 with hsp | hsp
      · simp only [keyOf, hsp] at ko
        exact ko (collFH_defined h1) (collFH_defined h2)
      · simp only [keyOf, hsp] at ko
        obtain ⟨o1, o2, o3⟩ := ko (collFH_defined h2) (collFH_defined h1)
        exact ⟨fun rn e1 e2 d1 d2 => (o1 rn e2 e1 d2 d1).symm, fun h hh => (o3 h hh).symm, fun h hh => (o2 h hh).symm⟩
    obtain ⟨o1, o2, o3⟩ := obl
    cases h1 with
    | here t1 a1 c1 =>
      cases h2 with
      | here t2 a2 c2 =>
        have en1 := ent_of_collD (fragTable_selSet t1) a1 c1
        have en2 := ent_of_collD (fragTable_selSet t2) a2 c2
        rcases o1 _ _ _ ⟨_, _, _, _, t1, a1, c1⟩ ⟨_, _, _, _, t2, a2, c2⟩ with hc | hc
        · exact hA _ _ _ en1 en2 hc hconf
        · exact hA _ _ _ en2 en1 hc hconf.symm
      | @there k2' _ _ h _ _ _ _ t2 sp2 r2 =>
        exact hC k1 k2' (by omega) _ _ _ _ _ _ (o3 h ⟨_, _, _, t2, sp2⟩) (.here t1 a1 c1) r2 hconf
    | @there k1' _ _ h _ _ _ _ t1 sp1 r1 =>
      exact hC k1' k2 (by omega) _ _ _ _ _ _ (o2 h ⟨_, _, _, t1, sp1⟩) r1 h2 hconf

include hne hK in
/-- fragment pairs chased through the memo, all path lengths; `hBf` is what the certificates of the selection sets give for
    two fields of ONE fragment -/
theorem chase_of (n : Nat) (hA : LvAOf s d C n)
    (hBf : ∀ k1 k2, (∀ a b, a + b + 2 ≤ k1 + k2 → ChPOf s d P n a b) → BfP s d n k1 k2) :
    ∀ k1 k2, ChPOf s d P n k1 k2 := by
  have key : ∀ m k1 k2, k1 + k2 ≤ m → BfP s d n k1 k2 ∧ ChPOf s d P n k1 k2 := by
    intro m
    induction m using Nat.strongRecOn with
    | _ m ih =>
      have hCh : ∀ a b, a + b < m → ChPOf s d P n a b := fun a b hab => (ih (a + b) hab a b (Nat.le_refl _)).2
      have hB : ∀ k1 k2, k1 + k2 ≤ m → BfP s d n k1 k2 := fun k1 k2 hk =>
        hBf k1 k2 (fun a b hab => hCh a b (by omega))
      intro k1 k2 hk
      refine ⟨hB k1 k2 hk, ?_⟩
      intro g1 g2 me rn e1 e2 hcov h1 h2
      rcases hcov with hcov | hcov
      · exact chase_oriented P C hne hK n hA k1 k2 (hB k1 k2 hk) (fun a b hab => hCh a b (by omega)) g1 g2 me rn e1 e2 hcov h1 h2
      · intro hconf
        exact chase_oriented P C hne hK n hA k2 k1 (hB k2 k1 (by omega)) (fun a b hab => hCh a b (by omega))
          g2 g1 me rn e2 e1 hcov h2 h1 hconf.symm
  intro k1 k2
  exact (key (k1 + k2) k1 k2 (Nat.le_refl _)).2

theorem keyOblOf_of_undefined {f1 f2 : String} {me : Bool}
    (h : AL.get? (fragTable d) f1 = none ∨ AL.get? (fragTable d) f2 = none) : KeyOblOf s d P C (keyOf f1 f2 me) := by
  intro h1 h2
  exfalso
  rcases sortedPair_cases f1 f2 with hsp | hsp <;> simp only [keyOf, hsp] at h1 h2 <;> rcases h with h | h <;>
    simp_all

theorem keyOblOf_of_oriented {f1 f2 : String} {me : Bool}
    (o1 : ∀ rn e1 e2, DirF s d f1 rn e1 → DirF s d f2 rn e2 → C me e1 e2 ∨ C me e2 e1)
    (o2 : ∀ h, SprF d f1 h → CovSOf P me h f2) (o3 : ∀ h, SprF d f2 h → CovSOf P me f1 h) :
    KeyOblOf s d P C (keyOf f1 f2 me) := by
  intro _ _
  rcases sortedPair_cases f1 f2 with hsp | hsp
  · simp only [keyOf, hsp]; exact ⟨o1, o2, o3⟩
  · simp only [keyOf, hsp]
    exact ⟨fun rn e1 e2 d1 d2 => (o1 rn e2 e1 d2 d1).symm, fun h hh => (o3 h hh).symm, fun h hh => (o2 h hh).symm⟩

end

section
variable {s : SchemaD} {d : Doc} {M : Memo}
variable (hpa : ParentsAgree s d) (hne : AL.get? (fragTable d) "" = none)
  (hK : ∀ k, M k → KeyObl s d M k)
  (hW : ∀ i sels, SelSet d i sels → ∀ p, Adm s d i p → WithinCert s d M p sels)

include hpa hne hK hW in
theorem lvChase_of (n : Nat) (hA : LvA s d M n) (hSelf : LvSelf s d n) : LvChase s d M n :=
  fun k1 k2 => chase_of M (Cert s d M) hne hK n hA (fun k1 k2 hC => bfP_of hpa hW n hA hSelf k1 k2 hC) k1 k2

include hW in
theorem lvSet_of (n : Nat) (hA : LvA s d M n) (hSelf : LvSelf s d n) (hC : LvChaseS s d M n) : LvSet s d n := by
  intro i sels p rn e1 e2 me hs ha c1 c2 hconf
  have hconf := relaxF hconf
  have W := hW i sels hs p ha
  rcases c1 with c1 | ⟨g1, sp1, y1⟩ <;> rcases c2 with c2 | ⟨g2, sp2, y2⟩
  · by_cases he : e1 = e2
    · subst he; exact hSelf _ (ent_of_collD hs ha c1) hconf
    · rcases W.direct _ _ _ c1 c2 he with hc | hc
      · exact hA _ _ _ (ent_of_collD hs ha c1) (ent_of_collD hs ha c2) hc hconf
      · exact hA _ _ _ (ent_of_collD hs ha c2) (ent_of_collD hs ha c1) hc hconf.symm
  · exact hA _ _ _ (ent_of_collD hs ha c1) (ent_of_collF y2) (W.frag _ sp2 _ _ _ c1 y2) hconf
  · exact hA _ _ _ (ent_of_collD hs ha c2) (ent_of_collF y1) (W.frag _ sp1 _ _ _ c2 y1) hconf.symm
  · obtain ⟨k1, z1⟩ := collF_collFH y1
    obtain ⟨k2, z2⟩ := collF_collFH y2
    exact hC _ _ _ hs sp1 k1 k2 _ _ _ _ _ (W.frags _ _ sp1 sp2) z1 z2 hconf

include hpa hne hK hW in
theorem levels (n : Nat) : LvA s d M n ∧ LvSelf s d n ∧ LvChase s d M n ∧ LvSet s d n := by
  have step : ∀ n, (∀ m, n = m + 1 → LvA s d M m ∧ LvChaseS s d M m) → (∀ m, n = m + 1 → LvSet s d m) →
      LvA s d M n ∧ LvSelf s d n ∧ LvChase s d M n ∧ LvSet s d n := fun n h1 h2 =>
    have a := lvA_of hpa n h1
    have b := lvSelf_of hpa n h2
    have c := lvChase_of hpa hne hK hW n a b
    ⟨a, b, c, lvSet_of hW n a b c.spread⟩
  induction n with
  | zero => exact step 0 (fun m h => nomatch h) (fun m h => nomatch h)
  | succ n ih => exact step (n + 1) (fun m h => by cases h; exact ⟨ih.1, ih.2.2.1.spread⟩) (fun m h => by cases h; exact ih.2.2.2)

include hpa hne hK hW in
theorem clause_of_certs : Spec.overlappingFieldsCanBeMerged s d := by
  intro i sels hs p ha rn e1 e2 c1 c2 hconf
  obtain ⟨n, hn⟩ := conf_confH hconf
  exact (levels hpa hne hK hW n).2.2.2 i sels p rn e1 e2 false hs ha c1 c2 hn

include hpa hW in
theorem clause_of_certs_noSpreads (hns : NoSpreads d) : Spec.overlappingFieldsCanBeMerged s d := by
  have hC : ∀ n, LvChaseS s d M n := fun n i sels g1 hs sp => absurd sp (noSpread_of_selSet hns hs g1)
  have key : ∀ n, LvA s d M n ∧ LvSelf s d n ∧ LvSet s d n := by
    intro n
    induction n with
    | zero =>
      have a : LvA s d M 0 := lvA_of hpa 0 (fun m h => nomatch h)
      have b : LvSelf s d 0 := lvSelf_of hpa 0 (fun m h => nomatch h)
      exact ⟨a, b, lvSet_of hW 0 a b (hC 0)⟩
    | succ n ih =>
      have a := lvA_of hpa (n + 1) (fun m h => by cases h; exact ⟨ih.1, hC _⟩)
      have b := lvSelf_of hpa (n + 1) (fun m h => by cases h; exact ih.2.2)
      exact ⟨a, b, lvSet_of hW (n + 1) a b (hC (n + 1))⟩
  intro i sels hs p ha rn e1 e2 c1 c2 hconf
  obtain ⟨n, hn⟩ := conf_confH hconf
  exact (key n).2.2 i sels p rn e1 e2 false hs ha c1 c2 hn

end

end PyGql.Validate
