/-
  `OverlappingFieldsCanBeMergedChecker`: structural facts. The node enumeration is closed under
  sub-selections (the sub-selection of a field collected from a selection set of the document is a selection set
  of the document), and the fragment table only holds fragment definitions of the document.
-/
import PyGqlModel.Lemmas.ValidateOverlap
import PyGqlModel.Lemmas.ValidateTr
namespace PyGql.Validate
open PyGql PyGql.Validate.Spec

def Node.isSelSet : Node → Bool | .selectionSet .. => true | _ => false

/-- value and object-field nodes (`Lemmas/ValidateTr.lean`) are no selection sets -/
theorem noSelSet_of_valueish {n : Node} (h : n.isValueish = true) : n.isSelSet = false := by
  cases n with
  | selectionSet => cases h
  | _ => rfl

theorem valueNodes_noSelSet : ∀ (v : Value), ∀ n ∈ valueNodes v, n.isSelSet = false :=
  fun v n h => noSelSet_of_valueish (valueNodes_kinds v n h)
theorem valuesNodes_noSelSet : ∀ (vs : List Value), ∀ n ∈ valuesNodes vs, n.isSelSet = false :=
  fun vs n h => noSelSet_of_valueish (valuesNodes_kinds vs n h)
theorem objFieldNodes_noSelSet : ∀ (f : ObjField), ∀ n ∈ objFieldNodes f, n.isSelSet = false :=
  fun f n h => noSelSet_of_valueish (objFieldNodes_kinds f n h)
theorem objFieldsNodes_noSelSet : ∀ (fs : List ObjField), ∀ n ∈ objFieldsNodes fs, n.isSelSet = false :=
  fun fs n h => noSelSet_of_valueish (objFieldsNodes_kinds fs n h)

theorem argsNodes_noSelSet (as : List Arg) : ∀ n ∈ argsNodes as, n.isSelSet = false := by
  intro n h
  simp only [argsNodes, List.mem_flatMap, argNodes, List.mem_cons] at h
  obtain ⟨a, _, rfl | h⟩ := h
  · rfl
  · exact valueNodes_noSelSet _ n h

theorem dirsNodes_noSelSet (ds : List Dir) : ∀ n ∈ dirsNodes ds, n.isSelSet = false := by
  intro n h
  simp only [dirsNodes, List.mem_flatMap, dirNodes, List.mem_cons] at h
  obtain ⟨d, _, rfl | h⟩ := h
  · rfl
  · exact argsNodes_noSelSet _ n h

theorem varDefsNodes_noSelSet (vs : List VarDef) : ∀ n ∈ vs.flatMap varDefNodes, n.isSelSet = false := by
  intro n h
  simp only [List.mem_flatMap, varDefNodes, List.mem_cons, List.mem_append] at h
  obtain ⟨v, _, rfl | h | rfl | h⟩ := h
  · rfl
  · cases hd : v.default with
    | none => rw [hd] at h; cases h
    | some dv => rw [hd] at h; exact valueNodes_noSelSet dv n h
  · rfl
  · exact dirsNodes_noSelSet _ n h

theorem mem_selsNodes_of_mem {x : Sel} {xs : List Sel} (hx : x ∈ xs) : ∀ n ∈ selNodes x, n ∈ selsNodes xs := by
  induction xs with
  | nil => cases hx
  | cons y ys ih =>
    intro n hn
    rw [selsNodes, List.mem_append]
    rcases List.mem_cons.mp hx with rfl | hx'
    · exact Or.inl hn
    · exact Or.inr (ih hx' n hn)

private theorem notSel {n : Node} {i : Nat} {sels : List Sel} (h : n.isSelSet = false) (e : n = .selectionSet i sels) :
    False := by subst e; cases h

mutual
/-- the nodes of a selection are closed under "the selections of a selection set that occurs in it" -/
theorem closed_sel : ∀ (x : Sel) (i : Nat) (sels : List Sel), Node.selectionSet i sels ∈ selNodes x →
    ∀ n ∈ selsNodes sels, n ∈ selNodes x
  | .field al name args dirs true ssid sub, i, sels, h, n, hn => by
    simp only [selNodes, ↓reduceIte, List.mem_cons, List.mem_append, reduceCtorEq, false_or] at h ⊢
    rcases h with (h | h) | h | h
    · exact (notSel (argsNodes_noSelSet _ _ h) rfl).elim
    · exact (notSel (dirsNodes_noSelSet _ _ h) rfl).elim
    · cases h; exact Or.inr (Or.inr (Or.inr hn))
    · exact Or.inr (Or.inr (Or.inr (closed_sels sub i sels h n hn)))
  | .field al name args dirs false ssid sub, i, sels, h, n, hn => by
    simp only [selNodes, Bool.false_eq_true, ↓reduceIte, List.append_nil, List.mem_cons, List.mem_append, reduceCtorEq,
      false_or] at h
    rcases h with h | h
    · exact (notSel (argsNodes_noSelSet _ _ h) rfl).elim
    · exact (notSel (dirsNodes_noSelSet _ _ h) rfl).elim
  | .spread name dirs, i, sels, h, n, hn => by
    simp only [selNodes, List.mem_cons, reduceCtorEq, false_or] at h
    exact (notSel (dirsNodes_noSelSet _ _ h) rfl).elim
  | .inline on dirs id sub, i, sels, h, n, hn => by
    simp only [selNodes, List.mem_cons, List.mem_append, reduceCtorEq, false_or] at h ⊢
    rcases h with h | h | h
    · exact (notSel (dirsNodes_noSelSet _ _ h) rfl).elim
    · cases h; exact Or.inr (Or.inr (Or.inr hn))
    · exact Or.inr (Or.inr (Or.inr (closed_sels sub i sels h n hn)))
theorem closed_sels : ∀ (xs : List Sel) (i : Nat) (sels : List Sel), Node.selectionSet i sels ∈ selsNodes xs →
    ∀ n ∈ selsNodes sels, n ∈ selsNodes xs
  | [], _, _, h, _, _ => by cases h
  | x :: xs, i, sels, h, n, hn => by
    rw [selsNodes, List.mem_append] at h ⊢
    rcases h with h | h
    · exact Or.inl (closed_sel x i sels h n hn)
    · exact Or.inr (closed_sels xs i sels h n hn)
end

theorem closed_def (df : Def) (i : Nat) (sels : List Sel) (h : Node.selectionSet i sels ∈ defNodes df) :
    ∀ n ∈ selsNodes sels, n ∈ defNodes df := by
  intro n hn
  cases df with
  | op kind name vars dirs ssid ss =>
    simp only [defNodes, List.mem_cons, List.mem_append, reduceCtorEq, false_or] at h ⊢
    rcases h with (h | h) | h | h
    · exact (notSel (varDefsNodes_noSelSet _ _ h) rfl).elim
    · exact (notSel (dirsNodes_noSelSet _ _ h) rfl).elim
    · cases h; exact Or.inr (Or.inr (Or.inr hn))
    · exact Or.inr (Or.inr (Or.inr (closed_sels ss i sels h n hn)))
  | frag name on dirs ssid ss =>
    simp only [defNodes, List.mem_cons, List.mem_append, reduceCtorEq, false_or] at h ⊢
    rcases h with h | h | h
    · exact (notSel (dirsNodes_noSelSet _ _ h) rfl).elim
    · cases h; exact Or.inr (Or.inr (Or.inr hn))
    · exact Or.inr (Or.inr (Or.inr (closed_sels ss i sels h n hn)))
  | ts a b => simp [defNodes] at h

theorem selSet_closed {d : Doc} {i : Nat} {sels : List Sel} (h : SelSet d i sels) : ∀ n ∈ selsNodes sels, n ∈ nodes d := by
  intro n hn
  simp only [SelSet, nodes, List.mem_cons, reduceCtorEq, false_or, List.mem_flatMap] at h ⊢
  obtain ⟨df, hdf, hm⟩ := h
  exact Or.inr ⟨df, hdf, closed_def df i sels hm n hn⟩

theorem selSet_sub {s : SchemaD} {d : Doc} {p : Option String} {sels : List Sel} {rn : String} {e : FEntry} {i : Nat}
    (h : SelSet d i sels) (hc : CollD s p sels rn e) (hs : e.hasSub = true) : SelSet d e.ssid e.sub := by
  induction hc generalizing i with
  | @field parent sels alias name args dirs hasSub ssid sub hm =>
    simp only at hs; subst hs
    apply selSet_closed h
    apply mem_selsNodes_of_mem hm
    simp [selNodes]
  | @inline parent sels on dirs id sub rn e hm _ ih =>
    refine ih (i := id) ?_ hs
    apply selSet_closed h
    apply mem_selsNodes_of_mem hm
    simp [selNodes]

theorem get?_foldl_set {α} (l : List (String × α)) (m0 : AL α) (k : String) (v : α)
    (h : AL.get? (l.foldl (fun m f => AL.set m f.1 f.2) m0) k = some v) : (k, v) ∈ l ∨ AL.get? m0 k = some v := by
  induction l generalizing m0 with
  | nil => exact Or.inr h
  | cons f fs ih =>
    rw [List.foldl_cons] at h
    rcases ih _ h with h' | h'
    · exact Or.inl (List.mem_cons_of_mem _ h')
    · rw [AL.get?_set] at h'
      by_cases hk : k = f.1
      · rw [if_pos hk] at h'; cases h'; subst hk; exact Or.inl (List.mem_cons_self ..)
      · rw [if_neg hk] at h'; exact Or.inr h'

theorem fragTable_def {d : Doc} {name on : String} {fid : Nat} {fsels : List Sel}
    (h : AL.get? (fragTable d) name = some (on, fid, fsels)) : ∃ dirs, Def.frag name on dirs fid fsels ∈ d.defs := by
  rcases get?_foldl_set _ _ _ _ h with h' | h'
  · simp only [fragDefs, List.mem_filterMap] at h'
    obtain ⟨df, hdf, he⟩ := h'
    cases df <;> simp at he
    obtain ⟨rfl, rfl, rfl, rfl⟩ := he
    exact ⟨_, hdf⟩
  · simp [AL.get?_nil] at h'

theorem fragTable_selSet {d : Doc} {name on : String} {fid : Nat} {fsels : List Sel}
    (h : AL.get? (fragTable d) name = some (on, fid, fsels)) : SelSet d fid fsels := by
  obtain ⟨dirs, hdf⟩ := fragTable_def h
  simp only [SelSet, nodes, List.mem_cons, reduceCtorEq, false_or, List.mem_flatMap]
  exact ⟨_, hdf, by simp [defNodes]⟩

end PyGql.Validate
