/-
  C12 text level — what `print_description` writes between the triple quotes.  The lines of a description
  (`split("\n")`, no wrapping under the width condition, escaping per line), and the three layouts — one-line form,
  multi-line form, multi-line form with a white-space-led first line — each ONE BlockString token with the description
  as value, under every enclosing indentation.
-/
import PyGqlModel.Lemmas.SdlTextBase
import PyGqlModel.Lemmas.PrintBlockForms
import PyGqlModel.Lemmas.LexBlockRange
namespace PyGql.SdlText
open PyGql PyGql.Ast PyGql.Sdl PyGql.Spec PyGql.PrintLex PyGql.PrintTokens PyGql.PrintString PyGql.BlockString PyGql.Lex PyGql.SdlPrint


theorem splitLF_ne_nil (t : Text) : SdlPrintT.splitLF t ≠ [] := by
  induction t with
  | nil => simp [SdlPrintT.splitLF]
  | cons c t ih =>
    simp only [SdlPrintT.splitLF]
    split
    · simp
    · cases h : SdlPrintT.splitLF t with
      | nil => exact absurd h ih
      | cons l ls => simp

theorem joinLF_splitLF (t : Text) : joinLF (SdlPrintT.splitLF t) = t := by
  induction t with
  | nil => simp [SdlPrintT.splitLF, joinLF]
  | cons c t ih =>
    simp only [SdlPrintT.splitLF]
    split
    · rename_i hc; subst hc
      cases h : SdlPrintT.splitLF t with
      | nil => exact absurd h (splitLF_ne_nil t)
      | cons l ls => rw [h] at ih; rw [joinLF_cons_cons, ih]; simp
    · cases h : SdlPrintT.splitLF t with
      | nil => exact absurd h (splitLF_ne_nil t)
      | cons l ls =>
        rw [h] at ih
        cases ls with
        | nil => simp [joinLF] at ih ⊢; exact ih
        | cons m ms => rw [joinLF_cons_cons] at ih ⊢; simp [ih]

theorem splitLF_noLF (t : Text) : ∀ l ∈ SdlPrintT.splitLF t, ∀ c ∈ l, c ≠ 10 := by
  induction t with
  | nil => intro l hl c hc; simp [SdlPrintT.splitLF] at hl; subst hl; cases hc
  | cons a t ih =>
    intro l hl c hc
    simp only [SdlPrintT.splitLF] at hl
    split at hl
    · simp only [List.mem_cons] at hl
      rcases hl with rfl | hl
      · cases hc
      · exact ih l hl c hc
    · rename_i ha
      cases h : SdlPrintT.splitLF t with
      | nil => exact absurd h (splitLF_ne_nil t)
      | cons m ms =>
        rw [h] at hl ih
        simp only [List.mem_cons] at hl
        rcases hl with rfl | hl
        · simp only [List.mem_cons] at hc
          rcases hc with rfl | hc
          · exact ha
          · exact ih m (by simp) c hc
        · exact ih l (by simp [hl]) c hc

theorem splitLF_mem (t : Text) : ∀ l ∈ SdlPrintT.splitLF t, ∀ c ∈ l, c ∈ t := by
  induction t with
  | nil => intro l hl c hc; simp [SdlPrintT.splitLF] at hl; subst hl; cases hc
  | cons a t ih =>
    intro l hl c hc
    simp only [SdlPrintT.splitLF] at hl
    split at hl
    · simp only [List.mem_cons] at hl
      rcases hl with rfl | hl
      · cases hc
      · exact List.mem_cons_of_mem _ (ih l hl c hc)
    · cases h : SdlPrintT.splitLF t with
      | nil => exact absurd h (splitLF_ne_nil t)
      | cons m ms =>
        rw [h] at hl ih
        simp only [List.mem_cons] at hl
        rcases hl with rfl | hl
        · simp only [List.mem_cons] at hc
          rcases hc with rfl | hc
          · simp
          · exact List.mem_cons_of_mem _ (ih m (by simp) c hc)
        · exact List.mem_cons_of_mem _ (ih l (by simp [hl]) c hc)

theorem wrappedLines_id (ls : List Text) (w : Nat) (h : ∀ l ∈ ls, l.length ≤ w) : SdlPrintT.wrappedLines ls w = ls := by
  unfold SdlPrintT.wrappedLines
  induction ls with
  | nil => rfl
  | cons l ls ih =>
    have hl := h l (by simp)
    simp [List.flatMap_cons, hl, ih (fun x hx => h x (by simp [hx]))]

/-! ### escaping line by line = escaping the whole text -/

theorem escape_append_lf (l rest : Text) (k : Nat) (hk : k ≤ leadQ l) :
    escapeTQAux k (l ++ 10 :: rest) = escapeTQAux k l ++ 10 :: escapeTQAux 0 rest := by
  rw [escape_append_cons 10 (by decide), Nat.sub_eq_zero_of_le (Nat.le_succ_of_le (Nat.le_trans hk (leadQ_le_length l)))]

theorem escape_joinLF : ∀ (l : Text) (ls : List Text),
    escapeTQAux 0 (joinLF (l :: ls)) = joinLF ((l :: ls).map (escapeTQAux 0))
  | l, [] => by simp [joinLF]
  | l, m :: ms => by
    rw [joinLF_cons_cons, escape_append_lf l _ 0 (Nat.zero_le _), escape_joinLF m ms]
    simp only [List.map_cons]
    rw [joinLF_cons_cons]


theorem foldl_min_zero (t : List Nat) : t.foldl min 0 = 0 := by
  induction t with
  | nil => rfl
  | cons a t ih => simpa using ih

theorem foldl_min_mem_zero (a : Nat) (t : List Nat) (h : 0 ∈ a :: t) : t.foldl min a = 0 := by
  induction t generalizing a with
  | nil => simp at h; simp [h]
  | cons b t ih =>
    simp only [List.foldl_cons]
    simp only [List.mem_cons] at h
    rcases h with h | h | h
    · subst h; simpa using foldl_min_zero t
    · subst h; simpa using foldl_min_zero t
    · exact ih (min a b) (by simp [h])

theorem min?_zero (l : List Nat) (h : 0 ∈ l) : l.min? = some 0 := by
  cases l with
  | nil => cases h
  | cons a t => simp only [List.min?_cons']; rw [foldl_min_mem_zero a t h]

theorem foldl_indentStep_zero (ls : List Text) (h : minIndentZero ls = true) : ls.foldl indentStep none = some 0 := by
  rw [foldl_eq_M]
  unfold M
  apply min?_zero
  simp only [minIndentZero, List.any_eq_true, List.mem_filter, Bool.not_eq_true', beq_iff_eq] at h
  obtain ⟨l, ⟨hl, hb⟩, hz⟩ := h
  simp only [List.mem_map, List.mem_filter]
  refine ⟨l, ⟨hl, ?_⟩, hz⟩
  rw [nb_iff]; exact hb


/-- CORE (no leading line): `"""⏎Q·l₀⏎Q·l₁…⏎P'"""` -/
theorem lexesTo_layout_core (Q P' l : Text) (ls : List Text) (r : Text) (cs' : List TokClass) (hQ : Blank Q) (hP : Blank P')
    (hlines : ∀ x ∈ l :: ls, IsLine x) (hchars : ∀ c ∈ joinLF (l :: ls), blockChar c = true)
    (hfirst : onlyWhiteSpace l = false) (hlast : onlyWhiteSpace ((l :: ls).getLast (by simp)) = false)
    (hmin : (l :: ls).foldl indentStep none = some 0) (hl : LexesTo r cs') :
    LexesTo (tq ++ 10 :: (Q ++ (escapeTQAux 0 (replaceLF Q (joinLF (l :: ls))) ++ 10 :: (P' ++ (tq ++ r)))))
      ((.blockString, joinLF (l :: ls)) :: cs') := by
  have hX : ∀ c ∈ replaceLF Q (joinLF (l :: ls)), blockChar c = true := by
    intro c hc
    rcases mem_replaceLF hc with h | h
    · exact hchars c h
    · rcases hQ c h with e | e <;> subst e <;> decide
  refine lexesTo_step (w := tq ++ 10 :: (Q ++ (escapeTQAux 0 (replaceLF Q (joinLF (l :: ls))) ++ 10 :: (P' ++ tq))))
    (r := r) (c := (.blockString, joinLF (l :: ls))) (fun n => ?_) (by simp; omega) hl |> fun x => by
      simpa [List.append_assoc] using x
  have := next_block_layout n Q P' (replaceLF Q (joinLF (l :: ls))) r hQ hP hX
  rw [parseBlockString_layout Q P' l ls hQ hP hlines hfirst hlast hmin] at this
  exact ⟨_, by simpa [List.append_assoc] using this, by simp [cls, hasValue]⟩


/-- CORE (one line): `"""x"""` where `x` does not end with `"` or `\` -/
theorem lexesTo_oneline_core (v r : Text) (cs' : List TokClass) (hline : IsLine v) (hchars : ∀ c ∈ v, blockChar c = true)
    (hnb : onlyWhiteSpace v = false) (h34 : v.getLast? ≠ some 34) (h92 : v.getLast? ≠ some 92) (hl : LexesTo r cs') :
    LexesTo (tq ++ (escapeTQAux 0 v ++ (tq ++ r))) ((.blockString, v) :: cs') := by
  have hvne : v ≠ [] := by intro e; subst e; simp [onlyWhiteSpace] at hnb
  obtain ⟨v0, c, rfl⟩ : ∃ v0 c, v = v0 ++ [c] := ⟨v.dropLast, v.getLast hvne, (List.dropLast_concat_getLast hvne).symm⟩
  have hc34 : c ≠ 34 := by intro e; subst e; simp at h34
  have hc92 : c ≠ 92 := by intro e; subst e; simp at h92
  have hcb : blockChar c = true := hchars c (by simp)
  have hv0 : ∀ x ∈ v0, blockChar x = true := fun x hx => hchars x (by simp [hx])
  have e : tq ++ (escapeTQAux 0 (v0 ++ [c]) ++ (tq ++ r)) = tq ++ (escapeTQAux 0 v0 ++ c :: (tq ++ r)) := by
    rw [escape_snoc c hc34]; simp
  rw [e]
  refine lexesTo_tq _ r (v0 ++ [c]) cs' (v0 ++ [c]) (fun n => ?_) (parseBlockString_single _ hline hnb) (by simp; omega) hl
  rw [readBlockBody_escape_c c hc34 n (tq ++ r) v0 0 (Nat.zero_le _) hv0, readBlockBody_last n c r hc34 hc92 hcb]; rfl

/-- layout with the value's first line directly after the opening quotes: `"""l₀⏎Q·l₁…⏎P'"""` -/
theorem parseBlockString_layout_lead (Q P' l0 : Text) (ls : List Text) (hQ : Blank Q) (hP : Blank P')
    (hlines : ∀ x ∈ l0 :: ls, IsLine x) (hfirst : onlyWhiteSpace l0 = false)
    (hlast : onlyWhiteSpace ((l0 :: ls).getLast (by simp)) = false)
    (hmin : ls = [] ∨ ls.foldl indentStep none = some 0) :
    parseBlockString (replaceLF Q (joinLF (l0 :: ls)) ++ 10 :: P') = joinLF (l0 :: ls) := by
  have hPb := isBlank_of_blank hP
  cases ls with
  | nil =>
    have hl0 := hlines l0 (by simp)
    simp only [joinLF]
    rw [replaceLF_noLF Q l0 (isLine_noLF hl0)]
    exact parseBlockString_single_lf l0 P' hP hl0 hfirst
  | cons l1 ls =>
    have hmin' : (l1 :: ls).foldl indentStep none = some 0 := by
      rcases hmin with h | h
      · cases h
      · exact h
    have hl0 := hlines l0 (by simp)
    have htail : ∀ x ∈ l1 :: ls, IsLine x := fun x hx => hlines x (by simp at hx ⊢; right; exact hx)
    have hraw : replaceLF Q (joinLF (l0 :: l1 :: ls)) ++ 10 :: P' = joinLF (l0 :: ((l1 :: ls).map (Q ++ ·) ++ [P'])) := by
      rw [joinLF_cons_cons, replaceLF_append, replaceLF_noLF Q l0 (isLine_noLF hl0)]
      simp only [replaceLF, ↓reduceIte]
      rw [indent_joinLF Q l1 ls htail]
      have := joinLF_snoc (Q ++ l1) (ls.map (Q ++ ·)) P'
      simp only [List.map_cons, List.cons_append] at this ⊢
      rw [joinLF_cons_cons, this]; simp
    rw [hraw, parseBlockString_layout_first Q P' l0 (l1 :: ls) hQ hP hl0 htail hmin']
    have hP' : IsBlank (List.drop Q.length P') := fun c hc => hPb c (List.mem_of_mem_drop hc)
    exact congrArg joinLF (popEnds_blank l0 (l1 :: ls) _ hfirst hlast hP')

/-- CORE (white-space-led first line): `"""l₀⏎Q·l₁…⏎P'"""` -/
theorem lexesTo_layout_lead_core (Q P' l0 : Text) (ls : List Text) (r : Text) (cs' : List TokClass) (hQ : Blank Q) (hP : Blank P')
    (hlines : ∀ x ∈ l0 :: ls, IsLine x) (hchars : ∀ c ∈ joinLF (l0 :: ls), blockChar c = true)
    (hfirst : onlyWhiteSpace l0 = false) (hlast : onlyWhiteSpace ((l0 :: ls).getLast (by simp)) = false)
    (hmin : ls = [] ∨ ls.foldl indentStep none = some 0) (hl : LexesTo r cs') :
    LexesTo (tq ++ (escapeTQAux 0 (replaceLF Q (joinLF (l0 :: ls))) ++ 10 :: (P' ++ (tq ++ r))))
      ((.blockString, joinLF (l0 :: ls)) :: cs') := by
  have hX : ∀ c ∈ replaceLF Q (joinLF (l0 :: ls)), blockChar c = true := by
    intro c hc
    rcases mem_replaceLF hc with h | h
    · exact hchars c h
    · rcases hQ c h with e | e <;> subst e <;> decide
  refine lexesTo_tq _ r (joinLF (l0 :: ls)) cs' (replaceLF Q (joinLF (l0 :: ls)) ++ 10 :: P') (fun n => ?_)
    (parseBlockString_layout_lead Q P' l0 ls hQ hP hlines hfirst hlast hmin) (by simp; omega) hl
  have h1 := readBlockBody_escape n (P' ++ (tq ++ r)) (replaceLF Q (joinLF (l0 :: ls))) 0 (Nat.zero_le _) hX
  have h2 := readBlockBody_close n (10 :: P') r (layoutText_lf_blank hP)
  simp only [List.cons_append, List.append_assoc] at h2
  rw [h1, h2]; rfl


theorem joinSep_lf (ls : List Text) : SdlPrintT.joinSep [10] ls = joinLF ls := by
  induction ls with
  | nil => rfl
  | cons l ls ih =>
    cases ls with
    | nil => rfl
    | cons m ms => rw [joinLF_cons_cons, ← ih]; simp [SdlPrintT.joinSep]

theorem descLines_succ (indent : Text) (lead : Bool) (i : Nat) (ls : List Text) :
    SdlPrintT.descLines indent lead (i + 1) ls = ls.map (fun l => indent ++ escapeTripleQuotes l) := by
  induction ls generalizing i with
  | nil => rfl
  | cons l ls ih => simp [SdlPrintT.descLines, ih]

theorem escape_isLine {l : Text} (h : IsLine l) : IsLine (escapeTQAux 0 l) := by
  intro c hc
  have key : ∀ (l : Text) (k : Nat), (∀ x ∈ l, x ≠ 10 ∧ x ≠ 13) → ∀ c ∈ escapeTQAux k l, c ≠ 10 ∧ c ≠ 13 := by
    intro l
    induction l with
    | nil => intro k _ c hc; cases k <;> simp [escapeTQAux] at hc
    | cons a t ih =>
      intro k hl c hc
      have ha := hl a (by simp)
      have ht : ∀ x ∈ t, x ≠ 10 ∧ x ≠ 13 := fun x hx => hl x (by simp [hx])
      cases k with
      | succ k' =>
        simp only [escapeTQAux, List.mem_cons] at hc
        rcases hc with rfl | hc
        · exact ha
        · exact ih k' ht c hc
      | zero =>
        simp only [escapeTQAux] at hc
        split at hc
        · simp only [List.mem_cons] at hc
          rcases hc with rfl | rfl | hc
          · decide
          · exact ha
          · exact ih 2 ht c hc
        · simp only [List.mem_cons] at hc
          rcases hc with rfl | hc
          · exact ha
          · exact ih 0 ht c hc
  exact key l 0 h c hc

theorem descBody_multi (indent l : Text) (ls : List Text) (hlines : ∀ x ∈ l :: ls, IsLine x)
    (hone : ((l :: ls).length == 1 && l.length < 70 && !(l.getLast? == some 34)) = false) :
    SdlPrintT.descBody indent (l :: ls) =
      (if l.length > (SdlPrintT.lstrip l).length then replaceLF indent (escapeTQAux 0 (joinLF (l :: ls)))
       else 10 :: (indent ++ replaceLF indent (escapeTQAux 0 (joinLF (l :: ls))))) ++ 10 :: indent := by
  have hesc : ∀ x ∈ (l :: ls).map (escapeTQAux 0), IsLine x := by
    intro x hx; simp only [List.mem_map] at hx; obtain ⟨y, hy, rfl⟩ := hx; exact escape_isLine (hlines y hy)
  have hj : indent ++ replaceLF indent (escapeTQAux 0 (joinLF (l :: ls))) =
      joinLF ((l :: ls).map fun x => indent ++ escapeTripleQuotes x) := by
    rw [escape_joinLF]
    have := indent_joinLF indent (escapeTQAux 0 l) (ls.map (escapeTQAux 0)) (by simpa using hesc)
    simpa [List.map_map, Function.comp_def, escapeTripleQuotes] using this
  unfold SdlPrintT.descBody
  simp only [List.headD_cons, hone, Bool.false_eq_true, ↓reduceIte]
  by_cases hlead : l.length > (SdlPrintT.lstrip l).length
  · have hd : decide (l.length > (SdlPrintT.lstrip l).length) = true := by simpa using hlead
    simp only [hd, hlead, ↓reduceIte, SdlPrintT.descLines, descLines_succ, joinSep_lf]
    have : replaceLF indent (escapeTQAux 0 (joinLF (l :: ls))) =
        joinLF (escapeTripleQuotes l :: ls.map fun x => indent ++ escapeTripleQuotes x) := by
      rw [escape_joinLF]
      cases ls with
      | nil => simp [joinLF, escapeTripleQuotes, replaceLF_noLF indent _ (isLine_noLF (escape_isLine (hlines l (by simp))))]
      | cons m ms =>
        simp only [List.map_cons]
        rw [joinLF_cons_cons, replaceLF_append, replaceLF_noLF indent _ (isLine_noLF (escape_isLine (hlines l (by simp))))]
        simp only [replaceLF, ↓reduceIte]
        have := indent_joinLF indent (escapeTQAux 0 m) (ms.map (escapeTQAux 0)) (by
          intro x hx; apply hesc; simp at hx ⊢; right; exact hx)
        rw [this, joinLF_cons_cons]
        simp [List.map_map, Function.comp_def, escapeTripleQuotes]
    simp [this]
    intro a b c; exfalso; revert hone; simp [a, c]; exact of_decide_eq_true b
  · have hd : decide (l.length > (SdlPrintT.lstrip l).length) = false := by simpa using hlead
    simp only [hd, hlead, ↓reduceIte, SdlPrintT.descLines, descLines_succ, joinSep_lf]
    rw [hj]
    cases ls with
    | nil =>
      simp [joinLF]
      intro b c; exfalso; revert hone; simp [c]; exact of_decide_eq_true b
    | cons m ms => simp only [List.map_cons]; rw [joinLF_cons_cons, joinLF_cons_cons]; simp


theorem lay_descQuoted (indent l : Text) (ls : List Text) (hind : Blank indent)
    (hlines : ∀ x ∈ l :: ls, IsLine x) (hchars : ∀ c ∈ joinLF (l :: ls), blockChar c = true)
    (hfirst : onlyWhiteSpace l = false) (hlast : onlyWhiteSpace ((l :: ls).getLast (by simp)) = false)
    (hshape : if ((l :: ls).length == 1 && l.length < 70 && !(l.getLast? == some 34)) = true then l.getLast? ≠ some 92
      else if l.length > (SdlPrintT.lstrip l).length then (ls = [] ∨ ls.foldl indentStep none = some 0)
      else (l :: ls).foldl indentStep none = some 0) :
    Lay (tq ++ (SdlPrintT.descBody indent (l :: ls) ++ tq)) [(.blockString, joinLF (l :: ls))] := by
  intro P hP r cs' hr hl
  by_cases hone : ((l :: ls).length == 1 && l.length < 70 && !(l.getLast? == some 34)) = true
  · -- one line
    rw [if_pos hone] at hshape
    have hls : ls = [] := by
      simp only [Bool.and_eq_true, beq_iff_eq] at hone
      have := hone.1.1
      cases ls with | nil => rfl | cons _ _ => simp at this
    subst hls
    have h34 : l.getLast? ≠ some 34 := by
      simp only [Bool.and_eq_true, Bool.not_eq_true', beq_eq_false_iff_ne] at hone; exact hone.2
    have hbody : SdlPrintT.descBody indent [l] = escapeTQAux 0 l := by
      have h70 : l.length < 70 := by
        simp only [Bool.and_eq_true, decide_eq_true_eq] at hone; exact hone.1.2
      simp [SdlPrintT.descBody, h70, h34, escapeTripleQuotes]
    have hl' := hlines l (by simp)
    have hnoLF := escape_noLF l 0 (isLine_noLF hl')
    have e : replaceLF P (tq ++ (SdlPrintT.descBody indent [l] ++ tq)) ++ r = tq ++ (escapeTQAux 0 l ++ (tq ++ r)) := by
      rw [hbody]
      simp [tq, replaceLF_append, replaceLF_noLF P _ hnoLF, replaceLF]
    rw [e]
    simpa [joinLF] using lexesTo_oneline_core l r cs' hl' (by simpa [joinLF] using hchars) hfirst h34 hshape hl
  · have hone' : ((l :: ls).length == 1 && l.length < 70 && !(l.getLast? == some 34)) = false := by simpa using hone
    rw [if_neg hone] at hshape
    have hQ : Blank (P ++ indent) := blank_append hP hind
    rw [descBody_multi indent l ls hlines hone']
    by_cases hlead : l.length > (SdlPrintT.lstrip l).length
    · rw [if_pos hlead] at hshape
      simp only [hlead, ↓reduceIte]
      have e : replaceLF P (tq ++ (replaceLF indent (escapeTQAux 0 (joinLF (l :: ls))) ++ 10 :: indent ++ tq)) ++ r =
          tq ++ (escapeTQAux 0 (replaceLF (P ++ indent) (joinLF (l :: ls))) ++ 10 :: ((P ++ indent) ++ (tq ++ r))) := by
        simp only [replaceLF_append, replaceLF, ↓reduceIte, replaceLF_noLF P indent (blank_noLF hind),
          replaceLF_replaceLF P indent _ hind, escape_replaceLF (P ++ indent) hQ _ 0 (Nat.zero_le _)]
        simp [tq, replaceLF]
      rw [e]
      exact lexesTo_layout_lead_core (P ++ indent) (P ++ indent) l ls r cs' hQ hQ hlines hchars hfirst hlast hshape hl
    · rw [if_neg hlead] at hshape
      simp only [hlead, ↓reduceIte]
      have e : replaceLF P (tq ++ (10 :: (indent ++ replaceLF indent (escapeTQAux 0 (joinLF (l :: ls)))) ++ 10 :: indent ++ tq)) ++ r =
          tq ++ 10 :: ((P ++ indent) ++ (escapeTQAux 0 (replaceLF (P ++ indent) (joinLF (l :: ls))) ++
            10 :: ((P ++ indent) ++ (tq ++ r)))) := by
        simp only [replaceLF_append, replaceLF, ↓reduceIte, replaceLF_noLF P indent (blank_noLF hind),
          replaceLF_replaceLF P indent _ hind, escape_replaceLF (P ++ indent) hQ _ 0 (Nat.zero_le _), List.cons_append]
        simp [tq, replaceLF]
      rw [e]
      exact lexesTo_layout_core (P ++ indent) (P ++ indent) l ls r cs' hQ hQ hlines hchars hfirst hlast hshape hl


theorem getLastD_eq_getLast (l : Text) (ls : List Text) : (l :: ls).getLastD [] = (l :: ls).getLast (by simp) := by
  induction ls generalizing l with
  | nil => rfl
  | cons m ms ih => simpa [List.getLastD, List.getLast_cons] using ih m

/-! ### the quoted form (fixes D1, D3) is not taken under `descTextOK` -/

theorem needsQuoted_single (l : Text) : SdlPrintT.needsQuoted [l] = false := by
  simp [SdlPrintT.needsQuoted]

theorem needsQuoted_notLead (l : Text) (ls : List Text) (h : ¬ l.length > (SdlPrintT.lstrip l).length) :
    SdlPrintT.needsQuoted (l :: ls) = false := by
  have : SdlPrintT.startsWs l = false := by
    cases l with
    | nil => rfl
    | cons c t =>
      cases hc : SdlPrintT.startsWs (c :: t) with
      | false => rfl
      | true =>
        exfalso; apply h
        have hw : SdlPrintT.isWs c = true := by
          simp only [SdlPrintT.startsWs, Bool.or_eq_true, beq_iff_eq] at hc
          rcases hc with rfl | rfl <;> decide
        have : (SdlPrintT.lstrip (c :: t)).length ≤ t.length := by
          simp only [SdlPrintT.lstrip, List.dropWhile_cons, hw, if_true]
          exact (List.dropWhile_sublist _).length_le
        simp only [List.length_cons]; omega
  simp [SdlPrintT.needsQuoted, this]

theorem needsQuoted_minZero (l : Text) (ls : List Text) (h : minIndentZero ls = true) :
    SdlPrintT.needsQuoted (l :: ls) = false := by
  simp only [minIndentZero, List.any_eq_true, List.mem_filter, Bool.not_eq_true', beq_iff_eq] at h
  obtain ⟨m, ⟨hm, hnb⟩, hz⟩ := h
  have hb : SdlPrintT.isBlankLine m = false := by
    have e : (fun c : Nat => c == 32 || c == 9) = Spec.isWhiteSpace := by
      funext c; simp [Spec.isWhiteSpace, Bool.or_comm]
    rw [← hnb]; simp [SdlPrintT.isBlankLine, lineBlank, e]
  have hs : SdlPrintT.startsWs m = false := by
    cases m with
    | nil => rfl
    | cons c t =>
      cases hc : SdlPrintT.startsWs (c :: t) with
      | false => rfl
      | true =>
        exfalso
        have hw : Spec.isWhiteSpace c = true := by
          simp only [SdlPrintT.startsWs, Bool.or_eq_true, beq_iff_eq] at hc
          rcases hc with rfl | rfl <;> decide
        simp [lineIndent, List.takeWhile_cons, hw] at hz
  have : ((ls.filter (fun l => !SdlPrintT.isBlankLine l)).all SdlPrintT.startsWs) = false := by
    rw [List.all_eq_false]
    exact ⟨m, List.mem_filter.2 ⟨hm, by simp [hb]⟩, by simp [hs]⟩
  simp [SdlPrintT.needsQuoted, this]

end PyGql.SdlText
