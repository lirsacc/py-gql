/-
  C12 text level — the whole printed text and the full statement: for every schema in printing order that satisfies
  `printTextWFA` (descriptions in all positions and layouts, default values, one-argument-per-line argument lists,
  applied directives), `parse (printSchemaTA c s apps) = docToAst (schemaToDocA s c apps)`; the statement for the
  directive-free printer `printSchemaT` is the case of the option off.
-/
import PyGqlModel.Lemmas.SdlTextDefs
import PyGqlModel.Lemmas.SdlTextWrap
import PyGqlModel.Lemmas.SdlTextTree
import PyGqlModel.Lemmas.SdlTextPrintOrder
namespace PyGql.SdlText
open PyGql PyGql.Ast PyGql.Sdl PyGql.Spec PyGql.PrintLex PyGql.PrintTokens PyGql.PrintMatch PyGql.PrintString PyGql.SdlPrint PyGql.Parse PyGql.Lex


/-- the text parts and token classes of the printed schema, in order -/
def schemaPairsA (c : SdlPrintTA.OptsA) (s : SchemaD) (apps : Apps) : List LP :=
  (if SdlPrintTA.needsSchemaBlockA s c apps then
      [(T "schema" ++ SdlPrintTA.printDirectives c apps "" ++ SdlPrintT.braces (SdlPrintT.rootLines c.base s),
        (definitionV (defTree (.schema { ops := rootOps s, dirs := SdlPrintTA.keptAt c apps "" }))).yield)] else []) ++
  s.directives.map (fun d => (SdlPrintTA.printDirectiveDefinition s c apps d,
    (definitionV (defTree (.directive (SdlPrintTA.directiveToDefA s c apps d)))).yield)) ++
  s.types.map (fun t => (SdlPrintTA.printType s c apps t, (definitionV (defTree (.type (SdlPrintTA.typeToDefA s c apps t)))).yield))

theorem schemaPairsA_snd (c : SdlPrintTA.OptsA) (s : SchemaD) (apps : Apps) :
    (schemaPairsA c s apps).flatMap Prod.snd = Item.yieldAll (((SdlPrintTA.schemaToDocA s c apps).map defTree).map definitionV) := by
  rw [yieldAll_map]
  unfold schemaPairsA SdlPrintTA.schemaToDocA
  split <;> simp [List.flatMap_append, List.flatMap_map, List.map_append, List.map_map, Function.comp_def]

private theorem e_schema' : T "schema" = K.schema := by decide +kernel

theorem filter_nonempty_map {α} (f : α → Text) (l : List α) (h : ∀ x, f x ≠ []) :
    (l.map f).filter (fun p => !p.isEmpty) = l.map f := by
  rw [List.filter_eq_self]
  refine List.forall_mem_map.2 fun x _ => ?_
  cases hx : f x with
  | nil => exact absurd hx (h x)
  | cons _ _ => rfl

theorem printSchemaTA_eq (c : SdlPrintTA.OptsA) (s : SchemaD) (apps : Apps) (hs : InPrintOrder s)
    (hne : schemaPairsA c s apps ≠ []) :
    SdlPrintTA.printSchemaTA c s apps = Print.joinSep [10, 10] ((schemaPairsA c s apps).map Prod.fst) ++ [10] := by
  have hfilter : (SdlPrintTA.printSchemaDefinition s c apps ::
      (s.directives.map (SdlPrintTA.printDirectiveDefinition s c apps) ++ s.types.map (SdlPrintTA.printType s c apps))).filter
        (fun p => !p.isEmpty) = (schemaPairsA c s apps).map Prod.fst := by
    have hd := filter_nonempty_map (SdlPrintTA.printDirectiveDefinition s c apps) s.directives (printDirectiveDefinitionA_ne s c apps)
    have ht := filter_nonempty_map (SdlPrintTA.printType s c apps) s.types (printTypeA_ne s c apps)
    unfold schemaPairsA SdlPrintTA.printSchemaDefinition
    split
    · simp [List.filter_cons, List.filter_append, hd, ht, e_schema', K.schema, List.map_map, Function.comp_def]
    · simp [List.filter_cons, List.filter_append, hd, ht, List.map_map, Function.comp_def]
  have : ((schemaPairsA c s apps).map Prod.fst).isEmpty = false := by
    cases h : schemaPairsA c s apps with | nil => exact absurd h hne | cons _ _ => rfl
  unfold SdlPrintTA.printSchemaTA
  simp only [hs.1, hs.2, joinSep_eq, List.cons_append]
  rw [hfilter]
  simp [this]

theorem lexesTo_printSchemaTA (c : SdlPrintTA.OptsA) (s : SchemaD) (apps : Apps) (hs : InPrintOrder s)
    (hne : schemaPairsA c s apps ≠ []) (h : ∀ p ∈ schemaPairsA c s apps, Lay p.1 p.2) :
    LexesTo (SdlPrintTA.printSchemaTA c s apps)
      (Item.yieldAll (((SdlPrintTA.schemaToDocA s c apps).map defTree).map definitionV)) := by
  have l1 := lay_joinSep [10, 10] [] (fun b cb hb => by simpa using lay_lf_cons (lay_lf_cons hb))
    (fun b => delimHead_cons (by decide)) _ h
  rw [joinCls_nil, schemaPairsA_snd] at l1
  have l2 := lay_append l1 (lay_lf_cons lay_nil) (delimHead_cons (by decide))
  have := lexesTo_of_lay l2 [] [] safe_nil lexesTo_nil
  rw [printSchemaTA_eq c s apps hs hne]
  simpa using this

theorem plainAllF_map_all {α} (f : α → Item) (xs : List α) (tail : List Item) (fol : List TokClass)
    (h : ∀ x ∈ xs, ∀ fol', plainF (f x) fol' = true) (ht : plainAllF tail fol = true) :
    plainAllF (xs.map f ++ tail) fol = true := by
  induction xs with
  | nil => simpa using ht
  | cons x xs ih =>
    simp only [List.map_cons, List.cons_append, plainAllF, Bool.and_eq_true]
    exact ⟨h x (by simp) _, ih (fun y hy => h y (by simp [hy]))⟩

theorem matches_defs (fl : Flags) (hnl : fl.noLocation = true) (defs : List Definition)
    (hall : ∀ d ∈ defs, ∀ fol, plainF (definitionV d) fol = true) (sof eof : Tok) (hs : cls sof = (.sof, []))
    (he : cls eof = (.eof, [])) (toks : List Tok) (hy : classes toks = Item.yieldAll (defs.map definitionV)) :
    matchesAll fl [documentV ⟨defs, none⟩] (sof :: toks ++ [eof]) = true := by
  have hp : plainF (documentV ⟨defs, none⟩) (classes []) = true := by
    simp only [documentV, plainF, Bool.and_eq_true, Option.isNone_none, Bool.not_eq_true', List.isEmpty_eq_false_iff, true_and]
    refine ⟨?_, by simp [Item.yieldAll, Item.yield]⟩
    simp only [plainAllF, plainF, Bool.true_and]
    exact plainAllF_map_all definitionV defs [p .eof] _ hall rfl
  have hc : classes (sof :: toks ++ [eof]) = (documentV ⟨defs, none⟩).yield := by
    simp [classes, documentV, Item.yield, Item.yieldAll, Parse.yieldAll_append, hs, he] at hy ⊢
    exact hy
  have := check_of_plainF fl hnl _ default (sof :: toks ++ [eof]) [] hp hc
  simp only [List.append_nil] at this
  unfold matchesAll
  have e : Item.checkAll fl [documentV ⟨defs, none⟩] default (sof :: toks ++ [eof]) =
      some (Item.lastOf default (sof :: toks ++ [eof]), []) := by
    rw [checkAll_cons]; exact ⟨_, _, this, by simp [Item.checkAll]⟩
  rw [e]

/-- the assembled statement: lexing facts + matcher facts + well-formedness ⇒ the printed text parses to the tree -/
theorem parse_printSchemaTA (c : SdlPrintTA.OptsA) (s : SchemaD) (apps : Apps) (hs : InPrintOrder s)
    (hne : schemaPairsA c s apps ≠ []) (hlay : ∀ p ∈ schemaPairsA c s apps, Lay p.1 p.2)
    (hplain : ∀ d ∈ (SdlPrintTA.schemaToDocA s c apps).map defTree, ∀ fol, plainF (definitionV d) fol = true)
    (hwf : wfDocument { noLocation := true, allowTypeSystem := true } ⟨(SdlPrintTA.schemaToDocA s c apps).map defTree, none⟩ = true) :
    parseSdlTextT (SdlPrintTA.printSchemaTA c s apps) = docToAst (SdlPrintTA.schemaToDocA s c apps) := by
  obtain ⟨toks, h1, h2⟩ := lexAll_of_lexesTo (lexesTo_printSchemaTA c s apps hs hne hlay)
  have hm := matches_defs { noLocation := true, allowTypeSystem := true } rfl _ hplain sofTok
    (eofTok (SdlPrintTA.printSchemaTA c s apps).length) (by decide) (by simp [cls, eofTok, hasValue]) toks h2
  have hparse := Props.C01.parse_complete_document _ _ _ hwf hm
  rw [docToAst_schemaToDocA]
  unfold parseSdlTextT Parse.parseText
  rw [h1]
  simp only [hparse, Except.toOption]


theorem argsPartA_of_ok (s : SchemaD) (c : SdlPrintTA.OptsA) (apps : Apps) (path : String) (hind : Blank c.base.indent)
    (hdesc : c.base.descriptions = true) (args : List ArgD) (depth : Nat)
    (h : args.all (argOKT s ((depth + 1) * c.base.indent.length)) = true) (hk : args.all (SdlPrintTA.argAppsOK c apps path) = true) :
    ArgsPartA s c apps path args depth := by
  rw [List.all_eq_true] at h hk
  have hc : ∀ a ∈ args, ArgCoreA s c apps path a := fun a ha => argCoreA_of_ok s c apps path _ a (h a ha) (hk a ha)
  have hds : ArgDescs c.base args (depth + 1) := by
    intro first a ha
    have h0 := h a ha
    simp only [argOKT, Bool.and_eq_true] at h0
    exact descPart_of_ok c.base hind hdesc a.desc (depth + 1) first h0.1.2
  by_cases hm : SdlPrintT.multiArgs c.base args = true
  · exact lay_arguments_multiA s c apps path hind args depth hm hds hc
  · have hm' : SdlPrintT.multiArgs c.base args = false := by simpa using hm
    refine lay_arguments_onelineA s c apps path args depth hm' ?_ hc
    intro a ha
    simp only [SdlPrintT.multiArgs, hdesc, Bool.true_and, List.any_eq_false] at hm'
    have := hm' a ha
    cases hda : a.desc with
    | none => rfl
    | some x =>
      rw [hda] at this
      have hx : x.isEmpty = true := by simpa using this
      simp [descToDoc, hx]

theorem membersPartA_of_ok (s : SchemaD) (c : SdlPrintTA.OptsA) (apps : Apps) (hind : Blank c.base.indent)
    (hdesc : c.base.descriptions = true) (t : TypeD) (h : typeOKT s c.base.indent.length t = true)
    (hk : SdlPrintTA.typeAppsOK c apps t = true) : MembersPartA s c apps t := by
  simp only [typeOKT, Bool.and_eq_true] at h
  obtain ⟨_, hkind⟩ := h
  simp only [SdlPrintTA.typeAppsOK, Bool.and_eq_true, List.all_eq_true] at hk
  obtain ⟨⟨⟨_, hkf⟩, hkv⟩, hki⟩ := hk
  have hd1 : ∀ (d : Option String) (first : Bool), descOKT c.base.indent.length d = true →
      DescPart (SdlPrintT.printDescription c.base d 1 first) (Item.yieldAll (descV (descOf (descToDoc d)))) := by
    intro d first hd
    exact descPart_of_ok c.base hind hdesc d 1 first (by simpa using hd)
  have hfield : ∀ i, ∀ f ∈ t.fields, fieldOKT s c.base.indent.length f = true →
      Lay (SdlPrintTA.printField s c apps t.name i f) (fieldDefinitionV (fieldOf (SdlPrintTA.fieldToDefA s c apps t.name f))).yield := by
    intro i f hf hok
    have hkf' := hkf f hf
    simp only [SdlPrintTA.fieldAppsOK, Bool.and_eq_true] at hkf'
    simp only [fieldOKT, Bool.and_eq_true] at hok
    exact (lay_fieldA s c apps t.name hind i f hok.1.1.1 hok.1.1.2 (hd1 f.desc _ hok.1.2)
      (argsPartA_of_ok s c apps _ hind hdesc f.args 1 hok.2 hkf'.2) (dirsFacts c apps _ hkf'.1)).1
  unfold MembersPartA
  cases hk' : t.kind <;> rw [hk'] at hkind <;> simp only [] <;>
    simp only [Bool.and_eq_true, List.all_eq_true, Bool.not_eq_true', List.isEmpty_eq_false_iff] at hkind
  · exact ⟨hkind.1.1, hkind.2, fun i f hf => hfield i f hf (hkind.1.2 f hf)⟩
  · exact ⟨hkind.1, fun i f hf => hfield i f hf (hkind.2 f hf)⟩
  · exact ⟨hkind.1, hkind.2⟩
  · refine ⟨hkind.1, fun i v hv => ?_⟩
    have hok := hkind.2 v hv
    simp only [enumValOKT, Bool.and_eq_true] at hok
    exact (lay_enumValueA c apps t.name hind i v hok.1.1 (hd1 v.desc _ hok.2) (dirsFacts c apps _ (hkv v hv))).1
  · refine ⟨hkind.1, fun i a ha => ?_⟩
    have hok := hkind.2 a ha
    have hc := argCoreA_of_ok s c apps t.name _ a hok (hki a ha)
    simp only [argOKT, Bool.and_eq_true] at hok
    exact (lay_inputFieldA s c apps t.name hind i a hc (hd1 a.desc _ hok.1.2)).1

theorem blank_of_wf (o : SdlPrintT.OptsT) (s : SchemaD) (hwf : printTextWF o s = true) : Blank o.indent := by
  simp only [printTextWF, Bool.and_eq_true, List.all_eq_true] at hwf
  intro c hc; have := hwf.1.1.1.1.1.1.1.1.2 c hc; simpa using this

theorem parse_printSchemaTA_full (c : SdlPrintTA.OptsA) (s : SchemaD) (apps : Apps) (hs : InPrintOrder s)
    (hwfa : SdlPrintTA.printTextWFA c s apps = true) :
    parseSdlTextT (SdlPrintTA.printSchemaTA c s apps) = docToAst (SdlPrintTA.schemaToDocA s c apps) := by
  simp only [SdlPrintTA.printTextWFA, Bool.and_eq_true, List.all_eq_true, Bool.or_eq_true, Bool.not_eq_true',
    List.isEmpty_eq_false_iff] at hwfa
  obtain ⟨⟨⟨⟨hwf, hk0⟩, hkt⟩, hkd⟩, hrootsA⟩ := hwfa
  have hind := blank_of_wf c.base s hwf
  have hwf0 := hwf
  simp only [printTextWF, Bool.and_eq_true, List.all_eq_true, Bool.or_eq_true, Bool.not_eq_true', List.isEmpty_eq_false_iff] at hwf0
  obtain ⟨⟨⟨⟨⟨⟨⟨⟨⟨hdesc, _⟩, htypes⟩, hdirs⟩, hq⟩, hm⟩, hsub⟩, hnonempty⟩, _⟩, _⟩ := hwf0
  have hrootsne : SdlPrintTA.needsSchemaBlockA s c apps = true → rootOps s ≠ [] := by
    intro hn
    rcases hrootsA with h | h
    · rw [hn] at h; cases h
    · exact h
  have hf0 := dirsFacts c apps "" hk0
  have hk0' : (SdlPrintTA.keptAt c apps "").all SdlPrintTA.dirAppOK = true := hk0
  apply parse_printSchemaTA c s apps hs
  · unfold schemaPairsA
    rcases hnonempty with (h | h) | h
    · cases ht : s.types with | nil => exact absurd ht h | cons _ _ => simp
    · cases hd : s.directives with | nil => exact absurd hd h | cons _ _ => simp
    · simp [SdlPrintTA.needsSchemaBlockA, h]
  · intro p hpm
    unfold schemaPairsA at hpm
    simp only [List.mem_append, List.mem_map] at hpm
    rcases hpm with (hpm | ⟨d, hd, rfl⟩) | ⟨t, ht, rfl⟩
    · split at hpm
      · rename_i hn
        simp only [List.mem_singleton] at hpm
        subst hpm
        exact lay_printSchemaDefinitionA c apps hind s hq hm hsub (hrootsne hn) hf0
      · cases hpm
    · have hok := hdirs d hd
      simp only [directiveOKT, Bool.and_eq_true, List.all_eq_true] at hok
      have hkd' := hkd d hd
      have hargs := argsPartA_of_ok s c apps ("@" ++ d.name) hind hdesc d.args 0 (by simpa using List.all_eq_true.2 hok.1.1.2) hkd'
      have hdsc := descPart_of_ok c.base hind hdesc d.desc 0 true (by simpa using hok.1.1.1.2)
      have := lay_printDirectiveDefinitionA s c apps d hok.1.1.1.1 hdsc hargs (fun n hn => (hok.2 n hn).1)
      simpa [defTree, SdlPrintTA.directiveToDefA, List.map_map, Function.comp_def] using this
    · have hok := htypes t ht
      have hkt' := hkt t ht
      have hkt0 : SdlPrintTA.appsOKAt c apps t.name = true := by
        simp only [SdlPrintTA.typeAppsOK, Bool.and_eq_true] at hkt'; exact hkt'.1.1.1
      have hok' := hok
      simp only [typeOKT, Bool.and_eq_true] at hok'
      exact lay_printTypeA s c apps t hok'.1.1 (descPart_of_ok c.base hind hdesc t.desc 0 true (by simpa using hok'.1.2))
        (dirsFacts c apps _ hkt0) (membersPartA_of_ok s c apps hind hdesc t hok hkt')
  · exact List.forall_mem_map.2 (forall_mem_schemaToDocA s c apps (fun _ fol => plainF_defTree _ fol rfl)
      (fun d _ fol => plainF_defTree _ fol rfl)
      (fun t ht fol => plainF_defTree _ fol (openEnd_typeToDefA s c apps _ t (htypes t ht))))
  · simp only [wfDocument, Bool.and_eq_true, Bool.not_eq_true', List.isEmpty_eq_false_iff, List.all_eq_true, Bool.true_or,
      and_true]
    constructor
    · intro e
      rcases hnonempty with (h | h) | h
      · unfold SdlPrintTA.schemaToDocA at e; simp [h] at e
      · unfold SdlPrintTA.schemaToDocA at e; simp [h] at e
      · unfold SdlPrintTA.schemaToDocA at e; simp [SdlPrintTA.needsSchemaBlockA, h] at e
    · exact List.forall_mem_map.2 (forall_mem_schemaToDocA s c apps (fun hn => wfDefinition_schemaA _ s _ (hrootsne hn) hk0')
        (fun d hd => wfDefinition_directiveA _ s c apps _ d (hdirs d hd) (hkd d hd))
        (fun t ht => wfDefinition_typeA _ s c apps _ t (htypes t ht) (hkt t ht)))


theorem docToAst_schemaToDoc (s : SchemaD) : docToAst (schemaToDoc s) = some ⟨(schemaToDoc s).map defTree, none⟩ := by
  rw [← schemaToDocA_off (c := optsOff {}) rfl s []]
  exact docToAst_schemaToDocA s _ []

theorem parse_printSchemaT_full (o : SdlPrintT.OptsT) (s : SchemaD) (hs : InPrintOrder s)
    (hwf : printTextWF o s = true) :
    parseSdlTextT (SdlPrintT.printSchemaT o s) = docToAst (schemaToDoc s) := by
  have h := parse_printSchemaTA_full (optsOff o) s [] hs (by rw [printTextWFA_off rfl]; exact hwf)
  rwa [printSchemaTA_off rfl, schemaToDocA_off rfl] at h

def argPlain (a : ArgD) : Prop := descToDoc a.desc = none ∧ a.hasDefault = false

def NoDescNoDefault (s : SchemaD) : Prop :=
  (∀ t ∈ s.types, descToDoc t.desc = none ∧ (∀ f ∈ t.fields, descToDoc f.desc = none ∧ ∀ a ∈ f.args, argPlain a) ∧
    (∀ v ∈ t.values, descToDoc v.desc = none) ∧ (∀ a ∈ t.inputFields, argPlain a)) ∧
  (∀ d ∈ s.directives, descToDoc d.desc = none ∧ ∀ a ∈ d.args, argPlain a)

theorem parse_printSchemaT_layer1 (o : SdlPrintT.OptsT) (s : SchemaD) (hs : InPrintOrder s)
    (hwf : printTextWF o s = true) (hp : NoDescNoDefault s) :
    parseSdlTextT (SdlPrintT.printSchemaT o s) = docToAst (schemaToDoc s) :=
  parse_printSchemaT_full o s hs hwf

end PyGql.SdlText
