/-
  EVERY document with pairwise distinct selection-set identities HAS SYNTACTIC RANKS: the proposal `synRanks d`
  (`Validate/OverlapRank.lean`: twice the syntactic nesting height of a selection list, +2) passes the check
  `rankSynB` - so the hypothesis `rankSynB …` of the termination / completeness theorems of the memoised overlap search
  follows from `WfIds d` alone.
-/
import PyGqlModel.Lemmas.ValidateOverlapMemo
import PyGqlModel.Lemmas.ValidateOverlapWf
namespace PyGql.Validate
open PyGql PyGql.Validate.Spec

theorem synRankSels_ge_two : ∀ sels : List Sel, 2 ≤ synRankSels sels
  | [] => by rw [synRankSels]; exact Nat.le_refl 2
  | x :: xs => by
    rw [synRankSels]
    exact Nat.le_trans (synRankSels_ge_two xs) (Nat.le_max_right _ _)

theorem synRankSel_le_of_mem {x : Sel} : ∀ {sels : List Sel}, x ∈ sels → synRankSel x ≤ synRankSels sels
  | [], h => by cases h
  | y :: ys, h => by
    rw [synRankSels]
    rcases List.mem_cons.mp h with rfl | h
    · exact Nat.le_max_left _ _
    · exact Nat.le_trans (synRankSel_le_of_mem h) (Nat.le_max_right _ _)

theorem synRank_collD {s : SchemaD} {p : Option String} {sels : List Sel} {rn : String} {e : FEntry}
    (h : CollD s p sels rn e) (hs : e.hasSub = true) : synRankSels e.sub + 2 ≤ synRankSels sels := by
  induction h with
  | @field parent sels alias name args dirs hasSub ssid sub hm =>
    simp only at hs; subst hs
    have := synRankSel_le_of_mem hm
    rw [synRankSel] at this
    simpa using this
  | @inline parent sels on dirs id sub rn e hm _ ih =>
    have := synRankSel_le_of_mem hm
    rw [synRankSel] at this
    exact Nat.le_trans (ih hs) this

theorem rankOf_synRanks {d : Doc} (hw : WfIds d) {i : Nat} {sels : List Sel} (h : SelSet d i sels) :
    rankOf (synRanks d) i = synRankSels sels := by
  have hin : (i, synRankSels sels) ∈ synRanks d := by
    unfold synRanks; exact List.mem_filterMap.mpr ⟨_, h, rfl⟩
  unfold rankOf
  cases hf : (synRanks d).find? (·.1 == i) with
  | none =>
    have := List.find?_eq_none.mp hf _ hin
    simp at this
  | some q =>
    have hq := List.mem_of_find?_eq_some hf
    have hk : q.1 = i := by simpa using List.find?_some hf
    unfold synRanks at hq
    obtain ⟨n, hn, he⟩ := List.mem_filterMap.mp hq
    cases n with
    | selectionSet j sels' =>
      simp only [Option.some.injEq] at he
      subst he
      simp only at hk; subst hk
      have := wf_selSet_unique hw hn h; subst this
      rfl
    | _ => simp at he

theorem le_foldl_max (l : List (Nat × Nat)) : ∀ m : Nat,
    m ≤ l.foldl (fun m p => max m p.2) m ∧ ∀ p ∈ l, p.2 ≤ l.foldl (fun m p => max m p.2) m := by
  induction l with
  | nil => intro m; exact ⟨Nat.le_refl _, fun _ h => nomatch h⟩
  | cons x xs ih =>
    intro m
    rw [List.foldl_cons]
    obtain ⟨a, b⟩ := ih (max m x.2)
    refine ⟨Nat.le_trans (Nat.le_max_left _ _) a, fun p hp => ?_⟩
    rcases List.mem_cons.mp hp with rfl | hp
    · exact Nat.le_trans (Nat.le_max_right _ _) a
    · exact b p hp

theorem le_maxRank {l : List (Nat × Nat)} {p : Nat × Nat} (h : p ∈ l) : p.2 ≤ maxRank l :=
  (le_foldl_max l 2).2 p h

theorem rankSynB_of_wfIds (s : SchemaD) (d : Doc) (hw : WfIds d) :
    rankSynB s d (rankOf (synRanks d)) (maxRank (synRanks d)) = true := by
  unfold rankSynB
  rw [List.all_eq_true]
  intro n hn
  cases n with
  | selectionSet i sels =>
    have hs : SelSet d i sels := hn
    have hr := rankOf_synRanks hw hs
    have hin : (i, synRankSels sels) ∈ synRanks d := by
      unfold synRanks; exact List.mem_filterMap.mpr ⟨_, hs, rfl⟩
    simp only [nodeRankSyn, Bool.and_eq_true, decide_eq_true_eq, List.all_eq_true]
    refine ⟨⟨by rw [hr]; exact synRankSels_ge_two sels, by rw [hr]; exact le_maxRank hin⟩, ?_⟩
    intro q hq e he
    obtain ⟨a1, _⟩ := collectSels_sound s (CollD s none sels) (fun _ => True) none sels ([], [])
      (fun _ _ h => h) (fun _ _ => trivial) (entOK_nil _) (fun _ h => nomatch h)
    have hc := a1 q hq e he
    rw [hr]
    unfold entryRank
    split
    · rename_i hsub
      rw [rankOf_synRanks hw (selSet_sub hs hc hsub)]
      exact synRank_collD hc hsub
    · have := synRankSels_ge_two sels; omega
  | _ => rfl

end PyGql.Validate
