/-
  C08 — error accounting. `pend n` = the errors the continuations inside node `n`
  will still record; invariant: (errors recorded so far) + pend = (errors of the specification), as
  multisets (stated with `List.count`, so that `omega` does the bookkeeping).
-/
import PyGqlModel.Lemmas.ExecEv


namespace PyGql.AsyncExec

/-- errors callback `k` records when it runs on the eventual outcome of its source -/
def pendCont : Cont → EvR → List Err
  | .complete path, .ok (.raw c) => errsComp path c
  | .complete path, .rerr => [⟨path, .resolver⟩]
  | .nonNull path, .ok (.data .null) => [⟨path, .nonNull⟩]
  | .serialCb path _ _ args, .ok (.data _) => errsFlds path args
  | _, _ => []

mutual
def pend : Node → List Err
  | .done r => pend r
  | .unwrap src => pend src
  | .chain src k => pend src ++ pendCont k (ev src)
  | .gather slots _ _ => pendSlots slots
  | .val _ => []
  | .failed _ => []
  | .task _ _ _ _ => []
def pendSlots : Nodes → List Err
  | .nil => []
  | .cons n ns => pend n ++ pendSlots ns
end

def pendRes : Res Node → List Err
  | .ok n => pend n
  | .exc _ => []

def EvR.isFail : EvR → Bool
  | .fail => true
  | _ => false

abbrev cnt (e : Err) (l : List Err) : Nat := List.count e l

mutual
theorem blockComp_errs : ∀ (c : Comp) (path : Path) (s : ExecSt) (v : V) (s1 : ExecSt),
    blockComp path c s = (.ok v, s1) → s1.errors = s.errors ++ errsComp path c
  | .null, path, s, v, s1, h => by cases h; exact (List.append_nil _).symm
  | .leaf n, path, s, v, s1, h => by cases h; exact (List.append_nil _).symm
  | .bad, path, s, v, s1, h => by cases h
  | .nonNull c, path, s, v, s1, h => by
    simp only [blockComp] at h
    generalize hr : blockComp path c s = x at h
    obtain ⟨v0 | e, s0⟩ := x
    · have ih := blockComp_errs c path s v0 s0 hr
      have hd := blockComp_den c path s
      rw [hr] at hd
      cases h
      rw [errsComp, ← hd]
      cases v <;> simp [resOpt, V.isNull, ExecSt.addError, ih]
    · cases h
  | .list items, path, s, v, s1, h => by
    simp only [blockComp] at h
    generalize hr : blockItems path 0 items s = x at h
    obtain ⟨vs | e, s0⟩ := x
    · cases h
      exact blockItems_errs items path 0 s _ _ hr
    · cases h
  | .obj fields, path, s, v, s1, h => by
    simp only [blockComp] at h
    generalize hr : blockFields path fields s = x at h
    obtain ⟨kvs | e, s0⟩ := x
    · cases h
      exact blockFields_errs fields path s _ _ hr
    · cases h
theorem blockItems_errs : ∀ (cs : Comps) (path : Path) (i : Nat) (s : ExecSt) (vs : List V) (s1 : ExecSt),
    blockItems path i cs s = (.ok vs, s1) → s1.errors = s.errors ++ errsItems path i cs
  | .nil, path, i, s, vs, s1, h => by cases h; exact (List.append_nil _).symm
  | .cons c cs, path, i, s, vs, s1, h => by
    simp only [blockItems] at h
    generalize hr : blockComp (path ++ [.idx i]) c s = x at h
    obtain ⟨v | e, s0⟩ := x
    · dsimp only at h
      generalize hr2 : blockItems path (i + 1) cs s0 = y at h
      obtain ⟨vs2 | e, s2⟩ := y
      · cases h
        rw [blockItems_errs cs path (i + 1) s0 _ _ hr2, blockComp_errs c _ s v s0 hr, List.append_assoc]
        rfl
      · cases h
    · cases h
theorem blockFields_errs : ∀ (fs : Flds) (path : Path) (s : ExecSt) (kvs : List (String × V)) (s1 : ExecSt),
    blockFields path fs s = (.ok kvs, s1) → s1.errors = s.errors ++ errsFlds path fs
  | .nil, path, s, kvs, s1, h => by cases h; exact (List.append_nil _).symm
  | .cons key mode out rest, path, s, kvs, s1, h => by
    simp only [blockFields] at h
    generalize hr : blockField (path ++ [.key key]) out s = x at h
    obtain ⟨v | e, s0⟩ := x
    · dsimp only at h
      generalize hr2 : blockFields path rest s0 = y at h
      obtain ⟨kvs2 | e, s2⟩ := y
      · cases h
        rw [blockFields_errs rest path s0 _ _ hr2, blockField_errs out _ s v s0 hr, List.append_assoc]
        rfl
      · cases h
    · cases h
theorem blockField_errs : ∀ (out : ROut) (p : Path) (s : ExecSt) (v : V) (s1 : ExecSt),
    blockField p out s = (.ok v, s1) → s1.errors = s.errors ++ errsOut p out
  | .rerr, p, s, v, s1, h => by cases h; rfl
  | .exc, p, s, v, s1, h => by cases h
  | .ok c, p, s, v, s1, h => blockComp_errs c p ((s.emit (.call p)).emit (.done p)) v s1 h
end

/-- error accounting required of the interpretation of callback `k` -/
def ApErr (ap : ApplyCont) (k : Cont) : Prop :=
  ∀ (r : Res Val) (s : ExecSt) (e : Err), (evCont k (evOfVal r)).isFail = false →
    cnt e (ap k r s).2.errors + cnt e (pendRes (ap k r s).1) = cnt e s.errors + cnt e (pendCont k (evOfVal r))

theorem applySimple_errs (k : Cont) (hk : simpleK k = true) : ApErr applySimple k := by
  intro r s e _
  cases k <;> simp [simpleK] at hk <;> cases r with
  | exc x => cases x <;> simp [applySimple, pendRes, pendCont, evOfVal, evExc, cnt]
  | ok x =>
    first
    | (simp [applySimple, pendRes, pend, pendCont, evOfVal, cnt]; done)
    | (cases x with
       | data v => cases v <;> simp [applySimple, handleNonNullableValue, pendRes, pend, pendCont, evOfVal, cnt, ExecSt.addError, List.count_append]
       | raw c => simp [applySimple, handleNonNullableValue, pendRes, pend, pendCont, evOfVal, cnt]
       | junk => simp [applySimple, handleNonNullableValue, pendRes, pend, pendCont, evOfVal, cnt])

theorem errs_settle {e : Err} {r : Res Node × ExecSt} {n : Nat} (h : cnt e r.2.errors + cnt e (pendRes r.1) = n) :
    cnt e (settle r).2.errors + cnt e (pend (settle r).1) = n := by
  obtain ⟨x | e', s'⟩ := r <;> exact h

theorem chainOnFinish_errs (ap : ApplyCont) (k : Cont) (hap : ApErr ap k) (src : Node) (s : ExecSt) (e : Err)
    (hf : flat src = true) (hnf : (evCont k (ev src)).isFail = false) :
    cnt e (chainOnFinish ap src k s).2.errors + cnt e (pend (chainOnFinish ap src k s).1)
      = cnt e s.errors + cnt e (pend (.chain src k)) := by
  rw [chainOnFinish_eq]
  split
  next x => exact errs_settle (hap _ s e hnf)
  next r =>
    obtain ⟨x, rfl⟩ : ∃ x, r = .val x := by cases r <;> first | exact ⟨_, rfl⟩ | cases hf
    exact errs_settle (hap _ s e hnf)
  next => rfl

theorem mapValue_errs (ap : ApplyCont) (k : Cont) (hap : ApErr ap k) (n : Node) (s : ExecSt) (e : Err)
    (hf : flat n = true) (hnf : (evCont k (ev n)).isFail = false) :
    cnt e (mapValue ap n k s).2.errors + cnt e (pendRes (mapValue ap n k s).1)
      = cnt e s.errors + cnt e (pend n) + cnt e (pendCont k (ev n)) := by
  have hsplit : cnt e s.errors + cnt e (pend (.chain n k)) = cnt e s.errors + cnt e (pend n) + cnt e (pendCont k (ev n)) :=
    (congrArg _ (List.count_append ..)).trans (Nat.add_assoc _ _ _).symm
  unfold mapValue
  split
  next x => exact hap (.ok x) s e hnf
  next =>
    split
    · exact (chainOnFinish_errs ap k hap _ s e hf hnf).trans hsplit
    · exact hsplit

theorem pend_unwrapCb (n : Node) : pend (unwrapCb n) = pend n :=
  unwrapCb_congr _ (fun _ => rfl) (fun _ => rfl) n

theorem pend_unwrapValue (n : Node) : pend (unwrapValue n) = pend n := by
  cases n <;> simp [unwrapValue, pend_unwrapCb]

theorem pendSlots_settled : ∀ (slots : Nodes), (∀ n ∈ slots.toList, (∃ x, n = .val x) ∨ ∃ x, n = .done (.val x)) →
    pendSlots slots = []
  | .nil, _ => rfl
  | .cons n ns, h => by
    have ih := pendSlots_settled ns fun m hm => h m (List.mem_cons_of_mem _ hm)
    rcases h n (List.mem_cons_self ..) with ⟨x, rfl⟩ | ⟨x, rfl⟩ <;> exact ih

theorem gatherAfter_pend (slots : Nodes) (done target : Nat) (fired : List (Except Exc Node))
    (hg : GoodSlots slots = true) (hfired : ∀ e, Except.error e ∈ fired → Node.failed e ∈ slots.toList)
    (hnf : (evGather (evSlots slots)).isFail = false) :
    pend (gatherAfter slots done target fired) = pendSlots slots := by
  rcases gatherAfter_cases slots done target fired with ⟨d', _, h⟩ | ⟨e, he, h⟩ | ⟨rs, hc, h⟩ <;> rw [h]
  · rfl
  · -- a failed slot makes the aggregate fail: excluded
    have hm := hfired e he
    have hne : ∀ x, ev (Node.failed e) ≠ .ok x := by intro x; cases e <;> simp [ev, evExc]
    rw [evGather_fail (evSlots slots) (ev (.failed e)) (mem_evSlots slots _ hm) hne] at hnf
    cases hnf
  · exact (pendSlots_settled slots (settled_of_collected slots rs hg hc)).symm

theorem gatherValues_pend (source : Nodes) (hg : GoodSlots source = true)
    (hnf : (evGather (evSlots source)).isFail = false) :
    pend (gatherValues source) = pendSlots source := by
  rcases gatherValues_cases source with ⟨hv, h⟩ | ⟨_, h⟩
  · rw [h]
    exact (pendSlots_settled source fun n hn => .inl (val_of_no_future hv n hn)).symm
  · rw [h]
    exact gatherAfter_pend source _ _ _ hg (fun e he => mem_firedOf.1 he) hnf

def pendSlotsRes : Res Nodes → List Err
  | .ok ns => pendSlots ns
  | .exc _ => []

theorem res_ok_of_den {r : Res Node} {v : V} (h : evRes r = denToEv (some v)) : ∃ n, r = .ok n ∧ ev n = .ok (.data v) := by
  cases r with
  | ok n => exact ⟨n, rfl, by simpa [evRes, denToEv] using h⟩
  | exc e => cases e <;> simp [evRes, evExc, denToEv] at h

@[simp] theorem emit_errors (s : ExecSt) (e : Ev) : (s.emit e).errors = s.errors := rfl
@[simp] theorem submit_errors (s : ExecSt) : s.submit.2.errors = s.errors := rfl
@[simp] theorem addError_errors (s : ExecSt) (p : Path) (k : ErrKind) : (s.addError p k).errors = s.errors ++ [⟨p, k⟩] := rfl

/-- two steps in a row: what the second starts from is what the first left -/
theorem cnt_seq {a0 a1 a2 p p1 p2 w1 w2 : Nat} (h1 : a1 + p1 = a0 + w1) (h2 : a2 + p2 = a1 + w2) (hp : p = p1 + p2) :
    a2 + p = a0 + (w1 + w2) := by omega

theorem denFlds_cons_some {key : String} {mode : Mode} {out : ROut} {rest : Flds}
    (h : denFlds (.cons key mode out rest) ≠ none) : (∃ v, denOut out = some v) ∧ denFlds rest ≠ none :=
  ⟨Option.ne_none_iff_exists'.mp fun hn => h (denFlds_cons_none key mode out rest (.inl hn)),
   fun hn => h (denFlds_cons_none key mode out rest (.inr hn))⟩

theorem denItems_cons_some {c : Comp} {cs : Comps}
    (h : denItems (.cons c cs) ≠ none) : (∃ v, denComp c = some v) ∧ denItems cs ≠ none :=
  ⟨Option.ne_none_iff_exists'.mp fun hn => h (denItems_cons_none c cs (.inl hn)),
   fun hn => h (denItems_cons_none c cs (.inr hn))⟩

/-- what the outcome has recorded of the error `e`, and what the continuations in its node will still record of it, is what
    `spec` says -/
def ErrOK (e : Err) (s : ExecSt) (spec : List Err) (r : Res Node × ExecSt) : Prop :=
  cnt e r.2.errors + cnt e (pendRes r.1) = cnt e s.errors + cnt e spec

def ErrsOK (e : Err) (s : ExecSt) (spec : List Err) (r : Res Nodes × ExecSt) : Prop :=
  cnt e r.2.errors + cnt e (pendSlotsRes r.1) = cnt e s.errors + cnt e spec

theorem ErrOK.congr {e : Err} {s : ExecSt} {spec spec' : List Err} {r : Res Node × ExecSt} (h : ErrOK e s spec r)
    (hs : spec = spec') : ErrOK e s spec' r :=
  hs ▸ h

theorem resolveFields_slotsOK_some {fs : Flds} {kvs : List (String × V)} (hk : denFlds fs = some kvs) (path : Path) (s : ExecSt) :
    SlotsOK (some (kvs.map (·.2))) (resolveFields path fs s) := by
  have h := resolveFields_slotsOK fs path s
  rw [hk] at h
  exact h

theorem ErrOK.chain {ap : ApplyCont} {e : Err} {s : ExecSt} {spec : List Err} {r : Res Node × ExecSt} {v : V} (k : Cont)
    (hap : ApErr ap k) (hnf : (evCont k (.ok (.data v))).isFail = false) (hev : EvOK (some v) r) (h : ErrOK e s spec r) :
    ErrOK e s (spec ++ pendCont k (.ok (.data v))) (chainRes ap k r) := by
  obtain ⟨r, s1⟩ := r
  obtain ⟨n, rfl, hn⟩ := res_ok_of_den hev.1
  have hm := mapValue_errs ap k hap n s1 e hev.2.2 (by rw [hn]; exact hnf)
  rw [hn] at hm
  exact hm.trans ((congrArg (· + _) h).trans ((Nat.add_assoc _ _ _).trans (congrArg _ (List.count_append ..).symm)))

theorem ErrsOK.gather {e : Err} {s : ExecSt} {spec : List Err} {r : Res Nodes × ExecSt} {vs : List V}
    (hev : SlotsOK (some vs) r) (h : ErrsOK e s spec r) : ErrOK e s spec (gatherRes r) := by
  obtain ⟨ns | x, s1⟩ := r
  · exact (congrArg (fun l => _ + cnt e l) (gatherValues_pend ns hev.1 (by rw [hev.2]; rfl))).trans h
  · exact nomatch hev.2

theorem ErrOK.cons {e : Err} {s : ExecSt} {w ws : List Err} {r : Res Node × ExecSt} {rest : ExecSt → Res Nodes × ExecSt}
    {v : V} {vs : List V} (hev : EvOK (some v) r) (h1 : ErrOK e s w r) (hevs : ∀ s1, SlotsOK (some vs) (rest s1))
    (h2 : ∀ s1, ErrsOK e s1 ws (rest s1)) : ErrsOK e s (w ++ ws) (consRes r rest) := by
  obtain ⟨r, s1⟩ := r
  obtain ⟨n, rfl, _⟩ := res_ok_of_den hev.1
  have h2 := h2 s1
  have hevs := hevs s1
  simp only [consRes, thenR]
  generalize rest s1 = y at h2 hevs ⊢
  obtain ⟨ns | x, s2⟩ := y
  · exact (cnt_seq h1 h2 (List.count_append ..)).trans (congrArg _ (List.count_append ..).symm)
  · exact nomatch hevs.2

theorem ErrOK.catch {e : Err} {s : ExecSt} {spec : List Err} {path : Path} {r : Res Node × ExecSt} {v : V}
    (hev : EvOK (some v) r) (h : ErrOK e s spec r) : ErrOK e s spec (catchRes path r) := by
  obtain ⟨r, s1⟩ := r
  obtain ⟨n, rfl, _⟩ := res_ok_of_den hev.1
  exact h

theorem ErrOK.nowOf {e : Err} {s : ExecSt} {spec : List Err} {r : Res Node × ExecSt} (h : ErrOK e s spec r) :
    ErrOK e s spec (nowOf r) := by
  obtain ⟨n | x, s1⟩ := r
  · exact (congrArg (fun l => _ + cnt e l) (pend_unwrapValue n)).trans h
  · exact h

theorem ErrOK.futureOf {e : Err} {s : ExecSt} {spec : List Err} {r : Res Node × ExecSt} {v : V}
    (hev : EvOK (some v) r) (h : ErrOK e s spec r) : ErrOK e s spec (futureOf r) := by
  obtain ⟨r, s1⟩ := r
  obtain ⟨n, rfl, _⟩ := res_ok_of_den hev.1
  exact (congrArg (fun l => _ + cnt e l) (pend_unwrapCb (.done n))).trans h

/-- a deferred field has recorded nothing yet: its parked `complete` callback will record what its outcome asks for -/
theorem ErrOK.parked (e : Err) (id : Nat) (path : Path) (nested : Bool) (out : ROut) (s : ExecSt) (h : denOut out ≠ none) :
    ErrOK e s (errsOut path out) (.ok (parked id path nested out), (s.emit (.call path)).submit.2) := by
  cases out with
  | exc => exact absurd rfl h
  | _ => simp [ErrOK, AsyncExec.parked, pendRes, pend, pendCont, ev, errsOut, cnt]

theorem pendCont_nonNull (path : Path) (c : Comp) (v : V) (hv : denComp c = some v) :
    errsComp path c ++ pendCont (.nonNull path) (.ok (.data v)) = errsComp path (.nonNull c) := by
  rw [errsComp, hv]
  cases v <;> rfl

theorem denComp_obj {fields : Flds} (h : denComp (.obj fields) ≠ none) : ∃ kvs, denFlds fields = some kvs := by
  rw [denComp] at h
  cases hd : denFlds fields with
  | some kvs => exact ⟨kvs, rfl⟩
  | none => exact absurd (by rw [hd]) h

theorem denComp_list_some {items : Comps} (h : denComp (.list items) ≠ none) : ∃ vs, denItems items = some vs := by
  rw [denComp_list] at h
  cases hd : denItems items with
  | some vs => exact ⟨vs, rfl⟩
  | none => exact absurd (by rw [hd]; rfl) h

theorem errs_cases (e : Err) : ExecCases (fun path c s r => denComp c ≠ none → ErrOK e s (errsComp path c) r)
    (fun path i cs s r => denItems cs ≠ none → ErrsOK e s (errsItems path i cs) r)
    (fun path fs s r => denFlds fs ≠ none → ErrsOK e s (errsFlds path fs) r)
    (fun path _ out s r => denOut out ≠ none → ErrOK e s (errsOut path out) r)
    (fun path out s r => denOut out ≠ none → ErrOK e s (errsOut path out) r) where
  null _ _ _ := rfl
  leaf _ _ _ _ := rfl
  bad _ _ h := absurd rfl h
  nonNull path c s ih h := by
    obtain ⟨v, hv⟩ := Option.ne_none_iff_exists'.mp h
    exact (ErrOK.chain (.nonNull path) (applySimple_errs _ rfl) rfl (hv ▸ completeValue_ev c path s) (ih h)).congr
      (pendCont_nonNull path c v hv)
  list path items s ih h := by
    obtain ⟨vs, hvs⟩ := denComp_list_some h
    exact ErrsOK.gather (hvs ▸ completeItems_ev items path 0 s) (ih (hvs ▸ Option.some_ne_none vs))
  obj path fields s ih h := by
    obtain ⟨kvs, hk⟩ := denComp_obj h
    have hs := resolveFields_slotsOK_some hk path s
    have hg := ErrsOK.gather hs (ih (hk ▸ Option.some_ne_none kvs))
    exact (ErrOK.chain (v := .list (kvs.map Prod.snd)) (.collect fields.keys) (applySimple_errs _ rfl) rfl hs.gather hg).congr
      (List.append_nil _)
  inil _ _ _ _ := rfl
  icons path i c cs s ih1 ih2 h := by
    obtain ⟨⟨v, hv⟩, hcs⟩ := denItems_cons_some h
    obtain ⟨vs, hvs⟩ := Option.ne_none_iff_exists'.mp hcs
    exact ErrOK.cons (hv ▸ completeValue_ev c _ s) (ih1 (hv ▸ Option.some_ne_none v))
      (fun s1 => hvs ▸ completeItems_ev cs path (i + 1) s1) fun s1 => ih2 s1 hcs
  fnil _ _ _ := rfl
  fcons path key mode out fs s ih1 ih2 h := by
    obtain ⟨⟨v, hv⟩, hcs⟩ := denFlds_cons_some h
    obtain ⟨kvs, hk⟩ := Option.ne_none_iff_exists'.mp hcs
    exact ErrOK.cons (hv ▸ resolveField_ev out _ mode s) (ih1 (hv ▸ Option.some_ne_none v))
      (resolveFields_slotsOK_some hk path) fun s1 => ih2 s1 hcs
  deferred path out s h := ErrOK.parked e s.next path false out s h
  nested path out s h := ErrOK.parked e s.next path true out s h
  sync _ _ _ ih h := (ih h).nowOf
  ready path out s ih h := by
    obtain ⟨v, hv⟩ := Option.ne_none_iff_exists'.mp h
    exact ErrOK.futureOf (hv ▸ ev_cases.complete out path (s.ran path)) (ih h)
  rerr _ _ _ := List.count_append ..
  exc _ _ h := absurd rfl h
  ok path c s ih h := by
    obtain ⟨v, hv⟩ : ∃ v, denComp c = some v := Option.ne_none_iff_exists'.mp h
    exact ErrOK.catch (hv ▸ completeValue_ev c path s) (ih h)

theorem completeValue_errs : ∀ (c : Comp) (path : Path) (s : ExecSt) (e : Err), denComp c ≠ none →
    cnt e (completeValue path c s).2.errors + cnt e (pendRes (completeValue path c s).1)
      = cnt e s.errors + cnt e (errsComp path c) :=
  fun c path s e => (errs_cases e).value c path s

theorem completeItems_errs : ∀ (cs : Comps) (path : Path) (i : Nat) (s : ExecSt) (e : Err), denItems cs ≠ none →
    cnt e (completeItems path i cs s).2.errors + cnt e (pendSlotsRes (completeItems path i cs s).1)
      = cnt e s.errors + cnt e (errsItems path i cs) :=
  fun cs path i s e => (errs_cases e).items cs path i s

theorem resolveFields_errs : ∀ (fs : Flds) (path : Path) (s : ExecSt) (e : Err), denFlds fs ≠ none →
    cnt e (resolveFields path fs s).2.errors + cnt e (pendSlotsRes (resolveFields path fs s).1)
      = cnt e s.errors + cnt e (errsFlds path fs) :=
  fun fs path s e => (errs_cases e).fields fs path s

theorem resolveField_errs : ∀ (out : ROut) (path : Path) (mode : Mode) (s : ExecSt) (e : Err), denOut out ≠ none →
    cnt e (resolveField path mode out s).2.errors + cnt e (pendRes (resolveField path mode out s).1)
      = cnt e s.errors + cnt e (errsOut path out) :=
  fun out path mode s e => (errs_cases e).field out path mode s

theorem complete_errs (p : Path) (c : Comp) (s : ExecSt) (e : Err) (h : denComp c ≠ none) :
    ErrOK e s (errsComp p c) (applyCont (.complete p) (.ok (.raw c)) s) :=
  (errs_cases e).complete (.ok c) p s h

/-- the parked `cb` of `_next` will record the errors of the rest of the queue -/
theorem serialCb_errs (path : Path) (key : String) (resolved : List (String × V)) (args : Flds)
    (ih : ∀ resolved s e, denFlds args ≠ none → ErrOK e s (errsFlds path args) (serialNext path resolved args s)) :
    ApErr applyCont (.serialCb path key resolved args) := by
  intro r s e hnf
  cases r with
  | ok x =>
    cases x with
    | data v =>
      refine ih _ s e fun hn => ?_
      rw [evOfVal, evCont, hn] at hnf
      cases hnf
    | _ => rfl
  | exc x => cases x <;> first | rfl | cases hnf

theorem serialNext_errs : ∀ (args : Flds) (path : Path) (resolved : List (String × V)) (s : ExecSt) (e : Err),
    denFlds args ≠ none →
    cnt e (serialNext path resolved args s).2.errors + cnt e (pendRes (serialNext path resolved args s).1)
      = cnt e s.errors + cnt e (errsFlds path args)
  | .nil, _, _, _, _, _ => rfl
  | .cons key mode out rest, path, resolved, s, e, h => by
    obtain ⟨⟨v, hv⟩, hcs⟩ := denFlds_cons_some h
    obtain ⟨kvs, hk⟩ := Option.ne_none_iff_exists'.mp hcs
    rw [serialNext_cons]
    exact ErrOK.chain (.serialCb path key resolved rest) (serialCb_errs path key resolved rest (serialNext_errs rest path))
      (by rw [evCont, hk]; rfl) (hv ▸ resolveField_ev out _ mode s)
      (resolveField_errs out _ mode s e (hv ▸ Option.some_ne_none v))

theorem applyCont_errs (k : Cont) : ApErr applyCont k := by
  cases k with
  | serialCb p key res args => exact serialCb_errs p key res args fun resolved s e => serialNext_errs args p resolved s e
  | complete p =>
    intro r s e hnf
    cases r with
    | ok x =>
      cases x with
      | raw c =>
        refine complete_errs p c s e fun hn => ?_
        rw [evOfVal, evCont, hn] at hnf
        cases hnf
      | _ => rfl
    | exc x =>
      cases x with
      | resolver => exact List.count_append ..
      | _ => cases hnf
  | _ => exact applySimple_errs _ rfl

theorem evGather_cons_notfail (r : EvR) (rs : List EvR) (h : (evGather (r :: rs)).isFail = false) :
    r.isFail = false ∧ (evGather rs).isFail = false := by
  simp only [evGather] at h
  cases r with
  | ok x =>
    refine ⟨rfl, ?_⟩
    cases hg : evGather rs with
    | ok y => rfl
    | rerr => rw [hg] at h; cases x <;> simp [EvR.isFail] at h
    | fail => rw [hg] at h; cases x <;> simp [EvR.isFail] at h
  | rerr => simp [EvR.isFail] at h
  | fail => simp [EvR.isFail] at h

theorem notfail_of_cont (k : Cont) (r : EvR) (h : (evCont k r).isFail = false) : r.isFail = false := by
  cases r with
  | fail => rw [evCont_fail] at h; exact h
  | ok x => rfl
  | rerr => rfl

theorem deliver_errs_cases (t : Nat) (e : Err) : DeliverCases applyCont t
    (fun n s r => Good n = true → (ev n).isFail = false → cnt e r.2.errors + cnt e (pend r.1) = cnt e s.errors + cnt e (pend n))
    (fun ns s r => GoodSlots ns = true → (evGather (evSlots ns)).isFail = false →
      cnt e r.2.2.errors + cnt e (pendSlots r.1) = cnt e s.errors + cnt e (pendSlots ns)) where
  val _ _ _ _ := rfl
  done _ _ _ _ := rfl
  failed _ _ _ _ := rfl
  hit _ nested out _ _ _ := by cases nested <;> cases out <;> rfl
  miss _ _ _ _ _ _ _ _ := rfl
  chain src k s ih hg hnf := by
    simp only [Good, Bool.and_eq_true] at hg
    obtain ⟨i1, _, i3⟩ := deliver_ev src t s hg.1
    have hc := chainOnFinish_errs applyCont k (applyCont_errs k) _ (deliver applyCont t src s).2 e (i3 hg.2) (by rw [i1]; exact hnf)
    have ih := ih hg.1 (notfail_of_cont k (ev src) hnf)
    simp only [pend, i1, cnt, List.count_append] at hc ih ⊢
    omega
  unwrap _ _ ih hg hnf := (congrArg (fun l => _ + cnt e l) (pend_unwrapCb _)).trans (ih hg hnf)
  gather slots done target s ih hg hnf := by
    obtain ⟨i1, i2, i3⟩ := deliverSlots_ev slots t s hg
    exact (congrArg (fun l => _ + cnt e l) (gatherAfter_pend _ done target _ i2 i3 (by rw [i1]; exact hnf))).trans (ih hg hnf)
  nil _ _ _ := rfl
  cons n ns s ih1 ih2 hg hnf := by
    simp only [GoodSlots, Bool.and_eq_true] at hg
    obtain ⟨hn1, hn2⟩ := evGather_cons_notfail _ _ hnf
    have ih1 := ih1 hg.1.1.1 hn1
    have ih2 := ih2 hg.2 hn2
    simp only [pendSlots, cnt, List.count_append] at ih1 ih2 ⊢
    omega

theorem deliver_errs : ∀ (n : Node) (t : Nat) (s : ExecSt) (e : Err), Good n = true → (ev n).isFail = false →
    cnt e (deliver applyCont t n s).2.errors + cnt e (pend (deliver applyCont t n s).1)
      = cnt e s.errors + cnt e (pend n) :=
  fun n t s e => (deliver_errs_cases t e).node n s

theorem deliverSlots_errs : ∀ (ns : Nodes) (t : Nat) (s : ExecSt) (e : Err), GoodSlots ns = true →
    (evGather (evSlots ns)).isFail = false →
    cnt e (deliverSlots applyCont t ns s).2.2.errors + cnt e (pendSlots (deliverSlots applyCont t ns s).1)
      = cnt e s.errors + cnt e (pendSlots ns) :=
  fun ns t s e => (deliver_errs_cases t e).slots ns s

/-- errors recorded so far + errors still to come = the specification's errors `E` (as multisets) -/
def ErrInv (top : Node) (s : ExecSt) (E : List Err) : Prop :=
  ∀ e, cnt e s.errors + cnt e (pend top) = cnt e E

theorem stepSched_errs (top : Node) (s : ExecSt) (i : Nat) (E : List Err) (d : EvR) (hd : d.isFail = false)
    (h : TopInv top d) (he : ErrInv top s E) : ErrInv (stepSched top s i).1 (stepSched top s i).2 E := by
  unfold stepSched
  simp only
  split
  · exact he
  · rename_i t _
    intro e
    have := deliver_errs top t { s with queue := removeAt s.queue (i % s.queue.length) } e h.good (by rw [h.ev_eq]; exact hd)
    have he' := he e
    simp only [] at this
    omega

theorem runSched_errs (E : List Err) (d : EvR) (hd : d.isFail = false) (sched : List Nat) (top : Node) (s : ExecSt)
    (sizes : List Nat) (h : TopInv top d) (he : ErrInv top s E) :
    ErrInv (runSched top s sizes sched).top (runSched top s sizes sched).st E :=
  (runSched_preserves (P := fun top s => TopInv top d ∧ ErrInv top s E)
    (fun top s i h => ⟨stepSched_inv top s i d h.1, stepSched_errs top s i E d hd h.1 h.2⟩) sched top s sizes ⟨h, he⟩).2

theorem execute_errs (op : Op) (s : ExecSt) (hden : denFlds op.fields ≠ none) :
    match execute op s with
    | (.exc _, _) => False
    | (.ok top, s2) => ∀ e, cnt e s2.errors + cnt e (pend top) = cnt e s.errors + cnt e (errsFlds [] op.fields) := by
  obtain ⟨kvs, hk⟩ := Option.ne_none_iff_exists'.mp hden
  have hroot : ∀ e, ErrOK e s (errsFlds [] op.fields) (execRoot op s) := by
    intro e
    unfold execRoot
    cases op.kind
    · exact completeValue_errs (.obj op.fields) [] s e (by rw [denComp, hk]; exact fun h => nomatch h)
    · exact serialNext_errs op.fields [] [] s e hden
  have hev : EvOK (some (.obj kvs)) (nowOf (execRoot op s)) := by
    have := execRoot_ev op s
    rw [hk] at this
    exact this
  have h := fun e => (ErrOK.chain .onFinish (applyCont_errs _) rfl hev (hroot e).nowOf).congr (List.append_nil _)
  have hx := execute_evOK op s
  rw [hk] at hx
  rw [← execute_eq] at h
  generalize execute op s = x at h hx ⊢
  obtain ⟨r, s2⟩ := x
  obtain ⟨top, rfl, _⟩ := res_ok_of_den hx.1
  exact h

end PyGql.AsyncExec
