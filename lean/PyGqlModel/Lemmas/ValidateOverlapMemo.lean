/-
  The MEMOISED overlap search (`Validate/OverlapMemo.lean`) NEEDS ONLY A BOUNDED RECURSION DEPTH, on every document -
  fragment cycles through sub-selections included (hunt2 C05/1).
  Measure: `mu c` = number of (selection set, fragment, flag) triples and (fragment, fragment, flag) triples of the
  document NOT YET in the two memos of the context. Potential of a call = `pot c + local` with `pot c = mu c * W`, where `local` is the
  syntactic nesting left (ranks of sub-selections, as in `ValidateOverlapFuel.lean`, but WITHOUT any condition on
  fragment spreads) and `W = 2 R + 7` exceeds every `local`. A call that recurses through a fragment first puts a NEW
  triple into a memo (`mu` drops by one, `local` is reset below `W`); every other recursive call descends into
  sub-selections (`local` drops). Memos only grow, so later siblings start with a smaller or equal `mu`.
-/
import PyGqlModel.Validate.ChainMemo
import PyGqlModel.Validate.WfIds
import PyGqlModel.Lemmas.ValidateOverlapFuel
import PyGqlModel.Lemmas.ValidateOverlapSearch
namespace PyGql.Validate
open PyGql PyGql.Validate.Spec

/-- syntactic ranks: a selection set outranks by 2 the sub-selections of its fields; no condition on spreads -/
structure RankSyn (s : SchemaD) (d : Doc) (ρ : Nat → Nat) (R : Nat) : Prop where
  two : ∀ i sels, SelSet d i sels → 2 ≤ ρ i
  le : ∀ i sels, SelSet d i sels → ρ i ≤ R
  sub : ∀ i sels p rn e, SelSet d i sels → CollD s p sels rn e → entryRank ρ e + 2 ≤ ρ i

/-- putting a listed key into a memo lowers the number of listed keys outside it -/
theorem countP_not_mem_cons {α} [BEq α] [LawfulBEq α] {k : α} {m : List α} (hn : k ∉ m) :
    ∀ l : List α, k ∈ l → l.countP (fun x => decide (x ∉ k :: m)) + 1 ≤ l.countP (fun x => decide (x ∉ m))
  | [], hm => nomatch hm
  | x :: xs, hm => by
    by_cases hx : x = k
    · subst hx
      have mono : xs.countP (fun y => decide (y ∉ x :: m)) ≤ xs.countP (fun y => decide (y ∉ m)) :=
        List.countP_mono_left (fun y _ hy => by
          simp only [decide_eq_true_eq, List.mem_cons, not_or] at hy ⊢
          exact hy.2)
      rw [List.countP_cons_of_neg (by simp), List.countP_cons_of_pos (by simpa using hn)]
      omega
    · have ih := countP_not_mem_cons hn xs ((List.mem_cons.mp hm).resolve_left (fun e => hx e.symm))
      have : decide (x ∉ k :: m) = decide (x ∉ m) := by simp [hx]
      rw [List.countP_cons, List.countP_cons, this]
      omega

/-- triples not yet compared -/
def mu (d : Doc) (c : OCtx) : Nat :=
  (keysFF d).countP (fun k => decide (k ∉ c.ffp)) + (keysFR d).countP (fun k => decide (k ∉ c.pairs))

theorem mem_keysFF {d : Doc} {i : Nat} {sels : List Sel} {g : String} {v : String × Nat × List Sel} (b : Bool)
    (hi : SelSet d i sels) (hg : AL.get? (fragTable d) g = some v) : (i, g, b) ∈ keysFF d := by
  have h1 : i ∈ selSetIds d := List.mem_filterMap.mpr ⟨_, hi, rfl⟩
  have h2 : g ∈ (fragTable d).map (·.1) := List.mem_map.mpr ⟨_, AL.mem_of_get? hg, rfl⟩
  simp only [keysFF, List.mem_flatMap]
  exact ⟨i, h1, g, h2, by cases b <;> simp⟩

theorem mem_keysFR {d : Doc} {a b : String} {va vb : String × Nat × List Sel} (m : Bool)
    (ha : AL.get? (fragTable d) a = some va) (hb : AL.get? (fragTable d) b = some vb) : (a, b, m) ∈ keysFR d := by
  have h1 : a ∈ (fragTable d).map (·.1) := List.mem_map.mpr ⟨_, AL.mem_of_get? ha, rfl⟩
  have h2 : b ∈ (fragTable d).map (·.1) := List.mem_map.mpr ⟨_, AL.mem_of_get? hb, rfl⟩
  simp only [keysFR, List.mem_flatMap]
  exact ⟨a, h1, b, h2, by cases m <;> simp⟩

/-- what every call keeps: the fragment table and the exception flag; the memos only grow -/
def Good (c r : OCtx) : Prop :=
  r.frags = c.frags ∧ (∀ k ∈ c.ffp, k ∈ r.ffp) ∧ (∀ k ∈ c.pairs, k ∈ r.pairs) ∧ r.crash = c.crash

theorem Good.refl (c : OCtx) : Good c c := ⟨rfl, fun _ h => h, fun _ h => h, rfl⟩
theorem Good.trans {a b c : OCtx} (h1 : Good a b) (h2 : Good b c) : Good a c :=
  ⟨h2.1.trans h1.1, fun k h => h2.2.1 k (h1.2.1 k h), fun k h => h2.2.2.1 k (h1.2.2.1 k h), h2.2.2.2.trans h1.2.2.2⟩

/-- the part of the potential that the memos pay for: `W = 2 R + 7` frames for every triple not yet compared.
    Irreducible: the proofs below use it only through the four lemmas that follow. -/
@[irreducible] def pot (d : Doc) (R : Nat) (c : OCtx) : Nat := mu d c * (2 * R + 7)

theorem pot_le_bound (d : Doc) (R : Nat) (c : OCtx) : pot d R c + 2 * R + 7 ≤ fuelBound d R := by
  unfold pot mu fuelBound
  have a := List.countP_le_length (p := fun k => decide (k ∉ c.ffp)) (l := keysFF d)
  have b := List.countP_le_length (p := fun k => decide (k ∉ c.pairs)) (l := keysFR d)
  have := Nat.mul_le_mul_right (2 * R + 7) (Nat.add_le_add a b)
  omega

theorem Good.pot {d : Doc} {R : Nat} {c r : OCtx} (h : Good c r) : pot d R r ≤ pot d R c := by
  unfold PyGql.Validate.pot mu
  have a : (keysFF d).countP (fun k => decide (k ∉ r.ffp)) ≤ (keysFF d).countP (fun k => decide (k ∉ c.ffp)) :=
    List.countP_mono_left (fun k _ hk => by simp only [decide_eq_true_eq] at hk ⊢; exact fun hc => hk (h.2.1 k hc))
  have b : (keysFR d).countP (fun k => decide (k ∉ r.pairs)) ≤ (keysFR d).countP (fun k => decide (k ∉ c.pairs)) :=
    List.countP_mono_left (fun k _ hk => by simp only [decide_eq_true_eq] at hk ⊢; exact fun hc => hk (h.2.2.1 k hc))
  exact Nat.mul_le_mul_right _ (Nat.add_le_add a b)

/-- a new triple in the fields-and-fragment memo pays for `W` frames -/
theorem pot_ffp {d : Doc} {R : Nat} {c c' : OCtx} {k : Nat × String × Bool} (hk : k ∈ keysFF d) (hn : k ∉ c.ffp)
    (h1 : c'.ffp = k :: c.ffp) (h2 : c'.pairs = c.pairs) : pot d R c' + (2 * R + 7) ≤ pot d R c := by
  unfold pot mu
  rw [h1, h2, ← Nat.succ_mul]
  exact Nat.mul_le_mul_right _ (by have := countP_not_mem_cons hn (keysFF d) hk; omega)

/-- a new pair in the fragment-pairs memo pays for `W` frames -/
theorem pot_pairs {d : Doc} {R : Nat} {c c' : OCtx} {k : String × String × Bool} (hk : k ∈ keysFR d) (hn : k ∉ c.pairs)
    (h1 : c'.pairs = k :: c.pairs) (h2 : c'.ffp = c.ffp) : pot d R c' + (2 * R + 7) ≤ pot d R c := by
  unfold pot mu
  rw [h1, h2, ← Nat.succ_mul]
  exact Nat.mul_le_mul_right _ (by have := countP_not_mem_cons hn (keysFR d) hk; omega)

theorem sumLoop_good {α} (xs : List α) (f : α → OCtx → Nat × OCtx) (c0 : OCtx)
    (hf : ∀ x ∈ xs, ∀ c, Good c0 c → Good c (f x c).2) : Good c0 (sumLoop xs f c0).2 :=
  (sumLoop_spec xs f (Good c0) (fun _ => True) (fun x hx c hc => ⟨hc.trans (hf x hx c hc), fun _ => trivial⟩) c0
    (Good.refl c0)).1

theorem withFreshCmp_good (f : OCtx → Nat × OCtx) (c : OCtx) (h : Good { c with cmp := [] } (f { c with cmp := [] }).2) :
    Good c (withFreshCmp f c).2 := by
  unfold withFreshCmp
  exact ⟨h.1, h.2.1, h.2.2.1, h.2.2.2⟩

/-- a field of some selection set of the document (under any parent type) -/
def EntS (s : SchemaD) (d : Doc) (e : FEntry) : Prop := ∃ i sels p rn, SelSet d i sels ∧ CollD s p sels rn e

/-- `_fields_and_fragments` on a selection set of the document -/
theorem ff_syn {s : SchemaD} {d : Doc} {ρ : Nat → Nat} {R : Nat} (hR : RankSyn s d ρ R) (p : Option String) {i : Nat}
    {sels : List Sel} (h1 : SelSet d i sels) (c : OCtx) :
    Good c (fieldsAndFragments s p i sels c).2 ∧
    EntOK (fun _ e => EntS s d e) (fieldsAndFragments s p i sels c).1.1 ∧
    ∃ m, m + 2 = ρ i ∧ RkB ρ m (fieldsAndFragments s p i sels c).1.1 := by
  obtain ⟨m, hm⟩ := Nat.exists_eq_add_of_le' (hR.two i sels h1)
  have key : ∀ p0, EntOK (fun _ e => EntS s d e) (collectSels s p0 sels ([], [])).1 ∧
      ∃ m, m + 2 = ρ i ∧ RkB ρ m (collectSels s p0 sels ([], [])).1 := by
    intro p0
    obtain ⟨a1, _⟩ := collectSels_sound s (CollD s p0 sels) (fun _ => True) p0 sels ([], [])
      (fun _ _ h => h) (fun _ _ => trivial) (entOK_nil _) (fun _ h => nomatch h)
    refine ⟨fun q hq e he => ⟨i, sels, p0, q.1, h1, a1 q hq e he⟩, m, hm.symm, fun q hq e he => ?_⟩
    have := hR.sub i sels p0 q.1 e h1 (a1 q hq e he)
    show entryRank ρ e ≤ m
    omega
  unfold fieldsAndFragments
  cases hf : c.cache.find? (·.1 == i) with
  | some q => exact ⟨Good.refl c, key q.2⟩
  | none => exact ⟨⟨rfl, fun _ h => h, fun _ h => h, rfl⟩, key p⟩

section
variable (s : SchemaD) (fx : Fixes) (d : Doc) (ρ : Nat → Nat) (R : Nat)

/-- `_fields_and_fragments` on the body of a fragment of the table -/
theorem ff_syn_frag (hR : RankSyn s d ρ R) {c : OCtx} (hc : c.frags = fragTable d) {name on : String} {fid : Nat}
    {fsels : List Sel} (hg : AL.get? c.frags name = some (on, fid, fsels)) (p : Option String) :
    Good c (fieldsAndFragments s p fid fsels c).2 ∧
    EntOK (fun _ e => EntS s d e) (fieldsAndFragments s p fid fsels c).1.1 ∧
    ∃ m, m + 2 ≤ R ∧ RkB ρ m (fieldsAndFragments s p fid fsels c).1.1 := by
  have hs := fragTable_selSet (hc ▸ hg)
  obtain ⟨a, b, m, hm, c'⟩ := ff_syn hR p hs c
  exact ⟨a, b, m, hm ▸ hR.le _ _ hs, c'⟩

/-- The T family `TFind TCb TFf TFr TSs`, one predicate per function of the memoised search: a call whose fuel covers the potential
    `pot d R c` plus the syntactic nesting of what it is called on keeps `Good` - the fragment table and the exception flag come
    back unchanged (it does not run out of fuel), the memos have only grown. -/
def TFind (fuel : Nat) : Prop :=
  ∀ pme f1 f2 c, c.frags = fragTable d → EntS s d f1 → EntS s d f2 →
    pot d R c + (entryRank ρ f1 + entryRank ρ f2 + 5) ≤ fuel → Good c (findConflictG s fx true fuel pme f1 f2 c).2

def TCb (fuel : Nat) : Prop :=
  ∀ me fm1 fm2 c m1 m2, c.frags = fragTable d → EntOK (fun _ e => EntS s d e) fm1 → EntOK (fun _ e => EntS s d e) fm2 →
    RkB ρ m1 fm1 → RkB ρ m2 fm2 → pot d R c + (m1 + m2 + 6) ≤ fuel →
    Good c (conflictsBetweenG s fx true fuel me fm1 fm2 c).2

def TFf (fuel : Nat) : Prop :=
  ∀ me ssid ssels fm name c m, c.frags = fragTable d → SelSet d ssid ssels → EntOK (fun _ e => EntS s d e) fm →
    RkB ρ m fm → m + 2 ≤ R → pot d R c < fuel →
    Good c (betweenFieldsAndFragmentG s fx true fuel me ssid fm name c).2

def TFr (fuel : Nat) : Prop :=
  ∀ me f1 f2 c, c.frags = fragTable d → pot d R c < fuel →
    Good c (betweenFragmentsG s fx true fuel me (some f1) (some f2) c).2

def TSs (fuel : Nat) : Prop :=
  ∀ me p1 id1 sels1 p2 id2 sels2 c, c.frags = fragTable d → SelSet d id1 sels1 → SelSet d id2 sels2 →
    pot d R c + (ρ id1 + ρ id2 + 4) ≤ fuel →
    Good c (betweenSubselectionsG s fx true fuel me p1 id1 sels1 p2 id2 sels2 c).2

theorem tstep_find (fuel : Nat) (hss : TSs s fx d ρ R fuel) : TFind s fx d ρ R (fuel + 1) := by
  intro pme f1 f2 c hc h1 h2 hr
  refine findConflictG_cases s fx true (motive := fun r => Good c r.2) fuel pme f1 f2 c
    (fun _ hsa => absurd hsa (sameArguments_some _ _)) (fun _ _ => Good.refl c) (fun _ _ _ _ _ _ => Good.refl c)
    (fun _ _ s1 s2 r hr' => ?_) (fun _ _ _ => Good.refl c)
  obtain ⟨i1, l1, p1, r1, a1, b1⟩ := h1
  obtain ⟨i2, l2, p2, r2, a2, b2⟩ := h2
  rw [hr']
  refine hss _ _ _ _ _ _ _ c hc (selSet_sub a1 b1 s1) (selSet_sub a2 b2 s2) ?_
  simp only [entryRank, s1, s2, ↓reduceIte] at hr
  omega

theorem tstep_cb (fuel : Nat) (hf : TFind s fx d ρ R fuel) : TCb s fx d ρ R (fuel + 1) := by
  intro me fm1 fm2 c m1 m2 hc h1 h2 r1 r2 hr
  rw [conflictsBetweenG_succ]
  refine sumLoop_good fm1 _ c (fun q hq c1 g1 => ?_)
  split
  · exact Good.refl _
  · rename_i fields2 hg
    refine sumLoop_good q.2 _ c1 (fun f1 hf1 c2 g2 => ?_)
    refine sumLoop_good fields2 _ c2 (fun f2 hf2 c3 g3 => ?_)
    have g : Good c c3 := (g1.trans g2).trans g3
    have k1 : entryRank ρ f1 ≤ m1 := r1 _ hq f1 hf1
    have k2 : entryRank ρ f2 ≤ m2 := entOK_get r2 hg f2 hf2
    have := g.pot (d := d) (R := R)
    exact hf me f1 f2 c3 (g.1.trans hc) (h1 _ hq f1 hf1) (entOK_get h2 hg f2 hf2) (by omega)

theorem tstep_ff (hR : RankSyn s d ρ R) (fuel : Nat) (hcb : TCb s fx d ρ R fuel) (hff : TFf s fx d ρ R fuel) :
    TFf s fx d ρ R (fuel + 1) := by
  intro me ssid ssels fm name c m hc hs h1 hm hmR hr
  have g1 : Good c { c with cmp := name :: c.cmp } := ⟨rfl, fun _ h => h, fun _ h => h, rfl⟩
  refine betweenFieldsAndFragmentG_cases_memo s fx (motive := fun r => Good c r.2) fuel me ssid fm name c
    (fun _ => Good.refl c) (fun _ _ => g1) (fun _ _ _ _ => g1) ?_
  intro _ on fid fsels ff c' hg hmemo hff'
  -- the triple is new: it pays for the comparison that follows
  have hpay := pot_ffp (R := R) (c' := { c with cmp := name :: c.cmp, ffp := (ssid, name, me) :: c.ffp })
    (mem_keysFF me hs (hc ▸ hg)) hmemo rfl rfl
  have g2 : Good c { c with cmp := name :: c.cmp, ffp := (ssid, name, me) :: c.ffp } :=
    ⟨rfl, fun _ h => List.mem_cons_of_mem _ h, fun _ h => h, rfl⟩
  obtain ⟨b1, b2, m', hm', b3⟩ := ff_syn_frag s d ρ R hR
    (c := { c with cmp := name :: c.cmp, ffp := (ssid, name, me) :: c.ffp }) hc (name := name) hg
    ((typeFromAst s (.named on)).map (·.base))
  simp only [hff'] at b1 b2 b3
  have hp1 := b1.pot (d := d) (R := R)
  refine ⟨fun _ => g2.trans b1, fun _ r1 r2 e1 e2 => ?_⟩
  have k0 : Good c' r1.2 := by
    rw [e1]
    exact hcb me fm ff.1 c' m m' (b1.1.trans hc) h1 b2 hm b3 (by omega)
  have hlt : pot d R c' < fuel := by omega
  have k1 : Good r1.2 r2.2 := by
    rw [e2]
    refine sumLoop_good ff.2 _ _ (fun fr _ c3 g3 => ?_)
    have g : Good c' c3 := k0.trans g3
    exact hff me ssid ssels fm fr c3 m ((g.1.trans b1.1).trans hc) hs h1 hm hmR (Nat.lt_of_le_of_lt g.pot hlt)
  exact ((g2.trans b1).trans k0).trans k1

theorem tstep_fr (hR : RankSyn s d ρ R) (h7 : fx.v7 = true) (fuel : Nat) (hcb : TCb s fx d ρ R fuel)
    (hfr : TFr s fx d R fuel) : TFr s fx d R (fuel + 1) := by
  intro me f1 f2 c hc hr
  have g1 : Good c { c with pairs := ((sortedPair f1 f2).1, (sortedPair f1 f2).2, me) :: c.pairs } :=
    ⟨rfl, fun _ h => h, fun _ h => List.mem_cons_of_mem _ h, rfl⟩
  refine betweenFragmentsG_cases s fx true (motive := fun r => Good c r.2) h7 fuel me f1 f2 c
    (fun _ => Good.refl c) (fun _ => Good.refl c) (fun _ _ => g1) ?_
  intro _ hnew on1 id1 sels1 on2 id2 sels2 a ca b cb r0 r1 r2 hg1 hg2 ha hb e0 e1 e2
  -- the pair is new: it pays for the comparison that follows
  have hk : ((sortedPair f1 f2).1, (sortedPair f1 f2).2, me) ∈ keysFR d := by
    unfold sortedPair
    split
    · exact mem_keysFR me (hc ▸ hg1) (hc ▸ hg2)
    · exact mem_keysFR me (hc ▸ hg2) (hc ▸ hg1)
  have hpay := pot_pairs (R := R)
    (c' := { c with pairs := ((sortedPair f1 f2).1, (sortedPair f1 f2).2, me) :: c.pairs }) hk hnew rfl rfl
  obtain ⟨a1, a2, ma, hma, a3⟩ := ff_syn_frag s d ρ R hR
    (c := { c with pairs := ((sortedPair f1 f2).1, (sortedPair f1 f2).2, me) :: c.pairs }) hc (name := f1) hg1
    ((typeFromAst s (.named on1)).map (·.base))
  simp only [ha] at a1 a2 a3
  obtain ⟨b1, b2, mb, hmb, b3⟩ := ff_syn_frag s d ρ R hR (c := ca) (a1.1.trans hc) (name := f2) (a1.1 ▸ hg2)
    ((typeFromAst s (.named on2)).map (·.base))
  simp only [hb] at b1 b2 b3
  have gab := a1.trans b1
  have hp := gab.pot (d := d) (R := R)
  have k0 : Good cb r0.2 := by
    rw [e0]
    exact hcb me a.1 b.1 cb ma mb (gab.1.trans hc) a2 b2 a3 b3 (by omega)
  have hlt : pot d R cb < fuel := by omega
  have k1 : Good r0.2 r1.2 := by
    rw [e1]
    refine sumLoop_good a.2 _ _ (fun fr _ c3 g3 => ?_)
    have g : Good cb c3 := k0.trans g3
    exact hfr me fr f2 c3 ((g.1.trans gab.1).trans hc) (Nat.lt_of_le_of_lt g.pot hlt)
  have k2 : Good r1.2 r2.2 := by
    rw [e2]
    refine sumLoop_good b.2 _ _ (fun fr _ c3 g3 => ?_)
    have g : Good cb c3 := (k0.trans k1).trans g3
    exact hfr me f1 fr c3 ((g.1.trans gab.1).trans hc) (Nat.lt_of_le_of_lt g.pot hlt)
  exact (((g1.trans gab).trans k0).trans k1).trans k2

theorem tstep_ss (hR : RankSyn s d ρ R) (fuel : Nat) (hcb : TCb s fx d ρ R fuel) (hff : TFf s fx d ρ R fuel)
    (hfr : TFr s fx d R fuel) : TSs s fx d ρ R (fuel + 1) := by
  intro me p1 id1 sels1 p2 id2 sels2 c hc s1 s2 hr
  refine betweenSubselectionsG_cases s fx true (motive := fun r => Good c r.2) fuel me p1 id1 sels1 p2 id2 sels2 c ?_
  intro a ca b cb r0 r1 r2 r3 ha hb e0 e1 e2 e3
  have l1 := hR.le _ _ s1
  have l2 := hR.le _ _ s2
  obtain ⟨x1, x2, m1, hm1, x3⟩ := ff_syn hR p1 s1 c
  simp only [ha] at x1 x2 x3
  obtain ⟨y1, y2, m2, hm2, y3⟩ := ff_syn hR p2 s2 ca
  simp only [hb] at y1 y2 y3
  have gab : Good c cb := x1.trans y1
  have hp := gab.pot (d := d) (R := R)
  have k0 : Good cb r0.2 := by
    rw [e0]
    exact hcb me a.1 b.1 cb m1 m2 (gab.1.trans hc) x2 y2 x3 y3 (by omega)
  have hlt : pot d R cb < fuel := by omega
  -- a fresh `compared_fragments` changes neither memo
  have fresh : ∀ c3 : OCtx, Good cb c3 → pot d R { c3 with cmp := [] } < fuel := fun c3 g => by
    have : pot d R { c3 with cmp := [] } = pot d R c3 := by unfold pot mu; rfl
    rw [this]
    exact Nat.lt_of_le_of_lt g.pot hlt
  have k1 : Good r0.2 r1.2 := by
    rw [e1]
    refine sumLoop_good b.2 _ _ (fun fr _ c3 g3 => withFreshCmp_good _ c3 ?_)
    have g : Good cb c3 := k0.trans g3
    exact hff me id1 sels1 a.1 fr { c3 with cmp := [] } _ ((g.1.trans gab.1).trans hc) s1 x2 x3 (hm1 ▸ l1) (fresh c3 g)
  have k2 : Good r1.2 r2.2 := by
    rw [e2]
    refine sumLoop_good a.2 _ _ (fun fr _ c3 g3 => withFreshCmp_good _ c3 ?_)
    have g : Good cb c3 := (k0.trans k1).trans g3
    exact hff me id2 sels2 b.1 fr { c3 with cmp := [] } _ ((g.1.trans gab.1).trans hc) s2 y2 y3 (hm2 ▸ l2) (fresh c3 g)
  have k3 : Good r2.2 r3.2 := by
    rw [e3]
    refine sumLoop_good a.2 _ _ (fun g1 _ c3 g3 => sumLoop_good b.2 _ c3 (fun g2 _ c4 g4 => ?_))
    have g : Good cb c4 := (((k0.trans k1).trans k2).trans g3).trans g4
    exact hfr me g1 g2 c4 ((g.1.trans gab.1).trans hc) (Nat.lt_of_le_of_lt g.pot hlt)
  exact (((gab.trans k0).trans k1).trans k2).trans k3

/-- **the memoised search never exhausts a fuel that covers its potential** - no hypothesis on fragment spreads -/
theorem searchM_fuel (hR : RankSyn s d ρ R) (h7 : fx.v7 = true) : ∀ fuel,
    TFind s fx d ρ R fuel ∧ TCb s fx d ρ R fuel ∧ TFf s fx d ρ R fuel ∧ TFr s fx d R fuel ∧ TSs s fx d ρ R fuel := by
  intro fuel
  induction fuel with
  | zero =>
    refine ⟨?_, ?_, ?_, ?_, ?_⟩
    · intro _ _ _ _ _ _ _ h; omega
    · intro _ _ _ _ _ _ _ _ _ _ _ h; omega
    · intro _ _ _ _ _ _ _ _ _ _ _ _ h; omega
    · intro _ _ _ _ _ h; omega
    · intro _ _ _ _ _ _ _ _ _ _ _ h; omega
  | succ fuel ih =>
    obtain ⟨i1, i2, i3, i4, i5⟩ := ih
    exact ⟨tstep_find s fx d ρ R fuel i5, tstep_cb s fx d ρ R fuel i1, tstep_ff s fx d ρ R hR fuel i2 i3,
      tstep_fr s fx d ρ R hR h7 fuel i2 i4, tstep_ss s fx d ρ R hR fuel i2 i3 i4⟩

/-- **`find_conflicts_within_selection_set`, memoised**: a recursion budget of `fuelBound d R` frames suffices, whatever
    the fragment graph; the exception flag comes back unchanged -/
theorem withinM_terminates (hR : RankSyn s d ρ R) (h7 : fx.v7 = true) (fuel : Nat) (hfuel : fuelBound d R ≤ fuel)
    (p : Option String) (i : Nat) (sels : List Sel) (c : OCtx) (hc : c.frags = fragTable d) (h1 : SelSet d i sels) :
    Good c (withinSelectionSetM s fx fuel p i sels c).2 := by
  rw [withinSelectionSetM_eq]
  obtain ⟨nf, _, nff, nfr, _⟩ := searchM_fuel s fx d ρ R hR h7 fuel
  have tl := hR.le _ _ h1
  refine withinSelectionSetG_cases s fx true (motive := fun r => Good c r.2) fuel p i sels c ?_
  intro a ca r0 r1 r2 ha e0 e1 e2
  obtain ⟨x1, x2, m, hm, x3⟩ := ff_syn hR p h1 c
  simp only [ha] at x1 x2 x3
  have k0 : Good ca r0.2 := by
    rw [e0]
    refine sumLoop_good a.1 _ ca (fun q hq c1 g1 => sumLoop_good (pairsOf q.2) _ c1 (fun y hy c2 g2 => ?_))
    obtain ⟨m1, m2⟩ := mem_pairsOf hy
    have r1 : entryRank ρ y.1 ≤ m := x3 q hq _ m1
    have r2 : entryRank ρ y.2 ≤ m := x3 q hq _ m2
    have := pot_le_bound d R c2
    exact nf false y.1 y.2 c2 (((g1.trans g2).1.trans x1.1).trans hc) (x2 q hq _ m1) (x2 q hq _ m2) (by omega)
  have hlt : ∀ c2, pot d R c2 < fuel := fun c2 => by
    have := pot_le_bound d R c2
    omega
  have k1 : Good r0.2 r1.2 := by
    rw [e1]
    refine withFreshCmp_good _ _ (sumLoop_good a.2 _ _ (fun g _ c2 g2 => ?_))
    have gg : Good ca c2 := (k0.trans ⟨rfl, fun _ h => h, fun _ h => h, rfl⟩).trans g2
    exact nff false i sels a.1 g c2 _ ((gg.1.trans x1.1).trans hc) h1 x2 x3 (hm ▸ tl) (hlt c2)
  have k2 : Good r1.2 r2.2 := by
    rw [e2]
    refine sumLoop_good (pairsOf a.2) _ _ (fun y _ c2 g2 => ?_)
    exact nfr false y.1 y.2 c2 (((((k0.trans k1).trans g2).1).trans x1.1).trans hc) (hlt c2)
  exact ((x1.trans k0).trans k1).trans k2

end
end PyGql.Validate
