/-
  From token CLASSES to the matcher of `Spec/Grammar.lean`: under `no_location` a token list whose classes are the
  canonical yield of a location-free view is matched by that view (positions are irrelevant).
-/
import PyGqlModel.Lemmas.ParseValue
namespace PyGql.PrintMatch
open PyGql PyGql.Ast PyGql.Parse PyGql.Spec

mutual
/-- a view without optional tokens / look-ahead restrictions, every node location-free and non-empty -/
def plain : Item → Bool
  | .tok _ _ => true
  | .optTok _ _ => false
  | .nla _ => false
  | .node loc is => loc.isNone && plainAll is && !(Item.yieldAll is).isEmpty
def plainAll : List Item → Bool
  | [] => true
  | i :: is => plain i && plainAll is
end

theorem plainAll_append (a b : List Item) : plainAll (a ++ b) = (plainAll a && plainAll b) := by
  induction a with
  | nil => simp [plainAll]
  | cons i is ih => simp [plainAll, ih, Bool.and_assoc]

/-! ### with the optional separators (`optTok`) and look-ahead restrictions (`nla`) of the views:
`plainF i fol` — the item is matched by its canonical yield when the classes `fol` follow it -/

mutual
def plainF : Item → List TokClass → Bool
  | .tok _ _, _ => true
  | .optTok k v, fol => fol.head? != some (k, v)
  | .nla k, fol => (fol.head?.map Prod.fst) != some k
  | .node loc is, fol => loc.isNone && plainAllF is fol && !(Item.yieldAll is ++ fol).isEmpty
def plainAllF : List Item → List TokClass → Bool
  | [], _ => true
  | i :: is, fol => plainF i (Item.yieldAll is ++ fol) && plainAllF is fol
end

mutual
theorem check_of_plainF (fl : Flags) (hnl : fl.noLocation = true) :
    ∀ (i : Item) (l : Tok) (ts rest : List Tok), plainF i (classes rest) = true → classes ts = i.yield →
      i.check fl l (ts ++ rest) = some (Item.lastOf l ts, rest)
  | .tok k v, l, ts, rest, _, hy => by
    simp only [Item.yield] at hy
    match ts, hy with
    | [t], hy =>
      simp only [classes, List.map_cons, List.map_nil, List.cons.injEq, and_true] at hy
      rw [check_tok]
      exact ⟨t, rfl, hy, by simp [Item.lastOf]⟩
  | .optTok k v, l, ts, rest, hp, hy => by
    simp only [Item.yield, classes, List.map_eq_nil_iff] at hy
    subst hy
    simp only [plainF, bne_iff_ne, ne_eq] at hp
    rw [check_optTok]
    right
    refine ⟨by simp [Item.lastOf], rfl, ?_⟩
    intro t tl e hc
    simp only [List.nil_append] at e
    subst e
    exact hp (by simp [classes, hc])
  | .nla k, l, ts, rest, hp, hy => by
    simp only [Item.yield, classes, List.map_eq_nil_iff] at hy
    subst hy
    simp only [plainF, bne_iff_ne, ne_eq] at hp
    rw [check_nla]
    refine ⟨by simp [Item.lastOf], rfl, ?_⟩
    intro t tl e hk
    simp only [List.nil_append] at e
    subst e
    exact hp (by simp [classes, cls, hk])
  | .node loc is, l, ts, rest, hp, hy => by
    simp only [plainF, Bool.and_eq_true, Option.isNone_iff_eq_none, Bool.not_eq_true', List.isEmpty_eq_false_iff] at hp
    obtain ⟨⟨hloc, hpl⟩, hne⟩ := hp
    simp only [Item.yield] at hy
    have := checkAll_of_plainF fl hnl is l ts rest hpl hy
    have hne' : ts ++ rest ≠ [] := by
      intro e
      have : classes (ts ++ rest) = [] := by rw [e]; rfl
      simp only [classes, List.map_append] at this
      rw [show List.map cls ts = Item.yieldAll is from hy] at this
      exact hne this
    cases hts : ts ++ rest with
    | nil => exact absurd hts hne'
    | cons f tl =>
      rw [hts] at this
      rw [check_node]
      exact ⟨f, tl, rfl, this, by simp [hloc, locOf, hnl]⟩
theorem checkAll_of_plainF (fl : Flags) (hnl : fl.noLocation = true) :
    ∀ (is : List Item) (l : Tok) (ts rest : List Tok), plainAllF is (classes rest) = true → classes ts = Item.yieldAll is →
      Item.checkAll fl is l (ts ++ rest) = some (Item.lastOf l ts, rest)
  | [], l, ts, rest, _, hy => by
    simp only [Item.yieldAll, classes, List.map_eq_nil_iff] at hy
    subst hy
    simp [Item.checkAll, Item.lastOf]
  | i :: is, l, ts, rest, hp, hy => by
    simp only [plainAllF, Bool.and_eq_true] at hp
    simp only [Item.yieldAll, classes] at hy
    obtain ⟨t1, t2, rfl, h1, h2⟩ := List.map_eq_append_iff.1 hy
    rw [checkAll_cons]
    refine ⟨Item.lastOf l t1, t2 ++ rest, ?_, ?_⟩
    · rw [List.append_assoc]
      apply check_of_plainF fl hnl i l t1 (t2 ++ rest) _ h1
      have : classes (t2 ++ rest) = Item.yieldAll is ++ classes rest := by
        simp only [classes, List.map_append]; rw [show List.map cls t2 = Item.yieldAll is from h2]
      rw [this]; exact hp.1
    · rw [lastOf_append]; exact checkAll_of_plainF fl hnl is _ t2 rest hp.2 h2
end

mutual
theorem plainF_of_plain : ∀ (i : Item) (fol : List TokClass), plain i = true → plainF i fol = true
  | .tok _ _, _, _ => rfl
  | .optTok _ _, _, h => by simp [plain] at h
  | .nla _, _, h => by simp [plain] at h
  | .node loc is, fol, h => by
    simp only [plain, Bool.and_eq_true, Bool.not_eq_true', List.isEmpty_eq_false_iff] at h
    simp only [plainF, Bool.and_eq_true, Bool.not_eq_true', List.isEmpty_eq_false_iff]
    refine ⟨⟨h.1.1, plainAllF_of_plainAll is fol h.1.2⟩, ?_⟩
    intro e; exact h.2 (List.append_eq_nil_iff.1 e).1
theorem plainAllF_of_plainAll : ∀ (is : List Item) (fol : List TokClass), plainAll is = true → plainAllF is fol = true
  | [], _, _ => rfl
  | i :: is, fol, h => by
    simp only [plainAll, Bool.and_eq_true] at h
    simp only [plainAllF, Bool.and_eq_true]
    exact ⟨plainF_of_plain i _ h.1, plainAllF_of_plainAll is fol h.2⟩
end

theorem plainAllF_append (a b : List Item) (fol : List TokClass) :
    plainAllF (a ++ b) fol = (plainAllF a (Item.yieldAll b ++ fol) && plainAllF b fol) := by
  induction a with
  | nil => simp [plainAllF]
  | cons i is ih => simp [plainAllF, ih, yieldAll_append, Bool.and_assoc, List.append_assoc]

theorem check_of_yield (fl : Flags) (hnl : fl.noLocation = true) (i : Item) (l : Tok) (ts rest : List Tok)
    (hp : plain i = true) (hy : classes ts = i.yield) : i.check fl l (ts ++ rest) = some (Item.lastOf l ts, rest) :=
  check_of_plainF fl hnl i l ts rest (plainF_of_plain i _ hp) hy

theorem checkAll_of_yield (fl : Flags) (hnl : fl.noLocation = true) (is : List Item) (l : Tok) (ts rest : List Tok)
    (hp : plainAll is = true) (hy : classes ts = Item.yieldAll is) :
    Item.checkAll fl is l (ts ++ rest) = some (Item.lastOf l ts, rest) :=
  checkAll_of_plainF fl hnl is l ts rest (plainAllF_of_plainAll is _ hp) hy

theorem matchesAll_of_yield (fl : Flags) (hnl : fl.noLocation = true) (items : List Item) (toks : List Tok)
    (hp : plainAll items = true) (hy : classes toks = Item.yieldAll items) : matchesAll fl items toks = true := by
  have := checkAll_of_yield fl hnl items default toks [] hp hy
  simp only [List.append_nil] at this
  simp [matchesAll, this]

end PyGql.PrintMatch
