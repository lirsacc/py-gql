/-
  C19 — simulation lemmas for the hook of fix C19-H4 (in /repo: 0a31e37) (`skipSelectionT3`: @skip and @include evaluated on their own).

  The development of Lemmas/DepthTolerant.lean with another directive map: `Sep.eraseD` drops each directive that cannot be
  evaluated ON ITS OWN (DepthTolerant's `eraseD` drops both as soon as one cannot). The names in the namespace
  `PyGql.Depth.Lemmas.Sep` shadow those of the enclosing namespace.
-/
import PyGqlModel.Lemmas.DepthTolerant
import PyGqlModel.DepthSeparate

namespace PyGql.Depth.Lemmas.Sep
open PyGql.Depth PyGql.DepthSpec

/-- EACH directive that cannot be evaluated with `vars` is dropped on its own (an evaluable one next to it stays) -/
def eraseD (vars : Vars) (d : Dirs) : Dirs :=
  ⟨if optBound vars d.skip then d.skip else none, if optBound vars d.incl then d.incl else none⟩

mutual
def eraseSel (vars : Vars) : Sel → Sel
  | .field a n d sub => .field a n (eraseD vars d) (eraseL vars sub)
  | .inline d ss => .inline (eraseD vars d) (eraseL vars ss)
  | .spread n d => .spread n (eraseD vars d)
def eraseL (vars : Vars) : List Sel → List Sel
  | [] => []
  | s :: ss => eraseSel vars s :: eraseL vars ss
end

def eraseFrag (vars : Vars) (f : Frag) : Frag := ⟨f.name, eraseL vars f.sels⟩
def eraseFrags (vars : Vars) (frags : List Frag) : List Frag := frags.map (eraseFrag vars)
def eraseOp (vars : Vars) (op : Op) : Op := ⟨op.name, eraseL vars op.sels⟩
def eraseDoc (vars : Vars) (doc : Doc) : Doc := ⟨doc.ops.map (eraseOp vars), eraseFrags vars doc.frags⟩

theorem erase_mapDirs (vars : Vars) :
    (∀ s, eraseSel vars s = mapDirsSel (eraseD vars) s) ∧ ∀ l, eraseL vars l = mapDirsL (eraseD vars) l := by
  refine sel_induction ?_ ?_ ?_ rfl ?_
  · intro a n d sub ih; rw [eraseSel, mapDirsSel, ih]
  · intro d ss ih; rw [eraseSel, mapDirsSel, ih]
  · intro n d; rw [eraseSel, mapDirsSel]
  · intro s ss h1 h2; rw [eraseL, mapDirsL, h1, h2]

theorem eraseSel_mapDirs (vars : Vars) (s : Sel) : eraseSel vars s = mapDirsSel (eraseD vars) s := (erase_mapDirs vars).1 s

theorem eraseL_mapDirs (vars : Vars) : eraseL vars = mapDirsL (eraseD vars) := funext (erase_mapDirs vars).2

theorem eraseL_cons (vars : Vars) (s ss) : eraseL vars (s :: ss) = eraseSel vars s :: eraseL vars ss := by
  rw [eraseL]

theorem eraseL_eq_map (vars : Vars) (l : List Sel) : eraseL vars l = l.map (eraseSel vars) := by
  induction l with
  | nil => simp [eraseL]
  | cons x xs ih => simp [eraseL_cons, ih]

theorem dirsBound_erase (vars : Vars) (d : Dirs) : dirsBound vars (eraseD vars d) = true := by
  have hone : ∀ o : Option Cond, optBound vars (if optBound vars o then o else none) = true := by
    intro o
    cases h : optBound vars o with
    | true => simp [h]
    | false => simp [optBound]
  simp only [eraseD, dirsBound, hone, Bool.and_self]

theorem eraseD_id (vars : Vars) (d : Dirs) (h : dirsBound vars d = true) : eraseD vars d = d := by
  simp only [dirsBound, Bool.and_eq_true] at h
  simp [eraseD, h.1, h.2]

private theorem evalOpt_erased (vars : Vars) (o : Option Cond) :
    evalOpt vars (if optBound vars o then o else none) =
      .ok (if optBound vars o then o.map (condVal vars) else none) := by
  cases hb : optBound vars o with
  | true => simp [evalOpt_ok vars o hb]
  | false => simp [evalOpt]

private theorem skipPart (vars : Vars) (o : Option Cond) :
    knownTrue (evalOpt vars o) = (if optBound vars o then o.map (condVal vars) else none).getD false := by
  cases hb : optBound vars o with
  | true =>
    rw [evalOpt_ok vars o hb]
    cases h : o.map (condVal vars) with
    | none => simp [knownTrue]
    | some b => cases b <;> simp [knownTrue]
  | false =>
    obtain ⟨e, he⟩ := evalOpt_err hb
    simp [he, knownTrue]

private theorem inclPart (vars : Vars) (o : Option Cond) :
    knownFalse (evalOpt vars o) = !((if optBound vars o then o.map (condVal vars) else none).getD true) := by
  cases hb : optBound vars o with
  | true =>
    rw [evalOpt_ok vars o hb]
    cases h : o.map (condVal vars) with
    | none => simp [knownFalse]
    | some b => cases b <;> simp [knownFalse]
  | false =>
    obtain ⟨e, he⟩ := evalOpt_err hb
    simp [he, knownFalse]

theorem skipT_eq (vars : Vars) (d : Dirs) : skipSelectionT3 d vars = skipSelection (eraseD vars d) vars := by
  unfold skipSelectionT3 skipSelection eraseD
  simp only [evalOpt_erased, skipPart, inclPart]

theorem nestingLevels_sim (vars : Vars) (frags : List Frag) :
    ∀ (k : Nat) (sels : List Sel),
      nestingLevels k (eraseL vars sels) (eraseFrags vars frags) vars =
        nestingLevelsG skipSelectionT3 k sels frags vars :=
  nestingLevels_mapDirs (eraseL_mapDirs vars) (skipT_eq vars) frags

theorem potL_erase (vars : Vars) (w : String → Nat) (l : List Sel) : potL w (eraseL vars l) = potL w l := by
  rw [eraseL_mapDirs]
  exact potL_mapDirs _ w l

theorem pot_erase (vars : Vars) (w : String → Nat) : ∀ s : Sel, pot w (eraseSel vars s) = pot w s := by
  intro s
  rw [eraseSel_mapDirs]
  exact pot_mapDirs _ w s

theorem boundL_erase (vars : Vars) (l : List Sel) : boundL vars (eraseL vars l) = true := by
  rw [eraseL_mapDirs]
  exact boundL_mapDirs (dirsBound_erase vars) l

theorem boundSel_erase (vars : Vars) : ∀ s : Sel, boundSel vars (eraseSel vars s) = true := by
  intro s
  rw [eraseSel_mapDirs]
  exact boundSel_mapDirs (dirsBound_erase vars) s

theorem eraseL_id (vars : Vars) : ∀ l : List Sel, boundL vars l = true → eraseL vars l = l := by
  intro l h
  rw [eraseL_mapDirs]
  exact mapDirsL_id (eraseD_id vars) l h

theorem eraseSel_id (vars : Vars) : ∀ s : Sel, boundSel vars s = true → eraseSel vars s = s := by
  intro s h
  rw [eraseSel_mapDirs]
  exact mapDirsSel_id (eraseD_id vars) s h

theorem weights_erase (vars : Vars) (frags : List Frag) : weights (eraseFrags vars frags) = weights frags :=
  weights_map (eraseL_mapDirs vars) frags

theorem acyclic_erase (vars : Vars) (frags : List Frag) : acyclic (eraseFrags vars frags) = acyclic frags :=
  acyclic_map (eraseL_mapDirs vars) frags

theorem fuel_erase (vars : Vars) (doc : Doc) : (eraseDoc vars doc).fuel = doc.fuel :=
  fuel_map (eraseL_mapDirs vars) doc

end PyGql.Depth.Lemmas.Sep
