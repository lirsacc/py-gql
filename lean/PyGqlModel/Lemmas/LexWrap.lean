/-
  Tilings under CONTEXT, counted from the front (`TilesAt a s toks`: the text `s` stands at offset `a`): a tiled text keeps
  its tiling when
    * the enclosing text gets longer at the front (`TilesAt.up`),
    * ignored characters are put in front of it (`TilesAt.prepend_ign`),
    * a line feed and another tiled text are put BEHIND it (`TilesAt.append_after`: the line feed ends a possible trailing
      comment, and satisfies every follow restriction).
  These give the tiling of `prefix ++ spanned text ++ LF ++ suffix` used by the re-parse-in-context theorems of C02.
  Each is proved for an arbitrary position function (`TilesP`, `Lemmas/LexSlice.lean`) and then read at `a + s.length - ·`.
-/
import PyGqlModel.Lemmas.LexSlice
namespace PyGql.Spec.Lexical

theorem Lexeme.ne_nil {k : TokKind} {lex v : Text} (hl : Lexeme k lex v) : lex ≠ [] := by
  rintro rfl
  cases k
  case sof | eof => exact hl
  case string | blockString => cases hl
  all_goals cases hl.1

theorem startsWith_append_of_ne {p : Nat → Bool} {a : Text} (b : Text) (h : a ≠ []) :
    startsWith p (a ++ b) = startsWith p a := by
  cases a with
  | nil => exact absurd rfl h
  | cons c t => rfl

theorem IgnRun.extend {a ign : Text} (b : Text) (ha : a ≠ []) (h : IgnRun a ign) : IgnRun (a ++ b) ign := by
  induction h with
  | nil => exact .nil
  | char c t hc _ ih => exact .char c t hc ih
  | comment body t hb hs _ ih =>
    refine .comment body t hb ?_ ih
    rw [← List.append_assoc, startsWith_append_of_ne b (by simp [ha])]
    exact hs

theorem Follow.extend {k : TokKind} {lex a : Text} (b : Text) (ha : a ≠ []) (h : Follow k lex a) : Follow k lex (a ++ b) :=
  h.of_startsWith fun p hp => by rwa [startsWith_append_of_ne b ha]

/-- a line feed satisfies every follow restriction -/
theorem Follow.lf (k : TokKind) (lex b : Text) : Follow k lex (10 :: b) := by
  cases k
  case name | int | float => rfl
  case string => exact fun _ => rfl
  all_goals trivial

theorem IgnRun.append_lf {next ign ign0 : Text} (h : IgnRun [] ign) (h0 : IgnRun next ign0) :
    IgnRun next (ign ++ 10 :: ign0) := by
  induction h with
  | nil => exact .char 10 ign0 (by decide) h0
  | char c t hc _ ih => exact .char c _ hc ih
  | comment body t hb hs _ ih =>
    have := IgnRun.comment (next := next) body (t ++ 10 :: ign0) hb ?_ ih
    · simpa using this
    · cases t with
      | nil => simp [startsWith, isCommentChar, isLineTerm]
      | cons c t' => simpa [startsWith] using hs

theorem IgnRun.prepend_chars {next ign : Text} (ws : Text) (hw : ∀ c ∈ ws, isIgnoredChar c = true) (h : IgnRun next ign) :
    IgnRun next (ws ++ ign) := by
  induction ws with
  | nil => exact h
  | cons c t ih => exact .char c _ (hw c (by simp)) (ih (fun x hx => hw x (by simp [hx])))

theorem TilesP.up {p : Nat → Nat} {s : Text} {toks : List Tok} (d : Nat) (h : TilesP p s toks) :
    TilesP (fun j => p j + d) s (toks.map (Tok.up d)) := by
  induction h with
  | eof ign hi => exact .eof ign hi
  | tok ign lex rest k v toks hi hl hf _ ih => exact .tok ign lex rest k v _ hi hl hf ih

theorem TilesP.congr {p q : Nat → Nat} {s : Text} {toks : List Tok} (h : TilesP p s toks)
    (hpq : ∀ j, j ≤ s.length → p j = q j) : TilesP q s toks := by
  obtain ⟨toks', rfl, h'⟩ := h.factor (d := 0) hpq
  have : Tok.up 0 = id := rfl
  rwa [this, List.map_id]

/-- ignored characters (no comment) in front of a tiled text -/
theorem Tiles.prepend_ign {n : Nat} {s : Text} {toks : List Tok} (ws : Text) (hw : ∀ c ∈ ws, isIgnoredChar c = true)
    (h : Tiles n s toks) : Tiles n (ws ++ s) toks := by
  cases h with
  | eof ign hi => exact .eof _ (hi.prepend_chars ws hw)
  | tok ign lex rest k v toks hi hl hf ht =>
    rw [← List.append_assoc]
    exact .tok _ lex rest k v toks (hi.prepend_chars ws hw) hl hf ht

theorem TilesP.prepend_run_lf {p : Nat → Nat} {q ign : Text} {toks : List Tok} (hi : IgnRun [] ign)
    (h : TilesP p q toks) : TilesP p (ign ++ 10 :: q) toks := by
  cases h with
  | eof ign0 hi0 => exact .eof _ (hi.append_lf hi0)
  | tok ign0 lex rest k v toks hi0 hl hf ht =>
    have e : ign ++ 10 :: (ign0 ++ (lex ++ rest)) = (ign ++ 10 :: ign0) ++ (lex ++ rest) := by simp
    rw [e]
    exact .tok _ lex rest k v toks (hi.append_lf hi0) hl hf ht

theorem TilesP.single_inv {p : Nat → Nat} {s : Text} {t : Tok} (h : TilesP p s [t]) : IgnRun [] s := by
  generalize e : [t] = l at h
  cases h with
  | eof ign hi => exact hi
  | tok ign lex rest k v toks hi hl hf ht =>
    cases (List.cons.inj e).2
    cases ht

/-- `s` tiled by `toks` and `<EOF>`, counted from in front of `LF ++ q`; `q` tiled by `qt`: then `s ++ LF ++ q` is tiled
    by `toks` and `qt`.  The line feed ends a possible trailing comment and satisfies every follow restriction. -/
theorem TilesP.append_lf {p : Nat → Nat} {q : Text} {qt : List Tok} (hq : TilesP p q qt) :
    ∀ (toks : List Tok) {s : Text} {t : Tok}, TilesP (fun j => p (j + (q.length + 1))) s (toks ++ [t]) →
      TilesP p (s ++ 10 :: q) (toks ++ qt)
  | [], s, t, h => hq.prepend_run_lf h.single_inv
  | u :: toks, s, t, h => by
    obtain ⟨ign, lex, rest, k, v, rfl, hi, hl, hf, ht, rfl⟩ := TilesP.cons_inv (toks := toks ++ [t]) h (by simp)
    have ih := TilesP.append_lf hq toks ht
    have e : ign ++ (lex ++ rest) ++ 10 :: q = ign ++ (lex ++ (rest ++ 10 :: q)) := by simp
    have e1 : (lex ++ rest).length + (q.length + 1) = (lex ++ (rest ++ 10 :: q)).length := by
      simp only [List.length_append, List.length_cons, Nat.add_assoc]
    have e2 : rest.length + (q.length + 1) = (rest ++ 10 :: q).length := by
      simp only [List.length_append, List.length_cons]
    rw [e, List.cons_append, e1, e2]
    refine .tok ign lex _ k v _ ?_ hl ?_ ih
    · rw [← List.append_assoc]; exact hi.extend _ (by simp [hl.ne_nil])
    · cases rest with
      | nil => exact Follow.lf _ _ _
      | cons c r => exact hf.extend _ (by simp)

/-! ### tilings counted from the front

`TilesAt a s toks`: the text `s` stands at offset `a` of an enclosing text that ends with it.  A token is then at
`a + ign.length`, with no subtraction: the form in which a concrete context is tiled front to back. -/

def TilesAt (a : Nat) (s : Text) (toks : List Tok) : Prop := Tiles (a + s.length) s toks

theorem TilesAt.tiles {a : Nat} {s : Text} {toks : List Tok} (h : TilesAt a s toks) : Tiles (a + s.length) s toks := h

theorem TilesAt.eof (a : Nat) (ign : Text) (hi : IgnRun [] ign) : TilesAt a ign [eofT (a + ign.length)] :=
  Tiles.eof ign hi

theorem TilesAt.tok (a : Nat) (ign lex rest : Text) (k : TokKind) (v : Text) (toks : List Tok)
    (hi : IgnRun (lex ++ rest) ign) (hl : Lexeme k lex v) (hf : Follow k lex rest)
    (h : TilesAt (a + ign.length + lex.length) rest toks) :
    TilesAt a (ign ++ (lex ++ rest)) (⟨k, a + ign.length, a + ign.length + lex.length, v⟩ :: toks) := by
  have e1 : a + (ign ++ (lex ++ rest)).length - (lex ++ rest).length = a + ign.length := by
    rw [List.length_append, ← Nat.add_assoc, Nat.add_sub_cancel]
  have e2 : a + (ign ++ (lex ++ rest)).length - rest.length = a + ign.length + lex.length := by
    simp only [List.length_append, ← Nat.add_assoc, Nat.add_sub_cancel]
  have e3 : a + ign.length + lex.length + rest.length = a + (ign ++ (lex ++ rest)).length := by
    simp only [List.length_append, Nat.add_assoc]
  rw [← e2, ← e1]
  exact Tiles.tok ign lex rest k v toks hi hl hf (e3 ▸ h)

theorem TilesAt.up {a : Nat} {s : Text} {toks : List Tok} (d : Nat) (h : TilesAt a s toks) :
    TilesAt (a + d) s (toks.map (Tok.up d)) :=
  ((Tiles.toP h).up d).congr (fun j hj => by
    show a + s.length - j + d = a + d + s.length - j
    rw [Nat.add_right_comm a d, Nat.sub_add_comm (Nat.le_trans hj (Nat.le_add_left _ _))]) |>.tiles

theorem TilesAt.prepend_ign {a : Nat} {s : Text} {toks : List Tok} (ws : Text) (hw : ∀ c ∈ ws, isIgnoredChar c = true)
    (h : TilesAt (a + ws.length) s toks) : TilesAt a (ws ++ s) toks := by
  have e : a + ws.length + s.length = a + (ws ++ s).length := by rw [List.length_append, Nat.add_assoc]
  exact Tiles.prepend_ign ws hw (e ▸ h)

theorem TilesAt.append_after {a : Nat} {s q : Text} {toks qt : List Tok} {t : Tok} (h : TilesAt a s (toks ++ [t]))
    (hq : TilesAt (a + s.length + 1) q qt) : TilesAt a (s ++ 10 :: q) (toks ++ qt) := by
  have e : a + (s ++ 10 :: q).length = a + s.length + 1 + q.length := by
    simp only [List.length_append, List.length_cons, Nat.add_assoc, Nat.add_comm 1]
  have h2 : TilesP (a + (s ++ 10 :: q).length - ·) q qt := e ▸ Tiles.toP hq
  refine (h2.append_lf toks ((Tiles.toP h).congr fun j _ => ?_)).tiles
  show a + s.length - j = a + (s ++ 10 :: q).length - (j + (q.length + 1))
  rw [e, Nat.add_assoc (a + s.length), Nat.add_comm 1, Nat.add_sub_add_right]

end PyGql.Spec.Lexical
