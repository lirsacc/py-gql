/-
  The relations of the variable clauses (`Spec/ValidSpecVars.lean`) along a map on definitions that keeps operation keys
  and renames fragments and variables (`DefMap`: used for `Tr` in Props/C06_inv_tr_vars.lean and for `Vr` here), and renaming of
  variables (`Vr`, Lemmas/ValidateVarRename.lean) on the SPECIFICATION side: the nodes of the renamed document are the
  renamed nodes (in the same order), the variables used by a definition are the renamed variables, the spread graph is
  untouched.
-/
import PyGqlModel.Lemmas.ValidateVarRename
import PyGqlModel.Spec.ValidSpecVars
import PyGqlModel.Lemmas.ListBasics
namespace PyGql.Validate
open PyGql PyGql.Validate.Spec

theorem nodup_map_inj {α β} {g : α → β} (hg : ∀ a b, g a = g b → a = b) (l : List α) : (l.map g).Nodup ↔ l.Nodup := by
  unfold List.Nodup
  rw [List.pairwise_map]
  exact ⟨fun h => h.imp fun hne e => hne (congrArg g e), fun h => h.imp fun hne e => hne (hg _ _ e)⟩

/-- 5.8.1 speaks of operations only; the other definitions have no variables -/
theorem uniqueVariableNames_iff (d : Doc) :
    Spec.uniqueVariableNames d ↔ ∀ x ∈ d.defs, (x.vars.map VarDef.name).Nodup := by
  constructor
  · intro h x hx
    cases x with
    | op k n vs ds i ss => exact h _ hx k n vs ds i ss rfl
    | _ => exact List.nodup_nil
  · intro h x hx k n vs ds i ss e
    subst e
    exact h _ hx

/-- a map on definitions that keeps operation keys, renames fragments by `φ` and variables by `ψ`, and maps variable
    definitions by `κ` -/
structure DefMap (f : Def → Def) (φ ψ : String → String) (κ : VarDef → VarDef) : Prop where
  opKey : ∀ x, (f x).opKey? = x.opKey?
  fragName : ∀ x, (f x).fragName? = x.fragName?.map φ
  vars : ∀ x, (f x).vars = x.vars.map κ
  name : ∀ v, (κ v).name = ψ v.name
  varUses : ∀ x y', y' ∈ defVarUses (f x) ↔ ∃ y ∈ defVarUses x, y' = ψ y
  spreads : ∀ x g', g' ∈ defSpreads (f x) ↔ ∃ g ∈ defSpreads x, g' = φ g

namespace DefMap
variable {f : Def → Def} {φ ψ : String → String} {κ : VarDef → VarDef} (H : DefMap f φ ψ κ) (d : Doc)
include H

theorem varNames (x : Def) : (f x).vars.map VarDef.name = (x.vars.map VarDef.name).map ψ := by
  rw [H.vars, List.map_map, List.map_map]
  exact List.map_congr_left fun v _ => H.name v

theorem fragName_some {x : Def} {g' : String} : (f x).fragName? = some g' ↔ ∃ g, g' = φ g ∧ x.fragName? = some g := by
  rw [H.fragName]
  cases x.fragName? with
  | none => exact ⟨fun h => (by cases h), fun ⟨_, _, h⟩ => (by cases h)⟩
  | some g => exact ⟨fun h => ⟨g, (Option.some.inj h).symm, rfl⟩, fun ⟨_, e, h⟩ => by cases h; rw [e]; rfl⟩

omit H in
theorem exists_mem (P : Def → Prop) : (∃ df ∈ (⟨d.defs.map f⟩ : Doc).defs, P df) ↔ ∃ a ∈ d.defs, P (f a) :=
  ⟨fun ⟨_, h, hp⟩ => let ⟨a, ha, e⟩ := List.mem_map.mp h; ⟨a, ha, e ▸ hp⟩,
    fun ⟨_, ha, hp⟩ => ⟨_, List.mem_map_of_mem ha, hp⟩⟩

/-- what a definition filed under operation key `o` lists (variables, uses, spreads), mapped by `χ` -/
theorem exists_opKey {L : Def → List String} {χ : String → String} (hL : ∀ x y', y' ∈ L (f x) ↔ ∃ y ∈ L x, y' = χ y)
    (o y' : String) : (∃ df ∈ (⟨d.defs.map f⟩ : Doc).defs, df.opKey? = some o ∧ y' ∈ L df) ↔
      ∃ y, y' = χ y ∧ ∃ df ∈ d.defs, df.opKey? = some o ∧ y ∈ L df := by
  rw [exists_mem]
  simp only [H.opKey, hL]
  exact ⟨fun ⟨a, ha, hk, y, hy, e⟩ => ⟨y, e, a, ha, hk, hy⟩, fun ⟨y, e, a, ha, hk, hy⟩ => ⟨a, ha, hk, y, hy, e⟩⟩

/-- the same for the definition of a fragment -/
theorem exists_fragName {L : Def → List String} {χ : String → String} (hL : ∀ x y', y' ∈ L (f x) ↔ ∃ y ∈ L x, y' = χ y)
    (g' y' : String) : (∃ df ∈ (⟨d.defs.map f⟩ : Doc).defs, df.fragName? = some g' ∧ y' ∈ L df) ↔
      ∃ g y, g' = φ g ∧ y' = χ y ∧ ∃ df ∈ d.defs, df.fragName? = some g ∧ y ∈ L df := by
  rw [exists_mem]
  simp only [H.fragName_some, hL]
  exact ⟨fun ⟨a, ha, ⟨g, eg, hg⟩, y, hy, e⟩ => ⟨g, y, eg, e, a, ha, hg, hy⟩,
    fun ⟨g, y, eg, e, a, ha, hg, hy⟩ => ⟨a, ha, ⟨g, eg, hg⟩, y, hy, e⟩⟩

theorem definedIn (o x' : String) : DefinedIn ⟨d.defs.map f⟩ o x' ↔ ∃ x, x' = ψ x ∧ DefinedIn d o x :=
  H.exists_opKey d (L := fun df => df.vars.map VarDef.name) (χ := ψ) (fun x y' => by
    rw [H.varNames, List.mem_map]; exact exists_congr fun _ => and_congr_right fun _ => eq_comm) o x'

theorem usedDirectly (o x' : String) : UsedDirectly ⟨d.defs.map f⟩ o x' ↔ ∃ x, x' = ψ x ∧ UsedDirectly d o x :=
  H.exists_opKey d H.varUses o x'

theorem fragUses (g' x' : String) :
    FragUses ⟨d.defs.map f⟩ g' x' ↔ ∃ g x, g' = φ g ∧ x' = ψ x ∧ FragUses d g x :=
  H.exists_fragName d H.varUses g' x'

theorem opSpreads (o g' : String) : OpSpreads ⟨d.defs.map f⟩ o g' ↔ ∃ g, g' = φ g ∧ OpSpreads d o g :=
  H.exists_opKey d H.spreads o g'

theorem fragSpreads (g' h' : String) :
    FragSpreads ⟨d.defs.map f⟩ g' h' ↔ ∃ g h, g' = φ g ∧ h' = φ h ∧ FragSpreads d g h :=
  H.exists_fragName d H.spreads g' h'

theorem fragReach_fwd {g h : String} (hr : FragReach d g h) : FragReach ⟨d.defs.map f⟩ (φ g) (φ h) := by
  induction hr with
  | refl g => exact .refl _
  | step hs _ ih => exact .step ((H.fragSpreads d _ _).mpr ⟨_, _, rfl, rfl, hs⟩) ih

variable (hφ : ∀ a b, φ a = φ b → a = b)
include hφ

theorem fragReach_bwd {g' h' : String} (hr : FragReach ⟨d.defs.map f⟩ g' h') :
    ∀ g, g' = φ g → ∃ h, h' = φ h ∧ FragReach d g h := by
  induction hr with
  | refl g' => exact fun g e => ⟨g, e, .refl g⟩
  | step hs _ ih =>
    intro g e
    obtain ⟨g0, k, e0, ek, hs'⟩ := (H.fragSpreads d _ _).mp hs
    cases hφ _ _ (e0.symm.trans e)
    obtain ⟨h, eh, hr'⟩ := ih k ek
    exact ⟨h, eh, .step hs' hr'⟩

theorem opReaches (o g' : String) : OpReaches ⟨d.defs.map f⟩ o g' ↔ ∃ g, g' = φ g ∧ OpReaches d o g := by
  unfold OpReaches
  constructor
  · rintro ⟨k', hk, hr⟩
    obtain ⟨k, rfl, hk'⟩ := (H.opSpreads d o k').mp hk
    obtain ⟨g, e, hr'⟩ := H.fragReach_bwd d hφ hr k rfl
    exact ⟨g, e, k, hk', hr'⟩
  · rintro ⟨g, rfl, k, hk, hr⟩
    exact ⟨φ k, (H.opSpreads d o _).mpr ⟨k, rfl, hk⟩, H.fragReach_fwd d hr⟩

theorem usedIn (o x' : String) : UsedIn ⟨d.defs.map f⟩ o x' ↔ ∃ x, x' = ψ x ∧ UsedIn d o x := by
  unfold UsedIn
  rw [H.usedDirectly]
  constructor
  · rintro (⟨x, rfl, h⟩ | ⟨g', hr, hu⟩)
    · exact ⟨x, rfl, Or.inl h⟩
    · obtain ⟨g, rfl, hr'⟩ := (H.opReaches d hφ o g').mp hr
      obtain ⟨g2, x, e, rfl, hu'⟩ := (H.fragUses d _ _).mp hu
      cases hφ _ _ e
      exact ⟨x, rfl, Or.inr ⟨g, hr', hu'⟩⟩
  · rintro ⟨x, rfl, h | ⟨g, hr, hu⟩⟩
    · exact Or.inl ⟨x, rfl, h⟩
    · exact Or.inr ⟨φ g, (H.opReaches d hφ o _).mpr ⟨g, rfl, hr⟩, (H.fragUses d _ _).mpr ⟨g, x, rfl, rfl, hu⟩⟩

theorem usedAt {s : SchemaD}
    (hus : ∀ x y' u, (y', u) ∈ defUsages s (f x) ↔ ∃ y, y' = ψ y ∧ (y, u) ∈ defUsages s x) (o x' : String) (u : Usage) :
    UsedAt s ⟨d.defs.map f⟩ o x' u ↔ ∃ x, x' = ψ x ∧ UsedAt s d o x u := by
  unfold UsedAt
  simp only [exists_mem, H.opKey, H.fragName_some, H.opReaches d hφ, hus]
  constructor
  · rintro (⟨a, ha, hk, x, rfl, h⟩ | ⟨g', ⟨g, rfl, hr⟩, a, ha, ⟨g2, e, hg⟩, x, rfl, h⟩)
    · exact ⟨x, rfl, Or.inl ⟨a, ha, hk, h⟩⟩
    · cases hφ _ _ e
      exact ⟨x, rfl, Or.inr ⟨g, hr, a, ha, hg, h⟩⟩
  · rintro ⟨x, rfl, ⟨a, ha, hk, h⟩ | ⟨g, hr, a, ha, hg, h⟩⟩
    · exact Or.inl ⟨a, ha, hk, x, rfl, h⟩
    · exact Or.inr ⟨φ g, ⟨g, rfl, hr⟩, a, ha, ⟨g, rfl, hg⟩, x, rfl, h⟩

variable (hψ : ∀ a b, ψ a = ψ b → a = b)
include hψ

omit H hφ in
/-- an implication between two relations that both transport along an injective `ψ` -/
theorem forall_imp_iff {A B A' B' : String → String → Prop} (hA : ∀ o x', A' o x' ↔ ∃ x, x' = ψ x ∧ A o x)
    (hB : ∀ o x', B' o x' ↔ ∃ x, x' = ψ x ∧ B o x) : (∀ o x, A' o x → B' o x) ↔ ∀ o x, A o x → B o x := by
  simp only [hA, hB]
  constructor
  · intro h o x hu
    obtain ⟨y, e, hy⟩ := h o (ψ x) ⟨x, rfl, hu⟩
    rwa [hψ _ _ e]
  · rintro h o _ ⟨x, rfl, hu⟩
    exact ⟨x, rfl, h o x hu⟩

theorem noUndefinedVariables : Spec.noUndefinedVariables ⟨d.defs.map f⟩ ↔ Spec.noUndefinedVariables d :=
  forall_imp_iff hψ (H.usedIn d hφ) (H.definedIn d)

theorem noUnusedVariables : Spec.noUnusedVariables ⟨d.defs.map f⟩ ↔ Spec.noUnusedVariables d :=
  forall_imp_iff hψ (H.definedIn d) (H.usedIn d hφ)

omit hφ in
theorem uniqueVariableNames : Spec.uniqueVariableNames ⟨d.defs.map f⟩ ↔ Spec.uniqueVariableNames d := by
  simp only [uniqueVariableNames_iff, List.forall_mem_map, H.varNames, nodup_map_inj hψ]

omit hφ in
theorem find?_map (x : String) (l : List VarDef) :
    (l.map κ).find? (·.name == ψ x) = (l.find? (·.name == x)).map κ := by
  induction l with
  | nil => rfl
  | cons a as ih =>
    have : ((κ a).name == ψ x) = (a.name == x) := by
      rw [H.name, Bool.eq_iff_iff, beq_iff_eq, beq_iff_eq]
      exact ⟨hψ _ _, congrArg ψ⟩
    simp only [List.map_cons, List.find?_cons, this]
    split
    · rfl
    · exact ih

omit hφ in
theorem varDefFor_map (o x : String) : varDefFor ⟨d.defs.map f⟩ o (ψ x) = (varDefFor d o x).map κ := by
  unfold varDefFor
  have : ((d.defs.map f).flatMap fun df => if df.opKey? = some o then df.vars else []) =
      (d.defs.flatMap fun df => if df.opKey? = some o then df.vars else []).map κ := by
    simp only [List.flatMap_map, List.map_flatMap]
    refine List.flatMap_congr_mem fun a _ => ?_
    rw [H.opKey, H.vars]
    split <;> rfl
  rw [this, ← List.map_reverse, H.find?_map hψ]

theorem variablesInAllowedPosition {s : SchemaD}
    (hus : ∀ x y' u, (y', u) ∈ defUsages s (f x) ↔ ∃ y, y' = ψ y ∧ (y, u) ∈ defUsages s x)
    (hal : ∀ v u, usageAllowed s (κ v) u ↔ usageAllowed s v u) :
    Spec.variablesInAllowedPosition s ⟨d.defs.map f⟩ ↔ Spec.variablesInAllowedPosition s d := by
  unfold Spec.variablesInAllowedPosition
  simp only [H.usedAt d hφ hus]
  constructor
  · intro h o x u vd hu hd
    exact (hal vd u).mp (h o (ψ x) u (κ vd) ⟨x, rfl, hu⟩ (by rw [H.varDefFor_map d hψ, hd]; rfl))
  · rintro h o _ u vd' ⟨x, rfl, hu⟩ hd
    rw [H.varDefFor_map d hψ] at hd
    obtain ⟨vd, hvd, rfl⟩ := Option.map_eq_some_iff.mp hd
    exact (hal vd u).mpr (h o x u vd hu hvd)

end DefMap

section
variable (V : Vr)

mutual
theorem valueNodes_vr : ∀ v : Value, valueNodes (V.value v) = (valueNodes v).map V.node
  | .list vs => by simp only [Vr.value, valueNodes, List.map_cons, valuesNodes_vr vs]; rfl
  | .obj fs => by simp only [Vr.value, valueNodes, List.map_cons, objFieldsNodes_vr fs]; rfl
  | .var x => rfl
  | .int _ | .float _ | .str _ | .bool _ | .null | .enum _ => rfl
theorem valuesNodes_vr : ∀ vs : List Value, valuesNodes (V.values vs) = (valuesNodes vs).map V.node
  | [] => rfl
  | v :: vs => by simp only [Vr.values, valuesNodes, List.map_append, valueNodes_vr v, valuesNodes_vr vs]
theorem objFieldNodes_vr : ∀ f : ObjField, objFieldNodes (V.objField f) = (objFieldNodes f).map V.node
  | .mk n v => by simp only [Vr.objField, objFieldNodes, List.map_cons, valueNodes_vr v]; rfl
theorem objFieldsNodes_vr : ∀ fs : List ObjField, objFieldsNodes (V.objFields fs) = (objFieldsNodes fs).map V.node
  | [] => rfl
  | f :: fs => by simp only [Vr.objFields, objFieldsNodes, List.map_append, objFieldNodes_vr f, objFieldsNodes_vr fs]
end

theorem argsNodes_vr (as : List Arg) : argsNodes (as.map V.arg) = (argsNodes as).map V.node := by
  induction as with
  | nil => rfl
  | cons a as ih =>
    simp only [argsNodes, List.map_cons, List.flatMap_cons, List.map_append] at ih ⊢
    rw [ih]
    simp only [argNodes, Vr.arg, List.map_cons, valueNodes_vr]
    rfl

theorem dirsNodes_vr (ds : List Dir) : dirsNodes (ds.map V.dir) = (dirsNodes ds).map V.node := by
  induction ds with
  | nil => rfl
  | cons a as ih =>
    simp only [dirsNodes, List.map_cons, List.flatMap_cons, List.map_append] at ih ⊢
    rw [ih]
    simp only [dirNodes, Vr.dir, List.map_cons, argsNodes_vr]
    rfl

mutual
theorem selNodes_vr : ∀ x : Sel, selNodes (V.sel x) = (selNodes x).map V.node
  | .field al n args dirs true id sub => by
    simp only [Vr.sel, selNodes, ↓reduceIte, List.map_cons, List.map_append, argsNodes_vr, dirsNodes_vr, selsNodes_vr sub]
    rfl
  | .field al n args dirs false id sub => by
    simp only [Vr.sel, selNodes, Bool.false_eq_true, ↓reduceIte, List.map_cons, List.map_append, argsNodes_vr, dirsNodes_vr,
      List.map_nil]
    rfl
  | .spread n dirs => by simp only [Vr.sel, selNodes, List.map_cons, dirsNodes_vr]; rfl
  | .inline on dirs id sub => by
    simp only [Vr.sel, selNodes, List.map_cons, List.map_append, dirsNodes_vr, selsNodes_vr sub]; rfl
theorem selsNodes_vr : ∀ xs : List Sel, selsNodes (V.selList xs) = (selsNodes xs).map V.node
  | [] => rfl
  | x :: xs => by simp only [Vr.selList, selsNodes, List.map_append, selNodes_vr x, selsNodes_vr xs]
end

theorem varDefsNodes_vr (vars : List VarDef) :
    (vars.map V.varDef).flatMap varDefNodes = (vars.flatMap varDefNodes).map V.node := by
  induction vars with
  | nil => rfl
  | cons v vs ih =>
    simp only [List.map_cons, List.flatMap_cons, List.map_append, ih]
    congr 1
    obtain ⟨nm, ty, df, ds⟩ := v
    cases df with
    | none => simp only [varDefNodes, Vr.varDef, List.map_cons, List.map_append, Option.map_none, dirsNodes_vr]; rfl
    | some dv =>
      simp only [varDefNodes, Vr.varDef, List.map_cons, List.map_append, Option.map_some, valueNodes_vr, dirsNodes_vr]; rfl

theorem defNodes_vr (x : Def) : defNodes (V.defn x) = (defNodes x).map V.node := by
  cases x with
  | op k nm vars dirs id sels =>
    simp only [Vr.defn, defNodes, List.map_cons, List.map_append, varDefsNodes_vr, dirsNodes_vr, selsNodes_vr]; rfl
  | frag n on dirs id sels =>
    simp only [Vr.defn, defNodes, List.map_cons, List.map_append, dirsNodes_vr, selsNodes_vr]; rfl
  | ts a b => rfl

mutual
theorem varsOfValue_vr : ∀ v : Value, varsOfValue (V.value v) = (varsOfValue v).map V.var
  | .list vs => by simp only [Vr.value, varsOfValue, varsOfValues_vr vs]
  | .obj fs => by simp only [Vr.value, varsOfValue, varsOfObjFields_vr fs]
  | .var x => rfl
  | .int _ | .float _ | .str _ | .bool _ | .null | .enum _ => rfl
theorem varsOfValues_vr : ∀ vs : List Value, varsOfValues (V.values vs) = (varsOfValues vs).map V.var
  | [] => rfl
  | v :: vs => by simp only [Vr.values, varsOfValues, List.map_append, varsOfValue_vr v, varsOfValues_vr vs]
theorem varsOfObjFields_vr : ∀ fs : List ObjField, varsOfObjFields (V.objFields fs) = (varsOfObjFields fs).map V.var
  | [] => rfl
  | .mk n v :: fs => by
    simp only [Vr.objFields, Vr.objField, varsOfObjFields, List.map_append, varsOfValue_vr v, varsOfObjFields_vr fs]
end

theorem defVarUses_vr (x : Def) : defVarUses (V.defn x) = (defVarUses x).map V.var := by
  simp only [defVarUses, defNodes_vr, List.flatMap_map, List.map_flatMap]
  refine List.flatMap_congr_mem fun n _ => ?_
  cases n <;> simp [Vr.node, Vr.arg, varsOfValue_vr]

theorem defSpreads_vr (x : Def) : defSpreads (V.defn x) = defSpreads x := by
  simp only [defSpreads, defNodes_vr, List.flatMap_map]
  refine List.flatMap_congr_mem fun n _ => ?_
  cases n <;> simp [Vr.node]

theorem vr_opKey (x : Def) : (V.defn x).opKey? = x.opKey? := by cases x <;> rfl
theorem vr_fragName (x : Def) : (V.defn x).fragName? = x.fragName? := by cases x <;> rfl
theorem vr_vars (x : Def) : (V.defn x).vars = x.vars.map V.varDef := by cases x <;> rfl


end

theorem Vr.defMap (V : Vr) : DefMap V.defn id V.var V.varDef where
  opKey := vr_opKey V
  fragName := fun x => by rw [vr_fragName, Option.map_id_fun, id]
  vars := vr_vars V
  name := fun _ => rfl
  varUses := fun x y' => by rw [defVarUses_vr, List.mem_map]; exact exists_congr fun _ => and_congr_right fun _ => eq_comm
  spreads := fun x g' => by rw [defSpreads_vr]; exact ⟨fun h => ⟨g', h, rfl⟩, fun ⟨_, h, e⟩ => e ▸ h⟩

theorem no_undefined_variables_spec_vr (V : Vr) (hinj : ∀ a b, V.var a = V.var b → a = b) (d : Doc) :
    Spec.noUndefinedVariables (V.doc d) ↔ Spec.noUndefinedVariables d :=
  V.defMap.noUndefinedVariables d (fun _ _ e => e) hinj

theorem no_unused_variables_spec_vr (V : Vr) (hinj : ∀ a b, V.var a = V.var b → a = b) (d : Doc) :
    Spec.noUnusedVariables (V.doc d) ↔ Spec.noUnusedVariables d :=
  V.defMap.noUnusedVariables d (fun _ _ e => e) hinj

end PyGql.Validate
