/-
  The translated `_skip_selection` (`Generated/TrCollect.lean`) in closed form, for the two models of it (executor, depth).
-/
import PyGqlModel.Generated.TrCollect
namespace PyGql.Generated.Tr
open PyGql

/-- `_skip_selection` without its guarded subscripts: `skip["if"]` is only evaluated when `skip is not None` (and
    `include["if"]` when `include is not None`), so the `TypeError` of the translation is not reachable and `exc` plays no part -/
theorem _skip_selection_eq {ε N V : Type} (exc : String → ε) (directive_arguments : String → N → V → Except ε (Option Bool))
    (node : N) (variables : V) :
    _skip_selection exc directive_arguments node variables =
      match directive_arguments "skip" node variables with
      | .error e => .error e
      | .ok skip =>
        match directive_arguments "include" node variables with
        | .error e => .error e
        | .ok incl => .ok (skip.getD false || !incl.getD true) := by
  unfold _skip_selection
  cases directive_arguments "skip" node variables with
  | error e => rfl
  | ok skip =>
    cases directive_arguments "include" node variables with
    | error e => rfl
    | ok incl => cases skip <;> cases incl <;> rfl

end PyGql.Generated.Tr
