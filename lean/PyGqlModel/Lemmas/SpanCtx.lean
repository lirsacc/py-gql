/-
  Re-parsing a spanned text INSIDE A MINIMAL CONTEXT: the tilings of the contexts (`{ σ⏎}`, `{ a σ⏎}`, `{ a(σ⏎)}`,
  `σ⏎scalar A`, `query(σ⏎){a}`, `k A {σ⏎}`, `schema {σ⏎}`) obtained from the tiling of `σ`, and the matcher on a plain
  solid node followed by anything, under any move of the positions.
-/
import PyGqlModel.Lemmas.LexWrap
import PyGqlModel.Lemmas.SpanSubs
import PyGqlModel.Lemmas.SpanFramed
namespace PyGql.Ast
def Selection.loc : Selection → Loc
  | .field _ _ _ _ _ loc => loc
  | .fragmentSpread _ _ loc => loc
  | .inlineFragment _ _ _ loc => loc
def SelectionSet.loc : SelectionSet → Loc
  | .mk _ loc => loc
end PyGql.Ast

namespace PyGql.Spec
open PyGql PyGql.Ast PyGql.Parse PyGql.Spec.Lexical

theorem Framed.free {fl : Flags} {σ : Text} {loc : Loc} {is : List Item} (h : Framed fl σ [.node loc is])
    (hs : (Item.node loc is).solid = true) (hp : (Item.node loc is).plain = true) :
    ∃ f tl l1, Tiles σ.length σ (f :: tl ++ [eofT σ.length]) ∧ loc = locOf fl f l1 ∧
      ∀ {g : Loc → Loc} {τ : Tok → Tok}, Moves fl g τ → ∀ l rest2,
        ((Item.node loc is).mapLoc g).check fl l ((f :: tl).map τ ++ rest2) = some (τ l1, rest2) := by
  obtain ⟨seg, l1, htl, hc⟩ := h
  have h1 := checkAll_single.1 hc
  -- the node consumes exactly `seg`
  obtain ⟨pre, hpre, _⟩ := check_follower fl _ _ _ _ _ hs h1
  have hseg : pre = seg := (List.append_cancel_right hpre).symm
  subst hseg
  have hld : (Item.node loc is).lead = true := by
    simp only [Item.solid, Bool.and_eq_true] at hs; simpa [Item.lead] using hs.1
  have hlt := check_lead fl _ _ _ _ _ hld h1
  have h1' := h1
  rw [check_node] at h1'
  obtain ⟨f, tl, e, _, hloc⟩ := h1'
  cases pre with
  | nil => simp at hlt
  | cons f' tl' =>
    simp only [List.cons_append, List.cons.injEq] at e
    obtain ⟨rfl, _⟩ := e
    refine ⟨f', tl', l1, htl, hloc, ?_⟩
    intro g τ m l rest2
    have hu := check_mapLoc m _ _ _ _ _ h1
    have hs' := (solid_mapLoc g _).trans hs
    have hp' := (plain_mapLoc g _).trans hp
    obtain ⟨pre2, hpre2, hfree⟩ := check_follower fl _ _ _ _ _ hs' hu
    rw [List.map_append] at hpre2
    have : pre2 = (f' :: tl').map τ := (List.append_cancel_right hpre2).symm
    subst this
    have h3 := hfree rest2 (.inl hp')
    have h4 := check_last_indep fl _ _ _ _ _ hs' h3 l
    rw [if_neg (by simp; omega)] at h4
    exact h4

theorem selectionV_node (sel : Selection) : ∃ is, selectionV sel = .node sel.loc is := by
  cases sel <;> exact ⟨_, rfl⟩

theorem selectionSetV_node (ss : SelectionSet) : ∃ is, selectionSetV ss = .node ss.loc is := by
  cases ss; exact ⟨_, rfl⟩

theorem check_shorthand {fl : Flags} {ss : SelectionSet} {l l1 : Tok} {ts rest : List Tok}
    (h : (selectionSetV ss).check fl l ts = some (l1, rest)) :
    (operationV ⟨K.query, none, [], [], ss, ss.loc⟩).check fl l ts = some (l1, rest) := by
  cases ss with
  | mk sels loc =>
    -- the first token of a selection set is `{`, not the keyword `query`
    obtain ⟨f, tl, rfl, hall, hl0⟩ := (check_node ..).1 h
    obtain ⟨_, _, hf, _⟩ := (checkAll_cons ..).1 hall
    obtain ⟨t', e, hcl, _⟩ := (check_tok ..).1 hf
    cases e
    unfold operationV
    rw [if_pos (by simp [isShorthand])]
    refine (check_node ..).2 ⟨f, tl, rfl, ?_, hl0⟩
    refine (checkAll_cons ..).2 ⟨l, _, (check_optTok ..).2 (.inr ⟨rfl, rfl, ?_⟩), checkAll_single.2 h⟩
    intro t tl' e'
    cases e'
    rw [hcl]
    decide

theorem Framed.shorthand {fl : Flags} {σ : Text} {ss : SelectionSet} (h : Framed fl σ [selectionSetV ss]) :
    Framed fl σ [operationV ⟨K.query, none, [], [], ss, ss.loc⟩] := by
  obtain ⟨seg, l1, htl, hc⟩ := h
  exact ⟨seg, l1, htl, checkAll_single.2 (check_shorthand (checkAll_single.1 hc))⟩

theorem wfDirective_weaken (c : Bool) (dir : Directive) (h : wfDirective c dir = true) : wfDirective false dir = true := by
  simp only [wfDirective, List.all_eq_true] at h ⊢
  intro x hx
  exact wfValue_of_const c _ (h x hx)

theorem wfArgument_weaken (c : Bool) (arg : Argument) (h : wfArgument c arg = true) : wfArgument false arg = true :=
  wfValue_of_const c _ h

/-! Every context is `pre σ⏎q`.  The prefix is tiled front to back from offset 0, the text `σ` put into it moves up by the
length of the prefix, the suffix is tiled at the offset `m` where it comes to stand: all positions are sums. -/

theorem Tiles.at_zero {n : Nat} {σ : Text} {toks : List Tok} (hn : σ.length = n) (h : Tiles n σ toks) :
    TilesAt 0 σ toks := by
  subst hn
  show Tiles (0 + σ.length) σ toks
  rw [Nat.zero_add]
  exact h

theorem TilesAt.tiles_zero {s : Text} {toks : List Tok} (h : TilesAt 0 s toks) : Tiles s.length s toks := by
  have := h.tiles
  rwa [Nat.zero_add] at this

theorem tiles_ctx {n : Nat} {σ : Text} {seg : List Tok} (pre : Text) (preT : List Tok) (q : Text) (qt : List Tok) (m : Nat)
    (hpre : ∀ (rest : Text) (toks : List Tok), TilesAt pre.length rest toks → TilesAt 0 (pre ++ rest) (preT ++ toks))
    (hm : pre.length + n + 1 = m) (hq : TilesAt m q qt) (hn : σ.length = n) (h : Tiles n σ (seg ++ [eofT n])) :
    TilesAt 0 (pre ++ σ ++ 10 :: q) (preT ++ (seg.map (Tok.up pre.length) ++ qt)) := by
  subst hn hm
  have h1 := (Tiles.at_zero rfl h).up pre.length
  rw [Nat.zero_add, List.map_append] at h1
  rw [List.append_assoc]
  exact hpre _ _ (h1.append_after hq)

private theorem lexeme_curlyL : Lexeme .curlyL [123] [123] := ⟨rfl, rfl⟩
private theorem lexeme_curlyR : Lexeme .curlyR [125] [125] := ⟨rfl, rfl⟩
private theorem lexeme_a : Lexeme .name [97] [97] := ⟨rfl, rfl⟩
private theorem ign_sp (next : Text) : IgnRun next [32] := .char 32 [] (by decide) .nil

theorem close_at (m : Nat) : TilesAt m [125] [⟨.curlyR, m, m + 1, [125]⟩, eofT (m + 1)] :=
  TilesAt.tok m [] [125] [] .curlyR [125] _ .nil lexeme_curlyR trivial (TilesAt.eof _ [] .nil)

theorem open_sp (a : Nat) (rest : Text) (toks : List Tok) (ht : TilesAt (a + 2) rest toks) :
    TilesAt a ([123, 32] ++ rest) (⟨.curlyL, a, a + 1, [123]⟩ :: toks) :=
  TilesAt.tok a [] [123] _ .curlyL [123] _ .nil lexeme_curlyL trivial (TilesAt.prepend_ign (a := a + 1) [32] (by decide) ht)

/-- `{ σ⏎}` -/
theorem tiles_braces {n : Nat} {σ : Text} {seg : List Tok} (hn : σ.length = n) (h : Tiles n σ (seg ++ [eofT n])) :
    TilesAt 0 ([123, 32] ++ σ ++ [10, 125])
      (⟨.curlyL, 0, 1, [123]⟩ :: (seg.map (Tok.up 2) ++ [⟨.curlyR, n + 3, n + 4, [125]⟩, eofT (n + 4)])) :=
  tiles_ctx [123, 32] [⟨.curlyL, 0, 1, [123]⟩] [125] _ (n + 3) (open_sp 0) (by show 2 + n + 1 = n + 3; omega) (close_at _)
    hn h

/-- `{ a σ⏎}` -/
theorem tiles_field {n : Nat} {σ : Text} {seg : List Tok} (hn : σ.length = n) (h : Tiles n σ (seg ++ [eofT n])) :
    TilesAt 0 ([123, 32, 97, 32] ++ σ ++ [10, 125])
      (⟨.curlyL, 0, 1, [123]⟩ :: ⟨.name, 2, 3, [97]⟩ ::
        (seg.map (Tok.up 4) ++ [⟨.curlyR, n + 5, n + 6, [125]⟩, eofT (n + 6)])) :=
  tiles_ctx [123, 32, 97, 32] [⟨.curlyL, 0, 1, [123]⟩, ⟨.name, 2, 3, [97]⟩] [125] _ (n + 5)
    (fun rest toks ht => open_sp 0 _ _ (TilesAt.tok 2 [] [97] _ .name [97] _ .nil lexeme_a (by rfl)
      (TilesAt.prepend_ign (a := 3) [32] (by decide) ht)))
    (by show 4 + n + 1 = n + 5; omega) (close_at _) hn h

/-- `{ a(σ⏎)}` -/
theorem tiles_args {n : Nat} {σ : Text} {seg : List Tok} (hn : σ.length = n) (h : Tiles n σ (seg ++ [eofT n])) :
    TilesAt 0 ([123, 32, 97, 40] ++ σ ++ [10, 41, 125])
      (⟨.curlyL, 0, 1, [123]⟩ :: ⟨.name, 2, 3, [97]⟩ :: ⟨.parenL, 3, 4, [40]⟩ ::
        (seg.map (Tok.up 4) ++ [⟨.parenR, n + 5, n + 6, [41]⟩, ⟨.curlyR, n + 6, n + 7, [125]⟩, eofT (n + 7)])) :=
  tiles_ctx [123, 32, 97, 40] [⟨.curlyL, 0, 1, [123]⟩, ⟨.name, 2, 3, [97]⟩, ⟨.parenL, 3, 4, [40]⟩] [41, 125] _ (n + 5)
    (fun rest toks ht => open_sp 0 _ _ (TilesAt.tok 2 [] [97] _ .name [97] _ .nil lexeme_a (by rfl)
      (TilesAt.tok 3 [] [40] _ .parenL [40] _ .nil ⟨rfl, rfl⟩ trivial ht)))
    (by show 4 + n + 1 = n + 5; omega)
    (TilesAt.tok (n + 5) [] [41] [125] .parenR [41] _ .nil ⟨rfl, rfl⟩ trivial (close_at _)) hn h

/-- `σ⏎scalar A` -/
theorem tiles_scalar {n : Nat} {σ : Text} {seg : List Tok} (hn : σ.length = n) (h : Tiles n σ (seg ++ [eofT n])) :
    TilesAt 0 (σ ++ 10 :: [115, 99, 97, 108, 97, 114, 32, 65])
      (seg ++ [⟨.name, n + 1, n + 7, [115, 99, 97, 108, 97, 114]⟩, ⟨.name, n + 8, n + 9, [65]⟩, eofT (n + 9)]) := by
  subst hn
  refine (Tiles.at_zero rfl h).append_after ?_
  rw [Nat.zero_add]
  exact TilesAt.tok _ [] [115, 99, 97, 108, 97, 114] [32, 65] .name _ _ .nil ⟨rfl, rfl⟩ (by rfl)
    (TilesAt.tok _ [32] [65] [] .name [65] _ (ign_sp _) ⟨rfl, rfl⟩ (by rfl) (TilesAt.eof _ [] .nil))

/-- `query(σ⏎){a}` -/
theorem tiles_query {n : Nat} {σ : Text} {seg : List Tok} (hn : σ.length = n) (h : Tiles n σ (seg ++ [eofT n])) :
    TilesAt 0 ([113, 117, 101, 114, 121, 40] ++ σ ++ [10, 41, 123, 97, 125])
      (⟨.name, 0, 5, [113, 117, 101, 114, 121]⟩ :: ⟨.parenL, 5, 6, [40]⟩ ::
        (seg.map (Tok.up 6) ++ [⟨.parenR, n + 7, n + 8, [41]⟩, ⟨.curlyL, n + 8, n + 9, [123]⟩, ⟨.name, n + 9, n + 10, [97]⟩,
          ⟨.curlyR, n + 10, n + 11, [125]⟩, eofT (n + 11)])) :=
  tiles_ctx [113, 117, 101, 114, 121, 40] [⟨.name, 0, 5, [113, 117, 101, 114, 121]⟩, ⟨.parenL, 5, 6, [40]⟩]
    [41, 123, 97, 125] _ (n + 7)
    (fun rest toks ht => TilesAt.tok 0 [] [113, 117, 101, 114, 121] _ .name [113, 117, 101, 114, 121] _ .nil ⟨rfl, rfl⟩
      (by rfl) (TilesAt.tok 5 [] [40] _ .parenL [40] _ .nil ⟨rfl, rfl⟩ trivial ht))
    (by show 6 + n + 1 = n + 7; omega)
    (TilesAt.tok (n + 7) [] [41] [123, 97, 125] .parenR [41] _ .nil ⟨rfl, rfl⟩ trivial
      (TilesAt.tok (n + 8) [] [123] [97, 125] .curlyL [123] _ .nil lexeme_curlyL trivial
        (TilesAt.tok (n + 9) [] [97] [125] .name [97] _ .nil lexeme_a (by rfl) (close_at _)))) hn h

/-- `k A {σ⏎}` for a keyword `k` (`type`, `input`, `enum`, …) -/
theorem tiles_kwA_block {n : Nat} {σ : Text} {seg : List Tok} (k : Text) (kl : Nat) (hkl : k.length = kl) (hk : isName k = true) (hn : σ.length = n)
    (h : Tiles n σ (seg ++ [eofT n])) :
    TilesAt 0 (k ++ [32, 65, 32, 123] ++ σ ++ [10, 125])
      (⟨.name, 0, kl, k⟩ :: ⟨.name, kl + 1, kl + 2, [65]⟩ :: ⟨.curlyL, kl + 3, kl + 4, [123]⟩ ::
        (seg.map (Tok.up (kl + 4)) ++
          [⟨.curlyR, n + kl + 5, n + kl + 6, [125]⟩, eofT (n + kl + 6)])) := by
  subst hkl
  have e : (k ++ [32, 65, 32, 123]).length = k.length + 4 := List.length_append
  have := tiles_ctx (k ++ [32, 65, 32, 123])
    [⟨.name, 0, k.length, k⟩, ⟨.name, k.length + 1, k.length + 2, [65]⟩, ⟨.curlyL, k.length + 3, k.length + 4, [123]⟩]
    [125] _ (n + k.length + 5)
    (fun rest toks ht => by
      rw [e] at ht
      have h5 := TilesAt.tok 0 [] k _ .name k _ .nil ⟨hk, rfl⟩ (by rfl)
        (TilesAt.tok (0 + 0 + k.length) [32] [65] _ .name [65] _ (ign_sp _) ⟨rfl, rfl⟩ (by rfl)
          (TilesAt.tok (0 + 0 + k.length + 1 + 1) [32] [123] rest .curlyL [123] toks (ign_sp _) lexeme_curlyL trivial
            (by rw [Nat.zero_add]; exact ht)))
      simp only [Nat.zero_add, List.length_nil, List.length_cons, Nat.add_assoc, Nat.reduceAdd, List.nil_append] at h5
      rw [List.append_assoc]
      exact h5)
    (by rw [e]; omega) (close_at _) hn h
  rw [e] at this
  exact this

/-- `schema {σ⏎}` -/
theorem tiles_schema_block {n : Nat} {σ : Text} {seg : List Tok} (hn : σ.length = n) (h : Tiles n σ (seg ++ [eofT n])) :
    TilesAt 0 ([115, 99, 104, 101, 109, 97, 32, 123] ++ σ ++ [10, 125])
      (⟨.name, 0, 6, [115, 99, 104, 101, 109, 97]⟩ :: ⟨.curlyL, 7, 8, [123]⟩ ::
        (seg.map (Tok.up 8) ++ [⟨.curlyR, n + 9, n + 10, [125]⟩, eofT (n + 10)])) :=
  tiles_ctx [115, 99, 104, 101, 109, 97, 32, 123] [⟨.name, 0, 6, [115, 99, 104, 101, 109, 97]⟩, ⟨.curlyL, 7, 8, [123]⟩] [125] _
    (n + 9)
    (fun rest toks ht => TilesAt.tok 0 [] [115, 99, 104, 101, 109, 97] _ .name [115, 99, 104, 101, 109, 97] _ .nil ⟨rfl, rfl⟩
      (by rfl) (TilesAt.tok 6 [32] [123] _ .curlyL [123] _ (ign_sp _) lexeme_curlyL trivial ht))
    (by show 8 + n + 1 = n + 9; omega) (close_at _) hn h

end PyGql.Spec
