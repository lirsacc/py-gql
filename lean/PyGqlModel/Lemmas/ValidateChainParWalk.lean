/-
  Every visit function of the parametrised chain (`Validate/ChainPar.lean`) is built from three things: doing nothing, doing
  one visit after another, and `visitNodePar` around a body. A property of visit functions that these three keep therefore
  holds of the visit of a whole document (`VisitClosed.document`): the case of `Lemmas/ValidateWalkLaws.lean` in which
  the property does not look at contexts. The properties proved this way: `GoodW`, `GoodS`
  (`Lemmas/ValidateChainSilent.lean`, `Lemmas/ValidateChainAttribution.lean`) and `CongE` (`Lemmas/ValidateChainParCongr.lean`).
-/
import PyGqlModel.Lemmas.ValidateWalkLaws
namespace PyGql.Validate
open PyGql

structure VisitClosed (P : VisitFn → Prop) : Prop where
  id : P (fun _ _ st => st)
  comp : ∀ {W1 W2 : VisitFn}, P W1 → P W2 → P (fun er c st => W2 er c (W1 er c st))
  node : ∀ (n : Node) {B : VisitFn}, P B → P (fun er c st => visitNodePar er c n (B er c) st)

namespace VisitClosed
variable {P : VisitFn → Prop} (h : VisitClosed P)
include h

/-- the laws of the walk, contexts and pairs ignored -/
theorem laws : WalkLaws (X := Unit) (fun _ x => x) (fun _ => True) (fun _ => true) (fun _ _ W => P W) where
  nil _ := h.id
  seq h1 h2 := h.comp h1 h2
  node n _ _ _ _ _ _ hW := h.node n hW
  keepJ _ _ _ _ := trivial

theorem values (vs : List Value) : P (fun er c => visitValuesPar er c vs) := h.laws.values (fun _ _ => rfl) vs ()

theorem objField (f : ObjField) : P (fun er c => visitObjFieldPar er c f) := h.laws.objField (fun _ _ => rfl) f ()

theorem objFields (fs : List ObjField) : P (fun er c => visitObjFieldsPar er c fs) := h.laws.objFields (fun _ _ => rfl) fs ()

theorem sel (x : Sel) : P (fun er c => visitSelPar er c x) := h.laws.sel (fun _ _ => rfl) x () trivial

theorem document (d : Doc) : P (fun er c => visitDocumentPar er c d) :=
  h.node (.document d) (h.laws.defs (fun _ _ => rfl) (fun _ _ => rfl) d () trivial)

end VisitClosed
end PyGql.Validate
