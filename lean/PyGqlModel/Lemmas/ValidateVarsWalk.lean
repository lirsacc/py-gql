/-
  The walk of a chain that carries a `VariablesCollector` (the three rules built on it), in relational form:
  visiting a sub-tree restores the stacks of `TypeInfoVisitor` and transforms the collector by the list of
  EVENTS of the sub-tree (`vlog`): a variable definition, a fragment spread, a variable usage at its static
  position - the positions being those of `Spec/ValidSpecVars.lean` (`usesValue`, `argPos`), computed without stacks.
  Result (`visitDefsV`): visiting a definition transforms the collector by `defEffect` = enter the scope, apply the
  events of `Spec.tnDef` (every (node, static context) pair) in order, leave the scope.
-/
import PyGqlModel.Lemmas.ValidateTyped
import PyGqlModel.Lemmas.TypedEqView
import PyGqlModel.Spec.ValidSpecVars
namespace PyGql.Validate
open PyGql PyGql.Validate.Spec

inductive VEv where
  | use (x : String) (u : Usage)
  | spread (f : String)
  | defn (v : VarDef)

/-- the position `VariablesCollector.enter_variable` reads from `TypeInfoVisitor` -/
def TI.pos (t : TI) : Usage :=
  { inputType := t.inputType, locDefault := (t.inputValueDef.map (·.hasDefault)).getD false }

namespace VC

/-- `enter_variable` with the position given -/
def useVar (fx : Fixes) (x : String) (u : Usage) (c : VC) : VC :=
  if c.inVarDef then c
  else match c.op, c.frag with
    | some o, _ => { c with opVars := AL.modify c.opVars o [] (fun m => record fx m x u) }
    | none, some f => { c with fragVars := AL.modify c.fragVars f [] (fun m => record fx m x u) }
    | none, none => c

theorem enterVariable_eq (fx : Fixes) (x : String) (ti : TI) (c : VC) :
    enterVariable fx x ti c = useVar fx x ti.pos c := rfl

/-- the lasting effect of `enter_variable_definition` -/
def defineVar (v : VarDef) (c : VC) : VC :=
  match c.op with
  | some o => { c with opDefined := AL.modify c.opDefined o [] (fun m => AL.set m v.name v) }
  | none => c

def applyEv (fx : Fixes) : VEv → VC → VC
  | .use x u, c => c.useVar fx x u
  | .spread f, c => c.enterSpread f
  | .defn v, c => c.defineVar v

def applyAll (fx : Fixes) (l : List VEv) (c : VC) : VC := l.foldl (fun c e => applyEv fx e c) c

theorem applyAll_nil (fx : Fixes) (c : VC) : applyAll fx [] c = c := rfl
theorem applyAll_append (fx : Fixes) (a b : List VEv) (c : VC) :
    applyAll fx (a ++ b) c = applyAll fx b (applyAll fx a c) := by simp [applyAll]
theorem applyAll_cons (fx : Fixes) (e : VEv) (l : List VEv) (c : VC) :
    applyAll fx (e :: l) c = applyAll fx l (applyEv fx e c) := rfl

theorem applyEv_scope (fx : Fixes) (e : VEv) (c : VC) :
    (applyEv fx e c).op = c.op ∧ (applyEv fx e c).frag = c.frag ∧ (applyEv fx e c).inVarDef = c.inVarDef := by
  cases e with
  | use x u =>
    simp only [applyEv, useVar]
    split
    · exact ⟨rfl, rfl, rfl⟩
    · split <;> exact ⟨rfl, rfl, rfl⟩
  | spread f =>
    simp only [applyEv, enterSpread]
    split
    · exact ⟨rfl, rfl, rfl⟩
    · split <;> exact ⟨rfl, rfl, rfl⟩
    · exact ⟨rfl, rfl, rfl⟩
  | defn v =>
    simp only [applyEv, defineVar]
    split <;> exact ⟨rfl, rfl, rfl⟩

theorem applyAll_scope (fx : Fixes) (l : List VEv) (c : VC) :
    (applyAll fx l c).op = c.op ∧ (applyAll fx l c).frag = c.frag ∧ (applyAll fx l c).inVarDef = c.inVarDef := by
  induction l generalizing c with
  | nil => exact ⟨rfl, rfl, rfl⟩
  | cons e l ih =>
    rw [applyAll_cons]
    obtain ⟨a1, a2, a3⟩ := ih (applyEv fx e c)
    obtain ⟨b1, b2, b3⟩ := applyEv_scope fx e c
    exact ⟨a1.trans b1, a2.trans b2, a3.trans b3⟩

def useEvs (l : List (String × Usage)) : List VEv := l.map fun p => .use p.1 p.2

theorem useEvs_append (a b : List (String × Usage)) : useEvs (a ++ b) = useEvs a ++ useEvs b := by simp [useEvs]

/-- inside a variable definition usages are ignored -/
theorem applyAll_useEvs_inVarDef (fx : Fixes) (l : List (String × Usage)) (c : VC) (h : c.inVarDef = true) :
    applyAll fx (useEvs l) c = c := by
  induction l with
  | nil => rfl
  | cons p l ih =>
    simp only [useEvs, List.map_cons, applyAll_cons, applyEv, useVar, h, ↓reduceIte]
    exact ih

theorem leaveVarDef_enterVarDef (v : VarDef) (c : VC) (h : c.inVarDef = false) :
    (c.enterVarDef v).leaveVarDef = c.defineVar v := by
  cases c with
  | mk op frag ivd a b c d e =>
    simp only at h; subst h
    cases op <;> simp [enterVarDef, leaveVarDef, defineVar]

end VC

/-- `VariablesCollector.enter` -/
def vcEnter (fx : Fixes) (n : Node) (ti : TI) (c : VC) : VC :=
  match n with
  | .operation _ name _ _ _ => c.enterOperation name
  | .fragmentDef name _ _ => c.enterFragmentDef name
  | .spread name _ => c.enterSpread name
  | .varDef v => c.enterVarDef v
  | .value (.var x) => c.enterVariable fx x ti
  | _ => c

/-- `VariablesCollector.leave` (below the document) -/
def vcLeave (n : Node) (c : VC) : VC :=
  match n with
  | .operation .. => c.leaveOperation
  | .fragmentDef .. => c.leaveFragmentDef
  | .varDef _ => c.leaveVarDef
  | _ => c

/-- a chain that never skips below the document and whose state projection `π` is a `VariablesCollector` -/
structure VCC (c : Cfg) (π : St → VC) : Prop where
  noskip : ∀ n st, n.isDoc = false → (enter c n st).2 = false
  enterπ : ∀ n st, n.isDoc = false → π (enter c n st).1 = vcEnter c.fixes n (tiEnter c.schema n st.ti) (π st)
  leaveπ : ∀ n st, n.isDoc = false → π (leave c n st) = vcLeave n (π st)

/-- the events of one (node, static context) pair -/
def evOf (s : SchemaD) : Node × View → List VEv
  | (.argument a, v) => VC.useEvs (usesValue s (argPos s v a.name) a.value)
  | (.spread f _, _) => [.spread f]
  | (.varDef vd, _) => [.defn vd]
  | _ => []

def vlog (s : SchemaD) (l : List (Node × View)) : List VEv := l.flatMap (evOf s)

theorem vlog_nil (s : SchemaD) : vlog s [] = [] := rfl
theorem vlog_cons (s : SchemaD) (p : Node × View) (l : List (Node × View)) : vlog s (p :: l) = evOf s p ++ vlog s l := by
  simp [vlog]
theorem vlog_append (s : SchemaD) (a b : List (Node × View)) : vlog s (a ++ b) = vlog s a ++ vlog s b := by
  simp [vlog]

/-- a visit restores the stacks and applies the listed events to the collector -/
def VW (π : St → VC) (fx : Fixes) (evs : List VEv) (st st' : St) : Prop :=
  st'.ti = st.ti ∧ π st' = (π st).applyAll fx evs

variable {c : Cfg} {π : St → VC}

theorem VW.nil (st : St) : VW π c.fixes [] st st := ⟨rfl, rfl⟩
theorem VW.append {a b : List VEv} {s1 s2 s3 : St} (h1 : VW π c.fixes a s1 s2) (h2 : VW π c.fixes b s2 s3) :
    VW π c.fixes (a ++ b) s1 s3 := ⟨h2.1.trans h1.1, by rw [h2.2, h1.2, VC.applyAll_append]⟩

theorem visitNodeV (h : VCC c π) (n : Node) (body : St → St) (evs : List VEv) (st : St)
    (hn : n.isDoc = false) (hd : ∀ d, n = .directive d → st.ti.directive = none)
    (hb : ∀ st1, st1.ti = tiEnter c.schema n st.ti → π st1 = vcEnter c.fixes n (tiEnter c.schema n st.ti) (π st) →
      VW π c.fixes evs st1 (body st1)) :
    (visitNode c n body st).ti = st.ti ∧
    π (visitNode c n body st) =
      vcLeave n ((vcEnter c.fixes n (tiEnter c.schema n st.ti) (π st)).applyAll c.fixes evs) := by
  have e1 := h.enterπ n st hn
  have e2 := h.noskip n st hn
  have e3 := enter_ti c n st
  unfold visitNode
  revert e1 e2 e3
  generalize enter c n st = p
  obtain ⟨st1, sk⟩ := p
  intro e1 e2 e3
  simp only at e1 e2 e3
  subst e2
  simp only [Bool.false_eq_true, ↓reduceIte]
  obtain ⟨b1, b2⟩ := hb st1 e3 e1
  refine ⟨?_, ?_⟩
  · rw [leave_ti, b1, e3, tiLeave_tiEnter _ _ _ hd]
  · rw [h.leaveπ n _ hn, b2, e1]

/-- nodes at and below the values that the collector ignores -/
def Node.vcIdle : Node → Bool
  | .typeNode _ | .tsDef | .objField _ => true
  | .value (.var _) => false
  | .value _ => true
  | _ => false

theorem vcIdle_spec {n : Node} (hi : n.vcIdle = true) :
    n.isDoc = false ∧ (∀ fx ti cc, vcEnter fx n ti cc = cc) ∧ ∀ cc, vcLeave n cc = cc := by
  cases n with
  | typeNode _ | tsDef | objField _ => exact ⟨rfl, fun _ _ _ => rfl, fun _ => rfl⟩
  | value v =>
    cases v with
    | var _ => cases hi
    | _ => exact ⟨rfl, fun _ _ _ => rfl, fun _ => rfl⟩
  | _ => cases hi

theorem visitNodeV_idle (h : VCC c π) (n : Node) (hi : n.vcIdle = true) (body : St → St) (evs : List VEv) (st : St)
    (hd : ∀ d, n = .directive d → st.ti.directive = none)
    (hb : ∀ st1, st1.ti = tiEnter c.schema n st.ti → π st1 = π st → VW π c.fixes evs st1 (body st1)) :
    VW π c.fixes evs st (visitNode c n body st) := by
  obtain ⟨hn, hE, hL⟩ := vcIdle_spec hi
  have := visitNodeV h n body evs st hn hd (fun st1 e1 e2 => hb st1 e1 (by rw [e2, hE]))
  rw [hL, hE] at this
  exact this

theorem leafV (h : VCC c π) (n : Node) (hi : n.vcIdle = true) (hd : ∀ d, n ≠ .directive d) (st : St) :
    VW π c.fixes [] st (visitNode c n id st) :=
  visitNodeV_idle h n hi id [] st (fun d e => absurd e (hd d)) (fun st1 _ _ => VW.nil st1)

theorem peek_cons {α} (a : Option α) (l : List (Option α)) : TI.peek (a :: l) = a := by
  simp [TI.peek]

theorem pos_list (s : SchemaD) (vs : List Value) (t : TI) :
    (tiEnter s (.value (.list vs)) t).pos = listItemPos s t.pos := by
  simp [tiEnter, TI.enterListValue, TI.pos, listItemPos, TI.inputType, TI.inputValueDef, peek_cons]

theorem pos_objField (s : SchemaD) (name : String) (t : TI) :
    (tiEnter s (.objField name) t).pos = objFieldPos s t.pos name := by
  simp only [tiEnter, TI.enterObjectField, TI.pos, objFieldPos, TI.inputType]
  cases hm : TI.peek t.inputStack with
  | none => simp [TI.inputValueDef, peek_cons]
  | some ty =>
    by_cases hi : isInputObject s ty.base = true <;> simp [hi, TI.inputValueDef, peek_cons]

theorem pos_argument (s : SchemaD) (a : Arg) (t : TI) :
    (tiEnter s (.argument a) t).pos = argPos s t.view a.name := by
  simp only [tiEnter, TI.enterArgument, TI.pos, argPos, TI.view]
  cases hd : t.directive with
  | some d => simp [TI.inputType, TI.inputValueDef, peek_cons]
  | none =>
    cases hf : t.field <;> simp [TI.inputType, TI.inputValueDef, peek_cons]

mutual
theorem visitValueV (h : VCC c π) : ∀ (v : Value) (st : St),
    VW π c.fixes (VC.useEvs (usesValue c.schema st.ti.pos v)) st (visitValue c v st)
  | .list vs, st => by
    rw [visitValue, usesValue]
    refine visitNodeV_idle h (.value (.list vs)) rfl _ _ st (fun _ => nofun) (fun st1 e _ => ?_)
    have := visitValuesV h vs st1
    rwa [e, pos_list] at this
  | .obj fs, st => by
    rw [visitValue, usesValue]
    refine visitNodeV_idle h (.value (.obj fs)) rfl _ _ st (fun _ => nofun) (fun st1 e _ => ?_)
    have := visitObjFieldsV h fs st1
    rwa [e] at this
  | .var x, st => by
    rw [visitValue]
    exact visitNodeV h (.value (.var x)) id [] st rfl (fun _ => nofun) (fun st1 _ _ => VW.nil st1)
  | .int x, st => by rw [visitValue]; exact leafV h (.value (.int x)) rfl (fun _ => nofun) st
  | .float x, st => by rw [visitValue]; exact leafV h (.value (.float x)) rfl (fun _ => nofun) st
  | .str x, st => by rw [visitValue]; exact leafV h (.value (.str x)) rfl (fun _ => nofun) st
  | .bool x, st => by rw [visitValue]; exact leafV h (.value (.bool x)) rfl (fun _ => nofun) st
  | .null, st => by rw [visitValue]; exact leafV h (.value .null) rfl (fun _ => nofun) st
  | .enum x, st => by rw [visitValue]; exact leafV h (.value (.enum x)) rfl (fun _ => nofun) st
theorem visitValuesV (h : VCC c π) : ∀ (vs : List Value) (st : St),
    VW π c.fixes (VC.useEvs (usesValues c.schema st.ti.pos vs)) st (visitValues c vs st)
  | [], st => by rw [visitValues, usesValues]; exact VW.nil st
  | v :: vs, st => by
    rw [visitValues, usesValues, VC.useEvs_append]
    have h1 := visitValueV h v st
    have h2 := visitValuesV h vs (visitValue c v st)
    rw [h1.1] at h2
    exact h1.append h2
theorem visitObjFieldV (h : VCC c π) : ∀ (x : ObjField) (st : St),
    VW π c.fixes (VC.useEvs (usesValue c.schema (objFieldPos c.schema st.ti.pos x.name) x.value)) st (visitObjField c x st)
  | .mk n v, st => by
    rw [visitObjField]
    refine visitNodeV_idle h (.objField n) rfl _ _ st (fun _ => nofun) (fun st1 e _ => ?_)
    have := visitValueV h v st1
    rwa [e, pos_objField] at this
theorem visitObjFieldsV (h : VCC c π) : ∀ (fs : List ObjField) (st : St),
    VW π c.fixes (VC.useEvs (usesObjFields c.schema st.ti.pos fs)) st (visitObjFields c fs st)
  | [], st => by rw [visitObjFields, usesObjFields]; exact VW.nil st
  | .mk n v :: fs, st => by
    rw [visitObjFields, usesObjFields, VC.useEvs_append]
    have h1 := visitObjFieldV h (.mk n v) st
    have h2 := visitObjFieldsV h fs (visitObjField c (.mk n v) st)
    rw [h1.1] at h2
    exact h1.append h2
end

theorem evOf_valueish (s : SchemaD) {n : Node} (h : n.isValueish = true) (w : View) : evOf s (n, w) = [] := by
  cases n <;> first | rfl | cases h

/-- value nodes carry no event of their own (the usages are attributed to the enclosing argument) -/
theorem vlog_valueish (s : SchemaD) (w : View) {ns : List Node} (h : ∀ n ∈ ns, n.isValueish = true) :
    vlog s (withView w ns) = [] :=
  List.flatMap_eq_nil_iff.mpr fun p hp => by
    obtain ⟨n, hn, rfl⟩ := List.mem_map.mp hp
    exact evOf_valueish s (h n hn) w

theorem vlog_value (s : SchemaD) (w : View) (v : Value) : vlog s (withView w (valueNodes v)) = [] :=
  vlog_valueish s w (valueNodes_kinds v)
theorem vlog_values (s : SchemaD) (w : View) : ∀ vs : List Value, vlog s (withView w (valuesNodes vs)) = [] :=
  fun vs => vlog_valueish s w (valuesNodes_kinds vs)
theorem vlog_objField (s : SchemaD) (w : View) : ∀ f : ObjField, vlog s (withView w (objFieldNodes f)) = [] :=
  fun f => vlog_valueish s w (objFieldNodes_kinds f)
theorem vlog_objFields (s : SchemaD) (w : View) : ∀ fs : List ObjField, vlog s (withView w (objFieldsNodes fs)) = [] :=
  fun fs => vlog_valueish s w (objFieldsNodes_kinds fs)

theorem vlog_argNodes (s : SchemaD) (w : View) (a : Arg) :
    vlog s (withView w (argNodes a)) = VC.useEvs (usesValue s (argPos s w a.name) a.value) := by
  rw [argNodes, withView_cons, vlog_cons, vlog_value, List.append_nil]; rfl

theorem enter_directive (s : SchemaD) (n : Node) (w : View) (hn : n.isDirective = false) :
    (View.enter s n w).directive = w.directive := by
  cases n with
  | directive d => cases hn
  | inline on dirs => cases on <;> rfl
  | _ => rfl

/-- `W` visits a sub-tree with pairs `l`, from any state in which `TypeInfoVisitor` shows `w`: the stacks are
    restored, so the context is the same for all the children of a node -/
def VWw (π : St → VC) (c : Cfg) (w : View) (l : List (Node × View)) (W : VisitFn) : Prop :=
  ∀ st, st.ti.view = w → VW π c.fixes (vlog c.schema l) st (W enterRule c st)

/-- selections, selection sets and directives are ignored by the collector, a fragment spread is its own event -/
theorem isSel_spec {n : Node} (hn : n.isSel = true) :
    n.isDoc = false ∧ ∀ fx s ti w cc evs,
      vcLeave n (VC.applyAll fx evs (vcEnter fx n ti cc)) = VC.applyAll fx (evOf s (n, w) ++ evs) cc := by
  cases n with
  | directive _ | field _ _ _ _ | spread _ _ | inline _ _ | selectionSet _ _ => exact ⟨rfl, fun _ _ _ _ _ _ => rfl⟩
  | _ => cases hn

/-- between the definitions and the arguments the collector keeps the law of a node. (Not at arguments: the usages
    below are attributed to the argument; not at definitions and variable definitions: the collector changes scope.) -/
theorem VCC.laws (h : VCC c π) :
    WalkLaws (View.enter c.schema) (fun w => w.directive = none) Node.isSel (VWw π c) where
  nil _ st _ := VW.nil st
  seq h1 h2 st e := by
    rw [vlog_append]
    exact (h1 st e).append (h2 _ (by rw [(h1 st e).1]; exact e))
  node n w l W hB hd _ hW st e := by
    subst e
    dsimp only
    rw [vlog_cons, visitNodePar_eq c n _ _ (fun _ => rfl)]
    have key := visitNodeV h n (W enterRule c) (vlog c.schema l) st (isSel_spec hB).1 (fun _ e => hd (e ▸ rfl))
      (fun st1 e1 _ => hW st1 (by rw [e1, view_enter]))
    exact ⟨key.1, key.2.trans ((isSel_spec hB).2 ..)⟩
  keepJ n w hn hj := (enter_directive c.schema n w hn).trans hj

theorem argumentsW (h : VCC c π) (as : List Arg) (w : View) :
    VWw π c w (gnArgs (View.enter c.schema) w as) (fun er c => visitArgumentsPar er c as) :=
  h.laws.args_of (fun a w st e => by
    subst e
    have e1 : gnArg (View.enter c.schema) st.ti.view a = withView st.ti.view (argNodes a) := by
      rw [gnArg, gnValue_view]; rfl
    dsimp only
    rw [e1, vlog_argNodes, visitArgumentPar_eq, visitArgument]
    exact visitNodeV h (.argument a) (visitValue c a.value) _ st rfl (fun _ => nofun) (fun st1 e1 _ => by
      have := visitValueV h a.value st1
      rwa [e1, pos_argument] at this)) as w

theorem directivesV (h : VCC c π) (ds : List Dir) (st : St) (hd : st.ti.directive = none) :
    VW π c.fixes (vlog c.schema (tnDirs c.schema st.ti.view ds)) st (visitDirectives c ds st) := by
  have := h.laws.dirs_of (argumentsW h) (fun _ hn => hn) ds _ hd st rfl
  dsimp only at this
  rwa [gnDirs_view, visitDirectivesPar_eq] at this

theorem visitSelV (h : VCC c π) : ∀ (x : Sel) (st : St), st.ti.directive = none →
    VW π c.fixes (vlog c.schema (tnSel c.schema st.ti.view x)) st (visitSel c x st)
  | x, st, hd => by
    have := h.laws.sel_of (argumentsW h) (fun _ hn => hn) x _ hd st rfl
    dsimp only at this
    rwa [gnSel_view, visitSelPar_eq] at this

theorem defBodyV (h : VCC c π) (w : View) (hd : w.directive = none) (dirs : List Dir) (ssid : Nat) (sels : List Sel)
    (st : St) (hw : st.ti.view = w) :
    VW π c.fixes (vlog c.schema (tnDirs c.schema w dirs ++
        (.selectionSet ssid sels, View.enter c.schema (.selectionSet ssid sels) w) ::
          tnSels c.schema (View.enter c.schema (.selectionSet ssid sels) w) sels)) st
      (visitNode c (.selectionSet ssid sels) (visitSels c sels) (visitDirectives c dirs st)) := by
  have hd2 := (enter_directive c.schema (.selectionSet ssid sels) w rfl).trans hd
  have := h.laws.seq (h.laws.dirs_of (argumentsW h) (fun _ hn => hn) dirs w hd)
    (h.laws.selSet (fun _ hn => hn) ssid sels w (h.laws.sels_of (argumentsW h) (fun _ hn => hn) sels _ hd2)) st hw
  dsimp only at this
  rwa [gnDirs_view, gnSels_view, visitNodePar_eq c _ _ _ (visitSelsPar_eq c sels), visitDirectivesPar_eq] at this

mutual
theorem usesValue_const (s : SchemaD) : ∀ (p : Usage) (v : Value), v.hasVar = false → usesValue s p v = []
  | p, .var x, h => by simp [Value.hasVar] at h
  | p, .list vs, h => by rw [usesValue]; exact usesValues_const s _ vs (by simpa [Value.hasVar] using h)
  | p, .obj fs, h => by rw [usesValue]; exact usesObjFields_const s _ fs (by simpa [Value.hasVar] using h)
  | p, .int x, _ => rfl
  | p, .float x, _ => rfl
  | p, .str x, _ => rfl
  | p, .bool x, _ => rfl
  | p, .null, _ => rfl
  | p, .enum x, _ => rfl
theorem usesValues_const (s : SchemaD) : ∀ (p : Usage) (vs : List Value), Value.hasVarL vs = false → usesValues s p vs = []
  | p, [], _ => rfl
  | p, v :: vs, h => by
    simp only [Value.hasVarL, Bool.or_eq_false_iff] at h
    rw [usesValues, usesValue_const s p v h.1, usesValues_const s p vs h.2]; rfl
theorem usesObjFields_const (s : SchemaD) : ∀ (p : Usage) (fs : List ObjField), Value.hasVarF fs = false →
    usesObjFields s p fs = []
  | p, [], _ => rfl
  | p, .mk n v :: fs, h => by
    simp only [Value.hasVarF, Bool.or_eq_false_iff] at h
    rw [usesObjFields, usesValue_const s _ v h.1, usesObjFields_const s p fs h.2]; rfl
end

theorem vlog_argsNodes_const (s : SchemaD) (w : View) (as : List Arg) (h : (as.all fun a => !a.value.hasVar) = true) :
    vlog s (withView w (argsNodes as)) = [] := by
  induction as with
  | nil => rfl
  | cons a as ih =>
    simp only [List.all_cons, Bool.and_eq_true, Bool.not_eq_eq_eq_not, Bool.not_true] at h
    simp only [argsNodes, List.flatMap_cons] at ih ⊢
    rw [withView_append, vlog_append, ih (by simpa using h.2), argNodes, withView_cons, vlog_cons, vlog_value]
    simp only [evOf, usesValue_const s _ a.value h.1, VC.useEvs, List.map_nil, List.append_nil]

theorem vlog_tnDirs_const (s : SchemaD) (w : View) (ds : List Dir) (h : ds.all Dir.isConst = true) :
    vlog s (tnDirs s w ds) = [] := by
  induction ds with
  | nil => rfl
  | cons d ds ih =>
    simp only [List.all_cons, Bool.and_eq_true] at h
    simp only [tnDirs, List.flatMap_cons] at ih ⊢
    rw [vlog_append, ih h.2, tnDir, vlog_cons, vlog_argsNodes_const s _ d.args h.1]
    rfl

/-- the events of a variable definition: its declaration only (default values hold no usages; the directives of a
    variable definition are `Directives[Const]`) -/
theorem vlog_tnVarDef (s : SchemaD) (w : View) (v : VarDef) : vlog s (tnVarDef s w v) = [.defn v] := by
  rw [tnVarDef, vlog_append, vlog_tnDirs_const s w v.dirs v.dirsConst, withView_cons, vlog_cons, withView_append, vlog_append]
  cases v.default with
  | none => rfl
  | some d => simp only [vlog_value]; rfl

theorem visitVarDefV (h : VCC c π) (v : VarDef) (st : St) (hiv : (π st).inVarDef = false)
    (hd : st.ti.directive = none) :
    VW π c.fixes (vlog c.schema (tnVarDef c.schema st.ti.view v)) st (visitVarDef c v st) := by
  rw [visitVarDef, vlog_tnVarDef]
  have key := visitNodeV h (.varDef v) (fun st =>
      visitDirectives c v.dirs
        (visitNode c (.typeNode v.type) id (match v.default with | some d => visitValue c d st | none => st))) [] st rfl
    (fun _ => nofun) (fun st1 e1 e2 => by
      have hin : (π st1).inVarDef = true := by
        rw [e2]; show ((π st).enterVarDef v).inVarDef = true
        simp only [VC.enterVarDef]; split <;> rfl
      have hd1 : st1.ti.directive = none := by rw [e1, directive_tiEnter _ _ _ (fun _ => by simp)]; exact hd
      -- the usages in the default value are ignored
      have hval : VW π c.fixes [] st1 (match v.default with | some d => visitValue c d st1 | none => st1) := by
        cases v.default with
        | none => exact VW.nil st1
        | some d =>
          have h1 := visitValueV h d st1
          exact ⟨h1.1, by rw [h1.2, VC.applyAll_useEvs_inVarDef _ _ _ hin]; rfl⟩
      have a := hval.append (leafV h (.typeNode v.type) rfl (fun _ => nofun) _)
      have hdirs := directivesV h v.dirs _ (by rw [a.1]; exact hd1)
      rw [vlog_tnDirs_const c.schema _ v.dirs v.dirsConst] at hdirs
      exact a.append hdirs)
  refine ⟨key.1, key.2.trans ?_⟩
  show ((π st).enterVarDef v).leaveVarDef = _
  rw [VC.leaveVarDef_enterVarDef _ _ hiv]
  rfl

theorem visitVarDefsV (h : VCC c π) : ∀ (vs : List VarDef) (st : St), (π st).inVarDef = false → st.ti.directive = none →
    VW π c.fixes (vlog c.schema (vs.flatMap (tnVarDef c.schema st.ti.view))) st
      (vs.foldl (fun st v => visitVarDef c v st) st)
  | [], st, _, _ => VW.nil st
  | v :: vs, st, hiv, hd => by
    have h1 := visitVarDefV h v st hiv hd
    have h2 := visitVarDefsV h vs (visitVarDef c v st) (by rw [h1.2, (VC.applyAll_scope _ _ _).2.2]; exact hiv)
      (by rw [h1.1]; exact hd)
    rw [h1.1] at h2
    rw [List.flatMap_cons, vlog_append]
    exact h1.append h2

/-- what visiting a definition does to the collector -/
def defEffect (fx : Fixes) (s : SchemaD) (x : Def) (cc : VC) : VC :=
  match x with
  | .op _ name .. => ((cc.enterOperation name).applyAll fx (vlog s (tnDef s x))).leaveOperation
  | .frag name .. => ((cc.enterFragmentDef name).applyAll fx (vlog s (tnDef s x))).leaveFragmentDef
  | .ts .. => cc

theorem opBodyV (h : VCC c π) (w : View) (hd : w.directive = none) (vars : List VarDef) (dirs : List Dir) (ssid : Nat)
    (sels : List Sel) (st : St) (hw : st.ti.view = w) (hiv : (π st).inVarDef = false) :
    VW π c.fixes (vlog c.schema (vars.flatMap (tnVarDef c.schema w) ++ tnDirs c.schema w dirs ++
        (.selectionSet ssid sels, View.enter c.schema (.selectionSet ssid sels) w) ::
          tnSels c.schema (View.enter c.schema (.selectionSet ssid sels) w) sels)) st
      (visitNode c (.selectionSet ssid sels) (visitSels c sels)
        (visitDirectives c dirs (vars.foldl (fun st v => visitVarDef c v st) st))) := by
  have h1 := visitVarDefsV h vars st hiv (by rw [← hw] at hd; exact hd)
  rw [hw] at h1
  rw [List.append_assoc, vlog_append]
  exact h1.append (defBodyV h w hd dirs ssid sels _ ((congrArg TI.view h1.1).trans hw))

theorem visitDefV (h : VCC c π) (d : Def) (st : St) (h0 : st.ti = {}) (hiv : (π st).inVarDef = false) :
    (visitDef c d st).ti = st.ti ∧ π (visitDef c d st) = defEffect c.fixes c.schema d (π st) := by
  have hv0 : st.ti.view = ({} : View) := by rw [h0]; rfl
  cases d with
  | op kind name vars dirs ssid sels =>
    rw [visitDef]
    have key := visitNodeV h (.operation kind name vars dirs sels) _ _ st rfl (fun _ => nofun) (fun st1 e e2 =>
      opBodyV h (View.enter c.schema (.operation kind name vars dirs sels) {}) rfl vars dirs ssid sels st1
        (by rw [e, view_enter, hv0]) (by rw [e2]; exact hiv))
    refine ⟨key.1, ?_⟩
    rw [key.2]
    simp only [defEffect, tnDef, vlog_cons]
    rfl
  | frag name on dirs ssid sels =>
    rw [visitDef]
    have key := visitNodeV h (.fragmentDef name on dirs) _ _ st rfl (fun _ => nofun) (fun st1 e _ =>
      defBodyV h (View.enter c.schema (.fragmentDef name on dirs) {}) rfl dirs ssid sels st1 (by rw [e, view_enter, hv0]))
    refine ⟨key.1, ?_⟩
    rw [key.2]
    simp only [defEffect, tnDef, vlog_cons]
    rfl
  | ts a b =>
    rw [visitDef]
    exact leafV h .tsDef rfl (fun _ => nofun) st

theorem defEffect_scope (fx : Fixes) (s : SchemaD) (x : Def) (cc : VC)
    (h : cc.op = none ∧ cc.frag = none ∧ cc.inVarDef = false) :
    (defEffect fx s x cc).op = none ∧ (defEffect fx s x cc).frag = none ∧ (defEffect fx s x cc).inVarDef = false := by
  cases x with
  | op kind name vars dirs ssid sels =>
    obtain ⟨_, a2, a3⟩ := VC.applyAll_scope fx (vlog s (tnDef s (.op kind name vars dirs ssid sels))) (cc.enterOperation name)
    simp only [defEffect, VC.leaveOperation]
    exact ⟨trivial, a2.trans h.2.1, a3.trans h.2.2⟩
  | frag name on dirs ssid sels =>
    obtain ⟨a1, _, a3⟩ := VC.applyAll_scope fx (vlog s (tnDef s (.frag name on dirs ssid sels))) (cc.enterFragmentDef name)
    simp only [defEffect, VC.leaveFragmentDef]
    exact ⟨a1.trans h.1, trivial, a3.trans h.2.2⟩
  | ts a b => exact h

theorem visitDefsV (h : VCC c π) (ds : List Def) (st : St) (h0 : st.ti = {})
    (hs : (π st).op = none ∧ (π st).frag = none ∧ (π st).inVarDef = false) :
    (ds.foldl (fun st x => visitDef c x st) st).ti = {} ∧
    π (ds.foldl (fun st x => visitDef c x st) st) = ds.foldl (fun cc x => defEffect c.fixes c.schema x cc) (π st) := by
  induction ds generalizing st with
  | nil => exact ⟨h0, rfl⟩
  | cons x xs ih =>
    obtain ⟨a1, a2⟩ := visitDefV h x st h0 hs.2.2
    rw [List.foldl_cons, List.foldl_cons]
    have := ih (visitDef c x st) (by rw [a1, h0]) (by rw [a2]; exact defEffect_scope _ _ _ _ hs)
    rw [a2] at this
    exact this

end PyGql.Validate
