/-
  C09 — the `args` QUEUE of `execute_fields_serially` against the trace, as an invariant over the steps of
  EVERY schedule: the top-level resolvers invoked so far are exactly the fields in front of the queue, in
  document order (`topKeys trace ++ args.keys = fields.keys`); once the serial chain has finished or failed
  the invoked ones are a prefix of the document order.
-/
import PyGqlModel.Lemmas.ExecSerial

namespace PyGql.AsyncExec

/-- the response key of a top-level resolver invocation -/
def topKey? : Ev → Option String
  | .call [.key k] => some k
  | _ => none

def topKeys (tr : List Ev) : List String := tr.filterMap topKey?

@[simp] theorem topKeys_nil : topKeys [] = [] := rfl
@[simp] theorem topKeys_append (a b : List Ev) : topKeys (a ++ b) = topKeys a ++ topKeys b := by simp [topKeys]
@[simp] theorem topKeys_cons_top (k : String) (l : List Ev) : topKeys (.call [.key k] :: l) = k :: topKeys l := by
  simp [topKeys, topKey?]

theorem topKey_nonTop (e : Ev) (h : nonTop e = true) : topKey? e = none := by
  cases e with
  | done p => rfl
  | call p =>
    cases p with
    | nil => rfl
    | cons a r =>
      cases r with
      | nil => cases a <;> simp_all [nonTop, topKey?]
      | cons b r' => cases a <;> rfl

theorem topKeys_nonTop : ∀ (Δ : List Ev), (∀ e ∈ Δ, nonTop e = true) → topKeys Δ = []
  | [], _ => rfl
  | e :: r, h => by
    have h1 := topKey_nonTop e (h e (by simp))
    have h2 := topKeys_nonTop r (fun x hx => h x (by simp [hx]))
    simp only [topKeys] at h2 ⊢
    simp [h1, h2]

/-- the queue held by a serial callback at the root of a chain -/
def cbArgs : Node → Option Flds
  | .chain _ (.serialCb [] _ _ args) => some args
  | _ => none

/-- … of a node returned by `_next` (finished Futures around it stripped) -/
def sArgs : Node → Option Flds
  | .done r => sArgs r
  | n => cbArgs n

/-- … below the outer `unwrap_value` of `execute` -/
def uArgs : Node → Option Flds
  | .unwrap c => cbArgs c
  | _ => none

/-- … of the overall result node of a mutation -/
def tArgs : Node → Option Flds
  | .chain u .onFinish => uArgs u
  | _ => none

/-- the queue invariant: with a live queue `args`, the top-level invocations so far followed by the queue are
    the document order; without one they are a prefix of it -/
def QOk (all : List String) (o : Option Flds) (tk : List String) : Prop :=
  match o with
  | some args => tk ++ args.keys = all
  | none => tk <+: all

theorem QOk.prefix {all : List String} {o : Option Flds} {tk : List String} (h : QOk all o tk) : tk <+: all := by
  cases o with
  | none => exact h
  | some args => exact ⟨args.keys, h⟩

theorem uArgs_unwrapCb (S : Node) : uArgs (unwrapCb S) = sArgs S := by
  fun_induction unwrapCb S with
  | case1 e => rfl
  | case2 x => rfl
  | case3 r _ ih => exact ih
  | case4 x => rfl
  | case5 p _ _ hdone _ =>
    unfold sArgs
    split
    · exact absurd rfl (hdone _)
    · rfl

theorem onFinish_q (U : Node) (s : ExecSt) :
    tArgs (chainOnFinish applyCont U .onFinish s).1 = uArgs U ∧ (chainOnFinish applyCont U .onFinish s).2 = s := by
  unfold chainOnFinish
  split <;> exact ⟨rfl, rfl⟩

def QRes (all : List String) (r : Res Node × ExecSt) : Prop :=
  match r.1 with
  | .ok n => QOk all (sArgs n) (topKeys r.2.trace)
  | .exc _ => topKeys r.2.trace <+: all

/-- resolving the head of the queue invokes its resolver and, below it, only resolvers that are not top-level -/
theorem resolveField_q {all : List String} {key : String} {mode : Mode} {out : ROut} {rest : Flds} {s : ExecSt}
    (h : topKeys s.trace ++ (Flds.cons key mode out rest).keys = all) :
    topKeys (resolveField ([] ++ [.key key]) mode out s).2.trace ++ rest.keys = all := by
  obtain ⟨⟨Δ, t, hn, _⟩, _⟩ := resolveField_step out ([] ++ [.key key]) mode s (by simp)
  rw [t, List.nil_append, topKeys_append, topKeys_cons_top, topKeys_nonTop Δ hn, List.append_assoc]
  exact h

def ApQ (all : List String) (ap : ApplyCont) (k : Cont) (args : Flds) : Prop :=
  ∀ r s, topKeys s.trace ++ args.keys = all → QRes all (ap k r s)

theorem q_settle {all : List String} {r : Res Node × ExecSt} (h : QRes all r) :
    QOk all (sArgs (settle r).1) (topKeys (settle r).2.trace) := by
  obtain ⟨x | e, s'⟩ := r <;> exact h

/-- the chain behind which `_next` parks the queue: `cb` has run, or is still parked with its queue -/
theorem chainOnFinish_q {all : List String} {ap : ApplyCont} {key : String} {resolved : List (String × V)} {args : Flds}
    (hap : ApQ all ap (.serialCb [] key resolved args) args) (F : Node) (s : ExecSt) (h : topKeys s.trace ++ args.keys = all) :
    QOk all (sArgs (chainOnFinish ap F (.serialCb [] key resolved args) s).1)
      (topKeys (chainOnFinish ap F (.serialCb [] key resolved args) s).2.trace) := by
  rw [chainOnFinish_eq]
  split
  next e => exact q_settle (hap _ s h)
  next r => exact q_settle (hap _ s h)
  next => exact h

theorem mapValue_q {all : List String} {ap : ApplyCont} {key : String} {resolved : List (String × V)} {args : Flds}
    (hap : ApQ all ap (.serialCb [] key resolved args) args) (n : Node) (s : ExecSt) (h : topKeys s.trace ++ args.keys = all) :
    QRes all (mapValue ap n (.serialCb [] key resolved args) s) := by
  unfold mapValue
  split
  next x => exact hap (.ok x) s h
  next =>
    split
    · exact chainOnFinish_q hap _ s h
    · exact h

/-- the parked `cb` of `_next` resumes `_next` on the queue it holds -/
theorem serialCb_q (all : List String) (key : String) (resolved : List (String × V)) (args : Flds)
    (ih : ∀ resolved s, topKeys s.trace ++ args.keys = all → QRes all (serialNext [] resolved args s)) :
    ApQ all applyCont (.serialCb [] key resolved args) args :=
  serialCb_cases (Q := fun _ s x => topKeys s.trace ++ args.keys = all → QRes all x) (fun _ s => ih _ s)
    fun r s h => by cases r <;> exact ⟨args.keys, h⟩

/-- `_next` parks the rest of the queue in a `serialCb`, or has gone through all of it -/
theorem serialNext_q (all : List String) : ∀ (args : Flds) (resolved : List (String × V)) (s : ExecSt),
    topKeys s.trace ++ args.keys = all → QRes all (serialNext [] resolved args s)
  | .nil, _, _, h => ⟨[], h⟩
  | .cons key mode out rest, resolved, s, h => by
    have h1 := resolveField_q h
    rw [serialNext_cons]
    generalize resolveField ([] ++ [.key key]) mode out s = x at h1 ⊢
    obtain ⟨n | e, s1⟩ := x
    · exact mapValue_q (serialCb_q all key resolved rest (serialNext_q all rest)) n s1 h1
    · exact ⟨rest.keys, h1⟩

def OrdInv (all : List String) (top : Node) (s : ExecSt) : Prop := QOk all (tArgs top) (topKeys s.trace)

theorem spineStep_q (all : List String) (F' : Node) (s1 : ExecSt) (key : String) (resolved : List (String × V)) (args : Flds)
    (h : topKeys s1.trace ++ args.keys = all) :
    OrdInv all (spineStep F' s1 key resolved args).1 (spineStep F' s1 key resolved args).2 := by
  unfold OrdInv spineStep
  obtain ⟨a1, a2⟩ := onFinish_q (unwrapCb (chainOnFinish applyCont F' (.serialCb [] key resolved args) s1).1)
    (chainOnFinish applyCont F' (.serialCb [] key resolved args) s1).2
  rw [a1, a2, uArgs_unwrapCb]
  exact chainOnFinish_q (serialCb_q all key resolved args (serialNext_q all args)) F' s1 h

theorem deliver_q (all : List String) (top : Node) (t : Nat) (s : ExecSt) (hts : TopSerial top s) (h : OrdInv all top s) :
    OrdInv all (deliver applyCont t top s).1 (deliver applyCont t top s).2 := by
  rcases hts.1.cases with hfin | ⟨F, key, resolved, args, rfl, hg, _, _, hns⟩
  · rw [deliver_finished applyCont t top s hfin]
    exact h
  · obtain ⟨⟨Δ, t1, n1, _⟩, _⟩ := deliver_step F t s hg hns
    rw [deliver_spineStep]
    apply spineStep_q
    rw [t1, topKeys_append, topKeys_nonTop Δ n1, List.append_nil]
    exact h

theorem stepSched_q (all : List String) (top : Node) (s : ExecSt) (i : Nat) (hts : TopSerial top s) (h : OrdInv all top s) :
    OrdInv all (stepSched top s i).1 (stepSched top s i).2 := by
  unfold stepSched
  simp only
  split
  · exact h
  · rename_i t _
    exact deliver_q all top t { s with queue := removeAt s.queue (i % s.queue.length) } hts h

theorem runSched_q (all : List String) : ∀ (sched : List Nat) (top : Node) (s : ExecSt) (sizes : List Nat),
    TopSerial top s → OrdInv all top s →
    OrdInv all (runSched top s sizes sched).top (runSched top s sizes sched).st :=
  fun sched top s sizes hts h =>
    (runSched_preserves (P := fun top s => TopSerial top s ∧ OrdInv all top s)
      (fun top s i h => ⟨stepSched_serial top s i h.1, stepSched_q all top s i h.1 h.2⟩) sched top s sizes ⟨hts, h⟩).2

/-- `execute` wraps what `_next` returned without touching the trace or the queue -/
theorem close_q (n : Node) (s : ExecSt) :
    ∃ top, mapValue applyCont (unwrapValue n) .onFinish s = (.ok top, s) ∧ tArgs top = sArgs n := by
  have fut : ∃ top, mapValue applyCont (unwrapCb n) .onFinish s = (.ok top, s) ∧ tArgs top = sArgs n := by
    obtain ⟨a1, a2⟩ := onFinish_q (unwrapCb n) s
    exact ⟨_, (mapValue_future applyCont .onFinish (unwrapCb_isFuture n) s).trans (congrArg _ a2),
      a1.trans (uArgs_unwrapCb n)⟩
  cases n with
  | val x => exact ⟨.val x, rfl, rfl⟩
  | _ => exact fut

theorem execute_q (fields : Flds) :
    match execute ⟨.mutation, fields⟩ {} with
    | (.exc _, s) => topKeys s.trace <+: fields.keys
    | (.ok top, s) => OrdInv fields.keys top s := by
  have hq := serialNext_q fields.keys fields [] {} (List.nil_append _)
  unfold execute
  simp only [executeFieldsSerially]
  generalize serialNext [] [] fields {} = x at hq ⊢
  obtain ⟨n | e, s1⟩ := x
  · obtain ⟨top, ht, ha⟩ := close_q n s1
    simp only [ht, OrdInv, ha]
    exact hq
  · exact hq

end PyGql.AsyncExec
