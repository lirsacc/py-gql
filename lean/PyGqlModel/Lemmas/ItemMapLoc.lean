/-
  Items under a map `g` of the positions: `Item.mapLoc g` applies `g` to the span of every node.  The matcher commutes
  with it whenever the tokens are moved by a `τ` that keeps classes and moves spans by `g`; the shape predicates do not
  see spans at all.  `Item.down d` / `Item.up d` are the instances `locDown d` / `locUp d`.
-/
import PyGqlModel.Lemmas.ItemSlice
namespace PyGql.Spec
open PyGql PyGql.Ast PyGql.Parse

namespace Item
mutual
def mapLoc (g : Loc → Loc) : Item → Item
  | .node loc is => .node (g loc) (mapLocAll g is)
  | .tok k v => .tok k v
  | .optTok k v => .optTok k v
  | .nla k => .nla k
def mapLocAll (g : Loc → Loc) : List Item → List Item
  | [] => []
  | i :: is => i.mapLoc g :: mapLocAll g is
end
end Item

theorem mapLocAll_eq_map (g : Loc → Loc) (is : List Item) : Item.mapLocAll g is = is.map (Item.mapLoc g) := by
  induction is with
  | nil => rfl
  | cons i is ih => rw [Item.mapLocAll, ih, List.map_cons]

mutual
theorem mapLoc_id : ∀ i : Item, i.mapLoc id = i
  | .tok _ _ => rfl
  | .optTok _ _ => rfl
  | .nla _ => rfl
  | .node _ is => by rw [Item.mapLoc, mapLocAll_id is]; rfl
theorem mapLocAll_id : ∀ is : List Item, Item.mapLocAll id is = is
  | [] => rfl
  | i :: is => by rw [Item.mapLocAll, mapLoc_id i, mapLocAll_id is]
end

mutual
theorem down_eq_mapLoc (d : Nat) : ∀ i : Item, i.down d = i.mapLoc (locDown d)
  | .tok _ _ => rfl
  | .optTok _ _ => rfl
  | .nla _ => rfl
  | .node _ is => by rw [Item.down, Item.mapLoc, downAll_eq_mapLoc d is]
theorem downAll_eq_mapLoc (d : Nat) : ∀ is : List Item, Item.downAll d is = Item.mapLocAll (locDown d) is
  | [] => rfl
  | i :: is => by rw [Item.downAll, Item.mapLocAll, down_eq_mapLoc d i, downAll_eq_mapLoc d is]
end

mutual
theorem up_eq_mapLoc (d : Nat) : ∀ i : Item, i.up d = i.mapLoc (locUp d)
  | .tok _ _ => rfl
  | .optTok _ _ => rfl
  | .nla _ => rfl
  | .node _ is => by rw [Item.up, Item.mapLoc, upAll_eq_mapLoc d is]
theorem upAll_eq_mapLoc (d : Nat) : ∀ is : List Item, Item.upAll d is = Item.mapLocAll (locUp d) is
  | [] => rfl
  | i :: is => by rw [Item.upAll, Item.mapLocAll, up_eq_mapLoc d i, upAll_eq_mapLoc d is]
end

structure Moves (fl : Flags) (g : Loc → Loc) (τ : Tok → Tok) : Prop where
  cls : ∀ t, cls (τ t) = cls t
  kind : ∀ t, (τ t).kind = t.kind
  loc : ∀ f l, locOf fl (τ f) (τ l) = g (locOf fl f l)

theorem moves_id (fl : Flags) : Moves fl id id := ⟨fun _ => rfl, fun _ => rfl, fun _ _ => rfl⟩

theorem moves_down (fl : Flags) (d : Nat) : Moves fl (locDown d) (Tok.down d) :=
  ⟨fun _ => rfl, fun _ => rfl, fun f l => by unfold locOf; split <;> rfl⟩

theorem moves_up (fl : Flags) (d : Nat) : Moves fl (locUp d) (Tok.up d) :=
  ⟨fun _ => rfl, fun _ => rfl, fun f l => by unfold locOf; split <;> rfl⟩

variable {fl : Flags} {g : Loc → Loc} {τ : Tok → Tok}

theorem Moves.head_cls (m : Moves fl g τ) {rest : List Tok} {c : TokClass} (hn : ∀ t tl, rest = t :: tl → Spec.cls t ≠ c) :
    ∀ t tl, rest.map τ = t :: tl → Spec.cls t ≠ c := by
  intro t tl e
  cases rest with
  | nil => cases e
  | cons t0 tl0 =>
    cases e
    rw [m.cls]
    exact hn t0 tl0 rfl

theorem Moves.head_kind (m : Moves fl g τ) {rest : List Tok} {k : TokKind} (hn : ∀ t tl, rest = t :: tl → t.kind ≠ k) :
    ∀ t tl, rest.map τ = t :: tl → t.kind ≠ k := by
  intro t tl e
  cases rest with
  | nil => cases e
  | cons t0 tl0 =>
    cases e
    rw [m.kind]
    exact hn t0 tl0 rfl

mutual
theorem check_mapLoc (m : Moves fl g τ) : ∀ (i : Item) (l l' : Tok) (ts rest : List Tok),
    i.check fl l ts = some (l', rest) → (i.mapLoc g).check fl (τ l) (ts.map τ) = some (τ l', rest.map τ)
  | .tok k v, l, l', ts, rest, h => by
    obtain ⟨t, rfl, hc, rfl⟩ := (check_tok ..).1 h
    exact (check_tok ..).2 ⟨_, rfl, (m.cls _).trans hc, rfl⟩
  | .optTok k v, l, l', ts, rest, h => by
    refine (check_optTok ..).2 ?_
    rcases (check_optTok ..).1 h with ⟨t, rfl, hc, rfl⟩ | ⟨rfl, rfl, hn⟩
    · exact .inl ⟨_, rfl, (m.cls _).trans hc, rfl⟩
    · exact .inr ⟨rfl, rfl, m.head_cls hn⟩
  | .nla k, l, l', ts, rest, h => by
    obtain ⟨rfl, rfl, hn⟩ := (check_nla ..).1 h
    exact (check_nla ..).2 ⟨rfl, rfl, m.head_kind hn⟩
  | .node loc is, l, l', ts, rest, h => by
    obtain ⟨f, tl, rfl, hall, rfl⟩ := (check_node ..).1 h
    exact (check_node ..).2 ⟨τ f, tl.map τ, rfl, checkAll_mapLoc m is l l' (f :: tl) rest hall, (m.loc f l').symm⟩
theorem checkAll_mapLoc (m : Moves fl g τ) : ∀ (is : List Item) (l l' : Tok) (ts rest : List Tok),
    Item.checkAll fl is l ts = some (l', rest) →
    Item.checkAll fl (Item.mapLocAll g is) (τ l) (ts.map τ) = some (τ l', rest.map τ)
  | [], l, l', ts, rest, h => by
    cases (checkAll_nil ..).1 h
    exact (checkAll_nil ..).2 rfl
  | i :: is, l, l', ts, rest, h => by
    obtain ⟨l1, ts1, h1, h2⟩ := (checkAll_cons ..).1 h
    exact (checkAll_cons ..).2 ⟨_, _, check_mapLoc m i l l1 ts ts1 h1, checkAll_mapLoc m is l1 l' ts1 rest h2⟩
end

mutual
theorem lead_mapLoc (g : Loc → Loc) : ∀ i : Item, (i.mapLoc g).lead = i.lead
  | .tok _ _ => rfl
  | .optTok _ _ => rfl
  | .nla _ => rfl
  | .node _ is => by rw [Item.mapLoc, Item.lead, Item.lead, leadAll_mapLoc g is]
theorem leadAll_mapLoc (g : Loc → Loc) : ∀ is : List Item, Item.leadAll (Item.mapLocAll g is) = Item.leadAll is
  | [] => rfl
  | i :: is => by rw [Item.mapLocAll, Item.leadAll, Item.leadAll, lead_mapLoc g i, leadAll_mapLoc g is]
end

mutual
theorem solid_mapLoc (g : Loc → Loc) : ∀ i : Item, (i.mapLoc g).solid = i.solid
  | .tok _ _ => rfl
  | .optTok _ _ => rfl
  | .nla _ => rfl
  | .node _ is => by rw [Item.mapLoc, Item.solid, Item.solid, leadAll_mapLoc, solidAll_mapLoc g is]
theorem solidAll_mapLoc (g : Loc → Loc) : ∀ is : List Item, Item.solidAll (Item.mapLocAll g is) = Item.solidAll is
  | [] => rfl
  | i :: is => by rw [Item.mapLocAll, Item.solidAll, Item.solidAll, solid_mapLoc g i, solidAll_mapLoc g is]
end

mutual
theorem plain_mapLoc (g : Loc → Loc) : ∀ i : Item, (i.mapLoc g).plain = i.plain
  | .tok _ _ => rfl
  | .optTok _ _ => rfl
  | .nla _ => rfl
  | .node _ is => by rw [Item.mapLoc, Item.plain, Item.plain, plainAll_mapLoc g is]
theorem plainAll_mapLoc (g : Loc → Loc) : ∀ is : List Item, Item.plainAll (Item.mapLocAll g is) = Item.plainAll is
  | [] => rfl
  | i :: is => by rw [Item.mapLocAll, Item.plainAll, Item.plainAll, plain_mapLoc g i, plainAll_mapLoc g is]
end

theorem checkAll_down (fl : Flags) (d : Nat) : ∀ (is : List Item) (l l' : Tok) (ts rest : List Tok),
    Item.checkAll fl is l ts = some (l', rest) →
    Item.checkAll fl (Item.downAll d is) (l.down d) (ts.map (Tok.down d)) = some (l'.down d, rest.map (Tok.down d)) :=
  fun is l l' ts rest h => downAll_eq_mapLoc d is ▸ checkAll_mapLoc (moves_down fl d) is l l' ts rest h

theorem checkAll_up (fl : Flags) (d : Nat) : ∀ (is : List Item) (l l' : Tok) (ts rest : List Tok),
    Item.checkAll fl is l ts = some (l', rest) →
    Item.checkAll fl (Item.upAll d is) (l.up d) (ts.map (Tok.up d)) = some (l'.up d, rest.map (Tok.up d)) :=
  fun is l l' ts rest h => upAll_eq_mapLoc d is ▸ checkAll_mapLoc (moves_up fl d) is l l' ts rest h

theorem lead_up (d : Nat) : ∀ i : Item, (i.up d).lead = i.lead :=
  fun i => up_eq_mapLoc d i ▸ lead_mapLoc _ i

theorem solidAll_up (d : Nat) : ∀ is : List Item, Item.solidAll (Item.upAll d is) = Item.solidAll is :=
  fun is => upAll_eq_mapLoc d is ▸ solidAll_mapLoc _ is

theorem plainAll_up (d : Nat) : ∀ is : List Item, Item.plainAll (Item.upAll d is) = Item.plainAll is :=
  fun is => upAll_eq_mapLoc d is ▸ plainAll_mapLoc _ is

end PyGql.Spec
