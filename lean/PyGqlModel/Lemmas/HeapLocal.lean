/-
  C14 — LOCALITY of closedness / well-formedness: `closedB h s` and `wfB h s` only read the objects the schema registers, their
  member objects and the argument objects of their fields (`Foot Q h s`: all of them lie in `Q`). So a heap `h'` that agrees with
  `h` on `Q` gives the same verdicts, whatever was written or allocated elsewhere — the objects of OTHER schemas included.
-/
import PyGqlModel.Lemmas.HeapClosed

namespace PyGql.Heap.Local
open PyGql.Heap PyGql.Heap.Own

def Foot (Q : Addr → Prop) (h : Heap) (s : Schema) : Prop :=
  (∀ e, e ∈ s.types → Q e.2 ∧ ∀ t, h.readType e.2 = some t → ∀ c, c ∈ typeKids t →
      Q c ∧ ∀ f, h.readField c = some f → ∀ g, g ∈ f.args → Q g) ∧
  (∀ e, e ∈ s.dirs → Q e.2 ∧ ∀ d, h.readDir e.2 = some d → ∀ c, c ∈ d.args → Q c)

def Agree (Q : Addr → Prop) (h h' : Heap) : Prop := ∀ x, Q x → h'.read x = h.read x

theorem readType_agree {Q : Addr → Prop} {h h' : Heap} (ag : Agree Q h h') {a : Addr} (qa : Q a) : h'.readType a = h.readType a := by
  simp only [Heap.readType, ag a qa]
theorem readField_agree {Q : Addr → Prop} {h h' : Heap} (ag : Agree Q h h') {a : Addr} (qa : Q a) : h'.readField a = h.readField a := by
  simp only [Heap.readField, ag a qa]
theorem readArg_agree {Q : Addr → Prop} {h h' : Heap} (ag : Agree Q h h') {a : Addr} (qa : Q a) : h'.readArg a = h.readArg a := by
  simp only [Heap.readArg, ag a qa]
theorem readDir_agree {Q : Addr → Prop} {h h' : Heap} (ag : Agree Q h h') {a : Addr} (qa : Q a) : h'.readDir a = h.readDir a := by
  simp only [Heap.readDir, ag a qa]

theorem Foot.keep {Q : Addr → Prop} {h h' : Heap} (ag : Agree Q h h') {s : Schema} (f : Foot Q h s) : Foot Q h' s := by
  refine ⟨fun e he => ?_, fun e he => ?_⟩
  · obtain ⟨q, k⟩ := f.1 e he
    refine ⟨q, fun t ht c hc => ?_⟩
    rw [readType_agree ag q] at ht
    obtain ⟨qc, kc⟩ := k t ht c hc
    refine ⟨qc, fun fl hfl g hg => ?_⟩
    rw [readField_agree ag qc] at hfl
    exact kc fl hfl g hg
  · obtain ⟨q, k⟩ := f.2 e he
    refine ⟨q, fun d hd c hc => ?_⟩
    rw [readDir_agree ag q] at hd
    exact k d hd c hc

theorem Foot.mono {Q Q' : Addr → Prop} (hq : ∀ x, Q x → Q' x) {h : Heap} {s : Schema} (f : Foot Q h s) : Foot Q' h s := by
  refine ⟨fun e he => ?_, fun e he => ?_⟩
  · obtain ⟨q, k⟩ := f.1 e he
    exact ⟨hq _ q, fun t ht c hc => ⟨hq _ (k t ht c hc).1, fun fl hfl g hg => hq _ ((k t ht c hc).2 fl hfl g hg)⟩⟩
  · obtain ⟨q, k⟩ := f.2 e he
    exact ⟨hq _ q, fun d hd c hc => hq _ (k d hd c hc)⟩

theorem argShape_agree {Q : Addr → Prop} {h h' : Heap} (ag : Agree Q h h') (chk : Ref → Bool) {a : Addr} (qa : Q a) :
    argShape chk h' a = argShape chk h a := by
  simp only [argShape, readArg_agree ag qa]

theorem all_eq_of {α : Type} {l : List α} {p q : α → Bool} (hpq : ∀ x, x ∈ l → p x = q x) : l.all p = l.all q := by
  induction l with
  | nil => rfl
  | cons x l ih =>
    simp only [List.all_cons]
    rw [hpq x (by simp), ih (fun y hy => hpq y (by simp [hy]))]

theorem fieldShape_agree {Q : Addr → Prop} {h h' : Heap} (ag : Agree Q h h') (chk : Ref → Bool) {a : Addr} (qa : Q a)
    (qk : ∀ f, h.readField a = some f → ∀ g, g ∈ f.args → Q g) : fieldShape chk h' a = fieldShape chk h a := by
  simp only [fieldShape, readField_agree ag qa]
  cases hf : h.readField a with
  | none => rfl
  | some f =>
    simp only
    rw [all_eq_of (fun g hg => argShape_agree ag chk (qk f hf g hg))]

theorem typeShape_agree {Q : Addr → Prop} {h h' : Heap} (ag : Agree Q h h') (chk : Ref → Bool) {a : Addr} (qa : Q a)
    (qk : ∀ t, h.readType a = some t → ∀ c, c ∈ typeKids t → Q c ∧ ∀ f, h.readField c = some f → ∀ g, g ∈ f.args → Q g) :
    typeShape chk h' a = typeShape chk h a := by
  simp only [typeShape, readType_agree ag qa]
  cases ht : h.readType a with
  | none => rfl
  | some t =>
    simp only
    have hm : typeMembersOK chk h' t = typeMembersOK chk h t := by
      have k := qk t ht
      simp only [typeMembersOK]
      cases hk : t.kind <;> simp only [typeKids, hk] at k ⊢
      · exact all_eq_of (fun c hc => fieldShape_agree ag chk (k c hc).1 (k c hc).2)
      · exact all_eq_of (fun c hc => fieldShape_agree ag chk (k c hc).1 (k c hc).2)
      · exact all_eq_of (fun c hc => argShape_agree ag chk (k c hc).1)
    rw [hm]

theorem dirShape_agree {Q : Addr → Prop} {h h' : Heap} (ag : Agree Q h h') (chk : Ref → Bool) {a : Addr} (qa : Q a)
    (qk : ∀ d, h.readDir a = some d → ∀ c, c ∈ d.args → Q c) : dirShape chk h' a = dirShape chk h a := by
  simp only [dirShape, readDir_agree ag qa]
  cases hd : h.readDir a with
  | none => rfl
  | some d =>
    simp only
    exact all_eq_of (fun c hc => argShape_agree ag chk (qk d hd c hc))

theorem shapeB_agree {Q : Addr → Prop} {h h' : Heap} (ag : Agree Q h h') (chk : Ref → Bool) {s : Schema} (f : Foot Q h s) :
    shapeB chk h' s = shapeB chk h s := by
  simp only [shapeB]
  rw [all_eq_of (l := s.types) (fun e he => typeShape_agree ag chk (f.1 e he).1 (f.1 e he).2),
      all_eq_of (l := s.dirs) (fun e he => dirShape_agree ag chk (f.2 e he).1 (f.2 e he).2)]

theorem nameOK_agree {Q : Addr → Prop} {h h' : Heap} (ag : Agree Q h h') {e : String × Addr} (qa : Q e.2) : nameOK h' e = nameOK h e := by
  simp only [nameOK, readType_agree ag qa]

theorem protLeaf_agree {Q : Addr → Prop} {h h' : Heap} (ag : Agree Q h h') {e : String × Addr} (qa : Q e.2) : protLeaf h' e = protLeaf h e := by
  simp only [protLeaf, readType_agree ag qa]

theorem closedB_agree {Q : Addr → Prop} {h h' : Heap} (ag : Agree Q h h') {s : Schema} (f : Foot Q h s) : closedB h' s = closedB h s := by
  simp only [closedB]
  rw [shapeB_agree ag _ f, all_eq_of (l := s.types) (fun e he => nameOK_agree ag (f.1 e he).1)]

theorem wfB_agree {Q : Addr → Prop} {h h' : Heap} (ag : Agree Q h h') {s : Schema} (f : Foot Q h s) : wfB h' s = wfB h s := by
  simp only [wfB]
  rw [shapeB_agree ag _ f, all_eq_of (l := s.types) (fun e he => nameOK_agree ag (f.1 e he).1),
      all_eq_of (l := s.types) (fun e he => protLeaf_agree ag (f.1 e he).1)]

theorem foot_of_wfB {h : Heap} {s : Schema} (hw : wfB h s = true) : Foot (fun x => x < h.size) h s := by
  simp only [wfB, shapeB, Bool.and_eq_true, List.all_eq_true] at hw
  obtain ⟨⟨⟨⟨⟨⟨⟨ht, hd⟩, _⟩, _⟩, _⟩, _⟩, _⟩, _⟩ := hw
  have argLt : ∀ a, argShape (fun _ => true) h a = true → a < h.size := by
    intro a ha
    obtain ⟨g, hg, _⟩ := (argShape_iff _ h a).mp ha
    exact read_lt h a _ (readArg_read hg)
  have fieldLt : ∀ c, fieldShape (fun _ => true) h c = true →
      c < h.size ∧ ∀ f, h.readField c = some f → ∀ g, g ∈ f.args → g < h.size := by
    intro c hc
    obtain ⟨f, hf, _, hargs⟩ := (fieldShape_iff _ h c).mp hc
    refine ⟨read_lt h c _ (readField_read hf), fun f' hf' g hg => ?_⟩
    rw [hf] at hf'; cases hf'
    exact argLt g (hargs g hg)
  refine ⟨fun e he => ?_, fun e he => ?_⟩
  · obtain ⟨t, hrt, _, hm⟩ := (typeShape_iff _ h e.2).mp (ht e he)
    rw [typeMembersOK_iff] at hm
    refine ⟨read_lt h e.2 _ (readType_read hrt), fun t' ht' c hc => ?_⟩
    rw [hrt] at ht'; cases ht'
    cases hk : t.kind with
    | object => exact fieldLt c (hm.2 (Or.inl hk) c (by simpa [typeKids, hk] using hc))
    | interface => exact fieldLt c (hm.2 (Or.inr hk) c (by simpa [typeKids, hk] using hc))
    | input =>
      -- the member is an input field: no field object lives there
      have ha := hm.1 hk c (by simpa [typeKids, hk] using hc)
      obtain ⟨g0, hg0, _⟩ := (argShape_iff _ h c).mp ha
      refine ⟨argLt c ha, fun f' hf' => ?_⟩
      have h2 := readField_read hf'
      rw [readArg_read hg0] at h2; cases h2
    | _ => simp [typeKids, hk] at hc
  · obtain ⟨d, hrd, hargs⟩ := (dirShape_iff _ h e.2).mp (hd e he)
    refine ⟨read_lt h e.2 _ (readDir_read hrd), fun d' hd' c hc => ?_⟩
    rw [hrd] at hd'; cases hd'
    exact argLt c (hargs c hc)

end PyGql.Heap.Local
