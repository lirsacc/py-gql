/-
  The clause of 5.3.2 (`Spec.overlappingFieldsCanBeMerged`) and the side conditions of the overlap theorems only read a
  document through (a) its selection-set nodes, (b) its typed enumeration, (c) its fragment table. Two documents that
  agree on the three (`SameDoc`) satisfy the same clause; a permutation of the definitions of a document with unique
  fragment names is such a pair (`sameDoc_of_perm`).
-/
import PyGqlModel.Lemmas.ValidateOverlapWf
namespace PyGql.Validate
open PyGql PyGql.Validate.Spec

structure SameDoc (s : SchemaD) (d d' : Doc) : Prop where
  sets : ∀ i sels, SelSet d i sels ↔ SelSet d' i sels
  typed : ∀ q, q ∈ typedNodes s d ↔ q ∈ typedNodes s d'
  frags : ∀ k, AL.get? (fragTable d) k = AL.get? (fragTable d') k

theorem SameDoc.symm {s : SchemaD} {d d' : Doc} (h : SameDoc s d d') : SameDoc s d' d :=
  ⟨fun i sels => (h.sets i sels).symm, fun q => (h.typed q).symm, fun k => (h.frags k).symm⟩

variable {s : SchemaD} {d d' : Doc}

theorem SameDoc.adm (h : SameDoc s d d') {i : Nat} {p : Option String} (ha : Adm s d i p) : Adm s d' i p := by
  induction ha with
  | walk hm => exact .walk ((h.typed _).mp hm)
  | frag ht => exact .frag (by rw [← h.frags]; exact ht)
  | sub _ hs hc hsub ih => exact .sub ih ((h.sets _ _).mp hs) hc hsub

theorem SameDoc.collF (h : SameDoc s d d') {g rn : String} {e : FEntry} (hc : CollF s d g rn e) : CollF s d' g rn e := by
  induction hc with
  | here t a c => exact .here (by rw [← h.frags]; exact t) (h.adm a) c
  | there t sp _ ih => exact .there (by rw [← h.frags]; exact t) sp ih

theorem SameDoc.coll (h : SameDoc s d d') {p : Option String} {sels : List Sel} {rn : String} {e : FEntry}
    (hc : Coll s d p sels rn e) : Coll s d' p sels rn e := by
  rcases hc with hc | ⟨g, sp, hf⟩
  · exact Or.inl hc
  · exact Or.inr ⟨g, sp, h.collF hf⟩

theorem SameDoc.conf (h : SameDoc s d d') {pme : Bool} {f1 f2 : FEntry} (hc : Conf s d pme f1 f2) : Conf s d' pme f1 f2 := by
  induction hc with
  | args h1 h2 => exact .args h1 h2
  | types h1 h2 h3 => exact .types h1 h2 h3
  | sub s1 s2 a1 a2 c1 c2 _ ih => exact .sub s1 s2 (h.adm a1) (h.adm a2) (h.coll c1) (h.coll c2) ih
  | subSwap s1 s2 a1 a2 c1 c2 _ ih => exact .subSwap s1 s2 (h.adm a1) (h.adm a2) (h.coll c1) (h.coll c2) ih

theorem SameDoc.clause (h : SameDoc s d d') (H : overlappingFieldsCanBeMerged s d) : overlappingFieldsCanBeMerged s d' := by
  intro i sels hs p ha rn e1 e2 c1 c2 hconf
  exact H i sels ((h.sets _ _).mpr hs) p (h.symm.adm ha) rn e1 e2 (h.symm.coll c1) (h.symm.coll c2) (h.symm.conf hconf)

theorem SameDoc.parentsAgree (h : SameDoc s d d') (hpa : ParentsAgree s d) : ParentsAgree s d' :=
  fun i p q a b => hpa i p q (h.symm.adm a) (h.symm.adm b)

theorem get?_foldl_set_not_mem {β} (k : String) : ∀ (l : List (String × β)) (m : AL β), k ∉ l.map (·.1) →
    AL.get? (l.foldl (fun acc f => AL.set acc f.1 f.2) m) k = AL.get? m k
  | [], _, _ => rfl
  | f :: l, m, h => by
    simp only [List.map_cons, List.mem_cons, not_or] at h
    simp only [List.foldl_cons]
    rw [get?_foldl_set_not_mem k l _ h.2, AL.get?_set, if_neg h.1]

theorem get?_foldl_set_mem {β} (k : String) (v : β) : ∀ (l : List (String × β)) (m : AL β), (l.map (·.1)).Nodup →
    (k, v) ∈ l → AL.get? (l.foldl (fun acc f => AL.set acc f.1 f.2) m) k = some v
  | [], _, _, h => by cases h
  | f :: l, m, hnd, h => by
    simp only [List.map_cons, List.nodup_cons] at hnd
    simp only [List.foldl_cons]
    rcases List.mem_cons.mp h with e | h'
    · subst e
      rw [get?_foldl_set_not_mem k l _ hnd.1, AL.get?_set, if_pos rfl]
    · exact get?_foldl_set_mem k v l _ hnd.2 h'

theorem get?_foldl_set_perm {β} {l l' : List (String × β)} (h : l.Perm l') (hnd : (l.map (·.1)).Nodup) (k : String) :
    AL.get? (l.foldl (fun acc f => AL.set acc f.1 f.2) []) k = AL.get? (l'.foldl (fun acc f => AL.set acc f.1 f.2) []) k := by
  have hnd' : (l'.map (·.1)).Nodup := (h.map _).nodup_iff.mp hnd
  by_cases hk : k ∈ l.map (·.1)
  · obtain ⟨p, hp, rfl⟩ := List.mem_map.mp hk
    rw [get?_foldl_set_mem p.1 p.2 l [] hnd hp, get?_foldl_set_mem p.1 p.2 l' [] hnd' (h.mem_iff.mp hp)]
  · have hk' : k ∉ l'.map (·.1) := fun h' => hk ((h.map _).mem_iff.mpr h')
    rw [get?_foldl_set_not_mem k l [] hk, get?_foldl_set_not_mem k l' [] hk']

/-- the table built from renamed keys and mapped values, looked up at a renamed key -/
theorem get?_foldl_set_image {β γ : Type} (φ : String → String) (hinj : ∀ a b, φ a = φ b → a = b) (H : β → γ) (k : String) :
    ∀ (l : List (String × β)) (m : AL β) (m' : AL γ), AL.get? m' (φ k) = (AL.get? m k).map H →
      AL.get? (l.foldl (fun acc f => AL.set acc (φ f.1) (H f.2)) m') (φ k) =
        (AL.get? (l.foldl (fun acc f => AL.set acc f.1 f.2) m) k).map H
  | [], _, _, h => h
  | f :: l, m, m', h => by
    simp only [List.foldl_cons]
    refine get?_foldl_set_image φ hinj H k l _ _ ?_
    rw [AL.get?_set, AL.get?_set, h]
    by_cases e : k = f.1
    · subst e; simp
    · have : ¬ φ k = φ f.1 := fun e' => e (hinj _ _ e')
      simp [e, this]

theorem fragDefs_names' (d : Doc) : (fragDefs d).map (·.1) = fragNames d := by
  unfold fragDefs fragNames
  rw [List.map_filterMap]
  congr 1
  funext x
  cases x <;> rfl

theorem sameDoc_of_perm (s : SchemaD) {d d' : Doc} (h : d.defs.Perm d'.defs) (hnd : (fragNames d).Nodup) : SameDoc s d d' := by
  refine ⟨fun i sels => ?_, fun q => (h.flatMap_right _).mem_iff, fun k => ?_⟩
  · simp only [SelSet, nodes, List.mem_cons, reduceCtorEq, false_or]
    exact (h.flatMap_right _).mem_iff
  · have hp : (fragDefs d).Perm (fragDefs d') := h.filterMap _
    have hn : ((fragDefs d).map (·.1)).Nodup := by rw [fragDefs_names']; exact hnd
    unfold fragTable
    exact get?_foldl_set_perm hp hn k

theorem wfIds_perm {d d' : Doc} (h : d.defs.Perm d'.defs) (hw : WfIds d) : WfIds d' := by
  unfold WfIds selSetIds idsOf nodes at hw ⊢
  simp only [List.filterMap_cons, ssidOf?] at hw ⊢
  exact ((h.flatMap_right _).filterMap _).nodup_iff.mp hw

end PyGql.Validate
