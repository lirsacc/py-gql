/-
  C14 — one derivation step: `transform_schema(s, *visitors)`, `s.clone()`, `extend_schema(s, doc)` applied to a closed well-formed
  schema `s` of heap `h`. Whatever the operation, the histories (Props/C14_history.lean, C14_inplace.lean, C14_chain.lean) use the same
  five facts about its result `(h1, s1)`; `Derived h s h1 s1` is their conjunction, with one producer per operation.
-/
import PyGqlModel.Lemmas.HeapProt
import PyGqlModel.Lemmas.HeapExtOwn
import PyGqlModel.Props.C14_extend_order

namespace PyGql.Props.C14
open PyGql.Heap PyGql.Heap.Own PyGql.Heap.Prot

/-- `s1` in `h1` is derived from `s` in `h`: the step wrote nothing of `h` and what it allocated is closed under member lists
    (`Pres`), the result registers — apart from the specified scalars, which it shares with `s` (`ProtSub`) — only objects the step
    allocated (`RegFresh`), and it is closed and well-formed -/
structure Derived (h : Heap) (s : Schema) (h1 : Heap) (s1 : Schema) : Prop where
  pres : Pres h.size h h1
  fresh : RegFresh h.size s1
  closed : closedB h1 s1 = true
  wf : wfB h1 s1 = true
  prot : ProtSub s.types s1.types

theorem Derived.frame {h h1 : Heap} {s s1 : Schema} (d : Derived h s h1 s1) : Frame h h1 := frame_of_pres d.pres

variable {cfg : Cfg} {h : Heap} {s : Schema} (hc : closedB h s = true) (hw : wfB h s = true)
include hc hw

theorem transform_derived (hd : cfg.deepClone = true) (hk : cfg.keepAllTypes = true) (hacc : cfg.accumulateBusted = true) {fuel : Nat}
    {vs : List Visitor} {r : Heap × Schema} (e : transform cfg (2 + fuel) vs s h = some r) : Derived h s r.1 r.2 :=
  let o := transform_ok cfg hd (2 + fuel) vs s h r.1 r.2 (closed_covered cfg s h hc) e
  let c := transform_closed cfg hd hk hacc fuel vs s h r.1 r.2 hc hw e
  ⟨o.1, o.2, c.1, c.2, transform_prot cfg (2 + fuel) vs s h r.1 r.2 e⟩

theorem extend_derived (hx : cfg.extKeepAll = true) (hin : cfg.extInputFieldExtended = true) {ext : Ext} (hok : ExtOK s ext)
    (hnp : ∀ e, e ∈ ext.newTypes → isProtected e.1 = false) : Derived h s (extend cfg ext s h).1 (extend cfg ext s h).2 :=
  let o := extend_ok cfg hx ext s h
  let c := extend_closed_wf cfg hx hin ext s h hc hw hok hnp
  ⟨o.1, o.2, c.1, c.2, extend_prot cfg hx ext s h hnp⟩

/-- `extend_schema` with the `implements` clauses and the dict order of the code: the same registry entries as `extend`'s -/
theorem extendO_derived (hx : cfg.extKeepAll = true) (hin : cfg.extInputFieldExtended = true) {ext : Ext} (hok : ExtOK s ext)
    (hnp : ∀ e, e ∈ ext.newTypes → isProtected e.1 = false) : Derived h s (extendO cfg ext s h).1 (extendO cfg ext s h).2 :=
  have hn : (regNames (extend cfg ext s h).2.types).Nodup := (wfs_of_wfB (extend_closed_wf cfg hx hin ext s h hc hw hok hnp).2).nodup
  have hmem : ∀ e, e ∈ (extendO cfg ext s h).2.types → e ∈ (extend cfg ext s h).2.types := fun e he => (extendOrder_mem s _ _ _ hn e).mp he
  let o := extendO_ok cfg hx ext s h hnp hmem
  let c := extendO_closed_wf cfg hx hin ext s h hc hw hok hnp
  ⟨o.1, o.2, c.1, c.2, fun e he hp => extend_prot cfg hx ext s h hnp e (hmem e he) hp⟩

end PyGql.Props.C14
