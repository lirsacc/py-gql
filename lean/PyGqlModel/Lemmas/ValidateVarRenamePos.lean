/-
  Renaming of variables and the clause of 5.8.5 (`Spec.variablesInAllowedPosition`): the typed enumeration of the
  renamed document is the renamed typed enumeration (same static contexts), the usages are the renamed usages at the
  same positions, the definition a usage is checked against is the renamed definition (same type, same kind of default).
-/
import PyGqlModel.Lemmas.ValidateVarRenameSpec
namespace PyGql.Validate
open PyGql PyGql.Validate.Spec

section
variable (V : Vr) (s : SchemaD)

def Vr.nv (p : Node × View) : Node × View := (V.node p.1, p.2)

theorem view_enter_vr (n : Node) (v : View) : View.enter s (V.node n) v = View.enter s n v := by
  cases n with
  | inline on dirs => cases on <;> rfl
  | _ => rfl

theorem withView_vr (v : View) (l : List Node) : withView v (l.map V.node) = (withView v l).map V.nv := by
  simp [withView, List.map_map, Function.comp_def, Vr.nv]

theorem tnDirs_vr (v : View) (ds : List Dir) : tnDirs s v (ds.map V.dir) = (tnDirs s v ds).map V.nv := by
  induction ds with
  | nil => rfl
  | cons a as ih =>
    simp only [tnDirs, List.map_cons, List.flatMap_cons, List.map_append] at ih ⊢
    rw [ih]
    congr 1
    have h1 := view_enter_vr V s (.directive a) v
    simp only [Vr.node] at h1
    simp only [tnDir, h1, List.map_cons, Vr.dir, argsNodes_vr, withView_vr]
    rfl

mutual
theorem tnSel_vr : ∀ (v : View) (x : Sel), tnSel s v (V.sel x) = (tnSel s v x).map V.nv
  | v, .field al n args dirs true id sub => by
    have h1 := view_enter_vr V s (.field n args dirs true) v
    have h2 := fun w => view_enter_vr V s (.selectionSet id sub) w
    simp only [Vr.node] at h1 h2
    simp only [Vr.sel, tnSel, ↓reduceIte, h1, h2, List.map_cons, List.map_append, argsNodes_vr, withView_vr, tnDirs_vr,
      tnSels_vr _ sub]
    rfl
  | v, .field al n args dirs false id sub => by
    have h1 := view_enter_vr V s (.field n args dirs false) v
    simp only [Vr.node] at h1
    simp only [Vr.sel, tnSel, Bool.false_eq_true, ↓reduceIte, h1, List.map_cons, List.map_append, argsNodes_vr,
      withView_vr, tnDirs_vr, List.map_nil]
    rfl
  | v, .spread n dirs => by simp only [Vr.sel, tnSel, List.map_cons, tnDirs_vr]; rfl
  | v, .inline on dirs id sub => by
    have h1 := view_enter_vr V s (.inline on dirs) v
    have h2 := fun w => view_enter_vr V s (.selectionSet id sub) w
    simp only [Vr.node] at h1 h2
    simp only [Vr.sel, tnSel, h1, h2, List.map_cons, List.map_append, tnDirs_vr, tnSels_vr _ sub]
    rfl
theorem tnSels_vr : ∀ (v : View) (xs : List Sel), tnSels s v (V.selList xs) = (tnSels s v xs).map V.nv
  | v, [] => rfl
  | v, x :: xs => by simp only [Vr.selList, tnSels, List.map_append, tnSel_vr v x, tnSels_vr v xs]
end

theorem tnVarDef_vr (w : View) (v : VarDef) : tnVarDef s w (V.varDef v) = (tnVarDef s w v).map V.nv := by
  obtain ⟨nm, ty, df, ds, hc⟩ := v
  cases df with
  | none =>
    simp only [tnVarDef, Vr.varDef, Option.map_none, List.map_append, tnDirs_vr]
    rfl
  | some dv =>
    simp only [tnVarDef, Vr.varDef, Option.map_some, List.map_append, tnDirs_vr, valueNodes_vr]
    simp [withView, Vr.nv, List.map_map, Function.comp_def, Vr.node, Vr.varDef]

theorem tnVarDefs_vr (w : View) (vs : List VarDef) :
    (vs.map V.varDef).flatMap (tnVarDef s w) = (vs.flatMap (tnVarDef s w)).map V.nv := by
  induction vs with
  | nil => rfl
  | cons v vs ih => simp only [List.map_cons, List.flatMap_cons, List.map_append, tnVarDef_vr, ih]

theorem tnDef_vr (x : Def) : tnDef s (V.defn x) = (tnDef s x).map V.nv := by
  cases x with
  | op k nm vars dirs id sels =>
    have h1 := view_enter_vr V s (.operation k nm vars dirs sels) {}
    have h2 := fun w => view_enter_vr V s (.selectionSet id sels) w
    simp only [Vr.node] at h1 h2
    simp only [Vr.defn, tnDef, h1, h2, List.map_cons, List.map_append, tnVarDefs_vr, tnDirs_vr, tnSels_vr]
    rfl
  | frag n on dirs id sels =>
    have h1 := view_enter_vr V s (.fragmentDef n on dirs) {}
    have h2 := fun w => view_enter_vr V s (.selectionSet id sels) w
    simp only [Vr.node] at h1 h2
    simp only [Vr.defn, tnDef, h1, h2, List.map_cons, List.map_append, tnDirs_vr, tnSels_vr]
    rfl
  | ts a b => rfl

def Vr.use (p : String × Usage) : String × Usage := (V.var p.1, p.2)

mutual
theorem usesValue_vr : ∀ (p : Usage) (v : Value), usesValue s p (V.value v) = (usesValue s p v).map V.use
  | p, .list vs => by simp only [Vr.value, usesValue, usesValues_vr _ vs]
  | p, .obj fs => by simp only [Vr.value, usesValue, usesObjFields_vr _ fs]
  | _, .var _ | _, .int _ | _, .float _ | _, .str _ | _, .bool _ | _, .null | _, .enum _ => rfl
theorem usesValues_vr : ∀ (p : Usage) (vs : List Value), usesValues s p (V.values vs) = (usesValues s p vs).map V.use
  | p, [] => rfl
  | p, v :: vs => by simp only [Vr.values, usesValues, List.map_append, usesValue_vr p v, usesValues_vr p vs]
theorem usesObjFields_vr : ∀ (p : Usage) (fs : List ObjField),
    usesObjFields s p (V.objFields fs) = (usesObjFields s p fs).map V.use
  | p, [] => rfl
  | p, .mk n v :: fs => by
    simp only [Vr.objFields, Vr.objField, usesObjFields, List.map_append, usesValue_vr _ v, usesObjFields_vr p fs]
end

theorem nodeUsages_vr (q : Node × View) : nodeUsages s (V.nv q) = (nodeUsages s q).map V.use := by
  obtain ⟨n, v⟩ := q
  cases n <;> simp [Vr.nv, Vr.node, nodeUsages, Vr.arg, usesValue_vr]

theorem defUsages_vr (x : Def) : defUsages s (V.defn x) = (defUsages s x).map V.use := by
  simp only [defUsages, tnDef_vr, List.flatMap_map, List.map_flatMap]
  exact List.flatMap_congr_mem fun q _ => nodeUsages_vr V s q

theorem mem_defUsages_vr (x : Def) (x' : String) (u : Usage) :
    (x', u) ∈ defUsages s (V.defn x) ↔ ∃ y, x' = V.var y ∧ (y, u) ∈ defUsages s x := by
  rw [defUsages_vr, List.mem_map]
  constructor
  · rintro ⟨⟨y, u'⟩, h, e⟩
    simp only [Vr.use, Prod.mk.injEq] at e
    obtain ⟨rfl, rfl⟩ := e
    exact ⟨y, rfl, h⟩
  · rintro ⟨y, rfl, h⟩
    exact ⟨(y, u), h, rfl⟩

theorem hasNonNullDefault_vr (vd : VarDef) : (V.varDef vd).hasNonNullDefault = vd.hasNonNullDefault := by
  obtain ⟨nm, ty, df, ds, hc⟩ := vd
  cases df with
  | none => rfl
  | some dv => cases dv <;> rfl

theorem usageAllowed_vr (vd : VarDef) (u : Usage) : usageAllowed s (V.varDef vd) u ↔ usageAllowed s vd u := by
  unfold usageAllowed
  simp only [hasNonNullDefault_vr]
  rfl

end

theorem variables_in_allowed_position_spec_vr (V : Vr) (hinj : ∀ a b, V.var a = V.var b → a = b) (s : SchemaD) (d : Doc) :
    Spec.variablesInAllowedPosition s (V.doc d) ↔ Spec.variablesInAllowedPosition s d :=
  V.defMap.variablesInAllowedPosition d (fun _ _ e => e) hinj (mem_defUsages_vr V s) (usageAllowed_vr V s)

end PyGql.Validate
