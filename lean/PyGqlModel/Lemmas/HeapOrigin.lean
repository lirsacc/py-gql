/-
  C14 — what a transform keeps of the type objects: every object that persists keeps all its non-reference attributes, and
  every registry entry of a derived schema carries the type-level attributes of the source's entry of the same name.
-/
import PyGqlModel.Lemmas.HeapVisibility

namespace PyGql.Heap.Own
open PyGql.Heap

theorem visitAll_stepT (v : Visitor) (s : Schema) (h : Heap) : StepImp chkT h (visitAll v s h).1 := by
  simp only [visitAll]
  exact (visitTypes_step v s.types s.types h chkT (compat_true v s.types)).trans
    (visitDirs_step v s.types s.dirs _ chkT (compat_true v s.types))

theorem onSchema_stepT (cfg : Cfg) (fuel : Nat) (v : Visitor) (s : Schema) (h h' : Heap) (s' : Schema)
    (e : onSchema cfg fuel v s h = some (h', s')) : StepImp chkT h h' :=
  onSchema_rel (R := fun h _ h' _ => StepImp chkT h h') (fun _ _ _ _ _ _ a b => a.trans b) cfg
    (fun s h => visitAll_stepT .heal s h) (fun s h => visitAll_stepT v s h) e

end PyGql.Heap.Own

namespace PyGql.Heap.Own
open PyGql.Heap

/-- entry `e'` (in heap `h`) originates from entry `e` of the source registry (in heap `h0`): same name, same attributes -/
def OriginOf (h0 : Heap) (reg0 : List (String × Addr)) (h : Heap) (e' : String × Addr) : Prop :=
  ∃ e, e ∈ reg0 ∧ e.1 = e'.1 ∧ ∀ t, h0.readType e.2 = some t → ∃ t', h.readType e'.2 = some t' ∧ TAttr t t'

def RegOrigin (h0 : Heap) (reg0 : List (String × Addr)) (h : Heap) (reg : List (String × Addr)) : Prop :=
  ∀ e', e' ∈ reg → OriginOf h0 reg0 h e'

theorem OriginOf.keep {h0 : Heap} {reg0 : List (String × Addr)} {h h' : Heap} (st : StepImp chkT h h') {e' : String × Addr}
    (o : OriginOf h0 reg0 h e') : OriginOf h0 reg0 h' e' := by
  obtain ⟨e, he, hn, ha⟩ := o
  refine ⟨e, he, hn, fun t ht => ?_⟩
  obtain ⟨t', ht', hat⟩ := ha t ht
  obtain ⟨t'', ht'', hat'⟩ := readType_keep_attrs st e'.2 t' ht'
  exact ⟨t'', ht'', hat.trans hat'⟩

theorem regOrigin_refl (h : Heap) (reg : List (String × Addr)) : RegOrigin h reg h reg :=
  fun e' he' => ⟨e', he', rfl, fun t ht => ⟨t, ht, TAttr.refl t⟩⟩

/-- what `on_schema` puts into `updated_types`: objects carrying the attributes of the entry they replace -/
theorem visitTypes_attrs (v : Visitor) (reg : List (String × Addr)) (l : List (String × Addr)) (h : Heap) :
    ∀ x, x ∈ (visitTypes v reg h l).2 → ∀ a', x.2 = some a' → ∃ e, e ∈ l ∧ e.1 = x.1 ∧
      ∀ t, h.readType e.2 = some t → ∃ t', (visitTypes v reg h l).1.readType a' = some t' ∧ TAttr t t' := by
  intro x hx a' ea
  obtain ⟨e, h1, he, _, _, st1, st2, rfl, _⟩ := (visitTypes_out v reg (R := StepImp chkT) (Pre := fun _ _ => True) (StepImp.refl chkT)
    (fun _ _ _ => StepImp.trans) (fun _ _ _ _ _ => trivial) (fun h e _ => onType_step v reg h e.2 chkT (compat_true v reg)) l h
    (fun _ _ _ => trivial)).2.2 x hx
  refine ⟨e, he, rfl, fun t ht => ?_⟩
  obtain ⟨t1, ht1, hat1⟩ := readType_keep_attrs st1 e.2 t ht
  obtain ⟨t2, ht2, hat2⟩ := onType_attrs v reg h1 e.2 t1 ht1 a' ea
  obtain ⟨t', ht', hat'⟩ := readType_keep_attrs st2 a' t2 ht2
  exact ⟨t', ht', (hat1.trans hat2).trans hat'⟩

theorem round_origin (cfg : Cfg) (v : Visitor) (h0 : Heap) (reg0 : List (String × Addr)) (s : Schema) (h : Heap)
    (ho : RegOrigin h0 reg0 h s.types) :
    RegOrigin h0 reg0 (visitAll v s h).1 (replaceCore cfg s (visitAll v s h).2.1 (visitAll v s h).2.2).1.types := by
  have stT := visitTypes_step v s.types s.types h chkT (compat_true v s.types)
  have stD := visitDirs_step v s.types s.dirs (visitTypes v s.types h s.types).1 chkT (compat_true v s.types)
  simp only [replaceCore, visitAll]
  apply replaceTypes_pred cfg (OriginOf h0 reg0 (visitDirs v s.types (visitTypes v s.types h s.types).1 s.dirs).1)
  · intro x hx a' ea
    obtain ⟨e1, he1, h1, h2⟩ := visitTypes_attrs v s.types s.types h x hx a' ea
    obtain ⟨e, he, hn, ha⟩ := ho e1 he1
    refine ⟨e, he, hn.trans h1, fun t ht => ?_⟩
    obtain ⟨t1, ht1, hat1⟩ := ha t ht
    obtain ⟨t2, ht2, hat2⟩ := h2 t1 ht1
    obtain ⟨t3, ht3, hat3⟩ := readType_keep_attrs stD a' t2 ht2
    exact ⟨t3, ht3, (hat1.trans hat2).trans hat3⟩
  · intro e' he'
    exact Or.inl ((ho e' he').keep (stT.trans stD))

theorem onSchema_origin (cfg : Cfg) (fuel : Nat) (v : Visitor) (h0 : Heap) (reg0 : List (String × Addr)) (s : Schema) (h h' : Heap)
    (s' : Schema) (ho : RegOrigin h0 reg0 h s.types) (e : onSchema cfg fuel v s h = some (h', s')) : RegOrigin h0 reg0 h' s'.types :=
  onSchema_ind cfg fuel v (J := fun h s => RegOrigin h0 reg0 h s.types) (round_origin cfg v h0 reg0 s h ho)
    (round_origin cfg .heal h0 reg0) e

theorem transformFrom_origin (cfg : Cfg) (fuel : Nat) (h0 : Heap) (reg0 : List (String × Addr)) (vs : List Visitor) (h : Heap) (s : Schema)
    (h' : Heap) (s' : Schema) (ho : RegOrigin h0 reg0 h s.types) (e : transformFrom cfg fuel vs (h, s) = some (h', s')) :
    RegOrigin h0 reg0 h' s'.types :=
  transformFrom_ind cfg fuel (I := fun (_ : Unit) h s => RegOrigin h0 reg0 h s.types) (fun _ u => u) vs
    (fun v _ _ s h h' s' ho e => onSchema_origin cfg fuel v h0 reg0 s h h' s' ho e) () h s h' s' ho e

theorem cloneTypes_attrs (cfg : Cfg) (hd : cfg.deepClone = true) (l : List (String × Addr)) (h : Heap) :
    ∀ x, x ∈ (cloneTypes cfg h l).2 → ∀ a', x.2 = some a' → ∃ e, e ∈ l ∧ e.1 = x.1 ∧
      ∀ t, h.readType e.2 = some t → ∃ t', (cloneTypes cfg h l).1.readType a' = some t' ∧ TAttr t t' := by
  intro x hx a' ea
  obtain ⟨e, h1, t1, he, _, _, st1, ht1, st2, rfl⟩ := (cloneTypes_out cfg (R := StepImp chkT) (Pre := fun _ _ => True) (StepImp.refl chkT)
    (fun _ _ _ => StepImp.trans) (fun _ _ _ _ _ => trivial) (fun h _ t _ _ => cloneType_step cfg hd chkT h t) l h
    (fun _ _ _ => trivial)).2 x hx
  cases ea
  refine ⟨e, he, rfl, fun t ht => ?_⟩
  obtain ⟨t1', ht1', hat1⟩ := readType_keep_attrs st1 e.2 t ht
  cases ht1'.symm.trans ht1
  have hcopy : ∃ t2, (cloneType cfg h1 t1).1.readType (cloneType cfg h1 t1).2 = some t2 ∧ TAttr t1 t2 := by
    simp only [cloneType, hd, if_true]
    split <;> exact ⟨_, readType_alloc_new _ _, ⟨rfl, rfl, rfl, rfl, rfl, rfl, rfl, rfl⟩⟩
  obtain ⟨t2, ht2, hat2⟩ := hcopy
  obtain ⟨t', ht', hat'⟩ := readType_keep_attrs st2 _ t2 ht2
  exact ⟨t', ht', (hat1.trans hat2).trans hat'⟩

theorem clone_origin (cfg : Cfg) (hd : cfg.deepClone = true) (fuel : Nat) (s : Schema) (h h' : Heap) (s' : Schema) (hcl : closedB h s = true)
    (e : clone cfg fuel s h = some (h', s')) : RegOrigin h s.types h' s'.types := by
  simp only [clone] at e
  split at e
  · cases e
  · rename_i h1 s1 hr
    simp only [Option.some.injEq, Prod.mk.injEq] at e
    obtain ⟨rfl, rfl⟩ := e
    suffices hmain : RegOrigin h s.types h1 s1.types from hmain
    have stT := cloneTypes_step cfg hd chkT h s.types
    have stD := cloneDirs_step cfg hd chkT (cloneTypes cfg h s.types).1 s.dirs
    have hstart : RegOrigin h s.types (cloneDirs cfg (cloneTypes cfg h s.types).1 s.dirs).1
        (replaceCore cfg { types := cloneRegistry cfg s h, dirs := [], query := s.query, mutation := s.mutation, subscription := s.subscription, dres := none } (cloneTypes cfg h s.types).2 (cloneDirs cfg (cloneTypes cfg h s.types).1 s.dirs).2).1.types := by
      simp only [replaceCore]
      apply replaceTypes_pred cfg (OriginOf h s.types (cloneDirs cfg (cloneTypes cfg h s.types).1 s.dirs).1)
      · intro x hx a' ea
        obtain ⟨e1, he1, h1, h2⟩ := cloneTypes_attrs cfg hd s.types h x hx a' ea
        refine ⟨e1, he1, h1, fun t ht => ?_⟩
        obtain ⟨t1, ht1, hat1⟩ := h2 t ht
        obtain ⟨t2, ht2, hat2⟩ := readType_keep_attrs stD a' t1 ht1
        exact ⟨t2, ht2, hat1.trans hat2⟩
      · intro e' he'
        exact Or.inl ((regOrigin_refl h s.types e' (cloneRegistry_sub cfg s h hcl e' he')).keep (stT.trans stD))
    exact replaceTD_ind cfg fuel (J := fun h1 s1 => RegOrigin h s.types h1 s1.types) hstart (round_origin cfg .heal h s.types) hr

end PyGql.Heap.Own
