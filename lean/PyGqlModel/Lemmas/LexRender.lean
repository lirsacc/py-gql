/-
  `index_to_loc` / `highlight_location` are total for positions inside the text.
-/
import PyGqlModel.StringUtils
import PyGqlModel.Lemmas.LocBounds

namespace PyGql.StringUtils
open PyGql.BlockString

theorem mapM_getElem?_some {α} (xs : List α) (a k : Nat) (h : a + k ≤ xs.length) :
    ∃ r, (List.range' a k).mapM (fun l => xs[l]?) = some r := by
  induction k generalizing a with
  | zero => exact ⟨[], by simp⟩
  | succ k ih =>
    have h1 : a < xs.length := by omega
    obtain ⟨r, hr⟩ := ih (a + 1) (by omega)
    exact ⟨xs[a] :: r, by simp [List.range'_succ, List.mapM_cons, hr, List.getElem?_eq_getElem h1]⟩

theorem indexToLoc_isSome (body : Text) (p : Nat) (h : p ≤ body.length) :
    ∃ l c, indexToLoc body p = some (l, c) ∧ 1 ≤ l ∧ l ≤ (splitLines body).length := by
  rw [splitLines_eq]
  unfold indexToLoc Response.indexToLoc
  split
  · exact ⟨1, 1, rfl, Nat.le_refl _, Lemmas.LocBounds.splitLines_length_pos _⟩
  · have : ¬ p > body.length := by omega
    simp only [this, ↓reduceIte]
    obtain ⟨d, h1, h2, _⟩ := Lemmas.LocBounds.loop_bounds body p 0 0
    exact ⟨_, _, rfl, by omega, by omega⟩

theorem highlightLocation_isSome (body : Text) (p : Nat) (h : p ≤ body.length) :
    (highlightLocation body p).isSome = true := by
  obtain ⟨l, c, hloc, h1, h2⟩ := indexToLoc_isSome body p h
  have hcur : l - 1 < (splitLines body).length := by omega
  obtain ⟨before, hb⟩ := mapM_getElem?_some (splitLines body) (l - 1 - 2) (l - 1 - (l - 1 - 2)) (by omega)
  obtain ⟨after, ha⟩ := mapM_getElem?_some (splitLines body) (l - 1 + 1)
    (min (l - 1 + 2) ((splitLines body).length - 1) + 1 - (l - 1 + 1)) (by omega)
  unfold highlightLocation
  simp only [hloc, bind, Option.bind, hb, ha, List.getElem?_eq_getElem hcur, pure, Option.isSome_some]

end PyGql.StringUtils
