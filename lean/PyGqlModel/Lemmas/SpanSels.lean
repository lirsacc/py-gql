/-
  Enumerations of the nodes of EXECUTABLE definitions that have no entry point of their own — selections, selection sets,
  directives, arguments — each a sub-node of the definition's concrete-syntax view and well-formed when the definition is.
  (Mirror of `Lemmas/SpanVals.lean`; used by the closed forms of the re-parse-in-context theorems of C02.)
-/
import PyGqlModel.Lemmas.SpanVals
namespace PyGql.Ast

mutual
/-- the selection itself and every selection nested in it -/
def Selection.sels : Selection → List Selection
  | .field a n args dirs ss loc => .field a n args dirs ss loc :: optSSSels ss
  | .fragmentSpread n dirs loc => [.fragmentSpread n dirs loc]
  | .inlineFragment tc dirs ss loc => .inlineFragment tc dirs ss loc :: ss.sels
def SelectionSet.sels : SelectionSet → List Selection
  | .mk sels _ => selsSels sels
def optSSSels : Option SelectionSet → List Selection
  | none => []
  | some ss => ss.sels
def selsSels : List Selection → List Selection
  | [] => []
  | s :: ss => s.sels ++ selsSels ss
end

def Selection.directives : Selection → List Directive
  | .field _ _ _ dirs _ _ => dirs
  | .fragmentSpread _ dirs _ => dirs
  | .inlineFragment _ dirs _ _ => dirs
def Selection.arguments : Selection → List Argument
  | .field _ _ args _ _ _ => args
  | _ => []
def Selection.ownSet : Selection → List SelectionSet
  | .field _ _ _ _ (some ss) _ => [ss]
  | .inlineFragment _ _ ss _ => [ss]
  | _ => []

def Definition.execParts : Definition → Option (SelectionSet × List VariableDefinition × List Directive)
  | .operation o => some (o.selectionSet, o.variableDefinitions, o.directives)
  | .fragment f => some (f.selectionSet, f.variableDefinitions, f.directives)
  | _ => none

/-- every selection (field, fragment spread, inline fragment) of an executable definition, at any depth -/
def Definition.sels (x : Definition) : List Selection :=
  match x.execParts with
  | some (ss, _, _) => ss.sels
  | none => []
/-- every selection set of an executable definition: its own and those of fields and inline fragments at any depth -/
def Definition.ssets (x : Definition) : List SelectionSet :=
  match x.execParts with
  | some (ss, _, _) => ss :: x.sels.flatMap Selection.ownSet
  | none => []
/-- every directive of an executable definition: on the definition, on its variable definitions, on its selections -/
def Definition.dirs (x : Definition) : List Directive :=
  match x.execParts with
  | some (_, vds, ds) => ds ++ vds.flatMap (·.directives) ++ x.sels.flatMap Selection.directives
  | none => []
def Definition.vdefs (x : Definition) : List VariableDefinition :=
  match x.execParts with
  | some (_, vds, _) => vds
  | none => []
/-- every argument of an executable definition: of its fields and of its directives -/
def Definition.args (x : Definition) : List Argument :=
  x.sels.flatMap Selection.arguments ++ x.dirs.flatMap (·.arguments)

end PyGql.Ast

namespace PyGql.Spec
open PyGql PyGql.Ast PyGql.Parse

mutual
theorem selection_sels : ∀ (s w : Selection), w ∈ s.sels →
    Item.Sub (selectionV w) (selectionV s) ∧ (wfSelection s = true → wfSelection w = true)
  | .field alias_ name args dirs ss loc, w, h => by
    simp only [Selection.sels, List.mem_cons] at h
    rcases h with rfl | h
    · exact ⟨.refl, id⟩
    · simp only [selectionV, wfSelection, Bool.and_eq_true]
      obtain ⟨h1, h2⟩ := optSS_sels ss w h
      exact ⟨((h1.right _).tail _ |>.right _).node _, fun hh => h2 hh.2⟩
  | .fragmentSpread name dirs loc, w, h => by
    simp only [Selection.sels, List.mem_singleton] at h
    subst h; exact ⟨.refl, id⟩
  | .inlineFragment tc dirs ss loc, w, h => by
    simp only [Selection.sels, List.mem_cons] at h
    rcases h with rfl | h
    · exact ⟨.refl, id⟩
    · simp only [selectionV, wfSelection, Bool.and_eq_true]
      obtain ⟨h1, h2⟩ := selectionSet_sels ss w h
      exact ⟨(((SubL.head [] h1).right _).tail _).node _, fun hh => h2 hh.2⟩
termination_by structural s => s
theorem selectionSet_sels : ∀ (ss : SelectionSet) (w : Selection), w ∈ ss.sels →
    Item.Sub (selectionV w) (selectionSetV ss) ∧ (wfSelectionSet ss = true → wfSelection w = true)
  | .mk sels loc, w, h => by
    simp only [SelectionSet.sels] at h
    simp only [selectionSetV, wfSelectionSet, Bool.and_eq_true]
    obtain ⟨h1, h2⟩ := sels_sels sels w h
    exact ⟨((h1.left _).tail _).node _, fun hh => h2 hh.2⟩
termination_by structural ss => ss
theorem optSS_sels : ∀ (o : Option SelectionSet) (w : Selection), w ∈ optSSSels o →
    SubL (selectionV w) (optSelectionSetV o) ∧ (wfOptSelectionSet o = true → wfSelection w = true)
  | none, w, h => by simp [optSSSels] at h
  | some ss, w, h => by
    simp only [optSSSels] at h
    obtain ⟨h1, h2⟩ := selectionSet_sels ss w h
    exact ⟨by simp only [optSelectionSetV]; exact SubL.head _ h1, fun hh => h2 (by simpa [wfOptSelectionSet] using hh)⟩
termination_by structural o => o
theorem sels_sels : ∀ (ss : List Selection) (w : Selection), w ∈ selsSels ss →
    SubL (selectionV w) (selectionsV ss) ∧ (wfSelections ss = true → wfSelection w = true)
  | [], w, h => by simp [selsSels] at h
  | s :: ss, w, h => by
    simp only [selsSels, List.mem_append] at h
    simp only [selectionsV, wfSelections, Bool.and_eq_true]
    rcases h with h | h
    · obtain ⟨h1, h2⟩ := selection_sels s w h
      exact ⟨SubL.head _ h1, fun hh => h2 hh.1⟩
    · obtain ⟨h1, h2⟩ := sels_sels ss w h
      exact ⟨h1.tail _, fun hh => h2 hh.2⟩
termination_by structural ss => ss
end

theorem selection_ownSet (s : Selection) (ss : SelectionSet) (h : ss ∈ s.ownSet) :
    Item.Sub (selectionSetV ss) (selectionV s) ∧ (wfSelection s = true → wfSelectionSet ss = true) := by
  cases s with
  | field alias_ name args dirs o loc =>
    cases o with
    | none => simp [Selection.ownSet] at h
    | some ss' =>
      simp only [Selection.ownSet, List.mem_singleton] at h
      subst h
      simp only [selectionV, wfSelection, Bool.and_eq_true, optSelectionSetV, wfOptSelectionSet]
      exact ⟨(((SubL.head [] .refl).right _).tail _ |>.right _).node _, fun hh => hh.2⟩
  | fragmentSpread name dirs loc => simp [Selection.ownSet] at h
  | inlineFragment tc dirs ss' loc =>
    simp only [Selection.ownSet, List.mem_singleton] at h
    subst h
    simp only [selectionV, wfSelection, Bool.and_eq_true]
    exact ⟨(((SubL.head [] .refl).right _).tail _).node _, fun hh => hh.2⟩

theorem directives_mem (c : Bool) (ds : List Directive) (d : Directive) (h : d ∈ ds) :
    SubL (directiveV d) (directivesV ds) ∧ (wfDirectives c ds = true → wfDirective c d = true) :=
  ⟨SubL.map directiveV h .refl, fun hh => all_mem hh h⟩

theorem selection_directives (s : Selection) (d : Directive) (h : d ∈ s.directives) :
    Item.Sub (directiveV d) (selectionV s) ∧ (wfSelection s = true → wfDirective false d = true) := by
  cases s with
  | field alias_ name args dirs o loc =>
    simp only [Selection.directives] at h
    simp only [selectionV, wfSelection, Bool.and_eq_true]
    obtain ⟨h1, h2⟩ := directives_mem false dirs d h
    exact ⟨(((h1.right _).left _).tail _ |>.right _).node _, fun hh => h2 hh.1.2⟩
  | fragmentSpread name dirs loc =>
    simp only [Selection.directives] at h
    simp only [selectionV, wfSelection, Bool.and_eq_true]
    obtain ⟨h1, h2⟩ := directives_mem false dirs d h
    exact ⟨(h1.tail _ |>.tail _).node _, fun hh => h2 hh.2⟩
  | inlineFragment tc dirs ss loc =>
    simp only [Selection.directives] at h
    simp only [selectionV, wfSelection, Bool.and_eq_true]
    obtain ⟨h1, h2⟩ := directives_mem false dirs d h
    exact ⟨(((h1.right _).left _).tail _).node _, fun hh => h2 hh.1⟩

theorem arguments_mem (c : Bool) (as : List Argument) (a : Argument) (h : a ∈ as) :
    SubL (argumentV a) (argumentsV as) ∧ (as.all (wfArgument c) = true → wfArgument c a = true) :=
  ⟨SubL.group _ _ argumentV h .refl, fun hh => all_mem hh h⟩

theorem selection_arguments (s : Selection) (a : Argument) (h : a ∈ s.arguments) :
    Item.Sub (argumentV a) (selectionV s) ∧ (wfSelection s = true → wfArgument false a = true) := by
  cases s with
  | field alias_ name args dirs o loc =>
    simp only [Selection.arguments] at h
    simp only [selectionV, wfSelection, Bool.and_eq_true]
    obtain ⟨h1, h2⟩ := arguments_mem false args a h
    exact ⟨(((h1.left _).left _).tail _ |>.right _).node _, fun hh => h2 hh.1.1⟩
  | fragmentSpread name dirs loc => simp [Selection.arguments] at h
  | inlineFragment tc dirs ss loc => simp [Selection.arguments] at h

theorem directive_arguments (c : Bool) (d : Directive) (a : Argument) (h : a ∈ d.arguments) :
    Item.Sub (argumentV a) (directiveV d) ∧ (wfDirective c d = true → wfArgument c a = true) := by
  obtain ⟨h1, h2⟩ := arguments_mem c d.arguments a h
  exact ⟨by simp only [directiveV]; exact (h1.tail _ |>.tail _).node _, fun hh => h2 hh⟩

theorem variableDefinitions_dirs (vds : List VariableDefinition) (vd : VariableDefinition) (hv : vd ∈ vds)
    (d : Directive) (hd : d ∈ vd.directives) :
    SubL (directiveV d) (variableDefinitionsV vds) ∧ (vds.all wfVariableDefinition = true → wfDirective true d = true) := by
  obtain ⟨h1, h2⟩ := directives_mem true vd.directives d hd
  have hs : Item.Sub (directiveV d) (variableDefinitionV vd) := by
    unfold variableDefinitionV
    exact ((h1.right _).tail _ |>.tail _ |>.tail _).node _
  refine ⟨SubL.group _ _ variableDefinitionV hv hs, fun hh => h2 ?_⟩
  have := all_mem hh hv
  simp only [wfVariableDefinition, Bool.and_eq_true] at this
  exact this.2

theorem definition_parts (fl : Flags) (x : Definition) (ss : SelectionSet) (vds : List VariableDefinition)
    (ds : List Directive) (h : x.execParts = some (ss, vds, ds)) :
    (Item.Sub (selectionSetV ss) (definitionV x) ∧ (wfDefinition fl x = true → wfSelectionSet ss = true)) ∧
    (∀ d ∈ ds, Item.Sub (directiveV d) (definitionV x) ∧ (wfDefinition fl x = true → wfDirective false d = true)) ∧
    (∀ vd ∈ vds, ∀ d ∈ vd.directives,
      Item.Sub (directiveV d) (definitionV x) ∧ (wfDefinition fl x = true → wfDirective true d = true)) := by
  cases x with
  | operation o =>
    simp only [Definition.execParts, Option.some.injEq, Prod.mk.injEq] at h
    obtain ⟨rfl, rfl, rfl⟩ := h
    simp only [definitionV, wfDefinition, wfOperation, Bool.and_eq_true]
    unfold operationV
    split
    · rename_i hsh
      simp only [isShorthand, decide_eq_true_eq] at hsh
      have hv : o.variableDefinitions = [] := by simpa using hsh.2.2.1
      have hd : o.directives = [] := by simpa using hsh.2.2.2
      refine ⟨⟨((SubL.head [] .refl).tail _).node _, fun hh => hh.2⟩, ?_, ?_⟩
      · intro d hd'; rw [hd] at hd'; cases hd'
      · intro vd hv'; rw [hv] at hv'; cases hv'
    · refine ⟨⟨(((SubL.head [] .refl).right _).tail _).node _, fun hh => hh.2⟩, ?_, ?_⟩
      · intro d hd
        obtain ⟨h1, h2⟩ := directives_mem false o.directives d hd
        exact ⟨(((h1.right _).left _).tail _).node _, fun hh => h2 hh.1.2⟩
      · intro vd hv d hd
        obtain ⟨h1, h2⟩ := variableDefinitions_dirs o.variableDefinitions vd hv d hd
        exact ⟨((((h1.right _).left _).left _).tail _).node _, fun hh => h2 hh.1.1.2⟩
  | fragment f =>
    simp only [Definition.execParts, Option.some.injEq, Prod.mk.injEq] at h
    obtain ⟨rfl, rfl, rfl⟩ := h
    simp only [definitionV, wfDefinition, wfFragment, Bool.and_eq_true]
    unfold fragmentV
    refine ⟨⟨((((SubL.head [] .refl).right _).tail _ |>.tail _).right _ |>.tail _ |>.tail _).node _, fun hh => hh.2⟩, ?_, ?_⟩
    · intro d hd
      obtain ⟨h1, h2⟩ := directives_mem false f.directives d hd
      exact ⟨(((h1.left _).tail _ |>.tail _).right _ |>.tail _ |>.tail _).node _, fun hh => h2 hh.1.2⟩
    · intro vd hv d hd
      obtain ⟨h1, h2⟩ := variableDefinitions_dirs f.variableDefinitions vd hv d hd
      exact ⟨((h1.left _).tail _ |>.tail _).node _, fun hh => h2 hh.1.1.2⟩
  | _ => simp [Definition.execParts] at h

theorem definition_vdefs (fl : Flags) (x : Definition) (w : VariableDefinition) (h : w ∈ x.vdefs) :
    Item.Sub (variableDefinitionV w) (definitionV x) ∧ (wfDefinition fl x = true → wfVariableDefinition w = true) := by
  cases x with
  | operation o =>
    simp only [Definition.vdefs, Definition.execParts] at h
    have h1 : SubL (variableDefinitionV w) (variableDefinitionsV o.variableDefinitions) :=
      SubL.group _ _ variableDefinitionV h .refl
    simp only [definitionV, wfDefinition, wfOperation, Bool.and_eq_true]
    unfold operationV
    split
    · rename_i hsh
      simp only [isShorthand, decide_eq_true_eq] at hsh
      have hv : o.variableDefinitions = [] := by simpa using hsh.2.2.1
      rw [hv] at h; cases h
    · exact ⟨((((h1.right _).left _).left _).tail _).node _, fun hh => all_mem hh.1.1.2 h⟩
  | fragment f =>
    simp only [Definition.vdefs, Definition.execParts] at h
    have h1 : SubL (variableDefinitionV w) (variableDefinitionsV f.variableDefinitions) :=
      SubL.group _ _ variableDefinitionV h .refl
    simp only [definitionV, wfDefinition, wfFragment, Bool.and_eq_true]
    unfold fragmentV
    exact ⟨((h1.left _).tail _ |>.tail _).node _, fun hh => all_mem hh.1.1.2 h⟩
  | _ => simp [Definition.vdefs, Definition.execParts] at h

theorem exec_vals (fl : Flags) (x : Definition) (ss : SelectionSet) (vds : List VariableDefinition) (ds : List Directive)
    (h : x.execParts = some (ss, vds, ds)) (w : Value)
    (hw : w ∈ vds.flatMap VariableDefinition.vals ++ dirsVals ds ++ ss.vals) :
    Item.Sub (valueV w) (definitionV x) ∧ (wfDefinition fl x = true → wfValue false w = true) := by
  obtain ⟨hss, hds, _⟩ := definition_parts fl x ss vds ds h
  have hv : x.vdefs = vds := by simp only [Definition.vdefs, h]
  simp only [List.mem_append] at hw
  rcases hw with (hw | hw) | hw
  · exact sub_wf_flatMap variableDefinition_vals (fun vd hvd => definition_vdefs fl x vd (hv ▸ hvd)) hw
  · exact sub_wf_flatMap (directive_vals false) hds hw
  · exact sub_wf_trans (selectionSet_vals ss w hw) hss

theorem definition_sels (fl : Flags) (x : Definition) (w : Selection) (h : w ∈ x.sels) :
    Item.Sub (selectionV w) (definitionV x) ∧ (wfDefinition fl x = true → wfSelection w = true) := by
  unfold Definition.sels at h
  cases hp : x.execParts with
  | none => rw [hp] at h; cases h
  | some t =>
    obtain ⟨ss, vds, ds⟩ := t
    rw [hp] at h
    obtain ⟨⟨a1, a2⟩, _, _⟩ := definition_parts fl x ss vds ds hp
    obtain ⟨b1, b2⟩ := selectionSet_sels ss w h
    exact ⟨b1.trans a1, fun hh => b2 (a2 hh)⟩

theorem definition_ssets (fl : Flags) (x : Definition) (w : SelectionSet) (h : w ∈ x.ssets) :
    Item.Sub (selectionSetV w) (definitionV x) ∧ (wfDefinition fl x = true → wfSelectionSet w = true) := by
  unfold Definition.ssets at h
  cases hp : x.execParts with
  | none => rw [hp] at h; cases h
  | some t =>
    obtain ⟨ss, vds, ds⟩ := t
    rw [hp] at h
    obtain ⟨⟨a1, a2⟩, _, _⟩ := definition_parts fl x ss vds ds hp
    rcases List.mem_cons.1 h with rfl | h
    · exact ⟨a1, a2⟩
    · obtain ⟨s, hs, hw⟩ := List.mem_flatMap.1 h
      obtain ⟨b1, b2⟩ := definition_sels fl x s hs
      obtain ⟨c1, c2⟩ := selection_ownSet s w hw
      exact ⟨c1.trans b1, fun hh => c2 (b2 hh)⟩

theorem definition_dirs (fl : Flags) (x : Definition) (w : Directive) (h : w ∈ x.dirs) :
    Item.Sub (directiveV w) (definitionV x) ∧ (wfDefinition fl x = true → ∃ c, wfDirective c w = true) := by
  unfold Definition.dirs at h
  cases hp : x.execParts with
  | none => rw [hp] at h; cases h
  | some t =>
    obtain ⟨ss, vds, ds⟩ := t
    rw [hp] at h
    obtain ⟨_, hd, hv⟩ := definition_parts fl x ss vds ds hp
    simp only [List.mem_append] at h
    rcases h with (h | h) | h
    · obtain ⟨a1, a2⟩ := hd w h
      exact ⟨a1, fun hh => ⟨false, a2 hh⟩⟩
    · obtain ⟨vd, hvd, hw⟩ := List.mem_flatMap.1 h
      obtain ⟨a1, a2⟩ := hv vd hvd w hw
      exact ⟨a1, fun hh => ⟨true, a2 hh⟩⟩
    · obtain ⟨s, hs, hw⟩ := List.mem_flatMap.1 h
      obtain ⟨b1, b2⟩ := definition_sels fl x s hs
      obtain ⟨c1, c2⟩ := selection_directives s w hw
      exact ⟨c1.trans b1, fun hh => ⟨false, c2 (b2 hh)⟩⟩

theorem definition_args (fl : Flags) (x : Definition) (w : Argument) (h : w ∈ x.args) :
    Item.Sub (argumentV w) (definitionV x) ∧ (wfDefinition fl x = true → ∃ c, wfArgument c w = true) := by
  unfold Definition.args at h
  rcases List.mem_append.1 h with h | h
  · obtain ⟨s, hs, hw⟩ := List.mem_flatMap.1 h
    obtain ⟨b1, b2⟩ := definition_sels fl x s hs
    obtain ⟨c1, c2⟩ := selection_arguments s w hw
    exact ⟨c1.trans b1, fun hh => ⟨false, c2 (b2 hh)⟩⟩
  · obtain ⟨d, hd, hw⟩ := List.mem_flatMap.1 h
    obtain ⟨b1, b2⟩ := definition_dirs fl x d hd
    refine ⟨(directive_arguments false d w hw).1.trans b1, fun hh => ?_⟩
    obtain ⟨c, hc⟩ := b2 hh
    exact ⟨c, (directive_arguments c d w hw).2 hc⟩

end PyGql.Spec
