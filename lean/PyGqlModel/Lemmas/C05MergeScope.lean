/-
  C05 — `MergeSafe` from the clause of 5.3.2: SCOPES. Every field of an executor-side scope (`InScope`: a tagged
  selection list with inline fragments and fragment spreads opened, each field with the static parent type it is
  selected on) of the TRANSLATED document `eDoc s env d` is a field the validator's search collects for the
  corresponding selection set of `d` (`Spec.Coll`: directly, through inline fragments, transitively through spreads),
  with the same parent type, response name, field name, argument nodes and sub-selection (`Rel`).
-/
import PyGqlModel.Lemmas.C05MergeArgs
import PyGqlModel.Props.C05_bridge
import PyGqlModel.Lemmas.ValidateOverlapNodes
import PyGqlModel.Lemmas.ValidateAL

set_option linter.unusedSimpArgs false

namespace PyGql.Props.C05
open PyGql
open PyGql.Validate (Node Arg AL)
open PyGql.Validate.Spec (SelSet Adm Coll CollD CollF SpreadD nodes selNodes selsNodes fragTable responseName inlineParent fragParent)

theorem eSels_mem (s : SchemaD) (env : Exec.ArgEnv) : ∀ (sels : List Validate.Sel) (ex : Exec.Sel),
    ex ∈ eSels s env sels → ∃ vx ∈ sels, ex = eSel s env vx
  | [], ex, h => by simp [eSels] at h
  | v :: vs, ex, h => by
    simp only [eSels, List.mem_cons] at h
    rcases h with h | h
    · exact ⟨v, by simp, h⟩
    · obtain ⟨vx, hm, he⟩ := eSels_mem s env vs ex h
      exact ⟨vx, by simp [hm], he⟩

theorem responseName_getD (al : Option String) (name : String) (h : al ≠ some "") : responseName al name = al.getD name := by
  cases al with
  | none => rfl
  | some a =>
    have : a ≠ "" := fun e => h (by rw [e])
    simp [responseName, this]

theorem findType_of_composite (s : SchemaD) (n : String) (h : Spec.isComposite s n = true) : (s.findType n).isSome = true := by
  unfold Spec.isComposite Exec.kindOf at h
  cases hf : s.findType n with
  | some _ => rfl
  | none =>
    -- an unlisted name is at most a built-in scalar
    simp only [hf] at h
    by_cases hb : Exec.builtinScalars.contains n = true
    · rw [if_pos hb] at h
      exact absurd h Bool.false_ne_true
    · rw [if_neg hb] at h
      exact absurd h Bool.false_ne_true

theorem typeFromAst_of_composite (s : SchemaD) (n : String) (h : Spec.isComposite s n = true) :
    (Validate.typeFromAst s (.named n)).map (·.base) = some n := by
  have := findType_of_composite s n h
  unfold Validate.typeFromAst
  simp [Ty.base, this]

theorem validate_composite_of (s : SchemaD) (n : String) (h : Spec.isComposite s n = true) : Validate.isComposite s n = true := by
  have hf := findType_of_composite s n h
  unfold Spec.isComposite Exec.kindOf at h
  unfold Validate.isComposite Validate.kindOf
  cases hft : s.findType n with
  | none => simp [hft] at hf
  | some t =>
    simp only [hft] at h
    simp only [hft, Option.map_some]
    cases hk : t.kind <;> simp_all

/-! ### the two fragment tables agree (both: the LAST definition of a name wins) -/

theorem get?_foldl_set_eq {α} (k : String) : ∀ (l : List (String × α)) (m0 : AL α),
    AL.get? (l.foldl (fun m f => AL.set m f.1 f.2) m0) k
      = match l.reverse.find? (·.1 == k) with | some f => some f.2 | none => AL.get? m0 k
  | [], m0 => by simp
  | f :: fs, m0 => by
    rw [List.foldl_cons, get?_foldl_set_eq k fs, List.reverse_cons, List.find?_append]
    cases hfind : fs.reverse.find? (·.1 == k) with
    | some g => simp
    | none =>
      simp only [Option.none_or, List.find?_cons, List.find?_nil]
      rw [AL.get?_set]
      by_cases hk : k = f.1
      · subst hk; simp
      · have : (f.1 == k) = false := by
          have : ¬ f.1 = k := fun e => hk e.symm
          simpa using this
        simp [hk, this]

theorem eDoc_frags (s : SchemaD) (env : Exec.ArgEnv) (d : Validate.Doc) :
    (eDoc s env d).frags = (Validate.fragDefs d).map fun p => { name := p.1, on := p.2.1, sels := eSels s env p.2.2.2 } := by
  simp only [eDoc, Validate.fragDefs, List.map_filterMap]
  congr 1
  funext x
  cases x <;> rfl

theorem fragment_lookup (s : SchemaD) (env : Exec.ArgEnv) (d : Validate.Doc) (name : String) (fr : Exec.Frag)
    (h : (eDoc s env d).fragment? name = some fr) :
    ∃ on fid fsels, AL.get? (fragTable d) name = some (on, fid, fsels) ∧ fr.on = on ∧ fr.sels = eSels s env fsels := by
  unfold Exec.Doc.fragment? at h
  rw [eDoc_frags, ← List.map_reverse, List.find?_map] at h
  obtain ⟨p, hp, rfl⟩ := Option.map_eq_some_iff.1 h
  refine ⟨p.2.1, p.2.2.1, p.2.2.2, ?_, rfl, rfl⟩
  unfold fragTable
  rw [get?_foldl_set_eq]
  have hp' : (Validate.fragDefs d).reverse.find? (·.1 == name) = some p := hp
  rw [hp']

/-- document-side facts used by the derivation (each is a clause of another rule, a parser guarantee or a schema fact) -/
structure MergeFacts (s : SchemaD) (env : Exec.ArgEnv) (d : Validate.Doc) (vars : Exec.Vars) : Prop where
  /-- the parser never produces an empty alias -/
  aliases : ∀ i sels, SelSet d i sels → ∀ al name args dirs hs id sub,
    Validate.Sel.field al name args dirs hs id sub ∈ sels → al ≠ some ""
  /-- the clause of UniqueArgumentNames (fields) -/
  uniqueArgs : ∀ n ∈ nodes d, ∀ name args dirs hs, n = Node.field name args dirs hs → (args.map (·.name)).Nodup
  /-- the translated document is well-typed (`rules_accept_validDocR`) -/
  valid : Spec.ValidDocR s (eDoc s env d) vars
  /-- a field the executor finds on a type is found there by the validator too (the validator looks fields up on object
      and interface types only: true of schemas in which no other type carries fields) -/
  owners : ∀ T name fd, Exec.fieldOf s T name = some fd → Validate.fieldOf s T name = some fd

structure Rel (s : SchemaD) (env : Exec.ArgEnv) (d : Validate.Doc) (vars : Exec.Vars) (x : String × Exec.FNode) (e : Validate.FEntry) : Prop where
  parent : e.parent = some x.1
  name : e.name = x.2.name
  args : x.2.args = Exec.argsTable s env e.name (eArgs e.args)
  hasSub : x.2.hasSub = e.hasSub
  sub : e.hasSub = true → x.2.sub = eSels s env e.sub
  fdef : e.fdef = Validate.ovFieldOf s x.1 e.name
  nodup : (e.args.map (·.name)).Nodup
  comp : Spec.isComposite s x.1 = true
  typed : (x.2.name = "__typename" ∧ x.2.hasSub = false) ∨
    (Exec.isMeta x.2.name = false ∧ ∃ fd, Exec.fieldOf s x.1 x.2.name = some fd ∧
      (x.2.hasSub = true → Spec.isComposite s fd.type.base = true ∧ Spec.selsOk s (eDoc s env d) vars fd.type.base x.2.sub = true))
  subSet : e.hasSub = true → SelSet d e.ssid e.sub ∧ Adm s d e.ssid (some (Spec.subBase s x.1 x.2))

/-- `(T0, i0, sels0)` is the selection set the search starts from, `(T, i, sels)` the inline-fragment body currently opened
    inside it -/
theorem scope_coll (s : SchemaD) (env : Exec.ArgEnv) (d : Validate.Doc) (vars : Exec.Vars) (mf : MergeFacts s env d vars)
    {L : Spec.TSels} {x : String × Exec.FNode} (h : InScope (eDoc s env d) L x) :
    ∀ (T : String) (i : Nat) (sels : List Validate.Sel) (T0 : String) (i0 : Nat) (sels0 : List Validate.Sel),
      L = Spec.tag T (eSels s env sels) → SelSet d i sels → Spec.selsOk s (eDoc s env d) vars T (eSels s env sels) = true →
      Spec.isComposite s T = true → Adm s d i0 (some T0) → SelSet d i0 sels0 →
      (∀ rn e, CollD s (some T) sels rn e → CollD s (some T0) sels0 rn e) →
      (∀ g, SpreadD sels g → SpreadD sels0 g) →
      ∃ e, Coll s d (some T0) sels0 x.2.key e ∧ Rel s env d vars x e := by
  induction h with
  | @field L T' key name loc dirs args hs sub hm =>
    intro T i sels T0 i0 sels0 hL hS hok hcomp hA0 hS0 kD kS
    subst hL
    obtain ⟨rfl, hmx⟩ := mem_tag hm
    obtain ⟨vx, hvm, hve⟩ := eSels_mem s env sels _ hmx
    have hselok := selsOk_forall s _ vars T' _ hok _ hmx
    cases vx with
    | spread n ds => simp [eSel] at hve
    | inline on ds id vsub => simp [eSel] at hve
    | field al vname vargs vdirs vhs ssid vsub =>
      simp only [eSel, Exec.Sel.field.injEq] at hve
      obtain ⟨rfl, rfl, rfl, rfl, rfl, rfl, rfl⟩ := hve
      have hal := mf.aliases i sels hS al name vargs vdirs hs loc vsub hvm
      have hnode : Node.field name vargs vdirs hs ∈ nodes d :=
        Validate.selSet_closed hS _ (Validate.mem_selsNodes_of_mem hvm _ (by simp [selNodes]))
      have hcd : CollD s (some T') sels (responseName al name)
          { parent := some T', name := name, args := vargs, hasSub := hs, ssid := loc, sub := vsub,
            fdef := (some T').bind fun p => Validate.ovFieldOf s p name } := CollD.field hvm
      rw [responseName_getD al name hal] at hcd
      have htyped := selOk_field hselok
      refine ⟨_, Or.inl (kD _ _ hcd), ?_⟩
      refine { parent := rfl, name := rfl, args := rfl, hasSub := rfl, sub := ?_, fdef := rfl, nodup := ?_, comp := hcomp,
               typed := htyped, subSet := ?_ }
      · intro hh; simp only at hh; subst hh; rfl
      · exact mf.uniqueArgs _ hnode name vargs vdirs hs rfl
      · intro hh
        simp only at hh
        subst hh
        refine ⟨Validate.selSet_sub hS0 (kD _ _ hcd) rfl, ?_⟩
        have hadm := Adm.sub hA0 hS0 (kD _ _ hcd) rfl
        rcases htyped with ⟨_, hf⟩ | ⟨hmeta, fd, hfd, _⟩
        · simp at hf
        · have hnt : name ≠ "__typename" := by
            intro e; subst e; simp [Exec.isMeta] at hmeta
          have hov : Validate.ovFieldOf s T' name = some fd := by
            unfold Validate.ovFieldOf
            have : (name == "__typename") = false := by simpa using hnt
            simp [this, mf.owners T' name fd hfd]
          simp only [Option.bind_some, hov, Option.map_some] at hadm
          simpa [Spec.subBase, hfd] using hadm
  | @inline L T' on dirs sub' x hm hr ih =>
    intro T i sels T0 i0 sels0 hL hS hok hcomp hA0 hS0 kD kS
    subst hL
    obtain ⟨rfl, hmx⟩ := mem_tag hm
    obtain ⟨vx, hvm, hve⟩ := eSels_mem s env sels _ hmx
    have hselok := selsOk_forall s _ vars T' _ hok _ hmx
    cases vx with
    | spread n ds => simp [eSel] at hve
    | field al vname vargs vdirs vhs ssid vsub => simp [eSel] at hve
    | inline von vdirs id vsub =>
      simp only [eSel, Exec.Sel.inline.injEq] at hve
      obtain ⟨rfl, rfl, rfl⟩ := hve
      have hS' : SelSet d id vsub :=
        Validate.selSet_closed hS _ (Validate.mem_selsNodes_of_mem hvm _ (by simp [selNodes]))
      obtain ⟨hok', hon⟩ := selOk_inline hselok
      have hfacts : Spec.isComposite s (on.getD T') = true ∧ inlineParent s (some T') on = some (on.getD T') := by
        cases on with
        | none => exact ⟨hcomp, rfl⟩
        | some c => exact ⟨hon c rfl, typeFromAst_of_composite s c (hon c rfl)⟩
      obtain ⟨hc', hip⟩ := hfacts
      exact ih (on.getD T') id vsub T0 i0 sels0 rfl hS' hok' hc' hA0 hS0
        (fun rn e hc => kD rn e (CollD.inline hvm (by rw [hip]; exact hc)))
        (fun g hg => kS g (SpreadD.inline hvm hg))
  | @spread L T' name dirs fr x hm hf hr ih =>
    intro T i sels T0 i0 sels0 hL hS hok hcomp hA0 hS0 kD kS
    subst hL
    obtain ⟨rfl, hmx⟩ := mem_tag hm
    obtain ⟨vx, hvm, hve⟩ := eSels_mem s env sels _ hmx
    cases vx with
    | inline von vdirs id vsub => simp [eSel] at hve
    | field al vname vargs vdirs vhs ssid vsub => simp [eSel] at hve
    | spread vn vdirs =>
      simp only [eSel, Exec.Sel.spread.injEq] at hve
      obtain ⟨rfl, rfl⟩ := hve
      obtain ⟨on, fid, fsels, hget, hon, hsels⟩ := fragment_lookup s env d name fr hf
      obtain ⟨hfc, hfok⟩ := fragsOk_fragment (validDocR_iff.1 mf.valid).2.1 hf
      rw [hon] at hfc hfok
      rw [hsels] at hfok
      have hSf : SelSet d fid fsels := Validate.fragTable_selSet hget
      have hAf : Adm s d fid (some on) := by
        have := Adm.frag (s := s) hget
        rwa [fragParent, typeFromAst_of_composite s on hfc] at this
      obtain ⟨e, hcoll, hrel⟩ := ih on fid fsels on fid fsels (by rw [hon, hsels]) hSf hfok hfc hAf hSf (fun _ _ h => h) (fun _ h => h)
      refine ⟨e, Or.inr ⟨name, kS _ (SpreadD.spread hvm), ?_⟩, hrel⟩
      rcases hcoll with hcd | ⟨g, hsp, hcf⟩
      · exact CollF.here hget hAf hcd
      · exact CollF.there hget hsp hcf

end PyGql.Props.C05
