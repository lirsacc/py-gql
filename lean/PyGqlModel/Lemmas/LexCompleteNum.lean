/-
  Completeness of `_read_number`: an IntValue / FloatValue lexeme (Spec/Lexical.lean) followed by anything its
  `Follow` restriction allows is read as exactly that token.  The lexeme is taken apart into the shapes of the grammar
  (`Lemmas/LexNumShape.lean`), each sub-reader is run on its shape (`Lemmas/LexSoundNum.lean`), and `next_integerPart` says
  what `__next__` does on an IntegerPart followed by any tail, accepted or rejected.
-/
import PyGqlModel.Lemmas.LexComplete

namespace PyGql.Lex

theorem follow_float_facts (r : Text)
    (h : Spec.Lexical.startsWith (fun c => Spec.Lexical.isDigit c || Spec.Lexical.isNameStart c) r = false) :
    NoDigitHead r ∧ (∀ c t, r = c :: t → ¬ (c = 101 ∨ c = 69)) ∧ (∀ c t, r = c :: t → isNameStart c = false) := by
  refine ⟨?_, ?_, ?_⟩ <;> intro c t e <;> subst e <;>
    simp only [Spec.Lexical.startsWith, Bool.or_eq_false_iff] at h
  · rw [isDigit_spec]; exact h.1
  · intro hc
    have : Spec.Lexical.isNameStart c = true := by rcases hc with rfl | rfl <;> decide
    rw [this] at h; exact absurd h.2 (by simp)
  · rw [isNameStart_spec]; exact h.2

theorem float_tail_heads (frac exp r : Text) (hf : frac = [] ∨ Spec.Lexical.isFractionalPart frac = true)
    (he : exp = [] ∨ Spec.Lexical.isExponentPart exp = true) (hnd : NoDigitHead r) :
    NoDigitHead (frac ++ (exp ++ r)) ∧ NoDigitHead (exp ++ r) ∧
    (frac = [] → exp ≠ [] → ∀ c t, exp ++ r = c :: t → c ≠ 46) := by
  have hexp : NoDigitHead (exp ++ r) ∧ (exp ≠ [] → ∀ c t, exp ++ r = c :: t → c ≠ 46) := by
    rcases he with rfl | he
    · exact ⟨hnd, fun h => absurd rfl h⟩
    · obtain ⟨i, s, d, ds, rfl, hi, _⟩ := exponentPart_shape he
      constructor
      · intro c t e
        cases e
        rcases hi with rfl | rfl <;> decide +kernel
      · intro _ c t e
        cases e
        omega
  refine ⟨?_, hexp.1, fun _ => hexp.2⟩
  rcases hf with rfl | hf
  · exact hexp.1
  · obtain ⟨d, ds, rfl, _⟩ := fractionalPart_shape hf
    intro c t e
    cases e
    decide +kernel

/-- what `_read_number` does after the integer part -/
def numberTail (n : Nat) (s tail : Text) : R (Tok × Text) := do
  let (f1, s3) ← readFraction n tail
  let (f2, s4) ← readExponent n s3
  numberLookahead n s4
  pure (⟨if f1 || f2 then .float else .int, posAt n s, posAt n s4, s.take (s.length - s4.length)⟩, s4)

/-- `__next__` on an IntegerPart followed by something that is no digit: `_read_number` is called, reads the integer
    part and goes on with the tail — whether the tail is then accepted or rejected -/
theorem next_integerPart (n : Nat) {ip tail : Text} (hip : Spec.Lexical.isIntegerPart ip = true) (hnd : NoDigitHead tail) :
    next n (ip ++ tail) = (numberTail n (ip ++ tail) tail).map fun p => (p.1, some p.2) := by
  obtain ⟨s, d, ds, rfl, hs, hd, hdd⟩ := integerPart_shape hip
  have hro := readOverInteger_ip n d ds tail hdd hnd
  have hd45 : d ≠ 45 := by rintro rfl; exact absurd hd (by decide +kernel)
  rcases hs with rfl | rfl
  · simp only [List.nil_append, List.cons_append] at hro ⊢
    rw [next_number n d _ (Or.inr hd)]
    simp only [readNumber, numberTail, skipMinus, hd45, ↓reduceIte, hro, bind, Except.bind]
  · simp only [List.cons_append, List.nil_append] at hro ⊢
    rw [next_number n 45 _ (Or.inl rfl)]
    simp only [readNumber, numberTail, skipMinus, ↓reduceIte, hro, bind, Except.bind]

theorem tokenStart_integerPart {ip : Text} (tail : Text) (hip : Spec.Lexical.isIntegerPart ip = true) :
    tokenStart (ip ++ tail) := by
  obtain ⟨s, d, ds, rfl, hs, hd, -⟩ := integerPart_shape hip
  rcases hs with rfl | rfl
  · exact tokenStart_number _ (.inr hd)
  · exact tokenStart_number _ (.inl rfl)

theorem next_float_shape (n : Nat) (w r : Text) (hw : FloatShape w)
    (hfo : Spec.Lexical.startsWith (fun c => Spec.Lexical.isDigit c || Spec.Lexical.isNameStart c) r = false) :
    next n (w ++ r) = .ok (⟨.float, posAt n (w ++ r), posAt n r, w⟩, some r) := by
  obtain ⟨hnd, hee, hns⟩ := follow_float_facts r hfo
  obtain ⟨ip, frac, exp, rfl, hip, hf, he, hne⟩ := hw
  obtain ⟨nd1, nd2, h46⟩ := float_tail_heads frac exp r hf he hnd
  have hflag : (!frac.isEmpty || !exp.isEmpty) = true := by
    cases frac <;> cases exp <;> simp at hne ⊢
  have htake := take_length_sub (ip ++ (frac ++ exp)) r
  simp only [List.append_assoc] at htake ⊢
  rw [next_integerPart n hip nd1]
  simp only [numberTail, readFraction_frac n frac (exp ++ r) hf (fun hfr => h46 hfr fun hex => hne ⟨hfr, hex⟩) nd2,
    readExponent_exp n exp r he hnd hee, lookahead_ok n r hns, hflag, bind, Except.bind, pure, Except.pure, Except.map,
    ↓reduceIte, htake]

theorem next_int_value (n : Nat) (w r : Text) (hw : Spec.Lexical.isIntValue w = true)
    (hfo : Spec.Lexical.startsWith (fun c => Spec.Lexical.isDigit c || Spec.Lexical.isNameStart c || c == 46) r = false) :
    next n (w ++ r) = .ok (⟨.int, posAt n (w ++ r), posAt n r, w⟩, some r) := by
  have hfo' : Spec.Lexical.startsWith (fun c => Spec.Lexical.isDigit c || Spec.Lexical.isNameStart c) r = false := by
    cases r with
    | nil => rfl
    | cons c t => simp only [Spec.Lexical.startsWith, Bool.or_eq_false_iff] at hfo ⊢; exact hfo.1
  have h46 : ∀ c t, r = c :: t → c ≠ 46 := by
    intro c t e; subst e
    simp only [Spec.Lexical.startsWith, Bool.or_eq_false_iff, beq_eq_false_iff_ne] at hfo
    exact hfo.2
  obtain ⟨hdr, hee, hns⟩ := follow_float_facts r hfo'
  have t1 : readFraction n r = .ok (false, r) := readFraction_frac n [] r (.inl rfl) (fun _ => h46) hdr
  have t2 : readExponent n r = .ok (false, r) := readExponent_exp n [] r (.inl rfl) hdr hee
  rw [next_integerPart n hw hdr]
  simp only [numberTail, t1, t2, lookahead_ok n r hns, bind, Except.bind, pure, Except.pure, Except.map, take_length_sub]
  rfl

end PyGql.Lex
