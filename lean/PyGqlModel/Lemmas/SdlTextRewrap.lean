/-
  C12 text level — printing the RE-WRAPPED description again (finding H12, "not a fixpoint" vs "changed"): when the
  wrapped lines fit the width, the description read back from the printed text (the wrapped lines joined by line feeds) is
  printed exactly like the original, so the text is a fixpoint from the first round; when an unbreakable word is longer
  than the width it is not.
-/
import PyGqlModel.Lemmas.SdlTextWrap
import PyGqlModel.Lemmas.SdlModelsStr
namespace PyGql.SdlText
open PyGql PyGql.Ast PyGql.Sdl PyGql.Spec PyGql.PrintLex PyGql.PrintTokens PyGql.PrintString PyGql.BlockString PyGql.Lex PyGql.SdlPrint

/-- the description `build_schema` reads back from the printed text of `d` at indentation width `w`: the wrapped lines
    joined by line feeds, as a `String` (computed by the String-level model's `wrapped_lines`) -/
def rewrapS (w : Nat) (d : String) : String :=
  "\n".intercalate (SdlPrint.wrappedLines (SdlPrint.splitLines d) (120 - w))

theorem T_rewrapS (w : Nat) (d : String) : T (rewrapS w d) = joinLF (wrappedOf w d) := by
  have hlf : SdlPrintT.T "\n" = [10] := by decide
  show SdlPrintT.T (rewrapS w d) = _
  rw [rewrapS, SdlModels.T_intercalate, SdlModels.wrappedLines_map, SdlModels.splitLines_map, hlf, joinSep_lf]
  rfl

theorem splitLF_line : ∀ (l : Text), (∀ c ∈ l, c ≠ 10) → SdlPrintT.splitLF l = [l]
  | [], _ => rfl
  | c :: t, h => by
    have hc : c ≠ 10 := h c (by simp)
    simp only [SdlPrintT.splitLF, hc, if_false, splitLF_line t (fun x hx => h x (by simp [hx]))]

theorem splitLF_line_lf (rest : Text) : ∀ (l : Text), (∀ c ∈ l, c ≠ 10) →
    SdlPrintT.splitLF (l ++ 10 :: rest) = l :: SdlPrintT.splitLF rest
  | [], _ => by simp [SdlPrintT.splitLF]
  | c :: t, h => by
    have hc : c ≠ 10 := h c (by simp)
    simp only [List.cons_append, SdlPrintT.splitLF, hc, if_false, splitLF_line_lf rest t (fun x hx => h x (by simp [hx]))]

theorem splitLF_joinLF : ∀ (ls : List Text), ls ≠ [] → (∀ l ∈ ls, ∀ c ∈ l, c ≠ 10) → SdlPrintT.splitLF (joinLF ls) = ls
  | [], h, _ => absurd rfl h
  | [l], _, hl => by simp only [joinLF]; exact splitLF_line l (hl l (by simp))
  | l :: l2 :: r, _, hl => by
    rw [joinLF_cons_cons, splitLF_line_lf _ l (hl l (by simp)),
      splitLF_joinLF (l2 :: r) (by simp) (fun y hy => hl y (by simp [hy]))]

theorem rewrapS_facts (w : Nat) (x : String) {l : Text} {ls : List Text} (hW : wrappedOf w x = l :: ls) (f : WrapFacts x l ls) :
    SdlPrintT.T (rewrapS w x) = joinLF (l :: ls) ∧ (rewrapS w x).isEmpty = false := by
  have hT : SdlPrintT.T (rewrapS w x) = joinLF (l :: ls) := by
    have := T_rewrapS w x
    rw [hW] at this; exact this
  refine ⟨hT, ?_⟩
  rw [← SdlModels.T_isEmpty, hT]
  have hlne : l ≠ [] := by
    intro e; have := f.first; rw [e] at this; simp [onlyWhiteSpace] at this
  cases ls with
  | nil => cases l with
    | nil => exact absurd rfl hlne
    | cons _ _ => rfl
  | cons a b => rw [joinLF_cons_cons]; cases l <;> rfl

theorem printDescription_rewrap (o : SdlPrintT.OptsT) (hdesc : o.descriptions = true) (x : String) (depth : Nat) (first : Bool)
    (h : descWrapOK (depth * o.indent.length) x = true)
    (hfit : ∀ l ∈ wrappedOf (depth * o.indent.length) x, l.length ≤ 120 - depth * o.indent.length) :
    SdlPrintT.printDescription o (some (rewrapS (depth * o.indent.length) x)) depth first =
      SdlPrintT.printDescription o (some x) depth first := by
  obtain ⟨l, ls, hW, f⟩ := wrapOK_facts _ x h
  obtain ⟨hT, hdne⟩ := rewrapS_facts _ x hW f
  have hlen := length_repeatText o.indent depth
  have hsplit : SdlPrintT.splitLF (joinLF (l :: ls)) = l :: ls :=
    splitLF_joinLF (l :: ls) (by simp) (fun y hy c hc => (f.mem y hy c hc).2)
  have hWd : SdlPrintT.wrappedLines (SdlPrintT.splitLF (SdlPrintT.T (rewrapS (depth * o.indent.length) x)))
      (120 - (SdlPrintT.repeatText o.indent depth).length) = l :: ls := by
    rw [hT, hsplit, hlen]
    apply wrappedLines_id
    intro y hy
    rw [← hW] at hy
    exact hfit y hy
  have hcrd : 13 ∉ SdlPrintT.T (rewrapS (depth * o.indent.length) x) := by
    rw [hT]
    intro h13
    rcases mem_joinLF _ 13 h13 with h | ⟨y, hy, h⟩
    · exact absurd h (by decide)
    · exact f.noCR (f.mem y hy 13 h).1
  rw [printDescription_block o hdesc _ depth first (l :: ls) hdne hcrd hWd f.notQuoted,
    printDescription_block o hdesc x depth first (l :: ls) f.nonempty f.noCR (by rw [hlen]; exact hW) f.notQuoted]

end PyGql.SdlText
