/-
  C19 — what `collect_fields_untyped` collects: exactly the selected fields, up to those that fragments seen before
  select (`Collected`, for any skip hook that agrees with the specification). The canonical levels of a selection set
  are the maximum over its selected fields (`cL_le_iff`), so the numeric form of the invariant (`CollectOk`) is its
  image; with it `_nesting_levels` = canonical spec levels.
-/
import PyGqlModel.Lemmas.DepthStep

namespace PyGql.Depth.Lemmas
open PyGql.Depth PyGql.DepthSpec

/-- `f` is one of the collected fields (in some response-key group of the `OrderedDict`) -/
def InG (G : Grouped) (f : Fld) : Prop := ∃ kv ∈ G, f ∈ kv.2

theorem InG_nil (f : Fld) : ¬ InG [] f := fun ⟨_, h, _⟩ => nomatch h

theorem InG_cons (kv : String × List Fld) (G : Grouped) (f : Fld) : InG (kv :: G) f ↔ f ∈ kv.2 ∨ InG G f :=
  ⟨fun ⟨kv', h, hf⟩ => (List.mem_cons.mp h).elim (fun e => .inl (e ▸ hf)) fun h => .inr ⟨kv', h, hf⟩,
   fun h => h.elim (fun hf => ⟨kv, List.mem_cons_self .., hf⟩) fun ⟨kv', h, hf⟩ => ⟨kv', List.mem_cons_of_mem _ h, hf⟩⟩

theorem InG_extendKey (G : Grouped) (key : String) (fs : List Fld) (f : Fld) :
    InG (extendKey G key fs) f ↔ InG G f ∨ f ∈ fs := by
  induction G with
  | nil => rw [extendKey, InG_cons]; exact or_comm
  | cons kv rest ih =>
    obtain ⟨k, xs⟩ := kv
    simp only [extendKey]
    split
    · rw [InG_cons, InG_cons, List.mem_append]
      exact or_right_comm
    · rw [InG_cons, InG_cons, ih]
      exact or_assoc.symm

theorem InG_merge (g into : Grouped) (f : Fld) : InG (merge g into) f ↔ InG into f ∨ InG g f := by
  unfold merge
  induction g generalizing into with
  | nil => exact ⟨.inl, fun h => h.resolve_right (InG_nil f)⟩
  | cons kv rest ih =>
    rw [List.foldl_cons, ih, InG_extendKey, InG_cons]
    exact or_assoc

def gMax (h : Fld → Nat) : Grouped → Nat
  | [] => 0
  | (_, fs) :: rest => max (maxL (fs.map h)) (gMax h rest)

def GInv (P : Fld → Prop) (g : Grouped) : Prop := ∀ kv ∈ g, kv.2 ≠ [] ∧ ∀ f ∈ kv.2, P f

theorem gMax_le_iff (h : Fld → Nat) (G : Grouped) (b : Nat) : gMax h G ≤ b ↔ ∀ f, InG G f → h f ≤ b := by
  induction G with
  | nil => exact ⟨fun _ f hf => absurd hf (InG_nil f), fun _ => Nat.zero_le _⟩
  | cons kv rest ih =>
    obtain ⟨k, fs⟩ := kv
    simp only [gMax, Nat.max_le, ih, InG_cons]
    constructor
    · rintro ⟨h1, h2⟩ f (hf | hf)
      · exact Nat.le_trans (le_maxL (List.mem_map_of_mem hf)) h1
      · exact h2 f hf
    · intro h'
      refine ⟨maxL_le fun x hx => ?_, fun f hf => h' f (.inr hf)⟩
      obtain ⟨f, hf, rfl⟩ := List.mem_map.mp hx
      exact h' f (.inl hf)

def Keyed (G : Grouped) : Prop := ∀ kv ∈ G, kv.2 ≠ [] ∧ ∀ f ∈ kv.2, responseName f.alias f.name = kv.1

theorem Keyed_nil : Keyed [] := fun _ h => nomatch h

theorem Keyed_extendKey {G : Grouped} {key : String} {fs : List Fld} (hg : Keyed G) (hne : fs ≠ [])
    (hfs : ∀ f ∈ fs, responseName f.alias f.name = key) : Keyed (extendKey G key fs) := by
  induction G with
  | nil =>
    intro kv h
    obtain rfl := List.mem_singleton.mp h
    exact ⟨hne, hfs⟩
  | cons kv rest ih =>
    obtain ⟨k, xs⟩ := kv
    have hrest : Keyed rest := fun kv h => hg kv (List.mem_cons_of_mem _ h)
    have hhead := hg (k, xs) (List.mem_cons_self ..)
    simp only [extendKey]
    split
    · rename_i hk
      have hk' : k = key := by simpa using hk
      intro kv h
      rcases List.mem_cons.mp h with rfl | h
      · refine ⟨by simp [hne], fun g hg' => ?_⟩
        rcases List.mem_append.mp hg' with hg' | hg'
        · exact hhead.2 g hg'
        · exact (hfs g hg').trans hk'.symm
      · exact hrest kv h
    · intro kv h
      rcases List.mem_cons.mp h with rfl | h
      · exact hhead
      · exact ih hrest kv h

theorem Keyed_merge {g into : Grouped} (hg : Keyed g) (hi : Keyed into) : Keyed (merge g into) := by
  unfold merge
  induction g generalizing into with
  | nil => exact hi
  | cons kv rest ih =>
    have hhead := hg kv (List.mem_cons_self ..)
    exact ih (fun kv h => hg kv (List.mem_cons_of_mem _ h)) (Keyed_extendKey hi hhead.1 hhead.2)

theorem seenAfterCall_cases (mine callee : List String) :
    seenAfterCall mine callee = mine ∨ seenAfterCall mine callee = callee := by
  unfold seenAfterCall
  split
  · exact Or.inr rfl
  · split
    · exact Or.inl rfl
    · exact Or.inr rfl

section
variable (frags : List Frag) (vars : Vars)

/-- the fragment named `n` is defined and its body selects `f` -/
def FragReach (n : String) (f : Fld) : Prop := ∃ fr, lookupFrag frags n = some fr ∧ Reach frags vars fr.sels f

def Cov (S : List String) (f : Fld) : Prop := ∃ n ∈ S, FragReach frags vars n f

theorem Cov_markSeen {m : Option String} {S : List String} {f : Fld} (h : Cov frags vars (markSeen m S) f) :
    Cov frags vars S f ∨ ∃ n, m = some n ∧ FragReach frags vars n f := by
  cases m with
  | none => exact .inl h
  | some n =>
    have h' : Cov frags vars (if S.contains n then S else S ++ [n]) f := h
    split at h'
    · exact .inl h'
    · obtain ⟨k, hk, hf⟩ := h'
      rcases List.mem_append.mp hk with hk | hk
      · exact .inl ⟨k, hk, hf⟩
      · obtain rfl := List.mem_singleton.mp hk
        exact .inr ⟨k, rfl, hf⟩

theorem Cov_seenAfterCall {mine callee : List String} {f : Fld} (h : Cov frags vars (seenAfterCall mine callee) f) :
    Cov frags vars mine f ∨ Cov frags vars callee f := by
  rcases seenAfterCall_cases mine callee with h' | h' <;> rw [h'] at h
  · exact Or.inl h
  · exact Or.inr h

theorem reachS_not_skipped {s : Sel} {f : Fld} (h : ReachS frags vars s f) : skipped vars s.dirs = false := by
  cases h <;> assumption

def Asked : Ask → Fld → Prop
  | .nothing, _ => False
  | .fld g, f => f = g
  | .call b _, f => Reach frags vars b f

theorem reachS_of_asked (S : List String) {s : Sel} {f : Fld} (hs : skipped vars s.dirs = false)
    (h : Asked frags vars (ask frags S s) f) : ReachS frags vars s f := by
  cases s with
  | field a n d sub => cases h; exact .field a n d sub hs
  | inline d ss => obtain ⟨c, hc, hr⟩ := h; exact .inline d ss c f hs hc hr
  | spread n d =>
    rcases ask_spread frags S n d with ⟨ha, _⟩ | ⟨fr, hl, ha⟩ <;> rw [ha] at h
    · cases h
    · obtain ⟨c, hc, hr⟩ := h
      exact .spread n d fr c f hs hl hc hr

theorem asked_of_reachS (S : List String) {s : Sel} {f : Fld} (h : ReachS frags vars s f) :
    Asked frags vars (ask frags S s) f ∨ Cov frags vars S f := by
  cases h with
  | field a n d sub _ => exact .inl rfl
  | inline d ss c _ _ hc hr => exact .inl ⟨c, hc, hr⟩
  | spread n d fr c _ _ hl hc hr =>
    rcases ask_spread frags S n d with ⟨_, hS | hn⟩ | ⟨fr', hl', ha⟩
    · exact .inr ⟨n, by simpa using hS, fr, hl, c, hc, hr⟩
    · rw [hl] at hn; cases hn
    · rw [hl] at hl'
      cases hl'
      rw [ha]
      exact .inl ⟨c, hc, hr⟩

theorem asked_of_mark {S : List String} {s : Sel} {b : List Sel} {n : String} {f : Fld}
    (h : ask frags S s = .call b (some n)) (hf : FragReach frags vars n f) : Reach frags vars b f := by
  cases s with
  | field a n' d sub => cases h
  | inline d ss => cases h
  | spread n' d =>
    rcases ask_spread frags S n' d with ⟨ha, _⟩ | ⟨fr, hl, ha⟩ <;> rw [ha] at h <;> cases h
    obtain ⟨fr', hl', hr⟩ := hf
    rw [hl] at hl'
    cases hl'
    exact hr

/-- what a successful call delivers: exactly the selected fields, up to those that fragments seen before select -/
def Collected (ss : List Sel) (sn : List String) (g : Grouped) (s' : List String) : Prop :=
  (∀ f, InG g f → Reach frags vars ss f) ∧
  (∀ f, Reach frags vars ss f → InG g f ∨ Cov frags vars sn f) ∧
  (∀ f, Cov frags vars s' f → InG g f ∨ Cov frags vars sn f) ∧ Keyed g

section
variable {skipFn : Dirs → Vars → Except Err Bool} (hsk : ∀ d b, skipFn d vars = .ok b → b = skipped vars d)
  (rec : List Sel → List String → Except Err CState)
  (hrec : ∀ ss sn g s', rec ss sn = .ok (g, s') → Collected frags vars ss sn g s')
include hsk hrec

theorem step_spec {G : Grouped} {S : List String} {s : Sel} {G1 : Grouped} {S1 : List String}
    (h : collectStepG skipFn rec frags vars (G, S) s = .ok (G1, S1)) (hg : Keyed G) :
    (∀ f, InG G f → InG G1 f) ∧ (∀ f, InG G1 f → InG G f ∨ ReachS frags vars s f) ∧
    (∀ f, ReachS frags vars s f → InG G1 f ∨ Cov frags vars S f) ∧
    (∀ f, Cov frags vars S1 f → InG G1 f ∨ Cov frags vars S f) ∧ Keyed G1 := by
  rw [collectStepG_eq] at h
  rcases guarded_ok h with ⟨hr, he⟩ | ⟨hr, hk⟩
  · -- skipped: nothing is selected
    cases he
    have hs := hsk _ _ hr
    exact ⟨fun _ h => h, fun _ h => .inl h,
      fun f hf => absurd (reachS_not_skipped frags vars hf) (by rw [← hs]; exact Bool.noConfusion),
      fun _ h => .inr h, hg⟩
  · have hs : skipped vars s.dirs = false := (hsk _ _ hr).symm
    have hto := fun f => reachS_of_asked frags vars S (s := s) (f := f) hs
    have hfrom := fun f => asked_of_reachS frags vars S (s := s) (f := f)
    have hmark := fun b n f => asked_of_mark frags vars (S := S) (s := s) (b := b) (n := n) (f := f)
    generalize ask frags S s = a at hk hto hfrom hmark
    cases a with
    | nothing =>
      cases hk
      exact ⟨fun _ h => h, fun _ h => .inl h, fun f hf => .inr ((hfrom f hf).resolve_left id), fun _ h => .inr h, hg⟩
    | fld g =>
      cases hk
      refine ⟨fun f hf => (InG_extendKey _ _ _ _).mpr (.inl hf),
        fun f hf => ((InG_extendKey _ _ _ _).mp hf).imp_right fun h => hto f (List.mem_singleton.mp h),
        fun f hf => (hfrom f hf).imp_left fun h => (InG_extendKey _ _ _ _).mpr (.inr (List.mem_singleton.mpr h)),
        fun _ h => .inr h, Keyed_extendKey hg (List.cons_ne_nil _ _) fun f hf => ?_⟩
      obtain rfl := List.mem_singleton.mp hf
      rfl
    | call b m =>
      simp only [answer] at hk
      cases hc : rec b S with
      | error e => rw [hc] at hk; cases hk
      | ok r =>
        obtain ⟨g, s'⟩ := r
        rw [hc] at hk
        cases hk
        obtain ⟨c1, c2, c3, c4⟩ := hrec _ _ _ _ hc
        -- the fields of the body: collected by the call, or selected by a fragment seen before
        have body : ∀ f, Reach frags vars b f → InG (merge g G) f ∨ Cov frags vars S f := fun f hf =>
          (c2 f hf).imp_left fun h => (InG_merge _ _ _).mpr (.inr h)
        refine ⟨fun f hf => (InG_merge _ _ _).mpr (.inl hf),
          fun f hf => ((InG_merge _ _ _).mp hf).imp_right fun h => hto f (c1 f h),
          fun f hf => (hfrom f hf).elim (body f) .inr, fun f hf => ?_, Keyed_merge c4 hg⟩
        rcases Cov_markSeen frags vars hf with h1 | ⟨n, rfl, h2⟩
        · rcases Cov_seenAfterCall frags vars h1 with h3 | h3
          · exact .inr h3
          · exact (c3 f h3).imp_left fun h => (InG_merge _ _ _).mpr (.inr h)
        · exact body f (hmark b n f rfl h2)

theorem loop_spec : ∀ (sels : List Sel) (G : Grouped) (S : List String) (G' : Grouped) (S' : List String),
    loopM (collectStepG skipFn rec frags vars) (G, S) sels = .ok (G', S') → Keyed G →
    (∀ f, InG G f → InG G' f) ∧ (∀ f, InG G' f → InG G f ∨ Reach frags vars sels f) ∧
    (∀ f, Reach frags vars sels f → InG G' f ∨ Cov frags vars S f) ∧
    (∀ f, Cov frags vars S' f → InG G' f ∨ Cov frags vars S f) ∧ Keyed G' := by
  intro sels
  induction sels with
  | nil =>
    intro G S G' S' h hg
    cases h
    exact ⟨fun _ h => h, fun _ h => .inl h, fun f ⟨s, hs, _⟩ => (nomatch hs), fun _ h => .inr h, hg⟩
  | cons s ss ih =>
    intro G S G' S' h hg
    simp only [loopM] at h
    cases hst : collectStepG skipFn rec frags vars (G, S) s with
    | error e => rw [hst] at h; cases h
    | ok st =>
      obtain ⟨G1, S1⟩ := st
      rw [hst] at h
      obtain ⟨m1, s1, r1, i1, g1⟩ := step_spec frags vars hsk rec hrec hst hg
      obtain ⟨m2, s2, r2, i2, g2⟩ := ih G1 S1 G' S' h g1
      -- what the seen set covers after the step was collected by it, or covered before
      have cov1 : ∀ f, Cov frags vars S1 f → InG G' f ∨ Cov frags vars S f := fun f hf =>
        (i1 f hf).imp_left (m2 f)
      refine ⟨fun f hf => m2 f (m1 f hf), fun f hf => ?_, fun f ⟨c, hc, hr⟩ => ?_,
        fun f hf => (i2 f hf).elim .inl (cov1 f), g2⟩
      · rcases s2 f hf with hf | ⟨c, hc, hr⟩
        · exact (s1 f hf).imp_right fun h => ⟨s, List.mem_cons_self .., h⟩
        · exact .inr ⟨c, List.mem_cons_of_mem _ hc, hr⟩
      · rcases List.mem_cons.mp hc with rfl | hc
        · exact (r1 f hr).imp_left (m2 f)
        · exact (r2 f ⟨c, hc, hr⟩).elim .inl (cov1 f)

end

theorem collect_spec {skipFn : Dirs → Vars → Except Err Bool} (hsk : ∀ d b, skipFn d vars = .ok b → b = skipped vars d) :
    ∀ (k : Nat) (sels : List Sel) (seen : List String) (G : Grouped) (S' : List String),
    collectFieldsUntypedG skipFn k sels frags vars seen = .ok (G, S') → Collected frags vars sels seen G S' := by
  intro k
  induction k with
  | zero => intro sels seen G S' h; cases h
  | succ k ih =>
    intro sels seen G S' h
    obtain ⟨_, s, r, i, g⟩ := loop_spec frags vars hsk _ ih sels [] seen G S' h Keyed_nil
    exact ⟨fun f hf => (s f hf).resolve_left (InG_nil f), r, i, g⟩

theorem collect_strict {k : Nat} {sels : List Sel} {seen : List String} {G : Grouped} {S' : List String}
    (h : collectFieldsUntyped k sels frags vars seen = .ok (G, S')) : Collected frags vars sels seen G S' :=
  collect_spec frags vars (fun _ _ => skipSelection_eq) k sels seen G S' (collectFieldsUntyped_eq_G .. ▸ h)

theorem Collected.top {ss : List Sel} {g : Grouped} {s' : List String} (h : Collected frags vars ss [] g s') (f : Fld) :
    InG g f ↔ Reach frags vars ss f :=
  ⟨h.1 f, fun hf => (h.2.1 f hf).resolve_right fun ⟨_, hn, _⟩ => (nomatch hn)⟩

end

section
variable (frags : List Frag) (vars : Vars) (w : String → Nat)

/-- canonical levels already accounted for by the seen fragments -/
def FM (s : List String) : Nat := maxL (s.map (fragLv frags vars w))

/-- measure of a collected field: the levels it contributes -/
def fLv (f : Fld) : Nat := 1 + cL frags vars w f.sub

/-- what a recursive call of potential < K delivers -/
def FldOk (K : Nat) (f : Fld) : Prop := potL w f.sub + 1 ≤ K ∧ boundL vars f.sub = true

/-- specification of one (recursive) call of `collect_fields_untyped` -/
def CollectOk (K : Nat) (sels : List Sel) (seen : List String) (r : Except Err CState) : Prop :=
  ∃ G S', r = .ok (G, S') ∧
    gMax (fLv frags vars w) G ≤ cL frags vars w sels ∧
    cL frags vars w sels ≤ max (gMax (fLv frags vars w) G) (FM frags vars w seen) ∧
    FM frags vars w S' ≤ max (gMax (fLv frags vars w) G) (FM frags vars w seen) ∧
    GInv (FldOk vars w K) G

theorem cLv_le_cL {l : List Sel} {c : Sel} (h : c ∈ l) : cLv frags vars w c ≤ cL frags vars w l :=
  le_maxL (List.mem_map_of_mem h)

theorem cL_le {l : List Sel} {b : Nat} (h : ∀ c ∈ l, cLv frags vars w c ≤ b) : cL frags vars w l ≤ b :=
  maxL_le fun x hx => by
    obtain ⟨c, hc, rfl⟩ := List.mem_map.mp hx
    exact h c hc

theorem fragLv_some {n : String} {fr : Frag} (h : lookupFrag frags n = some fr) :
    fragLv frags vars w n = cL frags vars w fr.sels := by
  simp only [fragLv, h]

variable (hc : Consistent frags w)
include hc

theorem fLv_le_cLv {s : Sel} {f : Fld} (h : ReachS frags vars s f) : fLv frags vars w f ≤ cLv frags vars w s := by
  induction h with
  | field a n d sub hs => rw [cLv_field frags vars w hc, hs]; exact Nat.le_refl _
  | inline d ss c f hs hm _ ih =>
    rw [cLv_inline frags vars w hc, hs]
    exact Nat.le_trans ih (cLv_le_cL frags vars w hm)
  | spread n d fr c f hs hl hm _ ih =>
    rw [cLv_spread frags vars w hc, hs, if_neg Bool.false_ne_true, fragLv_some frags vars w hl]
    exact Nat.le_trans ih (cLv_le_cL frags vars w hm)

theorem cLv_le_of_reach (b : Nat) : ∀ s : Sel,
    (∀ f, ReachS frags vars s f → fLv frags vars w f ≤ b) → cLv frags vars w s ≤ b := by
  refine unfold_induction hc ?_ ?_ ?_
  · intro a n d sub _ h
    rw [cLv_field frags vars w hc]
    cases hs : skipped vars d with
    | true => exact Nat.zero_le _
    | false => exact h _ (.field a n d sub hs)
  · intro d ss ih h
    rw [cLv_inline frags vars w hc]
    cases hs : skipped vars d with
    | true => exact Nat.zero_le _
    | false => exact cL_le frags vars w fun c hcm => ih c hcm fun f hr => h f (.inline d ss c f hs hcm hr)
  · intro n d ih h
    rw [cLv_spread frags vars w hc]
    cases hs : skipped vars d with
    | true => exact Nat.zero_le _
    | false =>
      cases hl : lookupFrag frags n with
      | none => simp only [fragLv, hl]; exact Nat.zero_le _
      | some fr =>
        rw [if_neg Bool.false_ne_true, fragLv_some frags vars w hl]
        exact cL_le frags vars w fun c hcm => ih fr hl c hcm fun f hr => h f (.spread n d fr c f hs hl hcm hr)

/-- the two specifications meet: a bound on the levels of a selection set is a bound on `1 + levels below` of every
    field it selects -/
theorem cL_le_iff (l : List Sel) (b : Nat) :
    cL frags vars w l ≤ b ↔ ∀ f, Reach frags vars l f → fLv frags vars w f ≤ b :=
  ⟨fun h _ ⟨_, hcm, hr⟩ => Nat.le_trans (fLv_le_cLv frags vars w hc hr) (Nat.le_trans (cLv_le_cL frags vars w hcm) h),
   fun h => cL_le frags vars w fun c hcm => cLv_le_of_reach frags vars w hc b c fun f hr => h f ⟨c, hcm, hr⟩⟩

theorem FM_le_iff (S : List String) (b : Nat) :
    FM frags vars w S ≤ b ↔ ∀ f, Cov frags vars S f → fLv frags vars w f ≤ b := by
  constructor
  · rintro h f ⟨n, hn, fr, hl, hr⟩
    have : fragLv frags vars w n ≤ b := Nat.le_trans (le_maxL (List.mem_map_of_mem hn)) h
    rw [fragLv_some frags vars w hl] at this
    exact (cL_le_iff frags vars w hc _ _).mp this f hr
  · intro h
    refine maxL_le fun x hx => ?_
    obtain ⟨n, hn, rfl⟩ := List.mem_map.mp hx
    cases hl : lookupFrag frags n with
    | none => simp only [fragLv, hl]; exact Nat.zero_le _
    | some fr =>
      rw [fragLv_some frags vars w hl]
      exact (cL_le_iff frags vars w hc _ _).mpr fun f hr => h f ⟨n, hn, fr, hl, hr⟩

/-- the numeric form of `Collected` -/
theorem Collected.levels {ss : List Sel} {sn : List String} {g : Grouped} {s' : List String}
    (h : Collected frags vars ss sn g s') :
    gMax (fLv frags vars w) g ≤ cL frags vars w ss ∧
    cL frags vars w ss ≤ max (gMax (fLv frags vars w) g) (FM frags vars w sn) ∧
    FM frags vars w s' ≤ max (gMax (fLv frags vars w) g) (FM frags vars w sn) := by
  obtain ⟨c1, c2, c3, _⟩ := h
  -- a field that is collected or covered lies below the bound
  have key : ∀ f, InG g f ∨ Cov frags vars sn f →
      fLv frags vars w f ≤ max (gMax (fLv frags vars w) g) (FM frags vars w sn) := by
    rintro f (hf | hf)
    · exact Nat.le_trans ((gMax_le_iff _ g _).mp (Nat.le_refl _) f hf) (Nat.le_max_left _ _)
    · exact Nat.le_trans ((FM_le_iff frags vars w hc sn _).mp (Nat.le_refl _) f hf) (Nat.le_max_right _ _)
  exact ⟨(gMax_le_iff _ g _).mpr fun f hf => (cL_le_iff frags vars w hc ss _).mp (Nat.le_refl _) f (c1 f hf),
    (cL_le_iff frags vars w hc ss _).mpr fun f hf => key f (c2 f hf),
    (FM_le_iff frags vars w hc s' _).mpr fun f hf => key f (c3 f hf)⟩

variable (hfb : ∀ f ∈ frags, boundL vars f.sels = true)
include hfb

theorem ask_call_lt {S : List String} {s : Sel} {b : List Sel} {m : Option String} (h : ask frags S s = .call b m)
    (hb : boundSel vars s = true) : potL w b + 1 ≤ pot w s ∧ boundL vars b = true := by
  cases s with
  | field a n d sub => cases h
  | inline d ss =>
    cases h
    rw [pot_inline]
    exact ⟨Nat.le_refl _, (Bool.and_eq_true _ _ ▸ hb : _ ∧ _).2⟩
  | spread n d =>
    rcases ask_spread frags S n d with ⟨ha, _⟩ | ⟨fr, hl, ha⟩ <;> rw [ha] at h <;> cases h
    have ⟨hm, hn⟩ := lookupFrag_some hl
    rw [pot_spread]
    exact ⟨Nat.succ_le_succ (hn ▸ hc fr hm), hfb fr hm⟩

theorem reachS_sub {s : Sel} {f : Fld} (h : ReachS frags vars s f) (hb : boundSel vars s = true) :
    potL w f.sub + 1 ≤ pot w s ∧ boundL vars f.sub = true := by
  induction h with
  | field a n d sub hs => rw [pot_field]; exact ⟨Nat.le_refl _, (Bool.and_eq_true _ _ ▸ hb : _ ∧ _).2⟩
  | inline d ss c f hs hm _ ih =>
    have hbs : boundL vars ss = true := (Bool.and_eq_true _ _ ▸ hb : _ ∧ _).2
    have ⟨i1, i2⟩ := ih (boundL_mem vars ss c hbs hm)
    rw [pot_inline]
    exact ⟨Nat.le_succ_of_le (Nat.le_trans i1 (pot_le_potL w ss c hm)), i2⟩
  | spread n d fr c f hs hl hm _ ih =>
    have ⟨hmf, hn⟩ := lookupFrag_some hl
    have ⟨i1, i2⟩ := ih (boundL_mem vars fr.sels c (hfb fr hmf) hm)
    rw [pot_spread]
    exact ⟨Nat.le_succ_of_le (Nat.le_trans i1 (Nat.le_trans (pot_le_potL w fr.sels c hm) (hn ▸ hc fr hmf))), i2⟩

theorem loop_total (K : Nat) (rec : List Sel → List String → Except Err CState)
    (hrec : ∀ ss sn, potL w ss < K → boundL vars ss = true → FailsWith (fun _ => False) (rec ss sn))
    (sels : List Sel) (st : CState) (hp : potL w sels ≤ K) (hb : boundL vars sels = true) :
    FailsWith (fun _ => False) (loopM (collectStepG skipSelection rec frags vars) st sels) := by
  refine .loopM sels st fun st s hs => ?_
  have hbs := boundL_mem vars sels s hb hs
  rw [collectStepG_eq, skipSelection_ok vars _ (boundSel_dirs hbs)]
  refine .guarded (.ok _) (.answer fun b m ha => ?_)
  have ⟨h1, h2⟩ := ask_call_lt frags vars w hc hfb ha hbs
  exact hrec b _ (Nat.lt_of_lt_of_le h1 (Nat.le_trans (pot_le_potL w sels s hs) hp)) h2

theorem collect_total : ∀ (K : Nat) (sels : List Sel) (seen : List String), potL w sels ≤ K → boundL vars sels = true →
    FailsWith (fun _ => False) (collectFieldsUntypedG skipSelection (K + 1) sels frags vars seen) := by
  intro K
  induction K with
  | zero =>
    exact fun sels seen => loop_total frags vars w hc hfb 0 _ (fun _ _ h => absurd h (Nat.not_lt_zero _)) sels _
  | succ K ih =>
    exact fun sels seen => loop_total frags vars w hc hfb (K + 1) _ (fun ss sn h => ih ss sn (Nat.le_of_lt_succ h)) sels _

end

section
variable (frags : List Frag) (vars : Vars) (w : String → Nat)

theorem collect_ok (hc : Consistent frags w) (hfb : ∀ f ∈ frags, boundL vars f.sels = true) :
    ∀ (K : Nat) (sels : List Sel) (seen : List String), potL w sels ≤ K → boundL vars sels = true →
      CollectOk frags vars w K sels seen (collectFieldsUntyped (K + 1) sels frags vars seen) := by
  intro K sels seen hp hb
  rw [collectFieldsUntyped_eq_G]
  obtain ⟨⟨G, S'⟩, e⟩ := (collect_total frags vars w hc hfb K sels seen hp hb).exists_ok
  have hC := collect_spec frags vars (fun _ _ => skipSelection_eq) _ _ _ _ _ e
  obtain ⟨l1, l2, l3⟩ := hC.levels frags vars w hc
  refine ⟨G, S', e, l1, l2, l3, fun kv hkv => ⟨(hC.2.2.2 kv hkv).1, fun f hf => ?_⟩⟩
  obtain ⟨c, hcm, hr⟩ := hC.1 f ⟨kv, hkv, hf⟩
  have ⟨h1, h2⟩ := reachS_sub frags vars w hc hfb hr (boundL_mem vars sels c hb hcm)
  exact ⟨Nat.le_trans h1 (Nat.le_trans (pot_le_potL w sels c hcm) hp), h2⟩

theorem collect_top (hc : Consistent frags w) (hfb : ∀ f ∈ frags, boundL vars f.sels = true)
    (K : Nat) (sels : List Sel) (hp : potL w sels ≤ K) (hb : boundL vars sels = true) :
    ∃ G S', collectFieldsUntyped (K + 1) sels frags vars [] = .ok (G, S') ∧
      cL frags vars w sels = gMax (fLv frags vars w) G ∧ GInv (FldOk vars w K) G := by
  obtain ⟨G, S', e, c1, c2, _, c4⟩ := collect_ok frags vars w hc hfb K sels [] hp hb
  exact ⟨G, S', e, Nat.le_antisymm (by simpa [FM, maxL] using c2) c1, c4⟩

theorem cL_flatMap_sub (fs : List Fld) (hne : fs ≠ []) :
    1 + cL frags vars w (fs.flatMap (·.sub)) = maxL (fs.map (fLv frags vars w)) := by
  induction fs with
  | nil => exact absurd rfl hne
  | cons f rest ih =>
    cases rest with
    | nil => simp [maxL, fLv]
    | cons g rest' =>
      rw [List.flatMap_cons, cL_append, List.map_cons, maxL, ← ih (List.cons_ne_nil _ _), fLv, Nat.add_max_add_left]

theorem subs_ok (K : Nat) (fs : List Fld) (hne : fs ≠ []) (h : ∀ f ∈ fs, FldOk vars w K f) :
    potL w (fs.flatMap (·.sub)) + 1 ≤ K ∧ boundL vars (fs.flatMap (·.sub)) = true := by
  obtain ⟨f0, _, rfl⟩ := List.exists_cons_of_ne_nil hne
  obtain ⟨K, rfl⟩ : ∃ j, K = j + 1 :=
    Nat.exists_eq_add_one_of_ne_zero (Nat.ne_of_gt (Nat.lt_of_lt_of_le (Nat.succ_pos _) (h f0 (List.mem_cons_self ..)).1))
  refine ⟨Nat.succ_le_succ ((potL_le_iff w _ K).mpr fun s hs => ?_), ?_⟩
  · obtain ⟨f, hf, hsf⟩ := List.mem_flatMap.mp hs
    exact Nat.le_trans (pot_le_potL w f.sub s hsf) (Nat.le_of_succ_le_succ (h f hf).1)
  · rw [boundL_eq_all, List.all_flatMap, List.all_eq_true]
    intro f hf
    rw [← boundL_eq_all]
    exact (h f hf).2

theorem levelsLoop_ok (K : Nat) (rec : List Sel → Except Err Nat)
    (hrec : ∀ ss, potL w ss + 1 ≤ K → boundL vars ss = true → rec ss = .ok (cL frags vars w ss)) :
    ∀ (G : Grouped) (lv : Nat), GInv (FldOk vars w K) G →
      levelsLoop rec lv G = .ok (max lv (gMax (fLv frags vars w) G)) := by
  intro G
  induction G with
  | nil => intro lv _; simp [levelsLoop, gMax]
  | cons kv rest ih =>
    intro lv hg
    obtain ⟨k, fs⟩ := kv
    have hhead := hg (k, fs) (by simp)
    have ⟨hp, hb⟩ := subs_ok vars w K fs hhead.1 hhead.2
    simp only [levelsLoop, hrec _ hp hb]
    rw [ih _ (fun kv h => hg kv (by simp [h]))]
    rw [cL_flatMap_sub frags vars w fs hhead.1, gMax, Nat.max_assoc]

theorem nestingLevels_ok (hc : Consistent frags w) (hfb : ∀ f ∈ frags, boundL vars f.sels = true) :
    ∀ (K : Nat) (sels : List Sel), potL w sels ≤ K → boundL vars sels = true →
      nestingLevels (K + 1) sels frags vars = .ok (cL frags vars w sels) := by
  have step : ∀ K, (∀ ss, potL w ss + 1 ≤ K → boundL vars ss = true →
        nestingLevels K ss frags vars = .ok (cL frags vars w ss)) →
      ∀ sels, potL w sels ≤ K → boundL vars sels = true →
        nestingLevels (K + 1) sels frags vars = .ok (cL frags vars w sels) := by
    intro K hrec sels hp hb
    obtain ⟨G, S', e, c, c4⟩ := collect_top frags vars w hc hfb K sels hp hb
    have hun : nestingLevels (K + 1) sels frags vars =
        (match collectFieldsUntyped (K + 1) sels frags vars [] with
         | .error e => .error e
         | .ok (collected, _) => levelsLoop (fun ss => nestingLevels K ss frags vars) 0 collected) := rfl
    rw [hun, e]
    show levelsLoop (fun ss => nestingLevels K ss frags vars) 0 G = _
    rw [levelsLoop_ok frags vars w K _ hrec G 0 c4, Nat.zero_max, c]
  intro K
  induction K with
  | zero => exact step 0 fun ss h => absurd h (Nat.not_succ_le_zero _)
  | succ K ih => exact step (K + 1) fun ss h hb' => ih ss (Nat.le_of_succ_le_succ h) hb'

end

end PyGql.Depth.Lemmas
