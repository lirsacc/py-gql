/-
  `Spec.typedNodes` and `Spec.viewNodes` (generic context enumeration with `View.enter`) are the same list.
-/
import PyGqlModel.Spec.CtxNodes
namespace PyGql.Validate.Spec
open PyGql PyGql.Validate

theorem withView_nil' (v : View) : withView v [] = [] := rfl
theorem withView_cons (v : View) (n : Node) (ns : List Node) : withView v (n :: ns) = (n, v) :: withView v ns := rfl
theorem withView_append (v : View) (a b : List Node) : withView v (a ++ b) = withView v a ++ withView v b := by
  simp [withView]

mutual
theorem gnValue_view (s : SchemaD) : ∀ (x : Value) (v : View), gnValue (View.enter s) v x = withView v (valueNodes x)
  | .list vs, v => by simp only [gnValue, valueNodes, withView_cons, gnValues_view s vs]; rfl
  | .obj fs, v => by simp only [gnValue, valueNodes, withView_cons, gnObjFields_view s fs]; rfl
  | .var a, v => by simp only [gnValue]; rfl
  | .int a, v => by simp only [gnValue]; rfl
  | .float a, v => by simp only [gnValue]; rfl
  | .str a, v => by simp only [gnValue]; rfl
  | .bool a, v => by simp only [gnValue]; rfl
  | .null, v => by simp only [gnValue]; rfl
  | .enum a, v => by simp only [gnValue]; rfl
theorem gnValues_view (s : SchemaD) : ∀ (xs : List Value) (v : View), gnValues (View.enter s) v xs = withView v (valuesNodes xs)
  | [], v => by rw [gnValues, valuesNodes]; rfl
  | x :: xs, v => by rw [gnValues, valuesNodes, withView_append, gnValue_view s x, gnValues_view s xs]
theorem gnObjField_view (s : SchemaD) : ∀ (f : ObjField) (v : View), gnObjField (View.enter s) v f = withView v (objFieldNodes f)
  | .mk n x, v => by rw [gnObjField, objFieldNodes, withView_cons, gnValue_view s x]; rfl
theorem gnObjFields_view (s : SchemaD) : ∀ (fs : List ObjField) (v : View), gnObjFields (View.enter s) v fs = withView v (objFieldsNodes fs)
  | [], v => by rw [gnObjFields, objFieldsNodes]; rfl
  | f :: fs, v => by rw [gnObjFields, objFieldsNodes, withView_append, gnObjField_view s f, gnObjFields_view s fs]
end

theorem gnArgs_view (s : SchemaD) (as : List Arg) (v : View) : gnArgs (View.enter s) v as = withView v (argsNodes as) := by
  induction as with
  | nil => rfl
  | cons a as ih =>
    simp only [gnArgs, argsNodes, List.flatMap_cons, withView_append] at ih ⊢
    rw [ih, gnArg, argNodes, withView_cons, gnValue_view]; rfl

theorem gnDir_view (s : SchemaD) (d : Dir) (v : View) : gnDir (View.enter s) v d = tnDir s v d := by
  rw [gnDir, tnDir, gnArgs_view]

theorem gnDirs_view (s : SchemaD) (ds : List Dir) (v : View) : gnDirs (View.enter s) v ds = tnDirs s v ds := by
  simp only [gnDirs, tnDirs]
  congr 1
  funext d
  exact gnDir_view s d v

mutual
theorem gnSel_view (s : SchemaD) : ∀ (x : Sel) (v : View), gnSel (View.enter s) v x = tnSel s v x
  | .field al name args dirs true id sub, v => by
    rw [gnSel, tnSel]; simp only [↓reduceIte, gnArgs_view, gnDirs_view, gnSels_view s sub]
  | .field al name args dirs false id sub, v => by
    rw [gnSel, tnSel]; simp only [Bool.false_eq_true, ↓reduceIte, gnArgs_view, gnDirs_view]
  | .spread name dirs, v => by
    rw [gnSel, tnSel, gnDirs_view]; rfl
  | .inline on dirs id sub, v => by
    rw [gnSel, tnSel]; simp only [gnDirs_view, gnSels_view s sub]
theorem gnSels_view (s : SchemaD) : ∀ (xs : List Sel) (v : View), gnSels (View.enter s) v xs = tnSels s v xs
  | [], v => by rw [gnSels, tnSels]
  | x :: xs, v => by rw [gnSels, tnSels, gnSel_view s x, gnSels_view s xs]
end

theorem gnVarDefs_view (s : SchemaD) (vars : List VarDef) (v : View) :
    vars.flatMap (gnVarDef (View.enter s) v) = vars.flatMap (tnVarDef s v) := by
  induction vars with
  | nil => rfl
  | cons x xs ih =>
    simp only [List.flatMap_cons, ih]
    congr 1
    have e1 : View.enter s (.varDef x) v = v := rfl
    have e2 : View.enter s (.typeNode x.type) v = v := rfl
    rw [gnVarDef, tnVarDef, withView_cons, withView_append, gnDirs_view, e1, e2]
    cases x.default with
    | none => simp [withView]
    | some dv => simp only [gnValue_view]; simp [withView]

theorem gnDef_view (s : SchemaD) (d : Def) : gnDef (View.enter s) {} d = tnDef s d := by
  cases d with
  | op kind name vars dirs id sels => simp only [gnDef, tnDef, gnVarDefs_view, gnDirs_view, gnSels_view]
  | frag name on dirs id sels => simp only [gnDef, tnDef, gnDirs_view, gnSels_view]
  | ts a b => rfl

theorem typedNodes_eq_viewNodes (s : SchemaD) (d : Doc) : typedNodes s d = viewNodes s d := by
  simp only [typedNodes, viewNodes, gnDoc]
  congr 1
  funext x
  exact (gnDef_view s x).symm

end PyGql.Validate.Spec
