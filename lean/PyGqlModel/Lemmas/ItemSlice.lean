/-
  The matcher of `Spec/Grammar.lean` under replacing what FOLLOWS the matched tokens (the matcher only ever looks at
  the next token: optional tokens and look-ahead restrictions; a PLAIN item has neither and does not look at all),
  replacing the token in front (it only matters when the item derives nothing), and descending to a sub-node.  Together with `Lemmas/ItemMapLoc.lean` (moving every
  position) and `Lemmas/LexSlice.lean` these give the character-level `span_reparse`.
-/
import PyGqlModel.Lemmas.ParseCore
import PyGqlModel.Lemmas.LexSlice
namespace PyGql.Spec
open PyGql PyGql.Ast PyGql.Parse

def locDown (d : Nat) : Loc → Loc
  | none => none
  | some (a, b) => some (a - d, b - d)

def locUp (d : Nat) : Loc → Loc
  | none => none
  | some (a, b) => some (a + d, b + d)

namespace Item

mutual
def down (d : Nat) : Item → Item
  | .node loc is => .node (locDown d loc) (downAll d is)
  | .tok k v => .tok k v
  | .optTok k v => .optTok k v
  | .nla k => .nla k
def downAll (d : Nat) : List Item → List Item
  | [] => []
  | i :: is => i.down d :: downAll d is
end

/-! Four shape predicates, each what one fact about the matcher needs.  `lead`: the item consumes a token (`check_lead`).
`solid`: its match survives another follower that looks the same to it (`check_follower`) and another token in front
(`check_last_indep`) — what `Framed.slice` asks of the node it cuts out.  `plain`: nothing below looks at the follower, so
any follower will do (`check_follower`, first alternative).  `rigid`: all three (`rigid_spec`); the views are rigid except
where the grammar has an optional token or a look-ahead restriction (`Lemmas/SpanRigid.lean`); `Framed.free` asks for
`solid` and `plain`. -/

mutual
/-- the item certainly derives at least one token (it is a token, or a node one of whose parts certainly does) -/
def lead : Item → Bool
  | .tok _ _ => true
  | .node _ is => leadAll is
  | _ => false
def leadAll : List Item → Bool
  | [] => false
  | i :: is => i.lead || leadAll is
end

mutual
/-- every node below certainly derives a token, and no optional token / look-ahead restriction concerns `<EOF>` -/
def solid : Item → Bool
  | .tok _ _ => true
  | .optTok k _ => k != .eof
  | .nla k => k != .eof
  | .node _ is => leadAll is && solidAll is
def solidAll : List Item → Bool
  | [] => true
  | i :: is => i.solid && solidAll is
end

mutual
def up (d : Nat) : Item → Item
  | .node loc is => .node (locUp d loc) (upAll d is)
  | .tok k v => .tok k v
  | .optTok k v => .optTok k v
  | .nla k => .nla k
def upAll (d : Nat) : List Item → List Item
  | [] => []
  | i :: is => i.up d :: upAll d is
end

mutual
/-- no optional token and no look-ahead restriction anywhere below -/
def plain : Item → Bool
  | .tok _ _ => true
  | .optTok _ _ => false
  | .nla _ => false
  | .node _ is => plainAll is
def plainAll : List Item → Bool
  | [] => true
  | i :: is => i.plain && plainAll is
end

mutual
/-- only tokens and non-empty nodes below: the item derives the same tokens whatever stands around it -/
def rigid : Item → Bool
  | .tok _ _ => true
  | .node _ is => !is.isEmpty && rigidAll is
  | _ => false
def rigidAll : List Item → Bool
  | [] => true
  | i :: is => i.rigid && rigidAll is
end

inductive Sub (j : Item) : Item → Prop
  | refl : Sub j j
  | node {loc : Loc} {is : List Item} {i : Item} : i ∈ is → Sub j i → Sub j (.node loc is)

end Item

theorem leadAll_eq_any : ∀ is : List Item, Item.leadAll is = is.any Item.lead
  | [] => rfl
  | i :: is => by rw [Item.leadAll, List.any_cons, leadAll_eq_any is]

theorem solidAll_eq_all : ∀ is : List Item, Item.solidAll is = is.all Item.solid
  | [] => rfl
  | i :: is => by rw [Item.solidAll, List.all_cons, solidAll_eq_all is]

theorem plainAll_eq_all : ∀ is : List Item, Item.plainAll is = is.all Item.plain
  | [] => rfl
  | i :: is => by rw [Item.plainAll, List.all_cons, plainAll_eq_all is]

theorem rigidAll_eq_all : ∀ is : List Item, Item.rigidAll is = is.all Item.rigid
  | [] => rfl
  | i :: is => by rw [Item.rigidAll, List.all_cons, rigidAll_eq_all is]

mutual
theorem rigid_spec : ∀ i : Item, i.rigid = true → i.lead = true ∧ i.solid = true ∧ i.plain = true
  | .tok _ _, _ => ⟨rfl, rfl, rfl⟩
  | .optTok _ _, h => by cases h
  | .nla _, h => by cases h
  | .node _ is, h => by
    simp only [Item.rigid, Bool.and_eq_true] at h
    obtain ⟨h1, h2, h3⟩ := rigidAll_spec is h.2
    have hl := h1 (by simpa using h.1)
    simp only [Item.lead, Item.solid, Item.plain, hl, h2, h3, Bool.and_self, and_self]
theorem rigidAll_spec : ∀ is : List Item, Item.rigidAll is = true →
    (is ≠ [] → Item.leadAll is = true) ∧ Item.solidAll is = true ∧ Item.plainAll is = true
  | [], _ => ⟨fun h => absurd rfl h, rfl, rfl⟩
  | i :: is, h => by
    simp only [Item.rigidAll, Bool.and_eq_true] at h
    obtain ⟨a1, a2, a3⟩ := rigid_spec i h.1
    obtain ⟨_, b2, b3⟩ := rigidAll_spec is h.2
    simp only [Item.leadAll, Item.solidAll, Item.plainAll, a1, a2, a3, b2, b3, Bool.true_or, Bool.and_self, and_self,
      implies_true]
end

theorem lead_of_rigid {i : Item} (h : i.rigid = true) : i.lead = true := (rigid_spec i h).1
theorem solid_of_rigid {i : Item} (h : i.rigid = true) : i.solid = true := (rigid_spec i h).2.1
theorem plain_of_rigid {i : Item} (h : i.rigid = true) : i.plain = true := (rigid_spec i h).2.2

theorem all_solid_of_rigid {is : List Item} (h : is.all Item.rigid = true) : is.all Item.solid = true :=
  solidAll_eq_all is ▸ (rigidAll_spec is (rigidAll_eq_all is ▸ h)).2.1

theorem all_plain_of_rigid {is : List Item} (h : is.all Item.rigid = true) : is.all Item.plain = true :=
  plainAll_eq_all is ▸ (rigidAll_spec is (rigidAll_eq_all is ▸ h)).2.2

/-- a tail the matcher cannot tell from the end of the input: empty, or starting with `<EOF>` -/
def Neutral (ts : List Tok) : Prop := ∀ t tl, ts = t :: tl → t.kind = .eof

/-- `rest2` may stand for `rest` behind a matched item: same next token, or neutral -/
def Comp (rest rest2 : List Tok) : Prop := rest2.head? = rest.head? ∨ Neutral rest2

theorem Comp.append (p : List Tok) {rest rest2 : List Tok} (h : Comp rest rest2) : Comp (p ++ rest) (p ++ rest2) := by
  cases p with
  | nil => exact h
  | cons t tl => exact .inl rfl

theorem cls_ne_of_eof {t : Tok} {k : TokKind} {v : Text} (ht : t.kind = .eof) (hk : (k != .eof) = true) :
    cls t ≠ (k, v) := by
  intro e
  have : t.kind = k := congrArg Prod.fst e
  rw [ht] at this; subst this; simp at hk

mutual
theorem check_lead (fl : Flags) : ∀ (i : Item) (l l' : Tok) (ts rest : List Tok), i.lead = true →
    i.check fl l ts = some (l', rest) → rest.length < ts.length
  | .tok k v, l, l', ts, rest, _, h => by
    rw [check_tok] at h
    obtain ⟨t, rfl, _, _⟩ := h
    simp
  | .optTok k v, _, _, _, _, hl, _ => by simp [Item.lead] at hl
  | .nla k, _, _, _, _, hl, _ => by simp [Item.lead] at hl
  | .node loc is, l, l', ts, rest, hl, h => by
    rw [check_node] at h
    obtain ⟨f, tl, rfl, hall, _⟩ := h
    simp only [Item.lead] at hl
    exact checkAll_lead fl is l l' (f :: tl) rest hl hall
theorem checkAll_lead (fl : Flags) : ∀ (is : List Item) (l l' : Tok) (ts rest : List Tok), Item.leadAll is = true →
    Item.checkAll fl is l ts = some (l', rest) → rest.length < ts.length
  | [], _, _, _, _, hl, _ => by simp [Item.leadAll] at hl
  | i :: is, l, l', ts, rest, hl, h => by
    rw [checkAll_cons] at h
    obtain ⟨l1, ts1, h1, h2⟩ := h
    simp only [Item.leadAll, Bool.or_eq_true] at hl
    rcases hl with hl | hl
    · have a := check_lead fl i l l1 ts ts1 hl h1
      have b := checkAll_len h2
      omega
    · have a := check_len h1
      have b := checkAll_lead fl is l1 l' ts1 rest hl h2
      omega
end

mutual
theorem check_follower (fl : Flags) : ∀ (i : Item) (l l' : Tok) (ts rest : List Tok), i.solid = true →
    i.check fl l ts = some (l', rest) →
    ∃ pre, ts = pre ++ rest ∧
      ∀ rest2, i.plain = true ∨ Comp rest rest2 → i.check fl l (pre ++ rest2) = some (l', rest2)
  | .tok k v, l, l', ts, rest, _, h => by
    rw [check_tok] at h
    obtain ⟨t, rfl, hc, rfl⟩ := h
    refine ⟨[l'], rfl, fun rest2 _ => ?_⟩
    rw [check_tok]; exact ⟨_, rfl, hc, rfl⟩
  | .optTok k v, l, l', ts, rest, hs, h => by
    rw [check_optTok] at h
    simp only [Item.solid] at hs
    rcases h with ⟨t, rfl, hc, rfl⟩ | ⟨rfl, rfl, hn⟩
    · refine ⟨[l'], rfl, fun rest2 _ => ?_⟩
      rw [check_optTok]; exact .inl ⟨_, rfl, hc, rfl⟩
    · refine ⟨[], rfl, fun rest2 hc => ?_⟩
      rw [check_optTok]
      refine .inr ⟨rfl, rfl, ?_⟩
      intro t tl e
      subst e
      rcases hc with hp | hh | hn2
      · cases hp
      · cases rest with
        | nil => simp at hh
        | cons t0 tl0 =>
          simp at hh; subst hh; exact hn _ tl0 rfl
      · exact cls_ne_of_eof (hn2 t tl rfl) hs
  | .nla k, l, l', ts, rest, hs, h => by
    rw [check_nla] at h
    simp only [Item.solid] at hs
    obtain ⟨rfl, rfl, hn⟩ := h
    refine ⟨[], rfl, fun rest2 hc => ?_⟩
    rw [check_nla]
    refine ⟨rfl, rfl, ?_⟩
    intro t tl e
    subst e
    rcases hc with hp | hh | hn2
    · cases hp
    · cases rest with
      | nil => simp at hh
      | cons t0 tl0 =>
        simp at hh; subst hh; exact hn _ tl0 rfl
    · intro e; rw [hn2 t tl rfl] at e; subst e; simp at hs
  | .node loc is, l, l', ts, rest, hs, h => by
    rw [check_node] at h
    obtain ⟨f, tl, rfl, hall, hloc⟩ := h
    simp only [Item.solid, Bool.and_eq_true] at hs
    obtain ⟨pre, hpre, hr⟩ := checkAll_follower fl is l l' (f :: tl) rest hs.2 hall
    have hlt := checkAll_lead fl is l l' (f :: tl) rest hs.1 hall
    cases pre with
    | nil => simp at hpre; subst hpre; simp at hlt
    | cons f' tl' =>
      simp only [List.cons_append, List.cons.injEq] at hpre
      obtain ⟨rfl, rfl⟩ := hpre
      refine ⟨f :: tl', rfl, fun rest2 hc => ?_⟩
      rw [check_node]
      exact ⟨f, tl' ++ rest2, rfl, hr rest2 hc, hloc⟩
theorem checkAll_follower (fl : Flags) : ∀ (is : List Item) (l l' : Tok) (ts rest : List Tok),
    Item.solidAll is = true → Item.checkAll fl is l ts = some (l', rest) →
    ∃ pre, ts = pre ++ rest ∧
      ∀ rest2, Item.plainAll is = true ∨ Comp rest rest2 → Item.checkAll fl is l (pre ++ rest2) = some (l', rest2)
  | [], l, l', ts, rest, _, h => by
    rw [checkAll_nil] at h
    cases h
    exact ⟨[], rfl, fun rest2 _ => by simp [Item.checkAll]⟩
  | i :: is, l, l', ts, rest, hs, h => by
    rw [checkAll_cons] at h
    obtain ⟨l1, ts1, h1, h2⟩ := h
    simp only [Item.solidAll, Bool.and_eq_true] at hs
    obtain ⟨p1, rfl, r1⟩ := check_follower fl i l l1 ts ts1 hs.1 h1
    obtain ⟨p2, rfl, r2⟩ := checkAll_follower fl is l1 l' ts1 rest hs.2 h2
    refine ⟨p1 ++ p2, by simp, fun rest2 hc => ?_⟩
    simp only [Item.plainAll, Bool.and_eq_true] at hc
    rw [checkAll_cons]
    refine ⟨l1, p2 ++ rest2, ?_, r2 rest2 (hc.imp_left And.right)⟩
    rw [List.append_assoc]
    exact r1 _ (hc.imp And.left (Comp.append p2))
end

theorem checkAll_retarget (fl : Flags) : ∀ (is : List Item) (l l' : Tok) (ts rest : List Tok),
    Item.solidAll is = true → Item.checkAll fl is l ts = some (l', rest) →
    ∃ pre, ts = pre ++ rest ∧ ∀ rest2, Comp rest rest2 → Item.checkAll fl is l (pre ++ rest2) = some (l', rest2) :=
  fun is l l' ts rest hs h =>
    let ⟨pre, e, hr⟩ := checkAll_follower fl is l l' ts rest hs h
    ⟨pre, e, fun rest2 hc => hr rest2 (.inr hc)⟩

theorem checkAll_free (fl : Flags) : ∀ (is : List Item) (l l' : Tok) (ts rest : List Tok),
    Item.solidAll is = true → Item.plainAll is = true → Item.checkAll fl is l ts = some (l', rest) →
    ∃ pre, ts = pre ++ rest ∧ ∀ rest2, Item.checkAll fl is l (pre ++ rest2) = some (l', rest2) :=
  fun is l l' ts rest hs hp h =>
    let ⟨pre, e, hr⟩ := checkAll_follower fl is l l' ts rest hs h
    ⟨pre, e, fun rest2 => hr rest2 (.inl hp)⟩

mutual
theorem check_last_indep (fl : Flags) : ∀ (i : Item) (l l' : Tok) (ts rest : List Tok), i.solid = true →
    i.check fl l ts = some (l', rest) →
    ∀ l2, i.check fl l2 ts = some (if rest.length = ts.length then l2 else l', rest)
  | .tok k v, l, l', ts, rest, _, h => by
    rw [check_tok] at h
    obtain ⟨t, rfl, hc, rfl⟩ := h
    intro l2
    rw [check_tok]
    exact ⟨_, rfl, hc, by simp⟩
  | .optTok k v, l, l', ts, rest, _, h => by
    rw [check_optTok] at h
    intro l2
    rw [check_optTok]
    rcases h with ⟨t, rfl, hc, rfl⟩ | ⟨rfl, rfl, hn⟩
    · exact .inl ⟨_, rfl, hc, by simp⟩
    · exact .inr ⟨by simp, rfl, hn⟩
  | .nla k, l, l', ts, rest, _, h => by
    rw [check_nla] at h
    obtain ⟨rfl, rfl, hn⟩ := h
    intro l2
    rw [check_nla]
    exact ⟨by simp, rfl, hn⟩
  | .node loc is, l, l', ts, rest, hs, h => by
    rw [check_node] at h
    obtain ⟨f, tl, rfl, hall, hloc⟩ := h
    simp only [Item.solid, Bool.and_eq_true] at hs
    intro l2
    have hlt := checkAll_lead fl is l l' (f :: tl) rest hs.1 hall
    have := checkAll_last_indep fl is l l' (f :: tl) rest hs.2 hall l2
    rw [if_neg (by omega)] at this ⊢
    rw [check_node]
    exact ⟨f, tl, rfl, this, hloc⟩
theorem checkAll_last_indep (fl : Flags) : ∀ (is : List Item) (l l' : Tok) (ts rest : List Tok),
    Item.solidAll is = true → Item.checkAll fl is l ts = some (l', rest) →
    ∀ l2, Item.checkAll fl is l2 ts = some (if rest.length = ts.length then l2 else l', rest)
  | [], l, l', ts, rest, _, h => by
    rw [checkAll_nil] at h
    cases h
    intro l2
    simp [Item.checkAll]
  | i :: is, l, l', ts, rest, hs, h => by
    rw [checkAll_cons] at h
    obtain ⟨l1, ts1, h1, h2⟩ := h
    simp only [Item.solidAll, Bool.and_eq_true] at hs
    intro l2
    have a := check_last_indep fl i l l1 ts ts1 hs.1 h1 l2
    have b := checkAll_last_indep fl is l1 l' ts1 rest hs.2 h2
    have len1 := check_len h1
    have len2 := checkAll_len h2
    rw [checkAll_cons]
    refine ⟨_, ts1, a, ?_⟩
    by_cases e1 : ts1.length = ts.length
    · rw [if_pos e1]
      have := b l2
      rw [this]
      by_cases e2 : rest.length = ts1.length
      · rw [if_pos e2, if_pos (by omega)]
      · rw [if_neg e2, if_neg (by omega)]
    · rw [if_neg e1]
      have := b l1
      rw [h2] at this
      rw [h2, if_neg (by omega)]
end

theorem checkAll_mem (fl : Flags) : ∀ (is : List Item) (i : Item) (l l' : Tok) (ts rest : List Tok), i ∈ is →
    Item.checkAll fl is l ts = some (l', rest) →
    ∃ pre y li li' tsi resti, ts = pre ++ tsi ∧ resti = y ++ rest ∧ i.check fl li tsi = some (li', resti)
  | [], _, _, _, _, _, hm, _ => by simp at hm
  | i0 :: is, i, l, l', ts, rest, hm, h => by
    rw [checkAll_cons] at h
    obtain ⟨l1, ts1, h1, h2⟩ := h
    obtain ⟨p1, rfl, _, _⟩ := check_spans fl i0 l l1 ts ts1 h1
    obtain ⟨p2, rfl, _, _⟩ := checkAll_spans fl is l1 l' ts1 rest h2
    rcases List.mem_cons.1 hm with rfl | hm'
    · exact ⟨[], p2, l, l1, _, _, rfl, rfl, h1⟩
    · obtain ⟨pre, y, li, li', tsi, resti, e1, e2, hc⟩ := checkAll_mem fl is i l1 l' _ rest hm' h2
      exact ⟨p1 ++ pre, y, li, li', tsi, resti, by rw [e1, List.append_assoc], e2, hc⟩

theorem check_sub (fl : Flags) {j i : Item} (hs : Item.Sub j i) : ∀ (l l' : Tok) (ts rest : List Tok),
    i.check fl l ts = some (l', rest) →
    ∃ pre y lj lj' tsj restj, ts = pre ++ tsj ∧ restj = y ++ rest ∧ j.check fl lj tsj = some (lj', restj) := by
  induction hs with
  | refl => intro l l' ts rest h; exact ⟨[], [], l, l', ts, rest, rfl, rfl, h⟩
  | node hm _ ih =>
    intro l l' ts rest h
    rw [check_node] at h
    obtain ⟨f, tl, rfl, hall, _⟩ := h
    obtain ⟨pre, y, li, li', tsi, resti, e1, e2, hc⟩ := checkAll_mem fl _ _ l l' _ rest hm hall
    obtain ⟨pre2, y2, lj, lj', tsj, restj, e3, e4, hj⟩ := ih li li' tsi resti hc
    exact ⟨pre ++ pre2, y2 ++ y, lj, lj', tsj, restj, by rw [e1, e3, List.append_assoc],
      by rw [e4, e2, List.append_assoc], hj⟩

theorem solid_sub {j i : Item} (hs : Item.Sub j i) : i.solid = true → j.solid = true := by
  induction hs with
  | refl => exact id
  | @node loc is i hm _ ih =>
    intro h
    simp only [Item.solid, Bool.and_eq_true] at h
    apply ih
    have : ∀ (is : List Item), Item.solidAll is = true → ∀ i ∈ is, i.solid = true := by
      intro is
      induction is with
      | nil => simp
      | cons a as iha =>
        intro h2 i hi
        simp only [Item.solidAll, Bool.and_eq_true] at h2
        rcases List.mem_cons.1 hi with rfl | hi'
        · exact h2.1
        · exact iha h2.2 i hi'
    exact this is h.2 i hm

end PyGql.Spec
