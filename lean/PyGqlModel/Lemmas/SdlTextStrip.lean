/-
  C12 text level — `include_descriptions=False`: the printer with descriptions off prints what the printer with
  descriptions on prints for the schema WITHOUT its descriptions (`stripSchema`):
  `printSchemaT o s = printSchemaT { o with descriptions := true } (stripSchema s)` when `o.descriptions = false`.
-/
import PyGqlModel.Lemmas.SdlTextRedescribe
import PyGqlModel.SdlAstToDoc
namespace PyGql.SdlText
open PyGql PyGql.Ast PyGql.Sdl PyGql.SdlPrint

abbrev onOf (o : SdlPrintT.OptsT) : SdlPrintT.OptsT := { o with descriptions := true }

theorem printDescription_none (o' : SdlPrintT.OptsT) (depth : Nat) (first : Bool) : SdlPrintT.printDescription o' none depth first = [] := rfl

section
variable (o : SdlPrintT.OptsT) (hoff : o.descriptions = false) (s : SchemaD)
include hoff

theorem printDescription_off (d : Option String) (depth : Nat) (first : Bool) : SdlPrintT.printDescription o d depth first = [] := by
  cases d <;> simp [SdlPrintT.printDescription, hoff]

theorem multiArgs_off (as : List ArgD) : SdlPrintT.multiArgs o as = false := by simp [SdlPrintT.multiArgs, hoff]

omit hoff in
theorem multiArgs_strip (o' : SdlPrintT.OptsT) (as : List ArgD) : SdlPrintT.multiArgs o' (as.map (withDescArg fun _ => none)) = false := by
  simp only [SdlPrintT.multiArgs, Bool.and_eq_false_iff]
  right
  induction as with
  | nil => rfl
  | cons a as ih => simp only [List.map_cons, List.any_cons, ih, withDescArg, Bool.or_self]

/-- `stripSchema` replaces every description by none, which is printed (descriptions on) as any description is with
    descriptions off: not at all -/
theorem printSchemaT_strip : SdlPrintT.printSchemaT (onOf o) (stripSchema s) = SdlPrintT.printSchemaT o s := by
  have hD : ∀ depth d, DescSame (onOf o) o depth none d := fun depth d first => by
    rw [printDescription_off o hoff]; rfl
  have hA : ∀ depth as, ArgsSame (onOf o) o depth (fun _ => none) as := fun depth as =>
    ⟨by rw [multiArgs_strip, multiArgs_off o hoff], fun a _ => hD _ _⟩
  exact printSchemaT_redescribe (o' := onOf o) (o := o) rfl ⟨fun _ => none, fun _ => none, fun _ => none⟩ s
    (fun t _ => ⟨hD _ _, fun f _ => ⟨hD _ _, hA _ _⟩, fun v _ => hD _ _, fun a _ => hD _ _⟩) (fun d _ => ⟨hD _ _, hA _ _⟩)

end
end PyGql.SdlText
