/-
  C08 — the runtime algebra: deferred values and the combinators of
  `execution/runtime/threadpool.py` (`chain`, `unwrap_future`, `gather_futures`) and, as pure list
  functions, the index patching of `runtime/asyncio.py: gather_values`.

  A value handed around by the executor is a `Node`:
    * `val x`                     — a plain value (not a Future / not awaitable);
    * `done r` / `failed e`       — a FINISHED Future (result `r`, which may itself be a Future: that is
                                    what `unwrap_future` flattens) / a Future finished with an exception;
    * `task`, `chain`, `unwrap`, `gather` — PENDING Futures, one constructor per combinator that created
      the Future, holding exactly what that combinator's callback closes over
      (`chain`: source + `then`/`else_`; `gather`: the slot list `result`, `done`, `target_count`).
  This is the resumption reading `now a | wait task k`: a pending node waits for the tasks at its
  leaves, and its constructors are the (defunctionalised) continuation `k`.

  Completing a task = `deliver`: the task's Future is set, and every callback that this triggers runs
  before `deliver` returns, innermost first, exactly like `Future.set_result` running `add_done_callback`
  callbacks synchronously.  Callbacks of the `then` kind are `Cont`s, interpreted by the executor
  (`applyCont`, a parameter here).
-/
import PyGqlModel.ExecOp

namespace PyGql.AsyncExec

/-- plain values flowing through callbacks -/
inductive Val where
  | raw (c : Comp)          -- what a resolver returned (not yet completed)
  | data (v : V)            -- completed response data
  | junk                    -- a value the executor never produces on purpose (e.g. a Future inside data)
  deriving Inhabited

/-- the `then` callbacks the executor passes to `map_value` (defunctionalised closures) -/
inductive Cont where
  | complete (path : Path)                                   -- `complete` + `else_=(BaseException, on_error)` of resolve_field
  | collect (keys : List String)                             -- `_collect` of execute_fields
  | nonNull (path : Path)                                    -- `_handle_non_nullable_value`
  | serialCb (path : Path) (key : String) (resolved : List (String × V)) (args : Flds)   -- `cb` of execute_fields_serially
  | onFinish                                                 -- `_on_finish` of execute
  deriving Inhabited

mutual
inductive Node where
  | val (x : Val)
  | done (r : Node)
  | failed (e : Exc)
  | task (id : Nat) (path : Path) (nested : Bool) (out : ROut)
  | chain (src : Node) (k : Cont)
  | unwrap (src : Node)
  | gather (slots : Nodes) (done target : Nat)
inductive Nodes where
  | nil
  | cons (n : Node) (ns : Nodes)
end

instance : Inhabited Node := ⟨.val .junk⟩

inductive Res (α : Type) where
  | ok (a : α)
  | exc (e : Exc)          -- a Python exception raised synchronously

def Nodes.toList : Nodes → List Node
  | .nil => []
  | .cons n ns => n :: ns.toList

def Nodes.ofList : List Node → Nodes
  | [] => .nil
  | n :: ns => .cons n (Nodes.ofList ns)

def Nodes.length : Nodes → Nat
  | .nil => 0
  | .cons _ ns => ns.length + 1

/-- `_is_future_fast` -/
def Node.isFuture : Node → Bool
  | .val _ => false
  | _ => true

/-- `Future.done()` (a plain value counts as available) -/
def Node.finished : Node → Bool
  | .val _ | .done _ | .failed _ => true
  | _ => false

def Node.isPending (n : Node) : Bool := !n.finished

/-- the plain value a `then` callback receives from `f.result()` when the result is not a Future -/
def Node.plain : Node → Val
  | .val x => x
  | _ => .junk

/-! ### gather_futures: the counter state machine -/

/-- what one `on_finish(d)` call tries to do with `outer` -/
inductive GAct (α : Type) where
  | nothing                     -- neither an exception nor the last one
  | setException (e : Exc)      -- `outer.set_exception(err)`
  | setResult (vs : List α)     -- `outer.set_result([... v.result() ...])`
  | raisesInCallback            -- the list comprehension meets a failed slot: the exception is swallowed by the callback machinery
  | blocks                      -- the list comprehension meets a PENDING slot: `v.result()` would block for ever

/-- status of one entry of `result`: `none` = pending future -/
abbrev Slot (α : Type) := Option (Except Exc α)

/-- `[v.result() if future else v for v in result]` -/
def collectSlots {α : Type} : List (Slot α) → GAct α
  | [] => .setResult []
  | none :: _ => .blocks
  | some (.error _) :: _ => .raisesInCallback
  | some (.ok a) :: rest =>
    match collectSlots rest with
    | .setResult vs => .setResult (a :: vs)
    | other => other

/-- body of `on_finish(d)`: `done += 1`, then exception / last-one test.  `slots` is `result` AFTER `d` finished. -/
def gatherOnFinish {α : Type} (done target : Nat) (d : Except Exc α) (slots : List (Slot α)) : Nat × GAct α :=
  let done := done + 1
  match d with
  | .error e => (done, .setException e)
  | .ok _ => if done == target then (done, collectSlots slots) else (done, .nothing)

/-- The standalone machine used by the `gather_*` theorems: `gather_futures` over `n` task futures. -/
structure GState (α : Type) where
  done : Nat
  target : Nat
  slots : List (Slot α)
  outer : Option (Except Exc (List α)) := none   -- state of the aggregate Future
  sets : Nat := 0                                -- successful `set_result` / `set_exception` calls on `outer`
  swallowed : Nat := 0                           -- InvalidStateError / exceptions swallowed inside callbacks
  blocked : Bool := false

/-- number of entries that are not pending -/
def countSome {α : Type} : List (Option α) → Nat
  | [] => 0
  | none :: r => countSome r
  | some _ :: r => countSome r + 1

/-- initial state for a source list: non-futures count as done (`result_append(v); done += 1`) -/
def GState.init {α : Type} (source : List (Slot α)) : GState α :=
  { done := countSome source, target := source.length, slots := source }

/-- pending entry `i` finishes with `d` and its `on_finish` callback runs -/
def GState.finish {α : Type} (s : GState α) (i : Nat) (d : Except Exc α) : GState α :=
  let slots := s.slots.set i (some d)
  let (done, act) := gatherOnFinish s.done s.target d slots
  let s := { s with slots := slots, done := done }
  match act with
  | .nothing => s
  | .blocks => { s with blocked := true }
  | .raisesInCallback => { s with swallowed := s.swallowed + 1 }
  | .setException e =>
    match s.outer with
    | none => { s with outer := some (.error e), sets := s.sets + 1 }
    | some _ => { s with swallowed := s.swallowed + 1 }        -- InvalidStateError inside the callback
  | .setResult vs =>
    match s.outer with
    | none => { s with outer := some (.ok vs), sets := s.sets + 1 }
    | some _ => { s with swallowed := s.swallowed + 1 }

/-- a run: completions `(index, result)` in the order they happen -/
def GState.run {α : Type} (s : GState α) : List (Nat × Except Exc α) → GState α
  | [] => s
  | (i, d) :: rest => (s.finish i d).run rest

/-! ### asyncio `gather_values`: pending-index patching -/

/-- first loop of `AsyncIORuntime.gather_values`: positions of the awaitables -/
def pendingIdx {α β : Type} (isAw : α → Option β) : List α → Nat → List Nat
  | [], _ => []
  | v :: vs, i => match isAw v with
    | some _ => i :: pendingIdx isAw vs (i + 1)
    | none => pendingIdx isAw vs (i + 1)

def pendingOf {α β : Type} (isAw : α → Option β) : List α → List β
  | [] => []
  | v :: vs => match isAw v with
    | some a => a :: pendingOf isAw vs
    | none => pendingOf isAw vs

/-- `for i, awaited in zip(pending_idx, await asyncio.gather(*pending)): done[i] = awaited` -/
def patch {γ : Type} (done : List γ) : List Nat → List γ → List γ
  | i :: is, a :: as => patch (done.set i a) is as
  | _, _ => done

/-- `gather_values` once `asyncio.gather` has delivered `awaited` (results of `pending`, in order) -/
def gatherValuesPatched {α β γ : Type} (isAw : α → Option β) (plain : α → γ) (values : List α) (awaited : List γ) : List γ :=
  patch (values.map plain) (pendingIdx isAw values 0) awaited

/-! ### the combinators on nodes -/

abbrev ApplyCont := Cont → Res Val → ExecSt → Res Node × ExecSt

/-- `on_finish` of `chain`, run when the source Future has finished (`src` is finished). -/
def chainOnFinish (ap : ApplyCont) (src : Node) (k : Cont) (s : ExecSt) : Node × ExecSt :=
  match src with
  | .failed e =>
    match ap k (.exc e) s with           -- `then(f.result())` raises `e`; `else_` may turn it into a result
    | (.ok r, s') => (.done r, s')
    | (.exc e', s') => (.failed e', s')
  | .done r =>
    match ap k (.ok r.plain) s with
    | (.ok x, s') => (.done x, s')        -- `target.set_result(res)` — `res` may be a Future
    | (.exc e', s') => (.failed e', s')
  | other => (.chain other k, s)

/-- `chain(source, then, else_)` -/
def mapValue (ap : ApplyCont) (source : Node) (k : Cont) (s : ExecSt) : Res Node × ExecSt :=
  match source with
  | .val x => ap k (.ok x) s              -- not a Future: `then` runs now, exceptions propagate to the caller
  | src =>
    if src.finished then                  -- `add_done_callback` on a finished Future fires immediately
      let (n, s') := chainOnFinish ap src k s
      (.ok n, s')
    else (.ok (.chain src k), s)

/-- `cb` of `unwrap_future`, run on a finished source; re-registers on a Future result. -/
def unwrapCb : Node → Node
  | .failed e => .failed e
  | .done (.val x) => .done (.val x)
  | .done r => unwrapCb r                 -- `r.add_done_callback(cb)` (fires at once when `r` is finished)
  | .val x => .done (.val x)
  | pending => .unwrap pending

/-- `unwrap_future(maybe_future)` -/
def unwrapValue : Node → Node
  | .val x => .val x
  | n => unwrapCb n

def Node.slot : Node → Slot Node
  | .val x => some (.ok (.val x))
  | .done r => some (.ok r)
  | .failed e => some (.error e)
  | _ => none

/-- data list out of slot results (`junk` if a slot's result is not completed data) -/
def listOfNodes : List Node → Option (List V)
  | [] => some []
  | .val (.data v) :: rest => (listOfNodes rest).map (v :: ·)
  | _ :: _ => none

def valOfResults (rs : List Node) : Val :=
  match listOfNodes rs with
  | some vs => .data (.list vs)
  | none => .junk

/-- apply one `on_finish(d)` of a gather node whose `outer` is still pending.
    Returns the new `done` and, if `outer` got set, its final state. -/
def gatherFire (done target : Nat) (d : Except Exc Node) (slots : Nodes) : Nat × Option Node :=
  match gatherOnFinish done target d (slots.toList.map Node.slot) with
  | (done', .setException e) => (done', some (.failed e))
  | (done', .setResult rs) => (done', some (.done (.val (valOfResults rs))))
  | (done', _) => (done', none)

/-- run the callbacks of the slots in `fired` (those that finished during this step), in order -/
def gatherFires (done target : Nat) (slots : Nodes) : List (Except Exc Node) → Nat × Option Node
  | [] => (done, none)
  | d :: rest =>
    match gatherFire done target d slots with
    | (done', some outer) => (done', some outer)      -- later callbacks only hit InvalidStateError (swallowed)
    | (done', none) => gatherFires done' target slots rest

def slotResult : Node → Option (Except Exc Node)
  | .done r => some (.ok r)
  | .failed e => some (.error e)
  | _ => none

/-- `gather_futures(source)` -/
def gatherValues (source : Nodes) : Node :=
  let l := source.toList
  let done := (l.filter (fun n => !n.isFuture)).length
  let target := l.length
  let pending := l.filter Node.isFuture
  if target == 0 then .val (.data (.list []))
  else if pending.isEmpty then .val (valOfResults l)
  else
    -- `f.add_done_callback(on_finish)` for every future; already finished ones fire at once
    match gatherFires done target source (pending.filterMap slotResult) with
    | (_, some outer) => outer
    | (done', none) => .gather source done' target

/-! ### completing a task -/

/-- the Future of task `id` is set: resolver outcome → result / exception (`done` event),
    or — for a nested deferred — a fresh task Future as the result. -/
def finishTask (path : Path) (nested : Bool) (out : ROut) (s : ExecSt) : Node × ExecSt :=
  if nested then
    let (id', s') := s.submit
    (.done (.task id' path false out), s')
  else
    let s := s.emit (.done path)
    match out with
    | .ok c => (.done (.val (.raw c)), s)
    | .rerr => (.failed .resolver, s)
    | .exc => (.failed .boom, s)

mutual
/-- complete task `t` inside `n`; every callback that this triggers runs before returning -/
def deliver (ap : ApplyCont) (t : Nat) : Node → ExecSt → Node × ExecSt
  | .task id path nested out, s => if id == t then finishTask path nested out s else (.task id path nested out, s)
  | .chain src k, s =>
    let (src', s1) := deliver ap t src s
    chainOnFinish ap src' k s1
  | .unwrap src, s =>
    let (src', s1) := deliver ap t src s
    (unwrapCb src', s1)
  | .gather slots done target, s =>
    let (slots', fired, s1) := deliverSlots ap t slots s
    match gatherFires done target slots' fired with
    | (_, some outer) => (outer, s1)
    | (done', none) => (.gather slots' done' target, s1)
  | n, s => (n, s)
/-- deliver into every slot; report the results of the slots that finished during this step -/
def deliverSlots (ap : ApplyCont) (t : Nat) : Nodes → ExecSt → Nodes × List (Except Exc Node) × ExecSt
  | .nil, s => (.nil, [], s)
  | .cons n ns, s =>
    let (n', s1) := deliver ap t n s
    let (ns', fired, s2) := deliverSlots ap t ns s1
    let here := if n.isPending then (slotResult n').toList else []
    (.cons n' ns', here ++ fired, s2)
end

end PyGql.AsyncExec
