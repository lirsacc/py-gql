/-
  C16 — model of the hook/middleware trace of one request.

  Mirrors (function by function):
    src/py_gql/_graphql.py                      process_graphql_query  (`pipeline`)
    src/py_gql/execution/execute.py             execute                (`execute`)
    src/py_gql/execution/blocking_executor.py   BlockingExecutor       (`blocking*`)
    src/py_gql/execution/executor.py            Executor.resolve_field / execute_fields /
                                                execute_fields_serially / field_resolver
                                                (`start*`, `runTask`, `drain`, `execSerial`)
    src/py_gql/_utils.py                        apply_middlewares      (`applyMiddlewares`)
    src/py_gql/execution/instrumentation.py     MultiInstrumentation   (`Instr.emit`, `expand`)

  A request is abstract: the outcome of every stage is a flag, the selection is a field tree
  whose every node says what its resolver does (argument coercion error | raises ResolverError |
  returns a value completed as leaf / null / object / list) and whether the runtime defers it
  (thread-pool `submit`, `async def` coroutine).  The model emits the TRACE of hook, middleware
  and resolver events in the order the code produces them.  Deferred resolvers complete in the
  order given by a schedule (indices into the queue of outstanding tasks, submission order).

  Meta fields (`__typename`, `__schema`, `__type`) and the fields of the introspection types are
  ordinary nodes of the tree: `ResolutionContext.field_definition` returns the introspection
  `Field`, `Executor.field_resolver` wraps its resolver with the runtime and the middlewares like
  any other (`fieldResolver` below makes no distinction), so every theorem about fields covers them.

  Core Lean only (this file is linked into the driver).
-/
namespace PyGql.Instr

inductive Seg where
  | key (s : String)
  | idx (n : Nat)
  deriving DecidableEq, Repr

abbrev Path := List Seg

inductive Stage where
  | query | parsing | validation | execution
  deriving DecidableEq, Repr

/-- one callback of the `Instrumentation` interface; `start = true` for `on_*_start` -/
inductive Hook where
  | stage (s : Stage) (start : Bool)
  | field (p : Path) (start : Bool)
  deriving DecidableEq, Repr

def Hook.isStart : Hook → Bool
  | .stage _ b => b
  | .field _ b => b

/-- events as seen with ONE instrumentation object (`self.instrumentation.on_…()` call sites) -/
inductive Ev where
  | hook (h : Hook)
  | mwEnter (i : Nat) (p : Path)
  | mwExit (i : Nat) (p : Path)
  | call (p : Path)
  | ret (p : Path)
  | raise (p : Path)
  deriving DecidableEq, Repr

/-! ### MultiInstrumentation -/

def Stage.idx : Stage → Nat
  | .query => 0 | .parsing => 1 | .validation => 2 | .execution => 3

/-- which of the 10 methods of the `Instrumentation` interface a hook call goes to
    (`on_query_start` = 0, `on_query_end` = 1, …, `on_field_start` = 8, `on_field_end` = 9) -/
def Hook.kind : Hook → Nat
  | .stage s b => 2 * s.idx + (if b then 0 else 1)
  | .field _ b => 8 + (if b then 0 else 1)

/-- every method overridden -/
def allKinds : List Nat := [0, 1, 2, 3, 4, 5, 6, 7, 8, 9]

/-- an instrumentation object: a recording `Instrumentation` subclass instance that overrides
    the methods `overrides` (the others are the no-ops of the base class), or a
    `MultiInstrumentation(*children)` -/
inductive Instr where
  | leaf (i : Nat) (overrides : List Nat)
  | multi (cs : List Instr)

instance : Inhabited Instr := ⟨.leaf 0 allKinds⟩

/-- does an instance overriding `m` record hook `h` -/
def sees (m : List Nat) (h : Hook) : Bool := m.contains h.kind

/-- recorded events: hooks carry the identity of the leaf instrumentation that saw them -/
inductive REv where
  | hook (i : Nat) (h : Hook)
  | other (e : Ev)
  deriving DecidableEq, Repr

mutual
/-- calling hook `h` on an instrumentation object -/
def Instr.emit : Instr → Hook → List REv
  | .leaf i m, h => if sees m h then [.hook i h] else []      -- base-class no-op when not overridden
  | .multi cs, h => if h.isStart then emitAll cs h else emitAllRev cs h
/-- `for i in self.instrumentations: i.on_x_start()` -/
def emitAll : List Instr → Hook → List REv
  | [], _ => []
  | c :: cs, h => c.emit h ++ emitAll cs h
/-- `for i in self.instrumentations[::-1]: i.on_x_end()` -/
def emitAllRev : List Instr → Hook → List REv
  | [], _ => []
  | c :: cs, h => emitAllRev cs h ++ c.emit h
end

mutual
/-- the recording leaves (identity, overridden methods), in order -/
def Instr.leaves : Instr → List (Nat × List Nat)
  | .leaf i m => [(i, m)]
  | .multi cs => leavesAll cs
def leavesAll : List Instr → List (Nat × List Nat)
  | [] => []
  | c :: cs => c.leaves ++ leavesAll cs
end

/-- substitute the instrumentation object at every hook call site -/
def expand (t : Instr) : List Ev → List REv
  | [] => []
  | .hook h :: es => t.emit h ++ expand t es
  | e :: es => .other e :: expand t es

/-! ### apply_middlewares -/

/-- a resolver-like callable, abstracted to the events one call at path `p` produces -/
abbrev Callable := Path → List Ev

/-- the recording middleware `mw(next, root, ctx, info, **args)`: enter, call next, exit -/
def middleware (i : Nat) (next : Callable) : Callable :=
  fun p => [.mwEnter i p] ++ next p ++ [.mwExit i p]

/-- `tail = func; for mw in middlewares: tail = functools.partial(mw, tail); return tail` -/
def applyMiddlewares (func : Callable) (mws : List Nat) : Callable :=
  mws.foldl (fun tail i => middleware i tail) func

/-! ### field trees -/

inductive OutKind where
  | argError   -- `argument_values` raises CoercionError: the resolver is not invoked
  | raises     -- the resolver raises ResolverError
  | returns    -- the resolver returns a value
  deriving DecidableEq, Repr

mutual
/-- how a returned value is completed -/
inductive Comp where
  | leaf
  | null
  | obj (fs : List Node)
  | list (items : List Comp)
/-- one selected field: response key, deferred by the runtime?, resolver outcome, completion -/
inductive Node where
  | mk (key : String) (deferred : Bool) (o : OutKind) (c : Comp)
end

instance : Inhabited Comp := ⟨.leaf⟩
instance : Inhabited Node := ⟨.mk "" false .returns .leaf⟩

structure Cfg where
  /-- the configured middlewares, identified by their index in the `middlewares=[…]` list -/
  mws : List Nat

def fieldStart (p : Path) : List Ev := [.hook (.field p true)]
def fieldEnd (p : Path) : List Ev := [.hook (.field p false)]

/-- body of a resolver: invoked, then returns or raises -/
def resolverBody (o : OutKind) : Callable :=
  fun p => [.call p, if o = .raises then .raise p else .ret p]

/-- `runtime.wrap_callable(base)` of a deferring runtime: calling it only submits -/
def submitOnly : Callable := fun _ => []

/-- `Executor.field_resolver`: runtime wrapper, then the middlewares -/
def fieldResolver (cfg : Cfg) (deferred : Bool) (o : OutKind) : Callable :=
  applyMiddlewares (if deferred then submitOnly else resolverBody o) cfg.mws

/-! ### BlockingExecutor -/

mutual
/-- `BlockingExecutor.resolve_field` (try / except (CoercionError, ResolverError) / finally) -/
def blockingResolveField (cfg : Cfg) (path : Path) : Node → List Ev
  | .mk key _ o c =>
    let p := path ++ [.key key]
    fieldStart p ++
    (match o with
     | .argError => fieldEnd p                                        -- except …: add_error; finally: on_field_end
     | .raises => fieldResolver cfg false o p ++ fieldEnd p           -- except …: add_error; finally: on_field_end
     | .returns => fieldResolver cfg false o p ++ fieldEnd p ++ blockingComplete cfg p c)
/-- `complete_value` -/
def blockingComplete (cfg : Cfg) (p : Path) : Comp → List Ev
  | .leaf => []
  | .null => []
  | .obj fs => blockingFields cfg p fs
  | .list items => blockingItems cfg p 0 items
/-- `BlockingExecutor.execute_fields` (= `execute_fields_serially`) -/
def blockingFields (cfg : Cfg) (p : Path) : List Node → List Ev
  | [] => []
  | n :: ns => blockingResolveField cfg p n ++ blockingFields cfg p ns
/-- `BlockingExecutor.complete_list_value` -/
def blockingItems (cfg : Cfg) (p : Path) (i : Nat) : List Comp → List Ev
  | [] => []
  | c :: cs => blockingComplete cfg (p ++ [.idx i]) c ++ blockingItems cfg p (i + 1) cs
end

/-! ### Executor (any runtime) -/

/-- an outstanding deferred resolver call -/
structure Task where
  path : Path
  o : OutKind
  c : Comp

mutual
/-- `Executor.resolve_field` up to the point where the runtime takes over -/
def startField (cfg : Cfg) (path : Path) : Node → List Ev × List Task
  | .mk key d o c =>
    let p := path ++ [.key key]
    match o with
    | .argError => (fieldStart p ++ fieldEnd p, [])                   -- `return fail(err)`
    | .raises =>
      if d then (fieldStart p ++ fieldResolver cfg true o p, [⟨p, o, c⟩])
      else (fieldStart p ++ fieldResolver cfg false o p ++ fieldEnd p, [])   -- except ResolverError: fail(err)
    | .returns =>
      if d then (fieldStart p ++ fieldResolver cfg true o p, [⟨p, o, c⟩])
      else
        let r := startComplete cfg p c                                 -- complete(res): on_field_end, complete_value
        (fieldStart p ++ fieldResolver cfg false o p ++ fieldEnd p ++ r.1, r.2)
/-- `complete_value` -/
def startComplete (cfg : Cfg) (p : Path) : Comp → List Ev × List Task
  | .leaf => ([], [])
  | .null => ([], [])
  | .obj fs => startFields cfg p fs
  | .list items => startItems cfg p 0 items
/-- `Executor.execute_fields`: every field is started, in order; `gather_values` waits -/
def startFields (cfg : Cfg) (p : Path) : List Node → List Ev × List Task
  | [] => ([], [])
  | n :: ns =>
    let a := startField cfg p n
    let b := startFields cfg p ns
    (a.1 ++ b.1, a.2 ++ b.2)
/-- `Executor.complete_list_value` -/
def startItems (cfg : Cfg) (p : Path) (i : Nat) : List Comp → List Ev × List Task
  | [] => ([], [])
  | c :: cs =>
    let a := startComplete cfg (p ++ [.idx i]) c
    let b := startItems cfg p (i + 1) cs
    (a.1 ++ b.1, a.2 ++ b.2)
end

/-- a deferred resolver runs and completes: its body, then the `complete` / `fail` callback -/
def runTask (cfg : Cfg) (t : Task) : List Ev × List Task :=
  match t.o with
  | .returns =>
    let r := startComplete cfg t.path t.c
    (resolverBody t.o t.path ++ fieldEnd t.path ++ r.1, r.2)
  | _ => (resolverBody t.o t.path ++ fieldEnd t.path, [])

/-- complete outstanding tasks in schedule order until none is left.
    `sched` holds indices into the queue (taken modulo its length; 0 when exhausted). -/
def drain (cfg : Cfg) : Nat → List Task → List Nat → List Ev × List Nat
  | 0, _, sched => ([], sched)
  | _ + 1, [], sched => ([], sched)
  | fuel + 1, t0 :: rest, sched =>
    let pool := t0 :: rest
    let i := sched.headD 0 % pool.length
    let t := pool.getD i t0
    let r := runTask cfg t
    let d := drain cfg fuel (pool.eraseIdx i ++ r.2) sched.tail
    (r.1 ++ d.1, d.2)

mutual
def sizeNode : Node → Nat
  | .mk _ _ _ c => 1 + sizeComp c
def sizeComp : Comp → Nat
  | .leaf => 0
  | .null => 0
  | .obj fs => sizeNodes fs
  | .list items => sizeItems items
def sizeNodes : List Node → Nat
  | [] => 0
  | n :: ns => sizeNode n + sizeNodes ns
def sizeItems : List Comp → Nat
  | [] => 0
  | c :: cs => sizeComp c + sizeItems cs
end

def Task.size (t : Task) : Nat := 1 + sizeComp t.c
def poolSize (pool : List Task) : Nat := (pool.map Task.size).sum

/-- `Executor.execute_fields` at the root + everything the runtime completes afterwards -/
def execParallel (cfg : Cfg) (fields : List Node) (sched : List Nat) : List Ev :=
  let s := startFields cfg [] fields
  s.1 ++ (drain cfg (sizeNodes fields) s.2 sched).1

/-- `Executor.execute_fields_serially`: the next root field starts when the previous one
    (its whole subtree) is complete -/
def execSerial (cfg : Cfg) : List Node → List Nat → List Ev
  | [], _ => []
  | n :: ns, sched =>
    let s := startField cfg [] n
    let d := drain cfg (sizeNode n) s.2 sched
    s.1 ++ d.1 ++ execSerial cfg ns d.2

/-! ### the request pipeline -/

structure Request where
  /-- the document is given as text (parsing hooks fire) -/
  docIsText : Bool
  syntaxError : Bool
  /-- validation reports no error -/
  valid : Bool
  /-- `get_operation_with_type` succeeds -/
  opselOk : Bool
  /-- `coerce_variable_values` succeeds -/
  varsOk : Bool
  /-- the selected operation is a subscription: `execute` raises InvalidOperationError -/
  subscriptionOp : Bool
  /-- collecting the ROOT selection set fails (a `@skip` / `@include` condition that cannot be
      evaluated): `execute` ends the execution stage and answers data null + one error -/
  rootCollectFails : Bool
  /-- mutation: root fields run serially -/
  serial : Bool
  /-- `executor_cls=BlockingExecutor` -/
  blockingExecutor : Bool
  fields : List Node
  sched : List Nat

def stageStart (s : Stage) : List Ev := [.hook (.stage s true)]
def stageEnd (s : Stage) : List Ev := [.hook (.stage s false)]

/-- the executor run: `exe_fn(root_type, initial_value, [], collect_fields(...))` and everything
    the runtime completes afterwards -/
def execBody (cfg : Cfg) (r : Request) : List Ev :=
  if r.blockingExecutor then blockingFields cfg [] r.fields          -- execute_fields_serially = execute_fields
  else if r.serial then execSerial cfg r.fields r.sched
  else execParallel cfg r.fields r.sched

/-- `execute(...)`; `none` = it raised before `on_execution_start` (operation / variables) -/
def execute (cfg : Cfg) (r : Request) : Option (List Ev) :=
  if !r.opselOk then none            -- get_operation_with_type raises InvalidOperationError
  else if !r.varsOk then none        -- coerce_variable_values raises VariablesCoercionError
  else if r.subscriptionOp then none -- "`execute` does not support subscriptions": InvalidOperationError (an ExecutionError)
  else if r.rootCollectFails then
    some (stageStart .execution ++ stageEnd .execution)                -- except ResolverError: on_execution_end(); data=None
  else some (stageStart .execution ++ execBody cfg r ++ stageEnd .execution)     -- _on_finish: on_execution_end
  -- (a root selection set that collects to NOTHING — every field skipped — is `execBody` of an empty field list)

/-- `process_graphql_query`. `abortInsideExcept = true` is the tree before fix N1 (in /repo)
    (`return _abort(...)` inside `except`, i.e. before the `finally`). -/
def pipeline (abortInsideExcept : Bool) (cfg : Cfg) (r : Request) : List Ev :=
  let abort := stageEnd .query                                        -- _abort → _on_end → on_query_end
  stageStart .query ++
  (if r.docIsText && r.syntaxError then
     stageStart .parsing ++
     (if abortInsideExcept then abort ++ stageEnd .parsing            -- except: return _abort(); finally: on_parsing_end
      else stageEnd .parsing ++ abort)                                -- finally: on_parsing_end; then _abort()
   else
     (if r.docIsText then stageStart .parsing ++ stageEnd .parsing else []) ++
     stageStart .validation ++ stageEnd .validation ++
     (if !r.valid then abort
      else match execute cfg r with
        | none => abort                                               -- except VariablesCoercionError / ExecutionError
        | some evs => evs ++ stageEnd .query))                        -- runtime.map_value(execute(...), _on_end)

/-- the recorded trace of a request with instrumentation object `t` -/
def recorded (abortInsideExcept : Bool) (t : Instr) (cfg : Cfg) (r : Request) : List REv :=
  expand t (pipeline abortInsideExcept cfg r)

/-! ### rendering (wire format of the correspondence) -/

def Seg.render : Seg → String
  | .key s => s
  | .idx n => toString n

def renderPath (p : Path) : String := "/".intercalate (p.map Seg.render)

def Stage.render : Stage → String
  | .query => "query" | .parsing => "parsing" | .validation => "validation" | .execution => "execution"

def Hook.render : Hook → String
  | .stage s b => s.render ++ (if b then "+" else "-")
  | .field p b => "field" ++ (if b then "+" else "-") ++ ":" ++ renderPath p

def Ev.render : Ev → String
  | .hook h => "hook:" ++ h.render
  | .mwEnter i p => "mw>" ++ toString i ++ ":" ++ renderPath p
  | .mwExit i p => "mw<" ++ toString i ++ ":" ++ renderPath p
  | .call p => "call:" ++ renderPath p
  | .ret p => "ret:" ++ renderPath p
  | .raise p => "raise:" ++ renderPath p

def REv.render : REv → String
  | .hook i h => "i" ++ toString i ++ ":" ++ h.render
  | .other e => e.render

end PyGql.Instr
