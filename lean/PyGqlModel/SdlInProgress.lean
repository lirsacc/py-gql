/-
  C11 — the extension pass with the builder's REAL bookkeeping of types "in progress" (ast_type_builder.py:
  `extend_type` with `_extended_cache` / `_in_progress`, `_extend_input_field`, `_extend_argument`,
  `_extended_default_value`, `_completed_input_value`), for the default VALUES.

  `Sdl.extendSchema` / `extendSchemaA` evaluate every default literal again over the extended types and approximate "the
  type being extended right now" by ONE hidden type (`hide`, `touches`).  The code keeps a SET (every type on the stack of
  `extend_type` calls), completes the VALUE computed before the extensions (`_completed_input_value`: the fields the
  value has are completed in the extended field type, absent fields take the extended field's default, and the lazy type
  of every present field and of every absent undefaulted field is forced), gives up the completion of a default as soon as
  anything below raises an SDLError ("Invalid circular reference" included) and keeps the old value, and memoises extended
  types — so WHICH defaults stay stale depends on the order in which `extend_type` first reaches the input object types:
  directives first, then `schema.types` in the registration order of `_build_type_map` (`regOrder`).

  `buildP` = `buildA` with the default values of the extension pass computed by that simulation (`PSt`); the STRUCTURE
  (members, duplicate checks, roots, closure) is the one of `extendSchemaA`, run on the document with its default literals
  removed.  It is an executable reference for the shapes the theorems exclude (`SelfDefaults`; known findings S8 (b),
  C11/H4-1) and is compared with the code on the named in-progress probes and on every generated document, next to
  `buildA`; the theorems about it are `buildP_rejects` (Props/C11_rejects.lean) and `buildP_ignoreExtensions`, `buildP_noext`,
  `buildP_h4` (Props/C11_inprogress.lean).  Approximated (stated in corr/C11.py ASSUMPTIONS): the retry of `_default_value` for a
  default written in an extension block (evaluated by name over the extended types unless it touches a type in progress).
  Import-free.
-/
import PyGqlModel.SdlAdditional

namespace PyGql.Sdl
open PyGql

/-! ### registration order of `_build_type_map` -/

/-- children in the order `_register_types` pushes them -/
def regChildren (t : TypeD) : List String :=
  match t.kind with
  | .union => t.members
  | .object => t.interfaces ++ t.fields.flatMap (fun f => f.type.base :: f.args.map (·.type.base))
  | .interface => t.fields.flatMap (fun f => f.type.base :: f.args.map (·.type.base))
  | .input => t.inputFields.map (·.type.base)
  | _ => []

/-- depth-first pre-order with a work list (= the stack of iterators of `_register_types`) -/
def regVisit (types : List TypeD) : Nat → List String → List String → List String
  | 0, _, acc => acc
  | _, [], acc => acc
  | fuel+1, n :: rest, acc =>
    if acc.contains n || isDefaultName n then regVisit types fuel rest acc
    else match types.find? (·.name == n) with
      | none => regVisit types fuel rest acc
      | some t => regVisit types fuel (regChildren t ++ rest) (acc ++ [n])

def regOrder (live : Live) : List String :=
  let roots := live.types.map (·.name) ++ [live.roots.query, live.roots.mutation, live.roots.subscription].filterMap id
                ++ live.directives.flatMap (fun d => d.args.map (·.type.base))
  let fuel := roots.length + (live.types.flatMap regChildren).length + 1
  let seen := regVisit live.types fuel roots []
  seen ++ (live.types.map (·.name)).filter (fun n => !seen.contains n)

/-! ### the simulation -/

structure PCtx where
  live : Live
  texts : List TypeDef
  eB : Env
  eX : Env

def PCtx.inputType (c : PCtx) (n : String) : Option TypeD :=
  match c.live.types.find? (·.name == n) with
  | some t => if t.kind == .input then some t else none
  | none => none

structure PSt where
  /-- `_extended_cache` for input objects: the extended field lists -/
  done : List (String × List ArgD) := []
  /-- objects / interfaces / unions already extended -/
  doneO : List String := []
  /-- (type, field) ↦ extended arguments -/
  args : List ((String × String) × List ArgD) := []
  dirs : List (String × List ArgD) := []
  deriving Inhabited

inductive CErr where
  | missing    -- `_MissingRequiredField`
  | sdl        -- any SDLError raised below (circular reference, a failing nested extension)

def setKey (kvs : List (String × J)) (k : String) (v : J) : List (String × J) :=
  kvs.map fun p => if p.1 == k then (k, v) else p

/-- `_default_value` of an input value written in an EXTENSION block, with the types in `prog` in progress
    (`none` = SDLError) -/
def newDefault (c : PCtx) (prog : List String) (a : InputValDef) : Option (Bool × J) :=
  if !c.eB.resolves a.type.base then none
  else match a.default with
    | none => some (false, .null)
    | some l =>
      match defaultValue c.eB l a.type with
      | .ok v => some (true, v)
      | .error _ =>
        if prog.any (fun h => a.type.base == h || touches c.eX h coerceFuel l a.type) then none
        else match defaultValue c.eX l a.type with
          | .ok v => some (true, v)
          | .error _ => none

mutual
/-- `extend_type(named n)`: `false` = SDLError -/
def reach (c : PCtx) : Nat → List String → PSt → String → PSt × Bool
  | 0, _, st, _ => (st, false)
  | fuel+1, prog, st, n =>
    match c.inputType n with
    | none => (st, true)
    | some t =>
      if st.done.any (·.1 == n) then (st, true)
      else if prog.contains n then (st, false)
      else extInput c fuel (n :: prog) st t

/-- `_extend_input_object_type` (the type itself is in `prog`) -/
def extInput (c : PCtx) : Nat → List String → PSt → TypeD → PSt × Bool
  | 0, _, st, _ => (st, false)
  | fuel+1, prog, st, t =>
    match extFields c fuel prog st t.inputFields with
    | (st1, none) => (st1, false)
    | (st1, some base) =>
      match extNewFields c fuel prog st1 ((c.texts.filter (·.name == t.name)).flatMap (·.inputFields)) with
      | (st2, none) => (st2, false)
      | (st2, some added) => ({ st2 with done := st2.done ++ [(t.name, base ++ added)] }, true)

def extFields (c : PCtx) : Nat → List String → PSt → List ArgD → PSt × Option (List ArgD)
  | 0, _, st, _ => (st, none)
  | _, _, st, [] => (st, some [])
  | fuel+1, prog, st, f :: fs =>
    match extDefault c fuel prog st f.hasDefault f.default f.type with
    | (st1, none) => (st1, none)
    | (st1, some v) =>
      match extFields c fuel prog st1 fs with
      | (st2, none) => (st2, none)
      | (st2, some l) => (st2, some ({ f with default := v } :: l))

def extNewFields (c : PCtx) : Nat → List String → PSt → List InputValDef → PSt × Option (List ArgD)
  | 0, _, st, _ => (st, none)
  | _, _, st, [] => (st, some [])
  | fuel+1, prog, st, a :: as =>
    match newDefault c prog a with
    | none => (st, none)
    | some (hd, v0) =>
      match extDefault c fuel prog st hd v0 a.type with
      | (st1, none) => (st1, none)
      | (st1, some v) =>
        match extNewFields c fuel prog st1 as with
        | (st2, none) => (st2, none)
        | (st2, some l) => (st2, some ({ name := a.name, type := a.type, hasDefault := hd, default := v, desc := a.desc } :: l))

/-- `_extended_default_value(element, lambda: extend_type(element.type))`; `none` = SDLError (missing required field) -/
def extDefault (c : PCtx) : Nat → List String → PSt → Bool → J → Ty → PSt × Option J
  | 0, _, st, _, _, _ => (st, none)
  | fuel+1, prog, st, hasD, v0, ty =>
    if !hasD then (st, some v0)
    else match reach c fuel prog st ty.base with
      | (st1, false) => (st1, some v0)
      | (st1, true) =>
        match complete c fuel prog st1 v0 ty with
        | (st2, .ok v) => (st2, some v)
        | (st2, .error .missing) => (st2, none)
        | (st2, .error .sdl) => (st2, some v0)

/-- `_completed_input_value(value, extended type)` -/
def complete (c : PCtx) : Nat → List String → PSt → J → Ty → PSt × Except CErr J
  | 0, _, st, _, _ => (st, .error .sdl)
  | fuel+1, prog, st, v, ty =>
    match ty with
    | .nonNull t => complete c fuel prog st v t
    | .list t =>
      match v with
      | .arr xs =>
        match completeList c fuel prog st xs t with
        | (st1, .ok ys) => (st1, .ok (.arr ys))
        | (st1, .error e) => (st1, .error e)
      | _ => (st, .ok v)
    | .named n =>
      match v with
      | .obj kvs =>
        match c.inputType n with
        | none => (st, .ok v)
        | some _ =>
          match st.done.find? (·.1 == n) with
          | none => (st, .ok v)
          | some (_, fs) =>
            match completeFields c fuel prog st kvs fs with
            | (st1, .ok r) => (st1, .ok (.obj r))
            | (st1, .error e) => (st1, .error e)
      | _ => (st, .ok v)

def completeList (c : PCtx) : Nat → List String → PSt → List J → Ty → PSt × Except CErr (List J)
  | 0, _, st, _, _ => (st, .error .sdl)
  | _, _, st, [], _ => (st, .ok [])
  | fuel+1, prog, st, x :: xs, t =>
    match complete c fuel prog st x t with
    | (st1, .error e) => (st1, .error e)
    | (st1, .ok y) =>
      match completeList c fuel prog st1 xs t with
      | (st2, .error e) => (st2, .error e)
      | (st2, .ok ys) => (st2, .ok (y :: ys))

def completeFields (c : PCtx) : Nat → List String → PSt → List (String × J) → List ArgD → PSt × Except CErr (List (String × J))
  | 0, _, st, _, _ => (st, .error .sdl)
  | _, _, st, kvs, [] => (st, .ok kvs)
  | fuel+1, prog, st, kvs, g :: gs =>
    match kvs.find? (·.1 == g.name) with
    | some (_, cur) =>
      match reach c fuel prog st g.type.base with
      | (st1, false) => (st1, .error .sdl)
      | (st1, true) =>
        match complete c fuel prog st1 cur g.type with
        | (st2, .ok v) => completeFields c fuel prog st2 (setKey kvs g.name v) gs
        | (st2, .error e) => (st2, .error e)
    | none =>
      if g.hasDefault then completeFields c fuel prog st (kvs ++ [(g.name, g.default)]) gs
      else match reach c fuel prog st g.type.base with
        | (st1, false) => (st1, .error .sdl)
        | (st1, true) => if g.type.isNonNull then (st1, .error .missing) else completeFields c fuel prog st1 kvs gs
end

def simFuel : Nat := 4000

/-- `_extend_argument` at top level (no input object in progress); `none` = SDLError -/
def extArgs (c : PCtx) : PSt → List ArgD → PSt × Option (List ArgD)
  | st, [] => (st, some [])
  | st, a :: as =>
    match reach c simFuel [] st a.type.base with
    | (st1, false) => (st1, none)
    | (st1, true) =>
      let (st2, r) : PSt × Option J :=
        if !a.hasDefault then (st1, some a.default)
        else match complete c simFuel [] st1 a.default a.type with
          | (s, .ok v) => (s, some v)
          | (s, .error .missing) => (s, none)
          | (s, .error .sdl) => (s, some a.default)
      match r with
      | none => (st2, none)
      | some v =>
        match extArgs c st2 as with
        | (st3, none) => (st3, none)
        | (st3, some l) => (st3, some ({ a with default := v } :: l))

/-- arguments written in an extension block: `_build_argument` then `_extend_argument` -/
def newArgs (c : PCtx) (st : PSt) (as : List InputValDef) : PSt × Option (List ArgD) :=
  match as.mapM (fun a => (newDefault c [] a).map fun (hd, v0) => ({ name := a.name, type := a.type, hasDefault := hd, default := v0, desc := a.desc } : ArgD)) with
  | none => (st, none)
  | some built => extArgs c st built

def extFieldArgs (c : PCtx) (tn : String) : PSt → List (String × (PSt → PSt × Option (List ArgD))) → PSt × Bool
  | st, [] => (st, true)
  | st, (fname, run) :: rest =>
    match run st with
    | (st1, none) => (st1, false)
    | (st1, some as) => extFieldArgs c tn { st1 with args := st1.args ++ [((tn, fname), as)] } rest

/-- `extend_type(t)` from the top-level loop (any kind) -/
def topType (c : PCtx) : Nat → PSt → String → PSt × Bool
  | 0, st, _ => (st, false)
  | fuel+1, st, n =>
    match c.live.types.find? (·.name == n) with
    | none => (st, true)
    | some t =>
      match t.kind with
      | .input => reach c simFuel [] st n
      | .object | .interface =>
        if st.doneO.contains n then (st, true)
        else
          let mine := c.texts.filter (·.name == n)
          let jobs : List (String × (PSt → PSt × Option (List ArgD))) :=
            t.fields.map (fun f => (f.name, fun s => extArgs c s f.args)) ++
            (mine.flatMap (·.fields)).map (fun fd => (fd.name, fun s => newArgs c s fd.args))
          match extFieldArgs c n { st with doneO := st.doneO ++ [n] } jobs with
          | (st1, false) => (st1, false)
          | (st1, true) =>
            if t.kind == .object then
              (t.interfaces ++ mine.flatMap (·.interfaces)).foldl (fun (acc : PSt × Bool) i => if acc.2 then topType c fuel acc.1 i else acc) (st1, true)
            else (st1, true)
      | .union =>
        if st.doneO.contains n then (st, true)
        else
          let mine := c.texts.filter (·.name == n)
          (t.members ++ mine.flatMap (·.members)).foldl (fun (acc : PSt × Bool) m => if acc.2 then topType c fuel acc.1 m else acc) ({ st with doneO := st.doneO ++ [n] }, true)
      | _ => (st, true)

def simDirectives (c : PCtx) : PSt → List DirectiveD → PSt × Bool
  | st, [] => (st, true)
  | st, d :: ds =>
    match extArgs c st d.args with
    | (st1, none) => (st1, false)
    | (st1, some as) => simDirectives c { st1 with dirs := st1.dirs ++ [(d.name, as)] } ds

/-- the whole extension pass, for the default values -/
def simulate (c : PCtx) : Option PSt :=
  match simDirectives c {} c.live.directives with
  | (_, false) => none
  | (st, true) =>
    let r := (regOrder c.live).foldl (fun (acc : PSt × Bool) n => if acc.2 then topType c 8 acc.1 n else acc) (st, true)
    if r.2 then some r.1 else none

/-! ### structure without defaults, then the values -/

def stripIV (a : InputValDef) : InputValDef := { a with default := none }
def stripFD (f : FieldDef) : FieldDef := { f with args := f.args.map stripIV }
def stripTD (t : TypeDef) : TypeDef := { t with fields := t.fields.map stripFD, inputFields := t.inputFields.map stripIV }
def stripDef : Def → Def
  | .type t => .type (stripTD t)
  | .ext t => .ext (stripTD t)
  | .directive d => .directive { d with args := d.args.map stripIV }
  | d => d
def stripArg (a : ArgD) : ArgD := { a with hasDefault := false, default := .null }
def stripLiveT (t : TypeD) : TypeD :=
  { t with fields := t.fields.map (fun f => { f with args := f.args.map stripArg }), inputFields := t.inputFields.map stripArg }
def stripLive (l : Live) : Live :=
  { l with types := l.types.map stripLiveT, directives := l.directives.map fun d => { d with args := d.args.map stripArg } }

def patchArgs (src : List ArgD) (as : List ArgD) : List ArgD :=
  as.map fun a => match src.find? (·.name == a.name) with
    | some s => { a with hasDefault := s.hasDefault, default := s.default }
    | none => a

def patchType (st : PSt) (t : TypeD) : TypeD :=
  match t.kind with
  | .input =>
    match st.done.find? (·.1 == t.name) with
    | some (_, fs) => { t with inputFields := patchArgs fs t.inputFields }
    | none => t
  | .object | .interface =>
    { t with fields := t.fields.map fun f =>
        match st.args.find? (fun p => p.1.1 == t.name && p.1.2 == f.name) with
        | some (_, as) => { f with args := patchArgs as f.args }
        | none => f }
  | _ => t

def patchDirective (st : PSt) (d : DirectiveD) : DirectiveD :=
  match st.dirs.find? (·.1 == d.name) with
  | some (_, as) => { d with args := patchArgs as d.args }
  | none => d

/-- `build_schema(doc, ignore_extensions=…, additional_types=…)` with the in-progress bookkeeping of the code -/
def buildP (doc : Doc) (ignoreExtensions : Bool := false) (additional : List TypeD := []) : R SchemaD := do
  let add := normAdditional additional
  let c ← collectDefinitions doc
  let (env, live) ← buildCollectedA c add
  let texts := typeExtensions live doc
  if ignoreExtensions || (texts.isEmpty && (schemaExtensions doc).isEmpty) then pure (toSchemaD live)
  else do
    -- structure: the extension pass on the document without its default literals
    let envS : Env := Env.of (c.types.map stripTD) (add.map stripLiveT)
    let shape ← extendSchemaA envS (stripLive live) (doc.map stripDef) (add.map stripLiveT)
    -- values
    match simulate { live := live, texts := texts, eB := env, eX := env.extendedA texts } with
    | none => sdlErr
    | some st =>
      -- supplied types reached by the closure only keep their own values
      let types := shape.types.map fun t =>
        match live.types.find? (·.name == t.name) with
        | some _ => patchType st t
        | none => match add.find? (·.name == t.name) with | some a => a | none => t
      pure (toSchemaD { shape with types := types, directives := shape.directives.map (patchDirective st) })

end PyGql.Sdl
