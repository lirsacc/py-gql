/-
  C19 — MODEL of depth limiting.

  Mirrors, function by function (quirks included):
    src/py_gql/utilities/collect_fields.py : `_skip_selection`, `_merge`,
        `collect_fields_untyped`, `selected_fields` (pattern = None)
    src/py_gql/utilities/max_depth.py      : `MaxDepthValidationRule.__call__`
        * `ruleOrig`  — the code of the unchanged tree (defect Q1), kept for the
                        machine-checked refutations;
        * `nestingLevels`, `rule` — the code after proposed_fixes/C19-Q1.patch.

  The document type is the minimal executable-document AST sufficient for the
  property: type conditions, arguments and unrelated directives are dropped
  (the untyped collection never looks at them).

  Python exceptions are explicit: `Err.recursion` (unbounded recursion = fuel
  exhausted), `Err.coercion` (`CoercionError`: directive variable not provided),
  `Err.value` (`ValueError`: `max()` of an empty sequence), `Err.index`.
  No import from outside the project (core Lean only).
-/
import PyGqlModel.Generated.DepthVariant

namespace PyGql.Depth

/-! ### minimal executable-document AST -/

/-- the `if:` argument of `@skip` / `@include` -/
inductive Cond where
  | lit (b : Bool)
  | var (name : String)
  deriving Repr, DecidableEq, Inhabited

/-- first `@skip` and first `@include` of a node (`find_one`) -/
structure Dirs where
  skip : Option Cond := none
  incl : Option Cond := none
  deriving Repr, DecidableEq, Inhabited

inductive Sel where
  /-- `sub = []` stands for `selection_set is None` (an empty selection set is not parseable) -/
  | field (alias : Option String) (name : String) (dirs : Dirs) (sub : List Sel)
  | inline (dirs : Dirs) (sels : List Sel)
  | spread (name : String) (dirs : Dirs)
  deriving Repr, Inhabited

structure Frag where
  name : String
  sels : List Sel
  deriving Repr, Inhabited

structure Op where
  name : Option String
  sels : List Sel
  deriving Repr, Inhabited

structure Doc where
  ops : List Op
  frags : List Frag
  deriving Repr, Inhabited

/-- variables: name → bool (the property quantifies over the values steering the directives) -/
abbrev Vars := List (String × Bool)

inductive Err where
  | recursion | coercion | value | index
  deriving Repr, DecidableEq, Inhabited

deriving instance DecidableEq for Except

def Err.toString : Err → String
  | .recursion => "recursion" | .coercion => "coercion" | .value => "value" | .index => "index"

/-- `Document.fragments[name]` — a dict comprehension in definition order: the LAST definition wins. -/
def lookupFrag (frags : List Frag) (name : String) : Option Frag :=
  frags.reverse.find? (fun f => f.name == name)

/-! ### `_skip_selection` -/

/-- `coerce_argument_values` for the single `if: Boolean!` argument (no default). -/
def evalCond (vars : Vars) : Cond → Except Err Bool
  | .lit b => .ok b
  | .var n => match vars.lookup n with
    | some b => .ok b
    | none => .error .coercion

def evalOpt (vars : Vars) : Option Cond → Except Err (Option Bool)
  | none => .ok none
  | some c => match evalCond vars c with
    | .ok b => .ok (some b)
    | .error e => .error e

/-- `_skip_selection`: both directives are evaluated (skip first), then
    `skipped or (not included)`. -/
def skipSelection (d : Dirs) (vars : Vars) : Except Err Bool :=
  match evalOpt vars d.skip with
  | .error e => .error e
  | .ok skip =>
    match evalOpt vars d.incl with
    | .error e => .error e
    | .ok incl => .ok (skip.getD false || !(incl.getD true))

/-! ### grouped fields (an `OrderedDict[str, List[Field]]`) -/

/-- a collected `ast.Field` (directives are no longer looked at) -/
structure Fld where
  alias : Option String
  name : String
  sub : List Sel
  deriving Repr, Inhabited

abbrev Grouped := List (String × List Fld)

/-- `if key not in into: into[key] = []` ; `into[key].extend(fs)` -/
def extendKey : Grouped → String → List Fld → Grouped
  | [], key, fs => [(key, fs)]
  | (k, xs) :: rest, key, fs =>
    if k == key then (k, xs ++ fs) :: rest else (k, xs) :: extendKey rest key fs

/-- `_merge(groups, into=...)` -/
def merge (groups into : Grouped) : Grouped :=
  groups.foldl (fun acc kv => extendKey acc kv.1 kv.2) into

/-- `Field.response_name` -/
def responseName (alias : Option String) (name : String) : String := alias.getD name

/-! ### `collect_fields_untyped` -/

/-- (grouped_fields, the `_seen_fragments` set as an insertion-ordered list) -/
abbrev CState := Grouped × List String

/-- `for selection in selections:` with early exit on an exception -/
def loopM {σ α : Type} (step : σ → α → Except Err σ) : σ → List α → Except Err σ
  | st, [] => .ok st
  | st, s :: ss =>
    match step st s with
    | .error e => .error e
    | .ok st' => loopM step st' ss

/-- what the callee's `_seen_fragments = _seen_fragments or set()` means for the caller:
    an EMPTY set is replaced by a fresh one in the callee (additions invisible to the
    caller), a non-empty one is shared. -/
def seenAfterCall (mine callee : List String) : List String :=
  -- EXTRACTED: `if _seen_fragments is None: _seen_fragments = set()` (C19-H2.patch: the set is always shared)
  -- vs `_seen_fragments = _seen_fragments or set()` (an empty set is replaced by a private one)
  if PyGql.Generated.DepthVariant.sharedSeen then callee
  else if mine.isEmpty then mine else callee

def setAdd (s : List String) (x : String) : List String :=
  if s.contains x then s else s ++ [x]

/-- body of the loop of `collect_fields_untyped`; `rec` is the recursive call. -/
def collectStep (rec : List Sel → List String → Except Err CState)
    (frags : List Frag) (vars : Vars) (st : CState) : Sel → Except Err CState
  | .field alias name dirs sub =>
    match skipSelection dirs vars with
    | .error e => .error e
    | .ok true => .ok st
    | .ok false => .ok (extendKey st.1 (responseName alias name) [⟨alias, name, sub⟩], st.2)
  | .inline dirs sels =>
    match skipSelection dirs vars with
    | .error e => .error e
    | .ok true => .ok st
    | .ok false =>
      match rec sels st.2 with
      | .error e => .error e
      | .ok (g, seen') => .ok (merge g st.1, seenAfterCall st.2 seen')
  | .spread name dirs =>
    match skipSelection dirs vars with
    | .error e => .error e
    | .ok true => .ok st
    | .ok false =>
      if st.2.contains name then .ok st
      else
        match lookupFrag frags name with
        | none => .ok st     -- `except KeyError: continue`
        | some fr =>
          match rec fr.sels st.2 with
          | .error e => .error e
          | .ok (g, seen') => .ok (merge g st.1, setAdd (seenAfterCall st.2 seen') name)

/-- `collect_fields_untyped(selections, fragments, variables, _seen_fragments)`.
    Fuel = Python's call stack: `0` is a `RecursionError` (cyclic fragments: the name is
    added to `_seen_fragments` only AFTER the recursive call returns). -/
def collectFieldsUntyped : Nat → List Sel → List Frag → Vars → List String → Except Err CState
  | 0, _, _, _, _ => .error .recursion
  | fuel + 1, sels, frags, vars, seen =>
    loopM (collectStep (fun ss sn => collectFieldsUntyped fuel ss frags vars sn) frags vars) ([], seen) sels

/-! ### `selected_fields`

  `selectedFieldsOrig` — the code before proposed_fixes/C19-Q1sf.patch (descends into `fields[0]`
  only; this is what the UNCHANGED depth rule measured through);
  `selectedPaths` / `selectedFields` — after it (`_selected_paths` descends into the merged
  sub-selections of a response-key group). `pat` is the compiled `pattern` as a predicate on the
  path (`fun _ => true` for `pattern=None`). -/

/-- `(not maxdepth) or len(_path) < (maxdepth - 1)`; `maxdepth = 0` also stands for `None`. -/
def descend (maxdepth : Nat) (pathLen : Nat) : Bool :=
  maxdepth == 0 || decide (pathLen + 1 < maxdepth)

def selectedLoopOrig (rec : List Sel → List String → Except Err (List (List String)))
    (maxdepth : Nat) (path : List String) : List (List String) → Grouped → Except Err (List (List String))
  | acc, [] => .ok acc
  | acc, (_, fields) :: rest =>
    match fields with
    | [] => .error .index                    -- `fields[0]`
    | child :: _ =>
      let childPath := path ++ [child.name]
      let acc := acc ++ [childPath]
      if descend maxdepth path.length then
        match rec child.sub childPath with
        | .error e => .error e
        | .ok more => selectedLoopOrig rec maxdepth path (acc ++ more) rest
      else selectedLoopOrig rec maxdepth path acc rest

/-- unchanged `selected_fields(field, fragments=, variables=, maxdepth=, _path=)` (pattern = None); the field
    is given by its sub-selection; a path is the list of its `/`-separated components. -/
def selectedFieldsOrig : Nat → List Sel → List Frag → Vars → Nat → List String → Except Err (List (List String))
  | 0, _, _, _, _, _ => .error .recursion
  | fuel + 1, sub, frags, vars, maxdepth, path =>
    match sub with
    | [] => .ok []                            -- `field.selection_set is None`
    | _ =>
      match collectFieldsUntyped (fuel + 1) sub frags vars [] with
      | .error e => .error e
      | .ok (collected, _) =>
        selectedLoopOrig (fun s p => selectedFieldsOrig fuel s frags vars maxdepth p) maxdepth path [] collected

/-- the loop of `_selected_paths` -/
def pathsLoop (rec : List Sel → List String → Except Err (List (List String)))
    (maxdepth : Nat) (pat : List String → Bool) (path : List String) :
    List (List String) → Grouped → Except Err (List (List String))
  | acc, [] => .ok acc
  | acc, (_, fields) :: rest =>
    match fields with
    | [] => .error .index                    -- `fields[0]`
    | child :: _ =>
      let childPath := path ++ [child.name]
      let acc := if pat childPath then acc ++ [childPath] else acc
      if descend maxdepth path.length then
        match rec (fields.flatMap (·.sub)) childPath with
        | .error e => .error e
        | .ok more => pathsLoop rec maxdepth pat path (acc ++ more) rest
      else pathsLoop rec maxdepth pat path acc rest

/-- `_selected_paths(selections, fragments, variables, maxdepth, pattern, path)` -/
def selectedPaths : Nat → List Sel → List Frag → Vars → Nat → (List String → Bool) → List String →
    Except Err (List (List String))
  | 0, _, _, _, _, _, _ => .error .recursion
  | fuel + 1, sels, frags, vars, maxdepth, pat, path =>
    match collectFieldsUntyped (fuel + 1) sels frags vars [] with
    | .error e => .error e
    | .ok (collected, _) =>
      pathsLoop (fun s p => selectedPaths fuel s frags vars maxdepth pat p) maxdepth pat path [] collected

/-- `selected_fields(field, ...)` after the fix; `sub = []` is `field.selection_set is None` -/
def selectedFields (fuel : Nat) (sub : List Sel) (frags : List Frag) (vars : Vars) (maxdepth : Nat)
    (pat : List String → Bool) (path : List String) : Except Err (List (List String)) :=
  match sub with
  | [] => .ok []
  | _ => selectedPaths fuel sub frags vars maxdepth pat path

/-! ### `MaxDepthValidationRule.__call__` -/

/-- `if self.operation_name and not (op.name and op.name.value == self.operation_name): continue` -/
def opSelected (filter : Option String) (op : Op) : Bool :=
  match filter with
  | none => true
  | some f => if f == "" then true else op.name == some f

def maxList : List Nat → Nat
  | [] => 0
  | x :: xs => max x (maxList xs)

/-- unchanged tree: paths of the DIRECT `Field` children only (their own directives are not
    evaluated), `max()` over a possibly empty generator. -/
def depthOrig (fuel : Nat) (op : Op) (frags : List Frag) (vars : Vars) : Except Err Nat :=
  match loopM (fun (acc : List (List String)) (s : Sel) =>
      match s with
      | .field _ _ _ sub =>
        match selectedFieldsOrig fuel sub frags vars 0 [] with
        | .error e => .error e
        | .ok ps => .ok (acc ++ ps)
      | _ => .ok acc) [] op.sels with
  | .error e => .error e
  | .ok [] => .error .value                   -- `max()` of an empty sequence
  | .ok ps => .ok (maxList (ps.map List.length))   -- `x.count("/") + 1`

/-- the loop over `doc.definitions`; result: (index of the operation among the operations, depth)
    for every reported error, in order. -/
def ruleLoop (depthOf : Nat → Op → Except Err Nat) (limit : Nat) (filter : Option String) :
    Nat → List Op → Except Err (List (Nat × Nat))
  | _, [] => .ok []
  | i, op :: rest =>
    if opSelected filter op then
      match depthOf i op with
      | .error e => .error e
      | .ok d =>
        match ruleLoop depthOf limit filter (i + 1) rest with
        | .error e => .error e
        | .ok errs => .ok (if d > limit then (i, d) :: errs else errs)
    else ruleLoop depthOf limit filter (i + 1) rest

/-- `MaxDepthValidationRule(limit, operation_name=filter)(schema, doc, vars)` on the unchanged tree. -/
def ruleOrig (fuel limit : Nat) (filter : Option String) (doc : Doc) (vars : Vars) :
    Except Err (List (Nat × Nat)) :=
  ruleLoop (fun _ op => depthOrig fuel op doc.frags vars) limit filter 0 doc.ops

/-! #### after proposed_fixes/C19-Q1.patch -/

def levelsLoop (rec : List Sel → Except Err Nat) : Nat → Grouped → Except Err Nat
  | lv, [] => .ok lv
  | lv, (_, fields) :: rest =>
    match rec (fields.flatMap (·.sub)) with
    | .error e => .error e
    | .ok n => levelsLoop rec (max lv (1 + n)) rest

/-- `_nesting_levels(selections, fragments, variables)` -/
def nestingLevels : Nat → List Sel → List Frag → Vars → Except Err Nat
  | 0, _, _, _ => .error .recursion
  | fuel + 1, sels, frags, vars =>
    match collectFieldsUntyped (fuel + 1) sels frags vars [] with
    | .error e => .error e
    | .ok (collected, _) => levelsLoop (fun ss => nestingLevels fuel ss frags vars) 0 collected

/-- `depth = max(0, _nesting_levels(op.selection_set.selections, ...) - 1)` -/
def depthFixed (fuel : Nat) (op : Op) (frags : List Frag) (vars : Vars) : Except Err Nat :=
  match nestingLevels fuel op.sels frags vars with
  | .error e => .error e
  | .ok n => .ok (n - 1)

def rule (fuel limit : Nat) (filter : Option String) (doc : Doc) (vars : Vars) :
    Except Err (List (Nat × Nat)) :=
  ruleLoop (fun _ op => depthFixed fuel op doc.frags vars) limit filter 0 doc.ops

/-! #### after proposed_fixes/C19-Q1vars.patch: variables coerced per operation -/

/-- a variable definition of an operation, as far as `@skip/@include` can see it (Boolean variables):
    `$name: Boolean[!] [= default]` -/
structure VarDef where
  name : String
  nonNull : Bool
  default : Option Bool
  deriving Repr, DecidableEq, Inhabited

/-- `coerce_variable_values(schema, op, variables)` on Boolean variables: `none` = `VariablesCoercionError`
    (a required variable without default is missing); extra variables are filtered out. -/
def coerceVariableValues : List VarDef → Vars → Option Vars
  | [], _ => some []
  | d :: ds, vars =>
    match coerceVariableValues ds vars with
    | none => none
    | some rest =>
      match vars.lookup d.name with
      | some b => some ((d.name, b) :: rest)
      | none =>
        match d.default with
        | some v => some ((d.name, v) :: rest)
        | none => if d.nonNull then none else some rest

/-- `try: op_variables = coerce_variable_values(...) except VariablesCoercionError: op_variables = variables` -/
def effectiveVars (defs : List VarDef) (vars : Vars) : Vars :=
  (coerceVariableValues defs vars).getD vars

/-- the rule after C19-Q1vars.patch; `defs[i]` = variable definitions of the i-th operation -/
def ruleV (fuel limit : Nat) (filter : Option String) (doc : Doc) (defs : List (List VarDef)) (vars : Vars) :
    Except Err (List (Nat × Nat)) :=
  ruleLoop (fun i op => depthFixed fuel op doc.frags (effectiveVars (defs.getD i []) vars)) limit filter 0 doc.ops

/-! #### the pipeline `graphql_blocking(schema, doc, variables, validators=[default_validator, MaxDepthValidationRule(n, operation_name=filter)])` -/

/-- what `process_graphql_query` does with the validators' verdicts, as far as C19 can see -/
inductive Outcome where
  /-- an exception escapes `validate_ast` -/
  | raised (e : Err)
  /-- `_abort(errors=validation_result.errors)`: depth errors (operation index, depth) + number of other errors -/
  | rejected (depthErrors : List (Nat × Nat)) (otherErrors : Nat)
  /-- validation passed: the document goes to `execute` -/
  | executed
  deriving Repr, DecidableEq

/-- `validate_ast(schema, ast, validators=[default_validator, rule], variables=variables)` followed by the
    `if not validation_result: return _abort(...)` of `process_graphql_query` (after C19-Q1vars.patch the request
    variables reach the validators). The default validator is abstracted to the number of errors it reports
    (it ignores the variables; that it does not raise on parsed documents is C05's statement). -/
def outcomeOf (r : Except Err (List (Nat × Nat))) (defaultErrors : Nat) : Outcome :=
  match r with
  | .error e => .raised e
  | .ok errs => if defaultErrors = 0 ∧ errs = [] then .executed else .rejected errs defaultErrors

def pipeline (fuel n : Nat) (filter : Option String) (doc : Doc) (defs : List (List VarDef)) (vars : Vars)
    (defaultErrors : Nat) : Outcome :=
  outcomeOf (ruleV fuel n filter doc defs vars) defaultErrors

/-- the request is rejected with (at least) a depth error -/
def Outcome.depthRejected : Outcome → Bool
  | .rejected (_ :: _) _ => true
  | _ => false

/-! #### arbitrary JSON request variables: what the rule does when they do NOT coerce

  `VarDef`/`Vars` above cover Boolean variables with boolean values. Here the request variables are raw JSON
  values and operations may declare `Int` variables too: `coerce_variable_values` can now fail for SOME
  operations of a document (missing required variable, explicit `null` for a non-null type, wrong JSON kind),
  and the rule then falls back to the RAW mapping, whose values `_skip_selection` uses by Python truthiness;
  an unavailable (missing or `null`) directive variable makes `coerce_argument_values` raise `CoercionError`. -/

inductive RawVal where
  | bool (b : Bool) | null | int (n : Int) | str (s : String)
  /-- a JSON array / object: only its emptiness matters (truthiness) -/
  | list (nonEmpty : Bool)
  deriving Repr, DecidableEq, Inhabited

/-- Python truthiness of a JSON value -/
def RawVal.truthy : RawVal → Bool
  | .bool b => b | .null => false | .int n => n != 0 | .str s => s != "" | .list ne => ne

inductive VTy where
  | boolean | int
  deriving Repr, DecidableEq, Inhabited

/-- `$name: Boolean|Int [!] [= default]` (the default is a literal of the variable's type) -/
structure VarDefR where
  name : String
  ty : VTy
  nonNull : Bool
  default : Option RawVal
  deriving Repr, DecidableEq, Inhabited

abbrev RawVars := List (String × RawVal)

/-- `coerce_value(value, type)` for a non-null JSON value: `Boolean.parse` = `_parse_bool` (containers rejected,
    otherwise `bool(value)`); `Int.parse` = `coerce_int` (ints — `True`/`False` included — and integer strings
    within 32 bits; float forms are not modelled). `none` = the value does not coerce. -/
def coerceScalar : VTy → RawVal → Option RawVal
  | .boolean, .list _ => none
  | .boolean, v => some (.bool v.truthy)
  | .int, .int n => if decide (-2147483648 ≤ n) && decide (n ≤ 2147483647) then some (.int n) else none
  | .int, .bool b => some (.int (if b then 1 else 0))
  | .int, .str s =>
    match s.toInt? with
    | some n => if decide (-2147483648 ≤ n) && decide (n ≤ 2147483647) then some (.int n) else none
    | none => none
  | .int, _ => none

/-- the view `_skip_selection` has of a variables mapping: available (non-null) values by truthiness;
    a missing or `null` variable is unavailable (`CoercionError` when a directive needs it) -/
def viewOf : RawVars → Vars
  | [] => []
  | (n, v) :: rest => match v with
    | .null => viewOf rest
    | v => (n, v.truthy) :: viewOf rest

/-- `coerce_variable_values(schema, op, variables)` as a view; `none` = `VariablesCoercionError` -/
def coerceRaw : List VarDefR → RawVars → Option RawVars
  | [], _ => some []
  | d :: ds, raw =>
    match coerceRaw ds raw with
    | none => none
    | some rest =>
      match raw.lookup d.name with
      | none =>
        match d.default with
        | some v => some ((d.name, v) :: rest)
        | none => if d.nonNull then none else some rest
      | some .null => if d.nonNull then none else some ((d.name, .null) :: rest)
      | some v =>
        match coerceScalar d.ty v with
        | some c => some ((d.name, c) :: rest)
        | none => none

/-- `try: coerce_variable_values(...) except VariablesCoercionError: op_variables = variables` -/
def effectiveVarsR (defs : List VarDefR) (raw : RawVars) : Vars :=
  viewOf ((coerceRaw defs raw).getD raw)

def ruleR (fuel limit : Nat) (filter : Option String) (doc : Doc) (defs : List (List VarDefR)) (raw : RawVars) :
    Except Err (List (Nat × Nat)) :=
  ruleLoop (fun i op => depthFixed fuel op doc.frags (effectiveVarsR (defs.getD i []) raw)) limit filter 0 doc.ops

def pipelineR (fuel n : Nat) (filter : Option String) (doc : Doc) (defs : List (List VarDefR)) (raw : RawVars)
    (defaultErrors : Nat) : Outcome :=
  outcomeOf (ruleR fuel n filter doc defs raw) defaultErrors

/-! #### after proposed_fixes/C19-Q1vars2.patch: the `skip_selection` hook of `collect_fields_untyped`

  `collect_fields_untyped(..., skip_selection=None)` evaluates `@skip/@include` with the given callable
  (default: the strict `_skip_selection`, which raises `CoercionError` on an unusable variable); the depth
  rule passes `_skip_unless_unknown`: a condition that cannot be evaluated KEEPS the selection. -/

/-- `_skip_unless_unknown(node, variables)` -/
def skipSelectionT (d : Dirs) (vars : Vars) : Except Err Bool :=
  match skipSelection d vars with
  | .ok b => .ok b
  | .error _ => .ok false          -- `except CoercionError: return False`

/-- body of the loop of `collect_fields_untyped` with `skip = skip_selection or _skip_selection` -/
def collectStepG (skipFn : Dirs → Vars → Except Err Bool)
    (rec : List Sel → List String → Except Err CState)
    (frags : List Frag) (vars : Vars) (st : CState) : Sel → Except Err CState
  | .field alias name dirs sub =>
    match skipFn dirs vars with
    | .error e => .error e
    | .ok true => .ok st
    | .ok false => .ok (extendKey st.1 (responseName alias name) [⟨alias, name, sub⟩], st.2)
  | .inline dirs sels =>
    match skipFn dirs vars with
    | .error e => .error e
    | .ok true => .ok st
    | .ok false =>
      match rec sels st.2 with
      | .error e => .error e
      | .ok (g, seen') => .ok (merge g st.1, seenAfterCall st.2 seen')
  | .spread name dirs =>
    match skipFn dirs vars with
    | .error e => .error e
    | .ok true => .ok st
    | .ok false =>
      if st.2.contains name then .ok st
      else
        match lookupFrag frags name with
        | none => .ok st
        | some fr =>
          match rec fr.sels st.2 with
          | .error e => .error e
          | .ok (g, seen') => .ok (merge g st.1, setAdd (seenAfterCall st.2 seen') name)

/-- `collect_fields_untyped(selections, fragments, variables, _seen_fragments, skip_selection=skipFn)` -/
def collectFieldsUntypedG (skipFn : Dirs → Vars → Except Err Bool) :
    Nat → List Sel → List Frag → Vars → List String → Except Err CState
  | 0, _, _, _, _ => .error .recursion
  | fuel + 1, sels, frags, vars, seen =>
    loopM (collectStepG skipFn (fun ss sn => collectFieldsUntypedG skipFn fuel ss frags vars sn) frags vars) ([], seen) sels

/-- `_nesting_levels` with `collect_fields_untyped(..., skip_selection=skipFn)` -/
def nestingLevelsG (skipFn : Dirs → Vars → Except Err Bool) : Nat → List Sel → List Frag → Vars → Except Err Nat
  | 0, _, _, _ => .error .recursion
  | fuel + 1, sels, frags, vars =>
    match collectFieldsUntypedG skipFn (fuel + 1) sels frags vars [] with
    | .error e => .error e
    | .ok (collected, _) => levelsLoop (fun ss => nestingLevelsG skipFn fuel ss frags vars) 0 collected

def depthFixedG (skipFn : Dirs → Vars → Except Err Bool) (fuel : Nat) (op : Op) (frags : List Frag) (vars : Vars) :
    Except Err Nat :=
  match nestingLevelsG skipFn fuel op.sels frags vars with
  | .error e => .error e
  | .ok n => .ok (n - 1)

/-- `_selected_paths(...)` calling `collect_fields_untyped(..., skip_selection=skipFn)` (since /repo 4c46ee1 the
    look-ahead helper passes the lenient `_skip_unless_unevaluable` = `skipSelectionT`) -/
def selectedPathsG (skipFn : Dirs → Vars → Except Err Bool) :
    Nat → List Sel → List Frag → Vars → Nat → (List String → Bool) → List String → Except Err (List (List String))
  | 0, _, _, _, _, _, _ => .error .recursion
  | fuel + 1, sels, frags, vars, maxdepth, pat, path =>
    match collectFieldsUntypedG skipFn (fuel + 1) sels frags vars [] with
    | .error e => .error e
    | .ok (collected, _) =>
      pathsLoop (fun s p => selectedPathsG skipFn fuel s frags vars maxdepth pat p) maxdepth pat path [] collected

def selectedFieldsG (skipFn : Dirs → Vars → Except Err Bool) (fuel : Nat) (sub : List Sel) (frags : List Frag)
    (vars : Vars) (maxdepth : Nat) (pat : List String → Bool) (path : List String) : Except Err (List (List String)) :=
  match sub with
  | [] => .ok []
  | _ => selectedPathsG skipFn fuel sub frags vars maxdepth pat path

/-- the rule after C19-Q1vars2.patch (raw JSON request variables, tolerant directive evaluation) -/
def ruleRT (fuel limit : Nat) (filter : Option String) (doc : Doc) (defs : List (List VarDefR)) (raw : RawVars) :
    Except Err (List (Nat × Nat)) :=
  ruleLoop (fun i op => depthFixedG skipSelectionT fuel op doc.frags (effectiveVarsR (defs.getD i []) raw))
    limit filter 0 doc.ops

def pipelineRT (fuel n : Nat) (filter : Option String) (doc : Doc) (defs : List (List VarDefR)) (raw : RawVars)
    (defaultErrors : Nat) : Outcome :=
  outcomeOf (ruleRT fuel n filter doc defs raw) defaultErrors

/-! ### fuel: a computable potential that bounds every recursion on acyclic documents -/

mutual
/-- potential of a selection under fragment weights `w` -/
def pot (w : String → Nat) : Sel → Nat
  | .field _ _ _ sub => 1 + potL w sub
  | .inline _ ss => 1 + potL w ss
  | .spread n _ => 1 + w n
def potL (w : String → Nat) : List Sel → Nat
  | [] => 0
  | s :: ss => max (pot w s) (potL w ss)
end

def wOf (tbl : List (String × Nat)) (n : String) : Nat := (tbl.lookup n).getD 0

def weightStep (frags : List Frag) (tbl : List (String × Nat)) : List (String × Nat) :=
  frags.map fun f => (f.name, potL (wOf tbl) f.sels)

def iter {α : Type} (f : α → α) : Nat → α → α
  | 0, a => a
  | n + 1, a => iter f n (f a)

/-- fragment weights: `length + 1` rounds of "weight = potential of the body" from 0 -/
def weights (frags : List Frag) : List (String × Nat) :=
  iter (weightStep frags) (frags.length + 1) []

/-- `w` dominates the potential of every fragment body: exists iff the defined fragments are acyclic -/
def Consistent (frags : List Frag) (w : String → Nat) : Prop :=
  ∀ f ∈ frags, potL w f.sels ≤ w f.name

/-- decidable acyclicity check (the computed weights are consistent) -/
def acyclic (frags : List Frag) : Bool :=
  frags.all fun f => decide (potL (wOf (weights frags)) f.sels ≤ wOf (weights frags) f.name)

/-- the fuel the driver uses: fragments + nesting (potential of the deepest operation) + 1 -/
def Doc.fuel (doc : Doc) : Nat :=
  maxList (doc.ops.map fun op => potL (wOf (weights doc.frags)) op.sels) + 1

/-! ### after proposed_fixes/C19-Q2.patch: a nesting budget makes the rule total on CYCLIC documents too

  `_nesting_levels(selections, fragments, variables, budget, memo)` and
  `collect_fields_untyped(..., _budget=budget)` raise `ExpansionBudgetExhausted` when the budget is used up
  (this IS the fuel of the functions above: `.error .recursion`); `__call__` catches it (and `RecursionError`) and
  reports the operation as unbounded. The per-operation `memo` is semantically transparent (a pure function of
  the selections for fixed fragments / variables) and is not modelled. -/

/-- `_static_nesting(selections)`: longest chain of nested selection sets as written (a spread counts 1) -/
def nestOf (sels : List Sel) : Nat := potL (fun _ => 0) sels

/-- `(len(fragments) + 2) * (1 + max(_static_nesting(d) for every operation and fragment definition))` -/
def Doc.budget (doc : Doc) : Nat :=
  (doc.frags.length + 2) *
    (1 + maxList (doc.ops.map (fun o => nestOf o.sels) ++ doc.frags.map (fun f => nestOf f.sels)))

/-- depth of an operation; `none` = the budget was used up ("depth is unbounded") -/
def depthFixedB (fuel : Nat) (op : Op) (frags : List Frag) (vars : Vars) : Except Err (Option Nat) :=
  match depthFixedG skipSelectionT fuel op frags vars with
  | .ok d => .ok (some d)
  | .error .recursion => .ok none        -- `except (ExpansionBudgetExhausted, RecursionError)`
  | .error e => .error e

/-- the loop over the operations; an unbounded operation is reported whatever the limit -/
def ruleLoopB (depthOf : Nat → Op → Except Err (Option Nat)) (limit : Nat) (filter : Option String) :
    Nat → List Op → Except Err (List (Nat × Option Nat))
  | _, [] => .ok []
  | i, op :: rest =>
    if opSelected filter op then
      match depthOf i op with
      | .error e => .error e
      | .ok d =>
        match ruleLoopB depthOf limit filter (i + 1) rest with
        | .error e => .error e
        | .ok errs =>
          .ok (match d with
            | none => (i, none) :: errs
            | some n => if n > limit then (i, some n) :: errs else errs)
    else ruleLoopB depthOf limit filter (i + 1) rest

/-- `MaxDepthValidationRule(limit, operation_name=filter)(schema, doc, raw)` after C19-Q2.patch -/
def ruleB (limit : Nat) (filter : Option String) (doc : Doc) (defs : List (List VarDefR)) (raw : RawVars) :
    Except Err (List (Nat × Option Nat)) :=
  ruleLoopB (fun i op => depthFixedB doc.budget op doc.frags (effectiveVarsR (defs.getD i []) raw))
    limit filter 0 doc.ops

/-- the pipeline with the repaired rule (an unbounded operation is a depth error like any other) -/
def pipelineB (n : Nat) (filter : Option String) (doc : Doc) (defs : List (List VarDefR)) (raw : RawVars)
    (defaultErrors : Nat) : Outcome :=
  outcomeOf (match ruleB n filter doc defs raw with
    | .error e => .error e
    | .ok errs => .ok (errs.map fun p => (p.1, p.2.getD 0))) defaultErrors

end PyGql.Depth
