/-
  C12 — model of `py_gql.sdl.ASTSchemaPrinter` (ast_schema_printer.py), `ast_node_from_value`
  (utilities/ast_node_from_value.py), the value/directive part of `lang/printer.py` and
  `_string_utils.wrapped_lines`, on the by-name schema description `SchemaD`.

  The module-level object `_SPECIFIED_DIRECTIVE_NAMES` is an explicit `PrinterState` threaded through
  every membership test, so that a HISTORY of `to_string` calls is a fold over the state.
  `include_introspection=True` writes the library's own constants too: `printSchemaX` takes them as `Builtins`.
  Imports the model file `Sdl` only.
-/
import PyGqlModel.Sdl

namespace PyGql.SdlPrint
open PyGql PyGql.Sdl

/-! ### the module-level state -/

/-- `_SPECIFIED_DIRECTIVE_NAMES`: a frozenset in /repo (fix C12-H1, `collection`); before that fix a GENERATOR
    (single use: `x in gen` consumes it up to the first match), kept as `generator` for the refutation -/
inductive PrinterState where
  | generator (remaining : List String)
  | collection (names : List String)
  deriving Repr, DecidableEq, Inhabited

def initialGenerator : PrinterState := .generator specifiedDirectives
def initialCollection : PrinterState := .collection specifiedDirectives

/-- `name in _SPECIFIED_DIRECTIVE_NAMES` -/
def PrinterState.member (n : String) : PrinterState → Bool × PrinterState
  | .collection ns => (ns.contains n, .collection ns)
  | .generator rem =>
    match rem.dropWhile (· != n) with
    | [] => (false, .generator [])
    | _ :: rest => (true, .generator rest)

structure Opts where
  indent : String := "    "
  descriptions : Bool := true
  /-- truthiness of `include_custom_schema_directives` (`False` and `[]` print no directive at all) -/
  custom : Bool := false
  /-- `include_custom_schema_directives` given as a list of names (`none`: a boolean was given) -/
  whitelist : Option (List String) := none
  deriving Repr, Inhabited

/-! ### string helpers (Python `str` methods used by the printer) -/

def isWs (c : Char) : Bool := c == ' ' || c == '\t' || c == '\n' || c == '\r' || c.toNat == 11 || c.toNat == 12
  || c.toNat == 0x1c || c.toNat == 0x1d || c.toNat == 0x1e || c.toNat == 0x1f || c.toNat == 0x85 || c.toNat == 0xa0

def lstrip (s : String) : String := String.ofList (s.toList.dropWhile isWs)
def rstrip (s : String) : String := String.ofList (s.toList.reverse.dropWhile isWs).reverse
def strip (s : String) : String := lstrip (rstrip s)

def hexDigit (n : Nat) : Char := if n < 10 then Char.ofNat (48 + n) else Char.ofNat (87 + n)
def hex4 (n : Nat) : String :=
  String.ofList [hexDigit (n / 4096 % 16), hexDigit (n / 256 % 16), hexDigit (n / 16 % 16), hexDigit (n % 16)]

/-- `json.dumps(s, ensure_ascii=False)` (fix R2: non-ASCII characters are printed as they are) -/
def jsonDumps (s : String) : String :=
  "\"" ++ String.join (s.toList.map fun c =>
    let n := c.toNat
    if c == '"' then "\\\"" else if c == '\\' then "\\\\" else if c == '\n' then "\\n" else if c == '\r' then "\\r"
    else if c == '\t' then "\\t" else if n == 8 then "\\b" else if n == 12 then "\\f"
    else if n < 32 then "\\u" ++ hex4 n
    else String.singleton c) ++ "\""

/-- `_split_words_with_boundaries(line, " -_")` -/
def splitWords : List Char → List Char → List String
  | [], stack => if stack.isEmpty then [] else [String.ofList stack.reverse]
  | c :: cs, stack =>
    if c == ' ' || c == '-' || c == '_' then
      (if stack.isEmpty then [] else [String.ofList stack.reverse]) ++ String.singleton c :: splitWords cs []
    else splitWords cs (c :: stack)

/-- inner loop of `wrapped_lines` for one over-long line -/
def wrapLine (maxLen : Nat) : List String → String → List String
  | [], wrapped => if wrapped.isEmpty then [] else [wrapped]
  | e :: es, wrapped =>
    if (wrapped ++ e).length > maxLen then
      wrapped :: wrapLine maxLen es (if e != " " then e else "")
    else wrapLine maxLen es (if e != " " || !wrapped.isEmpty then wrapped ++ e else wrapped)

def wrappedLines (lines : List String) (maxLen : Nat) : List String :=
  lines.flatMap fun l => if l.length ≤ maxLen then [l] else wrapLine maxLen (splitWords l.toList []) ""

/-- `value.replace('"""', '\\"""')` on characters (leftmost, non-overlapping); `k > 0` = inside a replaced `"""`.
    List-based (as `PrintString.escapeTQAux`) so that the two printer models can be PROVED equal (`Props/C12_models.lean`). -/
def escTQc : Nat → List Char → List Char
  | _, [] => []
  | k + 1, c :: t => c :: escTQc k t
  | 0, c :: t =>
    if ['"', '"', '"'].isPrefixOf (c :: t) then '\\' :: c :: escTQc 2 t
    else c :: escTQc 0 t

def escTriple (s : String) : String := String.ofList (escTQc 0 s.toList)

/-- `s.split("\n")` on characters: at least one piece -/
def splitLFc : List Char → List (List Char)
  | [] => [[]]
  | c :: t =>
    if c = '\n' then [] :: splitLFc t
    else match splitLFc t with
      | l :: ls => (c :: l) :: ls
      | [] => [[c]]

def splitLines (s : String) : List String := (splitLFc s.toList).map String.ofList

def repeatStr (s : String) : Nat → String | 0 => "" | n+1 => s ++ repeatStr s n

/-- `print_description(definition, depth, first_in_block)` -/
def printDescription (o : Opts) (desc : Option String) (depth : Nat := 0) (firstInBlock : Bool := true) : String :=
  match desc with
  | none => ""
  | some d =>
    if !o.descriptions || d.isEmpty then "" else
    let indent := repeatStr o.indent depth
    let lines := wrappedLines (splitLines d) (120 - indent.length)
    let first := lines.headD ""
    -- fixes D3 / D1 (lang3): a carriage return, or a white-space-led first line whose other non-blank lines are all
    -- indented, cannot be written as a block string: quoted form
    let startsWs (l : String) : Bool := match l.toList with | c :: _ => c == ' ' || c == '\t' | [] => false
    let rest := (lines.drop 1).filter (fun l => !l.toList.all (fun c => c == ' ' || c == '\t'))
    if d.toList.contains '\r' || (startsWs first && !rest.isEmpty && rest.all startsWs) then
      (if !indent.isEmpty && !firstInBlock then "\n" else "") ++ indent ++ jsonDumps d ++ "\n"
    else
    let body :=
      if lines.length == 1 && first.length < 70 && !(first.toList.getLast? == some '"') then escTriple first
      else
        let lead := first.length > (lstrip first).length
        let rec go (i : Nat) : List String → List String
          | [] => []
          | l :: ls => ((if i == 0 && !lead then "\n" else "") ++ (if i > 0 || !lead then indent else "") ++ escTriple l) :: go (i+1) ls
        "\n".intercalate (go 0 lines) ++ "\n" ++ indent
    (if !indent.isEmpty && !firstInBlock then "\n" else "") ++ indent ++ "\"\"\"" ++ body ++ "\"\"\"\n"

/-! ### values: `ast_node_from_value` + `print_ast` -/

def isIntText (s : String) : Bool :=
  let cs := match s.toList with | '-' :: r => r | l => l
  match cs with
  | [] => false
  | ['0'] => true
  | c :: rest => c != '0' && c.isDigit && rest.all Char.isDigit

def inIntRange (n : Int) : Bool := MIN_INT < n && n < MAX_INT

/-- Python `repr(float(k))` of a small integer -/
def intRepr (k : Int) : String := toString k ++ ".0"

/-- decimal integer text (`-`? digits), as a list of characters -/
def parseIntChars (cs : List Char) : Option Int :=
  let digits (ds : List Char) : Option Nat :=
    if ds.isEmpty || !ds.all Char.isDigit then none else some (ds.foldl (fun acc c => acc * 10 + (c.toNat - 48)) 0)
  match cs with
  | '-' :: ds => (digits ds).map fun n => -(n : Int)
  | ds => (digits ds).map fun n => (n : Int)

/-- `_scalar_node_from_value(Float, x)` for the float with repr `r`: integral values inside the Int range are
    printed as Int literals -/
def floatLit (r : String) : Lit :=
  let cs := r.toList
  if cs.reverse.take 2 == ['0', '.'] && !cs.contains 'e' then
    match parseIntChars (cs.take (cs.length - 2)) with
    | some k => if inIntRange k then .int (toString k) (intRepr k) else .float r r
    | none => .float r r
  else .float r r

mutual
/-- structural equality of (canonical JSON) Python values — what `dict` lookup / `==` does on them -/
def jEq : J → J → Bool
  | .null, .null => true
  | .bool a, .bool b => a == b
  | .num a, .num b => a == b
  | .str a, .str b => a == b
  | .arr a, .arr b => jEqList a b
  | .obj a, .obj b => jEqObj a b
  | _, _ => false
def jEqList : List J → List J → Bool
  | [], [] => true
  | x :: xs, y :: ys => jEq x y && jEqList xs ys
  | _, _ => false
def jEqObj : List (String × J) → List (String × J) → Bool
  | [], [] => true
  | (k, x) :: xs, (l, y) :: ys => k == l && jEq x y && jEqObj xs ys
  | _, _ => false
end

/-- `ast_node_from_value` at one of the five specified scalars -/
def builtinLit (n : String) (v : J) : Option Lit :=
  if n == "Boolean" then (match v with | .bool b => some (.bool b) | _ => none)
  else if n == "Int" then (match v with | .num k => some (.int (toString k) (intRepr k)) | _ => none)
  else if n == "Float" then
    (match v with
     | .obj [("$float", .str r)] => some (floatLit r)
     | .num k => some (if inIntRange k then .int (toString k) (intRepr k) else .float (intRepr k) (intRepr k))
     | _ => none)
  else if n == "String" then (match v with | .str x => some (.str x) | _ => none)
  else if n == "ID" then
    (match v with
     | .str x => some (if isIntText x then .int x (x ++ ".0") else .str x)
     | .num k => some (.int (toString k) (intRepr k))
     | _ => none)
  else none

/-- a digit string without a trailing `0`, or the single digit `0` (fractions in Python's `repr(float)`) -/
def fracCanon (ds : List Char) : Bool :=
  !ds.isEmpty && ds.all Char.isDigit && (ds == ['0'] || ds.getLast? != some '0')

/-- number of significant digits of `int.frac` -/
def sigDigits (int frac : List Char) : Nat :=
  if int == ['0'] then (frac.dropWhile (· == '0')).length else int.length + (if frac == ['0'] then 0 else frac.length)

/-- `str(float(x)) == x` and `x` finite — Python's shortest `repr` of a double, modelled syntactically for numerals of
    at most 15 significant digits (every such decimal is the shortest repr of the double it denotes; longer numerals are
    outside the model: trusted base "Python float/repr are modelled, not verified"):
    `[-]int.frac` with `int` without leading zeros and below 10^16, at most three leading zeros in `frac` when `int` is
    `0`, no trailing zeros in `frac`; or `[-]d[.frac]e±XX` with exponent ≥ 16 or ≤ -5 written with at least two digits. -/
def isFloatRepr (x : String) : Bool :=
  let cs := match x.toList with | '-' :: r => r | l => l
  let intOK (i : List Char) : Bool := i == ['0'] || (match i with | c :: r => c != '0' && c.isDigit && r.all Char.isDigit | [] => false)
  match cs.span (· != 'e') with
  | (mant, []) =>
    (match mant.span (· != '.') with
     | (i, '.' :: f) =>
       intOK i && fracCanon f && i.length ≤ 16 && sigDigits i f ≤ 15 &&
       (i != ['0'] || f == ['0'] || (f.takeWhile (· == '0')).length ≤ 3)
     | _ => false)
  | (mant, 'e' :: sgn :: ex) =>
    let mantOK := (match mant.span (· != '.') with
      | ([d], []) => d != '0' && d.isDigit
      | ([d], '.' :: f) => d != '0' && d.isDigit && fracCanon f && f != ['0'] && 1 + f.length ≤ 15
      | _ => false)
    let exOK := ex.length ≥ 2 && ex.all Char.isDigit && (ex.length == 2 || ex.head? != some '0')
    let e := ex.foldl (fun acc c => acc * 10 + (c.toNat - 48)) 0
    mantOK && exOK && ((sgn == '+' && e ≥ 16) || (sgn == '-' && e ≥ 5))
  | _ => false

/-- `_NAME_RE`: a dict key that can be written as an object-field name -/
def isNameText (x : String) : Bool :=
  match x.toList with
  | c :: r => (c == '_' || c.isAlpha) && r.all (fun d => d == '_' || d.isAlphanum)
  | [] => false

/-- a canonical-JSON float `{"$float": repr}` -/
def floatObj? (kvs : List (String × J)) : Option String :=
  match kvs with | [("$float", .str r)] => some r | _ => none

mutual
/-- `ast_node_from_value` at a custom (pass-through) scalar. A STRING is written as a number only when the number
    denotes the very same text (fix H3: `_INT_RE` match, or `str(float(x)) == x`), otherwise as a string literal;
    dicts and lists / tuples are written as object / list literals (fix I7; keys must be names, in dict order). -/
def customLit : J → Option Lit
  | .bool b => some (.bool b)
  | .str x => some (if isIntText x then .int x (x ++ ".0") else if isFloatRepr x then .float x x else .str x)
  | .num k => some (.float (toString k) (intRepr k))             -- FloatValue(str(int))
  | .arr items => (customList items).map .list
  | .obj kvs =>
    match floatObj? kvs with
    | some r => some (.float r r)                                -- FloatValue(str(float))
    | none => if kvs.all (fun kv => isNameText kv.1) then (customFields kvs).map .obj else none
  | .null => none
/-- `_custom_scalar_entry`: `None` inside a structured value is `null` -/
def customList : List J → Option (List Lit)
  | [] => some []
  | x :: xs =>
    match (match x with | .null => some Lit.null | v => customLit v), customList xs with
    | some a, some b => some (a :: b)
    | _, _ => none
def customFields : List (String × J) → Option (List (String × Lit))
  | [] => some []
  | (k, x) :: xs =>
    match (match x with | .null => some Lit.null | v => customLit v), customFields xs with
    | some a, some b => some ((k, a) :: b)
    | _, _ => none
end

mutual
/-- `ast_node_from_value(v, ty)` as a literal; `none` = ValueError/TypeError -/
def valueLit (s : SchemaD) : Nat → J → Ty → Option Lit
  | 0, _, _ => none
  | fuel+1, v, ty =>
    match ty with
    | .nonNull t =>
      match valueLit s fuel v t with
      | some .null => none
      | r => r
    | .list t =>
      match v with
      | .null => some .null
      | .arr items => (itemsLit s fuel items t).map .list
      | _ => valueLit s fuel v t
    | .named n =>
      match v with
      | .null => some .null
      | _ =>
        if builtinScalars.contains n then builtinLit n v
        else match s.findType n with
          | none => none
          | some t =>
            match t.kind with
            | .enum => (t.values.find? (fun ev => jEq ev.value v)).map fun ev => .enum ev.name
            | .scalar => customLit v
            | .input =>
              match v with
              | .obj kvs => (fieldsLit s fuel kvs t.inputFields).map .obj
              | _ => none
            | _ => none

def itemsLit (s : SchemaD) : Nat → List J → Ty → Option (List Lit)
  | 0, _, _ => none
  | _, [], _ => some []
  | fuel+1, x :: xs, t =>
    match valueLit s fuel x t, itemsLit s fuel xs t with
    | some a, some b => some (a :: b)
    | _, _ => none

/-- `_object_value_node_from_value`: fields in the order of the TYPE; absent non-required fields are skipped -/
def fieldsLit (s : SchemaD) : Nat → List (String × J) → List ArgD → Option (List (String × Lit))
  | 0, _, _ => none
  | _, _, [] => some []
  | fuel+1, kvs, f :: fs =>
    match fieldsLit s fuel kvs fs with
    | none => none
    | some rest =>
      match kvs.find? (·.1 == f.name) with
      | some (_, v) => (valueLit s fuel v f.type).map fun l => (f.name, l) :: rest
      | none => if f.type.isNonNull && !f.hasDefault then none else some rest
end

def valueFuel : Nat := 200

mutual
/-- `print_ast` of a literal node (total, structural) -/
def litText : Lit → String
  | .null => "null"
  | .int v _ => v
  | .float v _ => v
  | .str x => jsonDumps x
  | .bool b => if b then "true" else "false"
  | .enum v => v
  | .list l => "[" ++ ", ".intercalate (litTexts l) ++ "]"
  | .obj fs => "{" ++ ", ".intercalate (fieldTexts fs) ++ "}"
def litTexts : List Lit → List String
  | [] => []
  | v :: vs => litText v :: litTexts vs
def fieldTexts : List (String × Lit) → List String
  | [] => []
  | (k, v) :: fs => (k ++ ": " ++ litText v) :: fieldTexts fs
end

/-- text of `print_ast(ast_node_from_value(v, ty))` -/
def valueText (s : SchemaD) (fuel : Nat) (v : J) (ty : Ty) : Option String := (valueLit s fuel v ty).map litText

def dirAppText (d : DirApp) : String :=
  "@" ++ d.name ++ (if d.args.isEmpty then "" else "(" ++ ", ".intercalate (fieldTexts d.args) ++ ")")

/-! ### the printer; every function threads the state -/

abbrev Apps := List (String × List DirApp)

def Apps.get (a : Apps) (path : String) : List DirApp := ((a.find? (·.1 == path)).map (·.2)).getD []

def onWhitelist (wl : Option (List String)) (name : String) : Bool :=
  match wl with | none => true | some w => w.contains name

/-- the directive nodes for which `include_custom_schema_directive(name)` holds, in order: the name is first
    tested against the module-level state (specified directives are never "custom"), then against the
    whitelist if one was given. The node list itself is NOT modified. -/
def keepCustom (wl : Option (List String)) : List DirApp → PrinterState → List DirApp × PrinterState
  | [], st => ([], st)
  | d :: ds, st =>
    let m := st.member d.name
    let r := keepCustom wl ds m.2
    let keep := !m.1 && onWhitelist wl d.name
    (if keep then d :: r.1 else r.1, r.2)

/-- `print_directives(definition)` -/
def printDirectives (o : Opts) (apps : Apps) (path : String) (st : PrinterState) : String × PrinterState :=
  if !o.custom then ("", st) else
  let nodes := apps.get path
  if nodes.isEmpty then ("", st) else
  let k := keepCustom o.whitelist nodes st
  (" " ++ " ".intercalate (k.1.map dirAppText), k.2)

def DEFAULT_DEPRECATION := "No longer supported"

def printDeprecated (r : Option String) : String :=
  match r with
  | none => ""
  | some x => if x.isEmpty || x == DEFAULT_DEPRECATION then " @deprecated" else " @deprecated(reason: " ++ jsonDumps x ++ ")"

/-- state-passing map with the position of the element (`enumerate`) -/
def mapSt {α} (f : Nat → α → PrinterState → String × PrinterState) : Nat → List α → PrinterState → List String × PrinterState
  | _, [], st => ([], st)
  | i, x :: xs, st =>
    let r1 := f i x st
    let r2 := mapSt f (i+1) xs r1.2
    (r1.1 :: r2.1, r2.2)

def printInputValue (s : SchemaD) (o : Opts) (apps : Apps) (path : String) (a : ArgD) (st : PrinterState) : String × PrinterState :=
  let base := a.name ++ ": " ++ a.type.render
  let withDefault :=
    if a.hasDefault then base ++ " = " ++ (valueText s valueFuel a.default a.type).getD "<ValueError>" else base
  let d := printDirectives o apps (path ++ "." ++ a.name) st
  (strip (withDefault ++ d.1), d.2)

def printArg (s : SchemaD) (o : Opts) (apps : Apps) (path : String) (depth : Nat) (multi : Bool) (i : Nat) (a : ArgD)
    (st : PrinterState) : String × PrinterState :=
  let v := printInputValue s o apps path a st
  (if multi then printDescription o a.desc (depth + 1) (i == 0) ++ o.indent ++ repeatStr o.indent depth ++ v.1 else v.1, v.2)

/-- `print_arguments(args, depth)`: one argument per line iff some argument has a description to print -/
def printArguments (s : SchemaD) (o : Opts) (apps : Apps) (path : String) (args : List ArgD) (depth : Nat) (st : PrinterState) :
    String × PrinterState :=
  let indent := repeatStr o.indent depth
  let multi := o.descriptions && args.any (fun a => match a.desc with | some d => !d.isEmpty | none => false)
  let r := mapSt (printArg s o apps path depth multi) 0 args st
  (if args.isEmpty then ""
   else if multi then indent ++ "(\n" ++ "\n".intercalate r.1 ++ "\n" ++ indent ++ ")"
   else "(" ++ ", ".intercalate r.1 ++ ")", r.2)

def printField (s : SchemaD) (o : Opts) (apps : Apps) (tname : String) (i : Nat) (f : FieldD) (st : PrinterState) : String × PrinterState :=
  let path := tname ++ "." ++ f.name
  let a := printArguments s o apps path f.args 1 st
  let d := printDirectives o apps path a.2
  (rstrip (printDescription o f.desc 1 (i == 0) ++ o.indent ++ f.name ++ a.1 ++ ": " ++ f.type.render
           ++ printDeprecated f.deprecated ++ d.1), d.2)

def printFields (s : SchemaD) (o : Opts) (apps : Apps) (t : TypeD) (st : PrinterState) : String × PrinterState :=
  let r := mapSt (printField s o apps t.name) 0 t.fields st
  ("\n".intercalate r.1, r.2)

def printEnumValue (o : Opts) (apps : Apps) (tname : String) (i : Nat) (v : EnumValD) (st : PrinterState) : String × PrinterState :=
  let dv := printDirectives o apps (tname ++ "." ++ v.name) st
  (rstrip (printDescription o v.desc 1 (i == 0) ++ o.indent ++ v.name ++ printDeprecated v.deprecated ++ dv.1), dv.2)

def printInputField (s : SchemaD) (o : Opts) (apps : Apps) (tname : String) (i : Nat) (f : ArgD) (st : PrinterState) : String × PrinterState :=
  let v := printInputValue s o apps tname f st
  (printDescription o f.desc 1 (i == 0) ++ o.indent ++ v.1, v.2)

def printType (s : SchemaD) (o : Opts) (apps : Apps) (t : TypeD) (st : PrinterState) : String × PrinterState :=
  let desc := printDescription o t.desc
  let d := printDirectives o apps t.name st
  match t.kind with
  | .scalar => (desc ++ "scalar " ++ t.name ++ d.1, d.2)
  | .enum =>
    let r := mapSt (printEnumValue o apps t.name) 0 t.values d.2
    (desc ++ "enum " ++ t.name ++ d.1 ++ " {\n" ++ "\n".intercalate r.1 ++ "\n}", r.2)
  | .union => (desc ++ "union " ++ t.name ++ d.1 ++ " = " ++ " | ".intercalate t.members, d.2)
  | .object =>
    let impl := if t.interfaces.isEmpty then "" else " implements " ++ " & ".intercalate t.interfaces
    let fs := printFields s o apps t d.2
    (desc ++ "type " ++ t.name ++ impl ++ d.1 ++ " {\n" ++ fs.1 ++ "\n}", fs.2)
  | .interface =>
    let fs := printFields s o apps t d.2
    (desc ++ "interface " ++ t.name ++ d.1 ++ " {\n" ++ fs.1 ++ "\n}", fs.2)
  | .input =>
    let r := mapSt (printInputField s o apps t.name) 0 t.inputFields d.2
    (desc ++ "input " ++ t.name ++ d.1 ++ " {\n" ++ "\n".intercalate r.1 ++ "\n}", r.2)

def printDirectiveDefinition (s : SchemaD) (o : Opts) (apps : Apps) (d : DirectiveD) (st : PrinterState) : String × PrinterState :=
  let a := printArguments s o apps ("@" ++ d.name) d.args 0 st
  (printDescription o d.desc ++ "directive @" ++ d.name ++ a.1 ++ " on " ++ " | ".intercalate d.locations, a.2)

/-- `_is_implied(root_type, default_name)` (fix H9): re-reading the document without a `schema` block infers this
    root — a PRESENT root must carry the conventional name, an ABSENT root requires that no type of that name exists -/
def rootImplied (s : SchemaD) (r : Option String) (n : String) : Bool :=
  match r with | none => !s.types.any (·.name == n) | some x => x == n

def printSchemaDefinition (s : SchemaD) (o : Opts) (apps : Apps) (st : PrinterState) : String × PrinterState :=
  let d := printDirectives o apps "" st
  let ops := (match s.query with | some q => [o.indent ++ "query: " ++ q] | none => [])
    ++ (match s.mutation with | some q => [o.indent ++ "mutation: " ++ q] | none => [])
    ++ (match s.subscription with | some q => [o.indent ++ "subscription: " ++ q] | none => [])
  (if d.1.isEmpty && rootImplied s s.query "Query" && rootImplied s s.mutation "Mutation" && rootImplied s s.subscription "Subscription" then ""
   else "schema" ++ d.1 ++ " {\n" ++ "\n".intercalate ops ++ "\n}", d.2)

def insertSorted {α} (key : α → String) (x : α) : List α → List α
  | [] => [x]
  | y :: ys => if key x < key y then x :: y :: ys else y :: insertSorted key x ys

def sortBy {α} (key : α → String) (l : List α) : List α := l.foldr (insertSorted key) []

/-- `ASTSchemaPrinter.__call__` (include_introspection = False) -/
def printSchema (o : Opts) (s : SchemaD) (apps : Apps) (st : PrinterState) : String × PrinterState :=
  let sd := printSchemaDefinition s o apps st
  let ds := mapSt (fun _ d st => printDirectiveDefinition s o apps d st) 0 (sortBy (·.name) s.directives) sd.2
  let ts := mapSt (fun _ t st => printType s o apps t st) 0 (sortBy (·.name) s.types) ds.2
  let parts := ((sd.1 :: ds.1) ++ ts.1).filter (!·.isEmpty)
  (if parts.isEmpty then "" else "\n\n".intercalate parts ++ "\n", ts.2)

/-! ### `include_introspection = True`: the library's own constants are written too -/

/-- what `to_string(include_introspection=True)` adds: the definitions of `SPECIFIED_DIRECTIVES` (in the library's order,
    NOT sorted, before the schema's own directives) and the introspection types registered in the schema (sorted by name
    with the schema's own types).  Both are constants of the library, re-read from the live objects on every run. -/
structure Builtins where
  specified : List DirectiveD := []
  introspection : List TypeD := []
  deriving Repr, Inhabited

/-- `ASTSchemaPrinter.__call__` with the option `include_introspection` -/
def printSchemaX (o : Opts) (intro : Bool) (b : Builtins) (s : SchemaD) (apps : Apps) (st : PrinterState) : String × PrinterState :=
  let sd := printSchemaDefinition s o apps st
  let sp := mapSt (fun _ d st => printDirectiveDefinition s o apps d st) 0 (if intro then b.specified else []) sd.2
  let ds := mapSt (fun _ d st => printDirectiveDefinition s o apps d st) 0 (sortBy (·.name) s.directives) sp.2
  let ts := mapSt (fun _ t st => printType s o apps t st) 0 (sortBy (·.name) (s.types ++ (if intro then b.introspection else []))) ds.2
  let parts := ((sd.1 :: sp.1) ++ ds.1 ++ ts.1).filter (!·.isEmpty)
  (if parts.isEmpty then "" else "\n\n".intercalate parts ++ "\n", ts.2)

/-- a history of calls with all four options -/
def runHistoryX (st : PrinterState) : List (Opts × Bool × Builtins × SchemaD × Apps) → List String
  | [] => []
  | c :: rest =>
    let r := printSchemaX c.1 c.2.1 c.2.2.1 c.2.2.2.1 c.2.2.2.2 st
    r.1 :: runHistoryX r.2 rest

/-- a HISTORY of `to_string` calls in one process: the state is threaded through -/
def runHistory (st : PrinterState) : List (Opts × SchemaD × Apps) → List String
  | [] => []
  | c :: rest =>
    let r := printSchema c.1 c.2.1 c.2.2 st
    r.1 :: runHistory r.2 rest

/-! ### `schemaToDoc`: the definitions the printer writes, as a document (the by-name content of `to_string`) -/

/-- `print_deprecated`: an empty reason or the default reason prints as bare `@deprecated` -/
def deprDirs (r : Option String) : List DirApp :=
  match r with
  | none => []
  | some x => if x.isEmpty || x == DEFAULT_DEPRECATION then [{ name := "deprecated" }]
              else [{ name := "deprecated", args := [("reason", .str x)] }]

/-- `print_description`: an empty description is not printed -/
def descToDoc (d : Option String) : Option String :=
  match d with | some x => if x.isEmpty then none else some x | none => none

def argToDef (s : SchemaD) (a : ArgD) : InputValDef :=
  { name := a.name, desc := descToDoc a.desc, type := a.type,
    default := if a.hasDefault then valueLit s valueFuel a.default a.type else none }

def fieldToDef (s : SchemaD) (f : FieldD) : FieldDef :=
  { name := f.name, desc := descToDoc f.desc, args := f.args.map (argToDef s), type := f.type, dirs := deprDirs f.deprecated }

def enumValToDef (v : EnumValD) : EnumValDef := { name := v.name, desc := descToDoc v.desc, dirs := deprDirs v.deprecated }

def typeToDef (s : SchemaD) (t : TypeD) : TypeDef :=
  { kind := t.kind, name := t.name, desc := descToDoc t.desc, interfaces := t.interfaces, fields := t.fields.map (fieldToDef s),
    members := t.members, values := t.values.map enumValToDef, inputFields := t.inputFields.map (argToDef s) }

def directiveToDef (s : SchemaD) (d : DirectiveD) : DirDef :=
  { name := d.name, desc := descToDoc d.desc, args := d.args.map (argToDef s), locations := d.locations }

/-- `print_schema_definition` (without schema-level directive applications): the `schema { … }` block is written
    unless every root is implied (`rootImplied`) -/
def needsSchemaBlock (s : SchemaD) : Bool :=
  !(rootImplied s s.query "Query" && rootImplied s s.mutation "Mutation" && rootImplied s s.subscription "Subscription")

def rootOps (s : SchemaD) : List (String × String) :=
  (match s.query with | some q => [("query", q)] | none => []) ++
  (match s.mutation with | some q => [("mutation", q)] | none => []) ++
  (match s.subscription with | some q => [("subscription", q)] | none => [])

/-- the document `to_string` denotes: schema block (if needed), directive definitions, type definitions -/
def schemaToDoc (s : SchemaD) : Doc :=
  (if needsSchemaBlock s then [.schema { ops := rootOps s }] else []) ++
  s.directives.map (fun d => .directive (directiveToDef s d)) ++ s.types.map (fun t => .type (typeToDef s t))

end PyGql.SdlPrint
