/-
  Token-level model of `py_gql/lang/parser.py` — part 3: type-system definitions and extensions.
  L5 (`"implements"` string), L7 (`extend schema` alone) and L8 (`enum E { true }`) are fixed in /repo
  (fixes C01-L5, C01-L7, C01-L8) and modelled so.
-/
import PyGqlModel.ParseExec
namespace PyGql.Parse
open PyGql PyGql.Ast

/-- `parse_description` -/
def parseDescription (fl : Flags) : P (Option StringValue) := do
  let next ← peek
  if next.kind = .string ∨ next.kind = .blockString then do
    let s ← parseStringLiteral fl
    pure (some s)
  else pure none

/-- `parse_operation_type_definition` -/
def parseOperationTypeDefinition (fl : Flags) : P OperationTypeDefinition := do
  let start ← peek
  let operation ← parseOperationType
  let _ ← expect .colon
  let type_ ← parseNamedType fl
  pure { operation := operation, type := type_, loc := ← mkLoc fl start }

/-- `parse_schema_definition` -/
def parseSchemaDefinition (fl : Flags) (fuel : Nat) : P Definition := do
  let start ← peek
  let _ ← expectKeyword K.schema
  let directives ← parseDirectives fl fuel true
  let operationTypes ← many fuel .curlyL (parseOperationTypeDefinition fl) .curlyR
  pure (.schemaDefinition directives operationTypes (← mkLoc fl start))

/-- `parse_scalar_type_definition` -/
def parseScalarTypeDefinition (fl : Flags) (fuel : Nat) : P Definition := do
  let start ← peek
  let desc ← parseDescription fl
  let _ ← expectKeyword K.scalar
  let name ← parseName fl
  let directives ← parseDirectives fl fuel true
  pure (.scalarTypeDefinition desc name directives (← mkLoc fl start))

/-- the `while True: types.append(parse_named_type()); if not skip(Ampersand): break` loop -/
def implementsLoop (fl : Flags) : Nat → P (List NamedType)
  | 0 => fail "fuel"
  | n + 1 => do
    let t ← parseNamedType fl
    if (← skip .amp) then do
      let ts ← implementsLoop fl n
      pure (t :: ts)
    else pure [t]

/-- `parse_implements_interfaces`; L5 fixed: the keyword must be a `Name` token -/
def parseImplementsInterfaces (fl : Flags) (fuel : Nat) : P (List NamedType) := do
  let token ← peek
  if token.kind = .name ∧ token.value = K.implements then do
    let _ ← advance
    let _ ← skip .amp
    implementsLoop fl fuel
  else pure []

/-- `parse_input_value_definition` -/
def parseInputValueDefinition (fl : Flags) (fuel : Nat) : P InputValueDefinition := do
  let start ← peek
  let desc ← parseDescription fl
  let name ← parseName fl
  let _ ← expect .colon
  let type_ ← parseTypeReference fl fuel
  let defaultValue ←
    (do if (← skip .equals) then do
          let v ← parseValueLiteral fl fuel true
          pure (some v)
        else pure none : P (Option Value))
  let directives ← parseDirectives fl fuel true
  pure { description := desc, name := name, type := type_, defaultValue := defaultValue,
         directives := directives, loc := ← mkLoc fl start }

/-- `parse_argument_definitions` -/
def parseArgumentDefinitions (fl : Flags) (fuel : Nat) : P (List InputValueDefinition) := do
  if (← peek).kind = .parenL then many fuel .parenL (parseInputValueDefinition fl fuel) .parenR
  else pure []

/-- `parse_field_definition` -/
def parseFieldDefinition (fl : Flags) (fuel : Nat) : P FieldDefinition := do
  let start ← peek
  let desc ← parseDescription fl
  let name ← parseName fl
  let args ← parseArgumentDefinitions fl fuel
  let _ ← expect .colon
  let type_ ← parseTypeReference fl fuel
  let directives ← parseDirectives fl fuel true
  pure { description := desc, name := name, arguments := args, type := type_, directives := directives,
         loc := ← mkLoc fl start }

/-- `parse_fields_definition` -/
def parseFieldsDefinition (fl : Flags) (fuel : Nat) : P (List FieldDefinition) := do
  if (← peek).kind = .curlyL then many fuel .curlyL (parseFieldDefinition fl fuel) .curlyR
  else pure []

/-- `parse_object_type_definition` -/
def parseObjectTypeDefinition (fl : Flags) (fuel : Nat) : P Definition := do
  let start ← peek
  let desc ← parseDescription fl
  let _ ← expectKeyword K.type_
  let name ← parseName fl
  let interfaces ← parseImplementsInterfaces fl fuel
  let directives ← parseDirectives fl fuel true
  let fields ← parseFieldsDefinition fl fuel
  pure (.objectTypeDefinition desc name interfaces directives fields (← mkLoc fl start))

/-- `parse_interface_type_definition` -/
def parseInterfaceTypeDefinition (fl : Flags) (fuel : Nat) : P Definition := do
  let start ← peek
  let desc ← parseDescription fl
  let _ ← expectKeyword K.interface_
  let name ← parseName fl
  let directives ← parseDirectives fl fuel true
  let fields ← parseFieldsDefinition fl fuel
  pure (.interfaceTypeDefinition desc name directives fields (← mkLoc fl start))

/-- `parse_union_member_types` -/
def parseUnionMemberTypes (fl : Flags) (fuel : Nat) : P (List NamedType) := do
  if (← skip .equals) then delimitedList fuel .pipe (parseNamedType fl)
  else pure []

/-- `parse_union_type_definition` -/
def parseUnionTypeDefinition (fl : Flags) (fuel : Nat) : P Definition := do
  let start ← peek
  let desc ← parseDescription fl
  let _ ← expectKeyword K.union
  let name ← parseName fl
  let directives ← parseDirectives fl fuel true
  let types ← parseUnionMemberTypes fl fuel
  pure (.unionTypeDefinition desc name directives types (← mkLoc fl start))

/-- `parse_enum_value_definition`; L8 fixed: the name is an `EnumValue` (not `true`, `false`, `null`) -/
def parseEnumValueDefinition (fl : Flags) (fuel : Nat) : P EnumValueDefinition := do
  let start ← peek
  let desc ← parseDescription fl
  let token ← peek
  if token.kind = .name ∧ (token.value = K.true_ ∨ token.value = K.false_ ∨ token.value = K.null_) then
    fail "Unexpected enum value name"
  else do
    let name ← parseName fl
    let directives ← parseDirectives fl fuel true
    pure { description := desc, name := name, directives := directives, loc := ← mkLoc fl start }

/-- `parse_enum_values_definition` -/
def parseEnumValuesDefinition (fl : Flags) (fuel : Nat) : P (List EnumValueDefinition) := do
  if (← peek).kind = .curlyL then many fuel .curlyL (parseEnumValueDefinition fl fuel) .curlyR
  else pure []

/-- `parse_enum_type_definition` -/
def parseEnumTypeDefinition (fl : Flags) (fuel : Nat) : P Definition := do
  let start ← peek
  let desc ← parseDescription fl
  let _ ← expectKeyword K.enum_
  let name ← parseName fl
  let directives ← parseDirectives fl fuel true
  let values ← parseEnumValuesDefinition fl fuel
  pure (.enumTypeDefinition desc name directives values (← mkLoc fl start))

/-- `parse_input_fields_definition` -/
def parseInputFieldsDefinition (fl : Flags) (fuel : Nat) : P (List InputValueDefinition) := do
  if (← peek).kind = .curlyL then many fuel .curlyL (parseInputValueDefinition fl fuel) .curlyR
  else pure []

/-- `parse_input_object_type_definition` -/
def parseInputObjectTypeDefinition (fl : Flags) (fuel : Nat) : P Definition := do
  let start ← peek
  let desc ← parseDescription fl
  let _ ← expectKeyword K.input
  let name ← parseName fl
  let directives ← parseDirectives fl fuel true
  let fields ← parseInputFieldsDefinition fl fuel
  pure (.inputObjectTypeDefinition desc name directives fields (← mkLoc fl start))

/-- `parse_directive_location` -/
def parseDirectiveLocation (fl : Flags) : P Name := do
  let start ← peek
  let name ← parseName fl
  if name.value ∈ Generated.ParserTables.directiveLocations then pure name
  else failTokAt start "Unexpected Name"

/-- `parse_directive_locations` -/
def parseDirectiveLocations (fl : Flags) (fuel : Nat) : P (List Name) :=
  delimitedList fuel .pipe (parseDirectiveLocation fl)

/-- `parse_directive_definition` -/
def parseDirectiveDefinition (fl : Flags) (fuel : Nat) : P Definition := do
  let start ← peek
  let desc ← parseDescription fl
  let _ ← expectKeyword K.directive
  let _ ← expect .atSign
  let name ← parseName fl
  let args ← parseArgumentDefinitions fl fuel
  let _ ← expectKeyword K.on
  let locations ← parseDirectiveLocations fl fuel
  pure (.directiveDefinition desc name args locations (← mkLoc fl start))

/-- `parse_type_system_definition`: dispatch on the keyword after an optional description -/
def parseTypeSystemDefinition (fl : Flags) (fuel : Nat) : P Definition := do
  let next ← peek
  let keyword ← (if next.kind = .string ∨ next.kind = .blockString then peek2 else pure next : P Tok)
  if keyword.kind = .name then
    if keyword.value = K.schema then parseSchemaDefinition fl fuel
    else if keyword.value = K.scalar then parseScalarTypeDefinition fl fuel
    else if keyword.value = K.type_ then parseObjectTypeDefinition fl fuel
    else if keyword.value = K.interface_ then parseInterfaceTypeDefinition fl fuel
    else if keyword.value = K.union then parseUnionTypeDefinition fl fuel
    else if keyword.value = K.enum_ then parseEnumTypeDefinition fl fuel
    else if keyword.value = K.input then parseInputObjectTypeDefinition fl fuel
    else if keyword.value = K.directive then parseDirectiveDefinition fl fuel
    else failAt keyword "Unexpected token"
  else failAt keyword "Unexpected token"

/-! ### extensions -/

/-- `parse_schema_extension`; L7 fixed: at least one of directives / operation types -/
def parseSchemaExtension (fl : Flags) (fuel : Nat) : P Definition := do
  let start ← peek
  let _ ← expectKeyword K.extend
  let _ ← expectKeyword K.schema
  let directives ← parseDirectives fl fuel true
  let operationTypes ←
    (do if (← peek).kind = .curlyL then many fuel .curlyL (parseOperationTypeDefinition fl) .curlyR
        else pure [] : P (List OperationTypeDefinition))
  if directives.isEmpty ∧ operationTypes.isEmpty then fail "Unexpected token"
  else pure (.schemaExtension directives operationTypes (← mkLoc fl start))

/-- `parse_scalar_type_extension` -/
def parseScalarTypeExtension (fl : Flags) (fuel : Nat) : P Definition := do
  let start ← peek
  let _ ← expectKeyword K.extend
  let _ ← expectKeyword K.scalar
  let name ← parseName fl
  let directives ← parseDirectives fl fuel true
  if directives.isEmpty then failAt start "Unexpected token"
  else pure (.scalarTypeExtension name directives (← mkLoc fl start))

/-- `parse_object_type_extension` -/
def parseObjectTypeExtension (fl : Flags) (fuel : Nat) : P Definition := do
  let start ← peek
  let _ ← expectKeyword K.extend
  let _ ← expectKeyword K.type_
  let name ← parseName fl
  let interfaces ← parseImplementsInterfaces fl fuel
  let directives ← parseDirectives fl fuel true
  let fields ← parseFieldsDefinition fl fuel
  if interfaces.isEmpty ∧ directives.isEmpty ∧ fields.isEmpty then fail "Unexpected token"
  else pure (.objectTypeExtension name interfaces directives fields (← mkLoc fl start))

/-- `parse_interface_type_extension` -/
def parseInterfaceTypeExtension (fl : Flags) (fuel : Nat) : P Definition := do
  let start ← peek
  let _ ← expectKeyword K.extend
  let _ ← expectKeyword K.interface_
  let name ← parseName fl
  let directives ← parseDirectives fl fuel true
  let fields ← parseFieldsDefinition fl fuel
  if directives.isEmpty ∧ fields.isEmpty then fail "Unexpected token"
  else pure (.interfaceTypeExtension name directives fields (← mkLoc fl start))

/-- `parse_union_type_extension` -/
def parseUnionTypeExtension (fl : Flags) (fuel : Nat) : P Definition := do
  let start ← peek
  let _ ← expectKeyword K.extend
  let _ ← expectKeyword K.union
  let name ← parseName fl
  let directives ← parseDirectives fl fuel true
  let types ← parseUnionMemberTypes fl fuel
  if directives.isEmpty ∧ types.isEmpty then fail "Unexpected token"
  else pure (.unionTypeExtension name directives types (← mkLoc fl start))

/-- `parse_enum_type_extension` -/
def parseEnumTypeExtension (fl : Flags) (fuel : Nat) : P Definition := do
  let start ← peek
  let _ ← expectKeyword K.extend
  let _ ← expectKeyword K.enum_
  let name ← parseName fl
  let directives ← parseDirectives fl fuel true
  let values ← parseEnumValuesDefinition fl fuel
  if directives.isEmpty ∧ values.isEmpty then fail "Unexpected token"
  else pure (.enumTypeExtension name directives values (← mkLoc fl start))

/-- `parse_input_object_type_extension` -/
def parseInputObjectTypeExtension (fl : Flags) (fuel : Nat) : P Definition := do
  let start ← peek
  let _ ← expectKeyword K.extend
  let _ ← expectKeyword K.input
  let name ← parseName fl
  let directives ← parseDirectives fl fuel true
  let fields ← parseInputFieldsDefinition fl fuel
  if directives.isEmpty ∧ fields.isEmpty then failTokAt start "Unexpected token"
  else pure (.inputObjectTypeExtension name directives fields (← mkLoc fl start))

/-- `parse_type_system_extension`: dispatch on `peek(2)` -/
def parseTypeSystemExtension (fl : Flags) (fuel : Nat) : P Definition := do
  let keyword ← peek2
  if keyword.kind = .name then
    if keyword.value = K.schema then parseSchemaExtension fl fuel
    else if keyword.value = K.scalar then parseScalarTypeExtension fl fuel
    else if keyword.value = K.type_ then parseObjectTypeExtension fl fuel
    else if keyword.value = K.interface_ then parseInterfaceTypeExtension fl fuel
    else if keyword.value = K.union then parseUnionTypeExtension fl fuel
    else if keyword.value = K.enum_ then parseEnumTypeExtension fl fuel
    else if keyword.value = K.input then parseInputObjectTypeExtension fl fuel
    else failAt keyword "Unexpected token"
  else failAt keyword "Unexpected token"

end PyGql.Parse
