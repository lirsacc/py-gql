/-
  C17 — model of `py_gql.execution.subscribe`.

  Mirrors:
    src/py_gql/execution/subscribe.py        subscribe, create_source_event_stream,
                                             _on_stream_created, execute_subscription_event
    src/py_gql/execution/runtime/asyncio.py  AsyncMap.__anext__ / AsyncIORuntime.map_stream
    src/py_gql/execution/wrappers.py         ResolutionContext.add_error / errors / clear_errors
    src/py_gql/execution/executor.py         resolve_field / complete_value / execute_fields
                                             (data and error bookkeeping only; hooks are C16)

  The executor is SHARED by all events of a subscription: its error list is explicit state
  threaded through the events, `clear_errors` is an explicit step (switch `clear` lets the
  theorems show what breaks without it).  An event is abstract: the outcome tree of the root
  selection executed with that event as root value (which fields raise ResolverError, leaf
  values, nulls, objects, lists).  Errors carry a ghost tag: the index of the event that was
  being processed when they were raised.

  Core Lean and `Instr.lean` (for `Seg` / `Path`) only (linked into the driver).
-/
import PyGqlModel.Instr

namespace PyGql.Subscribe
open PyGql.Instr (Seg Path)

/-- response data -/
inductive Val where
  | null
  | int (n : Int)
  | obj (fs : List (String × Val))
  | list (xs : List Val)
  deriving Repr, Inhabited

mutual
inductive EComp where
  | leaf (v : Int)
  | null
  | obj (fs : List ENode)
  | list (items : List EComp)
/-- one selected field under this event: response key, does its resolver raise, completion -/
inductive ENode where
  | mk (key : String) (raises : Bool) (c : EComp)
end

instance : Inhabited EComp := ⟨.null⟩
instance : Inhabited ENode := ⟨.mk "" false .null⟩

def ENode.key : ENode → String
  | .mk k _ _ => k

/-- an event = what the root selection does with it as root value -/
abbrev Event := List ENode

/-- a registered error: (ghost) index of the event being processed, response path -/
structure Err where
  event : Nat
  path : Path
  deriving DecidableEq, Repr

mutual
/-- `resolve_field`: `fail` → `add_error`, null; otherwise `complete_value` -/
def resolveField (k : Nat) (path : Path) : ENode → List Err → Val × List Err
  | .mk key raises c, errs =>
    if raises then (.null, errs ++ [⟨k, path ++ [.key key]⟩])            -- self._errors.append(err)
    else completeValue k (path ++ [.key key]) c errs
def completeValue (k : Nat) (p : Path) : EComp → List Err → Val × List Err
  | .leaf v, errs => (.int v, errs)
  | .null, errs => (.null, errs)
  | .obj fs, errs => let r := executeFields k p fs errs; (.obj r.1, r.2)
  | .list items, errs => let r := completeItems k p 0 items errs; (.list r.1, r.2)
def executeFields (k : Nat) (p : Path) : List ENode → List Err → List (String × Val) × List Err
  | [], errs => ([], errs)
  | n :: ns, errs =>
    let a := resolveField k p n errs
    let b := executeFields k p ns a.2
    ((n.key, a.1) :: b.1, b.2)
def completeItems (k : Nat) (p : Path) (i : Nat) : List EComp → List Err → List Val × List Err
  | [], errs => ([], errs)
  | c :: cs, errs =>
    let a := completeValue k (p ++ [.idx i]) c errs
    let b := completeItems k p (i + 1) cs a.2
    (a.1 :: b.1, b.2)
end

/-- `GraphQLResult(data=data, errors=executor.errors)` (`errors` is a copy) -/
structure Result where
  data : Val
  errors : List Err
  deriving Repr

/-- the shared executor's mutable part -/
structure ExecState where
  errors : List Err

/-- `execute_subscription_event(executor, root_type, operation, event)`;
    `clear = true` is the code (`executor.clear_errors()` first) -/
def executeSubscriptionEvent (clear : Bool) (st : ExecState) (k : Nat) (ev : Event) : ExecState × Result :=
  let st1 : ExecState := if clear then ⟨[]⟩ else st                       -- self._errors[:] = []
  let r := executeFields k [] ev st1.errors
  (⟨r.2⟩, ⟨.obj r.1, r.2⟩)

/-- the response stream `AsyncMap(source_stream, _on_event)` -/
structure Stream where
  source : List Event
  st : ExecState
  /-- index of the next event -/
  k : Nat
  /-- number of `__anext__` calls made on the source -/
  pulls : Nat

/-- `AsyncMap.__anext__`: pull ONE event from the source, map it, hand out the result.
    `none` = `StopAsyncIteration` from the source propagates. -/
def Stream.next (clear : Bool) (s : Stream) : Option Result × Stream :=
  match s.source with
  | [] => (none, { s with pulls := s.pulls + 1 })
  | e :: es =>
    let r := executeSubscriptionEvent clear s.st s.k e
    (some r.2, { source := es, st := r.1, k := s.k + 1, pulls := s.pulls + 1 })

/-- `async for r in stream` : call `next` until it stops (fuel = a bound on the calls) -/
def Stream.collect (clear : Bool) : Nat → Stream → List Result × Stream
  | 0, s => ([], s)
  | fuel + 1, s =>
    match s.next clear with
    | (none, s') => ([], s')
    | (some r, s') => let c := Stream.collect clear fuel s'; (r :: c.1, c.2)

/-- the same as a plain recursion over the source (see `collect_eq_responses`) -/
def responses (clear : Bool) : ExecState → Nat → List Event → List Result
  | _, _, [] => []
  | st, k, e :: es =>
    let r := executeSubscriptionEvent clear st k e
    r.2 :: responses clear r.1 (k + 1) es

inductive OpKind where
  | query | mutation | subscription
  deriving DecidableEq, Repr

/-- a selection at the root of the operation, as `collect_fields` sees it -/
inductive RSel where
  /-- a field with its response key; `none` = dropped by `@skip` / `@include` -/
  | field (key : Option String)
  /-- a fragment spread or inline fragment whose type condition applies (its selections) -/
  | spread (sels : List RSel)

instance : Inhabited RSel := ⟨.field none⟩

mutual
/-- `collect_fields`: response keys in first-occurrence order; same key = same entry (merged) -/
def collectSel : RSel → List String → List String
  | .field none, acc => acc
  | .field (some k), acc => if k ∈ acc then acc else acc ++ [k]
  | .spread ss, acc => collectSels ss acc
def collectSels : List RSel → List String → List String
  | [], acc => acc
  | s :: ss, acc => collectSels ss (collectSel s acc)
end

structure SubRequest where
  /-- `get_operation_with_type` succeeds -/
  opselOk : Bool
  /-- `coerce_variable_values` succeeds -/
  varsOk : Bool
  operation : OpKind
  /-- the root selection set as written (fields, fragment spreads, inline fragments) -/
  root : List RSel
  /-- `executor.field_definition(root_type, name)` of the collected field is not None -/
  fieldDefined : Bool
  /-- `field_def.subscription_resolver` is not None -/
  hasSubResolver : Bool
  /-- `isinstance(runtime, SubscriptionRuntime)` -/
  streamRuntime : Bool
  /-- the `@skip` / `@include` conditions of the root selection can be evaluated (`collect_fields` does not fail) -/
  rootCollectOk : Bool
  /-- the arguments of the subscription field can be coerced (`argument_values` does not fail) -/
  argsOk : Bool
  events : List Event

inductive SubOutcome where
  /-- exception class raised by `subscribe(...)`, was the subscription resolver called, source pulls -/
  | refused (exc : String) (subResolverCalled : Bool) (pulls : Nat)
  | stream (results : List Result) (pulls : Nat)

/-- `subscribe` + `create_source_event_stream`, then the consumer drains the stream -/
def subscribe (r : SubRequest) : SubOutcome :=
  if !r.opselOk then .refused "InvalidOperationError" false 0               -- get_operation (no / ambiguous / unknown operation)
  else if r.operation ≠ .subscription then .refused "RuntimeError" false 0  -- "`subscribe` does not support %s operation"
  else if !r.streamRuntime then .refused "RuntimeError" false 0             -- "Runtime of type … doesn't support subscriptions."
  else if !r.varsOk then .refused "VariablesCoercionError" false 0          -- coerce_variable_values (of a subscription)
  -- create_source_event_stream: fields = executor.collect_fields(root_type, selections)
  else if !r.rootCollectOk then .refused "ExecutionError" false 0           -- except ResolverError: raise ExecutionError
  else if (collectSels r.root []).length ≠ 1 then .refused "ExecutionError" false 0   -- "… must specify only one field."
  else if !r.fieldDefined then .refused "RuntimeError" false 0              -- "No field definition found …"
  else if !r.hasSubResolver then .refused "RuntimeError" false 0            -- "… should provide a subscription resolver."
  else if !r.argsOk then .refused "ExecutionError" false 0                  -- except CoercionError: raise ExecutionError
  else
    let c := Stream.collect true (r.events.length + 1) ⟨r.events, ⟨[]⟩, 0, 0⟩
    .stream c.1 c.2.pulls

end PyGql.Subscribe
