/-
  MODEL of `py_gql/lang/printer.py`: `ASTPrinter` (`__init__`, `__call__`, every `print_*`, `_selection_set`,
  `_with_desc`) and the layout helpers `_wrap`, `_join`, `_indent`, `_block` — function by function, names kept
  (`print_variable_definition` → `printVariableDefinition`).  The string encoders (`print_string_value`,
  `_block_string`, `_indent`, `json.dumps`) are `PrintString.lean` (string part of C03) and are used unchanged.

  Text is `List Nat` (code points).  The printer is parameterised by a configuration `Cfg` = the two attributes
  `self.indent` (already a string) and `self.include_descriptions`; `mkCfg` mirrors `ASTPrinter.__init__`
  (`indent` may be an int = number of spaces, or the indent string itself).

  Modelled with the fixes R5 and R6 (both in /repo):
    R5 `_with_desc` prints a non-block description with `json.dumps` (in the form it was written);
    R6 `print_document` keeps the keyword `query` of a shorthand query when the previous definition's text does not
       end with `}` (`type A` followed by `{ a: b }` would otherwise be read back as `type A { a: b }`).
  Modelled as it is (finding R4, pinned by the suite): the descriptions of field / argument / input-field / enum-value
  definitions are NOT printed.
  Import-free apart from Token, Ast, PrintString, and Parse (keyword texts `K.*` only).
-/
import PyGqlModel.Ast
import PyGqlModel.PrintString
import PyGqlModel.Parse
namespace PyGql.Print
open PyGql PyGql.Ast PyGql.PrintString PyGql.Parse

/-- the two attributes of an `ASTPrinter` -/
structure Cfg where
  indent : Text
  includeDescriptions : Bool := true
  deriving Repr, DecidableEq, Inhabited

/-- the `indent` argument of `ASTPrinter.__init__`: an int or a string -/
inductive IndentArg where
  | width (n : Int)
  | str (s : Text)
  deriving Repr, DecidableEq

/-- `ASTPrinter.__init__`: `indent * " "` for an int (empty for a negative one), the string itself otherwise -/
def mkCfg (indent : IndentArg := .width 4) (includeDescriptions : Bool := true) : Cfg :=
  { indent := match indent with
      | .width n => List.replicate n.toNat 32
      | .str s => s,
    includeDescriptions := includeDescriptions }

/-- a Python string literal as code points -/
def lit (s : String) : Text := textOfString s

/-! ### layout helpers -/

/-- `_wrap(start, maybe_string, end)` -/
def wrap (start maybeString : Text) (end_ : Text := []) : Text :=
  if maybeString.isEmpty then [] else start ++ maybeString ++ end_

/-- `separator.join(entries)` -/
def joinSep (sep : Text) : List Text → Text
  | [] => []
  | [x] => x
  | x :: xs => x ++ sep ++ joinSep sep xs

/-- `_join(entries, separator)`: empty entries are dropped -/
def join (entries : List Text) (sep : Text := []) : Text :=
  joinSep sep (entries.filter fun x => !x.isEmpty)

/-- `_block(iterator, indent)` -/
def block (arr : List Text) (indent : Text) : Text :=
  if arr.isEmpty then []
  else [123, 10] ++ join (arr.map fun s => indentText s indent) [10] ++ [10, 125]

/-! ### names, variables, types -/

/-- `print_name` -/
def printName (n : Name) : Text := n.value
/-- `print_variable` -/
def printVariable (v : Variable) : Text := 36 :: v.name.value
/-- `print_named_type` -/
def printNamedType (t : NamedType) : Text := t.name.value

/-- `print_named_type`, `print_list_type`, `print_non_null_type` -/
def printType : TypeRef → Text
  | .named t => printNamedType t
  | .list t _ => 91 :: (printType t ++ [93])
  | .nonNull t _ => printType t ++ [33]

/-! ### values -/

mutual
/-- `print_variable`, `print_int_value`, …, `print_list_value`, `print_object_value` -/
def printValue (c : Cfg) : Value → Text
  | .var v => printVariable v
  | .int v _ => v
  | .float v _ => v
  | .string s => printStringValue s.value s.block c.indent
  | .boolean b _ => if b then K.true_ else K.false_      -- `str(node.value).lower()`
  | .null _ => K.null_
  | .enum v _ => v
  | .list vs _ => 91 :: (join (printValues c vs) [44, 32] ++ [93])
  | .object fs _ => 123 :: (join (printObjectFields c fs) [44, 32] ++ [125])
def printValues (c : Cfg) : List Value → List Text
  | [] => []
  | v :: vs => printValue c v :: printValues c vs
/-- `print_object_field` -/
def printObjectField (c : Cfg) : ObjectField → Text
  | .mk name value _ => name.value ++ [58, 32] ++ printValue c value
def printObjectFields (c : Cfg) : List ObjectField → List Text
  | [] => []
  | f :: fs => printObjectField c f :: printObjectFields c fs
end

/-- `self(node)` for an optional value (`self(None) = ""`) -/
def printOptValue (c : Cfg) : Option Value → Text
  | none => []
  | some v => printValue c v

/-! ### arguments, directives, variable definitions -/

/-- `print_argument` -/
def printArgument (c : Cfg) (a : Argument) : Text := a.name.value ++ [58, 32] ++ printValue c a.value
/-- `print_arguments` -/
def printArguments (c : Cfg) (as : List Argument) : Text :=
  wrap [40] (join (as.map (printArgument c)) [44, 32]) [41]
/-- `print_directive` -/
def printDirective (c : Cfg) (d : Directive) : Text := 64 :: (d.name.value ++ printArguments c d.arguments)
/-- `print_directives` -/
def printDirectives (c : Cfg) (ds : List Directive) : Text := join (ds.map (printDirective c)) [32]

/-- `print_variable_definition` -/
def printVariableDefinition (c : Cfg) (d : VariableDefinition) : Text :=
  join [printVariable d.var ++ [58, 32] ++ printType d.type ++ wrap [32, 61, 32] (printOptValue c d.defaultValue),
        printDirectives c d.directives] [32]
/-- `print_variable_definitions` -/
def printVariableDefinitions (c : Cfg) (ds : List VariableDefinition) : Text :=
  wrap [40] (join (ds.map (printVariableDefinition c)) [44, 32]) [41]

/-! ### selections -/

mutual
/-- `print_field`, `print_fragment_spread`, `print_inline_fragment` -/
def printSelection (c : Cfg) : Selection → Text
  | .field alias_ name args dirs ss _ =>
    let lead := match alias_ with
      | some a => join [wrap [] a.value [58, 32], name.value]
      | none => name.value
    join [join [lead, printArguments c args], printDirectives c dirs, printOptSelectionSet c ss] [32]
  | .fragmentSpread name dirs _ => [46, 46, 46] ++ name.value ++ wrap [32] (printDirectives c dirs)
  | .inlineFragment tc dirs ss _ =>
    join [[46, 46, 46],
          wrap [111, 110, 32] (match tc with | some t => printNamedType t | none => []),
          printDirectives c dirs, printSelectionSet c ss] [32]
/-- `print_selection_set` -/
def printSelectionSet (c : Cfg) : SelectionSet → Text
  | .mk sels _ => block (printSelections c sels) c.indent
/-- `_selection_set(node)` -/
def printOptSelectionSet (c : Cfg) : Option SelectionSet → Text
  | none => []
  | some ss => printSelectionSet c ss
def printSelections (c : Cfg) : List Selection → List Text
  | [] => []
  | s :: ss => printSelection c s :: printSelections c ss
end

/-! ### executable definitions -/

/-- `print_operation_definition` -/
def printOperationDefinition (c : Cfg) (d : OperationDefinition) : Text :=
  let op := d.operation
  let name := match d.name with | some n => n.value | none => []
  let varDefs := printVariableDefinitions c d.variableDefinitions
  let directives := printDirectives c d.directives
  let selectionSet := printSelectionSet c d.selectionSet
  let useShortForm := name.isEmpty && directives.isEmpty && varDefs.isEmpty && (op == K.query || op.isEmpty)
  if useShortForm then selectionSet
  else join [op, join [name, varDefs], directives, selectionSet] [32]

/-- `print_fragment_definition`: `"fragment %s%s on %s %s%s"` -/
def printFragmentDefinition (c : Cfg) (d : FragmentDefinition) : Text :=
  lit "fragment " ++ d.name.value ++ printVariableDefinitions c d.variableDefinitions ++ lit " on " ++
    printNamedType d.typeCondition ++ [32] ++ printDirectives c d.directives ++ printSelectionSet c d.selectionSet

/-! ### type-system definitions -/

/-- `_with_desc(formatted, desc)` (R5 fixed: a description is printed in the form it was written) -/
def withDesc (c : Cfg) (formatted : Text) (desc : Option StringValue) : Text :=
  match desc with
  | none => formatted
  | some d =>
    if !c.includeDescriptions then formatted
    else
      let descStr := if d.block then blockString d.value c.indent true else jsonDumps d.value
      join [descStr, formatted] [10]

/-- `print_operation_type_definition` -/
def printOperationTypeDefinition (d : OperationTypeDefinition) : Text :=
  d.operation ++ [58, 32] ++ printNamedType d.type

/-- `print_input_value_definition` (the description is not printed: finding R4) -/
def printInputValueDefinition (c : Cfg) (d : InputValueDefinition) : Text :=
  join [join [d.name.value, [58, 32], printType d.type],
        wrap [32, 61, 32] (printOptValue c d.defaultValue),
        wrap [32] (printDirectives c d.directives)]

/-- `print_argument_definitions` -/
def printArgumentDefinitions (c : Cfg) (as : List InputValueDefinition) : Text :=
  let args := as.map (printInputValueDefinition c)
  if !(args.any fun a => a.contains 10) then wrap [40] (join args [44, 32]) [41]
  else wrap [40, 10] (indentText (join args [10]) c.indent) [10, 41]

/-- `print_field_definition` (the description is not printed: finding R4) -/
def printFieldDefinition (c : Cfg) (d : FieldDefinition) : Text :=
  join [d.name.value, printArgumentDefinitions c d.arguments, [58, 32], printType d.type,
        wrap [32] (printDirectives c d.directives)]

/-- `print_enum_value_definition` (the description is not printed: finding R4) -/
def printEnumValueDefinition (c : Cfg) (d : EnumValueDefinition) : Text :=
  join [d.name.value, printDirectives c d.directives] [32]

/-- `_wrap("implements ", _join(map(self, node.interfaces), " & "))` -/
def printImplements (ifs : List NamedType) : Text :=
  wrap (lit "implements ") (join (ifs.map printNamedType) [32, 38, 32])
/-- `_wrap("= ", _join(map(self, node.types), " | "))` -/
def printUnionMembers (ts : List NamedType) : Text :=
  wrap [61, 32] (join (ts.map printNamedType) [32, 124, 32])

/-- every `print_*_definition` / `print_*_extension`, dispatched as `__call__` does -/
def printDefinition (c : Cfg) : Definition → Text
  | .operation d => printOperationDefinition c d
  | .fragment d => printFragmentDefinition c d
  | .schemaDefinition dirs ops _ =>
    join [lit "schema", printDirectives c dirs, block (ops.map printOperationTypeDefinition) c.indent] [32]
  | .schemaExtension dirs ops _ =>
    join [lit "extend schema", printDirectives c dirs, block (ops.map printOperationTypeDefinition) c.indent] [32]
  | .scalarTypeDefinition desc name dirs _ =>
    withDesc c (join [lit "scalar", name.value, printDirectives c dirs] [32]) desc
  | .scalarTypeExtension name dirs _ =>
    join [lit "extend scalar", name.value, printDirectives c dirs] [32]
  | .objectTypeDefinition desc name ifs dirs fields _ =>
    withDesc c (join [lit "type", name.value, printImplements ifs, printDirectives c dirs,
                      block (fields.map (printFieldDefinition c)) c.indent] [32]) desc
  | .objectTypeExtension name ifs dirs fields _ =>
    join [lit "extend type", name.value, printImplements ifs, printDirectives c dirs,
          block (fields.map (printFieldDefinition c)) c.indent] [32]
  | .interfaceTypeDefinition desc name dirs fields _ =>
    withDesc c (join [lit "interface", name.value, printDirectives c dirs,
                      block (fields.map (printFieldDefinition c)) c.indent] [32]) desc
  | .interfaceTypeExtension name dirs fields _ =>
    join [lit "extend interface", name.value, printDirectives c dirs,
          block (fields.map (printFieldDefinition c)) c.indent] [32]
  | .unionTypeDefinition desc name dirs types _ =>
    withDesc c (join [lit "union", name.value, printDirectives c dirs, printUnionMembers types] [32]) desc
  | .unionTypeExtension name dirs types _ =>
    join [lit "extend union", name.value, printDirectives c dirs, printUnionMembers types] [32]
  | .enumTypeDefinition desc name dirs values _ =>
    withDesc c (join [lit "enum", name.value, printDirectives c dirs,
                      block (values.map (printEnumValueDefinition c)) c.indent] [32]) desc
  | .enumTypeExtension name dirs values _ =>
    join [lit "extend enum", name.value, printDirectives c dirs,
          block (values.map (printEnumValueDefinition c)) c.indent] [32]
  | .inputObjectTypeDefinition desc name dirs fields _ =>
    withDesc c (join [lit "input", name.value, printDirectives c dirs,
                      block (fields.map (printInputValueDefinition c)) c.indent] [32]) desc
  | .inputObjectTypeExtension name dirs fields _ =>
    join [lit "extend input", name.value, printDirectives c dirs,
          block (fields.map (printInputValueDefinition c)) c.indent] [32]
  | .directiveDefinition desc name args locations _ =>
    withDesc c (join [lit "directive @", name.value, printArgumentDefinitions c args, lit " on ",
                      join (locations.map printName) [32, 124, 32]]) desc

/-! ### documents -/

/-- the loop of `print_document` (R6 fixed): `acc` = the entries so far, in reverse -/
def documentEntries (c : Cfg) : List Text → List Definition → List Text
  | acc, [] => acc.reverse
  | acc, d :: ds =>
    let entry := printDefinition c d
    let entry :=
      match acc with
      | prev :: _ => if entry.head? == some 123 && !(prev.getLast? == some 125) then lit "query " ++ entry else entry
      | [] => entry
    documentEntries c (if entry.isEmpty then acc else entry :: acc) ds

/-- `print_document` -/
def printDocument (c : Cfg) (d : Document) : Text :=
  join (documentEntries c [] d.definitions) [10, 10] ++ [10]

end PyGql.Print
