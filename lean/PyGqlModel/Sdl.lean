/-
  C11 — model of `py_gql.sdl.build_schema` (schema_from_ast.py, ast_type_builder.py,
  Schema.__init__/_build_type_map, utilities/value_from_ast.py) on the by-name
  schema description `SchemaD`.

  The model follows the code, which has the fixes C11-S1 (lazy input fields,
  SDLError wrapping, circular-reference guard) and C11-S2 (attributes and all
  types kept by extension). Lazy type thunks are abstracted to by-name
  references; the builder caches (`_cache`, `_extended_cache`) become lookups
  in the list of definitions / supplied types. Schema validation
  (`Schema.validate`, property C13) is NOT part of this model: `build` returns
  the builder's result.

  Errors: every rejection of the library is one of `LibErr` (SDLError,
  ExtensionError, SchemaError). The only other branch of the model is the
  exhaustion of the coercion fuel (`Err.internal "RecursionError"`), which is
  what the real code does on cyclic default dependencies (finding S1b).
  Import-free.
-/
import PyGqlModel.SchemaDesc

namespace PyGql.Sdl
open PyGql

/-! ### the small SDL-definition AST (wire format of harness/gen/sdl.py) -/

/-- constant literal; floats/ints carry Python's `repr(float(text))` in `f` -/
inductive Lit where
  | null
  | int (v f : String)
  | float (v f : String)
  | str (s : String)
  | bool (b : Bool)
  | enum (s : String)
  | list (l : List Lit)
  | obj (fs : List (String × Lit))
  deriving Repr, Inhabited, BEq

structure DirApp where
  name : String
  args : List (String × Lit) := []
  deriving Repr, Inhabited, BEq

structure InputValDef where
  name : String
  desc : Option String := none
  type : Ty
  default : Option Lit := none
  dirs : List DirApp := []
  deriving Repr, Inhabited, BEq

structure FieldDef where
  name : String
  desc : Option String := none
  args : List InputValDef := []
  type : Ty
  dirs : List DirApp := []
  deriving Repr, Inhabited, BEq

structure EnumValDef where
  name : String
  desc : Option String := none
  dirs : List DirApp := []
  deriving Repr, Inhabited, BEq

/-- a type definition or a type extension (extensions have no description) -/
structure TypeDef where
  kind : Kind
  name : String
  desc : Option String := none
  interfaces : List String := []
  fields : List FieldDef := []
  members : List String := []
  values : List EnumValDef := []
  inputFields : List InputValDef := []
  dirs : List DirApp := []
  deriving Repr, Inhabited

structure DirDef where
  name : String
  desc : Option String := none
  args : List InputValDef := []
  locations : List String := []
  deriving Repr, Inhabited

structure SchemaDef where
  ops : List (String × String) := []     -- (operation, type name)
  dirs : List DirApp := []
  deriving Repr, Inhabited

inductive Def where
  | type (t : TypeDef)
  | ext (t : TypeDef)
  | directive (d : DirDef)
  | schema (s : SchemaDef)
  | schemaExt (s : SchemaDef)
  | other
  deriving Repr, Inhabited

abbrev Doc := List Def

/-- the library's schema/SDL errors -/
inductive LibErr where
  | sdl       -- SDLError
  | ext       -- ExtensionError
  | schema    -- SchemaError
  deriving DecidableEq, Repr, Inhabited

inductive Err where
  | lib (e : LibErr)
  | internal (cls : String)
  deriving DecidableEq, Repr, Inhabited

abbrev R := Except Err

/-- a guard statement of the builder: `if c: raise err` -/
def failIf (c : Bool) (err : Err) : R Unit := if c then .error err else pure ()

def sdlErr {α} : R α := .error (.lib .sdl)
def extErr {α} : R α := .error (.lib .ext)
def schemaErr {α} : R α := .error (.lib .schema)

/-! ### `_collect_definitions` -/

structure Collected where
  schemaDef : Option SchemaDef := none
  types : List TypeDef := []        -- insertion order of the `types` dict
  directives : List DirDef := []
  deriving Inhabited

def builtinScalars : List String := ["Int", "Float", "Boolean", "String", "ID"]
def introspectionTypes : List String :=
  ["__Schema", "__Directive", "__DirectiveLocation", "__Type", "__Field", "__InputValue", "__EnumValue", "__TypeKind"]
def isDefaultName (n : String) : Bool := builtinScalars.contains n || introspectionTypes.contains n

/-- kind of a specified type -/
def builtinKind (n : String) : Kind :=
  if builtinScalars.contains n then .scalar else if n == "__TypeKind" || n == "__DirectiveLocation" then .enum else .object

def collectStep (acc : Collected) : Def → R Collected
  | .schema s => if acc.schemaDef.isSome then sdlErr else pure { acc with schemaDef := some s }
  | .type t =>
    if acc.types.any (·.name == t.name) then sdlErr
    else if isDefaultName t.name then sdlErr       -- a definition may not take the name of a specified type (fix C11-7)
    else pure { acc with types := acc.types ++ [t] }
  | .directive d =>
    if acc.directives.any (·.name == d.name) then sdlErr else pure { acc with directives := acc.directives ++ [d] }
  | _ => pure acc

def collectDefinitions (doc : Doc) : R Collected := doc.foldlM collectStep {}

/-! ### names known before anything is built: `_DEFAULT_TYPES_MAP` -/

def specifiedDirectives : List String := ["include", "skip", "deprecated"]

/-- what the builder can see while building definitions: the definitions of the document and the
    supplied (`additional_types`) live types, which take precedence (`_cache.update(additional_types)`) -/
structure Env where
  /-- `_type_defs[name]` -/
  findDef : String → Option TypeDef
  /-- `additional_types` by name -/
  findAdditional : String → Option TypeD

/-- the builder's view of a list of definitions and of supplied types: BY-NAME lookups only, so everything
    built from an `Env` is independent of the order of the definitions -/
def Env.of (defs : List TypeDef) (additional : List TypeD := []) : Env :=
  { findDef := fun n => defs.find? (·.name == n), findAdditional := fun n => additional.find? (·.name == n) }

/-- `build_type` on a named reference can resolve it -/
def Env.resolves (e : Env) (n : String) : Bool :=
  isDefaultName n || (e.findAdditional n).isSome || (e.findDef n).isSome

/-- kind of the live type a name resolves to (none = built-in scalar / introspection / unknown) -/
def Env.kindOf (e : Env) (n : String) : Option Kind :=
  if isDefaultName n then none
  else match e.findAdditional n with
    | some t => some t.kind
    | none => (e.findDef n).map (·.kind)

/-! ### `value_from_ast` for constants (default values, directive arguments) -/

def floatJ (repr : String) : J := .obj [("$float", .str repr)]

/-- `coerce_float` rejects NaN and ±Infinity (fix X2); `repr` is Python's `repr(float(text))` -/
def finiteRepr (repr : String) : Bool := !(repr == "inf" || repr == "-inf" || repr == "nan")

def MAX_INT : Int := 2147483647
def MIN_INT : Int := -2147483648

mutual
/-- `default_scalar.parse_literal` (fix C11-1): the transparent conversion of a literal — scalar literals keep their
    `value` (source text for numbers), enum literals their name, list / object literals become lists / dicts -/
def untypedLit : Lit → J
  | .null => .null
  | .int v _ => .str v
  | .float v _ => .str v
  | .str s => .str s
  | .bool b => .bool b
  | .enum v => .str v
  | .list l => .arr (untypedList l)
  | .obj fs => .obj (untypedFields fs)
def untypedList : List Lit → List J
  | [] => []
  | x :: xs => untypedLit x :: untypedList xs
def untypedFields : List (String × Lit) → List (String × J)
  | [] => []
  | (k, x) :: xs => (k, untypedLit x) :: untypedFields xs
end

/-- `parse_literal` of the five specified scalars and of `default_scalar` -/
def scalarLiteral (tname : String) (custom : Bool) : Lit → Option J
  | .enum v => if custom then some (.str v) else none
  | .list l => if custom then some (.arr (untypedList l)) else none
  | .obj fs => if custom then some (.obj (untypedFields fs)) else none
  | .int v f =>
    if custom then some (.str v)
    else if tname == "Int" then
      match v.toInt? with
      | some n => if MIN_INT ≤ n && n ≤ MAX_INT then some (.num n) else none   -- closed range (fix A1)
      | none => none
    else if tname == "Float" then (if finiteRepr f then some (floatJ f) else none)
    else if tname == "ID" then some (.str v)
    else none
  | .float v f =>
    if custom then some (.str v) else if tname == "Float" then (if finiteRepr f then some (floatJ f) else none) else none
  | .str s =>
    if custom then some (.str s) else if tname == "String" || tname == "ID" then some (.str s) else none
  | .bool b =>
    if custom then some (.bool b) else if tname == "Boolean" then some (.bool b) else none
  | _ => none

/-- `_extract_input_object` (fix A5): a field of the literal that the input type does not define is an
    InvalidValue -/
def allDefined (given : List (String × Lit)) (names : List String) : Bool := given.all fun g => names.contains g.1

/-- last occurrence wins: `{f.name.value: f for f in node.fields}` -/
def lookupLast (fs : List (String × Lit)) (n : String) : Option Lit :=
  (fs.reverse.find? (·.1 == n)).map (·.2)

mutual
/-- `value_from_ast(node, type_)` over the types visible in `env` (definitions as written, no extensions:
    defaults are coerced while the definitions are built). inner `none` = InvalidValue/TypeError (→ SDLError);
    outer `none` = fuel exhausted = the real code's RecursionError (the ONLY non-library outcome, by typing). -/
def valueFromAst (env : Env) : Nat → Lit → Ty → Option (Option J)
  | 0, _, _ => none
  | fuel+1, lit, ty =>
    match ty with
    | .nonNull t =>
      match lit with
      | .null => pure none
      | _ => valueFromAst env fuel lit t
    | .list t =>
      match lit with
      | .null => pure (some .null)
      | .list items => do
        let vs ← coerceItems env fuel items t
        pure (vs.map .arr)
      | _ => do
        let v ← valueFromAst env fuel lit t
        pure (v.map fun x => .arr [x])
    | .named n =>
      match lit with
      | .null => pure (some .null)
      | _ =>
        if builtinScalars.contains n then pure (scalarLiteral n false lit)
        else match env.findAdditional n with
          | some t =>
            match t.kind with
            | .scalar => pure (scalarLiteral n true lit)
            | .enum =>
              match lit with
              | .enum v => pure ((t.values.find? (·.name == v)).map (·.value))
              | _ => pure none
            | .input =>
              match lit with
              | .obj fs => do
                let r ← coerceLiveFields env fuel fs t.inputFields
                pure (if allDefined fs (t.inputFields.map (·.name)) then r else none)
              | _ => pure none
            | _ => pure none
          | none =>
            match env.findDef n with
            | none => pure none
            | some d =>
              match d.kind with
              | .scalar => pure (scalarLiteral n true lit)
              | .enum =>
                match lit with
                | .enum v => pure (if d.values.any (·.name == v) then some (.str v) else none)
                | _ => pure none
              | .input =>
                match lit with
                | .obj fs => do
                  let r ← coerceDefFields env fuel fs d.inputFields
                  pure (if allDefined fs (d.inputFields.map (·.name)) then r else none)
                | _ => pure none
              | _ => pure none

def coerceItems (env : Env) : Nat → List Lit → Ty → Option (Option (List J))
  | 0, _, _ => none
  | _, [], _ => pure (some [])
  | fuel+1, x :: xs, t => do
    let v ← valueFromAst env fuel x t
    let vs ← coerceItems env fuel xs t
    pure (match v, vs with | some a, some b => some (a :: b) | _, _ => none)

/-- `_extract_input_object` against an input type DEFINED in the document: a missing field takes the
    field's own default, i.e. the coercion of its default literal -/
def coerceDefFields (env : Env) : Nat → List (String × Lit) → List InputValDef → Option (Option J)
  | 0, _, _ => none
  | _, _, [] => pure (some (.obj []))
  | fuel+1, given, f :: fs => do
    let rest ← coerceDefFields env fuel given fs
    let this : Option (Option J) ←
      match lookupLast given f.name with
      | some l => do let v ← valueFromAst env fuel l f.type; pure (v.map some)
      | none =>
        match f.default with
        | some dl => do let v ← valueFromAst env fuel dl f.type; pure (v.map some)
        | none => pure (if f.type.isNonNull then none else some none)
    pure (match this, rest with
      | some (some v), some (.obj kvs) => some (.obj ((f.name, v) :: kvs))
      | some none, some r => some r
      | _, _ => none)

/-- the same against a SUPPLIED input type (defaults are already values) -/
def coerceLiveFields (env : Env) : Nat → List (String × Lit) → List ArgD → Option (Option J)
  | 0, _, _ => none
  | _, _, [] => pure (some (.obj []))
  | fuel+1, given, f :: fs => do
    let rest ← coerceLiveFields env fuel given fs
    let this : Option (Option J) ←
      match lookupLast given f.name with
      | some l => do let v ← valueFromAst env fuel l f.type; pure (v.map some)
      | none => pure (if f.hasDefault then some (some f.default) else if f.type.isNonNull then none else some none)
    pure (match this, rest with
      | some (some v), some (.obj kvs) => some (.obj ((f.name, v) :: kvs))
      | some none, some r => some r
      | _, _ => none)
end

def coerceFuel : Nat := 200

/-- `_default_value` of the fixed builder: InvalidValue/TypeError → SDLError -/
def defaultValue (env : Env) (lit : Lit) (ty : Ty) : R J :=
  match valueFromAst env coerceFuel lit ty with
  | none => .error (.internal "RecursionError")
  | some (some v) => pure v
  | some none => sdlErr

/-! ### `_deprecation_reason` -/

/-- `directive_arguments(DeprecatedDirective, node)`: first `@deprecated`, argument `reason: String = "No longer supported"` -/
def deprecationReason (dirs : List DirApp) : R (Option String) :=
  match dirs.find? (·.name == "deprecated") with
  | none => pure none
  | some d =>
    match lookupLast d.args "reason" with
    | none => pure (some "No longer supported")
    | some .null => pure none
    | some (.str s) => pure (some s)
    | some _ => sdlErr           -- CoercionError re-raised as SDLError (fix C11-S1)

/-- `Field.deprecated = bool(deprecation_reason)`: an empty reason does not deprecate a FIELD -/
def fieldDeprecation (r : Option String) : Option String :=
  match r with | some "" => none | x => x

/-! ### `ASTTypeBuilder.build_*` -/

def checkRef (env : Env) (t : Ty) : R Unit := if env.resolves t.base then pure () else sdlErr

def buildArgument (env : Env) (a : InputValDef) : R ArgD := do
  checkRef env a.type
  match a.default with
  | none => pure { name := a.name, type := a.type, desc := a.desc }
  | some l => do
    let v ← defaultValue env l a.type
    pure { name := a.name, type := a.type, hasDefault := true, default := v, desc := a.desc }

def buildField (env : Env) (f : FieldDef) : R FieldD := do
  checkRef env f.type
  let args ← f.args.mapM (buildArgument env)
  let r ← deprecationReason f.dirs
  pure { name := f.name, type := f.type, args := args, deprecated := fieldDeprecation r, desc := f.desc }

def reservedEnumNames : List String := ["true", "false", "null"]

def buildEnumValue (v : EnumValDef) : R EnumValD := do
  failIf (reservedEnumNames.contains v.name) (.lib .sdl)
  let r ← deprecationReason v.dirs
  pure { name := v.name, value := .str v.name, deprecated := r, desc := v.desc }

/-- some name occurs twice in the list -/
def hasDup : List String → Bool
  | [] => false
  | x :: xs => xs.contains x || hasDup xs

def checkNames (env : Env) (ns : List String) : R Unit :=
  if ns.all env.resolves then pure () else sdlErr

/-- `_build_<kind>_type` -/
def buildTypeDef (env : Env) (d : TypeDef) : R TypeD := do
  match d.kind with
  | .scalar => pure { kind := .scalar, name := d.name, desc := d.desc }
  | .object => do
    let fs ← d.fields.mapM (buildField env)
    checkNames env d.interfaces
    pure { kind := .object, name := d.name, desc := d.desc, interfaces := d.interfaces, fields := fs }
  | .interface => do
    let fs ← d.fields.mapM (buildField env)
    pure { kind := .interface, name := d.name, desc := d.desc, fields := fs }
  | .union => do
    checkNames env d.members
    pure { kind := .union, name := d.name, desc := d.desc, members := d.members }
  | .enum => do
    failIf (hasDup (d.values.map (·.name))) (.lib .sdl)     -- fix C11-S1 (was a bare ValueError)
    let vs ← d.values.mapM buildEnumValue
    pure { kind := .enum, name := d.name, desc := d.desc, values := vs }
  | .input => do
    let fs ← d.inputFields.mapM (buildArgument env)
    pure { kind := .input, name := d.name, desc := d.desc, inputFields := fs }

/-- `build_type(type_def)`: the cache (defaults, supplied types) wins over the definition.
    `none` = a built-in type (not part of the dumped content). -/
def buildType (env : Env) (d : TypeDef) : R (Option TypeD) :=
  if isDefaultName d.name then pure none
  else match env.findAdditional d.name with
    | some t => pure (some t)
    | none => do let t ← buildTypeDef env d; pure (some t)

def buildDirective (env : Env) (d : DirDef) : R DirectiveD := do
  let args ← d.args.mapM (buildArgument env)
  pure { name := d.name, locations := d.locations, args := args, desc := d.desc }

/-! ### eager (non-lazy) references and the circular-reference guard -/

/-- names whose types are built eagerly while `t` is built/extended: interfaces, union members,
    argument types (field types and input field types are lazy) -/
def eagerRefs (t : TypeD) : List String :=
  match t.kind with
  | .object => t.interfaces ++ (t.fields.flatMap fun f => f.args.map (·.type.base))
  | .interface => t.fields.flatMap fun f => f.args.map (·.type.base)
  | .union => t.members
  | _ => []

/-- is `target` reachable from `n` through eager references (bounded by the number of types) -/
def eagerReach (types : List TypeD) (target : String) : Nat → String → Bool
  | 0, _ => false
  | fuel+1, n =>
    match types.find? (·.name == n) with
    | none => false
    | some t => (eagerRefs t).any fun m => m == target || eagerReach types target fuel m

def hasEagerCycle (types : List TypeD) : Bool :=
  types.any fun t => eagerReach types t.name types.length t.name

/-! ### re-entrant field thunks (finding S1b) -/

mutual
/-- input types DEFINED in the document whose (lazily built) field list is read while `lit` is coerced at `ty` -/
def thunkNeeds (env : Env) : Nat → Lit → Ty → List String
  | 0, _, _ => []
  | fuel+1, lit, ty =>
    match ty with
    | .nonNull t => thunkNeeds env fuel lit t
    | .list t =>
      match lit with
      | .list items => thunkNeedsList env fuel items t
      | _ => thunkNeeds env fuel lit t
    | .named n =>
      match lit, env.findAdditional n, env.findDef n with
      | .obj fs, none, some d =>
        if d.kind == .input && !isDefaultName n then
          n :: thunkNeedsFields env fuel fs d.inputFields
        else []
      | _, _, _ => []

def thunkNeedsList (env : Env) : Nat → List Lit → Ty → List String
  | 0, _, _ => []
  | _, [], _ => []
  | fuel+1, x :: xs, t => thunkNeeds env fuel x t ++ thunkNeedsList env fuel xs t

def thunkNeedsFields (env : Env) : Nat → List (String × Lit) → List InputValDef → List String
  | 0, _, _ => []
  | _, _, [] => []
  | fuel+1, given, f :: fs =>
    (match lookupLast given f.name with
     | some l => thunkNeeds env fuel l f.type
     | none => []) ++ thunkNeedsFields env fuel given fs
end

/-- the field thunk of input type `d` reads the field lists of these input types (through the default
    literals of its own fields) -/
def thunkEdges (env : Env) (d : TypeDef) : List String :=
  d.inputFields.flatMap fun f => match f.default with | some l => thunkNeeds env coerceFuel l f.type | none => []

def thunkReach (env : Env) (target : String) : Nat → String → Bool
  | 0, _ => false
  | fuel+1, n =>
    match env.findDef n with
    | none => false
    | some d => (thunkEdges env d).any fun m => m == target || thunkReach env target fuel m

/-- some input type's field thunk re-enters itself: the real builder overflows the stack -/
def hasThunkCycle (env : Env) (defs : List TypeDef) : Bool :=
  defs.any fun d => d.kind == .input && (env.findAdditional d.name).isNone && !isDefaultName d.name
                         && thunkReach env d.name defs.length d.name

/-! ### roots -/

structure Roots where
  query : Option String := none
  mutation : Option String := none
  subscription : Option String := none
  deriving Repr, Inhabited, BEq, DecidableEq

def Roots.get (r : Roots) : String → Option String
  | "query" => r.query | "mutation" => r.mutation | "subscription" => r.subscription | _ => none

def Roots.set (r : Roots) (op name : String) : Roots :=
  match op with
  | "query" => { r with query := some name }
  | "mutation" => { r with mutation := some name }
  | "subscription" => { r with subscription := some name }
  | _ => r

/-- default root names: only OBJECT types named Query / Mutation / Subscription -/
def defaultRoots (types : List TypeD) : Roots :=
  let pick (n : String) := if types.any (fun t => t.name == n && t.kind == .object) then some n else none
  { query := pick "Query", mutation := pick "Mutation", subscription := pick "Subscription" }

/-- operation types of a `schema` block (errE: the error of a repeated operation) -/
def addOps (resolves : String → Bool) (errE : Err) (r : Roots) : List (String × String) → R Roots
  | [] => pure r
  | (op, ty) :: rest =>
    if (r.get op).isSome then .error errE
    else if !resolves ty then sdlErr
    else addOps resolves errE (r.set op ty) rest

/-! ### `build_schema_ignoring_extensions` + `Schema.__init__` -/

structure Live where
  types : List TypeD           -- registry without the built-in types
  directives : List DirectiveD
  roots : Roots
  deriving Inhabited

/-- supplied types that are referenced but not defined are registered through the closure of
    `_build_type_map` (supplied types are assumed closed under references) -/
def referencedAdditional (additional : List TypeD) (types : List TypeD) (dirs : List DirectiveD) (roots : Roots) : List TypeD :=
  let names := types.flatMap (fun t => t.interfaces ++ t.members ++ t.fields.flatMap (fun f => f.type.base :: f.args.map (·.type.base))
                 ++ t.inputFields.map (·.type.base))
               ++ dirs.flatMap (fun d => d.args.map (·.type.base))
               ++ [roots.query, roots.mutation, roots.subscription].filterMap id
  additional.filter fun a => !types.any (·.name == a.name) && names.contains a.name

/-- root operation types: the `schema` block, else the default names -/
def buildRoots (env : Env) (sd : Option SchemaDef) (types : List TypeD) : R Roots :=
  match sd with
  | none => pure (defaultRoots types)
  | some sd => addOps env.resolves (.lib .sdl) {} sd.ops

/-- the part of `build_schema_ignoring_extensions` after `_collect_definitions` -/
def buildCollected (c : Collected) (additional : List TypeD) : R (Env × Live) := do
  let env : Env := Env.of c.types additional
  failIf (hasThunkCycle env c.types) (.internal "RecursionError")     -- finding S1b
  let dirs ← c.directives.mapM (buildDirective env)
  let built ← c.types.mapM (buildType env)
  let types := built.filterMap id
  failIf (hasEagerCycle types) (.lib .sdl)                 -- circular-reference guard of build_type
  let roots ← buildRoots env c.schemaDef types
  -- `_build_directive_map`: a user directive may not take the name of a specified one
  failIf (dirs.any (fun d => specifiedDirectives.contains d.name)) (.lib .schema)
  let extra := referencedAdditional additional types dirs roots
  pure (env, { types := types ++ extra, directives := dirs, roots := roots })

def buildIgnoringExtensions (doc : Doc) (additional : List TypeD) : R (Env × Live) := do
  let c ← collectDefinitions doc
  buildCollected c additional

/-! ### `_collect_extensions` (strict = False) and `ASTTypeBuilder.extend_*` -/

/-- extensions whose target is a registered type (others are silently ignored: strict=False) -/
def typeExtensions (live : Live) (doc : Doc) : List TypeDef :=
  doc.filterMap fun
    | .ext e => if isDefaultName e.name || live.types.any (·.name == e.name) then some e else none
    | _ => none

def schemaExtensions (doc : Doc) : List SchemaDef :=
  doc.filterMap fun | .schemaExt s => some s | _ => none

/-- append the members of one extension block, rejecting names already present -/
def appendNew {α} (errE : Err) (name : α → String) (acc : List α) : List α → R (List α)
  | [] => pure acc
  | x :: xs => if acc.any (fun y => name y == name x) then .error errE else appendNew errE name (acc ++ [x]) xs

/-! ### default values after extension (fix C14-T15)

`_default_value` retries a literal which is not a value of the un-extended type in the extended one, and
`_extended_default_value` evaluates every default written in SDL AGAIN in the extended type.  By name: the value
over the merged definitions. -/

/-- members of all extensions of `t`, appended in document order (the definition the extended type is built from) -/
def mergeExt (exts : List TypeDef) (t : TypeDef) : TypeDef :=
  (exts.filter (·.name == t.name)).foldl (fun acc e =>
    { acc with interfaces := acc.interfaces ++ e.interfaces, fields := acc.fields ++ e.fields, members := acc.members ++ e.members,
               values := acc.values ++ e.values, inputFields := acc.inputFields ++ e.inputFields }) t

/-- by-name view of the extended types -/
def Env.extended (env : Env) (exts : List TypeDef) : Env :=
  { findDef := fun n => (env.findDef n).map (mergeExt exts), findAdditional := env.findAdditional }

mutual
/-- does `value_from_ast(lit, ty)` over the extended types resolve the (lazily extended) type `hide`?  `_extract_input_object`
    reads `field.type` of every field that is given, and of every field that is neither given nor defaulted. -/
def touches (env : Env) (hide : String) : Nat → Lit → Ty → Bool
  | 0, _, _ => false
  | fuel+1, lit, ty =>
    match ty with
    | .nonNull t => (match lit with | .null => false | _ => touches env hide fuel lit t)
    | .list t =>
      match lit with
      | .null => false
      | .list items => touchesItems env hide fuel items t
      | _ => touches env hide fuel lit t
    | .named n =>
      match lit with
      | .obj fs =>
        match env.findAdditional n with
        | some _ => false
        | none =>
          match env.findDef n with
          | some d => if d.kind == .input then touchesFields env hide fuel fs d.inputFields else false
          | none => false
      | _ => false

def touchesItems (env : Env) (hide : String) : Nat → List Lit → Ty → Bool
  | 0, _, _ => false
  | _, [], _ => false
  | fuel+1, x :: xs, t => touches env hide fuel x t || touchesItems env hide fuel xs t

def touchesFields (env : Env) (hide : String) : Nat → List (String × Lit) → List InputValDef → Bool
  | 0, _, _ => false
  | _, _, [] => false
  | fuel+1, given, f :: fs =>
    (match lookupLast given f.name with
      | some l => f.type.base == hide || touches env hide fuel l f.type
      | none => match f.default with | some _ => false | none => f.type.base == hide)
    || touchesFields env hide fuel given fs
end

/-- `extend_type` raises on a type whose extension is in progress.  The fields of an input type are extended eagerly,
    with the type itself in progress: `hideFor` is that type (none for the other kinds, whose members are extended
    when no input type is in progress) -/
def hideFor (kind : Kind) (name : String) : Option String :=
  if kind == .input then some name else none

/-- the evaluation of `lit` at `ty` in the extended types needs the type in progress -/
def needsHidden (eX : Env) (hide : Option String) (lit : Lit) (ty : Ty) : Bool :=
  match hide with
  | none => false
  | some h => ty.base == h || touches eX h coerceFuel lit ty

/-- the value of a default literal after extension: its value in the extended types; a literal that is no longer a
    value there (an extension added a required input field …) makes the document invalid (fix C11-H3-6).  Only a
    default whose evaluation needs the input type in progress keeps its value over the un-extended types. -/
def defaultValueX (eB eX : Env) (hide : Option String) (lit : Lit) (ty : Ty) : R J :=
  if needsHidden eX hide lit ty then defaultValue eB lit ty else defaultValue eX lit ty

def buildArgumentX (eB eX : Env) (hide : Option String) (a : InputValDef) : R ArgD := do
  checkRef eB a.type
  match a.default with
  | none => pure { name := a.name, type := a.type, desc := a.desc }
  | some l => do
    let v ← defaultValueX eB eX hide l a.type
    pure { name := a.name, type := a.type, hasDefault := true, default := v, desc := a.desc }

def buildFieldX (eB eX : Env) (hide : Option String) (f : FieldDef) : R FieldD := do
  checkRef eB f.type
  let args ← f.args.mapM (buildArgumentX eB eX hide)
  let r ← deprecationReason f.dirs
  pure { name := f.name, type := f.type, args := args, deprecated := fieldDeprecation r, desc := f.desc }

def buildTypeDefX (eB eX : Env) (hide : Option String) (d : TypeDef) : R TypeD := do
  match d.kind with
  | .scalar => pure { kind := .scalar, name := d.name, desc := d.desc }
  | .object => do
    let fs ← d.fields.mapM (buildFieldX eB eX hide)
    checkNames eB d.interfaces
    pure { kind := .object, name := d.name, desc := d.desc, interfaces := d.interfaces, fields := fs }
  | .interface => do
    let fs ← d.fields.mapM (buildFieldX eB eX hide)
    pure { kind := .interface, name := d.name, desc := d.desc, fields := fs }
  | .union => do
    checkNames eB d.members
    pure { kind := .union, name := d.name, desc := d.desc, members := d.members }
  | .enum => do
    failIf (hasDup (d.values.map (·.name))) (.lib .sdl)
    let vs ← d.values.mapM buildEnumValue
    pure { kind := .enum, name := d.name, desc := d.desc, values := vs }
  | .input => do
    let fs ← d.inputFields.mapM (buildArgumentX eB eX hide)
    pure { kind := .input, name := d.name, desc := d.desc, inputFields := fs }

def buildDirectiveX (eB eX : Env) (d : DirDef) : R DirectiveD := do
  let args ← d.args.mapM (buildArgumentX eB eX none)
  pure { name := d.name, locations := d.locations, args := args, desc := d.desc }

/-- `_extend_<kind>_type`: every extension must be of the live type's kind; members are merged in document order;
    a new member is built against the types visible BEFORE extension, with the retry of `_default_value` -/
def extendTypeX (eB eX : Env) (hide : Option String) (exts : List TypeDef) (t : TypeD) : R TypeD := do
  let mine := exts.filter (·.name == t.name)
  failIf (mine.any (fun e => e.kind != t.kind)) (.lib .ext)
  match t.kind with
  | .scalar => pure t
  | .object => do
    let fs ← mine.foldlM (fun acc e => do
      let new ← e.fields.mapM (buildFieldX eB eX hide)
      appendNew (.lib .ext) (·.name) acc new) t.fields
    let is ← mine.foldlM (fun acc e => do
      checkNames eB e.interfaces
      appendNew (.lib .ext) id acc e.interfaces) t.interfaces
    pure { t with fields := fs, interfaces := is }
  | .interface => do
    let fs ← mine.foldlM (fun acc e => do
      let new ← e.fields.mapM (buildFieldX eB eX hide)
      appendNew (.lib .ext) (·.name) acc new) t.fields
    pure { t with fields := fs }
  | .union => do
    let ms ← mine.foldlM (fun acc e => do
      checkNames eB e.members
      appendNew (.lib .ext) id acc e.members) t.members
    pure { t with members := ms }
  | .enum => do
    let vs ← mine.foldlM (fun acc e => do
      let new ← e.values.mapM buildEnumValue
      appendNew (.lib .ext) (·.name) acc new) t.values
    pure { t with values := vs }
  | .input => do
    let fs ← mine.foldlM (fun acc e => do
      let new ← e.inputFields.mapM (buildArgumentX eB eX hide)
      appendNew (.lib .ext) (·.name) acc new) t.inputFields
    pure { t with inputFields := fs }

/-- the extended type registered in the new schema: a type of the document is the type of its merged definition
    with every default literal evaluated again (`_extended_default_value`); a supplied type keeps its values -/
def reDefault (eB eX : Env) (hide : Option String) (exts : List TypeDef) (t : TypeD) : R TypeD :=
  match eB.findAdditional t.name, eB.findDef t.name with
  | none, some d => buildTypeDefX eB eX hide (mergeExt exts d)
  | _, _ => pure t

def directiveDefs (doc : Doc) : List DirDef := doc.filterMap fun | .directive d => some d | _ => none

/-- `extend_directive`: argument defaults are evaluated again in the extended types -/
def reDefaultDirective (eB eX : Env) (doc : Doc) (d : DirectiveD) : R DirectiveD :=
  match (directiveDefs doc).find? (·.name == d.name) with
  | some dd => buildDirectiveX eB eX dd
  | none => pure d

/-- `extend_schema(schema, ast, strict=False)` as called by `build_schema` -/
def extendSchema (env : Env) (live : Live) (doc : Doc) (additional : List TypeD := []) : R Live := do
  let texts := typeExtensions live doc
  let sexts := schemaExtensions doc
  if texts.isEmpty && sexts.isEmpty then pure live
  else do
    -- the new builder sees the built types (`additional_types = {**schema.types, …}`): by name these are
    -- the definitions and the supplied types again, i.e. `env`
    -- a specified type is never extended, but an extension of a different KIND is still an error (fix C11-7)
    failIf (texts.any (fun e => isDefaultName e.name && e.kind != builtinKind e.name)) (.lib .ext)
    let envX := env.extended texts
    let checked ← live.types.mapM (fun t => extendTypeX env envX (hideFor t.kind t.name) texts t)
    let types ← checked.mapM (fun t => reDefault env envX (hideFor t.kind t.name) texts t)
    let dirs ← live.directives.mapM (reDefaultDirective env envX doc)
    failIf (hasEagerCycle types) (.lib .sdl)               -- circular-reference guard of extend_type
    let roots ← sexts.foldlM (fun r se => addOps (fun n => isDefaultName n || types.any (·.name == n)) (.lib .ext) r se.ops) live.roots
    -- supplied types referenced only from extension blocks are registered through the closure of the new schema
    pure { live with types := types ++ referencedAdditional additional types dirs roots, directives := dirs, roots := roots }

/-! ### `build_schema` (without the final `schema.validate()`) -/

def toSchemaD (l : Live) : SchemaD :=
  { types := l.types, directives := l.directives, query := l.roots.query, mutation := l.roots.mutation,
    subscription := l.roots.subscription }

def build (doc : Doc) (ignoreExtensions : Bool := false) (additional : List TypeD := []) : R SchemaD := do
  let (env, live) ← buildIgnoringExtensions doc additional
  if ignoreExtensions then pure (toSchemaD live)
  else do
    let live' ← extendSchema env live doc additional
    pure (toSchemaD live')

end PyGql.Sdl
