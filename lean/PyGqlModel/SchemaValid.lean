/-
  C13 — model of `py_gql.schema.validation.SchemaValidator` (method by method), of the
  covariance check `Schema.is_subtype` (step functional TRANSLATED from the source on every run,
  `Generated/Subtype.lean`, closed here with fuel) and of the `Schema._is_valid` cache as a
  state machine.

  The schema is the shared by-name description `SchemaD`, dumped from the live object with
  `dump_schema(schema, include_builtin=True, resolvers=True)`: `s.types` is `schema.types.values()`
  in registry order (specified scalars and introspection types included, flagged `builtin`),
  resolvers are data (`ResolverD` = `inspect.signature`).

  The model follows the code of /repo, which has fix C13-S4-S6 (`proposed_fixes/C13-S4-S6.patch`)
  (an implemented type must be an interface; input field names are checked).
-/
import PyGqlModel.SchemaDesc
import PyGqlModel.Generated.Subtype
import PyGqlModel.Generated.SchemaValidTables

namespace PyGql.SchemaValid
open PyGql PyGql.Generated.Subtype PyGql.Generated.SchemaValidTables

/-- one `add_error` call site (format string) of `SchemaValidator` -/
inductive Rule where
  | invalidName | invalidTypeName
  | noQuery | queryNotObject | mutationNotObject | subscriptionNotObject
  | dirDupArg | dirArgNotInput
  | noFields | dupField | fieldNotOutput | dupArg | argNotInput
  | resMissingParam | resPosOnly | resNeedsDefault | resPositional | resExtraRequired | resCollides | resNotCallable
  | argDefault | dirArgDefault | inputFieldDefault | enumValueNone
  | notInterface | dupInterface | ifaceFieldMissing | ifaceFieldType | ifaceArgMissing | ifaceArgType
  | extraRequiredArg
  | unionEmpty | unionMemberNotObject | unionDup
  | enumEmpty
  | inputFieldNotInput
  deriving DecidableEq, Repr, Inhabited

def Rule.id : Rule → String
  | .invalidName => "invalidName" | .invalidTypeName => "invalidTypeName"
  | .noQuery => "noQuery" | .queryNotObject => "queryNotObject" | .mutationNotObject => "mutationNotObject"
  | .subscriptionNotObject => "subscriptionNotObject"
  | .dirDupArg => "dirDupArg" | .dirArgNotInput => "dirArgNotInput"
  | .noFields => "noFields" | .dupField => "dupField" | .fieldNotOutput => "fieldNotOutput"
  | .dupArg => "dupArg" | .argNotInput => "argNotInput"
  | .resMissingParam => "resMissingParam" | .resPosOnly => "resPosOnly" | .resNeedsDefault => "resNeedsDefault"
  | .resPositional => "resPositional" | .resExtraRequired => "resExtraRequired" | .resCollides => "resCollides" | .resNotCallable => "resNotCallable"
  | .argDefault => "argDefault" | .dirArgDefault => "dirArgDefault" | .inputFieldDefault => "inputFieldDefault"
  | .enumValueNone => "enumValueNone"
  | .notInterface => "notInterface" | .dupInterface => "dupInterface"
  | .ifaceFieldMissing => "ifaceFieldMissing" | .ifaceFieldType => "ifaceFieldType"
  | .ifaceArgMissing => "ifaceArgMissing" | .ifaceArgType => "ifaceArgType"
  | .extraRequiredArg => "extraRequiredArg"
  | .unionEmpty => "unionEmpty" | .unionMemberNotObject => "unionMemberNotObject" | .unionDup => "unionDup"
  | .enumEmpty => "enumEmpty" | .inputFieldNotInput => "inputFieldNotInput"

def Rule.all : List Rule :=
  [.invalidName, .invalidTypeName, .noQuery, .queryNotObject, .mutationNotObject, .subscriptionNotObject,
   .dirDupArg, .dirArgNotInput, .noFields, .dupField, .fieldNotOutput, .dupArg, .argNotInput,
   .resMissingParam, .resPosOnly, .resNeedsDefault, .resPositional, .resExtraRequired, .resCollides, .resNotCallable, .argDefault, .dirArgDefault, .inputFieldDefault, .enumValueNone,
   .notInterface, .dupInterface, .ifaceFieldMissing, .ifaceFieldType, .ifaceArgMissing, .ifaceArgType,
   .extraRequiredArg, .unionEmpty, .unionMemberNotObject, .unionDup, .enumEmpty, .inputFieldNotInput]

/-- an error: the call site and the operands of its format string (the *subject*), in order -/
structure Err where
  rule : Rule
  args : List String
  deriving DecidableEq, Repr, Inhabited

/-! ### `_is_valid_name` / `VALID_NAME_RE` (character classes extracted from the compiled pattern) -/

/-- `VALID_NAME_RE.match` on code points. Python's `$` also matches before one trailing newline
    (`nameDollarQuirk`, extracted: false once the pattern ends with `\\Z`). -/
def matchName (cs : List Nat) : Bool :=
  !(nameForbiddenPrefix.isPrefixOf cs) &&
  match cs with
  | [] => false
  | c :: rest =>
    nameStart c && (if nameDollarQuirk && rest.getLast? == some 10 then rest.dropLast else rest).all nameCont

def isValidName (n : String) : Bool := matchName (n.toList.map Char.toNat)

def checkValidName (n : String) : List Err :=
  if isValidName n then [] else [⟨.invalidName, [n]⟩]

/-! ### lookups (`schema.types[...]`, `isinstance`) -/

def kindOf (s : SchemaD) (n : String) : Option Kind := (s.findType n).map (·.kind)

/-- `is_input_type` -/
def isInputType (s : SchemaD) (t : Ty) : Bool :=
  match kindOf s t.base with
  | some .scalar => true | some .enum => true | some .input => true | _ => false

/-- `is_output_type` -/
def isOutputType (s : SchemaD) (t : Ty) : Bool :=
  match kindOf s t.base with
  | some .scalar => true | some .enum => true | some .object => true
  | some .interface => true | some .union => true | _ => false

/-- `field_map` / `argument_map`: a dict comprehension — the LAST entry of a name wins -/
def lastNamed {α} (name : α → String) (xs : List α) (n : String) : Option α :=
  xs.reverse.find? (fun x => name x == n)

def fieldMap (t : TypeD) (n : String) : Option FieldD := lastNamed (·.name) t.fields n
def argMap (f : FieldD) (n : String) : Option ArgD := lastNamed (·.name) f.args n

/-! ### `Schema.is_subtype` (translated) closed with fuel -/

/-- `isinstance(t, GraphQLAbstractType)` -/
def isAbstractTy (s : SchemaD) : Ty → Bool
  | .named n => kindOf s n == some .interface || kindOf s n == some .union
  | _ => false

/-- `isinstance(t, ObjectType)` -/
def isObjectTy (s : SchemaD) : Ty → Bool
  | .named n => kindOf s n == some .object
  | _ => false

/-- `Schema.is_possible_type(abstract, t)`: `t` is an object type and is in `get_possible_types(abstract)`
    (union: its members; interface: `implementations[name]` = object types listing that name). -/
def isPossibleType (s : SchemaD) : Ty → Ty → Bool
  | .named a, .named o =>
    match s.findType a, s.findType o with
    | some at_, some ot =>
      ot.kind == .object &&
        (match at_.kind with
         | .union => at_.members.contains o
         | .interface => ot.interfaces.contains a
         | _ => false)
    | _, _ => false
  | _, _ => false

def subIter (s : SchemaD) : Nat → Ty → Ty → Bool
  | 0 => fun _ _ => false
  | n+1 => isSubtypeStep (isAbstractTy s) (isObjectTy s) (isPossibleType s) (subIter s n)

/-- `schema.is_subtype(type_, super_type)` -/
def isSubtype (s : SchemaD) (a b : Ty) : Bool := subIter s (a.size + b.size) a b

/-! ### the loop shape `for x in xs: … if key in seen: …; continue … seen.add(key)` -/

/-- `step x dup` = (errors of this iteration, whether `key x` is added to `seen`); `dup` says
    whether `key x` is already in `seen`. -/
def forSeen {α} (key : α → String) (step : α → Bool → List Err × Bool) : List α → List String → List Err
  | [], _ => []
  | x :: xs, seen =>
    (step x (seen.contains (key x))).1 ++
      forSeen key step xs (if (step x (seen.contains (key x))).2 then key x :: seen else seen)

/-! ### the shape of the validator (decisions of the code, re-extracted from the source on every run) -/

structure Config where
  /-- `continue` after "Invalid type name": the members of the type are not examined -/
  maskTypeName : Bool
  /-- `continue` after a duplicate field / argument / input field / directive argument -/
  maskDuplicate : Bool
  /-- `continue` after a non-covariant interface field type: its argument checks are skipped -/
  maskImplType : Bool
  /-- the resolver-signature rule follows the call `resolver(root, ctx, info, **arguments)` exactly -/
  preciseResolver : Bool
  /-- additional object field arguments are tested with `arg.required` (not `isinstance(arg.type, NonNullType)`) -/
  extraArgRequired : Bool
  /-- `field.subscription_resolver` goes through the resolver-signature rule -/
  subscriptionChecked : Bool
  /-- the resolver-signature rule is also applied to the fields of INTERFACE types (which are never resolved) -/
  ifaceResolverChecked : Bool
  /-- a non-callable object in a resolver slot is reported (before: accepted as "cannot be inspected") -/
  notCallableReported : Bool
  /-- declared default values are checked against the type of their position (fix C07-D1) -/
  defaultsChecked : Bool
  /-- an enum member whose internal value is `None` is reported (fix C13-HHH4) -/
  enumNoneReported : Bool
  deriving DecidableEq, Repr

/-- the tree with the fixes C13-H7, C13-H1-H2-H3-H9, C13-H4-H5-H6, C13-H8 (all in /repo: `currentConfig`) -/
def Config.fixed : Config := ⟨false, false, false, true, true, true, false, true, true, true⟩
/-- the tree before them -/
def Config.legacy : Config := ⟨true, true, true, false, false, false, true, false, false, false⟩

/-- what the source says today -/
def currentConfig : Config :=
  ⟨cfgMaskTypeName, cfgMaskDuplicate, cfgMaskImplType, cfgPreciseResolver, cfgExtraArgRequired, cfgSubscriptionChecked,
   cfgIfaceResolverChecked, cfgNotCallableReported, cfgDefaultsChecked, cfgEnumNoneReported⟩

/-! ### `SchemaValidator` methods -/

def rootErr (s : SchemaD) (rule : Rule) : Option String → List Err
  | none => []
  | some n => if kindOf s n == some .object then [] else [⟨rule, [n]⟩]

/-- `validate_root_types` -/
def validateRootTypes (s : SchemaD) : List Err :=
  (if s.query.isNone then [⟨.noQuery, []⟩] else []) ++
  rootErr s .queryNotObject s.query ++
  rootErr s .mutationNotObject s.mutation ++
  rootErr s .subscriptionNotObject s.subscription

/-! #### `_default_value_error`: a declared default (the Python value handed to resolvers, as canonical JSON)
    against the type of its position. Checked: no null under non-null (any depth), a list under a list type, a 32-bit
    integer (not a bool) under `Int`, one of the enum's own internal values under an enum, a mapping under an input
    object — only the values found under a field's python name. Other scalars are left alone. -/

/-- `value is None` -/
def isNone : J → Bool
  | .null => true
  | _ => false

def lookupKey (kvs : List (String × J)) (k : String) : Option J := (kvs.find? (·.1 == k)).map (·.2)

/-- `true` = `_default_value_error` returns a reason. Recursion on the VALUE (and the type wrappers): fuel. -/
def defaultBad (s : SchemaD) : Nat → Ty → J → Bool
  | 0, _, _ => false
  | n+1, .nonNull t, v => if isNone v then true else defaultBad s n t v
  | _+1, _, .null => false
  | n+1, .list t, v =>
    match v with
    | .arr xs => xs.any (defaultBad s n t)
    | _ => true
  | n+1, .named nm, v =>
    match s.findType nm with
    | none => false
    | some td =>
      if td.kind == .scalar then
        (td.builtin && nm == "Int") &&
          (match v with
           | .num i => !(decide (-2147483648 ≤ i) && decide (i ≤ 2147483647))
           | _ => true)
      else if td.kind == .enum then !(td.values.any (·.value == v))
      else if td.kind == .input then
        match v with
        | .obj kvs => td.inputFields.any fun f =>
            match lookupKey kvs f.pythonName with
            | some x => defaultBad s n f.type x
            | none => false
        | _ => true
      else false

/-- nesting depth covered by the model (values generated and found in practice are far below) -/
def defaultFuel : Nat := 64

def defaultErr (c : Config) (s : SchemaD) (rule : Rule) (owner : String) (a : ArgD) : List Err :=
  if c.defaultsChecked && a.hasDefault && defaultBad s defaultFuel a.type a.default then [⟨rule, [a.name, owner]⟩] else []

/-- `if not is_input_type(..): error  elif has_default_value: default check` -/
def notInputErr (c : Config) (s : SchemaD) (rule defRule : Rule) (owner : String) (a : ArgD) : List Err :=
  if isInputType s a.type then defaultErr c s defRule owner a else [⟨rule, [a.name, owner, a.type.render]⟩]

/-- the argument loop shared (textually duplicated in the source) by `validate_directives` and
    `validate_fields` -/
def validateArgumentsWith (c : Config) (s : SchemaD) (dupRule notInputRule defRule : Rule) (owner : String) (args : List ArgD) : List Err :=
  forSeen (·.name) (fun a dup =>
    (checkValidName a.name ++
      (if dup then [⟨dupRule, [a.name, owner]⟩] else []) ++
      (if dup && c.maskDuplicate then [] else notInputErr c s notInputRule defRule owner a), true))
    args []

/-- `validate_directives` -/
def validateDirectivesWith (c : Config) (s : SchemaD) : List Err :=
  s.directives.flatMap fun d =>
    checkValidName d.name ++ validateArgumentsWith c s .dirDupArg .dirArgNotInput .dirArgDefault d.name d.args

/-- `arg.required` -/
def argRequired (a : ArgD) : Bool := a.type.isNonNull && !a.hasDefault

def findParam (ps : List ParamD) (n : String) : Option ParamD := ps.find? (·.name == n)

def isVarKind (k : ParamKind) : Bool := k == .varPos || k == .varKw
def isPositionalKind (k : ParamKind) : Bool := k == .posOnly || k == .posOrKw

/-! #### legacy resolver-signature rule (before fix C13-H1-H2-H3-H9) -/

def resolverArgErrLegacy (path : String) (params : List ParamD) (varKw : Bool) (a : ArgD) : List Err :=
  match findParam params a.pythonName with
  | none => if varKw then [] else [⟨.resMissingParam, [a.name, path]⟩]
  | some p =>
    if p.kind == .posOnly then [⟨.resPosOnly, [a.name, path]⟩]
    else if !p.hasDefault && !a.hasDefault && !argRequired a then [⟨.resNeedsDefault, [a.name, path]⟩]
    else []

def remainingParams (params : List ParamD) (args : List ArgD) : List ParamD :=
  params.filter fun p => !(args.map (·.pythonName)).contains p.name && !isVarKind p.kind

def resolverErrsLegacy (path : String) (args : List ArgD) (r : ResolverD) : List Err :=
  args.flatMap (resolverArgErrLegacy path r.params (r.params.any (·.kind == .varKw))) ++
  (if !r.params.any (·.kind == .varPos) &&
      ((remainingParams r.params args).filter (fun p => isPositionalKind p.kind)).length < 3
   then [⟨.resPositional, [path]⟩] else []) ++
  ((remainingParams r.params args).drop 3).flatMap fun p =>
    if p.hasDefault then [] else [⟨.resExtraRequired, [p.name, path]⟩]

/-! #### the resolver-signature rule, following the call `resolver(root, ctx, info, **arguments)` -/

/-- `positional_params` -/
def positionalParams (ps : List ParamD) : List ParamD := ps.filter fun p => isPositionalKind p.kind
/-- names of `leading_params`: the parameters that receive `(root, ctx, info)` -/
def leadingNames (ps : List ParamD) : List String := ((positionalParams ps).take 3).map (·.name)

/-- `keyword_params.get(name)`: the parameter that receives the argument passed by keyword -/
def keywordParam (ps : List ParamD) (n : String) : Option ParamD :=
  ps.find? fun p => p.name == n && (p.kind == .posOrKw || p.kind == .kwOnly) && !(leadingNames ps).contains p.name

def resolverArgErr (path : String) (ps : List ParamD) (varKw : Bool) (a : ArgD) : List Err :=
  match keywordParam ps a.pythonName with
  | some p =>
    if !p.hasDefault && !a.hasDefault && !argRequired a then [⟨.resNeedsDefault, [a.name, path]⟩] else []
  | none =>
    match findParam ps a.pythonName with
    | some cl =>
      if (leadingNames ps).contains cl.name && cl.kind == .posOrKw then [⟨.resCollides, [a.name, path]⟩]
      else if cl.kind == .posOnly && !varKw then [⟨.resPosOnly, [a.name, path]⟩]
      else if !varKw then [⟨.resMissingParam, [a.name, path]⟩] else []
    | none => if !varKw then [⟨.resMissingParam, [a.name, path]⟩] else []

/-- `provided_param_names` -/
def providedNames (ps : List ParamD) (args : List ArgD) : List String :=
  args.filterMap fun a => (keywordParam ps a.pythonName).map (·.name)

/-- parameters that receive nothing from the call -/
def unfedParams (ps : List ParamD) (args : List ArgD) : List ParamD :=
  ps.filter fun p => !isVarKind p.kind && !(leadingNames ps).contains p.name && !(providedNames ps args).contains p.name

def resolverErrs (path : String) (args : List ArgD) (r : ResolverD) : List Err :=
  (if !r.params.any (·.kind == .varPos) && (positionalParams r.params).length < 3
   then [⟨.resPositional, [path]⟩] else []) ++
  args.flatMap (resolverArgErr path r.params (r.params.any (·.kind == .varKw))) ++
  (unfedParams r.params args).flatMap fun p =>
    if p.hasDefault then [] else [⟨.resExtraRequired, [p.name, path]⟩]

/-- `_validate_resolver_arguments` -/
def validateResolverArgumentsWith (c : Config) (path : String) (args : List ArgD) (r : ResolverD) : List Err :=
  if !r.callable then (if c.notCallableReported then [⟨.resNotCallable, [path]⟩] else []) else
  if !r.inspectable then [] else
  if c.preciseResolver then resolverErrs path args r else resolverErrsLegacy path args r

/-- `field.resolver or (composite_type.default_resolver if ObjectType) or schema.default_resolver` -/
def pickResolver (s : SchemaD) (t : TypeD) (f : FieldD) : Option ResolverD :=
  f.resolver <|> (if t.kind == .object then t.defaultResolver else none) <|> s.defaultResolver

def resolverPart (c : Config) (rv : Bool) (path : String) (args : List ArgD) : Option ResolverD → List Err
  | some r => if rv then validateResolverArgumentsWith c path args r else []
  | none => []

/-- the resolver and the subscription resolver of a field against its arguments -/
def resolversOfField (c : Config) (s : SchemaD) (rv : Bool) (t : TypeD) (f : FieldD) : List Err :=
  resolverPart c rv (t.name ++ "." ++ f.name) f.args (pickResolver s t f) ++
  (if c.subscriptionChecked then resolverPart c rv (t.name ++ "." ++ f.name) f.args f.subscriptionResolver else [])

def fieldBodyWith (c : Config) (s : SchemaD) (rv : Bool) (t : TypeD) (f : FieldD) : List Err :=
  (if isOutputType s f.type then [] else [⟨.fieldNotOutput, [f.name, t.name, f.type.render]⟩]) ++
  validateArgumentsWith c s .dupArg .argNotInput .argDefault (t.name ++ "." ++ f.name) f.args ++
  (if t.kind == .object || c.ifaceResolverChecked then resolversOfField c s rv t f else [])

/-- `validate_fields` -/
def validateFieldsWith (c : Config) (s : SchemaD) (rv : Bool) (t : TypeD) : List Err :=
  (if t.fields.isEmpty then [⟨.noFields, [t.name]⟩] else []) ++
  forSeen (·.name) (fun f dup =>
    (checkValidName f.name ++ (if dup then [⟨.dupField, [f.name, t.name]⟩] else []) ++
      (if dup && c.maskDuplicate then [] else fieldBodyWith c s rv t f), true))
    t.fields []

def ifaceArgErr (ipath opath : String) (objField : FieldD) (a : ArgD) : List Err :=
  match argMap objField a.name with
  | none => [⟨.ifaceArgMissing, [ipath, a.name, opath]⟩]
  | some oa =>
    if a.type != oa.type then
      [⟨.ifaceArgType, [ipath, a.name, a.type.render, opath, a.name, oa.type.render]⟩]
    else []

/-- "must not be required": `arg.required` with fix C13-H7, `isinstance(arg.type, NonNullType)` before -/
def extraArgBlocks (c : Config) (a : ArgD) : Bool :=
  if c.extraArgRequired then argRequired a else a.type.isNonNull

def extraArgErrWith (c : Config) (ipath opath : String) (ifaceField : FieldD) (a : ArgD) : List Err :=
  match argMap ifaceField a.name with
  | none => if extraArgBlocks c a then [⟨.extraRequiredArg, [opath, a.name, a.type.render, ipath]⟩] else []
  | some _ => []

def implArgErrsWith (c : Config) (t it : TypeD) (f objField : FieldD) : List Err :=
  f.args.flatMap (ifaceArgErr (it.name ++ "." ++ f.name) (t.name ++ "." ++ f.name) objField) ++
  objField.args.flatMap (extraArgErrWith c (it.name ++ "." ++ f.name) (t.name ++ "." ++ f.name) f)

def implFieldErrWith (c : Config) (s : SchemaD) (t it : TypeD) (f : FieldD) : List Err :=
  match fieldMap t f.name with
  | none => [⟨.ifaceFieldMissing, [it.name ++ "." ++ f.name, t.name]⟩]
  | some objField =>
    (if !isSubtype s objField.type f.type then
      [⟨.ifaceFieldType, [it.name ++ "." ++ f.name, f.type.render, t.name ++ "." ++ f.name, objField.type.render]⟩]
     else []) ++
    (if !isSubtype s objField.type f.type && c.maskImplType then [] else implArgErrsWith c t it f objField)

/-- `validate_implementation` -/
def validateImplementationWith (c : Config) (s : SchemaD) (t it : TypeD) : List Err :=
  it.fields.flatMap (implFieldErrWith c s t it)

def interfaceStepWith (c : Config) (s : SchemaD) (t : TypeD) (iname : String) (dup : Bool) : List Err × Bool :=
  match s.findType iname with
  | none => ([⟨.notInterface, [t.name, iname]⟩], false)
  | some it =>
    if it.kind != .interface then ([⟨.notInterface, [t.name, iname]⟩], false)
    else if dup then ([⟨.dupInterface, [t.name, iname]⟩], false)
    else (validateImplementationWith c s t it, true)

/-- `validate_interfaces` -/
def validateInterfacesWith (c : Config) (s : SchemaD) (t : TypeD) : List Err :=
  forSeen id (interfaceStepWith c s t) t.interfaces []

def memberStep (s : SchemaD) (t : TypeD) (m : String) (dup : Bool) : List Err × Bool :=
  if kindOf s m != some .object then ([⟨.unionMemberNotObject, [t.name, m]⟩], false)
  else ((if dup then [⟨.unionDup, [t.name, m]⟩] else []), true)

/-- `validate_union_members` -/
def validateUnionMembers (s : SchemaD) (t : TypeD) : List Err :=
  (if t.members.isEmpty then [⟨.unionEmpty, [t.name]⟩] else []) ++
  forSeen id (memberStep s t) t.members []

/-- `validate_enum_values` -/
def validateEnumValuesWith (c : Config) (t : TypeD) : List Err :=
  (if t.values.isEmpty then [⟨.enumEmpty, [t.name]⟩] else []) ++
  t.values.flatMap fun v => checkValidName v.name ++
    (if c.enumNoneReported && isNone v.value then [⟨.enumValueNone, [t.name, v.name]⟩] else [])

/-- `validate_input_fields` -/
def validateInputFieldsWith (c : Config) (s : SchemaD) (t : TypeD) : List Err :=
  (if t.inputFields.isEmpty then [⟨.noFields, [t.name]⟩] else []) ++
  forSeen (·.name) (fun f dup =>
    (checkValidName f.name ++ (if dup then [⟨.dupField, [f.name, t.name]⟩] else []) ++
      (if dup && c.maskDuplicate then [] else notInputErr c s .inputFieldNotInput .inputFieldDefault t.name f), true))
    t.inputFields []

def typeNameErr (t : TypeD) : List Err :=
  if t.builtin || isValidName t.name then [] else [⟨.invalidTypeName, [t.name]⟩]

def typeBodyWith (c : Config) (s : SchemaD) (rv : Bool) (t : TypeD) : List Err :=
  match t.kind with
  | .object => validateFieldsWith c s rv t ++ validateInterfacesWith c s t
  | .interface => validateFieldsWith c s rv t
  | .union => validateUnionMembers s t
  | .enum => validateEnumValuesWith c t
  | .input => validateInputFieldsWith c s t
  | .scalar => []

/-- the body of the loop of `SchemaValidator.__call__` -/
def validateTypeWith (c : Config) (s : SchemaD) (rv : Bool) (t : TypeD) : List Err :=
  typeNameErr t ++ (if !(t.builtin || isValidName t.name) && c.maskTypeName then [] else typeBodyWith c s rv t)

/-- `SchemaValidator.__call__` : the errors, in the order they are added. `rv` = `enable_resolver_validation` -/
def validateWith (c : Config) (s : SchemaD) (rv : Bool) : List Err :=
  validateRootTypes s ++ s.types.flatMap (validateTypeWith c s rv) ++ validateDirectivesWith c s

/-- the validator of the tree under test -/
def validate (s : SchemaD) (rv : Bool := true) : List Err := validateWith currentConfig s rv

/-! the repaired validator (all fixes): what the theorems speak about once `currentConfig = Config.fixed` -/
abbrev validateArguments := validateArgumentsWith Config.fixed
abbrev validateDirectives := validateDirectivesWith Config.fixed
abbrev validateResolverArguments := validateResolverArgumentsWith Config.fixed
abbrev fieldBody := fieldBodyWith Config.fixed
abbrev validateFields := validateFieldsWith Config.fixed
abbrev extraArgErr := extraArgErrWith Config.fixed
abbrev implFieldErr := implFieldErrWith Config.fixed
abbrev validateImplementation := validateImplementationWith Config.fixed
abbrev interfaceStep := interfaceStepWith Config.fixed
abbrev validateInterfaces := validateInterfacesWith Config.fixed
abbrev validateInputFields := validateInputFieldsWith Config.fixed
abbrev validateEnumValues := validateEnumValuesWith Config.fixed
abbrev validateType := validateTypeWith Config.fixed
abbrev validateFixed := validateWith Config.fixed

/-- `validate_schema` does not raise -/
def accepts (s : SchemaD) : Bool := (validate s true).isEmpty

/-! ### the `_is_valid` cache as a state machine -/

/-- The cached verdict and what it stands for. In the code the verdict is stored next to a FINGERPRINT
    (`_validated_resolvers = _current_resolvers()`): the resolver callables of the schema, of every object / interface
    type and of every field, and the argument objects of every field, compared BY IDENTITY (`_same_objects`: `is`).
    The machine does not carry the fingerprint as data: every operation that (re)assigns a callable or an argument list
    says through its `same` / `seen` flag whether the object handed in IS the one the fingerprint holds, and the step
    function resets `isValid` exactly when it is not. This is faithful under ONE assumption, which the code meets
    because the fingerprint holds REFERENCES: a resolver identity recorded in the fingerprint stays alive as long as the
    state refers to it, so "another object" and "another identity" are the same thing. A fingerprint made of `id()`
    numbers would break the assumption (a dropped callable can be freed and an incompatible one allocated at the same
    address, seeded change C13-11): address reuse is OUTSIDE the model and is covered by the correspondence stream M
    (`address_reuse_case` in harness/corr/C13.py: drop, re-allocate until the address collides, assign, validate). -/
structure CacheState where
  schema : SchemaD
  /-- `_is_valid is True` (`false` = `None`; the code never stores `False`) AND the fingerprint is current -/
  isValid : Bool := false
  /-- keys of `ResolverMap.resolvers`, `.default_resolvers`, `.subscriptions` -/
  regResolvers : List (String × String) := []
  regDefaults : List String := []
  regSubs : List (String × String) := []
  deriving Repr, Inhabited

/-- `same`: the callable passed is the very object already set (`is`) -/
inductive Op where
  | validate
  | registerResolver (typename fieldname : String) (r : ResolverD) (allowOverride same : Bool)
  | registerDefaultResolver (typename : String) (r : ResolverD) (allowOverride : Bool)
  | registerSubscription (typename fieldname : String) (r : ResolverD) (allowOverride same : Bool)
  /-- plain assignment (documented): `schema.default_resolver = f` (level 0), `schema.types[T].default_resolver = f`
      (1), `field.resolver = f` (2), `field.subscription_resolver = f` (3); `same`: the very object already there -/
  | assignResolver (level : Nat) (typename fieldname : String) (r : ResolverD) (same : Bool)
  /-- plain assignment `field.arguments = [...]` (new Argument objects) -/
  | assignArguments (typename fieldname : String) (args : List ArgD)
  /-- `_replace_types_and_directives(types={name: new | None}, directives={name: new | None})`, entries in
      dict order; the flag says the new object IS the registered one (`new_type != original_type` is
      identity; for directives `new is directives.get(name)`). `healed`: the description after
      `fix_type_references` when a deletion made it remove members (only exercised, taken from the live object). -/
  | replaceTypes (entries : List (String × Option TypeD × Bool))
      (dirEntries : List (String × Option DirectiveD × Bool) := []) (healed : Option SchemaD := none)
  /-- the remaining public setters of types.py / schema.py, which change the STRUCTURE by plain assignment:
      `Field.type`, `InputValue.type`, `InputValue.default_value` (set / del), `fields` (object, interface, input
      object), `ObjectType.interfaces`, `UnionType.types`, the `type` of a list / non-null wrapper, `name`,
      `Schema.query_type` ...: the description becomes `s'`. `seen`: the assignment changes the tuple
      `Schema._current_resolvers()` that `validate()` compares by identity (resolver callables; per field of an object
      / interface type its argument objects with their `python_name`, `has_default_value` and `type` object; the NUMBER
      of fields and of such types) - only then is the verdict recomputed. -/
  | assignStructure (s' : SchemaD) (seen : Bool)
  deriving Repr, Inhabited

inductive Outcome where
  | ok | validationError | unknownType | schemaError | valueError
  deriving DecidableEq, Repr, Inhabited

def Outcome.id : Outcome → String
  | .ok => "ok" | .validationError => "SchemaValidationError" | .unknownType => "UnknownType"
  | .schemaError => "SchemaError" | .valueError => "ValueError"

def setFieldResolver (s : SchemaD) (tn fn : String) (r : ResolverD) : SchemaD :=
  { s with types := s.types.map fun t =>
      if t.name == tn then { t with fields := t.fields.map fun f =>
        -- `field_map[fieldname]` is the last field of that name; names are unique in practice
        if f.name == fn then { f with resolver := some r } else f } else t }

def setFieldSubscription (s : SchemaD) (tn fn : String) (r : ResolverD) : SchemaD :=
  { s with types := s.types.map fun t =>
      if t.name == tn then { t with fields := t.fields.map fun f =>
        if f.name == fn then { f with subscriptionResolver := some r } else f } else t }

def setFieldArgs (s : SchemaD) (tn fn : String) (args : List ArgD) : SchemaD :=
  { s with types := s.types.map fun t =>
      if t.name == tn then { t with fields := t.fields.map fun f =>
        if f.name == fn then { f with args := args } else f } else t }

def setDefaultResolver (s : SchemaD) (tn : String) (r : ResolverD) : SchemaD :=
  { s with types := s.types.map fun t => if t.name == tn then { t with defaultResolver := some r } else t }

/-- `Schema.register_default_resolver` -/
def registerDefault (st : CacheState) (tn : String) (r : ResolverD) (allow : Bool) : CacheState × Outcome :=
  if st.regDefaults.contains tn && !allow then (st, .valueError) else
  let st1 := { st with regDefaults := tn :: st.regDefaults }
  match st.schema.findType tn with
  | none => (st1, .unknownType)
  | some t =>
    if t.kind != .object then (st1, .schemaError)
    else if t.defaultResolver.isSome && !allow then (st1, .valueError)
    else ({ st1 with schema := setDefaultResolver st.schema tn r, isValid := false }, .ok)

/-- `_replace_types_and_directives`, the loop over `types`. `acc`: `busted_cache = busted_cache or …`
    (the extracted `replaceAccumulates`; `false` is the legacy variant where every entry overwrites the flag).
    An error leaves the earlier replacements in place. Returns (types, busted, raised). -/
def applyReplace (acc : Bool) (types : List TypeD) (busted : Bool) :
    List (String × Option TypeD × Bool) → List TypeD × Bool × Bool
  | [] => (types, busted, false)
  | (n, new?, same) :: rest =>
    match types.find? (·.name == n) with
    | none => applyReplace acc types busted rest
    | some orig =>
      if orig.builtin then (types, busted, true)
      else
        match new? with
        | none => applyReplace acc (types.filter fun t => !(t.name == n)) ((acc && busted) || !same) rest
        | some new =>
          if orig.kind != new.kind then (types, (acc && busted) || !same, true)
          else applyReplace acc (types.map fun t => if t.name == n then new else t) ((acc && busted) || !same) rest

/-- the refusals of the type loop, evaluated before anything is replaced (fix C13-T3b) -/
def precheckTypes (types : List TypeD) (entries : List (String × Option TypeD × Bool)) : Bool :=
  entries.any fun e =>
    match types.find? (·.name == e.1) with
    | none => false
    | some orig => orig.builtin || (match e.2.1 with | none => false | some new => orig.kind != new.kind)

def precheckDirectives (dirs : List DirectiveD) (entries : List (String × Option DirectiveD × Bool)) : Bool :=
  entries.any fun e => specifiedDirectives.contains e.1 && (dirs.any (·.name == e.1))

/-- the loop over `directives`: (directives, busted, raised). `bust`: the extracted `replaceDirectivesBust`. -/
def applyDirReplace (bust : Bool) (dirs : List DirectiveD) (busted : Bool) :
    List (String × Option DirectiveD × Bool) → List DirectiveD × Bool × Bool
  | [] => (dirs, busted, false)
  | (n, new?, same) :: rest =>
    if specifiedDirectives.contains n && dirs.any (·.name == n) then (dirs, busted, true)
    else
      match new? with
      | none => applyDirReplace bust (dirs.filter fun d => !(d.name == n)) (busted || (bust && !same)) rest
      | some new =>
        applyDirReplace bust
          (if dirs.any (·.name == n) then dirs.map (fun d => if d.name == n then new else d) else dirs ++ [new])
          (busted || (bust && !same)) rest

/-- root types are looked up again by name (`self.types.get(self.query_type.name)`) -/
def relookRoot (types : List TypeD) (r : Option String) : Option String :=
  r.bind fun n => if types.any (·.name == n) then some n else none

def replaced (s : SchemaD) (types : List TypeD) (dirs : List DirectiveD) : SchemaD :=
  { s with
    types := types
    directives := dirs
    query := relookRoot types s.query
    mutation := relookRoot types s.mutation
    subscription := relookRoot types s.subscription }

/-- `_replace_types_and_directives` with the three extracted shape flags -/
def replaceStep (acc atomic dbust : Bool) (st : CacheState) (entries : List (String × Option TypeD × Bool))
    (dirEntries : List (String × Option DirectiveD × Bool)) (healed : Option SchemaD) : CacheState × Outcome :=
  if atomic && (precheckTypes st.schema.types entries || precheckDirectives st.schema.directives dirEntries) then
    (st, .schemaError)
  else
    match applyReplace acc st.schema.types false entries with
    | (types, _, true) => ({ st with schema := { st.schema with types := types } }, .schemaError)
    | (types, busted, false) =>
      match applyDirReplace dbust st.schema.directives busted dirEntries with
      | (dirs, _, true) =>
        ({ st with schema := { st.schema with types := types, directives := dirs } }, .schemaError)
      | (dirs, busted2, false) =>
        let s1 : SchemaD := replaced st.schema types dirs
        if busted2 then ({ st with schema := healed.getD s1, isValid := false }, .ok)
        else ({ st with schema := s1 }, .ok)

/-- a structural plain assignment (`field.type = T`, `union.types = [...]`, `type.name = n`, `schema.query_type = T`, ...):
    nothing but the `_current_resolvers()` comparison of `validate()` notices it. `tracks` = that comparison covers
    everything the validator reads (fix C13-S12): then EVERY such assignment makes the next `validate()` recompute;
    before the fix only the assignments the comparison happened to see (`seen`, probed on the live object). -/
def assignStructureStep (tracks : Bool) (st : CacheState) (s' : SchemaD) (seen : Bool) : CacheState × Outcome :=
  ({ st with schema := s', isValid := st.isValid && !(seen || tracks) }, .ok)

def step (st : CacheState) : Op → CacheState × Outcome
  | .validate =>
    if st.isValid then (st, .ok)
    else if (validate st.schema true).isEmpty then ({ st with isValid := true }, .ok)
    else (st, .validationError)
  | .registerDefaultResolver tn r allow => registerDefault st tn r allow
  | .registerResolver tn fn r allow same =>
    if fn == "*" then
      -- ResolverMap.register_resolver → self.register_default_resolver(typename, resolver)
      let (st1, o) := registerDefault st tn r false
      if o != .ok then (st1, o) else
      -- back in Schema.register_resolver: type lookups succeed, `fieldname == "*"` returns
      (st1, .ok)
    else if st.regResolvers.contains (tn, fn) && !allow then (st, .valueError) else
    let st1 := { st with regResolvers := (tn, fn) :: st.regResolvers }
    match st.schema.findType tn with
    | none => (st1, .unknownType)
    | some t =>
      if t.kind != .object then (st1, .schemaError) else
      match fieldMap t fn with
      | none => (st1, .schemaError)
      | some f =>
        if f.resolver.isSome && !allow && !same then (st1, .valueError)
        else ({ st1 with schema := setFieldResolver st.schema tn fn r, isValid := false }, .ok)
  | .registerSubscription tn fn r allow same =>
    if st.regSubs.contains (tn, fn) && !allow then (st, .valueError) else
    let st1 := { st with regSubs := (tn, fn) :: st.regSubs }
    match st.schema.findType tn with
    | none => (st1, .unknownType)
    | some t =>
      if t.kind != .object then (st1, .schemaError) else
      match fieldMap t fn with
      | none => (st1, .schemaError)
      | some f =>
        if f.subscriptionResolver.isSome && !allow && !same then (st1, .valueError)
        else ({ st1 with schema := setFieldSubscription st.schema tn fn r, isValid := false }, .ok)
  | .assignResolver level tn fn r same =>
    -- `validate()` compares the callables it validated with the current ones (fix C13-HH1): assigning another
    -- object makes the next `validate()` recompute; before the fix the cached verdict was kept
    if same then (st, .ok) else
    let s' : SchemaD :=
      match level with
      | 0 => { st.schema with defaultResolver := some r }
      | 1 => setDefaultResolver st.schema tn r
      | 2 => setFieldResolver st.schema tn fn r
      | _ => setFieldSubscription st.schema tn fn r
    ({ st with schema := s', isValid := st.isValid && !cfgCacheTracksAssignments }, .ok)
  | .assignArguments tn fn args =>
    -- the arguments of every field belong to what `validate()` compares (fix C13-HHH3)
    ({ st with schema := setFieldArgs st.schema tn fn args, isValid := st.isValid && !cfgCacheTracksArguments }, .ok)
  | .replaceTypes entries dirEntries healed =>
    replaceStep replaceAccumulates replaceAtomic replaceDirectivesBust st entries dirEntries healed
  | .assignStructure s' seen => assignStructureStep cfgCacheTracksStructure st s' seen

def run (st : CacheState) : List Op → CacheState
  | [] => st
  | op :: ops => run (step st op).1 ops

/-- outcomes of a history -/
def runTrace (st : CacheState) : List Op → List Outcome
  | [] => []
  | op :: ops => (step st op).2 :: runTrace (step st op).1 ops

end PyGql.SchemaValid
