/-
  C07 — MODEL of input coercion in py-gql, function by function:

    src/py_gql/utilities/coerce_value.py   coerce_value, _coerce_list_value, _coerce_input_object,
                                           coerce_variable_values, coerce_argument_values
    src/py_gql/utilities/value_from_ast.py value_from_ast, _extract_input_object, _extract_variable
    src/py_gql/schema/scalars.py           coerce_int, coerce_float, _parse_string, _parse_bool, _parse_id,
                                           _typed_coerce, default_scalar
    src/py_gql/schema/types.py             EnumType.get_value, InputValue (default / python_name)

  The model follows the code of /repo, which has the fixes C07-A1..A7.
  The Int range test and the literal kinds admitted by each `parse_literal` come from
  `Generated/Scalars.lean`, rewritten from the source on every run.

  Recursion (lists, recursive input objects resolved by name) takes fuel: one unit per call of
  `coerce_value` / `value_from_ast`, exactly as Python spends one stack frame.
  Import-free apart from other model files (the driver links this).
-/
import PyGqlModel.Ty
import PyGqlModel.Generated.Scalars
import PyGqlModel.PyNum

namespace PyGql.Coerce
open PyGql PyGql.Generated.Scalars PyGql.PyNum

/-! ### values -/

/-- A Python `float`, abstractly: where it came from. Floats never travel as numbers; the Python side
    compares canonical `repr`s (`float(text)`, `float(int)`, `float(bool)` are Python builtins: modelled,
    not verified). -/
inductive Flt where
  | text (s : String)
  | ofInt (n : Int)
  | ofBool (b : Bool)
  deriving DecidableEq, Repr, Inhabited

/-- what kind of IEEE value a Python float is (`f != f`, `f in (inf, -inf)`) -/
inductive FCls where
  | finite | inf | nan
  deriving DecidableEq, Repr, Inhabited

/-- Python values handed to resolvers (coerced values, declared defaults, enum internal values). -/
inductive PV where
  | none
  | bool (b : Bool)
  | int (n : Int)
  | float (f : Flt)
  | str (s : String)
  | list (l : List PV)
  | dict (kvs : List (String × PV))
  deriving Repr, Inhabited

def PV.isNone : PV → Bool | .none => true | _ => false

/-- JSON values of a request's `variables`. A float is its number lexeme (Python's `repr` of the double: `1.5`, `1e+16`,
    `-0.0`, `inf`, `nan`); what `int()` / `float()` / `is_integer()` make of strings and floats is computed by the lexeme
    model `PyNum`, not supplied from outside. -/
inductive JV where
  | null
  | bool (b : Bool)
  | int (n : Int)
  | float (text : String)
  | str (s : String)
  | list (l : List JV)
  | obj (kvs : List (String × JV))
  deriving Repr, Inhabited

def JV.isNull : JV → Bool | .null => true | _ => false

/-- GraphQL value literals (`IntValue` carries the integer its canonical text denotes, `FloatValue` its text:
    `float("1e999")` is +inf, as `PyNum.pyFloat` computes). -/
inductive Lit where
  | null
  | int (n : Int)
  | float (text : String)
  | str (s : String)
  | bool (b : Bool)
  | enum (name : String)
  | list (l : List Lit)
  | obj (fields : List (String × Lit))
  | var (name : String)
  deriving Repr, Inhabited

def Lit.isNull : Lit → Bool | .null => true | _ => false

inductive Err where
  | coercion   -- CoercionError / InvalidValue / VariablesCoercionError: the input is rejected
  | fuel       -- recursion budget exhausted (Python: RecursionError)
  | internal   -- TypeError / implicit fall-through: not an input type the code handles
  deriving DecidableEq, Repr, Inhabited

abbrev R := Except Err PV

/-! ### registry of named input types -/

/-- `InputField` / `Argument`: name, resolver-side key (`python_name`), type, declared default
    (`has_default_value` / `default_value`; `some .none` is the default `None`). -/
structure InField where
  name : String
  pyName : String
  type : Ty
  default : Option PV
  deriving Repr, Inhabited

inductive NamedT where
  | int | float | string | boolean | id        -- the five specified scalars
  | custom                                     -- `default_scalar`: parse = identity, parse_literal = node.value
  | enum (values : List (String × PV))         -- name ↦ internal value
  | input (fields : List InField)
  deriving Repr, Inhabited

/-- what a custom scalar's own `parse` / `parse_literal` does with an input (user code: an arbitrary partial function).
    `refused`: it raised `ValueError` / `TypeError` (→ `ScalarParsingError`, the input is rejected);
    `raised`: any other exception, which `ScalarType.parse` lets through. -/
inductive ParseOut where
  | value (pv : PV)
  | refused
  | raised
  deriving Repr, Inhabited

def ParseOut.toR : ParseOut → R
  | .value pv => .ok pv
  | .refused => .error .coercion
  | .raised => .error .internal

/-- A registry: the named input types, and — as PARAMETERS — the behaviour of the custom scalars' own parsers
    (`ScalarType(name, parse=…, parse_literal=…)`), by scalar name. Nothing is assumed about them in the model. -/
structure Reg where
  types : List (String × NamedT)
  customParse : String → JV → ParseOut
  /-- `parse_literal(node, variables)`: the scalar's own function is handed the literal AND the coerced variables (`variables or {}`) -/
  customParseLiteral : String → List (String × PV) → Lit → ParseOut
  /-- the scalar was given its OWN `parse_literal` (`ScalarType._parse_literal is not None`): then `value_from_ast` hands it
      every kind of literal, not only scalar ones -/
  customHasParseLiteral : String → Bool

def Reg.get? (r : Reg) (n : String) : Option NamedT :=
  match r.types.find? (fun p => p.1 == n) with
  | some p => some p.2
  | none => none

/-- one layer of `NonNullType` removed (`type_ = type_.type`) -/
def stripNN : Ty → Ty
  | .nonNull t => t
  | t => t

/-- Python dict built from a sequence of pairs: the LAST binding of a key wins
    (`{f.name.value: f for f in node.fields}`, `json.loads` of duplicate keys). -/
def lookupLast {α : Type} (k : String) : List (String × α) → Option α
  | [] => none
  | (k', v) :: rest =>
    match lookupLast k rest with
    | some r => some r
    | none => if k' == k then some v else none

/-- Python `d[k] = v`: an existing key keeps its position and gets the new value, a new key is appended -/
def dictSet (d : List (String × PV)) (k : String) (v : PV) : List (String × PV) :=
  if d.any (fun p => p.1 == k) then d.map (fun p => if p.1 == k then (k, v) else p) else d ++ [(k, v)]

/-- the dict that results from a sequence of assignments `coerced[python_name] = value` (two fields / arguments that
    share a python name collide: the later value wins, at the earlier position) -/
def dictOfAssignments (kvs : List (String × PV)) : List (String × PV) :=
  kvs.foldl (fun d p => dictSet d p.1 p.2) []

def mapE {α β : Type} (f : α → Except Err β) : List α → Except Err (List β)
  | [] => .ok []
  | x :: xs =>
    match f x with
    | .error e => .error e
    | .ok y =>
      match mapE f xs with
      | .error e => .error e
      | .ok ys => .ok (y :: ys)

/-- a loop that COLLECTS `CoercionError`s and goes on (`_coerce_list_value`, `_coerce_input_object`,
    `coerce_variable_values`): it fails at the end if anything was collected, but any OTHER exception raised by a later
    iteration (RecursionError, OverflowError) escapes at once. `mapE` is the loop that stops at the first error
    (the list comprehension of `value_from_ast`). -/
def mapEC {α β : Type} (f : α → Except Err β) : List α → Except Err (List β)
  | [] => .ok []
  | x :: xs =>
    match f x with
    | .error .coercion =>
      match mapEC f xs with
      | .error e => .error e
      | .ok _ => .error .coercion
    | .error e => .error e
    | .ok y =>
      match mapEC f xs with
      | .error e => .error e
      | .ok ys => .ok (y :: ys)

/-! ### scalars.py -/

/-- the final range test of `coerce_int` (translated from the source) -/
def rangeChecked (n : Int) (result : PV) : R :=
  if intInRange n then .ok result else .error .coercion

def clsOf : Dbl → FCls
  | .finite _ _ _ => .finite
  | .inf _ => .inf
  | .nan => .nan

/-- `coerce_int` on a JSON value; the branches in the order of the source (`Generated.Scalars.coerceIntBranches`) -/
def coerceInt : JV → R
  | .bool b => rangeChecked (if b then 1 else 0) (.int (if b then 1 else 0))   -- isinstance(True, int): numeric = int(maybe_int)
  | .int n => rangeChecked n (.int n)
  | .float t =>
    match pyFloat t with
    | none => .error .coercion                                   -- not a float lexeme (cannot come from a JSON float)
    | some d =>
      match d.integral with
      | some k => rangeChecked k (.int k)                        -- numeric = int(f); numeric == f
      | none => .error .coercion                                 -- numeric != f; int(inf) / int(nan): OverflowError /
                                                                 -- ValueError caught (fix A6) → ValueError(INVALID_INT)
  | .null => .error .coercion
  | .str s =>
    if s == "" then .error .coercion
    else match pyInt10 s with
      | some n => rangeChecked n (.int n)                        -- int(maybe_int, 10)
      | none =>
        match pyFloat s with
        | some d =>
          match d.integral with
          | some k => rangeChecked k (.int k)                    -- float(s).is_integer(): int(float_value)
          | none => .error .coercion
        | none => .error .coercion
  | .list _ => .error .coercion
  | .obj _ => .error .coercion

/-- the finiteness guard of `coerce_float` (fix X2), as re-extracted from the source: which classes of
    `numeric = float(maybe_float)` make it raise -/
def floatGuardRejects : FCls → Bool
  | .finite => floatRejectsFinite
  | .inf => floatRejectsInf
  | .nan => floatRejectsNaN

def floatChecked (c : FCls) (result : PV) : R :=
  if floatGuardRejects c then .error .coercion else .ok result

/-- `float(n)` of a Python int succeeds iff the correctly rounded double is finite: |n| < 2^1024 − 2^970
    (otherwise `OverflowError: int too large to convert to float`) -/
def intFitsDouble (n : Int) : Bool := decide (n.natAbs < 2 ^ 1024 - 2 ^ 970)

/-- `coerce_float` on a JSON value -/
def coerceFloat : JV → R
  | .null => .error .coercion
  | .bool b => floatChecked .finite (.float (.ofBool b))
  | .int n =>
    if intFitsDouble n then floatChecked .finite (.float (.ofInt n))
    else if floatCatchesOverflow then .error .coercion           -- `except OverflowError:` (fix A6)
    else .error .internal
  | .float t =>
    match pyFloat t with
    | some d => floatChecked (clsOf d) (.float (.text t))
    | none => .error .coercion                                   -- not a float lexeme (cannot come from a JSON float)
  | .str s =>
    if s == "" then .error .coercion
    else match pyFloat s with
      | some d => floatChecked (clsOf d) (.float (.text s))     -- float(maybe_float)
      | none => .error .coercion
  | .list _ => .error .coercion                                  -- float([..]) : TypeError
  | .obj _ => .error .coercion

/-- Python `str(x)` of a JSON scalar -/
def pyStr : JV → String
  | .null => "None"
  | .bool true => "True"
  | .bool false => "False"
  | .int n => toString n
  | .float t => t
  | .str s => s
  | .list _ => ""
  | .obj _ => ""

/-- Python `bool(x)` of a JSON value -/
def pyTruthy : JV → Bool
  | .null => false
  | .bool b => b
  | .int n => n != 0
  | .float t => (match pyFloat t with | some d => d.truthy | none => true)
  | .str s => s != ""
  | .list l => !l.isEmpty
  | .obj k => !k.isEmpty

/-- `_parse_string` (fix A4: objects are refused like lists) -/
def parseString : JV → R
  | .list _ => .error .coercion
  | .obj _ => .error .coercion
  | v => .ok (.str (pyStr v))

/-- `_parse_bool` (fix A4) -/
def parseBool : JV → R
  | .list _ => .error .coercion
  | .obj _ => .error .coercion
  | v => .ok (.bool (pyTruthy v))

/-- `_parse_id` (fix A4) -/
def parseId : JV → R
  | .list _ => .error .coercion
  | .obj _ => .error .coercion
  | v => .ok (.str (pyStr v))

mutual
/-- `default_scalar(...).parse` = identity: the JSON value as a Python value -/
def pvOfJson : JV → PV
  | .null => .none
  | .bool b => .bool b
  | .int n => .int n
  | .float t => .float (.text t)
  | .str s => .str s
  | .list l => .list (pvOfJsonL l)
  | .obj kvs => .dict (pvOfJsonF kvs)
def pvOfJsonL : List JV → List PV
  | [] => []
  | x :: xs => pvOfJson x :: pvOfJsonL xs
def pvOfJsonF : List (String × JV) → List (String × PV)
  | [] => []
  | (k, v) :: xs => (k, pvOfJson v) :: pvOfJsonF xs
end

mutual
/-- no NaN / ±Infinity anywhere inside the value (what `_transparent` walks through: lists and dict values, any depth) -/
def jvAllFinite : JV → Bool
  | .float t => (match pyFloat t with | some d => d.isFinite | none => true)
  | .list l => jvAllFiniteL l
  | .obj kvs => jvAllFiniteF kvs
  | _ => true
def jvAllFiniteL : List JV → Bool
  | [] => true
  | x :: xs => jvAllFinite x && jvAllFiniteL xs
def jvAllFiniteF : List (String × JV) → Bool
  | [] => true
  | (_, v) :: xs => jvAllFinite v && jvAllFiniteF xs
end

/-- `default_scalar(...)`: `parse = _transparent` — the value as is, but NaN / ±Infinity at any depth is refused with the
    ValueError `Float` uses (fix C10-H2; `defaultScalarParseRejectsNonFinite` is observed on the live `default_scalar`) -/
def defaultScalarParse (_ : String) (v : JV) : ParseOut :=
  if defaultScalarParseRejectsNonFinite && !jvAllFinite v then .refused else .value (pvOfJson v)

mutual
/-- `_untyped_literal` (scalars.py): the transparent conversion of a literal that `default_scalar` uses as its `parse_literal`:
    numbers keep their SOURCE TEXT, an enum value its name, lists and objects become lists and dicts (a dict comprehension:
    a repeated key keeps its first position and its last value), `null` is None. `none` = a `Variable` node inside, which has no
    `.value` (AttributeError). -/
def untypedLiteral (vars : Option (List (String × PV))) : Lit → Option PV
  | .null => some .none
  | .int n => some (.str (toString n))
  | .float t => some (.str t)
  | .str s => some (.str s)
  | .bool b => some (.bool b)
  | .enum name => some (.str name)
  | .var x =>
    match vars with
    | some vs => some ((lookupLast x vs).getD .none)        -- `(variables or {}).get(name)`: None when no value was provided (fix C06-H7)
    | none => none                                           -- before that fix: no Variable branch, `node.value` raises AttributeError
  | .list items => (untypedLiteralL vars items).map .list
  | .obj fields => (untypedLiteralF vars fields).map fun kvs => .dict (dictOfAssignments kvs)
def untypedLiteralL (vars : Option (List (String × PV))) : List Lit → Option (List PV)
  | [] => some []
  | x :: xs =>
    match untypedLiteral vars x, untypedLiteralL vars xs with
    | some v, some vs => some (v :: vs)
    | _, _ => none
def untypedLiteralF (vars : Option (List (String × PV))) : List (String × Lit) → Option (List (String × PV))
  | [] => some []
  | (k, x) :: xs =>
    match untypedLiteral vars x, untypedLiteralF vars xs with
    | some v, some vs => some ((k, v) :: vs)
    | _, _ => none
end

/-- `default_scalar(...)`: `parse_literal = lambda node, _: _untyped_literal(node)` -/
def defaultScalarParseLiteral (_ : String) (vars : List (String × PV)) (l : Lit) : ParseOut :=
  match untypedLiteral (if standInLiteralSeesVariables then some vars else none) l with
  | some pv => .value pv
  | none => .refused      -- a Variable inside: AttributeError, which `ScalarType.parse_literal` turns into TypeError for a structured node

/-- a registry whose custom scalars are all `default_scalar`s (what `build_schema` makes of an SDL `scalar X`) -/
def Reg.ofTypes (types : List (String × NamedT)) : Reg :=
  { types := types, customParse := defaultScalarParse, customParseLiteral := defaultScalarParseLiteral,
    customHasParseLiteral := fun _ => true }

/-- `EnumType.get_value` -/
def getValue (values : List (String × PV)) (name : String) : R :=
  match values.find? (fun p => p.1 == name) with
  | some p => .ok p.2
  | none => .error .coercion

def kindName : NamedT → String
  | .int => "Int" | .float => "Float" | .string => "String" | .boolean => "Boolean" | .id => "ID"
  | .custom => "<custom>" | .enum _ => "<enum>" | .input _ => "<input>"

def litKind : Lit → String
  | .int _ => "int" | .float _ => "float" | .str _ => "str" | .bool _ => "bool"
  | .null => "null" | .enum _ => "enum" | .list _ => "list" | .obj _ => "obj" | .var _ => "var"

def isScalarLit : Lit → Bool
  | .int _ => true | .float _ => true | .str _ => true | .bool _ => true
  | _ => false

/-- which literals `value_from_ast` hands to a custom scalar's `parse_literal`: scalar literals always; every other kind only
    if the scalar brought its own `parse_literal` (the guard re-extracted from value_from_ast.py) -/
def litAdmitted (reg : Reg) (n : String) (l : Lit) : Bool :=
  isScalarLit l || (customOwnParseLiteralTakesAnyLiteral && reg.customHasParseLiteral n)

/-- `_typed_coerce(coerce_, *types)`: node classes outside the table raise `TypeError` (→ ScalarParsingError) -/
def admits (k : NamedT) (l : Lit) : Bool :=
  match literalKinds.find? (fun p => p.1 == kindName k) with
  | some p => p.2.contains (litKind l)
  | none => false

/-- `ScalarType.parse_literal` of the specified scalars (`coerce_(node.value)`) and of `default_scalar` -/
def parseLiteral (k : NamedT) (l : Lit) : R :=
  match k with
  | .custom => .error .internal              -- custom scalars go through `Reg.customParseLiteral` (see `vfaCore`)
  | _ =>
    if admits k l then
      match k, l with
      | .int, .int n => rangeChecked n (.int n)            -- coerce_int("<digits>")
      | .float, .float t =>                                          -- coerce_float("<text>")
        match pyFloat t with
        | some d => floatChecked (clsOf d) (.float (.text t))
        | none => .error .coercion
      | .float, .int n =>                                           -- coerce_float("<digits>"): float(str) overflows to inf
        floatChecked (if intFitsDouble n then .finite else .inf) (.float (.ofInt n))
      | .string, .str s => .ok (.str s)
      | .boolean, .bool b => .ok (.bool b)
      | .id, .str s => .ok (.str s)
      | .id, .int n => .ok (.str (toString n))
      | _, _ => .error .internal                           -- a combination today's table does not admit
    else .error .coercion

/-! ### input objects: the field loop shared by `_coerce_input_object` and `_extract_input_object` -/

/-- `for field in type_.fields:` — `get name` is `value[name]` / `node_fields[name]` (none = absent).
    Absent: declared default, else error if non-null, else the key stays absent.
    Present: coerced recursively, stored under `python_name`. -/
def fieldLoop {α : Type} (get : String → Option α) (rec : Ty → α → R) : List InField → Except Err (List (String × PV))
  | [] => .ok []
  | f :: fs =>
    match get f.name with
    | none =>
      match f.default with
      | some d =>
        match fieldLoop get rec fs with
        | .error e => .error e
        | .ok r => .ok ((f.pyName, d) :: r)
      | none => if f.type.isNonNull then .error .coercion else fieldLoop get rec fs
    | some v =>
      match rec f.type v with
      | .error e => .error e
      | .ok pv =>
        match fieldLoop get rec fs with
        | .error e => .error e
        | .ok r => .ok ((f.pyName, pv) :: r)

/-- the field loop of `_coerce_input_object`: same as `fieldLoop`, but errors are collected (see `mapEC`) -/
def fieldLoopC {α : Type} (get : String → Option α) (rec : Ty → α → R) : List InField → Except Err (List (String × PV))
  | [] => .ok []
  | f :: fs =>
    match get f.name with
    | none =>
      match f.default with
      | some d =>
        match fieldLoopC get rec fs with
        | .error e => .error e
        | .ok r => .ok ((f.pyName, d) :: r)
      | none =>
        if f.type.isNonNull then
          match fieldLoopC get rec fs with
          | .error e => .error e
          | .ok _ => .error .coercion
        else fieldLoopC get rec fs
    | some v =>
      match rec f.type v with
      | .error .coercion =>
        match fieldLoopC get rec fs with
        | .error e => .error e
        | .ok _ => .error .coercion
      | .error e => .error e
      | .ok pv =>
        match fieldLoopC get rec fs with
        | .error e => .error e
        | .ok r => .ok ((f.pyName, pv) :: r)

/-- every supplied key is a declared field (`fieldname not in type_.field_map` ⇒ error) -/
def allKnown {α : Type} (fields : List InField) (kvs : List (String × α)) : Bool :=
  kvs.all fun p => fields.any fun f => f.name == p.1

/-! ### coerce_value.py -/

/-- `_coerce_list_value` -/
def coerceListValue (rec : Ty → JV → R) (t : Ty) (v : JV) : R :=
  match v with
  | .list l =>
    match mapEC (rec t) l with
    | .error e => .error e
    | .ok r => .ok (.list r)
  | _ =>
    match rec t v with
    | .error e => .error e
    | .ok x => .ok (.list [x])

/-- `_coerce_input_object` (fix A2: defaults are filled in) -/
def coerceInputObject (rec : Ty → JV → R) (fields : List InField) (v : JV) : R :=
  match v with
  | .obj kvs =>
    match fieldLoopC (fun k => lookupLast k kvs) rec fields with
    | .error e => .error e
    | .ok r => if allKnown fields kvs then .ok (.dict (dictOfAssignments r)) else .error .coercion
  | _ => .error .coercion

/-- body of `coerce_value` after the non-null test, on the stripped type -/
def coerceCore (reg : Reg) (rec : Ty → JV → R) (t : Ty) (v : JV) : R :=
  if v.isNull then .ok .none
  else match t with
    | .named n =>
      match reg.get? n with
      | some .int => coerceInt v
      | some .float => coerceFloat v
      | some .string => parseString v
      | some .boolean => parseBool v
      | some .id => parseId v
      | some .custom => (reg.customParse n v).toR
      | some (.enum vs) =>
        match v with
        | .str s => getValue vs s
        | _ => .error .coercion
      | some (.input fs) => coerceInputObject rec fs v
      | none => .error .internal
    | .list t' => coerceListValue rec t' v
    | .nonNull _ => .ok .none          -- `NonNull(NonNull(T))`: no isinstance test matches, implicit `return None`

/-- `coerce_value` -/
def coerceValue (reg : Reg) : Nat → Ty → JV → R
  | 0, _, _ => .error .fuel
  | fuel + 1, ty, v =>
    if ty.isNonNull && v.isNull then .error .coercion
    else coerceCore reg (coerceValue reg fuel) (stripNN ty) v

/-! ### value_from_ast.py -/

/-- `_extract_variable` -/
def extractVariable (vars : Option (List (String × PV))) (ty : Ty) (x : String) : R :=
  match vars with
  | none => .error .coercion
  | some vs =>
    match lookupLast x vs with
    | none => .error .coercion
    | some v => if ty.isNonNull && v.isNone then .error .coercion else .ok v

/-- `_extract_input_object` (fix A5: a field the type does not define is refused) -/
def extractInputObject (rec : Ty → Lit → R) (fields : List InField) (lkvs : List (String × Lit)) : R :=
  match fieldLoop (fun k => lookupLast k lkvs) rec fields with
  | .error e => .error e
  | .ok r => if allKnown fields lkvs then .ok (.dict (dictOfAssignments r)) else .error .coercion

/-- body of `value_from_ast` after the variable and non-null tests, on the stripped type -/
def vfaCore (vars : Option (List (String × PV))) (reg : Reg) (rec : Ty → Lit → R) (t : Ty) (l : Lit) : R :=
  if l.isNull then .ok .none
  else match t with
    | .list t' =>
      match l with
      | .list items =>
        match mapE (rec t') items with
        | .error e => .error e
        | .ok r => .ok (.list r)
      | _ =>
        match rec t' l with
        | .error e => .error e
        | .ok x => .ok (.list [x])
    | .named n =>
      match reg.get? n with
      | some (.input fs) =>
        match l with
        | .obj lkvs => extractInputObject rec fs lkvs
        | _ => .error .coercion
      | some (.enum vs) =>
        match l with
        | .enum name => getValue vs name
        | _ => .error .coercion
      | some .custom => if litAdmitted reg n l then (reg.customParseLiteral n (vars.getD []) l).toR else .error .coercion
      | some k => if isScalarLit l then parseLiteral k l else .error .coercion
      | none => .error .internal
    | .nonNull _ => .error .internal     -- raise TypeError("Invalid type for input coercion")

/-- `value_from_ast` -/
def valueFromAst (reg : Reg) (vars : Option (List (String × PV))) : Nat → Ty → Lit → R
  | 0, _, _ => .error .fuel
  | fuel + 1, ty, l =>
    match l with
    | .var x => extractVariable vars ty x
    | _ =>
      if ty.isNonNull && l.isNull then .error .coercion
      else vfaCore vars reg (valueFromAst reg vars fuel) (stripNN ty) l

/-! ### coerce_variable_values -/

structure VarDef where
  name : String
  type : Ty
  default : Option Lit
  deriving Repr, Inhabited

/-- one iteration of the loop of `coerce_variable_values`: `none` = the variable stays unbound -/
def coerceVariable (reg : Reg) (fuel : Nat) (variables : List (String × JV)) (d : VarDef) : Except Err (Option PV) :=
  if (reg.get? d.type.base).isNone then .error .coercion          -- UnknownType
  else match lookupLast d.name variables with
    | none =>
      match d.default with
      | some l =>
        match valueFromAst reg none fuel d.type l with
        | .error e => .error e
        | .ok pv => .ok (some pv)
      | none => if d.type.isNonNull then .error .coercion else .ok none
    | some v =>
      if v.isNull && d.type.isNonNull then .error .coercion
      else match coerceValue reg fuel d.type v with
        | .error .fuel => .error .coercion        -- `except RecursionError:` (fix A7): nested too deeply = an invalid value
        | .error e => .error e
        | .ok pv => .ok (some pv)

def coerceVariableValues (reg : Reg) (fuel : Nat) (variables : List (String × JV)) : List VarDef → Except Err (List (String × PV))
  | [] => .ok []
  | d :: ds =>
    match coerceVariable reg fuel variables d with
    | .error .coercion =>                      -- errors.append(...): the loop goes on, `raise VariablesCoercionError` at the end
      match coerceVariableValues reg fuel variables ds with
      | .error e => .error e
      | .ok _ => .error .coercion
    | .error e => .error e
    | .ok o =>
      match coerceVariableValues reg fuel variables ds with
      | .error e => .error e
      | .ok r =>
        match o with
        | some pv => .ok ((d.name, pv) :: r)
        | none => .ok r

/-! ### coerce_argument_values -/

/-- one iteration of the loop of `coerce_argument_values`: `none` = the keyword argument is omitted
    (fix A3: a variable bound to None at a non-null argument is an error) -/
def coerceArg (reg : Reg) (fuel : Nat) (vars : List (String × PV)) (args : List (String × Lit)) (d : InField) : Except Err (Option PV) :=
  match lookupLast d.name args with
  | none =>
    match d.default with
    | some v => .ok (some v)
    | none => if d.type.isNonNull then .error .coercion else .ok none
  | some (.var x) =>
    match lookupLast x vars with
    | some v => if v.isNone && d.type.isNonNull then .error .coercion else .ok (some v)
    | none =>
      match d.default with
      | some v => .ok (some v)
      | none => if d.type.isNonNull then .error .coercion else .ok none
  | some l =>
    match valueFromAst reg (some vars) fuel d.type l with
    | .error e => .error e
    | .ok pv => .ok (some pv)

def coerceArgumentValues (reg : Reg) (fuel : Nat) (vars : List (String × PV)) (args : List (String × Lit)) : List InField → Except Err (List (String × PV))
  | [] => .ok []
  | d :: ds =>
    match coerceArg reg fuel vars args d with
    | .error e => .error e
    | .ok o =>
      match coerceArgumentValues reg fuel vars args ds with
      | .error e => .error e
      | .ok r =>
        match o with
        | some pv => .ok ((d.pyName, pv) :: r)
        | none => .ok r

/-! ### enough fuel: the fuel-free functions -/

def fieldsWidth : List InField → Nat
  | [] => 0
  | f :: fs => max f.type.size (fieldsWidth fs)

def typesWidth : List (String × NamedT) → Nat
  | [] => 0
  | p :: r =>
    match p.2 with
    | .input fs => max (fieldsWidth fs) (typesWidth r)
    | _ => typesWidth r

/-- "depth" of the registry: the largest number of wrappers + 1 of any input field's type -/
def Reg.width (r : Reg) : Nat := typesWidth r.types

/-- a recursion budget that always suffices: size of the position's type + (registry width + 1) × size of the value.
    (Every recursive call either descends into the value — and then restarts at a field type, at most `width` large —
    or keeps the value and peels one list wrapper off the type.) -/
def fuelFor (reg : Reg) (ty : Ty) (valueSize : Nat) : Nat := ty.size + (reg.width + 1) * valueSize

/-- `coerce_value`, fuel-free -/
noncomputable def coerceValueT (reg : Reg) (ty : Ty) (v : JV) : R := coerceValue reg (fuelFor reg ty (sizeOf v)) ty v

/-- `value_from_ast`, fuel-free -/
noncomputable def valueFromAstT (reg : Reg) (vars : Option (List (String × PV))) (ty : Ty) (l : Lit) : R :=
  valueFromAst reg vars (fuelFor reg ty (sizeOf l)) ty l

/-! ### the validator's condition on variable usages (validation/rules: VariablesInAllowedPosition, Schema.is_subtype) -/

/-- `Schema.is_subtype(type_, super_type)` on input types (no abstract types among them) -/
def isSubtype : Ty → Ty → Bool
  | .named a, b => b == .named a                                            -- `type_ == super_type`, else nothing applies
  | .list a, b =>
    b == .list a ||
      match b with
      | .list b' => isSubtype a b'                                          -- both ListType: compare the item types
      | _ => false                                                          -- `isinstance(type_, ListType): return False`
  | .nonNull a, b =>
    b == .nonNull a ||
      match b with
      | .nonNull b' => isSubtype a b'                                       -- both NonNullType
      | _ => isSubtype a b                                                  -- `isinstance(type_, NonNullType)`: strip it

/-- `var_default is not None and type(var_default) != NullValue` -/
def VarDef.hasNonNullDefault (d : VarDef) : Bool :=
  match d.default with
  | some .null => false
  | some _ => true
  | none => false

/-- the test of `VariablesInAllowedPositionChecker.leave_document` for one usage (`true` = no error is reported) -/
def allowedUsage (varTy : Ty) (varDefaultNonNull : Bool) (locTy : Ty) (locHasDefault : Bool) : Bool :=
  if locTy.isNonNull && !varTy.isNonNull then
    (varDefaultNonNull || locHasDefault) && isSubtype varTy (stripNN locTy)
  else isSubtype varTy locTy

end PyGql.Coerce
