/-
  A static RANK CHECK on a document under which the search of `OverlappingFieldsCanBeMergedChecker` never exhausts the
  model's fuel (`overlapFuel`, standing for Python's recursion limit): every selection set carries a rank that exceeds by 2 the
  ranks of the sub-selections of its fields and of the bodies of the fragments it spreads, and twice the rank (+2)
  stays within the fuel. Computable: `computeRanks` proposes ranks, `rankOkB` checks them (soundness of the check is
  all that is proved: `Props/C06_overlap_hyps_ranks.lean`).
-/
import PyGqlModel.Spec.ValidSpecOverlap
namespace PyGql.Validate
open PyGql PyGql.Validate.Spec

def rankOf (l : List (Nat × Nat)) (i : Nat) : Nat := ((l.find? (·.1 == i)).map (·.2)).getD 0

/-- rank of a field: that of its sub-selection -/
def entryRank (ρ : Nat → Nat) (e : FEntry) : Nat := if e.hasSub then ρ e.ssid else 0

/-- rank of a fragment: that of its body -/
def fragRank (ρ : Nat → Nat) (d : Doc) (g : String) : Nat :=
  match AL.get? (fragTable d) g with
  | some (_, fid, _) => ρ fid
  | none => 0

def nodeRankOk (s : SchemaD) (d : Doc) (ρ : Nat → Nat) : Node → Bool
  | .selectionSet i sels =>
    let r := collectSels s none sels ([], [])
    decide (2 ≤ ρ i) && decide (2 * ρ i + 2 ≤ overlapFuel) &&
      r.1.all (fun q => q.2.all fun e => decide (entryRank ρ e + 2 ≤ ρ i)) &&
      r.2.all (fun g => decide (fragRank ρ d g + 2 ≤ ρ i))
  | _ => true

/-- the check -/
def rankOkB (s : SchemaD) (d : Doc) (ρ : Nat → Nat) : Bool := (nodes d).all (nodeRankOk s d ρ)

/-! a proposal for the ranks: longest nesting / spread path, by ROUNDS over a table (each round linear in the document;
    following the spreads recursively is exponential on cyclic documents). On a cyclic document the table never settles
    and the proposal fails the check, as it must. -/

mutual
def rankSel (d : Doc) (tbl : List (Nat × Nat)) : Sel → Nat
  | .field _ _ _ _ hasSub ssid _ => if hasSub then rankOf tbl ssid + 2 else 2
  | .spread name _ =>
    match AL.get? (fragTable d) name with
    | some (_, fid, _) => rankOf tbl fid + 2
    | none => 2
  | .inline _ _ _ sub => rankSels d tbl sub
def rankSels (d : Doc) (tbl : List (Nat × Nat)) : List Sel → Nat
  | [] => 2
  | x :: xs => max (rankSel d tbl x) (rankSels d tbl xs)
end

def rankRound (d : Doc) (tbl : List (Nat × Nat)) : List (Nat × Nat) :=
  (nodes d).filterMap fun
    | .selectionSet i sels => some (i, rankSels d tbl sels)
    | _ => none

def rankRounds (d : Doc) : Nat → List (Nat × Nat) → List (Nat × Nat)
  | 0, tbl => tbl
  | n + 1, tbl => rankRounds d n (rankRound d tbl)

/-- ranks above `overlapFuel / 2` fail the check anyway: that many rounds (at most one per selection set) suffice -/
def computeRanks (d : Doc) : List (Nat × Nat) :=
  rankRounds d (min ((selSetCount d) + 1) (overlapFuel / 2 + 2)) []
where selSetCount (d : Doc) : Nat := ((nodes d).filter fun | .selectionSet _ _ => true | _ => false).length

end PyGql.Validate

namespace PyGql.Validate
open PyGql PyGql.Validate.Spec

/-! syntactic ranks only (no condition on fragment spreads, no bound by the fuel): what the termination of the
    MEMOISED search (`Validate/OverlapMemo.lean`) rests on; `R` bounds all ranks -/
def nodeRankSyn (s : SchemaD) (ρ : Nat → Nat) (R : Nat) : Node → Bool
  | .selectionSet i sels =>
    decide (2 ≤ ρ i) && decide (ρ i ≤ R) &&
      (collectSels s none sels ([], [])).1.all (fun q => q.2.all fun e => decide (entryRank ρ e + 2 ≤ ρ i))
  | _ => true

def rankSynB (s : SchemaD) (d : Doc) (ρ : Nat → Nat) (R : Nat) : Bool := (nodes d).all (nodeRankSyn s ρ R)

mutual
/-- twice the syntactic nesting height (+2) of a selection list; spreads are not followed -/
def synRankSel : Sel → Nat
  | .field _ _ _ _ hasSub _ sub => if hasSub then synRankSels sub + 2 else 2
  | .spread _ _ => 2
  | .inline _ _ _ sub => synRankSels sub
def synRankSels : List Sel → Nat
  | [] => 2
  | x :: xs => max (synRankSel x) (synRankSels xs)
end

def synRanks (d : Doc) : List (Nat × Nat) :=
  (nodes d).filterMap fun
    | .selectionSet i sels => some (i, synRankSels sels)
    | _ => none

def maxRank (l : List (Nat × Nat)) : Nat := l.foldl (fun m p => max m p.2) 2

end PyGql.Validate
