/-
  `OverlappingFieldsCanBeMergedChecker` WITH THE MEMO of proposed_fixes/C05-overlap-fields-fragment-memo.patch (hunt2
  C05/1): `_conflicts_between_fields_and_fragment` records the triple (field map, fragment, mutually exclusive) on
  the context and returns at once when it meets the triple again. Field maps are identified, as in the code, by the
  selection set they were computed for (`id(field_map)`; the `_fields_and_fragments` cache keeps one map per set).
  The five functions are those of `Validate/Overlap.lean` with that one change; `withinSelectionSetM` takes the fuel
  (the interpreter's recursion budget) as a parameter. `Props/C06_overlap_memo.lean`: with the memo the search
  needs only a fuel bounded by the document - on EVERY document, cyclic fragments included.
-/
import PyGqlModel.Validate.Overlap
namespace PyGql.Validate
open PyGql

mutual
def findConflictM (s : SchemaD) (fx : Fixes) : Nat → Bool → FEntry → FEntry → OCtx → Bool × OCtx
  | 0, _, _, _, c => (false, { c with crash := some "RecursionError" })
  | fuel+1, pme, f1, f2, c =>
    let isObj (p : Option String) : Bool := match p with | some n => isObject s n | none => false
    let me := pme || (f1.parent != f2.parent && isObj f1.parent && isObj f2.parent)
    let t1 := f1.fdef.map (·.type)
    let t2 := f2.fdef.map (·.type)
    let argsOk : Option Bool :=
      if me then some true
      else if f1.name != f2.name then some false
      else sameArguments f1.args f2.args
    match argsOk with
    | none => (false, { c with crash := some "AttributeError" })
    | some false => (true, c)
    | some true =>
      let tc := match t1, t2 with | some a, some b => typesConflict s a b | _, _ => false
      if tc then (true, c)
      else if f1.hasSub && f2.hasSub then
        let r := betweenSubselectionsM s fx fuel me (t1.map (·.base)) f1.ssid f1.sub (t2.map (·.base)) f2.ssid f2.sub c
        (r.1 > 0, r.2)
      else (false, c)

def conflictsBetweenM (s : SchemaD) (fx : Fixes) : Nat → Bool → FMap → FMap → OCtx → Nat × OCtx
  | 0, _, _, _, c => (0, { c with crash := some "RecursionError" })
  | fuel+1, me, fm1, fm2, c =>
    sumLoop fm1 (fun (rn, fields1) c =>
      match AL.get? fm2 rn with
      | none => (0, c)
      | some fields2 =>
        sumLoop fields1 (fun f1 c =>
          sumLoop fields2 (fun f2 c =>
            let r := findConflictM s fx fuel me f1 f2 c
            (if r.1 then 1 else 0, r.2)) c) c) c

def betweenFieldsAndFragmentM (s : SchemaD) (fx : Fixes) : Nat → Bool → Nat → FMap → String → OCtx → Nat × OCtx
  | 0, _, _, _, _, c => (0, { c with crash := some "RecursionError" })
  | fuel+1, me, ssid, fm, name, c =>
    if c.cmp.contains name then (0, c) else
    let c := { c with cmp := name :: c.cmp }
    match AL.get? c.frags name with
    | none => (0, c)
    | some (on, fid, fsels) =>
      -- the memo
      if (ssid, name, me) ∈ c.ffp then (0, c) else
      let c := { c with ffp := (ssid, name, me) :: c.ffp }
      let (ff, c) := fieldsAndFragments s ((typeFromAst s (.named on)).map (·.base)) fid fsels c
      if ssid == fid then (0, c) else
      let r1 := conflictsBetweenM s fx fuel me fm ff.1 c
      let r2 := sumLoop ff.2 (fun fr c => betweenFieldsAndFragmentM s fx fuel me ssid fm fr c) r1.2
      (r1.1 + r2.1, r2.2)

def betweenFragmentsM (s : SchemaD) (fx : Fixes) : Nat → Bool → Option String → Option String → OCtx → Nat × OCtx
  | 0, _, _, _, c => (0, { c with crash := some "RecursionError" })
  | fuel+1, me, of1, of2, c =>
    match of1, of2 with
    | some f1, some f2 =>
      if f1 == "" || f2 == "" || f1 == f2 then (0, c) else
      let key := (sortedPair f1 f2, me)
      if c.pairs.any (fun k => k.1 == key.1.1 && k.2.1 == key.1.2 && k.2.2 == me) then (0, c) else
      let c := { c with pairs := (key.1.1, key.1.2, me) :: c.pairs }
      match AL.get? c.frags f1, AL.get? c.frags f2 with
      | some (on1, id1, sels1), some (on2, id2, sels2) =>
        let (a, c) := fieldsAndFragments s ((typeFromAst s (.named on1)).map (·.base)) id1 sels1 c
        let (b, c) := fieldsAndFragments s ((typeFromAst s (.named on2)).map (·.base)) id2 sels2 c
        let r0 := conflictsBetweenM s fx fuel me a.1 b.1 c
        if fx.v7 then
          let r1 := sumLoop a.2 (fun fr c => betweenFragmentsM s fx fuel me (some fr) (some f2) c) r0.2
          let r2 := sumLoop b.2 (fun fr c => betweenFragmentsM s fx fuel me (some f1) (some fr) c) r1.2
          (r0.1 + r1.1 + r2.1, r2.2)
        else
          let r1 := sumLoop (a.2.zipIdx) (fun (fr, i) c => betweenFragmentsM s fx fuel me (some fr) (charAt f2 i) c) r0.2
          let r2 := sumLoop (b.2.zipIdx) (fun (fr, i) c => betweenFragmentsM s fx fuel me (charAt f1 i) (some fr) c) r1.2
          (r0.1 + r1.1 + r2.1, r2.2)
      | _, _ => (0, c)
    | _, _ => (0, c)

def betweenSubselectionsM (s : SchemaD) (fx : Fixes) :
    Nat → Bool → Option String → Nat → List Sel → Option String → Nat → List Sel → OCtx → Nat × OCtx
  | 0, _, _, _, _, _, _, _, c => (0, { c with crash := some "RecursionError" })
  | fuel+1, me, p1, id1, sels1, p2, id2, sels2, c =>
    let (a, c) := fieldsAndFragments s p1 id1 sels1 c
    let (b, c) := fieldsAndFragments s p2 id2 sels2 c
    let r0 := conflictsBetweenM s fx fuel me a.1 b.1 c
    let r1 := sumLoop b.2 (fun fr c => withFreshCmp (betweenFieldsAndFragmentM s fx fuel me id1 a.1 fr) c) r0.2
    let r2 := sumLoop a.2 (fun fr c => withFreshCmp (betweenFieldsAndFragmentM s fx fuel me id2 b.1 fr) c) r1.2
    let r3 := sumLoop a.2 (fun f1 c => sumLoop b.2 (fun f2 c => betweenFragmentsM s fx fuel me (some f1) (some f2) c) c) r2.2
    (r0.1 + r1.1 + r2.1 + r3.1, r3.2)
end

/-- `find_conflicts_within_selection_set` with the memoised search and a recursion budget of `fuel` frames -/
def withinSelectionSetM (s : SchemaD) (fx : Fixes) (fuel : Nat) (parent : Option String) (ssid : Nat) (sels : List Sel)
    (c : OCtx) : Nat × OCtx :=
  let (ff, c) := fieldsAndFragments s parent ssid sels c
  let r0 := sumLoop ff.1 (fun (_, fields) c =>
    sumLoop (pairsOf fields) (fun (f1, f2) c =>
      let r := findConflictM s fx fuel false f1 f2 c
      (if r.1 then 1 else 0, r.2)) c) c
  let r1 := withFreshCmp (fun c => sumLoop ff.2 (fun fr c => betweenFieldsAndFragmentM s fx fuel false ssid ff.1 fr c) c) r0.2
  let r2 := sumLoop (pairsOf ff.2) (fun (f1, f2) c => betweenFragmentsM s fx fuel false (some f1) (some f2) c) r1.2
  (r0.1 + r1.1 + r2.1, r2.2)

end PyGql.Validate
