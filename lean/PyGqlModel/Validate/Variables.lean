/-
  `VariablesCollector` (validation/visitors.py) with its per-name usage maps and
  `_flatten_fragments`, and the three `leave_document` bodies built on it:
  `NoUndefinedVariablesChecker`, `NoUnusedVariablesChecker`, `VariablesInAllowedPositionChecker`.
  Unfixed tree: one usage per (scope, variable name) - the last one wins (ledger V3) - and a one-pass
  flattening in definition order (ledger V4). `Fixes.v3` / `Fixes.v4` switch to the repairs (in /repo: 160f78c).
-/
import PyGqlModel.Validate.TypeInfo
namespace PyGql.Validate
open PyGql

/-- `(node, input_type, input_value_def)` without the node -/
structure Usage where
  inputType : Option Ty
  /-- `input_value_def is not None and input_value_def.has_default_value` -/
  locDefault : Bool
  deriving Repr, Inhabited

structure VC where
  op : Option String := none
  frag : Option String := none
  inVarDef : Bool := false
  opVars : AL (AL (List Usage)) := []
  opDefined : AL (AL VarDef) := []
  opFrags : AL (List String) := []
  fragVars : AL (AL (List Usage)) := []
  fragFrags : AL (List String) := []
  deriving Inhabited

namespace VC

def enterOperation (name : Option String) (c : VC) : VC := { c with op := some (name.getD "") }
def leaveOperation (c : VC) : VC := { c with op := none }
def enterFragmentDef (name : String) (c : VC) : VC := { c with frag := some name }
def leaveFragmentDef (c : VC) : VC := { c with frag := none }

def enterSpread (name : String) (c : VC) : VC :=
  match c.op, c.frag with
  | some o, _ => { c with opFrags := AL.modify c.opFrags o [] (· ++ [name]) }
  | none, some f => if name != f then { c with fragFrags := AL.modify c.fragFrags f [] (· ++ [name]) } else c
  | none, none => c

def enterVarDef (v : VarDef) (c : VC) : VC :=
  let c := { c with inVarDef := true }
  match c.op with
  | some o => { c with opDefined := AL.modify c.opDefined o [] (fun m => AL.set m v.name v) }
  | none => c
def leaveVarDef (c : VC) : VC := { c with inVarDef := false }

def record (fx : Fixes) (m : AL (List Usage)) (var : String) (u : Usage) : AL (List Usage) :=
  if fx.v3 then AL.modify m var [] (· ++ [u]) else AL.set m var [u]

def enterVariable (fx : Fixes) (var : String) (ti : TI) (c : VC) : VC :=
  let u : Usage := { inputType := ti.inputType, locDefault := (ti.inputValueDef.map (·.hasDefault)).getD false }
  if c.inVarDef then c
  else match c.op, c.frag with
    | some o, _ => { c with opVars := AL.modify c.opVars o [] (fun m => record fx m var u) }
    | none, some f => { c with fragVars := AL.modify c.fragVars f [] (fun m => record fx m var u) }
    | none, none => c

/-- unfixed `_flatten_fragments`: ONE pass over `_fragment_fragments` in insertion order -/
def flattenOnePass (c : VC) : VC :=
  let step (opFrags : AL (List String)) (pc : String × List String) : AL (List String) :=
    pc.2.eraseDups.foldl (fun ofs child =>
      ofs.map fun (o, fs) => if fs.contains pc.1 then (o, fs ++ [child]) else (o, fs)) opFrags
  { c with opFrags := c.fragFrags.foldl step c.opFrags }

/-- fixed (V4): breadth-first closure per operation; `fuel` bounds the queue length -/
def closure (ff : AL (List String)) : Nat → List String → List String → List String
  | 0, _, acc => acc
  | _, [], acc => acc
  | fuel+1, parent :: queue, acc =>
    let new := ((AL.getD ff parent []).eraseDups).filter fun ch => !acc.contains ch
    closure ff fuel (queue ++ new) (acc ++ new)

def flattenClosure (c : VC) : VC :=
  let bound := (c.fragFrags.foldl (fun n p => n + p.2.length + 1) 1) + c.opFrags.foldl (fun n p => n + p.2.length + 1) 1
  { c with opFrags := c.opFrags.map fun (o, fs) => (o, closure c.fragFrags bound fs fs) }

def flatten (fx : Fixes) (c : VC) : VC := if fx.v4 then flattenClosure c else flattenOnePass c

/-- number of errors of `NoUndefinedVariablesChecker.leave_document` -/
def undefinedErrors (c : VC) : Nat :=
  let a := c.opFrags.foldl (fun n (o, frags) =>
    let defined := AL.getD c.opDefined o []
    frags.eraseDups.foldl (fun n f =>
      (AL.getD c.fragVars f []).foldl (fun n (var, _) => if AL.has defined var then n else n + 1) n) n) 0
  c.opVars.foldl (fun n (o, vars) =>
    let defined := AL.getD c.opDefined o []
    vars.foldl (fun n (var, _) => if AL.has defined var then n else n + 1) n) a

/-- number of errors of `NoUnusedVariablesChecker.leave_document` -/
def unusedErrors (c : VC) : Nat :=
  c.opDefined.foldl (fun n (o, defined) =>
    let fromFrags := ((AL.getD c.opFrags o []).eraseDups).flatMap fun f => AL.keys (AL.getD c.fragVars f [])
    let used := fromFrags ++ AL.keys (AL.getD c.opVars o [])
    defined.foldl (fun n (var, _) => if used.contains var then n else n + 1) n) 0

/-- the test made for one usage by `VariablesInAllowedPositionChecker`; `true` = an error is added -/
def usageBad (s : SchemaD) (vd : VarDef) (u : Usage) : Bool :=
  match u.inputType with
  | none => false
  | some it =>
    match typeFromAst s vd.type with
    | none => false
    | some vt =>
      match it, vt.isNonNull with
      | .nonNull inner, false =>
        let nonNullVarDefault := match vd.default with | none => false | some .null => false | some _ => true
        (!nonNullVarDefault && !u.locDefault) || !isSubtype s vt inner
      | _, _ => !isSubtype s vt it

/-- number of errors of `VariablesInAllowedPositionChecker.leave_document` -/
def positionErrors (s : SchemaD) (c : VC) : Nat :=
  c.opDefined.foldl (fun n (o, vardefs) =>
    let direct : List (String × Usage) := (AL.getD c.opVars o []).flatMap fun (v, us) => us.map fun u => (v, u)
    let viaFrags : List (String × Usage) := (AL.getD c.opFrags o []).flatMap fun f =>
      (AL.getD c.fragVars f []).flatMap fun (v, us) => us.map fun u => (v, u)
    (direct ++ viaFrags).foldl (fun n (v, u) =>
      match AL.get? vardefs v with
      | some vd => if usageBad s vd u then n + 1 else n
      | none => n) n) 0

end VC
end PyGql.Validate
