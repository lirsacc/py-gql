/-
  THE VALIDATOR WITH THE MEMOISED OVERLAP SEARCH (what /repo runs since 7e75356), for the driver.
  `OverlappingFieldsCanBeMergedChecker` never raises SkipNode and reads only `TypeInfoVisitor.parent_type`, so its
  errors are those of `find_conflicts_within_selection_set` at every selection set, in visiting order, on one shared
  context: `overlapMemoRun` folds the memoised search (`Validate/OverlapMemo.lean`) over the typed enumeration
  `Spec.typedNodes` (node, static view inside the node), with the recursion budget `memoFuel d` that
  `Props/C06_overlap_memo.lean: overlap_memo_terminates` proves sufficient on every document.
  (`overlapMemoRun` is the rule ALONE - all selection sets; the theorems of Props/C06_overlap_memo.lean are about it.
  In a chain, a rule raising `SkipNode` above a selection set hides it from every member: the driver therefore runs the
  memoised search inside the chain itself, `runM` of `Validate/ChainPar.lean`.)
  `runMemo`: the chain with the UN-memoised search (`run`; the headline for the chain /repo runs, `verdictM_iff_spec` of
  `Props/C06_chain.lean`, is about `runM`); where that one
  exhausts its fuel (fragment cycles below fields: the code before the memo recursed forever) the answer is `runM`'s;
  on UNRANKED documents
  (`rankOkB` false: fragment cycles - outside every theorem about the un-memoised search) the un-memoised search is
  not run at all (it exhausts its fuel, possibly after exponentially many steps). Both overlap counts are
  returned so that the correspondence can CROSS-CHECK "memoised verdict = un-memoised verdict whenever the latter does
  not crash" on every document (the verdict-neutrality theorem, `Props/C06_overlap_memo_neutral.lean:
  overlap_memo_neutral_tableAcyclic`, has side conditions: `ParentsAgree`, `WfIds`, no fragment named "", no cycle of bare
  spreads in the fragment table).
-/
import PyGqlModel.Validate.Chain
import PyGqlModel.Validate.ChainPar
import PyGqlModel.Validate.OverlapMemo
import PyGqlModel.Validate.OverlapRank
import PyGqlModel.Validate.WfIds
namespace PyGql.Validate
open PyGql PyGql.Validate.Spec

/-- all (selection set, fragment, flag) triples of the document -/
def keysFF (d : Doc) : List (Nat × String × Bool) :=
  (selSetIds d).flatMap fun i => ((fragTable d).map (·.1)).flatMap fun g => [(i, g, true), (i, g, false)]
/-- all (fragment, fragment, flag) triples of the document -/
def keysFR (d : Doc) : List (String × String × Bool) :=
  ((fragTable d).map (·.1)).flatMap fun a => ((fragTable d).map (·.1)).flatMap fun b => [(a, b, true), (a, b, false)]

/-- bound on the recursion depth of the memoised search -/
def fuelBound (d : Doc) (R : Nat) : Nat := ((keysFF d).length + (keysFR d).length) * (2 * R + 7) + 2 * R + 7

/-- the recursion budget given to the memoised search: `fuelBound` at the document's maximal syntactic rank -/
def memoFuel (d : Doc) : Nat := fuelBound d (maxRank (synRanks d))

/-- the overlap rule with the memoised search: (number of errors, final context) -/
def overlapMemoRun (s : SchemaD) (fx : Fixes) (d : Doc) : Nat × OCtx :=
  (typedNodes s d).foldl (fun (acc : Nat × OCtx) p =>
    match p.1 with
    | .selectionSet i sels =>
      if acc.2.crash.isSome then acc else
      let r := withinSelectionSetM s fx (memoFuel d) p.2.parent i sels acc.2
      (acc.1 + r.1, r.2)
    | _ => acc) (0, ({ frags := fragTable d } : OCtx))

structure MemoAnswer where
  /-- the model's verdict -/
  outcome : Outcome
  /-- the un-memoised chain crashed and the overlap rule's count was supplied by the memoised run -/
  supplied : Bool
  /-- un-memoised chain: crash class, else the overlap rule's error count (if the rule was run) -/
  plainCrash : Option String
  plainOverlap : Option Nat
  /-- memoised run of the overlap rule (if the rule was run): error count, crash class -/
  memoOverlap : Option Nat
  memoCrash : Option String

private def overlapOf : Outcome → Option Nat
  | .errors l => (l.find? (·.1 == Rule.overlappingFieldsCanBeMerged)).map (·.2)
  | .crash _ => none
private def crashOf : Outcome → Option String
  | .crash e => some e
  | .errors _ => none

/-- The answer of the driver. `om` = the chain run with the memoised search INSIDE it (`runM`, `Validate/ChainPar.lean`:
    same traversal and `SkipNode` handling as the chain of the theorems, so the overlap rule sees exactly the
    selection sets it sees there - a rule raising `SkipNode` above a selection set hides it from all members).
    Ranked documents: the chain of the theorems `run` gives the verdict (if it crashes: `om`), and the two overlap
    counts are returned for the cross-check. Unranked documents (fragment cycles): `om` alone. -/
def runMemo (c : Cfg) (d : Doc) : MemoAnswer :=
  let ov := Rule.overlappingFieldsCanBeMerged
  if c.rules.contains ov then
    let om := runM (memoFuel d) c d
    if !rankOkB c.schema d (rankOf (computeRanks d)) then
      { outcome := om, supplied := true, plainCrash := some "not-run:unranked", plainOverlap := none,
        memoOverlap := overlapOf om, memoCrash := crashOf om }
    else
      let o1 := run c d
      match o1 with
      | .errors _ =>
        { outcome := o1, supplied := false, plainCrash := none, plainOverlap := overlapOf o1,
          memoOverlap := overlapOf om, memoCrash := crashOf om }
      | .crash e =>
        { outcome := om, supplied := true, plainCrash := some e, plainOverlap := none,
          memoOverlap := overlapOf om, memoCrash := crashOf om }
  else
    let o1 := run c d
    { outcome := o1, supplied := false, plainCrash := crashOf o1, plainOverlap := none, memoOverlap := none, memoCrash := none }

end PyGql.Validate
