/-
  C08 / C09 — the *simplified operation form* shared by the runtime algebra, the generic
  executor model and the blocking reference executor.

  An operation is a tree of response-keyed fields.  Every field instance carries
    * `mode`  — how its resolver delivers: synchronously, through a deferred task (a pool-submitted
                function / an awaited future), or through a deferred task whose result is again a
                deferred task (`nested`, exercises `unwrap_value`), or through a Future that is ALREADY
                finished when the executor receives it (`ready`: the pool ran the task at once);
    * `out`   — what the resolver does: returns a value, raises `ResolverError`, raises an
                unexpected exception.
  A ResolverError raised while the returned value is COMPLETED (a custom scalar's `serialize`, an abstract
  type's `resolve_type`, a lazy iterable raising while the list is completed) is caught by the same handler
  (`else_=(BaseException, on_error)` around `complete` in `Executor.resolve_field`, `on_error` handing it to `fail`; `except ResolverError` around
  `complete_value` in `BlockingExecutor.resolve_field` since /repo 7b8e151) and has the same effect as the resolver
  itself raising it: `done`, then the field is null with one error at the field's path. When nothing else happened
  before the raise (no sub-field resolver invoked, no non-null violation recorded) it is therefore THE SAME EVENT in
  this form — `ROut.rerr` — and `async_eq_blocking`, `failure_does_not_stop`, `serial_order` cover it as such
  (harness: `to_model` maps it to `rerr`). A completion that raises AFTER sub-resolvers of the same field were
  started is outside this form (known finding E2: the generic executor abandons them in flight).
  A returned value is described together with the type it is completed at (`Comp`): `nonNull c`
  is the `NonNullType` wrapper around the completion of `c`, `null` is `None`, `leaf` a serialisable
  scalar, `bad` a value for which `complete_value` raises `RuntimeError` (not iterable / not
  serialisable), `list` an iterable of item values, `obj` an object whose sub-selection is `fields`.
-/
namespace PyGql.AsyncExec

inductive Seg where
  | key (s : String)
  | idx (n : Nat)
  deriving DecidableEq, Repr, Inhabited

abbrev Path := List Seg

inductive Mode where
  | sync | deferred | nested | ready
  deriving DecidableEq, Repr, Inhabited

/-- exception classes that matter: `ResolverError` (caught by `else_`), the resolver's unexpected
    exception, and the `RuntimeError` raised by `complete_value`. -/
inductive Exc where
  | resolver | boom | runtime
  deriving DecidableEq, Repr, Inhabited

mutual
inductive Comp where
  | null
  | leaf (v : Nat)
  | bad
  | nonNull (c : Comp)
  | list (items : Comps)
  | obj (fields : Flds)
inductive Comps where
  | nil
  | cons (c : Comp) (cs : Comps)
inductive Flds where
  | nil
  | cons (key : String) (mode : Mode) (out : ROut) (rest : Flds)
inductive ROut where
  | ok (c : Comp)
  | rerr
  | exc
end

instance : Inhabited Comp := ⟨.null⟩
instance : Inhabited Comps := ⟨.nil⟩
instance : Inhabited Flds := ⟨.nil⟩
instance : Inhabited ROut := ⟨.rerr⟩

/-- response data -/
inductive V where
  | null
  | leaf (n : Nat)
  | list (vs : List V)
  | obj (kvs : List (String × V))
  deriving Repr, Inhabited

def V.isNull : V → Bool
  | .null => true
  | _ => false

inductive ErrKind where
  | resolver | nonNull
  deriving DecidableEq, Repr

structure Err where
  path : Path
  kind : ErrKind
  deriving DecidableEq, Repr

/-- resolver events: `call` = the executor invokes the resolver (submission, for a deferred one),
    `done` = its result is available. -/
inductive Ev where
  | call (p : Path)
  | done (p : Path)
  deriving DecidableEq, Repr

/-- The part of the executor's state that callbacks touch. -/
structure ExecSt where
  next : Nat := 0               -- id of the next submitted task
  queue : List Nat := []        -- outstanding tasks, submission order
  errors : List Err := []       -- `ResolutionContext._errors`
  trace : List Ev := []
  deriving Repr

def ExecSt.emit (s : ExecSt) (e : Ev) : ExecSt := { s with trace := s.trace ++ [e] }
def ExecSt.addError (s : ExecSt) (p : Path) (k : ErrKind) : ExecSt := { s with errors := s.errors ++ [⟨p, k⟩] }
/-- `submit`: a new outstanding task -/
def ExecSt.submit (s : ExecSt) : Nat × ExecSt := (s.next, { s with next := s.next + 1, queue := s.queue ++ [s.next] })

def Flds.keys : Flds → List String
  | .nil => []
  | .cons k _ _ r => k :: r.keys

def Flds.length : Flds → Nat
  | .nil => 0
  | .cons _ _ _ r => r.length + 1

end PyGql.AsyncExec
