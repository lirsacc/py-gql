/-
  C18 — MODEL of `src/py_gql/lang/visitor.py` (+ `_utils.map_and_filter`, `_utils.classdispatch`).

  A tree is a generic rose tree: `Node` = kind + identity + attributes (in `__slots__` order),
  an attribute = opaque scalar | one optional child | list of children.  The traversal is driven
  by a `Table` (the body of every `@_visit_method`, the dispatch registries) which is
  RE-EXTRACTED from the source on every run (`Generated/VisitTable.lean`).

  Python mutates trees in place; the model is functional.  The difference is observable where a
  result is discarded (`self._visit_x(P.a)` without assignment) and in `ChainedVisitor.enter`
  (returns the ORIGINAL object).  Therefore `enter` tells whether it returned the same object
  (`keep n'`, possibly mutated in place to `n'`) or a fresh one (`replace n'`), and a visit
  returns both the returned node (`ret`) and the content of the original object (`orig`).

  Recursion is on fuel: a visitor may return an arbitrarily large replacement whose children
  are then visited (the Python code does not terminate for every visitor either).
  No import from outside the project (core Lean only).
-/
import PyGqlModel.VisitTypes

namespace PyGql.Visit

mutual
inductive Node where
  | mk (kind : String) (id : Nat) (attrs : List (String × Attr))
inductive Attr where
  | scalar (v : String)
  | one (c : Option Node)
  | many (cs : List Node)
end

instance : Inhabited Node := ⟨.mk "" 0 []⟩
instance : Inhabited Attr := ⟨.scalar ""⟩

namespace Node
def kind : Node → String | .mk k _ _ => k
def id : Node → Nat | .mk _ i _ => i
def attrs : Node → List (String × Attr) | .mk _ _ a => a

/-- `getattr(node, a)`; `none` = `AttributeError` -/
def getAttr (n : Node) (a : String) : Option Attr := n.attrs.lookup a

def setIn (a : String) (x : Attr) : List (String × Attr) → List (String × Attr)
  | [] => []
  | (b, y) :: r => if a == b then (b, x) :: r else (b, y) :: setIn a x r

/-- `node.a = x` for an attribute that exists -/
def setAttr (n : Node) (a : String) (x : Attr) : Node := .mk n.kind n.id (setIn a x n.attrs)
end Node

/-- what `enter` did -/
inductive Act where
  /-- returned the SAME object, whose content is now `n` (`n` = the argument for a visitor that does not mutate) -/
  | keep (n : Node)
  /-- returned a different object `n` -/
  | replace (n : Node)
  /-- returned `None` -/
  | delete
  /-- raised `SkipNode`; the content of the argument object is `n` (`n` = the argument unless mutated before raising) -/
  | skip (n : Node)
  /-- raised something else -/
  | raise (e : String)

structure Visitor (σ : Type) where
  enter : Node → σ → Act × σ
  leave : Node → σ → σ

/-- a call made to the visitor -/
structure Ev where
  enter : Bool
  node : Node

def Ev.key (e : Ev) : Bool × Nat × String := (e.enter, e.node.id, e.node.kind)

inductive Res (α : Type) where
  | ok (a : α)
  | err (e : String)
  | fuel

/-- outcome of one `_visit_method`-wrapped call -/
structure Out (σ : Type) where
  /-- what the wrapper returns (`none` = `None`) -/
  ret : Option Node
  /-- content of the ARGUMENT object afterwards (in-place effects) -/
  orig : Node
  st : σ
  tr : List Ev

section
variable {σ : Type}

/-- `map_and_filter(f, cs)` with the state threaded left to right.
    Result: (the rebuilt list, the original members after in-place effects, state, calls). -/
def visitList (f : Node → σ → Res (Out σ)) : List Node → σ → Res (List Node × List Node × σ × List Ev)
  | [], s => .ok ([], [], s, [])
  | c :: cs, s =>
    match f c s with
    | .err e => .err e
    | .fuel => .fuel
    | .ok o =>
      match visitList f cs o.st with
      | .err e => .err e
      | .fuel => .fuel
      | .ok (r, ip, s', tr) =>
        .ok ((match o.ret with | some n => n :: r | none => r), o.orig :: ip, s', o.tr ++ tr)

def Step.applies (st : Step) (kind : String) : Bool :=
  match st.kinds with
  | none => true
  | some ks => ks.contains kind

/-- one statement of a `_visit_*` body on the node `n` (already entered) -/
def runStep (call : Target → Node → σ → Res (Out σ)) (st : Step) (n : Node) (s : σ) : Res (Node × σ × List Ev) :=
  if !st.applies n.kind then .ok (n, s, []) else
  match n.getAttr st.attr with
  | none => .err "AttributeError"
  | some a =>
    match st.shape, a with
    | .one, .one none =>
      -- unguarded: `self._visit_x(None)` calls `enter(None)`; outside the model
      if st.guard == .always then .err "NoneNode" else .ok (n, s, [])
    | .one, .one (some c) =>
      match call st.target c s with
      | .err e => .err e
      | .fuel => .fuel
      | .ok o => .ok (n.setAttr st.attr (.one (if st.assign then o.ret else some o.orig)), o.st, o.tr)
    | .many, .many cs =>
      match visitList (call st.target) cs s with
      | .err e => .err e
      | .fuel => .fuel
      | .ok (r, ip, s', tr) => .ok (n.setAttr st.attr (.many (if st.assign then r else ip)), s', tr)
    | _, _ => .err "ShapeError"

def runSteps (call : Target → Node → σ → Res (Out σ)) : List Step → Node → σ → Res (Node × σ × List Ev)
  | [], n, s => .ok (n, s, [])
  | st :: rest, n, s =>
    match runStep call st n s with
    | .err e => .err e
    | .fuel => .fuel
    | .ok (n1, s1, tr1) =>
      match runSteps call rest n1 s1 with
      | .err e => .err e
      | .fuel => .fuel
      | .ok (n2, s2, tr2) => .ok (n2, s2, tr1 ++ tr2)

/-- which `@_visit_method` a call target runs for a child of kind `kind` (`classdispatch` / isinstance cascade) -/
def resolve (T : Table) (tgt : Target) (kind : String) : Except String String :=
  match tgt with
  | .method m => .ok m
  | .disp d =>
    match T.dispatchers.lookup d with
    | none => .error "NoDispatcher"
    | some D =>
      match D.registry.lookup kind with
      | some m => .ok m
      | none => match D.dflt with
        | some m => .ok m
        | none => .error "TypeError"

def callTarget (T : Table) (rec : String → Node → σ → Res (Out σ)) (tgt : Target) (c : Node) (s : σ) : Res (Out σ) :=
  match resolve T tgt c.kind with
  | .ok m => rec m c s
  | .error e => .err e

/-- which `@_visit_method` body runs on the node `n1` that `enter` returned for `n` inside method `m`:
    `m` itself, unless `n1` is of another class and the wrapper dispatches on it (`T.crossKind`) -/
def bodyMethod (T : Table) (m : String) (n n1 : Node) : Except String String :=
  if T.crossKind && !(n1.kind == n.kind) then
    match T.visit.lookup n1.kind with
    | none => .error "TypeError"
    | some m' => .ok m'
  else .ok m

/-- `_visit_method(method)(inst, node)`: enter / skip / body / leave -/
def visitM (T : Table) (v : Visitor σ) : Nat → String → Node → σ → Res (Out σ)
  | 0, _, _, _ => .fuel
  | fuel + 1, m, n, s =>
    match v.enter n s with
    | (.raise e, _) => .err e
    | (.skip n', s1) => .ok ⟨some n', n', s1, [⟨true, n⟩]⟩
    | (.delete, s1) => .ok ⟨none, n, s1, [⟨true, n⟩]⟩
    | (.keep n1, s1) =>
      match bodyMethod T m n n1 with
      | .error e => .err e
      | .ok mb =>
      match T.methods.lookup mb with
      | none => .err "NoMethod"
      | some steps =>
        match runSteps (callTarget T (visitM T v fuel)) steps n1 s1 with
        | .err e => .err e
        | .fuel => .fuel
        | .ok (n2, s2, tr) => .ok ⟨some n2, n2, v.leave n2 s2, ⟨true, n⟩ :: tr ++ [⟨false, n2⟩]⟩
    | (.replace n1, s1) =>
      match bodyMethod T m n n1 with
      | .error e => .err e
      | .ok mb =>
      match T.methods.lookup mb with
      | none => .err "NoMethod"
      | some steps =>
        match runSteps (callTarget T (visitM T v fuel)) steps n1 s1 with
        | .err e => .err e
        | .fuel => .fuel
        | .ok (n2, s2, tr) => .ok ⟨some n2, n, v.leave n2 s2, ⟨true, n⟩ :: tr ++ [⟨false, n2⟩]⟩

theorem bodyMethod_of_kind_eq (T : Table) (m : String) (n n1 : Node) (h : n1.kind = n.kind) : bodyMethod T m n n1 = .ok m := by
  simp [bodyMethod, h]

/-- `ASTVisitor.visit(node)` -/
def visit (T : Table) (v : Visitor σ) (fuel : Nat) (n : Node) (s : σ) : Res (Out σ) :=
  match T.visit.lookup n.kind with
  | none => .err "TypeError"
  | some m => visitM T v fuel m n s

/-! ### what a completed run consists of

  What a run of `visitList`, `runStep`, `runSteps`, `callTarget`, `visitM` that completed consists of; the proofs that start
  from a completed run use these instead of unfolding the definitions (Lemmas/VisitWalk.lean and the locality theorems of
  Props/C18*.lean unfold them as well). -/

/-- a completed `visitList` of `c :: cs`: the outcome of `c`, then the rest from the state it left -/
theorem visitList_cons_ok {f : Node → σ → Res (Out σ)} {c : Node} {cs : List Node} {s : σ}
    {q : List Node × List Node × σ × List Ev} (h : visitList f (c :: cs) s = .ok q) :
    ∃ o r ip s' tr, f c s = .ok o ∧ visitList f cs o.st = .ok (r, ip, s', tr) ∧
      q = (o.ret.toList ++ r, o.orig :: ip, s', o.tr ++ tr) := by
  simp only [visitList] at h
  cases hc : f c s with
  | err e => simp [hc] at h
  | fuel => simp [hc] at h
  | ok o =>
    cases hr : visitList f cs o.st with
    | err e => simp [hc, hr] at h
    | fuel => simp [hc, hr] at h
    | ok p =>
      obtain ⟨r, ip, s', tr⟩ := p
      simp only [hc, hr, Res.ok.injEq] at h
      exact ⟨o, r, ip, s', tr, rfl, hr, by rw [← h]; cases o.ret <;> rfl⟩

/-- a completed statement did nothing (it does not apply, or its guard met `None`), visited the one child, or visited
    the list -/
theorem runStep_ok {call : Target → Node → σ → Res (Out σ)} {st : Step} {n n' : Node} {s s' : σ} {tr : List Ev}
    (h : runStep call st n s = .ok (n', s', tr)) :
    (n' = n ∧ s' = s ∧ tr = [] ∧
      (st.applies n.kind = false ∨ st.applies n.kind = true ∧ st.shape = .one ∧
        n.getAttr st.attr = some (.one none) ∧ (st.guard == .always) = false)) ∨
    (st.applies n.kind = true ∧ st.shape = .one ∧ ∃ c o, n.getAttr st.attr = some (.one (some c)) ∧
      call st.target c s = .ok o ∧
      n' = n.setAttr st.attr (.one (if st.assign then o.ret else some o.orig)) ∧ s' = o.st ∧ tr = o.tr) ∨
    (st.applies n.kind = true ∧ st.shape = .many ∧ ∃ cs r ip, n.getAttr st.attr = some (.many cs) ∧
      visitList (call st.target) cs s = .ok (r, ip, s', tr) ∧
      n' = n.setAttr st.attr (.many (if st.assign then r else ip))) := by
  unfold runStep at h
  split at h
  · rename_i ha
    simp only [Res.ok.injEq, Prod.mk.injEq] at h
    exact .inl ⟨h.1.symm, h.2.1.symm, h.2.2.symm, .inl (by simpa using ha)⟩
  · rename_i ha
    have ha : st.applies n.kind = true := by simpa using ha
    split at h
    · cases h
    · split at h
      · rename_i hs hg
        split at h
        · cases h
        · rename_i hgd
          simp only [Res.ok.injEq, Prod.mk.injEq] at h
          exact .inl ⟨h.1.symm, h.2.1.symm, h.2.2.symm, .inr ⟨ha, hs, hg, by simpa using hgd⟩⟩
      · rename_i c hs hg
        split at h
        · cases h
        · cases h
        · rename_i o ho
          simp only [Res.ok.injEq, Prod.mk.injEq] at h
          exact .inr (.inl ⟨ha, hs, c, o, hg, ho, h.1.symm, h.2.1.symm, h.2.2.symm⟩)
      · rename_i cs hs hg
        split at h
        · cases h
        · cases h
        · rename_i r ip s1 tr1 hl
          simp only [Res.ok.injEq, Prod.mk.injEq] at h
          obtain ⟨h1, rfl, rfl⟩ := h
          exact .inr (.inr ⟨ha, hs, cs, r, ip, hg, hl, h1.symm⟩)
      · cases h
theorem runSteps_cons_ok {call : Target → Node → σ → Res (Out σ)} {st : Step} {rest : List Step} {n : Node} {s : σ}
    {q : Node × σ × List Ev} (h : runSteps call (st :: rest) n s = .ok q) :
    ∃ n1 s1 tr1 n2 s2 tr2, runStep call st n s = .ok (n1, s1, tr1) ∧ runSteps call rest n1 s1 = .ok (n2, s2, tr2) ∧
      q = (n2, s2, tr1 ++ tr2) := by
  simp only [runSteps] at h
  cases h1 : runStep call st n s with
  | err e => simp [h1] at h
  | fuel => simp [h1] at h
  | ok p =>
    obtain ⟨n1, s1, tr1⟩ := p
    cases h2 : runSteps call rest n1 s1 with
    | err e => simp [h1, h2] at h
    | fuel => simp [h1, h2] at h
    | ok p2 =>
      obtain ⟨n2, s2, tr2⟩ := p2
      simp only [h1, h2, Res.ok.injEq] at h
      exact ⟨n1, s1, tr1, n2, s2, tr2, rfl, h2, h.symm⟩

theorem callTarget_ok {T : Table} {rec : String → Node → σ → Res (Out σ)} {tgt : Target} {c : Node} {s : σ} {o : Out σ}
    (h : callTarget T rec tgt c s = .ok o) : ∃ m, resolve T tgt c.kind = .ok m ∧ rec m c s = .ok o := by
  unfold callTarget at h
  split at h
  · exact ⟨_, ‹_›, h⟩
  · cases h

/-- a completed wrapped call: `enter` skipped, deleted, or handed back a node `n1` (`keep`: the argument object, `replace`: a
    fresh one) on which the body of the selected method ran before `leave` was called with its result -/
theorem visitM_ok {T : Table} {v : Visitor σ} {fuel : Nat} {m : String} {n : Node} {s : σ} {o : Out σ}
    (h : visitM T v (fuel + 1) m n s = .ok o) :
    (∃ n' s1, v.enter n s = (.skip n', s1) ∧ o = ⟨some n', n', s1, [⟨true, n⟩]⟩) ∨
    (∃ s1, v.enter n s = (.delete, s1) ∧ o = ⟨none, n, s1, [⟨true, n⟩]⟩) ∨
    ∃ n1 s1 mb steps n2 s2 tr,
      (v.enter n s = (.keep n1, s1) ∧ o.orig = n2 ∨ v.enter n s = (.replace n1, s1) ∧ o.orig = n) ∧
      bodyMethod T m n n1 = .ok mb ∧ T.methods.lookup mb = some steps ∧
      runSteps (callTarget T (visitM T v fuel)) steps n1 s1 = .ok (n2, s2, tr) ∧
      o.ret = some n2 ∧ o.st = v.leave n2 s2 ∧ o.tr = ⟨true, n⟩ :: tr ++ [⟨false, n2⟩] := by
  rcases he : v.enter n s with ⟨act, s1⟩
  simp only [visitM, he] at h
  cases act with
  | raise e => cases h
  | skip n' => cases h; exact .inl ⟨n', s1, rfl, rfl⟩
  | delete => cases h; exact .inr (.inl ⟨s1, rfl, rfl⟩)
  | keep n1 | replace n1 =>
    cases hb : bodyMethod T m n n1 with
    | error e => simp [hb] at h
    | ok mb =>
      cases hm : T.methods.lookup mb with
      | none => simp [hb, hm] at h
      | some steps =>
        cases hr : runSteps (callTarget T (visitM T v fuel)) steps n1 s1 with
        | err e => simp [hb, hm, hr] at h
        | fuel => simp [hb, hm, hr] at h
        | ok p =>
          obtain ⟨n2, s2, tr⟩ := p
          simp only [hb, hm, hr, Res.ok.injEq] at h
          subst h
          exact .inr (.inr ⟨n1, s1, mb, steps, n2, s2, tr, by simp, hb, hm, hr, rfl, rfl, rfl⟩)

/-! ### DispatchingVisitor -/

/-- `DispatchingVisitor`: `enter`/`leave` dispatch on the node class to `enter_*`/`leave_*` handlers
    (given by name). A registry miss in `enter` raises `TypeError`; `leave` has no error channel in the
    model (the registries are proved to have the same keys, `Props.C18.dispatching_total`). -/
def dispatching (enterReg leaveReg : List (String × String))
    (onEnter : String → Node → σ → Act × σ) (onLeave : String → Node → σ → σ) : Visitor σ where
  enter n s := match enterReg.lookup n.kind with
    | some h => onEnter h n s
    | none => (.raise "TypeError", s)
  leave n s := match leaveReg.lookup n.kind with
    | some h => onLeave h n s
    | none => s

/-! ### ChainedVisitor -/

/-- the loop of `ChainedVisitor.enter`. `orig` = content of the argument object, `cur` = the node handed to the
    next member together with "is it still the argument object" (`none` after a member returned `None`). -/
def chainEnter : List (Visitor σ) → Node → Option (Node × Bool) → σ → Act × σ
  | [], orig, _, s => (.keep orig, s)
  | _ :: _, orig, none, s => (.keep orig, s)
  | v :: vs, orig, some (c, isOrig), s =>
    match v.enter c s with
    | (.keep c', s') => chainEnter vs (if isOrig then c' else orig) (some (c', isOrig)) s'
    | (.replace c', s') => chainEnter vs orig (some (c', false)) s'
    | (.delete, s') => chainEnter vs orig none s'
    | (.skip c', s') => (.skip (if isOrig then c' else orig), s')
    | (.raise e, s') => (.raise e, s')

/-- `for v in self.visitors[::-1]: v.leave(node)` -/
def chainLeave (vs : List (Visitor σ)) (n : Node) (s : σ) : σ :=
  vs.foldr (fun v s => v.leave n s) s

/-- `ChainedVisitor.enter` since fix C18-W8 (/repo 391ad62, "the skip is the raiser's own"): a member raising `SkipNode`
    does not stop the loop; when some member skipped, the members that entered are LEFT at once (in reverse order,
    with the argument object) and the chain raises `SkipNode`, so that the children are visited by nobody.
    `entered` = the members that returned from `enter`, latest first. -/
def chainEnterP : List (Visitor σ) → Node → Option (Node × Bool) → List (Visitor σ) → Bool → σ → Act × σ
  | [], orig, _, entered, skipped, s =>
    if skipped then (.skip orig, entered.foldl (fun s v => v.leave orig s) s) else (.keep orig, s)
  | _ :: _, orig, none, entered, skipped, s =>
    if skipped then (.skip orig, entered.foldl (fun s v => v.leave orig s) s) else (.keep orig, s)
  | v :: vs, orig, some (c, isOrig), entered, skipped, s =>
    match v.enter c s with
    | (.keep c', s') => chainEnterP vs (if isOrig then c' else orig) (some (c', isOrig)) (v :: entered) skipped s'
    | (.replace c', s') => chainEnterP vs orig (some (c', false)) (v :: entered) skipped s'
    | (.delete, s') => chainEnterP vs orig none (v :: entered) skipped s'
    | (.skip c', s') => chainEnterP vs (if isOrig then c' else orig) (some (c, isOrig)) entered true s'
    | (.raise e, s') => (.raise e, s')

/-- `personal = true`: the code AS IT IS since fix C18-W8 (/repo 391ad62; re-extracted flag
    `Generated.VisitTable.chainPersonalSkip`, which the driver passes): a member's `SkipNode` is its own.
    `personal = false` (the default of this argument, kept for the theorems about the old loop): the code BEFORE the fix
    (a member's `SkipNode` aborts the loop). -/
def chained (vs : List (Visitor σ)) (personal : Bool := false) : Visitor σ where
  enter n s := if personal then chainEnterP vs n (some (n, true)) [] false s else chainEnter vs n (some (n, true)) s
  leave n s := chainLeave vs n s

/-! ### chains of chains -/

/-- a chain member: a leaf visitor, or a nested plain `ChainedVisitor` (no `enter` / `leave` of its own) -/
inductive VTree (σ : Type) where
  | leaf (v : Visitor σ)
  | chain (ms : List (VTree σ))

mutual
/-- the leaf visitors of a chain of chains, in order -/
def VTree.flatten : VTree σ → List (Visitor σ)
  | .leaf v => [v]
  | .chain ms => VTree.flattenList ms
def VTree.flattenList : List (VTree σ) → List (Visitor σ)
  | [] => []
  | m :: r => m.flatten ++ VTree.flattenList r
end

mutual
/-- the code BEFORE fix C18-W10: a nested chain is one member running `ChainedVisitor.enter` / `leave` itself -/
def VTree.compose : VTree σ → Visitor σ
  | .leaf v => v
  | .chain ms => chained (VTree.composeList ms) true
def VTree.composeList : List (VTree σ) → List (Visitor σ)
  | [] => []
  | m :: r => m.compose :: VTree.composeList r
end

/-- WITH fix C18-W10 (`ChainedVisitor._members`): a chain of plain chains runs its leaf visitors in place -/
def VTree.flat (t : VTree σ) : Visitor σ := chained t.flatten true

end

/-! ### structural helpers (used by the specification and the driver) -/

mutual
def Node.beq : Node → Node → Bool
  | .mk k i a, .mk k' i' a' => k == k' && i == i' && Attr.beqAttrs a a'
def Attr.beqAttrs : List (String × Attr) → List (String × Attr) → Bool
  | [], [] => true
  | (n, a) :: r, (n', a') :: r' => n == n' && Attr.beq a a' && Attr.beqAttrs r r'
  | _, _ => false
def Attr.beq : Attr → Attr → Bool
  | .scalar v, .scalar v' => v == v'
  | .one none, .one none => true
  | .one (some c), .one (some c') => Node.beq c c'
  | .many cs, .many cs' => Attr.beqList cs cs'
  | _, _ => false
def Attr.beqList : List Node → List Node → Bool
  | [], [] => true
  | c :: r, c' :: r' => Node.beq c c' && Attr.beqList r r'
  | _, _ => false
end

mutual
/-- depth of a tree (a fuel that suffices for visitors that do not grow it) -/
def Node.depth : Node → Nat
  | .mk _ _ a => Attr.depthAttrs a + 1
def Attr.depthAttrs : List (String × Attr) → Nat
  | [] => 0
  | (_, a) :: r => max (Attr.depth a) (Attr.depthAttrs r)
def Attr.depth : Attr → Nat
  | .scalar _ => 0
  | .one none => 0
  | .one (some c) => Node.depth c
  | .many cs => Attr.depthList cs
def Attr.depthList : List Node → Nat
  | [] => 0
  | c :: r => max (Node.depth c) (Attr.depthList r)
end

end PyGql.Visit
