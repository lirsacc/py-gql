/-
  C09 — `Executor.execute_fields_serially` in the form the code has TODAY: `_next` is a `while True` loop that
  carries on while fields resolve synchronously and only chains through `map_value` when a field's value is
  actually deferred (a recursive `_next` per field overflowed the stack on a few hundred root fields: finding E4):

      def _next():
          while True:
              try: k, f, n = args.pop(0)
              except IndexError: return resolved_fields
              state = {"inline": True, "ran": False}
              def cb(value):                      # `then` of map_value
                  resolved_fields[k] = value
                  with lock:
                      if state["inline"]: state["ran"] = True; return None
                  return _next()
              chained = map_value(resolve_field(…), cb)
              with lock: state["inline"] = False; ran = state["ran"]
              if not ran: return chained

  `AsyncExec.serialNext` is the RECURSIVE reading (`cb` always calls `_next()`); `serialLoop` below is the loop:
    * plain value: `map_value` runs `cb` at once, inline: `ran` — the loop carries on (same as the recursion);
    * a FINISHED Future (`ready`): `chain.on_finish` fires at once and runs `cb` inline: `ran` — the loop carries on and
      what `_next` eventually returns is NOT wrapped in the target Future of that `chain` (the recursion returns
      `done (rest)` / stores an exception of the rest in the Future; the loop returns `rest` / lets it propagate);
    * a failed Future: `cb` does not run, `chained` is the failed Future: returned;
    * a pending Future: `cb` has not run: `chained` is returned; when the Future completes `cb` runs with
      `inline = False` and calls `_next()` — a fresh loop over the remaining queue (`Cont.serialCb`, interpreted by
      `applyContL`).
  The lock only matters when `cb` runs on ANOTHER thread between `map_value` returning and the hand-over; completions
  are atomic in this model (see `RuntimeRace.lean` for the micro-step treatment of `gather_futures`), the
  line-level interleavings are exercised by `interleaving_stage` of harness/corr/C09.py.
-/
import PyGqlModel.AsyncExec

namespace PyGql.AsyncExec.Loop

/-- `_next()` of today's `execute_fields_serially`: the loop -/
def serialLoop (path : Path) (resolved : List (String × V)) : Flds → ExecSt → Res Node × ExecSt
  | .nil, s => (.ok (.val (.data (.obj resolved))), s)                 -- `except IndexError: return resolved_fields`
  | .cons key mode out args, s =>
    match resolveField (path ++ [.key key]) mode out s with
    | (.exc e, s1) => (.exc e, s1)
    | (.ok (.val (.data v)), s1) => serialLoop path (resolved ++ [(key, v)]) args s1     -- `cb` ran inline: next iteration
    | (.ok (.val _), s1) => (.ok (.val .junk), s1)
    | (.ok (.done (.val (.data v))), s1) =>
      -- an already finished Future: `chain` fired `cb` inline (`ran`), `chained` (a Future holding None) is dropped
      serialLoop path (resolved ++ [(key, v)]) args s1
    | (.ok (.failed e), s1) => (.ok (.failed e), s1)
    | (.ok n, s1) => (.ok (.chain n (.serialCb path key resolved args)), s1)

/-- the callbacks, with `cb` of the loop form: resumed after a deferred field it runs `_next()` = a fresh loop -/
def applyContL : ApplyCont
  | .serialCb path key resolved args, .ok (.data v), s => serialLoop path (resolved ++ [(key, v)]) args s
  | k, r, s => applyCont k r s

/-- `execute` with the loop form for mutations -/
def execute (op : Op) (s : ExecSt) : Res Node × ExecSt :=
  let r := match op.kind with
    | .query => executeFields [] op.fields s
    | .mutation => serialLoop [] [] op.fields s
  match r with
  | (.exc e, s1) => (.exc e, s1)
  | (.ok n, s1) => mapValue applyContL (unwrapValue n) .onFinish s1

def stepSched (top : Node) (s : ExecSt) (i : Nat) : Node × ExecSt :=
  let j := i % s.queue.length
  match s.queue[j]? with
  | none => (top, s)
  | some t => deliver applyContL t top { s with queue := removeAt s.queue j }

def runSched (top : Node) (s : ExecSt) (sizes : List Nat) : List Nat → RunOut
  | [] => ⟨top, s, sizes⟩
  | i :: rest =>
    if top.finished || s.queue.isEmpty then ⟨top, s, sizes⟩
    else
      let (top', s') := stepSched top s i
      runSched top' s' (sizes ++ [s.queue.length]) rest

def runAsync (op : Op) (schedule : List Nat) : Result :=
  match execute op {} with
  | (.exc e, s) => ⟨.failed e, s.trace, []⟩
  | (.ok top, s) =>
    let r := runSched top s [] schedule
    ⟨outcomeOf r.top r.st, r.st.trace, r.sizes⟩

end PyGql.AsyncExec.Loop
